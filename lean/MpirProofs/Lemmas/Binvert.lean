/- mpn_binvert (Mpir/Model/Binvert.lean).  The invariant `Inv` says that `rp[0..rn)` inverts `U` modulo `B^rn` and that every
   access so far was in range.  One Newton iteration keeps it: what it does to the areas is `step_areas` (over
   Lemmas/Area.lean), the new value comes from the wrap-around product by `wrap_recover` and `newton_update`
   (`step_val`).  The base case (through the Hensel loop of mpn_sb_bdiv_q, `sbLoop_spec`) establishes it, the loop over the
   reversed schedule carries it to the full size; last, `sizes[]` has at most NPOWS entries. -/

import Mpir.Model.Binvert
import MpirProofs.Lemmas.Base
import Mathlib.Tactic.Ring
import Mathlib.Tactic.Linarith
import Mathlib.Data.Nat.ModEq
import Mathlib.Data.Int.ModEq
import MpirProofs.Lemmas.Arith
import MpirProofs.Lemmas.Area
import MpirProofs.Lemmas.Powm
import MpirProofs.Lemmas.Mulmod2expm1Rec
import Mathlib.Tactic.LinearCombination
import Mathlib.Tactic.IntervalCases
import Mathlib.Tactic.NormNum

section
namespace Mpir.Binvert
open Mpir Mpir.Powm Mpir.PowmL

/-! ### the schedule -/

/-- `sizes[]` as pushed from `cur` on: every entry is at or above the threshold, each is `(previous + 1) >> 1`,
    and the base size `rn` is the first value below the threshold. -/
def ChainOk (thr : Nat) : Nat → List Nat → Nat → Prop
  | cur, [], rn => rn = cur ∧ cur < thr
  | cur, s :: rest, rn => s = cur ∧ thr ≤ cur ∧ ChainOk thr ((cur + 1) / 2) rest rn

theorem aboveThr_iff (size thr : Nat) (h : 1 ≤ thr) : aboveThr size thr = true ↔ thr ≤ size := by
  unfold aboveThr
  have : (thr == 0) = false := by simp; omega
  simp [this]

theorem schedule_chain (thr : Nat) (hthr : 2 ≤ thr) : ∀ (f rn : Nat), 1 ≤ rn → rn ≤ f →
    (schedule thr f rn).2.2 = true ∧ ChainOk thr rn (schedule thr f rn).1 (schedule thr f rn).2.1 ∧
    1 ≤ (schedule thr f rn).2.1 ∧ (schedule thr f rn).2.1 ≤ rn
  | 0, rn, h1, h2 => by omega
  | f + 1, rn, h1, h2 => by
    unfold schedule
    by_cases ha : aboveThr rn thr = true
    · rw [if_pos ha]
      have hge := (aboveThr_iff rn thr (by omega)).mp ha
      obtain ⟨i1, i2, i3, i4⟩ := schedule_chain thr hthr f ((rn + 1) / 2) (by omega) (by omega)
      refine ⟨i1, ⟨rfl, hge, i2⟩, i3, by simp only; omega⟩
    · rw [if_neg ha]
      have : ¬ thr ≤ rn := fun h => ha ((aboveThr_iff rn thr (by omega)).mpr h)
      exact ⟨rfl, ⟨rfl, by omega⟩, h1, le_refl _⟩

end Mpir.Binvert
end

/-! ### the arithmetic of one Newton step through the wrap-around product (no limbs here) -/

section
namespace Mpir.Binvert

/-- The product `P = 1 + X·a` (`a = B^rn`; `U·R ≡ 1 mod a`) is known only modulo `a·c − 1` (`a·c = B^m`), as a
    representative `Y ∈ [1, a·c − 1]`.  Because `P < a·c·(a − 1)`, the part `H = ⌊X/c⌋` that wrapped is below `a − 1`
    and lands on the low limbs `1, 0, …, 0` without a carry: the limbs of `Y` from `a` on are those of `X mod c`. -/
theorem wrap_recover (a c X Y : Nat) (ha : 2 ≤ a) (hc : 1 ≤ c)
    (hP : 1 + X * a < a * c * (a - 1)) (hY : Y ≤ a * c - 1) (hY0 : Y ≠ 0)
    (hmod : Y % (a * c - 1) = (1 + X * a) % (a * c - 1)) : Y / a = X % c := by
  obtain ⟨M, hM⟩ : ∃ M, a * c = M + 1 := ⟨a * c - 1, by have : 0 < a * c := Nat.mul_pos (by omega) hc; omega⟩
  obtain ⟨a', rfl⟩ : ∃ a', a = a' + 2 := ⟨a - 2, by omega⟩
  have hX := Nat.div_add_mod X c
  have hXlc : X % c < c := Nat.mod_lt _ hc
  generalize X / c = H at *
  generalize X % c = Xl at *
  subst hX
  have e1 : a' + 2 - 1 = a' + 1 := by omega
  rw [e1] at hP
  have hXa : (c * H + Xl) * (a' + 2) = H * ((a' + 2) * c) + Xl * (a' + 2) := by ring
  have hHlt : H < a' + 1 := by
    by_contra hge; rw [Nat.not_lt] at hge
    have h1 : (a' + 2) * c * (a' + 1) ≤ (a' + 2) * c * H := Nat.mul_le_mul_left _ hge
    rw [hXa, Nat.mul_comm H] at hP
    omega
  have hS : 1 + (c * H + Xl) * (a' + 2) = (1 + H + Xl * (a' + 2)) + H * M := by
    rw [hXa, hM]; ring
  have hSle : 1 + H + Xl * (a' + 2) ≤ M := by
    have : (Xl + 1) * (a' + 2) ≤ c * (a' + 2) := Nat.mul_le_mul_right _ hXlc
    rw [Nat.add_mul, Nat.one_mul, Nat.mul_comm c] at this
    omega
  have hM' : (a' + 2) * c - 1 = M := by omega
  rw [hM'] at hY hmod
  rw [hS, Nat.add_mul_mod_self_right] at hmod
  have hYS : Y = 1 + H + Xl * (a' + 2) := by
    obtain ⟨e, he, h⟩ := Powm.rep_cases M Y _ (by omega) hY (by omega) (by omega) hmod
    interval_cases e <;> omega
  rw [hYS, Nat.add_mul_div_right _ _ (by omega), Nat.div_eq_of_lt (by omega)]; simp

/-- from precision `a` to `a·b` for `b ∣ a` -/
theorem newton_lift (a b : Int) (hba : b ∣ a) (R U R' : Int) (h : R * U ≡ 1 [ZMOD a])
    (hR' : R' ≡ R * (2 - U * R) [ZMOD a * b]) : R' * U ≡ 1 [ZMOD a * b] :=
  (hR'.mul_right U).trans ((newton_step a R U h).of_dvd (mul_dvd_mul_left a hba))

theorem newton_update (a b d U U' R X T : Nat) (hb : 2 ≤ b) (hab : a = b * d) (hd : 1 ≤ d)
    (hRU : (R * U) % a = 1) (hU' : U' = U % (a * b)) (hP : U' * R = 1 + X * a)
    (hT : T = (b - (R % b * (X % b)) % b) % b) : ((R + a * T) * U) % (a * b) = 1 := by
  have hN : 1 < a * b := by
    have ha : 2 ≤ a := by rw [hab]; exact le_trans hb (Nat.le_mul_of_pos_right _ hd)
    have := Nat.mul_le_mul ha hb
    omega
  have ha1 : 1 < a := by rw [hab]; exact lt_of_lt_of_le hb (Nat.le_mul_of_pos_right _ hd)
  have h1 : (R : Int) * U ≡ 1 [ZMOD (a : Int)] := by
    have : R * U ≡ 1 [MOD a] := by unfold Nat.ModEq; rw [hRU, Nat.mod_eq_of_lt ha1]
    exact_mod_cast Int.natCast_modEq_iff.mpr this
  have hTz : (T : Int) ≡ -(R * X) [ZMOD (b : Int)] := by
    have : T + R * X ≡ 0 [MOD b] := by
      have hw : (R % b * (X % b)) % b ≡ R * X [MOD b] :=
        (Nat.mod_modEq _ _).trans ((Nat.mod_modEq R b).mul (Nat.mod_modEq X b))
      have hlt : (R % b * (X % b)) % b < b := Nat.mod_lt _ (by omega)
      have hT' : T ≡ b - (R % b * (X % b)) % b [MOD b] := hT ▸ Nat.mod_modEq _ _
      have := hT'.add hw.symm
      rw [show b - (R % b * (X % b)) % b + (R % b * (X % b)) % b = b by omega] at this
      exact this.trans (by unfold Nat.ModEq; simp)
    have h2 : ((T + R * X : Nat) : Int) ≡ ((0 : Nat) : Int) [ZMOD (b : Int)] := Int.natCast_modEq_iff.mpr this
    push_cast at h2
    exact Int.ModEq.add_right_cancel' ((R : Int) * X) (by simpa using h2)
  have hU : (U : Int) ≡ U' [ZMOD (a : Int) * b] := by
    rw [hU']; exact_mod_cast (Int.natCast_modEq_iff.mpr (Nat.mod_modEq U (a * b))).symm
  have hPz : (U' : Int) * R = 1 + X * a := by exact_mod_cast hP
  have hR' : ((R + a * T : Nat) : Int) ≡ R * (2 - U * R) [ZMOD (a : Int) * b] := by
    have e1 : (R : Int) * (2 - U' * R) = R + a * (-(R * X)) := by rw [hPz]; ring
    have e2 : ((R + a * T : Nat) : Int) ≡ R + a * (-(R * X)) [ZMOD (a : Int) * b] := by
      push_cast
      exact (Int.ModEq.mul_left' hTz).add_left _
    exact e2.trans (e1 ▸ ((hU.symm.mul_right _).sub_left 2).mul_left _)
  have := newton_lift a b ⟨d, by exact_mod_cast hab⟩ R U _ h1 hR'
  have h3 : (R + a * T) * U ≡ 1 [MOD a * b] := by
    apply Int.natCast_modEq_iff.mp; push_cast; push_cast at this; exact this
  unfold Nat.ModEq at h3
  rw [h3, Nat.mod_eq_of_lt hN]


end Mpir.Binvert
end

/-! ### one Newton iteration -/

section
namespace Mpir.Binvert
open Mpir Mpir.Powm Mpir.PowmL Mpir.Mm1

def Inv (n itch U : Nat) (s : St) (rn : Nat) : Prop :=
  s.ok = true ∧ s.rp.length = n ∧ s.xp.length = itch ∧ Limbs (s.rp.take rn) ∧ (val (s.rp.take rn) * U) % B ^ rn = 1

theorem neg_n_val (t : List Nat) (ht : Limbs t) :
    Limbs (neg_n t).1 ∧ (neg_n t).1.length = t.length ∧ val (neg_n t).1 = (B ^ t.length - val t) % B ^ t.length := by
  obtain ⟨hv, hc, hl, hn⟩ := neg_n_val' t ht
  have hlt := val_lt t ht
  refine ⟨hl, hn, ?_⟩
  rw [hc] at hv
  split at hv
  · rename_i h0; rw [h0] at hv ⊢; simpa using hv
  · rw [Nat.mod_eq_of_lt (by omega)]; omega

/-- the arithmetic of the step on values: from the residue `Y` of `U'·R` modulo `B^m − 1` to the new inverse -/
theorem step_val (U R Y rn newrn m : Nat) (h1 : 1 ≤ rn) (h2 : rn < newrn) (h3 : newrn ≤ 2 * rn)
    (hm1 : newrn ≤ m) (hR : R < B ^ rn) (hRU : (R * U) % B ^ rn = 1)
    (hY : Y < B ^ m) (hmod : Y % (B ^ m - 1) = (U % B ^ newrn * R) % (B ^ m - 1))
    (h0 : Y = 0 ↔ U % B ^ newrn * R = 0) :
    ((R + B ^ rn * ((B ^ (newrn - rn) - (R % B ^ (newrn - rn) * (Y / B ^ rn % B ^ (newrn - rn))) % B ^ (newrn - rn))
      % B ^ (newrn - rn))) * U) % B ^ newrn = 1 := by
  have ha : 2 ≤ B ^ rn := two_le_Bpow rn h1
  have hk : 2 ≤ B ^ (newrn - rn) := two_le_Bpow _ (by omega)
  have hc : 1 ≤ B ^ (m - rn) := Nat.pow_pos B_pos
  have hac : B ^ rn * B ^ (m - rn) = B ^ m := by rw [← pow_add]; congr 1; omega
  have hab : B ^ rn * B ^ (newrn - rn) = B ^ newrn := by rw [← pow_add]; congr 1; omega
  have hbd : B ^ rn = B ^ (newrn - rn) * B ^ (rn - (newrn - rn)) := by rw [← pow_add]; congr 1; omega
  have hkc : B ^ (newrn - rn) ∣ B ^ (m - rn) := pow_dvd_pow B (by omega)
  set U' := U % B ^ newrn with hU'
  have hP1 : (U' * R) % B ^ rn = 1 := by
    have : U' % B ^ rn = U % B ^ rn := Nat.mod_mod_of_dvd U (pow_dvd_pow B (by omega))
    rw [Nat.mul_mod, this, ← Nat.mul_mod, Nat.mul_comm]; exact hRU
  have hPX : U' * R = 1 + (U' * R / B ^ rn) * B ^ rn := by
    have := Nat.mod_add_div (U' * R) (B ^ rn)
    rw [hP1] at this; rw [Nat.mul_comm (U' * R / B ^ rn)]; exact this.symm
  set X := U' * R / B ^ rn with hX
  have hU'lt : U' < B ^ newrn := Nat.mod_lt _ (Nat.pow_pos B_pos)
  have hPlt : 1 + X * B ^ rn < B ^ rn * B ^ (m - rn) * (B ^ rn - 1) := by
    rw [← hPX, hac]
    have h5 : B ^ newrn ≤ B ^ m := Nat.pow_le_pow_right B_pos hm1
    have h6 : U' * R ≤ U' * (B ^ rn - 1) := Nat.mul_le_mul_left _ (by omega)
    have h7 : U' * (B ^ rn - 1) < B ^ m * (B ^ rn - 1) := Nat.mul_lt_mul_of_pos_right (by omega) (by omega)
    omega
  have hYne : Y ≠ 0 := by
    intro h; have := h0.mp h; rw [hPX] at this; omega
  have hw := Mpir.Binvert.wrap_recover (B ^ rn) (B ^ (m - rn)) X Y ha hc hPlt (by rw [hac]; omega) hYne
    (by rw [hac, ← hPX]; exact hmod)
  have hx : Y / B ^ rn % B ^ (newrn - rn) = X % B ^ (newrn - rn) := by
    rw [hw, Nat.mod_mod_of_dvd _ hkc]
  rw [hx, ← hab]
  exact Mpir.Binvert.newton_update (B ^ rn) (B ^ (newrn - rn)) (B ^ (rn - (newrn - rn))) U U' R X _ hk hbd (Nat.pow_pos B_pos)
    hRU (by rw [hab]) hPX rfl

/-- for any product `p` of `m = nextSize newrn` limbs, with `k = newrn − rn`: `rp[0..newrn)` = the old `rp[0..rn)` followed by `−(rp[0..k) · p[rn..newrn)) mod B^k` -/
theorem step_areas (mthr : Nat) (pp1 : List Nat → List Nat → Nat → Nat → List Nat × Nat)
    (nextSize : Nat → Nat) (jk : Nat → Nat) (up : List Nat) (last : Bool) (s : St) (rn newrn n itch : Nat)
    (hlen : up.length = n) (hok : s.ok = true) (hrl : s.rp.length = n) (hxl : s.xp.length = itch)
    (h1 : 1 ≤ rn) (h2 : rn < newrn) (h3 : newrn ≤ 2 * rn) (h4 : newrn ≤ n)
    (hm1 : newrn ≤ nextSize newrn) (hm2 : nextSize newrn - newrn < rn)
    (hm3 : nextSize newrn + (5 * nextSize newrn + 220) ≤ itch)
    (hl : last = false → 2 * newrn - rn ≤ n)
    (hp2 : (bnm1 mthr pp1 (nextSize newrn) (up.take newrn) (s.rp.take rn)).2 = true)
    (hpl : (bnm1 mthr pp1 (nextSize newrn) (up.take newrn) (s.rp.take rn)).1.length = nextSize newrn) :
    (step mthr pp1 nextSize jk up last s rn newrn).ok = true ∧
    (step mthr pp1 nextSize jk up last s rn newrn).rp.length = n ∧
    (step mthr pp1 nextSize jk up last s rn newrn).xp.length = itch ∧
    (step mthr pp1 nextSize jk up last s rn newrn).rp.take newrn = s.rp.take rn ++
      (neg_n (toLimbs (newrn - rn) (val (s.rp.take (newrn - rn)) *
        val (((bnm1 mthr pp1 (nextSize newrn) (up.take newrn) (s.rp.take rn)).1.drop rn).take (newrn - rn))))).1 := by
  have hu : load up 0 newrn = (up.take newrn, true) := by rw [load_eq _ _ _ (by omega)]; simp
  have hr : load s.rp 0 rn = (s.rp.take rn, true) := by rw [load_eq _ _ _ (by omega)]; simp
  have hr2 : load s.rp 0 (newrn - rn) = (s.rp.take (newrn - rn), true) := by rw [load_eq _ _ _ (by omega)]; simp
  unfold step
  simp only [hu, hr, hr2]
  generalize bnm1 mthr pp1 (nextSize newrn) (up.take newrn) (s.rp.take rn) = p at *
  generalize nextSize newrn = m at *
  -- the limbs X = xp[rn .. newrn) are those of the product: the `mpn_sub_1` wrote above them
  have hx : (load (store (store s.xp 0 p.1).1 m (sub_1 (load (store s.xp 0 p.1).1 0 (rn - (m - newrn))).1 1).1).1 rn (newrn - rn)).1 =
      (p.1.drop rn).take (newrn - rn) := by
    rw [load_store_below _ _ _ _ _ (by omega), load_eq _ _ _ (by rw [store_length]; omega)]
    exact drop_take_of_take_eq m rn _ (by
      have := store_take_hi s.xp 0 p.1 (by omega)
      rw [hpl] at this; rw [List.take_of_length_le (l := p.1) (by omega)]; simpa using this) (by omega)
  generalize hT : toLimbs (newrn - rn) (val (s.rp.take (newrn - rn)) * val ((p.1.drop rn).take (newrn - rn))) = T0
  have hT0 : T0.length = newrn - rn := by rw [← hT, toLimbs_length]
  have hNl : (neg_n T0).1.length = newrn - rn := by rw [(neg_n_val T0 (hT ▸ Limbs_toLimbs _ _)).2.1, hT0]
  have hprod : (T0 ++ toLimbs (newrn - rn) (jk newrn)).length = 2 * (newrn - rn) := by
    rw [List.length_append, toLimbs_length, hT0]; omega
  have hpt : (T0 ++ toLimbs (newrn - rn) (jk newrn)).take (newrn - rn) = T0 := by
    rw [List.take_append_of_le_length (by omega), List.take_of_length_le (by omega)]
  cases last with
  | true =>
    simp only [if_true, hx, hT]
    rw [load_store_in _ newrn _ _ (by simp only [store_length]; omega) (by omega), hpt]
    refine ⟨?_, by rw [store_length, hrl], by simp only [store_length, hxl], ?_⟩
    · simp only [hok, hp2, store_ok, load_ok, store_length, load_length, sub_1_length, hpl, hxl, hrl, hprod, hNl,
        Bool.and_eq_true, decide_eq_true_eq, Bool.true_and, and_true]
      omega
    · have := store_take_hi s.rp rn (neg_n T0).1 (by omega)
      rwa [hNl, show rn + (newrn - rn) = newrn by omega] at this
  | false =>
    have hl' := hl rfl
    simp only [Bool.false_eq_true, if_false, hx, hT]
    rw [load_store_in _ rn (T0 ++ _) _ (by omega) (by omega), hpt]
    refine ⟨?_, by rw [store_length, store_length, hrl], by simp only [store_length, hxl], ?_⟩
    · simp only [hok, hp2, store_ok, load_ok, store_length, load_length, sub_1_length, hpl, hxl, hrl, hprod, hNl,
        Bool.and_eq_true, decide_eq_true_eq, Bool.true_and, and_true]
      omega
    · have := store_take_hi (store s.rp rn (T0 ++ toLimbs (newrn - rn) (jk newrn))).1 rn (neg_n T0).1
        (by rw [store_length]; omega)
      rwa [hNl, show rn + (newrn - rn) = newrn by omega, store_take_lo _ _ _ (by omega) rn (le_refl _)] at this

/-- both the loop body and the last iteration -/
theorem step_inv (mthr : Nat) (pp1 : List Nat → List Nat → Nat → Nat → List Nat × Nat) (hpp1 : P1Spec pp1)
    (nextSize : Nat → Nat) (jk : Nat → Nat) (up : List Nat) (last : Bool) (s : St) (rn newrn n itch : Nat)
    (hup : Limbs up) (hlen : up.length = n) (hI : Inv n itch (val up) s rn)
    (h1 : 1 ≤ rn) (h2 : rn < newrn) (h3 : newrn ≤ 2 * rn) (h4 : newrn ≤ n)
    (hm1 : newrn ≤ nextSize newrn) (hm2 : nextSize newrn - newrn < rn)
    (hm3 : nextSize newrn + (5 * nextSize newrn + 220) ≤ itch)
    (hl : last = false → 2 * newrn - rn ≤ n) :
    Inv n itch (val up) (step mthr pp1 nextSize jk up last s rn newrn) newrn := by
  obtain ⟨hok, hrl, hxl, hRL, hRU⟩ := hI
  have hRlen : (s.rp.take rn).length = rn := by simp; omega
  have hulen : (up.take newrn).length = newrn := by simp; omega
  obtain ⟨p2, pL, plen, pmod, p0, _⟩ := bnm1_spec mthr pp1 hpp1 (nextSize newrn) (up.take newrn) (s.rp.take rn)
    (Limbs_take hup _) hRL (by omega) (by omega) (by omega)
  rw [hulen, hRlen, Nat.min_eq_left (by omega)] at plen
  obtain ⟨a1, a2, a3, a4⟩ := step_areas mthr pp1 nextSize jk up last s rn newrn n itch hlen hok hrl hxl h1 h2 h3 h4
    hm1 hm2 hm3 hl p2 plen
  refine ⟨a1, a2, a3, ?_⟩
  rw [a4]
  generalize bnm1 mthr pp1 (nextSize newrn) (up.take newrn) (s.rp.take rn) = p at *
  have hRlt := val_lt _ hRL
  rw [hRlen] at hRlt
  have hYlt := val_lt _ pL
  rw [plen] at hYlt
  rw [val_take_eq_mod _ hup] at pmod p0
  have hfinal := step_val (val up) (val (s.rp.take rn)) (val p.1) rn newrn _ h1 h2 h3 hm1 hRlt hRU hYlt pmod p0
  rw [show val (s.rp.take (newrn - rn)) = val (s.rp.take rn) % B ^ (newrn - rn) by
      rw [← val_take_eq_mod _ hRL, List.take_take, Nat.min_eq_left (by omega)],
    show val ((p.1.drop rn).take (newrn - rn)) = val p.1 / B ^ rn % B ^ (newrn - rn) by
      rw [← val_drop_eq_div _ pL, ← val_take_eq_mod _ (Limbs_drop pL _)]]
  obtain ⟨NL, -, Nv⟩ := neg_n_val _ (Limbs_toLimbs (newrn - rn)
    (val (s.rp.take rn) % B ^ (newrn - rn) * (val p.1 / B ^ rn % B ^ (newrn - rn))))
  rw [toLimbs_length, val_toLimbs] at Nv
  rw [← Nv] at hfinal
  rw [val_append, hRlen]
  exact ⟨Limbs_append.mpr ⟨hRL, NL⟩, hfinal⟩


end Mpir.Binvert
end

section
namespace Mpir.Binvert
open Mpir Mpir.Powm Mpir.PowmL Mpir.Mm1

/-! ### the schedule read backwards -/

/-- `l` is the ascending chain of precisions from the base size `rn` up to `top`: each is `(next + 1) >> 1` -/
def Asc : Nat → List Nat → Nat → Prop
  | rn, [], top => rn = top
  | rn, x :: rest, top => rn = (x + 1) / 2 ∧ 2 ≤ x ∧ Asc x rest top

theorem Asc_snoc : ∀ (l : List Nat) (rn mid x : Nat), Asc rn l mid → mid = (x + 1) / 2 → 2 ≤ x → Asc rn (l ++ [x]) x
  | [], rn, mid, x, h, hm, hx => by
    simp only [Asc] at h; subst h
    exact ⟨hm, hx, rfl⟩
  | y :: l, rn, mid, x, h, hm, hx => by
    obtain ⟨a, b, c⟩ := h
    exact ⟨a, b, Asc_snoc l y mid x c hm hx⟩

theorem Asc_of_chain (thr : Nat) (hthr : 2 ≤ thr) : ∀ (sizes : List Nat) (cur rn : Nat), ChainOk thr cur sizes rn →
    Asc rn sizes.reverse cur
  | [], cur, rn, h => h.1
  | s :: rest, cur, rn, h => by
    obtain ⟨a, b, c⟩ := h
    subst a
    rw [List.reverse_cons]
    exact Asc_snoc _ rn _ s (Asc_of_chain thr hthr rest _ rn c) rfl (by omega)

theorem Asc_le : ∀ (l : List Nat) (rn top : Nat), Asc rn l top → rn ≤ top
  | [], rn, top, h => by simp only [Asc] at h; omega
  | x :: l, rn, top, h => by
    obtain ⟨a, b, c⟩ := h
    have := Asc_le l x top c
    omega

/-- binvert.c:89-123 -/
theorem newton_inv (mthr : Nat) (pp1 : List Nat → List Nat → Nat → Nat → List Nat × Nat) (hpp1 : P1Spec pp1)
    (nextSize : Nat → Nat) (jk : Nat → Nat) (up : List Nat) (n itch : Nat) (hup : Limbs up) (hlen : up.length = n)
    (hns : ∀ k, 2 ≤ k → k ≤ n → k ≤ nextSize k ∧ nextSize k - k < (k + 1) / 2 ∧
      nextSize k + (5 * nextSize k + 220) ≤ itch) :
    ∀ (l : List Nat) (rn : Nat) (s : St), Asc rn l n → rn < n → 1 ≤ rn → Inv n itch (val up) s rn →
      Inv n itch (val up) (newton mthr pp1 nextSize jk up n l rn s) n
  | [], rn, s, h, hlt, _, _ => by simp only [Asc] at h; omega
  | x :: rest, rn, s, h, hlt, h1, hI => by
    obtain ⟨a, b, c⟩ := h
    have hxn := Asc_le rest x n c
    obtain ⟨n1, n2, n3⟩ := hns x b hxn
    unfold newton
    by_cases hx : x < n
    · rw [if_pos hx]
      have hl : 2 * x - rn ≤ n := by
        cases rest with
        | nil => simp only [Asc] at c; omega
        | cons y r' =>
          obtain ⟨a', b', c'⟩ := c
          have := Asc_le r' y n c'
          omega
      have hS := step_inv mthr pp1 hpp1 nextSize jk up false s rn x n itch hup hlen hI h1 (by omega) (by omega) hxn
        n1 (by omega) n3 (fun _ => hl)
      exact newton_inv mthr pp1 hpp1 nextSize jk up n itch hup hlen hns rest x _ c hx (by omega) hS
    · rw [if_neg hx]
      have hxe : x = n := by omega
      subst hxe
      exact step_inv mthr pp1 hpp1 nextSize jk up true s rn x x itch hup hlen hI h1 (by omega) (by omega) (le_refl _)
        n1 (by omega) n3 (fun h => absurd h (by decide))

/-! ### the base case -/

/-- mpn_sb_bdiv_q for nn = dn (the Hensel loop, sb_bdiv_q.c:74-88) -/
theorem sbLoop_spec (dinv : Nat) (dp : List Nat) (hdp : Limbs dp) (hd : (dinv * dp.headD 0) % B = 1) :
    ∀ (i : Nat) (np : List Nat) (w0 w1 : Nat), Limbs np → np.length = i → i ≤ dp.length →
      Limbs (sbLoop dinv dp i np w0 w1).1 ∧ (sbLoop dinv dp i np w0 w1).1.length = i ∧
      (val (sbLoop dinv dp i np w0 w1).1 * val dp) % B ^ i = val np % B ^ i
  | 0, np, w0, w1, _, _, _ => by simp [sbLoop, Limbs_nil, Nat.mod_one]
  | i + 1, np, w0, w1, hnp, hl, hi => by
    have hq : (dinv * np.headD 0) % B < B := Nat.mod_lt _ B_pos
    have hNt : np.take (i + 1) = np := List.take_of_length_le (by omega)
    have hDL : Limbs (dp.take (i + 1)) := Limbs_take hdp _
    have hDlen : (dp.take (i + 1)).length = i + 1 := by simp; omega
    have hDv : val (dp.take (i + 1)) = val dp % B ^ (i + 1) := val_take_eq_mod _ hdp _
    have hD0 : (dp.take (i + 1)).headD 0 = dp.headD 0 := by cases dp <;> simp
    have e : sbLoop dinv dp (i + 1) np w0 w1 =
        ((dinv * np.headD 0) % B ::
          (sbLoop dinv dp i (submul_1 (np.take (i + 1)) (dp.take (i + 1)) ((dinv * np.headD 0) % B)).1.tail
            ((w0 + (submul_1 (np.take (i + 1)) (dp.take (i + 1)) ((dinv * np.headD 0) % B)).2) % B)
            ((w1 + (w0 + (submul_1 (np.take (i + 1)) (dp.take (i + 1)) ((dinv * np.headD 0) % B)).2) / B) % B)).1,
          (sbLoop dinv dp i (submul_1 (np.take (i + 1)) (dp.take (i + 1)) ((dinv * np.headD 0) % B)).1.tail
            ((w0 + (submul_1 (np.take (i + 1)) (dp.take (i + 1)) ((dinv * np.headD 0) % B)).2) % B)
            ((w1 + (w0 + (submul_1 (np.take (i + 1)) (dp.take (i + 1)) ((dinv * np.headD 0) % B)).2) / B) % B)).2) := rfl
    rw [e, hNt]
    obtain ⟨s1, s2, s3, s4⟩ := submul1C_val _ hq np (dp.take (i + 1)) 0 hnp hDL (by omega) B_pos
    rw [hDlen] at s1 s4
    have hsm : submul_1 np (dp.take (i + 1)) ((dinv * np.headD 0) % B) =
      submul1C np (dp.take (i + 1)) ((dinv * np.headD 0) % B) 0 := rfl
    rw [hsm]
    generalize submul1C np (dp.take (i + 1)) ((dinv * np.headD 0) % B) 0 = sm at *
    generalize (w0 + sm.2) % B = w0' 
    generalize (w1 + (w0 + sm.2) / B) % B = w1'
    obtain ⟨o0, ot, hsm1⟩ : ∃ o0 ot, sm.1 = o0 :: ot := by
      cases h : sm.1 with
      | nil => rw [h] at s4; simp at s4
      | cons a b => exact ⟨a, b, rfl⟩
    obtain ⟨n0, nt, hnp1⟩ : ∃ n0 nt, np = n0 :: nt := by
      cases np with
      | nil => simp at hl
      | cons a b => exact ⟨a, b, rfl⟩
    obtain ⟨d0, dt, hdp1⟩ : ∃ d0 dt, dp.take (i + 1) = d0 :: dt := by
      cases h : dp.take (i + 1) with
      | nil => rw [h] at hDlen; simp at hDlen
      | cons a b => exact ⟨a, b, rfl⟩
    rw [hsm1] at s1 s3 s4
    rw [hsm1]
    rw [hdp1] at s1 hD0 hDv
    subst hnp1
    simp only [List.headD_cons, List.tail_cons, val_cons] at *
    obtain ⟨ho0, hot⟩ := Limbs_cons.mp s3
    obtain ⟨ih1, ih2, ih3⟩ := sbLoop_spec dinv dp hdp hd i ot w0' w1' hot (by simpa using s4) (by omega)
    generalize (sbLoop dinv dp i ot w0' w1').1 = Q' at *
    rw [← hD0] at hd
    -- the cancelled limb is zero
    have hz : o0 = 0 := by
      have h1 : (o0 + d0 * ((dinv * n0) % B)) % B = n0 % B := by
        have : o0 + d0 * ((dinv * n0) % B) + B * (val ot + val dt * ((dinv * n0) % B)) = n0 + B * (val nt + B ^ i * sm.2) := by
          rw [pow_succ] at s1; zify at s1 ⊢; linear_combination s1
        have h2 := congrArg (· % B) this
        simp only [Nat.add_mul_mod_self_left] at h2
        exact h2
      have h2 : (d0 * ((dinv * n0) % B)) % B = n0 % B := by
        rw [Nat.mul_mod, Nat.mod_mod, ← Nat.mul_mod, ← Nat.mul_assoc, Nat.mul_comm d0 dinv, Nat.mul_mod, hd, Nat.one_mul,
          Nat.mod_mod]
      have h3 : o0 % B = 0 := by
        have : (o0 + d0 * ((dinv * n0) % B)) % B = (0 + d0 * ((dinv * n0) % B)) % B := by rw [h1, Nat.zero_add, h2]
        have := Nat.ModEq.add_right_cancel' _ this
        simpa [Nat.ModEq] using this
      rw [Nat.mod_eq_of_lt ho0] at h3; exact h3
    subst hz
    refine ⟨Limbs_cons.mpr ⟨hq, ih1⟩, by simp [ih2], ?_⟩
    have hdiv := Nat.mod_add_div (val dp) (B ^ (i + 1))
    rw [← hDv] at hdiv
    generalize val dp / B ^ (i + 1) = ed at hdiv
    have ihm : (val Q' * val dp) ≡ val ot [MOD B ^ i] := by
      unfold Nat.ModEq; rw [ih3]
    obtain ⟨z, hz⟩ := (Int.modEq_iff_dvd.mp (Int.natCast_modEq_iff.mpr ihm))
    have goal : (((dinv * n0) % B + B * val Q') * val dp) ≡ (n0 + B * val nt) [MOD B ^ (i + 1)] := by
      apply Int.natCast_modEq_iff.mp
      apply Int.modEq_iff_dvd.mpr
      refine ⟨-(sm.2 : ℤ) - ((dinv * n0) % B : ℕ) * ed + z, ?_⟩
      have s1z : ((0 : ℕ) : ℤ) + B * (val ot : ℤ) + ((d0 : ℤ) + B * val dt) * ((dinv * n0) % B : ℕ) + 0 =
          n0 + B * val nt + (B : ℤ) ^ (i + 1) * sm.2 := by exact_mod_cast s1
      have hdz : ((d0 : ℤ) + B * val dt) + (B : ℤ) ^ (i + 1) * ed = val dp := by exact_mod_cast hdiv
      push_cast at hz s1z ⊢
      rw [pow_succ]
      rw [pow_succ] at s1z hdz
      linear_combination (-1 : ℤ) * s1z + ((dinv : ℤ) * n0 % B) * hdz + (B : ℤ) * hz
    exact goal

theorem mul_mod_lift (R U M : Nat) (h : (R * (U % M)) % M = 1) : (R * U) % M = 1 := by
  rw [Nat.mul_mod, Nat.mod_mod] at h
  rw [Nat.mul_mod]; exact h

theorem val_one_zeros (k : Nat) : val (1 :: zeros k) = 1 ∧ Limbs (1 :: zeros k) :=
  ⟨by rw [val_cons, val_zeros]; simp, Limbs_cons.mpr ⟨by rw [B_eq]; norm_num, Limbs_zeros k⟩⟩

/-- binvert.c:73-85 -/
theorem base_inv (dcThr : Nat) (jk : Nat → Nat) (up : List Nat) (rn : Nat) (rp0 xp0 : List Nat) (n itch : Nat)
    (hup : Limbs up) (hlen : up.length = n) (hodd : up.headD 0 % 2 = 1) (hrn1 : 1 ≤ rn) (hrn : rn ≤ n)
    (hrp : rp0.length = n) (hxp : xp0.length = itch) (hit : rn + 2 ≤ itch) (hdc : 6 ≤ dcThr) :
    Inv n itch (val up) (base dcThr jk up rn rp0 xp0) rn := by
  have hdp : load up 0 rn = (up.take rn, true) := by rw [load_eq _ _ _ (by omega)]; simp
  have huL : Limbs (up.take rn) := Limbs_take hup _
  have hulen : (up.take rn).length = rn := by simp; omega
  have huv : val up % B ^ rn = val (up.take rn) := (val_take_eq_mod _ hup _).symm
  have hu0 : (up.take rn).headD 0 = up.headD 0 := by
    cases up with
    | nil => simp
    | cons a b => cases rn with
      | zero => omega
      | succ j => simp
  have h1len : (1 :: zeros (rn - 1)).length = rn := by simp [zeros]; omega
  unfold base
  simp only [hdp]
  by_cases hb : aboveThr rn dcThr = true
  · -- mpn_dc_bdiv_q by its contract
    simp only [hb, Bool.not_true, Bool.false_eq_true, if_false]
    have hge := (aboveThr_iff rn dcThr (by omega)).mp hb
    have r1take := store_take_zero rp0 (toLimbs rn (binvert (val (up.take rn)) rn)) (by rw [toLimbs_length]; omega)
    rw [toLimbs_length] at r1take
    refine ⟨?_, by rw [store_length, hrp], by simp only [store_length, hxp], ?_, ?_⟩
    · simp only [store_ok, store_length, toLimbs_length, h1len, hrp, hxp, Bool.and_eq_true, decide_eq_true_eq, and_true]
      omega
    · rw [r1take]; exact Limbs_toLimbs _ _
    · rw [r1take, val_toLimbs]
      have hs := binvert_spec (val (up.take rn)) rn hrn1 (by rw [val_mod_two, hu0]; exact hodd)
      apply mul_mod_lift
      rw [huv, Nat.mul_mod, Nat.mod_mod, ← Nat.mul_mod]; exact hs
  · -- mpn_sb_bdiv_q, limb by limb
    have hb' : aboveThr rn dcThr = false := by simpa using hb
    simp only [hb', Bool.not_false, if_true]
    have npv : (load (store xp0 0 (1 :: zeros (rn - 1))).1 0 rn).1 = 1 :: zeros (rn - 1) := by
      rw [load_store_in _ 0 _ _ (by omega) (by omega), List.take_of_length_le (le_of_eq h1len)]
    rw [npv]
    obtain ⟨v1, l1⟩ := val_one_zeros (rn - 1)
    have hd : (modlimb_invert (up.headD 0) * (up.take rn).headD 0) % B = 1 := by
      rw [hu0]; exact modlimb_invert_spec _ hodd
    obtain ⟨q1, q2, q3⟩ := sbLoop_spec (modlimb_invert (up.headD 0)) (up.take rn) huL hd rn (1 :: zeros (rn - 1)) 0 0
      l1 h1len (by omega)
    have h1lt : 1 < B ^ rn := one_lt_B_pow hrn1
    rw [v1, Nat.mod_eq_of_lt h1lt] at q3
    generalize sbLoop (modlimb_invert (up.headD 0)) (up.take rn) rn (1 :: zeros (rn - 1)) 0 0 = q at *
    have r1take := store_take_zero rp0 q.1 (by omega)
    rw [q2] at r1take
    have zl : (zeros rn).length = rn := by simp [zeros]
    refine ⟨?_, by rw [store_length, hrp], by simp only [store_length, hxp], ?_, ?_⟩
    · simp only [store_ok, load_ok, store_length, h1len, q2, zl, hrp, hxp, List.length_cons, List.length_nil,
        Bool.and_eq_true, decide_eq_true_eq, and_true]
      omega
    · rw [r1take]; exact q1
    · rw [r1take]
      apply mul_mod_lift
      rw [huv]; exact q3


/-! ### the size of `sizes[]` -/

theorem schedule_len (thr : Nat) : ∀ (f rn e : Nat), 1 ≤ rn → rn - 1 < 2 ^ e * (thr - 1) →
    (schedule thr f rn).1.length ≤ e
  | 0, rn, e, _, _ => by simp [schedule]
  | f + 1, rn, e, h1, h2 => by
    unfold schedule
    by_cases ha : aboveThr rn thr = true
    · rw [if_pos ha]
      have hthr : 1 ≤ thr := by
        rcases Nat.eq_zero_or_pos thr with h | h
        · subst h; simp at h2
        · exact h
      have hge := (aboveThr_iff rn thr hthr).mp ha
      cases e with
      | zero => simp at h2; omega
      | succ e' =>
        have h3 : (rn + 1) / 2 - 1 < 2 ^ e' * (thr - 1) := by
          rw [pow_succ] at h2
          have e2 : 2 ^ e' * 2 * (thr - 1) = 2 * (2 ^ e' * (thr - 1)) := by ring
          rw [e2] at h2
          generalize 2 ^ e' * (thr - 1) = w at *
          omega
        have := schedule_len thr f ((rn + 1) / 2) e' (by omega) h3
        simp only [List.length_cons]; omega
    · rw [if_neg ha]; simp

theorem log2c_count : ∀ j, j ≤ 15 → ((List.range 16).filter (fun i => decide (i ≤ j))).length = j + 1 := by decide

theorem npows_bound (thr : Nat) (hthr : 2 ≤ thr) : 2 ^ 46 ≤ 2 ^ (npows thr) * (thr - 1) := by
  have hne : thr ≠ 0 := by omega
  have l1 := Nat.log2_self_le hne
  have l2 := @Nat.lt_log2_self thr
  have l3 : 1 ≤ thr.log2 := (Nat.le_log2 hne).mpr (by omega)
  have hc : log2c thr = min thr.log2 15 + 1 := by
    rw [← log2c_count _ (Nat.min_le_right _ _)]
    unfold log2c
    congr 1
    apply List.filter_congr
    intro i hi
    have hi16 : i < 16 := List.mem_range.mp hi
    have : (thr ≥ 2 ^ i) ↔ (i ≤ min thr.log2 15) := by
      constructor
      · intro h
        have := (Nat.le_log2 hne).mpr h
        omega
      · intro h
        have : 2 ^ i ≤ 2 ^ thr.log2 := Nat.pow_le_pow_right (by norm_num) (by omega)
        omega
    simp only [this]
  unfold npows
  rw [hc]
  have hj : 2 ^ (min thr.log2 15) ≤ thr := le_trans (Nat.pow_le_pow_right (by norm_num) (Nat.min_le_left _ _)) l1
  have hj1 : 1 ≤ min thr.log2 15 := by omega
  have hj15 : min thr.log2 15 ≤ 15 := Nat.min_le_right _ _
  generalize min thr.log2 15 = j at *
  -- `thr − 1 ≥ 2^j − 1 ≥ 2^(j−1)`, and `48 − (j+1) + (j−1) = 46`
  have hjj : 2 ^ j = 2 * 2 ^ (j - 1) := by rw [← pow_succ']; congr 1; omega
  have hpos : 0 < 2 ^ (j - 1) := Nat.two_pow_pos _
  have h1 : 2 ^ (j - 1) ≤ thr - 1 := by omega
  calc 2 ^ 46 = 2 ^ (48 - (j + 1)) * 2 ^ (j - 1) := by rw [← pow_add]; congr 1; omega
    _ ≤ 2 ^ (48 - (j + 1)) * (thr - 1) := Nat.mul_le_mul_left _ h1

end Mpir.Binvert
end
