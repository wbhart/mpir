/- Between the memory lemmas and the functions of the pointer-level alias model.  `Ok.bind` walks a `do` block without
   rewriting it.  A call with the one output `w` is specified by `Post`: its frame `Fr` says which headers and blocks may
   differ, so the values (`Res`), the survival of the caller's TMP blocks (`Fr.keep`) and "ALLOC never shrinks" are
   projections; a function with `MPZ_TMP_INIT` locals cannot have `Fr` and is specified by values only.  A function that only
   calls other mpz functions is followed on `Vals n f`: a contract replaces `f` by `Function.update f w z`.  The first
   functions are here too, with their `Vals` rules: mpz_add / mpz_sub, mpz_add_ui / mpz_sub_ui, mpz_set. -/
import MpirProofs.Lemmas.AliasMem
namespace Mpir.AliasMem
open Mpir
open Mpir.DivZ (sizeNat siz sameSign)

/-- what an `_ok` theorem says written out (`∃ s', f … s = .ok s' ∧ …`), by unfolding: the two forms are passed for one another -/
def Ok {α : Type} (x : R α) (Q : α → Prop) : Prop := ∃ a, x = .ok a ∧ Q a

theorem Ok.pure {α : Type} {a : α} {Q : α → Prop} (h : Q a) : Ok (Pure.pure a : R α) Q := ⟨a, rfl, h⟩

theorem Ok.bind {α β : Type} {x : R α} {f : α → R β} {P : α → Prop} {Q : β → Prop}
    (hx : Ok x P) (hf : ∀ a, P a → Ok (f a) Q) : Ok (x >>= f) Q := by
  obtain ⟨a, rfl, ha⟩ := hx; exact hf a ha

theorem Ok.mono {α : Type} {x : R α} {P Q : α → Prop} (hx : Ok x P) (h : ∀ a, P a → Q a) : Ok x Q := by
  obtain ⟨a, e, ha⟩ := hx; exact ⟨a, e, h a ha⟩

theorem ok_bind {α β : Type} (a : α) (f : α → R β) : (Except.ok a >>= f) = f a := rfl

/-- relative to a base state `s0`: only the header of `w`, the block `PTR (w)` had in `s0` and blocks allocated since
    may differ in `s` -/
def Fr (s0 : St) (w : Nat) (s : St) : Prop :=
  (∀ i, i ≠ w → s.vars i = s0.vars i) ∧ (∀ p, p < s0.next → p ≠ s0.ptr w → s.blk p = s0.blk p) ∧
  s0.next ≤ s.next ∧ (s.ptr w = s0.ptr w ∨ s0.next ≤ s.ptr w)

theorem Fr.refl (s : St) (w : Nat) : Fr s w s := ⟨fun _ _ => rfl, fun _ _ _ => rfl, Nat.le_refl _, Or.inl rfl⟩

theorem Fr.setBlk {s0 s : St} {w : Nat} (h : Fr s0 w s) {q : Nat} (hq : q = s.ptr w ∨ s0.next ≤ q) (b : Option (List Nat)) :
    Fr s0 w (s.setBlk q b) := by
  obtain ⟨h1, h2, h3, h4⟩ := h
  refine ⟨h1, fun p hp hpw => ?_, h3, h4⟩
  have : p ≠ q := by
    rcases hq with e | e
    · rw [e]; rcases h4 with e' | e'
      · rw [e']; exact hpw
      · omega
    · omega
  simp only [St.setBlk, this, if_false]; exact h2 p hp hpw

theorem Fr.malloc {s0 s : St} {w : Nat} (h : Fr s0 w s) (l : List Nat) : Fr s0 w (s.malloc l).2 := by
  obtain ⟨h1, h2, h3, h4⟩ := h
  refine ⟨h1, fun p hp hpw => ?_, Nat.le_succ_of_le h3, h4⟩
  have : p ≠ s.next := by omega
  simp only [St.malloc, St.setBlk, this, if_false]; exact h2 p hp hpw

theorem Fr.realloc {s0 s : St} {w : Nat} (h : Fr s0 w s) (n : Nat) : Fr s0 w (s.mpzRealloc w n) := by
  obtain ⟨h1, h2, h3, h4⟩ := h
  refine ⟨fun i hi => ?_, fun p hp hpw => ?_, Nat.le_trans h3 (realloc_next_le s w n), ?_⟩
  · rw [← h1 i hi]; unfold St.mpzRealloc; split
    · simp [St.setVar, hi]; rfl
    · rfl
  · rw [realloc_blk_ne s w n p ?_ (by omega)]; exact h2 p hp hpw
    rcases h4 with e' | e'
    · rw [e']; exact hpw
    · omega
  · rw [realloc_ptr]; split
    · exact Or.inr h3
    · exact h4

theorem Fr.upd {s0 s s' : St} {w : Nat} (f : Fr s0 w s) (u : Upd s s' w) : Fr s0 w s' := by
  refine ⟨fun i hi => (u.vars_o i hi).trans (f.1 i hi), fun p hp hpw => ?_,
    Nat.le_trans f.2.2.1 (Nat.le_of_eq u.next.symm), by rw [u.ptr]; exact f.2.2.2⟩
  rw [u.blk_o p ?_]; exact f.2.1 p hp hpw
  rcases f.2.2.2 with e' | e'
  · rw [e']; exact hpw
  · omega

theorem Fr.trans {a b c : St} {w : Nat} (f : Fr a w b) (g : Fr b w c) : Fr a w c := by
  refine ⟨fun i hi => (g.1 i hi).trans (f.1 i hi), fun p hp hpw => ?_, Nat.le_trans f.2.2.1 g.2.2.1, ?_⟩
  · rw [g.2.1 p (Nat.lt_of_lt_of_le hp f.2.2.1) ?_]; exact f.2.1 p hp hpw
    rcases f.2.2.2 with e | e
    · rw [e]; exact hpw
    · omega
  · rcases g.2.2.2 with e | e
    · rw [e]; exact f.2.2.2
    · exact Or.inr (Nat.le_trans f.2.2.1 e)

/-- the block `w` had at the start may be released late: mul.c's `free_me` -/
theorem Fr.free {s0 s : St} {w : Nat} (f : Fr s0 w s) {p : Nat} (hp : p = s0.ptr w ∨ s0.next ≤ p) : Fr s0 w (s.free p) := by
  refine ⟨f.1, fun q hq hqw => ?_, f.2.2.1, f.2.2.2⟩
  have : q ≠ p := by rcases hp with e | e <;> omega
  simp only [St.free, St.setBlk, this, if_false]; exact f.2.1 q hq hqw

theorem Fr.free_list {s0 : St} {w : Nat} : ∀ (l : List Nat) {s : St}, Fr s0 w s → (∀ p ∈ l, p = s0.ptr w ∨ s0.next ≤ p) →
    Fr s0 w (l.foldl St.free s)
  | [], _, f, _ => f
  | p :: l, _, f, h => Fr.free_list l (f.free (h p List.mem_cons_self)) fun q hq => h q (List.mem_cons_of_mem _ hq)

theorem Fr.copyIf {s0 s s' : St} {w : Nat} (f : Fr s0 w s) {c : Bool} {p n q : Nat} (e : s.copyIf c p n = .ok (q, s')) :
    Fr s0 w s' := by
  cases c
  · cases e; exact f
  · simp only [St.copyIf, St.tmpCopy, if_true, bind, Except.bind] at e
    split at e
    · cases e
    · cases e; exact f.malloc _

/-- `free` + `allocate` of the block of `w` (sqrtrem.c:64-69, mul.c:126-130) -/
theorem Fr.freshBlock {s0 s : St} {w : Nat} (f : Fr s0 w s) (n : Nat) : Fr s0 w (s.freshBlock w n) := by
  obtain ⟨h1, h2, h3, h4⟩ := f
  have hp : (s.freshBlock w n).ptr w = s.next := by simp [St.freshBlock, St.setVar, St.malloc, St.ptr, St.free, St.setBlk]
  refine ⟨fun i hi => ?_, fun p hp hpw => ?_, Nat.le_succ_of_le h3, Or.inr (hp ▸ h3)⟩
  · simp only [St.freshBlock, St.setVar, hi, if_false]; exact h1 i hi
  · have e1 : p ≠ s.next := by omega
    have e2 : p ≠ s.ptr w := by rcases h4 with e | e <;> omega
    simp only [St.freshBlock, St.setVar, St.malloc, St.free, St.setBlk, e1, e2, if_false]; exact h2 p hp hpw

def Tmp (I : Nat → Prop) (p : Nat) (s : St) : Prop := p < s.next ∧ ∀ i, I i → s.ptr i ≠ p

/-- relative to a set `I` of ids: a local header that points INTO TMP space (gcdext.c:85-91) must not count as an owner -/
def Keep (I : Nat → Prop) (s s' : St) : Prop := ∀ p, Tmp I p s → Tmp I p s' ∧ s'.blk p = s.blk p

theorem Keep.refl (I : Nat → Prop) (s : St) : Keep I s s := fun _ h => ⟨h, rfl⟩

theorem Keep.trans {I : Nat → Prop} {a b c : St} (h1 : Keep I a b) (h2 : Keep I b c) : Keep I a c := fun p hp =>
  ⟨(h2 p (h1 p hp).1).1, ((h2 p (h1 p hp).1).2).trans (h1 p hp).2⟩

theorem Fr.keep {s s' : St} {w : Nat} (f : Fr s w s') {I : Nat → Prop} (hw : I w) : Keep I s s' := fun p ⟨hlt, hp⟩ => by
  refine ⟨⟨Nat.lt_of_lt_of_le hlt f.2.2.1, fun i hi e => ?_⟩, f.2.1 p hlt (Ne.symm (hp w hw))⟩
  by_cases hiw : i = w
  · rcases f.2.2.2 with e' | e'
    · exact hp w hw (by rw [← e', ← hiw]; exact e)
    · rw [hiw] at e; omega
  · exact hp i hi (by rw [← e]; exact (congrArg Var.ptr (f.1 i hiw)).symm)

theorem malloc_next (s : St) (l : List Nat) : (s.malloc l).2.next = s.next + 1 := rfl

theorem Tmp.malloc {I : Nat → Prop} {p : Nat} {s : St} (T : Tmp I p s) (l : List Nat) : Tmp I p (s.malloc l).2 :=
  ⟨Nat.lt_succ_of_lt T.1, T.2⟩

structure Post (s s' : St) (w : Nat) (z : Int) : Prop where
  inv : Inv s'
  nv : s'.nv = s.nv
  fr : Fr s w s'
  val : s'.value w = z
  alloc : ∀ i, s.alloc i ≤ s'.alloc i

namespace Post
variable {s s' : St} {w : Nat} {z : Int}

theorem res (h : Inv s) (hw : w < s.nv) (p : Post s s' w z) : Res s s' w z :=
  ⟨p.inv, p.nv, p.val, fun i hi hiw =>
    value_congr (p.fr.1 i hiw) (p.fr.2.1 _ (h.lt i hi) (fun e => hiw (h.inj i w hi hw e)))⟩

theorem same (h : Inv s) (e : s.value w = z) : Post s s w z := ⟨h, rfl, Fr.refl s w, e, fun _ => Nat.le_refl _⟩

theorem after {s1 : St} (k : Same s s1) (f : Fr s w s1) (p : Post s1 s' w z) : Post s s' w z :=
  ⟨p.inv, p.nv.trans k.nv, f.trans p.fr, p.val, fun i => Nat.le_trans (k.alloc i) (p.alloc i)⟩

theorem of_res (r : Res s s' w z) (f : Fr s w s') (a : ∀ i, s.alloc i ≤ s'.alloc i) : Post s s' w z :=
  ⟨r.1, r.2.1, f, r.2.2.1, a⟩

theorem of_same_upd {s1 : St} (k : Same s s1) (f : Fr s w s1) (u : Upd s1 s' w) (i' : Inv s') (e : s'.value w = z) :
    Post s s' w z :=
  ⟨i', u.nv.trans k.nv, f.upd u, e, fun i => Nat.le_trans (k.alloc i) (Nat.le_of_eq (u.alloc i).symm)⟩

/-- the end of a function that worked with temporaries: operands kept up to `s2` (`Same`), TMP blocks allocated from there
    to `s4`, then `w` and possibly TMP blocks written (`s5`), then every TMP block released -/
theorem finish {s2 s4 s5 : St} (hw : w < s.nv) (k : Same s s2) (i2 : Inv s2) (hn : s.next ≤ s2.next) (x : Ext s2 s4)
    (f5 : Fr s w s5) (nv5 : s5.nv = s4.nv) (p5 : ∀ i, s5.ptr i = s4.ptr i) (a5 : ∀ i, s5.alloc i = s4.alloc i)
    (i5 : Inv s5) (e : s5.value w = z) (tmps : List Nat) (ht : ∀ p ∈ tmps, s2.next ≤ p) :
    Post s (tmps.foldl St.free s5) w z := by
  obtain ⟨i6, n6, v6⟩ := free_list_inv tmps i5 fun p hp i hi => by
    rw [p5, x.ptr]; exact Nat.ne_of_lt (Nat.lt_of_lt_of_le (i2.lt i (x.nv ▸ nv5 ▸ hi)) (ht p hp))
  have n5 : s5.nv = s.nv := nv5.trans (x.nv.trans k.nv)
  refine ⟨i6, n6.trans n5, Fr.free_list tmps f5 fun p hp => Or.inr (Nat.le_trans hn (ht p hp)),
    (v6 w (n5 ▸ hw)).trans e, fun i => ?_⟩
  show s.alloc i ≤ ((tmps.foldl St.free s5).vars i).alloc
  rw [foldl_free_vars]
  exact Nat.le_trans (k.alloc i) (Nat.le_of_eq ((a5 i).trans (x.alloc i)).symm)

end Post

theorem setInt_post {s : St} (h : Inv s) {w : Nat} (hw : w < s.nv) (z : Int) (hz : sizeNat z.natAbs ≤ s.alloc w) :
    Ok (s.setInt w z) (fun s' => Post s s' w z) := by
  obtain ⟨s', e, r, u⟩ := setInt_spec h hw z hz
  exact ⟨s', e, Post.of_same_upd (Same.refl s) (Fr.refl s w) u r.1 r.2.2.1⟩

theorem mpz_aors_post {s : St} (h : Inv s) {w u v : Nat} (hw : w < s.nv) (hu : u < s.nv) (hv : v < s.nv) (sub : Bool) :
    Ok (mpz_aors sub w u v s) (fun s' => Post s s' w (if sub then s.value u - s.value v else s.value u + s.value v)) := by
  have hvabs : (if sub then -(s.size v) else s.size v).natAbs = (s.size v).natAbs := by cases sub <;> simp
  obtain ⟨i1, k1, a1⟩ := realloc_same h hw (max (s.size u).natAbs (s.size v).natAbs + 1)
  have hzv : sgnv (if sub then -(s.size v) else s.size v) (s.mag v) = (if sub then -(s.value v) else s.value v) := by
    cases sub
    · rfl
    · exact sgnv_neg _ _ (h.mag_zero hv)
  have hfit : sizeNat (s.value u + (if sub then -(s.value v) else s.value v)).natAbs
      ≤ (s.mpzRealloc w (max (s.size u).natAbs (s.size v).natAbs + 1)).alloc w := by
    refine Nat.le_trans (sizeNat_natAbs_add_le ?_ ?_) a1
    · rw [value_natAbs]; exact Nat.lt_of_lt_of_le (h.mag_lt hu) (pow_le_max_l _ _)
    · have : (if sub then -(s.value v) else s.value v).natAbs = s.mag v := by cases sub <;> simp [value_natAbs]
      rw [this]; exact Nat.lt_of_lt_of_le (h.mag_lt hv) (pow_le_max_r _ _)
  obtain ⟨s', hs', hres, us⟩ := setInt_spec i1 (k1.lt hw) _ hfit
  refine ⟨s', ?_, Post.of_same_upd k1 ((Fr.refl s w).realloc _) us hres.1 ?_⟩
  · rw [← hzv] at hs'
    simp only [mpz_aors, bind, Except.bind, hvabs, k1.load i1 hu, k1.load i1 hv]
    exact hs'
  · cases sub
    · exact hres.2.2.1
    · rw [Int.sub_eq_add_neg]; exact hres.2.2.1

theorem mpz_aors_ok {s : St} (h : Inv s) {w u v : Nat} (hw : w < s.nv) (hu : u < s.nv) (hv : v < s.nv) (sub : Bool) :
    ∃ s', mpz_aors sub w u v s = .ok s' ∧
      Res s s' w (if sub then s.value u - s.value v else s.value u + s.value v) :=
  (mpz_aors_post h hw hu hv sub).mono fun _ p => p.res h hw

theorem mpz_aors_ui_post {s : St} (h : Inv s) {w u : Nat} (hw : w < s.nv) (hu : u < s.nv) (sub : Bool) (c : Nat)
    (hc : c < B) :
    Ok (mpz_aors_ui sub w u c s) (fun s' => Post s s' w (if sub then s.value u - c else s.value u + c)) := by
  obtain ⟨i1, k1, a1⟩ := realloc_same h hw ((s.size u).natAbs + 1)
  have hfit : sizeNat (if sub then s.value u - (c : Int) else s.value u + c).natAbs
      ≤ (s.mpzRealloc w ((s.size u).natAbs + 1)).alloc w := by
    refine Nat.le_trans ?_ a1
    have hmu := h.mag_lt hu
    by_cases hu0 : s.size u = 0
    · have hv0 : s.value u = 0 := (h.size_eq_zero_iff hu).mp hu0
      rw [hv0, hu0, DivZ.sizeNat_le_iff]
      cases sub <;> simp <;> omega
    · have hcB : c < B ^ (s.size u).natAbs :=
        Nat.lt_of_lt_of_le hc (B_le_Bpow (by omega))
      have hx : (s.value u).natAbs < B ^ (s.size u).natAbs := by rw [value_natAbs]; exact hmu
      cases sub
      · exact sizeNat_natAbs_add_le hx (by simpa using hcB)
      · rw [if_pos rfl, Int.sub_eq_add_neg]; exact sizeNat_natAbs_add_le hx (by simpa using hcB)
  obtain ⟨s', hs', hres, us⟩ := setInt_spec i1 (k1.lt hw) _ hfit
  refine ⟨s', ?_, Post.of_same_upd k1 ((Fr.refl s w).realloc _) us hres.1 hres.2.2.1⟩
  simp only [mpz_aors_ui, bind, Except.bind, k1.load i1 hu]
  exact hs'

theorem mpz_aors_ui_ok {s : St} (h : Inv s) {w u : Nat} (hw : w < s.nv) (hu : u < s.nv) (sub : Bool) (c : Nat) (hc : c < B) :
    ∃ s', mpz_aors_ui sub w u c s = .ok s' ∧
      Res s s' w (if sub then s.value u - c else s.value u + c) :=
  (mpz_aors_ui_post h hw hu sub c hc).mono fun _ p => p.res h hw

theorem mpz_set_post {s : St} (h : Inv s) {w u : Nat} (hw : w < s.nv) (hu : u < s.nv) :
    Ok (mpz_set w u s) (fun s' => Post s s' w (s.value u)) := by
  obtain ⟨i1, k1, a1⟩ := realloc_same h hw (s.size u).natAbs
  have hls := i1.limbs_spec (k1.lt hu)
  obtain ⟨X, eX, iX, uX, vX⟩ := store_put i1 (k1.lt hw) _ _ (by rw [hls.1, k1.size]; exact a1) hls.2
    (i1.size_natAbs (k1.lt hu))
  rw [k1.limbs u hu, k1.size] at *
  refine ⟨_, ?_, Post.of_same_upd k1 ((Fr.refl s w).realloc _) uX iX vX⟩
  simp only [mpz_set, bind, Except.bind, k1.load i1 hu, eX, pure, Except.pure]

theorem mpz_set_ok {s : St} (h : Inv s) {w u : Nat} (hw : w < s.nv) (hu : u < s.nv) :
    ∃ s', mpz_set w u s = .ok s' ∧ Res s s' w (s.value u) :=
  (mpz_set_post h hw hu).mono fun _ p => p.res h hw

theorem update_congr {f g : Nat → Int} {i : Nat} (h : f i = g i) (w : Nat) (z : Int) :
    Function.update f w z i = Function.update g w z i := by
  by_cases e : i = w
  · rw [e, Function.update_self, Function.update_self]
  · rw [Function.update_of_ne e, Function.update_of_ne e, h]

structure Vals (n : Nat) (f : Nat → Int) (s : St) : Prop where
  inv : Inv s
  nv : s.nv = n
  val : ∀ i, i < n → s.value i = f i

theorem Vals.of_inv {s : St} (h : Inv s) : Vals s.nv s.value s := ⟨h, rfl, fun _ _ => rfl⟩

namespace Vals
variable {n : Nat} {f : Nat → Int} {s : St}

theorem lt (V : Vals n f s) {i : Nat} (hi : i < n) : i < s.nv := V.nv.symm ▸ hi

theorem congr (V : Vals n f s) {g : Nat → Int} (h : ∀ i, i < n → f i = g i) : Vals n g s :=
  ⟨V.inv, V.nv, fun i hi => (V.val i hi).trans (h i hi)⟩

theorem step (V : Vals n f s) {w : Nat} {z : Int} {x : R St} (h : Ok x (fun s' => Res s s' w z)) :
    Ok x (Vals n (Function.update f w z)) := by
  obtain ⟨s', e, i', n', vw, vo⟩ := h
  refine ⟨s', e, i', n'.trans V.nv, fun i hi => ?_⟩
  by_cases hiw : i = w
  · rw [hiw, vw, Function.update_self]
  · rw [vo i (V.lt hi) hiw, V.val i hi, Function.update_of_ne hiw]

theorem step2 (V : Vals n f s) {q r : Nat} {zq zr : Int} {x : R St} (h : Ok x (fun s' => Res2 s s' q r zq zr)) :
    Ok x (Vals n (Function.update (Function.update f q zq) r zr)) := by
  obtain ⟨s', e, i', n', vq, vr, vo⟩ := h
  refine ⟨s', e, i', n'.trans V.nv, fun i hi => ?_⟩
  by_cases hir : i = r
  · rw [hir, vr, Function.update_self]
  · rw [Function.update_of_ne hir]
    by_cases hiq : i = q
    · rw [hiq, vq, Function.update_self]
    · rw [vo i (V.lt hi) hiq hir, V.val i hi, Function.update_of_ne hiq]

theorem post (V : Vals n f s) {w : Nat} (hw : w < n) {z : Int} {s' : St} (p : Post s s' w z) :
    Vals n (Function.update f w z) s' := by
  obtain ⟨_, e, V'⟩ := V.step ⟨s', rfl, p.res V.inv (V.lt hw)⟩
  exact Except.ok.inj e ▸ V'

theorem step_post (V : Vals n f s) {w : Nat} (hw : w < n) {z : Int} {x : R St} (h : Ok x (fun s' => Post s s' w z)) :
    Ok x (fun s' => Vals n (Function.update f w z) s' ∧ ∀ i, s.alloc i ≤ s'.alloc i) := by
  obtain ⟨s', e, p⟩ := h
  exact ⟨s', e, V.post hw p, p.alloc⟩

theorem size (V : Vals n f s) {i : Nat} (hi : i < n) : s.size i = siz (f i) := by
  rw [V.inv.norm i (V.lt hi), V.val i hi]

theorem load (V : Vals n f s) {i : Nat} (hi : i < n) {z : Int} (hz : f i = z) :
    ∃ l, s.load (s.ptr i) (siz z).natAbs = .ok l ∧ sgnv (siz z) (Mpir.val l) = z := by
  subst hz
  refine ⟨s.limbs i, ?_, ?_⟩
  · rw [← V.size hi]; exact V.inv.load_var (V.lt hi)
  · rw [← V.size hi, ← V.val i hi]; rfl

theorem res {s0 s' : St} {w : Nat} {z : Int} (hw : w < s0.nv) (V : Vals s0.nv (Function.update s0.value w z) s') :
    Res s0 s' w z :=
  ⟨V.inv, V.nv, by rw [V.val w hw, Function.update_self], fun i hi hiw => by rw [V.val i hi, Function.update_of_ne hiw]⟩

theorem res_of {s0 s' : St} {w : Nat} {z : Int} {g : Nat → Int} (V : Vals s0.nv g s') (hw : g w = z)
    (ho : ∀ i, i < s0.nv → i ≠ w → g i = s0.value i) (hw0 : w < s0.nv) : Res s0 s' w z :=
  ⟨V.inv, V.nv, (V.val w hw0).trans hw, fun i hi hiw => (V.val i hi).trans (ho i hi hiw)⟩

theorem res2 {s0 s' : St} {q r : Nat} {zq zr : Int} (hq : q < s0.nv) (hr : r < s0.nv) (hqr : q ≠ r)
    (V : Vals s0.nv (Function.update (Function.update s0.value q zq) r zr) s') : Res2 s0 s' q r zq zr :=
  ⟨V.inv, V.nv, by rw [V.val q hq, Function.update_of_ne hqr, Function.update_self],
    by rw [V.val r hr, Function.update_self],
    fun i hi hiq hir => by rw [V.val i hi, Function.update_of_ne hir, Function.update_of_ne hiq]⟩

theorem alloc_pos (V : Vals n f s) {w : Nat} (hw : w < n) (h0 : f w ≠ 0) : 1 ≤ s.alloc w := by
  have hf := V.inv.fits w (V.lt hw)
  have hz := V.inv.size_eq_zero_iff (V.lt hw)
  rw [V.val w hw] at hz
  have : s.size w ≠ 0 := fun e => h0 (hz.mp e)
  omega

theorem tmpInit (V : Vals n f s) (k : Nat) :
    (s.tmpInit k).1 = n ∧ Vals (n + 1) (Function.update f n 0) (s.tmpInit k).2 ∧ (s.tmpInit k).2.alloc n = k := by
  obtain ⟨e, i1, n1, vo, a, vn⟩ := tmpInit_spec V.inv k
  rw [V.nv] at *
  refine ⟨e, ⟨i1, n1, fun i hi => ?_⟩, a⟩
  by_cases hin : i = n
  · rw [hin, vn, Function.update_self]
  · rw [(vo i (by omega)).1, V.val i (by omega), Function.update_of_ne hin]

theorem tmpDone (V : Vals (n + 1) f s) : Vals n f s.tmpDone := by
  obtain ⟨i1, n1, v1⟩ := tmpDone_spec V.inv n V.nv
  exact ⟨i1, n1, fun i hi => (v1 i hi).trans (V.val i (by omega))⟩

theorem setInt (V : Vals n f s) {w : Nat} (hw : w < n) (z : Int) (hz : sizeNat z.natAbs ≤ s.alloc w) :
    Ok (s.setInt w z) (Vals n (Function.update f w z)) := by
  obtain ⟨s', e, r, _⟩ := setInt_spec V.inv (V.lt hw) z hz
  exact V.step ⟨s', e, r⟩

theorem set (V : Vals n f s) {w u : Nat} (hw : w < n) (hu : u < n) :
    Ok (mpz_set w u s) (Vals n (Function.update f w (f u))) := by
  rw [← V.val u hu]
  exact V.step (mpz_set_ok V.inv (V.lt hw) (V.lt hu))

theorem aors (V : Vals n f s) {w u v : Nat} (hw : w < n) (hu : u < n) (hv : v < n) (sub : Bool) :
    Ok (mpz_aors sub w u v s) (Vals n (Function.update f w (if sub then f u - f v else f u + f v))) := by
  rw [← V.val u hu, ← V.val v hv]
  exact V.step (mpz_aors_ok V.inv (V.lt hw) (V.lt hu) (V.lt hv) sub)

theorem aors_ui (V : Vals n f s) {w u : Nat} (hw : w < n) (hu : u < n) (sub : Bool) (c : Nat) (hc : c < B) :
    Ok (mpz_aors_ui sub w u c s) (Vals n (Function.update f w (if sub then f u - c else f u + c))) := by
  rw [← V.val u hu]
  exact V.step (mpz_aors_ui_ok V.inv (V.lt hw) (V.lt hu) sub c hc)

end Vals

theorem Vals.malloc_tmp {n : Nat} {f : Nat → Int} {s : St} (V : Vals n f s) (l : List Nat) : Tmp (· < n) s.next (s.malloc l).2 :=
  ⟨Nat.lt_succ_self _, fun i hi => Nat.ne_of_lt (V.inv.lt i (V.lt hi))⟩

theorem Vals.malloc {n : Nat} {f : Nat → Int} {s : St} (V : Vals n f s) (l : List Nat) : Vals n f (s.malloc l).2 :=
  ⟨malloc_inv V.inv l, (malloc_ext V.inv l).nv.trans V.nv, fun i hi =>
    ((malloc_ext V.inv l).value V.inv (V.lt hi)).trans (V.val i hi)⟩

theorem store_tmp {n : Nat} {f : Nat → Int} {s : St} (V : Vals n f s) {p : Nat} (T : Tmp (· < n) p s) {b : List Nat}
    (hb : s.blk p = some b) (l : List Nat) (hl : l.length ≤ b.length) :
    ∃ c, s.store p l = .ok (s.setBlk p (some c)) ∧ c = l ++ b.drop l.length ∧ Vals n f (s.setBlk p (some c)) := by
  obtain rfl := V.nv
  obtain ⟨i1, v1⟩ := setBlk_nonvar V.inv T.2 T.1 (l ++ b.drop l.length)
  exact ⟨_, store_blk hb hl, rfl, i1, rfl, fun i hi => (v1 i hi).trans (V.val i hi)⟩

theorem Vals.free_list {n : Nat} {f : Nat → Int} {s : St} (V : Vals n f s) (l : List Nat) (hl : ∀ p ∈ l, Tmp (· < n) p s) :
    Vals n f (l.foldl St.free s) := by
  obtain rfl := V.nv
  obtain ⟨i1, n1, v1⟩ := free_list_inv l V.inv fun p hp => (hl p hp).2
  exact ⟨i1, n1, fun i hi => (v1 i hi).trans (V.val i hi)⟩

/-- an optional output (`none`: a NULL pointer) as a condition on the id -/
theorem update_eq_ite (f : Nat → Int) (x : Nat) (z : Int) (i : Nat) :
    Function.update f x z i = if i ∈ some x then z else f i := by
  by_cases e : i = x
  · rw [e, Function.update_self, if_pos (show x ∈ some x from rfl)]
  · rw [Function.update_of_ne e, if_neg (fun h : i ∈ some x => e (Option.some.inj h).symm)]

end Mpir.AliasMem
