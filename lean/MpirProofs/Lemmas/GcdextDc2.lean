/- mpn_gcdext after the dc loop (gcdext.c:408-546): the a = b exit, the `u0 == 0` shortcut, and the general case —
   mpn_gcdext_lehmer_n on copies, compute_v (the second Lehmer cofactor by an exact division), and the
   combination  S = u·u1 − v·u0  with its sizes and the four ASSERTs on ualloc. -/
import MpirProofs.Lemmas.GcdextDc
import MpirProofs.Lemmas.GcdExtZ
namespace Mpir.Gcdext
open Mpir Mpir.Gcd Mpir.Hgcd

/-- mpn_divexact and the size of its quotient: vn = size + 1 - bn, vn -= (vp[vn-1] == 0) (gcdext.c:146-150) -/
theorem quot_size {b T : Nat} (hb : 0 < b) (hT : 0 < T) :
    (b * T / b, if limbAt (b * T / b) (nlimbs (b * T) + 1 - nlimbs b - 1) = 0 then nlimbs (b * T) + 1 - nlimbs b - 1
      else nlimbs (b * T) + 1 - nlimbs b) = (T, nlimbs T) := by
  have h1 := nlimbs_isSize.mul_ge hb.ne' hT.ne'
  have h2 := nlimbs_isSize.mul_le b T
  have hbn := nlimbs_pos hb
  have hTn := nlimbs_pos hT
  rw [Nat.mul_div_cancel_left T hb, shrink1_eq (by omega) (by omega), max_eq_right (by omega)]

/-- compute_v (gcdext.c:93) for T with b·T = |g − u·a|; both ASSERT_NOCARRY hold (the model reduces modulo the area) -/
theorem computeV_spec (a b g up T : Nat) (usize : Int) (ha : 0 < a) (hb : 0 < b) (hg : 0 < g) (hga : g ≤ a) (hup : 0 < up)
    (hsz : usize.natAbs = nlimbs up)
    (hT : if usize > 0 then b * T + g = a * up else b * T = a * up + g) :
    computeV a b g up usize = (T, nlimbs T) := by
  have hmul := nlimbs_isSize.mul_le a up
  have hprod : a * up < B ^ (usize.natAbs + nlimbs a) := nlimbs_isSize.lt_pow_iff.mpr (by omega)
  have hge : g ≤ a * up := le_trans hga (Nat.le_mul_of_pos_right _ hup)
  unfold computeV
  dsimp only
  by_cases hpos : usize > 0
  · rw [if_pos hpos] at hT
    rw [if_pos hpos]
    have e1 : (a * up + B ^ (usize.natAbs + nlimbs a) - g) % B ^ (usize.natAbs + nlimbs a) = b * T := by
      have : a * up + B ^ (usize.natAbs + nlimbs a) - g = b * T + B ^ (usize.natAbs + nlimbs a) := by omega
      rw [this, Nat.add_mod_right]
      exact Nat.mod_eq_of_lt (by omega)
    rw [e1]
    rcases Nat.eq_zero_or_pos T with rfl | hT0
    · rw [Nat.mul_zero, nlimbs_zero, if_pos rfl]
    · rw [if_neg (nlimbs_pos (Nat.mul_pos hb hT0)).ne']
      exact quot_size hb hT0
  · rw [if_neg hpos] at hT
    rw [if_neg hpos]
    have hfit : a * up + g < B ^ (usize.natAbs + nlimbs a) := by
      -- g ≤ a and up + 1 ≤ B^|usize|
      have h1 : up + 1 ≤ B ^ usize.natAbs := by rw [hsz]; exact nlimbs_isSize.lt_pow up
      have h2 : a * (up + 1) ≤ a * B ^ usize.natAbs := Nat.mul_le_mul_left _ h1
      have h3 : a * B ^ usize.natAbs < B ^ nlimbs a * B ^ usize.natAbs :=
        Nat.mul_lt_mul_of_pos_right (nlimbs_isSize.lt_pow a) (pow_pos B_pos _)
      rw [pow_add, Nat.mul_comm (B ^ usize.natAbs)]
      rw [Nat.mul_add] at h2
      omega
    rw [Nat.mod_eq_of_lt hfit, ← hT]
    rw [← hT, nlimbs_isSize.lt_pow_iff] at hfit
    -- a·up has |usize| + an limbs or one less, and b·T is not smaller
    have hlow := nlimbs_isSize.mul_ge ha.ne' hup.ne'
    have hmono : nlimbs (a * up) ≤ nlimbs (b * T) := nlimbs_isSize.mono (by omega)
    rw [shrink1_eq (by have := nlimbs_pos ha; omega) hfit, max_eq_right (by omega)]
    exact quot_size hb (Nat.pos_of_mul_pos_left (show 0 < b * T by omega))

/-- cy = mpn_add (...); up[un] = cy; un += (cy != 0)  (gcdext.c:528-538) -/
theorem add_size (p q : Nat) :
    (if (p + q) / B ^ (if nlimbs q ≤ nlimbs p then nlimbs p else nlimbs q) ≠ 0
      then (if nlimbs q ≤ nlimbs p then nlimbs p else nlimbs q) + 1 else (if nlimbs q ≤ nlimbs p then nlimbs p else nlimbs q))
      = nlimbs (p + q) := by
  have h1 := nlimbs_isSize.add_le p q
  have h2 := nlimbs_isSize.mono (Nat.le_add_right p q)
  have h3 := nlimbs_isSize.mono (Nat.le_add_left q p)
  split <;> rw [grow1_eq (by omega)] <;> omega

theorem ext1Bound_of_cofBound (a b g : Nat) (S T : Int) (ha : 0 < a) (hb : 0 < b) (hne : a ≠ b) (hg : g = Nat.gcd a b)
    (hid : (a : Int) * S + b * T = g) (hbd : CofBound b g S) (hS : S ≠ 0) : Ext1Bound a b g S T := by
  have hmod : ((g : Int) - a * S) % b = 0 := Int.emod_eq_zero_of_dvd ⟨T, by linarith⟩
  obtain ⟨_, ⟨k1, k2, _⟩⟩ := mpn_key a b g S T ha hb hne (cofBound_contract a b g S hb hg hmod hbd) hid
  have hgi : (0 : Int) < g := by exact_mod_cast (hg ▸ Nat.gcd_pos_of_pos_left _ ha : 0 < g)
  have hai : (0 : Int) < a := by exact_mod_cast ha
  have hgai : (g : Int) ≤ a := by exact_mod_cast (hg ▸ Nat.gcd_le_left _ ha : g ≤ a)
  have hbi : (0 : Int) < b := by exact_mod_cast hb
  -- the two bounds over the integers: 2g|S| < b or (S = 1, b = 2g); 2g|T| ≤ a
  have hbS : 2 * (g : Int) * |S| < b ∨ (S = 1 ∧ (b : Int) = 2 * g) := by
    rcases hbd with h | ⟨h1, h2⟩
    · left; rw [← Int.natCast_natAbs]; exact_mod_cast h
    · right; exact ⟨h1, by exact_mod_cast h2⟩
  have hbT : 2 * (g : Int) * |T| ≤ a := by
    by_cases h2 : (a : Int) = 2 * g
    · rw [k1 h2, abs_one, h2, mul_one]
    · rw [← Int.natCast_natAbs]; exact (k2 h2).le
  rcases lt_or_gt_of_ne hS with hneg | hpos
  · right
    have hTpos : 0 < T := by
      by_contra hc
      have h1 : (b : Int) * T ≤ 0 := mul_nonpos_of_nonneg_of_nonpos hbi.le (by omega)
      have h2 : (a : Int) * S < 0 := mul_neg_of_pos_of_neg hai hneg
      linarith
    rw [abs_of_neg hneg] at hbS
    rw [abs_of_pos hTpos] at hbT
    exact ⟨hneg.le, hTpos.le, hbS.resolve_right fun h => by omega, hbT⟩
  · left
    have hTle : T ≤ 0 := by
      by_contra hc
      have h1 : (b : Int) * 1 ≤ b * T := mul_le_mul_of_nonneg_left (by omega) hbi.le
      have h2 : (a : Int) * 1 ≤ a * S := mul_le_mul_of_nonneg_left (by omega) hai.le
      linarith
    rw [abs_of_pos hpos] at hbS
    rw [abs_of_nonpos hTle] at hbT
    refine ⟨hpos.le, hTle, ?_, hbT, fun heq => ?_⟩
    · rcases hbS with h | ⟨h1, h2⟩
      · exact h.le
      · rw [h1, h2, mul_one]
    · rcases hbS with h | ⟨h1, _⟩
      · exact absurd heq h.ne
      · exact h1

theorem combine_abs (S T : Int) (u0 u1 : Nat) (h : (0 < S ∧ T ≤ 0) ∨ (S < 0 ∧ 0 ≤ T)) :
    S * u1 - T * u0 = if S < 0 then -((u1 * S.natAbs + u0 * T.natAbs : Nat) : Int) else (u1 * S.natAbs + u0 * T.natAbs : Nat) := by
  rcases h with ⟨h1, h2⟩ | ⟨h1, h2⟩
  · rw [if_neg (by omega)]; push_cast; rw [abs_of_pos h1, abs_of_nonpos h2]; ring
  · rw [if_pos h1]; push_cast; rw [abs_of_neg h1, abs_of_nonneg h2]; ring

/-- gcdext.c:408-546 -/
theorem dcFinish_spec (A V G N : Nat) (P : Prop) (hV : V < B ^ N) (s : DcState) (h : DInv A V G P s) :
    ResOk A V G (dcFinish (N + 1) s) ∧ (P → (dcFinish (N + 1) s).ok = true) := by
  obtain ⟨a, b, n, ⟨u0, u1, un, ok⟩⟩ := s
  obtain ⟨hl, hcof, hgcd, hun, hokP⟩ := h
  simp only at hl hcof hgcd hun hokP
  obtain ⟨h0a, h0b, haB, hbB, ht, hn1⟩ := id hl
  obtain ⟨hsum, hu1, hz0, _⟩ := cofOk_sum hcof
  have hGpos : 0 < G := by rw [← hgcd]; exact Nat.gcd_pos_of_pos_left _ h0a
  unfold dcFinish
  dsimp only
  by_cases hab : a = b
  · -- a = b: the smaller of +u1, -u0
    rw [if_pos hab]
    obtain ⟨r1, r2⟩ := exitOk_result (⟨a, b, h0a, h0b, hcof, Or.inl ⟨rfl, rfl, hab.symm⟩⟩ : ExitOk A V (u0, u1) a (-1))
    rw [← hab, Nat.gcd_self] at hgcd
    rw [(linv_iff.mp hl).2.2, ← hab, max_self, hgcd]
    exact ⟨hookG_resOk ⟨u0, u1, un, ok⟩ (-1) (hgcd ▸ r1) (hgcd ▸ r2), hokP⟩
  rw [if_neg hab]
  obtain ⟨g, S, hF, hg, ⟨t, hid⟩, hbd, _⟩ := lehmerNS_spec Mpir.Gcd.hgcd2_contract a b n hl
  rw [hg.trans hgcd] at hF hid hbd
  by_cases hz : u0 % B = 0 ∧ un = 1
  · -- u0 = 0, u1 = 1: b = V, a = A − k·V, the Lehmer cofactor is the answer
    rw [if_pos hz]
    have hu00 : u0 = 0 := by
      have b0 : u0 < B ^ 1 := nlimbs_isSize.lt_pow_iff.mpr (by rw [← hz.2, hun]; exact le_max_left _ _)
      rw [pow_one] at b0
      have := Nat.mod_eq_of_lt b0
      omega
    obtain ⟨v0, v1, hd, ca, cb⟩ := hcof
    simp only at hd ca cb
    rw [hu00, hz0 hu00] at hd cb
    have hbV : b = V := by omega
    have hv0 : v0 = 1 := by omega
    refine ⟨(resOk_of_finOk hF rfl ⟨t - v1 * S, ?_⟩ (hbV ▸ hbd)).1, fun _ => hF.2.2.1⟩
    rw [ca, hv0, ← hbV]; push_cast
    linear_combination hid
  rw [if_neg hz]
  have hu0pos : 1 ≤ u0 := by
    by_contra hc
    have hu00 : u0 = 0 := by omega
    exact hz ⟨by rw [hu00]; rfl, by rw [hun, hu00, hz0 hu00]; decide⟩
  generalize lehmerNS a b n = l at hF ⊢
  obtain ⟨e1, e2, e3, e4, e5⟩ := hF
  obtain ⟨_, e6, e7⟩ := fin_usize e4 e5
  rw [e1, e2]
  by_cases hu : l.usize = 0
  · -- the Lehmer cofactor is 0: b = g, the answer is -u0
    rw [if_pos hu]
    have hS0 : S = 0 := by
      rw [hu, e4] at e6
      exact Int.natAbs_eq_zero.mp ((nlimbs_eq_zero_iff _).mp e6.symm)
    rw [hS0, mul_zero, zero_add] at hid
    have hbG : b = G := by
      have h2 : b ∣ G := Int.natCast_dvd_natCast.mp ⟨t, hid.symm⟩
      exact Nat.dvd_antisymm h2 (by rw [← hgcd]; exact Nat.gcd_dvd_right _ _)
    obtain ⟨q, hq⟩ : G ∣ a := by rw [← hgcd]; exact Nat.gcd_dvd_left _ _
    have hq2 : 2 ≤ q := by
      rcases q with _ | _ | q
      · rw [Nat.mul_zero] at hq; exact absurd hq h0a.ne'
      · rw [Nat.mul_one] at hq; exact absurd (hq.trans hbG.symm) hab
      · exact Nat.le_add_left 2 q
    have hbd' := exit_d1 hcof h0b (by rw [hq, hbG, Nat.mul_comm] : a = q * b) hq2
    obtain ⟨tb, htb⟩ := cofOk_b hcof
    rw [hbG] at hbd' htb
    exact ⟨resOk_mk true _ rfl (by simp) ⟨tb, htb⟩ hbd', fun hp => by simp only [hokP hp, e3]; rfl⟩
  rw [if_neg hu]
  -- general case: the second Lehmer cofactor through compute_v, then S·u1 − t·u0
  have hSne : S ≠ 0 := by
    intro h0
    rw [h0, Int.natAbs_zero] at e4
    rw [e4, nlimbs_zero] at e6
    exact hu (Int.natAbs_eq_zero.mp e6)
  have hext := ext1Bound_of_cofBound a b G S t h0a h0b hab hgcd.symm hid hbd hSne
  have hsgn : (0 < S ∧ t ≤ 0) ∨ (S < 0 ∧ 0 ≤ t) := by
    rcases hext with ⟨x1, x2, _⟩ | ⟨x1, x2, _⟩
    · exact Or.inl ⟨lt_of_le_of_ne x1 hSne.symm, x2⟩
    · exact Or.inr ⟨lt_of_le_of_ne x1 hSne, x2⟩
  obtain ⟨hident, hbound⟩ := combine_ok hcof hGpos hid hext
  have hval := combine_abs S t u0 u1 hsgn
  rw [← e4] at hval
  have hupos : 0 < l.up := e4 ▸ Int.natAbs_pos.mpr hSne
  have hcv : computeV a b G l.up l.usize = (t.natAbs, nlimbs t.natAbs) := by
    apply computeV_spec a b G l.up t.natAbs l.usize h0a h0b hGpos (by rw [← hgcd]; exact Nat.gcd_le_left _ h0a) hupos e6
    rcases hsgn with ⟨x1, x2⟩ | ⟨x1, x2⟩
    · rw [if_pos (lt_of_le_of_ne (not_lt.mp (mt e7.mp (not_lt.mpr x1.le))) (Ne.symm hu))]
      have : ((b * t.natAbs + G : Nat) : Int) = ((a * l.up : Nat) : Int) := by
        rw [e4, Nat.cast_add, Nat.cast_mul, Nat.cast_mul, Int.natCast_natAbs, Int.natCast_natAbs, abs_of_pos x1,
          abs_of_nonpos x2]
        linear_combination -hid
      exact_mod_cast this
    · rw [if_neg (not_lt.mpr (e7.mpr x1).le)]
      have : ((b * t.natAbs : Nat) : Int) = ((a * l.up + G : Nat) : Int) := by
        rw [e4, Nat.cast_add, Nat.cast_mul, Nat.cast_mul, Int.natCast_natAbs, Int.natCast_natAbs, abs_of_neg x1,
          abs_of_nonneg x2]
        linear_combination hid
      exact_mod_cast this
  rw [hcv]
  simp only
  have hS' : S * u1 - t * u0 = if decide (l.usize < 0) = true
      then -((u1 * l.up + u0 * t.natAbs : Nat) : Int) else (u1 * l.up + u0 * t.natAbs : Nat) := by
    rw [hval]; simp only [decide_eq_true_eq, e7]
  have hxN : u1 * l.up + u0 * t.natAbs < B ^ N := by
    rw [natAbs_of_signed _ hS']; exact lt_trans (cofBound_natAbs_lt hbound hGpos) hV
  rw [nlimbs_isSize.lt_pow_iff] at hxN
  have hp := le_trans (nlimbs_isSize.mono (Nat.le_add_right (u1 * l.up) (u0 * t.natAbs))) hxN
  have hflag1 : l.usize.natAbs + nlimbs u1 ≤ N + 1 := by
    rw [e6, Nat.add_comm]
    exact le_trans (nlimbs_isSize.mul_ge (Nat.pos_iff_ne_zero.mp hu1) hupos.ne') (Nat.succ_le_succ hp)
  by_cases ht0 : nlimbs t.natAbs > 0
  · rw [if_pos ht0, add_size (u1 * l.up) (u0 * t.natAbs)]
    refine ⟨resOk_mk _ _ rfl hS' hident hbound, fun hp' => ?_⟩
    have hq := le_trans (nlimbs_isSize.mono (Nat.le_add_left (u0 * t.natAbs) (u1 * l.up))) hxN
    have hflag2 : nlimbs t.natAbs + nlimbs u0 ≤ N + 1 := by
      rw [Nat.add_comm]
      exact le_trans (nlimbs_isSize.mul_ge (Nat.pos_iff_ne_zero.mp hu0pos) (nlimbs_pos_iff.mp ht0).ne') (Nat.succ_le_succ hq)
    have hun' : (if nlimbs (u0 * t.natAbs) ≤ nlimbs (u1 * l.up) then nlimbs (u1 * l.up) else nlimbs (u0 * t.natAbs)) < N + 1 := by
      split
      · exact Nat.lt_succ_of_le hp
      · exact Nat.lt_succ_of_le hq
    show (ok && l.ok && decide (_ ≤ N + 1) && decide (_ ≤ N + 1) && decide (_ < N + 1)) = true
    rw [hokP hp', e3, decide_eq_true hflag1, decide_eq_true hflag2, decide_eq_true hun']; rfl
  · rw [if_neg ht0]
    have ht00 : t.natAbs = 0 := (nlimbs_eq_zero_iff _).mp (by omega)
    rw [ht00, Nat.mul_zero, Nat.add_zero] at hS'
    refine ⟨resOk_mk _ _ rfl hS' hident hbound, fun hp => ?_⟩
    show (ok && l.ok && decide (_ ≤ N + 1)) = true
    rw [hokP hp, e3]
    simp only [Bool.and_self, Bool.true_and, decide_eq_true_eq]
    exact hflag1

theorem resOk_S {A V G : Nat} {r : Fin} (h : ResOk A V G r) :
    r.g = G ∧ r.gn = nlimbs G ∧ r.up = r.S.natAbs ∧ r.usize.natAbs = nlimbs r.up ∧ (r.usize < 0 ↔ r.S < 0) ∧
    (∃ t : Int, (A : Int) * r.S + V * t = G) ∧ CofBound V G r.S := by
  obtain ⟨S, h1, h2, h3, h4, h5, h6⟩ := h
  obtain ⟨hS, e6, e7⟩ := fin_usize h3 h4
  rw [hS]
  exact ⟨h1, h2, h3, e6, e7, h5, h6⟩

/-- a finished call on the reduced operand A ≡ U (mod V), in the terms of the caller -/
theorem resOk_contract {U A V q : Nat} {r : Fin} {P : Prop} (hV : 0 < V) (hU : U = A + V * q)
    (h : ResOk A V (Nat.gcd A V) r ∧ (P → r.ok = true)) :
    mpnGcdextOk U V r.g r.S ∧ CofBound V r.g r.S ∧ r.gn = nlimbs r.g ∧ r.up = r.S.natAbs ∧ r.usize.natAbs = nlimbs r.up ∧
      (r.usize < 0 ↔ r.S < 0) ∧ (P → r.ok = true) := by
  obtain ⟨k1, k2, k3, k4, k5, ⟨t, ht⟩, k7⟩ := resOk_S h.1
  rw [k1]
  exact ⟨(contract_of_reduced hV hU rfl (Int.emod_eq_zero_of_dvd ⟨t, by linear_combination -ht⟩) k7).2.2,
    k7, k2, k3, k4, k5, h.2⟩

/-- `hR`: the loop calls `hg` (= mpn_hgcd) on n − n/3 limbs at most -/
theorem mpnGcdextS_dc_spec (hg : Nat → Nat → Nat → HM → StepRes) (R dcThr U V : Nat) (hok : HgOk hg R) (h10 : 10 ≤ dcThr)
    (hV0 : 0 < V) (hle : nlimbs V ≤ nlimbs U) (hdc : dcThr ≤ nlimbs V) (hR : nlimbs V - nlimbs V / 3 < R) :
    let r := mpnGcdextS hg dcThr U (nlimbs U) V (nlimbs V)
    mpnGcdextOk U V r.g r.S ∧ CofBound V r.g r.S ∧ r.gn = nlimbs r.g ∧ r.up = r.S.natAbs ∧ r.usize.natAbs = nlimbs r.up ∧
      (r.usize < 0 ↔ r.S < 0) ∧ (HgMn hg R → r.ok = true) := by
  unfold mpnGcdextS
  dsimp only
  rcases reduced_operand hV0 hle _ rfl with ⟨hc, hd⟩ | ⟨hc, hl, q, hU⟩
  · rw [if_pos hc]
    obtain ⟨c1, c2⟩ := contract_of_dvd hV0 hd
    exact ⟨c1, c2, rfl, rfl, by rw [nlimbs_zero]; rfl, by simp [Fin.S], fun _ => rfl⟩
  · rw [if_neg hc, if_neg (by omega)]
    generalize (if nlimbs U > nlimbs V then U % V else U) = A at hl hU
    have d1 := dcFirst_spec hg R A V (nlimbs V) hok (by omega)
      (lt_of_le_of_lt (Nat.sub_le_sub_left (Nat.div_le_div_left (by decide : 2 ≤ 3) (by decide)) _) hR) hl
    cases hd : dcFirst hg (nlimbs V + 1) A V (nlimbs V) with
    | inr r' => rw [hd] at d1; exact resOk_contract hV0 hU d1
    | inl s =>
      rw [hd] at d1
      simp only at d1 ⊢
      have d2 := dcLoop_spec hg R dcThr A V (Nat.gcd A V) (nlimbs V) hok (by omega) hR hl.2.2.1 (nlimbs_isSize.lt_pow V)
        (s.a + s.b + 1) s d1 (by omega)
      cases hd2 : dcLoop hg dcThr (nlimbs V + 1) (s.a + s.b + 1) s with
      | inr r' => rw [hd2] at d2; exact resOk_contract hV0 hU d2
      | inl s' =>
        rw [hd2] at d2
        exact resOk_contract hV0 hU (dcFinish_spec A V (Nat.gcd A V) (nlimbs V) (HgMn hg R) (nlimbs_isSize.lt_pow V) s' d2)

end Mpir.Gcdext
