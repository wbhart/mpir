/- mpir_fft_mulmod_2expp1 at value level: the negacyclic transforms, then the naive convolution modulo 2^64 and the recombination. -/

import MpirProofs.Lemmas.FftXMul
import Mpir.Model.FftNeg
import Mpir.Model.FftMulmod

namespace Mpir.FftX
open Mpir Finset

/-- the inverse weight of position k < 2n, up to sign: (√2)^((2n−k)·w) -/
def uwN (wn w n k : Nat) : Int :=
  if w % 2 = 1 then (if k % 2 = 0 then 2 ^ ((n - k / 2) * w) else sq2 wn (2 * n - k) w) else 2 ^ ((2 * n - k) * (w / 2))

def negW (d w : Nat) (xs : List Int) : List Int :=
  (List.range (2 * 2 ^ d)).map fun k => el xs k * twN (wnOf (2 ^ d) w) w k

theorem pow_succ_mod2 (d i : Nat) : (2 ^ (d + 1) + i) % 2 = i % 2 := by
  rw [pow_succ, Nat.add_comm, Nat.add_mul_mod_self_right]

theorem fft_negacyclic_eq (d w : Nat) (xs : List Int) :
    fft_negacyclic (d + 1) w xs = fft_radix2 (d + 1) w (negW (d + 1) w xs) := by
  have key : ∀ i < 2 ^ (d + 1),
      (if w % 2 = 1 then
        if i % 2 = 0 then
          bfly (adj (el xs i) (i / 2) w) (adj (el xs (2 ^ (d + 1) + i)) ((2 ^ (d + 1) + i) / 2) w) i w
        else
          bfly (adjSqrt2 (wnOf (2 ^ (d + 1)) w) (el xs i) i w)
            (adjSqrt2 (wnOf (2 ^ (d + 1)) w) (el xs (2 ^ (d + 1) + i)) (2 ^ (d + 1) + i) w) i w
      else bfly (adj (el xs i) i (w / 2)) (adj (el xs (2 ^ (d + 1) + i)) (2 ^ (d + 1) + i) (w / 2)) i w) =
      bfly (el (negW (d + 1) w xs) i) (el (negW (d + 1) w xs) (2 ^ (d + 1) + i)) i w := by
    intro i hi
    rw [negW, el_range_map _ _ _ (by omega), el_range_map _ _ _ (by omega), twN, twN, pow_succ_mod2 d i]
    split_ifs <;> rfl
  unfold fft_negacyclic
  simp only [Nat.add_sub_cancel]
  rw [fft_radix2_succ]
  congr 2
  · exact fsts_congr _ _ _ fun i hi => by rw [key i hi]
  · exact snds_congr _ _ _ fun i hi => by rw [key i hi]

theorem length_fft_negacyclic (d w : Nat) (xs : List Int) : (fft_negacyclic (d + 1) w xs).length = 2 ^ (d + 1 + 1) := by
  rw [fft_negacyclic_eq, length_fft_radix2]

theorem el_ifft_negacyclic (d w : Nat) (ys : List Int) (k : Nat) (hk : k < 2 ^ (d + 1 + 1)) :
    el (ifft_negacyclic (d + 1) w ys) k =
      -(el (ifft_radix2 (d + 1) w ys) k * uwN (wnOf (2 ^ (d + 1)) w) w (2 ^ (d + 1)) k) := by
  have e : ∀ i < 2 ^ (d + 1), 2 * 2 ^ (d + 1) - (2 ^ (d + 1) + i) = 2 ^ (d + 1) - i := fun i _ => by omega
  unfold ifft_negacyclic
  simp only [Nat.add_sub_cancel, ifft_radix2]
  rw [pow_succ' 2 (d + 1)] at hk
  apply lt_two_mul_cases hk <;> intro i hi
  · rw [el_loop_lo _ _ _ hi, el_loop_lo _ _ _ hi, uwN]
    split_ifs <;> rfl
  · rw [el_loop_hi _ _ _ hi, el_loop_hi _ _ _ hi, uwN, pow_succ_mod2 d i, e i hi]
    split_ifs <;> rfl

section ring
variable {S : Type} [CommRing S] (f : ℤ →+* S)

/-- weight times inverse weight: τ^(2n·w) = −1 -/
theorem f_twN_uwN (d w k : Nat) (hz : f 2 ^ (2 ^ d * w) = -1) (hτ : f (s2 (2 ^ d * w)) ^ 2 = f 2) (hk : k < 2 * 2 ^ d)
    (hd1 : 1 ≤ d) :
    f (twN (2 ^ d * w) w k) * f (uwN (2 ^ d * w) w (2 ^ d) k) = -1 := by
  have hu : f (uwN (2 ^ d * w) w (2 ^ d) k) = f (s2 (2 ^ d * w)) ^ ((2 * 2 ^ d - k) * w) := by
    obtain ⟨e, rfl⟩ : ∃ e, d = e + 1 := ⟨d - 1, by omega⟩
    have hp := pow_succ' 2 e
    have := f_twN f (2 ^ (e + 1) * w) w (2 * 2 ^ (e + 1) - k) hτ
    unfold twN at this
    unfold uwN
    split_ifs with hw hk2
    · rw [if_pos hw, if_pos (by omega), show (2 * 2 ^ (e + 1) - k) / 2 = 2 ^ (e + 1) - k / 2 by omega] at this
      exact this
    · rw [if_pos hw, if_neg (by omega)] at this; exact this
    · rw [if_neg hw] at this; exact this
  rw [f_twN f _ w k hτ, hu, ← pow_add, ← Nat.add_mul, Nat.add_sub_cancel' (le_of_lt hk),
    show 2 * 2 ^ d * w = 2 * (2 ^ d * w) by ring, pow_mul, hτ, hz]

theorem f_negW (d w : Nat) (xs : List Int) (hd : 64 ∣ 2 ^ d * w) (hτ : f (s2 (2 ^ d * w)) ^ 2 = f 2) (k : Nat)
    (hk : k < 2 * 2 ^ d) : f (el (negW d w xs) k) = f (el xs k) * f (s2 (2 ^ d * w)) ^ (k * w) := by
  unfold negW
  rw [el_range_map _ _ _ hk, map_mul, wnOf_eq _ _ hd, f_twN f _ w k hτ]

/-- position k holds Σ x_j Y^j at Y = τ^(w·(2·rev k + 1)), an odd power of the 4n-th root of unity τ^w -/
theorem fft_negacyclic_dft (d w : Nat) (hd : 64 ∣ 2 ^ (d + 1) * w) (hz : f 2 ^ (2 ^ (d + 1) * w) = -1) (xs : List Int)
    (k : Nat) (hk : k < 2 ^ (d + 1 + 1)) :
    f (el (fft_negacyclic (d + 1) w xs) k) =
      ∑ j ∈ range (2 * 2 ^ (d + 1)), f (el xs j) *
        (f (s2 (2 ^ (d + 1) * w)) ^ (w * (2 * rev (d + 1 + 1) k + 1))) ^ j := by
  have hτ := s2_sq f (2 ^ (d + 1) * w) (four_dvd_of_64 _ hd) hz
  rw [fft_negacyclic_eq, fft_radix2_dft f (d + 1) w _ hz k hk, pow_succ' 2 (d + 1)]
  apply sum_congr rfl; intro j hj
  rw [f_negW f (d + 1) w xs hd hτ j (mem_range.mp hj), ← hτ]
  simp only [← pow_mul, mul_assoc, ← pow_add]
  congr 2; ring

theorem recovers_ifft_negacyclic (d w : Nat) (hd : 64 ∣ 2 ^ (d + 1) * w) (hz : f 2 ^ (2 ^ (d + 1) * w) = -1) :
    Recovers f (2 ^ (d + 1 + 1)) (2 ^ (d + 1 + 1)) 1 (1 * 2 ^ (d + 1 + 1)) (fft_negacyclic (d + 1) w)
      (ifft_negacyclic (d + 1) w) := by
  intro xs ys h _ j hj
  have hu : f 2 ^ (2 * (2 ^ (d + 1) * w)) = 1 := by rw [pow_mul' (f 2) 2 _, hz]; norm_num
  have hτ := s2_sq f (2 ^ (d + 1) * w) (four_dvd_of_64 _ hd) hz
  have hj2 : j < 2 * 2 ^ (d + 1) := by rw [← pow_succ']; exact hj
  -- the radix-2 inverse gives 2n times the weighted vector, the unweighting removes the weight
  rw [el_ifft_negacyclic _ _ _ _ hj, map_neg, map_mul, wnOf_eq _ _ hd,
    (recovers_ifft_radix2 (d + 1) w hd hu 1).inverts (negW (d + 1) w xs) ys
      (fun k hk => by rw [h k hk, one_mul, fft_negacyclic_eq]) j hj,
    f_negW f (d + 1) w xs hd hτ j hj2, ← f_twN f _ w j hτ]
  linear_combination (-(2 ^ (d + 1 + 1) * f (el xs j))) * f_twN_uwN f (d + 1) w j hz hτ hj2 (by omega)

/-- the Cauchy coefficients folded at degree m: c_k + c_(m+k)·y^m -/
theorem cauchy_fold {R : Type} [CommRing R] (a b : Nat → R) (y : R) (m : Nat) (ha : ∀ i, m ≤ i → a i = 0)
    (hb : ∀ k, m ≤ k → b k = 0) :
    (∑ i ∈ range m, a i * y ^ i) * (∑ k ∈ range m, b k * y ^ k) =
      ∑ k ∈ range m, ((∑ i ∈ range (k + 1), a i * b (k - i)) + (∑ i ∈ range (m + k + 1), a i * b (m + k - i)) * y ^ m) *
        y ^ k := by
  have ext : ∀ c : Nat → R, (∀ i, m ≤ i → c i = 0) → ∑ i ∈ range (2 * m), c i * y ^ i = ∑ i ∈ range m, c i * y ^ i :=
    fun c hc => (sum_subset (range_subset_range.mpr (by omega)) fun i _ hi => by
      rw [hc i (by simpa using hi)]; ring).symm
  rw [← ext a ha, ← ext b hb, ← cauchy_range a b y (2 * m) m m ha hb (by omega), two_mul m, sum_range_add,
    ← sum_add_distrib]
  exact sum_congr rfl fun k _ => by rw [pow_add]; ring

end ring

noncomputable def negconv (a b : List Int) (m : Nat) : List Int :=
  (List.range m).map fun k => el (conv a b (2 * m)) k - el (conv a b (2 * m)) (m + k)

theorem el_negconv (a b : List Int) (m k : Nat) (hk : k < m) :
    el (negconv a b m) k = (∑ i ∈ range (k + 1), el a i * el b (k - i)) - ∑ i ∈ range (m + k + 1), el a i * el b (m + k - i) := by
  unfold negconv
  rw [el_range_map _ _ _ hk, el_conv _ _ _ _ (by omega), el_conv _ _ _ _ (by omega)]

section ring
variable {S : Type} [CommRing S] (f : ℤ →+* S)

/-- the transform evaluates at points y with y^(2n) = −1, where folding is negation -/
theorem fft_negacyclic_conv (d w : Nat) (hd : 64 ∣ 2 ^ (d + 1) * w) (hz : f 2 ^ (2 ^ (d + 1) * w) = -1)
    (a b : List Int) (ha : ∀ i, 2 * 2 ^ (d + 1) ≤ i → el a i = 0) (hb : ∀ i, 2 * 2 ^ (d + 1) ≤ i → el b i = 0)
    (k : Nat) (hk : k < 2 ^ (d + 1 + 1)) :
    f (el (fft_negacyclic (d + 1) w (negconv a b (2 * 2 ^ (d + 1)))) k) =
      f (el (fft_negacyclic (d + 1) w a) k) * f (el (fft_negacyclic (d + 1) w b) k) := by
  have hτ := s2_sq f (2 ^ (d + 1) * w) (four_dvd_of_64 _ hd) hz
  have hy : (f (s2 (2 ^ (d + 1) * w)) ^ (w * (2 * rev (d + 1 + 1) k + 1))) ^ (2 * 2 ^ (d + 1)) = -1 := by
    rw [show (f (s2 (2 ^ (d + 1) * w)) ^ (w * (2 * rev (d + 1 + 1) k + 1))) ^ (2 * 2 ^ (d + 1)) =
        ((f (s2 (2 ^ (d + 1) * w)) ^ 2) ^ (2 ^ (d + 1) * w)) ^ (2 * rev (d + 1 + 1) k + 1) by
      simp only [← pow_mul]; congr 1; ring, hτ, hz, neg_one_pow_two_mul_add_one]
  rw [fft_negacyclic_dft f d w hd hz _ k hk, fft_negacyclic_dft f d w hd hz a k hk, fft_negacyclic_dft f d w hd hz b k hk,
    cauchy_fold (fun i => f (el a i)) (fun i => f (el b i)) _ _ (fun i hi => by simp [ha i hi]) (fun i hi => by simp [hb i hi]),
    hy]
  apply sum_congr rfl; intro j hj
  rw [el_negconv _ _ _ _ (mem_range.mp hj), map_sub, map_sum, map_sum]
  simp only [map_mul]; ring

end ring

theorem neg_conv_chain (d w L : Nat) (a b : List Int) (hL : 2 ^ (d + 1) * w = 64 * L) (hw : 1 ≤ w)
    (ha : ∀ i, 2 * 2 ^ (d + 1) ≤ i → el a i = 0) (hb : ∀ i, 2 * 2 ^ (d + 1) ≤ i → el b i = 0)
    (j : Nat) (hj : j < 2 * 2 ^ (d + 1)) :
    el (ifft_negacyclic (d + 1) w
        ((List.range (2 * 2 ^ (d + 1))).map fun j =>
          pointwise L (64 * L) (el (fft_negacyclic (d + 1) w a) j) (el (fft_negacyclic (d + 1) w b) j))) j *
        2 ^ (2 * (64 * L) - (d + 1 + 1))
      ≡ el (negconv a b (2 * 2 ^ (d + 1))) j [ZMOD pOf (64 * L)] := by
  have hd : 64 ∣ 2 ^ (d + 1) * w := ⟨L, hL⟩
  obtain ⟨hL1, hle⟩ := depth_le (d + 1) w L hL hw
  have hp := pow_succ' 2 (d + 1)
  have hz : (Int.castRingHom (ZMod (2 ^ (64 * L) + 1))) 2 ^ (2 ^ (d + 1) * w) = -1 := zmod_two_pow_of hL
  rw [← zmod_eq_iff, map_mul,
    (recovers_ifft_negacyclic _ d w hd hz).inverts (negconv a b (2 * 2 ^ (d + 1))) _ (fun k hk => ?_) j (by omega)]
  · simpa using zmod_unscale (64 * L) (d + 1 + 1) (by omega) _
  · rw [el_range_map _ _ _ (by omega), (zmod_eq_iff (64 * L) _ _).mpr (pointwise_spec L hL1 _ _), map_mul,
      fft_negacyclic_conv _ d w hd hz a b ha hb k hk]

/-! ### mpir_fft_naive_convolution_1 (the convolution modulo 2^64), the recombination of the two residues
   (mulmod_2expp1.c:127-139) and the sign correction (:153-167) -/


theorem length_updAt (r : List Nat) (k : Nat) (f : Nat → Nat) : (updAt r k f).length = r.length := by simp [updAt]

theorem getD_updAt (r : List Nat) (k : Nat) (f : Nat → Nat) (p : Nat) (hp : p < r.length) :
    (updAt r k f).getD p 0 = if p = k then f (r.getD p 0) else r.getD p 0 := by
  simp [updAt, List.getD_eq_getElem?_getD, hp]

theorem fold_updAt (pos : Nat → Nat) (base c : Nat) (hpos : ∀ j < c, pos j = base + j) (G : Nat → Nat → Nat) (r : List Nat) :
    ((List.range c).foldl (fun r j => updAt r (pos j) (G j)) r).length = r.length ∧
    ∀ p < r.length, ((List.range c).foldl (fun r j => updAt r (pos j) (G j)) r).getD p 0 =
      if base ≤ p ∧ p < base + c then G (p - base) (r.getD p 0) else r.getD p 0 := by
  induction c with
  | zero => simp
  | succ c ih =>
    obtain ⟨hl, hv⟩ := ih (fun j hj => hpos j (by omega))
    rw [List.range_succ, List.foldl_append, List.foldl_cons, List.foldl_nil]
    refine ⟨by rw [length_updAt, hl], ?_⟩
    intro p hp
    rw [getD_updAt _ _ _ _ (by rw [hl]; exact hp), hv p hp, hpos c (by omega)]
    by_cases h1 : p = base + c
    · subst h1
      rw [if_pos rfl, if_neg (by omega), if_pos (by omega)]
      congr 1; omega
    · rw [if_neg h1]
      by_cases h2 : base ≤ p ∧ p < base + c
      · rw [if_pos h2, if_pos (by omega)]
      · rw [if_neg h2, if_neg (by omega)]

/-- the term that row i of the loop adds to position k, in ZMod 2^64 -/
noncomputable def ncTerm (ii jj : List Nat) (i k : Nat) : ZMod B :=
  if i ≤ k then (ii.getD i 0 : ZMod B) * (jj.getD (k - i) 0 : ZMod B)
  else - ((ii.getD i 0 : ZMod B) * (jj.getD (ii.length + k - i) 0 : ZMod B))

theorem cast_mod_B (a : Nat) : ((a % B : Nat) : ZMod B) = (a : ZMod B) := ZMod.natCast_mod a B

theorem cast_B_sub (t : Nat) : ((B - t % B : Nat) : ZMod B) = - (t : ZMod B) := by
  have hlt : t % B < B := Nat.mod_lt _ (by unfold B; norm_num)
  rw [Nat.cast_sub (le_of_lt hlt), ZMod.natCast_self, cast_mod_B]; ring

/-- mpir_fft_naive_convolution_1: word k of the result is Σ_{i ≤ k} ii[i]·jj[k−i] − Σ_{i > k} ii[i]·jj[m+k−i] modulo 2^64 -/
theorem naive_convolution_1_spec (ii jj : List Nat) (hm : 1 ≤ ii.length) :
    (fft_naive_convolution_1 ii jj).length = ii.length ∧
    ∀ k < ii.length, (((fft_naive_convolution_1 ii jj).getD k 0 : Nat) : ZMod B) =
      ∑ i ∈ range ii.length, ncTerm ii jj i k := by
  unfold fft_naive_convolution_1
  simp only []
  generalize hmm : ii.length = m at *
  -- the invariant of the outer loop
  have inv : ∀ I, I ≤ m - 1 →
      let r := (List.range I).foldl (fun r i0 =>
        (List.range (i0 + 1)).foldl (fun r j0 =>
          updAt r (i0 + 1 + (m - (i0 + 1) + j0) - m) fun v => (v + (B - ii.getD (i0 + 1) 0 * jj.getD (m - (i0 + 1) + j0) 0 % B)) % B)
          ((List.range (m - (i0 + 1))).foldl (fun r j =>
            updAt r (i0 + 1 + j) fun v => (v + ii.getD (i0 + 1) 0 * jj.getD j 0) % B) r))
        ((List.range m).map fun i => ii.getD 0 0 * jj.getD i 0 % B)
      r.length = m ∧ ∀ k < m, ((r.getD k 0 : Nat) : ZMod B) = ∑ i ∈ range (I + 1), ncTerm ii jj i k := by
    intro I
    induction I with
    | zero =>
      intro _
      refine ⟨by simp, ?_⟩
      intro k hk
      simp only [List.range_zero, List.foldl_nil]
      rw [show (List.map (fun i => ii.getD 0 0 * jj.getD i 0 % B) (List.range m)).getD k 0 = ii.getD 0 0 * jj.getD k 0 % B by
        simp [List.getD_eq_getElem?_getD, hk]]
      rw [cast_mod_B]; simp [ncTerm]
    | succ I ih =>
      intro hI
      obtain ⟨hl, hv⟩ := ih (by omega)
      rw [List.range_succ, List.foldl_append, List.foldl_cons, List.foldl_nil]
      generalize hr : (List.range I).foldl _ _ = r at *
      obtain ⟨l1, v1⟩ := fold_updAt (fun j => I + 1 + j) (I + 1) (m - (I + 1)) (fun _ _ => rfl)
        (fun j v => (v + ii.getD (I + 1) 0 * jj.getD j 0) % B) r
      generalize hr1 : (List.range (m - (I + 1))).foldl _ r = r1 at *
      obtain ⟨l2, v2⟩ := fold_updAt (fun j0 => I + 1 + (m - (I + 1) + j0) - m) 0 (I + 1) (fun j hj => by omega)
        (fun j0 v => (v + (B - ii.getD (I + 1) 0 * jj.getD (m - (I + 1) + j0) 0 % B)) % B) r1
      refine ⟨by rw [l2, l1, hl], ?_⟩
      intro k hk
      rw [v2 k (by rw [l1, hl]; exact hk), v1 k (by rw [hl]; exact hk), sum_range_succ, ← hv k hk]
      unfold ncTerm
      rw [hmm]
      by_cases hki : I + 1 ≤ k
      · rw [if_neg (by omega), if_pos ⟨hki, by omega⟩, if_pos hki, cast_mod_B]
        push_cast; ring
      · rw [if_pos ⟨by omega, by omega⟩, if_neg (by omega), if_neg hki, cast_mod_B, Nat.cast_add, cast_B_sub]
        have e : m - (I + 1) + (k - 0) = m + k - (I + 1) := by omega
        rw [e]; push_cast; ring
  obtain ⟨hl, hv⟩ := inv (m - 1) le_rfl
  refine ⟨hl, ?_⟩
  intro k hk
  rw [hv k hk, show m - 1 + 1 = m by omega]

/-- The recombination step of mpir_fft_mulmod_2expp1 (mulmod_2expp1.c:127-139): a coefficient c of absolute value below
    B^(L+1)/2 is determined by its canonical residue v modulo B^L + 1 and its residue modulo B.  With
    τ = (c mod B − v mod B) mod B (the word `r[j] - ii[j][0]`) the number v + τ·(B^L + 1) that the code stores is c itself
    when c ≥ 0 and c + B·(B^L + 1) = c + B^(L+1) + B when c < 0 (the cases the sign corrections :147-163 then remove). -/
theorem negacyclic_crt_lemma (L : Nat) (hL : 1 ≤ L) (c v : Int) (hv0 : 0 ≤ v) (hv1 : v ≤ (B : Int) ^ L)
    (hcv : c ≡ v [ZMOD (B : Int) ^ L + 1]) (hlo : -((B : Int) ^ (L + 1)) ≤ 2 * c) (hhi : 2 * c < (B : Int) ^ (L + 1)) :
    (0 ≤ c → v + ((c % B - v % B) % B) * ((B : Int) ^ L + 1) = c) ∧
    (c < 0 → v + ((c % B - v % B) % B) * ((B : Int) ^ L + 1) = c + B * ((B : Int) ^ L + 1)) := by
  have hB : (0 : Int) < B := by unfold B; norm_num
  have hB2 : (2 : Int) ≤ B := by unfold B; norm_num
  have hBL : (1 : Int) ≤ (B : Int) ^ L := one_le_pow₀ (by omega)
  obtain ⟨T, hT⟩ : ∃ T, c - v = ((B : Int) ^ L + 1) * T := by
    have := (Int.emod_emod_of_dvd c (dvd_refl ((B : Int) ^ L + 1)))
    exact (Int.modEq_iff_dvd.mp hcv.symm)
  have hps : (B : Int) ^ (L + 1) = B * (B : Int) ^ L := by rw [pow_succ]; ring
  -- B^L + 1 ≡ 1 modulo B
  have hp1 : ((B : Int) ^ L + 1) % B = 1 := by
    obtain ⟨L', rfl⟩ : ∃ L', L = L' + 1 := ⟨L - 1, by omega⟩
    rw [pow_succ, Int.add_emod, Int.mul_emod_left]
    simp only [zero_add, Int.emod_emod_of_dvd _ (dvd_refl _)]
    exact Int.emod_eq_of_lt (by norm_num) (by omega)
  have hτ : (c % B - v % B) % B = T % B := by
    rw [← Int.sub_emod, hT, Int.mul_emod, hp1, one_mul, Int.emod_emod_of_dvd _ (dvd_refl _)]
  -- |T| < B
  have hBP : 2 * (B : Int) ^ L ≤ B * (B : Int) ^ L := mul_le_mul_of_nonneg_right hB2 (by positivity)
  rw [hps] at hlo hhi
  have hT1 : T < B := by
    by_contra h
    have := mul_le_mul_of_nonneg_left (not_lt.mp h) (show (0 : Int) ≤ (B : Int) ^ L + 1 by omega)
    linarith
  have hT2 : -(B : Int) < T := by
    by_contra h
    have := mul_le_mul_of_nonneg_left (not_lt.mp h) (show (0 : Int) ≤ (B : Int) ^ L + 1 by omega)
    linarith
  rw [hτ]
  constructor
  · intro hc
    have hT0 : 0 ≤ T := by
      by_contra h
      have h := not_le.mp h
      have : ((B : Int) ^ L + 1) * T ≤ ((B : Int) ^ L + 1) * (-1) := mul_le_mul_of_nonneg_left (by omega) (by omega)
      omega
    rw [Int.emod_eq_of_lt hT0 hT1]
    linarith
  · intro hc
    have hT0 : T < 0 := by
      by_contra h
      have h := not_lt.mp h
      have : 0 ≤ ((B : Int) ^ L + 1) * T := mul_nonneg (by omega) h
      omega
    have h1 : (T + (B : Int)) % B = T % B := Int.add_emod_right T B
    have h2 : (T + (B : Int)) % B = T + B := Int.emod_eq_of_lt (by omega) (by omega)
    have : T % B = T + B := by rw [← h1, h2]
    rw [this]
    linarith

/-- The sign correction of mulmod_2expp1.c:153-167 on the stored number W < 2·B^(L+1) (P = B^L): W is the coefficient c
    itself for c ≥ 0 and c + B·(P + 1) for c < 0, |c| < B^(L+1)/2.  For −B ≤ c < 0 the overflow word is set and B is
    subtracted; for c < −B the sign bit of the top limb is set and B + B^(L+1) is subtracted. -/
theorem sign_correct (P W : Nat) (c : Int) (hP : 0 < P) (hlo : -((P : Int) * B) ≤ 2 * c) (hhi : 2 * c < (P : Int) * B)
    (h1 : 0 ≤ c → (W : Int) = c) (h2 : c < 0 → (W : Int) = c + B * ((P : Int) + 1)) :
    ((W % (P * B) : Nat) : Int) -
        (if W / (P * B) ≠ 0 then (B : Int) else if W % (P * B) / P ≥ B / 2 then (B : Int) + (P : Int) * B else 0) = c ∧
    W % (P * B) < P * B ∧ W / (P * B) ≤ 1 := by
  rw [show B / 2 = 9223372036854775808 by decide]
  simp only [B_eq, Nat.cast_ofNat] at hlo hhi h1 h2 ⊢
  by_cases hc : 0 ≤ c
  · have hW := h1 hc
    have hlt : W < P * 18446744073709551616 := by omega
    rw [Nat.mod_eq_of_lt hlt, Nat.div_eq_of_lt hlt, if_neg (by simp),
      if_neg (by rw [ge_iff_le, Nat.le_div_iff_mul_le hP]; omega)]
    omega
  · have hW := h2 (by omega)
    by_cases hcb : 0 ≤ c + 18446744073709551616
    · have hd : W / (P * 18446744073709551616) = 1 := Nat.div_eq_of_lt_le (by omega) (by omega)
      have hm := Nat.div_add_mod W (P * 18446744073709551616)
      rw [hd] at hm ⊢
      rw [if_pos (by simp)]
      omega
    · have hlt : W < P * 18446744073709551616 := by omega
      rw [Nat.mod_eq_of_lt hlt, Nat.div_eq_of_lt hlt, if_neg (by simp),
        if_pos (by rw [ge_iff_le, Nat.le_div_iff_mul_le hP]; omega)]
      omega

theorem recombine_spec (L : Nat) (hL : 1 ≤ L) (c : Int) (v : List Nat) (rj : Nat)
    (hvl : v.length = L + 1) (hvL : Limbs v)
    (hvn : Fft.top v = 0 ∨ (Fft.top v = 1 ∧ val (Fft.lo v) = 0))
    (hcv : c ≡ Fft.rval v [ZMOD (B : Int) ^ L + 1]) (hr : (rj : Int) = c % B)
    (hlo : -((B : Int) ^ (L + 1)) ≤ 2 * c) (hhi : 2 * c < (B : Int) ^ (L + 1)) :
    ((recombine L v rj).1 : Int) -
        (if (recombine L v rj).2 ≠ 0 then (B : Int)
         else if (recombine L v rj).1 / B ^ L ≥ B / 2 then (B : Int) + (B : Int) ^ (L + 1) else 0) = c ∧
    (recombine L v rj).1 < B ^ (L + 1) ∧ (recombine L v rj).2 ≤ 1 := by
  obtain ⟨lo, t, rfl, hlol⟩ := exists_snoc v L hvl
  simp only [Fft.top_snoc, Fft.lo_snoc] at hvn
  have hloL : Limbs lo := (Limbs_snoc.mp hvL).1
  have hBL : 0 < B ^ L := Nat.pow_pos B_pos
  have hlov : val lo < B ^ L := hlol ▸ val_lt lo hloL
  -- the residue as a number vN in [0, B^L]
  have hvN1 : val lo + t * B ^ L ≤ B ^ L := by
    rcases hvn with h | ⟨h, h0⟩
    · rw [h]; omega
    · rw [h, h0]; omega
  have ht1 : t < B / 2 := by rcases hvn with h | ⟨h, _⟩ <;> rw [h] <;> decide
  have hrv : Fft.rval (lo ++ [t]) = ((val lo + t * B ^ L : Nat) : Int) := by
    rw [Fft.rval_snoc, hlol, Fft.sint_of_small t ht1]; push_cast; ring
  -- its low limb
  have hv0 : (lo ++ [t]).getD 0 0 = (val lo + t * B ^ L) % B := by
    obtain ⟨x, xs, rfl⟩ : ∃ x xs, lo = x :: xs := by
      cases lo with
      | nil => simp at hlol; omega
      | cons x xs => exact ⟨x, xs, rfl⟩
    obtain ⟨L', rfl⟩ : ∃ L', L = L' + 1 := ⟨L - 1, by omega⟩
    have hx : x < B := hloL x (by simp)
    simp only [List.cons_append, List.getD_cons_zero, val_cons]
    rw [pow_succ, ← Nat.mul_assoc, Nat.add_mul_mod_self_right, Nat.add_mul_mod_self_left, Nat.mod_eq_of_lt hx]
  unfold recombine
  simp only [Fft.top_snoc, Fft.lo_snoc]
  rw [hv0]
  simp only [show ∀ tau, val lo + tau * B ^ L + tau + t * B ^ L = val lo + t * B ^ L + tau * (B ^ L + 1) from
    fun _ => by ring]
  generalize val lo + t * B ^ L = vN at *
  -- τ = (c mod B − v mod B) mod B as an integer, and the stored number
  have hrj : rj < B := by
    have : (rj : Int) < B := hr ▸ Int.emod_lt_of_pos _ (by exact_mod_cast B_pos)
    exact_mod_cast this
  have hlt : vN % B < B := Nat.mod_lt _ B_pos
  have htau : (((rj + B - vN % B) % B : Nat) : Int) = (c % B - (vN : Int) % B) % B := by
    rw [Int.natCast_mod, Nat.cast_sub (by omega), Nat.cast_add, hr, Int.natCast_mod,
      show c % (B : Int) + B - (vN : Int) % B = (c % B - (vN : Int) % B) + B by ring, Int.add_emod_right]
  obtain ⟨C1, C2⟩ := negacyclic_crt_lemma L hL c (vN : Int) (by positivity) (by exact_mod_cast hvN1)
    (hrv ▸ hcv) hlo hhi
  rw [← htau] at C1 C2
  rw [pow_succ] at hlo hhi ⊢
  rw [pow_succ (B : Int)]
  exact sign_correct (B ^ L) _ c hBL (by exact_mod_cast hlo) (by exact_mod_cast hhi)
    (fun h => by push_cast; exact C1 h) (fun h => by push_cast; exact C2 h)

/-- The negacyclic convolution evaluated at X is the product of the two polynomials evaluated at X, modulo X^m + 1
    (over the integers: the coefficients of the plain product from m on are folded back with a minus sign). -/
theorem negconv_eval_modEq (a b : List Int) (m : Nat) (ha : ∀ i, m ≤ i → el a i = 0) (hb : ∀ i, m ≤ i → el b i = 0) (X : Int) :
    ∑ k ∈ range m, el (negconv a b m) k * X ^ k ≡
      (∑ i ∈ range m, el a i * X ^ i) * (∑ j ∈ range m, el b j * X ^ j) [ZMOD X ^ m + 1] := by
  rw [cauchy_fold (fun i => el a i) (fun i => el b i) X m ha hb]
  apply Int.modEq_iff_dvd.mpr
  refine ⟨∑ k ∈ range m, (∑ i ∈ range (m + k + 1), el a i * el b (m + k - i)) * X ^ k, ?_⟩
  rw [mul_sum, ← sum_sub_distrib]
  apply sum_congr rfl; intro k hk
  rw [el_negconv _ _ _ _ (mem_range.mp hk)]; ring

end Mpir.FftX
