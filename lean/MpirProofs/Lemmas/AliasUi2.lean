/- mpz_{t,f,c}div_r_ui and mpz_{t,f,c}div_qr_ui on the pointer-level model. -/
import MpirProofs.Lemmas.AliasUi
namespace Mpir.AliasMem
open Mpir
open Mpir.DivZ (sizeNat siz sameSign)

/-- the sign the `_r_ui` / `_qr_ui` functions give the one-limb remainder (tdiv_r_ui.c:84, fdiv_r_ui.c:94, cdiv_r_ui.c) -/
theorem uiRem_size (dir ns : Int) (hdir : dir = 0 ∨ dir = -1 ∨ dir = 1) :
    (if dir = 0 then (if ns ≥ 0 then (1 : Int) else -1) else if dir = -1 then 1 else -1) =
      (if decide (dir = 0 ∧ ns < 0 ∨ dir = 1) = true then -((1 : Nat) : Int) else ((1 : Nat) : Int)) := by
  rcases hdir with e | e | e <;> subst e <;> by_cases h0 : ns < 0 <;> simp [h0]

theorem uiRem_value (dir ns : Int) (hdir : dir = 0 ∨ dir = -1 ∨ dir = 1) (k : Nat) :
    DivZ.uiRem dir ns k = (if decide (dir = 0 ∧ ns < 0 ∨ dir = 1) = true then -(k : Int) else (k : Int)) := by
  rw [DivZ.uiRem_value dir ns hdir k]; simp only [decide_eq_true_eq]

theorem uiRem_put (dir : Int) (hdir : dir = 0 ∨ dir = -1 ∨ dir = 1) {s : St} (h : Inv s) {r : Nat} (hr : r < s.nv)
    {b : List Nat} (hbl : b.length = s.alloc r) (hbL : Limbs b) (ha : 1 ≤ s.alloc r) {rl : Nat} (hpos : 1 ≤ rl)
    (hltB : rl < B) (ns : Int) :
    Inv (s.put r (wrAt b 0 [rl]) (if dir = 0 then (if ns ≥ 0 then (1 : Int) else -1) else if dir = -1 then 1 else -1)) ∧
    Upd s (s.put r (wrAt b 0 [rl]) (if dir = 0 then (if ns ≥ 0 then (1 : Int) else -1) else if dir = -1 then 1 else -1)) r ∧
    (s.put r (wrAt b 0 [rl]) (if dir = 0 then (if ns ≥ 0 then (1 : Int) else -1) else if dir = -1 then 1 else -1)).value r =
      DivZ.uiRem dir ns rl := by
  have hvrl : val [rl] = rl := by rw [val_cons, val_nil, Nat.mul_zero, Nat.add_zero]
  obtain ⟨ir, ur, vr⟩ := put_wrAt h hr hbl hbL [rl]
    (if dir = 0 then (if ns ≥ 0 then (1 : Int) else -1) else if dir = -1 then 1 else -1)
    (by rw [hbl]; exact ha) (fun x hx => by rw [List.mem_singleton.mp hx]; exact hltB)
    (by rw [hvrl, DivZ.sizeNat_eq_one.mpr ⟨by omega, hltB⟩, uiRem_size dir ns hdir]; split <;> rfl)
  refine ⟨ir, ur, ?_⟩
  rw [vr, hvrl, uiRem_size dir ns hdir, uiRem_value dir ns hdir rl, sgnv_ofBool _ 1 rl (fun e => absurd e Nat.one_ne_zero)]

/-- `ha` (here and in `div_qr_ui_ok`): `PTR (rem)[0] = rl` (tdiv_r_ui.c:86, tdiv_qr_ui.c:89) is stored without a realloc -/
theorem div_r_ui_post (dir : Int) (hdir : dir = 0 ∨ dir = -1 ∨ dir = 1) {s : St} (h : Inv s) {r n : Nat} (hr : r < s.nv)
    (hn : n < s.nv) (d : Nat) (hd0 : d ≠ 0) (hdB : d < B) (ha : 1 ≤ s.alloc r) :
    ∃ s', div_r_ui dir r n d s = .ok (DivZ.uiRet (DivZ.specR dir (s.value n) d), s') ∧
      Post s s' r (DivZ.specR dir (s.value n) d) := by
  obtain ⟨_, hR⟩ := DivZ.spec_ui dir hdir (s.value n) d hd0
  rw [hR]
  have hmabs : (s.value n).natAbs = s.mag n := value_natAbs s n
  have hsiz : siz (s.value n) = s.size n := (h.norm n hn).symm
  rw [hmabs, hsiz]
  unfold div_r_ui
  simp only [bind, Except.bind, pure, Except.pure]
  rw [if_neg hd0]
  by_cases hz : s.size n = 0
  · rw [if_pos hz]
    have hm0 : s.mag n = 0 := h.mag_zero hn hz
    obtain ⟨i2, u2, v2⟩ := setSize_zero_spec h hr
    refine ⟨_, ?_, Post.of_same_upd (Same.refl s) (Fr.refl s r) u2 i2 ?_⟩
    · rw [hm0]; simp [DivZ.uiRet]
    · rw [v2, hm0]; simp
  · rw [if_neg hz, h.load_var hn]; simp only []
    simp only [show val (s.limbs n) = s.mag n from rfl]
    set rl := s.mag n % d with hrl
    by_cases hr0 : rl = 0
    · rw [if_pos hr0, if_pos hr0]
      obtain ⟨i2, u2, v2⟩ := setSize_zero_spec h hr
      exact ⟨_, by simp [DivZ.uiRet], Post.of_same_upd (Same.refl s) (Fr.refl s r) u2 i2 v2⟩
    · rw [if_neg hr0, if_neg hr0]
      have hrlt : rl < d := Nat.mod_lt _ (Nat.pos_of_ne_zero hd0)
      have hadj : (decide (dir = -1 ∧ s.size n < 0 ∨ dir = 1 ∧ s.size n ≥ 0)) = decide (DivZ.uiAdjust dir rl (s.size n)) :=
        decide_eq_decide.mpr (DivZ.uiAdjust_of_ne_zero dir _ hr0).symm
      rw [hadj]
      set rl' := (if decide (DivZ.uiAdjust dir rl (s.size n)) = true then d - rl else rl) with hrl'
      have hrl'eq : (if DivZ.uiAdjust dir rl (s.size n) then d - rl else rl) = rl' := by
        rw [hrl']; by_cases hc : DivZ.uiAdjust dir rl (s.size n) <;> simp [hc]
      rw [hrl'eq]
      have hpos : 1 ≤ rl' := by rw [hrl']; split <;> omega
      have hltB : rl' < B := by rw [hrl']; split <;> omega
      obtain ⟨b, hb, hbl, hbL⟩ := h.live r hr
      rw [storeAt_ok hb (by rw [hbl]; exact ha)]; simp only []
      obtain ⟨i2, u2, v2⟩ := uiRem_put dir hdir h hr hbl hbL ha hpos hltB (s.size n)
      refine ⟨_, ?_, Post.of_same_upd (Same.refl s) (Fr.refl s r) u2 i2 v2⟩
      rw [DivZ.uiRet, DivZ.uiRem_natAbs]
      rfl

theorem div_r_ui_ok (dir : Int) (hdir : dir = 0 ∨ dir = -1 ∨ dir = 1) {s : St} (h : Inv s) {r n : Nat} (hr : r < s.nv)
    (hn : n < s.nv) (d : Nat) (hd0 : d ≠ 0) (hdB : d < B) (ha : 1 ≤ s.alloc r) :
    ∃ s', div_r_ui dir r n d s = .ok (DivZ.uiRet (DivZ.specR dir (s.value n) d), s') ∧
      Res s s' r (DivZ.specR dir (s.value n) d) := by
  obtain ⟨s', e, p⟩ := div_r_ui_post dir hdir h hr hn d hd0 hdB ha
  exact ⟨s', e, p.res h hr⟩

/-- tdiv_qr_ui.c:89-96 on a state whose block of `quot` already holds the `nn` limbs of the quotient `M` -/
theorem qrUiRem_ok (dir : Int) (hdir : dir = 0 ∨ dir = -1 ∨ dir = 1) {s1 : St} (i1 : Inv s1) {q r : Nat} (hq : q < s1.nv)
    (hr : r < s1.nv) (hqr : q ≠ r) (ha : 1 ≤ s1.alloc r) {b1 : List Nat} (h1 : b1.length = s1.alloc q) (h2 : Limbs b1)
    {nn M rl : Nat} (hnn : 1 ≤ nn) (hfit : nn ≤ b1.length) (h3 : M < B ^ nn) (h4 : 2 ≤ nn → B ^ (nn - 2) ≤ M)
    (hpos : 1 ≤ rl) (hltB : rl < B) (ns : Int) :
    ∃ s', qrUiRem dir q r (s1.ptr q) nn ns rl (s1.setBlk (s1.ptr q) (some (wrAt b1 0 (toLimbs nn M)))) = .ok (rl, s') ∧
      Res2 s1 s' q r (if ns ≥ 0 then (M : Int) else -(M : Int)) (DivZ.uiRem dir ns rl) := by
  obtain ⟨br, hbr, hbrl, hbrL⟩ := i1.live r hr
  have hpqr : s1.ptr q ≠ s1.ptr r := fun e => hqr (i1.inj q r hq hr e)
  -- the two `put`s the function amounts to
  obtain ⟨iq, uq, vq⟩ := put_wrAt i1 hq h1 h2 (toLimbs nn M)
    (if ns ≥ 0 then ((sizeNat M : Nat) : Int) else -((sizeNat M : Nat) : Int))
    (by rw [toLimbs_length]; exact hfit) (Limbs_toLimbs _ _) (by rw [natAbs_ite_pos, val_toLimbs_lt _ _ h3])
  obtain ⟨ir, ur, vr⟩ := uiRem_put dir hdir iq (r := r) (uq.nv ▸ hr) (b := br) (by rw [uq.alloc]; exact hbrl) hbrL
    (by rw [uq.alloc]; exact ha) hpos hltB ns
  unfold qrUiRem; simp only [bind, Except.bind]
  rw [show (s1.setBlk (s1.ptr q) (some (wrAt b1 0 (toLimbs nn M)))).ptr r = s1.ptr r from rfl,
    storeAt_ok ((setBlk_blk_ne _ _ (Ne.symm hpqr)).trans hbr) (by rw [hbrl]; exact ha)]
  simp only []
  unfold qrUiEnd; simp only [bind, Except.bind, pure, Except.pure]
  rw [limbAt_toLimbs (show ((((s1.setBlk (s1.ptr q) (some (wrAt b1 0 (toLimbs nn M)))).setBlk (s1.ptr r)
      (some (wrAt br 0 [rl])))).setSize r
        (if dir = 0 then (if ns ≥ 0 then (1 : Int) else -1) else if dir = -1 then 1 else -1)).blk (s1.ptr q) = _ from
        (setBlk_blk_ne _ _ hpqr).trans ((setBlk_blk_self _ _ _).trans (congrArg some (wrAt_zero _ _))))
      (Nat.sub_lt hnn Nat.one_pos)]
  simp only []
  rw [top_size h3 h4 hnn, put_put_eq' s1 hqr]
  exact ⟨_, rfl, uq.res2 ur i1 hq hr hqr iq ir
    (by rw [vq, val_toLimbs_lt _ _ h3, sgnv_ite _ _ _ DivZ.sizeNat_eq_zero.mp]) vr⟩

theorem div_qr_ui_ok (dir : Int) (hdir : dir = 0 ∨ dir = -1 ∨ dir = 1) {s : St} (h : Inv s) {q r n : Nat} (hq : q < s.nv)
    (hr : r < s.nv) (hn : n < s.nv) (hqr : q ≠ r) (d : Nat) (hd0 : d ≠ 0) (hdB : d < B) (ha : 1 ≤ s.alloc r) :
    ∃ s', div_qr_ui dir q r n d s = .ok (DivZ.uiRet (DivZ.specR dir (s.value n) d), s') ∧
      Res2 s s' q r (DivZ.specQ dir (s.value n) d) (DivZ.specR dir (s.value n) d) := by
  obtain ⟨hQ, hR⟩ := DivZ.spec_ui dir hdir (s.value n) d hd0
  rw [hQ, hR]
  have hmabs : (s.value n).natAbs = s.mag n := value_natAbs s n
  have hsiz : siz (s.value n) = s.size n := (h.norm n hn).symm
  have hnonneg : (0 ≤ s.value n) ↔ (s.size n ≥ 0) := by have := h.size_neg_iff hn; omega
  rw [hmabs, hsiz]
  unfold div_qr_ui
  simp only [bind, Except.bind, pure, Except.pure]
  rw [if_neg hd0]
  by_cases hz : s.size n = 0
  · rw [if_pos hz]
    have hm0 : s.mag n = 0 := h.mag_zero hn hz
    obtain ⟨i1, u1, v1⟩ := setSize_zero_spec h hq
    obtain ⟨i2, u2, v2⟩ := setSize_zero_spec i1 (v := r) (u1.nv ▸ hr)
    have hadj : ¬ DivZ.uiAdjust dir (s.mag n % d) (s.size n) := by rw [hm0, Nat.zero_mod]; exact DivZ.not_uiAdjust_zero _ _
    refine ⟨_, ?_, u1.res2 u2 h hq hr hqr i1 i2 ?_ ?_⟩
    · rw [hm0]; simp [DivZ.uiRet]
    · rw [v1, if_neg hadj, hm0]; simp
    · rw [v2, hm0]; simp
  · rw [if_neg hz]
    have o := h.normOp hn hz
    have hN1 : B ^ ((s.size n).natAbs - 1) ≤ s.mag n := o.ge
    have hN2 : s.mag n < B ^ (s.size n).natAbs := o.lt
    have hfits := DivZ.ui_incr_fits (a := s.mag n) (u := d) hd0
    rw [← h.size_natAbs hn] at hfits
    obtain ⟨i1, k, a1⟩ := realloc_same h hq (s.size n).natAbs
    have ha1 : 1 ≤ (s.mpzRealloc q (s.size n).natAbs).alloc r := Nat.le_trans ha (k.alloc r)
    generalize s.mpzRealloc q (s.size n).natAbs = s1 at *
    obtain ⟨b, hb, hbl, hbL⟩ := i1.live q (k.lt hq)
    rw [mpn_divrem_1_ok (k.load i1 hn) hb (by omega) hd0 hdB, show val (s.limbs n) = s.mag n from rfl]
    simp only []
    have hnn1 := o.pos
    clear o
    generalize (s.size n).natAbs = nn at *
    generalize s.mag n = N at *
    have hfit : nn ≤ b.length := by omega
    have hrlt : N % d < d := Nat.mod_lt _ (Nat.pos_of_ne_zero hd0)
    have hQlt : N / d < B ^ nn := Nat.lt_of_le_of_lt (Nat.div_le_self _ _) hN2
    have hQge : 2 ≤ nn → B ^ (nn - 2) ≤ N / d := fun h2 => by
      rw [Nat.le_div_iff_mul_le (Nat.pos_of_ne_zero hd0)]
      calc B ^ (nn - 2) * d ≤ B ^ (nn - 2) * B := Nat.mul_le_mul_left _ (Nat.le_of_lt hdB)
        _ = B ^ (nn - 1) := by rw [← pow_succ]; congr 1; omega
        _ ≤ N := hN1
    have hQl : 0 + (toLimbs nn (N / d)).length ≤ b.length := by rw [toLimbs_length, Nat.zero_add]; exact hfit
    have hsign : ∀ M : Int, (if 0 ≤ s.value n then M else -M) = (if s.size n ≥ 0 then M else -M) := fun M =>
      if_congr hnonneg rfl rfl
    by_cases hr0 : N % d = 0
    · -- exact division: SIZ (rem) = 0
      rw [if_pos hr0]; unfold qrUiEnd; simp only [bind, Except.bind, pure, Except.pure]
      have hadj : ¬ DivZ.uiAdjust dir (N % d) (s.size n) := fun e => e.1 hr0
      rw [limbAt_toLimbs (show ((s1.setBlk (s1.ptr q) (some (wrAt b 0 (toLimbs nn (N / d))))).setSize r 0).blk (s1.ptr q) = _
        from (setBlk_blk_self _ _ _).trans (congrArg some (wrAt_zero _ _))) (Nat.sub_lt hnn1 Nat.one_pos)]
      simp only []
      rw [top_size hQlt hQge hnn1, setSize_comm _ hqr]
      obtain ⟨iq, uq, vq⟩ := put_wrAt i1 (k.lt hq) hbl hbL (toLimbs nn (N / d))
        (if s.size n ≥ 0 then ((sizeNat (N / d) : Nat) : Int) else -((sizeNat (N / d) : Nat) : Int))
        (by rw [toLimbs_length]; exact hfit) (Limbs_toLimbs _ _) (by rw [natAbs_ite_pos, val_toLimbs_lt _ _ hQlt])
      obtain ⟨i3, u3, v3⟩ := setSize_zero_spec iq (v := r) (uq.nv ▸ k.lt hr)
      refine ⟨_, ?_, k.res2 (uq.res2 u3 i1 (k.lt hq) (k.lt hr) hqr iq i3 ?_ ?_)⟩
      · congr 2; rw [if_pos hr0]; rfl
      · rw [vq, val_toLimbs_lt _ _ hQlt, sgnv_ite _ _ _ DivZ.sizeNat_eq_zero.mp, if_neg hadj, hsign]
      · rw [v3, if_pos hr0]
    · rw [if_neg hr0]
      have hadjd : (decide (dir = -1 ∧ s.size n < 0 ∨ dir = 1 ∧ s.size n ≥ 0)) = decide (DivZ.uiAdjust dir (N % d) (s.size n)) :=
        decide_eq_decide.mpr (DivZ.uiAdjust_of_ne_zero dir _ hr0).symm
      rw [hadjd, if_neg hr0]
      by_cases hadj : DivZ.uiAdjust dir (N % d) (s.size n)
      · simp only [hadj, decide_true, if_true]
        -- mpn_incr_u on the quotient just stored
        have hload := load_wrAt (s := s1) (p := s1.ptr q) (b := b) (l := toLimbs nn (N / d)) (j := nn)
          (by rw [toLimbs_length]) (by rw [toLimbs_length]; exact hfit)
        rw [List.take_of_length_le (by rw [toLimbs_length])] at hload
        rw [hload]; simp only []
        rw [val_toLimbs_lt _ _ hQlt, if_neg (hfits hr0), store_setBlk (by rw [toLimbs_length, wrAt_length hQl]; exact hfit)]
        simp only []
        obtain ⟨s', e', R'⟩ := qrUiRem_ok dir hdir i1 (k.lt hq) (k.lt hr) hqr ha1
          (b1 := wrAt b 0 (toLimbs nn (N / d))) (M := N / d + 1) (rl := d - N % d)
          (by rw [wrAt_length hQl]; exact hbl) (Limbs_wrAt hbL (Limbs_toLimbs _ _)) hnn1 (by rw [wrAt_length hQl]; exact hfit)
          (Nat.lt_of_not_ge (hfits hr0)) (fun h2 => Nat.le_trans (hQge h2) (Nat.le_succ _)) (by omega) (by omega) (s.size n)
        rw [hsign]
        refine ⟨s', ?_, k.res2 R'⟩
        rw [e', DivZ.uiRet, DivZ.uiRem_natAbs]
      · simp only [hadj, decide_false, Bool.false_eq_true, if_false]
        obtain ⟨s', e', R'⟩ := qrUiRem_ok dir hdir i1 (k.lt hq) (k.lt hr) hqr ha1 hbl hbL hnn1 hfit
          hQlt hQge (rl := N % d) (Nat.one_le_iff_ne_zero.mpr hr0) (Nat.lt_trans hrlt hdB) (s.size n)
        rw [hsign]
        refine ⟨s', ?_, k.res2 R'⟩
        rw [e', DivZ.uiRet, DivZ.uiRem_natAbs]

end Mpir.AliasMem
