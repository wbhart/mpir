/- mpz_rootrem on the pointer-level model (Mpir/Model/AliasMem.lean `rootrem`): root or remainder built in TMP space when
   the variable is the operand, copied back over the operand, TMP_FREE. -/
import MpirProofs.Lemmas.AliasMemOps
namespace Mpir.AliasMem
open Mpir
open Mpir.DivZ (sizeNat siz sameSign)

/-- rootrem.c:71-79 -/
def rrCompute (nth rootp remp up un : Nat) (s2 : St) : R (Nat × St) :=
  if nth = 1 then do
    let l ← s2.load up un
    let s ← s2.store rootp l
    pure (0, s)
  else mpn_rootrem rootp remp up un nth s2

/-- rootrem.c:69-92 as a function of the two result pointers chosen by :59-67 -/
def rrTail (root rem u nth : Nat) (us : Int) (rootn un rootp remp : Nat) (s2 : St) : R St := do
  let up := s2.ptr u
  let (remn, s3) ← rrCompute nth rootp remp up un s2
  let s4 := s3.setSize root (if us ≥ 0 then (rootn : Int) else -(rootn : Int))
  let s5 ← (if u = root then do
      let l ← s4.load rootp rootn
      s4.store up l
    else if u = rem then do
      let l ← s4.load remp remn
      s4.store up l
    else pure s4)
  let s6 := s5.setSize rem (if us < 0 ∧ remn > 0 then -(remn : Int) else (remn : Int))
  let s7 := if u = root then s6.free rootp else s6
  pure (if u = rem then s7.free remp else s7)

theorem rootrem_eq (root rem u nth : Nat) (s : St) (h1 : ¬ (s.size u < 0 ∧ nth % 2 = 0)) (h2 : nth ≠ 0) (h3 : s.size u ≠ 0)
    (hrm : root ≠ rem) :
    rootrem root rem u nth s =
      rrTail root rem u nth (s.size u) (((s.size u).natAbs - 1) / nth + 1) (s.size u).natAbs
        (if u ≠ root then (s.mpzRealloc root (((s.size u).natAbs - 1) / nth + 1)).ptr root else s.next)
        (if u ≠ rem then
          ((if u ≠ root then s.mpzRealloc root (((s.size u).natAbs - 1) / nth + 1) else (s.tmpAlloc (((s.size u).natAbs - 1) / nth + 1)).2).mpzRealloc rem (s.size u).natAbs).ptr rem
         else (if u ≠ root then s.mpzRealloc root (((s.size u).natAbs - 1) / nth + 1) else (s.tmpAlloc (((s.size u).natAbs - 1) / nth + 1)).2).next)
        (if u ≠ rem then
          (if u ≠ root then s.mpzRealloc root (((s.size u).natAbs - 1) / nth + 1) else (s.tmpAlloc (((s.size u).natAbs - 1) / nth + 1)).2).mpzRealloc rem (s.size u).natAbs
         else ((if u ≠ root then s.mpzRealloc root (((s.size u).natAbs - 1) / nth + 1) else (s.tmpAlloc (((s.size u).natAbs - 1) / nth + 1)).2).tmpAlloc (s.size u).natAbs).2) := by
  unfold rootrem rrTail
  simp only [bind, Except.bind, pure, Except.pure]
  rw [if_neg h1, if_neg h2, if_neg h3]
  by_cases e1 : u = root
  · subst e1
    have e2 : ¬ u = rem := hrm
    simp only [e2, ne_eq, not_true_eq_false, not_false_eq_true, if_true, if_false]
    rfl
  · by_cases e2 : u = rem
    · subst e2
      simp only [e1, ne_eq, not_true_eq_false, not_false_eq_true, if_true, if_false]
      rfl
    · simp only [e1, e2, ne_eq, not_false_eq_true, if_true, if_false]
      rfl

/-- rootrem.c:71-79: what the copy (nth = 1) or mpn_rootrem leaves in the two result blocks -/
theorem rrCompute_eq {s2 : St} {rootp remp up un nth : Nat} {Ul bR bM : List Nat}
    (hl : s2.load up un = .ok Ul) (hUL : Limbs Ul) (hUlen : Ul.length = un)
    (hbR : s2.blk rootp = some bR) (hbM : s2.blk remp = some bM)
    (h1 : rootp ≠ up) (h2 : rootp ≠ remp) (h3 : remp ≠ up) (hun : 1 ≤ un) (hn : 1 ≤ nth)
    (htop : Ul.getD (un - 1) 0 ≠ 0)
    (haR : (un - 1) / nth + 1 ≤ bR.length) (haM : un ≤ bM.length) :
    rrCompute nth rootp remp up un s2 =
      .ok (sizeNat (val Ul - Root.iroot nth (val Ul) ^ nth),
        (s2.setBlk rootp (some (toLimbs ((un - 1) / nth + 1) (Root.iroot nth (val Ul)) ++ bR.drop ((un - 1) / nth + 1)))).setBlk remp
          (some (toLimbs (sizeNat (val Ul - Root.iroot nth (val Ul) ^ nth)) (val Ul - Root.iroot nth (val Ul) ^ nth)
            ++ bM.drop (sizeNat (val Ul - Root.iroot nth (val Ul) ^ nth))))) := by
  have hle : sizeNat (val Ul - Root.iroot nth (val Ul) ^ nth) ≤ un := by
    rw [DivZ.sizeNat_le_iff]
    have := val_lt Ul hUL; rw [hUlen] at this; omega
  unfold rrCompute
  by_cases h1n : nth = 1
  · subst h1n
    rw [if_pos rfl]
    simp only [bind, Except.bind, pure, Except.pure, hl]
    have e0 : (un - 1) / 1 + 1 = un := by rw [Nat.div_one]; omega
    rw [store_blk hbR (by rw [hUlen]; omega)]
    simp only [Root.iroot_one, pow_one, Nat.sub_self, DivZ.sizeNat_eq_zero.mpr rfl, e0]
    rw [show toLimbs 0 0 ++ bM.drop 0 = bM by simp [toLimbs],
      setBlk_same _ ((setBlk_blk_ne _ _ (Ne.symm h2)).trans hbM), hUlen, ← hUlen, ← eq_toLimbs Ul hUL]
  · rw [if_neg h1n]
    unfold mpn_rootrem
    have hc : ¬ (rootp = up ∨ rootp = remp ∨ remp = up) := by tauto
    have hs : ¬ ¬ (1 ≤ un ∧ 2 ≤ nth) := by omega
    simp only [bind, Except.bind, hc, if_false, hl, hs, htop, pure, Except.pure, Root.irootFast_eq, Root.powS_eq]
    rw [store_blk hbR (by rw [toLimbs_length]; exact haR)]
    simp only [toLimbs_length]
    rw [store_blk ((setBlk_blk_ne _ _ (Ne.symm h2)).trans hbM) (by rw [toLimbs_length]; omega)]
    simp only [toLimbs_length]

theorem rrTail_ok {s2 : St} (h : Inv s2) {root rem u : Nat} (hr : root < s2.nv) (hm : rem < s2.nv) (hu : u < s2.nv)
    (hrm : root ≠ rem) (nth : Nat) (hn : 1 ≤ nth) (hz : s2.size u ≠ 0) (rootp remp : Nat)
    (hroot : (u ≠ root ∧ rootp = s2.ptr root ∧ ((s2.size u).natAbs - 1) / nth + 1 ≤ s2.alloc root) ∨
             (u = root ∧ (∀ i, i < s2.nv → s2.ptr i ≠ rootp) ∧ rootp < s2.next ∧
               ∃ b, s2.blk rootp = some b ∧ ((s2.size u).natAbs - 1) / nth + 1 ≤ b.length))
    (hrem : (u ≠ rem ∧ remp = s2.ptr rem ∧ (s2.size u).natAbs ≤ s2.alloc rem) ∨
             (u = rem ∧ (∀ i, i < s2.nv → s2.ptr i ≠ remp) ∧ remp < s2.next ∧
               ∃ b, s2.blk remp = some b ∧ (s2.size u).natAbs ≤ b.length)) :
    ∃ s', rrTail root rem u nth (s2.size u) (((s2.size u).natAbs - 1) / nth + 1) (s2.size u).natAbs rootp remp s2 = .ok s' ∧
      Res2 s2 s' root rem (sgnv (s2.size u) (Root.iroot nth (s2.mag u)))
        (sgnv (s2.size u) (s2.mag u - Root.iroot nth (s2.mag u) ^ nth)) := by
  have hun1 : 1 ≤ (s2.size u).natAbs := Int.natAbs_pos.mpr hz
  have hl := h.load_var hu
  have hls := h.limbs_spec hu
  have htop := h.top_ne_zero hu hz
  have hN1 := h.mag_ge hu hz
  have hN2 := h.mag_lt hu
  have hNdef : val (s2.limbs u) = s2.mag u := rfl
  have hRsz : sizeNat (Root.iroot nth (s2.mag u)) = ((s2.size u).natAbs - 1) / nth + 1 := iroot_size hN1 hN2 hun1 hn
  have hrootn_le : ((s2.size u).natAbs - 1) / nth + 1 ≤ (s2.size u).natAbs := by
    have := Nat.div_le_self ((s2.size u).natAbs - 1) nth
    clear hroot hrem
    generalize ((s2.size u).natAbs - 1) / nth = d at *
    omega
  have hMsz : sizeNat (s2.mag u - Root.iroot nth (s2.mag u) ^ nth) ≤ (s2.size u).natAbs := by
    rw [DivZ.sizeNat_le_iff]; clear hroot hrem; omega
  obtain ⟨bU, hbU, hbUl, hbUL⟩ := h.live u hu
  have hfitu := h.fits u hu
  obtain ⟨bR, hbR, haR, hRu⟩ : ∃ bR, s2.blk rootp = some bR ∧ ((s2.size u).natAbs - 1) / nth + 1 ≤ bR.length ∧ rootp ≠ s2.ptr u := by
    rcases hroot with ⟨e, hp, ha⟩ | ⟨e, hnv, _, b, hb, hbl⟩
    · obtain ⟨b, hb, hbl, _⟩ := h.live root hr
      exact ⟨b, by rw [hp]; exact hb, by omega, by rw [hp]; exact fun e' => e (h.inj root u hr hu e').symm⟩
    · exact ⟨b, hb, hbl, (hnv u hu).symm⟩
  obtain ⟨bM, hbM, haM, hMu⟩ : ∃ bM, s2.blk remp = some bM ∧ (s2.size u).natAbs ≤ bM.length ∧ remp ≠ s2.ptr u := by
    rcases hrem with ⟨e, hp, ha⟩ | ⟨e, hnv, _, b, hb, hbl⟩
    · obtain ⟨b, hb, hbl, _⟩ := h.live rem hm
      exact ⟨b, by rw [hp]; exact hb, by omega, by rw [hp]; exact fun e' => e (h.inj rem u hm hu e').symm⟩
    · exact ⟨b, hb, hbl, (hnv u hu).symm⟩
  have hpp : rootp ≠ remp := by
    rcases hroot with ⟨e, hp, _⟩ | ⟨e, hnv, _⟩ <;> rcases hrem with ⟨e', hp', _⟩ | ⟨e', hnv', _⟩
    · rw [hp, hp']; exact fun x => hrm (h.inj root rem hr hm x)
    · rw [hp]; exact hnv' root hr
    · rw [hp']; exact (hnv rem hm).symm
    · exact absurd (e.symm.trans e') hrm
  unfold rrTail
  simp only [bind, Except.bind, pure, Except.pure]
  rw [rrCompute_eq hl hls.2 hls.1 hbR hbM hRu hpp hMu hun1 hn htop haR haM, hNdef]; simp only []
  rw [← hRsz]
  generalize hRdef : Root.iroot nth (s2.mag u) = Rv at *
  generalize hMdef : s2.mag u - Rv ^ nth = Mv at *
  rw [← hRsz] at haR hrootn_le hroot
  -- the two size fields as the C computes them: only their signs and magnitudes matter
  have hz1 := natAbs_ite_pos (s2.size u ≥ 0) (sizeNat Rv)
  have hz2 := natAbs_ite_neg (s2.size u < 0 ∧ sizeNat Mv > 0) (sizeNat Mv)
  have hs1 : sgnv (if s2.size u ≥ 0 then (sizeNat Rv : Int) else -(sizeNat Rv : Int)) Rv = sgnv (s2.size u) Rv :=
    sgnv_congr fun h0 => by have := @DivZ.sizeNat_eq_zero Rv; split <;> omega
  have hs2 : sgnv (if s2.size u < 0 ∧ sizeNat Mv > 0 then -(sizeNat Mv : Int) else (sizeNat Mv : Int)) Mv = sgnv (s2.size u) Mv :=
    sgnv_congr fun h0 => by have := @DivZ.sizeNat_eq_zero Mv; split <;> omega
  generalize (if s2.size u ≥ 0 then (sizeNat Rv : Int) else -(sizeNat Rv : Int)) = z1 at *
  generalize (if s2.size u < 0 ∧ sizeNat Mv > 0 then -(sizeNat Mv : Int) else (sizeNat Mv : Int)) = z2 at *
  have T : ∀ {q r : Nat} {bq br : List Nat}, q < s2.nv → r < s2.nv → q ≠ r → s2.blk (s2.ptr q) = some bq →
      s2.blk (s2.ptr r) = some br → sizeNat Rv ≤ s2.alloc q → sizeNat Mv ≤ s2.alloc r →
      Res2 s2 ((s2.put q (toLimbs (sizeNat Rv) Rv ++ bq.drop (sizeNat Rv)) z1).put r
          (toLimbs (sizeNat Mv) Mv ++ br.drop (sizeNat Mv)) z2) q r (sgnv (s2.size u) Rv) (sgnv (s2.size u) Mv) ∧
        ∀ i, ((s2.put q (toLimbs (sizeNat Rv) Rv ++ bq.drop (sizeNat Rv)) z1).put r
          (toLimbs (sizeNat Mv) Mv ++ br.drop (sizeNat Mv)) z2).ptr i = s2.ptr i := fun hq hr' hqr hbq hbr haq har => by
    have := put2_toLimbs h hq hr' hqr hbq hbr (sizeNat Rv) Rv z1 haq (DivZ.lt_B_pow_sizeNat Rv) hz1
      (sizeNat Mv) Mv z2 har (DivZ.lt_B_pow_sizeNat Mv) hz2
    rwa [hs1, hs2] at this
  have hptr : ∀ {q r : Nat} (b : List Nat) (z : Int), q ≠ r →
      ((s2.setBlk (s2.ptr q) (some b)).setSize q z).ptr r = s2.ptr r := fun b z hqr => by
    simp [St.setSize, St.setVar, St.setBlk, St.ptr, Ne.symm hqr]
  rcases hroot with ⟨e1, hp, ha⟩ | ⟨e1, hnv, hlt, _⟩
  · subst hp
    rcases hrem with ⟨e2, hp', ha'⟩ | ⟨e2, hnv', hlt', _⟩
    · -- neither output is the operand: both results are written in place
      subst hp'
      simp only [if_neg e1, if_neg e2]
      rw [put_put_eq s2 hrm]
      exact ⟨_, rfl, (T hr hm hrm hbR hbM ha (by omega)).1⟩
    · -- rem is the operand: the remainder is built in TMP space and copied over the operand (rootrem.c:86-87)
      subst e2
      simp only [if_neg e1, if_true]
      generalize hs3 : (s2.setBlk (s2.ptr root) (some (toLimbs (sizeNat Rv) Rv ++ bR.drop (sizeNat Rv)))).setBlk remp
        (some (toLimbs (sizeNat Mv) Mv ++ bM.drop (sizeNat Mv))) = s3
      have hbs : (s3.setSize root z1).blk remp = some (toLimbs (sizeNat Mv) Mv ++ bM.drop (sizeNat Mv)) := by
        rw [← hs3]; exact setBlk_blk_self _ _ _
      have hbu : (s3.setSize root z1).blk (s2.ptr u) = some bU := by
        rw [← hs3]; exact (setBlk_blk_ne _ _ (Ne.symm hMu)).trans ((setBlk_blk_ne _ _ (Ne.symm hRu)).trans hbU)
      rw [load_blk hbs (by simp [toLimbs_length]), List.take_left' (toLimbs_length _ _)]
      simp only []
      rw [store_blk hbu (by rw [toLimbs_length]; omega)]
      simp only [toLimbs_length]
      obtain ⟨R, p⟩ := T hr hu hrm hbR hbU ha (by omega)
      have heq : (((s3.setSize root z1).setBlk (s2.ptr u) (some (toLimbs (sizeNat Mv) Mv ++ bU.drop (sizeNat Mv)))).setSize u z2).free remp =
          [remp].foldl St.free ((s2.put root (toLimbs (sizeNat Rv) Rv ++ bR.drop (sizeNat Rv)) z1).put u
            (toLimbs (sizeNat Mv) Mv ++ bU.drop (sizeNat Mv)) z2) := by
        rw [← hs3]; unfold St.put; rw [hptr _ _ hrm]
        simp only [List.foldl, free_setSize, free_setBlk_ne _ hMu.symm, free_setBlk_self, free_setBlk_ne _ (Ne.symm (hnv' root hr)).symm]
      rw [heq]
      exact ⟨_, rfl, R.free_list hr hu _ fun q hq i hi => by
        rw [List.mem_singleton.mp hq, p]; exact hnv' i (R.2.1 ▸ hi)⟩
  · -- root is the operand: the root is built in TMP space and copied over the operand (rootrem.c:84-85)
    subst e1
    rcases hrem with ⟨e2, hp', ha'⟩ | ⟨e2, _⟩
    swap
    · exact absurd e2 hrm
    subst hp'
    simp only [if_neg e2, if_true]
    generalize hs3 : (s2.setBlk rootp (some (toLimbs (sizeNat Rv) Rv ++ bR.drop (sizeNat Rv)))).setBlk (s2.ptr rem)
      (some (toLimbs (sizeNat Mv) Mv ++ bM.drop (sizeNat Mv))) = s3
    have hbs : (s3.setSize u z1).blk rootp = some (toLimbs (sizeNat Rv) Rv ++ bR.drop (sizeNat Rv)) := by
      rw [← hs3]; exact (setBlk_blk_ne _ _ hpp).trans (setBlk_blk_self _ _ _)
    have hbu : (s3.setSize u z1).blk (s2.ptr u) = some bU := by
      rw [← hs3]; exact (setBlk_blk_ne _ _ (Ne.symm hMu)).trans ((setBlk_blk_ne _ _ (Ne.symm hRu)).trans hbU)
    rw [load_blk hbs (by simp [toLimbs_length]), List.take_left' (toLimbs_length _ _)]
    simp only []
    rw [store_blk hbu (by rw [toLimbs_length]; omega)]
    simp only [toLimbs_length]
    obtain ⟨R, p⟩ := T hu hm hrm hbU hbM (by omega) (by omega)
    have heq : (((s3.setSize u z1).setBlk (s2.ptr u) (some (toLimbs (sizeNat Rv) Rv ++ bU.drop (sizeNat Rv)))).setSize rem z2).free rootp =
        [rootp].foldl St.free ((s2.put u (toLimbs (sizeNat Rv) Rv ++ bU.drop (sizeNat Rv)) z1).put rem
          (toLimbs (sizeNat Mv) Mv ++ bM.drop (sizeNat Mv)) z2) := by
      rw [← hs3]; unfold St.put; rw [hptr _ _ hrm]
      simp only [List.foldl, free_setSize, free_setBlk_ne _ hRu.symm, free_setBlk_self, free_setBlk_ne _ hpp.symm, setBlk_setSize]
      rw [setBlk_comm _ hMu]
    rw [heq]
    exact ⟨_, rfl, R.free_list hu hm _ fun q hq i hi => by
      rw [List.mem_singleton.mp hq, p]; exact hnv i (R.2.1 ▸ hi)⟩

theorem rootrem_ok {s : St} (h : Inv s) {root rem u : Nat} (hr : root < s.nv) (hm : rem < s.nv) (hu : u < s.nv)
    (hrm : root ≠ rem) (nth : Nat) (hn : 1 ≤ nth) (hsgn : 0 ≤ s.value u ∨ nth % 2 = 1) :
    ∃ s', rootrem root rem u nth s = .ok s' ∧ Res2 s s' root rem (sgnv (s.size u) (Root.iroot nth (s.mag u)))
      (sgnv (s.size u) (s.mag u - Root.iroot nth (s.mag u) ^ nth)) := by
  have hneg : ¬ (s.size u < 0 ∧ nth % 2 = 0) := fun ⟨a, b⟩ => by
    have := (h.size_neg_iff hu).mp a; omega
  by_cases hz : s.size u = 0
  · unfold rootrem
    simp only [bind, Except.bind, pure, Except.pure]
    rw [if_neg hneg, if_neg (by omega), if_pos hz]
    have hm0 : s.mag u = 0 := h.mag_zero hu hz
    obtain ⟨i1, u1, v1⟩ := setSize_zero_spec h hr
    obtain ⟨i2, u2, v2⟩ := setSize_zero_spec i1 (v := rem) (u1.nv ▸ hm)
    have hs0 : sgnv (s.size u) 0 = 0 := by unfold sgnv; split <;> simp
    exact ⟨_, rfl, u1.res2 u2 h hr hm hrm i1 i2 (by rw [v1, hm0, Root.iroot_zero nth hn, hs0])
      (by rw [v2, hm0, Nat.zero_sub, hs0])⟩
  · rw [rootrem_eq root rem u nth s hneg (by omega) hz hrm]
    by_cases e1 : u = root
    · -- root = u: TMP block for the root, rem reallocated
      subst e1
      have e2 : ¬ u = rem := hrm
      simp only [e2, ne_eq, not_true_eq_false, not_false_eq_true, if_true, if_false]
      have i1 : Inv (s.tmpAlloc (((s.size u).natAbs - 1) / nth + 1)).2 := malloc_inv h _
      have x1 : Ext s (s.tmpAlloc (((s.size u).natAbs - 1) / nth + 1)).2 := malloc_ext h _
      have hb1 : (s.tmpAlloc (((s.size u).natAbs - 1) / nth + 1)).2.blk s.next = some (List.replicate (((s.size u).natAbs - 1) / nth + 1) junk) :=
        malloc_blk_new s _
      have nx1 : (s.tmpAlloc (((s.size u).natAbs - 1) / nth + 1)).2.next = s.next + 1 := rfl
      generalize (s.tmpAlloc (((s.size u).natAbs - 1) / nth + 1)).2 = s1 at *
      have k1 := x1.same h
      obtain ⟨i2, k2, a2⟩ := realloc_same i1 (k1.lt hm) (s.size u).natAbs
      have hptr2 : ∀ i, i < s.nv → (s1.mpzRealloc rem (s.size u).natAbs).ptr i ≠ s.next := fun i hi => by
        rw [realloc_ptr]; split
        · omega
        · rw [x1.ptr]; exact Nat.ne_of_lt (h.lt i hi)
      have hblk2 : (s1.mpzRealloc rem (s.size u).natAbs).blk s.next = some (List.replicate (((s.size u).natAbs - 1) / nth + 1) junk) := by
        rw [realloc_blk_o _ _ (by rw [x1.ptr]; exact Ne.symm (Nat.ne_of_lt (h.lt rem hm))) (by omega), hb1]
      have hnx2 := realloc_next_le s1 rem (s.size u).natAbs
      generalize s1.mpzRealloc rem (s.size u).natAbs = s2 at *
      have k := k1.trans k2
      have T := rrTail_ok i2 (k.lt hu) (k.lt hm) (k.lt hu) hrm nth hn (by rw [k.size]; exact hz) s.next (s2.ptr rem)
        (Or.inr ⟨rfl, fun i hi => hptr2 i (k.nv ▸ hi), by omega, _, hblk2, by rw [k.size]; simp⟩)
        (Or.inl ⟨e2, rfl, by rw [k.size]; exact a2⟩)
      rw [k.size, mag_of_value (k.value hu)] at T
      obtain ⟨s', hs', R⟩ := T
      exact ⟨s', hs', k.res2 R⟩
    · obtain ⟨i1, k1, a1⟩ := realloc_same h hr (((s.size u).natAbs - 1) / nth + 1)
      by_cases e2 : u = rem
      · -- rem = u: root reallocated, TMP block for the remainder
        subst e2
        simp only [e1, ne_eq, not_true_eq_false, not_false_eq_true, if_true, if_false]
        generalize s.mpzRealloc root (((s.size u).natAbs - 1) / nth + 1) = s1 at *
        have i2 : Inv (s1.tmpAlloc (s.size u).natAbs).2 := malloc_inv i1 _
        have x2 : Ext s1 (s1.tmpAlloc (s.size u).natAbs).2 := malloc_ext i1 _
        have hb2 : (s1.tmpAlloc (s.size u).natAbs).2.blk s1.next = some (List.replicate (s.size u).natAbs junk) := malloc_blk_new s1 _
        have nx2 : (s1.tmpAlloc (s.size u).natAbs).2.next = s1.next + 1 := rfl
        generalize (s1.tmpAlloc (s.size u).natAbs).2 = s2 at *
        have k := k1.trans (x2.same i1)
        have T := rrTail_ok i2 (k.lt hr) (k.lt hu) (k.lt hu) hrm nth hn (by rw [k.size]; exact hz) (s1.ptr root) s1.next
          (Or.inl ⟨e1, (x2.ptr root).symm, by rw [k.size, x2.alloc]; exact a1⟩)
          (Or.inr ⟨rfl, fun i hi => by rw [x2.ptr]; exact Nat.ne_of_lt (i1.lt i (x2.nv ▸ hi)), by omega, _, hb2,
            by rw [k.size]; simp⟩)
        rw [k.size, mag_of_value (k.value hu)] at T
        obtain ⟨s', hs', R⟩ := T
        exact ⟨s', hs', k.res2 R⟩
      · -- all three distinct: both outputs reallocated, `up` fetched afterwards
        simp only [e1, e2, ne_eq, not_false_eq_true, if_true]
        generalize s.mpzRealloc root (((s.size u).natAbs - 1) / nth + 1) = s1 at *
        obtain ⟨i2, k2, a2⟩ := realloc_same i1 (k1.lt hm) (s.size u).natAbs
        have hp2 : (s1.mpzRealloc rem (s.size u).natAbs).ptr root = s1.ptr root := by
          rw [realloc_ptr, if_neg (fun x => hrm x.1)]
        generalize s1.mpzRealloc rem (s.size u).natAbs = s2 at *
        have k := k1.trans k2
        have T := rrTail_ok i2 (k.lt hr) (k.lt hm) (k.lt hu) hrm nth hn (by rw [k.size]; exact hz) (s1.ptr root) (s2.ptr rem)
          (Or.inl ⟨e1, hp2.symm, by rw [k.size]; exact Nat.le_trans a1 (k2.alloc root)⟩)
          (Or.inl ⟨e2, rfl, by rw [k.size]; exact a2⟩)
        rw [k.size, mag_of_value (k.value hu)] at T
        obtain ⟨s', hs', R⟩ := T
        exact ⟨s', hs', k.res2 R⟩

end Mpir.AliasMem
