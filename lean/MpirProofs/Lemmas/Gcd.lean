/- Shared by all gcd files (models: Mpir/Model/Gcd.lean): `ctz` (count_trailing_zeros) as an `IsCtz` of Arith with its
   shift forms, and `quot_of_mod_zero` (a zero remainder below a larger number means a quotient ≥ 2). -/
import MpirProofs.Lemmas.Arith
import MpirProofs.Lemmas.Base
import Mpir.Model.Gcd
import Mathlib.Tactic.Ring
import Mathlib.Tactic.Linarith
import Mathlib.Data.Nat.GCD.Basic
import Mathlib.Data.Int.GCD
namespace Mpir.Gcd
open Mpir

theorem ctzAux_isCtz (f : Nat) : IsCtz (· < 2 ^ f) (ctzAux f) := isCtz_halving ctzAux (fun _ => rfl) (fun _ _ _ => rfl) f

theorem ctzAux_spec (f x : Nat) (h0 : 0 < x) (hf : x ≤ f) :
    x = 2 ^ ctzAux f x * (x / 2 ^ ctzAux f x) ∧ (x / 2 ^ ctzAux f x) % 2 = 1 :=
  have hlt := lt_of_le_of_lt hf Nat.lt_two_pow_self
  ⟨((ctzAux_isCtz f).mul_div h0 hlt).symm, (ctzAux_isCtz f x h0 hlt).2⟩

theorem ctz_isCtz : IsCtz (fun _ => True) ctz := fun x h0 _ => ctzAux_isCtz x x h0 Nat.lt_two_pow_self

theorem ctz_spec (x : Nat) (h : 0 < x) :
    x = 2 ^ ctz x * (x / 2 ^ ctz x) ∧ (x / 2 ^ ctz x) % 2 = 1 :=
  ctzAux_spec x x h (le_refl _)

theorem shiftRight_ctz (x : Nat) : x >>> ctz x = x / 2 ^ ctz x := Nat.shiftRight_eq_div_pow _ _

theorem ctz_odd (x : Nat) (h : 0 < x) : (x >>> ctz x) % 2 = 1 := by
  rw [shiftRight_ctz]; exact (ctz_spec x h).2

theorem ctz_mul (x : Nat) (h : 0 < x) : 2 ^ ctz x * (x >>> ctz x) = x := by
  rw [shiftRight_ctz]; exact (ctz_spec x h).1.symm

theorem ctz_unique (x k o : Nat) (ho : o % 2 = 1) (hx : x = 2 ^ k * o) : ctz x = k :=
  ctz_isCtz.unique (by rw [hx]; exact Nat.mul_pos (Nat.two_pow_pos _) (by omega)) trivial ho hx

theorem ctz_lt_of_lt_pow (x n : Nat) (h0 : 0 < x) (h : x < 2 ^ n) : ctz x < n := ctz_isCtz.lt_of_lt_pow h0 trivial h

theorem quot_of_mod_zero {lo hi : Nat} (hlt : lo < hi) (hr : hi % lo = 0) : 2 ≤ hi / lo ∧ hi = hi / lo * lo := by
  have h2 := Nat.div_add_mod hi lo
  rw [hr, Nat.add_zero, Nat.mul_comm] at h2
  generalize hi / lo = q at *
  refine ⟨?_, h2.symm⟩
  by_contra hc
  have hq : q = 0 ∨ q = 1 := by omega
  rcases hq with h | h <;> subst h <;> simp at h2 <;> omega

end Mpir.Gcd
