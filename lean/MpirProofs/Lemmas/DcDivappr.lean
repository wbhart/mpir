/-
  The repaired mpn_dc_divappr_q (Mpir/Model/DcDivappr.lean, rep = true).  INVARIANT of every call on its window W (2n+1 limbs)
  and cut divisor D (n+1 limbs, normalised, W < D·B^n), in the form `dcTail_spec` proves it and `CutSpec` states it for
  sub-calls (`CallSpec` of Lemmas/DcDivapprArith.lean is the same relative to the uncut operands nn, dn0, N, D0, with the
  remainder clause under the condition that the divisor is cut): the n quotient limbs Q and the three limbs
  r3 = np[dn-2 .. dn] it leaves satisfy
      W < (Q + 1)·D                 (Q is not below ⌊W/D⌋)
      ⌊W/B^(n-1)⌋ = tS D Q n + r3   (r3 is the truncated remainder, in particular it is NON-NEGATIVE)
  and since Q·D - B^(n-1)·tS D Q n < n·B^n ≤ D this gives Q ≤ ⌊W/D⌋ + 1.  The leaf below SB_DIVAPPR_Q_CUTOFF is a variable of
  which only `LeafOK` is used (`SbDivQ.sbLeaf_ok` for mpn_sb_divappr_q).
-/
import MpirProofs.Lemmas.DcDiv
import MpirProofs.Lemmas.DcDivapprArith
namespace Mpir.DcDivappr
open Mpir Mpir.DcDiv

theorem helperLoop_eq (D : Nat) : ∀ (k x : Nat), x < B ^ 3 → helperLoop D k x = (x + sumd D k) % B ^ 3
  | 0, x, hx => by
    show x = (x + 0) % B ^ 3
    rw [Nat.add_zero, Nat.mod_eq_of_lt hx]
  | k + 1, x, _ => by
    show helperLoop D k ((x + D / B ^ k % B) % B ^ 3) = (x + (sumd D k + D / B ^ k % B)) % B ^ 3
    rw [helperLoop_eq D k _ (Nat.mod_lt _ (Bpow_pos 3)), Nat.add_mod, Nat.mod_mod, ← Nat.add_mod]
    congr 1; ring

/-- three limbs modulo B³: `a` is the difference window - divisor modulo B²·E, of which two limbs are used -/
theorem helper3_arith (w0 a dk dj S Wt D E u t : Nat) (h1 : a + D = Wt + B * B * E)
    (hid : w0 + B * Wt + (dj + B * dk) + S + u * B ^ 3 = B * D + t) (ht : t < B ^ 3) :
    (w0 + B * ((a % B ^ 2 + dk) % B ^ 2) + (S + dj)) % B ^ 3 = t := by
  simp only [B_eq] at *
  omega

/-- __divappr_helper (value level) leaves, modulo B³, window + ⌊D/B^(k-1)⌋ + Σ_{i<k-1} d_i - B·D, i.e. the truncated
    remainder of the all-ones quotient of k limbs -/
theorem helper3_spec (k w0 Wt D u t : Nat) (hk : 1 ≤ k) (hw0 : w0 < B) (hWt : Wt < B ^ (k + 1)) (hD : D < B ^ (k + 1))
    (hid : w0 + B * Wt + D / B ^ (k - 1) + sumd D (k - 1) + u * B ^ 3 = B * D + t) (ht : t < B ^ 3) :
    helper3 k w0 Wt D = t := by
  obtain ⟨j, rfl⟩ : ∃ j, k = j + 1 := ⟨k - 1, by omega⟩
  rw [Nat.add_sub_cancel, ← Nat.mod_add_div (D / B ^ j) B, div_pow_succ'] at hid
  have hdk : D / B ^ (j + 1) < B := by
    rw [Nat.div_lt_iff_lt_mul (Bpow_pos _), ← pow_succ']; exact hD
  obtain ⟨h1, -, -⟩ := subN_spec (j + 1 + 1) Wt D hWt hD.le
  have hx : w0 + B * (((subN (j + 1 + 1) Wt D).1 % B ^ 2 + D / B ^ (j + 1) % B) % B ^ 2) < B ^ 3 := by
    rw [pow_succ' B 2]; exact add_mul_lt hw0 (Nat.mod_lt _ (Bpow_pos 2))
  unfold helper3
  simp only []
  rw [helperLoop_eq D (j + 1) _ hx, Nat.mod_eq_of_lt hdk]
  refine helper3_arith w0 _ _ _ _ Wt D ((subN (j + 1 + 1) Wt D).2 * B ^ j) u t ?_ hid ht
  rw [h1, pow_succ, pow_succ]; ring

/-! ## the fix-up loop dc_divappr_q.c:127-128 -/

/-- the fix-up loop adds the divisor limbs d_(sh-2), d_(sh-3), … while the decremented quotient limbs are B-1: with z
    such limbs the (sl+3)-limb number (X, cy) grows by Σ_{i<z} d_(sh-2-i) modulo B^(sl+3) -/
theorem fixLoop_run (sl sh D Qd z : Nat) (hz : z ≤ sh - 1) (hlow : ∀ i, i < z → Qd / B ^ i % B = B - 1)
    (hat : z < sh - 1 → Qd / B ^ z % B ≠ B - 1) :
    ∀ (j f i X cy : Nat), i + j = z → j ≤ f → X < B ^ (sl + 2) → cy < B →
      ∃ k', (fixLoop sl sh D Qd f i X cy).1 < B ^ (sl + 2) ∧ (fixLoop sl sh D Qd f i X cy).2 < B ∧
        (fixLoop sl sh D Qd f i X cy).1 + B ^ (sl + 2) * (fixLoop sl sh D Qd f i X cy).2 + k' * (B ^ (sl + 2) * B)
          = X + B ^ (sl + 2) * cy + sumd (D / B ^ (sh - 1 - z)) j
  | 0, f, i, X, cy, hij, _, hX, hcy => by
    have hiz : i = z := by omega
    subst hiz
    refine ⟨0, ?_⟩
    match f with
    | 0 => exact ⟨hX, hcy, by simp [fixLoop, sumd]⟩
    | f + 1 =>
      have hc : ¬ (i < sh - 1 ∧ Qd / B ^ i % B = B - 1) := by
        rintro ⟨h1, h2⟩; exact hat h1 h2
      unfold fixLoop
      rw [if_neg hc]
      exact ⟨hX, hcy, by simp [sumd]⟩
  | j + 1, f, i, X, cy, hij, hjf, hX, hcy => by
    obtain ⟨f', rfl⟩ : ∃ f', f = f' + 1 := ⟨f - 1, by omega⟩
    have hc : i < sh - 1 ∧ Qd / B ^ i % B = B - 1 := ⟨by omega, hlow i (by omega)⟩
    have hv : D / B ^ (sh - 2 - i) % B ≤ B ^ (sl + 2) :=
      calc D / B ^ (sh - 2 - i) % B ≤ B ^ 1 := by rw [pow_one]; exact (Nat.mod_lt _ B_pos).le
        _ ≤ B ^ (sl + 2) := Nat.pow_le_pow_right B_pos (by omega)
    have ev : D / B ^ (sh - 1 - z) / B ^ j % B = D / B ^ (sh - 2 - i) % B := by
      rw [div_pow_add]; congr 3; omega
    obtain ⟨a1, a2, -⟩ := addN_spec (sl + 2) X _ hX hv
    unfold fixLoop
    rw [if_pos hc]
    simp only []
    generalize addN (sl + 2) X (D / B ^ (sh - 2 - i) % B) = a at a1 a2 ⊢
    obtain ⟨k', r1, r2, r3⟩ := fixLoop_run sl sh D Qd z hz hlow hat j f' (i + 1) a.1 ((cy + a.2) % B)
      (by omega) (by omega) a2 (Nat.mod_lt _ B_pos)
    refine ⟨k' + (cy + a.2) / B, r1, r2, ?_⟩
    show _ = X + B ^ (sl + 2) * cy + (sumd (D / B ^ (sh - 1 - z)) j + D / B ^ (sh - 1 - z) / B ^ j % B)
    rw [ev]
    -- the carry out of the sl+2 limbs goes into `cy`, whose own carry is dropped
    linear_combination r3 + B ^ (sl + 2) * Nat.div_add_mod (cy + a.2) B + a1

/-! ## the correction loop dc_divappr_q.c:116-129 -/

theorem hiCorr_stop (rep : Bool) (sl sh D qn0 : Nat) (st : Nat × Nat × Nat × Nat × Nat) (h : st.2.2.2.1 < B / 2) :
    ∀ f, hiCorr rep sl sh D qn0 f st = st
  | 0 => rfl
  | f + 1 => by
    unfold hiCorr
    rw [if_neg (by omega)]

theorem hiCorr_succ (rep : Bool) (sl sh D qn0 f : Nat) (st : Nat × Nat × Nat × Nat × Nat) :
    hiCorr rep sl sh D qn0 (f + 1) st =
      if st.2.2.2.1 ≥ B / 2 then
        (let b := subN (qn0 - sl) st.1 1
         let a := addN (sl + 2) st.2.2.1 (D / B ^ (sh - 1))
         let g := fixLoop sl sh D (b.1 % B ^ sh) sh 0 a.1 ((st.2.2.2.1 + a.2) % B)
         let st' := (b.1, (st.2.1 + B - b.2) % B, g.1, g.2, st.2.2.2.2 + 1)
         if rep then hiCorr rep sl sh D qn0 f st' else st')
      else st := rfl

/-- the value left by one add-back (divisor top F plus fix-up limbs fs) on a negative truncated remainder Y - tp,
    computed modulo P·B: it is the true sum, which is non-negative and below 2·P -/
theorem addback_value {P g1 g2 n Y F fs tp : Nat} (hval : g1 + P * g2 + tp + n * (P * B) = Y + F + fs + P * B)
    (hg1 : g1 < P) (hg2 : g2 < B) (hY : Y < tp) (htp : 2 * tp ≤ P) (hF1 : P ≤ 2 * F) (hF2 : F < P) (hfs : fs ≤ P) :
    g2 ≤ 1 ∧ g1 + P * g2 + tp = Y + F + fs := by
  have hB2 : P * 2 ≤ P * B := Nat.mul_le_mul_left _ (by rw [B_eq]; omega)
  have hv : g1 + P * g2 < P * B := add_mul_lt hg1 hg2
  have hn : n = 1 := by
    rcases Nat.lt_trichotomy n 1 with h | h | h
    · have : n = 0 := by omega
      rw [this, Nat.zero_mul] at hval
      omega
    · exact h
    · have : 2 * (P * B) ≤ n * (P * B) := Nat.mul_le_mul_right _ h
      omega
  rw [hn, Nat.one_mul] at hval
  refine ⟨?_, by omega⟩
  by_contra hc
  have : P * 2 ≤ P * g2 := Nat.mul_le_mul_left _ (by omega)
  omega

/-- one pass of the correction loop on a negative truncated remainder (cy = B-1): the high quotient half is decremented,
    the remainder grows by ⌊D/B^(sh-1)⌋ and the fix-up limbs and becomes non-negative, the loop stops -/
theorem hiCorr_neg (sl sh D qn0 Qup Qh qh Y tp : Nat) (hQh1 : 1 ≤ Qh) (hQh : Qh < B ^ sh)
    (hqh : qh < B) (hY : Y < tp) (htp : 2 * tp ≤ B ^ (sl + 2)) (hF1 : B ^ (sl + 2) ≤ 2 * (D / B ^ (sh - 1)))
    (hF2 : D / B ^ (sh - 1) < B ^ (sl + 2)) (hshB : sh ≤ B) :
    ∃ g1 g2 fs, hiCorr true sl sh D qn0 loopFuel (Qup * B ^ sh + Qh, qh, Y + B ^ (sl + 2) - tp, B - 1, 0)
        = (Qup * B ^ sh + (Qh - 1), qh, g1, g2, 1) ∧ g1 < B ^ (sl + 2) ∧ g2 ≤ 1 ∧
      g1 + B ^ (sl + 2) * g2 + tp = Y + D / B ^ (sh - 1) + fs ∧
      tS D Qh sh = tS D (Qh - 1) sh + D / B ^ (sh - 1) + fs := by
  have hB := B_pos
  obtain ⟨z, Qa, q0, hq0, eQ, eQ1⟩ := exists_trailing Qh hQh1
  have hzsh : z < sh := by
    by_contra hc
    have h1 : B ^ sh ≤ B ^ z := Nat.pow_le_pow_right hB (by omega)
    have h2 : 1 * B ^ z ≤ (Qa * B + (q0 + 1)) * B ^ z := Nat.mul_le_mul_right _ (by omega)
    omega
  have hdec := tS_dec sh z D Qa q0 (by rw [← eQ]; exact hQh) hq0
  rw [← eQ, ← eQ1] at hdec
  have hlow : ∀ i, i < z → (Qh - 1) / B ^ i % B = B - 1 := fun i hi => by rw [eQ1]; exact digit_ones _ z i hi
  have hat : z < sh - 1 → (Qh - 1) / B ^ z % B ≠ B - 1 := fun _ => by
    rw [eQ1, digit_above Qa q0 z (by omega)]; omega
  have hfs : sumd (D / B ^ (sh - 1 - z)) z ≤ B ^ (sl + 2) :=
    calc sumd (D / B ^ (sh - 1 - z)) z ≤ z * B := by have := sumd_le z (D / B ^ (sh - 1 - z)); omega
      _ ≤ B * B := Nat.mul_le_mul_right _ (by omega)
      _ = B ^ 2 := (pow_two B).symm
      _ ≤ B ^ (sl + 2) := Nat.pow_le_pow_right hB (by omega)
  have hb : subN (qn0 - sl) (Qup * B ^ sh + Qh) 1 = (Qup * B ^ sh + (Qh - 1), 0) := by
    unfold subN
    rw [if_neg (by omega), Nat.add_sub_assoc hQh1]
  obtain ⟨a, ha⟩ : ∃ a, addN (sl + 2) (Y + B ^ (sl + 2) - tp) (D / B ^ (sh - 1)) = a := ⟨_, rfl⟩
  obtain ⟨a1, a2, -⟩ := addN_spec (sl + 2) (Y + B ^ (sl + 2) - tp) (D / B ^ (sh - 1)) (by omega) hF2.le
  rw [ha] at a1 a2
  obtain ⟨g, hg⟩ : ∃ g, fixLoop sl sh D (Qh - 1) sh 0 a.1 ((B - 1 + a.2) % B) = g := ⟨_, rfl⟩
  obtain ⟨k', r1, r2, r3⟩ := fixLoop_run sl sh D (Qh - 1) z (by omega) hlow hat z sh 0 a.1 ((B - 1 + a.2) % B)
    (by omega) (by omega) a2 (Nat.mod_lt _ hB)
  rw [hg] at r1 r2 r3
  have hpass : hiCorr true sl sh D qn0 loopFuel (Qup * B ^ sh + Qh, qh, Y + B ^ (sl + 2) - tp, B - 1, 0)
      = hiCorr true sl sh D qn0 5 (Qup * B ^ sh + (Qh - 1), qh, g.1, g.2, 0 + 1) := by
    show hiCorr true sl sh D qn0 (5 + 1) _ = _
    rw [hiCorr_succ, if_pos (show B - 1 ≥ B / 2 by rw [B_eq]; omega)]
    simp only [↓reduceIte]
    rw [hb]
    simp only []
    rw [mod_of_split _ _ _ (show Qh - 1 < B ^ sh by omega), Nat.sub_zero, Nat.add_mod_right, Nat.mod_eq_of_lt hqh, ha, hg]
  have e0 : Y + B ^ (sl + 2) - tp + tp = Y + B ^ (sl + 2) := by omega
  have e1 : B ^ (sl + 2) * (B - 1) + B ^ (sl + 2) = B ^ (sl + 2) * B := by
    rw [← Nat.mul_succ, Nat.succ_eq_add_one, Nat.sub_add_cancel hB]
  -- modulo B^(sl+2)·B the limbs hold Y - tp + ⌊D/B^(sh-1)⌋ + the fix-up limbs
  have hval : g.1 + B ^ (sl + 2) * g.2 + tp + (k' + (B - 1 + a.2) / B) * (B ^ (sl + 2) * B)
      = Y + D / B ^ (sh - 1) + sumd (D / B ^ (sh - 1 - z)) z + B ^ (sl + 2) * B := by
    linear_combination r3 + B ^ (sl + 2) * Nat.div_add_mod (B - 1 + a.2) B + a1 + e0 + e1
  obtain ⟨hg2, hfin⟩ := addback_value hval r1 r2 hY htp hF1 hF2 hfs
  refine ⟨g.1, g.2, _, ?_, r1, hg2, hfin, hdec⟩
  rw [hpass]
  exact hiCorr_stop true sl sh D qn0 _ (by show g.2 < B / 2; rw [B_eq]; omega) 5

/-- `cy -= mpn_sub_n (…)` when the number (Y, cy0) is at least tp: no borrow leaves the limb `cy` -/
theorem subN_borrow (k Y tp cy0 : Nat) (hcy0 : cy0 ≤ 1) (hY : Y < B ^ k) (hle : tp ≤ Y + B ^ k * cy0) :
    (subN k Y tp).1 + B ^ k * ((cy0 + B - (subN k Y tp).2) % B) + tp = Y + B ^ k * cy0 ∧
    (subN k Y tp).1 < B ^ k ∧ (cy0 + B - (subN k Y tp).2) % B ≤ 1 := by
  unfold subN
  generalize B ^ k = P at *
  by_cases h : Y < tp
  · have hc1 : cy0 = 1 := by
      rcases Nat.eq_zero_or_pos cy0 with h0 | h0
      · subst h0; omega
      · omega
    subst hc1
    rw [if_pos h]
    simp only []
    rw [Nat.add_sub_cancel_left, Nat.mod_self]; omega
  · rw [if_neg h]
    simp only []
    rw [Nat.sub_zero, Nat.add_mod_right, Nat.mod_eq_of_lt (by rw [B_eq]; omega)]; omega

/-- dc_divappr_q.c:106-129: middle product, subtraction, correction loop.  Given the high half Qh with its truncated
    remainder r3h (relative to the divisor cut by sl limbs) and W < (Qh+1)·B^sl·D, the state after the loop holds a high
    half Qh' ∈ {Qh, Qh-1} whose truncated remainder relative to the FULL divisor is non-negative and is what the limbs
    (X, cy) hold; the loop ran at most once; still W < (Qh'+1)·B^sl·D. -/
theorem mid_spec (n sl sh W D Qup qh qn0 Qh r3h : Nat) (hn : n = sl + sh) (hsh : 1 ≤ sh) (hsl : 1 ≤ sl)
    (hD : D < B ^ (n + 1)) (hnorm : B ^ (n + 1) ≤ 2 * D) (hsz : 2 * (n + 2) ≤ B) (hqh : qh ≤ 1) (hQh : Qh < B ^ sh)
    (hXH : W / B ^ (n + sl - 1) = tS (D / B ^ sl) Qh sh + r3h) (hfl : W < (Qh + 1) * B ^ sl * D) :
    ∃ Qh' X cyf cnt,
      hiCorr true sl sh D qn0 loopFuel
        (Qup * B ^ sh + Qh, qh,
          (subN (sl + 2) (W / B ^ (n - 1) % B ^ sl + B ^ sl * (r3h % B ^ 2)) (mulmidV (n - 1) sh D Qh sh)).1,
          (r3h / B ^ 2 + B - (subN (sl + 2) (W / B ^ (n - 1) % B ^ sl + B ^ sl * (r3h % B ^ 2))
            (mulmidV (n - 1) sh D Qh sh)).2) % B, 0)
        = (Qup * B ^ sh + Qh', qh, X, cyf, cnt) ∧
      Qh' < B ^ sh ∧ X < B ^ (sl + 2) ∧ cyf ≤ 1 ∧ cnt ≤ 1 ∧
      W / B ^ (n - 1) = tS D Qh' sh + X + B ^ (sl + 2) * cyf ∧ W < (Qh' + 1) * B ^ sl * D := by
  have hB := B_pos
  have hPs := Bpow_pos sl
  -- the middle product is the part of the truncated product that the cut divisor does not see
  have htp : mm sl D Qh sh = mulmidV (n - 1) sh D Qh sh := by
    have := mm_eq_mulmidV sl (n - 1) sh D hsl (by omega) sh 0 Qh hQh rfl
    rwa [pow_zero, Nat.div_one] at this
  have htS := tS_mm sl sh D Qh
  have hmm := mm_le sl sh D Qh hQh
  rw [htp] at htS hmm
  generalize mulmidV (n - 1) sh D Qh sh = tp at *
  have eP : B ^ (sl + 2) = B ^ sl * B ^ 2 := pow_add ..
  have h2tp : 2 * tp ≤ B ^ (sl + 2) :=
    calc 2 * tp ≤ 2 * (sh * (B * B ^ sl)) := Nat.mul_le_mul_left _ hmm
      _ = 2 * sh * (B * B ^ sl) := (Nat.mul_assoc ..).symm
      _ ≤ B * (B * B ^ sl) := Nat.mul_le_mul_right _ (by omega)
      _ = B ^ (sl + 2) := by rw [eP, pow_two]; ring
  -- r3h has at most one unit in its third limb
  have hcy0 : r3h / B ^ 2 ≤ 1 := by
    have hW2 : W / B ^ (2 * sl) < (Qh + 1) * (D / B ^ sl + 1) := by
      rw [Nat.div_lt_iff_lt_mul (Bpow_pos _), two_mul, pow_add]
      calc W < (Qh + 1) * B ^ sl * D := hfl
        _ < (Qh + 1) * B ^ sl * (B ^ sl * (D / B ^ sl + 1)) :=
          Nat.mul_lt_mul_of_pos_left (Nat.lt_mul_div_succ D hPs) (Nat.mul_pos (Nat.succ_pos _) hPs)
        _ = (Qh + 1) * (D / B ^ sl + 1) * (B ^ sl * B ^ sl) := by ring
    have hr3 := r3_small sh (W / B ^ (2 * sl)) (D / B ^ sl) Qh r3h hsh hQh
      (by rw [Nat.div_lt_iff_lt_mul hPs, ← pow_add, show sh + 1 + sl = n + 1 by clear * - hn hsh hsl; omega]; exact hD)
      (by rw [div_pow_add, show 2 * sl + (sh - 1) = n + sl - 1 by clear * - hn hsh hsl; omega]; exact hXH) hW2
    have : r3h / B ^ 2 < 2 := by
      rw [Nat.div_lt_iff_lt_mul (Bpow_pos 2), pow_two]
      have : (sh + 1) * B ≤ B * B := Nat.mul_le_mul_right _ (by omega)
      omega
    omega
  have hdm := Nat.div_add_mod r3h (B ^ 2)
  have hXX := Nat.div_add_mod (W / B ^ (n - 1)) (B ^ sl)
  rw [div_pow_add, show n - 1 + sl = n + sl - 1 by clear * - hn hsh hsl; omega, hXH] at hXX
  have hYlt : W / B ^ (n - 1) % B ^ sl + B ^ sl * (r3h % B ^ 2) < B ^ (sl + 2) := by
    rw [eP]; exact add_mul_lt (Nat.mod_lt _ hPs) (Nat.mod_lt _ (Bpow_pos 2))
  -- key identity: ⌊W/B^(n-1)⌋ + tp = Y + B^(sl+2)·cy0 + tS D Qh sh
  have hK : W / B ^ (n - 1) + tp
      = W / B ^ (n - 1) % B ^ sl + B ^ sl * (r3h % B ^ 2) + B ^ (sl + 2) * (r3h / B ^ 2) + tS D Qh sh := by
    rw [eP]; linear_combination hXX.symm + B ^ sl * hdm.symm + htS.symm
  generalize W / B ^ (n - 1) % B ^ sl + B ^ sl * (r3h % B ^ 2) = Y at hYlt hK ⊢
  generalize r3h / B ^ 2 = cy0 at hcy0 hK ⊢
  by_cases hcase : tp ≤ Y + B ^ (sl + 2) * cy0
  · -- non-negative: no pass
    obtain ⟨s1, s2, s3⟩ := subN_borrow (sl + 2) Y tp cy0 hcy0 hYlt hcase
    exact ⟨Qh, _, _, 0, hiCorr_stop true sl sh D qn0 _ (Nat.lt_of_le_of_lt s3 one_lt_half) _, hQh, s2, s3,
      Nat.zero_le _, by omega, hfl⟩
  · -- negative: one pass
    have hc0 : cy0 = 0 := by
      rcases Nat.eq_zero_or_pos cy0 with h0 | h0
      · exact h0
      · have : B ^ (sl + 2) * 1 ≤ B ^ (sl + 2) * cy0 := Nat.mul_le_mul_left _ h0
        omega
    subst hc0
    rw [Nat.mul_zero, Nat.add_zero] at hK hcase
    have hQh1 : 1 ≤ Qh := by
      rcases Nat.eq_zero_or_pos Qh with h0 | h0
      · rw [h0, mm_zero] at htp; omega
      · exact h0
    have es : subN (sl + 2) Y tp = (Y + B ^ (sl + 2) - tp, 1) := by
      unfold subN; rw [if_pos (by omega)]
    obtain ⟨hF1, hF2⟩ := norm_top (sl + 2) (sh - 1) D (by clear * - hn hsh hsl; omega) (by omega) hnorm hD
    obtain ⟨g1, g2, fs, erun, hg1, hg2, hval, hdec⟩ :=
      hiCorr_neg sl sh D qn0 Qup Qh qh Y tp hQh1 hQh (by omega) (by omega) h2tp hF1 hF2 (by omega)
    rw [es]
    simp only []
    rw [Nat.zero_add, Nat.mod_eq_of_lt (Nat.sub_lt hB Nat.one_pos)]
    refine ⟨Qh - 1, g1, g2, 1, erun, by omega, hg1, hg2, le_refl _, by omega, ?_⟩
    rw [Nat.sub_add_cancel hQh1]
    exact lt_of_trunc_lt sl sh W D Qh hsh hQh (by rw [show sl + (sh - 1) = n - 1 by clear * - hn hsh hsl; omega]; omega)

theorem lex_ge (a b P : Nat) (hP : 0 < P) : (a / P > b / P ∨ (a / P = b / P ∧ a % P ≥ b % P)) ↔ b ≤ a := by
  have := DivWord.lex_le_iff (M := P) (x := b % P) (y := b / P) (x' := a % P) (y' := a / P) (Nat.mod_lt _ hP) (Nat.mod_lt _ hP)
  rw [Nat.mod_add_div, Nat.mod_add_div] at this
  rw [this]; omega

/-- __divappr_helper on a window X (its high part u·B³ not seen) and a divisor Dk of k+1 limbs: the three limbs are the
    truncated remainder of the all-ones quotient -/
theorem sat_eq (k X Dk u t : Nat) (hk : 1 ≤ k) (hDk : Dk < B ^ (k + 1)) (hX : X / B < B ^ (k + 1))
    (hid : X + Dk / B ^ (k - 1) + sumd Dk (k - 1) + u * B ^ 3 = B * Dk + t) (ht : t < B ^ 3) :
    helper3 k (X % B) (X / B) Dk = t ∧ X + u * B ^ 3 = tS Dk (B ^ k - 1) k + t := by
  have hdm := Nat.div_add_mod X B
  refine ⟨helper3_spec k (X % B) (X / B) Dk u t hk (Nat.mod_lt _ B_pos) hX hDk (by omega) ht, ?_⟩
  obtain ⟨j, rfl⟩ : ∃ j, k = j + 1 := ⟨k - 1, by omega⟩
  have := tS_sat j Dk
  rw [Nat.add_sub_cancel] at hid
  omega

/-- the recursive calls keep `CutSpec` (induction hypothesis) -/
def RecOK (C n dn D : Nat) (recur : Nat → Nat → Nat → Nat → Res) : Prop :=
  ∀ m Nsub, C ≤ m → m < n → Nsub < B ^ (dn + m) → Nsub / B ^ (dn - (m + 1)) / B ^ m < D / B ^ (dn - (m + 1)) →
    CutSpec m dn Nsub D (recur (dn + m) dn Nsub D)

theorem sub_spec (leaf : Leaf) (hleaf : LeafOK leaf)
    (C n dn D m Nsub : Nat) (recur : Nat → Nat → Nat → Nat → Res) (hrec : RecOK C n dn D recur)
    (hdn : dn = n + 1) (hm : 1 ≤ m) (hmn : m < n) (hD : D < B ^ dn) (hnorm : B ^ dn ≤ 2 * D) (hsize : 2 * dn + 2 ≤ B)
    (hN : Nsub < B ^ (dn + m)) (hpre : Nsub / B ^ (dn - (m + 1)) / B ^ m < D / B ^ (dn - (m + 1))) :
    CutSpec m dn Nsub D (if m < C then leaf (dn + m) dn Nsub D else recur (dn + m) dn Nsub D) := by
  by_cases h : m < C
  · rw [if_pos h]
    exact (hleaf (dn + m) dn Nsub D (by omega) (by omega) hN hD hnorm hsize).cut (by omega) hpre
  · rw [if_neg h]
    exact hrec m Nsub (by omega) hmn hN hpre

/-- dc_divappr_q.c:96-104 -/
theorem hiPart_spec (leaf : Leaf) (hleaf : LeafOK leaf)
    (C n dn W D sl sh : Nat) (recur : Nat → Nat → Nat → Nat → Res) (hrec : RecOK C n dn D recur)
    (hdn : dn = n + 1) (hn : n = sl + sh) (hsh : 1 ≤ sh) (hsl : 1 ≤ sl) (hD : D < B ^ (n + 1))
    (hnorm : B ^ (n + 1) ≤ 2 * D) (hW : W < D * B ^ n) (hsz : 2 * (n + 2) ≤ B)
    (hi : Nat × Nat × Bool × Nat) (ehi : hi = hiPart C leaf recur n dn W D sl sh) :
    hi.2.2.1 = true ∧ hi.2.2.2 ≤ 1 ∧ hi.1 < B ^ sh ∧ W / B ^ (n + sl - 1) = tS (D / B ^ sl) hi.1 sh + hi.2.1 ∧
    W < (hi.1 + 1) * B ^ sl * D := by
  subst ehi
  have hB := B_pos
  have hPs := Bpow_pos sl
  have hPh := Bpow_pos sh
  have ePn : B ^ n = B ^ sl * B ^ sh := Bpow_split hn.symm
  unfold hiPart
  by_cases hc : W / B ^ (n + sl) ≥ D / B ^ sl
  · -- the top sh+1 limbs of the window reach the cut divisor: all-ones high half
    rw [if_pos hc]
    simp only []
    obtain ⟨hDn, hDc⟩ := norm_top (sh + 1) sl D (by omega) (by omega) hnorm hD
    obtain ⟨-, hF⟩ := norm_top 2 (sh - 1) (D / B ^ sl) (by omega) (by omega) hDn hDc
    have eX : W / B ^ (n + sl - 1) / B = W / B ^ (n + sl) := by
      rw [div_pow_succ']; congr 2; omega
    have hXlt : W / B ^ (n + sl - 1) < B * (D / B ^ sl) + B := by
      have e : B * B ^ (n + sl - 1) = B ^ sl * B ^ n := by
        rw [← pow_succ', ← pow_add]; congr 1; omega
      rw [Nat.div_lt_iff_lt_mul (Bpow_pos _)]
      calc W < D * B ^ n := hW
        _ < B ^ sl * (D / B ^ sl + 1) * B ^ n :=
          Nat.mul_lt_mul_of_pos_right (Nat.lt_mul_div_succ D hPs) (Bpow_pos n)
        _ = (B * (D / B ^ sl) + B) * B ^ (n + sl - 1) := by linear_combination (D / B ^ sl + 1) * e.symm
    have hXge : B * (D / B ^ sl) ≤ W / B ^ (n + sl - 1) :=
      calc B * (D / B ^ sl) ≤ B * (W / B ^ (n + sl - 1) / B) := by rw [eX]; exact Nat.mul_le_mul_left _ hc
        _ ≤ W / B ^ (n + sl - 1) := Nat.mul_div_le _ _
    have hS := sumd_le (sh - 1) (D / B ^ sl)
    have hshB : (sh - 1) * B + 2 * B ≤ B * B := by
      rw [← Nat.add_mul]; exact Nat.mul_le_mul_right _ (by omega)
    have hB3 : B * B * 2 ≤ B ^ 3 := by
      rw [pow_three']; exact Nat.mul_le_mul_left _ (by rw [B_eq]; omega)
    rw [pow_two] at hF
    have hXB : W / B ^ (n + sl - 1) / B < B ^ (sh + 1) := by
      rw [Nat.div_lt_iff_lt_mul hB]
      calc W / B ^ (n + sl - 1) < (D / B ^ sl + 1) * B := by rw [Nat.add_mul, Nat.one_mul, Nat.mul_comm]; exact hXlt
        _ ≤ B ^ (sh + 1) * B := Nat.mul_le_mul_right _ hDc
    generalize hFd : D / B ^ sl / B ^ (sh - 1) = F at hF
    obtain ⟨s1, s2⟩ := sat_eq sh (W / B ^ (n + sl - 1)) (D / B ^ sl) 0
      (W / B ^ (n + sl - 1) + F + sumd (D / B ^ sl) (sh - 1) - B * (D / B ^ sl)) hsh hDc hXB
      (by rw [hFd]; omega) (by omega)
    rw [eX] at s1
    rw [s1]
    refine ⟨trivial, Nat.zero_le _, by omega, by omega, ?_⟩
    rw [Nat.sub_add_cancel hPh, Nat.mul_comm (B ^ sh), ← ePn, Nat.mul_comm]; exact hW
  · rw [if_neg hc]
    simp only []
    have hNs : W / B ^ sl < B ^ (dn + sh) := by
      rw [Nat.div_lt_iff_lt_mul hPs, ← pow_add, show dn + sh + sl = n + 1 + n by clear * - hdn hn hsh hsl; omega, pow_add]
      exact Nat.lt_of_lt_of_le hW (Nat.mul_le_mul_right _ hD.le)
    have es : dn - (sh + 1) = sl := by omega
    have hpre : W / B ^ sl / B ^ (dn - (sh + 1)) / B ^ sh < D / B ^ (dn - (sh + 1)) := by
      rw [es, div_pow_add, div_pow_add, show sl + (sl + sh) = n + sl by clear * - hdn hn hsh hsl; omega]; omega
    obtain ⟨c1, c2, c3, c4, c5⟩ := sub_spec leaf hleaf C n dn D sh (W / B ^ sl) recur hrec hdn hsh (by omega)
      (by rw [hdn]; exact hD) (by rw [hdn]; exact hnorm) (by omega) hNs hpre
    rw [es] at c4 c5
    rw [div_pow_add, div_pow_add, show sl + (sl + (sh - 1)) = n + sl - 1 by clear * - hdn hn hsh hsl; omega] at c5
    refine ⟨c1, c3, c2, c5, ?_⟩
    -- W/B^sl is below (q+1)·(cut divisor·B^sl) ≤ (q+1)·D, at weight B^sl
    have h := floor_uncut hPs c4
    rw [Nat.div_lt_iff_lt_mul hPs] at h
    rw [Nat.mul_right_comm]; exact h

/-- dc_divappr_q.c:131-145 -/
theorem loPart_spec (leaf : Leaf) (hleaf : LeafOK leaf)
    (C n dn W D sl sh X cyf Qh' : Nat) (recur : Nat → Nat → Nat → Nat → Res)
    (hrec : RecOK C n dn D recur) (hdn : dn = n + 1) (hn : n = sl + sh) (hsh : 1 ≤ sh) (hsl : 2 ≤ sl)
    (hD : D < B ^ (n + 1)) (hnorm : B ^ (n + 1) ≤ 2 * D) (hsz : 2 * (n + 2) ≤ B)
    (hX : X < B ^ (sl + 2)) (hcy : cyf ≤ 1) (hQh' : Qh' < B ^ sh)
    (hXX : W / B ^ (n - 1) = tS D Qh' sh + X + B ^ (sl + 2) * cyf) (hfl : W < (Qh' + 1) * B ^ sl * D)
    (lo : Nat × Nat × Bool × Nat) (elo : lo = loPart C leaf recur n dn W D sl sh X cyf) :
    lo.2.2.1 = true ∧ lo.2.2.2 ≤ 1 ∧ lo.1 < B ^ sl ∧ W < (Qh' * B ^ sl + lo.1 + 1) * D ∧
    W / B ^ (n - 1) = tS D (Qh' * B ^ sl + lo.1) n + lo.2.1 := by
  subst elo
  have hB := B_pos
  have hPs := Bpow_pos sl
  have hPh := Bpow_pos sh
  obtain ⟨-, hDk⟩ := norm_top (sl + 1) sh D (by omega) (by omega) hnorm hD
  have hsplit : ∀ Ql, Ql < B ^ sl → tS D (Qh' * B ^ sl + Ql) n = tS D Qh' sh + tS (D / B ^ sh) Ql sl := by
    intro Ql hQl
    rw [show n = sh + sl from hn.trans (Nat.add_comm sl sh)]; exact tS_split sl sh D Qh' Ql hQh' hQl
  have hQn : ∀ Ql, Ql < B ^ sl → Qh' * B ^ sl + Ql < B ^ n := by
    intro Ql hQl
    rw [show n = sh + sl from hn.trans (Nat.add_comm sl sh), pow_add]; exact split_lt' hQh' hQl
  unfold loPart
  by_cases hc : cyf ≠ 0 ∨ X / B ≥ D / B ^ sh
  · -- the limbs np[n-1 .. n+sl] reach B·(cut divisor): all-ones low half
    rw [if_pos hc]
    simp only []
    have hQl : B ^ sl - 1 < B ^ sl := Nat.sub_lt hPs Nat.one_pos
    have eQ : Qh' * B ^ sl + (B ^ sl - 1) + 1 = (Qh' + 1) * B ^ sl := by
      rw [Nat.add_assoc, Nat.sub_add_cancel hPs, Nat.succ_mul]
    have hge : B * (D / B ^ sh) ≤ X + B ^ (sl + 2) * cyf := by
      rcases hc with h | h
      · calc B * (D / B ^ sh) ≤ B * B ^ (sl + 1) := Nat.mul_le_mul_left _ hDk.le
          _ = B ^ (sl + 2) * 1 := by rw [← pow_succ', Nat.mul_one]
          _ ≤ B ^ (sl + 2) * cyf := Nat.mul_le_mul_left _ (by omega)
          _ ≤ X + B ^ (sl + 2) * cyf := Nat.le_add_left _ _
      · calc B * (D / B ^ sh) ≤ B * (X / B) := Nat.mul_le_mul_left _ h
          _ ≤ X := Nat.mul_div_le _ _
          _ ≤ X + B ^ (sl + 2) * cyf := Nat.le_add_right _ _
    have hsat := tS_sat (sl - 1) (D / B ^ sh)
    rw [Nat.sub_add_cancel (by omega : 1 ≤ sl)] at hsat
    generalize hFd : D / B ^ sh / B ^ (sl - 1) = F at hsat
    -- t4: the truncated remainder of the window by the quotient with all-ones low half
    obtain ⟨t4, ht4⟩ : ∃ t4, X + B ^ (sl + 2) * cyf + F + sumd (D / B ^ sh) (sl - 1) = B * (D / B ^ sh) + t4 :=
      ⟨X + B ^ (sl + 2) * cyf + F + sumd (D / B ^ sh) (sl - 1) - B * (D / B ^ sh), by omega⟩
    have hXXt : W / B ^ (n - 1) = tS D (Qh' * B ^ sl + (B ^ sl - 1)) n + t4 := by
      rw [hsplit _ hQl]; omega
    have ht4lt : t4 < B * B + (n + 1) * B :=
      r3_small n W D _ t4 (by omega) (hQn _ hQl) hD hXXt (by
        rw [eQ]; exact Nat.lt_of_lt_of_le hfl (Nat.mul_le_mul_left _ (Nat.le_succ D)))
    have ht4B3 : t4 < B ^ 3 := by
      have h1 : (n + 1) * B ≤ B * B := Nat.mul_le_mul_right _ (by omega)
      have h2 : B * B * 2 ≤ B * B * B := Nat.mul_le_mul_left _ (by rw [B_eq]; omega)
      rw [pow_three']; omega
    have hu : cyf * B ^ (sl - 1) * B ^ 3 = B ^ (sl + 2) * cyf := by
      rw [Nat.mul_assoc, ← pow_add, show sl - 1 + 3 = sl + 2 by clear * - hdn hn hsh hsl; omega, Nat.mul_comm]
    have hXB : X / B < B ^ (sl + 1) := by
      rw [Nat.div_lt_iff_lt_mul hB, ← pow_succ]; exact hX
    obtain ⟨s1, -⟩ := sat_eq sl X (D / B ^ sh) (cyf * B ^ (sl - 1)) t4 (by omega) hDk hXB (by rw [hu, hFd]; omega) ht4B3
    rw [s1]
    exact ⟨trivial, Nat.zero_le _, hQl, by rw [eQ]; exact hfl, hXXt⟩
  · rw [if_neg hc]
    simp only []
    have hcy0 : cyf = 0 := by
      by_contra h; exact hc (Or.inl h)
    have hXlt : X / B < D / B ^ sh := by
      by_contra h; exact hc (Or.inr (by omega))
    subst hcy0
    rw [Nat.mul_zero, Nat.add_zero] at hXX
    have hlow := Nat.mod_lt W (Bpow_pos (n - 1))
    have hNl : W % B ^ (n - 1) + B ^ (n - 1) * X < B ^ (dn + sl) := by
      rw [Bpow_split (show n - 1 + (sl + 2) = dn + sl by omega)]; exact add_mul_lt hlow hX
    have es : dn - (sl + 1) = sh := by omega
    have eNl : (W % B ^ (n - 1) + B ^ (n - 1) * X) / B ^ (n - 1) = X := by
      rw [Nat.add_comm, Nat.mul_comm, div_of_split _ _ _ hlow]
    have e1 : (W % B ^ (n - 1) + B ^ (n - 1) * X) / B ^ sh / B ^ sl = X / B := by
      rw [div_pow_add, show sh + sl = (n - 1) + 1 by clear * - hdn hn hsh hsl; omega, ← div_pow_succ', eNl]
    have e2 : (W % B ^ (n - 1) + B ^ (n - 1) * X) / B ^ sh / B ^ (sl - 1) = X := by
      rw [div_pow_add, show sh + (sl - 1) = n - 1 by clear * - hdn hn hsh hsl; omega, eNl]
    obtain ⟨c1, c2, c3, c4, c5⟩ :=
      sub_spec leaf hleaf C n dn D sl (W % B ^ (n - 1) + B ^ (n - 1) * X) recur hrec hdn (by omega)
      (by omega) (by rw [hdn]; exact hD) (by rw [hdn]; exact hnorm) (by omega) hNl (by rw [es, e1]; exact hXlt)
    rw [es] at c4 c5
    rw [e2] at c5
    generalize (if sl < C then leaf (dn + sl) dn (W % B ^ (n - 1) + B ^ (n - 1) * X) D
      else recur (dn + sl) dn (W % B ^ (n - 1) + B ^ (n - 1) * X) D) = r at *
    refine ⟨c1, c3, c2, ?_, by rw [hsplit _ c2, hXX, c5, Nat.add_assoc]⟩
    -- W = B^(n-1)·(tS D Qh' sh + X) + W mod B^(n-1) ≤ Qh'·B^sl·D + (what the sub-call divided) < (Qh'·B^sl + q + 1)·D
    have h1 := tS_hi_le sl sh D Qh' hsh hQh'
    rw [show sl + (sh - 1) = n - 1 by clear * - hdn hn hsh hsl; omega] at h1
    have h2 := floor_uncut hPh c4
    have hW := Nat.div_add_mod W (B ^ (n - 1))
    rw [hXX] at hW
    linear_combination hW.symm.le + h1 + h2

/-- sizes in the rare case.  X = ⌊W/B^(n-1)⌋ is within B² below B·D (BD), F = ⌊D/B^(n-1)⌋ is a normalised two-limb number
    and S a sum of j limbs: the helper's sum X + F + S exceeds B·D by less than 2·B², or falls short of it by sg ≤ F, and
    then the three limbs B³ - sg it leaves have the sign bit set and become F - sg when F is added -/
theorem rare_arith (X BD F S j : Nat) (hXlt : X < BD) (hXge : BD ≤ X + B * B) (hF1 : B * B ≤ 2 * F) (hF2 : F < B * B)
    (hS : S + j ≤ j * B) (hj : 2 * (j + 3) ≤ B) :
    (BD ≤ X + F + S → X + F + S - BD < B ^ 3 ∧ (X + F + S - BD) / B ^ 2 < B / 2) ∧
    (∀ sg, X + F + S + sg = BD → sg ≤ F ∧ sg ≤ B ^ 3 ∧ (B ^ 3 - sg + F) % B ^ 3 = F - sg ∧ B / 2 ≤ (B ^ 3 - sg) / B ^ 2) := by
  simp only [B_eq] at *
  exact ⟨fun h => by omega, fun sg hsg => by omega⟩

/-- dc_divappr_q.c:77-93, the rare case -/
theorem rare_spec (n W D : Nat) (hn : 2 ≤ n) (hD : D < B ^ (n + 1)) (hnorm : B ^ (n + 1) ≤ 2 * D) (hW : W < D * B ^ n)
    (hsz : 2 * (n + 2) ≤ B) (hc : D / B ≤ W / B ^ (n + 1)) :
    (helper3 n (W / B ^ (n - 1) % B) (W / B ^ n) D / B ^ 2 ≥ B / 2 →
      W < (B ^ n - 2 + 1) * D ∧
      W / B ^ (n - 1) = tS D (B ^ n - 2) n + (helper3 n (W / B ^ (n - 1) % B) (W / B ^ n) D + D / B ^ (n - 1)) % B ^ 3) ∧
    (¬ helper3 n (W / B ^ (n - 1) % B) (W / B ^ n) D / B ^ 2 ≥ B / 2 →
      W / B ^ (n - 1) = tS D (B ^ n - 1) n + helper3 n (W / B ^ (n - 1) % B) (W / B ^ n) D) := by
  have hB := B_pos
  obtain ⟨j, rfl⟩ : ∃ j, n = j + 1 := ⟨n - 1, by omega⟩
  simp only [Nat.add_sub_cancel]
  have hXlt : W / B ^ j < B * D := by
    rw [Nat.div_lt_iff_lt_mul (Bpow_pos _), Nat.mul_comm B, Nat.mul_assoc, ← pow_succ']; exact hW
  have hXB : W / B ^ j / B < B ^ (j + 1 + 1) := by
    rw [Nat.div_lt_iff_lt_mul hB, Nat.mul_comm]
    exact Nat.lt_trans hXlt (Nat.mul_lt_mul_of_pos_left hD hB)
  -- the top limbs of the window reach those of the divisor: ⌊W/B^j⌋ ≥ B·D - B·(B-1)
  have hXge : B * D ≤ W / B ^ j + B * B := by
    have h1 : B ^ 2 * (W / B ^ j / B ^ 2) ≤ W / B ^ j := Nat.mul_div_le _ _
    rw [div_pow_add, pow_two] at h1
    have h2 : B * B * (D / B) ≤ B * B * (W / B ^ (j + 1 + 1)) := Nat.mul_le_mul_left _ hc
    have h4 : D % B + 1 ≤ B := Nat.mod_lt D hB
    linear_combination h1 + h2 + B * (Nat.div_add_mod D B).symm.le + B * h4 + Nat.zero_le B
  obtain ⟨hF1, hF2⟩ := norm_top 2 j D (by omega) (by omega) hnorm hD
  rw [pow_two] at hF1 hF2
  have hsat := tS_sat j D
  have hdec := tS_ones_pred j D
  obtain ⟨hpos, hneg⟩ := rare_arith (W / B ^ j) (B * D) (D / B ^ j) (sumd D j) j hXlt hXge hF1 hF2 (sumd_le j D) (by omega)
  have hQ1 : B ^ (j + 1) - 2 + 1 = B ^ (j + 1) - 1 := by have := two_le_Bpow (j + 1) (by omega); omega
  generalize hFd : D / B ^ j = F at hsat hdec hpos hneg ⊢
  clear hF1 hF2 hXge hXlt hc hsz hnorm hW hn
  rw [← div_pow_succ' W j]
  by_cases hsign : B * D ≤ W / B ^ j + F + sumd D j
  · -- non-negative truncated remainder, below 2·B²
    obtain ⟨ht, htd⟩ := hpos hsign
    obtain ⟨s1, s2⟩ := sat_eq (j + 1) (W / B ^ j) D 0 (W / B ^ j + F + sumd D j - B * D) (by omega) hD hXB
      (by rw [Nat.add_sub_cancel, hFd]; omega) ht
    rw [s1]
    exact ⟨fun h => by omega, fun _ => by omega⟩
  · -- negative, -sg with 1 ≤ sg ≤ F: the helper leaves B³ - sg, the repaired C decrements the quotient
    obtain ⟨sg, hsg⟩ : ∃ sg, W / B ^ j + F + sumd D j + sg = B * D :=
      ⟨B * D - (W / B ^ j + F + sumd D j), by omega⟩
    obtain ⟨g1, g2, g3, g4⟩ := hneg sg hsg
    obtain ⟨s1, s2⟩ := sat_eq (j + 1) (W / B ^ j) D 1 (B ^ 3 - sg) (by omega) hD hXB
      (by rw [Nat.add_sub_cancel, hFd]; omega) (Nat.sub_lt (Bpow_pos 3) (by omega))
    rw [s1]
    refine ⟨fun _ => ⟨?_, by rw [g3]; omega⟩, fun h => absurd g4 h⟩
    rw [hQ1]
    have := lt_of_trunc_lt 0 (j + 1) W D (B ^ (j + 1) - 1) (by omega) (Nat.sub_lt (Bpow_pos _) Nat.one_pos)
      (by rw [Nat.zero_add, Nat.add_sub_cancel]; omega)
    rwa [pow_zero, Nat.mul_one] at this

/-- dc_divappr_q.c:72-147 (everything after the reduction loop), repaired C: the invariant of the header of this file -/
theorem dcTail_spec (leaf : Leaf) (hleaf : LeafOK leaf)
    (C n dn W D Qup qh qn0 : Nat) (ok0 : Bool) (recur : Nat → Nat → Nat → Nat → Res)
    (hrec : RecOK C n dn D recur) (hdn : dn = n + 1) (hn3 : 3 ≤ n) (hD : D < B ^ (n + 1))
    (hnorm : B ^ (n + 1) ≤ 2 * D) (hW : W < D * B ^ n) (hsz : 2 * (n + 2) ≤ B) (hqh : qh ≤ 1)
    (r : Res) (er : r = dcTail true C leaf recur n dn W D Qup qh qn0 ok0) :
    r.ok = ok0 ∧ r.qh = qh ∧ r.wl ≤ 1 ∧
    ∃ Ql, Ql < B ^ n ∧ r.q = Qup * B ^ n + Ql ∧ W < (Ql + 1) * D ∧ W / B ^ (n - 1) = tS D Ql n + r.r3 := by
  subst er
  have hPn := Bpow_pos n
  have hPn2 := two_le_Bpow n (by omega)
  unfold dcTail
  simp only []
  have e1 : W / B ^ (n + 1) / B ^ (n - 1) = W / B ^ (2 * n) := by rw [div_pow_add]; congr 2; omega
  have e2 : D / B / B ^ (n - 1) = D / B ^ n := by rw [div_pow_succ]; congr 2; omega
  have hlex := lex_ge (W / B ^ (n + 1)) (D / B) (B ^ (n - 1)) (Bpow_pos _)
  rw [e1, e2] at hlex
  by_cases hrare : W / B ^ (2 * n) > D / B ^ n ∨ (W / B ^ (2 * n) = D / B ^ n ∧ W / B ^ (n + 1) % B ^ (n - 1) ≥ D / B % B ^ (n - 1))
  · rw [if_pos hrare]
    obtain ⟨r1, r2⟩ := rare_spec n W D (by omega) hD hnorm hW hsz (hlex.mp hrare)
    simp only [Bool.true_and, decide_eq_true_eq]
    by_cases hs : helper3 n (W / B ^ (n - 1) % B) (W / B ^ n) D / B ^ 2 ≥ B / 2
    · rw [if_pos hs]
      obtain ⟨f1, f2⟩ := r1 hs
      exact ⟨rfl, rfl, Nat.zero_le _, B ^ n - 2, by omega, rfl, f1, f2⟩
    · rw [if_neg hs]
      refine ⟨rfl, rfl, Nat.zero_le _, B ^ n - 1, by omega, rfl, ?_, r2 hs⟩
      rw [Nat.sub_add_cancel hPn, Nat.mul_comm]; exact hW
  · rw [if_neg hrare]
    obtain ⟨sh, hsh⟩ : ∃ sh, sh = n / 2 := ⟨_, rfl⟩
    obtain ⟨sl, hsl⟩ : ∃ sl, sl = n - sh := ⟨_, rfl⟩
    rw [← hsh, ← hsl]
    have hnsum : n = sl + sh := by omega
    have hsh1 : 1 ≤ sh := by omega
    have hsl2 : 2 ≤ sl := by omega
    obtain ⟨h1, h2, h3, h4, h5⟩ :=
      hiPart_spec leaf hleaf C n dn W D sl sh recur hrec hdn hnsum hsh1 (by omega) hD hnorm hW hsz _ rfl
    generalize hiPart C leaf recur n dn W D sl sh = hi at *
    obtain ⟨Qh', X, cyf, cnt, erun, m1, m2, m3, m4, m5, m6⟩ :=
      mid_spec n sl sh W D Qup qh qn0 hi.1 hi.2.1 hnsum hsh1 (by omega) hD hnorm hsz hqh h3 h4 h5
    rw [erun]
    simp only []
    obtain ⟨l1, l2, l3, l4, l5⟩ :=
      loPart_spec leaf hleaf C n dn W D sl sh X cyf Qh' recur hrec hdn hnsum hsh1 hsl2 hD hnorm hsz
      m2 m3 m1 m5 m6 _ rfl
    generalize loPart C leaf recur n dn W D sl sh X cyf = lo at *
    have ePn : B ^ n = B ^ sh * B ^ sl := Bpow_split (by omega)
    refine ⟨by rw [h1, l1]; simp, trivial, by omega, Qh' * B ^ sl + lo.1, ?_, ?_, l4, l5⟩
    · rw [ePn]; exact split_lt' m1 l3
    · rw [ePn]; ring

/-! ## the exact reduction loop dc_divappr_q.c:64-70 -/

theorem redStep_spec (T dn sh Wt D : Nat) (hT : 6 ≤ T) (hdn : 3 ≤ dn) (hsh1 : 1 ≤ sh) (hshdn : sh ≤ dn)
    (hD : D < B ^ dn) (hnorm : B ^ dn ≤ 2 * D) (hWt : Wt < D * B ^ sh) :
    (if sh ≤ T then sbQr (dn + sh) dn Wt D else dcDivQr T (dn + sh) dn Wt D).ok = true ∧
    (if sh ≤ T then sbQr (dn + sh) dn Wt D else dcDivQr T (dn + sh) dn Wt D).q = Wt / D ∧
    (if sh ≤ T then sbQr (dn + sh) dn Wt D else dcDivQr T (dn + sh) dn Wt D).r = Wt % D := by
  have hD0 : 0 < D := by
    have := Bpow_pos dn; omega
  have hq : Wt / D < B ^ sh := by rw [Nat.div_lt_iff_lt_mul hD0, Nat.mul_comm]; exact hWt
  have hN : Wt < B ^ (dn + sh) := by
    rw [pow_add]; exact Nat.lt_of_lt_of_le hWt (Nat.mul_le_mul_right _ hD.le)
  by_cases h : sh ≤ T
  · rw [if_pos h]
    unfold sbQr
    simp only [Nat.add_sub_cancel_left]
    refine ⟨?_, Nat.mod_eq_of_lt hq, trivial⟩
    have hhalf : B ^ dn / 2 ≤ D := by omega
    simp [hhalf, hD, hN]; omega
  · rw [if_neg h]
    obtain ⟨⟨ok, id, hr, hq', hqh, _⟩, _⟩ := dcDivQr_spec T (dn + sh) dn Wt D hT (by omega) (by omega) hnorm hD hN
    rw [Nat.add_sub_cancel_left] at id hq'
    obtain ⟨e1, e2⟩ := Mpir.DivWord.divmod_of_eq Wt D _ _ id hr
    generalize dcDivQr T (dn + sh) dn Wt D = r at *
    have hqh0 : r.qh = 0 := qh_zero_of_lt id hWt
    rw [hqh0, Nat.zero_mul, Nat.zero_add] at e1
    exact ⟨ok, e1.symm, e2.symm⟩

theorem red_step (W D P : Nat) (hP : 0 < P) (hD : 0 < D) :
    W = W / P / D * D * P + (W % P + P * (W / P % D)) ∧ W % P + P * (W / P % D) < D * P := by
  refine ⟨?_, by rw [Nat.mul_comm D P]; exact add_mul_lt (Nat.mod_lt W hP) (Nat.mod_lt _ hD)⟩
  linear_combination (Nat.div_add_mod W P).symm + P * (Nat.div_add_mod (W / P) D).symm

theorem redLoop_spec (T dn D : Nat) (hT : 6 ≤ T) (hdn : 3 ≤ dn) (hD : D < B ^ dn) (hnorm : B ^ dn ≤ 2 * D) :
    ∀ (fuel qn W Qup : Nat) (ok : Bool), dn - 1 ≤ qn → qn - (dn - 1) ≤ fuel → W < D * B ^ qn →
      ∃ Qr Wr, redLoop T dn D fuel qn W Qup ok = (dn - 1, Wr, Qup * B ^ (qn - (dn - 1)) + Qr, ok) ∧
        Qr < B ^ (qn - (dn - 1)) ∧ W = Qr * D * B ^ (dn - 1) + Wr ∧ Wr < D * B ^ (dn - 1)
  | 0, qn, W, Qup, ok, h1, h2, hW => by
    have e : qn = dn - 1 := by omega
    subst e
    exact ⟨0, W, by simp [redLoop], by simp, by simp, hW⟩
  | fuel + 1, qn, W, Qup, ok, h1, h2, hW => by
    by_cases hc : dn - 1 < qn
    · unfold redLoop
      rw [if_pos hc]
      simp only []
      obtain ⟨sh, hsh⟩ : ∃ sh, sh = min dn (qn - dn + 1) := ⟨_, rfl⟩
      rw [← hsh]
      have hsh1 : 1 ≤ sh := by omega
      have hshdn : sh ≤ dn := by omega
      have hshq : sh + dn ≤ qn + 1 := by omega
      clear hsh
      obtain ⟨e, he⟩ : ∃ e, qn - sh = e + (dn - 1) := ⟨qn - sh - (dn - 1), by omega⟩
      have eq : B ^ qn = B ^ sh * B ^ (qn - sh) := Bpow_split (by omega)
      have eE : B ^ (qn - (dn - 1)) = B ^ sh * B ^ e := Bpow_split (by omega)
      have eP : B ^ (qn - sh) = B ^ e * B ^ (dn - 1) := Bpow_split he.symm
      have ee : qn - sh - (dn - 1) = e := by omega
      have hD0 : 0 < D := by have := Bpow_pos dn; omega
      have hP := Bpow_pos (qn - sh)
      have hWt : W / B ^ (qn - sh) < D * B ^ sh := by
        rw [Nat.div_lt_iff_lt_mul hP, Nat.mul_assoc, ← eq]; exact hW
      have hq : W / B ^ (qn - sh) / D < B ^ sh := by rw [Nat.div_lt_iff_lt_mul hD0, Nat.mul_comm]; exact hWt
      obtain ⟨s1, s2, s3⟩ := redStep_spec T dn sh _ D hT hdn hsh1 hshdn hD hnorm hWt
      obtain ⟨hWs, hW'⟩ := red_step W D (B ^ (qn - sh)) hP hD0
      obtain ⟨Qr, Wr, i1, i2, i3, i4⟩ := redLoop_spec T dn D hT hdn hD hnorm fuel (qn - sh)
        (W % B ^ (qn - sh) + B ^ (qn - sh) * (W / B ^ (qn - sh) % D)) (Qup * B ^ sh + W / B ^ (qn - sh) / D) ok
        (by omega) (by omega) hW'
      rw [ee] at i1 i2
      refine ⟨W / B ^ (qn - sh) / D * B ^ e + Qr, Wr, ?_, by rw [eE]; exact split_lt' hq i2, ?_, i4⟩
      · rw [s1, s2, s3, Bool.and_true, i1, eE]
        refine Prod.ext rfl (Prod.ext rfl (Prod.ext ?_ rfl))
        show _ = _
        ring
      · linear_combination hWs + i3 + (W / B ^ (qn - sh) / D * D) * eP
    · have e : qn = dn - 1 := by omega
      subst e
      refine ⟨0, W, ?_, by simp, by simp, hW⟩
      unfold redLoop
      rw [if_neg hc]; simp

theorem dcDivapprF_succ (rep : Bool) (T C : Nat) (leaf : Leaf) (fuel nn dn0 N D0 : Nat) :
    dcDivapprF rep T C leaf (fuel + 1) nn dn0 N D0 =
      (let qn0 := nn - dn0
       let cut := decide (qn0 + 1 < dn0)
       let D := if cut then D0 / B ^ (dn0 - (qn0 + 1)) else D0
       let dn := if cut then qn0 + 1 else dn0
       let top := N / B ^ (nn - dn)
       let qh := if top ≥ D then 1 else 0
       let top := if qh ≠ 0 then top - D else top
       let W0 := N / B ^ (nn - dn - qn0) % B ^ qn0 + B ^ qn0 * top
       let lp := redLoop T dn D qn0 qn0 W0 0 true
       let n := lp.1
       let ok0 := lp.2.2.2 && decide (dn = n + 1) && decide (2 ≤ n)
       dcTail rep C leaf (fun a b c d => dcDivapprF rep T C leaf fuel a b c d) n dn lp.2.1 D lp.2.2.1 qh qn0 ok0) := rfl

/-- the core of a call once the cut is resolved: dn limbs of divisor Dc, dn + qn0 limbs of dividend Nc; the values of the
    C variables enter through their defining equations -/
theorem call_core (leaf : Leaf) (hleaf : LeafOK leaf)
    (T C : Nat) (hT : 6 ≤ T) (fuel qn0 dn Nc Dc : Nat) (hdn4 : 4 ≤ dn) (hdnq : dn ≤ qn0 + 1)
    (hDc : Dc < B ^ dn) (hnorm : B ^ dn ≤ 2 * Dc) (hNc : Nc < B ^ (dn + qn0)) (hsz : 2 * dn + 2 ≤ B)
    (hrec : RecOK C (dn - 1) dn Dc (fun a b c d => dcDivapprF true T C leaf fuel a b c d))
    (top qh top' W0 : Nat) (etop : top = Nc / B ^ qn0) (eqh : qh = if top ≥ Dc then 1 else 0)
    (etop' : top' = if qh ≠ 0 then top - Dc else top) (eW0 : W0 = Nc % B ^ qn0 + B ^ qn0 * top')
    (lp : Nat × Nat × Nat × Bool) (elp : lp = redLoop T dn Dc qn0 qn0 W0 0 true) (r : Res)
    (er : r = dcTail true C leaf (fun a b c d => dcDivapprF true T C leaf fuel a b c d) lp.1 dn lp.2.1 Dc lp.2.2.1 qh qn0
      (lp.2.2.2 && decide (dn = lp.1 + 1) && decide (2 ≤ lp.1))) :
    r.ok = true ∧ r.q < B ^ qn0 ∧ r.qh ≤ 1 ∧ r.wl ≤ 1 ∧ r.qh = qh ∧
    Nc < (r.qh * B ^ qn0 + r.q + 1) * Dc ∧ (r.qh * B ^ qn0 + r.q) * Dc ≤ Nc + (dn - 1) * B ^ (dn - 1) ∧
    (dn = qn0 + 1 → qh = 0 → Nc / B ^ (qn0 - 1) = tS Dc r.q qn0 + r.r3) := by
  have hPq := Bpow_pos qn0
  -- :56-58 the compare and subtract on the top dn limbs
  have htop : top < B ^ dn := by
    rw [etop, Nat.div_lt_iff_lt_mul hPq, ← pow_add]; exact hNc
  have hsub : qh ≤ 1 ∧ top = qh * Dc + top' ∧ top' < Dc := by
    rw [etop', eqh]
    by_cases h : top ≥ Dc
    · rw [if_pos h, if_pos Nat.one_ne_zero, Nat.one_mul]; omega
    · rw [if_neg h, if_neg (fun h => h rfl), Nat.zero_mul]; omega
  obtain ⟨hqh, ht1, ht2⟩ := hsub
  have hW0 : W0 < Dc * B ^ qn0 := by
    rw [eW0, Nat.mul_comm Dc]; exact add_mul_lt (Nat.mod_lt Nc hPq) ht2
  have hNcW : Nc = qh * Dc * B ^ qn0 + W0 := by
    rw [eW0]; linear_combination (Nat.div_add_mod Nc (B ^ qn0)).symm + B ^ qn0 * etop.symm + B ^ qn0 * ht1
  -- :64-70 the reduction loop, :72-147 the tail
  obtain ⟨e, he⟩ : ∃ e, qn0 = e + (dn - 1) := ⟨qn0 - (dn - 1), by omega⟩
  obtain ⟨Qr, Wr, elp', l3, l5, l6⟩ :=
    redLoop_spec T dn Dc hT (by omega) hDc hnorm qn0 qn0 W0 0 true (by omega) (by omega) hW0
  rw [Nat.zero_mul, Nat.zero_add] at elp'
  rw [show qn0 - (dn - 1) = e by omega] at l3
  rw [elp, elp'] at er
  simp only [] at er
  have hdn1 : dn - 1 + 1 = dn := by omega
  obtain ⟨t1, t2, t3, Ql, t4, t5, t6, t7⟩ := dcTail_spec leaf hleaf C (dn - 1) dn Wr Dc Qr qh qn0 _
    (fun a b c d => dcDivapprF true T C leaf fuel a b c d) hrec hdn1.symm (by omega)
    (by rw [hdn1]; exact hDc) (by rw [hdn1]; exact hnorm) l6 (by omega) hqh r er
  have ePq : B ^ qn0 = B ^ e * B ^ (dn - 1) := Bpow_split he.symm
  have hup := mul_le_of_trunc (dn - 1) Wr Dc Ql r.r3 (by omega) t4 t7
  have hQf : r.qh * B ^ qn0 + r.q = qh * B ^ qn0 + Qr * B ^ (dn - 1) + Ql := by rw [t2, t5, Nat.add_assoc]
  have hNc2 : Nc = (qh * B ^ qn0 + Qr * B ^ (dn - 1)) * Dc + Wr := by linear_combination hNcW + l5
  refine ⟨by rw [t1]; simp; omega, by rw [t5, ePq]; exact split_lt' l3 t4, by rw [t2]; exact hqh, t3, t2, ?_, ?_, ?_⟩
  · rw [hQf]; linear_combination hNc2.le + t6
  · rw [hQf]; linear_combination hNc2.symm.le + hup
  · intro hdq hq0
    have e0 : e = 0 := by omega
    rw [e0, pow_zero] at l3
    have hQr0 : Qr = 0 := by omega
    rw [hQr0, Nat.zero_mul, Nat.zero_add] at t5
    rw [hq0, hQr0, Nat.zero_mul, Nat.zero_mul, Nat.zero_mul, Nat.zero_add] at hNc2
    rw [t5, hNc2, show qn0 - 1 = dn - 1 - 1 by omega, show qn0 = dn - 1 by omega]; exact t7

theorem dcDivapprF_spec (leaf : Leaf) (hleaf : LeafOK leaf)
    (T C : Nat) (hT : 6 ≤ T) (hC : 3 ≤ C) :
    ∀ (fuel nn dn0 N D0 : Nat), 3 ≤ nn - dn0 → 4 ≤ dn0 → D0 < B ^ dn0 → B ^ dn0 ≤ 2 * D0 → N < B ^ nn →
      2 * dn0 + 2 ≤ B → nn - dn0 < fuel → CallSpec nn dn0 N D0 (dcDivapprF true T C leaf fuel nn dn0 N D0)
  | 0, _, _, _, _, _, _, _, _, _, _, hf => by omega
  | fuel + 1, nn, dn0, N, D0, hq3, hd4, hD0, hnorm0, hN, hsz, hf => by
    rw [dcDivapprF_succ]
    unfold CallSpec
    extract_lets qn0 dn Dc Nc cut D dn' top qh top' W0 lp n ok0
    have hqn0 : qn0 = nn - dn0 := rfl
    have hdnv : dn = if qn0 + 1 < dn0 then qn0 + 1 else dn0 := rfl
    -- resolve the cut: dn limbs of the divisor are used, dn0 - dn ignored
    have hdn' : dn' = dn := by
      simp only [dn', dn, cut]; by_cases h : qn0 + 1 < dn0 <;> simp [h]
    have hD : D = Dc := by
      simp only [D, Dc, dn, cut]; by_cases h : qn0 + 1 < dn0 <;> simp [h]
    have hdn4 : 4 ≤ dn := by rw [hdnv]; split <;> omega
    have hdnq : dn ≤ qn0 + 1 := by rw [hdnv]; split <;> omega
    have hdnle : dn ≤ dn0 := by rw [hdnv]; split <;> omega
    obtain ⟨hnormc, hDc⟩ := norm_top dn (dn0 - dn) D0 (by omega) (by omega) hnorm0 hD0
    have hNc : Nc < B ^ (dn + qn0) := by
      rw [Nat.div_lt_iff_lt_mul (Bpow_pos _), ← pow_add, show dn + qn0 + (dn0 - dn) = nn by omega]; exact hN
    have etop : top = Nc / B ^ qn0 := by
      show N / B ^ (nn - dn') = N / B ^ (dn0 - dn) / B ^ qn0
      rw [div_pow_add, hdn']; congr 2; omega
    have eW0 : W0 = Nc % B ^ qn0 + B ^ qn0 * top' := by
      show N / B ^ (nn - dn' - qn0) % B ^ qn0 + _ = N / B ^ (dn0 - dn) % B ^ qn0 + _
      rw [hdn', show nn - dn - qn0 = dn0 - dn by omega]
    have hrec : RecOK C (dn - 1) dn Dc (fun a b c d => dcDivapprF true T C leaf fuel a b c d) := by
      intro m Nsub hCm hmn hNsub hpre
      have ih := dcDivapprF_spec leaf hleaf T C hT hC fuel (dn + m) dn Nsub Dc (by omega) hdn4 hDc hnormc hNsub (by omega)
        (by omega)
      exact ih.cut (by omega) hpre
    obtain ⟨c1, c2, c3, c4, c5, c6, c7, c8⟩ :=
      call_core leaf hleaf T C hT fuel qn0 dn Nc Dc hdn4 hdnq hDc hnormc hNc (by omega) hrec
      top qh top' W0 etop (by rw [← hD]) (by rw [← hD]) eW0 lp (by rw [← hD, ← hdn'])
      (dcTail true C leaf (fun a b c d => dcDivapprF true T C leaf fuel a b c d) n dn' lp.2.1 D lp.2.2.1 qh qn0 ok0)
      (by rw [← hD, ← hdn'])
    refine ⟨c1, c2, c3, c4, c6, c7, fun hcut hpre => ?_⟩
    have hq0 : qh = 0 := if_neg (by rw [hD, etop]; omega)
    exact ⟨by rw [c5]; exact hq0, c8 (by rw [hdnv, if_pos hcut]) hq0⟩

/-- `r.ok`: every callee inside its domain; `r.wl ≤ 1`: the `while` at :116 ran at most once in every call -/
theorem dcDivappr_contract (leaf : Leaf) (hleaf : LeafOK leaf)
    (T C nn dn N D : Nat) (hT : 6 ≤ T) (hC : 3 ≤ C) (hdn : 6 ≤ dn) (hnn : dn + 3 ≤ nn)
    (hnorm : B ^ dn ≤ 2 * D) (hD : D < B ^ dn) (hN : N < B ^ nn) (hsize : 2 * dn + 2 ≤ B) :
    let r := dcDivappr true T C leaf nn dn N D
    r.ok = true ∧ r.q < B ^ (nn - dn) ∧ r.qh ≤ 1 ∧ r.wl ≤ 1 ∧
      (r.qh * B ^ (nn - dn) + r.q = N / D ∨ r.qh * B ^ (nn - dn) + r.q = N / D + 1) := by
  intro r
  have hspec := dcDivapprF_spec leaf hleaf T C hT hC nn nn dn N D (by omega) (by omega) hD hnorm hN hsize (by omega)
  exact ⟨hspec.ok, hspec.q_lt, hspec.qh_le, hspec.wl_le, hspec.floor_or_succ (by omega) hnorm hsize⟩

end Mpir.DcDivappr
