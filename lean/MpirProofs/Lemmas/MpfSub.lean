/- mpf_sub (sub.c branch by branch) and from it mpf_add / mpf_sub for all signs, zero operands and aliasing. -/
import MpirProofs.Lemmas.MpfOps
namespace Mpir.Mpf
open Mpir

/-! ### stripping zero limbs; the limb subtractions (`wrapSub`, `subLimbs`) -/

theorem dropWhile_eq_stripLow : ∀ r : List Nat, r.dropWhile (· == 0) = stripLow r
  | [] => rfl
  | x :: xs => by
      by_cases hx : x = 0
      · rw [List.dropWhile_cons_of_pos (by simp [hx]), dropWhile_eq_stripLow xs]; simp [stripLow, hx]
      · rw [List.dropWhile_cons_of_neg (by simp [hx])]; simp [stripLow, hx]

theorem stripLow_spec : ∀ (l : List Nat), ∃ k, l = List.replicate k 0 ++ stripLow l ∧
    (stripLow l = [] ∨ (stripLow l).head? ≠ some 0) := by
  intro l
  obtain ⟨k, h1, h2, -⟩ := dropWhile_zero_spec l
  rw [dropWhile_eq_stripLow] at h1 h2
  exact ⟨k, h1, Or.inr h2⟩

theorem qv_stripLow (l : List Nat) (e : ℤ) : qv (stripLow l) e = qv l e := by
  obtain ⟨k, h1, _⟩ := stripLow_spec l
  conv_rhs => rw [h1]
  rw [qv_zeros_append]

theorem Limbs_stripLow {l : List Nat} (h : Limbs l) : Limbs (stripLow l) := by
  obtain ⟨k, h1, _⟩ := stripLow_spec l
  rw [h1] at h; exact (Limbs_append.mp h).2

theorem stripLow_length_le (l : List Nat) : (stripLow l).length ≤ l.length := by
  obtain ⟨k, h1, _⟩ := stripLow_spec l
  conv_rhs => rw [h1]
  simp

theorem Mant.stripLow {l : List Nat} (h : Mant l) : Mant (Mpf.stripLow l) := by
  obtain ⟨k, h1, _⟩ := stripLow_spec l
  have hne' : Mpf.stripLow l ≠ [] := by
    intro h0; rw [h0, List.append_nil] at h1
    apply h.norm; rw [h1]
    cases k with
    | zero => exact absurd h1 h.ne
    | succ k => simp [List.getLast?_replicate]
  refine ⟨Limbs_stripLow h.limbs, hne', ?_⟩
  have := h.norm
  unfold Normalized at this ⊢
  rwa [h1, List.getLast?_append_of_ne_nil _ hne'] at this

theorem stripHigh_spec (l : List Nat) (e : ℤ) (hl : Limbs l) :
    Limbs (stripHigh l e).1 ∧ Normalized (stripHigh l e).1 ∧ (stripHigh l e).1.length ≤ l.length ∧
    qv (stripHigh l e).1 (stripHigh l e).2 = qv l e ∧ val (stripHigh l e).1 = val l := by
  unfold stripHigh
  simp only
  obtain ⟨k, h1⟩ := normalize_spec l
  have hlen : l.length = (normalize l).length + k := by
    conv_lhs => rw [h1]
    simp
  refine ⟨Limbs_normalize hl, normalized_normalize l, normalize_length_le l, ?_, val_normalize l⟩
  conv_rhs => rw [h1]
  rw [qv_append_zeros, show l.length - (normalize l).length = k by omega]

theorem wrapSub_spec (n a b : ℕ) (hba : b ≤ a) (han : a - b < B ^ n) :
    val (wrapSub n a b) = a - b ∧ (wrapSub n a b).length = n ∧ Limbs (wrapSub n a b) := by
  unfold wrapSub
  have h1 : (((a : ℤ) - (b : ℤ)) % ((B ^ n : ℕ) : ℤ)).toNat = a - b := by
    have h2 : (a : ℤ) - (b : ℤ) = ((a - b : ℕ) : ℤ) := by omega
    rw [h2, ← Int.natCast_mod, Int.toNat_natCast, Nat.mod_eq_of_lt han]
  rw [h1]
  exact ⟨val_toLimbs_lt _ _ han, toLimbs_length _ _, Limbs_toLimbs _ _⟩

theorem subHi_spec (up vp : List Nat) (size : ℕ) (hlu : Limbs up) (hsz : size ≤ up.length)
    (hge : val vp * B ^ size ≤ val up) :
    val (up.take size ++ wrapSub (up.length - size) (val (up.drop size)) (val vp)) = val up - val vp * B ^ size ∧
    (up.take size ++ wrapSub (up.length - size) (val (up.drop size)) (val vp)).length = up.length ∧
    Limbs (up.take size ++ wrapSub (up.length - size) (val (up.drop size)) (val vp)) := by
  have hsplit := val_take_drop up size hsz
  have hlo := val_take_lt hlu size
  have hhi : val (up.drop size) < B ^ (up.length - size) := by
    have := val_lt _ (Limbs_drop hlu size); rwa [List.length_drop] at this
  have hV : val vp ≤ val (up.drop size) := by
    by_contra hc
    push Not at hc
    have : (val (up.drop size) + 1) * B ^ size ≤ val vp * B ^ size := Nat.mul_le_mul_right _ hc
    nlinarith
  obtain ⟨w1, w2, w3⟩ := wrapSub_spec (up.length - size) _ _ hV (lt_of_le_of_lt (Nat.sub_le _ _) hhi)
  have htl : (up.take size).length = size := by rw [List.length_take]; omega
  refine ⟨?_, by rw [List.length_append, htl, w2]; omega, Limbs_append.mpr ⟨Limbs_take hlu _, w3⟩⟩
  rw [val_append, htl, w1, hsplit]
  have : B ^ size * (val (up.drop size) - val vp) = B ^ size * val (up.drop size) - B ^ size * val vp := Nat.mul_sub _ _ _
  rw [this, mul_comm (val vp)]
  have : B ^ size * val vp ≤ B ^ size * val (up.drop size) := Nat.mul_le_mul_left _ hV
  omega

theorem subLo_spec (up vp : List Nat) (k n : ℕ) (hlu : Limbs up) (hn : n = up.length + k)
    (hge : val vp ≤ val up * B ^ k) :
    val (wrapSub n (val up * B ^ k) (val vp)) = val up * B ^ k - val vp ∧
    (wrapSub n (val up * B ^ k) (val vp)).length = n ∧ Limbs (wrapSub n (val up * B ^ k) (val vp)) := by
  have h1 : val up * B ^ k < B ^ n := by
    rw [hn, pow_add]; exact Nat.mul_lt_mul_of_pos_right (val_lt up hlu) (Bpow_pos k)
  exact wrapSub_spec n _ _ hge (lt_of_le_of_lt (Nat.sub_le _ _) h1)

theorem subLimbs_spec (up vp : List Nat) (ed : ℕ) (hlu : Limbs up)
    (hge : val vp * B ^ (max up.length (vp.length + ed) - ed - vp.length)
            ≤ val up * B ^ (max up.length (vp.length + ed) - up.length)) :
    val (subLimbs up vp ed) = val up * B ^ (max up.length (vp.length + ed) - up.length)
        - val vp * B ^ (max up.length (vp.length + ed) - ed - vp.length) ∧
    (subLimbs up vp ed).length = max up.length (vp.length + ed) ∧ Limbs (subLimbs up vp ed) := by
  unfold subLimbs
  simp only
  by_cases h1 : up.length > ed
  · rw [if_pos h1]
    by_cases h0 : ed = 0
    · rw [if_pos h0]
      subst h0
      by_cases h2 : up.length ≥ vp.length
      · rw [if_pos h2]
        have hm : max up.length (vp.length + 0) = up.length := by omega
        rw [hm] at hge ⊢
        rw [Nat.sub_self, pow_zero, mul_one, Nat.sub_zero] at hge ⊢
        have := subHi_spec up vp (up.length - vp.length) hlu (by omega) hge
        rwa [show up.length - (up.length - vp.length) = vp.length by omega] at this
      · rw [if_neg h2]
        have hm : max up.length (vp.length + 0) = vp.length := by omega
        rw [hm] at hge ⊢
        rw [Nat.sub_zero, Nat.sub_self, pow_zero, mul_one] at hge ⊢
        exact subLo_spec up vp (vp.length - up.length) vp.length hlu (by omega) hge
    · rw [if_neg h0]
      by_cases h2 : vp.length + ed ≤ up.length
      · rw [if_pos h2]
        have hm : max up.length (vp.length + ed) = up.length := by omega
        rw [hm] at hge ⊢
        rw [Nat.sub_self, pow_zero, mul_one] at hge ⊢
        exact subHi_spec up vp (up.length - ed - vp.length) hlu (by omega) hge
      · rw [if_neg h2]
        have hm : max up.length (vp.length + ed) = vp.length + ed := by omega
        rw [hm] at hge ⊢
        rw [show vp.length + ed - ed - vp.length = 0 by omega, pow_zero, mul_one] at hge ⊢
        exact subLo_spec up vp (vp.length + ed - up.length) (vp.length + ed) hlu (by omega) hge
  · rw [if_neg h1]
    have hm : max up.length (vp.length + ed) = vp.length + ed := by omega
    rw [hm] at hge ⊢
    rw [show vp.length + ed - ed - vp.length = 0 by omega, pow_zero, mul_one] at hge ⊢
    rw [show vp.length + ed - up.length + up.length = vp.length + ed by omega]
    exact subLo_spec up vp (vp.length + ed - up.length) (vp.length + ed) hlu (by omega) hge

/-! ### what every branch delivers (`SubOK`); `general_case:` (sub.c:262-403) -/

/-- what every branch of `subCore` must deliver: X − Y ≈ ± limbs -/
def SubOK (prec : ℕ) (D : ℚ) (r : List Nat × ℤ × Bool) : Prop :=
  Limbs r.1 ∧ r.1.getLast? ≠ some 0 ∧ r.1.length ≤ prec + 1 ∧
  (D = 0 → r.1 = []) ∧
  (D ≠ 0 → |(if r.2.2 then -1 else 1) * qv r.1 r.2.1 - D| < eps prec * |D|) ∧
  Win prec D r

theorem SubOK.cut {prec : ℕ} {D : ℚ} {r : List Nat × ℤ × Bool} (h : SubOK prec D r) :
    Cut prec D ((if r.2.2 then -1 else 1) * qv r.1 r.2.1) := by
  obtain ⟨_, _, _, h4, _, h6⟩ := h
  rcases h6 with h0 | ⟨W, w1, w2, w3⟩
  · exact Or.inl (by rw [h4 h0, qv_nil, h0, mul_zero])
  · refine Or.inr ⟨W, ?_, w2, w3⟩
    by_cases hf : r.2.2 = true
    · rw [if_pos hf, neg_one_mul]; exact w1.neg
    · rw [if_neg hf, one_mul]; exact w1

/-- a positive difference, result not flipped: the window facts give the error bound as well -/
theorem SubOK_of_pos {prec : ℕ} (hp : 1 ≤ prec) {D : ℚ} {rd : List Nat} {e : ℤ} (hl : Limbs rd)
    (ht : rd.getLast? ≠ some 0) (hn : rd.length ≤ prec + 1) (hD : 0 < D) (W : ℤ) (hm : IsMul (qv rd e) W)
    (herr : |qv rd e - D| < (B : ℚ) ^ W) (hbig : (B : ℚ) ^ (W + (prec : ℤ) - 1) ≤ 2 * D) :
    SubOK prec D (rd, e, false) := by
  refine ⟨hl, ht, hn, fun h => absurd h (ne_of_gt hD), fun _ => ?_, Or.inr ⟨W, hm, ?_, by rwa [abs_of_pos hD]⟩⟩
  · simp only [Bool.false_eq_true, if_false, one_mul]
    refine rel_err_of_ulp hp (lt_trans herr (show (B : ℚ) ^ W < 2 * (B : ℚ) ^ W by linarith [Bz_pos W])) ?_
    rwa [abs_of_pos hD, show W + ((prec : ℤ) - 1) = W + (prec : ℤ) - 1 by ring]
  · simpa using herr

/-- sub.c:262-403 `general_case:` when the selected parts differ by a positive amount: their exact difference -/
theorem subGeneral_val (prec1 : ℕ) (hp : 1 ≤ prec1) (ud vd : List Nat) (exp ediff : ℤ) (h0 : 0 ≤ ediff)
    (hu : Mant ud) (hlv : Limbs vd)
    (hpos : qv (selV prec1 vd ediff) (exp - ediff) < qv (top prec1 ud) exp) :
    (subGeneral prec1 ud vd exp ediff).2.2 = false ∧
    Limbs (subGeneral prec1 ud vd exp ediff).1 ∧ (subGeneral prec1 ud vd exp ediff).1.getLast? ≠ some 0 ∧
    (subGeneral prec1 ud vd exp ediff).1.length ≤ prec1 ∧
    qv (subGeneral prec1 ud vd exp ediff).1 (subGeneral prec1 ud vd exp ediff).2.1 =
      qv (top prec1 ud) exp - qv (selV prec1 vd ediff) (exp - ediff) := by
  have t := hu.top hp
  have t1 := t.limbs
  have t3 := t.norm
  have hlen : (top prec1 ud).length ≤ prec1 := by rw [top_length]; omega
  have hvl : (selV prec1 vd ediff).length + ediff ≤ prec1 ∨ selV prec1 vd ediff = [] := by
    rw [selV_eq]
    rcases le_or_gt (prec1 : ℤ) ediff with h | h
    · right; exact List.drop_eq_nil_of_le (by omega)
    · left; rw [List.length_drop]; omega
  have hlv' : Limbs (selV prec1 vd ediff) := by rw [selV_eq]; exact Limbs_drop hlv _
  unfold subGeneral
  simp only
  generalize selV prec1 vd ediff = vp0 at *
  by_cases hbig : ediff ≥ (prec1 : ℤ)
  · rw [if_pos hbig]
    have : vp0 = [] := by
      rcases hvl with h | h
      · exact List.eq_nil_of_length_eq_zero (by omega)
      · exact h
    rw [this, qv_nil, sub_zero]; exact ⟨rfl, t1, t3, hlen, rfl⟩
  · rw [if_neg hbig]
    by_cases hvz : (stripLow vp0).length = 0
    · -- nothing of V inside the window
      rw [if_pos hvz, ← qv_stripLow vp0, List.eq_nil_of_length_eq_zero hvz, qv_nil, sub_zero]
      exact ⟨rfl, t1, t3, hlen, rfl⟩
    · rw [if_neg hvz, if_neg (fun h => t.stripLow.ne (List.eq_nil_of_length_eq_zero h))]
      obtain ⟨ed, hed⟩ : ∃ ed : ℕ, ediff = (ed : ℤ) := ⟨ediff.toNat, by omega⟩
      rw [← qv_stripLow (top prec1 ud), ← qv_stripLow vp0] at hpos ⊢
      have hlup : Limbs (stripLow (top prec1 ud)) := Limbs_stripLow t1
      have hual : (stripLow (top prec1 ud)).length ≤ prec1 := le_trans (stripLow_length_le _) hlen
      have hvl' : (stripLow vp0).length + ed ≤ prec1 := by
        have := stripLow_length_le vp0
        rcases hvl with h | h
        · omega
        · rw [h] at hvz; exact absurd rfl hvz
      generalize stripLow (top prec1 ud) = up at *
      generalize stripLow vp0 = vp at *
      rw [show ediff.toNat = ed by omega]
      -- both operands over the common unit B^(exp − rs)
      have hs1 := qv_scaled up (max up.length (vp.length + ed) - up.length) exp
      have hs2 := qv_scaled vp (max up.length (vp.length + ed) - ed - vp.length) (exp - ediff)
      rw [show exp - ((up.length + (max up.length (vp.length + ed) - up.length) : ℕ) : ℤ)
        = exp - (max up.length (vp.length + ed) : ℕ) by omega] at hs1
      rw [show exp - ediff - ((vp.length + (max up.length (vp.length + ed) - ed - vp.length) : ℕ) : ℤ)
        = exp - (max up.length (vp.length + ed) : ℕ) by omega] at hs2
      have hge : val vp * B ^ (max up.length (vp.length + ed) - ed - vp.length)
          ≤ val up * B ^ (max up.length (vp.length + ed) - up.length) := by
        rw [← hs1, ← hs2] at hpos
        exact_mod_cast le_of_lt (lt_of_mul_lt_mul_right hpos (le_of_lt (Bz_pos _)))
      obtain ⟨g1, g2, g3⟩ := subLimbs_spec up vp ed hlup hge
      obtain ⟨n1, n2, n3, n4, _⟩ := stripHigh_spec (subLimbs up vp ed) exp g3
      generalize stripHigh (subLimbs up vp ed) exp = r at *
      obtain ⟨rd, e⟩ := r
      refine ⟨rfl, n1, n2, by simp only at n3 ⊢; omega, ?_⟩
      simp only at n4 ⊢
      rw [n4, ← hs1, ← hs2, ← sub_mul, ← Nat.cast_sub hge, ← g1]
      unfold qv; rw [g2]

/-- sub.c general_case with the operands at least B^(e−2) apart -/
theorem subGeneral_ok (prec : ℕ) (hp : 2 ≤ prec) (ud vd : List Nat) (exp ediff : ℤ) (h0 : 0 ≤ ediff)
    (hu : Mant ud) (hlv : Limbs vd)
    (hgap : (B : ℚ) ^ (exp - 2) ≤ qv ud exp - qv vd (exp - ediff)) :
    SubOK prec (qv ud exp - qv vd (exp - ediff)) (subGeneral (prec + 1) ud vd exp ediff) := by
  obtain ⟨a1, a2⟩ := qv_top_bound (prec + 1) ud exp hu.limbs
  obtain ⟨b1, b2⟩ := qv_selV_bound (prec + 1) vd ediff (exp - ediff) hlv
  rw [show exp - ediff + ediff - ((prec + 1 : ℕ) : ℤ) = exp - ((prec + 1 : ℕ) : ℤ) by ring] at b2
  have hW : 2 * (B : ℚ) ^ (exp - ((prec + 1 : ℕ) : ℤ)) ≤ (B : ℚ) ^ (exp - 2) := two_mul_Bz_le (by push_cast; omega)
  have hWp := Bz_pos (exp - ((prec + 1 : ℕ) : ℤ))
  obtain ⟨s0, s1, s2, s3, s4⟩ := subGeneral_val (prec + 1) (by omega) ud vd exp ediff h0 hu hlv (by linarith)
  have hm : IsMul (qv (top (prec + 1) ud) exp - qv (selV (prec + 1) vd ediff) (exp - ediff)) (exp - ((prec + 1 : ℕ) : ℤ)) := by
    have m1 := qv_isMul (top (prec + 1) ud) exp (prec + 1) (by rw [top_length]; omega)
    have m2 := isMul_selV (prec + 1) vd ediff (exp - ediff)
    rw [show exp - ediff + ediff - ((prec + 1 : ℕ) : ℤ) = exp - ((prec + 1 : ℕ) : ℤ) by ring] at m2
    exact m1.sub m2
  generalize subGeneral (prec + 1) ud vd exp ediff = r at *
  obtain ⟨rd, e, f⟩ := r
  simp only at s0 s1 s2 s3 s4
  subst s0
  rw [← s4] at hm
  refine SubOK_of_pos (by omega) s1 s2 s3 (by linarith [Bz_pos (exp - 2)]) (exp - ((prec + 1 : ℕ) : ℤ)) hm ?_ ?_
  · rw [s4, abs_lt]; constructor <;> linarith
  · rw [show exp - ((prec + 1 : ℕ) : ℤ) + (prec : ℤ) - 1 = exp - 2 by push_cast; ring]; linarith [Bz_pos (exp - 2)]

/-! ### most-significant-first limbs (`qr`); the scan over equal leading limbs (sub.c:89-108) -/

/-- value of a most-significant-first limb list placed with exponent e -/
def qr (r : List Nat) (e : ℤ) : ℚ := qv r.reverse e

theorem qr_nil (e : ℤ) : qr [] e = 0 := by simp [qr, qv]

theorem qr_cons (h : ℕ) (t : List Nat) (e : ℤ) : qr (h :: t) e = (h : ℚ) * (B : ℚ) ^ (e - 1) + qr t (e - 1) := by
  unfold qr
  rw [List.reverse_cons, qv_append, qv_singleton, List.length_singleton, Nat.cast_one, add_comm]

theorem qr_nonneg (r : List Nat) (e : ℤ) : 0 ≤ qr r e := qv_nonneg _ _

theorem qr_lt (r : List Nat) (e : ℤ) (hl : Limbs r) : qr r e < (B : ℚ) ^ e := qv_lt _ _ (Limbs_reverse hl)

theorem qr_reverse (d : List Nat) (e : ℤ) : qr d.reverse e = qv d e := by unfold qr; rw [List.reverse_reverse]

theorem qr_ge_head (h : ℕ) (t : List Nat) (e : ℤ) : (h : ℚ) * (B : ℚ) ^ (e - 1) ≤ qr (h :: t) e := by
  rw [qr_cons]; linarith [qr_nonneg t (e - 1)]

theorem qr_lt_head (h : ℕ) (t : List Nat) (e : ℤ) (hl : Limbs t) : qr (h :: t) e < ((h : ℚ) + 1) * (B : ℚ) ^ (e - 1) := by
  rw [qr_cons]; linarith [qr_lt t (e - 1) hl]

theorem scan_spec : ∀ (ur vr : List Nat) (e : ℤ), Limbs ur → Limbs vr → ur ≠ [] → vr ≠ [] →
    match scan ur vr e with
    | .uGone vr' e' => qr ur e - qr vr e = - qr vr' e' ∧ Limbs vr'
    | .vGone ur' e' => qr ur e - qr vr e = qr ur' e' ∧ Limbs ur' ∧ ur' ≠ []
    | .differ ur' vr' e' => qr ur e - qr vr e = qr ur' e' - qr vr' e' ∧ Limbs ur' ∧ Limbs vr' ∧
        ur' ≠ [] ∧ vr' ≠ [] ∧ ur'.headD 0 ≠ vr'.headD 0
  | [], _, _, _, _, h, _ => absurd rfl h
  | _ :: _, [], _, _, _, _, h => absurd rfl h
  | a :: us, b :: vs, e, hlu, hlv, _, _ => by
      have ⟨_, hus⟩ := Limbs_cons.mp hlu
      have ⟨_, hvs⟩ := Limbs_cons.mp hlv
      unfold scan
      by_cases hab : (a != b) = true
      · rw [if_pos hab]
        exact ⟨rfl, hlu, hlv, by simp, by simp, by simpa using hab⟩
      · rw [if_neg hab]
        have hab' : a = b := by simpa using hab
        subst hab'
        have hstep : qr (a :: us) e - qr (a :: vs) e = qr us (e - 1) - qr vs (e - 1) := by
          rw [qr_cons, qr_cons]; ring
        by_cases h1 : us.isEmpty = true
        · rw [if_pos h1]
          have : us = [] := List.isEmpty_iff.mp h1
          subst this
          exact ⟨by rw [hstep, qr_nil]; ring, hvs⟩
        · rw [if_neg h1]
          have hune : us ≠ [] := fun h => h1 (by rw [h]; rfl)
          by_cases h2 : vs.isEmpty = true
          · rw [if_pos h2]
            have : vs = [] := List.isEmpty_iff.mp h2
            subst this
            exact ⟨by rw [hstep, qr_nil]; ring, hus, hune⟩
          · rw [if_neg h2]
            have hvne : vs ≠ [] := fun h => h2 (by rw [h]; rfl)
            have ih := scan_spec us vs (e - 1) hus hvs hune hvne
            rw [hstep]
            exact ih

/-! ### swapped operands; `cancellation:` one operand exhausted (sub.c:110-124) -/

theorem SubOK_neg {prec : ℕ} {D : ℚ} {rd : List Nat} {e : ℤ} {f : Bool} (h : SubOK prec D (rd, e, f)) :
    SubOK prec (-D) (rd, e, !f) := by
  obtain ⟨h1, h2, h3, h4, h5, h6⟩ := h
  have e : (if (!f) = true then (-1 : ℚ) else 1) * qv rd e - -D = -((if f = true then (-1 : ℚ) else 1) * qv rd e - D) := by
    cases f <;> simp <;> ring
  refine ⟨h1, h2, h3, fun h => h4 (by linarith), fun h => ?_, ?_⟩
  · have := h5 (by intro h'; apply h; rw [h']; ring)
    simp only at this ⊢
    rw [abs_neg, e, abs_neg]; exact this
  · rcases h6 with h0 | ⟨W, w1, w2, w3⟩
    · left; rw [h0]; ring
    · right
      refine ⟨W, w1, ?_, by rw [abs_neg]; exact w3⟩
      simp only at w2 ⊢
      rw [e, abs_neg]; exact w2

theorem SubOK_congr {prec : ℕ} {D D' : ℚ} {r : List Nat × ℤ × Bool} (h : SubOK prec D r) (hd : D = D') :
    SubOK prec D' r := hd ▸ h

/-- sub.c:110-124 `cancellation:` one operand is a prefix of the other, `wr` is what remains of the longer one -/
theorem cancellation_ok (prec : ℕ) (hp : 1 ≤ prec) (wr : List Nat) (e : ℤ) (hl : Limbs wr) :
    SubOK prec (qr wr e) ((cancellation (prec + 1) wr e).1, (cancellation (prec + 1) wr e).2, false) := by
  unfold cancellation
  simp only
  rw [dropWhile_eq_stripLow]
  obtain ⟨k, h1, h2⟩ := stripLow_spec wr
  have hlw : Limbs (stripLow wr) := Limbs_stripLow hl
  have hk : wr.length - (stripLow wr).length = k := by
    have : wr.length = k + (stripLow wr).length := by conv_lhs => rw [h1]; simp
    omega
  have hqr : qr wr e = qv (stripLow wr).reverse (e - (k : ℤ)) := by
    unfold qr
    conv_lhs => rw [h1, List.reverse_append, List.reverse_replicate]
    exact qv_append_zeros _ _ _
  have hrev : ((stripLow wr).take (prec + 1)).reverse = top (prec + 1) (stripLow wr).reverse := by
    unfold top; rw [List.reverse_take, List.length_reverse]
  rw [hk, hrev, hqr]
  generalize stripLow wr = w at *
  by_cases hw0 : w = []
  · rw [hw0]
    exact ⟨by simp [top, Limbs_nil], by simp [top], by simp [top], fun _ => by simp [top],
      fun h => absurd (qv_nil _) h, Or.inl (qv_nil _)⟩
  · have hrne : w.reverse ≠ [] := by simpa using hw0
    have hrt : w.reverse.getLast? ≠ some 0 := by rw [List.getLast?_reverse]; exact h2.resolve_left hw0
    have hm : Mant w.reverse := ⟨Limbs_reverse hlw, hrne, hrt⟩
    have c := hm.top (Nat.succ_pos prec)
    obtain ⟨b1, b2⟩ := qv_top_bound (prec + 1) w.reverse (e - (k : ℤ)) hm.limbs
    have hge := hm.qv_ge (e - (k : ℤ))
    have hc4 : (top (prec + 1) w.reverse).length ≤ prec + 1 := by rw [top_length]; omega
    refine SubOK_of_pos hp c.limbs c.norm hc4 (hm.qv_pos _) (e - (k : ℤ) - ((prec + 1 : ℕ) : ℤ)) (qv_isMul _ _ _ hc4) ?_ ?_
    · rw [abs_sub_comm, abs_of_nonneg (sub_nonneg.mpr b1)]; exact b2
    · have := zpow_le_zpow_B (show e - (k : ℤ) - ((prec + 1 : ℕ) : ℤ) + (prec : ℤ) - 1 ≤ e - (k : ℤ) - 1 by push_cast; omega)
      linarith [Bz_pos (e - (k : ℤ) - 1)]

/-! ### the `x+1 000… / x fff…` path (sub.c:170-259) -/

theorem wrapSub_wrap (n a b : ℕ) (hab : a < b) (hb : b ≤ a + B ^ n) :
    val (wrapSub n a b) = a + B ^ n - b ∧ (wrapSub n a b).length = n ∧ Limbs (wrapSub n a b) := by
  unfold wrapSub
  have h1 : (((a : ℤ) - (b : ℤ)) % ((B ^ n : ℕ) : ℤ)).toNat = a + B ^ n - b := by
    have h2 : (a : ℤ) - (b : ℤ) = ((a + B ^ n - b : ℕ) : ℤ) + ((B ^ n : ℕ) : ℤ) * (-1) := by
      rw [Nat.cast_sub hb]; push_cast; ring
    rw [h2, Int.add_mul_emod_self_left, ← Int.natCast_mod, Int.toNat_natCast, Nat.mod_eq_of_lt (by omega)]
  rw [h1]
  exact ⟨val_toLimbs_lt _ _ (by omega), toLimbs_length _ _, Limbs_toLimbs _ _⟩

/-- sub.c:252-257: below an implicit 1 the wrapped difference `a − b` on `n` limbs, over the low limbs `pre`; the 1
    survives as an extra limb `c` iff there is no borrow -/
theorem closeFin_spec (pre : List Nat) (n a b : ℕ) (e1 : ℤ) (hp : Limbs pre) (ha : a < B ^ n) (hb : b < B ^ n)
    (r : List Nat × ℤ)
    (hr : r = if a ≥ b then (pre ++ wrapSub n a b ++ [1], e1 + 1) else (pre ++ wrapSub n a b, e1)) :
    ∃ c : ℕ, c ≤ 1 ∧ r.1.length = pre.length + n + c ∧ r.2 = e1 + (c : ℤ) ∧ Limbs r.1 ∧
      val r.1 + B ^ pre.length * b = val pre + B ^ pre.length * (a + B ^ n) := by
  by_cases hge : a ≥ b
  · rw [if_pos hge] at hr; subst hr
    obtain ⟨w1, w2, w3⟩ := wrapSub_spec n a b hge (lt_of_le_of_lt (Nat.sub_le _ _) ha)
    refine ⟨1, le_refl _, by simp [w2, Nat.add_assoc], by simp, Limbs_append.mpr ⟨Limbs_append.mpr ⟨hp, w3⟩, Limbs_singleton one_lt_B⟩, ?_⟩
    simp only [val_append, w1, w2, List.length_append, val_cons, val_nil, mul_zero, add_zero, mul_one, pow_add, mul_add]
    have := Nat.mul_le_mul_left (B ^ pre.length) hge
    rw [Nat.mul_sub]; omega
  · rw [if_neg hge] at hr; subst hr
    obtain ⟨w1, w2, w3⟩ := wrapSub_wrap n a b (by omega) (by omega)
    refine ⟨0, Nat.zero_le _, by simp [w2], by simp, Limbs_append.mpr ⟨hp, w3⟩, ?_⟩
    simp only [val_append, w1]
    have := Nat.mul_le_mul_left (B ^ pre.length) (show b ≤ a + B ^ n by omega)
    rw [Nat.mul_sub, add_assoc, Nat.sub_add_cancel this]

theorem closeLimbs_nat (up vp : List Nat) (e1 : ℤ) (hlu : Limbs up) (hlv : Limbs vp) :
    ∃ c : ℕ, c ≤ 1 ∧ (closeLimbs up vp e1).1.length = max up.length vp.length + c ∧
      (closeLimbs up vp e1).2 = e1 + (c : ℤ) ∧ Limbs (closeLimbs up vp e1).1 ∧
      val (closeLimbs up vp e1).1 + val vp * B ^ (max up.length vp.length - vp.length)
        = B ^ (max up.length vp.length) + val up * B ^ (max up.length vp.length - up.length) := by
  have hV := val_lt vp hlv
  unfold closeLimbs
  simp only
  by_cases hb : vp.length = 0
  · rw [if_pos hb]
    have hvp : vp = [] := List.eq_nil_of_length_eq_zero hb
    subst hvp
    refine ⟨1, le_refl _, by simp, by simp, Limbs_append.mpr ⟨hlu, Limbs_singleton one_lt_B⟩, ?_⟩
    simp [val_append]; ring
  rw [if_neg hb]
  by_cases ha : up.length = 0
  · rw [if_pos ha]
    have hup : up = [] := List.eq_nil_of_length_eq_zero ha
    subst hup
    obtain ⟨c, h1, h2, h3, h4, h5⟩ := closeFin_spec [] vp.length 0 (val vp) e1 Limbs_nil (Bpow_pos _) hV
      (if val vp = 0 then (wrapSub vp.length 0 (val vp) ++ [1], e1 + 1) else (wrapSub vp.length 0 (val vp), e1))
      (by by_cases h0 : val vp = 0 <;> simp [h0])
    exact ⟨c, h1, by simpa using h2, h3, h4, by simpa [add_comm] using h5⟩
  rw [if_neg ha]
  by_cases hab : up.length ≥ vp.length
  · rw [if_pos hab, show max up.length vp.length = up.length by omega, Nat.sub_self, pow_zero, mul_one]
    have hhi : val (up.drop (up.length - vp.length)) < B ^ vp.length := by
      have := val_lt _ (Limbs_drop hlu (up.length - vp.length))
      rwa [List.length_drop, show up.length - (up.length - vp.length) = vp.length by omega] at this
    have htl : (up.take (up.length - vp.length)).length = up.length - vp.length := by rw [List.length_take]; omega
    obtain ⟨c, h1, h2, h3, h4, h5⟩ := closeFin_spec (up.take (up.length - vp.length)) vp.length _ (val vp) e1
      (Limbs_take hlu _) hhi hV _ rfl
    rw [htl] at h2 h5
    refine ⟨c, h1, by rw [h2]; omega, h3, h4, ?_⟩
    rw [mul_comm (val vp), h5, val_take_drop up (up.length - vp.length) (by omega), mul_add, ← pow_add,
      show up.length - vp.length + vp.length = up.length by omega]
    ring
  · rw [if_neg hab, show max up.length vp.length = vp.length by omega, Nat.sub_self, pow_zero, mul_one]
    have hlt : val up * B ^ (vp.length - up.length) < B ^ vp.length := by
      conv_rhs => rw [show vp.length = up.length + (vp.length - up.length) by omega, pow_add]
      exact Nat.mul_lt_mul_of_pos_right (val_lt up hlu) (Bpow_pos _)
    obtain ⟨c, h1, h2, h3, h4, h5⟩ := closeFin_spec [] vp.length _ (val vp) e1 Limbs_nil hlt hV _ rfl
    exact ⟨c, h1, by simpa using h2, h3, h4, by simpa [add_comm] using h5⟩

theorem closeLimbs_q (up vp : List Nat) (e1 : ℤ) (hlu : Limbs up) (hlv : Limbs vp) :
    Limbs (closeLimbs up vp e1).1 ∧ (closeLimbs up vp e1).1.length ≤ max up.length vp.length + 1 ∧
    qv (closeLimbs up vp e1).1 (closeLimbs up vp e1).2 = (B : ℚ) ^ e1 + qv up e1 - qv vp e1 := by
  obtain ⟨c, hc, h1, h2, h3, h4⟩ := closeLimbs_nat up vp e1 hlu hlv
  refine ⟨h3, by omega, ?_⟩
  set n := max up.length vp.length with hn
  have hs1 := qv_scaled up (n - up.length) e1
  have hs2 := qv_scaled vp (n - vp.length) e1
  have e1' : e1 - ((up.length + (n - up.length) : ℕ) : ℤ) = e1 - (n : ℤ) := by omega
  have e2' : e1 - ((vp.length + (n - vp.length) : ℕ) : ℤ) = e1 - (n : ℤ) := by omega
  rw [e1'] at hs1; rw [e2'] at hs2
  have hq : qv (closeLimbs up vp e1).1 (closeLimbs up vp e1).2 = ((val (closeLimbs up vp e1).1 : ℕ) : ℚ) * (B : ℚ) ^ (e1 - (n : ℤ)) := by
    unfold qv; rw [h1, h2]; congr 2; push_cast; ring
  have hB : ((B ^ n : ℕ) : ℚ) * (B : ℚ) ^ (e1 - (n : ℤ)) = (B : ℚ) ^ e1 := by
    push_cast; rw [← zpow_natCast, ← zpow_add₀ Bq_ne]; congr 1; ring
  have h4q : ((val (closeLimbs up vp e1).1 + val vp * B ^ (n - vp.length) : ℕ) : ℚ) * (B : ℚ) ^ (e1 - (n : ℤ))
      = ((B ^ n + val up * B ^ (n - up.length) : ℕ) : ℚ) * (B : ℚ) ^ (e1 - (n : ℤ)) := by rw [h4]
  rw [Nat.cast_add, Nat.cast_add, add_mul, add_mul, hs1, hs2, hB, ← hq] at h4q
  linarith

theorem qr_append (a b : List Nat) (e : ℤ) : qr (a ++ b) e = qr a e + qr b (e - (a.length : ℤ)) := by
  induction a generalizing e with
  | nil => simp [qr_nil]
  | cons x xs ih =>
    rw [List.cons_append, qr_cons, qr_cons, ih]
    simp only [List.length_cons]; push_cast
    rw [show e - 1 - (xs.length : ℤ) = e - ((xs.length : ℤ) + 1) by ring]; ring

theorem qr_take_drop (r : List Nat) (n : ℕ) (e : ℤ) (hl : Limbs r) :
    qr r e = qr (r.take n) e + (qr r e - qr (r.take n) e) ∧ 0 ≤ qr r e - qr (r.take n) e ∧
    qr r e - qr (r.take n) e < (B : ℚ) ^ (e - (n : ℤ)) := by
  have h := qr_append (r.take n) (r.drop n) e
  rw [List.take_append_drop] at h
  refine ⟨by ring, by rw [h]; linarith [qr_nonneg (r.drop n) (e - ((r.take n).length : ℤ))], ?_⟩
  rw [h, add_sub_cancel_left]
  rcases le_or_gt n r.length with hn | hn
  · have : (r.take n).length = n := by rw [List.length_take]; omega
    rw [this]; exact qr_lt _ _ (Limbs_drop hl n)
  · rw [List.drop_eq_nil_of_le (le_of_lt hn), qr_nil]; exact zpow_pos Bq_pos _

theorem qr_replicate_max (k : ℕ) (t : List Nat) (e : ℤ) :
    qr (List.replicate k (B - 1) ++ t) e = (B : ℚ) ^ e - (B : ℚ) ^ (e - (k : ℤ)) + qr t (e - (k : ℤ)) := by
  induction k generalizing e with
  | zero => simp
  | succ k ih =>
    rw [List.replicate_succ, List.cons_append, qr_cons, ih]
    have hB1 : ((B - 1 : ℕ) : ℚ) = (B : ℚ) - 1 := by rw [Nat.cast_sub (le_of_lt one_lt_B)]; simp
    rw [hB1, Bz_succ e]; push_cast
    rw [show e - 1 - (k : ℤ) = e - ((k : ℤ) + 1) by ring]; ring

theorem dropWhile_spec (p : Nat → Bool) : ∀ (l : List Nat), ∃ k, l = l.take k ++ l.dropWhile p ∧ k = l.length - (l.dropWhile p).length ∧
    (∀ x ∈ l.take k, p x = true) ∧ (l.dropWhile p = [] ∨ ∃ h t, l.dropWhile p = h :: t ∧ p h = false)
  | [] => ⟨0, by simp, by simp, by simp, Or.inl rfl⟩
  | x :: xs => by
      by_cases hx : p x = true
      · obtain ⟨k, h1, h2, h3, h4⟩ := dropWhile_spec p xs
        rw [List.dropWhile_cons_of_pos hx]
        refine ⟨k + 1, by simp only [List.take_succ_cons, List.cons_append]; rw [← h1], ?_, ?_, h4⟩
        · have := congrArg List.length h1; simp at this ⊢; omega
        · intro y hy; simp only [List.take_succ_cons, List.mem_cons] at hy
          rcases hy with h | h
          · rw [h]; exact hx
          · exact h3 y h
      · rw [List.dropWhile_cons_of_neg hx]
        exact ⟨0, by simp, by simp, by simp, Or.inr ⟨x, xs, rfl, by simpa using hx⟩⟩

theorem take_eq_replicate {l : List Nat} {k : ℕ} {c : ℕ} (hk : k ≤ l.length) (h : ∀ x ∈ l.take k, x = c) :
    l.take k = List.replicate k c := by
  apply List.eq_replicate_iff.mpr
  exact ⟨by rw [List.length_take]; omega, h⟩

/-- the implicit leading 1 survives: since the 000/fff run has ended, B^e + u − v is more than B^(e−1) -/
theorem close_low (ut vt : List Nat) (e : ℤ) (hlu : Limbs ut) (hlv : Limbs vt)
    (hc : ¬ (ut.head? = some 0 ∧ vt.head? = some (B - 1))) (hc1 : ut = [] → vt.head? ≠ some (B - 1)) :
    (B : ℚ) ^ (e - 1) < (B : ℚ) ^ e + qr ut e - qr vt e := by
  have hP := Bz_pos (e - 1)
  have h2P : 2 * (B : ℚ) ^ (e - 1) ≤ (B : ℚ) ^ e := two_mul_Bz_le (by omega)
  have hU := qr_nonneg ut e
  cases vt with
  | nil => rw [qr_nil]; linarith
  | cons hv tv =>
    have ⟨hvB, hltv⟩ := Limbs_cons.mp hlv
    by_cases hmax : hv = B - 1
    · -- then u continues with a non-zero limb
      cases ut with
      | nil => exact absurd (by rw [hmax]; rfl) (hc1 rfl)
      | cons hu tu =>
        have hu0 : hu ≠ 0 := fun h0 => hc ⟨by rw [h0]; rfl, by rw [hmax]; rfl⟩
        have h1 : (1 : ℚ) ≤ (hu : ℚ) := by exact_mod_cast Nat.one_le_iff_ne_zero.mpr hu0
        linarith [qr_lt (hv :: tv) e hlv, qr_ge_head hu tu e, mul_le_mul_of_nonneg_right h1 (le_of_lt hP)]
    · have hvq : (hv : ℚ) + 1 ≤ (B : ℚ) - 1 := by
        have : hv + 1 ≤ B - 1 := by omega
        have h2 : ((B - 1 : ℕ) : ℚ) = (B : ℚ) - 1 := by rw [Nat.cast_sub (le_of_lt one_lt_B)]; simp
        rw [← h2]; exact_mod_cast this
      have := mul_le_mul_of_nonneg_right hvq (le_of_lt hP)
      rw [Bz_succ e] at h2P ⊢
      linarith [qr_lt_head hv tv e hltv]

/-- sub.c:179-259 -/
theorem subCloseFin_spec (rprec : ℕ) (hp : 2 ≤ rprec) (ur vr : List Nat) (e : ℤ) (hlu : Limbs ur) (hlv : Limbs vr)
    (hcond : ¬ (ur.head? = some 0 ∧ vr.head? = some (B - 1))) :
    SubOK rprec ((B : ℚ) ^ e + qr ur e - qr vr e) ((subCloseFin rprec ur vr e).1, (subCloseFin rprec ur vr e).2, false) := by
  unfold subCloseFin
  simp only
  -- the fff run when u is exhausted
  set vr1 := if ur.isEmpty = true then vr.dropWhile (· == B - 1) else vr with hvr1
  set e1 := e - ((vr.length - vr1.length : ℕ) : ℤ) with he1
  have hE : (B : ℚ) ^ e + qr ur e - qr vr e = (B : ℚ) ^ e1 + qr ur e1 - qr vr1 e1 ∧ Limbs vr1 ∧
      (ur = [] → vr1.head? ≠ some (B - 1)) := by
    by_cases hu : ur.isEmpty = true
    · have hue : ur = [] := List.isEmpty_iff.mp hu
      obtain ⟨k, h1, h2, h3, h4⟩ := dropWhile_spec (· == B - 1) vr
      have hv1 : vr1 = vr.dropWhile (· == B - 1) := by rw [hvr1, if_pos hu]
      have hkl : k ≤ vr.length := by omega
      have htk : vr.take k = List.replicate k (B - 1) := take_eq_replicate hkl (fun x hx => by simpa using h3 x hx)
      rw [htk, ← hv1] at h1
      have he1' : e1 = e - (k : ℤ) := by rw [he1, h2, hv1]
      refine ⟨?_, ?_, fun _ => ?_⟩
      · rw [hue, qr_nil, qr_nil, he1']
        conv_lhs => rw [h1]
        rw [qr_replicate_max]; ring
      · rw [h1] at hlv; exact (Limbs_append.mp hlv).2
      · rw [hv1]
        rcases h4 with h | ⟨h, t, ht, hh⟩
        · rw [h]; simp
        · rw [ht]; simp; simpa using hh
    · have hv1 : vr1 = vr := by rw [hvr1, if_neg hu]
      have : e1 = e := by rw [he1, hv1]; simp
      rw [this, hv1]
      exact ⟨rfl, hlv, fun h => absurd (by rw [h]; rfl) hu⟩
  obtain ⟨hE1, hlv1, hc1⟩ := hE
  have hcond1 : ¬ (ur.head? = some 0 ∧ vr1.head? = some (B - 1)) := by
    by_cases hu : ur.isEmpty = true
    · have hue : ur = [] := List.isEmpty_iff.mp hu
      rw [hue]; simp
    · have hv1 : vr1 = vr := by rw [hvr1, if_neg hu]
      rw [hv1]; exact hcond
  rw [hE1]
  clear_value vr1 e1
  have hE := close_low ur vr1 e1 hlu hlv1 hcond1 hc1
  obtain ⟨_, u0, u1⟩ := qr_take_drop ur rprec e1 hlu
  obtain ⟨_, v0, v1⟩ := qr_take_drop vr1 rprec e1 hlv1
  have hlut : Limbs (ur.take rprec) := Limbs_take hlu _
  have hlvt : Limbs (vr1.take rprec) := Limbs_take hlv1 _
  obtain ⟨kk, hkk⟩ : ∃ kk, rprec = kk + 1 := ⟨rprec - 1, by omega⟩
  have hhead_u : (ur.take rprec).head? = ur.head? := by rw [hkk]; cases ur <;> rfl
  have hhead_v : (vr1.take rprec).head? = vr1.head? := by rw [hkk]; cases vr1 <;> rfl
  have hRlow := close_low (ur.take rprec) (vr1.take rprec) e1 hlut hlvt (by rw [hhead_u, hhead_v]; exact hcond1)
    (fun h => by
      rw [hhead_v]; apply hc1
      rw [hkk] at h; cases ur with
      | nil => rfl
      | cons a as => simp at h)
  have hlen : max (ur.take rprec).reverse.length (vr1.take rprec).reverse.length ≤ rprec := by
    simp only [List.length_reverse, List.length_take]; omega
  have m1 : IsMul (qr (ur.take rprec) e1) (e1 - (rprec : ℤ)) :=
    qv_isMul _ _ _ (by rw [List.length_reverse, List.length_take]; omega)
  have m2 : IsMul (qr (vr1.take rprec) e1) (e1 - (rprec : ℤ)) :=
    qv_isMul _ _ _ (by rw [List.length_reverse, List.length_take]; omega)
  generalize ur.take rprec = ut at *
  generalize vr1.take rprec = vt at *
  obtain ⟨c1, c2, c3⟩ := closeLimbs_q ut.reverse vt.reverse e1 (Limbs_reverse hlut) (Limbs_reverse hlvt)
  obtain ⟨n1, n2, n3, n4, _⟩ := stripHigh_spec (closeLimbs ut.reverse vt.reverse e1).1 (closeLimbs ut.reverse vt.reverse e1).2 c1
  generalize closeLimbs ut.reverse vt.reverse e1 = cl at *
  obtain ⟨tp, e2⟩ := cl
  simp only at c1 c2 c3 n1 n2 n3 n4 ⊢
  generalize stripHigh tp e2 = sh at *
  obtain ⟨rd, e3⟩ := sh
  simp only at n1 n2 n3 n4 ⊢
  rw [c3, ← qr, ← qr] at n4
  refine SubOK_of_pos (by omega) n1 n2 (by omega) (by linarith [Bz_pos (e1 - 1)]) (e1 - (rprec : ℤ)) ?_ ?_ ?_
  · rw [n4]; exact ((Bz_isMul e1 _ (by omega)).add m1).sub m2
  · rw [n4, abs_lt]; constructor <;> linarith
  · rw [show e1 - (rprec : ℤ) + (rprec : ℤ) - 1 = e1 - 1 by ring]; linarith [Bz_pos (e1 - 1)]

/-- sub.c:170-259, the whole `x+1 000… / x fff…` path: E = B^e + u − v (the implicit 1 is the difference of
    the limbs above) -/
theorem subClose_spec (rprec : ℕ) (hp : 2 ≤ rprec) : ∀ (ur vr : List Nat) (e : ℤ), Limbs ur → Limbs vr →
    SubOK rprec ((B : ℚ) ^ e + qr ur e - qr vr e) ((subClose rprec ur vr e).1, (subClose rprec ur vr e).2, false)
  | [], vr, e, hlu, hlv => by
      rw [subClose]; exact subCloseFin_spec rprec hp [] vr e hlu hlv (by simp)
      all_goals simp
  | (x + 1) :: us, vr, e, hlu, hlv => by
      rw [subClose]; exact subCloseFin_spec rprec hp _ vr e hlu hlv (by simp)
      all_goals simp
  | 0 :: us, [], e, hlu, hlv => by
      rw [subClose]; exact subCloseFin_spec rprec hp _ [] e hlu hlv (by simp)
      all_goals simp
  | 0 :: us, v :: vs, e, hlu, hlv => by
      rw [subClose]
      by_cases hv : v = B - 1
      · rw [if_pos hv]
        have ih := subClose_spec rprec hp us vs (e - 1) (Limbs_cons.mp hlu).2 (Limbs_cons.mp hlv).2
        have hE : (B : ℚ) ^ e + qr (0 :: us) e - qr (v :: vs) e = (B : ℚ) ^ (e - 1) + qr us (e - 1) - qr vs (e - 1) := by
          rw [qr_cons, qr_cons, hv, Nat.cast_sub (le_of_lt one_lt_B), Bz_succ e]; push_cast; ring
        rw [hE]; exact ih
      · rw [if_neg hv]
        exact subCloseFin_spec rprec hp _ _ e hlu hlv (by simp [hv])

/-! ### the leading limbs differ: `general_case` or the x+1/x path; exponents one apart (`subOne`) -/

/-- U has the larger top limb: `general_case` or the x+1/x path -/
theorem subDiffer_main (prec : ℕ) (hp : 2 ≤ prec) (a b : List Nat) (e : ℤ) (hla : Limbs a) (hlb : Limbs b)
    (hna : a ≠ []) (hnb : b ≠ []) (hlt : b.headD 0 < a.headD 0) :
    (a.headD 0 ≠ (b.headD 0 + 1) % B → SubOK prec (qr a e - qr b e) (subGeneral (prec + 1) a.reverse b.reverse e 0)) ∧
    (¬ a.headD 0 ≠ (b.headD 0 + 1) % B →
      SubOK prec (qr a e - qr b e) ((subClose prec a.tail b.tail (e - 1)).1, (subClose prec a.tail b.tail (e - 1)).2, false)) := by
  obtain ⟨ha, ta, rfl⟩ : ∃ ha ta, a = ha :: ta := by cases a with | nil => exact absurd rfl hna | cons x xs => exact ⟨x, xs, rfl⟩
  obtain ⟨hb, tb, rfl⟩ : ∃ hb tb, b = hb :: tb := by cases b with | nil => exact absurd rfl hnb | cons x xs => exact ⟨x, xs, rfl⟩
  have hlt' : hb < ha := by simpa using hlt
  have ⟨haB, hlta⟩ := Limbs_cons.mp hla
  have ⟨hbB, hltb⟩ := Limbs_cons.mp hlb
  have hmod : (hb + 1) % B = hb + 1 := Nat.mod_eq_of_lt (by omega)
  have hpow : (0 : ℚ) < (B : ℚ) ^ (e - 1) := zpow_pos Bq_pos _
  constructor
  · intro hadj
    have hadj' : ha ≠ hb + 1 := by simpa [hmod] using hadj
    have hge2 : hb + 2 ≤ ha := by omega
    have hgap : (B : ℚ) ^ (e - 2) ≤ qv (ha :: ta).reverse e - qv (hb :: tb).reverse (e - 0) := by
      rw [sub_zero, ← qr, ← qr]
      have h1 := qr_ge_head ha ta e
      have h2 := qr_lt_head hb tb e hltb
      have h3 : ((hb : ℚ) + 2) ≤ (ha : ℚ) := by exact_mod_cast hge2
      have h4 : (B : ℚ) ^ (e - 2) ≤ (B : ℚ) ^ (e - 1) := zpow_le_zpow_B (by omega)
      nlinarith
    have hr : (ha :: ta).reverse ≠ [] := by simp
    have ht : (ha :: ta).reverse.getLast? ≠ some 0 := by rw [List.getLast?_reverse]; simp; omega
    have := subGeneral_ok prec hp (ha :: ta).reverse (hb :: tb).reverse e 0 (le_refl _) ⟨Limbs_reverse hla, hr, ht⟩
      (Limbs_reverse hlb) hgap
    rw [sub_zero] at this
    exact this
  · intro hadj
    have hadj' : ha = hb + 1 := by
      have : ¬ ha ≠ hb + 1 := by simpa [hmod] using hadj
      omega
    have hE : qr (ha :: ta) e - qr (hb :: tb) e = (B : ℚ) ^ (e - 1) + qr ta (e - 1) - qr tb (e - 1) := by
      rw [qr_cons, qr_cons, hadj']; push_cast; ring
    rw [hE]
    exact subClose_spec prec hp ta tb (e - 1) hlta hltb

theorem subDiffer_ok (prec : ℕ) (hp : 2 ≤ prec) (ur vr : List Nat) (e : ℤ) (hlu : Limbs ur) (hlv : Limbs vr)
    (hnu : ur ≠ []) (hnv : vr ≠ []) (hd : ur.headD 0 ≠ vr.headD 0) :
    SubOK prec (qr ur e - qr vr e) (subDiffer prec ur vr e) := by
  unfold subDiffer
  by_cases hlt : ur.headD 0 < vr.headD 0
  · rw [if_pos hlt]
    obtain ⟨m1, m2⟩ := subDiffer_main prec hp vr ur e hlv hlu hnv hnu hlt
    have h2 : qr ur e - qr vr e = -(qr vr e - qr ur e) := by ring
    rw [h2]
    by_cases hc : vr.headD 0 ≠ (ur.headD 0 + 1) % B
    · rw [if_pos hc]
      have := m1 hc
      generalize subGeneral (prec + 1) vr.reverse ur.reverse e 0 = r at *
      obtain ⟨rd, e', sw⟩ := r
      have h3 : SubOK prec (-(qr vr e - qr ur e)) (rd, e', !sw) := SubOK_neg this
      exact h3
    · rw [if_neg hc]
      have := m2 hc
      generalize subClose prec vr.tail ur.tail (e - 1) = r at *
      obtain ⟨rd, e'⟩ := r
      have h3 : SubOK prec (-(qr vr e - qr ur e)) (rd, e', !false) := SubOK_neg this
      exact h3
  · rw [if_neg hlt]
    obtain ⟨m1, m2⟩ := subDiffer_main prec hp ur vr e hlu hlv hnu hnv (by omega)
    by_cases hc : ur.headD 0 ≠ (vr.headD 0 + 1) % B
    · rw [if_pos hc]; exact m1 hc
    · rw [if_neg hc]
      have := m2 hc
      generalize subClose prec ur.tail vr.tail (e - 1) = r at *
      obtain ⟨rd, e'⟩ := r
      exact this

theorem topLimb_eq_head_reverse (d : List Nat) : topLimb d = d.reverse.headD 0 := by
  unfold topLimb; rw [← List.head?_reverse]; cases d.reverse <;> rfl

theorem subOne_ok (prec : ℕ) (hp : 2 ≤ prec) (ud vd : List Nat) (uexp : ℤ)
    (hu : Mant ud) (hlv : Limbs vd) (hnv : vd ≠ []) :
    SubOK prec (qv ud uexp - qv vd (uexp - 1)) (subOne prec ud uexp vd) := by
  unfold subOne
  simp only
  obtain ⟨h, t, hr⟩ : ∃ h t, ud.reverse = h :: t := by
    cases hrev : ud.reverse with
    | nil => exact absurd (List.reverse_eq_nil_iff.mp hrev) hu.ne
    | cons x xs => exact ⟨x, xs, rfl⟩
  obtain ⟨hv, tv, hrv⟩ : ∃ h t, vd.reverse = h :: t := by
    cases hrev : vd.reverse with
    | nil => exact absurd (List.reverse_eq_nil_iff.mp hrev) hnv
    | cons x xs => exact ⟨x, xs, rfl⟩
  have hh0 : h ≠ 0 := by
    intro h0; apply hu.norm; rw [← List.head?_reverse, hr, h0]; rfl
  have hlr : Limbs (h :: t) := by rw [← hr]; exact Limbs_reverse hu.limbs
  have hlrv : Limbs (hv :: tv) := by rw [← hrv]; exact Limbs_reverse hlv
  have ⟨_, hlt⟩ := Limbs_cons.mp hlr
  have ⟨hvB, hltv⟩ := Limbs_cons.mp hlrv
  have hX : qv ud uexp = qr (h :: t) uexp := by rw [← hr, qr_reverse]
  have hY : qv vd (uexp - 1) = qr (hv :: tv) (uexp - 1) := by rw [← hrv, qr_reverse]
  have htl : topLimb vd = hv := by rw [topLimb_eq_head_reverse, hrv]; rfl
  have hp1 : (0 : ℚ) < (B : ℚ) ^ (uexp - 1) := zpow_pos Bq_pos _
  have hp2 : (0 : ℚ) < (B : ℚ) ^ (uexp - 2) := zpow_pos Bq_pos _
  have hB12 : (B : ℚ) ^ (uexp - 1) = (B : ℚ) * (B : ℚ) ^ (uexp - 2) := by
    have := Bz_succ (uexp - 1); rwa [show uexp - 1 - 1 = uexp - 2 by ring] at this
  have hB2 : (2 : ℚ) ≤ (B : ℚ) := by exact_mod_cast B_ge_two
  by_cases hC0 : ud.reverse.headD 0 ≠ 1 ∨ topLimb vd ≠ B - 1 ∨ (ud.length ≥ 2 ∧ ud.reverse.tail.headD 0 ≠ 0)
  · rw [if_pos hC0]
    have hC : h ≠ 1 ∨ hv ≠ B - 1 ∨ (ud.length ≥ 2 ∧ t.headD 0 ≠ 0) := by
      rw [hr, htl] at hC0; simpa using hC0
    apply subGeneral_ok prec hp ud vd uexp 1 (by norm_num) hu hlv
    rw [hX, hY]
    have hXge := qr_ge_head h t uexp
    have hYlt := qr_lt (hv :: tv) (uexp - 1) hlrv
    have h1 : (1 : ℚ) ≤ (h : ℚ) := by exact_mod_cast Nat.one_le_iff_ne_zero.mpr hh0
    have h2P : 2 * (B : ℚ) ^ (uexp - 2) ≤ (B : ℚ) ^ (uexp - 1) := two_mul_Bz_le (by omega)
    rcases hC with c1 | c2 | c3
    · have : (2 : ℚ) ≤ (h : ℚ) := by exact_mod_cast (show 2 ≤ h by omega)
      linarith [mul_le_mul_of_nonneg_right this (le_of_lt hp1)]
    · have hY2 := qr_lt_head hv tv (uexp - 1) hltv
      rw [show uexp - 1 - 1 = uexp - 2 by ring] at hY2
      have hvq : (hv : ℚ) + 1 ≤ (B : ℚ) - 1 := by
        have : hv + 1 ≤ B - 1 := by omega
        have h2 : ((B - 1 : ℕ) : ℚ) = (B : ℚ) - 1 := by rw [Nat.cast_sub (le_of_lt one_lt_B)]; simp
        rw [← h2]; exact_mod_cast this
      have := mul_le_mul_of_nonneg_right hvq (le_of_lt hp2)
      rw [hB12] at hXge hp1
      linarith [mul_le_mul_of_nonneg_right h1 (le_of_lt hp1)]
    · obtain ⟨_, c4⟩ := c3
      cases t with
      | nil => simp at c4
      | cons s t' =>
        simp only [List.headD_cons] at c4
        have hs : (1 : ℚ) ≤ (s : ℚ) := by exact_mod_cast Nat.one_le_iff_ne_zero.mpr c4
        rw [qr_cons, qr_cons, show uexp - 1 - 1 = uexp - 2 by ring]
        linarith [qr_nonneg t' (uexp - 2), mul_le_mul_of_nonneg_right h1 (le_of_lt hp1),
          mul_le_mul_of_nonneg_right hs (le_of_lt hp2)]
  · rw [if_neg hC0]
    have hh1 : h = 1 := by
      by_contra hne; apply hC0; left; rw [hr]; simpa using hne
    rw [hr]; simp only [List.tail_cons]
    have hE : qv ud uexp - qv vd (uexp - 1) = (B : ℚ) ^ (uexp - 1) + qr t (uexp - 1) - qr (hv :: tv) (uexp - 1) := by
      rw [hX, hY, qr_cons, hh1]; push_cast; ring
    rw [hE, hrv]
    have := subClose_spec prec hp t (hv :: tv) (uexp - 1) hlt hlrv
    generalize subClose prec t (hv :: tv) (uexp - 1) = r at *
    obtain ⟨rd, e'⟩ := r
    exact this

/-! ### the whole magnitude subtraction (sub.c:89-403); operands of equal sign (sub.c:65-411) -/

/-- sub.c:89-403, operands ordered by exponent -/
theorem subCore_ok (prec : ℕ) (hp : 2 ≤ prec) (ud vd : List Nat) (uexp vexp : ℤ)
    (hu : Mant ud) (hlv : Limbs vd) (hnv : vd ≠ []) (hexp : vexp ≤ uexp) :
    SubOK prec (qv ud uexp - qv vd vexp) (subCore prec ud uexp vd vexp) := by
  unfold subCore
  simp only
  by_cases h0 : uexp - vexp = 0
  · rw [if_pos h0]
    have hve : vexp = uexp := by omega
    subst hve
    have hsp := scan_spec ud.reverse vd.reverse vexp (Limbs_reverse hu.limbs) (Limbs_reverse hlv) (by simpa using hu.ne) (by simpa using hnv)
    rw [qr_reverse, qr_reverse] at hsp
    cases hsc : scan ud.reverse vd.reverse vexp with
    | uGone vr e =>
      rw [hsc] at hsp; simp only at hsp ⊢
      obtain ⟨hD, hl⟩ := hsp
      have := SubOK_neg (cancellation_ok prec (by omega) vr e hl)
      rw [hD]
      generalize cancellation (prec + 1) vr e = c at *
      obtain ⟨rd, e'⟩ := c
      exact this
    | vGone ur e =>
      rw [hsc] at hsp; simp only at hsp ⊢
      obtain ⟨hD, hl, _⟩ := hsp
      have := cancellation_ok prec (by omega) ur e hl
      rw [hD]
      generalize cancellation (prec + 1) ur e = c at *
      obtain ⟨rd, e'⟩ := c
      exact this
    | differ ur vr e =>
      rw [hsc] at hsp; simp only at hsp ⊢
      obtain ⟨hD, hl1, hl2, hn1, hn2, hd⟩ := hsp
      rw [hD]
      exact subDiffer_ok prec hp ur vr e hl1 hl2 hn1 hn2 hd
  · rw [if_neg h0]
    by_cases h1 : uexp - vexp = 1
    · rw [if_pos h1]
      have hve : vexp = uexp - 1 := by omega
      rw [hve]
      exact subOne_ok prec hp ud vd uexp hu hlv hnv
    · rw [if_neg h1]
      have hve : vexp = uexp - (uexp - vexp) := by ring
      have hX := hu.qv_ge uexp
      have hY := qv_lt vd vexp hlv
      have hYle : (B : ℚ) ^ vexp ≤ (B : ℚ) ^ (uexp - 2) := zpow_le_zpow_B (by omega)
      have h2P : 2 * (B : ℚ) ^ (uexp - 2) ≤ (B : ℚ) ^ (uexp - 1) := two_mul_Bz_le (by omega)
      have := subGeneral_ok prec hp ud vd uexp (uexp - vexp) (by omega) hu hlv
        (by rw [← hve]; linarith)
      rwa [← hve] at this

/-- the mpf result built at sub.c:405-409 from limbs, exponent and the two sign flags -/
theorem fin_toQ (prec : ℕ) (rd : List Nat) (e : ℤ) (flip c : Bool) :
    toQ ⟨prec, if (c != flip) = true then -(rd.length : Int) else (rd.length : Int), if rd.length = 0 then 0 else e, rd⟩
      = (if c then -1 else 1) * ((if flip then -1 else 1) * qv rd e) := by
  by_cases hl : rd.length = 0
  · have : rd = [] := List.eq_nil_of_length_eq_zero hl
    subst this; simp [toQ, qv]
  · rw [if_neg hl, toQ_mk_neg, mul_assoc, show (val rd : ℚ) * (B : ℚ) ^ (e - (rd.length : ℤ)) = qv rd e from rfl]
    cases c <;> cases flip <;> simp

theorem sg_decide (u : F) : (if decide (u.size < 0) = true then (-1 : ℚ) else 1) = sg u := by
  unfold sg; simp only [decide_eq_true_eq]

/-- sub.c:65-411 -/
theorem subMag_ok (prec : ℕ) (hp : 2 ≤ prec) (u v : F) (hu : OpWF u) (hv : OpWF v)
    (hu0 : u.size ≠ 0) (hv0 : v.size ≠ 0) (c : Bool) :
    ∃ rd e flip, SubOK prec (qv u.d u.exp - qv v.d v.exp) (rd, e, flip) ∧
      subMag prec c u v = ⟨prec, if (c != flip) = true then -(rd.length : Int) else (rd.length : Int),
        if rd.length = 0 then 0 else e, rd⟩ := by
  have mu := hu.mant hu0
  have mv := hv.mant hv0
  unfold subMag
  simp only
  by_cases hswap : u.exp < v.exp
  · simp only [hswap, decide_true, if_true]
    have hok := subCore_ok prec hp v.d u.d v.exp u.exp mv hu.limbs mu.ne (le_of_lt hswap)
    generalize subCore prec v.d v.exp u.d u.exp = r at *
    obtain ⟨rd, e, flip⟩ := r
    exact ⟨rd, e, !flip, SubOK_congr (SubOK_neg hok) (neg_sub _ _), by cases c <;> cases flip <;> rfl⟩
  · simp only [hswap, decide_false, if_false]
    have hok := subCore_ok prec hp u.d v.d u.exp v.exp mu hv.limbs mv.ne (by omega)
    generalize subCore prec u.d u.exp v.d v.exp = r at *
    obtain ⟨rd, e, flip⟩ := r
    exact ⟨rd, e, flip, hok, by cases c <;> cases flip <;> rfl⟩

theorem toQ_sub_of_same_sign {u v : F} (hs : (u.size < 0) ↔ (v.size < 0)) :
    toQ u - toQ v = (if decide (u.size < 0) = true then (-1 : ℚ) else 1) * (qv u.d u.exp - qv v.d v.exp) := by
  rw [sg_decide, toQ_qv u, toQ_qv v, sg_eq_of_iff hs, mul_sub]

/-- sub.c:65-411: one cut, although both operands are cut to the window of prec+1 limbs: the two losses have the same
    sign and cancel to less than one unit -/
theorem subMag_cut (prec : ℕ) (hp : 2 ≤ prec) (u v : F) (hu : OpWF u) (hv : OpWF v)
    (hu0 : u.size ≠ 0) (hv0 : v.size ≠ 0) (hs : (u.size < 0) ↔ (v.size < 0)) :
    WF (subMag prec (decide (u.size < 0)) u v) ∧
    Cut prec (toQ u - toQ v) (toQ (subMag prec (decide (u.size < 0)) u v)) := by
  obtain ⟨rd, e, flip, hok, heq⟩ := subMag_ok prec hp u v hu hv hu0 hv0 (decide (u.size < 0))
  rw [heq, toQ_sub_of_same_sign hs, fin_toQ]
  exact ⟨WF_mk_neg hok.1 hok.2.1 hok.2.2.1 (fun h => by rw [h]; simp),
    hok.cut.smul (by cases decide (u.size < 0) <;> simp)⟩

theorem prec_subMag (P : Nat) (n : Bool) (u v : F) : (subMag P n u v).prec = P := by
  unfold subMag; rfl

/-! ### mpf_add and mpf_sub in full: signs, zero operands, aliasing (add.c:42-64, sub.c:27-63) -/

theorem neg_size_sign (v : F) (hv0 : v.size ≠ 0) (u : F) (hd : ¬ ((u.size < 0) ↔ (v.size < 0))) :
    (u.size < 0) ↔ (({v with size := -v.size} : F).size < 0) := by
  simp only; omega

/-- the four paths of add.c:42-64: a zero operand (copy or leave the other), equal signs, opposite signs -/
theorem add_cases (prec : ℕ) (rIsU rIsV : Bool) (u v : F) :
    (u.size = 0 ∧ add prec rIsU rIsV u v = if rIsV then {v with prec := prec} else set prec v) ∨
    (u.size ≠ 0 ∧ v.size = 0 ∧ add prec rIsU rIsV u v = if rIsU then {u with prec := prec} else set prec u) ∨
    (u.size ≠ 0 ∧ v.size ≠ 0 ∧ ((u.size < 0) ↔ (v.size < 0)) ∧ add prec rIsU rIsV u v = addSame prec u v) ∨
    (u.size ≠ 0 ∧ v.size ≠ 0 ∧ ¬ ((u.size < 0) ↔ (v.size < 0)) ∧
      add prec rIsU rIsV u v = subMag prec (decide (u.size < 0)) u {v with size := -v.size}) := by
  unfold add
  by_cases hu0 : u.size = 0
  · exact Or.inl ⟨hu0, by rw [if_pos hu0]⟩
  by_cases hv0 : v.size = 0
  · exact Or.inr (Or.inl ⟨hu0, hv0, by rw [if_neg hu0, if_pos hv0]⟩)
  rw [if_neg hu0, if_neg hv0]
  by_cases hs : (u.size < 0) ↔ (v.size < 0)
  · refine Or.inr (Or.inr (Or.inl ⟨hu0, hv0, hs, ?_⟩))
    rw [if_neg (by simp [hs])]
  · refine Or.inr (Or.inr (Or.inr ⟨hu0, hv0, hs, ?_⟩))
    rw [if_pos (by by_cases a : u.size < 0 <;> by_cases b : v.size < 0 <;> simp [a, b] at hs ⊢)]

theorem add_of_same_sign (prec : ℕ) (rIsU rIsV : Bool) {u v : F} (hu0 : u.size ≠ 0) (hv0 : v.size ≠ 0)
    (hs : (u.size < 0) ↔ (v.size < 0)) : add prec rIsU rIsV u v = addSame prec u v := by
  rcases add_cases prec rIsU rIsV u v with ⟨h, _⟩ | ⟨_, h, _⟩ | ⟨_, _, _, h⟩ | ⟨_, _, h, _⟩
  · exact absurd h hu0
  · exact absurd h hv0
  · exact h
  · exact absurd hs h

/-- add.c / sub.c with a zero partner: the other operand is copied or, when it is the destination itself, left in place,
    so that it must already fit -/
theorem copy_cut (prec : ℕ) (u : F) (hu : OpWF u) (rIsU : Bool) :
    ((rIsU = true → u.d.length ≤ prec + 1) → WF (if rIsU then {u with prec := prec} else set prec u)) ∧
    Cut prec (toQ u) (toQ (if rIsU then {u with prec := prec} else set prec u)) := by
  cases rIsU
  · exact ⟨fun _ => (set_cut prec u hu).1, (set_cut prec u hu).2⟩
  · rw [if_pos rfl]
    exact ⟨fun hau => hu.wf_with_size rfl (hau rfl), Or.inl rfl⟩

theorem add_spec (prec : ℕ) (hp : 2 ≤ prec) (u v : F) (hu : OpWF u) (hv : OpWF v) (rIsU rIsV : Bool) :
    ((rIsU = true → u.d.length ≤ prec + 1) → (rIsV = true → v.d.length ≤ prec + 1) →
      Accurate prec (add prec rIsU rIsV u v) (toQ u + toQ v)) ∧
    (Fits (toQ u) (PREC_TO_BITS prec) → Fits (toQ v) (PREC_TO_BITS prec) → Fits (toQ u + toQ v) (PREC_TO_BITS prec) →
      toQ (add prec rIsU rIsV u v) = toQ u + toQ v) := by
  have hp1 : 1 ≤ prec := by omega
  rcases add_cases prec rIsU rIsV u v with ⟨hu0, h⟩ | ⟨_, hv0, h⟩ | ⟨hu0, hv0, hs, h⟩ | ⟨hu0, hv0, hs, h⟩ <;> rw [h]
  · rw [hu.toQ_zero hu0, zero_add]
    obtain ⟨w, c⟩ := copy_cut prec v hv rIsV
    exact ⟨fun _ hav => (spec_of_cut hp1 (w hav) c).1, fun _ _ => c.exact hp1⟩
  · rw [hv.toQ_zero hv0, add_zero]
    obtain ⟨w, c⟩ := copy_cut prec u hu rIsU
    exact ⟨fun hau _ => (spec_of_cut hp1 (w hau) c).1, fun _ _ => c.exact hp1⟩
  · obtain ⟨h1, h2, h3⟩ := addSame_ok prec hp1 u v hu hv hu0 hv0 hs
    refine ⟨fun _ _ => ⟨h1, fun h => ?_, fun _ => h2⟩, h3⟩
    -- same signs and both non-zero: the sum cannot vanish
    rw [toQ_qv u, toQ_qv v, sg_eq_of_iff hs, ← mul_add] at h
    have p1 := (hu.mant hu0).qv_pos u.exp
    have p2 := (hv.mant hv0).qv_pos v.exp
    rcases mul_eq_zero.mp h with h' | h'
    · exact absurd h' (sg_ne_zero u)
    · linarith
  · obtain ⟨w, c⟩ := subMag_cut prec hp u {v with size := -v.size} hu (OpWF_neg_size v hv) hu0
      (by simpa using hv0) (neg_size_sign v hv0 u hs)
    rw [toQ_neg_size v hv, sub_neg_eq_add] at c
    exact ⟨fun _ _ => (spec_of_cut hp1 w c).1, fun _ _ => c.exact hp1⟩

/-- sub.c:27-63 takes the same four paths as mpf_add with the sign of v flipped -/
theorem sub_eq_add (prec : ℕ) (rIsU rIsV : Bool) (u v : F) :
    sub prec rIsU rIsV u v = add prec rIsU rIsV u {v with size := -v.size} := by
  unfold sub add
  dsimp only
  by_cases hu0 : u.size = 0
  · rw [if_pos hu0, if_pos hu0]; cases rIsV <;> rfl
  rw [if_neg hu0, if_neg hu0]
  by_cases hv0 : v.size = 0
  · rw [if_pos hv0, if_pos (show -v.size = 0 by omega)]
  rw [if_neg hv0, if_neg (show ¬ -v.size = 0 by omega), neg_neg,
    show decide (-v.size < 0) = !decide (v.size < 0) by by_cases b : v.size < 0 <;> simp [b] <;> omega]
  generalize decide (u.size < 0) = x
  generalize decide (v.size < 0) = y
  cases x <;> cases y <;> rfl

theorem sub_spec (prec : ℕ) (hp : 2 ≤ prec) (u v : F) (hu : OpWF u) (hv : OpWF v) (rIsU rIsV : Bool) :
    ((rIsU = true → u.d.length ≤ prec + 1) → (rIsV = true → v.d.length ≤ prec + 1) →
      Accurate prec (sub prec rIsU rIsV u v) (toQ u - toQ v)) ∧
    (Fits (toQ u) (PREC_TO_BITS prec) → Fits (toQ v) (PREC_TO_BITS prec) → Fits (toQ u - toQ v) (PREC_TO_BITS prec) →
      toQ (sub prec rIsU rIsV u v) = toQ u - toQ v) := by
  have h := add_spec prec hp u _ hu (OpWF_neg_size v hv) rIsU rIsV
  rw [toQ_neg_size v hv, ← sub_eq_add_neg, ← sub_eq_add] at h
  exact ⟨h.1, fun fu fv => h.2 fu (fits_neg fv)⟩

end Mpir.Mpf
