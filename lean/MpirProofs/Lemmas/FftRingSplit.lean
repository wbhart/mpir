/- FFT ring layer: mpir_fft_split_limbs / mpir_fft_split_bits — the coefficients are the base-2^bits digits; then `setAt` and the
   top-limb mask, and (namespace Mpir.Mm1) the cut of a 2n-limb product at bit 64n − k that mpn_mulmod_2expp1_basecase and
   mpn_mulmod_2expm1 share. -/
import MpirProofs.Lemmas.FftRing
import Mathlib.Data.Nat.ModEq
import Mpir.Model.Mulmod2expm1
namespace Mpir.Fft
open Mpir

/-- Σ val(c_j)·2^(j·bits) -/
def polyEval (bits : Nat) : List (List Nat) → Nat
  | [] => 0
  | c :: cs => val c + 2 ^ bits * polyEval bits cs

theorem val_padTo (m : Nat) (l : List Nat) : val (padTo m l) = val l := by
  unfold padTo; rw [val_append, val_replicate_zero]; simp

theorem Limbs_padTo (m : Nat) (l : List Nat) (h : Limbs l) : Limbs (padTo m l) :=
  Limbs_append.mpr ⟨h, Limbs_replicate_zero _⟩

theorem length_padTo (m : Nat) (l : List Nat) (h : l.length ≤ m) : (padTo m l).length = m := by
  unfold padTo; simp; omega

/-- all coefficients are well-formed buffers of `ol + 1` limbs holding a value below 2^bits -/
def CoeffsOK (bits ol : Nat) (cs : List (List Nat)) : Prop :=
  ∀ c ∈ cs, c.length = ol + 1 ∧ Limbs c ∧ val c < 2 ^ bits

theorem splitLimbsGo_spec (coeff ol : Nat) (hc : 1 ≤ coeff) (hol : coeff ≤ ol + 1) :
    ∀ (fuel : Nat) (rest : List Nat), Limbs rest → rest.length < fuel →
      polyEval (64 * coeff) (splitLimbsGo coeff ol fuel rest) = val rest ∧
      CoeffsOK (64 * coeff) ol (splitLimbsGo coeff ol fuel rest) ∧
      (splitLimbsGo coeff ol fuel rest).length = (rest.length + coeff - 1) / coeff
  | 0, rest, _, h => by omega
  | fuel + 1, rest, hr, hf => by
    unfold splitLimbsGo
    by_cases h1 : coeff ≤ rest.length
    · simp only [h1, ↓reduceIte]
      have hd : (rest.drop coeff).length < fuel := by simp; omega
      obtain ⟨ih1, ih2, ih3⟩ := splitLimbsGo_spec coeff ol hc hol fuel (rest.drop coeff) (Limbs_drop hr _) hd
      have htl : (rest.take coeff).length = coeff := by simp [h1]
      refine ⟨?_, ?_, ?_⟩
      · simp only [polyEval, val_padTo, ih1, ← B_pow]
        exact (val_take_drop rest coeff h1).symm
      · intro c hcm
        rcases List.mem_cons.mp hcm with rfl | hcm
        · refine ⟨length_padTo _ _ (by rw [htl]; exact hol), Limbs_padTo _ _ (Limbs_take hr _), ?_⟩
          rw [val_padTo, ← B_pow]
          have := val_lt _ (Limbs_take hr coeff); rwa [htl] at this
        · exact ih2 c hcm
      · simp only [List.length_cons, ih3, List.length_drop]
        have : rest.length + coeff - 1 = (rest.length - coeff + coeff - 1) + coeff := by omega
        rw [this, Nat.add_div_right _ (by omega)]
    · simp only [h1, ↓reduceIte]
      by_cases h2 : rest.length > 0
      · simp only [h2, ↓reduceIte]
        refine ⟨by simp [polyEval, val_padTo], ?_, ?_⟩
        · intro c hcm
          rw [List.mem_singleton] at hcm; subst hcm
          refine ⟨length_padTo _ _ (by omega), Limbs_padTo _ _ hr, ?_⟩
          rw [val_padTo, ← B_pow]
          exact lt_of_lt_of_le (val_lt _ hr) (Nat.pow_le_pow_right B_pos (by omega))
        · simp only [List.length_cons, List.length_nil]
          have : (rest.length + coeff - 1) / coeff = 1 := by
            apply Nat.div_eq_of_lt_le <;> omega
          omega
      · simp only [h2, ↓reduceIte]
        have : rest = [] := List.eq_nil_of_length_eq_zero (by omega)
        subst this
        refine ⟨by simp [polyEval], by intro c hc; simp at hc, ?_⟩
        simp only [List.length_nil]
        exact (Nat.div_eq_of_lt (by omega)).symm

/-- bits above position W do not influence the field [s, s+b) when s + b ≤ W -/
theorem field_mod (a s b W : Nat) (h : s + b ≤ W) :
    (a / 2 ^ s) % 2 ^ b = ((a % 2 ^ W) / 2 ^ s) % 2 ^ b := by
  rw [← Nat.mod_mul_right_div_self, ← Nat.mod_mul_right_div_self (a % 2 ^ W)]
  congr 1
  rw [← pow_add]
  exact (Nat.mod_mod_of_dvd a (pow_dvd_pow 2 h)).symm

theorem two_pow_dvd_B (t : Nat) (ht : t ≤ 64) : 2 ^ t ∣ B :=
  ⟨2 ^ (64 - t), by rw [← pow_add, show t + (64 - t) = 64 by omega]; rfl⟩

/-- `poly[i][coeff_limbs - 1] &= mask` keeps the low 64·(len−1) + t bits -/
theorem val_maskTop (c : List Nat) (t : Nat) (hc : Limbs c) (hn : 1 ≤ c.length) :
    val (maskTop c (2 ^ t - 1)) = val c % (B ^ (c.length - 1) * 2 ^ t) ∧
    (maskTop c (2 ^ t - 1)).length = c.length ∧ Limbs (maskTop c (2 ^ t - 1)) := by
  obtain ⟨init, last, rfl, hl⟩ := exists_snoc c (c.length - 1) (by omega)
  have ⟨hi, hlast⟩ := Limbs_snoc.mp hc
  have e : maskTop (init ++ [last]) (2 ^ t - 1) = init ++ [last % 2 ^ t] := by
    unfold maskTop
    simp [List.getD_eq_getElem?_getD, Nat.and_two_pow_sub_one_eq_mod]
  rw [e, val_snoc, val_snoc]
  have hlen : (init ++ [last]).length - 1 = init.length := by simp
  rw [hlen, add_mul_mod_mul _ _ _ _ (val_lt _ hi)]
  refine ⟨rfl, by simp, Limbs_snoc.mpr ⟨hi, lt_of_le_of_lt (Nat.mod_le _ _) hlast⟩⟩

theorem two_pow_bits (k0 t : Nat) : 2 ^ (64 * k0 + t) = B ^ k0 * 2 ^ t := by
  rw [pow_add, B_pow]

/-- the coefficient when the field starts on a limb boundary (split_bits.c:75-76) -/
theorem coeff_noshift (rest : List Nat) (k0 t : Nat) (hr : Limbs rest) (hlen : k0 + 1 ≤ rest.length) (ht : t < 64) :
    val (maskTop (rest.take (k0 + 1)) (2 ^ t - 1)) = val rest % 2 ^ (64 * k0 + t) ∧
    (maskTop (rest.take (k0 + 1)) (2 ^ t - 1)).length = k0 + 1 ∧
    Limbs (maskTop (rest.take (k0 + 1)) (2 ^ t - 1)) := by
  have htl : (rest.take (k0 + 1)).length = k0 + 1 := by simp [hlen]
  obtain ⟨v, l, lim⟩ := val_maskTop (rest.take (k0 + 1)) t (Limbs_take hr _) (by omega)
  rw [htl] at v l
  refine ⟨?_, l, lim⟩
  rw [v, val_take_eq_mod _ hr, Nat.add_sub_cancel, two_pow_bits]
  apply Nat.mod_mod_of_dvd
  rw [pow_succ]; exact Nat.mul_dvd_mul_left _ (two_pow_dvd_B t (le_of_lt ht))

theorem rshift_spec (u : List Nat) (c : Nat) (hu : Limbs u) (hne : 0 < u.length) (hc1 : 1 ≤ c) (hc : c ≤ 63) :
    val (rshift u c).1 = val u / 2 ^ c ∧ Limbs (rshift u c).1 ∧ (rshift u c).1.length = u.length := by
  obtain ⟨x, xs, rfl⟩ := List.exists_cons_of_length_pos hne
  obtain ⟨_, _, h3, h4, h5, _⟩ := rshift_val' (x :: xs) c hu (Nat.succ_pos _) hc1 hc
  exact ⟨h5, h3, h4⟩

/-- the coefficient when the field starts inside a limb and ends inside the same `coeff` limbs (:81, :91) -/
theorem coeff_shift_in (rest : List Nat) (k0 t s : Nat) (hr : Limbs rest) (hlen : k0 + 1 ≤ rest.length)
    (hs1 : 1 ≤ s) (hst : s + t < 64) :
    val (maskTop (rshift (rest.take (k0 + 1)) s).1 (2 ^ t - 1)) = (val rest / 2 ^ s) % 2 ^ (64 * k0 + t) ∧
    (maskTop (rshift (rest.take (k0 + 1)) s).1 (2 ^ t - 1)).length = k0 + 1 ∧
    Limbs (maskTop (rshift (rest.take (k0 + 1)) s).1 (2 ^ t - 1)) := by
  have htl : (rest.take (k0 + 1)).length = k0 + 1 := by simp [hlen]
  obtain ⟨rv, rl, rn⟩ := rshift_spec (rest.take (k0 + 1)) s (Limbs_take hr _) (by omega) hs1 (by omega)
  rw [htl] at rn
  obtain ⟨v, l, lim⟩ := val_maskTop _ t rl (by omega)
  rw [rn] at v l
  refine ⟨?_, l, lim⟩
  rw [v, rv, val_take_eq_mod _ hr, Nat.add_sub_cancel, ← two_pow_bits, B_pow]
  exact (field_mod _ _ _ _ (by omega)).symm

theorem val_take_one (l : List Nat) : val (l.take 1) = l.getD 0 0 := by
  cases l with
  | nil => simp
  | cons a as => simp

/-- the coefficient when the field runs over into the next limb (split_bits.c:81-88, :91) -/
theorem coeff_shift_out (rest : List Nat) (k0 t s : Nat) (hr : Limbs rest) (hlen : k0 + 1 ≤ rest.length)
    (hs1 : 1 ≤ s) (hs : s < 64) (ht : t < 64) :
    let c0 := (rshift (rest.take (k0 + 1)) s).1
    let hi := (((rest.drop k0).drop 1).getD 0 0 <<< (64 - s)) % B
    let c1 := c0.take k0 ++ [ladd (c0.getD k0 0) hi]
    val (maskTop c1 (2 ^ t - 1)) = (val rest / 2 ^ s) % 2 ^ (64 * k0 + t) ∧
    (maskTop c1 (2 ^ t - 1)).length = k0 + 1 ∧ Limbs (maskTop c1 (2 ^ t - 1)) := by
  intro c0 hi c1
  have htl : (rest.take (k0 + 1)).length = k0 + 1 := by simp [hlen]
  obtain ⟨rv, rl, rn⟩ := rshift_spec (rest.take (k0 + 1)) s (Limbs_take hr _) (by omega) hs1 (by omega)
  rw [htl] at rn
  obtain ⟨init0, c0top, hc0, hil⟩ := exists_snoc c0 k0 rn
  have rl' : Limbs (init0 ++ [c0top]) := by rw [← hc0]; exact rl
  have ⟨hinit, hc0t⟩ := Limbs_snoc.mp rl'
  have e1 : c0.take k0 = init0 := by rw [hc0]; simp [hil]
  have e2 : c0.getD k0 0 = c0top := by rw [hc0]; simp [List.getD_eq_getElem?_getD, hil]
  have hc1 : c1 = init0 ++ [ladd c0top hi] := by simp only [c1, e1, e2]
  have hL1 : Limbs c1 := by rw [hc1]; exact Limbs_snoc.mpr ⟨hinit, ladd_lt _ _⟩
  have hn1 : c1.length = k0 + 1 := by rw [hc1]; simp [hil]
  obtain ⟨v, l, lim⟩ := val_maskTop c1 t hL1 (by omega)
  rw [hn1] at v l
  refine ⟨?_, l, lim⟩
  rw [v, Nat.add_sub_cancel]
  -- the field only depends on the low k0 + 2 limbs
  set r0 := ((rest.drop k0).drop 1).getD 0 0 with hr0
  have hdd : (rest.drop k0).drop 1 = rest.drop (k0 + 1) := by rw [List.drop_drop]
  have hT : val rest % B ^ (k0 + 2) = val (rest.take (k0 + 1)) + B ^ (k0 + 1) * r0 := by
    rw [← val_take_eq_mod _ hr, show k0 + 2 = (k0 + 1) + 1 by rfl, List.take_add, val_append, htl, val_take_one, hr0, hdd]
  have hfield := field_mod (val rest) s (64 * k0 + t) (64 * (k0 + 2)) (by omega)
  rw [← B_pow, hT] at hfield
  have hBs : B ^ (k0 + 1) = 2 ^ s * (B ^ k0 * 2 ^ (64 - s)) := by
    rw [pow_succ, B_split s (by omega)]; ring
  have hdiv : (val (rest.take (k0 + 1)) + B ^ (k0 + 1) * r0) / 2 ^ s = val c0 + B ^ k0 * (2 ^ (64 - s) * r0) := by
    rw [hBs, Nat.mul_assoc, Nat.add_mul_div_left _ _ (by positivity), rv]; ring
  rw [hfield, hdiv, two_pow_bits]
  have hvc0 : val c0 = val init0 + B ^ k0 * c0top := by rw [hc0, val_snoc, hil]
  have hvc1 : val c1 = val init0 + B ^ k0 * ladd c0top hi := by rw [hc1, val_snoc, hil]
  have hil' := val_lt _ hinit; rw [hil] at hil'
  rw [hvc0, hvc1, Nat.add_assoc, ← Nat.mul_add, add_mul_mod_mul _ _ _ _ hil', add_mul_mod_mul _ _ _ _ hil']
  congr 2
  -- the top limbs agree modulo 2^t
  have hd := two_pow_dvd_B t (by omega)
  have m1 : ladd c0top hi % 2 ^ t = (c0top + hi) % 2 ^ t := by
    unfold ladd; exact Nat.mod_mod_of_dvd _ hd
  have m2 : hi % 2 ^ t = (2 ^ (64 - s) * r0) % 2 ^ t := by
    simp only [hi, Nat.shiftLeft_eq]
    rw [Nat.mod_mod_of_dvd _ hd, Nat.mul_comm]
  rw [m1, Nat.add_mod, m2, ← Nat.add_mod]

/-- advancing the read position by exactly `bits` bits -/
theorem next_state (rest : List Nat) (hr : Limbs rest) (a e s bits : Nat) (h : 64 * a + e = s + bits) :
    val (rest.drop a) / 2 ^ e = (val rest / 2 ^ s) / 2 ^ bits := by
  rw [val_drop_eq_div _ hr, B_pow, Nat.div_div_eq_div_mul, Nat.div_div_eq_div_mul, ← pow_add, ← pow_add, h]

theorem coeffsOK_cons {bits ol : Nat} {c : List Nat} {cs : List (List Nat)}
    (hc : c.length = ol + 1 ∧ Limbs c ∧ val c < 2 ^ bits) (hcs : CoeffsOK bits ol cs) : CoeffsOK bits ol (c :: cs) := by
  intro d hd
  rcases List.mem_cons.mp hd with rfl | hd
  · exact hc
  · exact hcs d hd

theorem splitBitsGo_spec (k0 t ol : Nat) (ht1 : 1 ≤ t) (ht : t < 64) (hol : k0 ≤ ol) :
    ∀ (k : Nat) (rest : List Nat) (shift : Nat), Limbs rest → shift < 64 →
      shift + k * (64 * k0 + t) < 64 * rest.length →
      64 * rest.length ≤ shift + (k + 1) * (64 * k0 + t) →
      polyEval (64 * k0 + t) (splitBitsGo (k0 + 1) t ol (2 ^ t - 1) k rest shift) = val rest / 2 ^ shift ∧
      CoeffsOK (64 * k0 + t) ol (splitBitsGo (k0 + 1) t ol (2 ^ t - 1) k rest shift) ∧
      (splitBitsGo (k0 + 1) t ol (2 ^ t - 1) k rest shift).length = k + 1
  | 0, rest, shift, hr, hs, h1, h2 => by
    simp only [Nat.zero_mul, Nat.add_zero, Nat.zero_add, Nat.one_mul] at h1 h2
    unfold splitBitsGo
    have hlen : rest.length ≤ k0 + 1 := by omega
    have hpos : 0 < rest.length := by omega
    have hlt : val rest / 2 ^ shift < 2 ^ (64 * k0 + t) := by
      rw [Nat.div_lt_iff_lt_mul (by positivity), ← pow_add]
      have := val_lt _ hr; rw [B_pow] at this
      exact lt_of_lt_of_le this (Nat.pow_le_pow_right (by norm_num) (by omega))
    by_cases hs0 : shift = 0
    · subst hs0
      simp only [↓reduceIte, pow_zero, Nat.div_one] at hlt ⊢
      refine ⟨by simp [polyEval, val_padTo], ?_, by simp⟩
      exact coeffsOK_cons ⟨length_padTo _ _ (by omega), Limbs_padTo _ _ hr, by rw [val_padTo]; exact hlt⟩
        (fun _ h => by simp at h)
    · simp only [hs0, ↓reduceIte]
      obtain ⟨rv, rl, rn⟩ := rshift_spec rest shift hr hpos (by omega) (by omega)
      refine ⟨by simp [polyEval, val_padTo, rv], ?_, by simp⟩
      exact coeffsOK_cons ⟨length_padTo _ _ (by omega), Limbs_padTo _ _ rl, by rw [val_padTo, rv]; exact hlt⟩
        (fun _ h => by simp at h)
  | k + 1, rest, shift, hr, hs, h1, h2 => by
    have e1 : (k + 1) * (64 * k0 + t) = k * (64 * k0 + t) + (64 * k0 + t) := by ring
    have e2 : (k + 1 + 1) * (64 * k0 + t) = k * (64 * k0 + t) + (64 * k0 + t) + (64 * k0 + t) := by ring
    rw [e1] at h1; rw [e2] at h2
    generalize hkb : k * (64 * k0 + t) = kb at h1 h2
    have hlen : k0 + 1 ≤ rest.length := by omega
    have hmod : ∀ V : Nat, V % 2 ^ (64 * k0 + t) + 2 ^ (64 * k0 + t) * (V / 2 ^ (64 * k0 + t)) = V :=
      fun V => Nat.mod_add_div V _
    have hmlt : ∀ V : Nat, V % 2 ^ (64 * k0 + t) < 2 ^ (64 * k0 + t) := fun V => Nat.mod_lt _ (by positivity)
    unfold splitBitsGo
    simp only [Nat.add_sub_cancel]
    by_cases hs0 : shift = 0
    · subst hs0
      simp only [↓reduceIte, Nat.zero_add]
      obtain ⟨cv, cl, clim⟩ := coeff_noshift rest k0 t hr hlen ht
      have hd := Limbs_drop hr k0
      obtain ⟨ih1, ih2, ih3⟩ := splitBitsGo_spec k0 t ol ht1 ht hol k (rest.drop k0) t hd ht
        (by rw [List.length_drop, hkb]; omega) (by rw [List.length_drop, e1, hkb]; omega)
      have hns := next_state rest hr k0 t 0 (64 * k0 + t) (by omega)
      simp only [pow_zero, Nat.div_one] at hns
      refine ⟨?_, coeffsOK_cons ⟨length_padTo _ _ (by rw [cl]; omega), Limbs_padTo _ _ clim, ?_⟩ ih2, by simp [ih3]⟩
      · simp only [polyEval, val_padTo, cv, ih1, hns, pow_zero, Nat.div_one]; exact hmod _
      · rw [val_padTo, cv]; exact hmlt _
    · simp only [hs0, ↓reduceIte]
      by_cases hov : shift + t ≥ 64
      · simp only [hov, ↓reduceIte]
        obtain ⟨cv, cl, clim⟩ := coeff_shift_out rest k0 t shift hr hlen (by omega) hs ht
        have hdd : (rest.drop k0).drop 1 = rest.drop (k0 + 1) := by rw [List.drop_drop]
        have hd := Limbs_drop (Limbs_drop hr k0) 1
        obtain ⟨ih1, ih2, ih3⟩ := splitBitsGo_spec k0 t ol ht1 ht hol k ((rest.drop k0).drop 1) (shift + t - 64) hd (by omega)
          (by rw [List.length_drop, List.length_drop, hkb]; omega) (by rw [List.length_drop, List.length_drop, e1, hkb]; omega)
        have hns := next_state rest hr (k0 + 1) (shift + t - 64) shift (64 * k0 + t) (by omega)
        rw [← hdd] at hns
        refine ⟨?_, coeffsOK_cons ⟨length_padTo _ _ (by rw [cl]; omega), Limbs_padTo _ _ clim, ?_⟩ ih2,
          by rw [List.length_cons, ih3]⟩
        · simp only [polyEval, val_padTo]; rw [cv, ih1, hns]; exact hmod _
        · rw [val_padTo, cv]; exact hmlt _
      · simp only [hov, ↓reduceIte]
        obtain ⟨cv, cl, clim⟩ := coeff_shift_in rest k0 t shift hr hlen (by omega) (by omega)
        have hd := Limbs_drop hr k0
        obtain ⟨ih1, ih2, ih3⟩ := splitBitsGo_spec k0 t ol ht1 ht hol k (rest.drop k0) (shift + t) hd (by omega)
          (by rw [List.length_drop, hkb]; omega) (by rw [List.length_drop, e1, hkb]; omega)
        have hns := next_state rest hr k0 (shift + t) shift (64 * k0 + t) (by omega)
        refine ⟨?_, coeffsOK_cons ⟨length_padTo _ _ (by rw [cl]; omega), Limbs_padTo _ _ clim, ?_⟩ ih2, by simp [ih3]⟩
        · simp only [polyEval, val_padTo, cv, ih1, hns]; exact hmod _
        · rw [val_padTo, cv]; exact hmlt _

/-- mpir_fft_split_bits: the coefficients are the base-2^bits digits of the operand, each in a zero-padded
    buffer of ol+1 limbs; their number is ⌈64·total/bits⌉ -/
theorem split_bits_spec (x : List Nat) (bits ol : Nat) (hx : Limbs x) (hn : 1 ≤ x.length) (hb : 1 ≤ bits)
    (hol : (bits + 63) / 64 ≤ ol + 1) :
    polyEval bits (split_bits x bits ol) = val x ∧ CoeffsOK bits ol (split_bits x bits ol) ∧
    (split_bits x bits ol).length = (64 * x.length - 1) / bits + 1 := by
  unfold split_bits
  have hdm := Nat.div_add_mod bits 64
  by_cases ht : bits % 64 = 0
  · simp only [ht, ↓reduceIte]
    have hc : 1 ≤ bits / 64 := by omega
    have hbits : bits = 64 * (bits / 64) := by omega
    obtain ⟨h1, h2, h3⟩ := splitLimbsGo_spec (bits / 64) ol hc (by omega) (x.length + 1) x hx (by omega)
    unfold split_limbs
    rw [← hbits] at h1 h2
    refine ⟨h1, h2, ?_⟩
    rw [h3]
    have e1 : (64 * x.length - 1) / bits = (x.length - 1) / (bits / 64) := by
      conv_lhs => rw [hbits]
      rw [← Nat.div_div_eq_div_mul]; congr 1; omega
    rw [e1, ← Nat.add_div_right _ (by omega)]; congr 1; omega
  · simp only [ht, ↓reduceIte]
    have hbits : bits = 64 * (bits / 64) + bits % 64 := by omega
    have hlt : bits % 64 < 64 := Nat.mod_lt _ (by norm_num)
    have k1 : (64 * x.length - 1) / bits * bits ≤ 64 * x.length - 1 := Nat.div_mul_le_self _ _
    have k2 : 64 * x.length - 1 < bits * ((64 * x.length - 1) / bits + 1) := Nat.lt_mul_div_succ _ (by omega)
    rw [Nat.mul_comm bits, Nat.add_mul, Nat.one_mul] at k2
    have e64 : 64 * (bits / 64) + bits % 64 = bits := by omega
    generalize hk : (64 * x.length - 1) / bits = k at k1 k2 ⊢
    generalize hkb : k * bits = kb at k1 k2
    obtain ⟨h1, h2, h3⟩ := splitBitsGo_spec (bits / 64) (bits % 64) ol (by omega) hlt (by omega)
      k x 0 hx (by norm_num) (by rw [e64, hkb]; omega) (by rw [e64, Nat.add_mul, Nat.one_mul, hkb]; omega)
    rw [← hbits] at h1 h2
    simp only [Nat.add_sub_cancel, pow_zero, Nat.div_one] at h1 h2 h3 ⊢
    exact ⟨h1, h2, h3⟩

/-! ### `setAt` and the top-limb mask -/

theorem setAt_self (x : List Nat) (i : Nat) (hi : i < x.length) : setAt x i (x.getD i 0) = x := by
  unfold setAt
  rw [List.getD_eq_getElem?_getD, List.getElem?_eq_getElem hi]
  simp only [Option.getD_some, List.append_assoc, List.singleton_append]
  rw [← List.drop_eq_getElem_cons hi, List.take_append_drop]

theorem setAt_parts (x : List Nat) (i v : Nat) (hi : i < x.length) :
    (setAt x i v).take (i + 1) = x.take i ++ [v] ∧ (setAt x i v).drop (i + 1) = x.drop (i + 1) ∧
    (setAt x i v).length = x.length := by
  have hl : (x.take i ++ [v]).length = i + 1 := by simp; omega
  unfold setAt
  refine ⟨?_, ?_, ?_⟩
  · rw [List.take_append_of_le_length (by rw [hl])]
    exact List.take_of_length_le (by rw [hl])
  · rw [List.drop_append_of_le_length (by rw [hl])]
    rw [List.drop_of_length_le (by rw [hl])]; rfl
  · simp; omega

theorem take_succ_getD (x : List Nat) (i : Nat) (hi : i < x.length) : x.take (i + 1) = x.take i ++ [x.getD i 0] := by
  rw [List.take_add_one, List.getD_eq_getElem?_getD, List.getElem?_eq_getElem hi]; simp

theorem or_low (a x k : Nat) (ha : 2 ^ k ∣ a) (hx : x < 2 ^ k) : a ||| x = a + x := by
  obtain ⟨m, rfl⟩ := ha
  exact (Nat.two_pow_add_eq_or_of_lt hx m).symm

/-- masking limb n−1 of an n-limb vector to 64−k bits reduces it modulo 2^(64n−k) -/
theorem mask_top_mod (x : List Nat) (n k : Nat) (hx : Limbs x) (hl : x.length = n) (hn : 1 ≤ n) (hk : k ≤ 64) :
    val (setAt x (n - 1) (x.getD (n - 1) 0 &&& (2 ^ (64 - k) - 1))) = val x % 2 ^ (64 * n - k) ∧
    (setAt x (n - 1) (x.getD (n - 1) 0 &&& (2 ^ (64 - k) - 1))).length = n ∧
    Limbs (setAt x (n - 1) (x.getD (n - 1) 0 &&& (2 ^ (64 - k) - 1))) := by
  have e : setAt x (n - 1) (x.getD (n - 1) 0 &&& (2 ^ (64 - k) - 1)) = maskTop x (2 ^ (64 - k) - 1) := by
    unfold setAt maskTop
    rw [hl, show n - 1 + 1 = n by omega, List.drop_of_length_le (by omega)]; simp
  rw [e]
  obtain ⟨v, l, L⟩ := val_maskTop x (64 - k) hx (by omega)
  rw [hl] at v l
  refine ⟨?_, l, L⟩
  rw [v, B_pow, ← pow_add]; congr 2; omega

theorem two_pow_b (n k : Nat) (hn : 1 ≤ n) (hk : k ≤ 63) : 2 ^ (64 * n - k) = B ^ (n - 1) * 2 ^ (64 - k) := by
  rw [B_pow, ← pow_add]; congr 1; omega

theorem Bn_eq (n k : Nat) (hn : 1 ≤ n) (hk : k ≤ 63) : B ^ n = 2 ^ (64 * n - k) * 2 ^ k := by
  rw [B_pow, ← pow_add]; congr 1; omega

theorem and_mask64 (a : Nat) (ha : a < B) : a &&& (2 ^ 64 - 1) = a := by
  rw [Nat.and_two_pow_sub_one_eq_mod]; exact Nat.mod_eq_of_lt ha

/-- `x[n-1] &= GMP_NUMB_MASK >> 0` does nothing -/
theorem mask_noop (x : List Nat) (hx : Limbs x) (n : Nat) (hn : 1 ≤ n) (hl : x.length = n) :
    setAt x (n - 1) (x.getD (n - 1) 0 &&& (2 ^ (64 - 0) - 1)) = x := by
  rw [Nat.sub_zero, and_mask64 _ (getD_lt hx _)]
  exact setAt_self x _ (by omega)

/-! ### for mpn_mulmod_2expp1_basecase: the flag operand, the limb count -/

/-- the operand a flag stands for, modulo 2^b + 1 -/
def flaggedb (flag : Nat) (b : Nat) (u : List Nat) : Int := if flag = 1 then (2 : Int) ^ b else (val u : Int)

theorem size_facts_k (n k : Nat) (hn : 1 ≤ n) (hk : k ≤ 63) :
    (64 * n - k + 63) / 64 = n ∧ 64 * n - (64 * n - k) = k := by
  constructor <;> omega

end Mpir.Fft

namespace Mpir.Mm1
open Mpir Mpir.Fft

/-! ### the 2n-limb product cut at bit 64n − k (mulmod_2expm1.c:71-81 = mulmod_2expp1_basecase.c:108-117) -/

theorem carry_eq_zero {x M c v : Nat} (h : x + M * c = v) (hv : v < M) : c = 0 := (carry_zero h hv).1

theorem getD_append_len (xs ys : List Nat) (n : Nat) (h : xs.length = n) : (xs ++ ys).getD n 0 = ys.getD 0 0 := by
  rw [List.getD_append_right _ _ _ _ (by omega), h, Nat.sub_self]

theorem setAt_append_len (xs ys : List Nat) (n v : Nat) (h : xs.length = n) :
    setAt (xs ++ ys) n v = xs ++ setAt ys 0 v := by
  subst h
  unfold setAt
  simp

/-- `x[0] |= v` -/
theorem or_low_limb (x : List Nat) (j v : Nat) (hx : Limbs x) (hne : 0 < x.length) (hj : j ≤ 64)
    (hd : 2 ^ j ∣ val x) (hv : v < 2 ^ j) :
    val (setAt x 0 (x.getD 0 0 ||| v)) = val x + v ∧ (setAt x 0 (x.getD 0 0 ||| v)).length = x.length ∧
    Limbs (setAt x 0 (x.getD 0 0 ||| v)) := by
  obtain ⟨x0, xs, rfl⟩ := List.exists_cons_of_length_pos hne
  have ⟨hx0, hxs⟩ := Limbs_cons.mp hx
  have e : setAt (x0 :: xs) 0 ((x0 :: xs).getD 0 0 ||| v) = (x0 ||| v) :: xs := rfl
  have hd0 : 2 ^ j ∣ x0 := (Nat.dvd_add_left (Dvd.dvd.mul_right (two_pow_dvd_B j hj) _)).mp hd
  have hvB : v < 2 ^ 64 := lt_of_lt_of_le hv (Nat.pow_le_pow_right (by norm_num) hj)
  rw [e]
  refine ⟨?_, rfl, Limbs_cons.mpr ⟨Nat.or_lt_two_pow hx0 hvB, hxs⟩⟩
  rw [or_low x0 v j hd0 hv, val_cons, val_cons, Nat.add_right_comm]

/-- `x[n-1] |= v·2^j` -/
theorem or_top_limb (x : List Nat) (n j v : Nat) (hx : Limbs x) (hl : x.length = n) (hn : 1 ≤ n)
    (hv : val x < B ^ (n - 1) * 2 ^ j) (hvB : (v + 1) * 2 ^ j ≤ B) :
    val (setAt x (n - 1) (x.getD (n - 1) 0 ||| v * 2 ^ j)) = val x + B ^ (n - 1) * (v * 2 ^ j) ∧
    (setAt x (n - 1) (x.getD (n - 1) 0 ||| v * 2 ^ j)).length = n ∧
    Limbs (setAt x (n - 1) (x.getD (n - 1) 0 ||| v * 2 ^ j)) := by
  obtain ⟨xs, t, rfl, hxs⟩ := exists_snoc x (n - 1) (by omega)
  have ht : t < 2 ^ j := by
    rw [val_snoc, hxs] at hv
    exact Nat.lt_of_mul_lt_mul_left (lt_of_le_of_lt (Nat.le_add_left _ _) hv)
  have hor : t ||| v * 2 ^ j = v * 2 ^ j + t := by
    rw [Nat.or_comm]; exact or_low _ _ j (Dvd.intro_left _ rfl) ht
  rw [getD_append_len xs [t] _ hxs, setAt_append_len xs [t] _ _ hxs, List.getD_cons_zero, hor]
  have e : setAt [t] 0 (v * 2 ^ j + t) = [v * 2 ^ j + t] := rfl
  rw [e]
  have hnew : v * 2 ^ j + t < B := by rw [Nat.add_mul, Nat.one_mul] at hvB; omega
  refine ⟨?_, by rw [List.length_append, hxs]; simp; omega, Limbs_snoc.mpr ⟨(Limbs_snoc.mp hx).1, hnew⟩⟩
  rw [val_snoc, val_snoc, hxs, Nat.mul_add]; omega

theorem top_limb (x : List Nat) (n : Nat) (hx : Limbs x) (hl : x.length = n) (hn : 1 ≤ n) :
    x.getD (n - 1) 0 = val x / B ^ (n - 1) := by
  obtain ⟨xs, t, rfl, hxs⟩ := exists_snoc x (n - 1) (by omega)
  have hlt : val xs < B ^ (n - 1) := by
    have := val_lt xs (Limbs_snoc.mp hx).1
    rwa [hxs] at this
  rw [getD_append_len xs [t] _ hxs, List.getD_cons_zero, val_snoc, hxs, Nat.add_mul_div_left _ _ (Bpow_pos _),
    Nat.div_eq_of_lt hlt, Nat.zero_add]

/-- `xp[n-1] >> (GMP_NUMB_BITS - k)` -/
theorem top_shr (x : List Nat) (n k : Nat) (hx : Limbs x) (hl : x.length = n) (hn : 1 ≤ n) (hk : k ≤ 63) :
    x.getD (n - 1) 0 >>> (64 - k) = val x / 2 ^ (64 * n - k) := by
  rw [top_limb x n hx hl hn, Nat.shiftRight_eq_div_pow, Nat.div_div_eq_div_mul, ← two_pow_b n k hn hk]

theorem maskK_spec (x : List Nat) (n k : Nat) (hx : Limbs x) (hl : x.length = n) (hn : 1 ≤ n) (hk : k ≤ 64) :
    val (maskK x n k) = val x % 2 ^ (64 * n - k) ∧ (maskK x n k).length = n ∧ Limbs (maskK x n k) :=
  mask_top_mod x n k hx hl hn hk


theorem div_mul_split (P Q K : Nat) (hQ : 0 < Q) : P / Q = P / (Q * K) * K + P % (Q * K) / Q := by
  conv_lhs => rw [← Nat.div_add_mod P (Q * K)]
  rw [Nat.mul_assoc, Nat.mul_add_div hQ, Nat.mul_comm K]

/-- mulmod_2expm1.c:180-181: the low `h = 64m − k` bits -/
theorem split_lo_k (yp : List Nat) (m k : Nat) (hm : 1 ≤ m) (hk : k ≤ 63) (hL : Limbs yp) (hl : m ≤ yp.length) :
    val (maskK (yp.take m) m k) = val yp % 2 ^ (64 * m - k) ∧ (maskK (yp.take m) m k).length = m ∧
    Limbs (maskK (yp.take m) m k) := by
  have htl : (yp.take m).length = m := by rw [List.length_take, Nat.min_eq_left hl]
  obtain ⟨m1, m2, m3⟩ := maskK_spec (yp.take m) m k (Limbs_take hL m) htl hm (by omega)
  refine ⟨?_, m2, m3⟩
  rw [m1, val_take_eq_mod yp hL m, Bn_eq m k hm hk, Nat.mod_mul_right_mod]

theorem maskK_take (x : List Nat) (n k : Nat) (hn : 1 ≤ n) (h : n ≤ x.length) :
    (x.take n).getD (n - 1) 0 = x.getD (n - 1) 0 ∧
    (setAt x (n - 1) (x.getD (n - 1) 0 &&& (2 ^ (64 - k) - 1))).take n = maskK (x.take n) n k ∧
    (setAt x (n - 1) (x.getD (n - 1) 0 &&& (2 ^ (64 - k) - 1))).drop n = x.drop n := by
  obtain ⟨p1, p2, _⟩ := setAt_parts x (n - 1) (x.getD (n - 1) 0 &&& (2 ^ (64 - k) - 1)) (by omega)
  have ht := take_succ_getD x (n - 1) (by omega)
  have hl : (x.take (n - 1)).length = n - 1 := by rw [List.length_take]; omega
  rw [show n - 1 + 1 = n by omega] at p1 p2 ht
  have hg : (x.take n).getD (n - 1) 0 = x.getD (n - 1) 0 := by rw [ht, getD_append_len _ _ _ hl, List.getD_cons_zero]
  refine ⟨hg, ?_, p2⟩
  unfold maskK
  rw [p1, hg, ht, setAt_append_len _ _ _ _ hl]
  rfl

theorem lshift_or (u : List Nat) (k v : Nat) (hu : Limbs u) (hne : 0 < u.length) (hk : k ≤ 64) (hv : v < 2 ^ k) :
    val (setAt (lshift u k).1 0 ((lshift u k).1.getD 0 0 ||| v)) + B ^ u.length * (lshift u k).2 = val u * 2 ^ k + v ∧
    (setAt (lshift u k).1 0 ((lshift u k).1.getD 0 0 ||| v)).length = u.length ∧
    Limbs (setAt (lshift u k).1 0 ((lshift u k).1.getD 0 0 ||| v)) ∧ (lshift u k).2 < 2 ^ k := by
  obtain ⟨lv, lc, lL, ll⟩ := lshiftGo_val k hk u 0 hu (Nat.two_pow_pos _)
  have e : lshift u k = lshiftGo k u 0 := rfl
  rw [← e, Nat.add_zero] at lv
  rw [← e] at lc lL ll
  generalize lshift u k = sh at *
  have hd : 2 ^ k ∣ val sh.1 := by
    have h1 : 2 ^ k ∣ val sh.1 + B ^ u.length * sh.2 := by rw [lv]; exact Dvd.intro_left _ rfl
    have h2 : 2 ^ k ∣ B ^ u.length * sh.2 := by
      obtain ⟨l, hl⟩ : ∃ l, u.length = l + 1 := ⟨u.length - 1, by omega⟩
      rw [hl, pow_succ]
      exact Dvd.dvd.mul_right (Dvd.dvd.mul_left (two_pow_dvd_B k hk) _) _
    exact (Nat.dvd_add_left h2).mp h1
  obtain ⟨o1, o2, o3⟩ := or_low_limb sh.1 k v lL (by omega) hk hd hv
  exact ⟨by rw [o1]; omega, by rw [o2, ll], o3, lc⟩

/-- mulmod_2expm1.c:71-81 (and mulmod_2expp1_basecase.c:108-117); no bit is shifted out -/
theorem prod_hi (tp : List Nat) (n k : Nat) (hn : 1 ≤ n) (hk1 : 1 ≤ k) (hk : k ≤ 63) (hL : Limbs tp)
    (hl : tp.length = 2 * n) (hPQ : val tp < 2 ^ (64 * n - k) * 2 ^ (64 * n - k)) :
    (lshift (tp.drop n) k).2 = 0 ∧
    val (setAt (lshift (tp.drop n) k).1 0 ((lshift (tp.drop n) k).1.getD 0 0 ||| (tp.getD (n - 1) 0 >>> (64 - k)))) =
      val tp / 2 ^ (64 * n - k) ∧
    (setAt (lshift (tp.drop n) k).1 0 ((lshift (tp.drop n) k).1.getD 0 0 ||| (tp.getD (n - 1) 0 >>> (64 - k)))).length = n ∧
    Limbs (setAt (lshift (tp.drop n) k).1 0 ((lshift (tp.drop n) k).1.getD 0 0 ||| (tp.getD (n - 1) 0 >>> (64 - k)))) := by
  have hul : (tp.drop n).length = n := by rw [List.length_drop, hl]; omega
  have t1 := val_take_eq_mod tp hL n
  have t2 := val_drop_eq_div tp hL n
  have hBn := Bn_eq n k hn hk
  have hQ : 0 < 2 ^ (64 * n - k) := Nat.two_pow_pos _
  have hc : tp.getD (n - 1) 0 >>> (64 - k) = val tp % B ^ n / 2 ^ (64 * n - k) := by
    rw [← t1, ← (maskK_take tp n k hn (by omega)).1]
    exact top_shr (tp.take n) n k (Limbs_take hL n) (by rw [List.length_take]; omega) hn hk
  have hcl : tp.getD (n - 1) 0 >>> (64 - k) < 2 ^ k := by
    rw [hc, Nat.div_lt_iff_lt_mul hQ, Nat.mul_comm, ← hBn]
    exact Nat.mod_lt _ (Bpow_pos n)
  obtain ⟨s1, s2, s3, _⟩ := lshift_or (tp.drop n) k _ (Limbs_drop hL n) (by omega) (by omega) hcl
  rw [hul] at s1 s2
  generalize tp.getD (n - 1) 0 >>> (64 - k) = v at *
  have hv : val (tp.drop n) * 2 ^ k + v = val tp / 2 ^ (64 * n - k) := by
    rw [t2, hc, hBn, ← div_mul_split _ _ _ hQ]
  rw [hv] at s1
  have hlt : val tp / 2 ^ (64 * n - k) < B ^ n :=
    lt_of_lt_of_le ((Nat.div_lt_iff_lt_mul hQ).mpr hPQ) (by rw [hBn]; exact Nat.le_mul_of_pos_right _ (Nat.two_pow_pos _))
  have h0 := carry_eq_zero s1 hlt
  rw [h0, Nat.mul_zero, Nat.add_zero] at s1
  exact ⟨h0, s1, s2, s3⟩

theorem toLimbs_sq (n P Q : Nat) (hQ : Q ≤ B ^ n) (hP : P < Q * Q) :
    val (toLimbs (2 * n) P) = P ∧ (toLimbs (2 * n) P).length = 2 * n ∧ Limbs (toLimbs (2 * n) P) :=
  ⟨val_toLimbs_lt _ _ (by rw [two_mul, pow_add]; exact lt_of_lt_of_le hP (Nat.mul_le_mul hQ hQ)), toLimbs_length _ _,
    Limbs_toLimbs _ _⟩

/-- the masked low half, the shifted high half with the bits of limb n − 1 ORed in, and no bit shifted out -/
theorem prod_split (tp : List Nat) (n k : Nat) (hn : 1 ≤ n) (hk1 : 1 ≤ k) (hk : k ≤ 63) (hL : Limbs tp)
    (hl : tp.length = 2 * n) (hPQ : val tp < 2 ^ (64 * n - k) * 2 ^ (64 * n - k)) :
    let tp1 := setAt tp (n - 1) (tp.getD (n - 1) 0 &&& (2 ^ (64 - k) - 1))
    let sh := lshift (tp1.drop n) k
    let hi := setAt sh.1 0 (sh.1.getD 0 0 ||| (tp.getD (n - 1) 0 >>> (64 - k)))
    (val (tp1.take n) = val tp % 2 ^ (64 * n - k) ∧ (tp1.take n).length = n ∧ Limbs (tp1.take n)) ∧ sh.2 = 0 ∧
    val hi = val tp / 2 ^ (64 * n - k) ∧ hi.length = n ∧ Limbs hi := by
  obtain ⟨_, g2, g3⟩ := maskK_take tp n k hn (by omega)
  simp only [g2, g3]
  exact ⟨split_lo_k tp n k hn hk hL (by omega), prod_hi tp n k hn hk1 hk hL hl hPQ⟩

end Mpir.Mm1
