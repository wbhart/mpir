/- Helper lemmas for C10 part `swar` (Mpir/Model/Swar.lean): a 64-bit word is the sum of its 8 bytes·256^i; every SWAR
   step acts byte-wise without carries between the fields; the per-byte facts are complete finite tables (`decide`). -/
import MpirProofs.Lemmas.Base
import Mpir.Model.Swar
import Mpir.Model.Bits
namespace Mpir.Swar
open Mpir

/-- Σ_{i<k} f(byte_i x)·256^i -/
def mapB (f : Nat → Nat) : Nat → Nat → Nat
  | 0, _ => 0
  | k + 1, x => f (x % 256) + 256 * mapB f k (x / 256)
/-- Σ_{i<k} F(byte_i x, byte_i y)·256^i -/
def map2 (F : Nat → Nat → Nat) : Nat → Nat → Nat → Nat
  | 0, _, _ => 0
  | k + 1, x, y => F (x % 256) (y % 256) + 256 * map2 F k (x / 256) (y / 256)
/-- Σ_{i<k} f(byte_i x) -/
def sumB (f : Nat → Nat) : Nat → Nat → Nat
  | 0, _ => 0
  | k + 1, x => f (x % 256) + sumB f k (x / 256)
/-- the byte c repeated k times -/
def rep (c : Nat) : Nat → Nat
  | 0 => 0
  | k + 1 => c + 256 * rep c k

/-- bit count of a byte -/
def pc8 (b : Nat) : Nat := Bits.popcAux 8 b

theorem and_split (x m : Nat) : x &&& m = ((x % 256) &&& (m % 256)) + 256 * ((x / 256) &&& (m / 256)) := by
  have h1 := @Nat.and_mod_two_pow x m 8
  have h2 := @Nat.and_div_two_pow x m 8
  have e : (2:Nat) ^ 8 = 256 := by decide
  rw [e] at h1 h2
  omega

theorem byte_cons (c t : Nat) (hc : c < 256) : (c + 256 * t) % 256 = c ∧ (c + 256 * t) / 256 = t := by omega

theorem and_rep (c : Nat) (hc : c < 256) : ∀ k x, x &&& rep c k = mapB (fun b => b &&& c) k x
  | 0, x => by simp [rep, mapB]
  | k + 1, x => by
    rw [and_split]
    simp only [rep, mapB]
    obtain ⟨a, b⟩ := byte_cons c (rep c k) hc
    rw [a, b, and_rep c hc k]

theorem mapB_congr (f g : Nat → Nat) (H : ∀ b, b < 256 → f b = g b) : ∀ k x, mapB f k x = mapB g k x
  | 0, _ => rfl
  | k + 1, x => by simp only [mapB]; rw [H _ (Nat.mod_lt _ (by decide)), mapB_congr f g H k]

theorem map2_congr (F G : Nat → Nat → Nat) (H : ∀ a, a < 256 → ∀ b, b < 256 → F a b = G a b) :
    ∀ k x y, map2 F k x y = map2 G k x y
  | 0, _, _ => rfl
  | k + 1, x, y => by
    simp only [map2]; rw [H _ (Nat.mod_lt _ (by decide)) _ (Nat.mod_lt _ (by decide)), map2_congr F G H k]

/-- shifting right by s ∈ {1,2,4} bits, seen byte-wise: the bits arriving from the next byte are passed to g -/
theorem mapB_div (g h : Nat → Nat) (d e : Nat) (hde : (d = 2 ∧ e = 128) ∨ (d = 4 ∧ e = 64) ∨ (d = 16 ∧ e = 16))
    (H : ∀ b, b < 256 → ∀ t, t < d → g (b / d + e * t) = h b) : ∀ k x, mapB g k (x / d) = mapB h k x
  | 0, _ => rfl
  | k + 1, x => by
    simp only [mapB]
    have e1 : (x / d) % 256 = (x % 256) / d + e * ((x / 256) % d) := by
      rcases hde with ⟨rfl, rfl⟩ | ⟨rfl, rfl⟩ | ⟨rfl, rfl⟩ <;> omega
    have e2 : x / d / 256 = x / 256 / d := by
      rw [Nat.div_div_eq_div_mul, Nat.mul_comm, ← Nat.div_div_eq_div_mul]
    have dpos : 0 < d := by rcases hde with ⟨rfl, _⟩ | ⟨rfl, _⟩ | ⟨rfl, _⟩ <;> decide
    rw [e1, e2, H _ (Nat.mod_lt _ (by decide)) _ (Nat.mod_lt _ dpos), mapB_div g h d e hde H k]

theorem mapB_add (f g : Nat → Nat) : ∀ k x, mapB f k x + mapB g k x = mapB (fun b => f b + g b) k x
  | 0, _ => rfl
  | k + 1, x => by simp only [mapB]; rw [← mapB_add f g k]; omega

theorem mapB_add2 (f : Nat → Nat) : ∀ k x y, mapB f k x + mapB f k y = map2 (fun a b => f a + f b) k x y
  | 0, _, _ => rfl
  | k + 1, x, y => by simp only [mapB, map2]; rw [← mapB_add2 f k]; omega

theorem mapB_lt (f : Nat → Nat) (hf : ∀ b, b < 256 → f b < 256) : ∀ k x, mapB f k x < 256 ^ k
  | 0, _ => by simp [mapB]
  | k + 1, x => by
    simp only [mapB]
    have := mapB_lt f hf k (x / 256)
    have := hf (x % 256) (Nat.mod_lt _ (by decide))
    rw [Nat.pow_succ]; omega

theorem map2_lt (F : Nat → Nat → Nat) (hF : ∀ a, a < 256 → ∀ b, b < 256 → F a b < 256) : ∀ k x y, map2 F k x y < 256 ^ k
  | 0, _, _ => by simp [map2]
  | k + 1, x, y => by
    simp only [map2]
    have := map2_lt F hF k (x / 256) (y / 256)
    have := hF (x % 256) (Nat.mod_lt _ (by decide)) (y % 256) (Nat.mod_lt _ (by decide))
    rw [Nat.pow_succ]; omega

theorem mapB_id : ∀ k x, x < 256 ^ k → mapB (fun b => b) k x = x
  | 0, x, h => by simp at h; simp [mapB, h]
  | k + 1, x, h => by
    simp only [mapB]
    rw [Nat.pow_succ] at h
    rw [mapB_id k (x / 256) (by omega)]; omega

/-- bytes of a byte-wise image (no carries when every f b fits a byte) -/
theorem mapB_comp (f g : Nat → Nat) (hf : ∀ b, b < 256 → f b < 256) :
    ∀ k x, mapB g k (mapB f k x) = mapB (fun b => g (f b)) k x
  | 0, _ => rfl
  | k + 1, x => by
    simp only [mapB]
    obtain ⟨a, b⟩ := byte_cons _ (mapB f k (x / 256)) (hf (x % 256) (Nat.mod_lt _ (by decide)))
    rw [a, b, mapB_comp f g hf k]

theorem mapB_comp2 (F : Nat → Nat → Nat) (g : Nat → Nat) (hF : ∀ a, a < 256 → ∀ b, b < 256 → F a b < 256) :
    ∀ k x y, mapB g k (map2 F k x y) = map2 (fun a b => g (F a b)) k x y
  | 0, _, _ => rfl
  | k + 1, x, y => by
    simp only [mapB, map2]
    obtain ⟨a, b⟩ := byte_cons _ (map2 F k (x / 256) (y / 256))
      (hF (x % 256) (Nat.mod_lt _ (by decide)) (y % 256) (Nat.mod_lt _ (by decide)))
    rw [a, b, mapB_comp2 F g hF k]

theorem sumB_comp (f g : Nat → Nat) (hf : ∀ b, b < 256 → f b < 256) :
    ∀ k x, sumB g k (mapB f k x) = sumB (fun b => g (f b)) k x
  | 0, _ => rfl
  | k + 1, x => by
    simp only [mapB, sumB]
    obtain ⟨a, b⟩ := byte_cons _ (mapB f k (x / 256)) (hf (x % 256) (Nat.mod_lt _ (by decide)))
    rw [a, b, sumB_comp f g hf k]

theorem M3_rep : M3 = rep 0x55 8 := by decide
theorem M5_rep : M5 = rep 0x33 8 := by decide
theorem M17_rep : M17 = rep 0x0f 8 := by decide
theorem B_256 : B = 256 ^ 8 := by decide

/-- (x >> s) & mask, byte-wise -/
theorem shr_and (c d e s : Nat) (hc : c < 256) (hd : 2 ^ s = d)
    (hde : (d = 2 ∧ e = 128) ∨ (d = 4 ∧ e = 64) ∨ (d = 16 ∧ e = 16))
    (H : ∀ b, b < 256 → ∀ t, t < d → (b / d + e * t) &&& c = (b / d) &&& c) (x : Nat) :
    (x >>> s) &&& rep c 8 = mapB (fun b => (b / d) &&& c) 8 x := by
  rw [Nat.shiftRight_eq_div_pow, hd, and_rep c hc]
  exact mapB_div _ _ d e hde H 8 x

/-- popcount.c:54  /* 2 0-2 */ on bytes -/
def h1 (b : Nat) : Nat := b - ((b / 2) &&& 0x55)
/-- popcount.c:55  /* 4 0-4 */ on bytes -/
def h2 (b : Nat) : Nat := ((b / 4) &&& 0x33) + (b &&& 0x33)
/-- two nibble fields holding the bit counts of the two nibbles of b -/
def n4 (b : Nat) : Nat := Bits.popcAux 4 (b % 16) + 16 * Bits.popcAux 4 (b / 16)

theorem red2_bytes (x : Nat) (hx : x < B) : red2 x = mapB h1 8 x := by
  unfold red2
  have t : (x >>> 1) &&& M3 = mapB (fun b => (b / 2) &&& 0x55) 8 x := by
    rw [M3_rep]; exact shr_and 0x55 2 128 1 (by decide) (by decide) (Or.inl ⟨rfl, rfl⟩) (by decide +kernel) x
  have s := mapB_add (fun b => (b / 2) &&& 0x55) h1 8 x
  rw [mapB_congr (fun b => ((b / 2) &&& 0x55) + h1 b) (fun b => b) (by decide +kernel) 8 x,
    mapB_id 8 x (by rw [← B_256]; exact hx)] at s
  rw [t]; simp only [B] at *; omega

theorem h1_lt : ∀ b, b < 256 → h1 b < 256 := by decide +kernel
theorem h2h1_lt : ∀ b, b < 256 → h2 (h1 b) < 256 := by decide +kernel
theorem h2h1_n4 : ∀ b, b < 256 → h2 (h1 b) = n4 b := by decide +kernel
theorem n4_lt : ∀ b, b < 256 → n4 b < 256 := by decide +kernel

theorem red4_bytes (p : Nat) : red4 p = mapB h2 8 p := by
  unfold red4
  have t : (p >>> 2) &&& M5 = mapB (fun b => (b / 4) &&& 0x33) 8 p := by
    rw [M5_rep]; exact shr_and 0x33 4 64 2 (by decide) (by decide) (Or.inr (Or.inl ⟨rfl, rfl⟩)) (by decide +kernel) p
  rw [t, M5_rep, and_rep 0x33 (by decide), mapB_add]
  have : mapB h2 8 p < B := by
    rw [B_256]; exact mapB_lt h2 (by decide +kernel) 8 p
  exact Nat.mod_eq_of_lt this

/-- popcount.c:53-55: sixteen 4-bit fields, field j = bit count of nibble j of the limb ("4 0-4"). -/
theorem limb4_bytes (u : Nat) (hu : u < B) : limb4 u = mapB n4 8 u := by
  show red4 (red2 u) = _
  rw [red4_bytes, red2_bytes u hu, mapB_comp h1 h2 h1_lt]
  exact mapB_congr _ _ h2h1_n4 8 u

theorem sumB_congr (f g : Nat → Nat) (H : ∀ b, b < 256 → f b = g b) : ∀ k x, sumB f k x = sumB g k x
  | 0, _ => rfl
  | k + 1, x => by simp only [sumB]; rw [H _ (Nat.mod_lt _ (by decide)), sumB_congr f g H k]

theorem popcAux_add (n : Nat) : ∀ k x, Bits.popcAux (n + k) x = Bits.popcAux k (x % 2 ^ k) + Bits.popcAux n (x / 2 ^ k)
  | 0, x => by simp only [Bits.popcAux, Nat.add_zero, Nat.pow_zero, Nat.div_one, Nat.zero_add]
  | k + 1, x => by
    show Bits.popcAux (n + k + 1) x = _
    simp only [Bits.popcAux]
    rw [popcAux_add n k (x / 2), Nat.pow_succ, Nat.mod_mul_left_mod, Nat.mod_mul_left_div_self, Nat.div_div_eq_div_mul,
      Nat.mul_comm 2, Nat.add_assoc]

theorem popcAux_byte (n x : Nat) : Bits.popcAux (n + 8) x = pc8 (x % 256) + Bits.popcAux n (x / 256) :=
  popcAux_add n 8 x

theorem popc_bytes (x : Nat) : Bits.popc x = sumB pc8 8 x := by
  unfold Bits.popc
  rw [show (64 : Nat) = 56 + 8 from rfl, popcAux_byte, show (56 : Nat) = 48 + 8 from rfl, popcAux_byte,
    show (48 : Nat) = 40 + 8 from rfl, popcAux_byte, show (40 : Nat) = 32 + 8 from rfl, popcAux_byte,
    show (32 : Nat) = 24 + 8 from rfl, popcAux_byte, show (24 : Nat) = 16 + 8 from rfl, popcAux_byte,
    show (16 : Nat) = 8 + 8 from rfl, popcAux_byte, show (8 : Nat) = 0 + 8 from rfl, popcAux_byte]
  simp only [sumB, Bits.popcAux]

theorem n4_sum : ∀ b, b < 256 → n4 b % 16 + n4 b / 16 = pc8 b := by decide +kernel

/-! ## the 4-limb block -/

def allB (p : Nat → Prop) : Nat → Nat → Prop
  | 0, _ => True
  | k + 1, x => p (x % 256) ∧ allB p k (x / 256)

theorem and15 (x : Nat) : x &&& 15 = x % 16 := Nat.and_two_pow_sub_one_eq_mod x 4
theorem and255 (x : Nat) : x &&& 255 = x % 256 := Nat.and_two_pow_sub_one_eq_mod x 8

/-- the word with bytes e0..e7 -/
def w8 (e0 e1 e2 e3 e4 e5 e6 e7 : Nat) : Nat :=
  e0 + 256 * e1 + 65536 * e2 + 16777216 * e3 + 4294967296 * e4 + 1099511627776 * e5 + 281474976710656 * e6 +
    72057594037927936 * e7

theorem w8_lt (e0 e1 e2 e3 e4 e5 e6 e7 : Nat) (h0 : e0 < 256) (h1 : e1 < 256) (h2 : e2 < 256) (h3 : e3 < 256)
    (h4 : e4 < 256) (h5 : e5 < 256) (h6 : e6 < 256) (h7 : e7 < 256) :
    w8 e0 e1 e2 e3 e4 e5 e6 e7 < 18446744073709551616 := by
  simp only [w8]; omega

theorem w8_add (a0 a1 a2 a3 a4 a5 a6 a7 b0 b1 b2 b3 b4 b5 b6 b7 : Nat) :
    w8 a0 a1 a2 a3 a4 a5 a6 a7 + w8 b0 b1 b2 b3 b4 b5 b6 b7 =
      w8 (a0 + b0) (a1 + b1) (a2 + b2) (a3 + b3) (a4 + b4) (a5 + b5) (a6 + b6) (a7 + b7) := by
  simp only [w8]; omega

/-- `>> 8` drops the low byte field; `>> 16` and `>> 32` are this step two and four times -/
theorem w8_div (e0 e1 e2 e3 e4 e5 e6 e7 : Nat) (h0 : e0 < 256) :
    w8 e0 e1 e2 e3 e4 e5 e6 e7 / 256 = w8 e1 e2 e3 e4 e5 e6 e7 0 := by
  simp only [w8]; omega

theorem w8_mod (e0 e1 e2 e3 e4 e5 e6 e7 : Nat) (h0 : e0 < 256) : w8 e0 e1 e2 e3 e4 e5 e6 e7 % 256 = e0 := by
  simp only [w8]; omega

theorem w8_bytes (x : Nat) : x % 18446744073709551616 =
    w8 (x % 256) (x / 256 % 256) (x / 256 / 256 % 256) (x / 256 / 256 / 256 % 256) (x / 256 / 256 / 256 / 256 % 256)
      (x / 256 / 256 / 256 / 256 / 256 % 256) (x / 256 / 256 / 256 / 256 / 256 / 256 % 256)
      (x / 256 / 256 / 256 / 256 / 256 / 256 / 256 % 256) := by
  simp only [w8]; omega
/-- popcount.c:75-79 as a function of p01 + p23 -/
def blockFolds (s : Nat) : Nat :=
  let x := s % B
  let x := ((x >>> 8) + x) % B
  let x := ((x >>> 16) + x) % B
  (((x >>> 32) &&& 0xff) + (x &&& 0xff)) % B

theorem block_unfold (u0 u1 u2 u3 : Nat) :
    block u0 u1 u2 u3 = blockFolds (fold8 ((limb4 u0 + limb4 u1) % B) + fold8 ((limb4 u2 + limb4 u3) % B)) := rfl

/-- popcount.c:76-79 on a word whose 8 byte fields are all ≤ 32 ("8 0-32"): no carry crosses a byte in :76 ("8 0-64")
    and :77 ("8 0-128"); :79 adds the two fields that hold the half sums ("8 0-256"). -/
theorem blockFolds_w8 (e0 e1 e2 e3 e4 e5 e6 e7 : Nat) (h0 : e0 ≤ 32) (h1 : e1 ≤ 32) (h2 : e2 ≤ 32) (h3 : e3 ≤ 32)
    (h4 : e4 ≤ 32) (h5 : e5 ≤ 32) (h6 : e6 ≤ 32) (h7 : e7 ≤ 32) :
    blockFolds (w8 e0 e1 e2 e3 e4 e5 e6 e7) = e0 + e1 + e2 + e3 + e4 + e5 + e6 + e7 := by
  simp only [blockFolds, Nat.shiftRight_eq_div_pow, and255, B, Nat.reducePow]
  rw [Nat.mod_eq_of_lt (w8_lt _ _ _ _ _ _ _ _ (by omega) (by omega) (by omega) (by omega) (by omega) (by omega) (by omega) (by omega)),
    w8_div _ _ _ _ _ _ _ _ (by omega), w8_add,
    Nat.mod_eq_of_lt (w8_lt _ _ _ _ _ _ _ _ (by omega) (by omega) (by omega) (by omega) (by omega) (by omega) (by omega) (by omega)),
    show (65536 : Nat) = 256 * 256 from rfl, ← Nat.div_div_eq_div_mul,
    w8_div _ _ _ _ _ _ _ _ (by omega), w8_div _ _ _ _ _ _ _ _ (by omega), w8_add,
    Nat.mod_eq_of_lt (w8_lt _ _ _ _ _ _ _ _ (by omega) (by omega) (by omega) (by omega) (by omega) (by omega) (by omega) (by omega)),
    show (4294967296 : Nat) = 256 * 256 * 256 * 256 from rfl, ← Nat.div_div_eq_div_mul, ← Nat.div_div_eq_div_mul,
    ← Nat.div_div_eq_div_mul,
    w8_div _ _ _ _ _ _ _ _ (by omega), w8_div _ _ _ _ _ _ _ _ (by omega), w8_div _ _ _ _ _ _ _ _ (by omega),
    w8_div _ _ _ _ _ _ _ _ (by omega), w8_mod _ _ _ _ _ _ _ _ (by omega), w8_mod _ _ _ _ _ _ _ _ (by omega),
    Nat.mod_eq_of_lt (by omega)]
  omega

theorem folds_block (x : Nat) (h : allB (· ≤ 32) 8 x) : blockFolds x = sumB (fun b => b) 8 x := by
  simp only [allB] at h
  obtain ⟨h0, h1, h2, h3, h4, h5, h6, h7, _⟩ := h
  have e : blockFolds x = blockFolds (x % 18446744073709551616) := by
    simp only [blockFolds, B, Nat.reducePow, Nat.mod_mod]
  rw [e, w8_bytes x, blockFolds_w8 _ _ _ _ _ _ _ _ h0 h1 h2 h3 h4 h5 h6 h7]
  simp only [sumB]; omega

theorem n4_parts : ∀ b, b < 256 → n4 b % 16 ≤ 4 ∧ n4 b / 16 ≤ 4 ∧ n4 b % 16 + n4 b / 16 = pc8 b := by decide +kernel
theorem n4_le : ∀ b, b < 256 → n4 b ≤ 68 := by decide +kernel
theorem pc8_le : ∀ b, b < 256 → pc8 b ≤ 8 := by decide +kernel

/-- popcount.c:62 on bytes -/
def g8 (b : Nat) : Nat := ((b / 16) &&& 0x0f) + (b &&& 0x0f)

theorem fold8_bytes (p : Nat) : fold8 p = mapB g8 8 p := by
  unfold fold8
  have t : (p >>> 4) &&& M17 = mapB (fun b => (b / 16) &&& 0x0f) 8 p := by
    rw [M17_rep]; exact shr_and 0x0f 16 16 4 (by decide) (by decide) (Or.inr (Or.inr ⟨rfl, rfl⟩)) (by decide +kernel) p
  rw [t, M17_rep, and_rep 0x0f (by decide), mapB_add]
  have : mapB g8 8 p < B := by
    rw [B_256]; exact mapB_lt g8 (by decide +kernel) 8 p
  exact Nat.mod_eq_of_lt this

/-- popcount.c:53-62 (= :64-73): p01 has eight byte fields, field i = popc(byte i of u0) + popc(byte i of u1) ("8 0-16") -/
theorem fold8_pair (u0 u1 : Nat) (h0 : u0 < B) (h1 : u1 < B) :
    fold8 ((limb4 u0 + limb4 u1) % B) = map2 (fun a b => pc8 a + pc8 b) 8 u0 u1 := by
  have hF : ∀ a, a < 256 → ∀ b, b < 256 → n4 a + n4 b < 256 := fun a ha b hb => by
    have := n4_le a ha; have := n4_le b hb; omega
  rw [limb4_bytes u0 h0, limb4_bytes u1 h1, mapB_add2,
    Nat.mod_eq_of_lt (by rw [B_256]; exact map2_lt _ hF 8 u0 u1), fold8_bytes, mapB_comp2 _ g8 hF]
  apply map2_congr
  intro a ha b hb
  have ra := n4_parts a ha; have rb := n4_parts b hb
  simp only [g8, and15]
  omega

theorem allB_map2 (F : Nat → Nat → Nat) (p : Nat → Prop) (hF : ∀ a, a < 256 → ∀ b, b < 256 → F a b < 256 ∧ p (F a b)) :
    ∀ k x y, allB p k (map2 F k x y)
  | 0, _, _ => trivial
  | k + 1, x, y => by
    simp only [allB, map2]
    have := hF (x % 256) (Nat.mod_lt _ (by decide)) (y % 256) (Nat.mod_lt _ (by decide))
    obtain ⟨a, b⟩ := byte_cons _ (map2 F k (x / 256) (y / 256)) this.1
    rw [a, b]; exact ⟨this.2, allB_map2 F p hF k _ _⟩

theorem sumB_map2 (f : Nat → Nat) (hf : ∀ a, a < 256 → ∀ b, b < 256 → f a + f b < 256) :
    ∀ k x y, sumB (fun b => b) k (map2 (fun a b => f a + f b) k x y) = sumB f k x + sumB f k y
  | 0, _, _ => rfl
  | k + 1, x, y => by
    simp only [sumB, map2]
    have := hf (x % 256) (Nat.mod_lt _ (by decide)) (y % 256) (Nat.mod_lt _ (by decide))
    obtain ⟨a, b⟩ := byte_cons _ (map2 (fun a b => f a + f b) k (x / 256) (y / 256)) this
    rw [a, b, sumB_map2 f hf k]; omega

/-- adding two words whose byte fields are ≤ a and ≤ b with a + b < 256: field-wise, no carries -/
theorem allB_add (a b : Nat) (hab : a + b < 256) : ∀ k p q, allB (· ≤ a) k p → allB (· ≤ b) k q →
    allB (· ≤ a + b) k (p + q) ∧ sumB (fun b => b) k (p + q) = sumB (fun b => b) k p + sumB (fun b => b) k q
  | 0, _, _, _, _ => ⟨trivial, rfl⟩
  | k + 1, p, q, hp, hq => by
    simp only [allB, sumB] at *
    have e1 : (p + q) % 256 = p % 256 + q % 256 := by omega
    have e2 : (p + q) / 256 = p / 256 + q / 256 := by omega
    have ih := allB_add a b hab k (p / 256) (q / 256) hp.2 hq.2
    rw [e1, e2]
    exact ⟨⟨by omega, ih.1⟩, by rw [ih.2]; omega⟩

/-- popcount.c:53-80: the 4-limb block adds the bit counts of its four limbs to `result`. -/
theorem block_popc (u0 u1 u2 u3 : Nat) (h0 : u0 < B) (h1 : u1 < B) (h2 : u2 < B) (h3 : u3 < B) :
    block u0 u1 u2 u3 = Bits.popc u0 + Bits.popc u1 + Bits.popc u2 + Bits.popc u3 := by
  have hP : ∀ a, a < 256 → ∀ b, b < 256 → pc8 a + pc8 b < 256 ∧ pc8 a + pc8 b ≤ 16 := fun a ha b hb => by
    have := pc8_le a ha; have := pc8_le b hb; omega
  rw [block_unfold, fold8_pair u0 u1 h0 h1, fold8_pair u2 u3 h2 h3]
  have A := allB_add 16 16 (by decide) 8 _ _ (allB_map2 _ (· ≤ 16) hP 8 u0 u1) (allB_map2 _ (· ≤ 16) hP 8 u2 u3)
  rw [folds_block _ A.1, A.2, sumB_map2 pc8 (fun a ha b hb => (hP a ha b hb).1),
    sumB_map2 pc8 (fun a ha b hb => (hP a ha b hb).1), popc_bytes, popc_bytes, popc_bytes, popc_bytes]
  omega

theorem popcAux_le : ∀ k x, Bits.popcAux k x ≤ k
  | 0, _ => by simp [Bits.popcAux]
  | k + 1, x => by simp only [Bits.popcAux]; have := popcAux_le k (x / 2); omega
theorem popc_le_64 (x : Nat) : Bits.popc x ≤ 64 := popcAux_le 64 x

/-! ## the tail loop -/

theorem mapB_mod (g : Nat → Nat) : ∀ k y, mapB g k (y % 256 ^ k) = mapB g k y
  | 0, _ => rfl
  | k + 1, y => by
    simp only [mapB]
    rw [Nat.pow_succ, Nat.mod_mul_left_mod, Nat.mod_mul_left_div_self, mapB_mod g k]

theorem sumB_mod (g : Nat → Nat) : ∀ k y, sumB g k (y % 256 ^ k) = sumB g k y
  | 0, _ => rfl
  | k + 1, y => by
    simp only [sumB]
    rw [Nat.pow_succ, Nat.mod_mul_left_mod, Nat.mod_mul_left_div_self, sumB_mod g k]

theorem allB_mod (p : Nat → Prop) : ∀ k y, allB p k y → allB p k (y % 256 ^ k)
  | 0, _, _ => trivial
  | k + 1, y, h => by
    simp only [allB] at *
    rw [Nat.pow_succ, Nat.mod_mul_left_mod, Nat.mod_mul_left_div_self]
    exact ⟨h.1, allB_mod p k _ h.2⟩

theorem allB_mapB (f : Nat → Nat) (p : Nat → Prop) (hf : ∀ b, b < 256 → f b < 256 ∧ p (f b)) :
    ∀ k x, allB p k (mapB f k x)
  | 0, _ => trivial
  | k + 1, x => by
    simp only [allB, mapB]
    have := hf (x % 256) (Nat.mod_lt _ (by decide))
    obtain ⟨a, b⟩ := byte_cons _ (mapB f k (x / 256)) this.1
    rw [a, b]; exact ⟨this.2, allB_mapB f p hf k _⟩

/-- both nibbles of the byte are at most 4 (comment "4 0-4") -/
def good (b : Nat) : Prop := b % 16 ≤ 4 ∧ b / 16 ≤ 4

/-- popcount.c:99 `((p0 >> 4) + p0) & MAX/17` on nibble fields ≤ 4: the low nibble of every byte of (p0 >> 4) + p0 is
    the sum of the two nibbles of that byte of p0, and no carry reaches the next byte. -/
theorem tail_shift : ∀ k p, allB good k p →
    mapB (fun b => b % 16) k (p / 16 + p) = mapB (fun b => (b / 16 + b) % 16) k p
  | 0, _, _ => rfl
  | 1, p, _ => by
    simp only [mapB]
    have e1 : (p / 16 + p) % 256 % 16 = (p % 256 / 16 + p % 256) % 16 := by omega
    rw [e1]
  | k + 2, p, h => by
    have ih := tail_shift (k + 1) (p / 256) h.2
    simp only [allB, good] at h
    have e1 : (p / 16 + p) % 256 % 16 = (p % 256 / 16 + p % 256) % 16 := by omega
    have h16 : p / 16 = p % 256 / 16 + 16 * (p / 256) := by omega
    have hr : p / 256 = (p / 256) % 16 + 16 * (p / 256 / 16) := by omega
    have hrr : (p / 256) % 16 = p / 256 % 256 % 16 := by omega
    have e2 : (p / 16 + p) / 256 = p / 256 / 16 + p / 256 := by omega
    simp only [mapB] at ih ⊢
    rw [e2, ih, e1]

theorem n4_good : ∀ b, b < 256 → n4 b < 256 ∧ good (n4 b) := by
  intro b hb; have := n4_parts b hb; have := n4_lt b hb; exact ⟨by omega, by unfold good; omega⟩
theorem n4_fold : ∀ b, b < 256 → (n4 b / 16 + n4 b) % 16 = pc8 b := by decide +kernel

/-- popcount.c:96-99: the tail loop's per-limb value has eight byte fields, field i = popc(byte i of u) ("8 0-8") -/
theorem tailLimb_bytes (u : Nat) (hu : u < B) : tailLimb u = mapB pc8 8 u := by
  show (((limb4 u >>> 4) + limb4 u) % B) &&& M17 = _
  rw [M17_rep, and_rep 0x0f (by decide), mapB_congr (fun b => b &&& 15) (fun b => b % 16) (fun b _ => and15 b), B_256,
    mapB_mod, Nat.shiftRight_eq_div_pow, show (2:Nat) ^ 4 = 16 from rfl, limb4_bytes u hu,
    tail_shift 8 _ (allB_mapB n4 good n4_good 8 u), mapB_comp n4 _ n4_lt]
  exact mapB_congr _ _ n4_fold 8 u

/-- popcount.c:109-114 on a word whose 8 byte fields are all ≤ 24 (at most 3 tail limbs, "8 0-8" each): the folds add
    the fields without carries and the total (≤ 192) fits the byte that :114 masks out. -/
theorem tailFin_w8 (e0 e1 e2 e3 e4 e5 e6 e7 : Nat) (h0 : e0 ≤ 24) (h1 : e1 ≤ 24) (h2 : e2 ≤ 24) (h3 : e3 ≤ 24)
    (h4 : e4 ≤ 24) (h5 : e5 ≤ 24) (h6 : e6 ≤ 24) (h7 : e7 ≤ 24) :
    tailFin (w8 e0 e1 e2 e3 e4 e5 e6 e7) = e0 + e1 + e2 + e3 + e4 + e5 + e6 + e7 := by
  simp only [tailFin, Nat.shiftRight_eq_div_pow, and255, B, Nat.reducePow]
  rw [w8_div _ _ _ _ _ _ _ _ (by omega), w8_add,
    Nat.mod_eq_of_lt (w8_lt _ _ _ _ _ _ _ _ (by omega) (by omega) (by omega) (by omega) (by omega) (by omega) (by omega) (by omega)),
    show (65536 : Nat) = 256 * 256 from rfl, ← Nat.div_div_eq_div_mul,
    w8_div _ _ _ _ _ _ _ _ (by omega), w8_div _ _ _ _ _ _ _ _ (by omega), w8_add,
    Nat.mod_eq_of_lt (w8_lt _ _ _ _ _ _ _ _ (by omega) (by omega) (by omega) (by omega) (by omega) (by omega) (by omega) (by omega)),
    show (4294967296 : Nat) = 256 * 256 * 256 * 256 from rfl, ← Nat.div_div_eq_div_mul, ← Nat.div_div_eq_div_mul,
    ← Nat.div_div_eq_div_mul,
    w8_div _ _ _ _ _ _ _ _ (by omega), w8_div _ _ _ _ _ _ _ _ (by omega), w8_div _ _ _ _ _ _ _ _ (by omega),
    w8_div _ _ _ _ _ _ _ _ (by omega), w8_add,
    Nat.mod_eq_of_lt (w8_lt _ _ _ _ _ _ _ _ (by omega) (by omega) (by omega) (by omega) (by omega) (by omega) (by omega) (by omega)),
    w8_mod _ _ _ _ _ _ _ _ (by omega)]
  omega

theorem tailFin_bytes (x : Nat) (hx : x < B) (h : allB (· ≤ 24) 8 x) : tailFin x = sumB (fun b => b) 8 x := by
  simp only [allB] at h
  obtain ⟨h0, h1, h2, h3, h4, h5, h6, h7, _⟩ := h
  have w := w8_bytes x
  rw [Nat.mod_eq_of_lt (show x < 18446744073709551616 from hx)] at w
  conv => lhs; rw [w]
  rw [tailFin_w8 _ _ _ _ _ _ _ _ h0 h1 h2 h3 h4 h5 h6 h7]
  simp only [sumB]; omega

theorem allB_mono (p q : Nat → Prop) (H : ∀ b, p b → q b) : ∀ k x, allB p k x → allB q k x
  | 0, _, _ => trivial
  | k + 1, _, h => ⟨H _ h.1, allB_mono p q H k _ h.2⟩

theorem psum_nil : Bits.mpn_popcount [] = 0 := rfl
theorem psum_cons (u : Nat) (us : List Nat) : Bits.mpn_popcount (u :: us) = Bits.popc u + Bits.mpn_popcount us := by
  simp only [Bits.mpn_popcount, List.map_cons, List.sum_cons]

theorem tailLoop_nil (x : Nat) : tailLoop [] x = x := by rw [tailLoop.eq_def]
theorem tailLoop_cons (u : Nat) (us : List Nat) (x : Nat) : tailLoop (u :: us) x = tailLoop us ((x + tailLimb u) % B) := by rw [tailLoop.eq_def]

/-- one pass of popcount.c:96-102: x += p0 keeps the byte fields separate -/
theorem tail_step (u x c : Nat) (hu : u < B) (h : allB (· ≤ c) 8 x) (hc : c + 8 < 256) :
    allB (· ≤ c + 8) 8 ((x + tailLimb u) % B) ∧
      sumB (fun b => b) 8 ((x + tailLimb u) % B) = sumB (fun b => b) 8 x + Bits.popc u := by
  have ht : allB (· ≤ 8) 8 (tailLimb u) := by
    rw [tailLimb_bytes u hu]
    exact allB_mapB pc8 (· ≤ 8) (fun b hb => ⟨by have := pc8_le b hb; omega, pc8_le b hb⟩) 8 u
  have hs : sumB (fun b => b) 8 (tailLimb u) = Bits.popc u := by
    rw [tailLimb_bytes u hu, sumB_comp pc8 _ (fun b hb => by have := pc8_le b hb; omega), popc_bytes]
  have A := allB_add c 8 hc 8 x (tailLimb u) h ht
  refine ⟨by rw [B_256]; exact allB_mod _ 8 _ A.1, ?_⟩
  rw [B_256, sumB_mod, A.2, hs]

theorem tailLoop_inv : ∀ (us : List Nat) (x c : Nat), (∀ u ∈ us, u < B) → x < B → allB (· ≤ c) 8 x →
    c + 8 * us.length < 256 →
    tailLoop us x < B ∧ allB (· ≤ c + 8 * us.length) 8 (tailLoop us x) ∧
      sumB (fun b => b) 8 (tailLoop us x) = sumB (fun b => b) 8 x + Bits.mpn_popcount us
  | [], x, c, _, hx, h, _ => by
    rw [tailLoop_nil, psum_nil, List.length_nil, Nat.mul_zero, Nat.add_zero, Nat.add_zero]
    exact ⟨hx, h, rfl⟩
  | u :: us, x, c, hl, hx, h, hc => by
    have hu : u < B := hl u (List.mem_cons_self ..)
    have hl' : ∀ v ∈ us, v < B := fun v hv => hl v (List.mem_cons_of_mem _ hv)
    rw [List.length_cons] at hc
    have S := tail_step u x c hu h (by omega)
    have ih := tailLoop_inv us ((x + tailLimb u) % B) (c + 8) hl' (Nat.mod_lt _ B_pos) S.1 (by omega)
    have e : c + 8 + 8 * us.length = c + 8 * (us.length + 1) := by omega
    rw [tailLoop_cons, psum_cons, List.length_cons, ← e]
    refine ⟨ih.1, ih.2.1, ?_⟩
    rw [ih.2.2, S.2]; omega

theorem allB_zero : ∀ k, allB (· ≤ 0) k 0
  | 0 => trivial
  | k + 1 => ⟨Nat.le_refl _, allB_zero k⟩
theorem sumB_zero : ∀ k, sumB (fun b => b) k 0 = 0
  | 0 => rfl
  | k + 1 => by rw [sumB, sumB_zero k]

/-- popcount.c:93-114 for at most 3 remaining limbs: the tail adds exactly their bit count. -/
theorem tail_popc (us : List Nat) (hl : ∀ u ∈ us, u < B) (hn : us.length ≤ 3) :
    tailFin (tailLoop us 0) = Bits.mpn_popcount us := by
  have I := tailLoop_inv us 0 0 hl B_pos (allB_zero 8) (by omega)
  have h24 : allB (· ≤ 24) 8 (tailLoop us 0) :=
    allB_mono _ _ (fun b (hb : b ≤ 0 + 8 * us.length) => (by omega : b ≤ 24)) 8 _ I.2.1
  rw [tailFin_bytes _ I.1 h24, I.2.2, sumB_zero, Nat.zero_add]

/-! ## the outer loop and the function -/

theorem blocks_zero (up : List Nat) (r : Nat) : blocks 0 up r = (r, up) := by rw [blocks.eq_def]
theorem blocks_succ (i u0 u1 u2 u3 : Nat) (up : List Nat) (r : Nat) :
    blocks (i + 1) (u0 :: u1 :: u2 :: u3 :: up) r = blocks i up ((r + block u0 u1 u2 u3) % B) := by rw [blocks.eq_def]

theorem take4 (i u0 u1 u2 u3 : Nat) (up : List Nat) :
    (u0 :: u1 :: u2 :: u3 :: up).take (4 * (i + 1)) = u0 :: u1 :: u2 :: u3 :: up.take (4 * i) := by
  rw [show 4 * (i + 1) = 4 * i + 1 + 1 + 1 + 1 by omega]
  simp only [List.take_succ_cons]
theorem drop4 (i u0 u1 u2 u3 : Nat) (up : List Nat) :
    (u0 :: u1 :: u2 :: u3 :: up).drop (4 * (i + 1)) = up.drop (4 * i) := by
  rw [show 4 * (i + 1) = 4 * i + 1 + 1 + 1 + 1 by omega]
  simp only [List.drop_succ_cons]

theorem mod_acc (r b s m : Nat) : ((r + b) % m + s) % m = (r + (b + s)) % m := by
  rw [Nat.add_mod, Nat.mod_mod, ← Nat.add_mod, Nat.add_assoc]

theorem blocks_popc : ∀ (i : Nat) (up : List Nat) (r : Nat), 4 * i ≤ up.length → (∀ u ∈ up, u < B) →
    blocks i up r = ((r + Bits.mpn_popcount (up.take (4 * i))) % B, up.drop (4 * i)) ∨ ¬ r < B
  | 0, up, r, _, _ => by
    by_cases hr : r < B
    · left; rw [blocks_zero, Nat.mul_zero, List.take_zero, List.drop_zero, psum_nil, Nat.add_zero, Nat.mod_eq_of_lt hr]
    · right; exact hr
  | i + 1, u0 :: u1 :: u2 :: u3 :: up', r, hlen, hl => by
    left
    have h0 : u0 < B := hl u0 (by simp only [List.mem_cons, true_or])
    have h1 : u1 < B := hl u1 (by simp only [List.mem_cons, true_or, or_true])
    have h2 : u2 < B := hl u2 (by simp only [List.mem_cons, true_or, or_true])
    have h3 : u3 < B := hl u3 (by simp only [List.mem_cons, true_or, or_true])
    have hl' : ∀ v ∈ up', v < B := fun v hv => hl v (by simp only [List.mem_cons, hv, or_true])
    have hlen' : 4 * i ≤ up'.length := by simp only [List.length_cons] at hlen; omega
    have ih := blocks_popc i up' ((r + block u0 u1 u2 u3) % B) hlen' hl'
    rcases ih with ih | ih
    · refine (blocks_succ i u0 u1 u2 u3 up' r).trans (ih.trans ?_)
      rw [take4, drop4, psum_cons, psum_cons, psum_cons, psum_cons, mod_acc, block_popc u0 u1 u2 u3 h0 h1 h2 h3]
      simp only [Nat.add_assoc]
    · exact absurd (Nat.mod_lt _ B_pos) ih
  | i + 1, [], _, hlen, _ => by simp only [List.length_nil] at hlen; omega
  | i + 1, [_], _, hlen, _ => by simp only [List.length_cons, List.length_nil] at hlen; omega
  | i + 1, [_, _], _, hlen, _ => by simp only [List.length_cons, List.length_nil] at hlen; omega
  | i + 1, [_, _, _], _, hlen, _ => by simp only [List.length_cons, List.length_nil] at hlen; omega

theorem psum_split (u : List Nat) (m : Nat) :
    Bits.mpn_popcount u = Bits.mpn_popcount (u.take m) + Bits.mpn_popcount (u.drop m) := by
  unfold Bits.mpn_popcount
  rw [← List.sum_append, ← List.map_append, List.take_append_drop]

/-- popcount.c:37-118 written with the loops' results named -/
theorem popcount_unfold (u : List Nat) : mpn_popcount u =
    (if u.length &&& 3 ≠ 0 then
      ((blocks (u.length >>> 2) u 0).1 + tailFin (tailLoop ((blocks (u.length >>> 2) u 0).2.take (u.length &&& 3)) 0)) % B
     else (blocks (u.length >>> 2) u 0).1) := by
  rw [mpn_popcount.eq_def]

/-- popcount.c:37-118 = the sum of the per-limb bit counts, modulo 2^64 (mp_bitcnt_t), for every limb list. -/
theorem popcount_mod (u : List Nat) (hu : ∀ x ∈ u, x < B) : mpn_popcount u = Bits.mpn_popcount u % B := by
  have hdiv : u.length >>> 2 = u.length / 4 := by rw [Nat.shiftRight_eq_div_pow]
  have hand : u.length &&& 3 = u.length % 4 := Nat.and_two_pow_sub_one_eq_mod u.length 2
  have hb := (blocks_popc (u.length / 4) u 0 (by omega) hu).resolve_right (fun h => h B_pos)
  have sp := psum_split u (4 * (u.length / 4))
  rw [popcount_unfold, hdiv, hand, hb, Nat.zero_add]
  by_cases h : u.length % 4 = 0
  · rw [if_neg (by rw [h]; exact fun h => h rfl)]
    have e : 4 * (u.length / 4) = u.length := by omega
    rw [e, List.take_length]
  · rw [if_pos h]
    have hlen : (u.drop (4 * (u.length / 4))).length = u.length % 4 := by rw [List.length_drop]; omega
    have ht : (u.drop (4 * (u.length / 4))).take (u.length % 4) = u.drop (4 * (u.length / 4)) :=
      List.take_of_length_le (Nat.le_of_eq hlen)
    have hl : ∀ x ∈ u.drop (4 * (u.length / 4)), x < B := fun x hx => hu x (List.mem_of_mem_drop hx)
    show ((Bits.mpn_popcount (u.take (4 * (u.length / 4)))) % B +
      tailFin (tailLoop ((u.drop (4 * (u.length / 4))).take (u.length % 4)) 0)) % B = _
    rw [ht, tail_popc _ hl (by omega), sp, Nat.mod_add_mod]

theorem psum_le : ∀ u : List Nat, Bits.mpn_popcount u ≤ 64 * u.length
  | [] => by rw [psum_nil]; exact Nat.zero_le _
  | x :: xs => by
    rw [psum_cons, List.length_cons]; have := popc_le_64 x; have := psum_le xs; omega
end Mpir.Swar
