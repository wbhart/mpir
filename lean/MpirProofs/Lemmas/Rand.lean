/- C19: the Mersenne Twister and the linear congruential generators deliver the bits they should, the functions built on `_gmp_rand`, gmp_rrandomb. -/

import Mpir.Model.Rand
import MpirProofs.Lemmas.Base
import MpirProofs.Lemmas.Arith

namespace Mpir.Rand
open Mpir

/-! ### `__gmp_randget_mt` (randmt.c): the concatenation of consecutive tempered 32-bit words, truncated to the requested bits -/

theorem temper_lt {y : Nat} (h : y < 2 ^ 32) : temper y < 2 ^ 32 := by
  unfold temper
  have m1 : Tabs.mask1 < 2 ^ 32 := by decide
  have m2 : Tabs.mask2 < 2 ^ 32 := by decide
  have sr : ∀ {x k : Nat}, x < 2 ^ 32 → x >>> k < 2 ^ 32 := fun {x k} hx =>
    Nat.lt_of_le_of_lt (Nat.shiftRight_le x k) hx
  have h1 := Nat.xor_lt_two_pow h (sr (k := 11) h)
  have h2 := Nat.xor_lt_two_pow h1 (Nat.and_lt_two_pow ((y ^^^ y >>> 11) <<< 7) m1)
  have h3 := Nat.xor_lt_two_pow h2 (Nat.and_lt_two_pow (((y ^^^ y >>> 11) ^^^ (y ^^^ y >>> 11) <<< 7 &&& Tabs.mask1) <<< 15) m2)
  exact Nat.xor_lt_two_pow h3 (sr (k := 18) h3)

theorem nextWord_lt (s : MtState) : (nextWord s).1 < 2 ^ 32 := by
  unfold nextWord
  exact temper_lt (Nat.mod_lt _ (by decide))

/-- the next `k` tempered words and the state after them. -/
def mtWords : Nat → MtState → List Nat × MtState
  | 0, s => ([], s)
  | k + 1, s => ((nextWord s).1 :: (mtWords k (nextWord s).2).1, (mtWords k (nextWord s).2).2)

/-- little-endian concatenation of 32-bit words. -/
def catWords : List Nat → Nat
  | [] => 0
  | w :: ws => w + 2 ^ 32 * catWords ws

theorem mtWords_length (k : Nat) (s : MtState) : (mtWords k s).1.length = k := by
  induction k generalizing s with
  | zero => rfl
  | succ k ih => simp [mtWords, ih]

theorem mtWords_lt (k : Nat) (s : MtState) : ∀ w ∈ (mtWords k s).1, w < 2 ^ 32 := by
  induction k generalizing s with
  | zero => intro w hw; simp [mtWords] at hw
  | succ k ih =>
    intro w hw
    simp only [mtWords, List.mem_cons] at hw
    rcases hw with rfl | hw
    · exact nextWord_lt s
    · exact ih _ w hw

theorem mtWords_add (a b : Nat) (s : MtState) :
    mtWords (a + b) s = ((mtWords a s).1 ++ (mtWords b (mtWords a s).2).1, (mtWords b (mtWords a s).2).2) := by
  induction a generalizing s with
  | zero => simp [mtWords]
  | succ a ih =>
    rw [show a + 1 + b = (a + b) + 1 by omega]
    simp only [mtWords, ih, List.cons_append]

theorem catWords_append (a b : List Nat) : catWords (a ++ b) = catWords a + 2 ^ (32 * a.length) * catWords b := by
  induction a with
  | nil => simp [catWords]
  | cons x xs ih =>
    simp only [List.cons_append, catWords, ih, List.length_cons]
    rw [show 32 * (xs.length + 1) = 32 + 32 * xs.length by ring, pow_add]; ring

theorem catWords_lt (ws : List Nat) (h : ∀ w ∈ ws, w < 2 ^ 32) : catWords ws < 2 ^ (32 * ws.length) := by
  induction ws with
  | nil => simp [catWords]
  | cons x xs ih =>
    have hx := h x List.mem_cons_self
    have := ih (fun w hw => h w (List.mem_cons_of_mem _ hw))
    rw [catWords, List.length_cons, Nat.mul_succ, Nat.add_comm (32 * _), pow_add]
    calc x + 2 ^ 32 * catWords xs < 2 ^ 32 * (catWords xs + 1) := by rw [Nat.mul_succ]; omega
      _ ≤ 2 ^ 32 * 2 ^ (32 * xs.length) := Nat.mul_le_mul_left _ this

theorem or_shift32 {a : Nat} (b : Nat) (ha : a < 2 ^ 32) : a ||| (b <<< 32) = a + 2 ^ 32 * b := by
  rw [Nat.or_comm, ← Nat.shiftLeft_add_eq_or_of_lt ha, Nat.shiftLeft_eq]; ring

theorem mtLimb_eq (s : MtState) : mtLimb s = (catWords (mtWords 2 s).1, (mtWords 2 s).2) := by
  simp only [mtLimb, mtWords, catWords]
  rw [or_shift32 _ (nextWord_lt s)]; simp

theorem mtLimbs_eq (n : Nat) (s : MtState) :
    val (mtLimbs n s).1 = catWords (mtWords (2 * n) s).1 ∧ (mtLimbs n s).2 = (mtWords (2 * n) s).2 ∧
    (mtLimbs n s).1.length = n := by
  induction n generalizing s with
  | zero => simp [mtLimbs, mtWords, catWords]
  | succ n ih =>
    rw [show 2 * (n + 1) = 2 + 2 * n by ring, mtWords_add]
    simp only [mtLimbs, mtLimb_eq, val_cons, catWords_append, mtWords_length, List.length_cons]
    obtain ⟨h1, h2, h3⟩ := ih (mtWords 2 s).2
    refine ⟨?_, h2, by rw [h3]⟩
    rw [h1]; unfold B; norm_num

/-- the partial top limb: the next ⌈rbits/32⌉ words, truncated to rbits bits -/
theorem mtTail_eq (rbits : Nat) (s : MtState) (h0 : 0 < rbits) (h64 : rbits < 64) :
    mtTail rbits s = (catWords (mtWords ((rbits + 31) / 32) s).1 % 2 ^ rbits, (mtWords ((rbits + 31) / 32) s).2) := by
  unfold mtTail
  dsimp only
  have hw := nextWord_lt s
  rcases Nat.lt_trichotomy rbits 32 with h | rfl | h
  · rw [if_pos h, show (rbits + 31) / 32 = 1 by omega]
    simp only [mtWords, catWords, Nat.mul_zero, Nat.add_zero]
  · simp only [Nat.lt_irrefl, if_false, mtWords, catWords, Nat.mul_zero, Nat.add_zero, Nat.mod_eq_of_lt hw]
  · rw [if_neg (by omega), if_pos h, show (rbits + 31) / 32 = 2 by omega, or_shift32 _ hw]
    simp only [mtWords, catWords, Nat.mul_zero, Nat.add_zero]
    rw [show rbits = 32 + (rbits - 32) by omega, pow_add, add_mul_mod_mul _ _ _ _ hw, Nat.add_sub_cancel_left]

theorem randgetMt_spec (s : MtState) (n : Nat) :
    randgetMt s n = (catWords (mtWords ((n + 31) / 32) s).1 % 2 ^ n, (mtWords ((n + 31) / 32) s).2) := by
  unfold randgetMt
  dsimp only
  obtain ⟨h1, h2, h3⟩ := mtLimbs_eq (n / 64) s
  have hC : catWords (mtWords (2 * (n / 64)) s).1 < 2 ^ (64 * (n / 64)) := by
    have := catWords_lt _ (mtWords_lt (2 * (n / 64)) s)
    rwa [mtWords_length, show 32 * (2 * (n / 64)) = 64 * (n / 64) by omega] at this
  have hn := Nat.div_add_mod n 64
  split
  · next h0 =>
    rw [show (n + 31) / 32 = 2 * (n / 64) by omega, h1, h2, Nat.mod_eq_of_lt (by rwa [show 64 * (n / 64) = n by omega] at hC)]
  · next h0 =>
    rw [mtTail_eq _ _ (Nat.pos_of_ne_zero h0) (Nat.mod_lt _ (by decide)), val_append, h3, h1, h2, B_pow,
      show (n + 31) / 32 = 2 * (n / 64) + (n % 64 + 31) / 32 by omega, mtWords_add, catWords_append, mtWords_length,
      show 32 * (2 * (n / 64)) = 64 * (n / 64) by omega, show (2 : Nat) ^ n = 2 ^ (64 * (n / 64)) * 2 ^ (n % 64) by rw [← pow_add, hn],
      add_mul_mod_mul _ _ _ _ hC]
    simp only [val_cons, val_nil, Nat.mul_zero, Nat.add_zero]

theorem randgetMt_lt (s : MtState) (n : Nat) : (randgetMt s n).1 < 2 ^ n := by
  rw [randgetMt_spec]; exact Nat.mod_lt _ (by positivity)

/-! ### `randget_lc` (randlc2x.c): the buffer juggling delivers the high halves of consecutive `X_i`, bit by bit -/

theorem testBit_false_of_lt {x i j : Nat} (h : x < 2 ^ i) (hij : i ≤ j) : x.testBit j = false :=
  Nat.testBit_lt_two_pow (Nat.lt_of_lt_of_le h (Nat.pow_le_pow_right (by decide) hij))

theorem setLimbs_testBit (R i k v j : Nat) :
    (setLimbs R i k v).testBit j = if 64 * i ≤ j ∧ j < 64 * (i + k) then v.testBit (j - 64 * i) else R.testBit j := by
  unfold setLimbs
  have e : R % 2 ^ (64 * i) + v % 2 ^ (64 * k) * 2 ^ (64 * i) + R / 2 ^ (64 * (i + k)) * 2 ^ (64 * (i + k))
      = 2 ^ (64 * i) * (2 ^ (64 * k) * (R / 2 ^ (64 * (i + k))) + v % 2 ^ (64 * k)) + R % 2 ^ (64 * i) := by
    rw [show 64 * (i + k) = 64 * i + 64 * k by ring, pow_add]; ring
  rw [e, Nat.testBit_two_pow_mul_add _ (Nat.mod_lt _ (by positivity))]
  by_cases h1 : j < 64 * i
  · rw [if_pos h1, if_neg (fun h => absurd h1 (Nat.not_lt.2 h.1)), Nat.testBit_mod_two_pow, decide_eq_true h1, Bool.true_and]
  · rw [if_neg h1, Nat.testBit_two_pow_mul_add _ (Nat.mod_lt _ (by positivity))]
    by_cases h2 : j - 64 * i < 64 * k
    · rw [if_pos h2, if_pos (by omega), Nat.testBit_mod_two_pow, decide_eq_true h2, Bool.true_and]
    · rw [if_neg h2, if_neg (by omega), Nat.testBit_div_two_pow]
      congr 1; omega

theorem getLimb_testBit (R i j : Nat) : (getLimb R i).testBit j = (decide (j < 64) && R.testBit (j + 64 * i)) := by
  unfold getLimb
  rw [Nat.testBit_mod_two_pow, Nat.testBit_div_two_pow]

theorem getLimb_testBit_sub {X q j : Nat} (h : 64 * q ≤ j ∧ j < 64 * (q + 1)) :
    (getLimb X q).testBit (j - 64 * q) = X.testBit j := by
  rw [getLimb_testBit, decide_eq_true (by omega), Bool.true_and, Nat.sub_add_cancel h.1]

/-- first bit position that `placeChunk` does not write: the end of limb `pos/64 + tn − 1`, or of the next limb when the
    shifted-out limb is stored too -/
def chunkLimit (pos tn : Nat) (carry : Bool) : Nat :=
  64 * (pos / 64 + tn) + (if carry ∧ pos % 64 ≠ 0 then 64 else 0)

/-- a full chunk of the loop of `randget_lc` fits below the limit (randlc2x.c:183 stores the carry limb exactly when needed) -/
theorem chunkLimit_full (chunk pos : Nat) (h64 : chunk % 64 = 0 → pos % 64 = 0) :
    pos + chunk ≤ chunkLimit pos ((chunk + 63) / 64) (decide (chunk % 64 + pos % 64 > 64)) := by
  unfold chunkLimit
  simp only [decide_eq_true_eq]
  split <;> omega

/-- the last, partial chunk: everything up to the end of the limb holding bit n − 1 is written, nothing beyond
    (randlc2x.c:207 stores the carry limb exactly when the request reaches into it) -/
theorem chunkLimit_last (pos n : Nat) (h : pos < n) :
    chunkLimit pos ((n - pos + 63) / 64) (decide (pos + (n - pos + 63) / 64 * 64 - pos % 64 < n)) = 64 * ((n + 63) / 64) := by
  unfold chunkLimit
  simp only [decide_eq_true_eq]
  split <;> omega

theorem placeChunk_testBit (R pos tn t : Nat) (carry : Bool) (hR : ∀ j, pos ≤ j → R.testBit j = false)
    (htn : 1 ≤ tn) (j : Nat) :
    (placeChunk R pos tn t carry).testBit j =
      if j < pos then R.testBit j
      else (decide (j < chunkLimit pos tn carry) && decide (j - pos < 64 * tn) && t.testBit (j - pos)) := by
  -- pos = 64·q + sh
  obtain ⟨q, sh, hsh, rfl⟩ : ∃ q sh, sh < 64 ∧ pos = 64 * q + sh :=
    ⟨pos / 64, pos % 64, Nat.mod_lt _ (by decide), (Nat.div_add_mod pos 64).symm⟩
  have hq : (64 * q + sh) / 64 = q := by omega
  have hs : (64 * q + sh) % 64 = sh := by omega
  unfold placeChunk chunkLimit
  simp only [hq, hs]
  clear hq hs
  split
  · next h0 =>
    -- limbs q … q+tn−1 receive `lo` = the chunk shifted by sh
    generalize hlo : (t % 2 ^ (64 * tn)) <<< sh % 2 ^ (64 * tn) = lo
    have hlo' : ∀ i, i < 64 * tn → lo.testBit i = (decide (sh ≤ i) && decide (i - sh < 64 * tn) && t.testBit (i - sh)) :=
      fun i hi => by
        rw [← hlo, Nat.testBit_mod_two_pow, Nat.testBit_shiftLeft, Nat.testBit_mod_two_pow, decide_eq_true hi, Bool.true_and,
          Bool.and_assoc]
    clear hlo
    generalize hR1 : setLimbs R q tn lo = R1
    have hR1' : ∀ j, R1.testBit j = if 64 * q ≤ j ∧ j < 64 * (q + tn) then lo.testBit (j - 64 * q) else R.testBit j :=
      fun j => by rw [← hR1, setLimbs_testBit]
    clear hR1
    -- then limb q gets back the bits of R below pos
    have inner : ∀ j, (setLimbs R1 q 1 (getLimb R1 q ||| getLimb R q)).testBit j
        = if j < 64 * q + sh then R.testBit j
          else (decide (j < 64 * (q + tn)) && decide (j - (64 * q + sh) < 64 * tn) && t.testBit (j - (64 * q + sh))) := by
      intro j
      rw [setLimbs_testBit]
      by_cases h1 : 64 * q ≤ j ∧ j < 64 * (q + 1)
      · rw [if_pos h1, Nat.testBit_or, getLimb_testBit_sub h1, getLimb_testBit_sub h1, hR1', if_pos ⟨h1.1, by omega⟩,
          hlo' _ (by omega)]
        by_cases hp : j < 64 * q + sh
        · rw [if_pos hp, decide_eq_false (p := sh ≤ _) (by omega), Bool.false_and, Bool.false_and, Bool.false_or]
        · rw [if_neg hp, hR j (Nat.le_of_not_lt hp), Bool.or_false, decide_eq_true (p := sh ≤ _) (by omega), Bool.true_and,
            decide_eq_true (p := j < 64 * (q + tn)) (by omega), Bool.true_and, show j - 64 * q - sh = j - (64 * q + sh) by omega]
      · rw [if_neg h1, hR1']
        by_cases hw : 64 * q ≤ j ∧ j < 64 * (q + tn)
        · rw [if_pos hw, hlo' _ (by omega), if_neg (by omega), decide_eq_true (p := sh ≤ _) (by omega), Bool.true_and,
            decide_eq_true hw.2, Bool.true_and, show j - 64 * q - sh = j - (64 * q + sh) by omega]
        · rw [if_neg hw]
          by_cases hp : j < 64 * q + sh
          · rw [if_pos hp]
          · rw [if_neg hp, hR j (Nat.le_of_not_lt hp), decide_eq_false (p := j < 64 * (q + tn)) (by omega), Bool.false_and,
              Bool.false_and]
    cases carry
    · simpa using inner j
    · -- the shifted-out limb goes to limb q + tn
      simp only [if_true, true_and, if_pos h0]
      rw [setLimbs_testBit]
      by_cases hc : 64 * (q + tn) ≤ j ∧ j < 64 * (q + tn + 1)
      · rw [if_pos hc, Nat.testBit_shiftRight, Nat.testBit_mod_two_pow, if_neg (by omega), decide_eq_true (p := j < _) (by omega),
          Bool.true_and, show 64 * tn - sh + (j - 64 * (q + tn)) = j - (64 * q + sh) by omega]
      · rw [if_neg hc, inner j]
        by_cases hp : j < 64 * q + sh
        · rw [if_pos hp, if_pos hp]
        · rw [if_neg hp, if_neg hp]
          by_cases hw : j < 64 * (q + tn)
          · rw [decide_eq_true hw, decide_eq_true (p := j < _ + 64) (by omega)]
          · rw [decide_eq_false hw, decide_eq_false (p := j < _ + 64) (by omega)]
  · next h0 =>
    -- aligned: the limbs are stored directly
    have h0 : sh = 0 := by omega
    subst h0
    simp only [Nat.add_zero, ne_eq, not_true_eq_false, and_false, if_false]
    rw [setLimbs_testBit]
    by_cases hw : 64 * q ≤ j ∧ j < 64 * (q + tn)
    · rw [if_pos hw, if_neg (Nat.not_lt.2 hw.1), decide_eq_true hw.2, decide_eq_true (by omega)]; rfl
    · rw [if_neg hw]
      by_cases hp : j < 64 * q
      · rw [if_pos hp]
      · rw [if_neg hp, hR j (Nat.le_of_not_lt hp), decide_eq_false (p := j < 64 * (q + tn)) (by omega), Bool.false_and,
          Bool.false_and]

/-- the state after i steps of `lc` -/
def lcIter : Nat → LcState → LcState
  | 0, s => s
  | i + 1, s => (lcStep (lcIter i s)).2

/-- X_i, the seed after i steps -/
def lcX (s : LcState) (i : Nat) : Nat := (lcIter i s).seed

/-- bit `j` of the ideal output stream: chunk `j / (m/2)` is the high part of `X_{j/(m/2)+1}`, of which
    the low `(m+1)/2` bits are discarded. -/
def lcBit (s : LcState) (j : Nat) : Bool :=
  (lcX s (j / (s.m2exp / 2) + 1)).testBit ((s.m2exp + 1) / 2 + j % (s.m2exp / 2))

@[simp] theorem lcStep_m2exp (s : LcState) : (lcStep s).2.m2exp = s.m2exp := rfl
@[simp] theorem lcStep_a (s : LcState) : (lcStep s).2.a = s.a := rfl
@[simp] theorem lcStep_c (s : LcState) : (lcStep s).2.c = s.c := rfl

@[simp] theorem lcIter_m2exp (s : LcState) (i : Nat) : (lcIter i s).m2exp = s.m2exp := by
  induction i with
  | zero => rfl
  | succ i ih => simp [lcIter, ih]

@[simp] theorem lcIter_a (s : LcState) (i : Nat) : (lcIter i s).a = s.a := by
  induction i with
  | zero => rfl
  | succ i ih => simp [lcIter, ih]

@[simp] theorem lcIter_c (s : LcState) (i : Nat) : (lcIter i s).c = s.c := by
  induction i with
  | zero => rfl
  | succ i ih => simp [lcIter, ih]

theorem lcX_succ (s : LcState) (i : Nat) : lcX s (i + 1) = (s.a * lcX s i + s.c) % 2 ^ s.m2exp := by
  simp [lcX, lcIter, lcStep]

theorem lcX_succ_lt (s : LcState) (i : Nat) : lcX s (i + 1) < 2 ^ s.m2exp := by
  rw [lcX_succ]; exact Nat.mod_lt _ (by positivity)

theorem lcStep_out_testBit (s : LcState) (i b : Nat) :
    (lcStep (lcIter i s)).1.testBit b = (lcX s (i + 1)).testBit ((s.m2exp + 1) / 2 + b) := by
  simp [lcX, lcIter, lcStep, Nat.testBit_shiftRight]

theorem lcStep_out_lt (s : LcState) (i : Nat) : (lcStep (lcIter i s)).1 < 2 ^ (s.m2exp / 2) := by
  have h := lcX_succ_lt s i
  have e : (lcStep (lcIter i s)).1 = lcX s (i + 1) / 2 ^ ((s.m2exp + 1) / 2) := by
    simp [lcX, lcIter, lcStep, Nat.shiftRight_eq_div_pow]
  rw [e]
  apply Nat.div_lt_of_lt_mul
  rw [← pow_add]
  have : (s.m2exp + 1) / 2 + s.m2exp / 2 = s.m2exp := by omega
  rw [this]; exact h

theorem div_mod_of_range {chunk i pos j : Nat} (hpos : pos = chunk * i) (h1 : pos ≤ j) (h2 : j < pos + chunk) :
    j / chunk = i ∧ j % chunk = j - pos := by
  subst hpos
  have hd : j / chunk = i := by
    apply Nat.div_eq_of_lt_le
    · rw [Nat.mul_comm]; exact h1
    · rw [Nat.add_mul, Nat.one_mul, Nat.mul_comm]; exact h2
  refine ⟨hd, ?_⟩
  have := Nat.div_add_mod j chunk
  rw [hd] at this; omega

theorem place_full (s0 : LcState) (chunk i pos R : Nat) (hchunk : chunk = s0.m2exp / 2) (hc : 0 < chunk)
    (hpos : pos = chunk * i)
    (hR : ∀ j, R.testBit j = (decide (j < pos) && lcBit s0 j)) (j : Nat) :
    (placeChunk R pos ((chunk + 63) / 64) (lcStep (lcIter i s0)).1 (decide (chunk % 64 + pos % 64 > 64))).testBit j
      = (decide (j < pos + chunk) && lcBit s0 j) := by
  have hlim := chunkLimit_full chunk pos (fun h => by rw [hpos, Nat.mul_mod, h, Nat.zero_mul, Nat.zero_mod])
  rw [placeChunk_testBit _ _ _ _ _ (fun j hj => by rw [hR j, decide_eq_false (Nat.not_lt.2 hj), Bool.false_and])
    (Nat.div_pos (by omega) (by decide))]
  by_cases h1 : j < pos
  · rw [if_pos h1, hR j, decide_eq_true h1, decide_eq_true (Nat.lt_add_right chunk h1)]
  · rw [if_neg h1]
    by_cases h2 : j < pos + chunk
    · obtain ⟨hd, hm⟩ := div_mod_of_range hpos (Nat.le_of_not_lt h1) h2
      rw [decide_eq_true (Nat.lt_of_lt_of_le h2 hlim), decide_eq_true (by omega), decide_eq_true h2, Bool.true_and,
        Bool.true_and, Bool.true_and, lcStep_out_testBit]
      unfold lcBit; rw [← hchunk, hd, hm]
    · rw [testBit_false_of_lt (lcStep_out_lt s0 i) (by rw [← hchunk]; omega), decide_eq_false h2, Bool.and_false,
        Bool.false_and]

/-- the `while (rbitpos + chunk_nbits <= nbits)` loop delivers the first `nbits / chunk` chunks. -/
theorem lcFull_spec (s0 : LcState) (chunk nbits : Nat) (hchunk : chunk = s0.m2exp / 2) (hc : 0 < chunk) :
    ∀ (d i pos R : Nat), d = nbits - pos → pos = chunk * i → pos ≤ nbits →
      (∀ j, R.testBit j = (decide (j < pos) && lcBit s0 j)) →
      (lcFull chunk nbits hc pos R (lcIter i s0)).1 = chunk * (nbits / chunk) ∧
      (∀ j, (lcFull chunk nbits hc pos R (lcIter i s0)).2.1.testBit j = (decide (j < chunk * (nbits / chunk)) && lcBit s0 j)) ∧
      (lcFull chunk nbits hc pos R (lcIter i s0)).2.2 = lcIter (nbits / chunk) s0 := by
  intro d
  induction d using Nat.strong_induction_on with
  | _ d ih =>
    intro i pos R hd hpos hle hR
    rw [lcFull]
    by_cases h : pos + chunk ≤ nbits
    · simp only [h, dite_true]
      have := ih (nbits - (pos + chunk)) (by omega) (i + 1) (pos + chunk)
        (placeChunk R pos ((chunk + 63) / 64) (lcStep (lcIter i s0)).1 (decide (chunk % 64 + pos % 64 > 64)))
        rfl (by rw [hpos]; ring) h (place_full s0 chunk i pos R hchunk hc hpos hR)
      exact this
    · simp only [h, dite_false]
      have hdiv : nbits / chunk = i := by
        apply Nat.div_eq_of_lt_le
        · rw [Nat.mul_comm, ← hpos]; exact hle
        · rw [Nat.add_mul, Nat.one_mul, Nat.mul_comm, ← hpos]; omega
      rw [hdiv, ← hpos]
      exact ⟨rfl, hR, rfl⟩

theorem randgetLc_testBit (s : LcState) (n : Nat) (hm : 2 ≤ s.m2exp) (j : Nat) :
    (randgetLc s n).1.testBit j = (decide (j < n) && lcBit s j) := by
  have hc : 0 < s.m2exp / 2 := by omega
  unfold randgetLc
  simp only [hc, dite_true]
  obtain ⟨h1, h2, h3⟩ := lcFull_spec s (s.m2exp / 2) n rfl hc n 0 0 0 rfl (by simp) (by omega)
    (by intro j; simp) 
  simp only [lcIter] at h1 h2 h3
  generalize hr : lcFull (s.m2exp / 2) n hc 0 0 s = r at h1 h2 h3
  obtain ⟨pos, R, s'⟩ := r
  simp only at h1 h2 h3
  have hle : pos ≤ n := by rw [h1]; exact Nat.mul_div_le n _
  have hlt : n < pos + s.m2exp / 2 := by
    rw [h1]; have := Nat.div_add_mod n (s.m2exp / 2); have := Nat.mod_lt n hc; omega
  by_cases hfin : pos = n
  · simp only [hfin, ne_eq, not_true_eq_false, if_false]
    rw [h2 j, ← h1, hfin]
  · simp only [ne_eq, hfin, not_false_eq_true, if_true]
    subst h3
    -- the last, partial chunk reaches exactly to the end of the limb holding bit n − 1
    have hlim := chunkLimit_last pos n (by omega)
    have hbit : ∀ j, pos ≤ j → j < n →
        (lcStep (lcIter (n / (s.m2exp / 2)) s)).1.testBit (j - pos) = lcBit s j := by
      intro j hj1 hj2
      obtain ⟨hd, hmm⟩ := div_mod_of_range h1 hj1 (by omega)
      rw [lcStep_out_testBit]; unfold lcBit; rw [hd, hmm]
    -- the value before masking: right below n, zero from the next limb boundary on
    generalize hV : placeChunk R pos ((n - pos + 63) / 64) (lcStep (lcIter (n / (s.m2exp / 2)) s)).1
        (decide (pos + (n - pos + 63) / 64 * 64 - pos % 64 < n)) = V
    have key : ∀ j, (j < n → V.testBit j = lcBit s j) ∧ (64 * ((n + 63) / 64) ≤ j → V.testBit j = false) := by
      intro j
      rw [← hV, placeChunk_testBit _ _ _ _ _ (fun j hj => by rw [h2 j, ← h1, decide_eq_false (Nat.not_lt.2 hj), Bool.false_and])
        (Nat.div_pos (by omega) (by decide)), hlim]
      refine ⟨fun hjn => ?_, fun hl => ?_⟩
      · by_cases hjp : j < pos
        · rw [if_pos hjp, h2 j, ← h1, decide_eq_true hjp, Bool.true_and]
        · rw [if_neg hjp, hbit j (by omega) hjn, decide_eq_true (by omega), decide_eq_true (by omega), Bool.true_and,
            Bool.true_and]
      · rw [if_neg (by omega), decide_eq_false (by omega), Bool.false_and, Bool.false_and]
    -- `rp[n / 64] &= ~(~0 << n % 64)` keeps the bits below n of the last limb and clears the others
    by_cases hjn : j < n
    · rw [decide_eq_true hjn, Bool.true_and, ← (key j).1 hjn]
      split
      · rw [setLimbs_testBit]
        split
        · next h => rw [Nat.testBit_mod_two_pow, getLimb_testBit_sub h, decide_eq_true (by omega), Bool.true_and]
        · rfl
      · rfl
    · rw [decide_eq_false hjn, Bool.false_and]
      split
      · rw [setLimbs_testBit]
        split
        · rw [Nat.testBit_mod_two_pow, decide_eq_false (by omega), Bool.false_and]
        · exact (key j).2 (by omega)
      · exact (key j).2 (by omega)

theorem randgetLc_state (s : LcState) (n : Nat) (hm : 2 ≤ s.m2exp) :
    (randgetLc s n).2 = lcIter ((n + s.m2exp / 2 - 1) / (s.m2exp / 2)) s := by
  have hc : 0 < s.m2exp / 2 := by omega
  unfold randgetLc
  simp only [hc, dite_true]
  obtain ⟨h1, _, h3⟩ := lcFull_spec s (s.m2exp / 2) n rfl hc n 0 0 0 rfl (by simp) (by omega)
    (by intro j; simp)
  simp only [lcIter] at h1 h3
  generalize hr : lcFull (s.m2exp / 2) n hc 0 0 s = r at h1 h3
  obtain ⟨pos, R, s'⟩ := r
  simp only at h1 h3
  have hdm := Nat.div_add_mod n (s.m2exp / 2)
  have hml := Nat.mod_lt n hc
  by_cases hfin : pos = n
  · simp only [hfin, ne_eq, not_true_eq_false, if_false]
    rw [h3]; congr 1
    have : n % (s.m2exp / 2) = 0 := by omega
    apply (Nat.div_eq_of_lt_le _ _).symm
    · rw [Nat.mul_comm]; omega
    · rw [Nat.add_mul, Nat.one_mul, Nat.mul_comm]; omega
  · simp only [ne_eq, hfin, not_false_eq_true, if_true]
    rw [h3]
    show lcIter (n / (s.m2exp / 2) + 1) s = _
    congr 1
    have : n % (s.m2exp / 2) ≠ 0 := by omega
    apply (Nat.div_eq_of_lt_le _ _).symm
    · rw [Nat.mul_comm, Nat.mul_add, Nat.mul_one]; omega
    · rw [Nat.add_mul, Nat.one_mul, Nat.mul_comm, Nat.mul_add, Nat.mul_one]; omega

theorem randgetLc_lt (s : LcState) (n : Nat) (hm : 2 ≤ s.m2exp) : (randgetLc s n).1 < 2 ^ n := by
  apply Nat.lt_pow_two_of_testBit
  intro j hj
  rw [randgetLc_testBit s n hm j]
  have : ¬ j < n := by omega
  simp [this]

/-! ### the functions built on `_gmp_rand` (mpz/urandomb.c, urandomm.c, mpn/generic/randomb.c, mpf/urandomb.c) -/

theorem toLimbs_shape {n v : Nat} (hn : 1 ≤ n) (hlo : B ^ (n - 1) ≤ v) (hhi : v < B ^ n) :
    (toLimbs n v).length = n ∧ Limbs (toLimbs n v) ∧ ∃ hne : toLimbs n v ≠ [], (toLimbs n v).getLast hne ≠ 0 := by
  have hlen := toLimbs_length n v
  have hne : toLimbs n v ≠ [] := fun h0 => by rw [h0] at hlen; simp at hlen; omega
  refine ⟨hlen, Limbs_toLimbs n v, hne, (normalized_iff_getLast hne).mp (Normalized.of_ge (Limbs_toLimbs n v) (Or.inr ?_))⟩
  rw [hlen, val_toLimbs_lt n v hhi]; exact hlo

/-! ### the generators deliver fewer than `2^n` -/

theorem Gen.get_lt (g : Gen) (hv : g.Valid) (n : Nat) : (g.get n).1 < 2 ^ n := by
  cases g with
  | mt s => exact randgetMt_lt s n
  | lc s => exact randgetLc_lt s n hv

theorem Gen.get_valid (g : Gen) (hv : g.Valid) (n : Nat) : (g.get n).2.Valid := by
  cases g with
  | mt s => trivial
  | lc s =>
    show 2 ≤ (randgetLc s n).2.m2exp
    rw [randgetLc_state s n hv, lcIter_m2exp]; exact hv

/-! ### rejection loops -/

theorem rejectLoop_lt {N size nbits fuel : Nat} {g g' : Gen} {r : Nat}
    (h : rejectLoop N size nbits fuel g = some (r, g')) : r < N := by
  induction fuel generalizing g with
  | zero => simp [rejectLoop] at h
  | succ f ih =>
    simp only [rejectLoop] at h
    split at h
    · next hlt => simp only [Option.some.injEq, Prod.mk.injEq] at h; rw [← h.1]; exact hlt
    · exact ih h

theorem rejectLoop_valid {N size nbits fuel : Nat} {g g' : Gen} {r : Nat} (hv : g.Valid)
    (h : rejectLoop N size nbits fuel g = some (r, g')) : g'.Valid := by
  induction fuel generalizing g with
  | zero => simp [rejectLoop] at h
  | succ f ih =>
    simp only [rejectLoop] at h
    split at h
    · simp only [Option.some.injEq, Prod.mk.injEq] at h; rw [← h.2]; exact Gen.get_valid g hv _
    · exact ih (Gen.get_valid g hv _) h

/-- the capped loop of `gmp_urandomm_ui`: an accepted value is below `n`; otherwise the last draw is
    returned, which is at least `n` and below `2^bits`. -/
theorem urandommUiLoop_spec (n bits : Nat) (k ret : Nat) (g : Gen) (hv : g.Valid) (hret : n ≤ ret ∧ ret < 2 ^ bits ∨ k ≠ 0) :
    let r := urandommUiLoop n bits k ret g
    (r.2.1 = true → r.1 < n) ∧ (r.2.1 = false → n ≤ r.1 ∧ r.1 < 2 ^ bits ∨ k = 0) := by
  induction k generalizing ret g with
  | zero =>
    simp only [urandommUiLoop]
    exact ⟨by simp, fun _ => Or.inr trivial⟩
  | succ k ih =>
    simp only [urandommUiLoop]
    split
    · next hlt => exact ⟨fun _ => hlt, by simp⟩
    · next hge =>
      have hb : (g.get bits).1 % 2 ^ 64 < 2 ^ bits :=
        Nat.lt_of_le_of_lt (Nat.mod_le _ _) (Gen.get_lt g hv bits)
      have := ih ((g.get bits).1 % 2 ^ 64) (g.get bits).2 (Gen.get_valid g hv bits) (Or.inl ⟨by omega, hb⟩)
      refine ⟨this.1, fun h => ?_⟩
      rcases this.2 h with h1 | h1
      · exact Or.inl h1
      · subst h1
        simp only [urandommUiLoop]
        exact Or.inl ⟨by omega, hb⟩

theorem log2_bits (n : Nat) (hn : 0 < n) (h64 : n < 2 ^ 64) :
    64 - clz n - boolToNat (pow2P n) ≤ n.log2 + 1 ∧ 2 ^ (n.log2 + 1) ≤ 2 * n := by
  have h1 : n.log2 < 64 := (Nat.log2_lt (by omega)).mpr h64
  have h2 : 2 ^ n.log2 ≤ n := Nat.log2_self_le (by omega)
  constructor
  · unfold clz; omega
  · rw [pow_succ]; omega

/-! ### `mpn_randomb` -/

theorem topLoop_spec {lo n fuel top : Nat} {g g' : Gen} {v : Nat} (htop : top < 2 ^ 64)
    (h : topLoop lo n fuel top g = some (v, g')) : ∃ t, t ≠ 0 ∧ t < 2 ^ 64 ∧ v = lo + t * 2 ^ (64 * (n - 1)) := by
  induction fuel generalizing top g with
  | zero => simp [topLoop] at h
  | succ f ih =>
    simp only [topLoop] at h
    split at h
    · next hne =>
      simp only [Option.some.injEq, Prod.mk.injEq] at h
      exact ⟨top, hne, htop, h.1.symm⟩
    · exact ih (Nat.mod_lt _ (by positivity)) h

theorem normalize_length_le (l : List Nat) : (normalize l).length ≤ l.length :=
  Mpir.normalize_length_le l

/-! ### `mpf_urandomb` -/

theorem mpfStrip_range (l : List Nat) (hl : Limbs l) :
    (mpfStrip l).2 ≤ 0 ∧ val (mpfStrip l).1 < B ^ (mpfStrip l).1.length ∧ Limbs (mpfStrip l).1 := by
  simp only [mpfStrip]
  exact ⟨by omega, val_lt _ (Limbs_normalize hl), Limbs_normalize hl⟩

theorem mpfFinish_range (l : List Nat) (hl : Limbs l) :
    (mpfFinish l).exp ≤ 0 ∧ val (mpfFinish l).d < B ^ (mpfFinish l).size ∧ (mpfFinish l).d.length = (mpfFinish l).size ∧
    Limbs (mpfFinish l).d ∧ ((mpfFinish l).size = 0 → (mpfFinish l).exp = 0) := by
  obtain ⟨h1, h2, h3⟩ := mpfStrip_range l hl
  refine ⟨?_, h2, rfl, h3, fun h => if_pos h⟩
  show (if _ then (0 : Int) else _) ≤ 0
  split
  · exact le_refl 0
  · exact h1

/-! ### `gmp_rrandomb` (mpz/rrandomb.c, mpn/generic/rrandom.c): exactly `nbits` bits; the xor clears a set bit, the increment
    never carries out of the top -/

theorem xor_two_pow_of_testBit {x k : Nat} (h : x.testBit k = true) : x ^^^ (1 <<< k) = x - 2 ^ k := by
  rw [Nat.one_shiftLeft]; exact Bits.xor_two_pow_of_set h

theorem testBit_of_dvd_succ {x n k : Nat} (h : 2 ^ n ∣ x + 1) (hk : k < n) : x.testBit k = true := by
  obtain ⟨m, hm⟩ := h
  obtain ⟨m, rfl⟩ : ∃ m', m = m' + 1 := ⟨m - 1, by rcases m with _ | m <;> simp at hm ⊢⟩
  have hp : 0 < 2 ^ n := Nat.pow_pos (by decide)
  rw [show x = 2 ^ n * m + (2 ^ n - 1) by rw [Nat.mul_succ] at hm; omega,
    Nat.testBit_two_pow_mul_add _ (Nat.sub_lt hp Nat.one_pos), if_pos hk, Nat.testBit_two_pow_sub_one, decide_eq_true hk]

/-- the loop of `gmp_rrandomb`: invariant `bi ≤ N`, `x < 2^N`, the low `bi` bits are ones (2^bi divides x + 1), and the
    zeros introduced so far stay below the top bit. -/
theorem rrLoop_spec (N cap : Nat) (hN : 1 ≤ N) : ∀ (bi x : Nat) (g : Gen), bi ≤ N → x < 2 ^ N →
    2 ^ bi ∣ x + 1 → 2 ^ (N - 1) + 2 ^ (min bi (N - 1)) ≤ x + 1 →
    2 ^ (N - 1) ≤ (rrLoop cap x bi g).1 ∧ (rrLoop cap x bi g).1 < 2 ^ N := by
  intro bi
  induction bi using Nat.strong_induction_on with
  | _ bi ih =>
    intro x g hbi hx hdvd hL
    have hpos : ∀ k : Nat, 0 < 2 ^ k := fun k => Nat.pow_pos (by decide)
    have hret : 2 ^ (N - 1) ≤ x := by have := hpos (min bi (N - 1)); omega
    rw [rrLoop]
    simp only
    split
    · exact ⟨hret, hx⟩
    · next h1 =>
      have hb1 := stepDown_lt (Nat.add_pos_left Nat.one_pos _) h1
      generalize stepDown bi (1 + (g.get 32).1 % 2 ^ 64 % cap) = bi1 at h1 hb1 ⊢
      -- bit bi1 of x is set: the xor clears it
      have hbit := testBit_of_dvd_succ hdvd hb1
      rw [xor_two_pow_of_testBit hbit, Nat.one_shiftLeft]
      have hge1 := Nat.ge_two_pow_of_testBit hbit
      generalize hbi2 : stepDown bi1 (1 + ((g.get 32).2.get 32).1 % 2 ^ 64 % cap) = bi2
      have hb2 : bi2 < bi1 := by
        by_cases hz : bi2 = 0
        · omega
        · rw [← hbi2] at hz ⊢; exact stepDown_lt (Nat.add_pos_left Nat.one_pos _) hz
      have p21 : 2 ^ bi2 < 2 ^ bi1 := Nat.pow_lt_pow_right (by decide) hb2
      have p1m : 2 ^ bi1 ≤ 2 ^ (min bi (N - 1)) := Nat.pow_le_pow_right (by decide) (by omega)
      have hmin2 : min bi2 (N - 1) = bi2 := by omega
      have x2lt : x - 2 ^ bi1 + 2 ^ bi2 < 2 ^ N := by omega
      have x2L : 2 ^ (N - 1) + 2 ^ (min bi2 (N - 1)) ≤ x - 2 ^ bi1 + 2 ^ bi2 + 1 := by rw [hmin2]; omega
      have x2dvd : 2 ^ bi2 ∣ x - 2 ^ bi1 + 2 ^ bi2 + 1 := by
        rw [show x - 2 ^ bi1 + 2 ^ bi2 + 1 = x + 1 - 2 ^ bi1 + 2 ^ bi2 by omega]
        exact Nat.dvd_add (Nat.dvd_sub (Nat.dvd_trans (Nat.pow_dvd_pow 2 (by omega)) hdvd) (Nat.pow_dvd_pow 2 (Nat.le_of_lt hb2)))
          (Nat.dvd_refl _)
      split
      · exact ⟨by have := hpos (min bi2 (N - 1)); omega, x2lt⟩
      · exact ih bi2 (by omega) _ _ (by omega) x2lt x2dvd x2L

theorem gmpRrandomb_spec (g : Gen) (N : Nat) (hN : 1 ≤ N) :
    2 ^ (N - 1) ≤ (gmpRrandomb g N).1 ∧ (gmpRrandomb g N).1 < 2 ^ N := by
  unfold gmpRrandomb
  have hp : 0 < 2 ^ N := by positivity
  apply rrLoop_spec N _ hN N (2 ^ N - 1) _ (le_refl N) (by omega) (by rw [Nat.sub_add_cancel hp])
  have : min N (N - 1) = N - 1 := by omega
  rw [this]
  have : 2 ^ N = 2 ^ (N - 1) * 2 := by rw [← pow_succ]; congr 1; omega
  omega

end Mpir.Rand
