/- Bounds-checked areas (`PowmL.store`, `PowmL.load` of Mpir/Model/PowmLimb.lean): the flag of an access compares
   lengths, a store keeps the length; a load at the offset of a store reads what was stored, a load or a prefix below a
   store is unchanged. -/
import Mpir.Model.PowmLimb
import MpirProofs.Lemmas.Base
namespace Mpir.PowmL
open Mpir Mpir.Powm

theorem store_ok (a : List Nat) (off : Nat) (d : List Nat) : (store a off d).2 = decide (off + d.length ≤ a.length) := by
  unfold store; split <;> simp [*]

theorem load_ok (a : List Nat) (off len : Nat) : (load a off len).2 = decide (off + len ≤ a.length) := by
  unfold load; split <;> simp [*]

theorem store_length (a : List Nat) (off : Nat) (d : List Nat) : (store a off d).1.length = a.length := by
  unfold store
  split
  · simp only [List.length_append, List.length_take, List.length_drop]; omega
  · rfl

theorem load_length (a : List Nat) (off len : Nat) : (load a off len).1.length = len := by
  unfold load; split
  · simp only [List.length_take, List.length_drop]; omega
  · simp [zeros]

theorem store_eq (a : List Nat) (off : Nat) (d : List Nat) (h : off + d.length ≤ a.length) :
    store a off d = (a.take off ++ d ++ a.drop (off + d.length), true) := by simp [store, h]

theorem load_eq (a : List Nat) (off len : Nat) (h : off + len ≤ a.length) :
    load a off len = ((a.drop off).take len, true) := by simp [load, h]

theorem store_take_hi (a : List Nat) (off : Nat) (d : List Nat) (h : off + d.length ≤ a.length) :
    (store a off d).1.take (off + d.length) = a.take off ++ d := by
  rw [store_eq a off d h]
  have : (a.take off ++ d).length = off + d.length := by simp; omega
  simp only
  rw [← this, List.take_left']
  rfl

theorem store_take_zero (a d : List Nat) (h : d.length ≤ a.length) : (store a 0 d).1.take d.length = d := by
  simpa using store_take_hi a 0 d (by omega)

theorem store_take_lo (a : List Nat) (off : Nat) (d : List Nat) (h : off + d.length ≤ a.length) (j : Nat) (hj : j ≤ off) :
    (store a off d).1.take j = a.take j := by
  rw [store_eq a off d h]
  simp only
  rw [List.append_assoc, List.take_append_of_le_length (by simp; omega), List.take_take, Nat.min_eq_left hj]

theorem load_store_below (a : List Nat) (off : Nat) (d : List Nat) (o l : Nat) (h : o + l ≤ off) :
    load (store a off d).1 o l = load a o l := by
  by_cases hs : off + d.length ≤ a.length
  · unfold load
    rw [store_length, drop_take_of_take_eq off o l (store_take_lo a off d hs off (le_refl _)) h]
  · unfold store; rw [if_neg hs]

theorem load_store_in (a : List Nat) (off : Nat) (d : List Nat) (l : Nat) (h : off + d.length ≤ a.length)
    (hl : l ≤ d.length) : (load (store a off d).1 off l).1 = d.take l := by
  rw [load_eq _ _ _ (by rw [store_length]; omega), store_eq a off d h]
  simp only
  rw [List.append_assoc, List.drop_left' (by simp; omega), List.take_append_of_le_length hl]

theorem load_prefix (a : List Nat) (l : Nat) (h : l ≤ a.length) : (load a 0 l).1 = a.take l := by
  rw [load_eq _ _ _ (by omega)]; rfl

end Mpir.PowmL
