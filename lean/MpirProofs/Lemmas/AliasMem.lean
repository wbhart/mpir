/- The pointer-level alias model (Mpir/Model/AliasMem.lean): the state invariant `Inv`, what each memory primitive does to
   it, and the relations `Ext`, `Same`, `Upd`, `Res` saying what a step leaves of a state. -/
import MpirProofs.Lemmas.DivZ
import Mpir.Model.AliasMem
namespace Mpir.AliasMem
open Mpir
open Mpir.DivZ (sizeNat siz sameSign)

/-! ### limb lists -/

theorem toLimbs_getD : ∀ (n i v : Nat), i < n → (toLimbs n v).getD i 0 = v / B ^ i % B
  | 0, _, _, h => by omega
  | n + 1, 0, v, _ => by simp [toLimbs]
  | n + 1, i + 1, v, h => by
    simp only [toLimbs, List.getD_cons_succ]
    rw [toLimbs_getD n i (v / B) (by omega), Nat.div_div_eq_div_mul, pow_succ, Nat.mul_comm]

theorem Limbs_replicate_junk (n : Nat) : Limbs (List.replicate n junk) := by
  intro x hx
  rw [List.mem_replicate] at hx
  rw [hx.2, B_eq]; decide

theorem take_append_drop_len (l b : List Nat) (k : Nat) (hk : k ≤ l.length) :
    (l ++ b.drop l.length).take k = l.take k := by
  rw [List.take_append_of_le_length hk]

theorem length_wr (l b : List Nat) (h : l.length ≤ b.length) : (l ++ b.drop l.length).length = b.length := by
  simp; omega

theorem Limbs_wr {l b : List Nat} (hl : Limbs l) (hb : Limbs b) : Limbs (l ++ b.drop l.length) :=
  Limbs_append.mpr ⟨hl, Limbs_drop hb _⟩

theorem val_top {l : List Nat} (hL : Limbs l) (k : Nat) (hk : 1 ≤ k) (hkl : k ≤ l.length) :
    (l.getD (k - 1) 0 ≠ 0 ↔ B ^ (k - 1) ≤ val (l.take k)) := by
  have hlen : (l.take k).length = k := by rw [List.length_take]; omega
  have hne : l.take k ≠ [] := fun e => by rw [e] at hlen; simp at hlen; omega
  have hg : (l.take k).getD (k - 1) 0 = l.getD (k - 1) 0 := by
    rw [List.getD_eq_getElem?_getD, List.getElem?_take_of_lt (by omega), ← List.getD_eq_getElem?_getD]
  have h1 := normalized_iff_getD hne
  have h2 := normalized_iff_ge (Limbs_take hL _) hne
  rw [hlen] at h1 h2
  rw [← hg]; exact h1.symm.trans h2

theorem top_size {M k : Nat} (hlt : M < B ^ k) (hge : 2 ≤ k → B ^ (k - 2) ≤ M) (hk : 1 ≤ k) :
    k - (if M / B ^ (k - 1) % B = 0 then 1 else 0) = sizeNat M := by
  rw [Nat.mod_eq_of_lt (Nat.div_lt_of_lt_mul (by rw [← pow_succ, Nat.sub_add_cancel hk]; exact hlt))]
  exact (DivZ.sizeNat_isSize.eq_sub_top hk hlt hge).symm

/-! ### the invariant -/

/-- By `inj` different variables own different blocks, so two operands alias exactly when their ids are equal: a contract
    takes ids that may coincide and speaks of the values before the call. -/
structure Inv (s : St) : Prop where
  live : ∀ i, i < s.nv → ∃ l, s.blk (s.ptr i) = some l ∧ l.length = s.alloc i ∧ Limbs l
  inj : ∀ i j, i < s.nv → j < s.nv → s.ptr i = s.ptr j → i = j
  lt : ∀ i, i < s.nv → s.ptr i < s.next
  fresh : ∀ p, s.next ≤ p → s.blk p = none
  fits : ∀ i, i < s.nv → (s.size i).natAbs ≤ s.alloc i
  -- the size field is the limb count of the value with its sign: this is what says "top limb non-zero" (`top_ne_zero`)
  norm : ∀ i, i < s.nv → s.size i = siz (s.value i)

theorem sgnv_natAbs (sz : Int) (m : Nat) : (sgnv sz m).natAbs = m := by
  unfold sgnv; split <;> simp

theorem value_eq_sgnv (s : St) (v : Nat) : s.value v = sgnv (s.size v) (s.mag v) := rfl

theorem value_natAbs (s : St) (v : Nat) : (s.value v).natAbs = s.mag v := sgnv_natAbs _ _

theorem value_of_nonneg {s : St} {v : Nat} (hv : 0 ≤ s.value v) : s.value v = (s.mag v : Int) :=
  value_natAbs s v ▸ (Int.natAbs_of_nonneg hv).symm

theorem value_congr {s s' : St} {i : Nat} (h1 : s'.vars i = s.vars i)
    (h2 : s'.blk (s.ptr i) = s.blk (s.ptr i)) : s'.value i = s.value i := by
  unfold St.value St.mag St.limbs St.size St.ptr at *
  rw [h1, h2]

theorem limbs_congr {s s' : St} {i : Nat} (h1 : s'.vars i = s.vars i)
    (h2 : s'.blk (s.ptr i) = s.blk (s.ptr i)) : s'.limbs i = s.limbs i := by
  unfold St.limbs St.size St.ptr at *
  rw [h1, h2]

/-- Every step of the model is an instance: a block no variable points to changes, one variable `v` is written or gets a
    new block, a local is created or goes. -/
theorem Inv.of_agree_but {s s' : St} (h : Inv s) (v : Nat)
    (ho : ∀ i, i < s'.nv → i ≠ v → i < s.nv ∧ s'.vars i = s.vars i ∧ s'.blk (s.ptr i) = s.blk (s.ptr i))
    (hnext : s.next ≤ s'.next) (hfresh : ∀ p, s'.next ≤ p → s'.blk p = none)
    (hv : v < s'.nv → (∃ l, s'.blk (s'.ptr v) = some l ∧ l.length = s'.alloc v ∧ Limbs l) ∧ s'.ptr v < s'.next ∧
      (s'.size v).natAbs ≤ s'.alloc v ∧ s'.size v = siz (s'.value v) ∧ ∀ i, i < s'.nv → i ≠ v → s.ptr i ≠ s'.ptr v) :
    Inv s' ∧ ∀ i, i < s'.nv → i ≠ v → s'.value i = s.value i := by
  have hp : ∀ i, i < s'.nv → i ≠ v → s'.ptr i = s.ptr i := fun i hi hiv => congrArg Var.ptr (ho i hi hiv).2.1
  have hval : ∀ i, i < s'.nv → i ≠ v → s'.value i = s.value i := fun i hi hiv =>
    value_congr (ho i hi hiv).2.1 (ho i hi hiv).2.2
  refine ⟨⟨fun i hi => ?_, fun i j hi hj e => ?_, fun i hi => ?_, hfresh, fun i hi => ?_, fun i hi => ?_⟩, hval⟩
  · by_cases hiv : i = v
    · exact hiv ▸ (hv (hiv ▸ hi)).1
    · obtain ⟨l, hl, hlen, hL⟩ := h.live i (ho i hi hiv).1
      exact ⟨l, by rw [hp i hi hiv, (ho i hi hiv).2.2, hl], by unfold St.alloc; rw [(ho i hi hiv).2.1]; exact hlen, hL⟩
  · by_cases hiv : i = v <;> by_cases hjv : j = v
    · rw [hiv, hjv]
    · rw [hiv, hp j hj hjv] at e; exact absurd e.symm ((hv (hiv ▸ hi)).2.2.2.2 j hj hjv)
    · rw [hjv, hp i hi hiv] at e; exact absurd e ((hv (hjv ▸ hj)).2.2.2.2 i hi hiv)
    · rw [hp i hi hiv, hp j hj hjv] at e; exact h.inj i j (ho i hi hiv).1 (ho j hj hjv).1 e
  · by_cases hiv : i = v
    · exact hiv ▸ (hv (hiv ▸ hi)).2.1
    · rw [hp i hi hiv]; exact Nat.lt_of_lt_of_le (h.lt i (ho i hi hiv).1) hnext
  · by_cases hiv : i = v
    · exact hiv ▸ (hv (hiv ▸ hi)).2.2.1
    · unfold St.size St.alloc; rw [(ho i hi hiv).2.1]; exact h.fits i (ho i hi hiv).1
  · by_cases hiv : i = v
    · exact hiv ▸ (hv (hiv ▸ hi)).2.2.2.1
    · rw [hval i hi hiv]; unfold St.size; rw [(ho i hi hiv).2.1]; exact h.norm i (ho i hi hiv).1

theorem Inv.of_agree {s s' : St} (h : Inv s) (hnv : s'.nv ≤ s.nv) (hvars : ∀ i, i < s'.nv → s'.vars i = s.vars i)
    (hblk : ∀ i, i < s'.nv → s'.blk (s.ptr i) = s.blk (s.ptr i)) (hnext : s.next ≤ s'.next)
    (hfresh : ∀ p, s'.next ≤ p → s'.blk p = none) : Inv s' ∧ ∀ i, i < s'.nv → s'.value i = s.value i := by
  obtain ⟨i', v'⟩ := h.of_agree_but s'.nv (fun i hi _ => ⟨Nat.lt_of_lt_of_le hi hnv, hvars i hi, hblk i hi⟩) hnext hfresh
    (fun e => absurd e (Nat.lt_irrefl _))
  exact ⟨i', fun i hi => v' i hi (Nat.ne_of_lt hi)⟩

namespace Inv
variable {s : St}

theorem size_natAbs (h : Inv s) {i : Nat} (hi : i < s.nv) : (s.size i).natAbs = sizeNat (s.mag i) := by
  rw [h.norm i hi, DivZ.siz_natAbs, value_natAbs]

theorem size_neg_iff (h : Inv s) {i : Nat} (hi : i < s.nv) : s.size i < 0 ↔ s.value i < 0 := by
  rw [h.norm i hi, DivZ.siz_neg_iff]

theorem size_eq_zero_iff (h : Inv s) {i : Nat} (hi : i < s.nv) : s.size i = 0 ↔ s.value i = 0 := by
  rw [h.norm i hi, DivZ.siz_eq_zero]

theorem limbs_spec (h : Inv s) {i : Nat} (hi : i < s.nv) :
    (s.limbs i).length = (s.size i).natAbs ∧ Limbs (s.limbs i) := by
  obtain ⟨l, hl, hlen, hL⟩ := h.live i hi
  have := h.fits i hi
  unfold St.limbs; rw [hl]; simp only [Option.getD_some]
  exact ⟨by simp; omega, Limbs_take hL _⟩

theorem mag_lt (h : Inv s) {i : Nat} (hi : i < s.nv) : s.mag i < B ^ (s.size i).natAbs := by
  have := val_lt _ (h.limbs_spec hi).2
  rwa [(h.limbs_spec hi).1] at this

theorem mag_ge (h : Inv s) {i : Nat} (hi : i < s.nv) (h0 : s.size i ≠ 0) :
    B ^ ((s.size i).natAbs - 1) ≤ s.mag i := by
  have h1 := h.size_natAbs hi
  by_contra hc
  have : sizeNat (s.mag i) ≤ (s.size i).natAbs - 1 := (DivZ.sizeNat_le_iff _ _).mpr (by omega)
  omega

theorem load_var (h : Inv s) {i : Nat} (hi : i < s.nv) :
    s.load (s.ptr i) (s.size i).natAbs = .ok (s.limbs i) := by
  obtain ⟨l, hl, hlen, _⟩ := h.live i hi
  have := h.fits i hi
  unfold St.load St.limbs; rw [hl]; simp only [Option.getD_some]
  rw [if_pos (by omega)]

theorem top_ne_zero (h : Inv s) {i : Nat} (hi : i < s.nv) (h0 : s.size i ≠ 0) :
    (s.limbs i).getD ((s.size i).natAbs - 1) 0 ≠ 0 := by
  have hs := h.limbs_spec hi
  have hk : 1 ≤ (s.size i).natAbs := by omega
  rw [val_top hs.2 _ hk (by omega)]
  rw [List.take_of_length_le (by omega)]
  exact h.mag_ge hi h0

end Inv

/-- `l` is a non-zero operand of exactly `n` limbs, as the mpn functions want it: `Limbs l`, `Normalized l` and `l ≠ []`
    with the length named (`ge` is `Normalized.ge`; `AliasMpf.normOp_iff` is the bridge to `Mpf.Mant`) -/
structure NormOp (l : List Nat) (n : Nat) : Prop where
  len : l.length = n
  limbs : Limbs l
  pos : 1 ≤ n
  ge : B ^ (n - 1) ≤ val l

theorem NormOp.lt {l : List Nat} {n : Nat} (o : NormOp l n) : val l < B ^ n := o.len ▸ val_lt l o.limbs

theorem NormOp.top {l : List Nat} {n : Nat} (o : NormOp l n) : l.getD (n - 1) 0 ≠ 0 := by
  rw [val_top o.limbs n o.pos (Nat.le_of_eq o.len.symm), List.take_of_length_le (Nat.le_of_eq o.len)]
  exact o.ge

theorem Inv.normOp {s : St} (h : Inv s) {i : Nat} (hi : i < s.nv) (h0 : s.size i ≠ 0) :
    NormOp (s.limbs i) (s.size i).natAbs :=
  ⟨(h.limbs_spec hi).1, (h.limbs_spec hi).2, by omega, h.mag_ge hi h0⟩

/-! ### `Ext`: allocation and release of blocks no variable points to -/

/-- headers of the variables and every live block of `s` are unchanged in `s'` -/
structure Ext (s s' : St) : Prop where
  nv : s'.nv = s.nv
  vars : ∀ i, s'.vars i = s.vars i
  blk : ∀ p, s.blk p ≠ none → s'.blk p = s.blk p
  next : s.next ≤ s'.next

theorem Ext.refl (s : St) : Ext s s := ⟨rfl, fun _ => rfl, fun _ _ => rfl, Nat.le_refl _⟩

theorem Ext.trans {a b c : St} (h1 : Ext a b) (h2 : Ext b c) : Ext a c :=
  ⟨h2.nv.trans h1.nv, fun i => (h2.vars i).trans (h1.vars i),
   fun p hp => by rw [h2.blk p (by rw [h1.blk p hp]; exact hp), h1.blk p hp], Nat.le_trans h1.next h2.next⟩

namespace Ext
variable {s s' : St}

theorem size (h : Ext s s') (i : Nat) : s'.size i = s.size i := by unfold St.size; rw [h.vars]
theorem ptr (h : Ext s s') (i : Nat) : s'.ptr i = s.ptr i := by unfold St.ptr; rw [h.vars]
theorem alloc (h : Ext s s') (i : Nat) : s'.alloc i = s.alloc i := by unfold St.alloc; rw [h.vars]

theorem value (h : Ext s s') (hs : Inv s) {i : Nat} (hi : i < s.nv) : s'.value i = s.value i := by
  obtain ⟨l, hl, _⟩ := hs.live i hi
  exact value_congr (h.vars i) (h.blk _ (by rw [hl]; simp))

theorem load (h : Ext s s') {p n : Nat} {l : List Nat} (hl : s.load p n = .ok l) : s'.load p n = .ok l := by
  unfold St.load at *
  cases hb : s.blk p with
  | none => rw [hb] at hl; simp at hl
  | some b => rw [h.blk p (by rw [hb]; simp), hb]; rw [hb] at hl; exact hl

end Ext

theorem St.ext' {a b : St} (h1 : a.nv = b.nv) (h2 : ∀ i, a.vars i = b.vars i) (h3 : ∀ q, a.blk q = b.blk q)
    (h4 : a.next = b.next) : a = b := by
  cases a; cases b
  simp only [St.mk.injEq] at *
  exact ⟨h1, funext h2, funext h3, h4⟩

theorem setBlk_blk_self (s : St) (p : Nat) (x : Option (List Nat)) : (s.setBlk p x).blk p = x := if_pos rfl

theorem setBlk_blk_ne (s : St) {p q : Nat} (x : Option (List Nat)) (h : q ≠ p) : (s.setBlk p x).blk q = s.blk q :=
  if_neg h

theorem setBlk_same (s : St) {p : Nat} {b : List Nat} (hb : s.blk p = some b) : s.setBlk p (some b) = s := by
  cases s with
  | mk nv vars blk next =>
    simp only [St.setBlk, St.mk.injEq, true_and, and_true]
    funext q
    by_cases e : q = p
    · rw [if_pos e, e]; exact hb.symm
    · rw [if_neg e]

theorem malloc_fst (s : St) (l : List Nat) : (s.malloc l).1 = s.next := rfl

theorem malloc_blk_new (s : St) (l : List Nat) : (s.malloc l).2.blk s.next = some l := by
  simp [St.malloc, St.setBlk]

theorem malloc_ext {s : St} (h : Inv s) (l : List Nat) : Ext s (s.malloc l).2 := by
  refine ⟨rfl, fun _ => rfl, fun p hp => ?_, by simp [St.malloc]⟩
  have : p ≠ s.next := fun e => hp (by rw [e]; exact h.fresh _ (Nat.le_refl _))
  simp [St.malloc, St.setBlk, this]

theorem malloc_inv {s : St} (h : Inv s) (l : List Nat) : Inv (s.malloc l).2 :=
  (h.of_agree (s' := (s.malloc l).2) (Nat.le_refl _) (fun _ _ => rfl)
    (fun i hi => setBlk_blk_ne _ _ (Nat.ne_of_lt (h.lt i hi))) (Nat.le_succ _)
    (fun p hp => (setBlk_blk_ne _ _ (Nat.ne_of_gt hp)).trans (h.fresh p (Nat.le_of_succ_le hp)))).1

theorem malloc_ne_ptr {s : St} (h : Inv s) {i : Nat} (hi : i < s.nv) : s.ptr i ≠ s.next :=
  Nat.ne_of_lt (h.lt i hi)

theorem free_inv {s : St} (h : Inv s) (p : Nat) (hp : ∀ i, i < s.nv → s.ptr i ≠ p) :
    Inv (s.free p) ∧ (s.free p).nv = s.nv ∧ (∀ i, (s.free p).vars i = s.vars i) ∧
    ∀ i, i < s.nv → (s.free p).value i = s.value i := by
  obtain ⟨i', v'⟩ := h.of_agree (s' := s.free p) (Nat.le_refl _) (fun _ _ => rfl) (fun i hi => setBlk_blk_ne _ _ (hp i hi))
    (Nat.le_refl _) (fun q hq => by
      by_cases e : q = p
      · rw [e]; exact setBlk_blk_self _ _ _
      · exact (setBlk_blk_ne _ _ e).trans (h.fresh q hq))
  exact ⟨i', rfl, fun _ => rfl, v'⟩

theorem setBlk_nonvar {s : St} (h : Inv s) {p : Nat} (hp : ∀ i, i < s.nv → s.ptr i ≠ p) (hlt : p < s.next)
    (b : List Nat) :
    Inv (s.setBlk p (some b)) ∧ (∀ i, i < s.nv → (s.setBlk p (some b)).value i = s.value i) :=
  h.of_agree (s' := s.setBlk p (some b)) (Nat.le_refl _) (fun _ _ => rfl) (fun i hi => setBlk_blk_ne _ _ (hp i hi))
    (Nat.le_refl _) (fun q hq => (setBlk_blk_ne _ _ (Nat.ne_of_gt (Nat.lt_of_lt_of_le hlt hq))).trans (h.fresh q hq))

/-! ### `Same`, `MPZ_REALLOC` -/

/-- what `MPZ_REALLOC`, `TMP_ALLOC` and `TMP_FREE` of scratch blocks leave of a state.  Facts about an operand are stated
    once, about the state at entry, and read off `s'` through this. -/
structure Same (s s' : St) : Prop where
  nv : s'.nv = s.nv
  size : ∀ i, s'.size i = s.size i
  limbs : ∀ i, i < s.nv → s'.limbs i = s.limbs i
  alloc : ∀ i, s.alloc i ≤ s'.alloc i

theorem Same.refl (s : St) : Same s s := ⟨rfl, fun _ => rfl, fun _ _ => rfl, fun _ => Nat.le_refl _⟩

namespace Same
variable {s s' : St}

theorem trans {s'' : St} (a : Same s s') (b : Same s' s'') : Same s s'' :=
  ⟨b.nv.trans a.nv, fun i => (b.size i).trans (a.size i),
   fun i hi => (b.limbs i (a.nv ▸ hi)).trans (a.limbs i hi), fun i => Nat.le_trans (a.alloc i) (b.alloc i)⟩

theorem lt (k : Same s s') {i : Nat} (hi : i < s.nv) : i < s'.nv := k.nv ▸ hi

theorem mag (k : Same s s') {i : Nat} (hi : i < s.nv) : s'.mag i = s.mag i := by
  unfold St.mag; rw [k.limbs i hi]

theorem value (k : Same s s') {i : Nat} (hi : i < s.nv) : s'.value i = s.value i := by
  unfold St.value; rw [k.size, k.mag hi]

theorem load (k : Same s s') (h' : Inv s') {i : Nat} (hi : i < s.nv) :
    s'.load (s'.ptr i) (s.size i).natAbs = .ok (s.limbs i) := by
  have := h'.load_var (k.lt hi); rwa [k.size, k.limbs i hi] at this

end Same

theorem Ext.same {s s' : St} (x : Ext s s') (h : Inv s) : Same s s' :=
  ⟨x.nv, x.size, fun i hi => by
    obtain ⟨l, hl, _⟩ := h.live i hi
    exact limbs_congr (x.vars i) (x.blk _ (by rw [hl]; simp)), fun i => Nat.le_of_eq (x.alloc i).symm⟩

theorem realloc_noop {s : St} {v n : Nat} (h : ¬ s.alloc v < n) : s.mpzRealloc v n = s := by
  simp [St.mpzRealloc, h]

theorem realloc_ptr (s : St) (v n i : Nat) :
    (s.mpzRealloc v n).ptr i = if i = v ∧ s.alloc v < n then s.next else s.ptr i := by
  by_cases hlt : s.alloc v < n
  · by_cases hiv : i = v <;> simp [St.mpzRealloc, hlt, St.setVar, St.malloc, St.free, St.setBlk, St.ptr, hiv]
  · simp [St.mpzRealloc, hlt]

theorem realloc_blk_ne (s : St) (v n p : Nat) (h1 : p ≠ s.ptr v) (h2 : p ≠ s.next) :
    (s.mpzRealloc v n).blk p = s.blk p := by
  unfold St.mpzRealloc; split
  · simp [St.setVar, St.malloc, St.free, St.setBlk, h1, h2]
  · rfl

theorem realloc_blk_o {s : St} {v : Nat} (n p : Nat) (hp : p ≠ s.ptr v) (hlt : p < s.next) :
    (s.mpzRealloc v n).blk p = s.blk p := realloc_blk_ne s v n p hp (Nat.ne_of_lt hlt)

theorem realloc_next_le (s : St) (v n : Nat) : s.next ≤ (s.mpzRealloc v n).next := by
  by_cases hlt' : s.alloc v < n
  · simp [St.mpzRealloc, hlt', St.setVar, St.malloc, St.free, St.setBlk]
  · simp [St.mpzRealloc, hlt']

/-- `MPZ_REALLOC (v, n)` -/
theorem realloc_same {s : St} (h : Inv s) {v : Nat} (hv : v < s.nv) (n : Nat) :
    Inv (s.mpzRealloc v n) ∧ Same s (s.mpzRealloc v n) ∧ n ≤ (s.mpzRealloc v n).alloc v := by
  by_cases hlt : s.alloc v < n
  · obtain ⟨l, hl, hlen, hL⟩ := h.live v hv
    have hfit := h.fits v hv
    have hvars : ∀ i, (s.mpzRealloc v n).vars i =
        if i = v then { alloc := n, size := s.size v, ptr := s.next } else s.vars i := fun i => by
      simp [St.mpzRealloc, hlt, St.setVar, St.malloc, St.free, St.setBlk]
    have hblk : ∀ q, (s.mpzRealloc v n).blk q =
        if q = s.next then some (l ++ List.replicate (n - l.length) junk)
        else if q = s.ptr v then none else s.blk q := fun q => by
      simp [St.mpzRealloc, hlt, St.setVar, St.malloc, St.free, St.setBlk, hl]
    have hnext : (s.mpzRealloc v n).next = s.next + 1 := by
      simp [St.mpzRealloc, hlt, St.setVar, St.malloc, St.free, St.setBlk]
    have hnv : (s.mpzRealloc v n).nv = s.nv := by
      simp [St.mpzRealloc, hlt, St.setVar, St.malloc, St.free, St.setBlk]
    have hsize : ∀ i, (s.mpzRealloc v n).size i = s.size i := fun i => by
      unfold St.size; rw [hvars]; split
      · next e => subst e; rfl
      · rfl
    have hptr_v : (s.mpzRealloc v n).ptr v = s.next := by rw [realloc_ptr, if_pos ⟨rfl, hlt⟩]
    have halloc_v : (s.mpzRealloc v n).alloc v = n := by unfold St.alloc; rw [hvars]; simp
    have halloc_o : ∀ i, i ≠ v → (s.mpzRealloc v n).alloc i = s.alloc i := fun i hi => by
      unfold St.alloc; rw [hvars]; simp [hi]
    have hblk_o : ∀ i, i < s.nv → i ≠ v → (s.mpzRealloc v n).blk (s.ptr i) = s.blk (s.ptr i) := fun i hi hiv =>
      realloc_blk_o n _ (fun e => hiv (h.inj i v hi hv e)) (h.lt i hi)
    have k : Same s (s.mpzRealloc v n) := ⟨hnv, hsize, fun i hi => by
      by_cases hiv : i = v
      · subst hiv
        unfold St.limbs
        rw [hsize, hptr_v, hblk, hl]
        simp only [if_true, Option.getD_some]
        rw [List.take_append_of_le_length (by omega)]
      · exact limbs_congr (by rw [hvars]; simp [hiv]) (hblk_o i hi hiv), fun i => by
      by_cases hiv : i = v
      · rw [hiv, halloc_v]; omega
      · rw [halloc_o i hiv]⟩
    obtain ⟨i', _⟩ := h.of_agree_but (s' := s.mpzRealloc v n) v
      (fun i hi hiv => by rw [hnv] at hi; exact ⟨hi, by rw [hvars, if_neg hiv], hblk_o i hi hiv⟩)
      (by rw [hnext]; exact Nat.le_succ _)
      (fun q hq => by
        rw [hnext] at hq
        have := h.lt v hv
        rw [hblk, if_neg (by omega), if_neg (by omega)]; exact h.fresh q (by omega))
      (fun _ => ⟨⟨l ++ List.replicate (n - l.length) junk, by rw [hptr_v, hblk, if_pos rfl],
          by rw [halloc_v]; simp; omega, Limbs_append.mpr ⟨hL, Limbs_replicate_junk _⟩⟩,
        by rw [hptr_v, hnext]; exact Nat.lt_succ_self _, by rw [hsize, halloc_v]; omega,
        by rw [hsize, k.value hv]; exact h.norm v hv,
        fun i hi _ => by rw [hptr_v]; rw [hnv] at hi; exact Nat.ne_of_lt (h.lt i hi)⟩)
    exact ⟨i', k, by omega⟩
  · rw [realloc_noop hlt]
    exact ⟨h, Same.refl s, by omega⟩

/-! ### writing a variable

`put_ok` is the general statement; `put_toLimbs`, `put_upd`, `store_put` and, in AliasMemOps, `put_wrAt`, `put_list`,
`put_wrAt0`, `put_signed` are it at the shapes the C writes. -/

/-- replace the block of `v` by `b` and set `SIZ (v) = sz` -/
def St.put (s : St) (v : Nat) (b : List Nat) (sz : Int) : St := (s.setBlk (s.ptr v) (some b)).setSize v sz

/-- everything but the variable `v` (header and block) is the same in `s'` -/
structure Upd (s s' : St) (v : Nat) : Prop where
  nv : s'.nv = s.nv
  next : s'.next = s.next
  vars_o : ∀ i, i ≠ v → s'.vars i = s.vars i
  ptr : ∀ i, s'.ptr i = s.ptr i
  alloc : ∀ i, s'.alloc i = s.alloc i
  blk_o : ∀ p, p ≠ s.ptr v → s'.blk p = s.blk p

theorem Upd.trans {a b c : St} {v : Nat} (h1 : Upd a b v) (h2 : Upd b c v) : Upd a c v :=
  ⟨h2.nv.trans h1.nv, h2.next.trans h1.next, fun i hi => (h2.vars_o i hi).trans (h1.vars_o i hi),
    fun i => (h2.ptr i).trans (h1.ptr i), fun i => (h2.alloc i).trans (h1.alloc i),
    fun p hp => (h2.blk_o p (by rw [h1.ptr]; exact hp)).trans (h1.blk_o p hp)⟩

theorem Upd.value_o {s s' : St} {v : Nat} (u : Upd s s' v) (h : Inv s) (hv : v < s.nv) {i : Nat}
    (hi : i < s.nv) (hiv : i ≠ v) : s'.value i = s.value i :=
  value_congr (u.vars_o i hiv) (u.blk_o _ (fun e => hiv (h.inj i v hi hv e)))

theorem Upd.size_o {s s' : St} {v : Nat} (u : Upd s s' v) {i : Nat} (hiv : i ≠ v) : s'.size i = s.size i := by
  unfold St.size; rw [u.vars_o i hiv]

theorem Upd.load_o {s s' : St} {v : Nat} (u : Upd s s' v) {p n : Nat} (hp : p ≠ s.ptr v) :
    s'.load p n = s.load p n := by
  unfold St.load; rw [u.blk_o p hp]

theorem siz_sgnv {sz : Int} {m : Nat} (h : sz.natAbs = sizeNat m) : siz (sgnv sz m) = sz := by
  have h0 := @DivZ.sizeNat_eq_zero m
  unfold siz sgnv
  split <;> split <;> simp only [Int.natAbs_neg, Int.natAbs_natCast] <;> omega

theorem put_ok {s : St} (h : Inv s) {v : Nat} (hv : v < s.nv) (b : List Nat) (m : Nat) (sz : Int)
    (hlen : b.length = s.alloc v) (hL : Limbs b) (hsz : sz.natAbs = sizeNat m) (hk : sizeNat m ≤ s.alloc v)
    (hval : val (b.take (sizeNat m)) = m) :
    Inv (s.put v b sz) ∧ Upd s (s.put v b sz) v ∧ (s.put v b sz).value v = sgnv sz m := by
  have hvars_o : ∀ i, i ≠ v → (s.put v b sz).vars i = s.vars i := fun i hi => by
    simp [St.put, St.setSize, St.setVar, St.setBlk, hi]
  have hvars_v : (s.put v b sz).vars v = { s.vars v with size := sz } := by
    simp [St.put, St.setSize, St.setVar, St.setBlk]
  have hptr : ∀ i, (s.put v b sz).ptr i = s.ptr i := fun i => by
    unfold St.ptr
    by_cases hi : i = v
    · rw [hi, hvars_v]
    · rw [hvars_o i hi]
  have halloc : ∀ i, (s.put v b sz).alloc i = s.alloc i := fun i => by
    unfold St.alloc
    by_cases hi : i = v
    · rw [hi, hvars_v]
    · rw [hvars_o i hi]
  have hsize_v : (s.put v b sz).size v = sz := by unfold St.size; rw [hvars_v]
  have hblk : ∀ p, (s.put v b sz).blk p = if p = s.ptr v then some b else s.blk p := fun p => rfl
  have u : Upd s (s.put v b sz) v := ⟨rfl, rfl, hvars_o, hptr, halloc, fun p hp => by rw [hblk, if_neg hp]⟩
  have hvalv : (s.put v b sz).value v = sgnv sz m := by
    unfold St.value St.mag St.limbs
    rw [hsize_v, hptr, hblk, if_pos rfl, Option.getD_some, hsz, hval]; rfl
  obtain ⟨i', _⟩ := h.of_agree_but (s' := s.put v b sz) v
    (fun i hi hiv => ⟨hi, hvars_o i hiv, u.blk_o _ (fun e => hiv (h.inj i v hi hv e))⟩) (Nat.le_refl _)
    (fun q hq => by rw [hblk, if_neg (Nat.ne_of_gt (Nat.lt_of_lt_of_le (h.lt v hv) hq))]; exact h.fresh q hq)
    (fun _ => ⟨⟨b, by rw [hptr, hblk, if_pos rfl], by rw [halloc]; exact hlen, hL⟩, by rw [hptr]; exact h.lt v hv,
      by rw [hsize_v, halloc, hsz]; exact hk, by rw [hsize_v, hvalv, siz_sgnv hsz],
      fun i hi hiv => by rw [hptr]; exact fun e => hiv (h.inj i v hi hv e)⟩)
  exact ⟨i', u, hvalv⟩

/-- a size only gives a sign, and the sign of zero does not matter -/
theorem sgnv_congr {a b : Int} {m : Nat} (h : m ≠ 0 → (a < 0 ↔ b < 0)) : sgnv a m = sgnv b m := by
  unfold sgnv
  by_cases hm : m = 0
  · subst hm; simp
  · simp only [h hm]

theorem sgnv_of_iff {sz : Int} {c : Prop} [Decidable c] (h : sz < 0 ↔ c) (m : Nat) :
    sgnv sz m = if c then -(m : Int) else (m : Int) := if_congr h rfl rfl

theorem Inv.sgnv_size {s : St} (h : Inv s) {i : Nat} (hi : i < s.nv) (m : Nat) :
    sgnv (s.size i) m = if s.value i < 0 then -(m : Int) else (m : Int) := sgnv_of_iff (h.size_neg_iff hi) m

theorem sgnv_ge (sz : Int) (m : Nat) : sgnv sz m = if sz ≥ 0 then (m : Int) else -(m : Int) :=
  (sgnv_of_iff Int.not_le.symm m).trans (ite_not _ _ _)

theorem tdiv_sgnv (sz : Int) (m u : Nat) : Int.tdiv (sgnv sz m) u = sgnv sz (m / u) := by
  unfold sgnv; split
  · rw [Int.neg_tdiv]; norm_cast
  · norm_cast

theorem tmod_sgnv (sz : Int) (m u : Nat) : Int.tmod (sgnv sz m) u = sgnv sz (m % u) := by
  unfold sgnv; split
  · rw [Int.neg_tmod]; norm_cast
  · norm_cast

theorem sgnv_natCast (k m : Nat) : sgnv (k : Int) m = m := if_neg (Int.not_lt.mpr (Int.natCast_nonneg k))

theorem sgnv_ofBool (neg : Bool) (k m : Nat) (h : k = 0 → m = 0) :
    sgnv (if neg then -(k : Int) else (k : Int)) m = if neg then -(m : Int) else (m : Int) := by
  unfold sgnv
  cases neg
  · simp
  · simp only [if_true]
    by_cases hk : k = 0
    · simp [hk, h hk]
    · rw [if_pos (by omega)]

theorem sgnv_ite (c : Prop) [Decidable c] (k m : Nat) (h : k = 0 → m = 0) :
    sgnv (if c then (k : Int) else -(k : Int)) m = if c then (m : Int) else -(m : Int) := by
  have := sgnv_ofBool (!decide c) k m h
  by_cases hc : c <;> simpa [hc] using this

theorem put_toLimbs {s : St} (h : Inv s) {v : Nat} (hv : v < s.nv) {b : List Nat} (hb : s.blk (s.ptr v) = some b)
    (n m : Nat) (sz : Int) (hn : n ≤ s.alloc v) (hm : m < B ^ n) (hsz : sz.natAbs = sizeNat m) :
    Inv (s.put v (toLimbs n m ++ b.drop n) sz) ∧ Upd s (s.put v (toLimbs n m ++ b.drop n) sz) v ∧
      (s.put v (toLimbs n m ++ b.drop n) sz).value v = sgnv sz m := by
  obtain ⟨b', hb', hlen, hL⟩ := h.live v hv
  obtain rfl : b' = b := Option.some.inj (hb'.symm.trans hb)
  have hk : sizeNat m ≤ n := (DivZ.sizeNat_le_iff _ _).mpr hm
  refine put_ok h hv _ m sz ?_ (Limbs_append.mpr ⟨Limbs_toLimbs _ _, Limbs_drop hL _⟩) hsz (by omega) ?_
  · rw [List.length_append, toLimbs_length, List.length_drop]; omega
  · rw [List.take_append_of_le_length (by rw [toLimbs_length]; exact hk), toLimbs_take _ _ _ hk]
    exact val_toLimbs_lt _ _ (DivZ.lt_B_pow_sizeNat _)

theorem put_upd {s : St} (h : Inv s) {v : Nat} (hv : v < s.nv) (b : List Nat) (m : Nat) (neg : Bool)
    (hlen : b.length = s.alloc v) (hL : Limbs b) (hk : sizeNat m ≤ s.alloc v)
    (hval : val (b.take (sizeNat m)) = m) :
    Inv (s.put v b (if neg then -(sizeNat m : Int) else (sizeNat m : Int))) ∧
    Upd s (s.put v b (if neg then -(sizeNat m : Int) else (sizeNat m : Int))) v ∧
    (s.put v b (if neg then -(sizeNat m : Int) else (sizeNat m : Int))).value v = (if neg then -(m : Int) else (m : Int)) := by
  obtain ⟨i1, u, e⟩ := put_ok h hv b m (if neg then -(sizeNat m : Int) else sizeNat m) hlen hL (by split <;> simp) hk hval
  exact ⟨i1, u, by rw [e, sgnv_ofBool _ _ _ DivZ.sizeNat_eq_zero.mp]⟩

theorem store_var {s : St} (h : Inv s) {v : Nat} (hv : v < s.nv) (l : List Nat) (hl : l.length ≤ s.alloc v) :
    ∃ b, s.blk (s.ptr v) = some b ∧ b.length = s.alloc v ∧ Limbs b ∧
      s.store (s.ptr v) l = .ok (s.setBlk (s.ptr v) (some (l ++ b.drop l.length))) := by
  obtain ⟨b, hb, hlen, hL⟩ := h.live v hv
  refine ⟨b, hb, hlen, hL, ?_⟩
  unfold St.store; rw [hb]; simp only []
  rw [if_pos (by omega)]

theorem store_vars {s X : St} {p : Nat} {l : List Nat} (h : s.store p l = .ok X) : X.vars = s.vars := by
  unfold St.store at h
  cases hb : s.blk p with
  | none => rw [hb] at h; simp at h
  | some b =>
    rw [hb] at h; simp only [] at h
    split at h
    · cases h; rfl
    · simp at h

theorem val_take_sizeNat (l : List Nat) : val (l.take (sizeNat (val l))) = val l := by
  have h1 := val_split l (sizeNat (val l))
  have h2 := DivZ.sizeNat_isSize.lt_pow (val l)
  have h3 : val (l.drop (sizeNat (val l))) = 0 := by
    by_contra hc
    have := Nat.le_mul_of_pos_right (B ^ sizeNat (val l)) (Nat.pos_of_ne_zero hc)
    omega
  rw [h3, Nat.mul_zero, Nat.add_zero] at h1; exact h1.symm

theorem store_put {s : St} (h : Inv s) {v : Nat} (hv : v < s.nv) (l : List Nat) (sz : Int) (hl : l.length ≤ s.alloc v)
    (hL : Limbs l) (hsz : sz.natAbs = sizeNat (val l)) :
    ∃ X, s.store (s.ptr v) l = .ok X ∧ Inv (X.setSize v sz) ∧ Upd s (X.setSize v sz) v ∧
      (X.setSize v sz).value v = sgnv sz (val l) := by
  obtain ⟨b, hb, hlen, hbL, hst⟩ := store_var h hv l hl
  have hk : sizeNat (val l) ≤ l.length := (DivZ.sizeNat_le_iff _ _).mpr (val_lt l hL)
  exact ⟨_, hst, put_ok h hv (l ++ b.drop l.length) (val l) sz (by rw [length_wr _ _ (by omega)]; exact hlen)
    (Limbs_wr hL hbL) hsz (by omega) (by rw [List.take_append_of_le_length hk]; exact val_take_sizeNat l)⟩

/-! ### `Res`: the result of a function with one output -/

/-- one-output result: `w` holds `z`, the other variables keep their values -/
def Res (s s' : St) (w : Nat) (z : Int) : Prop :=
  Inv s' ∧ s'.nv = s.nv ∧ s'.value w = z ∧ ∀ i, i < s.nv → i ≠ w → s'.value i = s.value i

theorem Upd.res {s s' : St} {v : Nat} (u : Upd s s' v) (h : Inv s) (hv : v < s.nv) (h' : Inv s') {z : Int}
    (e : s'.value v = z) : Res s s' v z :=
  ⟨h', u.nv, e, fun _ hi hiv => u.value_o h hv hi hiv⟩

theorem Same.res {s s1 s' : St} (k : Same s s1) {w : Nat} {z : Int} (r : Res s1 s' w z) : Res s s' w z :=
  ⟨r.1, r.2.1.trans k.nv, r.2.2.1, fun i hi hiw => (r.2.2.2 i (k.lt hi) hiw).trans (k.value hi)⟩

theorem setInt_spec {s : St} (h : Inv s) {v : Nat} (hv : v < s.nv) (z : Int) (hz : sizeNat z.natAbs ≤ s.alloc v) :
    ∃ s', s.setInt v z = .ok s' ∧ Res s s' v z ∧ Upd s s' v := by
  have hlt := DivZ.lt_B_pow_sizeNat z.natAbs
  obtain ⟨X, eX, iX, uX, vX⟩ := store_put h hv (toLimbs (sizeNat z.natAbs) z.natAbs) (siz z)
    (by rw [toLimbs_length]; exact hz) (Limbs_toLimbs _ _) (by rw [val_toLimbs_lt _ _ hlt, DivZ.siz_natAbs])
  refine ⟨_, ?_, uX.res h hv iX ?_, uX⟩
  · simp only [St.setInt, bind, Except.bind, eX, pure, Except.pure]
  · rw [vX, val_toLimbs_lt _ _ hlt]
    have := @DivZ.siz_neg_iff z
    unfold sgnv; split <;> omega

theorem setSize_eq_put (s : St) {v : Nat} {b : List Nat} (hb : s.blk (s.ptr v) = some b) (z : Int) :
    s.setSize v z = s.put v b z := by
  unfold St.put; rw [setBlk_same s hb]

theorem setSize_zero_spec {s : St} (h : Inv s) {v : Nat} (hv : v < s.nv) :
    Inv (s.setSize v 0) ∧ Upd s (s.setSize v 0) v ∧ (s.setSize v 0).value v = 0 := by
  obtain ⟨b, hb, hbl, hbL⟩ := h.live v hv
  have hz : sizeNat 0 = 0 := DivZ.sizeNat_eq_zero.mpr rfl
  rw [setSize_eq_put s hb]
  exact put_ok h hv b 0 0 hbl hbL hz.symm (by omega) (by rw [hz]; rfl)

theorem sgnv_neg (sz : Int) (m : Nat) (h : sz = 0 → m = 0) : sgnv (-sz) m = -(sgnv sz m) := by
  unfold sgnv
  by_cases h0 : sz = 0
  · simp [h0, h h0]
  · by_cases h1 : sz < 0
    · rw [if_neg (by omega), if_pos h1]; omega
    · rw [if_pos (by omega), if_neg h1]

theorem Inv.mag_zero {s : St} (h : Inv s) {i : Nat} (hi : i < s.nv) (h0 : s.size i = 0) : s.mag i = 0 := by
  have := h.mag_lt hi; rw [h0] at this; simpa using this

/-! ### the size of a sum -/

theorem sizeNat_add_le {a b k : Nat} (ha : a < B ^ k) (hb : b < B ^ k) : sizeNat (a + b) ≤ k + 1 :=
  Nat.le_trans (DivZ.sizeNat_isSize.add_le a b)
    (Nat.succ_le_succ (Nat.max_le.mpr ⟨(DivZ.sizeNat_le_iff _ _).mpr ha, (DivZ.sizeNat_le_iff _ _).mpr hb⟩))

theorem pow_le_max_l (a b : Nat) : B ^ a ≤ B ^ max a b := Nat.pow_le_pow_right B_pos (Nat.le_max_left _ _)
theorem pow_le_max_r (a b : Nat) : B ^ b ≤ B ^ max a b := Nat.pow_le_pow_right B_pos (Nat.le_max_right _ _)

theorem sizeNat_natAbs_add_le {x y : Int} {k : Nat} (hx : x.natAbs < B ^ k) (hy : y.natAbs < B ^ k) :
    sizeNat (x + y).natAbs ≤ k + 1 := by
  have h1 := sizeNat_add_le hx hy
  rw [DivZ.sizeNat_le_iff] at h1 ⊢
  exact Nat.lt_of_le_of_lt (Int.natAbs_add_le x y) h1

/-! ### `load` and `store` on a known block; the TMP copy of an operand (`copyIf`) -/

theorem load_blk {s : St} {p n : Nat} {b : List Nat} (h : s.blk p = some b) (hn : n ≤ b.length) :
    s.load p n = .ok (b.take n) := by
  unfold St.load; rw [h]; simp only []; rw [if_pos hn]

theorem store_blk {s : St} {p : Nat} {l b : List Nat} (h : s.blk p = some b) (hn : l.length ≤ b.length) :
    s.store p l = .ok (s.setBlk p (some (l ++ b.drop l.length))) := by
  unfold St.store; rw [h]; simp only []; rw [if_pos hn]

theorem load_length {s : St} {p n : Nat} {l : List Nat} (h : s.load p n = .ok l) : l.length = n := by
  unfold St.load at h
  cases hb : s.blk p with
  | none => rw [hb] at h; simp at h
  | some b =>
    rw [hb] at h; simp only [] at h
    split at h
    · next hn => cases h; simp; omega
    · simp at h

theorem load_Limbs {s : St} (hs : Inv s) {i n : Nat} (hi : i < s.nv) {l : List Nat}
    (h : s.load (s.ptr i) n = .ok l) : Limbs l := by
  obtain ⟨b, hb, _, hL⟩ := hs.live i hi
  unfold St.load at h; rw [hb] at h; simp only [] at h
  split at h
  · cases h; exact Limbs_take hL _
  · simp at h

theorem load_of_blk {s : St} {p : Nat} {l : List Nat} (h : s.blk p = some l) : s.load p l.length = .ok l := by
  unfold St.load; rw [h]; simp

theorem copyIf_spec {s : St} (h : Inv s) (c : Bool) {p n : Nat} {l : List Nat} (hl : s.load p n = .ok l) :
    ∃ p' s', s.copyIf c p n = .ok (p', s') ∧ Inv s' ∧ Ext s s' ∧ s'.load p' n = .ok l ∧
      (c = true → p' = s.next ∧ s'.next = s.next + 1) ∧ (c = false → p' = p ∧ s' = s) := by
  cases c
  · exact ⟨p, s, by simp [St.copyIf, pure, Except.pure], h, Ext.refl s, hl, by simp, by simp⟩
  · refine ⟨s.next, (s.malloc l).2, ?_, malloc_inv h l, malloc_ext h l, ?_, by simp [St.malloc], by simp⟩
    · simp only [St.copyIf, St.tmpCopy, bind, Except.bind, hl, pure, Except.pure, if_true]
      rfl
    · have := load_of_blk (malloc_blk_new s l)
      rwa [load_length hl] at this

/-- the operand pair of the division wrappers and of the logic functions, each copied to a TMP block if it is the destination -/
theorem copyIf2_spec {s : St} (h : Inv s) (c1 c2 : Bool) {p1 n1 p2 n2 : Nat} {l1 l2 : List Nat}
    (h1 : s.load p1 n1 = .ok l1) (h2 : s.load p2 n2 = .ok l2) :
    ∃ q1 s1 q2 s2, s.copyIf c1 p1 n1 = .ok (q1, s1) ∧ s1.copyIf c2 p2 n2 = .ok (q2, s2) ∧ Inv s2 ∧ Ext s s2 ∧
      s2.load q1 n1 = .ok l1 ∧ s2.load q2 n2 = .ok l2 ∧
      (∀ q, q < s.next → (c1 = false → p1 ≠ q) → q1 ≠ q) ∧ (∀ q, q < s.next → (c2 = false → p2 ≠ q) → q2 ≠ q) ∧
      (c1 = false → q1 = p1) ∧ (c2 = false → q2 = p2) ∧
      (c1 = true → s.next ≤ q1 ∧ q1 < s2.next) ∧ (c2 = true → s.next ≤ q2 ∧ q2 < s2.next) := by
  obtain ⟨q1, s1, e1, i1, x1, l1', t1, f1⟩ := copyIf_spec h c1 h1
  obtain ⟨q2, s2, e2, i2, x2, l2', t2, f2⟩ := copyIf_spec i1 c2 (x1.load h2)
  have hx1 := x1.next
  have hx2 := x2.next
  refine ⟨q1, s1, q2, s2, e1, e2, i2, x1.trans x2, x2.load l1', l2', fun q hq hne => ?_, fun q hq hne => ?_,
    fun e => (f1 e).1, fun e => (f2 e).1, fun e => ?_, fun e => ?_⟩
  · cases c1
    · rw [(f1 rfl).1]; exact hne rfl
    · rw [(t1 rfl).1]; omega
  · cases c2
    · rw [(f2 rfl).1]; exact hne rfl
    · rw [(t2 rfl).1]; omega
  · rw [(t1 e).1]; have := (t1 e).2; omega
  · rw [(t2 e).1]; have := (t2 e).2; omega

theorem mem_tmps {c1 c2 : Bool} {q1 q2 p : Nat} {P : Nat → Prop} (h1 : c1 = true → P q1) (h2 : c2 = true → P q2)
    (hp : p ∈ (if c1 = true then [q1] else []) ++ (if c2 = true then [q2] else [])) : P p := by
  rcases List.mem_append.mp hp with hp | hp
  · cases c1
    · simp at hp
    · simp at hp; rw [hp]; exact h1 rfl
  · cases c2
    · simp at hp
    · simp at hp; rw [hp]; exact h2 rfl

/-! ### `TMP_FREE` -/

theorem free_list_inv : ∀ (l : List Nat) {s : St}, Inv s → (∀ p, p ∈ l → ∀ i, i < s.nv → s.ptr i ≠ p) →
    Inv (l.foldl St.free s) ∧ (l.foldl St.free s).nv = s.nv ∧ ∀ i, i < s.nv → (l.foldl St.free s).value i = s.value i
  | [], s, h, _ => ⟨h, rfl, fun _ _ => rfl⟩
  | p :: l, s, h, hp => by
    obtain ⟨i1, n1, v1, e1⟩ := free_inv h p (hp p (by simp))
    have := free_list_inv l i1 (fun p' hp' i hi => by
      rw [n1] at hi
      have : (s.free p).ptr i = s.ptr i := by unfold St.ptr; rw [v1]
      rw [this]; exact hp p' (by simp [hp']) i hi)
    simp only [List.foldl_cons]
    exact ⟨this.1, by rw [this.2.1, n1], fun i hi => by rw [this.2.2 i (by rw [n1]; exact hi), e1 i hi]⟩

theorem foldl_free_vars (l : List Nat) (X : St) : (l.foldl St.free X).vars = X.vars := by
  induction l generalizing X with
  | nil => rfl
  | cons a l ih => simp only [List.foldl_cons]; rw [ih]; rfl

/-- `TMP_FREE` at the end of a function -/
theorem Res.free_list {s s' : St} {w : Nat} {z : Int} (r : Res s s' w z) (hw : w < s.nv) (l : List Nat)
    (hl : ∀ p, p ∈ l → ∀ i, i < s'.nv → s'.ptr i ≠ p) : Res s (l.foldl St.free s') w z := by
  obtain ⟨i1, n1, v1⟩ := free_list_inv l r.1 hl
  have hlt : ∀ i, i < s.nv → i < s'.nv := fun i hi => r.2.1 ▸ hi
  exact ⟨i1, n1.trans r.2.1, (v1 w (hlt w hw)).trans r.2.2.1, fun i hi hiw => (v1 i (hlt i hi)).trans (r.2.2.2 i hi hiw)⟩

/-! ### `Res2`: two outputs -/

/-- two-output result (quotient and remainder, root and remainder): `Res` for the pair -/
def Res2 (s s' : St) (q r : Nat) (zq zr : Int) : Prop :=
  Inv s' ∧ s'.nv = s.nv ∧ s'.value q = zq ∧ s'.value r = zr ∧ ∀ i, i < s.nv → i ≠ q → i ≠ r → s'.value i = s.value i

theorem Upd.res2 {s s1 s2 : St} {q r : Nat} (u1 : Upd s s1 q) (u2 : Upd s1 s2 r) (h : Inv s) (hq : q < s.nv) (hr : r < s.nv)
    (hqr : q ≠ r) (i1 : Inv s1) (i2 : Inv s2) {zq zr : Int} (eq : s1.value q = zq) (er : s2.value r = zr) :
    Res2 s s2 q r zq zr :=
  ⟨i2, u2.nv.trans u1.nv, (u2.value_o i1 (u1.nv ▸ hr) (u1.nv ▸ hq) hqr).trans eq, er,
    fun _ hi hiq hir => (u2.value_o i1 (u1.nv ▸ hr) (u1.nv ▸ hi) hir).trans (u1.value_o h hq hi hiq)⟩

/-- the steps before the two stores may have changed the outputs themselves (a new block for the root) -/
theorem Res2.rebase {s0 s s' : St} {q r : Nat} {zq zr : Int} (R : Res2 s s' q r zq zr) (hn : s.nv = s0.nv)
    (hv : ∀ i, i < s0.nv → i ≠ q → i ≠ r → s.value i = s0.value i) : Res2 s0 s' q r zq zr :=
  ⟨R.1, R.2.1.trans hn, R.2.2.1, R.2.2.2.1, fun i hi hq hr => (R.2.2.2.2 i (hn ▸ hi) hq hr).trans (hv i hi hq hr)⟩

theorem Same.res2 {s s1 s' : St} (k : Same s s1) {q r : Nat} {zq zr : Int} (R : Res2 s1 s' q r zq zr) : Res2 s s' q r zq zr :=
  R.rebase k.nv fun _ hi _ _ => k.value hi

theorem Res2.free_list {s s' : St} {q r : Nat} {zq zr : Int} (R : Res2 s s' q r zq zr) (hq : q < s.nv) (hr : r < s.nv)
    (l : List Nat) (hl : ∀ p, p ∈ l → ∀ i, i < s'.nv → s'.ptr i ≠ p) : Res2 s (l.foldl St.free s') q r zq zr := by
  obtain ⟨i1, n1, v1⟩ := free_list_inv l R.1 hl
  have hlt : ∀ i, i < s.nv → i < s'.nv := fun i hi => R.2.1 ▸ hi
  exact ⟨i1, n1.trans R.2.1, (v1 q (hlt q hq)).trans R.2.2.1, (v1 r (hlt r hr)).trans R.2.2.2.1,
    fun i hi hiq hir => (v1 i (hlt i hi)).trans (R.2.2.2.2 i hi hiq hir)⟩

/-! ### `MPZ_TMP_INIT` locals: a variable is added and taken away again -/

theorem tmpInit_spec {s : St} (h : Inv s) (n : Nat) :
    (s.tmpInit n).1 = s.nv ∧ Inv (s.tmpInit n).2 ∧ (s.tmpInit n).2.nv = s.nv + 1 ∧
    (∀ i, i < s.nv → (s.tmpInit n).2.value i = s.value i ∧ (s.tmpInit n).2.size i = s.size i) ∧
    (s.tmpInit n).2.alloc s.nv = n ∧ (s.tmpInit n).2.value s.nv = 0 := by
  have hvars : ∀ i, (s.tmpInit n).2.vars i = if i = s.nv then { alloc := n, size := 0, ptr := s.next } else s.vars i :=
    fun i => by simp [St.tmpInit, St.tmpAlloc, St.malloc, St.setVar, St.setBlk]
  have hblk : ∀ q, (s.tmpInit n).2.blk q = if q = s.next then some (List.replicate n junk) else s.blk q :=
    fun q => by simp [St.tmpInit, St.tmpAlloc, St.malloc, St.setVar, St.setBlk]
  have hnext : (s.tmpInit n).2.next = s.next + 1 := by simp [St.tmpInit, St.tmpAlloc, St.malloc, St.setVar, St.setBlk]
  have hnv : (s.tmpInit n).2.nv = s.nv + 1 := by simp [St.tmpInit]
  have hvo : ∀ i, i < s.nv → (s.tmpInit n).2.vars i = s.vars i := fun i hi => by
    rw [hvars]; rw [if_neg (by omega)]
  have hbo : ∀ i, i < s.nv → (s.tmpInit n).2.blk (s.ptr i) = s.blk (s.ptr i) := fun i hi => by
    rw [hblk, if_neg (Nat.ne_of_lt (h.lt i hi))]
  have hval : ∀ i, i < s.nv → (s.tmpInit n).2.value i = s.value i := fun i hi => value_congr (hvo i hi) (hbo i hi)
  have hnew : (s.tmpInit n).2.vars s.nv = { alloc := n, size := 0, ptr := s.next } := by rw [hvars]; simp
  have hval_new : (s.tmpInit n).2.value s.nv = 0 := by
    unfold St.value St.mag St.limbs St.size; rw [hnew]; simp
  have hpn : (s.tmpInit n).2.ptr s.nv = s.next := by unfold St.ptr; rw [hnew]
  obtain ⟨i', _⟩ := h.of_agree_but (s' := (s.tmpInit n).2) s.nv
    (fun i hi hiv => by rw [hnv] at hi; exact ⟨by omega, hvo i (by omega), hbo i (by omega)⟩)
    (by rw [hnext]; exact Nat.le_succ _)
    (fun q hq => by rw [hnext] at hq; rw [hblk, if_neg (by omega)]; exact h.fresh q (by omega))
    (fun _ => ⟨⟨List.replicate n junk, by rw [hpn, hblk, if_pos rfl], by unfold St.alloc; rw [hnew]; simp,
        Limbs_replicate_junk n⟩, by rw [hpn, hnext]; exact Nat.lt_succ_self _,
      by unfold St.size St.alloc; rw [hnew]; simp,
      by rw [hval_new]; unfold St.size; rw [hnew]; simp [siz, DivZ.sizeNat_eq_zero.mpr rfl],
      fun i hi hiv => by rw [hpn]; rw [hnv] at hi; exact Nat.ne_of_lt (h.lt i (by omega))⟩)
  exact ⟨rfl, i', hnv, fun i hi => ⟨hval i hi, by unfold St.size; rw [hvo i hi]⟩, by unfold St.alloc; rw [hnew], hval_new⟩

theorem tmpInit_vars (s : St) (k : Nat) {i : Nat} (hi : i < s.nv) : (s.tmpInit k).2.vars i = s.vars i := by
  simp [St.tmpInit, St.tmpAlloc, St.malloc, St.setVar, St.setBlk, Nat.ne_of_lt hi]

theorem tmpInit_ptr (s : St) (k : Nat) {i : Nat} (hi : i < s.nv) : (s.tmpInit k).2.ptr i = s.ptr i :=
  congrArg Var.ptr (tmpInit_vars s k hi)

theorem tmpInit_alloc (s : St) (k : Nat) {i : Nat} (hi : i < s.nv) : (s.tmpInit k).2.alloc i = s.alloc i :=
  congrArg Var.alloc (tmpInit_vars s k hi)

theorem tmpDone_spec {s : St} (h : Inv s) (k : Nat) (hk : s.nv = k + 1) :
    Inv s.tmpDone ∧ s.tmpDone.nv = k ∧ ∀ i, i < k → s.tmpDone.value i = s.value i := by
  have hnv : s.tmpDone.nv = k := by simp [St.tmpDone, hk]
  obtain ⟨i', v'⟩ := h.of_agree (s' := s.tmpDone) (by rw [hnv, hk]; exact Nat.le_succ k) (fun _ _ => rfl)
    (fun i hi => setBlk_blk_ne _ _ fun e => by
      have := h.inj i (s.nv - 1) (by omega) (by omega) e; omega)
    (Nat.le_refl _) (fun q hq => by
      by_cases e : q = s.ptr (s.nv - 1)
      · rw [e]; exact setBlk_blk_self _ _ _
      · exact (setBlk_blk_ne _ _ e).trans (h.fresh q hq))
  exact ⟨i', hnv, hnv ▸ v'⟩

end Mpir.AliasMem
