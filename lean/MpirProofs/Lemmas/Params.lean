/- Threshold tables (model Mpir/Model/ParamsValid.lean): the dispatch clauses of `Valid` hold because each threshold lies at or
   above the minimum of the algorithm it switches on; `ValidSplit` is the form of `Valid` that is evaluated per table. -/
import Mpir.Model.ParamsValid
namespace Mpir.Params

theorem karaMin_le_native (m : MinSizes) (hm : m.karaGeneric ≤ m.karaNative) (c : Cfg) :
    karaMin m c ≤ karaMin m ⟨true, false⟩ := by
  obtain ⟨k, r⟩ := c
  cases k
  · exact hm
  · exact Nat.le_refl _

/-- a threshold respects the minimum of the algorithm it switches on: the minimum is 1, or the threshold is a size at or above it -/
def ThrOk (mn t : Nat) : Prop := mn ≤ 1 ∨ (t ≠ 0 ∧ mn ≤ t)
instance (mn t : Nat) : Decidable (ThrOk mn t) := by unfold ThrOk; infer_instance

/-- past a failed `BELOW_THRESHOLD (n, t)` the size is at least the minimum that t respects -/
theorem ThrOk.le {mn t n : Nat} (h : ThrOk mn t) (hb : ¬ below n t = true) (hn : 1 ≤ n) : mn ≤ n := by
  rcases h with h | ⟨h0, h⟩
  · exact Nat.le_trans h hn
  · simp [below, above, h0] at hb
    exact Nat.le_trans h hb.2

def MulThrOk (m : MinSizes) (c : Cfg) (p : Params) : Prop :=
  ThrOk (karaMin m c) p.mulKaratsuba ∧ ThrOk m.toom3 p.mulToom3 ∧ ThrOk m.toom4 p.mulToom4 ∧ ThrOk m.toom8h p.mulToom8h ∧
    ThrOk m.fft p.mulFftFull
def SqrThrOk (m : MinSizes) (c : Cfg) (p : Params) : Prop :=
  ThrOk (karaMin m c) p.sqrKaratsuba ∧ ThrOk m.toom3Sqr p.sqrToom3 ∧ ThrOk m.toom4Sqr p.sqrToom4 ∧ ThrOk m.toom8Sqr p.sqrToom8 ∧
    ThrOk m.fft p.sqrFftFull
instance (m : MinSizes) (c : Cfg) (p : Params) : Decidable (MulThrOk m c p) := by unfold MulThrOk; infer_instance
instance (m : MinSizes) (c : Cfg) (p : Params) : Decidable (SqrThrOk m c p) := by unfold SqrThrOk; infer_instance

/-- at any size: the algorithm selected has just passed its own threshold -/
theorem mulSel_min_le {m : MinSizes} {c : Cfg} {p : Params} (h : MulThrOk m c p) (n : Nat) (hn : 1 ≤ n) :
    mulMin m c (mulSel p n) ≤ n := by
  obtain ⟨k1, k2, k3, k4, k5⟩ := h
  unfold mulSel
  by_cases h0 : below n p.mulKaratsuba = true
  · rw [if_pos h0]; exact hn
  rw [if_neg h0]
  by_cases h1 : below n p.mulToom3 = true
  · rw [if_pos h1]; exact k1.le h0 hn
  rw [if_neg h1]
  by_cases h2 : below n p.mulToom4 = true
  · rw [if_pos h2]; exact k2.le h1 hn
  rw [if_neg h2]
  by_cases h3 : below n p.mulToom8h = true
  · rw [if_pos h3]; exact k3.le h2 hn
  rw [if_neg h3]
  by_cases h4 : below n p.mulFftFull = true
  · rw [if_pos h4]; exact k4.le h3 hn
  rw [if_neg h4]
  exact k5.le h4 hn

theorem sqrSel_min_le {m : MinSizes} {c : Cfg} {p : Params} (h : SqrThrOk m c p) (n : Nat) (hn : 1 ≤ n) :
    sqrMin m c (sqrSel p n) ≤ n := by
  obtain ⟨k1, k2, k3, k4, k5⟩ := h
  unfold sqrSel
  by_cases h0 : below n p.sqrBasecase = true
  · rw [if_pos h0]; exact hn
  rw [if_neg h0]
  by_cases h1 : below n p.sqrKaratsuba = true
  · rw [if_pos h1]; exact hn
  rw [if_neg h1]
  by_cases h2 : below n p.sqrToom3 = true
  · rw [if_pos h2]; exact k1.le h1 hn
  rw [if_neg h2]
  by_cases h3 : below n p.sqrToom4 = true
  · rw [if_pos h3]; exact k2.le h2 hn
  rw [if_neg h3]
  by_cases h4 : below n p.sqrToom8 = true
  · rw [if_pos h4]; exact k3.le h3 hn
  rw [if_neg h4]
  by_cases h5 : below n p.sqrFftFull = true
  · rw [if_pos h5]; exact k4.le h4 hn
  rw [if_neg h5]
  exact k5.le h5 hn

/-- mul.c:180: with 2·MUL_TOOM3_THRESHOLD above 37 no pair un, vn < 20 reaches the unbalanced Toom code -/
theorem mulUnbalancedOk_of_toom3 {p : Params} (h : 19 ≤ p.mulToom3) : MulUnbalancedOk p := by
  intro un hun vn hvn ⟨h1, _, _, h4⟩
  have h5 : ¬ (un + vn ≥ 2 * p.mulToom3) := by omega
  have h0 : ¬ (2 * p.mulToom3 = 0) := by omega
  simp [above, h5, h0] at h4

/-- `Valid` without the repetition over the four build configurations (seven clauses do not mention the configuration, the REDC
    choice depends on `wantRedc2` only, the other three only get harder with the larger Karatsuba minimum of the native helpers),
    and with each sweep over the sizes behind its reason: `Or` is decided from the left, so the sweep is evaluated only for a
    table whose thresholds do not give the reason, as when an algorithm is skipped altogether. -/
def ValidSplit (m : MinSizes) (p : Params) : Prop :=
  (NoOverflow p ∧ (19 ≤ p.mulToom3 ∨ MulUnbalancedOk p) ∧ MulhighOk p ∧ LowerBoundsOk p ∧ Mod1Ok p ∧ StrOk p ∧ HenselOk p) ∧
  ((MulThrOk m ⟨true, false⟩ p ∨ MulNOk m ⟨true, false⟩ p) ∧ (SqrThrOk m ⟨true, false⟩ p ∨ SqrOk m ⟨true, false⟩ p) ∧
    KaraRecOk m ⟨true, false⟩ p) ∧
  ∀ r ∈ [false, true], RedcOk ⟨false, r⟩ p

instance (m : MinSizes) (p : Params) : Decidable (ValidSplit m p) := by unfold ValidSplit; infer_instance

theorem valid_of_split {m : MinSizes} {p : Params} (hm : m.karaGeneric ≤ m.karaNative) (h : ValidSplit m p) : Valid m p := by
  obtain ⟨⟨a1, a5, a6, a7, a9, a10, a11⟩, ⟨a2, a3, a4⟩, hredc⟩ := h
  have a2 : MulNOk m ⟨true, false⟩ p := a2.elim (fun h n _ => mulSel_min_le h n) id
  have a3 : SqrOk m ⟨true, false⟩ p := a3.elim (fun h n _ => sqrSel_min_le h n) id
  intro c _
  have hk := karaMin_le_native m hm c
  have hmul : ∀ a, mulMin m c a ≤ mulMin m ⟨true, false⟩ a := fun a => by cases a <;> first | exact hk | exact Nat.le_refl _
  have hsqr : ∀ a, sqrMin m c a ≤ sqrMin m ⟨true, false⟩ a := fun a => by cases a <;> first | exact hk | exact Nat.le_refl _
  refine ⟨a1, fun n h1 h2 => Nat.le_trans (hmul _) (a2 n h1 h2), fun n h1 h2 => Nat.le_trans (hsqr _) (a3 n h1 h2),
    ⟨fun h => Nat.le_trans (Nat.succ_le_succ hk) (a4.1 h), fun h h' => Nat.le_trans (Nat.succ_le_succ hk) (a4.2 h h')⟩,
    a5.elim mulUnbalancedOk_of_toom3 id, a6, a7, ?_, a9, a10, a11⟩
  obtain ⟨k, r⟩ := c
  exact hredc r (by cases r <;> simp)

end Mpir.Params
