/- The size-aware models of Mpir/Model/AllocSafeMpz5.lean (mpz/import.c, gcd.c, lcm.c): from the loop invariants to the refinements of every
   arm (`lcmOne_refines`, `gcdZero_refines`, `gcdOne_refines`, `gcdGeneral_refines`) and the general arm of mpz_lcm (`lcmGeneral_safe`). -/
import MpirProofs.Lemmas.AllocSafeBit
import MpirProofs.Lemmas.AllocSafeMpz
import MpirProofs.Lemmas.AllocSafeMulC
import MpirProofs.Lemmas.Gcd
import MpirProofs.Lemmas.KernelsMem
import MpirProofs.Lemmas.Powm
import Mathlib.Data.Nat.GCD.Basic
import Mpir.Model.AllocSafeMpz5
namespace Mpir.AllocSafe5
open Mpir Mpir.AllocSafe
open Mpir.Mpz (sgn Norm natAbs_sgn)

/-! ## mpz/import.c: the byte loop stores one limb per 64 accumulated bits -/

/-- the loop invariant of import.c:119-120 (`lbits < GMP_NUMB_BITS`), limbs are limbs -/
def AccInv (a : Acc) : Prop := a.lbits < 64 ∧ a.limb < B ∧ Limbs a.out

/-- bits accumulated so far -/
def Acc.bits (a : Acc) : Nat := 64 * a.out.length + a.lbits

theorem accumulate_inv (a : Acc) (byte N : Nat) (h : AccInv a) (hb : byte < B) (hN : N ≤ 64) :
    AccInv (accumulate a byte N) ∧ (accumulate a byte N).bits = a.bits + N := by
  obtain ⟨h1, h2, h3⟩ := h
  unfold accumulate
  simp only []
  split
  · rename_i hge
    refine ⟨⟨by simp only []; omega, ?_, ?_⟩, ?_⟩
    · exact Nat.lt_of_le_of_lt (Nat.shiftRight_le _ _) hb
    · exact Limbs_append.mpr ⟨h3, limb_singleton (Nat.mod_lt _ B_pos)⟩
    · simp only [Acc.bits, List.length_append, List.length_singleton]; omega
  · rename_i hlt
    refine ⟨⟨by simp only []; omega, Nat.mod_lt _ B_pos, h3⟩, ?_⟩
    simp only [Acc.bits]; omega

theorem byteAt_lt (data : List Nat) (dp : Int) : byteAt data dp < B := by
  have : byteAt data dp < 256 := by
    unfold byteAt; split
    · exact Nat.mod_lt _ (by decide)
    · decide
  unfold B; omega

theorem wordBytes_inv (data : List Nat) (endian : Int) : ∀ (j : Nat) (st : LoopSt), AccInv st.1 →
    AccInv (wordBytes data endian j st).1 ∧ (wordBytes data endian j st).1.bits = st.1.bits + 8 * j := by
  intro j
  induction j with
  | zero => intro st h; exact ⟨h, rfl⟩
  | succ j ih =>
    intro st h
    obtain ⟨i1, e1⟩ := accumulate_inv st.1 (byteAt data st.2.1) 8 h (byteAt_lt _ _) (by decide)
    obtain ⟨i2, e2⟩ := ih (accumulate st.1 (byteAt data st.2.1) 8, st.2.1 - endian, st.2.2 && inData data st.2.1) i1
    simp only [wordBytes]
    refine ⟨i2, ?_⟩
    rw [e2]; simp only []; rw [e1]; omega

theorem oneWord_inv (data : List Nat) (endian : Int) (wbytes wbits : Nat) (woffset : Int) (st : LoopSt) (h : AccInv st.1)
    (hw : wbits < 8) :
    AccInv (oneWord data endian wbytes wbits woffset st).1 ∧
    (oneWord data endian wbytes wbits woffset st).1.bits = st.1.bits + (8 * wbytes + wbits) := by
  obtain ⟨i1, e1⟩ := wordBytes_inv data endian wbytes st h
  unfold oneWord
  simp only []
  by_cases h0 : wbits = 0
  · subst h0
    simp only [bne_self_eq_false, Bool.false_eq_true, if_false]
    exact ⟨i1, by rw [e1]; omega⟩
  · have hb : (wbits != 0) = true := by simpa using h0
    simp only [hb, if_true]
    have hlt : byteAt data (wordBytes data endian wbytes st).2.1 &&& (2 ^ wbits - 1) < B :=
      Nat.lt_of_le_of_lt Nat.and_le_left (byteAt_lt _ _)
    obtain ⟨i2, e2⟩ := accumulate_inv (wordBytes data endian wbytes st).1 _ wbits i1 hlt (by omega)
    exact ⟨i2, by rw [e2, e1]; omega⟩

theorem words_inv (data : List Nat) (endian : Int) (wbytes wbits : Nat) (woffset : Int) (hw : wbits < 8) :
    ∀ (i : Nat) (st : LoopSt), AccInv st.1 →
    AccInv (words data endian wbytes wbits woffset i st).1 ∧
    (words data endian wbytes wbits woffset i st).1.bits = st.1.bits + i * (8 * wbytes + wbits) := by
  intro i
  induction i with
  | zero => intro st h; exact ⟨h, by simp [words]⟩
  | succ i ih =>
    intro st h
    obtain ⟨i1, e1⟩ := oneWord_inv data endian wbytes wbits woffset st h hw
    obtain ⟨i2, e2⟩ := ih _ i1
    simp only [words]
    refine ⟨i2, ?_⟩
    have hm := Nat.add_one_mul i (8 * wbytes + wbits)
    rw [e2, e1]; omega

theorem importGeneric_spec (count : Nat) (order : Int) (size : Nat) (endian : Int) (nail : Nat) (data : List Nat) :
    (importGeneric count order size endian nail data).1.length = (count * (size * 8 - nail) + 63) / 64 ∧
    Limbs (importGeneric count order size endian nail data).1 := by
  unfold importGeneric
  simp only []
  generalize hdp : ((if order ≥ 0 then ((count : Int) - 1) * (size : Int) else 0) + (if endian ≥ 0 then (size : Int) - 1 else 0)) = dp
  generalize hwo : ((if endian ≥ 0 then (((size * 8 - nail + 7) / 8 : Nat) : Int) else -(((size * 8 - nail + 7) / 8 : Nat) : Int))
    + (if order < 0 then (size : Int) else -(size : Int))) = wo
  have h0 : AccInv (⟨0, 0, []⟩ : Acc) := ⟨by decide, B_pos, by intro x hx; cases hx⟩
  obtain ⟨⟨i1, i2, i3⟩, e⟩ := words_inv data endian ((size * 8 - nail) / 8) ((size * 8 - nail) % 8) wo
    (Nat.mod_lt _ (by decide)) count (⟨0, 0, []⟩, dp, true) h0
  rw [Nat.div_add_mod] at e
  simp only [Acc.bits, List.length_nil] at e
  generalize count * (size * 8 - nail) = T at e ⊢
  generalize (words data endian ((size * 8 - nail) / 8) ((size * 8 - nail) % 8) wo count (⟨0, 0, []⟩, dp, true)).1 = a at *
  by_cases hl : a.lbits = 0
  · have : (a.lbits != 0) = false := by simpa using hl
    simp only [this, Bool.false_eq_true, if_false]
    exact ⟨by omega, i3⟩
  · have : (a.lbits != 0) = true := by simpa using hl
    simp only [this, if_true, List.length_append, List.length_singleton]
    exact ⟨by omega, Limbs_append.mpr ⟨i3, limb_singleton i2⟩⟩

theorem leLimb_lt (data : List Nat) (i : Nat) : leLimb data i < B := by
  unfold leLimb B; omega

theorem beLimb_lt (data : List Nat) (i : Nat) : beLimb data i < B := by
  unfold beLimb B; omega

theorem Limbs_map_range (f : Nat → Nat) (n : Nat) (hf : ∀ i, f i < B) : Limbs ((List.range n).map f) := by
  intro x hx
  obtain ⟨i, _, rfl⟩ := List.mem_map.mp hx
  exact hf i

/-! ## mpz/lcm.c, the one-limb arm -/

/-- value-level result of lcm.c:50-63 (label `one`) with the allocation: u * (vl / gcd (u, vl)) -/
def Spec.lcmOne (r u : Mpz.Mpz) (vl : Nat) : Mpz.Mpz :=
  let n := u.size.natAbs
  let p := Mpir.mul_1 u.d (vl / Nat.gcd (val u.d) vl)
  let n' := n + (if p.2 != 0 then 1 else 0)
  ⟨(Mpz.grow r (n + 1)).alloc, (n' : Nat), (p.1 ++ [p.2]).take n'⟩

theorem lcmOne_refines (s : St) (r u v : Nat) (hs : s.ok = true) (hr : OWF (s.h r)) (hu : OWF (s.h u)) (hv : OWF (s.h v))
    (hv1 : 1 ≤ (s.h v).size.natAbs) :
    Refines s (lcmOne 1 s r u v (s.h u).size.natAbs) r
      (Spec.lcmOne (view (s.h r)) (view (s.h u)) ((view (s.h v)).d.headD junk)) := by
  unfold lcmOne Spec.lcmOne
  have G := MPZ_REALLOC_grown s r ((s.h u).size.natAbs + 1) hr
  obtain ⟨ea, oka⟩ := grown_rd G u (s.h u).size.natAbs hu (Nat.le_refl _)
  obtain ⟨ev, okv⟩ := grown_rd G v 1 hv hv1
  have hul := view_d_length hu
  have hvl := view_d_length hv
  rw [List.take_of_length_le (by omega)] at ea
  obtain ⟨x, xs, hd⟩ : ∃ x xs, (view (s.h v)).d = x :: xs := by
    cases h : (view (s.h v)).d with
    | nil => rw [h] at hvl; simp at hvl; omega
    | cons x xs => exact ⟨x, xs, rfl⟩
  have hx : x < B := view_limbs hv x (by rw [hd]; simp)
  rw [hd] at ev
  simp only [List.take_succ_cons, List.take_zero] at ev
  have hm : x / Nat.gcd (val (view (s.h u)).d) x < B := Nat.lt_of_le_of_lt (Nat.div_le_self _ _) hx
  obtain ⟨_, mc, ml, mn⟩ := mul_1_val' (view (s.h u)).d (x / Nat.gcd (val (view (s.h u)).d) x) (view_limbs hu) hm
  have halloc : (Mpz.grow (view (s.h r)) ((s.h u).size.natAbs + 1)).alloc =
    ((MPZ_REALLOC s r ((s.h u).size.natAbs + 1)).h r).buf.alloc := G.alloc.symm
  have e1 : (view (s.h u)).size = (s.h u).size := rfl
  simp only [e1, hd, List.headD_cons]
  rw [halloc]
  refine Refines.of_grown G ?_
  simp only [St.load, add_zero_ptr, mpn_gcd_1, mpn_mul_1, ea, oka, ev, okv, List.headD_cons, chk_true]
  have T := tail_carry (MPZ_REALLOC s r ((s.h u).size.natAbs + 1)) r
    (Mpir.mul_1 (view (s.h u)).d (x / Nat.gcd (val (view (s.h u)).d) x)).1
    (Mpir.mul_1 (view (s.h u)).d (x / Nat.gcd (val (view (s.h u)).d) x)).2
    ((s.h u).size.natAbs + (if (Mpir.mul_1 (view (s.h u)).d (x / Nat.gcd (val (view (s.h u)).d) x)).2 != 0 then 1 else 0)) false true
    (by rw [G.ok]; exact hs) rfl (G.bwf r hr.1) ml mc (by rw [mn, hul]; exact G.room) (by rw [mn, hul]; split <;> omega)
  simp only [mn, hul, chk_true, sgn, Bool.false_eq_true, if_false] at T
  exact T

theorem Spec.lcmOne_spec (r u : Mpz.Mpz) (vl : Nat) (hr : 1 ≤ r.alloc) (hu : Mpz.WF u) (hu0 : u.size ≠ 0) (hvl : vl < B)
    (hv0 : vl ≠ 0) :
    Mpz.WF (Spec.lcmOne r u vl) ∧ Mpz.toInt (Spec.lcmOne r u vl) = (Nat.lcm (val u.d) vl : Nat) := by
  have hg : 0 < Nat.gcd (val u.d) vl := Nat.gcd_pos_of_pos_right _ (Nat.pos_of_ne_zero hv0)
  have hm0 : vl / Nat.gcd (val u.d) vl ≠ 0 :=
    Nat.pos_iff_ne_zero.mp (Nat.div_pos (Nat.le_of_dvd (Nat.pos_of_ne_zero hv0) (Nat.gcd_dvd_right _ _)) hg)
  have hm : vl / Nat.gcd (val u.d) vl < B := Nat.lt_of_le_of_lt (Nat.div_le_self _ _) hvl
  have key : Spec.lcmOne r u vl = Mpz.mul_ui r ⟨u.alloc, (u.size.natAbs : Nat), u.d⟩ (vl / Nat.gcd (val u.d) vl) := by
    have habs : ¬ |u.size| < 0 := not_lt.mpr (abs_nonneg _)
    simp [Spec.lcmOne, Mpz.mul_ui, Mpz.mul_i, hm0, hu0, habs, Int.natAbs_abs, sgn]
  have hWFa : Mpz.WF ⟨u.alloc, (u.size.natAbs : Nat), u.d⟩ := by
    obtain ⟨a, b, c, d, e⟩ := hu
    exact ⟨a, by simpa [Int.natAbs_abs] using b, by simpa [Int.natAbs_abs] using c, d, e⟩
  obtain ⟨e2, e1⟩ := Mpz.mul_i_spec r ⟨u.alloc, (u.size.natAbs : Nat), u.d⟩ (vl / Nat.gcd (val u.d) vl) false hr hWFa hm
  rw [key]
  unfold Mpz.mul_ui
  refine ⟨e2, ?_⟩
  rw [e1]
  have hl : val u.d * (vl / Nat.gcd (val u.d) vl) = Nat.lcm (val u.d) vl := by
    unfold Nat.lcm; exact (Nat.mul_div_assoc _ (Nat.gcd_dvd_right _ _)).symm
  rw [← hl]
  simp [Mpz.toInt]

/-- the arm `one` of mpz_lcm as a statement about `lcmOne` (u and v in either role) -/
theorem lcmOne_safe (s : St) (r u v : Nat) (hs : s.ok = true)
    (hr : OWF (s.h r)) (hu : OWF (s.h u)) (hv : OWF (s.h v)) (hu0 : (s.h u).size ≠ 0) (hv1 : (s.h v).size.natAbs = 1) :
    Safe s (lcmOne 1 s r u v (s.h u).size.natAbs) r (Spec.lcmOne (view (s.h r)) (view (s.h u)) ((view (s.h v)).d.headD junk)) ∧
    Mpz.toInt (Spec.lcmOne (view (s.h r)) (view (s.h u)) ((view (s.h v)).d.headD junk)) =
      (Nat.lcm (Mpz.toInt (view (s.h u))).natAbs (Mpz.toInt (view (s.h v))).natAbs : Nat) := by
  have R := lcmOne_refines s r u v hs hr hu hv (by omega)
  have hvl := view_d_length hv
  obtain ⟨x, hd⟩ := List.length_eq_one_iff.mp (hvl.trans hv1)
  have hx : x < B := view_limbs hv x (by rw [hd]; simp)
  have hx0 : x ≠ 0 := by
    have := hv.normalized
    rw [hd] at this
    intro h; subst h; exact this rfl
  have E := Spec.lcmOne_spec (view (s.h r)) (view (s.h u)) x hr.alloc_pos hu.2 hu0 hx hx0
  rw [hd] at R ⊢
  simp only [List.headD_cons] at R ⊢
  refine ⟨R.safe E.1, ?_⟩
  rw [E.2, toInt_natAbs, toInt_natAbs, hd]
  simp [val]

/-! ## mpz/gcd.c: the zero and one-limb arms -/

theorem view_one {o : Obj} (h : OWF o) (h1 : o.size.natAbs = 1) : ∃ x, (view o).d = [x] ∧ 0 < x ∧ x < B := by
  obtain ⟨x, hd⟩ := List.length_eq_one_iff.mp ((view_d_length h).trans h1)
  refine ⟨x, hd, ?_, view_limbs h x (by rw [hd]; simp)⟩
  have := h.normalized
  rw [hd] at this
  exact Nat.pos_of_ne_zero fun h0 => this (h0 ▸ rfl)

/-- gcd.c:67-68 / 74-75: `a` has one limb, `b ≠ 0`; `SIZ (g) = 1` is stored first, `PTR (g)[0]` last, after both reads, and
    without reallocation (a block never has zero limbs) -/
theorem gcdOneArm_refines (s : St) (g a b : Nat) (hs : s.ok = true) (hg : OWF (s.h g)) (ha : OWF (s.h a)) (hb : OWF (s.h b))
    (ha1 : (s.h a).size.natAbs = 1) :
    Refines s
      (let s1 := s.setSize g 1
       let (a0, s1) := s1.load (s.PTR a) 0
       let (gl, s1) := mpn_gcd_1 s1 (s.PTR b) (s.h b).size.natAbs a0
       s1.store (s1.PTR g) 0 gl) g
      ⟨(s.h g).buf.alloc, 1, [Nat.gcd (val (view (s.h b)).d) ((view (s.h a)).d.headD junk)]⟩ := by
  obtain ⟨x, hd, hx0, hx⟩ := view_one ha ha1
  have hfa := view_fit ha
  have hfb := view_fit hb
  have hgl : Nat.gcd (val (view (s.h b)).d) x < B := Nat.lt_of_le_of_lt (Nat.gcd_le_right _ hx0) hx
  have hal : 1 ≤ (s.h g).buf.alloc := hg.alloc_pos
  have hd' : (s.h a).buf.limbs.take 1 = [x] := by
    have : (view (s.h a)).d = (s.h a).buf.limbs.take (s.h a).size.natAbs := rfl
    rw [this, ha1] at hd; exact hd
  have c1 : (s.setSize g 1).rdOk ((s.PTR a).add 0) 1 = true := by
    simp [St.rdOk, St.live, St.PTR, Ptr.add, Buf.read]; omega
  have c2 : (s.setSize g 1).rdOk (s.PTR b) (s.h b).size.natAbs = true := by
    simp [St.rdOk, St.live, St.PTR, Buf.read]; omega
  have r1 : (s.setSize g 1).rd ((s.PTR a).add 0) 1 = [x] := by
    simp [St.rd, Buf.read, St.PTR, Ptr.add, hd']
  have r2 : (s.setSize g 1).rd (s.PTR b) (s.h b).size.natAbs = (view (s.h b)).d := by
    simp [St.rd, Buf.read, St.PTR, view]
  simp only [St.load, mpn_gcd_1, r1, r2, c1, c2, chk_true, hd, List.headD_cons]
  have hb1 : BWF ((s.setSize g 1).h g).buf := by simpa using hg.1
  have W0 := Wrote.refl (s.setSize g 1) g 1 (by simpa using hs) hb1 (by simpa using hal)
  have hlen : (((s.setSize g 1).h g).buf.limbs.take 1).length = 1 := by
    rw [List.length_take, hb1.1]; simp; omega
  generalize ((s.setSize g 1).h g).buf.limbs.take 1 = R0 at W0 hlen
  obtain ⟨r, hr⟩ := List.length_eq_one_iff.mp hlen
  subst hr
  have R := (W0.store_set 0 (Nat.gcd (val (view (s.h b)).d) x) (by simp) hgl).refines 1 (by simp [St.store]) (by simp)
  simp only [List.set_cons_zero, setSize_buf] at R
  exact ⟨R.ok, by simpa using R.view, R.bwf, fun y hy => (R.frame y hy).trans (setSize_other _ _ _ hy)⟩

/-- gcd.c:65-70: u has one limb, v ≠ 0 -/
theorem gcdOneU_refines (s : St) (g u v : Nat) (hs : s.ok = true) (hg : OWF (s.h g)) (hu : OWF (s.h u)) (hv : OWF (s.h v))
    (hu1 : (s.h u).size.natAbs = 1) (hv0 : (s.h v).size ≠ 0) :
    Refines s (mpz_gcd s g u v) g
      ⟨(s.h g).buf.alloc, 1, [Nat.gcd (val (view (s.h v)).d) ((view (s.h u)).d.headD junk)]⟩ := by
  have c1 : ((s.h v).size.natAbs == 0) = false := by simp; omega
  unfold mpz_gcd gcd_
  simp only [St.ABSIZ, hu1, c1, Nat.reduceBEq, Bool.false_eq_true, if_false, beq_self_eq_true, if_true]
  exact gcdOneArm_refines s g u v hs hg hu hv hu1

/-- gcd.c:72-77: v has one limb, u at least two -/
theorem gcdOneV_refines (s : St) (g u v : Nat) (hs : s.ok = true) (hg : OWF (s.h g)) (hu : OWF (s.h u)) (hv : OWF (s.h v))
    (hv1 : (s.h v).size.natAbs = 1) (hu2 : 2 ≤ (s.h u).size.natAbs) :
    Refines s (mpz_gcd s g u v) g
      ⟨(s.h g).buf.alloc, 1, [Nat.gcd (val (view (s.h u)).d) ((view (s.h v)).d.headD junk)]⟩ := by
  have c0 : ((s.h u).size.natAbs == 0) = false := by simp; omega
  have c1 : ((s.h u).size.natAbs == 1) = false := by simp; omega
  unfold mpz_gcd gcd_
  simp only [St.ABSIZ, hv1, c0, c1, Nat.reduceBEq, Bool.false_eq_true, if_false, beq_self_eq_true, if_true]
  exact gcdOneArm_refines s g v u hs hg hv hu hv1

/-- gcd.c:44-52 / 55-63: one operand is zero, the other (`x`) is copied; `SIZ (g)` is stored BEFORE `MPZ_REALLOC (g, n)` -/
theorem gcdZero_refines (s : St) (g x : Nat) (hs : s.ok = true) (hg : OWF (s.h g)) (hx : OWF (s.h x)) :
    Refines s
      (if g == x then s.setSize g ((s.h x).size.natAbs : Nat)
       else MPN_COPY (MPZ_REALLOC (s.setSize g ((s.h x).size.natAbs : Nat)) g (s.h x).size.natAbs)
         ((MPZ_REALLOC (s.setSize g ((s.h x).size.natAbs : Nat)) g (s.h x).size.natAbs).PTR g) (s.PTR x) (s.h x).size.natAbs) g
      ⟨max (s.h g).buf.alloc (s.h x).size.natAbs, ((s.h x).size.natAbs : Nat), (view (s.h x)).d⟩ := by
  have hfx := view_fit hx
  have ha : 1 ≤ (s.h g).buf.alloc := hg.alloc_pos
  by_cases h : g = x
  · subst h
    simp only [beq_self_eq_true, if_true]
    refine ⟨by simpa using hs, ?_, by simpa using hg.1, fun y hy => setSize_other _ _ _ hy⟩
    simp [view, Nat.max_eq_left hfx, Int.natAbs_abs]
  · have h' : (g == x) = false := by simpa using h
    simp only [h', Bool.false_eq_true, if_false]
    have hxg : x ≠ g := fun e => h e.symm
    generalize hn : (s.h x).size.natAbs = n at *
    have G := MPZ_REALLOC_grown' (s.setSize g (n : Nat)) g n (by simp)
    have hox : (MPZ_REALLOC (s.setSize g (n : Nat)) g n).h x = s.h x := by
      rw [G.other x hxg, setSize_other _ _ _ hxg]
    have hrd : (MPZ_REALLOC (s.setSize g (n : Nat)) g n).rd (s.PTR x) n = (view (s.h x)).d := by
      simp [St.rd, St.PTR, Buf.read, hox, view, hn]
    have hok : (MPZ_REALLOC (s.setSize g (n : Nat)) g n).rdOk (s.PTR x) n = true := by
      simp [St.rdOk, St.live, St.PTR, Buf.read, hox]; omega
    have hb := G.bwf g (by simpa using hg.1)
    have hsz : ((MPZ_REALLOC (s.setSize g (n : Nat)) g n).h g).size = (n : Nat) := by rw [G.size]; simp
    have hal : ((MPZ_REALLOC (s.setSize g (n : Nat)) g n).h g).buf.alloc = max (s.h g).buf.alloc n := by
      rw [G.alloc, grow_alloc_max _ _ (by simpa [view] using ha)]; simp [view]
    have hl : (view (s.h x)).d.length = n := by rw [view_d_length hx, hn]
    unfold MPN_COPY
    rw [hrd, hok]
    have W := Wrote.fresh (MPZ_REALLOC (s.setSize g (n : Nat)) g n) g (view (s.h x)).d true (by rw [G.ok]; simpa using hs) rfl hb
      (view_limbs hx) (by rw [hl]; exact G.room)
    have R := W.refines (n : Nat) (by simpa using hsz) (by simp [hl])
    rw [hal] at R
    simp only [Int.natAbs_natCast] at R
    rw [List.take_of_length_le (by omega)] at R
    refine ⟨R.ok, R.view, R.bwf, fun y hy => ?_⟩
    rw [R.frame y hy, G.other y hy, setSize_other _ _ _ hy]

theorem WF_one (a gl : Nat) (ha : 1 ≤ a) (h0 : 0 < gl) (hB : gl < B) : Mpz.WF ⟨a, 1, [gl]⟩ :=
  ⟨ha, by simpa using ha, by simp, limb_singleton hB, by simp; omega⟩

theorem gcdOne_refines (s : St) (g u v : Nat) (hs : s.ok = true) (hg : OWF (s.h g)) (hu : OWF (s.h u)) (hv : OWF (s.h v))
    (hu0 : (s.h u).size ≠ 0) (hv0 : (s.h v).size ≠ 0) (h1 : (s.h u).size.natAbs = 1 ∨ (s.h v).size.natAbs = 1) :
    Refines s (mpz_gcd s g u v) g ⟨(s.h g).buf.alloc, 1, [Nat.gcd (val (view (s.h u)).d) (val (view (s.h v)).d)]⟩ ∧
    Mpz.WF ⟨(s.h g).buf.alloc, 1, [Nat.gcd (val (view (s.h u)).d) (val (view (s.h v)).d)]⟩ := by
  have ha : 1 ≤ (s.h g).buf.alloc := hg.alloc_pos
  have one : ∀ {y : Nat}, OWF (s.h y) → (s.h y).size.natAbs = 1 →
      val (view (s.h y)).d = (view (s.h y)).d.headD junk ∧ 0 < val (view (s.h y)).d ∧ val (view (s.h y)).d < B := by
    intro y hy hy1
    obtain ⟨x, hd, hx0, hx⟩ := view_one hy hy1
    rw [hd]; simp [val, hx, hx0]
  by_cases hu1 : (s.h u).size.natAbs = 1
  · obtain ⟨e, p, b⟩ := one hu hu1
    have R := gcdOneU_refines s g u v hs hg hu hv hu1 hv0
    rw [← e, Nat.gcd_comm] at R
    exact ⟨R, WF_one _ _ ha (Nat.gcd_pos_of_pos_left _ p) (Nat.lt_of_le_of_lt (Nat.gcd_le_left _ p) b)⟩
  · have hv1 : (s.h v).size.natAbs = 1 := by rcases h1 with h | h; exact absurd h hu1; exact h
    obtain ⟨e, p, b⟩ := one hv hv1
    have R := gcdOneV_refines s g u v hs hg hu hv hv1 (by omega)
    rw [← e] at R
    exact ⟨R, WF_one _ _ ha (Nat.gcd_pos_of_pos_right _ p) (Nat.lt_of_le_of_lt (Nat.gcd_le_right _ p) b)⟩

/-! ## mpz/gcd.c: the re-shift into g (gcd.c:133-154) -/

theorem lshift_carry (G : List Nat) (c : Nat) (hne : G ≠ []) : (Mpir.lshift G c).2 = Mpz.topLimb G >>> (64 - c) := by
  obtain ⟨xs, x, rfl⟩ : ∃ xs x, G = xs ++ [x] := ⟨G.dropLast, G.getLast hne, (List.dropLast_append_getLast hne).symm⟩
  unfold Mpir.lshift
  rw [Mem.lshiftGo_snoc]
  simp [Mpz.topLimb]

theorem lshift_last (c x : Nat) : ∀ (xs : List Nat) (lo : Nat),
    ∃ m, (Mpir.lshiftGo c (xs ++ [x]) lo).1.getLast? = some m ∧ (x <<< c) % B ≤ m := by
  intro xs
  induction xs with
  | nil => intro lo; exact ⟨(x <<< c) % B ||| lo, by simp [Mpir.lshiftGo], Nat.left_le_or⟩
  | cons y ys ih =>
    intro lo
    obtain ⟨m, hm, hle⟩ := ih (y >>> (64 - c))
    refine ⟨m, ?_, hle⟩
    simp only [List.cons_append, Mpir.lshiftGo]
    have hne : (Mpir.lshiftGo c (ys ++ [x]) (y >>> (64 - c))).1 ≠ [] := by
      intro h; rw [h] at hm; simp at hm
    rw [List.getLast?_cons_of_ne_nil hne]; exact hm

/-- the common ending: everything written, `SIZ (g) = gsize` -/
theorem Wrote.fin_full {s s1 s2 : St} {g gsize : Nat} {R : List Nat} (Gr : Grown s s1 g gsize) (hg : OWF (s.h g))
    (W : Wrote s1 s2 g R) (hlen : R.length = gsize) (hlast : R.getLast? ≠ some 0) :
    Refines s (s2.setSize g (gsize : Nat)) g ⟨max (s.h g).buf.alloc gsize, (gsize : Nat), R⟩ ∧
    Mpz.WF ⟨max (s.h g).buf.alloc gsize, (gsize : Nat), R⟩ := by
  have ha : 1 ≤ (s.h g).buf.alloc := hg.alloc_pos
  have hal : (s1.h g).buf.alloc = max (s.h g).buf.alloc gsize := by
    rw [Gr.alloc, grow_alloc_max _ _ (by simpa [view] using ha)]; simp [view]
  have R1 := (W.setSize ((gsize : Nat) : Int)).refines ((gsize : Nat) : Int) (by simp) (by simp [hlen])
  simp only [Int.natAbs_natCast, ← hlen, List.take_length] at R1
  rw [hlen, hal] at R1
  refine ⟨Refines.of_grown Gr R1, Nat.le_trans ha (Nat.le_max_left _ _), ?_, ?_, W.limbs, hlast⟩
  · simp only [Int.natAbs_natCast]; exact Nat.le_max_right _ _
  · simp only [Int.natAbs_natCast]; exact hlen

theorem shl_top_ne_zero (x c : Nat) (hx : x ≠ 0) (hz : x >>> (64 - c) = 0) (hc : c ≤ 63) : (x <<< c) % B ≠ 0 := by
  rw [Nat.shiftRight_eq_div_pow] at hz
  have hlt : x < 2 ^ (64 - c) := by
    rcases (Nat.div_eq_zero_iff).mp hz with h | h
    · exact absurd h (by positivity)
    · exact h
  have hB : x * 2 ^ c < B := by
    have : (2 : Nat) ^ (64 - c) * 2 ^ c = B := by rw [← Nat.pow_add]; unfold B; congr 1; omega
    rw [← this]; exact Nat.mul_lt_mul_of_pos_right hlt (by positivity)
  rw [Nat.shiftLeft_eq, Nat.mod_eq_of_lt hB]
  exact Nat.mul_ne_zero hx (by positivity)

/-- gcd.c:133-154: after `MPZ_REALLOC (g, gsize)` the zero limbs, the shifted limbs and the carry limb (stored exactly when it
    was counted) make `gsize` limbs of value `G << (64 * g_zero_limbs + g_zero_bits)`; a non-zero top limb stays non-zero -/
theorem gcdTail_wrote (s : St) (g : Nat) (G : List Nat) (gzl gzb : Nat) (hs : s.ok = true) (hg : OWF (s.h g))
    (hG : Limbs G) (hne : G ≠ []) (hb : gzb ≤ 63) :
    ∃ s1 s2 R gsize, Grown s s1 g gsize ∧ Wrote s1 s2 g R ∧ R.length = gsize ∧
      gcdTail 0 false s g G gzl gzb = s2.setSize g (gsize : Nat) ∧ val R = val G * 2 ^ (64 * gzl + gzb) ∧
      (G.getLast? ≠ some 0 → R.getLast? ≠ some 0) := by
  unfold gcdTail
  simp only [Nat.sub_zero, Bool.false_or]
  by_cases h0 : gzb = 0
  · subst h0
    simp only [bne_self_eq_false, Bool.false_eq_true, if_false]
    have Gr := MPZ_REALLOC_grown s g (G.length + gzl) hg
    have hok1 : (MPZ_REALLOC s g (G.length + gzl)).ok = true := by rw [Gr.ok]; exact hs
    have hb1 := Gr.bwf g hg.1
    have hroom := Gr.room
    generalize MPZ_REALLOC s g (G.length + gzl) = s1 at *
    have W1 := Wrote.fresh s1 g (List.replicate gzl 0) true hok1 rfl hb1 (Limbs_replicate_zero _) (by simp; omega)
    rw [chk_true] at W1
    have W2 := W1.append G hG (by simp; omega)
    simp only [List.length_replicate] at W2
    simp only [MPN_ZERO, wr_PTR]
    refine ⟨s1, _, _, _, Gr, W2, by simp; omega, rfl, ?_, fun hN => ?_⟩
    · rw [val_append, val_replicate_zero, List.length_replicate, B_pow, Nat.add_zero, Nat.zero_add, Nat.mul_comm]
    · rw [List.getLast?_append_of_ne_nil _ hne]; exact hN
  · have hb0 : (gzb != 0) = true := by simpa using h0
    simp only [hb0, if_true]
    obtain ⟨hv, hclt, hl, hn⟩ := lshift_val' G gzb hG (by omega)
    have hc := lshift_carry G gzb hne
    generalize hgs : G.length + gzl + (if (Mpz.topLimb G >>> (64 - gzb) != 0) = true then 1 else 0) = gsize
    have Gr := MPZ_REALLOC_grown s g gsize hg
    have hok1 : (MPZ_REALLOC s g gsize).ok = true := by rw [Gr.ok]; exact hs
    have hb1 := Gr.bwf g hg.1
    have hroom := Gr.room
    generalize MPZ_REALLOC s g gsize = s1 at *
    have W1 := Wrote.fresh s1 g (List.replicate gzl 0) true hok1 rfl hb1 (Limbs_replicate_zero _) (by simp; split at hgs <;> omega)
    rw [chk_true] at W1
    have W2 := W1.append (Mpir.lshift G gzb).1 hl (by simp [hn]; split at hgs <;> omega)
    simp only [List.length_replicate] at W2
    simp only [MPN_ZERO, wr_PTR]
    by_cases hcy : (Mpir.lshift G gzb).2 = 0
    · have : ((Mpir.lshift G gzb).2 != 0) = false := by simpa using hcy
      simp only [this, Bool.false_eq_true, if_false]
      have hz : (Mpz.topLimb G >>> (64 - gzb) != 0) = false := by rw [← hc]; exact this
      rw [hz] at hgs
      simp only [Bool.false_eq_true, if_false, Nat.add_zero] at hgs
      refine ⟨s1, _, _, _, Gr, W2, by simp [hn]; omega, rfl, ?_, fun hN => ?_⟩
      · rw [hcy, Nat.mul_zero, Nat.add_zero] at hv
        rw [val_append, val_replicate_zero, List.length_replicate, B_pow, hv, Nat.pow_add]
        ring
      · -- the top limb stored is at least `(top << cnt) mod B`, and no bit of `top` was shifted out
        obtain ⟨xs, x, hGx⟩ : ∃ xs x, G = xs ++ [x] := ⟨G.dropLast, G.getLast hne, (List.dropLast_append_getLast hne).symm⟩
        have hx0 : x ≠ 0 := by
          intro h; apply hN; rw [hGx, h]; simp
        have hx' : x >>> (64 - gzb) = 0 := by
          have htop : Mpz.topLimb G = x := by rw [hGx]; simp [Mpz.topLimb]
          rw [← htop, ← hc]; exact hcy
        have hne2 : (Mpir.lshift G gzb).1 ≠ [] := by
          intro h; rw [h] at hn; simp at hn; exact hne (List.eq_nil_of_length_eq_zero hn.symm)
        rw [List.getLast?_append_of_ne_nil _ hne2]
        obtain ⟨m, hm, hle⟩ := lshift_last gzb x xs 0
        have : (Mpir.lshift G gzb).1.getLast? = some m := by rw [hGx]; exact hm
        rw [this]
        have := shl_top_ne_zero x gzb hx0 hx' hb
        intro h; injection h with h; omega
    · have hcb : ((Mpir.lshift G gzb).2 != 0) = true := by simpa using hcy
      simp only [hcb, if_true]
      have hcy' : (Mpz.topLimb G >>> (64 - gzb) != 0) = true := by rw [← hc]; exact hcb
      rw [hcy'] at hgs
      simp only [if_true] at hgs
      have hcB : (Mpir.lshift G gzb).2 < B :=
        Nat.lt_of_lt_of_le hclt (by unfold B; exact Nat.pow_le_pow_right (by decide) (by omega))
      have W3 := W2.append [(Mpir.lshift G gzb).2] (limb_singleton hcB) (by simp [hn]; omega)
      simp only [List.length_append, List.length_replicate, hn] at W3
      simp only [St.store, add_add_ptr]
      refine ⟨s1, _, _, _, Gr, W3, by simp [hn]; omega, rfl, ?_, fun _ => by simp; exact hcy⟩
      rw [List.append_assoc, val_append, val_append, val_replicate_zero, List.length_replicate, B_pow, hn]
      have : val [(Mpir.lshift G gzb).2] = (Mpir.lshift G gzb).2 := by simp [val]
      rw [this, hv, Nat.pow_add]
      ring

theorem gcdTail_refines (s : St) (g : Nat) (G : List Nat) (gzl gzb : Nat) (hs : s.ok = true) (hg : OWF (s.h g))
    (hG : Limbs G) (hN : G.getLast? ≠ some 0) (hne : G ≠ []) (hb : gzb ≤ 63) :
    ∃ R, Refines s (gcdTail 0 false s g G gzl gzb) g ⟨max (s.h g).buf.alloc R.length, (R.length : Nat), R⟩ ∧
      Mpz.WF ⟨max (s.h g).buf.alloc R.length, (R.length : Nat), R⟩ ∧ val R = val G * 2 ^ (64 * gzl + gzb) := by
  obtain ⟨s1, s2, R, gsize, Gr, W, hlen, e, hv, hl⟩ := gcdTail_wrote s g G gzl gzb hs hg hG hne hb
  obtain ⟨F1, F2⟩ := Wrote.fin_full Gr hg W hlen (hl hN)
  subst hlen
  rw [e]
  exact ⟨R, F1, F2, hv⟩

/-! ## mpz/gcd.c: the TMP side and the general arm composed -/

theorem val_take_top_zero (r : List Nat) (h : Mpz.topLimb r = 0) : val (r.take (r.length - 1)) = val r := by
  by_cases hne : r = []
  · subst hne; rfl
  · have e := List.dropLast_append_getLast hne
    have hl : r.getLast hne = 0 := by
      have : Mpz.topLimb r = r.getLast hne := by
        unfold Mpz.topLimb; rw [List.getLastD_eq_getLast?, List.getLast?_eq_some_getLast hne]; rfl
      rw [← this]; exact h
    rw [← List.dropLast_eq_take]
    conv_rhs => rw [← e, val_append, hl]
    simp [val]

theorem odd_shift (x vx zb : Nat) (hzb : zb ≤ 63) (hodd : (x / 2 ^ zb) % 2 = 1) (hx : x = 2 ^ zb * (x / 2 ^ zb)) :
    (x + B * vx) / 2 ^ zb % 2 = 1 ∧ x + B * vx = (x + B * vx) / 2 ^ zb * 2 ^ zb := by
  generalize x / 2 ^ zb = o at *
  have hB : B = 2 ^ zb * (2 * 2 ^ (63 - zb)) := by
    unfold B; rw [← pow_succ', ← Nat.pow_add]; congr 1; omega
  have e : x + B * vx = 2 ^ zb * (o + 2 * (2 ^ (63 - zb) * vx)) := by rw [hx, hB]; ring
  have hd : (x + B * vx) / 2 ^ zb = o + 2 * (2 ^ (63 - zb) * vx) := by
    rw [e]; exact Nat.mul_div_cancel_left _ (by positivity)
  rw [hd]
  exact ⟨by omega, by rw [e]; ring⟩

theorem new_write_full (r : List Nat) (n : Nat) (h : r.length = n) : (Buf.new n).write 0 r = (⟨n, r⟩, true) := by
  subst h; simp [Buf.write, Buf.new]

/-- gcd.c:82-95: what the stripped copy holds: an odd number `u'` with `U = u' << (64 * zero_limbs + zero_bits)` -/
theorem stripLow_spec (U : List Nat) (hU : Limbs U) (hN : Norm U) (hne : U ≠ []) :
    ∃ zl zb blk n, stripLow U = (zl, zb, blk, n, true) ∧ zb ≤ 63 ∧ blk.alloc ≤ U.length ∧ n ≤ blk.alloc ∧
      val U = val (blk.read 0 n).1 * 2 ^ (64 * zl + zb) ∧ val (blk.read 0 n).1 % 2 = 1 ∧
      Limbs (blk.read 0 n).1 ∧ (blk.read 0 n).1.length ≤ n := by
  obtain ⟨hval, hzl, hhead⟩ := Powm.strip_zero_limbs U
  have hpos : 0 < val U := Mpz.Norm.pos hN hne
  unfold stripLow
  simp only []
  generalize (U.takeWhile (· == 0)).length = zl at *
  have hTl : Limbs (U.drop zl) := Limbs_drop hU _
  obtain ⟨x, xs, hT⟩ : ∃ x xs, U.drop zl = x :: xs := by
    cases hT : U.drop zl with
    | nil => rw [hT] at hval; simp [val] at hval; omega
    | cons x xs => exact ⟨x, xs, rfl⟩
  have hx0 : 0 < x := Nat.pos_of_ne_zero (hhead x xs hT)
  have hxB : x < B := hTl x (by rw [hT]; simp)
  have hget : U.getD zl 0 = x := by
    have : U[zl]? = some x := by
      have := List.getElem?_drop (xs := U) (i := zl) (j := 0)
      rw [hT] at this; simpa using this.symm
    simp [List.getD_eq_getElem?_getD, this]
  have hzb : Gcd.ctz x < 64 := Gcd.ctz_lt_of_lt_pow x 64 hx0 hxB
  obtain ⟨hx2, hodd⟩ := Gcd.ctz_spec x hx0
  have hvT : val (U.drop zl) = x + B * val xs := by rw [hT]; rfl
  have hlen : (U.drop zl).length = U.length - zl := List.length_drop
  rw [hget]
  generalize Gcd.ctz x = zb at *
  obtain ⟨ho, hmul⟩ := odd_shift x (val xs) zb (by omega) hodd hx2
  by_cases h0 : zb = 0
  · subst h0
    simp only [bne_self_eq_false, Bool.false_eq_true, if_false]
    rw [new_write_full _ _ hlen]
    refine ⟨zl, 0, _, _, rfl, by omega, by simp, by simp, ?_, ?_, ?_, ?_⟩
    · simp only [Buf.read, List.drop_zero, ← hlen, List.take_length]
      rw [hval, B_pow, Nat.add_zero]; ring
    · simp only [Buf.read, List.drop_zero, ← hlen, List.take_length]
      rw [hvT]; simpa using ho
    · simp only [Buf.read, List.drop_zero]; exact Limbs_take hTl _
    · simp only [Buf.read, List.drop_zero, List.length_take]; omega
  · have hb0 : (zb != 0) = true := by simpa using h0
    simp only [hb0, if_true]
    obtain ⟨hrv, hrl, hrn⟩ := Powm.rshift_val (U.drop zl) zb hTl (by omega) (by omega)
    generalize (Mpir.rshift (U.drop zl) zb).1 = r at *
    rw [new_write_full r _ (hrn.trans hlen)]
    refine ⟨zl, zb, _, _, rfl, by omega, by simp, by simp, ?_, ?_, ?_, ?_⟩
    rotate_left 2
    · simp only [Buf.read, List.drop_zero]; exact Limbs_take hrl _
    · simp only [Buf.read, List.drop_zero, List.length_take]; omega
    all_goals
      simp only [Buf.read, List.drop_zero]
      have hv' : val (r.take (U.length - zl - if (Mpz.topLimb r == 0) = true then 1 else 0)) = val r := by
        by_cases ht : Mpz.topLimb r = 0
        · have : (Mpz.topLimb r == 0) = true := by simpa using ht
          rw [this, if_pos rfl, ← hlen, ← hrn]; exact val_take_top_zero r ht
        · have : (Mpz.topLimb r == 0) = false := by simpa using ht
          rw [this]; simp only [Bool.false_eq_true, if_false, Nat.sub_zero]
          rw [← hlen, ← hrn, List.take_length]
      rw [hv', hrv, hvT]
    · rw [hval, hvT, B_pow, Nat.pow_add]
      conv_lhs => rw [hmul]
      ring
    · exact ho


theorem gcd_odd_shift_le (a b x y : Nat) (hx : x % 2 = 1) (hab : a ≤ b) :
    Nat.gcd (x * 2 ^ a) (y * 2 ^ b) = Nat.gcd x y * 2 ^ a := by
  have e : y * 2 ^ b = (y * 2 ^ (b - a)) * 2 ^ a := by rw [Nat.mul_assoc, ← Nat.pow_add]; congr 2; omega
  rw [e, Nat.gcd_mul_right]
  congr 1
  have hc2 : Nat.Coprime 2 x := by
    unfold Nat.Coprime
    have h1 := Nat.gcd_dvd_left 2 x
    have h2 := Nat.gcd_dvd_right 2 x
    have h3 : Nat.gcd 2 x ≤ 2 := Nat.le_of_dvd (by decide) h1
    have h4 : 0 < Nat.gcd 2 x := Nat.gcd_pos_of_pos_left _ (by decide)
    rcases Nat.lt_or_ge (Nat.gcd 2 x) 2 with h | h
    · omega
    · have h5 : Nat.gcd 2 x = 2 := by omega
      rw [h5] at h2; omega
  have hc : Nat.Coprime (2 ^ (b - a)) x := Nat.Coprime.pow_left _ hc2
  exact Nat.Coprime.gcd_mul_right_cancel_right y hc

theorem gcd_odd_shift (a b x y : Nat) (hx : x % 2 = 1) (hy : y % 2 = 1) :
    Nat.gcd (x * 2 ^ a) (y * 2 ^ b) = Nat.gcd x y * 2 ^ (min a b) := by
  rcases Nat.le_total a b with h | h
  · rw [Nat.min_eq_left h]; exact gcd_odd_shift_le a b x y hx h
  · rw [Nat.min_eq_right h, Nat.gcd_comm, Nat.gcd_comm x y]; exact gcd_odd_shift_le b a y x hy h


theorem mpz_gcd_general (s : St) (g u v : Nat) (hu2 : 2 ≤ (s.h u).size.natAbs) (hv2 : 2 ≤ (s.h v).size.natAbs) :
    mpz_gcd s g u v = gcdGeneral 0 false s g (s.PTR u) (s.h u).size.natAbs (s.PTR v) (s.h v).size.natAbs := by
  have c1 : ((s.h u).size.natAbs == 0) = false := by simp; omega
  have c2 : ((s.h v).size.natAbs == 0) = false := by simp; omega
  have c3 : ((s.h u).size.natAbs == 1) = false := by simp; omega
  have c4 : ((s.h v).size.natAbs == 1) = false := by simp; omega
  unfold mpz_gcd gcd_
  simp only [St.ABSIZ, c1, c2, c3, c4, Bool.false_eq_true, if_false]

/-- gcd.c:112-126: the common low zeros of `u' << (64 * uzl + uzb)` and `v' << (64 * vzl + vzb)`, as limbs and bits -/
theorem common_zeros {uzl uzb vzl vzb : Nat} (hub : uzb ≤ 63) (hvb : vzb ≤ 63) {p : Nat × Nat}
    (hp : (if uzl > vzl then (vzl, vzb) else if uzl < vzl then (uzl, uzb) else (uzl, min uzb vzb)) = p) :
    p.2 ≤ 63 ∧ 64 * p.1 + p.2 = min (64 * uzl + uzb) (64 * vzl + vzb) := by
  rw [← hp]; split_ifs <;> simp only [] <;> omega

/-- gcd.c:79-155, the general arm composed: TMP copies, mpn_gcd (value = gcd, by contract), the re-shift into g -/
theorem gcdGeneral_refines (s : St) (g u v : Nat) (hs : s.ok = true) (hg : OWF (s.h g)) (hu : OWF (s.h u)) (hv : OWF (s.h v))
    (hu2 : 2 ≤ (s.h u).size.natAbs) (hv2 : 2 ≤ (s.h v).size.natAbs) :
    ∃ R, Refines s (mpz_gcd s g u v) g ⟨max (s.h g).buf.alloc R.length, (R.length : Nat), R⟩ ∧
      Mpz.WF ⟨max (s.h g).buf.alloc R.length, (R.length : Nat), R⟩ ∧
      val R = Nat.gcd (val (view (s.h u)).d) (val (view (s.h v)).d) := by
  have hU : s.rd (s.PTR u) (s.h u).size.natAbs = (view (s.h u)).d := by rw [rd_PTR]; rfl
  have hV : s.rd (s.PTR v) (s.h v).size.natAbs = (view (s.h v)).d := by rw [rd_PTR]; rfl
  have hUok : s.rdOk (s.PTR u) (s.h u).size.natAbs = true := by rw [rdOk_PTR]; simpa using view_fit hu
  have hVok : s.rdOk (s.PTR v) (s.h v).size.natAbs = true := by rw [rdOk_PTR]; simpa using view_fit hv
  have hne : ∀ {x : Nat}, OWF (s.h x) → 2 ≤ (s.h x).size.natAbs → (view (s.h x)).d ≠ [] := by
    intro x hx h2 e; have := view_d_length hx; rw [e] at this; simp at this; omega
  obtain ⟨uzl, uzb, ub, un, eU, hub, hua, hun, hUv, hUo, hUl, hUn⟩ :=
    stripLow_spec _ (view_limbs hu) ⟨view_limbs hu, hu.normalized⟩ (hne hu hu2)
  obtain ⟨vzl, vzb, vb, vn, eV, hvb, hva, hvn, hVv, hVo, hVl, hVn⟩ :=
    stripLow_spec _ (view_limbs hv) ⟨view_limbs hv, hv.normalized⟩ (hne hv hv2)
  rw [mpz_gcd_general s g u v hu2 hv2]
  unfold gcdGeneral
  simp only [hU, hV, hUok, hVok, eU, eV, Bool.and_self, chk_true]
  generalize hgz : (if uzl > vzl then (vzl, vzb) else if uzl < vzl then (uzl, uzb) else (uzl, min uzb vzb)) = p
  have hp := common_zeros hub hvb hgz
  obtain ⟨gzl, gzb⟩ := p
  simp only [] at hp ⊢
  generalize hu' : val (ub.read 0 un).1 = u' at *
  generalize hv' : val (vb.read 0 vn).1 = v' at *
  obtain ⟨gv, gl, gN⟩ := Bits.natLimbs_spec (Nat.gcd u' v')
  have hv0 : 0 < v' := by omega
  have hgpos : 0 < Nat.gcd u' v' := Nat.gcd_pos_of_pos_right _ hv0
  have gne : natLimbs (Nat.gcd u' v') ≠ [] := by
    intro e; rw [e] at gv; simp [val] at gv; omega
  have hfit : (natLimbs (Nat.gcd u' v')).length ≤ vb.alloc := by
    apply natLimbs_length_le
    have h1 : Nat.gcd u' v' ≤ v' := Nat.gcd_le_right _ hv0
    have h2 : v' < B ^ (vb.read 0 vn).1.length := by rw [← hv']; exact val_lt _ hVl
    have h3 : B ^ (vb.read 0 vn).1.length ≤ B ^ vb.alloc := Nat.pow_le_pow_right B_pos (by omega)
    omega
  simp only [hfit, decide_true, chk_true]
  obtain ⟨R, r1, r2, r3⟩ := gcdTail_refines s g (natLimbs (Nat.gcd u' v')) gzl gzb hs hg gl gN gne hp.1
  refine ⟨R, r1, r2, ?_⟩
  rw [r3, gv, hp.2, ← gcd_odd_shift _ _ _ _ hUo hVo, ← hUv, ← hVv]

/-! ## mpz/lcm.c, the general arm: the temporary g is never reallocated; mpz/divexact.c on it -/

/-- the block of `x` is still the same block (same generation, same length), or it was replaced by a longer one -/
def GenOk (s s' : St) (x : Nat) : Prop :=
  ((s'.h x).gen = (s.h x).gen ∧ (s'.h x).buf.alloc = (s.h x).buf.alloc) ∨ (s.h x).buf.alloc < (s'.h x).buf.alloc

theorem GenOk.sameBlock {s s' : St} {x : Nat} (h : GenOk s s' x) (hle : (s'.h x).buf.alloc ≤ (s.h x).buf.alloc) :
    SameBlock s s' x := h.resolve_right (Nat.not_lt.mpr hle)

theorem MPZ_REALLOC_genOk (s : St) (w n x : Nat) : GenOk s (MPZ_REALLOC s w n) x := by
  unfold MPZ_REALLOC GenOk St.ALLOC
  split
  · rename_i h
    by_cases hx : x = w
    · subst hx; right; simp [_mpz_realloc]; omega
    · left; simp [_mpz_realloc, upd, hx]
  · left; exact ⟨rfl, rfl⟩

theorem gcdTail_genOk (s : St) (g : Nat) (G : List Nat) (gzl gzb x : Nat) : GenOk s (gcdTail 0 false s g G gzl gzb) x := by
  have key : ∀ n, GenOk s (MPZ_REALLOC s g n) x := fun n => MPZ_REALLOC_genOk s g n x
  unfold gcdTail
  simp only [Nat.sub_zero, Bool.false_or, MPN_ZERO, St.store]
  split
  · split
    · have := key (G.length + gzl + if (Mpz.topLimb G >>> (64 - gzb) != 0) = true then 1 else 0)
      unfold GenOk at this ⊢; simpa using this
    · have := key (G.length + gzl + if (Mpz.topLimb G >>> (64 - gzb) != 0) = true then 1 else 0)
      unfold GenOk at this ⊢; simpa using this
  · have := key (G.length + gzl)
    unfold GenOk at this ⊢; simpa using this

/-- in the general arm mpz_gcd is `gcdTail` on a state with the same heap -/
theorem gcd_general_shape (s : St) (g u v : Nat) (hu2 : 2 ≤ (s.h u).size.natAbs) (hv2 : 2 ≤ (s.h v).size.natAbs) :
    ∃ c G gzl gzb, mpz_gcd s g u v = gcdTail 0 false (s.chk c) g G gzl gzb := by
  rw [mpz_gcd_general s g u v hu2 hv2]
  unfold gcdGeneral
  simp only []
  generalize stripLow (s.rd (s.PTR u) (s.h u).size.natAbs) = a
  generalize stripLow (s.rd (s.PTR v) (s.h v).size.natAbs) = b
  obtain ⟨a1, a2, a3, a4, a5⟩ := a
  obtain ⟨b1, b2, b3, b4, b5⟩ := b
  simp only []
  generalize (if a1 > b1 then (b1, b2) else if a1 < b1 then (a1, a2) else (a1, min a2 b2)) = p
  obtain ⟨p1, p2⟩ := p
  simp only []
  have chk3 : ∀ (s : St) (a b c : Bool), ((s.chk a).chk b).chk c = s.chk (a && b && c) := by
    intro s a b c; cases s; simp [St.chk, Bool.and_assoc]
  rw [chk3]
  exact ⟨_, _, _, _, rfl⟩

theorem mpz_gcd_genOk (s : St) (g u v x : Nat) (hu2 : 2 ≤ (s.h u).size.natAbs) (hv2 : 2 ≤ (s.h v).size.natAbs) :
    GenOk s (mpz_gcd s g u v) x := by
  obtain ⟨c, G, gzl, gzb, e⟩ := gcd_general_shape s g u v hu2 hv2
  rw [e]
  exact gcdTail_genOk (s.chk c) g G gzl gzb x


/-- mpz_divexact (q, num, q) on a quotient variable that must not be reallocated (mpz_lcm's temporary g) -/
theorem divexact_tmp (s : St) (q num : Nat) (hs : s.ok = true) (hq : OWF (s.h q)) (hn : OWF (s.h num))
    (hle : (s.h q).size.natAbs ≤ (s.h num).size.natAbs) (hd1 : 1 ≤ (s.h q).size.natAbs)
    (hfit : (s.h num).size.natAbs + 1 - (s.h q).size.natAbs ≤ (s.h q).buf.alloc) :
    (divexact s q num q).ok = true ∧ OWF ((divexact s q num q).h q) ∧ (∀ x, x ≠ q → (divexact s q num q).h x = s.h x) ∧
    ((divexact s q num q).h q).gen = (s.h q).gen ∧ ((divexact s q num q).h q).buf.alloc = (s.h q).buf.alloc ∧
    (Mpz.toInt (view ((divexact s q num q).h q))).natAbs = val (view (s.h num)).d / val (view (s.h q)).d := by
  have hN : s.rd (s.PTR num) (s.h num).size.natAbs = (view (s.h num)).d := by rw [rd_PTR]; rfl
  have hD : s.rd (s.PTR q) (s.h q).size.natAbs = (view (s.h q)).d := by rw [rd_PTR]; rfl
  have hNok : s.rdOk (s.PTR num) (s.h num).size.natAbs = true := by rw [rdOk_PTR]; simpa using view_fit hn
  have hDok : s.rdOk (s.PTR q) (s.h q).size.natAbs = true := by rw [rdOk_PTR]; simpa using view_fit hq
  unfold divexact
  simp only [St.ABSIZ]
  have hlt : ¬ (s.h num).size.natAbs < (s.h q).size.natAbs := by omega
  rw [MPZ_REALLOC_noop s q _ hfit]
  simp only [hlt, ↓reduceIte]
  simp only [beq_self_eq_true, Bool.or_true, if_true, hN, hD, hNok, hDok, Bool.and_self, chk_true]
  generalize hQ : toLimbs ((s.h num).size.natAbs - (s.h q).size.natAbs + 1) (val (view (s.h num)).d / val (view (s.h q)).d) = Q
  have hQl : Q.length = (s.h num).size.natAbs - (s.h q).size.natAbs + 1 := by rw [← hQ]; exact toLimbs_length _ _
  have hQL : Limbs Q := by rw [← hQ]; exact Limbs_toLimbs _ _
  rw [new_write_full Q _ hQl]
  simp only [chk_true, Buf.read, List.drop_zero, ← hQl, List.take_length, take_normalize_length]
  generalize Mpz.diffSign (s.SIZ num) (s.SIZ q) = neg
  have hNl := Mpz.Norm_normalize hQL
  have hnle := normalize_length_le Q
  have hqa : Q.length ≤ (s.h q).buf.alloc := by rw [hQl]; omega
  have hs2 : (s.setSize q (sgn neg (normalize Q).length)).ok = true := by simpa using hs
  have hb2 : BWF ((s.setSize q (sgn neg (normalize Q).length)).h q).buf := by simpa using hq.1
  have W := Wrote.fresh (s.setSize q (sgn neg (normalize Q).length)) q (normalize Q) true hs2 rfl hb2 hNl.1
    (by simp only [setSize_buf]; omega)
  simp only [chk_true] at W
  have R := W.refines (sgn neg (normalize Q).length) (by simp) (by rw [natAbs_sgn])
  rw [natAbs_sgn, List.take_length] at R
  have ha : 1 ≤ (s.h q).buf.alloc := hq.alloc_pos
  refine ⟨W.ok, ⟨W.bwf, ?_⟩, fun x hx => (W.frame x hx).trans (setSize_other _ _ _ hx), ?_, ?_, ?_⟩
  · rw [R.view]
    exact ⟨by simpa using ha, by rw [natAbs_sgn]; simp only [setSize_buf]; omega, by rw [natAbs_sgn], hNl.1, hNl.2⟩
  · rw [W.gen]; simp
  · rw [W.alloc]; simp
  · rw [R.view, toInt_natAbs, val_normalize, ← hQ, val_toLimbs]
    apply Nat.mod_eq_of_lt
    have hNlt : val (view (s.h num)).d < B ^ (s.h num).size.natAbs := by
      have := val_lt _ (view_limbs hn); rwa [view_d_length hn] at this
    have hqne : (view (s.h q)).d ≠ [] := by
      intro e; have := view_d_length hq; rw [e] at this; simp at this; omega
    have hDge : B ^ ((s.h q).size.natAbs - 1) ≤ val (view (s.h q)).d := by
      have := Mpz.Norm.lower ⟨view_limbs hq, hq.normalized⟩ hqne; rwa [view_d_length hq] at this
    apply Nat.div_lt_of_lt_mul
    calc val (view (s.h num)).d < B ^ (s.h num).size.natAbs := hNlt
      _ = B ^ ((s.h q).size.natAbs - 1) * B ^ ((s.h num).size.natAbs - (s.h q).size.natAbs + 1) := by
          rw [← Nat.pow_add]; congr 1; omega
      _ ≤ val (view (s.h q)).d * B ^ ((s.h num).size.natAbs - (s.h q).size.natAbs + 1) := Nat.mul_le_mul_right _ hDge


/-- mpz_lcm, the general arm (lcm.c:73-83): mpz_gcd, mpz_divexact and mpz_mul as object-level callees on the temporary g, whose
    TMP block of MAX (usize, vsize) limbs is never reallocated -/
theorem lcmGeneral_safe (s : St) (r u v gid : Nat) (hs : s.ok = true) (hr : OWF (s.h r)) (hu : OWF (s.h u)) (hv : OWF (s.h v))
    (hgr : gid ≠ r) (hgu : gid ≠ u) (hgv : gid ≠ v)
    (hu2 : 2 ≤ (s.h u).size.natAbs) (hv2 : 2 ≤ (s.h v).size.natAbs) :
    ∃ m, Safe s (mpz_lcm s r u v gid) r m ∧
      Mpz.toInt m = (Nat.lcm (val (view (s.h u)).d) (val (view (s.h v)).d) : Nat) := by
  have c1 : ¬ (s.h u).size = 0 := by omega
  have c2 : ¬ (s.h v).size = 0 := by omega
  have c3 : ¬ (s.h u).size.natAbs = 1 := by omega
  have c4 : ¬ (s.h v).size.natAbs = 1 := by omega
  have hz : ((s.h u).size == 0 || (s.h v).size == 0) = false := by simp [c1, c2]
  have c3' : ((s.h u).size.natAbs == 1) = false := by simpa using c3
  have c4' : ((s.h v).size.natAbs == 1) = false := by simpa using c4
  unfold mpz_lcm lcm_
  simp only [St.SIZ, hz, c3', c4', Bool.false_eq_true, if_false]
  generalize hsz : max (s.h u).size.natAbs (s.h v).size.natAbs = size
  generalize hs0 : ({ s with h := upd s.h gid ⟨0, 0, Buf.new size⟩ } : St) = s0
  have h0o : ∀ x, x ≠ gid → s0.h x = s.h x := by intro x hx; rw [← hs0]; exact upd_other _ _ hx
  have h0g : s0.h gid = ⟨0, 0, Buf.new size⟩ := by rw [← hs0]; simp
  have h0ok : s0.ok = true := by rw [← hs0]; exact hs
  have hg0 : OWF (s0.h gid) := by rw [h0g]; exact tmp_owf _ (by omega)
  have hu0 : OWF (s0.h u) := by rw [h0o u hgu.symm]; exact hu
  have hv0 : OWF (s0.h v) := by rw [h0o v hgv.symm]; exact hv
  have eu : s0.h u = s.h u := h0o u hgu.symm
  have ev : s0.h v = s.h v := h0o v hgv.symm
  -- mpz_gcd (g, u, v)
  obtain ⟨R, r1, r2, r3⟩ := gcdGeneral_refines s0 gid u v h0ok hg0 hu0 hv0 (by rw [eu]; exact hu2) (by rw [ev]; exact hv2)
  have hK := mpz_gcd_genOk s0 gid u v gid (by rw [eu]; exact hu2) (by rw [ev]; exact hv2)
  rw [eu, ev] at r3
  generalize mpz_gcd s0 gid u v = s1 at *
  have hUpos : 0 < val (view (s.h u)).d :=
    Mpz.Norm.pos ⟨view_limbs hu, hu.normalized⟩ (by intro e; have := view_d_length hu; rw [e] at this; simp at this; omega)
  have hUlt : val (view (s.h u)).d < B ^ (s.h u).size.natAbs := by
    have := val_lt _ (view_limbs hu); rwa [view_d_length hu] at this
  have hgpos : 0 < val R := by rw [r3]; exact Nat.gcd_pos_of_pos_left _ hUpos
  have hRne : R ≠ [] := by intro e; rw [e] at hgpos; simp [val] at hgpos
  have hRlen : R.length ≤ (s.h u).size.natAbs := by
    by_contra hc
    have hRL : Limbs R := r2.2.2.2.1
    have hRN : R.getLast? ≠ some 0 := r2.2.2.2.2
    have h1 := Mpz.Norm.lower ⟨hRL, hRN⟩ hRne
    have h2 : B ^ (s.h u).size.natAbs ≤ B ^ (R.length - 1) := Nat.pow_le_pow_right B_pos (by omega)
    have h3 : val R ≤ val (view (s.h u)).d := by rw [r3]; exact Nat.gcd_le_left _ hUpos
    omega
  have hR1 : 1 ≤ R.length := by
    rcases R with _ | ⟨a, t⟩
    · exact absurd rfl hRne
    · simp
  have hv1 := r1.view
  have ha1 : (s1.h gid).buf.alloc = size := by
    have : (view (s1.h gid)).alloc = max (s0.h gid).buf.alloc R.length := by rw [hv1]
    simp only [view, h0g, Buf.new] at this; rw [this]; omega
  have hsz1 : (s1.h gid).size = (R.length : Nat) := by
    have : (view (s1.h gid)).size = (R.length : Nat) := by rw [hv1]
    simpa [view] using this
  have hgen1 : (s1.h gid).gen = 0 :=
    (hK.sameBlock (by rw [ha1, h0g]; exact Nat.le_refl _)).1.trans (by rw [h0g])
  have hg1 : OWF (s1.h gid) := ⟨r1.bwf, by rw [hv1]; exact r2⟩
  have e1 : ∀ x, x ≠ gid → s1.h x = s.h x := fun x hx => (r1.frame x hx).trans (h0o x hx)
  have hu1 : OWF (s1.h u) := by rw [e1 u hgu.symm]; exact hu
  -- mpz_divexact (g, u, g)
  obtain ⟨d1, d2, d3, d4, d5, d6⟩ := divexact_tmp s1 gid u r1.ok hg1 hu1
    (by rw [hsz1, e1 u hgu.symm]; simpa using hRlen) (by rw [hsz1]; simpa using hR1)
    (by rw [hsz1, e1 u hgu.symm, ha1]; simp only [Int.natAbs_natCast]; omega)
  have hd6 : (Mpz.toInt (view ((divexact s1 gid u gid).h gid))).natAbs =
      val (view (s.h u)).d / Nat.gcd (val (view (s.h u)).d) (val (view (s.h v)).d) := by
    rw [d6, e1 u hgu.symm, hv1, r3]
  generalize divexact s1 gid u gid = s2 at *
  have hc : ((s2.h gid).gen == 0) = true := by rw [d4, hgen1]; rfl
  rw [hc, chk_true]
  have e2 : ∀ x, x ≠ gid → s2.h x = s.h x := fun x hx => (d3 x hx).trans (e1 x hx)
  -- mpz_mul (r, g, v)
  obtain ⟨M, mv⟩ := mul_safe 17 s2 r gid v d1 (by rw [e2 r hgr.symm]; exact hr) d2 (by rw [e2 v hgv.symm]; exact hv)
  have emul : mpz_mul s2 r gid v = mul 17 true 1 s2 r gid v := rfl
  rw [emul]
  generalize mul 17 true 1 s2 r gid v = s4 at *
  obtain ⟨m1, m2, m3, m4⟩ := M
  refine ⟨⟨(s4.h r).buf.alloc, ((s4.h r).size.natAbs : Nat), (view (s4.h r)).d⟩, ⟨m1, ?_, ?_, ?_⟩, ?_⟩
  · -- r well formed
    have hx : ({ (s4.setSize r ((s4.h r).size.natAbs : Nat)) with
        h := upd (s4.setSize r ((s4.h r).size.natAbs : Nat)).h gid (s.h gid) } : St).h r =
        (s4.setSize r ((s4.h r).size.natAbs : Nat)).h r := upd_other _ _ hgr.symm
    rw [hx]
    obtain ⟨w1, w2, w3, w4, w5⟩ := m2.2
    refine ⟨by simpa using m2.1, ?_⟩
    simp only [view, St.setSize, upd_same, Int.natAbs_natCast] at w1 w2 w3 w4 w5 ⊢
    exact ⟨w1, w2, w3, w4, w5⟩
  · intro x hx
    by_cases hxg : x = gid
    · subst hxg; simp [upd]
    · show (upd (s4.setSize r ((s4.h r).size.natAbs : Nat)).h gid (s.h gid)) x = s.h x
      rw [upd_other _ _ hxg, setSize_other _ _ _ hx, m3 x hx, e2 x hxg]
  · show view ((upd (s4.setSize r ((s4.h r).size.natAbs : Nat)).h gid (s.h gid)) r) = _
    rw [upd_other _ _ hgr.symm]
    simp [view, St.setSize, Int.natAbs_abs]
  · have hmv : (Mpz.toInt (view (s4.h r))).natAbs =
        val (view (s.h u)).d / Nat.gcd (val (view (s.h u)).d) (val (view (s.h v)).d) * val (view (s.h v)).d := by
      rw [mv, Int.natAbs_mul, hd6, e2 v hgv.symm, toInt_natAbs]
    rw [toInt_natAbs] at hmv
    have : Mpz.toInt ⟨(s4.h r).buf.alloc, ((s4.h r).size.natAbs : Nat), (view (s4.h r)).d⟩ = (val (view (s4.h r)).d : Nat) := by
      simp [Mpz.toInt]
    rw [this, hmv]
    congr 1
    obtain ⟨k, hk⟩ := Nat.gcd_dvd_left (val (view (s.h u)).d) (val (view (s.h v)).d)
    have hg' : 0 < Nat.gcd (val (view (s.h u)).d) (val (view (s.h v)).d) := Nat.gcd_pos_of_pos_left _ hUpos
    unfold Nat.lcm
    generalize Nat.gcd (val (view (s.h u)).d) (val (view (s.h v)).d) = gg at *
    rw [hk, Nat.mul_div_cancel_left _ hg', Nat.mul_assoc, Nat.mul_div_cancel_left _ hg']

end Mpir.AllocSafe5
