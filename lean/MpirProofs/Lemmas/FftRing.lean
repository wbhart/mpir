/- Helper lemmas for the FFT ring layer (Mpir/Model/FftRing.lean): signed limbs, residues, mpn_addmod_2expp1_1,
   mpn_normmod_2expp1, mpn_sumdiff_n. -/
import MpirProofs.Lemmas.Kernels
import Mpir.Model.FftRing
import Mathlib.Tactic.Ring
import Mathlib.Tactic.Linarith
import Mathlib.Tactic.NormNum
import Mathlib.Tactic.LinearCombination
import Mathlib.Tactic.IntervalCases
import Mathlib.Tactic.Positivity
import Mathlib.Tactic.Zify
import Mathlib.Data.Int.ModEq
import Mathlib.Data.Nat.Bitwise
namespace Mpir.Fft
open Mpir

/-! ### signed limbs -/

theorem BZ_pos : (0 : Int) < (B : Int) := by exact_mod_cast B_pos
theorem BZpow_pos (n : Nat) : (0 : Int) < (B : Int) ^ n := pow_pos BZ_pos n

theorem sint_def (t : Nat) : sint t = if t < 9223372036854775808 then (t : Int) else (t : Int) - 18446744073709551616 := by
  unfold sint; simp only [B_eq]; rfl

theorem sint_range (t : Nat) (ht : t < B) : -9223372036854775808 ≤ sint t ∧ sint t < 9223372036854775808 := by
  rw [sint_def]; simp only [B_eq] at ht; split <;> omega

theorem sint_eq (t : Nat) : (t : Int) = sint t + (B : Int) * (if t < B / 2 then 0 else 1) := by
  unfold sint; split <;> simp

theorem sint_of_small (t : Nat) (h : t < B / 2) : sint t = t := by unfold sint; simp [h]

theorem ofInt_lt (z : Int) : ofInt z < B := by
  unfold ofInt
  have h := Int.emod_lt_of_pos z BZ_pos
  have h0 := Int.emod_nonneg z (ne_of_gt BZ_pos)
  omega

theorem sint_ofInt (z : Int) (h0 : -9223372036854775808 ≤ z) (h1 : z < 9223372036854775808) : sint (ofInt z) = z := by
  rw [sint_def]; unfold ofInt; simp only [B_eq]; push_cast
  have hm := Int.emod_emod_of_dvd z (dvd_refl (18446744073709551616 : Int))
  have e : ((z % 18446744073709551616).toNat : Int) = z % 18446744073709551616 := Int.toNat_of_nonneg (by omega)
  split <;> omega

theorem lneg_lt (c : Nat) : lneg c < B := Nat.mod_lt _ B_pos
theorem ladd_lt (a b : Nat) : ladd a b < B := Nat.mod_lt _ B_pos
theorem lsub_lt (a b : Nat) : lsub a b < B := Nat.mod_lt _ B_pos

theorem sint_lneg (c : Nat) (hc : c < B) (hmin : c ≠ B / 2) : sint (lneg c) = - sint c := by
  rw [sint_def, sint_def]; unfold lneg; simp only [B_eq] at *; split <;> split <;> omega

@[simp] theorem lo_snoc (xs : List Nat) (t : Nat) : lo (xs ++ [t]) = xs := by simp [lo]
@[simp] theorem top_snoc (xs : List Nat) (t : Nat) : top (xs ++ [t]) = t := by
  simp [top, List.getD_eq_getElem?_getD]
@[simp] theorem setTop_snoc (xs : List Nat) (t v : Nat) : setTop (xs ++ [t]) v = xs ++ [v] := by simp [setTop]

/-! ### residues `xs ++ [h]`: `Res`, reading a value off a carry equation -/

theorem rval_snoc (xs : List Nat) (t : Nat) :
    rval (xs ++ [t]) = (val xs : Int) + (B : Int) ^ xs.length * sint t := by
  unfold rval; simp

/-- `y` is a residue vector `ys ++ [g]` (signed top limb last) of `n + 1` proper limbs that satisfies `P`: the form in which
    most operations of the ring layer are specified -/
@[reducible] def Res (n : Nat) (y : List Nat) (P : List Nat → Prop) : Prop :=
  ∃ ys g, y = ys ++ [g] ∧ ys.length = n ∧ Limbs (ys ++ [g]) ∧ P (ys ++ [g])

theorem Res.out {n : Nat} {y : List Nat} {P : List Nat → Prop} (h : Res n y P) : y.length = n + 1 ∧ Limbs y ∧ P y := by
  obtain ⟨ys, g, rfl, l, L, p⟩ := h
  exact ⟨by simp [l], L, p⟩

theorem Res.out2 {n : Nat} {y z : List Nat} {P Q : List Nat → Prop} (h : Res n y P ∧ Res n z Q) :
    y.length = n + 1 ∧ z.length = n + 1 ∧ Limbs y ∧ Limbs z ∧ P y ∧ Q z :=
  ⟨h.1.out.1, h.2.out.1, h.1.out.2.1, h.2.out.2.1, h.1.out.2.2, h.2.out.2.2⟩

theorem Res.mono {n : Nat} {y : List Nat} {P Q : List Nat → Prop} (h : Res n y P)
    (hPQ : ∀ ys g, ys.length = n → Limbs (ys ++ [g]) → P (ys ++ [g]) → Q (ys ++ [g])) : Res n y Q := by
  obtain ⟨ys, g, e, l, L, p⟩ := h
  exact ⟨ys, g, e, l, L, hPQ ys g l L p⟩

theorem valZ_lt (l : List Nat) (h : Limbs l) : (val l : Int) < (B : Int) ^ l.length := by
  exact_mod_cast val_lt l h

theorem rval_eq_val (xs : List Nat) (t : Nat) :
    rval (xs ++ [t]) = (val (xs ++ [t]) : Int) - (B : Int) ^ (xs.length + 1) * (if t < B / 2 then 0 else 1) := by
  rw [rval_snoc, val_snoc]; push_cast; rw [sint_eq t]
  have : sint (t : Nat) = sint t := rfl
  split <;> simp [sint, *]; ring

theorem rval_bounds (xs : List Nat) (t : Nat) (hx : Limbs (xs ++ [t])) (a b : Int) (ha : a ≤ sint t) (hb : sint t ≤ b) :
    a * (B : Int) ^ xs.length ≤ rval (xs ++ [t]) ∧ rval (xs ++ [t]) < (b + 1) * (B : Int) ^ xs.length := by
  have hv0 : (0 : Int) ≤ val xs := Nat.cast_nonneg _
  have hv1 := valZ_lt xs (Limbs_snoc.mp hx).1
  have hP := le_of_lt (BZpow_pos xs.length)
  have h1 := mul_le_mul_of_nonneg_right ha hP
  have h2 := mul_le_mul_of_nonneg_right hb hP
  rw [rval_snoc]
  constructor <;> linarith

theorem BZ_eq : (B : Int) = 18446744073709551616 := by exact_mod_cast B_eq

theorem eq_of_half_range (M x y k : Int) (h : x = y + k * M) (hx1 : -M ≤ 2 * x) (hx2 : 2 * x < M)
    (hy1 : -M ≤ 2 * y) (hy2 : 2 * y < M) : x = y := by
  have hk : k = 0 := by
    by_contra hne
    rcases lt_or_gt_of_ne hne with h' | h'
    · have : k * M ≤ -1 * M := mul_le_mul_of_nonneg_right (by omega) (by linarith)
      linarith
    · have : 1 * M ≤ k * M := mul_le_mul_of_nonneg_right (by omega) (by linarith)
      linarith
  rw [h, hk]; ring

/-- how every carry argument ends: a value congruent to `E` modulo `B^(n+1)`, `E` in the signed range, reads as `E` -/
theorem rval_of_eq (xs : List Nat) (t : Nat) (hx : Limbs (xs ++ [t])) (E K : Int)
    (h : (val (xs ++ [t]) : Int) = E + K * (B : Int) ^ (xs.length + 1))
    (hlo : -((B : Int) ^ (xs.length + 1)) ≤ 2 * E) (hhi : 2 * E < (B : Int) ^ (xs.length + 1)) :
    rval (xs ++ [t]) = E := by
  have hs := sint_range t (Limbs_snoc.mp hx).2
  have rb := rval_bounds xs t hx _ _ hs.1 (Int.le_sub_one_of_lt hs.2)
  have hM : (B : Int) ^ (xs.length + 1) = 18446744073709551616 * (B : Int) ^ xs.length := by rw [pow_succ, BZ_eq, mul_comm]
  refine eq_of_half_range _ _ _ (K - if t < B / 2 then 0 else 1) ?_ (by rw [hM]; linarith) (by rw [hM]; linarith) hlo hhi
  rw [rval_eq_val, h]; ring

/-- … with the range as one hypothesis, the shape the `fits_*` lemmas deliver -/
theorem rval_of_fits (xs : List Nat) (t : Nat) (hx : Limbs (xs ++ [t])) {n : Nat} (hl : xs.length = n) (E K : Int)
    (h : (val (xs ++ [t]) : Int) = E + K * (B : Int) ^ (n + 1))
    (hf : -((B : Int) ^ n * (B : Int)) ≤ 2 * E ∧ 2 * E < (B : Int) ^ n * (B : Int)) :
    rval (xs ++ [t]) = E := by
  subst hl
  rw [← pow_succ] at hf
  exact rval_of_eq xs t hx E K h hf.1 hf.2

theorem top_bounds (xs : List Nat) (t : Nat) (hx : Limbs (xs ++ [t])) (a b : Int)
    (hlo : a * (B : Int) ^ xs.length ≤ rval (xs ++ [t])) (hhi : rval (xs ++ [t]) < (b + 1) * (B : Int) ^ xs.length) :
    a ≤ sint t ∧ sint t ≤ b := by
  have hv0 : (0 : Int) ≤ val xs := Nat.cast_nonneg _
  have hv1 := valZ_lt xs (Limbs_snoc.mp hx).1
  have hP := le_of_lt (BZpow_pos xs.length)
  rw [rval_snoc] at hlo hhi
  have h1 : a * (B : Int) ^ xs.length < (sint t + 1) * (B : Int) ^ xs.length := by linarith
  have h2 : sint t * (B : Int) ^ xs.length < (b + 1) * (B : Int) ^ xs.length := by linarith
  have := lt_of_mul_lt_mul_right h1 hP
  have := lt_of_mul_lt_mul_right h2 hP
  omega

theorem sint_eq_zero {t : Nat} (ht : t < B) : sint t = 0 ↔ t = 0 := by
  rw [sint_def]; simp only [B_eq] at ht; split <;> omega
theorem sint_eq_one {t : Nat} (ht : t < B) : sint t = 1 ↔ t = 1 := by
  rw [sint_def]; simp only [B_eq] at ht; split <;> omega
theorem sint_eq_neg_one {t : Nat} (ht : t < B) : sint t = -1 ↔ t = B - 1 := by
  rw [sint_def]; simp only [B_eq] at *; split <;> omega

/-! ### mpn_addmod_2expp1_1 (gmp-impl.h:1123-1136) -/

theorem msb_iff (a : Nat) (ha : a < B) : a < B / 2 ↔ a.testBit 63 = false := by
  simp only [B_eq] at *
  rw [Nat.testBit_eq_decide_div_mod_eq]
  simp only [decide_eq_false_iff_not]
  omega

theorem xor_sign (a b : Nat) (ha : a < B) (hb : b < B) :
    (a ^^^ b) < B / 2 ↔ ((a < B / 2) ↔ (b < B / 2)) := by
  have hx : a ^^^ b < B := by
    have : B = 2 ^ 64 := rfl
    rw [this] at *; exact Nat.xor_lt_two_pow ha hb
  rw [msb_iff _ hx, msb_iff a ha, msb_iff b hb, Nat.testBit_xor]
  cases a.testBit 63 <;> cases b.testBit 63 <;> simp

theorem addmod1_spec (r0 : Nat) (rs : List Nat) (c : Nat) (hr : Limbs (r0 :: rs)) (hc : c < B) :
    (∃ k : Int, (val (addmod1 (r0 :: rs) c) : Int) = val (r0 :: rs) + sint c + k * (B : Int) ^ (rs.length + 1)) ∧
    Limbs (addmod1 (r0 :: rs) c) ∧ (addmod1 (r0 :: rs) c).length = rs.length + 1 := by
  have ⟨hr0, hrs⟩ := Limbs_cons.mp hr
  have hsum : (r0 + c) % B < B := Nat.mod_lt _ B_pos
  unfold addmod1
  simp only
  split
  · rename_i hx
    rw [xor_sign _ _ hsum hr0] at hx
    refine ⟨⟨0, ?_⟩, Limbs_cons.mpr ⟨hsum, hrs⟩, by simp⟩
    have : (((r0 + c) % B : Nat) : Int) = r0 + sint c := by
      rw [sint_def]; simp only [B_eq] at *; split <;> omega
    simp only [val_cons]; rw [Nat.cast_add, this]; push_cast; ring
  · split
    · rename_i _ hcs
      obtain ⟨hv, _, hl, hn⟩ := add_1_val' (r0 :: rs) c hr (Nat.succ_pos _) hc
      simp only [List.length_cons] at hv hn
      refine ⟨⟨-((add_1 (r0 :: rs) c).2 : Int), ?_⟩, hl, hn⟩
      rw [sint_of_small c hcs]
      have := congrArg (fun z : Nat => (z : Int)) hv
      push_cast at this ⊢
      linear_combination this
    · rename_i _ hcs
      have hl' := lneg_lt c
      obtain ⟨hv, _, hl, hn⟩ := sub_1_val' (r0 :: rs) (lneg c) hr (Nat.succ_pos _) hl'
      simp only [List.length_cons] at hv hn
      refine ⟨⟨((sub_1 (r0 :: rs) (lneg c)).2 : Int), ?_⟩, hl, hn⟩
      have e1 : (lneg c : Int) = (B : Int) - c := by
        unfold lneg; simp only [B_eq] at *; omega
      have e2 : sint c = (c : Int) - B := by unfold sint; simp [hcs]
      have := congrArg (fun z : Nat => (z : Int)) hv
      push_cast at this ⊢
      rw [e1] at this; rw [e2]
      linear_combination this

theorem B_le_pow (n : Nat) (hn : 1 ≤ n) : (B : Int) ≤ (B : Int) ^ n := by
  calc (B : Int) = (B : Int) ^ 1 := (pow_one _).symm
    _ ≤ (B : Int) ^ n := pow_le_pow_right₀ (by have := BZ_pos; omega) hn

theorem fits_signed (P v s : Int) (hP : (B : Int) ≤ P) (hv0 : 0 ≤ v) (hv1 : v < P)
    (hs : -9223372036854775808 ≤ s ∧ s < 9223372036854775808) :
    -(P * (B : Int)) ≤ 2 * (v + s) ∧ 2 * (v + s) < P * (B : Int) := by
  rw [BZ_eq] at *; constructor <;> linarith

@[simp] theorem sint_zero : sint 0 = 0 := by rw [sint_def]; simp
@[simp] theorem sint_one : sint 1 = 1 := by rw [sint_def]; simp

theorem addmod1_spec' (r : List Nat) (c : Nat) (hr : Limbs r) (hne : 0 < r.length) (hc : c < B) :
    (∃ k : Int, (val (addmod1 r c) : Int) = val r + sint c + k * (B : Int) ^ r.length) ∧
    Limbs (addmod1 r c) ∧ (addmod1 r c).length = r.length := by
  obtain ⟨r0, rs, rfl⟩ := List.exists_cons_of_length_pos hne
  simpa using addmod1_spec r0 rs c hr hc

/-- `t[limbs] = 0; mpn_addmod_2expp1_1(t, limbs, c)`: the signed limb is added without wrap-around -/
theorem fold_add (xs : List Nat) (c : Nat) (hxs : Limbs xs) (hn : 1 ≤ xs.length) (hc : c < B) :
    Res xs.length (addmod1 (xs ++ [0]) c) fun y =>
      rval y = (val xs : Int) + sint c := by
  obtain ⟨⟨k, hk⟩, hl, hlen⟩ := addmod1_spec' (xs ++ [0]) c (Limbs_snoc.mpr ⟨hxs, B_pos⟩) (by simp) hc
  simp only [List.length_append, List.length_cons, List.length_nil, val_snoc, Nat.mul_zero, Nat.add_zero] at hlen hk
  obtain ⟨ys, g, hyg, hys⟩ := exists_snoc _ xs.length hlen
  refine ⟨ys, g, hyg, hys, hyg ▸ hl, ?_⟩
  rw [hyg] at hk
  have hf := fits_signed _ _ _ (B_le_pow xs.length hn) (Nat.cast_nonneg _) (valZ_lt _ hxs) (sint_range c hc)
  refine rval_of_fits ys g (hyg ▸ hl) hys _ k ?_ hf
  linear_combination hk

/-! ### mpn_normmod_2expp1 (normmod_2expp1.c) -/

theorem modEq_pmod_iff (n : Nat) (a b : Int) : a ≡ b [ZMOD pmod n] ↔ ∃ q : Int, a - b = q * ((B : Int) ^ n + 1) := by
  rw [Int.modEq_iff_dvd]; unfold pmod
  constructor
  · rintro ⟨q, hq⟩; exact ⟨-q, by linear_combination -hq⟩
  · rintro ⟨q, hq⟩; exact ⟨-q, by linear_combination -hq⟩

/-- one folding step of normmod: `t[limbs] = 0; mpn_addmod_2expp1_1(t, limbs, -hi)` subtracts hi·(B^n + 1) -/
theorem fold_step (xs : List Nat) (h : Nat) (hx : Limbs (xs ++ [h])) (hn : 1 ≤ xs.length) (hmin : h ≠ B / 2) :
    Res xs.length (addmod1 (xs ++ [0]) (lneg h)) fun y =>
      rval y = (val xs : Int) - sint h ∧ rval y ≡ rval (xs ++ [h]) [ZMOD pmod xs.length] := by
  have ⟨hxs, hh⟩ := Limbs_snoc.mp hx
  obtain ⟨ys, g, h1, h2, h3, h4⟩ := fold_add xs (lneg h) hxs hn (lneg_lt h)
  rw [sint_lneg h hh hmin] at h4
  exact ⟨ys, g, h1, h2, h3, by rw [h4]; ring, (modEq_pmod_iff _ _ _).mpr ⟨-sint h, by rw [h4, rval_snoc]; ring⟩⟩

/-- canonical (fully reduced) residue: top limb 0, or the single value B^n as (0,…,0,1) -/
def Canonical (x : List Nat) : Prop := top x = 0 ∨ (top x = 1 ∧ val (lo x) = 0)

theorem canonical_range (xs : List Nat) (t : Nat) (hx : Limbs (xs ++ [t])) (hc : Canonical (xs ++ [t])) :
    0 ≤ rval (xs ++ [t]) ∧ rval (xs ++ [t]) ≤ (B : Int) ^ xs.length := by
  have ⟨hxs, _⟩ := Limbs_snoc.mp hx
  have hv1 := valZ_lt xs hxs
  have hv0 : (0 : Int) ≤ val xs := Nat.cast_nonneg _
  rw [rval_snoc]
  rcases hc with h | ⟨h, h0⟩
  · simp only [top_snoc] at h; subst h
    simp only [sint_zero, mul_zero, add_zero]; constructor <;> linarith
  · simp only [top_snoc, lo_snoc] at h h0; subst h
    rw [sint_one, h0]; simp

theorem top_cases (ys : List Nat) (g : Nat) (hl : Limbs (ys ++ [g]))
    (hlo : -((B : Int) ^ ys.length) ≤ rval (ys ++ [g])) (hhi : rval (ys ++ [g]) < 2 * (B : Int) ^ ys.length) :
    0 ≤ (val ys : Int) ∧ (val ys : Int) < (B : Int) ^ ys.length ∧
    ((g = 0 ∧ rval (ys ++ [g]) = val ys) ∨ (g = 1 ∧ rval (ys ++ [g]) = val ys + (B : Int) ^ ys.length) ∨
      (g = B - 1 ∧ rval (ys ++ [g]) = val ys - (B : Int) ^ ys.length)) := by
  have ⟨hys, hg⟩ := Limbs_snoc.mp hl
  have tb := top_bounds ys g hl (-1) 1 (by linarith) (by linarith)
  have : sint g = 0 ∨ sint g = 1 ∨ sint g = -1 := by omega
  refine ⟨by positivity, valZ_lt ys hys, ?_⟩
  rw [rval_snoc]
  rcases this with h | h | h
  · exact Or.inl ⟨(sint_eq_zero hg).mp h, by rw [h]; ring⟩
  · exact Or.inr (Or.inl ⟨(sint_eq_one hg).mp h, by rw [h]; ring⟩)
  · exact Or.inr (Or.inr ⟨(sint_eq_neg_one hg).mp h, by rw [h]; ring⟩)

/-- Each folding step subtracts (top limb)·(B^n + 1).  After the first the value lies in (−2^63, B^n + 2^63], so the top
    limb is 0 or ±1; after the second in [−1, B^n]; the value −1, held as (B−1, …, B−1, −1), gets one more +1. -/
theorem normmod_spec (xs : List Nat) (h : Nat) (hx : Limbs (xs ++ [h])) (hn : 1 ≤ xs.length) (hmin : h ≠ B / 2) :
    Res xs.length (normmod (xs ++ [h])) fun y =>
      Canonical y ∧ rval y ≡ rval (xs ++ [h]) [ZMOD pmod xs.length] := by
  have ⟨hxs, hh⟩ := Limbs_snoc.mp hx
  have hP : (18446744073709551616 : Int) ≤ (B : Int) ^ xs.length := BZ_eq ▸ B_le_pow xs.length hn
  have hv0 : (0 : Int) ≤ val xs := Nat.cast_nonneg _
  have hv1 := valZ_lt xs hxs
  have hs := sint_range h hh
  unfold normmod
  simp only [top_snoc, setTop_snoc]
  by_cases h0 : h = 0
  · subst h0
    exact ⟨xs, 0, by simp, rfl, hx, Or.inl (by simp), Int.ModEq.refl _⟩
  rw [if_pos h0]
  obtain ⟨ys, g, e1, l1, hl1, r1, c1⟩ := fold_step xs h hx hn hmin
  rw [e1]; simp only [top_snoc, setTop_snoc]
  obtain ⟨y0, y1, hg⟩ := top_cases ys g hl1 (by rw [l1, r1]; linarith only [hv0, hs.2, hP]) (by rw [l1, r1]; linarith only [hv1, hs.1, hP])
  rw [l1] at y1 hg
  by_cases g0 : g = 0
  · subst g0
    exact ⟨ys, 0, by simp, l1, hl1, Or.inl (by simp), c1⟩
  rw [if_pos g0]
  have gmin : g ≠ B / 2 := by rcases hg with ⟨e, _⟩ | ⟨e, _⟩ | ⟨e, _⟩ <;> rw [e] <;> decide
  obtain ⟨zs, f, e2, l2, hl2, r2, c2⟩ := fold_step ys g hl1 (by omega) gmin
  rw [l1] at c2
  rw [e2]; simp only [top_snoc, setTop_snoc]
  -- the value after the second step lies in [−1, B^n]
  have rng : -1 ≤ rval (zs ++ [f]) ∧ rval (zs ++ [f]) ≤ (B : Int) ^ xs.length := by
    rw [r2]
    rcases hg with ⟨e, _⟩ | ⟨e, hv⟩ | ⟨e, hv⟩
    · exact absurd e g0
    · rw [e, sint_one]; constructor <;> linarith only [y0, y1]
    · rw [(sint_eq_neg_one (Limbs_snoc.mp hl1).2).mpr e]; constructor <;> linarith only [y0, y1]
  obtain ⟨z0, z1, hf⟩ := top_cases zs f hl2 (by rw [l2, l1]; linarith only [rng.1, hP]) (by rw [l2, l1]; linarith only [rng.2, hP])
  rw [l2, l1] at z1 hf
  rcases hf with ⟨e, _⟩ | ⟨e, hv⟩ | ⟨e, hv⟩
  · subst e
    exact ⟨zs, 0, by simp [B_eq], by rw [l2, l1], hl2, Or.inl (by simp), c2.trans c1⟩
  · subst e
    refine ⟨zs, 1, by simp [B_eq], by rw [l2, l1], hl2, Or.inr ⟨by simp, ?_⟩, c2.trans c1⟩
    have : (val zs : Int) = 0 := by linarith only [hv, rng.2, z0]
    simpa using this
  · subst e
    rw [if_pos rfl]
    -- the value is −1, held as (B−1, …, B−1, −1); third step: + 1
    have ⟨hzs, _⟩ := Limbs_snoc.mp hl2
    obtain ⟨ws, e, e3, l3, hl3, r3⟩ := fold_add zs 1 hzs (by omega) (by decide)
    rw [e3]
    have r3' : rval (ws ++ [e]) = (B : Int) ^ xs.length := by rw [r3, sint_one]; linarith only [rng.1, hv, z1]
    obtain ⟨w0, w1, he⟩ := top_cases ws e hl3 (by rw [r3', l3, l2, l1]; linarith only [hP]) (by rw [r3', l3, l2, l1]; linarith only [hP])
    rw [l3, l2, l1] at w1 he
    have c3 : rval (ws ++ [e]) ≡ rval (zs ++ [B - 1]) [ZMOD pmod xs.length] :=
      (modEq_pmod_iff _ _ _).mpr ⟨1, by rw [r3, sint_one, hv]; ring⟩
    rcases he with ⟨_, hw⟩ | ⟨e', hw⟩ | ⟨_, hw⟩
    · linarith only [hw, r3', w1]
    · subst e'
      refine ⟨ws, 1, rfl, by rw [l3, l2, l1], hl3, Or.inr ⟨by simp, ?_⟩, c3.trans (c2.trans c1)⟩
      have : (val ws : Int) = 0 := by linarith only [hw, r3']
      simpa using this
    · linarith only [hw, r3', w1, hP]

/-! ### mpn_sumdiff_n -/

theorem sumdiff_spec (x y : List Nat) (hx : Limbs x) (hy : Limbs y) (hl : x.length = y.length) :
    val (sumdiff_n x y).1 + B ^ x.length * ((sumdiff_n x y).2.2 / 2) = val x + val y ∧
    val (sumdiff_n x y).2.1 + val y = val x + B ^ x.length * ((sumdiff_n x y).2.2 % 2) ∧
    (sumdiff_n x y).2.2 / 2 ≤ 1 ∧ (sumdiff_n x y).2.2 % 2 ≤ 1 ∧
    Limbs (sumdiff_n x y).1 ∧ Limbs (sumdiff_n x y).2.1 ∧
    (sumdiff_n x y).1.length = x.length ∧ (sumdiff_n x y).2.1.length = x.length := by
  obtain ⟨a1, a2, a3, a4⟩ := addNC_val x y 0 hx hy hl (by omega)
  obtain ⟨s1, s2, s3, s4⟩ := subNC_val x y 0 hx hy hl (by omega)
  have e : sumdiff_n x y = ((add_n x y).1, (sub_n x y).1, 2 * (add_n x y).2 + (sub_n x y).2) := rfl
  rw [e]; unfold add_n sub_n
  simp only
  have e1 : (2 * (addNC x y 0).2 + (subNC x y 0).2) / 2 = (addNC x y 0).2 := by omega
  have e2 : (2 * (addNC x y 0).2 + (subNC x y 0).2) % 2 = (subNC x y 0).2 := by omega
  rw [e1, e2]
  exact ⟨by omega, by omega, a2, s2, a3, s3, a4, s4⟩

theorem rval_of_val_lt (c : List Nat) (ol : Nat) (hl : c.length = ol + 1) (hc : Limbs c) (hv : val c < B ^ ol) :
    rval c = val c := by
  obtain ⟨cs, t, rfl, hcs⟩ := exists_snoc c ol hl
  rw [val_snoc, hcs] at hv
  obtain ⟨rfl, _⟩ := carry_zero rfl hv
  simp [rval_snoc, val_snoc]

end Mpir.Fft
