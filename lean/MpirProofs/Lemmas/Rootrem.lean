/- Integer Newton iteration for n-th roots: the inequalities behind the loops of Mpir/Model/Rootrem.lean, the limb count
   `limbLen`, the bit flip of the bit-by-bit phase, and one round of the Newton loop of mpn_rootrem_basecase
   (`bcNewtonStep_eq`: the limb-level step is the clamped exact iterate). -/
import MpirProofs.Lemmas.Iroot
import MpirProofs.Lemmas.Arith
import Mpir.Model.Rootrem
import Mathlib.Tactic.Ring
import Mathlib.Tactic.LinearCombination
import Mathlib.Tactic.Linarith
import Mathlib.Tactic.Positivity
namespace Mpir.Rootrem
open Mpir Mpir.Root

/-- `(1 + d/s)^j ≤ s / (s − j·d)` without division. -/
theorem pow_add_mul_le (s d : Nat) : ∀ (j t : Nat), t + j * d ≤ s → (s + d) ^ j * t ≤ s ^ (j + 1)
  | 0, t, h => by simpa using h
  | j + 1, t, h => by
    have h' : (t + d) + j * d ≤ s := by rw [Nat.succ_mul] at h; omega
    have ih := pow_add_mul_le s d j (t + d) h'
    have ht : t ≤ s := by omega
    have h1 : (s + d) * t ≤ s * (t + d) := by linear_combination d * ht
    calc (s + d) ^ (j + 1) * t = (s + d) ^ j * ((s + d) * t) := by ring
      _ ≤ (s + d) ^ j * (s * (t + d)) := Nat.mul_le_mul_left _ h1
      _ = ((s + d) ^ j * (t + d)) * s := by ring
      _ ≤ s ^ (j + 1) * s := Nat.mul_le_mul_right _ ih
      _ = s ^ (j + 1 + 1) := by ring

theorem pow_add_le_two (s d j : Nat) (h : 2 * (j * d) ≤ s) : (s + d) ^ j ≤ 2 * s ^ j := by
  rcases Nat.eq_zero_or_pos s with hs | hs
  · subst hs
    rcases Nat.eq_zero_or_pos j with hj | hj
    · subst hj; simp
    · have hd : d = 0 := by
        by_contra hd
        have : 1 ≤ j * d := Nat.mul_pos hj (Nat.pos_of_ne_zero hd)
        omega
      subst hd; generalize 0 ^ j = z; omega
  · have h1 := pow_add_mul_le s d j (s - j * d) (by omega)
    have h2 : s ≤ 2 * (s - j * d) := by omega
    have h3 : (s + d) ^ j * s ≤ (2 * s ^ j) * s := by
      calc (s + d) ^ j * s ≤ (s + d) ^ j * (2 * (s - j * d)) := Nat.mul_le_mul_left _ h2
        _ = 2 * ((s + d) ^ j * (s - j * d)) := by ring
        _ ≤ 2 * s ^ (j + 1) := Nat.mul_le_mul_left _ h1
        _ = (2 * s ^ j) * s := by ring
    exact Nat.le_of_mul_le_mul_right h3 hs

/-- Newton's polynomial for `f(x) = x^n − a` at `x = y + d ≥ y` (`n = k + 2`):
    `0 ≤ y^n + (n−1)·x^n − n·y·x^(n−1) ≤ d²·n(n−1)/2·x^(n−2)`. -/
theorem newton_poly (y d : Nat) : ∀ k : Nat,
    (k + 2) * y * (y + d) ^ (k + 1) ≤ y ^ (k + 2) + (k + 1) * (y + d) ^ (k + 2) ∧
    2 * (y ^ (k + 2) + (k + 1) * (y + d) ^ (k + 2)) ≤
      2 * ((k + 2) * y * (y + d) ^ (k + 1)) + d ^ 2 * ((k + 2) * (k + 1)) * (y + d) ^ k
  | 0 => by
    constructor
    · linear_combination (Nat.zero_le (d ^ 2))
    · exact Nat.le_of_eq (by ring)
  | k + 1 => by
    obtain ⟨h1, h2⟩ := newton_poly y d k
    -- the slack grows by `(k+2)·x^(k+1)·d²` resp. `(k+2)(k+1)·x^k·d³`
    constructor
    · linear_combination y * h1 + Nat.zero_le ((k + 2) * (y + d) ^ (k + 1) * d ^ 2)
    · linear_combination y * h2 + Nat.zero_le ((k + 2) * (k + 1) * (y + d) ^ k * d ^ 3)

/-- Bernoulli: `(1 − c/W)^j ≥ 1 − j·c/W`. -/
theorem bernoulli_sub (W c : Nat) (hc : c ≤ W) : ∀ j : Nat, W ^ j * (W - j * c) ≤ W * (W - c) ^ j
  | 0 => by simp
  | j + 1 => by
    by_cases h : (j + 1) * c ≤ W
    · have ih := bernoulli_sub W c hc j
      obtain ⟨q, hq⟩ := Nat.exists_eq_add_of_le h
      have e1 : W - (j + 1) * c = q := by omega
      have e2 : W - j * c = q + c := by rw [Nat.succ_mul] at hq; omega
      have e3 : W - c = j * c + q := by rw [Nat.succ_mul] at hq; omega
      rw [e1]; rw [e2, e3] at ih; rw [e3]
      have h1 : W * q ≤ (q + c) * (j * c + q) := by rw [hq]; linear_combination Nat.zero_le (j * c * c)
      calc W ^ (j + 1) * q = W ^ j * (W * q) := by ring
        _ ≤ W ^ j * ((q + c) * (j * c + q)) := Nat.mul_le_mul_left _ h1
        _ = (W ^ j * (q + c)) * (j * c + q) := by ring
        _ ≤ (W * (j * c + q) ^ j) * (j * c + q) := Nat.mul_le_mul_right _ ih
        _ = W * (j * c + q) ^ (j + 1) := by ring
    · rw [Nat.sub_eq_zero_of_le (by omega)]; simp

theorem limbLen_isSize : IsSize limbLen := limbCount_bits_le_iff

/-- the bit count the C derives for the root: `2^(xnb-1) ≤ root < 2^xnb` with `xnb = (bits(U) − 1)/n + 1`. -/
theorem iroot_bits (U n : Nat) (hU : 0 < U) (hn : 0 < n) :
    2 ^ ((bitLen U - 1) / n) ≤ iroot n U ∧ iroot n U < 2 ^ ((bitLen U - 1) / n + 1) := by
  obtain ⟨b1, b2, b3⟩ := bitLen_spec U hU
  exact iroot_window hn (by norm_num) b1 (by rwa [Nat.sub_add_cancel b3])

theorem xor_flip (x b : Nat) (h : x % 2 ^ (b + 1) = 2 ^ (b + 1) - 1) :
    x ^^^ (1 <<< b) = x - 2 ^ b ∧ 2 ^ b ≤ x ∧ x % 2 ^ b = 2 ^ b - 1 ∧ (x - 2 ^ b) % 2 ^ b = 2 ^ b - 1 := by
  rw [Nat.one_shiftLeft]
  have hp : 0 < 2 ^ b := by positivity
  have hs : x % 2 ^ (b + 1) = x % 2 ^ b + 2 ^ b * (x / 2 ^ b % 2) := Nat.mod_pow_succ
  have hlt := Nat.mod_lt x hp
  have h2 : x / 2 ^ b % 2 < 2 := Nat.mod_lt _ (by norm_num)
  have hpw : 2 ^ (b + 1) = 2 * 2 ^ b := by ring
  have hodd : x / 2 ^ b % 2 = 1 := by
    rcases Nat.lt_succ_iff_lt_or_eq.mp h2 with h0 | h1
    · have : x / 2 ^ b % 2 = 0 := by omega
      rw [this] at hs; omega
    · exact h1
  rw [hodd] at hs
  have hlow : x % 2 ^ b = 2 ^ b - 1 := by omega
  have hdm := Nat.div_add_mod x (2 ^ b)
  have hq1 : 1 ≤ x / 2 ^ b := by
    generalize x / 2 ^ b = q at hodd ⊢
    omega
  have hge : 2 ^ b ≤ x := by
    calc 2 ^ b = 2 ^ b * 1 := by ring
      _ ≤ 2 ^ b * (x / 2 ^ b) := Nat.mul_le_mul_left _ hq1
      _ ≤ x := by omega
  have hx' : x ^^^ 2 ^ b = x - 2 ^ b :=
    Bits.xor_two_pow_of_set (by rw [Nat.testBit_eq_decide_div_mod_eq, hodd]; rfl)
  refine ⟨hx', hge, hlow, ?_⟩
  have hmul : 2 ^ b * (x / 2 ^ b - 1) = 2 ^ b * (x / 2 ^ b) - 2 ^ b := by
    rw [Nat.mul_sub, Nat.mul_one]
  have hle : 2 ^ b ≤ 2 ^ b * (x / 2 ^ b) := Nat.le_mul_of_pos_right _ hq1
  have : x - 2 ^ b = 2 ^ b * (x / 2 ^ b - 1) + x % 2 ^ b := by omega
  rw [this, Nat.mul_add_mod, Nat.mod_mod]; exact hlow


def newtonTrue (U n x : Nat) : Nat := (U / x ^ (n - 1) + (n - 1) * x) / n

theorem newtonTrue_eq (U k x : Nat) (hx : 0 < x) :
    newtonTrue U (k + 2) x = (U + (k + 1) * x ^ (k + 2)) / ((k + 2) * x ^ (k + 1)) := by
  unfold newtonTrue
  have hD : 0 < x ^ (k + 1) := by positivity
  show (U / x ^ (k + 1) + (k + 1) * x) / (k + 2) = _
  rw [← Nat.add_mul_div_right _ _ hD, Nat.div_div_eq_div_mul]
  have e1 : (k + 1) * x * x ^ (k + 1) = (k + 1) * x ^ (k + 2) := by ring
  have e2 : x ^ (k + 1) * (k + 2) = (k + 2) * x ^ (k + 1) := by ring
  rw [e1, e2]

/-- AM–GM: from above the root the iterate does not fall below it. -/
theorem newton_ge (U k s d : Nat) (hs : s ^ (k + 2) ≤ U) (hx : 0 < s + d) :
    s ≤ newtonTrue U (k + 2) (s + d) := by
  rw [newtonTrue_eq U k _ hx, Nat.le_div_iff_mul_le (by positivity)]
  have h := (newton_poly s d k).1
  calc s * ((k + 2) * (s + d) ^ (k + 1)) = (k + 2) * s * (s + d) ^ (k + 1) := by ring
    _ ≤ s ^ (k + 2) + (k + 1) * (s + d) ^ (k + 2) := h
    _ ≤ U + (k + 1) * (s + d) ^ (k + 2) := Nat.add_le_add_right hs _

/-- quadratic convergence from above: with `y = root + 1 ≤ x = y + d`, the new distance to `y` is at most any `e`
    with `d²·(n−1) ≤ 2·(e+1)·x`. -/
theorem newton_le (U k y d e : Nat) (hU : U < y ^ (k + 2)) (hx : 0 < y + d)
    (hde : d ^ 2 * (k + 1) ≤ 2 * (e + 1) * (y + d)) :
    newtonTrue U (k + 2) (y + d) ≤ y + e := by
  rw [newtonTrue_eq U k _ hx, ← Nat.lt_succ_iff, Nat.div_lt_iff_lt_mul (by positivity)]
  have h := (newton_poly y d k).2
  have h3 := Nat.mul_le_mul_right ((k + 2) * (y + d) ^ k) hde
  have e1 : (y + d) ^ (k + 1) = (y + d) ^ k * (y + d) := pow_succ _ _
  have e2 : (y + d) ^ (k + 2) = (y + d) ^ k * (y + d) * (y + d) := by rw [pow_succ, pow_succ]
  rw [e1, e2] at h
  rw [e1, e2]
  generalize (y + d) ^ k = a at *
  generalize y ^ (k + 2) = Y at *
  generalize y + d = x at *
  have h4 : 2 * (U + (k + 1) * (a * x * x)) < 2 * ((y + e).succ * ((k + 2) * (a * x))) := by
    have : 2 * (U + (k + 1) * (a * x * x)) < 2 * (Y + (k + 1) * (a * x * x)) := by omega
    have h5 : 2 * ((k + 2) * y * (a * x)) + d ^ 2 * ((k + 2) * (k + 1)) * a ≤
        2 * ((y + e).succ * ((k + 2) * (a * x))) := by
      have : d ^ 2 * ((k + 2) * (k + 1)) * a = d ^ 2 * (k + 1) * ((k + 2) * a) := by ring
      rw [this]
      have : 2 * ((y + e).succ * ((k + 2) * (a * x))) =
          2 * ((k + 2) * y * (a * x)) + 2 * (e + 1) * x * ((k + 2) * a) := by
        rw [Nat.succ_eq_add_one]; ring
      rw [this]
      exact Nat.add_le_add_left h3 _
    omega
  omega

theorem newton_le_root (U k x : Nat) (hU : U < (x + 1) ^ (k + 2)) (hx : 2 * (k + 2) ≤ x) :
    newtonTrue U (k + 2) x ≤ x + 1 := by
  have hx0 : 0 < x := by omega
  rw [newtonTrue_eq U k _ hx0, ← Nat.lt_succ_iff, Nat.div_lt_iff_lt_mul (by positivity)]
  have h1 := pow_add_mul_le x 1 (k + 2) (x - (k + 2)) (by omega)
  have h2 := pow_add_le_two x 1 (k + 2) (by omega)
  have key : (x + 1) ^ (k + 2) * x ≤ (x ^ (k + 2) + 2 * (k + 2) * x ^ (k + 1)) * x := by
    have hx' : x = (x - (k + 2)) + (k + 2) := by omega
    calc (x + 1) ^ (k + 2) * x = (x + 1) ^ (k + 2) * (x - (k + 2)) + (x + 1) ^ (k + 2) * (k + 2) := by
          rw [← Nat.mul_add, ← hx']
      _ ≤ x ^ (k + 2 + 1) + (2 * x ^ (k + 2)) * (k + 2) :=
          Nat.add_le_add h1 (Nat.mul_le_mul_right _ h2)
      _ = (x ^ (k + 2) + 2 * (k + 2) * x ^ (k + 1)) * x := by ring
  have key' := Nat.le_of_mul_le_mul_right key hx0
  calc U + (k + 1) * x ^ (k + 2) < (x + 1) ^ (k + 2) + (k + 1) * x ^ (k + 2) := by omega
    _ ≤ (x ^ (k + 2) + 2 * (k + 2) * x ^ (k + 1)) + (k + 1) * x ^ (k + 2) := Nat.add_le_add_right key' _
    _ = (x + 1).succ * ((k + 2) * x ^ (k + 1)) := by rw [Nat.succ_eq_add_one]; ring

/-- One exact Newton step under the invariant of the loop of mpn_rootrem_basecase (distance `δ = x − s − 1` to the root
    `s` with `δ·2^v ≤ 2^(m+1)`): `v` doubles. -/
theorem newton_step_true (U k s x m L v : Nat) (hnL : k + 2 < 2 ^ L) (hs1 : s ^ (k + 2) ≤ U)
    (hs2 : U < (s + 1) ^ (k + 2)) (hsx : s ≤ x) (hlow : 2 ^ (m + L) ≤ s) (hm : 1 ≤ m)
    (hd : (x - s - 1) * 2 ^ v ≤ 2 ^ (m + 1)) :
    s ≤ newtonTrue U (k + 2) x ∧ (newtonTrue U (k + 2) x - s - 1) * 2 ^ (2 * v) ≤ 2 ^ (m + 1) ∧
    (newtonTrue U (k + 2) x ≤ x ∨ newtonTrue U (k + 2) x ≤ s + 1) := by
  have h2n : 2 * (k + 2) ≤ s :=
    calc 2 * (k + 2) ≤ 2 ^ m * 2 ^ L :=
          Nat.mul_le_mul (Nat.pow_le_pow_right (by norm_num) hm : 2 ^ 1 ≤ 2 ^ m) (Nat.le_of_lt hnL)
      _ = 2 ^ (m + L) := (pow_add _ _ _).symm
      _ ≤ s := hlow
  have hspos : 0 < s := by omega
  obtain ⟨d0, hd0⟩ := Nat.exists_eq_add_of_le hsx
  have hge : s ≤ newtonTrue U (k + 2) x := by rw [hd0]; exact newton_ge U k s d0 hs1 (by omega)
  refine ⟨hge, ?_⟩
  rcases Nat.eq_zero_or_pos d0 with h0 | hpos
  · -- x = s
    have hxs : x = s := by omega
    have := newton_le_root U k x (by rw [hxs]; exact hs2) (by omega)
    have h1 : newtonTrue U (k + 2) x - s - 1 = 0 := by omega
    rw [h1]; exact ⟨by simp, Or.inr (by omega)⟩
  · -- x = (s+1) + d
    obtain ⟨d, hdd⟩ : ∃ d, x = (s + 1) + d := ⟨d0 - 1, by omega⟩
    have hδ : x - s - 1 = d := by omega
    rw [hδ] at hd
    obtain ⟨e, he⟩ : ∃ e, e = d ^ 2 / 2 ^ (m + 1) := ⟨_, rfl⟩
    have hp : 0 < 2 ^ (m + 1) := by positivity
    have he1 : e * 2 ^ (m + 1) ≤ d ^ 2 := by rw [he]; exact Nat.div_mul_le_self _ _
    have he2 : d ^ 2 < (e + 1) * 2 ^ (m + 1) := by
      have := Nat.lt_mul_div_succ (d ^ 2) hp
      rw [he, Nat.mul_comm]; exact this
    have hxlow : 2 ^ (m + L) ≤ x := by omega
    have hde : d ^ 2 * (k + 1) ≤ 2 * (e + 1) * (s + 1 + d) := by
      rw [← hdd]
      have a1 : d ^ 2 * (k + 1) ≤ d ^ 2 * 2 ^ L := Nat.mul_le_mul_left _ (by omega)
      have a2 : d ^ 2 * 2 ^ L ≤ ((e + 1) * 2 ^ (m + 1)) * 2 ^ L := Nat.mul_le_mul_right _ (by omega)
      have a3 : ((e + 1) * 2 ^ (m + 1)) * 2 ^ L = 2 * (e + 1) * 2 ^ (m + L) := by
        rw [pow_add, pow_succ, pow_add]; ring
      have a4 : 2 * (e + 1) * 2 ^ (m + L) ≤ 2 * (e + 1) * x := Nat.mul_le_mul_left _ hxlow
      omega
    have hup := newton_le U k (s + 1) d e hs2 (by omega) hde
    rw [← hdd] at hup
    -- e ≤ d and e * 2^(2v) ≤ 2^(m+1)
    have hv1 : 1 ≤ 2 ^ v := Nat.one_le_two_pow
    have hdle : d ≤ 2 ^ (m + 1) := Nat.le_trans (Nat.le_mul_of_pos_right d hv1) hd
    have hed : e ≤ d := by
      have : e * 2 ^ (m + 1) ≤ d * 2 ^ (m + 1) := by
        calc e * 2 ^ (m + 1) ≤ d ^ 2 := he1
          _ = d * d := by ring
          _ ≤ d * 2 ^ (m + 1) := Nat.mul_le_mul_left _ hdle
      exact Nat.le_of_mul_le_mul_right this hp
    have hev : e * 2 ^ (2 * v) ≤ 2 ^ (m + 1) := by
      have : e * 2 ^ (2 * v) * 2 ^ (m + 1) ≤ 2 ^ (m + 1) * 2 ^ (m + 1) := by
        calc e * 2 ^ (2 * v) * 2 ^ (m + 1) = (e * 2 ^ (m + 1)) * 2 ^ (2 * v) := by ring
          _ ≤ d ^ 2 * 2 ^ (2 * v) := Nat.mul_le_mul_right _ he1
          _ = (d * 2 ^ v) * (d * 2 ^ v) := by rw [Nat.two_mul, pow_add]; ring
          _ ≤ 2 ^ (m + 1) * 2 ^ (m + 1) := Nat.mul_le_mul hd hd
      exact Nat.le_of_mul_le_mul_right this hp
    constructor
    · have : newtonTrue U (k + 2) x - s - 1 ≤ e := by omega
      exact Nat.le_trans (Nat.mul_le_mul_right _ this) hev
    · left; omega


theorem newton_exit (s x m v : Nat) (hv : m + 2 ≤ v) (hd : (x - s - 1) * 2 ^ v ≤ 2 ^ (m + 1)) : x ≤ s + 1 := by
  by_contra hc
  have h1 : 1 * 2 ^ v ≤ (x - s - 1) * 2 ^ v := Nat.mul_le_mul_right _ (by omega)
  have h2 : 2 ^ (m + 2) ≤ 2 ^ v := Nat.pow_le_pow_right (by norm_num) hv
  have h3 : 2 ^ (m + 2) = 2 * 2 ^ (m + 1) := by ring
  have : 0 < 2 ^ (m + 1) := by positivity
  omega

/-- the exact iterate clamped to `W − 1` (`W = B^xn`, rootrem_basecase.c:165-171) keeps the invariant of `newton_step_true`,
    with `v` doubled. -/
theorem newton_step_clamped (U k s x m L v W : Nat) (hnL : k + 2 < 2 ^ L) (hs1 : s ^ (k + 2) ≤ U)
    (hs2 : U < (s + 1) ^ (k + 2)) (hsx : s ≤ x) (hlow : 2 ^ (m + L) ≤ s) (hm : 1 ≤ m)
    (hd : (x - s - 1) * 2 ^ v ≤ 2 ^ (m + 1)) (hx2 : x ≤ s + 2 ^ m) (hxW : x < W) (hsW : s + 1 ≤ W) :
    newtonTrue U (k + 2) x ≤ W ∧ s ≤ min (newtonTrue U (k + 2) x) (W - 1) ∧
    min (newtonTrue U (k + 2) x) (W - 1) ≤ s + 2 ^ m ∧ min (newtonTrue U (k + 2) x) (W - 1) < W ∧
    (min (newtonTrue U (k + 2) x) (W - 1) - s - 1) * 2 ^ (2 * v) ≤ 2 ^ (m + 1) := by
  obtain ⟨t1, t2, t3⟩ := newton_step_true U k s x m L v hnL hs1 hs2 hsx hlow hm hd
  have h1 : 1 ≤ 2 ^ m := Nat.one_le_two_pow
  generalize newtonTrue U (k + 2) x = y at *
  have hy : y ≤ W := by rcases t3 with h | h <;> omega
  have hmin : min y (W - 1) ≤ y := Nat.min_le_left _ _
  have hmin' : min y (W - 1) ≤ W - 1 := Nat.min_le_right _ _
  refine ⟨hy, Nat.le_min.mpr ⟨t1, by omega⟩, by rcases t3 with h | h <;> omega, by omega, ?_⟩
  exact Nat.le_trans (Nat.mul_le_mul_right _ (by omega)) t2

theorem quot_lt_pow (U P : Nat) (hP : 0 < P) (hPU : P ≤ U) :
    U / P < B ^ (limbLen U - limbLen P + 1) := by
  have h1 := limbLen_isSize.lt_pow U
  have h2 := limbLen_isSize.pow_le (Nat.ne_of_gt hP)
  have h3 := limbLen_isSize.mono hPU
  have hp1 : 1 ≤ limbLen P := limbLen_isSize.pos (Nat.ne_of_gt hP)
  by_contra hc
  have hc' : B ^ (limbLen U - limbLen P + 1) ≤ U / P := by omega
  have h4 : B ^ (limbLen U - limbLen P + 1) * B ^ (limbLen P - 1) ≤ (U / P) * P := Nat.mul_le_mul hc' h2
  rw [← pow_add] at h4
  have h5 : limbLen U - limbLen P + 1 + (limbLen P - 1) = limbLen U := by omega
  rw [h5] at h4
  have := Nat.div_mul_le_self U P
  omega

/-- the saturation of the Newton iterate (rootrem_basecase.c:165-171): when the iterate `T / n` is at most `W = B^xn`,
    testing the carry `T / W` against `n` clamps it to `W - 1`. -/
theorem newton_clamp (T n W : Nat) (hn : 0 < n) (hnW : n ≤ W) (hT : T / n ≤ W) :
    T / W ≤ n ∧ (if T / W = n then W - 1 else T / n) = min (T / n) (W - 1) := by
  have hW : 0 < W := by omega
  have hTlt : T < (n + 1) * W := by
    have h1 : T < (W + 1) * n := (Nat.div_lt_iff_lt_mul hn).mp (by omega)
    have h2 : (W + 1) * n ≤ (n + 1) * W := by rw [Nat.add_mul, Nat.add_mul, Nat.one_mul, Nat.one_mul, Nat.mul_comm]; omega
    omega
  have hle : T / W ≤ n := Nat.le_of_lt_succ ((Nat.div_lt_iff_lt_mul hW).mpr hTlt)
  refine ⟨hle, ?_⟩
  by_cases hsat : T / W = n
  · have : W ≤ T / n := by
      rw [Nat.le_div_iff_mul_le hn, Nat.mul_comm, ← hsat]; exact Nat.div_mul_le_self T W
    rw [if_pos hsat, Nat.min_eq_right (by omega)]
  · have : T / n < W := by
      rw [Nat.div_lt_iff_lt_mul hn, Nat.mul_comm]
      exact (Nat.div_lt_iff_lt_mul hW).mp (by omega)
    rw [if_neg hsat, Nat.min_eq_left (by omega)]

theorem bcNewtonStep_eq (U n xn x : Nat) (hn : 2 ≤ n) (hnB : n < B)
    (hxlo : B ^ (xn - 1) ≤ x) (hxW : x < B ^ xn) (hxn : 1 ≤ xn)
    (hPU : x ^ (n - 1) ≤ U)
    (hstale : xn ≤ limbLen U - limbLen (x ^ (n - 1)) + 2)
    (hbig : B ^ xn ≤ U / x ^ (n - 1) → limbLen U - limbLen (x ^ (n - 1)) = xn)
    (hx' : newtonTrue U n x ≤ B ^ xn) :
    bcNewtonStep U (limbLen U) n xn x = some (min (newtonTrue U n x) (B ^ xn - 1)) := by
  have hP : 0 < x ^ (n - 1) := pow_pos (Nat.lt_of_lt_of_le (pow_pos B_pos _) hxlo) _
  have hpn := limbLen_isSize.mono hPU
  have hQB : limbLen U - limbLen (x ^ (n - 1)) = xn → U / x ^ (n - 1) / B ^ xn < B := fun h => by
    have := quot_lt_pow U _ hP hPU
    rw [h, pow_succ] at this
    exact Nat.div_lt_of_lt_mul this
  have hBW : B ≤ B ^ xn := B_le_Bpow hxn
  unfold bcNewtonStep pow1
  rw [if_pos hxlo]
  simp only [Option.bind_eq_bind, Option.bind_some]
  rw [if_neg (by omega), if_neg (by omega)]
  unfold newtonTrue at hx' ⊢
  generalize limbLen U - limbLen (x ^ (n - 1)) = dn at *
  generalize U / x ^ (n - 1) = Q at *
  generalize B ^ xn = W at *
  have hWpos : 0 < W := by omega
  obtain ⟨hcy, hclamp⟩ := newton_clamp (Q + (n - 1) * x) n W (by omega) (by omega) hx'
  rw [← hclamp]
  congr 1
  -- `qp[xn]` holds the top limb of the quotient only when `un - pn = xn`; otherwise the quotient has none
  have hsplit : Q + (n - 1) * x = Q % W + (n - 1) * x + Q / W * W := by
    have := Nat.div_add_mod' Q W; omega
  have hmod : (Q % W + (n - 1) * x) % W = (Q + (n - 1) * x) % W := by rw [hsplit, Nat.add_mul_mod_self_right]
  have hdiv : (Q % W + (n - 1) * x) / W + Q / W = (Q + (n - 1) * x) / W := by
    rw [hsplit, Nat.add_mul_div_right _ _ hWpos]
  have hlimbs : (if dn = xn then
        if ((Q % W + (n - 1) * x) / W + Q / W % B) % B = n then (W - 1, n - 1)
        else ((Q % W + (n - 1) * x) % W, ((Q % W + (n - 1) * x) / W + Q / W % B) % B)
      else ((Q % W + (n - 1) * x) % W, (Q % W + (n - 1) * x) / W)) =
      if (Q + (n - 1) * x) / W = n then (W - 1, n - 1) else ((Q + (n - 1) * x) % W, (Q + (n - 1) * x) / W) := by
    rw [hmod]
    by_cases hd : dn = xn
    · rw [if_pos hd, Nat.mod_eq_of_lt (hQB hd), hdiv, Nat.mod_eq_of_lt (by omega)]
    · have hQW : Q < W := by by_contra hc; exact hd (hbig (by omega))
      have hlt : Q + (n - 1) * x < n * W := by
        have h1 : (n - 1) * x ≤ (n - 1) * W := Nat.mul_le_mul_left _ (Nat.le_of_lt hxW)
        have h2 : n * W = (n - 1) * W + W := by
          conv_lhs => rw [show n = n - 1 + 1 by omega, Nat.add_mul, Nat.one_mul]
        omega
      have hne : (Q + (n - 1) * x) / W ≠ n := Nat.ne_of_lt ((Nat.div_lt_iff_lt_mul hWpos).mpr hlt)
      rw [if_neg hd, if_neg hne, ← hdiv, Nat.div_eq_of_lt hQW, Nat.add_zero]
  rw [hlimbs]
  generalize Q + (n - 1) * x = T at *
  by_cases hsat : T / W = n
  · -- all ones below the carry `n - 1`: `(n·W − 1) / n = W − 1`
    rw [if_pos hsat, if_pos hsat]
    have e : (n - 1) * W + (W - 1) = n * (W - 1) + (n - 1) := by
      have h1 : n * (W - 1) = n * W - n := by rw [Nat.mul_sub, Nat.mul_one]
      have h2 : n * W = (n - 1) * W + W := by
        conv_lhs => rw [show n = n - 1 + 1 by omega, Nat.add_mul, Nat.one_mul]
      have h3 : n ≤ n * W := Nat.le_mul_of_pos_right _ hWpos
      omega
    rw [e, Nat.mul_add_div (by omega), Nat.div_eq_of_lt (by omega), Nat.add_zero, Nat.mod_eq_of_lt (by omega)]
  · rw [if_neg hsat, if_neg hsat, Nat.div_add_mod' T W]
    rw [if_neg hsat] at hclamp
    exact Nat.mod_eq_of_lt (by omega)

end Mpir.Rootrem
