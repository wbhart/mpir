/- mpn_gcdext_lehmer_n: the loop (sized model against the value-level model, with the contract) and the
   single-limb endgame through mpn_gcdext_1. -/
import MpirProofs.Lemmas.GcdextLehmer
namespace Mpir.Gcdext
open Mpir Mpir.Gcd Mpir.Hgcd

/-- sized loop result vs. value-level loop result, and what holds of them -/
def LoopRel (A Bv G : Nat) : ((Nat × Nat × Ctx) ⊕ Fin) → ((Nat × Nat × Nat × Nat) ⊕ (Nat × Int)) → Prop
  | .inl (a, b, c), .inl (a', b', u0, u1) => a = a' ∧ b = b' ∧ c.u0 = u0 ∧ c.u1 = u1 ∧ SzInv c ∧
        0 < a ∧ 0 < b ∧ a < B ∧ b < B ∧ Nat.gcd a b = G ∧ CofOk A Bv a b u0 u1
  | .inr r, .inr (g, S) => FinOk r g S ∧ g = G ∧ (∃ t : Int, (A : Int) * S + Bv * t = g) ∧ CofBound Bv g S
  | _, _ => False

theorem lehmerLoopS_spec (hh : Hgcd2Contract) (A Bv N : Nat) (hBv : Bv < B ^ N) : ∀ (f a b n : Nat) (c : Ctx),
    LInv a b n → CofOk A Bv a b c.u0 c.u1 → SzInv c → a + b < f →
    LoopRel A Bv (Nat.gcd a b) (lehmerLoopS (N + 1) f a b n c) (gcdextLehmerLoop f a b n c.u0 c.u1)
  | 0, a, b, n, c, _, _, _, hf => by omega
  | f + 1, a, b, n, c, hinv, hcof, hsz, hf => by
    unfold lehmerLoopS gcdextLehmerLoop
    by_cases hn : n ≥ 2
    · rw [if_pos hn, if_pos hn]
      have hc := fun m => lehmer_step_spec hh (m := m) hinv hn
      have hmsb := hgcd2_top2_msb0 a b n
      generalize top2 a b n = t at hc hmsb ⊢
      obtain ⟨uh, ul, vh, vl⟩ := t
      simp only at hc hmsb ⊢
      cases hm : hgcd2 uh ul vh vl with
      | some m =>
        simp only
        obtain ⟨hl, hinv', hg, hdec⟩ := hc m hm
        have hst := lehmerOk_iff.mp hl
        have hcof' := cofOk_step hcof hst
        obtain ⟨_, _, haB, hbB, _, _⟩ := hinv
        obtain ⟨i1, i2, _⟩ := mul1InvVec_spec m a b n (m.u11 * a - m.u01 * b) (m.u00 * b - m.u10 * a)
          hst haB hbB (by omega)
        have hlt := cof_lt hcof' hinv'.1 hinv'.2.1 hBv
        obtain ⟨w1, w2, hsz'⟩ := szInv_mulM1 N c m (hmsb m hn haB hbB hm) hl.1 hsz hlt.1 hlt.2
        have e3 : (mul1InvVec m a b n).2.2 = shrinkN (mul1InvVec m a b n).1 (mul1InvVec m a b n).2.1 n := rfl
        rw [e3, i1, i2, ← hg, w1, w2]
        have ih := lehmerLoopS_spec hh A Bv N hBv f _ _ _ _ hinv' (by rw [w1, w2]; exact hcof') hsz' (by omega)
        simp only [w1, w2] at ih
        exact ih
      | none =>
        simp only
        obtain ⟨hun, _, hok⟩ := (szInv_iff c).mp hsz
        obtain ⟨ec, e1, e2⟩ := subdivHook_spec A Bv N hBv a b c hinv.1 hinv.2.1 hcof hun _ rfl
        rw [ec, hok]
        cases hfin : (subdivStep a b).fin with
        | some gd =>
          obtain ⟨g, d⟩ := gd
          exact ⟨hookG_spec _ g d rfl, e1 g d hfin⟩
        | none =>
          obtain ⟨x1, x2, x3, hcf⟩ := e2 hfin
          have ih := lehmerLoopS_spec hh A Bv N hBv f _ _ _ _ x1 hcf (szInv_pair _ _ (cofOk_sum hcf).2.1) (by omega)
          rw [x2] at ih
          exact ih
    · rw [if_neg hn, if_neg hn]
      obtain ⟨h0a, h0b, haB, hbB, _, h1⟩ := hinv
      have : n = 1 := by omega
      subst this
      rw [pow_one] at haB hbB
      exact ⟨rfl, rfl, rfl, rfl, hsz, h0a, h0b, haB, hbB, rfl, hcof⟩

theorem cofBound_of_lt {V G : Nat} {S : Int} (h : 2 * (G : Int) * |S| < V) : CofBound V G S := by
  left
  have : ((2 * G * S.natAbs : Nat) : Int) < V := by push_cast; exact h
  exact_mod_cast this

/-- the final combination S = u·u1 − v·u0 of the cofactors (u, v) of the last pair (a, b) with the cofactor row (u0, u1):
    the identity, and the bound: 2g|S| = 2g|u|·u1 + 2g|v|·u0, the factors are bounded by b resp. a, and u0·a + u1·b = V. -/
theorem combine_ok {A Bv a b g u0 u1 : Nat} {u v : Int} (h : CofOk A Bv a b u0 u1) (hg : 0 < g)
    (hbez : (a : Int) * u + b * v = g) (hb : Ext1Bound a b g u v) :
    (∃ t : Int, (A : Int) * (u * u1 - v * u0) + Bv * t = g) ∧ CofBound Bv g (u * u1 - v * u0) := by
  obtain ⟨ta, hta⟩ := cofOk_a h
  obtain ⟨tb, htb⟩ := cofOk_b h
  refine ⟨⟨u * ta + v * tb, by rw [← hbez, ← hta, ← htb]; ring⟩, ?_⟩
  obtain ⟨hs, h1, hz, _⟩ := cofOk_sum h
  have hsi : (u0 : Int) * a + u1 * b = Bv := by exact_mod_cast hs
  have h1i : (0 : Int) < u1 := by exact_mod_cast h1
  have h0i : (0 : Int) ≤ u0 := Int.natCast_nonneg _
  rcases hb with ⟨hu, hv, b1, b2, beq⟩ | ⟨hu, hv, b1, b2⟩
  · have hS : 0 ≤ u * u1 - v * u0 := by
      linear_combination mul_nonneg hu h1i.le + mul_nonneg (neg_nonneg.mpr hv) h0i
    have m1 : 2 * g * u * u1 ≤ b * u1 := mul_le_mul_of_nonneg_right b1 h1i.le
    have m2 : 2 * g * (-v) * u0 ≤ a * u0 := mul_le_mul_of_nonneg_right b2 h0i
    by_cases he : 2 * (g : Int) * u = b
    · obtain rfl := beq he
      by_cases h00 : u0 = 0
      · right
        rw [h00, hz h00] at hsi ⊢
        refine ⟨by simp, ?_⟩
        have : (Bv : Int) = 2 * g := by push_cast at hsi; linear_combination -hsi - he
        exact_mod_cast this
      · have h0p : (0 : Int) < u0 := by exact_mod_cast Nat.pos_of_ne_zero h00
        -- 2g(−v) = a would give g = a·1 + b·v = 0
        have hstrict : 2 * (g : Int) * (-v) < a := lt_of_le_of_ne b2 fun h => by
          have : (g : Int) = 0 := by linear_combination (-1 : Int) * hbez - h - v * he
          omega
        apply cofBound_of_lt
        rw [abs_of_nonneg hS, ← hsi]
        linear_combination m1 + mul_lt_mul_of_pos_right hstrict h0p
    · apply cofBound_of_lt
      rw [abs_of_nonneg hS, ← hsi]
      linear_combination mul_lt_mul_of_pos_right (lt_of_le_of_ne b1 he) h1i + m2
  · have hS : u * u1 - v * u0 ≤ 0 := by
      linear_combination mul_nonneg (neg_nonneg.mpr hu) h1i.le + mul_nonneg hv h0i
    apply cofBound_of_lt
    rw [abs_of_nonpos hS, ← hsi]
    linear_combination mul_lt_mul_of_pos_right b1 h1i + mul_le_mul_of_nonneg_right b2 h0i

theorem toNat_mod_B (x : Int) (h0 : 0 ≤ x) (h1 : x ≤ 2 ^ 63) : ((x % (B : Int)).toNat : Int) = x := by
  have hB : x < (B : Int) := by rw [B_eq]; norm_num; linarith
  rw [Int.emod_eq_of_lt h0 hB, Int.toNat_of_nonneg h0]

theorem eq_one_of_mul_eq {b w g : Int} (hb : 0 < b) (hg : 0 < g) (hgb : g ≤ b) (h : b * w = g) : w = 1 := by
  have h1 : w ≤ 1 := le_of_mul_le_mul_left (by rw [h, mul_one]; exact hgb) hb
  have h2 : 0 < w := (mul_pos_iff_of_pos_left hb).mp (h ▸ hg)
  omega

/-- gcdext_lehmer.c:239-325 -/
theorem lehmerFinS_spec (A Bv N a b : Nat) (c : Ctx) (hBv : Bv < B ^ N) (hsz : SzInv c) (ha : 0 < a) (hb : 0 < b)
    (haB : a < B) (hbB : b < B) (hcof : CofOk A Bv a b c.u0 c.u1) :
    ∀ v : Nat × Int, v = (if a = b then (a, pickCofactor c.u0 c.u1 (-1))
        else (match gcdext_1 a b with | (g, u, v) => (g, u * c.u1 - v * c.u0))) →
    FinOk (lehmerFinS N a b c) v.1 v.2 ∧ v.1 = Nat.gcd a b ∧ (∃ t : Int, (A : Int) * v.2 + Bv * t = v.1) ∧
      CofBound Bv v.1 v.2 := by
  intro v hv
  unfold lehmerFinS
  rw [if_neg (by omega)]
  by_cases hab : a = b
  · rw [if_pos hab] at hv ⊢
    subst hv
    have hex : ExitOk A Bv (c.u0, c.u1) a (-1) := ⟨a, b, ha, hb, hcof, Or.inl ⟨rfl, rfl, hab.symm⟩⟩
    obtain ⟨r1, r2⟩ := exitOk_result hex
    have hG := hookG_spec c a (-1) hsz.2.2.2.2
    rw [(nlimbs_eq_one_iff a).mpr ⟨ha, haB⟩] at hG
    exact ⟨hG, by rw [← hab, Nat.gcd_self], r1, r2⟩
  · rw [if_neg hab] at hv ⊢
    obtain ⟨g1, g2, g3, g4, g5, g6⟩ := gcdext_1_spec a b ha hb haB hbB
    have gb := gcdext_1_bound a b ha hb haB hbB hab
    generalize gcdext_1 a b = r at hv g1 g2 g3 g4 g5 g6 gb ⊢
    obtain ⟨g, u, w⟩ := r
    simp only at hv g1 g2 g3 g4 g5 g6 gb ⊢
    subst hv
    simp only
    have hgpos : 0 < g := by rw [g1]; exact Nat.gcd_pos_of_pos_left _ ha
    have hga : g ≤ a := by rw [g1]; exact Nat.gcd_le_left _ ha
    have hgb : g ≤ b := by rw [g1]; exact Nat.gcd_le_right _ hb
    have hgn : 1 = nlimbs g := ((nlimbs_eq_one_iff g).mpr ⟨hgpos, lt_of_le_of_lt hga haB⟩).symm
    have hbez : (a : Int) * u + b * w = g := by rw [g2, g1]
    obtain ⟨hident, hbound⟩ := combine_ok hcof hgpos hbez gb
    refine ⟨?_, g1, hident, hbound⟩
    have hok : c.ok = true := hsz.2.2.2.2
    have hSN : (u * (c.u1 : Int) - w * c.u0).natAbs < B ^ N := lt_trans (cofBound_natAbs_lt hbound hgpos) hBv
    clear hbound hident hcof hsz
    by_cases hu0 : u = 0
    · rw [if_pos hu0]
      subst hu0
      obtain rfl : w = 1 := eq_one_of_mul_eq (b := (b : Int)) (g := (g : Int)) (Int.natCast_pos.mpr hb) (Int.natCast_pos.mpr hgpos)
        (Int.ofNat_le.mpr hgb) (by linear_combination hbez)
      exact finOk_mk true c.ok hgn hok (by simp)
    rw [if_neg hu0]
    by_cases hw0 : w = 0
    · rw [if_pos hw0]
      subst hw0
      obtain rfl : u = 1 := eq_one_of_mul_eq (b := (a : Int)) (g := (g : Int)) (Int.natCast_pos.mpr ha) (Int.natCast_pos.mpr hgpos)
        (Int.ofNat_le.mpr hga) (by linear_combination hbez)
      exact finOk_mk false c.ok hgn hok (by simp)
    rw [if_neg hw0]
    -- general case: u, w of opposite signs, the C computes |u|·u1 + |w|·u0
    have hmag : ∀ (neg : Bool) (ul vl : Nat), (ul : Int) = (if neg then -u else u) → (vl : Int) = (if neg then w else -w) →
        FinOk ⟨g, 1, if neg then -(nlimbs (ul * c.u1 + vl * c.u0) : Int) else nlimbs (ul * c.u1 + vl * c.u0),
          ul * c.u1 + vl * c.u0, c.ok && decide (nlimbs (ul * c.u1 + vl * c.u0) ≤ N)⟩ g (u * c.u1 - w * c.u0) := by
      intro neg ul vl e1 e2
      have hS : u * (c.u1 : Int) - w * c.u0 = if neg then -((ul * c.u1 + vl * c.u0 : Nat) : Int) else (ul * c.u1 + vl * c.u0 : Nat) := by
        push_cast; rw [e1, e2]; cases neg <;> simp only [Bool.false_eq_true, if_false, if_true] <;> ring
      refine finOk_mk neg _ hgn ?_ hS
      rw [hok, Bool.true_and, decide_eq_true_eq]
      rw [← nlimbs_isSize.lt_pow_iff, natAbs_of_signed neg hS]; exact hSN
    rcases gb with ⟨hu', hw', _⟩ | ⟨hu', hw', _⟩
    · have hup : u > 0 := lt_of_le_of_ne hu' (Ne.symm hu0)
      simp only [hup, if_true, not_true_eq_false, decide_false]
      exact hmag false _ _ (toNat_mod_B u hu' g4.le) (toNat_mod_B (-w) (neg_nonneg.mpr hw') (neg_le.mpr g5))
    · have hup : ¬ u > 0 := not_lt.mpr hu'
      simp only [hup, if_false, not_false_eq_true, decide_true]
      exact hmag true _ _ (toNat_mod_B (-u) (neg_nonneg.mpr hu') (neg_le.mpr g3)) (toNat_mod_B w hw' g6.le)

theorem lehmerNS_spec (hh : Hgcd2Contract) (a b n : Nat) (hinv : LInv a b n) :
    ∃ g S, FinOk (lehmerNS a b n) g S ∧ g = Nat.gcd a b ∧ (∃ t : Int, (a : Int) * S + b * t = g) ∧ CofBound b g S ∧
      (g, S) = gcdext_lehmer_n a b n := by
  have hbB : b < B ^ n := hinv.2.2.2.1
  have hsz0 : SzInv ⟨0, 1, 1, true⟩ := by unfold SzInv; rw [B_eq]; decide
  have h := lehmerLoopS_spec hh a b n hbB (a + b + 1) a b n ⟨0, 1, 1, true⟩ hinv (cofOk_init a b) hsz0 (by omega)
  unfold lehmerNS gcdext_lehmer_n
  simp only at h
  generalize lehmerLoopS (n + 1) (a + b + 1) a b n ⟨0, 1, 1, true⟩ = x at h ⊢
  generalize gcdextLehmerLoop (a + b + 1) a b n 0 1 = y at h ⊢
  match x, y, h with
  | .inr r', .inr (g, S), h =>
    obtain ⟨h1, h2, h3, h4⟩ := h
    exact ⟨g, S, h1, h2, h3, h4, rfl⟩
  | .inl (a', b', c), .inl (a'', b'', u0, u1), h =>
    obtain ⟨e1, e2, e3, e4, hsz, p1, p2, p3, p4, p5, p6⟩ := h
    subst e1; subst e2; subst e3; subst e4
    obtain ⟨f1, f2, f3, f4⟩ := lehmerFinS_spec a b n a' b' c hbB hsz p1 p2 p3 p4 p6 _ rfl
    simp only
    refine ⟨_, _, f1, by rw [f2, p5], f3, f4, ?_⟩
    split <;> rfl

/-- mpn_gcdext below GCDEXT_DC_THRESHOLD: the contract for the value-level model, and the sized model agrees with it -/
theorem mpnGcdext_lehmer_spec (hh : Hgcd2Contract) (hg : Nat → Nat → Nat → HM → StepRes) (U V : Nat) (hV0 : 0 < V)
    (hle : nlimbs V ≤ nlimbs U) (hlt : nlimbs V < GCDEXT_DC_THRESHOLD) :
    mpnGcdextOk U V (mpn_gcdext U (nlimbs U) V (nlimbs V)).1 (mpn_gcdext U (nlimbs U) V (nlimbs V)).2 ∧
    (let r := mpnGcdextS hg GCDEXT_DC_THRESHOLD U (nlimbs U) V (nlimbs V)
     (r.g, r.S) = mpn_gcdext U (nlimbs U) V (nlimbs V) ∧ r.ok = true ∧ r.gn = nlimbs r.g ∧
       r.usize.natAbs = nlimbs r.up ∧ (r.usize < 0 ↔ r.S < 0)) := by
  unfold mpn_gcdext mpnGcdextS
  dsimp only
  rcases reduced_operand hV0 hle _ rfl with ⟨hc, hd⟩ | ⟨hc, hl, q, hU⟩
  · rw [if_pos hc, if_pos hc]
    exact ⟨(contract_of_dvd hV0 hd).1, by unfold Fin.S; simp [nlimbs_zero]⟩
  · rw [if_neg hc, if_pos hlt, if_neg hc, if_pos hlt]
    generalize (if nlimbs U > nlimbs V then U % V else U) = A at hl hU
    obtain ⟨g, S, hF, hgG, ⟨t, ht⟩, hbnd, hval⟩ := lehmerNS_spec hh A V _ hl
    obtain ⟨hS, hus, hsg⟩ := finOk_usize hF
    obtain ⟨q1, q2, q3, _, _⟩ := hF
    rw [← hval, hS, q1]
    exact ⟨(contract_of_reduced hV0 hU hgG (Int.emod_eq_zero_of_dvd ⟨t, by linear_combination -ht⟩) hbnd).2.2,
      rfl, q3, q2, hus, hsg⟩

end Mpir.Gcdext
