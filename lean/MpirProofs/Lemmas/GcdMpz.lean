/- The wrapper of mpn_gcd_1 around the binary loop (gcd_1.c:50-101, 186-187) and `gcd_1_correct`: the model of mpn_gcd_1
   is Nat.gcd; then `MpnGcdContract` and mpz_gcd, mpz_gcd_ui, mpz_lcm, mpz_lcm_ui against their specifications. -/

import MpirProofs.Lemmas.Gcd1
import MpirProofs.Lemmas.GcdSize

namespace Mpir.Gcd
open Mpir

/-! ### the wrapper of mpn_gcd_1 (gcd_1.c): common twos, the reduction of a multi-limb operand -/

theorem gcd1_tail (r V zb : Nat) (hr : r < B) (hV : V % 2 = 1) (hVB : V < B) :
    (if r = 0 then (V <<< zb) % B else gcd1Strip r V zb) = (Nat.gcd r V * 2 ^ zb) % B := by
  split
  · rename_i h; rw [h, Nat.gcd_zero_left, Nat.shiftLeft_eq]
  · rename_i h; exact gcd1Strip_spec r V zb (Nat.pos_of_ne_zero h) hr hV hVB

theorem val_pos_of_head {u0 : Nat} {rest : List Nat} (h : u0 ≠ 0) : 0 < val (u0 :: rest) := by
  rw [val_cons]; omega

/-- common twos, several limbs: zero_bits computed from the low limb only (gcd_1.c:65-73) -/
theorem zero_bits_multi (u0 : Nat) (rest : List Nat) (v : Nat) (hu0 : u0 < B) (hv0 : 0 < v) (hvB : v < B) :
    Nat.gcd (val (u0 :: rest)) v =
      2 ^ (if u0 ≠ 0 then min (ctz v) (ctz u0) else ctz v) * Nat.gcd (val (u0 :: rest)) (v >>> ctz v) := by
  have hB : B = 2 ^ 64 := rfl
  obtain ⟨hv1, hvodd⟩ := ctz_spec v hv0
  have hzv : ctz v < 64 := ctz_lt_of_lt_pow v 64 hv0 (by rw [← hB]; exact hvB)
  rw [shiftRight_ctz]
  generalize ctz v = zv at *
  generalize v / 2 ^ zv = V at *
  rw [val_cons]
  generalize val rest = R
  split
  · rename_i h
    have hu0' : 0 < u0 := Nat.pos_of_ne_zero h
    obtain ⟨hu1, huodd⟩ := ctz_spec u0 hu0'
    have hc : ctz u0 < 64 := ctz_lt_of_lt_pow u0 64 hu0' (by rw [← hB]; exact hu0)
    generalize ctz u0 = c at *
    generalize u0 / 2 ^ c = o at *
    have e : u0 + B * R = 2 ^ c * (o + 2 ^ (64 - c) * R) := by
      rw [Nat.mul_add, ← Nat.mul_assoc, ← Nat.pow_add, ← hu1]
      have : c + (64 - c) = 64 := by omega
      rw [this, hB]
    have hW : (o + 2 ^ (64 - c) * R) % 2 = 1 := by
      obtain ⟨j, hj⟩ : ∃ j, 64 - c = j + 1 := ⟨63 - c, by omega⟩
      rw [hj, pow_succ, Nat.mul_assoc, Nat.mul_comm (2 ^ j), Nat.mul_assoc]
      omega
    rw [e, hv1, gcd_pow_two c zv _ V hW hvodd, gcd_two_pow_odd c _ V hvodd, Nat.min_comm]
  · rename_i h
    have h0 : u0 = 0 := by omega
    subst h0
    rw [Nat.zero_add]
    have e : B * R = 2 ^ zv * (2 ^ (64 - zv) * R) := by
      rw [← Nat.mul_assoc, ← Nat.pow_add]
      have : zv + (64 - zv) = 64 := by omega
      rw [this, hB]
    have e2 : B * R = 2 ^ 64 * R := by rw [hB]
    conv_lhs => rw [e, hv1, Nat.gcd_mul_left, gcd_two_pow_odd _ R V hvodd]
    rw [e2, gcd_two_pow_odd _ R V hvodd]

theorem gcd_le_right_lt {a v : Nat} (hv0 : 0 < v) (hvB : v < B) : Nat.gcd a v < B :=
  lt_of_le_of_lt (Nat.le_of_dvd hv0 (Nat.gcd_dvd_right a v)) hvB

theorem gcd_1_multi (u0 u1 : Nat) (rest : List Nat) (v : Nat) (hu0 : u0 < B) (hv0 : 0 < v) (hvB : v < B) :
    gcd_1 (u0 :: u1 :: rest) v = Nat.gcd (val (u0 :: u1 :: rest)) v := by
  have hB : B = 2 ^ 64 := rfl
  obtain ⟨hv1, hvodd⟩ := ctz_spec v hv0
  have hVB : v >>> ctz v < B := lt_of_le_of_lt (Nat.shiftRight_le _ _) hvB
  have hVodd : (v >>> ctz v) % 2 = 1 := ctz_odd v hv0
  have hr := modexact_spec (u0 :: u1 :: rest) (v >>> ctz v) hVodd
  have hg := modexact_gcd (u0 :: u1 :: rest) (v >>> ctz v) hVodd
  have hz := zero_bits_multi u0 (u1 :: rest) v hu0 hv0 hvB
  unfold gcd_1
  simp only [List.headD_cons, List.length_cons]
  rw [if_pos (by omega)]
  rw [gcd1_tail _ _ _ (lt_trans hr.1 hVB) hVodd hVB, hg, Nat.mul_comm]
  by_cases h0 : u0 = 0
  · simp only [h0, ne_eq, not_true_eq_false, if_false] at hz ⊢
    rw [← hz]; exact Nat.mod_eq_of_lt (gcd_le_right_lt hv0 hvB)
  · simp only [h0, ne_eq, not_false_eq_true, if_true] at hz ⊢
    rw [← hz]; exact Nat.mod_eq_of_lt (gcd_le_right_lt hv0 hvB)

theorem gcd_1_single (u0 v : Nat) (hu00 : 0 < u0) (hu0 : u0 < B) (hv0 : 0 < v) (hvB : v < B) :
    gcd_1 [u0] v = Nat.gcd u0 v := by
  have hB : B = 2 ^ 64 := rfl
  obtain ⟨hv1, hvodd⟩ := ctz_spec v hv0
  obtain ⟨hu1, huodd⟩ := ctz_spec u0 hu00
  have hVB : v >>> ctz v < B := lt_of_le_of_lt (Nat.shiftRight_le _ _) hvB
  have hOB : u0 >>> ctz u0 < B := lt_of_le_of_lt (Nat.shiftRight_le _ _) hu0
  have hVodd : (v >>> ctz v) % 2 = 1 := ctz_odd v hv0
  have hOodd : (u0 >>> ctz u0) % 2 = 1 := ctz_odd u0 hu00
  -- the answer in terms of the odd parts
  have key : Nat.gcd u0 v = Nat.gcd (u0 >>> ctz u0) (v >>> ctz v) * 2 ^ min (ctz v) (ctz u0) := by
    conv_lhs => rw [hu1, hv1]
    rw [gcd_pow_two _ _ _ _ huodd hvodd, shiftRight_ctz, shiftRight_ctz, Nat.mul_comm, Nat.min_comm]
  have hlt : Nat.gcd (u0 >>> ctz u0) (v >>> ctz v) * 2 ^ min (ctz v) (ctz u0) < B := by
    rw [← key]; exact gcd_le_right_lt hv0 hvB
  -- after the swap: ul ≥ vl, both odd, gcd unchanged
  have hswap : ∀ (ul vl : Nat), ul % 2 = 1 → vl % 2 = 1 → ul < B → vl < B → vl ≤ ul →
      Nat.gcd ul vl = Nat.gcd (u0 >>> ctz u0) (v >>> ctz v) →
      (if ul >>> 16 > vl then
          (if ul % vl = 0 then (vl <<< min (ctz v) (ctz u0)) % B else gcd1Strip (ul % vl) vl (min (ctz v) (ctz u0)))
        else ((gcd1Loop (ul >>> 1 + vl >>> 1) (ul >>> 1) (vl >>> 1) <<< 1 ||| 1) <<< min (ctz v) (ctz u0)) % B)
        = Nat.gcd (u0 >>> ctz u0) (v >>> ctz v) * 2 ^ min (ctz v) (ctz u0) := by
    intro ul vl hul hvl hulB hvlB hle hgc
    have hvl0 : 0 < vl := by omega
    split
    · have hrB : ul % vl < B := lt_trans (Nat.mod_lt _ hvl0) hvlB
      rw [gcd1_tail _ _ _ hrB hvl hvlB]
      have : Nat.gcd (ul % vl) vl = Nat.gcd ul vl := by
        rw [Nat.gcd_comm ul vl, Nat.gcd_rec vl ul]
      rw [this, hgc]; exact Nat.mod_eq_of_lt hlt
    · have h1 : ul >>> 1 < 2 ^ 63 := by rw [Nat.shiftRight_eq_div_pow]; rw [hB] at hulB; omega
      have h2 : vl >>> 1 < 2 ^ 63 := by rw [Nat.shiftRight_eq_div_pow]; rw [hB] at hvlB; omega
      rw [shl1_or1, gcd1Loop_spec _ _ _ h1 h2 (le_refl _), Nat.shiftLeft_eq]
      have e1 : 2 * (ul >>> 1) + 1 = ul := by rw [Nat.shiftRight_eq_div_pow]; omega
      have e2 : 2 * (vl >>> 1) + 1 = vl := by rw [Nat.shiftRight_eq_div_pow]; omega
      rw [e1, e2, hgc]; exact Nat.mod_eq_of_lt hlt
  unfold gcd_1
  simp only [List.headD_cons, List.length_cons, List.length_nil]
  rw [if_neg (by omega), key]
  by_cases hsw : v >>> ctz v > u0 >>> ctz u0
  · simp only [hsw, if_true]
    exact hswap _ _ hVodd hOodd hVB hOB (by omega) (Nat.gcd_comm _ _)
  · simp only [hsw, if_false]
    exact hswap _ _ hOodd hVodd hOB hVB (by omega) rfl

/-! ### mpn_gcd_1 = Nat.gcd; mpz_gcd, mpz_gcd_ui, mpz_lcm, mpz_lcm_ui -/

theorem gcd_1_correct (up : List Nat) (v : Nat) (hl : Limbs up) (hu : val up ≠ 0) (hv0 : 0 < v) (hvB : v < B) :
    gcd_1 up v = Nat.gcd (val up) v := by
  match up, hl, hu with
  | [], _, hu => simp at hu
  | [u0], hl, hu =>
    have h1 := (Limbs_cons.mp hl).1
    have h2 : 0 < u0 := by
      rcases Nat.eq_zero_or_pos u0 with h | h
      · subst h; simp at hu
      · exact h
    have := gcd_1_single u0 v h2 h1 hv0 hvB
    simpa using this
  | u0 :: u1 :: rest, hl, _ => exact gcd_1_multi u0 u1 rest v (Limbs_cons.mp hl).1 hv0 hvB

theorem gcd_1_natLimbs (U v : Nat) (hU : 0 < U) (hv0 : 0 < v) (hvB : v < B) :
    gcd_1 (natLimbs U) v = Nat.gcd U v := by
  have := gcd_1_correct (natLimbs U) v (Limbs_natLimbs U) (by rw [val_natLimbs_eq]; omega) hv0 hvB
  rwa [val_natLimbs_eq] at this

theorem odd_pos {x : Nat} (h : x % 2 = 1) : 0 < x := by
  rcases Nat.eq_zero_or_pos x with h0 | h0
  · simp [h0] at h
  · exact h0

/-- what the mpz layer assumes of mpn_gcd: the gcd, on every call satisfying the C's ASSERTs
    (usize ≥ n > 0, vp[n-1] ≠ 0) with V odd. -/
def MpnGcdContract : Prop :=
  ∀ U V : Nat, 0 < V → V % 2 = 1 → nlimbs V ≤ nlimbs U → mpn_gcd U (nlimbs U) V (nlimbs V) = Nat.gcd U V

/-- stripping low zero limbs and then the low zero bits of the next limb (mpz/gcd.c:82-111) yields the odd part -/
theorem strip_limbs_bits (U : Nat) (h0 : 0 < U) :
    ctz ((U / B ^ lowZeroLimbs U) % B) = ctz U % 64 ∧
    (U / B ^ lowZeroLimbs U) >>> (ctz U % 64) = U >>> ctz U := by
  have hB : B = 2 ^ 64 := rfl
  obtain ⟨h1, hodd⟩ := ctz_spec U h0
  unfold lowZeroLimbs
  rw [shiftRight_ctz]
  generalize ctz U = k at *
  generalize U / 2 ^ k = o at *
  have hk : 64 * (k / 64) + k % 64 = k := Nat.div_add_mod k 64
  have hBp : B ^ (k / 64) = 2 ^ (64 * (k / 64)) := by rw [hB, ← pow_mul]
  have hU1 : U / B ^ (k / 64) = 2 ^ (k % 64) * o := by
    rw [hBp]
    have : U = 2 ^ (64 * (k / 64)) * (2 ^ (k % 64) * o) := by
      rw [← Nat.mul_assoc, ← Nat.pow_add, hk]; exact h1
    conv_lhs => rw [this]
    exact Nat.mul_div_cancel_left _ (by positivity)
  rw [hU1]
  have hr : k % 64 < 64 := Nat.mod_lt _ (by norm_num)
  generalize k % 64 = r at *
  constructor
  · apply ctz_unique _ r (o % 2 ^ (64 - r))
    · obtain ⟨j, hj⟩ : ∃ j, 64 - r = j + 1 := ⟨63 - r, by omega⟩
      rw [hj, pow_succ, Nat.mod_mul_left_mod]; exact hodd
    · rw [hB]
      have : (2:Nat) ^ 64 = 2 ^ r * 2 ^ (64 - r) := by rw [← Nat.pow_add]; congr 1; omega
      rw [this, Nat.mul_mod_mul_left]
  · rw [Nat.shiftRight_eq_div_pow]; exact Nat.mul_div_cancel_left _ (by positivity)

theorem mpz_gcd_correct (hc : MpnGcdContract) (u v : Int) : mpz_gcd u v = gcdSpec u v := by
  have hB : B = 2 ^ 64 := rfl
  have hspec : gcdSpec u v = ((Nat.gcd u.natAbs v.natAbs : Nat) : Int) := rfl
  rw [hspec]
  unfold mpz_gcd
  simp only
  generalize u.natAbs = U
  generalize v.natAbs = V
  by_cases hU0 : nlimbs U = 0
  · rw [if_pos hU0]
    have := (nlimbs_eq_zero_iff U).mp hU0
    subst this; simp
  rw [if_neg hU0]
  by_cases hV0 : nlimbs V = 0
  · rw [if_pos hV0]
    have := (nlimbs_eq_zero_iff V).mp hV0
    subst this; simp
  rw [if_neg hV0]
  have hUpos : 0 < U := Nat.pos_of_ne_zero (fun h => hU0 ((nlimbs_eq_zero_iff U).mpr h))
  have hVpos : 0 < V := Nat.pos_of_ne_zero (fun h => hV0 ((nlimbs_eq_zero_iff V).mpr h))
  by_cases hU1 : nlimbs U = 1
  · rw [if_pos hU1]
    obtain ⟨_, hlt⟩ := (nlimbs_eq_one_iff U).mp hU1
    rw [gcd_1_natLimbs V U hVpos hUpos hlt, Nat.gcd_comm]
  rw [if_neg hU1]
  by_cases hV1 : nlimbs V = 1
  · rw [if_pos hV1]
    obtain ⟨_, hlt⟩ := (nlimbs_eq_one_iff V).mp hV1
    rw [gcd_1_natLimbs U V hUpos hVpos hlt]
  rw [if_neg hV1]
  obtain ⟨eu1, eu2⟩ := strip_limbs_bits U hUpos
  obtain ⟨ev1, ev2⟩ := strip_limbs_bits V hVpos
  rw [eu1, ev1, eu2, ev2]
  have hou : (U >>> ctz U) % 2 = 1 := ctz_odd U hUpos
  have hov : (V >>> ctz V) % 2 = 1 := ctz_odd V hVpos
  have hmu := ctz_mul U hUpos
  have hmv := ctz_mul V hVpos
  have houpos : 0 < U >>> ctz U := odd_pos hou
  have hovpos : 0 < V >>> ctz V := odd_pos hov
  have hg : (if nlimbs (U >>> ctz U) < nlimbs (V >>> ctz V) ∨
        nlimbs (U >>> ctz U) = nlimbs (V >>> ctz V) ∧
          limbAt (U >>> ctz U) (nlimbs (U >>> ctz U) - 1) < limbAt (V >>> ctz V) (nlimbs (V >>> ctz V) - 1)
      then mpn_gcd (V >>> ctz V) (nlimbs (V >>> ctz V)) (U >>> ctz U) (nlimbs (U >>> ctz U))
      else mpn_gcd (U >>> ctz U) (nlimbs (U >>> ctz U)) (V >>> ctz V) (nlimbs (V >>> ctz V)))
      = Nat.gcd (U >>> ctz U) (V >>> ctz V) := by
    split
    · rename_i h
      rw [hc _ _ houpos hou (by omega), Nat.gcd_comm]
    · rename_i h
      rw [hc _ _ hovpos hov (by omega)]
  rw [hg]
  have hz : (if lowZeroLimbs U > lowZeroLimbs V then (lowZeroLimbs V, ctz V % 64)
      else if lowZeroLimbs U < lowZeroLimbs V then (lowZeroLimbs U, ctz U % 64)
      else (lowZeroLimbs U, min (ctz U % 64) (ctz V % 64))).1 * 64 +
      (if lowZeroLimbs U > lowZeroLimbs V then (lowZeroLimbs V, ctz V % 64)
      else if lowZeroLimbs U < lowZeroLimbs V then (lowZeroLimbs U, ctz U % 64)
      else (lowZeroLimbs U, min (ctz U % 64) (ctz V % 64))).2 = min (ctz U) (ctz V) := by
    unfold lowZeroLimbs
    split
    · simp only; omega
    · split
      · simp only; omega
      · simp only; omega
  rw [hz, Nat.shiftLeft_eq]
  congr 1
  conv_rhs => rw [← hmu, ← hmv]
  rw [gcd_pow_two _ _ _ _ hou hov, Nat.mul_comm]

theorem mpz_gcd_ui_correct (u : Int) (v : Nat) (hv : v < B) :
    (mpz_gcd_ui u v).1 = ((Nat.gcd u.natAbs v : Nat) : Int) ∧
    (mpz_gcd_ui u v).2 = (if Nat.gcd u.natAbs v < B then Nat.gcd u.natAbs v else 0) := by
  unfold mpz_gcd_ui
  simp only
  generalize u.natAbs = U
  by_cases hU0 : nlimbs U = 0
  · rw [if_pos hU0]
    have := (nlimbs_eq_zero_iff U).mp hU0
    subst this; simp [hv]
  rw [if_neg hU0]
  have hUpos : 0 < U := Nat.pos_of_ne_zero (fun h => hU0 ((nlimbs_eq_zero_iff U).mpr h))
  by_cases hv0 : v = 0
  · rw [if_pos hv0]; subst hv0
    simp only [Nat.gcd_zero_right, true_and]
    by_cases h1 : nlimbs U = 1
    · rw [if_pos h1, if_pos ((nlimbs_eq_one_iff U).mp h1).2]
    · rw [if_neg h1, if_neg]
      intro hlt; exact h1 ((nlimbs_eq_one_iff U).mpr ⟨hUpos, hlt⟩)
  · rw [if_neg hv0]
    have hvpos : 0 < v := Nat.pos_of_ne_zero hv0
    rw [gcd_1_natLimbs U v hUpos hvpos hv]
    exact ⟨rfl, by rw [if_pos (gcd_le_right_lt hvpos hv)]⟩

theorem lcm_aux (U V : Nat) : U * (V / Nat.gcd U V) = U * V / Nat.gcd U V :=
  (Nat.mul_div_assoc U (Nat.gcd_dvd_right U V)).symm

theorem lcmSpec_eq (u v : Int) (hu : u ≠ 0) (hv : v ≠ 0) :
    lcmSpec u v = ((u.natAbs * v.natAbs / Nat.gcd u.natAbs v.natAbs : Nat) : Int) := by
  unfold lcmSpec
  rw [if_neg (by simp [hu, hv]), Int.natAbs_mul]
  rfl

theorem mpz_lcm_ui_correct (u : Int) (v : Nat) (hv : v < B) : mpz_lcm_ui u v = lcmSpec u v := by
  unfold mpz_lcm_ui
  by_cases h : u = 0 ∨ v = 0
  · rw [if_pos h]; unfold lcmSpec; rw [if_pos (by rcases h with h | h <;> simp [h])]
  · rw [if_neg h]
    have hu : u ≠ 0 := fun e => h (Or.inl e)
    have hv0 : v ≠ 0 := fun e => h (Or.inr e)
    rw [lcmSpec_eq u v hu (by exact_mod_cast hv0), Int.natAbs_natCast,
        gcd_1_natLimbs u.natAbs v (Int.natAbs_pos.mpr hu) (Nat.pos_of_ne_zero hv0) hv, lcm_aux]

theorem mpz_lcm_correct (hc : MpnGcdContract) (u v : Int) : mpz_lcm u v = lcmSpec u v := by
  unfold mpz_lcm
  simp only
  by_cases h0 : nlimbs u.natAbs = 0 ∨ nlimbs v.natAbs = 0
  · rw [if_pos h0]; unfold lcmSpec
    rw [if_pos]
    rcases h0 with h | h
    · left; exact Int.natAbs_eq_zero.mp ((nlimbs_eq_zero_iff _).mp h)
    · right; exact Int.natAbs_eq_zero.mp ((nlimbs_eq_zero_iff _).mp h)
  rw [if_neg h0]
  have hu : u ≠ 0 := fun e => h0 (Or.inl (by rw [e]; exact nlimbs_zero))
  have hv : v ≠ 0 := fun e => h0 (Or.inr (by rw [e]; exact nlimbs_zero))
  have hU : 0 < u.natAbs := Int.natAbs_pos.mpr hu
  have hV : 0 < v.natAbs := Int.natAbs_pos.mpr hv
  rw [lcmSpec_eq u v hu hv]
  by_cases hv1 : nlimbs v.natAbs = 1
  · rw [if_pos hv1, gcd_1_natLimbs _ _ hU hV ((nlimbs_eq_one_iff _).mp hv1).2, lcm_aux]
  rw [if_neg hv1]
  by_cases hu1 : nlimbs u.natAbs = 1
  · rw [if_pos hu1, gcd_1_natLimbs _ _ hV hU ((nlimbs_eq_one_iff _).mp hu1).2, lcm_aux,
        Nat.mul_comm, Nat.gcd_comm]
  rw [if_neg hu1, mpz_gcd_correct hc]
  show (((u / ((Nat.gcd u.natAbs v.natAbs : Nat) : Int)) * v).natAbs : Int) = _
  congr 1
  rw [Int.natAbs_mul]
  have hg : Nat.gcd u.natAbs v.natAbs ∣ u.natAbs := Nat.gcd_dvd_left _ _
  have hgpos : 0 < Nat.gcd u.natAbs v.natAbs := Nat.gcd_pos_of_pos_left _ hU
  have hdiv : ((Nat.gcd u.natAbs v.natAbs : Nat) : Int) ∣ u := Int.natCast_dvd.mpr hg
  have : (u / ((Nat.gcd u.natAbs v.natAbs : Nat) : Int)).natAbs = u.natAbs / Nat.gcd u.natAbs v.natAbs := by
    rw [Int.natAbs_ediv_of_dvd hdiv, Int.natAbs_natCast]
  rw [this, Nat.div_mul_right_comm hg]

end Mpir.Gcd
