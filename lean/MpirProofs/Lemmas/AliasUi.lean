/- mpz_{t,f,c}div_q_ui on the pointer-level model: quotient formed in place by mpn_divrem_1 (qp == np allowed), the
   floor / ceiling increment, size from the top limb. -/
import MpirProofs.Lemmas.AliasMemOps
namespace Mpir.AliasMem
open Mpir
open Mpir.DivZ (sizeNat siz sameSign)

theorem mpn_divrem_1_ok {s : St} {qp np nn d : Nat} {Nl b : List Nat} (hN : s.load np nn = .ok Nl) (hb : s.blk qp = some b)
    (hfit : nn ≤ b.length) (hd0 : d ≠ 0) (hdB : d < B) :
    mpn_divrem_1 qp np nn d s = .ok (val Nl % d, s.setBlk qp (some (wrAt b 0 (toLimbs nn (val Nl / d))))) := by
  unfold mpn_divrem_1
  have hc : ¬ ¬ (1 ≤ d ∧ d < B) := not_not_intro ⟨Nat.pos_of_ne_zero hd0, hdB⟩
  simp only [hc, if_false, bind, Except.bind, hN, pure, Except.pure]
  unfold St.store; rw [hb]; simp only [toLimbs_length]
  rw [if_pos hfit, wrAt_zero, toLimbs_length]

theorem ui_quot_end {s s1 : St} (i1 : Inv s1) (k : Same s s1) {q : Nat} (f : Fr s q s1) (hq : q < s.nv) {b1 : List Nat}
    (h1 : b1.length = s1.alloc q) (h2 : Limbs b1) {nn M : Nat} (hnn : 1 ≤ nn) (hfit : nn ≤ b1.length) (h3 : M < B ^ nn)
    (h4 : 2 ≤ nn → B ^ (nn - 2) ≤ M) (c : Prop) [Decidable c] :
    ∃ top, limbAt (s1.setBlk (s1.ptr q) (some (wrAt b1 0 (toLimbs nn M)))) (s1.ptr q) (nn - 1) = .ok top ∧
      Post s ((s1.setBlk (s1.ptr q) (some (wrAt b1 0 (toLimbs nn M)))).setSize q
          (if c then ((nn - (if top = 0 then 1 else 0) : Nat) : Int) else -((nn - (if top = 0 then 1 else 0) : Nat) : Int))) q
        (if c then (M : Int) else -(M : Int)) := by
  refine ⟨_, limbAt_toLimbs ((setBlk_blk_self _ _ _).trans (congrArg some (wrAt_zero _ _))) (Nat.sub_lt hnn Nat.one_pos), ?_⟩
  have r := put_signed i1 k f hq h1 h2 (l := toLimbs nn M) (wsize := nn - (if M / B ^ (nn - 1) % B = 0 then 1 else 0))
    (by rw [toLimbs_length]; exact hfit) (Limbs_toLimbs _ _) (by rw [val_toLimbs_lt _ _ h3]; exact top_size h3 h4 hnn) c
  rwa [val_toLimbs_lt _ _ h3] at r

theorem div_q_ui_post (dir : Int) (hdir : dir = 0 ∨ dir = -1 ∨ dir = 1) {s : St} (h : Inv s) {q n : Nat} (hq : q < s.nv)
    (hn : n < s.nv) (d : Nat) (hd0 : d ≠ 0) (hdB : d < B) :
    ∃ s', div_q_ui dir q n d s = .ok (DivZ.uiRet (DivZ.specR dir (s.value n) d), s') ∧
      Post s s' q (DivZ.specQ dir (s.value n) d) := by
  obtain ⟨hQ, hR⟩ := DivZ.spec_ui dir hdir (s.value n) d hd0
  rw [hQ, hR]
  have hmabs : (s.value n).natAbs = s.mag n := value_natAbs s n
  have hsiz : siz (s.value n) = s.size n := (h.norm n hn).symm
  have hsign : ∀ M : Int, (if 0 ≤ s.value n then M else -M) = (if s.size n ≥ 0 then M else -M) := fun M =>
    if_congr (by have := h.size_neg_iff hn; omega) rfl rfl
  rw [hmabs, hsiz]
  unfold div_q_ui
  simp only [bind, Except.bind, pure, Except.pure]
  rw [if_neg hd0]
  by_cases hz : s.size n = 0
  · rw [if_pos hz]
    have hm0 : s.mag n = 0 := h.mag_zero hn hz
    obtain ⟨i2, u2, v2⟩ := setSize_zero_spec h hq
    have hadj : ¬ DivZ.uiAdjust dir (s.mag n % d) (s.size n) := by rw [hm0, Nat.zero_mod]; exact DivZ.not_uiAdjust_zero _ _
    refine ⟨_, ?_, Post.of_same_upd (Same.refl s) (Fr.refl s q) u2 i2 ?_⟩
    · rw [hm0]; simp [DivZ.uiRet]
    · rw [v2, if_neg hadj, hm0]; simp
  · rw [if_neg hz]
    have o := h.normOp hn hz
    have hN1 : B ^ ((s.size n).natAbs - 1) ≤ s.mag n := o.ge
    have hN2 : s.mag n < B ^ (s.size n).natAbs := o.lt
    have hfits := DivZ.ui_incr_fits (a := s.mag n) (u := d) hd0
    rw [← h.size_natAbs hn] at hfits
    obtain ⟨i1, k, a1⟩ := realloc_same h hq (s.size n).natAbs
    have fr1 : Fr s q (s.mpzRealloc q (s.size n).natAbs) := (Fr.refl s q).realloc _
    generalize s.mpzRealloc q (s.size n).natAbs = s1 at *
    obtain ⟨b, hb, hbl, hbL⟩ := i1.live q (k.lt hq)
    rw [mpn_divrem_1_ok (k.load i1 hn) hb (by omega) hd0 hdB, show val (s.limbs n) = s.mag n from rfl]
    simp only []
    have hnn1 := o.pos
    clear o
    generalize (s.size n).natAbs = nn at *
    generalize s.mag n = N at *
    have hfit : nn ≤ b.length := by omega
    have hQlt : N / d < B ^ nn := Nat.lt_of_le_of_lt (Nat.div_le_self _ _) hN2
    have hQge : 2 ≤ nn → B ^ (nn - 2) ≤ N / d := fun h2 => by
      rw [Nat.le_div_iff_mul_le (Nat.pos_of_ne_zero hd0)]
      calc B ^ (nn - 2) * d ≤ B ^ (nn - 2) * B := Nat.mul_le_mul_left _ (Nat.le_of_lt hdB)
        _ = B ^ (nn - 1) := by rw [← pow_succ]; congr 1; omega
        _ ≤ N := hN1
    have hQl : 0 + (toLimbs nn (N / d)).length ≤ b.length := by rw [toLimbs_length, Nat.zero_add]; exact hfit
    by_cases hadj : DivZ.uiAdjust dir (N % d) (s.size n)
    · have hadj' : (decide (N % d ≠ 0 ∧ (dir = -1 ∧ s.size n < 0 ∨ dir = 1 ∧ s.size n ≥ 0))) = true := by
        simpa [DivZ.uiAdjust] using hadj
      simp only [hadj', if_true]
      have hr0 : N % d ≠ 0 := hadj.1
      -- mpn_incr_u on the quotient just stored
      have hload := load_wrAt (s := s1) (p := s1.ptr q) (b := b) (l := toLimbs nn (N / d)) (j := nn)
        (by rw [toLimbs_length]) (by rw [toLimbs_length]; exact hfit)
      rw [List.take_of_length_le (by rw [toLimbs_length])] at hload
      rw [hload]; simp only []
      rw [val_toLimbs_lt _ _ hQlt, if_neg (hfits hr0), store_setBlk (by rw [toLimbs_length, wrAt_length hQl]; exact hfit)]
      simp only []
      obtain ⟨top, e', hres⟩ := ui_quot_end i1 k fr1 hq (b1 := wrAt b 0 (toLimbs nn (N / d))) (M := N / d + 1)
        (by rw [wrAt_length hQl]; exact hbl) (Limbs_wrAt hbL (Limbs_toLimbs _ _)) hnn1 (by rw [wrAt_length hQl]; exact hfit)
        (Nat.lt_of_not_ge (hfits hr0)) (fun h2 => Nat.le_trans (hQge h2) (Nat.le_succ _)) (s.size n ≥ 0)
      rw [e']; simp only []
      have hret : DivZ.uiRet (if N % d = 0 then 0 else DivZ.uiRem dir (s.size n)
          (if DivZ.uiAdjust dir (N % d) (s.size n) then d - N % d else N % d)) = d - N % d := by
        rw [if_neg hr0, if_pos hadj, DivZ.uiRet, DivZ.uiRem_natAbs]
      rw [hret, if_pos hadj, hsign]
      exact ⟨_, rfl, hres⟩
    · have hadj' : (decide (N % d ≠ 0 ∧ (dir = -1 ∧ s.size n < 0 ∨ dir = 1 ∧ s.size n ≥ 0))) = false := by
        simpa [DivZ.uiAdjust] using hadj
      simp only [hadj', Bool.false_eq_true, if_false]
      obtain ⟨top, e', hres⟩ := ui_quot_end i1 k fr1 hq hbl hbL hnn1 hfit hQlt hQge (s.size n ≥ 0)
      rw [e']; simp only []
      have hret : DivZ.uiRet (if N % d = 0 then 0 else DivZ.uiRem dir (s.size n)
          (if DivZ.uiAdjust dir (N % d) (s.size n) then d - N % d else N % d)) = N % d := by
        by_cases hr0 : N % d = 0
        · rw [if_pos hr0, hr0]; rfl
        · rw [if_neg hr0, if_neg hadj, DivZ.uiRet, DivZ.uiRem_natAbs]
      rw [hret, if_neg hadj, hsign]
      exact ⟨_, rfl, hres⟩

theorem div_q_ui_ok (dir : Int) (hdir : dir = 0 ∨ dir = -1 ∨ dir = 1) {s : St} (h : Inv s) {q n : Nat} (hq : q < s.nv)
    (hn : n < s.nv) (d : Nat) (hd0 : d ≠ 0) (hdB : d < B) :
    ∃ s', div_q_ui dir q n d s = .ok (DivZ.uiRet (DivZ.specR dir (s.value n) d), s') ∧
      Res s s' q (DivZ.specQ dir (s.value n) d) := by
  obtain ⟨s', e, p⟩ := div_q_ui_post dir hdir h hq hn d hd0 hdB
  exact ⟨s', e, p.res h hq⟩

end Mpir.AliasMem
