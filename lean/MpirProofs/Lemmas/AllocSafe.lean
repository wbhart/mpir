/- The calculus of the size-aware memory model (Mpir/Model/AllocSafe.lean).  Inside one function: what MPZ_REALLOC guarantees
   (`Grown`), operands that can be read (`Den`, `Opnd`), the invariant carried from store to store (`Wrote`), what the function
   establishes (`Refines`, `Safe`).  Across a chain of calls: `RanH`, the heap is the initial one overridden by the objects stored. -/
import Mpir.Model.AllocSafeMpz2
import MpirProofs.Lemmas.Mpz
namespace Mpir.AllocSafe
open Mpir
open Mpir.Mpz (sgn diffSign Norm natAbs_sgn)

theorem junk_lt : junk < B := by unfold junk B; norm_num

/-- a block as the allocator hands it out: exactly `_mp_alloc` limbs behind `_mp_d`, each a limb (those above |SIZ| hold anything) -/
def BWF (b : Buf) : Prop := b.limbs.length = b.alloc ∧ Limbs b.limbs

theorem BWF_new (n : Nat) : BWF (Buf.new n) := ⟨by simp [Buf.new], Limbs_replicate _ _ junk_lt⟩

/-- a well-formed `mpz_t`: `_mp_alloc ≥ 1`, `|_mp_size| ≤ _mp_alloc`, the |SIZ| limbs in use normalised -/
def OWF (o : Obj) : Prop := BWF o.buf ∧ Mpz.WF (view o)

theorem OWF.alloc_pos {o : Obj} (h : OWF o) : 1 ≤ o.buf.alloc := h.2.1
theorem OWF.normalized {o : Obj} (h : OWF o) : Normalized (view o).d := h.2.2.2.2.2

/-- a fresh block with SIZ = 0 (mpz_init: one limb; MPZ_TMP_INIT: n limbs) -/
theorem tmp_owf (n : Nat) (h : 1 ≤ n) : OWF ⟨0, 0, Buf.new n⟩ := by
  refine ⟨BWF_new n, ?_⟩
  refine ⟨by simpa [view, Buf.new] using h, by simp [view], by simp [view], ?_, by simp [view]⟩
  simp [view]; intro x hx; simp at hx

/-- a range store is the sequence of single stores at off, off+1, … (each kernel "writes exactly
    [off, off+n)"): same block, same verdict -/
theorem write_eq_storeAll (l : List Nat) : ∀ (b : Buf) (off : Nat), b.limbs.length = b.alloc →
    off + l.length ≤ b.alloc → b.storeAll off l = b.write off l := by
  induction l with
  | nil =>
    intro b off hb h
    have h' : off ≤ b.alloc := by simpa using h
    simp [Buf.storeAll, Buf.write, h']
  | cons x xs ih =>
    intro b off hb h
    simp only [List.length_cons] at h
    have h1 : off < b.alloc := by omega
    have hb' : (b.store off x).1.limbs.length = (b.store off x).1.alloc := by
      simp [Buf.store, h1, hb]
    have h2 : off + 1 + xs.length ≤ (b.store off x).1.alloc := by
      simp [Buf.store, h1]; omega
    simp only [Buf.storeAll]
    rw [ih _ _ hb' h2]
    have h3 : off + (xs.length + 1) ≤ b.alloc := by omega
    have h4 : off + 1 + xs.length ≤ b.alloc := by omega
    simp only [Buf.write, Buf.store, h1, if_true, List.length_cons, h3, h4, Bool.and_self]
    have hL : off + (xs.length + 1) ≤ b.limbs.length := by omega
    have h1' : off < b.limbs.length := by omega
    have e1 : (b.limbs.set off x).take (off+1) = b.limbs.take off ++ [x] := by
      rw [List.take_add_one]
      simp [List.take_set_of_le, h1']
    have e2 : (b.limbs.set off x).drop (off+1+xs.length) = b.limbs.drop (off + (xs.length+1)) := by
      rw [List.drop_set_of_lt (by omega)]
      congr 1; omega
    simp only [e1, e2]; simp

theorem storeAll_bad (l : List Nat) : ∀ (b : Buf) (off : Nat), off ≤ b.alloc →
    ¬ off + l.length ≤ b.alloc → (b.storeAll off l).2 = false := by
  induction l with
  | nil => intro b off h0 h; simp at h; omega
  | cons x xs ih =>
    intro b off h0 h
    simp only [List.length_cons] at h
    simp only [Buf.storeAll]
    by_cases h1 : off < b.alloc
    · have : ¬ off + 1 + xs.length ≤ (b.store off x).1.alloc := by simp [Buf.store, h1]; omega
      rw [ih _ _ (by simp [Buf.store, h1]; omega) this]; simp
    · simp [Buf.store, h1]

theorem write_BWF {b : Buf} (hb : BWF b) (off : Nat) {l : List Nat} (hl : Limbs l) :
    BWF (b.write off l).1 := by
  unfold Buf.write
  split
  · rename_i h
    refine ⟨?_, ?_⟩
    · simp only [List.length_append, List.length_take, List.length_drop, hb.1]; omega
    · exact Limbs_append.mpr ⟨Limbs_append.mpr ⟨Limbs_take hb.2 _, hl⟩, Limbs_drop hb.2 _⟩
  · exact hb

@[simp] theorem upd_same (h : Heap) (i : Nat) (o : Obj) : upd h i o i = o := by simp [upd]
theorem upd_other (h : Heap) {i j : Nat} (o : Obj) (hij : j ≠ i) : upd h i o j = h j := by simp [upd, hij]

@[simp] theorem chk_h (s : St) (b : Bool) : (s.chk b).h = s.h := rfl
@[simp] theorem chk_ok (s : St) (b : Bool) : (s.chk b).ok = (s.ok && b) := rfl
@[simp] theorem chk_PTR (s : St) (b : Bool) (x : Nat) : (s.chk b).PTR x = s.PTR x := rfl
@[simp] theorem chk_live (s : St) (b : Bool) (p : Ptr) : (s.chk b).live p = s.live p := rfl
@[simp] theorem chk_rd (s : St) (b : Bool) (p : Ptr) (n : Nat) : (s.chk b).rd p n = s.rd p n := rfl
@[simp] theorem chk_rdOk (s : St) (b : Bool) (p : Ptr) (n : Nat) : (s.chk b).rdOk p n = s.rdOk p n := rfl

@[simp] theorem wr_gen (s : St) (p : Ptr) (l : List Nat) (x : Nat) : ((s.wr p l).h x).gen = (s.h x).gen := by
  by_cases h : x = p.id <;> simp [St.wr, upd, h]
@[simp] theorem wr_size (s : St) (p : Ptr) (l : List Nat) (x : Nat) : ((s.wr p l).h x).size = (s.h x).size := by
  by_cases h : x = p.id <;> simp [St.wr, upd, h]
@[simp] theorem wr_alloc (s : St) (p : Ptr) (l : List Nat) (x : Nat) :
    ((s.wr p l).h x).buf.alloc = (s.h x).buf.alloc := by
  by_cases h : x = p.id
  · subst h; simp only [St.wr, upd_same, Buf.write]; split <;> rfl
  · simp [St.wr, upd, h]
@[simp] theorem wr_live (s : St) (p q : Ptr) (l : List Nat) : (s.wr p l).live q = s.live q := by
  simp [St.live]
@[simp] theorem wr_PTR (s : St) (p : Ptr) (l : List Nat) (x : Nat) : (s.wr p l).PTR x = s.PTR x := by
  simp [St.PTR]
@[simp] theorem wr_SIZ (s : St) (p : Ptr) (l : List Nat) (x : Nat) : (s.wr p l).SIZ x = s.SIZ x := by
  simp [St.SIZ]
@[simp] theorem wr_ALLOC (s : St) (p : Ptr) (l : List Nat) (x : Nat) : (s.wr p l).ALLOC x = s.ALLOC x := by
  simp [St.ALLOC]
@[simp] theorem wr_rdOk (s : St) (p q : Ptr) (l : List Nat) (n : Nat) : (s.wr p l).rdOk q n = s.rdOk q n := by
  simp [St.rdOk, Buf.read]
theorem wr_other (s : St) (p : Ptr) (l : List Nat) {x : Nat} (h : x ≠ p.id) : (s.wr p l).h x = s.h x := by
  simp [St.wr, upd, h]
theorem wr_ok (s : St) (p : Ptr) (l : List Nat) :
    (s.wr p l).ok = (s.ok && s.live p && decide (p.off + l.length ≤ (s.h p.id).buf.alloc)) := by
  simp only [St.wr, Buf.write]; split <;> simp [*]
theorem wr_limbs (s : St) (p : Ptr) (l : List Nat) (h : p.off + l.length ≤ (s.h p.id).buf.alloc) :
    ((s.wr p l).h p.id).buf.limbs =
      (s.h p.id).buf.limbs.take p.off ++ l ++ (s.h p.id).buf.limbs.drop (p.off + l.length) := by
  simp [St.wr, Buf.write, h]
theorem wr_BWF (s : St) (p : Ptr) {l : List Nat} (hl : Limbs l) (x : Nat) (hx : BWF (s.h x).buf) :
    BWF ((s.wr p l).h x).buf := by
  by_cases h : x = p.id
  · subst h; simp only [St.wr, upd_same]; exact write_BWF hx _ hl
  · rw [wr_other _ _ _ h]; exact hx

@[simp] theorem setSize_ok (s : St) (x : Nat) (n : Int) : (s.setSize x n).ok = s.ok := rfl
@[simp] theorem setSize_gen (s : St) (x : Nat) (n : Int) (y : Nat) : ((s.setSize x n).h y).gen = (s.h y).gen := by
  by_cases h : y = x <;> simp [St.setSize, upd, h]
@[simp] theorem setSize_buf (s : St) (x : Nat) (n : Int) (y : Nat) : ((s.setSize x n).h y).buf = (s.h y).buf := by
  by_cases h : y = x <;> simp [St.setSize, upd, h]
@[simp] theorem setSize_size (s : St) (x : Nat) (n : Int) : ((s.setSize x n).h x).size = n := by
  simp [St.setSize]
theorem setSize_other (s : St) (x : Nat) (n : Int) {y : Nat} (h : y ≠ x) : (s.setSize x n).h y = s.h y := by
  simp [St.setSize, upd, h]

@[simp] theorem live_PTR (s : St) (x : Nat) : s.live (s.PTR x) = true := by simp [St.live, St.PTR]
@[simp] theorem live_PTR_add (s : St) (x k : Nat) : s.live ((s.PTR x).add k) = true := by
  simp [St.live, St.PTR, Ptr.add]
@[simp] theorem PTR_id (s : St) (x : Nat) : (s.PTR x).id = x := rfl
@[simp] theorem PTR_off (s : St) (x : Nat) : (s.PTR x).off = 0 := rfl
@[simp] theorem add_id (p : Ptr) (k : Nat) : (p.add k).id = p.id := rfl
@[simp] theorem add_off (p : Ptr) (k : Nat) : (p.add k).off = p.off + k := rfl

theorem rd_PTR (s : St) (x n : Nat) : s.rd (s.PTR x) n = (s.h x).buf.limbs.take n := by
  simp [St.rd, St.PTR, Buf.read]
theorem rdOk_PTR (s : St) (x n : Nat) : s.rdOk (s.PTR x) n = decide (n ≤ (s.h x).buf.alloc) := by
  simp [St.rdOk, St.PTR, Buf.read, St.live]
theorem rd_PTR_add (s : St) (x k n : Nat) : s.rd ((s.PTR x).add k) n = ((s.h x).buf.limbs.drop k).take n := by
  simp [St.rd, St.PTR, Buf.read, Ptr.add]
theorem rdOk_PTR_add (s : St) (x k n : Nat) :
    s.rdOk ((s.PTR x).add k) n = decide (k + n ≤ (s.h x).buf.alloc) := by
  simp [St.rdOk, St.PTR, Buf.read, St.live, Ptr.add]

/-- what `MPZ_REALLOC (w, n)` guarantees, for every variable `x` (the same as `w` or not) -/
structure Grown (s s' : St) (w n : Nat) : Prop where
  ok : s'.ok = s.ok
  size : ∀ x, (s'.h x).size = (s.h x).size
  mono : ∀ x, (s.h x).buf.alloc ≤ (s'.h x).buf.alloc
  room : n ≤ (s'.h w).buf.alloc
  alloc : (s'.h w).buf.alloc = (Mpz.grow (view (s.h w)) n).alloc
  take : ∀ x k, BWF (s.h x).buf → k ≤ (s.h x).buf.alloc → (s'.h x).buf.limbs.take k = (s.h x).buf.limbs.take k
  bwf : ∀ x, BWF (s.h x).buf → BWF (s'.h x).buf
  other : ∀ x, x ≠ w → s'.h x = s.h x

/-- `MPZ_REALLOC (w, n)` on any object whose size field fits the block it will have (mpq_inv and mpz_gcd store the new size
    BEFORE the reallocation) -/
theorem MPZ_REALLOC_grown' (s : St) (w n : Nat) (hfit : (s.h w).size.natAbs ≤ max n (s.h w).buf.alloc) :
    Grown s (MPZ_REALLOC s w n) w n := by
  unfold MPZ_REALLOC St.ALLOC
  by_cases hn : n > (s.h w).buf.alloc
  · rw [if_pos hn]
    -- `_mpz_realloc` sets SIZ to 0 when |SIZ| exceeds the new allocation `max n 1` (realloc.c:39-40); `hfit` with
    -- `n > ALLOC` rules that branch out, so the size field survives
    have hsz : ¬ (s.h w).size.natAbs > max n 1 := by omega
    refine ⟨rfl, ?_, ?_, ?_, ?_, ?_, ?_, ?_⟩
    · intro x; by_cases h : x = w
      · subst h; simp [_mpz_realloc, hsz]
      · simp [_mpz_realloc, upd, h]
    · intro x; by_cases h : x = w
      · subst h; simp [_mpz_realloc]; omega
      · simp [_mpz_realloc, upd, h]
    · simp [_mpz_realloc]
    · simp [_mpz_realloc, Mpz.grow, Mpz.realloc, view, hn]
      split <;> rfl
    · intro x k hb hk; by_cases h : x = w
      · subst h
        simp only [_mpz_realloc, upd_same]
        rw [List.take_take, List.take_append_of_le_length (by rw [hb.1]; omega)]
        congr 1; omega
      · simp [_mpz_realloc, upd, h]
    · intro x hb; by_cases h : x = w
      · subst h
        simp only [_mpz_realloc, upd_same]
        refine ⟨?_, ?_⟩
        · simp only [List.length_take, List.length_append, List.length_replicate, hb.1]; omega
        · exact Limbs_take (Limbs_append.mpr ⟨hb.2, Limbs_replicate _ _ junk_lt⟩) _
      · simpa [_mpz_realloc, upd, h] using hb
    · intro x h; simp [_mpz_realloc, upd, h]
  · rw [if_neg hn]
    refine ⟨rfl, fun _ => rfl, fun _ => Nat.le_refl _, by omega, ?_, fun _ _ _ _ => rfl, fun _ h => h, fun _ _ => rfl⟩
    simp [Mpz.grow, view, hn]

/-- the name under which the check scripts register `MPZ_REALLOC_grown'` -/
theorem MPZ_REALLOC_grown2 (s : St) (w n : Nat) (hfit : (s.h w).size.natAbs ≤ max n (s.h w).buf.alloc) :
    Grown s (MPZ_REALLOC s w n) w n := MPZ_REALLOC_grown' s w n hfit

theorem view_fit {o : Obj} (h : OWF o) : o.size.natAbs ≤ o.buf.alloc := h.2.2.1

theorem MPZ_REALLOC_grown (s : St) (w n : Nat) (hw : OWF (s.h w)) : Grown s (MPZ_REALLOC s w n) w n :=
  MPZ_REALLOC_grown' s w n (Nat.le_trans (view_fit hw) (Nat.le_max_right _ _))

theorem MPZ_REALLOC_noop (s : St) (w n : Nat) (h : n ≤ s.ALLOC w) : MPZ_REALLOC s w n = s := by
  unfold MPZ_REALLOC; rw [if_neg (by omega)]

theorem take_take_le (l : List Nat) {a b : Nat} (h : a ≤ b) : (l.take b).take a = l.take a := by
  rw [List.take_take, Nat.min_eq_left h]

theorem take_len_le {l L : List Nat} (h : l.take L.length = L) : L.length ≤ l.length := by
  have := congrArg List.length h
  simp at this; omega

theorem drop_take_of_prefix {l L : List Nat} (h : l.take L.length = L) (off m : Nat) (hm : off + m ≤ L.length) :
    (l.drop off).take m = (L.drop off).take m :=
  drop_take_of_take_eq L.length off m (by rw [List.take_length]; exact h) hm

theorem headD_drop_take (R : List Nat) (i : Nat) (hi : i < R.length) : ((R.drop i).take 1).headD junk = R.getD i 0 := by
  have h1 : R.drop i = R[i] :: R.drop (i + 1) := List.drop_eq_getElem_cons hi
  have h2 : R.getD i 0 = R[i] := by rw [List.getD_eq_getElem?_getD, List.getElem?_eq_getElem hi]; rfl
  rw [h1, h2]; rfl

theorem limb_singleton {v : Nat} (hv : v < B) : Limbs [v] := by
  intro x hx; simp at hx; rw [hx]; exact hv

@[simp] theorem setSize_chk_h (s : St) (b : Bool) (x : Nat) (n : Int) : ((s.chk b).setSize x n).h = (s.setSize x n).h := rfl
@[simp] theorem add_zero_ptr (p : Ptr) : p.add 0 = p := by cases p; rfl
theorem add_add_ptr (p : Ptr) (a b : Nat) : (p.add a).add b = p.add (a + b) := by
  cases p; simp [Ptr.add, Nat.add_assoc]
theorem chk_true (s : St) : s.chk true = s := by cases s; simp [St.chk]

/-- what a `_refines` proof establishes; `m` is the value-level result with the allocation the C leaves -/
structure Refines (s s' : St) (w : Nat) (m : Mpz.Mpz) : Prop where
  ok : s'.ok = true
  view : view (s'.h w) = m
  bwf : BWF (s'.h w).buf
  frame : ∀ x, x ≠ w → s'.h x = s.h x

theorem Refines.rebase {s s3 s4 : St} {w : Nat} {m : Mpz.Mpz} (R : Refines s3 s4 w m)
    (hf : ∀ x, x ≠ w → s3.h x = s.h x) : Refines s s4 w m :=
  ⟨R.ok, R.view, R.bwf, fun x hx => (R.frame x hx).trans (hf x hx)⟩

theorem Refines.of_chk {s s' : St} {c : Bool} {w : Nat} {m : Mpz.Mpz} (R : Refines (s.chk c) s' w m) :
    Refines s s' w m := ⟨R.ok, R.view, R.bwf, R.frame⟩

theorem Grown.refines {s s1 s2 : St} {w n : Nat} {z : Int} {d : List Nat} (G : Grown s s1 w n)
    (R : Refines s1 s2 w ⟨(s1.h w).buf.alloc, z, d⟩) : Refines s s2 w ⟨(Mpz.grow (view (s.h w)) n).alloc, z, d⟩ := by
  rw [← G.alloc]; exact R.rebase G.other

theorem Refines.of_grown {s s1 s2 : St} {w n : Nat} {m : Mpz.Mpz} (G : Grown s s1 w n)
    (R : Refines s1 s2 w m) : Refines s s2 w m := R.rebase G.other

/-- the shape of every `_alloc_safe` statement: `Refines` plus `OWF` of the destination, which needs `Mpz.WF m` from the value level -/
def Safe (s s' : St) (w : Nat) (m : Mpz.Mpz) : Prop :=
  s'.ok = true ∧ OWF (s'.h w) ∧ (∀ x, x ≠ w → s'.h x = s.h x) ∧ view (s'.h w) = m

theorem Refines.safe {s s' : St} {w : Nat} {m : Mpz.Mpz} (R : Refines s s' w m) (hm : Mpz.WF m) :
    Safe s s' w m :=
  ⟨R.ok, ⟨R.bwf, by rw [R.view]; exact hm⟩, R.frame, R.view⟩

theorem Refines.safe_val {s s' : St} {w : Nat} {m : Mpz.Mpz} {z : Int} (R : Refines s s' w m) (hm : Mpz.WF m)
    (hz : Mpz.toInt m = z) : Safe s s' w m ∧ Mpz.toInt (AllocSafe.view (s'.h w)) = z :=
  ⟨R.safe hm, by rw [R.view]; exact hz⟩

theorem toInt_natAbs (m : Mpz.Mpz) : (Mpz.toInt m).natAbs = val m.d := by
  unfold Mpz.toInt; split <;> simp

@[simp] theorem view_size (o : Obj) : (view o).size = o.size := rfl
@[simp] theorem view_alloc (o : Obj) : (view o).alloc = o.buf.alloc := rfl

theorem view_d_length {o : Obj} (h : OWF o) : (view o).d.length = o.size.natAbs := by
  simpa [view] using h.2.2.2.1
theorem view_limbs {o : Obj} (h : OWF o) : Limbs (view o).d := h.2.2.2.2.1

/-- the source (a pointer to the start of a live block, or temporary space) can be read for |L| limbs and holds `L` there -/
def Den (s : St) : Src → List Nat → Prop
  | .ptr p, L => p.off = 0 ∧ s.live p = true ∧ L.length ≤ (s.h p.id).buf.alloc ∧ (s.h p.id).buf.limbs.take L.length = L
  | .tmp b off, L => off = 0 ∧ L.length ≤ b.alloc ∧ b.limbs.take L.length = L

theorem Den.rd_add {s : St} {src : Src} {L : List Nat} (D : Den s src L) (off m : Nat) (hm : off + m ≤ L.length) :
    s.rdS (src.add off) m = (L.drop off).take m ∧ s.rdOkS (src.add off) m = true := by
  cases src with
  | ptr p =>
    obtain ⟨h0, hl, hfit, ht⟩ := D
    refine ⟨?_, ?_⟩
    · simp only [Src.add, St.rdS, St.rd, Buf.read, add_id, add_off, h0, Nat.zero_add]
      exact drop_take_of_prefix ht off m hm
    · simp only [Src.add, St.rdOkS, St.rdOk, Buf.read, add_id, add_off, h0, Nat.zero_add]
      have : s.live (p.add off) = true := by simpa [St.live, Ptr.add] using hl
      rw [this]; simp; omega
  | tmp b o =>
    obtain ⟨h0, hfit, ht⟩ := D
    subst h0
    refine ⟨?_, ?_⟩
    · simp only [Src.add, St.rdS, Buf.read, Nat.zero_add]
      exact drop_take_of_prefix ht off m hm
    · simp only [Src.add, St.rdOkS, Buf.read, Nat.zero_add]; simp; omega

theorem Src.add_zero (src : Src) : src.add 0 = src := by
  cases src with
  | ptr p => simp [Src.add]
  | tmp b o => simp [Src.add]

theorem Den.rd {s : St} {src : Src} {L : List Nat} (D : Den s src L) (m : Nat) (hm : m ≤ L.length) :
    s.rdS src m = L.take m ∧ s.rdOkS src m = true := by
  have := D.rd_add 0 m (by omega)
  simpa [Src.add_zero] using this

theorem Den.rd_all {s : St} {src : Src} {L : List Nat} (D : Den s src L) :
    s.rdS src L.length = L ∧ s.rdOkS src L.length = true := by
  have := D.rd L.length (Nat.le_refl _)
  rwa [List.take_length] at this

theorem Den.take {s : St} {src : Src} {L : List Nat} (D : Den s src L) (k : Nat) : Den s src (L.take k) := by
  cases src with
  | ptr p =>
    obtain ⟨h0, hl, hfit, ht⟩ := D
    refine ⟨h0, hl, by simp; omega, ?_⟩
    conv_rhs => rw [← ht]
    rw [List.take_take, List.length_take]
  | tmp b o =>
    obtain ⟨h0, hfit, ht⟩ := D
    refine ⟨h0, by simp; omega, ?_⟩
    conv_rhs => rw [← ht]
    rw [List.take_take, List.length_take]

theorem Den.chk {s : St} {src : Src} {L : List Nat} (D : Den s src L) (c : Bool) : Den (s.chk c) src L := by
  cases src <;> exact D

theorem Den.setSize {s : St} {src : Src} {L : List Nat} (D : Den s src L) (x : Nat) (z : Int) :
    Den (s.setSize x z) src L := by
  cases src with
  | ptr p =>
    obtain ⟨h0, hl, hfit, ht⟩ := D
    exact ⟨h0, by simpa [St.live] using hl, by simpa using hfit, by simpa using ht⟩
  | tmp b o => exact D

/-- a store at or above |L| leaves the operand alone (also when it is the block stored to) -/
theorem Den.wr {s : St} {src : Src} {L : List Nat} (D : Den s src L) (q : Ptr) (l : List Nat) (hq : L.length ≤ q.off) :
    Den (s.wr q l) src L := by
  cases src with
  | tmp b o => exact D
  | ptr p =>
    obtain ⟨h0, hl, hfit, ht⟩ := D
    refine ⟨h0, by simpa using hl, by simpa using hfit, ?_⟩
    by_cases hid : p.id = q.id
    · have hlen := take_len_le ht
      rw [hid]
      simp only [St.wr, upd_same, Buf.write]
      rw [hid] at ht hlen
      split
      · simp only
        rw [List.append_assoc, List.take_append_of_le_length (by simp; omega), take_take_le _ hq]
        exact ht
      · exact ht
    · rw [wr_other _ _ _ hid]; exact ht

theorem Den.of_owf {s : St} {x : Nat} (hx : OWF (s.h x)) : Den s (.ptr (s.PTR x)) (view (s.h x)).d := by
  have hl := view_d_length hx
  refine ⟨rfl, by simp, by rw [hl]; exact view_fit hx, ?_⟩
  simp only [PTR_id, hl]; rfl

theorem Den.of_grown {s s' : St} {w n : Nat} (G : Grown s s' w n) {x : Nat} (hx : OWF (s.h x)) :
    Den s' (.ptr (s'.PTR x)) (view (s.h x)).d := by
  have hl := view_d_length hx
  have hfit := view_fit hx
  refine ⟨rfl, by simp, by rw [hl]; have := G.mono x; simp; omega, ?_⟩
  simp only [PTR_id, hl]
  rw [G.take x _ hx.1 hfit]; rfl

/-- the variable `x` is well formed and holds the limbs `L` -/
structure Opnd (s : St) (x : Nat) (L : List Nat) : Prop where
  owf : OWF (s.h x)
  eq : (view (s.h x)).d = L

namespace Opnd
variable {s : St} {x : Nat} {L : List Nat}

theorem of_owf (h : OWF (s.h x)) : Opnd s x (view (s.h x)).d := ⟨h, rfl⟩
theorem len (O : Opnd s x L) : L.length = (s.h x).size.natAbs := O.eq ▸ view_d_length O.owf
theorem limbs (O : Opnd s x L) : Limbs L := O.eq ▸ view_limbs O.owf
theorem norm (O : Opnd s x L) : Normalized L := O.eq ▸ O.owf.normalized
theorem den (O : Opnd s x L) : Den s (.ptr (s.PTR x)) L := O.eq ▸ Den.of_owf O.owf
theorem den_grown (O : Opnd s x L) {s' : St} {w n : Nat} (G : Grown s s' w n) : Den s' (.ptr (s'.PTR x)) L :=
  O.eq ▸ Den.of_grown G O.owf
theorem val_pos (O : Opnd s x L) (h0 : L ≠ []) : 1 ≤ val L := O.norm.pos h0
theorem ne_nil (O : Opnd s x L) (h : (s.h x).size ≠ 0) : L ≠ [] := fun e => by
  have := O.len; rw [e] at this; simp at this; omega

end Opnd

theorem grown_rd_off {s s' : St} {w n : Nat} (G : Grown s s' w n) (x k m : Nat) (hx : OWF (s.h x))
    (hk : k + m ≤ (s.h x).size.natAbs) :
    s'.rd ((s'.PTR x).add k) m = ((view (s.h x)).d.drop k).take m ∧ s'.rdOk ((s'.PTR x).add k) m = true :=
  (Den.of_grown G hx).rd_add k m (by rw [view_d_length hx]; exact hk)

theorem grown_rd {s s' : St} {w n : Nat} (G : Grown s s' w n) (x k : Nat) (hx : OWF (s.h x))
    (hk : k ≤ (s.h x).size.natAbs) :
    s'.rd (s'.PTR x) k = (view (s.h x)).d.take k ∧ s'.rdOk (s'.PTR x) k = true :=
  (Den.of_grown G hx).rd k (by rw [view_d_length hx]; exact hk)

theorem grown_rd_all {s s' : St} {w n : Nat} (G : Grown s s' w n) (x : Nat) (hx : OWF (s.h x)) :
    s'.rd (s'.PTR x) (s.h x).size.natAbs = (view (s.h x)).d ∧ s'.rdOk (s'.PTR x) (s.h x).size.natAbs = true := by
  have := (Den.of_grown G hx).rd_all
  rwa [view_d_length hx] at this

/-! ## `if (ALLOC (res) < n) { _mpz_realloc (res, n); p = PTR (x); }` -/

theorem realloc_if (s : St) (res n : Nat) :
    (if decide (s.ALLOC res < n) = true then _mpz_realloc s res n else s) = MPZ_REALLOC s res n := by
  unfold MPZ_REALLOC
  by_cases h : s.ALLOC res < n
  · simp [h]
  · simp [h]

theorem reptr_eq (s : St) (res n x : Nat) :
    reptr true (decide (s.ALLOC res < n)) (MPZ_REALLOC s res n) x (s.PTR x) = (MPZ_REALLOC s res n).PTR x := by
  unfold reptr MPZ_REALLOC
  by_cases h : s.ALLOC res < n
  · simp [h]
  · simp [h]

/-- since the base state `s1` (usually the one right after `MPZ_REALLOC`) the bottom of w's block has come to hold `R`, in the
    same block; nothing else changed -/
structure Wrote (s1 s2 : St) (w : Nat) (R : List Nat) : Prop where
  ok : s2.ok = true
  bwf : BWF (s2.h w).buf
  lim : (s2.h w).buf.limbs.take R.length = R
  alloc : (s2.h w).buf.alloc = (s1.h w).buf.alloc
  -- no reallocation of `w` since `s1`: the pointer `s1.PTR w` taken then is still live in `s2`
  gen : (s2.h w).gen = (s1.h w).gen
  frame : ∀ x, x ≠ w → s2.h x = s1.h x

theorem Wrote.refines {s1 s2 : St} {w : Nat} {R : List Nat} (W : Wrote s1 s2 w R) (z : Int)
    (hz : (s2.h w).size = z) (hzl : z.natAbs ≤ R.length) :
    Refines s1 s2 w ⟨(s1.h w).buf.alloc, z, R.take z.natAbs⟩ := by
  refine ⟨W.ok, ?_, W.bwf, W.frame⟩
  simp only [view, hz, W.alloc]
  congr 1
  conv_rhs => rw [← W.lim]
  rw [take_take_le _ hzl]

namespace Wrote
variable {s1 s2 : St} {w : Nat} {R : List Nat}

theorem fit (W : Wrote s1 s2 w R) : R.length ≤ (s2.h w).buf.alloc := by
  rw [← W.bwf.1]; exact take_len_le W.lim

theorem limbs (W : Wrote s1 s2 w R) : Limbs R := by
  rw [← W.lim]; exact Limbs_take W.bwf.2 _

theorem base (s1 : St) (w : Nat) (Wd : List Nat) (hok : s1.ok = true) (hb : BWF (s1.h w).buf)
    (hWd : (s1.h w).buf.limbs.take Wd.length = Wd) : Wrote s1 s1 w Wd :=
  ⟨hok, hb, hWd, rfl, rfl, fun _ _ => rfl⟩

theorem refl (s : St) (w k : Nat) (hs : s.ok = true) (hb : BWF (s.h w).buf) (hk : k ≤ (s.h w).buf.alloc) :
    Wrote s s w ((s.h w).buf.limbs.take k) :=
  base s w _ hs hb (by rw [List.length_take, hb.1, Nat.min_eq_left hk])

theorem setSize (W : Wrote s1 s2 w R) (z : Int) : Wrote s1 (s2.setSize w z) w R :=
  ⟨W.ok, by simpa using W.bwf, by simpa using W.lim, by simpa using W.alloc, by simpa using W.gen,
   fun x hx => by rw [setSize_other _ _ _ hx]; exact W.frame x hx⟩

theorem chk (W : Wrote s1 s2 w R) (c : Bool) (hc : c = true) : Wrote s1 (s2.chk c) w R :=
  ⟨by simp [W.ok, hc], W.bwf, W.lim, W.alloc, W.gen, W.frame⟩

theorem take (W : Wrote s1 s2 w R) (k : Nat) : Wrote s1 s2 w (R.take k) :=
  ⟨W.ok, W.bwf, by
    conv_rhs => rw [← W.lim]
    rw [List.take_take, List.length_take], W.alloc, W.gen, W.frame⟩

theorem wr (W : Wrote s1 s2 w R) (k : Nat) (l : List Nat)
    (hl : Limbs l) (hk : k ≤ R.length) (hfit : k + l.length ≤ (s1.h w).buf.alloc) :
    Wrote s1 (s2.wr ((s1.PTR w).add k) l) w (R.take k ++ l ++ R.drop (k + l.length)) := by
  have hfit2 : ((s1.PTR w).add k).off + l.length ≤ (s2.h ((s1.PTR w).add k).id).buf.alloc := by
    simp [W.alloc]; omega
  have hL := wr_limbs s2 ((s1.PTR w).add k) l hfit2
  simp only [add_id, PTR_id, add_off, PTR_off, Nat.zero_add] at hL
  have hRlen := take_len_le W.lim
  obtain ⟨T, hT⟩ : ∃ T, (s2.h w).buf.limbs = R ++ T :=
    ⟨(s2.h w).buf.limbs.drop R.length, by conv_lhs => rw [← List.take_append_drop R.length (s2.h w).buf.limbs, W.lim]⟩
  refine ⟨?_, wr_BWF _ _ hl _ W.bwf, ?_, by simp [W.alloc], by simp [W.gen], ?_⟩
  · rw [wr_ok]; simp [W.ok, St.live, St.PTR, Ptr.add, W.gen, W.alloc]; omega
  · rw [hL, hT, List.take_append_of_le_length hk, List.drop_append]
    rw [← List.append_assoc]
    exact List.take_left' rfl
  · intro x hx
    rw [wr_other _ _ _ (by simpa using hx)]; exact W.frame x hx

theorem append (W : Wrote s1 s2 w R) (l : List Nat) (hl : Limbs l) (hfit : R.length + l.length ≤ (s1.h w).buf.alloc) :
    Wrote s1 (s2.wr ((s1.PTR w).add R.length) l) w (R ++ l) := by
  have W1 := W.wr R.length l hl (Nat.le_refl _) hfit
  rw [List.take_length, List.drop_of_length_le (by omega), List.append_nil] at W1
  exact W1

theorem wr_tail (W : Wrote s1 s2 w R) (k : Nat) (l : List Nat) (hl : Limbs l) (hk : k + l.length = R.length) :
    Wrote s1 (s2.wr ((s1.PTR w).add k) l) w (R.take k ++ l) := by
  have hf := W.fit
  have W1 := W.wr k l hl (by omega) (by rw [← W.alloc]; omega)
  rw [hk, List.drop_length, List.append_nil] at W1
  exact W1

theorem wr_low (W : Wrote s1 s2 w R) (l : List Nat) (hl : Limbs l) (hfit : l.length ≤ (s1.h w).buf.alloc) :
    Wrote s1 (s2.wr (s1.PTR w) l) w (l ++ R.drop l.length) := by
  have W1 := W.wr 0 l hl (Nat.zero_le _) (by omega)
  simpa using W1

theorem wr_over (W : Wrote s1 s2 w R) (l : List Nat) (hl : Limbs l) (hR : R.length ≤ l.length)
    (hfit : l.length ≤ (s1.h w).buf.alloc) : Wrote s1 (s2.wr (s1.PTR w) l) w l := by
  have W1 := W.wr_low l hl hfit
  rwa [List.drop_of_length_le hR, List.append_nil] at W1

theorem store_set (W : Wrote s1 s2 w R) (i v : Nat) (hi : i < R.length) (hv : v < B) :
    Wrote s1 (s2.store (s1.PTR w) i v) w (R.set i v) := by
  have hf := W.fit
  have W1 := W.wr i [v] (limb_singleton hv) (by omega) (by rw [← W.alloc]; simp; omega)
  rw [List.set_eq_take_append_cons_drop, if_pos hi]
  simpa [St.store] using W1

theorem fresh (s : St) (w : Nat) (r : List Nat) (c : Bool) (hs : s.ok = true) (hc : c = true)
    (hb : BWF (s.h w).buf) (hl : Limbs r) (hr : r.length ≤ (s.h w).buf.alloc) :
    Wrote s ((s.chk c).wr (s.PTR w) r) w r :=
  ((refl s w 0 hs hb (Nat.zero_le _)).chk c hc).wr_over r hl (by simp) hr

theorem rd_off (W : Wrote s1 s2 w R) (k m : Nat) (h : k + m ≤ R.length) :
    s2.rd ((s1.PTR w).add k) m = (R.drop k).take m ∧ s2.rdOk ((s1.PTR w).add k) m = true := by
  have hf := W.fit
  refine ⟨?_, ?_⟩
  · simp only [St.rd, Buf.read, add_id, PTR_id, add_off, PTR_off, Nat.zero_add]
    exact drop_take_of_prefix W.lim k m h
  · simp [St.rdOk, St.live, St.PTR, Ptr.add, Buf.read, W.gen]; omega

theorem rd (W : Wrote s1 s2 w R) (n : Nat) (hn : n ≤ R.length) :
    s2.rd (s1.PTR w) n = R.take n ∧ s2.rdOk (s1.PTR w) n = true := by
  have := W.rd_off 0 n (by omega)
  simpa using this

theorem rd_all (W : Wrote s1 s2 w R) : s2.rd (s1.PTR w) R.length = R ∧ s2.rdOk (s1.PTR w) R.length = true := by
  have := W.rd R.length (Nat.le_refl _)
  rwa [List.take_length] at this

theorem load (W : Wrote s1 s2 w R) (i : Nat) (hi : i < R.length) :
    s2.load (s1.PTR w) i = (R.getD i 0, s2) := by
  obtain ⟨e, ok⟩ := W.rd_off i 1 (by omega)
  simp only [St.load, e, ok, headD_drop_take R i hi, chk_true]

theorem rd_src (W : Wrote s1 s2 w R) {x : Nat} {X : List Nat}
    (D : Den s1 (.ptr (s1.PTR x)) X) (hxw : x ≠ w) (k m : Nat) (hm : k + m ≤ X.length) :
    s2.rd ((s1.PTR x).add k) m = (X.drop k).take m ∧ s2.rdOk ((s1.PTR x).add k) m = true := by
  have h := D.rd_add k m hm
  simp only [Src.add, St.rdS, St.rdOkS] at h
  have hf := W.frame x hxw
  refine ⟨?_, ?_⟩
  · rw [← h.1]; simp only [St.rd, add_id, PTR_id, hf]
  · rw [← h.2]; simp only [St.rdOk, St.live, add_id, PTR_id, hf]

theorem normalize (W : Wrote s1 s2 w R) :
    MPN_NORMALIZE s2 (s1.PTR w) R.length = ((Mpir.normalize R).length, s2) := by
  obtain ⟨e, ok⟩ := W.rd_all
  simp only [MPN_NORMALIZE, e, ok, chk_true]

theorem fin (W : Wrote s1 s2 w R) (z : Int) (hz : z.natAbs ≤ R.length) :
    Refines s1 (s2.setSize w z) w ⟨(s1.h w).buf.alloc, z, R.take z.natAbs⟩ :=
  (W.setSize z).refines z (by simp) hz

theorem fin_take (W : Wrote s1 s2 w R) (neg : Bool) (n : Nat) (hn : n ≤ R.length) :
    Refines s1 (s2.setSize w (sgn neg n)) w ⟨(s1.h w).buf.alloc, sgn neg n, R.take n⟩ := by
  have R1 := W.fin (sgn neg n) (by rw [natAbs_sgn]; exact hn)
  rwa [natAbs_sgn] at R1

theorem fin_all (W : Wrote s1 s2 w R) (neg : Bool) :
    Refines s1 (s2.setSize w (sgn neg R.length)) w ⟨(s1.h w).buf.alloc, sgn neg R.length, R⟩ := by
  have R1 := W.fin_take neg R.length (Nat.le_refl _)
  rwa [List.take_length] at R1

theorem fin_norm (W : Wrote s1 s2 w R) (neg : Bool) :
    Refines s1 ((MPN_NORMALIZE s2 (s1.PTR w) R.length).2.setSize w (sgn neg (MPN_NORMALIZE s2 (s1.PTR w) R.length).1)) w
      ⟨(s1.h w).buf.alloc, sgn neg (Mpir.normalize R).length, Mpir.normalize R⟩ := by
  rw [W.normalize]
  have R1 := W.fin_take neg (Mpir.normalize R).length (normalize_length_le R)
  rwa [take_normalize_length] at R1

end Wrote

/-- an operand that is also the destination, before the first store -/
theorem Opnd.wrote {s : St} {x : Nat} {L : List Nat} (O : Opnd s x L) (hs : s.ok = true) : Wrote s s x L :=
  O.eq ▸ Wrote.refl s x _ hs O.owf.1 (view_fit O.owf)

/-- `MPZ_REALLOC (w, n)`, then a store of at most n limbs from the bottom of the block -/
theorem Grown.fresh {s s1 : St} {w n : Nat} (G : Grown s s1 w n) (hs : s.ok = true) (hw : OWF (s.h w))
    {L : List Nat} (c : Bool) (hc : c = true) (hL : Limbs L) (hn : L.length ≤ n) :
    Wrote s1 ((s1.chk c).wr (s1.PTR w) L) w L :=
  Wrote.fresh s1 w L c (G.ok.trans hs) hc (G.bwf w hw.1) hL (Nat.le_trans hn G.room)

/-- … and `SIZ (w) = ±|L|` -/
theorem Grown.write_all {s s1 : St} {w n : Nat} (G : Grown s s1 w n) (hs : s.ok = true) (hw : OWF (s.h w))
    {L : List Nat} (c : Bool) (hc : c = true) (hL : Limbs L) (hn : L.length ≤ n) (neg : Bool) :
    Refines s (((s1.chk c).wr (s1.PTR w) L).setSize w (Mpz.sgn neg L.length)) w
      ⟨(Mpz.grow (view (s.h w)) n).alloc, Mpz.sgn neg L.length, L⟩ :=
  G.refines ((G.fresh hs hw c hc hL hn).fin_all neg)

/-- the block of x is the same block (no `_mpz_realloc`) of the same length in s' as in s: what a callee must guarantee for
    a variable in TMP space -/
def SameBlock (s s' : St) (x : Nat) : Prop := (s'.h x).gen = (s.h x).gen ∧ (s'.h x).buf.alloc = (s.h x).buf.alloc

theorem SameBlock.trans {s s' s'' : St} {x : Nat} (h : SameBlock s s' x) (h' : SameBlock s' s'' x) : SameBlock s s'' x :=
  ⟨h'.1.trans h.1, h'.2.trans h.2⟩

/-! ## a run of calls

  Each step (a callee, `mpz_init`, `MPZ_TMP_INIT`, a size store) replaces one object.  A question about any state of the run is a
  lookup in the list of objects stored, and what is known of an object stored needs no transport from state to state. -/

/-- the heap `h` overridden by the objects `ws`, newest first -/
def over (h : Heap) : List (Nat × Obj) → Heap
  | [], x => h x
  | (w, o) :: ws, x => if x = w then o else over h ws x

theorem over_cons_eq (h : Heap) (w : Nat) (o : Obj) (ws : List (Nat × Obj)) : over h ((w, o) :: ws) w = o := if_pos rfl

theorem over_cons_ne (h : Heap) {x w : Nat} (o : Obj) (ws : List (Nat × Obj)) (hne : x ≠ w) :
    over h ((w, o) :: ws) x = over h ws x := if_neg hne

theorem over_owf {h : Heap} {ws : List (Nat × Obj)} (hws : ∀ p ∈ ws, OWF p.2) {x : Nat} (hx : OWF (h x)) :
    OWF (over h ws x) := by
  induction ws with
  | nil => exact hx
  | cons p ws ih =>
    unfold over; split
    · exact hws p (List.mem_cons_self ..)
    · exact ih fun q hq => hws q (List.mem_cons_of_mem _ hq)

/-- `s'` is `s` after a run of steps that stored the well-formed objects `ws` (newest first) and did nothing else -/
structure RanH (s s' : St) (ws : List (Nat × Obj)) : Prop where
  ok : s'.ok = true
  heap : ∀ x, s'.h x = over s.h ws x
  wf : ∀ p ∈ ws, OWF p.2

namespace RanH
variable {s s1 s2 : St} {ws : List (Nat × Obj)}

theorem refl (s : St) (hs : s.ok = true) : RanH s s [] := ⟨hs, fun _ => rfl, fun _ h => nomatch h⟩

theorem owf (R : RanH s s1 ws) (x : Nat) (hx : OWF (s.h x)) : OWF (s1.h x) := by
  rw [R.heap]; exact over_owf R.wf hx

theorem step {w : Nat} (R : RanH s s1 ws) (hok : s2.ok = true) (hw : OWF (s2.h w))
    (hfr : ∀ x, x ≠ w → s2.h x = s1.h x) : RanH s s2 ((w, s2.h w) :: ws) :=
  ⟨hok, fun x => by
    unfold over; split
    · next h => rw [h]
    · next h => rw [hfr x h, R.heap], fun p hp => by
    rcases List.mem_cons.mp hp with rfl | hp
    · exact hw
    · exact R.wf p hp⟩

end RanH

end Mpir.AllocSafe
