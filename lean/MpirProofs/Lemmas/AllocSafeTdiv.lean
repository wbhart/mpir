/- mpz_tdiv_q, mpz_tdiv_r, then mpz_tdiv_qr on the size-aware models (Mpir/Model/AllocSafeMpz4.lean). -/

import MpirProofs.Lemmas.DivZ
import MpirProofs.Lemmas.AllocSafeMulC

/- mpz/tdiv_q.c, tdiv_r.c: `MPZ_REALLOC (quot, ql)` resp. `MPZ_REALLOC (rem, dl)` is exactly what mpn_tdiv_q / mpn_tdiv_qr write
   (sufficient; that one limb less is too few is shown in Props/C04_allocsafe4.lean). -/

section
namespace Mpir.AllocSafe
open Mpir
open Mpir.Mpz (sgn natAbs_sgn Norm WF toInt mk_spec grow_alloc WF_iff)

/-- value-level result of mpz_tdiv_q with the allocation the C leaves -/
def Spec.tdiv_q (w n d : Mpz.Mpz) : Mpz.Mpz :=
  let nl := n.size.natAbs
  let dl := d.size.natAbs
  if nl + 1 ≤ dl then { w with size := 0, d := [] }
  else
    let ql := nl - dl + 1
    let q := toLimbs ql (val n.d / val d.d)
    let ql' := ql - (if q.getD (ql - 1) 0 == 0 then 1 else 0)
    ⟨(Mpz.grow w ql).alloc, sgn (Mpz.diffSign n.size d.size) ql', q.take ql'⟩

/-- value-level result of mpz_tdiv_r (`same` = rem and num are the same variable) -/
def Spec.tdiv_r (same : Bool) (w n d : Mpz.Mpz) : Mpz.Mpz :=
  let nl := n.size.natAbs
  let dl := d.size.natAbs
  let a := (Mpz.grow w dl).alloc
  if nl + 1 ≤ dl then (if same then ⟨a, w.size, w.d⟩ else ⟨a, n.size, n.d⟩)
  else
    let r := toLimbs dl (val n.d % val d.d)
    ⟨a, sgn (n.size < 0) (Mpir.normalize r).length, Mpir.normalize r⟩

theorem copyIfSame_spec (same : Bool) (s : St) (p : Ptr) (L : List Nat) (D : Den s (.ptr p) L) :
    (copyIfSame same s p L.length).2 = s ∧ ∀ s' : St, (same = true ∨ s' = s) → Den s' (copyIfSame same s p L.length).1 L := by
  unfold copyIfSame
  cases same
  · simp only [Bool.false_eq_true, if_false]
    refine ⟨by trivial, ?_⟩
    intro s' h
    rcases h with h | h
    · cases h
    · rw [h]; exact D
  · simp only [if_true]
    obtain ⟨c1, c2⟩ := tmp_copy_spec s p L D
    exact ⟨c1, fun s' _ => c2 s'⟩


theorem tdiv_q_refines (s : St) (q n d : Nat) (hs : s.ok = true)
    (hq : OWF (s.h q)) (hn : OWF (s.h n)) (hd : OWF (s.h d)) (hd0 : (s.h d).size ≠ 0) :
    ∃ s', tdiv_q 0 s q n d = some s' ∧
      Refines s s' q (Spec.tdiv_q (view (s.h q)) (view (s.h n)) (view (s.h d))) := by
  unfold tdiv_q Spec.tdiv_q
  rw [show s.SIZ n = (s.h n).size from rfl, show s.SIZ d = (s.h d).size from rfl]
  have e1 : (view (s.h n)).size = (s.h n).size := rfl
  have e2 : (view (s.h d)).size = (s.h d).size := rfl
  rw [e1, e2]
  have hNl := view_d_length hn
  have hDl := view_d_length hd
  have hdl0 : ((s.h d).size.natAbs == 0) = false := by simpa using hd0
  simp only [hdl0, Bool.false_eq_true, if_false]
  by_cases hle : (s.h n).size.natAbs + 1 ≤ (s.h d).size.natAbs
  · simp only [hle, if_true]
    exact ⟨_, rfl, by simpa using hs, by simp [view], by simpa using hq.1, fun x hx => setSize_other _ _ _ hx⟩
  · simp only [hle, if_false]
    refine ⟨_, rfl, ?_⟩
    rw [← hNl, ← hDl]
    have G := MPZ_REALLOC_grown s q ((view (s.h n)).d.length - (view (s.h d)).d.length + 1 - 0) hq
    have Dn := Den.of_grown G hn
    have Dd := Den.of_grown G hd
    have halloc : (Mpz.grow (view (s.h q)) ((view (s.h n)).d.length - (view (s.h d)).d.length + 1)).alloc =
        ((MPZ_REALLOC s q ((view (s.h n)).d.length - (view (s.h d)).d.length + 1 - 0)).h q).buf.alloc := by
      rw [G.alloc, Nat.sub_zero]
    rw [halloc]
    refine Refines.of_grown G ?_
    have hle' : ¬ (view (s.h n)).d.length + 1 ≤ (view (s.h d)).d.length := by rw [hNl, hDl]; exact hle
    generalize MPZ_REALLOC s q ((view (s.h n)).d.length - (view (s.h d)).d.length + 1 - 0) = s1 at *
    obtain ⟨cd1, cd2⟩ := copyIfSame_spec (d == q) s1 (s1.PTR d) (view (s.h d)).d Dd
    rw [cd1]
    obtain ⟨cn1, cn2⟩ := copyIfSame_spec (n == q) s1 (s1.PTR n) (view (s.h n)).d Dn
    rw [cn1]
    have DD := cd2 s1 (Or.inr rfl)
    have DN := cn2 s1 (Or.inr rfl)
    generalize (copyIfSame (d == q) s1 (s1.PTR d) (view (s.h d)).d.length).1 = dS at *
    generalize (copyIfSame (n == q) s1 (s1.PTR n) (view (s.h n)).d.length).1 = nS at *
    obtain ⟨en, okn⟩ := DN.rd (view (s.h n)).d.length (Nat.le_refl _)
    obtain ⟨ed, okd⟩ := DD.rd (view (s.h d)).d.length (Nat.le_refl _)
    rw [List.take_length] at en ed
    simp only [mpn_tdiv_q_S, en, ed, okn, okd, Bool.and_self]
    have W := G.fresh hs hq (L := toLimbs ((view (s.h n)).d.length - (view (s.h d)).d.length + 1)
      (val (view (s.h n)).d / val (view (s.h d)).d)) true rfl (Limbs_toLimbs _ _) (by rw [toLimbs_length, Nat.sub_zero])
    rw [chk_true] at W ⊢
    rw [W.load _ (by rw [toLimbs_length]; exact Nat.sub_lt (Nat.succ_pos _) Nat.one_pos)]
    exact W.fin_take _ _ (by rw [toLimbs_length]; exact Nat.sub_le _ _)

theorem tdiv_r_refines (s : St) (r n d : Nat) (hs : s.ok = true)
    (hr : OWF (s.h r)) (hn : OWF (s.h n)) (hd : OWF (s.h d)) (hd0 : (s.h d).size ≠ 0) :
    ∃ s', tdiv_r 0 s r n d = some s' ∧
      Refines s s' r (Spec.tdiv_r (n == r) (view (s.h r)) (view (s.h n)) (view (s.h d))) := by
  unfold tdiv_r Spec.tdiv_r
  rw [show s.SIZ n = (s.h n).size from rfl, show s.SIZ d = (s.h d).size from rfl]
  have e1 : (view (s.h n)).size = (s.h n).size := rfl
  have e2 : (view (s.h d)).size = (s.h d).size := rfl
  rw [e1, e2]
  have hNl := view_d_length hn
  have hDl := view_d_length hd
  have hdl0 : ((s.h d).size.natAbs == 0) = false := by simpa using hd0
  simp only [hdl0, Bool.false_eq_true, if_false, Nat.sub_zero]
  have G := MPZ_REALLOC_grown s r (s.h d).size.natAbs hr
  have Dn := Den.of_grown G hn
  have Dd := Den.of_grown G hd
  have halloc : (Mpz.grow (view (s.h r)) (s.h d).size.natAbs).alloc =
    ((MPZ_REALLOC s r (s.h d).size.natAbs).h r).buf.alloc := G.alloc.symm
  rw [halloc]
  have hok1 : (MPZ_REALLOC s r (s.h d).size.natAbs).ok = true := by rw [G.ok]; exact hs
  have hbr := G.bwf r hr.1
  have hroom := G.room
  by_cases hle : (s.h n).size.natAbs + 1 ≤ (s.h d).size.natAbs
  · simp only [hle, if_true]
    by_cases hnr : n = r
    · have e : (n != r) = false := by simp [hnr]
      have e' : (n == r) = true := by simp [hnr]
      simp only [e, e', Bool.false_eq_true, if_false, if_true]
      refine ⟨_, rfl, hok1, ?_, hbr, G.other⟩
      have hfit := view_fit hr
      simp only [view, G.size r]
      rw [G.take r _ hr.1 hfit]
    · have e : (n != r) = true := by simp [hnr]
      have e' : (n == r) = false := by simp [hnr]
      simp only [e, e', Bool.false_eq_true, if_false, if_true]
      refine ⟨_, rfl, Refines.of_grown G ?_⟩
      obtain ⟨en, okn⟩ := Dn.rd (view (s.h n)).d.length (Nat.le_refl _)
      simp only [St.rdS, St.rdOkS] at en okn
      rw [List.take_length, hNl] at en
      rw [hNl] at okn
      simp only [MPN_COPY, en, okn]
      have T := (Wrote.fresh (MPZ_REALLOC s r (s.h d).size.natAbs) r (view (s.h n)).d true hok1 rfl hbr
        (view_limbs hn) (by rw [hNl]; omega)).fin (s.h n).size (by rw [hNl])
      rw [List.take_of_length_le (by rw [hNl])] at T
      exact T
  · simp only [hle, if_false]
    refine ⟨_, rfl, Refines.of_grown G ?_⟩
    have hle' : ¬ (view (s.h n)).d.length + 1 ≤ (view (s.h d)).d.length := by rw [hNl, hDl]; exact hle
    rw [← hNl]
    rw [← hDl] at hroom Dn Dd hbr hok1 G ⊢
    generalize MPZ_REALLOC s r (view (s.h d)).d.length = s1 at *
    obtain ⟨cd1, cd2⟩ := copyIfSame_spec (d == r) s1 (s1.PTR d) (view (s.h d)).d Dd
    rw [cd1]
    obtain ⟨cn1, cn2⟩ := copyIfSame_spec (n == r) s1 (s1.PTR n) (view (s.h n)).d Dn
    rw [cn1]
    have DD := cd2 s1 (Or.inr rfl)
    have DN := cn2 s1 (Or.inr rfl)
    generalize (copyIfSame (d == r) s1 (s1.PTR d) (view (s.h d)).d.length).1 = dS at *
    generalize (copyIfSame (n == r) s1 (s1.PTR n) (view (s.h n)).d.length).1 = nS at *
    obtain ⟨en, okn⟩ := DN.rd (view (s.h n)).d.length (Nat.le_refl _)
    obtain ⟨ed, okd⟩ := DD.rd (view (s.h d)).d.length (Nat.le_refl _)
    rw [List.take_length] at en ed
    simp only [mpn_tdiv_qr_tmpq, en, ed, okn, okd, Bool.and_self, Buf.write, Buf.new, toLimbs_length, Nat.zero_add,
      Nat.le_refl, if_true, List.length_replicate]
    have T := (Wrote.fresh s1 r (toLimbs (view (s.h d)).d.length (val (view (s.h n)).d % val (view (s.h d)).d))
      true hok1 rfl hbr (Limbs_toLimbs _ _) (by rw [toLimbs_length]; exact hroom)).fin_norm (decide ((s.h n).size < 0))
    simp only [toLimbs_length] at T
    exact T

theorem sval_tdiv2 (ns ds : Int) (a b : Nat) :
    (if (Mpz.diffSign ns ds) = true then -((a / b : Nat) : Int) else ((a / b : Nat) : Int)) =
      Int.tdiv (if ns < 0 then -(a : Int) else (a : Int)) (if ds < 0 then -(b : Int) else (b : Int)) := by
  unfold Mpz.diffSign
  by_cases h1 : ns < 0 <;> by_cases h2 : ds < 0 <;> simp [h1, h2, Int.neg_tdiv, Int.tdiv_neg] <;> rfl

theorem sval_tmod2 (ns ds : Int) (a b : Nat) :
    (if ns < 0 then -((a % b : Nat) : Int) else ((a % b : Nat) : Int)) =
      Int.tmod (if ns < 0 then -(a : Int) else (a : Int)) (if ds < 0 then -(b : Int) else (b : Int)) := by
  by_cases h1 : ns < 0 <;> by_cases h2 : ds < 0 <;> simp [h1, h2, Int.neg_tmod, Int.tmod_neg] <;> rfl

/-- fewer limbs, smaller magnitude: the early exit `ql <= 0` of tdiv_q.c:45, tdiv_r.c:47 -/
theorem val_lt_of_shorter {a b : List Nat} (ha : Norm a) (hb : Norm b) (h : a.length + 1 ≤ b.length) : val a < val b :=
  Nat.lt_of_lt_of_le ha.upper (Nat.le_trans (Nat.pow_le_pow_right B_pos (by omega))
    (hb.lower (by intro e; rw [e] at h; simp at h)))

theorem Spec.tdiv_q_spec (w n d : Mpz.Mpz) (hw : 1 ≤ w.alloc) (hn : WF n) (hd : WF d) (hd0 : d.size ≠ 0) :
    WF (Spec.tdiv_q w n d) ∧ toInt (Spec.tdiv_q w n d) = Int.tdiv (toInt n) (toInt d) := by
  obtain ⟨_, _, hnl, hnn⟩ := (WF_iff n).mp hn
  obtain ⟨_, _, hdl, hdn⟩ := (WF_iff d).mp hd
  have hdne : d.d ≠ [] := by intro h; rw [h] at hdl; simp at hdl; omega
  have hdlow := hdn.lower hdne
  have hdpos := hdn.pos hdne
  have hnup := hnn.upper
  rw [Mpz.toInt_eq n, Mpz.toInt_eq d]
  unfold Mpz.sval
  rw [← sval_tdiv2]
  unfold Spec.tdiv_q
  dsimp only
  by_cases hle : n.size.natAbs + 1 ≤ d.size.natAbs
  · rw [if_pos hle]
    refine ⟨(Mpz.WF_zero w hw).1, ?_⟩
    have hlt : val n.d < val d.d := val_lt_of_shorter hnn hdn (by omega)
    rw [Nat.div_eq_of_lt hlt]; simp [toInt]
  · rw [if_neg hle]
    obtain ⟨ga1, ga2⟩ := grow_alloc w (n.size.natAbs - d.size.natAbs + 1)
    have hnne : n.d ≠ [] := by intro h; rw [h] at hnl; simp at hnl; omega
    have hnlow := hnn.lower hnne
    have hdup := hdn.upper
    -- the quotient has ql or ql - 1 limbs
    obtain ⟨hQlt, hQge⟩ := div_size_bounds (nl := n.size.natAbs) (dl := d.size.natAbs) (hnl ▸ hnlow) (hnl ▸ hnup)
      (hdl ▸ hdlow) (hdl ▸ hdup) (by omega) (by omega)
    have qv := val_toLimbs (n.size.natAbs - d.size.natAbs + 1) (val n.d / val d.d)
    have ql := toLimbs_length (n.size.natAbs - d.size.natAbs + 1) (val n.d / val d.d)
    have qL := Limbs_toLimbs (n.size.natAbs - d.size.natAbs + 1) (val n.d / val d.d)
    rw [Nat.mod_eq_of_lt hQlt] at qv
    obtain ⟨tv, tl, tn⟩ := Mpz.strip_top _ (n.size.natAbs - d.size.natAbs + 1) ql qL (by
      by_cases h2 : n.size.natAbs - d.size.natAbs + 1 ≤ 1
      · exact Or.inl h2
      · exact Or.inr (by rw [qv]; exact hQge (by omega)))
    rw [Mpz.topLimb_eq_getD _ _ ql (Nat.succ_pos _)] at tv tl tn
    obtain ⟨wf, ti⟩ := mk_spec (Mpz.grow w (n.size.natAbs - d.size.natAbs + 1)).alloc _ (Mpz.diffSign n.size d.size) _ tl tn
      (by split_ifs <;> omega) (by omega)
    refine ⟨wf, ?_⟩
    rw [ti, tv, qv]

theorem Spec.tdiv_r_spec (same : Bool) (w n d : Mpz.Mpz) (hw : WF w) (hn : WF n) (hd : WF d) (hd0 : d.size ≠ 0)
    (hsame : same = true → w = n) :
    WF (Spec.tdiv_r same w n d) ∧ toInt (Spec.tdiv_r same w n d) = Int.tmod (toInt n) (toInt d) := by
  obtain ⟨hw1, hwfit, hwl, hwn⟩ := (WF_iff w).mp hw
  obtain ⟨_, hnfit, hnl, hnn⟩ := (WF_iff n).mp hn
  obtain ⟨_, _, hdl, hdn⟩ := (WF_iff d).mp hd
  have hdne : d.d ≠ [] := by intro h; rw [h] at hdl; simp at hdl; omega
  have hdlow := hdn.lower hdne
  have hdpos := hdn.pos hdne
  have hnup := hnn.upper
  obtain ⟨ga1, ga2⟩ := grow_alloc w d.size.natAbs
  unfold Spec.tdiv_r
  dsimp only
  by_cases hle : n.size.natAbs + 1 ≤ d.size.natAbs
  · rw [if_pos hle]
    have hlt : val n.d < val d.d := val_lt_of_shorter hnn hdn (by omega)
    have hval : toInt n = Int.tmod (toInt n) (toInt d) := by
      rw [Mpz.toInt_eq n, Mpz.toInt_eq d]; unfold Mpz.sval
      rw [← sval_tmod2, Nat.mod_eq_of_lt hlt]
    cases same
    · simp only [Bool.false_eq_true, if_false]
      refine ⟨(WF_iff _).mpr ⟨by show 1 ≤ (Mpz.grow w d.size.natAbs).alloc; omega,
        by show n.size.natAbs ≤ (Mpz.grow w d.size.natAbs).alloc; omega, hnl, hnn⟩, ?_⟩
      rw [← hval]; rfl
    · simp only [if_true]
      have hwn' := hsame rfl
      subst hwn'
      refine ⟨(WF_iff _).mpr ⟨by show 1 ≤ (Mpz.grow w d.size.natAbs).alloc; omega,
        by show w.size.natAbs ≤ (Mpz.grow w d.size.natAbs).alloc; omega, hwl, hwn⟩, ?_⟩
      rw [← hval]; rfl
  · rw [if_neg hle]
    have hRlt : val n.d % val d.d < B ^ d.size.natAbs := by
      have := Nat.mod_lt (val n.d) hdpos
      have := hdn.upper
      rw [hdl] at this
      omega
    have rv := val_toLimbs d.size.natAbs (val n.d % val d.d)
    have rl := toLimbs_length d.size.natAbs (val n.d % val d.d)
    have rL := Limbs_toLimbs d.size.natAbs (val n.d % val d.d)
    rw [Nat.mod_eq_of_lt hRlt] at rv
    have hNorm := Mpz.Norm_normalize rL
    have hlen := normalize_length_le (toLimbs d.size.natAbs (val n.d % val d.d))
    obtain ⟨wf, ti⟩ := mk_spec (Mpz.grow w d.size.natAbs).alloc _ (decide (n.size < 0)) _ rfl hNorm (by omega) (by omega)
    refine ⟨wf, ?_⟩
    rw [ti, val_normalize, rv, Mpz.toInt_eq n, Mpz.toInt_eq d]
    unfold Mpz.sval
    rw [← sval_tmod2]
    simp

end Mpir.AllocSafe
end

/- mpz/tdiv_qr.c: two destinations (quot ≠ rem), `MPZ_REALLOC (rem, dl)` then `MPZ_REALLOC (quot, ql)`, operands copied to
   temporary space when they are one of the outputs; mpn_tdiv_qr stores exactly ql and dl limbs. -/

section
namespace Mpir.AllocSafe
open Mpir
open Mpir.Mpz (sgn natAbs_sgn Norm WF toInt WF_iff)

/-- the shape of an `_alloc_safe` statement for a function with two destinations -/
structure Safe2 (s s' : St) (q r : Nat) (mq mr : Mpz.Mpz) : Prop where
  ok : s'.ok = true
  bq : BWF (s'.h q).buf
  br : BWF (s'.h r).buf
  vq : view (s'.h q) = mq
  vr : view (s'.h r) = mr
  frame : ∀ x, x ≠ q → x ≠ r → s'.h x = s.h x

/-- two destinations are two one-destination steps -/
theorem Refines.then {s s3 s4 : St} {q r : Nat} {mq mr : Mpz.Mpz} (hqr : q ≠ r)
    (Rq : Refines s s3 q mq) (Rr : Refines s3 s4 r mr) : Safe2 s s4 q r mq mr :=
  ⟨Rr.ok, by rw [Rr.frame q hqr]; exact Rq.bwf, Rr.bwf, by rw [Rr.frame q hqr]; exact Rq.view, Rr.view,
    fun x h1 h2 => (Rr.frame x h2).trans (Rq.frame x h1)⟩

/-- a size store to x and a limb store into another variable commute -/
theorem wr_setSize_comm (s : St) (p : Ptr) (l : List Nat) (x : Nat) (z : Int) (h : p.id ≠ x) :
    (s.wr p l).setSize x z = (s.setSize x z).wr p l := by
  have hx : x ≠ p.id := fun e => h e.symm
  simp only [St.wr, St.setSize, St.live, upd, if_neg h, if_neg hx]
  congr 1
  funext j
  by_cases h1 : j = x
  · subst h1; simp [upd, hx]
  · by_cases h2 : j = p.id
    · subst h2; simp [upd, h]
    · simp [upd, h1, h2]

/-- the two-destination `Refines.safe_val` -/
theorem Safe2.safe_val {s s' : St} {q r : Nat} {mq mr : Mpz.Mpz} {zq zr : Int} (S : Safe2 s s' q r mq mr)
    (hq : Mpz.WF mq ∧ Mpz.toInt mq = zq) (hr : Mpz.WF mr ∧ Mpz.toInt mr = zr) :
    s'.ok = true ∧ OWF (s'.h q) ∧ OWF (s'.h r) ∧ (∀ x, x ≠ q → x ≠ r → s'.h x = s.h x) ∧
      view (s'.h q) = mq ∧ view (s'.h r) = mr ∧ Mpz.toInt (view (s'.h q)) = zq ∧ Mpz.toInt (view (s'.h r)) = zr :=
  ⟨S.ok, ⟨S.bq, by rw [S.vq]; exact hq.1⟩, ⟨S.br, by rw [S.vr]; exact hr.1⟩, S.frame, S.vq, S.vr,
    by rw [S.vq]; exact hq.2, by rw [S.vr]; exact hr.2⟩

theorem Grown.owf {s s' : St} {w n : Nat} (G : Grown s s' w n) {x : Nat} (hx : OWF (s.h x)) :
    OWF (s'.h x) ∧ (view (s'.h x)).d = (view (s.h x)).d ∧ (s'.h x).size = (s.h x).size := by
  have hsz := G.size x
  have hd : (view (s'.h x)).d = (view (s.h x)).d := by
    simp only [view, hsz]; exact G.take x _ hx.1 (view_fit hx)
  refine ⟨⟨G.bwf x hx.1, ?_⟩, hd, hsz⟩
  obtain ⟨h1, h2, h3, h4⟩ := (WF_iff _).mp hx.2
  have hm := G.mono x
  refine (WF_iff _).mpr ⟨?_, ?_, ?_, ?_⟩
  · show 1 ≤ (s'.h x).buf.alloc
    have : 1 ≤ (s.h x).buf.alloc := h1
    omega
  · show (s'.h x).size.natAbs ≤ (s'.h x).buf.alloc
    have : (s.h x).size.natAbs ≤ (s.h x).buf.alloc := h2
    rw [hsz]; omega
  · rw [hd]; show _ = (s'.h x).size.natAbs; rw [hsz]; exact h3
  · rw [hd]; exact h4

theorem view_setSize (s : St) (x : Nat) (z : Int) :
    view ((s.setSize x z).h x) = ⟨(s.h x).buf.alloc, z, (s.h x).buf.limbs.take z.natAbs⟩ := by simp [view]

theorem rd_of_h_eq {s s' : St} {p : Ptr} (h : s'.h p.id = s.h p.id) (n : Nat) :
    s'.rd p n = s.rd p n ∧ s'.rdOk p n = s.rdOk p n := by
  simp [St.rd, St.rdOk, St.live, h]

theorem tdiv_qr_refines (s : St) (q r n d : Nat) (hs : s.ok = true)
    (hq : OWF (s.h q)) (hr : OWF (s.h r)) (hn : OWF (s.h n)) (hd : OWF (s.h d)) (hd0 : (s.h d).size ≠ 0) (hqr : q ≠ r) :
    ∃ s', tdiv_qr 0 0 s q r n d = some s' ∧
      Safe2 s s' q r (Spec.tdiv_q (view (s.h q)) (view (s.h n)) (view (s.h d)))
        (Spec.tdiv_r (n == r) (view (s.h r)) (view (s.h n)) (view (s.h d))) := by
  unfold tdiv_qr Spec.tdiv_q Spec.tdiv_r
  rw [show s.SIZ n = (s.h n).size from rfl, show s.SIZ d = (s.h d).size from rfl]
  have e1 : (view (s.h n)).size = (s.h n).size := rfl
  have e2 : (view (s.h d)).size = (s.h d).size := rfl
  rw [e1, e2]
  have hNl := view_d_length hn
  have hDl := view_d_length hd
  have hdl0 : ((s.h d).size.natAbs == 0) = false := by simpa using hd0
  simp only [hdl0, Bool.false_eq_true, if_false]
  have hrq : r ≠ q := fun h => hqr h.symm
  by_cases hle : (s.h n).size.natAbs + 1 ≤ (s.h d).size.natAbs
  · -- ql <= 0: rem = num (copied unless it is the same variable), quot = 0
    simp only [hle, if_true, Nat.sub_zero]
    have G1 := MPZ_REALLOC_grown s r (s.h d).size.natAbs hr
    have halloc1 : (Mpz.grow (view (s.h r)) (s.h d).size.natAbs).alloc =
      ((MPZ_REALLOC s r (s.h d).size.natAbs).h r).buf.alloc := G1.alloc.symm
    have hok1 : (MPZ_REALLOC s r (s.h d).size.natAbs).ok = true := by rw [G1.ok]; exact hs
    refine ⟨_, rfl, ?_⟩
    rw [halloc1]
    have hq1 : (MPZ_REALLOC s r (s.h d).size.natAbs).h q = s.h q := G1.other q hqr
    by_cases hnr : n = r
    · have e : (n != r) = false := by simp [hnr]
      have e' : (n == r) = true := by simp [hnr]
      simp only [e, e', Bool.false_eq_true, if_false, if_true]
      refine ⟨by simpa using hok1, ?_, ?_, ?_, ?_, ?_⟩
      · simp only [setSize_buf, hq1]; exact hq.1
      · simp only [setSize_buf]; exact G1.bwf r hr.1
      · rw [view_setSize, hq1]; rfl
      · rw [setSize_other _ _ _ hrq]
        have hfit := view_fit hr
        simp only [view, G1.size r]
        rw [G1.take r _ hr.1 hfit]
      · intro x hxq hxr; rw [setSize_other _ _ _ hxq]; exact G1.other x hxr
    · have e : (n != r) = true := by simp [hnr]
      have e' : (n == r) = false := by simp [hnr]
      simp only [e, e', Bool.false_eq_true, if_false, if_true]
      have Dn := Den.of_grown G1 hn
      obtain ⟨en, okn⟩ := Dn.rd (view (s.h n)).d.length (Nat.le_refl _)
      simp only [St.rdS, St.rdOkS] at en okn
      rw [List.take_length, hNl] at en
      rw [hNl] at okn
      simp only [MPN_COPY, en, okn]
      have T := (Wrote.fresh (MPZ_REALLOC s r (s.h d).size.natAbs) r (view (s.h n)).d true hok1 rfl (G1.bwf r hr.1)
        (view_limbs hn) (by rw [hNl]; have := G1.room; omega)).fin (s.h n).size (by rw [hNl])
      rw [List.take_of_length_le (by rw [hNl])] at T
      have hq2 : ((((MPZ_REALLOC s r (s.h d).size.natAbs).chk true).wr ((MPZ_REALLOC s r (s.h d).size.natAbs).PTR r)
          (view (s.h n)).d).setSize r (s.h n).size).h q = s.h q := by
        rw [T.frame q hqr]; exact hq1
      refine ⟨by simpa using T.ok, ?_, ?_, ?_, ?_, ?_⟩
      · simp only [setSize_buf] at hq2 ⊢
        have := congrArg Obj.buf hq2
        simp only [setSize_buf] at this
        rw [this]; exact hq.1
      · have := T.bwf; simpa using this
      · rw [view_setSize, hq2]; rfl
      · rw [setSize_other _ _ _ hrq]; exact T.view
      · intro x hxq hxr; rw [setSize_other _ _ _ hxq, T.frame x hxr]; exact G1.other x hxr
  · -- ql > 0
    simp only [hle, if_false]
    refine ⟨_, rfl, ?_⟩
    have G1 := MPZ_REALLOC_grown s r ((s.h d).size.natAbs - 0) hr
    have halloc1 : (Mpz.grow (view (s.h r)) (s.h d).size.natAbs).alloc =
        ((MPZ_REALLOC s r ((s.h d).size.natAbs - 0)).h r).buf.alloc := by rw [G1.alloc, Nat.sub_zero]
    rw [halloc1]
    have hok1 : (MPZ_REALLOC s r ((s.h d).size.natAbs - 0)).ok = true := by rw [G1.ok]; exact hs
    have hbr1 := G1.bwf r hr.1
    have hroom1 : (s.h d).size.natAbs ≤ ((MPZ_REALLOC s r ((s.h d).size.natAbs - 0)).h r).buf.alloc := by
      have := G1.room; omega
    obtain ⟨O1q, _, _⟩ := G1.owf hq
    obtain ⟨O1n, d1n, _⟩ := G1.owf hn
    obtain ⟨O1d, d1d, _⟩ := G1.owf hd
    have hq1 : (MPZ_REALLOC s r ((s.h d).size.natAbs - 0)).h q = s.h q := G1.other q hqr
    have hfr1 := G1.other
    generalize MPZ_REALLOC s r ((s.h d).size.natAbs - 0) = s1 at *
    have G2 := MPZ_REALLOC_grown s1 q ((s.h n).size.natAbs - (s.h d).size.natAbs + 1 - 0) O1q
    have halloc2 : (Mpz.grow (view (s.h q)) ((s.h n).size.natAbs - (s.h d).size.natAbs + 1)).alloc =
        ((MPZ_REALLOC s1 q ((s.h n).size.natAbs - (s.h d).size.natAbs + 1 - 0)).h q).buf.alloc := by
      rw [G2.alloc, Nat.sub_zero, hq1]
    rw [halloc2]
    have hok2 : (MPZ_REALLOC s1 q ((s.h n).size.natAbs - (s.h d).size.natAbs + 1 - 0)).ok = true := by rw [G2.ok]; exact hok1
    have hbq2 := G2.bwf q O1q.1
    have hbr2 := G2.bwf r hbr1
    have hroomq : (s.h n).size.natAbs - (s.h d).size.natAbs + 1 ≤
        ((MPZ_REALLOC s1 q ((s.h n).size.natAbs - (s.h d).size.natAbs + 1 - 0)).h q).buf.alloc := by
      have := G2.room; omega
    have hr2 : (MPZ_REALLOC s1 q ((s.h n).size.natAbs - (s.h d).size.natAbs + 1 - 0)).h r = s1.h r := G2.other r hrq
    have Dn := Den.of_grown G2 O1n
    have Dd := Den.of_grown G2 O1d
    rw [d1n] at Dn
    rw [d1d] at Dd
    have hfr2 := G2.other
    generalize MPZ_REALLOC s1 q ((s.h n).size.natAbs - (s.h d).size.natAbs + 1 - 0) = s2 at *
    have hroomr : (s.h d).size.natAbs ≤ (s2.h r).buf.alloc := by rw [hr2]; exact hroom1
    -- the temporary copies
    obtain ⟨cd1, cd2⟩ := copyIfSame_spec (d == r || d == q) s2 (s2.PTR d) (view (s.h d)).d Dd
    rw [hDl] at cd1 cd2
    rw [cd1]
    obtain ⟨cn1, cn2⟩ := copyIfSame_spec (n == r || n == q) s2 (s2.PTR n) (view (s.h n)).d Dn
    rw [hNl] at cn1 cn2
    rw [cn1]
    have DD := cd2 s2 (Or.inr rfl)
    have DN := cn2 s2 (Or.inr rfl)
    generalize (copyIfSame (d == r || d == q) s2 (s2.PTR d) (s.h d).size.natAbs).1 = dS at *
    generalize (copyIfSame (n == r || n == q) s2 (s2.PTR n) (s.h n).size.natAbs).1 = nS at *
    obtain ⟨en, okn⟩ := DN.rd (s.h n).size.natAbs (by rw [hNl])
    obtain ⟨ed, okd⟩ := DD.rd (s.h d).size.natAbs (by rw [hDl])
    rw [List.take_of_length_le (by rw [hNl])] at en
    rw [List.take_of_length_le (by rw [hDl])] at ed
    simp only [mpn_tdiv_qr_S, en, ed, okn, okd, Bool.and_self, chk_true]
    generalize hQ : toLimbs ((s.h n).size.natAbs - (s.h d).size.natAbs + 1) (val (view (s.h n)).d / val (view (s.h d)).d) = Q
    generalize hR : toLimbs (s.h d).size.natAbs (val (view (s.h n)).d % val (view (s.h d)).d) = R
    have hQl : Q.length = (s.h n).size.natAbs - (s.h d).size.natAbs + 1 := by rw [← hQ, toLimbs_length]
    have hRl : R.length = (s.h d).size.natAbs := by rw [← hR, toLimbs_length]
    have hQL : Limbs Q := by rw [← hQ]; exact Limbs_toLimbs _ _
    have hRL : Limbs R := by rw [← hR]; exact Limbs_toLimbs _ _
    have Wq := Wrote.fresh s2 q Q true hok2 rfl hbq2 hQL (by rw [hQl]; exact hroomq)
    rw [chk_true] at Wq
    have h3r : (s2.wr (s2.PTR q) Q).h r = s2.h r := Wq.frame r hrq
    have hp3 : (s2.wr (s2.PTR q) Q).PTR r = s2.PTR r := by simp [St.PTR]
    have Wr := Wrote.fresh (s2.wr (s2.PTR q) Q) r R true Wq.ok rfl (by rw [h3r]; exact hbr2) hRL
      (by rw [h3r, hRl]; exact hroomr)
    rw [chk_true, hp3] at Wr
    -- qp[ql - 1] after both stores
    have h4q : ((s2.wr (s2.PTR q) Q).wr (s2.PTR r) R).h q = (s2.wr (s2.PTR q) Q).h q := Wr.frame q hqr
    obtain ⟨el, okl⟩ := Wq.rd_off ((s.h n).size.natAbs - (s.h d).size.natAbs + 1 - 1) 1 (by rw [hQl]; omega)
    obtain ⟨tr1, tr2⟩ := rd_of_h_eq (s' := (s2.wr (s2.PTR q) Q).wr (s2.PTR r) R) (s := s2.wr (s2.PTR q) Q)
      (p := (s2.PTR q).add ((s.h n).size.natAbs - (s.h d).size.natAbs + 1 - 1)) (by simpa using h4q) 1
    rw [el] at tr1
    rw [okl] at tr2
    simp only [St.load, tr1, tr2, chk_true]
    rw [headD_drop_take Q _ (by rw [hQl]; omega)]
    -- MPN_NORMALIZE (rp, dl)
    have eN := Wr.normalize
    rw [hp3, hRl] at eN
    rw [eN]
    refine ⟨by simpa using Wr.ok, ?_, ?_, ?_, ?_, ?_⟩
    · rw [setSize_other _ _ _ hqr]; simp only [setSize_buf, h4q]; exact Wq.bwf
    · simp only [setSize_buf]; exact Wr.bwf
    · rw [setSize_other _ _ _ hqr, view_setSize, h4q, natAbs_sgn, Wq.alloc]
      congr 1
      have hk : (s.h n).size.natAbs - (s.h d).size.natAbs + 1 -
          (if (Q.getD ((s.h n).size.natAbs - (s.h d).size.natAbs + 1 - 1) 0 == 0) = true then 1 else 0) ≤ Q.length := by
        rw [hQl]; omega
      conv_lhs => rw [← take_take_le ((s2.wr (s2.PTR q) Q).h q).buf.limbs hk]
      rw [Wq.lim]
    · rw [view_setSize, setSize_buf, natAbs_sgn, Wr.alloc, h3r, hr2]
      congr 1
      have hk := normalize_length_le R
      conv_lhs => rw [← take_take_le (((s2.wr (s2.PTR q) Q).wr (s2.PTR r) R).h r).buf.limbs hk]
      rw [Wr.lim, take_normalize_length]
    · intro x hxq hxr
      rw [setSize_other _ _ _ hxr, setSize_other _ _ _ hxq, Wr.frame x hxr, Wq.frame x hxq, hfr2 x hxq, hfr1 x hxr]

end Mpir.AllocSafe
end
