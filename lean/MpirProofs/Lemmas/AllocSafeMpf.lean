/- mpf destinations: a block of `PREC + 1` limbs that is never reallocated (`FWF`).  For mpf/urandomb.c (Mpir/Model/AllocSafeMpz4.lean
   `mpf_urandomb`): reads and stores inside that block (`FSt.wr_spec`, `FSt.rd_spec`), the invariant of the in-place shift and strip
   loop (`FHolds`) and what it gives at the end (`mpf_urandomb_fin_spec`).  The theorems about the function are in Props/C04_allocsafe4.lean. -/
import MpirProofs.Lemmas.AllocSafe
import Mpir.Model.AllocSafeMpz4
namespace Mpir.AllocSafe
open Mpir

/-- the block invariant of an mpf destination -/
def FWF (s : FSt) : Prop := s.o.buf.limbs.length = s.o.buf.alloc ∧ s.o.buf.alloc = s.o.prec + 1

theorem FSt.wr_spec (s : FSt) (l : List Nat) (hb : s.o.buf.limbs.length = s.o.buf.alloc) (hl : l.length ≤ s.o.buf.alloc) :
    (s.wr 0 l).ok = s.ok ∧ (s.wr 0 l).o.buf.limbs = l ++ s.o.buf.limbs.drop l.length ∧
    (s.wr 0 l).o.buf.alloc = s.o.buf.alloc ∧ (s.wr 0 l).o.buf.limbs.length = s.o.buf.alloc ∧
    (s.wr 0 l).o.prec = s.o.prec := by
  simp only [FSt.wr, Buf.write, Nat.zero_add, hl, if_true, Bool.and_true, List.take_zero, List.nil_append,
    List.length_append, List.length_drop, hb]
  refine ⟨trivial, trivial, trivial, by omega, trivial⟩

theorem FSt.rd_spec (s : FSt) (n : Nat) (hn : n ≤ s.o.buf.alloc) :
    (s.rd n).1 = s.o.buf.limbs.take n ∧ (s.rd n).2 = s := by
  cases s with
  | mk o ok => simp [FSt.rd, Buf.read, hn]

/-- the state holds `toLimbs nlimbs r` at the bottom of a block of PREC + 1 ≥ nlimbs limbs -/
structure FHolds (s0 s : FSt) (nlimbs r : Nat) : Prop where
  ok : s.ok = true
  len : s.o.buf.limbs.length = s.o.buf.alloc
  alloc : s.o.buf.alloc = s0.o.buf.alloc
  prec : s.o.prec = s0.o.prec
  take : s.o.buf.limbs.take nlimbs = toLimbs nlimbs r

theorem FHolds.of_wr (s0 s : FSt) (nlimbs r : Nat) (hok : s.ok = true) (hlen : s.o.buf.limbs.length = s.o.buf.alloc)
    (hal : s.o.buf.alloc = s0.o.buf.alloc) (hpr : s.o.prec = s0.o.prec) (hle : nlimbs ≤ s0.o.buf.alloc) :
    FHolds s0 (s.wr 0 (toLimbs nlimbs r)) nlimbs r := by
  obtain ⟨wok, wl, wa, wn, wp⟩ := s.wr_spec (toLimbs nlimbs r) hlen (by rw [toLimbs_length, hal]; exact hle)
  exact ⟨by rw [wok]; exact hok, by rw [wn, wa], by rw [wa, hal], by rw [wp, hpr], by rw [wl]; exact List.take_left' (toLimbs_length _ _)⟩

theorem mpf_urandomb_fin_spec {s0 s : FSt} {nlimbs r : Nat} (H : FHolds s0 s nlimbs r) (hle : nlimbs ≤ s0.o.buf.alloc)
    (ha : s0.o.buf.alloc = s0.o.prec + 1) :
    (mpf_urandomb_fin s nlimbs).ok = true ∧
    (mpf_urandomb_fin s nlimbs).out = (s0.o.prec + 1, Rand.mpfFinish (toLimbs nlimbs r)) ∧
    FWF (mpf_urandomb_fin s nlimbs) := by
  obtain ⟨e, e'⟩ := s.rd_spec nlimbs (by rw [H.alloc]; exact hle)
  unfold mpf_urandomb_fin
  simp only [e, e', H.take]
  refine ⟨H.ok, ?_, ⟨H.len, by rw [H.alloc, ha, H.prec]⟩⟩
  simp only [FSt.out, Rand.mpfFinish, Rand.mpfStrip, Int.natAbs_natCast, H.alloc, ha]
  congr 2
  have hle2 := normalize_length_le (toLimbs nlimbs r)
  rw [toLimbs_length] at hle2
  have : s.o.buf.limbs.take (Mpir.normalize (toLimbs nlimbs r)).length =
      (s.o.buf.limbs.take nlimbs).take (Mpir.normalize (toLimbs nlimbs r)).length := by
    rw [List.take_take, Nat.min_eq_left hle2]
  rw [this, H.take, take_normalize_length]

end Mpir.AllocSafe
