/-
  C04 part c04_allocsafe7 (Mpir/Model/AllocSafeMpf7.lean): reads and stores inside a block, the invariant of the TMP area (`TInv`), what a
  call may have done to the state (`Fr` and its rules), and per function the lemma `X_spec : Fr s s' ∧ s'.r.view = <the C13 model's result>`
  from which Props/C04_allocsafe7.lean reads its statements (`Fr.dest_safe`).
-/
import MpirProofs.Lemmas.Mpf
import Mpir.Model.AllocSafeMpf7
namespace Mpir.AllocSafe7
open Mpir

/-! ### blocks: reads and stores inside a block -/

def BlkWF (b : Blk) : Prop := b.limbs.length = b.alloc

/-- what every mpf function may rely on for its destination: a block of at least PREC + 1 limbs (mpf_init2: exactly PREC + 1;
    more only after mpf_set_prec_raw) -/
def DestWF (o : FObj) : Prop := BlkWF o.blk ∧ o.prec + 1 ≤ o.blk.alloc

/-- what every mpf function may rely on for an operand: its |SIZ| limbs lie inside its block -/
def OpndWF (o : FObj) : Prop := BlkWF o.blk ∧ o.size.natAbs ≤ o.blk.alloc

theorem Blk.read_ok (b : Blk) (off n : Nat) (hb : BlkWF b) (h : off + n ≤ b.alloc) :
    (b.read off n).2 = true ∧ (b.read off n).1.length = n := by
  unfold BlkWF at hb
  simp only [Blk.read, decide_eq_true_eq, List.length_take, List.length_drop]
  omega

theorem Blk.write_ok (b : Blk) (off : Nat) (l : List Nat) (hb : BlkWF b) (h : off + l.length ≤ b.alloc) :
    (b.write off l).2 = true ∧ (b.write off l).1.alloc = b.alloc ∧ BlkWF (b.write off l).1 ∧
    (b.write off l).1.limbs = b.limbs.take off ++ l ++ b.limbs.drop (off + l.length) := by
  unfold BlkWF at hb ⊢
  simp only [Blk.write, if_pos h, List.length_append, List.length_take, List.length_drop, true_and, and_true]
  omega

theorem Blk.write_bad (b : Blk) (off : Nat) (l : List Nat) (h : b.alloc < off + l.length) :
    (b.write off l).2 = false := by
  simp only [Blk.write, if_neg (Nat.not_le.mpr h)]

theorem take_write0 (L l : List Nat) : ((L.take 0 ++ l ++ L.drop (0 + l.length)).take l.length) = l := by
  simp

theorem obj_setSE_blk (s : St) (a b : Int) (x : Src) : ((s.setSE a b).obj x).blk = (s.obj x).blk := by
  cases x <;> rfl


/-- MPN_COPY (rp, xp + off, n) with the source range inside its block and n limbs of room at rp -/
theorem copyToR_spec (s : St) (x : Src) (off n : Nat) (hs : s.ok = true) (hrb : BlkWF s.r.blk) (hxb : BlkWF (s.obj x).blk)
    (h1 : off + n ≤ (s.obj x).blk.alloc) (h2 : n ≤ s.r.blk.alloc) :
    (s.copyToR 0 x off n).ok = true ∧ (s.copyToR 0 x off n).u = s.u ∧ (s.copyToR 0 x off n).v = s.v ∧
    (s.copyToR 0 x off n).r.prec = s.r.prec ∧ (s.copyToR 0 x off n).r.size = s.r.size ∧ (s.copyToR 0 x off n).r.exp = s.r.exp ∧
    (s.copyToR 0 x off n).r.blk.alloc = s.r.blk.alloc ∧ BlkWF (s.copyToR 0 x off n).r.blk ∧
    (s.copyToR 0 x off n).r.blk.limbs.take n = ((s.obj x).blk.limbs.drop off).take n := by
  have hR := Blk.read_ok (s.obj x).blk off n hxb h1
  have hW := Blk.write_ok s.r.blk 0 ((s.obj x).blk.read off n).1 hrb (by rw [hR.2]; omega)
  simp only [St.copyToR, St.rd, St.wrR, hs, hR.1, hW.1, hW.2.1, hW.2.2.1, hW.2.2.2, Bool.and_self, true_and]
  have := take_write0 s.r.blk.limbs ((s.obj x).blk.read off n).1
  rw [hR.2] at this
  rw [hR.2, this]; rfl

theorem wrR_spec (s : St) (off : Nat) (l : List Nat) (hs : s.ok = true) (hrb : BlkWF s.r.blk) (h : off + l.length ≤ s.r.blk.alloc) :
    (s.wrR off l).ok = true ∧ (s.wrR off l).u = s.u ∧ (s.wrR off l).v = s.v ∧ (s.wrR off l).t = s.t ∧
    (s.wrR off l).r.prec = s.r.prec ∧ (s.wrR off l).r.size = s.r.size ∧ (s.wrR off l).r.exp = s.r.exp ∧
    (s.wrR off l).r.blk.alloc = s.r.blk.alloc ∧ BlkWF (s.wrR off l).r.blk ∧
    (s.wrR off l).r.blk.limbs = s.r.blk.limbs.take off ++ l ++ s.r.blk.limbs.drop (off + l.length) := by
  have hW := Blk.write_ok s.r.blk off l hrb h
  simp only [St.wrR, hs, hW.1, hW.2.1, hW.2.2.1, hW.2.2.2, Bool.and_self, and_self]

theorem wrR_bad (s : St) (off : Nat) (l : List Nat) (h : s.r.blk.alloc < off + l.length) : (s.wrR off l).ok = false := by
  simp only [St.wrR, Blk.write_bad _ _ _ h, Bool.and_false]

theorem rd_spec (s : St) (x : Src) (off n : Nat) (hs : s.ok = true) (h : off + n ≤ (s.obj x).blk.alloc) :
    (s.rd x off n).2 = s ∧ (s.rd x off n).1 = ((s.obj x).blk.limbs.drop off).take n := by
  cases s
  simp only at hs
  subst hs
  simp only [St.rd, Blk.read, Bool.true_and, decide_eq_true_eq.mpr h, and_self]

/-- MPN_COPY (rp, a, |a|) followed by rp[|a|] = c: the block then starts with a ++ [c] -/
theorem take_two_writes (L a : List Nat) (c : Nat) (k : Nat) (hk : k ≤ 1) :
    ((((L.take 0 ++ a ++ L.drop (0 + a.length)).take a.length) ++ [c] ++
      (L.take 0 ++ a ++ L.drop (0 + a.length)).drop (a.length + [c].length)).take (a.length + k)) =
    (a ++ [c]).take (a.length + k) := by
  rw [take_write0 L a, List.take_append_of_le_length (by rw [List.length_append, List.length_singleton]; omega)]

theorem slice (L : List Nat) (off n a b : Nat) (h : a + b ≤ n) :
    (L.drop (off + a)).take b = (((L.drop off).take n).drop a).take b := by
  rw [List.drop_take, List.drop_drop, List.take_take, Nat.min_eq_left (by omega)]

theorem take_after_write (L1 p b : List Nat) (n : Nat) (hp : L1.take n = p) (hn : p.length = n) :
    ((L1.take n ++ b ++ L1.drop (n + b.length)).take (n + b.length)) = p ++ b := by
  rw [hp, ← hn, ← List.length_append, List.take_append_of_le_length (Nat.le_refl _), List.take_length]

/-! ### the TMP area of add.c (:115, `prec` limbs): what has been stored there so far -/

/-- between the entry of mpf_add and the copy to rp: only the TMP area (T limbs) has been written, and it now starts with `p` -/
structure TInv (s0 s : St) (T : Nat) (p : List Nat) : Prop where
  ok : s.ok = true
  r : s.r = s0.r
  u : s.u = s0.u
  v : s.v = s0.v
  ta : s.t.alloc = T
  tw : BlkWF s.t
  pre : s.t.limbs.take p.length = p

theorem TInv.obj {s0 s : St} {T : Nat} {p : List Nat} (I : TInv s0 s T p) (x : Src) : s.obj x = s0.obj x := by
  cases x
  · exact I.r
  · exact I.u
  · exact I.v

theorem TInv.length_le {s0 s : St} {T : Nat} {p : List Nat} (I : TInv s0 s T p) : p.length ≤ T := by
  have h := congrArg List.length I.pre
  have tw : s.t.limbs.length = s.t.alloc := I.tw
  rw [List.length_take, tw, I.ta] at h
  omega

theorem TInv.push {s0 s : St} {T : Nat} {p : List Nat} (I : TInv s0 s T p) (off : Nat) (l : List Nat) (ho : p.length = off)
    (h : off + l.length ≤ T) : TInv s0 (s.wrT off l) T (p ++ l) := by
  have hW := Blk.write_ok s.t off l I.tw (by rw [I.ta]; exact h)
  refine ⟨by simp only [St.wrT, I.ok, hW.1, Bool.and_self], I.r, I.u, I.v, by simp only [St.wrT, hW.2.1, I.ta], hW.2.2.1, ?_⟩
  show (s.t.write off l).1.limbs.take (p ++ l).length = p ++ l
  subst ho
  rw [hW.2.2.2, List.length_append]
  exact take_after_write _ p l p.length I.pre rfl

theorem TInv.rd_slice {s0 s : St} {T : Nat} {p : List Nat} (I : TInv s0 s T p) (x : Src) (off n a b : Nat) (d : List Nat)
    (hd : ((s0.obj x).blk.limbs.drop off).take n = d) (h : off + n ≤ (s0.obj x).blk.alloc) (hab : a + b ≤ n) :
    s.rd x (off + a) b = ((d.drop a).take b, s) := by
  have R := rd_spec s x (off + a) b I.ok (by rw [I.obj]; omega)
  refine Prod.ext ?_ R.1
  rw [R.2, I.obj, ← hd]
  exact slice _ off n a b hab

theorem TInv.rd_take {s0 s : St} {T : Nat} {p : List Nat} (I : TInv s0 s T p) (x : Src) (off n b : Nat) (d : List Nat)
    (hd : ((s0.obj x).blk.limbs.drop off).take n = d) (h : off + n ≤ (s0.obj x).blk.alloc) (hb : b ≤ n) :
    s.rd x off b = (d.take b, s) :=
  I.rd_slice x off n 0 b d hd h (by omega)

theorem TInv.rd_drop {s0 s : St} {T : Nat} {p : List Nat} (I : TInv s0 s T p) (x : Src) (off n a b : Nat) (d : List Nat)
    (hd : ((s0.obj x).blk.limbs.drop off).take n = d) (h : off + n ≤ (s0.obj x).blk.alloc) (hl : d.length = n)
    (hab : a + b = n) : s.rd x (off + a) b = (d.drop a, s) := by
  rw [I.rd_slice x off n a b d hd h (by omega), List.take_of_length_le (by rw [List.length_drop]; omega)]

theorem TInv.rdT {s0 s : St} {T : Nat} {p : List Nat} (I : TInv s0 s T p) : s.rdT 0 p.length = (p, s) := by
  have hR := Blk.read_ok s.t 0 p.length I.tw (by rw [I.ta]; have := I.length_le; omega)
  have hk := I.ok
  have hp : (s.t.read 0 p.length).1 = p := I.pre
  cases s
  simp only at hk
  subst hk
  simp only [St.rdT, hR.1, hp, Bool.and_self]

/-! ### mpf/add.c:126-164, the three alignments into the TMP area -/

theorem addv_len (x y : List Nat) : (Mpf.addv x y).1.length = x.length := by
  simp only [Mpf.addv, toLimbs_length]

/-- add.c:126-164, the three alignments: they fill the TMP area from its start with the limbs of `Mpf.addLimbs` -/
theorem addAlign_spec {s0 s : St} {T : Nat} (I : TInv s0 s T []) (us vs : Src) (uoff usz voff vsz ed : Nat) (up vp : List Nat)
    (hup : ((s0.obj us).blk.limbs.drop uoff).take usz = up) (hvp : ((s0.obj vs).blk.limbs.drop voff).take vsz = vp)
    (hul : up.length = usz) (hvl : vp.length = vsz)
    (hu : uoff + usz ≤ (s0.obj us).blk.alloc) (hv : voff + vsz ≤ (s0.obj vs).blk.alloc)
    (h1 : vsz + ed ≤ T) (h2 : usz ≤ T) :
    TInv s0 (addAlign s us uoff usz vs voff vsz ed).1 T (Mpf.addLimbs up vp ed).1 ∧
    (addAlign s us uoff usz vs voff vsz ed).2.1 = (Mpf.addLimbs up vp ed).1.length ∧
    (addAlign s us uoff usz vs voff vsz ed).2.2 = (Mpf.addLimbs up vp ed).2 := by
  have utake := fun {s1 : St} {p : List Nat} (I1 : TInv s0 s1 T p) (b : Nat) => I1.rd_take us uoff usz b up hup hu
  have udrop := fun {s1 : St} {p : List Nat} (I1 : TInv s0 s1 T p) (a b : Nat) => I1.rd_drop us uoff usz a b up hup hu hul
  have vtake := fun {s1 : St} {p : List Nat} (I1 : TInv s0 s1 T p) (b : Nat) => I1.rd_take vs voff vsz b vp hvp hv
  have vdrop := fun {s1 : St} {p : List Nat} (I1 : TInv s0 s1 T p) (a b : Nat) => I1.rd_drop vs voff vsz a b vp hvp hv hvl
  clear hu hv hup hvp
  unfold addAlign Mpf.addLimbs
  simp only [hul, hvl]
  by_cases c1 : usz > ed
  · rw [if_pos c1, if_pos c1]
    by_cases c2 : vsz + ed ≤ usz
    · rw [if_pos c2, if_pos c2]
      generalize hsz : usz - ed - vsz = size
      have I1 : TInv s0 (s.wrT 0 (up.take size)) T (up.take size) := I.push 0 _ rfl (by rw [List.length_take]; omega)
      have Y : (s.wrT 0 (up.take size)).rd vs voff vsz = (vp, _) := vdrop I1 0 vsz (by omega)
      simp only [utake I size (by omega), udrop I1 size (usz - size) (by omega), Y]
      have I2 := I1.push size (Mpf.addv (up.drop size) vp).1 (by rw [List.length_take]; omega)
        (by rw [addv_len, List.length_drop]; omega)
      exact ⟨I2, by rw [List.length_append, List.length_take, addv_len, List.length_drop]; omega, trivial⟩
    · rw [if_neg c2, if_neg c2]
      generalize hsz : vsz + ed - usz = size
      have I1 : TInv s0 (s.wrT 0 (vp.take size)) T (vp.take size) := I.push 0 _ rfl (by rw [List.length_take]; omega)
      have X : (s.wrT 0 (vp.take size)).rd us uoff usz = (up, _) := udrop I1 0 usz (by omega)
      simp only [vtake I size (by omega), X, vdrop I1 size (usz - ed) (by omega)]
      have I2 := I1.push size (Mpf.addv up (vp.drop size)).1 (by rw [List.length_take]; omega) (by rw [addv_len]; omega)
      exact ⟨I2, by rw [List.length_append, List.length_take, addv_len]; omega, trivial⟩
  · rw [if_neg c1, if_neg c1]
    have A : s.rd vs voff vsz = (vp, s) := vdrop I 0 vsz (by omega)
    have I1 : TInv s0 (s.wrT 0 vp) T vp := I.push 0 _ rfl (by omega)
    have I2 := I1.push vsz (List.replicate (ed - usz) 0) hvl (by rw [List.length_replicate]; omega)
    have X : ((s.wrT 0 vp).wrT vsz (List.replicate (ed - usz) 0)).rd us uoff usz = (up, _) := udrop I2 0 usz (by omega)
    simp only [A, X]
    have I3 := I2.push (vsz + ed - usz) up (by rw [List.length_append, List.length_replicate]; omega) (by omega)
    exact ⟨I3, by rw [List.length_append, List.length_append, List.length_replicate]; omega, trivial⟩


/-! ### what a call may have done to the state, and the rules for it -/

/-- what a call may have done to the state -/
structure Fr (s0 s : St) : Prop where
  ok : s.ok = true
  u : s.u = s0.u
  v : s.v = s0.v
  prec : s.r.prec = s0.r.prec
  alloc : s.r.blk.alloc = s0.r.blk.alloc
  wf : BlkWF s.r.blk

theorem Fr.setSE {s0 s : St} (F : Fr s0 s) (a b : Int) : Fr s0 (s.setSE a b) := ⟨F.ok, F.u, F.v, F.prec, F.alloc, F.wf⟩

theorem Fr.refl {s : St} (hs : s.ok = true) (hb : BlkWF s.r.blk) : Fr s s := ⟨hs, rfl, rfl, rfl, rfl, hb⟩

theorem Fr.trans {a b c : St} (F : Fr a b) (G : Fr b c) : Fr a c :=
  ⟨G.ok, G.u.trans F.u, G.v.trans F.v, G.prec.trans F.prec, G.alloc.trans F.alloc, G.wf⟩

/-- a store into the destination block, inside the block as it was at `s0` -/
theorem Fr.wrR {s0 s : St} (F : Fr s0 s) (off : Nat) (l : List Nat) (h : off + l.length ≤ s0.r.blk.alloc) :
    Fr s0 (s.wrR off l) ∧ (s.wrR off l).t = s.t ∧ (s.wrR off l).r.size = s.r.size ∧ (s.wrR off l).r.exp = s.r.exp ∧
    (s.wrR off l).r.blk.limbs = s.r.blk.limbs.take off ++ l ++ s.r.blk.limbs.drop (off + l.length) := by
  obtain ⟨c1, c2, c3, c3', c4, c5, c6, c7, c8, c9⟩ := wrR_spec s off l F.ok F.wf (by rw [F.alloc]; exact h)
  exact ⟨F.trans ⟨c1, c2, c3, c4, c7, c8⟩, c3', c5, c6, c9⟩

theorem Fr.copyToR {s0 s : St} (F : Fr s0 s) (x : Src) (off n : Nat) (hxb : BlkWF (s.obj x).blk)
    (h1 : off + n ≤ (s.obj x).blk.alloc) (h2 : n ≤ s0.r.blk.alloc) :
    Fr s0 (s.copyToR 0 x off n) ∧ (s.copyToR 0 x off n).r.size = s.r.size ∧ (s.copyToR 0 x off n).r.exp = s.r.exp ∧
    (s.copyToR 0 x off n).r.blk.limbs.take n = ((s.obj x).blk.limbs.drop off).take n := by
  obtain ⟨c1, c2, c3, c4, c5, c6, c7, c8, c9⟩ := copyToR_spec s x off n F.ok F.wf hxb h1 (by rw [F.alloc]; exact h2)
  exact ⟨F.trans ⟨c1, c2, c3, c4, c7, c8⟩, c5, c6, c9⟩

/-- from a `_spec` lemma to the statement shape of the `_dest_safe` theorems; `W` is what they say about `Mpf.WF` -/
theorem Fr.dest_safe {s s' : St} {M : Mpf.F} {W : Prop} (h : Fr s s' ∧ s'.r.view = M) (hwf : s'.r.view = M → W) :
    s'.ok = true ∧ s'.u = s.u ∧ s'.v = s.v ∧ s'.r.prec = s.r.prec ∧ s'.r.blk.alloc = s.r.blk.alloc ∧ BlkWF s'.r.blk ∧
    s'.r.view = M ∧ W :=
  ⟨h.1.ok, h.1.u, h.1.v, h.1.prec, h.1.alloc, h.1.wf, h.2, hwf h.2⟩

/-! ### mpf/set_ui.c, set_si.c -/

/-- one limb stored at rp[0], then the header (set_ui.c:31-40, set_si.c:35-45) -/
theorem setLimb_spec (s : St) (w : Nat) (sz e : Int) (hsz : sz.natAbs ≤ 1) (hs : s.ok = true) (hr : DestWF s.r) :
    Fr s ((s.wrR 0 [w]).setSE sz e) ∧ ((s.wrR 0 [w]).setSE sz e).r.view = ⟨s.r.prec, sz, e, [w].take sz.natAbs⟩ := by
  obtain ⟨F, -, -, -, c9⟩ := (Fr.refl hs hr.1).wrR 0 [w] (by have := hr.2; simp only [List.length_singleton]; omega)
  refine ⟨F.setSE _ _, ?_⟩
  simp only [St.setSE, FObj.view, F.prec, c9]
  rw [List.take_zero, List.nil_append, List.take_append_of_le_length (by simpa using hsz)]

/-! ### mpf/add.c, operands of equal sign -/

/-- add.c:166-167: the limbs `p` of the TMP area and the carry limb arrive at rp[0, |p|], inside the T + 1 limbs -/
theorem addStore_spec {s0 s : St} {T : Nat} {p : List Nat} (I : TInv s0 s T p) (cy k : Nat) (hk : k ≤ 1)
    (hrb : BlkWF s0.r.blk) (hra : T + 1 ≤ s0.r.blk.alloc) :
    Fr s0 (addStore (s, p.length, cy)).1 ∧ (addStore (s, p.length, cy)).2 = (p.length, cy) ∧
    (addStore (s, p.length, cy)).1.r.blk.limbs.take (p.length + k) = (p ++ [cy]).take (p.length + k) := by
  unfold addStore
  have hr := I.length_le
  simp only [I.rdT]
  have hb : BlkWF s.r.blk := by rw [I.r]; exact hrb
  have ha : s.r.blk.alloc = s0.r.blk.alloc := by rw [I.r]
  have F0 : Fr s0 s := ⟨I.ok, I.u, I.v, by rw [I.r], ha, hb⟩
  obtain ⟨F1, -, -, -, a9⟩ := F0.wrR 0 p (by omega)
  obtain ⟨F2, -, -, -, b9⟩ := F1.wrR p.length [cy] (by rw [List.length_singleton]; omega)
  refine ⟨F2, trivial, ?_⟩
  rw [b9, a9]
  exact take_two_writes s.r.blk.limbs p cy k hk

/-- add.c:98-101, the cut of V to the limbs that overlap the `prec` limbs kept of U (`ediff < prec`): offset and length -/
theorem vcut (vsize P : Nat) (ediff : Int) (h0 : 0 ≤ ediff) (hc : ediff < (P : Int)) (voff : Nat) (vsz : Int)
    (hvo : (if decide ((vsize : Int) + ediff > (P : Int)) = true then ((vsize : Int) + ediff - (P : Int)).toNat else 0) = voff)
    (hvs : (if decide ((vsize : Int) + ediff > (P : Int)) = true then (P : Int) - ediff else (vsize : Int)) = vsz) :
    voff = ((vsize : Int) + ediff - (P : Int)).toNat ∧ vsz.toNat = vsize - voff ∧ voff ≤ vsize ∧
    (vsize - voff) + ediff.toNat ≤ P := by
  subst hvo hvs
  by_cases c3 : (vsize : Int) + ediff > (P : Int) <;>
    simp only [c3, decide_true, decide_false, Bool.false_eq_true, ↓reduceIte, true_and] <;> omega

/-- add.c:80-174 with U the operand of the larger exponent -/
theorem addSameSign_spec (s : St) (negate : Bool) (us vs : Src) (hs : s.ok = true) (hr : DestWF s.r)
    (hu : OpndWF (s.obj us)) (hv : OpndWF (s.obj vs)) (he : (s.obj vs).exp ≤ (s.obj us).exp)
    (hlu : Limbs (s.obj us).view.d) (hlv : Limbs (s.obj vs).view.d) (m : List Nat × Int)
    (hm : m = Mpf.addMag s.r.prec (s.obj us).view.d (s.obj us).exp (s.obj vs).view.d (s.obj vs).exp) :
    Fr s (addSameSign 0 s negate us vs) ∧
    (addSameSign 0 s negate us vs).r.view =
      ⟨s.r.prec, if negate = true then -(m.1.length : Int) else (m.1.length : Int), m.2, m.1⟩ := by
  subst hm
  obtain ⟨hrb, hra⟩ := hr
  obtain ⟨hub, hua⟩ := hu
  obtain ⟨hvb, hva⟩ := hv
  have hul : (s.obj us).size.natAbs ≤ (s.obj us).blk.limbs.length := by rw [hub]; exact hua
  have hvl : (s.obj vs).size.natAbs ≤ (s.obj vs).blk.limbs.length := by rw [hvb]; exact hva
  have hsel := Mpf.top_eq_ite (s.obj us).blk.limbs (s.obj us).size.natAbs s.r.prec hul
  unfold addSameSign Mpf.addMag
  simp only [Nat.add_zero, FObj.view] at hlu hlv ⊢
  simp only [Mpf.selV_eq, ← hsel]
  generalize hP : s.r.prec = P at hra hsel
  generalize (s.obj us).size.natAbs = usize at hua hul hlu hsel
  generalize (s.obj vs).size.natAbs = vsize at hva hvl hlv
  have hvdl : (List.take vsize (s.obj vs).blk.limbs).length = vsize := by rw [List.length_take]; omega
  simp only [hvdl]
  generalize hed : (s.obj us).exp - (s.obj vs).exp = ediff
  have hed0 : 0 ≤ ediff := by omega
  have I : TInv s (s.tmpAlloc P) P [] := ⟨hs, rfl, rfl, rfl, rfl, by simp [BlkWF, St.tmpAlloc, Blk.new], rfl⟩
  generalize huo : (if usize > P then usize - P else 0) = uoff at hsel
  generalize hus : (if usize > P then P else usize) = usz at hsel
  have hu1 : uoff + usz ≤ (s.obj us).blk.alloc := by subst huo hus; split <;> omega
  have hu2 : usz ≤ P := by subst hus; split <;> omega
  have hubl : (s.obj us).blk.limbs.length = (s.obj us).blk.alloc := hub
  have hupl : (List.take usz (List.drop uoff (s.obj us).blk.limbs)).length = usz := by
    rw [List.length_take, List.length_drop]; omega
  have hvbl : (s.obj vs).blk.limbs.length = (s.obj vs).blk.alloc := hvb
  by_cases c : ediff ≥ (P : Int)
  · rw [if_pos c, if_pos c]
    by_cases c2 : us = .r ∧ uoff = 0
    · rw [if_pos c2]
      refine ⟨⟨hs, rfl, rfl, rfl, rfl, hrb⟩, ?_⟩
      simp only [St.setSE, natAbs_ite_neg, hupl]
      obtain ⟨cx, co⟩ := c2
      subst cx co
      simp [St.tmpAlloc, St.obj, hP]
    · rw [if_neg c2]
      have F0 : Fr s (s.tmpAlloc P) := ⟨hs, rfl, rfl, rfl, rfl, hrb⟩
      obtain ⟨F, -, -, c9⟩ := F0.copyToR us uoff usz (by rw [I.obj]; exact hub) (by rw [I.obj]; exact hu1) (by omega)
      refine ⟨F.setSE _ _, ?_⟩
      simp only [St.setSE, natAbs_ite_neg, hupl, c9, F.prec, I.obj]
      simp [hP]
  · rw [if_neg c, if_neg c]
    unfold addOverlap
    generalize hvo : (if decide ((vsize : Int) + ediff > (P : Int)) = true then ((vsize : Int) + ediff - (P : Int)).toNat else 0) = voff
    generalize hvs : (if decide ((vsize : Int) + ediff > (P : Int)) = true then (P : Int) - ediff else (vsize : Int)) = vsz
    obtain ⟨hvoff, hvz, hvo2, hv2⟩ := vcut vsize P ediff hed0 (by omega) voff vsz hvo hvs
    rw [← hvoff, hvz, List.drop_take]
    have hv1 : voff + (vsize - voff) ≤ (s.obj vs).blk.alloc := by omega
    have hLv : Limbs (List.take (vsize - voff) (List.drop voff (s.obj vs).blk.limbs)) := by
      rw [← List.drop_take]; exact Limbs_drop hlv _
    generalize hup : List.take usz (List.drop uoff (s.obj us).blk.limbs) = up at hupl hsel
    generalize hvp : List.take (vsize - voff) (List.drop voff (s.obj vs).blk.limbs) = vp at hLv
    have hvpl : vp.length = vsize - voff := by rw [← hvp, List.length_take, List.length_drop]; omega
    have A := addAlign_spec I us vs uoff usz voff (vsize - voff) ediff.toNat up vp hup hvp hupl hvpl hu1 hv1 hv2 hu2
    have L := Mpf.addLimbs_spec up vp ediff.toNat (by rw [hsel]; exact Limbs_drop hlu _) hLv
    generalize addAlign (s.tmpAlloc P) us uoff usz vs voff (vsize - voff) ediff.toNat = q at A
    obtain ⟨sq, rsize, cy⟩ := q
    generalize Mpf.addLimbs up vp ediff.toNat = al at A L
    obtain ⟨tp, cy'⟩ := al
    obtain ⟨A1, hrs, hcy⟩ := A
    simp only at A1 hrs hcy L ⊢
    rw [hrs, hcy]
    obtain ⟨SF, S2, SV⟩ := addStore_spec A1 cy' cy' L.2.2.1 hrb (by omega)
    have s21 : (addStore (sq, tp.length, cy')).2.1 = tp.length := by rw [S2]
    have s22 : (addStore (sq, tp.length, cy')).2.2 = cy' := by rw [S2]
    have hpr : (addStore (sq, tp.length, cy')).1.r.prec = P := by rw [SF.prec, hP]
    refine ⟨SF.setSE _ _, ?_⟩
    simp only [St.setSE, s21, s22, natAbs_ite_neg, SV, hpr]
    rcases Nat.le_one_iff_eq_zero_or_eq_one.mp L.2.2.1 with h | h <;> subst h <;> simp

/-- add.c:69-78, 80-174: equal signs after the swap that makes U the operand of the larger exponent (`vsz`: the sign of V
    plays no part) -/
theorem addSwap_spec (s : St) (us vs : Src) (vsz : Int) (hs : s.ok = true) (hr : DestWF s.r)
    (hu : OpndWF (s.obj us)) (hv : OpndWF (s.obj vs)) (hlu : Limbs (s.obj us).view.d) (hlv : Limbs (s.obj vs).view.d) (s' : St)
    (h : s' = addSameSign 0 s (decide ((s.obj us).size < 0)) (if (s.obj us).exp < (s.obj vs).exp then vs else us)
      (if (s.obj us).exp < (s.obj vs).exp then us else vs)) :
    Fr s s' ∧ s'.r.view = Mpf.addSame s.r.prec (s.obj us).view { (s.obj vs).view with size := vsz } := by
  subst h
  unfold Mpf.addSame
  by_cases sw : (s.obj us).exp < (s.obj vs).exp
  · have sw' : (s.obj us).view.exp < (s.obj vs).view.exp := sw
    simp only [sw, sw', if_true]
    have A := addSameSign_spec s (decide ((s.obj us).size < 0)) vs us hs hr hv hu (by omega) hlv hlu _ rfl
    refine ⟨A.1, ?_⟩
    rw [A.2]
    simp [FObj.view]
    by_cases hn : (s.obj us).size < 0 <;> simp [hn]
  · have sw' : ¬ (s.obj us).view.exp < (s.obj vs).view.exp := sw
    simp only [sw, sw', if_false]
    have A := addSameSign_spec s (decide ((s.obj us).size < 0)) us vs hs hr hu hv (by omega) hlu hlv _ rfl
    refine ⟨A.1, ?_⟩
    rw [A.2]
    simp [FObj.view]
    by_cases hn : (s.obj us).size < 0 <;> simp [hn]

/-! ### mpf/set.c, neg.c -/

/-- the cut to the top PREC + 1 limbs and the MPN_COPY of set.c:33-47 / neg.c:37-52, the sign of SIZ given by `c` -/
theorem cutCopy_spec (s : St) (x : Src) (c : Prop) [Decidable c] (hs : s.ok = true) (hr : DestWF s.r) (hx : OpndWF (s.obj x))
    (s' : St)
    (h : s' = (s.setSE
        (if c then ((if (s.obj x).size.natAbs > s.r.prec + 1 then s.r.prec + 1 else (s.obj x).size.natAbs : Nat) : Int)
         else -((if (s.obj x).size.natAbs > s.r.prec + 1 then s.r.prec + 1 else (s.obj x).size.natAbs : Nat) : Int))
        (s.obj x).exp).copyToR 0 x
        (if (s.obj x).size.natAbs > s.r.prec + 1 then (s.obj x).size.natAbs - (s.r.prec + 1) else 0)
        (if (s.obj x).size.natAbs > s.r.prec + 1 then s.r.prec + 1 else (s.obj x).size.natAbs)) :
    Fr s s' ∧ s'.r.view =
      ⟨s.r.prec, if c then ((Mpf.top (s.r.prec + 1) (s.obj x).view.d).length : Int)
        else -((Mpf.top (s.r.prec + 1) (s.obj x).view.d).length : Int), (s.obj x).exp, Mpf.top (s.r.prec + 1) (s.obj x).view.d⟩ := by
  subst h
  obtain ⟨hrb, hra⟩ := hr
  obtain ⟨hxb, hxa⟩ := hx
  have hxl : (s.obj x).size.natAbs ≤ (s.obj x).blk.limbs.length := by rw [hxb]; exact hxa
  simp only [FObj.view]
  generalize (s.obj x).size.natAbs = asize at hxl hxa
  generalize hp1 : s.r.prec + 1 = p1 at hra
  have hsel := Mpf.top_eq_ite (s.obj x).blk.limbs asize p1 hxl
  generalize hoff : (if asize > p1 then asize - p1 else 0) = off at hsel
  generalize hn : (if asize > p1 then p1 else asize) = n at hsel
  have hb1 : off + n ≤ (s.obj x).blk.alloc := by subst hoff hn; split <;> omega
  have hb2 : n ≤ s.r.blk.alloc := by subst hn; split <;> omega
  generalize hsz : (if c then (n : Int) else -(n : Int)) = sz
  have hszn : sz.natAbs = n := by subst hsz; exact natAbs_ite_pos _ n
  obtain ⟨F, c5, c6, c9⟩ := ((Fr.refl hs hrb).setSE sz (s.obj x).exp).copyToR x off n (by rw [obj_setSE_blk]; exact hxb)
    (by rw [obj_setSE_blk]; exact hb1) hb2
  rw [obj_setSE_blk] at c9
  refine ⟨F, ?_⟩
  have hlen : (Mpf.top p1 (List.take asize (s.obj x).blk.limbs)).length = n := by
    have hxbl : (s.obj x).blk.limbs.length = (s.obj x).blk.alloc := hxb
    rw [← hsel, List.length_take, List.length_drop]; omega
  have g1 : (s.setSE sz (s.obj x).exp).r.size = sz := rfl
  have g2 : (s.setSE sz (s.obj x).exp).r.exp = (s.obj x).exp := rfl
  simp only [F.prec, c5, c6, g1, g2, hszn, c9, hsel, hlen]
  rw [← hsz]

theorem mpf_set_spec (s : St) (x : Src) (hs : s.ok = true) (hr : DestWF s.r) (hx : OpndWF (s.obj x)) :
    Fr s (mpf_set 0 s x) ∧ (mpf_set 0 s x).r.view = Mpf.set s.r.prec (s.obj x).view :=
  cutCopy_spec s x _ hs hr hx _ rfl

/-- mpf_neg (r, u) and mpf_neg (r, r) (mpf/neg.c) -/
theorem mpf_neg_spec (s : St) (x : Src) (hs : s.ok = true) (hr : DestWF s.r) (hx : OpndWF (s.obj x)) :
    Fr s (mpf_neg s x) ∧ (mpf_neg s x).r.view = Mpf.neg s.r.prec (decide (x = .r)) (s.obj x).view := by
  unfold mpf_neg Mpf.neg
  by_cases hxr : x = .r
  · subst hxr
    simp only [if_true, decide_true]
    exact ⟨⟨hs, rfl, rfl, rfl, rfl, hr.1⟩, by simp [FObj.view, St.setSE, St.obj]⟩
  · simp only [hxr, if_false, decide_false, Bool.false_eq_true]
    rw [Int.natAbs_neg]
    exact cutCopy_spec s x _ hs hr hx _ rfl

/-! ### mpf/sub.c at store level; mpf_add for every sign combination -/

theorem subMag_prec (prec : Nat) (n : Bool) (u v : Mpf.F) : (Mpf.subMag prec n u v).prec = prec := by
  unfold Mpf.subMag; rfl

/-- the store-level mirror of the equal-sign path of sub.c: `F.d` is stored at rp[0, |F.d|), inside the PREC + 1 limbs when `F`
    is well formed for PREC (r) -/
theorem subStore_spec (s : St) (us vs : Src) (F : Mpf.F) (hs : s.ok = true) (hr : DestWF s.r)
    (hu : OpndWF (s.obj us)) (hv : OpndWF (s.obj vs)) (hF : Mpf.WF F) (hFp : F.prec = s.r.prec) :
    Fr s (subStore s us vs F) ∧ (subStore s us vs F).r.view = F := by
  obtain ⟨hrb, hra⟩ := hr
  unfold subStore
  have A := rd_spec s us 0 (s.obj us).size.natAbs hs (by have := hu.2; omega)
  simp only [A.1]
  have Bv := rd_spec s vs 0 (s.obj vs).size.natAbs hs (by have := hv.2; omega)
  simp only [Bv.1]
  have hlen : F.d.length ≤ s.r.prec + 1 := by rw [hF.2.1, ← hFp]; exact hF.2.2.1
  have F0 : Fr s (s.tmpAlloc (s.r.prec + 1)) := ⟨hs, rfl, rfl, rfl, rfl, hrb⟩
  obtain ⟨F1, -, -, -, a9⟩ := F0.wrR 0 F.d (by omega)
  refine ⟨F1.setSE _ _, ?_⟩
  have t := take_write0 (s.tmpAlloc (s.r.prec + 1)).r.blk.limbs F.d
  simp only [FObj.view, St.setSE, F1.prec, a9, ← hF.2.1, t]
  cases F
  simp only at hFp
  simp [hFp]

theorem sign_flip {a b : Int} (ha : a ≠ 0) (hb : b ≠ 0) (h : (decide (a < 0) != decide (b < 0)) = true) :
    (a < 0) ↔ (-b < 0) := by
  by_cases h1 : a < 0 <;> by_cases h2 : b < 0 <;> simp [h1, h2] at h ⊢ <;> omega

theorem sign_same {a b : Int} (h : ¬ (decide (a < 0) != decide (b < 0)) = true) : (a < 0) ↔ (b < 0) := by
  by_cases h1 : a < 0 <;> by_cases h2 : b < 0 <;> simp [h1, h2] at h ⊢

/-- `if (r != u) mpf_set (r, u)` (add.c:42-53, sub.c:47-52) -/
theorem setUnless_spec (s : St) (x : Src) (hs : s.ok = true) (hr : DestWF s.r) (hx : OpndWF (s.obj x)) :
    Fr s (if x ≠ .r then mpf_set 0 s x else s) ∧
    (if x ≠ .r then mpf_set 0 s x else s).r.view =
      (if decide (x = .r) = true then { (s.obj x).view with prec := s.r.prec } else Mpf.set s.r.prec (s.obj x).view) := by
  by_cases hxr : x = .r
  · subst hxr
    simp only [ne_eq, not_true_eq_false, if_false, decide_true, if_true]
    exact ⟨⟨hs, rfl, rfl, rfl, rfl, hr.1⟩, rfl⟩
  · simp only [hxr, ne_eq, not_false_eq_true, if_true, decide_false, Bool.false_eq_true, if_false]
    exact mpf_set_spec s x hs hr hx

theorem mpf_add_spec (s : St) (us vs : Src) (hs : s.ok = true) (hr : DestWF s.r) (hp : 2 ≤ s.r.prec)
    (hu : OpndWF (s.obj us)) (hv : OpndWF (s.obj vs)) (hou : Mpf.OpWF (s.obj us).view) (hov : Mpf.OpWF (s.obj vs).view)
    (s' : St) (h : mpf_add 0 s us vs = some s') :
    Fr s s' ∧ s'.r.view = Mpf.add s.r.prec (decide (us = .r)) (decide (vs = .r)) (s.obj us).view (s.obj vs).view := by
  unfold mpf_add at h
  unfold Mpf.add
  simp only at h
  by_cases hu0 : (s.obj us).size = 0
  · rw [if_pos hu0] at h
    rw [if_pos (show (s.obj us).view.size = 0 from hu0)]
    cases h
    exact setUnless_spec s vs hs hr hv
  · rw [if_neg hu0] at h
    rw [if_neg (show ¬ (s.obj us).view.size = 0 from hu0)]
    by_cases hv0 : (s.obj vs).size = 0
    · rw [if_pos hv0] at h
      rw [if_pos (show (s.obj vs).view.size = 0 from hv0)]
      cases h
      exact setUnless_spec s us hs hr hu
    · rw [if_neg hv0] at h
      rw [if_neg (show ¬ (s.obj vs).view.size = 0 from hv0)]
      by_cases hsg : (decide ((s.obj us).size < 0) != decide ((s.obj vs).size < 0)) = true
      · rw [if_pos hsg] at h
        rw [if_pos (show ((decide ((s.obj us).view.size < 0) != decide ((s.obj vs).view.size < 0)) = true) from hsg)]
        cases h
        exact subStore_spec s us vs _ hs hr hu hv
          (Mpf.subMag_cut s.r.prec hp (s.obj us).view _ hou (Mpf.OpWF_neg_size _ hov) hu0 (by simpa [FObj.view] using hv0)
            (sign_flip hu0 hv0 hsg)).1 (subMag_prec _ _ _ _)
      · rw [if_neg hsg] at h
        rw [if_neg (show ¬ ((decide ((s.obj us).view.size < 0) != decide ((s.obj vs).view.size < 0)) = true) from hsg)]
        cases h
        exact addSwap_spec s us vs _ hs hr hu hv hou.1 hov.1 _ rfl

/-! ### mpf/mul_2exp.c, div_2exp.c -/

/-- rshift path: the high n limbs stored at rp[1, n], then the low limb at rp[0] -/
theorem two_writes_hi_lo (L full : List Nat) (n : Nat) (hf : full.length = n + 1) (hL : n + 1 ≤ L.length) :
    ((L.take 1 ++ full.drop 1 ++ L.drop (1 + (full.drop 1).length)).take 0 ++ full.take 1 ++
      (L.take 1 ++ full.drop 1 ++ L.drop (1 + (full.drop 1).length)).drop (0 + (full.take 1).length)) =
    full ++ L.drop (n + 1) := by
  match full, L, hf, hL with
  | h :: d, l0 :: L', hf, hL =>
    simp only [List.length_cons, Nat.add_right_cancel_iff] at hf
    simp [hf, Nat.add_comm]

/-- lshift path: the low n limbs stored at rp[0, n), then the carry limb at rp[n] -/
theorem two_writes_lo_hi (L full : List Nat) (n : Nat) (hf : full.length = n + 1) :
    ((L.take 0 ++ full.take n ++ L.drop (0 + (full.take n).length)).take n ++ full.drop n ++
      (L.take 0 ++ full.take n ++ L.drop (0 + (full.take n).length)).drop (n + (full.drop n).length)) =
    full ++ L.drop (n + 1) := by
  have h1 : (full.take n).length = n := by rw [List.length_take]; omega
  have h2 : (full.drop n).length = 1 := by rw [List.length_drop]; omega
  rw [h1, h2]
  simp only [List.take_zero, List.nil_append, Nat.zero_add]
  have e1 : (full.take n ++ L.drop n).take n = full.take n := by
    rw [List.take_append_of_le_length (by omega), List.take_of_length_le (by omega)]
  have e2 : (full.take n ++ L.drop n).drop (n + 1) = L.drop (n + 1) := by
    rw [List.drop_append, h1]
    have : (full.take n).drop (n + 1) = [] := List.drop_eq_nil_of_le (by omega)
    rw [this]; simp
  rw [e1, e2, List.take_append_drop]


theorem shiftUp_stored (limbs rest up full : List Nat) (n k : Nat) (hupl : up.length = n)
    (hfull : toLimbs (n + 1) (val up * 2 ^ k) = full) (hlim : limbs = full ++ rest) :
    (if Mpf.topLimb full ≠ 0 then 1 else 0) = (Mpf.shiftUp up k).2 ∧
    limbs.take (n + if Mpf.topLimb full ≠ 0 then 1 else 0) = (Mpf.shiftUp up k).1 ∧
    (limbs.take (n + if Mpf.topLimb full ≠ 0 then 1 else 0)).length = n + if Mpf.topLimb full ≠ 0 then 1 else 0 := by
  have hfl : full.length = n + 1 := by rw [← hfull, toLimbs_length]
  subst hlim
  simp only [Mpf.shiftUp, hupl, hfull, true_and]
  constructor
  · rw [List.take_append_of_le_length (by rw [hfl]; split <;> omega)]
  · rw [List.length_take, List.length_append, hfl]; split <;> omega

theorem shiftArm_spec (s : St) (x : Src) (k : Nat) (hs : s.ok = true) (hr : DestWF s.r) (hx : OpndWF (s.obj x)) :
    Fr s (shiftArm 0 s x k).1 ∧
    (shiftArm 0 s x k).2.2 = (Mpf.shiftUp (Mpf.top s.r.prec (s.obj x).view.d) k).2 ∧
    (shiftArm 0 s x k).1.r.blk.limbs.take ((shiftArm 0 s x k).2.1 + (shiftArm 0 s x k).2.2) =
      (Mpf.shiftUp (Mpf.top s.r.prec (s.obj x).view.d) k).1 ∧
    ((shiftArm 0 s x k).1.r.blk.limbs.take ((shiftArm 0 s x k).2.1 + (shiftArm 0 s x k).2.2)).length =
      (shiftArm 0 s x k).2.1 + (shiftArm 0 s x k).2.2 := by
  obtain ⟨hrb, hra⟩ := hr
  obtain ⟨hxb, hxa⟩ := hx
  have hxl : (s.obj x).size.natAbs ≤ (s.obj x).blk.limbs.length := by rw [hxb]; exact hxa
  have hsel := Mpf.top_eq_ite (s.obj x).blk.limbs (s.obj x).size.natAbs s.r.prec hxl
  unfold shiftArm
  simp only [Nat.add_zero, FObj.view]
  generalize hasz : (s.obj x).size.natAbs = asize at hxl hxa hsel
  generalize hP : s.r.prec = P at hra hsel
  rw [← hsel]
  have hrl : P + 1 ≤ s.r.blk.limbs.length := by rw [hrb]; exact hra
  by_cases c : asize > P
  · simp only [if_pos c]
    have A := rd_spec s x (asize - P) P hs (by omega)
    simp only [A.1, A.2]
    generalize hup : List.take P (List.drop (asize - P) (s.obj x).blk.limbs) = up
    have hupl : up.length = P := by rw [← hup, List.length_take, List.length_drop]; omega
    generalize hfull : toLimbs (P + 1) (val up * 2 ^ k) = full
    have hfl : full.length = P + 1 := by rw [← hfull, toLimbs_length]
    obtain ⟨F1, -, -, -, a9⟩ := (Fr.refl hs hrb).wrR 1 (full.drop 1) (by rw [List.length_drop]; omega)
    obtain ⟨F2, -, -, -, b9⟩ := F1.wrR 0 (full.take 1) (by rw [List.length_take]; omega)
    have T := rd_spec ((s.wrR 1 (full.drop 1)).wrR 0 (full.take 1)) .r P 1 F2.ok (by show P + 1 ≤ ((s.wrR 1 (full.drop 1)).wrR 0 (full.take 1)).r.blk.alloc; rw [F2.alloc]; exact hra)
    simp only [T.1]
    have hlim : ((s.wrR 1 (full.drop 1)).wrR 0 (full.take 1)).r.blk.limbs = full ++ s.r.blk.limbs.drop (P + 1) := by
      rw [b9, a9]; exact two_writes_hi_lo s.r.blk.limbs full P hfl hrl
    exact ⟨F2, shiftUp_stored _ _ up full _ k hupl hfull hlim⟩
  · simp only [if_neg c]
    have A := rd_spec s x 0 asize hs (by omega)
    simp only [A.1, A.2]
    generalize hup : List.take asize (List.drop 0 (s.obj x).blk.limbs) = up
    have hupl : up.length = asize := by rw [← hup, List.length_take, List.length_drop]; omega
    generalize hfull : toLimbs (asize + 1) (val up * 2 ^ k) = full
    have hfl : full.length = asize + 1 := by rw [← hfull, toLimbs_length]
    obtain ⟨F1, -, -, -, a9⟩ := (Fr.refl hs hrb).wrR 0 (full.take asize) (by rw [List.length_take]; omega)
    obtain ⟨F2, -, -, -, b9⟩ := F1.wrR asize (full.drop asize) (by rw [List.length_drop]; omega)
    have hlim : ((s.wrR 0 (full.take asize)).wrR asize (full.drop asize)).r.blk.limbs = full ++ s.r.blk.limbs.drop (asize + 1) := by
      rw [b9, a9]; exact two_writes_lo_hi s.r.blk.limbs full asize hfl
    exact ⟨F2, shiftUp_stored _ _ up full _ k hupl hfull hlim⟩


/-- the whole-limb arm (no copy when rp == up) -/
theorem copyArm_spec (s : St) (x : Src) (hs : s.ok = true) (hr : DestWF s.r) (hx : OpndWF (s.obj x)) :
    Fr s (copyArm 0 s x).1 ∧ (copyArm 0 s x).1.r.size = s.r.size ∧ (copyArm 0 s x).1.r.exp = s.r.exp ∧
    (copyArm 0 s x).1.r.blk.limbs.take (copyArm 0 s x).2 = Mpf.top (s.r.prec + 1) (s.obj x).view.d ∧
    (Mpf.top (s.r.prec + 1) (s.obj x).view.d).length = (copyArm 0 s x).2 := by
  obtain ⟨hrb, hra⟩ := hr
  obtain ⟨hxb, hxa⟩ := hx
  have hxl : (s.obj x).size.natAbs ≤ (s.obj x).blk.limbs.length := by rw [hxb]; exact hxa
  have hsel := Mpf.top_eq_ite (s.obj x).blk.limbs (s.obj x).size.natAbs (s.r.prec + 1) hxl
  unfold copyArm
  simp only [Nat.add_zero, FObj.view]
  generalize hasz : (s.obj x).size.natAbs = asize at hxl hxa hsel
  generalize hp1 : s.r.prec + 1 = p1 at hra hsel
  rw [← hsel]
  generalize hoff : (if asize > p1 then asize - p1 else 0) = off
  generalize hn : (if asize > p1 then p1 else asize) = n
  have hb1 : off + n ≤ (s.obj x).blk.alloc := by subst hoff hn; split <;> omega
  have hb2 : n ≤ s.r.blk.alloc := by subst hn; split <;> omega
  have hlen : (List.take n (List.drop off (s.obj x).blk.limbs)).length = n := by
    have := hxb; unfold BlkWF at this
    rw [List.length_take, List.length_drop]; omega
  by_cases c : x = .r ∧ off = 0
  · rw [if_pos c]
    obtain ⟨cx, co⟩ := c
    subst cx co
    exact ⟨⟨hs, rfl, rfl, rfl, rfl, hrb⟩, rfl, rfl, by simp [St.obj], hlen⟩
  · rw [if_neg c]
    obtain ⟨F, c5, c6, c9⟩ := (Fr.refl hs hrb).copyToR x off n hxb hb1 hb2
    exact ⟨F, c5, c6, c9, hlen⟩

/-- the common shape of mul_2exp.c:64-125 and div_2exp.c:70-131: left-shift count `k` (whole limbs when `wl`), new exponent
    `e1` in the whole-limb arm, `e2 + adj` in the shift arm -/
theorem twoExp_spec (s : St) (x : Src) (wl : Prop) [Decidable wl] (k : Nat) (e1 e2 : Int) (hs : s.ok = true) (hr : DestWF s.r)
    (hx : OpndWF (s.obj x)) (s' : St)
    (h : s' = if (s.obj x).size = 0 then s.setSE 0 0
      else if wl then
        (copyArm 0 s x).1.setSE (if (s.obj x).size ≥ 0 then ((copyArm 0 s x).2 : Int) else -((copyArm 0 s x).2 : Int)) e1
      else (shiftArm 0 s x k).1.setSE
        (if (s.obj x).size ≥ 0 then (((shiftArm 0 s x k).2.1 + (shiftArm 0 s x k).2.2 : Nat) : Int)
         else -(((shiftArm 0 s x k).2.1 + (shiftArm 0 s x k).2.2 : Nat) : Int)) (e2 + (shiftArm 0 s x k).2.2)) :
    Fr s s' ∧ s'.r.view =
      if (s.obj x).view.size = 0 then Mpf.zero s.r.prec
      else if wl then
        ⟨s.r.prec, if (s.obj x).view.size ≥ 0 then ((Mpf.top (s.r.prec + 1) (s.obj x).view.d).length : Int)
          else -((Mpf.top (s.r.prec + 1) (s.obj x).view.d).length : Int), e1, Mpf.top (s.r.prec + 1) (s.obj x).view.d⟩
      else
        ⟨s.r.prec, if (s.obj x).view.size ≥ 0 then ((Mpf.shiftUp (Mpf.top s.r.prec (s.obj x).view.d) k).1.length : Int)
          else -((Mpf.shiftUp (Mpf.top s.r.prec (s.obj x).view.d) k).1.length : Int),
          e2 + (Mpf.shiftUp (Mpf.top s.r.prec (s.obj x).view.d) k).2, (Mpf.shiftUp (Mpf.top s.r.prec (s.obj x).view.d) k).1⟩ := by
  subst h
  by_cases h0 : (s.obj x).size = 0
  · rw [if_pos h0, if_pos (show (s.obj x).view.size = 0 from h0)]
    exact ⟨⟨hs, rfl, rfl, rfl, rfl, hr.1⟩, rfl⟩
  · rw [if_neg h0, if_neg (show ¬ (s.obj x).view.size = 0 from h0)]
    by_cases h1 : wl
    · rw [if_pos h1, if_pos h1]
      obtain ⟨F, c1, c2, c3, c4⟩ := copyArm_spec s x hs hr hx
      refine ⟨F.setSE _ _, ?_⟩
      simp only [FObj.view] at c3 c4
      simp only [FObj.view, St.setSE, natAbs_ite_pos, c3, F.prec, c4]
    · rw [if_neg h1, if_neg h1]
      obtain ⟨F, c1, c2, c3⟩ := shiftArm_spec s x k hs hr hx
      refine ⟨F.setSE _ _, ?_⟩
      simp only [FObj.view] at c1 c2 c3 ⊢
      rw [c2] at c3
      generalize Mpf.shiftUp (Mpf.top s.r.prec (List.take (s.obj x).size.natAbs (s.obj x).blk.limbs)) k = S at c1 c2 c3 ⊢
      obtain ⟨rd, adj⟩ := S
      simp only at c1 c2 c3 ⊢
      rw [c1] at c2 c3
      simp only [St.setSE, natAbs_ite_pos, c2, F.prec, c3, c1]

/-! ### mpf/set_z.c, mpf/mul_ui.c -/

theorem mpf_set_z_spec (s : St) (zsize : Int) (zb : Blk) (z : Int) (hs : s.ok = true) (hr : DestWF s.r)
    (hzb : BlkWF zb) (hz : zsize.natAbs ≤ zb.alloc) (hl : zb.limbs.take zsize.natAbs = natLimbs z.natAbs)
    (hsg : zsize ≥ 0 ↔ z ≥ 0) :
    Fr s (mpf_set_z 0 s zsize zb) ∧ (mpf_set_z 0 s zsize zb).r.view = Mpf.set_z s.r.prec z := by
  obtain ⟨hrb, hra⟩ := hr
  have hzl : zsize.natAbs ≤ zb.limbs.length := by rw [hzb]; exact hz
  have hlen0 : (natLimbs z.natAbs).length = zsize.natAbs := by rw [← hl, List.length_take]; omega
  generalize hasz : zsize.natAbs = asize at hzl hz hl hlen0
  generalize hp1 : s.r.prec + 1 = p1 at hra
  have hsel := Mpf.top_eq_ite zb.limbs asize p1 hzl
  generalize hoff : (if asize > p1 then asize - p1 else 0) = off at hsel
  generalize hn : (if asize > p1 then p1 else asize) = n at hsel
  have hb1 : off + n ≤ zb.alloc := by subst hoff hn; split <;> omega
  have hb2 : n ≤ s.r.blk.alloc := by subst hn; split <;> omega
  generalize hsz : (if zsize ≥ 0 then (n : Int) else -(n : Int)) = sz
  have hszn : sz.natAbs = n := by subst hsz; exact natAbs_ite_pos _ n
  have hR := Blk.read_ok zb off n hzb hb1
  have e : mpf_set_z 0 s zsize zb = ((s.setSE sz (asize : Int)).wrR 0 (zb.read off n).1) := by
    simp only [mpf_set_z, Nat.add_zero, hasz, hp1, hoff, hn, hsz, hR.1, Bool.and_true]
  obtain ⟨F, -, c5, c6, c9⟩ := ((Fr.refl hs hrb).setSE sz (asize : Int)).wrR 0 (zb.read off n).1 (by rw [hR.2]; omega)
  have hrd : (zb.read off n).1 = Mpf.top p1 (natLimbs z.natAbs) := by rw [← hl, ← hsel]; rfl
  rw [e]
  refine ⟨F, ?_⟩
  have g1 : (s.setSE sz (asize : Int)).r.size = sz := rfl
  have g2 : (s.setSE sz (asize : Int)).r.exp = asize := rfl
  have ht : List.take n (((s.setSE sz (asize : Int)).wrR 0 (zb.read off n).1).r.blk.limbs) = (zb.read off n).1 := by
    rw [c9]; have := take_write0 (s.setSE sz (asize : Int)).r.blk.limbs (zb.read off n).1
    rw [hR.2] at this; rw [hR.2]; exact this
  have hlen : (Mpf.top p1 (natLimbs z.natAbs)).length = n := by rw [← hrd]; exact hR.2
  simp only [FObj.view, Mpf.set_z, F.prec, c5, c6, g1, g2, hszn, ht, hp1, hlen0]
  rw [hlen, ← hrd, ← hsz]
  by_cases hp : zsize ≥ 0
  · rw [if_pos hp, if_pos (hsg.mp hp)]
  · rw [if_neg hp, if_neg (fun h => hp (hsg.mpr h))]

theorem mpf_mul_ui_spec (s : St) (x : Src) (w : Nat) (hs : s.ok = true) (hr : DestWF s.r) (hx : OpndWF (s.obj x)) :
    Fr s (mpf_mul_ui 0 s x w) ∧ (mpf_mul_ui 0 s x w).r.view = Mpf.mul_ui s.r.prec (s.obj x).view w := by
  obtain ⟨hrb, hra⟩ := hr
  obtain ⟨hxb, hxa⟩ := hx
  by_cases hz : w = 0 ∨ (s.obj x).size = 0
  · have e : mpf_mul_ui 0 s x w = s.setSE 0 0 := by simp only [mpf_mul_ui, if_pos hz]
    rw [e]
    refine ⟨(Fr.refl hs hrb).setSE 0 0, ?_⟩
    unfold Mpf.mul_ui; rw [if_pos (show w = 0 ∨ (s.obj x).view.size = 0 from hz)]; rfl
  · have hxl : (s.obj x).size.natAbs ≤ (s.obj x).blk.limbs.length := by rw [hxb]; exact hxa
    generalize hasz : (s.obj x).size.natAbs = asize at hxl hxa
    generalize hP : s.r.prec = P at hra
    generalize hex : asize - P = excess
    generalize hn : (if excess > 0 then P else asize) = n
    have hn1 : excess + n = asize := by subst hex hn; split <;> omega
    have hn2 : n ≤ P := by subst hex hn; split <;> omega
    have hn' : (if asize > P then P else asize) = n := by subst hex hn; split <;> split <;> omega
    have r1 := rd_spec s x 0 excess hs (by omega)
    have r2 := rd_spec s x excess n hs (by omega)
    generalize hL : (s.obj x).blk.limbs = L at r1 r2 hxl
    have hcat : (L.drop 0).take excess ++ (L.drop excess).take n = L.take asize := by
      rw [← hn1, List.take_add]; simp
    generalize ht : val (L.take asize) * w / B ^ excess = t
    generalize hcy : t / B ^ n = cy
    generalize hc : (if cy ≠ 0 then 1 else 0 : Nat) = c
    have hc1 : c ≤ 1 := by subst hc; split <;> omega
    generalize hsz : (if (s.obj x).size ≥ 0 then ((n + c : Nat) : Int) else -((n + c : Nat) : Int)) = sz
    have hszn : sz.natAbs = n + c := by subst hsz; exact natAbs_ite_pos _ (n + c)
    have e : mpf_mul_ui 0 s x w = ((s.wrR 0 (toLimbs n t)).wrR n [cy]).setSE sz ((s.obj x).exp + c) := by
      simp only [mpf_mul_ui, if_neg hz, Nat.add_zero, hasz, hP, hex, hn, r1.1, r1.2, r2.1, r2.2, hcat, ht, hcy, hc, hsz]
    have hlen := toLimbs_length n t
    obtain ⟨F1, -, -, -, a9⟩ := (Fr.refl hs hrb).wrR 0 (toLimbs n t) (by rw [hlen]; omega)
    obtain ⟨F2, -, -, -, b9⟩ := F1.wrR n [cy] (by simp only [List.length_singleton]; omega)
    rw [e]
    refine ⟨F2.setSE _ _, ?_⟩
    have g1 : (((s.wrR 0 (toLimbs n t)).wrR n [cy]).setSE sz ((s.obj x).exp + c)).r.view =
        ⟨s.r.prec, sz, (s.obj x).exp + c, (((s.wrR 0 (toLimbs n t)).wrR n [cy]).r.blk.limbs).take (n + c)⟩ := by
      simp only [FObj.view, St.setSE, hszn, F2.prec]
    rw [g1, b9, a9]
    have := take_two_writes s.r.blk.limbs (toLimbs n t) cy c hc1
    rw [hlen] at this
    rw [hlen, this]
    unfold Mpf.mul_ui; rw [if_neg (show ¬ (w = 0 ∨ (s.obj x).view.size = 0) from hz)]
    have hlt : (List.take asize L).length = asize := by rw [List.length_take]; exact Nat.min_eq_left hxl
    simp only [FObj.view, hasz, hL, hlt, hP, hex, hn', ht, hcy]
    subst hc hsz
    by_cases h0 : cy = 0
    · simp [h0, hlen]
    · simp [h0, hlen]

end Mpir.AllocSafe7
