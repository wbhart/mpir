/- mpz_perfect_power_p (mpz/perfpow.c) answers the manual's question.
   One invariant carries both directions through the trial-division loop: for every exponent `b ≥ 2`,
     |u| is a b-th power  ⟺  b ∣ n2 ∧ the cofactor is a b-th power
   (`n2 = 0`: no constraint yet, `b ∣ 0`), so every exit of the function is an `↔` with "u is a perfect power".
   The prime table is the REGENERATED one (Gen/SqrtTabs.lean). -/
import MpirProofs.Lemmas.Iroot
import MpirProofs.Lemmas.Arith
import Mathlib.Data.Nat.Prime.Basic
namespace Mpir.Root
open Mpir Mpir.Gen.SqrtTabs

/-- the manual's definition: `op = a^b` for integers `a`, `b` with `b > 1`. -/
def IsPP (u : Int) : Prop := ∃ (a : Int) (b : Nat), 2 ≤ b ∧ a ^ b = u

def IsPow (b A : Nat) : Prop := ∃ t, A = t ^ b


theorem perfpowPrimes_head : perfpowPrimes = 2 :: perfpowPrimes.drop 1 := by decide +kernel

/-- every entry is below `32²` and has no divisor in `[2, 32)` other than itself: trial division up to the square root,
    checked by the kernel on the whole regenerated table. -/
theorem perfpowPrimes_prime_tab :
    perfpowPrimes.all (fun p => decide (2 ≤ p) && decide (p < 32 * 32) &&
      (List.range 32).all (fun d => decide (d < 2) || decide (p ≤ d) || p % d != 0)) = true := by
  decide +kernel

theorem perfpowPrimes_prime (p : Nat) (hp : p ∈ perfpowPrimes) : p.Prime := by
  have h := List.all_eq_true.mp perfpowPrimes_prime_tab p hp
  simp only [Bool.and_eq_true, decide_eq_true_eq, List.all_eq_true, List.mem_range, Bool.or_eq_true, bne_iff_ne,
    ne_eq] at h
  obtain ⟨⟨h2, hlt⟩, hdiv⟩ := h
  refine Nat.prime_def_le_sqrt.mpr ⟨h2, fun m hm2 hms hmd => ?_⟩
  have hmm : m * m ≤ p := Nat.le_sqrt.mp hms
  have hm32 : m < 32 := Nat.mul_self_lt_mul_self_iff.mp (by omega)
  have hmp : m < p := by
    have : m * 2 ≤ m * m := Nat.mul_le_mul_left _ hm2
    omega
  rcases hdiv m hm32 with (h | h) | h
  · omega
  · omega
  · exact h (Nat.mod_eq_zero_of_dvd hmd)

theorem perfpowPrimes_cover_tab :
    (List.range smallestOmittedPrime).all (fun d => decide (d < 2) || perfpowPrimes.any (fun p => d % p == 0)) = true := by
  decide +kernel

theorem perfpowPrimes_cover (d : Nat) (h2 : 2 ≤ d) (hd : d < smallestOmittedPrime) : ∃ p ∈ perfpowPrimes, p ∣ d := by
  have h := List.all_eq_true.mp perfpowPrimes_cover_tab d (List.mem_range.mpr hd)
  simp only [Bool.or_eq_true, decide_eq_true_eq, List.any_eq_true, beq_iff_eq] at h
  rcases h with h | ⟨p, hp, hm⟩
  · omega
  · exact ⟨p, hp, Nat.dvd_of_mod_eq_zero hm⟩


theorem exists_pow_mul_not_dvd {p : Nat} (hp : 2 ≤ p) : ∀ n : Nat, n ≠ 0 → ∃ e n', ¬ p ∣ n' ∧ n = p ^ e * n' := by
  intro n
  induction n using Nat.strong_induction_on with
  | _ n ih =>
    intro hn
    by_cases hd : p ∣ n
    · obtain ⟨c, rfl⟩ := hd
      have hc0 : c ≠ 0 := by rintro rfl; simp at hn
      have hlt : c < p * c := by nlinarith [Nat.pos_of_ne_zero hc0]
      obtain ⟨e, n', h1, h2⟩ := ih c hlt hc0
      exact ⟨e + 1, n', h1, by rw [pow_succ', Nat.mul_assoc, ← h2]⟩
    · exact ⟨0, n, hd, by simp⟩

theorem isPow_split {p : Nat} (hp : p.Prime) (n A' b : Nat) (hb : 1 ≤ b) (hA' : ¬ p ∣ A') :
    IsPow b (p ^ n * A') ↔ b ∣ n ∧ IsPow b A' := by
  constructor
  · rintro ⟨t, ht⟩
    have ht0 : t ≠ 0 := by
      rintro rfl
      rw [Nat.zero_pow (by omega)] at ht
      rcases Nat.mul_eq_zero.mp ht with h | h
      · exact absurd h (Nat.ne_of_gt (Nat.pow_pos hp.pos))
      · exact hA' (h ▸ Nat.dvd_zero p)
    obtain ⟨e, t', hnd, rfl⟩ := exists_pow_mul_not_dvd hp.two_le t ht0
    rw [mul_pow, ← pow_mul] at ht
    have hnd' : ¬ p ∣ t' ^ b := fun h => hnd (hp.dvd_of_dvd_pow h)
    obtain ⟨e1, e2⟩ := pow_mul_unique hp.two_le _ _ _ _ ht hA' hnd'
    exact ⟨⟨e, by rw [e1, Nat.mul_comm]⟩, t', e2⟩
  · rintro ⟨⟨c, rfl⟩, t', rfl⟩
    exact ⟨p ^ c * t', by rw [mul_pow, ← pow_mul, Nat.mul_comm c b]⟩

theorem isPow_iff_iroot (m a : Nat) (hm : 0 < m) : IsPow m a ↔ iroot m a ^ m = a := by
  constructor
  · rintro ⟨t, rfl⟩; rw [iroot_pow t m hm]
  · intro h; exact ⟨_, h.symm⟩

theorem isPow_of_dvd {b m A : Nat} (hd : m ∣ b) (h : IsPow b A) : IsPow m A := by
  obtain ⟨c, rfl⟩ := hd
  obtain ⟨t, rfl⟩ := h
  exact ⟨t ^ c, by rw [← pow_mul, Nat.mul_comm]⟩


theorem isPP_of_mag (u : Int) (Y b : Nat) (hb : 2 ≤ b) (hodd : u < 0 → b % 2 = 1)
    (h : u.natAbs = Y ^ b) : IsPP u := by
  rcases lt_or_ge u 0 with hu | hu
  · refine ⟨-(Y : Int), b, hb, ?_⟩
    have ho : Odd b := Nat.odd_iff.mpr (hodd hu)
    rw [Odd.neg_pow ho]
    have : (u.natAbs : Int) = -u := Int.ofNat_natAbs_of_nonpos (le_of_lt hu)
    have h2 : ((Y ^ b : Nat) : Int) = -u := by rw [← h]; exact this
    push_cast at h2; rw [h2]; ring
  · refine ⟨(Y : Int), b, hb, ?_⟩
    have : (u.natAbs : Int) = u := Int.natAbs_of_nonneg hu
    rw [← this, h]; push_cast; rfl

theorem isPP_iff_mag (u : Int) : IsPP u ↔ ∃ b, 2 ≤ b ∧ (u < 0 → b % 2 = 1) ∧ IsPow b u.natAbs := by
  constructor
  · rintro ⟨a, b, hb, rfl⟩
    refine ⟨b, hb, fun hneg => ?_, a.natAbs, Int.natAbs_pow a b⟩
    by_contra hc
    have he : Even b := Nat.even_iff.mpr (by omega)
    have := he.pow_nonneg a
    omega
  · rintro ⟨b, hb, hodd, t, ht⟩
    exact isPP_of_mag u t b hb hodd ht


theorem pow2P_two_pow (k : Nat) : pow2P (2 ^ k) = true := by
  unfold pow2P
  rw [Nat.and_two_pow_sub_one_eq_mod, Nat.mod_self]; rfl

theorem odd_divisor_of_not_pow2P (n : Nat) (hn : n ≠ 0) (h : pow2P n = false) :
    ∃ b, 3 ≤ b ∧ b % 2 = 1 ∧ b ∣ n := by
  obtain ⟨k, m, hm, e⟩ := exists_pow_mul_not_dvd (Nat.le_refl 2) n hn
  have hodd : m % 2 = 1 := by
    have := Nat.mod_two_eq_zero_or_one m
    have : ¬ m % 2 = 0 := fun h0 => hm (Nat.dvd_of_mod_eq_zero h0)
    omega
  by_cases h1 : m = 1
  · subst h1; rw [Nat.mul_one] at e; subst e
    rw [pow2P_two_pow] at h; exact absurd h (by simp)
  · exact ⟨m, by omega, hodd, ⟨2 ^ k, by rw [e, Nat.mul_comm]⟩⟩

theorem pow2P_true (n : Nat) (hn : n ≠ 0) (h : pow2P n = true) : ∃ k, n = 2 ^ k := by
  unfold pow2P at h
  exact (Nat.and_sub_one_eq_zero_iff_isPowerOfTwo hn).mp (by simpa using h)

theorem odd_dvd_pow2P (n b : Nat) (hn : n ≠ 0) (h : pow2P n = true) (hb : b ∣ n) (hodd : b % 2 = 1) : b = 1 := by
  obtain ⟨k, rfl⟩ := pow2P_true n hn h
  obtain ⟨j, -, rfl⟩ := (Nat.dvd_prime_pow Nat.prime_two).mp hb
  cases j with
  | zero => rfl
  | succ j => rw [pow_succ] at hodd; omega

theorem isprimeGo_iff (t : Nat) (ht : 3 ≤ t) (hodd : t % 2 = 1) : ∀ (fuel d : Nat), d % 2 = 1 → 3 ≤ d →
    (∀ e, 2 ≤ e → e < d → ¬ e ∣ t) → t < d + 2 * fuel → (isprimeGo t fuel d = true ↔ t.Prime)
  | 0, d, _, _, hnd, hf => by
    exact absurd (Nat.dvd_refl t) (hnd t (by omega) (by omega))
  | fuel + 1, d, hd, hd3, hnd, hf => by
    unfold isprimeGo
    dsimp only
    by_cases hq : t / d < d
    · rw [if_pos hq]
      simp only [true_iff]
      rw [Nat.prime_def_le_sqrt]
      refine ⟨by omega, fun m hm2 hms hmd => ?_⟩
      have h1 : m * m ≤ t := Nat.le_sqrt.mp hms
      have h2 : t < d * d := by
        have := (Nat.div_lt_iff_lt_mul (by omega : 0 < d)).mp hq
        exact this
      have : m < d := by
        by_contra hc
        have : d * d ≤ m * m := Nat.mul_le_mul (by omega) (by omega)
        omega
      exact hnd m hm2 this hmd
    · rw [if_neg hq]
      have hdd : d * d ≤ t := by
        have : d ≤ t / d := by omega
        calc d * d ≤ t / d * d := Nat.mul_le_mul_right _ this
          _ ≤ t := Nat.div_mul_le_self _ _
      by_cases hr : t - t / d * d = 0
      · rw [if_pos hr]
        simp only [Bool.false_eq_true, false_iff]
        intro hp
        have hdvd : d ∣ t := by
          have := Nat.div_mul_le_self t d
          exact ⟨t / d, by rw [Nat.mul_comm]; omega⟩
        rcases hp.eq_one_or_self_of_dvd d hdvd with h | h
        · omega
        · have : 3 * d ≤ d * d := Nat.mul_le_mul_right _ hd3
          omega
      · rw [if_neg hr]
        refine isprimeGo_iff t ht hodd fuel (d + 2) (by omega) (by omega) (fun e he2 hed => ?_) (by omega)
        by_cases h1 : e < d
        · exact hnd e he2 h1
        · by_cases h2 : e = d
          · subst h2
            intro hdvd
            apply hr
            obtain ⟨c, hc⟩ := hdvd
            rw [hc, Nat.mul_div_cancel_left _ (by omega : 0 < e), Nat.mul_comm]; omega
          · have h3 : e = d + 1 := by omega
            subst h3
            intro hdvd
            have : 2 ∣ t := Nat.dvd_trans ⟨(d + 1) / 2, by omega⟩ hdvd
            omega

theorem isprime_iff (t : Nat) : isprime t = true ↔ t.Prime := by
  unfold isprime
  by_cases h : t < 3 ∨ t % 2 = 0
  · rw [if_pos h]
    simp only [beq_iff_eq]
    constructor
    · rintro rfl; exact Nat.prime_two
    · intro hp
      rcases h with h | h
      · have := hp.two_le; omega
      · rcases hp.eq_one_or_self_of_dvd 2 (Nat.dvd_of_mod_eq_zero h) with h2 | h2 <;> omega
  · rw [if_neg h]
    exact isprimeGo_iff t (by omega) (by omega) t 3 (by norm_num) (by norm_num)
      (fun e he2 he3 hd => by
        have : e = 2 := by omega
        subst this
        have := Nat.mod_eq_zero_of_dvd hd
        omega) (by omega)

theorem stripPrime_max (p : Nat) (hp : 2 ≤ p) : ∀ (fuel a n : Nat), 0 < a → a < 2 ^ fuel →
    ∃ t, stripPrime p fuel a n = (a / p ^ t, n + t) ∧ p ^ t ∣ a ∧ ¬ p ∣ a / p ^ t
  | 0, a, n, h0, hf => by simp at hf; omega
  | fuel + 1, a, n, h0, hf => by
    unfold stripPrime
    by_cases h : a % p = 0
    · rw [if_pos h]
      have hdv : p ∣ a := Nat.dvd_of_mod_eq_zero h
      have hlt : a / p < 2 ^ fuel := by
        have : a / p ≤ a / 2 := Nat.div_le_div_left hp (by omega)
        rw [pow_succ] at hf; omega
      have hpos : 0 < a / p := Nat.div_pos (Nat.le_of_dvd h0 hdv) (by omega)
      obtain ⟨t, e, d, o⟩ := stripPrime_max p hp fuel (a / p) (n + 1) hpos hlt
      refine ⟨t + 1, by rw [e, Nat.div_div_eq_div_mul, ← pow_succ']; congr 1; omega, ?_, ?_⟩
      · obtain ⟨q, hq⟩ := d
        exact ⟨q, by rw [pow_succ', Nat.mul_assoc, ← hq, Nat.mul_div_cancel' hdv]⟩
      · rw [pow_succ', ← Nat.div_div_eq_div_mul]; exact o
    · rw [if_neg h]
      exact ⟨0, by simp, by simp, by simpa using fun hd => h (Nat.mod_eq_zero_of_dvd hd)⟩

theorem scan1Go_eq_stripPrime : ∀ (fuel a c : Nat), scan1Go fuel a c = (stripPrime 2 fuel a c).2
  | 0, a, c => rfl
  | fuel + 1, a, c => by
    unfold scan1Go stripPrime
    split
    · exact scan1Go_eq_stripPrime fuel _ _
    · rfl

/-- `mpz_scan1 (u, 0)` splits off the odd part. -/
theorem scan1_spec (a : Nat) (ha : 0 < a) : a = 2 ^ scan1 a * (a >>> scan1 a) ∧ (a >>> scan1 a) % 2 = 1 := by
  obtain ⟨t, e, d, o⟩ := stripPrime_max 2 (Nat.le_refl 2) (bitLen a) a 0 ha (bitLen_spec a ha).2.1
  unfold scan1
  rw [scan1Go_eq_stripPrime, e, Nat.zero_add, Nat.shiftRight_eq_div_pow]
  refine ⟨(Nat.mul_div_cancel' d).symm, ?_⟩
  generalize a / 2 ^ t = q at o ⊢
  omega

/-- for every exponent `b ≥ 2`: `A` is a b-th power iff `b ∣ n2` and the cofactor `a` is. -/
def PPInv (A a n2 : Nat) : Prop := ∀ b, 2 ≤ b → (IsPow b A ↔ b ∣ n2 ∧ IsPow b a)

/-- the exponents allowed by the sign. -/
def ExpOK (u : Int) (b : Nat) : Prop := 2 ≤ b ∧ (u < 0 → b % 2 = 1)

theorem isPP_inv {u : Int} {a n2 : Nat} (hinv : PPInv u.natAbs a n2) :
    IsPP u ↔ ∃ b, ExpOK u b ∧ b ∣ n2 ∧ IsPow b a := by
  rw [isPP_iff_mag]
  constructor
  · rintro ⟨b, h1, h2, h3⟩; exact ⟨b, ⟨h1, h2⟩, (hinv b h1).mp h3⟩
  · rintro ⟨b, ⟨h1, h2⟩, h3⟩; exact ⟨b, h1, h2, (hinv b h1).mpr h3⟩

/-- `exact = mpz_root (q, u2, nth)` under the contract of mpn_rootrem at this operand and index. -/
theorem rootExact_spec (a nth : Nat) (hrr : 2 ≤ nth → RootremAt a nth) (ha : 0 < a) (hn : 1 ≤ nth) :
    rootExact a nth = (iroot nth a, decide ((iroot nth a) ^ nth = a)) := by
  unfold rootExact
  rw [if_neg (by omega)]
  by_cases h1 : nth = 1
  · subst h1; simp [iroot_one]
  · obtain ⟨m, e, hb, -⟩ := (hrr (by omega)).result false
    rw [if_neg h1, e, ← hb]

theorem rootExact_iff (a m : Nat) (hrr : 2 ≤ m → RootremAt a m) (ha : 0 < a) (hm : 1 ≤ m) :
    (rootExact a m).2 = true ↔ IsPow m a := by
  rw [rootExact_spec a m hrr ha hm, isPow_iff_iroot m a (by omega)]
  simp

/-- label `n2prime:` with a prime `n2`: the only exponent left is `n2` itself. -/
theorem ppN2prime_iff (u : Int) (a n2 : Nat) (hp : n2.Prime) (hrr : RootremAt a n2) (ha : 0 < a)
    (hinv : PPInv u.natAbs a n2) : ppN2prime (decide (u < 0)) a n2 = true ↔ IsPP u := by
  have hex := rootExact_iff a n2 (fun _ => hrr) ha hp.one_le
  unfold ppN2prime
  constructor
  · intro h
    split at h
    · exact absurd h (by simp)
    · next hc =>
      refine (isPP_inv hinv).mpr ⟨n2, ⟨hp.two_le, fun hneg => ?_⟩, Nat.dvd_refl _, hex.mp h⟩
      rcases hp.eq_two_or_odd with h2 | h2
      · simp [h2, hneg] at hc
      · exact h2
  · intro h
    obtain ⟨b, ⟨hb2, hbo⟩, hd, hpw⟩ := (isPP_inv hinv).mp h
    obtain rfl : b = n2 := by
      rcases hp.eq_one_or_self_of_dvd b hd with h1 | h1
      · omega
      · exact h1
    rw [if_neg]
    · exact hex.mpr hpw
    · simp only [Bool.and_eq_true, decide_eq_true_eq]
      rintro ⟨rfl, hneg⟩
      have := hbo hneg
      omega

/-- "factoring completed": with cofactor 1 every divisor `b ≥ 2` of `g` is an exponent; a negative number needs an odd one. -/
theorem ppDone_iff (u : Int) (g : Nat) (hg : 2 ≤ g) (hinv : PPInv u.natAbs 1 g) :
    (!(decide (u < 0) && pow2P g)) = true ↔ IsPP u := by
  rw [isPP_inv hinv]
  simp only [Bool.not_eq_true', Bool.and_eq_false_iff, decide_eq_false_iff_not]
  constructor
  · rintro (h | h)
    · exact ⟨g, ⟨hg, fun hn => absurd hn h⟩, Nat.dvd_refl _, 1, (Nat.one_pow _).symm⟩
    · obtain ⟨b, b1, b2, b3⟩ := odd_divisor_of_not_pow2P g (by omega) h
      exact ⟨b, ⟨by omega, fun _ => b2⟩, b3, 1, (Nat.one_pow _).symm⟩
  · rintro ⟨b, ⟨hb2, hbo⟩, hd, -⟩
    by_cases hneg : u < 0
    · right
      by_contra hc
      have := odd_dvd_pow2P g b (by omega) (by simpa using hc) hd (hbo hneg)
      omega
    · exact Or.inl hneg

/-- a "no" exit is right when no admissible exponent is left. -/
theorem no_exponent {u : Int} {a n2 : Nat} (hinv : PPInv u.natAbs a n2)
    (h : ∀ b, ExpOK u b → b ∣ n2 → IsPow b a → False) : (false = true ↔ IsPP u) :=
  iff_of_false (by simp) fun hpp => by
    obtain ⟨b, h1, h2, h3⟩ := (isPP_inv hinv).mp hpp
    exact h b h1 h2 h3

theorem no_exponent_one {u : Int} {a n2 : Nat} (hinv : PPInv u.natAbs a n2) (h : n2 = 1) : (false = true ↔ IsPP u) :=
  no_exponent hinv fun b hb hd _ => by
    rw [h] at hd; have := Nat.le_of_dvd (by omega) hd; have := hb.1; omega

/-- a negative number whose `n2` divides a power of two has no odd exponent. -/
theorem no_exponent_neg_pow2 {u : Int} {a n2 : Nat} (hinv : PPInv u.natAbs a n2) (hneg : u < 0) (n : Nat) (hn : n ≠ 0)
    (hp : pow2P n = true) (hd : n2 ∣ n) : (false = true ↔ IsPP u) :=
  no_exponent hinv fun b hb hbd _ => by
    have := odd_dvd_pow2P n b hn hp (Nat.dvd_trans hbd hd) (hb.2 hneg); have := hb.1; omega


/-- The trial-division loop: an early answer is right; falling through keeps the invariant and leaves a cofactor that
    none of the primes tried divides. -/
theorem ppFactor_iff (u : Int) (hrr : ∀ a k, 0 < a → 2 ≤ k → a ∣ u.natAbs → RootremAt a k) :
    ∀ (ps : List Nat) (a n2 : Nat), (∀ p ∈ ps, p.Prime) → 0 < a → a ∣ u.natAbs → PPInv u.natAbs a n2 →
    match ppFactor (decide (u < 0)) ps a n2 with
    | .inl b => (b = true ↔ IsPP u)
    | .inr (a', n2') => 0 < a' ∧ a' ∣ a ∧ PPInv u.natAbs a' n2' ∧ ∀ p ∈ ps, ¬ p ∣ a'
  | [], a, n2, _, ha, _, hinv => by
    simp only [ppFactor]
    exact ⟨ha, Nat.dvd_refl a, hinv, fun p hp => by simp at hp⟩
  | p :: ps, a, n2, hps, ha, hau, hinv => by
    have hpp : p.Prime := hps p (by simp)
    have hps' : ∀ q ∈ ps, q.Prime := fun q hq => hps q (List.mem_cons_of_mem _ hq)
    -- the answer for a shorter list and a smaller cofactor is the answer here, with `p` added to the primes tried
    have pass : ∀ a' g, a' ∣ a → ¬ p ∣ a' →
        (match ppFactor (decide (u < 0)) ps a' g with
          | .inl b => (b = true ↔ IsPP u)
          | .inr (a'', n2'') => 0 < a'' ∧ a'' ∣ a' ∧ PPInv u.natAbs a'' n2'' ∧ ∀ q ∈ ps, ¬ q ∣ a'') →
        (match ppFactor (decide (u < 0)) ps a' g with
          | .inl b => (b = true ↔ IsPP u)
          | .inr (a'', n2'') => 0 < a'' ∧ a'' ∣ a ∧ PPInv u.natAbs a'' n2'' ∧ ∀ q ∈ p :: ps, ¬ q ∣ a'') := by
      intro a' g ha'a hpa' key
      generalize ppFactor (decide (u < 0)) ps a' g = res at *
      cases res with
      | inl b => exact key
      | inr pr =>
        obtain ⟨k1, k2, k3, k4⟩ := key
        refine ⟨k1, Nat.dvd_trans k2 ha'a, k3, fun q hq => ?_⟩
        rcases List.mem_cons.mp hq with rfl | hq'
        · exact fun hd => hpa' (Nat.dvd_trans hd k2)
        · exact k4 q hq'
    unfold ppFactor
    by_cases h1 : a % p = 0
    · rw [if_pos h1]
      by_cases h2 : a % (p * p) ≠ 0
      · -- p divides exactly once
        rw [if_pos h2]
        refine no_exponent hinv fun b hb _ hpw => ?_
        obtain ⟨c, hc⟩ := Nat.dvd_of_mod_eq_zero h1
        have hnc : ¬ p ∣ c := by
          rintro ⟨d, rfl⟩
          apply h2
          rw [hc]; exact Nat.mod_eq_zero_of_dvd ⟨d, by ring⟩
        have := (isPow_split hpp 1 c b (by have := hb.1; omega) hnc).mp (by rw [pow_one, ← hc]; exact hpw)
        have := Nat.le_of_dvd (by omega) this.1
        have := hb.1
        omega
      · rw [if_neg h2]
        have hdv2 : p * p ∣ a := Nat.dvd_of_mod_eq_zero (by simpa using h2)
        have hpos2 : 0 < a / (p * p) := Nat.div_pos (Nat.le_of_dvd ha hdv2) (Nat.mul_pos hpp.pos hpp.pos)
        have hlt2 : a / (p * p) < 2 ^ bitLen a :=
          Nat.lt_of_le_of_lt (Nat.div_le_self _ _) (bitLen_spec a ha).2.1
        obtain ⟨t, e, d, o⟩ := stripPrime_max p hpp.two_le (bitLen a) (a / (p * p)) 2 hpos2 hlt2
        rw [e]
        dsimp only
        -- a = p^(2+t) · a'
        have ha_eq : a = p ^ (2 + t) * (a / (p * p) / p ^ t) := by
          have e1 : a = p * p * (a / (p * p)) := (Nat.mul_div_cancel' hdv2).symm
          have e2 : a / (p * p) = p ^ t * (a / (p * p) / p ^ t) := (Nat.mul_div_cancel' d).symm
          rw [pow_add, pow_two, Nat.mul_assoc, ← e2, ← e1]
        generalize a / (p * p) / p ^ t = a' at *
        generalize hn : 2 + t = n at *
        have ha' : 0 < a' := by
          rcases Nat.eq_zero_or_pos a' with h0 | h0
          · rw [h0, Nat.mul_zero] at ha_eq; omega
          · exact h0
        have ha'a : a' ∣ a := ⟨p ^ n, by rw [ha_eq, Nat.mul_comm]⟩
        -- the invariant after this prime
        have hinv' : PPInv u.natAbs a' (Nat.gcd n2 n) := by
          intro b hb
          rw [hinv b hb, ha_eq, isPow_split hpp n a' b (by omega) o, Nat.dvd_gcd_iff]
          tauto
        by_cases h3 : (pow2P n && decide (u < 0)) = true
        · rw [if_pos h3]
          simp only [Bool.and_eq_true, decide_eq_true_eq] at h3
          exact no_exponent_neg_pow2 hinv' h3.2 n (by omega) h3.1 (Nat.gcd_dvd_right _ _)
        · rw [if_neg h3]
          by_cases h4 : Nat.gcd n2 n = 1
          · rw [if_pos h4]
            exact no_exponent_one hinv' h4
          · rw [if_neg h4]
            have hg : 2 ≤ Nat.gcd n2 n := by
              have : 0 < Nat.gcd n2 n := Nat.gcd_pos_of_pos_right _ (by omega)
              omega
            generalize Nat.gcd n2 n = g at *
            by_cases h5 : a' = 1
            · rw [if_pos h5]
              subst h5
              exact ppDone_iff u g hg hinv'
            · rw [if_neg h5]
              by_cases h6 : isprime g = true
              · rw [if_pos h6]
                exact ppN2prime_iff u a' g ((isprime_iff g).mp h6)
                  (hrr a' g ha' hg (Nat.dvd_trans ha'a hau)) ha' hinv'
              · rw [if_neg h6]
                exact pass a' g ha'a o (ppFactor_iff u hrr ps a' g hps' ha' (Nat.dvd_trans ha'a hau) hinv')
    · rw [if_neg h1]
      exact pass a n2 (Nat.dvd_refl a) (fun hd => h1 (Nat.mod_eq_zero_of_dvd hd))
        (ppFactor_iff u hrr ps a n2 hps' ha hau hinv)

/- The model writes the root-attempt loop out twice (`none` / `some n2`); three equations hide the copies. -/

/-- `nth` is an index the loop tries: prime, and a divisor of `n2` in the bounded loop. -/
def Tried (bound : Option Nat) (m : Nat) : Prop := m.Prime ∧ ∀ n2, bound = some n2 → m ∣ n2

theorem ppRoots_stop {a fuel nth n2 : Nat} (h : n2 < nth) : ppRoots a (some n2) (fuel + 1) nth = false := by
  simp [ppRoots, h]

theorem ppRoots_skip {a fuel nth : Nat} {bound : Option Nat} (hin : ∀ n2, bound = some n2 → nth ≤ n2)
    (h : ¬ Tried bound nth) : ppRoots a bound (fuel + 1) nth = ppRoots a bound fuel (nth + 1) := by
  unfold Tried at h
  rw [← isprime_iff] at h
  cases bound with
  | none => simp at h; simp [ppRoots, h]
  | some n2 =>
    have := hin n2 rfl
    simp only [Option.some.injEq, forall_eq', Nat.dvd_iff_mod_eq_zero] at h
    rw [ppRoots]
    simp only [Nat.not_lt.mpr this, if_false]
    rw [if_pos]
    by_cases hp : isprime nth = true
    · simp only [hp, Bool.not_true, Bool.false_or, bne_iff_ne, ne_eq]; exact fun h' => h ⟨hp, h'⟩
    · simp [hp]

theorem ppRoots_try {a fuel nth : Nat} {bound : Option Nat} (hin : ∀ n2, bound = some n2 → nth ≤ n2)
    (h : Tried bound nth) : ppRoots a bound (fuel + 1) nth =
      ((rootExact a nth).2 || (!decide ((rootExact a nth).1 < smallestOmittedPrime) && ppRoots a bound fuel (nth + 1))) := by
  unfold Tried at h
  rw [← isprime_iff] at h
  cases bound with
  | none =>
    rw [ppRoots]
    simp only [h.1, Bool.not_true, Bool.false_eq_true, if_false]
    rcases rootExact a nth with ⟨q, _ | _⟩ <;> by_cases hq : q < smallestOmittedPrime <;> simp [hq]
  | some n2 =>
    have := hin n2 rfl
    have hm : n2 % nth = 0 := Nat.mod_eq_zero_of_dvd (h.2 n2 rfl)
    rw [ppRoots]
    simp only [Nat.not_lt.mpr this, if_false, h.1, hm, Bool.not_true, bne_self_eq_false, Bool.or_self, Bool.false_eq_true]
    rcases rootExact a nth with ⟨q, _ | _⟩ <;> by_cases hq : q < smallestOmittedPrime <;> simp [hq]

theorem exists_range_succ (P : Nat → Prop) (nth fuel : Nat) :
    (∃ m, nth ≤ m ∧ m < nth + (fuel + 1) ∧ P m) ↔ P nth ∨ ∃ m, nth + 1 ≤ m ∧ m < nth + 1 + fuel ∧ P m := by
  constructor
  · rintro ⟨m, h1, h2, h3⟩
    rcases Nat.eq_or_lt_of_le h1 with rfl | h
    · exact Or.inl h3
    · exact Or.inr ⟨m, h, by omega, h3⟩
  · rintro (h | ⟨m, h1, h2, h3⟩)
    · exact ⟨nth, Nat.le_refl _, by omega, h⟩
    · exact ⟨m, by omega, by omega, h3⟩

/-- both root-attempt loops; `hbig` (no divisor below SMALLEST_OMITTED_PRIME) keeps the cut-off from firing too early. -/
theorem ppRoots_iff (a : Nat) (bound : Option Nat) (ha : 0 < a) (hrr : ∀ k, 2 ≤ k → RootremAt a k)
    (hpos : ∀ n2, bound = some n2 → 0 < n2)
    (hbig : ∀ t, 2 ≤ t → t ∣ a → smallestOmittedPrime ≤ t) :
    ∀ (fuel nth : Nat), 2 ≤ nth →
      (ppRoots a bound fuel nth = true ↔ ∃ m, nth ≤ m ∧ m < nth + fuel ∧ Tried bound m ∧ IsPow m a)
  | 0, nth, _ => by
    simp only [ppRoots, Bool.false_eq_true, false_iff]
    rintro ⟨m, h1, h2, -⟩; omega
  | fuel + 1, nth, h2 => by
    have ih := ppRoots_iff a bound ha hrr hpos hbig fuel (nth + 1) (by omega)
    rw [exists_range_succ (fun m => Tried bound m ∧ IsPow m a), ← ih]
    have hex := rootExact_iff a nth (hrr nth) ha (by omega)
    by_cases hin : ∀ n2, bound = some n2 → nth ≤ n2
    · by_cases ht : Tried bound nth
      · rw [ppRoots_try hin ht, Bool.or_eq_true, hex, Bool.and_eq_true]
        simp only [ht, true_and, Bool.not_eq_true', decide_eq_false_iff_not, Nat.not_lt]
        refine or_congr_right' fun hne => and_iff_right_of_imp fun hgo => ?_
        -- a later exponent `m` exists: the root at `nth` is at least the root at `m`, which has no small divisor
        obtain ⟨m, m1, -, -, t, ht⟩ := ih.mp hgo
        rw [rootExact_spec a nth (hrr nth) ha (by omega)]
        have ht2 : 2 ≤ t := by
          by_contra hc
          have : t = 0 ∨ t = 1 := by omega
          rcases this with rfl | rfl
          · rw [ht, Nat.zero_pow (by omega)] at ha; omega
          · exact hne ⟨1, by rw [ht, Nat.one_pow, Nat.one_pow]⟩
        have htb := hbig t ht2 (ht ▸ dvd_pow_self t (by omega))
        apply (le_iroot_iff (by omega)).mpr
        calc smallestOmittedPrime ^ nth ≤ t ^ nth := Nat.pow_le_pow_left htb _
          _ ≤ t ^ m := Nat.pow_le_pow_right (by omega) (by omega)
          _ = a := ht.symm
      · rw [ppRoots_skip hin ht]
        simp [ht]
    · -- beyond the bound `n2`: the loop has ended, and no divisor of `n2` is left
      push Not at hin
      obtain ⟨n2, rfl, hlt⟩ := hin
      rw [ppRoots_stop hlt, ih]
      simp only [Bool.false_eq_true, false_iff, not_or, not_exists, not_and]
      have hno : ∀ m, nth ≤ m → ¬ Tried (some n2) m := fun m hm ht => by
        have := Nat.le_of_dvd (hpos n2 rfl) (ht.2 n2 rfl); omega
      exact ⟨fun ht => absurd ht (hno nth (Nat.le_refl _)), fun m hm _ ht => absurd ht (hno m (by omega))⟩


theorem perfect_power_iff_at (u : Int) (hrr : ∀ a k, 0 < a → 2 ≤ k → a ∣ u.natAbs → RootremAt a k) :
    mpzPerfectPowerP u = true ↔ IsPP u := by
  unfold mpzPerfectPowerP
  by_cases h0 : u = 0
  · rw [if_pos h0]; subst h0; exact iff_of_true rfl ⟨0, 2, by omega, by norm_num⟩
  · rw [if_neg h0]
    dsimp only
    have hA : 0 < u.natAbs := Int.natAbs_pos.mpr h0
    obtain ⟨hsc, hodd⟩ := scan1_spec u.natAbs hA
    generalize scan1 u.natAbs = n2 at *
    have ha2 : 0 < u.natAbs >>> n2 := by
      rcases Nat.eq_zero_or_pos (u.natAbs >>> n2) with hz | hz
      · rw [hz] at hodd; simp at hodd
      · exact hz
    generalize u.natAbs >>> n2 = a2 at *
    have h2nd : ¬ 2 ∣ a2 := fun hd => by have := Nat.mod_eq_zero_of_dvd hd; omega
    have ha2u : a2 ∣ u.natAbs := ⟨2 ^ n2, by rw [hsc, Nat.mul_comm]⟩
    have hinv : PPInv u.natAbs a2 n2 := by
      intro b hb
      rw [hsc]
      exact isPow_split Nat.prime_two n2 a2 b (by omega) h2nd
    by_cases h1 : n2 = 1
    · rw [if_pos h1]
      exact no_exponent_one hinv h1
    · rw [if_neg h1]
      by_cases h2 : (decide (n2 > 1) && pow2P n2 && decide (u < 0)) = true
      · rw [if_pos h2]
        simp only [Bool.and_eq_true, decide_eq_true_eq] at h2
        exact no_exponent_neg_pow2 hinv h2.2 n2 (by omega) h2.1.2 (Nat.dvd_refl _)
      · rw [if_neg h2]
        by_cases h3 : isprime n2 = true
        · rw [if_pos h3]
          have hp := (isprime_iff n2).mp h3
          exact ppN2prime_iff u a2 n2 hp (hrr a2 n2 ha2 hp.two_le ha2u) ha2 hinv
        · rw [if_neg h3]
          have key := ppFactor_iff u hrr (perfpowPrimes.drop 1) a2 n2
            (fun p hp => perfpowPrimes_prime p (List.mem_of_mem_drop hp)) ha2 ha2u hinv
          generalize ppFactor (decide (u < 0)) (perfpowPrimes.drop 1) a2 n2 = res at *
          cases res with
          | inl r => exact key
          | inr pr =>
            obtain ⟨a3, n3⟩ := pr
            simp only at key ⊢
            obtain ⟨ha3, ha32, hinv3, hcop⟩ := key
            have ha3u : a3 ∣ u.natAbs := Nat.dvd_trans ha32 ha2u
            -- no small divisors are left
            have hbig : ∀ t, 2 ≤ t → t ∣ a3 → smallestOmittedPrime ≤ t := by
              intro t ht2 htd
              by_contra hc
              obtain ⟨p, hp, hpd⟩ := perfpowPrimes_cover t ht2 (by omega)
              rw [perfpowPrimes_head] at hp
              rcases List.mem_cons.mp hp with rfl | hp'
              · exact h2nd (Nat.dvd_trans hpd (Nat.dvd_trans htd ha32))
              · exact hcop p hp' (Nat.dvd_trans hpd htd)
            have hrr3 : ∀ k, 2 ≤ k → RootremAt a3 k := fun k hk => hrr a3 k ha3 hk ha3u
            -- both loops: "some index tried is an exponent of the cofactor"  ⟺  "some admissible exponent divides n3"
            have hs2 : 2 ≤ (if decide (u < 0) = true then 3 else 2) := by split <;> omega
            rw [isPP_inv hinv3]
            -- an index `m ≥ start` that the loops try is an admissible exponent, and the least prime factor of an
            -- admissible exponent is such an index
            have htried : ∀ m, m.Prime → (if decide (u < 0) = true then 3 else 2) ≤ m → ExpOK u m := fun m hm hst =>
              ⟨hm.two_le, fun hneg => by
                rcases hm.eq_two_or_odd with h | h
                · simp [hneg] at hst; omega
                · exact h⟩
            have hleast : ∀ b, ExpOK u b → (Nat.minFac b).Prime ∧ Nat.minFac b ∣ b ∧
                (if decide (u < 0) = true then 3 else 2) ≤ Nat.minFac b := fun b hb => by
              have hmp : (Nat.minFac b).Prime := Nat.minFac_prime (by have := hb.1; omega)
              refine ⟨hmp, Nat.minFac_dvd b, ?_⟩
              by_cases hneg : u < 0
              · simp only [hneg, decide_true, if_true]
                have := hmp.two_le
                have : Nat.minFac b ≠ 2 := fun h2 => by
                  have := Nat.mod_eq_zero_of_dvd (h2 ▸ Nat.minFac_dvd b)
                  have := hb.2 hneg
                  omega
                omega
              · simp only [hneg, decide_false, Bool.false_eq_true, if_false]; exact hmp.two_le
            by_cases h4 : n3 = 0
            · rw [if_pos h4, ppRoots_iff a3 none ha3 hrr3 (fun _ hh => by cases hh) hbig _ _ hs2]
              constructor
              · rintro ⟨m, m1, -, ⟨mp, -⟩, mpow⟩
                exact ⟨m, htried m mp m1, by rw [h4]; exact Nat.dvd_zero m, mpow⟩
              · rintro ⟨b, hb, -, hbp⟩
                by_cases ha31 : a3 = 1
                · -- the cofactor is 1: the first index tried (2, or 3 for a negative operand) is exact
                  refine ⟨_, Nat.le_refl _, by omega, ⟨?_, fun _ hh => by cases hh⟩, 1, by rw [ha31, Nat.one_pow]⟩
                  split
                  · exact Nat.prime_three
                  · exact Nat.prime_two
                · obtain ⟨hmp, hmd, hst⟩ := hleast b hb
                  obtain ⟨t, ht⟩ := isPow_of_dvd hmd hbp
                  refine ⟨_, hst, ?_, ⟨hmp, fun _ hh => by cases hh⟩, t, ht⟩
                  -- fuel: 2^m ≤ a3, so m < bits(a3)
                  have ht2 : 2 ≤ t := by
                    by_contra hc
                    have : t = 0 ∨ t = 1 := by omega
                    rcases this with rfl | rfl
                    · rw [Nat.zero_pow hmp.pos] at ht; omega
                    · rw [Nat.one_pow] at ht; exact ha31 ht
                  have h2t : 2 ^ Nat.minFac b ≤ a3 := by rw [ht]; exact Nat.pow_le_pow_left ht2 _
                  have hlt := (bitLen_spec a3 ha3).2.1
                  have : 2 ^ Nat.minFac b < 2 ^ bitLen a3 := by omega
                  have := (Nat.pow_lt_pow_iff_right (by norm_num : 1 < 2)).mp this
                  omega
            · rw [if_neg h4, ppRoots_iff a3 (some n3) ha3 hrr3 (fun n hh => by cases hh; omega) hbig _ _ hs2]
              constructor
              · rintro ⟨m, m1, -, ⟨mp, md⟩, mpow⟩
                exact ⟨m, htried m mp m1, md n3 rfl, mpow⟩
              · rintro ⟨b, hb, hbd, hbp⟩
                obtain ⟨hmp, hmd, hst⟩ := hleast b hb
                refine ⟨_, hst, ?_, ⟨hmp, fun n hh => by cases hh; exact Nat.dvd_trans hmd hbd⟩, isPow_of_dvd hmd hbp⟩
                have := Nat.le_of_dvd (by omega) (Nat.dvd_trans hmd hbd)
                omega

end Mpir.Root
