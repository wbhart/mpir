/- Refinement proof for the size-aware model of mpq/inv.c (Mpir/Model/AllocSafeMpz4.lean `mpq_inv`): in place the two blocks are
   exchanged; otherwise both fields are reallocated AFTER their new sizes have been stored (so `_mpz_realloc` runs on an object
   whose |SIZ| may exceed its ALLOC: it keeps the size because the new block is large enough) and the limbs are copied. -/
import MpirProofs.Lemmas.AllocSafeBit
import MpirProofs.Lemmas.AllocSafeTdiv
namespace Mpir.AllocSafe
open Mpir
open Mpir.Mpz (sgn natAbs_sgn)

/-- the sizes mpq_inv stores: `den = |num|`, `num = ±den` with the sign of the old numerator -/
def invNum (ns ds : Int) : Int := if ns < 0 then -ds else ds
def invDen (ns : Int) : Int := if ns < 0 then -ns else ns

theorem mpq_inv_inplace (s : St) (n d : Nat) (hs : s.ok = true) (hn : OWF (s.h n)) (hd : OWF (s.h d))
    (hn0 : (s.h n).size ≠ 0) (hnd : n ≠ d) :
    ∃ s', mpq_inv s n d n d = some s' ∧
      Safe2 s s' n d ⟨(s.h d).buf.alloc, invNum (s.h n).size (s.h d).size, (view (s.h d)).d⟩
        ⟨(s.h n).buf.alloc, invDen (s.h n).size, (view (s.h n)).d⟩ := by
  have hdn : d ≠ n := fun h => hnd h.symm
  unfold mpq_inv
  rw [show s.SIZ n = (s.h n).size from rfl, show s.SIZ d = (s.h d).size from rfl]
  have e0 : ((s.h n).size == 0) = false := by simpa using hn0
  simp only [e0, Bool.false_eq_true, if_false, beq_self_eq_true, if_true]
  refine ⟨_, rfl, by simpa using hs, ?_, ?_, ?_, ?_, ?_⟩
  · simp only [upd_other _ _ hnd, upd_same]
    simp only [St.setSize, upd_other _ _ hnd, upd_same, upd_other _ _ hdn]
    exact hd.1
  · simp only [upd_same]
    simp only [St.setSize, upd_other _ _ hnd, upd_same, upd_other _ _ hdn]
    exact hn.1
  · simp only [upd_other _ _ hnd, upd_same]
    simp only [St.setSize, upd_other _ _ hnd, upd_same, upd_other _ _ hdn, view, invNum]
    by_cases h : (s.h n).size < 0 <;> simp [h]
  · simp only [upd_same]
    simp only [St.setSize, upd_other _ _ hnd, upd_same, upd_other _ _ hdn, view, invDen]
    by_cases h : (s.h n).size < 0 <;> simp [h]
  · intro x hx1 hx2
    simp only [upd_other _ _ hx2, upd_other _ _ hx1]
    simp only [St.setSize, upd_other _ _ hx1, upd_other _ _ hx2]

theorem natAbs_invNum (ns ds : Int) : (invNum ns ds).natAbs = ds.natAbs := by
  unfold invNum; split <;> simp
theorem natAbs_invDen (ns : Int) : (invDen ns).natAbs = ns.natAbs := by
  unfold invDen; split <;> simp

theorem mpq_inv_distinct (s : St) (dn dd sn sd : Nat) (hs : s.ok = true)
    (hdn : OWF (s.h dn)) (hdd : OWF (s.h dd)) (hsn : OWF (s.h sn)) (hsd : OWF (s.h sd))
    (hn0 : (s.h sn).size ≠ 0) (h1 : dn ≠ dd) (h2 : dn ≠ sn) (h3 : dn ≠ sd) (h4 : dd ≠ sn) (h5 : dd ≠ sd) :
    ∃ s', mpq_inv s dn dd sn sd = some s' ∧
      Safe2 s s' dn dd
        ⟨(Mpz.grow (view (s.h dn)) (s.h sd).size.natAbs).alloc, invNum (s.h sn).size (s.h sd).size, (view (s.h sd)).d⟩
        ⟨(Mpz.grow (view (s.h dd)) (s.h sn).size.natAbs).alloc, invDen (s.h sn).size, (view (s.h sn)).d⟩ := by
  have h1' : dd ≠ dn := fun h => h1 h.symm
  unfold mpq_inv
  rw [show s.SIZ sn = (s.h sn).size from rfl, show s.SIZ sd = (s.h sd).size from rfl]
  have e0 : ((s.h sn).size == 0) = false := by simpa using hn0
  have e1 : (dn == sn) = false := by simpa using h2
  simp only [e0, e1, Bool.false_eq_true, if_false]
  refine ⟨_, rfl, ?_⟩
  have hb : (if decide ((s.h sn).size < 0) = true then -(s.h sd).size else (s.h sd).size) = invNum (s.h sn).size (s.h sd).size := by
    unfold invNum; by_cases h : (s.h sn).size < 0 <;> simp [h]
  have ha : (if decide ((s.h sn).size < 0) = true then -(s.h sn).size else (s.h sn).size) = invDen (s.h sn).size := by
    unfold invDen; by_cases h : (s.h sn).size < 0 <;> simp [h]
  rw [hb, ha, natAbs_invNum, natAbs_invDen]
  -- the state after the two size stores
  generalize hs0 : (s.setSize dd (invDen (s.h sn).size)).setSize dn (invNum (s.h sn).size (s.h sd).size) = s0
  have h0dn : s0.h dn = { s.h dn with size := invNum (s.h sn).size (s.h sd).size } := by
    rw [← hs0]; simp [St.setSize, upd_other _ _ h1]
  have h0dd : s0.h dd = { s.h dd with size := invDen (s.h sn).size } := by
    rw [← hs0]; simp [St.setSize, upd_other _ _ h1']
  have h0o : ∀ x, x ≠ dn → x ≠ dd → s0.h x = s.h x := by
    intro x hx1 hx2; rw [← hs0, setSize_other _ _ _ hx1, setSize_other _ _ _ hx2]
  have hok0 : s0.ok = true := by rw [← hs0]; simpa using hs
  -- the two reallocations
  have G1 := MPZ_REALLOC_grown' s0 dn (s.h sd).size.natAbs (by rw [h0dn]; simp [natAbs_invNum])
  have hal1 : ((MPZ_REALLOC s0 dn (s.h sd).size.natAbs).h dn).buf.alloc = (Mpz.grow (view (s.h dn)) (s.h sd).size.natAbs).alloc := by
    rw [G1.alloc, grow_alloc_max _ _ (by rw [h0dn]; exact hdn.alloc_pos), grow_alloc_max _ _ hdn.alloc_pos, h0dn]; rfl
  have hbdn1 := G1.bwf dn (by rw [h0dn]; exact hdn.1)
  have hroom1 := G1.room
  have hsize1 := G1.size
  have hfr1 := G1.other
  have hok1 : (MPZ_REALLOC s0 dn (s.h sd).size.natAbs).ok = true := by rw [G1.ok]; exact hok0
  generalize MPZ_REALLOC s0 dn (s.h sd).size.natAbs = s1 at *
  have h1dd : s1.h dd = s0.h dd := hfr1 dd h1'
  have G2 := MPZ_REALLOC_grown' s1 dd (s.h sn).size.natAbs (by rw [h1dd, h0dd]; simp [natAbs_invDen])
  have hal2 : ((MPZ_REALLOC s1 dd (s.h sn).size.natAbs).h dd).buf.alloc = (Mpz.grow (view (s.h dd)) (s.h sn).size.natAbs).alloc := by
    rw [G2.alloc, grow_alloc_max _ _ (by rw [h1dd, h0dd]; exact hdd.alloc_pos), grow_alloc_max _ _ hdd.alloc_pos, h1dd, h0dd]; rfl
  have hbdd2 := G2.bwf dd (by rw [h1dd, h0dd]; exact hdd.1)
  have hroom2 := G2.room
  have hsize2 := G2.size
  have hfr2 := G2.other
  have hok2 : (MPZ_REALLOC s1 dd (s.h sn).size.natAbs).ok = true := by rw [G2.ok]; exact hok1
  generalize MPZ_REALLOC s1 dd (s.h sn).size.natAbs = s2 at *
  have h2dn : s2.h dn = s1.h dn := hfr2 dn h1
  have h2sd : s2.h sd = s.h sd := by rw [hfr2 sd (fun h => h5 h.symm), hfr1 sd (fun h => h3 h.symm), h0o sd (fun h => h3 h.symm) (fun h => h5 h.symm)]
  have h2sn : s2.h sn = s.h sn := by rw [hfr2 sn (fun h => h4 h.symm), hfr1 sn (fun h => h2 h.symm), h0o sn (fun h => h2 h.symm) (fun h => h4 h.symm)]
  have Dsd : Den s2 (.ptr (s2.PTR sd)) (view (s.h sd)).d := by
    have := Den.of_owf (s := s2) (x := sd) (by rw [h2sd]; exact hsd)
    rw [h2sd] at this; exact this
  have Dsn : Den s2 (.ptr (s2.PTR sn)) (view (s.h sn)).d := by
    have := Den.of_owf (s := s2) (x := sn) (by rw [h2sn]; exact hsn)
    rw [h2sn] at this; exact this
  have hLd := view_d_length hsd
  have hLn := view_d_length hsn
  -- first copy
  obtain ⟨e3, ok3⟩ := Dsd.rd (s.h sd).size.natAbs (by rw [hLd])
  simp only [St.rdS, St.rdOkS] at e3 ok3
  rw [List.take_of_length_le (by rw [hLd])] at e3
  have W1 := Wrote.fresh s2 dn (view (s.h sd)).d true hok2 rfl (by rw [h2dn]; exact hbdn1) (view_limbs hsd)
    (by rw [hLd, h2dn]; exact hroom1)
  rw [chk_true] at W1
  -- second copy
  have h3dd : (s2.wr (s2.PTR dn) (view (s.h sd)).d).h dd = s2.h dd := W1.frame dd h1'
  have h3sn : (s2.wr (s2.PTR dn) (view (s.h sd)).d).h sn = s2.h sn := W1.frame sn (fun h => h2 h.symm)
  have hp3 : (s2.wr (s2.PTR dn) (view (s.h sd)).d).PTR dd = s2.PTR dd := by simp [St.PTR, h3dd]
  have hp3n : (s2.wr (s2.PTR dn) (view (s.h sd)).d).PTR sn = s2.PTR sn := by simp [St.PTR, h3sn]
  obtain ⟨e4, ok4⟩ := Dsn.rd (s.h sn).size.natAbs (by rw [hLn])
  simp only [St.rdS, St.rdOkS] at e4 ok4
  rw [List.take_of_length_le (by rw [hLn])] at e4
  obtain ⟨t1, t2⟩ := rd_of_h_eq (s' := s2.wr (s2.PTR dn) (view (s.h sd)).d) (s := s2) (p := s2.PTR sn) (by simpa using h3sn)
    (s.h sn).size.natAbs
  rw [e4] at t1
  rw [ok4] at t2
  have W2 := Wrote.fresh (s2.wr (s2.PTR dn) (view (s.h sd)).d) dd (view (s.h sn)).d true W1.ok rfl
    (by rw [h3dd]; exact hbdd2) (view_limbs hsn) (by rw [hLn, h3dd]; exact hroom2)
  rw [chk_true, hp3] at W2
  simp only [MPN_COPY, e3, ok3, chk_true, hp3, hp3n, t1, t2]
  have h4dn : ((s2.wr (s2.PTR dn) (view (s.h sd)).d).wr (s2.PTR dd) (view (s.h sn)).d).h dn =
      (s2.wr (s2.PTR dn) (view (s.h sd)).d).h dn := W2.frame dn h1
  have hsz_dn : (((s2.wr (s2.PTR dn) (view (s.h sd)).d).wr (s2.PTR dd) (view (s.h sn)).d).h dn).size = invNum (s.h sn).size (s.h sd).size := by
    rw [wr_size, wr_size, hsize2, hsize1, h0dn]
  have hsz_dd : (((s2.wr (s2.PTR dn) (view (s.h sd)).d).wr (s2.PTR dd) (view (s.h sn)).d).h dd).size = invDen (s.h sn).size := by
    rw [wr_size, wr_size, hsize2, hsize1, h0dd]
  refine ⟨W2.ok, ?_, W2.bwf, ?_, ?_, ?_⟩
  · rw [h4dn]; exact W1.bwf
  · rw [show view (((s2.wr (s2.PTR dn) (view (s.h sd)).d).wr (s2.PTR dd) (view (s.h sn)).d).h dn) =
        ⟨(((s2.wr (s2.PTR dn) (view (s.h sd)).d).wr (s2.PTR dd) (view (s.h sn)).d).h dn).buf.alloc,
         (((s2.wr (s2.PTR dn) (view (s.h sd)).d).wr (s2.PTR dd) (view (s.h sn)).d).h dn).size,
         (((s2.wr (s2.PTR dn) (view (s.h sd)).d).wr (s2.PTR dd) (view (s.h sn)).d).h dn).buf.limbs.take
           (((s2.wr (s2.PTR dn) (view (s.h sd)).d).wr (s2.PTR dd) (view (s.h sn)).d).h dn).size.natAbs⟩ from rfl]
    rw [hsz_dn, natAbs_invNum, h4dn, W1.alloc, h2dn, hal1, ← hLd, W1.lim]
  · rw [show view (((s2.wr (s2.PTR dn) (view (s.h sd)).d).wr (s2.PTR dd) (view (s.h sn)).d).h dd) =
        ⟨(((s2.wr (s2.PTR dn) (view (s.h sd)).d).wr (s2.PTR dd) (view (s.h sn)).d).h dd).buf.alloc,
         (((s2.wr (s2.PTR dn) (view (s.h sd)).d).wr (s2.PTR dd) (view (s.h sn)).d).h dd).size,
         (((s2.wr (s2.PTR dn) (view (s.h sd)).d).wr (s2.PTR dd) (view (s.h sn)).d).h dd).buf.limbs.take
           (((s2.wr (s2.PTR dn) (view (s.h sd)).d).wr (s2.PTR dd) (view (s.h sn)).d).h dd).size.natAbs⟩ from rfl]
    rw [hsz_dd, natAbs_invDen, W2.alloc, h3dd, hal2, ← hLn, W2.lim]
  · intro x hx1 hx2
    rw [W2.frame x hx2, W1.frame x hx1, hfr2 x hx2, hfr1 x hx1, h0o x hx1 hx2]

end Mpir.AllocSafe
