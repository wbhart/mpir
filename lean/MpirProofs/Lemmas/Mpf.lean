/- Format rules of the exact functions; the shifts (mul_2exp, div_2exp); mul_ui, set_d, add_ui; then the operations on ui / si /
   z / q arguments and the zero cases (div_ui, ui_div, set_q, set_si, set_z, sub_ui, ui_sub, sqrt of a negative) as
   corollaries, in the form their callers use. -/
import MpirProofs.Lemmas.MpfSub
import MpirProofs.Lemmas.ExtractDbl
namespace Mpir.Mpf
open Mpir

/-! ### format rules of abs, neg, trunc, floor, ceil -/

theorem abs_wf (prec : ℕ) (rIsU : Bool) (u : F) (hu : OpWF u) (hau : rIsU = true → u.d.length ≤ prec + 1) :
    WF (Mpf.abs prec rIsU u) := by
  unfold Mpf.abs
  cases rIsU
  · simp only [Bool.false_eq_true, if_false]
    by_cases h0 : u.size = 0
    · rw [hu.d_nil h0]
      simp only [top, List.length_nil, List.drop_nil, hu.exp_zero h0]
      exact WF_zero prec
    · have := ((hu.mant h0).top (Nat.succ_pos prec)).wf_mk (p := prec) (by rw [top_length]; omega) True u.exp
      simpa using this
  · simp only [if_true]
    exact hu.wf_with_size (Int.natAbs_natCast _) (hau rfl)

theorem neg_wf (prec : ℕ) (rIsU : Bool) (u : F) (hu : OpWF u) (hau : rIsU = true → u.d.length ≤ prec + 1) :
    WF (neg prec rIsU u) := by
  cases rIsU
  · rw [neg_eq_set]; exact (set_cut prec _ (OpWF_neg_size u hu)).1
  · unfold neg; simp only [if_true]
    exact hu.wf_with_size (Int.natAbs_neg _) (hau rfl)

theorem trunc_wf (prec : ℕ) (u : F) (hu : OpWF u) : WF (trunc prec u) := by
  unfold trunc
  by_cases h : u.size = 0 ∨ u.exp ≤ 0
  · rw [if_pos h]; exact WF_zero prec
  · rw [if_neg h]
    have hm := hu.mant (fun h' => h (Or.inl h'))
    have hn := hm.length_pos
    have hlen : (top (min (min u.d.length u.exp.toNat) (prec + 1)) u.d).length = min (min u.d.length u.exp.toNat) (prec + 1) := by
      rw [top_length]; omega
    have := (hm.top (n := min (min u.d.length u.exp.toNat) (prec + 1)) (by omega)).wf_mk (p := prec) (by omega)
      (u.size ≥ 0) u.exp
    rwa [hlen] at this

theorem ceilOrFloor_wf (prec : ℕ) (u : F) (hu : OpWF u) (dir : ℤ) (hdir : dir = 1 ∨ dir = -1) :
    WF (ceilOrFloor prec u dir) := by
  unfold ceilOrFloor
  by_cases h0 : u.size = 0
  · rw [if_pos h0]; exact WF_zero prec
  rw [if_neg h0]
  by_cases he : u.exp ≤ 0
  · rw [if_pos he]
    by_cases hs : (decide (u.size < 0) != decide (dir < 0)) = true
    · rw [if_pos hs]; exact WF_zero prec
    · rw [if_neg hs]
      refine ⟨Limbs_cons.mpr ⟨one_lt_B, Limbs_nil⟩, ?_, ?_, by simp, ?_⟩ <;> rcases hdir with h | h <;> subst h <;> simp
  · rw [if_neg he]
    simp only
    have hm := hu.mant h0
    have hn := hm.length_pos
    set asize := min (min u.d.length u.exp.toNat) (prec + 1) with has
    have hpos : 1 ≤ asize := by omega
    have hle : asize ≤ prec + 1 := by omega
    have t := hm.top hpos
    have hlen : (top asize u.d).length = asize := by rw [top_length]; omega
    by_cases hc : (decide (u.size < 0) == decide (dir < 0)) = true ∧ (u.d.take (u.d.length - asize)).any (· != 0) = true
    · rw [if_pos hc]
      by_cases hcy : (val (top asize u.d) + 1) / B ^ asize ≠ 0
      · rw [if_pos hcy]
        refine ⟨Limbs_cons.mpr ⟨one_lt_B, Limbs_nil⟩, ?_, ?_, by simp, ?_⟩ <;> by_cases hs : u.size ≥ 0 <;> simp [hs]
      · rw [if_neg hcy]
        have hs : val (top asize u.d) + 1 < B ^ asize := by
          have := (Nat.div_eq_zero_iff.mp (not_not.mp hcy)); have := Bpow_pos asize; omega
        have hl := toLimbs_length asize (val (top asize u.d) + 1)
        have hge := t.val_ge
        rw [hlen] at hge
        have := (Mant.of_nat hpos (Nat.le_succ_of_le hge) hs).wf_mk (p := prec) (by rw [hl]; exact hle) (u.size ≥ 0) u.exp
        rwa [hl] at this
    · rw [if_neg hc]
      have := t.wf_mk (p := prec) (by rw [hlen]; exact hle) (u.size ≥ 0) u.exp
      rwa [hlen] at this

theorem floor_wf (prec : ℕ) (u : F) (hu : OpWF u) : WF (floor prec u) := ceilOrFloor_wf prec u hu (-1) (Or.inr rfl)
theorem ceil_wf (prec : ℕ) (u : F) (hu : OpWF u) : WF (ceil prec u) := ceilOrFloor_wf prec u hu 1 (Or.inl rfl)

/-! ### mul_2exp, div_2exp (mul_2exp.c, div_2exp.c): one routine, `shifted` -/

/-- what mul_2exp.c and div_2exp.c both do to a non-zero operand: a shift by whole limbs copies the top prec+1 limbs, else
    the top prec limbs are shifted up by `k` bits; `E` is the exponent before the carry-out limb is counted -/
def shifted (prec : ℕ) (u : F) (whole : Prop) [Decidable whole] (k : ℕ) (E : ℤ) : F :=
  if whole then ⟨prec, if u.size ≥ 0 then ((top (prec + 1) u.d).length : ℤ) else -((top (prec + 1) u.d).length : ℤ), E,
    top (prec + 1) u.d⟩
  else ⟨prec, if u.size ≥ 0 then ((shiftUp (top prec u.d) k).1.length : ℤ) else -((shiftUp (top prec u.d) k).1.length : ℤ),
    E + (shiftUp (top prec u.d) k).2, (shiftUp (top prec u.d) k).1⟩

theorem mul_2exp_eq (prec : ℕ) (u : F) (e : ℕ) (h0 : u.size ≠ 0) :
    mul_2exp prec u e = shifted prec u (e % 64 = 0) (e % 64) (u.exp + (e / 64 : ℕ)) := by
  unfold mul_2exp shifted; rw [if_neg h0]

theorem div_2exp_eq (prec : ℕ) (u : F) (e : ℕ) (h0 : u.size ≠ 0) :
    div_2exp prec u e =
      shifted prec u (e % 64 = 0) (64 - e % 64) (u.exp - (e / 64 : ℕ) - (if e % 64 = 0 then 0 else 1)) := by
  unfold div_2exp shifted; rw [if_neg h0]
  split <;> simp only [sub_zero]

theorem shifted_wf (prec : ℕ) (hp : 1 ≤ prec) (u : F) (hu : OpWF u) (h0 : u.size ≠ 0) (whole : Prop) [Decidable whole]
    (k : ℕ) (hk : ¬ whole → k < 64) (E : ℤ) : WF (shifted prec u whole k E) := by
  unfold shifted
  split
  · exact ((hu.mant h0).top (Nat.succ_pos prec)).wf_mk (by rw [top_length]; omega) _ _
  · obtain ⟨s1, s3, s4, _⟩ := shiftUp_spec (top prec u.d) k ((hu.mant h0).top hp) (hk ‹_›)
    exact s1.wf_mk (by rw [s3, top_length]; omega) _ _

/-- exact on an operand that is not cut: the value is `u · 2^k`, placed `E − u.exp` limbs higher -/
theorem shifted_toQ (prec : ℕ) (u : F) (hu : OpWF u) (h0 : u.size ≠ 0) (whole : Prop) [Decidable whole] (k : ℕ)
    (hk : ¬ whole → k < 64) (E : ℤ) (hlen : if whole then u.d.length ≤ prec + 1 else u.d.length ≤ prec) :
    toQ (shifted prec u whole k E) = toQ u * (2 : ℚ) ^ ((if whole then 0 else (k : ℤ)) + 64 * (E - u.exp)) := by
  unfold shifted
  by_cases he : whole
  · rw [if_pos he] at hlen ⊢
    simp only [top_of_le hlen, if_pos he]
    exact toQ_shifted prec u u.d 0 _ _ (by simp) (by ring)
  · rw [if_neg he] at hlen ⊢
    simp only [top_of_le hlen, if_neg he]
    obtain ⟨_, s3, _, s5⟩ := shiftUp_spec u.d k (hu.mant h0) (hk he)
    generalize shiftUp u.d k = r at *
    exact toQ_shifted prec u r.1 k _ _ s5 (by rw [s3]; push_cast; ring)

theorem mul_2exp_wf (prec : ℕ) (hp : 1 ≤ prec) (u : F) (e : ℕ) (hu : OpWF u) : WF (mul_2exp prec u e) := by
  by_cases h0 : u.size = 0
  · unfold mul_2exp; rw [if_pos h0]; exact WF_zero prec
  · rw [mul_2exp_eq prec u e h0]; exact shifted_wf prec hp u hu h0 _ _ (fun _ => Nat.mod_lt _ (by norm_num)) _

theorem div_2exp_wf (prec : ℕ) (hp : 1 ≤ prec) (u : F) (e : ℕ) (hu : OpWF u) : WF (div_2exp prec u e) := by
  by_cases h0 : u.size = 0
  · unfold div_2exp; rw [if_pos h0]; exact WF_zero prec
  · rw [div_2exp_eq prec u e h0]; exact shifted_wf prec hp u hu h0 _ _ (fun h => by omega) _

/-! ### mul_ui (mul_ui.c) -/

/-- mul_ui.c: the kept limbs are those of `⌊u·w / B^excess⌋`, so the product is cut once, and not at all when `u` has
    at most prec limbs -/
theorem mul_ui_cut (prec : ℕ) (hp : 1 ≤ prec) (u : F) (w : ℕ) (hu : OpWF u) (hw : w < B) :
    WF (mul_ui prec u w) ∧ Cut prec (toQ u * w) (toQ (mul_ui prec u w)) ∧
    (u.d.length ≤ prec → toQ (mul_ui prec u w) = toQ u * w) := by
  unfold mul_ui
  by_cases hz : w = 0 ∨ u.size = 0
  · rw [if_pos hz]
    have hE : toQ u * (w : ℚ) = 0 := by
      rcases hz with h | h
      · rw [h]; simp
      · rw [hu.toQ_zero h]; simp
    rw [hE, toQ_zero]
    exact ⟨WF_zero prec, Or.inl rfl, fun _ => rfl⟩
  · rw [if_neg hz]
    have hw0 : w ≠ 0 := fun h => hz (Or.inl h)
    have hm := hu.mant (fun h => hz (Or.inr h))
    have hlen := hm.length_pos
    have hU1 := hm.val_ge
    have hU2 := hm.val_lt
    simp only
    set len := u.d.length with hl
    set excess := len - prec with hex
    set n := (if len > prec then prec else len) with hn
    have hnl : n + excess = len := by rw [hn, hex]; split <;> omega
    have hn1 : 1 ≤ n := by rw [hn]; split <;> omega
    have hnp : n ≤ prec := by rw [hn]; split <;> omega
    have hnx : excess = 0 ∨ n = prec := by rw [hn, hex]; split <;> omega
    set N := val u.d * w with hN
    have hN1 : B ^ (len - 1) ≤ N := le_trans hU1 (Nat.le_mul_of_pos_right _ (Nat.pos_of_ne_zero hw0))
    have hN2 : N < B ^ (len + 1) := by
      rw [pow_succ]; exact Nat.mul_lt_mul'' hU2 hw
    set t := N / B ^ excess with ht
    have ht1 : t < B ^ (n + 1) := by
      rw [ht, Nat.div_lt_iff_lt_mul (Bpow_pos _), ← pow_add]
      rwa [show n + 1 + excess = len + 1 by omega]
    have ht0 : B ^ (n - 1) ≤ t := by
      rw [ht, Nat.le_div_iff_mul_le (Bpow_pos _), ← pow_add]
      rwa [show n - 1 + excess = len - 1 by omega]
    have htle : t * B ^ excess ≤ N := Nat.div_mul_le_self N _
    have htgt : N < (t + 1) * B ^ excess := by
      rw [ht]; exact (Nat.div_lt_iff_lt_mul (Bpow_pos _)).mp (Nat.lt_succ_self _)
    have hcyB : t / B ^ n < B := by
      rw [Nat.div_lt_iff_lt_mul (Bpow_pos _), mul_comm, ← pow_succ]; exact ht1
    have hsplit : val (toLimbs n t) + B ^ n * (t / B ^ n) = t := by rw [val_toLimbs]; exact Nat.mod_add_div _ _
    have hcut := Cut.of_nat hp (u.exp - (len : ℤ)) htle htgt (hnx.imp id (fun h => by rwa [h] at ht0))
    have hexact : len ≤ prec → t * B ^ excess = N := fun hle => by
      rw [ht, show excess = 0 by omega, pow_zero, Nat.div_one, mul_one]
    clear_value N t n excess len
    have key : ∀ (rd : List Nat) (c : ℕ), c ≤ 1 → Mant rd → rd.length = n + c → val rd = t →
        WF ⟨prec, if u.size ≥ 0 then (rd.length : ℤ) else -(rd.length : ℤ), u.exp + (c : ℤ), rd⟩ ∧
        Cut prec (toQ u * w) (toQ ⟨prec, if u.size ≥ 0 then (rd.length : ℤ) else -(rd.length : ℤ), u.exp + (c : ℤ), rd⟩) ∧
        (len ≤ prec → toQ ⟨prec, if u.size ≥ 0 then (rd.length : ℤ) else -(rd.length : ℤ), u.exp + (c : ℤ), rd⟩ = toQ u * w) := by
      intro rd c hc1 hrd hl3 hl4
      refine ⟨hrd.wf_mk (by rw [hl3]; exact Nat.add_le_add hnp hc1) _ _, ?_⟩
      have hq : toQ ⟨prec, if u.size ≥ 0 then (rd.length : ℤ) else -(rd.length : ℤ), u.exp + (c : ℤ), rd⟩
          = sg u * (((t * B ^ excess : ℕ) : ℚ) * (B : ℚ) ^ (u.exp - (len : ℤ))) := by
        rw [toQ_mk_sg, qv, hl4, hl3]
        have hnl' : (n : ℤ) + excess = len := by exact_mod_cast hnl
        rw [show u.exp + (c : ℤ) - ((n + c : ℕ) : ℤ) = (excess : ℤ) + (u.exp - (len : ℤ)) by
          push_cast; linear_combination -hnl', zpow_add₀ Bq_ne, zpow_natCast]
        push_cast; ring
      have hE : toQ u * (w : ℚ) = sg u * (((N : ℕ) : ℚ) * (B : ℚ) ^ (u.exp - (len : ℤ))) := by
        rw [toQ_qv, qv, hN, ← hl]; push_cast; ring
      rw [hE, hq]
      exact ⟨hcut.smul (sg_cases u), fun hle => by rw [hexact hle]⟩
    by_cases hcy : t / B ^ n ≠ 0
    · simp only [hcy, ne_eq, not_false_eq_true, if_true]
      have := key (toLimbs n t ++ [t / B ^ n]) 1 (le_refl _)
        ⟨Limbs_append.mpr ⟨Limbs_toLimbs _ _, Limbs_singleton hcyB⟩, by simp, normalized_snoc.mpr hcy⟩
        (by simp [toLimbs_length]) (by rw [val_append, toLimbs_length]; simpa using hsplit)
      simpa using this
    · simp only [hcy, if_false]
      have hc0 : t / B ^ n = 0 := not_not.mp hcy
      have hlt : t < B ^ n := by
        rcases Nat.div_eq_zero_iff.mp hc0 with h | h
        · exact absurd h (ne_of_gt (Bpow_pos n))
        · exact h
      have := key (toLimbs n t) 0 (by omega) (Mant.of_nat hn1 ht0 hlt) (by simp [toLimbs_length]) (val_toLimbs_lt _ _ hlt)
      simpa using this

/-! ### set_d (set_d.c over extract-dbl.c); set_ui -/

/-- mpf_set_d on a normal binary64 (biased exponent 1..2046): exactly ±(2^52 + man)·2^(bexp − 1075), well formed. -/
theorem set_d_normal (prec : ℕ) (hp : 1 ≤ prec) (bits sign bexp man : ℕ)
    (h1 : bits / 2 ^ 63 % 2 = sign) (h2 : bits / 2 ^ 52 % 2 ^ 11 = bexp) (h3 : bits % 2 ^ 52 = man)
    (hb1 : 1 ≤ bexp) (hb2 : bexp ≤ 2046) :
    ∃ r, set_d prec bits = .ok r ∧ WF r ∧
      toQ r = (if sign = 1 then -1 else 1) * ((2 ^ 52 + man : ℕ) : ℚ) * (2 : ℚ) ^ ((bexp : ℤ) - 1075) := by
  have hm : man < 2 ^ 52 := by rw [← h3]; exact Nat.mod_lt _ (by norm_num)
  obtain ⟨tp, ex, h, t1, t2, x1, hv, _⟩ := Mpq.extractDouble_spec bexp man hm (by omega)
  have hB := B_pos
  have hhi : tp / B ≠ 0 := Nat.ne_of_gt (Nat.div_pos t1 hB)
  refine ⟨_, set_d_eq prec bits (by rw [h2]; omega) (by rw [h2]; omega), ?_, ?_⟩ <;> rw [h1, h2, h3, h]
  · refine ⟨Limbs_cons.mpr ⟨Nat.mod_lt _ hB, Limbs_singleton (Nat.div_lt_of_lt_mul t2)⟩, ?_, ?_, by simpa using hhi, ?_⟩ <;>
      by_cases hs : sign = 1 <;> simp [hs] <;> omega
  · have hval : ((val [tp % B, tp / B] : ℕ) : ℚ) = (tp : ℚ) := by
      rw [val_cons, val_cons, val_nil, Nat.mul_zero, Nat.add_zero, Nat.mod_add_div]
    have hσ : (if (if sign = 1 then (-2 : ℤ) else 2) < 0 then (-1 : ℚ) else 1) = (if sign = 1 then -1 else 1) := by
      by_cases hs : sign = 1 <;> simp [hs]
    have hvq : (tp : ℚ) * (2 : ℚ) ^ (64 * ex + 1074) = (((2 ^ 52 + man) * 2 ^ (bexp - 1) : ℕ) : ℚ) * (2 : ℚ) ^ (128 : ℤ) := by
      rw [Mpq.dblNat, if_neg (by omega)] at hv
      rw [← Int.toNat_of_nonneg (show 0 ≤ 64 * ex + 1074 by omega), zpow_natCast]; exact_mod_cast hv
    unfold toQ
    simp only [hσ, hval, List.length_cons, List.length_nil]
    rw [mul_assoc, mul_assoc, Bz_eq_two, show 64 * (ex - ((0 + 1 + 1 : ℕ) : ℤ)) = (64 * ex + 1074) + (-1202) by push_cast; ring,
      zpow_add₀ (by norm_num : (2 : ℚ) ≠ 0), ← mul_assoc (tp : ℚ), hvq, Nat.cast_mul, Nat.cast_pow, Nat.cast_ofNat, mul_assoc,
      mul_assoc, ← zpow_natCast, ← zpow_add₀ (by norm_num : (2 : ℚ) ≠ 0), ← zpow_add₀ (by norm_num : (2 : ℚ) ≠ 0)]
    congr 3; omega


theorem accurate_neg_size (prec : ℕ) (r : F) (E : ℚ) (h : Accurate prec r E) :
    Accurate prec {r with size := -r.size} (-E) := by
  obtain ⟨hw, h2, h3⟩ := h
  have hq : toQ {r with size := -r.size} = - toQ r := toQ_neg_size r hw.toOpWF
  refine ⟨hw.toOpWF.wf_with_size (Int.natAbs_neg _) (by rw [hw.toOpWF.len]; exact hw.2.2.1), fun h0 => ?_, fun h0 => ?_⟩
  · rw [hq, h2 (by linarith)]; ring
  · rw [hq, abs_neg, show -toQ r - -E = -(toQ r - E) by ring, abs_neg]
    exact h3 (fun h' => h0 (by rw [h']; ring))

theorem set_ui_exact' (prec : Nat) (v : Nat) (hv : v < B) :
    toQ (set_ui prec v) = v ∧ WF (set_ui prec v) := by
  unfold set_ui
  by_cases h : v = 0
  · rw [if_pos h, h]; exact ⟨by simp [toQ], WF_zero prec⟩
  · rw [if_neg h]
    refine ⟨by simp [toQ, val], ?_⟩
    exact ⟨Limbs_singleton hv, rfl, by simp, by simpa using h, by simp⟩

/-! ### add_ui (add_ui.c) -/

/-- add_ui.c:96-114 is the first geometry of `addLimbs` with the one-limb operand `[w]` -/
theorem add_ui_overlap (up : List Nat) (w ue : ℕ) (h1 : 1 ≤ ue) (h2 : ue ≤ up.length) :
    (up.take (up.length - ue) ++ toLimbs ue (val (up.drop (up.length - ue)) + w),
      (val (up.drop (up.length - ue)) + w) / B ^ ue) = addLimbs up [w] (ue - 1) := by
  have hl : (up.drop (up.length - ue)).length = ue := by rw [List.length_drop]; omega
  unfold addLimbs addv
  simp only [List.length_singleton]
  rw [if_pos (by omega), if_pos (by omega), show up.length - (ue - 1) - 1 = up.length - ue by omega, hl]
  simp [val]

/-- add_ui.c:54-143: u > 0 and v ≠ 0 -/
theorem add_ui_pos (prec : ℕ) (hp : 2 ≤ prec) (u : F) (w : ℕ) (hu : OpWF u) (hpos : 0 < u.size) (hw0 : w ≠ 0) (hw : w < B)
    (rIsU : Bool) (hau : rIsU = true → u.d.length ≤ prec + 1) :
    Accurate prec (add_ui prec rIsU u w) (toQ u + w) := by
  have h0 : u.size ≠ 0 := by omega
  have mu := hu.mant h0
  have hX1 := mu.qv_ge u.exp
  have hX2 := qv_lt u.d u.exp hu.limbs
  have hwq : (1 : ℚ) ≤ (w : ℚ) := by exact_mod_cast Nat.one_le_iff_ne_zero.mpr hw0
  have hwB : (w : ℚ) < (B : ℚ) := by exact_mod_cast hw
  have hL1 : Limbs [w] := Limbs_singleton hw
  -- every branch returns limbs `rd`, exponent `e`, of a value `R ≤ E` within two units `B^W` of `E`
  have fin : ∀ (rd : List Nat) (k e W : ℤ) (R : ℚ), k = rd.length → Mant rd →
      rd.length ≤ prec + 1 → qv rd e = R → R ≤ qv u.d u.exp + w → qv u.d u.exp + w - R < 2 * (B : ℚ) ^ W →
      (B : ℚ) ^ (W + ((prec : ℤ) - 1)) ≤ 2 * (qv u.d u.exp + w) →
      Accurate prec ⟨prec, k, e, rd⟩ (qv u.d u.exp + w) := fun rd k e W R hk h1 h4 h5 h6 h7 h8 =>
    accurate_below prec (by omega) _ _ R W (h1.wf_pos h4 e k hk) (by rw [toQ_pos_mk _ _ _ _ hk, h5])
      (by linarith [zpow_pos Bq_pos (u.exp - 1)]) h6 h7 h8
  unfold add_ui
  rw [if_neg h0, if_neg (by omega), toQ_pos_qv u hpos]
  simp only
  rw [if_neg hw0]
  by_cases he : u.exp > 0
  · rw [if_pos he]
    have hE3 : (B : ℚ) ^ (u.exp - (prec : ℤ) + ((prec : ℤ) - 1)) ≤ 2 * (qv u.d u.exp + w) := by
      rw [show u.exp - (prec : ℤ) + ((prec : ℤ) - 1) = u.exp - 1 by ring]
      linarith [zpow_pos Bq_pos (u.exp - 1)]
    by_cases hbig : u.exp > (prec : ℤ)
    · -- v lies entirely below the precision of the result: sum_is_u
      rw [if_pos hbig]
      have hwW : (w : ℚ) < (B : ℚ) ^ (u.exp - (prec : ℤ)) := by
        have : (B : ℚ) ^ (1 : ℤ) ≤ (B : ℚ) ^ (u.exp - (prec : ℤ)) := zpow_le_zpow_B (by omega)
        rw [zpow_one] at this; linarith
      cases rIsU
      · simp only [Bool.false_eq_true, if_false]
        obtain ⟨c1, c2⟩ := qv_top_bound (prec + 1) u.d u.exp hu.limbs
        have : (B : ℚ) ^ (u.exp - ((prec + 1 : ℕ) : ℤ)) ≤ (B : ℚ) ^ (u.exp - (prec : ℤ)) := zpow_le_zpow_B (by push_cast; omega)
        exact fin _ _ _ (u.exp - (prec : ℤ)) _ rfl (mu.top (Nat.succ_pos prec)) (by rw [top_length]; omega) rfl
          (by linarith) (by linarith) hE3
      · simp only [if_true]
        have hk : u.size = (u.d.length : ℤ) := by rw [hu.len]; omega
        exact fin u.d u.size u.exp (u.exp - (prec : ℤ)) _ hk mu (hau rfl) rfl (by linarith) (by linarith) hE3
    · rw [if_neg hbig]
      obtain ⟨ue, hue⟩ : ∃ ue : ℕ, u.exp = (ue : ℤ) := ⟨u.exp.toNat, by omega⟩
      rw [show u.exp.toNat = ue by omega]
      by_cases hgap : ue > u.d.length
      · -- uuuuuu0000. + v: exact
        rw [if_pos hgap]
        have hlen : ([w] ++ List.replicate (ue - u.d.length - 1) 0 ++ u.d).length = ue := by
          simp only [List.length_append, List.length_singleton, List.length_replicate]; omega
        refine fin _ _ _ (u.exp - (prec : ℤ)) (qv u.d u.exp + w) (by rw [hlen])
          ⟨Limbs_append.mpr ⟨Limbs_append.mpr ⟨hL1, Limbs_replicate_zero _⟩, hu.limbs⟩, by simp,
            normalized_append mu.ne hu.top_ne⟩ (by rw [hlen]; omega) ?_
          (le_refl _) (by rw [sub_self]; exact mul_pos two_pos (zpow_pos Bq_pos _)) hE3
        · rw [qv_append, qv_append, qv_replicate_zero, qv_singleton, hue, List.length_replicate,
            show (ue : ℤ) - (u.d.length : ℤ) - ((ue - u.d.length - 1 : ℕ) : ℤ) - 1 = 0 by omega, zpow_zero]
          ring
      · -- uuuuuu.uuuu + v: `addLimbs` on the top prec limbs
        rw [if_neg hgap]
        have pt := mu.top (n := prec) (by omega)
        have p1 := pt.limbs
        have p4 := top_length prec u.d
        obtain ⟨d1, d2⟩ := qv_top_bound prec u.d u.exp hu.limbs
        have hn : ue ≤ (top prec u.d).length := by omega
        have hov := add_ui_overlap (top prec u.d) w ue (by omega) hn
        obtain ⟨s1, s2, s3, s4⟩ := addLimbs_spec (top prec u.d) [w] (ue - 1) p1 hL1
        rw [← hov] at s1 s2 s3 s4
        simp only at s1 s2 s3 s4
        generalize (top prec u.d).take ((top prec u.d).length - ue)
          ++ toLimbs ue (val ((top prec u.d).drop ((top prec u.d).length - ue)) + w) = tp at *
        generalize (val ((top prec u.d).drop ((top prec u.d).length - ue)) + w) / B ^ ue = cy at *
        rw [List.length_singleton, show max (top prec u.d).length (1 + (ue - 1)) = (top prec u.d).length by omega] at s1 s4
        rw [Nat.sub_self, pow_zero, mul_one] at s4
        have hge : B ^ (tp.length - 1) ≤ val tp + B ^ tp.length * cy := by
          rw [s1, s4]; exact le_trans pt.val_ge (Nat.le_add_right _ _)
        obtain ⟨r1, r4⟩ := carry_spec tp cy s3 s2 (by intro h; rw [h] at s1; exact pt.ne (List.eq_nil_of_length_eq_zero s1.symm)) hge
        refine fin _ _ _ (u.exp - (prec : ℤ)) (qv (top prec u.d) u.exp + w) rfl r1 (by rw [r4, s1]; omega) ?_
          (by linarith) (by linarith [zpow_pos Bq_pos (u.exp - (prec : ℤ))]) hE3
        rw [qv_carry tp cy u.exp s3, s1, s4]
        unfold qv
        have hone : (B : ℚ) ^ ((top prec u.d).length - (ue - 1) - 1) * (B : ℚ) ^ (u.exp - ((top prec u.d).length : ℤ)) = 1 := by
          rw [← zpow_natCast, ← zpow_add₀ Bq_ne, hue,
            show (((top prec u.d).length - (ue - 1) - 1 : ℕ) : ℤ) + ((ue : ℤ) - ((top prec u.d).length : ℤ)) = 0 by omega, zpow_zero]
        push_cast
        rw [val, val, mul_zero, add_zero, add_mul, mul_assoc (w : ℚ), hone, mul_one]
  · -- u < 1 ≤ v
    rw [if_neg he]
    obtain ⟨ne, hne'⟩ : ∃ ne : ℕ, u.exp = -(ne : ℤ) := ⟨(-u.exp).toNat, by omega⟩
    rw [show (-u.exp).toNat = ne by omega]
    by_cases hfar : ne ≥ prec
    · rw [if_pos hfar]
      refine fin [w] 1 1 (-(prec : ℤ)) w rfl (Mant.singleton hw0 hw) (by simp) (by rw [qv_singleton]; simp)
        (by linarith [qv_nonneg u.d u.exp]) ?_ ?_
      · have : (B : ℚ) ^ u.exp ≤ (B : ℚ) ^ (-(prec : ℤ)) := zpow_le_zpow_B (by omega)
        linarith [zpow_pos Bq_pos (-(prec : ℤ))]
      · have : (B : ℚ) ^ (-(prec : ℤ) + ((prec : ℤ) - 1)) ≤ (B : ℚ) ^ (0 : ℤ) := zpow_le_zpow_B (by omega)
        rw [zpow_zero] at this; linarith [qv_nonneg u.d u.exp]
    · rw [if_neg hfar]
      set m := (if u.d.length + ne + 1 > prec then prec - 1 - ne else u.d.length) with hm
      have hupm : (if u.d.length + ne + 1 > prec then top (prec - 1 - ne) u.d else u.d) = top m u.d := by
        rw [hm]; by_cases h : u.d.length + ne + 1 > prec
        · rw [if_pos h, if_pos h]
        · rw [if_neg h, if_neg h, top_of_le (le_refl _)]
      rw [hupm]
      obtain ⟨d1, d2⟩ := qv_top_bound m u.d u.exp hu.limbs
      have hml : (top m u.d).length + ne + 1 ≤ prec := by rw [top_length, hm]; split <;> omega
      have hδ : qv u.d u.exp - qv (top m u.d) u.exp < (B : ℚ) ^ (1 - (prec : ℤ)) := by
        by_cases h : u.d.length + ne + 1 > prec
        · have e : u.exp - (m : ℤ) = 1 - (prec : ℤ) := by
            have : m = prec - 1 - ne := by rw [hm, if_pos h]
            omega
          rwa [e] at d2
        · rw [show m = u.d.length by rw [hm, if_neg h], top_of_le (le_refl _), sub_self]; exact zpow_pos Bq_pos _
      refine fin _ _ 1 (1 - (prec : ℤ)) (qv (top m u.d) u.exp + w) rfl
        ⟨Limbs_append.mpr ⟨Limbs_append.mpr ⟨Limbs_top hu.limbs _, Limbs_replicate_zero _⟩, hL1⟩, by simp, normalized_snoc.mpr hw0⟩
        (by simp only [List.length_append, List.length_replicate, List.length_singleton]; omega) ?_ (by linarith)
        (by linarith [zpow_pos Bq_pos (1 - (prec : ℤ))]) ?_
      · rw [qv_append, qv_append, qv_replicate_zero, qv_singleton, hne']
        simp
      · rw [show (1 : ℤ) - (prec : ℤ) + ((prec : ℤ) - 1) = 0 by ring, zpow_zero]; linarith [qv_nonneg u.d u.exp]

theorem add_ui_accurate (prec : ℕ) (hp : 2 ≤ prec) (u : F) (w : ℕ) (hu : OpWF u) (hw : w < B) (rIsU : Bool)
    (hau : rIsU = true → u.d.length ≤ prec + 1) :
    Accurate prec (add_ui prec rIsU u w) (toQ u + w) := by
  rcases lt_trichotomy u.size 0 with hneg | hz | hpos
  · -- negative u: -( (-u) - w )
    have hsub := fun h1 a b => (sub_spec prec hp {u with size := -u.size} (ofLimb w) (OpWF_neg_size u hu) h1 a b).1
    have e : add_ui prec rIsU u w =
        {sub_ui prec false {u with size := -u.size} w with size := -(sub_ui prec false {u with size := -u.size} w).size} := by
      unfold add_ui; rw [if_neg (by omega), if_pos hneg]
    rw [e]
    have hsu : Accurate prec (sub_ui prec false {u with size := -u.size} w) (-toQ u - w) := by
      unfold sub_ui
      by_cases h0 : w = 0
      · rw [if_pos h0, h0]
        obtain ⟨w', c⟩ := set_cut prec _ (OpWF_neg_size u hu)
        have := (spec_of_cut (by omega) w' c).1
        rw [toQ_neg_size u hu] at this; simpa using this
      · rw [if_neg h0]
        have := hsub (OpWF_ofLimb w h0 hw) false false (by simp) (by simp)
        rwa [toQ_neg_size u hu, toQ_ofLimb] at this
    have := accurate_neg_size prec _ _ hsu
    rwa [show -(-toQ u - (w : ℚ)) = toQ u + w by ring] at this
  · have e : add_ui prec rIsU u w = set_ui prec w := by unfold add_ui; rw [if_pos hz]
    rw [e, hu.toQ_zero hz, zero_add]
    obtain ⟨h1, h2⟩ := set_ui_exact' prec w hw
    refine ⟨h2, fun h => by rw [h1]; exact h, fun h => ?_⟩
    rw [h1, sub_self, abs_zero]; exact mul_pos (by unfold eps; positivity) (abs_pos.mpr h)
  · by_cases h0 : w = 0
    · subst h0
      have e : add_ui prec rIsU u 0 = if rIsU then {u with prec := prec} else set prec u := by
        unfold add_ui; rw [if_neg (by omega), if_neg (by omega)]
        simp only [if_true]
        cases rIsU
        · simp only [Bool.false_eq_true, if_false]; unfold set; dsimp only; rw [if_pos (by omega)]
        · rfl
      rw [e]; simp only [Nat.cast_zero, add_zero]
      obtain ⟨w', c⟩ := copy_cut prec u hu rIsU
      exact (spec_of_cut (by omega) (w' hau) c).1
    · exact add_ui_pos prec hp u w hu hpos h0 hw rIsU hau

/-! ### mul_2exp, div_2exp on operands longer than they read (`truncOp`) -/

theorem top_top (n : ℕ) (d : List Nat) : top n (top n d) = top n d :=
  top_of_le (by rw [top_length]; omega)

/-- the operand truncated to its n most significant limbs (what the shifts and copies read) -/
def truncOp (n : ℕ) (u : F) : F :=
  ⟨u.prec, if u.size ≥ 0 then ((top n u.d).length : ℤ) else -((top n u.d).length : ℤ), u.exp, top n u.d⟩

theorem truncOp_spec (n prec : ℕ) (hn1 : 1 ≤ prec) (hn : prec ≤ n) (u : F) (hu : OpWF u) (h0 : u.size ≠ 0) :
    OpWF (truncOp n u) ∧ (truncOp n u).size ≠ 0 ∧ ((truncOp n u).size ≥ 0 ↔ u.size ≥ 0) ∧
    (truncOp n u).d.length ≤ n ∧
    |toQ (truncOp n u) - toQ u| < eps prec * |toQ u| := by
  have mu := hu.mant h0
  have t := mu.top (n := n) (by omega)
  have t4 := top_length n u.d
  have hlp := t.length_pos
  have hsz : (truncOp n u).size ≠ 0 := by
    unfold truncOp; dsimp only
    by_cases h : u.size ≥ 0
    · rw [if_pos h]; omega
    · rw [if_neg h]; omega
  refine ⟨⟨t.limbs, ?_, t.norm, fun h => absurd h hsz⟩, hsz, ?_, by unfold truncOp; dsimp only; rw [t4]; omega, ?_⟩
  · unfold truncOp; dsimp only
    by_cases h : u.size ≥ 0
    · rw [if_pos h]; simp
    · rw [if_neg h]; simp
  · unfold truncOp; dsimp only
    by_cases h : u.size ≥ 0
    · rw [if_pos h]; constructor <;> intro <;> omega
    · rw [if_neg h]; constructor <;> intro <;> omega
  · rw [show toQ (truncOp n u) = sg u * qv (top n u.d) u.exp from toQ_mk_sg _ u _ _, toQ_qv u, ← mul_sub, abs_mul, abs_mul,
      abs_sg, one_mul, one_mul]
    exact (mu.cut_top hn u.exp).err hn1 (mu.qv_pos _).ne'

theorem shifted_trunc (prec : ℕ) (u : F) (whole : Prop) [Decidable whole] (k n : ℕ) (E : ℤ)
    (hn : n = if whole then prec + 1 else prec) (hsg : (truncOp n u).size ≥ 0 ↔ u.size ≥ 0) :
    shifted prec (truncOp n u) whole k E = shifted prec u whole k E := by
  have hd : (truncOp n u).d = top n u.d := rfl
  have hc : ((truncOp n u).size ≥ 0) = (u.size ≥ 0) := propext hsg
  unfold shifted
  by_cases hk : whole
  · rw [if_pos hk] at hn; subst hn
    simp only [hk, if_true, hd, top_top, hc]
  · rw [if_neg hk] at hn; subst hn
    simp only [hk, if_false, hd, top_top, hc]

/-- mul_2exp.c and div_2exp.c read prec+1 limbs of the operand when the shift is by whole limbs, prec otherwise -/
theorem mul_2exp_trunc (prec : ℕ) (u : F) (e : ℕ) (n : ℕ) (hn : n = if e % 64 = 0 then prec + 1 else prec)
    (h0 : u.size ≠ 0) (hs : (truncOp n u).size ≠ 0) (hsg : (truncOp n u).size ≥ 0 ↔ u.size ≥ 0) :
    mul_2exp prec (truncOp n u) e = mul_2exp prec u e ∧ div_2exp prec (truncOp n u) e = div_2exp prec u e := by
  rw [mul_2exp_eq _ _ _ hs, mul_2exp_eq _ _ _ h0, div_2exp_eq _ _ _ hs, div_2exp_eq _ _ _ h0]
  exact ⟨shifted_trunc prec u _ _ n _ hn hsg, shifted_trunc prec u _ _ n _ hn hsg⟩

/-! ### corollaries in the form the callers use: zero cases, ui / si / z / q arguments -/

theorem mul_wf (prec : Nat) (u v : F) (hu : OpWF u) (hv : OpWF v) (hp : 1 ≤ prec) : WF (mul prec u v) := by
  by_cases hu0 : u.size = 0
  · unfold mul; rw [hu.d_nil hu0]; simp [top, WF_zero]
  by_cases hv0 : v.size = 0
  · unfold mul; rw [hv.d_nil hv0]; simp [top, WF_zero]
  exact (mul_cut prec u v hu hv hp hu0 hv0).1

theorem set_si_spec (prec : Nat) (v : Int) (hv : v.natAbs < B) :
    toQ (set_si prec v) = v ∧ WF (set_si prec v) := by
  unfold set_si
  by_cases h : v = 0
  · rw [if_pos h, h]; exact ⟨by simp [toQ], by simpa [zero] using WF_zero prec⟩
  · rw [if_neg h]
    have hm : Mant [v.natAbs] := Mant.singleton (by omega) hv
    refine ⟨?_, hm.wf_mk (by simp) (v ≥ 0) 1⟩
    rw [show (⟨prec, if v ≥ 0 then 1 else -1, 1, [v.natAbs]⟩ : F) = ⟨prec, if v ≥ 0 then (([v.natAbs] : List Nat).length : ℤ)
        else -(([v.natAbs] : List Nat).length : ℤ), 1, [v.natAbs]⟩ from rfl, toQ_mk, show val [v.natAbs] = v.natAbs by simp [val],
      List.length_singleton, Nat.cast_one, sub_self, zpow_zero, mul_one, Nat.cast_natAbs]
    by_cases hs : v ≥ 0
    · rw [if_pos hs, one_mul, abs_of_nonneg hs]
    · rw [if_neg hs, abs_of_neg (by omega)]; push_cast; ring

theorem set_z_spec' (prec : ℕ) (z : Int) (hp : 1 ≤ prec) :
    WF (set_z prec z) ∧
    (z ≠ 0 → |toQ (set_z prec z) - z| < eps prec * |(z : ℚ)|) ∧
    (Fits (z : ℚ) (PREC_TO_BITS prec) → toQ (set_z prec z) = z) := by
  have h := set_spec prec hp (ofInt z) (OpWF_ofInt z)
  rw [← set_z_eq_set, toQ_ofInt] at h
  exact ⟨h.1, fun hz => h.2.1 (ofInt_size_ne hz), h.2.2⟩

theorem div_zero (prec : ℕ) (u v : F) :
    (v.size = 0 → div prec u v = .div0) ∧ (v.size ≠ 0 → u.size = 0 → div prec u v = .ok (zero prec)) := by
  unfold div
  exact ⟨fun h => by rw [if_pos h], fun h1 h2 => by rw [if_neg h1, if_pos h2]⟩

theorem div_ui_spec (prec : ℕ) (hp : 1 ≤ prec) (u : F) (w : ℕ) (hu : OpWF u) (hu0 : u.size ≠ 0)
    (hw0 : w ≠ 0) (hwB : w < B) :
    ∃ r, div_ui prec u w = .ok r ∧ WF r ∧
      |toQ r - toQ u / w| < eps prec * |toQ u / w| ∧
      (Fits (toQ u / w) (PREC_TO_BITS prec) → toQ r = toQ u / w) := by
  rw [div_ui_eq_div prec u w hw0, ← toQ_ofLimb w]
  exact div_spec prec hp u _ hu (OpWF_ofLimb w hw0 hwB) hu0 (by simp [ofLimb])

theorem ui_div_spec (prec : ℕ) (hp : 1 ≤ prec) (w : ℕ) (v : F) (hv : OpWF v) (hv0 : v.size ≠ 0)
    (hw0 : w ≠ 0) (hwB : w < B) :
    ∃ r, ui_div prec w v = .ok r ∧ WF r ∧
      |toQ r - w / toQ v| < eps prec * |w / toQ v| ∧
      (Fits (w / toQ v) (PREC_TO_BITS prec) → toQ r = w / toQ v) := by
  rw [ui_div_eq_div prec w v hw0 hv, ← toQ_ofLimb w]
  exact div_spec prec hp _ v (OpWF_ofLimb w hw0 hwB) hv (by simp [ofLimb]) hv0

theorem set_q_spec (prec : ℕ) (hp : 1 ≤ prec) (num : ℤ) (den : ℕ) (hn : num ≠ 0) (hd : den ≠ 0) :
    WF (set_q prec num den) ∧
    |toQ (set_q prec num den) - (num : ℚ) / den| < eps prec * |(num : ℚ) / den| ∧
    (Fits ((num : ℚ) / den) (PREC_TO_BITS prec) → toQ (set_q prec num den) = (num : ℚ) / den) := by
  obtain ⟨r, h1, h2, h3, h4⟩ := div_spec prec hp (ofInt num) (ofInt den) (OpWF_ofInt _) (OpWF_ofInt _)
    (ofInt_size_ne hn) (ofInt_size_ne (by omega))
  rw [set_q_eq_div prec num den hn hd] at h1
  injection h1 with h1
  rw [← h1] at h2 h3 h4
  rw [toQ_ofInt, toQ_ofInt] at h3 h4
  exact ⟨h2, by simpa using h3, by simpa using h4⟩

theorem sqrt_neg_zero (prec : ℕ) (u : F) :
    (u.size < 0 → sqrt prec u = .sqrtneg) ∧ (u.size = 0 → sqrt prec u = .ok (zero prec)) := by
  unfold sqrt
  exact ⟨fun h => by rw [if_pos h], fun h => by rw [if_neg (by omega), if_pos h]⟩

theorem sub_ui_accurate (prec : ℕ) (hp : 2 ≤ prec) (u : F) (w : ℕ) (hu : OpWF u) (hw : w < B) (rIsU : Bool)
    (hau : rIsU = true → u.d.length ≤ prec + 1) :
    Accurate prec (sub_ui prec rIsU u w) (toQ u - w) := by
  unfold sub_ui
  by_cases h0 : w = 0
  · rw [if_pos h0, h0]; simpa using (spec_of_cut (by omega) (set_cut prec u hu).1 (set_cut prec u hu).2).1
  · rw [if_neg h0]
    have := (sub_spec prec hp u (ofLimb w) hu (OpWF_ofLimb w h0 hw) rIsU false).1 hau (by simp)
    rwa [toQ_ofLimb] at this

theorem ui_sub_accurate (prec : ℕ) (hp : 2 ≤ prec) (w : ℕ) (v : F) (hv : OpWF v) (hw : w < B) (rIsV : Bool)
    (hav : rIsV = true → v.d.length ≤ prec + 1) :
    Accurate prec (ui_sub prec rIsV w v) (w - toQ v) := by
  unfold ui_sub
  by_cases h0 : w = 0
  · rw [if_pos h0, h0]
    have := (sub_spec prec hp (zero 2) v ⟨Limbs_nil, rfl, by simp [zero], fun _ => rfl⟩ hv false rIsV).1 (by simp) hav
    have e : sub prec false rIsV (zero 2) v = neg prec rIsV v := by unfold sub; simp [zero]
    rw [e, toQ_zero] at this
    simpa using this
  · rw [if_neg h0]
    have := (sub_spec prec hp (ofLimb w) v (OpWF_ofLimb w h0 hw) hv false rIsV).1 (by simp) hav
    rwa [toQ_ofLimb] at this

theorem mul_ui_spec (prec : ℕ) (hp : 1 ≤ prec) (u : F) (w : ℕ) (hu : OpWF u) (hw : w < B) :
    Accurate prec (mul_ui prec u w) (toQ u * w) ∧ (u.d.length ≤ prec → toQ (mul_ui prec u w) = toQ u * w) :=
  have ⟨w', c, x⟩ := mul_ui_cut prec hp u w hu hw
  ⟨(spec_of_cut hp w' c).1, x⟩

end Mpir.Mpf
