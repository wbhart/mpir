/- mpz_and / mpz_xor / mpz_com (and the shared pointer plumbing `logicV`, which mpz_ior uses too) on the pointer-level
   model: pointers fetched before `_mpz_realloc (res, …)` are re-read after it unless they point to TMP space.  Then mpz_neg /
   mpz_abs, with the in-place sign changes `Vals.flip`, `Vals.negIf` that other files use. -/
import MpirProofs.Lemmas.AliasMemOps
import MpirProofs.Lemmas.Bits
namespace Mpir.AliasMem
open Mpir
open Mpir.DivZ (sizeNat siz sameSign)
open Mpir.Bits (subLimb_len addOneGrow_len_le dropTopZero_len_le)

/-- the value-level object of Mpir/Model/Bits.lean for a variable -/
def Zof (s : St) (i : Nat) : Bits.Z := ⟨decide (s.size i < 0), s.limbs i⟩

theorem Zof_toInt (s : St) (i : Nat) : (Zof s i).toInt = s.value i := by
  unfold Zof Bits.Z.toInt St.value St.mag
  by_cases h0 : s.size i < 0 <;> simp [h0]

theorem Zof_WF {s : St} (h : Inv s) {i : Nat} (hi : i < s.nv) : (Zof s i).WF := by
  have hs := h.limbs_spec hi
  refine ⟨hs.2, ?_, ?_⟩
  · by_cases h0 : s.size i = 0
    · have : s.limbs i = [] := by
        apply List.eq_nil_of_length_eq_zero; rw [hs.1, h0]; rfl
      show (s.limbs i).getLast? ≠ some 0
      rw [this]; simp
    · apply getLast_ne_zero_of_getD
      show (s.limbs i).getD ((s.limbs i).length - 1) 0 ≠ 0
      rw [hs.1]; exact h.top_ne_zero hi h0
  · intro hn e
    have : s.size i < 0 := by simpa [Zof] using hn
    have hl : (s.limbs i).length = 0 := by
      have : (Zof s i).mag = s.limbs i := rfl
      rw [← this, e]; rfl
    rw [hs.1] at hl; omega

theorem putZ {s : St} (h : Inv s) {w : Nat} (hw : w < s.nv) (z : Bits.Z) (hz : z.WF) (hfit : z.mag.length ≤ s.alloc w) :
    ∃ X, s.store (s.ptr w) z.mag = .ok X ∧
      Inv (X.setSize w (if z.neg then -(z.mag.length : Int) else (z.mag.length : Int))) ∧
      Upd s (X.setSize w (if z.neg then -(z.mag.length : Int) else (z.mag.length : Int))) w ∧
      (X.setSize w (if z.neg then -(z.mag.length : Int) else (z.mag.length : Int))).value w = z.toInt := by
  obtain ⟨b, hb, hlen, hL, hst⟩ := store_var h hw z.mag hfit
  have p := put_list h hw hb z.mag (by omega) hz.1 (sizeNat_of_norm hz.1 hz.2.1) z.neg
  rw [wrAt_zero] at p
  refine ⟨_, hst, p.1, p.2.1, ?_⟩
  show (s.put w _ _).value w = _
  rw [p.2.2]; unfold Bits.Z.toInt
  cases z.neg <;> simp

theorem logic_post (plan : Bool → List Nat → Bool → List Nat → LogicPlan) (F : Bits.Z → Bits.Z → Bits.Z)
    (hres : ∀ n1 a n2 b, (plan n1 a n2 b).result = F ⟨n1, a⟩ ⟨n2, b⟩)
    (hwf : ∀ x y : Bits.Z, x.WF → y.WF → (F x y).WF)
    (hfit : ∀ x y : Bits.Z, x.WF → y.WF → (F x y).mag.length ≤ (plan x.neg x.mag y.neg y.mag).need)
    {s : St} (h : Inv s) {res op1 op2 : Nat} (hr : res < s.nv) (h1 : op1 < s.nv) (h2 : op2 < s.nv) :
    Ok (logicV .c plan res op1 op2 s) (fun s' => Post s s' res (F (Zof s op1) (Zof s op2)).toInt) := by
  unfold logicV
  simp only [Variant.c, bind, Except.bind, pure, Except.pure, and_true, true_and]
  rw [h.load_var h1]; simp only []
  rw [h.load_var h2]; simp only []
  have hz1 := Zof_WF h h1
  have hz2 := Zof_WF h h2
  have hzF : (F (Zof s op1) (Zof s op2)).WF := hwf _ _ hz1 hz2
  have hneed : (F (Zof s op1) (Zof s op2)).mag.length ≤
      (plan (decide (s.size op1 < 0)) (s.limbs op1) (decide (s.size op2 < 0)) (s.limbs op2)).need := hfit _ _ hz1 hz2
  generalize plan (decide (s.size op1 < 0)) (s.limbs op1) (decide (s.size op2 < 0)) (s.limbs op2) = pl at *
  obtain ⟨q1, s1, q2, s2, e1, e2, i2, x2, l1, l2, _, _, f1, f2, t1, t2⟩ :=
    copyIf2_spec h pl.tmp1 pl.tmp2 (h.load_var h1) (h.load_var h2)
  rw [e1]; simp only []
  rw [e2]; simp only []
  have k2 := x2.same h
  obtain ⟨i3, k23, a3⟩ := realloc_same i2 (k2.lt hr) pl.need
  have k3 := k2.trans k23
  have hlt : ∀ i, i < s.nv → s2.ptr i < s.next := fun i hi => by rw [x2.ptr]; exact h.lt i hi
  -- the pointers used by the limb loops: an operand in TMP space is read there (the reallocation of res does not touch
  -- the block), any other through the pointer as it is after the reallocation (re-read, or unchanged)
  have hpr : (if decide (s2.alloc res < pl.need) = true then (s2.mpzRealloc res pl.need).ptr res else s.ptr res) =
      (s2.mpzRealloc res pl.need).ptr res := by
    by_cases hm : s2.alloc res < pl.need
    · rw [if_pos (decide_eq_true hm)]
    · rw [if_neg (by simpa using hm), realloc_noop hm, x2.ptr]
  have hP : ∀ (op q : Nat) (tmp : Bool), op < s.nv → s2.load q (s.size op).natAbs = .ok (s.limbs op) →
      (tmp = false → q = s.ptr op) → (tmp = true → s.next ≤ q ∧ q < s2.next) →
      (s2.mpzRealloc res pl.need).load
        (if decide (s2.alloc res < pl.need) = true ∧ (!tmp) = true then (s2.mpzRealloc res pl.need).ptr op else q)
        (s.size op).natAbs = .ok (s.limbs op) := fun op q tmp ho hl hf ht => by
    cases tmp
    · have hp : (if decide (s2.alloc res < pl.need) = true ∧ (!false) = true then (s2.mpzRealloc res pl.need).ptr op else q) =
          (s2.mpzRealloc res pl.need).ptr op := by
        by_cases hm : s2.alloc res < pl.need
        · rw [if_pos ⟨decide_eq_true hm, rfl⟩]
        · rw [if_neg (fun e => hm (of_decide_eq_true e.1)), hf rfl, realloc_noop hm, x2.ptr]
      rw [hp]; exact k3.load i3 ho
    · simp only [Bool.not_true, Bool.false_eq_true, and_false, if_false]
      have := ht rfl
      rw [load_eq_of_blk (realloc_blk_o pl.need q (Nat.ne_of_gt (Nat.lt_of_lt_of_le (hlt res hr) this.1))
        this.2)]
      exact hl
  rw [hpr, hP op1 q1 pl.tmp1 h1 l1 f1 t1]; simp only []
  rw [hP op2 q2 pl.tmp2 h2 l2 f2 t2]; simp only []
  rw [hres]
  obtain ⟨X, eX, iX, uX, vX⟩ := putZ i3 (w := res) (k3.lt hr) _ hzF (Nat.le_trans hneed a3)
  rw [show (s2.mpzRealloc res pl.need).store ((s2.mpzRealloc res pl.need).ptr res)
      (F ⟨decide (s.size op1 < 0), s.limbs op1⟩ ⟨decide (s.size op2 < 0), s.limbs op2⟩).mag = .ok X from eX]
  simp only []
  have hq : ∀ p ∈ (if pl.tmp1 = true then [q1] else []) ++ (if pl.tmp2 = true then [q2] else []), s.next ≤ p :=
    fun p hp => mem_tmps (P := fun p => s.next ≤ p) (fun e => (t1 e).1) (fun e => (t2 e).1) hp
  refine ⟨_, rfl, Post.of_res ((k3.res (uX.res i3 (k3.lt hr) iX vX)).free_list hr _ (fun p hp i hi => ?_))
    (Fr.free_list _ (((((Fr.refl s res).copyIf e1).copyIf e2).realloc _).upd uX) fun p hp => Or.inr (hq p hp))
    fun i => ?_⟩
  swap
  · show s.alloc i ≤ ((List.foldl St.free _ _).vars i).alloc
    rw [foldl_free_vars]
    exact Nat.le_trans (k3.alloc i) (Nat.le_of_eq (uX.alloc i).symm)
  rw [uX.nv, k3.nv] at hi
  rw [uX.ptr, realloc_ptr]
  have hq := hq p hp
  split
  · exact Nat.ne_of_gt (mem_tmps (P := fun p => p < s2.next) (fun e => (t1 e).2) (fun e => (t2 e).2) hp)
  · exact Nat.ne_of_lt (Nat.lt_of_lt_of_le (hlt i hi) hq)

/-! ### mpz_and, mpz_xor, mpz_com (`*_fit`: the value-level result fits what the function requests) -/

theorem and_fit (x y : Bits.Z) : (Bits.mpz_and x y).mag.length ≤ (andPlan x.neg x.mag y.neg y.mag).need := by
  have := Bits.mpz_and_len x y
  unfold andPlan; split <;> simp_all

theorem xor_fit (x y : Bits.Z) : (Bits.mpz_xor x y).mag.length ≤ (xorPlan x.neg x.mag y.neg y.mag).need := by
  have := Bits.mpz_xor_len x y
  unfold xorPlan
  cases hx : x.neg <;> cases hy : y.neg <;> rw [hx, hy] at this <;> exact this

theorem logic_ok (plan : Bool → List Nat → Bool → List Nat → LogicPlan) (F : Bits.Z → Bits.Z → Bits.Z)
    (hres : ∀ n1 a n2 b, (plan n1 a n2 b).result = F ⟨n1, a⟩ ⟨n2, b⟩)
    (hwf : ∀ x y : Bits.Z, x.WF → y.WF → (F x y).WF)
    (hfit : ∀ x y : Bits.Z, x.WF → y.WF → (F x y).mag.length ≤ (plan x.neg x.mag y.neg y.mag).need)
    {s : St} (h : Inv s) {res op1 op2 : Nat} (hr : res < s.nv) (h1 : op1 < s.nv) (h2 : op2 < s.nv) :
    ∃ s', logicV .c plan res op1 op2 s = .ok s' ∧ Res s s' res (F (Zof s op1) (Zof s op2)).toInt :=
  (logic_post plan F hres hwf hfit h hr h1 h2).mono fun _ p => p.res h hr

theorem mpz_and_post {s : St} (h : Inv s) {res op1 op2 : Nat} (hr : res < s.nv) (h1 : op1 < s.nv) (h2 : op2 < s.nv) :
    Ok (mpz_and res op1 op2 s) (fun s' => Post s s' res (Int.land (s.value op1) (s.value op2))) := by
  have := logic_post andPlan Bits.mpz_and (fun n1 a n2 b => by unfold andPlan; split <;> rfl)
    (fun x y hx hy => (Bits.mpz_and_land x y hx hy).2) (fun x y _ _ => and_fit x y) h hr h1 h2
  rw [(Bits.mpz_and_land _ _ (Zof_WF h h1) (Zof_WF h h2)).1, Zof_toInt, Zof_toInt, Bits.land_eq] at this
  exact this

theorem mpz_and_ok {s : St} (h : Inv s) {res op1 op2 : Nat} (hr : res < s.nv) (h1 : op1 < s.nv) (h2 : op2 < s.nv) :
    ∃ s', mpz_and res op1 op2 s = .ok s' ∧ Res s s' res (Int.land (s.value op1) (s.value op2)) :=
  (mpz_and_post h hr h1 h2).mono fun _ p => p.res h hr

theorem mpz_xor_post {s : St} (h : Inv s) {res op1 op2 : Nat} (hr : res < s.nv) (h1 : op1 < s.nv) (h2 : op2 < s.nv) :
    Ok (mpz_xor res op1 op2 s) (fun s' => Post s s' res (Int.xor (s.value op1) (s.value op2))) := by
  have := logic_post xorPlan Bits.mpz_xor (fun n1 a n2 b => by unfold xorPlan; split <;> [rfl; (split <;> rfl)])
    (fun x y hx hy => (Bits.mpz_xor_lxor x y hx hy).2) (fun x y _ _ => xor_fit x y) h hr h1 h2
  rw [(Bits.mpz_xor_lxor _ _ (Zof_WF h h1) (Zof_WF h h2)).1, Zof_toInt, Zof_toInt, Bits.lxor_eq] at this
  exact this

theorem mpz_xor_ok {s : St} (h : Inv s) {res op1 op2 : Nat} (hr : res < s.nv) (h1 : op1 < s.nv) (h2 : op2 < s.nv) :
    ∃ s', mpz_xor res op1 op2 s = .ok s' ∧ Res s s' res (Int.xor (s.value op1) (s.value op2)) :=
  (mpz_xor_post h hr h1 h2).mono fun _ p => p.res h hr

theorem com_fit (x : Bits.Z) : (Bits.mpz_com x).mag.length ≤ (if x.neg then x.mag.length else x.mag.length + 1) := by
  unfold Bits.mpz_com
  cases hx : x.neg <;> simp only [Bool.not_false, Bool.not_true, Bool.false_eq_true, if_true, if_false]
  · split
    · simp
    · exact addOneGrow_len_le _
  · exact Nat.le_trans (dropTopZero_len_le _) (Nat.le_of_eq (subLimb_len _ _))

theorem mpz_com_post {s : St} (h : Inv s) {dst src : Nat} (hd : dst < s.nv) (hs : src < s.nv) :
    Ok (mpz_com dst src s) (fun s' => Post s s' dst (-(s.value src) - 1)) := by
  unfold mpz_com mpz_comV
  simp only [Variant.c, if_true, bind, Except.bind, pure, Except.pure]
  obtain ⟨i1, k, a1⟩ := realloc_same h hd (if s.size src ≥ 0 then (s.size src).natAbs + 1 else (s.size src).natAbs)
  rw [k.load i1 hs]; simp only []
  obtain ⟨e1, hwf⟩ := Bits.mpz_com_lnot (Zof s src) (Zof_WF h hs)
  have hfit : (Bits.mpz_com (Zof s src)).mag.length ≤
      (s.mpzRealloc dst (if s.size src ≥ 0 then (s.size src).natAbs + 1 else (s.size src).natAbs)).alloc dst := by
    refine Nat.le_trans (com_fit _) (Nat.le_trans (Nat.le_of_eq ?_) a1)
    show (if decide (s.size src < 0) = true then (s.limbs src).length else (s.limbs src).length + 1) = _
    rw [(h.limbs_spec hs).1]
    by_cases h0 : s.size src < 0
    · rw [if_pos (decide_eq_true h0), if_neg (Int.not_le.mpr h0)]
    · rw [if_neg (by simpa using h0), if_pos (Int.not_lt.mp h0)]
  obtain ⟨X, eX, iX, uX, vX⟩ := putZ i1 (w := dst) (k.lt hd) _ hwf hfit
  rw [show (s.mpzRealloc dst _).store _ (Bits.mpz_com ⟨decide (s.size src < 0), s.limbs src⟩).mag = .ok X from eX]
  exact ⟨_, rfl, Post.of_same_upd k ((Fr.refl s dst).realloc _) uX iX
    (vX.trans (by rw [e1, Zof_toInt, Bits.lnot_eq_neg]))⟩

theorem mpz_com_ok {s : St} (h : Inv s) {dst src : Nat} (hd : dst < s.nv) (hs : src < s.nv) :
    ∃ s', mpz_com dst src s = .ok s' ∧ Res s s' dst (-(s.value src) - 1) :=
  (mpz_com_post h hd hs).mono fun _ p => p.res h hd

/-! ### mpz_neg, mpz_abs -/

theorem Vals.flip {n : Nat} {f : Nat → Int} {s : St} (V : Vals n f s) {w : Nat} (hw : w < n) (z : Int)
    (hz : z.natAbs = (s.size w).natAbs) : Vals n (Function.update f w (sgnv z (f w).natAbs)) (s.setSize w z) := by
  obtain ⟨i1, u1, v1⟩ := flip_spec V.inv (V.lt hw) z hz
  rw [← V.val w hw, value_natAbs, ← v1]
  obtain ⟨_, e, r⟩ := V.step ⟨_, rfl, u1.res V.inv (V.lt hw) i1 rfl⟩
  exact (Except.ok.inj e) ▸ r

theorem Vals.negIf {n : Nat} {f : Nat → Int} {s : St} (V : Vals n f s) {w : Nat} (hw : w < n) (negate : Bool) :
    Vals n (Function.update f w (if negate then -(f w) else f w)) (s.setSize w (if negate then -(s.size w) else s.size w)) := by
  refine (V.flip hw _ (by cases negate <;> simp)).congr fun i _ => ?_
  rw [← V.val w hw, value_natAbs]
  cases negate
  · rfl
  · simp only [if_true]
    rw [sgnv_neg _ _ (V.inv.mag_zero (V.lt hw)), ← value_eq_sgnv]

theorem mpz_negabs_post (isAbs : Bool) {s : St} (h : Inv s) {w u : Nat} (hw : w < s.nv) (hu : u < s.nv) :
    Ok (mpz_negabs isAbs w u s) (fun s' => Post s s' w (if isAbs then ((s.value u).natAbs : Int) else -(s.value u))) := by
  unfold mpz_negabs
  simp only [bind, Except.bind, pure, Except.pure]
  set z : Int := (if isAbs then ((s.size u).natAbs : Int) else -(s.size u)) with hzdef
  have hzabs : z.natAbs = (s.size u).natAbs := by
    cases isAbs
    · simp [hzdef]
    · simp only [hzdef, if_true]; omega
  have hval : ∀ m : Nat, (s.size u = 0 → m = 0) →
      sgnv z m = (if isAbs then ((sgnv (s.size u) m).natAbs : Int) else -(sgnv (s.size u) m)) := by
    intro m hm
    cases isAbs
    · simp only [hzdef, Bool.false_eq_true, if_false]; exact sgnv_neg _ _ hm
    · simp only [hzdef, if_true, sgnv_natAbs]
      unfold sgnv; rw [if_neg (by omega)]
  by_cases huw : u = w
  · subst huw
    simp only [ne_eq, not_true_eq_false, if_false]
    obtain ⟨i1, u1, v1⟩ := flip_spec h hw z hzabs
    refine ⟨_, rfl, Post.of_same_upd (Same.refl s) (Fr.refl s u) u1 i1 ?_⟩
    rw [v1, hval _ (fun h0 => h.mag_zero hw h0), ← value_eq_sgnv]
  · rw [if_pos huw]
    obtain ⟨i1, k1, a1⟩ := realloc_same h hw (s.size u).natAbs
    have hls := i1.limbs_spec (k1.lt hu)
    obtain ⟨X, eX, iX, uX, vX⟩ := store_put i1 (k1.lt hw) _ _ (by rw [hls.1, k1.size]; exact a1) hls.2
      (i1.size_natAbs (k1.lt hu))
    rw [k1.limbs u hu, k1.size] at *
    rw [k1.load i1 hu]; simp only []
    rw [eX]; simp only []
    have hYsz : (X.setSize w (s.size u)).size w = s.size u := by simp [St.setSize, St.setVar, St.size]
    obtain ⟨i2, u2, v2⟩ := flip_spec iX (uX.nv ▸ k1.lt hw) z (by rw [hzabs, hYsz])
    rw [setSize_setSize] at i2 u2 v2
    refine ⟨_, rfl, Post.of_same_upd k1 ((Fr.refl s w).realloc _) (uX.trans u2) i2 ?_⟩
    have hm : (X.setSize w (s.size u)).mag w = s.mag u := by rw [← value_natAbs, vX, sgnv_natAbs]; rfl
    rw [v2, hm, hval _ (fun h0 => h.mag_zero hu h0), ← value_eq_sgnv]

theorem mpz_negabs_ok (isAbs : Bool) {s : St} (h : Inv s) {w u : Nat} (hw : w < s.nv) (hu : u < s.nv) :
    ∃ s', mpz_negabs isAbs w u s = .ok s' ∧ Res s s' w (if isAbs then ((s.value u).natAbs : Int) else -(s.value u)) :=
  (mpz_negabs_post isAbs h hw hu).mono fun _ p => p.res h hw

end Mpir.AliasMem
