/- mpz_root, mpz_remove, mpz_bin_ui on the pointer-level model (Mpir/Model/AliasMisc.lean), every assignment of ids. -/
import MpirProofs.Lemmas.AliasBits
import MpirProofs.Lemmas.AliasDiv
import MpirProofs.Lemmas.AliasMul
import MpirProofs.Lemmas.AliasShift2
import MpirProofs.Lemmas.AliasUi
import MpirProofs.Lemmas.Numth
import Mpir.Model.AliasMisc
namespace Mpir.AliasMem
open Mpir
open Mpir.DivZ (sizeNat siz sameSign)

/-! ### mpz_root -/

/-- root.c:63-71: what the copy (nth = 1) or mpn_rootrem with a NULL remainder leaves in the root block -/
theorem rootCompute_ok {s2 : St} {rootp up un nth : Nat} {Ul bR : List Nat}
    (hl : s2.load up un = .ok Ul) (hUL : Limbs Ul) (hUlen : Ul.length = un)
    (hbR : s2.blk rootp = some bR) (h1 : rootp ≠ up) (hun : 1 ≤ un) (hn : 1 ≤ nth)
    (htop : Ul.getD (un - 1) 0 ≠ 0) (haR : (un - 1) / nth + 1 ≤ bR.length) :
    rootCompute nth rootp up un s2 =
      .ok (sizeNat (val Ul - Root.iroot nth (val Ul) ^ nth),
        s2.setBlk rootp (some (toLimbs ((un - 1) / nth + 1) (Root.iroot nth (val Ul)) ++ bR.drop ((un - 1) / nth + 1)))) := by
  unfold rootCompute
  by_cases h1n : nth = 1
  · subst h1n
    rw [if_pos rfl]
    simp only [bind, Except.bind, pure, Except.pure, hl]
    have e0 : (un - 1) / 1 + 1 = un := by rw [Nat.div_one]; omega
    rw [e0] at haR
    rw [store_blk hbR (by rw [hUlen]; exact haR)]
    simp only [Root.iroot_one, pow_one, Nat.sub_self, DivZ.sizeNat_eq_zero.mpr rfl, e0, hUlen]
    rw [← hUlen, ← eq_toLimbs Ul hUL]
  · rw [if_neg h1n]
    unfold mpn_root
    have hs : ¬ ¬ (1 ≤ un ∧ 2 ≤ nth) := by omega
    simp only [bind, Except.bind, h1, if_false, hl, hs, htop, pure, Except.pure, Root.irootFast_eq, Root.powS_eq]
    rw [store_blk hbR (by rw [toLimbs_length]; exact haR)]
    simp only [toLimbs_length]

/-- **mpz_root (root, u, nth)** on the pointer model, root = u included: the return value says whether the root is exact,
    root ends up with the truncated nth root (sign of u), nothing else changes. -/
theorem mpz_root_post {s : St} (h : Inv s) {root u : Nat} (hr : root < s.nv) (hu : u < s.nv) (nth : Nat) (hn : 1 ≤ nth)
    (hsgn : 0 ≤ s.value u ∨ nth % 2 = 1) :
    ∃ s', mpz_root root u nth s = .ok (decide (Root.iroot nth (s.mag u) ^ nth = s.mag u), s') ∧
      Post s s' root (sgnv (s.size u) (Root.iroot nth (s.mag u))) := by
  unfold mpz_root mpz_rootV
  simp only [RootVariant.c, bind, Except.bind, pure, Except.pure, true_and]
  have hc1 : ¬ (s.size u < 0 ∧ nth % 2 = 0) := fun ⟨a, b⟩ => by
    have := (h.size_neg_iff hu).mp a; omega
  rw [if_neg hc1, if_neg (by omega : ¬ nth = 0)]
  by_cases hz : s.size u = 0
  · rw [if_pos hz]
    have hm0 : s.mag u = 0 := h.mag_zero hu hz
    obtain ⟨i1, u1, v1⟩ := setSize_zero_spec h hr
    rw [hm0, Root.iroot_zero nth (by omega)]
    refine ⟨_, ?_, Post.of_same_upd (Same.refl s) (Fr.refl s root) u1 i1 ?_⟩
    · have : (0 : Nat) ^ nth = 0 := Nat.zero_pow (by omega)
      simp [this]
    · rw [v1]; unfold sgnv; split <;> simp
  · rw [if_neg hz]
    have oU := h.normOp hu hz
    have hfit := h.fits u hu
    have hun1 := oU.pos
    have hRsz : sizeNat (Root.iroot nth (s.mag u)) = ((s.size u).natAbs - 1) / nth + 1 := iroot_size oU.ge oU.lt oU.pos hn
    have hRlt : Root.iroot nth (s.mag u) < B ^ (((s.size u).natAbs - 1) / nth + 1) := hRsz ▸ DivZ.lt_B_pow_sizeNat _
    have hexact : decide (sizeNat (s.mag u - Root.iroot nth (s.mag u) ^ nth) = 0) = decide (Root.iroot nth (s.mag u) ^ nth = s.mag u) := by
      have := (Root.iroot_spec nth (s.mag u) (by omega)).1
      rw [decide_eq_decide, DivZ.sizeNat_eq_zero]; omega
    have hrle : ((s.size u).natAbs - 1) / nth + 1 ≤ (s.size u).natAbs := by
      have := Nat.div_le_self ((s.size u).natAbs - 1) nth
      omega
    have hval : val (s.limbs u) = s.mag u := rfl
    -- SIZ (root) = ± rootn carries the sign of u
    have hv : sgnv (if s.size u ≥ 0 then ((((s.size u).natAbs - 1) / nth + 1 : Nat) : Int)
        else -((((s.size u).natAbs - 1) / nth + 1 : Nat) : Int)) (Root.iroot nth (s.mag u)) =
        sgnv (s.size u) (Root.iroot nth (s.mag u)) := by
      rw [sgnv_ite _ _ _ (fun e => absurd e (Nat.succ_ne_zero _))]
      exact (sgnv_ge _ _).symm
    by_cases hur : u = root
    · subst hur
      simp only [decide_true, if_true]
      -- the root is built in TMP space
      rw [show (s.tmpAlloc (((s.size u).natAbs - 1) / nth + 1)).2.ptr u = s.ptr u from rfl,
        show (s.tmpAlloc (((s.size u).natAbs - 1) / nth + 1)).1 = s.next from rfl,
        rootCompute_ok (s2 := (s.tmpAlloc (((s.size u).natAbs - 1) / nth + 1)).2) ((malloc_ext h _).load (h.load_var hu))
          oU.limbs oU.len (malloc_blk_new s _) (Ne.symm (malloc_ne_ptr h hu)) oU.pos hn oU.top (by rw [List.length_replicate])]
      simp only []
      rw [hval, hexact, show (s.tmpAlloc (((s.size u).natAbs - 1) / nth + 1)).2 = (s.malloc _).2 from rfl, malloc_setBlk]
      generalize (List.replicate (((s.size u).natAbs - 1) / nth + 1) junk).drop (((s.size u).natAbs - 1) / nth + 1) = rest
      have i2 := malloc_inv h (toLimbs (((s.size u).natAbs - 1) / nth + 1) (Root.iroot nth (s.mag u)) ++ rest)
      have x2 := malloc_ext h (toLimbs (((s.size u).natAbs - 1) / nth + 1) (Root.iroot nth (s.mag u)) ++ rest)
      have hb2 := malloc_blk_new s (toLimbs (((s.size u).natAbs - 1) / nth + 1) (Root.iroot nth (s.mag u)) ++ rest)
      have fr2 : Fr s u (s.malloc (toLimbs (((s.size u).natAbs - 1) / nth + 1) (Root.iroot nth (s.mag u)) ++ rest)).2 :=
        (Fr.refl s u).malloc _
      generalize (s.malloc (toLimbs (((s.size u).natAbs - 1) / nth + 1) (Root.iroot nth (s.mag u)) ++ rest)).2 = S2 at *
      obtain ⟨bu, hbu, hbul, -⟩ := i2.live u (x2.nv ▸ hu)
      obtain ⟨i3, u3, v3⟩ := put_toLimbs i2 (x2.nv ▸ hu) hbu (((s.size u).natAbs - 1) / nth + 1) (Root.iroot nth (s.mag u))
        (if s.size u ≥ 0 then ((((s.size u).natAbs - 1) / nth + 1 : Nat) : Int) else -((((s.size u).natAbs - 1) / nth + 1 : Nat) : Int))
        (by rw [x2.alloc]; omega) hRlt (by rw [hRsz]; exact natAbs_ite_pos _ _)
      rw [load_blk (show (S2.setSize u _).blk s.next = some _ from hb2) (by rw [List.length_append, toLimbs_length]; omega),
        List.take_left' (toLimbs_length _ _)]
      simp only []
      rw [← x2.ptr u, store_blk (show (S2.setSize u _).blk (S2.ptr u) = some bu from hbu) (by rw [toLimbs_length, hbul, x2.alloc]; omega)]
      simp only [toLimbs_length]
      exact ⟨_, rfl, Post.finish hu (Same.refl s) h (Nat.le_refl _) x2 (fr2.upd u3) u3.nv u3.ptr u3.alloc i3 (v3.trans hv) [s.next]
        fun p hp => Nat.le_of_eq (List.mem_singleton.mp hp).symm⟩
    · have hur' : ¬ (u = root) := hur
      simp only [hur', decide_false, Bool.false_eq_true, if_false]
      obtain ⟨i1, k, a1⟩ := realloc_same h hr (((s.size u).natAbs - 1) / nth + 1)
      have fr1 : Fr s root (s.mpzRealloc root (((s.size u).natAbs - 1) / nth + 1)) := (Fr.refl s root).realloc _
      generalize s.mpzRealloc root (((s.size u).natAbs - 1) / nth + 1) = s1 at *
      obtain ⟨bR, hbR, hbRl, -⟩ := i1.live root (k.lt hr)
      rw [rootCompute_ok (k.load i1 hu) oU.limbs oU.len hbR (fun e => hur (i1.inj root u (k.lt hr) (k.lt hu) e).symm) oU.pos hn
        oU.top (by rw [hbRl]; exact a1)]
      simp only []
      rw [hval, hexact]
      obtain ⟨i2, u2, v2⟩ := put_toLimbs i1 (k.lt hr) hbR (((s.size u).natAbs - 1) / nth + 1) (Root.iroot nth (s.mag u))
        (if s.size u ≥ 0 then ((((s.size u).natAbs - 1) / nth + 1 : Nat) : Int) else -((((s.size u).natAbs - 1) / nth + 1 : Nat) : Int))
        a1 hRlt (by rw [hRsz]; exact natAbs_ite_pos _ _)
      exact ⟨_, rfl, Post.of_same_upd k fr1 u2 i2 (v2.trans hv)⟩

theorem mpz_root_ok {s : St} (h : Inv s) {root u : Nat} (hr : root < s.nv) (hu : u < s.nv) (nth : Nat) (hn : 1 ≤ nth)
    (hsgn : 0 ≤ s.value u ∨ nth % 2 = 1) :
    ∃ s', mpz_root root u nth s = .ok (decide (Root.iroot nth (s.mag u) ^ nth = s.mag u), s') ∧
      Res s s' root (sgnv (s.size u) (Root.iroot nth (s.mag u))) := by
  obtain ⟨s', e, p⟩ := mpz_root_post h hr hu nth hn hsgn
  exact ⟨s', e, p.res h hr⟩

/-! ### mpz_remove -/

/-- `±a` with the sign of src -/
def sgb (neg : Bool) (a : Nat) : Int := if neg then -(a : Int) else (a : Int)

theorem tdivQ_sgb (neg : Bool) (a fp : Nat) : DivZ.tdivQ (sgb neg a) (fp : Int) = sgb neg (a / fp) := by
  unfold DivZ.tdivQ sgb
  cases neg
  · simp only [Bool.false_eq_true, if_false]; exact (Int.ofNat_tdiv a fp).symm
  · simp only [if_true]; rw [Int.neg_tdiv, Int.ofNat_tdiv]

theorem tdivR_sgb_zero (neg : Bool) (a fp : Nat) : DivZ.tdivR (sgb neg a) (fp : Int) = 0 ↔ a % fp = 0 := by
  unfold DivZ.tdivR sgb
  have h : Int.tmod (a : Int) (fp : Int) = ((a % fp : Nat) : Int) := (Int.ofNat_tmod a fp).symm
  cases neg
  · simp only [Bool.false_eq_true, if_false]; rw [h]; omega
  · simp only [if_true]; rw [Int.neg_tmod, h]; omega

/-- what the two loops of mpz_remove keep true of the VALUES `f` (`g`, `m`: the values and the number of variables of the
    caller; rem = `m`, x = `m + 1`, fpow[j] = `m + 2 + j`): dest holds ±a, fpow[0 … N-1] hold the non-zero numbers `L`, the
    last one first; every other variable of the caller has its old value -/
structure PVal (g : Nat → Int) (m dest : Nat) (neg : Bool) (f : Nat → Int) (N a : Nat) (L : List Nat) : Prop where
  hdest : f dest = sgb neg a
  hpw : ∀ j, j < N → f (m + 2 + j) = ((L.getD (N - 1 - j) 0 : Nat) : Int)
  hpos : ∀ x ∈ L, x ≠ 0
  hlen : L.length = N
  hframe : ∀ i, i < m → i ≠ dest → f i = g i

namespace PVal
variable {g : Nat → Int} {m dest : Nat} {neg : Bool} {f f' : Nat → Int} {N a a' : Nat} {L : List Nat}

theorem top {fp : Nat} {rest : List Nat} (I : PVal g m dest neg f (N + 1) a (fp :: rest)) :
    f (m + 2 + N) = (fp : Int) ∧ fp ≠ 0 := by
  have := I.hpw N (Nat.lt_succ_self _)
  rw [show N + 1 - 1 - N = 0 by omega] at this
  exact ⟨by simpa using this, I.hpos fp List.mem_cons_self⟩

theorem keep (I : PVal g m dest neg f N a L) (hd : dest < m) (hdest : f' dest = sgb neg a')
    (h : ∀ i, i ≠ dest → i ≠ m → i ≠ m + 1 → f' i = f i) : PVal g m dest neg f' N a' L :=
  ⟨hdest, fun j hj => (h _ (by omega) (by omega) (by omega)).trans (I.hpw j hj), I.hpos, I.hlen,
    fun i hi hid => (h i hid (by omega) (by omega)).trans (I.hframe i hi hid)⟩

/-- `mpz_clear (fpow[N])` -/
theorem pop {fp : Nat} {rest : List Nat} (I : PVal g m dest neg f (N + 1) a (fp :: rest)) : PVal g m dest neg f N a rest :=
  ⟨I.hdest, fun j hj => by
      have := I.hpw j (by omega)
      rwa [show N + 1 - 1 - j = (N - 1 - j) + 1 by omega, List.getD_cons_succ] at this,
    fun x hx => I.hpos x (List.mem_cons_of_mem _ hx), by have := I.hlen; simpa using this, I.hframe⟩

theorem push (I : PVal g m dest neg f N a L) (hd : dest < m) {x : Nat} (hx : x ≠ 0) (htop : f' (m + 2 + N) = (x : Int))
    (hdest : f' dest = sgb neg a') (h : ∀ i, i ≠ dest → i ≠ m → i ≠ m + 1 → i ≠ m + 2 + N → f' i = f i) :
    PVal g m dest neg f' (N + 1) a' (x :: L) :=
  ⟨hdest, fun j hj => by
      by_cases hjN : j = N
      · subst hjN; rw [htop, show j + 1 - 1 - j = 0 by omega]; rfl
      · rw [h _ (by omega) (by omega) (by omega) (by omega), I.hpw j (by omega),
          show N + 1 - 1 - j = (N - 1 - j) + 1 by omega, List.getD_cons_succ],
    fun y hy => by
      rcases List.mem_cons.mp hy with e | e
      · exact e ▸ hx
      · exact I.hpos y e,
    by simp [I.hlen], fun i hi hid => (h i hid (by omega) (by omega) (by omega)).trans (I.hframe i hi hid)⟩

end PVal

/-- remove.c:66, :82 `mpz_tdiv_qr (x, rem, dest, fpow[N])`: x = ±(a / fp), and SIZ (rem) says whether fp divides a -/
theorem removeDiv_ok {g : Nat → Int} {m dest : Nat} (hd : dest < m) {neg : Bool} {f : Nat → Int} {N a fp : Nat}
    {rest : List Nat} {s : St} (V : Vals (m + 2 + N + 1) f s) (I : PVal g m dest neg f (N + 1) a (fp :: rest)) :
    Ok (tdiv_qr (m + 1) m dest (m + 2 + N) s) (fun s1 => (s1.size m = 0 ↔ a % fp = 0) ∧
      ∃ f1, Vals (m + 2 + N + 1) f1 s1 ∧ f1 (m + 1) = sgb neg (a / fp) ∧ PVal g m dest neg f1 (N + 1) a (fp :: rest)) := by
  obtain ⟨hfpv, hfp0⟩ := I.top
  refine (V.tdiv_qr (q := m + 1) (r := m) (a := dest) (d := m + 2 + N) (by omega) (by omega) (by omega) (by omega)
    (by omega) (by rw [hfpv]; exact_mod_cast hfp0)).mono fun s1 V1 => ?_
  rw [I.hdest, hfpv, tdivQ_sgb] at V1
  refine ⟨by rw [V1.inv.size_eq_zero_iff (V1.lt (by omega)), V1.val m (by omega), Function.update_self, tdivR_sgb_zero],
    _, V1, by rw [Function.update_of_ne (by omega), Function.update_self],
    I.keep hd (by rw [Function.update_of_ne (by omega), Function.update_of_ne (by omega)]; exact I.hdest)
      (fun i _ h1 h2 => by rw [Function.update_of_ne h1, Function.update_of_ne h2])⟩

theorem removeUp_ok (g : Nat → Int) (m : Nat) {dest : Nat} (hd : dest < m) (neg : Bool) :
    ∀ (fuel p : Nat) (s : St) (a : Nat) (pows : List Nat) (f : Nat → Int), Vals (m + 2 + p + 1) f s →
      PVal g m dest neg f (p + 1) a pows →
      Ok (removeUp dest (m + 1) m (m + 2) fuel p s) (fun r =>
        r.1 = (Numth.removeUp fuel a pows p).2.2 ∧ ∃ f', Vals (m + 2 + r.1 + 1) f' r.2 ∧
          PVal g m dest neg f' (r.1 + 1) (Numth.removeUp fuel a pows p).1 (Numth.removeUp fuel a pows p).2.1) := by
  intro fuel
  induction fuel with
  | zero => intro p s a pows f V I; exact Ok.pure ⟨rfl, f, V, I⟩
  | succ fuel ih =>
    intro p s a pows f V I
    obtain ⟨fp, rest, rfl⟩ : ∃ fp rest, pows = fp :: rest := by
      cases pows with
      | nil => have := I.hlen; simp at this
      | cons fp rest => exact ⟨fp, rest, rfl⟩
    obtain ⟨hfpv, hfp0⟩ := I.top
    have hN : Numth.removeUp (fuel + 1) a (fp :: rest) p =
        if a % fp ≠ 0 then (a, fp :: rest, p) else Numth.removeUp fuel (a / fp) (fp * fp :: fp :: rest) (p + 1) := rfl
    unfold removeUp
    refine (removeDiv_ok hd V I).bind fun s1 ⟨hrem, f1, V1, hx1, I1⟩ => ?_
    rw [hN]
    by_cases hstop : a % fp ≠ 0
    · rw [if_pos (fun e => hstop (hrem.mp e)), if_pos hstop]
      exact Ok.pure ⟨rfl, f1, V1, I1⟩
    · rw [if_neg (fun hc => hc (hrem.mpr (Decidable.not_not.mp hstop))), if_neg hstop]
      obtain ⟨e, V2, -⟩ := V1.tmpInit 1
      simp only [e]
      clear e hN hrem
      refine (V2.mul (w := m + 2 + p + 1) (u := m + 2 + p) (v := m + 2 + p) (by omega) (by omega) (by omega)).bind
        fun s2 V3 => ?_
      refine (V3.set (w := dest) (u := m + 1) (by omega) (by omega)).bind fun s3 V4 => ?_
      refine ih (p + 1) s3 (a / fp) (fp * fp :: fp :: rest) _ V4
        (I1.push hd (Nat.mul_ne_zero hfp0 hfp0) ?_ ?_ fun i h1 h2 h3 h4 => ?_)
      · rw [show m + 2 + (p + 1) = m + 2 + p + 1 from rfl, Function.update_of_ne (by omega), Function.update_self,
          Function.update_of_ne (by omega), I1.top.1]
        push_cast; rfl
      · rw [Function.update_self, Function.update_of_ne (by omega), Function.update_of_ne (by omega), hx1]
      · have h4 : i ≠ m + 2 + p + 1 := h4
        rw [Function.update_of_ne h1, Function.update_of_ne h4, Function.update_of_ne h4]

theorem removeDown_ok (g : Nat → Int) (m : Nat) {dest : Nat} (hd : dest < m) (neg : Bool) :
    ∀ (q : Nat) (s : St) (a : Nat) (L : List Nat) (pwr : Nat) (f : Nat → Int), Vals (m + 2 + q) f s →
      PVal g m dest neg f q a L →
      Ok (removeDown dest (m + 1) m (m + 2) q pwr s) (fun r =>
        r.1 = (Numth.removeDown L q a pwr).2 ∧ ∃ f', Vals (m + 2) f' r.2 ∧
          PVal g m dest neg f' 0 (Numth.removeDown L q a pwr).1 []) := by
  intro q
  induction q with
  | zero =>
    intro s a L pwr f V I
    obtain rfl : L = [] := List.length_eq_zero_iff.mp I.hlen
    exact Ok.pure ⟨rfl, f, V, I⟩
  | succ q ih =>
    intro s a L pwr f V I
    obtain ⟨fp, rest, rfl⟩ : ∃ fp rest, L = fp :: rest := by
      cases L with
      | nil => have := I.hlen; simp at this
      | cons fp rest => exact ⟨fp, rest, rfl⟩
    have hN : Numth.removeDown (fp :: rest) (q + 1) a pwr =
        if a % fp = 0 then Numth.removeDown rest q (a / fp) (pwr + 2 ^ q) else Numth.removeDown rest q a pwr := rfl
    unfold removeDown
    refine (removeDiv_ok hd V I).bind fun s1 ⟨hrem, f1, V1, hx1, I1⟩ => ?_
    rw [hN]
    by_cases hz : a % fp = 0
    · rw [if_pos (hrem.mpr hz), if_pos hz]
      simp only [bind_assoc, pure_bind]
      refine (V1.set (w := dest) (u := m + 1) (by omega) (by omega)).bind fun s2 V2 => ?_
      exact ih s2.tmpDone (a / fp) rest (pwr + 2 ^ q) _ V2.tmpDone
        (I1.keep hd (by rw [Function.update_self, hx1]) (fun i h1 _ _ => Function.update_of_ne h1 ..)).pop
    · rw [if_neg (fun hc => hz (hrem.mp hc)), if_neg hz]
      simp only [pure_bind]
      exact ih s1.tmpDone a rest pwr f1 V1.tmpDone I1.pop

theorem value_sgb (z : Int) : z = sgb (decide (z < 0)) z.natAbs := by
  unfold sgb
  by_cases h : z < 0
  · rw [if_pos (by simpa using h)]; omega
  · rw [if_neg (by simpa using h)]; omega

/-- remove.c:55-93, the general case (f ≥ 3): three mpz_init'ed locals, the copy of f BEFORE the copy of src to dest, the two
    division phases, the mpz_clear's.  For EVERY assignment of ids (dest = src, dest = f, src = f, all equal). -/
theorem removeMain_ok {s : St} (h : Inv s) {dest src f : Nat} (hd : dest < s.nv) (hs : src < s.nv) (hf : f < s.nv)
    (hf1 : 1 < s.value f) :
    let a := (s.value src).natAbs
    let up := Numth.removeUp (a.log2 + 2) a [(s.value f).toNat] 0
    let dn := Numth.removeDown (up.2.1.drop 1) up.2.2 up.1 (2 ^ up.2.2 - 1)
    Ok (do
        let t1 := s.tmpInit 1
        let t2 := t1.2.tmpInit 1
        let t3 := t2.2.tmpInit 1
        let s ← (do let s ← mpz_set t3.1 f t3.2; mpz_set dest src s)
        let (p, s) ← removeUp dest t2.1 t1.1 t3.1 (a.log2 + 2) 0 s
        let s := s.tmpDone
        let (pwr, s) ← removeDown dest t2.1 t1.1 t3.1 p (2 ^ p - 1) s
        pure (pwr, s.tmpDone.tmpDone) : R (Nat × St))
      (fun r => r.1 = dn.2 ∧ Res s r.2 dest (sgb (decide (s.value src < 0)) dn.1)) := by
  intro a up dn
  obtain ⟨e1, V1, -⟩ := (Vals.of_inv h).tmpInit 1
  obtain ⟨e2, V2, -⟩ := V1.tmpInit 1
  obtain ⟨e3, V3, -⟩ := V2.tmpInit 1
  simp only [e3, e2, e1]
  clear e1 e2 e3
  have hF : ∀ i, i < s.nv → Function.update (Function.update (Function.update s.value s.nv 0) (s.nv + 1) 0) (s.nv + 1 + 1) 0 i
      = s.value i := fun i hi => by
    rw [Function.update_of_ne (by omega), Function.update_of_ne (by omega), Function.update_of_ne (by omega)]
  refine ((V3.set (w := s.nv + 1 + 1) (u := f) (by omega) (by omega)).bind fun s4 V4 =>
    V4.set (w := dest) (u := src) (by omega) (by omega)).bind fun s5 V5 => ?_
  rw [Function.update_of_ne (show src ≠ s.nv + 1 + 1 by omega), hF f hf, hF src hs] at V5
  obtain ⟨f5, V5, I0⟩ : ∃ f5, Vals (s.nv + 2 + 0 + 1) f5 s5 ∧
      PVal s.value s.nv dest (decide (s.value src < 0)) f5 1 a [(s.value f).toNat] := by
    refine ⟨_, V5, ?_, fun j hj => ?_, fun x hx => ?_, rfl, fun i hi hid => ?_⟩
    · rw [Function.update_self]; exact value_sgb _
    · obtain rfl : j = 0 := by omega
      rw [Function.update_of_ne (by omega), show s.nv + 2 + 0 = s.nv + 1 + 1 from rfl, Function.update_self]
      exact (Int.toNat_of_nonneg (by omega)).symm
    · rw [List.mem_singleton.mp hx]; omega
    · rw [Function.update_of_ne hid, Function.update_of_ne (by omega), hF i hi]
  refine (removeUp_ok s.value s.nv hd _ (a.log2 + 2) 0 s5 a _ f5 V5 I0).bind fun ⟨p, s6⟩ ⟨e, f6, V6, I6⟩ => ?_
  dsimp only at e V6 I6 ⊢
  subst e
  obtain ⟨x, rest, hL⟩ : ∃ x rest, up.2.1 = x :: rest := by
    have := I6.hlen
    cases hu : up.2.1 with
    | nil => rw [hu] at this; simp at this
    | cons x rest => exact ⟨x, rest, rfl⟩
  have I7 : PVal s.value s.nv dest (decide (s.value src < 0)) f6 up.2.2 up.1 (up.2.1.drop 1) := by
    rw [hL] at I6 ⊢; exact I6.pop
  refine (removeDown_ok s.value s.nv hd _ up.2.2 s6.tmpDone up.1 _ (2 ^ up.2.2 - 1) f6 V6.tmpDone I7).bind
    fun ⟨pwr, s8⟩ ⟨e, f8, V8, I8⟩ => ?_
  dsimp only at e V8 I8 ⊢
  have V9 : Vals s.nv f8 s8.tmpDone.tmpDone := (show Vals (s.nv + 1 + 1) f8 s8 from V8).tmpDone.tmpDone
  exact Ok.pure ⟨e, V9.res_of I8.hdest I8.hframe hd⟩

/-- remove.c:43-49, f = 2: `mpz_fdiv_q_2exp (dest, src, mpz_scan1 (src, 0))` is an exact division -/
theorem cfq_exact (x : Int) (hx : x ≠ 0) :
    cfq x (Numth.ctzAux (x.natAbs.log2 + 1) x.natAbs) (-1) =
      sgb (decide (x < 0)) (x.natAbs >>> Numth.ctzAux (x.natAbs.log2 + 1) x.natAbs) := by
  have ha : x.natAbs ≠ 0 := Int.natAbs_ne_zero.mpr hx
  obtain ⟨hsp, _⟩ := Numth.ctzAux_spec (x.natAbs.log2 + 1) x.natAbs ha Nat.lt_log2_self
  generalize Numth.ctzAux (x.natAbs.log2 + 1) x.natAbs = c at *
  generalize hq : x.natAbs >>> c = q at *
  have hpos : 0 < 2 ^ c := Nat.pow_pos (by decide)
  have hq0 : q ≠ 0 := fun e => by rw [e] at hsp; omega
  have hmod : x.natAbs % 2 ^ c = 0 := by rw [hsp]; exact Nat.mul_mod_left _ _
  have hdiv : x.natAbs / 2 ^ c = q := by rw [hsp]; exact Nat.mul_div_cancel _ hpos
  have hsz : ¬ sizeNat x.natAbs ≤ c / 64 := by
    rw [DivZ.sizeNat_le_iff]
    have h1 : B ^ (c / 64) ≤ 2 ^ c := by
      rw [show B = 2 ^ 64 from rfl, ← pow_mul]; exact Nat.pow_le_pow_right (by decide) (Nat.mul_div_le c 64)
    have h2 : 2 ^ c ≤ x.natAbs := by
      rw [hsp]; exact Nat.le_mul_of_pos_left _ (Nat.pos_of_ne_zero hq0)
    omega
  unfold cfq sgb
  simp only [hsz, if_false, hmod, ne_eq, not_true_eq_false, and_false, hdiv]
  by_cases hneg : x < 0
  · rw [if_neg (by omega), if_pos (by simpa using hneg)]
  · rw [if_pos (by omega), if_neg (by simpa using hneg)]

/-- **mpz_remove (dest, src, f)** on the pointer model for EVERY assignment of ids: the exception, the multiplicity returned
    and the value left in dest are those of the value-level model `Numth.mpz_remove`; nothing else changes, all locals are
    released.  `ha`: the f = 2 arm calls mpz_fdiv_q_2exp, whose theorem asks for one allocated limb. -/
theorem mpz_remove_ok {s : St} (h : Inv s) {dest src f : Nat} (hd : dest < s.nv) (hs : src < s.nv) (hf : f < s.nv)
    (ha : 1 ≤ s.alloc dest) :
    match Numth.mpz_remove (s.value src) (s.value f) with
    | none => mpz_remove dest src f s = .error "div0"
    | some (z, pwr) => ∃ s', mpz_remove dest src f s = .ok (pwr, s') ∧ Res s s' dest z := by
  unfold Numth.mpz_remove mpz_remove mpz_removeV
  by_cases hf1 : s.value f ≤ 1
  · simp only [hf1, if_true]; rfl
  · simp only [hf1, if_false]
    by_cases hs0 : s.value src = 0
    · simp only [hs0, if_true]
      have hz : s.size src = 0 := (h.size_eq_zero_iff hs).mpr hs0
      simp only [bind, Except.bind, pure, Except.pure, hz, if_true]
      by_cases hsd : src = dest
      · subst hsd
        simp only [ne_eq, not_true_eq_false, if_false]
        exact ⟨s, rfl, h, rfl, hs0, fun _ _ _ => rfl⟩
      · simp only [ne_eq, hsd, not_false_eq_true, if_true]
        obtain ⟨s', e', r'⟩ := mpz_set_ok h hd hs
        rw [e']
        exact ⟨s', rfl, r'.1, r'.2.1, by rw [r'.2.2.1, hs0], r'.2.2.2⟩
    · simp only [hs0, if_false]
      have hz : ¬ s.size src = 0 := fun e => hs0 ((h.size_eq_zero_iff hs).mp e)
      by_cases hf2 : s.value f = 2
      · simp only [hf2, if_true]
        simp only [bind, Except.bind, pure, Except.pure, hz, if_false]
        obtain ⟨s', e', r'⟩ := cfdiv_q_2exp_ok h hd hs (Numth.ctzAux ((s.value src).natAbs.log2 + 1) (s.value src).natAbs) (-1)
          (Or.inr rfl) ha
        have e'' : fdiv_q_2exp dest src (Numth.ctzAux ((s.value src).natAbs.log2 + 1) (s.value src).natAbs) s = .ok s' := e'
        rw [e'']
        refine ⟨s', rfl, r'.1, r'.2.1, ?_, r'.2.2.2⟩
        rw [r'.2.2.1, cfq_exact _ hs0]
        unfold sgb; by_cases hneg : s.value src < 0 <;> simp [hneg]
      · simp only [hf2, if_false]
        simp only [bind, Except.bind, pure, Except.pure, hz, if_false, RemoveVariant.c, if_true]
        obtain ⟨⟨pw, s'⟩, e', hpw, r'⟩ := removeMain_ok h hd hs hf (by omega)
        dsimp only at hpw r'
        subst hpw
        simp only [bind, Except.bind, pure, Except.pure] at e'
        refine ⟨s', e', r'.1, r'.2.1, ?_, r'.2.2.2⟩
        rw [r'.2.2.1]
        unfold sgb; by_cases hneg : s.value src < 0 <;> simp [hneg]

/-! ### mpz_bin_ui -/

theorem binDivide_ok {s : St} (h : Inv s) {r : Nat} (hr : r < s.nv) (V : Nat) (hV : s.value r = (V : Int)) (hV1 : 1 ≤ V)
    (kacc : Nat) (hk1 : 1 ≤ kacc) (hkB : kacc < B) :
    ∃ s', binDivide r kacc s = .ok s' ∧ Res s s' r ((V / kacc : Nat) : Int) := by
  have hpos : 0 < s.size r := by
    have h1 := h.size_neg_iff hr
    have h2 := h.size_eq_zero_iff hr
    rw [hV] at h1 h2
    omega
  obtain ⟨s', e', r'⟩ := div_q_ui_ok 0 (Or.inl rfl) h hr hr kacc (by omega) hkB
  unfold binDivide
  simp only [bind, Except.bind, pure, Except.pure, hpos, not_true_eq_false, if_false, e']
  refine ⟨s', rfl, r'.1, r'.2.1, ?_, r'.2.2.2⟩
  rw [r'.2.2.1, hV]
  rw [DivZ.specQ_zero]
  exact (Int.ofNat_tdiv V kacc).symm

theorem Vals.binDivide {n : Nat} {f : Nat → Int} {s : St} (V : Vals n f s) {r : Nat} (hr : r < n) (X : Nat)
    (hX : f r = (X : Int)) (hX1 : 1 ≤ X) (kacc : Nat) (hk1 : 1 ≤ kacc) (hkB : kacc < B) :
    Ok (binDivide r kacc s) (Vals n (Function.update f r ((X / kacc : Nat) : Int))) :=
  V.step (binDivide_ok V.inv (V.lt hr) X (by rw [V.val r hr, hX]) hX1 kacc hk1 hkB)

/-- the ASSERT of DIVIDE () (bin_ui.c:35, `SIZ (r) > 0`) along the value-level run: every quotient that is divided again is
    non-zero.  (True mathematically — the divisions are exact divisions of positive numbers — but not proved: it is the
    hypothesis under which the pointer model does not report `ub:DIVIDE`; decidable, `binPosDec`.) -/
def binPos (k : Nat) : Nat → Nat → Nat → Nat → Nat → Nat → Prop
  | 0, _, _, _, _, _ => True
  | fuel + 1, i, ni, nacc, kacc, r =>
    if i > k then True
    else if kacc * i / B ≠ 0 then
      r * (nacc * (ni + 1)) / kacc ≠ 0 ∧ binPos k fuel (i + 1) (ni + 1) 1 i (r * (nacc * (ni + 1)) / kacc)
    else binPos k fuel (i + 1) (ni + 1) (nacc * (ni + 1)) (kacc * i % B) r

/-- the values in the loop of mpz_bin_ui (`g`, `m`: the values and the number of variables of the caller; ni = `m`,
    nacc = `m + 1`) -/
structure BVal (g : Nat → Int) (m r : Nat) (f : Nat → Int) (NI NACC R : Nat) : Prop where
  hni : f m = (NI : Int)
  hnacc : f (m + 1) = (NACC : Int)
  hr : f r = (R : Int)
  hframe : ∀ j, j < m → j ≠ r → f j = g j

theorem binLoop_ok (g : Nat → Int) (m : Nat) {r : Nat} (hr : r < m) (k : Nat) (hkB : k < B) :
    ∀ (fuel i : Nat) (s : St) (ni nacc kacc R : Nat) (f : Nat → Int), Vals (m + 1 + 1) f s → BVal g m r f ni nacc R →
      1 ≤ nacc → 1 ≤ R → 1 ≤ kacc → kacc < B → 1 ≤ i → binPos k fuel i ni nacc kacc R →
      Ok (binLoop r m (m + 1) k fuel i kacc s) (fun p =>
        p.1 = (Numth.binUiLoop k fuel i ni nacc kacc R).2.1 ∧
        (∃ f' NI', Vals (m + 1 + 1) f' p.2 ∧
          BVal g m r f' NI' (Numth.binUiLoop k fuel i ni nacc kacc R).1 (Numth.binUiLoop k fuel i ni nacc kacc R).2.2) ∧
        1 ≤ (Numth.binUiLoop k fuel i ni nacc kacc R).1 ∧ 1 ≤ (Numth.binUiLoop k fuel i ni nacc kacc R).2.2 ∧
        1 ≤ (Numth.binUiLoop k fuel i ni nacc kacc R).2.1 ∧ (Numth.binUiLoop k fuel i ni nacc kacc R).2.1 < B) := by
  intro fuel
  induction fuel with
  | zero => intro i s ni nacc kacc R f V I h1 h2 h3 h4 _ _; exact Ok.pure ⟨rfl, ⟨f, ni, V, I⟩, h1, h2, h3, h4⟩
  | succ fuel ih =>
    intro i s ni nacc kacc R f V I h1 h2 h3 h4 hi1 hP
    unfold binLoop
    by_cases hik : i > k
    · have hN : Numth.binUiLoop k (fuel + 1) i ni nacc kacc R = (nacc, kacc, R) := by
        unfold Numth.binUiLoop; rw [if_pos hik]
      rw [if_pos hik, hN]
      exact Ok.pure ⟨rfl, ⟨f, ni, V, I⟩, h1, h2, h3, h4⟩
    · rw [if_neg hik]
      have hm : m < m + 1 + 1 := by omega
      have hm1 : m + 1 < m + 1 + 1 := by omega
      have hr2 : r < m + 1 + 1 := by omega
      have hnacc1 : 1 ≤ nacc * (ni + 1) := Nat.mul_pos h1 (by omega)
      refine (V.aors_ui hm hm false 1 (by rw [B_eq]; decide)).bind fun s1 V1 => ?_
      refine (V1.mul hm1 hm1 hm).bind fun s2 V2 => ?_
      -- the values after `ni += 1; nacc *= ni`
      obtain ⟨f2, V2, I2⟩ : ∃ f2, Vals (m + 1 + 1) f2 s2 ∧ BVal g m r f2 (ni + 1) (nacc * (ni + 1)) R :=
        ⟨_, V2,
         by rw [Function.update_of_ne (by omega), Function.update_self, I.hni]; simp,
         by rw [Function.update_self, Function.update_of_ne (by omega), Function.update_self, I.hnacc, I.hni]
            simp only [Bool.false_eq_true, if_false]; push_cast; ring,
         by rw [Function.update_of_ne (by omega), Function.update_of_ne (by omega)]; exact I.hr,
         fun j hj hjr => by rw [Function.update_of_ne (by omega), Function.update_of_ne (by omega)]; exact I.hframe j hj hjr⟩
      simp only []
      by_cases hov : kacc * i / B ≠ 0
      · have hN : Numth.binUiLoop k (fuel + 1) i ni nacc kacc R =
            Numth.binUiLoop k fuel (i + 1) (ni + 1) 1 i (R * (nacc * (ni + 1)) / kacc) := by
          conv_lhs => unfold Numth.binUiLoop
          simp only [if_neg hik, hov, ne_eq, not_false_eq_true, if_true]
        have hP' : R * (nacc * (ni + 1)) / kacc ≠ 0 ∧ binPos k fuel (i + 1) (ni + 1) 1 i (R * (nacc * (ni + 1)) / kacc) := by
          unfold binPos at hP; rw [if_neg hik, if_pos hov] at hP; exact hP
        rw [if_pos hov, hN]
        refine (V2.mul hr2 hr2 hm1).bind fun s3 V3 => ?_
        refine (V3.setInt hm1 1 (V3.alloc_pos hm1 ?_)).bind fun s4 V4 => ?_
        · rw [Function.update_of_ne (by omega), I2.hnacc]; exact_mod_cast Nat.ne_of_gt hnacc1
        refine (V4.binDivide hr2 (R * (nacc * (ni + 1))) ?_ (Nat.mul_pos h2 hnacc1) kacc h3 h4).bind fun s5 V5 => ?_
        · rw [Function.update_of_ne (by omega), Function.update_self, I2.hr, I2.hnacc]; push_cast; ring
        refine ih (i + 1) s5 (ni + 1) 1 i (R * (nacc * (ni + 1)) / kacc) _ V5 ⟨?_, ?_, Function.update_self .., fun j hj hjr => ?_⟩
          (Nat.le_refl 1) (Nat.pos_of_ne_zero hP'.1) hi1 (by omega) (by omega) hP'.2
        · rw [Function.update_of_ne (by omega), Function.update_of_ne (by omega), Function.update_of_ne (by omega)]
          exact I2.hni
        · rw [Function.update_of_ne (by omega), Function.update_self]; rfl
        · rw [Function.update_of_ne hjr, Function.update_of_ne (by omega), Function.update_of_ne hjr]
          exact I2.hframe j hj hjr
      · have hN : Numth.binUiLoop k (fuel + 1) i ni nacc kacc R =
            Numth.binUiLoop k fuel (i + 1) (ni + 1) (nacc * (ni + 1)) (kacc * i % B) R := by
          conv_lhs => unfold Numth.binUiLoop
          simp only [if_neg hik, hov, if_false]
        have hP' : binPos k fuel (i + 1) (ni + 1) (nacc * (ni + 1)) (kacc * i % B) R := by
          unfold binPos at hP; rw [if_neg hik, if_neg hov] at hP; exact hP
        rw [if_neg hov, hN]
        have hkk : kacc * i < B := by
          have : kacc * i / B = 0 := Decidable.not_not.mp hov
          rcases Nat.div_eq_zero_iff.mp this with hB | hB
          · have := B_pos; omega
          · exact hB
        exact ih (i + 1) s2 (ni + 1) (nacc * (ni + 1)) (kacc * i % B) R f2 V2 I2 hnacc1 h2
          (by rw [Nat.mod_eq_of_lt hkk]; exact Nat.mul_pos h3 hi1) (Nat.mod_lt _ B_pos) (by omega) hP'

theorem Vals.setOne {n : Nat} {f : Nat → Int} {s : St} (V : Vals n f s) {r : Nat} (hr : r < n) (ha : 1 ≤ s.alloc r) :
    Ok ((s.setSize r 1).storeAt ((s.setSize r 1).ptr r) 0 [1])
      (fun s' => Vals n (Function.update f r 1) s' ∧ ∀ i, s'.alloc i = s.alloc i) := by
  obtain ⟨s', e, i', u, v⟩ := setOne_ok V.inv (V.lt hr) ha 1 (by decide)
  obtain ⟨_, e', V'⟩ := V.step ⟨s', e, u.res V.inv (V.lt hr) i' v⟩
  exact ⟨s', e, Except.ok.inj (e.symm.trans e') ▸ V', u.alloc⟩

/-- the value mpz_bin_ui computes from ni (= n - k resp. -n - 1) and k: bin_ui.c:80-127 -/
def binVal (NI k : Nat) : Nat :=
  let k' := if NI < k then NI else k
  let ni' := if NI < k then k else NI
  let t := Numth.binUiLoop k' k' 1 ni' 1 1 1
  t.2.2 * t.1 / t.2.1

/-- bin_ui.c:75-131 on the pointer model; `ni` (holding `NI`) is the last variable, `m` -/
theorem binMain_ok {m : Nat} {f : Nat → Int} {s : St} (V : Vals (m + 1) f s) {r : Nat} (hr : r < m) (ha : 1 ≤ s.alloc r)
    (NI : Nat) (hni : f m = (NI : Int)) (hani : 1 ≤ s.alloc m) (k : Nat) (hkB : k < B) (negate : Bool)
    (hP : binPos (if NI < k then NI else k) (if NI < k then NI else k) 1 (if NI < k then k else NI) 1 1 1) :
    Ok (binMain r m k negate s) (Vals m (Function.update f r
      (if negate then -((binVal NI k : Nat) : Int) else ((binVal NI k : Nat) : Int)))) := by
  unfold binMain
  have hr1 : r < m + 1 := Nat.lt_succ_of_lt hr
  have hrm : r ≠ m := Nat.ne_of_lt hr
  refine (V.setOne hr1 ha).bind fun s1 ⟨V1, al1⟩ => ?_
  rw [V1.val m (Nat.lt_succ_self _), Function.update_of_ne hrm.symm, hni]
  set k' := (if NI < k then NI else k) with hk'
  set ni' := (if NI < k then k else NI) with hni'
  have hk'B : k' < B := by rw [hk']; split <;> omega
  -- after the optional swap
  refine Ok.bind (P := fun p => p.1 = k' ∧ ∃ f2, Vals (m + 1) f2 p.2 ∧ f2 r = 1 ∧ f2 m = (ni' : Int) ∧
      ∀ i, i < m → i ≠ r → f2 i = f i) ?_ fun ⟨kk, S2⟩ ⟨e, f2, V2, h2r, h2m, h2o⟩ => ?_
  · by_cases hlt : NI < k
    · have hfit : sizeNat ((k : Int)).natAbs ≤ s1.alloc m := by
        rw [al1, Int.natAbs_natCast]
        have : sizeNat k ≤ 1 := (DivZ.sizeNat_le_iff _ _).mpr (by rw [pow_one]; exact hkB)
        omega
      rw [if_pos (by exact_mod_cast hlt)]
      refine (V1.setInt (Nat.lt_succ_self _) k hfit).bind fun S2 V2 => Ok.pure ⟨?_, _, V2, ?_, ?_, fun i hi hir => ?_⟩
      · rw [hk', if_pos hlt]; simp
      · rw [Function.update_of_ne hrm, Function.update_self]
      · rw [Function.update_self, hni', if_pos hlt]
      · rw [Function.update_of_ne (Nat.ne_of_lt hi), Function.update_of_ne hir]
    · rw [if_neg (by exact_mod_cast hlt)]
      refine Ok.pure ⟨by rw [hk', if_neg hlt], _, V1, Function.update_self .., ?_, fun i _ hir => Function.update_of_ne hir ..⟩
      rw [Function.update_of_ne hrm.symm, hni, hni', if_neg hlt]
  dsimp only at e V2 ⊢
  subst e
  obtain ⟨e3, V3, a3⟩ := V2.tmpInit 1
  simp only [e3]
  clear e3
  refine (V3.setInt (Nat.lt_succ_self _) 1 (by rw [a3]; decide)).bind fun S3 V4 => ?_
  have hr2 : r < m + 1 + 1 := Nat.lt_succ_of_lt hr1
  refine (binLoop_ok f m hr k' hk'B k' 1 S3 ni' 1 1 1 _ V4 ⟨?_, Function.update_self .., ?_, fun j hj hjr => ?_⟩
    (Nat.le_refl 1) (Nat.le_refl 1) (Nat.le_refl 1) (by rw [B_eq]; decide) (Nat.le_refl 1) hP).bind
    fun ⟨kacc, S4⟩ ⟨e, ⟨f4, NI4, V5, I4⟩, p1, p2, p3, p4⟩ => ?_
  · rw [Function.update_of_ne (by omega), Function.update_of_ne (by omega)]; exact h2m
  · rw [Function.update_of_ne (by omega), Function.update_of_ne (by omega), h2r]; rfl
  · rw [Function.update_of_ne (by omega), Function.update_of_ne (by omega)]; exact h2o j hj hjr
  dsimp only at e V5 ⊢
  subst e
  set t := Numth.binUiLoop k' k' 1 ni' 1 1 1 with ht
  refine (V5.mul hr2 hr2 (Nat.lt_succ_self _)).bind fun S5 V6 => ?_
  refine (V6.binDivide hr2 (t.2.2 * t.1) ?_ (Nat.mul_pos p2 p1) t.2.1 p3 p4).bind fun S6 V7 => ?_
  · rw [Function.update_self, I4.hr, I4.hnacc]; push_cast; ring
  refine Ok.pure ((V7.negIf hr2 negate).tmpDone.tmpDone.congr fun i hi => ?_)
  by_cases hir : i = r
  · subst hir; simp only [Function.update_self]; rfl
  · simp only [Function.update_of_ne hir]; exact I4.hframe i hi hir

/-- ni of bin_ui.c:51-54 / :69 as a natural number -/
def binNi (vn : Int) (k : Nat) : Nat := if vn < 0 then (-vn - 1).toNat else vn.toNat - k

theorem mpz_bin_ui_val (vn : Int) (k : Nat) :
    Numth.mpz_bin_ui vn k =
      if vn < 0 then (if k % 2 = 1 then -((binVal (binNi vn k) k : Nat) : Int) else ((binVal (binNi vn k) k : Nat) : Int))
      else if vn.toNat < k then 0 else ((binVal (binNi vn k) k : Nat) : Int) := by
  unfold Numth.mpz_bin_ui binVal binNi
  by_cases hneg : vn < 0
  · simp only [hneg, if_true]
    by_cases hlt : (-vn - 1).toNat < k <;> simp only [hlt, if_true, if_false] <;> rfl
  · simp only [hneg, if_false]
    by_cases hk : vn.toNat < k
    · simp only [hk, if_true]
    · simp only [hk, if_false]
      by_cases hlt : vn.toNat - k < k <;> simp only [hlt, if_true, if_false] <;> rfl

/-- **mpz_bin_ui (r, n, k)** on the pointer model, r = n included.  `hP`: the ASSERT of DIVIDE () (`binPos`). -/
theorem mpz_bin_ui_ok {s : St} (h : Inv s) {r n : Nat} (hr : r < s.nv) (hn : n < s.nv) (ha : 1 ≤ s.alloc r) (k : Nat)
    (hkB : k < B)
    (hP : binPos (if binNi (s.value n) k < k then binNi (s.value n) k else k) (if binNi (s.value n) k < k then binNi (s.value n) k else k)
      1 (if binNi (s.value n) k < k then k else binNi (s.value n) k) 1 1 1) :
    ∃ s', mpz_bin_ui r n k s = .ok s' ∧ Res s s' r (Numth.mpz_bin_ui (s.value n) k) := by
  rw [mpz_bin_ui_val]
  unfold mpz_bin_ui mpz_bin_uiV
  simp only [BinVariant.c, if_true, pure_bind]
  have hsn : (s.size n < 0) ↔ s.value n < 0 := h.size_neg_iff hn
  obtain ⟨e1, V1, a1⟩ := (Vals.of_inv h).tmpInit 1
  have hT : (s.tmpInit 1).2.alloc r = s.alloc r := tmpInit_alloc s 1 hr
  have hn1 : n < s.nv + 1 := Nat.lt_succ_of_lt hn
  have hvn : (s.tmpInit 1).2.value n = s.value n := by rw [V1.val n hn1, Function.update_of_ne (Nat.ne_of_lt hn)]
  have fin : ∀ {S : St} {F : Nat → Int} (negate : Bool), Vals (s.nv + 1) F S → 1 ≤ S.alloc r → 1 ≤ S.alloc s.nv →
      F s.nv = ((binNi (s.value n) k : Nat) : Int) → (∀ i, i < s.nv → F i = s.value i) →
      Ok (binMain r s.nv k negate S) (fun s' => Res s s' r
        (if negate then -((binVal (binNi (s.value n) k) k : Nat) : Int) else ((binVal (binNi (s.value n) k) k : Nat) : Int))) :=
    fun negate V r1 r2 hni ho => (binMain_ok V hr r1 _ hni r2 k hkB negate hP).mono fun s' V' =>
      V'.res_of (Function.update_self ..) (fun i hi hir => (Function.update_of_ne hir ..).trans (ho i hi)) hr
  by_cases hneg : s.value n < 0
  · have hd : decide (s.size n < 0) = true := by simpa using hsn.mpr hneg
    simp only [hd, not_true_eq_false, false_and, if_false, if_true, hneg, true_and, e1, bind_assoc]
    refine (V1.step_post (Nat.lt_succ_self _) (mpz_negabs_post false V1.inv (V1.lt (Nat.lt_succ_self _)) (V1.lt hn1))).bind
      fun S1 ⟨V2, m1⟩ => ?_
    refine (V2.step_post (Nat.lt_succ_self _) (mpz_aors_ui_post V2.inv (V2.lt (Nat.lt_succ_self _))
      (V2.lt (Nat.lt_succ_self _)) true 1 (by rw [B_eq]; decide))).bind fun S2 ⟨V3, m2⟩ => ?_
    refine (fin (decide (k % 2 = 1)) V3 (by have := m1 r; have := m2 r; omega)
      (by have := m1 s.nv; have := m2 s.nv; omega) ?_ fun i hi => ?_).mono fun s' r' => ?_
    · rw [Function.update_self, V2.val _ (Nat.lt_succ_self _), Function.update_self, hvn]
      unfold binNi; rw [if_pos hneg]
      simp only [Bool.false_eq_true, if_false, if_true]
      rw [Int.toNat_of_nonneg (by omega)]; push_cast; ring
    · rw [Function.update_of_ne (Nat.ne_of_lt hi), Function.update_of_ne (Nat.ne_of_lt hi), Function.update_of_ne (Nat.ne_of_lt hi)]
    · by_cases hk2 : k % 2 = 1 <;> simpa [hk2] using r'
  · have hd : decide (s.size n < 0) = false := by simpa using (fun hc => hneg (hsn.mp hc))
    simp only [hd, Bool.false_eq_true, not_false_eq_true, true_and, if_false, hneg, false_and, decide_false]
    by_cases hlt : s.value n < (k : Int)
    · rw [if_pos hlt, if_pos (by omega)]
      obtain ⟨i1, u1, v1⟩ := setSize_zero_spec h hr
      exact Ok.pure (u1.res h hr i1 v1)
    · rw [if_neg hlt, if_neg (by omega)]
      simp only [e1]
      refine (V1.step_post (Nat.lt_succ_self _) (mpz_aors_ui_post V1.inv (V1.lt (Nat.lt_succ_self _)) (V1.lt hn1) true k
        hkB)).bind fun S2 ⟨V3, m2⟩ => ?_
      refine (fin false V3 (by have := m2 r; omega) (by have := m2 s.nv; omega) ?_ fun i hi => ?_).mono fun s' r' => ?_
      · rw [Function.update_self, hvn]
        unfold binNi; rw [if_neg hneg]
        simp only [if_true]
        omega
      · rw [Function.update_of_ne (Nat.ne_of_lt hi), Function.update_of_ne (Nat.ne_of_lt hi)]
      · simpa using r'

instance binPosDec (k : Nat) : ∀ fuel i ni nacc kacc r, Decidable (binPos k fuel i ni nacc kacc r)
  | 0, _, _, _, _, _ => isTrue trivial
  | fuel + 1, i, ni, nacc, kacc, r => by
    unfold binPos
    have := binPosDec k fuel
    infer_instance

-- the hypothesis `hP` of `mpz_bin_ui_ok` is decidable: n = 2^70, k = 5 (no overflow step) and n = 2^70 + 3, k = 30 (overflow steps)
example : binPos 5 5 1 (2^70 - 5) 1 1 1 := by decide +kernel
example : binPos 30 30 1 (2^70 + 3 - 30) 1 1 1 := by decide +kernel

/- The hypotheses of `mpz_root_ok`, `mpz_remove_ok`, `mpz_bin_ui_ok` beyond `Inv` and the ids being variables (every
   assignment of ids is covered): mpz_root — `1 ≤ nth`, `0 ≤ u ∨ nth odd` (otherwise the model raises the exception);
   mpz_remove — `1 ≤ ALLOC (dest)` (only for the f = 2 arm: `cfdiv_q_2exp_ok` asks for it); mpz_bin_ui — `1 ≤ ALLOC (r)`
   (bin_ui.c:75 stores PTR (r)[0] without a realloc), `k < 2^64`, and `binPos` = the ASSERT `SIZ (r) > 0` of DIVIDE () along the
   value-level run (decidable; true mathematically, not proved here).  The loops of mpz_remove / mpz_bin_ui carry fuel exactly
   as `Numth.removeUp` / `Numth.binUiLoop`, so the results are literally `Numth.mpz_remove` / `Numth.mpz_bin_ui`. -/

/-! ### examples -/

/-- (return value, view of the first k variables, number of variables afterwards) -/
def lookN {α : Type} (r : R (α × St)) (k : Nat) : R (α × List (Int × Nat × Nat) × Nat) := r.map (fun r => (r.1, r.2.view k, r.2.nv))

-- mpz_root: root = u in place (TMP root, copied back), inexact and exact; nth = 1; separate root
example : lookN (mpz_root 1 1 3 (ofInts [0, -(2^200+5)])) 2 = .ok (false, [(0, 1, 0), (-117129523791978766508, 4, 1)], 2) := by decide +kernel
example : lookN (mpz_root 1 1 3 (ofInts [0, (2^70+1)^3])) 2 = .ok (true, [(0, 1, 0), (2^70+1, 4, 1)], 2) := by decide +kernel
example : lookN (mpz_root 0 1 3 (ofInts [0, -(2^200+5)])) 2 =
    .ok (false, [(-117129523791978766508, 2, 2), (-(2^200+5), 4, 1)], 2) := by decide +kernel
example : lookN (mpz_root 1 1 1 (ofInts [0, 2^70+1])) 2 = .ok (true, [(0, 1, 0), (2^70+1, 2, 1)], 2) := by decide +kernel
example : lookN (mpz_root 1 1 2 (ofInts [0, -4])) 2 = .error "sqrtneg" := by decide +kernel
-- NEGATIVE, `rootInTmp := false` with root = u: mpn_rootrem (PTR (root), NULL, PTR (u), …)
example : lookN (mpz_rootV { rootInTmp := false } 1 1 3 (ofInts [0, (2^70+1)^3])) 2 =
    .error "ub:mpn_rootrem operands overlap" := by decide +kernel
-- mpz_remove (ids: spare, src, f): dest = src, dest = f, dest = src = f, f = 2 with dest = f, src = 0, f = 1
example : lookN (mpz_remove 1 1 2 (ofInts [0, -(3^50 * 7 * 2^70), 3])) 3 =
    .ok (50, [(0, 1, 0), (-(7 * 2^70), 3, 1), (3, 1, 2)], 3) := by decide +kernel
example : lookN (mpz_remove 2 1 2 (ofInts [0, -(3^50 * 7 * 2^70), 3])) 3 =
    .ok (50, [(0, 1, 0), (-(3^50 * 7 * 2^70), 3, 1), (-(7 * 2^70), 3, 6)], 3) := by decide +kernel
example : lookN (mpz_remove 1 1 1 (ofInts [0, 2^70+1, 3])) 3 = .ok (1, [(0, 1, 0), (1, 2, 1), (3, 1, 2)], 3) := by decide +kernel
example : lookN (mpz_remove 2 1 2 (ofInts [0, -(3^50 * 7 * 2^70), 2])) 3 =
    .ok (70, [(0, 1, 0), (-(3^50 * 7 * 2^70), 3, 1), (-(3^50 * 7), 3, 3)], 3) := by decide +kernel
example : lookN (mpz_remove 2 1 2 (ofInts [0, 0, 5])) 3 = .ok (0, [(0, 1, 0), (0, 1, 1), (0, 1, 2)], 3) := by decide +kernel
example : lookN (mpz_remove 2 1 2 (ofInts [0, 10, 1])) 3 = .error "div0" := by decide +kernel
example : Numth.mpz_remove (-(3^50 * 7 * 2^70)) 3 = some (-(7 * 2^70), 50) := by decide +kernel
-- NEGATIVE, `copyFFirst := false` with dest = f: fpow[0] receives src instead of f — multiplicity 1, dest 1
example : lookN (mpz_removeV { copyFFirst := false } 2 1 2 (ofInts [0, -(3^50 * 7 * 2^70), 3])) 3 =
    .ok (1, [(0, 1, 0), (-(3^50 * 7 * 2^70), 3, 1), (1, 3, 6)], 3) := by decide +kernel
-- mpz_bin_ui: r = n (n ≥ 0, n < 0), an accumulator-overflow step (k = 30), k > n
example : (lookP (mpz_bin_ui 1 1 5 (ofInts [0, 2^70])) 2).map (·.map (·.1)) = .ok [0, Numth.mpz_bin_ui (2^70) 5] := by decide +kernel
example : (lookP (mpz_bin_ui 1 1 5 (ofInts [0, -(2^70)])) 2).map (·.map (·.1)) = .ok [0, Numth.mpz_bin_ui (-(2^70)) 5] := by decide +kernel
example : (lookP (mpz_bin_ui 1 1 30 (ofInts [0, 2^70+3])) 2).map (·.map (·.1)) = .ok [0, Numth.mpz_bin_ui (2^70+3) 30] := by decide +kernel
example : lookP (mpz_bin_ui 1 1 30 (ofInts [0, 33])) 2 = .ok [(0, 1, 0), (5456, 2, 6)] := by decide +kernel
example : lookP (mpz_bin_ui 1 1 30 (ofInts [0, 7])) 2 = .ok [(0, 1, 0), (0, 1, 1)] := by decide +kernel
-- NEGATIVE, `niBeforeR := false` with r = n: ni is computed from the 1 just stored — result 1
example : lookP (mpz_bin_uiV { niBeforeR := false } 1 1 5 (ofInts [0, 2^70])) 2 = .ok [(0, 1, 0), (1, 2, 1)] := by decide +kernel

end Mpir.AliasMem
