/- C20, stream I/O, second part: lemmas for Props/C20_io2.lean (models: Mpir/Model/CxxIo.lean, CxxIo2.lean).  The mpf extractor
   of ismpf.cc stage by stage against its specification (`exp_stage`, `mant_stage`, `sign_stage`, `scanF_at`).  What
   `operator<<` writes for mpz / mpq is read back through the grammar of the C scanner, `Scanf.Shape` (Lemmas/ScanfI.lean):
   `bodySpec_shape`, `written_shape`, `extract_insertZ`, `extract_insertQ`.  The mpf inserter from the lengths of doprntf.c to
   the text (`emitPieces_bytes`, `piecesOf_body`).  mpf_set_str accepts every text the mpf extractor collects
   (`parse_scanned`); what that text is (`floatSpec_props`). -/
import MpirProofs.Lemmas.CxxIo
import MpirProofs.Lemmas.ScanfI
import MpirProofs.Lemmas.MpfParse
import Mpir.Model.CxxIo2
namespace Mpir.CxxIo
open Mpir.Printf

/-! ### decimal digits; the specification of the mpf extractor with characters already consumed -/

theorem digitTest10_eq : digitTest 10 = isdigit := by
  funext c; simp [digitTest]

theorem setDigits_cursor10 {P : Char → Prop} (hP : ∀ c, P c → isdigit c = false) {f : Fmt} {d u : List Char} {i : IStream} {c : Char}
    (s : List Char) (ok : Bool) (h : Cursor P f d u i c) :
    (setDigits s i c ok 10).1 = s ++ u.takeWhile isdigit ∧
    (setDigits s i c ok 10).2.2.2 = (ok || !(u.takeWhile isdigit).isEmpty) ∧
    Cursor (fun c => P c ∨ isdigit c = true) f ((u.takeWhile isdigit).reverse ++ d) (u.dropWhile isdigit)
      (setDigits s i c ok 10).2.1 (setDigits s i c ok 10).2.2.1 := by
  have := setDigits_cursor 10 (P := P) (by rw [digitTest10_eq]; exact hP) s ok h
  rwa [digitTest10_eq] at this

theorem expSpec_pre (k : Nat) (m u : List Char) :
    expSpec k m u = { expSpec 0 m u with n := k + (expSpec 0 m u).n } := by
  unfold expSpec
  split
  · split
    · simp only []
      split <;> simp <;> omega
    · simp
  · simp

theorem mantSpec_pre (sg : List Char) (k : Nat) (u : List Char) :
    mantSpec sg k u = { mantSpec sg 0 u with n := k + (mantSpec sg 0 u).n } := by
  unfold mantSpec
  simp only []
  split
  · split
    · simp
    · rw [expSpec_pre (k + _ + 1 + _), expSpec_pre (0 + _ + 1 + _)]; simp; omega
  · split
    · simp
    · rw [expSpec_pre (k + _), expSpec_pre (0 + _)]; simp; omega

/-! ### ismpf.cc, stage by stage -/

/-- ismpf.cc:109-136: exponent, putback / clear, verdict -/
def expRun (s : List Char) (i : IStream) (c : Char) (ok : Bool) : IStream × Option (List Char) :=
  let r : List Char × IStream × Char × Bool :=
    if ok ∧ (c = 'e' ∨ c = 'E') then
      let g := i.get c
      let sg : List Char × IStream × Char :=
        if g.2 = '-' ∨ g.2 = '+' then ((s ++ [c]) ++ [g.2], (g.1.get g.2).1, (g.1.get g.2).2) else (s ++ [c], g.1, g.2)
      setDigits sg.1 sg.2.1 sg.2.2 false 10
    else (s, i, c, ok)
  let i' := finish r.2.1 r.2.2.1 r.2.2.2
  if r.2.2.2 then (i', some r.1) else (i'.setFail, none)

/-- ismpf.cc:86-136: digits, point, digits, then `expRun` -/
def mantRun (s : List Char) (i : IStream) (c : Char) : IStream × Option (List Char) :=
  let r1 := setDigits s i c false 10
  let r2 : List Char × IStream × Char × Bool :=
    if r1.2.2.1 = '.' then
      setDigits (r1.1 ++ ['.']) (r1.2.1.get r1.2.2.1).1 (r1.2.1.get r1.2.2.1).2 r1.2.2.2 10
    else r1
  expRun r2.1 r2.2.1 r2.2.2.1 r2.2.2.2

theorem scanF_eq (i : IStream) :
    scanF i = mantRun (readSign (start i).1 (start i).2).1 (readSign (start i).1 (start i).2).2.1 (readSign (start i).1 (start i).2).2.2 := by
  unfold scanF mantRun expRun
  simp only []

theorem after_fail_here (f : Fmt) (d u : List Char) :
    (if u = [] then mkE d f else mkG u d f).setFail = after f d u 0 u.isEmpty true := by
  cases u <;> simp [after, mkE, mkG, IStream.setFail]

theorem exp_stage {P : Char → Prop} (hP : ∀ c, P c → c ≠ 'e' ∧ c ≠ 'E') {f : Fmt} {d u : List Char} {i : IStream} {c : Char}
    (m : List Char) (ok : Bool) (h : Cursor P f d u i c) :
    expRun m i c ok =
      if ok then (after f d u (expSpec 0 m u).n (expSpec 0 m u).eof (expSpec 0 m u).fail, (expSpec 0 m u).text)
      else (after f d u 0 u.isEmpty true, none) := by
  have hfin : ∀ a : Bool, (finish i c a) = if u = [] then (if a then mkG [] d f else mkE d f) else mkG u d f := finish_cursor h
  cases ok with
  | false =>
    unfold expRun
    simp only [Bool.false_eq_true, false_and, if_false, hfin]
    rw [← after_fail_here]
  | true =>
    have he := cursor_head h 'e' (fun c hc => (hP c hc).1)
    have hE := cursor_head h 'E' (fun c hc => (hP c hc).2)
    by_cases hc : c = 'e' ∨ c = 'E'
    · -- an exponent follows
      obtain ⟨t, rfl⟩ : ∃ t, u = c :: t := by
        rcases hc with rfl | rfl
        · exact he.mp rfl
        · exact hE.mp rfl
      obtain ⟨_, hg⟩ := get_cursor h
      have hspec : expSpec 0 m (c :: t) =
          (if (expSign t).2.takeWhile isdigit = [] then ⟨0 + 1 + (expSign t).1.length, none, (expSign t).2.isEmpty, true⟩
           else ⟨0 + 1 + (expSign t).1.length + ((expSign t).2.takeWhile isdigit).length,
                 some (m ++ c :: (expSign t).1 ++ (expSign t).2.takeWhile isdigit), false, false⟩) := by
        simp only [expSpec, hc, if_true]
      rw [hspec]
      unfold expRun
      simp only [hc, and_self, if_true]
      -- the sign of the exponent
      have hsg : ∃ (es t1 : List Char) (i2 : IStream) (c2 : Char),
          expSign t = (es, t1) ∧ c :: t = (c :: es) ++ t1 ∧
          (if (i.get c).2 = '-' ∨ (i.get c).2 = '+' then ((m ++ [c]) ++ [(i.get c).2], ((i.get c).1.get (i.get c).2).1, ((i.get c).1.get (i.get c).2).2)
            else (m ++ [c], (i.get c).1, (i.get c).2)) = (m ++ [c] ++ es, i2, c2) ∧
          Cursor (fun x => x = c ∨ x = '-' ∨ x = '+') f (es.reverse ++ c :: d) t1 i2 c2 := by
        have hm := cursor_head hg '-' (fun x hx => by rw [hx]; rcases hc with rfl | rfl <;> decide)
        have hp := cursor_head hg '+' (fun x hx => by rw [hx]; rcases hc with rfl | rfl <;> decide)
        by_cases h1 : (i.get c).2 = '-'
        · obtain ⟨r, rfl⟩ := hm.mp h1
          obtain ⟨_, hg2⟩ := get_cursor hg
          exact ⟨['-'], r, _, _, rfl, rfl, by simp [h1], hg2.mono (fun x hx => Or.inr (Or.inl hx))⟩
        · by_cases h2 : (i.get c).2 = '+'
          · obtain ⟨r, rfl⟩ := hp.mp h2
            obtain ⟨_, hg2⟩ := get_cursor hg
            exact ⟨['+'], r, _, _, rfl, rfl, by simp [h2], hg2.mono (fun x hx => Or.inr (Or.inr hx))⟩
          · have hn1 : ¬ ∃ r, t = '-' :: r := fun hh => h1 (hm.mpr hh)
            have hn2 : ¬ ∃ r, t = '+' :: r := fun hh => h2 (hp.mpr hh)
            refine ⟨[], t, _, _, ?_, rfl, by simp [h1, h2], hg.mono (fun x hx => Or.inl hx)⟩
            unfold expSign
            split
            · exact absurd ⟨_, rfl⟩ hn1
            · exact absurd ⟨_, rfl⟩ hn2
            · rfl
      obtain ⟨es, t1, i2, c2, e1, hu, e2, hcur⟩ := hsg
      rw [e1, e2]
      simp only []
      have hPd : ∀ x, (x = c ∨ x = '-' ∨ x = '+') → isdigit x = false := by
        intro x hx
        rcases hx with rfl | rfl | rfl
        · rcases hc with rfl | rfl <;> decide
        · decide
        · decide
      obtain ⟨hs1, hs2, hcur2⟩ := setDigits_cursor10 hPd (m ++ [c] ++ es) false hcur
      rw [hs1, hs2, finish_cursor hcur2, hu]
      have hsplit : t1 = t1.takeWhile isdigit ++ t1.dropWhile isdigit := (List.takeWhile_append_dropWhile).symm
      clear hs1 hs2 hcur2 hcur e1 e2 hu
      generalize List.takeWhile isdigit t1 = ed at *
      generalize List.dropWhile isdigit t1 = rest at *
      subst hsplit
      cases ed with
      | nil =>
        simp only [List.isEmpty_nil, Bool.not_true, Bool.or_false, Bool.false_eq_true, if_false, if_true, List.reverse_nil, List.nil_append]
        rw [after_fail_here]
        have := after_append f d (c :: es) rest 0 rest.isEmpty true
        simp only [List.length_cons, Nat.add_zero, List.reverse_cons] at this
        rw [show 0 + 1 + es.length = es.length + 1 by omega, this]
        simp
      | cons a ed' =>
        have := after_append f d ((c :: es) ++ (a :: ed')) rest 0 false false
        simp only [List.length_append, Nat.add_zero] at this
        simp only [List.isEmpty_cons, Bool.not_false, Bool.or_true, if_true, reduceCtorEq, if_false]
        rw [show 0 + 1 + es.length + (a :: ed').length = (c :: es).length + (a :: ed').length by simp; omega,
          show c :: es ++ (a :: ed' ++ rest) = (c :: es ++ a :: ed') ++ rest by simp, this]
        have hD : (a :: ed').reverse ++ (es.reverse ++ c :: d) = (c :: es ++ a :: ed').reverse ++ d := by simp
        rw [hD]
        generalize (c :: es ++ a :: ed').reverse ++ d = D
        have hm : m ++ [c] ++ es ++ a :: ed' = m ++ c :: es ++ a :: ed' := by simp
        rw [hm]
        cases rest <;> simp [after, mkG]
    · -- no exponent: the number ends here
      have hspec : expSpec 0 m u = ⟨0, some m, false, false⟩ := by
        unfold expSpec
        split
        · rename_i e t
          have : ¬ (e = 'e' ∨ e = 'E') := by
            intro hh
            rcases h with ⟨r, hr, _⟩ | ⟨hr, _, _⟩
            · cases hr; exact hc hh
            · cases hr
          simp [this]
        · rfl
      unfold expRun
      simp only [hc, and_false, if_false, if_true, hfin, hspec]
      cases u <;> simp [after, mkG]

/-- a stale character that cannot be taken for part of a floating-point number (end of input before the mantissa) -/
def StaleF (c : Char) : Prop := isdigit c = false ∧ c ≠ '.' ∧ c ≠ 'e' ∧ c ≠ 'E'

theorem isdigit_iff (c : Char) : isdigit c = true ↔ 48 ≤ c.toNat ∧ c.toNat ≤ 57 := by
  simp [isdigit, char_le_iff]

theorem mant_stage {P : Char → Prop} (hP : ∀ c, P c → StaleF c) {f : Fmt} {d u : List Char} {i : IStream} {c : Char}
    (sg : List Char) (h : Cursor P f d u i c) :
    mantRun sg i c = (after f d u (mantSpec sg 0 u).n (mantSpec sg 0 u).eof (mantSpec sg 0 u).fail, (mantSpec sg 0 u).text) := by
  have hdig : ∀ x, isdigit x = true → x ≠ '.' ∧ x ≠ 'e' ∧ x ≠ 'E' := by
    intro x hx
    rw [isdigit_iff] at hx
    refine ⟨?_, ?_, ?_⟩ <;> (intro e; rw [e] at hx; revert hx; decide)
  obtain ⟨hs1, hs2, hcur1⟩ := setDigits_cursor10 (fun c hc => (hP c hc).1) sg false h
  have hsplit : u = u.takeWhile isdigit ++ u.dropWhile isdigit := (List.takeWhile_append_dropWhile).symm
  have hpt := cursor_head hcur1 '.' (fun x hx => by
    rcases hx with hx | hx
    · exact (hP x hx).2.1
    · exact (hdig x hx).1)
  unfold mantRun
  simp only []
  generalize setDigits sg i c false 10 = r1 at *
  obtain ⟨s1, i1, c1, ok1⟩ := r1
  simp only [] at hs1 hs2 hcur1 hpt ⊢
  by_cases hc1 : c1 = '.'
  · -- a point
    subst hc1
    obtain ⟨t, ht⟩ := hpt.mp rfl
    rw [ht] at hcur1
    obtain ⟨_, hg⟩ := get_cursor hcur1
    obtain ⟨ht1, ht2, hcur2⟩ := setDigits_cursor10 (P := (· = '.')) (fun x hx => by rw [hx]; decide) (s1 ++ ['.']) ok1 hg
    have hcur3 := exp_stage (P := fun x => x = '.' ∨ isdigit x = true) (fun x hx => by
      rcases hx with rfl | hx
      · constructor <;> decide
      · exact (hdig x hx).2) (setDigits (s1 ++ ['.']) (i1.get '.').1 (i1.get '.').2 ok1 10).1
        (setDigits (s1 ++ ['.']) (i1.get '.').1 (i1.get '.').2 ok1 10).2.2.2 hcur2
    simp only [if_true]
    rw [hcur3, ht1, ht2, hs1, hs2]
    have hspec : mantSpec sg 0 u =
        (if u.takeWhile isdigit = [] ∧ t.takeWhile isdigit = [] then ⟨0 + 1, none, (t.dropWhile isdigit).isEmpty, true⟩
         else expSpec (0 + (u.takeWhile isdigit).length + 1 + (t.takeWhile isdigit).length) (sg ++ u.takeWhile isdigit ++ '.' :: t.takeWhile isdigit)
           (t.dropWhile isdigit)) := by
      simp only [mantSpec, ht]
    rw [hspec]
    have hsplit2 : t = t.takeWhile isdigit ++ t.dropWhile isdigit := (List.takeWhile_append_dropWhile).symm
    rw [ht] at hsplit
    clear hcur3 hcur2 ht1 ht2 hs1 hs2 hg hcur1 hpt hspec ht
    generalize List.takeWhile isdigit u = ip at *
    generalize List.takeWhile isdigit t = fp at *
    generalize List.dropWhile isdigit t = u3 at *
    subst hsplit2
    subst hsplit
    have hA : ∀ n e fl, after f (fp.reverse ++ '.' :: (ip.reverse ++ d)) u3 n e fl =
        after f d (ip ++ '.' :: (fp ++ u3)) (ip.length + 1 + fp.length + n) e fl := by
      intro n e fl
      have := after_append f d (ip ++ '.' :: fp) u3 n e fl
      simp only [List.length_append, List.length_cons, List.reverse_append, List.reverse_cons, List.append_assoc, List.cons_append,
        List.nil_append] at this
      rw [show ip.length + 1 + fp.length + n = ip.length + (fp.length + 1) + n by omega, ← this]
    rw [hA, hA]
    by_cases hz : ip = [] ∧ fp = []
    · obtain ⟨rfl, rfl⟩ := hz
      simp
    · have hok : (false || !ip.isEmpty || !fp.isEmpty) = true := by
        cases ip <;> cases fp <;> simp_all
      simp only [hok, if_true, hz, if_false]
      rw [expSpec_pre (0 + ip.length + 1 + fp.length)]
      simp [List.append_assoc]
  · -- no point
    have hnp : ¬ ∃ t, u.dropWhile isdigit = '.' :: t := fun hh => hc1 (hpt.mpr hh)
    have hcur3 := exp_stage (P := fun x => P x ∨ isdigit x = true) (fun x hx => by
      rcases hx with hx | hx
      · exact (hP x hx).2.2
      · exact (hdig x hx).2) s1 ok1 hcur1
    simp only [hc1, if_false]
    rw [hcur3, hs1, hs2]
    have hspec : mantSpec sg 0 u =
        (if u.takeWhile isdigit = [] then ⟨0, none, (u.dropWhile isdigit).isEmpty, true⟩
         else expSpec (0 + (u.takeWhile isdigit).length) (sg ++ u.takeWhile isdigit) (u.dropWhile isdigit)) := by
      unfold mantSpec
      simp only []
      split
      · rename_i t ht; exact absurd ⟨t, ht⟩ hnp
      · rfl
    rw [hspec]
    clear hcur3 hs1 hs2 hcur1 hpt hspec hc1
    generalize List.takeWhile isdigit u = ip at *
    generalize List.dropWhile isdigit u = u2 at *
    subst hsplit
    have hA : ∀ n e fl, after f (ip.reverse ++ d) u2 n e fl = after f d (ip ++ u2) (ip.length + n) e fl := by
      intro n e fl
      rw [after_append]
    rw [hA, hA]
    cases ip with
    | nil => simp
    | cons a ip' =>
      simp only [List.isEmpty_cons, Bool.not_false, Bool.or_true, if_true, reduceCtorEq, if_false]
      rw [expSpec_pre (0 + (a :: ip').length)]
      simp

/-! ### sign, white space, the whole of the scanner -/

/-- what may be the stale character when the input ends before the mantissa: NUL (nothing read), white space, a sign -/
def Stale1 (c : Char) : Prop := c = '\x00' ∨ isspace c = true ∨ c = '-' ∨ c = '+'

theorem staleF_of_stale1 (c : Char) (h : Stale1 c) : StaleF c := by
  rcases h with rfl | h | rfl | rfl
  · refine ⟨?_, ?_, ?_, ?_⟩ <;> decide
  · rw [isspace_iff] at h
    refine ⟨?_, ?_, ?_, ?_⟩
    · cases hd : isdigit c
      · rfl
      · rw [isdigit_iff] at hd; omega
    all_goals (intro e; rw [e] at h; revert h; decide)
  · refine ⟨?_, ?_, ?_, ?_⟩ <;> decide
  · refine ⟨?_, ?_, ?_, ?_⟩ <;> decide

/-- the stale character when the input ends before the sign: NUL (nothing read) or white space -/
def Stale0F (c : Char) : Prop := c = '\x00' ∨ isspace c = true

theorem stale0F_ne (a : Char) (ha : a ≠ '\x00') (hs : isspace a = false) : ∀ c, Stale0F c → c ≠ a := by
  intro c hc e
  subst e
  rcases hc with hc | hc
  · exact ha hc
  · rw [hs] at hc; cases hc

theorem floatSpec_sign (neg : Bool) (sg t : List Char)
    (h : sg = ['-'] ∧ neg = true ∨ sg = ['+'] ∧ neg = false ∨
      sg = [] ∧ neg = false ∧ (∀ r, t ≠ '-' :: r) ∧ (∀ r, t ≠ '+' :: r)) :
    floatSpec (sg ++ t) = mantSpec (if neg then ['-'] else []) sg.length t := by
  rcases h with ⟨rfl, rfl⟩ | ⟨rfl, rfl⟩ | ⟨rfl, rfl, h1, h2⟩
  · rfl
  · rfl
  · rw [List.nil_append]; unfold floatSpec; split
    · exact absurd rfl (h1 _)
    · exact absurd rfl (h2 _)
    · rfl

theorem sign_stage {f : Fmt} {d u : List Char} {i : IStream} {c : Char} (h : Cursor Stale0F f d u i c) :
    mantRun (readSign i c).1 (readSign i c).2.1 (readSign i c).2.2 =
      (after f d u (floatSpec u).n (floatSpec u).eof (floatSpec u).fail, (floatSpec u).text) := by
  obtain ⟨neg, sg, t, rfl, hsg, hs, hcur⟩ := readSign_cursor
    (fun c hc => ⟨stale0F_ne '-' (by decide) (by decide) c hc, stale0F_ne '+' (by decide) (by decide) c hc⟩) h
  have hst : Cursor Stale1 f (sg.reverse ++ d) t (readSign i c).2.1 (readSign i c).2.2 := hcur.mono fun x hx => by
    rcases hx with (hx | hx) | hx | hx
    exacts [Or.inl hx, Or.inr (Or.inl hx), Or.inr (Or.inr (Or.inl hx)), Or.inr (Or.inr (Or.inr hx))]
  rw [hs, mant_stage staleF_of_stale1 _ hst, floatSpec_sign neg sg t hsg, mantSpec_pre _ sg.length t]
  simp only [after_append]

theorem scanF_at (f : Fmt) (t d : List Char) :
    scanF (mkG t d f) =
      (after f ((wsPrefix f t).reverse ++ d) (t.drop (wsPrefix f t).length)
          (floatSpec (t.drop (wsPrefix f t).length)).n (floatSpec (t.drop (wsPrefix f t).length)).eof
          (floatSpec (t.drop (wsPrefix f t).length)).fail,
       (floatSpec (t.drop (wsPrefix f t).length)).text) := by
  rw [scanF_eq]
  exact sign_stage (start_spec Stale0F (fun c hc => Or.inr hc) (Or.inl rfl) f t d)

/-! ### reading back what was written: fixed and detected base, with something after the number -/

section
open List

theorem digitsPart_tail (b : Nat) (neg : Bool) (pre : Nat) (zero : Bool) (ds tail : List Char) (hne : ds ≠ [])
    (hall : ∀ c ∈ ds, digitTest b c = true) (ht : ∀ c, tail.head? = some c → digitTest b c = false) :
    digitsPart b neg pre zero (ds ++ tail) =
      ⟨pre + ds.length, .value (if neg then -(digitsVal b ds : Int) else digitsVal b ds), false, false⟩ := by
  unfold digitsPart
  simp only [Scanf.takeWhile_stop _ _ _ hall ht, hne, ne_eq, not_false_eq_true, if_true]

/-- what may follow a number in the text `operator<<` writes: nothing, or the slash of a rational -/
def TailOk (tail : List Char) : Prop := tail = [] ∨ ∃ v, tail = '/' :: v

/-- in the form the scanner lemmas of Lemmas/Scanf.lean take what follows a number (they allow a blank as well, printf's
    padding, which `operator<<` does not write here) -/
theorem tailOk_sep (tail : List Char) (h : TailOk tail) : ∀ c, tail.head? = some c → c = '/' ∨ c = ' ' := by
  rcases h with rfl | ⟨v, rfl⟩
  · simp
  · intro c hc; simp at hc; exact Or.inl hc.symm

theorem hexOnly_outBase (f : Fmt) (h : f.hexOnly = true) : f.outBase = 16 ∧ f.octOnly = false := by
  unfold Fmt.hexOnly at h; unfold Fmt.outBase Fmt.octOnly Fmt.hexOnly
  simp only [Bool.and_eq_true, Bool.not_eq_eq_eq_not, Bool.not_true] at h
  simp [h.1.1, h.1.2, h.2]
theorem octOnly_outBase (f : Fmt) (h : f.octOnly = true) : f.outBase = 8 ∧ f.hexOnly = false := by
  unfold Fmt.octOnly at h; unfold Fmt.outBase Fmt.octOnly Fmt.hexOnly
  simp only [Bool.and_eq_true, Bool.not_eq_eq_eq_not, Bool.not_true] at h
  simp [h.1.1, h.1.2, h.2]

theorem convBase_out (fo : Fmt) : Scanf.ConvBase fo.outBase fo.outUpper := by
  unfold Scanf.ConvBase Fmt.outBase Fmt.outUpper
  cases fo.hexOnly <;> cases fo.octOnly <;> simp

/-- `operator>>` reads a number text of the `Shape` the C scanner reads (same base detection), whole, with the same value -/
theorem bodySpec_shape (f : Fmt) (b0 b : Nat) (hf : f.base? = if b0 = 0 then none else some b0) (neg : Bool) (k : Nat)
    (pre body rest : List Char) (hsh : Scanf.Shape b0 b pre body rest) (hv : pre = ['0'] ∨ body ≠ []) :
    bodySpec f neg k (pre ++ (body ++ rest)) =
      ⟨k + pre.length + body.length, .value (if neg then -(Scanf.strVal b body : Int) else Scanf.strVal b body), false, false⟩ := by
  obtain ⟨hall, hrest, hcase⟩ := hsh
  have hb : b = 8 ∨ b = 10 ∨ b = 16 := by
    rcases hcase with ⟨_, h, _⟩ | ⟨_, h, _⟩ | ⟨_, h, _⟩ | ⟨_, h, _⟩ <;> simp [h]
  rw [← digitTest_eq_isDigitIn b hb] at hall hrest
  -- the digits, once the base is known
  have hdig : ∀ (j : Nat) (z : Bool), (z = true ∨ body ≠ []) → digitsPart b neg j z (body ++ rest) =
      ⟨j + body.length, .value (if neg then -(Scanf.strVal b body : Int) else Scanf.strVal b body), false, false⟩ := by
    intro j z hz
    by_cases hne : body = []
    · subst hne
      have hz' : z = true := hz.elim id (fun h => absurd rfl h)
      subst hz'
      have := Scanf.takeWhile_stop (digitTest b) [] rest (by simp) hrest
      simp only [nil_append] at this
      unfold digitsPart
      cases neg <;> simp [this, Scanf.strVal]
    · exact digitsPart_tail b neg j z body rest hne hall hrest
  unfold bodySpec
  rcases hcase with ⟨h0, _, rfl⟩ | ⟨rfl, rfl, rfl, h0⟩ | ⟨rfl, rfl, rfl, hx, hX⟩ | ⟨rfl, rfl, hp⟩
  · have hb0 : b0 ≠ 0 := by omega
    rw [hf, if_neg hb0, h0]
    simpa using hdig k false (Or.inr (hv.resolve_left (by simp)))
  · rw [hf, if_pos rfl]
    have := hdig k false (Or.inr (hv.resolve_left (by simp)))
    simp only [nil_append, length_nil, Nat.add_zero] at this ⊢
    rw [← this]
    split
    · rename_i heq; exact absurd (by rw [heq]; rfl) h0
    · rename_i heq; exact absurd (by rw [heq]; rfl) h0
    · rename_i heq; exact absurd (by rw [heq]; rfl) h0
    · rfl
  · rw [hf, if_pos rfl]
    have := hdig (k + 1) true (Or.inl rfl)
    simp only [singleton_append, length_cons, length_nil] at this ⊢
    rw [← this]
    split
    · rename_i heq; injection heq with _ heq; exact absurd (by rw [heq]; rfl) hx
    · rename_i heq; injection heq with _ heq; exact absurd (by rw [heq]; rfl) hX
    · rename_i heq; cases heq; rfl
    · rename_i h; exact absurd rfl (h _)
  · rw [hf, if_pos rfl]
    have := hdig (k + 2) false (Or.inr (hv.resolve_left (by rcases hp with rfl | rfl <;> simp)))
    rcases hp with rfl | rfl <;> simpa using this

/-- What `operator<<` writes for the magnitude `n` (showbase prefix, digits) has a `Shape` under the scan base of every input
    stream that `ReadsBack`: its own base (the octal `0` of showbase is then a leading zero), or detection. -/
theorem written_shape (fo fi : Fmt) (hc : ReadsBack fo fi) (n : Nat) (tail : List Char) (ht : TailOk tail) :
    ∃ b0 pre body b, fi.base? = (if b0 = 0 then none else some b0) ∧
      (prefixStr fo (decide (n = 0)) ++ natDigits fo.outBase fo.outUpper n) ++ tail = pre ++ (body ++ tail) ∧
      Scanf.Shape b0 b pre body tail ∧ (pre = ['0'] ∨ body ≠ []) ∧ Scanf.strVal b body = n := by
  have hb := outBase_cases fo
  have hcb := convBase_out fo
  have hR := tailOk_sep tail ht
  rcases hc with ⟨hfi, hx⟩ | ⟨hfi, hs⟩
  · -- the prefix is at most the octal `0`
    obtain ⟨j, hj⟩ : ∃ j, prefixStr fo (decide (n = 0)) = replicate j '0' := by
      unfold prefixStr
      by_cases hs : fo.showbase = true
      · have hh : fo.hexOnly = false := by cases h : fo.hexOnly <;> simp_all
        simp only [hs, if_true, hh, Bool.false_eq_true, if_false]
        split
        · exact ⟨1, rfl⟩
        · exact ⟨0, rfl⟩
      · exact ⟨0, by simp [hs]⟩
    obtain ⟨hall, hne, hval⟩ := Scanf.zeros_digits fo.outBase fo.outUpper hcb n j _ (Or.inl rfl)
      (fun h => absurd h (natDigits_ne_nil _ _ _))
    exact ⟨fo.outBase, [], _, fo.outBase, by rw [hfi, if_neg (by omega)], by rw [hj]; rfl,
      ⟨hall, Scanf.sep_not_digit _ hb tail hR, Or.inl ⟨rfl, hb, rfl⟩⟩, Or.inr hne, hval⟩
  · refine ⟨0, ?_⟩
    simp only [if_true]
    by_cases hh : fo.hexOnly = true
    · -- hex: `0x` / `0X` always (also in front of 0)
      obtain ⟨h16, -⟩ := hexOnly_outBase fo hh
      have hsb : fo.showbase = true := hs.resolve_left (by omega)
      obtain ⟨hall, hne, hval⟩ := Scanf.zeros_digits fo.outBase fo.outUpper hcb n 0 _ (Or.inl rfl)
        (fun h => absurd h (natDigits_ne_nil _ _ _))
      simp only [replicate_zero, nil_append] at hall hne hval
      rw [h16] at hall hval hne
      refine ⟨prefixStr fo (decide (n = 0)), natDigits 16 fo.outUpper n, 16, hfi, by simp [h16],
        ⟨hall, Scanf.sep_not_digit 16 (by simp) tail hR, Or.inr (Or.inr (Or.inr ⟨rfl, rfl, ?_⟩))⟩, Or.inr hne, hval⟩
      unfold prefixStr; simp only [hsb, hh, if_true]; split <;> simp
    · -- octal, decimal: at most the `0` of showbase in front of a non-zero octal number
      have hh' : fo.hexOnly = false := by simpa using hh
      have h16 : fo.outBase ≠ 16 := by
        unfold Fmt.outBase; rw [hh']; simp only [Bool.false_eq_true, if_false]; split <;> omega
      obtain ⟨j, hj, hj8, hj10⟩ : ∃ j, prefixStr fo (decide (n = 0)) = replicate j '0' ∧
          (fo.outBase = 8 ∧ n ≠ 0 → 1 ≤ j) ∧ (fo.outBase = 10 → j = 0) := by
        unfold prefixStr
        by_cases hsb : fo.showbase = true
        · simp only [hsb, if_true, hh', Bool.false_eq_true, if_false]
          split
          · rename_i h; exact ⟨1, rfl, fun _ => Nat.le_refl _, fun h10 => by have := octOnly_outBase fo h.1; omega⟩
          · rename_i h
            refine ⟨0, rfl, fun h8 => absurd ⟨?_, by simpa using h8.2⟩ h, fun _ => rfl⟩
            have : fo.outBase = 8 := h8.1
            unfold Fmt.outBase at this; rw [hh'] at this
            by_contra ho; simp [ho] at this
        · have h10 : fo.outBase = 10 := hs.resolve_right hsb
          exact ⟨0, by simp [hsb], fun h => by omega, fun _ => rfl⟩
      obtain ⟨pre, body, b', hkey, rest⟩ := Scanf.detect_shape fo.outBase fo.outUpper hcb n j [] _ tail hR (Or.inl rfl)
        (by rw [if_neg (fun h => h16 h.1)])
        (fun h => Or.inl (hj8 (h.resolve_left (natDigits_ne_nil _ _ _)))) (fun h10 _ => hj10 h10)
      exact ⟨pre, body, b', hfi, by rw [hj, ← hkey]; simp, rest⟩

theorem bodySpec_written (fo fi : Fmt) (hc : ReadsBack fo fi) (neg : Bool) (k n : Nat) (tail : List Char) (ht : TailOk tail) :
    bodySpec fi neg k ((prefixStr fo (decide (n = 0)) ++ natDigits fo.outBase fo.outUpper n) ++ tail) =
      ⟨k + (prefixStr fo (decide (n = 0)) ++ natDigits fo.outBase fo.outUpper n).length,
       .value (if neg then -(n : Int) else n), false, false⟩ := by
  obtain ⟨b0, pre, body, b, hf, hkey, hsh, hv, hval⟩ := written_shape fo fi hc n tail ht
  rw [hkey, bodySpec_shape fi b0 b hf neg k pre body tail hsh hv, hval]
  have hl := congrArg length hkey
  simp only [length_append] at hl ⊢
  congr 1; omega

theorem written_ge_48 (fo : Fmt) (z : Bool) (n : Nat) : ∀ c ∈ prefixStr fo z ++ natDigits fo.outBase fo.outUpper n, 48 ≤ c.toNat := by
  intro c hc
  rcases mem_append.mp hc with h | h
  · unfold prefixStr at h
    split_ifs at h <;> simp at h
    all_goals (rcases h with rfl | rfl) <;> decide
  · exact digit_ge_48 _ (outBase_cases fo) c (by
      rw [digitTest_eq_isDigitIn _ (outBase_cases fo)]
      exact (Scanf.natDigits_props _ _ (convBase_out fo) n).2 c h)

theorem numSpec_written (fo fi : Fmt) (hc : ReadsBack fo fi) (neg : Bool) (n : Nat) (sg tail : List Char)
    (hsg : sg = [] ∧ neg = false ∨ sg = ['-'] ∧ neg = true ∨ sg = ['+'] ∧ neg = false) (ht : TailOk tail) :
    numSpec fi ((sg ++ (prefixStr fo (decide (n = 0)) ++ natDigits fo.outBase fo.outUpper n)) ++ tail) =
      ⟨(sg ++ (prefixStr fo (decide (n = 0)) ++ natDigits fo.outBase fo.outUpper n)).length,
       .value (if neg then -(n : Int) else n), false, false⟩ := by
  have hge := written_ge_48 fo (decide (n = 0)) n
  have hne : prefixStr fo (decide (n = 0)) ++ natDigits fo.outBase fo.outUpper n ≠ [] := by
    simp [natDigits_ne_nil]
  have key := bodySpec_written fo fi hc neg sg.length n tail ht
  generalize prefixStr fo (decide (n = 0)) ++ natDigits fo.outBase fo.outUpper n = body at *
  -- what is written after the sign starts with a digit, not with a sign
  have hns : ∀ x : Char, x.toNat < 48 → ∀ r, body ++ tail ≠ x :: r := by
    intro x hx r e
    cases body with
    | nil => exact hne rfl
    | cons a t => have := hge a mem_cons_self; rw [cons_append] at e; injection e with e _; rw [e] at this; omega
  rw [append_assoc, numSpec_sign fi neg sg _ (by
    rcases hsg with ⟨rfl, rfl⟩ | h | h
    · exact Or.inr (Or.inr ⟨rfl, rfl, hns '-' (by decide), hns '+' (by decide)⟩)
    · exact Or.inl h
    · exact Or.inr (Or.inl h)), key, length_append, Nat.add_comm]

theorem signStr_cases (fo : Fmt) (z : Int) :
    signStr fo (decide (z < 0)) = [] ∧ decide (z < 0) = false ∨ signStr fo (decide (z < 0)) = ['-'] ∧ decide (z < 0) = true ∨
      signStr fo (decide (z < 0)) = ['+'] ∧ decide (z < 0) = false := by
  unfold signStr
  by_cases hz : z < 0
  · simp [hz]
  · by_cases hsp : fo.showpos = true <;> simp [hz, hsp]

theorem fieldLayout_nopad (fo : Fmt) (w : Int) (fill : Char) (sg pre body : List Char) (hw : w ≤ 0) :
    fieldLayout fo w fill sg pre body = sg ++ (pre ++ body) := by
  have hpad : (w - ((sg.length + pre.length + body.length : Nat) : Int)).toNat = 0 := by omega
  unfold fieldLayout
  simp only [hpad, replicate_zero, append_nil, nil_append]
  split_ifs <;> simp

theorem wsPrefix_nil (fi : Fmt) (T : List Char) (h : ∀ c, T.head? = some c → isspace c = false) : wsPrefix fi T = [] := by
  unfold wsPrefix
  split
  · cases T with
    | nil => rfl
    | cons a t => simp [h a rfl]
  · rfl

theorem not_space_of_ge (c : Char) (h : 43 ≤ c.toNat) : isspace c = false := by
  cases hs : isspace c
  · rfl
  · have := (isspace_iff c).mp hs; omega

theorem written_head (fo : Fmt) (z : Int) (tail : List Char) :
    ∀ c, ((signStr fo (decide (z < 0)) ++ (prefixStr fo (decide (z.natAbs = 0)) ++ natDigits fo.outBase fo.outUpper z.natAbs)) ++ tail).head? = some c →
      isspace c = false := by
  intro c hc
  have hge := written_ge_48 fo (decide (z.natAbs = 0)) z.natAbs
  have hne : prefixStr fo (decide (z.natAbs = 0)) ++ natDigits fo.outBase fo.outUpper z.natAbs ≠ [] := by
    simp [natDigits_ne_nil]
  generalize prefixStr fo (decide (z.natAbs = 0)) ++ natDigits fo.outBase fo.outUpper z.natAbs = body at *
  cases body with
  | nil => exact absurd rfl hne
  | cons a t =>
    have ha := hge a mem_cons_self
    rcases signStr_cases fo z with ⟨h, _⟩ | ⟨h, _⟩ | ⟨h, _⟩ <;> rw [h] at hc <;> simp at hc <;> subst hc
    · exact not_space_of_ge _ (by omega)
    · exact not_space_of_ge _ (by decide)
    · exact not_space_of_ge _ (by decide)

theorem natAbs_val (z : Int) : (if decide (z < 0) = true then -((z.natAbs : Nat) : Int) else ((z.natAbs : Nat) : Int)) = z := by
  by_cases hz : z < 0
  · rw [if_pos (by simpa using hz)]; omega
  · rw [if_neg (by simpa using hz)]; omega

theorem decide_natAbs (z : Int) : decide (z = 0) = decide (z.natAbs = 0) := by
  by_cases h : z = 0 <;> simp [h]

theorem extract_insertZ (fo fi : Fmt) (z w : Int) (hw : w ≤ 0) (fill : Char) (hc : ReadsBack fo fi) :
    extractZ (mkG (insertZ { fmt := fo, width := w, fill := fill } z).out [] fi) =
      (mkG [] (insertZ { fmt := fo, width := w, fill := fill } z).out.reverse fi, .value z) := by
  have htext : (insertZ { fmt := fo, width := w, fill := fill } z).out =
      (signStr fo (decide (z < 0)) ++ (prefixStr fo (decide (z.natAbs = 0)) ++ natDigits fo.outBase fo.outUpper z.natAbs)) ++ [] := by
    rw [insertZ_eq]
    simp only [fieldLayout_nopad _ _ _ _ _ _ hw, decide_natAbs z]
    simp [OStream.write, OStream.good]
  rw [htext, extractZ_at]
  simp only [wsPrefix_nil fi _ (written_head fo z []), length_nil, drop_zero, reverse_nil, nil_append]
  rw [numSpec_written fo fi hc (decide (z < 0)) z.natAbs _ [] (signStr_cases fo z) (Or.inl rfl), natAbs_val]
  simp only [append_nil]
  generalize signStr fo (decide (z < 0)) ++ (prefixStr fo (decide (z.natAbs = 0)) ++ natDigits fo.outBase fo.outUpper z.natAbs) = T
  simp [after, mkG]

theorem extract_insertQ (fo fi : Fmt) (n d w : Int) (hd : 0 < d) (hw : w ≤ 0) (fill : Char) (hc : ReadsBack fo fi) :
    extractQ (mkG (insertQ { fmt := fo, width := w, fill := fill } n d).out [] fi) =
      (mkG [] (insertQ { fmt := fo, width := w, fill := fill } n d).out.reverse fi, .value n, .value d) := by
  have hdz : decide (d.natAbs = 0) = false := by simp; omega
  have hdv : ((d.natAbs : Nat) : Int) = d := by omega
  have htext : (insertQ { fmt := fo, width := w, fill := fill } n d).out =
      (signStr fo (decide (n < 0)) ++ (prefixStr fo (decide (n.natAbs = 0)) ++ natDigits fo.outBase fo.outUpper n.natAbs)) ++
        (if d = 1 then [] else '/' :: (([] ++ (prefixStr fo (decide (d.natAbs = 0)) ++ natDigits fo.outBase fo.outUpper d.natAbs)) ++ [])) := by
    rw [insertQ_eq _ _ _ hd]
    simp only [fieldLayout_nopad _ _ _ _ _ _ hw, decide_natAbs n, hdz]
    simp [OStream.write, OStream.good]
  rw [htext, extractQ_spec']
  generalize hA : signStr fo (decide (n < 0)) ++ (prefixStr fo (decide (n.natAbs = 0)) ++ natDigits fo.outBase fo.outUpper n.natAbs) = A
  have hnum : ∀ tail, TailOk tail → numSpec fi (A ++ tail) = ⟨A.length, .value n, false, false⟩ := by
    intro tail ht
    rw [← hA, numSpec_written fo fi hc (decide (n < 0)) n.natAbs _ tail (signStr_cases fo n) ht, natAbs_val]
  have hws : ∀ tail, wsPrefix fi (A ++ tail) = [] := by
    intro tail; rw [← hA]; exact wsPrefix_nil fi _ (written_head fo n tail)
  unfold specQ
  by_cases h1 : d = 1
  · subst h1
    simp only [if_true, hws, length_nil, drop_zero, reverse_nil, hnum [] (Or.inl rfl)]
    simp [after, mkG]
  · simp only [h1, if_false, hws, length_nil, drop_zero, reverse_nil]
    generalize hV : ([] ++ (prefixStr fo (decide (d.natAbs = 0)) ++ natDigits fo.outBase fo.outUpper d.natAbs)) = V
    have hden : numSpec fi (V ++ []) = ⟨V.length, .value d, false, false⟩ := by
      rw [← hV, numSpec_written fo fi hc false d.natAbs [] [] (Or.inl ⟨rfl, rfl⟩) (Or.inl rfl)]
      simp [hdv]
    rw [hnum ('/' :: (V ++ [])) (Or.inr ⟨_, rfl⟩)]
    simp only [Bool.false_eq_true, if_false, drop_left']
    rw [hden]
    simp [after, mkG]

end

/-! ### `operator<< (ostream &, mpf)`: from the lengths of doprntf.c to the text -/

section
open List

/-- the bytes between the (internal) padding and the padding on the right -/
def bodyOf (q : Pieces) : List Char :=
  q.s.take q.intlen.toNat ++ zeros q.intzeros ++ (if q.pointlen ≠ 0 then ['.'] else []) ++ zeros q.fraczeros ++
    (q.s.drop q.intlen.toNat).take q.fraclen.toNat ++ zeros q.preczeros ++ q.expStr

@[simp] theorem length_zeros (n : Int) : (zeros n).length = n.toNat := by simp [zeros]

/-- doprntf.c:333-372 writes [padding] sign prefix [padding] body [padding] -/
theorem emitPieces_bytes (p : Params) (q : Pieces)
    (h1 : 0 ≤ q.intlen) (h3 : 0 ≤ q.intzeros) (h4 : q.pointlen = 0 ∨ q.pointlen = 1) (h5 : 0 ≤ q.fraczeros) (h6 : 0 ≤ q.fraclen)
    (h7 : q.intlen + q.fraclen ≤ q.s.length) (h8 : 0 ≤ q.preczeros) :
    callsBytes (emitPieces p q) =
      justLayout p.justify
        (replicate (p.width - ((q.sign.toList.length + q.showbase.length + (bodyOf q).length : Nat) : Int)).toNat p.fill)
        (q.sign.toList ++ q.showbase) (bodyOf q) := by
  have hl1 : (q.s.take q.intlen.toNat).length = q.intlen.toNat := by
    rw [length_take]; omega
  have hl2 : ((q.s.drop q.intlen.toNat).take q.fraclen.toNat).length = q.fraclen.toNat := by
    rw [length_take, length_drop]; omega
  have hpl : (if q.pointlen ≠ 0 then ['.'] else []).length = q.pointlen.toNat := by
    rcases h4 with h | h <;> simp [h]
  have hsg : (if q.sign.isSome = true then (1 : Int) else 0) = (q.sign.toList.length : Int) := by cases q.sign <;> rfl
  have hlen : ((q.sign.toList.length + q.showbase.length + (bodyOf q).length : Nat) : Int) =
      (if q.sign.isSome then 1 else 0) + (q.showbase.length : Int) + q.intlen + q.intzeros + q.pointlen + q.fraczeros +
        q.fraclen + q.preczeros + (q.expStr.length : Int) := by
    have h4' : 0 ≤ q.pointlen := by omega
    unfold bodyOf
    simp only [length_append, hl1, hl2, hpl, length_zeros, hsg, Nat.cast_add, Int.toNat_of_nonneg, h1, h3, h4', h5, h6, h8]
    omega
  rw [hlen]
  exact floatCalls_bytes ..

theorem zeros_max (x : Int) : zeros (max 0 x) = zeros x := by
  unfold zeros; congr 1; omega

theorem zeros_nonpos (x : Int) (h : x ≤ 0) : zeros x = [] := by
  unfold zeros; rw [show x.toNat = 0 by omega]; rfl

theorem body_eq (general st sp : Bool) (prec : Int) (s ip fp expStr : List Char)
    (intlen intzeros fraczeros fraclen preczeros pointlen : Int)
    (hip : s.take intlen.toNat ++ zeros intzeros = ip) (hfp : zeros fraczeros ++ (s.drop intlen.toNat).take fraclen.toNat = fp)
    (hfl : (fp.length : Int) = fraczeros + fraclen) (hil : (ip.length : Int) = intlen + intzeros)
    (hpz : preczeros = if st = true then max 0 (prec - (fraczeros + fraclen + (if general = true then intlen + intzeros else 0))) else 0)
    (hpt : pointlen = if fraczeros + fraclen + preczeros ≠ 0 ∨ sp = true then 1 else 0) :
    s.take intlen.toNat ++ zeros intzeros ++ (if pointlen ≠ 0 then ['.'] else []) ++ zeros fraczeros ++
      (s.drop intlen.toNat).take fraclen.toNat ++ zeros preczeros ++ expStr = floatBody general st sp prec ip fp expStr := by
  unfold floatBody
  simp only []
  have hpzz : zeros preczeros =
      (if st = true then zeros (prec - ((fp.length + (if general = true then ip.length else 0) : Nat) : Int)) else []) := by
    rw [hpz]
    cases st
    · simp [zeros]
    · simp only [if_true, zeros_max]
      congr 1
      cases general <;> simp <;> omega
  have hfpn : 0 ≤ fraczeros + fraclen := by omega
  have hpzl : (zeros preczeros).length = preczeros.toNat := length_zeros _
  have hpzn : 0 ≤ preczeros := by rw [hpz]; split <;> omega
  have hcond : (pointlen ≠ 0) ↔ (fp ++ zeros preczeros ≠ [] ∨ sp = true) := by
    rw [hpt]
    have : fp ++ zeros preczeros ≠ [] ↔ fraczeros + fraclen + preczeros ≠ 0 := by
      rw [Ne, ← length_eq_zero_iff, length_append, hpzl]
      omega
    rw [this]
    by_cases hc : fraczeros + fraclen + preczeros ≠ 0 ∨ sp = true
    · simp only [hc, if_true, ne_eq, one_ne_zero, not_false_eq_true]
    · simp only [hc, if_false, ne_eq, not_true_eq_false]
  rw [← hpzz]
  have e : (if pointlen ≠ 0 then ['.'] else []) = (if fp ++ zeros preczeros ≠ [] ∨ sp = true then ['.'] else ([] : List Char)) := by
    by_cases h : pointlen ≠ 0
    · rw [if_pos h, if_pos (hcond.mp h)]
    · rw [if_neg h, if_neg (fun hh => h (hcond.mpr hh))]
  rw [e, ← hip, ← hfp]
  simp only [append_assoc]

theorem piecesOf_sign (o : OStream) (letter : Char) (D : FDigits) :
    (piecesOf (paramsFromIos o).1 letter D).sign.toList = if D.neg = true then ['-'] else if o.fmt.showpos = true then ['+'] else [] :=
  ios_sign o D.neg

theorem piecesOf_empty (p : Params) (letter : Char) (D : FDigits) :
    ((piecesOf p letter D).intlen = 0 ∧ (piecesOf p letter D).fraclen = 0) ↔ D.s = [] := by
  rw [← length_eq_zero_iff]
  simp only [piecesOf]
  by_cases hs : D.sci = true
  · simp only [hs, if_true, true_or]; omega
  · by_cases he : D.exp ≤ 0
    · have h0 : ¬ 0 < D.exp := by omega
      simp only [hs, he, h0, if_true, if_false, false_or, Bool.false_eq_true]; simp
    · have h0 : 0 < D.exp := by omega
      simp only [hs, he, h0, if_true, if_false, false_or, Bool.false_eq_true]; omega

theorem piecesOf_showbase (o : OStream) (letter : Char) (D : FDigits) :
    (piecesOf (paramsFromIos o).1 letter D).showbase = prefixStr o.fmt (decide (D.s = [])) := by
  have hsb : (piecesOf (paramsFromIos o).1 letter D).showbase =
      (if (paramsFromIos o).1.showbase = .no then []
       else if (paramsFromIos o).1.showbase = .nonzero ∧ (piecesOf (paramsFromIos o).1 letter D).intlen = 0 ∧ (piecesOf (paramsFromIos o).1 letter D).fraclen = 0 then []
       else (if (paramsFromIos o).1.base = 16 then ['0', 'x'] else if (paramsFromIos o).1.base = -16 then ['0', 'X']
             else if (paramsFromIos o).1.base = 8 then ['0'] else [])) := rfl
  rw [hsb, ios_base, ios_showbase, prefixStr]
  simp only [piecesOf_empty]
  by_cases hz : D.s = [] <;>
    cases o.fmt.showbase <;> cases o.fmt.hexOnly <;> cases o.fmt.octOnly <;> cases o.fmt.uppercase <;> simp [hz]

theorem piecesOf_body (p : Params) (letter : Char) (D : FDigits) :
    bodyOf (piecesOf p letter D) =
      floatBody (decide (p.conv = 3)) p.showtrailing p.showpoint D.prec
        (if D.sci = true then sciText D.s else fixedText D.s D.exp).1 (if D.sci = true then sciText D.s else fixedText D.s D.exp).2
        (if D.sci = true then expTextIos letter (D.exp - ((min 1 D.s.length : Nat) : Int)) else []) := by
  rcases D with ⟨neg, s, exp, prec, sci⟩
  unfold bodyOf
  cases sci
  · by_cases he : exp ≤ 0
    · -- 0.000sss
      have h0 : ¬ 0 < exp := by omega
      simp only [piecesOf, Bool.false_eq_true, if_false, he, if_true, false_or, h0, fixedText]
      refine body_eq _ _ _ _ _ _ _ _ _ _ _ _ _ _ ?_ ?_ ?_ ?_ ?_ rfl
      · simp [zeros]
      · simp
      · simp; omega
      · simp
      · simp
    · -- sss.sss or sss000
      have h0 : 0 < exp := by omega
      simp only [piecesOf, Bool.false_eq_true, if_false, he, if_true, false_or, h0, fixedText]
      by_cases hle : (s.length : Int) ≤ exp
      · have hm : min (s.length : Int) exp = s.length := by omega
        simp only [hm]
        refine body_eq _ _ _ _ _ _ _ _ _ _ _ _ _ _ ?_ ?_ ?_ ?_ ?_ rfl
        · simp only [Int.toNat_natCast, take_length]
          rw [take_of_length_le (by omega)]
        · simp only [Int.toNat_natCast, drop_length, take_nil, sub_self]
          rw [drop_eq_nil_of_le (by omega)]
          simp [zeros]
        · rw [drop_eq_nil_of_le (by omega)]; simp
        · rw [take_of_length_le (by omega)]; simp; omega
        · simp
      · have hm : min (s.length : Int) exp = exp := by omega
        simp only [hm]
        refine body_eq _ _ _ _ _ _ _ _ _ _ _ _ _ _ ?_ ?_ ?_ ?_ ?_ rfl
        · rw [zeros_nonpos _ (by omega), zeros_nonpos _ (by omega)]
        · rw [zeros_nonpos _ (le_refl _), nil_append, take_of_length_le (by rw [length_drop]; omega)]
        · rw [length_drop]; omega
        · rw [zeros_nonpos _ (by omega), append_nil, length_take]; omega
        · simp
  · -- d.ddd
    simp only [piecesOf, if_true, true_or, sciText]
    cases s with
    | nil =>
      simp only [length_nil, Int.natCast_zero, show min (1 : Int) 0 = 0 by omega, if_true, Nat.min_zero, Nat.cast_zero]
      refine body_eq _ _ _ _ _ _ _ _ _ _ _ _ _ _ ?_ ?_ ?_ ?_ ?_ rfl
      · simp [zeros]
      · simp [zeros]
      · simp
      · simp
      · simp
    | cons a t =>
      have hm : min (1 : Int) ((a :: t).length : Int) = 1 := by simp only [length_cons]; omega
      have hmn : min 1 (a :: t).length = 1 := by simp only [length_cons]; omega
      simp only [hm, hmn, show ¬ ((1 : Int) = 0) by omega, if_false, reduceCtorEq, Nat.cast_one]
      refine body_eq _ _ _ _ _ _ _ _ _ _ _ _ _ _ ?_ ?_ ?_ ?_ ?_ rfl
      · simp [zeros]
      · simp [zeros]
      · simp
      · simp
      · simp

theorem piecesOf_bounds (p : Params) (letter : Char) (D : FDigits) :
    0 ≤ (piecesOf p letter D).intlen ∧ 0 ≤ (piecesOf p letter D).intzeros ∧
    ((piecesOf p letter D).pointlen = 0 ∨ (piecesOf p letter D).pointlen = 1) ∧ 0 ≤ (piecesOf p letter D).fraczeros ∧
    0 ≤ (piecesOf p letter D).fraclen ∧ (piecesOf p letter D).intlen + (piecesOf p letter D).fraclen ≤ (piecesOf p letter D).s.length ∧
    0 ≤ (piecesOf p letter D).preczeros := by
  rcases D with ⟨neg, s, exp, prec, sci⟩
  have hpz : ∀ x : Int, 0 ≤ (if p.showtrailing = true then max 0 x else 0) := fun x => by split <;> omega
  have hpt : ∀ (c : Prop) [Decidable c], (if c then (1 : Int) else 0) = 0 ∨ (if c then (1 : Int) else 0) = 1 :=
    fun c _ => by split <;> simp
  cases sci
  · by_cases he : exp ≤ 0
    · -- 0.000sss
      have h0 : ¬ 0 < exp := by omega
      simp only [piecesOf, Bool.false_eq_true, if_false, he, if_true, false_or, h0]
      exact ⟨by omega, by omega, hpt _, by omega, by omega, by omega, hpz _⟩
    · -- sss.sss or sss000
      have h0 : 0 < exp := by omega
      simp only [piecesOf, Bool.false_eq_true, if_false, he, if_true, false_or, h0]
      exact ⟨by omega, by omega, hpt _, by omega, by omega, by omega, hpz _⟩
  · -- d.ddd
    simp only [piecesOf, if_true, true_or]
    exact ⟨by omega, by split <;> omega, hpt _, by omega, by omega, by omega, hpz _⟩

theorem ofNat_ne_minus (n : Nat) (h : 48 ≤ n) : Char.ofNat n ≠ '-' := by
  intro e
  have h2 : (Char.ofNat n).toNat = 45 := by rw [e]; rfl
  unfold Char.ofNat at h2
  split at h2
  · simp [Char.ofNatAux, Char.toNat] at h2; omega
  · revert h2; decide

theorem radix_digitChar_ge (base : Int) (d : Nat) : 48 ≤ Radix.digitChar base d := by
  unfold Radix.digitChar; split_ifs <;> omega

/-- the '-' test of doprntf.c:133 on what mpf_get_str returns: exactly the negative operands -/
theorem get_str_neg (base : Int) (nd : Nat) (f : Mpf.F) :
    (decide (((MpfStr.get_str base nd f).1.map Char.ofNat).head? = some '-')) = decide (f.size < 0) := by
  unfold MpfStr.get_str
  simp only []
  by_cases h : f.size < 0
  · simp [h]
  · simp only [h, if_false, nil_append, decide_false, decide_eq_false_iff_not]
    cases hd : (MpfStr.get_digits base.natAbs nd f).1 with
    | nil => simp
    | cons a t =>
      simp only [map_cons, head?_cons, Option.some.injEq]
      exact ofNat_ne_minus _ (radix_digitChar_ge base a)

theorem mpfDigits_neg (p : Params) (f : Mpf.F) : (mpfDigits p f).neg = decide (f.size < 0) := by
  unfold mpfDigits
  simp only [apply_ite FDigits.neg, ite_self]
  exact get_str_neg _ _ _

/-! ### mpf_set_str accepts what the scanner collects -/

/-- byte codes of decimal digits -/
def DigCodes (l : List Nat) : Prop := ∀ c ∈ l, 48 ≤ c ∧ c ≤ 57

theorem dv_digit (c : Nat) (h : 48 ≤ c ∧ c ≤ 57) : Radix.digitValue 0 c < 10 := by
  obtain ⟨h1, h2⟩ := h
  interval_cases c <;> decide

theorem digit_not_marker (c : Nat) (h : 48 ≤ c ∧ c ≤ 57) : MpfStr.isMarker 10 c = false := by
  obtain ⟨h1, h2⟩ := h
  interval_cases c <;> decide

theorem digit_not_space (c : Nat) (h : 48 ≤ c ∧ c ≤ 57) : Radix.isSpace c = false := by
  obtain ⟨h1, h2⟩ := h
  interval_cases c <;> decide

theorem splitLast_marker (A B : List Nat) (e : Nat) (he : MpfStr.isMarker 10 e = true) (hB : ∀ c ∈ B, MpfStr.isMarker 10 c = false) :
    MpfStr.splitLast 10 (A ++ e :: B) = some (A, B) := by
  have := MpfParse.splitLast_append 10 A (e :: B) [] B (by simp [MpfStr.splitLast, MpfParse.splitLast_none 10 B hB, he])
  simpa using this

theorem scanMant_digits (l rest ds : List Nat) (dot : Option Nat) (hl : DigCodes l)
    (hr : MpfStr.scanMant (Radix.digitValue 0) 10 rest = some (ds, dot)) :
    MpfStr.scanMant (Radix.digitValue 0) 10 (l ++ rest) = some (l.map (Radix.digitValue 0) ++ ds, dot) := by
  induction l with
  | nil => simpa using hr
  | cons a t ih =>
    have ha := hl a mem_cons_self
    have h46 : a ≠ 46 := by omega
    simp [MpfStr.scanMant, ih (fun c hc => hl c (mem_cons_of_mem _ hc)), digit_not_space a ha, h46, dv_digit a ha]

theorem scanMant_mantissa (ip fp : List Nat) (hip : DigCodes ip) (hfp : DigCodes fp) (pt : Bool) :
    ∃ r, MpfStr.scanMant (Radix.digitValue 0) 10 (ip ++ (if pt then 46 :: fp else [])) = some r := by
  cases pt with
  | false =>
    have := scanMant_digits ip [] [] none hip rfl
    exact ⟨_, by simpa using this⟩
  | true =>
    have h1 := scanMant_digits fp [] [] none hfp rfl
    simp only [append_nil] at h1
    have h2 : MpfStr.scanMant (Radix.digitValue 0) 10 (46 :: fp) = some (fp.map (Radix.digitValue 0), some (fp.map (Radix.digitValue 0)).length) := by
      simp [MpfStr.scanMant, h1, show Radix.isSpace 46 = false by decide]
    exact ⟨_, scanMant_digits ip _ _ _ hip h2⟩

theorem scanExp_some (es ed : List Nat) (hes : es = [] ∨ es = [45] ∨ es = [43]) (hed : DigCodes ed) (hne : ed ≠ []) :
    ∃ x, MpfStr.scanExp (Radix.digitValue 0) 10 (es ++ ed) = some x := by
  cases ed with
  | nil => exact absurd rfl hne
  | cons a t =>
    have ha := hed a mem_cons_self
    have hda := dv_digit a ha
    unfold MpfStr.scanExp
    rcases hes with rfl | rfl | rfl
    · have h1 : a ≠ 43 := by omega
      have h2 : a ≠ 45 := by omega
      rw [nil_append]
      split
      rename_i x sgn t' heq
      have ht' : t' = a :: t := by
        split at heq
        · rename_i r h; simp only [cons.injEq] at h; omega
        · rename_i r h; simp only [cons.injEq] at h; omega
        · simp only [Prod.mk.injEq] at heq; exact heq.2.symm
      subst ht'
      simp [hda]
    · simp [hda]
    · simp [hda]

theorem mant_no_marker (ip fp : List Nat) (pt : Bool) (hip : DigCodes ip) (hfp : DigCodes fp) :
    ∀ c ∈ ip ++ (if pt then 46 :: fp else []), MpfStr.isMarker 10 c = false := by
  intro c hc
  rcases mem_append.mp hc with h | h
  · exact digit_not_marker c (hip c h)
  · cases pt with
    | false => simp at h
    | true =>
      simp only [if_true, mem_cons] at h
      rcases h with rfl | h
      · decide
      · exact digit_not_marker c (hfp c h)

theorem parseBody_ok (neg : Bool) (ip fp : List Nat) (pt : Bool) (xc : List Nat) (hip : DigCodes ip) (hfp : DigCodes fp)
    (hne : ip ≠ [] ∨ (pt = true ∧ fp ≠ []))
    (hx : xc = [] ∨ ∃ e es ed, (e = 101 ∨ e = 69) ∧ (es = [] ∨ es = [45] ∨ es = [43]) ∧ ed ≠ [] ∧ DigCodes ed ∧ xc = e :: (es ++ ed)) :
    MpfStr.parseBody neg 10 10 ((ip ++ (if pt then 46 :: fp else [])) ++ xc) ≠ none := by
  obtain ⟨r, hscan⟩ := scanMant_mantissa ip fp hip hfp pt
  have hnm := mant_no_marker ip fp pt hip hfp
  -- the first character
  have hfirst : ∃ c R, ip ++ (if pt then 46 :: fp else []) = c :: R ∧
      (Radix.digitValue 0 c < 10 ∨ (c = 46 ∧ Radix.digitValue 0 ((R ++ xc).headD 0) < 10)) := by
    cases ip with
    | cons a t => exact ⟨a, _, rfl, Or.inl (dv_digit a (hip a mem_cons_self))⟩
    | nil =>
      rcases hne with h | ⟨rfl, h⟩
      · exact absurd rfl h
      · cases fp with
        | nil => exact absurd rfl h
        | cons b t => exact ⟨46, b :: t, rfl, Or.inr ⟨rfl, by simpa using dv_digit b (hfp b mem_cons_self)⟩⟩
  obtain ⟨c, R, hM, hcond⟩ := hfirst
  rw [hM] at hscan hnm ⊢
  have hRm : ∀ c' ∈ R, MpfStr.isMarker 10 c' = false := fun c' hc' => hnm c' (mem_cons_of_mem _ hc')
  obtain ⟨ds, dot⟩ := r
  rcases hx with rfl | ⟨e, es, ed, he, hes, hedne, hed, rfl⟩
  · rw [append_nil] at hcond ⊢
    have hsp : MpfStr.splitLast 10 R = none := MpfParse.splitLast_none 10 R hRm
    unfold MpfStr.parseBody
    simp only [show ¬ (36 < 10) by omega, if_false, hcond, not_true_eq_false, hsp, hscan]
    split <;> simp
  · have hB : ∀ c' ∈ es ++ ed, MpfStr.isMarker 10 c' = false := by
      intro c' hc'
      rcases mem_append.mp hc' with h | h
      · rcases hes with rfl | rfl | rfl <;> simp at h <;> subst h <;> decide
      · exact digit_not_marker c' (hed c' h)
    have hsp : MpfStr.splitLast 10 (R ++ e :: (es ++ ed)) = some (R, es ++ ed) :=
      splitLast_marker R (es ++ ed) e (by rcases he with rfl | rfl <;> decide) hB
    obtain ⟨x, hxs⟩ := scanExp_some es ed hes hed hedne
    unfold MpfStr.parseBody
    simp only [show ¬ (36 < 10) by omega, if_false, cons_append, hcond, not_true_eq_false, hsp, hscan, hxs]
    split <;> simp

theorem clean_prefix (l : List Nat) (h : ∀ c ∈ l, 43 ≤ c) : (l.takeWhile (· != 0)).dropWhile Radix.isSpace = l := by
  have h1 : l.takeWhile (· != 0) = l := takeWhile_all l fun c hc => by have := h c hc; simp; omega
  rw [h1]
  cases l with
  | nil => rfl
  | cons a t =>
    have ha := h a mem_cons_self
    have : Radix.isSpace a = false := by
      unfold Radix.isSpace
      simp; omega
    simp [this]

/-- an exponent as the scanner collects it: nothing, or the letter, an optional sign and at least one digit -/
def ExpOk (x : List Char) : Prop :=
  x = [] ∨ ∃ e es ed, (e = 'e' ∨ e = 'E') ∧ (es = [] ∨ es = ['-'] ∨ es = ['+']) ∧ ed ≠ [] ∧ (∀ c ∈ ed, isdigit c = true) ∧ x = e :: (es ++ ed)

theorem expSpec_text (k : Nat) (m u s : List Char) (h : (expSpec k m u).text = some s) : ∃ x, ExpOk x ∧ s = m ++ x := by
  unfold expSpec at h
  split at h
  · rename_i e t
    split at h
    · rename_i he
      simp only [] at h
      split at h
      · cases h
      · rename_i hne
        simp only [Option.some.injEq] at h
        refine ⟨e :: ((expSign t).1 ++ (expSign t).2.takeWhile isdigit), Or.inr ⟨e, (expSign t).1, _, he, ?_, hne, ?_, rfl⟩, ?_⟩
        · unfold expSign; split <;> simp
        · intro c hc; exact mem_takeWhile_imp' _ _ _ hc
        · rw [← h]; simp
    · simp only [Option.some.injEq] at h
      exact ⟨[], Or.inl rfl, by simp [h]⟩
  · simp only [Option.some.injEq] at h
    exact ⟨[], Or.inl rfl, by simp [h]⟩

theorem mantSpec_text (sg : List Char) (k : Nat) (u s : List Char) (h : (mantSpec sg k u).text = some s) :
    ∃ (ip fp : List Char) (pt : Bool) (x : List Char), (∀ c ∈ ip, isdigit c = true) ∧ (∀ c ∈ fp, isdigit c = true) ∧
      (ip ≠ [] ∨ (pt = true ∧ fp ≠ [])) ∧ ExpOk x ∧ s = sg ++ (ip ++ (if pt then '.' :: fp else [])) ++ x := by
  have hip : ∀ c ∈ u.takeWhile isdigit, isdigit c = true := fun c hc => mem_takeWhile_imp' _ _ _ hc
  unfold mantSpec at h
  simp only [] at h
  split at h
  · rename_i t ht
    have hfp : ∀ c ∈ t.takeWhile isdigit, isdigit c = true := fun c hc => mem_takeWhile_imp' _ _ _ hc
    split at h
    · cases h
    · rename_i hne
      obtain ⟨x, hx, rfl⟩ := expSpec_text _ _ _ _ h
      refine ⟨_, _, true, x, hip, hfp, ?_, hx, by simp⟩
      by_cases h1 : u.takeWhile isdigit = []
      · exact Or.inr ⟨rfl, fun h2 => hne ⟨h1, h2⟩⟩
      · exact Or.inl h1
  · split at h
    · cases h
    · rename_i hne
      obtain ⟨x, hx, rfl⟩ := expSpec_text _ _ _ _ h
      exact ⟨_, [], false, x, hip, by simp, Or.inl hne, hx, by simp⟩

theorem digCodes_map (l : List Char) (h : ∀ c ∈ l, isdigit c = true) : DigCodes (l.map Char.toNat) := by
  intro n hn
  obtain ⟨c, hc, rfl⟩ := mem_map.mp hn
  exact (isdigit_iff c).mp (h c hc)

/-- mpf_set_str accepts every text the scanner hands to it (the ASSERT_NOCARRY of ismpf.cc:130 cannot fire) -/
theorem parse_scanned (u s : List Char) (h : (floatSpec u).text = some s) : MpfStr.parse 10 (s.map Char.toNat) ≠ none := by
  have hshape : ∃ (sg ip fp : List Char) (pt : Bool) (x : List Char), (sg = [] ∨ sg = ['-']) ∧ (∀ c ∈ ip, isdigit c = true) ∧
      (∀ c ∈ fp, isdigit c = true) ∧ (ip ≠ [] ∨ (pt = true ∧ fp ≠ [])) ∧ ExpOk x ∧ s = sg ++ (ip ++ (if pt then '.' :: fp else [])) ++ x := by
    unfold floatSpec at h
    split at h
    · obtain ⟨ip, fp, pt, x, h1, h2, h3, h4, h5⟩ := mantSpec_text _ _ _ _ h; exact ⟨_, ip, fp, pt, x, Or.inr rfl, h1, h2, h3, h4, h5⟩
    · obtain ⟨ip, fp, pt, x, h1, h2, h3, h4, h5⟩ := mantSpec_text _ _ _ _ h; exact ⟨_, ip, fp, pt, x, Or.inl rfl, h1, h2, h3, h4, h5⟩
    · obtain ⟨ip, fp, pt, x, h1, h2, h3, h4, h5⟩ := mantSpec_text _ _ _ _ h; exact ⟨_, ip, fp, pt, x, Or.inl rfl, h1, h2, h3, h4, h5⟩
  obtain ⟨sg, ip, fp, pt, x, hsg, hip, hfp, hne, hx, rfl⟩ := hshape
  have hipc := digCodes_map ip hip
  have hfpc := digCodes_map fp hfp
  have hnec : ip.map Char.toNat ≠ [] ∨ (pt = true ∧ fp.map Char.toNat ≠ []) := by
    rcases hne with h | ⟨h1, h2⟩
    · exact Or.inl (by simpa using h)
    · exact Or.inr ⟨h1, by simpa using h2⟩
  have hxc : x.map Char.toNat = [] ∨ ∃ e es ed, (e = 101 ∨ e = 69) ∧ (es = [] ∨ es = [45] ∨ es = [43]) ∧ ed ≠ [] ∧ DigCodes ed ∧
      x.map Char.toNat = e :: (es ++ ed) := by
    rcases hx with rfl | ⟨e, es, ed, he, hes, hedne, hed, rfl⟩
    · exact Or.inl rfl
    · refine Or.inr ⟨e.toNat, es.map Char.toNat, ed.map Char.toNat, ?_, ?_, by simpa using hedne, digCodes_map ed hed, by simp⟩
      · rcases he with rfl | rfl
        · exact Or.inl rfl
        · exact Or.inr rfl
      · rcases hes with rfl | rfl | rfl
        · exact Or.inl rfl
        · exact Or.inr (Or.inl rfl)
        · exact Or.inr (Or.inr rfl)
  have hMmap : (ip ++ (if pt then '.' :: fp else [])).map Char.toNat = ip.map Char.toNat ++ (if pt then 46 :: fp.map Char.toNat else []) := by
    cases pt <;> simp
  have key := parseBody_ok
  generalize hbody : (ip.map Char.toNat ++ (if pt then 46 :: fp.map Char.toNat else [])) ++ x.map Char.toNat = body at *
  have hbody43 : ∀ c ∈ body, 43 ≤ c := by
    intro c hc
    rw [← hbody] at hc
    rcases mem_append.mp hc with h | h
    · rcases mem_append.mp h with h | h
      · have := hipc c h; omega
      · cases pt with
        | false => simp at h
        | true =>
          simp only [if_true, mem_cons] at h
          rcases h with rfl | h
          · omega
          · have := hfpc c h; omega
    · rcases hxc with h0 | ⟨e, es, ed, he, hes, _, hed, h0⟩
      · rw [h0] at h; simp at h
      · rw [h0] at h
        simp only [mem_cons, mem_append] at h
        rcases h with rfl | h | h
        · rcases he with rfl | rfl <;> omega
        · rcases hes with rfl | rfl | rfl <;> simp at h <;> omega
        · have := hed c h; omega
  have hbodyhead : body.head? ≠ some 45 := by
    have := parseBody_ok false _ _ pt _ hipc hfpc hnec hxc
    rw [hbody] at this
    intro hh
    cases hb : body with
    | nil => rw [hb] at hh; simp at hh
    | cons a t =>
      rw [hb] at hh this
      simp only [head?_cons, Option.some.injEq] at hh
      subst hh
      revert this
      unfold MpfStr.parseBody
      simp only [show ¬ (36 < 10) by omega, if_false]
      have h45 : ¬ Radix.digitValue 0 45 < 10 := by decide
      simp [h45]
  have hs0 : (sg ++ (ip ++ (if pt then '.' :: fp else [])) ++ x).map Char.toNat = sg.map Char.toNat ++ body := by
    rw [← hbody, ← hMmap]; simp
  rw [hs0]
  have hb10 : MpfStr.baseOf 10 = 10 := by decide
  have he10 : MpfStr.expBaseOf 10 = 10 := by decide
  unfold MpfStr.parse
  simp only [hb10, he10, show ¬ ((10 : Nat) < 2 ∨ 62 < (10 : Nat)) by omega, if_false]
  rcases hsg with rfl | rfl
  · simp only [map_nil, nil_append, clean_prefix body hbody43]
    have hneg : (body.head? == some 45) = false := by
      cases hh : body.head? with
      | none => rfl
      | some a =>
        have : a ≠ 45 := fun e => hbodyhead (by rw [hh, e])
        simp [this]
    simp only [hneg, Bool.false_eq_true, if_false]
    rw [← hbody]
    exact parseBody_ok false _ _ pt _ hipc hfpc hnec hxc
  · have h43 : ∀ c ∈ (['-'].map Char.toNat) ++ body, 43 ≤ c := by
      intro c hc
      simp only [map_cons, map_nil, cons_append, nil_append, mem_cons] at hc
      rcases hc with rfl | hc
      · decide
      · exact hbody43 c hc
    simp only [clean_prefix _ h43]
    simp only [map_cons, map_nil, cons_append, nil_append, head?_cons, tail_cons]
    have : ((some ('-' : Char).toNat : Option Nat) == some 45) = true := by decide
    simp only [this, if_true]
    rw [← hbody]
    exact parseBody_ok true _ _ pt _ hipc hfpc hnec hxc

/-! ### the flags and the position after the mpf extractor -/

theorem floatSpec_props (u : List Char) :
    ((floatSpec u).fail = true ↔ (floatSpec u).text = none) ∧ ((floatSpec u).fail = false → (floatSpec u).eof = false) ∧
    (floatSpec u).n ≤ u.length := by
  have hl : ∀ (l : List Char), (l.takeWhile isdigit).length + (l.dropWhile isdigit).length = l.length := by
    intro l
    rw [← List.length_append, List.takeWhile_append_dropWhile]
  have he : ∀ k m (u : List Char), (((expSpec k m u).fail = true ↔ (expSpec k m u).text = none) ∧
      ((expSpec k m u).fail = false → (expSpec k m u).eof = false) ∧ (expSpec k m u).n ≤ k + u.length) := by
    intro k m u
    unfold expSpec
    split
    · rename_i e t
      split
      · have hs : (expSign t).1.length + (expSign t).2.length = t.length := by
          unfold expSign; split <;> simp <;> omega
        have := hl (expSign t).2
        simp only []
        split <;> simp <;> omega
      · simp
    · simp
  have hm : ∀ sg k (u : List Char), (((mantSpec sg k u).fail = true ↔ (mantSpec sg k u).text = none) ∧
      ((mantSpec sg k u).fail = false → (mantSpec sg k u).eof = false) ∧ (mantSpec sg k u).n ≤ k + u.length) := by
    intro sg k u
    have h1 := hl u
    unfold mantSpec
    simp only []
    split
    · rename_i t ht
      have h2 := hl t
      rw [ht] at h1
      simp only [List.length_cons] at h1
      split
      · simp; omega
      · have := he (k + (List.takeWhile isdigit u).length + 1 + (List.takeWhile isdigit t).length)
          (sg ++ List.takeWhile isdigit u ++ '.' :: List.takeWhile isdigit t) (List.dropWhile isdigit t)
        exact ⟨this.1, this.2.1, by omega⟩
    · split
      · simp
      · have := he (k + (List.takeWhile isdigit u).length) (sg ++ List.takeWhile isdigit u) (List.dropWhile isdigit u)
        exact ⟨this.1, this.2.1, by omega⟩
  unfold floatSpec
  split
  · have := hm ['-'] 1 ‹_›; exact ⟨this.1, this.2.1, by simp only [List.length_cons]; omega⟩
  · have := hm [] 1 ‹_›; exact ⟨this.1, this.2.1, by simp only [List.length_cons]; omega⟩
  · have := hm [] 0 u; exact ⟨this.1, this.2.1, by omega⟩

theorem scanF_not_good' (i : IStream) (h : i.good = false) : scanF i = ({ i with fail := true }, none) := by
  have hg : ({ i with fail := true } : IStream).good = false := by simp [IStream.good]
  rw [scanF_eq, start_not_good i h, readSign_nul]
  unfold mantRun expRun
  simp only [setDigits_stop 10 _ _ _ _ (show digitTest 10 '\x00' = false by decide),
    show ¬ (('\x00' : Char) = '.') by decide, if_false, Bool.false_eq_true, false_and]
  simp [finish, hg, IStream.setFail]

end

end Mpir.CxxIo
