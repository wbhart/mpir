/- Helper lemmas for Mpir/Model/IoStream.lean (C17, stream layer): what `mpf_set_str` reads in the text
   `mpf_out_str` wrote; object-level import/export; the text round trip with base 0. -/
import MpirProofs.Lemmas.Io
import MpirProofs.Lemmas.RadixTab
import MpirProofs.Lemmas.MpfStrRound
import MpirProofs.Lemmas.MpfParse
import Mpir.Model.IoStream
namespace Mpir.Io
open Mpir Mpir.MpfStr

/-! ### digit characters and the digit-value table -/

theorem dv_dec (rb d : Nat) (hd : d < 10) : Radix.digitValue (Radix.offOf rb) (48 + d) = d := by
  rw [Radix.digitValue_eq Radix.digit_tab_ok.2 rb _ (by omega), Radix.charValue, if_pos (by omega)]
  exact Nat.add_sub_cancel_left ..

/-- the character `mpf_get_str` writes for digit `d` is read back as `d` by `mpf_set_str` in base |base| -/
theorem dv_digitChar (base : Int) (hb : Radix.LegalOutBase base) (d : Nat) (hd : d < base.natAbs) :
    Radix.digitValue (Radix.offOf base.natAbs) (Radix.digitChar base d) = d :=
  Radix.digitValue_digitChar Radix.digit_tab_ok.2 base hb hd

theorem digitChar_range (base : Int) (hb : Radix.LegalOutBase base) (d : Nat) (hd : d < base.natAbs) :
    (48 ≤ Radix.digitChar base d ∧ Radix.digitChar base d ≤ 57) ∨
    (65 ≤ Radix.digitChar base d) := by
  rcases Radix.charValue_some (Radix.digitChar_props base hb d hd).1 with h | h
  · exact Or.inl ⟨h.1, h.2.1⟩
  · exact Or.inr h.1

theorem alnum_props {c : Nat} (h : (48 ≤ c ∧ c ≤ 57) ∨ 65 ≤ c) :
    isspace c = false ∧ Radix.isSpace c = false ∧ c ≠ 46 ∧ c ≠ 45 ∧ c ≠ 0 ∧ c ≠ 64 ∧ (c != 0) = true := by
  have h1 : c ≠ 32 := by omega
  have h2 : ¬ (9 ≤ c ∧ c ≤ 13) := by omega
  refine ⟨?_, ?_, by omega, by omega, by omega, by omega, by simp; omega⟩
  · unfold isspace; simp [h1]; omega
  · unfold Radix.isSpace; simp [h1]; omega

/-! ### the pieces of `MpfStr.parse` on `[-]0.<digits><marker><decimal exponent>` -/

theorem splitLast_last (b m : Nat) (hm : isMarker b m = true) (post : List Nat)
    (hpost : ∀ c ∈ post, isMarker b c = false) :
    ∀ pre : List Nat, splitLast b (pre ++ m :: post) = some (pre, post)
  | [] => by simp [splitLast, MpfParse.splitLast_none b post hpost, hm]
  | c :: cs => by simp [splitLast, splitLast_last b m hm post hpost cs]

theorem scanMant_digits (dv : Nat → Nat) (b : Nat) (f : Nat → Nat)
    (hf : ∀ d, d < b → dv (f d) = d ∧ Radix.isSpace (f d) = false ∧ f d ≠ 46) :
    ∀ ds : List Nat, (∀ d ∈ ds, d < b) → scanMant dv b (ds.map f) = some (ds, none)
  | [], _ => rfl
  | d :: ds, h => by
    have ih := scanMant_digits dv b f hf ds (fun x hx => h x (by simp [hx]))
    obtain ⟨h1, h2, h3⟩ := hf d (h d (by simp))
    have hd := h d (by simp)
    simp [scanMant, ih, h1, h2, h3, hd]

theorem decText_form (n : Nat) : ∃ L : List Nat, decText n = L.map (48 + ·) ∧ L ≠ [] ∧ (∀ d ∈ L, d < 10) ∧
    Radix.ofDigits 10 L = n := by
  unfold decText
  by_cases hn : n = 0
  · subst hn; exact ⟨[0], by simp, by simp, by simp, rfl⟩
  · simp only [hn, if_false]
    rw [natDigits_eq (by decide)]
    exact ⟨_, rfl, Radix.digitsOf_ne_nil (by decide) (by omega), Radix.digitsOf_lt (by decide) n,
      Radix.ofDigits_digitsOf (by decide) n⟩

theorem scanExp_digits (dv : Nat → Nat) (hdv : ∀ d, d < 10 → dv (48 + d) = d) (L : List Nat)
    (hlt : ∀ d ∈ L, d < 10) :
    (((L.map (48 + ·)).takeWhile (fun c => decide (dv c < 10))).map dv) = L := by
  rw [takeWhile_all]
  · rw [List.map_map]
    conv_rhs => rw [← List.map_id L]
    apply List.map_congr_left
    intro d hd; simp [hdv d (hlt d hd)]
  · intro x hx
    rw [List.mem_map] at hx
    obtain ⟨d, hd, rfl⟩ := hx
    simp [hdv d (hlt d hd), hlt d hd]

theorem scanExp_intText (dv : Nat → Nat) (hdv : ∀ d, d < 10 → dv (48 + d) = d) (e : Int) :
    scanExp dv 10 (intText e) = some e := by
  obtain ⟨L, hL, hne, hlt, hval⟩ := decText_form e.natAbs
  have hd := scanExp_digits dv hdv L hlt
  obtain ⟨d0, L', rfl⟩ : ∃ d0 L', L = d0 :: L' := by
    cases L with
    | nil => exact absurd rfl hne
    | cons a t => exact ⟨a, t, rfl⟩
  have hd0 : d0 < 10 := hlt d0 (by simp)
  unfold scanExp intText
  by_cases hneg : e < 0
  · simp only [hneg, if_true, hL]
    simp only [hd, List.isEmpty_cons, Bool.false_eq_true, if_false, hval]
    congr 1; omega
  · simp only [hneg, if_false, hL, List.map_cons]
    split
    · rename_i r heq; simp at heq; omega
    · rename_i r heq; simp at heq; omega
    · simp only
      rw [← List.map_cons (f := (48 + ·)), hd]
      simp only [List.isEmpty_cons, Bool.false_eq_true, if_false, hval]
      congr 1; omega

/-- the token `mpf_out_str` writes for sign `neg`, digit values `ds` and exponent `e` -/
def mpfTok (base : Int) (neg : Bool) (ds : List Nat) (e : Int) : List Nat :=
  (if neg then [45] else []) ++
    48 :: 46 :: (ds.map (Radix.digitChar base) ++ (if base.natAbs ≤ 10 then 101 else 64) :: intText e)

theorem intText_chars (e : Int) : ∀ c ∈ intText e, c = 45 ∨ (48 ≤ c ∧ c ≤ 57) := by
  obtain ⟨L, hL, _, hlt, _⟩ := decText_form e.natAbs
  intro c hc
  unfold intText at hc
  have hdec : ∀ c ∈ decText e.natAbs, 48 ≤ c ∧ c ≤ 57 := by
    intro c hc; rw [hL, List.mem_map] at hc
    obtain ⟨d, hd, rfl⟩ := hc
    have := hlt d hd; omega
  split at hc
  · rcases List.mem_cons.mp hc with h | h
    · exact Or.inl h
    · exact Or.inr (hdec c h)
  · exact Or.inr (hdec c hc)

theorem mpfTok_chars (base : Int) (hb : Radix.LegalOutBase base) (neg : Bool) (ds : List Nat)
    (hds : ∀ d ∈ ds, d < base.natAbs) (e : Int) :
    ∀ c ∈ mpfTok base neg ds e, c ≠ 0 ∧ isspace c = false := by
  have hb62 : base.natAbs ≤ 62 := by rcases hb with h | h <;> omega
  intro c hc
  unfold mpfTok at hc
  have h45 : (45 : Nat) ≠ 0 ∧ isspace 45 = false := by decide
  have hdig : ∀ c, (48 ≤ c ∧ c ≤ 57) → c ≠ 0 ∧ isspace c = false := by
    intro c h; obtain ⟨a, _, _, _, b, _, _⟩ := alnum_props (Or.inl h); exact ⟨b, a⟩
  simp only [List.mem_append, List.mem_cons, List.mem_map] at hc
  rcases hc with h | h | h | h | h
  · split at h
    · have : c = 45 := by simpa using h
      subst this; exact h45
    · simp at h
  · subst h; decide
  · subst h; decide
  · obtain ⟨d, hd, rfl⟩ := h
    obtain ⟨a, _, _, _, b, _, _⟩ := alnum_props (digitChar_range base hb d (hds d hd))
    exact ⟨b, a⟩
  · rcases h with h | h
    · subst h; split <;> decide
    · rcases intText_chars e c h with h1 | h1
      · subst h1; exact h45
      · exact hdig c h1

/-- `mpf_set_str` reads the token written for (`neg`, `ds`, `e`) in a base with the same digits and a decimal
    exponent as exactly that: digits `0 :: ds` (the "0." prefix), all of `ds` after the point, exponent `e`
    (the exponent of a zero mantissa is not looked at, set_str.c:334-340) -/
theorem parse_mpfTok (base : Int) (hb : Radix.LegalOutBase base) (rbase : Int)
    (hrb : baseOf rbase = base.natAbs) (hre : expBaseOf rbase = 10)
    (neg : Bool) (ds : List Nat) (hds : ∀ d ∈ ds, d < base.natAbs) (e : Int) :
    parse rbase (mpfTok base neg ds e) =
      some ⟨neg, base.natAbs, 0 :: ds, ds.length, if Radix.ofDigits base.natAbs (0 :: ds) = 0 then 0 else e⟩ := by
  have hb2 : 2 ≤ base.natAbs := by rcases hb with h | h <;> omega
  have hb62 : base.natAbs ≤ 62 := by rcases hb with h | h <;> omega
  set b := base.natAbs with hbdef
  have hchars := mpfTok_chars base hb neg ds hds e
  -- no NUL, no leading white space
  have htw : (mpfTok base neg ds e).takeWhile (· != 0) = mpfTok base neg ds e := by
    apply takeWhile_all
    intro x hx; have := (hchars x hx).1; simp [this]
  have hhead : ∀ t : List Nat, (∀ c, t.head? = some c → Radix.isSpace c = false) → t.dropWhile Radix.isSpace = t := by
    intro t ht
    cases t with
    | nil => rfl
    | cons c r => simp [List.dropWhile, ht c rfl]
  set dvf : Nat → Nat := Radix.digitValue (if 36 < b then 224 else 0) with hdvf
  have hdv10 : ∀ d, d < 10 → dvf (48 + d) = d := fun d hd => dv_dec b d hd
  have hdv48 : dvf 48 = 0 := hdv10 0 (by decide)
  have hfd : ∀ d, d < b → dvf (Radix.digitChar base d) = d ∧ Radix.isSpace (Radix.digitChar base d) = false ∧
      Radix.digitChar base d ≠ 46 := by
    intro d hd
    obtain ⟨_, a2, a3, _⟩ := alnum_props (digitChar_range base hb d hd)
    exact ⟨dv_digitChar base hb d hd, a2, a3⟩
  set mk : Nat := if b ≤ 10 then 101 else 64 with hmk
  have hmark : isMarker b mk = true := by
    rw [hmk]; unfold isMarker; split <;> simp_all
  have hpost : ∀ c ∈ intText e, isMarker b c = false := by
    intro c hc
    unfold isMarker
    rcases intText_chars e c hc with h | h
    · subst h; simp
    · have h1 : c ≠ 64 := by omega
      have h2 : c ≠ 101 := by omega
      have h3 : c ≠ 69 := by omega
      simp [h1, h2, h3]
  have hsp := splitLast_last b mk hmark (intText e) hpost (46 :: ds.map (Radix.digitChar base))
  have hsm : scanMant dvf b (48 :: 46 :: ds.map (Radix.digitChar base)) = some (0 :: ds, some ds.length) := by
    have h0 := scanMant_digits dvf b (Radix.digitChar base) hfd ds hds
    have hs48 : Radix.isSpace 48 = false := by decide
    have hs46 : Radix.isSpace 46 = false := by decide
    have hb0 : 0 < b := by omega
    simp [scanMant, h0, hs48, hs46, hdv48, hb0]
  have hbody : parseBody neg b 10 (48 :: 46 :: (ds.map (Radix.digitChar base) ++ mk :: intText e)) =
      some ⟨neg, b, 0 :: ds, ds.length, if Radix.ofDigits b (0 :: ds) = 0 then 0 else e⟩ := by
    unfold parseBody
    have hc0 : dvf 48 < b := by rw [hdv48]; omega
    simp only [← hdvf, hc0, true_or, not_true_eq_false, if_false]
    have hsp' : splitLast b (46 :: (ds.map (Radix.digitChar base) ++ mk :: intText e)) =
        some (46 :: ds.map (Radix.digitChar base), intText e) := by
      simpa using hsp
    simp only [hsp', hsm, Option.getD_some]
    by_cases hz : Radix.ofDigits b (0 :: ds) = 0
    · simp [hz]
    · simp only [hz, if_false, scanExp_intText dvf hdv10 e]
  unfold parse
  rw [htw, hrb, hre]
  have hnot : ¬ (b < 2 ∨ 62 < b) := by omega
  simp only [hnot, if_false]
  unfold mpfTok
  cases neg with
  | true =>
    have h1 : (if true = true then [45] else ([] : List Nat)) ++
        48 :: 46 :: (ds.map (Radix.digitChar base) ++ mk :: intText e)
        = 45 :: 48 :: 46 :: (ds.map (Radix.digitChar base) ++ mk :: intText e) := by simp
    rw [h1, hhead _ (by intro c hc; simp at hc; subst hc; decide)]
    simp only [List.head?_cons, beq_self_eq_true, if_true, List.tail_cons]
    exact hbody
  | false =>
    have h1 : (if false = true then [45] else ([] : List Nat)) ++
        48 :: 46 :: (ds.map (Radix.digitChar base) ++ mk :: intText e)
        = 48 :: 46 :: (ds.map (Radix.digitChar base) ++ mk :: intText e) := by simp
    rw [h1, hhead _ (by intro c hc; simp at hc; subst hc; decide)]
    have h48 : (some (48 : Nat) == some 45) = false := by decide
    simp only [List.head?_cons, h48, Bool.false_eq_true, if_false]
    exact hbody

theorem convert_zero_mant (prec : Nat) (p : Parsed) (h : p.mant = 0) (e : Int) :
    convert prec { p with exp := e } = convert prec p := by
  rw [convert_of_mant_zero prec _ h, convert_of_mant_zero prec { p with exp := e } h]

/-! ### the digits `mpf_get_str` delivers are digits of the base -/

theorem get_digits_lt (b nd : Nat) (hb : 2 ≤ b) (u : Mpf.F) : ∀ d ∈ (get_digits b nd u).1, d < b := by
  unfold get_digits
  simp only
  split
  · intro d hd; simp at hd
  · generalize hds : Radix.digitsOf b _ = ds
    generalize hx : ((ds.length : Int) - _) = x
    have hlt : ∀ d ∈ ds, d < b := by rw [← hds]; exact Radix.digitsOf_lt hb _
    intro d hd
    unfold finish at hd
    simp only at hd
    have hmem := mem_of_mem_strip hd
    have htake : ∀ d ∈ ds.take (effDigits b u.prec nd), d < b := fun d hd => hlt d (List.mem_of_mem_take hd)
    split at hmem
    · exact (roundUp_spec b hb _ x htake).2.1 d hmem
    · exact htake d hmem

/-! ### `mpf_out_str` on an object writes the token of the digits `mpf_get_str` delivered -/

theorem mpfText_eq_tok (base : Int) (hb : Radix.LegalOutBase base) (neg : Bool) (ds : List Nat)
    (hds : ∀ d ∈ ds, d < base.natAbs) (e : Int) :
    mpfText base ((if neg then [45] else []) ++ ds.map (Radix.digitChar base)) e = mpfTok base neg ds e := by
  have hb0 : base ≠ 0 := by rcases hb with h | h <;> omega
  have hb62 : base.natAbs ≤ 62 := by rcases hb with h | h <;> omega
  unfold mpfText mpfTok
  simp only [hb0, if_false]
  cases neg with
  | true => simp
  | false =>
    have hh : ¬ ((ds.map (Radix.digitChar base)).head? = some 45) := by
      cases ds with
      | nil => simp
      | cons d t =>
        obtain ⟨_, _, _, h45, _⟩ := alnum_props (digitChar_range base hb d (hds d (by simp)))
        simpa using h45
    simp only [Bool.false_eq_true, if_false, List.nil_append, hh]
    simp

theorem mpf_out_str_obj_text (base : Int) (hb : Radix.LegalOutBase base) (nd : Nat) (u : Mpf.F) :
    (mpf_out_str_obj {} base nd u).2.out =
      mpfTok base (decide (u.size < 0))
        (get_digits base.natAbs (if nd = 0 then maxDigits base.natAbs u.prec else nd) u).1
        (get_digits base.natAbs (if nd = 0 then maxDigits base.natAbs u.prec else nd) u).2 ∧
    (mpf_out_str_obj {} base nd u).1 = ((mpf_out_str_obj {} base nd u).2.out.length : Int) := by
  have hb0 : base ≠ 0 := by rcases hb with h | h <;> omega
  have hb2 : 2 ≤ base.natAbs := by rcases hb with h | h <;> omega
  unfold mpf_out_str_obj
  simp only [hb0, if_false]
  obtain ⟨e1, e2⟩ := mpf_out_str_text base
    (get_str base (if nd = 0 then maxDigits base.natAbs u.prec else nd) u).1
    (get_str base (if nd = 0 then maxDigits base.natAbs u.prec else nd) u).2
  rw [e1, e2]
  refine ⟨?_, rfl⟩
  unfold get_str
  simp only
  have := mpfText_eq_tok base hb (decide (u.size < 0)) _
    (get_digits_lt base.natAbs (if nd = 0 then maxDigits base.natAbs u.prec else nd) hb2 u)
    (get_digits base.natAbs (if nd = 0 then maxDigits base.natAbs u.prec else nd) u).2
  simpa using this

/-- clause (f) of `str_stream_roundtrip`: `mpf_inp_str` hands to `mpf_set_str` exactly the token `mpf_out_str` wrote for
    the digits and exponent `mpf_get_str` delivered, for an input base that reads the same digits and a decimal exponent -/
theorem mpf_stream_roundtrip (base : Int) (hb : Radix.LegalOutBase base) (nd : Nat) (u dst : Mpf.F) (rbase : Int)
    (ws : List Nat) (hr : rbase = -(base.natAbs : Int) ∨ (base.natAbs = 10 ∧ (rbase = 10 ∨ rbase = 0)))
    (hws : ∀ c, ws.head? = some c → isspace c = true) :
    let w := mpf_out_str_obj {} base nd u
    let g := get_digits base.natAbs (if nd = 0 then maxDigits base.natAbs u.prec else nd) u
    w.1 = (w.2.out.length : Int) ∧
    w.2.out.length = (if u.size < 0 then 1 else 0) + 2 + g.1.length + 1 + (intText g.2).length ∧
    mpf_inp_str_rd dst (w.2.out ++ ws) rbase =
      (w.2.out.length,
       convert dst.prec ⟨decide (u.size < 0), base.natAbs, 0 :: g.1, g.1.length, g.2⟩, ws) := by
  have hb2 := hb.natAbs_bounds.1
  obtain ⟨t1, t2⟩ := mpf_out_str_obj_text base hb nd u
  have hlt := get_digits_lt base.natAbs (if nd = 0 then maxDigits base.natAbs u.prec else nd) hb2 u
  simp only
  generalize hg : get_digits base.natAbs (if nd = 0 then maxDigits base.natAbs u.prec else nd) u = g at t1 hlt
  refine ⟨t2, ?_, ?_⟩
  · rw [t1]; unfold mpfTok
    by_cases hn : u.size < 0 <;> simp [hn] <;> omega
  · -- the scanner hands exactly the written token to mpf_set_str
    have hrb : baseOf rbase = base.natAbs ∧ expBaseOf rbase = 10 := by
      unfold baseOf expBaseOf
      rcases hr with h | ⟨h10, h | h⟩
      · subst h
        have a : -(base.natAbs : Int) < 0 := by omega
        have b : -(base.natAbs : Int) ≤ 0 := by omega
        constructor
        · simp only [a, if_true]; omega
        · simp only [b, if_true]
      · subst h; rw [h10]; decide
      · subst h; rw [h10]; decide
    have hscan := mpf_inp_str_scan_token (mpfTok base (decide (u.size < 0)) g.1 g.2)
      (by unfold mpfTok; cases decide (u.size < 0) <;> simp)
      (fun c hc => (mpfTok_chars base hb (decide (u.size < 0)) g.1 hlt g.2 c hc).2) ws hws
    unfold mpf_inp_str_rd
    rw [t1, hscan]
    simp only
    unfold set_str
    rw [parse_mpfTok base hb rbase hrb.1 hrb.2 _ g.1 hlt g.2]
    simp only
    have hne : ¬ ((0 : Int) = -1) := by decide
    simp only [hne, if_false]
    congr 2
    by_cases hzero : Radix.ofDigits base.natAbs (0 :: g.1) = 0
    · simp only [hzero, if_true]
      exact convert_zero_mant dst.prec ⟨decide (u.size < 0), base.natAbs, 0 :: g.1, g.1.length, g.2⟩ hzero 0
    · simp only [hzero, if_false]

/-! ### import / export on objects -/

/-- the object-level `mpz_import` stores exactly the limbs of `mpz_import` (the dispatch of import.c:60-90 followed by
    MPN_NORMALIZE on every path) and leaves a well-formed, non-negative object -/
theorem mpz_import_obj_spec (z : Mpz) (hz : z.WF) (count : Nat) (order : Int) (size : Nat) (endian : Int)
    (nail align : Nat) (data : List Nat) (junk : Nat → Nat) (hj : ∀ i, junk i < B)
    (ho : order = 1 ∨ order = -1) (he : endian = -1 ∨ endian = 0 ∨ endian = 1)
    (hs : 1 ≤ size) (hn : nail < 8 * size) (hb : Bytes data) (hl : data.length = count * size) :
    (mpz_import_obj z count order size endian nail align data junk).limbs
      = mpz_import count order size endian nail align data ∧
    (mpz_import_obj z count order size endian nail align data junk).size
      = ((mpz_import count order size endian nail align data).length : Int) ∧
    (mpz_import_obj z count order size endian nail align data junk).WF := by
  obtain ⟨i1, i2, i3⟩ := mpz_import_spec count order size endian nail align data ho he hs hn hb hl
  obtain ⟨r1, r2, r3⟩ := realloc_spec hz ((count * (8 * size - nail) + 63) / 64) hj
  unfold mpz_import mpz_import_core at i1 i2 i3 ⊢
  unfold mpz_import_obj
  simp only at i1 i2 i3 ⊢
  generalize mpz_import_fill false count order size endian nail align data = filled at i1 i2 i3 ⊢
  generalize hzs : (count * (8 * size - nail) + 63) / 64 = zsize at *
  generalize hz1 : mpz_realloc z zsize junk = z1 at *
  set zp := filled.take zsize with hzp
  have hzl : zp.length ≤ zsize := by rw [hzp, List.length_take]; omega
  obtain ⟨k, hk⟩ := Mpir.normalize_spec zp
  have hLzp : Limbs zp := by
    rw [hk]; exact Limbs_append.mpr ⟨i2, Limbs_replicate_zero k⟩
  obtain ⟨wf, hlimbs, _⟩ := wf_normalized_in_place zp (z1.d.drop zp.length) z1.alloc (normSize zp : Int) (by simp)
    (by simp only [List.length_append, List.length_drop]; omega) (Limbs_append.mpr ⟨hLzp, Limbs_drop r3 _⟩)
  exact ⟨hlimbs, by simp only [normSize], wf⟩

/-! ### text round trip with base 0 (output in decimal, input with prefix detection) -/

theorem mpzText_base0 (x : Int) : mpzText 0 x = mpzText 10 x := by
  unfold mpzText outBase magText numToText
  simp

/-- what may follow a number read with base 0: not a decimal digit, and not one of the prefix letters that
    would turn a lone "0" into "0x" / "0b" -/
def Base0Rest (rest : List Nat) : Prop :=
  ∀ c, rest.head? = some c → digitValue false c ≥ 10 ∧ c ≠ 120 ∧ c ≠ 88 ∧ c ≠ 98 ∧ c ≠ 66

theorem base0Rest_slash (l : List Nat) : Base0Rest (47 :: l) := by
  intro c hc
  simp only [List.head?_cons, Option.some.injEq] at hc
  subst hc
  decide

theorem mpzText_first (x : Int) (hx : x ≠ 0) (rest : List Nat) :
    (if ((mpzText 10 x ++ rest).head? == some 45) = true then (mpzText 10 x ++ rest).drop 1
      else mpzText 10 x ++ rest).head? ≠ some 48 := by
  have hb : ((2 : Int) ≤ 10 ∧ (10 : Int) ≤ 62) ∨ ((-36 : Int) ≤ 10 ∧ (10 : Int) ≤ -2) := Or.inl ⟨by decide, by decide⟩
  obtain ⟨ds, htext, hne, hlt, _, hh⟩ := Radix.getStrSpec_digits 10 hb x
  obtain ⟨d0, ds', rfl⟩ := List.exists_cons_of_ne_nil hne
  have hd0 : d0 < 10 := hlt d0 (by simp)
  have hd0z : d0 ≠ 0 := by simpa using hh hx
  have hc : Radix.digitChar 10 d0 = 48 + d0 := by simp [Radix.digitChar, hd0]
  rw [mpzText_eq 10 hb, htext]
  by_cases hneg : x < 0
  · simp [hneg, hc, hd0z]
  · have : ¬ (48 + d0 = 45) := by omega
    simp [hneg, hc, hd0z, this]

/-- a first digit other than '0' selects base 10 and consumes no prefix (`scanL_base0`); a lone "0" is read as the octal
    prefix with no digit after it -/
theorem readsBack0 (rest : List Nat) (hrest : Base0Rest rest) : ReadsBack 0 0 rest := by
  intro x dest nread
  have hb : ((2 : Int) ≤ 10 ∧ (10 : Int) ≤ 62) ∨ ((-36 : Int) ≤ 10 ∧ (10 : Int) ≤ -2) := Or.inl ⟨by decide, by decide⟩
  rw [mpzText_base0]
  obtain ⟨c0, t, ht, hsp⟩ := Radix.getStrSpec_head 10 hb x
  rw [← mpzText_eq 10 hb] at ht
  refine ⟨c0, t, ht, hsp, ?_⟩
  have h := mpz_inp_str_nowhite_eq dest (mpzText 10 x ++ rest) 0 (by decide) nread
  rw [ht] at h ⊢
  refine h.trans ?_
  by_cases hx0 : x = 0
  · subst hx0
    have e : c0 :: t = [48] := ht.symm.trans (by decide)
    rw [e, List.singleton_append, Radix.scanL_base0_zero (digitValue (decide ((0 : Int) > 36))) (by decide) rest fun c hc =>
      ⟨Nat.le_trans (by decide) (hrest c hc).1, (hrest c hc).2⟩]
    rfl
  · obtain ⟨digs, hs, hv⟩ := mpzText_scan 10 hb x rest (fun c hc => (hrest c hc).1)
    rw [ht] at hs
    rw [Radix.scanL_base0 _ _ (ht ▸ mpzText_first x hx0 rest)]
    rw [show Radix.scanL (digitValue (decide ((0 : Int) > 36))) 10 (c0 :: t ++ rest) = _ from hs]
    simp only [stored_value hv, List.drop_left]

theorem mpqText_base0 (num den : Int) : mpqText 0 num den = mpqText 10 num den := by
  unfold mpqText; rw [mpzText_base0, mpzText_base0]

end Mpir.Io
