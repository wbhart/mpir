/- The size calculus of the gcd models.  Size fields are `nlimbs` of what they measure (`nlimbs_isSize`, an `IsSize` of
   Base), so every size test of the C (`x < B^k`, `B^k ≤ x`, carry limb `x / B^k ≠ 0`, top limb `limbAt x k = 0`) is linear
   in `nlimbs x`, and the two normalisation idioms are equations with a `max` of `nlimbs` on the right (`grow_eq`,
   `shrink_eq`).  Trap: `omega` splits on every `max` and truncated subtraction: generalise `max (nlimbs _) (nlimbs _)` to
   a variable first and give it one clause at a time, never a conjunction of size facts.  At the end `natLimbs_single`
   and the model's `sgn` as `Int.sign`. -/
import MpirProofs.Lemmas.Gcd
namespace Mpir.Gcd
open Mpir

theorem nlimbs_isSize : IsSize nlimbs := limbCount_le_iff

theorem nlimbs_zero : nlimbs 0 = 0 := nlimbs_isSize.eq_zero.mpr rfl

theorem nlimbs_eq_zero_iff (n : Nat) : nlimbs n = 0 ↔ n = 0 := nlimbs_isSize.eq_zero

theorem nlimbs_pos {n : Nat} (h : 0 < n) : 0 < nlimbs n := nlimbs_isSize.pos h.ne'

theorem nlimbs_pos_iff {n : Nat} : 0 < nlimbs n ↔ 0 < n := by
  rw [Nat.pos_iff_ne_zero, Nat.pos_iff_ne_zero, Ne, nlimbs_isSize.eq_zero]

theorem nlimbs_eq_one_iff (n : Nat) : nlimbs n = 1 ↔ 0 < n ∧ n < B := by
  rw [nlimbs_isSize.eq_one, Nat.pos_iff_ne_zero]

theorem limbAt_eq (x i : Nat) : limbAt x i = x / B ^ i % B := by
  unfold limbAt
  rw [Nat.shiftRight_eq_div_pow, B_pow]

theorem limbAt_eq_zero_iff {x k : Nat} (h : nlimbs x ≤ k + 1) : limbAt x k = 0 ↔ nlimbs x ≤ k := by
  have hlt : x / B ^ k < B := Nat.div_lt_of_lt_mul (by rw [← pow_succ]; exact nlimbs_isSize.lt_pow_iff.mpr h)
  rw [limbAt_eq, Nat.mod_eq_of_lt hlt, nlimbs_isSize.div_pow_eq_zero_iff]

/-- `ap + p`: the limbs from p on -/
theorem nlimbs_div_pow (x p : Nat) : nlimbs (x / B ^ p) = nlimbs x - p := nlimbs_isSize.div_pow x p

theorem nlimbs_addmul_le {c o q n : Nat} (hc : nlimbs c ≤ n) (ho : nlimbs o ≤ n) (hq : q < B) :
    nlimbs (c + q * o) ≤ n + 1 := by
  rw [← nlimbs_isSize.lt_pow_iff] at hc ho ⊢
  calc c + q * o < B ^ n + q * B ^ n := Nat.add_lt_add_of_lt_of_le hc (Nat.mul_le_mul_left q ho.le)
    _ = (q + 1) * B ^ n := by ring
    _ ≤ B * B ^ n := Nat.mul_le_mul_right _ hq
    _ = B ^ (n + 1) := (pow_succ' B n).symm

theorem nlimbs_addmul (c q o : Nat) (hq : 0 < q) :
    nlimbs c ≤ nlimbs (c + q * o) ∧ nlimbs o ≤ nlimbs (c + q * o) ∧
    nlimbs (c + q * o) ≤ max (nlimbs c) (nlimbs q + nlimbs o) + 1 ∧
    (0 < nlimbs o → nlimbs q + nlimbs o ≤ nlimbs (c + q * o) + 1) := by
  have h1 := nlimbs_isSize.mono (Nat.le_add_right c (q * o))
  have h2 := nlimbs_isSize.mono (Nat.le_add_left (q * o) c)
  have h3 := nlimbs_isSize.add_le c (q * o)
  have h4 := nlimbs_isSize.mul_le q o
  have h5 : nlimbs o ≤ nlimbs (q * o) := nlimbs_isSize.mono (Nat.le_mul_of_pos_left _ hq)
  refine ⟨h1, by omega, by omega, fun ho => ?_⟩
  have := nlimbs_isSize.mul_ge hq.ne' (nlimbs_pos_iff.mp ho).ne'
  omega

theorem nlimbs_addmul2 (c0 c1 o0 o1 q : Nat) (hq : 0 < q) :
    max (nlimbs c0) (nlimbs c1) ≤ max (nlimbs (c0 + q * o0)) (nlimbs (c1 + q * o1)) ∧
    max (nlimbs o0) (nlimbs o1) ≤ max (nlimbs (c0 + q * o0)) (nlimbs (c1 + q * o1)) ∧
    max (nlimbs (c0 + q * o0)) (nlimbs (c1 + q * o1))
      ≤ max (max (nlimbs c0) (nlimbs c1)) (nlimbs q + max (nlimbs o0) (nlimbs o1)) + 1 ∧
    (0 < max (nlimbs o0) (nlimbs o1) →
      nlimbs q + max (nlimbs o0) (nlimbs o1) ≤ max (nlimbs (c0 + q * o0)) (nlimbs (c1 + q * o1)) + 1) := by
  obtain ⟨a1, a2, a3, a4⟩ := nlimbs_addmul c0 q o0 hq
  obtain ⟨b1, b2, b3, b4⟩ := nlimbs_addmul c1 q o1 hq
  refine ⟨max_le_max a1 b1, max_le_max a2 b2, max_le ?_ ?_, fun h => ?_⟩
  · exact le_trans a3 (Nat.succ_le_succ (max_le_max (le_max_left _ _) (Nat.add_le_add_left (le_max_left _ _) _)))
  · exact le_trans b3 (Nat.succ_le_succ (max_le_max (le_max_right _ _) (Nat.add_le_add_left (le_max_right _ _) _)))
  · rcases Nat.le_total (nlimbs o1) (nlimbs o0) with h' | h'
    · rw [max_eq_left h'] at h ⊢; exact le_trans (a4 h) (Nat.succ_le_succ (le_max_left _ _))
    · rw [max_eq_right h'] at h ⊢; exact le_trans (b4 h) (Nat.succ_le_succ (le_max_right _ _))

theorem nlimbs_lin2_le {x y e f un n : Nat} (hx : nlimbs x ≤ un) (hy : nlimbs y ≤ un) (he : nlimbs e ≤ n)
    (hf : nlimbs f ≤ n) : nlimbs (x * e + y * f) ≤ un + n + 1 := by
  have := nlimbs_isSize.add_le (x * e) (y * f)
  have := nlimbs_isSize.mul_le x e
  have := nlimbs_isSize.mul_le y f
  omega

/-- subtracting something two limbs shorter costs at most one limb -/
theorem nlimbs_sub_ge {x e : Nat} (h : nlimbs e + 1 < nlimbs x) : nlimbs x - 1 ≤ nlimbs (x - e) := by
  have h1 : B ^ (nlimbs x - 2 + 1) ≤ x := nlimbs_isSize.pow_le_iff.mpr (by omega)
  have h2 : e < B ^ (nlimbs x - 2) := nlimbs_isSize.lt_pow_iff.mpr (by omega)
  have h3 : 2 * B ^ (nlimbs x - 2) ≤ B ^ (nlimbs x - 2 + 1) := by
    rw [pow_succ, Nat.mul_comm]; exact Nat.mul_le_mul_left _ (by rw [B_eq]; norm_num)
  have := nlimbs_isSize.pow_le_iff.mp (show B ^ (nlimbs x - 2) ≤ x - e by omega)
  omega

/-- `rp[n] = ah; bp[n] = bh; n += (ah | bh) > 0` -/
theorem grow_eq {x y n : Nat} (hx : nlimbs x ≤ n + 1) (hy : nlimbs y ≤ n + 1) :
    (if x / B ^ n ≠ 0 ∨ y / B ^ n ≠ 0 then n + 1 else n) = max n (max (nlimbs x) (nlimbs y)) := by
  simp only [nlimbs_isSize.div_pow_ne_zero_iff]
  split <;> omega

theorem grow1_eq {x n : Nat} (hx : nlimbs x ≤ n + 1) :
    (if x / B ^ n ≠ 0 then n + 1 else n) = max n (nlimbs x) := by
  simpa [nlimbs_zero] using grow_eq hx (y := 0) (by rw [nlimbs_zero]; omega)

/-- `n -= (ap[n-1] | bp[n-1]) == 0` -/
theorem shrink_eq {x y n : Nat} (hn : 1 ≤ n) (hx : nlimbs x ≤ n) (hy : nlimbs y ≤ n) :
    (if limbAt x (n - 1) ||| limbAt y (n - 1) = 0 then n - 1 else n) = max (n - 1) (max (nlimbs x) (nlimbs y)) := by
  simp only [Nat.or_eq_zero_iff, limbAt_eq_zero_iff (show nlimbs x ≤ n - 1 + 1 by omega),
    limbAt_eq_zero_iff (show nlimbs y ≤ n - 1 + 1 by omega)]
  split <;> omega

theorem shrink1_eq {x n : Nat} (hn : 1 ≤ n) (hx : nlimbs x ≤ n) :
    (if limbAt x (n - 1) = 0 then n - 1 else n) = max (n - 1) (nlimbs x) := by
  have h := shrink_eq hn hx (y := 0) (by rw [nlimbs_zero]; omega)
  have h0 : limbAt 0 (n - 1) = 0 := by simp [limbAt]
  simp only [h0, Nat.or_zero, nlimbs_zero, Nat.max_zero] at h
  convert h

/-- `n += carry`, else `n -= (top limbs == 0)` (hgcd_matrix.c:101-111, :241-252) -/
theorem grow_shrink_eq {x y n : Nat} (hn : 1 ≤ n) (hx : nlimbs x ≤ n + 1) (hy : nlimbs y ≤ n + 1) :
    (if x / B ^ n ≠ 0 ∨ y / B ^ n ≠ 0 then n + 1
      else if limbAt x (n - 1) ||| limbAt y (n - 1) = 0 then n - 1 else n) = max (n - 1) (max (nlimbs x) (nlimbs y)) := by
  simp only [nlimbs_isSize.div_pow_ne_zero_iff]
  split
  · omega
  · rw [shrink_eq hn (by omega) (by omega)]

theorem natLimbs_single (n : Nat) (h0 : 0 < n) (hB : n < B) : natLimbs n = [n] := by
  rw [natLimbs_pos n (by omega), Nat.mod_eq_of_lt hB, Nat.div_eq_of_lt hB, natLimbs_zero]

theorem sgn_eq_sign (a : Int) : sgn a = a.sign := by
  unfold sgn; split
  · exact (Int.sign_eq_one_of_pos ‹_›).symm
  · split
    · exact (Int.sign_eq_neg_one_of_neg ‹_›).symm
    · rw [show a = 0 by omega]; rfl

theorem sgn_mul_natAbs (a : Int) : sgn a * (a.natAbs : Int) = a := by rw [sgn_eq_sign, Int.sign_mul_natAbs]

theorem sgn_zero : sgn 0 = 0 := by rw [sgn_eq_sign]; rfl

end Mpir.Gcd
