/- Lemmas for C20: C integer conversions, the modelled mpz function objects of mpirxx.h compute their
   operator for every alias pattern and every built-in value (`fnBinZ_spec`, `fnUnZ_spec`, `fnShZ_spec`); canonical
   operand trees (`E.canon`), the contract `Post` of one evaluation step with its rule `Post.bind`; the comparison
   objects (`cmpOps_sign`, `fnCmpZ_spec`). -/
import MpirProofs.Lemmas.Arith
import Mpir.Model.Cxx
import MpirProofs.Lemmas.Base
namespace Mpir.Cxx

/-! ### the heap; `unsigned long` and `long` arguments -/

theorem Heap.ext' {h1 h2 : Heap} (e : ∀ l, h1 l = h2 l) : h1 = h2 := by
  cases h1; cases h2; congr; funext l; exact e l

theorem Heap.set_self (h : Heap) (p : ZLoc) : h.set p (h p) = h := by
  apply Heap.ext'; intro l; simp only [Heap.set]; split <;> simp_all

@[simp] theorem Heap.set_get (h : Heap) (p : ZLoc) (x : Int) : (h.set p x) p = x := by simp [Heap.set]

theorem Heap.set_get_ne (h : Heap) (p l : ZLoc) (x : Int) (hne : l ≠ p) : (h.set p x) l = h l := by
  simp [Heap.set, hne]

@[simp] theorem Heap.set_set (h : Heap) (p : ZLoc) (x y : Int) : (h.set p x).set p y = h.set p y := by
  apply Heap.ext'; intro l; simp only [Heap.set]; split <;> simp_all

theorem copyZ_eq (p w : ZLoc) (h : Heap) : copyZ p w h = some (h.set p (h w)) := by
  unfold copyZ mpz_set
  by_cases hpw : p = w
  · subst hpw; simp [Heap.set_self]
  · simp [hpw]

theorem two64_eq : two64 = 18446744073709551616 := by decide

theorem toUi_of_nonneg {l : Int} (hr : SiRange l) (h0 : 0 ≤ l) : (Int.ofNat (toUi l)) = l := by
  unfold SiRange LONG_MIN LONG_MAX at hr
  unfold toUi
  have : (l % (2 ^ 64 : Int)) = l := by omega
  rw [this]; simp; omega

theorem negUi_eq {l : Int} (hr : SiRange l) (h0 : l < 0) : (Int.ofNat (negUi l)) = -l := by
  unfold SiRange LONG_MIN LONG_MAX at hr
  unfold negUi toUi wrapSi
  simp only [Int.ofNat_eq_natCast]
  omega

theorem absUi_eq {l : Int} (hr : SiRange l) : absUi l = l.natAbs := by
  unfold absUi
  split
  · have := toUi_of_nonneg hr (by omega); simp only [Int.ofNat_eq_natCast] at this; omega
  · have := negUi_eq hr (by omega); simp only [Int.ofNat_eq_natCast] at this; omega

theorem toUi_range {l : Int} (hr : SiRange l) (h0 : 0 ≤ l) : UiRange (toUi l) := by
  have e := toUi_of_nonneg hr h0
  unfold SiRange LONG_MIN LONG_MAX at hr
  unfold UiRange; rw [two64_eq]; simp only [Int.ofNat_eq_natCast] at e; omega

theorem negUi_range {l : Int} (hr : SiRange l) (h0 : l < 0) : UiRange (negUi l) := by
  have e := negUi_eq hr h0
  unfold SiRange LONG_MIN LONG_MAX at hr
  unfold UiRange; rw [two64_eq]; simp only [Int.ofNat_eq_natCast] at e; omega

theorem tmpzSi_eq {l : Int} (hr : SiRange l) : tmpzSi l = l := by
  unfold tmpzSi
  split
  · rw [negUi_eq hr (by omega)]; omega
  · rw [toUi_of_nonneg hr (by omega)]

theorem ctz_isCtz : IsCtz (fun _ => True) ctz :=
  isCtz_of_halving_eq ctz fun x hx => by obtain ⟨n, rfl⟩ : ∃ n, x = n + 1 := ⟨x - 1, by omega⟩; rw [ctz]

theorem ctz_pow2 (l : Nat) (hpos : 0 < l) (hand : l &&& (l - 1) = 0) : 2 ^ ctz l = l := by
  obtain ⟨k, rfl⟩ := (Nat.and_sub_one_eq_zero_iff_isPowerOfTwo hpos.ne').mp hand
  rw [ctz_isCtz.unique hpos trivial (o := 1) rfl (Nat.mul_one _).symm]

theorem pow2Test_ctz {l : Nat} (ht : pow2Test l = true) (hpos : l ≠ 0) (hr : UiRange l) : 2 ^ ctz l = l := by
  unfold pow2Test at ht
  unfold UiRange at hr
  rw [two64_eq] at ht hr
  have e : (l + (18446744073709551616 - 1)) % 18446744073709551616 = l - 1 := by omega
  rw [e] at ht
  exact ctz_pow2 l (by omega) (by simpa using ht)

/-! ### the `eval` members of the function objects, one C type of the built-in argument each -/

theorem Plus.z_ui_spec (cst : Bool) (p w : ZLoc) (l : Nat) (h : Heap) :
    Plus.z_ui cst p w l h = some (h.set p (h w + Int.ofNat l)) := by
  unfold Plus.z_ui
  split
  · rename_i hc; simp only [Bool.and_eq_true, beq_iff_eq] at hc
    rw [copyZ_eq, hc.2]; simp
  · rfl

theorem Plus.z_si_spec (cst : Bool) (p w : ZLoc) (l : Int) (h : Heap) (hr : SiRange l) :
    Plus.z_si cst p w l h = some (h.set p (h w + l)) := by
  unfold Plus.z_si
  split
  · rw [Plus.z_ui_spec, toUi_of_nonneg hr (by omega)]
  · simp only [mpz_sub_ui]; rw [negUi_eq hr (by omega)]; congr 2; omega

theorem Minus.z_ui_spec (cst : Bool) (p w : ZLoc) (l : Nat) (h : Heap) :
    Minus.z_ui cst p w l h = some (h.set p (h w - Int.ofNat l)) := by
  unfold Minus.z_ui
  split
  · rename_i hc; simp only [Bool.and_eq_true, beq_iff_eq] at hc
    rw [copyZ_eq, hc.2]; simp
  · rfl

theorem Minus.ui_z_spec (cst : Bool) (p w : ZLoc) (l : Nat) (h : Heap) :
    Minus.ui_z cst p l w h = some (h.set p (Int.ofNat l - h w)) := by
  unfold Minus.ui_z
  split
  · rename_i hc; simp only [Bool.and_eq_true, beq_iff_eq] at hc
    simp [mpz_neg, hc.2]
  · rfl

theorem Minus.z_si_spec (cst : Bool) (p w : ZLoc) (l : Int) (h : Heap) (hr : SiRange l) :
    Minus.z_si cst p w l h = some (h.set p (h w - l)) := by
  unfold Minus.z_si
  split
  · rw [Minus.z_ui_spec, toUi_of_nonneg hr (by omega)]
  · simp only [mpz_add_ui]; rw [negUi_eq hr (by omega)]; rfl

theorem Minus.si_z_spec (cst : Bool) (p w : ZLoc) (l : Int) (h : Heap) (hr : SiRange l) :
    Minus.si_z cst p l w h = some (h.set p (l - h w)) := by
  unfold Minus.si_z
  split
  · rw [Minus.ui_z_spec, toUi_of_nonneg hr (by omega)]
  · simp only [mpz_add_ui, mpz_neg, Heap.set_get, Heap.set_set]; rw [negUi_eq hr (by omega)]; congr 2; omega

theorem Lshift.z_spec (cst : Bool) (p w : ZLoc) (n : Nat) (h : Heap) :
    Lshift.z cst p w n h = some (h.set p (zshl (h w) n)) := by
  unfold Lshift.z
  split
  · rename_i hc; simp only [Bool.and_eq_true, beq_iff_eq] at hc
    rw [copyZ_eq, hc.2]; simp [zshl]
  · rfl

theorem Rshift.z_spec (cst : Bool) (p w : ZLoc) (n : Nat) (h : Heap) :
    Rshift.z cst p w n h = some (h.set p (zshr (h w) n)) := by
  unfold Rshift.z
  split
  · rename_i hc; simp only [Bool.and_eq_true, beq_iff_eq] at hc
    rw [copyZ_eq, hc.2]; simp [zshr]
  · rfl

theorem Multiplies.z_ui_spec (cst : Bool) (p w : ZLoc) (l : Nat) (h : Heap) (hr : UiRange l) :
    Multiplies.z_ui cst p w l h = some (h.set p (h w * Int.ofNat l)) := by
  unfold Multiplies.z_ui
  split
  · rename_i hc; simp only [Bool.and_eq_true] at hc
    split
    · rename_i h0; subst h0; simp
    · rename_i h0
      rw [Lshift.z_spec]
      have := pow2Test_ctz hc.2 h0 hr
      unfold zshl
      congr 2
      have e : ((2 : Int) ^ ctz l) = Int.ofNat (2 ^ ctz l) := by simp
      rw [e, this]
  · rfl

theorem Multiplies.z_si_spec (cst : Bool) (p w : ZLoc) (l : Int) (h : Heap) (hr : SiRange l) :
    Multiplies.z_si cst p w l h = some (h.set p (h w * l)) := by
  unfold Multiplies.z_si
  split
  · split
    · rw [Multiplies.z_ui_spec _ _ _ _ _ (toUi_range hr (by omega)), toUi_of_nonneg hr (by omega)]
    · rw [Multiplies.z_ui_spec _ _ _ _ _ (negUi_range hr (by omega)), negUi_eq hr (by omega)]
      simp only [Option.map_some, mpz_neg, Heap.set_get, Heap.set_set]
      congr 2; ring
  · rfl

theorem tdiv_eq_zero_of_natAbs_lt {a b : Int} (hlt : a.natAbs < b.natAbs) : a.tdiv b = 0 := by
  have := Int.natAbs_tdiv a b
  have h0 : a.natAbs.div b.natAbs = 0 := Nat.div_eq_of_lt hlt
  rw [h0] at this
  exact Int.natAbs_eq_zero.mp this

theorem tmod_eq_self_of_natAbs_lt {a b : Int} (hlt : a.natAbs < b.natAbs) : a.tmod b = a := by
  rw [Int.tmod_def, tdiv_eq_zero_of_natAbs_lt hlt]; simp

theorem ofNat_toNat_of_nonneg {x : Int} (h : 0 ≤ x) : Int.ofNat x.toNat = x := by
  simp only [Int.ofNat_eq_natCast]; omega

theorem Divides.z_ui_spec (cst : Bool) (p w : ZLoc) (l : Nat) (h : Heap) (hr : UiRange l) :
    Divides.z_ui cst p w l h = if l = 0 then none else some (h.set p (Int.tdiv (h w) (Int.ofNat l))) := by
  unfold Divides.z_ui
  split
  · rename_i hc; simp only [Bool.and_eq_true, bne_iff_ne, ne_eq] at hc
    rw [if_neg hc.2]
    split
    · rename_i h1; subst h1; rw [copyZ_eq]; simp
    · have := pow2Test_ctz hc.1.2 hc.2 hr
      simp only [mpz_tdiv_q_2exp]
      have e : ((2 : Int) ^ ctz l) = Int.ofNat (2 ^ ctz l) := by simp
      rw [e, this]
  · rfl

theorem Divides.ui_z_spec (p w : ZLoc) (l : Nat) (h : Heap) (hr : UiRange l) :
    Divides.ui_z p l w h = if h w = 0 then none else some (h.set p (Int.tdiv (Int.ofNat l) (h w))) := by
  unfold Divides.ui_z UiRange at *
  rw [two64_eq] at hr
  by_cases h0 : h w = 0
  · simp [h0, mpz_tdiv_q]
  · simp only [h0, if_false]
    by_cases hpos : h w ≥ 0
    · simp only [hpos, if_true]
      by_cases hf : fitsUi (h w) = true
      · simp only [hf, if_true, mpz_set_ui]
        congr 2
        have := Int.ofNat_tdiv l (h w).toNat
        rw [show ((h w).toNat : Int) = h w from by omega] at this
        exact this
      · simp only [hf, mpz_set_ui]
        simp only [fitsUi, two64_eq, decide_eq_true_eq, not_and, not_lt] at hf
        have := hf hpos
        rw [Int.tdiv_eq_zero_of_lt (by simp) (by simp only [Int.ofNat_eq_natCast]; omega)]
        simp
    · simp only [hpos, if_false, mpz_neg, Heap.set_get]
      by_cases hf : fitsUi (-(h w)) = true
      · simp only [hf, if_true, mpz_set_ui, Heap.set_set, Heap.set_get]
        congr 2
        have := Int.ofNat_tdiv l (-(h w)).toNat
        rw [show ((-(h w)).toNat : Int) = -(h w) from by omega, Int.tdiv_neg] at this
        simp only [Int.ofNat_eq_natCast] at *
        omega
      · simp only [hf, mpz_set_ui, Heap.set_set]
        simp only [fitsUi, two64_eq, decide_eq_true_eq, not_and, not_lt] at hf
        have := hf (by omega)
        have e : (Int.ofNat l).tdiv (h w) = 0 := by
          have := Int.tdiv_eq_zero_of_lt (a := Int.ofNat l) (b := -(h w)) (by simp) (by simp only [Int.ofNat_eq_natCast]; omega)
          rw [Int.tdiv_neg] at this; omega
        rw [e]; simp

theorem Divides.z_si_spec (cst : Bool) (p w : ZLoc) (l : Int) (h : Heap) (hr : SiRange l) :
    Divides.z_si cst p w l h = if l = 0 then none else some (h.set p (Int.tdiv (h w) l)) := by
  unfold Divides.z_si
  split
  · have e := toUi_of_nonneg hr (by omega)
    rw [Divides.z_ui_spec _ _ _ _ _ (toUi_range hr (by omega)), e]
    by_cases h0 : l = 0
    · have : toUi l = 0 := by simp only [Int.ofNat_eq_natCast] at e; omega
      rw [if_pos this, if_pos h0]
    · have : toUi l ≠ 0 := by simp only [Int.ofNat_eq_natCast] at e; omega
      rw [if_neg this, if_neg h0]
  · have e := negUi_eq hr (by omega)
    rw [Divides.z_ui_spec _ _ _ _ _ (negUi_range hr (by omega)), e]
    have : negUi l ≠ 0 := by simp only [Int.ofNat_eq_natCast] at e; omega
    have h0 : l ≠ 0 := by omega
    simp only [this, h0, if_false, Option.map_some, mpz_neg, Heap.set_get, Heap.set_set, Int.tdiv_neg, Int.neg_neg]

theorem Divides.si_z_spec (p w : ZLoc) (l : Int) (h : Heap) (hr : SiRange l) :
    Divides.si_z p l w h = if h w = 0 then none else some (h.set p (Int.tdiv l (h w))) := by
  unfold Divides.si_z
  by_cases hf : fitsSi (h w) = true
  · simp only [hf, if_true]
    by_cases h0 : h w = 0
    · simp [h0, mpz_tdiv_q]
    · simp only [h0, if_false]
      by_cases h1 : h w = -1
      · simp [h1, mpz_set_si, mpz_neg]
      · simp [h1, mpz_set_si]
  · simp only [hf, mpz_set_si, Bool.false_eq_true, if_false]
    simp only [fitsSi, decide_eq_true_eq, not_and, not_le] at hf
    have hr' := hr
    unfold SiRange at hr'
    unfold LONG_MIN LONG_MAX at hf hr'
    have h0 : h w ≠ 0 := by omega
    simp only [h0, if_false, absUi_eq hr]
    congr 2
    by_cases he : (h w).natAbs = l.natAbs
    · simp only [he, if_true]
      have hl : l = -9223372036854775808 := by omega
      have hw : h w = 9223372036854775808 := by omega
      rw [hl, hw]; decide
    · simp only [he, if_false]
      exact (tdiv_eq_zero_of_natAbs_lt (a := l) (b := h w) (by omega)).symm

theorem Modulus.ui_z_spec (p w : ZLoc) (l : Nat) (h : Heap) (hr : UiRange l) :
    Modulus.ui_z p l w h = if h w = 0 then none else some (h.set p (Int.tmod (Int.ofNat l) (h w))) := by
  unfold Modulus.ui_z UiRange at *
  rw [two64_eq] at hr
  by_cases h0 : h w = 0
  · simp [h0, mpz_tdiv_r]
  · simp only [h0, if_false]
    by_cases hpos : h w ≥ 0
    · simp only [hpos, if_true]
      by_cases hf : fitsUi (h w) = true
      · simp only [hf, if_true, mpz_set_ui]
        congr 2
        have := Int.ofNat_tmod l (h w).toNat
        rw [show ((h w).toNat : Int) = h w from by omega] at this
        exact this
      · simp only [hf, mpz_set_ui]
        simp only [fitsUi, two64_eq, decide_eq_true_eq, not_and, not_lt] at hf
        have := hf hpos
        rw [Int.tmod_eq_of_lt (by simp) (by simp only [Int.ofNat_eq_natCast]; omega)]
        simp
    · simp only [hpos, if_false, mpz_neg, Heap.set_get]
      by_cases hf : fitsUi (-(h w)) = true
      · simp only [hf, if_true, mpz_set_ui, Heap.set_set, Heap.set_get]
        congr 2
        have := Int.ofNat_tmod l (-(h w)).toNat
        rw [show ((-(h w)).toNat : Int) = -(h w) from by omega, Int.tmod_neg] at this
        exact this
      · simp only [hf, mpz_set_ui, Heap.set_set]
        simp only [fitsUi, two64_eq, decide_eq_true_eq, not_and, not_lt] at hf
        have := hf (by omega)
        have e : (Int.ofNat l).tmod (h w) = Int.ofNat l := by
          have := Int.tmod_eq_of_lt (a := Int.ofNat l) (b := -(h w)) (by simp) (by simp only [Int.ofNat_eq_natCast]; omega)
          rw [Int.tmod_neg] at this; exact this
        rw [e]; simp

theorem Modulus.z_si_spec (p w : ZLoc) (l : Int) (h : Heap) (hr : SiRange l) :
    Modulus.z_si p w l h = if l = 0 then none else some (h.set p (Int.tmod (h w) l)) := by
  unfold Modulus.z_si mpz_tdiv_r_ui
  rw [absUi_eq hr]
  by_cases h0 : l = 0
  · simp [h0]
  · have : l.natAbs ≠ 0 := by omega
    simp only [this, h0, if_false]
    congr 2
    by_cases hp : 0 ≤ l
    · rw [show Int.ofNat l.natAbs = l from by simp only [Int.ofNat_eq_natCast]; omega]
    · rw [show Int.ofNat l.natAbs = -l from by simp only [Int.ofNat_eq_natCast]; omega, Int.tmod_neg]

theorem Modulus.si_z_spec (p w : ZLoc) (l : Int) (h : Heap) (hr : SiRange l) :
    Modulus.si_z p l w h = if h w = 0 then none else some (h.set p (Int.tmod l (h w))) := by
  unfold Modulus.si_z
  by_cases hf : fitsSi (h w) = true
  · simp only [hf, if_true]
    by_cases h0 : h w = 0
    · simp [h0, mpz_tdiv_r]
    · simp only [h0, if_false]
      by_cases h1 : h w = -1
      · simp [h1, mpz_set_si]
      · simp [h1, mpz_set_si]
  · simp only [hf, mpz_set_si, Bool.false_eq_true, if_false]
    simp only [fitsSi, decide_eq_true_eq, not_and, not_le] at hf
    have hr' := hr
    unfold SiRange at hr'
    unfold LONG_MIN LONG_MAX at hf hr'
    have h0 : h w ≠ 0 := by omega
    simp only [h0, if_false, absUi_eq hr]
    congr 2
    by_cases he : (h w).natAbs = l.natAbs
    · simp only [he, if_true]
      have hl : l = -9223372036854775808 := by omega
      have hw : h w = 9223372036854775808 := by omega
      rw [hl, hw]; decide
    · simp only [he, if_false]
      exact (tmod_eq_self_of_natAbs_lt (a := l) (b := h w) (by omega)).symm

theorem zand_comm (x y : Int) : zand x y = zand y x := by
  cases x <;> cases y <;> simp [zand, Nat.and_comm, Nat.or_comm]
theorem zior_comm (x y : Int) : zior x y = zior y x := by
  cases x <;> cases y <;> simp [zior, Nat.and_comm, Nat.or_comm]
theorem zxor_comm (x y : Int) : zxor x y = zxor y x := by
  cases x <;> cases y <;> simp [zxor, Nat.xor_comm]
theorem zgcd_comm (x y : Int) : zgcd x y = zgcd y x := by simp [zgcd, Nat.gcd_comm]
theorem zlcm_comm (x y : Int) : zlcm x y = zlcm y x := by simp [zlcm, Nat.lcm_comm]

/-- `gcd(z, l)` goes through `__gmpxx_abs_ui(l)` -/
theorem zgcd_natAbs (x l : Int) : zgcd x (Int.ofNat l.natAbs) = zgcd x l := rfl
theorem zlcm_natAbs (x l : Int) : zlcm x (Int.ofNat l.natAbs) = zlcm x l := rfl

theorem map_ite_none {α β : Type} (f : α → β) (c : Prop) [Decidable c] (x : α) :
    (if c then none else some x).map f = if c then none else some (f x) := by
  split <;> rfl

/-! ### the binary, unary and shift objects on mpz, every operand form -/

def argZ (h : Heap) : ZArg → Option Int
  | .loc l => some (h l)
  | .bi c => biZ c

def ZArg.ok : ZArg → Prop
  | .loc _ => True
  | .bi c => c.ok = true

def ZArg.isBi : ZArg → Bool
  | .loc _ => false
  | .bi _ => true

theorem biVal_z (c : Bi) : biVal .z c = (biZ c).map Val.z := by
  cases c <;> simp [biVal, biZ, tmpzD, Option.map_map, Function.comp_def]

theorem bi_ok_si {v : Int} (h : (Bi.si v).ok = true) : SiRange v := by simpa [Bi.ok] using h
theorem bi_ok_ui {v : Nat} (h : (Bi.ui v).ok = true) : UiRange v := by simpa [Bi.ok] using h

theorem fnBinZ_ll (cst : Bool) (o : Bin) (p w v : ZLoc) (h : Heap) :
    fnBinZ cst o p (.loc w) (.loc v) h = (binZ o (h w) (h v)).map (fun r => h.set p r) := by
  cases o
  case div | mod => exact (map_ite_none _ _ _).symm
  all_goals rfl

/-- a built-in value on the right: the `ui`/`si` fast paths and the `double` temporary all compute `binZ` on the
    value `biZ` gives the built-in -/
theorem fnBinZ_lb (cst : Bool) (o : Bin) (p w : ZLoc) (c : Bi) (h : Heap) (hc : c.ok = true) :
    fnBinZ cst o p (.loc w) (.bi c) h = ((biZ c).bind fun y => binZ o (h w) y).map (fun r => h.set p r) := by
  cases c with
  | ui l =>
    have hr := bi_ok_ui hc
    cases o
    case add => exact Plus.z_ui_spec cst p w l h
    case sub => exact Minus.z_ui_spec cst p w l h
    case mul => exact Multiplies.z_ui_spec cst p w l h hr
    case div =>
      simp only [fnBinZ, biZ, binZ, Option.bind_some, map_ite_none, Divides.z_ui_spec cst p w l h hr,
        Int.ofNat_eq_natCast, Int.natCast_eq_zero]
    case mod =>
      simp only [fnBinZ, biZ, binZ, Option.bind_some, map_ite_none, Modulus.z_ui, mpz_tdiv_r_ui,
        Int.ofNat_eq_natCast, Int.natCast_eq_zero]
    all_goals rfl
  | si l =>
    have hr := bi_ok_si hc
    cases o
    case add => exact Plus.z_si_spec cst p w l h hr
    case sub => exact Minus.z_si_spec cst p w l h hr
    case mul => exact Multiplies.z_si_spec cst p w l h hr
    case div => simp only [fnBinZ, biZ, binZ, Option.bind_some, map_ite_none, Divides.z_si_spec cst p w l h hr]
    case mod => simp only [fnBinZ, biZ, binZ, Option.bind_some, map_ite_none, Modulus.z_si_spec p w l h hr]
    case gcd =>
      simp only [fnBinZ, biZ, binZ, Option.bind_some, Option.map_some, Gcd.z_si, Gcd.z_ui, mpz_gcd_ui, absUi_eq hr,
        zgcd_natAbs]
    case lcm =>
      simp only [fnBinZ, biZ, binZ, Option.bind_some, Option.map_some, Lcm.z_si, Lcm.z_ui, mpz_lcm_ui, absUi_eq hr,
        zlcm_natAbs]
    all_goals
      simp only [fnBinZ, biZ, binZ, Option.bind_some, Option.map_some, Bitop.z_si, mpz_opT, tmpzSi_eq hr]
  | d d =>
    cases o <;>
      simp only [fnBinZ, biZ, Plus.z_d, Minus.z_d, Multiplies.z_d, Divides.z_d, Modulus.z_d, Bitop.z_d, Gcd.z_d,
        Lcm.z_d] <;>
      cases tmpzD d
    case div.some t | mod.some t => exact (map_ite_none (fun r => h.set p r) (t = 0) _).symm
    all_goals rfl

/-- a built-in value on the left: the commutative operators call the overload for the built-in on the right -/
theorem fnBinZ_bl (cst : Bool) (o : Bin) (p : ZLoc) (c : Bi) (w : ZLoc) (h : Heap) (hc : c.ok = true) :
    fnBinZ cst o p (.bi c) (.loc w) h = ((biZ c).bind fun x => binZ o x (h w)).map (fun r => h.set p r) := by
  have comm : (∀ x y, binZ o x y = binZ o y x) →
      fnBinZ cst o p (.loc w) (.bi c) h = ((biZ c).bind fun x => binZ o x (h w)).map (fun r => h.set p r) := by
    intro hcomm
    rw [fnBinZ_lb cst o p w c h hc]
    congr 2; funext y; exact hcomm (h w) y
  cases o
  case sub =>
    cases c with
    | ui l => exact Minus.ui_z_spec cst p w l h
    | si l => exact Minus.si_z_spec cst p w l h (bi_ok_si hc)
    | d d => show (tmpzD d).map _ = ((tmpzD d).bind _).map _; cases tmpzD d <;> rfl
  case div =>
    cases c with
    | ui l => simp only [fnBinZ, biZ, binZ, Option.bind_some, map_ite_none, Divides.ui_z_spec p w l h (bi_ok_ui hc)]
    | si l => simp only [fnBinZ, biZ, binZ, Option.bind_some, map_ite_none, Divides.si_z_spec p w l h (bi_ok_si hc)]
    | d d =>
      show (tmpzD d).bind _ = ((tmpzD d).bind _).map _
      cases tmpzD d with
      | none => rfl
      | some t => exact (map_ite_none (fun r => h.set p r) (h w = 0) _).symm
  case mod =>
    cases c with
    | ui l => simp only [fnBinZ, biZ, binZ, Option.bind_some, map_ite_none, Modulus.ui_z_spec p w l h (bi_ok_ui hc)]
    | si l => simp only [fnBinZ, biZ, binZ, Option.bind_some, map_ite_none, Modulus.si_z_spec p w l h (bi_ok_si hc)]
    | d d =>
      show (tmpzD d).bind _ = ((tmpzD d).bind _).map _
      cases tmpzD d with
      | none => rfl
      | some t => exact (map_ite_none (fun r => h.set p r) (h w = 0) _).symm
  case add => cases c <;> exact comm fun x y => congrArg some (Int.add_comm x y)
  case mul => cases c <;> exact comm fun x y => congrArg some (Int.mul_comm x y)
  case and => cases c <;> exact comm fun x y => congrArg some (zand_comm x y)
  case ior => cases c <;> exact comm fun x y => congrArg some (zior_comm x y)
  case xor => cases c <;> exact comm fun x y => congrArg some (zxor_comm x y)
  case gcd => cases c <;> exact comm fun x y => congrArg some (zgcd_comm x y)
  case lcm => cases c <;> exact comm fun x y => congrArg some (zlcm_comm x y)

/-- **fnobj_spec (mpz)**: for every operator, every overload (mpz/ui/si/double on either side), every
    alias pattern of the destination and the operands (`p`, `w`, `v` arbitrary, equal or not), every
    built-in value in range (negative `si`, `LONG_MIN`, `ULONG_MAX` included) and both answers of
    `__builtin_constant_p`, the function object stores `a op b` into `p` and changes nothing else —
    or raises exactly when the C function applied to temporaries raises. -/
theorem fnBinZ_spec (cst : Bool) (o : Bin) (p : ZLoc) (a b : ZArg) (h : Heap)
    (ha : a.ok) (hb : b.ok) (hab : ¬(a.isBi = true ∧ b.isBi = true)) :
    fnBinZ cst o p a b h =
      ((argZ h a).bind fun x => (argZ h b).bind fun y => binZ o x y).map (fun r => h.set p r) := by
  cases a with
  | loc w =>
    cases b with
    | loc v => exact fnBinZ_ll cst o p w v h
    | bi c => exact fnBinZ_lb cst o p w c h hb
  | bi c =>
    cases b with
    | loc w => exact fnBinZ_bl cst o p c w h ha
    | bi c' => exact absurd ⟨rfl, rfl⟩ hab

theorem fnUnZ_spec (o : Un) (p w : ZLoc) (h : Heap) :
    fnUnZ o p w h = (unZ o (h w)).map (fun r => h.set p r) := by
  cases o <;> simp [fnUnZ, unZ, mpz_set, mpz_neg, mpz_com, mpz_abs, mpz_sqrt]
  split <;> simp_all

theorem fnShZ_spec (cst : Bool) (o : Sh) (p w : ZLoc) (n : Nat) (h : Heap) :
    fnShZ cst o p w n h = some (h.set p (shZ o n (h w))) := by
  cases o <;> simp [fnShZ, shZ, Lshift.z_spec, Rshift.z_spec]

/-! ### the template strategy on mpz-typed trees -/

/-- every mpq_class object the tree mentions — as an `mpq_class` leaf or through an accessor — is canonical -/
def E.canon (h : Heap) : E → Prop
  | .zv _ => True
  | .qv i => Canon h i
  | .zn i => Canon h i
  | .zd i => Canon h i
  | .un _ a => a.canon h
  | .bin _ a b => a.canon h ∧ b.canon h
  | .binL _ _ b => b.canon h
  | .binR _ a _ => a.canon h
  | .sh _ a _ => a.canon h

theorem qval_num_den {h : Heap} {i : Nat} (hc : Canon h i) :
    (qval h i).num = h (.num i) ∧ ((qval h i).den : Int) = h (.den i) := by
  unfold qval
  rw [Rat.divInt_eq_div]
  exact ⟨Rat.num_div_eq_of_coprime hc.1 hc.2, Rat.den_div_eq_of_coprime hc.1 hc.2⟩

/-- on a heap whose mentioned mpq objects are canonical, the temporaries semantics of an mpz-typed tree is the one
    over the raw fields (an accessor leaf reads the numerator / denominator field) -/
theorem evalTmp_z (h : Heap) : ∀ (e : E), e.ty = .z → e.canon h → evalTmp h.abs e = (evalTmpZ h.get e).map Val.z := by
  intro e
  induction e with
  | zv i => intro _ _; simp [evalTmp, evalTmpZ, Heap.abs]
  | qv i => intro h; simp [E.ty] at h
  | zn i => intro _ hc; simp only [evalTmp, evalTmpZ, Heap.abs, Option.map_some, (qval_num_den hc).1]
  | zd i =>
    intro _ hc
    have := (qval_num_den hc).2
    simp only [evalTmp, evalTmpZ, Heap.abs, Option.map_some, Int.ofNat_eq_natCast, this]
  | un o a ih =>
    intro hty hc
    simp only [evalTmp, evalTmpZ, ih hty hc]
    cases evalTmpZ h.get a <;> rfl
  | bin o a b iha ihb =>
    intro hty hc; simp only [E.ty] at hty
    have h2 : a.ty = .z ∧ b.ty = .z := by
      by_cases hc : a.ty = .z ∧ b.ty = .z
      · exact hc
      · simp [hc] at hty
    simp only [evalTmp, evalTmpZ, iha h2.1 hc.1, ihb h2.2 hc.2]
    cases evalTmpZ h.get a <;> cases evalTmpZ h.get b <;> rfl
  | binL o c b ih =>
    intro hty hc
    simp only [evalTmp, evalTmpZ, ih hty hc]
    cases evalTmpZ h.get b with
    | none => rfl
    | some y =>
      show (biVal .z c).bind _ = _
      rw [biVal_z]; cases biZ c <;> rfl
  | binR o a c ih =>
    intro hty hc
    simp only [evalTmp, evalTmpZ, ih hty hc]
    cases evalTmpZ h.get a with
    | none => rfl
    | some x =>
      show (biVal .z c).bind _ = _
      rw [biVal_z]; cases biZ c <;> rfl
  | sh o a n ih =>
    intro hty hc
    simp only [evalTmp, evalTmpZ, ih hty hc]
    cases evalTmpZ h.get a <;> rfl

/-- the `mpz_class` variables a tree mentions all have index below `k` (accessor sub-objects are fields of mpq
    objects: they are never temporaries of the mpz pool; see `E.qbelow` for the mpq pool) -/
def E.zbelow (k : Nat) : E → Prop
  | .zv i => i < k
  | .qv _ => True
  | .zn _ => True
  | .zd _ => True
  | .un _ a => a.zbelow k
  | .bin _ a b => a.zbelow k ∧ b.zbelow k
  | .binL _ _ b => b.zbelow k
  | .binR _ a _ => a.zbelow k
  | .sh _ a _ => a.zbelow k

theorem E.zbelow_mono {k k' : Nat} (hk : k ≤ k') : ∀ (e : E), e.zbelow k → e.zbelow k' := by
  intro e
  induction e with
  | zv i => intro h; simp only [E.zbelow] at *; omega
  | qv i => intro _; trivial
  | zn i => intro _; trivial
  | zd i => intro _; trivial
  | un o a ih => exact ih
  | bin o a b iha ihb => intro h; exact ⟨iha h.1, ihb h.2⟩
  | binL o c b ih => exact ih
  | binR o a c ih => exact ih
  | sh o a n ih => exact ih

/-- objects that exist before the evaluation starts: variables/temporaries below `k` and all mpq fields -/
def ZLoc.below (k : Nat) : ZLoc → Prop
  | .v i => i < k
  | _ => True

theorem ZLoc.below_mono {k k' : Nat} (hk : k ≤ k') {l : ZLoc} (h : l.below k) : l.below k' := by
  cases l <;> simp only [ZLoc.below] at * <;> omega

theorem ZLoc.ne_of_below {k : Nat} {l : ZLoc} (h : l.below k) : l ≠ .v k := by
  intro e; subst e; simp [ZLoc.below] at h

theorem evalTmpZ_frame {k : Nat} {h1 h2 : Heap} (hag : ∀ l : ZLoc, l.below k → h1 l = h2 l) :
    ∀ (e : E), e.zbelow k → evalTmpZ h1.get e = evalTmpZ h2.get e := by
  intro e
  induction e with
  | zv i => intro h; simp only [evalTmpZ, E.zbelow] at *; exact congrArg some (hag (.v i) h)
  | qv i => intro _; rfl
  | zn i => intro _; simp only [evalTmpZ]; exact congrArg some (hag (.num i) trivial)
  | zd i => intro _; simp only [evalTmpZ]; exact congrArg some (hag (.den i) trivial)
  | un o a ih => intro h; simp only [evalTmpZ, ih h]
  | bin o a b iha ihb => intro h; simp only [evalTmpZ, iha h.1, ihb h.2]
  | binL o c b ih => intro h; simp only [evalTmpZ, ih h]
  | binR o a c ih => intro h; simp only [evalTmpZ, ih h]
  | sh o a n ih => intro h; simp only [evalTmpZ, ih h]

theorem zleaf?_eval {a : E} {l : ZLoc} (h : a.zleaf? = some l) (zs : ZLoc → Int) : evalTmpZ zs a = some (zs l) := by
  cases a <;> simp [E.zleaf?] at h <;> subst h <;> rfl

theorem zleaf?_below {a : E} {l : ZLoc} (h : a.zleaf? = some l) {k : Nat} (hb : a.zbelow k) : l.below k := by
  cases a <;> simp [E.zleaf?] at h <;> subst h <;> simpa [ZLoc.below, E.zbelow] using hb

/-- what one evaluation step guarantees: the destination holds the value, every pre-existing object
    other than the destination is unchanged; an exception of the temporaries semantics is an exception here -/
def Post (k : Nat) (p : ZLoc) (h : Heap) (r : Option Int) (res : Option Heap) : Prop :=
  match r with
  | none => res = none
  | some x => ∃ h', res = some h' ∧ h' p = x ∧ ∀ l : ZLoc, l.below k → l ≠ p → h' l = h l

theorem Post.set_of_frame {k : Nat} {p : ZLoc} {h h1 : Heap} (hfr : ∀ l : ZLoc, l.below k → l ≠ p → h1 l = h l)
    (r : Option Int) : Post k p h r (r.map fun x => h1.set p x) := by
  cases r with
  | none => rfl
  | some x =>
    exact ⟨_, rfl, Heap.set_get _ _ _, fun l hl hne => (Heap.set_get_ne _ _ _ _ hne).trans (hfr l hl hne)⟩

theorem Post.of_set {k : Nat} {p : ZLoc} {h : Heap} {r : Option Int} :
    Post k p h r (r.map fun x => h.set p x) :=
  Post.set_of_frame (fun _ _ _ => rfl) r

/-- sequencing: a sub-evaluation into `q`, then a step `f` that is correct for every heap the sub-evaluation
    can leave; an exception of the sub-evaluation is an exception of the whole -/
theorem Post.bind {k : Nat} {q : ZLoc} {h1 : Heap} {r : Option Int} {res : Option Heap} (H : Post k q h1 r res)
    {k' : Nat} {p : ZLoc} {h : Heap} {g : Int → Option Int} {f : Heap → Option Heap}
    (step : ∀ x h2, h2 q = x → (∀ l : ZLoc, l.below k → l ≠ q → h2 l = h1 l) → Post k' p h (g x) (f h2)) :
    Post k' p h (r.bind g) (res.bind f) := by
  cases r with
  | none => cases H; rfl
  | some x =>
    obtain ⟨h2, rfl, hx, hfr⟩ := H
    exact step x h2 hx hfr

/-! ### the comparison objects on mpz -/

theorem qcmp_swap (x y : Rat) : qcmp y x = -(qcmp x y) := by
  unfold qcmp
  rcases lt_trichotomy x y with h | h | h
  · have h1 : ¬ y < x := not_lt.mpr h.le
    have h2 : y ≠ x := (ne_of_lt h).symm
    simp [h, h1, h2]
  · subst h; simp
  · have h1 : ¬ x < y := not_lt.mpr h.le
    have h2 : x ≠ y := (ne_of_lt h).symm
    simp [h, h1, h2]

theorem zcmp_eq_qcmp (x y : Int) : zcmp x y = qcmp (x : Rat) (y : Rat) := by
  unfold zcmp qcmp
  simp only [Rat.intCast_lt_intCast, Rat.intCast_inj]

def argQ (h : Heap) : ZArg → Option Rat
  | .loc l => some ((h l : Int) : Rat)
  | .bi c => biRat c

theorem CmpF.zArg_spec (h : Heap) (z : ZLoc) (b : ZArg) :
    CmpF.zArg h z b = (argQ h b).map fun y => qcmp ((h z : Int) : Rat) y := by
  cases b with
  | loc w => simp [CmpF.zArg, argQ, zcmp_eq_qcmp]
  | bi c => cases c <;> simp [CmpF.zArg, argQ, biRat, zcmp_eq_qcmp]

/-- the operators as mpirxx.h builds them from the three predicates on the sign `s` that `mpz_cmp_xx(z, b)` /
    `mpq_cmp_xx(q, b)` returns, class object on the left -/
theorem cmpOps_sign (o : Cmp) (s : Option Int) :
    (match o with
      | .eq => (s.map (· == 0)).map b2i
      | .ne => (s.map (· == 0)).map fun r => b2i (!r)
      | .lt => (s.map fun r => decide (r < 0)).map b2i
      | .le => (s.map fun r => decide (r > 0)).map fun r => b2i (!r)
      | .gt => (s.map fun r => decide (r > 0)).map b2i
      | .ge => (s.map fun r => decide (r < 0)).map fun r => b2i (!r)
      | .cmp => s) = s.map (cmpRes o) := by
  cases s with
  | none => cases o <;> rfl
  | some c => cases o <;> simp [cmpRes, b2i]

/-- the same with the built-in on the left: `less` and `greater` test the opposite sign, `cmp` negates -/
theorem cmpOps_sign_flipped (o : Cmp) (s : Option Int) :
    (match o with
      | .eq => (s.map (· == 0)).map b2i
      | .ne => (s.map (· == 0)).map fun r => b2i (!r)
      | .lt => (s.map fun r => decide (r > 0)).map b2i
      | .le => (s.map fun r => decide (r < 0)).map fun r => b2i (!r)
      | .gt => (s.map fun r => decide (r < 0)).map b2i
      | .ge => (s.map fun r => decide (r > 0)).map fun r => b2i (!r)
      | .cmp => s.map fun r => -r) = s.map fun r => cmpRes o (-r) := by
  cases s with
  | none => cases o <;> rfl
  | some c => cases o <;> simp [cmpRes, b2i]

theorem fnCmpZ_loc (o : Cmp) (z : ZLoc) (b : ZArg) (h : Heap) :
    fnCmpZ o (.loc z) b h = (CmpF.zArg h z b).map (cmpRes o) := by
  exact cmpOps_sign o (CmpF.zArg h z b)

theorem fnCmpZ_bi (o : Cmp) (c : Bi) (z : ZLoc) (h : Heap) :
    fnCmpZ o (.bi c) (.loc z) h = (CmpF.zArg h z (.bi c)).map fun r => cmpRes o (-r) := by
  exact cmpOps_sign_flipped o (CmpF.zArg h z (.bi c))

theorem fnCmpZ_spec (o : Cmp) (a b : ZArg) (h : Heap) (hab : ¬(a.isBi = true ∧ b.isBi = true)) :
    fnCmpZ o a b h = (argQ h a).bind fun x => (argQ h b).map fun y => cmpRes o (qcmp x y) := by
  cases a with
  | loc z =>
    rw [fnCmpZ_loc, CmpF.zArg_spec, Option.map_map]; rfl
  | bi c =>
    cases b with
    | bi c' => exact absurd ⟨rfl, rfl⟩ hab
    | loc z =>
      rw [fnCmpZ_bi, CmpF.zArg_spec, Option.map_map]
      cases hc : biRat c with
      | none => simp only [argQ, hc]; rfl
      | some y => simp only [argQ, hc, Option.map_some, Option.bind_some, Function.comp, qcmp_swap y, Int.neg_neg]

end Mpir.Cxx
