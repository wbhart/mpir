/- Limb vectors as the models of mpn_tdiv_q and mpn_tdiv_qr use them: `toLimbs`, the top limb, carries that vanish,
   the normalising shift by count_leading_zeros. -/
import MpirProofs.Lemmas.SbDiv
namespace Mpir.Tdiv
open Mpir Mpir.DivWord Mpir.SbDiv

theorem val_ge_of_top (d : List Nat) (hdn : 1 ≤ d.length) (htop : d.getD (d.length - 1) 0 ≠ 0) :
    B ^ (d.length - 1) ≤ val d := by
  have hne : d ≠ [] := by intro h; rw [h] at hdn; simp at hdn
  exact ((normalized_iff_getD hne).mpr htop).ge hne

theorem val_pos_of_top (d : List Nat) (hdn : 1 ≤ d.length) (htop : d.getD (d.length - 1) 0 ≠ 0) : 0 < val d :=
  Nat.lt_of_lt_of_le (Bpow_pos _) (val_ge_of_top d hdn htop)

theorem getD_take_succ (l : List Nat) (i : Nat) : (l.take (i + 1)).getD i 0 = l.getD i 0 := by
  rw [List.getD_eq_getElem?_getD, List.getD_eq_getElem?_getD, List.getElem?_take_of_lt (Nat.lt_succ_self i)]

theorem val_take_succ (l : List Nat) (i : Nat) :
    val (l.take (i + 1)) = l.getD i 0 * B ^ i + val (l.take i) := by
  rw [Mpir.val_take_succ, Nat.add_comm, Nat.mul_comm]

/-- the C test `(x & GMP_NUMB_HIGHBIT) == 0` -/
theorem highbit_zero (x : Nat) (hx : x < B) : (x &&& HIGHBIT = 0) ↔ x < B / 2 := by
  have h := highbit_test x hx
  rw [← Nat.not_le, ← decide_eq_true_iff (p := B / 2 ≤ x), ← h]
  simp

theorem succ_mul_two_pow_le (x c : Nat) (hc : c ≤ 64) (h : x * 2 ^ c < B) : (x + 1) * 2 ^ c ≤ B := by
  have hB := Mpir.B_split c hc
  rw [hB, Nat.mul_comm (2 ^ c)] at h ⊢
  exact Nat.mul_le_mul_right _ (Nat.lt_of_mul_lt_mul_right h)

/-- Shifting a vector left by c bits, `lo < 2^c` coming in at the bottom, when the top limb t has B/2 ≤ t·2^c < B
    (c = count_leading_zeros t): nothing is shifted out and the result is normalised
    (tdiv_qr.c:73-74, :118, :220-221; tdiv_q.c:128, :214-215). -/
theorem lshiftGo_norm (u : List Nat) (k c lo : Nat) (hu : Limbs u) (hk : u.length = k + 1) (hc : c ≤ 64)
    (hlo : lo < 2 ^ c) (h1 : B / 2 ≤ u.getD k 0 * 2 ^ c) (h2 : u.getD k 0 * 2 ^ c < B) :
    val (lshiftGo c u lo).1 = val u * 2 ^ c + lo ∧ Limbs (lshiftGo c u lo).1 ∧ (lshiftGo c u lo).1.length = k + 1 ∧
    (lshiftGo c u lo).2 = 0 ∧ B ^ (k + 1) ≤ 2 * val (lshiftGo c u lo).1 ∧
    u.getD k 0 * 2 ^ c * B ^ k ≤ val (lshiftGo c u lo).1 := by
  obtain ⟨hv, _, hl, hlen⟩ := lshiftGo_val c hc u lo hu hlo
  obtain ⟨hb1, hb2⟩ := top_bounds u k hu hk
  have hlt : val u * 2 ^ c + lo < B ^ (k + 1) := by
    calc val u * 2 ^ c + lo < (val u + 1) * 2 ^ c := by rw [Nat.add_mul, Nat.one_mul]; omega
      _ ≤ (u.getD k 0 + 1) * B ^ k * 2 ^ c := Nat.mul_le_mul_right _ hb2
      _ = (u.getD k 0 + 1) * 2 ^ c * B ^ k := by ring
      _ ≤ B * B ^ k := Nat.mul_le_mul_right _ (succ_mul_two_pow_le _ c hc h2)
      _ = B ^ (k + 1) := by rw [pow_succ, Nat.mul_comm]
  rw [hk] at hv
  obtain ⟨hcy, hv⟩ := carry_zero hv hlt
  have hge : u.getD k 0 * 2 ^ c * B ^ k ≤ val u * 2 ^ c + lo := by
    calc u.getD k 0 * 2 ^ c * B ^ k = u.getD k 0 * B ^ k * 2 ^ c := by ring
      _ ≤ val u * 2 ^ c := Nat.mul_le_mul_right _ hb1
      _ ≤ val u * 2 ^ c + lo := Nat.le_add_right _ _
  rw [hv]
  refine ⟨rfl, hl, by rw [hlen, hk], hcy, ?_, hge⟩
  calc B ^ (k + 1) = 2 * (B / 2) * B ^ k := by rw [two_mul_half, pow_succ, Nat.mul_comm]
    _ ≤ 2 * (u.getD k 0 * 2 ^ c) * B ^ k := Nat.mul_le_mul_right _ (Nat.mul_le_mul_left _ h1)
    _ = 2 * (u.getD k 0 * 2 ^ c * B ^ k) := by ring
    _ ≤ 2 * (val u * 2 ^ c + lo) := Nat.mul_le_mul_left _ hge

theorem lshift_norm (d : List Nat) (k : Nat) (hd : Limbs d) (hk : d.length = k + 1) (htop : d.getD k 0 ≠ 0) :
    count_leading_zeros (d.getD k 0) ≤ 63 ∧
    val (lshift d (count_leading_zeros (d.getD k 0))).1 = val d * 2 ^ count_leading_zeros (d.getD k 0) ∧
    B ^ (k + 1) ≤ 2 * val (lshift d (count_leading_zeros (d.getD k 0))).1 ∧
    Limbs (lshift d (count_leading_zeros (d.getD k 0))).1 ∧
    (lshift d (count_leading_zeros (d.getD k 0))).1.length = k + 1 := by
  obtain ⟨hc, hlo, hhi⟩ := clz_spec (d.getD k 0) htop (getD_lt hd k)
  obtain ⟨hv, hl, hlen, _, hn, _⟩ := lshiftGo_norm d k _ 0 hd hk (by omega) (by positivity) hlo hhi
  exact ⟨hc, hv, hn, hl, hlen⟩

theorem two_pow_le_half (c : Nat) (hc : c ≤ 63) : 2 ^ c ≤ B / 2 := by
  have : B / 2 = 2 ^ 63 := rfl
  rw [this]; exact Nat.pow_le_pow_right (by decide) hc

/-- the shifted dividend with its extra top limb (tdiv_qr.c:76-77, :120-121) -/
theorem shifted_dividend (n : List Nat) (c : Nat) (hn : Limbs n) (hc : c ≤ 63) :
    val ((lshift n c).1 ++ [(lshift n c).2]) = val n * 2 ^ c ∧ Limbs ((lshift n c).1 ++ [(lshift n c).2]) ∧
    ((lshift n c).1 ++ [(lshift n c).2]).length = n.length + 1 ∧ (lshift n c).2 < 2 ^ c := by
  obtain ⟨hv, hcy, hl, hlen⟩ := lshift_val' n c hn (by omega)
  have h2 := two_pow_le_half c hc
  refine ⟨?_, Limbs.snoc hl (by have : B / 2 < B := by decide
                                omega), by simp [hlen], hcy⟩
  rw [val_snoc, hlen]; exact hv

/-- `new_np[n] = cy; new_nn = n + (cy != 0)`: dropping a zero top limb changes nothing -/
theorem take_snoc_nz (l : List Nat) (x : Nat) :
    val ((l ++ [x]).take (l.length + if x ≠ 0 then 1 else 0)) = val (l ++ [x]) ∧
    ((l ++ [x]).take (l.length + if x ≠ 0 then 1 else 0)).length = l.length + if x ≠ 0 then 1 else 0 := by
  by_cases h : x = 0
  · subst h; simp [val_snoc]
  · have e : l.length + 1 = (l ++ [x]).length := by simp
    rw [if_pos h, e, List.take_length]; exact ⟨rfl, rfl⟩

/-- mpn_decr_u (qp, 1) on a non-zero number -/
theorem decr_pos (q : List Nat) (hq : Limbs q) (h1 : 1 ≤ val q) :
    val (decr q).1 + 1 = val q ∧ Limbs (decr q).1 ∧ (decr q).1.length = q.length := by
  obtain ⟨dv, _, dl, dn⟩ := decr_val q hq
  have hlt := val_lt _ dl
  rw [dn] at hlt
  obtain ⟨-, e⟩ := carry_zero (v := val q - 1) (cy := (decr q).2) (by omega) hlt
  exact ⟨by omega, dl, dn⟩

end Mpir.Tdiv
