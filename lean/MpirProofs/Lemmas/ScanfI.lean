/-
  C18, scanf side, second part: `Shape` (a number text as scanf/doscan.c recognises it under a scan base, 0 = detect), the
  field reader on such a text (`number_shape`, `gmpscan_field`), `mpz_set_str` on what it stored, and `doscan_rat`:
  the scanner's half of every `%Z` / `%Q` round trip.
-/
import MpirProofs.Lemmas.ScanfCount
namespace Mpir.Scanf
open Mpir.Printf

/-- base detection on "0" not followed by x / X (doscan.c:249-265): octal, the 0 is stored and counts as a digit -/
theorem baseStep_oct (W : Nat) (g : GS) (t : List Char) (hx : t.head? ≠ some 'x' ∧ t.head? ≠ some 'X')
    (hrep : Rep W g ('0' :: t)) (ho : g.over = false) (hW : g.chars + 1 ≤ W) :
    Rep W (baseStep W g) t ∧ (baseStep W g).s = g.s ++ ['0'] ∧ (baseStep W g).chars = g.chars + 1 ∧
    (baseStep W g).base = 8 ∧ (baseStep W g).seenDigit = true ∧ (baseStep W g).over = false := by
  obtain ⟨-, hcc, -⟩ := hrep.1 ho
  simp only [List.head?_cons] at hcc
  have hrep0 : Rep W { ({ g with base := 10 }.store '0') with seenDigit := true, base := 8 } ('0' :: t) := hrep
  obtain ⟨a1, a2, a3, a4, a5, a6⟩ := rep_get' W _ '0' t hrep0 ho (by show g.chars + 1 ≤ W; omega)
  obtain ⟨-, acc, -⟩ := a1.1 a6
  have e := baseStep_unfold W g _ rfl
  generalize ({ ({ g with base := 10 }.store '0') with seenDigit := true, base := 8 } : GS).get W = g1 at *
  have hnx : ¬ (g1.c = some 'x' ∨ g1.c = some 'X') := by rw [acc]; exact fun h => h.elim hx.1 hx.2
  have hbs : baseStep W g = g1 := by
    rw [e]; simp only [hcc, if_true, a6, Bool.false_eq_true, if_false, hnx]
  rw [hbs]
  exact ⟨a1, by rw [a3]; simp [GS.store], by rw [a2]; rfl, a4, a5, a6⟩

/-- the same when the "0" is the last character the width allows: GET runs into the width (`over`), the 0 still counts -/
theorem baseStep_oct_end (W : Nat) (g : GS) (hrep : Rep W g ['0']) (ho : g.over = false) (hW : g.chars = W) :
    Rep W (baseStep W g) [] ∧ (baseStep W g).s = g.s ++ ['0'] ∧ (baseStep W g).chars = g.chars + 1 ∧
    (baseStep W g).seenDigit = true ∧ (baseStep W g).over = true := by
  obtain ⟨-, hcc, -⟩ := hrep.1 ho
  simp only [List.head?_cons] at hcc
  have hrep0 : Rep W { ({ g with base := 10 }.store '0') with seenDigit := true, base := 8 } ['0'] := hrep
  obtain ⟨a1, a2, a3, -, a5, a6⟩ := rep_get W _ '0' [] hrep0 ho
  have hov := a6.mpr hW
  have e := baseStep_unfold W g _ rfl
  generalize ({ ({ g with base := 10 }.store '0') with seenDigit := true, base := 8 } : GS).get W = g1 at *
  have hbs : baseStep W g = g1 := by rw [e]; simp only [hcc, if_true, hov]
  rw [hbs]
  exact ⟨a1, by rw [a3]; simp [GS.store], by rw [a2]; rfl, a5, hov⟩

theorem digitsLoop_field (W fuel : Nat) (g : GS) (body tail : List Char) (hrep : Rep W g (body ++ tail)) (ho : g.over = false)
    (hf : (body ++ tail).length + 1 ≤ fuel) (hW : g.chars + (body ++ tail).length ≤ W + 1)
    (hall : ∀ c ∈ body, isDigitIn g.base c = true) (htail : ∀ c, tail.head? = some c → isDigitIn g.base c = false) :
    Rep W (digitsLoop W fuel g) tail ∧ (digitsLoop W fuel g).s = g.s ++ body ∧
    (digitsLoop W fuel g).chars = g.chars + body.length ∧ (digitsLoop W fuel g).base = g.base ∧
    (digitsLoop W fuel g).seenDigit = (g.seenDigit || !body.isEmpty) := by
  obtain ⟨d1, d2, d3, d4, d5⟩ := digitsLoop_spec W fuel g _ hrep ho hf
  have htk : (body ++ tail).take (W + 1 - g.chars) = body ++ tail := List.take_of_length_le (by omega)
  rw [htk, takeWhile_stop _ body tail hall htail] at d1 d2 d3 d5
  exact ⟨by simpa using d1, d2, d3, d4, d5⟩

/-! ### `number` on a field of known shape, every scan base -/

/-- `Shape b0 b pre body rest`: under the scan base `b0` (0 = detect, doscan.c:246-266) the characters `pre ++ body`
    followed by `rest` are a base indicator `pre` and the longest run of digits `body` of the base `b` -/
def Shape (b0 b : Nat) (pre body rest : List Char) : Prop :=
  (∀ c ∈ body, isDigitIn b c = true) ∧ (∀ c, rest.head? = some c → isDigitIn b c = false) ∧
  ((b0 = b ∧ (b = 8 ∨ b = 10 ∨ b = 16) ∧ pre = []) ∨
   (b0 = 0 ∧ b = 10 ∧ pre = [] ∧ (body ++ rest).head? ≠ some '0') ∨
   (b0 = 0 ∧ b = 8 ∧ pre = ['0'] ∧ (body ++ rest).head? ≠ some 'x' ∧ (body ++ rest).head? ≠ some 'X') ∨
   (b0 = 0 ∧ b = 16 ∧ (pre = ['0', 'x'] ∨ pre = ['0', 'X'])))

/-- a sign as the scanner sees it: nothing (then the field does not start with a sign), `-` or `+` -/
def SignOK (sg r : List Char) : Prop :=
  (sg = [] ∧ r.head? ≠ some '-' ∧ r.head? ≠ some '+') ∨ sg = ['-'] ∨ sg = ['+']

theorem signOK_len (sg r : List Char) (h : SignOK sg r) : signLen (sg ++ r) = sg.length ∧
    signStore (sg ++ r) = (if sg = ['-'] then ['-'] else []) := by
  rcases h with ⟨h, h1, h2⟩ | h | h <;> subst h
  · cases r with
    | nil => simp [signLen, signStore]
    | cons c t =>
      simp only [List.head?_cons, ne_eq, Option.some.injEq] at h1 h2
      simp [signLen, signStore, h1, h2]
  · simp [signLen, signStore]
  · simp [signLen, signStore]

theorem shape_base (b0 b : Nat) (pre body rest : List Char) (h : Shape b0 b pre body rest) : b = 8 ∨ b = 10 ∨ b = 16 := by
  rcases h.2.2 with ⟨_, h, _⟩ | ⟨_, h, _⟩ | ⟨_, h, _⟩ | ⟨_, h, _⟩ <;> simp [h]

/-- `number` (doscan.c:233-286) on `sg ++ pre ++ body ++ rest` when the width does not cut the field: at most the GET of the
    look-ahead after its last character runs into the width. -/
theorem number_shape (W pb : Nat) (g : GS) (sg pre body rest : List Char) (b : Nat)
    (hrep : Rep W g (sg ++ (pre ++ (body ++ rest)))) (ho : g.over = false)
    (hW : g.chars + (sg ++ (pre ++ (body ++ rest))).length ≤ W + 1)
    (hsg : SignOK sg (pre ++ (body ++ rest))) (hsh : Shape g.base b pre body rest) (hv : pre = ['0'] ∨ body ≠ []) :
    Rep W (number W pb g) rest ∧
    (number W pb g).s = g.s ++ (if sg = ['-'] then ['-'] else []) ++ pre ++ body ∧
    (number W pb g).chars = g.chars + sg.length + pre.length + body.length ∧
    (number W pb g).seenDigit = (decide (pre = ['0']) || !body.isEmpty) := by
  obtain ⟨hsl, hss⟩ := signOK_len sg _ hsg
  have hrep0 : Rep W { g with seenDigit := false } (sg ++ (pre ++ (body ++ rest))) := hrep
  obtain ⟨s1, s2, s3, s4, s5, s6⟩ := signStep_spec W { g with seenDigit := false } _ hrep0 ho
  rw [hsl, List.drop_left'  rfl] at s1
  rw [hss] at s2
  rw [hsl] at s3
  simp only [List.length_append] at hW
  have hov : (signStep W { g with seenDigit := false }).over = false := by
    cases h : (signStep W { g with seenDigit := false }).over with
    | false => rfl
    | true =>
      obtain ⟨k1, kW⟩ := s6 h
      have kW' : g.chars = W := kW
      rw [hsl] at k1
      -- a sign is followed by a digit
      have : 1 ≤ pre.length + body.length := by
        rcases hv with h | h
        · rw [h]; simp
        · have := List.length_pos_iff.mpr h; omega
      omega
  rw [number_unfold, hov]
  simp only [Bool.false_eq_true, if_false]
  have e1 : ({ g with seenDigit := false } : GS).chars = g.chars := rfl
  have e2 : ({ g with seenDigit := false } : GS).base = g.base := rfl
  have e3 : ({ g with seenDigit := false } : GS).s = g.s := rfl
  have e4 : ({ g with seenDigit := false } : GS).seenDigit = false := rfl
  rw [e1] at s3; rw [e2] at s4; rw [e3] at s2; rw [e4] at s5
  generalize signStep W { g with seenDigit := false } = g1 at *
  obtain ⟨hall, hrest, hcase⟩ := hsh
  have fin : ∀ (g2 : GS), Rep W g2 (body ++ rest) → g2.over = false → g2.base = b → g2.chars = g1.chars + pre.length →
      g2.s = g1.s ++ pre → g2.seenDigit = decide (pre = ['0']) →
      Rep W (digitsLoop W (g2.rest.length + 2) g2) rest ∧
      (digitsLoop W (g2.rest.length + 2) g2).s = g.s ++ (if sg = ['-'] then ['-'] else []) ++ pre ++ body ∧
      (digitsLoop W (g2.rest.length + 2) g2).chars = g.chars + sg.length + pre.length + body.length ∧
      (digitsLoop W (g2.rest.length + 2) g2).seenDigit = (decide (pre = ['0']) || !body.isEmpty) := by
    intro g2 r2 o2 b2 c2 ss2 sd2
    have hfuel : (body ++ rest).length + 1 ≤ g2.rest.length + 2 := by
      obtain ⟨-, -, hr⟩ := r2.1 o2
      rw [hr]; simp; omega
    obtain ⟨d1, d2, d3, d4, d5⟩ := digitsLoop_field W _ g2 body rest r2 o2 hfuel
      (by rw [c2, s3]; simp only [List.length_append]; omega) (by rw [b2]; exact hall) (by rw [b2]; exact hrest)
    refine ⟨d1, by rw [d2, ss2, s2], by rw [d3, c2, s3], by rw [d5, sd2]⟩
  rcases hcase with ⟨hb0, hb, hpre⟩ | ⟨hb0, hb, hpre, hnz⟩ | ⟨hb0, hb, hpre, hnx, hnX⟩ | ⟨hb0, hb, hpre⟩
  · -- fixed base
    have hne : ¬ g1.base = 0 := by rw [s4, hb0]; omega
    simp only [hne, if_false]
    subst hpre
    exact fin g1 s1 hov (by rw [s4, hb0]) (by simp) (by simp) (by rw [s5]; simp)
  · -- detection: decimal
    have he : g1.base = 0 := by rw [s4, hb0]
    simp only [he, if_true]
    subst hpre
    rw [baseStep_dec W g1 _ hnz s1 hov]
    exact fin { g1 with base := 10 } s1 hov hb.symm (by simp) (by simp) (by show g1.seenDigit = _; rw [s5]; simp)
  · -- detection: octal
    have he : g1.base = 0 := by rw [s4, hb0]
    simp only [he, if_true]
    subst hpre
    by_cases hend : g1.chars + 1 ≤ W
    · obtain ⟨o1, o2, o3, o4, o5, o6⟩ := baseStep_oct W g1 (body ++ rest) ⟨hnx, hnX⟩ s1 hov hend
      exact fin _ o1 o6 (by rw [o4, hb]) (by rw [o3]; rfl) o2 (by rw [o5]; simp)
    · -- the `0` is the last character the width allows: nothing follows
      have hbr : body = [] ∧ rest = [] := by
        rw [s3] at hend; simp only [List.length_cons, List.length_nil] at hW
        constructor <;> apply List.eq_nil_of_length_eq_zero <;> omega
      obtain ⟨rfl, rfl⟩ := hbr
      obtain ⟨o1, o2, o3, o5, o6⟩ := baseStep_oct_end W g1 s1 hov (by have := (s1.1 hov).1; omega)
      rw [digitsLoop_over _ _ _ o6]
      exact ⟨o1, by rw [o2, s2]; simp, by rw [o3, s3]; simp, by rw [o5]; rfl⟩
  · -- detection: hexadecimal
    have he : g1.base = 0 := by rw [s4, hb0]
    simp only [he, if_true]
    obtain ⟨x, hx, hpx⟩ : ∃ x, (x = 'x' ∨ x = 'X') ∧ pre = ['0', x] := by
      rcases hpre with h | h
      · exact ⟨'x', Or.inl rfl, h⟩
      · exact ⟨'X', Or.inr rfl, h⟩
    subst hpx
    have hbn : 1 ≤ body.length := List.length_pos_iff.mpr (hv.resolve_left (by simp))
    obtain ⟨o1, o2, o3, o4, o5, o6⟩ := baseStep_hex W g1 x (body ++ rest) hx s1 hov
      (by rw [s3]; simp only [List.length_cons, List.length_nil] at hW; omega)
    exact fin _ o1 o6 (by rw [o4, hb]) (by rw [o3]; rfl) o2 (by rw [o5]; simp)

/-! ### mpz_set_str with base detection on what the scanner stored -/

theorem isDigitIn_not (b : Nat) (c : Char) (h : isDigitIn b c = true) :
    c ≠ 'x' ∧ c ≠ 'X' ∧ c ≠ 'b' ∧ c ≠ 'B' ∨ b = 16 := by
  rw [isDigitIn_iff] at h
  by_cases hb : b = 16
  · exact Or.inr hb
  · left; simp only [ne_eq, ceq]; refine ⟨?_, ?_, ?_, ?_⟩ <;> (intro e; rw [e] at h; revert h; simp [hb])

theorem setStr_shape_abs (b0 b : Nat) (pre body rest : List Char) (hsh : Shape b0 b pre body rest)
    (hv : pre = ['0'] ∨ body ≠ []) :
    setStr (pre ++ body) b0 = some (strVal b body : Int) ∧ (pre ++ body).head? ≠ some '-' := by
  obtain ⟨hall, hrest, hcase⟩ := hsh
  have hd0 : ¬ digitValue '0' ≥ 10 := by decide
  rcases hcase with ⟨hb0, hb, hpre⟩ | ⟨hb0, hb, hpre, hnz⟩ | ⟨hb0, hb, hpre, hnx, hnX⟩ | ⟨hb0, hb, hpre⟩
  · subst hpre hb0
    have hne : body ≠ [] := hv.elim (fun h => by cases h) id
    have hlt : ∀ c ∈ body, digitValue c < b0 := fun c hc => isDigitIn_lt b0 hb c (hall c hc)
    refine ⟨setStr_of_digits b0 (by omega) (by omega) body hne hlt, ?_⟩
    cases body with
    | nil => simp
    | cons a t => simpa using (digit_not_special b0 a (hall a List.mem_cons_self)).1
  · subst hpre hb0 hb
    have hne : body ≠ [] := hv.elim (fun h => by cases h) id
    obtain ⟨a, t, rfl⟩ : ∃ a t, body = a :: t := by
      cases body with
      | nil => exact absurd rfl hne
      | cons a t => exact ⟨a, t, rfl⟩
    have ha0 : a ≠ '0' := by simpa using hnz
    have ha : a ≠ '-' := (digit_not_special 10 a (hall a List.mem_cons_self)).1
    have hda : ¬ digitValue a ≥ 10 := by
      have := isDigitIn_lt 10 (by simp) a (hall a List.mem_cons_self); omega
    have hallb : (a :: t).all (fun c => decide (digitValue c < 10)) = true := by
      simp only [List.all_eq_true, decide_eq_true_eq]
      exact fun c hc => isDigitIn_lt 10 (by simp) c (hall c hc)
    refine ⟨?_, by simpa using ha⟩
    simp only [setStr, List.nil_append, List.head?_cons, Option.some.injEq, ha, decide_false, Bool.false_eq_true, if_false,
      if_true, hda, strVal]
    -- the arms with a leading `0` contradict `ha0` (simp_all is slow on the whole context)
    split <;> first | (exfalso; clear hall hrest hallb hda hne hv; simp_all; done) | simp only [hallb, if_true]
  · subst hpre hb0 hb
    have hallb : body.all (fun c => decide (digitValue c < 8)) = true := by
      simp only [List.all_eq_true, decide_eq_true_eq]
      exact fun c hc => isDigitIn_lt 8 (by simp) c (hall c hc)
    refine ⟨?_, by simp⟩
    cases body with
    | nil => decide
    | cons a t =>
      have hn : a ≠ 'x' ∧ a ≠ 'X' ∧ a ≠ 'b' ∧ a ≠ 'B' := by
        rcases isDigitIn_not 8 a (hall a List.mem_cons_self) with h | h
        · exact h
        · omega
      obtain ⟨h1, h2, h3, h4⟩ := hn
      simp only [setStr, List.cons_append, List.nil_append, List.head?_cons, Option.some.injEq,
        show ¬ ('0' = '-') by decide, decide_false, Bool.false_eq_true, if_false, if_true, hd0, strVal]
      split <;> first | (exfalso; clear hall hrest hallb hv; simp_all; done) | (rename_i heq; cases heq; simp only [hallb, if_true])
  · subst hb0 hb
    have hallb : body.all (fun c => decide (digitValue c < 16)) = true := by
      simp only [List.all_eq_true, decide_eq_true_eq]
      exact fun c hc => isDigitIn_lt 16 (by simp) c (hall c hc)
    rcases hpre with h | h <;> subst h <;> refine ⟨?_, by simp⟩ <;>
      simp only [if_true, Bool.false_eq_true, if_false, setStr, List.cons_append, List.nil_append, List.head?_cons,
        Option.some.injEq, show ¬ ('0' = '-') by decide, decide_false, hd0, hallb, strVal]

theorem setStr_shape (b0 b : Nat) (neg : Bool) (pre body rest : List Char) (hsh : Shape b0 b pre body rest)
    (hv : pre = ['0'] ∨ body ≠ []) :
    setStr ((if neg then ['-'] else []) ++ pre ++ body) b0 =
      some (if neg then -(strVal b body : Int) else (strVal b body : Int)) := by
  obtain ⟨h1, h2⟩ := setStr_shape_abs b0 b pre body rest hsh hv
  rw [List.append_assoc, setStr_signed _ _ _ h2, h1]
  rfl

/-- a field with a digit (the `0` of the octal indicator counts) sets `seen_digit` -/
theorem shape_seen (pre body : List Char) (hv : pre = ['0'] ∨ body ≠ []) : (decide (pre = ['0']) || !body.isEmpty) = true := by
  rcases hv with hv | hv
  · simp [hv]
  · cases body with
    | nil => exact absurd rfl hv
    | cons a t => simp

theorem shape_pre_mem (b0 b : Nat) (pre body rest : List Char) (h : Shape b0 b pre body rest) :
    ∀ c ∈ pre ++ body, c ≠ '/' ∧ c ≠ '-' := by
  intro c hc
  rcases List.mem_append.mp hc with hc | hc
  · have hp : c = '0' ∨ c = 'x' ∨ c = 'X' := by
      rcases h.2.2 with ⟨_, _, hp⟩ | ⟨_, _, hp, _⟩ | ⟨_, _, hp, _⟩ | ⟨_, _, hp | hp⟩ <;> rw [hp] at hc
      · cases hc
      · cases hc
      · simp at hc; exact Or.inl hc
      · simp at hc; rcases hc with hc | hc
        · exact Or.inl hc
        · exact Or.inr (Or.inl hc)
      · simp at hc; rcases hc with hc | hc
        · exact Or.inl hc
        · exact Or.inr (Or.inr hc)
    rcases hp with hp | hp | hp <;> rw [hp] <;> decide
  · have := digit_not_special b c (h.1 c hc); exact ⟨this.2.2.1, this.1⟩

theorem shape_head (b0 b : Nat) (pre body rest : List Char) (h : Shape b0 b pre body rest) (hv : pre = ['0'] ∨ body ≠ []) :
    ∃ c, (pre ++ (body ++ rest)).head? = some c ∧ c ≠ '-' ∧ c ≠ '+' ∧ isSpace c = false := by
  have h0 : ∀ t : List Char, ∃ c, ('0' :: t).head? = some c ∧ c ≠ '-' ∧ c ≠ '+' ∧ isSpace c = false :=
    fun t => ⟨'0', rfl, by decide, by decide, by decide⟩
  have hbody : pre = [] → ∃ c, (pre ++ (body ++ rest)).head? = some c ∧ c ≠ '-' ∧ c ≠ '+' ∧ isSpace c = false := by
    intro hp; subst hp
    have hne : body ≠ [] := hv.elim (fun h => by cases h) id
    cases body with
    | nil => exact absurd rfl hne
    | cons a t =>
      have := digit_not_special b a (h.1 a List.mem_cons_self)
      exact ⟨a, rfl, this.1, this.2.1, this.2.2.2.2.2⟩
  rcases h.2.2 with ⟨_, _, hp⟩ | ⟨_, _, hp, _⟩ | ⟨_, _, hp, _⟩ | ⟨_, _, hp | hp⟩
  · exact hbody hp
  · exact hbody hp
  · subst hp; exact h0 _
  · subst hp; exact h0 _
  · subst hp; exact h0 _

theorem signOK_of_head (sg r : List Char) (hsg : sg = [] ∨ sg = ['-'] ∨ sg = ['+'])
    (hr : ∃ c, r.head? = some c ∧ c ≠ '-' ∧ c ≠ '+' ∧ isSpace c = false) : SignOK sg r := by
  obtain ⟨c, h1, h2, h3, -⟩ := hr
  rcases hsg with h | h | h
  · left; refine ⟨h, ?_, ?_⟩ <;> rw [h1] <;> simp [h2, h3]
  · right; left; exact h
  · right; right; exact h

/-- a `%Z` field, or a `%Q` field without `/` -/
theorem gmpscan_field (T : Char) (b0 b : Nat) (ign : Bool) (sg pre body tail : List Char)
    (hsg : SignOK sg (pre ++ (body ++ tail))) (hsh : Shape b0 b pre body tail) (hv : pre = ['0'] ∨ body ≠ [])
    (hns : T = 'Q' → tail.head? ≠ some '/')
    (hlen : (sg ++ (pre ++ (body ++ tail))).length ≤ 2147483646) :
    gmpscan { base := b0, type := T, ignore := ign } (sg ++ (pre ++ (body ++ tail))) =
      { ret := ((sg.length + pre.length + body.length : Nat) : Int), rest := tail,
        val := if ign then .none
               else if T = 'Q' then .q (if sg = ['-'] then -(strVal b body : Int) else (strVal b body : Int)) 1
               else .z (if sg = ['-'] then -(strVal b body : Int) else (strVal b body : Int)) } := by
  have hne : sg ++ (pre ++ (body ++ tail)) ≠ [] := by rcases hv with hv | hv <;> simp [hv]
  obtain ⟨g0, hrep, ho, hc, hs, hbase, e⟩ := gmpscan_start { base := b0, type := T, ignore := ign } _ hne
  have hW : scanWidth { base := b0, type := T, ignore := ign } = 2147483646 := rfl
  rw [hW] at hrep e
  obtain ⟨n1, n2, n3, n4⟩ := number_shape 2147483646 b0 g0 sg pre body tail b hrep ho (by rw [hc]; omega) hsg
    (by rw [hbase]; exact hsh) hv
  rw [hs] at n2; rw [hc] at n3
  rw [e]
  generalize number 2147483646 b0 g0 = g at *
  rw [slashStep_none _ _ g tail n1 (by by_cases hT : T = 'Q'; exacts [Or.inr (hns hT), Or.inl hT])]
  rw [finishScan_ok _ _ g tail n1 (by rw [n4]; exact shape_seen pre body hv), n2, n3]
  have hset := setStr_shape b0 b (decide (sg = ['-'])) pre body tail hsh hv
  simp only [decide_eq_true_eq] at hset
  by_cases hT : T = 'Q'
  · have hnosl : splitSlash ((if sg = ['-'] then ['-'] else []) ++ pre ++ body) = none := by
      apply splitSlash_none
      intro c hc
      rw [List.append_assoc] at hc
      rcases List.mem_append.mp hc with hc | hc
      · split at hc
        · simp at hc; rw [hc]; decide
        · cases hc
      · exact (shape_pre_mem b0 b pre body tail hsh c hc).1
    simp only [hT, List.nil_append, if_true, setStrQ, hnosl, hset, Option.map_some, GResult.mk.injEq, and_true]
    omega
  · simp only [hT, List.nil_append, if_false, hset, GResult.mk.injEq, and_true]
    omega

/-- a `%Q` field with `/`: numerator and denominator each with their own base detection (doscan.c:314-327) -/
theorem gmpscan_field_Q2 (b0 b1 b2 : Nat) (ign : Bool) (sg pre1 body1 pre2 body2 tail : List Char)
    (hsg : SignOK sg (pre1 ++ (body1 ++ '/' :: (pre2 ++ (body2 ++ tail)))))
    (hsh1 : Shape b0 b1 pre1 body1 ('/' :: (pre2 ++ (body2 ++ tail)))) (hv1 : pre1 = ['0'] ∨ body1 ≠ [])
    (hsg2 : SignOK [] (pre2 ++ (body2 ++ tail)))
    (hsh2 : Shape b0 b2 pre2 body2 tail) (hv2 : pre2 = ['0'] ∨ body2 ≠ [])
    (hlen : (sg ++ (pre1 ++ (body1 ++ '/' :: (pre2 ++ (body2 ++ tail))))).length ≤ 2147483646) :
    gmpscan { base := b0, type := 'Q', ignore := ign } (sg ++ (pre1 ++ (body1 ++ '/' :: (pre2 ++ (body2 ++ tail))))) =
      { ret := ((sg.length + pre1.length + body1.length + 1 + pre2.length + body2.length : Nat) : Int), rest := tail,
        val := if ign then .none
               else .q (if sg = ['-'] then -(strVal b1 body1 : Int) else (strVal b1 body1 : Int)) (strVal b2 body2 : Int) } := by
  obtain ⟨g0, hrep, ho, hc, hs, hbase, e⟩ := gmpscan_start { base := b0, type := 'Q', ignore := ign }
    (sg ++ (pre1 ++ (body1 ++ '/' :: (pre2 ++ (body2 ++ tail))))) (by simp)
  have hW : scanWidth { base := b0, type := 'Q', ignore := ign } = 2147483646 := rfl
  rw [hW] at hrep e
  rw [e]
  simp only [List.length_append, List.length_cons] at hlen
  have hden : 1 ≤ pre2.length + body2.length := by
    rcases hv2 with h | h
    · rw [h]; simp
    · have := List.length_pos_iff.mpr h; omega
  obtain ⟨n1, n2, n3, n4⟩ := number_shape 2147483646 b0 g0 sg pre1 body1 _ b1 hrep ho
    (by rw [hc]; simp only [List.length_append, List.length_cons]; omega) hsg (by rw [hbase]; exact hsh1) hv1
  rw [hs] at n2; rw [hc] at n3
  generalize number 2147483646 b0 g0 = g at *
  have hs : g.seenDigit = true := by rw [n4]; exact shape_seen pre1 body1 hv1
  have hgo : g.over = false := rep_not_over _ g _ n1 (by rw [n3]; omega)
  have hgc : g.c = some '/' := by rw [(n1.1 hgo).2.1]; rfl
  -- do_second
  have hrep2 : Rep 2147483646 { (g.store '/') with seenDigit := false, base := b0 } ('/' :: (pre2 ++ (body2 ++ tail))) := n1
  obtain ⟨r1, r2, r3, r4, r5, r6⟩ := rep_get' 2147483646 _ '/' _ hrep2 hgo (by show g.chars + 1 ≤ _; rw [n3]; omega)
  have hslash : slashStep { base := b0, type := 'Q', ignore := ign } 2147483646 g =
      (number 2147483646 b0 (({ (g.store '/') with seenDigit := false, base := b0 } : GS).get 2147483646), false) := by
    unfold slashStep
    simp only [hgo, hgc, hs, r6, Bool.false_eq_true, not_false_eq_true, true_and, if_true, not_true_eq_false, if_false]
  rw [hslash]
  generalize ({ (g.store '/') with seenDigit := false, base := b0 } : GS).get 2147483646 = g2 at *
  have r2' : g2.chars = g.chars + 1 := r2
  have r3' : g2.s = g.s ++ ['/'] := r3
  have r4' : g2.base = b0 := r4
  obtain ⟨m1, m2, m3, m4⟩ := number_shape 2147483646 b0 g2 [] pre2 body2 tail b2 r1 r6
    (by rw [r2', n3]; simp only [List.nil_append, List.length_append]; omega) hsg2 (by rw [r4']; exact hsh2) hv2
  generalize number 2147483646 b0 g2 = g3 at *
  have hs3 : g3.seenDigit = true := by rw [m4]; exact shape_seen pre2 body2 hv2
  rw [finishScan_ok _ _ g3 tail m1 hs3, m2, m3, r3', r2', n2, n3]
  have hset1 := setStr_shape b0 b1 (decide (sg = ['-'])) pre1 body1 _ hsh1 hv1
  have hset2 := setStr_shape b0 b2 false pre2 body2 _ hsh2 hv2
  simp only [decide_eq_true_eq] at hset1
  simp only [Bool.false_eq_true, if_false, List.nil_append] at hset2
  have hsplit : splitSlash ((if sg = ['-'] then ['-'] else []) ++ pre1 ++ body1 ++ '/' :: (pre2 ++ body2)) =
      some ((if sg = ['-'] then ['-'] else []) ++ pre1 ++ body1 ++ ['/'], pre2 ++ body2) := by
    apply splitSlash_append
    intro c hc
    rw [List.append_assoc] at hc
    rcases List.mem_append.mp hc with hc | hc
    · split at hc
      · simp at hc; rw [hc]; decide
      · cases hc
    · exact (shape_pre_mem b0 b1 pre1 body1 _ hsh1 c hc).1
  have hs_eq : [] ++ (if sg = ['-'] then ['-'] else []) ++ pre1 ++ body1 ++ ['/'] ++ (if ([] : List Char) = ['-'] then ['-'] else []) ++ pre2 ++ body2 =
      (if sg = ['-'] then ['-'] else []) ++ pre1 ++ body1 ++ '/' :: (pre2 ++ body2) := by simp
  simp only [hs_eq, if_true, setStrQ, hsplit, List.dropLast_concat, hset1, hset2, GResult.mk.injEq, and_true]
  simp only [List.length_nil]; omega

/-! ### `gmp_sscanf` on a printed field -/

theorem head_not_space (sg r : List Char) (hsg : sg = [] ∨ sg = ['-'] ∨ sg = ['+'])
    (hr : ∃ c, r.head? = some c ∧ c ≠ '-' ∧ c ≠ '+' ∧ isSpace c = false) :
    ∀ c, (sg ++ r).head? = some c → isSpace c = false := by
  intro c hc
  obtain ⟨c1, h1, -, -, h4⟩ := hr
  rcases hsg with h | h | h <;> subst h
  · rw [List.nil_append, h1] at hc; cases hc; exact h4
  · cases hc; decide
  · cases hc; decide

theorem doscan_field (T c : Char) (hT : T = 'Z' ∨ T = 'Q') (b0 b a : Nat) (hc : ConvChar c b0)
    (sg pre body tail : List Char) (hsg : sg = [] ∨ sg = ['-'] ∨ sg = ['+']) (hsh : Shape b0 b pre body tail)
    (hv : pre = ['0'] ∨ body ≠ []) (hns : T = 'Q' → tail.head? ≠ some '/')
    (hlen : (sg ++ (pre ++ (body ++ tail))).length ≤ 2147483646) :
    doscan ['%', T, c, '%', 'n'] (List.replicate a ' ' ++ (sg ++ (pre ++ (body ++ tail)))) =
      some { fields := 1,
             outs := [if T = 'Q' then .q (if sg = ['-'] then -(strVal b body : Int) else (strVal b body : Int)) 1
                      else .z (if sg = ['-'] then -(strVal b body : Int) else (strVal b body : Int)),
                      .int ((a + (sg.length + pre.length + body.length) : Nat) : Int)],
             rest := tail } := by
  have hhead := shape_head b0 b pre body tail hsh hv
  rw [doscan_Tn T c b0 hT hc, skipWhite_spaces a _ (head_not_space sg _ hsg hhead)]
  simp only
  rw [gmpscan_field T b0 b false sg pre body tail (signOK_of_head sg _ hsg hhead) hsh hv hns hlen]
  have e2 : ¬ (((sg.length + pre.length + body.length : Nat) : Int) = -2) := by omega
  have e1 : ¬ (((sg.length + pre.length + body.length : Nat) : Int) = -1) := by omega
  simp only [e2, e1, if_false, Bool.false_eq_true, Int.toNat_natCast]
  split <;> rfl

theorem doscan_field_Q2 (c : Char) (b0 b1 b2 a : Nat) (hc : ConvChar c b0) (sg pre1 body1 pre2 body2 tail : List Char)
    (hsg : sg = [] ∨ sg = ['-'] ∨ sg = ['+'])
    (hsh1 : Shape b0 b1 pre1 body1 ('/' :: (pre2 ++ (body2 ++ tail)))) (hv1 : pre1 = ['0'] ∨ body1 ≠ [])
    (hsh2 : Shape b0 b2 pre2 body2 tail) (hv2 : pre2 = ['0'] ∨ body2 ≠ [])
    (hlen : (sg ++ (pre1 ++ (body1 ++ '/' :: (pre2 ++ (body2 ++ tail))))).length ≤ 2147483646) :
    doscan ['%', 'Q', c, '%', 'n'] (List.replicate a ' ' ++ (sg ++ (pre1 ++ (body1 ++ '/' :: (pre2 ++ (body2 ++ tail)))))) =
      some { fields := 1,
             outs := [.q (if sg = ['-'] then -(strVal b1 body1 : Int) else (strVal b1 body1 : Int)) (strVal b2 body2 : Int),
                      .int ((a + (sg.length + pre1.length + body1.length + 1 + pre2.length + body2.length) : Nat) : Int)],
             rest := tail } := by
  have hhead1 := shape_head _ _ _ _ _ hsh1 hv1
  have hhead2 := shape_head _ _ _ _ _ hsh2 hv2
  rw [doscan_Tn 'Q' c b0 (Or.inr rfl) hc, skipWhite_spaces a _ (head_not_space sg _ hsg hhead1)]
  simp only
  rw [gmpscan_field_Q2 b0 b1 b2 false sg pre1 body1 pre2 body2 tail (signOK_of_head sg _ hsg hhead1) hsh1 hv1
    (signOK_of_head [] _ (Or.inl rfl) hhead2) hsh2 hv2 hlen]
  have e2 : ¬ (((sg.length + pre1.length + body1.length + 1 + pre2.length + body2.length : Nat) : Int) = -2) := by omega
  have e1 : ¬ (((sg.length + pre1.length + body1.length + 1 + pre2.length + body2.length : Nat) : Int) = -1) := by omega
  simp only [e2, e1, if_false, Bool.false_eq_true, Int.toNat_natCast]
  rfl

/-- what `%Z` / `%Q` assigns -/
def outT (T : Char) (n d : Int) : Out := if T = 'Q' then .q n d else .z n

/-- The scanner's half of every `%Z` / `%Q` round trip (`%Z`: the case d = 1): blanks, sign, a numerator of some `Shape`,
    for d ≠ 1 a `/` and a denominator of some `Shape`, blanks.  A printer only has to show that its text has this form. -/
theorem doscan_rat (T c : Char) (b0 a t : Nat) (hc : ConvChar c b0) (n d : Int) (hd : 0 < d) (hT : T = 'Q' ∨ (T = 'Z' ∧ d = 1))
    (sg pre1 body1 den : List Char) (b1 : Nat)
    (hsg : sg = [] ∨ sg = ['-'] ∨ sg = ['+']) (hsgneg : sg = ['-'] ↔ n < 0)
    (hsh1 : Shape b0 b1 pre1 body1 (den ++ List.replicate t ' ')) (hv1 : pre1 = ['0'] ∨ body1 ≠ [])
    (hval1 : strVal b1 body1 = n.natAbs)
    (hden : (d = 1 ∧ den = []) ∨ ∃ pre2 body2 b2, d ≠ 1 ∧ den = '/' :: (pre2 ++ body2) ∧
      Shape b0 b2 pre2 body2 (List.replicate t ' ') ∧ (pre2 = ['0'] ∨ body2 ≠ []) ∧ strVal b2 body2 = d.natAbs)
    (text : List Char) (htext : text = List.replicate a ' ' ++ (sg ++ (pre1 ++ (body1 ++ (den ++ List.replicate t ' ')))))
    (hlen : text.length ≤ 2147483646) :
    doscan ['%', T, c, '%', 'n'] text =
      some { fields := 1, outs := [outT T n d, .int ((text.length - t : Nat) : Int)], rest := List.replicate t ' ' } := by
  subst htext
  rcases hden with ⟨hd1, rfl⟩ | ⟨pre2, body2, b2, hd1, rfl, hsh2, hv2, hval2⟩
  · rw [List.nil_append] at hlen hsh1 ⊢
    have hns : (List.replicate t ' ').head? ≠ some '/' := by cases t <;> simp [List.replicate_succ]
    have hlen2 : (sg ++ (pre1 ++ (body1 ++ List.replicate t ' '))).length ≤ 2147483646 := by
      simp only [List.length_append, List.length_replicate] at hlen ⊢; omega
    have hn : (List.replicate a ' ' ++ (sg ++ (pre1 ++ (body1 ++ List.replicate t ' ')))).length - t =
        a + (sg.length + pre1.length + body1.length) := by
      simp only [List.length_append, List.length_replicate]; omega
    rw [doscan_field T c (hT.elim Or.inr fun h => Or.inl h.1) b0 b1 a hc sg pre1 body1 _ hsg hsh1 hv1
        (fun _ => hns) hlen2, signed_natAbs sg n _ hsgneg hval1, hn, hd1]
    rfl
  · have hTQ : T = 'Q' := hT.elim id fun h => absurd h.2 hd1
    subst hTQ
    rw [List.cons_append, List.append_assoc] at hlen hsh1 ⊢
    have hlen2 : (sg ++ (pre1 ++ (body1 ++ '/' :: (pre2 ++ (body2 ++ List.replicate t ' '))))).length ≤ 2147483646 := by
      simp only [List.length_append, List.length_replicate, List.length_cons] at hlen ⊢; omega
    have hn : (List.replicate a ' ' ++ (sg ++ (pre1 ++ (body1 ++ '/' :: (pre2 ++ (body2 ++ List.replicate t ' ')))))).length - t =
        a + (sg.length + pre1.length + body1.length + 1 + pre2.length + body2.length) := by
      simp only [List.length_append, List.length_replicate, List.length_cons]; omega
    rw [doscan_field_Q2 c b0 b1 b2 a hc sg pre1 body1 pre2 body2 _ hsg hsh1 hv1 hsh2 hv2 hlen2,
      signed_natAbs sg n _ hsgneg hval1, hn, hval2, Int.natAbs_of_nonneg hd.le]
    rfl

/-! ### a printed number under base detection -/

theorem sep_head (R : List Char) (hR : ∀ c, R.head? = some c → c = '/' ∨ c = ' ') :
    R.head? ≠ some 'x' ∧ R.head? ≠ some 'X' ∧ R.head? ≠ some '0' := by
  refine ⟨?_, ?_, ?_⟩ <;> intro h <;> rcases hR _ h with h' | h' <;> cases h'

/-- What base detection (`%Zi`, `%Qi`) makes of a printed number: `0x` / `0X` of a non-zero hexadecimal value, `k` zeros
    (precision, `0` flag, the `0` of `#` with o), the digits.  Zeros alone are an octal zero; otherwise the text must carry
    its base: a zero in front of octal digits (`hk1`), none in front of decimal ones (`hk0`). -/
theorem detect_shape (b : Nat) (u : Bool) (hcb : ConvBase b u) (mag k : Nat) (pfx ds R : List Char)
    (hR : ∀ c, R.head? = some c → c = '/' ∨ c = ' ')
    (hds : ds = natDigits b u mag ∨ (mag = 0 ∧ ds = []))
    (hpfx : pfx = if b = 16 ∧ mag ≠ 0 then (if u then ['0', 'X'] else ['0', 'x']) else [])
    (hk1 : ds = [] ∨ (b = 8 ∧ mag ≠ 0) → 1 ≤ k ∨ ds.head? = some '0')
    (hk0 : b = 10 → mag ≠ 0 → k = 0) :
    ∃ pre body b', pfx ++ (List.replicate k '0' ++ (ds ++ R)) = pre ++ (body ++ R) ∧
      Shape 0 b' pre body R ∧ (pre = ['0'] ∨ body ≠ []) ∧ strVal b' body = mag := by
  have hb := ConvBase_base _ _ hcb
  obtain ⟨hval, hdigs⟩ := natDigits_props b u hcb mag
  obtain ⟨hRx, hRX, -⟩ := sep_head R hR
  by_cases hv : mag = 0
  · -- zeros only: an octal zero
    subst hv
    rw [natDigits_zero] at hds
    obtain ⟨m, hm⟩ : ∃ m, List.replicate k '0' ++ ds = '0' :: List.replicate m '0' := by
      rcases hds with h | ⟨-, h⟩
      · exact ⟨k, by rw [h, ← List.replicate_succ, List.replicate_succ']⟩
      · have hk : 1 ≤ k := (hk1 (Or.inl h)).elim id (fun h' => by rw [h] at h'; cases h')
        exact ⟨k - 1, by rw [h, List.append_nil, ← List.replicate_succ]; congr 1; omega⟩
    refine ⟨['0'], List.replicate m '0', 8, ?_,
      ⟨?_, sep_not_digit 8 (by simp) R hR, Or.inr (Or.inr (Or.inl ⟨rfl, rfl, rfl, ?_, ?_⟩))⟩, Or.inl rfl, ?_⟩
    · rw [hpfx, if_neg (fun h => h.2 rfl), List.nil_append, ← List.append_assoc, hm]; rfl
    · intro c hc; rw [(List.mem_replicate.mp hc).2]; decide
    · cases m with
      | zero => simpa using hRx
      | succ j => simp [List.replicate_succ]
    · cases m with
      | zero => simpa using hRX
      | succ j => simp [List.replicate_succ]
    · have := strVal_zeros 8 m []; rw [List.append_nil] at this; exact this
  · have hds' : ds = natDigits b u mag := hds.elim id (fun h => absurd h.1 hv)
    have hhd := natDigits_head_ne_zero b u (by omega) (by omega) mag hv
    have hne := natDigits_ne_nil b u mag
    rw [← hds'] at hval hdigs hhd hne
    obtain ⟨d0, dt, rfl⟩ : ∃ d0 dt, ds = d0 :: dt := by
      cases ds with
      | nil => exact absurd rfl hne
      | cons c t => exact ⟨c, t, rfl⟩
    have hd0 : d0 ≠ '0' := by simpa using hhd
    have hd0s := digit_not_special b d0 (hdigs d0 List.mem_cons_self)
    have hzeros : ∀ j, ∀ c ∈ List.replicate j '0' ++ (d0 :: dt), isDigitIn b c = true := by
      intro j c hc
      rcases List.mem_append.mp hc with h | h
      · rw [(List.mem_replicate.mp h).2]; exact isDigitIn_zero b
      · exact hdigs c h
    rcases hb with h8 | h10 | h16
    · subst h8
      have hk : 1 ≤ k := (hk1 (Or.inr ⟨rfl, hv⟩)).elim id (fun h => absurd (by simpa using h) hd0)
      obtain ⟨k', rfl⟩ : ∃ k', k = k' + 1 := ⟨k - 1, by omega⟩
      refine ⟨['0'], List.replicate k' '0' ++ (d0 :: dt), 8, ?_,
        ⟨hzeros k', sep_not_digit 8 (by simp) R hR, Or.inr (Or.inr (Or.inl ⟨rfl, rfl, rfl, ?_, ?_⟩))⟩, Or.inl rfl, ?_⟩
      · rw [hpfx]; simp [List.replicate_succ]
      · cases k' with
        | zero => simpa using hd0s.2.2.2.1
        | succ j => simp [List.replicate_succ]
      · cases k' with
        | zero => simpa using hd0s.2.2.2.2.1
        | succ j => simp [List.replicate_succ]
      · rw [strVal_zeros]; exact hval
    · subst h10
      rw [hk0 rfl hv, hpfx]
      exact ⟨[], d0 :: dt, 10, by simp, ⟨hdigs, sep_not_digit 10 (by simp) R hR,
        Or.inr (Or.inl ⟨rfl, rfl, rfl, by simpa using hd0⟩)⟩, Or.inr (by simp), hval⟩
    · subst h16
      refine ⟨if u then ['0', 'X'] else ['0', 'x'], List.replicate k '0' ++ (d0 :: dt), 16, ?_,
        ⟨hzeros k, sep_not_digit 16 (by simp) R hR, Or.inr (Or.inr (Or.inr ⟨rfl, rfl, ?_⟩))⟩, Or.inr (by simp), ?_⟩
      · rw [hpfx]; simp [hv]
      · cases u <;> simp
      · rw [strVal_zeros]; exact hval

end Mpir.Scanf
