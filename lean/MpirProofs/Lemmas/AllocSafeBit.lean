/- The remaining cases of mpz_ior, then mpz_setbit / mpz_clrbit with the rules they share with mpz_combit (which is in AllocSafeBit2.lean),
   on the size-aware models (Mpir/Model/AllocSafeMpz2.lean, AllocSafeMpz3.lean). -/

import MpirProofs.Lemmas.AllocSafeLogic
import Mpir.Model.AllocSafeMpz3

/- mpz/ior.c, the -- and +- cases.  The point of both: the block is `MIN (sizes)` resp. `|op2|` limbs — NO `+ 1` — and the carry
   store `res_ptr[res_size] = cy` after `mpn_add_1 (.., 1)` is still inside, because the decremented operand is strictly below
   B^n, so the carry can only leave a result whose scanned size is below n. -/

section
namespace Mpir.AllocSafe
open Mpir
open Mpir.Mpz (sgn natAbs_sgn)
open Mpir.Bits (subLimb_len subLimb_limbs scanTop_le)

/-- `res_ptr[0] = 1; res_size = 1;` (ior.c:148-152 / 230-234) on a fresh state: the result -1 -/
theorem one_refines (s1 : St) (w : Nat) (hs : s1.ok = true) (hb : BWF (s1.h w).buf) (h1 : 1 ≤ (s1.h w).buf.alloc) :
    Refines s1 ((s1.store (s1.PTR w) 0 1).setSize w (sgn true 1)) w ⟨(s1.h w).buf.alloc, sgn true 1, [1]⟩ := by
  have R := (Wrote.fresh s1 w [1] true hs rfl hb (limb_singleton (by unfold B; omega)) h1).fin_all true
  simpa [St.store, chk_true] using R

theorem and_n_eq (u v : List Nat) : Bits.and_n u v = List.zipWith (· &&& ·) u v := rfl

/-! ## ior.c:106-153, both negative -/

theorem ior_nn_refines (s : St) (res op1 op2 : Nat) {A Bv : List Nat} (hs : s.ok = true) (hw : OWF (s.h res))
    (Ou : Opnd s op1 A) (Ov : Opnd s op2 Bv) (h1 : A ≠ []) (h2 : Bv ≠ []) :
    Refines s (ior_nn s res op1 op2 A.length Bv.length) res
      (ofZ (Mpz.grow (view (s.h res)) (min A.length Bv.length)).alloc (Bits.iorNN A Bv)) := by
  have hn1 := List.length_pos_iff.mpr h1
  have hn2 := List.length_pos_iff.mpr h2
  have hlenZ := Bits.iorNN_len _ _ Ou.limbs Ov.limbs (Ou.val_pos h1) (Ov.val_pos h2)
  obtain ⟨opx1, e1, t1D⟩ := tmp_sub_1_spec s (s.PTR op1) A (min A.length Bv.length) Ou.den (by omega)
  obtain ⟨opx2, e2, t2D⟩ := tmp_sub_1_spec s (s.PTR op2) Bv (min A.length Bv.length) Ov.den (by omega)
  have hO1 : (Bits.subLimb (A.take (min A.length Bv.length)) 1).1.length = min A.length Bv.length := by
    rw [subLimb_len]; simp
  have hO2 : (Bits.subLimb (Bv.take (min A.length Bv.length)) 1).1.length = min A.length Bv.length := by
    rw [subLimb_len]; simp
  have LO1 := subLimb_limbs (A.take (min A.length Bv.length)) 1 (Limbs_take Ou.limbs _)
  have LO2 := subLimb_limbs (Bv.take (min A.length Bv.length)) 1 (Limbs_take Ov.limbs _)
  unfold Bits.iorNN at hlenZ
  unfold ior_nn Bits.iorNN ofZ
  simp only [e1, e2, realloc_if, reptr_eq] at hlenZ ⊢
  generalize (Bits.subLimb (A.take (min A.length Bv.length)) 1).1 = O1 at *
  generalize (Bits.subLimb (Bv.take (min A.length Bv.length)) 1).1 = O2 at *
  generalize min A.length Bv.length = n at *
  have G := MPZ_REALLOC_grown s res n hw
  refine G.refines ?_
  have hok1 := G.ok.trans hs
  have hbw := G.bwf res hw.1
  have hroom := G.room
  have h1a : 1 ≤ ((MPZ_REALLOC s res n).h res).buf.alloc := Nat.le_trans hw.alloc_pos (G.mono res)
  generalize MPZ_REALLOC s res n = s1 at *
  have hscan := logop_scan_spec (· &&& ·) s1 (.tmp opx1 0) (.tmp opx2 0) O1 O2 n (t1D s1) (t2D s1) (by omega) (by omega)
  rw [show List.zipWith (· &&& ·) (O1.take n) (O2.take n) = Bits.and_n O1 O2 from zipWith_take_full _ _ _ _ (by omega)] at hscan
  have hrsle : Bits.scanTop (Bits.and_n O1 O2) ≤ n := by
    have := scanTop_le (Bits.and_n O1 O2)
    have hl : (Bits.and_n O1 O2).length = n := by simp [Bits.and_n]; omega
    omega
  simp only [hscan]
  generalize Bits.scanTop (Bits.and_n O1 O2) = rs at *
  unfold ior_fin
  by_cases h0 : rs = 0
  · subst h0
    simp only [bne_self_eq_false, Bool.false_eq_true, if_false, ne_eq, not_true_eq_false]
    exact one_refines s1 res hok1 hbw h1a
  · have h0' : (rs != 0) = true := by simpa using h0
    simp only [h0', if_true, ne_eq, h0, not_false_eq_true, and_n_eq] at hlenZ ⊢
    have W1 := (Wrote.refl s1 res 0 hok1 hbw (Nat.zero_le _)).logop (· &&& ·) (fun a b ha _ => and_lt ha) _ _ O1 O2 rs
      (t1D _) (t2D _) (by omega) (by omega) LO1 LO2 (by omega)
    simp only [List.take_zero, List.drop_nil, List.append_nil] at W1
    have hl : (List.zipWith (· &&& ·) (O1.take rs) (O2.take rs)).length = rs := by simp; omega
    have E := W1.addOne_end (by intro h; rw [h] at hl; simp at hl; omega) (by omega)
    rwa [hl] at E

/-! ## ior.c:176-234, op1 ≥ 0, op2 < 0 -/

/-- `op2_size -= op2_ptr[op2_size - 1] == 0` on the list -/
theorem dropTopZero_take (l : List Nat) (hne : l ≠ []) :
    Bits.dropTopZero l = l.take (l.length - (if (((l.drop (l.length - 1)).take 1).headD junk == 0) then 1 else 0)) := by
  rcases List.eq_nil_or_concat l with h0 | ⟨l', x, h⟩
  · exact absurd h0 hne
  · rw [List.concat_eq_append] at h
    subst h
    unfold Bits.dropTopZero
    by_cases hx : x = 0
    · subst hx; simp
    · simp [hx]
      exact (List.take_of_length_le (by simp)).symm

theorem ior_pn_refines (s : St) (res op1 op2 : Nat) {A Bv : List Nat} (hs : s.ok = true) (hw : OWF (s.h res))
    (Ou : Opnd s op1 A) (Ov : Opnd s op2 Bv) (h2 : Bv ≠ []) :
    Refines s (ior_pn true s res op1 op2 A.length Bv.length) res
      (ofZ (Mpz.grow (view (s.h res)) Bv.length).alloc (Bits.iorPN A Bv)) := by
  have hn2 := List.length_pos_iff.mpr h2
  have LA := Ou.limbs
  have hlenZ := Bits.iorPN_len _ _ LA Ov.limbs Ov.norm (Ov.val_pos h2)
  obtain ⟨opx, e2, t2D⟩ := tmp_sub_1_spec s (s.PTR op2) Bv Bv.length Ov.den (Nat.le_refl _)
  rw [List.take_length] at t2D
  have hO2 := subLimb_len Bv 1
  have LO2 := subLimb_limbs Bv 1 Ov.limbs
  have hdt := dropTopZero_take (Bits.subLimb Bv 1).1 (by intro h; rw [h] at hO2; simp at hO2; omega)
  unfold Bits.iorPN at hlenZ
  unfold ior_pn Bits.iorPN ofZ
  dsimp only at hlenZ ⊢
  rw [hdt] at hlenZ ⊢
  simp only [e2]
  generalize (Bits.subLimb Bv 1).1 = O2 at *
  obtain ⟨etop, oktop⟩ := (t2D s).rd_add (Bv.length - 1) 1 (by omega)
  rw [hO2] at hlenZ ⊢
  simp only [etop, oktop, chk_true, realloc_if, reptr_eq]
  generalize hn2' : Bv.length - (if ((O2.drop (Bv.length - 1)).take 1).headD junk == 0 then 1 else 0) = n2' at *
  have G := MPZ_REALLOC_grown s res Bv.length hw
  refine G.refines ?_
  have hok1 := G.ok.trans hs
  have hbw := G.bwf res hw.1
  have hroom := G.room
  have h1a : 1 ≤ ((MPZ_REALLOC s res Bv.length).h res).buf.alloc := Nat.le_trans hw.alloc_pos (G.mono res)
  have Da1 := Ou.den_grown G
  generalize MPZ_REALLOC s res Bv.length = s1 at *
  have Dt : ∀ s', Den s' (.tmp opx 0) (O2.take n2') := fun s' => (t2D s').take n2'
  have hO2' : (O2.take n2').length = n2' := by simp; omega
  have LO2' : Limbs (O2.take n2') := Limbs_take LO2 _
  rw [hO2'] at hlenZ ⊢
  generalize O2.take n2' = O2' at *
  by_cases hge : A.length ≥ n2'
  · simp only [hge, if_true] at hlenZ ⊢
    have hscan := logop_scan_spec andn s1 (.tmp opx 0) (.ptr (s1.PTR op1)) O2' A n2' (Dt s1) Da1 (by omega) (by omega)
    rw [show List.zipWith andn (O2'.take n2') (A.take n2') = Bits.andn_n O2' A from zipWith_take_full _ _ _ _ (by omega)] at hscan
    have hrsle : Bits.scanTop (Bits.andn_n O2' A) ≤ n2' := by
      have := scanTop_le (Bits.andn_n O2' A)
      have hl : (Bits.andn_n O2' A).length = n2' := by simp [Bits.andn_n]; omega
      omega
    simp only [hscan]
    generalize Bits.scanTop (Bits.andn_n O2' A) = rs at *
    unfold ior_pn.ior_fin_pn
    by_cases h0 : rs = 0
    · subst h0
      simp only [ne_eq, not_true_eq_false, if_false, bne_self_eq_false, Bool.false_eq_true]
      exact one_refines s1 res hok1 hbw h1a
    · have h0' : (rs != 0) = true := by simpa using h0
      simp only [ne_eq, h0, not_false_eq_true, if_true, h0', andn_n_eq] at hlenZ ⊢
      have W1 := (Wrote.refl s1 res 0 hok1 hbw (Nat.zero_le _)).logop andn (fun a b ha _ => andn_lt ha) _ _ O2' A rs
        (Dt _) Da1 (by omega) (by omega) LO2' LA (by omega)
      simp only [List.take_zero, List.drop_nil, List.append_nil] at W1
      have hl : (List.zipWith andn (O2'.take rs) (A.take rs)).length = rs := by simp; omega
      have E := W1.addOne_end (by intro h; rw [h] at hl; simp at hl; omega) (by omega)
      rwa [hl] at E
  · simp only [hge, if_false, andn_n_eq] at hlenZ ⊢
    have hn2'0 : (n2' != 0) = true := by simp; omega
    unfold ior_pn.ior_fin_pn
    simp only [hn2'0, if_true]
    have W2 := Wrote.cat hok1 hbw andn (fun a b ha _ => andn_lt ha) (.tmp opx 0) (.ptr (s1.PTR op1)) (.tmp opx 0)
      O2' A O2' A.length (Dt s1) Da1 (Dt s1) (by omega) (by omega) (by omega) LO2' LA LO2' (by omega)
    rw [hO2', zipWith_take_full _ _ _ _ (by omega)] at W2
    have hl : (List.zipWith andn O2' A ++ O2'.drop A.length).length = n2' := by simp; omega
    have E := W2.addOne_end (by intro h; rw [h] at hl; simp at hl; omega) (by omega)
    rw [hl] at E
    simpa [Src.add] using E

/-- value-level result of mpz_ior with the allocation the C leaves: `MAX` limbs for ++, `MIN` for --, `|negative operand|`
    for +- (never a `+ 1`) -/
def Spec.ior (w u v : Mpz.Mpz) : Mpz.Mpz :=
  ofZ (Mpz.grow w (if u.size < 0 then (if v.size < 0 then min u.size.natAbs v.size.natAbs else u.size.natAbs)
      else (if v.size < 0 then v.size.natAbs else max u.size.natAbs v.size.natAbs))).alloc
    (Bits.mpz_ior (zOf u) (zOf v))

theorem ior_refines (s : St) (w u v : Nat) (hs : s.ok = true)
    (hw : OWF (s.h w)) (hu : OWF (s.h u)) (hv : OWF (s.h v)) :
    Refines s (mpz_ior s w u v) w (Spec.ior (view (s.h w)) (view (s.h u)) (view (s.h v))) := by
  have Ou := Opnd.of_owf hu
  have Ov := Opnd.of_owf hv
  have hA := Ou.len
  have hB := Ov.len
  have nA : (s.h u).size < 0 → (view (s.h u)).d ≠ [] := by intro h e; rw [e] at hA; simp at hA; omega
  have nB : (s.h v).size < 0 → (view (s.h v)).d ≠ [] := by intro h e; rw [e] at hB; simp at hB; omega
  unfold mpz_ior ior_ Spec.ior Bits.mpz_ior zOf
  simp only [St.SIZ, view_size, ← hA, ← hB, ge_iff_le, ← not_lt, ite_not]
  by_cases h1 : (s.h u).size < 0 <;> by_cases h2 : (s.h v).size < 0 <;>
    simp only [h1, h2, if_true, if_false, decide_true, decide_false, Bool.not_true, Bool.not_false, Bool.false_eq_true]
  · exact ior_nn_refines s w u v hs hw Ou Ov (nA h1) (nB h2)
  · exact ior_pn_refines s w v u hs hw Ov Ou (nA h1)
  · exact ior_pn_refines s w u v hs hw Ou Ov (nB h2)
  · exact ior_pp_refines s w u v hs hw Ou Ov

theorem ior_need_le (u v : Mpz.Mpz) (hu : Mpz.WF u) (hv : Mpz.WF v) :
    (Bits.mpz_ior (zOf u) (zOf v)).mag.length ≤
      (if u.size < 0 then (if v.size < 0 then min u.size.natAbs v.size.natAbs else u.size.natAbs)
        else (if v.size < 0 then v.size.natAbs else max u.size.natAbs v.size.natAbs)) := by
  have h := Bits.mpz_ior_len (zOf u) (zOf v) (zOf_WF hu) (zOf_WF hv)
  rw [zOf_mag_length hu, zOf_mag_length hv] at h
  simpa [zOf] using h

theorem ior_safe (s : St) (w u v : Nat) (hs : s.ok = true) (hw : OWF (s.h w)) (hu : OWF (s.h u)) (hv : OWF (s.h v)) :
    Safe s (mpz_ior s w u v) w (Spec.ior (view (s.h w)) (view (s.h u)) (view (s.h v))) ∧
    Mpz.toInt (view ((mpz_ior s w u v).h w)) = Int.lor (Mpz.toInt (view (s.h u))) (Mpz.toInt (view (s.h v))) := by
  have := Refines.safe_ofZ (ior_refines s w u v hs hw hu hv)
    (Bits.mpz_ior_lor (zOf (view (s.h u))) (zOf (view (s.h v))) (zOf_WF hu.2) (zOf_WF hv.2))
    (Nat.le_trans (ior_need_le _ _ hu.2 hv.2) (Mpz.grow_alloc _ _).1)
    (Nat.le_trans hw.alloc_pos (Mpz.grow_alloc (view (s.h w)) _).2)
  rwa [zOf_toInt, zOf_toInt, Bits.lor_eq] at this

end Mpir.AllocSafe
end

/- mpz/setbit.c, clrbit.c (Mpir/Model/AllocSafeMpz3.lean; combit.c: AllocSafeBit2.lean, on the same rules).  They work IN PLACE on one variable through a pointer taken
   on entry: `Wrote s s2 d R` with R the operand itself, and a reallocation in the middle (`Wrote.realloc`). -/

section
namespace Mpir.AllocSafe
open Mpir
open Mpir.Mpz (sgn natAbs_sgn)
open Mpir.Bits (incr_len subLimb_len subLimb_limbs)

/-! ## MPZ_REALLOC in the middle of a function: only the block invariant and |SIZ| ≤ ALLOC are needed -/

theorem MPZ_REALLOC_alloc (s : St) (w n : Nat) (h1 : 1 ≤ (s.h w).buf.alloc) :
    ((MPZ_REALLOC s w n).h w).buf.alloc = max (s.h w).buf.alloc n := by
  unfold MPZ_REALLOC St.ALLOC
  by_cases hn : n > (s.h w).buf.alloc
  · rw [if_pos hn]; simp [_mpz_realloc]; omega
  · rw [if_neg hn]; omega

/-- a reallocation after R has been written: a fresh base state, R still there -/
theorem Wrote.realloc {s1 s2 : St} {w : Nat} {R : List Nat} (W : Wrote s1 s2 w R) (n : Nat)
    (hsz : (s2.h w).size.natAbs ≤ (s2.h w).buf.alloc) (h1 : 1 ≤ (s1.h w).buf.alloc) :
    Wrote (MPZ_REALLOC s2 w n) (MPZ_REALLOC s2 w n) w R ∧
    ((MPZ_REALLOC s2 w n).h w).buf.alloc = max (s1.h w).buf.alloc n ∧
    ((MPZ_REALLOC s2 w n).h w).size = (s2.h w).size ∧
    (∀ x, x ≠ w → (MPZ_REALLOC s2 w n).h x = s1.h x) ∧
    reallocDp true s2 w (s1.PTR w) n = (MPZ_REALLOC s2 w n, (MPZ_REALLOC s2 w n).PTR w) := by
  have G := MPZ_REALLOC_grown' s2 w n (Nat.le_trans hsz (Nat.le_max_right _ _))
  refine ⟨⟨by rw [G.ok]; exact W.ok, G.bwf w W.bwf, ?_, rfl, rfl, fun _ _ => rfl⟩, ?_, G.size w, ?_, ?_⟩
  · rw [G.take w R.length W.bwf W.fit]; exact W.lim
  · rw [MPZ_REALLOC_alloc s2 w n (by rw [W.alloc]; exact h1), W.alloc]
  · intro x hx; rw [G.other x hx]; exact W.frame x hx
  · have hp : s1.PTR w = s2.PTR w := by simp [St.PTR, W.gen]
    unfold reallocDp MPZ_REALLOC St.ALLOC
    by_cases hn : n > (s2.h w).buf.alloc
    · have hn' : (s2.h w).buf.alloc < n := hn
      simp [hn]
    · have hn' : ¬ (s2.h w).buf.alloc < n := hn
      simp [hn, hp]

theorem zeroBoundScan_spec {s1 s2 : St} {w : Nat} {R : List Nat} (W : Wrote s1 s2 w R) (h : Bits.zeroBound R < R.length) :
    zeroBoundScan s2 (s1.PTR w) R.length = (Bits.zeroBound R, s2) := by
  obtain ⟨e, _⟩ := W.rd_all
  obtain ⟨_, ok⟩ := W.rd (Bits.zeroBound R + 1) (by omega)
  simp only [zeroBoundScan, e, ok, chk_true]

theorem grow_alloc_max (w : Mpz.Mpz) (n : Nat) (h1 : 1 ≤ w.alloc) : (Mpz.grow w n).alloc = max w.alloc n := by
  unfold Mpz.grow Mpz.realloc
  by_cases h : n > w.alloc
  · simp only [h, if_true]; split <;> simp <;> omega
  · simp only [h, if_false]; omega

theorem Wrote.finZ {s1 s2 : St} {w : Nat} {R : List Nat} (W : Wrote s1 s2 w R) (neg : Bool) (M : List Nat)
    (hz : (s2.h w).size = sgn neg M.length) (hM : R.take M.length = M) :
    Refines s1 s2 w (ofZ (s1.h w).buf.alloc ⟨neg, M⟩) := by
  have R1 := W.refines (sgn neg M.length) hz (by rw [natAbs_sgn]; exact take_len_le hM)
  rw [natAbs_sgn, hM] at R1
  exact R1

theorem Wrote.finZ_full {s1 s2 : St} {w : Nat} {R : List Nat} (W : Wrote s1 s2 w R) (neg : Bool)
    (hz : (s2.h w).size = sgn neg R.length) :
    Refines s1 s2 w (ofZ (s1.h w).buf.alloc ⟨neg, R⟩) :=
  W.finZ neg R hz (List.take_length)

/-! ### the three endings setbit.c, clrbit.c and combit.c share: a bit above the number, a bit inside it, the carry into a new limb -/

/-- setbit.c:41-50 / clrbit.c:75-85 -/
theorem extendTail_spec {s s2 : St} {d : Nat} {D : List Nat} (W : Wrote s s2 d D) (neg : Bool) (li bit : Nat)
    (hli : D.length ≤ li) (hbit : bit < B) (hsz : (s2.h d).size.natAbs ≤ (s2.h d).buf.alloc)
    (h1a : 1 ≤ (s.h d).buf.alloc) :
    Refines s (extendTail true 1 neg s2 d (s.PTR d) li D.length bit) d
      (ofZ (max (s.h d).buf.alloc (li + 1)) ⟨neg, D ++ List.replicate (li - D.length) 0 ++ [bit]⟩) := by
  obtain ⟨W3, ha, _, hfr, hdp⟩ := W.realloc (li + 1) hsz h1a
  unfold extendTail
  rw [hdp]
  dsimp only
  generalize MPZ_REALLOC s2 d (li + 1) = s3 at *
  have W4 := W3.append (List.replicate (li - D.length) 0) (Limbs_replicate_zero _) (by simp; omega)
  have hlen : (D ++ List.replicate (li - D.length) 0).length = li := by simp; omega
  have W5 := W4.append [bit] (limb_singleton hbit) (by simp; omega)
  rw [hlen] at W5
  have hl2 : (D ++ List.replicate (li - D.length) 0 ++ [bit]).length = li + 1 := by simp; omega
  have R := (W5.setSize (sgn neg (li + 1))).finZ_full neg (by rw [hl2]; simp)
  rw [ha] at R
  exact R.rebase hfr

/-- the same with the allocation written as mpz_setbit / mpz_clrbit state it -/
theorem extendTail_refines {s s2 : St} {d : Nat} {D : List Nat} (W : Wrote s s2 d D) (neg : Bool) (li bit : Nat)
    (hli : D.length ≤ li) (hbit : bit < B) (hsz : (s2.h d).size.natAbs ≤ (s2.h d).buf.alloc)
    (h1a : 1 ≤ (s.h d).buf.alloc) :
    Refines s (extendTail true 1 neg s2 d (s.PTR d) li D.length bit) d
      (ofZ (max (s.h d).buf.alloc (D ++ List.replicate (li - D.length) 0 ++ [bit]).length)
        ⟨neg, D ++ List.replicate (li - D.length) 0 ++ [bit]⟩) := by
  have hl : (D ++ List.replicate (li - D.length) 0 ++ [bit]).length = li + 1 := by simp; omega
  rw [hl]; exact extendTail_spec W neg li bit hli hbit hsz h1a

/-- setbit.c:74-85 / clrbit.c:38-49 -/
theorem clearTail_spec {s s2 : St} {d : Nat} {D : List Nat} (W : Wrote s s2 d D) (neg : Bool) (li bit : Nat)
    (hli : li < D.length) (hL : Limbs D) (hz : (s2.h d).size = sgn neg D.length) :
    Refines s (clearTail neg s2 d (s.PTR d) li D.length bit) d
      (ofZ (s.h d).buf.alloc
        (if D.getD li 0 &&& Bits.lnotL bit = 0 ∧ li = D.length - 1 then
          ⟨neg, Bits.stripTop (D.set li (D.getD li 0 &&& Bits.lnotL bit))⟩
         else ⟨neg, D.set li (D.getD li 0 &&& Bits.lnotL bit)⟩)) := by
  unfold clearTail
  rw [W.load li hli]
  dsimp only
  have hv : D.getD li 0 &&& Bits.lnotL bit < B := and_lt (getD_lt hL li)
  have W1 := W.store_set li (D.getD li 0 &&& Bits.lnotL bit) hli hv
  have hlen : (D.set li (D.getD li 0 &&& Bits.lnotL bit)).length = D.length := List.length_set
  by_cases hc : D.getD li 0 &&& Bits.lnotL bit = 0 ∧ li = D.length - 1
  · have hc' : ((D.getD li 0 &&& Bits.lnotL bit == 0) && (li == D.length - 1)) = true := by
      rw [Bool.and_eq_true]
      exact ⟨by rw [hc.1]; rfl, by rw [← hc.2]; exact beq_self_eq_true _⟩
    rw [if_pos hc', if_pos hc]
    unfold stripLoop Bits.stripTop
    have E := W1.fin_norm neg
    rw [hlen] at E
    exact E
  · have hc' : ((D.getD li 0 &&& Bits.lnotL bit == 0) && (li == D.length - 1)) = false := by
      rw [Bool.and_eq_false_iff]
      by_cases h1 : D.getD li 0 &&& Bits.lnotL bit = 0
      · right; simp; intro h2; exact hc ⟨h1, h2⟩
      · left; simpa using h1
    rw [hc', if_neg hc]
    simp only [Bool.false_eq_true, if_false]
    exact W1.finZ_full neg (by rw [hlen]; simpa [St.store] using hz)

/-- the same with the allocation as mpz_setbit / mpz_clrbit state it; `Z` is what the sign-magnitude model gives here -/
theorem clearTail_refines {s s2 : St} {d : Nat} {D : List Nat} (W : Wrote s s2 d D) (neg : Bool) (li bit : Nat)
    (hli : li < D.length) (hL : Limbs D) (hz : (s2.h d).size = sgn neg D.length) {Z : Bits.Z}
    (hZ : Z = if D.getD li 0 &&& Bits.lnotL bit = 0 ∧ li = D.length - 1 then
          ⟨neg, Bits.stripTop (D.set li (D.getD li 0 &&& Bits.lnotL bit))⟩
         else ⟨neg, D.set li (D.getD li 0 &&& Bits.lnotL bit)⟩) :
    Refines s (clearTail neg s2 d (s.PTR d) li D.length bit) d (ofZ (max (s.h d).buf.alloc Z.mag.length) Z) := by
  subst hZ
  have hfit : D.length ≤ (s.h d).buf.alloc := by rw [← W.alloc]; exact W.fit
  rw [Nat.max_eq_left]
  · exact clearTail_spec W neg li bit hli hL hz
  · refine Nat.le_trans ?_ hfit
    split
    · exact Nat.le_trans (normalize_length_le _) (by simp)
    · simp

/-- setbit.c:94-107 / clrbit.c:94-108 -/
theorem carryTail_spec {s s2 : St} {d : Nat} {M : List Nat} (W : Wrote s s2 d M) (li : Nat)
    (hli : li < M.length) (hL : Limbs M) (hz : (s2.h d).size = sgn true M.length)
    (hsz : M.length ≤ (s.h d).buf.alloc) (h1a : 1 ≤ (s.h d).buf.alloc) :
    Refines s (carryTail true 1 s2 d (s.PTR d) li M.length) d
      (ofZ (max (s.h d).buf.alloc (Bits.carryAbove M li).length) ⟨true, Bits.carryAbove M li⟩) := by
  obtain ⟨e, ok⟩ := W.rd_off (li + 1) (M.length - (li + 1)) (by omega)
  rw [List.take_of_length_le (by simp)] at e
  unfold carryTail Bits.carryAbove
  simp only [e, ok, chk_true]
  have hrl := incr_len (M.drop (li + 1))
  have hrL := Bits.incr_limbs (M.drop (li + 1)) (Limbs_drop hL _)
  have hrc := Bits.incr_cy (M.drop (li + 1))
  have W1 := W.wr_tail (li + 1) (Bits.incr (M.drop (li + 1))).1 hrL (by rw [hrl]; simp; omega)
  rw [show Bits.incr (M.drop (li + 1)) = ((Bits.incr (M.drop (li + 1))).1, (Bits.incr (M.drop (li + 1))).2) from rfl]
  dsimp only
  generalize (Bits.incr (M.drop (li + 1))).1 = r at *
  generalize (Bits.incr (M.drop (li + 1))).2 = c at *
  have hl1 : (M.take (li + 1) ++ r).length = M.length := by simp [hrl]; omega
  by_cases hc : c = 0
  · subst hc
    simp only [bne_self_eq_false, Bool.false_eq_true, if_false, ne_eq, not_true_eq_false]
    have R := W1.finZ_full true (by rw [hl1]; simpa using hz)
    rw [Nat.max_eq_left (by rw [hl1]; exact hsz)]
    exact R
  · have hc' : (c != 0) = true := by simpa using hc
    simp only [hc', if_true, ne_eq, hc, not_false_eq_true]
    have hsz2 : (((s2.wr ((s.PTR d).add (li + 1)) r).h d).size).natAbs ≤
        ((s2.wr ((s.PTR d).add (li + 1)) r).h d).buf.alloc := by
      simp only [wr_size, wr_alloc, hz, natAbs_sgn, W.alloc]; exact hsz
    obtain ⟨W3, ha, _, hfr, hdp⟩ := W1.realloc (M.length + 1) hsz2 h1a
    rw [hdp]
    dsimp only
    generalize MPZ_REALLOC (s2.wr ((s.PTR d).add (li + 1)) r) d (M.length + 1) = s3 at *
    have W4 := W3.append [1] (limb_singleton (by unfold B; omega)) (by rw [ha, hl1]; simp)
    rw [hl1] at W4
    have hl2 : (M.take (li + 1) ++ r ++ [1]).length = M.length + 1 := by simp [hrl]; omega
    have R := (W4.setSize (sgn true (M.length + 1))).finZ_full true (by rw [hl2]; simp)
    rw [ha] at R
    have e3 : M.take (li + 1) ++ (r ++ [1]) = M.take (li + 1) ++ r ++ [1] := by simp
    rw [e3, hl2]
    exact (by simpa [St.store] using R.rebase hfr)

/-! ### mpz/setbit.c, then mpz/clrbit.c -/

/-- mpz_setbit / mpz_clrbit reallocate exactly when the result has more limbs than the block -/
def Spec.setbit (w : Mpz.Mpz) (i : Nat) : Mpz.Mpz :=
  ofZ (max w.alloc (Bits.mpz_setbit (zOf w) i).mag.length) (Bits.mpz_setbit (zOf w) i)

def Spec.clrbit (w : Mpz.Mpz) (i : Nat) : Mpz.Mpz :=
  ofZ (max w.alloc (Bits.mpz_clrbit (zOf w) i).mag.length) (Bits.mpz_clrbit (zOf w) i)

theorem size_neg_eq {z : Int} {n : Nat} (h : ¬ z ≥ 0) (hn : z.natAbs = n) : z = sgn true n := by
  unfold sgn; simp only [if_true]; omega

theorem size_pos_eq {z : Int} {n : Nat} (h : z ≥ 0) (hn : z.natAbs = n) : z = sgn false n := by
  unfold sgn; simp only [Bool.false_eq_true, if_false]; omega

theorem setbit_refines (s : St) (d i : Nat) (hs : s.ok = true) (hd : OWF (s.h d)) :
    Refines s (setbit true 1 s d i) d (Spec.setbit (view (s.h d)) i) := by
  have O := Opnd.of_owf hd
  have W0 := O.wrote hs
  have hD := O.len
  have hfit := view_fit hd
  unfold Spec.setbit
  rw [zOf_view O, view_alloc]
  generalize (view (s.h d)).d = D at *
  have hbit := Bits.bit_lt_B i
  unfold setbit
  simp only [St.SIZ]
  by_cases hpos : (s.h d).size ≥ 0
  · have hneg : decide ((s.h d).size < 0) = false := by simp; omega
    have hsize := size_pos_eq hpos hD.symm
    rw [hneg]; simp only [hpos, if_true]
    by_cases hli : i / 64 < (s.h d).size.natAbs
    · have hZ : Bits.mpz_setbit ⟨false, D⟩ i = ⟨false, D.set (i / 64) (D.getD (i / 64) 0 ||| 2 ^ (i % 64))⟩ := by
        unfold Bits.mpz_setbit; simp [hD, hli]
      rw [hZ]; simp only [hli, if_true]
      rw [W0.load (i / 64) (by omega)]
      dsimp only
      have W1 := W0.store_set (i / 64) (D.getD (i / 64) 0 ||| 2 ^ (i % 64)) (by omega)
        (Bits.or_lt_B (getD_lt O.limbs _) hbit)
      have hlen : (D.set (i / 64) (D.getD (i / 64) 0 ||| 2 ^ (i % 64))).length = D.length := List.length_set
      have R := (W1.setSize ((s.h d).size.natAbs : Int)).finZ_full false (by rw [hlen, hD]; simp [sgn])
      rw [hlen, Nat.max_eq_left (by omega)]
      exact R
    · have hZ : Bits.mpz_setbit ⟨false, D⟩ i = ⟨false, D ++ List.replicate (i / 64 - D.length) 0 ++ [2 ^ (i % 64)]⟩ := by
        unfold Bits.mpz_setbit; simp [hD, hli]
      rw [hZ]; simp only [hli, if_false]
      rw [← hD]
      exact extendTail_refines W0 false (i / 64) (2 ^ (i % 64)) (by omega) hbit hfit hd.alloc_pos
  · have hneg : decide ((s.h d).size < 0) = true := by simp; omega
    have hsize := size_neg_eq hpos hD.symm
    have hv1 := O.val_pos (O.ne_nil (by omega))
    obtain ⟨zb1, zb2, _, _⟩ := Bits.zeroBound_spec D hv1
    have hzs := zeroBoundScan_spec W0 zb1
    rw [hD] at hzs
    rw [hneg]; simp only [hpos, if_false, hzs]
    have hz1 : (s.h d).size = sgn true D.length := hsize
    by_cases hgt : i / 64 > Bits.zeroBound D
    · simp only [hgt, if_true]
      by_cases hli : i / 64 < (s.h d).size.natAbs
      · simp only [hli, if_true]
        rw [← hD]
        exact clearTail_refines W0 true (i / 64) (2 ^ (i % 64)) (by omega) O.limbs hz1
          (by unfold Bits.mpz_setbit; simp [hD, hli, hgt])
      · simp only [hli, if_false]
        have hZ : Bits.mpz_setbit ⟨true, D⟩ i = ⟨true, D⟩ := by
          unfold Bits.mpz_setbit; simp [hD, hli, hgt]
        rw [hZ, Nat.max_eq_left (by simp; omega)]
        exact W0.finZ_full true hz1
    · simp only [hgt, if_false]
      by_cases heq : i / 64 = Bits.zeroBound D
      · have heq' : (i / 64 == Bits.zeroBound D) = true := by simp [heq]
        simp only [heq', if_true]
        rw [W0.load (i / 64) (by omega)]
        dsimp only
        obtain ⟨x0, _, _, _⟩ := Bits.setbit_neg_at D i O.limbs O.norm hv1 heq
        have x0' : ((((D.getD (i / 64) 0 + B - 1) % B &&& Bits.lnotL (2 ^ (i % 64))) + 1) % B == 0) = false := by
          simpa using x0
        simp only [x0', Bool.false_eq_true, if_false]
        have hZ : Bits.mpz_setbit ⟨true, D⟩ i =
            ⟨true, D.set (i / 64) ((((D.getD (i / 64) 0 + B - 1) % B &&& Bits.lnotL (2 ^ (i % 64))) + 1) % B)⟩ := by
          unfold Bits.mpz_setbit
          simp only [Bool.not_true, Bool.false_eq_true, if_false]
          rw [if_neg hgt, if_pos heq, if_neg x0]
        rw [hZ]
        have W2 := W0.store_set (i / 64)
          ((((D.getD (i / 64) 0 + B - 1) % B &&& Bits.lnotL (2 ^ (i % 64))) + 1) % B) (by omega) (Nat.mod_lt _ B_pos)
        have hlen : (D.set (i / 64) ((((D.getD (i / 64) 0 + B - 1) % B &&& Bits.lnotL (2 ^ (i % 64))) + 1) % B)).length
            = D.length := List.length_set
        rw [hlen, Nat.max_eq_left (by omega)]
        exact W2.finZ_full true (by rw [hlen]; simpa [St.store] using hz1)
      · have heq' : (i / 64 == Bits.zeroBound D) = false := by simp [heq]
        simp only [heq', Bool.false_eq_true, if_false]
        have hlt : i / 64 < Bits.zeroBound D := by omega
        have hZ : Bits.mpz_setbit ⟨true, D⟩ i =
            ⟨true, Bits.dropTopZero (D.take (i / 64) ++ (Bits.subLimb (D.drop (i / 64)) (2 ^ (i % 64))).1)⟩ := by
          unfold Bits.mpz_setbit; simp [hgt, heq]
        rw [hZ]
        obtain ⟨e, ok⟩ := W0.rd_off (i / 64) ((s.h d).size.natAbs - i / 64) (by omega)
        rw [List.take_of_length_le (by simp; omega)] at e
        simp only [e, ok, chk_true]
        have hsl := subLimb_len (D.drop (i / 64)) (2 ^ (i % 64))
        have hsL := subLimb_limbs (D.drop (i / 64)) (2 ^ (i % 64)) (Limbs_drop O.limbs _)
        have W2 := W0.wr_tail (i / 64) (Bits.subLimb (D.drop (i / 64)) (2 ^ (i % 64))).1 hsL
          (by rw [hsl]; simp; omega)
        generalize hMd : D.take (i / 64) ++ (Bits.subLimb (D.drop (i / 64)) (2 ^ (i % 64))).1 = M at *
        have hMl : M.length = D.length := by rw [← hMd]; simp [hsl]; omega
        have hMne : M ≠ [] := by intro h; rw [h] at hMl; simp at hMl; omega
        rw [← hD, ← hMl, W2.load (M.length - 1) (by omega)]
        dsimp only
        have hdt := dropTopZero_take M hMne
        have hh : ((M.drop (M.length - 1)).take 1).headD junk = M.getD (M.length - 1) 0 :=
          headD_drop_take M _ (by omega)
        rw [hh] at hdt
        rw [hdt]
        generalize hk : M.length - (if (M.getD (M.length - 1) 0 == 0) = true then 1 else 0) = k at *
        have hkl : (M.take k).length = k := by simp; omega
        rw [hkl, Nat.max_eq_left (by omega)]
        exact (W2.setSize (sgn true k)).finZ true (M.take k) (by rw [hkl]; simp) (by rw [hkl])

theorem clrbit_refines (s : St) (d i : Nat) (hs : s.ok = true) (hd : OWF (s.h d)) :
    Refines s (clrbit true 1 s d i) d (Spec.clrbit (view (s.h d)) i) := by
  have O := Opnd.of_owf hd
  have W0 := O.wrote hs
  have hD := O.len
  have hfit := view_fit hd
  unfold Spec.clrbit
  rw [zOf_view O, view_alloc]
  generalize (view (s.h d)).d = D at *
  have hbit := Bits.bit_lt_B i
  unfold clrbit
  simp only [St.SIZ]
  by_cases hpos : (s.h d).size ≥ 0
  · have hneg : decide ((s.h d).size < 0) = false := by simp; omega
    have hsize := size_pos_eq hpos hD.symm
    rw [hneg]; simp only [hpos, if_true]
    by_cases hli : i / 64 < (s.h d).size.natAbs
    · simp only [hli, if_true]
      rw [← hD]
      exact clearTail_refines W0 false (i / 64) (2 ^ (i % 64)) (by omega) O.limbs hsize
        (by unfold Bits.mpz_clrbit; simp [hD, hli])
    · simp only [hli, if_false]
      have hZ : Bits.mpz_clrbit ⟨false, D⟩ i = ⟨false, D⟩ := by
        unfold Bits.mpz_clrbit; simp [hD, hli]
      rw [hZ, Nat.max_eq_left (by simp; omega)]
      exact W0.finZ_full false hsize
  · have hneg : decide ((s.h d).size < 0) = true := by simp; omega
    have hsize := size_neg_eq hpos hD.symm
    have hv1 := O.val_pos (O.ne_nil (by omega))
    obtain ⟨zb1, zb2, _, _⟩ := Bits.zeroBound_spec D hv1
    have hzs := zeroBoundScan_spec W0 zb1
    rw [hD] at hzs
    rw [hneg]; simp only [hpos, if_false, hzs]
    have hz1 : (s.h d).size = sgn true D.length := hsize
    by_cases hgt : i / 64 > Bits.zeroBound D
    · simp only [hgt, if_true]
      by_cases hli : i / 64 < (s.h d).size.natAbs
      · simp only [hli, if_true]
        have hZ : Bits.mpz_clrbit ⟨true, D⟩ i = ⟨true, D.set (i / 64) (D.getD (i / 64) 0 ||| 2 ^ (i % 64))⟩ := by
          unfold Bits.mpz_clrbit; simp [hD, hli, hgt]
        rw [hZ, W0.load (i / 64) (by omega)]
        dsimp only
        have W2 := W0.store_set (i / 64) (D.getD (i / 64) 0 ||| 2 ^ (i % 64)) (by omega)
          (Bits.or_lt_B (getD_lt O.limbs _) hbit)
        have hlen : (D.set (i / 64) (D.getD (i / 64) 0 ||| 2 ^ (i % 64))).length = D.length := List.length_set
        rw [hlen, Nat.max_eq_left (by omega)]
        exact W2.finZ_full true (by rw [hlen]; simpa [St.store] using hz1)
      · simp only [hli, if_false]
        have hZ : Bits.mpz_clrbit ⟨true, D⟩ i = ⟨true, D ++ List.replicate (i / 64 - D.length) 0 ++ [2 ^ (i % 64)]⟩ := by
          unfold Bits.mpz_clrbit; simp [hD, hli, hgt]
        rw [hZ, ← hD]
        exact extendTail_refines W0 true (i / 64) (2 ^ (i % 64)) (by omega) hbit hfit hd.alloc_pos
    · simp only [hgt, if_false]
      by_cases heq : i / 64 = Bits.zeroBound D
      · have heq' : (i / 64 == Bits.zeroBound D) = true := by simp [heq]
        simp only [heq', if_true]
        rw [W0.load (i / 64) (by omega)]
        dsimp only
        generalize hx : ((((D.getD (i / 64) 0 + B - 1) % B) ||| 2 ^ (i % 64)) + 1) % B = x
        have hxB : x < B := by rw [← hx]; exact Nat.mod_lt _ B_pos
        have W2 := W0.store_set (i / 64) x (by omega) hxB
        have hlen : (D.set (i / 64) x).length = D.length := List.length_set
        have hz2 : ((s.store (s.PTR d) (i / 64) x).h d).size = sgn true (D.set (i / 64) x).length := by
          rw [hlen]; simpa [St.store] using hz1
        by_cases hx0 : x = 0
        · have hx0' : (x == 0) = true := by simp [hx0]
          simp only [hx0', if_true]
          have hZ : Bits.mpz_clrbit ⟨true, D⟩ i = ⟨true, Bits.carryAbove (D.set (i / 64) x) (i / 64)⟩ := by
            unfold Bits.mpz_clrbit
            simp only [Bool.not_true, Bool.false_eq_true, if_false]
            rw [if_neg hgt, if_pos heq, hx, if_pos hx0]
          rw [hZ]
          have E := carryTail_spec W2 (i / 64) (by rw [hlen]; omega) (Limbs_set O.limbs _ _ hxB) hz2
            (by rw [hlen]; omega) hd.alloc_pos
          rw [hlen, hD] at E
          exact E
        · have hx0' : (x == 0) = false := by simp [hx0]
          simp only [hx0', Bool.false_eq_true, if_false]
          have hZ : Bits.mpz_clrbit ⟨true, D⟩ i = ⟨true, D.set (i / 64) x⟩ := by
            unfold Bits.mpz_clrbit
            simp only [Bool.not_true, Bool.false_eq_true, if_false]
            rw [if_neg hgt, if_pos heq, hx, if_neg hx0]
          rw [hZ, hlen, Nat.max_eq_left (by omega)]
          exact W2.finZ_full true hz2
      · have heq' : (i / 64 == Bits.zeroBound D) = false := by simp [heq]
        simp only [heq', Bool.false_eq_true, if_false]
        have hZ : Bits.mpz_clrbit ⟨true, D⟩ i = ⟨true, D⟩ := by
          unfold Bits.mpz_clrbit
          simp only [Bool.not_true, Bool.false_eq_true, if_false]
          rw [if_neg hgt, if_neg heq]
        rw [hZ, Nat.max_eq_left (by simp; omega)]
        exact W0.finZ_full true hz1

end Mpir.AllocSafe
end
