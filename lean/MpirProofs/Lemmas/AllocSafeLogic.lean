/- mpz_and, mpz_xor and the ++ case of mpz_ior on the size-aware model (Mpir/Model/AllocSafeMpz2.lean), after the `Wrote` rules of
   the kernels they share (temporary decrement, scan, loop, copy, add-one tail). -/

import MpirProofs.Lemmas.AllocSafe
import MpirProofs.Lemmas.Bits
import Mpir.Model.AllocSafeMpz2

section
namespace Mpir.AllocSafe
open Mpir
open Mpir.Mpz (sgn Norm natAbs_sgn)
open Mpir.Bits (addLimb_len subLimb_len addLimb_limbs addLimb_cy)

theorem zipWith_take_full (f : Nat → Nat → Nat) (a b : List Nat) (m : Nat) (hm : min a.length b.length ≤ m) :
    List.zipWith f (a.take m) (b.take m) = List.zipWith f a b := by
  rw [← List.take_zipWith]
  exact List.take_of_length_le (by simp; omega)

theorem Limbs_zipWith (f : Nat → Nat → Nat) (hf : ∀ a b, a < B → b < B → f a b < B) :
    ∀ (u v : List Nat), Limbs u → Limbs v → Limbs (List.zipWith f u v)
  | [], _, _, _ => by simp [Limbs]
  | _ :: _, [], _, _ => by simp [Limbs]
  | x :: xs, y :: ys, hu, hv => by
    have ⟨hx, hxs⟩ := Limbs_cons.mp hu
    have ⟨hy, hys⟩ := Limbs_cons.mp hv
    simp only [List.zipWith_cons_cons]
    exact Limbs_cons.mpr ⟨hf x y hx hy, Limbs_zipWith f hf xs ys hxs hys⟩

theorem and_lt {a b : Nat} (ha : a < B) : a &&& b < B := Nat.lt_of_le_of_lt Nat.and_le_left ha
theorem xor_lt {a b : Nat} (ha : a < B) (hb : b < B) : a ^^^ b < B := by unfold B at *; exact Nat.xor_lt_two_pow ha hb
theorem andn_lt {a b : Nat} (ha : a < B) : andn a b < B := and_lt ha
/-- `tmp_sub_1` from an operand holding `L`: no bad access, and the block holds `subLimb (L.take n) 1` whatever happens to
    the heap afterwards -/
theorem tmp_sub_1_spec (s : St) (up : Ptr) (L : List Nat) (n : Nat) (D : Den s (.ptr up) L) (hn : n ≤ L.length) :
    ∃ opx, tmp_sub_1 s up n = (opx, s) ∧ ∀ s', Den s' (.tmp opx 0) (Bits.subLimb (L.take n) 1).1 := by
  obtain ⟨e, ok⟩ := D.rd n hn
  simp only [St.rdS, St.rdOkS] at e ok
  have hlen : (Bits.subLimb (L.take n) 1).1.length = n := by rw [subLimb_len]; simp; omega
  refine ⟨⟨n, (Bits.subLimb (L.take n) 1).1⟩, ?_, fun s' => ⟨rfl, by simp [hlen], List.take_of_length_le (Nat.le_refl _)⟩⟩
  simp [tmp_sub_1, e, ok, Buf.write, Buf.new, hlen, chk_true]

theorem logop_scan_spec (f : Nat → Nat → Nat) (s : St) (a b : Src) (A Bl : List Nat) (n : Nat)
    (Da : Den s a A) (Db : Den s b Bl) (ha : n ≤ A.length) (hb : n ≤ Bl.length) :
    logop_scan f s a b n = (Bits.scanTop (List.zipWith f (A.take n) (Bl.take n)), s) := by
  obtain ⟨ea, oka⟩ := Da.rd n ha
  obtain ⟨eb, okb⟩ := Db.rd n hb
  simp [logop_scan, ea, eb, oka, okb, chk_true]

/-- the loop / `mpn_and_n` storing at `res_ptr`, after `R` -/
theorem Wrote.logop {s1 s2 : St} {w : Nat} {R : List Nat} (W : Wrote s1 s2 w R) (f : Nat → Nat → Nat)
    (hf : ∀ a b, a < B → b < B → f a b < B) (a b : Src) (A Bl : List Nat) (n : Nat)
    (Da : Den s2 a A) (Db : Den s2 b Bl) (ha : n ≤ A.length) (hb : n ≤ Bl.length) (hA : Limbs A) (hB : Limbs Bl)
    (hn : n ≤ (s1.h w).buf.alloc) :
    Wrote s1 (logop_n f s2 (s1.PTR w) a b n) w (List.zipWith f (A.take n) (Bl.take n) ++ R.drop n) := by
  obtain ⟨ea, oka⟩ := Da.rd n ha
  obtain ⟨eb, okb⟩ := Db.rd n hb
  have hlen : (List.zipWith f (A.take n) (Bl.take n)).length = n := by simp; omega
  have W' := W.wr_low _ (Limbs_zipWith f hf _ _ (Limbs_take hA _) (Limbs_take hB _)) (by rw [hlen]; exact hn)
  rw [hlen] at W'
  simpa [logop_n, ea, eb, oka, okb, chk_true] using W'

/-- MPN_COPY to `res_ptr + k` from `src + k` -/
theorem Wrote.copy {s1 s2 : St} {w : Nat} {R : List Nat} (W : Wrote s1 s2 w R) (a : Src) (A : List Nat) (k n : Nat)
    (Da : Den s2 a A) (ha : k + n ≤ A.length) (hA : Limbs A) (hk : k ≤ R.length)
    (hfit : k + n ≤ (s1.h w).buf.alloc) :
    Wrote s1 (copy_S s2 ((s1.PTR w).add k) (a.add k) n) w (R.take k ++ (A.drop k).take n ++ R.drop (k + n)) := by
  obtain ⟨ea, oka⟩ := Da.rd_add k n ha
  have hlen : ((A.drop k).take n).length = n := by simp; omega
  have W' := W.wr k ((A.drop k).take n) (Limbs_take (Limbs_drop hA _) _) hk (by rw [hlen]; exact hfit)
  rw [hlen] at W'
  simpa [copy_S, ea, oka, chk_true] using W'

/-- `MPN_COPY (rp + k, xp + k, n - k); for (i = k - 1; i >= 0; i--) rp[i] = f (ap[i], bp[i]);` on a fresh state
    (`xp` may be `ap` or `bp`, and any of them may be the destination's own block: the copy goes to limbs at or above k,
    the loop reads below k) -/
theorem Wrote.cat {s1 : St} {w : Nat} (hs : s1.ok = true) (hb : BWF (s1.h w).buf) (f : Nat → Nat → Nat)
    (hf : ∀ a b, a < B → b < B → f a b < B) (a b x : Src) (A Bl X : List Nat) (k : Nat)
    (Da : Den s1 a A) (Db : Den s1 b Bl) (Dx : Den s1 x X) (ha : k ≤ A.length) (hbl : k ≤ Bl.length) (hx : k ≤ X.length)
    (hA : Limbs A) (hB : Limbs Bl) (hX : Limbs X) (hfit : X.length ≤ (s1.h w).buf.alloc) :
    Wrote s1 (logop_n f (copy_S s1 ((s1.PTR w).add k) (x.add k) (X.length - k)) (s1.PTR w) a b k) w
      (List.zipWith f (A.take k) (Bl.take k) ++ X.drop k) := by
  have W0 := Wrote.refl s1 w k hs hb (by omega)
  have hR0 : ((s1.h w).buf.limbs.take k).length = k := by rw [List.length_take, hb.1]; omega
  generalize (s1.h w).buf.limbs.take k = R0 at W0 hR0
  have W1 := W0.copy x X k (X.length - k) Dx (by omega) hX (by omega) (by omega)
  have Da' : Den (copy_S s1 ((s1.PTR w).add k) (x.add k) (X.length - k)) a (A.take k) :=
    ((Da.take k).chk _).wr _ _ (by simp)
  have Db' : Den (copy_S s1 ((s1.PTR w).add k) (x.add k) (X.length - k)) b (Bl.take k) :=
    ((Db.take k).chk _).wr _ _ (by simp)
  have W2 := W1.logop f hf a b (A.take k) (Bl.take k) k Da' Db' (by simp; omega) (by simp; omega)
    (Limbs_take hA _) (Limbs_take hB _) (by omega)
  have e1 : List.take k R0 = R0 := List.take_of_length_le (by omega)
  have e2 : List.take (X.length - k) (List.drop k X) = X.drop k := List.take_of_length_le (by simp)
  have e3 : List.drop (k + (X.length - k)) R0 = [] := List.drop_of_length_le (by omega)
  rwa [e1, e2, e3, List.append_nil, List.drop_left' hR0, List.take_take, List.take_take, Nat.min_self] at W2

theorem addOneGrow_eq (r : List Nat) : Bits.addOneGrow r =
    if (Bits.addLimb r 1).2 ≠ 0 then (Bits.addLimb r 1).1 ++ [(Bits.addLimb r 1).2] else (Bits.addLimb r 1).1 := rfl

theorem addOneGrow_len_ge (r : List Nat) : r.length ≤ (Bits.addOneGrow r).length := by
  rw [addOneGrow_eq]; split <;> simp [addLimb_len]

/-- `cy = mpn_add_1 (rp, rp, n, 1); if (cy) { rp[n] = cy; n++; }` on what has been written, as soon as the RESULT fits the
    block (ior.c requests no limb for a carry that cannot come) -/
theorem Wrote.addOne {s1 s2 : St} {w : Nat} {R : List Nat} (W : Wrote s1 s2 w R) (hne : R ≠ [])
    (hfit : (Bits.addOneGrow R).length ≤ (s1.h w).buf.alloc) :
    ∃ s3, addOneTail s2 (s1.PTR w) R.length = ((Bits.addOneGrow R).length, s3) ∧ Wrote s1 s3 w (Bits.addOneGrow R) := by
  obtain ⟨e, ok⟩ := W.rd_all
  have hlen := addLimb_len R 1
  have hRfit := W.fit
  have W1 := W.wr_over (Bits.addLimb R 1).1 (addLimb_limbs R 1 W.limbs) (by omega) (by rw [← W.alloc]; omega)
  rw [addOneGrow_eq] at hfit ⊢
  unfold addOneTail
  simp only [e, ok, chk_true]
  by_cases hc : (Bits.addLimb R 1).2 = 0
  · have hc' : ((Bits.addLimb R 1).2 != 0) = false := by simp [hc]
    exact ⟨s2.wr (s1.PTR w) (Bits.addLimb R 1).1, by simp [hc', hc, hlen], by simpa [hc] using W1⟩
  · have hc' : ((Bits.addLimb R 1).2 != 0) = true := by simp [hc]
    rw [if_pos hc] at hfit
    have W2 := W1.append [(Bits.addLimb R 1).2] (limb_singleton (by have := addLimb_cy R 1 hne; have := B_eq; omega))
      (by simpa using hfit)
    rw [hlen] at W2
    exact ⟨(s2.wr (s1.PTR w) (Bits.addLimb R 1).1).store (s1.PTR w) R.length (Bits.addLimb R 1).2,
      by simp [hc', hc, hlen], by simpa [hc, St.store] using W2⟩

/-- `Wrote.addOne` with the state named; the name the check scripts register -/
theorem Wrote.addOne' {s1 s2 : St} {w : Nat} {R : List Nat} (W : Wrote s1 s2 w R) (hne : R ≠ [])
    (hfit : (Bits.addOneGrow R).length ≤ (s1.h w).buf.alloc) :
    (addOneTail s2 (s1.PTR w) R.length).1 = (Bits.addOneGrow R).length ∧
    Wrote s1 (addOneTail s2 (s1.PTR w) R.length).2 w (Bits.addOneGrow R) := by
  obtain ⟨s3, e, W3⟩ := W.addOne hne hfit
  rw [e]; exact ⟨rfl, W3⟩
end Mpir.AllocSafe
end

/-! ## mpz/and.c: every sign case refines the C10 sign-magnitude model (Mpir/Model/Bits.lean); `ofZ`, `zOf` and what xor, ior and the
    bit functions use of them as well -/

section
namespace Mpir.AllocSafe
open Mpir
open Mpir.Mpz (sgn Norm natAbs_sgn)
open Mpir.Bits (subLimb_len subLimb_limbs addOneGrow_len_le scanTop_le)

/-- the object a sign-magnitude result stands for, in a block of `a` limbs -/
def ofZ (a : Nat) (z : Bits.Z) : Mpz.Mpz := ⟨a, sgn z.neg z.mag.length, z.mag⟩

/-- the sign-magnitude value of an object -/
def zOf (m : Mpz.Mpz) : Bits.Z := ⟨decide (m.size < 0), m.d⟩

theorem zOf_view {s : St} {x : Nat} {L : List Nat} (O : Opnd s x L) : zOf (view (s.h x)) = ⟨decide ((s.h x).size < 0), L⟩ :=
  O.eq ▸ rfl

theorem and_pp_refines (s : St) (res op1 op2 : Nat) {A Bv : List Nat} (hs : s.ok = true) (hw : OWF (s.h res))
    (Ou : Opnd s op1 A) (Ov : Opnd s op2 Bv) :
    Refines s (and_pp true s res op1 op2 A.length Bv.length) res
      (ofZ (Mpz.grow (view (s.h res)) (Bits.andPP A Bv).mag.length).alloc (Bits.andPP A Bv)) := by
  have hscan := logop_scan_spec (· &&& ·) s _ _ A Bv (min A.length Bv.length) Ou.den Ov.den (by omega) (by omega)
  rw [show List.zipWith (· &&& ·) (A.take (min A.length Bv.length)) (Bv.take (min A.length Bv.length)) = Bits.and_n A Bv from
    zipWith_take_full _ _ _ _ (by omega)] at hscan
  have hrsle : Bits.scanTop (Bits.and_n A Bv) ≤ min A.length Bv.length := by
    have := scanTop_le (Bits.and_n A Bv); simpa [Bits.and_n] using this
  unfold and_pp Bits.andPP ofZ
  simp only [hscan, realloc_if, reptr_eq]
  generalize Bits.scanTop (Bits.and_n A Bv) = rs at *
  have G := MPZ_REALLOC_grown s res rs hw
  have hlen : (Bits.and_n (A.take rs) (Bv.take rs)).length = rs := by simp [Bits.and_n]; omega
  rw [hlen]
  refine G.refines ?_
  have Da1 := (Ou.den_grown G).setSize res rs
  have Db1 := (Ov.den_grown G).setSize res rs
  have W0 := (Wrote.refl _ res 0 (G.ok.trans hs) (G.bwf res hw.1) (Nat.zero_le _)).setSize (rs : Int)
  generalize MPZ_REALLOC s res rs = s1 at *
  by_cases h0 : rs = 0
  · subst h0
    have R := W0.refines 0 (by simp) (by simp)
    simpa [Bits.and_n, sgn] using R
  · have h0' : (rs != 0) = true := by simpa using h0
    simp only [h0', if_true]
    have W1 := W0.logop (· &&& ·) (fun a b ha _ => and_lt ha) _ _ A Bv rs Da1 Db1 (by omega) (by omega) Ou.limbs Ov.limbs
      G.room
    have R := W1.refines rs (by simp [logop_n]) (by simp; omega)
    simp only [List.take_zero, List.drop_nil, List.append_nil, Int.natAbs_natCast] at R
    rw [List.take_of_length_le (by simp)] at R
    simpa [Bits.and_n, sgn] using R

/-- and.c:132-139 / xor.c:197-205 / ior.c:139-152 after `R` (non-empty) has been written: the `+ 1` with its carry store, and
    the negative size -/
theorem Wrote.addOne_end {s1 s2 : St} {w : Nat} {R : List Nat} (W : Wrote s1 s2 w R) (hne : R ≠ [])
    (hfit : (Bits.addOneGrow R).length ≤ (s1.h w).buf.alloc) :
    Refines s1 ((addOneTail s2 (s1.PTR w) R.length).2.setSize w (sgn true (addOneTail s2 (s1.PTR w) R.length).1)) w
      ⟨(s1.h w).buf.alloc, sgn true (Bits.addOneGrow R).length, Bits.addOneGrow R⟩ := by
  obtain ⟨s3, e, W3⟩ := W.addOne hne hfit
  rw [e]
  exact W3.fin_all true

theorem and_nn_refines (s : St) (res op1 op2 : Nat) {A Bv : List Nat} (hs : s.ok = true) (hw : OWF (s.h res))
    (Ou : Opnd s op1 A) (Ov : Opnd s op2 Bv) (h1 : A ≠ []) (h2 : Bv ≠ []) :
    Refines s (and_nn 1 s res op1 op2 A.length Bv.length) res
      (ofZ (Mpz.grow (view (s.h res)) (1 + max A.length Bv.length)).alloc (Bits.andNN A Bv)) := by
  have hn1 := List.length_pos_iff.mpr h1
  have hn2 := List.length_pos_iff.mpr h2
  obtain ⟨opx1, e1, t1D⟩ := tmp_sub_1_spec s (s.PTR op1) A A.length Ou.den (Nat.le_refl _)
  obtain ⟨opx2, e2, t2D⟩ := tmp_sub_1_spec s (s.PTR op2) Bv Bv.length Ov.den (Nat.le_refl _)
  rw [List.take_length] at t1D t2D
  have hO1 := subLimb_len A 1
  have hO2 := subLimb_len Bv 1
  have LO1 := subLimb_limbs A 1 Ou.limbs
  have LO2 := subLimb_limbs Bv 1 Ov.limbs
  unfold and_nn Bits.andNN ofZ
  simp only [e1, e2, realloc_if, reptr_eq]
  generalize (Bits.subLimb A 1).1 = O1 at *
  generalize (Bits.subLimb Bv 1).1 = O2 at *
  have G := MPZ_REALLOC_grown s res (1 + max A.length Bv.length) hw
  refine G.refines ?_
  have hok1 := G.ok.trans hs
  have hbw := G.bwf res hw.1
  have hroom := G.room
  generalize MPZ_REALLOC s res (1 + max A.length Bv.length) = s1 at *
  by_cases hge : A.length ≥ Bv.length
  · simp only [hge, if_true]
    have W2 := Wrote.cat hok1 hbw (· ||| ·) (fun a b ha hb => Bits.or_lt_B ha hb) (.tmp opx1 0) (.tmp opx2 0) (.tmp opx1 0)
      O1 O2 O1 Bv.length (t1D s1) (t2D s1) (t1D s1) (by omega) (by omega) (by omega) LO1 LO2 LO1 (by omega)
    rw [hO1, zipWith_take_full _ _ _ _ (by omega)] at W2
    have hl : (List.zipWith (fun x1 x2 => x1 ||| x2) O1 O2 ++ List.drop Bv.length O1).length = A.length := by simp; omega
    have K := W2.addOne_end (by intro h; rw [h] at hl; simp at hl; omega)
      (Nat.le_trans (addOneGrow_len_le _) (by rw [hl]; omega))
    rwa [hl] at K
  · simp only [hge, if_false]
    have W2 := Wrote.cat hok1 hbw (· ||| ·) (fun a b ha hb => Bits.or_lt_B ha hb) (.tmp opx1 0) (.tmp opx2 0) (.tmp opx2 0)
      O1 O2 O2 A.length (t1D s1) (t2D s1) (t2D s1) (by omega) (by omega) (by omega) LO1 LO2 LO2 (by omega)
    rw [hO2, zipWith_take_full _ _ _ _ (by omega)] at W2
    have hl : (List.zipWith (fun x1 x2 => x1 ||| x2) O1 O2 ++ List.drop A.length O2).length = Bv.length := by simp; omega
    have K := W2.addOne_end (by intro h; rw [h] at hl; simp at hl; omega)
      (Nat.le_trans (addOneGrow_len_le _) (by rw [hl]; omega))
    rwa [hl] at K

theorem andn_n_eq (u v : List Nat) : Bits.andn_n u v = List.zipWith andn u v := rfl

theorem and_pn_refines (s : St) (res op1 op2 : Nat) {A Bv : List Nat} (hs : s.ok = true) (hw : OWF (s.h res))
    (Ou : Opnd s op1 A) (Ov : Opnd s op2 Bv) :
    Refines s (and_pn true s res op1 op2 A.length Bv.length) res
      (ofZ (Mpz.grow (view (s.h res)) (Bits.andPN A Bv).mag.length).alloc (Bits.andPN A Bv)) := by
  obtain ⟨opx, e2, t2D⟩ := tmp_sub_1_spec s (s.PTR op2) Bv Bv.length Ov.den (Nat.le_refl _)
  rw [List.take_length] at t2D
  have hO2 := subLimb_len Bv 1
  have LO2 := subLimb_limbs Bv 1 Ov.limbs
  unfold and_pn Bits.andPN ofZ
  simp only [e2]
  generalize (Bits.subLimb Bv 1).1 = O2 at *
  by_cases hgt : A.length > Bv.length
  · simp only [hgt, if_true, realloc_if, reptr_eq]
    have hmag : (Bits.andn_n A O2 ++ List.drop Bv.length A).length = A.length := by simp [Bits.andn_n]; omega
    rw [hmag]
    have G := MPZ_REALLOC_grown s res A.length hw
    refine G.refines ?_
    have Da1 := Ou.den_grown G
    have W2 := Wrote.cat (G.ok.trans hs) (G.bwf res hw.1) andn (fun a b ha _ => andn_lt ha) _ (.tmp opx 0) _
      A O2 A Bv.length Da1 (t2D _) Da1 (by omega) (by omega) (by omega) Ou.limbs LO2 Ou.limbs G.room
    rw [zipWith_take_full _ _ _ _ (by omega)] at W2
    have R := W2.fin_all false
    rw [andn_n_eq] at hmag ⊢
    rw [hmag] at R
    simpa [Src.add, sgn] using R
  · simp only [hgt, if_false]
    have hscan := logop_scan_spec andn s _ _ A O2 A.length Ou.den (t2D _) (by omega) (by omega)
    rw [zipWith_take_full _ _ _ _ (by omega)] at hscan
    have hrsle : Bits.scanTop (Bits.andn_n A O2) ≤ min A.length O2.length := by
      have := scanTop_le (Bits.andn_n A O2); simpa [Bits.andn_n] using this
    rw [andn_n_eq] at hrsle
    simp only [hscan, realloc_if, reptr_eq, andn_n_eq]
    generalize Bits.scanTop (List.zipWith andn A O2) = rs at *
    have hlen : (List.zipWith andn (A.take rs) (O2.take rs)).length = rs := by simp; omega
    rw [hlen]
    have G := MPZ_REALLOC_grown s res rs hw
    refine G.refines ?_
    have W1 := (Wrote.refl _ res 0 (G.ok.trans hs) (G.bwf res hw.1) (Nat.zero_le _)).logop andn
      (fun a b ha _ => andn_lt ha) _ _ A O2 rs (Ou.den_grown G) (t2D _) (by omega) (by omega) Ou.limbs LO2 G.room
    have R := W1.fin_all false
    simpa [sgn, hlen] using R

/-- value-level result of mpz_and with the allocation: the C10 sign-magnitude result in the block the C leaves -/
def Spec.and (w u v : Mpz.Mpz) : Mpz.Mpz :=
  ofZ (Mpz.grow w (if u.size < 0 ∧ v.size < 0 then 1 + max u.size.natAbs v.size.natAbs
    else (Bits.mpz_and (zOf u) (zOf v)).mag.length)).alloc (Bits.mpz_and (zOf u) (zOf v))

theorem and_refines (s : St) (w u v : Nat) (hs : s.ok = true)
    (hw : OWF (s.h w)) (hu : OWF (s.h u)) (hv : OWF (s.h v)) :
    Refines s (mpz_and s w u v) w (Spec.and (view (s.h w)) (view (s.h u)) (view (s.h v))) := by
  have Ou := Opnd.of_owf hu
  have Ov := Opnd.of_owf hv
  have hA := Ou.len
  have hB := Ov.len
  unfold mpz_and and_ Spec.and Bits.mpz_and zOf
  simp only [St.SIZ, view_size, ← hA, ← hB, ge_iff_le, ← not_lt, ite_not]
  by_cases h1 : (s.h u).size < 0 <;> by_cases h2 : (s.h v).size < 0 <;>
    simp only [h1, h2, if_true, if_false, and_self, and_false, false_and, decide_true, decide_false, Bool.not_true,
      Bool.not_false, Bool.false_eq_true]
  · exact and_nn_refines s w u v hs hw Ou Ov (by intro h; rw [h] at hA; simp at hA; omega)
      (by intro h; rw [h] at hB; simp at hB; omega)
  · exact and_pn_refines s w v u hs hw Ov Ou
  · exact and_pn_refines s w u v hs hw Ou Ov
  · exact and_pp_refines s w u v hs hw Ou Ov

/-! ### the value side of `zOf` / `ofZ`; `Refines.safe_ofZ` ends every bit-operation theorem -/

theorem zOf_WF {u : Mpz.Mpz} (hu : Mpz.WF u) : (zOf u).WF := by
  obtain ⟨_, _, hl, hn⟩ := (Mpz.WF_iff u).mp hu
  refine ⟨hn.1, hn.2, ?_⟩
  intro hneg h0
  simp only [zOf, decide_eq_true_eq] at hneg h0
  rw [h0] at hl; simp at hl; omega

theorem zOf_mag_length {u : Mpz.Mpz} (hu : Mpz.WF u) : (zOf u).mag.length = u.size.natAbs := hu.2.2.1

theorem zOf_toInt (u : Mpz.Mpz) : (zOf u).toInt = Mpz.toInt u := by
  unfold zOf Bits.Z.toInt Mpz.toInt
  by_cases h : u.size < 0 <;> simp [h]

theorem ofZ_spec (a : Nat) (z : Bits.Z) (hz : z.WF) (ha : z.mag.length ≤ a) (ha1 : 1 ≤ a) :
    Mpz.WF (ofZ a z) ∧ Mpz.toInt (ofZ a z) = z.toInt := by
  obtain ⟨wf, ti⟩ := Mpz.mk_spec a z.mag.length z.neg z.mag rfl ⟨hz.1, hz.2.1⟩ ha ha1
  refine ⟨wf, ?_⟩
  unfold ofZ; rw [ti]; unfold Bits.Z.toInt
  cases z.neg <;> simp

/-- the ending of every bit-operation theorem: `hz` is what the `Bits.*_spec` lemmas return -/
theorem Refines.safe_ofZ {s s' : St} {w a : Nat} {z : Bits.Z} {r : Int} (R : Refines s s' w (ofZ a z))
    (hz : z.toInt = r ∧ z.WF) (hn : z.mag.length ≤ a) (ha : 1 ≤ a) :
    Safe s s' w (ofZ a z) ∧ Mpz.toInt (AllocSafe.view (s'.h w)) = r :=
  have E := ofZ_spec a z hz.2 hn ha
  R.safe_val E.1 (E.2.trans hz.1)

theorem and_need_le (u v : Mpz.Mpz) (hu : Mpz.WF u) (hv : Mpz.WF v) (h1 : u.size < 0) (h2 : v.size < 0) :
    (Bits.mpz_and (zOf u) (zOf v)).mag.length ≤ 1 + max u.size.natAbs v.size.natAbs := by
  have h := Bits.mpz_and_len (zOf u) (zOf v)
  rw [zOf_mag_length hu, zOf_mag_length hv] at h
  simpa [zOf, h1, h2] using h

end Mpir.AllocSafe
end

/-! ## mpz/xor.c -/

section
namespace Mpir.AllocSafe
open Mpir
open Mpir.Mpz (sgn Norm natAbs_sgn)
open Mpir.Bits (subLimb_len subLimb_limbs addOneGrow_len_le xorCat_len)

/-- xor.c:126-141 / 182-195 -/
theorem xor_cat_wrote {s1 : St} {res : Nat} (hs : s1.ok = true) (hb : BWF (s1.h res).buf) (a b : Src) (A Bl : List Nat)
    (Da : Den s1 a A) (Db : Den s1 b Bl) (hA : Limbs A) (hB : Limbs Bl)
    (hfit : max A.length Bl.length ≤ (s1.h res).buf.alloc) :
    ∃ s2, xor_cat s1 (s1.PTR res) a b A.length Bl.length = (s2, (Bits.xorCat A Bl).length) ∧
      Wrote s1 s2 res (Bits.xorCat A Bl) := by
  rw [xorCat_len]
  unfold xor_cat Bits.xorCat Bits.xor_n
  by_cases hgt : A.length > Bl.length
  · simp only [hgt, if_true]
    have W := Wrote.cat hs hb (· ^^^ ·) (fun a b ha hb => xor_lt ha hb) a b a A Bl A Bl.length Da Db Da
      (by omega) (by omega) (by omega) hA hB hA (by omega)
    rw [zipWith_take_full _ _ _ _ (by omega)] at W
    exact ⟨_, by rw [Nat.max_eq_left (by omega)], W⟩
  · simp only [hgt, if_false]
    have W := Wrote.cat hs hb (· ^^^ ·) (fun a b ha hb => xor_lt ha hb) a b b A Bl Bl A.length Da Db Db
      (by omega) (by omega) (by omega) hA hB hB (by omega)
    rw [zipWith_take_full _ _ _ _ (by omega)] at W
    exact ⟨_, by rw [Nat.max_eq_right (by omega)], W⟩

theorem xor_nn_refines (s : St) (res op1 op2 : Nat) {A Bv : List Nat} (hs : s.ok = true) (hw : OWF (s.h res))
    (Ou : Opnd s op1 A) (Ov : Opnd s op2 Bv) :
    Refines s (xor_nn s res op1 op2 A.length Bv.length) res
      (ofZ (Mpz.grow (view (s.h res)) (max A.length Bv.length)).alloc (Bits.xorNN A Bv)) := by
  obtain ⟨opx1, e1, t1D⟩ := tmp_sub_1_spec s (s.PTR op1) A A.length Ou.den (Nat.le_refl _)
  obtain ⟨opx2, e2, t2D⟩ := tmp_sub_1_spec s (s.PTR op2) Bv Bv.length Ov.den (Nat.le_refl _)
  rw [List.take_length] at t1D t2D
  have hO1 := subLimb_len A 1
  have hO2 := subLimb_len Bv 1
  have LO1 := subLimb_limbs A 1 Ou.limbs
  have LO2 := subLimb_limbs Bv 1 Ov.limbs
  unfold xor_nn Bits.xorNN ofZ
  simp only [e1, e2, realloc_if, reptr_eq]
  generalize (Bits.subLimb A 1).1 = O1 at *
  generalize (Bits.subLimb Bv 1).1 = O2 at *
  have G := MPZ_REALLOC_grown s res (max A.length Bv.length) hw
  refine G.refines ?_
  obtain ⟨s2, e, W⟩ := xor_cat_wrote (G.ok.trans hs) (G.bwf res hw.1) (.tmp opx1 0) (.tmp opx2 0) O1 O2 (t1D _) (t2D _)
    LO1 LO2 (by rw [hO1, hO2]; exact G.room)
  rw [hO1, hO2] at e
  simp only [e]
  simpa [sgn] using W.fin_norm false

theorem xor_pn_refines (s : St) (res op1 op2 : Nat) {A Bv : List Nat} (hs : s.ok = true) (hw : OWF (s.h res))
    (Ou : Opnd s op1 A) (Ov : Opnd s op2 Bv) (h2 : Bv ≠ []) :
    Refines s (xor_pn true 1 s res op1 op2 A.length Bv.length) res
      (ofZ (Mpz.grow (view (s.h res)) (max A.length Bv.length + 1)).alloc (Bits.xorPN A Bv)) := by
  have hn2 := List.length_pos_iff.mpr h2
  obtain ⟨opx, e2, t2D⟩ := tmp_sub_1_spec s (s.PTR op2) Bv Bv.length Ov.den (Nat.le_refl _)
  rw [List.take_length] at t2D
  have hO2 := subLimb_len Bv 1
  have LO2 := subLimb_limbs Bv 1 Ov.limbs
  unfold xor_pn Bits.xorPN ofZ
  simp only [e2, realloc_if, reptr_eq]
  generalize (Bits.subLimb Bv 1).1 = O2 at *
  have G := MPZ_REALLOC_grown s res (max A.length Bv.length + 1) hw
  refine G.refines ?_
  have hroom := G.room
  obtain ⟨s2, e, W⟩ := xor_cat_wrote (G.ok.trans hs) (G.bwf res hw.1) (.ptr (_)) (.tmp opx 0) A O2 (Ou.den_grown G) (t2D _)
    Ou.limbs LO2 (by rw [hO2]; omega)
  rw [hO2] at e
  have hlen := xorCat_len A O2
  obtain ⟨s3, e', W3⟩ := W.addOne (by intro h; rw [h] at hlen; simp at hlen; omega)
    (Nat.le_trans (addOneGrow_len_le _) (by rw [hlen, hO2]; omega))
  simp only [e, e']
  exact W3.fin_norm true

theorem ptr_bne (s : St) (x y : Nat) : (s.PTR x != s.PTR y) = !decide (x = y) := by
  by_cases h : x = y
  · subst h; simp
  · have : s.PTR x ≠ s.PTR y := by intro e; exact h (congrArg Ptr.id e)
    simp [h, this]

/-- ior.c:50-62 / 67-79, xor.c:50-62 / 67-79: `big` (holding `X`) is the operand with at least as many limbs; when it is
    `res` itself its high limbs are already in place and the copy is skipped -/
theorem cat_pp_wrote (f : Nat → Nat → Nat) (hf : ∀ a b, a < B → b < B → f a b < B) (s : St) (res op1 op2 big : Nat)
    {A Bv X : List Nat} (hbig : big = op1 ∨ big = op2) (hs : s.ok = true) (hw : OWF (s.h res))
    (Ou : Opnd s op1 A) (Ov : Opnd s op2 Bv) (Ox : Opnd s big X) (k : Nat) (hk1 : k ≤ A.length) (hk2 : k ≤ Bv.length)
    (hkx : k ≤ X.length) :
    ∃ s2, cat_pp f true s res op1 op2 big k X.length = (s2, (MPZ_REALLOC s res X.length).PTR res) ∧
      Wrote (MPZ_REALLOC s res X.length) s2 res (List.zipWith f (A.take k) (Bv.take k) ++ X.drop k) := by
  unfold cat_pp
  simp only [realloc_if, reptr_eq]
  have G := MPZ_REALLOC_grown s res X.length hw
  have Da := Ou.den_grown G
  have Db := Ov.den_grown G
  have Dx := Ox.den_grown G
  have hok1 := G.ok.trans hs
  have hbw := G.bwf res hw.1
  have hroom := G.room
  generalize MPZ_REALLOC s res X.length = s1 at *
  have hbp : (if big = op1 then s1.PTR op1 else s1.PTR op2) = s1.PTR big := by
    rcases hbig with h | h
    · simp [h]
    · by_cases h' : big = op1
      · simp [h']
      · rw [if_neg h', h]
  rw [hbp, ptr_bne]
  by_cases hrb : res = big
  · subst hrb
    simp only [decide_true, Bool.not_true, Bool.false_eq_true, if_false]
    have W0 := Wrote.base s1 res X hok1 hbw Dx.2.2.2
    exact ⟨_, rfl, W0.logop f hf _ _ _ _ k Da Db hk1 hk2 Ou.limbs Ov.limbs (by omega)⟩
  · simp only [hrb, decide_false, Bool.not_false, if_true]
    exact ⟨_, rfl, Wrote.cat hok1 hbw f hf _ _ (.ptr (s1.PTR big)) _ _ _ k Da Db Dx hk1 hk2 hkx Ou.limbs Ov.limbs Ox.limbs
      hroom⟩

theorem xorCat_ge (a b : List Nat) (h : b.length ≤ a.length) :
    Bits.xorCat a b = List.zipWith (· ^^^ ·) (a.take b.length) (b.take b.length) ++ a.drop b.length := by
  unfold Bits.xorCat Bits.xor_n
  rw [zipWith_take_full _ _ _ _ (by omega)]
  split
  · rfl
  · have : a.length = b.length := by omega
    rw [List.drop_of_length_le (by omega), List.drop_of_length_le (by omega)]

theorem xorCat_le (a b : List Nat) (h : a.length < b.length) :
    Bits.xorCat a b = List.zipWith (· ^^^ ·) (a.take a.length) (b.take a.length) ++ b.drop a.length := by
  unfold Bits.xorCat Bits.xor_n
  rw [zipWith_take_full _ _ _ _ (by omega), if_neg (by omega)]

theorem xor_pp_refines (s : St) (res op1 op2 : Nat) {A Bv : List Nat} (hs : s.ok = true) (hw : OWF (s.h res))
    (Ou : Opnd s op1 A) (Ov : Opnd s op2 Bv) :
    Refines s (xor_pp true s res op1 op2 A.length Bv.length) res
      (ofZ (Mpz.grow (view (s.h res)) (max A.length Bv.length)).alloc (Bits.xorPP A Bv)) := by
  unfold xor_pp Bits.xorPP ofZ
  have hl := xorCat_len A Bv
  by_cases hge : A.length ≥ Bv.length
  · obtain ⟨s2, e, W⟩ := cat_pp_wrote (· ^^^ ·) (fun a b ha hb => xor_lt ha hb) s res op1 op2 op1 (Or.inl rfl) hs hw Ou Ov Ou
      Bv.length hge (Nat.le_refl _) hge
    rw [← xorCat_ge _ _ hge] at W
    simp only [hge, if_true, e, Nat.max_eq_left hge]
    have E := W.fin_norm false
    rw [hl, Nat.max_eq_left hge] at E
    exact (MPZ_REALLOC_grown s res A.length hw).refines (by simpa [sgn] using E)
  · have hlt : A.length < Bv.length := by omega
    obtain ⟨s2, e, W⟩ := cat_pp_wrote (· ^^^ ·) (fun a b ha hb => xor_lt ha hb) s res op1 op2 op2 (Or.inr rfl) hs hw Ou Ov Ov
      A.length (Nat.le_refl _) (by omega) (by omega)
    rw [← xorCat_le _ _ hlt] at W
    simp only [hge, if_false, e, Nat.max_eq_right (Nat.le_of_lt hlt)]
    have E := W.fin_norm false
    rw [hl, Nat.max_eq_right (Nat.le_of_lt hlt)] at E
    exact (MPZ_REALLOC_grown s res Bv.length hw).refines (by simpa [sgn] using E)

/-- value-level result of mpz_xor with the allocation -/
def Spec.xor (w u v : Mpz.Mpz) : Mpz.Mpz :=
  ofZ (Mpz.grow w (max u.size.natAbs v.size.natAbs + (if (u.size < 0 ↔ v.size < 0) then 0 else 1))).alloc
    (Bits.mpz_xor (zOf u) (zOf v))

theorem xor_refines (s : St) (w u v : Nat) (hs : s.ok = true)
    (hw : OWF (s.h w)) (hu : OWF (s.h u)) (hv : OWF (s.h v)) :
    Refines s (mpz_xor s w u v) w (Spec.xor (view (s.h w)) (view (s.h u)) (view (s.h v))) := by
  have Ou := Opnd.of_owf hu
  have Ov := Opnd.of_owf hv
  have hA := Ou.len
  have hB := Ov.len
  unfold mpz_xor xor_ Spec.xor Bits.mpz_xor zOf
  simp only [St.SIZ, view_size, ← hA, ← hB, ge_iff_le, ← not_lt, ite_not]
  by_cases h1 : (s.h u).size < 0 <;> by_cases h2 : (s.h v).size < 0 <;>
    simp only [h1, h2, if_true, if_false, iff_self, true_iff, false_iff, not_true_eq_false, decide_true,
      decide_false, Bool.not_true, Bool.not_false, Bool.false_eq_true, Nat.add_zero]
  · exact xor_nn_refines s w u v hs hw Ou Ov
  · rw [Nat.max_comm]
    exact xor_pn_refines s w v u hs hw Ov Ou (by intro h; rw [h] at hA; simp at hA; omega)
  · exact xor_pn_refines s w u v hs hw Ou Ov (by intro h; rw [h] at hB; simp at hB; omega)
  · exact xor_pp_refines s w u v hs hw Ou Ov

theorem xor_need_le (u v : Mpz.Mpz) (hu : Mpz.WF u) (hv : Mpz.WF v) :
    (Bits.mpz_xor (zOf u) (zOf v)).mag.length ≤
      max u.size.natAbs v.size.natAbs + (if (u.size < 0 ↔ v.size < 0) then 0 else 1) := by
  have h := Bits.mpz_xor_len (zOf u) (zOf v)
  rw [zOf_mag_length hu, zOf_mag_length hv] at h
  simpa [zOf] using h

end Mpir.AllocSafe
end

/-! ## mpz/ior.c, two non-negative operands -/

section
namespace Mpir.AllocSafe
open Mpir
open Mpir.Mpz (sgn Norm natAbs_sgn)

theorem ior_pp_refines (s : St) (res op1 op2 : Nat) {A Bv : List Nat} (hs : s.ok = true) (hw : OWF (s.h res))
    (Ou : Opnd s op1 A) (Ov : Opnd s op2 Bv) :
    Refines s (ior_pp true s res op1 op2 A.length Bv.length) res
      (ofZ (Mpz.grow (view (s.h res)) (max A.length Bv.length)).alloc (Bits.iorPP A Bv)) := by
  unfold ior_pp Bits.iorPP ofZ Bits.ior_n
  by_cases hge : A.length ≥ Bv.length
  · obtain ⟨s2, e, W⟩ := cat_pp_wrote (· ||| ·) (fun a b ha hb => Bits.or_lt_B ha hb) s res op1 op2 op1 (Or.inl rfl) hs hw Ou Ov Ou
      Bv.length hge (Nat.le_refl _) hge
    rw [zipWith_take_full _ _ _ _ (by omega)] at W
    have hl : (List.zipWith (fun x1 x2 => x1 ||| x2) A Bv ++ List.drop Bv.length A).length = A.length := by simp; omega
    have R := W.fin_all false
    rw [hl] at R
    simp only [hge, if_true, e, hl, Nat.max_eq_left hge]
    exact (MPZ_REALLOC_grown s res A.length hw).refines (by simpa [sgn] using R)
  · obtain ⟨s2, e, W⟩ := cat_pp_wrote (· ||| ·) (fun a b ha hb => Bits.or_lt_B ha hb) s res op1 op2 op2 (Or.inr rfl) hs hw Ou Ov Ov
      A.length (Nat.le_refl _) (by omega) (by omega)
    rw [zipWith_take_full _ _ _ _ (by omega)] at W
    have hl : (List.zipWith (fun x1 x2 => x1 ||| x2) A Bv ++ List.drop A.length Bv).length = Bv.length := by simp; omega
    have R := W.fin_all false
    rw [hl] at R
    simp only [hge, if_false, e, hl, Nat.max_eq_right (Nat.le_of_not_ge hge)]
    exact (MPZ_REALLOC_grown s res Bv.length hw).refines (by simpa [sgn] using R)

end Mpir.AllocSafe
end
