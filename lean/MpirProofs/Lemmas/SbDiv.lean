/-
  mpn_sb_div_qr, and the exact steps it shares with mpn_sb_divappr_q and mpn_sb_div_q (`daRegular` of Mpir/Model/SbDivQ.lean).
  One iteration divides the window exactly by the divisor: the branch q = B-1, or the 3/2 estimate with a borrow test and
  one add-back.  A loop of exact steps divides the whole dividend exactly (`exactLoop_spec`).
  Before that: a limb vector and its top limbs, and (namespace `Mpir.Tdiv`) the top limb deciding `DivZ.topNonzero` and
  `DivZ.normalised`.  At the end: a limb-level result as the value contract `DivZ.mpnDivQr` (`mpnDivQr_eq_some`), `divapprOk_iff`.
-/
import MpirProofs.Lemmas.Kernels
import MpirProofs.Lemmas.DivWord3by2
import Mpir.Model.SbDivQ
import Mpir.Model.DivZ
namespace Mpir.SbDiv
open Mpir Mpir.DivWord Mpir.SbDivQ

/-! ### a limb vector and its top one or two limbs -/

theorem getD_top0 (l : List Nat) (x y : Nat) : (l ++ [x, y]).getD l.length 0 = x := by
  simp [List.getD_eq_getElem?_getD]
theorem getD_top1 (l : List Nat) (x y : Nat) : (l ++ [x, y]).getD (l.length + 1) 0 = y := by
  simp [List.getD_eq_getElem?_getD]
theorem take_top (l : List Nat) (x y : Nat) : (l ++ [x, y]).take l.length = l := by
  simp
theorem take_top1 (l : List Nat) (x y : Nat) : (l ++ [x, y]).take (l.length + 1) = l ++ [x] := by
  rw [List.take_append, List.take_of_length_le (Nat.le_succ _)]; simp
theorem len_top (l : List Nat) (x y : Nat) : (l ++ [x, y]).length - 2 = l.length := by simp

theorem split_top2 (l : List Nat) (k : Nat) (h : l.length = k + 2) :
    l = l.take k ++ [l.getD k 0, l.getD (k + 1) 0] := by
  have h2 : (l.drop k).length = 2 := by simp [h]
  match hd : l.drop k, h2 with
  | [a, b], _ =>
    have ha : l.getD k 0 = a := by
      have := congrArg (fun t => t.getD 0 0) hd; simpa [List.getD_eq_getElem?_getD] using this
    have hb : l.getD (k + 1) 0 = b := by
      have := congrArg (fun t => t.getD 1 0) hd; simpa [List.getD_eq_getElem?_getD] using this
    rw [ha, hb, ← hd, List.take_append_drop]

theorem Limbs_pair {x y : Nat} (hx : x < B) (hy : y < B) : Limbs [x, y] := by
  intro z hz; simp at hz; rcases hz with rfl | rfl <;> assumption

theorem Limbs_top2 {l : List Nat} {x y : Nat} (hl : Limbs l) (hx : x < B) (hy : y < B) : Limbs (l ++ [x, y]) :=
  Limbs_append.mpr ⟨hl, Limbs_pair hx hy⟩

theorem exists_top2 {a : List Nat} {k : Nat} (h : a.length = k + 2) (hl : Limbs a) :
    ∃ alo m0 m1, a = alo ++ [m0, m1] ∧ alo.length = k ∧ Limbs alo ∧ m0 < B ∧ m1 < B :=
  ⟨a.take k, a.getD k 0, a.getD (k + 1) 0, split_top2 a k h, by rw [List.length_take, h]; omega, Limbs_take hl _,
    getD_lt hl _, getD_lt hl _⟩

theorem exists_top1 {a : List Nat} {k : Nat} (h : a.length = k + 1) (hl : Limbs a) :
    ∃ alo m0, a = alo ++ [m0] ∧ alo.length = k ∧ Limbs alo ∧ m0 < B :=
  ⟨a.take k, a.getD k 0, split_top1 a k h, by rw [List.length_take, h]; omega, Limbs_take hl _, getD_lt hl _⟩

theorem val_top2 (l : List Nat) (x y : Nat) : val (l ++ [x, y]) = val l + B ^ l.length * (x + B * y) := by
  rw [val_append]; simp [val_cons]

theorem val_take_top (l : List Nat) (j : Nat) (h : l.length = j + 1) :
    val (l.take j) + B ^ j * l.getD j 0 = val l := by
  rw [val_split_at l j (by omega), List.drop_of_length_le (by omega), val_nil, Nat.mul_zero, Nat.add_zero]

theorem split_top2_val (r : List Nat) (k : Nat) (h : r.length = k + 2) :
    val (r.take k) + B ^ k * (r.getD k 0 + B * r.getD (k + 1) 0) = val r := by
  have hl : (r.take k).length = k := by rw [List.length_take, h]; omega
  conv_rhs => rw [split_top2 r k h]
  rw [val_top2, hl]

theorem Limbs_replicate_max (n : Nat) : Limbs (List.replicate n (B - 1)) :=
  Limbs_replicate n _ (Nat.sub_lt B_pos Nat.one_pos)

theorem take_snoc (l : List Nat) (x : Nat) : (l ++ [x]).take l.length = l := List.take_left' rfl
theorem getD_snoc (l : List Nat) (x : Nat) : (l ++ [x]).getD l.length 0 = x := by
  simp [List.getD_eq_getElem?_getD]
theorem getD_drop (l : List Nat) (s i : Nat) : (l.drop s).getD i 0 = l.getD (s + i) 0 := by
  simp [List.getD_eq_getElem?_getD, List.getElem?_drop]

end Mpir.SbDiv

namespace Mpir.Tdiv
open Mpir Mpir.SbDiv

/-! ### the top limb decides the C's tests: `topNonzero`, `normalised`, B^(k+1) ≤ 2·val d (used from here up to tdiv_qr) -/

theorem top_bounds (l : List Nat) (k : Nat) (hl : Limbs l) (h : l.length = k + 1) :
    l.getD k 0 * B ^ k ≤ val l ∧ val l < (l.getD k 0 + 1) * B ^ k := by
  have e := val_take_top l k h
  have hlt := val_lt (l.take k) (Limbs_take hl k)
  rw [List.length_take, h, Nat.min_eq_left (Nat.le_succ k)] at hlt
  rw [← e, Nat.add_mul, Nat.one_mul, Nat.mul_comm]
  omega

/-- `dp[dn-1]` is what `DivZ.topNonzero` and `DivZ.normalised` look at -/
theorem getLast?_eq_getD (d : List Nat) (hdn : 1 ≤ d.length) : d.getLast? = some (d.getD (d.length - 1) 0) := by
  rw [List.getLast?_eq_getElem?, List.getD_eq_getElem?_getD, List.getElem?_eq_getElem (by omega)]; rfl

theorem topNonzero_iff (d : List Nat) (hdn : 1 ≤ d.length) :
    DivZ.topNonzero d = true ↔ d.getD (d.length - 1) 0 ≠ 0 := by
  unfold DivZ.topNonzero; rw [getLast?_eq_getD d hdn]; simp

theorem normalised_iff (d : List Nat) (hdn : 1 ≤ d.length) :
    DivZ.normalised d = true ↔ B / 2 ≤ d.getD (d.length - 1) 0 := by
  unfold DivZ.normalised; rw [getLast?_eq_getD d hdn]; simp

theorem two_mul_half : 2 * (B / 2) = B := by decide

theorem norm_iff_top (d : List Nat) (k : Nat) (hd : Limbs d) (hk : d.length = k + 1) :
    B ^ (k + 1) ≤ 2 * val d ↔ B / 2 ≤ d.getD k 0 := by
  obtain ⟨hl, hu⟩ := top_bounds d k hd hk
  have hP := Bpow_pos k
  have e : B ^ (k + 1) = 2 * (B / 2 * B ^ k) := by rw [← Nat.mul_assoc, two_mul_half, pow_succ, Nat.mul_comm]
  rw [e]
  constructor
  · intro h
    by_contra hc
    have := Nat.mul_le_mul_right (B ^ k) (show d.getD k 0 + 1 ≤ B / 2 by omega)
    omega
  · intro h
    have := Nat.mul_le_mul_right (B ^ k) h
    omega

end Mpir.Tdiv

namespace Mpir.SbDiv
open Mpir Mpir.DivWord Mpir.SbDivQ

/-! ### the window, the kernels on it, the normalised divisor `NormDiv`, what an exact step is -/

theorem pow_k2 (k : Nat) : B ^ (k + 2) = B ^ k * B * B := by rw [pow_succ, pow_succ]
theorem pow_k1 (k : Nat) : B ^ (k + 1) = B ^ k * B := by rw [pow_succ]

theorem getD_last (l : List Nat) (x y : Nat) : (l ++ [x, y]).getD ((l ++ [x, y]).length - 1) 0 = y := by
  rw [show (l ++ [x, y]).length - 1 = l.length + 1 by simp]; exact getD_top1 l x y
theorem getD_last2 (l : List Nat) (x y : Nat) : (l ++ [x, y]).getD ((l ++ [x, y]).length - 2) 0 = x := by
  rw [len_top]; exact getD_top0 l x y

theorem val_window2 (alo : List Nat) (m0 m1 n1 : Nat) {k : Nat} (hlen : alo.length = k) :
    val (alo ++ [m0, m1]) + B ^ (k + 2) * n1 = val alo + B ^ k * (m0 + B * m1 + B * B * n1) := by
  rw [val_top2, hlen, pow_k2]; ring

theorem val_push (x : Nat) (w : List Nat) (n1 k : Nat) :
    val (x :: w) + B ^ (k + 1) * n1 = x + B * (val w + B ^ k * n1) := by
  rw [val_cons, pow_succ]; ring

theorem push_lt {x R V : Nat} (hx : x < B) (h : R < V) : x + B * R < B * V := by
  have : B * (R + 1) ≤ B * V := Nat.mul_le_mul_left _ h
  rw [Nat.mul_succ] at this
  omega

theorem submul_1_spec {a u : List Nat} (v : Nat) (ha : Limbs a) (hu : Limbs u) (hl : a.length = u.length) (hv : v < B) :
    ∃ r cy, submul_1 a u v = (r, cy) ∧ val r + val u * v = val a + B ^ u.length * cy ∧ cy < B ∧ Limbs r ∧
      r.length = u.length :=
  ⟨_, _, rfl, submul_1_val' a u v ha hu hv hl⟩

theorem add_n_spec {a u : List Nat} (ha : Limbs a) (hu : Limbs u) (hl : a.length = u.length) :
    ∃ r c, add_n a u = (r, c) ∧ val r + B ^ a.length * c = val a + val u ∧ c ≤ 1 ∧ Limbs r ∧ r.length = a.length :=
  ⟨_, _, rfl, add_n_val' a u ha hu hl⟩

theorem sub_n_spec {a u : List Nat} (ha : Limbs a) (hu : Limbs u) (hl : a.length = u.length) :
    ∃ r c, sub_n a u = (r, c) ∧ val r + val u = val a + B ^ a.length * c ∧ c ≤ 1 ∧ Limbs r ∧ r.length = a.length :=
  ⟨_, _, rfl, sub_n_val' a u ha hu hl⟩

theorem norm_top {d1 : Nat} (d0 : Nat) (h : B / 2 ≤ d1) : B ≤ d0 + B * d1 := by
  have : B * 1 ≤ B * d1 := Nat.mul_le_mul_left _ (by simp only [B_eq] at *; omega)
  omega

theorem div3by2 (n2 n1 n0 d1 d0 : Nat) (hn2 : n2 < B) (hn1 : n1 < B) (hn0 : n0 < B) (hd1 : d1 < B) (hd0 : d0 < B)
    (hnorm : B / 2 ≤ d1) (hN : n1 + B * n2 < d0 + B * d1) :
    ∃ q r, udiv_qr_3by2 n2 n1 n0 d1 d0 (invert_pi1 d1 d0) = (q, r / B, r % B) ∧ q < B ∧ r < d0 + B * d1 ∧
      n0 + B * n1 + B * B * n2 = q * (d0 + B * d1) + r := by
  have e : d1 * B + d0 = d0 + B * d1 := by rw [Nat.mul_comm, Nat.add_comm]
  have hdd : 0 < d1 * B + d0 := by have := norm_top d0 hnorm; omega
  have hN : n2 * B + n1 < d1 * B + d0 := by rw [e, Nat.mul_comm, Nat.add_comm]; exact hN
  have eN : n2 * B * B + n1 * B + n0 = n0 + B * n1 + B * B * n2 := by ring
  refine ⟨_, _, udiv_qr_3by2_eq n2 n1 n0 d1 d0 _ hn2 hn1 hn0 hd1 hd0 hnorm hN (invert_pi1_eq d1 d0 hnorm hd1 hd0), ?_,
    e ▸ Nat.mod_lt _ hdd, ?_⟩
  · rw [Nat.div_lt_iff_lt_mul hdd]
    have h1 : B * (n2 * B + n1 + 1) ≤ B * (d1 * B + d0) := Nat.mul_le_mul_left _ hN
    have e2 : B * (n2 * B + n1 + 1) = n2 * B * B + n1 * B + B := by ring
    omega
  · rw [← eN, ← e]; exact (Nat.div_add_mod' _ _).symm

structure NormDiv (dlo : List Nat) (d0 d1 : Nat) : Prop where
  lo : Limbs dlo
  lt0 : d0 < B
  lt1 : d1 < B
  norm : B / 2 ≤ d1

theorem NormDiv.limbs {dlo : List Nat} {d0 d1 : Nat} (h : NormDiv dlo d0 d1) : Limbs (dlo ++ [d0, d1]) :=
  Limbs_top2 h.lo h.lt0 h.lt1

theorem NormDiv.tail {c : Nat} {dlo : List Nat} {d0 d1 : Nat} (h : NormDiv (c :: dlo) d0 d1) : NormDiv dlo d0 d1 :=
  ⟨(Limbs_cons.mp h.lo).2, h.lt0, h.lt1, h.norm⟩

theorem NormDiv.val_lt {dlo : List Nat} {d0 d1 : Nat} (h : NormDiv dlo d0 d1) :
    val dlo + B ^ dlo.length * (d0 + B * d1) < B ^ dlo.length * B * B := by
  have h1 := Mpir.val_lt dlo h.lo
  have h2 : B ^ dlo.length * (d0 + B * d1 + 1) ≤ B ^ dlo.length * (B * B) :=
    Nat.mul_le_mul_left _ (add_mul_lt h.lt0 h.lt1)
  rw [Nat.mul_succ, ← Nat.mul_assoc] at h2
  omega

/-- `(q, w, n1')`: quotient limb, reduced remainder in k+1 memory limbs and its top limb in the register -/
abbrev ExactStep (V W k : Nat) (r : Nat × List Nat × Nat) : Prop :=
  W = r.1 * V + (val r.2.1 + B ^ (k + 1) * r.2.2) ∧ val r.2.1 + B ^ (k + 1) * r.2.2 < V ∧
    r.1 < B ∧ Limbs r.2.1 ∧ r.2.1.length = k + 1 ∧ r.2.2 < B

/-! ### arithmetic of one exact step

  P = B^k.  The window is W = A + P·T with T its three top limbs, the divisor V = Dl + P·dd with dd its two top limbs. -/

theorem top2_le (P A Dl dd m0 m1 n1 : Nat) (hDl : Dl < P)
    (hW : A + P * (m0 + B * m1 + B * B * n1) < B * (Dl + P * dd)) : m1 + B * n1 ≤ dd := by
  have h0 : B * Dl < B * P := Nat.mul_lt_mul_of_pos_left hDl B_pos
  have h1 : P * B * (m1 + B * n1) < P * B * (dd + 1) := by
    have e1 : P * (m0 + B * m1 + B * B * n1) = P * m0 + P * B * (m1 + B * n1) := by ring
    have e2 : B * (Dl + P * dd) = B * Dl + P * B * dd := by ring
    have e3 : P * B * (dd + 1) = P * B * dd + B * P := by ring
    omega
  have := Nat.lt_of_mul_lt_mul_left h1
  omega

theorem val_dp_bounds (dlo : List Nat) (d0 d1 : Nat) (hdlo : Limbs dlo) (hd0 : d0 < B) :
    val (dlo ++ [d0, d1]) < (d1 + 1) * (B ^ dlo.length * B) := by
  rw [val_top2]
  have h1 := val_lt dlo hdlo
  have h2 : B ^ dlo.length * (d0 + 1) ≤ B ^ dlo.length * B := Nat.mul_le_mul_left _ hd0
  have e1 : B ^ dlo.length * (d0 + B * d1) = B ^ dlo.length * d0 + d1 * (B ^ dlo.length * B) := by ring
  rw [Nat.mul_succ] at h2
  rw [Nat.add_mul, Nat.one_mul]
  omega

/-- q = B-1 is not too large when the two top limbs of the window are those of the divisor (b1 = B-1) -/
theorem special_ge (P A Dl dd m0 b1 : Nat) (hDl : Dl < P) (hdd : b1 ≤ dd) :
    b1 * (Dl + P * dd) ≤ A + P * (m0 + (b1 + 1) * dd) := by
  have h : b1 * Dl ≤ dd * P := Nat.mul_le_mul hdd hDl.le
  have e1 : b1 * (Dl + P * dd) = b1 * Dl + b1 * (dd * P) := by ring
  have e2 : P * (m0 + (b1 + 1) * dd) = P * m0 + b1 * (dd * P) + dd * P := by ring
  omega

/-- the borrow out of mpn_submul_1 by b1 = B-1 over the whole window equals the top limb n1 when b1 is the quotient -/
theorem special_arith (PD V va n1 cy vr b1 : Nat) (hV : V < PD) (hvr : vr < PD)
    (hsub : vr + V * b1 = va + PD * cy) (hW : va + PD * n1 < (b1 + 1) * V) (hge : b1 * V ≤ va + PD * n1) :
    cy = n1 ∧ va + PD * n1 = b1 * V + vr ∧ vr < V := by
  rw [Nat.add_mul, Nat.one_mul] at hW
  rw [Nat.mul_comm V] at hsub
  have hcy : cy = n1 := by
    rcases Nat.lt_trichotomy cy n1 with h | h | h
    · have : PD * (cy + 1) ≤ PD * n1 := Nat.mul_le_mul_left _ h
      rw [Nat.mul_succ] at this
      omega
    · exact h
    · have : PD * (n1 + 1) ≤ PD * cy := Nat.mul_le_mul_left _ h
      rw [Nat.mul_succ] at this
      omega
  subst hcy
  exact ⟨rfl, by omega, by omega⟩

/-- the ordinary step after the 3/2 division T = q·dd + r and mpn_submul_1 of the low limbs (result vrl, borrow cy2):
    with t the two-limb difference r - cy2 the step is exact if there is no borrow; if r < cy2 the difference wraps
    around, q is one too large and V has to be added back -/
theorem regular_arith (P A Dl dd q r cy2 vrl t : Nat) (hDl : Dl < P) (hvrl : vrl < P) (hq : q < B) (hr : r < dd)
    (hddB : B ≤ dd) (hsub : vrl + Dl * q = A + P * cy2) :
    (t + cy2 = r → A + P * (q * dd + r) = q * (Dl + P * dd) + (vrl + P * t) ∧ vrl + P * t < Dl + P * dd) ∧
    (r < cy2 → t + cy2 = r + B * B →
      A + P * (q * dd + r) + P * B * B = q * (Dl + P * dd) + (vrl + P * t) ∧
      A + P * (q * dd + r) < q * (Dl + P * dd) ∧ q * (Dl + P * dd) ≤ A + P * (q * dd + r) + (Dl + P * dd)) := by
  have e1 : P * (q * dd + r) = q * (P * dd) + P * r := by ring
  have e2 : q * (Dl + P * dd) = Dl * q + q * (P * dd) := by ring
  constructor
  · intro ht
    have e3 : P * r = P * t + P * cy2 := by rw [← ht, Nat.mul_add]
    have h1 : P * (t + 1) ≤ P * dd := Nat.mul_le_mul_left _ (by omega)
    rw [Nat.mul_succ] at h1
    exact ⟨by omega, by omega⟩
  · intro hlt ht
    have e3 : P * t + P * cy2 = P * r + P * B * B := by rw [← Nat.mul_add, ht, Nat.mul_add, Nat.mul_assoc]
    have h1 : P * (r + 1) ≤ P * cy2 := Nat.mul_le_mul_left _ hlt
    have h2 : Dl * q ≤ P * B := Nat.mul_le_mul hDl.le hq.le
    have h3 : P * B ≤ P * dd := Nat.mul_le_mul_left _ hddB
    rw [Nat.mul_succ] at h1
    exact ⟨by omega, by omega, by omega⟩

/-- the add-back: the step left W + M·B = q·V + R with W < q·V ≤ W + V (the subtraction wrapped around modulo M·B);
    adding V once (sum X + M·top, X the limbs below the top one) and decrementing q makes the step exact -/
theorem regular_b (M W V q R X top : Nat) (hW : W + M * B = q * V + R) (hlt : W < q * V) (hle : q * V ≤ W + V)
    (hV : V < M * B) (hadd : R + V = X + M * top) (hX : X < M) (hq : q < B) :
    W = (q + B - 1) % B * V + (X + M * (top % B)) ∧ X + M * (top % B) < V ∧ (q + B - 1) % B < B ∧ top % B < B := by
  obtain ⟨q', rfl⟩ : ∃ q', q = q' + 1 := ⟨q - 1, by
    have : q ≠ 0 := by rintro rfl; simp at hlt
    omega⟩
  have eq : (q' + 1 + B - 1) % B = q' := by
    rw [show q' + 1 + B - 1 = q' + B by omega, Nat.add_mod_right, Nat.mod_eq_of_lt (by omega)]
  rw [Nat.add_mul, Nat.one_mul] at hW hlt hle
  have h1 : B ≤ top := by
    by_contra h
    have : M * (top + 1) ≤ M * B := Nat.mul_le_mul_left _ (by omega)
    rw [Nat.mul_succ] at this
    omega
  have h2 : top < 2 * B := by
    by_contra h
    have : M * (2 * B) ≤ M * top := Nat.mul_le_mul_left _ (by omega)
    rw [Nat.mul_comm 2, ← Nat.mul_assoc, Nat.mul_two] at this
    omega
  obtain ⟨t', rfl⟩ : ∃ t', top = t' + B := ⟨top - B, by omega⟩
  rw [Nat.add_mod_right, Nat.mod_eq_of_lt (show t' < B by omega), eq]
  rw [Nat.mul_add] at hadd
  exact ⟨by omega, by omega, by omega, by omega⟩

theorem sub_333_0_spec (rem cy2 : Nat) (hrem : rem < B * B) (hcy : cy2 < B) :
    ∃ b n1s n0s, sub_333_0 (rem / B) (rem % B) cy2 = (b, n1s, n0s) ∧ n1s < B ∧ n0s < B ∧
      (cy2 ≤ rem → b = 0 ∧ n0s + B * n1s + cy2 = rem) ∧ (rem < cy2 → b ≠ 0 ∧ n0s + B * n1s + cy2 = rem + B * B) := by
  refine ⟨_, _, _, rfl, ?_⟩
  simp only [B_eq] at *
  omega

theorem special_core (dlo alo : List Nat) (d0 d1 m0 : Nat) (hlen : alo.length = dlo.length)
    (hD : NormDiv dlo d0 d1) (halo : Limbs alo) (hm0 : m0 < B)
    (hW : val alo + B ^ dlo.length * (m0 + B * d0 + B * B * d1) < B * (val dlo + B ^ dlo.length * (d0 + B * d1))) :
    ∃ r, submul_1 (alo ++ [m0, d0]) (dlo ++ [d0, d1]) (B - 1) = (r, d1) ∧ Limbs r ∧ r.length = dlo.length + 2 ∧
      val alo + B ^ dlo.length * (m0 + B * d0 + B * B * d1)
        = (B - 1) * (val dlo + B ^ dlo.length * (d0 + B * d1)) + val r ∧
      val r < val dlo + B ^ dlo.length * (d0 + B * d1) := by
  have hB := B_pos
  obtain ⟨r, cy, er, hv, _, hrl, hrn⟩ := submul_1_spec (B - 1) (Limbs_top2 halo hm0 hD.lt0) hD.limbs
    (by simp [hlen]) (by omega)
  have eL : (dlo ++ [d0, d1]).length = dlo.length + 2 := by simp
  rw [eL] at hv hrn
  have hvr := val_lt r hrl
  rw [hrn, pow_k2] at hvr
  rw [val_top2, val_top2, hlen, pow_k2] at hv
  obtain ⟨b1, hb1⟩ : ∃ b1, B = b1 + 1 := ⟨B - 1, by omega⟩
  have hbb : B - 1 = b1 := by omega
  have hdd : b1 ≤ d0 + B * d1 := by have := norm_top d0 hD.norm; omega
  have eW : val alo + B ^ dlo.length * (m0 + B * d0 + B * B * d1)
      = val alo + B ^ dlo.length * (m0 + B * d0) + B ^ dlo.length * B * B * d1 := by ring
  have hge := special_ge (B ^ dlo.length) (val alo) (val dlo) (d0 + B * d1) m0 b1 (val_lt dlo hD.lo) hdd
  rw [← hb1, show m0 + B * (d0 + B * d1) = m0 + B * d0 + B * B * d1 by ring, eW] at hge
  rw [eW] at hW
  rw [eW, hbb]
  rw [hbb] at hv
  obtain ⟨hcy, k1, k2⟩ := special_arith (B ^ dlo.length * B * B) _ _ d1 cy (val r) b1
    hD.val_lt hvr hv (by rw [← hb1]; exact hW) hge
  exact ⟨r, by rw [← hbb, er, hcy], hrl, hrn, k1, k2⟩

theorem sbSpecial_eq (dlo a : List Nat) (d0 d1 : Nat) :
    sbSpecial (dlo ++ [d0, d1]) a =
      (B - 1, ((submul_1 a (dlo ++ [d0, d1]) (B - 1)).1).take (dlo.length + 1),
        ((submul_1 a (dlo ++ [d0, d1]) (B - 1)).1).getD (dlo.length + 1) 0) := by
  unfold sbSpecial; simp only [len_top]

/-- the branch `n1 == d1 && np[1] == d0` of mpn_sb_div_qr: q = B-1 is the exact quotient limb -/
theorem sbSpecial_spec (dlo alo : List Nat) (d0 d1 m0 : Nat) (hlen : alo.length = dlo.length)
    (hD : NormDiv dlo d0 d1) (halo : Limbs alo) (hm0 : m0 < B)
    (hW : val (alo ++ [m0, d0]) + B ^ (dlo.length + 2) * d1 < B * val (dlo ++ [d0, d1])) :
    ExactStep (val (dlo ++ [d0, d1])) (val (alo ++ [m0, d0]) + B ^ (dlo.length + 2) * d1) dlo.length
      (sbSpecial (dlo ++ [d0, d1]) (alo ++ [m0, d0])) := by
  rw [val_window2 alo m0 d0 d1 hlen, val_top2] at hW ⊢
  obtain ⟨r, er, hrl, hrn, k1, k2⟩ := special_core dlo alo d0 d1 m0 hlen hD halo hm0 hW
  rw [sbSpecial_eq, er]
  rw [← val_take_top r _ hrn] at k1 k2
  exact ⟨k1, k2, Nat.sub_lt B_pos Nat.one_pos, Limbs_take hrl _, by rw [List.length_take, hrn]; omega, getD_lt hrl _⟩

/-- the part of the ordinary step all three functions share (`daRegular`: 3/2 division, mpn_submul_1 on the low limbs,
    three-limb subtraction of its borrow): without a borrow (b = 0) the step is exact; with a borrow the window minus q·V
    has wrapped around modulo B^(k+2), and q is one too large -/
theorem daRegular_spec (dlo alo : List Nat) (d0 d1 m0 n1 cy : Nat) (hlen : alo.length = dlo.length)
    (hD : NormDiv dlo d0 d1) (halo : Limbs alo) (hm0 : m0 < B) (hn1 : n1 < B) (hcy : cy < B)
    (hN : n1 + B * cy < d0 + B * d1) :
    ∃ q rl b n1s n0s, daRegular dlo d1 d0 (invert_pi1 d1 d0) alo m0 n1 cy = (q, rl, b, n1s, n0s) ∧
      q < B ∧ Limbs rl ∧ rl.length = dlo.length ∧ n1s < B ∧ n0s < B ∧
      (b = 0 → val alo + B ^ dlo.length * (m0 + B * n1 + B * B * cy)
          = q * (val dlo + B ^ dlo.length * (d0 + B * d1)) + (val rl + B ^ dlo.length * (n0s + B * n1s)) ∧
        val rl + B ^ dlo.length * (n0s + B * n1s) < val dlo + B ^ dlo.length * (d0 + B * d1)) ∧
      (b ≠ 0 → val alo + B ^ dlo.length * (m0 + B * n1 + B * B * cy) + B ^ dlo.length * B * B
          = q * (val dlo + B ^ dlo.length * (d0 + B * d1)) + (val rl + B ^ dlo.length * (n0s + B * n1s)) ∧
        val alo + B ^ dlo.length * (m0 + B * n1 + B * B * cy) < q * (val dlo + B ^ dlo.length * (d0 + B * d1)) ∧
        q * (val dlo + B ^ dlo.length * (d0 + B * d1))
          ≤ val alo + B ^ dlo.length * (m0 + B * n1 + B * B * cy) + (val dlo + B ^ dlo.length * (d0 + B * d1))) := by
  obtain ⟨q, r, e1, hq, hr, hT⟩ := div3by2 cy n1 m0 d1 d0 hcy hn1 hm0 hD.lt1 hD.lt0 hD.norm hN
  obtain ⟨rl, cy2, e2, hv, hc, hrl, hrn⟩ := submul_1_spec q halo hD.lo hlen hq
  obtain ⟨b, n1s, n0s, e3, hs1, hs0, hnb, hbo⟩ := sub_333_0_spec r cy2 (hr.trans (add_mul_lt hD.lt0 hD.lt1)) hc
  have hvrl := val_lt rl hrl
  rw [hrn] at hvrl
  obtain ⟨k1, k2⟩ := regular_arith (B ^ dlo.length) (val alo) (val dlo) (d0 + B * d1) q r cy2 (val rl) (n0s + B * n1s)
    (val_lt dlo hD.lo) hvrl hq hr (norm_top d0 hD.norm) hv
  refine ⟨q, rl, b, n1s, n0s, ?_, hq, hrl, hrn, hs1, hs0, ?_, ?_⟩
  · unfold daRegular; rw [e1]; simp only []; rw [e2]; simp only []; rw [e3]
  · intro hb
    rw [hT]
    rcases Nat.lt_or_ge r cy2 with h | h
    · exact absurd hb (hbo h).1
    · exact k1 (hnb h).2
  · intro hb
    rw [hT]
    rcases Nat.lt_or_ge r cy2 with h | h
    · exact k2 h (hbo h).2
    · exact absurd (hnb h).1 hb

/-- the ordinary branch of mpn_sb_div_qr (sb_div_qr.c:79-93) is `daRegular` on the low limbs, the store np[0] = n0 and
    the add-back over the low limbs and np[0] -/
theorem sbRegular_eq (dlo alo : List Nat) (d0 d1 m0 m1 n1 dinv : Nat) (hlen : alo.length = dlo.length) :
    sbRegular (dlo ++ [d0, d1]) d1 d0 dinv (alo ++ [m0, m1]) n1 =
      (let t := daRegular dlo d1 d0 dinv alo m0 m1 n1
       if t.2.2.1 ≠ 0 then
         ((t.1 + B - 1) % B, (add_n (t.2.1 ++ [t.2.2.2.2]) (dlo ++ [d0])).1,
           (t.2.2.2.1 + d1 + (add_n (t.2.1 ++ [t.2.2.2.2]) (dlo ++ [d0])).2) % B)
       else (t.1, t.2.1 ++ [t.2.2.2.2], t.2.2.2.1)) := by
  unfold sbRegular sbAddBack daRegular
  simp only [len_top, take_top, take_top1]
  rw [← hlen]
  simp only [getD_top0, getD_top1, take_top]

theorem sbRegular_spec (dlo a : List Nat) (d0 d1 n1 : Nat) (ha : a.length = dlo.length + 2)
    (hD : NormDiv dlo d0 d1) (hal : Limbs a) (hn1 : n1 < B)
    (hN : a.getD (dlo.length + 1) 0 + B * n1 < d0 + B * d1) :
    ExactStep (val (dlo ++ [d0, d1])) (val a + B ^ (dlo.length + 2) * n1) dlo.length
      (sbRegular (dlo ++ [d0, d1]) d1 d0 (invert_pi1 d1 d0) a n1) := by
  obtain ⟨alo, m0, m1, rfl, hlen, halo, hm0, hm1⟩ := exists_top2 ha hal
  rw [← hlen, getD_top1] at hN
  obtain ⟨q, rl, b, n1s, n0s, e, hq, hrl, hrn, hs1, hs0, hnb, hbo⟩ :=
    daRegular_spec dlo alo d0 d1 m0 m1 n1 hlen hD halo hm0 hm1 hn1 hN
  have eR : ∀ (w : List Nat) (x y : Nat), w.length = dlo.length →
      val (w ++ [x]) + B ^ (dlo.length + 1) * y = val w + B ^ dlo.length * (x + B * y) := by
    intro w x y h; rw [val_snoc, h, pow_k1]; ring
  rw [sbRegular_eq _ _ _ _ _ _ _ _ hlen, e, val_window2 alo m0 m1 n1 hlen, val_top2]
  simp only []
  by_cases hb : b = 0
  · obtain ⟨k1, k2⟩ := hnb hb
    rw [if_neg (not_not.mpr hb)]
    rw [← eR _ _ _ hrn] at k1 k2
    exact ⟨k1, k2, hq, Limbs.snoc hrl hs0, by simp [hrn], hs1⟩
  · obtain ⟨k1, k2, k3⟩ := hbo hb
    obtain ⟨vs, c, es, av, _, al, an⟩ := add_n_spec (Limbs.snoc hrl hs0) (Limbs.snoc hD.lo hD.lt0) (by simp [hrn])
    have hlen1 : (rl ++ [n0s]).length = dlo.length + 1 := by simp [hrn]
    rw [hlen1] at av an
    have hvs := val_lt vs al
    rw [an, pow_k1] at hvs
    rw [val_snoc, val_snoc, hrn, pow_k1] at av
    obtain ⟨a1, a2, a3, a4⟩ := regular_b (B ^ dlo.length * B) _ _ q _ (val vs) (n1s + d1 + c)
      k1 k2 k3 hD.val_lt (by linear_combination av.symm) hvs hq
    rw [if_pos hb, es]
    rw [← pow_k1] at a1 a2
    exact ⟨a1, a2, a3, al, an, a4⟩

/-- one iteration of the loop sb_div_qr.c:69-96 on a window split into low part and two top limbs -/
theorem sbStep_eq (dlo alo : List Nat) (d0 d1 m0 m1 n1 dinv : Nat) (hlen : alo.length = dlo.length) :
    sbStep (dlo ++ [d0, d1]) d1 d0 dinv (alo ++ [m0, m1]) n1 =
      if n1 = d1 ∧ m1 = d0 then sbSpecial (dlo ++ [d0, d1]) (alo ++ [m0, m1])
      else sbRegular (dlo ++ [d0, d1]) d1 d0 dinv (alo ++ [m0, m1]) n1 := by
  unfold sbStep
  simp only [len_top]
  rw [← hlen]
  simp only [getD_top1]

theorem window_top_lt (dlo a : List Nat) (d0 d1 n1 : Nat) (ha : a.length = dlo.length + 2) (hdlo : Limbs dlo)
    (hal : Limbs a) (hd0 : d0 < B) (hW : val a + B ^ (dlo.length + 2) * n1 < B * val (dlo ++ [d0, d1]))
    (h : ¬(n1 = d1 ∧ a.getD (dlo.length + 1) 0 = d0)) : a.getD (dlo.length + 1) 0 + B * n1 < d0 + B * d1 := by
  obtain ⟨alo, m0, m1, rfl, hlen, -, -, hm1⟩ := exists_top2 ha hal
  rw [val_window2 alo m0 m1 n1 hlen, val_top2] at hW
  have hle := top2_le _ _ _ _ m0 m1 n1 (val_lt dlo hdlo) hW
  rw [lex_le_iff hm1 hd0] at hle
  rw [← hlen, getD_top1] at h ⊢
  rw [lex_lt_iff hm1 hd0]
  omega

theorem sbStep_spec (dlo a : List Nat) (d0 d1 n1 : Nat) (ha : a.length = dlo.length + 2)
    (hD : NormDiv dlo d0 d1) (hal : Limbs a) (hn1 : n1 < B)
    (hW : val a + B ^ (dlo.length + 2) * n1 < B * val (dlo ++ [d0, d1])) :
    ExactStep (val (dlo ++ [d0, d1])) (val a + B ^ (dlo.length + 2) * n1) dlo.length
      (sbStep (dlo ++ [d0, d1]) d1 d0 (invert_pi1 d1 d0) a n1) := by
  obtain ⟨alo, m0, m1, rfl, hlen, halo, hm0, hm1⟩ := exists_top2 ha hal
  rw [sbStep_eq _ _ _ _ _ _ _ _ hlen]
  by_cases h : n1 = d1 ∧ m1 = d0
  · obtain ⟨rfl, rfl⟩ := h
    rw [if_pos ⟨rfl, rfl⟩]
    exact sbSpecial_spec dlo alo m1 n1 m0 hlen hD halo hm0 hW
  · rw [if_neg h]
    exact sbRegular_spec dlo _ d0 d1 n1 ha hD hal hn1
      (window_top_lt dlo _ d0 d1 n1 ha hD.lo hal hD.lt0 hW (by rw [← hlen, getD_top1]; exact h))

/-! ### a loop of exact steps; mpn_sb_div_qr -/

/-- Schoolbook division as a loop of exact steps.  A state `s` stands for a partial remainder `sv s < V`; a step takes
    the next dividend limb `x` and divides `x + B·sv s` by `V` exactly.  Then the loop over the dividend limbs `xs`
    (most significant first), which pushes the quotient limbs onto `qs`, divides `val xs.reverse + B^|xs|·sv s` exactly. -/
theorem exactLoop_spec {σ : Type} (V : Nat) (sv : σ → Nat) (ok : σ → Prop) (step : Nat → σ → Nat × σ)
    (loop : List Nat → σ → List Nat → List Nat × σ)
    (hnil : ∀ s qs, loop [] s qs = (qs, s))
    (hcons : ∀ x xs s qs, loop (x :: xs) s qs = loop xs (step x s).2 ((step x s).1 :: qs))
    (hstep : ∀ x s, x < B → ok s → sv s < V →
      (step x s).1 < B ∧ ok (step x s).2 ∧ sv (step x s).2 < V ∧ x + B * sv s = (step x s).1 * V + sv (step x s).2) :
    ∀ (xs : List Nat) (s : σ) (qs : List Nat), Limbs xs → ok s → sv s < V →
      ∃ ql s', loop xs s qs = (ql ++ qs, s') ∧ ql.length = xs.length ∧ Limbs ql ∧ ok s' ∧ sv s' < V ∧
        val xs.reverse + B ^ xs.length * sv s = val ql * V + sv s'
  | [], s, qs, _, hs, hv => ⟨[], s, hnil s qs, rfl, Limbs_nil, hs, hv, by simp⟩
  | x :: xs, s, qs, hxs, hs, hv => by
    have ⟨hx, hxs'⟩ := Limbs_cons.mp hxs
    obtain ⟨hq, hs1, hv1, e1⟩ := hstep x s hx hs hv
    obtain ⟨ql, s', el, hqll, hql, hs', hv', e2⟩ :=
      exactLoop_spec V sv ok step loop hnil hcons hstep xs _ ((step x s).1 :: qs) hxs' hs1 hv1
    refine ⟨ql ++ [(step x s).1], s', by rw [hcons, el]; simp, by simp [hqll], Limbs.snoc hql hq, hs', hv', ?_⟩
    rw [List.reverse_cons, val_snoc, val_snoc, List.length_reverse, hqll, List.length_cons, pow_succ]
    linear_combination e2 + B ^ xs.length * e1

/-- loop invariant of sb_div_qr.c:69-96 (and of the first loop of mpn_sb_div_q, whose step is the same on these
    windows): the partial remainder stays below d and quotient limbs times d plus remainder reconstitute the consumed
    dividend limbs.  `hstep` is an equation under the window bound `< B·d` only, the bound the invariant maintains: a
    step function need agree with `sbStep` on such windows and nowhere else. -/
theorem exactLoop_sb (dlo : List Nat) (d0 d1 : Nat) (hD : NormDiv dlo d0 d1) (step : List Nat → Nat → Nat × List Nat × Nat)
    (loop : List Nat → List Nat → Nat → List Nat → List Nat × List Nat × Nat)
    (hnil : ∀ w n1 qs, loop [] w n1 qs = (qs, w, n1))
    (hcons : ∀ x xs w n1 qs, loop (x :: xs) w n1 qs =
      loop xs (step (x :: w) n1).2.1 (step (x :: w) n1).2.2 ((step (x :: w) n1).1 :: qs))
    (hstep : ∀ a n1, a.length = dlo.length + 2 → Limbs a → n1 < B →
      val a + B ^ (dlo.length + 2) * n1 < B * val (dlo ++ [d0, d1]) →
      step a n1 = sbStep (dlo ++ [d0, d1]) d1 d0 (invert_pi1 d1 d0) a n1)
    (xs w : List Nat) (n1 : Nat) (qs : List Nat) (hxs : Limbs xs) (hw : Limbs w)
    (hwl : w.length = dlo.length + 1) (hn1 : n1 < B) (hR : val w + B ^ (dlo.length + 1) * n1 < val (dlo ++ [d0, d1])) :
    ∃ ql w' n1', loop xs w n1 qs = (ql ++ qs, w', n1') ∧
      ql.length = xs.length ∧ Limbs ql ∧
      val xs.reverse + B ^ xs.length * (val w + B ^ (dlo.length + 1) * n1)
        = val ql * val (dlo ++ [d0, d1]) + (val w' + B ^ (dlo.length + 1) * n1') ∧
      val w' + B ^ (dlo.length + 1) * n1' < val (dlo ++ [d0, d1]) ∧
      Limbs w' ∧ w'.length = dlo.length + 1 ∧ n1' < B := by
  obtain ⟨ql, ⟨w', n1'⟩, e, h1, h2, ⟨h3, h4, h5⟩, h6, h7⟩ := exactLoop_spec (val (dlo ++ [d0, d1]))
    (fun s : List Nat × Nat => val s.1 + B ^ (dlo.length + 1) * s.2)
    (fun s => Limbs s.1 ∧ s.1.length = dlo.length + 1 ∧ s.2 < B)
    (fun x s => step (x :: s.1) s.2) (fun xs s qs => loop xs s.1 s.2 qs)
    (fun s qs => hnil s.1 s.2 qs) (fun x xs s qs => hcons x xs s.1 s.2 qs)
    (fun x s hx hs hv => by
      have ha : (x :: s.1).length = dlo.length + 2 := by simp [hs.2.1]
      have hal := Limbs_cons.mpr ⟨hx, hs.1⟩
      have hW : val (x :: s.1) + B ^ (dlo.length + 2) * s.2 < B * val (dlo ++ [d0, d1]) := by
        rw [val_push]; exact push_lt hx hv
      obtain ⟨e1, e2, hq, hw1⟩ := sbStep_spec dlo _ d0 d1 s.2 ha hD hal hs.2.2 hW
      rw [hstep _ _ ha hal hs.2.2 hW]
      exact ⟨hq, hw1, e2, by rw [← val_push]; exact e1⟩)
    xs (w, n1) qs hxs ⟨hw, hwl, hn1⟩ hR
  exact ⟨ql, w', n1', e, h1, h2, h7, h6, h3, h4, h5⟩

/-- the initial compare-and-subtract sb_div_qr.c:53-55 on the dn high limbs -/
theorem sb_init (hi d : List Nat) (hhi : Limbs hi) (hd : Limbs d) (hl : hi.length = d.length)
    (h2 : B ^ d.length ≤ 2 * val d) :
    ∃ qh hi', (if cmp hi d ≥ 0 then 1 else 0) = qh ∧
      (if qh ≠ 0 then (sub_n hi d).1 else hi) = hi' ∧
      qh ≤ 1 ∧ val hi = qh * val d + val hi' ∧ val hi' < val d ∧ Limbs hi' ∧ hi'.length = d.length := by
  have hlt := val_lt hi hhi
  rw [hl] at hlt
  by_cases hq : cmp hi d ≥ 0
  · have hge := (cmp_ge_iff hi d hhi hd hl).mp hq
    obtain ⟨r, c, es, sv, sc, sl, sn⟩ := sub_n_spec hhi hd hl
    have hr := val_lt r sl
    rw [sn] at hr
    obtain rfl : c = 0 := (borrow_zero sv hr hge).1
    exact ⟨1, r, by rw [if_pos hq], by simp [es], le_refl _, by omega, by omega, sl, by rw [sn, hl]⟩
  · have hlt' : val hi < val d := by
      by_contra h
      exact hq ((cmp_ge_iff hi d hhi hd hl).mpr (by omega))
    exact ⟨0, hi, by rw [if_neg hq], by simp, by omega, by simp, hlt', hhi, hl⟩

theorem sb_div_qr_eq (n dlo : List Nat) (d0 d1 dinv : Nat) :
    sb_div_qr n (dlo ++ [d0, d1]) dinv =
      (let hi := n.drop (n.length - (dlo.length + 2))
       let qh := if cmp hi (dlo ++ [d0, d1]) ≥ 0 then 1 else 0
       let hi' := if qh ≠ 0 then (sub_n hi (dlo ++ [d0, d1])).1 else hi
       let s := sbLoop (dlo ++ [d0, d1]) d1 d0 dinv (n.take (n.length - (dlo.length + 2))).reverse
         (hi'.take (dlo.length + 1)) (hi'.getD (dlo.length + 1) 0) []
       (s.1, s.2.1 ++ [s.2.2], qh)) := by
  have e0 : (dlo ++ [d0, d1]).length = dlo.length + 2 := by simp
  unfold sb_div_qr
  simp only [e0, show dlo.length + 2 - 1 = dlo.length + 1 from rfl, show dlo.length + 2 - 2 = dlo.length from rfl,
    getD_top0, getD_top1]

theorem norm_pow (dlo : List Nat) (d0 d1 : Nat) (hl : Limbs (dlo ++ [d0, d1])) (hnorm : B / 2 ≤ d1) :
    B ^ (dlo.length + 2) ≤ 2 * val (dlo ++ [d0, d1]) :=
  (Tdiv.norm_iff_top _ (dlo.length + 1) hl (by simp)).mpr (by rw [getD_top1]; exact hnorm)

/-- `3 ≤ d.length` is the C's ASSERT (`dn > 2`); the proof uses only `2 ≤ d.length`, the two top limbs -/
theorem sb_div_qr_correct (n d : List Nat) (dinv : Nat) (hdn : 3 ≤ d.length) (hnn : d.length ≤ n.length)
    (hnorm : B / 2 ≤ d.getD (d.length - 1) 0) (hn : Limbs n) (hd : Limbs d)
    (hdinv : dinv = invert_pi1 (d.getD (d.length - 1) 0) (d.getD (d.length - 2) 0)) :
    ∃ q r qh, sb_div_qr n d dinv = (q, r, qh) ∧
      val n = (qh * B ^ (n.length - d.length) + val q) * val d + val r ∧
      val r < val d ∧ qh ≤ 1 ∧ Limbs q ∧ q.length = n.length - d.length ∧ Limbs r ∧ r.length = d.length := by
  obtain ⟨dlo, d0, d1, rfl, -, hdlo, hd0, hd1⟩ := exists_top2 (Nat.sub_add_cancel (by omega : 2 ≤ d.length)).symm hd
  rw [getD_last] at hnorm hdinv
  rw [getD_last2] at hdinv
  subst hdinv
  have hD : NormDiv dlo d0 d1 := ⟨hdlo, hd0, hd1, hnorm⟩
  have hdl : (dlo ++ [d0, d1]).length = dlo.length + 2 := by simp
  rw [hdl] at hnn ⊢
  have hnv := val_take_drop n (n.length - (dlo.length + 2)) (by omega)
  obtain ⟨qh, hi', e1, e2, hqh, hv, hlt, hl', hll'⟩ :=
    sb_init (n.drop (n.length - (dlo.length + 2))) _ (Limbs_drop hn _) hd (by rw [List.length_drop, hdl]; omega)
      (by rw [hdl]; exact norm_pow dlo d0 d1 hd hnorm)
  rw [hdl] at hll'
  have htop := val_take_top hi' (dlo.length + 1) hll'
  obtain ⟨ql, w', n1', el, hqll, hql, h3, h4, hw', hw'l, hn1'⟩ :=
    exactLoop_sb dlo d0 d1 hD _ (sbLoop (dlo ++ [d0, d1]) d1 d0 (invert_pi1 d1 d0)) (fun _ _ _ => rfl)
      (fun _ _ _ _ _ => rfl) (fun _ _ _ _ _ _ => rfl) (n.take (n.length - (dlo.length + 2))).reverse
      (hi'.take (dlo.length + 1)) (hi'.getD (dlo.length + 1) 0) [] (Limbs_reverse (Limbs_take hn _)) (Limbs_take hl' _)
      (by rw [List.length_take, hll']; omega) (getD_lt hl' _) (by rw [htop]; exact hlt)
  have hlol : (n.take (n.length - (dlo.length + 2))).reverse.length = n.length - (dlo.length + 2) := by
    rw [List.length_reverse, List.length_take]; omega
  rw [sb_div_qr_eq]
  simp only []
  rw [e1, e2, el]
  simp only [List.append_nil]
  rw [htop, List.reverse_reverse, hlol] at h3
  refine ⟨ql, w' ++ [n1'], qh, rfl, ?_, ?_, hqh, hql, by rw [hqll, hlol], Limbs.snoc hw' hn1', by simp [hw'l]⟩
  · rw [val_snoc, hw'l, hnv, hv]
    linear_combination h3
  · rw [val_snoc, hw'l]; exact h4

/-! ### the result as the value contract `DivZ.mpnDivQr`; `DivZ.divapprOk` -/

/-- a limb-level division result is the value contract `DivZ.mpnDivQr` -/
theorem mpnDivQr_eq_some (minDn minQn : Nat) (n d q r : List Nat) (qh : Nat)
    (hnorm : DivZ.normalised d = true) (hdn : minDn ≤ d.length) (hnn : d.length + minQn ≤ n.length)
    (h : val n = (qh * B ^ (n.length - d.length) + val q) * val d + val r) (hr : val r < val d)
    (hq : Limbs q) (hql : q.length = n.length - d.length) (hrl : Limbs r) (hrn : r.length = d.length) :
    DivZ.mpnDivQr minDn minQn n d = some (q, r, qh) := by
  obtain ⟨hQ, hR⟩ := divmod_of_eq (val n) (val d) _ _ h hr
  have hqlt := val_lt q hq
  rw [hql] at hqlt
  unfold DivZ.mpnDivQr
  rw [if_neg (by simp [hnorm]; omega)]
  simp only []
  rw [hQ, hR, (toLimbs_quot _ _ _ hqlt).1, (toLimbs_quot _ _ _ hqlt).2, ← hql, ← hrn, toLimbs_val q hq, toLimbs_val r hrl]

theorem divapprOk_iff (n d q : List Nat) (qh : Nat) :
    DivZ.divapprOk n d q qh = true ↔ q.length = n.length - d.length ∧
      (qh * B ^ (n.length - d.length) + val q = val n / val d ∨
       qh * B ^ (n.length - d.length) + val q = val n / val d + 1) := by
  unfold DivZ.divapprOk
  simp only [Bool.and_eq_true, beq_iff_eq, Bool.or_eq_true]
  rw [Nat.add_comm (val q), Nat.mul_comm (B ^ _)]

theorem sb_div_qr_eq_spec (n d : List Nat) (dinv : Nat) (hdn : 3 ≤ d.length) (hnn : d.length ≤ n.length)
    (hnorm : B / 2 ≤ d.getD (d.length - 1) 0) (hn : Limbs n) (hd : Limbs d)
    (hdinv : dinv = invert_pi1 (d.getD (d.length - 1) 0) (d.getD (d.length - 2) 0)) :
    DivZ.mpnDivQr 3 0 n d = some (sb_div_qr n d dinv) := by
  obtain ⟨q, r, qh, e, h, hr, _, hq, hql, hrl, hrn⟩ := sb_div_qr_correct n d dinv hdn hnn hnorm hn hd hdinv
  rw [e]
  exact mpnDivQr_eq_some 3 0 n d q r qh ((Tdiv.normalised_iff d (by omega)).mpr hnorm) hdn (by omega) h hr hq hql hrl hrn

end Mpir.SbDiv
