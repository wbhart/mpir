/-
  C18, `%Q`: the bytes of `__gmp_doprnt_integer` (printf/doprnti.c) for "num/den" as blanks, sign, base prefix, zeros, body,
  blanks (`layoutModelQ_shape`), and `layoutModelQ_roundtrip`: that text (`%Z` text is the case d = 1) read back by any
  scan conversion under which numerator and denominator have a `Shape`.
-/
import MpirProofs.Lemmas.ScanfI
namespace Mpir.Scanf
open Mpir.Printf

/-- the sign character that is not white space -/
def psign : Option Char → List Char
  | some c => if c = ' ' then [] else [c]
  | none => []

theorem sign_split (sign : Option Char) : ∃ m, sign.toList = List.replicate m ' ' ++ psign sign := by
  cases sign with
  | none => exact ⟨0, rfl⟩
  | some c =>
    by_cases h : c = ' '
    · exact ⟨1, by simp [psign, h]⟩
    · exact ⟨0, by simp [psign, h]⟩

theorem core_shape (P : Params) (sign : Option Char) (s sb : List Char)
    (hjf : (P.justify = .left ∧ P.fill = ' ') ∨ (P.justify = .internal ∧ P.fill = '0') ∨ (P.justify = .right ∧ P.fill = ' ')) :
    ∃ a k t, callsBytes (doprntIntegerCore false P sign s sb) =
        List.replicate a ' ' ++ (psign sign ++ (sb.take (cSL P s sb).toNat ++ (List.replicate k '0' ++
          (coreBody s sb (splitSlash s) (cDL P s sb) ++ List.replicate t ' ')))) ∧
      (P.justify ≠ .left → t = 0) ∧ (cZ P s).toNat ≤ k ∧ (P.justify ≠ .internal ∨ cJ P sign s sb ≤ 0 → k = (cZ P s).toNat) := by
  rw [doprntIntegerCore_bytes]
  unfold justLayout
  obtain ⟨m, hm⟩ := sign_split sign
  rw [hm]
  have rr : ∀ (c : Char) (m n : Nat) (l : List Char),
      List.replicate m c ++ (List.replicate n c ++ l) = List.replicate (m + n) c ++ l := by
    intros; rw [← List.append_assoc, List.replicate_append_replicate]
  rcases hjf with ⟨hj, hf⟩ | ⟨hj, hf⟩ | ⟨hj, hf⟩
  · refine ⟨m, (cZ P s).toNat, (cJ P sign s sb).toNat, ?_, fun h => absurd hj h, Nat.le_refl _, fun _ => rfl⟩
    simp [hj, hf, List.append_assoc]
  · refine ⟨m, (cZ P s).toNat + (cJ P sign s sb).toNat, 0, ?_, fun _ => rfl, Nat.le_add_right _ _, fun h => ?_⟩
    · simp [hj, hf, List.append_assoc, rr]
    · rcases h with h | h
      · exact absurd hj h
      · omega
  · refine ⟨(cJ P sign s sb).toNat + m, (cZ P s).toNat, 0, ?_, fun _ => rfl, Nat.le_refl _, fun _ => rfl⟩
    simp [hj, hf, List.append_assoc, rr]

/-! ### the text of `%Q` -/

/-- bytes `gmp_printf ("%<fl><w><p>Q<conv>", q)` produces according to the model; `n`, `d` = numerator and denominator as
    stored (not necessarily canonical) -/
def layoutModelQ (fl : List Char) (w : WidthArg) (p : PrecArg) (conv : Conv) (n d : Int) : List Char :=
  callsBytes (doprntIntegerG false (specParams false fl w p conv) (mpqGetStr (convBase conv) n d))

/-- numerator digits: none for 0 with precision 0 (doprnti.c:63-64) -/
def qNum (p : PrecArg) (conv : Conv) (n : Int) : List Char :=
  if n = 0 ∧ precInt p = 0 then [] else natDigits conv.base conv.upper n.natAbs
/-- the base prefix `#` asks for (doprnti.c:69-79) -/
def qSb (fl : List Char) (conv : Conv) : List Char :=
  if '#' ∈ fl then (if conv.base = 16 then (if conv.upper then ['0', 'X'] else ['0', 'x']) else if conv.base = 8 then ['0'] else []) else []
/-- `/`, base prefix and digits of the denominator; nothing for denominator 1 (mpq/get_str.c) -/
def qDen (fl : List Char) (conv : Conv) (d : Int) : List Char :=
  if d = 1 then [] else '/' :: (qSb fl conv ++ natDigits conv.base conv.upper d.natAbs)
/-- strlen of the string handed to `__gmp_doprnt_integer` (sign and precision-0 zero removed) -/
def qSlen (p : PrecArg) (conv : Conv) (n d : Int) : Nat :=
  (qNum p conv n).length + (if d = 1 then 0 else 1 + (natDigits conv.base conv.upper d.natAbs).length)
/-- the `0x` / `0X` in front of the numerator -/
def qPrefix (fl : List Char) (p : PrecArg) (conv : Conv) (n : Int) : List Char :=
  if conv.base = 16 ∧ ¬ ((qNum p conv n).head? = some '0') then qSb fl conv else []
def qSign (fl : List Char) (n : Int) : List Char := if n < 0 then ['-'] else if '+' ∈ fl then ['+'] else []
def qSignLen (fl : List Char) (n : Int) : Nat := if n < 0 ∨ '+' ∈ fl ∨ ' ' ∈ fl then 1 else 0

theorem qNum_cases (p : PrecArg) (conv : Conv) (n : Int) :
    qNum p conv n = natDigits conv.base conv.upper n.natAbs ∨ (n.natAbs = 0 ∧ qNum p conv n = []) := by
  unfold qNum; split
  · rename_i h; exact Or.inr ⟨by omega, rfl⟩
  · exact Or.inl rfl

theorem layoutModelQ_shape (fl : List Char) (w : WidthArg) (p : PrecArg) (conv : Conv) (n d : Int) (hd : 0 < d) :
    ∃ a k t, layoutModelQ fl w p conv n d =
        List.replicate a ' ' ++ (qSign fl n ++ (qPrefix fl p conv n ++ (List.replicate k '0' ++
          (qNum p conv n ++ (qDen fl conv d ++ List.replicate t ' '))))) ∧
      (¬ leftP fl w → t = 0) ∧
      ('#' ∈ fl ∧ conv.base = 8 → 1 ≤ k ∨ (qNum p conv n).head? = some '0') ∧
      (conv.base = 10 → precInt p ≤ (qSlen p conv n d : Int) →
        (¬ '0' ∈ fl ∨ leftP fl w ∨ 0 ≤ precInt p ∨ cWidth w ≤ qSignLen fl n + qSlen p conv n d) → k = 0) := by
  obtain ⟨hbase, hshow, hsign, hwidth, hprec, hjust, hfill⟩ := specParams_fields fl w p conv
  unfold layoutModelQ qPrefix
  generalize specParams false fl w p conv = P at *
  unfold mpqGetStr mpzGetStr
  rw [convBase_natAbs, convBase_neg]
  have hdn : ¬ d < 0 := by omega
  simp only [hdn, if_false, List.nil_append]
  have hb2 : 2 ≤ conv.base := by cases conv <;> decide
  have hb36 : conv.base ≤ 36 := by cases conv <;> decide
  have hnh := natDigits_head_ne_minus (u := conv.upper) hb2 hb36 n.natAbs
  have hnsl := fun c hc => (natDigits_ne_slash_minus (u := conv.upper) hb2 hb36 n.natAbs c hc).1
  have hne := natDigits_ne_nil conv.base conv.upper n.natAbs
  have hn0 : n = 0 → natDigits conv.base conv.upper n.natAbs = ['0'] := by
    intro h; rw [h]; exact natDigits_zero _ _
  have hn1 : n ≠ 0 → (natDigits conv.base conv.upper n.natAbs).head? ≠ some '0' :=
    fun h => natDigits_head_ne_zero conv.base conv.upper hb2 hb36 n.natAbs (by omega)
  have hd1 : (natDigits conv.base conv.upper d.natAbs).head? ≠ some '0' :=
    natDigits_head_ne_zero conv.base conv.upper hb2 hb36 d.natAbs (by omega)
  have hdne := natDigits_ne_nil conv.base conv.upper d.natAbs
  generalize hnd : natDigits conv.base conv.upper n.natAbs = nd at *
  generalize hdd : natDigits conv.base conv.upper d.natAbs = dd at *
  have hhead : (nd ++ if d = 1 then [] else '/' :: dd).head? ≠ some '-' := by
    cases nd with
    | nil => exact absurd rfl hne
    | cons a t => simpa using hnh
  rw [List.append_assoc, doprntIntegerG_signed P _ _ hhead]
  have hqn : qNum p conv n = if n = 0 ∧ precInt p = 0 then [] else nd := by unfold qNum; rw [hnd]
  have hs : (if (nd ++ if d = 1 then [] else '/' :: dd).head? = some '0' ∧ P.prec = 0
      then (nd ++ if d = 1 then [] else '/' :: dd).tail else nd ++ if d = 1 then [] else '/' :: dd) =
      qNum p conv n ++ (if d = 1 then [] else '/' :: dd) := by
    rw [hqn, hprec]
    by_cases h0 : n = 0
    · rw [hn0 h0]; by_cases hp0 : precInt p = 0 <;> simp [h0, hp0]
    · have := hn1 h0
      cases nd with
      | nil => exact absurd rfl hne
      | cons a t => simp at this; simp [h0, this]
  rw [hs]
  have hq0 : (qNum p conv n).head? = some '0' ↔ (n = 0 ∧ precInt p ≠ 0) := by
    rw [hqn]
    by_cases h0 : n = 0
    · rw [hn0 h0]; by_cases hp0 : precInt p = 0 <;> simp [h0, hp0]
    · have := hn1 h0; simp [h0, this]
  have hqsl : ∀ c ∈ qNum p conv n, c ≠ '/' := by
    rw [hqn]; intro c hc; split at hc
    · cases hc
    · exact hnsl c hc
  have hqlen : (qNum p conv n ++ if d = 1 then [] else '/' :: dd).length = qSlen p conv n d := by
    unfold qSlen; rw [hdd]; by_cases h1 : d = 1 <;> simp [h1]; omega
  have hshd : (qNum p conv n ++ if d = 1 then [] else '/' :: dd).head? = some '0' ↔ (qNum p conv n).head? = some '0' := by
    cases hq : qNum p conv n with
    | nil => by_cases h1 : d = 1 <;> simp [h1]
    | cons a t => simp
  generalize qNum p conv n = NQ at *
  have hjf : (P.justify = .left ∧ P.fill = ' ') ∨ (P.justify = .internal ∧ P.fill = '0') ∨ (P.justify = .right ∧ P.fill = ' ') := by
    rw [hjust, hfill]
    by_cases h1 : leftP fl w
    · left; simp [h1]
    · by_cases h2 : '0' ∈ fl ∧ precInt p < 0
      · right; left; simp [h1, h2]
      · right; right; simp only [h1, h2, if_false, not_false_eq_true, true_and]
  obtain ⟨a, k, t, hbytes, ht, hzk, hkz⟩ :=
    core_shape P (if n < 0 then some '-' else P.sign) (NQ ++ if d = 1 then [] else '/' :: dd) (showbaseStr P) hjf
  rw [hbytes]
  obtain ⟨hps, hsl⟩ : psign (if n < 0 then some '-' else P.sign) = qSign fl n ∧
      ((if n < 0 then some '-' else P.sign).isSome = true ↔ (n < 0 ∨ '+' ∈ fl ∨ ' ' ∈ fl)) := by
    rw [hsign]; unfold qSign psign
    by_cases hv : n < 0 <;> by_cases h1 : '+' ∈ fl <;> by_cases h2 : ' ' ∈ fl <;> simp [hv, h1, h2]
  have hsb : showbaseStr P = qSb fl conv := by
    unfold showbaseStr qSb; rw [hshow, hbase]
    by_cases hh : '#' ∈ fl <;> cases conv <;> simp [hh, convBase, Conv.base, Conv.upper]
  have hsplit := splitSlash_opt NQ dd (d = 1) hqsl
  have hnz : P.showbase = .nonzero ↔ '#' ∈ fl := by rw [hshow]; by_cases hh : '#' ∈ fl <;> simp [hh]
  have hDL : cDL P (NQ ++ if d = 1 then [] else '/' :: dd) (showbaseStr P) = if d = 1 then 0 else ((qSb fl conv).length : Int) := by
    unfold cDL; rw [hsplit, hsb]
    by_cases h1 : d = 1
    · simp [h1]
    · simp only [h1, if_false]; rw [if_neg]; rintro ⟨-, h⟩; exact hd1 h
  have hbody : coreBody (NQ ++ if d = 1 then [] else '/' :: dd) (showbaseStr P)
      (splitSlash (NQ ++ if d = 1 then [] else '/' :: dd)) (cDL P (NQ ++ if d = 1 then [] else '/' :: dd) (showbaseStr P)) =
      NQ ++ qDen fl conv d := by
    rw [hDL, hsplit, hsb]; unfold coreBody qDen; rw [hdd]
    by_cases h1 : d = 1
    · simp [h1]
    · simp only [h1, if_false]
      by_cases hl : ((qSb fl conv).length : Int) ≠ 0
      · simp [hl]
      · have : qSb fl conv = [] := by
          have : (qSb fl conv).length = 0 := by omega
          exact List.length_eq_zero_iff.mp this
        simp [this]
  rw [hbody]
  have hZ : cZ P (NQ ++ if d = 1 then [] else '/' :: dd) = max 0 (precInt p - (qSlen p conv n d : Int)) := by
    unfold cZ; rw [hqlen, hprec]
  -- the base prefix: `0x` stays a prefix, the octal `0` joins the zeros
  have hpre : ∃ e, (showbaseStr P).take (cSL P (NQ ++ if d = 1 then [] else '/' :: dd) (showbaseStr P)).toNat ++ List.replicate k '0' =
      (if conv.base = 16 ∧ ¬ (NQ.head? = some '0') then qSb fl conv else []) ++ List.replicate (k + e) '0' ∧
      ('#' ∈ fl ∧ conv.base = 8 → 1 ≤ k + e ∨ NQ.head? = some '0') ∧ (conv.base = 10 → e = 0) := by
    unfold cSL
    rw [hsb]
    simp only [hshd, hnz]
    have hzk' : cZ P (NQ ++ if d = 1 then [] else '/' :: dd) > 0 → 1 ≤ k := by intro h; omega
    generalize cZ P (NQ ++ if d = 1 then [] else '/' :: dd) = Z at *
    by_cases hh : '#' ∈ fl
    · rcases ConvBase_base _ _ (conv_ConvBase conv) with h8 | h10 | h16
      · have hq : qSb fl conv = ['0'] := by unfold qSb; simp [hh, h8]
        rw [hq]
        by_cases h0 : NQ.head? = some '0'
        · exact ⟨0, by simp [hh, h0, h8], fun _ => Or.inr h0, fun _ => rfl⟩
        · by_cases hz : Z > 0
          · exact ⟨0, by simp [hh, h0, h8, hz], fun _ => Or.inl (by have := hzk' hz; omega), fun _ => rfl⟩
          · exact ⟨1, by simp [hh, h0, h8, hz, List.replicate_succ], fun _ => Or.inl (by omega), fun h => by omega⟩
      · have hq : qSb fl conv = [] := by unfold qSb; simp [hh, h10]
        rw [hq]
        exact ⟨0, by simp [h10], fun h => by omega, fun _ => rfl⟩
      · have hq : (qSb fl conv).length = 2 := by unfold qSb; cases conv.upper <;> simp [hh, h16]
        by_cases h0 : NQ.head? = some '0'
        · exact ⟨0, by simp [hh, h0, h16], fun h => by omega, fun _ => rfl⟩
        · refine ⟨0, ?_, fun h => by omega, fun _ => rfl⟩
          simp only [hh, h0, and_false, if_false, hq, true_and, not_false_eq_true, and_true, h16, if_true]
          have h21 : ¬ (((2 : Nat) : Int) = 1) := by omega
          have ht2 : List.take 2 (qSb fl conv) = qSb fl conv := List.take_of_length_le (by omega)
          simp [h21, ht2]
    · have hq : qSb fl conv = [] := by unfold qSb; simp [hh]
      rw [hq]
      exact ⟨0, by simp, fun h => absurd h.1 hh, fun _ => rfl⟩
  obtain ⟨e, he, hoct, hdece⟩ := hpre
  refine ⟨a, k + e, t, ?_, ?_, hoct, ?_⟩
  · rw [hps, ← List.append_assoc ((showbaseStr P).take _), he]
    simp only [List.append_assoc]
  · intro hl; apply ht; rw [hjust]; simp only [hl, if_false]; split <;> simp
  · intro h10 hpl hor
    rw [hdece h10, Nat.add_zero]
    have hz0 : (cZ P (NQ ++ if d = 1 then [] else '/' :: dd)).toNat = 0 := by rw [hZ]; omega
    rw [← hz0]
    apply hkz
    rcases hor with h | h | h | h
    · left; rw [hjust]; by_cases hl : leftP fl w <;> simp [hl, h]
    · left; rw [hjust]; simp [h]
    · left; rw [hjust]; by_cases hl : leftP fl w <;> simp [hl]; omega
    · right
      have hq : qSb fl conv = [] := by unfold qSb; by_cases hh : '#' ∈ fl <;> simp [hh, h10]
      have hSL : cSL P (NQ ++ if d = 1 then [] else '/' :: dd) (showbaseStr P) = 0 := by
        unfold cSL; rw [hsb, hq]; simp
      have hc0 : cZ P (NQ ++ if d = 1 then [] else '/' :: dd) ≥ 0 := by unfold cZ; omega
      have hcz : cZ P (NQ ++ if d = 1 then [] else '/' :: dd) = 0 := by omega
      unfold cJ
      rw [hSL, hDL, hq, hqlen, hwidth, hcz]
      have : (if (if n < 0 then some '-' else P.sign).isSome = true then (1 : Int) else 0) = (qSignLen fl n : Int) := by
        unfold qSignLen
        by_cases hc : (n < 0 ∨ '+' ∈ fl ∨ ' ' ∈ fl)
        · rw [if_pos (hsl.mpr hc), if_pos hc]; rfl
        · rw [if_neg (fun h => hc (hsl.mp h)), if_neg hc]; rfl
      rw [this]
      split <;> simp <;> omega

/-! ### base detection on the two parts of a printed rational -/

theorem qi_num_key (fl : List Char) (p : PrecArg) (conv : Conv) (n : Int) (k : Nat) (R : List Char)
    (hR : ∀ c, R.head? = some c → c = '/' ∨ c = ' ')
    (hdig : ¬ (n = 0 ∧ precInt p = 0 ∧ ¬ ('#' ∈ fl ∧ conv = .o)))
    (hhash : conv.base ≠ 10 → n ≠ 0 → '#' ∈ fl)
    (hk8 : '#' ∈ fl ∧ conv.base = 8 → 1 ≤ k ∨ (qNum p conv n).head? = some '0')
    (hk0 : conv.base = 10 → n ≠ 0 → k = 0) :
    ∃ pre body b, qPrefix fl p conv n ++ (List.replicate k '0' ++ (qNum p conv n ++ R)) = pre ++ (body ++ R) ∧
      Shape 0 b pre body R ∧ (pre = ['0'] ∨ body ≠ []) ∧ strVal b body = n.natAbs := by
  have hb2 : 2 ≤ conv.base := by cases conv <;> decide
  have hb36 : conv.base ≤ 36 := by cases conv <;> decide
  -- no digit printed: only with `#` and o
  have hnil : qNum p conv n = [] → '#' ∈ fl ∧ conv = .o := by
    intro hq
    by_contra hc
    unfold qNum at hq
    split at hq
    · rename_i h3; exact hdig ⟨h3.1, h3.2, hc⟩
    · exact natDigits_ne_nil _ _ _ hq
  have hds := qNum_cases p conv n
  refine detect_shape conv.base conv.upper (conv_ConvBase conv) n.natAbs k _ _ R hR hds ?_ ?_
    (fun h10 hn => hk0 h10 (by omega))
  · unfold qPrefix
    by_cases h16 : conv.base = 16
    · by_cases hn : n = 0
      · have h0 : qNum p conv n = ['0'] := by
          rcases hds with h | ⟨-, h⟩
          · rw [h, hn]; exact natDigits_zero _ _
          · have := (hnil h).2; rw [this] at h16; cases h16
        rw [h0]; simp [hn]
      · have hhd : ¬ (qNum p conv n).head? = some '0' := by
          rw [hds.elim id (fun h => absurd h.1 (by omega))]
          exact natDigits_head_ne_zero _ _ hb2 hb36 _ (by omega)
        have hh : '#' ∈ fl := hhash (by omega) hn
        rw [if_pos ⟨h16, hhd⟩, if_pos ⟨h16, by omega⟩]
        unfold qSb; simp [hh, h16]
    · rw [if_neg (fun h => h16 h.1), if_neg (fun h => h16 h.1)]
  · rintro (h | ⟨h8, hn⟩)
    · have := hnil h
      exact hk8 ⟨this.1, by rw [this.2]; rfl⟩
    · exact hk8 ⟨hhash (by omega) (by omega), h8⟩

/-- the denominator (≠ 1) as `%Qi` sees it: the `0` that `#` puts in front of octal digits is the first of the zeros -/
theorem qi_den_key (fl : List Char) (conv : Conv) (d : Int) (hd : 0 < d) (R : List Char)
    (hR : ∀ c, R.head? = some c → c = '/' ∨ c = ' ')
    (hhash : conv.base ≠ 10 → '#' ∈ fl) :
    ∃ pre body b, qSb fl conv ++ natDigits conv.base conv.upper d.natAbs = pre ++ body ∧
      Shape 0 b pre body R ∧ (pre = ['0'] ∨ body ≠ []) ∧ strVal b body = d.natAbs := by
  have hb := ConvBase_base _ _ (conv_ConvBase conv)
  have hm : d.natAbs ≠ 0 := by omega
  obtain ⟨pre, body, b, hkey, hsh, hv, hval⟩ := detect_shape conv.base conv.upper (conv_ConvBase conv) d.natAbs
    (if conv.base = 8 then 1 else 0) _ (natDigits conv.base conv.upper d.natAbs) R hR (Or.inl rfl) rfl
    (fun h => h.elim (fun h => absurd h (natDigits_ne_nil _ _ _)) (fun h => by rw [if_pos h.1]; exact Or.inl (Nat.le_refl 1)))
    (fun h10 _ => by rw [if_neg (by omega)])
  refine ⟨pre, body, b, ?_, hsh, hv, hval⟩
  apply List.append_cancel_right (bs := R)
  rw [List.append_assoc pre, ← hkey]
  unfold qSb
  rcases hb with h | h | h
  · simp [hhash (by omega), h]
  · simp [h]
  · simp [hhash (by omega), h, hm]

/-! ### reading `%Z` / `%Q` text back -/

theorem layoutModel_eq_Q (fl : List Char) (w : WidthArg) (p : PrecArg) (conv : Conv) (v : Int) :
    layoutModel fl w p conv v = layoutModelQ fl w p conv v 1 := by
  simp [layoutModel, layoutModelG, layoutModelQ, mpqGetStr]

theorem qSign_cases (fl : List Char) (n : Int) :
    (qSign fl n = [] ∨ qSign fl n = ['-'] ∨ qSign fl n = ['+']) ∧ (qSign fl n = ['-'] ↔ n < 0) := by
  unfold qSign
  by_cases h : n < 0
  · simp [h]
  · by_cases h2 : '+' ∈ fl <;> simp [h, h2]

theorem qDen_cases (fl : List Char) (conv : Conv) (d : Int) :
    (d = 1 ∧ qDen fl conv d = []) ∨
    (d ≠ 1 ∧ qDen fl conv d = '/' :: (qSb fl conv ++ natDigits conv.base conv.upper d.natAbs)) := by
  unfold qDen
  by_cases h : d = 1
  · exact Or.inl ⟨h, if_pos h⟩
  · exact Or.inr ⟨h, if_neg h⟩

/-- The round trip of `%Z` (d = 1) and `%Q` text through a scan conversion `c` of scan base `b0` (0 = detect) holds as soon
    as numerator and denominator, as printed (base prefix, `k` zeros, digits), have a `Shape` under `b0` (`hnum`, `hden`). -/
theorem layoutModelQ_roundtrip (T c : Char) (b0 : Nat) (hc : ConvChar c b0) (fl : List Char) (w : WidthArg) (p : PrecArg)
    (conv : Conv) (n d : Int) (hd : 0 < d) (hT : T = 'Q' ∨ (T = 'Z' ∧ d = 1))
    (hnum : ∀ (k : Nat) (R : List Char), (∀ c, R.head? = some c → c = '/' ∨ c = ' ') →
      ('#' ∈ fl ∧ conv.base = 8 → 1 ≤ k ∨ (qNum p conv n).head? = some '0') →
      (conv.base = 10 → precInt p ≤ (qSlen p conv n d : Int) →
        (¬ '0' ∈ fl ∨ leftP fl w ∨ 0 ≤ precInt p ∨ cWidth w ≤ qSignLen fl n + qSlen p conv n d) → k = 0) →
      ∃ pre body b, qPrefix fl p conv n ++ (List.replicate k '0' ++ (qNum p conv n ++ R)) = pre ++ (body ++ R) ∧
        Shape b0 b pre body R ∧ (pre = ['0'] ∨ body ≠ []) ∧ strVal b body = n.natAbs)
    (hden : d ≠ 1 → ∀ R : List Char, (∀ c, R.head? = some c → c = '/' ∨ c = ' ') →
      ∃ pre body b, qSb fl conv ++ natDigits conv.base conv.upper d.natAbs = pre ++ body ∧
        Shape b0 b pre body R ∧ (pre = ['0'] ∨ body ≠ []) ∧ strVal b body = d.natAbs)
    (hlen : (layoutModelQ fl w p conv n d).length ≤ 2147483646) :
    ∃ t, doscan ['%', T, c, '%', 'n'] (layoutModelQ fl w p conv n d) =
        some { fields := 1, outs := [outT T n d, .int (((layoutModelQ fl w p conv n d).length - t : Nat) : Int)],
               rest := List.replicate t ' ' } ∧
      t ≤ (layoutModelQ fl w p conv n d).length ∧ (¬ leftP fl w → t = 0) := by
  obtain ⟨a, k, t, htext, ht, hk8, hk0⟩ := layoutModelQ_shape fl w p conv n d hd
  have hRb := blank_sep t
  have hRq : ∀ c, (qDen fl conv d ++ List.replicate t ' ').head? = some c → c = '/' ∨ c = ' ' := by
    intro c hc
    rcases qDen_cases fl conv d with ⟨-, e⟩ | ⟨-, e⟩ <;> rw [e] at hc
    · exact hRb c hc
    · simp at hc; exact Or.inl hc.symm
  obtain ⟨pre1, body1, b1, hkey1, hsh1, hv1, hval1⟩ := hnum k _ hRq hk8 hk0
  obtain ⟨hsg, hsgneg⟩ := qSign_cases fl n
  have hden' : (d = 1 ∧ qDen fl conv d = []) ∨ ∃ pre2 body2 b2, d ≠ 1 ∧ qDen fl conv d = '/' :: (pre2 ++ body2) ∧
      Shape b0 b2 pre2 body2 (List.replicate t ' ') ∧ (pre2 = ['0'] ∨ body2 ≠ []) ∧ strVal b2 body2 = d.natAbs := by
    rcases qDen_cases fl conv d with h | ⟨hd1, e⟩
    · exact Or.inl h
    · obtain ⟨pre2, body2, b2, hkey2, rest⟩ := hden hd1 _ hRb
      exact Or.inr ⟨pre2, body2, b2, hd1, by rw [e, hkey2], rest⟩
  rw [hkey1] at htext
  have hl : t ≤ (layoutModelQ fl w p conv n d).length := by
    rw [htext]; simp only [List.length_append, List.length_replicate]; omega
  exact ⟨t, doscan_rat T c b0 a t hc n d hd hT _ pre1 body1 _ b1 hsg hsgneg hsh1 hv1 hval1 hden' _ htext hlen, hl, ht⟩

/-- numerator and denominator as a conversion of the base they were printed in sees them: no `0x` (`hx`), zeros and
    the `0` of `#` with o are digits -/
theorem q_num_key (fl : List Char) (p : PrecArg) (conv : Conv) (n : Int) (k : Nat) (R : List Char)
    (hR : ∀ c, R.head? = some c → c = '/' ∨ c = ' ')
    (hdig : ¬ (n = 0 ∧ precInt p = 0 ∧ ¬ ('#' ∈ fl ∧ conv = .o)))
    (hx : ¬ ('#' ∈ fl ∧ conv.base = 16 ∧ n ≠ 0))
    (hk8 : '#' ∈ fl ∧ conv.base = 8 → 1 ≤ k ∨ (qNum p conv n).head? = some '0') :
    ∃ pre body b, qPrefix fl p conv n ++ (List.replicate k '0' ++ (qNum p conv n ++ R)) = pre ++ (body ++ R) ∧
      Shape conv.base b pre body R ∧ (pre = ['0'] ∨ body ≠ []) ∧ strVal b body = n.natAbs := by
  have hcb := conv_ConvBase conv
  have hb := ConvBase_base _ _ hcb
  have hnil : qNum p conv n = [] → n = 0 ∧ precInt p = 0 := by
    intro hq; unfold qNum at hq; split at hq
    · assumption
    · exact absurd hq (natDigits_ne_nil _ _ _)
  have hpre : qPrefix fl p conv n = [] := by
    unfold qPrefix qSb
    by_cases h16 : conv.base = 16
    · by_cases hn : n = 0
      · have hq : (qNum p conv n).head? = some '0' := by
          unfold qNum; rw [hn]; split
          · rename_i h3; exact absurd ⟨rfl, h3.2, by rintro ⟨-, h6⟩; rw [h6] at h16; cases h16⟩ (hn ▸ hdig)
          · rw [Int.natAbs_zero, natDigits_zero]; rfl
        simp [hq]
      · rw [if_neg (fun hh => hx ⟨hh, h16, hn⟩)]; simp
    · simp [h16]
  obtain ⟨hall, hne, hval⟩ := zeros_digits conv.base conv.upper hcb n.natAbs k _ (qNum_cases p conv n) (by
    intro hq
    by_contra hk
    obtain ⟨h1, h2⟩ := hnil hq
    refine hdig ⟨h1, h2, fun h4 => ?_⟩
    rcases hk8 ⟨h4.1, by rw [h4.2]; rfl⟩ with h5 | h5
    · exact hk h5
    · rw [hq] at h5; cases h5)
  exact ⟨[], _, conv.base, by rw [hpre, List.nil_append, List.nil_append, List.append_assoc],
    ⟨hall, sep_not_digit conv.base hb R hR, Or.inl ⟨rfl, hb, rfl⟩⟩, Or.inr hne, hval⟩

theorem q_den_key (fl : List Char) (conv : Conv) (d : Int) (R : List Char)
    (hR : ∀ c, R.head? = some c → c = '/' ∨ c = ' ') (hx : ¬ ('#' ∈ fl ∧ conv.base = 16)) :
    ∃ pre body b, qSb fl conv ++ natDigits conv.base conv.upper d.natAbs = pre ++ body ∧
      Shape conv.base b pre body R ∧ (pre = ['0'] ∨ body ≠ []) ∧ strVal b body = d.natAbs := by
  have hcb := conv_ConvBase conv
  have hb := ConvBase_base _ _ hcb
  obtain ⟨j, hj⟩ : ∃ j, qSb fl conv = List.replicate j '0' := by
    unfold qSb
    by_cases hh : '#' ∈ fl
    · rcases hb with h | h | h
      · exact ⟨1, by simp [hh, h]⟩
      · exact ⟨0, by simp [hh, h]⟩
      · exact absurd ⟨hh, h⟩ hx
    · exact ⟨0, by simp [hh]⟩
  obtain ⟨hall, hne, hval⟩ := zeros_digits conv.base conv.upper hcb d.natAbs j _ (Or.inl rfl)
    (fun h => absurd h (natDigits_ne_nil _ _ _))
  exact ⟨[], _, conv.base, by rw [hj]; rfl, ⟨hall, sep_not_digit conv.base hb R hR, Or.inl ⟨rfl, hb, rfl⟩⟩, Or.inr hne, hval⟩

/-- the precision and the sign length of the `%Z` statements in the terms of the `%Q` ones -/
theorem cPrec_zero_iff (p : PrecArg) (hp : p ≠ .dot) : cPrec p = some 0 ↔ precInt p = 0 := by
  rw [cPrec_precInt p hp]; cases cPrec p <;> simp

theorem qSignLen_eq (fl : List Char) (w : WidthArg) (v : Int) :
    qSignLen fl v = (signChars (cFlags fl w) (decide (v < 0))).length := by
  rw [cFlags_eq]; unfold qSignLen signChars
  by_cases h1 : v < 0 <;> by_cases h2 : '+' ∈ fl <;> by_cases h3 : ' ' ∈ fl <;> simp [h1, h2, h3]

end Mpir.Scanf
