/- mpn_inv_div_qr_n (Mpir/Model/InvDiv.lean): the quotient estimate inv_div_qr_n.c:57-73 (`est_le`, `est_ge`, `estimateFinish`) and the final
   loop (`loopCond_iff`, `loopStep_val`). -/
import Mpir.Model.InvDiv
import MpirProofs.Lemmas.Base
import Mathlib.Tactic.Ring
import Mathlib.Tactic.Linarith
namespace Mpir.InvDiv
open Mpir

/-- the estimate never exceeds the quotient: inv_div_qr_n.c:57-62, left inequality.
    P = B^(dn-1), E = B^(dn+1), W = ⌊N1/P⌋ the dn+1 top limbs, X = B^dn + inv, qf = ⌊W·X/E⌋. -/
theorem est_le (P E D X W N1 qf : Nat) (hE : 0 < E) (hDX : D * X ≤ P * E)
    (hW : W * P ≤ N1) (hqf : qf * E ≤ W * X) : qf * D ≤ N1 := by
  have h : qf * D * E ≤ W * P * E := by
    calc qf * D * E = (qf * E) * D := by ring
      _ ≤ (W * X) * D := Nat.mul_le_mul_right _ hqf
      _ = W * (D * X) := by ring
      _ ≤ W * (P * E) := Nat.mul_le_mul_left _ hDX
      _ = W * P * E := by ring
  exact le_trans (Nat.le_of_mul_le_mul_right h hE) hW

/-- the estimate is at most 2 below the quotient: inv_div_qr_n.c:57-62, right inequality -/
theorem est_ge (P E D X W N1 qf : Nat) (hD : 0 < D) (hXD : P * E ≤ D * (X + 1))
    (hW : N1 < (W + 1) * P) (hqf : W * X < (qf + 1) * E) (hWE : W < E) (hXE : X + 1 ≤ E) :
    N1 < (qf + 3) * D := by
  have h : (W + 1) * P * E < (qf + 3) * D * E := by
    calc (W + 1) * P * E = (W + 1) * (P * E) := by ring
      _ ≤ (W + 1) * (D * (X + 1)) := Nat.mul_le_mul_left _ hXD
      _ = D * (W * X + W + X + 1) := by ring
      _ < D * ((qf + 3) * E) := by
          apply Nat.mul_lt_mul_of_pos_left _ hD
          have : (qf + 3) * E = (qf + 1) * E + 2 * E := by ring
          omega
      _ = (qf + 3) * D * E := by ring
  have := Nat.lt_of_mul_lt_mul_right h
  omega

theorem addN_small (k a b : Nat) (h : a + b < B ^ k) : addN k a b = (a + b, 0) := by
  unfold addN; rw [if_neg (by omega)]

theorem subN_ge (k a b : Nat) (h : b ≤ a) : subN k a b = (a - b, 0) := by
  unfold subN; rw [if_neg (by omega)]

/-- inv_div_qr_n.c:63-73 on the sum q = {qp, dn} and the carries `ret` collected at :54-55 -/
def estimateFinish (dn q ret : Nat) : Nat × Nat × Bool :=
  let s1 := if ret = 1 then subN dn q 1 else (q, 0)
  let as1 := if ret = 1 then decide (ret - s1.2 = 0) else true
  let ret := ret - s1.2
  let s2 := subN dn s1.1 1
  let ret := (ret + B - s2.2) % B
  let a3 := if ret = B - 1 then addN dn s2.1 1 else (s2.1, 0)
  let ret := (ret + a3.2) % B
  (a3.1, ret, as1 && decide (ret = 0))

theorem estimate_eq (dn N1 inv : Nat) :
    estimate dn N1 inv =
      estimateFinish dn
        (addN dn (addN dn (N1 / B ^ (dn - 1) * inv / B ^ (dn + 1) % B ^ dn) (N1 / B ^ dn)).1
          ((N1 / B ^ (dn - 1) % B + N1 / B ^ (dn - 1) * inv / B ^ dn % B) / B)).1
        ((addN dn (N1 / B ^ (dn - 1) * inv / B ^ (dn + 1) % B ^ dn) (N1 / B ^ dn)).2
          + (addN dn (addN dn (N1 / B ^ (dn - 1) * inv / B ^ (dn + 1) % B ^ dn) (N1 / B ^ dn)).1
            ((N1 / B ^ (dn - 1) % B + N1 / B ^ (dn - 1) * inv / B ^ dn % B) / B)).2) := rfl

/-- without a carry from :54-55 the branch :63-67 is skipped and :69-71 decrement q, except that 0 stays 0 (the borrow of
    :69 is added back at :70-71); `ret` ends 0 either way -/
theorem estimateFinish_zero (dn q : Nat) (hq : q < B ^ dn) : estimateFinish dn q 0 = (q - 1, 0, true) := by
  have hne : (0 : Nat) ≠ B - 1 := by decide
  unfold estimateFinish
  simp only [Nat.zero_ne_one, if_false, Nat.sub_zero, Nat.zero_add]
  rcases Nat.eq_zero_or_pos q with h0 | h0
  · subst h0
    have hs : subN dn 0 1 = (B ^ dn - 1, 1) := by unfold subN; rw [if_pos Nat.one_pos, Nat.zero_add]
    have ha : addN dn (B ^ dn - 1) 1 = (0, 1) := by unfold addN; rw [if_pos (by omega)]; congr 1; omega
    have hB1 : (B - 1) % B = B - 1 := by decide
    have hBB : (B - 1 + 1) % B = 0 := by decide
    simp [hs, ha, hB1, hBB]
  · simp [subN_ge dn q 1 h0, hne]

theorem add_div_B (a b : Nat) : (a + b) / B = a / B + b / B + (b % B + a % B) / B := by
  rw [B_eq]; omega

/-- `np[dn] || mpn_cmp (np, dp, dn) >= 0` on an area below B^(dn+1) says r ≥ D -/
theorem loopCond_iff (dn D r : Nat) (hD : D < B ^ dn) (hr : r < B ^ (dn + 1)) :
    loopCond dn D r = true ↔ D ≤ r := by
  have hP : 0 < B ^ dn := Nat.pow_pos B_pos
  have hdm := Nat.mod_add_div r (B ^ dn)
  have hml := Nat.mod_lt r hP
  have hh : r / B ^ dn < B := Nat.div_lt_of_lt_mul (by rw [pow_succ] at hr; exact hr)
  unfold loopCond
  rw [Nat.mod_eq_of_lt hh]
  simp only [Bool.or_eq_true, decide_eq_true_eq]
  generalize r % B ^ dn = l at *
  generalize r / B ^ dn = h at *
  rcases Nat.eq_zero_or_pos h with h0 | h0
  · subst h0; simp at hdm; omega
  · have : B ^ dn ≤ B ^ dn * h := Nat.le_mul_of_pos_right _ h0
    generalize B ^ dn * h = y at *
    constructor
    · intro _; omega
    · intro _; left; omega

/-- one round of the final loop, inv_div_qr_n.c:102, on an area D ≤ r < B^(dn+1): `mpn_sub_n (np, np, dp, dn)` and
    `np[dn] -= borrow` leave r - D -/
theorem loopStep_val (dn D r : Nat) (hD : D < B ^ dn) (hr : r < B ^ (dn + 1)) (hc : D ≤ r) :
    (subN dn (r % B ^ dn) D).1 + B ^ dn * ((r / B ^ dn % B + B - (subN dn (r % B ^ dn) D).2) % B)
      + B ^ (dn + 1) * (r / B ^ (dn + 1)) = r - D := by
  have hP : 0 < B ^ dn := Nat.pow_pos B_pos
  have hdm := Nat.mod_add_div r (B ^ dn)
  have hml := Nat.mod_lt r hP
  have hh : r / B ^ dn < B := Nat.div_lt_of_lt_mul (by rw [pow_succ] at hr; exact hr)
  have hhi : r / B ^ (dn + 1) = 0 := Nat.div_eq_of_lt hr
  rw [hhi, Nat.mul_zero, Nat.add_zero, Nat.mod_eq_of_lt hh]
  generalize r % B ^ dn = l at *
  generalize r / B ^ dn = h at *
  unfold subN
  by_cases hl : l < D
  · simp only [hl, if_true]
    have h1 : 1 ≤ h := by
      rcases Nat.eq_zero_or_pos h with h0 | h0
      · subst h0; simp at hdm; omega
      · exact h0
    obtain ⟨h', rfl⟩ : ∃ h', h = h' + 1 := ⟨h - 1, by omega⟩
    have : (h' + 1 + B - 1) % B = h' := by
      rw [show h' + 1 + B - 1 = h' + B by omega, Nat.add_mod_right, Nat.mod_eq_of_lt (by omega)]
    rw [this]
    have : B ^ dn * (h' + 1) = B ^ dn * h' + B ^ dn := by ring
    generalize B ^ dn * h' = y at *
    omega
  · simp only [hl, if_false]
    have : (h + B - 0) % B = h := by
      rw [Nat.sub_zero, Nat.add_mod_right, Nat.mod_eq_of_lt hh]
    rw [this]
    generalize B ^ dn * h = y at *
    omega

theorem subN_mod (k x y : Nat) (hyx : y ≤ x) (hd : x - y < B ^ k) :
    (subN k (x % B ^ k) (y % B ^ k)).1 = x - y := by
  have hM : 0 < B ^ k := Nat.pow_pos B_pos
  obtain ⟨d, rfl⟩ : ∃ d, x = y + d := ⟨x - y, by omega⟩
  rw [Nat.add_sub_cancel_left] at hd ⊢
  have hx : (y + d) % B ^ k = (y % B ^ k + d) % B ^ k := by
    rw [Nat.add_mod, Nat.mod_eq_of_lt hd]
  have ha := Nat.mod_lt y hM
  rw [hx]
  generalize y % B ^ k = a at *
  unfold subN
  by_cases h : a + d < B ^ k
  · rw [Nat.mod_eq_of_lt h, if_neg (by omega)]; simp
  · rw [Nat.mod_eq_sub_mod (by omega), Nat.mod_eq_of_lt (by omega), if_pos (by omega)]
    show a + d - B ^ k + B ^ k - a = d
    omega

end Mpir.InvDiv
