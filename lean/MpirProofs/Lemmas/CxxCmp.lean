/- C20 lemmas: comparisons, `cmp` and `sgn` through mpirxx.h's `const&` binding strategy equal the comparison of the temporaries. -/
import MpirProofs.Lemmas.CxxQ2
namespace Mpir.Cxx

/-! ### comparisons, `cmp`, `sgn` on mpz-typed operands -/

def Opnd.zOk (K : Nat) (h : Heap) : Opnd → Prop
  | .ex e => e.ty = .z ∧ e.wt = true ∧ e.zbelow K ∧ e.canon h
  | .bi c => c.ok = true

theorem opndRat_ex_z (h : Heap) (e : E) (hty : e.ty = .z) (hc : e.canon h) :
    opndRat h.abs (.ex e) = (evalTmpZ h.get e).map fun x => ((x : Int) : Rat) := by
  simp only [opndRat, evalTmp_z h e hty hc, Option.map_map]
  rfl

/-- the mpz half of `cmp_eval_correct_partial` (Props/C20.lean): no temporary for an `mpz_class` operand, one per expression
    operand, then the `__gmp_binary_equal/less/greater/__gmp_cmp_function` overload -/
theorem execCmpZ_correct (cst : Bool) (K : Nat) (o : Cmp) (a b : Opnd) (h : Heap)
    (ha : a.zOk K h) (hb : b.zOk K h) (hab : ¬(∃ c c', a = .bi c ∧ b = .bi c')) :
    (execCmpZ cst K o a b h).map Res.int = execTmp h.abs (.cmp o a b) := by
  have B := bindZ_correct cst
  cases a with
  | ex ea =>
    obtain ⟨hta, hwa, hba, hca⟩ := ha
    have Ba := B ea hta hwa K h hba
    cases b with
    | ex eb =>
      obtain ⟨htb, hwb, hbb, hcb⟩ := hb
      simp only [execCmpZ, execTmp, opndRat_ex_z h ea hta hca, opndRat_ex_z h eb htb hcb]
      cases hra : evalTmpZ h.get ea with
      | none => rw [hra] at Ba; simp [Ba]
      | some x =>
        rw [hra] at Ba
        obtain ⟨la, h1, e1, hx, hla, hfr1⟩ := Ba
        have hag : ∀ l : ZLoc, l.below K → h1 l = h l := fun l hl => hfr1 l hl
        have Bb := B eb htb hwb (K + 1) h1 (E.zbelow_mono (by omega) _ hbb)
        rw [evalTmpZ_frame (k := K) hag eb hbb] at Bb
        simp only [e1, Option.bind_some]
        cases hrb : evalTmpZ h.get eb with
        | none => rw [hrb] at Bb; simp [Bb]
        | some y =>
          rw [hrb] at Bb
          obtain ⟨lb, h2, e2, hy, _, hfr2⟩ := Bb
          simp only [e2, Option.bind_some]
          rw [fnCmpZ_spec o _ _ h2 (by simp [ZArg.isBi])]
          simp [argQ, hy, hfr2 la hla, hx]
    | bi c =>
      simp only [execCmpZ, execTmp, opndRat_ex_z h ea hta hca]
      simp only [opndRat]
      cases hra : evalTmpZ h.get ea with
      | none => rw [hra] at Ba; simp [Ba]
      | some x =>
        rw [hra] at Ba
        obtain ⟨la, h1, e1, hx, hla, hfr1⟩ := Ba
        simp only [e1, Option.bind_some]
        rw [fnCmpZ_spec o _ _ h1 (by simp [ZArg.isBi])]
        simp only [argQ, hx, Option.bind_some, Option.map_some]
        cases biRat c <;> simp
  | bi c =>
    cases b with
    | bi c' => exact absurd ⟨c, c', rfl, rfl⟩ hab
    | ex eb =>
      obtain ⟨htb, hwb, hbb, hcb⟩ := hb
      have Bb := B eb htb hwb K h hbb
      simp only [execCmpZ, execTmp, opndRat_ex_z h eb htb hcb]
      simp only [opndRat]
      cases hrb : evalTmpZ h.get eb with
      | none => rw [hrb] at Bb; simp only [Bb]; cases biRat c <;> simp
      | some y =>
        rw [hrb] at Bb
        obtain ⟨lb, h1, e1, hy, _, hfr1⟩ := Bb
        simp only [e1, Option.bind_some]
        rw [fnCmpZ_spec o _ _ h1 (by simp [ZArg.isBi])]
        simp only [argQ, hy]
        cases biRat c <;> simp

theorem CmpFQ.qArg_spec (h : Heap) (q : Nat) (b : QArg) (hb : ∀ i, b ≠ .z i) :
    CmpFQ.qArg h q b = (argR h b).map fun y => qcmp (qval h q) y := by
  cases b with
  | q r => simp [CmpFQ.qArg, argR]
  | z i => exact absurd rfl (hb i)
  | bi c => cases c <;> simp [CmpFQ.qArg, argR, biRat]

def QArg.isQ : QArg → Bool
  | .q _ => true
  | _ => false

theorem fnCmpQ_q (o : Cmp) (q : Nat) (b : QArg) (h : Heap) :
    fnCmpQ o (.q q) b h = (CmpFQ.qArg h q b).map (cmpRes o) := by
  exact cmpOps_sign o (CmpFQ.qArg h q b)

theorem fnCmpQ_bi (o : Cmp) (c : Bi) (q : Nat) (h : Heap) :
    fnCmpQ o (.bi c) (.q q) h = (CmpFQ.qArg h q (.bi c)).map fun r => cmpRes o (-r) := by
  exact cmpOps_sign_flipped o (CmpFQ.qArg h q (.bi c))

theorem fnCmpQ_spec (o : Cmp) (a b : QArg) (h : Heap)
    (hab : (a.isQ = true ∧ ∀ i, b ≠ .z i) ∨ (b.isQ = true ∧ ∃ c, a = .bi c)) :
    fnCmpQ o a b h = (argR h a).bind fun x => (argR h b).map fun y => cmpRes o (qcmp x y) := by
  cases a with
  | q q =>
    have hb : ∀ i, b ≠ .z i := by
      rcases hab with h1 | h1
      · exact h1.2
      · obtain ⟨c, hc⟩ := h1.2; cases hc
    rw [fnCmpQ_q, CmpFQ.qArg_spec h q b hb, Option.map_map]; rfl
  | z i =>
    rcases hab with h1 | h1
    · cases h1.1
    · obtain ⟨c, hc⟩ := h1.2; cases hc
  | bi c =>
    cases b with
    | bi c' => rcases hab with h1 | h1 <;> cases h1.1
    | z j => rcases hab with h1 | h1 <;> cases h1.1
    | q q =>
      rw [fnCmpQ_bi, CmpFQ.qArg_spec h q (.bi c) (fun i => by simp), Option.map_map]
      cases hc : biRat c with
      | none => simp only [argR, hc]; rfl
      | some y => simp only [argR, hc, Option.map_some, Option.bind_some, Function.comp, qcmp_swap y, Int.neg_neg]

/-- `mpq_class const& temp(expr)`: the bound object is canonical and holds the operand's value; nothing below `k` changes -/
theorem bindQ_correct (cst : Bool) (e : E) (hwt : e.wt = true) (k : Nat) (h : Heap)
    (hz : e.zbelow k) (hq : e.qbelow k) (hc : e.canon h) :
    match evalTmpR h.abs e with
    | none => bindQ cst k e h = none
    | some x => ∃ l h', bindQ cst k e h = some (l, h') ∧ Canon h' l ∧ qval h' l = x ∧ l < k + 1 ∧ AgreeBelow k h h' := by
  unfold bindQ
  cases hl : e.qleaf? with
  | some i =>
    have := qleaf?_some hl; subst this
    simp only [evalTmpR_qv]
    exact ⟨i, h, rfl, hc, rfl, by simp only [E.qbelow] at hq; omega, fun _ _ => rfl⟩
  | none =>
    simp only []
    have H := evalQ_correct cst e hwt (k + 1) k h (by omega) (E.zbelow_mono (by omega) _ hz) (E.qbelow_mono (by omega) _ hq) hc
    cases hr : evalTmpR h.abs e with
    | none => rw [hr] at H; simp only [PostQ] at H; simp [H]
    | some x =>
      rw [hr] at H
      obtain ⟨h', e1, hc', hx, hfr⟩ := H
      exact ⟨k, h', by simp [e1], hc', hx, by omega, agree_of_PostQ_temp hfr⟩

def Opnd.ok (K : Nat) (h : Heap) : Opnd → Prop
  | .ex e => e.wt = true ∧ e.zbelow K ∧ e.qbelow K ∧ e.canon h
  | .bi c => c.ok = true

theorem opndRat_ex (h : Heap) (e : E) : opndRat h.abs (.ex e) = evalTmpR h.abs e := rfl

theorem Opnd.zOk_of_ok {K : Nat} {h : Heap} {a : Opnd} (ha : a.ok K h) (hz : a.isZ = true) : a.zOk K h := by
  cases a with
  | ex e => exact ⟨by simpa [Opnd.isZ] using hz, ha.1, ha.2.1, ha.2.2.2⟩
  | bi c => exact ha

theorem execCmpQ_correct (cst : Bool) (K : Nat) (o : Cmp) (a b : Opnd) (h : Heap)
    (ha : a.ok K h) (hb : b.ok K h) (hab : ¬(∃ c c', a = .bi c ∧ b = .bi c')) :
    (execCmpQ cst K o a b h).map Res.int = execTmp h.abs (.cmp o a b) := by
  cases a with
  | ex ea =>
    obtain ⟨hwa, hza, hqa, hca⟩ := ha
    have Ba := bindQ_correct cst ea hwa K h hza hqa hca
    cases b with
    | ex eb =>
      obtain ⟨hwb, hzb, hqb, hcb⟩ := hb
      simp only [execCmpQ, execTmp, opndRat_ex]
      cases hra : evalTmpR h.abs ea with
      | none => rw [hra] at Ba; simp [Ba]
      | some x =>
        rw [hra] at Ba
        obtain ⟨la, h1, e1, hc1, hx, hla, hag1⟩ := Ba
        have Bb := bindQ_correct cst eb hwb (K + 1) h1 (E.zbelow_mono (by omega) _ hzb) (E.qbelow_mono (by omega) _ hqb)
          (canon_agree hag1 _ hqb hcb)
        rw [evalTmpR_agree hag1 eb hzb hqb] at Bb
        simp only [e1, Option.bind_some]
        cases hrb : evalTmpR h.abs eb with
        | none => rw [hrb] at Bb; simp [Bb]
        | some y =>
          rw [hrb] at Bb
          obtain ⟨lb, h2, e2, hc2, hy, _, hag2⟩ := Bb
          simp only [e2, Option.bind_some]
          rw [fnCmpQ_spec o _ _ h2 (Or.inl ⟨rfl, by intro i; simp⟩)]
          simp [argR, hy, qval_of_agree hag2 hla, hx]
    | bi c =>
      simp only [execCmpQ, execTmp, opndRat_ex]
      simp only [opndRat]
      cases hra : evalTmpR h.abs ea with
      | none => rw [hra] at Ba; simp [Ba]
      | some x =>
        rw [hra] at Ba
        obtain ⟨la, h1, e1, hc1, hx, hla, hag1⟩ := Ba
        simp only [e1, Option.bind_some]
        rw [fnCmpQ_spec o _ _ h1 (Or.inl ⟨rfl, by intro i; simp⟩)]
        simp only [argR, hx, Option.bind_some, Option.map_some]
        cases biRat c <;> simp
  | bi c =>
    cases b with
    | bi c' => exact absurd ⟨c, c', rfl, rfl⟩ hab
    | ex eb =>
      obtain ⟨hwb, hzb, hqb, hcb⟩ := hb
      have Bb := bindQ_correct cst eb hwb K h hzb hqb hcb
      simp only [execCmpQ, execTmp, opndRat_ex]
      simp only [opndRat]
      cases hrb : evalTmpR h.abs eb with
      | none => rw [hrb] at Bb; simp only [Bb]; cases biRat c <;> simp
      | some y =>
        rw [hrb] at Bb
        obtain ⟨lb, h1, e1, hc1, hy, _, _⟩ := Bb
        simp only [e1, Option.bind_some]
        rw [fnCmpQ_spec o _ _ h1 (Or.inr ⟨rfl, c, rfl⟩)]
        simp only [argR, hy]
        cases biRat c <;> simp

theorem execSgn_correct (cst : Bool) (K : Nat) (a : E) (h : Heap)
    (hwt : a.wt = true) (hz : a.zbelow K) (hq : a.qbelow K) (hc : a.canon h) :
    (execSgn cst K a h).map Res.int = execTmp h.abs (.sgn a) := by
  unfold execSgn
  by_cases hty : a.ty = .z
  · simp only [hty, if_true, execSgnZ, execTmp, evalTmp_z h a hty hc]
    have B := bindZ_correct cst a hty hwt K h hz
    show _ = ((evalTmpZ h.get a).map Val.z).map _
    cases hr : evalTmpZ h.get a with
    | none => rw [hr] at B; simp [B]
    | some x =>
      rw [hr] at B
      obtain ⟨l, h', e1, hx, _, _⟩ := B
      simp [e1, hx]
  · have htq := ty_q_of_ne_z hty
    simp only [hty, if_false, execTmp]
    have B := bindQ_correct cst a hwt K h hz hq hc
    unfold evalTmpR at B
    cases hr : evalTmp h.abs a with
    | none => rw [hr] at B; simp at B; simp [B]
    | some v =>
      obtain ⟨r, rfl⟩ := val_of_ty_q ((evalTmp_ty _ a v hr).trans htq)
      rw [hr] at B
      obtain ⟨l, h', e1, hc', hx, _, _⟩ := B
      simp only [Option.map_some, Val.toQ] at hx
      simp only [e1, Option.map_some, qsgn]
      rw [← hx, (qval_num_den hc').1]

/-- the assignment `target = e` (Props/C20.lean `expr_eval_correct_partial`) -/
theorem execAssign_correct (cst : Bool) (K : Nat) (t : Ty) (i : Nat) (e : E) (h : Heap)
    (hwt : e.wt = true) (hi : i < K) (hz : e.zbelow K) (hq : e.qbelow K) (hc : e.canon h) :
    match evalTmp h.abs e with
    | none => execAssign cst K t i e h = none
    | some v => ∃ h', execAssign cst K t i e h = some h' ∧
        (∀ j, j < K → h'.abs.z j = (assign h.abs t i v).z j) ∧
        (∀ j, j < K → h'.abs.q j = (assign h.abs t i v).q j) ∧
        (∀ j, j < K → Canon h j → Canon h' j) ∧ (t = .q → Canon h' i) := by
  cases t with
  | z =>
    by_cases hty : e.ty = .z
    · -- mpz tree into an mpz target
      simp only [execAssign, hty, if_true]
      have H := evalZ_correct cst e hty hwt K (.v i) h (by simpa [ZLoc.below] using hi) hz
      rw [evalTmp_z h e hty hc]
      show match (evalTmpZ h.get e).map Val.z with | none => _ | some v => _
      cases hr : evalTmpZ h.get e with
      | none => rw [hr] at H; simpa [Post] using H
      | some x =>
        rw [hr] at H
        obtain ⟨h', e1, hx, hfr⟩ := H
        have cq := fun j => qobj_congr (hfr (.num j) trivial (by intro e; cases e)) (hfr (.den j) trivial (by intro e; cases e))
        refine ⟨h', e1, fun j hj => ?_, fun j _ => (cq j).2, fun j _ hcj => (cq j).1 hcj, fun ht => by cases ht⟩
        simp only [Heap.abs, assign, conv, Env.set]
        by_cases hit : j = i
        · subst hit; simp [hx]
        · simp only [hit, if_false]
          exact hfr _ (by simpa [ZLoc.below] using hj) (by intro e; injection e with e; exact hit e)
    · -- mpq tree into an mpz target: `mpq_class const& temp(expr); mpz_set_q(z, temp)`
      have htq := ty_q_of_ne_z hty
      simp only [execAssign, hty, if_false, assignZfromQ]
      cases hl : e.qleaf? with
      | some r =>
        have := qleaf?_some hl; subst this
        simp only [evalTmp]
        have cq := fun j => qobj_congr (h1 := mpz_set_q (.v i) r h) (h := h) (i := j)
          (Heap.set_get_ne _ _ (.num j) _ (by simp)) (Heap.set_get_ne _ _ (.den j) _ (by simp))
        refine ⟨_, rfl, fun j hj => ?_, fun j _ => (cq j).2, fun j _ hcj => (cq j).1 hcj, fun ht => by cases ht⟩
        simp only [Heap.abs, assign, conv, Env.set, mpz_set_q, Heap.set]
        by_cases hit : j = i <;> simp [hit]
      | none =>
        simp only []
        have H := evalQ_correct cst e hwt (K + 1) K h (by omega) (E.zbelow_mono (by omega) _ hz) (E.qbelow_mono (by omega) _ hq) hc
        unfold evalTmpR at H
        cases hr : evalTmp h.abs e with
        | none => rw [hr] at H; simpa [PostQ] using H
        | some v =>
          obtain ⟨r, rfl⟩ := val_of_ty_q ((evalTmp_ty _ e v hr).trans htq)
          rw [hr] at H
          obtain ⟨h1, e1, _, hx, hfr⟩ := H
          have hag : AgreeBelow K h h1 := agree_of_PostQ_temp hfr
          simp only [Option.map_some, Val.toQ] at hx
          have cq := fun j (hj : j < K) => qobj_congr (h1 := mpz_set_q (.v i) K h1) (h := h) (i := j)
            ((Heap.set_get_ne _ _ (.num j) _ (by simp)).trans (hag (.num j) hj))
            ((Heap.set_get_ne _ _ (.den j) _ (by simp)).trans (hag (.den j) hj))
          refine ⟨_, by rw [e1]; rfl, fun j hj => ?_, fun j hj => (cq j hj).2, fun j hj hcj => (cq j hj).1 hcj,
            fun ht => by cases ht⟩
          simp only [Heap.abs, assign, conv, Env.set, mpz_set_q, Heap.set, hx]
          by_cases hit : j = i
          · simp [hit]
          · have : (ZLoc.v j) ≠ .v i := by intro e; injection e with e; exact hit e
            simp only [this, hit, if_false]; exact hag (.v j) hj
  | q =>
    simp only [execAssign]
    have H := evalQ_correct cst e hwt K i h hi hz hq hc
    unfold evalTmpR at H
    cases hr : evalTmp h.abs e with
    | none => rw [hr] at H; simpa [PostQ] using H
    | some v =>
      rw [hr] at H
      obtain ⟨h', e1, hci, hx, hfr⟩ := H
      try simp only [Option.map_some] at hx
      refine ⟨h', e1, fun j hj => ?_, fun j hj => ?_, fun j hj hcj => ?_, fun _ => hci⟩
      · have : (assign h.abs .q i v).z j = h (.v j) := by cases v <;> rfl
        rw [this]; exact hfr (.v j) hj (by simp) (by simp)
      · have : (assign h.abs .q i v).q j = if j = i then v.toQ else qval h j := by cases v <;> rfl
        rw [this]
        by_cases hji : j = i
        · subst hji; simp only [if_true, Heap.abs]; exact hx
        · simp only [hji, if_false, Heap.abs]
          exact (qobj_of_frame hfr hj (Ne.symm hji)).2
      · by_cases hji : j = i
        · subst hji; exact hci
        · exact (qobj_of_frame hfr hj (Ne.symm hji)).1 hcj

end Mpir.Cxx
