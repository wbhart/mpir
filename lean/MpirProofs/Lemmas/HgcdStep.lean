/- hgcd_matrix.c, second part, then mpn_hgcd_step (hgcd_step.c) and mpn_gcd_subdiv_step with s > 0 (gcd_subdiv_step.c,
   hook = hgcd_hook): every step multiplies M by a non-negative unimodular E from the right with (a; b) = E·(a'; b'), a
   successful step leaves both numbers with more than s limbs, and the size field of M stays attained (`NormD`). -/

import MpirProofs.Lemmas.HgcdMatrix
import MpirProofs.Lemmas.Hgcd2
import Mpir.Model.MulAlgo

namespace Mpir.Hgcd
open Mpir Mpir.Gcd

/-! ### hgcd_matrix.c: mpn_hgcd_matrix_mul_1, _mul, mpn_hgcd_mul_matrix1_inverse_vector, mpn_hgcd_matrix_adjust -/

/-- entries of an mpn_hgcd2 matrix: GMP_NUMB_BITS - 1 bits -/
def Msb0 (m : M1) : Prop := m.u00 < 2 ^ 63 ∧ m.u01 < 2 ^ 63 ∧ m.u10 < 2 ^ 63 ∧ m.u11 < 2 ^ 63

/-- two products with half-limb factors add up to at most one more limb -/
theorem nlimbs_lin2_half_le {u v a b n : Nat} (hu : u < 2 ^ 63) (hv : v < 2 ^ 63) (ha : nlimbs a ≤ n) (hb : nlimbs b ≤ n) :
    nlimbs (u * a + v * b) ≤ n + 1 := by
  rw [← nlimbs_isSize.lt_pow_iff] at ha hb ⊢
  have h1 : u * a ≤ 2 ^ 63 * B ^ n := Nat.mul_le_mul (le_of_lt hu) (le_of_lt ha)
  have h2 : v * b ≤ 2 ^ 63 * B ^ n := Nat.mul_le_mul (le_of_lt hv) (le_of_lt hb)
  have hp : 0 < B ^ n := pow_pos B_pos _
  have h3 : u * a < 2 ^ 63 * B ^ n := by
    rcases Nat.eq_zero_or_pos u with h | h
    · subst h; simp; exact hp
    · calc u * a < u * B ^ n := Nat.mul_lt_mul_of_pos_left ha h
        _ ≤ 2 ^ 63 * B ^ n := Nat.mul_le_mul_right _ (le_of_lt hu)
  rw [pow_succ, B_eq] at *
  omega

theorem mulMatrix1Vector_eq (m : M1) (a b n : Nat) (hm : Msb0 m) (ha : nlimbs a ≤ n) (hb : nlimbs b ≤ n) :
    mulMatrix1Vector m a b n = (m.u00 * a + m.u10 * b, m.u11 * b + m.u01 * a,
      max n (max (nlimbs (m.u00 * a + m.u10 * b)) (nlimbs (m.u11 * b + m.u01 * a)))) := by
  have b1 := nlimbs_lin2_half_le hm.1 hm.2.2.1 ha hb
  have b2 := nlimbs_lin2_half_le hm.2.2.2 hm.2.1 hb ha
  unfold mulMatrix1Vector
  simp only [Nat.mod_eq_of_lt (nlimbs_isSize.lt_pow_iff.mpr b1), Nat.mod_eq_of_lt (nlimbs_isSize.lt_pow_iff.mpr b2), grow_eq b1 b2]

theorem matMul1_eq (M : HM) (m : M1) (hf : M.Fits) (hm : Msb0 m) :
    matMul1 M m = { M with e00 := (mmul M.toM1 m).u00, e01 := (mmul M.toM1 m).u01, e10 := (mmul M.toM1 m).u10,
                           e11 := (mmul M.toM1 m).u11, n := max M.n (size4 (mmul M.toM1 m)) } := by
  obtain ⟨f00, f01, f10, f11⟩ := hf
  rw [nlimbs_isSize.lt_pow_iff] at f00 f01 f10 f11
  unfold matMul1
  rw [mulMatrix1Vector_eq m M.e00 M.e01 M.n hm f00 f01, mulMatrix1Vector_eq m M.e10 M.e11 M.n hm f10 f11]
  have e1 : m.u00 * M.e00 + m.u10 * M.e01 = (mmul M.toM1 m).u00 := by simp only [mmul, HM.toM1]; ring
  have e2 : m.u11 * M.e01 + m.u01 * M.e00 = (mmul M.toM1 m).u01 := by simp only [mmul, HM.toM1]; ring
  have e3 : m.u00 * M.e10 + m.u10 * M.e11 = (mmul M.toM1 m).u10 := by simp only [mmul, HM.toM1]; ring
  have e4 : m.u11 * M.e11 + m.u01 * M.e10 = (mmul M.toM1 m).u11 := by simp only [mmul, HM.toM1]; ring
  simp only [e1, e2, e3, e4, size4]
  congr 1
  exact (max_max_max_comm _ _ _ _).trans (by rw [max_self])

theorem matMul1_spec (M : HM) (m : M1) (hf : M.Fits) (hm : Msb0 m) :
    (matMul1 M m).toM1 = mmul M.toM1 m ∧ (matMul1 M m).Fits ∧ (matMul1 M m).alloc = M.alloc ∧
    M.n ≤ (matMul1 M m).n ∧ (matMul1 M m).n ≤ M.n + 1 ∧ (det1 m → M.NormD → (matMul1 M m).NormD) := by
  have hsz : size4 (mmul M.toM1 m) ≤ M.n + 1 := by
    obtain ⟨f00, f01, f10, f11⟩ := hf
    rw [nlimbs_isSize.lt_pow_iff] at f00 f01 f10 f11
    exact max_le (max_le (by simpa [mmul, HM.toM1, Nat.mul_comm] using nlimbs_lin2_half_le hm.1 hm.2.2.1 f00 f01)
        (by simpa [mmul, HM.toM1, Nat.mul_comm] using nlimbs_lin2_half_le hm.2.1 hm.2.2.2 f00 f01))
      (max_le (by simpa [mmul, HM.toM1, Nat.mul_comm] using nlimbs_lin2_half_le hm.1 hm.2.2.1 f10 f11)
        (by simpa [mmul, HM.toM1, Nat.mul_comm] using nlimbs_lin2_half_le hm.2.1 hm.2.2.2 f10 f11))
  rw [matMul1_eq M m hf hm]
  refine ⟨rfl, (fits_iff _).mpr (le_max_right _ _), rfl, le_max_left _ _, max_le (Nat.le_succ _) hsz, fun hd hN => ?_⟩
  have := size4_mmul_ge M.toM1 m hd
  rw [normD_iff] at hN ⊢
  show max M.n (size4 (mmul M.toM1 m)) - 1 < size4 (mmul M.toM1 m)
  omega

/-- one conditional decrement of mpn_hgcd_matrix_mul: `n -= (limb n of all four entries == 0)` (hgcd_matrix.c:177-179) -/
def decTop (p : M1) (n : Nat) : Nat := if HM.topOr p.u00 p.u01 p.u10 p.u11 n = 0 then n - 1 else n

theorem decTop_eq {p : M1} {n : Nat} (hb : size4 p ≤ n + 1) : decTop p n = max (n - 1) (size4 p - 1) := by
  have hn : (HM.topOr p.u00 p.u01 p.u10 p.u11 n = 0) ↔ size4 p ≤ n := by
    simp only [size4, max_le_iff] at hb
    simp only [HM.topOr, Nat.or_eq_zero_iff, limbAt_eq_zero_iff hb.1.1, limbAt_eq_zero_iff hb.1.2,
      limbAt_eq_zero_iff hb.2.1, limbAt_eq_zero_iff hb.2.2, size4, max_le_iff, and_assoc]
  unfold decTop
  simp only [hn]
  generalize size4 p = S at *
  split <;> omega

theorem size4_mmul_le {M M1 : HM} (hf : M.Fits) (hf1 : M1.Fits) : size4 (mmul M.toM1 M1.toM1) ≤ M.n + M1.n + 1 := by
  obtain ⟨f00, f01, f10, f11⟩ := hf
  obtain ⟨g00, g01, g10, g11⟩ := hf1
  rw [nlimbs_isSize.lt_pow_iff] at f00 f01 f10 f11 g00 g01 g10 g11
  exact max_le (max_le (nlimbs_lin2_le f00 f01 g00 g10) (nlimbs_lin2_le f00 f01 g01 g11))
    (max_le (nlimbs_lin2_le f10 f11 g00 g10) (nlimbs_lin2_le f10 f11 g01 g11))

/-- mpn_hgcd_matrix_mul (through mpn_matrix22_mul, basecase or Strassen, any threshold): of the M->n + M1->n + 1 limbs
    up to three high zero limbs are dropped (hgcd_matrix.c:177-179) -/
theorem matMul_eq (thr : Nat) (M M1 : HM) (hf : M.Fits) (hf1 : M1.Fits) :
    matMul thr M M1 =
      ⟨M.alloc, max (M.n + M1.n - 3) (size4 (mmul M.toM1 M1.toM1) - 1) + 1,
        (mmul M.toM1 M1.toM1).u00, (mmul M.toM1 M1.toM1).u01, (mmul M.toM1 M1.toM1).u10, (mmul M.toM1 M1.toM1).u11⟩ := by
  have hS := size4_mmul_le hf hf1
  have e : matMul thr M M1 =
      ⟨M.alloc, decTop (mmul M.toM1 M1.toM1) (decTop (mmul M.toM1 M1.toM1) (decTop (mmul M.toM1 M1.toM1) (M.n + M1.n))) + 1,
        (mmul M.toM1 M1.toM1).u00, (mmul M.toM1 M1.toM1).u01, (mmul M.toM1 M1.toM1).u10, (mmul M.toM1 M1.toM1).u11⟩ := by
    obtain ⟨f00, f01, f10, f11⟩ := hf
    obtain ⟨g00, g01, g10, g11⟩ := hf1
    unfold matMul
    rw [matrix22Mul_eq thr M.e00 M.e01 M.e10 M.e11 M.n M1.e00 M1.e01 M1.e10 M1.e11 M1.n f00 f01 f10 f11 g00 g01 g10 g11]
    rfl
  -- each decrement that happens lowers the bound by one; none happens below the size of P
  have hb : ∀ k, size4 (mmul M.toM1 M1.toM1) ≤ max k (size4 (mmul M.toM1 M1.toM1) - 1) + 1 := fun k =>
    le_trans (by omega) (Nat.succ_le_succ (le_max_right _ _))
  have hd : ∀ k T : Nat, max (max k T - 1) T = max (k - 1) T := fun k T => by omega
  rw [e, decTop_eq hS, decTop_eq (hb _), hd, decTop_eq (hb _), hd, Nat.sub_sub, Nat.sub_sub]

theorem matMul_spec (thr : Nat) (M M1 : HM) (hf : M.Fits) (hf1 : M1.Fits) :
    (matMul thr M M1).toM1 = mmul M.toM1 M1.toM1 ∧ (matMul thr M M1).Fits ∧ (matMul thr M M1).alloc = M.alloc ∧
    1 ≤ (matMul thr M M1).n ∧ (matMul thr M M1).n ≤ M.n + M1.n + 1 := by
  have hS := size4_mmul_le hf hf1
  rw [matMul_eq thr M M1 hf hf1]
  refine ⟨rfl, (fits_iff _).mpr ?_, rfl, Nat.le_add_left _ _, ?_⟩
  · show size4 (mmul M.toM1 M1.toM1) ≤ max (M.n + M1.n - 3) (size4 (mmul M.toM1 M1.toM1) - 1) + 1
    omega
  · show max (M.n + M1.n - 3) (size4 (mmul M.toM1 M1.toM1) - 1) + 1 ≤ M.n + M1.n + 1
    omega

/-- the high limbs h0, h1 of the C agree (its ASSERT): nothing is lost by keeping n limbs -/
theorem mul1InvVec_spec (m : M1) (a b n x y : Nat) (h : MRel m x y a b) (ha : a < B ^ n) (hb : b < B ^ n) (hn : 1 ≤ n) :
    (mul1InvVec m a b n).1 = x ∧ (mul1InvVec m a b n).2.1 = y ∧
    x < B ^ (mul1InvVec m a b n).2.2 ∧ y < B ^ (mul1InvVec m a b n).2.2 ∧
    (mul1InvVec m a b n).2.2 ≤ n ∧ n - 1 ≤ (mul1InvVec m a b n).2.2 ∧
    ((mul1InvVec m a b n).2.2 = n → B ^ (n - 1) ≤ x ∨ B ^ (n - 1) ≤ y) := by
  obtain ⟨i1, i2⟩ := mrel_inverse h
  obtain ⟨lx, ly⟩ := mrel_le h
  have hx : x < B ^ n := by omega
  have hy : y < B ^ n := by omega
  have hP : B ^ (n + 1) = B * B ^ n := by rw [pow_succ, Nat.mul_comm]
  have e1 : (m.u11 * a + B ^ (n + 1) - m.u01 * b) % B ^ n = x := by
    have : m.u11 * a + B ^ (n + 1) - m.u01 * b = x + B * B ^ n := by rw [i1, hP]; omega
    rw [this, Nat.add_mul_mod_self_right]; exact Nat.mod_eq_of_lt hx
  have e2 : (m.u00 * b + B ^ (n + 1) - m.u10 * a) % B ^ n = y := by
    have : m.u00 * b + B ^ (n + 1) - m.u10 * a = y + B * B ^ n := by rw [i2, hP]; omega
    rw [this, Nat.add_mul_mod_self_right]; exact Nat.mod_eq_of_lt hy
  unfold mul1InvVec
  simp only [nlimbs_isSize.lt_pow_iff, nlimbs_isSize.pow_le_iff] at hx hy ⊢
  simp only [e1, e2, true_and, shrink_eq hn hx hy]
  clear e1 e2 i1 i2 lx ly h ha hb
  omega

/-- mpn_hgcd_matrix_adjust, stated with a bound B^k of the diagonal entries (p + k ≤ n) instead of M->n.  `h01`, `h10`
    (off-diagonal entries do not exceed s resp. t) are what the hgcd size contract gives; with them the C's
    `ASSERT (cy <= ah)` / `ASSERT (cy <= bh)` hold and the result is exactly M⁻¹ of the full numbers. -/
theorem matAdjust_spec (M : HM) (n a b p S T k : Nat) (hpn : p + k ≤ n) (f00 : M.e00 < B ^ k) (f11 : M.e11 < B ^ k)
    (ha : a < B ^ n) (hb : b < B ^ n) (hn : 1 ≤ n)
    (hr : MRel M.toM1 (a / B ^ p) (b / B ^ p) S T) (h01 : M.e01 ≤ a / B ^ p) (h10 : M.e10 ≤ b / B ^ p) :
    MRel M.toM1 (matAdjust M n a b p).2.1 (matAdjust M n a b p).2.2 (B ^ p * S + a % B ^ p) (B ^ p * T + b % B ^ p) ∧
    (matAdjust M n a b p).2.1 < B ^ (matAdjust M n a b p).1 ∧ (matAdjust M n a b p).2.2 < B ^ (matAdjust M n a b p).1 ∧
    n - 1 ≤ (matAdjust M n a b p).1 ∧ (matAdjust M n a b p).1 ≤ n + 1 ∧
    (n ≤ (matAdjust M n a b p).1 → B ^ ((matAdjust M n a b p).1 - 1) ≤ (matAdjust M n a b p).2.1 ∨
        B ^ ((matAdjust M n a b p).1 - 1) ≤ (matAdjust M n a b p).2.2) ∧
    B ^ p * (a / B ^ p - M.e01) ≤ (matAdjust M n a b p).2.1 ∧ B ^ p * (b / B ^ p - M.e10) ≤ (matAdjust M n a b p).2.2 := by
  have hpp : 0 < B ^ p := pow_pos B_pos _
  have hal : a % B ^ p < B ^ p := Nat.mod_lt _ hpp
  have hbl : b % B ^ p < B ^ p := Nat.mod_lt _ hpp
  obtain ⟨x, y, hxy, lx, ly, ex, ey⟩ := trunc_lift (B ^ p) (a % B ^ p) (b % B ^ p) hr (le_of_lt hal) (le_of_lt hbl) h01 h10
  simp only [HM.toM1] at ex ey lx ly
  have hsplit_a : B ^ p * (a / B ^ p) ≤ a := Nat.mul_div_le a (B ^ p)
  have hsplit_b : B ^ p * (b / B ^ p) ≤ b := Nat.mul_div_le b (B ^ p)
  have hPM : B ^ (p + k) ≤ B ^ n := Nat.pow_le_pow_right B_pos hpn
  have hPM' : B ^ (p + k) = B ^ k * B ^ p := by rw [pow_add, Nat.mul_comm]
  have hB2 : 2 ≤ B := by rw [B_eq]; norm_num
  have hS : 2 * B ^ n ≤ B ^ (n + 1) := by rw [pow_succ, Nat.mul_comm]; exact Nat.mul_le_mul_left _ hB2
  have t11 : M.e11 * (a % B ^ p) < B ^ (p + k) := by rw [hPM']; exact Nat.mul_lt_mul'' f11 hal
  have t00 : M.e00 * (b % B ^ p) < B ^ (p + k) := by rw [hPM']; exact Nat.mul_lt_mul'' f00 hbl
  have hx2 : x < B ^ (n + 1) := by omega
  have hy2 : y < B ^ (n + 1) := by omega
  have e1 : (M.e11 * (a % B ^ p) + B ^ p * (a / B ^ p) + B ^ (n + 1) - M.e01 * (b % B ^ p)) % B ^ (n + 1) = x := by
    have : M.e11 * (a % B ^ p) + B ^ p * (a / B ^ p) + B ^ (n + 1) - M.e01 * (b % B ^ p) = x + B ^ (n + 1) := by omega
    rw [this, Nat.add_mod_right]; exact Nat.mod_eq_of_lt hx2
  have e2 : (M.e00 * (b % B ^ p) + B ^ p * (b / B ^ p) + B ^ (n + 1) - M.e10 * (a % B ^ p)) % B ^ (n + 1) = y := by
    have : M.e00 * (b % B ^ p) + B ^ p * (b / B ^ p) + B ^ (n + 1) - M.e10 * (a % B ^ p) = y + B ^ (n + 1) := by omega
    rw [this, Nat.add_mod_right]; exact Nat.mod_eq_of_lt hy2
  rw [nlimbs_isSize.lt_pow_iff] at hx2 hy2
  have hK : matAdjust M n a b p = (max (n - 1) (max (nlimbs x) (nlimbs y)), x, y) := by
    unfold matAdjust
    simp only [e1, e2]
    rw [← grow_shrink_eq hn hx2 hy2]
    simp only [Nat.or_eq_zero_iff]
    split_ifs <;> rfl
  rw [hK]
  simp only [nlimbs_isSize.lt_pow_iff, nlimbs_isSize.pow_le_iff]
  clear hK e1 e2 t11 t00 hS hPM hPM' hsplit_a hsplit_b ex ey
  exact ⟨hxy, by omega, by omega, by omega, by omega, fun _ => by omega, lx, ly⟩

/-! ### mpn_hgcd_step (hgcd_step.c) and mpn_gcd_subdiv_step with s > 0, hook = hgcd_hook -/

theorem mrel_det {m : M1} {x y X Y : Nat} (h : MRel m x y X Y) : det1 m := h.1

theorem post_msb0 {A0 B0 : Nat} {m : M1} (h : Post A0 B0 m) : Msb0 m := by
  obtain ⟨x, y, _, _, _, _, r1, r2⟩ := h
  exact ⟨by omega, by omega, by omega, by omega⟩

theorem post_nonId {A0 B0 : Nat} {m : M1} (h : Post A0 B0 m) : NonId m := by
  obtain ⟨x, y, _, _, _, hn, _, _⟩ := h
  exact hn

/-- The four limbs mpn_hgcd_step hands to mpn_hgcd2 are ⌊a·2^sh / B^(n-2)⌋, ⌊b·2^sh / B^(n-2)⌋ for a common
    shift sh ≤ 63, and sh = 0 in the case n = s + 1. -/
theorem stepTop_spec (n a b s : Nat) (t : Nat × Nat × Nat × Nat) (hn : 2 ≤ n) (hs : s < n) (hs0 : 1 ≤ s)
    (ha : a < B ^ n) (hb : b < B ^ n) (h : stepTop n a b s = some t) :
    ∃ sh rx ry, sh ≤ 63 ∧ (n = s + 1 → sh = 0) ∧ rx < B ^ (n - 2) ∧ ry < B ^ (n - 2) ∧
      t.1 < B ∧ t.2.1 < B ∧ t.2.2.1 < B ∧ t.2.2.2 < B ∧
      a * 2 ^ sh = B ^ (n - 2) * (t.1 * B + t.2.1) + rx ∧
      b * 2 ^ sh = B ^ (n - 2) * (t.2.2.1 * B + t.2.2.2) + ry := by
  obtain ⟨k, rfl⟩ : ∃ k, n = k + 2 := ⟨n - 2, by omega⟩
  have e1 : k + 2 - 1 = k + 1 := rfl
  have e2 : k + 2 - 2 = k := rfl
  have noshift : ∀ t', t' = (limbAt a (k + 1), limbAt a k, limbAt b (k + 1), limbAt b k) →
      ∃ sh rx ry, sh ≤ 63 ∧ (k + 2 = s + 1 → sh = 0) ∧ rx < B ^ k ∧ ry < B ^ k ∧
        t'.1 < B ∧ t'.2.1 < B ∧ t'.2.2.1 < B ∧ t'.2.2.2 < B ∧
        a * 2 ^ sh = B ^ k * (t'.1 * B + t'.2.1) + rx ∧ b * 2 ^ sh = B ^ k * (t'.2.2.1 * B + t'.2.2.2) + ry := by
    intro t' ht'
    obtain ⟨a1, a2, a3⟩ := top_noshift a k ha
    obtain ⟨b1, b2, b3⟩ := top_noshift b k hb
    subst ht'
    exact ⟨0, a % B ^ k, b % B ^ k, by omega, fun _ => rfl, Nat.mod_lt _ (pow_pos B_pos _), Nat.mod_lt _ (pow_pos B_pos _),
      a1, a2, b1, b2, a3, b3⟩
  unfold stepTop at h
  simp only [e1, e2] at h
  rw [e2]
  by_cases hs1 : k + 2 = s + 1
  · rw [if_pos hs1] at h
    split at h
    · exact absurd h (by simp)
    · exact noshift t (Option.some.inj h).symm
  · rw [if_neg hs1] at h
    split at h
    · exact noshift t (Option.some.inj h).symm
    · rename_i hm
      -- shifted: this is `top2` for n ≥ 3
      have hk : 1 ≤ k := by omega
      have h2 : ¬ (k + 2 = 2) := by omega
      obtain ⟨sh, rx, ry, q1, q2, q3, q4, q5, q6, q7, q8, q9⟩ := top2_spec a b (k + 2) (by omega) ha hb
      have ht : top2 a b (k + 2) = t := by
        unfold top2
        simp only [e1, e2, if_neg hm, if_neg h2]
        exact Option.some.inj h
      simp only [ht, e2] at q2 q3 q4 q5 q6 q7 q8 q9
      exact ⟨sh, rx, ry, q1, fun hc => absurd hc hs1, q2, q3, q4, q5, q6, q7, q8, q9⟩

theorem hgcd2_step_spec (n a b s : Nat) (t : Nat × Nat × Nat × Nat) (m1 : M1) (hn : 2 ≤ n) (hs : s < n) (hs0 : 1 ≤ s)
    (ha : a < B ^ n) (hb : b < B ^ n) (h : stepTop n a b s = some t)
    (h2 : hgcd2 t.1 t.2.1 t.2.2.1 t.2.2.2 = some m1) :
    Msb0 m1 ∧ NonId m1 ∧ ∃ x y, MRel m1 x y a b ∧ B ^ s ≤ x ∧ B ^ s ≤ y ∧ B ^ (n - 2) ≤ x ∧ B ^ (n - 2) ≤ y := by
  obtain ⟨sh, rx, ry, hsh, hsh0, hrx, hry, t1, t2, t3, t4, ea, eb⟩ := stepTop_spec n a b s t hn hs hs0 ha hb h
  have hp := hgcd2_post _ _ _ _ m1 t1 t2 t3 t4 h2
  refine ⟨post_msb0 hp, post_nonId hp, ?_⟩
  obtain ⟨x, y, hr, hx, hy⟩ := post_extend' hp (B ^ (n - 2)) rx ry hrx hry
  rw [← ea, ← eb] at hr
  have hW : 0 < B ^ (n - 2) := pow_pos B_pos _
  have hBB : B ^ (n - 2) * B = 2 * B ^ (n - 2) * 2 ^ 63 := by rw [B_eq]; ring
  obtain ⟨c1, c2, c3, c4, c5⟩ := contract_of_mrel (W := 2 * B ^ (n - 2)) hsh hr (by rw [← hBB]; exact hx)
    (by rw [← hBB]; exact hy) (by omega)
  refine ⟨m1.u11 * a - m1.u01 * b, m1.u00 * b - m1.u10 * a, lehmerOk_iff.mp c1, ?_, ?_, by omega, by omega⟩
  · by_cases hc : n = s + 1
    · -- no shift: x = a' exactly, and x ≥ B^(n-2)·B = B^s
      have h0 := hsh0 hc
      subst h0
      simp only [pow_zero, Nat.mul_one] at hr
      obtain ⟨i1, _⟩ := mrel_inverse hr
      have : m1.u11 * a - m1.u01 * b = x := by omega
      rw [this]
      have : B ^ s = B ^ (n - 2) * B := by rw [← pow_succ]; congr 1; omega
      rw [this]; exact hx
    · have hle : B ^ s ≤ B ^ (n - 2) := Nat.pow_le_pow_right B_pos (by omega)
      omega
  · by_cases hc : n = s + 1
    · have h0 := hsh0 hc
      subst h0
      simp only [pow_zero, Nat.mul_one] at hr
      obtain ⟨_, i2⟩ := mrel_inverse hr
      have : m1.u00 * b - m1.u10 * a = y := by omega
      rw [this]
      have : B ^ s = B ^ (n - 2) * B := by rw [← pow_succ]; congr 1; omega
      rw [this]; exact hy
    · have hle : B ^ s ≤ B ^ (n - 2) := Nat.pow_le_pow_right B_pos (by omega)
      omega

def absDiff (a b : Nat) : Nat := if a ≥ b then a - b else b - a

theorem absDiff_eq (a b : Nat) : absDiff a b = MulAlgo.absDiff a b := rfl

/-- the entries fit the size field, which is at least 1 -/
def MOk (M : HM) : Prop := M.Fits ∧ 1 ≤ M.n

/-- what one call of mpn_hgcd_step / mpn_gcd_subdiv_step (s > 0) guarantees, whatever it returns: gcd and cofactors
    are preserved even on the `return 0` path that has already recorded a subtraction.  `NormD` is the C's ASSERT in
    mpn_hgcd_matrix_mul. -/
def StepPost (n a b s : Nat) (M : HM) (r : StepRes) : Prop :=
  ∃ E : M1, r.M.toM1 = mmul M.toM1 E ∧ MRel E r.a r.b a b ∧ MOk r.M ∧ r.M.alloc = M.alloc ∧
    (det1 M.toM1 → M.NormD → r.M.NormD) ∧
    (r.ret ≠ 0 → NonId E ∧ B ^ s ≤ r.a ∧ B ^ s ≤ r.b ∧ r.a < B ^ r.ret ∧ r.b < B ^ r.ret ∧
        (B ^ (r.ret - 1) ≤ r.a ∨ B ^ (r.ret - 1) ≤ r.b) ∧ r.ret ≤ n) ∧
    (r.ret = 0 → r.a < B ^ n ∧ r.b < B ^ n ∧ (r.a < B ^ s ∨ r.b < B ^ s ∨ absDiff r.a r.b < B ^ s) ∧
        ((r.a = a ∧ r.b = b ∧ r.M = M) ∨ (B ^ s ≤ r.a ∧ r.a = r.b ∧ (b = 2 * a ∨ a = 2 * b))))

theorem elemQ_zero (c : Nat) : elemQ 0 c = idM := by unfold elemQ idM; split <;> rfl

/-- hgcd_hook: M := M·(1 q; 0 1) for d = 1, M·(1 0; q 1) for d = 0 (nothing for q = 0) -/
theorem hgcdHook_spec (M : HM) (q : Nat) (d : Bool) (hM : MOk M) :
    (hgcdHook M q d).toM1 = mmul M.toM1 (elemQ q (if d then 1 else 0)) ∧ MOk (hgcdHook M q d) ∧
    (hgcdHook M q d).alloc = M.alloc ∧ (det1 M.toM1 → M.NormD → (hgcdHook M q d).NormD) := by
  unfold hgcdHook
  split
  · rename_i h; subst h
    rw [elemQ_zero, mmul_id]; exact ⟨rfl, hM, rfl, fun _ h => h⟩
  · rename_i h
    have hq : 0 < q := Nat.pos_of_ne_zero h
    have hc : (if d = true then 1 else 0) ≤ 1 := by split <;> omega
    obtain ⟨e, f, al, _, _, hn, hN⟩ := updateQ_spec M q (if d = true then 1 else 0) hq hc hM.1 hM.2
    exact ⟨e, ⟨f, hn⟩, al, fun hd h => hN h (det1_pos hd).1 (det1_pos hd).2⟩

theorem absDiff_comm (a b : Nat) : absDiff a b = absDiff b a := by
  unfold absDiff; split <;> split <;> omega

theorem order_lt (x y : Nat) (hne : ¬(nlimbs x = nlimbs y ∧ x = y)) (sw : Bool)
    (hsw : (if nlimbs x = nlimbs y then decide (x > y) else decide (nlimbs x > nlimbs y)) = sw) :
    (if sw = true then y else x) < (if sw = true then x else y) := by
  rw [← hsw]
  by_cases h1 : nlimbs x = nlimbs y
  · simp only [h1, ↓reduceIte, decide_eq_true_eq]
    have : x ≠ y := fun hc => hne ⟨h1, hc⟩
    split <;> omega
  · simp only [h1, ↓reduceIte, decide_eq_true_eq]
    split
    · rename_i h2
      by_contra hc
      have : nlimbs x ≤ nlimbs y := nlimbs_isSize.mono (not_lt.mp hc)
      omega
    · rename_i h2
      by_contra hc
      have : nlimbs y ≤ nlimbs x := nlimbs_isSize.mono (not_lt.mp hc)
      omega

theorem subdivStepS_spec (a b n s : Nat) (M : HM) (hM : MOk M) (ha : a < B ^ n) (hb : b < B ^ n) :
    StepPost n a b s M (subdivStepS a b s M) := by
  have hid : M.toM1 = mmul M.toM1 idM := (mmul_id _).symm
  -- the exits that change nothing
  have unchanged : (a < B ^ s ∨ b < B ^ s ∨ absDiff a b < B ^ s) → StepPost n a b s M ⟨0, a, b, M⟩ := fun h =>
    ⟨idM, hid, mrel_id a b, hM, rfl, fun _ h => h, fun hc => absurd rfl hc, fun _ => ⟨ha, hb, h, Or.inl ⟨rfl, rfl, rfl⟩⟩⟩
  unfold subdivStepS
  extract_lets an bn sw la lb lb1 M1 sw2 la2 lb2 sw' q r r2 M2 M3
  have e : an = nlimbs a := rfl
  clear_value an; subst e
  have e : bn = nlimbs b := rfl
  clear_value bn; subst e
  have hsw : (if nlimbs a = nlimbs b then decide (a > b) else decide (nlimbs a > nlimbs b)) = sw := rfl
  clear_value sw
  have ela : (if sw = true then b else a) = la := rfl
  have elb : (if sw = true then a else b) = lb := rfl
  clear_value la lb
  have elb1 : lb - la = lb1 := rfl
  clear_value lb1
  have eM1 : hgcdHook M 1 sw = M1 := rfl
  clear_value M1
  have hsw2 : (if nlimbs la = nlimbs lb1 then decide (la > lb1) else decide (nlimbs la > nlimbs lb1)) = sw2 := rfl
  clear_value sw2
  have ela2 : (if sw2 = true then lb1 else la) = la2 := rfl
  have elb2 : (if sw2 = true then la else lb1) = lb2 := rfl
  have esw' : (if sw2 = true then !sw else sw) = sw' := rfl
  clear_value la2 lb2 sw'
  have eq : lb2 / la2 = q := rfl
  have er : lb2 % la2 = r := rfl
  clear_value q r
  have er2 : r + la2 = r2 := rfl
  clear_value r2
  have eM2 : hgcdHook M1 (q - 1) sw' = M2 := rfl
  have eM3 : hgcdHook M1 q sw' = M3 := rfl
  clear_value M2 M3
  by_cases hne : nlimbs a = nlimbs b ∧ a = b
  · rw [if_pos hne]
    exact unchanged (Or.inr (Or.inr (by rw [hne.2]; simp [absDiff]; exact pow_pos B_pos _)))
  rw [if_neg hne]
  -- order the pair
  have hord : la < lb := by rw [← ela, ← elb]; exact order_lt a b hne sw hsw
  have hL0 : LRel sw idM la lb a b := by
    rw [← ela, ← elb, lrel_iff]; cases sw <;> exact mrel_id a b
  have hlaB : la < B ^ n := by rw [← ela]; split <;> assumption
  have hlbB : lb < B ^ n := by rw [← elb]; split <;> assumption
  have hab : (a = la ∧ b = lb) ∨ (a = lb ∧ b = la) := by
    rw [← ela, ← elb]; cases sw <;> simp
  clear ela elb
  by_cases hla : nlimbs la ≤ s
  · rw [if_pos hla]
    refine unchanged ?_
    have := (nlimbs_isSize la s).mp hla
    rcases hab with ⟨e1, e2⟩ | ⟨e1, e2⟩
    · left; omega
    · right; left; omega
  rw [if_neg hla]
  have hlaS : B ^ s ≤ la := by
    by_contra hc; exact hla ((nlimbs_isSize la s).mpr (by omega))
  by_cases hlb : nlimbs lb1 ≤ s
  · rw [if_pos hlb]
    refine unchanged (Or.inr (Or.inr ?_))
    have := (nlimbs_isSize lb1 s).mp hlb
    rw [← elb1] at this
    rcases hab with ⟨e1, e2⟩ | ⟨e1, e2⟩
    · rw [e1, e2, absDiff_comm]; unfold absDiff; rw [if_pos (by omega)]; exact this
    · rw [e1, e2]; unfold absDiff; rw [if_pos (by omega)]; exact this
  rw [if_neg hlb]
  have hlbS : B ^ s ≤ lb1 := by
    by_contra hc; exact hlb ((nlimbs_isSize lb1 s).mpr (by omega))
  -- the subtraction is recorded
  obtain ⟨hk1, hk2, hk3, hk4⟩ := hgcdHook_spec M 1 sw hM
  rw [eM1] at hk1 hk2 hk3 hk4
  have hL1 : LRel sw (mmul idM (elemQ 1 (if sw = true then 1 else 0))) la (lb - 1 * la) a b :=
    lrel_sub 1 hL0 (by omega)
  rw [Nat.one_mul, elb1] at hL1
  have hE1 : NonId (mmul idM (elemQ 1 (if sw = true then 1 else 0))) := by
    have : mmul idM (elemQ 1 (if sw = true then 1 else 0)) = elemQ 1 (if sw = true then 1 else 0) := by
      simp [mmul, idM]
    rw [this]; exact nonId_elemQ (by omega)
  have hM1 : M1.toM1 = mmul M.toM1 (mmul idM (elemQ 1 (if sw = true then 1 else 0))) := by
    rw [hk1]; congr 1; simp [mmul, idM]
  generalize mmul idM (elemQ 1 (if sw = true then 1 else 0)) = E1 at *
  have hlb1B : lb1 < B ^ n := by omega
  have hlb1e : lb1 + la = lb := by omega
  rw [eM1]
  clear eM1 elb1
  by_cases hne2 : nlimbs la = nlimbs lb1 ∧ la = lb1
  · -- a = b after the subtraction: recorded, 0 returned
    have h := hne2
    rw [if_pos h]
    have hout := lrel_out hL1
    refine ⟨E1, hM1, hout, hk2, hk3, hk4, fun hc => absurd rfl hc, fun _ => ⟨?_, ?_, Or.inr (Or.inr ?_), Or.inr ⟨?_, ?_, ?_⟩⟩⟩
    · cases sw <;> simp <;> omega
    · cases sw <;> simp <;> omega
    · rw [h.2]; cases sw <;> simp [absDiff] <;> exact pow_pos B_pos _
    · cases sw <;> simp <;> omega
    · rw [h.2]
    · have h2 := h.2
      rcases hab with ⟨e1, e2⟩ | ⟨e1, e2⟩
      · left; omega
      · right; omega
  rw [if_neg hne2]
  -- order again
  have hord2 : la2 < lb2 := by rw [← ela2, ← elb2]; exact order_lt la lb1 hne2 sw2 hsw2
  have hL2 : LRel sw' E1 la2 lb2 a b := by
    rw [← ela2, ← elb2, ← esw']
    cases sw2
    · simpa using hL1
    · simpa using lrel_swap hL1
  have hla2S : B ^ s ≤ la2 := by rw [← ela2]; split <;> assumption
  have hlb2B : lb2 < B ^ n := by rw [← elb2]; split <;> assumption
  clear ela2 elb2 esw' hsw2
  have hla2pos : 0 < la2 := lt_of_lt_of_le (pow_pos B_pos s) hla2S
  have hdm : la2 * q + r = lb2 := by rw [← eq, ← er]; exact Nat.div_add_mod lb2 la2
  have hrlt : r < la2 := by rw [← er]; exact Nat.mod_lt _ hla2pos
  have hqpos : 1 ≤ q := by rw [← eq]; exact (Nat.one_le_div_iff hla2pos).mpr (le_of_lt hord2)
  clear eq er
  have hE1d : det1 E1 := (lrel_out hL1).1
  -- both arms: lb2 -= q'·la2 recorded, the pair (la2, r') returned with its size
  have finish : ∀ q' r' : Nat, q' * la2 ≤ lb2 → lb2 - q' * la2 = r' → B ^ s ≤ r' →
      StepPost n a b s M ⟨max (nlimbs la2) (nlimbs r'), if sw' = true then r' else la2, if sw' = true then la2 else r',
        hgcdHook M1 q' sw'⟩ := by
    intro q' r' hle hval hrS
    obtain ⟨hq1, hq2, hq3, hq4⟩ := hgcdHook_spec M1 q' sw' hk2
    have hL3 := lrel_sub q' hL2 hle
    rw [hval] at hL3
    have hk : max (nlimbs la2) (nlimbs r') ≤ n :=
      max_le (nlimbs_isSize.lt_pow_iff.mp (by omega)) (nlimbs_isSize.lt_pow_iff.mp (by omega))
    have b1 : la2 < B ^ max (nlimbs la2) (nlimbs r') := nlimbs_isSize.lt_pow_iff.mpr (le_max_left _ _)
    have b2 : r' < B ^ max (nlimbs la2) (nlimbs r') := nlimbs_isSize.lt_pow_iff.mpr (le_max_right _ _)
    have hpos := nlimbs_pos hla2pos
    have b3 : B ^ (max (nlimbs la2) (nlimbs r') - 1) ≤ la2 ∨ B ^ (max (nlimbs la2) (nlimbs r') - 1) ≤ r' := by
      simp only [nlimbs_isSize.pow_le_iff, ← lt_max_iff]; omega
    refine ⟨mmul E1 (elemQ q' (if sw' = true then 1 else 0)), by rw [hq1, hM1, mmul_assoc], lrel_out hL3, hq2, by rw [hq3, hk3],
      fun hd hN => hq4 (by rw [hM1]; exact det1_mmul hd hE1d) (hk4 hd hN), fun _ => ?_,
      fun hc => absurd (show max (nlimbs la2) (nlimbs r') = 0 from hc) (by omega)⟩
    refine ⟨nonId_mmul hE1 (det1_elemQ _ _), ?_, ?_, ?_, ?_, ?_, hk⟩
    · cases sw' <;> simpa
    · cases sw' <;> simpa
    · cases sw' <;> simpa
    · cases sw' <;> simpa
    · cases sw' <;> simp
      · exact b3
      · exact b3.symm
  by_cases hr : nlimbs r ≤ s
  · -- remainder too small: quotient decremented, a added back
    rw [if_pos hr, ← eM2]
    have e : (q - 1) * la2 + la2 = la2 * q := by rw [← Nat.succ_mul, Nat.succ_eq_add_one, Nat.sub_add_cancel hqpos, Nat.mul_comm]
    have := finish (q - 1) r2 (by omega) (by omega) (by omega)
    rwa [max_eq_right (nlimbs_isSize.mono (by omega))] at this
  · rw [if_neg hr, ← eM3]
    have hrS : B ^ s ≤ r := by
      by_contra hc; exact hr ((nlimbs_isSize _ s).mpr (by omega))
    have := finish q r (by rw [Nat.mul_comm]; omega) (by rw [Nat.mul_comm]; omega) hrS
    rwa [max_eq_left (nlimbs_isSize.mono hrlt.le)] at this

theorem hgcdStep_spec (n a b s : Nat) (M : HM) (hM : MOk M) (hn : 2 ≤ n) (hs : s < n) (hs0 : 1 ≤ s)
    (ha : a < B ^ n) (hb : b < B ^ n) : StepPost n a b s M (hgcdStep n a b s M) := by
  unfold hgcdStep
  cases hbind : (stepTop n a b s).bind (fun t => hgcd2 t.1 t.2.1 t.2.2.1 t.2.2.2) with
  | none => exact subdivStepS_spec a b n s M hM ha hb
  | some m1 =>
    obtain ⟨t, ht, h2⟩ := Option.bind_eq_some_iff.mp hbind
    obtain ⟨hmsb, hnid, x, y, hr, hx, hy, hx2, hy2⟩ := hgcd2_step_spec n a b s t m1 hn hs hs0 ha hb ht h2
    obtain ⟨v1, v2, v3, v4, v5, v6, v7⟩ := mul1InvVec_spec m1 a b n x y hr ha hb (by omega)
    obtain ⟨w1, w2, w3, w4, w5, w6⟩ := matMul1_spec M m1 hM.1 hmsb
    have hn1 : 1 ≤ (matMul1 M m1).n := by have := hM.2; omega
    simp only
    refine ⟨m1, w1, by rw [v1, v2]; exact hr, ⟨w2, hn1⟩, w3, fun _ => w6 hr.1, fun _ => ?_, fun hc => ?_⟩
    · simp only [v1, v2]
      refine ⟨hnid, hx, hy, v3, v4, ?_, v5⟩
      by_cases hc : (mul1InvVec m1 a b n).2.2 = n
      · rw [hc]; exact v7 hc
      · have : (mul1InvVec m1 a b n).2.2 = n - 1 := by omega
        rw [this]
        have : n - 1 - 1 = n - 2 := by omega
        rw [this]; left; exact hx2
    · exfalso
      have : (mul1InvVec m1 a b n).2.2 = 0 := hc
      omega

end Mpir.Hgcd
