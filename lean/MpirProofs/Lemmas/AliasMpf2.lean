/- mpf_mul, mpf_sqrt, mpf_div_ui of Mpir/Model/AliasMpf.lean (pointer level): for every assignment of variable ids the
   call succeeds and leaves in `r` exactly the limbs / size / exponent of the bit-exact model Mpir/Model/Mpf.lean applied
   to the operands as they were before the call. -/
import MpirProofs.Lemmas.AliasMpf
namespace Mpir.AliasMem
open Mpir
open Mpir.DivZ (sizeNat siz sameSign)

/-! ### selecting the top limbs of an operand -/

theorem top_length (k : Nat) (l : List Nat) : (Mpf.top k l).length = min l.length k := by
  rw [Mpf.top_length, Nat.min_comm]

/-- `if (usize > prec) { up += usize - prec; usize = prec; }` -/
theorem top_off_len (n k : Nat) : (if n > k then n - k else 0) = n - min n k ∧ (if n > k then k else n) = min n k := by
  split <;> omega

theorem top_min (k : Nat) (l : List Nat) : Mpf.top k l = Mpf.top (min l.length k) l := by
  unfold Mpf.top; congr 1; omega

theorem loadAt_top {X : St} {p n k : Nat} {b : List Nat} (hb : X.blk p = some b) (hn : n ≤ b.length) :
    X.loadAt p (if n > k then n - k else 0) (if n > k then k else n) = .ok (Mpf.top k (b.take n)) := by
  rw [(top_off_len n k).1, (top_off_len n k).2,
    loadAt_ok hb (by rw [Nat.sub_add_cancel (Nat.min_le_left _ _)]; exact hn), top_min, List.length_take, Nat.min_eq_left hn]
  unfold Mpf.top
  rw [List.drop_take, List.length_take, Nat.min_eq_left hn, Nat.sub_sub_self (Nat.min_le_left _ _)]

theorem top_if_length (k n : Nat) (b : List Nat) (hn : n ≤ b.length) :
    (if n > k then k else n) = (Mpf.top k (b.take n)).length := by
  rw [top_length, List.length_take, Nat.min_eq_left hn]; split <;> omega

theorem NormOp.top_k {L : List Nat} {n : Nat} (o : NormOp L n) {k : Nat} (hk : 1 ≤ k) : NormOp (Mpf.top k L) (min n k) :=
  normOp_iff.mpr ⟨(normOp_iff.mp o).1.top hk, by rw [top_length, o.len]⟩

theorem FInv.top_normOp {s : FSt} (h : FInv s) {i : Nat} (hi : i < s.st.nv) (k : Nat)
    (h1 : (Mpf.top k (s.st.limbs i)).length ≠ 0) :
    NormOp (Mpf.top k (s.st.limbs i)) (Mpf.top k (s.st.limbs i)).length := by
  rw [top_length, (h.inv.limbs_spec hi).1] at h1
  have o := (h.inv.normOp hi (fun e => h1 (by rw [e]; rfl))).top_k (k := k) (by omega)
  rwa [← o.len] at o

/-- mul.c:67-82 on the factors selected: what the model of the C leaves in `r` is `Mpf.mulLimbs` -/
theorem mulLimbs_eq {prec : Nat} {A Bv : List Nat} {k P adj k1 toff rs : Nat} (hk : A.length + Bv.length = k)
    (hP : val A * val Bv = P) (hadj : (if P / B ^ (k - 1) = 0 then 1 else 0) = adj) (hk1 : k - adj = k1)
    (htoff : (if k1 > prec + 1 then k1 - (prec + 1) else 0) = toff) (hrs : (if k1 > prec + 1 then prec + 1 else k1) = rs)
    (hk2 : 2 ≤ k) (hPlt : P < B ^ k) :
    Mpf.mulLimbs prec A Bv = (((toLimbs k P).drop toff).take rs, adj) := by
  unfold Mpf.mulLimbs
  simp only [hk, hP]
  have ht : Mpf.topLimb (toLimbs k P) = P / B ^ (k - 1) := by
    rw [topLimb_toLimbs _ _ (by omega), Nat.mod_eq_of_lt]
    rw [Nat.div_lt_iff_lt_mul (Bpow_pos _), ← pow_succ']
    rw [show k - 1 + 1 = k by omega]; exact hPlt
  rw [ht, hadj, hk1]
  have hadj1 : adj ≤ 1 := by rw [← hadj]; split <;> omega
  unfold Mpf.top
  rw [List.length_take, toLimbs_length, Nat.min_eq_left (by omega), List.drop_take]
  have e1 : k1 - (prec + 1) = toff := by rw [← htoff]; split <;> omega
  have e2 : k1 - toff = rs := by rw [← hrs, ← htoff]; split <;> omega
  rw [e1, e2]

/-- mul.c:73-80: of the `k` or `k - 1` product limbs the top `rs ≤ PREC + 1` are kept, `toff` are dropped -/
theorem mul_sel {k adj k1 p toff rs : Nat} (hk2 : 2 ≤ k) (hadj : adj ≤ 1) (hk1 : k - adj = k1)
    (htoff : (if k1 > p + 1 then k1 - (p + 1) else 0) = toff) (hrs : (if k1 > p + 1 then p + 1 else k1) = rs) :
    toff + rs = k1 ∧ rs ≤ p + 1 ∧ 1 ≤ rs ∧ toff + rs ≤ k := by
  subst hk1 htoff hrs
  split <;> omega

theorem mpf_mul_ok {s : FSt} (h : FInv s) {r u v : Nat} (hr : r < s.st.nv) (hu : u < s.st.nv) (hv : v < s.st.nv) :
    ∃ s', mpf_mul r u v s = .ok s' ∧ FRes s s' r (Mpf.mul (s.prec r) (s.F u) (s.F v)) := by
  obtain ⟨bu, hbu, -, -, -, hfu, hUd⟩ := h.blk hu
  obtain ⟨bv, hbv, -, -, -, hfv, hVd⟩ := h.blk hv
  obtain ⟨br, hbr, -, -, hroom, -, -⟩ := h.blk hr
  have hAl := top_if_length (s.prec r) (s.st.size u).natAbs bu hfu
  have hBl := top_if_length (s.prec r) (s.st.size v).natAbs bv hfv
  have oA := h.top_normOp hu (s.prec r)
  have oB := h.top_normOp hv (s.prec r)
  unfold mpf_mul mpf_mulV
  simp only [FVariant.c, bind, Except.bind, pure, Except.pure]
  rw [loadAt_top hbu hfu, loadAt_top hbv hfv]
  simp only [hAl, hBl, if_true]
  unfold Mpf.mul
  rw [hUd, hVd] at *
  rw [show (s.F u).d = s.st.limbs u from rfl, show (s.F v).d = s.st.limbs v from rfl]
  clear hAl hBl hUd hVd hfu hfv hbu hbv
  generalize Mpf.top (s.prec r) (s.st.limbs u) = A at *
  generalize Mpf.top (s.prec r) (s.st.limbs v) = Bv at *
  by_cases hz : A.length = 0 ∨ Bv.length = 0
  · rw [if_pos hz, if_pos hz]
    exact ⟨_, rfl, setSE_zero_spec h hr⟩
  rw [if_neg hz, if_neg hz]
  replace oA := oA (not_or.mp hz).1
  replace oB := oB (not_or.mp hz).2
  generalize hk : A.length + Bv.length = k
  generalize hP : val A * val Bv = P
  generalize hadj : (if P / B ^ (k - 1) = 0 then 1 else 0) = adj
  generalize hk1 : k - adj = k1
  generalize htoff : (if k1 > s.prec r + 1 then k1 - (s.prec r + 1) else 0) = toff
  generalize hrs : (if k1 > s.prec r + 1 then s.prec r + 1 else k1) = rs
  have mA := (normOp_iff.mp oA).1
  have mB := (normOp_iff.mp oB).1
  have hk2 : 2 ≤ k := by have := oA.pos; have := oB.pos; omega
  have hPlt : P < B ^ k := by rw [← hP, ← hk, pow_add]; exact Nat.mul_lt_mul'' mA.val_lt mB.val_lt
  obtain ⟨-, -, m, -⟩ := Mpf.mulLimbs_spec (s.prec r) A Bv mA mB
  rw [mulLimbs_eq hk hP hadj hk1 htoff hrs hk2 hPlt] at m ⊢
  simp only [] at m ⊢
  obtain ⟨-, hrs1, -, htk⟩ := mul_sel hk2 (by rw [← hadj]; split <;> simp) hk1 htoff hrs
  have hrsl : (((toLimbs k P).drop toff).take rs).length = rs := by
    rw [List.length_take, List.length_drop, toLimbs_length]; omega
  clear oA oB mA mB hz hP hk
  have x1 := malloc_ext h.inv (toLimbs k P)
  rw [show (s.st.malloc (toLimbs k P)).1 = s.st.next from rfl,
    loadAt_ok (malloc_blk_new s.st (toLimbs k P)) (by rw [toLimbs_length]; exact htk)]
  simp only []
  generalize ((toLimbs k P).drop toff).take rs = X at m hrsl ⊢
  subst hrsl
  rw [store_blk ((x1.blk _ (by rw [hbr]; simp)).trans hbr) (Nat.le_trans hrs1 hroom)]
  refine ⟨_, rfl, ?_⟩
  refine FRes.of_eq (fput_mant h (malloc_inv h.inv _) x1 hr hbr m hrs1 _ (s.exp u + s.exp v - adj) [s.st.next]
    (natAbs_ite_neg _ _) (fun p hp i hi => List.mem_singleton.mp hp ▸ malloc_ne_ptr h.inv hi) rfl rfl (fun j => rfl)) ?_
  rw [neg_eq]
  rfl

/-- why mul.c forms the product in TMP space: without it every call with `r = u` or `r = v` and a non-zero product hands
    mpn_mul a product area that is one of its factors -/
theorem mpf_mul_noTmp_ub {s : FSt} (h : FInv s) {r u v : Nat} (hu : u < s.st.nv) (hv : v < s.st.nv)
    (hru : r = u ∨ r = v) (hp : 1 ≤ s.prec r) (hu0 : s.st.size u ≠ 0) (hv0 : s.st.size v ≠ 0) :
    mpf_mulV {productInTmp := false} r u v s = .error "ub:mpn_mul product overlaps a factor" := by
  obtain ⟨bu, hbu, hbul, hbuL⟩ := h.inv.live u hu
  obtain ⟨bv, hbv, hbvl, hbvL⟩ := h.inv.live v hv
  have hfu := h.inv.fits u hu
  have hfv := h.inv.fits v hv
  unfold mpf_mulV
  simp only [bind, Except.bind, pure, Except.pure]
  rw [loadAt_top hbu (by omega), loadAt_top hbv (by omega)]
  simp only []
  rw [if_neg (by rintro (e | e) <;> split at e <;> omega)]
  simp only [Bool.false_eq_true, if_false]
  rw [if_pos (by rcases hru with e | e <;> rw [e] <;> simp)]
  rfl

/-- the variables `0 … n-1` as the bit-exact model sees them -/
def lookF (x : R FSt) (n : Nat) : R (List Mpf.F) := x.map (fun s => (List.range n).map s.F)

-- r = u, u has 4 limbs > prec + 1 = 3: the top 2 limbs of u are multiplied, u's old limbs are what the product is made of
example : lookF (mpf_mul 0 0 1 (ofFs [⟨2, 4, 3, [5, 6, 7, 8]⟩, ⟨2, -1, 1, [3]⟩])) 2 =
    .ok [⟨2, -2, 3, [21, 24]⟩, ⟨2, -1, 1, [3]⟩] := by decide +kernel
example : Mpf.mul 2 ⟨2, 4, 3, [5, 6, 7, 8]⟩ ⟨2, -1, 1, [3]⟩ = ⟨2, -2, 3, [21, 24]⟩ := by decide +kernel
-- r = u = v (squaring in place), 4 limbs under prec 2
example : lookF (mpf_mul 0 0 0 (ofFs [⟨2, 4, 3, [5, 6, 7, 2 ^ 63]⟩])) 1 = .ok [⟨2, 3, 6, [0, 7, 2 ^ 62]⟩] := by decide +kernel
-- productInTmp := false: mpn_mul straight into r overlaps a factor (r = u) …
example : lookF (mpf_mulV {productInTmp := false} 0 0 1 (ofFs [⟨2, 4, 3, [5, 6, 7, 8]⟩, ⟨2, -1, 1, [3]⟩])) 2 =
    .error "ub:mpn_mul product overlaps a factor" := by decide +kernel
-- … and with distinct variables the 2·prec-limb product does not fit the prec + 1 limbs of r
example : lookF (mpf_mulV {productInTmp := false} 0 1 2
      (ofFs [⟨2, 0, 0, []⟩, ⟨2, 3, 3, [5, 6, 7]⟩, ⟨2, 3, 1, [2 ^ 63, 1, 2 ^ 63]⟩])) 3 =
    .error "ub:write past the end of a block" := by decide +kernel


/-! ### mpf_sqrt -/

theorem setSize_ptr (s : St) (r : Nat) (x : Int) (i : Nat) : (s.setSize r x).ptr i = s.ptr i := by
  unfold St.setSize St.setVar St.ptr
  by_cases e : i = r <;> simp [e]

/-- sqrt.c:87-99 / div_ui.c:78-91: the top `t` limbs of the operand, or the operand above `t - n` zero limbs -/
theorem loadPad {X : St} {p n t : Nat} {b : List Nat} (hb : X.blk p = some b) (hn : n ≤ b.length) :
    (if n > t then X.loadAt p (n - t) t
     else (X.loadAt p 0 n).bind (fun l => Except.ok (List.replicate (t - n) 0 ++ l))) =
      .ok (List.replicate (t - n) 0 ++ Mpf.top t (b.take n)) := by
  by_cases hgt : n > t
  · rw [if_pos hgt, loadAt_ok hb (by omega)]
    have : t - n = 0 := by omega
    rw [this]
    unfold Mpf.top
    rw [List.length_take, Nat.min_eq_left hn, List.drop_take, show n - (n - t) = t by omega]; rfl
  · rw [if_neg hgt, loadAt_ok hb (by omega)]
    unfold Mpf.top
    rw [List.length_take, Nat.min_eq_left hn, show n - t = 0 by omega]; rfl

theorem setSE_loadAt (s : FSt) (r : Nat) (a e : Int) (p o n : Nat) :
    (s.setSE r a e).st.loadAt p o n = s.st.loadAt p o n := rfl

theorem setSE_ptr (s : FSt) (r : Nat) (a e : Int) (i : Nat) : (s.setSE r a e).st.ptr i = s.st.ptr i :=
  setSize_ptr s.st r a i

theorem sqrtrem_root_ok {X : St} {sp np nn : Nat} {l bs : List Nat} (hl : X.blk np = some l) (hll : l.length = nn)
    (hbs : X.blk sp = some bs) (hne : sp ≠ np) (hnn : 1 ≤ nn) (htop : l.getD (nn - 1) 0 ≠ 0)
    (hroom : (nn + 1) / 2 ≤ bs.length) :
    mpf_sqrtV.mpn_sqrtrem_root sp np nn X =
      .ok (X.setBlk sp (some (toLimbs ((nn + 1) / 2) (Nat.sqrt (val l)) ++ bs.drop ((nn + 1) / 2)))) := by
  unfold mpf_sqrtV.mpn_sqrtrem_root
  simp only [bind, Except.bind]
  rw [if_neg hne, load_blk hl (by omega)]
  simp only []
  rw [if_neg (by omega), List.take_of_length_le (by omega), if_neg htop, store_blk hbs (by rw [toLimbs_length]; exact hroom)]
  rw [toLimbs_length]

theorem pad_spec {L : List Nat} {n : Nat} (o : NormOp L n) {t : Nat} (ht : 1 ≤ t) :
    NormOp (List.replicate (t - n) 0 ++ Mpf.top t L) t ∧
      val (List.replicate (t - n) 0 ++ Mpf.top t L) = val (Mpf.top t L) * B ^ (t - (Mpf.top t L).length) := by
  have oT := o.top_k ht
  have hv : val (List.replicate (t - n) 0 ++ Mpf.top t L) = val (Mpf.top t L) * B ^ (t - n) := by
    rw [val_zeros_append, Nat.mul_comm]
  refine ⟨⟨?_, Limbs_append.mpr ⟨Limbs_replicate_zero _, oT.limbs⟩, ht, ?_⟩, ?_⟩
  · rw [List.length_append, List.length_replicate, oT.len]; omega
  · rw [hv]
    calc B ^ (t - 1) = B ^ (min n t - 1) * B ^ (t - n) := by
          rw [← pow_add]; congr 1; have := o.pos; omega
      _ ≤ _ := Nat.mul_le_mul_right _ oT.ge
  · rw [hv, oT.len]; congr 2; omega

/-- sqrt.c:79-80: `tsize = 2 * prec - expodd` limbs of operand give a root of `prec` limbs -/
theorem sqrt_tsize {p : Nat} (hp : 1 ≤ p) (e : Int) :
    ((e % 2).toNat : Int) = e % 2 ∧ 1 ≤ 2 * p - (e % 2).toNat ∧ (2 * p - (e % 2).toNat + 1) / 2 = p := by
  omega

theorem mpf_sqrt_ok {s : FSt} (h : FInv s) {r u : Nat} (hr : r < s.st.nv) (hu : u < s.st.nv) (hu0 : 0 ≤ s.st.size u)
    (hp : 1 ≤ s.prec r) :
    ∃ s' f, mpf_sqrt r u s = .ok s' ∧ Mpf.sqrt (s.prec r) (s.F u) = .ok f ∧ FRes s s' r f := by
  obtain ⟨bu, hbu, -, -, -, hfu, hUd⟩ := h.blk hu
  obtain ⟨br, hbr, -, -, hroom, -, -⟩ := h.blk hr
  have hFs : (s.F u).size = s.st.size u := rfl
  have hFe : (s.F u).exp = s.exp u := rfl
  have hFd : (s.F u).d = s.st.limbs u := rfl
  unfold mpf_sqrt mpf_sqrtV Mpf.sqrt
  simp only [FVariant.c, bind, pure, Except.pure, if_true, hFs, hFe, hFd, setSE_loadAt, setSE_ptr]
  rw [if_neg (not_lt.mpr hu0), if_neg (not_lt.mpr hu0)]
  by_cases hz : s.st.size u = 0
  · rw [if_pos hz, if_pos hz]
    exact ⟨_, _, rfl, rfl, setSE_zero_spec h hr⟩
  rw [if_neg hz, if_neg hz, loadPad hbu hfu, hUd]
  have oU := h.inv.normOp hu hz
  obtain ⟨heo2, ht1, ht2⟩ := sqrt_tsize hp (s.exp u)
  rw [heo2]
  clear heo2 hfu hbu hUd
  generalize 2 * s.prec r - (s.exp u % 2).toNat = t at *
  obtain ⟨oL, hlv⟩ := pad_spec oU ht1
  simp only [Except.bind]
  rw [← hlv]
  generalize List.replicate (t - (s.st.size u).natAbs) 0 ++ Mpf.top t (s.st.limbs u) = l at *
  have hne : s.st.ptr r ≠ s.st.next := malloc_ne_ptr h.inv hr
  have hXr : ((s.setSE r (s.prec r) ((s.exp u + s.exp u % 2) / 2)).st.malloc l).2.blk (s.st.ptr r) = some br :=
    (setBlk_blk_ne _ _ hne).trans hbr
  have hXl : ((s.setSE r (s.prec r) ((s.exp u + s.exp u % 2) / 2)).st.malloc l).2.blk
      ((s.setSE r (s.prec r) ((s.exp u + s.exp u % 2) / 2)).st.malloc l).1 = some l := malloc_blk_new _ l
  rw [sqrtrem_root_ok hXl oL.len hXr hne ht1 oL.top (by rw [ht2]; exact Nat.le_of_succ_le hroom)]
  simp only [ht2]
  refine ⟨_, _, rfl, rfl, ?_⟩
  have hsz := sqrt_size oL.ge oL.lt ht1
  rw [ht2] at hsz
  refine FRes.of_eq (fput_toLimbs h (malloc_inv h.inv l) (malloc_ext h.inv l) hr hbr (s.prec r) (Nat.sqrt (val l)) (s.prec r)
    (s.prec r) ((s.exp u + s.exp u % 2) / 2) [s.st.next] (Nat.le_succ _) (hsz ▸ DivZ.lt_B_pow_sizeNat _) hsz
    (Int.natAbs_natCast _) (fun p hp i hi => List.mem_singleton.mp hp ▸ malloc_ne_ptr h.inv hi) rfl rfl (fun j => rfl)) ?_
  rw [List.take_of_length_le (Nat.le_of_eq (toLimbs_length _ _))]

theorem mpf_sqrt_neg {s : FSt} {r u : Nat} (hneg : s.st.size u < 0) :
    mpf_sqrt r u s = .error "sqrtneg" ∧ Mpf.sqrt (s.prec r) (s.F u) = .sqrtneg := by
  have hFs : (s.F u).size = s.st.size u := rfl
  unfold mpf_sqrt mpf_sqrtV Mpf.sqrt
  simp only [bind, Except.bind, hFs]
  rw [if_pos hneg, if_pos hneg]
  exact ⟨rfl, rfl⟩

-- r = u, u has 5 limbs > prec + 1 = 3, odd exponent: the root of the top 3 limbs [7, 8, 9] of u as it was
example : lookF (mpf_sqrt 0 0 (ofFs [⟨2, 5, 3, [5, 6, 7, 8, 9]⟩])) 1 = .ok [⟨2, 2, 2, [1, 3]⟩] := by decide +kernel
example : Mpf.sqrt 2 ⟨2, 5, 3, [5, 6, 7, 8, 9]⟩ = .ok ⟨2, 2, 2, [1, 3]⟩ := by decide +kernel
-- even exponent: the top 4 limbs
example : lookF (mpf_sqrt 0 0 (ofFs [⟨2, 5, 4, [5, 6, 7, 8, 9]⟩])) 1 = .ok [⟨2, 2, 2, [5726623061, 12884901888]⟩] := by
  decide +kernel
-- r ≠ u: u untouched
example : lookF (mpf_sqrt 0 1 (ofFs [⟨2, 0, 0, []⟩, ⟨2, 5, 3, [5, 6, 7, 8, 9]⟩])) 2 =
    .ok [⟨2, 2, 2, [1, 3]⟩, ⟨2, 5, 3, [5, 6, 7, 8, 9]⟩] := by decide +kernel
-- sqrtLocals := false (u->_mp_size read again after r->_mp_size = prec was stored, r = u): a different root …
example : lookF (mpf_sqrtV {sqrtLocals := false} 0 0 (ofFs [⟨2, 5, 3, [5, 6, 7, 8, 9]⟩])) 1 =
    .ok [⟨2, 2, 2, [8291622248878821281, 2]⟩] := by decide +kernel
-- … and with a short operand stale limbs above |size| are taken for data
example : lookF (mpf_sqrtV {sqrtLocals := false} 0 0 (ofFs [⟨3, 1, 4, [5]⟩])) 1 ≠ lookF (mpf_sqrt 0 0 (ofFs [⟨3, 1, 4, [5]⟩])) 1 := by
  decide +kernel
example : (mpf_sqrt 0 1 (ofFs [⟨2, 0, 0, []⟩, ⟨2, -1, 1, [4]⟩])).toOption.isNone := by decide +kernel


/-! ### mpf_div_ui -/

theorem mpf_div_ui_zero {s : FSt} {r u : Nat} :
    mpf_div_ui r u 0 s = .error "div0" ∧ Mpf.div_ui (s.prec r) (s.F u) 0 = .div0 := ⟨rfl, rfl⟩

theorem sgn_eq (sz : Int) (n : Nat) :
    (if decide (sz < 0) = true then -(n : Int) else (n : Int)) = (if sz ≥ 0 then (n : Int) else -(n : Int)) :=
  (sgnv_of_iff decide_eq_true_iff.symm n).symm.trans (sgnv_ge sz n)

theorem mpf_div_ui_ok {s : FSt} (h : FInv s) {r u : Nat} (hr : r < s.st.nv) (hu : u < s.st.nv) {v : Nat} (hv : 0 < v) (hvB : v < B) :
    ∃ s' f, mpf_div_ui r u v s = .ok s' ∧ Mpf.div_ui (s.prec r) (s.F u) v = .ok f ∧ FRes s s' r f := by
  obtain ⟨bu, hbu, -, -, -, hfu, hUd⟩ := h.blk hu
  obtain ⟨br, hbr, -, -, hroom, -, -⟩ := h.blk hr
  have hFs : (s.F u).size = s.st.size u := rfl
  have hFe : (s.F u).exp = s.exp u := rfl
  have hFd : (s.F u).d = s.st.limbs u := rfl
  unfold mpf_div_ui mpf_div_uiV Mpf.div_ui
  simp only [FVariant.c, bind, pure, Except.pure, if_true, hFs, hFe, hFd, Nat.add_comm 1 (s.prec r)]
  rw [if_neg (Nat.ne_of_gt hv), if_neg (Nat.ne_of_gt hv)]
  by_cases hz : s.st.size u = 0
  · rw [if_pos hz, if_pos (by rw [hz]; rfl)]
    exact ⟨_, _, rfl, rfl, setSE_zero_spec h hr⟩
  rw [if_neg hz, if_neg (Int.natAbs_ne_zero.mpr hz), loadPad hbu hfu, hUd]
  obtain ⟨oL, hlv⟩ := pad_spec (h.inv.normOp hu hz) (Nat.le_add_left 1 (s.prec r))
  simp only [Except.bind]
  rw [← hlv]
  generalize List.replicate (s.prec r + 1 - (s.st.size u).natAbs) 0 ++ Mpf.top (s.prec r + 1) (s.st.limbs u) = l at *
  have x1 := malloc_ext h.inv (l ++ [junk])
  rw [store_blk ((x1.blk _ (by rw [hbr]; simp)).trans hbr) (by rw [toLimbs_length]; exact hroom)]
  simp only [toLimbs_length]
  rw [limbAt_toLimbs (setBlk_blk_self _ _ _) (Nat.sub_lt (Nat.succ_pos _) Nat.one_pos)]
  simp only []
  obtain ⟨hq1, hq2⟩ := quot_size (N := val l) (D := v) (nl := s.prec r + 1) (dl := 1) oL.ge oL.lt
    (by rw [Nat.sub_self, pow_zero]; exact hv) (by rw [pow_one]; exact hvB) (Nat.le_refl _) oL.pos
  simp only [Nat.add_sub_cancel] at hq1 hq2
  refine ⟨_, _, rfl, rfl, ?_⟩
  rw [← sgn_eq]
  exact fput_quot h (malloc_inv h.inv (l ++ [junk])) x1 hr hbr (val l / v) (decide (s.st.size u < 0)) (s.exp u) [s.st.next]
    hq1 hq2 (fun p hp i hi => List.mem_singleton.mp hp ▸ malloc_ne_ptr h.inv hi) rfl rfl (fun j => rfl)

/-- why div_ui.c moves the dividend to TMP space: dividing in place, every call with `r = u` and an operand longer than
    prec + 1 limbs hands mpn_divrem_1 a quotient area that overlaps its dividend at an offset -/
theorem mpf_div_ui_noTmp_ub {s : FSt} (h : FInv s) {r : Nat} (hr : r < s.st.nv) {v : Nat} (hv : 0 < v)
    (hlong : s.prec r + 1 < (s.st.size r).natAbs) :
    mpf_div_uiV {dividendInTmp := false} r r v s = .error "ub:mpn_divrem_1 quotient overlaps the dividend at an offset" := by
  obtain ⟨br, hbr, hbrl, hbrL⟩ := h.inv.live r hr
  have hfr := h.inv.fits r hr
  unfold mpf_div_uiV
  simp only [bind, pure, Except.pure, Nat.add_comm 1 (s.prec r)]
  rw [if_neg (by omega : ¬ v = 0), if_neg (by omega : ¬ (s.st.size r).natAbs = 0), loadPad hbr (by omega)]
  simp only [Except.bind, Bool.false_eq_true, if_false]
  rw [if_pos ⟨trivial, hlong⟩]
  rfl

-- r = u, u has 5 limbs > prec + 1 = 3, negative: the top 3 limbs [7, 8, 9] of u as it was, divided by 3
example : lookF (mpf_div_ui 0 0 3 (ofFs [⟨2, -5, 3, [5, 6, 7, 8, 9]⟩])) 1 =
    .ok [⟨2, -3, 3, [12297829382473034413, 2, 3]⟩] := by decide +kernel
example : Mpf.div_ui 2 ⟨2, -5, 3, [5, 6, 7, 8, 9]⟩ 3 = .ok ⟨2, -3, 3, [12297829382473034413, 2, 3]⟩ := by decide +kernel
-- high quotient limb zero: one limb less, exponent - 1; r ≠ u leaves u alone
example : lookF (mpf_div_ui 0 1 10 (ofFs [⟨2, 0, 0, []⟩, ⟨2, 5, 3, [5, 6, 7, 8, 9]⟩])) 2 =
    .ok [⟨2, 2, 2, [3689348814741910323, 16602069666338596455]⟩, ⟨2, 5, 3, [5, 6, 7, 8, 9]⟩] := by decide +kernel
-- short operand in place (zero padding below)
example : lookF (mpf_div_ui 0 0 3 (ofFs [⟨2, 1, 3, [5]⟩])) 1 =
    .ok [⟨2, 3, 3, [12297829382473034410, 12297829382473034410, 1]⟩] := by decide +kernel
-- dividendInTmp := false: with r = u and a long operand mpn_divrem_1 gets a quotient area overlapping its dividend at an offset
example : lookF (mpf_div_uiV {dividendInTmp := false} 0 0 3 (ofFs [⟨2, -5, 3, [5, 6, 7, 8, 9]⟩])) 1 =
    .error "ub:mpn_divrem_1 quotient overlaps the dividend at an offset" := by decide +kernel
example : mpf_div_ui 0 0 0 (ofFs [⟨2, 1, 3, [5]⟩]) = .error "div0" := mpf_div_ui_zero.1

end Mpir.AliasMem
