/- mpz_fac_ui, mpz_oddfac_1, mpz_2fac_ui (models in Mpir/Model/Numth.lean): the table entries, the limb-product loops, the
   halving and squaring loops; the swing factor enters as a hypothesis (Lemmas/SwingAsm.lean discharges it). -/
import MpirProofs.Lemmas.Numth
namespace Mpir.Numth
open Mpir Mpir.Gen.NumthTabs
open Nat

/-- fac_ui.c:90-91: the factors n-1, n-2, ..., lo -/
theorem facStoreDown_val (M lo : ℕ) (hlo : 1 ≤ lo) : ∀ fuel n st, n ≤ fuel → lo ≤ n → M * n < B →
    flVal (facStoreDown M lo fuel n st) * (lo - 1)! = flVal st * (n - 1)! := by
  intro fuel
  induction fuel with
  | zero => intro n st h1 h2; omega
  | succ fuel ih =>
    intro n st hf hn hM
    rw [facStoreDown]
    by_cases hc : n - 1 ≥ lo ∧ n ≥ 1
    · rw [if_pos hc, ih (n - 1) _ (by omega) hc.1 (lt_of_le_of_lt (Nat.mul_le_mul_left _ (Nat.sub_le n 1)) hM),
        flStore_val_of_le st (Nat.sub_le n 1) hM, mul_assoc, Nat.mul_factorial_pred (by omega)]
    · rw [if_neg hc, show n = lo by omega]

theorem aboveThreshold_eq_false {n t : ℕ} : aboveThreshold n t = false ↔ t ≠ 0 ∧ n < t := by
  simp [aboveThreshold]

theorem aboveThreshold_iff {n t : ℕ} (ht : t ≠ 0) : aboveThreshold n t = true ↔ t ≤ n := by
  simp [aboveThreshold, ht]

theorem fac_table_entry : ∀ i < facTable.length, facTable.getD i 0 = i ! := by
  simp only [← factorial_eq]; decide +kernel

theorem fac2cnt_entry : ∀ n ≤ TABLE_LIMIT_2N_MINUS_POPC_2N, 2 ≤ n → fac2cntTab (n / 2 - 1) = n - popcount n := by
  decide +kernel

theorem facShift_eq (n : ℕ) (h : 2 ≤ n) : facShift n = n - popcount n := by
  unfold facShift
  by_cases hs : n ≤ TABLE_LIMIT_2N_MINUS_POPC_2N
  · simp only [hs, if_true]; exact fac2cnt_entry n hs h
  · simp only [hs, if_false]

theorem facTable_length_pos : 2 ≤ facTable.length := by decide


theorem mpz_fac_ui_eq (n : ℕ) (hn : n < B)
    (hodd : facTable.length ≤ n → aboveThreshold n FAC_ODD_THRESHOLD = true → mpz_oddfac_1 n 0 = oddPart (n !)) :
    mpz_fac_ui n = n ! := by
  unfold mpz_fac_ui
  simp only
  by_cases h1 : n < facTable.length
  · simp only [h1, if_true]; exact fac_table_entry n h1
  · simp only [h1, if_false]
    have hlen := facTable_length_pos
    by_cases h2 : aboveThreshold n FAC_ODD_THRESHOLD = true
    · simp only [h2, Bool.not_true, Bool.false_eq_true, if_false]
      rw [hodd (by omega) h2, facShift_eq n (by omega), mul_comm]
      exact (factorial_two_adic n hn).symm
    · simp only [h2, Bool.not_false, if_true]
      -- the limb-product basecase fac_ui.c:72-97
      have hthr := aboveThreshold_eq_false.1 (Bool.eq_false_iff.2 h2)
      have hM : (B - 1) / (FAC_ODD_THRESHOLD ||| 1) * n < B :=
        limb_div_mul_lt (le_trans (le_of_lt hthr.2) Nat.left_le_or)
      have hv := facStoreDown_val ((B - 1) / (FAC_ODD_THRESHOLD ||| 1)) facTable.length (by omega) n n
        ([facTable.getD (facTable.length - 1) 0], n) le_rfl (by omega) hM
      have e0 : flVal ([facTable.getD (facTable.length - 1) 0], n) = n * (facTable.length - 1)! := by
        rw [flVal_mk, prodList, prodList, fac_table_entry _ (by omega)]; ring
      rw [e0] at hv
      exact Nat.eq_of_mul_eq_mul_right (Nat.factorial_pos (facTable.length - 1))
        (hv.trans (by rw [← Nat.mul_factorial_pred (show n ≠ 0 by omega)]; ring))

theorem mul_doubleFactorial_sub_two {n : ℕ} (h : 1 ≤ n) : n * (n - 2)‼ = n‼ := by
  rcases Nat.lt_or_ge n 2 with h2 | h2
  · rw [show n = 1 by omega]; rfl
  · obtain ⟨k, rfl⟩ : ∃ k, n = k + 2 := ⟨n - 2, by omega⟩
    rw [Nat.doubleFactorial_add_two, Nat.add_sub_cancel]

/-- oddfac_1.c:353-356 -/
theorem oddStore_val (M tn c : ℕ) (hM : M * tn < B) : ∀ fuel i st, i % 2 = 1 → i ≤ tn → tn < i + 2 * fuel →
    flVal st = c * (i - 2)‼ → flVal (oddStore M tn fuel i st) = c * oddDF tn := by
  intro fuel
  induction fuel with
  | zero => intro i st _ h1 h2; omega
  | succ fuel ih =>
    intro i st hodd hi hf hst
    have hv : flVal (flStore i M st) = c * i‼ := by
      rw [flStore_val_of_le st hi hM, hst, mul_assoc, mul_comm _ i, mul_doubleFactorial_sub_two (by omega)]
    rw [oddStore]
    by_cases hc : i + 2 ≤ tn
    · simp only [hc, if_true]
      exact ih (i + 2) _ (by omega) hc (by omega) (by rw [hv, Nat.add_sub_cancel])
    · simp only [hc, if_false]
      rw [hv]; unfold oddDF
      congr 2; omega

theorem odd2fac_entry : ∀ i < odd2facTable.length, odd2facTab i = (2 * i + 1)‼ := by
  simp only [← doubleFactorial_eq]; decide +kernel

theorem oddfac_entry : ∀ i ≤ ODD_FACTORIAL_TABLE_LIMIT, oddfacTab i = oddPart (i !) := by
  simp only [← factorial_eq]; decide +kernel

theorem oddfac_consts : ODD_DOUBLEFACTORIAL_TABLE_LIMIT % 2 = 1 ∧
    ODD_DOUBLEFACTORIAL_TABLE_MAX = (ODD_DOUBLEFACTORIAL_TABLE_LIMIT)‼ ∧
    2 * odd2facTable.length = ODD_DOUBLEFACTORIAL_TABLE_LIMIT + 1 ∧
    ODD_DOUBLEFACTORIAL_TABLE_LIMIT + 1 ≤ 2 * ODD_FACTORIAL_TABLE_LIMIT + 1 ∧ 1 ≤ ODD_FACTORIAL_TABLE_LIMIT := by
  simp only [← doubleFactorial_eq]; decide +kernel

/-- for tn up to ODD_DOUBLEFACTORIAL_TABLE_LIMIT + 1 the two tables give the odd part of tn! (oddfac_1.c:307-314, :362-363) -/
theorem oddfac_two_tables (tn : ℕ) (h1 : 1 ≤ tn) (h : tn ≤ ODD_DOUBLEFACTORIAL_TABLE_LIMIT + 1) :
    odd2facTab ((tn - 1) / 2) * oddfacTab (tn / 2) = oddPart (tn !) := by
  obtain ⟨c1, c2, c3, c4, c5⟩ := oddfac_consts
  rw [oddPart_factorial_rec, odd2fac_entry _ (by omega), oddfac_entry _ (by omega)]
  unfold oddDF
  congr 2; omega

/-- the outer do-while of the basecase, oddfac_1.c:350-359 -/
theorem oddfacBase_val : ∀ fuel M tn st, ODD_DOUBLEFACTORIAL_TABLE_LIMIT + 2 ≤ tn → M * tn < B → tn < 2 ^ fuel →
    (oddfacBase fuel M tn st).2 ≤ ODD_DOUBLEFACTORIAL_TABLE_LIMIT + 1 ∧ 1 ≤ (oddfacBase fuel M tn st).2 ∧
    flVal (oddfacBase fuel M tn st).1 * oddPart ((oddfacBase fuel M tn st).2 !) = flVal st * oddPart (tn !) := by
  intro fuel
  induction fuel with
  | zero => intro M tn st h1 _ h3; simp at h3; omega
  | succ fuel ih =>
    intro M tn st h1 hM hf
    obtain ⟨c1, c2, c3, c4, c5⟩ := oddfac_consts
    rw [oddfacBase]
    have hlevel : flVal (oddStore M tn tn (ODD_DOUBLEFACTORIAL_TABLE_LIMIT + 2) (ODD_DOUBLEFACTORIAL_TABLE_MAX :: st.1, st.2))
        = flVal st * oddDF tn :=
      oddStore_val M tn (flVal st) hM tn _ _ (by omega) h1 (by omega)
        (by simp only [flVal, prodList, c2, Nat.add_sub_cancel]; ring)
    have hrec := oddPart_factorial_rec tn
    have h2M : M * 2 < B := lt_of_le_of_lt (Nat.mul_le_mul_left _ (by omega)) hM
    have hM2 : M * 2 % B * (tn / 2) < B := by
      rw [Nat.mod_eq_of_lt h2M]
      calc M * 2 * (tn / 2) = M * (2 * (tn / 2)) := by ring
        _ ≤ M * tn := Nat.mul_le_mul_left _ (by omega)
        _ < B := hM
    by_cases hc : tn / 2 > ODD_DOUBLEFACTORIAL_TABLE_LIMIT + 1
    · simp only [hc, if_true]
      have hlt : tn / 2 < 2 ^ fuel := by rw [pow_succ] at hf; omega
      obtain ⟨r1, r2, r3⟩ := ih (M * 2 % B) (tn / 2) _ (by omega) hM2 hlt
      refine ⟨r1, r2, ?_⟩
      rw [r3, hlevel, hrec]; ring
    · simp only [hc, if_false]
      refine ⟨by omega, by omega, ?_⟩
      rw [hlevel, hrec]; ring

theorem dsc_consts : FAC_DSC_THRESHOLD ≠ 0 ∧ 2 * (ODD_DOUBLEFACTORIAL_TABLE_LIMIT + 2) ≤ FAC_DSC_THRESHOLD ∧
    ODD_FACTORIAL_TABLE_LIMIT ≤ ODD_DOUBLEFACTORIAL_TABLE_LIMIT + 1 := by decide

theorem dscSteps_zero (n : ℕ) (h : n < FAC_DSC_THRESHOLD) : dscSteps 64 n 0 = (n, 0) := by
  rw [dscSteps]; simp [aboveThreshold_eq_false.2 ⟨dsc_consts.1, h⟩]

/-- oddfac_1.c:346-364 -/
theorem oddfac_basecase (tn : ℕ) (h1 : ODD_DOUBLEFACTORIAL_TABLE_LIMIT + 2 ≤ tn) (h2 : tn < FAC_DSC_THRESHOLD) (hf : tn < 2 ^ 64) :
    prodList (oddfacTab ((oddfacBase 64 ((B - 1) / FAC_DSC_THRESHOLD) tn ([], 1)).2 / 2) ::
      odd2facTab (((oddfacBase 64 ((B - 1) / FAC_DSC_THRESHOLD) tn ([], 1)).2 - 1) / 2) ::
      (oddfacBase 64 ((B - 1) / FAC_DSC_THRESHOLD) tn ([], 1)).1.2 :: (oddfacBase 64 ((B - 1) / FAC_DSC_THRESHOLD) tn ([], 1)).1.1)
    = oddPart (tn !) := by
  obtain ⟨r1, r2, r3⟩ := oddfacBase_val 64 ((B - 1) / FAC_DSC_THRESHOLD) tn ([], 1) h1 (limb_div_mul_lt (le_of_lt h2)) hf
  generalize oddfacBase 64 ((B - 1) / FAC_DSC_THRESHOLD) tn ([], 1) = res at r1 r2 r3 ⊢
  obtain ⟨st, t⟩ := res
  simp only at r1 r2 r3 ⊢
  rw [show flVal (([] : List ℕ), 1) = 1 from rfl, one_mul] at r3
  rw [← r3, ← oddfac_two_tables t r2 r1]
  simp only [prodList, flVal]; ring


theorem mpz_oddfac_1_below_dsc (n flag : ℕ) (hn : n < B) (h : n < FAC_DSC_THRESHOLD) :
    mpz_oddfac_1 n flag = oddPart (n !) := by
  unfold mpz_oddfac_1
  by_cases h1 : n ≤ ODD_FACTORIAL_TABLE_LIMIT
  · simp only [h1, if_true]; exact oddfac_entry n h1
  · simp only [h1, if_false]
    by_cases h2 : n ≤ ODD_DOUBLEFACTORIAL_TABLE_LIMIT + 1
    · simp only [h2, if_true]; exact oddfac_two_tables n (by omega) h2
    · simp only [h2, if_false, dscSteps_zero n h, ne_eq, not_true_eq_false, if_false]
      exact oddfac_basecase n (by omega) h (by rw [B_eq] at hn; norm_num; omega)

theorem aboveThreshold_dsc (m : ℕ) : aboveThreshold m FAC_DSC_THRESHOLD = true ↔ FAC_DSC_THRESHOLD ≤ m :=
  aboveThreshold_iff dsc_consts.1

/-- oddfac_1.c:333-334: s halvings bring n below the threshold, not fewer -/
theorem dscSteps_spec : ∀ fuel tn s, tn < 2 ^ fuel →
    ∃ d, dscSteps fuel tn s = (tn / 2 ^ d, s + d) ∧ tn / 2 ^ d < FAC_DSC_THRESHOLD ∧
      ∀ e < d, FAC_DSC_THRESHOLD ≤ tn / 2 ^ e := by
  intro fuel
  induction fuel with
  | zero =>
    intro tn s h
    have h0 : tn = 0 := by simpa using h
    have := dsc_consts.1
    exact ⟨0, by simp [dscSteps], by simp [h0]; omega, by intro e he; omega⟩
  | succ fuel ih =>
    intro tn s h
    rw [dscSteps]
    by_cases ha : aboveThreshold tn FAC_DSC_THRESHOLD = true
    · simp only [ha, if_true]
      have hlt : tn / 2 < 2 ^ fuel := by rw [pow_succ] at h; omega
      obtain ⟨d, h1, h2, h3⟩ := ih (tn / 2) (s + 1) hlt
      refine ⟨d + 1, ?_, ?_, ?_⟩
      · rw [h1, pow_succ, Nat.div_div_eq_div_mul, mul_comm]; congr 1; omega
      · rw [pow_succ, mul_comm, ← Nat.div_div_eq_div_mul]; exact h2
      · intro e he
        rcases e with _ | e
        · simpa using (aboveThreshold_dsc tn).1 ha
        · have := h3 e (by omega)
          rw [pow_succ, mul_comm, ← Nat.div_div_eq_div_mul]; exact this
    · simp only [ha]
      refine ⟨0, by simp, ?_, by intro e he; omega⟩
      have := (aboveThreshold_dsc tn).not.1 ha
      simpa using this

/-- the passes s, …, 1 of oddfac_1.c:401-431; the last pass, the only one that may skip its square, is left to the caller -/
theorem dscLoop_upper (n : ℕ) (skip : Option ℕ) (hskip : ∀ j, skip = some j → j = 0) : ∀ s x, x = oddPart ((n >>> (s + 1))!) →
    (∀ j, 1 ≤ j → j ≤ s → mpz_2multiswing_1 (n >>> j) * oddPart (((n >>> j) / 2)!) ^ 2 = oddPart ((n >>> j)!)) →
    dscLoop n skip (s + 1) x = dscStep n skip 0 (oddPart ((n >>> 1)!)) := by
  intro s
  induction s with
  | zero => intro x hx _; rw [hx]; unfold dscLoop; rw [iterDown, iterDown]
  | succ s ih =>
    intro x hx hsw
    have hstep : dscLoop n skip (s + 1 + 1) x = dscLoop n skip (s + 1) (dscStep n skip (s + 1) x) := by
      unfold dscLoop; rw [iterDown]
    rw [hstep]
    apply ih
    · unfold dscStep
      rw [if_neg (fun h => by have := hskip _ h; omega)]
      have := hsw (s + 1) (by omega) le_rfl
      rw [← Nat.shiftRight_succ, ← hx] at this
      rw [← this]; ring
    · intro j h1 h2; exact hsw j h1 (by omega)


/-- the sieve-based swing factor is right for the arguments up to n that the divide-swing-conquer loop uses -/
def SwingOK (n : ℕ) : Prop :=
  ∀ m, FAC_DSC_THRESHOLD ≤ m → m ≤ n → mpz_2multiswing_1 m * oddPart ((m / 2)!) ^ 2 = oddPart (m !)

theorem SwingOK.mono {m n : ℕ} (h : m ≤ n) (hs : SwingOK n) : SwingOK m := fun x h1 h2 => hs x h1 (le_trans h2 h)

theorem mpz_oddfac_1_above (n flag : ℕ) (hn : n < B) (ha : FAC_DSC_THRESHOLD ≤ n) (hflag : flag ≤ 1) (hsw : SwingOK n) :
    mpz_oddfac_1 n flag = dscStep n (if flag = 0 then none else some (flag - 1)) 0 (oddPart ((n / 2)!)) := by
  obtain ⟨d1, d2, d3⟩ := dsc_consts
  unfold mpz_oddfac_1
  rw [if_neg (by omega), if_neg (by omega)]
  have hf : n < 2 ^ 64 := by rw [B_eq] at hn; norm_num; omega
  obtain ⟨d, e1, e2, e3⟩ := dscSteps_spec 64 n 0 hf
  rw [e1]
  simp only [Nat.zero_add]
  obtain ⟨s, rfl⟩ : ∃ s, d = s + 1 := by
    rcases d with _ | s
    · simp at e2; omega
    · exact ⟨s, rfl⟩
  have htn : ODD_DOUBLEFACTORIAL_TABLE_LIMIT + 2 ≤ n / 2 ^ (s + 1) := by
    have := e3 s (by omega)
    rw [pow_succ, ← Nat.div_div_eq_div_mul]; omega
  have hskip : ∀ j, (if flag = 0 then none else some (flag - 1)) = some j → j = 0 := by
    intro j hj
    split_ifs at hj
    cases hj; omega
  rw [if_pos (Nat.succ_ne_zero s), oddfac_basecase (n / 2 ^ (s + 1)) htn e2 (lt_of_le_of_lt (Nat.div_le_self _ _) hf),
    ← Nat.shiftRight_one]
  exact dscLoop_upper n _ hskip s _ (by rw [Nat.shiftRight_eq_div_pow])
    (fun j h1 h2 => by rw [Nat.shiftRight_eq_div_pow]; exact hsw _ (e3 j (by omega)) (Nat.div_le_self _ _))


theorem mpz_oddfac_1_of_swing (n : ℕ) (hn : n < B) (hsw : SwingOK n) :
    mpz_oddfac_1 n 0 = oddPart (n !) := by
  by_cases hb : n < FAC_DSC_THRESHOLD
  · exact mpz_oddfac_1_below_dsc n 0 hn hb
  · have ha : FAC_DSC_THRESHOLD ≤ n := by omega
    rw [mpz_oddfac_1_above n 0 hn ha (Nat.zero_le 1) hsw]
    unfold dscStep
    simp only [if_true, reduceCtorEq, if_false, Nat.shiftRight_zero]
    rw [← hsw n ha le_rfl]; ring

theorem popc_fuel : ∀ f n, n < 2 ^ f → popc (f + 1) n = popc f n := by
  intro f
  induction f with
  | zero => intro n h; have : n = 0 := by simpa using h
            subst this; simp [popc]
  | succ f ih =>
    intro n h
    rw [popc]; conv_rhs => rw [popc]
    by_cases h0 : n = 0
    · simp [h0]
    · simp only [h0, if_false]
      rw [ih (n / 2) (by rw [pow_succ] at h; omega)]

theorem popcount_two_mul (k : ℕ) (hk : 2 * k < B) : popcount (2 * k) = popcount k := by
  unfold popcount
  rcases Nat.eq_zero_or_pos k with rfl | hpos
  · rfl
  · have e1 : popc 64 (2 * k) = if 2 * k = 0 then 0 else 2 * k % 2 + popc 63 (2 * k / 2) := rfl
    have h0 : 2 * k ≠ 0 := by omega
    rw [e1]
    simp only [h0, if_false]
    rw [show 2 * k % 2 = 0 by omega, show 2 * k / 2 = k by omega, Nat.zero_add]
    exact (popc_fuel 63 k (by rw [B_eq] at hk; norm_num; omega)).symm

/-- the even case of mpz_2fac_ui: (2k)!! = k! 2^k (2fac_ui.c:61-72) -/
theorem two_fac_even (k : ℕ) (hk : 2 * k < B) (hodd : mpz_oddfac_1 k 0 = oddPart (k !)) :
    mpz_2fac_ui (2 * k) = (2 * k)‼ := by
  unfold mpz_2fac_ui
  have e0 : 2 * k % 2 = 0 := by omega
  have hkB : k < B := by omega
  have hcount : (if 2 * k ≤ TABLE_LIMIT_2N_MINUS_POPC_2N ∧ 2 * k ≠ 0 then fac2cntTab (2 * k / 2 - 1) else 2 * k - popcount (2 * k))
      = 2 * k - popcount (2 * k) := by
    split_ifs with hc
    · exact fac2cnt_entry (2 * k) hc.1 (by omega)
    · rfl
  simp only [e0, if_true]
  rw [hcount, show 2 * k / 2 = k by omega, hodd, Nat.doubleFactorial_two_mul, popcount_two_mul k hk]
  have hp : popcount k ≤ k := popc_le 64 k
  conv_rhs => rw [factorial_two_adic k hkB]
  rw [show 2 * k - popcount k = k + (k - popcount k) by omega, pow_add]; ring

/-- 2fac_ui.c:90-91: the factors n-2, n-4, ... above ODD_DOUBLEFACTORIAL_TABLE_LIMIT -/
theorem fac2StoreDown_val (M : ℕ) : ∀ fuel n st, n ≤ 2 * fuel + ODD_DOUBLEFACTORIAL_TABLE_LIMIT + 2 → n % 2 = 1 →
    ODD_DOUBLEFACTORIAL_TABLE_LIMIT + 2 ≤ n → M * n < B →
    flVal (fac2StoreDown M fuel n st) * (ODD_DOUBLEFACTORIAL_TABLE_LIMIT)‼ = flVal st * (n - 2)‼ := by
  have hLodd := oddfac_consts.1
  intro fuel
  induction fuel with
  | zero =>
    intro n st h1 _ h3 _
    have : n - 2 = ODD_DOUBLEFACTORIAL_TABLE_LIMIT := by omega
    rw [this]; rfl
  | succ fuel ih =>
    intro n st h1 hodd h3 hM
    rw [fac2StoreDown]
    by_cases hc : n - 2 > ODD_DOUBLEFACTORIAL_TABLE_LIMIT
    · rw [if_pos hc, ih (n - 2) _ (by omega) (by omega) (by omega) (lt_of_le_of_lt (Nat.mul_le_mul_left _ (Nat.sub_le n 2)) hM),
        flStore_val_of_le st (Nat.sub_le n 2) hM, mul_assoc, mul_doubleFactorial_sub_two (by omega)]
    · rw [if_neg hc, show n - 2 = ODD_DOUBLEFACTORIAL_TABLE_LIMIT by omega]

theorem oddDF_of_odd (n : ℕ) (h : n % 2 = 1) : oddDF n = n‼ := by
  unfold oddDF; congr 1; omega

theorem FAC_2DSC_ge : 2 * FAC_DSC_THRESHOLD ≤ FAC_2DSC_THRESHOLD := by decide


theorem two_fac_odd (n : ℕ) (hn : n < B) (hodd : n % 2 = 1) (hsw : FAC_2DSC_THRESHOLD ≤ n → SwingOK n) :
    mpz_2fac_ui n = n‼ := by
  obtain ⟨c1, c2, c3, c4, c5⟩ := oddfac_consts
  obtain ⟨d1, d2, d3⟩ := dsc_consts
  unfold mpz_2fac_ui
  have e0 : ¬ n % 2 = 0 := by omega
  simp only [e0, if_false]
  by_cases h1 : n ≤ ODD_DOUBLEFACTORIAL_TABLE_LIMIT
  · simp only [h1, if_true]
    rw [odd2fac_entry _ (by omega)]; congr 1; omega
  · simp only [h1, if_false]
    have h2dsc := FAC_2DSC_ge
    by_cases h2 : aboveThreshold n FAC_2DSC_THRESHOLD = true
    · simp only [h2, Bool.not_true, Bool.false_eq_true, if_false]
      -- mpz_oddfac_1 (x, n, 1)
      have h2' : FAC_2DSC_THRESHOLD ≤ n := (aboveThreshold_iff (by omega)).1 h2
      have ha : FAC_DSC_THRESHOLD ≤ n := by omega
      have hsw := hsw h2'
      -- with flag = 1 the last pass does not square: odd part of (n/2)! times the swing factor of n
      rw [mpz_oddfac_1_above n 1 hn ha le_rfl hsw]
      unfold dscStep
      simp only [one_ne_zero, if_false, Nat.sub_self, if_true, Nat.shiftRight_zero]
      have hs := hsw n ha le_rfl
      have hrec := oddPart_factorial_rec n
      rw [oddDF_of_odd n hodd] at hrec
      have hpos : 0 < oddPart ((n / 2)!) := by
        have := (oddPart_spec ((n / 2)!) (Nat.factorial_ne_zero _)).1; omega
      have : oddPart ((n / 2)!) * mpz_2multiswing_1 n * oddPart ((n / 2)!) = n‼ * oddPart ((n / 2)!) := by
        rw [← hrec, ← hs]; ring
      exact Nat.eq_of_mul_eq_mul_right hpos this
    · simp only [h2, Bool.not_false, if_true]
      have hM : (B - 1) / FAC_2DSC_THRESHOLD * n < B :=
        limb_div_mul_lt (le_of_lt (aboveThreshold_eq_false.1 (Bool.eq_false_iff.2 h2)).2)
      have hv := fac2StoreDown_val ((B - 1) / FAC_2DSC_THRESHOLD) n n ([ODD_DOUBLEFACTORIAL_TABLE_MAX], n)
        (by omega) hodd (by omega) hM
      have e1 : flVal ([ODD_DOUBLEFACTORIAL_TABLE_MAX], n) = n * (ODD_DOUBLEFACTORIAL_TABLE_LIMIT)‼ := by
        simp only [flVal, prodList, c2]; ring
      rw [e1] at hv
      exact Nat.eq_of_mul_eq_mul_right (Nat.doubleFactorial_pos ODD_DOUBLEFACTORIAL_TABLE_LIMIT)
        (hv.trans (by rw [← mul_doubleFactorial_sub_two (show 1 ≤ n by omega)]; ring))

theorem mpz_2fac_ui_eq (n : ℕ) (hn : n < B) (hsw : SwingOK n) : mpz_2fac_ui n = n‼ := by
  rcases Nat.even_or_odd' n with ⟨k, rfl | rfl⟩
  · exact two_fac_even k hn (mpz_oddfac_1_of_swing k (by omega) (hsw.mono (by omega)))
  · exact two_fac_odd (2 * k + 1) hn (by omega) (fun _ => hsw)

end Mpir.Numth
