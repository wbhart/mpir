/- The LOOP_ON_SIEVE macro reading a real bit array (Mpir.Sieve.sieveLoop) does what the walk over the array's
   meaning does (Mpir.Numth.sieveWalk); hence the array-reading models of mpz_2multiswing_1,
   mpz_goetgheluck_bin_uiui and mpz_primorial_ui equal the models of Mpir/Model/Numth.lean. -/
import MpirProofs.Lemmas.Goet
import MpirProofs.Lemmas.Primorial
import MpirProofs.Lemmas.SieveTop
namespace Mpir.Sieve
open Mpir Mpir.Numth

/-- the array says "prime" exactly where trial division does, on the bits lo … hi -/
def ExactOn (sieve : Array ℕ) (lo hi : ℕ) : Prop := ∀ j, lo ≤ j → j ≤ hi → sieveBit sieve j = !isPrimeTD (bit_to_n j)

theorem sieveLoop_eq_walk (sieve : Array ℕ) (stop : ℕ) (body : ℕ → FL → FL) :
    ∀ fuel b st, ExactOn sieve b (max b stop) → (if stop < b then 1 else stop - b + 1) ≤ fuel →
      sieveLoop sieve stop body fuel (2 ^ (b % 64)) (b / 64) b st =
        sieveWalk body (if stop < b then 1 else stop - b + 1) b st := by
  intro fuel
  induction fuel with
  | zero => intro b st _ h; split at h <;> omega
  | succ f ih =>
    intro b st hex hf
    have hb : sieveBit sieve b = !isPrimeTD (bit_to_n b) := hex b (Nat.le_refl _) (Nat.le_max_left _ _)
    simp only [sieveLoop, clearAt_eq, hb, Bool.not_not, mask_step, index_step, ← bit_to_n_eq_id]
    by_cases hmore : b + 1 ≤ stop
    · have h1 : ¬ stop < b := by omega
      have h2 : ¬ stop < b + 1 := by omega
      simp only [hmore, if_true, h1, if_false]
      rw [ih (b + 1) _ (fun j hj1 hj2 => hex j (by omega) (by rw [Nat.max_def] at hj2 ⊢; split at hj2 <;> split <;> omega))
        (by simp only [h2, if_false]; simp only [h1, if_false] at hf; omega)]
      simp only [h2, if_false]
      rw [show stop - b + 1 = (stop - (b + 1) + 1) + 1 by omega]
      simp only [sieveWalk]
    · simp only [hmore, if_false]
      have : (if stop < b then 1 else stop - b + 1) = 1 := by split <;> omega
      rw [this]
      simp only [sieveWalk]

theorem loopOnSieveArr_eq (sieve : Array ℕ) (start stop : ℕ) (body : ℕ → FL → FL) (st : FL)
    (hex : ExactOn sieve start (max start stop)) :
    loopOnSieveArr sieve start stop body st = loopOnSieve start stop body st := by
  unfold loopOnSieveArr loopOnSieve
  rw [Nat.one_shiftLeft]
  exact sieveLoop_eq_walk sieve stop body _ start st hex (by split <;> omega)

theorem exactOn_mono {sieve : Array ℕ} {w lo hi : ℕ} (h : ExactOn sieve 0 w) (hhi : hi ≤ w) : ExactOn sieve lo hi :=
  fun j _ hj => h j (Nat.zero_le _) (Nat.le_trans hj hhi)

theorem loopOnSieveArr_of_exact {sieve : Array ℕ} {w start stop : ℕ} (hex : ExactOn sieve 0 w) (hs : start ≤ w)
    (ht : stop ≤ w) (body : ℕ → FL → FL) (st : FL) :
    loopOnSieveArr sieve start stop body st = loopOnSieve start stop body st :=
  loopOnSieveArr_eq sieve start stop body st (exactOn_mono hex (Nat.max_le.2 ⟨hs, ht⟩))

theorem n_to_bit_le {x n : ℕ} (h5 : 5 ≤ x) (hx : x ≤ n) (hn : n < B) : n_to_bit x ≤ nb n := by
  rw [n_to_bit_eq_nb x h5 (Nat.lt_of_le_of_lt hx hn)]; exact nb_mono hx

theorem nb_lt {m n : ℕ} (h5 : 5 ≤ m) (h : m + 4 ≤ n) : nb m < nb n := by
  rw [nb_eq, nb_eq]; omega

/-- limb_apprsqrt n lies in the sieve of n, and the bit after it in the sieve of n/3 (oddfac_1.c:233 ASSERT) -/
theorem apprsqrt_bit (n : ℕ) (h25 : 25 ≤ n) (hn : n < B) :
    n_to_bit (limb_apprsqrt n) ≤ nb n ∧ n_to_bit (limb_apprsqrt n) + 1 ≤ nb (n / 3) := by
  obtain ⟨hr1, hr2⟩ := apprsqrt_bounds n h25
  have hrange := swing_ranges n h25
  generalize limb_apprsqrt n = r at *
  -- 5 ≤ r ≤ n from n ≤ r² < 9n/4
  have h5 : ¬ r ≤ 4 := fun h => by
    have : r * r ≤ 4 * 4 := Nat.mul_le_mul h h
    omega
  have hrn : r ≤ n := by
    have : 5 * r ≤ r * r := Nat.mul_le_mul_right r (by omega)
    omega
  rw [n_to_bit_eq_nb r (by omega) (by omega)]
  exact ⟨nb_mono hrn, hrange⟩

theorem multiswingArr_eq (sieve : Array ℕ) (n0 : ℕ) (h26 : 26 ≤ n0) (hB : n0 < B)
    (hex : ExactOn sieve 0 (nb (n0 - n0 % 2))) : multiswingArr sieve n0 = mpz_2multiswing_1 n0 := by
  unfold multiswingArr mpz_2multiswing_1
  simp only []
  obtain ⟨h26', hnB⟩ : 26 ≤ n0 - n0 % 2 ∧ n0 - n0 % 2 < B := by omega
  generalize n0 - n0 % 2 = n at *
  obtain ⟨h3, h2, h2'⟩ : 5 ≤ n / 3 ∧ 5 ≤ n / 2 ∧ n / 2 + 4 ≤ n := by omega
  obtain ⟨b2, b3⟩ := apprsqrt_bit n (by omega) hnB
  have b5 : n_to_bit (n / 2) + 1 ≤ nb n := by
    rw [n_to_bit_eq_nb _ h2 (Nat.lt_of_le_of_lt (Nat.div_le_self n 2) hnB)]; exact nb_lt h2 h2'
  rw [loopOnSieveArr_of_exact hex (by rw [n_to_bit_five]; exact Nat.zero_le _) b2,
    loopOnSieveArr_of_exact hex (Nat.le_trans b3 (nb_mono (Nat.div_le_self n 3))) (n_to_bit_le h3 (Nat.div_le_self n 3) hnB),
    loopOnSieveArr_of_exact hex b5 (n_to_bit_le (by omega) (Nat.le_refl n) hnB)]

theorem goetgheluckArr_eq (sieve : Array ℕ) (n k : ℕ) (h25 : 25 ≤ n) (hnB : n < B) (hk : 2 * k ≤ n)
    (hlast : nb (n - k) < nb n) (hex : ExactOn sieve 0 (nb n)) : goetgheluckArr sieve n k = goetgheluck_bin_uiui n k := by
  unfold goetgheluckArr goetgheluck_bin_uiui
  simp only []
  obtain ⟨h2, hk5⟩ : 5 ≤ n / 2 ∧ 5 ≤ n - k := by omega
  obtain ⟨b2, b3⟩ := apprsqrt_bit n h25 hnB
  rw [loopOnSieveArr_of_exact hex (by rw [n_to_bit_five]; exact Nat.zero_le _) b2,
    loopOnSieveArr_of_exact hex (Nat.le_trans b3 (nb_mono (Nat.div_le_self n 3))) (n_to_bit_le h2 (Nat.div_le_self n 2) hnB),
    loopOnSieveArr_of_exact hex (by rw [n_to_bit_eq_nb _ hk5 (Nat.lt_of_le_of_lt (Nat.sub_le n k) hnB)]; exact hlast)
      (n_to_bit_le (by omega) (Nat.le_refl n) hnB)]

theorem primorialArr_eq (sieve : Array ℕ) (n : ℕ) (h5 : 5 ≤ n) (hnB : n < B) (hex : ExactOn sieve 0 (nb n)) :
    primorialArr sieve n = mpz_primorial_ui n := by
  have hlen : Mpir.Gen.NumthTabs.primorialTable.length = 5 := by decide
  unfold primorialArr mpz_primorial_ui
  simp only [hlen, show ¬ n < 5 by omega, if_false]
  rw [loopOnSieveArr_of_exact hex (by rw [n_to_bit_five]; exact Nat.zero_le _) (n_to_bit_le h5 (Nat.le_refl n) hnB)]
  rfl

theorem eq_not_of_iff : ∀ {x y : Bool}, (x = true ↔ ¬ y = true) → x = !y := by decide

theorem gmp_primesieve_exactOn (n : ℕ) (h4 : 4 < n) (hn : n < B) :
    ∃ a c, gmp_primesieve n = some (a, c) ∧ ExactOn a 0 (nb n) := by
  obtain ⟨a, e, _, _, hb, _⟩ := gmp_primesieve_struct n h4 hn
  refine ⟨a, _, e, fun j _ hj => ?_⟩
  exact eq_not_of_iff (by rw [isPrimeTD_iff]; exact hb j hj)

end Mpir.Sieve
