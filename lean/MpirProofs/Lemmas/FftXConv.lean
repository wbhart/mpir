/- For the convolution chains of the FFT multipliers (Mpir/Model/FftX.lean): Cauchy products, the acyclic convolution,
   the bridge to ZMod (2^wn + 1), canonical residues and the pointwise product through mpn_mulmod_2expp1_basecase. -/
import MpirProofs.Lemmas.FftX
import MpirProofs.Lemmas.FftRingMulmodK
import Mathlib.Data.ZMod.Basic
import Mathlib.Algebra.BigOperators.Ring.Finset
import Mathlib.Algebra.Order.BigOperators.Group.Finset
namespace Mpir.FftX
open Mpir Finset

/-! ### Cauchy product of two finitely supported sequences, truncated at N ≥ j1 + j2 − 1 -/

theorem cauchy_range {R : Type} [CommSemiring R] (a b : Nat → R) (y : R) (N j1 j2 : Nat)
    (ha : ∀ i, j1 ≤ i → a i = 0) (hb : ∀ k, j2 ≤ k → b k = 0) (hN : j1 + j2 ≤ N + 1) :
    ∑ j ∈ range N, (∑ i ∈ range (j + 1), a i * b (j - i)) * y ^ j =
      (∑ i ∈ range N, a i * y ^ i) * (∑ k ∈ range N, b k * y ^ k) := by
  have e1 : ∀ j ∈ range N, (∑ i ∈ range (j + 1), a i * b (j - i)) * y ^ j =
      ∑ i ∈ range (j + 1), (a i * y ^ i) * (b (j - i) * y ^ (j - i)) := by
    intro j _
    rw [sum_mul]
    apply sum_congr rfl; intro i hi
    have : i ≤ j := by have := mem_range.mp hi; omega
    have e : y ^ j = y ^ i * y ^ (j - i) := by rw [← pow_add]; congr 1; omega
    rw [e]; ring
  rw [sum_congr rfl e1, sum_range_diag_flip N (fun i k => (a i * y ^ i) * (b k * y ^ k)), sum_mul]
  apply sum_congr rfl; intro i hi
  rw [mul_sum]
  by_cases h : i < j1
  · apply sum_subset (range_subset_range.mpr (Nat.sub_le N i))
    intro k _ hk
    have : N - i ≤ k := by simpa using hk
    rw [hb k (by omega)]; ring
  · rw [ha i (by omega)]; simp

noncomputable def conv (a b : List Int) (N : Nat) : List Int :=
  (List.range N).map fun j => ∑ i ∈ range (j + 1), el a i * el b (j - i)

theorem el_conv (a b : List Int) (N j : Nat) (hj : j < N) :
    el (conv a b N) j = ∑ i ∈ range (j + 1), el a i * el b (j - i) := el_range_map _ _ _ hj

theorem conv_zero (a b : List Int) (N j1 j2 j : Nat) (ha : ∀ i, j1 ≤ i → el a i = 0) (hb : ∀ k, j2 ≤ k → el b k = 0)
    (hj : j1 + j2 ≤ j + 1) : el (conv a b N) j = 0 := by
  by_cases h : j < N
  · rw [el_conv _ _ _ _ h]
    apply sum_eq_zero; intro i hi
    by_cases h1 : j1 ≤ i
    · rw [ha i h1]; ring
    · have := mem_range.mp hi
      rw [hb (j - i) (by omega)]; ring
  · exact el_range_map_ge _ _ _ (by omega)

/-- every entry is bounded by (number of overlapping terms)·M² -/
theorem conv_bound (a b : List Int) (N j1 j2 j : Nat) (M : Int) (hM : 0 ≤ M)
    (ha : ∀ i, j1 ≤ i → el a i = 0) (hb : ∀ k, j2 ≤ k → el b k = 0)
    (ha1 : ∀ i, 0 ≤ el a i ∧ el a i ≤ M) (hb1 : ∀ k, 0 ≤ el b k ∧ el b k ≤ M) (hj : j < N) :
    0 ≤ el (conv a b N) j ∧ el (conv a b N) j ≤ (j1 : Int) * (M * M) ∧ el (conv a b N) j ≤ (j2 : Int) * (M * M) := by
  rw [el_conv _ _ _ _ hj]
  have hterm : ∀ i k, 0 ≤ el a i * el b k ∧ el a i * el b k ≤ M * M := fun i k =>
    ⟨mul_nonneg (ha1 i).1 (hb1 k).1, mul_le_mul (ha1 i).2 (hb1 k).2 (hb1 k).1 hM⟩
  refine ⟨sum_nonneg fun i _ => (hterm _ _).1, ?_, ?_⟩
  · -- only i < j1 contribute
    calc ∑ i ∈ range (j + 1), el a i * el b (j - i)
        = ∑ i ∈ range (j + 1), if i < j1 then el a i * el b (j - i) else 0 := by
          apply sum_congr rfl; intro i _
          split_ifs with h
          · rfl
          · rw [ha i (by omega)]; ring
      _ = ∑ i ∈ (range (j + 1)).filter (· < j1), el a i * el b (j - i) := by rw [sum_filter]
      _ ≤ ∑ i ∈ (range (j + 1)).filter (· < j1), M * M := sum_le_sum fun i _ => (hterm _ _).2
      _ = ((range (j + 1)).filter (· < j1)).card * (M * M) := by rw [sum_const, nsmul_eq_mul]
      _ ≤ (j1 : Int) * (M * M) := by
          apply mul_le_mul_of_nonneg_right _ (mul_nonneg hM hM)
          have : ((range (j + 1)).filter (· < j1)).card ≤ (range j1).card := by
            apply card_le_card; intro i hi
            simp only [mem_filter, mem_range] at hi ⊢; exact hi.2
          rw [card_range] at this; exact_mod_cast this
  · -- only j − i < j2 contribute
    calc ∑ i ∈ range (j + 1), el a i * el b (j - i)
        = ∑ i ∈ range (j + 1), if j - i < j2 then el a i * el b (j - i) else 0 := by
          apply sum_congr rfl; intro i _
          split_ifs with h
          · rfl
          · rw [hb (j - i) (by omega)]; ring
      _ = ∑ i ∈ (range (j + 1)).filter (fun i => j - i < j2), el a i * el b (j - i) := by rw [sum_filter]
      _ ≤ ∑ i ∈ (range (j + 1)).filter (fun i => j - i < j2), M * M := sum_le_sum fun i _ => (hterm _ _).2
      _ = ((range (j + 1)).filter (fun i => j - i < j2)).card * (M * M) := by rw [sum_const, nsmul_eq_mul]
      _ ≤ (j2 : Int) * (M * M) := by
          apply mul_le_mul_of_nonneg_right _ (mul_nonneg hM hM)
          have : ((range (j + 1)).filter (fun i => j - i < j2)).card ≤ (range j2).card := by
            apply card_le_card_of_injOn (fun i => j - i)
            · intro i hi
              simp only [coe_filter, mem_range, Set.mem_ofPred_eq] at hi
              simp only [coe_range, Set.mem_Iio]; exact hi.2
            · intro i hi i' hi' h
              simp only [coe_filter, mem_range, Set.mem_ofPred_eq] at hi hi'
              simp only at h; omega
          rw [card_range] at this; exact_mod_cast this

/-! ### the bridge to ZMod (2^wn + 1) -/

theorem zmod_two_pow (nw : Nat) : (Int.castRingHom (ZMod (2 ^ nw + 1))) 2 ^ nw = -1 := by
  have h : ((2 ^ nw + 1 : Nat) : ZMod (2 ^ nw + 1)) = 0 := ZMod.natCast_self _
  push_cast at h
  simp only [eq_intCast, Int.cast_ofNat]
  exact eq_neg_of_add_eq_zero_left h

theorem zmod_two_pow_of {n nw : Nat} (h : n = nw) : (Int.castRingHom (ZMod (2 ^ nw + 1))) 2 ^ n = -1 := by
  subst h; exact zmod_two_pow n

theorem zmod_two_pow_sq (nw : Nat) : (Int.castRingHom (ZMod (2 ^ nw + 1))) 2 ^ (2 * nw) = 1 := by
  rw [pow_mul' _ 2 nw, zmod_two_pow]; norm_num

/-- the division by 2^e that ends every convolution chain (mpn_div_2expmod_2expp1 by e bits) -/
theorem zmod_unscale (nw e : Nat) (he : e ≤ 2 * nw) (X : ZMod (2 ^ nw + 1)) : 2 ^ e * X * 2 ^ (2 * nw - e) = X := by
  have h2 : (2 : ZMod (2 ^ nw + 1)) ^ (2 * nw) = 1 := by simpa using zmod_two_pow_sq nw
  linear_combination X * pow_mul_pow_sub_eq_one _ (2 * nw) e h2 he

theorem zmod_eq_iff (nw : Nat) (a b : Int) :
    (Int.castRingHom (ZMod (2 ^ nw + 1))) a = (Int.castRingHom (ZMod (2 ^ nw + 1))) b ↔ a ≡ b [ZMOD pOf nw] := by
  simp only [eq_intCast]
  rw [ZMod.intCast_eq_intCast_iff]
  unfold pOf; push_cast; rfl

theorem Recovers.modEq {nw t N e : Nat} {F I : List Int → List Int}
    (h : Recovers (Int.castRingHom (ZMod (2 ^ nw + 1))) t N 1 (1 * 2 ^ e) F I) (xs ys : List Int)
    (h1 : ∀ k < t, el ys k ≡ el (F xs) k [ZMOD pOf nw])
    (h2 : ∀ j, t ≤ j → j < N → el ys j ≡ 2 ^ e * el xs j [ZMOD pOf nw]) (j : Nat) (hj : j < t) :
    el (I ys) j ≡ 2 ^ e * el xs j [ZMOD pOf nw] := by
  apply (zmod_eq_iff _ _ _).mp
  rw [h.one xs ys (fun k hk => (zmod_eq_iff _ _ _).mpr (h1 k hk))
    (fun j a b => by rw [(zmod_eq_iff _ _ _).mpr (h2 j a b)]; simp) j hj]
  simp

theorem Recovers0.modEq {nw t N e : Nat} {F I : List Int → List Int}
    (h : Recovers0 (Int.castRingHom (ZMod (2 ^ nw + 1))) t N 1 (1 * 2 ^ e) F I) (xs ys : List Int)
    (h1 : ∀ k < t, el ys k ≡ el (F xs) k [ZMOD pOf nw])
    (h0 : ∀ j, t ≤ j → j < N → el xs j ≡ 0 [ZMOD pOf nw]) (j : Nat) (hj : j < t) :
    el (I ys) j ≡ 2 ^ e * el xs j [ZMOD pOf nw] := by
  apply (zmod_eq_iff _ _ _).mp
  rw [h.one xs ys (fun k hk => (zmod_eq_iff _ _ _).mpr (h1 k hk))
    (fun j a b => by rw [(zmod_eq_iff _ _ _).mpr (h0 j a b)]; simp) j hj]
  simp

theorem pOf_pos (nw : Nat) : 0 < pOf nw := by unfold pOf; positivity

theorem eq_of_modEq_range (nw : Nat) (a b : Int) (h : a ≡ b [ZMOD pOf nw]) (ha : 0 ≤ a) (ha' : a < pOf nw)
    (hb : 0 ≤ b) (hb' : b < pOf nw) : a = b := by
  have := h; unfold Int.ModEq at this
  rwa [Int.emod_eq_of_lt ha ha', Int.emod_eq_of_lt hb hb'] at this

/-! ### canonical residues (what mpn_normmod_2expp1 leaves) -/

theorem pOf_eq (L : Nat) : pOf (64 * L) = (B : Int) ^ L + 1 := by
  unfold pOf; rw [Fft.B_pow_two]

/-- mpn_normmod_2expp1 leaves the residue r = v mod p in the low limbs with top limb 0, or (0, …, 0, 1) for r = 2^(64·L) -/
theorem canon_cases (L : Nat) (v : Int) :
    ∃ lo t, canon L v = lo ++ [t] ∧ lo.length = L ∧ Limbs lo ∧ val lo < 2 ^ (64 * L) ∧
      ((t = 0 ∧ (val lo : Int) = v % pOf (64 * L)) ∨ (t = 1 ∧ val lo = 0 ∧ v % pOf (64 * L) = 2 ^ (64 * L))) := by
  have hP := pOf_pos (64 * L)
  have h1 : v % pOf (64 * L) < 2 ^ (64 * L) + 1 := Int.emod_lt_of_pos _ hP
  have hr : ((v % pOf (64 * L)).toNat : Int) = v % pOf (64 * L) :=
    Int.toNat_of_nonneg (Int.emod_nonneg _ (ne_of_gt hP))
  unfold canon
  simp only []
  split_ifs with h
  · refine ⟨List.replicate L 0, 1, rfl, by simp, Limbs_replicate_zero L, ?_, Or.inr ⟨rfl, val_replicate_zero L, ?_⟩⟩
    · rw [val_replicate_zero]; positivity
    · rw [← hr, h]; push_cast; rfl
  · have hlt : (v % pOf (64 * L)).toNat < 2 ^ (64 * L) := by
      have : (v % pOf (64 * L)).toNat < 2 ^ (64 * L) + 1 := by exact_mod_cast hr ▸ h1
      omega
    have e1 := val_toLimbs L (v % pOf (64 * L)).toNat
    have e2 := toLimbs_length L (v % pOf (64 * L)).toNat
    have e3 := Limbs_toLimbs L (v % pOf (64 * L)).toNat
    rw [B_pow, Nat.mod_eq_of_lt hlt] at e1
    exact ⟨_, 0, rfl, e2, e3, by rw [e1]; exact hlt, Or.inl ⟨rfl, by rw [e1, hr]⟩⟩

/-- the pointwise product of mul_trunc_sqrt2.c:96-103 is the product modulo p, fully reduced -/
theorem pointwise_spec (L : Nat) (hL : 1 ≤ L) (a b : Int) :
    pointwise L (64 * L) a b ≡ a * b [ZMOD pOf (64 * L)] := by
  have flag : ∀ (lo : List Nat) (t : Nat) (v : Int),
      ((t = 0 ∧ (val lo : Int) = v % pOf (64 * L)) ∨ (t = 1 ∧ val lo = 0 ∧ v % pOf (64 * L) = 2 ^ (64 * L))) →
      t ≤ 1 ∧ Fft.flaggedb t (64 * L) lo = v % pOf (64 * L) := by
    rintro lo t v (⟨rfl, h⟩ | ⟨rfl, _, h⟩)
    · exact ⟨by norm_num, by rw [Fft.flaggedb, if_neg (by norm_num), h]⟩
    · exact ⟨le_rfl, by rw [Fft.flaggedb, if_pos rfl, h]⟩
  obtain ⟨lx, tx, ex, lxl, lxL, lxv, cx⟩ := canon_cases L a
  obtain ⟨ly, ty, ey, lyl, lyL, lyv, cy⟩ := canon_cases L b
  obtain ⟨htx, fx⟩ := flag lx tx a cx
  obtain ⟨hty, fy⟩ := flag ly ty b cy
  unfold pointwise
  simp only [ex, ey, Fft.top_snoc, Fft.lo_snoc]
  have hlen : (64 * L + 63) / 64 = L := by omega
  obtain ⟨_, _, _, _, h5⟩ := Fft.basecase_spec lx ly (2 * tx + ty) (64 * L) (by omega) lxL lyL
    (by rw [hlen]; exact lxl) (by rw [hlen]; exact lyl) lxv lyv
  rw [show (2 * tx + ty) / 2 % 2 = tx by omega, show (2 * tx + ty) % 2 = ty by omega, fx, fy] at h5
  exact h5.trans (Int.ModEq.mul (Int.mod_modEq _ _) (Int.mod_modEq _ _))

theorem canon_norm (L : Nat) (v : Int) :
    (canon L v).length = L + 1 ∧ Limbs (canon L v) ∧
    (Fft.top (canon L v) = 0 ∨ (Fft.top (canon L v) = 1 ∧ val (Fft.lo (canon L v)) = 0)) ∧
    Fft.rval (canon L v) = v % pOf (64 * L) := by
  have hB1 : (1 : Nat) < B := by unfold B; norm_num
  obtain ⟨lo, t, e, ll, lL, _, c⟩ := canon_cases L v
  rw [e, Fft.rval_snoc, Fft.top_snoc, Fft.lo_snoc, ll]
  rcases c with ⟨rfl, h⟩ | ⟨rfl, h0, h⟩
  · exact ⟨by simp [ll], Limbs_snoc.mpr ⟨lL, by omega⟩, Or.inl rfl, by rw [Fft.sint_zero, h]; ring⟩
  · exact ⟨by simp [ll], Limbs_snoc.mpr ⟨lL, hB1⟩, Or.inr ⟨rfl, h0⟩,
      by rw [Fft.sint_one, h0, h, Fft.B_pow_two]; push_cast; ring⟩

theorem canon_of_small (L : Nat) (v c : Int) (h : v ≡ c [ZMOD pOf (64 * L)]) (hc0 : 0 ≤ c) (hc1 : c < 2 ^ (64 * L)) :
    (canon L v).length = L + 1 ∧ Limbs (canon L v) ∧ val (canon L v) < B ^ L ∧ (val (canon L v) : Int) = c := by
  obtain ⟨lo, t, e, ll, lL, lv, cs⟩ := canon_cases L v
  have hvm : v % pOf (64 * L) = c := by
    rw [h, Int.emod_eq_of_lt hc0 (by unfold pOf; omega)]
  rw [hvm] at cs
  rcases cs with ⟨rfl, h0⟩ | ⟨_, _, h1⟩
  · rw [e, val_snoc, Nat.mul_zero, Nat.add_zero, B_pow]
    exact ⟨by simp [ll], Limbs_snoc.mpr ⟨lL, B_pos⟩, lv, h0⟩
  · omega

end Mpir.FftX
