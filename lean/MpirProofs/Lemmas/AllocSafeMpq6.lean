/-
  For Props/C04_allocsafe6.lean (mpq arithmetic): what each mpz callee guarantees (`Wrote`, `_sameBlock`), the steps of a run of
  callees (`RanH.call` …), and the part mul.c and div.c share (`crossMul`).  `AllocSafe6.Wrote s s' w z` here sums up a whole CALL
  (z left in w, nothing else touched); `AllocSafe.Wrote s1 s2 w R` is the invariant INSIDE one function, from store to store.
-/
import MpirProofs.Lemmas.AllocSafeMulC
import MpirProofs.Lemmas.Bits
import Mpir.Model.AllocSafeMpq6
import Mpir.Model.Mpq
namespace Mpir.AllocSafe6
open Mpir Mpir.AllocSafe

/-- what a single-destination callee guarantees (`Safe` with the value as an integer) -/
structure Wrote (s s' : St) (w : Nat) (z : Int) : Prop where
  ok : s'.ok = true
  owf : OWF (s'.h w)
  frame : ∀ x, x ≠ w → s'.h x = s.h x
  val : valOf s' w = z

theorem objWrite_wrote (s : St) (w req : Nat) (z : Int) (hs : s.ok = true) (hw : OWF (s.h w))
    (hreq : (natLimbs z.natAbs).length ≤ max req (s.h w).buf.alloc) :
    Wrote s (objWrite s w req z) w z := by
  have G := MPZ_REALLOC_grown s w req hw
  obtain ⟨hv, hl, hn⟩ := Bits.natLimbs_spec z.natAbs
  set s1 := MPZ_REALLOC s w req with hs1
  set l := natLimbs z.natAbs with hl'
  have hroom : l.length ≤ (s1.h w).buf.alloc := by
    have := G.room; have := G.mono w; omega
  have hb1 : BWF (s1.h w).buf := G.bwf w hw.1
  have hlimbs : ((s1.wr (s1.PTR w) l).h w).buf.limbs = l ++ (s1.h w).buf.limbs.drop l.length := by
    have := wr_limbs s1 (s1.PTR w) l (by simpa [St.PTR] using hroom)
    simpa [St.PTR] using this
  set sz : Int := if z < 0 then -(l.length : Int) else l.length with hsz
  have hszabs : sz.natAbs = l.length := by rw [hsz]; split <;> simp
  have hobj : objWrite s w req z = (s1.wr (s1.PTR w) l).setSize w sz := rfl
  have hview : view ((objWrite s w req z).h w) = ⟨(s1.h w).buf.alloc, sz, l⟩ := by
    rw [hobj]
    simp only [view, setSize_size, setSize_buf, hlimbs, wr_alloc, hszabs]
    rw [List.take_append_of_le_length (Nat.le_refl _), List.take_length]
  have h1 : 1 ≤ (s1.h w).buf.alloc := by
    have := G.mono w; have := hw.alloc_pos; omega
  refine ⟨?_, ⟨?_, ?_⟩, ?_, ?_⟩
  · rw [hobj, setSize_ok, wr_ok]
    have hlv : s1.live (s1.PTR w) = true := by simp [St.live, St.PTR]
    rw [hlv, G.ok, hs]
    simpa [St.PTR] using hroom
  · rw [hobj]; simp only [setSize_buf]; exact wr_BWF _ _ hl _ hb1
  · rw [hview]
    exact ⟨h1, by simpa [hszabs] using hroom, hszabs.symm, hl, hn⟩
  · intro x hx
    rw [hobj, setSize_other _ _ _ hx, wr_other _ _ _ (by simpa [St.PTR] using hx)]
    exact G.other x hx
  · unfold valOf; rw [hview]
    unfold Mpz.toInt
    simp only [hv]
    by_cases hz : z < 0
    · have hne : l.length ≠ 0 := by
        intro h; have := (Mpir.natLimbs_length_eq_zero _).mp h; omega
      have : sz < 0 := by rw [hsz, if_pos hz]; omega
      rw [if_pos this]; omega
    · have : ¬ sz < 0 := by rw [hsz, if_neg hz]; omega
      rw [if_neg this]; omega

theorem objWrite_sameBlock (s : St) (w req : Nat) (z : Int) (h : req ≤ s.ALLOC w) : SameBlock s (objWrite s w req z) w := by
  simp [SameBlock, objWrite, MPZ_REALLOC_noop s w req h]

/-- mpz_gcd at object level: the request is exactly the size of the result -/
theorem mpz_gcd_wrote (s : St) (g u v : Nat) (hs : s.ok = true) (hg : OWF (s.h g)) :
    Wrote s (mpz_gcd s g u v) g (Int.gcd (valOf s u) (valOf s v) : Nat) := by
  unfold mpz_gcd
  exact objWrite_wrote s g _ _ hs hg (by omega)

theorem natAbs_valOf (s : St) (x : Nat) : (valOf s x).natAbs = val (view (s.h x)).d := toInt_natAbs _

/-- |SIZ| of a well-formed variable is the limb count of the magnitude it holds: every size fact below is `natLimbs_isSize` -/
theorem absiz_eq (s : St) (x : Nat) (h : OWF (s.h x)) : (s.h x).size.natAbs = (natLimbs (valOf s x).natAbs).length := by
  rw [natAbs_valOf, natLimbs_isSize.of_normalized (view_limbs h) h.normalized]; exact (view_d_length h).symm

theorem valOf_lt (s : St) (x : Nat) (h : OWF (s.h x)) : (valOf s x).natAbs < B ^ (s.h x).size.natAbs := by
  rw [absiz_eq s x h]; exact natLimbs_isSize.lt_pow _

theorem valOf_size_zero (s : St) (x : Nat) (h : (s.h x).size = 0) : valOf s x = 0 := by
  unfold valOf Mpz.toInt view; simp [h]

theorem setSize_zero_wrote (s : St) (q : Nat) (hs : s.ok = true) (hq : OWF (s.h q)) : Wrote s (s.setSize q 0) q 0 := by
  refine ⟨by simpa using hs, ⟨by simpa using hq.1, ?_⟩, fun x hx => setSize_other _ _ _ hx, ?_⟩
  · have := hq.alloc_pos
    refine ⟨by simpa [view] using this, by simp [view], by simp [view], ?_, by simp [view]⟩
    simp [view]; intro x hx; simp at hx
  · apply valOf_size_zero; simp

/-- mpz_divexact_gcd at object level: the sizes requested (`ABSIZ (a)` for a one-limb divisor, `ABSIZ (a) - ABSIZ (d) + 1` from
    mpz_divexact otherwise) have room for the quotient -/
theorem mpz_divexact_gcd_wrote (s : St) (q a d : Nat) (hs : s.ok = true) (hq : OWF (s.h q)) (ha : OWF (s.h a))
    (hd : OWF (s.h d)) (hpos : 0 < valOf s d) (hdvd : valOf s d ∣ valOf s a) :
    Wrote s (mpz_divexact_gcd s q a d) q (valOf s a / valOf s d) := by
  unfold mpz_divexact_gcd
  by_cases h0 : (s.h a).size = 0
  · simp only [St.SIZ, h0, beq_self_eq_true, if_true]
    rw [valOf_size_zero s a h0, Int.zero_ediv]
    exact setSize_zero_wrote s q hs hq
  · have hb : (s.SIZ a == 0) = false := by simpa [St.SIZ] using h0
    simp only [hb, Bool.false_eq_true, if_false]
    suffices hfit : (natLimbs (valOf s a / valOf s d).natAbs).length ≤
        (if (s.SIZ d == 1) = true then s.ABSIZ a else s.ABSIZ a - s.ABSIZ d + 1) from
      objWrite_wrote s q _ _ hs hq (Nat.le_trans hfit (Nat.le_max_left _ _))
    obtain ⟨c, hc⟩ := hdvd
    have hz : valOf s a / valOf s d = c := by rw [hc]; exact Int.mul_ediv_cancel_left _ (by omega)
    rw [hz]
    -- |a| = |d| · |c|: the limb counts of the factors add up to at most that of the product plus one (`IsSize.mul_ge`)
    have hA : (valOf s a).natAbs = (valOf s d).natAbs * c.natAbs := by rw [hc, Int.natAbs_mul]
    have hD : (valOf s d).natAbs ≠ 0 := by omega
    have hna := absiz_eq s a ha
    have hnd := absiz_eq s d hd
    rw [hA] at hna
    by_cases hZ : c.natAbs = 0
    · rw [hZ, natLimbs_isSize.eq_zero.mpr rfl]; exact Nat.zero_le _
    · have hmul := natLimbs_isSize.mul_ge hD hZ
      have hmono := natLimbs_isSize.mono (Nat.le_mul_of_pos_left c.natAbs (Nat.pos_of_ne_zero hD))
      simp only [St.ABSIZ, hna, hnd]
      split <;> omega

/-- mpz_divexact_gcd never asks for more than ABSIZ (a) limbs: a block that long is kept -/
theorem mpz_divexact_gcd_sameBlock (s : St) (q a d : Nat) (hd0 : (s.h d).size ≠ 0) (hroom : s.ABSIZ a ≤ s.ALLOC q) :
    SameBlock s (mpz_divexact_gcd s q a d) q := by
  unfold mpz_divexact_gcd
  by_cases h0 : (s.SIZ a == 0) = true
  · rw [if_pos h0]; simp [SameBlock]
  · rw [if_neg h0]
    have h0' : (s.h a).size ≠ 0 := by simpa [St.SIZ] using h0
    apply objWrite_sameBlock
    split <;> simp only [St.ABSIZ] at hroom ⊢ <;> omega

theorem Wrote.of_safe {s s' : St} {w : Nat} {m : Mpz.Mpz} {z : Int} (h : Safe s s' w m ∧ valOf s' w = z) : Wrote s s' w z :=
  ⟨h.1.1, h.1.2.1, h.1.2.2.1, h.2⟩

theorem mpz_mul_wrote (s : St) (w u v : Nat) (hs : s.ok = true) (hw : OWF (s.h w)) (hu : OWF (s.h u)) (hv : OWF (s.h v)) :
    Wrote s (mpz_mul s w u v) w (valOf s u * valOf s v) :=
  -- 17: the MUL_KARATSUBA_THRESHOLD the model's `mpz_mul` fixes (Mpir/Model/AllocSafeMpz4.lean); `mul_safe` holds for every threshold
  .of_safe (mul_safe 17 s w u v hs hw hu hv)

theorem mpz_set_wrote (s : St) (w u : Nat) (hs : s.ok = true) (hw : OWF (s.h w)) (hu : OWF (s.h u)) :
    Wrote s (mpz_set s w u) w (valOf s u) :=
  .of_safe (set_safe s w u hs hw hu)

theorem zaors_wrote (isSub : Bool) (s : St) (w u v : Nat) (hs : s.ok = true) (hw : OWF (s.h w)) (hu : OWF (s.h u)) (hv : OWF (s.h v)) :
    Wrote s (zaors isSub s w u v) w (if isSub then valOf s u - valOf s v else valOf s u + valOf s v) := by
  cases isSub
  · exact .of_safe (add_safe s w u v hs hw hu hv)
  · exact .of_safe (sub_safe s w u v hs hw hu hv)

@[simp] theorem mpzInit_ok (s : St) (x : Nat) : (mpzInit s x).ok = s.ok := rfl
theorem mpzInit_same (s : St) (x : Nat) : (mpzInit s x).h x = ⟨0, 0, Buf.new 1⟩ := by simp [mpzInit, upd]
theorem mpzInit_other (s : St) (x : Nat) {y : Nat} (h : y ≠ x) : (mpzInit s x).h y = s.h y := by simp [mpzInit, upd, h]
theorem mpzInit_owf (s : St) (x y : Nat) (h : OWF (s.h y)) : OWF ((mpzInit s x).h y) := by
  by_cases e : y = x
  · subst e; rw [mpzInit_same]; exact tmp_owf 1 (Nat.le_refl 1)
  · rw [mpzInit_other s x e]; exact h

theorem valOf_ne_zero (s : St) (x : Nat) (h : OWF (s.h x)) (hne : (s.h x).size ≠ 0) : valOf s x ≠ 0 := by
  intro e; apply hne
  have := absiz_eq s x h
  rw [e] at this
  exact Int.natAbs_eq_zero.mp (this.trans (natLimbs_isSize.eq_zero.mpr rfl))

theorem size_neg_iff (s : St) (x : Nat) (h : OWF (s.h x)) : (s.h x).size < 0 ↔ valOf s x < 0 := by
  constructor
  · intro hn
    have hne : (s.h x).size ≠ 0 := by omega
    have h0 := valOf_ne_zero s x h hne
    have : valOf s x = -(val (view (s.h x)).d : Int) := by
      unfold valOf Mpz.toInt; rw [if_pos (by simpa [view] using hn)]
    omega
  · intro hv
    by_contra hn
    have : valOf s x = (val (view (s.h x)).d : Int) := by
      unfold valOf Mpz.toInt; rw [if_neg (by simpa [view] using hn)]
    omega

/-- `SIZ (x) = -SIZ (x)` (div.c:67-68): still well formed, value negated, nothing else touched -/
theorem setSize_neg (s : St) (x : Nat) (h : OWF (s.h x)) :
    OWF ((s.setSize x (-(s.h x).size)).h x) ∧ valOf (s.setSize x (-(s.h x).size)) x = -valOf s x := by
  obtain ⟨hb, h1, h2, h3, h4, h5⟩ := h
  have hv : view ((s.setSize x (-(s.h x).size)).h x) = ⟨(view (s.h x)).alloc, -(s.h x).size, (view (s.h x)).d⟩ := by
    simp [view, St.setSize, upd]
  refine ⟨⟨by simpa using hb, ?_⟩, ?_⟩
  · rw [hv]
    exact ⟨h1, by simpa [view] using h2, by simpa [view] using h3, h4, h5⟩
  · unfold valOf; rw [hv]; unfold Mpz.toInt
    simp only [view] at h3 ⊢
    have hz : (s.h x).size = 0 → val (List.take (s.h x).size.natAbs (s.h x).buf.limbs) = 0 := by
      intro h0
      have : (List.take (s.h x).size.natAbs (s.h x).buf.limbs) = [] := by
        apply List.eq_nil_of_length_eq_zero; rw [h3, h0]; rfl
      rw [this]; simp [val]
    split_ifs <;> omega

/-! ## TMP variables: blocks that must not be reallocated -/

theorem mulTail_sameBlock (s : St) (w : Nat) (up vp : Src) (usize vsize : Nat) (same neg : Bool) (x : Nat) :
    SameBlock s (mulTail s w up vp usize vsize same neg) x := by
  unfold mulTail SameBlock
  split <;> simp [mpn_mul_S, St.load]

theorem mulGeneric_sameBlock (s : St) (w u v usize vsize : Nat) (neg : Bool) (h : usize + vsize ≤ s.ALLOC w) (x : Nat) :
    SameBlock s (mulGeneric true s w u v usize vsize neg) x := by
  unfold mulGeneric
  simp only []
  rw [if_neg (by omega)]
  split
  · exact SameBlock.trans (by simp [SameBlock, tmp_copy]) (mulTail_sameBlock ..)
  · split
    · exact SameBlock.trans (by simp [SameBlock, tmp_copy]) (mulTail_sameBlock ..)
    · exact mulTail_sameBlock ..

theorem mpz_mul_sameBlock (s : St) (w u v : Nat) (h : (s.SIZ u).natAbs + (s.SIZ v).natAbs ≤ s.ALLOC w) (x : Nat) :
    SameBlock s (mpz_mul s w u v) x := by
  unfold mpz_mul mul
  simp only []
  split
  · simp [SameBlock]
  · split
    · rename_i h1
      have h1' : (s.SIZ v).natAbs = 1 := by simpa using h1
      rw [MPZ_REALLOC_noop _ _ _ (by omega)]
      simp [SameBlock, mpn_mul_1, St.load, St.store]
    · split
      · rw [MPZ_REALLOC_noop _ _ _ (by omega)]
        unfold SameBlock
        split <;> simp [mpn_mul, St.load]
      · split
        · exact mulGeneric_sameBlock _ _ _ _ _ _ _ (by omega) x
        · exact mulGeneric_sameBlock _ _ _ _ _ _ _ (by omega) x

theorem tmpKept_eq (s : St) (x : Nat) (h : (s.h x).gen = 0) : tmpKept s x = s := by
  unfold tmpKept; rw [h]; exact chk_true s

@[simp] theorem tmpInit_ok (s : St) (x n : Nat) : (tmpInit s x n).ok = s.ok := rfl
theorem tmpInit_same (s : St) (x n : Nat) : (tmpInit s x n).h x = ⟨0, 0, Buf.new n⟩ := by simp [tmpInit, upd]
theorem tmpInit_other (s : St) (x n : Nat) {y : Nat} (h : y ≠ x) : (tmpInit s x n).h y = s.h y := by simp [tmpInit, upd, h]

theorem mpz_gcd_sameBlock (s : St) (g u v : Nat) (h : (natLimbs (Int.gcd (valOf s u) (valOf s v))).length ≤ s.ALLOC g) :
    SameBlock s (mpz_gcd s g u v) g :=
  objWrite_sameBlock s g _ _ (by simpa using h)

/-! ### `mpz_cmp_ui (gcd, 1)`, and the sizes the TMP requests and the callees' needs are measured in -/

theorem size_eq_one (s : St) (z : Nat) (hz : OWF (s.h z)) (h1 : valOf s z = 1) : (s.h z).size = 1 := by
  have hnn : ¬ (s.h z).size < 0 := by rw [size_neg_iff s z hz, h1]; omega
  have := absiz_eq s z hz
  rw [h1, natLimbs_isSize.eq_one.mpr ⟨by decide, by unfold B; decide⟩] at this
  omega

/-- `MPZ_EQUAL_1_P` decides "the value is 1" and its load is inside the block -/
theorem equal1_spec (s : St) (z : Nat) (hz : OWF (s.h z)) : equal1 s z = (decide (valOf s z = 1), s) := by
  unfold equal1
  by_cases hsz : (s.h z).size = 1
  · obtain ⟨hb, ha, hfit, hlen, hl, hn⟩ := hz
    simp only [view, hsz] at hlen ha
    have hna : Int.natAbs 1 = 1 := rfl
    rw [hna] at hlen
    match hm : (s.h z).buf.limbs.take 1, hlen with
    | [a], _ =>
      have hv : valOf s z = a := by
        unfold valOf Mpz.toInt view; simp [hsz, hm, val]
      simp only [St.SIZ, hsz, beq_self_eq_true, if_true, St.load, Ptr.add, St.PTR]
      have e1 : s.rd ⟨z, (s.h z).gen, 0 + 0⟩ 1 = [a] := by simp [St.rd, Buf.read, hm]
      have e2 : s.rdOk ⟨z, (s.h z).gen, 0 + 0⟩ 1 = true := by
        simp [St.rdOk, Buf.read, St.live]; simpa using ha
      rw [e1, e2, chk_true, hv]; simp [beq_eq_decide]
  · have : ((s.SIZ z) == 1) = false := by simpa [St.SIZ] using hsz
    have hd : decide (valOf s z = 1) = false := by
      simpa using fun h1 => hsz (size_eq_one s z hz h1)
    rw [this, hd]; simp

theorem size_toNat (s : St) (x : Nat) (h : OWF (s.h x)) (hp : 0 < valOf s x) : (s.SIZ x).toNat = (s.h x).size.natAbs ∧ 1 ≤ (s.h x).size.natAbs := by
  have hnn : ¬ (s.h x).size < 0 := by rw [size_neg_iff s x h]; omega
  have hne : (s.h x).size ≠ 0 := by intro e; have := valOf_size_zero s x e; omega
  simp only [St.SIZ]; omega


theorem aorsCore_gen (s : St) (w u v : Nat) (usize vsize : Int) (h : usize.natAbs + 1 ≤ s.ALLOC w) (x : Nat) :
    ((aorsCore false 1 s w u v usize vsize).h x).gen = (s.h x).gen := by
  unfold aorsCore
  simp only []
  rw [MPZ_REALLOC_noop _ _ _ h]
  simp only [Bool.false_eq_true, if_false]
  split
  · split
    · simp [mpn_sub, MPN_NORMALIZE]
    · by_cases hc : cmp (s.rd (s.PTR u) usize.natAbs) (s.rd (s.PTR v) usize.natAbs) < 0 <;>
        simp [hc, mpn_cmp, mpn_sub_n, MPN_NORMALIZE]
  · simp [mpn_add, St.store]

theorem zaors_gen_keep (isSub : Bool) (s : St) (w u v : Nat)
    (h : max (s.SIZ u).natAbs (s.SIZ v).natAbs + 1 ≤ s.ALLOC w) (x : Nat) :
    ((zaors isSub s w u v).h x).gen = (s.h x).gen := by
  have hn : ∀ z : Int, (-z).natAbs = z.natAbs := Int.natAbs_neg
  unfold zaors
  cases isSub
  · simp only [Bool.false_eq_true, if_false, mpz_add, aors]
    split
    · exact aorsCore_gen _ _ _ _ _ _ (by omega) x
    · exact aorsCore_gen _ _ _ _ _ _ (by omega) x
  · simp only [if_true, mpz_sub, aors]
    split
    · exact aorsCore_gen _ _ _ _ _ _ (by rw [hn]; omega) x
    · exact aorsCore_gen _ _ _ _ _ _ (by omega) x

theorem absiz_le (s : St) (x : Nat) (h : OWF (s.h x)) (k : Nat) (hk : (valOf s x).natAbs < B ^ k) : (s.h x).size.natAbs ≤ k := by
  rw [absiz_eq s x h]; exact (natLimbs_isSize _ _).mpr hk

theorem zgcd_pos (a : Int) {b : Int} (hb : b ≠ 0) : 0 < Mpq.zgcd a b := by
  show (0 : Int) < ((Int.gcd a b : Nat) : Int)
  exact_mod_cast Int.gcd_pos_of_ne_zero_right _ hb

theorem gcd_len_le (a b : Int) (k : Nat) (hb : 0 < b) (hk : b.natAbs < B ^ k) : (natLimbs (Int.gcd a b)).length ≤ k := by
  apply Mpir.natLimbs_length_le
  have : Int.gcd a b ≤ b.natAbs := Nat.le_of_dvd (by omega) (Int.gcd_dvd_natAbs_right a b)
  omega


theorem size_ne_zero_of_pos (s : St) (x : Nat) (h : 0 < valOf s x) : (s.h x).size ≠ 0 := by
  intro e; have := valOf_size_zero s x e; omega


/-! ## the callee facts one at a time, under the names the C04 check registers (the runs use the `_sameBlock` lemmas whole) -/

theorem mpz_add_wrote (s : St) (w u v : Nat) (hs : s.ok = true) (hw : OWF (s.h w)) (hu : OWF (s.h u)) (hv : OWF (s.h v)) :
    Wrote s (mpz_add s w u v) w (valOf s u + valOf s v) :=
  zaors_wrote false s w u v hs hw hu hv

theorem mpz_sub_wrote (s : St) (w u v : Nat) (hs : s.ok = true) (hw : OWF (s.h w)) (hu : OWF (s.h u)) (hv : OWF (s.h v)) :
    Wrote s (mpz_sub s w u v) w (valOf s u - valOf s v) :=
  zaors_wrote true s w u v hs hw hu hv

theorem mpz_divexact_gcd_wrote' (s : St) (q a d : Nat) (hs : s.ok = true) (hq : OWF (s.h q)) (ha : OWF (s.h a))
    (hd : OWF (s.h d)) (hpos : 0 < valOf s d) (hdvd : valOf s d ∣ valOf s a) :
    Wrote s (mpz_divexact_gcd s q a d) q (valOf s a / valOf s d) ∧
    (s.ABSIZ a ≤ s.ALLOC q → ((mpz_divexact_gcd s q a d).h q).gen = (s.h q).gen) :=
  ⟨mpz_divexact_gcd_wrote s q a d hs hq ha hd hpos hdvd,
    fun hroom => (mpz_divexact_gcd_sameBlock s q a d (size_ne_zero_of_pos s d hpos) hroom).1⟩

theorem mpz_divexact_gcd_alloc_keep (s : St) (q a d : Nat) (hd0 : (s.h d).size ≠ 0) (hroom : s.ABSIZ a ≤ s.ALLOC q) :
    ((mpz_divexact_gcd s q a d).h q).buf.alloc = (s.h q).buf.alloc :=
  (mpz_divexact_gcd_sameBlock s q a d hd0 hroom).2

theorem mpz_mul_gen_keep (s : St) (w u v : Nat) (h : (s.SIZ u).natAbs + (s.SIZ v).natAbs ≤ s.ALLOC w) (x : Nat) :
    ((mpz_mul s w u v).h x).gen = (s.h x).gen :=
  (mpz_mul_sameBlock s w u v h x).1

theorem mpz_mul_alloc_keep (s : St) (w u v : Nat) (h : (s.SIZ u).natAbs + (s.SIZ v).natAbs ≤ s.ALLOC w) (x : Nat) :
    ((mpz_mul s w u v).h x).buf.alloc = (s.h x).buf.alloc :=
  (mpz_mul_sameBlock s w u v h x).2

theorem mpz_gcd_gen_keep (s : St) (g u v : Nat) (hs : s.ok = true) (hg : OWF (s.h g))
    (h : (natLimbs (Int.gcd (valOf s u) (valOf s v))).length ≤ s.ALLOC g) :
    ((mpz_gcd s g u v).h g).gen = (s.h g).gen :=
  (mpz_gcd_sameBlock s g u v h).1

theorem mpz_gcd_alloc_keep (s : St) (g u v : Nat)
    (h : (natLimbs (Int.gcd (valOf s u) (valOf s v))).length ≤ s.ALLOC g) :
    ((mpz_gcd s g u v).h g).buf.alloc = (s.h g).buf.alloc :=
  (mpz_gcd_sameBlock s g u v h).2

theorem equal1_one (s : St) (z : Nat) (hz : OWF (s.h z)) (h1 : valOf s z = 1) : equal1 s z = (true, s) := by
  rw [equal1_spec s z hz, h1]; rfl

theorem top_ne_zero (o : Obj) (h : OWF o) (h0 : o.size ≠ 0) : o.buf.limbs.getD (o.size.natAbs - 1) junk ≠ 0 := by
  obtain ⟨hb, _, hfit, hlen, _, hn⟩ := h
  simp only [view] at hlen hn hfit
  have hpos : 0 < o.size.natAbs := by omega
  have hne : o.buf.limbs.take o.size.natAbs ≠ [] := by
    intro e; rw [e] at hlen; simp at hlen; omega
  rw [List.getLast?_eq_some_getLast hne] at hn
  have : (o.buf.limbs.take o.size.natAbs).getLast hne = o.buf.limbs.getD (o.size.natAbs - 1) junk := by
    rw [List.getLast_eq_getElem]
    simp only [hlen, List.getElem_take]
    rw [List.getD_eq_getElem?_getD, List.getElem?_eq_getElem (by rw [hb.1]; omega)]; rfl
  intro e; apply hn; rw [this, e]

/-! ## the scratch ids (`Fresh`), the ledger's rules for one call (`RanH.call`, `call_gen`, `call_tmp`), then the entries the mpq functions share -/

/-- the scratch ids `scr` (the C's local `mpz_t`s) are distinct from each other and from the operands `ops` -/
def Fresh (scr ops : List Nat) : Prop := scr.Nodup ∧ ∀ x ∈ scr, x ∉ ops

theorem Fresh.ne {scr ops : List Nat} (h : Fresh scr ops) {x y : Nat} (hx : x ∈ scr) (hy : y ∈ ops) : x ≠ y :=
  fun e => h.2 x hx (e ▸ hy)

theorem Fresh.not_mem {scr ops : List Nat} (h : Fresh scr ops) {y : Nat} (hy : y ∈ ops) : y ∉ scr :=
  fun hx => h.2 y hx hy

theorem Fresh.ops_subset {scr ops ops' : List Nat} (h : Fresh scr ops) (hsub : ops' ⊆ ops) : Fresh scr ops' :=
  ⟨h.1, fun x hx hy => h.2 x hx (hsub hy)⟩

theorem Fresh.append_left {a b ops : List Nat} (h : Fresh (a ++ b) ops) : Fresh a ops :=
  ⟨(List.nodup_append.mp h.1).1, fun x hx => h.2 x (List.mem_append_left _ hx)⟩

theorem Fresh.snoc_ops {a ops : List Nat} {n : Nat} (h : Fresh (a ++ [n]) ops) : Fresh a (n :: ops) := by
  refine ⟨(List.nodup_append.mp h.1).1, fun x hx hy => ?_⟩
  rcases List.mem_cons.mp hy with e | hy
  · exact (List.nodup_append.mp h.1).2.2 x hx n (List.mem_singleton_self n) e
  · exact h.2 x (List.mem_append_left _ hx) hy

/-- every disequality a freshness hypothesis holds, in both orientations, grouped by operand: on concrete lists it unfolds
    (`List.pairwise_cons`, `List.mem_cons`) into the small `simp` sets that decide the tests of `over` -/
theorem Fresh.sep {scr ops : List Nat} (h : Fresh scr ops) :
    scr.Pairwise (fun a b => a ≠ b ∧ b ≠ a) ∧ ∀ y ∈ ops, ∀ x ∈ scr, y ≠ x ∧ x ≠ y :=
  ⟨h.1.imp fun hab => ⟨hab, Ne.symm hab⟩, fun _ hy _ hx => ⟨(h.ne hx hy).symm, h.ne hx hy⟩⟩

section
open Mpir.AllocSafe (RanH over)
variable {s s1 s2 : St} {ws : List (Nat × Obj)}

theorem _root_.Mpir.AllocSafe.RanH.val (R : RanH s s1 ws) (x : Nat) : valOf s1 x = Mpz.toInt (view (over s.h ws x)) := by
  rw [valOf, R.heap]

theorem _root_.Mpir.AllocSafe.RanH.call {w : Nat} {z : Int} (R : RanH s s1 ws) (W : Wrote s1 s2 w z) :
    ∃ o, OWF o ∧ Mpz.toInt (view o) = z ∧ RanH s s2 ((w, o) :: ws) :=
  ⟨s2.h w, W.owf, W.val, R.step W.ok W.owf W.frame⟩

/-- a callee that kept the block's generation: TMP space was not handed to the reallocation function -/
theorem _root_.Mpir.AllocSafe.RanH.call_gen {w : Nat} {z : Int} (R : RanH s s1 ws) (W : Wrote s1 s2 w z)
    (K : (s2.h w).gen = (s1.h w).gen) :
    ∃ o, OWF o ∧ Mpz.toInt (view o) = z ∧ o.gen = (s1.h w).gen ∧ RanH s s2 ((w, o) :: ws) :=
  ⟨s2.h w, W.owf, W.val, K, R.step W.ok W.owf W.frame⟩

/-- a callee that found room (its `_sameBlock` lemma) in a variable in TMP space: the object is in the block of the one it
    replaces, still generation 0, so the check after the call passes -/
theorem _root_.Mpir.AllocSafe.RanH.call_tmp {w : Nat} {z : Int} (R : RanH s s1 ws) (W : Wrote s1 s2 w z)
    (K : SameBlock s1 s2 w) (h0 : (s1.h w).gen = 0) :
    ∃ o, OWF o ∧ Mpz.toInt (view o) = z ∧ o.gen = 0 ∧ o.buf.alloc = (s1.h w).buf.alloc ∧
      RanH s s2 ((w, o) :: ws) ∧ AllocSafe6.tmpKept s2 w = s2 :=
  ⟨s2.h w, W.owf, W.val, K.1.trans h0, K.2, R.step W.ok W.owf W.frame, tmpKept_eq _ _ (K.1.trans h0)⟩

theorem _root_.Mpir.AllocSafe.RanH.tmpInit (R : RanH s s1 ws) (x : Nat) {n : Nat} (hn : 1 ≤ n) :
    RanH s (AllocSafe6.tmpInit s1 x n) ((x, ⟨0, 0, Buf.new n⟩) :: ws) := by
  have h := R.step (s2 := AllocSafe6.tmpInit s1 x n) (w := x) R.ok (by rw [tmpInit_same]; exact tmp_owf n hn)
    fun y hy => tmpInit_other s1 x n hy
  rwa [tmpInit_same] at h

theorem _root_.Mpir.AllocSafe.RanH.tmpKept (R : RanH s s1 ws) (x : Nat) (h : (over s.h ws x).gen = 0) :
    AllocSafe6.tmpKept s1 x = s1 :=
  tmpKept_eq _ _ (by rw [R.heap, h])

end

/-- aors.c:43-52, the entry of both arms of mpq_add / mpq_sub: gcd, tmp1, tmp2 in TMP space and the gcd of the denominators, which
    has at most MIN (den sizes) limbs and so stays in the TMP block -/
theorem aors_entry (s : St) (an ad bn bd g t1 t2 A0 A1 A2 : Nat) (hs : s.ok = true) (Oad : OWF (s.h ad)) (Obd : OWF (s.h bd))
    (hda : 0 < valOf s ad) (hdb : 0 < valOf s bd) (hfr : Fresh [g, t1, t2] [ad, bd])
    (hA0 : A0 = min (s.SIZ ad).toNat (s.SIZ bd).toNat - 0) (hA1 : A1 = s.ABSIZ an + (s.SIZ bd).toNat)
    (hA2 : A2 = s.ABSIZ bn + (s.SIZ ad).toNat) :
    (s.SIZ ad).toNat = (s.h ad).size.natAbs ∧ (s.SIZ bd).toNat = (s.h bd).size.natAbs ∧ 1 ≤ A1 ∧ 1 ≤ A2 ∧
    (Mpq.zgcd (valOf s ad) (valOf s bd)).natAbs < B ^ A0 ∧
    ∃ o1, OWF o1 ∧ Mpz.toInt (view o1) = Mpq.zgcd (valOf s ad) (valOf s bd) ∧ o1.gen = 0 ∧ o1.buf.alloc = A0 ∧
      RanH s (mpz_gcd (tmpInit (tmpInit (tmpInit s g A0) t1 A1) t2 A2) g ad bd)
        [(g, o1), (t2, ⟨0, 0, Buf.new A2⟩), (t1, ⟨0, 0, Buf.new A1⟩), (g, ⟨0, 0, Buf.new A0⟩)] ∧
      tmpKept (mpz_gcd (tmpInit (tmpInit (tmpInit s g A0) t1 A1) t2 A2) g ad bd) g =
        mpz_gcd (tmpInit (tmpInit (tmpInit s g A0) t1 A1) t2 A2) g ad bd := by
  obtain ⟨eda, hda1⟩ := size_toNat s ad Oad hda
  obtain ⟨edb, hdb1⟩ := size_toNat s bd Obd hdb
  have hGpos : 0 < Mpq.zgcd (valOf s ad) (valOf s bd) := zgcd_pos _ (Int.ne_of_gt hdb)
  have hGlt : (Mpq.zgcd (valOf s ad) (valOf s bd)).natAbs < B ^ A0 := by
    rw [hA0, eda, edb]
    rcases Nat.le_total (s.h ad).size.natAbs (s.h bd).size.natAbs with h | h
    · rw [Nat.min_eq_left h]
      exact Nat.lt_of_le_of_lt (Nat.le_of_dvd (by omega) (Int.natAbs_dvd_natAbs.mpr (Int.gcd_dvd_left _ _))) (valOf_lt s ad Oad)
    · rw [Nat.min_eq_right h]
      exact Nat.lt_of_le_of_lt (Nat.le_of_dvd (by omega) (Int.natAbs_dvd_natAbs.mpr (Int.gcd_dvd_right _ _))) (valOf_lt s bd Obd)
  have p0 : 1 ≤ A0 := by rw [hA0, eda, edb]; exact Nat.le_min.mpr ⟨hda1, hdb1⟩
  have p1 : 1 ≤ A1 := by rw [hA1, edb]; exact Nat.le_trans hdb1 (Nat.le_add_left _ _)
  have p2 : 1 ≤ A2 := by rw [hA2, eda]; exact Nat.le_trans hda1 (Nat.le_add_left _ _)
  have N := hfr.sep
  simp only [List.pairwise_cons, List.mem_cons, List.not_mem_nil, or_false, forall_eq_or_imp, forall_eq,
    List.Pairwise.nil, and_true, false_imp_iff, implies_true, ne_eq] at N
  obtain ⟨P, Nad, Nbd⟩ := N
  have R0 := (((RanH.refl s hs).tmpInit g p0).tmpInit t1 p1).tmpInit t2 p2
  generalize tmpInit (tmpInit (tmpInit s g A0) t1 A1) t2 A2 = s0 at R0 ⊢
  have had := R0.heap ad; have hbd := R0.heap bd; have hg := R0.heap g
  simp only [over, Nad, Nbd, P, if_false, if_true] at had hbd hg
  have ea : valOf s0 ad = valOf s ad := congrArg (fun o => Mpz.toInt (view o)) had
  have eb : valOf s0 bd = valOf s bd := congrArg (fun o => Mpz.toInt (view o)) hbd
  obtain ⟨o1, O1, v1, k1, a1, R1, q1⟩ := R0.call_tmp (mpz_gcd_wrote s0 g ad bd R0.ok (by rw [hg]; exact tmp_owf _ p0))
    (mpz_gcd_sameBlock s0 g ad bd (by rw [ea, eb, St.ALLOC, hg]; exact Mpir.natLimbs_length_le _ _ hGlt)) (by rw [hg])
  rw [ea, eb] at v1
  rw [hg] at a1
  exact ⟨eda, edb, p1, p2, hGlt, o1, O1, v1, k1, a1, R1, q1⟩

theorem mpzInits_spec (scr : List Nat) (s : St) :
    (scr.foldl mpzInit s).ok = s.ok ∧ (∀ x, x ∉ scr → (scr.foldl mpzInit s).h x = s.h x) ∧
    (∀ x, x ∈ scr ∨ OWF (s.h x) → OWF ((scr.foldl mpzInit s).h x)) := by
  induction scr generalizing s with
  | nil => exact ⟨rfl, fun _ _ => rfl, fun x h => h.resolve_left List.not_mem_nil⟩
  | cons a l ih =>
    obtain ⟨h1, h2, h3⟩ := ih (mpzInit s a)
    refine ⟨h1, fun x hx => ?_, fun x hx => h3 x ?_⟩
    · rw [List.mem_cons, not_or] at hx
      rw [List.foldl_cons, h2 x hx.2, mpzInit_other s a hx.1]
    · by_cases hl : x ∈ l
      · exact .inl hl
      · right
        rcases hx with hx | hx
        · rw [(List.mem_cons.mp hx).resolve_right hl, mpzInit_same]; exact tmp_owf 1 (Nat.le_refl 1)
        · exact mpzInit_owf s a x hx

/-- mul.c:51-62 = div.c:47-58: g1 = gcd (x1, y1), g2 = gcd (x2, y2), w1 = (x1/g1)(x2/g2), then — w1 already stored —
    w2 = (y1/g1)(y2/g2); the quotients go through t1, t2 -/
def crossMul (s : St) (w1 w2 x1 y1 x2 y2 g1 g2 t1 t2 : Nat) : St :=
  let s := mpz_gcd s g1 x1 y1
  let s := mpz_gcd s g2 x2 y2
  let s := mpz_divexact_gcd s t1 x1 g1
  let s := mpz_divexact_gcd s t2 x2 g2
  let s := mpz_mul s w1 t1 t2
  let s := mpz_divexact_gcd s t1 y1 g1
  let s := mpz_divexact_gcd s t2 y2 g2
  mpz_mul s w2 t1 t2

/-- w1 must be neither y1 nor y2: they are read after w1 was stored.  y1, y2 non-zero make the gcds positive
    (mpz_divexact_gcd's `ASSERT (mpz_sgn (d) > 0)`). -/
theorem crossMul_safe (s : St) (w1 w2 x1 y1 x2 y2 g1 g2 t1 t2 : Nat) (hs : s.ok = true)
    (hop : ∀ x ∈ [w1, w2, x1, y2, x2, y1], OWF (s.h x)) (hscr : ∀ x ∈ [g1, g2, t1, t2], OWF (s.h x))
    (hfr : Fresh [g1, g2, t1, t2] [w1, w2, x1, y2, x2, y1]) (hw : w1 ≠ w2) (hwy1 : w1 ≠ y1) (hwy2 : w1 ≠ y2)
    (hy1 : valOf s y1 ≠ 0) (hy2 : valOf s y2 ≠ 0) :
    (crossMul s w1 w2 x1 y1 x2 y2 g1 g2 t1 t2).ok = true ∧
    (∀ x, OWF (s.h x) → OWF ((crossMul s w1 w2 x1 y1 x2 y2 g1 g2 t1 t2).h x)) ∧
    (∀ x, x ≠ w1 → x ≠ w2 → x ∉ [g1, g2, t1, t2] → (crossMul s w1 w2 x1 y1 x2 y2 g1 g2 t1 t2).h x = s.h x) ∧
    valOf (crossMul s w1 w2 x1 y1 x2 y2 g1 g2 t1 t2) w1 =
      Mpq.divexact (valOf s x1) (Mpq.zgcd (valOf s x1) (valOf s y1)) *
      Mpq.divexact (valOf s x2) (Mpq.zgcd (valOf s x2) (valOf s y2)) ∧
    valOf (crossMul s w1 w2 x1 y1 x2 y2 g1 g2 t1 t2) w2 =
      Mpq.divexact (valOf s y1) (Mpq.zgcd (valOf s x1) (valOf s y1)) *
      Mpq.divexact (valOf s y2) (Mpq.zgcd (valOf s x2) (valOf s y2)) := by
  have N := hfr.sep
  simp only [List.pairwise_cons, List.mem_cons, List.not_mem_nil, or_false, forall_eq_or_imp, forall_eq,
    List.Pairwise.nil, and_true, false_imp_iff, implies_true, ne_eq] at N
  obtain ⟨P, Nw1, Nw2, Nx1, Ny2, Nx2, Ny1⟩ := N
  simp only [List.mem_cons, List.not_mem_nil, or_false, forall_eq_or_imp, forall_eq] at hop hscr
  obtain ⟨Ow1, Ow2, Ox1, Oy2, Ox2, Oy1⟩ := hop
  obtain ⟨Og1, Og2, Ot1, Ot2⟩ := hscr
  have hG1pos : 0 < Mpq.zgcd (valOf s x1) (valOf s y1) := zgcd_pos _ hy1
  have hG2pos : 0 < Mpq.zgcd (valOf s x2) (valOf s y2) := zgcd_pos _ hy2
  have V0 : ∀ x, Mpz.toInt (view (s.h x)) = valOf s x := fun _ => rfl
  -- g1 = gcd (x1, y1), g2 = gcd (x2, y2)
  obtain ⟨o1, -, v1, R1⟩ := (RanH.refl s hs).call (mpz_gcd_wrote s g1 x1 y1 hs Og1)
  generalize hs1 : mpz_gcd s g1 x1 y1 = s1 at R1
  have ex2 := R1.val x2; have ey2 := R1.val y2
  simp only [over, Nx2, Ny2, if_false, V0] at ex2 ey2
  obtain ⟨o2, -, v2, R2⟩ := R1.call (mpz_gcd_wrote s1 g2 x2 y2 R1.ok (R1.owf _ Og2))
  generalize hs2 : mpz_gcd s1 g2 x2 y2 = s2 at R2
  rw [ex2, ey2] at v2
  -- w1 = (x1 / g1) (x2 / g2)
  have ex1 := R2.val x1; have eg1 := R2.val g1
  simp only [over, Nx1, P, if_false, if_true, V0, v1] at ex1 eg1
  obtain ⟨o3, -, v3, R3⟩ := R2.call (mpz_divexact_gcd_wrote s2 t1 x1 g1 R2.ok (R2.owf _ Ot1) (R2.owf _ Ox1) (R2.owf _ Og1)
    (by rw [eg1]; exact hG1pos) (by rw [eg1, ex1]; exact Int.gcd_dvd_left _ _))
  generalize hs3 : mpz_divexact_gcd s2 t1 x1 g1 = s3 at R3
  rw [ex1, eg1] at v3
  have ex2 := R3.val x2; have eg2 := R3.val g2
  simp only [over, Nx2, P, if_false, if_true, V0, v2] at ex2 eg2
  obtain ⟨o4, -, v4, R4⟩ := R3.call (mpz_divexact_gcd_wrote s3 t2 x2 g2 R3.ok (R3.owf _ Ot2) (R3.owf _ Ox2) (R3.owf _ Og2)
    (by rw [eg2]; exact hG2pos) (by rw [eg2, ex2]; exact Int.gcd_dvd_left _ _))
  generalize hs4 : mpz_divexact_gcd s3 t2 x2 g2 = s4 at R4
  rw [ex2, eg2] at v4
  have et1 := R4.val t1; have et2 := R4.val t2
  simp only [over, P, if_false, if_true, v3, v4] at et1 et2
  obtain ⟨o5, -, v5, R5⟩ := R4.call (mpz_mul_wrote s4 w1 t1 t2 R4.ok (R4.owf _ Ow1) (R4.owf _ Ot1) (R4.owf _ Ot2))
  generalize hs5 : mpz_mul s4 w1 t1 t2 = s5 at R5
  rw [et1, et2] at v5
  -- w2 = (y1 / g1) (y2 / g2): y1, y2 are read after the store to w1
  have ey1 := R5.val y1; have eg1 := R5.val g1
  simp only [over, Ny1, hwy1.symm, Nw1, P, if_false, if_true, V0, v1] at ey1 eg1
  obtain ⟨o6, -, v6, R6⟩ := R5.call (mpz_divexact_gcd_wrote s5 t1 y1 g1 R5.ok (R5.owf _ Ot1) (R5.owf _ Oy1) (R5.owf _ Og1)
    (by rw [eg1]; exact hG1pos) (by rw [eg1, ey1]; exact Int.gcd_dvd_right _ _))
  generalize hs6 : mpz_divexact_gcd s5 t1 y1 g1 = s6 at R6
  rw [ey1, eg1] at v6
  have ey2 := R6.val y2; have eg2 := R6.val g2
  simp only [over, Ny2, hwy2.symm, Nw1, P, if_false, if_true, V0, v2] at ey2 eg2
  obtain ⟨o7, -, v7, R7⟩ := R6.call (mpz_divexact_gcd_wrote s6 t2 y2 g2 R6.ok (R6.owf _ Ot2) (R6.owf _ Oy2) (R6.owf _ Og2)
    (by rw [eg2]; exact hG2pos) (by rw [eg2, ey2]; exact Int.gcd_dvd_right _ _))
  generalize hs7 : mpz_divexact_gcd s6 t2 y2 g2 = s7 at R7
  rw [ey2, eg2] at v7
  have et1 := R7.val t1; have et2 := R7.val t2
  simp only [over, P, if_false, if_true, v6, v7] at et1 et2
  obtain ⟨o8, -, v8, R8⟩ := R7.call (mpz_mul_wrote s7 w2 t1 t2 R7.ok (R7.owf _ Ow2) (R7.owf _ Ot1) (R7.owf _ Ot2))
  rw [et1, et2] at v8
  have e : crossMul s w1 w2 x1 y1 x2 y2 g1 g2 t1 t2 = mpz_mul s7 w2 t1 t2 := by
    rw [← hs7, ← hs6, ← hs5, ← hs4, ← hs3, ← hs2, ← hs1]; rfl
  rw [e]
  refine ⟨R8.ok, R8.owf, fun x h1 h2 h3 => ?_, ?_, ?_⟩
  · simp only [List.mem_cons, List.not_mem_nil, or_false, not_or] at h3
    simp only [R8.heap, over, h1, h2, h3, if_false]
  · simp only [R8.val, over, Nw1, hw, if_false, if_true, v5]; rfl
  · rw [R8.val, over_cons_eq, v8]; rfl

end Mpir.AllocSafe6
