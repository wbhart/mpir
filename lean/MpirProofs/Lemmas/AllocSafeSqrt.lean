/- mpz_sqrt, then mpz_sqrtrem on the size-aware models (Mpir/Model/AllocSafeMpz4.lean). -/

import MpirProofs.Lemmas.AllocSafeMulC
import MpirProofs.Lemmas.Iroot
import MpirProofs.Lemmas.AllocSafeTdiv

/- mpz/sqrt.c: `(op_size + 1) / 2` limbs is exactly what mpn_sqrtrem stores and exactly the size of the root; the `free_me` arm
   is dead code (a variable that is both root and op already has a block of op_size ≥ root_size limbs). -/

section
namespace Mpir.AllocSafe
open Mpir
open Mpir.Mpz (sgn natAbs_sgn Norm WF toInt mk_spec WF_iff)

/-- value-level result of mpz_sqrt with the allocation the C leaves (op > 0 or op = 0) -/
def Spec.sqrt (w u : Mpz.Mpz) : Mpz.Mpz :=
  if u.size ≤ 0 then { w with size := 0, d := [] }
  else
    let rs := (u.size.natAbs + 1) / 2
    ⟨if w.alloc < rs then rs else w.alloc, (rs : Int), toLimbs rs (Nat.sqrt (val u.d))⟩

theorem sqrtTail_refines (s1 : St) (root : Nat) (op : Src) (U : List Nat) (hok : s1.ok = true)
    (hb : BWF (s1.h root).buf) (DU : Den s1 op U) (hroom : (U.length + 1) / 2 ≤ (s1.h root).buf.alloc) :
    Refines s1 (sqrtTail s1 root op U.length ((U.length + 1) / 2)) root
      ⟨(s1.h root).buf.alloc, (((U.length + 1) / 2 : Nat) : Int), toLimbs ((U.length + 1) / 2) (Nat.sqrt (val U))⟩ := by
  obtain ⟨eu, oku⟩ := DU.rd U.length (Nat.le_refl _)
  rw [List.take_length] at eu
  unfold sqrtTail
  simp only [mpn_sqrt_S, eu, oku]
  have W := Wrote.fresh s1 root (toLimbs ((U.length + 1) / 2) (Nat.sqrt (val U))) true hok rfl hb (Limbs_toLimbs _ _)
    (by rw [toLimbs_length]; exact hroom)
  have F := W.fin_take false ((U.length + 1) / 2) (by rw [toLimbs_length])
  rw [List.take_of_length_le (by rw [toLimbs_length])] at F
  simpa [sgn] using F

theorem sqrt_refines (retain : Bool) (s : St) (root op : Nat) (hs : s.ok = true)
    (hr : OWF (s.h root)) (ho : OWF (s.h op)) (hpos : 0 ≤ (s.h op).size) :
    ∃ s', sqrt_ retain s root op = some s' ∧ Refines s s' root (Spec.sqrt (view (s.h root)) (view (s.h op))) := by
  unfold sqrt_ Spec.sqrt
  rw [show s.SIZ op = (s.h op).size from rfl, show s.ALLOC root = (s.h root).buf.alloc from rfl]
  have e1 : (view (s.h op)).size = (s.h op).size := rfl
  have e2 : (view (s.h root)).alloc = (s.h root).buf.alloc := rfl
  rw [e1, e2]
  have hUl := view_d_length ho
  by_cases h0 : (s.h op).size ≤ 0
  · have hn : ¬ (s.h op).size < 0 := by omega
    simp only [h0, hn, if_true, if_false]
    exact ⟨_, rfl, by simpa using hs, by simp [view], by simpa using hr.1, fun x hx => setSize_other _ _ _ hx⟩
  · simp only [h0, if_false]
    rw [← hUl]
    by_cases hal : (s.h root).buf.alloc < ((view (s.h op)).d.length + 1) / 2
    · simp only [hal, if_true]
      -- a variable that is both root and op has a block of op_size limbs already
      have hne : root ≠ op := by
        intro h; rw [h] at hal
        have := view_fit ho
        rw [hUl] at hal; omega
      have e : (root == op) = false := by simpa using hne
      simp only [e, Bool.false_and, Bool.false_eq_true, if_false]
      refine ⟨_, rfl, ?_⟩
      have R := sqrtTail_refines (freshBlock s root (((view (s.h op)).d.length + 1) / 2)) root (.ptr (s.PTR op)) (view (s.h op)).d
        (by rw [freshBlock_ok]; exact hs) (freshBlock_bwf _ _ _) ((Den.of_owf ho).fresh (fun h => hne h.symm))
        (by rw [freshBlock_alloc])
      rw [freshBlock_alloc] at R
      exact R.rebase (fun x hx => freshBlock_other s root _ hx)
    · simp only [hal, if_false]
      by_cases hro : root = op
      · have e : (root == op) = true := by simpa using hro
        simp only [e, if_true]
        refine ⟨_, rfl, ?_⟩
        obtain ⟨c1, c2⟩ := tmp_copy_spec s (s.PTR op) (view (s.h op)).d (Den.of_owf ho)
        rw [c1]
        exact sqrtTail_refines s root _ (view (s.h op)).d hs hr.1 (c2 s) (by omega)
      · have e : (root == op) = false := by simpa using hro
        simp only [e, Bool.false_eq_true, if_false]
        exact ⟨_, rfl, sqrtTail_refines s root _ (view (s.h op)).d hs hr.1 (Den.of_owf ho) (by omega)⟩

theorem Spec.sqrt_spec (w u : Mpz.Mpz) (hw : 1 ≤ w.alloc) (hu : WF u) (hpos : 0 ≤ u.size) :
    WF (Spec.sqrt w u) ∧ toInt (Spec.sqrt w u) = ((Nat.sqrt (toInt u).toNat : Nat) : Int) := by
  obtain ⟨_, _, hul, hun⟩ := (WF_iff u).mp hu
  have hti : toInt u = (val u.d : Int) := by
    rw [Mpz.toInt_eq]; unfold Mpz.sval; rw [if_neg (by omega)]
  unfold Spec.sqrt
  by_cases h0 : u.size ≤ 0
  · rw [if_pos h0]
    have hz : u.size = 0 := by omega
    have hd : u.d = [] := List.length_eq_zero_iff.mp (by rw [hul, hz]; rfl)
    refine ⟨(Mpz.WF_zero w hw).1, ?_⟩
    rw [hti, hd]; simp [toInt]
  · rw [if_neg h0]
    dsimp only
    have hne : u.d ≠ [] := by intro h; rw [h] at hul; simp at hul; omega
    have hlow := hun.lower hne
    have hup := hun.upper
    rw [hul] at hlow hup
    have hn1 : 1 ≤ u.size.natAbs := by omega
    obtain ⟨hslow, hsup⟩ := Root.sqrt_window B_pos hlow (by rwa [Nat.sub_add_cancel hn1])
    rw [show (u.size.natAbs - 1) / 2 = (u.size.natAbs + 1) / 2 - 1 by omega] at hslow
    rw [show (u.size.natAbs - 1) / 2 + 1 = (u.size.natAbs + 1) / 2 by omega] at hsup
    have rv := val_toLimbs ((u.size.natAbs + 1) / 2) (Nat.sqrt (val u.d))
    have rl := toLimbs_length ((u.size.natAbs + 1) / 2) (Nat.sqrt (val u.d))
    have rL := Limbs_toLimbs ((u.size.natAbs + 1) / 2) (Nat.sqrt (val u.d))
    rw [Nat.mod_eq_of_lt hsup] at rv
    have hN : Norm (toLimbs ((u.size.natAbs + 1) / 2) (Nat.sqrt (val u.d))) :=
      Norm.of_lower rL (Or.inr (by rw [rl, rv]; exact hslow))
    obtain ⟨wf, ti⟩ := mk_spec (if w.alloc < (u.size.natAbs + 1) / 2 then (u.size.natAbs + 1) / 2 else w.alloc)
      ((u.size.natAbs + 1) / 2) false _ rl hN (by split <;> omega) (by split <;> omega)
    simp only [sgn, Bool.false_eq_true, if_false] at wf ti
    refine ⟨wf, ?_⟩
    rw [ti, rv, hti]; simp

end Mpir.AllocSafe
end

/- mpz/sqrtrem.c: two destinations (root ≠ rem), `_mpz_realloc (rem, op_size)` first — op's pointer is fetched after it, rem may
   be op —, then the root block as in mpz_sqrt. -/

section
namespace Mpir.AllocSafe
open Mpir
open Mpir.Mpz (sgn natAbs_sgn Norm WF toInt mk_spec WF_iff grow_alloc)

/-- value-level remainder of mpz_sqrtrem with the allocation the C leaves -/
def Spec.sqrtrem_rem (w u : Mpz.Mpz) : Mpz.Mpz :=
  if u.size ≤ 0 then { w with size := 0, d := [] }
  else
    let m := toLimbs u.size.natAbs (val u.d - Nat.sqrt (val u.d) * Nat.sqrt (val u.d))
    ⟨(Mpz.grow w u.size.natAbs).alloc, ((Mpir.normalize m).length : Int), Mpir.normalize m⟩

/-- sqrtrem.c:84-91 on a state whose blocks of root and rem have room -/
theorem sqrtremTail_refines (s2 : St) (root rem : Nat) (op : Src) (U : List Nat) (hok : s2.ok = true)
    (hbq : BWF (s2.h root).buf) (hbr : BWF (s2.h rem).buf) (DU : Den s2 op U) (hne : root ≠ rem)
    (hroomq : (U.length + 1) / 2 ≤ (s2.h root).buf.alloc) (hroomr : U.length ≤ (s2.h rem).buf.alloc) :
    Safe2 s2 (sqrtremTail s2 root rem op U.length ((U.length + 1) / 2)) root rem
      ⟨(s2.h root).buf.alloc, (((U.length + 1) / 2 : Nat) : Int), toLimbs ((U.length + 1) / 2) (Nat.sqrt (val U))⟩
      ⟨(s2.h rem).buf.alloc,
        ((Mpir.normalize (toLimbs U.length (val U - Nat.sqrt (val U) * Nat.sqrt (val U)))).length : Int),
        Mpir.normalize (toLimbs U.length (val U - Nat.sqrt (val U) * Nat.sqrt (val U)))⟩ := by
  have hrq : rem ≠ root := fun h => hne h.symm
  obtain ⟨eu, oku⟩ := DU.rd U.length (Nat.le_refl _)
  rw [List.take_length] at eu
  unfold sqrtremTail
  simp only [mpn_sqrtrem_S, eu, oku, chk_true]
  generalize hQ : toLimbs ((U.length + 1) / 2) (Nat.sqrt (val U)) = Q
  generalize hR : toLimbs U.length (val U - Nat.sqrt (val U) * Nat.sqrt (val U)) = R
  have hQl : Q.length = (U.length + 1) / 2 := by rw [← hQ, toLimbs_length]
  have hRl : R.length = U.length := by rw [← hR, toLimbs_length]
  have hQL : Limbs Q := by rw [← hQ]; exact Limbs_toLimbs _ _
  have hRL : Limbs R := by rw [← hR]; exact Limbs_toLimbs _ _
  -- the stores to root first, then those to rem
  rw [wr_setSize_comm _ _ _ _ _ (show (s2.PTR rem).id ≠ root from hrq)]
  have Rq := (Wrote.fresh s2 root Q true hok rfl hbq hQL (by rw [hQl]; exact hroomq)).fin (((U.length + 1) / 2 : Nat) : Int)
    (by rw [Int.natAbs_natCast, hQl])
  rw [chk_true, Int.natAbs_natCast, ← hQl, List.take_length, hQl] at Rq
  have h3 : ((s2.wr (s2.PTR root) Q).setSize root ((U.length + 1) / 2 : Nat)).h rem = s2.h rem := Rq.frame rem hrq
  have Rr := (Wrote.fresh _ rem R true Rq.ok rfl (by rw [h3]; exact hbr) hRL (by rw [h3, hRl]; exact hroomr)).fin
    ((Mpir.normalize R).length : Int) (by rw [Int.natAbs_natCast]; exact normalize_length_le R)
  rw [chk_true, Int.natAbs_natCast, take_normalize_length, h3, show St.PTR _ rem = s2.PTR rem by simp [St.PTR]] at Rr
  exact Refines.then hne Rq Rr

theorem Safe2.rebase {s s1 s' : St} {q r : Nat} {mq mr : Mpz.Mpz} (S : Safe2 s1 s' q r mq mr)
    (hf : ∀ x, x ≠ q → x ≠ r → s1.h x = s.h x) : Safe2 s s' q r mq mr :=
  ⟨S.ok, S.bq, S.br, S.vq, S.vr, fun x h1 h2 => (S.frame x h1 h2).trans (hf x h1 h2)⟩

theorem sqrtrem_refines (s : St) (root rem op : Nat) (hs : s.ok = true)
    (hq : OWF (s.h root)) (hr : OWF (s.h rem)) (ho : OWF (s.h op)) (hpos : 0 ≤ (s.h op).size) (hne : root ≠ rem) :
    ∃ s', sqrtrem 0 s root rem op = some s' ∧
      Safe2 s s' root rem (Spec.sqrt (view (s.h root)) (view (s.h op))) (Spec.sqrtrem_rem (view (s.h rem)) (view (s.h op))) := by
  have hrq : rem ≠ root := fun h => hne h.symm
  unfold sqrtrem Spec.sqrt Spec.sqrtrem_rem
  rw [show s.SIZ op = (s.h op).size from rfl]
  have e1 : (view (s.h op)).size = (s.h op).size := rfl
  have e2 : (view (s.h root)).alloc = (s.h root).buf.alloc := rfl
  rw [e1, e2]
  have hUl := view_d_length ho
  by_cases h0 : (s.h op).size ≤ 0
  · have hn : ¬ (s.h op).size < 0 := by omega
    simp only [h0, hn, if_true, if_false]
    refine ⟨_, rfl, by simpa using hs, ?_, ?_, ?_, ?_, ?_⟩
    · rw [setSize_other _ _ _ hne]; simpa using hq.1
    · simpa using hr.1
    · rw [setSize_other _ _ _ hne, view_setSize]; rfl
    · rw [view_setSize, setSize_buf]; rfl
    · intro x h1 h2; rw [setSize_other _ _ _ h2, setSize_other _ _ _ h1]
  · simp only [h0, if_false, Nat.sub_zero]
    have G1 := MPZ_REALLOC_grown s rem (s.h op).size.natAbs hr
    have halloc1 : (Mpz.grow (view (s.h rem)) (s.h op).size.natAbs).alloc =
      ((MPZ_REALLOC s rem (s.h op).size.natAbs).h rem).buf.alloc := G1.alloc.symm
    rw [halloc1]
    have hok1 : (MPZ_REALLOC s rem (s.h op).size.natAbs).ok = true := by rw [G1.ok]; exact hs
    have hbr1 := G1.bwf rem hr.1
    have hroom1 := G1.room
    obtain ⟨O1q, _, _⟩ := G1.owf hq
    obtain ⟨O1o, d1o, z1o⟩ := G1.owf ho
    have hq1 : (MPZ_REALLOC s rem (s.h op).size.natAbs).h root = s.h root := G1.other root hne
    have hfr1 := G1.other
    rw [show (MPZ_REALLOC s rem (s.h op).size.natAbs).ALLOC root = (s.h root).buf.alloc by simp [St.ALLOC, hq1]]
    generalize MPZ_REALLOC s rem (s.h op).size.natAbs = s1 at *
    have hU1 : (view (s1.h op)).d.length = (s.h op).size.natAbs := by rw [d1o]; exact hUl
    rw [← hUl]
    have fin : ∀ (s2 : St) (opS : Src), s2.ok = true → BWF (s2.h root).buf → s2.h rem = s1.h rem →
        Den s2 opS (view (s.h op)).d → ((view (s.h op)).d.length + 1) / 2 ≤ (s2.h root).buf.alloc →
        (∀ x, x ≠ root → x ≠ rem → s2.h x = s1.h x) →
        Safe2 s (sqrtremTail s2 root rem opS (view (s.h op)).d.length (((view (s.h op)).d.length + 1) / 2)) root rem
          ⟨(s2.h root).buf.alloc, ((((view (s.h op)).d.length + 1) / 2 : Nat) : Int),
            toLimbs (((view (s.h op)).d.length + 1) / 2) (Nat.sqrt (val (view (s.h op)).d))⟩
          ⟨(s1.h rem).buf.alloc,
            ((Mpir.normalize (toLimbs (view (s.h op)).d.length
              (val (view (s.h op)).d - Nat.sqrt (val (view (s.h op)).d) * Nat.sqrt (val (view (s.h op)).d)))).length : Int),
            Mpir.normalize (toLimbs (view (s.h op)).d.length
              (val (view (s.h op)).d - Nat.sqrt (val (view (s.h op)).d) * Nat.sqrt (val (view (s.h op)).d)))⟩ := by
      intro s2 opS ok2 bq2 hrem2 D2 room2 fr2
      have T := sqrtremTail_refines s2 root rem opS (view (s.h op)).d ok2 bq2 (by rw [hrem2]; exact hbr1) D2 hne room2
        (by rw [hrem2, hUl]; exact hroom1)
      rw [hrem2] at T
      exact T.rebase (fun x h1 h2 => (fr2 x h1 h2).trans (hfr1 x h2))
    by_cases hal : (s.h root).buf.alloc < ((view (s.h op)).d.length + 1) / 2
    · simp only [hal, if_true]
      have hneo : root ≠ op := by
        intro h; rw [h] at hal
        have := view_fit ho
        rw [hUl] at hal; omega
      have e : (root == op) = false := by simpa using hneo
      simp only [e, Bool.false_eq_true, if_false]
      refine ⟨_, rfl, ?_⟩
      have D2 : Den (freshBlock s1 root (((view (s.h op)).d.length + 1) / 2)) (.ptr (s1.PTR op)) (view (s.h op)).d := by
        have := (Den.of_owf O1o).fresh (w := root) (n := ((view (s.h op)).d.length + 1) / 2) (fun h => hneo h.symm)
        rw [d1o] at this; exact this
      have F := fin (freshBlock s1 root (((view (s.h op)).d.length + 1) / 2)) _ (by rw [freshBlock_ok]; exact hok1)
        (freshBlock_bwf _ _ _) (freshBlock_other s1 root _ hrq) D2 (by rw [freshBlock_alloc])
        (fun x h1 _ => freshBlock_other s1 root _ h1)
      rw [freshBlock_alloc] at F
      exact F
    · simp only [hal, if_false]
      have hb1q : BWF (s1.h root).buf := by rw [hq1]; exact hq.1
      have hroomq : ((view (s.h op)).d.length + 1) / 2 ≤ (s1.h root).buf.alloc := by rw [hq1]; omega
      have ha1 : (s1.h root).buf.alloc = (s.h root).buf.alloc := by rw [hq1]
      have D1 : Den s1 (.ptr (s1.PTR op)) (view (s.h op)).d := by
        have := Den.of_owf O1o
        rw [d1o] at this; exact this
      by_cases hro : root = op
      · have e : (root == op) = true := by simpa using hro
        simp only [e, if_true]
        refine ⟨_, rfl, ?_⟩
        obtain ⟨c1, c2⟩ := tmp_copy_spec s1 (s1.PTR op) (view (s.h op)).d D1
        rw [c1]
        have F := fin s1 _ hok1 hb1q rfl (c2 s1) hroomq (fun _ _ _ => rfl)
        rw [ha1] at F
        exact F
      · have e : (root == op) = false := by simpa using hro
        simp only [e, Bool.false_eq_true, if_false]
        have F := fin s1 _ hok1 hb1q rfl D1 hroomq (fun _ _ _ => rfl)
        rw [ha1] at F
        exact ⟨_, rfl, F⟩

theorem Spec.sqrtrem_rem_spec (w u : Mpz.Mpz) (hw : 1 ≤ w.alloc) (hu : WF u) (hpos : 0 ≤ u.size) :
    WF (Spec.sqrtrem_rem w u) ∧
    toInt (Spec.sqrtrem_rem w u) =
      (((toInt u).toNat - Nat.sqrt (toInt u).toNat * Nat.sqrt (toInt u).toNat : Nat) : Int) := by
  obtain ⟨_, _, hul, hun⟩ := (WF_iff u).mp hu
  have hti : toInt u = (val u.d : Int) := by
    rw [Mpz.toInt_eq]; unfold Mpz.sval; rw [if_neg (by omega)]
  unfold Spec.sqrtrem_rem
  by_cases h0 : u.size ≤ 0
  · rw [if_pos h0]
    have hz : u.size = 0 := by omega
    have hd : u.d = [] := List.length_eq_zero_iff.mp (by rw [hul, hz]; rfl)
    refine ⟨(Mpz.WF_zero w hw).1, ?_⟩
    rw [hti, hd]; simp [toInt]
  · rw [if_neg h0]
    dsimp only
    obtain ⟨ga1, ga2⟩ := grow_alloc w u.size.natAbs
    have hup := hun.upper
    rw [hul] at hup
    have hlt : val u.d - Nat.sqrt (val u.d) * Nat.sqrt (val u.d) < B ^ u.size.natAbs := by omega
    have rv := val_toLimbs u.size.natAbs (val u.d - Nat.sqrt (val u.d) * Nat.sqrt (val u.d))
    have rl := toLimbs_length u.size.natAbs (val u.d - Nat.sqrt (val u.d) * Nat.sqrt (val u.d))
    have rL := Limbs_toLimbs u.size.natAbs (val u.d - Nat.sqrt (val u.d) * Nat.sqrt (val u.d))
    rw [Nat.mod_eq_of_lt hlt] at rv
    have hN := Mpz.Norm_normalize rL
    have hlen := normalize_length_le (toLimbs u.size.natAbs (val u.d - Nat.sqrt (val u.d) * Nat.sqrt (val u.d)))
    rw [rl] at hlen
    obtain ⟨wf, ti⟩ := mk_spec (Mpz.grow w u.size.natAbs).alloc _ false _ rfl hN (by omega) (by omega)
    simp only [sgn, Bool.false_eq_true, if_false] at wf ti
    refine ⟨wf, ?_⟩
    rw [ti, val_normalize, rv, hti]; simp

end Mpir.AllocSafe
end
