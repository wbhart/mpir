/- C18, gmp_obstack_printf (printf/obprntffuns.c, model lean/Mpir/Model/Obstack.lean): the callbacks append exactly the bytes
   of the call to the growing object, inside the chunk, whatever the chunk geometry (`Ext`, `obCall_spec`, `obCalls_spec`,
   `obSeq_spec`); `__gmp_doprnt` counts exactly the bytes it hands out (`Counted`, `doprnt_counted`). -/
import Mpir.Model.Obstack
import MpirProofs.Lemmas.Printf
namespace Mpir.Obstack
open Mpir.Printf

/-! ### the callbacks extend the object -/

/-- `o'` is `o` with `l` appended to the growing object, the flags unchanged -/
structure Ext (o o' : Ob) (l : List (Option Char)) : Prop where
  obj : o'.obj = o.obj ++ l
  ok : o'.ok = o.ok
  stale : o'.stale = o.stale

theorem Ext.refl (o : Ob) : Ext o o [] := ⟨by simp, rfl, rfl⟩

theorem Ext.trans {o o1 o2 : Ob} {l1 l2 : List (Option Char)} (h1 : Ext o o1 l1) (h2 : Ext o1 o2 l2) : Ext o o2 (l1 ++ l2) :=
  ⟨by rw [h2.obj, h1.obj, List.append_assoc], h2.ok.trans h1.ok, h2.stale.trans h1.stale⟩

theorem ensure_fields (o : Ob) (n : Nat) : Ext o (ensure o n) [] ∧ n ≤ (ensure o n).room := by
  unfold ensure
  split
  · refine ⟨⟨by simp [newchunk], rfl, rfl⟩, ?_⟩
    simp only [newchunk, chunkHeader, alignMask]
    omega
  · exact ⟨Ext.refl o, by omega⟩

theorem grow_spec (o : Ob) (s : List Char) : Ext o (grow o s) (s.map some) := by
  obtain ⟨⟨h1, h2, h3⟩, h5⟩ := ensure_fields o s.length
  rw [List.append_nil] at h1
  exact ⟨by simp only [grow, h1], by simp only [grow, h2, h5, decide_true, Bool.and_true], by simp only [grow, h3]⟩

theorem blank_spec (o : Ob) (n : Nat) :
    Ext o (blank o n) (List.replicate n none) ∧ ((blank o n).cur = o.cur ↔ n ≤ o.room) := by
  obtain ⟨⟨h1, h2, h3⟩, h5⟩ := ensure_fields o n
  rw [List.append_nil] at h1
  refine ⟨⟨by simp only [blank, h1], by simp only [blank, h2, h5, decide_true, Bool.and_true], by simp only [blank, h3]⟩, ?_⟩
  simp only [blank]
  unfold ensure
  split
  · simp only [newchunk]; omega
  · simp only [true_iff]; omega

theorem memset_tail (o : Ob) (pre : List (Option Char)) (c : Char) (n : Nat)
    (h : o.obj = pre ++ List.replicate n none) :
    memset o { chunk := o.cur, off := o.obj.length - n } c n = { o with obj := pre ++ List.replicate n (some c) } := by
  have hl : o.obj.length - n = pre.length := by simp [h]
  unfold memset
  simp only [hl]
  have hc : pre.length + n ≤ o.obj.length := by simp [h]
  simp only [true_and, hc, if_true]
  rw [h]
  simp

theorem obReps_spec (o : Ob) (c : Char) (n : Nat) :
    Ext o (obReps o c n).1 (List.replicate n (some c)) ∧ (obReps o c n).2 = n := by
  obtain ⟨⟨h1, h2, h3⟩, _⟩ := blank_spec o n
  have e : obReps o c n = (memset (blank o n) { chunk := (blank o n).cur, off := (blank o n).obj.length - n } c n, n) := rfl
  rw [e, memset_tail (blank o n) o.obj c n h1]
  exact ⟨⟨rfl, h2, h3⟩, rfl⟩

theorem obCall_spec (o : Ob) (c : Call) : Ext o (obCall o c).1 (c.bytes.map some) ∧ (obCall o c).2 = c.bytes.length := by
  cases c with
  | format out => exact ⟨grow_spec o out, rfl⟩
  | memory s => exact ⟨grow_spec o s, rfl⟩
  | reps ch n => simpa [obCall, Call.bytes] using obReps_spec o ch n

theorem obCalls_spec (cs : List Call) : ∀ (o : Ob) (ret : Nat),
    Ext o (obCalls o cs ret).1 ((callsBytes cs).map some) ∧ (obCalls o cs ret).2 = ret + (callsBytes cs).length := by
  induction cs with
  | nil => intro o ret; exact ⟨Ext.refl o, rfl⟩
  | cons c cs ih =>
    intro o ret
    obtain ⟨h1, e1⟩ := obCall_spec o c
    obtain ⟨h2, e2⟩ := ih (obCall o c).1 (ret + (obCall o c).2)
    rw [show obCalls o (c :: cs) ret = obCalls (obCall o c).1 cs (ret + (obCall o c).2) from rfl, callsBytes_cons,
      List.map_append, List.length_append]
    exact ⟨h1.trans h2, by rw [e2, e1]; omega⟩

theorem obSeq_spec (css : List (List Call)) : ∀ (o : Ob) (sum : Nat),
    Ext o (obSeq o css sum).1 ((css.flatMap callsBytes).map some) ∧
    (obSeq o css sum).2 = sum + (css.map (fun cs => (callsBytes cs).length)).sum := by
  induction css with
  | nil => intro o sum; exact ⟨Ext.refl o, rfl⟩
  | cons cs css ih =>
    intro o sum
    obtain ⟨h1, e1⟩ := obCalls_spec cs o 0
    obtain ⟨h2, e2⟩ := ih (obCalls o cs 0).1 (sum + (obCalls o cs 0).2)
    rw [show obSeq o (cs :: css) sum = obSeq (obCalls o cs 0).1 css (sum + (obCalls o cs 0).2) from rfl,
      List.flatMap_cons, List.map_append, List.map_cons, List.sum_cons]
    exact ⟨h1.trans h2, by rw [e2, e1]; omega⟩

theorem text_of_some (o : Ob) (t : List Char) (h : o.obj = t.map some) : o.text = t ∧ o.initialised = true := by
  unfold Ob.text Ob.initialised
  rw [h]
  constructor
  · simp [Function.comp_def]
  · simp

/-! ### `__gmp_doprnt` returns the number of bytes it handed to the callbacks -/

/-- DOPRNT_ACCUMULATE: the running total is the number of bytes handed out so far -/
def Counted (st : DS) : Prop := st.retval = (callsBytes st.calls).length

theorem counted_emit (st : DS) (cs : List Call) (h : Counted st) : Counted (st.emit cs) := by
  unfold Counted DS.emit at *
  simp [callsBytes, h] at *

theorem counted_flush (st : DS) (tp : List Char) (st' : DS) (h : Counted st) (e : flush st tp = some st') : Counted st' := by
  unfold flush at e
  split at e
  · cases e; exact h
  · split at e
    · cases e; exact counted_emit _ _ h
    · cases e

theorem ofOpt_cont {m m' : Mode} {o : Option DS} {st : DS} (e : Step.ofOpt m o = .cont m' st) : o = some st := by
  cases o with
  | none => cases e
  | some x => simp only [Step.ofOpt, Step.cont.injEq] at e; rw [e.2]

theorem counted_flush_emit (st st1 : DS) (tp : List Char) (as : List Arg) (cs : List Call) (h : Counted st)
    (e : flush st tp = some st1) : Counted (({ st1 with ap := as }.emit cs).sync) :=
  counted_emit _ cs (counted_flush st tp st1 h e)

theorem counted_flush_store (st st1 : DS) (tp : List Char) (as : List Arg) (ss : List Store) (h : Counted st)
    (e : flush st tp = some st1) : Counted ({ st1 with ap := as, stores := ss }.sync) :=
  counted_flush st tp st1 h e

/-- a standard conversion only takes its argument: the piece stays pending -/
theorem counted_pop (st : DS) (as : List Arg) (h : Counted st) : Counted { st with ap := as } := h

theorem counted_doInteger (old : Bool) (ps : PS) (tp : List Char) (base : Int) (st st' : DS)
    (h : Counted st) (e : doInteger old ps tp base st = some st') : Counted st' := by
  unfold doInteger at e
  simp only [] at e
  repeat' split at e
  all_goals cases e
  -- left: the types Z, Q, N with an argument of their kind, and the standard types
  · exact counted_flush_emit st _ tp _ _ h ‹_›
  · exact counted_flush_emit st _ tp _ _ h ‹_›
  · exact counted_flush_emit st _ tp _ _ h ‹_›
  · exact counted_pop st _ h

theorem counted_doN (ps : PS) (tp : List Char) (st st' : DS)
    (h : Counted st) (e : doN ps tp st = some st') : Counted st' := by
  unfold doN at e
  simp only [] at e
  repeat' split at e
  all_goals cases e
  all_goals exact counted_flush_store st _ tp _ _ h ‹_›

/-- `doFloat` flushes, takes an mpf argument and emits one call list; which parameters it computes does not matter here -/
theorem doFloat_shape (old : Bool) (ps : PS) (tp : List Char) (c : Char) (st : DS) :
    ∃ p : Params, doFloat old ps tp c st =
      if ps.type = 'F' then
        match flush st tp with
        | some st => (match st.ap with
          | .mpf fprec neg limbs fexp :: as => some (({ st with ap := as }.emit (doprntMpf p fprec neg limbs fexp)).sync)
          | _ => none)
        | none => none
      else none := ⟨_, rfl⟩

theorem counted_doFloat (old : Bool) (ps : PS) (tp : List Char) (c : Char) (st st' : DS)
    (h : Counted st) (e : doFloat old ps tp c st = some st') : Counted st' := by
  obtain ⟨p, hp⟩ := doFloat_shape old ps tp c st
  rw [hp] at e
  split at e
  · split at e
    · split at e
      · cases e; exact counted_flush_emit st _ tp _ _ h ‹_›
      · cases e
    · cases e
  · cases e

/-- the state a step continues with (if it does) is counted -/
def StepCounted : Step → Prop
  | .fail => True
  | .cont _ st => Counted st

theorem stepCounted_ite {p : Prop} [Decidable p] {a b : Step}
    (ha : p → StepCounted a) (hb : ¬ p → StepCounted b) : StepCounted (if p then a else b) :=
  iteInduction ha hb

theorem stepCounted_ofOpt (m : Mode) (o : Option DS) (h : ∀ st, o = some st → Counted st) :
    StepCounted (Step.ofOpt m o) := by
  cases o with
  | none => trivial
  | some st => exact h st rfl

theorem stepCounted_specStep (old : Bool) (c : Char) (ps : PS) (tp : List Char) (st0 : DS) (h : Counted st0) :
    StepCounted (specStep old c ps tp st0) := by
  have hp : Counted { st0 with pending := c :: st0.pending } := h
  unfold specStep
  simp only []
  repeat' (apply stepCounted_ite <;> intro _)
  all_goals first
    | exact h
    | exact hp
    | (apply stepCounted_ofOpt; intro st e
       first
         | exact counted_doInteger _ _ _ _ _ _ hp e
         | exact counted_doN _ _ _ _ hp e
         | exact counted_doFloat _ _ _ _ _ _ hp e)
    | (split <;> trivial)

theorem counted_specStep (old : Bool) (c : Char) (ps : PS) (tp : List Char) (st0 : DS) (m : Mode) (st : DS)
    (h : Counted st0) (e : specStep old c ps tp st0 = .cont m st) : Counted st := by
  have := stepCounted_specStep old c ps tp st0 h
  rw [e] at this
  exact this

theorem counted_run (old : Bool) : ∀ (cs : List Char) (m : Mode) (st st' : DS),
    Counted st → run old cs m st = some st' → Counted st' := by
  intro cs
  induction cs with
  | nil =>
    intro m st st' h e
    cases m with
    | text =>
      unfold run at e
      split at e
      · cases e; exact h
      · split at e
        · cases e; exact counted_emit _ _ h
        · cases e
    | spec ps tp => simp [run] at e
  | cons c cs ih =>
    intro m st st' h e
    cases m with
    | text =>
      unfold run at e
      split at e
      · exact ih _ _ _ (show Counted { st with pending := c :: st.pending } from h) e
      · exact ih _ _ _ (show Counted { st with pending := c :: st.pending } from h) e
    | spec ps tp =>
      unfold run at e
      split at e
      · cases e
      · exact ih _ _ _ (counted_specStep _ _ _ _ _ _ _ h (by assumption)) e

/-- `__gmp_doprnt` returns the number of bytes it handed to the callbacks (for every format and argument list the model
    covers, with either value of the flag `old` of `floatParams`, Model/PrintfF.lean) -/
theorem doprnt_counted (old : Bool) (fmt : List Char) (args : List Arg) (r : DoprntResult)
    (e : doprntG old fmt args = some r) : r.retval = (callsBytes r.calls).length := by
  unfold doprntG at e
  split at e
  · cases e
    exact counted_run old fmt .text { ap := args, lastAp := args } _ (by simp [Counted, callsBytes]) (by assumption)
  · cases e

end Mpir.Obstack
