/- Arithmetic about plain numbers (no limbs) that several topics share: the Newton step for inverses modulo a power of two,
   a subtraction with borrow for any modulus, counting trailing zero bits, one bit of a number. -/
import Mathlib.Data.Int.ModEq
import Mathlib.Data.Nat.Bitwise
import Mathlib.Tactic.Ring
namespace Mpir

/-! ### modular arithmetic -/

/-- `M` is a power of two in every use: the table-driven limb inverse, mpn_binvert, the inverse modulo `2^k` in bin_uiui -/
theorem newton_step (M x u : Int) (h : x * u ≡ 1 [ZMOD M]) : x * (2 - u * x) * u ≡ 1 [ZMOD M * M] := by
  obtain ⟨c, hc⟩ := Int.modEq_iff_dvd.mp h
  refine Int.modEq_iff_dvd.mpr ⟨c * c, ?_⟩
  have e : 1 - x * (2 - u * x) * u = (1 - x * u) * (1 - x * u) := by ring
  rw [e, hc]; ring

theorem natCast_mod_modEq (a P : Nat) : ((a % P : Nat) : Int) ≡ (a : Int) [ZMOD (P : Int)] :=
  Int.natCast_modEq_iff.mpr (Nat.mod_modEq a P)

/-- a subtraction modulo `M` with its borrow, read in ℤ -/
theorem sub_mod_borrow (x y M : Nat) (hx : x < M) (hy : y ≤ M) :
    (((x + M - y) % M : Nat) : ℤ) = (x : ℤ) - y + ((if x < y then 1 else 0 : Nat) : ℤ) * M := by
  split
  · rw [Nat.mod_eq_of_lt (by omega)]; push_cast [Nat.cast_sub (by omega : y ≤ x + M)]; ring
  · rw [show x + M - y = x - y + M by omega, Nat.add_mod_right, Nat.mod_eq_of_lt (by omega)]
    push_cast [Nat.cast_sub (by omega : y ≤ x)]; ring

theorem coprime_two_pow_odd (t n : Nat) (h : n % 2 = 1) : Nat.Coprime (2 ^ t) n := by
  apply Nat.Coprime.pow_left
  unfold Nat.Coprime
  rw [Nat.gcd_rec, h]; simp

/-! ### counting trailing zero bits

The models do it eight times (`Bits.ctz`, `DivWord.count_trailing_zeros`, `Gcd.ctz`, `Powm.ctz`, `Numth.ctz` by halving with
fuel; `DivZ.ctz`, `Mpq.ctz`, `Cxx.ctz` by well-founded recursion).  `IsCtz dom f` says what each computes on its domain; the
facts are stated once, about any `IsCtz` function.  The instances are named `ctz_isCtz` and stand with the lemmas of each function
(Bits, DivWordExact: `dom = (· < B)`; Gcd, DivZ, Mpq, Cxx: no condition); Powm and Numth call `isCtz_halving` where they need it. -/

/-- "halve while even, with fuel": right as long as the fuel covers the bits of `x` -/
theorem ctz_by_halving (aux : Nat → Nat → Nat) (h0 : ∀ x, aux 0 x = 0)
    (hs : ∀ f x, 0 < x → aux (f + 1) x = if x % 2 = 1 then 0 else 1 + aux f (x / 2)) :
    ∀ f x, 0 < x → x < 2 ^ f → 2 ^ aux f x ∣ x ∧ (x / 2 ^ aux f x) % 2 = 1 ∧ aux f x < f := by
  intro f
  induction f with
  | zero => intro x h0 hx; simp at hx; omega
  | succ f ih =>
    intro x hpos hx
    rw [hs _ _ hpos]
    split
    · rename_i h; simp [h]
    · have hx2 : x / 2 < 2 ^ f := by rw [Nat.div_lt_iff_lt_mul (by norm_num), ← pow_succ]; exact hx
      obtain ⟨a, b, c⟩ := ih (x / 2) (by omega) hx2
      refine ⟨?_, ?_, by omega⟩
      · rw [Nat.add_comm, pow_succ]
        have : x = x / 2 * 2 := by omega
        rw [this, Nat.mul_div_cancel _ (by norm_num : 0 < 2)]; exact Nat.mul_dvd_mul_right a 2
      · rw [Nat.add_comm, pow_succ, Nat.mul_comm, ← Nat.div_div_eq_div_mul]; exact b

def IsCtz (dom : Nat → Prop) (f : Nat → Nat) : Prop := ∀ x, 0 < x → dom x → 2 ^ f x ∣ x ∧ (x / 2 ^ f x) % 2 = 1

theorem isCtz_halving (aux : Nat → Nat → Nat) (h0 : ∀ x, aux 0 x = 0)
    (hs : ∀ f x, 0 < x → aux (f + 1) x = if x % 2 = 1 then 0 else 1 + aux f (x / 2)) (f : Nat) :
    IsCtz (· < 2 ^ f) (aux f) := fun x hx hlt =>
  have h := ctz_by_halving aux h0 hs f x hx hlt
  ⟨h.1, h.2.1⟩

theorem isCtz_of_halving_eq (f : Nat → Nat) (hs : ∀ x, 0 < x → f x = if x % 2 = 1 then 0 else 1 + f (x / 2)) :
    IsCtz (fun _ => True) f := by
  intro x
  induction x using Nat.strongRecOn with
  | _ x ih =>
    intro hx _
    rw [hs x hx]
    split
    · rename_i h1; simp [h1]
    · obtain ⟨i1, i2⟩ := ih (x / 2) (by omega) (by omega) trivial
      rw [Nat.add_comm, pow_succ]
      constructor
      · have : x = x / 2 * 2 := by omega
        rw [this, Nat.mul_div_cancel _ (by norm_num : 0 < 2)]; exact Nat.mul_dvd_mul_right i1 2
      · rw [Nat.mul_comm, ← Nat.div_div_eq_div_mul]; exact i2

theorem pow_mul_unique {p : Nat} (hp : 2 ≤ p) (i j x y : Nat) (h : p ^ i * x = p ^ j * y)
    (hx : ¬ p ∣ x) (hy : ¬ p ∣ y) : i = j ∧ x = y := by
  have hpos : ∀ k, 0 < p ^ k := fun k => Nat.pow_pos (by omega)
  rcases Nat.lt_trichotomy i j with hl | he | hl
  · exfalso
    obtain ⟨d, rfl⟩ : ∃ d, j = i + (d + 1) := ⟨j - i - 1, by omega⟩
    rw [pow_add, Nat.mul_assoc] at h
    have := Nat.eq_of_mul_eq_mul_left (hpos i) h
    exact hx ⟨p ^ d * y, by rw [this, pow_succ]; ring⟩
  · subst he
    exact ⟨rfl, Nat.eq_of_mul_eq_mul_left (hpos i) h⟩
  · exfalso
    obtain ⟨d, rfl⟩ : ∃ d, i = j + (d + 1) := ⟨i - j - 1, by omega⟩
    rw [pow_add, Nat.mul_assoc] at h
    have := Nat.eq_of_mul_eq_mul_left (hpos j) h
    exact hy ⟨p ^ d * x, by rw [← this, pow_succ]; ring⟩

theorem two_pow_mul_odd_inj {a k q o : Nat} (hq : q % 2 = 1) (ho : o % 2 = 1) (e : 2 ^ a * q = 2 ^ k * o) : a = k :=
  (pow_mul_unique (le_refl 2) a k q o e (by omega) (by omega)).1

namespace IsCtz
variable {dom : Nat → Prop} {f : Nat → Nat} (hf : IsCtz dom f)
include hf

theorem mul_div {x : Nat} (hx : 0 < x) (hd : dom x) : 2 ^ f x * (x / 2 ^ f x) = x := Nat.mul_div_cancel' (hf x hx hd).1

theorem unique {x k o : Nat} (hx : 0 < x) (hd : dom x) (ho : o % 2 = 1) (e : x = 2 ^ k * o) : f x = k :=
  two_pow_mul_odd_inj (hf x hx hd).2 ho ((hf.mul_div hx hd).trans e)

theorem of_odd {x : Nat} (hd : dom x) (h : x % 2 = 1) : f x = 0 := hf.unique (by omega) hd h (by rw [pow_zero, Nat.one_mul])

theorem pos_of_even {x : Nat} (hx : 0 < x) (hd : dom x) (h : x % 2 = 0) : 0 < f x := by
  rcases Nat.eq_zero_or_pos (f x) with h0 | h0
  · have := (hf x hx hd).2; rw [h0, pow_zero, Nat.div_one] at this; omega
  · exact h0

theorem lt_of_lt_pow {x n : Nat} (hx : 0 < x) (hd : dom x) (h : x < 2 ^ n) : f x < n :=
  (Nat.pow_lt_pow_iff_right (by norm_num : 1 < 2)).mp (lt_of_le_of_lt (Nat.le_of_dvd hx (hf x hx hd).1) h)

theorem low {x n : Nat} (h : x % 2 ^ n ≠ 0) (hd : dom x) (hd' : dom (x % 2 ^ n)) : f (x % 2 ^ n) = f x := by
  have h0 : 0 < x % 2 ^ n := Nat.pos_of_ne_zero h
  have hx : 0 < x := Nat.pos_of_ne_zero fun e => h (by rw [e, Nat.zero_mod])
  obtain ⟨-, hodd⟩ := hf _ h0 hd'
  have h1 := hf.mul_div h0 hd'
  have hc := hf.lt_of_lt_pow h0 hd' (Nat.mod_lt _ (Nat.two_pow_pos n))
  generalize f (x % 2 ^ n) = c at *
  refine (hf.unique hx hd (o := x % 2 ^ n / 2 ^ c + 2 ^ (n - c) * (x / 2 ^ n)) ?_ ?_).symm
  · obtain ⟨j, hj⟩ : ∃ j, n - c = j + 1 := ⟨n - c - 1, by omega⟩
    rw [hj, pow_succ, Nat.mul_assoc, Nat.mul_comm (2 ^ j), Nat.mul_assoc]
    omega
  · rw [Nat.mul_add, h1, ← Nat.mul_assoc, ← Nat.pow_add, Nat.add_sub_cancel' hc.le]
    exact (Nat.mod_add_div x (2 ^ n)).symm

theorem neg {x n : Nat} (hx : 0 < x) (h : x < 2 ^ n) (hd : dom x) (hd' : dom (2 ^ n - x)) : f (2 ^ n - x) = f x := by
  obtain ⟨-, hodd⟩ := hf x hx hd
  have h1 := hf.mul_div hx hd
  have hk := hf.lt_of_lt_pow hx hd h
  generalize f x = k at *
  generalize x / 2 ^ k = o at *
  refine hf.unique (by omega) hd' (o := 2 ^ (n - k) - o) ?_ ?_
  · have hpos : o < 2 ^ (n - k) := by
      have : 2 ^ k * o < 2 ^ k * 2 ^ (n - k) := by rw [← Nat.pow_add, h1, Nat.add_sub_cancel' hk.le]; exact h
      exact Nat.lt_of_mul_lt_mul_left this
    have heven : 2 ^ (n - k) % 2 = 0 := by
      obtain ⟨j, hj⟩ : ∃ j, n - k = j + 1 := ⟨n - k - 1, by omega⟩
      rw [hj, pow_succ]; exact Nat.mul_mod_left _ _
    omega
  · rw [Nat.mul_sub, ← Nat.pow_add, h1, Nat.add_sub_cancel' hk.le]

theorem testBit {x : Nat} (hx : 0 < x) (hd : dom x) : x.testBit (f x) = true ∧ ∀ t, t < f x → x.testBit t = false := by
  obtain ⟨hdvd, hodd⟩ := hf x hx hd
  generalize f x = k at *
  refine ⟨by rw [Nat.testBit_eq_decide_div_mod_eq]; simpa using hodd, fun t ht => ?_⟩
  rw [Nat.testBit_eq_decide_div_mod_eq, decide_eq_false_iff_not]
  obtain ⟨q, hq⟩ := hdvd
  obtain ⟨j, hj⟩ : ∃ j, k = t + (j + 1) := ⟨k - t - 1, by omega⟩
  rw [hq, hj, pow_add, Nat.mul_assoc, Nat.mul_div_cancel_left _ (Nat.two_pow_pos t), pow_succ', Nat.mul_assoc,
    Nat.mul_mod_right]
  decide

end IsCtz

end Mpir

/-! ### one bit of a number: `Nat.bitwise` against `2 ^ r` (namespace `Mpir.Bits`, where Lemmas/Bits.lean and the other users expect them) -/

namespace Mpir.Bits

theorem bitwise_split (f : Bool → Bool → Bool) (hf : f false false = false) (k x y p q : Nat)
    (hx : x < 2 ^ k) (hy : y < 2 ^ k) :
    Nat.bitwise f (x + 2 ^ k * p) (y + 2 ^ k * q) = Nat.bitwise f x y + 2 ^ k * Nat.bitwise f p q := by
  have hpos : 0 < 2 ^ k := Nat.two_pow_pos k
  have h1 : Nat.bitwise f (x + 2 ^ k * p) (y + 2 ^ k * q) % 2 ^ k = Nat.bitwise f x y := by
    rw [Nat.bitwise_mod_two_pow hf, Nat.add_mul_mod_self_left, Nat.add_mul_mod_self_left,
      Nat.mod_eq_of_lt hx, Nat.mod_eq_of_lt hy]
  have h2 : Nat.bitwise f (x + 2 ^ k * p) (y + 2 ^ k * q) / 2 ^ k = Nat.bitwise f p q := by
    rw [Nat.bitwise_div_two_pow hf, Nat.add_mul_div_left _ _ hpos, Nat.add_mul_div_left _ _ hpos,
      Nat.div_eq_of_lt hx, Nat.div_eq_of_lt hy, Nat.zero_add, Nat.zero_add]
  rw [← h1, ← h2, Nat.mod_add_div]

theorem shr_mod2 (x k : Nat) : (x >>> k) % 2 = if x.testBit k then 1 else 0 := by
  rw [Nat.testBit_eq_decide_div_mod_eq, Nat.shiftRight_eq_div_pow]
  by_cases h : x / 2 ^ k % 2 = 1
  · simp [h]
  · simp [h]; omega

def bitAt (y r : Nat) : Nat := if y.testBit r then 1 else 0

theorem bitAt_lt (y r : Nat) : bitAt y r < 2 := by unfold bitAt; split <;> omega

theorem bitAt_of_set {y r : Nat} (h : y.testBit r = true) : bitAt y r = 1 := by simp [bitAt, h]

theorem bitAt_of_clear {y r : Nat} (h : y.testBit r = false) : bitAt y r = 0 := by simp [bitAt, h]

theorem bit_decomp (y r : Nat) : y = y % 2 ^ r + 2 ^ r * (bitAt y r + 2 * (y / 2 ^ (r + 1))) := by
  have h1 := (Nat.mod_add_div y (2 ^ r)).symm
  have h2 := (Nat.mod_add_div (y / 2 ^ r) 2).symm
  have h3 : y / 2 ^ r / 2 = y / 2 ^ (r + 1) := by rw [Nat.div_div_eq_div_mul, pow_succ]
  have h4 : y / 2 ^ r % 2 = bitAt y r := by
    unfold bitAt; rw [Nat.testBit_eq_decide_div_mod_eq]
    by_cases h : y / 2 ^ r % 2 = 1
    · simp [h]
    · simp [h]; omega
  rw [h3, h4] at h2
  conv_lhs => rw [h1, h2]

theorem bitwise_two_pow (f : Bool → Bool → Bool) (hf : f false false = false) (hf1 : f true false = true)
    (y r : Nat) :
    Nat.bitwise f y (2 ^ r) = y % 2 ^ r + 2 ^ r * (Nat.bitwise f (bitAt y r) 1 + 2 * (y / 2 ^ (r + 1))) := by
  have hlt : y % 2 ^ r < 2 ^ r := Nat.mod_lt _ (Nat.two_pow_pos r)
  have s1 := bitwise_split f hf r (y % 2 ^ r) 0 (bitAt y r + 2 * (y / 2 ^ (r + 1))) 1 hlt (Nat.two_pow_pos r)
  rw [← bit_decomp y r, Nat.bitwise_zero_right, if_pos hf1] at s1
  simp only [Nat.zero_add, Nat.mul_one] at s1
  have s2 := bitwise_split f hf 1 (bitAt y r) 1 (y / 2 ^ (r + 1)) 0 (by simpa using bitAt_lt y r) (by norm_num)
  rw [Nat.bitwise_zero_right, if_pos hf1] at s2
  simp only [pow_one, Nat.mul_zero, Nat.add_zero] at s2
  rw [s1, s2]

theorem bitwise_two_pow_add (f : Bool → Bool → Bool) (hf : f false false = false) (hf1 : f true false = true)
    (y r : Nat) :
    Nat.bitwise f y (2 ^ r) + 2 ^ r * bitAt y r = y + 2 ^ r * Nat.bitwise f (bitAt y r) 1 := by
  have h := bitwise_two_pow f hf hf1 y r
  have d := bit_decomp y r
  generalize bitAt y r = b at h d ⊢
  generalize y % 2 ^ r = lo at h d
  generalize y / 2 ^ (r + 1) = q at h d
  rw [h, d]; ring

theorem or_two_pow_of_set {y r : Nat} (h : y.testBit r = true) : y ||| 2 ^ r = y := by
  have := bitwise_two_pow_add or rfl rfl y r
  rw [bitAt_of_set h, show Nat.bitwise or 1 1 = 1 by simp [Nat.bitwise]] at this
  exact Nat.add_right_cancel this

theorem or_two_pow_of_clear {y r : Nat} (h : y.testBit r = false) : y ||| 2 ^ r = y + 2 ^ r := by
  have := bitwise_two_pow_add or rfl rfl y r
  rwa [bitAt_of_clear h, show Nat.bitwise or 0 1 = 1 by simp, Nat.mul_zero, Nat.add_zero, Nat.mul_one] at this

theorem xor_two_pow_of_set {y r : Nat} (h : y.testBit r = true) : y ^^^ 2 ^ r = y - 2 ^ r := by
  have := bitwise_two_pow_add bne rfl rfl y r
  rw [bitAt_of_set h, show Nat.bitwise bne 1 1 = 0 by simp [Nat.bitwise], Nat.mul_zero, Nat.add_zero, Nat.mul_one] at this
  exact Nat.eq_sub_of_add_eq this

theorem xor_two_pow_of_clear {y r : Nat} (h : y.testBit r = false) : y ^^^ 2 ^ r = y + 2 ^ r := by
  have := bitwise_two_pow_add bne rfl rfl y r
  rwa [bitAt_of_clear h, show Nat.bitwise bne 0 1 = 1 by simp, Nat.mul_zero, Nat.add_zero, Nat.mul_one] at this

theorem and_bit_ne_zero (x r : Nat) : x &&& 2 ^ r ≠ 0 ↔ x.testBit r = true := by
  rw [Nat.and_two_pow]
  have := Nat.two_pow_pos r
  cases h : x.testBit r
  · simp
  · simp

end Mpir.Bits
