/- mpn_mulmod_bnm1_next_size (gmp-impl.h:3876) over mpir_fft_adjust_limbs (fft/mulmod_2expp1.c:181), model
   Mpir.Hgcd.bnm1NextSize / fftAdjustLimbs with the constants of the pinned build: n ≤ rn < 2n for every n. -/
import Mpir.Model.Hgcd
import Mathlib.Tactic.Ring
import Mathlib.Tactic.Linarith
import Mathlib.Tactic.NormNum
import Mathlib.Tactic.IntervalCases
namespace Mpir.Mm1
open Mpir Mpir.Hgcd

local macro "clogE " x:term:max : term => `(if $x ≤ 2 then 1 else ($x - 1).log2 + 1)

/-! ### the ceiling logarithm and the two roundings of mpir_fft_adjust_limbs -/

theorem clog_unique (x d : Nat) (hd : 1 ≤ d) (hx : 3 ≤ x) (h1 : 2 ^ (d - 1) < x) (h2 : x ≤ 2 ^ d) :
    (clogE x) = d := by
  rw [if_neg (by omega)]
  have hy : x - 1 ≠ 0 := by omega
  have a : d - 1 ≤ (x - 1).log2 := (Nat.le_log2 hy).mpr (by omega)
  have b : (x - 1).log2 < d := (Nat.log2_lt hy).mpr (by omega)
  omega

theorem clog_bounds (x : Nat) (hx : 3 ≤ x) :
    2 ^ ((clogE x) - 1) < x ∧ x ≤ 2 ^ (clogE x) ∧ 2 ≤ (clogE x) := by
  rw [if_neg (by omega)]
  have hy : x - 1 ≠ 0 := by omega
  have a := Nat.log2_self_le hy
  have b := @Nat.lt_log2_self (x - 1)
  have c : 1 ≤ (x - 1).log2 := (Nat.le_log2 hy).mpr (by omega)
  refine ⟨?_, by omega, by omega⟩
  rw [Nat.add_sub_cancel]; omega

theorem ceil_bounds (x a : Nat) (ha : 0 < a) : x ≤ a * ((x + a - 1) / a) ∧ a * ((x + a - 1) / a) ≤ x + a - 1 := by
  have h := Nat.div_add_mod (x + a - 1) a
  have hr := Nat.mod_lt (x + a - 1) ha
  generalize a * ((x + a - 1) / a) = q at *
  omega

def tab19 : List Nat := [4, 3, 3, 4, 3, 3, 3, 3, 3, 2, 2, 2, 2, 2, 2, 2, 2, 1, 1]

theorem tab19_pos (i : Nat) (hi : i ≤ 18) : 1 ≤ tab19.getD i 0 := by
  interval_cases i <;> decide

/-- the two roundings of mpir_fft_adjust_limbs for the depth `D` -/
def adjCore (L D : Nat) : Nat :=
  2 ^ (D * 2) * ((2 ^ (D + 1) * ((L + 2 ^ (D + 1) - 1) / 2 ^ (D + 1)) * 64 + 2 ^ (D * 2) - 1) / 2 ^ (D * 2)) / 64

/-- the depth mpir_fft_adjust_limbs uses for operands with `2^(j−1) < limbs ≤ 2^j` (pinned MULMOD_TAB) -/
def depthOf (j : Nat) : Nat := (j + 6) / 2 - tab19.getD (min (j + 6) (19 + 11) - 12) 0

/-- the only fact about the pinned MULMOD_TAB that the bounds below use -/
theorem depthOf_le' (j : Nat) (hj : 8 ≤ j) : depthOf j + (if j < 10 then 3 else 1) ≤ (j + 6) / 2 := by
  unfold depthOf
  rcases Nat.lt_or_ge j 10 with hlt | hge
  · rcases (show j = 8 ∨ j = 9 by omega) with rfl | rfl <;> decide
  · have hoff := tab19_pos (min (j + 6) (19 + 11) - 12) (by omega)
    rw [if_neg (by omega)]
    omega

theorem adjCore_ge (L D : Nat) : L ≤ adjCore L D := by
  unfold adjCore
  have hA := Nat.two_pow_pos (D + 1)
  have hT := Nat.two_pow_pos (D * 2)
  generalize 2 ^ (D + 1) = A at *
  generalize 2 ^ (D * 2) = T at *
  have a1 := (ceil_bounds L A hA).1
  generalize A * ((L + A - 1) / A) = l2 at *
  have b1 := (ceil_bounds (l2 * 64) T hT).1
  generalize T * ((l2 * 64 + T - 1) / T) = b at *
  omega

/-- the two roundings add less than the two granules: `2^(D+1)` limbs and `2^(2D)` bits -/
theorem adjCore_add_le (L D P : Nat) (hP : 2 ^ (D * 2) ≤ 64 * P) : adjCore L D + 2 ≤ L + 2 ^ (D + 1) + P := by
  unfold adjCore
  have hA := Nat.two_pow_pos (D + 1)
  have hT := Nat.two_pow_pos (D * 2)
  generalize 2 ^ (D + 1) = A at *
  generalize 2 ^ (D * 2) = T at *
  have a2 := (ceil_bounds L A hA).2
  generalize A * ((L + A - 1) / A) = l2 at *
  have b2 := (ceil_bounds (l2 * 64) T hT).2
  generalize T * ((l2 * 64 + T - 1) / T) = b at *
  omega

/-! ### n ≤ next_size n < 2n -/

theorem adjust_eq (L : Nat) (hL : 128 < L) :
    ∃ j, 8 ≤ j ∧ 2 ^ (j - 1) < L ∧ L ≤ 2 ^ j ∧ fftAdjustLimbs 128 19 tab19 L = adjCore L (depthOf j) := by
  obtain ⟨c1, c2, c3⟩ := clog_bounds L (by omega)
  unfold fftAdjustLimbs
  rw [if_neg (by omega)]
  simp only []
  generalize hj : (clogE L) = j at *
  have hj8 : 8 ≤ j := by
    by_contra h
    have : 2 ^ j ≤ 2 ^ 7 := Nat.pow_le_pow_right (by norm_num) (by omega)
    omega
  have p5 : 2 ^ (j + 6 - 1) = 2 ^ (j - 1) * 64 := by
    rw [show j + 6 - 1 = (j - 1) + 6 by omega, pow_add]; norm_num
  have p6 : 2 ^ (j + 6) = 2 ^ j * 64 := by rw [pow_add]; norm_num
  have hpos : 0 < 2 ^ (j - 1) := Nat.two_pow_pos _
  have hjj : 2 ^ j = 2 * 2 ^ (j - 1) := by rw [← pow_succ']; congr 1; omega
  have e1 : (clogE (L * 64)) = j + 6 := clog_unique _ _ (by omega) (by omega) (by rw [p5]; omega) (by rw [p6]; omega)
  have e2 : (clogE (2 ^ j * 64)) = j + 6 := clog_unique _ _ (by omega) (by omega) (by rw [p5]; omega) (by rw [p6])
  rw [e1, e2, Nat.max_self, if_neg (by omega)]
  exact ⟨j, hj8, c1, c2, rfl⟩

/-- mpir_fft_adjust_limbs above the cutoff, pinned constants -/
theorem adjust_bounds (L : Nat) (hL : 128 < L) :
    L ≤ fftAdjustLimbs 128 19 tab19 L ∧ fftAdjustLimbs 128 19 tab19 L + 2 ≤ 2 * L := by
  obtain ⟨j, hj8, c1, c2, e⟩ := adjust_eq L hL
  rw [e]
  have hd := depthOf_le' j hj8
  have q1 : 2 ^ (depthOf j + 1) ≤ 2 ^ (j - 2) := Nat.pow_le_pow_right (by norm_num) (by split_ifs at hd <;> omega)
  have q2 : 2 ^ (depthOf j * 2) ≤ 2 ^ ((j - 2) + 6) := Nat.pow_le_pow_right (by norm_num) (by split_ifs at hd <;> omega)
  have q3 : 2 ^ ((j - 2) + 6) = 64 * 2 ^ (j - 2) := by rw [pow_add]; ring
  have q4 : 2 ^ (j - 1) = 2 * 2 ^ (j - 2) := by rw [← pow_succ']; congr 1; omega
  have := adjCore_add_le L (depthOf j) (2 ^ (j - 2)) (q3 ▸ q2)
  exact ⟨adjCore_ge L _, by omega⟩

theorem bnm1NextSize_bounds (n : Nat) (hn : 1 ≤ n) :
    n ≤ bnm1NextSize 128 19 tab19 n ∧ bnm1NextSize 128 19 tab19 n < 2 * n := by
  unfold bnm1NextSize
  by_cases h : n ≤ 2 * 128
  · rw [if_pos h]; omega
  · rw [if_neg h]
    obtain ⟨a, b⟩ := adjust_bounds ((n + 1) / 2) (by omega)
    omega

/-! ### monotonicity -/

theorem ceil_mono (x y a : Nat) (h : x ≤ y) : a * ((x + a - 1) / a) ≤ a * ((y + a - 1) / a) :=
  Nat.mul_le_mul_left _ (Nat.div_le_div_right (by omega))

theorem ceil_le_of_dvd (x M a : Nat) (ha : 0 < a) (hx : x ≤ M) (hd : a ∣ M) : a * ((x + a - 1) / a) ≤ M := by
  obtain ⟨q, rfl⟩ := hd
  apply Nat.mul_le_mul_left
  have : (x + a - 1) / a ≤ (a * q + a - 1) / a := Nat.div_le_div_right (by omega)
  have e : (a * q + a - 1) / a = q := by
    have : a * q + a - 1 = (a - 1) + a * q := by omega
    rw [this, Nat.add_mul_div_left _ _ ha, Nat.div_eq_of_lt (by omega)]; simp
  omega

theorem adjCore_mono (L1 L2 D : Nat) (h : L1 ≤ L2) : adjCore L1 D ≤ adjCore L2 D := by
  unfold adjCore
  apply Nat.div_le_div_right
  apply ceil_mono
  exact Nat.mul_le_mul_right _ (ceil_mono _ _ _ h)

theorem adjCore_le_pow (L D j : Nat) (hL : L ≤ 2 ^ j) (h1 : D + 1 ≤ j) (h2 : D * 2 ≤ j + 6) : adjCore L D ≤ 2 ^ j := by
  unfold adjCore
  have a1 := ceil_le_of_dvd L (2 ^ j) (2 ^ (D + 1)) (Nat.two_pow_pos _) hL (pow_dvd_pow 2 h1)
  have e : 2 ^ (j + 6) = 2 ^ j * 64 := by rw [pow_add]; norm_num
  have a2 := ceil_le_of_dvd (2 ^ (D + 1) * ((L + 2 ^ (D + 1) - 1) / 2 ^ (D + 1)) * 64) (2 ^ (j + 6)) (2 ^ (D * 2))
    (Nat.two_pow_pos _) (by rw [e]; exact Nat.mul_le_mul_right _ a1) (pow_dvd_pow 2 h2)
  rw [e] at a2
  exact Nat.div_le_of_le_mul (by rw [Nat.mul_comm (2 ^ j)] at a2; exact a2)

theorem depthOf_le (j : Nat) : depthOf j ≤ (j + 6) / 2 := Nat.sub_le _ _

theorem adjust_mono (L1 L2 : Nat) (h1 : 128 < L1) (h : L1 ≤ L2) :
    fftAdjustLimbs 128 19 tab19 L1 ≤ fftAdjustLimbs 128 19 tab19 L2 := by
  obtain ⟨j1, a1, a2, a3, a4⟩ := adjust_eq L1 h1
  obtain ⟨j2, b1, b2, b3, b4⟩ := adjust_eq L2 (by omega)
  rw [a4, b4]
  rcases Nat.lt_or_ge j1 j2 with hlt | hge
  · -- a power of two separates them
    have hd := depthOf_le j1
    have c1 := adjCore_le_pow L1 (depthOf j1) j1 a3 (by omega) (by omega)
    have c2 : 2 ^ j1 ≤ 2 ^ (j2 - 1) := Nat.pow_le_pow_right (by norm_num) (by omega)
    have c3 := (adjust_bounds L2 (by omega)).1
    rw [b4] at c3
    omega
  · have : j1 = j2 := by
      by_contra hne
      have hlt : j2 < j1 := by omega
      have : 2 ^ j2 ≤ 2 ^ (j1 - 1) := Nat.pow_le_pow_right (by norm_num) (by omega)
      omega
    subst this
    exact adjCore_mono L1 L2 _ h

theorem bnm1NextSize_mono (n1 n2 : Nat) (h : n1 ≤ n2) :
    bnm1NextSize 128 19 tab19 n1 ≤ bnm1NextSize 128 19 tab19 n2 := by
  rcases Nat.eq_zero_or_pos n2 with h0 | hpos
  · have : n1 = 0 := by omega
    subst this h0; exact le_refl _
  · have hb := (bnm1NextSize_bounds n2 hpos).1
    unfold bnm1NextSize at hb ⊢
    by_cases c1 : n1 ≤ 2 * 128
    · rw [if_pos c1]; omega
    · have c2 : ¬ n2 ≤ 2 * 128 := by omega
      rw [if_neg c1, if_neg c2]
      have := adjust_mono ((n1 + 1) / 2) ((n2 + 1) / 2) (by omega) (by omega)
      omega
end Mpir.Mm1
