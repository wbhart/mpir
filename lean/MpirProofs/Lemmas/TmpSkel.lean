/-
  Helper lemmas for the soundness of the TMP data-flow procedure (`Mpir.TmpSkel.balanced`) with respect to
  the path semantics of Mpir/Model/TmpSkelSem.lean.

  Every step of `round` is inflationary on the packed state and on the error flag (`Sub`, `StepLe`), so a state with
  `round nodes st = (st, false)` is left unchanged by every single step, hence `Closed`; `iterate … = true` produces such a
  fixpoint above the initial state; `xfer` on a mask covers `xferBit` on each member (finite check); then induction along a
  path: the concrete marker state at every visited node is a member of that node's mask.
-/
import Mpir.Model.TmpSkelSem
namespace Mpir.TmpSkel
open Mpir.Gen

/-- bitwise inclusion of (packed) masks -/
def Sub (a b : Nat) : Prop := a ||| b = b

theorem Sub.refl (a : Nat) : Sub a a := Nat.or_self a

theorem Sub.trans {a b c : Nat} (h1 : Sub a b) (h2 : Sub b c) : Sub a c := by
  unfold Sub at *; rw [← h2, ← Nat.or_assoc, h1]

theorem Sub.antisymm {a b : Nat} (h1 : Sub a b) (h2 : Sub b a) : a = b := by
  unfold Sub at *
  calc a = b ||| a := h2.symm
    _ = a ||| b := Nat.or_comm ..
    _ = b := h1

theorem sub_or_left (a c : Nat) : Sub a (a ||| c) := by
  unfold Sub; rw [← Nat.or_assoc, Nat.or_self]

theorem Sub.and_ne_zero {a b s : Nat} (h : Sub a b) (ha : a &&& s ≠ 0) : b &&& s ≠ 0 := by
  unfold Sub at h
  intro hb
  rw [← h, Nat.and_or_distrib_right, Nat.or_eq_zero_iff] at hb
  exact ha hb.1

theorem getMask_mono {a b : Nat} (h : Sub a b) (i : Nat) : Sub (getMask a i) (getMask b i) := by
  unfold Sub at *
  unfold getMask
  rw [← Nat.and_or_distrib_right, ← Nat.shiftRight_or_distrib, h]

theorem sub_addMask (st i m : Nat) : Sub st (addMask st i m) := sub_or_left _ _

theorem getMask_addMask (st j r : Nat) : getMask (addMask st j r) j = getMask st j ||| (r &&& 15) := by
  unfold getMask addMask
  rw [Nat.shiftRight_or_distrib, Nat.shiftLeft_shiftRight, Nat.and_or_distrib_right]

/-- if adding `r` at field `j` changes nothing then `r` (its low four bits) was already there -/
theorem sub_of_addMask_eq {st j r : Nat} (h : addMask st j r = st) : Sub (r &&& 15) (getMask st j) := by
  have := getMask_addMask st j r
  rw [h] at this
  unfold Sub; rw [Nat.or_comm]; exact this.symm

theorem getMask_entry (e : Nat) : getMask (addMask 0 e 1) e &&& 1 ≠ 0 := by
  rw [getMask_addMask]; unfold getMask; simp

/-! ### one round is inflationary; its fixpoints are closed -/

/-- a fold of steps that only go up in a preorder goes up -/
theorem foldl_infl {α β : Type} {le : α → α → Prop} (hrefl : ∀ a, le a a)
    (htrans : ∀ {a b c}, le a b → le b c → le a c) {g : α → β → α} (hg : ∀ a b, le a (g a b)) :
    ∀ (l : List β) (a : α), le a (l.foldl g a) := by
  intro l
  induction l with
  | nil => intro a; exact hrefl a
  | cons b l ih => intro a; exact htrans (hg a b) (ih _)

/-- if the order is antisymmetric, a fixpoint of the whole fold is a fixpoint of every single step -/
theorem foldl_infl_fix {α β : Type} {le : α → α → Prop} (hrefl : ∀ a, le a a)
    (htrans : ∀ {a b c}, le a b → le b c → le a c) (hanti : ∀ {a b}, le a b → le b a → a = b)
    {g : α → β → α} (hg : ∀ a b, le a (g a b)) :
    ∀ (l : List β) (a : α), l.foldl g a = a → ∀ b ∈ l, g a b = a := by
  intro l
  induction l with
  | nil => intro a _ b hb; cases hb
  | cons c l ih =>
    intro a h b hb
    rw [List.foldl_cons] at h
    have h1 : le (g a c) a := by
      have := foldl_infl hrefl htrans hg l (g a c); rw [h] at this; exact this
    have hc : g a c = a := (hanti (hg a c) h1).symm
    rw [hc] at h
    rcases List.mem_cons.1 hb with rfl | hb
    · exact hc
    · exact ih a h b hb

/-- the body of the fold in `round` -/
def stepNode (acc : Nat × Bool) (p : (Nat × List Nat) × Nat) : Nat × Bool :=
  let ((kind, succs), i) := p
  let m := getMask acc.1 i
  if m == 0 then acc else
  let r := xfer kind m
  let st' := if kind == 4 || kind == 5 then acc.1 else succs.foldl (fun s j => addMask s j r.1) acc.1
  (st', acc.2 || r.2)

theorem round_eq (nodes : List (Nat × List Nat)) (st : Nat) :
    round nodes st = (nodes.zipIdx.reverse).foldl stepNode (st, false) := rfl

/-- the order in which `round` only goes up: the packed state grows, a raised flag stays raised -/
def StepLe (a b : Nat × Bool) : Prop := Sub a.1 b.1 ∧ (a.2 = true → b.2 = true)

theorem StepLe.refl (a : Nat × Bool) : StepLe a a := ⟨Sub.refl _, id⟩

theorem StepLe.trans {a b c : Nat × Bool} (h1 : StepLe a b) (h2 : StepLe b c) : StepLe a c :=
  ⟨h1.1.trans h2.1, fun h => h2.2 (h1.2 h)⟩

theorem StepLe.antisymm {a b : Nat × Bool} (h1 : StepLe a b) (h2 : StepLe b a) : a = b := by
  refine Prod.ext (Sub.antisymm h1.1 h2.1) ?_
  cases ha : a.2 with
  | true => exact (h1.2 ha).symm
  | false =>
    cases hb : b.2 with
    | false => rfl
    | true => exact absurd (h2.2 hb) (by simp [ha])

theorem stepNode_mono (acc : Nat × Bool) (p : (Nat × List Nat) × Nat) : StepLe acc (stepNode acc p) := by
  obtain ⟨⟨kind, succs⟩, i⟩ := p
  simp only [stepNode]
  split
  · exact StepLe.refl _
  · refine ⟨?_, fun h => by simp [h]⟩
    split
    · exact Sub.refl _
    · exact foldl_infl Sub.refl Sub.trans (fun s j => sub_addMask s j _) _ _

/-- `st` is closed under the transfer function along every edge, without raising a flag -/
def Closed (f : TmpFn) (st : Nat) : Prop :=
  ∀ i kind succs, f.nodes[i]? = some (kind, succs) → getMask st i ≠ 0 →
    (xfer kind (getMask st i)).2 = false ∧
    (¬ (kind = 4 ∨ kind = 5) → ∀ j ∈ succs, Sub ((xfer kind (getMask st i)).1 &&& 15) (getMask st j))

theorem round_fix_closed {f : TmpFn} {st : Nat} (h : round f.nodes st = (st, false)) : Closed f st := by
  intro i kind succs hi hm
  rw [round_eq] at h
  have hmem : ((kind, succs), i) ∈ f.nodes.zipIdx.reverse := by
    rw [List.mem_reverse, List.mem_zipIdx_iff_getElem?]; exact hi
  have hs := foldl_infl_fix StepLe.refl StepLe.trans StepLe.antisymm stepNode_mono _ (st, false) h _ hmem
  simp only [stepNode] at hs
  have hm' : ¬ ((getMask st i == 0) = true) := by simpa using hm
  rw [if_neg hm'] at hs
  have h1 := congrArg Prod.fst hs
  have h2 := congrArg Prod.snd hs
  simp only [Bool.false_or] at h1 h2
  refine ⟨h2, fun hk j hj => ?_⟩
  have hk' : ¬ ((kind == 4 || kind == 5) = true) := by simpa using hk
  rw [if_neg hk'] at h1
  exact sub_of_addMask_eq
    (foldl_infl_fix Sub.refl Sub.trans Sub.antisymm (fun s j => sub_addMask s j _) succs st h1 j hj)

theorem round_sub (nodes : List (Nat × List Nat)) (st : Nat) : Sub st (round nodes st).1 := by
  rw [round_eq]; exact (foldl_infl StepLe.refl StepLe.trans stepNode_mono _ (st, false)).1

/-- an accepting iteration ends in a flag-free fixpoint of `round` above the initial state -/
theorem iterate_true (nodes : List (Nat × List Nat)) : ∀ (fuel st0 : Nat),
    iterate nodes fuel st0 = true → ∃ st, Sub st0 st ∧ round nodes st = (st, false) := by
  intro fuel
  induction fuel with
  | zero => intro st0 h; simp [iterate] at h
  | succ fuel ih =>
    intro st0 h
    unfold iterate at h
    simp only at h
    split at h
    · cases h
    · rename_i hflag
      split at h
      · rename_i heq
        refine ⟨st0, Sub.refl _, Prod.ext ?_ ?_⟩
        · simpa using heq
        · simpa using hflag
      · obtain ⟨st, hs, hfix⟩ := ih _ h
        exact ⟨st, (round_sub nodes st0).trans hs, hfix⟩

/-! ### the mask transfer covers the transfer of each member -/

/-- the four abstract marker states -/
def IsState (s : Nat) : Prop := s = 1 ∨ s = 2 ∨ s = 4 ∨ s = 8

theorem xferBit_other {kind : Nat} (h1 : kind ≠ 1) (h2 : kind ≠ 2) (h3 : kind ≠ 3) (h4 : kind ≠ 4) :
    xferBit kind = xferBit 0 := by
  funext s
  unfold xferBit
  split <;> first | contradiction | rfl

theorem xfer_other {kind : Nat} (h1 : kind ≠ 1) (h2 : kind ≠ 2) (h3 : kind ≠ 3) (h4 : kind ≠ 4) (m : Nat) :
    xfer kind m = xfer 0 m := by
  unfold xfer; rw [xferBit_other h1 h2 h3 h4]

theorem xfer_sound_fin (kind : Fin 5) : ∀ m : Fin 16, ∀ s ∈ [1, 2, 4, 8], m.val &&& s ≠ 0 →
    (xfer kind.val m.val).2 = false →
    (xferBit kind.val s).2 = false ∧ ((xfer kind.val m.val).1 &&& 15) &&& (xferBit kind.val s).1 ≠ 0 ∧
      (xferBit kind.val s).1 ∈ [1, 2, 4, 8] := by
  revert kind; decide

theorem xfer_sound {kind m s : Nat} (hm : m < 16) (hs : IsState s) (h : m &&& s ≠ 0)
    (hx : (xfer kind m).2 = false) :
    (xferBit kind s).2 = false ∧ ((xfer kind m).1 &&& 15) &&& (xferBit kind s).1 ≠ 0 ∧
      IsState (xferBit kind s).1 := by
  have hs' : s ∈ [1, 2, 4, 8] := by unfold IsState at hs; simp; exact hs
  have key : ∀ k : Fin 5, (xfer k.val m).2 = false →
      (xferBit k.val s).2 = false ∧ ((xfer k.val m).1 &&& 15) &&& (xferBit k.val s).1 ≠ 0 ∧
      IsState (xferBit k.val s).1 := by
    intro k hk
    have := xfer_sound_fin k ⟨m, hm⟩ s hs' h hk
    refine ⟨this.1, this.2.1, ?_⟩
    have h3 := this.2.2
    unfold IsState; simpa using h3
  by_cases h1 : kind = 1
  · subst h1; exact key ⟨1, by decide⟩ hx
  by_cases h2 : kind = 2
  · subst h2; exact key ⟨2, by decide⟩ hx
  by_cases h3 : kind = 3
  · subst h3; exact key ⟨3, by decide⟩ hx
  by_cases h4 : kind = 4
  · subst h4; exact key ⟨4, by decide⟩ hx
  rw [xfer_other h1 h2 h3 h4] at hx ⊢
  rw [xferBit_other h1 h2 h3 h4]
  exact key ⟨0, by decide⟩ hx

theorem getMask_lt (st i : Nat) : getMask st i < 16 := by
  unfold getMask
  exact Nat.lt_of_le_of_lt Nat.and_le_right (by decide)

/-! ### induction along a path -/

theorem run_safe {f : TmpFn} {st : Nat} (hc : Closed f st) : ∀ (p : List Nat) (i s : Nat),
    chain f i p = true → IsState s → getMask st i &&& s ≠ 0 → run f s (i :: p) ≠ none := by
  intro p
  induction p with
  | nil =>
    intro i s _ hs hm
    have hm0 : getMask st i ≠ 0 := by intro h0; rw [h0] at hm; simp at hm
    cases hi : f.nodes[i]? with
    | none =>
      have hkind : kindOf f i = 0 := by simp [kindOf, hi]
      simp [run, hkind, xferBit]
    | some ks =>
      obtain ⟨kind, succs⟩ := ks
      have hx := (hc i kind succs hi hm0).1
      have := (xfer_sound (getMask_lt st i) hs hm hx).1
      have hkind : kindOf f i = kind := by simp [kindOf, hi]
      simp [run, hkind, this]
  | cons j q ih =>
    intro i s hch hs hm
    have hm0 : getMask st i ≠ 0 := by intro h0; rw [h0] at hm; simp at hm
    simp only [chain, Bool.and_eq_true, List.contains_iff_mem] at hch
    obtain ⟨hj, hq⟩ := hch
    unfold succsOf at hj
    cases hi : f.nodes[i]? with
    | none => rw [hi] at hj; cases hj
    | some ks =>
      obtain ⟨kind, succs⟩ := ks
      rw [hi] at hj
      simp only at hj
      split at hj
      · cases hj
      · rename_i hk
        have hk' : ¬ (kind = 4 ∨ kind = 5) := by simpa using hk
        have hcl := hc i kind succs hi hm0
        have hx := xfer_sound (getMask_lt st i) hs hm hcl.1
        have hsub := hcl.2 hk' j hj
        have hkind : kindOf f i = kind := by simp [kindOf, hi]
        rw [run, hkind]
        simp only [hx.1]
        exact ih j _ hq hx.2.2 (hsub.and_ne_zero hx.2.1)

end Mpir.TmpSkel
