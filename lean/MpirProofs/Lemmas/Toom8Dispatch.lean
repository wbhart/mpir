/- Composition of the Toom-8.5 / Toom-8 squaring exactness theorems with the generated dispatch skeletons. -/
import MpirProofs.Lemmas.Toom8Main
import MpirProofs.Lemmas.MulLoops
namespace Mpir.Toom8
open Mpir.Skel Mpir.Gen Mpir.MulDispatch Mpir.MulLoops Mpir.MulAlgo

/-- Value computed by one recorded call of the dispatch skeletons on operand values u, v: `callValue` (Karatsuba,
    Toom-3/3.2/4.2/4/5.3) extended by Toom-8.5 and by the squarings — mpn_toom8_sqr_n by its own model, and
    mpn_kara_sqr_n / mpn_toom3_sqr_n / mpn_toom4_sqr_n by the model of the corresponding multiplication with b = a
    (what the ops of the same names are compared with on every check).  Recursive calls = exact product. -/
def callValue8 (P : Params) (e : Ev) (u v : Nat) : Option Nat :=
  match sizeArgs e with
  | [n] =>
    if e.name = "mpn_kara_sqr_n" then kara_mul_n P.SQR_KARATSUBA_THRESHOLD.toNat u u n.toNat
    else if e.name = "mpn_toom3_sqr_n" then some (toom3_mul_n (· * ·) u u n.toNat)
    else if e.name = "mpn_toom4_sqr_n" then some (toom4_mul_n (· * ·) u u n.toNat)
    else if e.name = "mpn_toom8_sqr_n" then toom8_sqr_n (fun x => x * x) u n.toNat
    else callValue P e u v
  | [an, bn] =>
    if e.name = "mpn_toom8h_mul" then toom8h_mul (· * ·) u an.toNat v bn.toNat else callValue P e u v
  | _ => none

/-- the product calls that are neither a basecase (leaf kernels, C01_leaves) nor the FFT -/
def modelled8 (e : Ev) : Bool :=
  e.name ∈ ["mpn_kara_mul_n", "mpn_toom3_mul_n", "mpn_toom4_mul_n", "mpn_toom8h_mul",
            "mpn_kara_sqr_n", "mpn_toom3_sqr_n", "mpn_toom4_sqr_n", "mpn_toom8_sqr_n"]

theorem runSqr_domain (P : Params) (hP : Valid P) (n : Nat) (hn : 1 ≤ n) (e : Ev)
    (he : e ∈ products (runSqr P n)) : domainOk P e = true :=
  (sqr_ok P hP 0 (n : Int) 2 0 (by exact_mod_cast hn)).domain he

theorem mem_products_ite {c : Prop} [Decidable c] {a b : Res} {e : Ev} (h : e ∈ products (if c then a else b)) :
    e ∈ products a ∨ e ∈ products b := by
  split at h
  · exact Or.inl h
  · exact Or.inr h

theorem runMulN_names (P : Params) (n : Nat) (e : Ev) (he : e ∈ products (runMulN P n)) :
    e.name = "mpn_mul_basecase" ∨ e.name = "mpn_mul_fft_main" ∨
    ((e.name = "mpn_kara_mul_n" ∨ e.name = "mpn_toom3_mul_n" ∨ e.name = "mpn_toom4_mul_n") ∧ sizeArgs e = [(n : Int)]) ∨
    (e.name = "mpn_toom8h_mul" ∧ sizeArgs e = [(n : Int), (n : Int)]) := by
  unfold runMulN Mpir.Gen.MulDispatch.mpn_mul_n at he
  simp only [] at he
  -- five nested tests, six branches, each recording exactly one product call
  rcases mem_products_ite he with he | he; swap
  rcases mem_products_ite he with he | he; swap
  rcases mem_products_ite he with he | he; swap
  rcases mem_products_ite he with he | he; swap
  rcases mem_products_ite he with he | he
  all_goals
    obtain rfl := List.mem_singleton.1 he
    simp [sizeArgs]

theorem runSqr_names (P : Params) (n : Nat) (e : Ev) (he : e ∈ products (runSqr P n)) :
    e.name = "mpn_mul_basecase" ∨ e.name = "mpn_sqr_basecase" ∨ e.name = "mpn_mul_fft_main" ∨
    ((e.name = "mpn_kara_sqr_n" ∨ e.name = "mpn_toom3_sqr_n" ∨ e.name = "mpn_toom4_sqr_n" ∨ e.name = "mpn_toom8_sqr_n")
      ∧ sizeArgs e = [(n : Int)]) := by
  unfold runSqr Mpir.Gen.MulDispatch.mpn_sqr at he
  simp only [] at he
  rcases mem_products_ite he with he | he; swap
  rcases mem_products_ite he with he | he; swap
  rcases mem_products_ite he with he | he; swap
  rcases mem_products_ite he with he | he; swap
  rcases mem_products_ite he with he | he; swap
  rcases mem_products_ite he with he | he
  all_goals
    obtain rfl := List.mem_singleton.1 he
    simp [sizeArgs]

/-- a multiplication call of the mpn_mul_n skeleton (one of the last two cases of `runMulN_names`) inside its domain:
    `callValue8` is the product -/
theorem callValue8_mul (P : Params) (hP : Valid P) (e : Ev) (n : Nat) (hd : domainOk P e = true)
    (h : ((e.name = "mpn_kara_mul_n" ∨ e.name = "mpn_toom3_mul_n" ∨ e.name = "mpn_toom4_mul_n") ∧ sizeArgs e = [(n : Int)]) ∨
      (e.name = "mpn_toom8h_mul" ∧ sizeArgs e = [(n : Int), (n : Int)])) (x y : Nat) :
    callValue8 P e x y = some (x * y) := by
  unfold callValue8
  rcases h with ⟨h, hs⟩ | ⟨h, hs⟩
  · have hm : modelled1 e = true := by
      unfold modelled1; rw [hs]; rcases h with h | h | h <;> simp [h]
    rw [hs]
    rcases h with h | h | h <;> simp only [h] <;>
      (simp only [String.reduceEq, if_false]; exact callValue_exact P hP e hm hd x y)
  · rw [domainOk_eq P e h hs] at hd
    have h86 := of_decide_eq_true hd
    rw [hs]
    simp only [h, if_true, Int.toNat_natCast]
    exact toom8h_mul_eq _ (fun _ _ => rfl) x n y n (le_refl _) (by omega) (by omega)

/-- a squaring call of the mpn_sqr skeleton (the last case of `runSqr_names`) inside its domain: `callValue8` is the
    square.  `h58`: the minimum the decomposition of toom8_sqr_n.c needs. -/
theorem callValue8_sqr (P : Params) (hP : Valid P) (h58 : 58 ≤ P.MPN_TOOM8_SQR_N_MINSIZE) (e : Ev) (n : Nat)
    (hd : domainOk P e = true)
    (h : (e.name = "mpn_kara_sqr_n" ∨ e.name = "mpn_toom3_sqr_n" ∨ e.name = "mpn_toom4_sqr_n" ∨ e.name = "mpn_toom8_sqr_n")
      ∧ sizeArgs e = [(n : Int)]) (x : Nat) :
    callValue8 P e x x = some (x * x) := by
  obtain ⟨h, hs⟩ := h
  unfold callValue8
  rw [hs]
  rcases h with h | h | h | h
  · rw [domainOk_eq P e h hs] at hd
    have h2 := of_decide_eq_true hd
    have hs2 := hP.sqr_kara_ge
    simp only [h, if_true, Int.toNat_natCast]
    exact kara_mul_n_eq _ (by omega) n (by omega) x x
  · simp only [h, String.reduceEq, if_false, if_true]
    exact congrArg some (toom3_mul_eq _ (fun _ _ => rfl) _ _ _ _)
  · simp only [h, String.reduceEq, if_false, if_true]
    exact congrArg some (toom4_mul_eq _ (fun _ _ => rfl) _ _ _ _)
  · rw [domainOk_eq P e h hs] at hd
    have hmin := of_decide_eq_true hd
    simp only [h, String.reduceEq, if_false, if_true, Int.toNat_natCast]
    exact toom8_sqr_n_eq _ (fun _ => rfl) x n (by omega)

end Mpir.Toom8
