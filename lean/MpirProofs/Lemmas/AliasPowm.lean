/- mpz_powm, mpz_powm_ui (operands read through pointers fetched early, the result built in TMP space and copied to r at
   `ret:`), mpz_addmul / mpz_submul, mpz_sqrt, mpz_lcm, mpz_invert on the pointer-level model (Mpir/Model/AliasPowm.lean),
   for every assignment of ids. -/
import MpirProofs.Lemmas.AliasBits
import MpirProofs.Lemmas.AliasDiv
import MpirProofs.Lemmas.AliasGcd
import MpirProofs.Lemmas.AliasMul
import MpirProofs.Lemmas.GcdExtZ
import MpirProofs.Lemmas.Redc2
import Mpir.Model.AliasPowm
namespace Mpir.AliasMem
open Mpir
open Mpir.DivZ (sizeNat siz sameSign)

/-! ### `ret:` — MPZ_REALLOC (r, rn); SIZ (r) = rn; MPN_COPY (PTR (r), rp, rn) from a TMP block -/

/-- the test `SIZ == 1 && PTR[0] == 1` (up to sign) of powm.c:88, invert.c:54 -/
theorem mag_eq_one_iff {s : St} (h : Inv s) {i : Nat} (hi : i < s.nv) {b : List Nat} (hb : s.blk (s.ptr i) = some b)
    (hl : 1 ≤ b.length) : s.mag i = 1 ↔ (s.size i).natAbs = 1 ∧ b.getD 0 0 = 1 := by
  constructor
  · intro h1
    have hs : (s.size i).natAbs = 1 := by rw [h.size_natAbs hi, h1]; decide
    exact ⟨hs, by rw [← mag_one_limb hb hs hl]; exact h1⟩
  · intro ⟨hs, h0⟩; rw [mag_one_limb hb hs hl]; exact h0

theorem powmRet_ok {s : St} (h : Inv s) {r : Nat} (hr : r < s.nv) {rp rn : Nat} {blk : List Nat}
    (hblk : s.blk rp = some blk) (hnv : ∀ i, i < s.nv → s.ptr i ≠ rp)
    (hrn : rn ≤ blk.length) (hL : Limbs (blk.take rn)) (htop : rn = 0 ∨ blk.getD (rn - 1) 0 ≠ 0) :
    ∃ s', powmRet r rp rn s = .ok s' ∧ Res s s' r ((val (blk.take rn) : Nat) : Int) ∧
      (∀ i, i < s.nv → s'.ptr i ≠ rp) := by
  have hrplt : rp < s.next := by
    by_contra hc
    rw [h.fresh rp (by omega)] at hblk; cases hblk
  have hlt : (blk.take rn).length = rn := by rw [List.length_take]; omega
  have hsz : sizeNat (val (blk.take rn)) = rn := by
    by_cases h0 : rn = 0
    · subst h0; exact DivZ.sizeNat_eq_zero.mpr rfl
    · have ht : blk.getD (rn - 1) 0 ≠ 0 := htop.resolve_left h0
      have hk : 1 ≤ rn := by omega
      have hg : (blk.take rn).getD (rn - 1) 0 ≠ 0 := by
        rw [List.getD_eq_getElem?_getD, List.getElem?_take_of_lt (by omega), ← List.getD_eq_getElem?_getD]; exact ht
      have hge := (val_top hL rn hk (by rw [hlt])).mp hg
      rw [List.take_of_length_le (by rw [hlt])] at hge
      have hlt' := val_lt _ hL
      rw [hlt] at hlt'
      exact sizeNat_eq hge hlt' hk
  obtain ⟨i1, k, a1⟩ := realloc_same h hr rn
  have hp1 : ∀ i, i < s.nv → (s.mpzRealloc r rn).ptr i ≠ rp := fun i hi => by
    rw [realloc_ptr]; split
    · omega
    · exact hnv i hi
  have hb1 : (s.mpzRealloc r rn).blk rp = some blk := (realloc_blk_o rn rp (Ne.symm (hnv r hr)) hrplt).trans hblk
  unfold powmRet
  simp only [bind, Except.bind]
  generalize s.mpzRealloc r rn = s1 at *
  obtain ⟨b, hb, hlen, hbL⟩ := i1.live r (k.lt hr)
  obtain ⟨i2, u2, v2⟩ := put_ok i1 (k.lt hr) (blk.take rn ++ b.drop (blk.take rn).length) (val (blk.take rn)) (rn : Int)
    (by rw [length_wr _ _ (by omega)]; exact hlen) (Limbs_wr hL hbL) (by rw [hsz]; rfl) (by rw [hsz]; exact a1)
    (by rw [List.take_append_of_le_length (by omega)]; exact val_take_sizeNat _)
  rw [show (s1.setSize r rn).load rp rn = s1.load rp rn from rfl, load_blk hb1 hrn]
  refine ⟨_, setSize_store hb rn (blk.take rn) (by omega), k.res (u2.res i1 (k.lt hr) i2 (v2.trans (sgnv_natCast _ _))),
    fun i hi => ?_⟩
  rw [u2.ptr]; exact hp1 i hi

/-- the result of the mpn work sits in a fresh TMP block: `ret:` and TMP_FREE -/
theorem powmTail_ok {s : St} (h : Inv s) {r : Nat} (hr : r < s.nv) (p : List Nat × Nat)
    (hrn : p.2 ≤ p.1.length) (hL : Limbs (p.1.take p.2)) (htop : p.2 = 0 ∨ p.1.getD (p.2 - 1) 0 ≠ 0) :
    ∃ s', powmTail r p s = .ok s' ∧ Res s s' r ((val (p.1.take p.2) : Nat) : Int) := by
  have hi := malloc_inv h p.1
  have he := malloc_ext h p.1
  have hne : ∀ i, i < (s.malloc p.1).2.nv → (s.malloc p.1).2.ptr i ≠ s.next := fun i hi' => by
    rw [he.ptr]; exact malloc_ne_ptr h (by rw [he.nv] at hi'; exact hi')
  obtain ⟨s1, e1, r1, p1⟩ := powmRet_ok hi (r := r) (by rw [he.nv]; exact hr) (malloc_blk_new s p.1) hne hrn hL htop
  obtain ⟨i2, n2, _, v2⟩ := free_inv r1.1 s.next (fun i hi' => p1 i (by rw [r1.2.1] at hi'; exact hi'))
  refine ⟨s1.free s.next, ?_, i2, by rw [n2, r1.2.1, he.nv], ?_, fun i hi' hir => ?_⟩
  · unfold powmTail
    simp only [bind, Except.bind, pure, Except.pure, malloc_fst]
    rw [e1]
  · rw [v2 r (by rw [r1.2.1, he.nv]; exact hr)]; exact r1.2.2.1
  · rw [v2 i (by rw [r1.2.1, he.nv]; exact hi'), r1.2.2.2 i (by rw [he.nv]; exact hi') hir, he.value h hi']

/-! ### mpz_powm (powm.c), exponent ≥ 0; mpz_powm_ui (powm_ui.c) for 1 ≤ el < 20 -/

theorem wf_facts {rp : List Nat} {rn : Nat} (h : (Powm.Res.mk rp rn).wf = true) :
    rn ≤ rp.length ∧ (rn = 0 ∨ rp.getD (rn - 1) 0 ≠ 0) := by
  unfold Powm.Res.wf at h
  simp only [Bool.or_eq_true, beq_iff_eq, Bool.and_eq_true, decide_eq_true_eq, bne_iff_ne, ne_eq] at h
  rcases h with h | h
  · exact ⟨by omega, Or.inl h⟩
  · exact ⟨h.1, Or.inr h.2⟩

theorem powmMain2_eq (bneg : Bool) (bp ep mp : List Nat) :
    powmMain2 bneg bp ep mp mp = Powm.powmMain bneg bp ep mp := by
  unfold powmMain2 Powm.powmMain
  cases bneg <;> simp

/-- powm.c:104-284 on the pointer model, the C as it is.  The value-level model works on unbounded `Nat` lists: that every
    entry of its result vector is a limb, and so can be stored, is `Powm.powmGo_Limbs`. -/
theorem powmCore_ok {s : St} (h : Inv s) {r b e m : Nat} (hr : r < s.nv) (hb : b < s.nv) (he : e < s.nv) (hm : m < s.nv)
    (hm0 : s.mag m ≠ 0) :
    ∃ s', powmCore .c r b e m (s.ptr m) (s.size m).natAbs s = .ok s' ∧
      Res s s' r ((val (Powm.powmGo (natLimbs (s.mag e)) (natLimbs (s.mag m)) (decide (s.size b < 0)) (natLimbs (s.mag b))).limbs : Nat) : Int) := by
  have hL := Powm.powmGo_Limbs (natLimbs (s.mag e)) (natLimbs (s.mag m)) (decide (s.size b < 0)) (natLimbs (s.mag b))
    (Limbs_natLimbs _) (Limbs_natLimbs _)
  have hwf := Powm.powmGo_wf (natLimbs (s.mag e)) (natLimbs (s.mag m)) (decide (s.size b < 0)) (natLimbs (s.mag b))
    (Powm.Norm_natLimbs _) (Powm.Norm_natLimbs _) (fun hc => hm0 (natLimbs_eq_nil.mp hc))
  unfold powmCore
  simp only [bind, Except.bind, pure, Except.pure]
  by_cases hb0 : (s.size b).natAbs = 0
  · rw [if_pos hb0]
    have hmb : s.mag b = 0 := h.mag_zero hb (Int.natAbs_eq_zero.mp hb0)
    obtain ⟨i1, u1, v1⟩ := setSize_zero_spec h hr
    refine ⟨_, rfl, i1, u1.nv, ?_, fun i hi hir => u1.value_o h hr hi hir⟩
    rw [v1, hmb]
    simp [Powm.powmGo, natLimbs_zero, Powm.Res.limbs]
  · rw [if_neg hb0]
    have hmb : s.mag b ≠ 0 := fun hc => hb0 (by rw [h.size_natAbs hb, hc]; rfl)
    have hbl : (natLimbs (s.mag b)).length ≠ 0 := fun hc => hmb ((natLimbs_length_eq_zero _).mp hc)
    rw [h.load_var he]; simp only []
    rw [h.load_var hm]; simp only []
    rw [h.load_var hb]; simp only []
    have e1 : val (s.limbs e) = s.mag e := rfl
    have e2 : val (s.limbs m) = s.mag m := rfl
    have e3 : val (s.limbs b) = s.mag b := rfl
    rw [e1, e2, e3]
    by_cases hE : ((natLimbs (s.mag e)).length = 1 && (natLimbs (s.mag e)).headD 0 = 1) = true
    · rw [if_pos hE]
      have hgo : Powm.powmGo (natLimbs (s.mag e)) (natLimbs (s.mag m)) (decide (s.size b < 0)) (natLimbs (s.mag b)) =
          .mk (Powm.powmE1 (decide (s.size b < 0)) (natLimbs (s.mag b)) (natLimbs (s.mag m))).1
              (Powm.powmE1 (decide (s.size b < 0)) (natLimbs (s.mag b)) (natLimbs (s.mag m))).2 := by
        unfold Powm.powmGo; simp only [hbl, if_false, hE, if_true]
      rw [hgo] at hL hwf ⊢
      obtain ⟨w1, w2⟩ := wf_facts hwf
      exact powmTail_ok h hr _ w1 hL w2
    · rw [if_neg hE]
      simp only [PowmVariant.c, if_true]
      rw [powmMain2_eq]
      have hgo : Powm.powmGo (natLimbs (s.mag e)) (natLimbs (s.mag m)) (decide (s.size b < 0)) (natLimbs (s.mag b)) =
          .mk (Powm.powmMain (decide (s.size b < 0)) (natLimbs (s.mag b)) (natLimbs (s.mag e)) (natLimbs (s.mag m))).1
              (Powm.powmMain (decide (s.size b < 0)) (natLimbs (s.mag b)) (natLimbs (s.mag e)) (natLimbs (s.mag m))).2 := by
        unfold Powm.powmGo; simp only [hbl, if_false, hE]; simp
      rw [hgo] at hL hwf ⊢
      obtain ⟨w1, w2⟩ := wf_facts hwf
      exact powmTail_ok h hr _ w1 hL w2

/-- powm.c:88-89 / powm_ui.c:139-140: `mp[0]` is read before `PTR (r)[0] = 1` is stored — r = m allowed -/
theorem powmE0_ok {s : St} (h : Inv s) {r m : Nat} (hr : r < s.nv) (hm : m < s.nv) (ha : 1 ≤ s.alloc r)
    (hm0 : s.mag m ≠ 0) :
    ∃ s', powmE0 .c r (s.ptr m) (s.size m).natAbs s = .ok s' ∧ Res s s' r (if s.mag m ≠ 1 then 1 else 0) := by
  obtain ⟨bm, hbm, hbml, -⟩ := h.live m hm
  have hn0 : (s.size m).natAbs ≠ 0 := fun hc => hm0 (h.mag_zero hm (Int.natAbs_eq_zero.mp hc))
  have hfit := h.fits m hm
  have hcond : ((s.size m).natAbs ≠ 1 ∨ bm.getD 0 0 ≠ 1) ↔ s.mag m ≠ 1 :=
    not_and_or.symm.trans (not_congr (mag_eq_one_iff h hm hbm (by omega)).symm)
  unfold powmE0
  simp only [PowmVariant.c, if_true, bind, Except.bind]
  rw [limbAt_of_blk hbm (by omega)]; simp only []
  obtain ⟨s', e, i', u, v⟩ := setOne_ok h hr ha (if (s.size m).natAbs ≠ 1 ∨ bm.getD 0 0 ≠ 1 then 1 else 0) (by split <;> decide)
  exact ⟨s', e, u.res h hr i' (v.trans (if_congr hcond rfl rfl))⟩

/-- `ha`: the `es == 0` exit stores `PTR (r)[0] = 1` without a realloc -/
theorem powm_ok_nonneg {s : St} (h : Inv s) {r b e m : Nat} (hr : r < s.nv) (hb : b < s.nv) (he : e < s.nv) (hm : m < s.nv)
    (ha : 1 ≤ s.alloc r) (hm0 : s.value m ≠ 0) (he0 : 0 ≤ s.value e) :
    ∃ s', powm r b e m s = .ok s' ∧
      Res s s' r ((val (Powm.mpz_powm (s.value b) (s.value e) (s.value m)).limbs : Nat) : Int) := by
  have hmag : s.mag m ≠ 0 := by rw [← value_natAbs]; exact Int.natAbs_ne_zero.mpr hm0
  have hn0 : (s.size m).natAbs ≠ 0 := fun hc => hmag (h.mag_zero hm (Int.natAbs_eq_zero.mp hc))
  have hlen : (natLimbs (s.mag m)).length ≠ 0 := fun hc => hmag ((natLimbs_length_eq_zero _).mp hc)
  have hval : Powm.mpz_powm (s.value b) (s.value e) (s.value m) =
      if s.value e = 0 then .mk [1] (if ((natLimbs (s.mag m)).length != 1 || (natLimbs (s.mag m)).headD 0 != 1) then 1 else 0)
      else Powm.powmGo (natLimbs (s.mag e)) (natLimbs (s.mag m)) (decide (s.value b < 0)) (natLimbs (s.mag b)) := by
    unfold Powm.mpz_powm
    simp only [value_natAbs, hlen, if_false]
    have : ¬ s.value e < 0 := by omega
    simp only [this, if_false]
  rw [hval]
  unfold powm powmV
  simp only [bind, Except.bind, pure, Except.pure]
  rw [if_neg hn0]
  by_cases hez : s.value e = 0
  · rw [if_pos ((h.size_eq_zero_iff he).mpr hez), if_pos hez]
    obtain ⟨s', e', r'⟩ := powmE0_ok h hr hm ha hmag
    refine ⟨s', e', ?_⟩
    have : ((val (Powm.Res.mk [1] (if ((natLimbs (s.mag m)).length != 1 || (natLimbs (s.mag m)).headD 0 != 1) = true then 1 else 0)).limbs : Nat) : Int)
        = (if s.mag m ≠ 1 then 1 else 0) := by
      by_cases h1 : s.mag m ≠ 1
      · rw [if_pos ((Powm.natLimbs_is_one _).mpr h1), if_pos h1]; simp [Powm.Res.limbs, val]
      · rw [if_neg (fun hx => h1 ((Powm.natLimbs_is_one _).mp hx)), if_neg h1]; simp [Powm.Res.limbs]
    rw [this]; exact r'
  · rw [if_neg (fun hc => hez ((h.size_eq_zero_iff he).mp hc)), if_neg (fun hc => by have := (h.size_neg_iff he).mp hc; omega)]
    rw [if_neg hez]
    have hd : decide (s.value b < 0) = decide (s.size b < 0) := by
      rw [decide_eq_decide]; exact (h.size_neg_iff hb).symm
    rw [hd]
    exact powmCore_ok h hr hb he hm hmag

/-- 1 ≤ el < 20: the binary algorithm of powm_ui.c itself -/
theorem powm_ui_ok_small {s : St} (h : Inv s) {r b m : Nat} (hr : r < s.nv) (hb : b < s.nv) (hm : m < s.nv)
    (el : Nat) (h1 : 1 ≤ el) (h20 : el < 20) (hm0 : s.value m ≠ 0) :
    (Powm.mpz_powm_ui (s.value b) el (s.value m) = .div0 ∧ powm_ui r b el m s = .error "div0") ∨
    ∃ s', powm_ui r b el m s = .ok s' ∧
      Res s s' r ((val (Powm.mpz_powm_ui (s.value b) el (s.value m)).limbs : Nat) : Int) := by
  have hmag : s.mag m ≠ 0 := by rw [← value_natAbs]; exact Int.natAbs_ne_zero.mpr hm0
  have hn0 : (s.size m).natAbs ≠ 0 := fun hc => hmag (h.mag_zero hm (Int.natAbs_eq_zero.mp hc))
  have hwf := (Powm.mpz_powm_ui_small (s.value b) el (s.value m) h20).2
  unfold powm_ui powm_uiV
  simp only [bind, Except.bind, pure, Except.pure]
  rw [if_pos h20, if_neg hn0, if_neg (by omega : ¬ el = 0)]
  rw [h.load_var hm]; simp only []
  rw [h.load_var hb]; simp only []
  have e1 : sgnv (s.size b) (val (s.limbs b)) = s.value b := rfl
  have e2 : sgnv (s.size m) (val (s.limbs m)) = s.value m := rfl
  rw [e1, e2]
  cases hres : Powm.mpz_powm_ui (s.value b) el (s.value m) with
  | div0 => exact Or.inl ⟨rfl, rfl⟩
  | mk rp rn =>
    have hL := Powm.mpz_powm_ui_Limbs (s.value b) el (s.value m)
    rw [hres] at hL hwf
    obtain ⟨w1, w2⟩ := wf_facts hwf
    exact Or.inr (powmTail_ok h hr (rp, rn) w1 hL w2)

/-! ### mpz_powm with a negative exponent (the local `new_b`), and every sign -/

theorem modInv_lt (a : Int) (m nb : Nat) (hm : 0 < m) (h : Powm.modInv? a m = some nb) : nb < m := by
  unfold Powm.modInv? at h
  simp only at h
  generalize Powm.xgcdAux _ _ _ _ = p at h
  obtain ⟨g, t⟩ := p
  simp only at h
  split at h
  · injection h with h
    subst h
    have h1 := Int.emod_lt_of_pos t (by exact_mod_cast hm : (0 : Int) < (m : Int))
    have h2 := Int.emod_nonneg t (by exact_mod_cast (Nat.ne_of_gt hm) : (m : Int) ≠ 0)
    omega
  · cases h

theorem mpz_invert_lt (b m : Int) (nb : Nat) (hm : m ≠ 0) (h : Powm.mpz_invert b m = some nb) : nb < m.natAbs := by
  unfold Powm.mpz_invert at h
  split at h
  · cases h
  · exact modInv_lt b _ nb (Int.natAbs_pos.mpr hm) h

theorem Vals.powmCore {n : Nat} {f : Nat → Int} {s : St} (V : Vals n f s) {r b e m : Nat} (hr : r < n) (hb : b < n)
    (he : e < n) (hm : m < n) (hm0 : f m ≠ 0) :
    Ok (powmCore .c r b e m (s.ptr m) (s.size m).natAbs s) (Vals n (Function.update f r
      ((Mpir.val (Powm.powmGo (natLimbs (f e).natAbs) (natLimbs (f m).natAbs) (decide (f b < 0)) (natLimbs (f b).natAbs)).limbs : Nat) : Int))) := by
  rw [← V.val b hb, ← V.val e he, ← V.val m hm, value_natAbs, value_natAbs, value_natAbs,
    ← decide_eq_decide.mpr (V.inv.size_neg_iff (V.lt hb))] at *
  exact V.step (powmCore_ok V.inv (V.lt hr) (V.lt hb) (V.lt he) (V.lt hm)
    (fun e => hm0 (by rw [← value_natAbs] at e; exact Int.natAbs_eq_zero.mp e)))

/-- mpz_powm with a negative exponent: `new_b` (MPZ_TMP_INIT, n + 1 limbs) receives b^-1 mod m, or DIVIDE_BY_ZERO -/
theorem powm_ok_neg {s : St} (h : Inv s) {r b e m : Nat} (hr : r < s.nv) (hb : b < s.nv) (he : e < s.nv) (hm : m < s.nv)
    (hm0 : s.value m ≠ 0) (he0 : s.value e < 0) :
    (Powm.mpz_powm (s.value b) (s.value e) (s.value m) = .div0 ∧ powm r b e m s = .error "div0") ∨
    ∃ s', powm r b e m s = .ok s' ∧
      Res s s' r ((val (Powm.mpz_powm (s.value b) (s.value e) (s.value m)).limbs : Nat) : Int) := by
  have hn0 : (s.size m).natAbs ≠ 0 := fun hc => hm0 ((h.size_eq_zero_iff hm).mp (Int.natAbs_eq_zero.mp hc))
  have hmne : natLimbs (s.value m).natAbs ≠ [] := fun hc => hm0 (Int.natAbs_eq_zero.mp (natLimbs_eq_nil.mp hc))
  have hene : s.value e ≠ 0 := by omega
  have hval : Powm.mpz_powm (s.value b) (s.value e) (s.value m) =
      match Powm.mpz_invert (s.value b) (s.value m) with
      | none => .div0
      | some nb => Powm.powmGo (natLimbs (s.value e).natAbs) (natLimbs (s.value m).natAbs) false (natLimbs nb) := by
    unfold Powm.mpz_powm
    simp only [List.length_eq_zero_iff, hmne, if_false, hene, he0, if_true]
    cases Powm.mpz_invert (s.value b) (s.value m) <;> rfl
  rw [hval]
  unfold powm powmV
  simp only [if_neg hn0, if_neg (fun hc => hene ((h.size_eq_zero_iff he).mp hc)), if_pos ((h.size_neg_iff he).mpr he0)]
  rw [h.norm b hb, h.norm m hm]
  obtain ⟨e1, V, a⟩ := (Vals.of_inv h).tmpInit ((siz (s.value m)).natAbs + 1)
  simp only [e1]
  -- left in the context, the `tmpInit` projection would be unfolded by every later `omega`
  clear e1
  have hne : ∀ {i}, i < s.nv → i ≠ s.nv := fun hi => Nat.ne_of_lt hi
  have hl : ∀ {i}, i < s.nv → i < s.nv + 1 := fun hi => Nat.lt_succ_of_lt hi
  obtain ⟨bl, hlb, evb⟩ := V.load (hl hb) (Function.update_of_ne (hne hb) ..)
  obtain ⟨ml, hlm, evm⟩ := V.load (hl hm) (Function.update_of_ne (hne hm) ..)
  rw [hlb, ok_bind, hlm, ok_bind, evb, evm]
  cases hinv : Powm.mpz_invert (s.value b) (s.value m) with
  | none => exact Or.inl ⟨rfl, rfl⟩
  | some nb =>
    refine Or.inr ((setInt_post V.inv (V.lt (Nat.lt_succ_self _)) (nb : Int) ?_).bind fun S3 p3 => ?_)
    · rw [a, Int.natAbs_natCast, DivZ.siz_natAbs]
      exact Nat.le_succ_of_le (IsSize.mono DivZ.sizeNat_le_iff (Nat.le_of_lt (mpz_invert_lt _ _ _ hm0 hinv)))
    have V3 := V.post (Nat.lt_succ_self _) p3
    rw [Function.update_idem] at V3
    -- `mp` and `n`, fetched at powm.c:73-77, are still PTR (m) and |SIZ (m)|
    rw [← (congrArg Var.ptr (p3.fr.1 m (hne hm))).trans (tmpInit_ptr s _ hm),
      ← (V3.size (hl hm)).trans (congrArg siz (Function.update_of_ne (hne hm) ..))]
    refine (V3.powmCore (hl hr) (Nat.lt_succ_self _) (hl he) (hl hm) ?_).bind fun S4 V4 =>
      Ok.pure (Vals.res hr (V4.tmpDone.congr fun i hi => ?_))
    · rwa [Function.update_of_ne (hne hm)]
    · simp only [Function.update_self, Function.update_of_ne (hne hm), Function.update_of_ne (hne he), Int.natAbs_natCast,
        Int.not_lt.mpr (Int.natCast_nonneg nb), decide_false]
      exact update_congr (Function.update_of_ne (hne hi) ..) _ _

/-- mpz_powm, every sign of the exponent: DIVIDE_BY_ZERO exactly when the value-level model raises it (negative exponent, base
    not invertible).  `hsz` (the size hypothesis of C08 `mpz_powm_spec`) is not used. -/
theorem powm_ok {s : St} (h : Inv s) {r b e m : Nat} (hr : r < s.nv) (hb : b < s.nv) (he : e < s.nv) (hm : m < s.nv)
    (ha : 1 ≤ s.alloc r) (hm0 : s.value m ≠ 0) (hsz : (s.size m).natAbs * 64 < B) :
    (Powm.mpz_powm (s.value b) (s.value e) (s.value m) = .div0 ∧ powm r b e m s = .error "div0") ∨
    ∃ s', powm r b e m s = .ok s' ∧
      Res s s' r ((val (Powm.mpz_powm (s.value b) (s.value e) (s.value m)).limbs : Nat) : Int) := by
  by_cases he0 : s.value e < 0
  · exact powm_ok_neg h hr hb he hm hm0 he0
  · exact Or.inr (powm_ok_nonneg h hr hb he hm ha hm0 (by omega))

/-! ### mpz_powm_ui (powm_ui.c), every el -/

theorem mpz_powm_ui_ne_div0 (b : Int) (el : Nat) (m : Int) (h20 : el < 20) (hm : m ≠ 0) :
    Powm.mpz_powm_ui b el m ≠ .div0 := fun e => by
  have h := (Powm.mpz_powm_ui_small b el m h20).1
  rw [e, Powm.powmSpec, if_neg hm, if_pos (Int.natCast_nonneg el)] at h
  cases h

theorem Vals.powm_nonneg {n : Nat} {f : Nat → Int} {s : St} (V : Vals n f s) {r b e m : Nat} (hr : r < n) (hb : b < n) (he : e < n) (hm : m < n)
    (ha : 1 ≤ s.alloc r) (hm0 : f m ≠ 0) (he0 : 0 ≤ f e) :
    Ok (powm r b e m s) (Vals n (Function.update f r ((Mpir.val (Powm.mpz_powm (f b) (f e) (f m)).limbs : Nat) : Int))) := by
  rw [← V.val b hb, ← V.val e he, ← V.val m hm] at *
  exact V.step (powm_ok_nonneg V.inv (V.lt hr) (V.lt hb) (V.lt he) (V.lt hm) ha hm0 he0)

/-- el = 0: the early exit; 1 ≤ el < 20: the binary algorithm of powm_ui.c; el ≥ 20: the local mpz_t and mpz_powm.
    `hel`: el is an mpir_ui; `hsz` is not used, as in `powm_ok`. -/
theorem powm_ui_ok {s : St} (h : Inv s) {r b m : Nat} (hr : r < s.nv) (hb : b < s.nv) (hm : m < s.nv)
    (el : Nat) (hel : el < B) (ha : 1 ≤ s.alloc r) (hm0 : s.value m ≠ 0) (hsz : (s.size m).natAbs * 64 < B) :
    ∃ s', powm_ui r b el m s = .ok s' ∧
      Res s s' r ((val (Powm.mpz_powm_ui (s.value b) el (s.value m)).limbs : Nat) : Int) := by
  have hmag : s.mag m ≠ 0 := by rw [← value_natAbs]; exact Int.natAbs_ne_zero.mpr hm0
  have hn0 : (s.size m).natAbs ≠ 0 := fun hc => hmag (h.mag_zero hm (Int.natAbs_eq_zero.mp hc))
  by_cases h20 : el < 20
  · by_cases h0 : el = 0
    · subst h0
      unfold powm_ui powm_uiV
      simp only [bind, Except.bind, pure, Except.pure]
      rw [if_pos h20, if_neg hn0, if_pos trivial]
      obtain ⟨s', e', r'⟩ := powmE0_ok h hr hm ha hmag
      refine ⟨s', e', ?_⟩
      have hlen : (natLimbs (s.mag m)).length ≠ 0 := fun hc => hmag ((natLimbs_length_eq_zero _).mp hc)
      have : ((val (Powm.mpz_powm_ui (s.value b) 0 (s.value m)).limbs : Nat) : Int) = (if s.mag m ≠ 1 then 1 else 0) := by
        unfold Powm.mpz_powm_ui
        simp only [value_natAbs, hlen, if_false, if_true, Nat.ofNat_pos]
        by_cases h1 : s.mag m = 1
        · rw [if_neg (not_not.mpr h1), if_pos ((Powm.natLimbs_is_one' _).mpr h1)]; rfl
        · rw [if_pos h1, if_neg (fun c => h1 ((Powm.natLimbs_is_one' _).mp c))]; rfl
      rw [this]; exact r'
    · rcases powm_ui_ok_small h hr hb hm el (by omega) h20 hm0 with hd | hok
      · exact absurd hd.1 (mpz_powm_ui_ne_div0 _ _ _ h20 hm0)
      · exact hok
  · have hval : Powm.mpz_powm_ui (s.value b) el (s.value m) = Powm.mpz_powm (s.value b) (el : Int) (s.value m) := by
      unfold Powm.mpz_powm_ui; simp only [h20, if_false]
    rw [hval]
    unfold powm_ui powm_uiV
    rw [if_neg h20]
    obtain ⟨e, V, a⟩ := (Vals.of_inv h).tmpInit 1
    simp only [e]
    clear e
    have hne : ∀ {i}, i < s.nv → i ≠ s.nv := fun hi => Nat.ne_of_lt hi
    have hl : ∀ {i}, i < s.nv → i < s.nv + 1 := fun hi => Nat.lt_succ_of_lt hi
    refine (setInt_post V.inv (V.lt (Nat.lt_succ_self _)) (el : Int)
      (by rw [a, Int.natAbs_natCast, DivZ.sizeNat_le_iff, pow_one]; exact hel)).bind fun S3 p3 => ?_
    have V3 := V.post (Nat.lt_succ_self _) p3
    refine (V3.powm_nonneg (hl hr) (hl hb) (Nat.lt_succ_self _) (hl hm)
      (Nat.le_trans (by rw [tmpInit_alloc s _ hr]; exact ha) (p3.alloc r)) ?_ ?_).bind fun S4 V4 =>
        Ok.pure (Vals.res hr (V4.tmpDone.congr fun i hi => ?_))
    · simp only [Function.update_of_ne (hne hm)]; exact hm0
    · rw [Function.update_self]; omega
    · simp only [Function.update_self, Function.update_of_ne (hne hb), Function.update_of_ne (hne hm)]
      by_cases hir : i = r
      · rw [hir, Function.update_self, Function.update_self]
      · simp only [Function.update_of_ne hir, Function.update_of_ne (hne hi)]

/-! ### mpz_addmul / mpz_submul (aorsmul.c, aorsmul_i.c) -/

theorem mpn_mul_spec {s : St} {wp up un vp vn : Nat} {bw U V : List Nat} (hbw : s.blk wp = some bw)
    (h1 : wp ≠ up) (h2 : wp ≠ vp) (hU : s.load up un = .ok U) (hV : s.load vp vn = .ok V)
    (hv1 : 1 ≤ vn) (hvu : vn ≤ un) (hlen : un + vn ≤ bw.length) :
    mpn_mul wp up un vp vn s =
      .ok (val U * val V / B ^ (un + vn - 1), s.setBlk wp (some (toLimbs (un + vn) (val U * val V) ++ bw.drop (un + vn)))) := by
  unfold mpn_mul
  have hc : ¬ (wp = up ∨ wp = vp) := by tauto
  have hsz : ¬ ¬ (1 ≤ vn ∧ vn ≤ un) := by tauto
  simp only [bind, Except.bind, pure, Except.pure, hU, hV, if_neg hc, if_neg hsz]
  unfold St.store
  rw [hbw]; simp only [toLimbs_length]
  rw [if_pos hlen]

theorem addmul_bound {W X y0 a b : Nat} (hW : W < B ^ a) (hX : X < B ^ b) (hy : y0 < B) :
    W + X * y0 < B ^ (max b a + 1) := by
  have ha := pow_le_max_r b a
  have hb := pow_le_max_l b a
  obtain ⟨p, hp⟩ : ∃ p, B ^ max b a = p + 1 := ⟨B ^ max b a - 1, by have := Nat.pow_pos (n := max b a) B_pos; omega⟩
  obtain ⟨q, hq⟩ : ∃ q, B = q + 1 := ⟨B - 1, by have := B_pos; omega⟩
  rw [pow_succ, hp]
  have hX' : X ≤ p := by omega
  have hy' : y0 ≤ q := by omega
  have := Nat.mul_le_mul hX' hy'
  have hW' : W ≤ p := by omega
  rw [hq, show (p + 1) * (q + 1) = p * q + p + q + 1 by ring]
  omega

theorem natAbs_aors_le (subm : Bool) (a b : Int) : (if subm then a - b else a + b).natAbs ≤ a.natAbs + b.natAbs := by
  cases subm
  · exact Int.natAbs_add_le a b
  · exact Int.natAbs_sub_le a b

/-- mpz_aorsmul_1 (w, x, y, sub): w = x allowed (MPZ_REALLOC first, then the pointers) -/
theorem aorsmul_1_ok {s : St} (h : Inv s) {w x : Nat} (hw : w < s.nv) (hx : x < s.nv) (y0 : Nat) (hy : y0 < B) (subm : Bool) :
    ∃ s', aorsmul_1 w x y0 subm s = .ok s' ∧
      Res s s' w (if subm then s.value w - s.value x * y0 else s.value w + s.value x * y0) := by
  unfold aorsmul_1
  simp only [bind, Except.bind, pure, Except.pure]
  by_cases h0 : s.size x = 0 ∨ y0 = 0
  · rw [if_pos h0]
    have hz : s.value x * (y0 : Int) = 0 := by
      rcases h0 with h0 | h0
      · rw [(h.size_eq_zero_iff hx).mp h0]; simp
      · rw [h0]; simp
    refine ⟨s, rfl, h, rfl, ?_, fun _ _ _ => rfl⟩
    rw [hz]; cases subm <;> simp
  · rw [if_neg h0]
    obtain ⟨i1, k, a1⟩ := realloc_same h hw (max (s.size x).natAbs (s.size w).natAbs + 1)
    have hfit : sizeNat (if subm then s.value w - s.value x * (y0 : Int) else s.value w + s.value x * (y0 : Int)).natAbs
        ≤ (s.mpzRealloc w (max (s.size x).natAbs (s.size w).natAbs + 1)).alloc w := by
      refine Nat.le_trans ((DivZ.sizeNat_le_iff _ _).mpr (Nat.lt_of_le_of_lt (natAbs_aors_le subm _ _) ?_)) a1
      rw [Int.natAbs_mul, value_natAbs, value_natAbs, Int.natAbs_natCast]
      exact addmul_bound (h.mag_lt hw) (h.mag_lt hx) hy
    obtain ⟨s', hs', hres, _⟩ := setInt_spec i1 (k.lt hw) _ hfit
    refine ⟨s', ?_, k.res hres⟩
    simp only [k.load i1 hx, k.load i1 hw]
    exact hs'

theorem aorsmul_sign (subm : Bool) (sw sx sy : Int) (W X Y : Nat) :
    (if decide (sw < 0) = true then
        -(if (((subm != decide (sy < 0)) != decide (sx < 0)) != decide (sw < 0)) = true then (W : Int) - ((X * Y : Nat) : Int)
          else (W : Int) + ((X * Y : Nat) : Int))
      else (if (((subm != decide (sy < 0)) != decide (sx < 0)) != decide (sw < 0)) = true then (W : Int) - ((X * Y : Nat) : Int)
          else (W : Int) + ((X * Y : Nat) : Int))) =
    (if subm = true then sgnv sw W - sgnv sx X * sgnv sy Y else sgnv sw W + sgnv sx X * sgnv sy Y) := by
  unfold sgnv
  by_cases h1 : sw < 0 <;> by_cases h2 : sx < 0 <;> by_cases h3 : sy < 0 <;> cases subm <;> simp [h1, h2, h3] <;> ring

theorem aorsmul_sign0 (subm : Bool) (sw sx sy : Int) (hsw : ¬ sw < 0) (X Y : Nat) :
    (if (((subm != decide (sy < 0)) != decide (sx < 0)) != decide (sw < 0)) = true then -((X * Y : Nat) : Int) else ((X * Y : Nat) : Int)) =
    (if subm = true then 0 - sgnv sx X * sgnv sy Y else 0 + sgnv sx X * sgnv sy Y) := by
  have h := aorsmul_sign subm sw sx sy 0 X Y
  rw [decide_eq_false hsw, show sgnv sw 0 = 0 from if_neg hsw] at h
  rw [← h]
  simp [hsw]

theorem aorsmul_size {X Y a b : Nat} (ha : 1 ≤ a) (hb : 1 ≤ b) (hX1 : B ^ (a - 1) ≤ X) (hX2 : X < B ^ a)
    (hY1 : B ^ (b - 1) ≤ Y) (hY2 : Y < B ^ b) :
    X * Y < B ^ (a + b) ∧ sizeNat (X * Y) = a + b - (if X * Y / B ^ (a + b - 1) = 0 then 1 else 0) :=
  have ⟨hlo, hhi⟩ := mul_size_bounds ha hb hX1 hX2 hY1 hY2
  ⟨hhi, DivZ.sizeNat_isSize.eq_sub_top (by omega) hhi fun _ => hlo⟩

/-- aorsmul.c:73-142 on the pointer model, every assignment of ids -/
theorem aorsmulGen_ok {s : St} (h : Inv s) {w x y : Nat} (hw : w < s.nv) (hx : x < s.nv) (hy : y < s.nv) (subm : Bool)
    (hx0 : s.size x ≠ 0) (hy0 : s.size y ≠ 0) (hyx : (s.size y).natAbs ≤ (s.size x).natAbs) :
    ∃ s', aorsmulGen .c (subm != decide (s.size y < 0)) w x y s = .ok s' ∧
      Res s s' w (if subm then s.value w - s.value x * s.value y else s.value w + s.value x * s.value y) := by
  unfold aorsmulGen
  simp only [bind, Except.bind, pure, Except.pure, AorsmulVariant.c, if_true]
  obtain ⟨hPlt, hPsz⟩ := aorsmul_size (by omega) (by omega) (h.mag_ge hx hx0) (h.mag_lt hx) (h.mag_ge hy hy0) (h.mag_lt hy)
  have hszle : sizeNat (s.mag x * s.mag y) ≤ (s.size x).natAbs + (s.size y).natAbs := (DivZ.sizeNat_le_iff _ _).mpr hPlt
  have eX : val (s.limbs x) = s.mag x := rfl
  have eY : val (s.limbs y) = s.mag y := rfl
  have hy1 : 1 ≤ (s.size y).natAbs := by omega
  obtain ⟨i1, k, a1⟩ := realloc_same h hw (max (s.size w).natAbs ((s.size x).natAbs + (s.size y).natAbs) + 1)
  generalize s.mpzRealloc w (max (s.size w).natAbs ((s.size x).natAbs + (s.size y).natAbs) + 1) = s1 at *
  by_cases hw0 : s.size w = 0
  · rw [if_pos hw0]
    obtain ⟨bw, hbw, hbwl, -⟩ := i1.live w (k.lt hw)
    have hwx : w ≠ x := fun e => hx0 (e ▸ hw0)
    have hwy : w ≠ y := fun e => hy0 (e ▸ hw0)
    rw [mpn_mul_spec hbw (fun e => hwx (i1.inj w x (k.lt hw) (k.lt hx) e)) (fun e => hwy (i1.inj w y (k.lt hw) (k.lt hy) e))
      (k.load i1 hx) (k.load i1 hy) hy1 hyx (by rw [hbwl]; omega)]
    simp only []
    rw [eX, eY, ← hPsz]
    obtain ⟨i2, u2, v2⟩ := put_toLimbs i1 (k.lt hw) hbw ((s.size x).natAbs + (s.size y).natAbs) (s.mag x * s.mag y) _
      (by omega) hPlt
      (natAbs_ite_neg ((((subm != decide (s.size y < 0)) != decide (s.size x < 0)) != decide (s.size w < 0)) = true) _)
    refine ⟨_, rfl, k.res (u2.res i1 (k.lt hw) i2 ?_)⟩
    have hvw : s.value w = 0 := (h.size_eq_zero_iff hw).mp hw0
    rw [v2, sgnv_ofBool _ _ _ DivZ.sizeNat_eq_zero.mp, hvw, aorsmul_sign0 subm (s.size w) _ _ (by omega)]
    rfl
  · rw [if_neg hw0]
    -- the product goes to TMP space
    have x2 := malloc_ext i1 (List.replicate ((s.size x).natAbs + (s.size y).natAbs) junk)
    rw [show (s1.tmpAlloc ((s.size x).natAbs + (s.size y).natAbs)).1 = s1.next from rfl,
      mpn_mul_spec (s := (s1.tmpAlloc ((s.size x).natAbs + (s.size y).natAbs)).2) (malloc_blk_new s1 _)
        (Ne.symm (malloc_ne_ptr i1 (k.lt hx))) (Ne.symm (malloc_ne_ptr i1 (k.lt hy))) (x2.load (k.load i1 hx))
        (x2.load (k.load i1 hy)) hy1 hyx (by rw [List.length_replicate])]
    simp only []
    rw [eX, eY, ← hPsz, show (s1.tmpAlloc ((s.size x).natAbs + (s.size y).natAbs)).2 = (s1.malloc _).2 from rfl, malloc_setBlk]
    clear x2
    generalize (List.replicate ((s.size x).natAbs + (s.size y).natAbs) junk).drop ((s.size x).natAbs + (s.size y).natAbs) = rest
    have i2 := malloc_inv i1 (toLimbs ((s.size x).natAbs + (s.size y).natAbs) (s.mag x * s.mag y) ++ rest)
    have x2 := malloc_ext i1 (toLimbs ((s.size x).natAbs + (s.size y).natAbs) (s.mag x * s.mag y) ++ rest)
    have hb2 := malloc_blk_new s1 (toLimbs ((s.size x).natAbs + (s.size y).natAbs) (s.mag x * s.mag y) ++ rest)
    generalize (s1.malloc (toLimbs ((s.size x).natAbs + (s.size y).natAbs) (s.mag x * s.mag y) ++ rest)).2 = s2 at *
    have k2 := k.trans (x2.same i1)
    rw [load_blk hb2 (by rw [List.length_append, toLimbs_length]; omega)]
    simp only []
    rw [val_take_wr _ hszle, ← x2.ptr w, k2.load i2 hw]
    simp only []
    rw [show val (s.limbs w) = s.mag w from rfl, aorsmul_sign subm (s.size w) (s.size x) (s.size y)]
    have hfit : sizeNat (if subm = true then sgnv (s.size w) (s.mag w) - sgnv (s.size x) (s.mag x) * sgnv (s.size y) (s.mag y)
        else sgnv (s.size w) (s.mag w) + sgnv (s.size x) (s.mag x) * sgnv (s.size y) (s.mag y)).natAbs ≤ s2.alloc w := by
      refine Nat.le_trans (IsSize.mono DivZ.sizeNat_le_iff (natAbs_aors_le subm _ _)) ?_
      rw [Int.natAbs_mul, sgnv_natAbs, sgnv_natAbs, sgnv_natAbs, x2.alloc]
      exact Nat.le_trans (sizeNat_add_le (Nat.lt_of_lt_of_le (h.mag_lt hw) (pow_le_max_l _ _))
        (Nat.lt_of_lt_of_le hPlt (pow_le_max_r _ _))) a1
    obtain ⟨s', hs', hres, hupd⟩ := setInt_spec i2 (k2.lt hw) _ hfit
    rw [hs']
    refine ⟨_, rfl, Res.free_list (k2.res hres) hw [s1.next] (fun p hp i hi => ?_)⟩
    rw [List.mem_singleton.mp hp, hupd.ptr, x2.ptr]
    exact malloc_ne_ptr i1 (x2.nv ▸ hres.2.1 ▸ hi)

theorem aorsmulCore_ok {s : St} (h : Inv s) {w x y : Nat} (hw : w < s.nv) (hx : x < s.nv) (hy : y < s.nv) (subm : Bool)
    (hx0 : s.size x ≠ 0) (hy0 : s.size y ≠ 0) (hyx : (s.size y).natAbs ≤ (s.size x).natAbs) :
    ∃ s', aorsmulCore .c subm w x y s = .ok s' ∧
      Res s s' w (if subm then s.value w - s.value x * s.value y else s.value w + s.value x * s.value y) := by
  unfold aorsmulCore
  simp only [bind, Except.bind]
  by_cases hy1 : (s.size y).natAbs = 1
  · rw [if_pos hy1]
    obtain ⟨b, hb, hbl, hbL⟩ := h.live y hy
    have hfy := h.fits y hy
    rw [limbAt_of_blk hb (by omega)]; simp only []
    have hmy : s.mag y = b.getD 0 0 := mag_one_limb hb hy1 (by omega)
    have hyB : b.getD 0 0 < B := by
      cases b with
      | nil => simp at hbl; omega
      | cons a as => simp; exact hbL a (by simp)
    obtain ⟨s', e', r'⟩ := aorsmul_1_ok h hw hx (b.getD 0 0) hyB (subm != decide (s.size y < 0))
    refine ⟨s', e', ?_⟩
    have hvy : s.value y = sgnv (s.size y) (s.mag y) := rfl
    have : (if (subm != decide (s.size y < 0)) = true then s.value w - s.value x * ((b.getD 0 0 : Nat) : Int)
        else s.value w + s.value x * ((b.getD 0 0 : Nat) : Int)) =
        (if subm = true then s.value w - s.value x * s.value y else s.value w + s.value x * s.value y) := by
      rw [hvy, hmy]; unfold sgnv
      by_cases h3 : s.size y < 0 <;> cases subm <;> (simp [h3]; try ring)
    rw [← this]; exact r'
  · rw [if_neg hy1]
    exact aorsmulGen_ok h hw hx hy subm hx0 hy0 hyx

/-- mpz_addmul (`subm = false`) / mpz_submul (`subm = true`) -/
theorem aorsmul_ok {s : St} (h : Inv s) {w x y : Nat} (hw : w < s.nv) (hx : x < s.nv) (hy : y < s.nv) (subm : Bool) :
    ∃ s', aorsmulV .c subm w x y s = .ok s' ∧
      Res s s' w (if subm then s.value w - s.value x * s.value y else s.value w + s.value x * s.value y) := by
  unfold aorsmulV
  simp only []
  by_cases h0 : s.size x = 0 ∨ s.size y = 0
  · rw [if_pos h0]
    have hz : s.value x * s.value y = 0 := by
      rcases h0 with h0 | h0
      · rw [(h.size_eq_zero_iff hx).mp h0]; simp
      · rw [(h.size_eq_zero_iff hy).mp h0]; simp
    refine ⟨s, rfl, h, rfl, ?_, fun _ _ _ => rfl⟩
    rw [hz]; cases subm <;> simp
  · rw [if_neg h0]
    have hx0 : s.size x ≠ 0 := fun e => h0 (Or.inl e)
    have hy0 : s.size y ≠ 0 := fun e => h0 (Or.inr e)
    by_cases hsw : (s.size y).natAbs > (s.size x).natAbs
    · rw [if_pos hsw, mul_comm (s.value x)]
      exact aorsmulCore_ok h hw hy hx subm hy0 hx0 (by omega)
    · rw [if_neg hsw]
      exact aorsmulCore_ok h hw hx hy subm hx0 hy0 (by omega)

theorem addmul_ok {s : St} (h : Inv s) {w x y : Nat} (hw : w < s.nv) (hx : x < s.nv) (hy : y < s.nv) :
    ∃ s', addmul w x y s = .ok s' ∧ Res s s' w (s.value w + s.value x * s.value y) :=
  aorsmul_ok h hw hx hy false

theorem submul_ok {s : St} (h : Inv s) {w x y : Nat} (hw : w < s.nv) (hx : x < s.nv) (hy : y < s.nv) :
    ∃ s', submul w x y s = .ok s' ∧ Res s s' w (s.value w - s.value x * s.value y) :=
  aorsmul_ok h hw hx hy true

/-! ### mpz_sqrt (sqrt.c) -/

theorem mpn_sqrt_ok {s : St} {sp np nn : Nat} {Nl bs : List Nat}
    (hN : s.load np nn = .ok Nl) (hbs : s.blk sp = some bs) (h1 : sp ≠ np) (hnn : 1 ≤ nn)
    (htop : Nl.getD (nn - 1) 0 ≠ 0) (has : (nn + 1) / 2 ≤ bs.length) :
    mpn_sqrt sp np nn s =
      .ok (s.setBlk sp (some (toLimbs ((nn + 1) / 2) (Nat.sqrt (val Nl)) ++ bs.drop ((nn + 1) / 2)))) := by
  unfold mpn_sqrt
  have hs : ¬ ¬ 1 ≤ nn := by omega
  simp only [bind, Except.bind, h1, if_false, hN, hs, htop]
  unfold St.store; rw [hbs]; simp only [toLimbs_length]; rw [if_pos has]

theorem mpz_sqrt_ok {s : St} (h : Inv s) {root op : Nat} (hr : root < s.nv) (ho : op < s.nv) (hop : 0 ≤ s.value op) :
    ∃ s', mpz_sqrt root op s = .ok s' ∧ Res s s' root (Nat.sqrt (s.value op).toNat : Int) := by
  unfold mpz_sqrt mpz_sqrtV
  simp only [SqrtVariant.c, bind, Except.bind, pure, Except.pure, true_and]
  have hsz0 : ¬ s.size op < 0 := fun e => by have := (h.size_neg_iff ho).mp e; omega
  rw [if_neg hsz0]
  by_cases hz : s.size op = 0
  · rw [if_pos hz]
    have hv0 : s.value op = 0 := (h.size_eq_zero_iff ho).mp hz
    obtain ⟨i1, u1, v1⟩ := setSize_zero_spec h hr
    refine ⟨_, rfl, i1, u1.nv, ?_, fun i hi hir => u1.value_o h hr hi hir⟩
    rw [v1, hv0]; simp
  · rw [if_neg hz]
    rw [value_of_nonneg hop, Int.toNat_natCast]
    have oN := h.normOp ho hz
    have hf := h.fits op ho
    have hl := h.load_var ho
    generalize (s.size op).natAbs = n at *
    have hRtsz : sizeNat (Nat.sqrt (s.mag op)) = (n + 1) / 2 := sqrt_size oN.ge oN.lt oN.pos
    have hRlt : Nat.sqrt (s.mag op) < B ^ ((n + 1) / 2) := hRtsz ▸ DivZ.lt_B_pow_sizeNat _
    have hsz : ((((n + 1) / 2 : Nat) : Int)).natAbs = sizeNat (Nat.sqrt (s.mag op)) := by rw [hRtsz]; rfl
    by_cases hgrow : s.alloc root < (n + 1) / 2
    · rw [if_pos hgrow]
      have hne : op ≠ root := fun e => by rw [e] at hf; omega
      have hk : decide (s.ptr root = s.ptr op) = false :=
        decide_eq_false (fun e => hne (h.inj root op hr ho e).symm)
      simp only [hk, Bool.false_eq_true, if_false]
      rw [free_newBlock]
      obtain ⟨i2, nv2, size2, val2, aV, aO, pV, pO, nx, bO⟩ := freshBlock_spec h hr ((n + 1) / 2) hgrow
      have hl2 : (s.freshBlock root ((n + 1) / 2)).load (s.ptr op) n = .ok (s.limbs op) := by
        unfold St.load at hl ⊢
        rwa [bO _ (Nat.ne_of_lt (h.lt op ho)) (fun e => hne (h.inj op root ho hr e))]
      generalize s.freshBlock root ((n + 1) / 2) = s2 at *
      have hr2 : root < s2.nv := nv2 ▸ hr
      obtain ⟨bs, hbs, hbsl, -⟩ := i2.live root hr2
      rw [mpn_sqrt_ok hl2 hbs (by rw [pV]; exact Nat.ne_of_gt (h.lt op ho)) oN.pos oN.top (by rw [hbsl, aV])]
      obtain ⟨i3, u3, v3⟩ := put_toLimbs i2 hr2 hbs ((n + 1) / 2) (Nat.sqrt (s.mag op)) (((n + 1) / 2 : Nat) : Int)
        (by rw [aV]) hRlt hsz
      exact ⟨_, rfl, i3, u3.nv.trans nv2, v3.trans (sgnv_natCast _ _), fun i hi hir =>
        (u3.value_o i2 hr2 (nv2 ▸ hi) hir).trans (val2 i hi hir)⟩
    · rw [if_neg hgrow]
      generalize hcc : decide (s.ptr root = s.ptr op) = c
      obtain ⟨q, s3, e3, i3, x3, l3, t3, f3⟩ := copyIf_spec h c hl
      rw [e3]; simp only []
      have hr3 : root < s3.nv := x3.nv ▸ hr
      obtain ⟨bs, hbs, hbsl, -⟩ := i3.live root hr3
      have hspq : s.ptr root ≠ q := by
        cases c
        · rw [(f3 rfl).1]; simpa using hcc
        · rw [(t3 rfl).1]; exact Nat.ne_of_lt (h.lt root hr)
      obtain ⟨i4, u4, v4⟩ := put_toLimbs i3 hr3 hbs ((n + 1) / 2) (Nat.sqrt (s.mag op)) (((n + 1) / 2 : Nat) : Int)
        (by rw [x3.alloc]; omega) hRlt hsz
      rw [x3.ptr root] at hbs
      rw [mpn_sqrt_ok l3 hbs hspq oN.pos oN.top (by rw [hbsl, x3.alloc]; omega)]
      simp only []
      have r4 : Res s (s3.put root (toLimbs ((n + 1) / 2) (Nat.sqrt (s.mag op)) ++ bs.drop ((n + 1) / 2)) (((n + 1) / 2 : Nat) : Int))
          root (Nat.sqrt (s.mag op) : Int) := (x3.same h).res (u4.res i3 hr3 i4 (v4.trans (sgnv_natCast _ _)))
      unfold St.put at r4 u4
      rw [x3.ptr root] at r4 u4
      cases c
      · exact ⟨_, rfl, r4⟩
      · refine ⟨_, rfl, r4.free_list hr [q] (fun p hp i hi => ?_)⟩
        rw [List.mem_singleton.mp hp, u4.ptr, x3.ptr, (t3 rfl).1]
        exact Nat.ne_of_lt (h.lt i (x3.nv ▸ u4.nv ▸ hi))

/-! ### mpz_lcm (lcm.c) -/

/-- lcm.c:50-63 (`one:`): r = u, r = v allowed — MPZ_REALLOC first, then the pointers; mpn_mul_1 in place -/
theorem lcmOne_ok {s : St} (h : Inv s) {r u v : Nat} (hr : r < s.nv) (hu : u < s.nv) (hv : v < s.nv)
    (hzu : s.size u ≠ 0) (hv1 : (s.size v).natAbs = 1) :
    ∃ s', lcmOne r u v (s.size u).natAbs s = .ok s' ∧ Res s s' r ((Nat.lcm (s.mag u) (s.mag v) : Nat) : Int) := by
  obtain ⟨i1, k, a1⟩ := realloc_same h hr ((s.size u).natAbs + 1)
  unfold lcmOne
  simp only [bind, Except.bind, pure, Except.pure]
  generalize s.mpzRealloc r ((s.size u).natAbs + 1) = s1 at *
  obtain ⟨bv, hbv, hbvl, hbvL⟩ := i1.live v (k.lt hv)
  have hfv := i1.fits v (k.lt hv); rw [k.size, hv1] at hfv
  have hmv : s.mag v = bv.getD 0 0 := by
    rw [← k.mag hv]; exact mag_one_limb hbv (by rw [k.size]; exact hv1) (by omega)
  have hx0 : 1 ≤ bv.getD 0 0 := by
    have := h.mag_ge hv (by omega); rw [hv1, hmv] at this; simpa using this
  rw [limbAt_of_blk hbv (by omega), k.load i1 hu]; simp only []
  have hgpos : 0 < Nat.gcd (val (s.limbs u)) (bv.getD 0 0) := Nat.gcd_pos_of_pos_right _ hx0
  have hy0 : 1 ≤ bv.getD 0 0 / Nat.gcd (val (s.limbs u)) (bv.getD 0 0) := Nat.div_pos (Nat.gcd_le_right _ hx0) hgpos
  obtain ⟨s', e', i', u', v'⟩ := mul1_carry_ok i1 (k.lt hr) (k.load i1 hu) (h.normOp hu hzu) hy0
    (Nat.lt_of_le_of_lt (Nat.div_le_self _ _) (getD_lt hbvL 0)) a1 false
  simp only [bind, Except.bind, pure, Except.pure, Bool.false_eq_true, if_false] at e' v'
  refine ⟨s', e', k.res (u'.res i1 (k.lt hr) i' ?_)⟩
  rw [v', ← Nat.mul_div_assoc _ (Nat.gcd_dvd_right _ _), hmv]
  rfl

theorem lcm_via (u v : Int) : ((Int.tdiv u ((Int.gcd u v : Nat) : Int)) * v).natAbs = Int.lcm u v := by
  rw [Int.natAbs_mul, Int.natAbs_tdiv, Int.natAbs_natCast]
  show u.natAbs / Nat.gcd u.natAbs v.natAbs * v.natAbs = Nat.lcm u.natAbs v.natAbs
  obtain ⟨k, hk⟩ := Nat.gcd_dvd_left u.natAbs v.natAbs
  unfold Nat.lcm
  by_cases hg : Nat.gcd u.natAbs v.natAbs = 0
  · rw [hg]; simp
  · have hgp : 0 < Nat.gcd u.natAbs v.natAbs := Nat.pos_of_ne_zero hg
    generalize Nat.gcd u.natAbs v.natAbs = g at *
    rw [hk, Nat.mul_div_cancel_left _ hgp, Nat.mul_assoc, Nat.mul_div_cancel_left _ hgp]

theorem mpz_lcm_ok {s : St} (h : Inv s) {r u v : Nat} (hr : r < s.nv) (hu : u < s.nv) (hv : v < s.nv) :
    ∃ s', mpz_lcm r u v s = .ok s' ∧ Res s s' r ((Int.lcm (s.value u) (s.value v) : Nat) : Int) := by
  have hlcm : Int.lcm (s.value u) (s.value v) = Nat.lcm (s.mag u) (s.mag v) := by
    rw [← value_natAbs, ← value_natAbs]; rfl
  unfold mpz_lcm
  by_cases h0 : s.size u = 0 ∨ s.size v = 0
  · simp only [if_pos h0]
    obtain ⟨i1, u1, v1⟩ := setSize_zero_spec h hr
    refine Ok.pure (u1.res h hr i1 ?_)
    rw [v1, hlcm]
    rcases h0 with h0 | h0
    · rw [h.mag_zero hu h0]; simp
    · rw [h.mag_zero hv h0]; simp
  · simp only [if_neg h0]
    have hu0 : s.size u ≠ 0 := fun e => h0 (Or.inl e)
    have hv0 : s.size v ≠ 0 := fun e => h0 (Or.inr e)
    by_cases hv1 : (s.size v).natAbs = 1
    · rw [if_pos hv1, hlcm]; exact lcmOne_ok h hr hu hv hu0 hv1
    · rw [if_neg hv1]
      by_cases hu1 : (s.size u).natAbs = 1
      · rw [if_pos hu1, hlcm, Nat.lcm_comm]; exact lcmOne_ok h hr hv hu hv0 hu1
      · rw [if_neg hu1]
        obtain ⟨e, V, a⟩ := (Vals.of_inv h).tmpInit (max (s.size u).natAbs (s.size v).natAbs)
        simp only [e]
        clear e
        have hne : ∀ {i}, i < s.nv → i ≠ s.nv := fun hi => Nat.ne_of_lt hi
        have hl : ∀ {i}, i < s.nv → i < s.nv + 1 := fun hi => Nat.lt_succ_of_lt hi
        have hvu : s.value u ≠ 0 := fun e => hu0 ((h.size_eq_zero_iff hu).mpr e)
        refine (V.gcd (Nat.lt_succ_self _) (hl hu) (hl hv) (by rw [a]; omega)).bind fun S3 V3 => ?_
        refine (V3.divexact (Nat.lt_succ_self _) (hl hu) (Nat.lt_succ_self _) ?_).bind fun S4 V4 => ?_
        · rw [Function.update_self, Function.update_of_ne (hne hu)]
          have := Int.gcd_pos_of_ne_zero_left (Function.update s.value s.nv 0 v) hvu
          omega
        refine (V4.mul (hl hr) (Nat.lt_succ_self _) (hl hv)).bind fun S5 V5 => ?_
        refine Ok.pure (Vals.res hr ((V5.flip (hl hr) _ (Int.natAbs_natCast _)).tmpDone.congr fun i hi => ?_))
        by_cases hir : i = r
        · subst hir
          simp only [Function.update_self, Function.update_of_ne (hne hu), Function.update_of_ne (hne hv), sgnv_natCast]
          unfold DivZ.tdivQ; rw [lcm_via]
        · simp only [Function.update_of_ne hir, Function.update_of_ne (hne hi)]

/-! ### mpz_invert (invert.c) -/

theorem var_is_one {s : St} (h : Inv s) {i : Nat} (hi : i < s.nv) {b : List Nat} (hb : s.blk (s.ptr i) = some b)
    (hl : 1 ≤ b.length) : (s.size i ≠ 1 ∨ b.getD 0 0 ≠ 1) ↔ s.value i ≠ 1 := by
  rw [← not_and_or, not_iff_not]
  constructor
  · rintro ⟨h1, h2⟩
    rw [value_eq_sgnv, h1, (mag_eq_one_iff h hi hb hl).mpr ⟨by rw [h1]; rfl, h2⟩]; rfl
  · intro hv
    exact ⟨by rw [h.norm i hi, hv]; decide, ((mag_eq_one_iff h hi hb hl).mp (by rw [← value_natAbs, hv]; rfl)).2⟩

/-- the positive representative chosen at invert.c:60-68 -/
def invertPick (c vn : Int) : Int := if c < 0 then (if vn < 0 then c - vn else c + vn) else c

/-- invert.c:46-71 on the pointer model.  `hc`: the documented contract of mpn_gcdext (as in C07 `mpz_gcdext_spec`) — used
    only for the SIZE of the gcd and of the cofactor, which must fit the `MAX (xsize, nsize) + 1` limbs of the two locals. -/
theorem invertMain_ok (hc : Gcd.MpnGcdextContract) {s : St} (h : Inv s) {inv x n : Nat} (hi : inv < s.nv) (hx : x < s.nv)
    (hn : n < s.nv) (hx0 : s.value x ≠ 0) :
    Ok (invertMain inv x n (s.size x).natAbs (s.size n).natAbs s) (fun p =>
      p.1 = decide ((Gcd.mpz_gcdext (s.value x) (s.value n)).1 = 1) ∧
      Vals s.nv (if (Gcd.mpz_gcdext (s.value x) (s.value n)).1 = 1 then
        Function.update s.value inv (invertPick (Gcd.mpz_gcdext (s.value x) (s.value n)).2.1 (s.value n)) else s.value) p.2) := by
  unfold invertMain
  have hszx : (s.size x).natAbs + 1 ≤ max (s.size x).natAbs (s.size n).natAbs + 1 := Nat.succ_le_succ (Nat.le_max_left _ _)
  have hszn : (s.size n).natAbs + 1 ≤ max (s.size x).natAbs (s.size n).natAbs + 1 := Nat.succ_le_succ (Nat.le_max_right _ _)
  have hmx := h.mag_lt hx
  have hmn := h.mag_lt hn
  rw [← value_natAbs] at hmx hmn
  obtain ⟨hg0, hgle, hcb⟩ := Gcd.gcdextOk_bounds (Gcd.mpz_gcdext_spec hc (s.value x) (s.value n)) hx0
  rw [h.norm x hx, h.norm n hn] at *
  generalize max (siz (s.value x)).natAbs (siz (s.value n)).natAbs + 1 = sz at *
  obtain ⟨e1, V1, a1⟩ := (Vals.of_inv h).tmpInit sz
  obtain ⟨e2, V2, a2⟩ := V1.tmpInit sz
  simp only [e2, e1]
  have a1' := tmpInit_alloc (s.tmpInit sz).2 sz (V1.lt (Nat.lt_succ_self _))
  rw [a1] at a1'
  clear e1 e2
  have hne : ∀ {i}, i < s.nv → i ≠ s.nv := fun hi => Nat.ne_of_lt hi
  have hne' : ∀ {i}, i < s.nv → i ≠ s.nv + 1 := fun hi => Nat.ne_of_lt (Nat.lt_succ_of_lt hi)
  have hl : ∀ {i}, i < s.nv → i < s.nv + 1 + 1 := fun hi => Nat.lt_succ_of_lt (Nat.lt_succ_of_lt hi)
  have hg : s.nv < s.nv + 1 + 1 := Nat.lt_succ_of_lt (Nat.lt_succ_self _)
  obtain ⟨xl, hlx, evx⟩ := V2.load (hl hx) ((Function.update_of_ne (hne' hx) ..).trans (Function.update_of_ne (hne hx) ..))
  obtain ⟨nl, hln, evn⟩ := V2.load (hl hn) ((Function.update_of_ne (hne' hn) ..).trans (Function.update_of_ne (hne hn) ..))
  rw [hlx, ok_bind, hln, ok_bind, evx, evn]
  generalize (Gcd.mpz_gcdext (s.value x) (s.value n)).1 = G at *
  generalize (Gcd.mpz_gcdext (s.value x) (s.value n)).2.1 = C at *
  refine (setInt_post V2.inv (V2.lt hg) G ?_).bind fun S3 p3 => ?_
  · rw [a1']
    exact Nat.le_trans ((DivZ.sizeNat_le_iff _ _).mpr (Nat.lt_of_le_of_lt hgle hmx)) (Nat.le_of_succ_le hszx)
  have V3 := V2.post hg p3
  refine (setInt_post V3.inv (V3.lt (Nat.lt_succ_self _)) C (Nat.le_trans ?_ (p3.alloc _))).bind fun S4 p4 => ?_
  · rw [a2]
    rcases hcb with hc1 | hc1
    · exact Nat.le_trans ((DivZ.sizeNat_le_iff _ _).mpr (by rw [pow_one]; exact Nat.lt_of_le_of_lt hc1 (by rw [B_eq]; decide)))
        (Nat.le_trans (Nat.le_add_left 1 _) hszn)
    · exact Nat.le_trans ((DivZ.sizeNat_le_iff _ _).mpr (Nat.lt_trans hc1 hmn)) (Nat.le_of_succ_le hszn)
  have V4 := V3.post (Nat.lt_succ_self _) p4
  rw [Function.update_comm (β := fun _ => Int) (show s.nv + 1 ≠ s.nv from Nat.succ_ne_self _) 0 G, Function.update_idem, Function.update_idem] at V4
  have rd : ∀ {i}, i < s.nv → Function.update (Function.update s.value s.nv G) (s.nv + 1) C i = s.value i := fun hi =>
    (Function.update_of_ne (hne' hi) ..).trans (Function.update_of_ne (hne hi) ..)
  have rG : Function.update (Function.update s.value s.nv G) (s.nv + 1) C s.nv = G :=
    (Function.update_of_ne (show s.nv + 1 ≠ s.nv from Nat.succ_ne_self _).symm ..).trans (Function.update_self ..)
  obtain ⟨bg, hbg, hbgl, -⟩ := V4.inv.live s.nv (V4.lt hg)
  have hag := V4.alloc_pos hg (by rw [rG]; omega)
  have hone := var_is_one V4.inv (V4.lt hg) hbg (by omega)
  rw [V4.val _ hg, rG] at hone
  rw [limbAt_of_blk hbg (by omega), ok_bind]
  by_cases hg1 : G = 1
  · rw [if_neg (fun c => hone.mp c hg1), if_pos hg1]
    refine Ok.bind (P := Vals (s.nv + 1 + 1) (Function.update (Function.update (Function.update s.value s.nv G) (s.nv + 1) C) inv
      (invertPick C (s.value n)))) ?_ fun S5 V5 =>
        Ok.pure ⟨(decide_eq_true hg1).symm, V5.tmpDone.tmpDone.congr fun i hi => update_congr (rd hi) _ _⟩
    rw [V4.size (Nat.lt_succ_self _), V4.size (hl hn), Function.update_self, rd hn]
    simp only [DivZ.siz_neg_iff]
    unfold invertPick
    split_ifs with hC hN
    · have := V4.aors (hl hi) (Nat.lt_succ_self _) (hl hn) true
      simp only [Function.update_self, rd hn, if_true] at this
      exact this
    · have := V4.aors (hl hi) (Nat.lt_succ_self _) (hl hn) false
      simp only [Function.update_self, rd hn, Bool.false_eq_true, if_false] at this
      exact this
    · have := V4.set (hl hi) (Nat.lt_succ_self _)
      rwa [Function.update_self] at this
  · rw [if_pos (hone.mpr hg1), if_neg hg1]
    exact Ok.pure ⟨(decide_eq_false hg1).symm, V4.tmpDone.tmpDone.congr fun i hi => rd hi⟩

theorem mpz_invert_pick (x n : Int) :
    Gcd.mpz_invert x n = if x = 0 ∨ n.natAbs = 1 then none else if (Gcd.mpz_gcdext x n).1 ≠ 1 then none
      else some (invertPick (Gcd.mpz_gcdext x n).2.1 n) := by
  rw [Gcd.mpz_invert_eq]; unfold invertPick; rw [apply_ite some, apply_ite some]

theorem mpz_invert_ok (hc : Gcd.MpnGcdextContract) {s : St} (h : Inv s) {inv x n : Nat} (hi : inv < s.nv) (hx : x < s.nv)
    (hn : n < s.nv) :
    match Gcd.mpz_invert (s.value x) (s.value n) with
    | none => ∃ s', mpz_invert inv x n s = .ok (false, s') ∧ Inv s' ∧ s'.nv = s.nv ∧ ∀ i, i < s.nv → s'.value i = s.value i
    | some z => ∃ s', mpz_invert inv x n s = .ok (true, s') ∧ Res s s' inv z := by
  rw [mpz_invert_pick]
  unfold mpz_invert
  by_cases hx0 : (s.size x).natAbs = 0
  · rw [if_pos hx0, if_pos (Or.inl ((h.size_eq_zero_iff hx).mp (Int.natAbs_eq_zero.mp hx0)))]
    exact ⟨s, rfl, h, rfl, fun _ _ => rfl⟩
  · rw [if_neg hx0]
    have hvx : s.value x ≠ 0 := fun e => hx0 (by rw [(h.size_eq_zero_iff hx).mpr e]; rfl)
    -- invert.c:43: `(PTR (n))[0]` is evaluated only when nsize == 1
    obtain ⟨n0, e0, hk⟩ : Ok (if (s.size n).natAbs = 1 then limbAt s (s.ptr n) 0 else pure 0)
        (fun n0 => ((s.size n).natAbs = 1 ∧ n0 = 1) ↔ (s.value n).natAbs = 1) := by
      rw [value_natAbs]
      obtain ⟨bn, hbn, hbnl, -⟩ := h.live n hn
      have hfn := h.fits n hn
      by_cases hn1 : (s.size n).natAbs = 1
      · rw [if_pos hn1, limbAt_of_blk hbn (by omega)]
        exact ⟨_, rfl, (mag_eq_one_iff h hn hbn (by omega)).symm⟩
      · rw [if_neg hn1]
        exact Ok.pure ⟨fun e => absurd e.1 hn1, fun h1 => absurd (by rw [h.size_natAbs hn, h1]; decide) hn1⟩
    rw [e0, ok_bind]
    by_cases h1 : (s.value n).natAbs = 1
    · rw [if_pos (hk.mpr h1), if_pos (Or.inr h1)]
      exact ⟨s, rfl, h, rfl, fun _ _ => rfl⟩
    · rw [if_neg (fun c => h1 (hk.mp c)), if_neg (not_or.mpr ⟨hvx, h1⟩)]
      obtain ⟨⟨_, s'⟩, e, rfl, V⟩ := invertMain_ok hc h hi hx hn hvx
      by_cases hg : (Gcd.mpz_gcdext (s.value x) (s.value n)).1 = 1
      · rw [if_neg (not_not.mpr hg)]
        rw [if_pos hg] at V
        exact ⟨s', by rw [e, decide_eq_true hg], Vals.res hi V⟩
      · rw [if_pos hg]
        rw [if_neg hg] at V
        exact ⟨s', by rw [e, decide_eq_false hg], V.inv, V.nv, V.val⟩

/- Not modelled: that the callees of mpz_lcm never reallocate its TMP-space local `g` (they do not: lcm.c:74 sizes it for
   that; `mpz_gcd_ok` / `divexact_ok` do not export the pointer of their destination). -/

/-! ### examples: b = -(2^70+5), m = 2^130+12345 (3 limbs), ids 0..3 = (spare, b, e, m) -/

-- r = m in place: (-b)^13 mod m, the correction :272-277 reads m before r is written
example : lookP (powm 3 1 2 3 (ofInts [0, -(2^70+5), 13, 2^130+12345])) 4 =
    .ok [(0, 1, 0), (-(2^70+5), 2, 1), (13, 1, 2), ((-(2^70+5)) ^ 13 % (2^130+12345), 3, 3)] := by decide +kernel
-- r = b (the block of b is too small: reallocated at `ret:` after the last read through bp)
example : lookP (powm 1 1 2 3 (ofInts [0, -(2^70+5), 13, 2^130+12345])) 4 =
    .ok [(0, 1, 0), ((-(2^70+5)) ^ 13 % (2^130+12345), 3, 5), (13, 1, 2), (2^130+12345, 3, 3)] := by decide +kernel
-- r = e
example : lookP (powm 2 1 2 3 (ofInts [0, -(2^70+5), 13, 2^130+12345])) 4 =
    .ok [(0, 1, 0), (-(2^70+5), 2, 1), ((-(2^70+5)) ^ 13 % (2^130+12345), 3, 5), (2^130+12345, 3, 3)] := by decide +kernel
-- r = b = e = m
example : lookP (powm 1 1 1 1 (ofInts [0, 2^70+1])) 2 = .ok [(0, 1, 0), (0, 2, 1)] := by decide +kernel
-- negative exponent (new_b = 3^-1 mod m in TMP space), r = m
example : lookP (powm 3 1 2 3 (ofInts [0, 3, -5, 2^130+12345])) 4 =
    .ok [(0, 1, 0), (3, 1, 1), (-5, 1, 2), (817797951777070216718562842552068466225, 3, 3)] := by decide +kernel
example : (817797951777070216718562842552068466225 * 3 ^ 5 : Int) % (2^130+12345) = 1 := by decide +kernel
-- negative exponent, base not invertible: DIVIDE_BY_ZERO
example : lookP (powm 0 1 2 3 (ofInts [0, 6, -5, 2^70*3])) 4 = .error "div0" := by decide +kernel
-- es = 0 with r = m: mp[0] is read before PTR (r)[0] = 1
example : lookP (powm 3 1 2 3 (ofInts [0, 6, 0, 7])) 4 = .ok [(0, 1, 0), (6, 1, 1), (0, 1, 2), (1, 1, 3)] := by decide +kernel
example : lookP (powm 3 1 2 3 (ofInts [0, 6, 0, -1])) 4 = .ok [(0, 1, 0), (6, 1, 1), (0, 1, 2), (0, 1, 3)] := by decide +kernel
-- NEGATIVE, `readBeforeWrite := false`: the test reads the 1 just stored, SIZ (r) = 0 — result 0 instead of 1
example : lookP (powmV { readBeforeWrite := false } 3 1 2 3 (ofInts [0, 6, 0, 7])) 4 =
    .ok [(0, 1, 0), (6, 1, 1), (0, 1, 2), (0, 1, 3)] := by decide +kernel
-- NEGATIVE, `resultInTmp := false` with r = m: the correction subtracts from the clobbered modulus — result 0
example : lookP (powmV { resultInTmp := false } 3 1 2 3 (ofInts [0, -(2^70+5), 13, 2^130+12345])) 4 =
    .ok [(0, 1, 0), (-(2^70+5), 2, 1), (13, 1, 2), (0, 3, 3)] := by decide +kernel
-- mpz_powm_ui: el < 20 (r = m), el ≥ 20 (deflection to mpz_powm through a local mpz_t, r = m), el = 0 with r = m = 1
example : lookP (powm_ui 3 1 13 3 (ofInts [0, -(2^70+5), 13, 2^130+12345])) 4 =
    .ok [(0, 1, 0), (-(2^70+5), 2, 1), (13, 1, 2), ((-(2^70+5)) ^ 13 % (2^130+12345), 3, 3)] := by decide +kernel
example : lookP (powm_ui 3 1 25 3 (ofInts [0, -(2^70+5), 13, 2^130+12345])) 4 =
    .ok [(0, 1, 0), (-(2^70+5), 2, 1), (13, 1, 2), ((-(2^70+5)) ^ 25 % (2^130+12345), 3, 3)] := by decide +kernel
example : lookP (powm_ui 3 1 0 3 (ofInts [0, 5, 13, 1])) 4 = .ok [(0, 1, 0), (5, 1, 1), (13, 1, 2), (0, 1, 3)] := by decide +kernel
example : lookP (powm_uiV { readBeforeWrite := false } 3 1 0 3 (ofInts [0, 5, 13, 7])) 4 =
    .ok [(0, 1, 0), (5, 1, 1), (13, 1, 2), (0, 1, 3)] := by decide +kernel
-- mpz_addmul / mpz_submul: w = x (block too small: reallocated first, PTR (x) fetched afterwards), w = x = y, one-limb y
example : lookP (addmul 1 1 2 (ofInts [2^100, 2^70+1, -(2^65+7)])) 3 =
    .ok [(2^100, 2, 0), ((2^70+1) + (2^70+1) * -(2^65+7), 5, 3), (-(2^65+7), 2, 2)] := by decide +kernel
example : lookP (submul 1 1 1 (ofInts [2^100, 2^70+1, -(2^65+7)])) 3 =
    .ok [(2^100, 2, 0), ((2^70+1) - (2^70+1) * (2^70+1), 5, 3), (-(2^65+7), 2, 2)] := by decide +kernel
example : lookP (submul 1 1 2 (ofInts [2^100, 2^70+1, -7])) 3 =
    .ok [(2^100, 2, 0), ((2^70+1) - (2^70+1) * -7, 3, 3), (-7, 1, 2)] := by decide +kernel
example : lookP (addmul 0 1 2 (ofInts [2^100, 2^70+1, -(2^65+7)])) 3 =
    .ok [(2^100 + (2^70+1) * -(2^65+7), 5, 3), (2^70+1, 2, 1), (-(2^65+7), 2, 2)] := by decide +kernel
-- NEGATIVE, `reallocThenPtr := false`, w = x: PTR (x) fetched before MPZ_REALLOC (w) is stale
example : lookP (aorsmulV { reallocThenPtr := false } false 1 1 2 (ofInts [2^100, 2^70+1, -(2^65+7)])) 3 =
    .error "ub:read of a freed block" := by decide +kernel
-- NEGATIVE, `productInTmp := false`: mpn_mul (wp, PTR (x), …) with w = x
example : lookP (aorsmulV { productInTmp := false } false 1 1 2 (ofInts [2^100, 2^70+1, -(2^65+7)])) 3 =
    .error "ub:mpn_mul product overlaps a factor" := by decide +kernel

-- mpz_sqrt: root = op in place (copy of op to TMP space), root too small (new block), op = 0
example : lookP (mpz_sqrt 1 1 (ofInts [0, 2^200+12345])) 2 = .ok [(0, 1, 0), (2^100, 4, 1)] := by decide +kernel
example : lookP (mpz_sqrt 0 1 (ofInts [0, 2^200+12345])) 2 = .ok [(2^100, 2, 2), (2^200+12345, 4, 1)] := by decide +kernel
example : lookP (mpz_sqrt 1 1 (ofInts [0, -5])) 2 = .error "sqrtneg" := by decide +kernel
-- NEGATIVE, `copyOp := false`: mpn_sqrtrem (root_ptr, NULL, op_ptr, n) with root_ptr == op_ptr
example : lookP (mpz_sqrtV { copyOp := false } 1 1 (ofInts [0, 2^200+12345])) 2 =
    .error "ub:mpn_sqrtrem operands overlap" := by decide +kernel
-- mpz_lcm: general case (local g) with r = u, r = v, r = u = v; one-limb arm with r = v (the limb of v read after the
-- realloc of r) and the swapped arm
example : lookP (mpz_lcm 1 1 2 (ofInts [0, 2^70*6, -(2^65*15)])) 3 =
    .ok [(0, 1, 0), (2^70*30, 3, 5), (-(2^65*15), 2, 2)] := by decide +kernel
example : lookP (mpz_lcm 2 1 2 (ofInts [0, 2^70*6, -(2^65*15)])) 3 =
    .ok [(0, 1, 0), (2^70*6, 2, 1), (2^70*30, 3, 5)] := by decide +kernel
example : lookP (mpz_lcm 1 1 1 (ofInts [0, -(2^70*6), 7])) 3 = .ok [(0, 1, 0), (2^70*6, 3, 5), (7, 1, 2)] := by decide +kernel
example : lookP (mpz_lcm 2 1 2 (ofInts [0, 2^70*6, -15])) 3 =
    .ok [(0, 1, 0), (2^70*6, 2, 1), (2^70*30, 3, 3)] := by decide +kernel
example : lookP (mpz_lcm 1 2 1 (ofInts [0, 2^70*6, -15])) 3 =
    .ok [(0, 1, 0), (2^70*30, 3, 3), (-15, 1, 2)] := by decide +kernel
-- mpz_invert: inverse = x, inverse = n (negative modulus), not invertible (nothing changes), modulus 1
example : (mpz_invert 1 1 2 (ofInts [0, 2^70+3, -(2^130+12345)])).map (fun r => (r.1, r.2.view 3)) =
    .ok (true, [(0, 1, 0), (757916649724184222326937905833495657530, 4, 5), (-(2^130+12345), 3, 2)]) := by decide +kernel
example : (mpz_invert 2 1 2 (ofInts [0, 2^70+3, -(2^130+12345)])).map (fun r => (r.1, r.2.view 3)) =
    .ok (true, [(0, 1, 0), (2^70+3, 2, 1), (757916649724184222326937905833495657530, 4, 5)]) := by decide +kernel
example : (757916649724184222326937905833495657530 * (2^70+3) : Int) % (2^130+12345) = 1 := by decide +kernel
example : (mpz_invert 2 1 2 (ofInts [0, 6, 2^70*3])).map (fun r => (r.1, r.2.view 3)) =
    .ok (false, [(0, 1, 0), (6, 1, 1), (2^70*3, 2, 2)]) := by decide +kernel
example : (mpz_invert 1 1 2 (ofInts [0, 6, 1])).map (fun r => (r.1, r.2.view 3)) =
    .ok (false, [(0, 1, 0), (6, 1, 1), (1, 1, 2)]) := by decide +kernel

end Mpir.AliasMem
