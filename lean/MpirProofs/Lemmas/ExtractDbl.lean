/- `__gmp_extract_double` (extract-dbl.c) is mirrored three times in the model: on words in Mpir/Model/Conv.lean
   (`Conv.extract_double`), on values in Mpir/Model/Mpq.lean (`Mpq.extractDouble` = `extractSplit` after `extractMant`),
   and inline in `Mpf.set_d` (Mpir/Model/Mpf.lean).  It is proved once, about the value-level mirror
   (`Mpq.extractDouble_spec`); the other two are shown to compute the same (`Conv.extract_double_value`, `Mpf.set_d_eq`). -/
import MpirProofs.Lemmas.Base
import MpirProofs.Lemmas.Arith
import Mpir.Model.Conv
import Mpir.Model.Mpq
import Mpir.Model.Mpf
namespace Mpir.Conv
open Mpir

theorem bitlen_pos {v : Nat} (h : v ≠ 0) : bitlen v = Nat.log2 v + 1 := by unfold bitlen; rw [if_neg h]

theorem bitlen_bounds {v : Nat} (h : v ≠ 0) : 2 ^ (bitlen v - 1) ≤ v ∧ v < 2 ^ bitlen v :=
  ⟨(bitCount_bounds h).1, (bitCount_bounds h).2.1⟩

theorem bitlen_eq {v k : Nat} (h1 : 2 ^ k ≤ v) (h2 : v < 2 ^ (k + 1)) : bitlen v = k + 1 := by
  have hv : v ≠ 0 := by have := Nat.two_pow_pos k; omega
  rw [bitlen_pos hv, (Nat.log2_eq_iff hv).mpr ⟨h1, h2⟩]

theorem bitlen_le_of_lt {x k : Nat} (h : x < 2 ^ k) : bitlen x ≤ k := (bitCount_le_iff x k).mpr h

theorem bitlen_add_mul {lo t : Nat} (k : Nat) (hlo : lo < 2 ^ k) (ht : t ≠ 0) : bitlen (lo + 2 ^ k * t) = k + bitlen t := by
  have hv : lo + 2 ^ k * t ≠ 0 := by
    have := Nat.mul_pos (Nat.two_pow_pos k) (Nat.pos_of_ne_zero ht); omega
  rw [bitlen_pos hv, bitlen_pos ht, log2_add_mul hlo ht, Nat.add_assoc]

theorem bitlen_mul_pow {x : Nat} (hx : x ≠ 0) (k : Nat) : bitlen (x * 2 ^ k) = bitlen x + k := by
  have := bitlen_add_mul k (Nat.two_pow_pos k) hx
  rwa [Nat.zero_add, Nat.mul_comm, Nat.add_comm] at this

theorem scale_bounds {x L n : Nat} (l : 2 ^ (L - 1) ≤ x) (u : x < 2 ^ L) (hL : 1 ≤ L) (hn : L ≤ n) :
    2 ^ (n - 1) ≤ x * 2 ^ (n - L) ∧ x * 2 ^ (n - L) < 2 ^ n := by
  have p1 : 2 ^ (L - 1) * 2 ^ (n - L) = 2 ^ (n - 1) := by rw [← pow_add]; congr 1; omega
  have p2 : 2 ^ L * 2 ^ (n - L) = 2 ^ n := by rw [← pow_add]; congr 1; omega
  exact ⟨p1 ▸ Nat.mul_le_mul_right _ l, p2 ▸ Nat.mul_lt_mul_of_pos_right u (Nat.two_pow_pos _)⟩

end Mpir.Conv

namespace Mpir.Mpq
open Mpir Mpir.Conv

/-- d·2^1074 for the finite double with exponent field `e` and fraction `f` (`Conv.dblNum` on the fields) -/
def dblNat (e f : Nat) : Nat := if e = 0 then f else (2 ^ 52 + f) * 2 ^ (e - 1)

/-- extract-dbl.c:70-76: the loop shifts the mantissa left until bit 63 is set.  The result is given in terms of the
    mantissa after the first shift (`x * 2 % B`), because that shift may drop a bit 63 that was set before. -/
theorem normDenorm_spec (fuel x : Nat) (e : Int) (hy : 0 < x * 2 % B) (hf : 64 - bitlen (x * 2 % B) ≤ fuel) :
    normDenorm (fuel + 1) x e =
      (x * 2 % B * 2 ^ (64 - bitlen (x * 2 % B)), e - 1 - ((64 - bitlen (x * 2 % B) : Nat) : Int)) := by
  generalize hY : x * 2 % B = y at *
  have ylt : y < 2 ^ 64 := by rw [← hY, ← B_eq_pow]; exact Nat.mod_lt _ B_pos
  rw [normDenorm, hY]
  by_cases c : y / 2 ^ 63 = 0
  · have c' : y < 2 ^ 63 := by omega
    have e2 : y * 2 % B = y * 2 ^ 1 := by rw [Nat.mod_eq_of_lt (by rw [B_eq_pow]; omega), pow_one]
    have h2 : bitlen (y * 2 ^ 1) = bitlen y + 1 := bitlen_mul_pow (by omega) 1
    have hb := bitlen_le_of_lt c'
    match fuel, hf with
    | 0, hf => omega
    | f + 1, hf =>
      rw [if_pos c, normDenorm_spec f y (e - 1) (by rw [e2]; omega) (by rw [e2, h2]; omega), e2, h2]
      have : 64 - bitlen y = (64 - (bitlen y + 1)) + 1 := by omega
      rw [this, pow_succ]
      refine Prod.ext ?_ ?_
      · simp only; ring
      · simp only; omega
  · have hb : bitlen y = 63 + 1 := bitlen_eq (by omega) ylt
    rw [if_neg c, hb]; simp

/-- extract-dbl.c:62-77 -/
theorem extractMant_spec (e f : Nat) (hf : f < 2 ^ 52) (hnz : ¬ (e = 0 ∧ f = 0)) :
    ∃ M ef, extractMant e f = (M, ef) ∧ 2 ^ 63 ≤ M ∧ M < 2 ^ 64 ∧ -51 ≤ ef ∧ (ef = e ∨ (e = 0 ∧ ef ≤ 0)) ∧
      M * 2 ^ (ef + 52).toNat = dblNat e f * 2 ^ 64 := by
  unfold extractMant dblNat
  dsimp only
  by_cases e0 : e = 0
  · have fnz : f ≠ 0 := fun h => hnz ⟨e0, h⟩
    rw [if_pos e0, if_pos e0]
    obtain ⟨l, u⟩ := bitlen_bounds fnz
    have hb := bitlen_le_of_lt hf
    have hb1 : 1 ≤ bitlen f := by rw [bitlen_pos fnz]; omega
    have first : (2 ^ 63 + f * 2 ^ 11) * 2 % B = f * 2 ^ 12 := by rw [B_eq_pow]; omega
    have hbl : bitlen (f * 2 ^ 12) = bitlen f + 12 := bitlen_mul_pow fnz 12
    have res : normDenorm 64 (2 ^ 63 + f * 2 ^ 11) 1 = (f * 2 ^ (64 - bitlen f), (bitlen f : Int) - 52) := by
      rw [normDenorm_spec 63 _ 1 (by rw [first]; omega) (by rw [first, hbl]; omega), first, hbl]
      have : 64 - bitlen f = 12 + (64 - (bitlen f + 12)) := by omega
      refine Prod.ext ?_ ?_
      · simp only; rw [this, pow_add]; ring
      · simp only; omega
    rw [res]
    obtain ⟨s1, s2⟩ := scale_bounds l u hb1 (show bitlen f ≤ 64 by omega)
    refine ⟨_, _, rfl, s1, s2, by omega, Or.inr ⟨e0, by omega⟩, ?_⟩
    have : ((bitlen f : Int) - 52 + 52).toNat = bitlen f := by omega
    rw [this, Nat.mul_assoc, ← pow_add]; congr 2; omega
  · rw [if_neg e0, if_neg e0]
    refine ⟨_, _, rfl, by omega, by omega, by omega, Or.inl rfl, ?_⟩
    have : ((e : Int) + 52).toNat = 11 + (e - 1) + 42 := by omega
    have t2 : (2 : Nat) ^ 64 = 2 ^ 11 * 2 ^ 11 * 2 ^ 42 := by norm_num
    rw [this, pow_add, pow_add, t2]
    have : 2 ^ 63 + f * 2 ^ 11 = (2 ^ 52 + f) * 2 ^ 11 := by ring
    rw [this]; ring

/-- `tp·B^(ex-2) = d` exactly, written without negative exponents through d·2^1074 = `dblNat` -/
theorem extractDouble_spec (e f : Nat) (hf : f < 2 ^ 52) (hnz : ¬ (e = 0 ∧ f = 0)) :
    ∃ tp ex, extractDouble e f = (tp, ex) ∧ B ≤ tp ∧ tp < B * B ∧ -16 ≤ ex ∧
      tp * 2 ^ (64 * ex + 1074).toNat = dblNat e f * 2 ^ 128 ∧
      (e < 2047 → ex ≤ 16) ∧ (1023 ≤ e → 1 ≤ ex) ∧ (e < 1023 → ex ≤ 0) := by
  obtain ⟨M, ef, hn, m1, m2, f1, f3, hv⟩ := extractMant_spec e f hf hnz
  unfold extractDouble extractSplit
  rw [hn]
  dsimp only
  -- ef - 1022 + 4096 = 64·(Q + 63) + sc with 0 ≤ sc < 64; all that follows needs of ef, Q and sc is in `hQ`
  obtain ⟨Q, sc, eq, es, hQ⟩ : ∃ (Q : Int) (sc : Nat), (ef - 1022 + 4096) / 64 = Q + 63 ∧
      ((ef - 1022 + 4096) % 64).toNat = sc ∧ ef + 52 = 64 * Q + sc + 1010 ∧ sc < 64 ∧ -16 ≤ Q ∧
      (sc ≠ 0 → (e < 2047 → Q ≤ 16) ∧ (1023 ≤ e → 1 ≤ Q) ∧ (e < 1023 → Q ≤ 0)) ∧
      (sc = 0 → -15 ≤ Q ∧ (e < 2047 → Q ≤ 17) ∧ (1023 ≤ e → 2 ≤ Q) ∧ (e < 1023 → Q ≤ 1)) :=
    ⟨_, _, (sub_add_cancel _ _).symm, rfl, by omega⟩
  obtain ⟨hef, hsc1, q1, qc, qz⟩ := hQ
  rw [eq, es]
  clear eq es hn f3
  have hBB : B * B = 2 ^ 64 * 2 ^ 64 := by rw [B_eq_pow]
  by_cases c : sc ≠ 0
  · obtain ⟨q2, q3, q4⟩ := qc c
    rw [if_pos c]
    have hB : B = 2 ^ (64 - sc) * 2 ^ sc := by rw [← pow_add, B_eq_pow]; congr 1; omega
    have split : M / 2 ^ (64 - sc) * B + M * 2 ^ sc % B = M * 2 ^ sc := by
      conv_lhs => rw [hB, Nat.mul_mod_mul_right, ← Nat.mul_assoc, ← Nat.add_mul, Nat.mul_comm (M / _), Nat.div_add_mod]
    have hsc : 2 ≤ 2 ^ sc := by
      calc 2 = 2 ^ 1 := rfl
        _ ≤ 2 ^ sc := Nat.pow_le_pow_right (by decide) (by omega)
    have hsc' : 2 ^ sc ≤ 2 ^ 64 := Nat.pow_le_pow_right (by decide) (by omega)
    refine ⟨_, _, rfl, ?_, ?_, by omega, ?_, fun h => by have := q2 h; omega, fun h => by have := q3 h; omega,
      fun h => by have := q4 h; omega⟩
    · rw [split, B_eq_pow]
      calc 2 ^ 64 = 2 ^ 63 * 2 := by norm_num
        _ ≤ M * 2 ^ sc := Nat.mul_le_mul m1 hsc
    · rw [split, hBB]
      calc M * 2 ^ sc < 2 ^ 64 * 2 ^ sc := Nat.mul_lt_mul_of_pos_right m2 (Nat.two_pow_pos _)
        _ ≤ 2 ^ 64 * 2 ^ 64 := Nat.mul_le_mul_left _ hsc'
    · have ex1 : (64 * (Q + 63 - 64 + 1) + 1074).toNat + sc = (ef + 52).toNat + 64 := by omega
      rw [split]
      calc M * 2 ^ sc * 2 ^ (64 * (Q + 63 - 64 + 1) + 1074).toNat
          = M * 2 ^ ((64 * (Q + 63 - 64 + 1) + 1074).toNat + sc) := by rw [pow_add]; ring
        _ = M * 2 ^ (ef + 52).toNat * 2 ^ 64 := by rw [ex1, pow_add]; ring
        _ = dblNat e f * 2 ^ 128 := by rw [hv]; ring
  · obtain ⟨q0, q2, q3, q4⟩ := qz (not_not.mp c)
    rw [if_neg c]
    refine ⟨_, _, rfl, Nat.le_mul_of_pos_left _ (by omega), by rw [B_eq_pow] at *; exact Nat.mul_lt_mul_of_pos_right m2 (by norm_num),
      by omega, ?_, fun h => by have := q2 h; omega, fun h => by have := q3 h; omega, fun h => by have := q4 h; omega⟩
    have ex1 : (64 * (Q + 63 - 64 + 1 - 1) + 1074).toNat = (ef + 52).toNat := by omega
    rw [ex1, Nat.mul_right_comm, hv, B_eq_pow]; ring

end Mpir.Mpq

namespace Mpir.Conv
open Mpir

theorem denormLoop_eq : ∀ (fuel m : Nat) (e : Int), denormLoop fuel m e = Mpq.normDenorm fuel m e
  | 0, _, _ => rfl
  | fuel + 1, m, e => by
    have hlt : m * 2 % B < 2 ^ 64 := by rw [← B_eq_pow]; exact Nat.mod_lt _ B_pos
    have hc : (m * 2 % B &&& 2 ^ 63 = 0) ↔ (m * 2 % B / 2 ^ 63 = 0) := by
      rw [← not_iff_not, ← Ne, Bits.and_bit_ne_zero, Nat.testBit_eq_decide_div_mod_eq, decide_eq_true_iff]; omega
    rw [denormLoop, Mpq.normDenorm]
    simp only [Nat.shiftLeft_eq, pow_one]
    by_cases c : m * 2 % B / 2 ^ 63 = 0
    · rw [if_pos c, if_pos (hc.mpr c), denormLoop_eq fuel]
    · rw [if_neg c, if_neg (mt hc.mp c)]

theorem manl_eq (b : Nat) :
    2 ^ 63 ||| ((b / 2 ^ 32 % 2 ^ 20) <<< 43) ||| ((b % 2 ^ 32) <<< 11) = 2 ^ 63 + manOf b * 2 ^ 11 := by
  have h1 : (b % 2 ^ 32) <<< 11 < 2 ^ 43 := by rw [Nat.shiftLeft_eq]; omega
  have h2 : (b / 2 ^ 32 % 2 ^ 20) <<< 43 + (b % 2 ^ 32) <<< 11 < 2 ^ 63 := by
    rw [Nat.shiftLeft_eq, Nat.shiftLeft_eq]; omega
  rw [Nat.or_assoc, ← Nat.shiftLeft_add_eq_or_of_lt h1]
  have := Nat.two_pow_add_eq_or_of_lt h2 1
  rw [Nat.mul_one] at this
  rw [← this, Nat.shiftLeft_eq, Nat.shiftLeft_eq]
  unfold manOf; omega

/-- extract-dbl.c:99-165 on words and on values -/
theorem split_value (M : Nat) (ex : Int) :
    (if ((ex - 1022 + 64 * 64) % 64).toNat ≠ 0 then
        ((M <<< ((ex - 1022 + 64 * 64) % 64).toNat) % B, M >>> (64 - ((ex - 1022 + 64 * 64) % 64).toNat),
          (ex - 1022 + 64 * 64) / 64 - 64 + 1)
      else (0, M, (ex - 1022 + 64 * 64) / 64 - 64 + 1 - 1)) =
    ((Mpq.extractSplit M ex).1 % B, (Mpq.extractSplit M ex).1 / B, (Mpq.extractSplit M ex).2) := by
  have hB := B_pos
  unfold Mpq.extractSplit
  simp only [show (64 : Int) * 64 = 4096 from rfl]
  by_cases c : ((ex - 1022 + 4096) % 64).toNat ≠ 0
  · rw [if_pos c, if_pos c, Nat.shiftLeft_eq, Nat.shiftRight_eq_div_pow, Nat.mul_add_mod_self_right, Nat.mod_mod,
      Nat.mul_comm _ B, Nat.mul_add_div hB, Nat.div_eq_of_lt (Nat.mod_lt _ hB), Nat.add_zero]
  · rw [if_neg c, if_neg c, Nat.mul_mod_left, Nat.mul_div_cancel _ hB]

theorem extract_double_value (b : Nat) (hz : isZero b = false) :
    extract_double b = ((Mpq.extractDouble (expOf b) (manOf b)).1 % B,
      (Mpq.extractDouble (expOf b) (manOf b)).1 / B, (Mpq.extractDouble (expOf b) (manOf b)).2) := by
  unfold extract_double Mpq.extractDouble
  rw [hz, ← split_value]
  simp only [Bool.false_eq_true, if_false, manl_eq]
  unfold Mpq.extractMant
  by_cases e0 : expOf b = 0
  · simp only [e0, Nat.cast_zero, if_true, denormLoop_eq]
  · simp only [e0, Int.natCast_eq_zero, if_false]

end Mpir.Conv

namespace Mpir.Mpf
open Mpir

theorem denorm_eq : ∀ (fuel m : Nat) (e : Int), denorm fuel m e = Mpq.normDenorm fuel m e
  | 0, _, _ => rfl
  | fuel + 1, m, e => by
    have hlt : m * 2 % B < 2 ^ 64 := by rw [← B_eq_pow]; exact Nat.mod_lt _ B_pos
    have hc : (m * 2 % B / 2 ^ 63 % 2 = 0) ↔ (m * 2 % B / 2 ^ 63 = 0) := by omega
    rw [denorm, Mpq.normDenorm]
    by_cases c : m * 2 % B / 2 ^ 63 = 0
    · rw [if_pos c, if_pos (hc.mpr c), denorm_eq fuel]
    · rw [if_neg c, if_neg (mt hc.mp c)]

theorem split_eq (M : Nat) (ex : Int) :
    (if ((ex - 1022 + 64 * 64) % 64).toNat ≠ 0 then
        ([(M * 2 ^ ((ex - 1022 + 64 * 64) % 64).toNat) % B, M / 2 ^ (64 - ((ex - 1022 + 64 * 64) % 64).toNat)],
          (ex - 1022 + 64 * 64) / 64 - 64 + 1)
      else ([0, M], (ex - 1022 + 64 * 64) / 64 - 64 + 1 - 1)) =
    ([(Mpq.extractSplit M ex).1 % B, (Mpq.extractSplit M ex).1 / B], (Mpq.extractSplit M ex).2) := by
  have h := congrArg (fun t : Nat × Nat × Int => ([t.1, t.2.1], t.2.2)) (Conv.split_value M ex)
  rw [apply_ite (fun t : Nat × Nat × Int => ([t.1, t.2.1], t.2.2))] at h
  simpa only [Nat.shiftLeft_eq, Nat.shiftRight_eq_div_pow] using h

theorem set_d_eq (prec bits : Nat) (hf : bits / 2 ^ 52 % 2 ^ 11 ≠ 0x7FF)
    (hnz : ¬ (bits / 2 ^ 52 % 2 ^ 11 = 0 ∧ bits % 2 ^ 52 = 0)) :
    set_d prec bits = .ok ⟨prec, if bits / 2 ^ 63 % 2 = 1 then -2 else 2,
      (Mpq.extractDouble (bits / 2 ^ 52 % 2 ^ 11) (bits % 2 ^ 52)).2,
      [(Mpq.extractDouble (bits / 2 ^ 52 % 2 ^ 11) (bits % 2 ^ 52)).1 % B,
       (Mpq.extractDouble (bits / 2 ^ 52 % 2 ^ 11) (bits % 2 ^ 52)).1 / B]⟩ := by
  unfold set_d Mpq.extractDouble Mpq.extractMant
  simp only [if_neg hf, if_neg hnz, denorm_eq]
  split <;> simp only [split_eq]

end Mpir.Mpf
