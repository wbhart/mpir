/- mpz_next_prime_candidate / mpz_nextprime (models in Mpir/Model/Sieve.lean): the incremental residues, the
   candidates skipped, the table path. -/
import MpirProofs.Lemmas.Sieve
namespace Mpir.Sieve
open Mpir Mpir.Numth

theorem add_two_mod (c q : ℕ) (hq : 2 ≤ q) :
    (if c % q + 2 ≥ q then c % q + 2 - q else c % q + 2) = (c + 2) % q := by
  have hlt : c % q < q := Nat.mod_lt _ (by omega)
  have e : (c + 2) % q = (c % q + 2) % q := (Nat.mod_add_mod c q 2).symm
  rw [e]
  generalize c % q = x at *
  by_cases h : x + 2 ≥ q
  · rw [if_pos h, Nat.mod_eq_sub_mod h, Nat.mod_eq_of_lt (by omega)]
  · rw [if_neg h, Nat.mod_eq_of_lt (by omega)]

/-- next_prime_candidate.c:113-120 -/
theorem npcResidues_spec (c : ℕ) : ∀ prs : List ℕ, (∀ q ∈ prs, 2 ≤ q) →
    npcResidues (prs.map (fun q => c % q)) prs =
      (decide (∃ q ∈ prs, q ∣ c), prs.map (fun q => (c + 2) % q)) := by
  intro prs
  induction prs with
  | nil => intro _; simp [npcResidues]
  | cons q qs ih =>
    intro h
    have hq : 2 ≤ q := h q (by simp)
    simp only [List.map_cons, npcResidues, ih (fun x hx => h x (List.mem_cons_of_mem _ hx)), add_two_mod c q hq]
    congr 1
    by_cases hd : q ∣ c
    · have : c % q = 0 := Nat.mod_eq_zero_of_dvd hd
      simp [this, hd]
    · have : c % q ≠ 0 := fun e => hd (Nat.dvd_of_mod_eq_zero e)
      simp [this, hd]

/-- no prime in [lo, hi) -/
def NoPrimeIn (lo hi : ℕ) : Prop := ∀ j, lo ≤ j → j < hi → ¬ j.Prime

theorem NoPrimeIn.trans {a b c : ℕ} (h1 : NoPrimeIn a b) (h2 : NoPrimeIn b c) : NoPrimeIn a c := fun j hj1 hj2 =>
  if h : j < b then h1 j hj1 h else h2 j (Nat.le_of_not_lt h) hj2

theorem NoPrimeIn.cons {a c : ℕ} (ha : ¬ a.Prime) (h : NoPrimeIn (a + 1) c) : NoPrimeIn a c := fun j hj1 hj2 hp =>
  if e : j = a then ha (e ▸ hp) else h j (by omega) hj2 hp

/-- r is the first of the candidates c₀, c₀ + 2, … that no table prime divides and that passes the test -/
def FirstAccepted (mr : ℕ → Bool) (prs : List ℕ) (c₀ r : ℕ) : Prop :=
  ∃ k, r = c₀ + 2 * k ∧ mr r = true ∧ (∀ q ∈ prs, ¬ q ∣ r) ∧
    ∀ i < k, (∃ q ∈ prs, q ∣ c₀ + 2 * i) ∨ mr (c₀ + 2 * i) = false

theorem FirstAccepted.next {mr : ℕ → Bool} {prs : List ℕ} {c₀ r : ℕ}
    (h0 : (∃ q ∈ prs, q ∣ c₀) ∨ mr c₀ = false) (h : FirstAccepted mr prs (c₀ + 2) r) : FirstAccepted mr prs c₀ r := by
  obtain ⟨k, hk, h3, h4, h5⟩ := h
  refine ⟨k + 1, by omega, h3, h4, fun i hi => ?_⟩
  rcases i with _ | i
  · exact h0
  · rw [show c₀ + 2 * (i + 1) = c₀ + 2 + 2 * i by omega]; exact h5 i (by omega)

/-- The loop is started at candidate p + diff with moduli[i] = (p + diff) mod prime_i. -/
theorem npcLoop_spec (mr : ℕ → Bool) (prs : List ℕ) (hprs : ∀ q ∈ prs, 2 ≤ q) :
    ∀ fuel p diff r, npcLoop mr prs fuel p diff (prs.map (fun q => (p + diff) % q)) = some r →
      FirstAccepted mr prs (p + diff) r := by
  intro fuel
  induction fuel with
  | zero => intro p diff r h; simp [npcLoop] at h
  | succ f ih =>
    intro p diff r h
    simp only [npcLoop, npcResidues_spec (p + diff) prs hprs] at h
    by_cases hcomp : ∃ q ∈ prs, q ∣ p + diff
    · simp only [hcomp, decide_true, if_true] at h
      exact (ih p (diff + 2) r h).next (Or.inl hcomp)
    · simp only [hcomp, decide_false, Bool.false_eq_true, if_false] at h
      by_cases hm : mr (p + diff) = true
      · simp only [hm, if_true, Option.some.injEq] at h
        subst h
        exact ⟨0, rfl, hm, fun q hq hd => hcomp ⟨q, hq, hd⟩, fun i hi => absurd hi (Nat.not_lt_zero i)⟩
      · simp only [hm] at h
        exact (ih (p + diff) 2 r h).next (Or.inr (by simpa using hm))

/-- The only hypothesis on the test is that it never rejects a prime (`Mpir.Numth.miller_rabin_with_prime` for mpz_miller_rabin). -/
theorem npcLoop_no_prime_skipped (mr : ℕ → Bool) (prs : List ℕ) (hprs : ∀ q ∈ prs, q.Prime) (p0 : ℕ)
    (hodd : p0 % 2 = 1) (h3 : 3 ≤ p0) (hbig : ∀ q ∈ prs, q < p0) (hnorej : ∀ c, c.Prime → mr c = true)
    (fuel r : ℕ) (h : npcLoop mr prs fuel p0 0 (prs.map (fun q => p0 % q)) = some r) :
    p0 ≤ r ∧ r % 2 = 1 ∧ mr r = true ∧ (∀ q ∈ prs, ¬ q ∣ r) ∧ NoPrimeIn p0 r := by
  obtain ⟨k, rfl, h3', h4, h5⟩ := npcLoop_spec mr prs (fun q hq => (hprs q hq).two_le) fuel p0 0 r h
  refine ⟨by omega, by omega, h3', h4, fun c hc1 hc2 hp => ?_⟩
  -- a prime c in between is odd, so one of the candidates examined
  obtain ⟨i, rfl⟩ : ∃ i, c = p0 + 0 + 2 * i := ⟨(c - p0) / 2, by rcases hp.eq_two_or_odd with e | e <;> omega⟩
  rcases h5 i (by omega) with ⟨q, hq, hd⟩ | hrej
  · have := (Nat.prime_dvd_prime_iff_eq (hprs q hq) hp).1 hd
    have := hbig q hq
    omega
  · rw [hnorej _ hp] at hrej; exact absurd hrej (by simp)

/-- next_prime_candidate.c:72-73 `mpz_add_ui (p, n, 1); mpz_setbit (p, 0)` -/
theorem npc_first_candidate (m : ℕ) (hm : 2 ≤ m) :
    ((m + 1) ||| 1) % 2 = 1 ∧ m < (m + 1) ||| 1 ∧ (m + 1) ||| 1 ≤ m + 2 ∧ NoPrimeIn (m + 1) ((m + 1) ||| 1) := by
  rw [or_one_eq]
  refine ⟨by omega, by omega, by omega, fun j h1 h2 hj => ?_⟩
  rcases hj.eq_two_or_odd with e | e <;> omega

theorem npcTab_eq : npcTab = (List.range 998).filter (fun q => decide (3 ≤ q) && isPrimeTD q) := npcPrimes_eq

theorem mem_npcTab {q : ℕ} : q ∈ npcTab ↔ 3 ≤ q ∧ q < 998 ∧ q.Prime := by
  rw [npcTab_eq, List.mem_filter, List.mem_range, Bool.and_eq_true, decide_eq_true_eq, isPrimeTD_iff]
  tauto

theorem npcTab_lt (a b : ℕ) (hab : a < b) (hb : b < npcTab.length) : npcTab.getD a 0 < npcTab.getD b 0 := by
  have hs : npcTab.Pairwise (· < ·) := by rw [npcTab_eq]; exact List.pairwise_lt_range.filter _
  rw [List.getD_eq_getElem _ _ (by omega), List.getD_eq_getElem _ _ hb]
  exact List.pairwise_iff_getElem.1 hs a b (by omega) hb hab

theorem npcTab_last : 0 < npcTab.length ∧ npcTab.length < 2 ^ 16 ∧ npcTab.getD (npcTab.length - 1) 0 = 997 := by
  decide +kernel

/-- next_prime_candidate.c:81-101 -/
theorem npcBsearch_spec (i : ℕ)
    (hlast : ∃ k < npcTab.length, i ≤ npcTab.getD k 0) :
    ∀ fuel (lo hi : ℤ), 0 ≤ lo → lo ≤ hi + 1 → hi < npcTab.length → hi + 1 - lo < 2 ^ fuel →
      (∀ k : ℕ, (k : ℤ) < lo → npcTab.getD k 0 < i) →
      (∀ k : ℕ, hi < k → k < npcTab.length → i < npcTab.getD k 0) →
      (npcBsearch i fuel lo hi).toNat < npcTab.length ∧ i ≤ npcTab.getD (npcBsearch i fuel lo hi).toNat 0 ∧
      ∀ k < (npcBsearch i fuel lo hi).toNat, npcTab.getD k 0 < i := by
  have hexit : ∀ lo hi : ℤ, 0 ≤ lo → lo = hi + 1 → hi < npcTab.length →
      (∀ k : ℕ, (k : ℤ) < lo → npcTab.getD k 0 < i) → (∀ k : ℕ, hi < k → k < npcTab.length → i < npcTab.getD k 0) →
      lo.toNat < npcTab.length ∧ i ≤ npcTab.getD lo.toNat 0 ∧ ∀ k < lo.toNat, npcTab.getD k 0 < i := by
    intro lo hi h0 e hhi hbelow habove
    have hlt : lo.toNat < npcTab.length := by
      by_contra hge
      obtain ⟨k, hk, hik⟩ := hlast
      have := hbelow k (by omega)
      omega
    exact ⟨hlt, Nat.le_of_lt (habove lo.toNat (by omega) hlt), fun k hk => hbelow k (by omega)⟩
  intro fuel
  induction fuel with
  | zero =>
    intro lo hi h0 hle hhi hsz hbelow habove
    exact hexit lo hi h0 (by rw [pow_zero] at hsz; omega) hhi hbelow habove
  | succ f ih =>
    intro lo hi h0 hle hhi hsz hbelow habove
    rw [npcBsearch]
    by_cases hwin : lo ≤ hi
    · rw [if_pos hwin]
      rw [pow_succ] at hsz
      obtain ⟨mid, hmid⟩ : ∃ mid : ℕ, lo + (hi - lo) / 2 = (mid : ℤ) := ⟨_, (Int.toNat_of_nonneg (by omega)).symm⟩
      have hm : lo ≤ mid ∧ (mid : ℤ) ≤ hi ∧ hi - mid < 2 ^ f ∧ mid - lo < 2 ^ f := by omega
      simp only [hmid, Int.toNat_natCast, Int.ofNat_eq_natCast, gt_iff_lt, Int.ofNat_lt]
      clear hmid hsz
      have hml : mid < npcTab.length := by omega
      split_ifs with hgt hlt
      · -- primes[mid] < i: everything up to mid is below the key
        refine ih _ hi (by omega) (by omega) hhi (by omega) (fun k hk => ?_) habove
        rcases Nat.lt_or_ge k mid with h | h
        · exact Nat.lt_trans (npcTab_lt k _ h hml) hgt
        · rw [show k = mid by omega]; exact hgt
      · -- i < primes[mid]: everything from mid on is above the key
        refine ih lo _ h0 (by omega) (by omega) (by omega) hbelow (fun k hk hkl => ?_)
        rcases Nat.lt_or_ge mid k with h | h
        · exact Nat.lt_trans hlt (npcTab_lt _ k h hkl)
        · rw [show k = mid by omega]; exact hlt
      · have e : npcTab.getD mid 0 = i := by omega
        rw [Int.toNat_natCast]
        exact ⟨hml, by omega, fun k hk => by rw [← e]; exact npcTab_lt k _ hk hml⟩
    · rw [if_neg hwin]
      exact hexit lo hi h0 (by omega) hhi hbelow habove

/-- next_prime_candidate.c:66-102 for 2 ≤ n < 997: tiny numbers, then the binary search in `primes[]` -/
theorem npcSmallPath_spec (m : ℕ) (h2 : 2 ≤ m) (hm : m < 997) :
    ∃ r, npcSmallPath m = some r ∧ r.Prime ∧ m < r ∧ NoPrimeIn (m + 1) r := by
  unfold npcSmallPath
  rw [if_neg (by omega)]
  simp only [Int.toNat_natCast]
  obtain ⟨hodd, hlt, hle, hbefore⟩ := npc_first_candidate m h2
  generalize (m + 1) ||| 1 = p at *
  by_cases h7 : p ≤ 7
  · rw [if_pos h7]
    refine ⟨p, rfl, ?_, hlt, hbefore⟩
    obtain rfl | rfl | rfl : p = 3 ∨ p = 5 ∨ p = 7 := by omega
    · exact Nat.prime_three
    · exact Nat.prime_five
    · exact Nat.prime_seven
  · obtain ⟨hpos, hlen, hlast⟩ := npcTab_last
    rw [if_neg h7, if_pos (by omega)]
    obtain ⟨hr, hpr, hlow⟩ := npcBsearch_spec p ⟨npcTab.length - 1, by omega, by omega⟩ 16 0
      ((npcTab.length - 1 : ℕ) : ℤ) (le_refl 0) (by omega) (by omega) (by omega)
      (fun k hk => by omega) (fun k hk hkl => by omega)
    generalize (npcBsearch p 16 0 ((npcTab.length - 1 : ℕ) : ℤ)).toNat = r at hr hpr hlow
    have hmem : npcTab.getD r 0 ∈ npcTab := by rw [List.getD_eq_getElem _ _ hr]; exact List.getElem_mem hr
    refine ⟨_, rfl, (mem_npcTab.1 hmem).2.2, by omega, hbefore.trans fun j h1 h2 hj => ?_⟩
    -- a prime in [p, primes[r]) would be a table entry, before index r (so below p) or from r on
    obtain ⟨k, hk, rfl⟩ := List.getElem_of_mem (mem_npcTab.2 ⟨by omega, by have := (mem_npcTab.1 hmem).2.1; omega, hj⟩)
    rw [← List.getD_eq_getElem _ 0 hk] at h1 h2
    rcases Nat.lt_trichotomy k r with h | rfl | h
    · exact absurd (hlow k h) (by omega)
    · exact Nat.lt_irrefl _ h2
    · exact Nat.lt_asymm h2 (npcTab_lt r k h hk)

/-- the residue loop of mpz_next_prime_candidate (n ≥ 997), given only that the test never rejects a prime -/
theorem npcModel_spec (mr : ℕ → Bool) (m : ℕ) (hm : 997 ≤ m) (hnorej : ∀ c, c.Prime → mr c = true)
    (fuel r : ℕ) (h : npcModel mr fuel m = some r) :
    m < r ∧ r % 2 = 1 ∧ mr r = true ∧ (∀ q ∈ npcTab.take (npcTab.length - 1), ¬ q ∣ r) ∧ NoPrimeIn (m + 1) r := by
  obtain ⟨hodd, hlt, hle, hbefore⟩ := npc_first_candidate m (by omega)
  obtain ⟨_, _, hlast⟩ := npcTab_last
  unfold npcModel npcSmallPath at h
  simp only [Int.toNat_natCast] at h
  generalize (m + 1) ||| 1 = p at *
  rw [if_neg (by omega), if_neg (by omega), if_neg (by omega)] at h
  have htab : ∀ q ∈ npcTab.take (npcTab.length - 1), q.Prime ∧ q < p := fun q hq =>
    have hq := mem_npcTab.1 (List.mem_of_mem_take hq)
    ⟨hq.2.2, by omega⟩
  obtain ⟨h1, h2, h3, h4, h5⟩ := npcLoop_no_prime_skipped mr _ (fun q hq => (htab q hq).1) p hodd (by omega)
    (fun q hq => (htab q hq).2) hnorej fuel r h
  exact ⟨by omega, h2, h3, h4, hbefore.trans h5⟩

/-- the loop of mpz_nextprime (nextprime.c:43-47): no prime in [x, r), given only that neither test ever rejects a prime -/
theorem nextprimeLoop_noPrimeIn (mr2 mr23 : ℕ → Bool) (h2 : ∀ c, c.Prime → mr2 c = true) (h23 : ∀ c, c.Prime → mr23 c = true) :
    ∀ fuel x r, 997 ≤ x → nextprimeLoop mr2 mr23 fuel x = some r → x ≤ r ∧ mr23 r = true ∧ NoPrimeIn x r := by
  intro fuel
  induction fuel with
  | zero => intro x r _ h; simp [nextprimeLoop] at h
  | succ f ih =>
    intro x r hx h
    simp only [nextprimeLoop] at h
    by_cases hm : mr23 x = true
    · simp only [hm, if_true, Option.some.injEq] at h
      subst h; exact ⟨Nat.le_refl _, hm, fun j h1 h2 => by omega⟩
    · simp only [hm] at h
      cases hc : npcModel mr2 4000 ((x : ℕ) : ℤ) with
      | none => simp [hc] at h
      | some y =>
        replace h : nextprimeLoop mr2 mr23 f y = some r := by simpa [hc] using h
        obtain ⟨c1, _, _, _, c5⟩ := npcModel_spec mr2 x hx h2 4000 y hc
        obtain ⟨i1, i2, i3⟩ := ih y r (by omega) h
        exact ⟨by omega, i2, (c5.trans i3).cons fun hp => hm (h23 x hp)⟩

end Mpir.Sieve
