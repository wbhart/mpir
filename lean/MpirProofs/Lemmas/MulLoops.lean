/- Lemmas about the combining loops of mpn_mul (Mpir/Model/MulLoops.lean): the chunk loop of mul.c:108-137 and the
   slide loop of mul.c:210-277, and their composition with the generated dispatch skeleton. -/
import MpirProofs.Lemmas.MpzKernel
import MpirProofs.Lemmas.MulDispatch
namespace Mpir.MulLoops
open Mpir Mpir.Skel Mpir.Gen Mpir.MulDispatch

/-- a·b + t < B^(m+n) for a < B^m, b, t < B^n: the product of a chunk plus the limbs added back never needs more
    than the limbs of the product -/
theorem mul_add_lt {A N a b t : Nat} (ha : a < A) (hb : b < N) (ht : t < N) : a * b + t < A * N := by
  have h1 : a * b ≤ a * N := Nat.mul_le_mul_left a hb.le
  have h2 : (a + 1) * N ≤ A * N := Nat.mul_le_mul_right N ha
  rw [Nat.add_one_mul] at h2
  omega

/-- the call answers, and its answer is the `n` limbs of `x`: what every combining loop of mpn_mul is shown to do -/
def Stores (o : Option (List Nat)) (n x : Nat) : Prop := ∃ r, o = some r ∧ val r = x ∧ Limbs r ∧ r.length = n

theorem Stores.eq {o : Option (List Nat)} {n x : Nat} (h : Stores o n x) : o = some (toLimbs n x) := by
  obtain ⟨r, rfl, rfl, hL, rfl⟩ := h; rw [← eq_toLimbs r hL]

theorem stores_toLimbs {n x : Nat} (h : x < B ^ n) : Stores (some (toLimbs n x)) n x :=
  ⟨_, rfl, val_toLimbs_lt n x h, Limbs_toLimbs n x, toLimbs_length n x⟩

/-- mul.c:120-121 / :136-137 is safe and exact whenever the sum fits the product's limbs -/
theorem addBack_spec (p tp : List Nat) (hp : Limbs p) (ht : Limbs tp) (hl : tp.length < p.length)
    (hb : val p + val tp < B ^ p.length) :
    Stores (addBack p tp) p.length (val p + val tp) := by
  have htl : (p.take tp.length).length = tp.length := by rw [List.length_take]; omega
  obtain ⟨av, ac, aL, an⟩ := add_n_val' (p.take tp.length) tp (Limbs_take hp _) ht htl
  rw [htl] at av an
  obtain ⟨iv, ic, iL, iN⟩ := Mpz.K.add_1_drop_val p _ tp.length _ (val tp) hp hl aL an
    (by have := B_eq; omega) av
  -- the carry out of the whole product is 0
  obtain ⟨hc0, iv'⟩ := carry_zero iv hb
  refine ⟨_, ?_, iv', iL, iN⟩
  unfold addBack
  simp only [hc0]
  rw [if_neg (by omega)]
  simp

/-- THE "safe?" QUESTION of mul.c:121 / :137: for every chunk `c` (≥ 1 limb), every v (≥ 1 limb) and every content of
    the saved triangle, `mpn_incr_u (prodp + vn, cy)` stops inside the chunk product `p`, and the chunk then holds
    c·v + tp exactly. -/
theorem addBack_prod (c v tp p : List Nat) (hc : Limbs c) (hv : Limbs v) (ht : Limbs tp) (hc1 : 0 < c.length)
    (htl : tp.length = v.length) (pv : val p = val c * val v) (pL : Limbs p) (pn : p.length = c.length + v.length) :
    Stores (addBack p tp) (c.length + v.length) (val c * val v + val tp) := by
  have hb : val p + val tp < B ^ p.length := by
    rw [pv, pn, pow_add]
    exact mul_add_lt (val_lt c hc) (val_lt v hv) (htl ▸ val_lt tp ht)
  rw [← pv, ← pn]
  exact addBack_spec p tp pL ht (by omega) hb

theorem addBack_chunk (c v tp : List Nat) (hc : Limbs c) (hv : Limbs v) (ht : Limbs tp)
    (hc1 : 0 < c.length) (hv1 : 0 < v.length) (htl : tp.length = v.length) :
    Stores (addBack (mul_basecase c v) tp) (c.length + v.length) (val c * val v + val tp) := by
  obtain ⟨pv, pL, pn⟩ := mul_basecase_val' c v hc hv hv1
  exact addBack_prod c v tp _ hc hv ht hc1 htl pv pL pn

/-- the same with the operands in the other order (mul.c:134) -/
theorem addBack_chunk_swapped (c v tp : List Nat) (hc : Limbs c) (hv : Limbs v) (ht : Limbs tp)
    (hc1 : 0 < c.length) (htl : tp.length = v.length) :
    Stores (addBack (mul_basecase v c) tp) (c.length + v.length) (val c * val v + val tp) := by
  obtain ⟨pv, pL, pn⟩ := mul_basecase_val' v c hv hc hc1
  exact addBack_prod c v tp _ hc hv ht hc1 htl (by rw [pv, Nat.mul_comm]) pL (by rw [pn, Nat.add_comm])

/-- Loop invariant of mul.c:117-126 for operands u, v: the limbs below prodp plus the saved triangle are exactly
    (the low part of u already consumed) · v. -/
structure ChunkInv (u v : List Nat) (s : ChunkSt) : Prop where
  up_eq : s.up = u.drop s.done.length
  len_le : s.done.length ≤ u.length
  tp_len : s.tp.length = v.length
  limbs_done : Limbs s.done
  limbs_tp : Limbs s.tp
  value : val s.done + B ^ s.done.length * val s.tp = val (u.take s.done.length) * val v

theorem ChunkInv.up_len {u v : List Nat} {s : ChunkSt} (h : ChunkInv u v s) :
    s.up.length = u.length - s.done.length := by rw [h.up_eq, List.length_drop]

theorem ChunkInv.limbs_up {u v : List Nat} {s : ChunkSt} (h : ChunkInv u v s) (hu : Limbs u) : Limbs s.up :=
  h.up_eq ▸ Limbs_drop hu _

theorem chunkInit_inv (M : Nat) (u v : List Nat) (hu : Limbs u) (hv : Limbs v) (hv1 : 0 < v.length)
    (hM : M ≤ u.length) :
    ChunkInv u v (chunkInit M u v) ∧ (chunkInit M u v).done.length = M := by
  obtain ⟨pv, pL, pn⟩ := mul_basecase_val' (u.take M) v (Limbs_take hu _) hv hv1
  have htl : (u.take M).length = M := by simp; omega
  rw [htl] at pn
  have hd : ((mul_basecase (u.take M) v).take M).length = M := by simp; omega
  have htp : ((mul_basecase (u.take M) v).drop M).take v.length = (mul_basecase (u.take M) v).drop M := by
    apply List.take_of_length_le; simp; omega
  have hsplit := val_take_drop (mul_basecase (u.take M) v) M (by omega)
  refine ⟨⟨?_, ?_, ?_, ?_, ?_, ?_⟩, ?_⟩ <;> simp only [chunkInit, hd, htp]
  · omega
  · simp; omega
  · exact Limbs_take pL _
  · exact Limbs_drop pL _
  · rw [← hsplit, pv]

theorem chunkIter_inv (M : Nat) (hM : 1 ≤ M) (u v : List Nat) (hu : Limbs u) (hv : Limbs v) (hv1 : 0 < v.length)
    (s : ChunkSt) (hs : ChunkInv u v s) (hgt : s.up.length > M) :
    ∃ s', chunkIter M v s = some s' ∧ ChunkInv u v s' ∧ s'.done.length = s.done.length + M := by
  have hupl := hs.up_len
  have hLup := hs.limbs_up hu
  obtain ⟨hup, hle, htpl, hLd, hLt, hval⟩ := hs
  have hcl : (s.up.take M).length = M := by simp; omega
  obtain ⟨r, h1, h2, h3, h4⟩ := addBack_chunk (s.up.take M) v s.tp (Limbs_take hLup _) hv hLt (by omega) hv1 htpl
  rw [hcl] at h4
  have hd : (r.take M).length = M := by simp; omega
  have htp : (r.drop M).take v.length = r.drop M := by
    apply List.take_of_length_le; simp; omega
  have hsplit := val_take_drop r M (by omega)
  refine ⟨⟨s.done ++ r.take M, (r.drop M).take v.length, s.up.drop M⟩, by simp only [chunkIter, h1], ?_, ?_⟩
  · refine ⟨?_, ?_, ?_, ?_, ?_, ?_⟩ <;> simp only [htp, List.length_append, hd]
    · rw [hup, List.drop_drop]
    · omega
    · simp; omega
    · exact Limbs_append.mpr ⟨hLd, Limbs_take h3 _⟩
    · exact Limbs_drop h3 _
    · rw [val_append, List.take_add, val_append, List.length_take, Nat.min_eq_left hle, ← hup]
      rw [pow_add]
      linear_combination hval + B ^ s.done.length * (h2 - hsplit)
  · simp only [List.length_append, hd]

theorem chunkFinal_exact (u v : List Nat) (hu : Limbs u) (hv : Limbs v) (hv1 : 0 < v.length)
    (s : ChunkSt) (hs : ChunkInv u v s) (h1 : 1 ≤ s.up.length) :
    Stores (chunkFinal v s) (u.length + v.length) (val u * val v) := by
  have hupl := hs.up_len
  have hLup := hs.limbs_up hu
  obtain ⟨hup, hle, htpl, hLd, hLt, hval⟩ := hs
  have hsplit := val_take_drop u s.done.length hle
  have key : ∀ r, val r = val s.up * val v + val s.tp → Limbs r → r.length = s.up.length + v.length →
      val (s.done ++ r) = val u * val v ∧ Limbs (s.done ++ r) ∧ (s.done ++ r).length = u.length + v.length := by
    intro r e1 e2 e3
    refine ⟨?_, Limbs_append.mpr ⟨hLd, e2⟩, by simp only [List.length_append, e3]; omega⟩
    rw [val_append, e1, hsplit, ← hup]
    linear_combination hval
  unfold chunkFinal
  split_ifs with c1 c2
  · obtain ⟨r, a1, a2, a3, a4⟩ := addBack_chunk s.up v s.tp hLup hv hLt (by omega) hv1 htpl
    exact ⟨s.done ++ r, by simp [a1], key r a2 a3 a4⟩
  · omega
  · obtain ⟨r, a1, a2, a3, a4⟩ := addBack_chunk_swapped s.up v s.tp hLup hv hLt (by omega) htpl
    exact ⟨s.done ++ r, by simp [a1], key r a2 a3 a4⟩

theorem chunkLoop_exact (M : Nat) (hM : 1 ≤ M) (u v : List Nat) (hu : Limbs u) (hv : Limbs v) (hv1 : 0 < v.length) :
    ∀ (fuel : Nat) (s : ChunkSt), ChunkInv u v s → 1 ≤ s.up.length → s.up.length ≤ fuel →
    Stores (chunkLoop M v fuel s) (u.length + v.length) (val u * val v)
  | 0, s, _, h1, h2 => by omega
  | fuel + 1, s, hs, h1, h2 => by
    unfold chunkLoop
    split_ifs with c
    · obtain ⟨s', e1, e2, e3⟩ := chunkIter_inv M hM u v hu hv hv1 s hs c
      have l0 := hs.up_len
      have l1 := e2.up_len
      simp only [e1]
      exact chunkLoop_exact M hM u v hu hv hv1 fuel s' e2 (by omega) (by omega)
    · exact chunkFinal_exact u v hu hv hv1 s hs h1

/-- the state at the head of the loop mul.c:117 after `k` iterations (`none` if the loop has ended before) -/
def chunkAfter (M : Nat) (u v : List Nat) : Nat → Option ChunkSt
  | 0 => some (chunkInit M u v)
  | k + 1 => (chunkAfter M u v k).bind (fun s => if s.up.length > M then chunkIter M v s else none)

theorem chunkAfter_inv (M : Nat) (hM : 1 ≤ M) (u v : List Nat) (hu : Limbs u) (hv : Limbs v) (hv1 : 0 < v.length) :
    ∀ k, (k + 1) * M < u.length →
      ∃ s, chunkAfter M u v k = some s ∧ ChunkInv u v s ∧ s.done.length = (k + 1) * M
  | 0, h => by
    obtain ⟨a, b⟩ := chunkInit_inv M u v hu hv hv1 (by omega)
    exact ⟨_, rfl, a, by rw [b]; omega⟩
  | k + 1, h => by
    have h' : (k + 1 + 1) * M = (k + 1) * M + M := Nat.add_one_mul _ _
    obtain ⟨s, e1, e2, e3⟩ := chunkAfter_inv M hM u v hu hv hv1 k (by omega)
    have l0 := e2.up_len
    have hgt : s.up.length > M := by rw [l0, e3]; omega
    obtain ⟨s', f1, f2, f3⟩ := chunkIter_inv M hM u v hu hv hv1 s e2 hgt
    refine ⟨s', ?_, f2, by rw [f3, e3]; ring⟩
    simp only [chunkAfter, e1, Option.bind_some, if_pos hgt, f1]

theorem mulChunked_exact (M : Nat) (hM : 1 ≤ M) (u v : List Nat) (hu : Limbs u) (hv : Limbs v) (hv1 : 1 ≤ v.length)
    (hun : M < u.length) :
    Stores (mulChunked M u v) (u.length + v.length) (val u * val v) := by
  obtain ⟨a, b⟩ := chunkInit_inv M u v hu hv hv1 (by omega)
  have l0 := a.up_len
  unfold mulChunked
  rw [if_neg (by omega)]
  exact chunkLoop_exact M hM u v hu hv hv1 u.length _ a (by omega) (by omega)

/-- mul.c:235-248 / :263-273: the window and the pending carry together grow by exactly the product added,
    whatever the relative sizes (all three branches), as long as `t += carry` does not wrap. -/
theorem accum_spec (w ws : List Nat) (t : Nat) (hw : Limbs w) (hws : Limbs ws) (ht : t + 1 < B) :
    val (accum w ws t).1 + B ^ (accum w ws t).1.length * (accum w ws t).2 = val w + B ^ w.length * t + val ws ∧
    (accum w ws t).1.length = max w.length ws.length ∧ Limbs (accum w ws t).1 := by
  unfold accum
  simp only []
  split_ifs with c1 c2
  · -- l < m
    have htl : (ws.take w.length).length = w.length := by rw [List.length_take]; omega
    obtain ⟨av, ac, aL, an⟩ := add_n_val' w (ws.take w.length) hw (Limbs_take hws _) htl.symm
    rw [Nat.mod_eq_of_lt (by omega)]
    obtain ⟨iv, ic, iL, iN⟩ := Mpz.K.add_1_drop_val ws _ w.length (t + (add_n w (ws.take w.length)).2)
      (val w + B ^ w.length * t) hws (by omega) aL an (by omega) (by linear_combination av)
    exact ⟨by rw [iN, iv]; ring, by rw [iN]; omega, iL⟩
  · -- l = m
    have hlm : w.length = ws.length := by omega
    obtain ⟨av, ac, aL, an⟩ := add_n_val' w ws hw hws hlm
    rw [hlm, List.take_length, Nat.mod_eq_of_lt (by omega), an]
    exact ⟨by rw [← hlm]; linear_combination av, by omega, aL⟩
  · -- l > m
    have htl : (w.take ws.length).length = ws.length := by rw [List.length_take]; omega
    obtain ⟨av, ac, aL, an⟩ := add_n_val' (w.take ws.length) ws (Limbs_take hw _) hws htl
    rw [htl] at av an
    obtain ⟨iv, ic, iL, iN⟩ := Mpz.K.add_1_drop_val w _ ws.length _ (val ws) hw (by omega) aL an
      (by have := B_eq; omega) av
    rw [Nat.mod_eq_of_lt (by omega), iN]
    exact ⟨by linear_combination iv, by omega, iL⟩

/-- arithmetic of one slide step: the new overhang X' stays below B^(l-vn) + B^vn  (b = B^vn, q = B^(l-vn)) -/
theorem slide_small {b q X a v lo X' : Nat} (hb : 0 < b) (ha : a < b) (hv : v < b) (hX : X < b * q + b)
    (h : X + a * v = lo + b * X') : X' < q + b := by
  obtain ⟨c, rfl⟩ : ∃ c, b = c + 1 := ⟨b - 1, by omega⟩
  have h1 : a * v ≤ c * c := Nat.mul_le_mul (by omega) (by omega)
  have e : (c + 1) * (q + (c + 1)) = (c + 1) * q + c * c + 2 * c + 1 := by ring
  apply Nat.lt_of_mul_lt_mul_left (a := c + 1)
  omega

/-- … and what is still to be added keeps fitting the limbs that are left -/
theorem slide_fits {b Q X a v u' lo X' : Nat} (h : X + a * v = lo + b * X')
    (hf : X + (a + b * u') * v < b * Q) : X' + u' * v < Q := by
  apply Nat.lt_of_mul_lt_mul_left (a := b)
  have e : (a + b * u') * v = a * v + b * (u' * v) := by ring
  rw [Nat.mul_add]
  omega

/-- what the slide loop assumes of its callee mpn_mul_n: on equal-length operands of kt ≤ n ≤ N limbs it returns the
    2n limbs of the exact product -/
def MulNExact (kt N : Nat) (mulN : List Nat → List Nat → Option (List Nat)) : Prop :=
  ∀ a b : List Nat, Limbs a → Limbs b → a.length = b.length → kt ≤ a.length → a.length ≤ N →
    ∃ r, mulN a b = some r ∧ val r = val a * val b ∧ Limbs r ∧ r.length = 2 * a.length

/-- Loop invariant of mul.c:232-258 (state: window `w` of l limbs, pending carry `t`, current up/vp):
    vn ≤ l ≤ un; the overhang of the products added so far, X = w + t·B^l, is below B^l + B^vn (so t ≤ 1: `t += carry`
    never wraps and is never lost); what is still to come fits the un + vn limbs that are left. -/
structure SlideInv (N : Nat) (w : List Nat) (t : Nat) (up vp : List Nat) : Prop where
  hw : Limbs w
  hu : Limbs up
  hv : Limbs vp
  vl : vp.length ≤ w.length
  lu : w.length ≤ up.length
  vN : vp.length ≤ N
  zl : vp.length = 0 → w.length = up.length
  small : val w + B ^ w.length * t < B ^ w.length + B ^ vp.length
  fits : val w + B ^ w.length * t + val up * val vp < B ^ (up.length + vp.length)

theorem SlideInv.t_le {N : Nat} {w : List Nat} {t : Nat} {up vp : List Nat} (h : SlideInv N w t up vp) : t ≤ 1 := by
  have h1 : B ^ vp.length ≤ B ^ w.length := Nat.pow_le_pow_right B_pos h.vl
  have h2 := h.small
  by_contra hc
  have := Nat.mul_le_mul_left (B ^ w.length) (show 2 ≤ t by omega)
  omega

theorem val_mul_lt (u v : List Nat) (hu : Limbs u) (hv : Limbs v) : val u * val v < B ^ (u.length + v.length) := by
  rw [pow_add]
  exact Nat.mul_lt_mul'' (val_lt u hu) (val_lt v hv)

/-- One step of mul.c:232-258, and the step before the loop (:210-231, with X = 0, l = vn): the product of the vn low
    limbs of `up` has been added to the overhang X (l limbs wide), giving `r` and the pending carry `t'`.  After
    `prodp += vn` what is still to come has the shape it had before, and the invariant holds for whichever of the
    two operands is now the shorter. -/
theorem slide_step (N : Nat) (up vp r : List Nat) (X l t' : Nat) (hu : Limbs up) (hv : Limbs vp) (hr : Limbs r)
    (h1 : 1 ≤ vp.length) (vl : vp.length ≤ l) (lu : l ≤ up.length) (vN : vp.length ≤ N)
    (small : X < B ^ l + B ^ vp.length) (fits : X + val up * val vp < B ^ (up.length + vp.length))
    (hrl : r.length = max l (2 * vp.length))
    (hrv : val r + B ^ r.length * t' = X + val (up.take vp.length) * val vp) :
    X + val up * val vp = val (r.take vp.length) + B ^ vp.length *
      (val (r.drop vp.length) + B ^ (r.drop vp.length).length * t' + val (up.drop vp.length) * val vp) ∧
    (up.length - vp.length < vp.length → SlideInv N (r.drop vp.length) t' vp (up.drop vp.length)) ∧
    (¬ up.length - vp.length < vp.length → SlideInv N (r.drop vp.length) t' (up.drop vp.length) vp) := by
  have hsplitR := val_take_drop r vp.length (by omega)
  have hsplitU := val_take_drop up vp.length (by omega)
  have hrl' : (r.drop vp.length).length = max l (2 * vp.length) - vp.length := by rw [List.length_drop, hrl]
  have hul' : (up.drop vp.length).length = up.length - vp.length := List.length_drop
  have hpowL : B ^ r.length = B ^ vp.length * B ^ (r.drop vp.length).length := by
    rw [← pow_add, hrl', hrl]; congr 1; omega
  have hpowl : B ^ l = B ^ vp.length * B ^ (l - vp.length) := by rw [← pow_add]; congr 1; omega
  have hpowu : B ^ (up.length + vp.length) = B ^ vp.length * B ^ up.length := by rw [← pow_add, Nat.add_comm]
  have step : X + val (up.take vp.length) * val vp = val (r.take vp.length) + B ^ vp.length *
      (val (r.drop vp.length) + B ^ (r.drop vp.length).length * t') := by
    rw [hpowL, hsplitR] at hrv
    linear_combination hrv.symm
  have ha : val (up.take vp.length) < B ^ vp.length := by
    have := val_lt _ (Limbs_take hu vp.length)
    rwa [List.length_take, Nat.min_eq_left (by omega)] at this
  have hX' := slide_small (Bpow_pos vp.length) ha (val_lt vp hv) (by rw [← hpowl]; exact small) step
  have hfit' := slide_fits (Q := B ^ up.length) (u' := val (up.drop vp.length)) step
    (by rw [← hsplitU, ← hpowu]; exact fits)
  refine ⟨by rw [hsplitU]; linear_combination step, ?_⟩
  -- from here on only the lengths and the two bounds on the new overhang matter
  clear hsplitR hsplitU hpowL hpowl hpowu step ha small fits hrv
  refine ⟨fun c => ?_, fun c => ?_⟩
  · refine ⟨Limbs_drop hr _, hv, Limbs_drop hu _, by omega, by omega, by omega, by omega, ?_, ?_⟩
    · have m1 : B ^ (l - vp.length) ≤ B ^ (up.drop vp.length).length :=
        Nat.pow_le_pow_right B_pos (by omega)
      have m2 : (r.drop vp.length).length = vp.length := by omega
      rw [m2] at hX' ⊢
      omega
    · rw [hul', Nat.add_sub_cancel' (by omega), Nat.mul_comm (val vp)]
      exact hfit'
  · refine ⟨Limbs_drop hr _, Limbs_drop hu _, hv, by omega, by omega, by omega, by omega, ?_, ?_⟩
    · have m1 : B ^ (l - vp.length) ≤ B ^ (r.drop vp.length).length :=
        Nat.pow_le_pow_right B_pos (by omega)
      omega
    · rw [hul', Nat.sub_add_cancel (by omega)]
      exact hfit'

theorem slideLoop_exact (kt N : Nat) (hkt : 1 ≤ kt) (mulN : List Nat → List Nat → Option (List Nat))
    (hmul : MulNExact kt N mulN) :
    ∀ (fuel : Nat) (done w : List Nat) (t : Nat) (up vp : List Nat), Limbs done → SlideInv N w t up vp →
      up.length + vp.length < fuel →
      Stores (slideLoop kt mulN fuel done w t up vp) (done.length + up.length + vp.length)
        (val done + B ^ done.length * (val w + B ^ w.length * t + val up * val vp))
  | 0, _, _, _, _, _, _, _, hf => by omega
  | fuel + 1, done, w, t, up, vp, hd, hs, hf => by
    have ht := hs.t_le
    obtain ⟨hw, hu, hv, vl, lu, vN, zl, small, fits⟩ := hs
    have hB := B_eq
    rw [slideLoop]
    simp only []
    by_cases c1 : vp.length ≥ kt
    · rw [if_pos c1]
      have htl : (up.take vp.length).length = vp.length := by rw [List.length_take]; omega
      obtain ⟨ws, e1, e2, e3, e4⟩ := hmul (up.take vp.length) vp (Limbs_take hu _) hv htl (by omega) (by omega)
      obtain ⟨av, an, aL⟩ := accum_spec w ws t hw e3 (by omega)
      rw [e4, htl] at an
      obtain ⟨hval, hswap, hkeep⟩ := slide_step N up vp (accum w ws t).1 _ w.length (accum w ws t).2 hu hv aL
        (by omega) vl lu vN small fits an (by rw [av, e2])
      clear small fits av e2
      simp only [e1]
      generalize accum w ws t = r at *
      have hlo : (r.1.take vp.length).length = vp.length := by rw [List.length_take]; omega
      have hul' : (up.drop vp.length).length = up.length - vp.length := List.length_drop
      have hdone' : Limbs (done ++ r.1.take vp.length) := Limbs_append.mpr ⟨hd, Limbs_take aL _⟩
      by_cases c2 : (up.drop vp.length).length < vp.length
      · rw [if_pos c2]
        obtain ⟨res, f1, f2, f3, f4⟩ := slideLoop_exact kt N hkt mulN hmul fuel _ _ _ _ _ hdone'
          (hswap (hul' ▸ c2)) (by omega)
        refine ⟨res, f1, ?_, f3, by rw [f4, List.length_append, hlo, hul']; omega⟩
        rw [f2, val_append, List.length_append, hlo, pow_add, hval, Nat.mul_comm (val vp)]
        ring
      · rw [if_neg c2]
        obtain ⟨res, f1, f2, f3, f4⟩ := slideLoop_exact kt N hkt mulN hmul fuel _ _ _ _ _ hdone'
          (hkeep (hul' ▸ c2)) (by omega)
        refine ⟨res, f1, ?_, f3, by rw [f4, List.length_append, hlo, hul']; omega⟩
        rw [f2, val_append, List.length_append, hlo, pow_add, hval]
        ring
    · rw [if_neg c1]
      by_cases c3 : vp.length ≠ 0
      · rw [if_pos c3]
        obtain ⟨pv, pL, pn⟩ := mul_basecase_val' up vp hu hv (by omega)
        obtain ⟨av, an, aL⟩ := accum_spec w (mul_basecase up vp) t hw pL (by omega)
        rw [pn] at an
        generalize accum w (mul_basecase up vp) t = r at *
        have m : max w.length (up.length + vp.length) = up.length + vp.length := by omega
        rw [an, m, pv] at av
        obtain ⟨hr0, av⟩ := carry_zero av fits
        refine ⟨done ++ r.1, rfl, ?_, Limbs_append.mpr ⟨hd, aL⟩, by rw [List.length_append, an]; omega⟩
        rw [val_append]
        linear_combination (B ^ done.length) * av
      · rw [if_neg c3]
        have hv0 : vp.length = 0 := by omega
        have hvnil : vp = [] := List.eq_nil_of_length_eq_zero hv0
        have hl := zl hv0
        rw [hvnil] at fits ⊢
        simp only [val_nil, Nat.mul_zero, Nat.add_zero, List.length_nil] at fits ⊢
        rw [← hl] at fits
        have ht0 : t = 0 := (carry_zero rfl fits).1
        refine ⟨done ++ w, rfl, ?_, Limbs_append.mpr ⟨hd, hw⟩, by rw [List.length_append]; omega⟩
        rw [val_append, ht0]; ring

theorem mulSlide_exact (kt : Nat) (hkt : 1 ≤ kt) (mulN : List Nat → List Nat → Option (List Nat))
    (u v : List Nat) (hu : Limbs u) (hv : Limbs v) (hvk : kt ≤ v.length) (huv : v.length < u.length)
    (hmul : MulNExact kt v.length mulN) :
    Stores (mulSlide kt mulN u v) (u.length + v.length) (val u * val v) := by
  have htl : (u.take v.length).length = v.length := by rw [List.length_take]; omega
  obtain ⟨p, e1, e2, e3, e4⟩ := hmul (u.take v.length) v (Limbs_take hu _) hv htl (by omega) (by omega)
  rw [htl] at e4
  obtain ⟨hval, hswap, hkeep⟩ := slide_step v.length u v p 0 v.length 0 hu hv e3 (by omega) (le_refl _) huv.le
    (le_refl _) (by have := Bpow_pos v.length; omega) (by rw [Nat.zero_add]; exact val_mul_lt u v hu hv)
    (by omega) (by rw [Nat.mul_zero, Nat.add_zero, Nat.zero_add, e2])
  rw [Nat.zero_add] at hval
  have hlo : (p.take v.length).length = v.length := by rw [List.length_take]; omega
  have hul : (u.drop v.length).length = u.length - v.length := List.length_drop
  unfold mulSlide
  simp only []
  rw [if_neg (by omega)]
  simp only [e1]
  by_cases c2 : (u.drop v.length).length < v.length
  · rw [if_pos c2]
    obtain ⟨res, f1, f2, f3, f4⟩ := slideLoop_exact kt v.length hkt mulN hmul (u.length + 1) _ _ _ _ _
      (Limbs_take e3 v.length) (hswap (hul ▸ c2)) (by omega)
    exact ⟨res, f1, by rw [f2, hlo, hval, Nat.mul_comm (val v)], f3, by rw [f4, hlo, hul]; omega⟩
  · rw [if_neg c2]
    obtain ⟨res, f1, f2, f3, f4⟩ := slideLoop_exact kt v.length hkt mulN hmul (u.length + 1) _ _ _ _ _
      (Limbs_take e3 v.length) (hkeep (hul ▸ c2)) (by omega)
    exact ⟨res, f1, by rw [f2, hlo, hval], f3, by rw [f4, hlo, hul]; omega⟩

theorem runMulN_domain (P : Params) (hP : Valid P) (n : Nat) (hn : 1 ≤ n) (e : Ev)
    (he : e ∈ products (runMulN P n)) : domainOk P e = true :=
  (mul_n_ok P hP 0 (n : Int) 2 0 3 0 (by exact_mod_cast hn)).domain he

theorem runMul_domain (P : Params) (hP : Valid P) (un vn : Nat) (hv : 1 ≤ vn) (hu : vn ≤ un) (e : Ev)
    (he : e ∈ products (runMul P false un vn)) : domainOk P e = true :=
  (mul_ok P hP (un + 2) (un : Int) (vn : Int) 2 0 3 0 (by exact_mod_cast hv) (by exact_mod_cast hu)
    (by push_cast; omega)).domain he

theorem callValue_exact (P : Params) (hP : Valid P) (e : Ev) (hm : modelled1 e = true) (hd : domainOk P e = true)
    (x y : Nat) : callValue P e x y = some (x * y) := by
  rw [callValue_eq P hP e hd, if_pos hm]

theorem mulNModel_exact (P : Params) (hP : Valid P) (a b : List Nat) (ha : Limbs a) (hb : Limbs b)
    (hl : a.length = b.length) (h1 : 1 ≤ a.length) (hc : coveredN P a.length = true) :
    Stores (mulNModel P a b) (2 * a.length) (val a * val b) := by
  unfold coveredN at hc
  unfold mulNModel
  generalize hpr : products (runMulN P a.length) = L at hc ⊢
  match L, hc with
  | [e], hc =>
    have hd := runMulN_domain P hP a.length h1 e (by rw [hpr]; simp)
    simp only []
    by_cases hbn : e.name = "mpn_mul_basecase"
    · rw [if_pos hbn]
      obtain ⟨pv, pL, pn⟩ := mul_basecase_val' a b ha hb (by omega)
      exact ⟨_, rfl, pv, pL, by omega⟩
    · rw [if_neg hbn]
      have hm : modelled1 e = true := by simpa [hbn] using hc
      rw [callValue_exact P hP e hm hd]
      exact stores_toLimbs (by have := val_mul_lt a b ha hb; rwa [← hl, ← two_mul] at this)
  | [], hc => exact absurd hc (by simp)
  | _ :: _ :: _, hc => exact absurd hc (by simp)

theorem mpnMulModel_exact (P : Params) (hP : Valid P) (u v : List Nat) (hu : Limbs u) (hv : Limbs v)
    (hv1 : 1 ≤ v.length) (huv : v.length ≤ u.length) (hc : covered P u.length v.length = true) :
    Stores (mpnMulModel P u v) (u.length + v.length) (val u * val v) := by
  unfold covered at hc
  unfold mpnMulModel
  simp only []
  rw [if_neg (by omega)]
  generalize hpr : products (runMul P false u.length v.length) = L at hc ⊢
  match L, hc with
  | [], hc => exact absurd hc (by simp)
  | [e], hc =>
    have hd := runMul_domain P hP u.length v.length hv1 huv e (by rw [hpr]; simp)
    simp only [] at hc ⊢
    by_cases hn : e.name = "mpn_mul_n"
    · rw [if_pos hn] at hc ⊢
      simp only [Bool.and_eq_true, decide_eq_true_eq] at hc
      rw [if_pos hc.1]
      obtain ⟨r, a1, a2, a3, a4⟩ := mulNModel_exact P hP u v hu hv hc.1 (by omega) hc.2
      exact ⟨r, a1, a2, a3, by omega⟩
    · rw [if_neg hn] at hc ⊢
      by_cases hbn : e.name = "mpn_mul_basecase"
      · rw [if_pos hbn]
        obtain ⟨pv, pL, pn⟩ := mul_basecase_val' u v hu hv (by omega)
        exact ⟨_, rfl, pv, pL, pn⟩
      · rw [if_neg hbn]
        have hm : modelled1 e = true := by simpa [hbn] using hc
        rw [callValue_exact P hP e hm hd]
        exact stores_toLimbs (val_mul_lt u v hu hv)
  | e :: e2 :: rest, hc =>
    simp only [] at hc ⊢
    have hk3 := hP.kara_ge
    have hmax := hP.basecase_max_pos
    by_cases hbn : e.name = "mpn_mul_basecase"
    · rw [if_pos hbn] at hc ⊢
      simp only [decide_eq_true_eq] at hc
      exact mulChunked_exact _ (by omega) u v hu hv hv1 hc
    · rw [if_neg hbn] at hc ⊢
      simp only [Bool.and_eq_true, decide_eq_true_eq, List.all_eq_true, List.mem_range, Bool.or_eq_true] at hc
      obtain ⟨⟨⟨hn, hgt⟩, hkt⟩, hall⟩ := hc
      rw [if_pos hn]
      refine mulSlide_exact _ (by omega) _ u v hu hv hkt hgt ?_
      intro a b ha hb hl hka hkN
      have := hall a.length (by omega)
      exact mulNModel_exact P hP a b ha hb hl (by omega) (by rcases this with h | h; omega; exact h)

end Mpir.MulLoops
