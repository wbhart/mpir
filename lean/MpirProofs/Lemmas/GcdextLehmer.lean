/- mpn_gcdext_hook / mpn_gcdext_lehmer_n with the size bookkeeping (Mpir/Model/Gcdext.lean): the sized
   model computes the same values as the value-level model `Mpir.Gcd.gcdext_lehmer_n`, never stores outside
   a buffer, keeps `un` exact, and the result satisfies the cofactor contract with the bound. -/
import MpirProofs.Lemmas.GcdextBound
import MpirProofs.Lemmas.HgcdStep
import Mpir.Model.Gcdext
namespace Mpir.Gcdext
open Mpir Mpir.Gcd Mpir.Hgcd

theorem exitOk_result {A Bv : Nat} {w : Nat × Nat} {g : Nat} {d : Int} (h : ExitOk A Bv w g d) :
    (∃ t : Int, (A : Int) * pickCofactor w.1 w.2 d + Bv * t = g) ∧ CofBound Bv g (pickCofactor w.1 w.2 d) := by
  obtain ⟨a, b, ha, hb, hc, hcase⟩ := h
  rcases hcase with ⟨hd, hag, hbg⟩ | ⟨hd, hag, q, hq, hbq⟩ | ⟨hd, hbg, q, hq, haq⟩
  · subst hd; subst hag
    rw [hbg] at hc
    refine ⟨?_, exit_eq hc ha⟩
    rcases pickCofactor_cases w.1 w.2 (-1) with e | e <;> rw [e]
    · exact cofOk_b hc
    · exact cofOk_a hc
  · subst hd; subst hag
    rw [pick_zero]
    exact ⟨cofOk_a hc, exit_d0 hc ha hbq hq⟩
  · subst hd; subst hbg
    rw [pick_one]
    exact ⟨cofOk_b hc, exit_d1 hc hb haq hq⟩

theorem cof_lt_k {A V a b u0 u1 N k : Nat} (h : CofOk A V a b u0 u1) (ha : B ^ k ≤ a) (hb : B ^ k ≤ b) (hV : V < B ^ N)
    (hk : k ≤ N) : u0 < B ^ (N - k) ∧ u1 < B ^ (N - k) := by
  obtain ⟨v0, v1, hr⟩ := h
  have := mrel_row_lt (mrel_swap hr) hb ha (L := B ^ (N - k)) (by rw [← pow_add, Nat.sub_add_cancel hk]; exact hV)
  simp only [M1.swap] at this
  omega

theorem cof_lt {A Bv a b u0 u1 N : Nat} (h : CofOk A Bv a b u0 u1) (ha : 0 < a) (hb : 0 < b) (hBv : Bv < B ^ N) :
    u0 < B ^ N ∧ u1 < B ^ N :=
  cof_lt_k (k := 0) h (by rw [pow_zero]; exact ha) (by rw [pow_zero]; exact hb) hBv (Nat.zero_le _)

theorem exitOk_lt {A Bv N : Nat} {w : Nat × Nat} {g : Nat} {d : Int} (h : ExitOk A Bv w g d) (hBv : Bv < B ^ N) :
    w.1 < B ^ N ∧ w.2 < B ^ N := by
  obtain ⟨a, b, ha, hb, hc, _⟩ := h
  exact cof_lt hc ha hb hBv

/-- the cofactor buffers hold their values in exactly un limbs, and no store went outside a buffer -/
def SzInv (c : Ctx) : Prop :=
  c.u0 < B ^ c.un ∧ c.u1 < B ^ c.un ∧ (B ^ (c.un - 1) ≤ c.u0 ∨ B ^ (c.un - 1) ≤ c.u1) ∧ 1 ≤ c.un ∧ c.ok = true

theorem szInv_iff (c : Ctx) : SzInv c ↔ c.un = max (nlimbs c.u0) (nlimbs c.u1) ∧ 1 ≤ c.un ∧ c.ok = true := by
  unfold SzInv
  simp only [nlimbs_isSize.lt_pow_iff, nlimbs_isSize.pow_le_iff]
  constructor
  · rintro ⟨h0, h1, ht, hn, hok⟩; exact ⟨by omega, hn, hok⟩
  · rintro ⟨h, hn, hok⟩; exact ⟨by omega, by omega, by omega, hn, hok⟩

/-- a result {gp, gn}, {up, |*usize|}, *usize represents (g, S): sizes normalised, sign of *usize = sign of S -/
def FinOk (r : Fin) (g : Nat) (S : Int) : Prop :=
  r.g = g ∧ r.gn = nlimbs g ∧ r.ok = true ∧ r.up = S.natAbs ∧
  r.usize = (if S < 0 then -1 else 1) * (nlimbs S.natAbs : Int)

theorem fin_usize {r : Fin} {S : Int} (hu : r.up = S.natAbs)
    (hs : r.usize = (if S < 0 then -1 else 1) * (nlimbs S.natAbs : Int)) :
    r.S = S ∧ r.usize.natAbs = nlimbs r.up ∧ (r.usize < 0 ↔ S < 0) := by
  unfold Fin.S
  rw [hu, hs]
  by_cases hneg : S < 0
  · have hn : 0 < nlimbs S.natAbs := nlimbs_pos (Int.natAbs_pos.mpr (by omega))
    rw [if_pos hneg, if_pos (by omega)]
    omega
  · rw [if_neg hneg, if_neg (by simp)]
    omega

theorem finOk_usize {r : Fin} {g : Nat} {S : Int} (h : FinOk r g S) :
    r.S = S ∧ r.usize.natAbs = nlimbs r.up ∧ (r.usize < 0 ↔ S < 0) := fin_usize h.2.2.2.1 h.2.2.2.2

theorem szInv_pair (x y : Nat) (hy : 1 ≤ y) : SzInv ⟨x, y, max (nlimbs x) (nlimbs y), true⟩ :=
  (szInv_iff _).mpr ⟨rfl, le_trans (nlimbs_pos hy) (le_max_right _ _), rfl⟩

theorem hookQ_ge (u : Nat × Nat) (qd : Nat × Bool) : u.1 ≤ (hookQ u qd).1 ∧ u.2 ≤ (hookQ u qd).2 := by
  unfold hookQ; split <;> simp

theorem foldl_hookQ_ge (qs : List (Nat × Bool)) : ∀ u : Nat × Nat, u.1 ≤ (qs.foldl hookQ u).1 ∧ u.2 ≤ (qs.foldl hookQ u).2 := by
  induction qs with
  | nil => intro u; simp
  | cons qd rest ih =>
    intro u
    simp only [List.foldl_cons]
    have h1 := hookQ_ge u qd
    have h2 := ih (hookQ u qd)
    omega

/-- gcdext_lehmer.c:62-126 with ualloc = N + 1, whatever the flag -/
theorem updQ_eq (N t s un q : Nat) (ok : Bool) (hun : un = max (nlimbs t) (nlimbs s)) (h1 : 1 ≤ un)
    (hxN : nlimbs (t + q * s) ≤ N) (hsN : nlimbs s ≤ N) :
    updQ (N + 1) t s un ok q = (t + q * s, max (nlimbs (t + q * s)) (nlimbs s), ok) := by
  have hT : nlimbs t ≤ un := hun ▸ le_max_left _ _
  have hS : nlimbs s ≤ un := hun ▸ le_max_right _ _
  unfold updQ
  rcases Nat.eq_zero_or_pos q with rfl | hq0
  · simp only [nlimbs_zero, Nat.zero_mul, Nat.add_zero, zero_ne_one, if_false] at hxN ⊢
    rw [← hun]
    have hN : un < N + 1 := by omega
    split
    · rfl
    · rw [if_neg (by omega : ¬ 0 ≥ un), grow1_eq (by omega), max_eq_left hT, decide_eq_true (by omega : nlimbs s ≤ N + 1),
        decide_eq_true hN, Bool.and_true, Bool.and_true]
  obtain ⟨a1, a2, _, a4⟩ := nlimbs_addmul t q s hq0
  have hX : un ≤ nlimbs (t + q * s) := hun ▸ max_le a1 a2
  have hN : un < N + 1 := by omega
  rw [max_eq_left a2]
  clear hun
  by_cases hq1 : nlimbs q = 1
  · rw [if_pos hq1]; dsimp only
    rw [grow1_eq (nlimbs_addmul_le hT hS ((nlimbs_eq_one_iff q).mp hq1).2), max_eq_right hX, decide_eq_true hN, Bool.and_true]
  · rw [if_neg hq1]
    by_cases hz : nlimbs s = 0
    · rw [if_pos hz]
      obtain rfl := (nlimbs_eq_zero_iff s).mp hz
      simp only [Nat.mul_zero, Nat.add_zero] at hX ⊢
      rw [le_antisymm hX hT]
    · rw [if_neg hz]
      -- the product has nlimbs q + nlimbs s limbs or one less, so it fits as soon as the sum does
      have hge := a4 (by omega)
      have hP := nlimbs_isSize.mono (Nat.le_add_left (q * s) t)
      have hadd := nlimbs_isSize.add_le t (q * s)
      dsimp only
      rw [decide_eq_true (by omega : nlimbs s + nlimbs q ≤ N + 1), Bool.and_true]
      split
      · rw [grow1_eq (by omega), max_eq_right hP, decide_eq_true (by omega : nlimbs (q * s) < N + 1), Bool.and_true]
      · rw [grow1_eq (by omega), max_eq_right hX, decide_eq_true hN, Bool.and_true]

theorem hookQS_eq (N : Nat) (c : Ctx) (qd : Nat × Bool) (hun : c.un = max (nlimbs c.u0) (nlimbs c.u1)) (hn : 1 ≤ c.un) :
    ∀ w, w = hookQ (c.u0, c.u1) qd → nlimbs w.1 ≤ N → nlimbs w.2 ≤ N →
    hookQS (N + 1) c qd = ⟨w.1, w.2, max (nlimbs w.1) (nlimbs w.2), c.ok⟩ := by
  obtain ⟨q, d⟩ := qd
  rintro _ rfl h0 h1
  unfold hookQS
  unfold hookQ at h0 h1 ⊢
  cases d <;> simp only [Bool.false_eq_true, if_false, if_true] at h0 h1 ⊢
  · rw [updQ_eq N c.u0 c.u1 c.un q c.ok hun hn h0 h1]
  · rw [updQ_eq N c.u1 c.u0 c.un q c.ok (by rw [max_comm]; exact hun) hn h1 h0, max_comm]

theorem hookQS_fold (N : Nat) : ∀ (qs : List (Nat × Bool)) (c : Ctx), c.un = max (nlimbs c.u0) (nlimbs c.u1) → 1 ≤ c.un →
    ∀ w, w = qs.foldl hookQ (c.u0, c.u1) → nlimbs w.1 ≤ N → nlimbs w.2 ≤ N →
    qs.foldl (hookQS (N + 1)) c = ⟨w.1, w.2, max (nlimbs w.1) (nlimbs w.2), c.ok⟩
  | [], c, hun, _, _, rfl, _, _ => by
    show c = ⟨c.u0, c.u1, max (nlimbs c.u0) (nlimbs c.u1), c.ok⟩
    rw [← hun]
  | qd :: rest, c, hun, hn, _, rfl, h0, h1 => by
    -- the cofactors only grow, so the bound on the last pair bounds every pair on the way
    have hge := foldl_hookQ_ge rest (hookQ (c.u0, c.u1) qd)
    have hq := hookQ_ge (c.u0, c.u1) qd
    rw [List.foldl_cons, hookQS_eq N c qd hun hn _ rfl (le_trans (nlimbs_isSize.mono hge.1) h0)
      (le_trans (nlimbs_isSize.mono hge.2) h1)]
    exact hookQS_fold N rest _ rfl
      (hn.trans (hun ▸ max_le_max (nlimbs_isSize.mono hq.1) (nlimbs_isSize.mono hq.2))) _ rfl h0 h1

theorem natAbs_of_signed {x : Nat} {S : Int} (neg : Bool) (hS : S = if neg then -(x : Int) else x) : x = S.natAbs := by
  cases neg <;> simp only [Bool.false_eq_true, if_false, if_true] at hS <;> omega

theorem finOk_mk {g gn x : Nat} {S : Int} (neg ok : Bool) (hgn : gn = nlimbs g) (hok : ok = true)
    (hS : S = if neg then -(x : Int) else x) :
    FinOk ⟨g, gn, if neg then -(nlimbs x : Int) else nlimbs x, x, ok⟩ g S := by
  have hx : x = S.natAbs := natAbs_of_signed neg hS
  refine ⟨rfl, hgn, hok, hx, ?_⟩
  show (if neg then -(nlimbs x : Int) else nlimbs x) = (if S < 0 then -1 else 1) * (nlimbs S.natAbs : Int)
  rw [← hx]
  cases neg <;> simp only [Bool.false_eq_true, if_false, if_true] at hS ⊢
  · rw [if_neg (by omega), one_mul]
  · by_cases h0 : x = 0
    · rw [h0, nlimbs_zero]; simp
    · rw [if_pos (by omega), neg_one_mul]

theorem hookG_spec (c : Ctx) (g : Nat) (d : Int) (hok : c.ok = true) :
    FinOk (hookG c g (nlimbs g) d) g (pickCofactor c.u0 c.u1 d) := by
  unfold hookG pickCofactor
  dsimp only
  generalize (if d < 0 then decide (c.u0 < c.u1) else decide (d ≠ 0)) = d1
  cases d1 <;> exact finOk_mk _ c.ok rfl hok rfl

/-- mpn_gcd_subdiv_step (s = 0) with mpn_gcdext_hook, as the Lehmer loop and the dc loop of mpn_gcdext call it -/
theorem subdivHook_spec (A V N : Nat) (hV : V < B ^ N) (a b : Nat) (c : Ctx) (ha : 0 < a) (hb : 0 < b)
    (hcof : CofOk A V a b c.u0 c.u1) (hun : c.un = max (nlimbs c.u0) (nlimbs c.u1)) :
    ∀ w, w = (subdivStep a b).qs.foldl hookQ (c.u0, c.u1) →
    (subdivStep a b).qs.foldl (hookQS (N + 1)) c = ⟨w.1, w.2, max (nlimbs w.1) (nlimbs w.2), c.ok⟩ ∧
    (∀ g d, (subdivStep a b).fin = some (g, d) → g = Nat.gcd a b ∧
      (∃ t : Int, (A : Int) * pickCofactor w.1 w.2 d + V * t = g) ∧ CofBound V g (pickCofactor w.1 w.2 d)) ∧
    ((subdivStep a b).fin = none →
      LInv (subdivStep a b).a (subdivStep a b).b (subdivStep a b).n ∧
      Nat.gcd (subdivStep a b).a (subdivStep a b).b = Nat.gcd a b ∧
      (subdivStep a b).a + (subdivStep a b).b < a + b ∧ CofOk A V (subdivStep a b).a (subdivStep a b).b w.1 w.2) := by
  intro w hw
  obtain ⟨s1, s2⟩ := subdivStep_spec A V a b c.u0 c.u1 ha hb hcof
  have hn : 1 ≤ c.un := hun ▸ le_trans (nlimbs_pos (cofOk_sum hcof).2.1) (le_max_right _ _)
  have hfold := hookQS_fold N (subdivStep a b).qs c hun hn w hw
  rw [← hw] at s1 s2
  simp only [← nlimbs_isSize.lt_pow_iff] at hfold
  cases hfin : (subdivStep a b).fin with
  | some gd =>
    obtain ⟨g, d⟩ := gd
    obtain ⟨hgG, hex⟩ := s1 g d hfin
    refine ⟨hfold (exitOk_lt hex hV).1 (exitOk_lt hex hV).2, fun g' d' h => ?_, fun h => by simp at h⟩
    simp only [Option.some.injEq, Prod.mk.injEq] at h
    obtain ⟨rfl, rfl⟩ := h
    exact ⟨hgG, exitOk_result hex⟩
  | none =>
    obtain ⟨x1, x2, x3, hcf⟩ := s2 hfin
    exact ⟨hfold (cof_lt hcf x1.1 x1.2.1 hV).1 (cof_lt hcf x1.1 x1.2.1 hV).2, fun g d h => by simp at h,
      fun _ => ⟨x1, x2, x3, hcf⟩⟩

theorem szInv_mulM1 (N : Nat) (c : Ctx) (m : M1) (hm : Msb0 m) (hd : m.u00 * m.u11 = m.u01 * m.u10 + 1) (hs : SzInv c)
    (h0 : c.u0 * m.u00 + c.u1 * m.u10 < B ^ N) (h1 : c.u0 * m.u01 + c.u1 * m.u11 < B ^ N) :
    (mulMatrix1Vector m c.u0 c.u1 c.un).1 = c.u0 * m.u00 + c.u1 * m.u10 ∧
    (mulMatrix1Vector m c.u0 c.u1 c.un).2.1 = c.u0 * m.u01 + c.u1 * m.u11 ∧
    SzInv ⟨(mulMatrix1Vector m c.u0 c.u1 c.un).1, (mulMatrix1Vector m c.u0 c.u1 c.un).2.1,
      (mulMatrix1Vector m c.u0 c.u1 c.un).2.2, c.ok && decide (c.un < N + 1)⟩ := by
  obtain ⟨hun, hn, hok⟩ := (szInv_iff c).mp hs
  have e1 : m.u00 * c.u0 + m.u10 * c.u1 = c.u0 * m.u00 + c.u1 * m.u10 := by ring
  have e2 : m.u11 * c.u1 + m.u01 * c.u0 = c.u0 * m.u01 + c.u1 * m.u11 := by ring
  have g0 := nlimbs_isSize.mono (row_mul_ge hd c.u0 c.u1).1
  have g1 := nlimbs_isSize.mono (row_mul_ge hd c.u0 c.u1).2
  rw [mulMatrix1Vector_eq m c.u0 c.u1 c.un hm (by omega) (by omega), e1, e2, szInv_iff]
  simp only [nlimbs_isSize.lt_pow_iff] at h0 h1
  simp only [hok, Bool.true_and, decide_eq_true_eq, true_and]
  omega

theorem hgcd2_top2_msb0 (a b n : Nat) (m : M1) (hn : 2 ≤ n) (ha : a < B ^ n) (hb : b < B ^ n)
    (h : hgcd2 (top2 a b n).1 (top2 a b n).2.1 (top2 a b n).2.2.1 (top2 a b n).2.2.2 = some m) : Msb0 m := by
  obtain ⟨s, rx, ry, hs, hrx, hry, t1, t2, t3, t4, ea, eb⟩ := top2_spec a b n hn ha hb
  exact post_msb0 (hgcd2_post _ _ _ _ m t1 t2 t3 t4 h)

end Mpir.Gcdext
