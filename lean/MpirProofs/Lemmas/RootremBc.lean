/- mpn_rootrem_basecase: the limb-count facts the Newton round relies on, the loop invariants, the contract. -/
import MpirProofs.Lemmas.Rootrem
namespace Mpir.Rootrem
open Mpir Mpir.Root

/-! ### limb-count facts of one round (rootrem_basecase.c:158-163) -/

/-- the divisor `x^(n-1)` does not exceed `U` (so `pn ≤ un`: mpn_tdiv_qr is called legally). -/
theorem bc_pow_le (U n s x d : Nat) (hn : 2 ≤ n) (hd : 1 ≤ d) (hnd : n * d ≤ s) (hs1 : s ^ n ≤ U)
    (hx : x ≤ s + d) : x ^ (n - 1) ≤ U := by
  have h1 := pow_add_mul_le s d (n - 1) d (by
    have : d + (n - 1) * d = n * d := by
      have : n = (n - 1) + 1 := by omega
      calc d + (n - 1) * d = ((n - 1) + 1) * d := by ring
        _ = n * d := by rw [← this]
    omega)
  have e : n - 1 + 1 = n := by omega
  rw [e] at h1
  calc x ^ (n - 1) ≤ (s + d) ^ (n - 1) := Nat.pow_le_pow_left hx _
    _ = (s + d) ^ (n - 1) * 1 := (Nat.mul_one _).symm
    _ ≤ (s + d) ^ (n - 1) * d := Nat.mul_le_mul_left _ hd
    _ ≤ s ^ n := h1
    _ ≤ U := hs1

theorem bc_pow_le_four (n s x d : Nat) (hn : 2 ≤ n) (hnd : n * d ≤ s) (hx : x ≤ s + d) :
    x ^ (n - 1) ≤ 4 * s ^ (n - 1) := by
  obtain ⟨j1, hj1⟩ : ∃ j1, j1 = (n - 1) / 2 := ⟨_, rfl⟩
  obtain ⟨j2, hj2⟩ : ∃ j2, j2 = (n - 1) - j1 := ⟨_, rfl⟩
  have hsum : n - 1 = j1 + j2 := by omega
  have hj1n : 2 * j1 ≤ n := by omega
  have hj2n : 2 * j2 ≤ n := by omega
  have a1 := pow_add_le_two s d j1 (by
    calc 2 * (j1 * d) = (2 * j1) * d := by ring
      _ ≤ n * d := Nat.mul_le_mul_right _ hj1n
      _ ≤ s := hnd)
  have a2 := pow_add_le_two s d j2 (by
    calc 2 * (j2 * d) = (2 * j2) * d := by ring
      _ ≤ n * d := Nat.mul_le_mul_right _ hj2n
      _ ≤ s := hnd)
  calc x ^ (n - 1) ≤ (s + d) ^ (n - 1) := Nat.pow_le_pow_left hx _
    _ = (s + d) ^ j1 * (s + d) ^ j2 := by rw [hsum, pow_add]
    _ ≤ (2 * s ^ j1) * (2 * s ^ j2) := Nat.mul_le_mul a1 a2
    _ = 4 * s ^ (n - 1) := by rw [hsum, pow_add]; ring

/-- the quotient has at least `xn − 1` limbs: no limb of `qp` below `xn` is read unwritten. -/
theorem bc_no_stale (U n s x d xnb xn : Nat) (hn : 2 ≤ n) (hnd : n * d ≤ s) (hs1 : s ^ n ≤ U)
    (hx : x ≤ s + d) (hxpos : 0 < x) (hslo : 2 ^ (xnb - 1) ≤ s) (hxn : xn = (xnb + 63) / 64)
    (hPU : x ^ (n - 1) ≤ U) :
    xn ≤ limbLen U - limbLen (x ^ (n - 1)) + 2 := by
  by_cases hsmall : xn ≤ 2
  · omega
  have hP : 0 < x ^ (n - 1) := pow_pos hxpos _
  have h4 := bc_pow_le_four n s x d hn hnd hx
  -- s / 4 ≤ U / P
  have hq : s / 4 ≤ U / x ^ (n - 1) := by
    rw [Nat.le_div_iff_mul_le hP]
    calc s / 4 * x ^ (n - 1) ≤ s / 4 * (4 * s ^ (n - 1)) := Nat.mul_le_mul_left _ h4
      _ = (s / 4 * 4) * s ^ (n - 1) := by ring
      _ ≤ s * s ^ (n - 1) := Nat.mul_le_mul_right _ (Nat.div_mul_le_self s 4)
      _ = s ^ (n - 1 + 1) := by ring
      _ = s ^ n := by rw [Nat.sub_add_cancel (by omega)]
      _ ≤ U := hs1
  -- B^(xn-2) ≤ s / 4
  have hb : B ^ (xn - 2) ≤ s / 4 := by
    rw [Nat.le_div_iff_mul_le (by norm_num)]
    have : B ^ (xn - 2) * 4 = 2 ^ (64 * (xn - 2) + 2) := by
      unfold B; rw [← pow_mul, pow_add]; norm_num
    rw [this]
    exact Nat.le_trans (Nat.pow_le_pow_right (by norm_num) (by omega)) hslo
  have hpl := limbLen_isSize.pow_le (Nat.ne_of_gt hP)
  have hp1 : 1 ≤ limbLen (x ^ (n - 1)) := limbLen_isSize.pos (Nat.ne_of_gt hP)
  have hU : B ^ (xn - 2 + (limbLen (x ^ (n - 1)) - 1)) ≤ U := by
    rw [pow_add]
    calc B ^ (xn - 2) * B ^ (limbLen (x ^ (n - 1)) - 1) ≤ (U / x ^ (n - 1)) * x ^ (n - 1) :=
          Nat.mul_le_mul (Nat.le_trans hb hq) hpl
      _ ≤ U := Nat.div_mul_le_self _ _
  have := limbLen_isSize.pow_le_iff.mp hU
  omega

theorem gap_small (t n' c : Nat) (hc : 2 * (n' + 1) ≤ c) (h : (t + n' + c) * t < (t + n' + 1) * (t + n'))
    (ht : n' + 2 ≤ t) : False := by
  have h1 : (t + n' + 2 * (n' + 1)) * t ≤ (t + n' + c) * t := Nat.mul_le_mul_right _ (by omega)
  have h2 : n' * t + 2 * t ≤ t * t := by linear_combination t * ht
  have h3 : n' * n' + 2 * n' ≤ n' * t := by linear_combination n' * ht
  have e1 : (t + n' + 2 * (n' + 1)) * t = t * t + 3 * (n' * t) + 2 * t := by ring
  have e2 : (t + n' + 1) * (t + n') = t * t + 2 * (n' * t) + n' * n' + t + n' := by ring
  omega

/-- a quotient of `xn + 1` limbs is seen by the test `un - pn == xn` (rootrem_basecase.c:163), as long as
    `4·n² ≤ B^xn`. -/
theorem bc_big_quot (U n s x xn : Nat) (hn : 2 ≤ n) (hsx : s ≤ x) (hxW : x < B ^ xn) (hsW : s + 1 ≤ B ^ xn)
    (hs2 : U < (s + 1) ^ n) (h2n : 2 * n ≤ x) (hn2 : 4 * n * n ≤ B ^ xn) (hxn : 1 ≤ xn)
    (hPU : x ^ (n - 1) ≤ U) (hbig : B ^ xn ≤ U / x ^ (n - 1)) :
    limbLen U - limbLen (x ^ (n - 1)) = xn := by
  have hxpos : 0 < x := by omega
  have hP : 0 < x ^ (n - 1) := pow_pos hxpos _
  have hpl := limbLen_isSize.pow_le (Nat.ne_of_gt hP)
  have hp1 : 1 ≤ limbLen (x ^ (n - 1)) := limbLen_isSize.pos (Nat.ne_of_gt hP)
  have hWP : B ^ xn * x ^ (n - 1) ≤ U :=
    Nat.le_trans (Nat.mul_le_mul_right _ hbig) (Nat.div_mul_le_self _ _)
  generalize hW : B ^ xn = W at *
  generalize hpn : limbLen (x ^ (n - 1)) = pn at *
  have hWpos : 0 < W := by omega
  -- (a) un ≥ pn + xn
  have ha : xn + (pn - 1) < limbLen U := by
    apply limbLen_isSize.pow_le_iff.mp
    rw [pow_add, hW]
    exact Nat.le_trans (Nat.mul_le_mul_left _ hpl) hWP
  -- (b) U < B^(xn + pn)
  have hn1 : n - 1 + 1 = n := by omega
  have hUx : U < (x + 1) ^ n := Nat.lt_of_lt_of_le hs2 (Nat.pow_le_pow_left (by omega) _)
  have h2x := pow_add_le_two x 1 n (by omega)
  have hW2x : W < 2 * x := by
    have : W * x ^ (n - 1) < (2 * x) * x ^ (n - 1) := by
      calc W * x ^ (n - 1) ≤ U := hWP
        _ < (x + 1) ^ n := hUx
        _ ≤ 2 * x ^ n := h2x
        _ = 2 * x ^ (n - 1 + 1) := by rw [hn1]
        _ = (2 * x) * x ^ (n - 1) := by ring
    exact Nat.lt_of_mul_lt_mul_right this
  obtain ⟨t, ht⟩ : ∃ t, t + (n - 1) = x := ⟨x - (n - 1), by omega⟩
  have h3 := pow_add_mul_le x 1 (n - 1) t (by omega)
  rw [hn1] at h3
  have hWt : W * t < (x + 1) * x := by
    have : (W * t) * x ^ (n - 1) < ((x + 1) * x) * x ^ (n - 1) := by
      calc (W * t) * x ^ (n - 1) = (W * x ^ (n - 1)) * t := by ring
        _ ≤ U * t := Nat.mul_le_mul_right _ hWP
        _ < (x + 1) ^ n * t := Nat.mul_lt_mul_of_pos_right hUx (by omega)
        _ = (x + 1) * ((x + 1) ^ (n - 1) * t) := by
            rw [← hn1, pow_succ]; rw [hn1]; ring
        _ ≤ (x + 1) * x ^ n := Nat.mul_le_mul_left _ h3
        _ = ((x + 1) * x) * x ^ (n - 1) := by rw [← hn1, pow_succ]; rw [hn1]; ring
    exact Nat.lt_of_mul_lt_mul_right this
  obtain ⟨c, hc⟩ : ∃ c, x + c = W := ⟨W - x, by omega⟩
  have hc2n : c < 2 * n := by
    by_contra hcc
    obtain ⟨n', rfl⟩ : ∃ n', n = n' + 1 := ⟨n - 1, by omega⟩
    rw [Nat.add_sub_cancel] at ht
    rw [← hc, ← ht] at hWt
    exact gap_small t n' c (by omega) hWt (by omega)
  -- Bernoulli: W^(n-1) ≤ 2 x^(n-1)
  have hbern := bernoulli_sub W c (by omega) (n - 1)
  have hWc : W - c = x := by omega
  rw [hWc] at hbern
  have hhalf : W ≤ 2 * (W - (n - 1) * c) := by
    have : (n - 1) * c ≤ n * (2 * n) := Nat.mul_le_mul (by omega) (by omega)
    have : n * (2 * n) * 2 = 4 * n * n := by ring
    omega
  have hWn : W ^ (n - 1) ≤ 2 * x ^ (n - 1) := by
    have : W ^ (n - 1) * W ≤ (2 * x ^ (n - 1)) * W := by
      calc W ^ (n - 1) * W ≤ W ^ (n - 1) * (2 * (W - (n - 1) * c)) := Nat.mul_le_mul_left _ hhalf
        _ = 2 * (W ^ (n - 1) * (W - (n - 1) * c)) := by ring
        _ ≤ 2 * (W * x ^ (n - 1)) := Nat.mul_le_mul_left _ hbern
        _ = (2 * x ^ (n - 1)) * W := by ring
    exact Nat.le_of_mul_le_mul_right this hWpos
  -- pn ≥ xn (n-1)
  have hpn_ge : xn * (n - 1) ≤ pn := by
    have hB2 : 2 ≤ B := by rw [B_eq]; norm_num
    have hpos : 1 ≤ xn * (n - 1) := Nat.mul_pos hxn (by omega)
    have h6 : B ^ (xn * (n - 1) - 1) ≤ x ^ (n - 1) := by
      have : B ^ (xn * (n - 1) - 1) * B ≤ x ^ (n - 1) * B := by
        calc B ^ (xn * (n - 1) - 1) * B = B ^ (xn * (n - 1) - 1 + 1) := (pow_succ _ _).symm
          _ = B ^ (xn * (n - 1)) := by rw [Nat.sub_add_cancel hpos]
          _ = W ^ (n - 1) := by rw [← hW, ← pow_mul]
          _ ≤ 2 * x ^ (n - 1) := hWn
          _ ≤ B * x ^ (n - 1) := Nat.mul_le_mul_right _ hB2
          _ = x ^ (n - 1) * B := Nat.mul_comm _ _
      exact Nat.le_of_mul_le_mul_right this B_pos
    have := limbLen_isSize.pow_le_iff.mp h6
    rw [hpn] at this
    omega
  have hb : limbLen U ≤ xn + pn := by
    rw [limbLen_isSize _ _, pow_add, hW]
    calc U < (s + 1) ^ n := hs2
      _ ≤ W ^ n := Nat.pow_le_pow_left hsW _
      _ = W * W ^ (n - 1) := by rw [← hn1, pow_succ]; rw [hn1]; ring
      _ = W * B ^ (xn * (n - 1)) := by rw [← hW, ← pow_mul]
      _ ≤ W * B ^ pn := Nat.mul_le_mul_left _ (Nat.pow_le_pow_right B_pos hpn_ge)
  omega

/-! ### the bit-by-bit phase (rootrem_basecase.c:132-147) and label `done:` -/

theorem pow1_some (bn b e : Nat) (h : B ^ (bn - 1) ≤ b) : pow1 bn b e = some (b ^ e) := by
  unfold pow1; rw [if_pos h]

/-- The bit-by-bit phase (rootrem_basecase.c:132-147).  Invariant with `r = bit + 1` untested low bits:
    `s ≤ x ≤ s + 2^r`, the low `r` bits of `x` are ones, the top bit `T = 2^(xnb-1)` is still set. -/
theorem bcBits_spec (U n s xn T : Nat) (hs1 : s ^ n ≤ U) (hs2 : U < (s + 1) ^ n) (hT : B ^ (xn - 1) ≤ T) :
    ∀ (iters x bit nv : Nat), s ≤ x → x ≤ s + 2 ^ (bit + 1) → x % 2 ^ (bit + 1) = 2 ^ (bit + 1) - 1 →
      T + 2 ^ (bit + 1) ≤ x + 1 →
      ∃ x' nv' dn, bcBits n U xn iters x bit nv = some (x', nv', dn) ∧ Root.bcBits n U iters x bit nv = (x', nv', dn) ∧
        s ≤ x' ∧ x' ≤ x ∧ (dn = true → x' ≤ s + 1) ∧
        (dn = false → nv' = nv + iters ∧ iters ≤ bit ∧ x' ≤ s + 2 ^ (bit + 1 - iters))
  | 0, x, bit, nv, h1, h2, _, _ =>
    ⟨x, nv, false, rfl, rfl, h1, Nat.le_refl _, by simp, fun _ => ⟨rfl, Nat.zero_le _, h2⟩⟩
  | iters + 1, x, bit, nv, h1, h2, h3, h4 => by
    obtain ⟨f1, f2, f3, f4⟩ := xor_flip x bit h3
    have hpw : 2 ^ (bit + 1) = 2 * 2 ^ bit := by ring
    have hp : 0 < 2 ^ bit := by positivity
    unfold bcBits Root.bcBits
    dsimp only
    rw [f1, pow1_some xn (x - 2 ^ bit) n (by omega)]
    simp only [Option.bind_eq_bind, Option.bind_some, gt_iff_lt]
    obtain ⟨xk, hxk⟩ : ∃ xk, xk = if U < (x - 2 ^ bit) ^ n then x - 2 ^ bit else x := ⟨_, rfl⟩
    rw [← hxk]
    have k1 : s ≤ xk ∧ xk ≤ s + 2 ^ bit ∧ xk % 2 ^ bit = 2 ^ bit - 1 ∧ T + 2 ^ bit ≤ xk + 1 ∧ xk ≤ x := by
      by_cases hc : U < (x - 2 ^ bit) ^ n
      · rw [if_pos hc] at hxk
        have : s < x - 2 ^ bit := (lt_iff_of_root hs1 hs2).mpr hc
        subst hxk
        exact ⟨by omega, by omega, f4, by omega, by omega⟩
      · rw [if_neg hc] at hxk
        have : x - 2 ^ bit ≤ s := (le_iff_of_root hs1 hs2).mpr (Nat.le_of_not_lt hc)
        subst hxk
        exact ⟨h1, by omega, f3, by omega, Nat.le_refl _⟩
    obtain ⟨k1a, k1b, k1c, k1d, k1e⟩ := k1
    by_cases hb : bit = 0
    · rw [if_pos hb, if_pos hb]
      subst hb
      exact ⟨xk, nv + 1, true, rfl, rfl, k1a, k1e, fun _ => by simpa using k1b, by simp⟩
    · rw [if_neg hb, if_neg hb]
      have hb1 : bit - 1 + 1 = bit := by omega
      obtain ⟨x', nv', dn, e1, e1', e2, e3, e4, e5⟩ := bcBits_spec U n s xn T hs1 hs2 hT iters xk (bit - 1) (nv + 1) k1a
        (by rw [hb1]; exact k1b) (by rw [hb1]; exact k1c) (by rw [hb1]; exact k1d)
      refine ⟨x', nv', dn, e1, e1', e2, Nat.le_trans e3 k1e, e4, fun hd => ?_⟩
      obtain ⟨g1, g2, g3⟩ := e5 hd
      refine ⟨by omega, by omega, ?_⟩
      have : bit + 1 - (iters + 1) = bit - 1 + 1 - iters := by omega
      rw [this]; exact g3

/-- the bit-by-bit phase from the all-ones start `2^(q+1) − 1`: `done`, or the invariant the Newton loop starts from. -/
theorem bcBits_start (U n q : Nat) (hU : 0 < U) (hn : 2 ≤ n) (hq : (bitLen U - 1) / n = q) (hq1 : 1 ≤ q) :
    ∃ x' nv' dn, bcBits n U ((q + 1 + 63) / 64) (bitLen n) (2 ^ (q + 1) - 1) (q + 1 - 2) 0 = some (x', nv', dn) ∧
      Root.bcBits n U (bitLen n) (2 ^ (q + 1) - 1) (q + 1 - 2) 0 = (x', nv', dn) ∧
      iroot n U ≤ x' ∧ x' < B ^ ((q + 1 + 63) / 64) ∧ B ^ ((q + 1 + 63) / 64 - 1) ≤ iroot n U ∧
      (dn = true → x' ≤ iroot n U + 1) ∧
      (dn = false → nv' = bitLen n ∧ bitLen n + 1 ≤ q ∧ x' ≤ iroot n U + 2 ^ (q - bitLen n)) := by
  obtain ⟨hs1, hs2⟩ := iroot_spec n U (by omega)
  obtain ⟨hb1, hb2⟩ := iroot_bits U n hU (by omega)
  rw [hq] at hb1 hb2
  generalize iroot n U = s at *
  obtain ⟨T, hT⟩ : ∃ T, T = 2 ^ q := ⟨_, rfl⟩
  have hTpos : 0 < T := by rw [hT]; positivity
  have hpw : 2 ^ (q + 1) = 2 * T := by rw [hT]; ring
  have hbit : q + 1 - 2 + 1 = q := by omega
  generalize hxn : (q + 1 + 63) / 64 = xn
  have hTB : B ^ (xn - 1) ≤ T := by
    rw [hT, B_pow]
    exact Nat.pow_le_pow_right (by norm_num) (by omega)
  have hW : 2 * T ≤ B ^ xn := by
    rw [← hpw, B_pow]
    exact Nat.pow_le_pow_right (by norm_num) (by omega)
  rw [← hT] at hb1
  rw [hpw] at hb2 ⊢
  obtain ⟨x', nv', dn, e1, e1', e2, e3, e4, e5⟩ := bcBits_spec U n s xn T hs1 hs2 hTB (bitLen n) (2 * T - 1) (q + 1 - 2) 0
    (by omega) (by rw [hbit, ← hT]; omega)
    (by
      rw [hbit, ← hT]
      have : 2 * T - 1 = T + (T - 1) := by omega
      rw [this, Nat.add_mod_left, Nat.mod_eq_of_lt (by omega)])
    (by rw [hbit, ← hT]; omega)
  refine ⟨x', nv', dn, e1, e1', e2, by omega, Nat.le_trans hTB hb1, e4, fun hd => ?_⟩
  obtain ⟨g1, g2, g3⟩ := e5 hd
  refine ⟨by omega, by omega, ?_⟩
  rwa [show q + 1 - 2 + 1 - bitLen n = q - bitLen n by omega] at g3

/-- label `done:` — from the root or the root plus one. -/
theorem bcDone_spec (U n s xn x : Nat) (hs1 : s ^ n ≤ U) (hs2 : U < (s + 1) ^ n)
    (hlo : B ^ (xn - 1) ≤ s) (h1 : s ≤ x) (h2 : x ≤ s + 1) :
    bcDone U n xn x = some (s, U - s ^ n) := by
  unfold bcDone
  rw [pow1_some xn x n (by omega)]
  simp only [Option.bind_eq_bind, Option.bind_some, ← lt_iff_of_root hs1 hs2]
  split
  · rw [show x - 1 = s by omega, pow1_some xn s n hlo]
    simp only [Option.bind_some, ← lt_iff_of_root hs1 hs2, Nat.lt_irrefl, if_false]
  · rw [show x = s by omega]

/-! ### the Newton loop (rootrem_basecase.c:154-179) -/

theorem root_bcNewton_exit (nth U xn xnb adj x nv : Nat) (h : xnb < nv) :
    ∀ fuel, Root.bcNewton nth U xn xnb adj fuel x nv = x
  | 0 => rfl
  | fuel + 1 => by rw [Root.bcNewton, if_neg (by omega)]

/-- The Newton loop (rootrem_basecase.c:154-179) in both models: same iterate in every round (`bcNewtonStep_eq`,
    `newton_clamp`), the mirror's fuel `xnb + 1 − n_valid_bits` and the value model's `2^fuel'·v` are both enough. -/
theorem bcNewton_spec (U k s xnb xn m L : Nat) (hnB : k + 2 < B) (hnL : k + 2 < 2 ^ L) (hL : 1 ≤ L)
    (hs1 : s ^ (k + 2) ≤ U) (hs2 : U < (s + 1) ^ (k + 2)) (hxnb : xnb = m + L + 1) (hm : 1 ≤ m)
    (hslo : 2 ^ (xnb - 1) ≤ s) (hshi : s < 2 ^ xnb) (hxn : xn = (xnb + 63) / 64)
    (hn2 : 4 * (k + 2) * (k + 2) ≤ B ^ xn) :
    ∀ (fuel fuel' x nv v : Nat), nv = v + (L - 1) → 1 ≤ v → xnb + 1 ≤ fuel + nv → xnb + 1 ≤ 2 ^ fuel' * v + (L - 1) →
      s ≤ x → x ≤ s + 2 ^ m → x < B ^ xn → (x - s - 1) * 2 ^ v ≤ 2 ^ (m + 1) →
      ∃ x', bcNewton U (limbLen U) (k + 2) xn xnb (L - 1) fuel x nv = some x' ∧
        Root.bcNewton (k + 2) U xn xnb (L - 1) fuel' x nv = x' ∧ s ≤ x' ∧ x' ≤ s + 1 := by
  have hxn1 : 1 ≤ xn := by omega
  have hlow : 2 ^ (m + L) ≤ s := by
    have : xnb - 1 = m + L := by omega
    rw [this] at hslo; exact hslo
  have hBlo : B ^ (xn - 1) ≤ s := by
    refine Nat.le_trans ?_ hslo
    rw [B_pow]
    exact Nat.pow_le_pow_right (by norm_num) (by omega)
  have hsW : s + 1 ≤ B ^ xn := by
    have : 2 ^ xnb ≤ B ^ xn := by
      rw [B_pow]
      exact Nat.pow_le_pow_right (by norm_num) (by omega)
    omega
  have hBW : B ≤ B ^ xn := B_le_Bpow (by omega)
  have hnd : (k + 2) * 2 ^ m ≤ s := by
    calc (k + 2) * 2 ^ m ≤ 2 ^ L * 2 ^ m := Nat.mul_le_mul_right _ (Nat.le_of_lt hnL)
      _ = 2 ^ (m + L) := by rw [pow_add]; ring
      _ ≤ s := hlow
  have h2n : 2 * (k + 2) ≤ s := by
    have : (k + 2) * 2 ^ 1 ≤ (k + 2) * 2 ^ m := Nat.mul_le_mul_left _ (Nat.pow_le_pow_right (by norm_num) hm)
    omega
  have exit : ∀ (fuel' x nv v : Nat), nv = v + (L - 1) → xnb < nv → s ≤ x → (x - s - 1) * 2 ^ v ≤ 2 ^ (m + 1) →
      (if nv ≤ xnb then (none : Option Nat) else some x) = some x ∧
        Root.bcNewton (k + 2) U xn xnb (L - 1) fuel' x nv = x ∧ s ≤ x ∧ x ≤ s + 1 :=
    fun fuel' x nv v hnv hgt h1 h4 =>
      ⟨if_neg (by omega), root_bcNewton_exit _ _ _ _ _ _ _ hgt fuel', h1, newton_exit s x m v (by omega) h4⟩
  intro fuel
  induction fuel with
  | zero =>
    intro fuel' x nv v hnv hv hfuel hfuel' h1 h2 h3 h4
    unfold bcNewton
    exact ⟨x, exit fuel' x nv v hnv (by omega) h1 h4⟩
  | succ fuel ih =>
    intro fuel' x nv v hnv hv hfuel hfuel' h1 h2 h3 h4
    unfold bcNewton
    by_cases hle : nv ≤ xnb
    · rw [if_pos hle]
      obtain ⟨f', rfl⟩ : ∃ f', fuel' = f' + 1 := ⟨fuel' - 1, by
        rcases fuel' with _ | f'
        · rw [pow_zero, Nat.one_mul] at hfuel'; omega
        · rfl⟩
      obtain ⟨hx', y1, y4, y3, y5⟩ := newton_step_clamped U k s x m L v (B ^ xn) hnL hs1 hs2 h1 hlow hm h4 h2 h3 hsW
      have hPU := bc_pow_le U (k + 2) s x (2 ^ m) (by omega) Nat.one_le_two_pow hnd hs1 h2
      have hst := bc_no_stale U (k + 2) s x (2 ^ m) xnb xn (by omega) hnd hs1 h2 (by omega) hslo hxn hPU
      have hbg := bc_big_quot U (k + 2) s x xn (by omega) h1 h3 hsW hs2 (by omega) hn2 hxn1 hPU
      rw [bcNewtonStep_eq U (k + 2) xn x (by omega) hnB (by omega) h3 hxn1 hPU hst hbg hx', Root.bcNewton, if_pos hle]
      simp only [Option.bind_eq_bind, Option.bind_some]
      rw [(newton_clamp (U / x ^ (k + 2 - 1) + (k + 2 - 1) * x) (k + 2) (B ^ xn) (by omega) (by omega) hx').2]
      have hf' : xnb + 1 ≤ 2 ^ f' * (2 * v) + (L - 1) := by
        have : 2 ^ (f' + 1) * v = 2 ^ f' * (2 * v) := by rw [pow_succ]; ring
        omega
      exact ih f' _ (nv * 2 - (L - 1)) (2 * v) (by omega) (by omega) (by omega) hf' y1 y4 y3 y5
    · rw [if_neg hle]
      have := exit fuel' x nv v hnv (by omega) h1 h4
      exact ⟨x, rfl, this.2⟩

/-! ### mpn_rootrem_basecase as a whole; ROOTREM_THRESHOLD -/

/-- operands below 2^32 bits: when the Newton loop is reached (`xnb ≥ bits(n) + 2`), `4·n² ≤ B`. -/
theorem bc_index_small (U n : Nat) (hn : 2 ≤ n) (hsz : bitLen U ≤ 2 ^ 32)
    (hreach : bitLen n + 2 ≤ (bitLen U - 1) / n + 1) : 4 * n * n ≤ B := by
  have h1 : bitLen n + 1 ≤ (bitLen U - 1) / n := by omega
  rw [Nat.le_div_iff_mul_le (by omega)] at h1
  obtain ⟨b1, b2, b3⟩ := bitLen_spec n (by omega)
  have hlt : n < 2 ^ 28 := by
    by_contra hc
    have hc' : 2 ^ 28 ≤ n := by omega
    have hL : 29 ≤ bitLen n := by
      by_contra hL
      have : 2 ^ bitLen n ≤ 2 ^ 28 := Nat.pow_le_pow_right (by norm_num) (by omega)
      omega
    have : 2 ^ 28 * 30 ≤ (bitLen n + 1) * n := by
      calc 2 ^ 28 * 30 = 30 * 2 ^ 28 := by ring
        _ ≤ (bitLen n + 1) * n := Nat.mul_le_mul (by omega) hc'
    omega
  rw [B_eq]
  have : n * n ≤ 2 ^ 28 * 2 ^ 28 := Nat.mul_le_mul (by omega) (by omega)
  have : 4 * n * n = 4 * (n * n) := by ring
  omega

theorem rootremBasecase_ok (U n : Nat) (hU : 0 < U) (hn : 2 ≤ n) (hnB : n < B) (hsz : bitLen U ≤ 2 ^ 32) :
    rootremBasecase U n = some (iroot n U, U - iroot n U ^ n) ∧
    Root.rootremBasecase U n = (iroot n U, U - iroot n U ^ n) := by
  obtain ⟨hs1, hs2⟩ := iroot_spec n U (by omega)
  obtain ⟨hb1, hb2⟩ := iroot_bits U n hU (by omega)
  have hfin : ∀ x, iroot n U ≤ x → x ≤ iroot n U + 1 → finalAdjust1 n U x = (iroot n U, U - iroot n U ^ n) :=
    fun x h1 h2 => by unfold finalAdjust1; rw [adjustDown_spec n U (by omega) 1 x h1 h2]; rfl
  unfold rootremBasecase Root.rootremBasecase
  dsimp only
  by_cases hx1 : (bitLen U - 1) / n + 1 = 1
  · rw [if_pos hx1, if_pos hx1]
    rw [show (bitLen U - 1) / n = 0 by omega] at hb1 hb2
    rw [show iroot n U = 1 by omega]; simp
  rw [if_neg hx1, if_neg hx1]
  have hreach0 := bc_index_small U n hn hsz
  generalize hq : (bitLen U - 1) / n = q at *
  obtain ⟨x', nv', dn, e1, e1', e2, eW, hBs, e4, e5⟩ := bcBits_start U n q hU hn hq (by omega)
  generalize iroot n U = s at *
  rw [e1, e1']
  simp only [Option.bind_eq_bind, Option.bind_some]
  cases dn with
  | true =>
    simp only [if_true]
    exact ⟨bcDone_spec U n s _ x' hs1 hs2 hBs e2 (e4 rfl), hfin x' e2 (e4 rfl)⟩
  | false =>
    obtain ⟨rfl, g2, g3⟩ := e5 rfl
    obtain ⟨b1, b2, b3⟩ := bitLen_spec n (by omega)
    have hBW : B ≤ B ^ ((q + 1 + 63) / 64) := B_le_Bpow (by omega)
    have hn2 := Nat.le_trans (hreach0 (by omega)) hBW
    have hqsmall : q ≤ bitLen U - 1 := hq ▸ Nat.div_le_self _ _
    generalize bitLen n = L at *
    obtain ⟨k, rfl⟩ : ∃ k, n = k + 2 := ⟨n - 2, by omega⟩
    have h64 : (2:Nat) ^ 32 + 2 ≤ 2 ^ 64 := by norm_num
    obtain ⟨y, y1, y0, y2, y3⟩ := bcNewton_spec U k s (q + 1) _ (q - L) L hnB b2 b3 hs1 hs2 (by omega) (by omega)
      hb1 hb2 rfl hn2 (q + 1 + 1) 64 x' L 1 (by omega) (Nat.le_refl _) (by omega) (by omega) e2 g3 eW
      (by
        have : x' - s - 1 ≤ 2 ^ (q - L) := by omega
        calc (x' - s - 1) * 2 ^ 1 ≤ 2 ^ (q - L) * 2 ^ 1 := Nat.mul_le_mul_right _ this
          _ = 2 ^ (q - L + 1) := by ring)
    simp only [Bool.false_eq_true, if_false]
    rw [y1, y0]
    simp only [Option.bind_some]
    exact ⟨bcDone_spec U (k + 2) s _ y hs1 hs2 hBs y2 y3, hfin y y2 y3⟩

/-- below ROOTREM_THRESHOLD limbs (the regenerated constant) an operand has fewer than 2^32 bits. -/
theorem bitLen_of_threshold {U : Nat} (h : limbLen U < Mpir.Gen.SqrtTabs.rootremThreshold) : bitLen U ≤ 2 ^ 32 := by
  have h' : limbLen U < 2 ^ 26 := Nat.lt_trans h (by decide)
  unfold limbLen at h'
  omega

end Mpir.Rootrem
