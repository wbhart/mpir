/- mpz_2multiswing_1 (oddfac_1.c:199-262) assembled: the three sieve loops give the odd part of the swing number. -/
import MpirProofs.Lemmas.Swing
import MpirProofs.Lemmas.NumthFac
namespace Mpir.Numth
open Mpir Mpir.Gen.NumthTabs Mpir.Sieve
open Nat

/-- the prime-power factor the algorithm accumulates for x -/
def swG (n : ℕ) (x : ℕ) : ℕ := x ^ swExp x 64 n

theorem n_to_bit_five : n_to_bit 5 = 0 := by decide

theorem prime_ge5_odd {x : ℕ} (hx : x.Prime) (h5 : 5 ≤ x) : x ≠ 2 ∧ x % 2 = 1 := by
  have := prime_mod6 hx h5; omega

theorem mpz_2multiswing_1_eq (n0 : ℕ) (h26 : 26 ≤ n0) (hB : n0 < B) :
    mpz_2multiswing_1 n0 = (if n0 % 2 = 1 then n0 else 1) * ∏ i ∈ Finset.Ico 3 (n0 - n0 % 2 + 1), atPrime (swG (n0 - n0 % 2)) i := by
  unfold mpz_2multiswing_1
  simp only []
  obtain ⟨hn26, hne, hnB⟩ : 26 ≤ n0 - n0 % 2 ∧ (n0 - n0 % 2) % 2 = 0 ∧ n0 - n0 % 2 < B := by omega
  generalize n0 - n0 % 2 = n at *
  generalize (if n0 % 2 = 1 then n0 else 1) = prod0
  clear h26 hB n0
  -- max_prod = GMP_NUMB_MAX / (n - 1)
  have hfit : ∀ x, x ≤ n - 1 → (B - 1) / (n - 1) * x < B := fun x hx => limb_div_mul_lt hx
  have hM1 : 1 ≤ (B - 1) / (n - 1) := by
    rw [Nat.le_div_iff_mul_le (by omega)]; have := B_eq; omega
  generalize (B - 1) / (n - 1) = M at hfit hM1 ⊢
  have hM3 : M * 3 % B = M * 3 := Nat.mod_eq_of_lt (hfit 3 (by omega))
  obtain ⟨hr5, hrB, hr⟩ := apprsqrt_facts n (by omega) hnB
  have hrange := swing_ranges n (by omega)
  have huw : nb (n / 2) + 1 ≤ nb n := by rw [nb_eq, nb_eq]; omega
  generalize limb_apprsqrt n = r at hr5 hrB hr hrange ⊢
  have hr3 : r < n / 3 := lt_of_lt_of_le (nb_le_succ r hr5).2 ((le_nb_iff _ _ (by omega)).1 hrange)
  have hfitG : ∀ x, x.Prime → x ≠ 2 → M * x ^ swExp x 64 n < B := fun x hx h2 =>
    hfit _ (pow_swExp_le_pred x n hx h2 (by omega) hne)
  rw [n_to_bit_five, n_to_bit_eq_nb r hr5 hrB, n_to_bit_eq_nb (n / 3) (by omega) (by omega),
    n_to_bit_eq_nb (n / 2) (by omega) (by omega), n_to_bit_eq_nb n (by omega) hnB, hM3]
  change flVal _ = _
  rw [three_loops_val (swG n) _ _ _ r (n / 3) (n / 2) n _ hr5 hrange (by omega) huw
    (fun p st hp h5 _ => swingAPrime_val n M p (by omega) hM1 (hfitG p hp (prime_ge5_odd hp h5).1) st)
    (fun p st hp h1 h2 => by
      -- r < p: one pass of the loop, SH_SWING_A_PRIME does the same
      have := (prime_ge5_odd hp (by omega)).2
      rw [shSwingAPrime_val n (M * 3) p (by rw [Nat.mul_assoc]; exact hfit _ (by omega)) st, swG,
        swExp_of_div_lt (by decide) (hr p h1)])
    (fun p hp h1 h2 => by rw [swG, swExp_mid (by omega) h1 h2, pow_zero])
    (fun p st hp h1 h2 => by
      have := (prime_ge5_odd hp (by omega)).2
      rw [flStore_val_of_le st le_rfl (hfit p (by omega)), swG, swExp_top hp.two_le h1 h2, pow_one]),
    swingAPrime_val n M 3 (by norm_num) hM1 (hfitG 3 Nat.prime_three (by norm_num)),
    prod_atPrime_from_three _ (by omega), flVal_mk]
  simp only [prodList, swG]; ring

theorem mpz_2multiswing_1_spec (m : ℕ) (h26 : 26 ≤ m) (hB : m < B) :
    mpz_2multiswing_1 m * oddPart ((m / 2)!) ^ 2 = oddPart (m !) := by
  rw [mpz_2multiswing_1_eq m h26 hB]
  have hsw := oddPart_factorial_swing (m - m % 2) (m - m % 2 + 1) (by rw [B_eq] at hB; omega) (by omega)
  have hhalf : (m - m % 2) / 2 = m / 2 := by omega
  rw [hhalf] at hsw
  change oddPart ((m - m % 2)!) = (∏ i ∈ Finset.Ico 3 _, atPrime (swG (m - m % 2)) i) * _ at hsw
  rcases Nat.mod_two_eq_zero_or_one m with h | h
  · simp only [h, Nat.sub_zero, show ¬ ((0 : ℕ) = 1) by omega, if_false, Nat.one_mul] at hsw ⊢
    exact hsw.symm
  · simp only [h, if_true] at hsw ⊢
    rw [Nat.mul_assoc, ← hsw]
    obtain ⟨ho, t, ht⟩ := oddPart_spec ((m - 1)!) (Nat.factorial_ne_zero _)
    symm
    apply oddPart_of_eq (t := t)
    · rw [Nat.mul_mod, h, ho]
    · obtain ⟨j, rfl⟩ : ∃ j, m = j + 1 := ⟨m - 1, by omega⟩
      rw [Nat.factorial_succ]
      simp only [Nat.add_sub_cancel] at ht ⊢
      conv_lhs => rw [ht]
      ring

theorem dsc_threshold_ge : 26 ≤ FAC_DSC_THRESHOLD := by decide

theorem swingOK (n : ℕ) (hn : n < B) : SwingOK n := fun m h1 h2 =>
  mpz_2multiswing_1_spec m (Nat.le_trans dsc_threshold_ge h1) (Nat.lt_of_le_of_lt h2 hn)

theorem mpz_oddfac_1_eq (n : ℕ) (hn : n < B) : mpz_oddfac_1 n 0 = oddPart (n !) :=
  mpz_oddfac_1_of_swing n hn (swingOK n hn)

end Mpir.Numth
