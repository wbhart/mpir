/- What the files about Mpir/Model/Numth.lean (property C16) share: the executable specs are the Mathlib functions, trial
   division, the odd part and the power of two of n!, factor lists, word helpers. -/
import MpirProofs.Lemmas.Arith
import MpirProofs.Lemmas.Base
import Mpir.Model.Numth
import Mathlib.NumberTheory.Primorial
import Mathlib.NumberTheory.Padics.PadicVal.Basic
import Mathlib.Data.Nat.Factorization.Basic
import Mathlib.Data.Nat.Fib.Basic
import Mathlib.Data.Nat.Factorial.Basic
import Mathlib.Data.Nat.Factorial.DoubleFactorial
import Mathlib.Data.Nat.Choose.Basic
import Mathlib.Data.Nat.Prime.Basic
import Mathlib.Tactic.IntervalCases
import Mathlib.Tactic.NormNum
namespace Mpir.Numth
open Mpir Mpir.Gen.NumthTabs

/-! ## The executable specs are the Mathlib functions -/

theorem factorial_eq (n : ℕ) : factorial n = n.factorial := by
  induction n with
  | zero => rfl
  | succ n ih => simp [factorial, ih, Nat.factorial_succ]

open Nat in
theorem doubleFactorial_eq : ∀ n : ℕ, doubleFactorial n = n‼
  | 0 => rfl
  | 1 => rfl
  | n + 2 => by simp [doubleFactorial, doubleFactorial_eq n]

theorem fibLoop_eq (n m : ℕ) : fibLoop n (Nat.fib m) (Nat.fib (m + 1)) = Nat.fib (n + m) := by
  induction n generalizing m with
  | zero => simp [fibLoop]
  | succ n ih =>
    have h : Nat.fib m + Nat.fib (m + 1) = Nat.fib (m + 1 + 1) := by rw [Nat.fib_add_two]
    rw [fibLoop, h, ih (m + 1)]; congr 1; omega

theorem fibSpec_eq (n : ℕ) : fibSpec n = Nat.fib n := by
  have := fibLoop_eq n 0; simpa [fibSpec] using this

theorem fibLoop_add (n a b a' b' : ℕ) : fibLoop n (a + a') (b + b') = fibLoop n a b + fibLoop n a' b' := by
  induction n generalizing a b a' b' with
  | zero => simp [fibLoop]
  | succ n ih => simp only [fibLoop]; rw [← ih]; congr 1; omega

theorem lucSpec_add_fib (n : ℕ) : lucSpec n + Nat.fib n = 2 * Nat.fib (n + 1) := by
  have h1 : fibLoop n 2 2 = lucSpec n + fibSpec n := by
    have := fibLoop_add n 2 1 0 1; simpa [lucSpec, fibSpec] using this
  have h2 : fibLoop n 2 2 = 2 * fibLoop n 1 1 := by
    have := fibLoop_add n 1 1 1 1; norm_num at this; omega
  have h3 : fibLoop n 1 1 = Nat.fib (n + 1) := by
    have := fibLoop_eq n 1; simpa using this
  rw [← fibSpec_eq]; omega

theorem noDivisorFrom_iff (n : ℕ) : ∀ fuel d, 1 ≤ d →
    (noDivisorFrom n fuel d = true ↔ ∀ m, d ≤ m → m < d + fuel → m * m ≤ n → ¬ m ∣ n) := by
  intro fuel
  induction fuel with
  | zero => intro d _; simp [noDivisorFrom]; intro m h1 h2; omega
  | succ fuel ih =>
    intro d hd
    rw [noDivisorFrom]
    by_cases h1 : d * d > n
    · simp only [h1, if_true, true_iff]
      intro m hm _ hmm
      have : d * d ≤ m * m := Nat.mul_le_mul hm hm
      omega
    · simp only [h1, if_false]
      by_cases h2 : n % d = 0
      · simp only [beq_iff_eq, h2, if_true]
        constructor
        · intro h; cases h
        · intro h; exact absurd (Nat.dvd_of_mod_eq_zero h2) (h d le_rfl (by omega) (by omega))
      · simp only [beq_iff_eq, h2, if_false]
        rw [ih (d + 1) (by omega)]
        constructor
        · intro h m hm hlt hmm
          rcases Nat.eq_or_lt_of_le hm with rfl | hgt
          · intro hdv; exact h2 (Nat.mod_eq_zero_of_dvd hdv)
          · exact h m hgt (by omega) hmm
        · intro h m hm hlt hmm; exact h m (by omega) (by omega) hmm

theorem isPrimeTD_iff (n : ℕ) : isPrimeTD n = true ↔ n.Prime := by
  unfold isPrimeTD
  rw [Bool.and_eq_true, decide_eq_true_eq, noDivisorFrom_iff n n 2 (by omega), Nat.prime_def_le_sqrt]
  constructor
  · rintro ⟨h2, h⟩
    refine ⟨h2, fun m hm hs => h m hm ?_ (Nat.le_sqrt.mp hs)⟩
    have := Nat.le_sqrt.mp hs
    nlinarith
  · rintro ⟨h2, h⟩
    exact ⟨h2, fun m hm _ hmm => h m hm (Nat.le_sqrt.mpr hmm)⟩

def oddPartAux : ℕ → ℕ → ℕ
  | 0, m => m
  | fuel + 1, m => if m % 2 = 0 ∧ m ≠ 0 then oddPartAux fuel (m / 2) else m
/-- odd part of a natural number, computed by halving (0 for 0) -/
def oddPart (m : ℕ) : ℕ := oddPartAux m m

theorem oddPartAux_spec : ∀ fuel m, m ≠ 0 → m < 2 ^ fuel →
    oddPartAux fuel m % 2 = 1 ∧ ∃ t, m = 2 ^ t * oddPartAux fuel m := by
  intro fuel
  induction fuel with
  | zero => intro m h0 h; simp at h; omega
  | succ fuel ih =>
    intro m h0 hlt
    rw [oddPartAux]
    by_cases h : m % 2 = 0 ∧ m ≠ 0
    · rw [if_pos h]
      have hm2 : m / 2 ≠ 0 := by omega
      have hlt2 : m / 2 < 2 ^ fuel := by rw [pow_succ] at hlt; omega
      obtain ⟨ho, t, ht⟩ := ih (m / 2) hm2 hlt2
      refine ⟨ho, t + 1, ?_⟩
      generalize oddPartAux fuel (m / 2) = X at *
      have hm : m = 2 * (m / 2) := by omega
      rw [hm, ht, pow_succ]; ring
    · rw [if_neg h]
      exact ⟨by omega, 0, by simp⟩

theorem oddPart_spec (m : ℕ) (h : m ≠ 0) : oddPart m % 2 = 1 ∧ ∃ t, m = 2 ^ t * oddPart m :=
  oddPartAux_spec m m h (Nat.lt_two_pow_self)

theorem odd_part_unique {a b s t : ℕ} (ha : a % 2 = 1) (hb : b % 2 = 1) (h : 2 ^ s * a = 2 ^ t * b) : s = t ∧ a = b := by
  -- the exponent is the 2-adic valuation of the product
  have v : ∀ r x : ℕ, x % 2 = 1 → padicValNat 2 (2 ^ r * x) = r := fun r x hx => by
    rw [padicValNat.mul (by positivity) (by omega), padicValNat.prime_pow,
      padicValNat.eq_zero_of_not_dvd (by omega), add_zero]
  have hst : s = t := by rw [← v s a ha, h, v t b hb]
  subst hst
  exact ⟨rfl, Nat.eq_of_mul_eq_mul_left (by positivity) h⟩

theorem or_one_eq (x : ℕ) : x ||| 1 = x + 1 - x % 2 := by
  have h1 := Nat.or_div_two (a := x) (b := 1)
  have h2 : (x ||| 1) % 2 = 1 := by rw [Nat.or_mod_two_eq_one]; simp
  simp at h1
  omega

theorem ctzAux_spec (fuel a : Nat) (h0 : a ≠ 0) (hlt : a < 2 ^ fuel) :
    a = (a >>> ctzAux fuel a) * 2 ^ ctzAux fuel a ∧ (a >>> ctzAux fuel a) % 2 = 1 := by
  have h := isCtz_halving ctzAux (fun _ => rfl) (fun f x hx => by rw [ctzAux]; simp [hx.ne']) fuel a
    (Nat.pos_of_ne_zero h0) hlt
  rw [Nat.shiftRight_eq_div_pow]
  exact ⟨(Nat.div_mul_cancel h.1).symm, h.2⟩

/-- `primes[]` of next_prime_candidate.c -/
theorem npcPrimes_eq : npcPrimes = (List.range 998).filter (fun q => decide (3 ≤ q) && isPrimeTD q) := by
  decide +kernel

section Fac
open Nat
/-- product of the odd numbers ≤ n -/
def oddDF (n : ℕ) : ℕ := (2 * ((n + 1) / 2) - 1)‼

theorem doubleFactorial_odd (k : ℕ) : (2 * k + 1)‼ % 2 = 1 := by
  induction k with
  | zero => rfl
  | succ k ih =>
    rw [show 2 * (k + 1) + 1 = 2 * k + 1 + 2 by ring, Nat.doubleFactorial_add_two, Nat.mul_mod, ih]
    omega

theorem oddDF_odd (n : ℕ) : oddDF n % 2 = 1 := by
  unfold oddDF
  rcases Nat.eq_zero_or_pos ((n + 1) / 2) with h | h
  · rw [h]; rfl
  · obtain ⟨k, hk⟩ : ∃ k, (n + 1) / 2 = k + 1 := ⟨(n + 1) / 2 - 1, by omega⟩
    rw [hk, show 2 * (k + 1) - 1 = 2 * k + 1 by omega]; exact doubleFactorial_odd k

theorem factorial_split (n : ℕ) : n ! = 2 ^ (n / 2) * (n / 2)! * oddDF n := by
  unfold oddDF
  rcases Nat.even_or_odd' n with ⟨m, rfl | rfl⟩
  · rcases m with _ | m
    · rfl
    · rw [show 2 * (m + 1) = 2 * m + 1 + 1 by ring, Nat.factorial_eq_mul_doubleFactorial,
        show 2 * m + 1 + 1 = 2 * (m + 1) by ring, Nat.doubleFactorial_two_mul]
      have e1 : 2 * (m + 1) / 2 = m + 1 := by omega
      have e2 : 2 * ((2 * (m + 1) + 1) / 2) - 1 = 2 * m + 1 := by omega
      rw [e1, e2]
  · rw [Nat.factorial_eq_mul_doubleFactorial, Nat.doubleFactorial_two_mul]
    have e1 : (2 * m + 1) / 2 = m := by omega
    have e2 : 2 * ((2 * m + 1 + 1) / 2) - 1 = 2 * m + 1 := by omega
    rw [e1, e2]; ring

theorem oddPart_of_eq {m t x : ℕ} (hx : x % 2 = 1) (h : m = 2 ^ t * x) : oddPart m = x := by
  have hm : m ≠ 0 := by
    rw [h]; have : 0 < 2 ^ t := Nat.two_pow_pos t
    have : 0 < x := by omega
    positivity
  obtain ⟨ho, s, hs⟩ := oddPart_spec m hm
  have := odd_part_unique ho hx (by rw [← hs, h])
  exact this.2

theorem oddPart_factorial_rec (n : ℕ) : oddPart (n !) = oddDF n * oddPart ((n / 2)!) := by
  obtain ⟨ho, t, ht⟩ := oddPart_spec ((n / 2)!) (Nat.factorial_ne_zero _)
  apply oddPart_of_eq (t := n / 2 + t)
  · rw [Nat.mul_mod, oddDF_odd, ho]
  · rw [factorial_split n]
    conv_lhs => rw [ht]
    rw [pow_add]; ring

theorem popc_le : ∀ fuel n, popc fuel n ≤ n := by
  intro fuel
  induction fuel with
  | zero => intro n; simp [popc]
  | succ f ih =>
    intro n; rw [popc]
    by_cases h : n = 0
    · simp [h]
    · simp only [h, if_false]; have := ih (n / 2); omega

/-- Legendre for p = 2: n! = 2^(n - popcount n) · (odd part of n!) -/
theorem factorial_two_adic_aux : ∀ fuel n, n < 2 ^ fuel → n ! = 2 ^ (n - popc fuel n) * oddPart (n !) := by
  intro fuel
  induction fuel with
  | zero =>
    intro n hn
    have : n = 0 := by simpa using hn
    subst this; decide
  | succ f ih =>
    intro n hn
    rw [popc]
    by_cases h : n = 0
    · subst h; simp only [if_true, Nat.sub_zero, pow_zero, one_mul]; decide
    · simp only [h, if_false]
      have hlt : n / 2 < 2 ^ f := by rw [pow_succ] at hn; omega
      have h2 := ih (n / 2) hlt
      have hp := popc_le f (n / 2)
      rw [oddPart_factorial_rec n]
      conv_lhs => rw [factorial_split n, h2]
      have e : n - (n % 2 + popc f (n / 2)) = n / 2 + (n / 2 - popc f (n / 2)) := by omega
      rw [e, pow_add]; ring

theorem factorial_two_adic (n : ℕ) (hn : n < B) : n ! = 2 ^ (n - popcount n) * oddPart (n !) :=
  factorial_two_adic_aux 64 n (by rw [B_eq] at hn; norm_num; omega)

/-! ## Factor lists (FACTOR_LIST_STORE) never overflow a limb -/

/-- the number a factor-list state stands for: stored limbs times the running limb -/
def flVal (st : FL) : ℕ := prodList (st.2 :: st.1)

theorem flVal_mk (l : List ℕ) (p : ℕ) : flVal (l, p) = p * prodList l := rfl

/-- `max_prod = GMP_NUMB_MAX / T`: a running limb ≤ max_prod times a factor ≤ T does not wrap -/
theorem limb_div_mul_lt {T n : ℕ} (h : n ≤ T) : (B - 1) / T * n < B :=
  lt_of_le_of_lt (le_trans (Nat.mul_le_mul_left _ h) (Nat.div_mul_le_self _ _)) (Nat.pred_lt B_pos.ne')

/-- FACTOR_LIST_STORE (P, PR, MAX_PR, VEC, I) -/
theorem flStore_val (p M : ℕ) (st : FL) (h : st.2 ≤ M → st.2 * p < B) :
    flVal (flStore p M st) = flVal st * p := by
  obtain ⟨l, pr⟩ := st
  unfold flStore
  by_cases hgt : pr > M
  · simp only [hgt, if_true, flVal_mk, prodList]; ring
  · simp only [hgt, if_false, flVal_mk]
    rw [Nat.mod_eq_of_lt (h (by simpa using hgt))]; ring

/-- how the condition of `flStore_val` is met: M is `max_prod` for a bound T on the factors -/
theorem flStore_val_of_le {p M T : ℕ} (st : FL) (hp : p ≤ T) (hM : M * T < B) : flVal (flStore p M st) = flVal st * p :=
  flStore_val p M st (fun hle => lt_of_le_of_lt (Nat.mul_le_mul hle hp) hM)

end Fac

/-! ## Binomials (the loop of mpz_bin_ui), primorial, multifactorial, the first prime from m on -/

theorem binomAux_eq (n : ℕ) : ∀ i, binomAux n i = n.choose i := by
  intro i
  induction i with
  | zero => simp [binomAux]
  | succ i ih =>
    rw [binomAux, ih, ← Nat.choose_succ_right_eq]
    exact Nat.mul_div_cancel _ (Nat.succ_pos i)

theorem binom_eq_choose (n k : ℕ) : binom n k = n.choose k := by
  unfold binom
  by_cases h : k > n
  · simp [h, Nat.choose_eq_zero_of_lt h]
  · simp only [h, if_false, binomAux_eq]
    split_ifs with h2
    · exact Nat.choose_symm (by omega)
    · rfl


/-- the accumulate-and-divide loop of mpz_bin_ui (bin_ui.c:84-124) computes binomial(ni0 + k, k):
    invariant r·nacc = binomial(ni0 + j, j)·kacc after j steps, so every DIVIDE is exact -/
theorem binUiLoop_spec (k ni0 : ℕ) : ∀ fuel j nacc kacc r, j ≤ k → k ≤ fuel + j → 1 ≤ kacc →
    r * nacc = (ni0 + j).choose j * kacc →
    (binUiLoop k fuel (j + 1) (ni0 + j) nacc kacc r).2.2 * (binUiLoop k fuel (j + 1) (ni0 + j) nacc kacc r).1 /
      (binUiLoop k fuel (j + 1) (ni0 + j) nacc kacc r).2.1 = (ni0 + k).choose k := by
  intro fuel
  induction fuel with
  | zero =>
    intro j nacc kacc r h1 h2 hk hinv
    obtain rfl : j = k := by omega
    rw [binUiLoop, hinv]; exact Nat.mul_div_cancel _ hk
  | succ fuel ih =>
    intro j nacc kacc r h1 h2 hk hinv
    rw [binUiLoop]
    by_cases hend : j + 1 > k
    · obtain rfl : j = k := by omega
      rw [if_pos hend, hinv]; exact Nat.mul_div_cancel _ hk
    · simp only [hend, if_false]
      -- C(m, j) (m+1) = C(m+1, j+1) (j+1)
      have hch := Nat.add_one_mul_choose_eq (ni0 + j) j
      have hstep : r * (nacc * (ni0 + j + 1)) = (ni0 + (j + 1)).choose (j + 1) * (kacc * (j + 1)) := by
        calc r * (nacc * (ni0 + j + 1)) = (r * nacc) * (ni0 + j + 1) := by ring
          _ = ((ni0 + j + 1) * (ni0 + j).choose j) * kacc := by rw [hinv]; ring
          _ = (ni0 + j + 1).choose (j + 1) * (kacc * (j + 1)) := by rw [hch]; ring
      by_cases hov : kacc * (j + 1) / B ≠ 0
      · simp only [hov, ne_eq, not_false_eq_true, if_true]
        apply ih (j + 1) 1 (j + 1) _ (by omega) (by omega) (by omega)
        rw [mul_one, hstep, show (ni0 + (j + 1)).choose (j + 1) * (kacc * (j + 1)) = (ni0 + (j + 1)).choose (j + 1) * (j + 1) * kacc by ring,
          Nat.mul_div_cancel _ hk]
      · simp only [hov, if_false]
        have hlt : kacc * (j + 1) < B := by
          by_contra hge
          exact hov (Nat.pos_iff_ne_zero.mp (Nat.div_pos (by omega) B_pos))
        rw [Nat.mod_eq_of_lt hlt]
        exact ih (j + 1) _ _ r (by omega) (by omega) (Nat.mul_pos hk (by omega)) hstep

/-- bin_ui.c:83-89 and the loop: after the swap that makes k the smaller of the two, the result is binomial (ni + k, k) -/
theorem binUi_swap (ni k : ℕ) (p : ℕ × ℕ) (hp : p = if ni < k then (ni, k) else (k, ni)) :
    (binUiLoop p.1 p.1 1 p.2 1 1 1).2.2 * (binUiLoop p.1 p.1 1 p.2 1 1 1).1 / (binUiLoop p.1 p.1 1 p.2 1 1 1).2.1 =
      (ni + k).choose k := by
  refine (binUiLoop_spec p.1 p.2 p.1 0 1 1 1 (Nat.zero_le _) le_rfl le_rfl (by simp)).trans ?_
  rw [hp]
  split_ifs
  · rw [add_comm]; exact Nat.choose_symm_add
  · rfl

theorem primorial_eq (n : ℕ) : primorial n = _root_.primorial n := by
  induction n with
  | zero => rfl
  | succ n ih =>
    rw [primorial, ih]
    unfold _root_.primorial
    rw [Finset.range_add_one (n := n + 1), Finset.filter_insert]
    by_cases hp : (n + 1).Prime
    · have : isPrimeTD (n + 1) = true := (isPrimeTD_iff _).2 hp
      simp only [this, if_true, hp]
      rw [Finset.prod_insert (by simp)]
    · have : ¬ isPrimeTD (n + 1) = true := fun h => hp ((isPrimeTD_iff _).1 h)
      simp only [this, if_false, hp, Bool.false_eq_true]

theorem multiFactorial_rec (n m : ℕ) (hm : 1 ≤ m) :
    multiFactorial n m = if n ≤ m then (if n = 0 then 1 else n) else n * multiFactorial (n - m) m := by
  have aux : ∀ n fuel, n ≤ fuel → mfacAux m fuel n = mfacAux m n n := by
    intro n
    induction n using Nat.strong_induction_on with
    | _ n ih =>
      intro fuel h
      rcases Nat.eq_zero_or_pos n with rfl | hpos
      · cases fuel <;> simp [mfacAux]
      · obtain ⟨k, rfl⟩ : ∃ k, n = k + 1 := ⟨n - 1, by omega⟩
        obtain ⟨f, rfl⟩ : ∃ f, fuel = f + 1 := ⟨fuel - 1, by omega⟩
        rw [mfacAux, mfacAux]
        by_cases hc : k + 1 ≤ m
        · simp [hc]
        · simp only [hc, if_false]
          rw [ih (k + 1 - m) (by omega) f (by omega), ih (k + 1 - m) (by omega) k (by omega)]
  unfold multiFactorial
  rcases Nat.eq_zero_or_pos n with rfl | hpos
  · simp [mfacAux]
  · obtain ⟨k, rfl⟩ : ∃ k, n = k + 1 := ⟨n - 1, by omega⟩
    rw [mfacAux]
    by_cases hc : k + 1 ≤ m
    · simp [hc]
    · simp only [hc, if_false]
      rw [aux (k + 1 - m) k (by omega)]

theorem firstPrimeFrom_spec : ∀ fuel m, m ≤ firstPrimeFrom fuel m ∧ firstPrimeFrom fuel m ≤ m + fuel ∧
    (∀ j, m ≤ j → j < firstPrimeFrom fuel m → isPrime j = false) := by
  intro fuel
  induction fuel with
  | zero => intro m; simp only [firstPrimeFrom]; exact ⟨le_rfl, le_rfl, fun j h1 h2 => by omega⟩
  | succ fuel ih =>
    intro m
    rw [firstPrimeFrom]
    by_cases hp : isPrime m = true
    · simp only [hp, if_true]; exact ⟨le_rfl, by omega, fun j h1 h2 => by omega⟩
    · simp only [hp, if_false, Bool.false_eq_true]
      obtain ⟨h1, h2, h3⟩ := ih (m + 1)
      refine ⟨by omega, by omega, fun j hj1 hj2 => ?_⟩
      rcases Nat.eq_or_lt_of_le hj1 with rfl | hlt
      · simpa using hp
      · exact h3 j hlt hj2

end Mpir.Numth
