/- mpf_get_str: the rational core of "within one unit of the n-th digit" (MpfStr.withinUnit), the value of a digit
   string, adding one unit in the last place, and the cases in which nothing is truncated. -/
import MpirProofs.Lemmas.MpfStrConv
import MpirProofs.Lemmas.Radix
namespace Mpir.MpfStr
open Mpir Mpir.Mpf Mpir.Radix

/-- what both branches of `withinUnit` decide: with the unit of the last digit written as `P / N` and `J` units
    of slack, `|D · P/N − num/den| ≤ P/N/J` cleared of fractions -/
theorem within_iff {D num den P N J : ℚ} (hden : 0 < den) (hN : 0 < N) (hJ : 0 < J) :
    |D * (P / N) - num / den| ≤ P / N / J ↔ |D * (P * den) - num * N| * J ≤ P * den := by
  have hNd := mul_pos hN hden
  rw [show D * (P / N) - num / den = (D * (P * den) - num * N) / (N * den) by field_simp,
    abs_div, abs_of_pos hNd, div_le_iff₀ hNd, show P / N / J * (N * den) = P * den / J by field_simp,
    le_div_iff₀ hJ]

theorem pow_mul_zpow_sub {b : ℚ} (hb : b ≠ 0) (k : ℕ) (z : ℤ) : b ^ k * b ^ (z - (k : ℤ)) = b ^ z := by
  rw [← zpow_natCast, ← zpow_add₀ hb, add_sub_cancel]

/-- value of digits `ds` with exponent `x`: 0.d₁d₂… · b^x -/
def digVal (b : ℕ) (ds : List ℕ) (x : ℤ) : ℚ := (ofDigits b ds : ℚ) * (b : ℚ) ^ (x - (ds.length : ℤ))

theorem ofDigits_append_max (b : ℕ) (hb : 1 ≤ b) (l : List ℕ) :
    ∀ k : ℕ, ofDigits b (l ++ List.replicate k (b - 1)) + 1 = (ofDigits b l + 1) * b ^ k
  | 0 => by simp
  | k + 1 => by
    rw [List.replicate_succ', ← List.append_assoc, ofDigits_append, add_assoc, show b - 1 + 1 = b by omega,
      ← Nat.add_one_mul, ofDigits_append_max b hb l k, pow_succ, mul_assoc]

theorem ofDigits_append_zeros (b : ℕ) (l : List ℕ) (k : ℕ) :
    ofDigits b (l ++ List.replicate k 0) = ofDigits b l * b ^ k := by
  have := ofDigits_zeros b k []
  rw [List.append_nil] at this
  rw [ofDigits_app, this, List.length_replicate, ofDigits_nil, add_zero]

theorem dropWhile_head_false (p : ℕ → Bool) (l : List ℕ) (d : ℕ) (rest : List ℕ) (h : l.dropWhile p = d :: rest) :
    p d = false := by
  have := List.head_dropWhile_not p (l := l) (by rw [h]; simp)
  simpa [h] using this

/-- adding one unit in the last place, get_str.c:259-280 (carried positions cut off; `1` with the exponent raised when
    every digit was b-1) -/
theorem roundUp_spec (b : ℕ) (hb : 2 ≤ b) (ds : List ℕ) (x : ℤ) (hds : ∀ d ∈ ds, d < b) :
    digVal b (roundUp b ds x).1 (roundUp b ds x).2 = ((ofDigits b ds : ℚ) + 1) * (b : ℚ) ^ (x - (ds.length : ℤ)) ∧
    (∀ d ∈ (roundUp b ds x).1, d < b) ∧ (roundUp b ds x).1.getLast? ≠ some 0 ∧
    1 ≤ (roundUp b ds x).1.length ∧ ((roundUp b ds x).1.length ≤ ds.length ∨ ds = []) := by
  have hbq : (b : ℚ) ≠ 0 := Nat.cast_ne_zero.mpr (by omega)
  obtain ⟨k, hsplit⟩ := trailing_split (fun d => d + 1 == b) (b - 1)
    (fun d hd => by have := beq_iff_eq.mp hd; omega) ds
  have hhead := dropWhile_head_false (fun d => d + 1 == b) ds.reverse
  unfold roundUp
  generalize ds.reverse.dropWhile (fun d => d + 1 == b) = dw at hsplit hhead ⊢
  subst hsplit
  -- the old value plus one unit, in terms of the digits before the trailing run of b-1
  have hv : ((ofDigits b (dw.reverse ++ List.replicate k (b - 1)) : ℚ) + 1) *
      (b : ℚ) ^ (x - ((dw.reverse ++ List.replicate k (b - 1)).length : ℤ)) =
      ((ofDigits b dw.reverse : ℚ) + 1) * (b : ℚ) ^ (x - (dw.length : ℤ)) := by
    have hq : ((ofDigits b (dw.reverse ++ List.replicate k (b - 1)) : ℕ) : ℚ) + 1 =
        ((ofDigits b dw.reverse : ℕ) + 1) * (b : ℚ) ^ k := by
      exact_mod_cast ofDigits_append_max b (by omega) dw.reverse k
    rw [hq, List.length_append, List.length_reverse, List.length_replicate, mul_assoc, Nat.cast_add, ← sub_sub,
      pow_mul_zpow_sub hbq]
  rw [hv]
  cases dw with
  | nil =>
    refine ⟨by simp [digVal, ofDigits], by simp; omega, by simp, by simp, ?_⟩
    cases k with
    | zero => right; rfl
    | succ k => left; simp
  | cons d rest =>
    have hd1 : d + 1 ≠ b := by simpa using hhead d rest rfl
    have hdlt : d < b := hds d (by simp)
    refine ⟨?_, ?_, by simp, by simp, by left; simp⟩
    · simp only [digVal, List.reverse_cons, ofDigits_append, List.length_append, List.length_reverse,
        List.length_cons, List.length_nil]
      push_cast; ring_nf
    · intro e he
      rcases (by simpa using he : e ∈ rest ∨ e = d + 1) with h1 | h1
      · exact hds e (by simp [h1])
      · omega

theorem keepTop_of_lt {P v : ℕ} (h : v < B ^ P) : keepTop P v = (v, 0) := by
  rw [keepTop_eq, Nat.sub_eq_zero_of_le (limbLen_isSize.lt_pow_iff.mp h), pow_zero, Nat.div_one]

theorem powLoop_small (base P : ℕ) (hb : 1 ≤ base) : ∀ k : ℕ, 1 ≤ k → base ^ k < B ^ P →
    powLoop base P k = (base ^ k, 0) := by
  refine powLoop_induction base P (C := fun k st => base ^ k < B ^ P → st = (base ^ k, 0)) ?_ ?_
  · intro _; rw [pow_one]
  · intro k st hk ih hlt
    have hsq := pow_half_sq base k
    rw [ih (lt_of_le_of_lt (Nat.pow_le_pow_right hb (Nat.div_le_self k 2)) hlt)]
    have hle : base ^ (k / 2) * base ^ (k / 2) ≤ base ^ k := by
      rw [← hsq]; exact Nat.le_mul_of_pos_right _ (by split <;> omega)
    unfold powStep
    rw [keepTop_of_lt (lt_of_le_of_lt hle hlt), ← hsq]
    cases k % 2 == 1 <;> simp

theorem powHigh0_small (base P e : ℕ) (hb : 1 ≤ base) (hlt : base ^ e < B ^ P) :
    powHigh0 base e P = (base ^ e, 0) := by
  unfold powHigh0
  by_cases he : e = 0
  · simp [he]
  · rw [if_neg he]
    unfold powHigh
    rw [powLoop_small base P hb e (by omega) hlt]
    dsimp only
    rw [keepTop_of_lt hlt, Nat.zero_add]

theorem digitsOf_mul_pow {b : ℕ} (hb : 2 ≤ b) (N e : ℕ) (hN : 0 < N) :
    digitsOf b (N * b ^ e) = digitsOf b N ++ List.replicate e 0 := by
  have := digitsOf_append_fixed hb e N 0 hN (Nat.pow_pos (by omega))
  rw [Nat.add_zero, fixedDigits_zero b (by omega)] at this
  exact this

theorem stripTrailingZeros_append_zeros (l : List ℕ) (j : ℕ) :
    stripTrailingZeros (l ++ List.replicate j 0) = stripTrailingZeros l := by
  unfold stripTrailingZeros
  rw [List.reverse_append, List.reverse_replicate, List.dropWhile_append_of_pos (by simp)]

theorem get_digits_integer (base nd0 : ℕ) (u : F) (hb : 2 ≤ base) (N : ℕ) (hN : 0 < N)
    (hlen : (u.d.length : ℤ) ≤ u.exp)
    (hval : N = val u.d * B ^ (u.exp - (u.d.length : ℤ)).toNat)
    (hun : u.d.length ≤ nLimbsNeeded base (effDigits base u.prec nd0))
    (hexp : u.exp ≤ (nLimbsNeeded base (effDigits base u.prec nd0) : ℤ))
    (hpow : base ^ (Radix.mulTrunc (64 * ((nLimbsNeeded base (effDigits base u.prec nd0) : ℤ) - u.exp).toNat)
        (Radix.cpbeBits base)) < B ^ nLimbsNeeded base (effDigits base u.prec nd0))
    (hdig : (Radix.digitsOf base N).length ≤ effDigits base u.prec nd0) :
    get_digits base nd0 u =
      (stripTrailingZeros (Radix.digitsOf base N), ((Radix.digitsOf base N).length : ℤ)) := by
  have hne : u.d.length ≠ 0 := by
    intro h0
    rw [List.eq_nil_of_length_eq_zero h0] at hval
    simp at hval; omega
  unfold get_digits scaledInt
  dsimp only
  rw [if_neg hne, if_pos hexp]
  generalize effDigits base u.prec nd0 = nd at *
  generalize nLimbsNeeded base nd = nln at *
  generalize Radix.mulTrunc (64 * ((nln : ℤ) - u.exp).toNat) (Radix.cpbeBits base) = e at *
  rw [powHigh0_small base nln e (by omega) hpow, top_of_le hun]
  dsimp only
  -- the integer whose digits are developed is N · base^e
  have hNval : (if (u.d.length : ℤ) - u.exp - ((0 : ℕ) : ℤ) < 0
      then val u.d * base ^ e * B ^ (-((u.d.length : ℤ) - u.exp - ((0 : ℕ) : ℤ))).toNat
      else val u.d * base ^ e / B ^ ((u.d.length : ℤ) - u.exp - ((0 : ℕ) : ℤ)).toNat) = N * base ^ e := by
    split
    · rw [hval, show (-((u.d.length : ℤ) - u.exp - ((0 : ℕ) : ℤ))).toNat = (u.exp - (u.d.length : ℤ)).toNat by omega]
      ring
    · rw [hval, show ((u.d.length : ℤ) - u.exp - ((0 : ℕ) : ℤ)).toNat = 0 by omega,
        show (u.exp - (u.d.length : ℤ)).toNat = 0 by omega, pow_zero, Nat.div_one, Nat.mul_one]
  rw [hNval, digitsOf_mul_pow hb N e hN]
  generalize Radix.digitsOf base N = dg at *
  unfold finish
  dsimp only
  -- the rounding digit is one of the appended zeros
  have hnr : ¬ ((dg ++ List.replicate e 0).length > nd ∧ 2 * (dg ++ List.replicate e 0).getD nd 0 ≥ base) := by
    rw [List.getD_eq_getElem?_getD, List.getElem?_append_right hdig, List.getElem?_replicate]
    split <;> simp <;> omega
  rw [if_neg hnr]
  dsimp only
  rw [List.take_append, List.take_of_length_le hdig, List.take_replicate, stripTrailingZeros_append_zeros]
  simp

end Mpir.MpfStr
