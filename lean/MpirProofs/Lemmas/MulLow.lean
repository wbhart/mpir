/- mpn_mullow_n (Mpir/Model/MulLow.lean): the split point is in range and the divide-and-conquer step gives the low
   half of the product. -/
import Mpir.Model.MulLow
import MpirProofs.Lemmas.Base
import Mathlib.Tactic.Ring
import Mathlib.Tactic.Linarith
namespace Mpir.MulLow
open Mpir

/-- mullow_n.c:61-69: for n ≥ 2 the split point satisfies the C's ASSERT (n / 2 <= m), ASSERT (m <= n) and, more
    precisely, n ≤ 2m and 1 ≤ n − m < n (both recursive calls get a positive, smaller size) -/
theorem splitAt_spec (n : Nat) (hn : 2 ≤ n) : n ≤ 2 * splitAt n ∧ splitAt n < n ∧ 1 ≤ splitAt n := by
  unfold splitAt
  simp only []
  split_ifs <;> omega

/-- a remainder modulo t·s from the remainders modulo t and modulo s -/
theorem mod_mul_split (a b t s : Nat) (ht : 0 < t) : (a + t * b) % (t * s) = a % t + t * ((a / t + b) % s) := by
  rw [Nat.mod_mul, Nat.add_mul_mod_self_left, Nat.add_mul_div_left _ _ ht]

/-- the divide-and-conquer step on values: t = B^m, s = B^(n−m), s ∣ t -/
theorem mullow_step (x y t s q : Nat) (ht : 0 < t) (hts : t = s * q) :
    (x % t * (y % t)) % t +
        t * ((((x % t * (y % t)) / t % s + (x % s * (y / t)) % s) % s + (x / t * (y % s)) % s) % s)
      = x * y % (t * s) := by
  have hsd : s ∣ t := ⟨q, hts⟩
  set r0 := x % t * (y % t) with hr0
  -- the middle window modulo s
  have hP : (x % s * (y / t)) % s = (x % t * (y / t)) % s := by
    rw [Nat.mul_mod (x % s), Nat.mul_mod (x % t), Nat.mod_mod, Nat.mod_mod_of_dvd _ hsd]
  have hQ : (x / t * (y % s)) % s = (x / t * (y % t)) % s := by
    rw [Nat.mul_mod _ (y % s), Nat.mul_mod _ (y % t), Nat.mod_mod, Nat.mod_mod_of_dvd _ hsd]
  have hmid : ((r0 / t % s + (x % s * (y / t)) % s) % s + (x / t * (y % s)) % s) % s =
      (r0 / t + (x % t * (y / t) + x / t * (y % t))) % s := by
    rw [hP, hQ, ← Nat.add_mod (r0 / t) (x % t * (y / t)), ← Nat.add_mod (r0 / t + x % t * (y / t)) (x / t * (y % t)),
      Nat.add_assoc]
  rw [hmid, ← mod_mul_split _ _ t s ht]
  -- the product
  have hx : x = x % t + t * (x / t) := (Nat.mod_add_div x t).symm
  have hy : y = y % t + t * (y / t) := (Nat.mod_add_div y t).symm
  have hxy : x * y = r0 + t * (x % t * (y / t) + x / t * (y % t)) + t * s * (q * (x / t * (y / t))) := by
    conv_lhs => rw [hx, hy]
    rw [hr0]
    have : t * t = t * s * q := by rw [Nat.mul_assoc, ← hts]
    generalize x % t = xl; generalize x / t = xh; generalize y % t = yl; generalize y / t = yh
    calc (xl + t * xh) * (yl + t * yh) = xl * yl + t * (xl * yh + xh * yl) + t * t * (xh * yh) := by ring
      _ = xl * yl + t * (xl * yh + xh * yl) + t * s * q * (xh * yh) := by rw [this]
      _ = xl * yl + t * (xl * yh + xh * yl) + t * s * (q * (xh * yh)) := by ring
  rw [hxy, Nat.add_mul_mod_self_left]

end Mpir.MulLow
