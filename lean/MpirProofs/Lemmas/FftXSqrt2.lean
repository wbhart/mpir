/- The √2 transforms of Mpir/Model/FftX.lean (4n coefficients, root τ^w with τ = 2^(wn/4)·(2^(wn/2) − 1), τ² = 2):
   the full transform they truncate, its DFT reading, forward/inverse truncated specs. -/
import MpirProofs.Lemmas.FftX
namespace Mpir.FftX
open Mpir Finset

/-- √2 modulo 2^wn + 1 (4 ∣ wn) as an integer expression -/
def s2 (wn : Nat) : Int := 2 ^ (wn / 4) * (2 ^ (wn / 2) - 1)

/-- the requirement on `trunc` for the √2 transforms of 4n = 2^(d+2) coefficients -/
def TruncSOk (d trunc : Nat) : Prop := trunc % 2 = 0 ∧ 2 * 2 ^ d < trunc ∧ trunc ≤ 4 * 2 ^ d

/-- the untruncated transform of 4n coefficients of which mpir_fft_trunc_sqrt2 computes the first `trunc` outputs:
    one layer with the twiddles (√2)^(i·w), then two radix-2 transforms -/
def fft_full_sqrt2 (d w : Nat) (xs : List Int) : List Int :=
  let n := 2 ^ d
  let wn := wnOf n w
  if w % 2 = 0 then fft_radix2 (d + 1) (w / 2) xs
  else
    let f := fun i =>
      if i % 2 = 0 then bfly (el xs i) (el xs (2 * n + i)) (i / 2) w
      else bflySqrt2 wn (el xs i) (el xs (2 * n + i)) i w
    fft_radix2 d w (fsts (2 * n) f) ++ fft_radix2 d w (snds (2 * n) f)

theorem truncSOk_ok {d t : Nat} (h : TruncSOk d t) : TruncOk (d + 1) t := by
  obtain ⟨a, b, c⟩ := h
  have hp : 2 ^ (d + 1 + 1) = 4 * 2 ^ d := by rw [pow_succ, pow_succ]; ring
  exact ⟨a, by have := Nat.two_pow_pos d; omega, by omega⟩

theorem truncSOk_high {d t : Nat} (h : TruncSOk d t) : TruncOk d (t - 2 * 2 ^ d) := by
  obtain ⟨a, b, c⟩ := h
  have hp := pow_succ' 2 d
  exact ⟨by omega, by omega, by omega⟩

/-! ### the first layer: twiddle (√2)^(k·w) in position k, as the C applies it -/

def twN (wn w k : Nat) : Int :=
  if w % 2 = 1 then (if k % 2 = 0 then 2 ^ (k / 2 * w) else sq2 wn k w) else 2 ^ (k * (w / 2))

/-- what both the plain and the matrix Fourier transform feed to their first half -/
def layerSums (n : Nat) (xs : List Int) : List Int := (List.range (2 * n)).map fun k => el xs k + el xs (2 * n + k)

/-- what the plain transform feeds to its second half -/
def layerDiffs (n w : Nat) (xs : List Int) : List Int :=
  (List.range (2 * n)).map fun k =>
    (el xs k - el xs (2 * n + k)) *
      (if w % 2 = 0 then 2 ^ (k * (w / 2)) else if k % 2 = 0 then 2 ^ (k / 2 * w) else sq2 (wnOf n w) k w)

theorem el_layerSums (n : Nat) (xs : List Int) (k : Nat) (hk : k < 2 * n) :
    el (layerSums n xs) k = el xs k + el xs (2 * n + k) := el_range_map _ _ _ hk

theorem el_layerDiffs (n w : Nat) (xs : List Int) (k : Nat) (hk : k < 2 * n) :
    el (layerDiffs n w xs) k = (el xs k - el xs (2 * n + k)) * twN (wnOf n w) w k := by
  rw [layerDiffs, el_range_map _ _ _ hk, twN]
  by_cases hw : w % 2 = 0
  · rw [if_pos hw, if_neg (show ¬ w % 2 = 1 by omega)]
  · rw [if_neg hw, if_pos (show w % 2 = 1 by omega)]

/-! ### the forward transform: fft_trunc_sqrt2.c -/

theorem fft_full_sqrt2_low (d w : Nat) (xs : List Int) (k : Nat) (hk : k < 2 ^ (d + 1)) :
    el (fft_full_sqrt2 d w xs) k = el (fft_radix2 d w (layerSums (2 ^ d) xs)) k := by
  have hp := pow_succ' 2 d
  unfold fft_full_sqrt2
  simp only []
  split_ifs with hw
  · rw [el_fft_radix2_low d (w / 2) xs k hk, show 2 * (w / 2) = w by omega]
    congr 1
    apply fft_radix2_congr
    intro i hi
    rw [el_difSums _ _ _ _ hi, el_layerSums _ _ _ (by omega), hp]
  · rw [el_append_left _ _ _ (by rw [length_fft_radix2]; exact hk)]
    congr 1
    apply fft_radix2_congr
    intro i hi
    rw [el_fsts _ _ _ (by omega), el_layerSums _ _ _ (by omega)]
    split_ifs <;> rfl

theorem fft_full_sqrt2_high (d w : Nat) (xs : List Int) (k : Nat) :
    el (fft_full_sqrt2 d w xs) (2 ^ (d + 1) + k) = el (fft_radix2 d w (layerDiffs (2 ^ d) w xs)) k := by
  have hp := pow_succ' 2 d
  unfold fft_full_sqrt2
  simp only []
  split_ifs with hw
  · rw [el_fft_radix2_high d (w / 2) xs k, show 2 * (w / 2) = w by omega]
    congr 1
    apply fft_radix2_congr
    intro i hi
    rw [el_difDiffs _ _ _ _ hi, el_layerDiffs _ _ _ _ (by omega), twN, if_neg (show ¬ w % 2 = 1 by omega), hp]
  · rw [hp, ← hp, el_append_right' _ _ _ _ (length_fft_radix2 _ _ _)]
    congr 1
    apply fft_radix2_congr
    intro i hi
    rw [el_snds _ _ _ (by omega), el_layerDiffs _ _ _ _ (by omega), twN, if_pos (show w % 2 = 1 by omega), hp]
    split_ifs <;> rfl

theorem prefix0_fft_trunc_sqrt2 (d w t : Nat) (ht : TruncSOk d t) :
    Prefix0 t (fft_full_sqrt2 d w) (fft_trunc_sqrt2 d w t) := by
  by_cases hw : w % 2 = 0
  · have e1 : fft_trunc_sqrt2 d w t = fft_trunc (d + 1) (w / 2) t := by
      funext xs; simp only [fft_trunc_sqrt2, if_pos hw]
    have e2 : fft_full_sqrt2 d w = fft_radix2 (d + 1) (w / 2) := by funext xs; simp only [fft_full_sqrt2, if_pos hw]
    rw [e1, e2]
    exact prefix0_fft_trunc (d + 1) (w / 2) t (truncSOk_ok ht)
  · have Z := Prefix0.zeroHigh (n := 2 * 2 ^ d) (m := t - 2 * 2 ^ d) (F := fft_full_sqrt2 d w) (FL := fft_radix2 d w)
      (FR := fft_radix2 d w)
      (fun i a b => if i % 2 = 0 then bfly a b (i / 2) w else bflySqrt2 (wnOf (2 ^ d) w) a b i w)
      (fun i a => if i % 2 = 0 then adj a (i / 2) w else adjSqrt2 (wnOf (2 ^ d) w) a i w)
      (fun i a => by split_ifs <;> simp [bfly, bflySqrt2, adj, adjSqrt2])
      (fun xs => by simp only [fft_full_sqrt2, if_neg hw]) (fun _ => pow_succ' 2 d ▸ length_fft_radix2 d w _)
      (pow_succ' 2 d ▸ prefix_fft_trunc1 d w _ (truncSOk_high ht))
    rw [Nat.add_sub_cancel' (le_of_lt ht.2.1)] at Z
    intro xs hz
    simp only [fft_trunc_sqrt2, if_neg hw]
    exact Z xs hz

section ring
variable {S : Type} [CommRing S] (f : ℤ →+* S)

/-! ### the DFT reading: τ = `s2`, τ² = 2 -/

theorem f_two : f 2 = 2 := by simp

theorem s2_sq (wn : Nat) (h4 : 4 ∣ wn) (hz : f 2 ^ wn = -1) : f (s2 wn) ^ 2 = f 2 := by
  obtain ⟨q, rfl⟩ := h4
  have e1 : 4 * q / 4 = q := by omega
  have e2 : 4 * q / 2 = 2 * q := by omega
  have hC : (f 2 ^ (2 * q)) ^ 2 = -1 := by rw [← pow_mul, ← hz]; congr 1; ring
  have hA : (f 2 ^ q) ^ 2 = f 2 ^ (2 * q) := by rw [← pow_mul, mul_comm]
  simp only [s2, e1, e2, map_mul, map_sub, map_pow, map_one]
  generalize f 2 ^ (2 * q) = C at *
  generalize f 2 ^ q = A at *
  rw [f_two]
  linear_combination (C - 1) ^ 2 * hA + (C - 2) * hC

theorem sq2_eq (wn i w : Nat) : sq2 wn i w = 2 ^ (i / 2 + i * (w / 2)) * s2 wn := by
  unfold sq2 s2
  rw [show i / 2 + wn / 4 + i * (w / 2) = (i / 2 + i * (w / 2)) + wn / 4 by omega, pow_add]; ring

theorem odd_mul_odd (i w : Nat) (hi : i % 2 = 1) (hw : w % 2 = 1) : i * w = 2 * (i / 2 + i * (w / 2)) + 1 := by
  have h1 : i = 2 * (i / 2) + 1 := by omega
  have h2 : w = 2 * (w / 2) + 1 := by omega
  generalize i / 2 = a at *; generalize w / 2 = b at *
  rw [h1, h2]; ring

theorem f_twN (wn w k : Nat) (hτ : f (s2 wn) ^ 2 = f 2) : f (twN wn w k) = f (s2 wn) ^ (k * w) := by
  unfold twN
  split_ifs with hw hk
  · rw [map_pow, show k * w = 2 * (k / 2 * w) by rw [← Nat.mul_assoc, Nat.mul_div_cancel' (by omega)],
      pow_mul (f (s2 wn)) 2, hτ]
  · rw [sq2_eq, map_mul, map_pow, odd_mul_odd k w (by omega) hw, pow_succ, pow_mul, hτ]
  · rw [map_pow, show k * w = 2 * (k * (w / 2)) by rw [Nat.mul_left_comm, Nat.mul_div_cancel' (by omega)],
      pow_mul (f (s2 wn)) 2, hτ]

theorem f_layerDiffs (n w : Nat) (hd : 64 ∣ n * w) (xs : List Int) (k : Nat) (hk : k < 2 * n) :
    f (el (layerDiffs n w xs) k) = (f (el xs k) - f (el xs (2 * n + k))) * f (twN (n * w) w k) := by
  rw [el_layerDiffs _ _ _ _ hk, map_mul, map_sub, wnOf_eq _ _ hd]

theorem sq2_mul_isq2 (wn i w : Nat) (h4 : 4 ∣ wn) (hz : f 2 ^ wn = -1) (he : i / 2 + i * (w / 2) + 1 ≤ wn) :
    f (sq2 wn i w) * f (isq2 wn i w) = -1 := by
  obtain ⟨q, rfl⟩ := h4
  have e1 : 4 * q / 4 = q := by omega
  have e2 : 4 * q / 2 = 2 * q := by omega
  have hC : (f 2 ^ (2 * q)) ^ 2 = -1 := by rw [← pow_mul, ← hz]; congr 1; ring
  have hA : (f 2 ^ q) ^ 2 = f 2 ^ (2 * q) := by rw [← pow_mul, mul_comm]
  generalize hee : i / 2 + i * (w / 2) = e at *
  have hx : 4 * q - i / 2 - i * (w / 2) - 1 = 4 * q - e - 1 := by omega
  have hab : f 2 ^ e * f 2 ^ (4 * q - e - 1) * f 2 = -1 := by
    rw [← pow_add, ← pow_succ, ← hz]; congr 1; omega
  have h3 : i / 2 + q + i * (w / 2) = e + q := by omega
  simp only [sq2, isq2, e1, e2, hx, h3, map_mul, map_sub, map_pow, map_one]
  simp only [pow_add]
  generalize f 2 ^ (2 * q) = C at *
  generalize f 2 ^ q = A at *
  generalize f 2 ^ e = U at *
  generalize f 2 ^ (4 * q - e - 1) = V at *
  rw [f_two f] at hab
  linear_combination (U * V * (C - 1) ^ 2) * hA + (U * V * C) * hC + (-(C ^ 2)) * hab + hC

theorem difLayer_sqrt2 (d w : Nat) (hd : 64 ∣ 2 ^ d * w) : DifLayer f (2 * 2 ^ d) (fun i => f (twN (2 ^ d * w) w i))
    (fft_full_sqrt2 d w) (fft_radix2 d w) (fft_radix2 d w) :=
  fun xs => ⟨layerSums (2 ^ d) xs, layerDiffs (2 ^ d) w xs,
    fun k hk => ⟨fft_full_sqrt2_low d w xs k (by rw [pow_succ']; exact hk), by rw [el_layerSums _ _ _ hk, map_add],
      f_layerDiffs f _ _ hd _ _ hk⟩,
    fun k => by rw [← pow_succ', fft_full_sqrt2_high]⟩


theorem four_dvd_of_64 (m : Nat) (h : 64 ∣ m) : 4 ∣ m := Dvd.dvd.trans (by norm_num) h

theorem fft_full_sqrt2_dft (d w : Nat) (hd : 64 ∣ 2 ^ d * w) (hz : f 2 ^ (2 ^ d * w) = -1) (xs : List Int)
    (k : Nat) (hk : k < 2 ^ (d + 1 + 1)) :
    f (el (fft_full_sqrt2 d w xs) k) =
      ∑ j ∈ range (2 ^ (d + 1 + 1)), f (el xs j) * (f (s2 (2 ^ d * w)) ^ w) ^ (rev (d + 1 + 1) k * j) := by
  have hτ := s2_sq f (2 ^ d * w) (four_dvd_of_64 _ hd) hz
  have hp := pow_succ' 2 d
  have hσ : (f (s2 (2 ^ d * w)) ^ w) ^ 2 ^ (d + 1) = -1 := by
    rw [← hz, ← hτ, ← pow_mul, ← pow_mul]; congr 1; rw [hp]; ring
  have hσ2 : f 2 ^ w = (f (s2 (2 ^ d * w)) ^ w) ^ 2 := by rw [← hτ, ← pow_mul, ← pow_mul]; congr 1; ring
  exact (pow_succ' 2 d ▸ difLayer_sqrt2 f d w hd).dft (z := f (s2 (2 ^ d * w)) ^ w)
    (fun j => by rw [f_twN f _ w j hτ, ← pow_mul, mul_comm j w]) hσ
    (fun xs i hi => by rw [← hσ2]; exact fft_radix2_dft f d w _ hz i hi)
    (fun xs i hi => by rw [← hσ2]; exact fft_radix2_dft f d w _ hz i hi) xs k hk

/-! ### the inverse transform: ifft_trunc_sqrt2.c -/

theorem ibflySqrt2_val (wn : Nat) (a b : Int) (i w : Nat) (c X Y : S)
    (hm : f (sq2 wn i w) * f (isq2 wn i w) = -1)
    (ha : f a = c * (X + Y)) (hb : f b = c * ((X - Y) * f (sq2 wn i w))) :
    f (ibflySqrt2 wn a b i w).1 = 2 * c * X ∧ f (ibflySqrt2 wn a b i w).2 = 2 * c * Y := by
  simp only [ibflySqrt2, map_add, map_sub, map_mul, ha, hb]
  constructor
  · linear_combination (-(c * (X - Y))) * hm
  · linear_combination (c * (X - Y)) * hm

/-- one entry u < 2n of the inverse √2 layer, whichever of the three inverse butterflies the C selects
    (ifft_trunc_sqrt2.c:107-114, ifft_mfa_trunc_sqrt2.c:240-252) -/
theorem isqrt2_cases (d w u : Nat) (hd : 64 ∣ 2 ^ d * w) (hz : f 2 ^ (2 ^ d * w) = -1) (hu2 : u < 2 * 2 ^ d)
    (a b : Int) (c X Y : S) (ha : f a = c * (X + Y)) (hb : f b = c * ((X - Y) * f (twN (2 ^ d * w) w u))) :
    (w % 2 = 0 → f (ibfly (2 ^ d * w) a b u (w / 2)).1 = 2 * c * X ∧ f (ibfly (2 ^ d * w) a b u (w / 2)).2 = 2 * c * Y) ∧
    (w % 2 = 1 → u % 2 = 0 →
      f (ibfly (2 ^ d * w) a b (u / 2) w).1 = 2 * c * X ∧ f (ibfly (2 ^ d * w) a b (u / 2) w).2 = 2 * c * Y) ∧
    (w % 2 = 1 → u % 2 = 1 →
      f (ibflySqrt2 (2 ^ d * w) a b u w).1 = 2 * c * X ∧ f (ibflySqrt2 (2 ^ d * w) a b u w).2 = 2 * c * Y) := by
  have hu : f 2 ^ (2 * (2 ^ d * w)) = 1 := by rw [pow_mul' (f 2) 2 _, hz]; norm_num
  have huw : u * w ≤ 2 * (2 ^ d * w) := by
    rw [← Nat.mul_assoc]; exact Nat.mul_le_mul_right w (le_of_lt hu2)
  unfold twN at hb
  refine ⟨fun hw => ?_, fun hw h0 => ?_, fun hw h1 => ?_⟩
  · rw [if_neg (by omega)] at hb
    exact ibfly_val f _ _ _ u (w / 2) _ _ _ hu (le_trans (Nat.mul_le_mul_left u (Nat.div_le_self w 2)) huw) ha
      (by rw [hb, map_pow])
  · rw [if_pos hw, if_pos h0] at hb
    exact ibfly_val f _ _ _ (u / 2) w _ _ _ hu (le_trans (Nat.mul_le_mul_right w (Nat.div_le_self u 2)) huw) ha
      (by rw [hb, map_pow])
  · rw [if_pos hw, if_neg (by omega)] at hb
    refine ibflySqrt2_val f _ _ _ _ _ _ _ _ (sq2_mul_isq2 f _ _ _ (four_dvd_of_64 _ hd) hz ?_) ha hb
    have e := odd_mul_odd u w h1 hw
    have hlt : u * w < 2 * (2 ^ d * w) := by
      rw [← Nat.mul_assoc]; exact Nat.mul_lt_mul_of_pos_right hu2 (by omega)
    omega

variable {f} in
theorem recovers0_ifft_trunc_sqrt2 (d w t : Nat) (ht : TruncSOk d t) (hd : 64 ∣ 2 ^ d * w) (hw : 1 ≤ w)
    (hz : f 2 ^ (2 ^ d * w) = -1) (c : S) :
    Recovers0 f t (2 ^ (d + 1 + 1)) c (c * 2 ^ (d + 1 + 1)) (fft_full_sqrt2 d w) (ifft_trunc_sqrt2 d w t) := by
  have hu : f 2 ^ (2 * (2 ^ d * w)) = 1 := by rw [mul_comm, pow_mul, hz]; norm_num
  by_cases hw2 : w % 2 = 0
  · have hw3 : 2 ^ (d + 1) * (w / 2) = 2 ^ d * w := by
      rw [← pow_succ_mul, Nat.mul_div_cancel' (Nat.dvd_of_mod_eq_zero hw2)]
    have e1 : ifft_trunc_sqrt2 d w t = ifft_trunc (d + 1) (w / 2) t := by
      funext xs; simp only [ifft_trunc_sqrt2, if_pos hw2]
    have e2 : fft_full_sqrt2 d w = fft_radix2 (d + 1) (w / 2) := by funext xs; simp only [fft_full_sqrt2, if_pos hw2]
    rw [e1, e2]
    exact recovers0_ifft_trunc (d + 1) (w / 2) t (truncSOk_ok ht) (hw3 ▸ hd) (by omega) (hw3 ▸ hu) c
  · have hw1 : w % 2 = 1 := Nat.mod_two_ne_zero.mp hw2
    have hp := pow_succ' 2 d
    have hm : t - 2 * 2 ^ d ≤ 2 * 2 ^ d := Nat.sub_le_of_le_add (by rw [← two_mul, ← mul_assoc]; exact ht.2.2)
    have et : 2 * 2 ^ d + (t - 2 * 2 ^ d) = t := Nat.add_sub_cancel' (le_of_lt ht.2.1)
    have Z := Recovers0.zeroHigh (n := 2 * 2 ^ d)
      (fun i a => if i % 2 = 0 then adj a (i / 2) w else adjSqrt2 (2 ^ d * w) a i w)
      (fun i a b => if i % 2 = 0 then ibfly (2 ^ d * w) a b (i / 2) w else ibflySqrt2 (2 ^ d * w) a b i w)
      hm (difLayer_sqrt2 f d w hd)
      (fun i _ _ a => by
        simp only [twN, if_pos hw1]
        split_ifs <;> simp only [adj, adjSqrt2, map_mul, map_pow])
      (fun i hi a b X Y ha hb => by
        obtain ⟨_, c0, c1⟩ := isqrt2_cases f d w i hd hz (lt_of_lt_of_le hi hm) a b _ X Y ha hb
        by_cases hi0 : i % 2 = 0
        · rw [if_pos hi0]; exact c0 hw1 hi0
        · rw [if_neg hi0]; exact c1 hw1 (Nat.mod_two_ne_zero.mp hi0))
      (hp ▸ recovers_ifft_radix2 d w hd hu c) (hp ▸ recovers_ifft_trunc1 d w _ (truncSOk_high ht) hd hw hu c)
    rw [et] at Z
    rw [pow_succ' 2 (d + 1), pow_succ' (2 : S) (d + 1), mul_left_comm, hp]
    intro xs ys h1 h0 j hj
    simp only [ifft_trunc_sqrt2, if_neg hw2, wnOf_eq _ _ hd]
    exact Z xs ys h1 h0 j hj

end ring

end Mpir.FftX
