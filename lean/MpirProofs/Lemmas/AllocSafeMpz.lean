/- Proofs about the size-aware mpz models (Mpir/Model/AllocSafeMpz.lean): refinement of the value-level
   models of Mpir/Model/Mpz.lean, with `ok = true`. -/
import MpirProofs.Lemmas.AllocSafe
import Mpir.Model.AllocSafeMpz
import Mathlib.Tactic.Set
namespace Mpir.AllocSafe
open Mpir
open Mpir.Mpz (sgn diffSign Norm natAbs_sgn)

/-! ## common endings -/

/-- `wp[n - 1]` of what has been written -/
theorem Wrote.load_top {s1 s2 : St} {w : Nat} {R : List Nat} (W : Wrote s1 s2 w R) (hne : R ≠ []) :
    s2.load (s1.PTR w) (R.length - 1) = (Mpz.topLimb R, s2) := by
  have hpos := List.length_pos_iff.mpr hne
  rw [Mpz.topLimb_eq_getD R _ rfl hpos]
  exact W.load _ (by omega)

/-- the ending `SIZ (w) = ±(n - (wp[n - 1] == 0))` on the n ≥ 1 limbs written -/
theorem Wrote.fin_strip {s1 s2 : St} {w : Nat} {R : List Nat} (W : Wrote s1 s2 w R) (hne : R ≠ []) (neg : Bool) :
    Refines s1 ((s2.load (s1.PTR w) (R.length - 1)).2.setSize w
        (sgn neg (R.length - (if (s2.load (s1.PTR w) (R.length - 1)).1 == 0 then 1 else 0)))) w
      ⟨(s1.h w).buf.alloc, sgn neg (R.length - (if Mpz.topLimb R == 0 then 1 else 0)),
        R.take (R.length - (if Mpz.topLimb R == 0 then 1 else 0))⟩ := by
  rw [W.load_top hne]
  exact W.fin_take _ _ (Nat.sub_le _ _)

/-- store `r` at wp[0, |r|), the carry limb at wp[|r|], size = k ≤ |r| + 1 -/
theorem tail_carry (s : St) (w : Nat) (r : List Nat) (cy k : Nat) (neg c : Bool) (hs : s.ok = true) (hc : c = true)
    (hb : BWF (s.h w).buf) (hl : Limbs r) (hcy : cy < B) (hr : r.length + 1 ≤ (s.h w).buf.alloc)
    (hk : k ≤ r.length + 1) :
    let s1 := (s.chk c).wr (s.PTR w) r
    let s2 := s1.store (s.PTR w) r.length cy
    Refines s (s2.setSize w (sgn neg k)) w ⟨(s.h w).buf.alloc, sgn neg k, (r ++ [cy]).take k⟩ :=
  ((Wrote.fresh s w r c hs hc hb hl (by omega)).append [cy] (limb_singleton hcy) hr).fin_take neg k (by simpa using hk)

/-- the zero result that needs no store: `SIZ (w) = 0` -/
theorem setSize_zero_refines (s : St) (w : Nat) (hs : s.ok = true) (hb : BWF (s.h w).buf) :
    Refines s (s.setSize w 0) w { view (s.h w) with size := 0, d := [] } := by
  have R := (Wrote.refl s w 0 hs hb (Nat.zero_le _)).fin 0 (Nat.zero_le _)
  simp only [Int.natAbs_zero, List.take_zero] at R
  exact R

/-! ## mpz_add / mpz_sub -/

theorem aorsCore_refines (s : St) (w u v : Nat) (us vs : Int) (hs : s.ok = true)
    (hw : OWF (s.h w)) (hu : OWF (s.h u)) (hv : OWF (s.h v))
    (hus : us.natAbs = (s.h u).size.natAbs) (hvs : vs.natAbs = (s.h v).size.natAbs)
    (hle : vs.natAbs ≤ us.natAbs) :
    Refines s (aorsCore false 1 s w u v us vs) w
      (Mpz.aorsCore (view (s.h w)) (view (s.h u)) (view (s.h v)) us vs) := by
  have G := MPZ_REALLOC_grown s w (us.natAbs + 1) hw
  obtain ⟨ea, oka⟩ := grown_rd_all G u hu
  obtain ⟨eb, okb⟩ := grown_rd_all G v hv
  have hul := view_d_length hu
  have hvl := view_d_length hv
  have hLu := view_limbs hu
  have hLv := view_limbs hv
  have hbw := G.bwf w hw.1
  have hroom := G.room
  unfold aorsCore Mpz.aorsCore
  simp only [Bool.false_eq_true, if_false]
  rw [← G.alloc]
  refine Refines.of_grown G ?_
  generalize MPZ_REALLOC s w (us.natAbs + 1) = s1 at *
  have hok1 : s1.ok = true := G.ok.trans hs
  rw [hus, hvs] at *
  generalize (view (s.h u)).d = U at *
  generalize (view (s.h v)).d = V at *
  split
  · split
    · -- mpn_sub
      obtain ⟨_, _, sl, sn⟩ := Mpir.sub_val' U V hLu hLv (by omega)
      simp only [mpn_sub, ea, eb, oka, okb, Bool.and_self]
      have F := (Wrote.fresh s1 w (Mpir.sub U V).1 true hok1 rfl hbw sl (by omega)).fin_norm (decide (us < 0))
      rwa [sn, hul] at F
    · rename_i hne
      have heq : (s.h u).size.natAbs = (s.h v).size.natAbs := by simpa using hne
      rw [heq] at ea oka ⊢
      simp only [mpn_cmp, ea, eb, oka, okb, Bool.and_self]
      have hok2 : (s1.chk true).ok = true := by simpa using hok1
      split
      · obtain ⟨_, _, sl, sn⟩ := sub_n_val' V U hLv hLu (by omega)
        simp only [mpn_sub_n, chk_rd, chk_rdOk, ea, eb, oka, okb, Bool.and_self]
        have F := (Wrote.fresh (s1.chk true) w (Mpir.sub_n V U).1 true hok2 rfl hbw sl (by simp; omega)).fin_norm
          (decide (us ≥ 0))
        rw [sn, hvl] at F
        exact F.of_chk
      · obtain ⟨_, _, sl, sn⟩ := sub_n_val' U V hLu hLv (by omega)
        simp only [mpn_sub_n, chk_rd, chk_rdOk, ea, eb, oka, okb, Bool.and_self]
        have F := (Wrote.fresh (s1.chk true) w (Mpir.sub_n U V).1 true hok2 rfl hbw sl (by simp; omega)).fin_norm
          (decide (us < 0))
        rw [sn, hul, heq] at F
        exact F.of_chk
  · obtain ⟨_, ac, al, an⟩ := Mpir.add_val' U V hLu hLv (by omega)
    simp only [mpn_add, ea, eb, oka, okb, Bool.and_self]
    have T := tail_carry s1 w (Mpir.add U V).1 (Mpir.add U V).2 ((s.h u).size.natAbs + (Mpir.add U V).2) (decide (us < 0)) true
      hok1 rfl hbw al (by have := B_eq; omega) (by omega) (by omega)
    rwa [an, hul] at T

theorem aors_refines (isSub : Bool) (s : St) (w u v : Nat) (hs : s.ok = true)
    (hw : OWF (s.h w)) (hu : OWF (s.h u)) (hv : OWF (s.h v)) :
    Refines s (aors false 1 isSub s w u v) w (Mpz.aors isSub (view (s.h w)) (view (s.h u)) (view (s.h v))) := by
  have key : ∀ vs : Int, vs.natAbs = (s.h v).size.natAbs →
      Refines s
        (if (s.h u).size.natAbs < vs.natAbs then aorsCore false 1 s w v u vs (s.h u).size
          else aorsCore false 1 s w u v (s.h u).size vs) w
        (if (s.h u).size.natAbs < vs.natAbs then
            Mpz.aorsCore (view (s.h w)) (view (s.h v)) (view (s.h u)) vs (s.h u).size
          else Mpz.aorsCore (view (s.h w)) (view (s.h u)) (view (s.h v)) (s.h u).size vs) := by
    intro vs hn
    split
    · exact aorsCore_refines s w v u _ _ hs hw hv hu hn rfl (by omega)
    · exact aorsCore_refines s w u v _ _ hs hw hu hv rfl hn (by omega)
  unfold aors Mpz.aors
  simp only [St.SIZ, view_size]
  exact key _ (by split <;> simp)

theorem add_safe (s : St) (w u v : Nat) (hs : s.ok = true) (hw : OWF (s.h w)) (hu : OWF (s.h u)) (hv : OWF (s.h v)) :
    Safe s (mpz_add s w u v) w (Mpz.add (view (s.h w)) (view (s.h u)) (view (s.h v))) ∧
    Mpz.toInt (view ((mpz_add s w u v).h w)) = Mpz.toInt (view (s.h u)) + Mpz.toInt (view (s.h v)) := by
  have h := Mpz.aors_spec false (view (s.h w)) (view (s.h u)) (view (s.h v)) hu.2 hv.2
  exact (aors_refines false s w u v hs hw hu hv).safe_val h.1 (by simpa [Mpz.add] using h.2)

theorem sub_safe (s : St) (w u v : Nat) (hs : s.ok = true) (hw : OWF (s.h w)) (hu : OWF (s.h u)) (hv : OWF (s.h v)) :
    Safe s (mpz_sub s w u v) w (Mpz.sub (view (s.h w)) (view (s.h u)) (view (s.h v))) ∧
    Mpz.toInt (view ((mpz_sub s w u v).h w)) = Mpz.toInt (view (s.h u)) - Mpz.toInt (view (s.h v)) := by
  have h := Mpz.aors_spec true (view (s.h w)) (view (s.h u)) (view (s.h v)) hu.2 hv.2
  exact (aors_refines true s w u v hs hw hu hv).safe_val h.1 (by simpa [Mpz.sub, Int.sub_eq_add_neg] using h.2)

/-! ## mpz_set, mpz_neg, mpz_abs -/

/-- `MPZ_REALLOC (w, |usize|); MPN_COPY (wp, up, |usize|); SIZ (w) = z` with |z| = |usize| -/
theorem copy_refines (s : St) (w u : Nat) (z : Int) (hs : s.ok = true) (hw : OWF (s.h w)) (hu : OWF (s.h u))
    (hz : z.natAbs = (s.h u).size.natAbs) :
    let s1 := MPZ_REALLOC s w (s.h u).size.natAbs
    Refines s ((MPN_COPY s1 (s1.PTR w) (s1.PTR u) (s.h u).size.natAbs).setSize w z) w
      ⟨(Mpz.grow (view (s.h w)) (s.h u).size.natAbs).alloc, z, (view (s.h u)).d⟩ := by
  intro s1
  have G := MPZ_REALLOC_grown s w (s.h u).size.natAbs hw
  obtain ⟨ea, oka⟩ := grown_rd_all G u hu
  have hul := view_d_length hu
  have F := (G.fresh hs hw _ oka (view_limbs hu) (by rw [hul])).fin z (by omega)
  rw [List.take_of_length_le (by omega)] at F
  simp only [MPN_COPY, show s1.rd (s1.PTR u) (s.h u).size.natAbs = (view (s.h u)).d from ea]
  exact G.refines F

theorem set_refines (s : St) (w u : Nat) (hs : s.ok = true) (hw : OWF (s.h w)) (hu : OWF (s.h u)) :
    Refines s (mpz_set s w u) w (Mpz.set (view (s.h w)) (view (s.h u))) :=
  copy_refines s w u (s.h u).size hs hw hu rfl

theorem set_safe (s : St) (w u : Nat) (hs : s.ok = true) (hw : OWF (s.h w)) (hu : OWF (s.h u)) :
    Safe s (mpz_set s w u) w (Mpz.set (view (s.h w)) (view (s.h u))) ∧
    Mpz.toInt (view ((mpz_set s w u).h w)) = Mpz.toInt (view (s.h u)) := by
  have h := Mpz.set_spec (view (s.h w)) (view (s.h u)) hw.alloc_pos hu.2
  exact (set_refines s w u hs hw hu).safe_val h.1 h.2

/-- mpz_neg / mpz_abs with `u == w`: only the size field is stored -/
theorem resize_refines (s : St) (w : Nat) (z : Int) (hs : s.ok = true) (hw : OWF (s.h w))
    (hz : z.natAbs = (s.h w).size.natAbs) :
    Refines s (s.setSize w z) w { view (s.h w) with size := z } := by
  refine ⟨by simpa using hs, ?_, by simpa using hw.1, fun x hx => setSize_other _ _ _ hx⟩
  simp [view, hz]

theorem neg_refines (s : St) (w u : Nat) (hs : s.ok = true) (hw : OWF (s.h w)) (hu : OWF (s.h u)) :
    Refines s (mpz_neg s w u) w (Mpz.neg (decide (u = w)) (view (s.h w)) (view (s.h u))) := by
  unfold mpz_neg Mpz.neg
  by_cases h : u = w
  · subst h
    simp only [bne_self_eq_false, Bool.false_eq_true, if_false, decide_true, Bool.not_true, St.SIZ]
    exact resize_refines s u _ hs hw (by simp)
  · have h' : (u != w) = true := by simpa using h
    simp only [h', if_true, h, decide_false, Bool.not_false, St.SIZ]
    exact copy_refines s w u (-(s.h u).size) hs hw hu (by simp)

theorem abs_refines (s : St) (w u : Nat) (hs : s.ok = true) (hw : OWF (s.h w)) (hu : OWF (s.h u)) :
    Refines s (mpz_abs s w u) w (Mpz.abs (decide (u = w)) (view (s.h w)) (view (s.h u))) := by
  unfold mpz_abs Mpz.abs
  by_cases h : u = w
  · subst h
    simp only [bne_self_eq_false, Bool.false_eq_true, if_false, decide_true, Bool.not_true, St.SIZ]
    have R := resize_refines s u ((s.h u).size.natAbs : Int) hs hw (Int.natAbs_natCast _)
    simpa [view, Int.natAbs_abs] using R
  · have h' : (u != w) = true := by simpa using h
    simp only [h', if_true, h, decide_false, Bool.not_false, St.SIZ]
    exact copy_refines s w u ((s.h u).size.natAbs : Int) hs hw hu (Int.natAbs_natCast _)

/-! ## mpz_set_ui, mpz_set_si -/

/-- `dest->_mp_d[0] = v; SIZ = ±(v != 0)`: safe because alloc ≥ 1 -/
theorem set1_refines (s : St) (w : Nat) (v : Nat) (neg : Bool) (hs : s.ok = true) (hb : BWF (s.h w).buf)
    (h1 : 1 ≤ (s.h w).buf.alloc) (hv : v < B) :
    Refines s ((s.store (s.PTR w) 0 v).setSize w (sgn neg (if v != 0 then 1 else 0))) w
      ⟨(s.h w).buf.alloc, sgn neg (if v != 0 then 1 else 0), [v].take (if v != 0 then 1 else 0)⟩ := by
  have T := (Wrote.fresh s w [v] true hs rfl hb (limb_singleton hv) h1).fin_take neg (if v != 0 then 1 else 0)
    (by split <;> simp)
  simpa [St.store, chk_true] using T

/-- with the value: mpz_set_ui is `neg = false`, mpz_set_si is `v = |val|`, `neg = (val < 0)` -/
theorem set1_safe (s : St) (w v : Nat) (neg : Bool) (hs : s.ok = true) (hw : OWF (s.h w)) (hv : v < B) :
    Safe s ((s.store (s.PTR w) 0 v).setSize w (sgn neg (if v != 0 then 1 else 0))) w
      ⟨(s.h w).buf.alloc, sgn neg (if v != 0 then 1 else 0), [v].take (if v != 0 then 1 else 0)⟩ ∧
    Mpz.toInt (view (((s.store (s.PTR w) 0 v).setSize w (sgn neg (if v != 0 then 1 else 0))).h w)) =
      if neg then -(v : Int) else v := by
  have h1 : 1 ≤ (s.h w).buf.alloc := hw.alloc_pos
  refine (set1_refines s w v neg hs hw.1 h1 hv).safe_val ?_ ?_
  · by_cases h : v = 0
    · subst h; exact ⟨h1, by simp [sgn], by simp [sgn], by simp [Limbs], by simp⟩
    · have : (v != 0) = true := by simpa using h
      simp only [this, if_true]
      exact ⟨h1, by rw [Mpz.natAbs_sgn]; exact h1, by simp [Mpz.natAbs_sgn], by simp [Limbs, hv], by simpa using h⟩
  · by_cases h : v = 0
    · subst h; cases neg <;> simp [Mpz.toInt, sgn]
    · have : (v != 0) = true := by simpa using h
      cases neg <;> simp [this, Mpz.toInt, sgn]

/-! ## mpz_add_ui, mpz_sub_ui -/

/-- aors_ui.h:106-111 -/
theorem aors_ui_sub_refines (isSub : Bool) (s : St) (w u : Nat) (d : List Nat) (vval : Nat) (hs : s.ok = true)
    (hb : BWF (s.h w).buf) (hd : Limbs d) (hne : d ≠ []) (hv : vval < B) (hr : d.length ≤ (s.h w).buf.alloc)
    (ea : s.rd (s.PTR u) d.length = d) (oka : s.rdOk (s.PTR u) d.length = true) :
    Refines s (aors_ui_sub isSub s w (s.PTR w) (s.PTR u) d.length vval) w
      ⟨(s.h w).buf.alloc, sgn (!isSub) (d.length - (if Mpz.topLimb (Mpir.sub_1 d vval).1 == 0 then 1 else 0)),
        (Mpir.sub_1 d vval).1.take (d.length - (if Mpz.topLimb (Mpir.sub_1 d vval).1 == 0 then 1 else 0))⟩ := by
  obtain ⟨_, _, sl, sn⟩ := sub_1_val' d vval hd (List.length_pos_iff.mpr hne) hv
  have hne' : (Mpir.sub_1 d vval).1 ≠ [] := by
    intro h; rw [h] at sn; exact hne (List.length_eq_zero_iff.mp sn.symm)
  have F := (Wrote.fresh s w (Mpir.sub_1 d vval).1 true hs rfl hb sl (by omega)).fin_strip hne' (!isSub)
  rw [sn] at F
  unfold aors_ui_sub
  simp only [mpn_sub_1, ea, oka]
  exact F

/-- aors_ui.h:79-114 on any state in which w has room for |usize| + 1 limbs and `PTR (u)[0, |usize|)` holds `d` -/
theorem aors_ui_body_refines (isSub : Bool) (s1 : St) (w u : Nat) (usize : Int) (d : List Nat) (vval : Nat)
    (hok1 : s1.ok = true) (hbw : BWF (s1.h w).buf) (hLu : Limbs d) (hul : d.length = usize.natAbs) (hv : vval < B)
    (hroom : usize.natAbs + 1 ≤ (s1.h w).buf.alloc)
    (ea : s1.rd (s1.PTR u) usize.natAbs = d) (oka : s1.rdOk (s1.PTR u) usize.natAbs = true) :
    Refines s1 (aors_ui_body isSub s1 w u usize vval) w
      (if usize.natAbs == 0 then ⟨(s1.h w).buf.alloc, sgn isSub (if vval != 0 then 1 else 0), [vval].take (if vval != 0 then 1 else 0)⟩
       else if (if isSub then decide (usize < 0) else decide (usize ≥ 0)) then
         ⟨(s1.h w).buf.alloc, sgn isSub (usize.natAbs + (Mpir.add_1 d vval).2),
           ((Mpir.add_1 d vval).1 ++ [(Mpir.add_1 d vval).2]).take (usize.natAbs + (Mpir.add_1 d vval).2)⟩
       else if usize.natAbs == 1 && d.headD 0 < vval then ⟨(s1.h w).buf.alloc, sgn isSub 1, [vval - d.headD 0]⟩
       else ⟨(s1.h w).buf.alloc, sgn (!isSub) (usize.natAbs - (if Mpz.topLimb (Mpir.sub_1 d vval).1 == 0 then 1 else 0)),
          (Mpir.sub_1 d vval).1.take (usize.natAbs - (if Mpz.topLimb (Mpir.sub_1 d vval).1 == 0 then 1 else 0))⟩) := by
  unfold aors_ui_body
  by_cases h0 : usize.natAbs = 0
  · simp only [h0, beq_self_eq_true, if_true]
    exact set1_refines s1 w vval isSub hok1 hbw (by omega) hv
  · have h0' : (usize.natAbs == 0) = false := by simpa using h0
    have hne : d ≠ [] := by intro h; rw [h] at hul; simp at hul; omega
    simp only [h0', Bool.false_eq_true, if_false]
    rw [← hul] at ea oka hroom ⊢
    have SUB := aors_ui_sub_refines isSub s1 w u d vval hok1 hbw hLu hne hv (by omega) ea oka
    by_cases hc : (if isSub = true then decide (usize < 0) else decide (usize ≥ 0)) = true
    · -- add_1
      rw [if_pos hc, if_pos hc]
      obtain ⟨_, ac, al, an⟩ := add_1_val' _ vval hLu (List.length_pos_iff.mpr hne) hv
      simp only [mpn_add_1, ea, oka]
      have T := tail_carry s1 w (Mpir.add_1 d vval).1 (Mpir.add_1 d vval).2
        (d.length + (Mpir.add_1 d vval).2) isSub true hok1 rfl hbw al
        (by have := B_eq; omega) (by omega) (by omega)
      rwa [an] at T
    · rw [if_neg hc, if_neg hc]
      by_cases h1 : d.length = 1
      · simp only [h1, beq_self_eq_true, if_true, Bool.true_and]
        rw [h1] at ea oka SUB
        obtain ⟨a, ha⟩ := List.length_eq_one_iff.mp h1
        have hld : s1.load (s1.PTR u) 0 = (d.headD 0, s1) := by
          simp [St.load, ea, oka, ha, chk_true]
        simp only [hld]
        by_cases hlt : d.headD 0 < vval
        · simp only [hlt, if_true, decide_true]
          have T := (Wrote.fresh s1 w [vval - d.headD 0] true hok1 rfl hbw (limb_singleton (by omega))
            (by simp; omega)).fin_take isSub 1 (by simp)
          simpa [St.store, chk_true] using T
        · simp only [hlt, if_false, decide_false, Bool.false_eq_true]
          exact SUB
      · have h1' : (d.length == 1) = false := by simpa using h1
        simp only [h1', Bool.false_eq_true, if_false, Bool.false_and]
        exact SUB

theorem aors_ui_refines (isSub : Bool) (s : St) (w u : Nat) (vval : Nat) (hs : s.ok = true)
    (hw : OWF (s.h w)) (hu : OWF (s.h u)) (hv : vval < B) :
    Refines s (aors_ui 1 isSub s w u vval) w (Mpz.aors_ui isSub (view (s.h w)) (view (s.h u)) vval) := by
  have G := MPZ_REALLOC_grown s w ((s.h u).size.natAbs + 1) hw
  obtain ⟨ea, oka⟩ := grown_rd_all G u hu
  unfold aors_ui Mpz.aors_ui
  simp only [St.SIZ, view_size]
  rw [← G.alloc]
  exact Refines.of_grown G (aors_ui_body_refines isSub _ w u (s.h u).size (view (s.h u)).d vval (G.ok.trans hs)
    (G.bwf w hw.1) (view_limbs hu) (view_d_length hu) hv G.room ea oka)

/-! ## mpz_mul_2exp -/

/-- mul_2exp.c:46-68 on any state in which w has room for |usize| + limb_cnt + 1 limbs -/
theorem mul_2exp_body_refines (s1 : St) (w u : Nat) (usize : Int) (d : List Nat) (k c : Nat)
    (hok1 : s1.ok = true) (hbw : BWF (s1.h w).buf) (hLu : Limbs d) (hul : d.length = usize.natAbs) (hc : c < 64)
    (hroom : usize.natAbs + k + 1 ≤ (s1.h w).buf.alloc)
    (ea : s1.rd (s1.PTR u) usize.natAbs = d) (oka : s1.rdOk (s1.PTR u) usize.natAbs = true) :
    Refines s1 (mul_2exp_body s1 w u usize k c) w
      ⟨(s1.h w).buf.alloc, sgn (usize < 0) (List.replicate k 0 ++ Mpz.mul_2exp_hi d c).length,
        List.replicate k 0 ++ Mpz.mul_2exp_hi d c⟩ := by
  -- the k limbs below the shifted ones hold whatever they held (`R0`) until MPN_ZERO comes, last ("not to lose for U == W")
  have W0 := (Wrote.refl s1 w k hok1 hbw (by omega)).chk true rfl
  have hR0 : ((s1.h w).buf.limbs.take k).length = k := by rw [List.length_take, hbw.1]; omega
  generalize (s1.h w).buf.limbs.take k = R0 at W0 hR0
  have fin : ∀ (s2 : St) (h : List Nat), Wrote s1 s2 w (R0 ++ h) →
      Refines s1 ((MPN_ZERO s2 (s1.PTR w) k).setSize w (sgn (usize < 0) (h.length + k))) w
        ⟨(s1.h w).buf.alloc, sgn (usize < 0) (List.replicate k 0 ++ h).length, List.replicate k 0 ++ h⟩ := by
    intro s2 h W
    have hfit := W.fit
    have W3 := W.wr 0 (List.replicate k 0) (Limbs_replicate_zero k) (Nat.zero_le _) (by rw [← W.alloc]; simp at hfit ⊢; omega)
    have F := W3.fin_all (decide (usize < 0))
    simpa [MPN_ZERO, List.drop_left' hR0, Nat.add_comm] using F
  unfold mul_2exp_body Mpz.mul_2exp_hi
  by_cases h0 : c = 0
  · subst h0
    simp only [bne_self_eq_false, Bool.false_eq_true, if_false, MPN_COPY, ea, oka]
    have W1 := W0.append d hLu (by omega)
    rw [hR0] at W1
    rw [← hul]
    exact fin _ d W1
  · have h0' : (c != 0) = true := by simpa using h0
    obtain ⟨_, hcy, ll, ln⟩ := lshift_val' d c hLu (by omega)
    simp only [h0', if_true, mpn_lshift, ea, oka]
    have W1 := W0.append (Mpir.lshift d c).1 ll (by omega)
    rw [hR0] at W1
    by_cases hcy0 : (Mpir.lshift d c).2 = 0
    · simp only [hcy0, bne_self_eq_false, Bool.false_eq_true, if_false]
      have F := fin _ _ W1
      rwa [ln, hul] at F
    · have hcy' : ((Mpir.lshift d c).2 != 0) = true := by simpa using hcy0
      simp only [hcy', if_true]
      have hcyB : (Mpir.lshift d c).2 < B := by
        have h2 : 2 ^ c ≤ 2 ^ 64 := Nat.pow_le_pow_right (by omega) (by omega)
        unfold B; omega
      have W2 := W1.append [(Mpir.lshift d c).2] (limb_singleton hcyB) (by simp; omega)
      rw [List.append_assoc] at W2
      have F := fin _ _ W2
      simpa [St.store, hR0, ln, hul, Nat.add_comm, Nat.add_left_comm, Nat.add_assoc] using F

theorem mul_2exp_refines (s : St) (w u : Nat) (cnt : Nat) (hs : s.ok = true) (hw : OWF (s.h w)) (hu : OWF (s.h u)) :
    Refines s (mul_2exp 1 s w u cnt) w (Mpz.mul_2exp (view (s.h w)) (view (s.h u)) cnt) := by
  unfold mul_2exp Mpz.mul_2exp
  simp only [St.SIZ, view_size]
  by_cases h0 : (s.h u).size = 0
  · simp only [h0, beq_self_eq_true, if_true]
    exact setSize_zero_refines s w hs hw.1
  · have h0' : ((s.h u).size == 0) = false := by simpa using h0
    simp only [h0', Bool.false_eq_true, if_false]
    have G := MPZ_REALLOC_grown s w ((s.h u).size.natAbs + cnt / 64 + 1) hw
    obtain ⟨ea, oka⟩ := grown_rd_all G u hu
    exact G.refines (mul_2exp_body_refines _ w u (s.h u).size (view (s.h u)).d (cnt / 64) (cnt % 64) (G.ok.trans hs)
      (G.bwf w hw.1) (view_limbs hu) (view_d_length hu) (Nat.mod_lt _ (by omega)) G.room ea oka)

/-! ## mpz_com -/

theorem com_refines (s : St) (w u : Nat) (hs : s.ok = true) (hw : OWF (s.h w)) (hu : OWF (s.h u)) :
    Refines s (com 1 s w u) w (Spec.com (view (s.h w)) (view (s.h u))) := by
  unfold com Spec.com
  simp only [St.SIZ, view_size]
  have hul := view_d_length hu
  have hLu := view_limbs hu
  have h1B : 1 < B := by unfold B; omega
  by_cases hpos : (s.h u).size ≥ 0
  · simp only [hpos, ↓reduceIte]
    have G := MPZ_REALLOC_grown s w ((s.h u).size.natAbs + 1) hw
    obtain ⟨ea, oka⟩ := grown_rd_all G u hu
    have hok1 := G.ok.trans hs
    have hbw := G.bwf w hw.1
    have hroom := G.room
    rw [← G.alloc]
    refine Refines.of_grown G ?_
    generalize MPZ_REALLOC s w ((s.h u).size.natAbs + 1) = s1 at *
    unfold com_pos_body
    by_cases h0 : (s.h u).size.natAbs = 0
    · simp only [h0, beq_self_eq_true, if_true]
      have := set1_refines s1 w 1 true hok1 hbw (by omega) h1B
      simpa using this
    · have h0' : ((s.h u).size.natAbs == 0) = false := by simpa using h0
      have hne : (view (s.h u)).d ≠ [] := by intro h; rw [h] at hul; simp at hul; omega
      obtain ⟨_, ac, al, an⟩ := add_1_val' _ 1 hLu (List.length_pos_iff.mpr hne) h1B
      simp only [h0', Bool.false_eq_true, if_false, mpn_add_1, ea, oka]
      have W := Wrote.fresh s1 w (Mpir.add_1 (view (s.h u)).d 1).1 true hok1 rfl hbw al (by omega)
      by_cases hcy : (Mpir.add_1 (view (s.h u)).d 1).2 = 0
      · simp only [hcy, bne_self_eq_false, Bool.false_eq_true, if_false]
        have F := W.fin_all true
        rwa [an, hul] at F
      · have hcy' : ((Mpir.add_1 (view (s.h u)).d 1).2 != 0) = true := by simpa using hcy
        simp only [hcy', if_true]
        have F := (W.append [(Mpir.add_1 (view (s.h u)).d 1).2] (limb_singleton (by omega)) (by simp; omega)).fin_all true
        simpa [St.store, an, hul] using F
  · simp only [hpos, ↓reduceIte]
    have G := MPZ_REALLOC_grown s w (s.h u).size.natAbs hw
    obtain ⟨ea, oka⟩ := grown_rd_all G u hu
    refine G.refines ?_
    have hne : (view (s.h u)).d ≠ [] := by intro h; rw [h] at hul; simp at hul; omega
    have SUB := aors_ui_sub_refines true _ w u (view (s.h u)).d 1 (G.ok.trans hs) (G.bwf w hw.1) hLu hne h1B
      (by rw [hul]; exact G.room) (by rw [hul]; exact ea) (by rw [hul]; exact oka)
    rw [hul] at SUB
    simpa [aors_ui_sub, com_neg_body] using SUB

/-! ## mpz_tdiv_q_2exp -/

/-- tdiv_q_2exp.c:49-57, cfdiv_q_2exp.c:65-72 after `MPZ_REALLOC (w, n)`: the limbs of `u` from `k` up, copied resp. shifted
    down by `c` bits, come to the bottom of `w`'s block -/
theorem Grown.shift_down {s s1 : St} {w n u k : Nat} (G : Grown s s1 w n) (hs : s.ok = true) (hw : OWF (s.h w))
    (hu : OWF (s.h u)) (hk : k < (s.h u).size.natAbs) (hn : (s.h u).size.natAbs - k ≤ n) :
    Wrote s1 (MPN_COPY s1 (s1.PTR w) ((s1.PTR u).add k) ((s.h u).size.natAbs - k)) w ((view (s.h u)).d.drop k) ∧
    ∀ c, 1 ≤ c → c ≤ 63 → ∃ s2,
      mpn_rshift s1 (s1.PTR w) ((s1.PTR u).add k) ((s.h u).size.natAbs - k) c =
        (s2, (Mpir.rshift ((view (s.h u)).d.drop k) c).2) ∧
      Wrote s1 s2 w (Mpir.rshift ((view (s.h u)).d.drop k) c).1 ∧
      (Mpir.rshift ((view (s.h u)).d.drop k) c).1.length = (s.h u).size.natAbs - k := by
  obtain ⟨ea, oka⟩ := grown_rd_off G u k ((s.h u).size.natAbs - k) hu (by omega)
  have hdl : ((view (s.h u)).d.drop k).length = (s.h u).size.natAbs - k := by rw [List.length_drop, view_d_length hu]
  rw [List.take_of_length_le (by omega)] at ea
  have hLd := Limbs_drop (view_limbs hu) k
  refine ⟨?_, fun c hc1 hc => ?_⟩
  · simp only [MPN_COPY, ea, oka]
    exact G.fresh hs hw true rfl hLd (by omega)
  · obtain ⟨_, _, rl, rn, _, _⟩ := Mpir.rshift_val' _ c hLd (by omega) hc1 hc
    exact ⟨_, by simp only [mpn_rshift, ea, oka], G.fresh hs hw true rfl rl (by omega), by rw [rn, hdl]⟩

theorem tdiv_q_2exp_refines (s : St) (w u : Nat) (cnt : Nat) (hs : s.ok = true) (hw : OWF (s.h w)) (hu : OWF (s.h u)) :
    Refines s (mpz_tdiv_q_2exp s w u cnt) w (Spec.tdiv_q_2exp (view (s.h w)) (view (s.h u)) cnt) := by
  unfold mpz_tdiv_q_2exp Spec.tdiv_q_2exp
  simp only [St.SIZ, view_size]
  by_cases hle : (s.h u).size.natAbs ≤ cnt / 64
  · simp only [hle, ↓reduceIte]
    exact setSize_zero_refines s w hs hw.1
  · simp only [hle, ↓reduceIte]
    have G := MPZ_REALLOC_grown s w ((s.h u).size.natAbs - cnt / 64) hw
    obtain ⟨W0, Wc⟩ := G.shift_down hs hw hu (Nat.lt_of_not_le hle) (Nat.le_refl _)
    rw [← G.alloc]
    refine Refines.of_grown G ?_
    unfold tdiv_q_2exp_body
    by_cases h0 : cnt % 64 = 0
    · simp only [h0, bne_self_eq_false, Bool.false_eq_true, if_false]
      have F := W0.fin_all (decide ((s.h u).size < 0))
      rwa [List.length_drop, view_d_length hu] at F
    · have h0' : (cnt % 64 != 0) = true := by simpa using h0
      obtain ⟨s2, e, W, rn⟩ := Wc (cnt % 64) (by omega) (by omega)
      simp only [h0', if_true, e]
      have F := W.fin_strip (List.ne_nil_of_length_pos (by omega)) (decide ((s.h u).size < 0))
      rwa [rn] at F

end Mpir.AllocSafe
