/- FFT ring layer: mpn_mul_2expmod_2expp1, mpn_div_2expmod_2expp1, the limb rotation `mulBx`. -/
import MpirProofs.Lemmas.FftRing
namespace Mpir.Fft
open Mpir

/-- an arithmetic shift by at least one bit halves the range -/
theorem ediv_two_pow_bounds (s m : Int) (k : Nat) (hk : 1 ≤ k) (hm : 0 ≤ m) (h1 : -(2 * m) ≤ s) (h2 : s < 2 * m) :
    -m ≤ s / 2 ^ k ∧ s / 2 ^ k < m := by
  have hpos : (0 : Int) < 2 ^ k := by positivity
  have h2k : m * 2 ≤ m * 2 ^ k :=
    mul_le_mul_of_nonneg_left (by simpa using pow_le_pow_right₀ (by norm_num : (1 : Int) ≤ 2) hk) hm
  exact ⟨Int.le_ediv_of_mul_le hpos (by linarith), Int.ediv_lt_of_lt_mul hpos (by linarith)⟩

theorem sint_sar (h k : Nat) (hh : h < B) (hk : 1 ≤ k) :
    sint (sar h k) = sint h / 2 ^ k ∧ -4611686018427387904 ≤ sint h / 2 ^ k ∧ sint h / 2 ^ k < 4611686018427387904 := by
  have hs := sint_range h hh
  obtain ⟨b1, b2⟩ := ediv_two_pow_bounds (sint h) 4611686018427387904 k hk (by norm_num) (by omega) (by omega)
  refine ⟨?_, b1, b2⟩
  unfold sar; exact sint_ofInt _ (by omega) (by omega)

/-- the logical shift of a limb is the arithmetic shift of its signed reading plus the sign extension -/
theorem shr_signed (h k : Nat) (hk : k ≤ 64) :
    ((h / 2 ^ k : Nat) : Int) = sint h / 2 ^ k + 2 ^ (64 - k) * (if h < B / 2 then 0 else 1) := by
  have hB : (B : Int) = 2 ^ k * 2 ^ (64 - k) := by exact_mod_cast B_split k hk
  have e := sint_eq h
  rw [hB] at e
  push_cast
  rw [e]
  have hpos : (2 : Int) ^ k ≠ 0 := by positivity
  rw [show sint h + 2 ^ k * 2 ^ (64 - k) * (if h < B / 2 then (0 : Int) else 1) =
        sint h + 2 ^ k * (2 ^ (64 - k) * (if h < B / 2 then (0 : Int) else 1)) by ring]
  rw [Int.add_mul_ediv_left _ _ hpos]


theorem lshiftGo_append (c : Nat) : ∀ (xs ys : List Nat) (lo : Nat),
    lshiftGo c (xs ++ ys) lo =
      ((lshiftGo c xs lo).1 ++ (lshiftGo c ys (lshiftGo c xs lo).2).1, (lshiftGo c ys (lshiftGo c xs lo).2).2)
  | [], ys, lo => by simp [lshiftGo]
  | x :: xs, ys, lo => by
    simp only [List.cons_append, lshiftGo]
    rw [lshiftGo_append c xs ys]

theorem fits_mul (P v u q : Int) (hP : (B : Int) ≤ P) (hv0 : 0 ≤ v) (hv1 : v < P) (hu0 : 0 ≤ u) (hu1 : u < (B : Int))
    (hq1 : -4611686018427387904 ≤ q) (hq2 : q < 4611686018427387904) :
    -(P * (B : Int)) ≤ 2 * (v - u - (B : Int) * q) ∧ 2 * (v - u - (B : Int) * q) < P * (B : Int) := by
  rw [BZ_eq] at *; constructor <;> linarith

theorem mul_2expmod_spec (xs : List Nat) (h d : Nat) (hx : Limbs (xs ++ [h])) (hn : 1 ≤ xs.length)
    (hd1 : 1 ≤ d) (hd : d ≤ 63) :
    Res xs.length (mul_2expmod (xs ++ [h]) d) fun y =>
      rval y ≡ rval (xs ++ [h]) * 2 ^ d [ZMOD pmod xs.length] ∧
      -((B : Int) * (sint h / 2 ^ (64 - d) + 1)) < rval y ∧
      rval y < (B : Int) ^ xs.length - (B : Int) * (sint h / 2 ^ (64 - d)) := by
  have ⟨hxs, hh⟩ := Limbs_snoc.mp hx
  have hd0 : d ≠ 0 := by omega
  unfold mul_2expmod
  simp only [hd0, ↓reduceIte, top_snoc]
  -- lshift
  have hl : lshift (xs ++ [h]) d = ((lshiftGo d xs 0).1 ++ [((h <<< d) % B) ||| (lshiftGo d xs 0).2], h >>> (64 - d)) := by
    unfold lshift; rw [lshiftGo_append]; simp [lshiftGo]
  obtain ⟨lv, lc, ll, lnn⟩ := lshiftGo_val d (by omega) xs 0 hxs (by positivity)
  obtain ⟨le, lhi⟩ := lshift_limb h (lshiftGo d xs 0).2 d (by omega) lc
  rw [hl]; simp only [top_snoc, setTop_snoc]
  set ts := (lshiftGo d xs 0).1 with hts
  set o1 := (lshiftGo d xs 0).2 with ho1
  set hi2 := ((h <<< d) % B) ||| o1 with hhi2
  -- sub_1 on ts ++ [0]
  obtain ⟨t0, tr, hts0⟩ : ∃ t0 tr, ts = t0 :: tr := List.exists_cons_of_length_pos (by omega)
  have hlim0 : Limbs (t0 :: (tr ++ [0])) := by
    have : t0 :: (tr ++ [0]) = ts ++ [0] := by rw [hts0]; rfl
    rw [this]; exact Limbs_snoc.mpr ⟨ll, B_pos⟩
  have e0 : ts ++ [0] = t0 :: (tr ++ [0]) := by rw [hts0]; rfl
  rw [e0]
  obtain ⟨sv, _, sl', sn⟩ := sub_1_val' (t0 :: (tr ++ [0])) hi2 hlim0 (Nat.succ_pos _) lhi
  set t2 := (sub_1 (t0 :: (tr ++ [0])) hi2).1 with ht2
  set bw := (sub_1 (t0 :: (tr ++ [0])) hi2).2
  have hv0 : val (t0 :: (tr ++ [0])) = val ts := by rw [← e0, val_snoc]; simp
  rw [hv0] at sv
  have htrl : tr.length + 1 = xs.length := by rw [← lnn, hts0]; simp
  simp only [List.length_append, List.length_cons, List.length_nil] at sn sv
  -- t2 = u0 :: us, us nonempty
  obtain ⟨u0, us, hu⟩ : ∃ u0 us, t2 = u0 :: us := List.exists_cons_of_length_pos (by omega)
  rw [hu] at sl' sn sv
  simp only [List.length_cons] at sn
  obtain ⟨r0, rs, hus⟩ : ∃ r0 rs, us = r0 :: rs := List.exists_cons_of_length_pos (by omega)
  have ⟨hu0, hul⟩ := Limbs_cons.mp sl'
  rw [hu]; simp only [List.take_succ_cons, List.take_zero, List.drop_succ_cons, List.drop_zero]
  -- hi1
  obtain ⟨sq, q1, q2⟩ := sint_sar h (64 - d) hh (by omega)
  set q := sint h / 2 ^ (64 - d) with hq
  have hmin : sar h (64 - d) ≠ B / 2 := by
    intro hc
    have : sint (B / 2) = -9223372036854775808 := by rw [sint_def]; simp [B_eq]
    rw [hc, this] at sq; omega
  have hsl : sar h (64 - d) < B := by unfold sar; exact ofInt_lt _
  have hneg := sint_lneg _ hsl hmin
  rw [sq] at hneg
  rw [hus] at hul ⊢
  obtain ⟨⟨k, hk⟩, al, an⟩ := addmod1_spec r0 rs (lneg (sar h (64 - d))) hul (lneg_lt _)
  rw [hneg] at hk
  have rlen : rs.length + 1 = xs.length := by rw [hus] at sn; simp at sn; omega
  -- assemble
  have hres : ([u0] ++ addmod1 (r0 :: rs) (lneg (sar h (64 - d)))).length = xs.length + 1 := by
    simp [an, rlen]
  obtain ⟨ys, g, hyg, hys⟩ := exists_snoc _ xs.length hres
  have hLim : Limbs (ys ++ [g]) := by
    rw [← hyg]; exact Limbs_append.mpr ⟨Limbs_cons.mpr ⟨hu0, Limbs_nil⟩, al⟩
  refine ⟨ys, g, hyg, hys, hLim, ?_⟩
  -- value
  have hvr : (val (ys ++ [g]) : Int) = (val ts : Int) - hi2 - (B : Int) * q + (k + bw) * (B : Int) ^ (xs.length + 1) := by
    have rl : rs.length = tr.length := by omega
    rw [← hyg]; simp only [List.singleton_append, val_cons]
    push_cast; rw [hk]
    rw [hus] at sv; simp only [val_cons] at sv
    have sv' := congrArg (fun z : Nat => (z : Int)) sv
    simp only [val_cons] at sv' ⊢
    push_cast at sv' ⊢
    rw [← htrl, rl]
    linear_combination sv'
  -- the shifted-out bits
  have hA := shr_signed h (64 - d) (by omega)
  have e64 : 64 - (64 - d) = d := by omega
  rw [e64, ← Nat.shiftRight_eq_div_pow] at hA
  have hse := sint_eq h
  set neg : Int := (if h < B / 2 then 0 else 1) with hnegd
  have lv' := congrArg (fun z : Nat => (z : Int)) lv
  have le' : (hi2 : Int) + (B : Int) * ((h >>> (64 - d) : Nat) : Int) = (h : Int) * 2 ^ d + o1 := by exact_mod_cast le
  push_cast at lv'
  have hs2 : sint h * 2 ^ d = (hi2 : Int) + (B : Int) * q - o1 := by
    linear_combination (-(2 : Int) ^ d) * hse - le' + (B : Int) * hA
  have htv0 : (0 : Int) ≤ val ts := Nat.cast_nonneg _
  have htv1 := valZ_lt ts ll
  rw [lnn] at htv1
  have hhi0 : (0 : Int) ≤ hi2 := Nat.cast_nonneg _
  have hhi1 : (hi2 : Int) < B := by exact_mod_cast lhi
  have hP := B_le_pow xs.length hn
  have hrv : rval (ys ++ [g]) = (val ts : Int) - hi2 - (B : Int) * q := by
    have hf := fits_mul _ _ _ q hP htv0 htv1 hhi0 hhi1 q1 q2
    exact rval_of_fits ys g hLim hys _ (k + bw) hvr hf
  refine ⟨?_, ?_, ?_⟩
  · rw [modEq_pmod_iff]; refine ⟨-((hi2 : Int) + (B : Int) * q), ?_⟩
    rw [hrv, rval_snoc]
    linear_combination lv' - (B : Int) ^ xs.length * hs2
  · rw [hrv]; linarith only [htv0, hhi1]
  · rw [hrv]; linarith only [htv1, hhi0]

theorem snoc2_access (ts : List Nat) (a b : Nat) :
    (ts ++ [a] ++ [b]).getD ts.length 0 = a ∧ (ts ++ [a] ++ [b]).getD (ts.length + 1) 0 = b ∧
    (ts ++ [a] ++ [b]).take ts.length = ts := by
  refine ⟨?_, ?_, ?_⟩
  · simp [List.getD_eq_getElem?_getD]
  · simp [List.getD_eq_getElem?_getD]
  · simp

/-- sub_ddmmss(r1, r0, p1, p0, 0, lo) -/
theorem sub_dd (p0 p1 lo : Nat) (h0 : p0 < B) (h1 : p1 < B) (hl : lo < B) :
    ∃ k : Int, ((lsub p0 lo : Nat) : Int) + (B : Int) * (lsub p1 (boolToNat (p0 < lo)) : Nat) =
      (p0 : Int) + (B : Int) * p1 - lo + (B : Int) * (B : Int) * k := by
  unfold lsub boolToNat
  simp only [B_eq] at *
  by_cases c1 : p0 < lo
  · by_cases c2 : p1 = 0
    · refine ⟨1, ?_⟩; simp only [c1, decide_true, ↓reduceIte]; push_cast; omega
    · refine ⟨0, ?_⟩; simp only [c1, decide_true, ↓reduceIte]; push_cast; omega
  · refine ⟨0, ?_⟩; simp only [c1, decide_false]; push_cast; omega

theorem fits_div (P v q W : Int) (hP : (B : Int) ≤ P) (hv0 : 0 ≤ v) (hv1 : v < P)
    (hq1 : -4611686018427387904 ≤ q) (hq2 : q < 4611686018427387904) (hW0 : 0 ≤ W) (hW1 : W < P) :
    -(P * (B : Int)) ≤ 2 * (v + P * q - W) ∧ 2 * (v + P * q - W) < P * (B : Int) := by
  rw [BZ_eq] at *
  have hP0 : (0 : Int) ≤ P := by linarith
  have h1 : P * (-4611686018427387904) ≤ P * q := mul_le_mul_of_nonneg_left hq1 hP0
  have h2 : P * q ≤ P * 4611686018427387903 := mul_le_mul_of_nonneg_left (by omega) hP0
  constructor <;> linarith

theorem div_2expmod_spec (xs : List Nat) (h d : Nat) (hx : Limbs (xs ++ [h])) (hn : 1 ≤ xs.length)
    (hd1 : 1 ≤ d) (hd : d ≤ 63) :
    Res xs.length (div_2expmod (xs ++ [h]) d) fun y =>
      rval y * 2 ^ d ≡ rval (xs ++ [h]) [ZMOD pmod xs.length] ∧
      (sint h / 2 ^ d - 1) * (B : Int) ^ xs.length < rval y ∧
      rval y < (sint h / 2 ^ d + 1) * (B : Int) ^ xs.length := by
  have ⟨hxs, hh⟩ := Limbs_snoc.mp hx
  have hd0 : d ≠ 0 := by omega
  obtain ⟨m, hm⟩ : ∃ m, xs.length = m + 1 := ⟨xs.length - 1, by omega⟩
  obtain ⟨x0, rest, hx0⟩ : ∃ x0 rest, xs ++ [h] = x0 :: rest := List.exists_cons_of_length_pos (by simp)
  have hrl : rest.length = m + 1 := by
    have := congrArg List.length hx0; simp at this; omega
  obtain ⟨rv1, rL, rlim, rlen, rdiv, rlo⟩ := rshift_val' (x0 :: rest) d (hx0 ▸ hx) (Nat.succ_pos _) hd1 hd
  rw [← hx0] at rv1 rL rlim rlen rdiv rlo
  set T := (rshift (xs ++ [h]) d).1 with hT
  set L := (rshift (xs ++ [h]) d).2 with hL
  have hTL : rshift (xs ++ [h]) d = (T, L) := rfl
  simp only [List.length_append, List.length_cons, List.length_nil, hm] at rlen
  obtain ⟨ts, g, hTs, htsl⟩ := exists_snoc T (m + 1) (by omega)
  obtain ⟨ts', p0, hts', hts'l⟩ := exists_snoc ts m htsl
  have hLimT : Limbs (ts' ++ [p0] ++ [g]) := by rw [← hts', ← hTs]; exact rlim
  have ⟨hLts, hg⟩ := Limbs_snoc.mp hLimT
  have ⟨hLts', hp0⟩ := Limbs_snoc.mp hLts
  -- the top limb of the logical shift
  have hvx : val (xs ++ [h]) = val xs + B ^ (m + 1) * h := by rw [val_snoc, hm]
  have hvT : val T = val ts + B ^ (m + 1) * g := by rw [hTs, val_snoc, htsl]
  have hxsl := val_lt xs hxs
  have htsv := val_lt ts (hts' ▸ hLts)
  rw [hm] at hxsl; rw [htsl] at htsv
  have hPpos : 0 < B ^ (m + 1) := Bpow_pos _
  have hgd : g = h / 2 ^ d := by
    have e1 : val T / B ^ (m + 1) = g := by
      rw [hvT, Nat.add_mul_div_left _ _ hPpos, Nat.div_eq_of_lt htsv, Nat.zero_add]
    have e2 : val (xs ++ [h]) / B ^ (m + 1) = h := by
      rw [hvx, Nat.add_mul_div_left _ _ hPpos, Nat.div_eq_of_lt hxsl, Nat.zero_add]
    rw [← e1, rdiv, Nat.div_div_eq_div_mul, Nat.mul_comm, ← Nat.div_div_eq_div_mul, e2]
  -- unfold the model
  obtain ⟨sq, q1, q2⟩ := sint_sar h d hh hd1
  set q := sint h / 2 ^ d with hq
  set p1 := sar h d with hp1
  have hp1B : p1 < B := by unfold p1 sar; exact ofInt_lt _
  obtain ⟨k, hk⟩ := sub_dd p0 p1 L hp0 hp1B rL
  set r0 := lsub p0 L
  set r1 := lsub p1 (boolToNat (p0 < L))
  have hres : div_2expmod (xs ++ [h]) d = ts' ++ [r0] ++ [r1] := by
    unfold div_2expmod
    simp only [hd0, ↓reduceIte, hTL, top_snoc, hTs, setTop_snoc]
    have hl1 : (xs ++ [h]).length - 1 - 1 = ts'.length := by simp [hm, hts'l]
    have hl2 : (xs ++ [h]).length - 1 = ts'.length + 1 := by simp [hm, hts'l]
    rw [hl1, hl2, hts']
    obtain ⟨a1, a2, a3⟩ := snoc2_access ts' p0 p1
    rw [a1, a2, a3]; simp only [List.append_assoc, List.cons_append, List.nil_append]; rfl
  have hLimR : Limbs (ts' ++ [r0] ++ [r1]) :=
    Limbs_snoc.mpr ⟨Limbs_snoc.mpr ⟨hLts', lsub_lt _ _⟩, lsub_lt _ _⟩
  refine ⟨ts' ++ [r0], r1, hres, by simp [hts'l, hm], hLimR, ?_⟩
  -- value
  have hA := shr_signed h d (by omega)
  rw [← hgd] at hA
  have hse := sint_eq h
  have hse1 := sint_eq p1
  rw [sq] at hse1
  set neg : Int := (if h < B / 2 then 0 else 1)
  set neg1 : Int := (if p1 < B / 2 then 0 else 1)
  have hvts : (val ts : Int) = val ts' + (B : Int) ^ m * p0 := by
    rw [hts', val_snoc, hts'l]; push_cast; ring
  have hvr : (val (ts' ++ [r0] ++ [r1]) : Int) =
      ((val ts : Int) + (B : Int) ^ (m + 1) * q - (B : Int) ^ m * L) + (neg1 + k) * (B : Int) ^ ((ts' ++ [r0]).length + 1) := by
    rw [val_snoc, val_snoc]; simp only [List.length_append, List.length_cons, List.length_nil, hts'l]
    push_cast
    rw [hvts]
    have e : (B : Int) ^ (m + 0 + 1) = (B : Int) ^ m * B := by rw [Nat.add_zero, pow_succ]
    rw [e, pow_succ, pow_succ]
    linear_combination ((B : Int) ^ m) * hk + ((B : Int) ^ m * B) * hse1
  have hts0 : (0 : Int) ≤ val ts := Nat.cast_nonneg _
  have hts1 : (val ts : Int) < (B : Int) ^ (m + 1) := by exact_mod_cast htsv
  have hL0 : (0 : Int) ≤ L := Nat.cast_nonneg _
  have hL1 : (B : Int) ^ m * L < (B : Int) ^ (m + 1) := by
    rw [pow_succ]; exact mul_lt_mul_of_pos_left (by exact_mod_cast rL) (BZpow_pos m)
  have hL2 : (0 : Int) ≤ (B : Int) ^ m * L := mul_nonneg (le_of_lt (BZpow_pos m)) hL0
  have hP := B_le_pow (m + 1) (by omega)
  have hrv : rval (ts' ++ [r0] ++ [r1]) = (val ts : Int) + (B : Int) ^ (m + 1) * q - (B : Int) ^ m * L := by
    have hf := fits_div _ _ q _ hP hts0 hts1 q1 q2 hL2 hL1
    apply rval_of_eq (ts' ++ [r0]) r1 hLimR _ (neg1 + k) hvr
    · simp only [List.length_append, List.length_cons, List.length_nil, hts'l]
      rw [pow_succ]; exact hf.1
    · simp only [List.length_append, List.length_cons, List.length_nil, hts'l]
      rw [pow_succ]; exact hf.2
  beta_reduce
  rw [hrv, hm]
  refine ⟨?_, by linarith only [hts0, hL1], by linarith only [hts1, hL2]⟩
  -- congruence
  have hdm := Nat.div_add_mod (val (xs ++ [h])) (2 ^ d)
  rw [← rdiv, hvT, hvx] at hdm
  set r := (val xs + B ^ (m + 1) * h) % 2 ^ d with hr
  have hB2 : (B : Int) = 2 ^ (64 - d) * 2 ^ d := by
    have := B_split d (by omega); rw [Nat.mul_comm] at this; exact_mod_cast this
  have rlo'' : L = r * 2 ^ (64 - d) := by rw [rlo, hvx]
  have rlo' : (L : Int) = r * 2 ^ (64 - d) := by rw [rlo'']; push_cast; ring
  have hdm' := congrArg (fun z : Nat => (z : Int)) hdm
  push_cast at hdm'
  rw [modEq_pmod_iff]; refine ⟨-(r : Int), ?_⟩
  rw [rval_snoc, hm, rlo']
  have e : (B : Int) ^ (m + 1) = (B : Int) ^ m * (2 ^ (64 - d) * 2 ^ d) := by rw [pow_succ, ← hB2]
  linear_combination hdm' + (B : Int) ^ (m + 1) * hse - (2 ^ d * (B : Int) ^ (m + 1)) * hA + (r : Int) * e + ((B : Int) ^ (m + 1) * neg) * hB2

/-! ### the limb rotation (multiplication by B^x) -/

theorem sl_mid (a b c : List Nat) : sl (a ++ b ++ c) a.length (a.length + b.length) = b := by
  unfold sl; simp

theorem neg_n_spec (u : List Nat) (hu : Limbs u) :
    val (neg_n u).1 + val u = B ^ u.length * (neg_n u).2 ∧ (neg_n u).2 ≤ 1 ∧
    Limbs (neg_n u).1 ∧ (neg_n u).1.length = u.length := by
  obtain ⟨h1, h2, h3, h4⟩ := neg_n_val' u hu
  exact ⟨h1, by rw [h2]; split <;> omega, h3, h4⟩

/-- a window rotated by X = B^x out of P = B^n: main part v, a piece w below X, a signed limb s at weight X -/
theorem fits_rot (P X v w s : Int) (hX : X * (B : Int) ≤ P) (hX0 : 0 < X) (hv0 : -P < v) (hv1 : v < P)
    (hw0 : -X < w) (hw1 : w < X) (hs1 : -9223372036854775808 ≤ s) (hs2 : s < 9223372036854775808) :
    (-(P * (B : Int)) ≤ 2 * (v - w - X * s) ∧ 2 * (v - w - X * s) < P * (B : Int)) ∧
    -(2 * P) < v - w - X * s ∧ v - w - X * s < 2 * P := by
  rw [BZ_eq] at *
  have h1 : X * (-9223372036854775808) ≤ X * s := mul_le_mul_of_nonneg_left hs1 (le_of_lt hX0)
  have h2 : X * s ≤ X * 9223372036854775807 := mul_le_mul_of_nonneg_left (by omega) (le_of_lt hX0)
  refine ⟨⟨?_, ?_⟩, ?_, ?_⟩ <;> linarith

/-- `mulBx` multiplies by B^x modulo p (x < limbs) -/
theorem mulBx_spec (L H : List Nat) (h : Nat) (hx : Limbs (L ++ H ++ [h])) (hL : 1 ≤ L.length) (hmin : h ≠ B / 2) :
    Res (L.length + H.length) (mulBx (L ++ H ++ [h]) H.length) fun y =>
      rval y ≡ rval (L ++ H ++ [h]) * (B : Int) ^ H.length [ZMOD pmod (L.length + H.length)] ∧
      rval y = (B : Int) ^ H.length * val L - val H - (B : Int) ^ H.length * sint h ∧
      -(2 * (B : Int) ^ (L.length + H.length)) < rval y ∧ rval y < 2 * (B : Int) ^ (L.length + H.length) := by
  have ⟨hLH, hh⟩ := Limbs_snoc.mp hx
  have ⟨hLl, hHl⟩ := Limbs_append.mp hLH
  -- the pieces
  have hlen : (L ++ H ++ [h]).length - 1 = L.length + H.length := by simp
  have hsl : sl (L ++ H ++ [h]) (L.length + H.length - H.length) (L.length + H.length) = H := by
    rw [Nat.add_sub_cancel]; exact sl_mid L H [h]
  have htk : (L ++ H ++ [h]).take (L.length + H.length - H.length) = L := by
    rw [Nat.add_sub_cancel]; simp
  obtain ⟨nv, nc, nl, nn⟩ := neg_n_spec H hHl
  set rlo := (neg_n H).1
  set cy := (neg_n H).2
  have hr0 : Limbs (L ++ [0]) := Limbs_snoc.mpr ⟨hLl, B_pos⟩
  obtain ⟨⟨k, hk⟩, al, an⟩ := addmod1_spec' (L ++ [0]) (lneg h) hr0 (by simp) (lneg_lt h)
  set r1 := addmod1 (L ++ [0]) (lneg h)
  have hcy : cy < B := by have := B_eq; omega
  obtain ⟨sv, _, sl1, sn⟩ := sub_1_val' r1 cy al (by rw [an]; simp) hcy
  set r2 := (sub_1 r1 cy).1
  set bw := (sub_1 r1 cy).2
  have hres : mulBx (L ++ H ++ [h]) H.length = rlo ++ r2 := by
    unfold mulBx
    simp only [hlen, hsl, htk, top_snoc]
    rfl
  have hl2 : (rlo ++ r2).length = (L.length + H.length) + 1 := by
    simp [nn, sn, an]; omega
  obtain ⟨ys, g, hyg, hys⟩ := exists_snoc _ _ hl2
  have hLim : Limbs (ys ++ [g]) := by rw [← hyg]; exact Limbs_append.mpr ⟨nl, sl1⟩
  rw [sint_lneg h hh hmin] at hk
  simp only [List.length_append, List.length_cons, List.length_nil, val_snoc] at hk an sn
  have hvr : (val (ys ++ [g]) : Int) = ((B : Int) ^ H.length * val L - val H - (B : Int) ^ H.length * sint h) +
      (k + bw) * (B : Int) ^ (ys.length + 1) := by
    rw [← hyg, val_append, nn, hys]
    have nv' := congrArg (fun z : Nat => (z : Int)) nv
    have sv' := congrArg (fun z : Nat => (z : Int)) sv
    rw [an] at sv'
    push_cast at nv' sv' hk ⊢
    have e : (B : Int) ^ (L.length + H.length + 1) = (B : Int) ^ H.length * (B : Int) ^ (L.length + 1) := by
      rw [← pow_add]; congr 1; omega
    rw [e]
    linear_combination nv' + (B : Int) ^ H.length * sv' + (B : Int) ^ H.length * hk
  have hs := sint_range h hh
  have hL0 : (0 : Int) ≤ val L := Nat.cast_nonneg _
  have hL1 := valZ_lt L hLl
  have hH0 : (0 : Int) ≤ val H := Nat.cast_nonneg _
  have hH1 := valZ_lt H hHl
  have hXpos := BZpow_pos H.length
  have hPX : (B : Int) ^ (L.length + H.length) = (B : Int) ^ H.length * (B : Int) ^ L.length := by
    rw [← pow_add]; congr 1; omega
  have hBL := B_le_pow L.length hL
  have hf := fits_rot ((B : Int) ^ (L.length + H.length)) ((B : Int) ^ H.length) ((B : Int) ^ H.length * val L) (val H) (sint h)
    (by rw [hPX]; exact mul_le_mul_of_nonneg_left hBL (le_of_lt hXpos)) hXpos
    (lt_of_lt_of_le (neg_lt_zero.mpr (BZpow_pos _)) (mul_nonneg (le_of_lt hXpos) hL0))
    (by rw [hPX]; exact mul_lt_mul_of_pos_left hL1 hXpos) (lt_of_lt_of_le (neg_lt_zero.mpr hXpos) hH0) hH1 hs.1 hs.2
  have hrv : rval (ys ++ [g]) = (B : Int) ^ H.length * val L - val H - (B : Int) ^ H.length * sint h :=
    rval_of_fits ys g hLim hys _ (k + bw) (hys ▸ hvr) hf.1
  refine ⟨ys, g, by rw [hres, hyg], hys, hLim, ?_, hrv, hrv ▸ hf.2.1, hrv ▸ hf.2.2⟩
  rw [modEq_pmod_iff]; refine ⟨-((val H : Int) + (B : Int) ^ H.length * sint h), ?_⟩
  rw [hrv, rval_snoc, val_append]; simp only [List.length_append]; push_cast
  rw [hPX]; ring

/-- mul_2expmod for every d < 64 (d = 0 copies) -/
theorem mul_2expmod_cong (xs : List Nat) (h d : Nat) (hx : Limbs (xs ++ [h])) (hn : 1 ≤ xs.length) (hd : d < 64) :
    Res xs.length (mul_2expmod (xs ++ [h]) d) fun y =>
      rval y ≡ rval (xs ++ [h]) * 2 ^ d [ZMOD pmod xs.length] := by
  by_cases hd0 : d = 0
  · subst hd0
    refine ⟨xs, h, by simp [mul_2expmod], rfl, hx, by simp⟩
  · exact (mul_2expmod_spec xs h d hx hn (by omega) (by omega)).mono fun _ _ _ _ h => h.1

theorem B_pow_two (x : Nat) : (B : Int) ^ x = 2 ^ (64 * x) := by
  rw [pow_mul]; congr 1

/-- a shift by `k` bits is a shift by `k / 64` limbs and `k % 64` bits -/
theorem two_pow_limbs (k : Nat) : (2 : Int) ^ k = (B : Int) ^ (k / 64) * 2 ^ (k % 64) := by
  rw [B_pow_two, ← pow_add, Nat.div_add_mod]

end Mpir.Fft
