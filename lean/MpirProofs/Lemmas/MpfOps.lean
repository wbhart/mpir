/- The operations other than subtraction: floor/ceil/trunc, set, mul, add of equal signs, div (with div_ui, ui_div, set_q,
   set_z as equations to div and set), sqrt.  mul and add of equal signs cut their operands before the result; what they
   have in place of one `Cut` against the exact value is said at `Cut` (MpfBase). -/
import MpirProofs.Lemmas.MpfBase
namespace Mpir.Mpf
open Mpir

/-! ### floor / ceil / trunc / integer_p: integer and fraction part (`round_decomp`) -/

theorem mag_lt_one {d : List Nat} (h : Mant d) (e : ℤ) (he : e ≤ 0) : 0 < qv d e ∧ qv d e < 1 := by
  refine ⟨h.qv_pos e, lt_of_lt_of_le (qv_lt d e h.limbs) ?_⟩
  have := zpow_le_zpow_B he
  rwa [zpow_zero] at this

theorem mag_split (d : List Nat) (e : ℕ) (he : e ≤ d.length) :
    (val d : ℚ) * (B : ℚ) ^ ((e : ℤ) - (d.length : ℤ)) =
      (val (top e d) : ℚ) + (val (d.take (d.length - e)) : ℚ) / (B : ℚ) ^ (d.length - e) := by
  have hk : (e : ℤ) - (d.length : ℤ) = -((d.length - e : ℕ) : ℤ) := by omega
  rw [hk, zpow_neg, zpow_natCast]
  have hv : (val d : ℚ) = (val (d.take (d.length - e)) : ℚ) + (B : ℚ) ^ (d.length - e) * (val (top e d) : ℚ) := by
    exact_mod_cast val_top e d
  have hB : (B : ℚ) ^ (d.length - e) ≠ 0 := pow_ne_zero _ Bq_ne
  rw [hv]; field_simp; ring

theorem mag_int (d : List Nat) (e : ℤ) (he : (d.length : ℤ) ≤ e) :
    (val d : ℚ) * (B : ℚ) ^ (e - (d.length : ℤ)) = ((val d * B ^ (e - (d.length : ℤ)).toNat : ℕ) : ℚ) := by
  have : e - (d.length : ℤ) = (((e - (d.length : ℤ)).toNat : ℕ) : ℤ) := by omega
  rw [this, zpow_natCast]; push_cast; simp

theorem any_ne_zero_iff (l : List Nat) : l.any (· != 0) = true ↔ val l ≠ 0 := by
  rw [Ne, val_eq_zero_iff]; simp

theorem all_eq_zero_iff (l : List Nat) : l.all (· == 0) = true ↔ val l = 0 := by
  rw [val_eq_zero_iff]; simp

theorem toQ_mk' (p : Nat) (c : Prop) [Decidable c] (e : Int) (l : List Nat) (k : Nat) (hk : l.length = k) :
    toQ ⟨p, if c then (k : Int) else -(k : Int), e, l⟩ =
      (if c then 1 else -1) * (val l : ℚ) * (B : ℚ) ^ (e - (k : ℤ)) := by
  subst hk; exact toQ_mk p c e l

theorem round_decomp (prec : Nat) (u : F) (hu : OpWF u) (h0 : u.size ≠ 0)
    (hfit : min u.d.length u.exp.toNat ≤ prec + 1) (dir : ℤ) (hdir : dir = 1 ∨ dir = -1) :
    ∃ (I : ℕ) (f : ℚ), 0 ≤ f ∧ f < 1 ∧ toQ u = sg u * (I + f) ∧
      toQ (trunc prec u) = sg u * I ∧
      toQ (ceilOrFloor prec u dir) = sg u * (I + if ((u.size < 0) ↔ (dir < 0)) ∧ f ≠ 0 then 1 else 0) ∧
      (integer_p u = true ↔ f = 0) := by
  have hl := hu.limbs
  have hsz := sg_ge u
  rcases le_or_gt u.exp 0 with he | he
  · obtain ⟨m1, m2⟩ := mag_lt_one (hu.mant h0) u.exp he
    have hf : (val u.d : ℚ) * (B : ℚ) ^ (u.exp - (u.d.length : ℤ)) ≠ 0 := ne_of_gt m1
    refine ⟨0, (val u.d : ℚ) * (B : ℚ) ^ (u.exp - (u.d.length : ℤ)), le_of_lt m1, m2, by rw [toQ_qv]; unfold qv; simp, ?_, ?_, ?_⟩
    · unfold trunc; rw [if_pos (Or.inr he), toQ_zero]; simp
    · unfold ceilOrFloor; rw [if_neg h0, if_pos he]
      by_cases hs : u.size < 0 <;> rcases hdir with hd | hd <;> subst hd <;> simp [hs, sg, toQ, zero, hf, val]
    · unfold integer_p; rw [if_neg h0, if_pos he]; simp [hf]
  · obtain ⟨e, hee⟩ : ∃ e : ℕ, u.exp = (e : ℤ) := ⟨u.exp.toNat, by omega⟩
    have hepos : 0 < e := by omega
    have hnt : ¬ (u.size = 0 ∨ u.exp ≤ 0) := by omega
    have hne0 : ¬ u.exp ≤ 0 := by omega
    have htn : u.exp.toNat = e := by omega
    rw [htn] at hfit
    rcases lt_or_ge e u.d.length with hlt | hge
    · -- integer part = top e limbs
      have hmin : min (min u.d.length e) (prec + 1) = e := by omega
      have hsplit := mag_split u.d e (le_of_lt hlt)
      have hlo := val_take_lt hl (u.d.length - e)
      have hBk : (0 : ℚ) < (B : ℚ) ^ (u.d.length - e) := pow_pos Bq_pos _
      have htl : (top e u.d).length = e := by rw [top_length]; omega
      refine ⟨val (top e u.d), (val (u.d.take (u.d.length - e)) : ℚ) / (B : ℚ) ^ (u.d.length - e),
        by positivity, ?_, ?_, ?_, ?_, ?_⟩
      · rw [div_lt_one hBk]; exact_mod_cast hlo
      · rw [toQ_qv, qv, hee, hsplit]
      · unfold trunc; rw [if_neg hnt]; simp only [htn, hmin]
        rw [toQ_mk' _ _ _ _ _ htl, hsz, hee]; simp
      · unfold ceilOrFloor; rw [if_neg h0, if_neg hne0]; simp only [htn, hmin]
        have hcond : ((decide (u.size < 0) == decide (dir < 0)) = true ∧
              ((List.take (u.d.length - e) u.d).any fun x => x != 0) = true) ↔
            ((u.size < 0 ↔ dir < 0) ∧
              (val (List.take (u.d.length - e) u.d) : ℚ) / (B : ℚ) ^ (u.d.length - e) ≠ 0) := by
          rw [any_ne_zero_iff]
          have h1 : ((decide (u.size < 0) == decide (dir < 0)) = true) ↔ (u.size < 0 ↔ dir < 0) := by
            by_cases a : u.size < 0 <;> by_cases b : dir < 0 <;> simp [a, b]
          have h2 : val (List.take (u.d.length - e) u.d) ≠ 0 ↔
              (val (List.take (u.d.length - e) u.d) : ℚ) / (B : ℚ) ^ (u.d.length - e) ≠ 0 := by
            rw [Ne, Ne, div_eq_zero_iff]; simp [ne_of_gt hBk]
          rw [h1, h2]
        by_cases hc : ((u.size < 0 ↔ dir < 0) ∧
              (val (List.take (u.d.length - e) u.d) : ℚ) / (B : ℚ) ^ (u.d.length - e) ≠ 0)
        · rw [if_pos (hcond.mpr hc), if_pos hc]
          have hhi : val (top e u.d) < B ^ e := by
            have := val_lt _ (Limbs_top hl e); rwa [htl] at this
          by_cases hcy : (val (top e u.d) + 1) / B ^ e ≠ 0
          · rw [if_pos hcy]
            have hs : val (top e u.d) + 1 = B ^ e := by
              have : B ^ e ≤ val (top e u.d) + 1 := by
                by_contra hlt'; exact hcy (Nat.div_eq_of_lt (by omega))
              omega
            have h1l : ([1] : List Nat).length = 1 := rfl
            rw [toQ_mk' _ _ _ _ _ h1l, hsz, hee]
            have : ((val (top e u.d) : ℚ) + 1) = (B : ℚ) ^ e := by exact_mod_cast hs
            rw [this, show ((e : ℤ) + 1 - ((1 : ℕ) : ℤ)) = (e : ℤ) by push_cast; ring, zpow_natCast]
            simp [val]
          · rw [if_neg hcy]
            have hs : val (top e u.d) + 1 < B ^ e := by
              have := (Nat.div_eq_zero_iff.mp (not_not.mp hcy)); have := Bpow_pos e; omega
            rw [toQ_mk' _ _ _ _ _ (toLimbs_length e _), hsz, hee, val_toLimbs_lt _ _ hs]
            simp
        · rw [if_neg (fun h => hc (hcond.mp h)), if_neg hc]
          rw [toQ_mk' _ _ _ _ _ htl, hsz, hee]; simp
      · unfold integer_p; rw [if_neg h0, if_neg hne0]; simp only [htn]
        rw [all_eq_zero_iff, div_eq_zero_iff]; simp [ne_of_gt hBk]
    · -- the whole operand is integer part
      have hmin : min (min u.d.length e) (prec + 1) = u.d.length := by omega
      have hint := mag_int u.d u.exp (by omega)
      refine ⟨val u.d * B ^ (u.exp - (u.d.length : ℤ)).toNat, 0, le_refl _, by norm_num, ?_, ?_, ?_, ?_⟩
      · rw [toQ_qv, qv, hint]; simp
      · unfold trunc; rw [if_neg hnt]; simp only [htn, hmin, top_of_le (le_refl _)]
        rw [toQ_mk, hsz, mul_assoc, hint]
      · unfold ceilOrFloor; rw [if_neg h0, if_neg hne0]; simp only [htn, hmin, top_of_le (le_refl _)]
        simp only [Nat.sub_self, List.take_zero, List.any_nil, Bool.false_eq_true, and_false, if_false]
        rw [toQ_mk, hsz, mul_assoc, hint]; simp
      · unfold integer_p; rw [if_neg h0, if_neg hne0]; simp only [htn]
        rw [Nat.sub_eq_zero_of_le hge]; simp

theorem floor_nat_add (I : ℕ) (f : ℚ) (h0 : 0 ≤ f) (h1 : f < 1) : ⌊(I : ℚ) + f⌋ = (I : ℤ) := by
  rw [Int.floor_eq_iff]; push_cast; constructor <;> linarith

theorem ceil_nat_add (I : ℕ) (f : ℚ) (h0 : 0 ≤ f) (h1 : f < 1) :
    ⌈(I : ℚ) + f⌉ = (I : ℤ) + if f ≠ 0 then 1 else 0 := by
  by_cases hf : f = 0
  · subst hf; simp
  · rw [if_pos hf, Int.ceil_eq_iff]; push_cast
    have : 0 < f := lt_of_le_of_ne h0 (Ne.symm hf)
    constructor <;> linarith

/-! ### set (set.c), neg -/

theorem set_cut (prec : ℕ) (u : F) (hu : OpWF u) :
    WF (set prec u) ∧ Cut prec (toQ u) (toQ (set prec u)) := by
  unfold set
  by_cases h0 : u.size = 0
  · have hd := hu.d_nil h0
    simp only [hd, top, List.length_nil, List.drop_nil]
    rw [hu.exp_zero h0]
    exact ⟨WF_mk Limbs_nil (by simp) (by simp) (fun _ => rfl), Or.inl (by simp [toQ, hd])⟩
  · have hm := hu.mant h0
    refine ⟨(hm.top (Nat.succ_pos prec)).wf_mk (by rw [top_length]; omega) _ _, ?_⟩
    rw [toQ_mk_sg, toQ_qv u]
    exact (hm.cut_top (Nat.le_succ prec) u.exp).smul (sg_cases u)

theorem set_spec (prec : ℕ) (hp : 1 ≤ prec) (u : F) (hu : OpWF u) :
    WF (set prec u) ∧
    (u.size ≠ 0 → |toQ (set prec u) - toQ u| < eps prec * |toQ u|) ∧
    (Fits (toQ u) (PREC_TO_BITS prec) → toQ (set prec u) = toQ u) :=
  have ⟨w, c⟩ := set_cut prec u hu
  ⟨w, fun h => c.err hp (toQ_ne_zero hu h), c.exact hp⟩

theorem neg_eq_set (prec : ℕ) (u : F) : neg prec false u = set prec {u with size := -u.size} := rfl

/-! ### mul (mul.c) -/

theorem mul_cut (prec : Nat) (u v : F) (hu : OpWF u) (hv : OpWF v) (hp : 1 ≤ prec)
    (hu0 : u.size ≠ 0) (hv0 : v.size ≠ 0) :
    WF (mul prec u v) ∧
    Cut (prec + 1) (sg u * sg v * (qv (top prec u.d) u.exp * qv (top prec v.d) v.exp)) (toQ (mul prec u v)) := by
  have a := (hu.mant hu0).top hp
  have b := (hv.mant hv0).top hp
  obtain ⟨L, hL, m, m7, lo, m8, m9⟩ := mulLimbs_spec prec _ _ a b
  have hua : ¬ ((top prec u.d).length = 0 ∨ (top prec v.d).length = 0) := by
    have := a.length_pos; have := b.length_pos; omega
  have hσ : sg u * sg v = 1 ∨ sg u * sg v = -1 := by
    rcases sg_cases u with a | a <;> rcases sg_cases v with b | b <;> rw [a, b] <;> norm_num
  unfold mul
  simp only [hua, if_false]
  generalize top prec u.d = up at *
  generalize top prec v.d = vp at *
  generalize mulLimbs prec up vp = r at *
  obtain ⟨rp, adj⟩ := r
  simp only at hL m m7 m8 ⊢
  refine ⟨m.wf_mk_neg (by rw [m7]; omega) _ _, ?_⟩
  rw [toQ_mk_neg, sg_mul, mul_assoc (sg u * sg v)]
  refine Cut.smul hσ ?_
  -- `val rp = ⌊val up · val vp / B^k⌋`, counted in units `B^W`
  have hk : (rp.length : ℤ) + ((L - (prec + 1) : ℕ) : ℤ) = L := by rw [m7]; exact_mod_cast min_add_sub _ _
  have hLz : (L : ℤ) + adj = up.length + vp.length := by exact_mod_cast hL
  have hBk : (0 : ℚ) < (B : ℚ) ^ (L - (prec + 1)) := pow_pos Bq_pos _
  have hE : qv up u.exp * qv vp v.exp
      = ((val up * val vp : ℕ) : ℚ) / (B : ℚ) ^ (L - (prec + 1)) * (B : ℚ) ^ (u.exp + v.exp - adj - rp.length) := by
    have : (B : ℚ) ^ (u.exp + v.exp - adj - rp.length)
        = (B : ℚ) ^ (L - (prec + 1)) * ((B : ℚ) ^ (u.exp - up.length) * (B : ℚ) ^ (v.exp - vp.length)) := by
      rw [← zpow_natCast, ← zpow_add₀ Bq_ne, ← zpow_add₀ Bq_ne]; congr 1; omega
    rw [this, ← mul_assoc, div_mul_cancel₀ _ hBk.ne']; unfold qv; push_cast; ring
  have hP : ((val up * val vp : ℕ) : ℚ) = (lo : ℚ) + (B : ℚ) ^ (L - (prec + 1)) * (val rp : ℚ) := by exact_mod_cast m8
  have hlo : (lo : ℚ) < (B : ℚ) ^ (L - (prec + 1)) := by exact_mod_cast m9
  rcases Nat.eq_zero_or_pos (L - (prec + 1)) with h0 | h0
  · rw [h0, pow_zero] at hP hlo m9
    refine Or.inl ?_
    rw [hE, hP, h0, show lo = 0 by omega]; simp
  · rw [hE]
    refine Cut.of_floor _ ?_ ?_ ?_ (Nat.succ_pos prec)
    · rw [le_div_iff₀ hBk, hP]; linarith [Nat.cast_nonneg (α := ℚ) lo]
    · rw [div_lt_iff₀ hBk, hP]; linarith
    · have := m.val_ge
      rwa [m7, show min (prec + 1) L = prec + 1 by omega] at this

/-- three relative errors below `1/B^(prec−1)` (each operand cut to `prec` limbs, then the product), where `eps` is four -/
theorem Cut.err_of_operands {prec : ℕ} (hp : 1 ≤ prec) {X X' Y Y' r σ : ℚ} (hσ : σ = 1 ∨ σ = -1)
    (h : Cut (prec + 1) (σ * (X' * Y')) r) (hX : 0 < X) (hY : 0 < Y) (hX' : X' ≤ X) (hY' : Y' ≤ Y)
    (hX0 : 0 ≤ X') (hY0 : 0 ≤ Y') (hXe : (X - X') * (B : ℚ) ^ (prec - 1) ≤ X) (hYe : (Y - Y') * (B : ℚ) ^ (prec - 1) ≤ Y) :
    |r - σ * (X * Y)| < eps prec * |σ * (X * Y)| := by
  have hσa : |σ| = 1 := by rcases hσ with h | h <;> rw [h] <;> simp
  have hQ : (0 : ℚ) < (B : ℚ) ^ (prec - 1) := pow_pos Bq_pos _
  have hXY := mul_pos hX hY
  have hle : X' * Y' ≤ X * Y := mul_le_mul hX' hY' hY0 hX.le
  have d : (X * Y - X' * Y') * (B : ℚ) ^ (prec - 1) ≤ 2 * (X * Y) := by
    have t1 := mul_le_mul_of_nonneg_right hXe hY.le
    have t2 := mul_le_mul_of_nonneg_left hYe hX.le
    have t3 := mul_le_mul_of_nonneg_right hX' (mul_nonneg (sub_nonneg.mpr hY') hQ.le)
    linarith
  have tri : |r - σ * (X * Y)| ≤ |r - σ * (X' * Y')| + (X * Y - X' * Y') := by
    have := abs_sub_le r (σ * (X' * Y')) (σ * (X * Y))
    rwa [← mul_sub σ, abs_mul, hσa, one_mul, abs_sub_comm (X' * Y'), abs_of_nonneg (sub_nonneg.mpr hle)] at this
  have c : |r - σ * (X' * Y')| * (B : ℚ) ^ (prec - 1) ≤ X * Y := by
    rcases h with h | ⟨W, _, h1, h2⟩
    · rw [h, sub_self, abs_zero, zero_mul]; exact hXY.le
    · rw [abs_mul, hσa, one_mul, abs_of_nonneg (mul_nonneg hX0 hY0),
        show W + ((prec + 1 : ℕ) : ℤ) - 1 = W + (((prec - 1 : ℕ) : ℤ) + 1) by omega, zpow_add₀ Bq_ne,
        zpow_add₀ Bq_ne, zpow_natCast, zpow_one] at h2
      have hW := Bz_pos W
      have : (B : ℚ) ^ W * (B : ℚ) ^ (prec - 1) * 2 ≤ (B : ℚ) ^ W * ((B : ℚ) ^ (prec - 1) * (B : ℚ)) := by
        rw [mul_assoc]; exact mul_le_mul_of_nonneg_left (mul_le_mul_of_nonneg_left Bq_ge_two hQ.le) hW.le
      have := mul_lt_mul_of_pos_right h1 hQ
      linarith
  rw [eps_eq, abs_mul, hσa, one_mul, abs_of_pos hXY, div_mul_eq_mul_div, lt_div_iff₀ hQ]
  have := mul_le_mul_of_nonneg_right tri hQ.le
  linarith

theorem Mant.top_loss {d : List Nat} (h : Mant d) {prec : ℕ} (hp : 1 ≤ prec) (e : ℤ) :
    (qv d e - qv (Mpf.top prec d) e) * (B : ℚ) ^ (prec - 1) ≤ qv d e := by
  have b := (qv_top_bound prec d e h.limbs).2
  have hQ : (0 : ℚ) < (B : ℚ) ^ (prec - 1) := pow_pos Bq_pos _
  have : (B : ℚ) ^ (e - (prec : ℤ)) * (B : ℚ) ^ (prec - 1) = (B : ℚ) ^ (e - 1) := by
    rw [← zpow_natCast, ← zpow_add₀ Bq_ne]; congr 1; omega
  linarith [mul_lt_mul_of_pos_right b hQ, h.qv_ge e]

theorem mul_err (prec : Nat) (u v : F) (hu : OpWF u) (hv : OpWF v) (hp : 1 ≤ prec)
    (hu0 : u.size ≠ 0) (hv0 : v.size ≠ 0) :
    |toQ (mul prec u v) - toQ u * toQ v| < eps prec * |toQ u * toQ v| := by
  have a := hu.mant hu0
  have b := hv.mant hv0
  rw [toQ_qv u, toQ_qv v, mul_mul_mul_comm]
  exact (mul_cut prec u v hu hv hp hu0 hv0).2.err_of_operands hp
    (by rcases sg_cases u with a | a <;> rcases sg_cases v with b | b <;> rw [a, b] <;> norm_num)
    (a.qv_pos _) (b.qv_pos _) (qv_top_bound _ _ _ hu.limbs).1 (qv_top_bound _ _ _ hv.limbs).1
    (qv_nonneg _ _) (qv_nonneg _ _) (a.top_loss hp _) (b.top_loss hp _)

theorem mul_exact (prec : Nat) (u v : F) (hu : OpWF u) (hv : OpWF v) (hp : 1 ≤ prec)
    (hu0 : u.size ≠ 0) (hv0 : v.size ≠ 0)
    (fu : Fits (toQ u) (PREC_TO_BITS prec)) (fv : Fits (toQ v) (PREC_TO_BITS prec))
    (fe : Fits (toQ u * toQ v) (PREC_TO_BITS prec)) :
    toQ (mul prec u v) = toQ u * toQ v := by
  have c := (mul_cut prec u v hu hv hp hu0 hv0).2
  rw [toQ_qv u] at fu; rw [toQ_qv v] at fv; rw [toQ_qv u, toQ_qv v] at fe ⊢
  rw [(hu.mant hu0).qv_top_of_fits hp (le_refl _) u.exp (sg_cases u) fu,
    (hv.mant hv0).qv_top_of_fits hp (le_refl _) v.exp (sg_cases v) fv, ← mul_mul_mul_comm] at c
  exact (c.mono (Nat.le_succ _)).exact hp fe

/-! ### add of equal signs (add.c:66-175) -/

theorem addv_spec (x y : List Nat) (hx : Limbs x) (hy : Limbs y) (hlen : y.length ≤ x.length) :
    val (addv x y).1 + B ^ x.length * (addv x y).2 = val x + val y ∧ (addv x y).1.length = x.length ∧
    Limbs (addv x y).1 ∧ (addv x y).2 ≤ 1 := by
  unfold addv
  simp only
  have h1 := val_lt x hx
  have h2 : val y < B ^ x.length := lt_of_lt_of_le (val_lt y hy) (Nat.pow_le_pow_right B_pos hlen)
  refine ⟨?_, toLimbs_length _ _, Limbs_toLimbs _ _, ?_⟩
  · rw [val_toLimbs]; exact Nat.mod_add_div _ _
  · have : val x + val y < 2 * B ^ x.length := by omega
    have := (Nat.div_lt_iff_lt_mul (Bpow_pos x.length)).mpr this
    omega

theorem addLimbs_spec (up vp : List Nat) (ed : Nat) (hlu : Limbs up) (hlv : Limbs vp) :
    (addLimbs up vp ed).1.length = max up.length (vp.length + ed) ∧ Limbs (addLimbs up vp ed).1 ∧
    (addLimbs up vp ed).2 ≤ 1 ∧
    val (addLimbs up vp ed).1 + B ^ (max up.length (vp.length + ed)) * (addLimbs up vp ed).2 =
      val up * B ^ (max up.length (vp.length + ed) - up.length) +
      val vp * B ^ (max up.length (vp.length + ed) - ed - vp.length) := by
  unfold addLimbs
  simp only
  by_cases h1 : up.length > ed
  · rw [if_pos h1]
    by_cases h2 : vp.length + ed ≤ up.length
    · -- uuuu / v: the low limbs of u pass through
      rw [if_pos h2, show max up.length (vp.length + ed) = up.length by omega]
      have hdl : (up.drop (up.length - ed - vp.length)).length = ed + vp.length := by rw [List.length_drop]; omega
      obtain ⟨s1, s2, s3, s4⟩ := addv_spec (up.drop (up.length - ed - vp.length)) vp (Limbs_drop hlu _) hlv (by omega)
      generalize addv (up.drop (up.length - ed - vp.length)) vp = r at *
      obtain ⟨hi, cy⟩ := r
      simp only at s1 s2 s3 s4 ⊢
      have htl : (up.take (up.length - ed - vp.length)).length = up.length - ed - vp.length := by
        rw [List.length_take]; omega
      refine ⟨by rw [List.length_append, htl, s2, hdl]; omega, Limbs_append.mpr ⟨Limbs_take hlu _, s3⟩, s4, ?_⟩
      rw [hdl] at s1
      rw [val_append, htl, Nat.sub_self, pow_zero, mul_one, val_take_drop up (up.length - ed - vp.length) (by omega),
        show B ^ up.length = B ^ (up.length - ed - vp.length) * B ^ (ed + vp.length) by rw [← pow_add]; congr 1; omega,
        mul_assoc, add_assoc, ← mul_add, s1, mul_add, add_assoc, mul_comm (val vp)]
    · -- uuuu / vvvvv: the low limbs of v pass through
      rw [if_neg h2, show max up.length (vp.length + ed) = vp.length + ed by omega]
      obtain ⟨s1, s2, s3, s4⟩ := addv_spec up (vp.drop (vp.length + ed - up.length)) hlu (Limbs_drop hlv _)
        (by rw [List.length_drop]; omega)
      generalize addv up (vp.drop (vp.length + ed - up.length)) = r at *
      obtain ⟨hi, cy⟩ := r
      simp only at s1 s2 s3 s4 ⊢
      have htl : (vp.take (vp.length + ed - up.length)).length = vp.length + ed - up.length := by
        rw [List.length_take]; omega
      refine ⟨by rw [List.length_append, htl, s2]; omega, Limbs_append.mpr ⟨Limbs_take hlv _, s3⟩, s4, ?_⟩
      rw [val_append, htl, show vp.length + ed - ed - vp.length = 0 by omega, pow_zero, mul_one,
        val_take_drop vp (vp.length + ed - up.length) (by omega),
        show B ^ (vp.length + ed) = B ^ (vp.length + ed - up.length) * B ^ up.length by rw [← pow_add]; congr 1; omega,
        mul_assoc, add_assoc, ← mul_add, s1, mul_add, mul_comm (val up), add_left_comm]
  · -- uuuu / (gap) vv
    rw [if_neg h1, show max up.length (vp.length + ed) = vp.length + ed by omega]
    refine ⟨by simp; omega, Limbs_append.mpr ⟨Limbs_append.mpr ⟨hlv, Limbs_replicate_zero _⟩, hlu⟩, by omega, ?_⟩
    rw [val_append, val_append, val_replicate_zero]
    simp only [List.length_append, List.length_replicate, mul_zero, add_zero]
    rw [show vp.length + ed - ed - vp.length = 0 by omega, pow_zero, mul_one,
      show vp.length + (ed - up.length) = vp.length + ed - up.length by omega]
    ring

theorem qv_addLimbs (up vp : List Nat) (ed : ℕ) (e : ℤ) (hlu : Limbs up) (hlv : Limbs vp) :
    qv (if (addLimbs up vp ed).2 ≠ 0 then (addLimbs up vp ed).1 ++ [(addLimbs up vp ed).2] else (addLimbs up vp ed).1)
      (e + (addLimbs up vp ed).2) = qv up e + qv vp (e - ed) := by
  obtain ⟨s1, s2, s3, s4⟩ := addLimbs_spec up vp ed hlu hlv
  rw [qv_carry _ _ e s3, s1, s4, Nat.cast_add, add_mul]
  congr 1
  · rw [← qv_scaled up (max up.length (vp.length + ed) - up.length) e, Nat.add_sub_cancel' (le_max_left _ _)]
  · rw [← qv_scaled vp (max up.length (vp.length + ed) - ed - vp.length) (e - ed)]
    congr 2; omega

theorem carry_spec (tp : List Nat) (cy : ℕ) (hcy : cy ≤ 1) (hl : Limbs tp) (hne : tp ≠ [])
    (hge : B ^ (tp.length - 1) ≤ val tp + B ^ tp.length * cy) :
    Mant (if cy ≠ 0 then tp ++ [cy] else tp) ∧ (if cy ≠ 0 then tp ++ [cy] else tp).length = tp.length + cy := by
  by_cases hc : cy ≠ 0
  · simp only [if_pos hc]
    refine ⟨⟨Limbs_append.mpr ⟨hl, Limbs_singleton (lt_of_le_of_lt hcy one_lt_B)⟩, by simp, normalized_snoc.mpr hc⟩, ?_⟩
    rw [List.length_append, List.length_singleton]; omega
  · have hc0 : cy = 0 := not_not.mp hc
    simp only [if_neg hc]
    rw [hc0, mul_zero, add_zero] at hge
    exact ⟨Mant.of_val_ge hl hne hge, by omega⟩

theorem selV_eq (prec : Nat) (vd : List Nat) (ediff : ℤ) :
    selV prec vd ediff = vd.drop ((vd.length : ℤ) + ediff - prec).toNat := by
  unfold selV
  by_cases h : (vd.length : ℤ) + ediff > prec
  · rw [if_pos h]
  · rw [if_neg h, show ((vd.length : ℤ) + ediff - prec).toNat = 0 by omega]; rfl

theorem qv_selV_bound (prec : ℕ) (vd : List Nat) (ediff vexp : ℤ) (hl : Limbs vd) :
    qv (selV prec vd ediff) vexp ≤ qv vd vexp ∧
    qv vd vexp - qv (selV prec vd ediff) vexp < (B : ℚ) ^ (vexp + ediff - (prec : ℤ)) := by
  rw [selV_eq]
  rcases le_or_gt 0 ((vd.length : ℤ) + ediff - prec) with h | h
  · have := qv_drop_bound vd vexp ((vd.length : ℤ) + ediff - prec).toNat hl
    rwa [show vexp - (vd.length : ℤ) + ((((vd.length : ℤ) + ediff - prec).toNat : ℕ) : ℤ) = vexp + ediff - (prec : ℤ) by
      omega] at this
  · rw [show ((vd.length : ℤ) + ediff - prec).toNat = 0 by omega, List.drop_zero, sub_self]
    exact ⟨le_refl _, Bz_pos _⟩

theorem isMul_selV (prec1 : ℕ) (vd : List Nat) (ediff vexp : ℤ) :
    IsMul (qv (selV prec1 vd ediff) vexp) (vexp + ediff - (prec1 : ℤ)) := by
  rw [selV_eq]
  rcases le_or_gt (prec1 : ℤ) ediff with h | h
  · rw [List.drop_eq_nil_of_le (by omega), qv_nil]; exact ⟨0, by simp⟩
  · have := qv_isMul (vd.drop ((vd.length : ℤ) + ediff - prec1).toNat) vexp ((prec1 : ℤ) - ediff).toNat
      (by rw [List.length_drop]; omega)
    rwa [show vexp - ((((prec1 : ℤ) - ediff).toNat : ℕ) : ℤ) = vexp + ediff - (prec1 : ℤ) by omega] at this

/-- add.c:87-169 -/
theorem addMag_spec (prec : ℕ) (hp : 1 ≤ prec) (ud vd : List Nat) (uexp vexp : ℤ)
    (hu : Mant ud) (hlv : Limbs vd) (hexp : vexp ≤ uexp) :
    Mant (addMag prec ud uexp vd vexp).1 ∧ (addMag prec ud uexp vd vexp).1.length ≤ prec + 1 ∧
    qv (addMag prec ud uexp vd vexp).1 (addMag prec ud uexp vd vexp).2
      = qv (top prec ud) uexp + qv (selV prec vd (uexp - vexp)) vexp := by
  have t := hu.top hp
  have t4 := top_length prec ud
  unfold addMag
  simp only
  by_cases hbig : uexp - vexp ≥ (prec : ℤ)
  · -- V entirely below the precision window
    rw [if_pos hbig, selV_eq, List.drop_eq_nil_of_le (by omega), qv_nil, add_zero]
    exact ⟨t, by rw [t4]; omega, rfl⟩
  · rw [if_neg hbig]
    obtain ⟨ed, hed⟩ : ∃ ed : ℕ, uexp - vexp = (ed : ℤ) := ⟨(uexp - vexp).toNat, by omega⟩
    have hvl : (selV prec vd (uexp - vexp)).length + ed ≤ prec := by
      rw [selV_eq, List.length_drop]; omega
    have hlv' : Limbs (selV prec vd (uexp - vexp)) := by rw [selV_eq]; exact Limbs_drop hlv _
    rw [show (uexp - vexp).toNat = ed by omega]
    generalize selV prec vd (uexp - vexp) = vp at *
    have hq := qv_addLimbs (top prec ud) vp ed uexp t.limbs hlv'
    rw [show uexp - (ed : ℤ) = vexp by omega] at hq
    obtain ⟨s1, s2, s3, s4⟩ := addLimbs_spec (top prec ud) vp ed t.limbs hlv'
    generalize addLimbs (top prec ud) vp ed = r at *
    obtain ⟨tp, cy⟩ := r
    simp only at s1 s2 s3 s4 hq ⊢
    have hapos := t.length_pos
    have hge : B ^ (tp.length - 1) ≤ val tp + B ^ tp.length * cy := by
      rw [s1, s4, show max (top prec ud).length (vp.length + ed) - 1
        = ((top prec ud).length - 1) + (max (top prec ud).length (vp.length + ed) - (top prec ud).length) by omega, pow_add]
      exact le_trans (Nat.mul_le_mul_right _ t.val_ge) (Nat.le_add_right _ _)
    obtain ⟨r1, r4⟩ := carry_spec tp cy s3 s2 (by intro h; rw [h] at s1; simp at s1; omega) hge
    exact ⟨r1, by rw [r4, s1, t4]; omega, hq⟩

/-- two cuts of less than `B^(uexp−prec)` each: U to `prec` limbs, V to the window -/
theorem addMag_ok (prec : ℕ) (hp : 1 ≤ prec) (ud vd : List Nat) (uexp vexp : ℤ)
    (hu : Mant ud) (hlv : Limbs vd) (hexp : vexp ≤ uexp) :
    |qv (addMag prec ud uexp vd vexp).1 (addMag prec ud uexp vd vexp).2 - (qv ud uexp + qv vd vexp)|
      < eps prec * |qv ud uexp + qv vd vexp| := by
  obtain ⟨_, _, hq⟩ := addMag_spec prec hp ud vd uexp vexp hu hlv hexp
  obtain ⟨a1, a2⟩ := qv_top_bound prec ud uexp hu.limbs
  obtain ⟨b1, b2⟩ := qv_selV_bound prec vd (uexp - vexp) vexp hlv
  rw [show vexp + (uexp - vexp) - (prec : ℤ) = uexp - (prec : ℤ) by ring] at b2
  have hX := hu.qv_ge uexp
  have hY := qv_nonneg vd vexp
  rw [hq]
  refine rel_err_of_ulp (W := uexp - (prec : ℤ)) hp ?_ ?_
  · rw [abs_sub_comm, abs_of_nonneg (by linarith)]; linarith
  · rw [abs_of_nonneg (by linarith [Bz_pos (uexp - 1)]), show uexp - (prec : ℤ) + ((prec : ℤ) - 1) = uexp - 1 by ring]
    linarith [Bz_pos (uexp - 1)]

theorem addMag_cut (prec : ℕ) (hp : 1 ≤ prec) (ud vd : List Nat) (uexp vexp : ℤ)
    (hu : Mant ud) (hlv : Limbs vd) (hexp : vexp ≤ uexp) (htop : qv (top prec ud) uexp = qv ud uexp) :
    Cut prec (qv ud uexp + qv vd vexp) (qv (addMag prec ud uexp vd vexp).1 (addMag prec ud uexp vd vexp).2) := by
  obtain ⟨_, _, hq⟩ := addMag_spec prec hp ud vd uexp vexp hu hlv hexp
  obtain ⟨b1, b2⟩ := qv_selV_bound prec vd (uexp - vexp) vexp hlv
  have hW : vexp + (uexp - vexp) - (prec : ℤ) = uexp - (prec : ℤ) := by ring
  have m2 := isMul_selV prec vd (uexp - vexp) vexp
  rw [hW] at b2 m2
  have hX := hu.qv_ge uexp
  have hY := qv_nonneg vd vexp
  rw [hq]
  refine Or.inr ⟨uexp - (prec : ℤ), (qv_isMul _ _ _ (by rw [top_length]; omega)).add m2, ?_, ?_⟩
  · rw [htop, abs_sub_comm, abs_of_nonneg (by linarith)]; linarith
  · rw [abs_of_nonneg (by linarith [Bz_pos (uexp - 1)]), show uexp - (prec : ℤ) + (prec : ℤ) - 1 = uexp - 1 by ring]
    linarith [Bz_pos (uexp - 1)]

/-- add.c:66-175 -/
theorem addSame_ok (prec : ℕ) (hp : 1 ≤ prec) (u v : F) (hu : OpWF u) (hv : OpWF v)
    (hu0 : u.size ≠ 0) (hv0 : v.size ≠ 0) (hs : (u.size < 0) ↔ (v.size < 0)) :
    WF (addSame prec u v) ∧
    |toQ (addSame prec u v) - (toQ u + toQ v)| < eps prec * |toQ u + toQ v| ∧
    (Fits (toQ u) (PREC_TO_BITS prec) → Fits (toQ v) (PREC_TO_BITS prec) → Fits (toQ u + toQ v) (PREC_TO_BITS prec) →
      toQ (addSame prec u v) = toQ u + toQ v) := by
  have hE : toQ u + toQ v = sg u * (qv u.d u.exp + qv v.d v.exp) := by
    rw [toQ_qv u, toQ_qv v, sg_eq_of_iff hs, mul_add]
  -- the same for both orders of the exponents: `x` the operand with the larger one
  have key : ∀ x y : F, OpWF x → OpWF y → x.size ≠ 0 → y.exp ≤ x.exp →
      qv u.d u.exp + qv v.d v.exp = qv x.d x.exp + qv y.d y.exp →
      (Fits (toQ u) (PREC_TO_BITS prec) → Fits (toQ v) (PREC_TO_BITS prec) → Fits (toQ x) (PREC_TO_BITS prec)) →
      ∀ r : F, r = ⟨prec, if u.size < 0 then -((addMag prec x.d x.exp y.d y.exp).1.length : ℤ)
          else (addMag prec x.d x.exp y.d y.exp).1.length, (addMag prec x.d x.exp y.d y.exp).2,
          (addMag prec x.d x.exp y.d y.exp).1⟩ →
      WF r ∧ |toQ r - (toQ u + toQ v)| < eps prec * |toQ u + toQ v| ∧
      (Fits (toQ u) (PREC_TO_BITS prec) → Fits (toQ v) (PREC_TO_BITS prec) →
        Fits (toQ u + toQ v) (PREC_TO_BITS prec) → toQ r = toQ u + toQ v) := by
    intro x y hx hy hx0 hexp hxy hfx r hr
    have mx := hx.mant hx0
    obtain ⟨w, w4, _⟩ := addMag_spec prec hp x.d y.d x.exp y.exp mx hy.limbs hexp
    have q1 := addMag_ok prec hp x.d y.d x.exp y.exp mx hy.limbs hexp
    have hq : toQ r = sg u * qv (addMag prec x.d x.exp y.d y.exp).1 (addMag prec x.d x.exp y.d y.exp).2 := by
      rw [hr, toQ_mk_neg, mul_assoc]; rfl
    rw [hq, hE, hxy, hr]
    refine ⟨w.wf_mk_neg w4 _ _, ?_, fun fu fv fe => ?_⟩
    · rw [← mul_sub, abs_mul, abs_mul, abs_sg, one_mul, one_mul]; exact q1
    · have fx := hfx fu fv
      rw [toQ_qv] at fx
      exact ((addMag_cut prec hp x.d y.d x.exp y.exp mx hy.limbs hexp
        (mx.qv_top_of_fits hp (le_refl _) x.exp (sg_cases x) fx)).smul (sg_cases u)).exact hp fe
  unfold addSame
  simp only
  by_cases hswap : u.exp < v.exp
  · rw [if_pos hswap]
    exact key v u hv hu hv0 (le_of_lt hswap) (add_comm _ _) (fun _ fv => fv) _ rfl
  · rw [if_neg hswap]
    exact key u v hu hv hu0 (by omega) rfl (fun fu _ => fu) _ rfl

/-! ### div (div.c) and what reduces to it: div_ui, ui_div, set_q; set_z -/

/-- the common tail of div.c / set_q.c / ui_div.c: `q = ⌊N/D⌋` has prec or prec+1 limbs -/
theorem quot_cut (prec : ℕ) (hp : 1 ≤ prec) (neg : Bool) (N D : ℕ) (hD : 0 < D) (rexp : ℤ)
    (hlo : B ^ (prec - 1) ≤ N / D) (hhi : N / D < B ^ (prec + 1)) :
    WF (quotFinish prec neg (N / D) rexp) ∧
    Cut prec ((if neg then -1 else 1) * (((N : ℚ) / D) * (B : ℚ) ^ (rexp - ((prec : ℤ) + 1))))
      (toQ (quotFinish prec neg (N / D) rexp)) := by
  have hσ : (if neg = true then (-1 : ℚ) else 1) = 1 ∨ (if neg = true then (-1 : ℚ) else 1) = -1 := by
    cases neg <;> simp
  have key : WF (quotFinish prec neg (N / D) rexp) ∧ toQ (quotFinish prec neg (N / D) rexp)
      = (if neg then -1 else 1) * (((N / D : ℕ) : ℚ) * (B : ℚ) ^ (rexp - ((prec : ℤ) + 1))) := by
    obtain ⟨s1, s3, s4, s5⟩ := stripTop_spec prec (N / D) _ hhi hlo rfl
    unfold quotFinish
    simp only
    generalize (if topLimb (toLimbs (prec + 1) (N / D)) = 0 then 1 else 0) = z at *
    generalize (toLimbs (prec + 1) (N / D)).take (prec + 1 - z) = rd at *
    refine ⟨s1.wf_mk_neg (by omega) _ _, ?_⟩
    rw [toQ_mk_neg, s4, s3, mul_assoc]; congr 3; omega
  have hDq : (0 : ℚ) < D := by exact_mod_cast hD
  refine ⟨key.1, ?_⟩
  rw [key.2]
  refine (Cut.of_floor _ ?_ ?_ hlo hp).smul hσ
  · rw [le_div_iff₀ hDq]; exact_mod_cast Nat.div_mul_le_self N D
  · rw [div_lt_iff₀ hDq]; exact_mod_cast (Nat.div_lt_iff_lt_mul hD).mp (Nat.lt_succ_self (N / D))

/-- the dividend selection of div.c:92-103 in natural numbers -/
theorem div_core (prec : ℕ) (hp : 1 ≤ prec) (ud vd : List Nat) (hu : Mant ud) (hv : Mant vd)
    (chop zeros : ℕ) (hchop : chop = ud.length - (vd.length + prec)) (hzeros : zeros = (vd.length + prec) - ud.length) :
    (val (ud.drop chop) * B ^ zeros) / val vd = (val ud * B ^ zeros) / (B ^ chop * val vd) ∧
    0 < B ^ chop * val vd ∧
    B ^ (prec - 1) ≤ (val ud * B ^ zeros) / (B ^ chop * val vd) ∧
    (val ud * B ^ zeros) / (B ^ chop * val vd) < B ^ (prec + 1) := by
  have hV0 := hv.val_pos
  have hV1 := hv.val_lt
  have hV2 := hv.val_ge
  have hnvl := hv.length_pos
  have hsplit := val_split ud chop
  have hlo := val_take_lt hu.limbs chop
  have hdl : (ud.drop chop).length = ud.length - chop := List.length_drop
  have hd : Mant (ud.drop chop) := by
    have := hu.top (n := ud.length - chop) (by have := hu.length_pos; omega)
    unfold top at this
    rwa [show ud.length - (ud.length - chop) = chop by omega] at this
  have hT1 := hd.val_ge
  have hT2 := hd.val_lt
  have e1 : (val (ud.drop chop) * B ^ zeros) / val vd = (val ud * B ^ zeros) / (B ^ chop * val vd) := by
    rcases Nat.eq_zero_or_pos chop with h | h
    · rw [h]; simp
    · have hz : zeros = 0 := by omega
      rw [hz, pow_zero, mul_one, mul_one, ← Nat.div_div_eq_div_mul]
      congr 1
      rw [hsplit, Nat.add_mul_div_left _ _ (Bpow_pos chop), Nat.div_eq_of_lt hlo, zero_add]
  have hlen : (ud.drop chop).length + zeros = vd.length + prec := by have := hu.length_pos; rw [hdl]; omega
  have hq := div_size_bounds (N := val (ud.drop chop) * B ^ zeros) (D := val vd) (nl := vd.length + prec) (dl := vd.length)
    (by rw [← hlen, Nat.sub_add_comm hd.length_pos, pow_add]; exact Nat.mul_le_mul_right _ hT1)
    (by rw [← hlen, pow_add]; exact Nat.mul_lt_mul_of_pos_right hT2 (Bpow_pos _)) hV2 hV1 hnvl (Nat.le_add_right _ _)
  rw [Nat.add_sub_cancel_left, e1] at hq
  exact ⟨e1, Nat.mul_pos (Bpow_pos _) hV0, hq.2 (Nat.succ_le_succ hp), hq.1⟩

theorem div_cut (prec : ℕ) (hp : 1 ≤ prec) (u v : F) (hu : OpWF u) (hv : OpWF v)
    (hu0 : u.size ≠ 0) (hv0 : v.size ≠ 0) :
    ∃ r, div prec u v = .ok r ∧ WF r ∧ Cut prec (toQ u / toQ v) (toQ r) := by
  have mv := hv.mant hv0
  obtain ⟨c1, c2, c3, c4⟩ := div_core prec hp u.d v.d (hu.mant hu0) mv
    (u.d.length - (v.d.length + prec)) ((v.d.length + prec) - u.d.length) rfl rfl
  obtain ⟨q1, q2⟩ := quot_cut prec hp ((decide (u.size < 0)) != (decide (v.size < 0))) _ _ c2 (u.exp - v.exp + 1) c3 c4
  have hex : toQ u / toQ v =
      (if ((decide (u.size < 0)) != (decide (v.size < 0))) = true then (-1 : ℚ) else 1) *
        ((((val u.d * B ^ ((v.d.length + prec) - u.d.length) : ℕ) : ℚ)
          / ((B ^ (u.d.length - (v.d.length + prec)) * val v.d : ℕ) : ℚ))
        * (B : ℚ) ^ (u.exp - v.exp + 1 - ((prec : ℤ) + 1))) := by
    have hVq : (val v.d : ℚ) ≠ 0 := by exact_mod_cast (ne_of_gt mv.val_pos)
    have hsd : sg u / sg v = sg u * sg v := by rcases sg_cases v with h | h <;> rw [h] <;> ring
    have hpow : (B : ℚ) ^ ((v.d.length + prec) - u.d.length) * (B : ℚ) ^ (u.exp - v.exp + 1 - ((prec : ℤ) + 1))
        * (B : ℚ) ^ (v.exp - (v.d.length : ℤ))
        = (B : ℚ) ^ (u.exp - (u.d.length : ℤ)) * (B : ℚ) ^ (u.d.length - (v.d.length + prec)) := by
      rw [← zpow_natCast, ← zpow_natCast, ← zpow_add₀ Bq_ne, ← zpow_add₀ Bq_ne, ← zpow_add₀ Bq_ne]
      congr 1; omega
    rw [sg_mul, toQ_qv u, toQ_qv v, qv, qv, mul_div_mul_comm, hsd, div_mul_eq_mul_div]
    congr 1
    rw [div_eq_div_iff (mul_ne_zero hVq (ne_of_gt (Bz_pos _))) (by
      push_cast; exact mul_ne_zero (pow_ne_zero _ Bq_ne) hVq)]
    push_cast
    linear_combination (-(val u.d : ℚ) * (val v.d : ℚ)) * hpow
  refine ⟨_, ?_, q1, by rw [hex]; exact q2⟩
  unfold div
  rw [if_neg hv0, if_neg hu0]
  simp only
  rw [show (max (-(((prec + 1 : ℕ) : ℤ) - ((u.d.length : ℤ) - (v.d.length : ℤ) + 1))) 0).toNat
      = u.d.length - (v.d.length + prec) by omega,
    show (((prec + 1 : ℕ) : ℤ) - ((u.d.length : ℤ) - (v.d.length : ℤ) + 1)
      + ((u.d.length - (v.d.length + prec) : ℕ) : ℤ)).toNat = (v.d.length + prec) - u.d.length by omega, c1]

theorem div_spec (prec : ℕ) (hp : 1 ≤ prec) (u v : F) (hu : OpWF u) (hv : OpWF v)
    (hu0 : u.size ≠ 0) (hv0 : v.size ≠ 0) :
    ∃ r, div prec u v = .ok r ∧ WF r ∧
      |toQ r - toQ u / toQ v| < eps prec * |toQ u / toQ v| ∧
      (Fits (toQ u / toQ v) (PREC_TO_BITS prec) → toQ r = toQ u / toQ v) :=
  have ⟨r, h, w, c⟩ := div_cut prec hp u v hu hv hu0 hv0
  ⟨r, h, w, c.err hp (div_ne_zero (toQ_ne_zero hu hu0) (toQ_ne_zero hv hv0)), c.exact hp⟩


/-- a one-limb positive operand (how div_ui.c / ui_div.c / sub_ui.c view their `ui` argument) -/
def ofLimb (w : ℕ) : F := ⟨2, 1, 1, [w]⟩

theorem toQ_ofLimb (w : ℕ) : toQ (ofLimb w) = w := by simp [toQ, ofLimb, val]

theorem OpWF_ofLimb (w : ℕ) (h0 : w ≠ 0) (hB : w < B) : OpWF (ofLimb w) :=
  ⟨Limbs_singleton hB, rfl, by simpa [ofLimb] using h0, by simp [ofLimb]⟩

theorem div_ui_eq_div (prec : ℕ) (u : F) (w : ℕ) (h0 : w ≠ 0) : div_ui prec u w = div prec u (ofLimb w) := by
  unfold div_ui div ofLimb
  rw [if_neg h0, if_neg (by norm_num : (1 : ℤ) ≠ 0)]
  by_cases hu : u.size = 0
  · rw [if_pos hu, if_pos hu]
  · rw [if_neg hu, if_neg hu]
    simp only [List.length_cons, List.length_nil]
    have hneg : (decide (u.size < 0) != decide ((1 : ℤ) < 0)) = decide (u.size < 0) := by simp
    have hv : val [w] = w := by simp [val]
    have hchop : (max (-(((prec + 1 : ℕ) : ℤ) - ((u.d.length : ℤ) - ((0 + 1 : ℕ) : ℤ) + 1))) 0).toNat = u.d.length - (prec + 1) := by omega
    have hlen : (top (prec + 1) u.d).length = min (prec + 1) u.d.length := top_length _ _
    rw [hneg, hv, hchop]
    have hz : (((prec + 1 : ℕ) : ℤ) - ((u.d.length : ℤ) - ((0 + 1 : ℕ) : ℤ) + 1) + ((u.d.length - (prec + 1) : ℕ) : ℤ)).toNat
        = prec + 1 - (top (prec + 1) u.d).length := by rw [hlen]; omega
    rw [hz, show u.exp - 1 + 1 = u.exp by ring]
    rfl

theorem ui_div_eq_div (prec : ℕ) (w : ℕ) (v : F) (h0 : w ≠ 0) (hv : OpWF v) :
    ui_div prec w v = div prec (ofLimb w) v := by
  unfold ui_div div ofLimb
  by_cases hv0 : v.size = 0
  · rw [if_pos hv0, if_pos hv0]
  · rw [if_neg hv0, if_neg hv0, if_neg h0, if_neg (by norm_num : (1 : ℤ) ≠ 0)]
    simp only [List.length_cons, List.length_nil]
    have hnv : 0 < v.d.length := by rw [hv.len]; omega
    have hneg : (decide ((1 : ℤ) < 0) != decide (v.size < 0)) = decide (v.size < 0) := by simp
    have hchop : (max (-(((prec + 1 : ℕ) : ℤ) - (((0 + 1 : ℕ) : ℤ) - (v.d.length : ℤ) + 1))) 0).toNat = 0 := by omega
    rw [hneg, hchop]
    have hz : (((prec + 1 : ℕ) : ℤ) - (((0 + 1 : ℕ) : ℤ) - (v.d.length : ℤ) + 1) + ((0 : ℕ) : ℤ)).toNat = prec + v.d.length - 1 := by omega
    rw [hz]
    simp [val]


/-- the numerator / denominator of an mpq as mpf operands with exponent = limb count (integers) -/
def ofInt (z : ℤ) : F :=
  ⟨2, if z ≥ 0 then ((natLimbs z.natAbs).length : ℤ) else -((natLimbs z.natAbs).length : ℤ), (natLimbs z.natAbs).length, natLimbs z.natAbs⟩

theorem ofInt_size_ne {z : ℤ} (h : z ≠ 0) : (ofInt z).size ≠ 0 := by
  have := List.length_pos_of_ne_nil (mt natLimbs_eq_nil.mp (by omega : z.natAbs ≠ 0))
  unfold ofInt; dsimp only
  by_cases hz : z ≥ 0
  · rw [if_pos hz]; omega
  · rw [if_neg hz]; omega

theorem OpWF_ofInt (z : ℤ) : OpWF (ofInt z) := by
  refine ⟨Limbs_natLimbs _, ?_, normalized_natLimbs _, ?_⟩
  · unfold ofInt; dsimp only; by_cases hz : z ≥ 0 <;> simp [hz]
  · intro h
    unfold ofInt at h ⊢; dsimp only at h ⊢
    have : (natLimbs z.natAbs).length = 0 := by
      by_cases hz : z ≥ 0
      · rw [if_pos hz] at h; omega
      · rw [if_neg hz] at h; omega
    rw [this]; rfl

theorem toQ_ofInt (z : ℤ) : toQ (ofInt z) = z := by
  unfold ofInt
  rw [toQ_mk, val_natLimbs_eq, sub_self, zpow_zero, mul_one, Nat.cast_natAbs]
  by_cases hz : z ≥ 0
  · rw [if_pos hz, abs_of_nonneg hz]; simp
  · rw [if_neg hz, abs_of_neg (by omega)]; simp

theorem ofInt_size_neg (z : ℤ) : (ofInt z).size < 0 ↔ z < 0 := by
  unfold ofInt; dsimp only
  by_cases hz : z ≥ 0
  · rw [if_pos hz]; omega
  · have := List.length_pos_of_ne_nil (mt natLimbs_eq_nil.mp (by omega : z.natAbs ≠ 0))
    rw [if_neg hz]; omega

theorem set_z_eq_set (prec : ℕ) (z : ℤ) : set_z prec z = set prec (ofInt z) := by
  have hc : ((ofInt z).size ≥ 0) = (z ≥ 0) := propext (by have := ofInt_size_neg z; omega)
  unfold set_z set
  simp only [hc]
  rfl

theorem set_q_eq_div (prec : ℕ) (num : ℤ) (den : ℕ) (hn : num ≠ 0) (hd : den ≠ 0) :
    div prec (ofInt num) (ofInt den) = .ok (set_q prec num den) := by
  have hdn : (ofInt (den : ℤ)).size ≠ 0 := ofInt_size_ne (by omega)
  have hnn : (ofInt num).size ≠ 0 := ofInt_size_ne hn
  unfold div
  rw [if_neg hdn, if_neg hnn]
  unfold set_q
  rw [if_neg hn]
  have hden : val (natLimbs den) = den := val_natLimbs_eq den
  have hneg : (decide ((ofInt num).size < 0) != decide ((ofInt (den : ℤ)).size < 0)) = decide (num < 0) := by
    have h1 : ¬ (ofInt (den : ℤ)).size < 0 := by rw [ofInt_size_neg]; omega
    simp [h1, ofInt_size_neg num]
  rw [hneg]
  simp only [ofInt, Int.natAbs_natCast, hden]
  congr 1
  by_cases hz : (((prec + 1 : ℕ) : ℤ) - (((natLimbs num.natAbs).length : ℤ) - ((natLimbs den).length : ℤ) + 1)) > 0
  · rw [if_pos hz]
    have h1 : (max (-(((prec + 1 : ℕ) : ℤ) - (((natLimbs num.natAbs).length : ℤ) - ((natLimbs den).length : ℤ) + 1))) 0).toNat = 0 := by omega
    rw [h1]; simp
  · rw [if_neg hz]
    have h1 : (max (-(((prec + 1 : ℕ) : ℤ) - (((natLimbs num.natAbs).length : ℤ) - ((natLimbs den).length : ℤ) + 1))) 0).toNat
        = (-(((prec + 1 : ℕ) : ℤ) - (((natLimbs num.natAbs).length : ℤ) - ((natLimbs den).length : ℤ) + 1))).toNat := by omega
    rw [h1]
    have h2 : (((prec + 1 : ℕ) : ℤ) - (((natLimbs num.natAbs).length : ℤ) - ((natLimbs den).length : ℤ) + 1) +
        (((-(((prec + 1 : ℕ) : ℤ) - (((natLimbs num.natAbs).length : ℤ) - ((natLimbs den).length : ℤ) + 1))).toNat : ℕ) : ℤ)).toNat = 0 := by omega
    rw [h2]; simp


/-! ### sqrt (sqrt.c), sqrt_ui -/

/-- sqrt.c:79-99: `t`, the top `ts` limbs zero-padded to `ts`, is the integer part of the mantissa read with `ts`
    integer limbs -/
theorem sqrt_core (ts : ℕ) (hts : 1 ≤ ts) (ud : List Nat) (hu : Mant ud) :
    ((val (top ts ud) * B ^ (ts - (top ts ud).length) : ℕ) : ℚ) ≤ qv ud ts ∧
    qv ud ts < ((val (top ts ud) * B ^ (ts - (top ts ud).length) : ℕ) : ℚ) + 1 ∧
    B ^ (ts - 1) ≤ val (top ts ud) * B ^ (ts - (top ts ud).length) ∧
    val (top ts ud) * B ^ (ts - (top ts ud).length) < B ^ ts := by
  have t := hu.top hts
  have t4 := top_length ts ud
  obtain ⟨b1, b2⟩ := qv_top_bound ts ud ts hu.limbs
  have hq := qv_scaled (top ts ud) (ts - (top ts ud).length) ts
  rw [show (ts : ℤ) - (((top ts ud).length + (ts - (top ts ud).length) : ℕ) : ℤ) = 0 by omega, zpow_zero, mul_one] at hq
  rw [sub_self, zpow_zero] at b2
  have hl : 1 ≤ (top ts ud).length := t.length_pos
  refine ⟨by rw [hq]; exact b1, by rw [hq]; linarith, ?_, ?_⟩
  · rw [show ts - 1 = ((top ts ud).length - 1) + (ts - (top ts ud).length) by omega, pow_add]
    exact Nat.mul_le_mul_right _ t.val_ge
  · conv_rhs => rw [show ts = (top ts ud).length + (ts - (top ts ud).length) by omega, pow_add]
    exact Nat.mul_lt_mul_of_pos_right t.val_lt (Bpow_pos _)

theorem sqrt_spec (prec : ℕ) (hp : 1 ≤ prec) (u : F) (hu : OpWF u) (hpos : 0 < u.size) :
    ∃ r, sqrt prec u = .ok r ∧ WF r ∧ 0 < toQ r ∧ (toQ r) ^ 2 ≤ toQ u ∧
      toQ u < (toQ r * (1 + 1 / (B : ℚ) ^ (prec - 1))) ^ 2 ∧
      (∀ x : ℚ, 0 ≤ x → x ^ 2 = toQ u → Fits x (PREC_TO_BITS prec) → toQ r = x) := by
  obtain ⟨od, hod, hod2⟩ : ∃ od : ℕ, u.exp % 2 = (od : ℤ) ∧ od ≤ 1 := ⟨(u.exp % 2).toNat, by omega, by omega⟩
  obtain ⟨e, he⟩ : ∃ e : ℤ, u.exp + (od : ℤ) = 2 * e := ⟨(u.exp + od) / 2, by omega⟩
  obtain ⟨c1, c2, c3, c4⟩ := sqrt_core (2 * prec - od) (by omega) u.d (hu.mant (by omega))
  -- the model's result: s = ⌊√t⌋ with exponent e, i.e. s units of ulp = B^(e - prec)
  have hres : sqrt prec u = .ok ⟨prec, prec, e, toLimbs prec (Nat.sqrt
      (val (top (2 * prec - od) u.d) * B ^ (2 * prec - od - (top (2 * prec - od) u.d).length)))⟩ := by
    unfold sqrt
    rw [if_neg (by omega), if_neg (by omega)]
    simp only [hod, Int.toNat_natCast]
    rw [show (u.exp + (od : ℤ)) / 2 = e by omega]
  -- the operand is y·ulp² with t ≤ y < t + 1
  have huq : toQ u = qv u.d ((2 * prec - od : ℕ) : ℤ) * ((B : ℚ) ^ (e - (prec : ℤ))) ^ 2 := by
    rw [toQ_pos_qv u hpos, ← zpow_natCast ((B : ℚ) ^ (e - (prec : ℤ))) 2, ← zpow_mul, ← qv_shift]
    congr 1; push_cast; omega
  generalize val (top (2 * prec - od) u.d) * B ^ (2 * prec - od - (top (2 * prec - od) u.d).length) = t at *
  generalize qv u.d ((2 * prec - od : ℕ) : ℤ) = y at *
  have hs1 : Nat.sqrt t * Nat.sqrt t ≤ t := Nat.sqrt_le t
  have hs2 : t < (Nat.sqrt t + 1) * (Nat.sqrt t + 1) := Nat.lt_succ_sqrt t
  have hsl : B ^ (prec - 1) ≤ Nat.sqrt t := by
    rw [Nat.le_sqrt, ← pow_add]; exact le_trans (Nat.pow_le_pow_right B_pos (by omega)) c3
  have hsh : Nat.sqrt t < B ^ prec := by
    rw [Nat.sqrt_lt, ← pow_add]; exact lt_of_lt_of_le c4 (Nat.pow_le_pow_right B_pos (by omega))
  generalize Nat.sqrt t = s at *
  have hval : val (toLimbs prec s) = s := val_toLimbs_lt _ _ hsh
  have hlen := toLimbs_length prec s
  have hrq : toQ ⟨prec, prec, e, toLimbs prec s⟩ = (s : ℚ) * (B : ℚ) ^ (e - (prec : ℤ)) := by
    rw [toQ_pos_mk prec e _ _ (by rw [hlen])]; unfold qv; rw [hval, hlen]
  have hulp : (0 : ℚ) < (B : ℚ) ^ (e - (prec : ℤ)) := Bz_pos _
  have hulp2 := Bz_eq_two (e - (prec : ℤ))
  generalize (B : ℚ) ^ (e - (prec : ℤ)) = ulp at *
  have hQ : (0 : ℚ) < (B : ℚ) ^ (prec - 1) := pow_pos Bq_pos _
  have hsQ : (B : ℚ) ^ (prec - 1) ≤ (s : ℚ) := by exact_mod_cast hsl
  have hspos : (0 : ℚ) < (s : ℚ) := lt_of_lt_of_le hQ hsQ
  have h1 : (s : ℚ) ^ 2 ≤ y := by
    refine le_trans ?_ c1
    rw [sq]; exact_mod_cast hs1
  have h2 : y < ((s : ℚ) + 1) ^ 2 := by
    refine lt_of_lt_of_le c2 ?_
    rw [sq]; exact_mod_cast hs2
  refine ⟨_, hres, ?_, ?_, ?_, ?_, ?_⟩
  · exact (Mant.of_nat hp hsl hsh).wf_pos (by rw [hlen]; omega) e prec (by rw [hlen])
  · rw [hrq]; exact mul_pos hspos hulp
  · rw [hrq, huq, mul_pow]; exact mul_le_mul_of_nonneg_right h1 (sq_nonneg _)
  · rw [hrq, huq, mul_right_comm, mul_pow]
    refine mul_lt_mul_of_pos_right (lt_of_lt_of_le h2 (pow_le_pow_left₀ (by linarith) ?_ 2)) (pow_pos hulp 2)
    rw [mul_add, mul_one, mul_one_div, add_le_add_iff_left, le_div_iff₀ hQ, one_mul]; exact hsQ
  · intro x hx0 hxu hfit
    rw [hrq]
    -- x/ulp lies in [s, s+1) and is an integer, because x ≥ 2^p·ulp has a p-bit significand
    have hx1 : (s : ℚ) * ulp ≤ x := by
      refine (pow_le_pow_iff_left₀ (le_of_lt (mul_pos hspos hulp)) hx0 two_ne_zero).mp ?_
      rw [hxu, huq, mul_pow]; exact mul_le_mul_of_nonneg_right h1 (sq_nonneg _)
    have hx2 : x < ((s : ℚ) + 1) * ulp := by
      refine (pow_lt_pow_iff_left₀ hx0 (le_of_lt (mul_pos (by linarith) hulp)) two_ne_zero).mp ?_
      rw [hxu, huq, mul_pow]; exact mul_lt_mul_of_pos_right h2 (pow_pos hulp 2)
    have hsp : (2 : ℚ) ^ (PREC_TO_BITS prec : ℤ) ≤ (s : ℚ) := by
      rw [zpow_natCast]; refine le_trans (le_of_eq ?_) hsQ; exact_mod_cast (Bpow_eq_two_pow prec).symm
    obtain ⟨n, hn⟩ := hfit.mul_of_ge (c := 64 * (e - (prec : ℤ))) (by
      rw [zpow_add₀ two_ne_zero, ← hulp2, abs_of_nonneg hx0]
      linarith [mul_le_mul_of_nonneg_right hsp (le_of_lt hulp)])
    rw [← hulp2] at hn
    rw [hn] at hx1 hx2 ⊢
    have g1 : ((s : ℤ) : ℚ) ≤ (n : ℚ) := by exact_mod_cast le_of_mul_le_mul_right hx1 hulp
    have g2 : (n : ℚ) < ((s + 1 : ℤ) : ℚ) := by exact_mod_cast lt_of_mul_lt_mul_right hx2 (le_of_lt hulp)
    have : n = (s : ℤ) := by have := Int.cast_le.mp g1; have := Int.cast_lt.mp g2; omega
    rw [this]; norm_cast

theorem sqrt_ui_eq_sqrt (prec : ℕ) (hp : 1 ≤ prec) (w : ℕ) (h0 : w ≠ 0) :
    sqrt prec (ofLimb w) = .ok (sqrt_ui prec w) := by
  unfold sqrt sqrt_ui ofLimb
  rw [if_neg (by norm_num), if_neg (by norm_num), if_neg h0]
  have h1 : ((1 : ℤ) % 2).toNat = 1 := by decide
  have h2 : ((1 : ℤ) + 1 % 2) / 2 = 1 := by decide
  simp only [h1, h2]
  have h3 : top (2 * prec - 1) [w] = [w] := top_of_le (by simp; omega)
  rw [h3]
  simp only [val, List.length_cons, List.length_nil]
  congr 4

end Mpir.Mpf
