/- C20, mpf_class expressions: lemmas for Props/C20_mpf.lean (model: Mpir/Model/CxxF.lean). -/
import MpirProofs.Lemmas.Mpf
import MpirProofs.Lemmas.CxxCmp
import Mpir.Model.CxxF
namespace Mpir.CxxF
open Mpir Mpir.Cxx Mpir.Mpf

/-- an operand that fits a destination of `P` limbs (what the `r == u` shortcuts of the C need) -/
def Fit (P : Nat) (x : F) : Prop := OpWF x ∧ x.d.length ≤ P + 1
/-- a well-formed object of precision `P` -/
def Good (P : Nat) (x : F) : Prop := WF x ∧ x.prec = P

theorem Good.fit {P : Nat} {x : F} (h : Good P x) : Fit P x :=
  ⟨h.1.toOpWF, by have := h.1.2.2.1; rw [h.2, ← h.1.2.1] at this; exact this⟩
theorem Good.op {P : Nat} {x : F} (h : Good P x) : OpWF x := h.1.toOpWF

theorem size_of_fit {x : F} (h : OpWF x) : (if x.size ≥ 0 then (x.d.length : Int) else -(x.d.length : Int)) = x.size := by
  have := h.2.1; split <;> omega

theorem set_fit {P : Nat} {u : F} (h : Fit P u) : Mpf.set P u = {u with prec := P} := by
  unfold Mpf.set
  rw [top_of_le h.2]
  simp only [size_of_fit h.1]

theorem neg_flag {P : Nat} {u : F} (h : Fit P u) : Mpf.neg P true u = Mpf.neg P false u := by
  unfold Mpf.neg
  simp only [if_true, Bool.false_eq_true, if_false, top_of_le h.2]
  have := h.1.2.1
  congr 1; split <;> omega

theorem abs_flag {P : Nat} {u : F} (h : Fit P u) : Mpf.abs P true u = Mpf.abs P false u := by
  unfold Mpf.abs
  simp only [if_true, Bool.false_eq_true, if_false, top_of_le h.2]
  have := h.1.2.1
  congr 1; omega

theorem neg_flag' {P : Nat} {u : F} (b : Bool) (h : b = true → Fit P u) : Mpf.neg P b u = Mpf.neg P false u := by
  cases b with
  | false => rfl
  | true => exact neg_flag (h rfl)

theorem add_flag {P : Nat} {u v : F} (a b : Bool) (ha : a = true → Fit P u) (hb : b = true → Fit P v) :
    Mpf.add P a b u v = Mpf.add P false false u v := by
  unfold Mpf.add
  by_cases hu : u.size = 0
  · simp only [hu, if_true]
    cases b with
    | false => rfl
    | true => simp only [if_true, Bool.false_eq_true, if_false]; exact (set_fit (hb rfl)).symm
  · simp only [hu, if_false]
    by_cases hv : v.size = 0
    · simp only [hv, if_true]
      cases a with
      | false => rfl
      | true => simp only [if_true, Bool.false_eq_true, if_false]; exact (set_fit (ha rfl)).symm
    · simp only [hv, if_false]

theorem sub_flag {P : Nat} {u v : F} (a b : Bool) (ha : a = true → Fit P u) (hb : b = true → Fit P v) :
    Mpf.sub P a b u v = Mpf.sub P false false u v := by
  unfold Mpf.sub
  by_cases hu : u.size = 0
  · simp only [hu, if_true]; exact neg_flag' b hb
  · simp only [hu, if_false]
    by_cases hv : v.size = 0
    · simp only [hv, if_true]
      cases a with
      | false => rfl
      | true => simp only [if_true, Bool.false_eq_true, if_false]; exact (set_fit (ha rfl)).symm
    · simp only [hv, if_false]

theorem sub_ui_flag {P : Nat} {u : F} (a : Bool) (l : Nat) (ha : a = true → Fit P u) :
    sub_ui P a u l = sub_ui P false u l := by
  unfold sub_ui
  split
  · rfl
  · exact sub_flag a false ha (by simp)

theorem ui_sub_flag {P : Nat} {v : F} (b : Bool) (l : Nat) (hb : b = true → Fit P v) :
    ui_sub P b l v = ui_sub P false l v := by
  unfold ui_sub
  split
  · exact neg_flag' b hb
  · exact sub_flag false b (by simp) hb

theorem add_ui_flag {P : Nat} {u : F} (a : Bool) (l : Nat) (ha : a = true → Fit P u) :
    add_ui P a u l = add_ui P false u l := by
  cases a with
  | false => rfl
  | true =>
    have h := ha rfl
    unfold add_ui
    by_cases h0 : u.size = 0
    · simp only [h0, if_true]
    · simp only [h0, if_false]
      by_cases h1 : u.size < 0
      · simp only [h1, if_true]
      · simp only [h1, if_false, if_true, Bool.false_eq_true, top_of_le h.2]
        have hs : ((u.d.length : Nat) : Int) = u.size := by have := h.1.2.1; omega
        have e : ({u with prec := P} : F) = ⟨P, (u.d.length : Int), u.exp, u.d⟩ := by rw [hs]
        rw [e]

theorem prec_set (P : Nat) (u : F) : (Mpf.set P u).prec = P := rfl
theorem prec_zero (P : Nat) : (zero P).prec = P := rfl
theorem prec_neg (P : Nat) (a : Bool) (u : F) : (Mpf.neg P a u).prec = P := by unfold Mpf.neg; split <;> rfl
theorem prec_abs (P : Nat) (a : Bool) (u : F) : (Mpf.abs P a u).prec = P := by unfold Mpf.abs; split <;> rfl
theorem prec_trunc (P : Nat) (u : F) : (Mpf.trunc P u).prec = P := by unfold Mpf.trunc; split <;> rfl
theorem prec_cf (P : Nat) (u : F) (d : Int) : (ceilOrFloor P u d).prec = P := by
  unfold ceilOrFloor
  simp only [apply_ite F.prec, prec_zero, ite_self]
theorem prec_mul_2exp (P : Nat) (u : F) (e : Nat) : (mul_2exp P u e).prec = P := by
  unfold mul_2exp
  simp only [apply_ite F.prec, prec_zero, ite_self]
theorem prec_div_2exp (P : Nat) (u : F) (e : Nat) : (div_2exp P u e).prec = P := by
  unfold div_2exp
  simp only [apply_ite F.prec, prec_zero, ite_self]
theorem prec_subMag (P : Nat) (n : Bool) (u v : F) : (subMag P n u v).prec = P := Mpf.prec_subMag P n u v
theorem prec_addSame (P : Nat) (u v : F) : (addSame P u v).prec = P := by
  unfold addSame
  rcases (if u.exp < v.exp then addMag P v.d v.exp u.d u.exp else addMag P u.d u.exp v.d v.exp) with ⟨rd, e⟩
  rfl
theorem prec_add (P : Nat) (a b : Bool) (u v : F) : (Mpf.add P a b u v).prec = P := by
  unfold Mpf.add
  simp only [apply_ite F.prec, prec_subMag, prec_addSame, prec_set, ite_self]
theorem prec_sub (P : Nat) (a b : Bool) (u v : F) : (Mpf.sub P a b u v).prec = P := by
  unfold Mpf.sub
  simp only [apply_ite F.prec, prec_subMag, prec_addSame, prec_neg, prec_set, ite_self]
theorem prec_mul (P : Nat) (u v : F) : (Mpf.mul P u v).prec = P := by
  unfold Mpf.mul; dsimp only; split
  · rfl
  · rcases mulLimbs P (top P u.d) (top P v.d) with ⟨rp, adj⟩; rfl
theorem prec_mul_ui (P : Nat) (u : F) (l : Nat) : (mul_ui P u l).prec = P := by
  unfold mul_ui
  simp only [apply_ite F.prec, prec_zero, ite_self]
theorem prec_sub_ui (P : Nat) (a : Bool) (u : F) (l : Nat) : (sub_ui P a u l).prec = P := by
  unfold sub_ui; split
  · rfl
  · exact prec_sub _ _ _ _ _
theorem prec_ui_sub (P : Nat) (a : Bool) (u : F) (l : Nat) : (ui_sub P a l u).prec = P := by
  unfold ui_sub; split
  · exact prec_neg _ _ _
  · exact prec_sub _ _ _ _ _
theorem prec_set_ui (P l : Nat) : (set_ui P l).prec = P := by unfold set_ui; split <;> rfl
theorem prec_set_si (P : Nat) (l : Int) : (set_si P l).prec = P := by unfold set_si; split <;> rfl
theorem prec_add_ui (P : Nat) (a : Bool) (u : F) (l : Nat) : (add_ui P a u l).prec = P := by
  unfold add_ui
  simp only [apply_ite F.prec, prec_sub_ui, prec_set_ui, ite_self]
theorem prec_quot (P : Nat) (n : Bool) (q : Nat) (e : Int) : (quotFinish P n q e).prec = P := rfl
theorem prec_div (P : Nat) (u v r : F) (h : Mpf.div P u v = .ok r) : r.prec = P := by
  unfold Mpf.div at h; repeat' split at h
  all_goals first | (injection h with h; subst h; rfl) | cases h
theorem prec_div_ui (P : Nat) (u r : F) (l : Nat) (h : div_ui P u l = .ok r) : r.prec = P := by
  unfold div_ui at h; repeat' split at h
  all_goals first | (injection h with h; subst h; rfl) | cases h
theorem prec_ui_div (P : Nat) (u r : F) (l : Nat) (h : ui_div P l u = .ok r) : r.prec = P := by
  unfold ui_div at h; repeat' split at h
  all_goals first | (injection h with h; subst h; rfl) | cases h
theorem prec_sqrt (P : Nat) (u r : F) (h : Mpf.sqrt P u = .ok r) : r.prec = P := by
  unfold Mpf.sqrt at h; repeat' split at h
  all_goals first | (injection h with h; subst h; rfl) | cases h
theorem prec_set_z (P : Nat) (l : Int) : (set_z P l).prec = P := rfl
theorem prec_set_q (P : Nat) (n : Int) (d : Nat) : (set_q P n d).prec = P := by unfold set_q; split <;> rfl
theorem prec_set_d (P : Nat) (b : Nat) (r : F) (h : set_d P b = .ok r) : r.prec = P := by
  unfold set_d at h; dsimp only at h
  split at h
  · cases h
  · split at h
    · injection h with h; subst h; rfl
    · injection h with h; subst h; rfl

/-! ### mpf_set_d returns a proper operand for every finite double (denormals included) -/

theorem opwf2 (P : Nat) (s e : Int) (a b : Nat) (hs : s = 2 ∨ s = -2) (ha : a < B) (hb : b < B) (hb0 : b ≠ 0) :
    OpWF ⟨P, s, e, [a, b]⟩ := by
  refine ⟨?_, ?_, ?_, ?_⟩
  · intro x hx
    simp only [List.mem_cons, List.mem_nil_iff, or_false] at hx
    rcases hx with hx | hx <;> rw [hx] <;> assumption
  · simp only [List.length_cons, List.length_nil]; rcases hs with h | h <;> rw [h] <;> rfl
  · simp only [List.getLast?_cons_cons, List.getLast?_singleton, ne_eq, Option.some.injEq]; exact hb0
  · intro h; simp only at h; omega

theorem set_d_opwf (P bits : Nat) (r : F) (h : set_d P bits = .ok r) : OpWF r := by
  by_cases hf : bits / 2 ^ 52 % 2 ^ 11 = 0x7FF
  · unfold set_d at h; simp only [hf, if_true] at h; cases h
  by_cases hz : (bits / 2 ^ 52 % 2 ^ 11 = 0 ∧ bits % 2 ^ 52 = 0)
  · unfold set_d at h; simp only [if_neg hf, if_pos hz] at h
    injection h with h; subst h; exact (WF_zero P).toOpWF
  -- the mantissa limb has its top bit set after the denormal loop of extract-dbl.c:64-77
  obtain ⟨tp, ex, he, t1, t2, -⟩ := Mpq.extractDouble_spec _ _ (Nat.mod_lt bits (Nat.two_pow_pos 52)) hz
  rw [set_d_eq P bits hf hz, he] at h
  injection h with h; subst h
  have hB := B_pos
  exact opwf2 _ _ _ _ _ (by split <;> simp) (Nat.mod_lt _ hB) (Nat.div_lt_of_lt_mul t2)
    (Nat.ne_of_gt (Nat.div_pos t1 hB))

/-! ### every C function returns a well-formed object of precision `P` -/

theorem ui_lt_B {l : Nat} (h : UiRange l) : l < B := by unfold UiRange two64 at h; rw [B_eq]; omega

theorem good_zero (P : Nat) : Good P (Mpf.zero P) := ⟨WF_zero P, rfl⟩
theorem good_set {P : Nat} (hp : 2 ≤ P) {u : F} (hu : OpWF u) : Good P (Mpf.set P u) :=
  ⟨(set_spec P (by omega) u hu).1, rfl⟩
theorem good_neg {P : Nat} {u : F} (hu : OpWF u) : Good P (Mpf.neg P false u) :=
  ⟨neg_wf P false u hu (by simp), prec_neg _ _ _⟩
theorem good_neg_self {P : Nat} {u : F} (hu : Good P u) : Good P (Mpf.neg P true u) := by
  rw [neg_flag hu.fit]; exact good_neg hu.op
theorem good_abs {P : Nat} {u : F} (hu : OpWF u) : Good P (Mpf.abs P false u) :=
  ⟨abs_wf P false u hu (by simp), prec_abs _ _ _⟩
theorem good_floor {P : Nat} {u : F} (hu : OpWF u) : Good P (Mpf.floor P u) :=
  ⟨floor_wf P u hu, prec_cf _ _ _⟩
theorem good_ceil {P : Nat} {u : F} (hu : OpWF u) : Good P (Mpf.ceil P u) :=
  ⟨ceil_wf P u hu, prec_cf _ _ _⟩
theorem good_trunc {P : Nat} {u : F} (hu : OpWF u) : Good P (Mpf.trunc P u) :=
  ⟨trunc_wf P u hu, prec_trunc _ _⟩
theorem good_mul_2exp {P : Nat} (hp : 2 ≤ P) {u : F} (hu : OpWF u) (e : Nat) : Good P (mul_2exp P u e) :=
  ⟨mul_2exp_wf P (by omega) u e hu, prec_mul_2exp _ _ _⟩
theorem good_div_2exp {P : Nat} (hp : 2 ≤ P) {u : F} (hu : OpWF u) (e : Nat) : Good P (div_2exp P u e) :=
  ⟨div_2exp_wf P (by omega) u e hu, prec_div_2exp _ _ _⟩
theorem good_sqrt {P : Nat} (hp : 2 ≤ P) {u r : F} (hu : OpWF u) (h : Mpf.sqrt P u = .ok r) : Good P r := by
  refine ⟨?_, prec_sqrt P u r h⟩
  by_cases h0 : u.size < 0
  · rw [(sqrt_neg_zero P u).1 h0] at h; cases h
  by_cases h1 : u.size = 0
  · rw [(sqrt_neg_zero P u).2 h1] at h; injection h with h; subst h; exact WF_zero P
  obtain ⟨r', e1, w, _⟩ := sqrt_spec P (by omega) u hu (by omega)
  rw [e1] at h; injection h with h; subst h; exact w
theorem good_add {P : Nat} (hp : 2 ≤ P) {u v : F} (hu : OpWF u) (hv : OpWF v) : Good P (Mpf.add P false false u v) :=
  ⟨((add_spec P hp u v hu hv false false).1 (by simp) (by simp)).1, prec_add _ _ _ _ _⟩
theorem good_sub {P : Nat} (hp : 2 ≤ P) {u v : F} (hu : OpWF u) (hv : OpWF v) : Good P (Mpf.sub P false false u v) :=
  ⟨((sub_spec P hp u v hu hv false false).1 (by simp) (by simp)).1, prec_sub _ _ _ _ _⟩
theorem good_mul {P : Nat} (hp : 2 ≤ P) {u v : F} (hu : OpWF u) (hv : OpWF v) : Good P (Mpf.mul P u v) :=
  ⟨mul_wf P u v hu hv (by omega), prec_mul _ _ _⟩
theorem good_div {P : Nat} (hp : 2 ≤ P) {u v r : F} (hu : OpWF u) (hv : OpWF v) (h : Mpf.div P u v = .ok r) : Good P r := by
  refine ⟨?_, prec_div P u v r h⟩
  by_cases h0 : v.size = 0
  · rw [(div_zero P u v).1 h0] at h; cases h
  by_cases h1 : u.size = 0
  · rw [(div_zero P u v).2 h0 h1] at h; injection h with h; subst h; exact WF_zero P
  obtain ⟨r', e1, w, _⟩ := div_spec P (by omega) u v hu hv h1 h0
  rw [e1] at h; injection h with h; subst h; exact w
theorem good_div_ui {P : Nat} (hp : 2 ≤ P) {u r : F} {l : Nat} (hu : OpWF u) (hl : l < B) (h : div_ui P u l = .ok r) : Good P r := by
  refine ⟨?_, prec_div_ui P u r l h⟩
  by_cases h0 : l = 0
  · unfold div_ui at h; rw [if_pos h0] at h; cases h
  by_cases h1 : u.size = 0
  · unfold div_ui at h; rw [if_neg h0, if_pos h1] at h; injection h with h; subst h; exact WF_zero P
  obtain ⟨r', e1, w, _⟩ := div_ui_spec P (by omega) u l hu h1 h0 hl
  rw [e1] at h; injection h with h; subst h; exact w
theorem good_ui_div {P : Nat} (hp : 2 ≤ P) {u r : F} {l : Nat} (hu : OpWF u) (hl : l < B) (h : ui_div P l u = .ok r) : Good P r := by
  refine ⟨?_, prec_ui_div P u r l h⟩
  by_cases h0 : u.size = 0
  · unfold ui_div at h; rw [if_pos h0] at h; cases h
  by_cases h1 : l = 0
  · unfold ui_div at h; rw [if_neg h0, if_pos h1] at h; injection h with h; subst h; exact WF_zero P
  obtain ⟨r', e1, w, _⟩ := ui_div_spec P (by omega) l u hu h0 h1 hl
  rw [e1] at h; injection h with h; subst h; exact w
theorem good_add_ui {P : Nat} (hp : 2 ≤ P) {u : F} {l : Nat} (hu : OpWF u) (hl : l < B) : Good P (add_ui P false u l) :=
  ⟨(add_ui_accurate P hp u l hu hl false (by simp)).1, prec_add_ui _ _ _ _⟩
theorem good_sub_ui {P : Nat} (hp : 2 ≤ P) {u : F} {l : Nat} (hu : OpWF u) (hl : l < B) : Good P (sub_ui P false u l) :=
  ⟨(sub_ui_accurate P hp u l hu hl false (by simp)).1, prec_sub_ui _ _ _ _⟩
theorem good_ui_sub {P : Nat} (hp : 2 ≤ P) {u : F} {l : Nat} (hu : OpWF u) (hl : l < B) : Good P (ui_sub P false l u) :=
  ⟨(ui_sub_accurate P hp l u hu hl false (by simp)).1, prec_ui_sub _ _ _ _⟩
theorem good_mul_ui {P : Nat} (hp : 2 ≤ P) {u : F} {l : Nat} (hu : OpWF u) (hl : l < B) : Good P (mul_ui P u l) :=
  ⟨(mul_ui_spec P (by omega) u l hu hl).1.1, prec_mul_ui _ _ _⟩
theorem good_set_ui {P : Nat} {l : Nat} (hl : l < B) : Good P (set_ui P l) := ⟨(set_ui_exact' P l hl).2, prec_set_ui _ _⟩
theorem good_set_si {P : Nat} {l : Int} (hl : l.natAbs < B) : Good P (set_si P l) := ⟨(set_si_spec P l hl).2, prec_set_si _ _⟩
theorem good_set_z {P : Nat} (hp : 2 ≤ P) (z : Int) : Good P (set_z P z) := ⟨(set_z_spec' P z (by omega)).1, rfl⟩
theorem good_set_q {P : Nat} (hp : 2 ≤ P) (n : Int) (d : Nat) (hd : d ≠ 0) : Good P (set_q P n d) := by
  refine ⟨?_, prec_set_q _ _ _⟩
  by_cases hn : n = 0
  · unfold set_q; rw [if_pos hn]; exact WF_zero P
  · exact (set_q_spec P (by omega) n d hn hd).1

/-! ### the function objects return well-formed objects of the destination's precision -/

/-- what a function object may be handed: a proper mpf operand or a built-in in range -/
def VOK : FVal → Prop
  | .f x => OpWF x
  | .bi c => c.ok = true

theorem ok_some {r : Mpf.Res} {x : F} (h : ok r = some x) : r = .ok x := by
  cases r <;> simp [ok] at h; subst h; rfl

theorem dTemp_opwf {d : Nat} {t : F} (h : dTemp d = some t) : OpWF t := set_d_opwf _ _ _ (ok_some h)

/-- `p` holds of the result, if there is one -/
def OnSome {α : Type} (p : α → Prop) (o : Option α) : Prop := ∀ x, o = some x → p x

theorem OnSome.of {α : Type} {p : α → Prop} {x : α} (h : p x) : OnSome p (some x) := by
  intro y e; cases e; exact h
theorem OnSome.map {α β : Type} {p : α → Prop} {o : Option β} {f : β → α} (h : ∀ t, o = some t → p (f t)) :
    OnSome p (o.map f) := by
  intro y e; cases o with
  | none => cases e
  | some t => cases e; exact h t rfl
theorem OnSome.bind {α β : Type} {p : α → Prop} {o : Option β} {f : β → Option α} (h : ∀ t, o = some t → OnSome p (f t)) :
    OnSome p (o.bind f) := by
  intro y e; cases o with
  | none => cases e
  | some t => exact h t rfl y e
theorem OnSome.ok {p : F → Prop} {r : Mpf.Res} (h : ∀ x, r = .ok x → p x) : OnSome p (ok r) :=
  fun x e => h x (ok_some e)
theorem OnSome.ite {α : Type} {p : α → Prop} {c : Prop} [Decidable c] {a b : Option α} (ha : c → OnSome p a)
    (hb : ¬ c → OnSome p b) : OnSome p (if c then a else b) := by
  split
  · exact ha ‹_›
  · exact hb ‹_›

theorem fnUnV_good {P : Nat} (hp : 2 ≤ P) (o : FUn) {g : F} (hg : OpWF g) : OnSome (Good P) (fnUnV P o false g) := by
  cases o <;> simp only [fnUnV]
  · exact .of (good_set hp hg)
  · exact .of (good_neg hg)
  · exact .of (good_abs hg)
  · exact .ok fun r h => good_sqrt hp hg h
  · exact .of (good_trunc hg)
  · exact .of (good_floor hg)
  · exact .of (good_ceil hg)

theorem fnShV_good {P : Nat} (hp : 2 ≤ P) (o : Sh) {g : F} (hg : OpWF g) (n : Nat) : Good P (fnShV P o g n) := by
  cases o
  · exact good_mul_2exp hp hg n
  · exact good_div_2exp hp hg n

theorem tp_eq {P : Nat} (hp : 2 ≤ P) : tp P = P := by
  unfold tp BITS_TO_PREC PREC_TO_BITS; omega

theorem hypotTail_good {P : Nat} (hp : 2 ≤ P) {t f0 : F} (sq : Bool) (ht : OpWF t)
    (h0 : if sq then OpWF f0 else Good P f0) : OnSome (Good P) (hypotTail P t f0 sq) := by
  intro r h
  unfold hypotTail at h
  have g1 : Good P (if sq = true then Mpf.mul P f0 f0 else f0) := by
    cases sq
    · simpa using h0
    · simp only [if_true] at h0 ⊢; exact good_mul hp h0 h0
  simp only at h
  rw [add_flag true false (fun _ => g1.fit) (by simp)] at h
  exact good_sqrt hp (good_add hp g1.op ht).op (ok_some h)

theorem si_natAbs {l : Int} (h : SiRange l) : l.natAbs < B := by
  unfold SiRange LONG_MIN LONG_MAX at h; rw [B_eq]; omega

theorem fnBinV_good {P : Nat} (hp : 2 ≤ P) (o : FBin) {a b : FVal} (ha : VOK a) (hb : VOK b) :
    OnSome (Good P) (fnBinV P o false false a b) := by
  have htp := tp_eq hp
  -- the operand squared at the working precision, and the second operand of hypot made from a built-in
  have hsq : ∀ {g : F}, OpWF g → OpWF (Mpf.mul (tp P) g g) := fun hg => by rw [htp]; exact (good_mul hp hg hg).op
  -- a signed long goes through the `ui` function of its magnitude
  have hsi : ∀ {l : Int}, SiRange l → (0 ≤ l → toUi l < B) ∧ (l < 0 → negUi l < B) := fun hr =>
    ⟨fun h0 => ui_lt_B (toUi_range hr h0), fun h0 => ui_lt_B (negUi_range hr h0)⟩
  cases a with
  | f g =>
    cases b with
    | f k =>
      cases o <;> simp only [fnBinV]
      · exact .of (good_add hp ha hb)
      · exact .of (good_sub hp ha hb)
      · exact .of (good_mul hp ha hb)
      · exact .ok fun r h => good_div hp ha hb h
      · exact hypotTail_good hp false (hsq ha) (by simpa using good_mul hp hb hb)
    | bi c =>
      cases c with
      | ui l =>
        have hl := ui_lt_B (bi_ok_ui hb)
        cases o <;> simp only [fnBinV]
        · exact .of (good_add_ui hp ha hl)
        · exact .of (good_sub_ui hp ha hl)
        · exact .of (good_mul_ui hp ha hl)
        · exact .ok fun r h => good_div_ui hp ha hl h
        · exact hypotTail_good hp true (hsq ha) (by simpa using (good_set_ui (P := P) hl).op)
      | si l =>
        obtain ⟨h1, h2⟩ := hsi (bi_ok_si hb)
        cases o <;> simp only [fnBinV]
        · refine .of ?_; split
          · exact good_add_ui hp ha (h1 (by omega))
          · exact good_sub_ui hp ha (h2 (by omega))
        · refine .of ?_; split
          · exact good_sub_ui hp ha (h1 (by omega))
          · exact good_add_ui hp ha (h2 (by omega))
        · refine .of ?_; split
          · exact good_mul_ui hp ha (h1 (by omega))
          · exact good_neg_self (good_mul_ui hp ha (h2 (by omega)))
        · exact .ite (fun h0 => .ok fun r h => good_div_ui hp ha (h1 h0) h)
            (fun h0 => .map fun q hq => good_neg_self (good_div_ui hp ha (h2 (by omega)) (ok_some hq)))
        · exact hypotTail_good hp true (hsq ha) (by simpa using (good_set_si (P := P) (si_natAbs (bi_ok_si hb))).op)
      | d d =>
        cases o <;> simp only [fnBinV]
        · exact .map fun t ht => good_add hp ha (dTemp_opwf ht)
        · exact .map fun t ht => good_sub hp ha (dTemp_opwf ht)
        · exact .map fun t ht => good_mul hp ha (dTemp_opwf ht)
        · exact .bind fun t ht => .ok fun r h => good_div hp ha (dTemp_opwf ht) h
        · exact .bind fun t ht => hypotTail_good hp true (hsq ha) (by simpa using set_d_opwf _ _ _ (ok_some ht))
  | bi c =>
    cases b with
    | bi c' => simp only [fnBinV]; exact fun _ e => nomatch e
    | f g =>
      cases c with
      | ui l =>
        have hl := ui_lt_B (bi_ok_ui ha)
        cases o <;> simp only [fnBinV]
        · exact .of (good_add_ui hp hb hl)
        · exact .of (good_ui_sub hp hb hl)
        · exact .of (good_mul_ui hp hb hl)
        · exact .ok fun r h => good_ui_div hp hb hl h
        · exact hypotTail_good hp true (hsq hb) (by simpa using (good_set_ui (P := P) hl).op)
      | si l =>
        obtain ⟨h1, h2⟩ := hsi (bi_ok_si ha)
        cases o <;> simp only [fnBinV]
        · refine .of ?_; split
          · exact good_add_ui hp hb (h1 (by omega))
          · exact good_sub_ui hp hb (h2 (by omega))
        · refine .of (good_neg_self ?_); split
          · exact good_sub_ui hp hb (h1 (by omega))
          · exact good_add_ui hp hb (h2 (by omega))
        · refine .of ?_; split
          · exact good_mul_ui hp hb (h1 (by omega))
          · exact good_neg_self (good_mul_ui hp hb (h2 (by omega)))
        · exact .ite (fun h0 => .ok fun r h => good_ui_div hp hb (h1 h0) h)
            (fun h0 => .map fun q hq => good_neg_self (good_ui_div hp hb (h2 (by omega)) (ok_some hq)))
        · exact hypotTail_good hp true (hsq hb) (by simpa using (good_set_si (P := P) (si_natAbs (bi_ok_si ha))).op)
      | d d =>
        cases o <;> simp only [fnBinV]
        · exact .map fun t ht => good_add hp hb (dTemp_opwf ht)
        · exact .map fun t ht => good_sub hp (dTemp_opwf ht) hb
        · exact .map fun t ht => good_mul hp hb (dTemp_opwf ht)
        · exact .bind fun t ht => .ok fun r h => good_div hp (dTemp_opwf ht) hb h
        · exact .bind fun t ht => hypotTail_good hp true (hsq hb) (by simpa using set_d_opwf _ _ _ (ok_some ht))

/-! ### the `r == u` shortcuts of the C functions do not matter for operands that fit the destination -/

theorem fnUnV_flag (P : Nat) (o : FUn) (a : Bool) (g : F) (h : a = true → Fit P g) :
    fnUnV P o a g = fnUnV P o false g := by
  cases a with
  | false => rfl
  | true => cases o <;> simp only [fnUnV, neg_flag (h rfl), abs_flag (h rfl)]

theorem fnBinV_flag (P : Nat) (o : FBin) (aP bP : Bool) (a b : FVal)
    (ha : aP = true → ∀ x, a = .f x → Fit P x) (hb : bP = true → ∀ x, b = .f x → Fit P x) :
    fnBinV P o aP bP a b = fnBinV P o false false a b := by
  cases a with
  | f g =>
    have ha' : aP = true → Fit P g := fun h => ha h g rfl
    cases b with
    | f k =>
      have hb' : bP = true → Fit P k := fun h => hb h k rfl
      cases o <;> simp only [fnBinV, add_flag aP bP ha' hb', sub_flag aP bP ha' hb']
    | bi c =>
      cases c <;> cases o <;>
        simp only [fnBinV, add_ui_flag aP _ ha', sub_ui_flag aP _ ha', add_flag aP false ha' (by simp), sub_flag aP false ha' (by simp)]
  | bi c =>
    cases b with
    | bi c' => cases c <;> cases c' <;> rfl
    | f g =>
      have hb' : bP = true → Fit P g := fun h => hb h g rfl
      cases c <;> cases o <;>
        simp only [fnBinV, add_ui_flag bP _ hb', sub_ui_flag bP _ hb', ui_sub_flag bP _ hb', add_flag bP false hb' (by simp),
          sub_flag false bP (by simp) hb']

/-! ### conversions of mpz/mpq operands; basic facts about `evalTmpF` -/

def zqOK (KZ : Nat) (zh : Heap) (e : E) : Prop := e.wt = true ∧ e.zbelow KZ ∧ e.qbelow KZ ∧ e.canon zh

theorem zqConv_correct (cst : Bool) (KZ : Nat) (zh : Heap) (P : Nat) (e : E) (h : zqOK KZ zh e) :
    zqConv cst KZ zh P e = (evalTmp zh.abs e).map (convF P) := by
  obtain ⟨hwt, hz, hq, hc⟩ := h
  unfold zqConv
  by_cases hty : e.ty = .z
  · rw [if_pos hty, evalTmp_z zh e hty hc]
    have H := bindZ_correct cst e hty hwt KZ zh hz
    show _ = ((evalTmpZ zh.get e).map Val.z).map (convF P)
    cases hr : evalTmpZ zh.get e with
    | none => rw [hr] at H; simp only at H; rw [H]; rfl
    | some x =>
      rw [hr] at H; obtain ⟨l, h', e1, hx, _, _⟩ := H
      rw [e1]; simp only [Option.map_some, convF, hx]
  · rw [if_neg hty]
    have H := bindQ_correct cst e hwt KZ zh hz hq hc
    unfold evalTmpR at H
    cases hr : evalTmp zh.abs e with
    | none => rw [hr] at H; simp only [Option.map_none] at H; rw [H]; rfl
    | some v =>
      obtain ⟨r, rfl⟩ := val_of_ty_q ((evalTmp_ty _ e v hr).trans (ty_q_of_ne_z hty))
      rw [hr] at H; simp only [Option.map_some, Val.toQ] at H
      obtain ⟨l, h', e1, hc', hx, _, _⟩ := H
      obtain ⟨n1, n2⟩ := qval_num_den hc'
      rw [e1]; simp only [Option.map_some, convF]
      rw [← n1, ← n2, hx]; simp

def FE.fbelow (k : Nat) : FE → Prop
  | .fv i => i < k
  | .zq _ => True
  | .un _ a => a.fbelow k
  | .bin _ a b => a.fbelow k ∧ b.fbelow k
  | .binL _ _ b => b.fbelow k
  | .binR _ a _ => a.fbelow k
  | .sh _ a _ => a.fbelow k

def FE.zqOK (KZ : Nat) (zh : Heap) : FE → Prop
  | .fv _ => True
  | .zq e => CxxF.zqOK KZ zh e
  | .un _ a => a.zqOK KZ zh
  | .bin _ a b => a.zqOK KZ zh ∧ b.zqOK KZ zh
  | .binL _ _ b => b.zqOK KZ zh
  | .binR _ a _ => a.zqOK KZ zh
  | .sh _ a _ => a.zqOK KZ zh

theorem FE.fbelow_mono {k k' : Nat} (hk : k ≤ k') : ∀ (e : FE), e.fbelow k → e.fbelow k' := by
  intro e
  induction e with
  | fv i => intro h; simp only [FE.fbelow] at *; omega
  | zq e => intro _; trivial
  | un o a ih => exact ih
  | bin o a b iha ihb => intro h; exact ⟨iha h.1, ihb h.2⟩
  | binL o c b ih => exact ih
  | binR o a c ih => exact ih
  | sh o a n ih => exact ih

theorem leaf?_some {a : FE} {i : Nat} (h : a.leaf? = some i) : a = .fv i := by
  cases a <;> simp [FE.leaf?] at h; subst h; rfl

/-- the value handed to a function object for operand `a` -/
def opv (P : Nat) (zenv : Env) (fenv : Nat → F) (a : FE) : Option F :=
  match a.leaf? with | some i => some (fenv i) | none => evalTmpF P zenv fenv a

theorem evalTmpF_un (P : Nat) (zenv : Env) (fenv : Nat → F) (o : FUn) (a : FE) :
    evalTmpF P zenv fenv (.un o a) = (opv P zenv fenv a).bind (fnUnV P o false) := rfl
theorem evalTmpF_bin (P : Nat) (zenv : Env) (fenv : Nat → F) (o : FBin) (a b : FE) :
    evalTmpF P zenv fenv (.bin o a b) = (opv P zenv fenv a).bind fun x => (opv P zenv fenv b).bind fun y =>
      fnBinV P o false false (.f x) (.f y) := rfl
theorem evalTmpF_binL (P : Nat) (zenv : Env) (fenv : Nat → F) (o : FBin) (c : Bi) (b : FE) :
    evalTmpF P zenv fenv (.binL o c b) = (opv P zenv fenv b).bind fun y => fnBinV P o false false (.bi c) (.f y) := rfl
theorem evalTmpF_binR (P : Nat) (zenv : Env) (fenv : Nat → F) (o : FBin) (a : FE) (c : Bi) :
    evalTmpF P zenv fenv (.binR o a c) = (opv P zenv fenv a).bind fun x => fnBinV P o false false (.f x) (.bi c) := rfl
theorem evalTmpF_sh (P : Nat) (zenv : Env) (fenv : Nat → F) (o : Sh) (a : FE) (n : Nat) :
    evalTmpF P zenv fenv (.sh o a n) = (opv P zenv fenv a).map fun x => fnShV P o x n := rfl

theorem evalTmpF_congr (P : Nat) (zenv : Env) {f1 f2 : Nat → F} {k : Nat} (hag : ∀ i, i < k → f1 i = f2 i) :
    ∀ (e : FE), e.fbelow k → evalTmpF P zenv f1 e = evalTmpF P zenv f2 e := by
  intro e
  have hop : ∀ a : FE, (a.fbelow k → evalTmpF P zenv f1 a = evalTmpF P zenv f2 a) → a.fbelow k →
      opv P zenv f1 a = opv P zenv f2 a := by
    intro a ih hb
    unfold opv
    cases hl : a.leaf? with
    | some i => have := leaf?_some hl; subst this; simp only; rw [hag i hb]
    | none => exact ih hb
  induction e with
  | fv i => intro h; simp only [evalTmpF]; rw [hag i h]
  | zq e => intro _; rfl
  | un o a ih => intro h; rw [evalTmpF_un, evalTmpF_un, hop a ih h]
  | bin o a b iha ihb => intro h; rw [evalTmpF_bin, evalTmpF_bin, hop a iha h.1, hop b ihb h.2]
  | binL o c b ih => intro h; rw [evalTmpF_binL, evalTmpF_binL, hop b ih h]
  | binR o a c ih => intro h; rw [evalTmpF_binR, evalTmpF_binR, hop a ih h]
  | sh o a n ih => intro h; rw [evalTmpF_sh, evalTmpF_sh, hop a ih h]

theorem evalTmpF_good {P : Nat} (hp : 2 ≤ P) (zenv : Env) {fenv : Nat → F} {k : Nat} (hwf : ∀ i, i < k → OpWF (fenv i)) :
    ∀ (e : FE), e.wt = true → e.fbelow k → OnSome (Good P) (evalTmpF P zenv fenv e) := by
  intro e
  have hop : ∀ a : FE, (a.wt = true → a.fbelow k → OnSome (Good P) (evalTmpF P zenv fenv a)) →
      a.wt = true → a.fbelow k → OnSome OpWF (opv P zenv fenv a) := by
    intro a ih hw hb x hx
    unfold opv at hx
    cases hl : a.leaf? with
    | some i => have := leaf?_some hl; subst this; rw [hl] at hx; simp only [Option.some.injEq] at hx; subst hx; exact hwf i hb
    | none => rw [hl] at hx; exact (ih hw hb x hx).op
  induction e with
  | fv i => intro _ hb; exact .of (good_set hp (hwf i hb))
  | zq e =>
    intro _ _
    refine .map fun v _ => ?_
    cases v with
    | z v => exact good_set_z hp v
    | q r => exact good_set_q hp r.num r.den r.den_nz
  | un o a ih =>
    intro hw hb
    simp only [FE.wt, Bool.and_eq_true] at hw
    rw [evalTmpF_un]
    exact .bind fun g hg => fnUnV_good hp o (hop a ih hw.1 hb g hg)
  | bin o a b iha ihb =>
    intro hw hb
    simp only [FE.wt, Bool.and_eq_true] at hw
    rw [evalTmpF_bin]
    exact .bind fun g hg => .bind fun g2 hg2 =>
      fnBinV_good hp o (a := .f g) (b := .f g2) (hop a iha hw.1.1 hb.1 g hg) (hop b ihb hw.1.2 hb.2 g2 hg2)
  | binL o c b ih =>
    intro hw hb
    simp only [FE.wt, Bool.and_eq_true] at hw
    rw [evalTmpF_binL]
    exact .bind fun g hg => fnBinV_good hp o (a := .bi c) (b := .f g) hw.1.1 (hop b ih hw.1.2 hb g hg)
  | binR o a c ih =>
    intro hw hb
    simp only [FE.wt, Bool.and_eq_true] at hw
    rw [evalTmpF_binR]
    exact .bind fun g hg => fnBinV_good hp o (a := .f g) (b := .bi c) (hop a ih hw.1.2 hb g hg) hw.1.1
  | sh o a n ih =>
    intro hw hb
    simp only [FE.wt, Bool.and_eq_true] at hw
    rw [evalTmpF_sh]
    exact .map fun g hg => fnShV_good hp o (hop a ih hw.1.1 hb g hg) n

/-! ### the template strategy -/

/-- what one evaluation step guarantees: the destination holds the value, every pre-existing object other
    than the destination is unchanged; an exception of the temporaries semantics is an exception here -/
def FPost (k p : Nat) (h : FHeap) (r : Option F) (res : Option FHeap) : Prop :=
  match r with
  | none => res = none
  | some x => ∃ h', res = some h' ∧ h'.get p = x ∧ ∀ i, i < k → i ≠ p → h'.get i = h.get i

theorem FHeap.get_set_self (h : FHeap) (p : Nat) (x : F) : (h.set p x).get p = x := by simp [FHeap.set]
theorem FHeap.get_set_ne (h : FHeap) (p : Nat) (x : F) (i : Nat) (hne : i ≠ p) : (h.set p x).get i = h.get i := by
  simp [FHeap.set, hne]

theorem FPost.step {k p : Nat} {h h1 : FHeap} {r : Option F} (hfr : ∀ i, i < k → i ≠ p → h1.get i = h.get i) :
    FPost k p h r (r.map (h1.set p)) := by
  cases r with
  | none => rfl
  | some x => exact ⟨_, rfl, FHeap.get_set_self _ _ _, fun i hi hne => by rw [FHeap.get_set_ne _ _ _ _ hne]; exact hfr i hi hne⟩

theorem FPost.bind {k q : Nat} {h1 : FHeap} {r : Option F} {res : Option FHeap} (H : FPost k q h1 r res)
    {k' p : Nat} {h : FHeap} {g : F → Option F} {f : FHeap → Option FHeap}
    (step : ∀ x h2, r = some x → h2.get q = x → (∀ i, i < k → i ≠ q → h2.get i = h1.get i) → FPost k' p h (g x) (f h2)) :
    FPost k' p h (r.bind g) (res.bind f) := by
  cases r with
  | none => cases H; rfl
  | some x => obtain ⟨h2, rfl, hx, hfr⟩ := H; exact step x h2 rfl hx hfr

def Inv (k : Nat) (h : FHeap) : Prop := ∀ i, i < k → WF (h.get i)

theorem fnUnF_post {k p g : Nat} {h h1 : FHeap} {P : Nat} (o : FUn) (hP : (h1.get p).prec = P)
    (hfit : g = p → Fit P (h1.get g)) (hfr : ∀ i, i < k → i ≠ p → h1.get i = h.get i) :
    FPost k p h (fnUnV P o false (h1.get g)) (fnUnF o p g h1) := by
  unfold fnUnF
  rw [hP, fnUnV_flag P o (g == p) _ (fun hb => hfit (by simpa using hb))]
  exact FPost.step hfr

theorem fnShF_post {k p g : Nat} {h h1 : FHeap} {P : Nat} (o : Sh) (n : Nat) (hP : (h1.get p).prec = P)
    (hfr : ∀ i, i < k → i ≠ p → h1.get i = h.get i) :
    FPost k p h (some (fnShV P o (h1.get g) n)) (fnShF o p g n h1) := by
  unfold fnShF
  rw [hP]
  exact FPost.step (r := some _) hfr

theorem fnBinF_post {k p : Nat} {h h1 : FHeap} {P : Nat} (o : FBin) (a b : FArg) (hP : (h1.get p).prec = P)
    (hfa : a.is p = true → ∀ x, a.val h1 = .f x → Fit P x) (hfb : b.is p = true → ∀ x, b.val h1 = .f x → Fit P x)
    (hfr : ∀ i, i < k → i ≠ p → h1.get i = h.get i) :
    FPost k p h (fnBinV P o false false (a.val h1) (b.val h1)) (fnBinF o p a b h1) := by
  unfold fnBinF
  rw [hP, fnBinV_flag P o _ _ _ _ hfa hfb]
  exact FPost.step hfr

theorem Inv.good {k : Nat} {h : FHeap} (hi : Inv k h) {i : Nat} (hik : i < k) : Good (h.get i).prec (h.get i) := ⟨hi i hik, rfl⟩

section
variable (cst : Bool) (KZ : Nat) (zh : Heap)

def EvalOK (e : FE) : Prop :=
  ∀ (k p : Nat) (h : FHeap), p < k → e.fbelow k → Inv k h → 2 ≤ (h.get p).prec →
    FPost k p h (evalTmpF (h.get p).prec zh.abs h.get e) (evalF cst KZ zh k p e h)

/-- `__gmp_temp<mpf_t> temp(b, p)`: a fresh object of `p`'s precision receives the value of `b` -/
theorem temp_step {b : FE} (ihb : EvalOK cst KZ zh b) {k : Nat} {h : FHeap} {P : Nat} (hp : 2 ≤ P)
    (hb : b.fbelow k) (hinv : Inv k h) :
    FPost (k + 1) k h (evalTmpF P zh.abs h.get b) (evalF cst KZ zh (k + 1) k b (newTemp k (tp P) h)) := by
  have h0k : (newTemp k (tp P) h).get k = Mpf.zero (tp P) := FHeap.get_set_self _ _ _
  have h0i : ∀ i, i ≠ k → (newTemp k (tp P) h).get i = h.get i := fun i hne => FHeap.get_set_ne _ _ _ _ hne
  have hinv0 : Inv (k + 1) (newTemp k (tp P) h) := by
    intro i hi
    by_cases hik : i = k
    · subst hik; rw [h0k]; exact WF_zero _
    · rw [h0i i hik]; exact hinv i (by omega)
  have H := ihb (k + 1) k (newTemp k (tp P) h) (by omega) (FE.fbelow_mono (by omega) _ hb) hinv0
    (by rw [h0k]; show 2 ≤ tp P; rw [tp_eq hp]; exact hp)
  have e1 : ((newTemp k (tp P) h).get k).prec = P := by rw [h0k]; show tp P = P; exact tp_eq hp
  rw [e1, evalTmpF_congr P zh.abs (k := k) (fun i hi => h0i i (by omega)) b hb] at H
  cases hr : evalTmpF P zh.abs h.get b with
  | none => rw [hr] at H; exact H
  | some y =>
    rw [hr] at H
    obtain ⟨h1, e2, hy, hfr⟩ := H
    exact ⟨h1, e2, hy, fun i hi hne => by rw [hfr i hi hne, h0i i hne]⟩
end

theorem fit_arg {p : Nat} {h1 : FHeap} {P : Nat} (a : FArg) (hf : Fit P (h1.get p)) :
    a.is p = true → ∀ x, a.val h1 = .f x → Fit P x := by
  intro hb x hx
  cases a with
  | loc i =>
    simp only [FArg.is, beq_iff_eq] at hb; subst hb
    simp only [FArg.val, FVal.f.injEq] at hx; subst hx; exact hf
  | bi c => simp [FArg.is] at hb

theorem fnBinF_post' {k p : Nat} {h h1 : FHeap} {P : Nat} (o : FBin) (a b : FArg) (hP : (h1.get p).prec = P)
    (hf : Fit P (h1.get p)) (hfr : ∀ i, i < k → i ≠ p → h1.get i = h.get i) :
    FPost k p h (fnBinV P o false false (a.val h1) (b.val h1)) (fnBinF o p a b h1) :=
  fnBinF_post o a b hP (fit_arg a hf) (fit_arg b hf) hfr

section
variable (cst : Bool) (KZ : Nat) (zh : Heap)

/-- a sub-expression evaluated into `p`, then a step: what `p` then holds has `p`'s precision and fits it -/
theorem EvalOK.then {a : FE} (ih : EvalOK cst KZ zh a) (hw : a.wt = true) {k p : Nat} {h : FHeap} (hpk : p < k)
    (hb : a.fbelow k) (hinv : Inv k h) (hp2 : 2 ≤ (h.get p).prec) {g : F → Option F} {f : FHeap → Option FHeap}
    (step : ∀ h1, (h1.get p).prec = (h.get p).prec → Fit (h.get p).prec (h1.get p) →
      (∀ i, i < k → i ≠ p → h1.get i = h.get i) → FPost k p h (g (h1.get p)) (f h1)) :
    FPost k p h ((evalTmpF (h.get p).prec zh.abs h.get a).bind g) ((evalF cst KZ zh k p a h).bind f) := by
  refine (ih k p h hpk hb hinv hp2).bind fun x h1 hr hx hfr => ?_
  have gx := evalTmpF_good hp2 zh.abs (fun i hi => (hinv i hi).toOpWF) a hw hb x hr
  rw [← hx]; exact step h1 (by rw [hx]; exact gx.2) (by rw [hx]; exact gx.fit) hfr

theorem evalF_correct : ∀ (e : FE), e.wt = true → e.zqOK KZ zh → EvalOK cst KZ zh e := by
  intro e
  induction e with
  | fv i =>
    intro _ _ k p h hpk hb hinv hp2
    simp only [evalF, evalTmpF]
    exact FPost.step (r := some _) (fun _ _ _ => rfl)
  | zq e =>
    intro _ hz k p h hpk hb hinv hp2
    simp only [FE.zqOK] at hz
    simp only [evalF, evalTmpF]
    rw [zqConv_correct cst KZ zh _ e hz]
    exact FPost.step (fun _ _ _ => rfl)
  | un o a ih =>
    intro hw hz k p h hpk hb hinv hp2
    simp only [FE.wt, Bool.and_eq_true] at hw
    simp only [FE.zqOK] at hz; simp only [FE.fbelow] at hb
    rw [evalTmpF_un]; unfold opv
    simp only [evalF]
    cases hl : a.leaf? with
    | some i =>
      simp only [Option.bind_some]
      exact fnUnF_post o rfl (fun e => by subst e; exact (hinv.good hpk).fit) (fun _ _ _ => rfl)
    | none =>
      simp only []
      exact (ih hw.1 hz).then cst KZ zh hw.1 hpk hb hinv hp2 fun _ hP hf hfr => fnUnF_post o hP (fun _ => hf) hfr
  | sh o a n ih =>
    intro hw hz k p h hpk hb hinv hp2
    simp only [FE.wt, Bool.and_eq_true] at hw
    simp only [FE.zqOK] at hz; simp only [FE.fbelow] at hb
    rw [evalTmpF_sh]; unfold opv
    simp only [evalF]
    cases hl : a.leaf? with
    | some i =>
      simp only [Option.map_some]
      exact fnShF_post o n rfl (fun _ _ _ => rfl)
    | none =>
      simp only []
      rw [Option.map_eq_bind]
      exact (ih hw.1.1 hz).then cst KZ zh hw.1.1 hpk hb hinv hp2 fun _ hP _ hfr => fnShF_post o n hP hfr
  | binL o c b ih =>
    intro hw hz k p h hpk hb hinv hp2
    simp only [FE.wt, Bool.and_eq_true] at hw
    simp only [FE.zqOK] at hz; simp only [FE.fbelow] at hb
    rw [evalTmpF_binL]; unfold opv
    simp only [evalF]
    cases hl : b.leaf? with
    | some j =>
      simp only [Option.bind_some]
      exact fnBinF_post' o (.bi c) (.loc j) rfl (hinv.good hpk).fit (fun _ _ _ => rfl)
    | none =>
      simp only []
      exact (ih hw.1.2 hz).then cst KZ zh hw.1.2 hpk hb hinv hp2 fun _ hP hf hfr => fnBinF_post' o (.bi c) (.loc p) hP hf hfr
  | binR o a c ih =>
    intro hw hz k p h hpk hb hinv hp2
    simp only [FE.wt, Bool.and_eq_true] at hw
    simp only [FE.zqOK] at hz; simp only [FE.fbelow] at hb
    rw [evalTmpF_binR]; unfold opv
    simp only [evalF]
    cases hl : a.leaf? with
    | some j =>
      simp only [Option.bind_some]
      exact fnBinF_post' o (.loc j) (.bi c) rfl (hinv.good hpk).fit (fun _ _ _ => rfl)
    | none =>
      simp only []
      exact (ih hw.1.2 hz).then cst KZ zh hw.1.2 hpk hb hinv hp2 fun _ hP hf hfr => fnBinF_post' o (.loc p) (.bi c) hP hf hfr
  | bin o a b iha ihb =>
    intro hw hz k p h hpk hb hinv hp2
    simp only [FE.wt, Bool.and_eq_true] at hw
    simp only [FE.zqOK] at hz; simp only [FE.fbelow] at hb
    rw [evalTmpF_bin]; unfold opv
    simp only [evalF]
    have IHa := iha hw.1.1 hz.1
    have IHb := ihb hw.1.2 hz.2
    have wfo : ∀ i, i < k → OpWF (h.get i) := fun i hi => (hinv i hi).toOpWF
    have fitp := (hinv.good hpk).fit
    cases hla : a.leaf? with
    | some i =>
      have := leaf?_some hla; subst this
      simp only [FE.fbelow] at hb
      cases hlb : b.leaf? with
      | some j =>
        simp only [Option.bind_some]
        exact fnBinF_post' o (.loc i) (.loc j) rfl fitp (fun _ _ _ => rfl)
      | none =>
        simp only [Option.bind_some]
        by_cases hpi : p ≠ i
        · rw [if_pos hpi]
          refine IHb.then cst KZ zh hw.1.2 hpk hb.2 hinv hp2 fun h1 hP hf hfr => ?_
          have := fnBinF_post' o (.loc i) (.loc p) hP hf hfr
          simpa only [FArg.val, hfr i hb.1 (Ne.symm hpi)] using this
        · rw [if_neg hpi]
          have hpi' : p = i := by omega
          subst hpi'
          refine (temp_step cst KZ zh IHb hp2 hb.2 hinv).bind fun y h1 _ hy hfr => ?_
          · have hpp : h1.get p = h.get p := hfr p (by omega) (by omega)
            have := fnBinF_post' (k := k) (p := p) (h := h) (h1 := h1) (P := (h.get p).prec) o (.loc p) (.loc k) (by rw [hpp]) (by rw [hpp]; exact fitp)
              (fun i hi hne => hfr i (by omega) (by omega))
            simp only [FArg.val, hy, hpp] at this; exact this
    | none =>
      cases hlb : b.leaf? with
      | some j =>
        have := leaf?_some hlb; subst this
        simp only [FE.fbelow] at hb
        simp only [Option.bind_some]
        by_cases hpj : p ≠ j
        · rw [if_pos hpj]
          refine IHa.then cst KZ zh hw.1.1 hpk hb.1 hinv hp2 fun h1 hP hf hfr => ?_
          have := fnBinF_post' o (.loc p) (.loc j) hP hf hfr
          simpa only [FArg.val, hfr j hb.2 (Ne.symm hpj)] using this
        · rw [if_neg hpj]
          have hpj' : p = j := by omega
          subst hpj'
          refine (temp_step cst KZ zh IHa hp2 hb.1 hinv).bind fun x h1 _ hx hfr => ?_
          · have hpp : h1.get p = h.get p := hfr p (by omega) (by omega)
            have := fnBinF_post' (k := k) (p := p) (h := h) (h1 := h1) (P := (h.get p).prec) o (.loc k) (.loc p) (by rw [hpp]) (by rw [hpp]; exact fitp)
              (fun i hi hne => hfr i (by omega) (by omega))
            simp only [FArg.val, hx, hpp] at this; exact this
      | none =>
        simp only []
        -- both operands are sub-expressions: one goes to a temporary, the other is evaluated in `p`
        have two : ∀ (t s : FE), EvalOK cst KZ zh t → EvalOK cst KZ zh s → t.wt = true → s.wt = true → t.fbelow k → s.fbelow k →
            ∀ (f : F → F → Option F) (g : FHeap → Option FHeap),
            (∀ h2 x y, h2.get k = x → h2.get p = y → (h2.get p).prec = (h.get p).prec → Fit (h.get p).prec y →
                (∀ i, i < k → i ≠ p → h2.get i = h.get i) → FPost k p h (f x y) (g h2)) →
            FPost k p h ((evalTmpF (h.get p).prec zh.abs h.get t).bind fun x => (evalTmpF (h.get p).prec zh.abs h.get s).bind fun y => f x y)
              ((evalF cst KZ zh (k + 1) k t (newTemp k (tp (h.get p).prec) h)).bind fun h1 =>
                (evalF cst KZ zh (k + 1) p s h1).bind g) := by
          intro t s IHt IHs wt ws bt bs f g hfin
          refine (temp_step cst KZ zh IHt hp2 bt hinv).bind fun x h1 hr hx hfr => ?_
          · have gx := evalTmpF_good hp2 zh.abs wfo t wt bt x hr
            have hpp : h1.get p = h.get p := hfr p (by omega) (by omega)
            have hinv1 : Inv (k + 1) h1 := by
              intro i hi
              by_cases hik : i = k
              · subst hik; rw [hx]; exact gx.1
              · rw [hfr i hi hik]; exact hinv i (by omega)
            have IH := IHs (k + 1) p h1 (by omega) (FE.fbelow_mono (by omega) _ bs) hinv1 (by rw [hpp]; exact hp2)
            rw [hpp, evalTmpF_congr _ zh.abs (k := k) (fun i hi => hfr i (by omega) (by omega)) s bs] at IH
            refine IH.bind fun y h2 hr2 hy hfr2 => ?_
            · have gy := evalTmpF_good hp2 zh.abs wfo s ws bs y hr2
              exact hfin h2 x y (by rw [hfr2 k (by omega) (by omega), hx]) hy (by rw [hy]; exact gy.2) gy.fit
                (fun i hi hne => by rw [hfr2 i (by omega) hne, hfr i (by omega) (by omega)])
        by_cases hzq : a.isZq = true
        · rw [if_pos hzq]
          refine two a b IHa IHb hw.1.1 hw.1.2 hb.1 hb.2 (fun x y => fnBinV (h.get p).prec o false false (.f x) (.f y)) _ ?_
          intro h2 x y hxk hyp hP hfit hfr
          have := fnBinF_post' (k := k) (p := p) (h := h) (h1 := h2) o (.loc k) (.loc p) hP (by rw [hyp]; exact hfit) hfr
          simp only [FArg.val, hxk, hyp] at this; exact this
        · rw [if_neg hzq]
          have sw : ((evalTmpF (h.get p).prec zh.abs h.get a).bind fun x => (evalTmpF (h.get p).prec zh.abs h.get b).bind fun y =>
                fnBinV (h.get p).prec o false false (.f x) (.f y)) =
              ((evalTmpF (h.get p).prec zh.abs h.get b).bind fun y => (evalTmpF (h.get p).prec zh.abs h.get a).bind fun x =>
                fnBinV (h.get p).prec o false false (.f x) (.f y)) := by
            cases evalTmpF (h.get p).prec zh.abs h.get a <;> cases evalTmpF (h.get p).prec zh.abs h.get b <;> rfl
          rw [sw]
          refine two b a IHb IHa hw.1.2 hw.1.1 hb.2 hb.1 (fun y x => fnBinV (h.get p).prec o false false (.f x) (.f y)) _ ?_
          intro h2 y x hyk hxp hP hfit hfr
          have := fnBinF_post' (k := k) (p := p) (h := h) (h1 := h2) o (.loc p) (.loc k) hP (by rw [hxp]; exact hfit) hfr
          simp only [FArg.val, hyk, hxp] at this; exact this
end

end Mpir.CxxF
