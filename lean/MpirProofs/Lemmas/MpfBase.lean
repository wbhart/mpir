/- Values of the mpf model: `toQ f = ± qv f.d f.exp`, `qv d e = val d · B^(e − |d|)` (the limbs `d` read with `e` integer
   limbs), and the relation `Cut`, from which both claims of the property follow.  set, div, mul_ui and the subtraction of
   magnitudes have one theorem `WF (op …) ∧ Cut prec (exact value) (toQ (op …))` (MpfOps / MpfSub / Mpf); the docstring of
   `Cut` says what the other operations have instead. -/
import MpirProofs.Lemmas.MpfLimbs
import Mathlib.Tactic.Ring
import Mathlib.Tactic.Linarith
import Mathlib.Tactic.LinearCombination
import Mathlib.Tactic.Positivity
import Mathlib.Tactic.FieldSimp
import Mathlib.Tactic.NormNum
import Mathlib.Tactic.Push
import Mathlib.Algebra.Order.Field.Power
import Mathlib.Data.Rat.Floor
import Mathlib.Data.Nat.Sqrt
namespace Mpir.Mpf
open Mpir

/-! ### the value of a float (`toQ`, `qv`, `sg`); powers of `B` in ℚ -/

def toQ (f : F) : ℚ :=
  (if f.size < 0 then -1 else 1) * (val f.d : ℚ) * (B : ℚ) ^ (f.exp - (f.d.length : ℤ))

/-- the property's relative error bound 2^(2-p), p = mpf_get_prec = 64·prec - 64 -/
def eps (prec : Nat) : ℚ := (2 : ℚ) ^ ((2 : ℤ) - (PREC_TO_BITS prec : ℤ))

def qv (d : List Nat) (e : ℤ) : ℚ := (val d : ℚ) * (B : ℚ) ^ (e - (d.length : ℤ))

def sg (u : F) : ℚ := if u.size < 0 then -1 else 1

theorem Bq_pos : (0 : ℚ) < (B : ℚ) := by exact_mod_cast B_pos
theorem Bq_ne : (B : ℚ) ≠ 0 := ne_of_gt Bq_pos
theorem Bq_eq : (B : ℚ) = 2 ^ 64 := by rw [B_eq]; norm_num
theorem Bq_ge_two : (2 : ℚ) ≤ (B : ℚ) := by exact_mod_cast B_ge_two

theorem Bz_pos (e : ℤ) : (0 : ℚ) < (B : ℚ) ^ e := zpow_pos Bq_pos e

theorem Bz_eq_two (e : ℤ) : (B : ℚ) ^ e = (2 : ℚ) ^ (64 * e) := by
  rw [Bq_eq, ← zpow_natCast, ← zpow_mul]; norm_num

theorem Bz_mul_pow (a : ℤ) (n : ℕ) : (B : ℚ) ^ a * (B : ℚ) ^ n = (B : ℚ) ^ (a + (n : ℤ)) := by
  rw [zpow_add₀ Bq_ne, zpow_natCast]

theorem Bz_succ (e : ℤ) : (B : ℚ) ^ e = (B : ℚ) * (B : ℚ) ^ (e - 1) := by
  rw [← zpow_one_add₀ Bq_ne]; congr 1; ring

theorem zpow_le_zpow_B {a b : ℤ} (h : a ≤ b) : (B : ℚ) ^ a ≤ (B : ℚ) ^ b :=
  zpow_le_zpow_right₀ (by exact_mod_cast (le_of_lt one_lt_B)) h

theorem two_mul_Bz_le {a b : ℤ} (h : a < b) : 2 * (B : ℚ) ^ a ≤ (B : ℚ) ^ b := by
  have h1 : (B : ℚ) * (B : ℚ) ^ a ≤ (B : ℚ) ^ b := by
    rw [← zpow_one_add₀ Bq_ne]; exact zpow_le_zpow_B (by omega)
  exact le_trans (mul_le_mul_of_nonneg_right Bq_ge_two (le_of_lt (Bz_pos a))) h1

/-! ### `toQ` of the records the model builds -/

theorem toQ_qv (u : F) : toQ u = sg u * qv u.d u.exp := by unfold toQ sg qv; ring

theorem sg_cases (u : F) : sg u = 1 ∨ sg u = -1 := by
  unfold sg; by_cases h : u.size < 0 <;> simp [h]

theorem abs_sg (u : F) : |sg u| = 1 := by rcases sg_cases u with h | h <;> rw [h] <;> simp

theorem sg_ne_zero (u : F) : sg u ≠ 0 := by rcases sg_cases u with h | h <;> rw [h] <;> norm_num

theorem sg_ge (u : F) : (if u.size ≥ 0 then (1 : ℚ) else -1) = sg u := by
  unfold sg; by_cases h : u.size < 0
  · rw [if_pos h, if_neg (by omega)]
  · rw [if_neg h, if_pos (by omega)]

theorem sg_of_neg {u : F} (h : u.size < 0) : sg u = -1 := if_pos h

theorem sg_of_not_neg {u : F} (h : ¬ u.size < 0) : sg u = 1 := if_neg h

theorem sg_of_pos {u : F} (h : 0 < u.size) : sg u = 1 := sg_of_not_neg (by omega)

theorem sg_eq_of_iff {u v : F} (hs : (u.size < 0) ↔ (v.size < 0)) : sg v = sg u := by
  unfold sg; by_cases h : u.size < 0
  · rw [if_pos h, if_pos (hs.mp h)]
  · rw [if_neg h, if_neg (fun h' => h (hs.mpr h'))]

theorem sg_mul (u v : F) :
    (if ((decide (u.size < 0)) != (decide (v.size < 0))) = true then (-1 : ℚ) else 1) = sg u * sg v := by
  unfold sg
  by_cases a : u.size < 0 <;> by_cases b : v.size < 0 <;> simp [a, b]

theorem toQ_mk (p : Nat) (c : Prop) [Decidable c] (e : Int) (l : List Nat) :
    toQ ⟨p, if c then (l.length : Int) else -(l.length : Int), e, l⟩ =
      (if c then 1 else -1) * (val l : ℚ) * (B : ℚ) ^ (e - (l.length : ℤ)) := by
  unfold toQ
  by_cases hc : c
  · simp [hc]
  · simp only [hc, if_false]
    by_cases hl : l = []
    · subst hl; simp
    · have : 0 < l.length := List.length_pos_of_ne_nil hl
      have h2 : -(l.length : Int) < 0 := by omega
      rw [if_pos h2]

theorem toQ_mk_neg (p : Nat) (c : Prop) [Decidable c] (e : Int) (l : List Nat) :
    toQ ⟨p, if c then -(l.length : Int) else (l.length : Int), e, l⟩ =
      (if c then -1 else 1) * (val l : ℚ) * (B : ℚ) ^ (e - (l.length : ℤ)) := by
  have := toQ_mk p (¬ c) e l
  by_cases hc : c
  · simp only [hc, not_true_eq_false, if_false, if_true] at this ⊢; exact this
  · simp only [hc, not_false_eq_true, if_false, if_true] at this ⊢; exact this

theorem toQ_mk_sg (p : ℕ) (u : F) (e : ℤ) (l : List Nat) :
    toQ ⟨p, if u.size ≥ 0 then (l.length : ℤ) else -(l.length : ℤ), e, l⟩ = sg u * qv l e := by
  rw [toQ_mk, sg_ge, mul_assoc]; rfl

/-- mul_2exp, div_2exp: limbs holding those of `u` times `2^k`, placed with any exponent -/
theorem toQ_shifted (p : ℕ) (u : F) (rd : List Nat) (k : ℕ) (E z : ℤ) (hv : val rd = val u.d * 2 ^ k)
    (hz : z = k + 64 * ((E - rd.length) - (u.exp - u.d.length))) :
    toQ ⟨p, if u.size ≥ 0 then (rd.length : ℤ) else -(rd.length : ℤ), E, rd⟩ = toQ u * (2 : ℚ) ^ z := by
  have hB : (B : ℚ) ^ (E - rd.length)
      = (B : ℚ) ^ (u.exp - u.d.length) * (B : ℚ) ^ ((E - rd.length) - (u.exp - u.d.length)) := by
    rw [← zpow_add₀ Bq_ne]; congr 1; ring
  rw [toQ_mk_sg, toQ_qv, mul_assoc, hz, zpow_add₀ two_ne_zero, zpow_natCast, ← Bz_eq_two, qv, qv, hv, hB]
  push_cast; ring

theorem toQ_pos_mk (prec : ℕ) (e : ℤ) (l : List Nat) (k : ℤ) (hk : k = (l.length : ℤ)) :
    toQ ⟨prec, k, e, l⟩ = qv l e := by
  subst hk; unfold toQ qv; dsimp only; rw [if_neg (by omega), one_mul]

theorem toQ_pos_qv (u : F) (h : 0 < u.size) : toQ u = qv u.d u.exp := by
  rw [toQ_qv, sg_of_pos h, one_mul]

theorem toQ_zero (p : Nat) : toQ (zero p) = 0 := by simp [toQ, zero]

theorem toQ_of_size_zero {f : F} (h : f.d = []) : toQ f = 0 := by simp [toQ, h]

/-! ### `qv`: limbs placed with an exponent -/

theorem qv_nonneg (d : List Nat) (e : ℤ) : 0 ≤ qv d e :=
  mul_nonneg (by positivity) (le_of_lt (zpow_pos Bq_pos _))

theorem abs_toQ (u : F) : |toQ u| = qv u.d u.exp := by
  rw [toQ_qv, abs_mul, abs_sg, one_mul, abs_of_nonneg (qv_nonneg _ _)]

theorem qv_nil (e : ℤ) : qv [] e = 0 := by simp [qv]

theorem qv_eq_zero_of_val {l : List Nat} {e : ℤ} (h : val l = 0) : qv l e = 0 := by simp [qv, h]

theorem qv_lt (d : List Nat) (e : ℤ) (hl : Limbs d) : qv d e < (B : ℚ) ^ e := by
  unfold qv
  have h1 : (val d : ℚ) < (B : ℚ) ^ d.length := by exact_mod_cast val_lt d hl
  have h2 : (B : ℚ) ^ e = (B : ℚ) ^ d.length * (B : ℚ) ^ (e - (d.length : ℤ)) := by
    rw [← zpow_natCast, ← zpow_add₀ Bq_ne]; congr 1; ring
  rw [h2]; exact mul_lt_mul_of_pos_right h1 (Bz_pos _)

theorem Mant.qv_ge {d : List Nat} (h : Mant d) (e : ℤ) : (B : ℚ) ^ (e - 1) ≤ qv d e := by
  unfold qv
  have h1 : ((B ^ (d.length - 1) : ℕ) : ℚ) ≤ (val d : ℚ) := by exact_mod_cast h.val_ge
  have hn := h.length_pos
  have h2 : (B : ℚ) ^ (e - 1) = ((B ^ (d.length - 1) : ℕ) : ℚ) * (B : ℚ) ^ (e - (d.length : ℤ)) := by
    push_cast; rw [← zpow_natCast, ← zpow_add₀ Bq_ne]; congr 1; omega
  rw [h2]; exact mul_le_mul_of_nonneg_right h1 (le_of_lt (Bz_pos _))

theorem Mant.qv_pos {d : List Nat} (h : Mant d) (e : ℤ) : 0 < qv d e := lt_of_lt_of_le (Bz_pos _) (h.qv_ge e)

theorem qv_shift (d : List Nat) (e j : ℤ) : qv d (e + j) = qv d e * (B : ℚ) ^ j := by
  unfold qv; rw [mul_assoc, ← zpow_add₀ Bq_ne]; congr 2; ring

theorem qv_scaled (l : List Nat) (k : ℕ) (e : ℤ) :
    ((val l * B ^ k : ℕ) : ℚ) * (B : ℚ) ^ (e - ((l.length + k : ℕ) : ℤ)) = qv l e := by
  unfold qv; push_cast
  rw [mul_assoc, ← zpow_natCast, ← zpow_add₀ Bq_ne]; congr 2; ring

theorem qv_append (a b : List Nat) (e : ℤ) : qv (a ++ b) e = qv a (e - (b.length : ℤ)) + qv b e := by
  unfold qv
  rw [val_append, List.length_append]; push_cast
  rw [add_mul, mul_assoc ((B : ℚ) ^ a.length), mul_left_comm, ← zpow_natCast, ← zpow_add₀ Bq_ne]
  congr 3 <;> ring

theorem qv_singleton (w : ℕ) (e : ℤ) : qv [w] e = (w : ℚ) * (B : ℚ) ^ (e - 1) := by
  unfold qv; simp [val]

theorem qv_replicate_zero (k : ℕ) (e : ℤ) : qv (List.replicate k 0) e = 0 :=
  qv_eq_zero_of_val (val_replicate_zero k)

theorem qv_zeros_append (k : ℕ) (l : List Nat) (e : ℤ) : qv (List.replicate k 0 ++ l) e = qv l e := by
  rw [qv_append, qv_replicate_zero, zero_add]

theorem qv_append_zeros (l : List Nat) (k : ℕ) (e : ℤ) : qv (l ++ List.replicate k 0) e = qv l (e - (k : ℤ)) := by
  rw [qv_append, qv_replicate_zero, add_zero, List.length_replicate]

theorem qv_split (d : List Nat) (e : ℤ) (k : ℕ) :
    qv d e = (val (d.take k) : ℚ) * (B : ℚ) ^ (e - (d.length : ℤ)) + qv (d.drop k) e := by
  rcases le_or_gt k d.length with hk | hk
  · conv_lhs => rw [← List.take_append_drop k d]
    rw [qv_append, List.length_drop]
    unfold qv; rw [List.length_take, Nat.min_eq_left hk]; congr 3; omega
  · rw [List.take_of_length_le (le_of_lt hk), List.drop_eq_nil_of_le (le_of_lt hk), qv_nil, add_zero]; rfl

theorem qv_drop_bound (d : List Nat) (e : ℤ) (k : ℕ) (hl : Limbs d) :
    qv (d.drop k) e ≤ qv d e ∧ qv d e - qv (d.drop k) e < (B : ℚ) ^ (e - (d.length : ℤ) + (k : ℤ)) := by
  have hs := Bz_pos (e - (d.length : ℤ))
  have h1 : (val (d.take k) : ℚ) < (B : ℚ) ^ k := by exact_mod_cast val_take_lt hl k
  rw [qv_split d e k, add_sub_cancel_right, zpow_add₀ Bq_ne, zpow_natCast, mul_comm ((B : ℚ) ^ (e - (d.length : ℤ)))]
  exact ⟨le_add_of_nonneg_left (mul_nonneg (Nat.cast_nonneg _) (le_of_lt hs)), mul_lt_mul_of_pos_right h1 hs⟩

theorem qv_top_bound (n : ℕ) (d : List Nat) (e : ℤ) (hl : Limbs d) :
    qv (top n d) e ≤ qv d e ∧ qv d e - qv (top n d) e < (B : ℚ) ^ (e - (n : ℤ)) := by
  rcases le_or_gt d.length n with h | h
  · rw [top_of_le h, sub_self]; exact ⟨le_refl _, Bz_pos _⟩
  · have := qv_drop_bound d e (d.length - n) hl
    rwa [show e - (d.length : ℤ) + ((d.length - n : ℕ) : ℤ) = e - (n : ℤ) by omega] at this

theorem qv_carry (tp : List Nat) (cy : ℕ) (e : ℤ) (hcy : cy ≤ 1) :
    qv (if cy ≠ 0 then tp ++ [cy] else tp) (e + cy) =
      ((val tp + B ^ tp.length * cy : ℕ) : ℚ) * (B : ℚ) ^ (e - (tp.length : ℤ)) := by
  rcases Nat.eq_zero_or_pos cy with h | h
  · subst h; simp [qv]
  · have : cy = 1 := by omega
    subst this
    rw [if_pos one_ne_zero, qv_append, qv_singleton]
    unfold qv; push_cast
    rw [List.length_singleton, add_mul, mul_one, ← zpow_natCast, ← zpow_add₀ Bq_ne, one_mul]
    congr 3 <;> ring

/-! ### the error bound `eps`; `Accurate` -/

theorem Bpow_eq_two_pow (prec : ℕ) : B ^ (prec - 1) = 2 ^ (PREC_TO_BITS prec) := by
  unfold B PREC_TO_BITS; rw [← pow_mul]; congr 1; omega

theorem eps_eq (prec : ℕ) : eps prec = 4 / (B : ℚ) ^ (prec - 1) := by
  unfold eps
  rw [zpow_sub₀ (by norm_num : (2 : ℚ) ≠ 0), zpow_natCast]
  have : ((B ^ (prec - 1) : ℕ) : ℚ) = (2 : ℚ) ^ (PREC_TO_BITS prec) := by exact_mod_cast Bpow_eq_two_pow prec
  push_cast at this; rw [this]; norm_num

theorem eps_pos (p : ℕ) : 0 < eps p := by unfold eps; exact zpow_pos (by norm_num) _

theorem eps_lt_one (prec : ℕ) (hp : 2 ≤ prec) : eps prec < 1 := by
  rw [eps_eq, div_lt_one (pow_pos Bq_pos _)]
  have h1 : (B : ℚ) ^ 1 ≤ (B : ℚ) ^ (prec - 1) :=
    pow_le_pow_right₀ (by exact_mod_cast (le_of_lt one_lt_B)) (by omega)
  have h2 : (4 : ℚ) < (B : ℚ) := by rw [Bq_eq]; norm_num
  rw [pow_one] at h1; linarith

/-- `W` is the weight of the lowest limb kept; `Cut.err` ends here, and so do the operations that cut twice -/
theorem rel_err_of_ulp {prec : ℕ} {r E : ℚ} {W : ℤ} (hp : 1 ≤ prec) (h1 : |r - E| < 2 * (B : ℚ) ^ W)
    (h2 : (B : ℚ) ^ (W + ((prec : ℤ) - 1)) ≤ 2 * |E|) : |r - E| < eps prec * |E| := by
  have hQ : (0 : ℚ) < (B : ℚ) ^ (prec - 1) := pow_pos Bq_pos _
  rw [eps_eq, div_mul_eq_mul_div, lt_div_iff₀ hQ]
  have e : (B : ℚ) ^ W * (B : ℚ) ^ (prec - 1) = (B : ℚ) ^ (W + ((prec : ℤ) - 1)) := by
    rw [← zpow_natCast, ← zpow_add₀ Bq_ne]; congr 2; omega
  calc |r - E| * (B : ℚ) ^ (prec - 1) < 2 * (B : ℚ) ^ W * (B : ℚ) ^ (prec - 1) := mul_lt_mul_of_pos_right h1 hQ
    _ = 2 * (B : ℚ) ^ (W + ((prec : ℤ) - 1)) := by rw [mul_assoc, e]
    _ ≤ 4 * |E| := by linarith

/-- what the property demands of a result `r` for the exact value `E` (format, zero, error bound) -/
def Accurate (prec : ℕ) (r : F) (E : ℚ) : Prop :=
  WF r ∧ (E = 0 → toQ r = 0) ∧ (E ≠ 0 → |toQ r - E| < eps prec * |E|)

theorem accurate_below (prec : ℕ) (hp : 1 ≤ prec) (r : F) (E R : ℚ) (W : ℤ) (hwf : WF r) (hr : toQ r = R)
    (hE : 0 < E) (h1 : R ≤ E) (h2 : E - R < 2 * (B : ℚ) ^ W) (h3 : (B : ℚ) ^ (W + ((prec : ℤ) - 1)) ≤ 2 * E) :
    Accurate prec r E := by
  refine ⟨hwf, fun h => absurd h (ne_of_gt hE), fun _ => ?_⟩
  rw [hr]
  refine rel_err_of_ulp hp ?_ (by rwa [abs_of_pos hE])
  rwa [abs_sub_comm, abs_of_nonneg (by linarith)]

/-! ### `Fits`: representable with a p-bit significand -/

def Fits (x : ℚ) (p : ℕ) : Prop := ∃ (m : ℤ) (k : ℤ), x = m * (2 : ℚ) ^ k ∧ |m| < 2 ^ p

theorem fits_neg {x : ℚ} {p : ℕ} (h : Fits x p) : Fits (-x) p := by
  obtain ⟨m, k, hm, hp⟩ := h
  exact ⟨-m, k, by push_cast; rw [hm]; ring, by rwa [abs_neg]⟩

theorem fits_sg {σ x : ℚ} {p : ℕ} (hσ : σ = 1 ∨ σ = -1) (h : Fits (σ * x) p) : Fits x p := by
  rcases hσ with h1 | h1 <;> rw [h1] at h
  · rwa [one_mul] at h
  · have := fits_neg h; rwa [neg_mul, one_mul, neg_neg] at this

/-- the step behind every "exact if it fits" statement -/
theorem Fits.mul_of_ge {x : ℚ} {p : ℕ} {c : ℤ} (h : Fits x p) (hx : (2 : ℚ) ^ ((p : ℤ) + c) ≤ 2 * |x|) :
    ∃ n : ℤ, x = n * (2 : ℚ) ^ c := by
  obtain ⟨m, k, hm, hmp⟩ := h
  have two_ne : (2 : ℚ) ≠ 0 := two_ne_zero
  have hk : c ≤ k := by
    by_contra hc
    have h1 : 2 * |x| = |(m : ℚ)| * (2 : ℚ) ^ (k + 1) := by
      rw [hm, abs_mul, abs_of_pos (zpow_pos (two_pos : (0 : ℚ) < 2) k), zpow_add_one₀ two_ne]; ring
    have h2 : |(m : ℚ)| < (2 : ℚ) ^ (p : ℤ) := by rw [zpow_natCast]; exact_mod_cast hmp
    have h3 : (2 : ℚ) ^ (k + 1) ≤ (2 : ℚ) ^ c := zpow_le_zpow_right₀ one_le_two (by omega)
    have : 2 * |x| < (2 : ℚ) ^ ((p : ℤ) + c) := by
      rw [h1, zpow_add₀ two_ne (p : ℤ) c]
      calc |(m : ℚ)| * (2 : ℚ) ^ (k + 1) ≤ |(m : ℚ)| * (2 : ℚ) ^ c := mul_le_mul_of_nonneg_left h3 (abs_nonneg _)
        _ < (2 : ℚ) ^ (p : ℤ) * (2 : ℚ) ^ c := mul_lt_mul_of_pos_right h2 (zpow_pos two_pos c)
    exact absurd hx (not_le.mpr this)
  obtain ⟨j, hj⟩ : ∃ j : ℕ, k = c + j := ⟨(k - c).toNat, by omega⟩
  exact ⟨m * 2 ^ j, by rw [hm, hj, zpow_add₀ two_ne, zpow_natCast]; push_cast; ring⟩

/-! ### `IsMul`, `Win`, `Cut`: results on a grid of powers of `B` -/

theorem eq_of_abs_sub_lt_unit {a b : ℤ} {U : ℚ} (hU : 0 < U) (h : |(a : ℚ) * U - b * U| < U) : a = b := by
  rw [← sub_mul, abs_mul, abs_of_pos hU] at h
  have h1 : |((a - b : ℤ) : ℚ)| < 1 := by push_cast; exact (mul_lt_iff_lt_one_left hU).mp h
  have h2 : |a - b| < 1 := by exact_mod_cast h1
  have := abs_lt.mp h2; omega

def IsMul (x : ℚ) (W : ℤ) : Prop := ∃ k : ℤ, x = (k : ℚ) * (B : ℚ) ^ W

theorem IsMul.sub {x y : ℚ} {W : ℤ} (hx : IsMul x W) (hy : IsMul y W) : IsMul (x - y) W := by
  obtain ⟨a, ha⟩ := hx; obtain ⟨b, hb⟩ := hy
  exact ⟨a - b, by rw [ha, hb]; push_cast; ring⟩

theorem IsMul.add {x y : ℚ} {W : ℤ} (hx : IsMul x W) (hy : IsMul y W) : IsMul (x + y) W := by
  obtain ⟨a, ha⟩ := hx; obtain ⟨b, hb⟩ := hy
  exact ⟨a + b, by rw [ha, hb]; push_cast; ring⟩

theorem IsMul.neg {x : ℚ} {W : ℤ} (hx : IsMul x W) : IsMul (-x) W := by
  obtain ⟨a, ha⟩ := hx; exact ⟨-a, by rw [ha]; push_cast; ring⟩

theorem IsMul.mono {x : ℚ} {W W' : ℤ} (hx : IsMul x W) (h : W' ≤ W) : IsMul x W' := by
  obtain ⟨a, ha⟩ := hx
  obtain ⟨j, hj⟩ : ∃ j : ℕ, W = W' + j := ⟨(W - W').toNat, by omega⟩
  exact ⟨a * (B : ℤ) ^ j, by rw [ha, hj, zpow_add₀ Bq_ne, zpow_natCast]; push_cast; ring⟩

theorem IsMul_nat_mul (n : ℕ) (z W : ℤ) (h : W ≤ z) : IsMul ((n : ℚ) * (B : ℚ) ^ z) W :=
  IsMul.mono ⟨n, by push_cast; ring⟩ h

theorem qv_isMul (l : List Nat) (e : ℤ) (n : ℕ) (h : l.length ≤ n) : IsMul (qv l e) (e - (n : ℤ)) := by
  unfold qv; exact IsMul_nat_mul _ _ _ (by omega)

theorem Bz_isMul (e W : ℤ) (h : W ≤ e) : IsMul ((B : ℚ) ^ e) W := by
  have := IsMul_nat_mul 1 e W h; simpa using this

/-- window information of a result: a multiple of B^W within B^W of D, and D not much below B^(W+prec−1) -/
def Win (prec : ℕ) (D : ℚ) (r : List Nat × ℤ × Bool) : Prop :=
  D = 0 ∨ ∃ W : ℤ, IsMul (qv r.1 r.2.1) W ∧ |(if r.2.2 then -1 else 1) * qv r.1 r.2.1 - D| < (B : ℚ) ^ W ∧
    (B : ℚ) ^ (W + (prec : ℤ) - 1) ≤ 2 * |D|

/-- `r` is `E` cut once: a multiple of `B^W` less than `B^W` from `E`, the grid fine enough for `prec` limbs; or `E` itself
    (short results).  `Win`, inside `SubOK`, is the second alternative for a limb triple; `SubOK.cut` is the bridge.
    The factor 2: a difference with a truncated subtrahend errs upwards, so `E` can lie just below `B^(W+prec−1)`, the
    least `prec`-limb number of the grid.  It is free: `Fits.mul_of_ge` has exactly this slack (`Cut.exact`), and
    `Cut.err` uses half of `eps`.
    Operations that cut their operands before the result: mul has `Cut` at prec+1 against the product of the cut
    operands (`mul_cut`) and its error bound over the three cuts beside it (`Cut.err_of_operands`); add of equal signs
    has its error bound over two cuts straight from `rel_err_of_ulp`, which takes `2·B^W` (`addMag_ok`), and `Cut`
    against the exact sum only when the operand with the larger exponent is not cut (`addMag_cut`, for exactness);
    add_ui has the error bound only (`accurate_below`).  sqrt, whose exact value is not rational, has its own statement.
    The grid is in powers of `B`: `Cut` is kept by `±1` but not by `2^e`, so mul_2exp / div_2exp are exact on the
    operand cut by `truncOp` (`shifted_toQ`, `truncOp_spec`). -/
def Cut (prec : ℕ) (E r : ℚ) : Prop :=
  r = E ∨ ∃ W : ℤ, IsMul r W ∧ |r - E| < (B : ℚ) ^ W ∧ (B : ℚ) ^ (W + (prec : ℤ) - 1) ≤ 2 * |E|

theorem Cut.zero {prec : ℕ} {r : ℚ} (h : Cut prec 0 r) : r = 0 := by
  rcases h with h | ⟨W, _, _, h⟩
  · exact h
  · rw [abs_zero, mul_zero] at h; exact absurd h (not_le.mpr (Bz_pos _))

theorem Cut.err {prec : ℕ} {E r : ℚ} (hp : 1 ≤ prec) (h : Cut prec E r) (hE : E ≠ 0) :
    |r - E| < eps prec * |E| := by
  rcases h with h | ⟨W, _, h1, h2⟩
  · rw [h, sub_self, abs_zero]; exact mul_pos (eps_pos prec) (abs_pos.mpr hE)
  · exact rel_err_of_ulp hp (lt_trans h1 (show (B : ℚ) ^ W < 2 * (B : ℚ) ^ W by linarith [Bz_pos W]))
      (by rwa [show W + ((prec : ℤ) - 1) = W + (prec : ℤ) - 1 by ring])

/-- an `E` that fits in p bits is itself on the grid, so `r`, less than a grid step away, equals it -/
theorem Cut.exact {prec : ℕ} {E r : ℚ} (hp : 1 ≤ prec) (h : Cut prec E r) (hf : Fits E (PREC_TO_BITS prec)) :
    r = E := by
  rcases h with h | ⟨W, ⟨k, hk⟩, herr, hbig⟩
  · exact h
  obtain ⟨n, hn⟩ := hf.mul_of_ge (c := 64 * W) (by
    rw [Bz_eq_two] at hbig
    rwa [show ((PREC_TO_BITS prec : ℕ) : ℤ) + 64 * W = 64 * (W + (prec : ℤ) - 1) by unfold PREC_TO_BITS; omega])
  rw [← Bz_eq_two] at hn
  rw [hk, hn] at herr ⊢
  rw [eq_of_abs_sub_lt_unit (Bz_pos W) herr]

theorem Cut.smul {prec : ℕ} {E r σ : ℚ} (hσ : σ = 1 ∨ σ = -1) (h : Cut prec E r) : Cut prec (σ * E) (σ * r) := by
  have hσa : |σ| = 1 := by rcases hσ with h | h <;> rw [h] <;> simp
  rcases h with h | ⟨W, hm, h1, h2⟩
  · exact Or.inl (by rw [h])
  · refine Or.inr ⟨W, ?_, by rwa [← mul_sub, abs_mul, hσa, one_mul], by rwa [abs_mul, hσa, one_mul]⟩
    rcases hσ with h | h <;> rw [h]
    · rwa [one_mul]
    · rw [neg_one_mul]; exact hm.neg

theorem Cut.mono {prec prec' : ℕ} {E r : ℚ} (h : Cut prec E r) (hle : prec' ≤ prec) : Cut prec' E r := by
  rcases h with h | ⟨W, hm, h1, h2⟩
  · exact Or.inl h
  · exact Or.inr ⟨W, hm, h1, le_trans (zpow_le_zpow_B (by omega)) h2⟩

theorem Cut.of_floor {prec : ℕ} (W : ℤ) {q : ℕ} {x : ℚ} (h1 : (q : ℚ) ≤ x) (h2 : x < (q : ℚ) + 1)
    (hq : B ^ (prec - 1) ≤ q) (hp : 1 ≤ prec) : Cut prec (x * (B : ℚ) ^ W) ((q : ℚ) * (B : ℚ) ^ W) := by
  have hs := Bz_pos W
  have hqQ : (B : ℚ) ^ (prec - 1) ≤ (q : ℚ) := by exact_mod_cast hq
  have hx0 : (0 : ℚ) ≤ x := le_trans (Nat.cast_nonneg q) h1
  refine Or.inr ⟨W, ⟨q, by push_cast; ring⟩, ?_, ?_⟩
  · rw [← sub_mul, abs_mul, abs_of_pos hs, abs_sub_comm, abs_of_nonneg (sub_nonneg.mpr h1)]
    calc (x - q) * (B : ℚ) ^ W < 1 * (B : ℚ) ^ W := mul_lt_mul_of_pos_right (by linarith) hs
      _ = (B : ℚ) ^ W := one_mul _
  · rw [abs_of_nonneg (mul_nonneg hx0 hs.le), show W + (prec : ℤ) - 1 = ((prec - 1 : ℕ) : ℤ) + W by omega,
      zpow_add₀ Bq_ne, zpow_natCast]
    linarith [mul_le_mul_of_nonneg_right (le_trans hqQ h1) hs.le, mul_nonneg hx0 hs.le]

theorem Cut.of_nat {prec : ℕ} (hp : 1 ≤ prec) (z : ℤ) {t N k : ℕ} (h1 : t * B ^ k ≤ N) (h2 : N < (t + 1) * B ^ k)
    (hq : k = 0 ∨ B ^ (prec - 1) ≤ t) : Cut prec ((N : ℚ) * (B : ℚ) ^ z) (((t * B ^ k : ℕ) : ℚ) * (B : ℚ) ^ z) := by
  rcases hq with rfl | hq
  · rw [pow_zero, mul_one] at h1 h2; exact Or.inl (by rw [pow_zero, mul_one, show t = N by omega])
  · have hBk : (0 : ℚ) < (B : ℚ) ^ k := pow_pos Bq_pos k
    have := Cut.of_floor (prec := prec) (z + k) (q := t) (x := (N : ℚ) / (B : ℚ) ^ k)
      (by rw [le_div_iff₀ hBk]; exact_mod_cast h1) (by rw [div_lt_iff₀ hBk]; exact_mod_cast h2) hq hp
    rw [zpow_add₀ Bq_ne, zpow_natCast] at this
    convert this using 1
    · field_simp
    · push_cast; ring

theorem Mant.cut_top {d : List Nat} (h : Mant d) {prec n : ℕ} (hn : prec ≤ n) (e : ℤ) :
    Cut prec (qv d e) (qv (Mpf.top n d) e) := by
  obtain ⟨b1, b2⟩ := qv_top_bound n d e h.limbs
  refine Or.inr ⟨e - (n : ℤ), qv_isMul _ _ _ (by rw [top_length]; omega), ?_, ?_⟩
  · rwa [abs_sub_comm, abs_of_nonneg (sub_nonneg.mpr b1)]
  · rw [abs_of_pos (h.qv_pos e)]
    have := zpow_le_zpow_B (show e - (n : ℤ) + (prec : ℤ) - 1 ≤ e - 1 by omega)
    linarith [h.qv_ge e, Bz_pos (e - 1)]

theorem Mant.qv_top_of_fits {d : List Nat} (h : Mant d) {prec n : ℕ} (hp : 1 ≤ prec) (hn : prec ≤ n) (e : ℤ) {σ : ℚ}
    (hσ : σ = 1 ∨ σ = -1) (hf : Fits (σ * qv d e) (PREC_TO_BITS prec)) : qv (Mpf.top n d) e = qv d e :=
  (h.cut_top hn e).exact hp (fits_sg hσ hf)

theorem spec_of_cut {prec : ℕ} (hp : 1 ≤ prec) {r : F} {E : ℚ} (hwf : WF r) (h : Cut prec E (toQ r)) :
    Accurate prec r E ∧ (Fits E (PREC_TO_BITS prec) → toQ r = E) :=
  ⟨⟨hwf, fun h0 => (h0 ▸ h).zero, h.err hp⟩, h.exact hp⟩

/-! ### format rules (`WF`, `OpWF`) of the records the model builds -/

theorem WF_mk {p : Nat} {c : Prop} [Decidable c] {e : Int} {l : List Nat}
    (hl : Limbs l) (ht : l.getLast? ≠ some 0) (hn : l.length ≤ p + 1) (hz : l = [] → e = 0) :
    WF ⟨p, if c then (l.length : Int) else -(l.length : Int), e, l⟩ := by
  refine ⟨hl, ?_, ?_, ht, ?_⟩
  · by_cases hc : c <;> simp [hc]
  · by_cases hc : c <;> simp [hc] <;> omega
  · intro h
    apply hz
    have h : (if c then (l.length : Int) else -(l.length : Int)) = 0 := h
    have h0 : l.length = 0 := by
      by_cases hc : c
      · rw [if_pos hc] at h; omega
      · rw [if_neg hc] at h; omega
    exact List.eq_nil_of_length_eq_zero h0

theorem WF_mk_neg {p : Nat} {c : Prop} [Decidable c] {e : Int} {l : List Nat}
    (hl : Limbs l) (ht : l.getLast? ≠ some 0) (hn : l.length ≤ p + 1) (hz : l = [] → e = 0) :
    WF ⟨p, if c then -(l.length : Int) else (l.length : Int), e, l⟩ := by
  have := @WF_mk p (¬ c) _ e l hl ht hn hz
  by_cases hc : c
  · simp only [hc, not_true_eq_false, if_false, if_true] at this ⊢; exact this
  · simp only [hc, not_false_eq_true, if_false, if_true] at this ⊢; exact this

theorem WF_zero (p : Nat) : WF (zero p) := by
  refine ⟨Limbs_nil, rfl, by simp [zero], by simp [zero], fun _ => rfl⟩

theorem OpWF.limbs {u : F} (h : OpWF u) : Limbs u.d := h.1
theorem OpWF.len {u : F} (h : OpWF u) : u.d.length = u.size.natAbs := h.2.1
theorem OpWF.top_ne {u : F} (h : OpWF u) : u.d.getLast? ≠ some 0 := h.2.2.1
theorem OpWF.exp_zero {u : F} (h : OpWF u) : u.size = 0 → u.exp = 0 := h.2.2.2

theorem WF.toOpWF {x : F} (h : WF x) : OpWF x := ⟨h.1, h.2.1, h.2.2.2.1, h.2.2.2.2⟩

theorem OpWF.d_nil {u : F} (hu : OpWF u) (h : u.size = 0) : u.d = [] :=
  List.eq_nil_of_length_eq_zero (by rw [hu.len, h]; rfl)

theorem OpWF.toQ_zero {u : F} (hu : OpWF u) (h0 : u.size = 0) : toQ u = 0 := toQ_of_size_zero (hu.d_nil h0)

theorem OpWF.size_ne {u : F} (hu : OpWF u) (h : u.d ≠ []) : u.size ≠ 0 := by
  intro hs; exact h (hu.d_nil hs)

theorem OpWF.ne_nil {u : F} (hu : OpWF u) (h0 : u.size ≠ 0) : u.d ≠ [] :=
  fun h => h0 (by have := hu.len; rw [h] at this; simp at this; omega)

theorem OpWF.mant {u : F} (hu : OpWF u) (h0 : u.size ≠ 0) : Mant u.d := ⟨hu.limbs, hu.ne_nil h0, hu.top_ne⟩

theorem Mant.wf_mk {l : List Nat} (h : Mant l) {p : ℕ} (hn : l.length ≤ p + 1) (c : Prop) [Decidable c] (e : ℤ) :
    WF ⟨p, if c then (l.length : ℤ) else -(l.length : ℤ), e, l⟩ :=
  WF_mk h.limbs h.norm hn (fun h0 => absurd h0 h.ne)

theorem Mant.wf_mk_neg {l : List Nat} (h : Mant l) {p : ℕ} (hn : l.length ≤ p + 1) (c : Prop) [Decidable c] (e : ℤ) :
    WF ⟨p, if c then -(l.length : ℤ) else (l.length : ℤ), e, l⟩ :=
  WF_mk_neg h.limbs h.norm hn (fun h0 => absurd h0 h.ne)

/-- only the sign of the size field changes (neg and abs in place; the `size := -size` operand of sub and add_ui) -/
theorem OpWF.with_size {u : F} (hu : OpWF u) {z : ℤ} (hz : z.natAbs = u.size.natAbs) : OpWF {u with size := z} :=
  ⟨hu.limbs, hu.len.trans hz.symm, hu.top_ne, fun h => hu.exp_zero (by have : z = 0 := h; omega)⟩

theorem OpWF.wf_with_size {u : F} (hu : OpWF u) {z : ℤ} (hz : z.natAbs = u.size.natAbs) {p : ℕ} (hn : u.d.length ≤ p + 1) :
    WF {u with prec := p, size := z} :=
  ⟨hu.limbs, hu.len.trans hz.symm, by show z.natAbs ≤ p + 1; rw [hz, ← hu.len]; exact hn, hu.top_ne,
    fun h => hu.exp_zero (by have : z = 0 := h; omega)⟩

theorem OpWF_neg_size (u : F) (hu : OpWF u) : OpWF {u with size := -u.size} := hu.with_size (Int.natAbs_neg _)

theorem toQ_neg_size (u : F) (hu : OpWF u) : toQ {u with size := -u.size} = - toQ u := by
  unfold toQ; dsimp only
  rcases lt_trichotomy u.size 0 with h | h | h
  · rw [if_neg (by omega), if_pos h]; ring
  · simp [hu.d_nil h]
  · rw [if_pos (by omega), if_neg (by omega)]; ring

theorem toQ_ne_zero {u : F} (hu : OpWF u) (h0 : u.size ≠ 0) : toQ u ≠ 0 := by
  rw [toQ_qv]; exact mul_ne_zero (sg_ne_zero u) (ne_of_gt ((hu.mant h0).qv_pos _))

theorem Mant.wf_pos {l : List Nat} (h : Mant l) {p : ℕ} (hn : l.length ≤ p + 1) (e k : ℤ) (hk : k = (l.length : ℤ)) :
    WF ⟨p, k, e, l⟩ := by
  have := h.wf_mk hn True e
  rwa [if_pos trivial, ← hk] at this

end Mpir.Mpf
