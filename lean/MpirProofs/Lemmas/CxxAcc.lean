/- C20 lemmas (accessors): an mpz-typed tree assigned to an mpq object is evaluated into the numerator from the OLD raw
   fields and only then is the denominator set to 1 (`evalQ_z_fields`); assignments through the accessors followed by
   `canonicalize()` (`execAcc_correct`); `mpq_class(z1, z2)` (`execInit2_correct`). -/
import MpirProofs.Lemmas.CxxQ2
import Mpir.Model.CxxAcc
namespace Mpir.Cxx

/-! ### assignments through the accessors -/

def StepOk (K : Nat) (s : Bool × E) : Prop := s.2.ty = .z ∧ s.2.wt = true ∧ s.2.zbelow K

theorem fld_below (i : Nat) (d : Bool) (k : Nat) : (fld i d).below k := by
  unfold fld; split <;> trivial

/-- the sequence of field assignments: the heap of the implementation agrees with the specification's on everything that
    existed before (it differs in the temporaries only) -/
theorem execAccSteps_correct (cst : Bool) (K i : Nat) : ∀ (steps : List (Bool × E)) (hs h : Heap),
    (∀ l : ZLoc, l.below K → h l = hs l) → (∀ s ∈ steps, StepOk K s) →
    match accSteps i steps hs with
    | none => execAccSteps cst K i steps h = none
    | some s' => ∃ h', execAccSteps cst K i steps h = some h' ∧ ∀ l : ZLoc, l.below K → h' l = s' l := by
  intro steps
  induction steps with
  | nil => intro hs h hag _; exact ⟨h, rfl, hag⟩
  | cons st r ih =>
    intro hs h hag hok
    obtain ⟨d, e⟩ := st
    obtain ⟨hty, hwt, hzb⟩ := hok (d, e) (by simp)
    have H := evalZ_correct cst e hty hwt K (fld i d) h (fld_below i d K) hzb
    rw [evalTmpZ_frame hag e hzb] at H
    simp only [accSteps, execAccSteps]
    cases hr : evalTmpZ hs.get e with
    | none => rw [hr] at H; simp only [Post] at H; simp [H]
    | some x =>
      rw [hr] at H
      obtain ⟨h1, e1, hx, hfr⟩ := H
      simp only [e1, Option.bind_some]
      refine ih (hs.set (fld i d) x) h1 (fun l hl => ?_) (fun s hs' => hok s (by simp [hs']))
      by_cases hlp : l = fld i d
      · subst hlp; simp [hx]
      · rw [Heap.set_get_ne _ _ _ _ hlp, hfr l hl hlp]; exact hag l hl

theorem accSteps_frame (i : Nat) : ∀ (steps : List (Bool × E)) (hs s' : Heap), accSteps i steps hs = some s' →
    ∀ l : ZLoc, l ≠ .num i → l ≠ .den i → s' l = hs l := by
  intro steps
  induction steps with
  | nil => intro hs s' h l _ _; simp only [accSteps, Option.some.injEq] at h; rw [h]
  | cons st r ih =>
    intro hs s' h l h1 h2
    obtain ⟨d, e⟩ := st
    simp only [accSteps] at h
    cases hr : evalTmpZ hs.get e with
    | none => simp [hr] at h
    | some x =>
      rw [hr] at h; simp only [Option.bind_some] at h
      rw [ih _ _ h l h1 h2, Heap.set_get_ne]
      unfold fld; split <;> assumption

theorem execAcc_correct (cst : Bool) (K i : Nat) (steps : List (Bool × E)) (h : Heap) (hok : ∀ s ∈ steps, StepOk K s) :
    match accSteps i steps h with
    | none => execAcc cst K i steps h = none
    | some s' =>
      if s' (.den i) = 0 then execAcc cst K i steps h = none
      else ∃ h', execAcc cst K i steps h = some h' ∧ Canon h' i ∧ qval h' i = Rat.divInt (s' (.num i)) (s' (.den i)) ∧
        ∀ l : ZLoc, l.below K → l ≠ .num i → l ≠ .den i → h' l = h l := by
  have H := execAccSteps_correct cst K i steps h h (fun _ _ => rfl) hok
  unfold execAcc
  cases hr : accSteps i steps h with
  | none => rw [hr] at H; simp [H]
  | some s' =>
    rw [hr] at H
    obtain ⟨h1, e1, hag⟩ := H
    have hn := hag (.num i) trivial
    have hd := hag (.den i) trivial
    simp only [e1, Option.bind_some, mpq_canonicalize, hn, hd]
    by_cases h0 : s' (.den i) = 0
    · simp [h0]
    · simp only [h0, if_false]
      refine ⟨_, rfl, Canon_setQ _ _ _, qval_setQ _ _ _, fun l hl a b => ?_⟩
      rw [setQ_get_ne _ _ _ _ a b, hag l hl]; exact accSteps_frame i steps h s' hr l a b

/-! ### `mpq_class t(n, d); t.canonicalize();` -/

theorem bindZ_loc {cst : Bool} {k : Nat} {e : E} {h h' : Heap} {l : ZLoc} (hb : bindZ cst k e h = some (l, h')) :
    e.zleaf? = some l ∨ l = .v k := by
  unfold bindZ at hb
  cases hl : e.zleaf? with
  | some l' => rw [hl] at hb; simp only [Option.some.injEq, Prod.mk.injEq] at hb; exact Or.inl (by rw [hb.1])
  | none =>
    rw [hl] at hb; simp only [Option.map_eq_some_iff, Prod.mk.injEq] at hb
    obtain ⟨_, _, h1, _⟩ := hb; exact Or.inr h1.symm

theorem execInit2_correct (cst : Bool) (K : Nat) (n d : E) (h : Heap)
    (hn : StepOk K (false, n)) (hd : StepOk K (true, d)) (hqd : d.qbelow K) :
    match evalTmpZ h.get n, evalTmpZ h.get d with
    | some x, some y =>
      if y = 0 then execInit2 cst K n d h = none
      else ∃ h', execInit2 cst K n d h = some h' ∧ Canon h' K ∧ qval h' K = Rat.divInt x y ∧
        ∀ l : ZLoc, l.belowQ K → h' l = h l
    | _, _ => execInit2 cst K n d h = none := by
  obtain ⟨htn, hwn, hzn⟩ := hn
  obtain ⟨htd, hwd, hzd⟩ := hd
  have B := bindZ_correct cst
  have Bn := B n htn hwn K h hzn
  unfold execInit2
  cases hrn : evalTmpZ h.get n with
  | none => rw [hrn] at Bn; simp [Bn]
  | some x =>
    rw [hrn] at Bn
    obtain ⟨ln, h1, e1, hx, hln, hfr1⟩ := Bn
    have Bd := B d htd hwd (K + 1) h1 (E.zbelow_mono (by omega) _ hzd)
    rw [evalTmpZ_frame (k := K) hfr1 d hzd] at Bd
    simp only [e1, Option.bind_some]
    cases hrd : evalTmpZ h.get d with
    | none => rw [hrd] at Bd; simp [Bd]
    | some y =>
      rw [hrd] at Bd
      obtain ⟨ld, h2, e2, hy, hld, hfr2⟩ := Bd
      simp only [e2, Option.bind_some]
      -- the location bound to `d` is not the numerator field of the new object
      have hldn : ld ≠ .num K := by
        rcases bindZ_loc e2 with hl | hl
        · have := zleaf?_belowQ hl hzd hqd
          intro e; subst e; simp [ZLoc.belowQ] at this
        · rw [hl]; simp
      have hxn : h2 ln = x := by rw [hfr2 ln hln, hx]
      have e3 : (mpz_set (.den K) ld (mpz_set (.num K) ln h2)) (.den K) = y := by
        simp only [mpz_set, Heap.set_get]; rw [Heap.set_get_ne _ _ _ _ hldn]; exact hy
      have e4 : (mpz_set (.den K) ld (mpz_set (.num K) ln h2)) (.num K) = x := by
        simp only [mpz_set]; rw [Heap.set_get_ne _ _ _ _ (by simp), Heap.set_get]; exact hxn
      simp only [mpq_canonicalize, e3, e4]
      by_cases h0 : y = 0
      · simp [h0]
      · simp only [h0, if_false]
        refine ⟨_, rfl, Canon_setQ _ _ _, qval_setQ _ _ _, fun l hl => ?_⟩
        have a : l ≠ .num K := by intro e; subst e; simp [ZLoc.belowQ] at hl
        have b : l ≠ .den K := by intro e; subst e; simp [ZLoc.belowQ] at hl
        rw [setQ_get_ne _ _ _ _ a b]
        simp only [mpz_set]
        rw [Heap.set_get_ne _ _ _ _ b, Heap.set_get_ne _ _ _ _ a,
          hfr2 l (ZLoc.below_mono (by omega) (ZLoc.below_of_belowQ hl)), hfr1 l (ZLoc.below_of_belowQ hl)]

end Mpir.Cxx
