/- mpf_get_str: the rounding of the developed digits to the requested count (MpfStr.finish). -/
import MpirProofs.Lemmas.MpfStrGet
namespace Mpir.MpfStr
open Mpir Mpir.Mpf Mpir.Radix

theorem digVal_append (b : ℕ) (hb : 1 ≤ b) (l1 l2 : List ℕ) (x : ℤ) :
    digVal b (l1 ++ l2) x =
      ((ofDigits b l1 : ℚ) + (ofDigits b l2 : ℚ) / (b : ℚ) ^ l2.length) * (b : ℚ) ^ (x - (l1.length : ℤ)) := by
  have hbq : (b : ℚ) ≠ 0 := Nat.cast_ne_zero.mpr (by omega)
  unfold digVal
  rw [ofDigits_app, List.length_append, ← pow_mul_zpow_sub hbq l2.length (x - (l1.length : ℤ)), ← mul_assoc, add_mul,
    div_mul_cancel₀ _ (pow_ne_zero _ hbq), sub_sub]
  push_cast
  rfl

theorem digVal_append_zeros (b : ℕ) (hb : 1 ≤ b) (l : List ℕ) (j : ℕ) (x : ℤ) :
    digVal b (l ++ List.replicate j 0) x = digVal b l x := by
  have h0 : ofDigits b (List.replicate j 0) = 0 := by simpa using ofDigits_append_zeros b [] j
  rw [digVal_append b hb, h0, Nat.cast_zero, zero_div, add_zero]
  rfl

theorem strip_eq_normalize (ds : List ℕ) : stripTrailingZeros ds = normalize ds := rfl

theorem digVal_strip (b : ℕ) (hb : 1 ≤ b) (ds : List ℕ) (x : ℤ) :
    digVal b (stripTrailingZeros ds) x = digVal b ds x := by
  obtain ⟨k, hk⟩ := normalize_spec ds
  rw [strip_eq_normalize]
  conv_rhs => rw [hk]
  rw [digVal_append_zeros b hb]

theorem mem_of_mem_strip {d : ℕ} {ds : List ℕ} (h : d ∈ stripTrailingZeros ds) : d ∈ ds := by
  obtain ⟨k, hk⟩ := normalize_spec ds
  rw [hk]; exact List.mem_append_left _ h

theorem tail_frac (b : ℕ) (hb : 0 < b) (r : ℕ) (tl : List ℕ) (htl : ∀ d ∈ tl, d < b) :
    (r : ℚ) / (b : ℚ) ≤ (ofDigits b (r :: tl) : ℚ) / (b : ℚ) ^ (r :: tl).length ∧
    (ofDigits b (r :: tl) : ℚ) / (b : ℚ) ^ (r :: tl).length < ((r : ℚ) + 1) / (b : ℚ) := by
  have hbq : (0 : ℚ) < (b : ℚ) := by exact_mod_cast hb
  have hbm : (0 : ℚ) < (b : ℚ) ^ tl.length := pow_pos hbq _
  have hT : (ofDigits b tl : ℚ) < (b : ℚ) ^ tl.length := by exact_mod_cast ofDigits_lt hb tl htl
  have e : (ofDigits b (r :: tl) : ℚ) / (b : ℚ) ^ (r :: tl).length =
      (r : ℚ) / (b : ℚ) + (ofDigits b tl : ℚ) / ((b : ℚ) ^ tl.length * (b : ℚ)) := by
    rw [ofDigits_cons, List.length_cons, pow_succ]
    push_cast
    rw [add_div, mul_comm (r : ℚ), mul_div_mul_left _ _ hbm.ne']
  rw [e, add_div, ← div_div (ofDigits b tl : ℚ)]
  constructor
  · exact le_add_of_nonneg_right (div_nonneg (div_nonneg (Nat.cast_nonneg _) hbm.le) hbq.le)
  · exact (add_lt_add_iff_left _).mpr (div_lt_div_of_pos_right ((div_lt_one hbm).mpr hT) hbq)

/-- get_str.c:253-291: within 3/4 of a unit of the nd-th digit (half a unit when rounding up; when the (nd+1)-th digit
    is below base/2 the tail is dropped, which for an odd base can exceed one half: (b+1)/(2b)) -/
theorem finish_round (b : ℕ) (hb : 2 ≤ b) (nd : ℕ) (ds : List ℕ) (x : ℤ)
    (hds : ∀ d ∈ ds, d < b) (hlen : nd < ds.length) :
    |digVal b (finish b nd ds x).1 (finish b nd ds x).2 - digVal b ds x| ≤ 3 / 4 * (b : ℚ) ^ (x - (nd : ℤ)) := by
  have hb1 : 1 ≤ b := by omega
  have hbq : (0 : ℚ) < (b : ℚ) := by exact_mod_cast hb1
  have hb2 : (2 : ℚ) ≤ (b : ℚ) := by exact_mod_cast hb
  have hu : (0 : ℚ) < (b : ℚ) ^ (x - (nd : ℤ)) := zpow_pos hbq _
  -- ds = head ++ rounding digit :: rest; its value is (H + f) units, f the fraction the tail denotes
  have hhd : (ds.take nd).length = nd := by rw [List.length_take]; omega
  have hval := digVal_append b hb1 (ds.take nd) (ds[nd] :: ds.drop (nd + 1)) x
  rw [← List.drop_eq_getElem_cons hlen, List.take_append_drop, hhd] at hval
  obtain ⟨flo, fhi⟩ := tail_frac b hb1 ds[nd] (ds.drop (nd + 1)) (fun d h => hds d (List.mem_of_mem_drop h))
  rw [← List.drop_eq_getElem_cons hlen] at flo fhi
  have hr : ((ds[nd] : ℕ) : ℚ) + 1 ≤ (b : ℚ) := by exact_mod_cast hds _ (List.getElem_mem hlen)
  have hhd_lt : ∀ d ∈ ds.take nd, d < b := fun d h => hds d (List.mem_of_mem_take h)
  rw [hval]
  unfold finish
  dsimp only
  rw [List.getD_eq_getElem?_getD, List.getElem?_eq_getElem hlen, Option.getD_some]
  generalize (ofDigits b (ds.drop nd) : ℚ) / (b : ℚ) ^ (ds.drop nd).length = f at *
  split
  · -- rounded up: (H + 1) - (H + f) = 1 - f ∈ (0, 1/2]
    rename_i hround
    have h2r : (b : ℚ) ≤ 2 * (ds[nd] : ℚ) := by exact_mod_cast hround.2
    have h1 : 1 / 2 ≤ (ds[nd] : ℚ) / (b : ℚ) := (le_div_iff₀ hbq).mpr (by linarith only [h2r])
    have h2 : ((ds[nd] : ℚ) + 1) / (b : ℚ) ≤ 1 := (div_le_one hbq).mpr hr
    rw [digVal_strip b hb1 _ _, (roundUp_spec b hb (ds.take nd) x hhd_lt).1, hhd, ← sub_mul, abs_mul, abs_of_pos hu,
      abs_of_nonneg (by linarith only [fhi, h2])]
    exact mul_le_mul_of_nonneg_right (by linarith only [flo, h1]) hu.le
  · -- tail dropped: f < (r + 1) / b ≤ ((b - 1) / 2 + 1) / b ≤ 3/4
    rename_i hround
    have h2r : 2 * (ds[nd] : ℚ) + 1 ≤ (b : ℚ) := by
      have : 2 * ds[nd] + 1 ≤ b := by omega
      exact_mod_cast this
    have h1 : ((ds[nd] : ℚ) + 1) / (b : ℚ) ≤ 3 / 4 := (div_le_iff₀ hbq).mpr (by linarith only [h2r, hb2])
    have h2 : 0 ≤ (ds[nd] : ℚ) / (b : ℚ) := div_nonneg (Nat.cast_nonneg _) hbq.le
    rw [digVal_strip b hb1 _ _, digVal, hhd, ← sub_mul, abs_mul, abs_of_pos hu,
      abs_of_nonpos (by linarith only [flo, h2])]
    exact mul_le_mul_of_nonneg_right (by linarith only [fhi, h1]) hu.le

theorem finish_short (b : ℕ) (hb : 1 ≤ b) (nd : ℕ) (ds : List ℕ) (x : ℤ) (hlen : ds.length ≤ nd) :
    digVal b (finish b nd ds x).1 (finish b nd ds x).2 = digVal b ds x := by
  unfold finish
  dsimp only
  rw [if_neg (by omega), List.take_of_length_le hlen]
  exact digVal_strip b hb ds x

end Mpir.MpfStr
