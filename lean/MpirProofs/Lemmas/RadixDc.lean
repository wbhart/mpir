/- C06 — helper lemmas for the divide-and-conquer conversions (models in Mpir/Model/RadixDc.lean). -/
import MpirProofs.Lemmas.Radix
import MpirProofs.Lemmas.RadixDcXn
import Mpir.Model.RadixDc
import Mathlib.Data.Nat.GCD.Basic
namespace Mpir.RadixDc
open Mpir Mpir.Radix

/-! ### limb vectors -/

theorem Limbs_replicate_zero (n : Nat) : Limbs (List.replicate n 0) := Mpir.Limbs_replicate_zero n

/-! ### mpn_dc_get_str -/

/-- what the table theorem establishes for one entry: the power `big_base^e` with its low zero limbs
    stripped, normalised, and the digit count -/
structure PowOk (b cpl : Nat) (pw : Pow) (e : Nat) : Prop where
  value : val pw.p * B ^ pw.shift = (b ^ cpl) ^ e
  dib : pw.dib = cpl * e
  limbs : Limbs pw.p
  ne : pw.p ≠ []
  top : pw.p.getLast! ≠ 0
  epos : 1 ≤ e

theorem PowOk.lower {b cpl e : Nat} {pw : Pow} (h : PowOk b cpl pw e) :
    B ^ (pw.p.length + pw.shift - 1) ≤ (b ^ cpl) ^ e := by
  have h1 := val_ge_of_top h.ne h.top
  have hl : 0 < pw.p.length := List.length_pos_iff.mpr h.ne
  rw [← h.value, show pw.p.length + pw.shift - 1 = (pw.p.length - 1) + pw.shift by omega, pow_add]
  exact Nat.mul_le_mul_right _ h1

theorem PowOk.upper {b cpl e : Nat} {pw : Pow} (h : PowOk b cpl pw e) :
    (b ^ cpl) ^ e < B ^ (pw.p.length + pw.shift) := by
  have h1 := val_lt pw.p h.limbs
  rw [← h.value, pow_add]
  exact Nat.mul_lt_mul_of_pos_right h1 (Nat.pow_pos B_pos)

/-- `powtab->n + powtab->shift` of consecutive entries: P ≤ P'^2 gives λ ≤ 2λ' -/
theorem PowOk.limbs_le {b cpl e e' : Nat} {pw pw' : Pow} (h : PowOk b cpl pw e) (h' : PowOk b cpl pw' e')
    (hb : 0 < b) (hee : e ≤ 2 * e') : pw.p.length + pw.shift ≤ 2 * (pw'.p.length + pw'.shift) := by
  have h1 := h.lower
  have h2 := h'.upper
  have h3 : (b ^ cpl) ^ e ≤ ((b ^ cpl) ^ e') ^ 2 := by
    rw [← pow_mul (b ^ cpl), Nat.mul_comm]; exact Nat.pow_le_pow_right (Nat.pow_pos hb) hee
  have h4 : ((b ^ cpl) ^ e') ^ 2 < (B ^ (pw'.p.length + pw'.shift)) ^ 2 := Nat.pow_lt_pow_left h2 (by omega)
  rw [← pow_mul B] at h4
  have := (Nat.pow_lt_pow_iff_right (by rw [B_eq]; omega : 1 < B)).mp (lt_of_le_of_lt (le_trans h1 h3) h4)
  omega

/-- a table entry from a number `t` with `t·B^sh = big_base^e`, stored with low zero limbs moved into the shift: what both
    strip loops (`stripLow_spec`, `stripLow2_spec`) establish is enough -/
theorem PowOk.of_stripped {b cpl e t sh sh' : Nat} {tl : List Nat} (hb : 2 ≤ b) (he : 1 ≤ e)
    (htv : t * B ^ sh = (b ^ cpl) ^ e)
    (h1 : val tl * B ^ sh' = val (natLimbs t) * B ^ sh) (h2 : ∀ x ∈ tl, x ∈ natLimbs t)
    (h3 : tl ≠ [] → tl.getLast! = (natLimbs t).getLast!) : PowOk b cpl ⟨tl, sh', cpl * e⟩ e := by
  have hDpos : 0 < (b ^ cpl) ^ e := Nat.pow_pos (Nat.pow_pos (by omega))
  have ht0 : t ≠ 0 := by intro h0; rw [h0] at htv; simp at htv; omega
  obtain ⟨_, ntop⟩ := natLimbs_top t ht0
  rw [val_natLimbs_eq, htv] at h1
  have tlne : tl ≠ [] := by intro h0; rw [h0] at h1; simp at h1; omega
  exact ⟨h1, rfl, fun x hx => Limbs_natLimbs t x (h2 x hx), tlne, by rw [h3 tlne]; exact ntop, he⟩

theorem sq_value {p sh D e : Nat} (hv : p * B ^ sh = D ^ e) : p * p * B ^ (2 * sh) = D ^ (2 * e) := by
  rw [Nat.mul_comm 2 e, pow_mul D, ← hv, Nat.mul_comm 2 sh, pow_mul B]; ring

/-- the table as mpn_dc_get_str walks it (current entry first, entry 0 last) with the exponents of big_base:
    entry 0 is big_base itself, each exponent is at most twice the next lower one -/
def GetTabOk (b cpl : Nat) : List Pow → List Nat → Prop
  | [pw], [e] => PowOk b cpl pw e ∧ e = 1
  | pw :: pw' :: tab, e :: e' :: es => PowOk b cpl pw e ∧ e ≤ 2 * e' ∧ GetTabOk b cpl (pw' :: tab) (e' :: es)
  | _, _ => False

/-- quotient and remainder as mpn_dc_get_str forms them (get_str.c:301-305) -/
def dcQ (pw : Pow) (u : List Nat) : List Nat :=
  let qfull := toLimbs (u.length - pw.shift - pw.p.length + 1) (val (u.drop pw.shift) / val pw.p)
  qfull.take (u.length - pw.shift - pw.p.length +
    (if qfull.getD (u.length - pw.shift - pw.p.length) 0 != 0 then 1 else 0))

def dcR (pw : Pow) (u : List Nat) : List Nat :=
  u.take pw.shift ++ toLimbs pw.p.length (val (u.drop pw.shift) % val pw.p)

theorem dcGetStr_cons (T base : Nat) (pw : Pow) (rest : List Pow) (len : Nat) (u : List Nat) :
    dcGetStr T base (pw :: rest) len u =
      if u.length < T then (if u.length != 0 then some (sbLen base len u) else some (List.replicate len 0))
      else if u.length < pw.p.length + pw.shift ∨
          (u.length = pw.p.length + pw.shift ∧ cmp (u.drop pw.shift) pw.p < 0) then dcGetStr T base rest len u
      else match dcGetStr T base rest (if len != 0 then len - pw.dib else len) (dcQ pw u),
                 dcGetStr T base rest pw.dib (dcR pw u) with
        | some a, some b => some (a ++ b)
        | _, _ => none := by
  rw [dcGetStr]; rfl

theorem take_top (l : List Nat) (N : Nat) (hl : l.length = N + 1) :
    (l.getD N 0 ≠ 0 → l.take (N + 1) = l ∧ l.getLast! = l.getD N 0) ∧
    (l.getD N 0 = 0 → val (l.take N) = val l ∧ l.take N = l.dropLast) := by
  have hne : l ≠ [] := by intro e; rw [e] at hl; simp at hl
  have hs := dropLast_getLast! l hne
  have hd : l.dropLast.length = N := by simp [hl]
  have ht : l.take N = l.dropLast := by
    conv_lhs => rw [← hs]
    rw [List.take_append_of_le_length (by omega), List.take_of_length_le (by omega)]
  have hg : l.getD N 0 = l.getLast! := by
    conv_lhs => rw [← hs]
    rw [List.getD_eq_getElem?_getD, List.getElem?_append_right (by omega), hd]; simp
  refine ⟨fun _ => ⟨List.take_of_length_le (by omega), hg.symm⟩, fun h0 => ⟨?_, ht⟩⟩
  rw [ht]
  conv_rhs => rw [← hs]
  rw [val_snoc, ← hg, h0]; simp

theorem dc_div_spec {b cpl e : Nat} {pw : Pow} (hok : PowOk b cpl pw e) {u : List Nat} (hu : Limbs u)
    (hlen : pw.p.length + pw.shift ≤ u.length) :
    val (dcQ pw u) = val u / (b ^ cpl) ^ e ∧ val (dcR pw u) = val u % (b ^ cpl) ^ e ∧
    Limbs (dcQ pw u) ∧ Limbs (dcR pw u) ∧ (dcR pw u).length = pw.p.length + pw.shift ∧
    ((dcQ pw u).length = u.length - (pw.p.length + pw.shift) ∨
     ((dcQ pw u).length = u.length - (pw.p.length + pw.shift) + 1 ∧ dcQ pw u ≠ [] ∧ (dcQ pw u).getLast! ≠ 0)) := by
  have hsplit := val_take_drop u pw.shift (by omega)
  have hlo := val_lt _ (Limbs_take hu pw.shift)
  have hhi := val_lt _ (Limbs_drop hu pw.shift)
  rw [List.length_take, Nat.min_eq_left (by omega)] at hlo
  rw [List.length_drop] at hhi
  have hPlo := val_ge_of_top hok.ne hok.top
  have hPhi := val_lt _ hok.limbs
  have hpl : 0 < pw.p.length := List.length_pos_iff.mpr hok.ne
  have hPpos : 0 < val pw.p := lt_of_lt_of_le (Nat.pow_pos B_pos) hPlo
  have hBs : 0 < B ^ pw.shift := Nat.pow_pos B_pos
  rw [← hok.value]
  generalize hlo' : val (u.take pw.shift) = lo at *
  generalize hhi' : val (u.drop pw.shift) = hi at *
  generalize hPp : val pw.p = Pp at *
  -- quotient and remainder of the whole number
  have hdm := Nat.div_add_mod hi Pp
  have hml := Nat.mod_lt hi hPpos
  have hqr : val u / (Pp * B ^ pw.shift) = hi / Pp ∧ val u % (Pp * B ^ pw.shift) = lo + B ^ pw.shift * (hi % Pp) := by
    rw [Nat.div_mod_unique (Nat.mul_pos hPpos hBs)]
    constructor
    · rw [hsplit]; linear_combination B ^ pw.shift * hdm
    · rw [Nat.mul_comm Pp]; exact add_mul_lt hlo hml
  -- the quotient fits un - sn - pwn + 1 limbs
  have hqfit : hi / Pp < B ^ (u.length - pw.shift - pw.p.length + 1) := by
    have e1 : B ^ (u.length - pw.shift) = B ^ (u.length - pw.shift - pw.p.length + 1) * B ^ (pw.p.length - 1) := by
      rw [← pow_add]; congr 1; omega
    have h1 : hi / Pp * B ^ (pw.p.length - 1) ≤ hi / Pp * Pp := Nat.mul_le_mul_left _ hPlo
    have h2 : hi / Pp * Pp ≤ hi := Nat.div_mul_le_self _ _
    rw [e1] at hhi
    exact Nat.lt_of_mul_lt_mul_right (lt_of_le_of_lt (le_trans h1 h2) hhi)
  have hN : u.length - (pw.p.length + pw.shift) = u.length - pw.shift - pw.p.length := by omega
  have hqv := val_toLimbs_lt _ _ hqfit
  have hql := toLimbs_length (u.length - pw.shift - pw.p.length + 1) (hi / Pp)
  have hqL := Limbs_toLimbs (u.length - pw.shift - pw.p.length + 1) (hi / Pp)
  obtain ⟨t1, t2⟩ := take_top _ _ hql
  have hrv : val (dcR pw u) = lo + B ^ pw.shift * (hi % Pp) := by
    unfold dcR
    rw [val_append, List.length_take, Nat.min_eq_left (by omega), hlo', hhi', hPp,
      val_toLimbs_lt _ _ (lt_trans hml hPhi)]
  have hrL : Limbs (dcR pw u) := Limbs_append.mpr ⟨Limbs_take hu _, Limbs_toLimbs _ _⟩
  have hrl : (dcR pw u).length = pw.p.length + pw.shift := by
    unfold dcR; rw [List.length_append, List.length_take, toLimbs_length]; omega
  unfold dcQ
  simp only [hhi', hPp]
  generalize toLimbs (u.length - pw.shift - pw.p.length + 1) (hi / Pp) = qf at *
  by_cases htop : qf.getD (u.length - pw.shift - pw.p.length) 0 = 0
  · obtain ⟨v1, v2⟩ := t2 htop
    have hc : (qf.getD (u.length - pw.shift - pw.p.length) 0 != 0) = false := by rw [htop]; rfl
    simp only [hc, Bool.false_eq_true, if_false, Nat.add_zero]
    refine ⟨by rw [v1, hqv, hqr.1], by rw [hrv, hqr.2], Limbs_take hqL _, hrL, hrl, Or.inl ?_⟩
    rw [List.length_take, hql]; omega
  · obtain ⟨v1, v2⟩ := t1 htop
    have hc : (qf.getD (u.length - pw.shift - pw.p.length) 0 != 0) = true := by simpa using htop
    simp only [hc, if_true]
    rw [v1]
    refine ⟨by rw [hqv, hqr.1], by rw [hrv, hqr.2], hqL, hrL, hrl, Or.inr ⟨by rw [hql]; omega, ?_, by rw [v2]; exact htop⟩⟩
    intro e0; rw [e0] at hql; simp at hql

theorem GetTabOk.head {b cpl : Nat} {pw : Pow} {rest : List Pow} {e : Nat} {es : List Nat}
    (h : GetTabOk b cpl (pw :: rest) (e :: es)) : PowOk b cpl pw e := by
  cases rest with
  | nil => cases es with
    | nil => exact h.1
    | cons _ _ => simp [GetTabOk] at h
  | cons _ _ => cases es with
    | nil => simp [GetTabOk] at h
    | cons _ _ => exact h.1

theorem pow_le_sq {D e e' : Nat} (hD : 0 < D) (hee : e ≤ 2 * e') : D ^ e ≤ (D ^ e') ^ 2 := by
  rw [← pow_mul, Nat.mul_comm]; exact Nat.pow_le_pow_right hD hee

/-- `B^m·B^λ ≤ Y·P` with `P < B^λ` leaves `B^m ≤ Y` -/
theorem le_of_pow_mul_le {Y P lam m : Nat} (hPhi : P < B ^ lam) (h : B ^ (m + lam) ≤ Y * P) : B ^ m ≤ Y := by
  by_contra hcon
  have hP : 0 < P := Nat.pos_of_ne_zero fun h0 => by
    rw [h0, Nat.mul_zero] at h; exact absurd h (Nat.not_le.mpr (Nat.pow_pos B_pos))
  have h4 : (Y + 1) * P ≤ B ^ m * B ^ lam := Nat.mul_le_mul (by omega) (Nat.le_of_lt hPhi)
  rw [← pow_add, Nat.add_mul, Nat.one_mul] at h4
  omega

-- stated outside `dcGetStr_pad`: `omega` on these in its forty-odd hypotheses is slow
theorem max_sub_add {a c d : Nat} (h : d < max a c) : max (a - d) (c - d) + d = max a c := by omega

theorem sub_sub_one_add {n l : Nat} (h : l < n) : n - l - 1 + l = n - 1 := by omega

theorem dc_leaf_pad {b cpl : Nat} (hb : 2 ≤ b) (hbb : b ^ cpl < B)
    (hsb : ∀ u : List Nat, Limbs u → u ≠ [] → sb_get_str b u = padDigits b (cpl * (u.length - 1)) (val u))
    (len : Nat) (u : List Nat) (hu : Limbs u) (hH : B ^ (u.length - 1) ≤ b ^ (padDigits b len (val u)).length) :
    (if u.length != 0 then some (sbLen b len u) else some (List.replicate len 0)) = some (padDigits b len (val u)) := by
  cases u with
  | nil => simp [padDigits_zero]
  | cons x xs =>
    have hpw : b ^ (cpl * ((x :: xs).length - 1)) ≤ B ^ ((x :: xs).length - 1) := by
      rw [pow_mul]; exact Nat.pow_le_pow_left (Nat.le_of_lt hbb) _
    rw [if_pos (by simp), sbLen, hsb _ hu (by simp), replicate_pad,
      padDigits_max ((Nat.pow_le_pow_iff_right (by omega)).mp (le_trans hpw hH))]

/-- The capacity hypotheses (`u < P²·B^(T-3)`, `un ≤ 2(n+shift) + T-3`) keep the C inside the table.  The one invariant of
    the recursion is that the limb count is justified by the digits written, `B^(un-1) ≤ b^(number of digits)`: a normalised
    operand has it for LEN = 0, and `B^(un-1) ≤ b^LEN` gives it otherwise.  With `u < b^LEN` for LEN ≠ 0 every split has
    `digits_in_base < LEN`, so the C's `size_t` subtraction `len - digits_in_base` never wraps. -/
theorem dcGetStr_pad {b cpl T : Nat} (hb : 2 ≤ b) (hcpl : 0 < cpl) (hbb : b ^ cpl < B) (hT : 3 ≤ T)
    (hsb : ∀ u : List Nat, Limbs u → u ≠ [] → sb_get_str b u = padDigits b (cpl * (u.length - 1)) (val u)) :
    ∀ (rest : List Pow) (es : List Nat) (pw : Pow) (e : Nat), GetTabOk b cpl (pw :: rest) (e :: es) →
    ∀ (len : Nat) (u : List Nat), Limbs u →
      u.length ≤ 2 * (pw.p.length + pw.shift) + (T - 3) →
      val u < ((b ^ cpl) ^ e) ^ 2 * B ^ (T - 3) →
      (len ≠ 0 → val u < b ^ len) →
      B ^ (u.length - 1) ≤ b ^ (padDigits b len (val u)).length →
      dcGetStr T b (pw :: rest) len u = some (padDigits b len (val u)) := by
  have hB1 : 1 < B := by rw [B_eq]; omega
  have hDpos : 0 < b ^ cpl := Nat.pow_pos (by omega)
  intro rest
  induction rest with
  | nil =>
    intro es pw e htab len u hu hcap _ _ hH
    cases es with
    | cons _ _ => simp [GetTabOk] at htab
    | nil =>
    obtain ⟨hok, he⟩ := htab
    subst he
    rw [dcGetStr_cons]
    have hlam : pw.p.length + pw.shift = 1 := by
      have lo := hok.lower
      simp only [pow_one] at lo
      have h2 : B ^ (pw.p.length + pw.shift - 1) < B ^ 1 := by simpa using lt_of_le_of_lt lo hbb
      have := (Nat.pow_lt_pow_iff_right hB1).mp h2
      have hl : 0 < pw.p.length := List.length_pos_iff.mpr hok.ne
      omega
    rw [if_pos (by omega)]
    exact dc_leaf_pad hb hbb hsb len u hu hH
  | cons pw' tab ih =>
    intro es pw e htab len u hu hcap hval hlen hH
    cases es with
    | nil => simp [GetTabOk] at htab
    | cons e' es' =>
    obtain ⟨hok, hee, htab'⟩ := htab
    have hok' := htab'.head
    have hll := hok.limbs_le hok' (by omega) hee
    have hPP := pow_le_sq (e := e) (e' := e') hDpos hee
    have hPlo := hok.lower
    have hPhi := hok.upper
    have hPb : (b ^ cpl) ^ e = b ^ pw.dib := by rw [hok.dib, pow_mul]
    have hdibpos : pw.dib ≠ 0 := by
      rw [hok.dib]; exact Nat.mul_ne_zero (by omega) (by have := hok.epos; omega)
    have hPpos : 0 < (b ^ cpl) ^ e := Nat.pow_pos hDpos
    have hsplit0 := hok.value
    rw [dcGetStr_cons]
    by_cases hlt : u.length < T
    · rw [if_pos hlt]; exact dc_leaf_pad hb hbb hsb len u hu hH
    rw [if_neg hlt]
    by_cases hft : u.length < pw.p.length + pw.shift ∨
        (u.length = pw.p.length + pw.shift ∧ cmp (u.drop pw.shift) pw.p < 0)
    · -- u < P: the same operand with the next lower power
      rw [if_pos hft]
      have hsmall : val u < (b ^ cpl) ^ e ∧ u.length ≤ pw.p.length + pw.shift := by
        rcases hft with h | ⟨h, hc⟩
        · refine ⟨?_, by omega⟩
          have h1 := val_lt u hu
          have h2 : B ^ u.length ≤ B ^ (pw.p.length + pw.shift - 1) := Nat.pow_le_pow_right B_pos (by omega)
          omega
        · refine ⟨?_, by omega⟩
          have hdl : (u.drop pw.shift).length = pw.p.length := by rw [List.length_drop]; omega
          have hc' := (cmp_lt_iff _ _ (Limbs_drop hu _) hok.limbs hdl).mp hc
          have hs := val_take_drop u pw.shift (by omega)
          have hlo := val_lt _ (Limbs_take hu pw.shift)
          rw [List.length_take, Nat.min_eq_left (by omega)] at hlo
          rw [← hsplit0, hs]
          have h3 : B ^ pw.shift * (val (u.drop pw.shift) + 1) ≤ B ^ pw.shift * val pw.p :=
            Nat.mul_le_mul_left _ hc'
          rw [Nat.mul_add, Nat.mul_one] at h3
          rw [Nat.mul_comm (val pw.p)]
          omega
      have hBT : 0 < B ^ (T - 3) := Nat.pow_pos B_pos
      exact ih es' pw' e' htab' len u hu (by omega)
        (lt_of_lt_of_le hsmall.1 (le_trans hPP (Nat.le_mul_of_pos_right _ hBT))) hlen hH
    · rw [if_neg hft]
      have hge : pw.p.length + pw.shift ≤ u.length := by
        by_contra hcon; exact hft (Or.inl (by omega))
      -- un = λ: the comparison says u ≥ P
      have hgeP : u.length = pw.p.length + pw.shift → (b ^ cpl) ^ e ≤ val u := by
        intro heq
        have hdl : (u.drop pw.shift).length = pw.p.length := by rw [List.length_drop]; omega
        have hc' : ¬ val (u.drop pw.shift) < val pw.p := fun h =>
          hft (Or.inr ⟨heq, (cmp_lt_iff _ _ (Limbs_drop hu _) hok.limbs hdl).mpr h⟩)
        have hs := val_take_drop u pw.shift (by omega)
        rw [← hsplit0, hs]
        have h3 : B ^ pw.shift * val pw.p ≤ B ^ pw.shift * val (u.drop pw.shift) :=
          Nat.mul_le_mul_left _ (by omega)
        rw [Nat.mul_comm (val pw.p)]
        omega
      obtain ⟨qv, rv, qL, rL, rl, ql⟩ := dc_div_spec hok hu (by omega)
      have hlen' : (if (len != 0) = true then len - pw.dib else len) = len - pw.dib := by
        by_cases hl : len = 0
        · subst hl; simp
        · rw [if_pos (by simpa using hl)]
      rw [hlen']
      -- everything in terms of P = b^dib, M = number of digits written, L = number of digits of u
      rw [hPb] at qv rv hgeP hPlo hPhi hval hPP
      have hlenq : len - pw.dib ≠ 0 → val (dcQ pw u) < b ^ (len - pw.dib) := by
        intro h
        rw [qv]; apply Nat.div_lt_of_lt_mul
        rw [← pow_add, Nat.add_sub_cancel' (Nat.le_of_lt (Nat.lt_of_sub_ne_zero h))]
        exact hlen fun h0 => h (by rw [h0, Nat.zero_sub])
      rw [padDigits_length] at hH
      have hLq := digitsOf_length_div hb pw.dib (val u)
      have hvL := lt_pow_digitsOf_length hb (val u)
      have hLle : val u < b ^ pw.dib → (digitsOf b (val u)).length ≤ pw.dib := digitsOf_length_le hb
      have hdm := Nat.div_add_mod' (val u) (b ^ pw.dib)
      have hml := Nat.mod_lt (val u) (Nat.pow_pos (by omega) : 0 < b ^ pw.dib)
      generalize hL : (digitsOf b (val u)).length = L at *
      generalize hlam : pw.p.length + pw.shift = lam at *
      generalize hlam' : pw'.p.length + pw'.shift = lam' at *
      -- un > λ: more digits are written than the power has
      have hbig : lam < u.length → pw.dib < max len L := by
        intro h
        have h1 : B ^ lam ≤ B ^ (u.length - 1) := Nat.pow_le_pow_right B_pos (by omega)
        exact (Nat.pow_lt_pow_iff_right (by omega)).mp (lt_of_lt_of_le hPhi (le_trans h1 hH))
      -- when the quotient is converted without padding it is not zero
      have hPu : len ≤ pw.dib → b ^ pw.dib ≤ val u := by
        intro hl
        rcases Nat.lt_or_ge lam u.length with h | h
        · by_contra hcon
          have := hLle (by omega); have := hbig h; omega
        · exact hgeP (by omega)
      have hQlt : val u / b ^ pw.dib < b ^ pw.dib * B ^ (T - 3) := by
        apply Nat.div_lt_of_lt_mul
        calc val u < (b ^ pw.dib) ^ 2 * B ^ (T - 3) := hval
          _ = b ^ pw.dib * (b ^ pw.dib * B ^ (T - 3)) := by ring
      have capq : (dcQ pw u).length ≤ 2 * lam' + (T - 3) := by
        rcases ql with ql | ⟨ql, qne, qtop⟩
        · omega
        · have : val (dcQ pw u) < B ^ (lam + (T - 3)) := by
            rw [qv, pow_add]
            exact lt_of_lt_of_le hQlt (Nat.mul_le_mul_right _ (Nat.le_of_lt hPhi))
          have := ((normalized_iff_getLast! qne).mpr qtop).length_le qL this
          omega
      have valq : val (dcQ pw u) < ((b ^ cpl) ^ e') ^ 2 * B ^ (T - 3) := by
        rw [qv]; exact lt_of_lt_of_le hQlt (Nat.mul_le_mul_right _ hPP)
      have hHq : B ^ ((dcQ pw u).length - 1) ≤ b ^ (padDigits b (len - pw.dib) (val (dcQ pw u))).length := by
        rw [padDigits_length, qv, hLq]
        rcases ql with ql | ⟨_, qne, qtop⟩
        · rw [ql]
          rcases Nat.lt_or_ge lam u.length with h | h
          · have hd := hbig h
            refine le_of_pow_mul_le hPhi ?_
            rw [← pow_add, sub_sub_one_add h, max_sub_add hd]
            exact hH
          · rw [Nat.sub_eq_zero_of_le (by omega)]
            exact Nat.pow_pos (by omega)
        · have h1 := val_ge_of_top qne qtop
          have h2 := lt_pow_digitsOf_length hb (val (dcQ pw u))
          rw [qv, hLq] at h2
          have h3 : b ^ (L - pw.dib) ≤ b ^ max (len - pw.dib) (L - pw.dib) :=
            Nat.pow_le_pow_right (by omega) (Nat.le_max_right _ _)
          rw [qv] at h1; omega
      have IHq := ih es' pw' e' htab' (len - pw.dib) (dcQ pw u) qL (by rw [hlam']; exact capq) valq hlenq hHq
      have hHr : B ^ ((dcR pw u).length - 1) ≤ b ^ (padDigits b pw.dib (val (dcR pw u))).length := by
        rw [padDigits_length, rl]
        exact le_trans hPlo (Nat.pow_le_pow_right (by omega) (Nat.le_max_left _ _))
      have IHr := ih es' pw' e' htab' pw.dib (dcR pw u) rL (by omega)
        (by rw [rv]
            have hBT : 0 < B ^ (T - 3) := Nat.pow_pos B_pos
            exact lt_of_lt_of_le hml (le_trans hPP (Nat.le_mul_of_pos_right _ hBT)))
        (fun _ => by rw [rv]; exact hml) hHr
      rw [IHq, IHr]
      simp only []
      congr 1
      rw [qv, rv, ← fixedDigits_eq_pad hb hml, pad_append_fixed hb _ _ _ _ hml, hdm]
      rcases Nat.lt_or_ge len pw.dib with h | h
      · have := hPu (by omega)
        have hd : pw.dib ≤ (digitsOf b (val u)).length := by
          by_contra hcon
          have := lt_pow_digitsOf_length hb (val u)
          have : b ^ (digitsOf b (val u)).length ≤ b ^ pw.dib := Nat.pow_le_pow_right (by omega) (by omega)
          omega
        rw [Nat.sub_eq_zero_of_le (Nat.le_of_lt h), Nat.zero_add, padDigits_of_le hd,
          padDigits_of_le (le_trans (Nat.le_of_lt h) hd)]
      · rw [Nat.sub_add_cancel h]

/-! ### the table of powers of mpn_get_str -/

theorem expAscGo_acc : ∀ (pn : Nat) (acc : List Nat), expAscGo pn acc = expAscGo pn [] ++ acc := by
  intro pn
  induction pn using Nat.strong_induction_on with
  | _ pn ih =>
    intro acc
    rw [expAscGo]; conv_rhs => rw [expAscGo]
    split
    · simp
    · rw [ih _ (by omega) (pn :: acc), ih _ (by omega) [pn]]; simp

theorem expAsc_step {pn : Nat} (h : 2 ≤ pn) : expAsc pn = expAsc ((pn + 1) / 2) ++ [pn] := by
  unfold expAsc; rw [expAscGo, dif_neg (by omega)]; exact expAscGo_acc _ [pn]

theorem expAsc_small {pn : Nat} (h : pn ≤ 1) : expAsc pn = [] := by
  unfold expAsc; rw [expAscGo, dif_pos h]

/-- ascending exponent chain: every entry is at least 2 and the one before it is its rounded-up half -/
def AscOk : Nat → List Nat → Prop
  | _, [] => True
  | prev, e :: l => 2 ≤ e ∧ prev = (e + 1) / 2 ∧ AscOk e l

theorem AscOk_snoc : ∀ (l : List Nat) (prev x : Nat), AscOk prev l → 2 ≤ x → l.getLastD prev = (x + 1) / 2 →
    AscOk prev (l ++ [x])
  | [], prev, x, _, hx, hl => by
    simp only [List.getLastD_nil] at hl
    exact ⟨hx, hl, trivial⟩
  | e :: l, prev, x, h, hx, hl => by
    obtain ⟨h1, h2, h3⟩ := h
    rw [List.getLastD_cons] at hl
    exact ⟨h1, h2, AscOk_snoc l e x h3 hx hl⟩

theorem expAsc_ok : ∀ pn : Nat, AscOk 1 (expAsc pn) ∧ (1 ≤ pn → (expAsc pn).getLastD 1 = pn) := by
  intro pn
  induction pn using Nat.strong_induction_on with
  | _ pn ih =>
    rcases Nat.lt_or_ge pn 2 with h | h
    · rw [expAsc_small (by omega)]
      exact ⟨trivial, fun h1 => by simp; omega⟩
    · obtain ⟨a1, a2⟩ := ih ((pn + 1) / 2) (by omega)
      rw [expAsc_step h]
      refine ⟨AscOk_snoc _ _ _ a1 h (a2 (by omega)), fun _ => ?_⟩
      simp

theorem stripLow_zero (xs : List Nat) (sh : Nat) : stripLow (0 :: xs) sh = stripLow xs (sh + 1) := by
  rw [stripLow]

theorem stripLow_succ (n : Nat) (xs : List Nat) (sh : Nat) : stripLow ((n + 1) :: xs) sh = ((n + 1) :: xs, sh) := by
  rw [stripLow]; intro rest h; simp at h

theorem getLast!_cons_cons (x y : Nat) (l : List Nat) : (x :: y :: l).getLast! = (y :: l).getLast! := by
  simp [List.getLast!]

theorem stripLow_spec : ∀ (l : List Nat) (sh : Nat),
    val (stripLow l sh).1 * B ^ (stripLow l sh).2 = val l * B ^ sh ∧ (∀ x ∈ (stripLow l sh).1, x ∈ l) ∧
    ((stripLow l sh).1 ≠ [] → (stripLow l sh).1.getLast! = l.getLast!)
  | [], sh => by simp [stripLow]
  | 0 :: xs, sh => by
    rw [stripLow_zero]
    obtain ⟨h1, h2, h3⟩ := stripLow_spec xs (sh + 1)
    refine ⟨?_, fun x hx => List.mem_cons_of_mem _ (h2 x hx), fun hne => ?_⟩
    · rw [h1, val_cons, pow_succ]; ring
    · rw [h3 hne]
      cases xs with
      | nil => simp [stripLow] at hne
      | cons y ys => rw [getLast!_cons_cons]
  | (n + 1) :: xs, sh => by
    rw [stripLow_succ]; exact ⟨rfl, fun x hx => hx, fun _ => rfl⟩

/-- one squaring round leaves the power with exponent `e - 1` (the final multiplication brings it to `e`) -/
theorem getPowLoop_ok {b cpl : Nat} (hb : 2 ≤ b) :
    ∀ (targets p : List Nat) (bexp shift dib : Nat), Limbs p → p ≠ [] → p.getLast! ≠ 0 →
      val p * B ^ shift = (b ^ cpl) ^ bexp → dib = cpl * bexp → 1 ≤ bexp → AscOk (bexp + 1) targets →
      List.Forall₂ (fun pw e => PowOk b cpl pw (e - 1)) (getPowLoop (b ^ cpl) cpl targets p bexp shift dib) targets
  | [], _, _, _, _, _, _, _, _, _, _, _ => by simp [getPowLoop]
  | e :: es, p, bexp, shift, dib, hp, hne, htop, hv, hd, hb1, hasc => by
    obtain ⟨he2, hprev, hasc'⟩ := hasc
    have hDpos : 0 < b ^ cpl := Nat.pow_pos (by omega)
    have hppos : 0 < val p := lt_of_lt_of_le (Nat.pow_pos B_pos) (val_ge_of_top hne htop)
    rw [getPowLoop]
    simp only []
    -- the new value and exponent
    have key : ∃ t : Nat, t * B ^ (2 * shift) = (b ^ cpl) ^ (e - 1) ∧
        (if decide (2 * bexp + 1 < e) = true then val p * val p * b ^ cpl else val p * val p) = t ∧
        (if decide (2 * bexp + 1 < e) = true then 2 * dib + cpl else 2 * dib) = cpl * (e - 1) ∧
        (if decide (2 * bexp + 1 < e) = true then 2 * bexp + 1 else 2 * bexp) = e - 1 := by
      have hsq := sq_value hv
      by_cases hadj : 2 * bexp + 1 < e
      · have he : e - 1 = 2 * bexp + 1 := by omega
        refine ⟨val p * val p * b ^ cpl, ?_, by simp [hadj], ?_, by simp [hadj]; omega⟩
        · rw [he, pow_succ, ← hsq]; ring
        · simp only [hadj, decide_true, if_true]; rw [he, hd]; ring
      · have he : e - 1 = 2 * bexp := by omega
        refine ⟨val p * val p, ?_, by simp [hadj], ?_, by simp [hadj]; omega⟩
        · rw [he, ← hsq]
        · simp only [hadj, decide_false, Bool.false_eq_true, if_false]; rw [he, hd]; ring
    obtain ⟨t, htv, e1, e2, e3⟩ := key
    rw [e1, e2, e3]
    obtain ⟨s1, s2, s3⟩ := stripLow_spec (natLimbs t) (2 * shift)
    generalize hst : stripLow (natLimbs t) (2 * shift) = st at *
    obtain ⟨tl, sh'⟩ := st
    simp only at s1 s2 s3 ⊢
    have hnew := PowOk.of_stripped hb (by omega : 1 ≤ e - 1) htv s1 s2 s3
    refine List.Forall₂.cons hnew ?_
    exact getPowLoop_ok hb es tl (e - 1) sh' (cpl * (e - 1)) hnew.limbs hnew.ne hnew.top hnew.value rfl (by omega)
      (by rw [show e - 1 + 1 = e by omega]; exact hasc')

theorem finalMul_ok {b cpl e : Nat} (hb : 2 ≤ b) {pw : Pow} (h : PowOk b cpl pw e) :
    PowOk b cpl (finalMul (b ^ cpl) cpl pw) (e + 1) := by
  have hDpos : 0 < b ^ cpl := Nat.pow_pos (by omega)
  have hppos : 0 < val pw.p := lt_of_lt_of_le (Nat.pow_pos B_pos) (val_ge_of_top h.ne h.top)
  have ht0 : val pw.p * b ^ cpl ≠ 0 := Nat.mul_ne_zero (by omega) (by omega)
  have nL := Limbs_natLimbs (val pw.p * b ^ cpl)
  obtain ⟨nne, ntop⟩ := natLimbs_top _ ht0
  have hval : val (natLimbs (val pw.p * b ^ cpl)) * B ^ pw.shift = (b ^ cpl) ^ (e + 1) := by
    rw [val_natLimbs_eq, pow_succ, ← h.value]; ring
  have hdib : pw.dib + cpl = cpl * (e + 1) := by rw [h.dib]; ring
  unfold finalMul
  split
  · rename_i rest heq
    rw [heq] at hval nL ntop
    have rne : rest ≠ [] := by
      intro h0; rw [h0] at hval; simp at hval
      have := Nat.pow_pos (n := e + 1) hDpos; omega
    refine ⟨?_, hdib, (Limbs_cons.mp nL).2, rne, ?_, by omega⟩
    · simp only; rw [← hval, val_cons, pow_succ]; ring
    · simp only
      cases rest with
      | nil => exact absurd rfl rne
      | cons y ys => rw [getLast!_cons_cons] at ntop; exact ntop
  · exact ⟨hval, hdib, nL, nne, ntop, by omega⟩

/-- the exponents of big_base in powtab[0], powtab[1], …: `1, exptab[n_pows-1], …, exptab[1]` -/
def getExps (xn : Nat) : List Nat := 1 :: (expAsc xn).dropLast

theorem p0_ok {b cpl : Nat} (hb : 2 ≤ b) (hbb : b ^ cpl < B) : PowOk b cpl ⟨[b ^ cpl], 0, cpl⟩ 1 := by
  have hDpos : 0 < b ^ cpl := Nat.pow_pos (by omega)
  refine ⟨by simp, by simp, ?_, by simp, ?_, by omega⟩
  · exact Limbs_cons.mpr ⟨hbb, Limbs_nil⟩
  · simp [List.getLast!]; omega

/-- every entry of the table mpn_get_str builds is the exact power it stands for -/
theorem getPowtabX_ok {b cpl : Nat} (hb : 2 ≤ b) (hbb : b ^ cpl < B) (xn : Nat) :
    List.Forall₂ (PowOk b cpl) (getPowtabX (b ^ cpl) cpl xn) (getExps xn) := by
  have hp0 := p0_ok (cpl := cpl) hb hbb
  obtain ⟨hasc, _⟩ := expAsc_ok xn
  unfold getPowtabX getExps
  rcases Nat.lt_or_ge xn 2 with hx | hx
  · rw [expAsc_small (by omega)]
    exact List.Forall₂.cons hp0 List.Forall₂.nil
  · rw [expAsc_step hx] at hasc ⊢
    rw [List.dropLast_concat]
    obtain ⟨hasc', _⟩ := expAsc_ok ((xn + 1) / 2)
    generalize expAsc ((xn + 1) / 2) = body at *
    cases body with
    | nil => exact List.Forall₂.cons hp0 List.Forall₂.nil
    | cons e1 targets =>
      obtain ⟨h2, h1, hch⟩ := hasc'
      have he1 : e1 = 2 := by omega
      subst he1
      refine List.Forall₂.cons hp0 ?_
      simp only [List.map_cons]
      refine List.Forall₂.cons (finalMul_ok hb hp0) ?_
      have hloop := getPowLoop_ok (cpl := cpl) hb targets [b ^ cpl] 1 0 cpl hp0.limbs hp0.ne hp0.top
        (by simp) (by simp) (by omega) hch
      -- map finalMul over the loop entries
      have : ∀ (l : List Pow) (es : List Nat), (∀ e ∈ es, 1 ≤ e) →
          List.Forall₂ (fun pw e => PowOk b cpl pw (e - 1)) l es →
          List.Forall₂ (PowOk b cpl) (l.map (finalMul (b ^ cpl) cpl)) es := by
        intro l es hes hf
        induction hf with
        | nil => exact List.Forall₂.nil
        | @cons pw e l' es' h _ ih =>
          refine List.Forall₂.cons ?_ (ih (fun e he => hes e (List.mem_cons_of_mem _ he)))
          have := finalMul_ok hb h
          rwa [show e - 1 + 1 = e by have := hes e (List.mem_cons_self ..); omega] at this
      refine this _ _ ?_ hloop
      -- every target is at least 2
      have hge : ∀ (l : List Nat) (prev : Nat), AscOk prev l → ∀ e ∈ l, 1 ≤ e := by
        intro l
        induction l with
        | nil => intro _ _ e he; cases he
        | cons x xs ih =>
          intro prev h e he
          rcases List.mem_cons.mp he with rfl | he'
          · have := h.1; omega
          · exact ih x h.2.2 e he'
      exact hge targets 2 hch

/-- consecutive exponents at most double -/
def AscChain : Nat → List Nat → Prop
  | _, [] => True
  | prev, e :: l => e ≤ 2 * prev ∧ AscChain e l

theorem AscOk.chain : ∀ (l : List Nat) (prev : Nat), AscOk prev l → AscChain prev l
  | [], _, _ => trivial
  | e :: l, prev, h => ⟨by have := h.2.1; omega, AscOk.chain l e h.2.2⟩

theorem getTabOk_rev {b cpl : Nat} : ∀ (tab : List Pow) (es : List Nat) (pwh : Pow) (eh : Nat) (accT : List Pow)
    (accE : List Nat), GetTabOk b cpl (pwh :: accT) (eh :: accE) → List.Forall₂ (PowOk b cpl) tab es →
    AscChain eh es → ∃ pw rest e es', tab.reverse ++ pwh :: accT = pw :: rest ∧ es.reverse ++ eh :: accE = e :: es' ∧
      GetTabOk b cpl (pw :: rest) (e :: es') ∧ e = es.getLastD eh
  | [], es, pwh, eh, accT, accE, hacc, hf, _ => by
    cases hf
    exact ⟨pwh, accT, eh, accE, rfl, rfl, hacc, rfl⟩
  | pw :: tab, es, pwh, eh, accT, accE, hacc, hf, hch => by
    cases hf with
    | cons h hf' =>
      rename_i e es1
      obtain ⟨c1, c2⟩ := hch
      have hacc' : GetTabOk b cpl (pw :: pwh :: accT) (e :: eh :: accE) := ⟨h, c1, hacc⟩
      obtain ⟨pw2, rest, e2, es2, r1, r2, r3, r4⟩ := getTabOk_rev tab es1 pw e (pwh :: accT) (eh :: accE) hacc' hf' c2
      refine ⟨pw2, rest, e2, es2, ?_, ?_, r3, ?_⟩
      · rw [List.reverse_cons, List.append_assoc]; exact r1
      · rw [List.reverse_cons, List.append_assoc]; exact r2
      · rw [r4, List.getLastD_cons]

/-- the table as mpn_dc_get_str receives it (top entry first) is a table of exact powers with exponents at
    most doubling from entry to entry, entry 0 = big_base, and the top power is at least big_base^(xn/2) -/
theorem getPowtab_rev_ok {b cpl : Nat} (hb : 2 ≤ b) (hbb : b ^ cpl < B) (xn : Nat) :
    ∃ pw rest e es, (getPowtabX (b ^ cpl) cpl xn).reverse = pw :: rest ∧ GetTabOk b cpl (pw :: rest) (e :: es) ∧
      xn ≤ 2 * e := by
  have hall := getPowtabX_ok hb hbb xn
  obtain ⟨hasc, hlast⟩ := expAsc_ok xn
  unfold getExps at hall
  generalize getPowtabX (b ^ cpl) cpl xn = tab at *
  cases hall with
  | cons h0 hrest =>
    rename_i pw0 tab'
    -- the chain 1 :: dropLast
    have hchain : AscChain 1 (expAsc xn).dropLast ∧ xn ≤ 2 * (expAsc xn).dropLast.getLastD 1 := by
      rcases Nat.lt_or_ge xn 2 with hx | hx
      · rw [expAsc_small (by omega)]; exact ⟨trivial, by simp; omega⟩
      · rw [expAsc_step hx, List.dropLast_concat]
        obtain ⟨b1, b2⟩ := expAsc_ok ((xn + 1) / 2)
        exact ⟨AscOk.chain _ _ b1, by rw [b2 (by omega)]; omega⟩
    have hbase : GetTabOk b cpl [pw0] [1] := ⟨h0, rfl⟩
    obtain ⟨pw, rest, e, es, r1, _, r3, r4⟩ := getTabOk_rev tab' _ pw0 1 [] [] hbase hrest hchain.1
    refine ⟨pw, rest, e, es, ?_, r3, by rw [r4]; exact hchain.2⟩
    rw [List.reverse_cons]; exact r1

/-! ### mpn_get_str, all sizes -/

theorem get_str_dc_branch {b : Nat} (hb : 2 ≤ b) (hb62 : b ≤ 62) (hok : NonPow2Ok b) (h10 : Base10Ok)
    (hx : XnOk b) (hbig : 2 ^ (sibHint b).2.2.2.2.2 < b ^ (sibHint b).2.2.2.2.1)
    (T : Nat) (hT : 4 ≤ T) (up : List Nat) (hu : Limbs up) (hne : up ≠ []) (htop : up.getLast! ≠ 0)
    (hsize : up.length ≤ 2 ^ 36) :
    dcGetStr T b (getPowtab b up.length).reverse 0 up = some (digitsOf b (val up)) := by
  have hcpl := hok.cpl_pos hb62
  have hbb : b ^ charsPerLimb b < B := hok.2.1
  have hsb := fun (u : List Nat) (h1 : Limbs u) (h2 : u ≠ []) => sb_get_str_pad hb hb62 hok h10 u h1 h2
  have hun : 1 ≤ up.length := List.length_pos_iff.mpr hne
  have hxl := xn_large hb hx hbig hun hsize
  unfold getPowtab
  rw [hok.1]
  obtain ⟨pw, rest, e, es, hrev, htab, hxn⟩ := getPowtab_rev_ok (cpl := charsPerLimb b) hb hbb (xnOf b up.length)
  rw [hrev]
  have hpk := htab.head
  have hDpos : 0 < b ^ charsPerLimb b := Nat.pow_pos (by omega)
  -- val up < P²·B^(T-3)
  have hv := val_lt up hu
  have hge := val_ge_of_top hne htop
  have hcap2 : val up < ((b ^ charsPerLimb b) ^ e) ^ 2 * B ^ (T - 3) := by
    have e1 : B ^ up.length = B ^ (up.length - 1) * B := by rw [← pow_succ]; congr 1; omega
    have e2 : (b ^ charsPerLimb b) ^ xnOf b up.length ≤ ((b ^ charsPerLimb b) ^ e) ^ 2 := by
      rw [← pow_mul (b ^ charsPerLimb b) e 2]; exact Nat.pow_le_pow_right hDpos (by omega)
    have e3 : B ≤ B ^ (T - 3) := B_le_Bpow (by omega)
    calc val up < B ^ (up.length - 1) * B := by rw [← e1]; exact hv
      _ ≤ ((b ^ charsPerLimb b) ^ e) ^ 2 * B ^ (T - 3) := Nat.mul_le_mul (le_trans hxl e2) e3
  have hcap1 : up.length ≤ 2 * (pw.p.length + pw.shift) + (T - 3) := by
    have hup := hpk.upper
    have h2 : ((b ^ charsPerLimb b) ^ e) ^ 2 * B ^ (T - 3) < B ^ (2 * (pw.p.length + pw.shift) + (T - 3)) := by
      rw [pow_add, Nat.mul_comm 2, pow_mul]
      exact Nat.mul_lt_mul_of_pos_right (Nat.pow_lt_pow_left hup (by omega)) (Nat.pow_pos B_pos)
    have h3 : B ^ (up.length - 1) < B ^ (2 * (pw.p.length + pw.shift) + (T - 3)) :=
      lt_of_le_of_lt hge (lt_trans hcap2 h2)
    have := (Nat.pow_lt_pow_iff_right (by rw [B_eq]; omega : 1 < B)).mp h3
    omega
  rw [dcGetStr_pad hb hcpl hbb (by omega : 3 ≤ T) hsb rest es pw e htab 0 up hu hcap1 hcap2 (fun h => absurd rfl h)
    (by rw [padDigits_of_le (Nat.zero_le _)]
        exact le_trans hge (Nat.le_of_lt (lt_pow_digitsOf_length hb _))),
    padDigits_of_le (Nat.zero_le _)]

/-- mpn_get_str with the divide-and-conquer branch modelled, every base 2..62, every operand below 2^36 limbs,
    every pair of thresholds with GET_STR_DC_THRESHOLD ≥ 4: exactly the digits of the operand -/
theorem mpn_get_str_dc_of_table {b : Nat} (hb : 2 ≤ b) (hb62 : b ≤ 62)
    (hnp : pow2P b = false → NonPow2Ok b ∧ XnOk b ∧ 2 ^ (sibHint b).2.2.2.2.2 < b ^ (sibHint b).2.2.2.2.1)
    (hp : pow2P b = true → Pow2Ok b) (h10 : Base10Ok)
    (dcT preT : Nat) (hT : 4 ≤ dcT) (up : List Nat) (hu : Limbs up) (hne : up ≠ []) (htop : up.getLast! ≠ 0)
    (hsize : up.length ≤ 2 ^ 36) :
    mpn_get_str_dc dcT preT b up = some (digitsOf b (val up)) := by
  unfold mpn_get_str_dc
  have hl : (up.length == 0) = false := by
    cases up with
    | nil => exact absurd rfl hne
    | cons _ _ => rfl
  simp only [hl, Bool.false_eq_true, if_false]
  cases hpw : pow2P b with
  | true =>
    simp only [if_true]
    have hok := hp hpw
    rw [get_str_pow2_of_table hb hok (bigBase_le_64 hb62 hok) up hu hne htop]
  | false =>
    simp only [Bool.false_eq_true, if_false]
    obtain ⟨hok, hx, hbig⟩ := hnp hpw
    split
    · rw [sb_get_str_of_table hb hb62 hok h10 up hu hne htop]
    · exact get_str_dc_branch hb hb62 hok h10 hx hbig dcT hT up hu hne htop hsize

end Mpir.RadixDc
