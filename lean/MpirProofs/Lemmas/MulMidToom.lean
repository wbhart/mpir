/- The model of mpn_toom42_mulmid (Mpir/Model/MulMidToom.lean): the odd row and diagonal are exact (`toomOdd_isMP`); the even
   core is what is NOT proved, stated as the hypothesis `EvenCore`; given it, the recursion with its dispatch between the
   basecase and itself returns MP (`toom42_of_core`). -/
import Mpir.Model.MulMidToom
import MpirProofs.Lemmas.MulMid
namespace Mpir.MulMid
open Mpir

theorem val_take_last (n : Nat) (R : List Nat) (h : R.length = n + 1) :
    val R = val (R.take n) + B ^ n * lget R n ∧ (R.take n).length = n :=
  ⟨by rw [lget, ← val_take_succ, List.take_of_length_le h.le], by rw [List.length_take, h]; omega⟩

theorem addc_spec (x y : Nat) (hx : x < B) (hy : y < B) :
    (addc x y).1 + B * (addc x y).2 = x + y ∧ (addc x y).1 < B ∧ (addc x y).2 < B := by
  obtain ⟨e, w⟩ := addc_limb x y hx hy
  have := boolToNat_le (decide ((x + y) % B < x))
  simp only [addc]
  refine ⟨e, w, ?_⟩
  have hB : 1 < B := by rw [B_eq]; omega
  omega

theorem take_append_last (n : Nat) (l : List Nat) (h : l.length = n + 1) : l = l.take n ++ [lget l n] := by
  have hn : n < l.length := by omega
  rw [lget, ← List.getElem_eq_getD (h := hn) 0, List.take_append_getElem hn, List.take_of_length_le h.le]

/-- the odd row (toom42_mulmid.c:221-222): `mpn_addmul_1 (rp, ap-1, n, bp[n-1])`, its carry into rp[n], rp[n+1] by ADDC_LIMB,
    which loses no carry: it is the top limb of the n+2 limbs -/
theorem toomOdd_row (x R : List Nat) (n y : Nat) (hx : Limbs x) (hxn : x.length = n) (hR : Limbs R)
    (hRn : R.length = n + 1) (hy : y < B) :
    val ((addmul1C (R.take n) x y 0).1 ++ [(addc (lget R n) (addmul1C (R.take n) x y 0).2).1,
      (addc (lget R n) (addmul1C (R.take n) x y 0).2).2]) = val R + val x * y ∧
    Limbs ((addmul1C (R.take n) x y 0).1 ++ [(addc (lget R n) (addmul1C (R.take n) x y 0).2).1,
      (addc (lget R n) (addmul1C (R.take n) x y 0).2).2]) ∧
    ((addmul1C (R.take n) x y 0).1 ++ [(addc (lget R n) (addmul1C (R.take n) x y 0).2).1,
      (addc (lget R n) (addmul1C (R.take n) x y 0).2).2]).length = n + 2 := by
  obtain ⟨eR, hRt⟩ := val_take_last n R hRn
  obtain ⟨av, ac, al, an⟩ := addmul1C_val y hy (R.take n) x 0 (Limbs_take hR _) hx (hRt.trans hxn.symm) B_pos
  rw [hxn] at av an
  obtain ⟨xe, x1, x2⟩ := addc_spec (lget R n) (addmul1C (R.take n) x y 0).2 (getD_lt hR _) ac
  refine ⟨?_, Limbs_append.mpr ⟨al, Limbs_cons.mpr ⟨x1, Limbs_cons.mpr ⟨x2, Limbs_nil⟩⟩⟩,
    by rw [List.length_append, an]; rfl⟩
  rw [val_append, an, eR]
  simp only [val_cons, val_nil]
  linear_combination av + B ^ n * xe

/-- the odd row and diagonal (toom42_mulmid.c:208-232): from the cells E = MP({ap+1, 2n-3}, {bp, n-1}) to MP({ap, 2n-1}, {bp, n}),
    exactly — the row above, and the 3-limb diagonal added by mpn_add_n without carry out -/
theorem toomOdd_isMP (a0 b R : List Nat) (k : Nat) (ha : Limbs a0) (hb : Limbs b) (hbl : b.length = k + 1) (hk : 1 ≤ k)
    (hnB : k + 1 ≤ B) (hal : 2 * (k + 1) - 1 ≤ a0.length) (hR : IsMP R k (a0.drop 1) (b.take k)) :
    IsMP (toomOdd a0 b (k + 1) R) (k + 1) a0 b := by
  obtain ⟨Rv, Rl, Rn⟩ := hR
  have hb' : Limbs (b.take k) := Limbs_take hb _
  have hb'l : (b.take k).length = k := by rw [List.length_take]; omega
  obtain ⟨hrpv, hrpL, hrpl⟩ := toomOdd_row (a0.take (k + 1)) R (k + 1) (lget b k) (Limbs_take ha _)
    (by rw [List.length_take]; omega) Rl Rn (getD_lt hb k)
  obtain ⟨ev, el, en⟩ := basecase_isMP ((a0.drop 1).drop k) (b.take k) k 1 (Limbs_drop (Limbs_drop ha _) _) hb' (by omega)
    (by omega) (le_refl 1) (by simp only [List.length_drop]; omega) (by omega)
  -- the specification side
  have hspec : mpW (k + 1) a0 b = val R + B ^ k * val (mulmid_basecase ((a0.drop 1).drop k) k (b.take k)) +
      val (a0.take (k + 1)) * lget b k := by
    conv_lhs => rw [take_append_last k b hbl]
    rw [mpW_vsplit (k + 1) a0 [lget b k] (b.take k)]
    simp only [List.length_cons, List.length_nil, Nat.zero_add]
    rw [mpW_hsplit k 1 (a0.drop 1) (b.take k), Rv, ev]
    have : win a0 0 (k + 1) = a0.take (k + 1) := by simp [win]
    simp only [mpW, List.length_nil, this]
    ring
  have hlt := mpW_lt (k + 1) a0 b ha hb (by omega)
  -- the memory {rp, n+2} after the row
  have hstep : toomOdd a0 b (k + 1) R = onRange
      ((addmul1C (R.take (k + 1)) (a0.take (k + 1)) (lget b k) 0).1 ++
        [(addc (lget R (k + 1)) (addmul1C (R.take (k + 1)) (a0.take (k + 1)) (lget b k) 0).2).1,
         (addc (lget R (k + 1)) (addmul1C (R.take (k + 1)) (a0.take (k + 1)) (lget b k) 0).2).2]) k 3
      (fun l => (addNC l (mulmid_basecase ((a0.drop 1).drop k) k (b.take k)) 0).1) := rfl
  rw [hstep]
  generalize (addmul1C (R.take (k + 1)) (a0.take (k + 1)) (lget b k) 0).1 ++ _ = rp at hrpv hrpL hrpl
  clear hstep Rv Rl Rn hal hbl
  have hdl : (rp.drop k).length = 3 := by rw [List.length_drop, hrpl]; omega
  have htl : (rp.take k).length = k := by rw [List.length_take, hrpl]; omega
  obtain ⟨sv, _, sl, sn⟩ := addNC_val (rp.drop k) (mulmid_basecase ((a0.drop 1).drop k) k (b.take k)) 0
    (Limbs_drop hrpL _) el (hdl.trans en.symm) (Nat.zero_le 1)
  rw [hdl] at sv sn
  have hsplit := val_take_drop rp k (by rw [hrpl]; omega)
  simp only [onRange]
  rw [List.take_of_length_le hdl.le, List.drop_eq_nil_of_le hrpl.le, List.append_nil]
  have key : val (rp.take k) + B ^ k * val (addNC (rp.drop k) (mulmid_basecase ((a0.drop 1).drop k) k (b.take k)) 0).1 +
      B ^ (k + 1 + 2) * (addNC (rp.drop k) (mulmid_basecase ((a0.drop 1).drop k) k (b.take k)) 0).2 = mpW (k + 1) a0 b := by
    linear_combination B ^ k * sv - hspec + hrpv - hsplit
  refine ⟨?_, Limbs_append.mpr ⟨Limbs_take hrpL _, sl⟩, by simp only [List.length_append, htl, sn]⟩
  rw [val_append, htl, (carry_zero key hlt).2]

/-- What is NOT proved about mpn_toom42_mulmid: its even core (toom42_mulmid.c:66-205, `toomEven`) — given a correct half-size
    middle product `recf`, the interpolation with the correction terms e0..e5, the neg flag, the in-place corrections and the
    evaluation yield {rp, 2m+2} = MP({ap, 4m-1}, {bp, 2m}). -/
def EvenCore : Prop :=
  ∀ (recf : List Nat → List Nat → List Nat) (a b : List Nat) (m : Nat), 2 ≤ m → 2 * m ≤ B →
    (∀ x y, Limbs x → Limbs y → y.length = m → 2 * m - 1 ≤ x.length → IsMP (recf x y) m x y) →
    Limbs a → Limbs b → 2 * m ≤ b.length → 4 * m - 1 ≤ a.length → IsMP (toomEven recf a b m) (2 * m) a (b.take (2 * m))

/-- toom42_mulmid.c as a whole, from `EvenCore`: the recursive calls (mpn_mulmid_basecase below the threshold `T`, itself from
    it on), the even core, and for odd n the odd row and diagonal -/
theorem toom42_of_core (hcore : EvenCore) (T : Nat) (hT : 4 ≤ T) :
    ∀ (fuel : Nat) (a0 b : List Nat) (n : Nat), Limbs a0 → Limbs b → b.length = n → 4 ≤ n → n ≤ B → 2 * n - 1 ≤ a0.length →
      n ≤ fuel → IsMP (toom42 T fuel a0 b n) n a0 b
  | 0, _, _, n, _, _, _, h4, _, _, hf => by omega
  | fuel + 1, a0, b, n, ha, hb, hbl, h4, hnB, hal, hf => by
    have ih := toom42_of_core hcore T hT fuel
    rw [toom42]
    rw [if_neg (by omega)]
    have hrec : ∀ x y, Limbs x → Limbs y → y.length = n / 2 → 2 * (n / 2) - 1 ≤ x.length →
        IsMP (if n / 2 < T then mulmid_basecase x (2 * (n / 2) - 1) y else toom42 T fuel x y (n / 2)) (n / 2) x y := by
      intro x y hx hy hyl hxl
      split
      · exact basecase_isMP x y _ _ hx hy (by omega) (by omega) (by omega) hxl (by omega)
      · exact ih x y (n / 2) hx hy hyl (by omega) (by omega) hxl (by omega)
    have hR := hcore _ (a0.drop (n % 2)) b (n / 2) (by omega) (by omega) hrec (Limbs_drop ha _) hb (by omega)
      (by rw [List.length_drop]; omega)
    dsimp only
    generalize toomEven _ (a0.drop (n % 2)) b (n / 2) = R at hR ⊢
    split
    · rename_i hodd
      obtain ⟨k, rfl⟩ : ∃ k, n = k + 1 := ⟨n - 1, by omega⟩
      have e : 2 * ((k + 1) / 2) = k := by omega
      rw [hodd, e] at hR
      exact toomOdd_isMP a0 b R k ha hb hbl (by omega) hnB hal hR
    · rename_i heven
      have h0 : n % 2 = 0 := by omega
      have e : 2 * (n / 2) = n := by omega
      rw [h0, e, List.drop_zero, List.take_of_length_le (by omega)] at hR
      exact hR

end Mpir.MulMid
