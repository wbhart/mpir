/- mpn_redc_2 (mpn/generic/redc_2.c), limb level: the two-limb step and the identity. -/
import MpirProofs.Lemmas.Powm
import Mathlib.Tactic.LinearCombination
namespace Mpir.Powm
open Mpir

/-- the memory traffic of one round of redc_2.c:88-96, given the two mpn_addmul_1 results -/
theorem redc2Step_eq (mp t cs : List Nat) (n mip0 mip1 a0 b0 ca c0 c1 : Nat) (r0t mid : List Nat)
    (hn : 2 ≤ n)
    (h0 : addmul_1 (t.take n) mp ((mip0 * t.getD 0 0) % B) = (a0 :: r0t, c0)) (hr0t : r0t.length = n - 1)
    (h1 : addmul_1 (r0t ++ [c0]) mp (((mip0 * t.getD 0 0) / B + mip0 * t.getD 1 0 + mip1 * t.getD 0 0) % B) =
      (b0 :: (mid ++ [ca]), c1)) (hmid : mid.length = n - 2) :
    redc2Step mp n mip0 mip1 cs t = (cs ++ [ca, c1], mid ++ [t.getD n 0] ++ t.drop (n + 1)) := by
  unfold redc2Step umul_ppmm
  simp only []
  rw [h0]
  simp only []
  have e1 : (List.drop 1 (a0 :: r0t ++ [c0] ++ List.drop (n + 1) t)).take n = r0t ++ [c0] := by
    have : List.drop 1 (a0 :: r0t ++ [c0] ++ List.drop (n + 1) t) = (r0t ++ [c0]) ++ List.drop (n + 1) t := by simp
    rw [this, List.take_left' (by simp [hr0t]; omega)]
  rw [e1, h1]
  simp only []
  have e2 : List.drop (n + 1) (a0 :: r0t ++ [c0] ++ List.drop (n + 1) t) = List.drop (n + 1) t := by
    rw [List.drop_left' (by simp [hr0t]; omega)]
  have e3 : List.take 1 (a0 :: r0t ++ [c0] ++ List.drop (n + 1) t) = [a0] := by simp
  rw [e2, e3]
  have e4 : [a0] ++ (b0 :: (mid ++ [ca])) ++ List.drop (n + 1) t = (a0 :: b0 :: mid) ++ ([ca] ++ List.drop (n + 1) t) := by simp
  rw [e4]
  have hl : (a0 :: b0 :: mid).length = n := by simp [hmid]; omega
  have e5 : ((a0 :: b0 :: mid) ++ ([ca] ++ List.drop (n + 1) t)).getD n 0 = ca := by
    rw [List.getD_eq_getElem?_getD, List.getElem?_append_right (by omega), hl]; simp
  have e6 : List.take n ((a0 :: b0 :: mid) ++ ([ca] ++ List.drop (n + 1) t)) = a0 :: b0 :: mid := List.take_left' hl
  have e7 : List.drop (n + 1) ((a0 :: b0 :: mid) ++ ([ca] ++ List.drop (n + 1) t)) = List.drop (n + 1) t := by
    rw [← List.append_assoc, List.drop_left' (by simp [hmid]; omega)]
  rw [e5, e6, e7]
  simp

theorem mod_zero_of_add (a X Y M : Nat) (h : a + M * X = M * Y) : a % M = 0 := by
  have h1 : M ∣ a + M * X := by rw [h]; exact Dvd.intro _ rfl
  have h2 : M ∣ a := (Nat.dvd_add_left (Dvd.intro _ rfl)).mp h1
  exact Nat.mod_eq_zero_of_dvd h2

theorem B_pow_two_le {n : Nat} (hn : 2 ≤ n) : B ^ n = B * B * B ^ (n - 2) ∧ B ^ (n - 1) = B * B ^ (n - 2) := by
  obtain ⟨k, rfl⟩ : ∃ k, n = k + 2 := ⟨n - 2, by omega⟩
  exact ⟨by rw [Nat.add_sub_cancel, pow_add]; ring, by rw [Nat.add_sub_cancel, show k + 2 - 1 = k + 1 by omega, pow_succ]; ring⟩

/-- the two quotient limbs `q0 + B·q1 = (u0 + B·u1)·mip mod B²` of redc_2.c:88 (umul2low) clear the two low limbs when
    `mip·m ≡ −1 (mod B²)`. -/
theorem redc2_low_zero (u0 u1 T' m mip0 mip1 : Nat) (hinv2 : ((mip0 + B * mip1) * m) % (B * B) = B * B - 1) :
    (u0 + B * u1 + B * B * T' +
      m * ((mip0 * u0) % B + B * (((mip0 * u0) / B + mip0 * u1 + mip1 * u0) % B))) % (B * B) = 0 := by
  have hd0 := Nat.div_add_mod (mip0 * u0) B
  have hd1 := Nat.div_add_mod ((mip0 * u0) / B + mip0 * u1 + mip1 * u0) B
  have hW := Nat.div_add_mod ((mip0 + B * mip1) * m) (B * B)
  rw [hinv2] at hW
  generalize (mip0 * u0) % B = q0 at *
  generalize (mip0 * u0) / B = ph at *
  generalize (ph + mip0 * u1 + mip1 * u0) % B = q1 at *
  generalize (ph + mip0 * u1 + mip1 * u0) / B = e1 at *
  generalize ((mip0 + B * mip1) * m) / (B * B) = f at *
  have hBB : 1 ≤ B * B := Nat.mul_pos B_pos B_pos
  -- T0 + m q + B²·X = B²·Y
  apply mod_zero_of_add _ (m * (e1 + mip1 * u1)) (T' + (u0 + B * u1) * (f + 1))
  have hW' : (mip0 + B * mip1) * m + 1 = B * B * (f + 1) := by
    have : B * B * (f + 1) = B * B * f + B * B := by ring
    omega
  zify at hd0 hd1 hW' ⊢
  linear_combination ((m : Int)) * hd0 + ((B : Int) * m) * hd1 + ((u0 : Int) + B * u1) * hW'

/-- one round of redc_2.c:88-96 -/
theorem redc2Step_inv (mp : List Nat) (mip0 mip1 : Nat) (hmp : Limbs mp) (hn : 2 ≤ mp.length)
    (hinv2 : ((mip0 + B * mip1) * val mp) % (B * B) = B * B - 1)
    (cs t : List Nat) (ht : Limbs t) (hlen : mp.length + 2 ≤ t.length) :
    ∃ q ca cb t', redc2Step mp mp.length mip0 mip1 cs t = (cs ++ [ca, cb], t') ∧ q < B * B ∧ ca < B ∧ cb < B ∧
      Limbs t' ∧ t'.length + 2 = t.length ∧
      val t + q * val mp = B * B * val t' + B ^ mp.length * (ca + B * cb) := by
  generalize hnd : mp.length = n at *
  have hBpos := B_pos
  obtain ⟨u0, t1, rfl⟩ : ∃ u0 t1, t = u0 :: t1 := List.exists_cons_of_length_pos (by omega)
  obtain ⟨u1, rest, rfl⟩ : ∃ u1 rest, t1 = u1 :: rest := List.exists_cons_of_length_pos (by simp at hlen; omega)
  have ⟨hu0, ht1⟩ := Limbs_cons.mp ht
  have ⟨hu1, hrest⟩ := Limbs_cons.mp ht1
  simp only [List.length_cons] at hlen
  have hg0 : (u0 :: u1 :: rest).getD 0 0 = u0 := rfl
  have hg1 : (u0 :: u1 :: rest).getD 1 0 = u1 := rfl
  set q0 := (mip0 * u0) % B with hq0
  set q1 := ((mip0 * u0) / B + mip0 * u1 + mip1 * u0) % B with hq1
  have hq0B : q0 < B := Nat.mod_lt _ hBpos
  have hq1B : q1 < B := Nat.mod_lt _ hBpos
  -- T0 = the low n limbs
  have htake : ((u0 :: u1 :: rest).take n).length = n := by rw [List.length_take]; simp; omega
  have hT0 : ∃ T', val ((u0 :: u1 :: rest).take n) = u0 + B * u1 + B * B * T' := by
    obtain ⟨n', hn'⟩ : ∃ n', n = n' + 2 := ⟨n - 2, by omega⟩
    rw [hn']; simp only [List.take_succ_cons, val_cons]
    exact ⟨val (rest.take n'), by ring⟩
  obtain ⟨T', hT'⟩ := hT0
  have hzero : (val ((u0 :: u1 :: rest).take n) + val mp * (q0 + B * q1)) % (B * B) = 0 := by
    rw [hT']; exact redc2_low_zero u0 u1 T' (val mp) mip0 mip1 hinv2
  obtain ⟨av, ac, aL, an⟩ := addmul_1_val ((u0 :: u1 :: rest).take n) mp q0 (Limbs_take ht _) hmp (htake.trans hnd.symm) hq0B
  rw [htake] at av an
  generalize hA : addmul_1 ((u0 :: u1 :: rest).take n) mp q0 = A at *
  obtain ⟨r0, c0⟩ := A
  simp only at av ac aL an
  obtain ⟨a0, r0t, rfl⟩ : ∃ a0 r0t, r0 = a0 :: r0t := List.exists_cons_of_length_pos (by omega)
  have ⟨ha0, hr0tL⟩ := Limbs_cons.mp aL
  have hr0tl : r0t.length = n - 1 := by simp at an; omega
  have hwL : Limbs (r0t ++ [c0]) := Limbs_snoc.mpr ⟨hr0tL, ac⟩
  have hwl : (r0t ++ [c0]).length = n := by simp [hr0tl]; omega
  obtain ⟨bv, bc, bL, bn⟩ := addmul_1_val (r0t ++ [c0]) mp q1 hwL hmp (hwl.trans hnd.symm) hq1B
  rw [hwl] at bv bn
  generalize hBm : addmul_1 (r0t ++ [c0]) mp q1 = Bm at *
  obtain ⟨r1, c1⟩ := Bm
  simp only at bv bc bL bn
  obtain ⟨b0, r1t, rfl⟩ : ∃ b0 r1t, r1 = b0 :: r1t := List.exists_cons_of_length_pos (by omega)
  have ⟨hb0, hr1tL⟩ := Limbs_cons.mp bL
  obtain ⟨mid, ca, rfl, hmidl⟩ := exists_snoc r1t (n - 2) (by simp at bn; omega)
  have ⟨hmidL, hca⟩ := Limbs_snoc.mp hr1tL
  have hstep := redc2Step_eq mp (u0 :: u1 :: rest) cs n mip0 mip1 a0 b0 ca c0 c1 r0t mid hn
    (by rw [hg0]; exact hA) hr0tl (by rw [hg0, hg1]; exact hBm) hmidl
  rw [val_snoc, hr0tl] at bv
  simp only [val_cons] at av bv
  rw [val_snoc, hmidl] at bv
  obtain ⟨hpn, hpn1⟩ := B_pow_two_le hn
  have hsum : val ((u0 :: u1 :: rest).take n) + val mp * (q0 + B * q1) =
      a0 + B * b0 + B * B * (val mid + B ^ (n - 2) * ca) + B * B * (B ^ (n - 2) * (B * c1)) := by
    rw [hpn] at av bv
    rw [hpn1] at bv
    generalize B ^ (n - 2) = P at av bv ⊢
    zify at av bv ⊢
    linear_combination (-1 : Int) * av + (-(B : Int)) * bv
  have hab : a0 + B * b0 = 0 := by
    have h1 : (a0 + B * b0) % (B * B) = 0 := by
      rw [hsum] at hzero
      have : a0 + B * b0 + B * B * (val mid + B ^ (n - 2) * ca) + B * B * (B ^ (n - 2) * (B * c1)) =
          (a0 + B * b0) + B * B * ((val mid + B ^ (n - 2) * ca) + B ^ (n - 2) * (B * c1)) := by ring
      rw [this, Nat.add_mul_mod_self_left] at hzero; exact hzero
    rwa [Nat.mod_eq_of_lt (add_mul_lt ha0 hb0)] at h1
  have hdrop := val_take_drop (u0 :: u1 :: rest) n (by simp; omega)
  have hdn : (u0 :: u1 :: rest).drop n = (u0 :: u1 :: rest).getD n 0 :: (u0 :: u1 :: rest).drop (n + 1) := by
    rw [List.drop_eq_getElem_cons (by simp; omega), List.getD_eq_getElem?_getD,
      List.getElem?_eq_getElem (by simp; omega)]; simp
  have hvd : val ((u0 :: u1 :: rest).drop n) =
      (u0 :: u1 :: rest).getD n 0 + B * val ((u0 :: u1 :: rest).drop (n + 1)) := by
    conv_lhs => rw [hdn]
    rw [val_cons]
  rw [hvd] at hdrop
  refine ⟨q0 + B * q1, ca, c1, mid ++ [(u0 :: u1 :: rest).getD n 0] ++ (u0 :: u1 :: rest).drop (n + 1), hstep,
    add_mul_lt hq0B hq1B, hca, bc, ?_, ?_, ?_⟩
  · refine Limbs_append.mpr ⟨Limbs_snoc.mpr ⟨hmidL, ?_⟩, Limbs_drop ht _⟩
    rw [List.getD_eq_getElem?_getD, List.getElem?_eq_getElem (by simp; omega)]
    exact ht _ (List.getElem_mem _)
  · simp [hmidl]; omega
  · rw [val_append, val_snoc]
    simp only [List.length_append, List.length_cons, List.length_nil, hmidl]
    rw [hdrop, Nat.mul_comm (q0 + B * q1)]
    have e : n - 2 + (0 + 1) = n - 1 := by omega
    rw [e, hpn, hpn1]
    generalize B ^ (n - 2) = P at hsum ⊢
    generalize val ((u0 :: u1 :: rest).take n) = T0 at hsum ⊢
    zify at hsum hab ⊢
    linear_combination hsum + ((1 : Int)) * hab

/-- redc_2.c:86-97 after `k` rounds, from a window of `n + 2k` limbs -/
theorem redc2Loop_inv (mp : List Nat) (mip0 mip1 : Nat) (hmp : Limbs mp) (hn : 2 ≤ mp.length)
    (hinv2 : ((mip0 + B * mip1) * val mp) % (B * B) = B * B - 1) :
    ∀ (k : Nat) (cs t : List Nat), Limbs t → t.length = mp.length + 2 * k →
    ∃ Q cn t', redc2Loop mp mp.length mip0 mip1 k cs t = (cs ++ cn, t') ∧ Q < B ^ (2 * k) ∧ Limbs cn ∧
      cn.length = 2 * k ∧ Limbs t' ∧ t'.length = mp.length ∧
      val t + Q * val mp = B ^ (2 * k) * val t' + B ^ mp.length * val cn := by
  intro k
  induction k with
  | zero =>
    intro cs t ht hlen
    exact ⟨0, [], t, by simp [redc2Loop], by simp, Limbs_nil, rfl, ht, by simpa using hlen, by simp⟩
  | succ k ih =>
    intro cs t ht hlen
    obtain ⟨q, ca, cb, t1, hstep, hq, hca, hcb, ht1L, ht1l, hv1⟩ :=
      redc2Step_inv mp mip0 mip1 hmp hn hinv2 cs t ht (by omega)
    obtain ⟨Q', cn', t', hloop, hQ', hcnL, hcnn, ht'L, ht'n, hv⟩ := ih (cs ++ [ca, cb]) t1 ht1L (by omega)
    have e : B ^ (2 * (k + 1)) = B * B * B ^ (2 * k) := by
      rw [show 2 * (k + 1) = 2 * k + 2 by ring, pow_add]; ring
    refine ⟨q + B * B * Q', ca :: cb :: cn', t', ?_, ?_, Limbs_cons.mpr ⟨hca, Limbs_cons.mpr ⟨hcb, hcnL⟩⟩,
      by simp [hcnn]; omega, ht'L, ht'n, ?_⟩
    · rw [redc2Loop, hstep]
      simp only []
      rw [hloop, List.append_assoc]; rfl
    · rw [e]; exact add_mul_lt hq hQ'
    · rw [e]
      simp only [val_cons]
      generalize B ^ (2 * k) = Pk at *
      generalize B ^ mp.length = Pn at *
      zify at hv1 hv ⊢
      linear_combination hv1 + ((B : Int) * B) * hv

/-- `mip[0]` alone is `−1/m[0] mod B` -/
theorem inv2_low (mp : List Nat) (mip0 mip1 : Nat) (hmp : Limbs mp)
    (hinv2 : ((mip0 + B * mip1) * val mp) % (B * B) = B * B - 1) : (mip0 * mp.headD 0) % B = B - 1 := by
  have h1 : ((mip0 + B * mip1) * val mp) % B = (B * B - 1) % B := by
    rw [← hinv2, Nat.mod_mul_right_mod]
  have h2 : (B * B - 1) % B = B - 1 := by
    have : B * B - 1 = (B - 1) + B * (B - 1) := by
      rw [B_eq]
    rw [this, Nat.add_mul_mod_self_left, Nat.mod_eq_of_lt (by have := B_pos; omega)]
  rw [h2] at h1
  rw [headD_eq_val_mod mp hmp, ← h1]
  have : (mip0 + B * mip1) * val mp = mip0 * val mp + B * (mip1 * val mp) := by ring
  rw [this, Nat.add_mul_mod_self_left]
  conv_rhs => rw [Nat.mul_mod]
  conv_lhs => rw [Nat.mul_mod, Nat.mod_mod]

/-- as `redc_1_identity`, with the two-limb inverse `mip = −1/m mod B²` -/
theorem redc_2_identity (up mp : List Nat) (mip0 mip1 : Nat) (hn : 1 ≤ mp.length) (hup : Limbs up) (hmp : Limbs mp)
    (hlen : up.length = 2 * mp.length)
    (hinv2 : ((mip0 + B * mip1) * val mp) % (B * B) = B * B - 1) :
    ∃ Q k, Q < B ^ mp.length ∧ k ≤ 1 ∧
      B ^ mp.length * val (redc_2 up mp mip0 mip1) + k * (B ^ mp.length * val mp) = val up + Q * val mp ∧
      Limbs (redc_2 up mp mip0 mip1) ∧ (redc_2 up mp mip0 mip1).length = mp.length := by
  have hinv1 := inv2_low mp mip0 mip1 hmp hinv2
  have hloops : ∃ Q cn t', (redc2Loop mp mp.length mip0 mip1 (mp.length / 2)
        (if mp.length % 2 != 0 then redc1Loop mp mp.length mip0 1 [] up else ([], up)).1
        (if mp.length % 2 != 0 then redc1Loop mp mp.length mip0 1 [] up else ([], up)).2) = (cn, t') ∧
      Q < B ^ mp.length ∧ Limbs cn ∧ cn.length = mp.length ∧ Limbs t' ∧ t'.length = mp.length ∧
      val up + Q * val mp = B ^ mp.length * val t' + B ^ mp.length * val cn := by
    by_cases hodd : mp.length % 2 = 0
    · have hif : (mp.length % 2 != 0) = false := by simp [hodd]
      rw [hif]
      simp only [Bool.false_eq_true, if_false]
      have hn2 : 2 ≤ mp.length := by omega
      obtain ⟨Q, cn, t', hl, hQ, hcL, hcn, htL, htn, hv⟩ := redc2Loop_inv mp mip0 mip1 hmp hn2 hinv2 (mp.length / 2) [] up hup
        (by omega)
      have e : 2 * (mp.length / 2) = mp.length := by omega
      rw [e] at hQ hcn hv
      exact ⟨Q, cn, t', by rw [hl]; simp, hQ, hcL, hcn, htL, htn, hv⟩
    · have hodd1 : mp.length % 2 = 1 := by omega
      have hif : (mp.length % 2 != 0) = true := by simp [hodd1]
      rw [hif]
      simp only [if_true]
      obtain ⟨q, c, t1, h1, hq, hc, ht1L, ht1l, hv1⟩ := redc1_first mp mip0 hmp hn hinv1 [] up hup (by omega)
      rw [h1]
      simp only [List.nil_append]
      by_cases hn1 : mp.length = 1
      · have hk0 : mp.length / 2 = 0 := by omega
        rw [hk0, redc2Loop]
        refine ⟨q, [c], t1, rfl, by rw [hn1, pow_one]; exact hq, Limbs_cons.mpr ⟨hc, Limbs_nil⟩, by simp [hn1], ht1L, by omega, ?_⟩
        rw [hv1, hn1, pow_one]; simp [val]
      · have hn2 : 2 ≤ mp.length := by omega
        obtain ⟨Q, cn, t', hl, hQ, hcL, hcn, htL, htn, hv⟩ := redc2Loop_inv mp mip0 mip1 hmp hn2 hinv2 (mp.length / 2) [c] t1 ht1L
          (by omega)
        have e : 2 * (mp.length / 2) = mp.length - 1 := by omega
        rw [e] at hQ hcn hv
        have hpn : B ^ mp.length = B * B ^ (mp.length - 1) := by rw [← pow_succ']; congr 1; omega
        refine ⟨q + B * Q, c :: cn, t', by rw [hl]; rfl, ?_, Limbs_cons.mpr ⟨hc, hcL⟩, by simp [hcn]; omega, htL, htn, ?_⟩
        · rw [hpn]; exact add_mul_lt hq hQ
        · simp only [val_cons]
          rw [hpn] at hv1 hv ⊢
          generalize B ^ (mp.length - 1) = P at *
          zify at hv1 hv ⊢
          linear_combination hv1 + (B : Int) * hv
  obtain ⟨Q, cn, t', hl, hQ, hcL, hcn, htL, htn, hv⟩ := hloops
  have hdef : redc_2 up mp mip0 mip1 =
      if (addNC t' cn 0).2 != 0 then (subNC (addNC t' cn 0).1 mp 0).1 else (addNC t' cn 0).1 := by
    unfold redc_2
    simp only [hl, add_n, sub_n]
  rw [hdef]
  obtain ⟨k, hk, he, hL, hlen'⟩ := redc_finish up mp t' cn Q hmp hup hlen hQ hcL hcn htL htn hv
  exact ⟨Q, k, hQ, hk, he, hL, hlen'⟩
end Mpir.Powm
