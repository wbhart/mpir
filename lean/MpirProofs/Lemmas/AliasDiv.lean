/- The mpz division wrappers on the pointer-level model: every alias pattern gives the specified values. -/
import MpirProofs.Lemmas.AliasMemOps
namespace Mpir.AliasMem
open Mpir
open Mpir.DivZ (sizeNat siz sameSign cfQ cfR Adj cfQ_eq cfR_eq)

/-! ### the mpn entry points -/

theorem mpn_tdiv_qr_ok {s : St} {qp rp np nl dp dl : Nat} {Nl Dl bq br : List Nat}
    (hN : s.load np nl = .ok Nl) (hD : s.load dp dl = .ok Dl)
    (hbq : s.blk qp = some bq) (hbr : s.blk rp = some br)
    (h1 : qp ≠ np) (h2 : qp ≠ dp) (h3 : rp ≠ np) (h4 : rp ≠ dp) (h5 : qp ≠ rp)
    (hdl : 1 ≤ dl) (hle : dl ≤ nl) (htop : Dl.getD (dl - 1) 0 ≠ 0)
    (haq : nl - dl + 1 ≤ bq.length) (har : dl ≤ br.length) :
    mpn_tdiv_qr qp rp np nl dp dl s =
      .ok ((s.setBlk qp (some (toLimbs (nl - dl + 1) (val Nl / val Dl) ++ bq.drop (nl - dl + 1)))).setBlk rp
            (some (toLimbs dl (val Nl % val Dl) ++ br.drop dl))) := by
  unfold mpn_tdiv_qr
  have hc : ¬ (qp = np ∨ qp = dp ∨ rp = np ∨ rp = dp ∨ qp = rp) :=
    not_or.mpr ⟨h1, not_or.mpr ⟨h2, not_or.mpr ⟨h3, not_or.mpr ⟨h4, h5⟩⟩⟩⟩
  have hs : ¬ ¬ (1 ≤ dl ∧ dl ≤ nl) := not_not_intro ⟨hdl, hle⟩
  simp only [bind, Except.bind, hc, if_false, hN, hD, hs, htop]
  rw [store_blk hbq (by rw [toLimbs_length]; exact haq)]; simp only []
  rw [store_blk ((setBlk_blk_ne _ _ (Ne.symm h5)).trans hbr) (by rw [toLimbs_length]; exact har), toLimbs_length,
    toLimbs_length]

theorem mpn_tdiv_q_ok {s : St} {qp np nl dp dl : Nat} {Nl Dl bq : List Nat}
    (hN : s.load np nl = .ok Nl) (hD : s.load dp dl = .ok Dl)
    (hbq : s.blk qp = some bq) (h1 : qp ≠ np) (h2 : qp ≠ dp)
    (hdl : 1 ≤ dl) (hle : dl ≤ nl) (htop : Dl.getD (dl - 1) 0 ≠ 0)
    (haq : nl - dl + 1 ≤ bq.length) :
    mpn_tdiv_q qp np nl dp dl s =
      .ok (s.setBlk qp (some (toLimbs (nl - dl + 1) (val Nl / val Dl) ++ bq.drop (nl - dl + 1)))) := by
  unfold mpn_tdiv_q
  have hc : ¬ (qp = np ∨ qp = dp) := not_or.mpr ⟨h1, h2⟩
  have hs : ¬ ¬ (1 ≤ dl ∧ dl ≤ nl) := not_not_intro ⟨hdl, hle⟩
  simp only [bind, Except.bind, hc, if_false, hN, hD, hs, htop]
  rw [store_blk hbq (by rw [toLimbs_length]; exact haq), toLimbs_length]

theorem normSize_setBlk (s : St) (p : Nat) (n m : Nat) (rest : List Nat) :
    normSize (s.setBlk p (some (toLimbs n m ++ rest))) p n = .ok (sizeNat (m % B ^ n)) := by
  simp [normSize, St.load, St.setBlk, toLimbs_length, bind, Except.bind, pure, Except.pure, val_toLimbs]

/-! ### the cores: mpn call, normalisation, size stores -/

theorem tdiv_qr_core_ok {s : St} (h : Inv s) {q r : Nat} (hq : q < s.nv) (hr : r < s.nv) (hqr : q ≠ r)
    {np nl dp dl : Nat} {Nl Dl : List Nat}
    (hN : s.load np nl = .ok Nl) (hD : s.load dp dl = .ok Dl)
    (hnq : np ≠ s.ptr q) (hnr : np ≠ s.ptr r) (hdq : dp ≠ s.ptr q) (hdr : dp ≠ s.ptr r)
    (oN : NormOp Nl nl) (oD : NormOp Dl dl) (hle : dl ≤ nl)
    (haq : nl - dl + 1 ≤ s.alloc q) (har : dl ≤ s.alloc r) (ns ds : Int) :
    ∃ s', tdiv_qr_core q r (s.ptr q) (s.ptr r) np nl dp dl ns ds s = .ok s' ∧ (∀ i, s'.ptr i = s.ptr i) ∧
      Res2 s s' q r (if sameSign ns ds then ((val Nl / val Dl : Nat) : Int) else -((val Nl / val Dl : Nat) : Int))
        (if ns ≥ 0 then ((val Nl % val Dl : Nat) : Int) else -((val Nl % val Dl : Nat) : Int)) := by
  obtain ⟨bq, hbq, hbql, _⟩ := h.live q hq
  obtain ⟨br, hbr, hbrl, _⟩ := h.live r hr
  have hpqr : s.ptr q ≠ s.ptr r := fun e => hqr (h.inj q r hq hr e)
  have hmpn := mpn_tdiv_qr_ok hN hD hbq hbr hnq.symm hdq.symm hnr.symm hdr.symm hpqr oD.pos hle oD.top
    (by omega) (by omega)
  obtain ⟨hQlt, hQsz⟩ := quot_size oN.ge oN.lt oD.ge oD.lt oD.pos hle
  have hRlt : val Nl % val Dl < B ^ dl :=
    Nat.lt_trans (Nat.mod_lt _ (Nat.lt_of_lt_of_le (Bpow_pos _) oD.ge)) oD.lt
  obtain ⟨R, p⟩ := put2_toLimbs h hq hr hqr hbq hbr (nl - dl + 1) (val Nl / val Dl) _ haq hQlt
    (natAbs_ite_pos (sameSign ns ds) _) dl (val Nl % val Dl) _ har hRlt (natAbs_ite_pos (ns ≥ 0) _)
  have h0 : ∀ m : Nat, sizeNat m = 0 → m = 0 := fun _ => DivZ.sizeNat_eq_zero.mp
  rw [sgnv_ite _ _ _ (h0 _), sgnv_ite _ _ _ (h0 _)] at R
  refine ⟨_, ?_, p, R⟩
  simp only [tdiv_qr_core, bind, Except.bind, hmpn, pure, Except.pure,
    limbAt_toLimbs ((setBlk_blk_ne _ _ hpqr).trans (setBlk_blk_self _ _ _)) (Nat.sub_lt (Nat.succ_pos _) Nat.one_pos),
    normSize_setBlk, hQsz, Nat.mod_eq_of_lt hRlt]
  rw [put_put_eq s hqr]

theorem tdiv_q_core_ok {s : St} (h : Inv s) {q : Nat} (hq : q < s.nv)
    {np nl dp dl : Nat} {Nl Dl : List Nat}
    (hN : s.load np nl = .ok Nl) (hD : s.load dp dl = .ok Dl)
    (hnq : np ≠ s.ptr q) (hdq : dp ≠ s.ptr q) (oN : NormOp Nl nl) (oD : NormOp Dl dl) (hle : dl ≤ nl)
    (haq : nl - dl + 1 ≤ s.alloc q) (ns ds : Int) :
    ∃ s', tdiv_q_core q (s.ptr q) np nl dp dl ns ds s = .ok s' ∧ Inv s' ∧ Upd s s' q ∧
      s'.value q = (if sameSign ns ds then ((val Nl / val Dl : Nat) : Int) else -((val Nl / val Dl : Nat) : Int)) := by
  obtain ⟨bq, hbq, hbql, _⟩ := h.live q hq
  have hmpn := mpn_tdiv_q_ok hN hD hbq hnq.symm hdq.symm oD.pos hle oD.top (by omega)
  obtain ⟨hQlt, hQsz⟩ := quot_size oN.ge oN.lt oD.ge oD.lt oD.pos hle
  obtain ⟨i1, u1, v1⟩ := put_toLimbs h hq hbq (nl - dl + 1) (val Nl / val Dl) _ haq hQlt
    (natAbs_ite_pos (sameSign ns ds) _)
  refine ⟨_, ?_, i1, u1, by rw [v1, sgnv_ite _ _ _ DivZ.sizeNat_eq_zero.mp]⟩
  simp only [tdiv_q_core, bind, Except.bind, hmpn, pure, Except.pure,
    limbAt_toLimbs (setBlk_blk_self _ _ _) (Nat.sub_lt (Nat.succ_pos _) Nat.one_pos), hQsz]
  rfl

theorem tdiv_r_core_ok {s : St} (h : Inv s) {r : Nat} (hr : r < s.nv)
    {qp np nl dp dl : Nat} {Nl Dl bq : List Nat}
    (hN : s.load np nl = .ok Nl) (hD : s.load dp dl = .ok Dl)
    (hbq : s.blk qp = some bq) (hqv : ∀ i, i < s.nv → s.ptr i ≠ qp) (hqlt : qp < s.next)
    (hqn : qp ≠ np) (hqd : qp ≠ dp) (hnr : np ≠ s.ptr r) (hdr : dp ≠ s.ptr r)
    (oD : NormOp Dl dl) (hle : dl ≤ nl) (haq : nl - dl + 1 ≤ bq.length) (har : dl ≤ s.alloc r) (ns : Int) :
    ∃ s', tdiv_r_core r qp (s.ptr r) np nl dp dl ns s = .ok s' ∧ Inv s' ∧
      s'.nv = s.nv ∧ (∀ i, s'.ptr i = s.ptr i) ∧
      s'.value r = (if ns ≥ 0 then ((val Nl % val Dl : Nat) : Int) else -((val Nl % val Dl : Nat) : Int)) ∧
      (∀ i, i < s.nv → i ≠ r → s'.value i = s.value i) ∧
      (∀ {s0 : St}, Fr s0 r s → s0.next ≤ qp → Fr s0 r s') ∧ ∀ i, s'.alloc i = s.alloc i := by
  obtain ⟨br, hbr, hbrl, _⟩ := h.live r hr
  have hmpn := mpn_tdiv_qr_ok hN hD hbq hbr hqn hqd hnr.symm hdr.symm (hqv r hr).symm oD.pos hle oD.top haq (by omega)
  have hRlt : val Nl % val Dl < B ^ dl :=
    Nat.lt_trans (Nat.mod_lt _ (Nat.lt_of_lt_of_le (Bpow_pos _) oD.ge)) oD.lt
  obtain ⟨iY, vY⟩ := setBlk_nonvar h hqv hqlt (toLimbs (nl - dl + 1) (val Nl / val Dl) ++ bq.drop (nl - dl + 1))
  obtain ⟨i2, u2, v2⟩ := put_toLimbs iY (v := r) hr ((setBlk_blk_ne _ _ (hqv r hr)).trans hbr) dl (val Nl % val Dl) _
    har hRlt (natAbs_ite_pos (ns ≥ 0) _)
  refine ⟨_, ?_, i2, u2.nv, u2.ptr, by rw [v2, sgnv_ite _ _ _ DivZ.sizeNat_eq_zero.mp], fun i hi hir => ?_,
    fun f hq => (f.setBlk (Or.inr hq) _).upd u2, u2.alloc⟩
  · simp only [tdiv_r_core, bind, Except.bind, hmpn, pure, Except.pure, normSize_setBlk, Nat.mod_eq_of_lt hRlt]
    rfl
  · rw [u2.value_o iY hr hi hir, vY i hi]

/-! ### mpz_tdiv_qr, mpz_tdiv_q, mpz_tdiv_r -/

theorem sameSign_sizes {s : St} (h : Inv s) {n d : Nat} (hn : n < s.nv) (hd : d < s.nv) :
    sameSign (s.size n) (s.size d) ↔ (s.value n < 0 ↔ s.value d < 0) := by
  unfold sameSign; rw [h.size_neg_iff hn, h.size_neg_iff hd]

theorem tdivQ_eq {s : St} (h : Inv s) {n d : Nat} (hn : n < s.nv) (hd : d < s.nv) :
    (if sameSign (s.size n) (s.size d) then ((s.mag n / s.mag d : Nat) : Int) else -((s.mag n / s.mag d : Nat) : Int))
      = DivZ.tdivQ (s.value n) (s.value d) := by
  unfold DivZ.tdivQ
  rw [DivZ.tdiv_sign_mag, value_natAbs, value_natAbs]
  by_cases hc : sameSign (s.size n) (s.size d)
  · rw [if_pos hc, if_pos ((sameSign_sizes h hn hd).mp hc)]
  · rw [if_neg hc, if_neg (fun e => hc ((sameSign_sizes h hn hd).mpr e))]

theorem tdivR_eq {s : St} (h : Inv s) {n : Nat} (d : Nat) (hn : n < s.nv) :
    (if s.size n ≥ 0 then ((s.mag n % s.mag d : Nat) : Int) else -((s.mag n % s.mag d : Nat) : Int))
      = DivZ.tdivR (s.value n) (s.value d) := by
  unfold DivZ.tdivR
  rw [DivZ.tmod_sign_mag, value_natAbs, value_natAbs]
  have := h.size_neg_iff hn
  by_cases hc : s.size n ≥ 0
  · rw [if_pos hc, if_pos (by omega)]
  · rw [if_neg hc, if_neg (by omega)]

theorem mag_lt_of_size_lt {s : St} (h : Inv s) {n d : Nat} (hn : n < s.nv) (hd : d < s.nv)
    (hlt : (s.size n).natAbs < (s.size d).natAbs) : (s.value n).natAbs < (s.value d).natAbs :=
  DivZ.natAbs_lt_of_siz_lt (by rw [← h.norm n hn, ← h.norm d hd]; omega)

/-- `ql = nl - dl + 1` of tdiv_qr.c:40 (a C `mp_size_t`) once the test `ql <= 0` has failed -/
theorem ql_toNat {a b : Nat} (h : ¬ (a : Int) - (b : Int) + 1 ≤ 0) : ((a : Int) - (b : Int) + 1).toNat = a - b + 1 := by
  omega

/-- the early exit `|n| < |d|` of mpz_tdiv_qr and mpz_tdiv_r: `if (num != rem) { MPN_COPY (rp, np, nl); SIZ (rem) = SIZ (num); }` -/
theorem copy_num_ok {s : St} (h : Inv s) {r n : Nat} (hr : r < s.nv) (hn : n < s.nv)
    (hfit : (s.size n).natAbs ≤ s.alloc r) :
    ∃ s', (if n ≠ r then do
        let np ← s.load (s.ptr n) (s.size n).natAbs
        let X ← s.store (s.ptr r) np
        pure (X.setSize r (X.size n))
       else pure s : R St) = .ok s' ∧ Post s s' r (s.value n) := by
  by_cases hnr : n = r
  · subst hnr
    exact ⟨s, if_neg (fun e => e rfl), Post.same h rfl⟩
  · have hls := h.limbs_spec hn
    obtain ⟨X, eX, iX, uX, vX⟩ := store_put h hr _ _ (by rw [hls.1]; exact hfit) hls.2 (h.size_natAbs hn)
    refine ⟨_, ?_, Post.of_same_upd (Same.refl s) (Fr.refl s r) uX iX vX⟩
    rw [if_pos hnr, h.load_var hn]
    simp only [bind, Except.bind, eX, pure, Except.pure]
    rw [show X.size n = s.size n by unfold St.size; rw [store_vars eX]]

theorem tdiv_qr_ok {s : St} (h : Inv s) {q r n d : Nat} (hq : q < s.nv) (hr : r < s.nv) (hn : n < s.nv)
    (hd : d < s.nv) (hqr : q ≠ r) (hd0 : s.value d ≠ 0) :
    ∃ s', tdiv_qr q r n d s = .ok s' ∧
      Res2 s s' q r (DivZ.tdivQ (s.value n) (s.value d)) (DivZ.tdivR (s.value n) (s.value d)) := by
  have hds : s.size d ≠ 0 := fun e => hd0 ((h.size_eq_zero_iff hd).mp e)
  obtain ⟨i1, k1, a1⟩ := realloc_same h hr (s.size d).natAbs
  unfold tdiv_qr tdiv_qrV
  simp only [Variant.c, if_true, true_and, bind, Except.bind, pure, Except.pure]
  rw [if_neg (by omega)]
  by_cases hql : ((s.size n).natAbs : Int) - ((s.size d).natAbs : Int) + 1 ≤ 0
  · rw [if_pos hql]
    obtain ⟨tq, tr⟩ := DivZ.tdiv_tmod_of_natAbs_lt (mag_lt_of_size_lt h hn hd (by omega))
    obtain ⟨Y, eY, pY⟩ := copy_num_ok i1 (k1.lt hr) (k1.lt hn) (by rw [k1.size]; omega)
    have rY := pY.res i1 (k1.lt hr)
    rw [k1.size] at eY; rw [k1.value hn] at rY
    simp only [bind, Except.bind, pure, Except.pure] at eY
    rw [eY]
    obtain ⟨i2, u2, vq2⟩ := setSize_zero_spec rY.1 (v := q) (rY.2.1 ▸ k1.lt hq)
    have hlt : ∀ i, i < s.nv → i < Y.nv := fun i hi => rY.2.1 ▸ k1.lt hi
    refine ⟨_, rfl, i2, u2.nv.trans (rY.2.1.trans k1.nv), vq2.trans tq.symm, ?_, fun i hi hiq hir => ?_⟩
    · rw [u2.value_o rY.1 (hlt q hq) (hlt r hr) (Ne.symm hqr), rY.2.2.1]; exact tr.symm
    · rw [u2.value_o rY.1 (hlt q hq) (hlt i hi) hiq, rY.2.2.2 i (k1.lt hi) hir, k1.value hi]
  · rw [if_neg hql]
    have hle : (s.size d).natAbs ≤ (s.size n).natAbs := by omega
    rw [ql_toNat hql]
    obtain ⟨i2, k2, a2⟩ := realloc_same i1 (k1.lt hq) ((s.size n).natAbs - (s.size d).natAbs + 1)
    have k := k1.trans k2
    have har := Nat.le_trans a1 (k2.alloc r)
    generalize (s.mpzRealloc r (s.size d).natAbs).mpzRealloc q ((s.size n).natAbs - (s.size d).natAbs + 1) = s2 at *
    have hlt : ∀ i, i < s.nv → s2.ptr i < s2.next := fun i hi => i2.lt i (k.lt hi)
    obtain ⟨dp, s3, np, s4, e3, e4, i4, x4, ld, ln, hdp, hnp, _, _, t3, t4⟩ :=
      copyIf2_spec i2 (decide (s2.ptr d = s2.ptr r ∨ s2.ptr d = s2.ptr q))
        (decide (s2.ptr n = s2.ptr r ∨ s2.ptr n = s2.ptr q)) (k.load i2 hd) (k.load i2 hn)
    rw [e3]; simp only []
    rw [e4]; simp only []
    have hlt4 : ∀ i, i < s.nv → i < s4.nv := fun i hi => x4.nv ▸ k.lt hi
    obtain ⟨s5, e5, p5, R5⟩ := tdiv_qr_core_ok i4 (hlt4 q hq) (hlt4 r hr) hqr ln ld
      (by rw [x4.ptr]; exact hnp _ (hlt q hq) (fun e e' => of_decide_eq_false e (Or.inr e')))
      (by rw [x4.ptr]; exact hnp _ (hlt r hr) (fun e e' => of_decide_eq_false e (Or.inl e')))
      (by rw [x4.ptr]; exact hdp _ (hlt q hq) (fun e e' => of_decide_eq_false e (Or.inr e')))
      (by rw [x4.ptr]; exact hdp _ (hlt r hr) (fun e e' => of_decide_eq_false e (Or.inl e')))
      (h.normOp hn (by omega)) (h.normOp hd hds) hle (by rw [x4.alloc]; exact a2) (by rw [x4.alloc]; exact har)
      (s.size n) (s.size d)
    rw [x4.ptr q, x4.ptr r] at e5
    rw [e5]; simp only []
    rw [← tdivQ_eq h hn hd, ← tdivR_eq h d hn]
    exact ⟨_, rfl, ((k.trans (x4.same i2)).res2 R5).free_list hq hr _ fun p hp i hi => by
      rw [R5.2.1] at hi
      rw [p5, x4.ptr]
      exact Nat.ne_of_lt (Nat.lt_of_lt_of_le (i2.lt i (x4.nv ▸ hi))
        (mem_tmps (P := fun p => s2.next ≤ p) (fun e => (t3 e).1) (fun e => (t4 e).1) hp))⟩

theorem Vals.tdiv_qr {n : Nat} {f : Nat → Int} {s : St} (V : Vals n f s) {q r a d : Nat} (hq : q < n) (hr : r < n)
    (ha : a < n) (hd : d < n) (hqr : q ≠ r) (hd0 : f d ≠ 0) :
    Ok (tdiv_qrV .c q r a d s)
      (Vals n (Function.update (Function.update f q (DivZ.tdivQ (f a) (f d))) r (DivZ.tdivR (f a) (f d)))) := by
  rw [← V.val a ha, ← V.val d hd] at *
  exact V.step2 (tdiv_qr_ok V.inv (V.lt hq) (V.lt hr) (V.lt ha) (V.lt hd) hqr hd0)

theorem tdiv_q_post {s : St} (h : Inv s) {q n d : Nat} (hq : q < s.nv) (hn : n < s.nv)
    (hd : d < s.nv) (hd0 : s.value d ≠ 0) :
    Ok (tdiv_q q n d s) (fun s' => Post s s' q (DivZ.tdivQ (s.value n) (s.value d))) := by
  have hds : s.size d ≠ 0 := fun e => hd0 ((h.size_eq_zero_iff hd).mp e)
  unfold tdiv_q tdiv_qV
  simp only [Variant.c, if_true, true_and, bind, Except.bind, pure, Except.pure]
  rw [if_neg (by omega)]
  by_cases hql : ((s.size n).natAbs : Int) - ((s.size d).natAbs : Int) + 1 ≤ 0
  · rw [if_pos hql]
    obtain ⟨tq, _⟩ := DivZ.tdiv_tmod_of_natAbs_lt (mag_lt_of_size_lt h hn hd (by omega))
    obtain ⟨i2, u2, vq2⟩ := setSize_zero_spec h hq
    exact ⟨_, rfl, Post.of_same_upd (Same.refl s) (Fr.refl s q) u2 i2 (vq2.trans tq.symm)⟩
  · rw [if_neg hql]
    have hle : (s.size d).natAbs ≤ (s.size n).natAbs := by omega
    rw [ql_toNat hql]
    obtain ⟨i2, k, a2⟩ := realloc_same h hq ((s.size n).natAbs - (s.size d).natAbs + 1)
    have fr2 : Fr s q (s.mpzRealloc q ((s.size n).natAbs - (s.size d).natAbs + 1)) := (Fr.refl s q).realloc _
    generalize s.mpzRealloc q ((s.size n).natAbs - (s.size d).natAbs + 1) = s2 at *
    obtain ⟨dp, s3, np, s4, e3, e4, i4, x4, ld, ln, hdp, hnp, _, _, t3, t4⟩ :=
      copyIf2_spec i2 (decide (s2.ptr d = s2.ptr q)) (decide (s2.ptr n = s2.ptr q))
        (k.load i2 hd) (k.load i2 hn)
    rw [e3]; simp only []
    rw [e4]; simp only []
    have hq4 : q < s4.nv := x4.nv ▸ k.lt hq
    obtain ⟨s5, e5, i5, u5, vq5⟩ := tdiv_q_core_ok i4 hq4 ln ld
      (by rw [x4.ptr]; exact hnp _ (i2.lt q (k.lt hq)) (fun e e' => of_decide_eq_false e e'))
      (by rw [x4.ptr]; exact hdp _ (i2.lt q (k.lt hq)) (fun e e' => of_decide_eq_false e e'))
      (h.normOp hn (by omega)) (h.normOp hd hds) hle (by rw [x4.alloc]; exact a2) (s.size n) (s.size d)
    rw [x4.ptr q] at e5
    rw [e5]; simp only []
    exact ⟨_, rfl, Post.finish hq k i2 fr2.2.2.1 x4 (((fr2.copyIf e3).copyIf e4).upd u5) u5.nv u5.ptr u5.alloc i5
      (vq5.trans (tdivQ_eq h hn hd)) _
      fun p hp => mem_tmps (P := fun p => s2.next ≤ p) (fun e => (t3 e).1) (fun e => (t4 e).1) hp⟩

theorem tdiv_q_ok {s : St} (h : Inv s) {q n d : Nat} (hq : q < s.nv) (hn : n < s.nv)
    (hd : d < s.nv) (hd0 : s.value d ≠ 0) :
    ∃ s', tdiv_q q n d s = .ok s' ∧ Res s s' q (DivZ.tdivQ (s.value n) (s.value d)) :=
  (tdiv_q_post h hq hn hd hd0).mono fun _ p => p.res h hq

theorem tdiv_r_post {s : St} (h : Inv s) {r n d : Nat} (hr : r < s.nv) (hn : n < s.nv)
    (hd : d < s.nv) (hd0 : s.value d ≠ 0) :
    Ok (tdiv_r r n d s) (fun s' => Post s s' r (DivZ.tdivR (s.value n) (s.value d))) := by
  have hds : s.size d ≠ 0 := fun e => hd0 ((h.size_eq_zero_iff hd).mp e)
  obtain ⟨i1, k1, a1⟩ := realloc_same h hr (s.size d).natAbs
  have fr1 : Fr s r (s.mpzRealloc r (s.size d).natAbs) := (Fr.refl s r).realloc _
  unfold tdiv_r tdiv_rV
  simp only [Variant.c, if_true, true_and, bind, Except.bind, pure, Except.pure]
  rw [if_neg (by omega)]
  by_cases hql : ((s.size n).natAbs : Int) - ((s.size d).natAbs : Int) + 1 ≤ 0
  · rw [if_pos hql]
    obtain ⟨_, tr⟩ := DivZ.tdiv_tmod_of_natAbs_lt (mag_lt_of_size_lt h hn hd (by omega))
    obtain ⟨Y, eY, pY⟩ := copy_num_ok i1 (k1.lt hr) (k1.lt hn) (by rw [k1.size]; omega)
    rw [k1.size] at eY; rw [k1.value hn, ← tr] at pY
    simp only [bind, Except.bind, pure, Except.pure] at eY
    exact ⟨Y, eY, Post.after k1 fr1 pY⟩
  · rw [if_neg hql]
    have hle : (s.size d).natAbs ≤ (s.size n).natAbs := by omega
    rw [ql_toNat hql]
    generalize hs1 : s.mpzRealloc r (s.size d).natAbs = s1 at *
    generalize hql' : (s.size n).natAbs - (s.size d).natAbs + 1 = ql
    have i2 : Inv (s1.tmpAlloc ql).2 := malloc_inv i1 _
    have x12 : Ext s1 (s1.tmpAlloc ql).2 := malloc_ext i1 _
    have hqpb : (s1.tmpAlloc ql).2.blk s1.next = some (List.replicate ql junk) := malloc_blk_new s1 _
    rw [show (s1.tmpAlloc ql).1 = s1.next from rfl]
    have hnx2 : (s1.tmpAlloc ql).2.next = s1.next + 1 := rfl
    have fr2 : Fr s r (s1.tmpAlloc ql).2 := fr1.malloc _
    have hge : s.next ≤ s1.next := fr1.2.2.1
    generalize (s1.tmpAlloc ql).2 = s2 at *
    have k := k1.trans (x12.same i1)
    obtain ⟨dp, s3, np, s4, e3, e4, i4, x4, ld, ln, hdp, hnp, _, _, t3, t4⟩ :=
      copyIf2_spec i2 (decide (s2.ptr d = s2.ptr r)) (decide (s2.ptr n = s2.ptr r))
        (k.load i2 hd) (k.load i2 hn)
    rw [e3]; simp only []
    rw [e4]; simp only []
    have hr4 : r < s4.nv := x4.nv ▸ k.lt hr
    have hlt1 : ∀ i, i < s.nv → s2.ptr i < s1.next := fun i hi => by rw [x12.ptr]; exact i1.lt i (k1.lt hi)
    have hlt4 : ∀ i, i < s4.nv → s4.ptr i < s1.next := fun i hi => by
      rw [x4.ptr]; exact hlt1 i (k.nv ▸ x4.nv ▸ hi)
    obtain ⟨s5, e5, i5, nv5, p5, vr5, vo5, tr5, al5⟩ := tdiv_r_core_ok i4 hr4 ln ld
      ((x4.blk _ (by rw [hqpb]; simp)).trans hqpb) (fun i hi => Nat.ne_of_lt (hlt4 i hi))
      (by have := x4.next; omega)
      (hnp _ (by omega) (fun _ => Nat.ne_of_lt (hlt1 n hn))).symm
      (hdp _ (by omega) (fun _ => Nat.ne_of_lt (hlt1 d hd))).symm
      (by rw [x4.ptr]; exact hnp _ (i2.lt r (k.lt hr)) (fun e e' => of_decide_eq_false e e'))
      (by rw [x4.ptr]; exact hdp _ (i2.lt r (k.lt hr)) (fun e e' => of_decide_eq_false e e'))
      (h.normOp hd hds) hle (by rw [List.length_replicate, ← hql']) (by rw [x4.alloc, x12.alloc]; exact a1)
      (s.size n)
    rw [x4.ptr r] at e5
    rw [e5]; simp only []
    exact ⟨_, rfl, Post.finish hr k1 i1 hge (x12.trans x4) (tr5 ((fr2.copyIf e3).copyIf e4) hge) nv5 p5 al5 i5
      (vr5.trans (tdivR_eq h d hn)) _ fun p hp => by
        rcases List.mem_cons.mp hp with hp | hp
        · exact Nat.le_of_eq hp.symm
        · exact Nat.le_of_succ_le (Nat.le_trans (Nat.le_of_eq hnx2.symm)
            (mem_tmps (P := fun p => s2.next ≤ p) (fun e => (t3 e).1) (fun e => (t4 e).1) hp))⟩

theorem tdiv_r_ok {s : St} (h : Inv s) {r n d : Nat} (hr : r < s.nv) (hn : n < s.nv)
    (hd : d < s.nv) (hd0 : s.value d ≠ 0) :
    ∃ s', tdiv_r r n d s = .ok s' ∧ Res s s' r (DivZ.tdivR (s.value n) (s.value d)) :=
  (tdiv_r_post h hr hn hd hd0).mono fun _ p => p.res h hr

/-! ### floor / ceiling wrappers, mpz_mod -/

theorem Vals.tdiv_r {n : Nat} {f : Nat → Int} {s : St} (V : Vals n f s) {r a d : Nat} (hr : r < n) (ha : a < n)
    (hd : d < n) (hd0 : f d ≠ 0) :
    Ok (tdiv_rV .c r a d s) (Vals n (Function.update f r (DivZ.tdivR (f a) (f d)))) := by
  rw [← V.val a ha, ← V.val d hd] at *
  exact V.step (tdiv_r_ok V.inv (V.lt hr) (V.lt ha) (V.lt hd) hd0)

/-- `temp_divisor` and the matching `TMP_FREE`, as a rule for the rest `k` of the function: the divisor `dv` is `d` itself, or a
    new variable that the final `if copied then s3.tmpDone else s3` takes away again -/
theorem Vals.tempDiv {n : Nat} {f : Nat → Int} {s : St} (V : Vals n f s) {d : Nat} (hd : d < n) (copied : Bool)
    {β : Type} {k : Nat × St → R β} {Q : β → Prop}
    (hk : ∀ N dv F s0, n ≤ N → dv < N → F dv = f d → (∀ i, i < n → F i = f i) →
      (∀ i, i < n → (copied = false → i ≠ d) → dv ≠ i) → Vals N F s0 →
      (∀ {g : Nat → Int} {s3 : St}, Vals N g s3 → Vals n g (if copied then s3.tmpDone else s3)) → Ok (k (dv, s0)) Q) :
    Ok (tempDivisor copied d s >>= k) Q := by
  cases copied
  · exact hk n d f s (Nat.le_refl _) hd rfl (fun _ _ => rfl) (fun i _ h e => h rfl e.symm) V fun V3 => V3
  · obtain ⟨e, V1, -⟩ := V.tmpInit (s.size d).natAbs
    obtain ⟨s0, e0, V0⟩ := V1.set (Nat.lt_succ_self _) (Nat.lt_succ_of_lt hd)
    rw [Function.update_of_ne (Nat.ne_of_lt hd)] at V0
    simp only [tempDivisor, if_true, e, e0]
    exact hk (n + 1) n _ s0 (Nat.le_succ _) (Nat.lt_succ_self _) (Function.update_self ..)
      (fun i hi => (Function.update_of_ne (Nat.ne_of_lt hi) ..).trans (Function.update_of_ne (Nat.ne_of_lt hi) ..))
      (fun i hi _ e => Nat.lt_irrefl _ (e ▸ hi)) V0 fun V3 => V3.tmpDone

/-- the C's test `(xsize ^ …) >= 0 / < 0 && SIZ (rem) != 0`, on the size fields after the truncating division -/
theorem adj_iff (ceil : Bool) {x y : Int} {a b rs : Int} (hs : sameSign a b ↔ (x < 0 ↔ y < 0)) (hr : rs ≠ 0 ↔ Int.tmod x y ≠ 0) :
    ((if ceil = true then decide (sameSign a b) else !decide (sameSign a b)) = true ∧ rs ≠ 0) ↔ Adj ceil x y := by
  unfold Adj
  cases ceil <;> simp [hs, hr]

theorem cfdiv_qr_ok (ceil : Bool) {s : St} (h : Inv s) {q r n d : Nat} (hq : q < s.nv) (hr : r < s.nv) (hn : n < s.nv)
    (hd : d < s.nv) (hqr : q ≠ r) (hd0 : s.value d ≠ 0) :
    ∃ s', cfdiv_qrV .c ceil q r n d s = .ok s' ∧
      Res2 s s' q r (cfQ ceil (s.value n) (s.value d)) (cfR ceil (s.value n) (s.value d)) := by
  unfold cfdiv_qrV
  refine (Vals.of_inv h).tempDiv hd _ fun N dv F s0 hN hdv Fdv Fo ne V0 fin => ?_
  dsimp only
  have hl : ∀ {i}, i < s.nv → i < N := fun hi => Nat.lt_of_lt_of_le hi hN
  have hdvq : dv ≠ q ∧ dv ≠ r := ⟨ne q hq fun e e' => of_decide_eq_false e ⟨rfl, Or.inl e'⟩,
    ne r hr fun e e' => of_decide_eq_false e ⟨rfl, Or.inr e'⟩⟩
  rw [show s0.size n = s.size n by rw [h.norm n hn, V0.inv.norm n (V0.lt (hl hn)), V0.val n (hl hn), Fo n hn]]
  refine (V0.tdiv_qr (hl hq) (hl hr) (hl hn) hdv hqr (by rw [Fdv]; exact hd0)).bind fun s1 V1 => ?_
  rw [Fo n hn, Fdv] at V1
  have hadj := adj_iff ceil (rs := s1.size r) (sameSign_sizes h hn hd)
    (by rw [Ne, V1.inv.size_eq_zero_iff (V1.lt (hl hr)), V1.val r (hl hr), Function.update_self]; rfl)
  refine Ok.bind (P := Vals N (Function.update (Function.update F q (cfQ ceil (s.value n) (s.value d))) r
      (cfR ceil (s.value n) (s.value d)))) ?_
    fun s3 V3 => Ok.pure (Vals.res2 hq hr hqr ((fin V3).congr fun i hi => update_congr (update_congr (Fo i hi) _ _) _ _))
  by_cases hc : Adj ceil (s.value n) (s.value d)
  · rw [if_pos (hadj.mpr hc)]
    refine ((V1.aors_ui (hl hq) (hl hq) (!ceil) 1 (by rw [B_eq]; decide)).bind fun s2 V2 =>
      V2.aors (hl hr) (hl hr) hdv ceil).mono fun s3 V3 => V3.congr fun i _ => ?_
    by_cases hir : i = r
    · subst hir
      simp only [Function.update_self, Function.update_of_ne (Ne.symm hqr), Function.update_of_ne hdvq.1,
        Function.update_of_ne hdvq.2, Fdv]
      rw [cfR_eq ceil hd0, if_pos hc]
      cases ceil <;> simp [DivZ.tdivR]
    · simp only [Function.update_of_ne hir]
      by_cases hiq : i = q
      · subst hiq
        simp only [Function.update_self, Function.update_of_ne hqr]
        rw [cfQ_eq ceil hd0, if_pos hc]
        cases ceil <;> simp [DivZ.tdivQ]
      · simp only [Function.update_of_ne hiq, Function.update_of_ne hir]
  · rw [if_neg (fun e => hc (hadj.mp e)), cfQ_eq ceil hd0, cfR_eq ceil hd0, if_neg hc, if_neg hc]
    exact Ok.pure V1

theorem cfdiv_q_ok (ceil : Bool) {s : St} (h : Inv s) {q n d : Nat} (hq : q < s.nv) (hn : n < s.nv)
    (hd : d < s.nv) (hd0 : s.value d ≠ 0) :
    ∃ s', cfdiv_qV .c ceil q n d s = .ok s' ∧ Res s s' q (cfQ ceil (s.value n) (s.value d)) := by
  unfold cfdiv_qV
  obtain ⟨e, V, -⟩ := (Vals.of_inv h).tmpInit (s.size d).natAbs
  simp only [e]
  have hne : ∀ {i}, i < s.nv → i ≠ s.nv := fun hi => Nat.ne_of_lt hi
  have hl : ∀ {i}, i < s.nv → i < s.nv + 1 := fun hi => Nat.lt_succ_of_lt hi
  refine (V.tdiv_qr (hl hq) (Nat.lt_succ_self _) (hl hn) (hl hd) (hne hq) ?_).bind fun s1 V1 => ?_
  · rwa [Function.update_of_ne (hne hd)]
  simp only [Function.update_of_ne (hne hd), Function.update_of_ne (hne hn)] at V1
  have hadj := adj_iff ceil (rs := s1.size s.nv)
    ((sameSign_sizes h hd hn).trans ⟨Iff.symm, Iff.symm⟩)
    (by rw [Ne, V1.inv.size_eq_zero_iff (V1.lt (Nat.lt_succ_self _)), V1.val _ (Nat.lt_succ_self _), Function.update_self]; rfl)
  refine Ok.bind (P := Vals (s.nv + 1) (Function.update (Function.update (Function.update s.value s.nv 0) q
      (cfQ ceil (s.value n) (s.value d))) s.nv (DivZ.tdivR (s.value n) (s.value d)))) ?_
    fun s2 V2 => Ok.pure (Vals.res hq (V2.tmpDone.congr fun i hi => ?_))
  · by_cases hc : Adj ceil (s.value n) (s.value d)
    · rw [if_pos (hadj.mpr hc)]
      refine (V1.aors_ui (hl hq) (hl hq) (!ceil) 1 (by rw [B_eq]; decide)).mono fun s2 V2 => V2.congr fun i _ => ?_
      by_cases hiq : i = q
      · subst hiq
        simp only [Function.update_self, Function.update_of_ne (hne hq)]
        rw [cfQ_eq ceil hd0, if_pos hc]
        cases ceil <;> simp [DivZ.tdivQ]
      · simp only [Function.update_of_ne hiq]
        by_cases hin : i = s.nv
        · subst hin; simp only [Function.update_self]
        · simp only [Function.update_of_ne hin, Function.update_of_ne hiq]
    · rw [if_neg (fun e => hc (hadj.mp e)), cfQ_eq ceil hd0, if_neg hc]
      exact Ok.pure V1
  · rw [Function.update_of_ne (hne hi)]
    exact update_congr (Function.update_of_ne (hne hi) ..) _ _

/-- SIZ (dividend) is read after the truncating division, when `rem` may be the dividend: it still has the dividend's sign
    if the remainder is not zero -/
theorem Vals.tdiv_r_sizes {N : Nat} {F : Nat → Int} {s1 : St} {r n : Nat} {x y : Int}
    (V1 : Vals N (Function.update F r (DivZ.tdivR x y)) s1) (hr : r < N) (hn : n < N) (hFn : F n = x) :
    (s1.size r ≠ 0 ↔ Int.tmod x y ≠ 0) ∧ (Int.tmod x y ≠ 0 → (s1.size n < 0 ↔ x < 0)) := by
  refine ⟨by rw [Ne, V1.inv.size_eq_zero_iff (V1.lt hr), V1.val r hr, Function.update_self]; rfl, fun hne => ?_⟩
  rw [V1.inv.size_neg_iff (V1.lt hn), V1.val n hn]
  by_cases hnr : n = r
  · rw [hnr, Function.update_self]; exact DivZ.tmod_lt_zero_iff hne
  · rw [Function.update_of_ne hnr, hFn]

theorem cfdiv_r_ok (ceil : Bool) {s : St} (h : Inv s) {r n d : Nat} (hr : r < s.nv) (hn : n < s.nv)
    (hd : d < s.nv) (hd0 : s.value d ≠ 0) :
    ∃ s', cfdiv_rV .c ceil r n d s = .ok s' ∧ Res s s' r (cfR ceil (s.value n) (s.value d)) := by
  unfold cfdiv_rV
  refine (Vals.of_inv h).tempDiv hd _ fun N dv F s0 hN hdv Fdv Fo ne V0 fin => ?_
  dsimp only
  have hl : ∀ {i}, i < s.nv → i < N := fun hi => Nat.lt_of_lt_of_le hi hN
  have hdvr : dv ≠ r := ne r hr fun e e' => of_decide_eq_false e ⟨rfl, e'⟩
  refine (V0.tdiv_r (hl hr) (hl hn) hdv (by rw [Fdv]; exact hd0)).bind fun s1 V1 => ?_
  rw [Fo n hn, Fdv] at V1
  obtain ⟨e2, hsn⟩ := V1.tdiv_r_sizes (hl hr) (hl hn) (Fo n hn)
  refine Ok.bind (P := Vals N (Function.update F r (cfR ceil (s.value n) (s.value d)))) ?_
    fun s3 V3 => Ok.pure (Vals.res hr ((fin V3).congr fun i hi => update_congr (Fo i hi) _ _))
  have hadj : ((if ceil = true then decide (sameSign (s.size d) (s1.size n)) else !decide (sameSign (s.size d) (s1.size n))) = true
      ∧ s1.size r ≠ 0) ↔ Adj ceil (s.value n) (s.value d) := by
    by_cases hne : Int.tmod (s.value n) (s.value d) = 0
    · simp [Adj, e2, hne]
    · refine adj_iff ceil ?_ e2
      unfold sameSign
      rw [h.size_neg_iff hd, hsn hne]; exact ⟨Iff.symm, Iff.symm⟩
  by_cases hc : Adj ceil (s.value n) (s.value d)
  · rw [if_pos (hadj.mpr hc)]
    refine (V1.aors (hl hr) (hl hr) hdv ceil).mono fun s3 V3 => V3.congr fun i _ => ?_
    by_cases hir : i = r
    · subst hir
      simp only [Function.update_self, Function.update_of_ne hdvr, Fdv]
      rw [cfR_eq ceil hd0, if_pos hc]
      cases ceil <;> simp [DivZ.tdivR]
    · simp only [Function.update_of_ne hir]
  · rw [if_neg (fun e => hc (hadj.mp e)), cfR_eq ceil hd0, if_neg hc]
    exact Ok.pure V1

theorem mod_ok {s : St} (h : Inv s) {r n d : Nat} (hr : r < s.nv) (hn : n < s.nv)
    (hd : d < s.nv) (hd0 : s.value d ≠ 0) :
    ∃ s', mod r n d s = .ok s' ∧ Res s s' r (DivZ.modS (s.value n) (s.value d)) := by
  unfold mod modV
  refine (Vals.of_inv h).tempDiv hd _ fun N dv F s0 hN hdv Fdv Fo ne V0 fin => ?_
  dsimp only
  have hl : ∀ {i}, i < s.nv → i < N := fun hi => Nat.lt_of_lt_of_le hi hN
  have hdvr : dv ≠ r := ne r hr fun e e' => of_decide_eq_false e ⟨rfl, e'⟩
  refine (V0.tdiv_r (hl hr) (hl hn) hdv (by rw [Fdv]; exact hd0)).bind fun s1 V1 => ?_
  rw [Fo n hn, Fdv] at V1
  obtain ⟨e2, hsn⟩ := V1.tdiv_r_sizes (hl hr) (hl hn) (Fo n hn)
  have hsd : s1.size dv < 0 ↔ s.value d < 0 := by
    rw [V1.inv.size_neg_iff (V1.lt hdv), V1.val dv hdv, Function.update_of_ne hdvr, Fdv]
  refine Ok.bind (P := Vals N (Function.update F r (DivZ.modS (s.value n) (s.value d)))) ?_
    fun s3 V3 => Ok.pure (Vals.res hr ((fin V3).congr fun i hi => update_congr (Fo i hi) _ _))
  have hspec : DivZ.modS (s.value n) (s.value d) = _ := DivZ.emod_from_tmod (s.value n) (s.value d)
  have hadd : ∀ sub : Bool, Ok (mpz_aors sub r r dv s1) (Vals N (Function.update F r
      (if sub then Int.tmod (s.value n) (s.value d) - s.value d else Int.tmod (s.value n) (s.value d) + s.value d))) :=
    fun sub => (V1.aors (hl hr) (hl hr) hdv sub).mono fun s3 V3 => V3.congr fun i _ => by
      by_cases hir : i = r
      · subst hir; simp only [Function.update_self, Function.update_of_ne hdvr, Fdv]; rfl
      · simp only [Function.update_of_ne hir]
  by_cases hne : Int.tmod (s.value n) (s.value d) = 0
  · rw [if_neg (fun e => e2.mp e hne), hspec, if_neg (fun e => e.1 hne)]
    exact Ok.pure V1
  · rw [if_pos (e2.mpr hne)]
    by_cases hneg : s.value n < 0
    · rw [if_pos ((hsn hne).mpr hneg)]
      by_cases hdneg : s.value d < 0
      · rw [if_pos (hsd.mpr hdneg), hspec, if_pos ⟨hne, hneg⟩, if_pos hdneg]; exact hadd true
      · rw [if_neg (fun e => hdneg (hsd.mp e)), hspec, if_pos ⟨hne, hneg⟩, if_neg hdneg]; exact hadd false
    · rw [if_neg (fun e => hneg ((hsn hne).mp e)), hspec, if_neg (fun e => hneg e.2)]
      exact Ok.pure V1

/-! ### `ofInts`: the states of the examples in Props/C05_div -/

theorem ofInts_value (zs : List Int) (i : Nat) (hi : i < zs.length) : (ofInts zs).value i = zs.getD i 0 := by
  unfold St.value St.mag St.limbs St.size St.ptr
  simp only [ofInts, hi, if_true, Option.getD_some]
  set z := zs.getD i 0
  rw [DivZ.siz_natAbs, toLimbs_take _ _ _ (Nat.le_max_left _ _), val_toLimbs_lt _ _ (DivZ.lt_B_pow_sizeNat _)]
  have := @DivZ.siz_neg_iff z
  split <;> omega

theorem ofInts_inv (zs : List Int) : Inv (ofInts zs) := by
  refine ⟨fun i hi => ?_, fun i j _ _ e => e, fun i hi => hi, fun p hp => ?_, fun i hi => ?_, fun i hi => ?_⟩
  · have hi' : i < zs.length := hi
    refine ⟨toLimbs (max (sizeNat (zs.getD i 0).natAbs) 1) (zs.getD i 0).natAbs, ?_, ?_, Limbs_toLimbs _ _⟩
    · simp [ofInts, St.ptr, hi']
    · simp [ofInts, St.alloc, toLimbs_length]
  · have hp' : zs.length ≤ p := hp
    simp only [ofInts]; rw [if_neg (by omega)]
  · simp only [St.size, St.alloc, ofInts]; rw [DivZ.siz_natAbs]; exact Nat.le_max_left _ _
  · rw [ofInts_value zs i hi]; rfl

/-! ### mpz_divexact -/

theorem mpn_divexact_ok {s : St} {qp np nl dp dl : Nat} {Nl Dl bq : List Nat}
    (hN : s.load np nl = .ok Nl) (hD : s.load dp dl = .ok Dl)
    (hbq : s.blk qp = some bq) (h2 : qp ≠ dp)
    (hdl : 1 ≤ dl) (hle : dl ≤ nl) (htop : Dl.getD (dl - 1) 0 ≠ 0)
    (haq : nl - dl + 1 ≤ bq.length) :
    mpn_divexact qp np nl dp dl s =
      .ok (s.setBlk qp (some (toLimbs (nl - dl + 1) (val Nl / val Dl) ++ bq.drop (nl - dl + 1)))) := by
  unfold mpn_divexact
  have hs : ¬ ¬ (1 ≤ dl ∧ dl ≤ nl) := not_not_intro ⟨hdl, hle⟩
  simp only [bind, Except.bind, h2, if_false, hN, hD, hs, htop]
  rw [store_blk hbq (by rw [toLimbs_length]; exact haq), toLimbs_length]

theorem divexact_post {s : St} (h : Inv s) {q n d : Nat} (hq : q < s.nv) (hn : n < s.nv)
    (hd : d < s.nv) (hd0 : s.value d ≠ 0) :
    Ok (divexact q n d s) (fun s' => Post s s' q (DivZ.tdivQ (s.value n) (s.value d))) := by
  have hds : s.size d ≠ 0 := fun e => hd0 ((h.size_eq_zero_iff hd).mp e)
  unfold divexact divexactV
  simp only [Variant.c, bind, Except.bind, pure, Except.pure, Bool.not_true, Bool.false_eq_true, true_and, and_true, and_false, if_false]
  obtain ⟨i1, k, a1⟩ := realloc_same h hq (((s.size n).natAbs : Int) - ((s.size d).natAbs : Int) + 1).toNat
  have fr1 : Fr s q (s.mpzRealloc q (((s.size n).natAbs : Int) - ((s.size d).natAbs : Int) + 1).toNat) :=
    (Fr.refl s q).realloc _
  by_cases hlt : (s.size n).natAbs < (s.size d).natAbs
  · rw [if_pos hlt]
    obtain ⟨tq, _⟩ := DivZ.tdiv_tmod_of_natAbs_lt (mag_lt_of_size_lt h hn hd hlt)
    obtain ⟨i2, u2, vq2⟩ := setSize_zero_spec i1 (k.lt hq)
    exact ⟨_, rfl, Post.of_same_upd k fr1 u2 i2 (vq2.trans tq.symm)⟩
  · rw [if_neg hlt, if_neg (by omega)]
    have hle : (s.size d).natAbs ≤ (s.size n).natAbs := by omega
    rw [ql_toNat (by omega)] at i1 k a1 fr1 ⊢
    have oN := h.normOp hn (by omega)
    have oD := h.normOp hd hds
    obtain ⟨hQlt, _⟩ := quot_size oN.ge oN.lt oD.ge oD.lt oD.pos hle
    have hQval : (if sameSign (s.size n) (s.size d) then ((val (s.limbs n) / val (s.limbs d) : Nat) : Int)
        else -((val (s.limbs n) / val (s.limbs d) : Nat) : Int)) = DivZ.tdivQ (s.value n) (s.value d) := tdivQ_eq h hn hd
    generalize hQ : val (s.limbs n) / val (s.limbs d) = Q at *
    have hQsz : sizeNat Q ≤ (s.size n).natAbs - (s.size d).natAbs + 1 := (DivZ.sizeNat_le_iff _ _).mpr hQlt
    generalize hql : (s.size n).natAbs - (s.size d).natAbs + 1 = ql at *
    generalize s.mpzRealloc q ql = s1 at *
    have hld := k.load i1 hd
    have hln := k.load i1 hn
    generalize (s.size n).natAbs = nl at *
    generalize (s.size d).natAbs = dl at *
    obtain ⟨bq, hbq, hbql, hbqL⟩ := i1.live q (k.lt hq)
    by_cases hc : q = n ∨ q = d
    · -- quotient in TMP space, copied back
      simp only [decide_eq_true hc, if_true]
      have i2 : Inv (s1.tmpAlloc ql).2 := malloc_inv i1 _
      have x12 : Ext s1 (s1.tmpAlloc ql).2 := malloc_ext i1 _
      have hqpb : (s1.tmpAlloc ql).2.blk s1.next = some (List.replicate ql junk) := malloc_blk_new s1 _
      rw [show (s1.tmpAlloc ql).1 = s1.next from rfl]
      have hnx : (s1.tmpAlloc ql).2.next = s1.next + 1 := rfl
      have fr2 : Fr s q (s1.tmpAlloc ql).2 := fr1.malloc _
      generalize (s1.tmpAlloc ql).2 = s2 at *
      have hne : ∀ i, i < s2.nv → s2.ptr i ≠ s1.next := fun i hi => by
        rw [x12.ptr]; exact Nat.ne_of_lt (i1.lt i (x12.nv ▸ hi))
      rw [x12.ptr n, x12.ptr d,
        mpn_divexact_ok (x12.load hln) (x12.load hld) hqpb (by rw [← x12.ptr d]; exact (hne d (x12.nv ▸ k.lt hd)).symm)
          oD.pos hle oD.top (by rw [List.length_replicate, hql]), hql, hQ]
      simp only []
      obtain ⟨iY, vY⟩ := setBlk_nonvar i2 hne (by omega)
        (toLimbs ql Q ++ (List.replicate ql junk).drop ql)
      rw [normSize_setBlk, Nat.mod_eq_of_lt hQlt]; simp only []
      simp only [show ∀ b i, (s2.setBlk s1.next b).size i = s.size i from fun _ i => (x12.size i).trans (k.size i)]
      generalize hY : s2.setBlk s1.next (some (toLimbs ql Q ++ (List.replicate ql junk).drop ql)) = Y at *
      have hYq : Y.blk (Y.ptr q) = some bq := by
        rw [← hY]
        exact (setBlk_blk_ne _ _ (hne q (x12.nv ▸ k.lt hq))).trans
          ((congrArg _ (x12.ptr q)).trans ((x12.blk _ (by rw [hbq]; simp)).trans hbq))
      have hYt : Y.blk s1.next = some (toLimbs ql Q ++ (List.replicate ql junk).drop ql) := by
        rw [← hY]; exact setBlk_blk_self _ _ _
      have hYp : ∀ i, Y.ptr i = s2.ptr i := fun i => by rw [← hY]; rfl
      have hYn : Y.nv = s2.nv := by rw [← hY]; rfl
      have hqY : q < Y.nv := hYn ▸ x12.nv ▸ k.lt hq
      generalize hsz : (if sameSign (s.size n) (s.size d) then ((sizeNat Q : Nat) : Int)
        else -((sizeNat Q : Nat) : Int)) = sz
      have hszabs : sz.natAbs = sizeNat Q := by rw [← hsz]; exact natAbs_ite_pos _ _
      rw [if_pos (by rw [show (Y.setSize q sz).ptr q = Y.ptr q by simp [St.setSize, St.setVar, St.ptr], hYp]
                     exact (hne q (x12.nv ▸ k.lt hq)).symm)]
      have hload : (Y.setSize q sz).load s1.next (sizeNat Q) = .ok (toLimbs (sizeNat Q) Q) := by
        unfold St.load
        rw [show (Y.setSize q sz).blk s1.next = _ from hYt]; simp only [List.length_append, toLimbs_length]
        rw [if_pos (by omega), List.take_append_of_le_length (by rw [toLimbs_length]; exact hQsz), toLimbs_take _ _ _ hQsz]
      rw [hload]; simp only []
      have hstore := setSize_store hYq sz (toLimbs (sizeNat Q) Q)
        (by rw [toLimbs_length, hbql]; exact Nat.le_trans hQsz a1)
      rw [toLimbs_length] at hstore
      rw [hstore]; simp only []
      obtain ⟨i3, u3, v3⟩ := put_toLimbs iY hqY hYq (sizeNat Q) Q sz
        (by rw [show Y.alloc q = s2.alloc q by rw [← hY]; rfl, x12.alloc]; exact Nat.le_trans hQsz a1)
        (DivZ.lt_B_pow_sizeNat _) hszabs
      have r3 : Res s _ q (DivZ.tdivQ (s.value n) (s.value d)) := k.res ((x12.same i1).res
        ⟨i3, u3.nv.trans hYn, by rw [v3, ← hsz, sgnv_ite _ _ _ DivZ.sizeNat_eq_zero.mp]; exact hQval,
         fun i hi hiq => (u3.value_o iY hqY (hYn ▸ hi) hiq).trans (vY i hi)⟩)
      have := r3.free_list hq [s1.next] (fun p hp i hi => by
        rw [List.mem_singleton.mp hp, u3.ptr, hYp]; exact hne i (hYn ▸ u3.nv ▸ hi))
      have hge : s.next ≤ s1.next := fr1.2.2.1
      exact ⟨_, rfl, Post.of_res this (((hY ▸ fr2.setBlk (Or.inr hge) _ : Fr s q Y).upd u3).free (Or.inr hge))
        fun i => Nat.le_trans (k.alloc i) (Nat.le_of_eq ((u3.alloc i).trans
          ((show Y.alloc i = s2.alloc i by rw [← hY]; rfl).trans (x12.alloc i))).symm)⟩
    · -- quotient written in place
      simp only [decide_eq_false hc, Bool.false_eq_true, if_false]
      rw [mpn_divexact_ok hln hld hbq (fun e => hc (Or.inr (i1.inj q d (k.lt hq) (k.lt hd) e))) oD.pos hle oD.top
        (by rw [hbql, hql]; exact a1), hql, hQ]
      simp only []
      rw [normSize_setBlk, Nat.mod_eq_of_lt hQlt]; simp only []
      simp only [show ∀ b i, (s1.setBlk (s1.ptr q) b).size i = s.size i from fun _ i => k.size i]
      rw [if_neg (fun e => e (by simp [St.setSize, St.setVar, St.ptr, St.setBlk]))]
      obtain ⟨i3, u3, v3⟩ := put_toLimbs i1 (k.lt hq) hbq ql Q
        (if sameSign (s.size n) (s.size d) then ((sizeNat Q : Nat) : Int)
          else -((sizeNat Q : Nat) : Int)) a1 hQlt (natAbs_ite_pos _ _)
      exact ⟨_, rfl, Post.of_same_upd k fr1 u3 i3 ((v3.trans (sgnv_ite _ _ _ DivZ.sizeNat_eq_zero.mp)).trans hQval)⟩

theorem divexact_ok {s : St} (h : Inv s) {q n d : Nat} (hq : q < s.nv) (hn : n < s.nv)
    (hd : d < s.nv) (hd0 : s.value d ≠ 0) :
    ∃ s', divexact q n d s = .ok s' ∧ Res s s' q (DivZ.tdivQ (s.value n) (s.value d)) :=
  (divexact_post h hq hn hd hd0).mono fun _ p => p.res h hq

theorem Vals.divexact {n : Nat} {f : Nat → Int} {s : St} (V : Vals n f s) {q a d : Nat} (hq : q < n) (ha : a < n)
    (hd : d < n) (hd0 : f d ≠ 0) :
    Ok (divexact q a d s) (Vals n (Function.update f q (DivZ.tdivQ (f a) (f d)))) := by
  rw [← V.val a ha, ← V.val d hd] at *
  exact V.step (divexact_ok V.inv (V.lt hq) (V.lt ha) (V.lt hd) hd0)

end Mpir.AliasMem
