/- mpz_gcdext on the pointer-level model (Mpir/Model/AliasGcdext.lean): every assignment of (g, s, t, a, b) — s, t possibly
   NULL, g / s / t possibly a or b, a possibly b — yields the values of the value-level model `Gcd.mpz_gcdext`.
   What is particular to it is its TMP space: G and S are produced in TMP blocks which the computation of t, the store of s
   and the store of g must leave alone (`Tmp`, `Keep`, `Fr.keep` of AliasHoare.lean). -/
import MpirProofs.Lemmas.AliasDiv
import MpirProofs.Lemmas.AliasMul
import MpirProofs.Lemmas.GcdExtZ
import Mpir.Model.AliasGcdext
namespace Mpir.AliasMem
open Mpir
open Mpir.DivZ (sizeNat siz sameSign)

/-- `MPZ_REALLOC (w, n); MPN_COPY (PTR (w), src, n); SIZ (w) = sz` from a TMP block holding the normalised magnitude of z -/
theorem gcdextOut_post {s : St} (h : Inv s) {w : Nat} (hw : w < s.nv) {src : Nat} (z : Int) {rest : List Nat}
    (hT : Tmp (· < s.nv) src s) (hsrc : s.blk src = some (toLimbs (sizeNat z.natAbs) z.natAbs ++ rest)) :
    Ok (gcdextOut w src (sizeNat z.natAbs) (siz z) s) (fun s' => Post s s' w z) := by
  obtain ⟨i1, k1, a1⟩ := realloc_same h hw (sizeNat z.natAbs)
  obtain ⟨s', e', hres, u'⟩ := setInt_spec i1 (k1.lt hw) z a1
  refine ⟨s', ?_, Post.of_same_upd k1 ((Fr.refl s w).realloc _) u' hres.1 hres.2.2.1⟩
  have hl : (s.mpzRealloc w (sizeNat z.natAbs)).load src (sizeNat z.natAbs) = .ok (toLimbs (sizeNat z.natAbs) z.natAbs) := by
    unfold St.load
    rw [realloc_blk_ne s w _ src (Ne.symm (hT.2 w hw)) (Nat.ne_of_lt hT.1), hsrc]; simp [toLimbs_length]
  unfold gcdextOut
  simp only [hl, ok_bind]
  exact e'

/-! ### the mpn call (gcdext.c:77) -/

theorem mpn_gcdext_ok {n : Nat} {f : Nat → Int} {s : St} (V : Vals n f s) {gp sp ap bp an k : Nat} {A Bl bg bs : List Nat}
    (hd : ¬ (ap = bp ∨ gp = sp ∨ gp = ap ∨ gp = bp ∨ sp = ap ∨ sp = bp))
    (Ta : Tmp (· < n) ap s) (Tb : Tmp (· < n) bp s) (Tg : Tmp (· < n) gp s) (Ts : Tmp (· < n) sp s)
    (hA : s.blk ap = some A) (hAl : A.length = an) (hB : s.blk bp = some Bl) (hBl : Bl.length = k)
    (hn : 1 ≤ k ∧ k ≤ an) (htop : Bl.getD (k - 1) 0 ≠ 0)
    (hbg : s.blk gp = some bg) (hbs : s.blk sp = some bs)
    (hfitG : sizeNat (Gcd.mpn_gcdext (val A) an (val Bl) k).1 ≤ bg.length)
    (hfitS : sizeNat (Gcd.mpn_gcdext (val A) an (val Bl) k).2.natAbs ≤ bs.length) :
    ∃ s', mpn_gcdext gp sp ap an bp k s = .ok (sizeNat (Gcd.mpn_gcdext (val A) an (val Bl) k).1,
        siz (Gcd.mpn_gcdext (val A) an (val Bl) k).2, s') ∧
      Vals n f s' ∧ (∀ (I : Nat → Prop) p, Tmp I p s → Tmp I p s') ∧
      s'.blk gp = some (toLimbs (sizeNat (Gcd.mpn_gcdext (val A) an (val Bl) k).1) (Gcd.mpn_gcdext (val A) an (val Bl) k).1 ++
          bg.drop (sizeNat (Gcd.mpn_gcdext (val A) an (val Bl) k).1)) ∧
      s'.blk sp = some (toLimbs (sizeNat (Gcd.mpn_gcdext (val A) an (val Bl) k).2.natAbs)
          (Gcd.mpn_gcdext (val A) an (val Bl) k).2.natAbs ++ bs.drop (sizeNat (Gcd.mpn_gcdext (val A) an (val Bl) k).2.natAbs)) := by
  obtain ⟨n1, n2, n3, n4, n5, n6⟩ : ap ≠ bp ∧ gp ≠ sp ∧ gp ≠ ap ∧ gp ≠ bp ∧ sp ≠ ap ∧ sp ≠ bp := by
    refine ⟨fun e => hd ?_, fun e => hd ?_, fun e => hd ?_, fun e => hd ?_, fun e => hd ?_, fun e => hd ?_⟩ <;> simp [e]
  have lA : s.load ap an = .ok A := by rw [← hAl]; exact load_of_blk hA
  have lB : s.load bp k = .ok Bl := by rw [← hBl]; exact load_of_blk hB
  generalize hr : Gcd.mpn_gcdext (val A) an (val Bl) k = r at *
  -- the four stores go to four distinct TMP blocks
  obtain ⟨c1, e1, -, V1⟩ := store_tmp V Ta hA (List.replicate an junk) (by simp [hAl])
  obtain ⟨c2, e2, -, V2⟩ := store_tmp V1 Tb ((setBlk_blk_ne _ _ n1.symm).trans hB) (List.replicate k junk) (by simp [hBl])
  obtain ⟨c3, e3, rfl, V3⟩ := store_tmp V2 Tg ((setBlk_blk_ne _ _ n4).trans ((setBlk_blk_ne _ _ n3).trans hbg))
    (toLimbs (sizeNat r.1) r.1) (by rw [toLimbs_length]; exact hfitG)
  obtain ⟨c4, e4, rfl, V4⟩ := store_tmp V3 Ts
    ((setBlk_blk_ne _ _ n2.symm).trans ((setBlk_blk_ne _ _ n6).trans ((setBlk_blk_ne _ _ n5).trans hbs)))
    (toLimbs (sizeNat r.2.natAbs) r.2.natAbs) (by rw [toLimbs_length]; exact hfitS)
  refine ⟨_, ?_, V4, fun _ _ T => T, (setBlk_blk_ne _ _ n2).trans (by rw [setBlk_blk_self, toLimbs_length]),
    by rw [setBlk_blk_self, toLimbs_length]⟩
  unfold mpn_gcdext
  have hs : ¬ ¬ (1 ≤ k ∧ k ≤ an) := not_not_intro hn
  simp only [bind, Except.bind, hd, if_false, lA, lB, hs, htop, pure, Except.pure, hr, e1, e2, e3, e4]

/-! ### the `bsize == 0` exit (gcdext.c:50-67) -/

/-- `if (t != NULL) SIZ (t) = 0;` -/
theorem zeroOpt_ok {n : Nat} {f : Nat → Int} {s : St} (V : Vals n f s) {tv : Option Nat} (ht : ∀ x ∈ tv, x < n) :
    Vals n (fun i => if i ∈ tv then 0 else f i) (s.zeroOpt tv) ∧ ∀ i, s.alloc i ≤ (s.zeroOpt tv).alloc i := by
  cases tv with
  | none => exact ⟨V.congr fun i _ => (if_neg (by simp)).symm, fun _ => Nat.le_refl _⟩
  | some t =>
    obtain ⟨i3, u3, v3⟩ := setSize_zero_spec V.inv (V.lt (ht t rfl))
    have p := Post.of_same_upd (Same.refl s) (Fr.refl s t) u3 i3 v3
    exact ⟨(V.post (ht t rfl) p).congr fun i _ => update_eq_ite f t 0 i, p.alloc⟩

theorem gcdextZero_ok {st : St} (h : Inv st) {g a : Nat} {sv tv : Option Nat}
    (hg : g < st.nv) (ha : a < st.nv) (hs : ∀ x ∈ sv, x < st.nv) (ht : ∀ x ∈ tv, x < st.nv)
    (hgs : g ∉ sv) (hgt : g ∉ tv) (hst : ∀ x ∈ sv, x ∉ tv) (has : ∀ x ∈ sv, 1 ≤ st.alloc x) :
    ∃ st', gcdextZero g sv tv a (st.size a).natAbs st = .ok st' ∧ Inv st' ∧ st'.nv = st.nv ∧
      st'.value g = ((st.value a).natAbs : Int) ∧
      (∀ x ∈ sv, st'.value x = (if st.value a ≥ 0 then (if (st.size a).natAbs ≠ 0 then 1 else 0) else -1)) ∧
      (∀ x ∈ tv, st'.value x = 0) ∧
      ∀ i, i < st.nv → i ≠ g → i ∉ sv → i ∉ tv → st'.value i = st.value i := by
  unfold gcdextZero
  simp only []
  -- :55-57 g = |a|: MPZ_REALLOC first, PTR (a) fetched afterwards
  obtain ⟨i1, k1, a1⟩ := realloc_same h hg (st.size a).natAbs
  have hls := h.limbs_spec ha
  obtain ⟨X, eX, iX, uX, vX⟩ := store_put i1 (k1.lt hg) (st.limbs a) ((st.size a).natAbs : Int) (by rw [hls.1]; exact a1) hls.2
    (by rw [Int.natAbs_natCast]; exact h.size_natAbs ha)
  rw [k1.load i1 ha, ok_bind, eX, ok_bind]
  have p2 : Post st (X.setSize g ((st.size a).natAbs : Int)) g ((st.value a).natAbs : Int) :=
    Post.of_same_upd k1 ((Fr.refl st g).realloc _) uX iX
      (by rw [vX, value_natAbs]; exact if_neg (Int.not_lt.mpr (Int.natCast_nonneg _)))
  have V2 := (Vals.of_inv h).post hg p2
  -- :59-60
  obtain ⟨V3, al3⟩ := zeroOpt_ok V2 ht
  generalize (X.setSize g ((st.size a).natAbs : Int)).zeroOpt tv = s3 at *
  -- :61-65
  have hiff : (st.size a ≥ 0) ↔ (st.value a ≥ 0) := by have := h.size_neg_iff ha; omega
  simp only [hiff]
  cases sv with
  | none =>
    refine ⟨s3, rfl, V3.inv, V3.nv, ?_, fun x hx => by simp at hx, fun x hx => ?_, fun i hi hig _ hit => ?_⟩
    · rw [V3.val g hg, if_neg hgt, Function.update_self]
    · rw [V3.val x (ht x hx), if_pos hx]
    · rw [V3.val i hi, if_neg hit, Function.update_of_ne hig]
  | some x =>
    have hx0 : x < st.nv := hs x rfl
    simp only []
    obtain ⟨s4, e4, i4, u4, v4⟩ := setOne_ok V3.inv (V3.lt hx0)
      (Nat.le_trans (has x rfl) (Nat.le_trans (p2.alloc x) (al3 x)))
      (if st.value a ≥ 0 then (if (st.size a).natAbs ≠ 0 then 1 else 0) else -1) (by split <;> [split <;> simp; simp])
    have V4 := V3.post hx0 (Post.of_same_upd (Same.refl s3) (Fr.refl s3 x) u4 i4 v4)
    have hxg : x ≠ g := fun e => hgs (by simp [e])
    refine ⟨s4, e4, V4.inv, V4.nv, ?_, fun y hy => ?_, fun y hy => ?_, fun i hi hig his hit => ?_⟩
    · rw [V4.val g hg, Function.update_of_ne hxg.symm, if_neg hgt, Function.update_self]
    · obtain rfl : x = y := Option.some.inj hy
      rw [V4.val x hx0, Function.update_self]
    · rw [V4.val y (ht y hy), Function.update_of_ne (fun e : y = x => hst x rfl (e ▸ hy)), if_pos hy]
    · rw [V4.val i hi, Function.update_of_ne (fun e => his (by simp [e])), if_neg hit, Function.update_of_ne hig]

/-! ### the general case (gcdext.c:69-112): the mpn contract as the mpz layer uses it, the TMP copy of an operand -/

/-- what the mpz layer uses of the mpn_gcdext contract: G fits `bsize` limbs, S fits `bsize` (+1) limbs, V ∣ G - U S -/
theorem contract_fits (hc : Gcd.MpnGcdextContract) {U V : Nat} (hV : 0 < V) (hle : sizeNat V ≤ sizeNat U) :
    sizeNat (Gcd.mpn_gcdext U (sizeNat U) V (sizeNat V)).1 ≤ sizeNat V ∧
    sizeNat (Gcd.mpn_gcdext U (sizeNat U) V (sizeNat V)).2.natAbs ≤ sizeNat V ∧
    (((Gcd.mpn_gcdext U (sizeNat U) V (sizeNat V)).1 : Int) - U * (Gcd.mpn_gcdext U (sizeNat U) V (sizeNat V)).2) % V = 0 := by
  obtain ⟨hG, hdiv, hS, _⟩ := hc U V hV hle
  change (Gcd.mpn_gcdext U (sizeNat U) V (sizeNat V)).1 = _ at hG
  change (((Gcd.mpn_gcdext U (sizeNat U) V (sizeNat V)).1 : Int) - U * (Gcd.mpn_gcdext U (sizeNat U) V (sizeNat V)).2) % V = 0 at hdiv
  change (Gcd.mpn_gcdext U (sizeNat U) V (sizeNat V)).2 = 1 ∨
    2 * (Gcd.mpn_gcdext U (sizeNat U) V (sizeNat V)).1 * (Gcd.mpn_gcdext U (sizeNat U) V (sizeNat V)).2.natAbs < V at hS
  have hGle : (Gcd.mpn_gcdext U (sizeNat U) V (sizeNat V)).1 ≤ V := by rw [hG]; exact Nat.gcd_le_right _ hV
  have hGpos : 0 < (Gcd.mpn_gcdext U (sizeNat U) V (sizeNat V)).1 := by rw [hG]; exact Nat.gcd_pos_of_pos_right _ hV
  refine ⟨IsSize.mono DivZ.sizeNat_le_iff hGle, IsSize.mono DivZ.sizeNat_le_iff ?_, hdiv⟩
  rcases hS with e | e
  · rw [e]; show 1 ≤ V; omega
  · have : (Gcd.mpn_gcdext U (sizeNat U) V (sizeNat V)).2.natAbs ≤
        2 * (Gcd.mpn_gcdext U (sizeNat U) V (sizeNat V)).1 * (Gcd.mpn_gcdext U (sizeNat U) V (sizeNat V)).2.natAbs :=
      Nat.le_mul_of_pos_left _ (by omega)
    omega

theorem gx_copyIf_true_ok {s : St} {p n : Nat} {l : List Nat} (hl : s.load p n = .ok l) :
    s.copyIf true p n = .ok (s.next, (s.malloc l).2) := by
  simp [St.copyIf, St.tmpCopy, bind, Except.bind, hl, pure, Except.pure, St.malloc]

/-! ### the `t != NULL` block (gcdext.c:82-97) and the `s != NULL` block (gcdext.c:99-106) -/

/-- a local header pointing at a TMP block that holds the normalised magnitude of z is a proper variable -/
theorem pushVar_spec {s : St} (h : Inv s) {p : Nat} (hp : ∀ i, i < s.nv → s.ptr i ≠ p) (hlt : p < s.next) (z : Int)
    {rest : List Nat} (hb : s.blk p = some (toLimbs (sizeNat z.natAbs) z.natAbs ++ rest)) (hL : Limbs rest) (n : Nat)
    (hlen : (toLimbs (sizeNat z.natAbs) z.natAbs ++ rest).length = n) :
    Inv (s.pushVar { alloc := n, size := siz z, ptr := p }).2 ∧
    (s.pushVar { alloc := n, size := siz z, ptr := p }).2.value s.nv = z ∧
    ∀ i, i < s.nv → (s.pushVar { alloc := n, size := siz z, ptr := p }).2.value i = s.value i := by
  set s' := (s.pushVar { alloc := n, size := siz z, ptr := p }).2 with hs'
  have hnv : s'.nv = s.nv + 1 := rfl
  have hblk : s'.blk = s.blk := rfl
  have hnext : s'.next = s.next := rfl
  have hnew : s'.vars s.nv = { alloc := n, size := siz z, ptr := p } := by simp [hs', St.pushVar, St.setVar]
  have hvo : ∀ i, i < s.nv → s'.vars i = s.vars i := fun i hi => by
    have : i ≠ s.nv := by omega
    simp [hs', St.pushVar, St.setVar, this]
  have hval : ∀ i, i < s.nv → s'.value i = s.value i := fun i hi => value_congr (hvo i hi) (by rw [hblk])
  have hpo : ∀ k, k < s.nv → s'.ptr k = s.ptr k := fun k hk => by unfold St.ptr; rw [hvo k hk]
  have hpn : s'.ptr s.nv = p := by unfold St.ptr; rw [hnew]
  have hvn : s'.value s.nv = z := by
    unfold St.value St.mag St.limbs St.size St.ptr
    rw [hnew, hblk, hb]
    simp only [Option.getD_some, DivZ.siz_natAbs]
    rw [List.take_append_of_le_length (by rw [toLimbs_length]), List.take_of_length_le (by rw [toLimbs_length]),
      val_toLimbs_lt _ _ (DivZ.lt_B_pow_sizeNat _)]
    have := DivZ.siz_neg_iff (v := z)
    split <;> omega
  obtain ⟨i', _⟩ := h.of_agree_but (s' := s') s.nv
    (fun i hi hiv => by rw [hnv] at hi; exact ⟨by omega, hvo i (by omega), by rw [hblk]⟩) (Nat.le_of_eq hnext.symm)
    (fun q hq => by rw [hblk]; exact h.fresh q (hnext ▸ hq))
    (fun _ => ⟨⟨_, by rw [hpn, hblk]; exact hb, by unfold St.alloc; rw [hnew]; exact hlen,
        Limbs_append.mpr ⟨Limbs_toLimbs _ _, hL⟩⟩, by rw [hpn, hnext]; exact hlt,
      by unfold St.size St.alloc; rw [hnew]; simp only [DivZ.siz_natAbs]
         rw [← hlen, List.length_append, toLimbs_length]; omega,
      by rw [hvn]; unfold St.size; rw [hnew],
      fun i hi hiv => by rw [hpn]; rw [hnv] at hi; exact hp i (by omega)⟩)
  exact ⟨i', hvn, hval⟩

theorem popVar_inv {s : St} (h : Inv s) (k : Nat) (hk : s.nv = k + 1) : Inv s.popVar ∧ s.popVar.nv = k := by
  have hnv : s.popVar.nv = k := by simp [St.popVar, hk]
  exact ⟨(h.of_agree (s' := s.popVar) (by rw [hnv, hk]; exact Nat.le_succ k) (fun _ _ => rfl) (fun _ _ => rfl)
    (Nat.le_refl _) h.fresh).1, hnv⟩

theorem Vals.pushVar {n : Nat} {f : Nat → Int} {s : St} (V : Vals n f s) {p : Nat} (hT : Tmp (· < n) p s) (z : Int)
    {rest : List Nat} (hb : s.blk p = some (toLimbs (sizeNat z.natAbs) z.natAbs ++ rest)) (hL : Limbs rest) (k : Nat)
    (hlen : (toLimbs (sizeNat z.natAbs) z.natAbs ++ rest).length = k) :
    Vals (n + 1) (Function.update f n z) (s.pushVar { alloc := k, size := siz z, ptr := p }).2 := by
  obtain rfl := V.nv
  obtain ⟨i1, vn, vo⟩ := pushVar_spec V.inv hT.2 hT.1 z hb hL k hlen
  refine ⟨i1, rfl, fun i hi => ?_⟩
  by_cases e : i = s.nv
  · rw [e, vn, Function.update_self]
  · rw [vo i (by omega), V.val i (by omega), Function.update_of_ne e]

theorem Vals.popVar {n : Nat} {f : Nat → Int} {s : St} (V : Vals (n + 1) f s) : Vals n f s.popVar :=
  ⟨(popVar_inv V.inv n V.nv).1, (popVar_inv V.inv n V.nv).2, fun i hi => V.val i (Nat.lt_succ_of_lt hi)⟩

/-- gcdext.c:82-97, the `t != NULL` block: t = (G - S a) / b through three locals; the block of the local `x` is handed back for
    TMP_FREE -/
theorem gcdextT_ok {n : Nat} {f : Nat → Int} {s : St} (V : Vals n f s) {tv : Option Nat} {a b : Nat} (ha : a < n) (hb : b < n)
    (ht : ∀ x ∈ tv, x < n) (hvb : f b ≠ 0) {pg ps G : Nat} {S : Int} {rg rs : List Nat} {asize bsize : Nat}
    (Tg : Tmp (· < n) pg s) (Ts : Tmp (· < n) ps s) (hne : pg ≠ ps)
    (bG : s.blk pg = some (toLimbs (sizeNat G) G ++ rg)) (lG : (toLimbs (sizeNat G) G ++ rg).length = bsize) (LG : Limbs rg)
    (bS : s.blk ps = some (toLimbs (sizeNat S.natAbs) S.natAbs ++ rs))
    (lS : (toLimbs (sizeNat S.natAbs) S.natAbs ++ rs).length = bsize + 1) (LS : Limbs rs) :
    Ok (gcdextT tv a b pg ps (sizeNat G) (siz S) (sizeNat S.natAbs) asize bsize s) (fun r =>
      Vals n (fun i => if i ∈ tv then DivZ.tdivQ ((G : Int) - S * f a) (f b) else f i) r.2 ∧ Keep (· < n) s r.2 ∧
      ∀ p ∈ r.1, Tmp (· < n) p r.2) := by
  unfold gcdextT
  cases tv with
  | none => exact Ok.pure ⟨V.congr fun i _ => (if_neg (by simp)).symm, Keep.refl _ s, fun p hp => by simp at hp⟩
  | some t =>
  obtain rfl := V.nv
  have ht0 : t < s.nv := ht t rfl
  -- index arithmetic for the three locals `s.nv`, `s.nv + 1`, `s.nv + 1 + 1`
  have ne3 : ∀ {i : Nat}, i < s.nv → i ≠ s.nv ∧ i ≠ s.nv + 1 ∧ i ≠ s.nv + 1 + 1 := fun hi => by omega
  have l3 : ∀ {i : Nat}, i < s.nv → i < s.nv + 1 + 1 + 1 := fun hi => by omega
  have k3 : s.nv < s.nv + 1 + 1 + 1 ∧ s.nv + 1 < s.nv + 1 + 1 + 1 ∧ s.nv ≠ s.nv + 1 + 1 ∧ s.nv + 1 ≠ s.nv + 1 + 1 ∧
    s.nv ≠ s.nv + 1 := by omega
  have hx : s.nv + 1 + 1 < s.nv + 1 + 1 + 1 := Nat.lt_succ_self _
  simp only []
  rw [← DivZ.siz_natCast]
  have Va := V.pushVar Tg (G : Int) (rest := rg) (by rw [Int.natAbs_natCast]; exact bG) LG bsize
    (by rw [Int.natAbs_natCast]; exact lG)
  have Vb := Va.pushVar (p := ps) ⟨Ts.1, fun i hi => by
      by_cases e : i = s.nv
      · rw [e]; simpa [St.pushVar, St.setVar, St.ptr] using hne
      · have : (s.pushVar { alloc := bsize, size := siz (G : Int), ptr := pg }).2.ptr i = s.ptr i := by
          simp [St.pushVar, St.setVar, St.ptr, e]
        rw [this]; exact Ts.2 i (by omega)⟩ S bS LS (bsize + 1) lS
  obtain ⟨e3, Vc, -⟩ := Vb.tmpInit (sizeNat S.natAbs + asize + 1)
  simp only [show ∀ x, (s.pushVar x).1 = s.nv from fun _ => rfl, show ∀ x, (s.pushVar x).2.nv = s.nv + 1 from fun _ => rfl,
    show ∀ (s' : St) x, (s'.pushVar x).1 = s'.nv from fun _ _ => rfl, e3]
  clear e3
  -- what the callees may touch: the variables of the caller and the local `x`
  have entry : ∀ p, Tmp (· < s.nv) p s →
      Tmp (fun i => i < s.nv ∨ i = s.nv + 1 + 1) p (((s.pushVar { alloc := bsize, size := siz (G : Int), ptr := pg }).2.pushVar
        { alloc := bsize + 1, size := siz S, ptr := ps }).2.tmpInit (sizeNat S.natAbs + asize + 1)).2 ∧
      (((s.pushVar { alloc := bsize, size := siz (G : Int), ptr := pg }).2.pushVar
        { alloc := bsize + 1, size := siz S, ptr := ps }).2.tmpInit (sizeNat S.natAbs + asize + 1)).2.blk p = s.blk p := fun p hp => by
    refine ⟨⟨Nat.lt_succ_of_lt hp.1, fun i hi => ?_⟩, ?_⟩
    · rcases hi with hi | hi
      · have := hp.2 i hi
        simpa [St.tmpInit, St.tmpAlloc, St.malloc, St.pushVar, St.setVar, St.setBlk, St.ptr, (ne3 hi).1, (ne3 hi).2.1, (ne3 hi).2.2] using this
      · have := Nat.ne_of_gt hp.1
        simpa [hi, St.tmpInit, St.tmpAlloc, St.malloc, St.pushVar, St.setVar, St.setBlk, St.ptr] using this
    · simp [St.tmpInit, St.tmpAlloc, St.malloc, St.pushVar, St.setVar, St.setBlk, Nat.ne_of_lt hp.1]
  generalize (((s.pushVar { alloc := bsize, size := siz (G : Int), ptr := pg }).2.pushVar
        { alloc := bsize + 1, size := siz S, ptr := ps }).2.tmpInit (sizeNat S.natAbs + asize + 1)).2 = sc at *
  clear Va Vb
  -- :94 mpz_mul (x, &stmp, a)
  have rd : ∀ {i : Nat} {z : Int}, i < s.nv → Function.update (Function.update (Function.update (Function.update f s.nv ↑G)
      (s.nv + 1) S) (s.nv + 1 + 1) 0) (s.nv + 1 + 1) z i = f i := fun hi => by
    rw [Function.update_of_ne (ne3 hi).2.2, Function.update_of_ne (ne3 hi).2.2, Function.update_of_ne (ne3 hi).2.1,
      Function.update_of_ne (ne3 hi).1]
  refine (mpz_mul_post Vc.inv (Vc.lt hx) (Vc.lt k3.2.1) (Vc.lt (l3 ha))).bind fun s1 p1 => ?_
  have V1 := Vc.post hx p1
  rw [Vc.val _ k3.2.1, Vc.val _ (l3 ha), Function.update_of_ne k3.2.2.2.1, Function.update_self,
      Function.update_of_ne (ne3 ha).2.2, Function.update_of_ne (ne3 ha).2.1, Function.update_of_ne (ne3 ha).1] at V1
  -- :95 mpz_sub (x, &gtmp, x)
  refine (mpz_aors_post V1.inv (V1.lt hx) (V1.lt k3.1) (V1.lt hx) true).bind fun s2 p2 => ?_
  have V2 := V1.post hx p2
  rw [if_pos rfl, V1.val _ hx, V1.val _ k3.1, Function.update_self, Function.update_of_ne k3.2.2.1, Function.update_of_ne k3.2.2.1,
    Function.update_of_ne k3.2.2.2.2, Function.update_self, Function.update_idem] at V2
  -- :96 mpz_divexact (t, x, b)
  refine (divexact_post V2.inv (V2.lt (l3 ht0)) (V2.lt hx) (V2.lt (l3 hb)) (by rw [V2.val _ (l3 hb), rd hb]; exact hvb)).bind
    fun s3 p3 => ?_
  have V3 := V2.post (l3 ht0) p3
  rw [V2.val _ hx, V2.val _ (l3 hb), Function.update_self, rd hb] at V3
  -- :97 the locals go out of scope
  refine Ok.pure ⟨V3.popVar.popVar.popVar.congr fun i hi => ?_, fun p hp => ?_, fun p hp => ?_⟩
  · by_cases hit : i = t
    · rw [hit, Function.update_self, if_pos (show t ∈ some t from rfl)]
    · rw [Function.update_of_ne hit, rd hi, if_neg (fun e : i ∈ some t => hit (Option.some.inj e).symm)]
  · obtain ⟨T3, b3⟩ := ((p1.fr.keep (Or.inr rfl)).trans ((p2.fr.keep (Or.inr rfl)).trans (p3.fr.keep (Or.inl ht0)))) p (entry p hp).1
    exact ⟨⟨T3.1, fun i hi => T3.2 i (Or.inl hi)⟩, b3.trans (entry p hp).2⟩
  · obtain rfl : p = s3.ptr (s.nv + 1 + 1) := by simpa using hp
    exact ⟨V3.inv.lt _ (V3.lt hx), fun i hi e => (ne3 hi).2.2 (V3.inv.inj i _ (V3.lt (l3 hi)) (V3.lt hx) e)⟩

/-- gcdext.c:99-106, the `s != NULL` block -/
theorem gcdextS_ok {n : Nat} {f : Nat → Int} {s : St} (V : Vals n f s) {sv : Option Nat} (hs : ∀ x ∈ sv, x < n) {ps : Nat}
    (z : Int) {rest : List Nat} (Ts : Tmp (· < n) ps s)
    (hsrc : s.blk ps = some (toLimbs (sizeNat z.natAbs) z.natAbs ++ rest)) :
    Ok (gcdextS sv ps (sizeNat z.natAbs) (siz z) s)
      (fun s' => Vals n (fun i => if i ∈ sv then z else f i) s' ∧ Keep (· < n) s s') := by
  unfold gcdextS
  cases sv with
  | none => exact Ok.pure ⟨V.congr fun i _ => (if_neg (by simp)).symm, Keep.refl _ s⟩
  | some x =>
    obtain rfl := V.nv
    exact (gcdextOut_post V.inv (hs x rfl) z Ts hsrc).mono fun s' p =>
      ⟨(V.post (hs x rfl) p).congr fun i _ => update_eq_ite f x z i, p.fr.keep (hs x rfl)⟩

/-! ### gcdext.c:50-112 put together; the operand swap (gcdext.c:43-48) -/

theorem gcdextMain_ok (hc : Gcd.MpnGcdextContract) {st : St} (h : Inv st) {g a b : Nat} {sv tv : Option Nat}
    (hg : g < st.nv) (ha : a < st.nv) (hb : b < st.nv) (hs : ∀ x ∈ sv, x < st.nv) (ht : ∀ x ∈ tv, x < st.nv)
    (hgs : g ∉ sv) (hgt : g ∉ tv) (hst : ∀ x ∈ sv, x ∉ tv) (has : ∀ x ∈ sv, 1 ≤ st.alloc x)
    (hle : (st.size b).natAbs ≤ (st.size a).natAbs) :
    ∃ st', gcdextMain .c g sv tv a b (st.size a).natAbs (st.size b).natAbs st = .ok st' ∧ Inv st' ∧ st'.nv = st.nv ∧
      st'.value g = (Gcd.gcdextCore (st.value a) (st.value b)).1 ∧
      (∀ x ∈ sv, st'.value x = (Gcd.gcdextCore (st.value a) (st.value b)).2.1) ∧
      (∀ x ∈ tv, st'.value x = (Gcd.gcdextCore (st.value a) (st.value b)).2.2) ∧
      ∀ i, i < st.nv → i ≠ g → i ∉ sv → i ∉ tv → st'.value i = st.value i := by
  have hna : Gcd.nlimbs (st.value a).natAbs = (st.size a).natAbs := by
    rw [value_natAbs, h.size_natAbs ha]; rfl
  have hnb : Gcd.nlimbs (st.value b).natAbs = (st.size b).natAbs := by
    rw [value_natAbs, h.size_natAbs hb]; rfl
  unfold gcdextMain Gcd.gcdextCore
  rw [hna, hnb]
  by_cases hb0 : (st.size b).natAbs = 0
  · rw [if_pos hb0, if_pos hb0]
    exact gcdextZero_ok h hg ha hs ht hgs hgt hst has
  · rw [if_neg hb0, if_neg hb0]
    simp only [GcdextVariant.c, if_true]
    set an := (st.size a).natAbs with han
    set bn := (st.size b).natAbs with hbn
    -- :71-73, :75 four TMP blocks (their facts by one-step lemmas: `rfl` through four nested `malloc`s is exponential)
    rw [gx_copyIf_true_ok (h.load_var ha), ok_bind]; simp only []
    rw [gx_copyIf_true_ok (show (st.malloc (st.limbs a)).2.load ((st.malloc (st.limbs a)).2.ptr b) bn = .ok (st.limbs b) from
      (malloc_ext h _).load (h.load_var hb)), ok_bind]; simp only []
    simp only [St.tmpAlloc, malloc_fst, malloc_next]
    have V1 := (Vals.of_inv h).malloc (st.limbs a)
    have V2 := V1.malloc (st.limbs b)
    have V3 := V2.malloc (List.replicate bn junk)
    generalize hs4 : ((((st.malloc (st.limbs a)).2.malloc (st.limbs b)).2.malloc (List.replicate bn junk)).2.malloc
      (List.replicate (bn + 1) junk)).2 = s4
    have V4 : Vals st.nv st.value s4 := by rw [← hs4]; exact V3.malloc _
    have Ta : Tmp (· < st.nv) st.next s4 := by
      rw [← hs4]; exact ((((Vals.of_inv h).malloc_tmp _).malloc _).malloc _).malloc _
    have Tb : Tmp (· < st.nv) (st.next + 1) s4 := by rw [← hs4]; exact ((V1.malloc_tmp _).malloc _).malloc _
    have Tg : Tmp (· < st.nv) (st.next + 1 + 1) s4 := by rw [← hs4]; exact (V2.malloc_tmp _).malloc _
    have Ts : Tmp (· < st.nv) (st.next + 1 + 1 + 1) s4 := by rw [← hs4]; exact V3.malloc_tmp _
    have bA : s4.blk st.next = some (st.limbs a) := by rw [← hs4]; simp [St.malloc, St.setBlk, Nat.add_assoc]
    have bB : s4.blk (st.next + 1) = some (st.limbs b) := by rw [← hs4]; simp [St.malloc, St.setBlk, Nat.add_assoc]
    have bG : s4.blk (st.next + 1 + 1) = some (List.replicate bn junk) := by
      rw [← hs4]; simp [St.malloc, St.setBlk, Nat.add_assoc]
    have bS : s4.blk (st.next + 1 + 1 + 1) = some (List.replicate (bn + 1) junk) := by
      rw [← hs4]; simp [St.malloc, St.setBlk, Nat.add_assoc]
    clear hs4 V1 V2 V3
    -- :77
    have hbs0 : st.size b ≠ 0 := by omega
    have hVpos : 0 < st.mag b := Nat.lt_of_lt_of_le (Bpow_pos _) (h.mag_ge hb hbs0)
    have hfit := contract_fits hc (U := st.mag a) (V := st.mag b) hVpos
      (by rw [← h.size_natAbs ha, ← h.size_natAbs hb]; exact hle)
    rw [← h.size_natAbs ha, ← h.size_natAbs hb, ← han, ← hbn] at hfit
    obtain ⟨fitG, fitS, hdiv⟩ := hfit
    obtain ⟨s5, e5, V5, K5, bG5, bS5⟩ :=
      mpn_gcdext_ok V4 (gp := st.next + 1 + 1) (sp := st.next + 1 + 1 + 1) (ap := st.next) (bp := st.next + 1) (an := an) (k := bn)
        (A := st.limbs a) (Bl := st.limbs b) (by omega) Ta Tb Tg Ts
        bA (h.limbs_spec ha).1 bB (h.limbs_spec hb).1 ⟨by omega, hle⟩ (h.top_ne_zero hb hbs0) bG bS
        (by simp only [List.length_replicate]; exact fitG) (by simp only [List.length_replicate]; exact Nat.le_succ_of_le fitS)
    replace Ta := K5 _ _ Ta
    replace Tb := K5 _ _ Tb
    replace Tg := K5 _ _ Tg
    replace Ts := K5 _ _ Ts
    clear K5 V4 bA bB bG bS
    rw [e5, ok_bind]; simp only []
    change ∃ st', _ ∧ _ ∧ _ ∧ _ ∧ _ ∧ _ ∧ _
    rw [value_natAbs, value_natAbs]
    rw [show val (st.limbs a) = st.mag a from rfl, show val (st.limbs b) = st.mag b from rfl] at bG5 bS5 ⊢
    set G := (Gcd.mpn_gcdext (st.mag a) an (st.mag b) bn).1 with hG
    set S0 := (Gcd.mpn_gcdext (st.mag a) an (st.mag b) bn).2 with hS0
    set S' : Int := if st.value a ≥ 0 then S0 else -S0 with hS'
    -- :79-80 the sign of a goes to the cofactor
    have hiff : (st.size a ≥ 0) ↔ (st.value a ≥ 0) := by have := h.size_neg_iff ha; omega
    have hss : (if s5.size a ≥ 0 then siz S0 else -siz S0) = siz S' := by
      rw [(V5.size ha).trans (h.norm a ha).symm, hS']; by_cases h0 : st.value a ≥ 0
      · rw [if_pos (hiff.mpr h0), if_pos h0]
      · rw [if_neg (fun e => h0 (hiff.mp e)), if_neg h0, DivZ.siz_neg]
    have hSabs : S'.natAbs = S0.natAbs := by rw [hS']; split <;> simp
    rw [hss, DivZ.siz_natAbs, ← hSabs]
    rw [← hSabs] at bS5
    have hLj : ∀ k m, Limbs ((List.replicate m junk).drop k) := fun k m => Limbs_drop (Limbs_replicate_junk m) k
    have hvb : st.value b ≠ 0 := fun e => hbs0 ((h.size_eq_zero_iff hb).mpr e)
    have fitS' : sizeNat S'.natAbs ≤ bn := by rw [hSabs]; exact fitS
    -- :82-97 t, then :99-106 s
    refine Ok.bind (P := fun r : List Nat × St => Vals st.nv (fun i => if i ∈ sv then S' else
        if i ∈ tv then DivZ.tdivQ ((G : Int) - S' * st.value a) (st.value b) else st.value i) r.2 ∧
        Keep (· < st.nv) s5 r.2 ∧ ∀ p ∈ r.1, Tmp (· < st.nv) p r.2) ?_ fun r ⟨V7, k57, hxs⟩ => ?_
    · refine (gcdextT_ok V5 ha hb ht hvb Tg Ts
        (by omega) bG5 (by rw [List.length_append, toLimbs_length, List.length_drop, List.length_replicate]; omega) (hLj _ _) bS5
        (by rw [List.length_append, toLimbs_length, List.length_drop, List.length_replicate]; omega) (hLj _ _)).bind
        fun r6 ⟨V6, k6, hxs⟩ => ?_
      exact (gcdextS_ok V6 hs S' (k6 _ Ts).1 ((k6 _ Ts).2.trans bS5)).bind fun s7 ⟨V7, k7⟩ =>
        Ok.pure ⟨V7, k6.trans k7, fun p hp => (k7 p (hxs p hp)).1⟩
    -- :108-110 g
    have hform : gcdextOut g (st.next + 1 + 1) (sizeNat G) ((sizeNat G : Nat) : Int) r.2 =
        gcdextOut g (st.next + 1 + 1) (sizeNat ((G : Int)).natAbs) (siz (G : Int)) r.2 := by
      rw [DivZ.siz_natCast, Int.natAbs_natCast]
    rw [hform]
    refine (gcdextOut_post V7.inv (V7.lt hg) (G : Int) (by rw [V7.nv]; exact (k57 _ Tg).1)
      (by rw [Int.natAbs_natCast]; exact (k57 _ Tg).2.trans bG5)).bind fun s8 p8 => ?_
    have k8 : Keep (· < st.nv) r.2 s8 := p8.fr.keep hg
    -- :112 TMP_FREE
    have V9 := ((V7.post hg p8).free_list ([st.next, st.next + 1] ++ [st.next + 1 + 1, st.next + 1 + 1 + 1] ++ r.1) fun p hp => by
      simp only [List.mem_append, List.mem_cons, List.not_mem_nil, or_false] at hp
      rcases hp with ((rfl | rfl) | (rfl | rfl)) | hp
      · exact ((k57.trans k8) _ Ta).1
      · exact ((k57.trans k8) _ Tb).1
      · exact ((k57.trans k8) _ Tg).1
      · exact ((k57.trans k8) _ Ts).1
      · exact (k8 p (hxs p hp)).1)
    refine Ok.pure ⟨V9.inv, V9.nv, ?_, fun x hx => ?_, fun x hx => ?_, fun i hi hig his hit => ?_⟩
    · rw [V9.val g hg, Function.update_self]
    · rw [V9.val x (hs x hx), Function.update_of_ne (fun e : x = g => hgs (e ▸ hx)), if_pos hx]
    · rw [V9.val x (ht x hx), Function.update_of_ne (fun e : x = g => hgt (e ▸ hx)), if_neg (fun e => hst x e hx), if_pos hx]
      -- exact division: truncation = floor
      have hprod : S' * st.value a = (st.mag a : Int) * S0 := by
        rw [hS']
        have := value_natAbs st a
        by_cases h0 : st.value a ≥ 0
        · rw [if_pos h0]; rw [← this]; rw [Int.natAbs_of_nonneg h0]; ring
        · rw [if_neg h0]; rw [← this]; rw [Int.ofNat_natAbs_of_nonpos (by omega)]; ring
      have hdvd : st.value b ∣ (G : Int) - S' * st.value a := by
        rw [hprod]
        have h1 : ((st.mag b : Nat) : Int) ∣ (G : Int) - (st.mag a : Int) * S0 := Int.dvd_of_emod_eq_zero hdiv
        have h2 : st.value b ∣ ((st.mag b : Nat) : Int) := by rw [← value_natAbs]; exact Int.dvd_natAbs_self
        exact Int.dvd_trans h2 h1
      unfold DivZ.tdivQ
      exact Int.tdiv_eq_ediv_of_dvd hdvd
    · rw [V9.val i hi, Function.update_of_ne hig, if_neg his, if_neg hit]


/-- s, t possibly NULL (`none`); g, s, t pairwise distinct (manual).  `hc` is the documented contract of mpn_gcdext
    (`Mpir.Gcd.mpn_gcdext_contract`, MpirProofs/Props/C07_gcdextdc2.lean); `has` / `hat`: ALLOC ≥ 1, MPIR's object invariant,
    needed because `PTR (s)[0] = 1` (gcdext.c:64) is stored without a realloc. -/
theorem gcdext_ok (hc : Gcd.MpnGcdextContract) {st : St} (h : Inv st) {g a b : Nat} {sv tv : Option Nat}
    (hg : g < st.nv) (ha : a < st.nv) (hb : b < st.nv) (hs : ∀ x ∈ sv, x < st.nv) (ht : ∀ x ∈ tv, x < st.nv)
    (hgs : g ∉ sv) (hgt : g ∉ tv) (hst : ∀ x ∈ sv, x ∉ tv)
    (has : ∀ x ∈ sv, 1 ≤ st.alloc x) (hat : ∀ x ∈ tv, 1 ≤ st.alloc x) :
    ∃ st', gcdext g sv tv a b st = .ok st' ∧ Inv st' ∧ st'.nv = st.nv ∧
      st'.value g = (Gcd.mpz_gcdext (st.value a) (st.value b)).1 ∧
      (∀ x ∈ sv, st'.value x = (Gcd.mpz_gcdext (st.value a) (st.value b)).2.1) ∧
      (∀ x ∈ tv, st'.value x = (Gcd.mpz_gcdext (st.value a) (st.value b)).2.2) ∧
      ∀ i, i < st.nv → i ≠ g → i ∉ sv → i ∉ tv → st'.value i = st.value i := by
  have hna : Gcd.nlimbs (st.value a).natAbs = (st.size a).natAbs := by
    rw [value_natAbs, h.size_natAbs ha]; rfl
  have hnb : Gcd.nlimbs (st.value b).natAbs = (st.size b).natAbs := by
    rw [value_natAbs, h.size_natAbs hb]; rfl
  rw [Gcd.mpz_gcdext_eq, hna, hnb]
  unfold gcdext gcdextV
  simp only []
  by_cases hlt : (st.size a).natAbs < (st.size b).natAbs
  · rw [if_pos hlt, if_pos hlt]
    obtain ⟨st', e, i', n', vg, vs, vt, vo⟩ := gcdextMain_ok hc h hg hb ha ht hs hgt hgs (fun x hx hx' => hst x hx' hx) hat
      (Nat.le_of_lt hlt)
    exact ⟨st', e, i', n', vg, vt, vs, fun i hi hig his hit => vo i hi hig hit his⟩
  · rw [if_neg hlt, if_neg hlt]
    exact gcdextMain_ok hc h hg ha hb hs ht hgs hgt hst has (by omega)

/-- special case of `gcdext_ok`: both cofactor pointers NULL — g may be a or b, a may be b. -/
theorem gcdext_ok_partial (hc : Gcd.MpnGcdextContract) {st : St} (h : Inv st) {g a b : Nat}
    (hg : g < st.nv) (ha : a < st.nv) (hb : b < st.nv) :
    ∃ st', gcdext g none none a b st = .ok st' ∧ Inv st' ∧ st'.nv = st.nv ∧
      st'.value g = (Gcd.mpz_gcdext (st.value a) (st.value b)).1 ∧
      ∀ i, i < st.nv → i ≠ g → st'.value i = st.value i := by
  obtain ⟨st', e, i', n', vg, _, _, vo⟩ := gcdext_ok hc h (sv := none) (tv := none) hg ha hb (fun x hx => by simp at hx)
    (fun x hx => by simp at hx) (by simp) (by simp) (fun x hx => by simp at hx) (fun x hx => by simp at hx)
    (fun x hx => by simp at hx)
  exact ⟨st', e, i', n', vg, fun i hi hig => vo i hi hig (by simp) (by simp)⟩

/-! ### examples (three-limb a, two-limb b) -/

/-- what an example looks at: value, ALLOC, PTR of the first `k` variables, or the error -/
def lookG (r : R St) (k : Nat) : Except String (List (Int × Nat × Nat)) := r.map (·.view k)

def gxA : Int := 123456789012345678901234567890123456789012345
def gxB : Int := -98765432109876543210987654321
def gxS : Int := -13897166258405449268137282294
def gxT : Int := -17371457664709402175000749915268275989474073

example : Gcd.mpz_gcdext gxA gxB = (3, gxS, gxT) := by decide +kernel
example : gxA * gxS + gxB * gxT = 3 := by decide +kernel
-- all five distinct
example : lookG (gcdext 0 (some 1) (some 2) 3 4 (ofInts [0, 0, 0, gxA, gxB])) 5 =
    .ok [(3, 1, 0), (gxS, 2, 11), (gxT, 3, 10), (gxA, 3, 3), (gxB, 2, 4)] := by decide +kernel
-- operands swapped (asize < bsize): the cofactors swap roles
example : lookG (gcdext 0 (some 1) (some 2) 3 4 (ofInts [0, 0, 0, gxB, gxA])) 5 =
    .ok [(3, 1, 0), (gxT, 3, 10), (gxS, 2, 11), (gxB, 2, 3), (gxA, 3, 4)] := by decide +kernel
-- g = a and s = b, in place
example : lookG (gcdext 0 (some 1) (some 2) 0 1 (ofInts [gxA, gxB, 0])) 3 =
    .ok [(3, 3, 0), (gxS, 2, 1), (gxT, 3, 8)] := by decide +kernel
-- t = a
example : lookG (gcdext 0 (some 1) (some 2) 2 3 (ofInts [0, 0, gxA, gxB])) 4 =
    .ok [(3, 1, 0), (gxS, 2, 9), (gxT, 3, 2), (gxB, 2, 3)] := by decide +kernel
-- s = NULL
example : lookG (gcdext 0 none (some 2) 2 3 (ofInts [0, 0, gxA, gxB])) 4 =
    .ok [(3, 1, 0), (0, 1, 1), (gxT, 3, 2), (gxB, 2, 3)] := by decide +kernel
-- t = NULL
example : lookG (gcdext 0 (some 1) none 2 3 (ofInts [0, 0, gxA, gxB])) 4 =
    .ok [(3, 1, 0), (gxS, 2, 8), (gxA, 3, 2), (gxB, 2, 3)] := by decide +kernel
-- a = b (same variable), g = a
example : lookG (gcdext 3 (some 1) (some 2) 3 3 (ofInts [5, 6, 7, gxA])) 4 =
    .ok [(5, 1, 0), (0, 1, 1), (1, 1, 2), (gxA, 3, 3)] := by decide +kernel
-- the bsize = 0 exit with s = a: g = |a| is copied out before `SIZ (s) = -1; PTR (s)[0] = 1` lands on a
example : lookG (gcdext 0 (some 1) (some 2) 1 3 (ofInts [5, -gxA, 7, 0])) 4 =
    .ok [(gxA, 3, 4), (-1, 3, 1), (0, 1, 2), (0, 1, 3)] := by decide +kernel
-- NEGATIVE, without the TMP copies of the operands (gcdext.c:71-73) mpn_gcdext destroys {PTR (a)}, {PTR (b)}: a, b and t are wrong
example : lookG (gcdextV { copyOperands := false } 0 (some 1) (some 2) 3 4 (ofInts [0, 0, 0, gxA, gxB])) 5 =
    .ok [(3, 1, 0), (gxS, 2, 9), (-256357469318597064494385860018585169424309253996, 4, 8),
      (5460065707201051358373628801397347625591632630148427005679, 3, 3), (-295990755083049101712519384020072382191, 2, 4)] := by
  decide +kernel
-- NEGATIVE, and with a = b (one variable) the call itself is undefined: the two source operands overlap
example : lookG (gcdextV { copyOperands := false } 0 (some 1) (some 2) 3 3 (ofInts [0, 0, 0, gxA])) 4 =
    .error "ub:mpn_gcdext operands overlap" := by decide +kernel
-- NEGATIVE, s written before t is computed: with s = a the product s·a reads the new a, t is wrong (correct: gxT)
example : lookG (gcdextV { tBeforeS := false } 0 (some 1) (some 2) 1 3 (ofInts [0, gxA, 0, gxB])) 4 =
    .ok [(3, 1, 0), (gxS, 3, 1), (1955453703669360966019249215, 2, 9), (gxB, 2, 3)] := by decide +kernel
example : lookG (gcdext 0 (some 1) (some 2) 1 3 (ofInts [0, gxA, 0, gxB])) 4 =
    .ok [(3, 1, 0), (gxS, 3, 1), (gxT, 3, 9), (gxB, 2, 3)] := by decide +kernel

end Mpir.AliasMem
