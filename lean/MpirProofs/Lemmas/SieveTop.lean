/- first_block_primesieve, block_resieve and gmp_primesieve as wholes (model Mpir/Model/Sieve.lean). -/
import MpirProofs.Lemmas.SieveLoop
import Mathlib.NumberTheory.Bertrand
import Mathlib.NumberTheory.PrimeCounting
namespace Mpir.Sieve
open Mpir Mpir.Numth

/-- the bits of the last limb beyond `bits` are set (primesieve.c:123-124, :271-272) -/
def Pad (a : Array ℕ) (bits : ℕ) : Prop := ∀ b, bits < b → b < 64 * a.size → sieveBit a b = true

theorem padMask_testBit (r k : ℕ) (hk : k < 64) :
    (((B - 1) <<< r) % B).testBit k = decide (r ≤ k) := by
  have hB : B = 2 ^ 64 := rfl
  rw [hB, Nat.testBit_mod_two_pow, Nat.testBit_shiftLeft, Nat.testBit_two_pow_sub_one]
  have : k - r < 64 := by omega
  simp [hk, this]

/-- primesieve.c:123-124 and :271-272: the unused bits of the last limb are set, the others kept -/
theorem pad_spec (a : Array ℕ) (bits : ℕ) (hsz : a.size = bits / 64 + 1) (hl : LimbsA a) :
    ∃ a', (if (bits + 1) % 64 ≠ 0 then orAt a (bits / 64 + 1 - 1) (((B - 1) <<< ((bits + 1) % 64)) % B) else a) = a' ∧
      a'.size = a.size ∧ LimbsA a' ∧ Pad a' bits ∧ ∀ b ≤ bits, sieveBit a' b = sieveBit a b := by
  refine ⟨_, rfl, ?_⟩
  split
  · refine ⟨size_orAt _ _ _, limbs_orAt _ _ _ (Nat.mod_lt _ B_pos) hl, fun b h1 h2 => ?_, fun b hb => ?_⟩
    · rw [size_orAt] at h2
      rw [sieveBit_orAt_mask, padMask_testBit _ _ (Nat.mod_lt b (by decide)), decide_eq_true (by omega),
        decide_eq_true (by omega), Bool.and_self, Bool.or_true]
    · rw [sieveBit_orAt_mask, padMask_testBit _ _ (Nat.mod_lt b (by decide)), ← Bool.decide_and,
        decide_eq_false (by omega), Bool.or_false]
  · exact ⟨rfl, hl, fun b h1 h2 => by omega, fun b _ => rfl⟩

/-- MPN_ZERO (bit_array, limbs); bit_array[0] = SIEVE_SEED -/
def seedArr (limbs : ℕ) : Array ℕ := (Array.replicate limbs 0).setIfInBounds 0 SIEVE_SEED

theorem seedArr_getD (limbs j : ℕ) (h : 0 < limbs) : (seedArr limbs).getD j 0 = if j = 0 then SIEVE_SEED else 0 := by
  unfold seedArr
  simp only [Array.getD_eq_getD_getElem?, Array.getElem?_setIfInBounds, Array.size_replicate, Array.getElem?_replicate]
  by_cases hj : j = 0
  · subst hj; simp [h]
  · have : ¬ (0 = j) := fun e => hj e.symm
    simp only [this, if_false, hj]
    split <;> rfl

theorem seedArr_bit (limbs b : ℕ) (h : 0 < limbs) :
    sieveBit (seedArr limbs) b = (decide (b < 64) && SIEVE_SEED.testBit b) := by
  unfold sieveBit
  rw [seedArr_getD _ _ h]
  by_cases hb : b < 64
  · rw [Nat.div_eq_of_lt hb, Nat.mod_eq_of_lt hb, if_pos rfl, decide_eq_true hb, Bool.true_and]
  · rw [if_neg (by omega), decide_eq_false hb, Bool.false_and, Nat.zero_testBit]

theorem seedArr_limbs (limbs : ℕ) (h : 0 < limbs) : LimbsA (seedArr limbs) := by
  intro j
  rw [seedArr_getD _ _ h]
  split
  · decide
  · exact B_pos

theorem seedArr_size (limbs : ℕ) : (seedArr limbs).size = limbs := by
  unfold seedArr; simp

/-- SIEVE_SEED marks exactly the composites among the first 64 numbers coprime to 6; the next two (197, 199) are primes -/
theorem seed_ok : ∀ b < 66, (decide (b < 64) && SIEVE_SEED.testBit b) = !isPrimeTD (bit_to_n b) := by
  decide +kernel

theorem seed_prime (b : ℕ) (hb : b < 66) :
    (decide (b < 64) && SIEVE_SEED.testBit b) = true ↔ ¬ (bit_to_n b).Prime := by
  rw [seed_ok b hb, ← isPrimeTD_iff, Bool.not_eq_true', Bool.not_eq_true]

/-- Bertrand: beyond SEED_LIMIT there is a prime p ≤ n with p² > n -/
theorem exists_break_prime (n : ℕ) (h : 202 < n) :
    ∃ j0, j0 ≤ nb n ∧ (bit_to_n j0).Prime ∧ n < bit_to_n j0 * bit_to_n j0 := by
  -- a prime p with √n < p ≤ 2√n ≤ √n·√n ≤ n
  have h1 : n.sqrt * n.sqrt ≤ n := Nat.sqrt_le n
  have h2 : n < (n.sqrt + 1) * (n.sqrt + 1) := Nat.lt_succ_sqrt n
  have h3 : 14 ≤ n.sqrt := Nat.le_sqrt.2 (by omega)
  generalize n.sqrt = s at h1 h2 h3
  obtain ⟨p, hp, hlt, hle⟩ := Nat.exists_prime_lt_and_le_two_mul s (by omega)
  have hpn : p ≤ n := Nat.le_trans hle (Nat.le_trans (Nat.mul_le_mul_right s (by omega)) h1)
  have hsq : n < p * p := Nat.lt_of_lt_of_le h2 (Nat.mul_le_mul hlt hlt)
  have e := bit_to_n_nb p (by omega) (prime_mod6 hp (by omega))
  refine ⟨nb p, ?_, by rw [e]; exact hp, by rw [e]; exact hsq⟩
  rw [le_nb_iff _ _ (by omega), e]; exact hpn

theorem first_block_spec (n : ℕ) (h4 : 4 < n) (hn : n < B) :
    ∃ a, first_block_primesieve n = some a ∧ a.size = nb n / 64 + 1 ∧ LimbsA a ∧ Final a 0 (nb n) ∧ Pad a (nb n) := by
  unfold first_block_primesieve
  rw [n_to_bit_eq_nb n (by omega) hn]
  have hlimbs : 0 < nb n / 64 + 1 := Nat.succ_pos _
  -- the start array: the seed on the bits of the sieve, ones above
  obtain ⟨A, hA, p1, p2, hpad, p3⟩ := pad_spec (seedArr (nb n / 64 + 1)) (nb n) (seedArr_size _) (seedArr_limbs _ hlimbs)
  dsimp only
  rw [show (Array.replicate (nb n / 64 + 1) 0).setIfInBounds 0 SIEVE_SEED = seedArr (nb n / 64 + 1) from rfl, hA]
  rw [seedArr_size] at p1
  have hlow : ∀ b ≤ nb n, sieveBit A b = (decide (b < 64) && SIEVE_SEED.testBit b) := fun b hb => by
    rw [p3 b hb, seedArr_bit _ _ hlimbs]
  have hsound : Sound A 0 (nb n) := fun b hb hm => by
    rw [hlow b hb] at hm
    exact (seed_prime b (by simp only [Bool.and_eq_true, decide_eq_true_eq] at hm; omega)).1 hm
  split
  · next hseed =>
    obtain ⟨j0, hj0, hp0, hsq0⟩ := exists_break_prime n hseed
    have htop : bit_to_n (nb n) < bit_to_n j0 * bit_to_n j0 :=
      Nat.lt_of_le_of_lt ((le_nb_iff (nb n) n (by omega)).1 (Nat.le_refl _)) hsq0
    obtain ⟨a', e, s', l', fin', pad'⟩ := fbLoop_spec (nb n) j0 hj0 hp0 htop (nb n + 2) 0 A (Nat.zero_le _) (by omega)
      (by omega) p2 hsound (fun b _ q _ h5 hlt => absurd h5 (Nat.not_le.2 hlt))
    exact ⟨a', e, by rw [s', p1], l', fin', fun b h1 h2 => by rw [pad' b h1]; exact hpad b h1 (by rwa [← s'])⟩
  · next hseed =>
    refine ⟨A, rfl, p1, p2, fun b hb => ?_, hpad⟩
    have hb66 : b < 66 := by
      have := nb_mono (Nat.le_of_not_lt hseed)
      have e : nb 202 = 65 := by decide
      unfold SEED_LIMIT at this
      omega
    rw [hlow b hb]; exact seed_prime b hb66

theorem block_resieve_spec (limbs off sb : ℕ) (sv : Array ℕ) (hlimbs : 0 < limbs)
    (hsv : Final sv 0 sb)
    (hH : bit_to_n (limbs * 64 - 1 + off) < bit_to_n (sb + 1) * bit_to_n (sb + 1)) :
    (block_resieve limbs off sv sb).size = limbs ∧ LimbsA (block_resieve limbs off sv sb) ∧
    Final (block_resieve limbs off sv sb) off (limbs * 64 - 1) := by
  have hz : ∀ j, (Array.replicate limbs 0).getD j 0 = 0 := fun j => by
    rw [Array.getD_eq_getD_getElem?, Array.getElem?_replicate]; split <;> rfl
  have hzb : ∀ b, sieveBit (Array.replicate limbs 0) b = false := fun b => by
    unfold sieveBit; rw [hz, Nat.zero_testBit]
  obtain ⟨a', e, h⟩ := brLoop_spec (limbs * 64 - 1) off sb sv hsv hH (sb + 2) 0 (Array.replicate limbs 0) (Nat.zero_le _)
    (Nat.lt_add_of_pos_right (Nat.succ_pos 1)) (by rw [Array.size_replicate]; omega) (fun j => by rw [hz]; exact B_pos)
    (fun b _ hm => by rw [hzb] at hm; exact absurd hm Bool.false_ne_true)
    (fun b _ q _ h5 hlt => absurd h5 (Nat.not_le.2 hlt))
  rw [← e, Array.size_replicate] at h
  exact h

/-- the invariant of the block loop -/
def Exact (a : Array ℕ) : Prop := LimbsA a ∧ Final a 0 (64 * a.size - 1)

theorem getD_append (a c : Array ℕ) (j : ℕ) :
    (a ++ c).getD j 0 = if j < a.size then a.getD j 0 else c.getD (j - a.size) 0 := by
  simp only [Array.getD_eq_getD_getElem?, Array.getElem?_append]
  split <;> rfl

theorem sieveBit_append (a c : Array ℕ) (b : ℕ) :
    sieveBit (a ++ c) b = if b < 64 * a.size then sieveBit a b else sieveBit c (b - 64 * a.size) := by
  unfold sieveBit
  rw [getD_append]
  by_cases h : b < 64 * a.size
  · rw [if_pos h, if_pos (Nat.div_lt_of_lt_mul h)]
  · rw [if_neg h, if_neg (fun h' => h (by rw [Nat.mul_comm]; exact (Nat.div_lt_iff_lt_mul (by decide)).1 h')),
      Nat.sub_mul_div, Nat.sub_mul_mod (Nat.le_of_not_lt h)]

theorem limbs_append {a c : Array ℕ} (ha : LimbsA a) (hc : LimbsA c) : LimbsA (a ++ c) := by
  intro j; rw [getD_append]
  by_cases h : j < a.size
  · rw [if_pos h]; exact ha j
  · rw [if_neg h]; exact hc _

theorem block_top_bound (off : ℕ) (h : 2048 ≤ off) :
    bit_to_n (2048 * 64 - 1 + off * 64) < bit_to_n (off * 64 - 1 + 1) * bit_to_n (off * 64 - 1 + 1) := by
  rw [show 2048 * 64 - 1 + off * 64 = 2 * (65535 + 32 * off) + 1 by omega, show off * 64 - 1 + 1 = 2 * (32 * off) by omega,
    bit_to_n_odd, bit_to_n_even]
  generalize hP : 6 * (32 * off) + 5 = P
  calc 6 * (65535 + 32 * off) + 7 < P * 2 := by omega
    _ ≤ P * P := Nat.mul_le_mul_left P (by omega)

theorem blocks_spec : ∀ k fuel off (a : Array ℕ), Exact a → a.size = off → 2048 ≤ off → k ≤ fuel →
    Exact (blocks (off + 2048 * k) fuel off a) ∧ (blocks (off + 2048 * k) fuel off a).size = off + 2048 * k := by
  intro k
  induction k with
  | zero =>
    intro fuel off a ha hsz _ _
    cases fuel <;> simp only [blocks, Nat.mul_zero, Nat.add_zero, Nat.lt_irrefl, if_false] <;> exact ⟨ha, hsz⟩
  | succ k ih =>
    intro fuel off a ha hsz hoff hf
    obtain ⟨f, rfl⟩ := Nat.exists_eq_add_of_le' (Nat.le_trans (Nat.succ_pos k) hf)
    rw [show off + 2048 * (k + 1) = off + 2048 + 2048 * k by ring]
    simp only [blocks, BLOCK_SIZE]
    rw [if_pos (by omega)]
    obtain ⟨bs, bl, bf⟩ := block_resieve_spec 2048 (off * 64) (off * 64 - 1) a (by decide)
      (fun j hj => ha.2 j (by omega)) (block_top_bound off hoff)
    refine ih f (off + 2048) _ ⟨limbs_append ha.1 bl, fun b hb => ?_⟩ (by rw [Array.size_append, bs, hsz])
      (by omega) (by omega)
    rw [Array.size_append, bs] at hb
    rw [sieveBit_append]
    split
    · next h => exact ha.2 b (by omega)
    · next h =>
      have e : b - 64 * a.size + off * 64 = b := by omega
      have := bf (b - 64 * a.size) (by omega)
      rwa [e] at this

theorem first_block_exact (off : ℕ) (h1 : 1 ≤ off) (hB : id_to_n (off * 64) < B) :
    ∃ a, first_block_primesieve (id_to_n (off * 64)) = some a ∧ a.size = off ∧ Exact a := by
  obtain ⟨m, hm⟩ : ∃ m, off * 64 = m + 1 := ⟨off * 64 - 1, by omega⟩
  rw [hm, ← bit_to_n_eq_id] at hB ⊢
  obtain ⟨a, e, hs, hl, hf, _⟩ := first_block_spec (bit_to_n m) (Nat.lt_of_lt_of_le (by decide) (bit_to_n_ge m)) hB
  rw [nb_bit_to_n] at hs hf
  have hs' : a.size = off := by omega
  exact ⟨a, e, hs', hl, fun b hb => hf b (by omega)⟩

theorem gmp_primesieve_struct (n : ℕ) (h4 : 4 < n) (hn : n < B) :
    ∃ a, gmp_primesieve n = some (a, a.size * 64 - popcountArr a) ∧ a.size = nb n / 64 + 1 ∧ LimbsA a ∧
      Final a 0 (nb n) ∧ Pad a (nb n) := by
  have hmid : ∃ a0, (if nb n / 64 + 1 > BLOCK_SIZE * 2 then
        (first_block_primesieve (id_to_n ((BLOCK_SIZE + (nb n / 64 + 1) % BLOCK_SIZE) * 64))).map
          (blocks (nb n / 64 + 1) (nb n / 64 + 1) (BLOCK_SIZE + (nb n / 64 + 1) % BLOCK_SIZE))
      else first_block_primesieve n) = some a0 ∧ a0.size = nb n / 64 + 1 ∧ LimbsA a0 ∧ Final a0 0 (nb n) := by
    split
    · next hbig =>
      -- size = off + 2048·k with off = BLOCK_SIZE + size mod BLOCK_SIZE
      simp only [BLOCK_SIZE] at hbig ⊢
      generalize hsize : nb n / 64 + 1 = size at hbig ⊢
      obtain ⟨k, hk, hk1, hoff⟩ : ∃ k, size = 2048 + size % 2048 + 2048 * k ∧ 1 ≤ k ∧ 2048 ≤ 2048 + size % 2048 :=
        ⟨size / 2048 - 1, by omega, by omega, Nat.le_add_right _ _⟩
      generalize 2048 + size % 2048 = off at hk hoff ⊢
      have hle : id_to_n (off * 64) ≤ n := by
        obtain ⟨m, hm⟩ : ∃ m, off * 64 = m + 1 := ⟨off * 64 - 1, by omega⟩
        rw [hm, ← bit_to_n_eq_id, ← le_nb_iff _ _ (by omega)]; omega
      obtain ⟨a1, e1, s1, hex⟩ := first_block_exact off (by omega) (by omega)
      obtain ⟨bx, bsz⟩ := blocks_spec k size off a1 hex s1 (by omega) (by omega)
      rw [← hk] at bx bsz
      exact ⟨_, by rw [e1]; rfl, bsz, bx.1, fun b hb => bx.2 b (by omega)⟩
    · obtain ⟨a1, e1, s1, l1, f1, _⟩ := first_block_spec n h4 hn
      exact ⟨a1, e1, s1, l1, f1⟩
  obtain ⟨a0, e0, s0, l0, c0⟩ := hmid
  obtain ⟨A, hA, p1, p2, hpad, p3⟩ := pad_spec a0 (nb n) s0 l0
  unfold gmp_primesieve
  rw [n_to_bit_eq_nb n (by omega) hn]
  simp only [e0, Option.map_some, hA]
  rw [s0] at p1
  exact ⟨A, by rw [p1], p1, p2, fun b hb => by rw [p3 b hb]; exact c0 b hb, hpad⟩

theorem count_congr_lt (p q : ℕ → Prop) [DecidablePred p] [DecidablePred q] (n : ℕ) (h : ∀ k < n, p k ↔ q k) :
    Nat.count p n = Nat.count q n :=
  Nat.le_antisymm (Nat.count_mono_left fun k hk => (h k hk).1) (Nat.count_mono_left fun k hk => (h k hk).2)

theorem count_add_count_not (p : ℕ → Prop) [DecidablePred p] :
    ∀ n, Nat.count p n + Nat.count (fun k => ¬ p k) n = n := by
  intro n
  induction n with
  | zero => rfl
  | succ m ih =>
    rw [Nat.count_succ, Nat.count_succ]
    by_cases hp : p m
    · rw [if_pos hp, if_neg (not_not_intro hp)]; omega
    · rw [if_neg hp, if_pos hp]; omega

theorem popc_zero (f : ℕ) : popc f 0 = 0 := by cases f <;> simp [popc]

theorem popc_eq_count : ∀ f x, x < 2 ^ f → popc f x = Nat.count (fun k => x.testBit k = true) f := by
  intro f
  induction f with
  | zero => intro x _; rfl
  | succ f ih =>
    intro x hx
    have h2 : x / 2 < 2 ^ f := Nat.div_lt_of_lt_mul (by rwa [Nat.pow_succ, Nat.mul_comm] at hx)
    rw [Nat.count_succ', ← count_congr_lt _ _ f (fun k _ => by rw [Nat.testBit_succ]), ← ih (x / 2) h2, Nat.testBit_zero]
    simp only [popc]
    split
    · next h0 => subst h0; simp [popc_zero]
    · rcases Nat.mod_two_eq_zero_or_one x with h | h <;> simp [h, Nat.add_comm]

theorem sum_popcount_eq_count : ∀ l : List ℕ, (∀ x ∈ l, x < B) →
    (l.map popcount).sum = Nat.count (fun b => sieveBit l.toArray b = true) (64 * l.length) := by
  intro l
  induction l with
  | nil => intro _; rfl
  | cons x xs ih =>
    intro h
    rw [List.length_cons, Nat.mul_succ, Nat.add_comm, Nat.count_add, List.map_cons, List.sum_cons,
      ih (fun y hy => h y (List.mem_cons_of_mem _ hy))]
    congr 1
    · unfold popcount
      rw [popc_eq_count 64 x (h x List.mem_cons_self)]
      refine count_congr_lt _ _ _ fun k hk => ?_
      simp only [sieveBit, Array.getD_eq_getD_getElem?, List.getElem?_toArray, Nat.div_eq_of_lt hk, Nat.mod_eq_of_lt hk,
        List.getElem?_cons_zero, Option.getD_some]
    · refine count_congr_lt _ _ _ fun k _ => ?_
      simp only [sieveBit, Array.getD_eq_getD_getElem?, List.getElem?_toArray, Nat.add_comm 64 k, Nat.add_div_right k (by decide : 0 < 64),
        Nat.add_mod_right, List.getElem?_cons_succ]

theorem foldl_popcount (l : List ℕ) : ∀ s0, l.foldl (fun s x => s + popcount x) s0 = s0 + (l.map popcount).sum := by
  induction l with
  | nil => intro s0; rfl
  | cons x xs ih => intro s0; rw [List.foldl_cons, ih, List.map_cons, List.sum_cons, Nat.add_assoc]

theorem popcountArr_eq (a : Array ℕ) (hl : LimbsA a) :
    popcountArr a = Nat.count (fun b => sieveBit a b = true) (64 * a.size) := by
  unfold popcountArr
  rw [← Array.foldl_toList, foldl_popcount, Nat.zero_add, sum_popcount_eq_count, Array.toArray_toList, Array.length_toList]
  intro x hx
  obtain ⟨i, hi, rfl⟩ := List.getElem_of_mem hx
  have := hl i
  rwa [Array.getD_eq_getD_getElem?, ← Array.getElem?_toList, List.getElem?_eq_getElem hi, Option.getD_some] at this

theorem nb_succ (n : ℕ) (h5 : 5 ≤ n) :
    ((n + 1) % 6 = 1 ∨ (n + 1) % 6 = 5) ∧ nb (n + 1) = nb n + 1 ∧ bit_to_n (nb n + 1) = n + 1 ∨
    ¬ ((n + 1) % 6 = 1 ∨ (n + 1) % 6 = 5) ∧ nb (n + 1) = nb n := by
  rw [bit_to_n_eq, nb_eq, nb_eq]; omega

theorem count_sieve_primes (n : ℕ) (h5 : 5 ≤ n) :
    Nat.count (fun b => (bit_to_n b).Prime) (nb n + 1) + 2 = Nat.primeCounting n := by
  induction n, h5 using Nat.le_induction with
  | base => decide
  | succ n hn ih =>
    unfold Nat.primeCounting Nat.primeCounting' at ih ⊢
    rw [Nat.count_succ Nat.Prime, ← ih]
    rcases nb_succ n hn with ⟨h6, e1, e2⟩ | ⟨h6, e1⟩
    · rw [e1, Nat.count_succ, e2, Nat.add_right_comm]
    · rw [e1, if_neg (fun hp => h6 (prime_mod6 hp (by omega))), Nat.add_zero]

theorem sieve_count (a : Array ℕ) (n : ℕ) (h5 : 5 ≤ n) (hsz : a.size = nb n / 64 + 1) (hl : LimbsA a)
    (hbits : Final a 0 (nb n)) (hpad : Pad a (nb n)) :
    a.size * 64 - popcountArr a = Nat.primeCounting n - 2 := by
  rw [popcountArr_eq a hl, ← count_sieve_primes n h5]
  have hsum := count_add_count_not (fun b => sieveBit a b = true) (64 * a.size)
  -- the clear bits: the primes among the bits of the sieve, none in the padding
  have hz : Nat.count (fun b => ¬ sieveBit a b = true) (64 * a.size) = Nat.count (fun b => (bit_to_n b).Prime) (nb n + 1) := by
    rw [show 64 * a.size = (nb n + 1) + (64 * a.size - (nb n + 1)) by omega, Nat.count_add,
      Nat.count_iff_forall_not.2 fun k hk => not_not_intro (hpad (nb n + 1 + k) (by omega) (by omega)), Nat.add_zero]
    exact count_congr_lt _ _ _ fun k hk => by rw [hbits k (by omega), not_not]; rfl
  omega

end Mpir.Sieve
