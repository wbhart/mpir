/- mpn_fib2_ui, mpz_fib_ui, mpz_lucnum_ui (models in Mpir/Model/Numth.lean): the doubling identities, the table, the loops,
   and the low-limb claim of mpz/fib_ui.c. -/
import MpirProofs.Lemmas.Numth
import Mathlib.Tactic.LinearCombination
namespace Mpir.Numth
open Mpir Mpir.Gen.NumthTabs

/-! ## identities of the Fibonacci and Lucas numbers, periods of their residues -/

theorem fib_double_int (k : ℕ) :
    (Nat.fib (k + 1) : ℤ) ^ 2 - Nat.fib (k + 1) * Nat.fib k - (Nat.fib k : ℤ) ^ 2 = (-1) ^ k ∧
    (Nat.fib (2 * k) : ℤ) = Nat.fib k * (2 * Nat.fib (k + 1) - Nat.fib k) ∧
    (Nat.fib (2 * k + 1) : ℤ) = (Nat.fib (k + 1) : ℤ) ^ 2 + (Nat.fib k : ℤ) ^ 2 := by
  refine ⟨?_, ?_, ?_⟩
  · induction k with
    | zero => simp
    | succ k ih =>
      rw [Nat.fib_add_two, pow_succ]
      push_cast
      linear_combination (-1 : ℤ) * ih
  · have hle : Nat.fib k ≤ 2 * Nat.fib (k + 1) := le_trans Nat.fib_le_fib_succ (Nat.le_mul_of_pos_left _ two_pos)
    rw [Nat.fib_two_mul]; push_cast [hle]; ring
  · rw [Nat.fib_two_mul_add_one]; push_cast; ring

theorem lucSpec_int (n : ℕ) : (lucSpec n : ℤ) = 2 * Nat.fib (n + 1) - Nat.fib n := by
  have := lucSpec_add_fib n
  zify at this; linear_combination this

theorem neg_one_pow_of_even {k : ℕ} (hk : k % 2 = 0) : (-1 : ℤ) ^ k = 1 := Even.neg_one_pow (Nat.even_iff.mpr hk)
theorem neg_one_pow_of_odd {k : ℕ} (hk : k % 2 = 1) : (-1 : ℤ) ^ k = -1 := Odd.neg_one_pow (Nat.odd_iff.mpr hk)

/-- the doubling identities behind mpn_fib2_ui, for a = F(k), b = "F(k-1)" (b + a = F(k+1)) -/
theorem fib_doubling (k a b : ℕ) (ha : a = Nat.fib k) (hb : b + a = Nat.fib (k + 1)) :
    (k % 2 = 0 → 4 * (a * a) + 2 = Nat.fib (2 * k + 1) + b * b) ∧
    (k % 2 = 1 → 4 * (a * a) = Nat.fib (2 * k + 1) + b * b + 2) ∧
    a * a + b * b + Nat.fib (2 * k) = Nat.fib (2 * k + 1) := by
  obtain ⟨hc, h2, h1⟩ := fib_double_int k
  rw [← hb, ← ha] at hc h2 h1
  push_cast at hc h2 h1
  refine ⟨fun hk => ?_, fun hk => ?_, ?_⟩
  · rw [neg_one_pow_of_even hk] at hc; zify; linear_combination (-2 : ℤ) * hc - h1
  · rw [neg_one_pow_of_odd hk] at hc; zify; linear_combination (-2 : ℤ) * hc - h1
  · zify; linear_combination h2 - h1

theorem luc_odd_formula (k a b : ℕ) (ha : a = Nat.fib k) (hb : b + a = Nat.fib (k + 1)) :
    (k % 2 = 1 → lucSpec (2 * k + 1) = 5 * ((2 * a + b) * b) + 4) ∧
    (k % 2 = 0 → lucSpec (2 * k + 1) + 4 = 5 * ((2 * a + b) * b)) := by
  obtain ⟨hc, h2, h1⟩ := fib_double_int k
  have hl := lucSpec_int (2 * k + 1)
  rw [Nat.fib_add_two, ← hb, ← ha] at *
  push_cast at hc h2 h1 hl
  constructor
  · intro hk; rw [neg_one_pow_of_odd hk] at hc; zify; linear_combination hl + 2 * h2 + h1 - 4 * hc
  · intro hk; rw [neg_one_pow_of_even hk] at hc; zify; linear_combination hl + 2 * h2 + h1 - 4 * hc

theorem luc_sq_formula (k : ℕ) :
    (k % 2 = 1 → lucSpec (2 * k) = lucSpec k * lucSpec k + 2) ∧
    (k % 2 = 0 → lucSpec (2 * k) + 2 = lucSpec k * lucSpec k) := by
  obtain ⟨hc, h2, h1⟩ := fib_double_int k
  have hl := lucSpec_int (2 * k)
  have hk := lucSpec_int k
  constructor
  · intro hk'; rw [neg_one_pow_of_odd hk'] at hc; zify; rw [hk]; linear_combination hl + 2 * h1 - h2 - 2 * hc
  · intro hk'; rw [neg_one_pow_of_even hk'] at hc; zify; rw [hk]; linear_combination hl + 2 * h1 - h2 - 2 * hc


theorem rec_add_period {u : ℕ → ℕ} (hu : ∀ n, u (n + 2) = u n + u (n + 1)) {m p : ℕ}
    (h0 : u p % m = u 0 % m) (h1 : u (p + 1) % m = u 1 % m) :
    ∀ n, u (n + p) % m = u n % m ∧ u (n + 1 + p) % m = u (n + 1) % m
  | 0 => by simpa [Nat.add_comm] using ⟨h0, h1⟩
  | n + 1 => by
    obtain ⟨i0, i1⟩ := rec_add_period hu h0 h1 n
    refine ⟨i1, ?_⟩
    rw [show n + 1 + 1 + p = n + p + 2 by ring, hu, hu, Nat.add_mod, i0,
      show n + p + 1 = n + 1 + p by ring, i1, ← Nat.add_mod]

theorem rec_mod_period {u : ℕ → ℕ} (hu : ∀ n, u (n + 2) = u n + u (n + 1)) {m p : ℕ} (hp : 0 < p)
    (h0 : u p % m = u 0 % m) (h1 : u (p + 1) % m = u 1 % m) (n : ℕ) : u n % m = u (n % p) % m := by
  induction n using Nat.strong_induction_on with
  | _ n ih =>
    rcases Nat.lt_or_ge n p with h | h
    · rw [Nat.mod_eq_of_lt h]
    · obtain ⟨k, rfl⟩ : ∃ k, n = k + p := ⟨n - p, by omega⟩
      rw [(rec_add_period hu h0 h1 k).1, ih k (by omega), Nat.add_mod_right]

theorem fib_mod_period {m p : ℕ} (hp : 0 < p) (h0 : Nat.fib p % m = Nat.fib 0 % m) (h1 : Nat.fib (p + 1) % m = Nat.fib 1 % m)
    (n : ℕ) : Nat.fib n % m = Nat.fib (n % p) % m :=
  rec_mod_period (fun _ => Nat.fib_add_two) hp h0 h1 n

theorem lucSpec_add_two (n : ℕ) : lucSpec (n + 2) = lucSpec n + lucSpec (n + 1) := by
  have h0 := lucSpec_add_fib n
  have h1 : lucSpec (n + 1) + Nat.fib (n + 1) = 2 * Nat.fib (n + 2) := lucSpec_add_fib (n + 1)
  have h2 : lucSpec (n + 2) + Nat.fib (n + 2) = 2 * Nat.fib (n + 3) := lucSpec_add_fib (n + 2)
  have f2 : Nat.fib (n + 2) = Nat.fib n + Nat.fib (n + 1) := Nat.fib_add_two
  have f3 : Nat.fib (n + 3) = Nat.fib (n + 1) + Nat.fib (n + 2) := Nat.fib_add_two
  omega

theorem lucSpec_mod_period {m p : ℕ} (hp : 0 < p) (h0 : lucSpec p % m = lucSpec 0 % m) (h1 : lucSpec (p + 1) % m = lucSpec 1 % m)
    (n : ℕ) : lucSpec n % m = lucSpec (n % p) % m :=
  rec_mod_period lucSpec_add_two hp h0 h1 n

/-- F(4m+3) is 1, 2 or 5 modulo 8 (fib2_ui.c:52-58) -/
theorem fib_four_mul_add_three_mod8 (n : ℕ) (hn : n % 4 = 3) :
    Nat.fib n % 8 = 1 ∨ Nat.fib n % 8 = 2 ∨ Nat.fib n % 8 = 5 := by
  have : ∀ r < 12, r % 4 = 3 → Nat.fib r % 8 = 1 ∨ Nat.fib r % 8 = 2 ∨ Nat.fib r % 8 = 5 := by decide
  rw [fib_mod_period (p := 12) (by norm_num) (by decide) (by decide) n]
  exact this _ (Nat.mod_lt _ (by norm_num)) (by omega)

theorem fib_odd_mod4 (n : ℕ) (hn : n % 2 = 1) : Nat.fib n % 4 ≠ 0 := by
  have : ∀ r < 6, r % 2 = 1 → Nat.fib r % 4 ≠ 0 := by decide
  rw [fib_mod_period (p := 6) (by norm_num) (by decide) (by decide) n]
  exact this _ (Nat.mod_lt _ (by norm_num)) (by omega)

/-- L(4m+3) is 4, 5 or 7 modulo 8 (lucnum_ui.c:30-32); at least 4 is what the low-limb `+4` needs -/
theorem luc_four_mul_add_three_mod8 (n : ℕ) (hn : n % 4 = 3) : 4 ≤ lucSpec n % 8 := by
  have : ∀ r < 12, r % 4 = 3 → 4 ≤ lucSpec r % 8 := by decide
  rw [lucSpec_mod_period (p := 12) (by norm_num) (by decide) (by decide) n]
  exact this _ (Nat.mod_lt _ (by norm_num)) (by omega)

/-! ## mpn_fib2_ui (fib2_ui.c): the doubling loop and the table -/

theorem and_two_pow_ne_zero (n j : ℕ) : n &&& 2 ^ j ≠ 0 ↔ n / 2 ^ j % 2 = 1 := by
  rw [Bits.and_bit_ne_zero, Nat.testBit_eq_decide_div_mod_eq, decide_eq_true_iff]

theorem and_two_ne_zero (n : ℕ) : n &&& 2 ≠ 0 ↔ n / 2 % 2 = 1 := by
  have := and_two_pow_ne_zero n 1
  simpa using this

theorem and_one_ne_zero (n : ℕ) : n &&& 1 ≠ 0 ↔ n % 2 = 1 := by
  rw [Nat.and_one_is_mod]; omega

theorem lowLimbSub_eq (v c : ℕ) (h : c ≤ v % B) : lowLimbSub v c = v - c := by
  unfold lowLimbSub; simp only [B_eq] at *; omega

theorem lowLimbAdd_eq (v c : ℕ) (hc : c < B) (h : c ≤ (v + c) % B) : lowLimbAdd v c = v + c := by
  unfold lowLimbAdd; simp only [B_eq] at *; omega

theorem four_mul_or_two (x : ℕ) : 4 * x ||| 2 = 4 * x + 2 := by
  have := Nat.shiftLeft_add_eq_or_of_lt (i := 2) (b := 2) (by decide) x
  rw [Nat.shiftLeft_eq] at this
  rw [mul_comm]; exact this.symm

/-- invariant of the doubling loop: p = (F(k), "F(k-1)") with F(-1) = 1 -/
def FibPair (k : ℕ) (p : ℕ × ℕ) : Prop := p.1 = Nat.fib k ∧ p.2 + Nat.fib k = Nat.fib (k + 1)

/-- one pass of the doubling loop: from (F(k), F(k-1)) to (F(2k+1), F(2k)) or (F(2k), F(2k-1)), by the next bit of n;
    `n & mask` only has to tell the parity of k -/
theorem fib2Step_pair (n mask k : ℕ) (p : ℕ × ℕ) (h : FibPair k p) (hm : n &&& mask ≠ 0 ↔ k % 2 = 1) :
    FibPair (2 * k + if n &&& (mask >>> 1) ≠ 0 then 1 else 0) (fib2Step n mask p.1 p.2) := by
  obtain ⟨f, f1⟩ := p
  obtain ⟨hf, hf1⟩ := h
  simp only at hf hf1
  obtain ⟨d1, d2, d3⟩ := fib_doubling k f f1 hf (by rw [hf]; exact hf1)
  simp only [fib2Step, hm]
  -- the value F(2k+1) after the ±2 corrections
  have hFP : lowLimbSub ((4 * (f * f) ||| if k % 2 = 1 then 0 else 2) - f1 * f1) (if k % 2 = 1 then 2 else 0)
      = Nat.fib (2 * k + 1) := by
    by_cases hko : k % 2 = 1
    · simp only [hko, if_true, Nat.or_zero]
      have e := d2 hko
      have hm := fib_four_mul_add_three_mod8 (2 * k + 1) (by omega)
      clear d1 d2 d3 hf hf1
      rw [lowLimbSub_eq _ 2 (by rw [B_eq]; omega)]; omega
    · simp only [hko, if_false, four_mul_or_two, lowLimbSub_eq _ 0 (Nat.zero_le _)]
      have e := d1 (by omega)
      clear d1 d2 d3 hf hf1
      omega
  rw [hFP]
  have hadd : Nat.fib (2 * k + 1 + 1) = Nat.fib (2 * k) + Nat.fib (2 * k + 1) := Nat.fib_add_two
  clear d1 d2 hFP hf hf1
  by_cases hb : n &&& (mask >>> 1) ≠ 0
  · simp only [if_pos hb]
    exact ⟨rfl, by simp only; omega⟩
  · simp only [if_neg hb, Nat.add_zero]
    exact ⟨by simp only; omega, by simp only; omega⟩

theorem fib2Loop_spec (n : ℕ) : ∀ j p, FibPair (n / 2 ^ j) p → FibPair n (fib2Loop n j p) := by
  intro j
  induction j with
  | zero => intro p h; simpa [fib2Loop] using h
  | succ j ih =>
    intro p h
    rw [fib2Loop]
    apply ih
    have hstep := fib2Step_pair n (2 ^ (j + 1)) _ p h (and_two_pow_ne_zero n (j + 1))
    have hshift : 2 ^ (j + 1) >>> 1 = 2 ^ j := by rw [Nat.shiftRight_eq_div_pow, pow_succ]; simp
    have hk : n / 2 ^ j = 2 * (n / 2 ^ (j + 1)) + if n &&& 2 ^ j ≠ 0 then 1 else 0 := by
      rw [pow_succ, ← Nat.div_div_eq_div_mul]
      by_cases hb : n &&& 2 ^ j ≠ 0
      · have := (and_two_pow_ne_zero n j).1 hb; rw [if_pos hb]; omega
      · have := (and_two_pow_ne_zero n j).not.1 hb; rw [if_neg hb]; omega
    rw [hk, ← hshift]; exact hstep


theorem fib2Start_spec (n : ℕ) :
    (fib2Start n).1 = n / 2 ^ (fib2Start n).2 ∧ (fib2Start n).1 ≤ FIB_TABLE_LIMIT := by
  induction n using Nat.strong_induction_on with
  | _ n ih =>
    rw [fib2Start]
    by_cases h : n > FIB_TABLE_LIMIT
    · simp only [h, dite_true]
      obtain ⟨h1, h2⟩ := ih (n / 2) (by omega)
      refine ⟨?_, h2⟩
      rw [h1, pow_succ, Nat.div_div_eq_div_mul, mul_comm]
    · simp only [h, dite_false]
      exact ⟨by simp, by omega⟩

/-- `__gmp_fib_table`: F[-1] = 1, then F[0] … F[FIB_TABLE_LIMIT] -/
theorem fibTable_eq : fibTable = 1 :: (List.range (FIB_TABLE_LIMIT + 1)).map fibSpec := by decide +kernel

theorem fibTab_zero : fibTab 0 = 1 := by unfold fibTab; rw [fibTable_eq]; rfl

theorem fibTab_succ (i : ℕ) (h : i ≤ FIB_TABLE_LIMIT) : fibTab (i + 1) = Nat.fib i := by
  unfold fibTab
  rw [fibTable_eq, List.getD_cons_succ, List.getD_eq_getElem _ _ (by simp; omega), List.getElem_map, List.getElem_range,
    fibSpec_eq]

theorem fib_table_pair : ∀ k ≤ FIB_TABLE_LIMIT, FibPair k (FIB_TABLE k, fibTab k) := by
  intro k hk
  refine ⟨fibTab_succ k hk, ?_⟩
  cases k with
  | zero => simp [fibTab_zero]
  | succ k => simp only; rw [fibTab_succ k (by omega), Nat.fib_add_two]

theorem mpn_fib2_ui_pair (n : ℕ) : FibPair n (mpn_fib2_ui n) := by
  unfold mpn_fib2_ui
  obtain ⟨h1, h2⟩ := fib2Start_spec n
  apply fib2Loop_spec
  rw [← h1]
  exact fib_table_pair _ h2

theorem FibPair.pred {k : ℕ} {p : ℕ × ℕ} (h : FibPair k p) (hk : 1 ≤ k) : p.2 = Nat.fib (k - 1) := by
  obtain ⟨h1, h2⟩ := h
  obtain ⟨k', rfl⟩ : ∃ k', k = k' + 1 := ⟨k - 1, by omega⟩
  rw [Nat.fib_add_two] at h2
  simp only [Nat.add_sub_cancel]; omega

theorem FibPair.le {k : ℕ} {p : ℕ × ℕ} (h : FibPair k p) (hk : 1 ≤ k) : p.2 ≤ p.1 := by
  rw [h.pred hk, h.1]
  exact Nat.fib_mono (Nat.sub_le k 1)

/-! ## mpz_fib_ui (fib_ui.c) -/

theorem FIB_TABLE_LIMIT_ge : 2 ≤ FIB_TABLE_LIMIT := by decide

/-- F(2k+1) from (x, y) = (F(k), F(k-1)), k ≥ 1: (2x+y)(2x-y) = 4x² - y² = F(2k+1) - 2(-1)^k -/
theorem fib_odd_of_pair {k x y : ℕ} (hk : 1 ≤ k) (h : FibPair k (x, y)) :
    (k % 2 = 1 → (2 * x + y) * (2 * x - y) = Nat.fib (2 * k + 1) + 2) ∧
    (¬ k % 2 = 1 → (2 * x + y) * (2 * x - y) + 2 = Nat.fib (2 * k + 1)) := by
  have hle : y ≤ x := h.le hk
  obtain ⟨hx, hy⟩ := h
  simp only at hx hy hle
  have hpr : (2 * x + y) * (2 * x - y) + y * y = 4 * (x * x) := by
    rw [← Nat.mul_self_sub_mul_self_eq, Nat.sub_add_cancel (Nat.mul_self_le_mul_self (by omega))]; ring
  obtain ⟨d1, d2, -⟩ := fib_doubling k x y hx (by rw [hx]; exact hy)
  constructor
  · intro h1; have := d2 h1; omega
  · intro h0; have := d1 (by omega); omega

theorem mpz_fib_ui_eq (n : ℕ)
    (hclaim : n % 4 = 1 → FIB_TABLE_LIMIT < n → Nat.fib n % B ≠ 1) : mpz_fib_ui n = Nat.fib n := by
  unfold mpz_fib_ui
  by_cases hs : n ≤ FIB_TABLE_LIMIT
  · simp only [hs, if_true]; exact (fib_table_pair n hs).1
  · simp only [hs, if_false, and_one_ne_zero, and_two_ne_zero]
    have hk : 1 ≤ n / 2 := by have := FIB_TABLE_LIMIT_ge; omega
    have hpair := mpn_fib2_ui_pair (n / 2)
    generalize mpn_fib2_ui (n / 2) = p at hpair
    obtain ⟨x, y⟩ := p
    by_cases hodd : n % 2 = 1
    · simp only [hodd, if_true]
      obtain ⟨o3, o1⟩ := fib_odd_of_pair hk hpair
      rw [show 2 * (n / 2) + 1 = n by omega] at o3 o1
      by_cases hko : n / 2 % 2 = 1
      · have hm := fib_four_mul_add_three_mod8 n (by omega)
        rw [if_pos hko, o3 hko, lowLimbSub_eq _ 2 (by rw [B_eq]; omega), Nat.add_sub_cancel]
      · have h4 := fib_odd_mod4 n hodd
        have h1 := hclaim (by omega) (Nat.lt_of_not_le hs)
        have hP := o1 hko
        rw [if_neg hko, lowLimbAdd_eq _ 2 (by rw [B_eq]; norm_num) (by rw [hP]; simp only [B_eq] at *; omega), hP]
    · simp only [hodd, if_false]
      obtain ⟨hx, hy⟩ := hpair
      simp only at hx hy
      have h2 := Nat.fib_two_mul (n / 2)
      rw [show 2 * (n / 2) = n by omega, ← hy, ← hx, show 2 * (y + x) - x = 2 * y + x by omega] at h2
      rw [h2]; ring


/-! ## mpz_lucnum_ui (lucnum_ui.c) -/

theorem sq_mod_four (l : ℕ) : l * l % 4 = 0 ∨ l * l % 4 = 1 := by
  rw [Nat.mul_mod]
  have : l % 4 < 4 := Nat.mod_lt _ (by decide)
  interval_cases (l % 4) <;> simp

theorem luc_table_fits : ∀ n ≤ FIB_TABLE_LUCNUM_LIMIT,
    n ≤ FIB_TABLE_LIMIT ∧ FIB_TABLE n + 2 * fibTab n < B ∧ 2 * FIB_TABLE n < B := by
  -- F and hence L are monotone: the last index decides
  obtain ⟨c1, c2, c3⟩ : FIB_TABLE_LUCNUM_LIMIT ≤ FIB_TABLE_LIMIT ∧
      fibSpec FIB_TABLE_LUCNUM_LIMIT + 2 * fibSpec (FIB_TABLE_LUCNUM_LIMIT - 1) < B ∧ 2 * fibSpec FIB_TABLE_LUCNUM_LIMIT < B := by
    decide +kernel
  rw [fibSpec_eq] at c2 c3
  rw [fibSpec_eq] at c2
  intro n hn
  have h1 := Nat.fib_mono hn
  refine ⟨le_trans hn c1, ?_⟩
  unfold FIB_TABLE
  rw [fibTab_succ n (le_trans hn c1)]
  cases n with
  | zero => rw [fibTab_zero, B_eq]; norm_num
  | succ k =>
    rw [fibTab_succ k (by omega)]
    have h2 : Nat.fib k ≤ Nat.fib (FIB_TABLE_LUCNUM_LIMIT - 1) := Nat.fib_mono (by omega)
    omega

theorem luc_of_fib_pair {n x y : ℕ} (h : FibPair n (x, y)) :
    lucSpec n = x + 2 * y ∧ (1 ≤ n → lucSpec (n - 1) + y = 2 * x) := by
  have hl := lucSpec_add_fib n
  have hpred := fun hn => h.pred hn
  obtain ⟨h1, h2⟩ := h
  simp only at h1 h2 hpred
  refine ⟨by omega, fun hn => ?_⟩
  have hl1 := lucSpec_add_fib (n - 1)
  rw [show n - 1 + 1 = n by omega, ← hpred hn, ← h1] at hl1
  omega

theorem lucTab_spec (n : ℕ) (h : n ≤ FIB_TABLE_LUCNUM_LIMIT) : lucTab n = lucSpec n := by
  obtain ⟨h1, h2, _⟩ := luc_table_fits n h
  rw [(luc_of_fib_pair (fib_table_pair n h1)).1, lucTab, Nat.mod_eq_of_lt h2]

theorem lucSquare_spec : ∀ z k p, p % 2 = k % 2 → lucSquare z (lucSpec k) p = lucSpec (k * 2 ^ z) := by
  intro z
  induction z with
  | zero => intro k p _; simp [lucSquare]
  | succ z ih =>
    intro k p hp
    obtain ⟨s1, s2⟩ := luc_sq_formula k
    rw [lucSquare, show k * 2 ^ (z + 1) = (2 * k) * 2 ^ z by rw [pow_succ]; ring]
    simp only [and_one_ne_zero]
    by_cases hk : k % 2 = 1
    · rw [if_pos (by omega), ← ih (2 * k) 0 (by omega), s1 hk, lowLimbAdd_eq _ 2 (by rw [B_eq]; norm_num)]
      have := sq_mod_four (lucSpec k)
      rw [B_eq]; omega
    · rw [if_neg (by omega), ← ih (2 * k) p (by omega), ← s2 (by omega), Nat.add_sub_cancel]

theorem lucStrip_spec (n : ℕ) (hn : FIB_TABLE_LUCNUM_LIMIT < n) :
    n = (lucStrip n).2.2 * 2 ^ (lucStrip n).2.1 ∧ (lucStrip n).1 = lucSpec (lucStrip n).2.2 := by
  induction n using Nat.strong_induction_on with
  | _ n ih =>
    rw [lucStrip]
    simp only [and_one_ne_zero, and_two_ne_zero]
    by_cases hodd : n % 2 = 1
    · simp only [hodd, if_true]
      refine ⟨by simp, ?_⟩
      have hpair := mpn_fib2_ui_pair (n / 2)
      generalize mpn_fib2_ui (n / 2) = p at hpair
      obtain ⟨x, y⟩ := p
      obtain ⟨hx, hy⟩ := hpair
      simp only at hx hy ⊢
      obtain ⟨o1, o2⟩ := luc_odd_formula (n / 2) x y hx (by rw [hx]; exact hy)
      rw [show 2 * (n / 2) + 1 = n by omega] at o1 o2
      by_cases hko : n / 2 % 2 = 1
      · simp only [hko, if_true]
        have hv := o1 hko
        have hm := luc_four_mul_add_three_mod8 n (by omega)
        rw [← Nat.mod_mod_of_dvd _ (show 8 ∣ B by rw [B_eq]; norm_num)] at hm
        rw [lowLimbAdd_eq _ 4 (by rw [B_eq]; norm_num) (by rw [← hv]; omega), hv]
      · simp only [hko, if_false]
        have := o2 (by omega); omega
    · simp only [hodd, if_false]
      by_cases hs : n / 2 ≤ FIB_TABLE_LUCNUM_LIMIT
      · simp only [hs, dite_true]
        exact ⟨by omega, lucTab_spec _ hs⟩
      · simp only [hs, dite_false]
        obtain ⟨h1, h2⟩ := ih (n / 2) (by omega) (by omega)
        refine ⟨?_, h2⟩
        rw [pow_succ, ← mul_assoc, ← h1]; omega

theorem mpz_lucnum_ui_eq (n : ℕ) : mpz_lucnum_ui n = lucSpec n := by
  unfold mpz_lucnum_ui
  by_cases hs : n ≤ FIB_TABLE_LUCNUM_LIMIT
  · simp only [hs, if_true]; exact lucTab_spec n hs
  · simp only [hs, if_false]
    obtain ⟨h1, h2⟩ := lucStrip_spec n (by omega)
    rw [h2, lucSquare_spec _ _ _ rfl, ← h1]

/-! ## the low limb of F(n) is not 1 for n ≡ 1 (mod 4) (the claim of fib_ui.c:36-43) -/

theorem fib_two_mul_luc (m : ℕ) : Nat.fib (2 * m) = Nat.fib m * lucSpec m := by
  have h2 := (fib_double_int m).2.1
  have hl := lucSpec_int m
  zify; linear_combination h2 - (Nat.fib m : ℤ) * hl

theorem fib_four_mul_add_one (j : ℕ) : Nat.fib (4 * j + 1) = Nat.fib (2 * j) * lucSpec (2 * j + 1) + 1 := by
  obtain ⟨hc, _, h1⟩ := fib_double_int (2 * j)
  have hl := lucSpec_int (2 * j + 1)
  rw [Nat.fib_add_two] at hl
  rw [show 2 * (2 * j) + 1 = 4 * j + 1 by ring] at h1
  rw [neg_one_pow_of_even (by omega)] at hc
  push_cast at hl
  zify; linear_combination h1 - (Nat.fib (2 * j) : ℤ) * hl + hc

theorem fib_even_iff (m : ℕ) : Nat.fib m % 2 = 0 ↔ m % 3 = 0 := by
  have : ∀ r < 3, Nat.fib r % 2 = 0 ↔ r = 0 := by decide
  rw [fib_mod_period (p := 3) (by norm_num) (by decide) (by decide) m, this _ (Nat.mod_lt _ (by norm_num))]

theorem lucSpec_mod2 (m : ℕ) : lucSpec m % 2 = Nat.fib m % 2 := by
  have := lucSpec_add_fib m; omega

theorem lucSpec_mod8 (m : ℕ) : lucSpec m % 8 ≠ 0 ∧ (m % 2 = 0 → lucSpec m % 4 ≠ 0) := by
  have t8 : ∀ r < 12, lucSpec r % 8 ≠ 0 := by decide
  have t4 : ∀ r < 6, r % 2 = 0 → lucSpec r % 4 ≠ 0 := by decide
  rw [lucSpec_mod_period (p := 12) (by norm_num) (by decide) (by decide) m,
    lucSpec_mod_period (m := 4) (p := 6) (by norm_num) (by decide) (by decide) m]
  exact ⟨t8 _ (Nat.mod_lt _ (by norm_num)), fun h => t4 _ (Nat.mod_lt _ (by norm_num)) (by omega)⟩

theorem v2_le_of_not_dvd (x k : ℕ) (hx : x ≠ 0) (h : ¬ 2 ^ (k + 1) ∣ x) : padicValNat 2 x ≤ k := by
  by_contra hc
  exact h ((padicValNat_dvd_iff_le hx).2 (by omega))

theorem fib_ne_zero (m : ℕ) (hm : 1 ≤ m) : Nat.fib m ≠ 0 := by
  have := Nat.fib_pos.2 (by omega : 0 < m); omega

theorem lucSpec_ne_zero (m : ℕ) : lucSpec m ≠ 0 := fun h => (lucSpec_mod8 m).1 (by rw [h])

theorem v2_fib_le (u : ℕ) (hu : u % 2 = 1) : ∀ k, padicValNat 2 (Nat.fib (2 ^ k * u)) ≤ if k = 0 then 1 else k + 2 := by
  intro k
  induction k with
  | zero =>
    simp only [pow_zero, one_mul, if_true]
    apply v2_le_of_not_dvd _ _ (fib_ne_zero u (by omega))
    intro h
    exact fib_odd_mod4 u hu (Nat.mod_eq_zero_of_dvd (by simpa using h))
  | succ k ih =>
    have hpos : 1 ≤ 2 ^ k * u := Nat.mul_pos (Nat.two_pow_pos k) (by omega)
    rw [show 2 ^ (k + 1) * u = 2 * (2 ^ k * u) by rw [pow_succ]; ring, fib_two_mul_luc,
      padicValNat.mul (fib_ne_zero _ hpos) (lucSpec_ne_zero _)]
    simp only [Nat.add_one_ne_zero, if_false]
    obtain ⟨l8, l4⟩ := lucSpec_mod8 (2 ^ k * u)
    rcases Nat.eq_zero_or_pos k with rfl | hk
    · simp only [pow_zero, one_mul, if_true] at ih l8 ⊢
      have : padicValNat 2 (lucSpec u) ≤ 2 :=
        v2_le_of_not_dvd _ _ (lucSpec_ne_zero u) (fun h => l8 (Nat.mod_eq_zero_of_dvd (by simpa using h)))
      omega
    · rw [if_neg (by omega)] at ih
      have heven : 2 ^ k * u % 2 = 0 := by
        obtain ⟨k', rfl⟩ : ∃ k', k = k' + 1 := ⟨k - 1, by omega⟩
        rw [pow_succ, mul_right_comm, Nat.mul_mod_left]
      have : padicValNat 2 (lucSpec (2 ^ k * u)) ≤ 1 :=
        v2_le_of_not_dvd _ _ (lucSpec_ne_zero _) (fun h => l4 heven (Nat.mod_eq_zero_of_dvd (by simpa using h)))
      omega



/-- 3 ∣ j and 2^62 ∣ 2j give j ≥ 3·2^61, so 4j + 1 > 2^64 -/
theorem low_limb_bound (j : ℕ) (hj : 1 ≤ j) (hn : 4 * j + 1 < B) (h3 : 3 ∣ j) (h2 : 2 ^ 62 ∣ 2 * j) : False := by
  have h2' : 2 ^ 61 ∣ j := Nat.dvd_of_mul_dvd_mul_left two_pos (by rwa [← pow_succ'])
  have := Nat.le_of_dvd hj (Nat.Coprime.mul_dvd_of_dvd_of_dvd (Nat.Coprime.pow_right 61 (by decide)) h3 h2')
  -- `omega` does not terminate with a divisibility by 2^61 among the hypotheses
  clear h2 h2'
  rw [B_eq] at hn
  norm_num at this
  omega

/-- mpz/fib_ui.c:36-43 "No proof for this claim": for n ≡ 1 (mod 4), 1 < n < 2^64, the low limb of F(n) is not 1 -/
theorem fib_low_limb_ne_one (n : ℕ) (hn : n < B) (h4 : n % 4 = 1) (h1 : 1 < n) : Nat.fib n % B ≠ 1 := by
  intro hmod
  obtain ⟨j, rfl⟩ : ∃ j, n = 4 * j + 1 := ⟨n / 4, by omega⟩
  have hF0 := fib_ne_zero (2 * j) (by omega)
  have hL0 := lucSpec_ne_zero (2 * j + 1)
  have hv : 64 ≤ padicValNat 2 (Nat.fib (2 * j)) + padicValNat 2 (lucSpec (2 * j + 1)) := by
    rw [fib_four_mul_add_one j, B_eq] at hmod
    rw [← padicValNat.mul hF0 hL0]
    exact (padicValNat_dvd_iff_le (Nat.mul_ne_zero hF0 hL0)).1 (Nat.dvd_of_mod_eq_zero (by norm_num; omega))
  have hFpar := fib_even_iff (2 * j)
  have hLpar : lucSpec (2 * j + 1) % 2 = 0 ↔ (2 * j + 1) % 3 = 0 := by rw [lucSpec_mod2, fib_even_iff]
  by_cases h3 : (2 * j + 1) % 3 = 0
  · -- F(2j) is odd and v₂(L(2j+1)) ≤ 2
    have e0 : padicValNat 2 (Nat.fib (2 * j)) = 0 :=
      padicValNat.eq_zero_of_not_dvd (fun hd => by have := hFpar.1 (Nat.mod_eq_zero_of_dvd hd); omega)
    have : padicValNat 2 (lucSpec (2 * j + 1)) ≤ 2 :=
      v2_le_of_not_dvd _ _ hL0 (fun h => (lucSpec_mod8 _).1 (Nat.mod_eq_zero_of_dvd (by simpa using h)))
    omega
  · -- L(2j+1) is odd, so 2^64 ∣ F(2j); then 3 ∣ j and, with 2j = 2^k u, k ≥ 62
    have e0 : padicValNat 2 (lucSpec (2 * j + 1)) = 0 :=
      padicValNat.eq_zero_of_not_dvd (fun hd => h3 (hLpar.1 (Nat.mod_eq_zero_of_dvd hd)))
    have h3j : (2 * j) % 3 = 0 :=
      hFpar.1 (Nat.mod_eq_zero_of_dvd (by simpa using (padicValNat_dvd_iff_le (n := 1) hF0).2 (by omega)))
    obtain ⟨k, u, hu, hku⟩ := Nat.exists_eq_two_pow_mul_odd (n := 2 * j) (by omega)
    have hb := v2_fib_le u (Nat.odd_iff.mp hu) k
    rw [← hku] at hb
    have hk62 : 62 ≤ k := by split at hb <;> omega
    exact low_limb_bound j (by omega) hn (Nat.dvd_of_mod_eq_zero (by omega))
      (by rw [hku]; exact Dvd.dvd.mul_right (Nat.pow_dvd_pow 2 hk62) u)

end Mpir.Numth
