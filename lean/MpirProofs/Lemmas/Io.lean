/- Helper lemmas for the I/O models (Mpir/Model/Io.lean).  The text part (digits, alphabets, mpz_out_str, mpz_inp_str) models
   the same C text as Mpir/Model/Radix.lean and rests on Lemmas/RadixIo.lean. -/
import MpirProofs.Lemmas.RadixIo
import Mpir.Model.Io
import Mathlib.Tactic.Ring
import Mathlib.Tactic.Linarith
namespace Mpir.Io
open Mpir

/-! ### bytes -/

theorem Bytes_nil : Bytes [] := by intro b hb; cases hb
theorem Bytes_cons {b : Nat} {l : List Nat} : Bytes (b :: l) ↔ b < 256 ∧ Bytes l := by
  unfold Bytes; simp
theorem Bytes_append {a b : List Nat} : Bytes (a ++ b) ↔ Bytes a ∧ Bytes b := by
  unfold Bytes; simp only [List.mem_append]
  constructor
  · intro h; exact ⟨fun x hx => h x (Or.inl hx), fun x hx => h x (Or.inr hx)⟩
  · rintro ⟨h1, h2⟩ x (hx | hx); exact h1 x hx; exact h2 x hx
theorem Bytes_reverse {a : List Nat} : Bytes a.reverse ↔ Bytes a := by unfold Bytes; simp
theorem Bytes_take {l : List Nat} (h : Bytes l) (n : Nat) : Bytes (l.take n) :=
  fun x hx => h x (List.mem_of_mem_take hx)
theorem Bytes_drop {l : List Nat} (h : Bytes l) (n : Nat) : Bytes (l.drop n) :=
  fun x hx => h x (List.mem_of_mem_drop hx)
theorem Bytes_replicate_zero (n : Nat) : Bytes (List.replicate n 0) := by
  intro b hb; rw [List.mem_replicate] at hb; omega

@[simp] theorem leBytes_length (n v : Nat) : (leBytes n v).length = n := by
  induction n generalizing v with
  | zero => rfl
  | succ n ih => simp [leBytes, ih]

theorem leBytes_bytes (n v : Nat) : Bytes (leBytes n v) := by
  induction n generalizing v with
  | zero => exact Bytes_nil
  | succ n ih => exact Bytes_cons.mpr ⟨Nat.mod_lt _ (by decide), ih _⟩

@[simp] theorem beBytes_length (n v : Nat) : (beBytes n v).length = n := by simp [beBytes]
theorem beBytes_bytes (n v : Nat) : Bytes (beBytes n v) := Bytes_reverse.mpr (leBytes_bytes n v)

@[simp] theorem leVal_nil : leVal [] = 0 := rfl
@[simp] theorem leVal_cons (b : Nat) (l : List Nat) : leVal (b :: l) = b + 256 * leVal l := rfl

theorem leVal_append (a b : List Nat) : leVal (a ++ b) = leVal a + 256 ^ a.length * leVal b := by
  induction a with
  | nil => simp
  | cons x xs ih => simp only [List.cons_append, leVal_cons, ih, List.length_cons, pow_succ]; ring

theorem leVal_lt {l : List Nat} (h : Bytes l) : leVal l < 256 ^ l.length := by
  induction l with
  | nil => simp
  | cons x xs ih =>
    have ⟨hx, hxs⟩ := Bytes_cons.mp h
    have := ih hxs
    simp only [leVal_cons, List.length_cons, pow_succ]
    omega

theorem leVal_leBytes (n v : Nat) : leVal (leBytes n v) = v % 256 ^ n := by
  induction n generalizing v with
  | zero => simp [leBytes, Nat.mod_one]
  | succ n ih =>
    simp only [leBytes, leVal_cons, ih, pow_succ]
    rw [Nat.mul_comm (256 ^ n) 256, Nat.mod_mul]

theorem leBytes_leVal {l : List Nat} (h : Bytes l) : leBytes l.length (leVal l) = l := by
  induction l with
  | nil => rfl
  | cons x xs ih =>
    have ⟨hx, hxs⟩ := Bytes_cons.mp h
    simp only [List.length_cons, leBytes, leVal_cons]
    have h1 : (x + 256 * leVal xs) % 256 = x := by omega
    have h2 : (x + 256 * leVal xs) / 256 = leVal xs := by omega
    rw [h1, h2, ih hxs]

theorem leBytes_add (n m v : Nat) : leBytes (n + m) v = leBytes n v ++ leBytes m (v / 256 ^ n) := by
  induction n generalizing v with
  | zero => simp [leBytes]
  | succ n ih =>
    rw [Nat.succ_add]
    simp only [leBytes, List.cons_append, ih, pow_succ]
    rw [Nat.div_div_eq_div_mul, Nat.mul_comm 256]

theorem leBytes_zero (n : Nat) : leBytes n 0 = List.replicate n 0 := by
  induction n with
  | zero => rfl
  | succ n ih => simp [leBytes, ih, List.replicate_succ]

theorem leBytes_of_lt {n v : Nat} (m : Nat) (h : v < 256 ^ n) :
    leBytes (n + m) v = leBytes n v ++ List.replicate m 0 := by
  rw [leBytes_add, Nat.div_eq_of_lt h, leBytes_zero]

theorem leVal_replicate_zero (n : Nat) : leVal (List.replicate n 0) = 0 := by
  induction n with
  | zero => rfl
  | succ n ih => simp [List.replicate_succ, ih]

theorem beVal_append (a b : List Nat) : beVal (a ++ b) = beVal a * 256 ^ b.length + beVal b := by
  simp only [beVal, List.reverse_append, leVal_append, List.length_reverse]; ring

theorem beVal_replicate_zero (n : Nat) : beVal (List.replicate n 0) = 0 := by
  simp [beVal, leVal_replicate_zero]

theorem beVal_beBytes (n v : Nat) : beVal (beBytes n v) = v % 256 ^ n := by
  simp [beVal, beBytes, leVal_leBytes]

theorem beVal_lt {l : List Nat} (h : Bytes l) : beVal l < 256 ^ l.length := by
  have := leVal_lt (Bytes_reverse.mpr h); simpa [beVal] using this

theorem beBytes_of_lt {n v : Nat} (m : Nat) (h : v < 256 ^ n) :
    beBytes (n + m) v = List.replicate m 0 ++ beBytes n v := by
  simp [beBytes, leBytes_of_lt m h]

/-! ### bit length -/

theorem bitLen_zero : bitLen 0 = 0 := by simp [bitLen]

theorem lt_two_pow_bitLen (v : Nat) : v < 2 ^ bitLen v := by
  unfold bitLen; split
  · subst_vars; simp
  · exact Nat.lt_log2_self

theorem two_pow_le_of_bitLen {v : Nat} (h : v ≠ 0) : 2 ^ (bitLen v - 1) ≤ v := by
  unfold bitLen; simp only [h, if_false, Nat.add_sub_cancel]; exact Nat.log2_self_le h

theorem bitLen_pos {v : Nat} (h : v ≠ 0) : 0 < bitLen v := by unfold bitLen; simp [h]

theorem bitLen_le_iff {v k : Nat} : bitLen v ≤ k ↔ v < 2 ^ k := bitCount_le_iff v k

theorem lt_pow_byteLen (v : Nat) : v < 256 ^ byteLen v := by
  have h := lt_two_pow_bitLen v
  have : (256 : Nat) ^ byteLen v = 2 ^ (8 * byteLen v) := by
    rw [show (256 : Nat) = 2 ^ 8 by norm_num, ← pow_mul]
  rw [this]
  refine lt_of_lt_of_le h (Nat.pow_le_pow_right (by decide) ?_)
  unfold byteLen; omega

theorem byteLen_zero : byteLen 0 = 0 := by simp [byteLen, bitLen_zero]

/-! ### limb memory images -/

theorem B_eq_256 : B = 256 ^ 8 := by unfold B; norm_num

@[simp] theorem limbsToBytes_nil : limbsToBytes [] = [] := rfl
@[simp] theorem limbsToBytes_cons (x : Nat) (xs : List Nat) :
    limbsToBytes (x :: xs) = leBytes 8 x ++ limbsToBytes xs := by simp [limbsToBytes]
theorem limbsToBytes_append (a b : List Nat) : limbsToBytes (a ++ b) = limbsToBytes a ++ limbsToBytes b := by
  simp [limbsToBytes]
@[simp] theorem limbsToBytes_length (d : List Nat) : (limbsToBytes d).length = 8 * d.length := by
  induction d with
  | nil => rfl
  | cons x xs ih => simp [ih]; omega
theorem limbsToBytes_bytes (d : List Nat) : Bytes (limbsToBytes d) := by
  induction d with
  | nil => exact Bytes_nil
  | cons x xs ih => rw [limbsToBytes_cons]; exact Bytes_append.mpr ⟨leBytes_bytes _ _, ih⟩

theorem bytesToLimbs_append8 {a : List Nat} (ha : a.length = 8) (b : List Nat) :
    bytesToLimbs (a ++ b) = leVal a :: bytesToLimbs b := by
  match a, ha with
  | [b0, b1, b2, b3, b4, b5, b6, b7], _ => simp [bytesToLimbs]

theorem bytesToLimbs_nil : bytesToLimbs [] = [] := by simp [bytesToLimbs]

theorem bytesToLimbs_limbsToBytes {d : List Nat} (h : Limbs d) : bytesToLimbs (limbsToBytes d) = d := by
  induction d with
  | nil => simp [bytesToLimbs_nil]
  | cons x xs ih =>
    have ⟨hx, hxs⟩ := Limbs_cons.mp h
    rw [limbsToBytes_cons, bytesToLimbs_append8 (by simp), ih hxs, leVal_leBytes, ← B_eq_256, Nat.mod_eq_of_lt hx]

theorem bytes8_induction {P : List Nat → Prop} (nil : P [])
    (step : ∀ (a b : List Nat) (k : Nat), a.length = 8 → b.length = 8 * k → P b → P (a ++ b)) :
    ∀ (k : Nat) (m : List Nat), m.length = 8 * k → P m := by
  intro k
  induction k with
  | zero => intro m hm; rw [List.eq_nil_of_length_eq_zero (by omega : m.length = 0)]; exact nil
  | succ k ih =>
    intro m hm
    have hd : (m.drop 8).length = 8 * k := by simp; omega
    rw [← List.take_append_drop 8 m]
    exact step _ _ k (by simp; omega) hd (ih _ hd)

theorem bytesToLimbs_append (k : Nat) (a b : List Nat) (ha : a.length = 8 * k) :
    bytesToLimbs (a ++ b) = bytesToLimbs a ++ bytesToLimbs b := by
  refine bytes8_induction (P := fun a => bytesToLimbs (a ++ b) = bytesToLimbs a ++ bytesToLimbs b)
    (by simp [bytesToLimbs_nil]) (fun a' b' _ h8 _ ih => ?_) k a ha
  rw [List.append_assoc, bytesToLimbs_append8 h8, bytesToLimbs_append8 h8, ih, List.cons_append]

theorem bytesToLimbs_length (k : Nat) (a : List Nat) (ha : a.length = 8 * k) : (bytesToLimbs a).length = k := by
  have := bytes8_induction (P := fun a => 8 * (bytesToLimbs a).length = a.length) (by simp [bytesToLimbs_nil])
    (fun a b _ h8 _ ih => by rw [bytesToLimbs_append8 h8, List.length_cons, List.length_append]; omega) k a ha
  omega

theorem Limbs_bytesToLimbs (k : Nat) (a : List Nat) (ha : a.length = 8 * k) : Bytes a → Limbs (bytesToLimbs a) := by
  refine bytes8_induction (P := fun a => Bytes a → Limbs (bytesToLimbs a))
    (fun _ => by simp [bytesToLimbs_nil, Limbs_nil]) (fun a b _ h8 _ ih hab => ?_) k a ha
  obtain ⟨hba, hbb⟩ := Bytes_append.mp hab
  rw [bytesToLimbs_append8 h8]
  refine Limbs_cons.mpr ⟨?_, ih hbb⟩
  have := leVal_lt hba; rw [h8] at this; rw [B_eq_256]; exact this

theorem bswap_leVal {a : List Nat} (ha : a.length = 8) (hb : Bytes a) : bswap (leVal a) = beVal a := by
  unfold bswap; rw [← ha, leBytes_leVal hb]

theorem val_reverse_bswap (k : Nat) (m : List Nat) (hm : m.length = 8 * k) :
    Bytes m → val ((bytesToLimbs m).map bswap).reverse = beVal m := by
  refine bytes8_induction (P := fun m => Bytes m → val ((bytesToLimbs m).map bswap).reverse = beVal m)
    (fun _ => by simp [bytesToLimbs_nil, beVal]) (fun a b k h8 hk ih hab => ?_) k m hm
  obtain ⟨hba, hbb⟩ := Bytes_append.mp hab
  rw [bytesToLimbs_append8 h8, List.map_cons, List.reverse_cons, val_snoc, ih hbb, bswap_leVal h8 hba,
    List.length_reverse, List.length_map, bytesToLimbs_length k b hk, beVal_append, hk, B_eq_256, ← pow_mul]
  ring

theorem revSwap_eq : ∀ (n : Nat) (l : List Nat), l.length = n → revSwap l = (l.map bswap).reverse := by
  intro n
  induction n using Nat.strong_induction_on with
  | _ n ih =>
    intro l hl
    match l, hl with
    | [], _ => simp [revSwap]
    | [x], _ => simp [revSwap]
    | x :: y :: r, hl =>
      rw [revSwap]
      have hne : (y :: r) ≠ [] := by simp
      have hlen : ((y :: r).dropLast).length < n := by simp at hl ⊢; omega
      rw [ih _ hlen _ rfl]
      conv_rhs => rw [List.map_cons, List.reverse_cons, ← List.dropLast_concat_getLast hne, List.map_append,
        List.reverse_append]
      simp

theorem Limbs_map_bswap (l : List Nat) : Limbs (l.map bswap) := by
  intro x hx
  rw [List.mem_map] at hx
  obtain ⟨y, _, rfl⟩ := hx
  unfold bswap
  have := beVal_lt (Bytes_reverse.mpr (leBytes_bytes 8 y))
  have h2 := beVal_lt (leBytes_bytes 8 y)
  simp at h2; rw [B_eq_256]; exact h2

/-! ### normalisation -/

/-- non-empty lists end in a non-zero limb -/
def TopNZ (l : List Nat) : Prop := l ≠ [] → l.getLastD 0 ≠ 0

theorem normalize_nil : normalize [] = [] := rfl

theorem topNZ_iff_normalized {l : List Nat} : TopNZ l ↔ Normalized l := by
  unfold TopNZ Normalized
  rw [List.getLastD_eq_getLast?]
  cases h : l.getLast? with
  | none => simp [List.getLast?_eq_none_iff.mp h]
  | some x =>
    have hne : l ≠ [] := fun e => by rw [e] at h; simp at h
    simp [hne]

theorem TopNZ_normalize (l : List Nat) : TopNZ (normalize l) := topNZ_iff_normalized.mpr (normalized_normalize l)

theorem normalize_prefix (l : List Nat) : l.take (normSize l) = normalize l := take_normalize_length l

theorem normSize_le (l : List Nat) : normSize l ≤ l.length := normalize_length_le l

/-! ### natLimbs -/

theorem TopNZ_natLimbs (v : Nat) : TopNZ (natLimbs v) := topNZ_iff_normalized.mpr (normalized_natLimbs v)

theorem natLimbs_spec (v : Nat) : val (natLimbs v) = v ∧ Limbs (natLimbs v) ∧ TopNZ (natLimbs v) :=
  ⟨val_natLimbs_eq v, Limbs_natLimbs v, TopNZ_natLimbs v⟩

theorem natLimbs_eq_nil {v : Nat} : natLimbs v = [] ↔ v = 0 := Mpir.natLimbs_eq_nil

/-! ### raw output -/

theorem leBytes_add_mul (n x k : Nat) : leBytes n (x + 256 ^ n * k) = leBytes n x := by
  induction n generalizing x k with
  | zero => rfl
  | succ n ih =>
    simp only [leBytes, pow_succ]
    have h1 : (x + 256 ^ n * 256 * k) % 256 = x % 256 := by
      rw [Nat.mul_assoc, Nat.mul_comm 256 k, ← Nat.mul_assoc]; exact Nat.add_mul_mod_self_right _ _ _
    have h2 : (x + 256 ^ n * 256 * k) / 256 = x / 256 + 256 ^ n * k := by
      rw [Nat.mul_assoc, Nat.mul_comm 256 k, ← Nat.mul_assoc, Nat.add_mul_div_right _ _ (by decide)]
    rw [h1, h2, ih]

theorem beBytes_cons_limb {x : Nat} (xs : List Nat) (hx : x < B) :
    beBytes (8 * (xs.length + 1)) (x + B * val xs) = beBytes (8 * xs.length) (val xs) ++ beBytes 8 x := by
  unfold beBytes
  have : 8 * (xs.length + 1) = 8 + 8 * xs.length := by ring
  rw [this, leBytes_add, List.reverse_append]
  congr 2
  · rw [← B_eq_256, Nat.add_mul_div_left _ _ B_pos, Nat.div_eq_of_lt hx, Nat.zero_add]
  · rw [B_eq_256, leBytes_add_mul]

/-- the `HTON_LIMB_STORE` loop writes the big-endian image of the value -/
theorem foldl_hton : ∀ (l : List Nat) (acc : List Nat), Limbs l →
    l.foldl (fun buf x => beBytes 8 x ++ buf) acc = beBytes (8 * l.length) (val l) ++ acc := by
  intro l
  induction l with
  | nil => intro acc _; simp [beBytes, leBytes]
  | cons x xs ih =>
    intro acc h
    have ⟨hx, hxs⟩ := Limbs_cons.mp h
    rw [List.foldl_cons, ih _ hxs, List.length_cons, val_cons, beBytes_cons_limb xs hx, List.append_assoc]

theorem getLastD_take_getD {d : List Nat} {n : Nat} (hn : 0 < n) (h : n ≤ d.length) :
    (d.take n).getLastD 0 = d.getD (n - 1) 0 := by
  rw [List.getLastD_eq_getLast?, List.getLast?_eq_getElem?, List.getD_eq_getElem?_getD]
  simp only [List.length_take, Nat.min_eq_left h, List.getElem?_take]
  rw [if_pos (by omega)]

theorem bitLen_val_top {l : List Nat} (hL : Limbs l) (hne : l ≠ []) (ht : TopNZ l) :
    bitLen (val l) = 64 * (l.length - 1) + bitLen (l.getLastD 0) ∧
    0 < bitLen (l.getLastD 0) ∧ bitLen (l.getLastD 0) ≤ 64 := by
  have hn := topNZ_iff_normalized.mp ht
  have ht0 := ht hne
  have e : l.getD (l.length - 1) 0 = l.getLastD 0 := by
    rw [List.getLastD_eq_getLast?, List.getLast?_eq_getElem?, List.getD_eq_getElem?_getD]
  have hlog := log2_val hL hne hn
  rw [e] at hlog
  refine ⟨?_, bitLen_pos ht0, bitLen_le_iff.mpr (e ▸ getD_lt hL _)⟩
  unfold bitLen
  rw [if_neg (Nat.ne_of_gt (hn.pos hne)), if_neg ht0, hlog]; omega

theorem wf_limbs {z : Mpz} (h : z.WF) (hs : z.size ≠ 0) :
    Limbs z.limbs ∧ z.limbs ≠ [] ∧ TopNZ z.limbs ∧ z.limbs.length = z.abssize := by
  obtain ⟨hlen, hle, hlimbs, htop⟩ := h
  have hn : 0 < z.abssize := by unfold Mpz.abssize; omega
  have hl : z.limbs.length = z.abssize := by rw [Mpz.limbs, List.length_take]; omega
  refine ⟨Limbs_take hlimbs _, fun he => ?_, fun _ => ?_, hl⟩
  · rw [he, List.length_nil] at hl; omega
  · rw [Mpz.limbs, getLastD_take_getD hn (by omega)]; exact htop hs

theorem Mpz.natAbs_toInt (z : Mpz) : z.toInt.natAbs = val z.limbs := by unfold Mpz.toInt; split <;> omega

theorem Mpz.of_size_zero {z : Mpz} (h : z.size = 0) : z.limbs = [] ∧ z.toInt = 0 := by
  simp [Mpz.toInt, Mpz.limbs, Mpz.abssize, h]

theorem out_raw_m_eq (z : Mpz) (h : z.WF) : out_raw_m z = outRawBytes z.toInt := by
  by_cases hs : z.size = 0
  · rw [(Mpz.of_size_zero hs).2]
    simp [out_raw_m, outRawBytes, hs, byteLen_zero, beBytes, leBytes]
  · obtain ⟨hL, hne, htop, hlen⟩ := wf_limbs h hs
    obtain ⟨hbl, hbt, hbt2⟩ := bitLen_val_top hL hne htop
    have hn : z.size.natAbs = z.limbs.length := hlen.symm
    have hn1 : 0 < z.limbs.length := List.length_pos_iff.mpr hne
    have hnat := z.natAbs_toInt
    have hneg : z.toInt < 0 ↔ z.size < 0 := by
      have := (topNZ_iff_normalized.mp htop).pos hne
      unfold Mpz.toInt; split <;> omega
    -- the byte count after the high zero bytes of the top limb are stripped
    have hbyte : byteLen (val z.limbs) = 8 * z.limbs.length - (64 - bitLen (z.limbs.getLastD 0)) / 8 := by
      unfold byteLen; rw [hbl]; omega
    have hdrop : (beBytes (8 * z.limbs.length) (val z.limbs)).drop ((64 - bitLen (z.limbs.getLastD 0)) / 8)
        = beBytes (byteLen (val z.limbs)) (val z.limbs) := by
      have e : 8 * z.limbs.length = byteLen (val z.limbs) + (64 - bitLen (z.limbs.getLastD 0)) / 8 := by
        rw [hbyte]; omega
      rw [e, beBytes_of_lt _ (lt_pow_byteLen _)]
      simp
    unfold out_raw_m outRawBytes
    have hb : (z.size.natAbs * 64 + 7) / 8 = 8 * z.limbs.length := by rw [hn]; omega
    have hxp : z.d.take z.size.natAbs = z.limbs := rfl
    have hne0 : 8 * z.limbs.length ≠ 0 := by omega
    simp only [hb, hxp, foldl_hton _ _ hL, List.append_nil, hnat, hne0, ne_eq, not_false_eq_true, if_true, clz,
      hdrop, ← hbyte]
    by_cases hsz : z.size < 0
    · rw [if_neg (by omega), if_pos (hneg.mpr hsz)]
    · rw [if_pos (by omega), if_neg (mt hneg.mp hsz)]

/-! ### raw input -/

theorem fread_ok {r : List Nat} {n : Nat} (h : n ≤ r.length) : fread r n = (true, r.take n, r.drop n) := by
  simp [fread, h]
theorem fread_short {r : List Nat} {n : Nat} (h : r.length < n) : fread r n = (false, r, []) := by
  have : ¬ n ≤ r.length := by omega
  simp [fread, this]

theorem limbsToBytes_drop (d : List Nat) (k : Nat) : (limbsToBytes d).drop (8 * k) = limbsToBytes (d.drop k) := by
  induction k generalizing d with
  | zero => simp
  | succ k ih =>
    cases d with
    | nil => simp
    | cons x xs =>
      rw [limbsToBytes_cons, List.drop_succ_cons, ← ih xs]
      have : 8 * (k + 1) = (leBytes 8 x).length + 8 * k := by simp; ring
      rw [this, List.drop_append]
      simp

theorem limbsToBytes_take (d : List Nat) (k : Nat) : (limbsToBytes d).take (8 * k) = limbsToBytes (d.take k) := by
  induction k generalizing d with
  | zero => simp
  | succ k ih =>
    cases d with
    | nil => simp
    | cons x xs =>
      rw [limbsToBytes_cons, List.take_succ_cons, limbsToBytes_cons, ← ih xs]
      have : 8 * (k + 1) = (leBytes 8 x).length + 8 * k := by simp; ring
      rw [this, List.take_append]
      simp
      exact List.take_of_length_le (by simp)

theorem realloc_spec {x : Mpz} (hx : x.WF) (n : Nat) {junk : Nat → Nat} (hj : ∀ i, junk i < B) :
    (mpz_realloc x n junk).d.length = (mpz_realloc x n junk).alloc ∧ n ≤ (mpz_realloc x n junk).alloc ∧
    Limbs (mpz_realloc x n junk).d := by
  obtain ⟨hlen, hle, hlimbs, _⟩ := hx
  unfold mpz_realloc
  split
  · refine ⟨by simp [hlen]; omega, by simp, ?_⟩
    simp only
    refine Limbs_append.mpr ⟨hlimbs, ?_⟩
    intro y hy; rw [List.mem_map] at hy; obtain ⟨i, _, rfl⟩ := hy; exact hj i
  · exact ⟨hlen, by omega, hlimbs⟩

theorem Limbs_set {d : List Nat} (h : Limbs d) (i v : Nat) (hv : v < B) : Limbs (d.set i v) :=
  Mpir.Limbs_set h i v hv

theorem overwrite_length {m data : List Nat} {off : Nat} (h : off + data.length ≤ m.length) :
    (overwrite m off data).length = m.length := by
  simp [overwrite]; omega

theorem overwrite_bytes {m data : List Nat} {off : Nat} (hm : Bytes m) (hd : Bytes data) :
    Bytes (overwrite m off data) :=
  Bytes_append.mpr ⟨Bytes_append.mpr ⟨Bytes_take hm _, hd⟩, Bytes_drop hm _⟩

theorem mem_full {d1 : List Nat} (hL : Limbs d1) {N c : Nat} (hN : N = (c * 8 + 63) / 64) (hc : 0 < c)
    (hA : N ≤ d1.length) {data : List Nat} (hlen : data.length = c) :
    (bytesToLimbs (overwrite (limbsToBytes (d1.set 0 0)) (8 * N - c) data)).take N
        = bytesToLimbs (List.replicate (8 * N - c) 0 ++ data) ∧
    (bytesToLimbs (overwrite (limbsToBytes (d1.set 0 0)) (8 * N - c) data)).drop N = d1.drop N := by
  have hN1 : 1 ≤ N := by omega
  have hoff : 8 * N - c < 8 := by omega
  cases d1 with
  | nil => simp at hA; omega
  | cons a t =>
    have ht : Limbs t := (Limbs_cons.mp hL).2
    have hdropL : Limbs ((a :: t).drop N) := Limbs_drop hL N
    have hm : limbsToBytes ((a :: t).set 0 0) = List.replicate 8 0 ++ limbsToBytes t := by
      simp [leBytes_zero]
    have h1 : (limbsToBytes ((a :: t).set 0 0)).take (8 * N - c) = List.replicate (8 * N - c) 0 := by
      rw [hm, List.take_append_of_le_length (by simp; omega), List.take_replicate]
      congr 1; omega
    have h2 : (limbsToBytes ((a :: t).set 0 0)).drop (8 * N - c + data.length) = limbsToBytes ((a :: t).drop N) := by
      have e : 8 * N - c + data.length = 8 * N := by omega
      rw [e, limbsToBytes_drop]
      congr 1
      obtain ⟨N', rfl⟩ : ∃ N', N = N' + 1 := ⟨N - 1, by omega⟩
      simp
    have hF : (List.replicate (8 * N - c) 0 ++ data).length = 8 * N := by simp; omega
    have hov : overwrite (limbsToBytes ((a :: t).set 0 0)) (8 * N - c) data
        = (List.replicate (8 * N - c) 0 ++ data) ++ limbsToBytes ((a :: t).drop N) := by
      unfold overwrite; rw [h1, h2]
    rw [hov, bytesToLimbs_append N _ _ hF, bytesToLimbs_limbsToBytes hdropL]
    have hl := bytesToLimbs_length N _ hF
    constructor
    · rw [List.take_append_of_le_length (by omega), List.take_of_length_le (by omega)]
    · rw [List.drop_append_of_le_length (by omega), List.drop_of_length_le (by omega)]; simp

theorem mem_any {d1 : List Nat} {off : Nat} {data : List Nat} (hd : Bytes data)
    (h : off + data.length ≤ 8 * d1.length) :
    (bytesToLimbs (overwrite (limbsToBytes d1) off data)).length = d1.length ∧
    Limbs (bytesToLimbs (overwrite (limbsToBytes d1) off data)) := by
  have hl : (overwrite (limbsToBytes d1) off data).length = 8 * d1.length := by
    rw [overwrite_length (by simpa using h)]; simp
  exact ⟨bytesToLimbs_length _ _ hl, Limbs_bytesToLimbs _ _ hl (overwrite_bytes (limbsToBytes_bytes _) hd)⟩

theorem normalize_in_place (xp rest : List Nat) :
    normSize xp ≤ xp.length ∧ (xp ++ rest).take (normSize xp) = normalize xp ∧
    (normSize xp ≠ 0 → (xp ++ rest).getD (normSize xp - 1) 0 ≠ 0) := by
  have hns := normSize_le xp
  have htop := TopNZ_normalize xp
  have hpre : (xp ++ rest).take (normSize xp) = normalize xp := by
    rw [List.take_append_of_le_length hns, normalize_prefix]
  refine ⟨hns, hpre, fun hne => ?_⟩
  rw [← getLastD_take_getD (by omega) (by simp; omega), hpre]
  exact htop (fun he => hne (by rw [normSize, he]; rfl))

/-- an object whose array starts with `xp` and whose size field is `±normSize xp` (MPN_NORMALIZE, then `SIZ = ±n`) -/
theorem wf_normalized_in_place (xp rest : List Nat) (alloc : Nat) (s : Int) (hs : s.natAbs = normSize xp)
    (hlen : (xp ++ rest).length = alloc) (hL : Limbs (xp ++ rest)) :
    (⟨alloc, s, xp ++ rest⟩ : Mpz).WF ∧ (⟨alloc, s, xp ++ rest⟩ : Mpz).limbs = normalize xp ∧
    (⟨alloc, s, xp ++ rest⟩ : Mpz).toInt = if s < 0 then -(val xp : Int) else val xp := by
  obtain ⟨hns, hpre, htopnz⟩ := normalize_in_place xp rest
  have hl : (⟨alloc, s, xp ++ rest⟩ : Mpz).limbs = normalize xp := by
    simp only [Mpz.limbs, Mpz.abssize, hs]; exact hpre
  refine ⟨⟨hlen, ?_, hL, fun hne => ?_⟩, hl, ?_⟩
  · simp only [Mpz.abssize, hs]; rw [← hlen, List.length_append]; omega
  · simp only [Mpz.abssize, hs]; exact htopnz (by simp only at hne; omega)
  · simp only [Mpz.toInt, hl, val_normalize]

theorem inp_raw_m_spec (x : Mpz) (N : Nat) (m : List Nat) (hm : m.length = 8 * N) (hb : Bytes m)
    (hd : x.d.take N = bytesToLimbs m) (hlen : x.d.length = x.alloc) (hN : N ≤ x.alloc) (hL : Limbs x.d)
    (w ws : Nat) :
    (inp_raw_m x ⟨w, ws, N⟩).WF ∧
    (inp_raw_m x ⟨w, ws, N⟩).toInt = (if x.size ≥ 0 then (beVal m : Int) else -(beVal m : Int)) := by
  have hbl := bytesToLimbs_length N m hm
  set xp := revSwap (x.d.take N) with hxp
  have hxp' : xp = ((bytesToLimbs m).map bswap).reverse := by rw [hxp, hd]; exact revSwap_eq _ _ rfl
  have hxl : xp.length = N := by rw [hxp']; simp [hbl]
  have hxL : Limbs xp := by rw [hxp']; exact Limbs_reverse (Limbs_map_bswap _)
  have hxv : val xp = beVal m := by rw [hxp']; exact val_reverse_bswap N m hm hb
  unfold inp_raw_m
  simp only [← hxp]
  obtain ⟨wf, _, ti⟩ := wf_normalized_in_place xp (x.d.drop N) x.alloc
    (if x.size ≥ 0 then (normSize xp : Int) else -(normSize xp : Int)) (by split <;> simp)
    (by simp [hxl]; omega) (Limbs_append.mpr ⟨hxL, Limbs_drop hL _⟩)
  refine ⟨wf, ti.trans ?_⟩
  rw [hxv]
  by_cases hs : x.size ≥ 0
  · simp only [hs, if_true]; rw [if_neg (by omega)]
  · simp only [hs, if_false]
    by_cases h0 : normSize xp = 0
    · have : val xp = 0 := by
        rw [← val_normalize]; unfold normSize at h0; rw [List.eq_nil_of_length_eq_zero h0]; rfl
      rw [← hxv, this]; simp
    · rw [if_pos (by omega)]

/-- limbs announced by a header -/
def rawN (h : List Nat) : Nat := ((csizeOf h).natAbs * 8 + 63) / 64
/-- the size field set from the header before the data is read -/
def rawSgn (h : List Nat) : Int := if csizeOf h ≥ 0 then (rawN h : Int) else -(rawN h : Int)
/-- the limb array after `data` has been stored into the reallocated destination -/
def rawMem (x : Mpz) (h : List Nat) (junk : Nat → Nat) (data : List Nat) : List Nat :=
  bytesToLimbs (overwrite (limbsToBytes ((mpz_realloc x (rawN h) junk).d.set 0 0))
    (8 * rawN h - (csizeOf h).natAbs) data)

theorem inp_raw_p_zero (x : Mpz) (h : List Nat) (junk : Nat → Nat) (hc : (csizeOf h).natAbs = 0) :
    inp_raw_p x h junk = ({ x with size := 0 }, ⟨0, 0, 0⟩) := by
  have : csizeOf h = 0 := by omega
  simp [inp_raw_p, this]

theorem inp_raw_p_pos (x : Mpz) (h : List Nat) (junk : Nat → Nat) (hc : (csizeOf h).natAbs ≠ 0) :
    inp_raw_p x h junk =
      (⟨(mpz_realloc x (rawN h) junk).alloc, rawSgn h, (mpz_realloc x (rawN h) junk).d.set 0 0⟩,
       ⟨8 * rawN h - (csizeOf h).natAbs, (csizeOf h).natAbs, rawN h⟩) := by
  have hN : ((csizeOf h).natAbs * 8 + 63) / 64 ≠ 0 := by omega
  simp [inp_raw_p, hN, rawN, rawSgn]

theorem inp_raw_rd_short_hdr (fixed : Bool) (x : Mpz) (r : List Nat) (junk : Nat → Nat) (h : r.length < 4) :
    inp_raw_rd fixed x r junk = (0, x, []) := by
  simp [inp_raw_rd, fread_short h]

theorem inp_raw_rd_zero (fixed : Bool) (x : Mpz) (r : List Nat) (junk : Nat → Nat) (h4 : 4 ≤ r.length)
    (hc : (csizeOf (r.take 4)).natAbs = 0) :
    inp_raw_rd fixed x r junk = (4, { x with size := 0 }, r.drop 4) := by
  simp [inp_raw_rd, fread_ok h4, inp_raw_p_zero x _ junk hc]

theorem inp_raw_rd_full (fixed : Bool) (x : Mpz) (r : List Nat) (junk : Nat → Nat) (h4 : 4 ≤ r.length)
    (hc : (csizeOf (r.take 4)).natAbs ≠ 0) (hfull : 4 + (csizeOf (r.take 4)).natAbs ≤ r.length) :
    inp_raw_rd fixed x r junk =
      ((csizeOf (r.take 4)).natAbs + 4,
       inp_raw_m ⟨(mpz_realloc x (rawN (r.take 4)) junk).alloc, rawSgn (r.take 4),
                  rawMem x (r.take 4) junk ((r.drop 4).take (csizeOf (r.take 4)).natAbs)⟩
         ⟨8 * rawN (r.take 4) - (csizeOf (r.take 4)).natAbs, (csizeOf (r.take 4)).natAbs, rawN (r.take 4)⟩,
       (r.drop 4).drop (csizeOf (r.take 4)).natAbs) := by
  have hfr : fread (r.drop 4) (csizeOf (r.take 4)).natAbs =
      (true, (r.drop 4).take (csizeOf (r.take 4)).natAbs, (r.drop 4).drop (csizeOf (r.take 4)).natAbs) :=
    fread_ok (by simp; omega)
  simp [inp_raw_rd, fread_ok h4, inp_raw_p_pos x _ junk hc, hc, hfr, rawMem]

theorem inp_raw_rd_short_data (fixed : Bool) (x : Mpz) (r : List Nat) (junk : Nat → Nat) (h4 : 4 ≤ r.length)
    (hc : (csizeOf (r.take 4)).natAbs ≠ 0) (hshort : ¬ 4 + (csizeOf (r.take 4)).natAbs ≤ r.length) :
    inp_raw_rd fixed x r junk =
      (0, ⟨(mpz_realloc x (rawN (r.take 4)) junk).alloc, if fixed then 0 else rawSgn (r.take 4),
           rawMem x (r.take 4) junk (r.drop 4)⟩, []) := by
  have hfr : fread (r.drop 4) (csizeOf (r.take 4)).natAbs = (false, r.drop 4, []) :=
    fread_short (by simp; omega)
  cases fixed <;> simp [inp_raw_rd, fread_ok h4, inp_raw_p_pos x _ junk hc, hc, hfr, rawMem]

/-- full functional description of `mpz_inp_raw` (repaired code) on an arbitrary byte stream -/
theorem inp_raw_rd_spec (x : Mpz) (hx : x.WF) (r : List Nat) (hr : Bytes r) (junk : Nat → Nat)
    (hj : ∀ i, junk i < B) :
    (inp_raw_rd true x r junk).2.1.WF ∧
    (if 4 ≤ r.length ∧ 4 + (csizeOf (r.take 4)).natAbs ≤ r.length then
       (inp_raw_rd true x r junk).1 = (csizeOf (r.take 4)).natAbs + 4 ∧
       (inp_raw_rd true x r junk).2.2 = r.drop (4 + (csizeOf (r.take 4)).natAbs) ∧
       (inp_raw_rd true x r junk).2.1.toInt =
         (if csizeOf (r.take 4) ≥ 0 then (beVal ((r.drop 4).take (csizeOf (r.take 4)).natAbs) : Int)
          else -(beVal ((r.drop 4).take (csizeOf (r.take 4)).natAbs) : Int))
     else (inp_raw_rd true x r junk).1 = 0 ∧ (inp_raw_rd true x r junk).2.2 = []) := by
  by_cases h4 : 4 ≤ r.length
  · by_cases hc0 : (csizeOf (r.take 4)).natAbs = 0
    · rw [inp_raw_rd_zero true x r junk h4 hc0]
      obtain ⟨h1, h2, h3, _⟩ := hx
      refine ⟨⟨h1, by simp [Mpz.abssize], h3, by simp⟩, ?_⟩
      have : csizeOf (r.take 4) = 0 := by omega
      simp [h4, this, Mpz.toInt, Mpz.limbs, Mpz.abssize, beVal]
    · have hNdef : rawN (r.take 4) = ((csizeOf (r.take 4)).natAbs * 8 + 63) / 64 := rfl
      generalize hc : (csizeOf (r.take 4)).natAbs = c at hc0 hNdef ⊢
      generalize hN : rawN (r.take 4) = N at hNdef
      obtain ⟨ra, rn, rl⟩ := realloc_spec hx N hj
      have hN1 : 1 ≤ N := by omega
      have hsetlen : ((mpz_realloc x N junk).d.set 0 0).length = (mpz_realloc x N junk).alloc := by simp [ra]
      by_cases hfull : 4 + c ≤ r.length
      · have e := inp_raw_rd_full true x r junk h4 (by rw [hc]; exact hc0) (by rw [hc]; exact hfull)
        rw [hc, hN] at e
        rw [e]
        have hdl : ((r.drop 4).take c).length = c := by simp; omega
        have hdb : Bytes ((r.drop 4).take c) := Bytes_take (Bytes_drop hr 4) c
        obtain ⟨mt, md⟩ := mem_full rl hNdef (by omega) (by omega) hdl
        have hany := mem_any (d1 := (mpz_realloc x N junk).d.set 0 0) (off := 8 * N - c) hdb (by simp; omega)
        have hmem : rawMem x (r.take 4) junk ((r.drop 4).take c)
            = bytesToLimbs (overwrite (limbsToBytes ((mpz_realloc x N junk).d.set 0 0)) (8 * N - c) ((r.drop 4).take c)) := by
          unfold rawMem; rw [hN, hc]
        have hm : (List.replicate (8 * N - c) 0 ++ (r.drop 4).take c).length = 8 * N := by simp; omega
        have hmb : Bytes (List.replicate (8 * N - c) 0 ++ (r.drop 4).take c) :=
          Bytes_append.mpr ⟨Bytes_replicate_zero _, hdb⟩
        obtain ⟨wf, ti⟩ := inp_raw_m_spec
          ⟨(mpz_realloc x N junk).alloc, rawSgn (r.take 4), rawMem x (r.take 4) junk ((r.drop 4).take c)⟩ N _
          hm hmb (by rw [hmem]; exact mt) (by rw [hmem]; simp [hany.1, hsetlen]) (by simpa using rn)
          (by rw [hmem]; exact hany.2) (8 * N - c) c
        refine ⟨wf, ?_⟩
        rw [if_pos ⟨h4, hfull⟩]
        refine ⟨rfl, by simp [List.drop_drop], ?_⟩
        simp only at ti ⊢
        rw [ti, beVal_append, beVal_replicate_zero]
        have hsg : (rawSgn (r.take 4) ≥ 0) ↔ csizeOf (r.take 4) ≥ 0 := by
          unfold rawSgn; split <;> omega
        simp only [hsg]
        simp
      · have e := inp_raw_rd_short_data true x r junk h4 (by rw [hc]; exact hc0) (by rw [hc]; exact hfull)
        rw [hN] at e
        rw [e]
        have hdb : Bytes (r.drop 4) := Bytes_drop hr 4
        have hany := mem_any (d1 := (mpz_realloc x N junk).d.set 0 0) (off := 8 * N - c) hdb (by simp; omega)
        have hmem : rawMem x (r.take 4) junk (r.drop 4)
            = bytesToLimbs (overwrite (limbsToBytes ((mpz_realloc x N junk).d.set 0 0)) (8 * N - c) (r.drop 4)) := by
          unfold rawMem; rw [hN, hc]
        refine ⟨⟨by rw [hmem]; simp [hany.1, hsetlen], by simp [Mpz.abssize], by rw [hmem]; exact hany.2, by simp⟩, ?_⟩
        rw [if_neg (by omega)]
        exact ⟨rfl, rfl⟩
  · rw [inp_raw_rd_short_hdr true x r junk (by omega)]
    refine ⟨hx, ?_⟩
    rw [if_neg (by omega)]
    exact ⟨rfl, rfl⟩

/-! ### header and stream facts used by the property theorems -/

theorem outRawBytes_length (v : Int) : (outRawBytes v).length = 4 + byteLen v.natAbs := by
  simp [outRawBytes, hdrBytes]

theorem outRawBytes_bytes (v : Int) : Bytes (outRawBytes v) :=
  Bytes_append.mpr ⟨beBytes_bytes _ _, beBytes_bytes _ _⟩

theorem csizeOf_hdrBytes_wrap (s : Int) :
    csizeOf (hdrBytes s) = (s + 2147483648) % 4294967296 - 2147483648 := by
  unfold hdrBytes csizeOf
  generalize hm : (s % 4294967296).toNat = m
  have hm4 : m < 4294967296 := by omega
  simp only [beBytes, leBytes, List.reverse_cons, List.reverse_nil, List.nil_append, List.cons_append,
    List.getD_cons_zero, List.getD_cons_succ]
  have hc : ((m / 256 / 256 / 256 % 256 * 256 + m / 256 / 256 % 256) * 256 + m / 256 % 256) * 256 + m % 256 = m := by
    omega
  rw [hc]
  split <;> omega

theorem csizeOf_hdrBytes (s : Int) (h1 : -2147483648 ≤ s) (h2 : s < 2147483648) : csizeOf (hdrBytes s) = s := by
  rw [csizeOf_hdrBytes_wrap]; omega

theorem beBytes_head_ne_zero {v : Nat} (hv : v ≠ 0) : (beBytes (byteLen v) v).headD 0 ≠ 0 := by
  have hbl : 0 < byteLen v := by unfold byteLen; have := bitLen_pos hv; omega
  obtain ⟨n, hn⟩ : ∃ n, byteLen v = n + 1 := ⟨byteLen v - 1, by omega⟩
  rw [hn]
  have : beBytes (n + 1) v = (v / 256 ^ n % 256) :: beBytes n v := by
    unfold beBytes; rw [leBytes_add n 1 v]; simp [leBytes]
  rw [this]; simp only [List.headD_cons]
  have hlt := lt_pow_byteLen v
  rw [hn] at hlt
  have hge : 256 ^ n ≤ v := by
    have h2 := two_pow_le_of_bitLen hv
    have : 8 * n ≤ bitLen v - 1 := by unfold byteLen at hn; omega
    calc 256 ^ n = 2 ^ (8 * n) := by rw [show (256 : Nat) = 2 ^ 8 by norm_num, ← pow_mul]
      _ ≤ 2 ^ (bitLen v - 1) := Nat.pow_le_pow_right (by decide) this
      _ ≤ v := h2
  have hq : 0 < v / 256 ^ n := Nat.div_pos hge (pow_pos (by decide) n)
  have hq2 : v / 256 ^ n < 256 := by
    rw [Nat.div_lt_iff_lt_mul (pow_pos (by decide) n)]; rw [pow_succ] at hlt; linarith
  rw [Nat.mod_eq_of_lt hq2]; omega

theorem outRaw_pieces (v : Int) (rest : List Nat) :
    (outRawBytes v ++ rest).take 4 = hdrBytes (if v < 0 then -(byteLen v.natAbs : Int) else byteLen v.natAbs) ∧
    ((outRawBytes v ++ rest).drop 4).take (byteLen v.natAbs) = beBytes (byteLen v.natAbs) v.natAbs ∧
    beVal (beBytes (byteLen v.natAbs) v.natAbs) = v.natAbs ∧
    (outRawBytes v ++ rest).drop (4 + byteLen v.natAbs) = rest := by
  have hh : ∀ s : Int, (hdrBytes s).length = 4 := fun s => by simp [hdrBytes]
  have e : outRawBytes v ++ rest =
      hdrBytes (if v < 0 then -(byteLen v.natAbs : Int) else byteLen v.natAbs) ++
        (beBytes (byteLen v.natAbs) v.natAbs ++ rest) := by
    simp [outRawBytes]
  rw [e, List.drop_left' (hh _), List.take_left' (hh _), List.take_left' (beBytes_length _ _), ← List.drop_drop,
    List.drop_left' (hh _), List.drop_left' (beBytes_length _ _), beVal_beBytes]
  exact ⟨rfl, rfl, Nat.mod_eq_of_lt (lt_pow_byteLen _), rfl⟩

theorem outRaw_parts (v : Int) (hv : byteLen v.natAbs < 2 ^ 31) (rest : List Nat) :
    csizeOf ((outRawBytes v ++ rest).take 4) = (if v < 0 then -(byteLen v.natAbs : Int) else byteLen v.natAbs) ∧
    (if (if v < 0 then -(byteLen v.natAbs : Int) else (byteLen v.natAbs : Int)) ≥ 0 then
        (beVal (((outRawBytes v ++ rest).drop 4).take
          (if v < 0 then -(byteLen v.natAbs : Int) else (byteLen v.natAbs : Int)).natAbs) : Int)
      else -(beVal (((outRawBytes v ++ rest).drop 4).take
          (if v < 0 then -(byteLen v.natAbs : Int) else (byteLen v.natAbs : Int)).natAbs) : Int)) = v ∧
    (outRawBytes v ++ rest).drop (4 + (if v < 0 then -(byteLen v.natAbs : Int) else (byteLen v.natAbs : Int)).natAbs) = rest ∧
    (if v < 0 then -(byteLen v.natAbs : Int) else (byteLen v.natAbs : Int)).natAbs = byteLen v.natAbs := by
  obtain ⟨p1, p2, p3, p4⟩ := outRaw_pieces v rest
  have hna : (if v < 0 then -(byteLen v.natAbs : Int) else (byteLen v.natAbs : Int)).natAbs = byteLen v.natAbs := by
    split <;> omega
  have hn31 : byteLen v.natAbs < 2147483648 := hv
  refine ⟨?_, ?_, by rw [hna, p4], hna⟩
  · rw [p1]; apply csizeOf_hdrBytes <;> split <;> omega
  · rw [hna, p2, p3]
    by_cases hneg : v < 0
    · -- a negative number has a non-zero byte count
      have : 0 < byteLen v.natAbs := by
        have := bitLen_pos (v := v.natAbs) (by omega)
        unfold byteLen; omega
      rw [if_pos hneg, if_neg (by omega)]; omega
    · rw [if_neg hneg, if_pos (by omega)]; omega

/-! ### export: the EXTRACT accumulator -/

/-- the part of the operand not yet emitted -/
def XSt.R (s : XSt) : Nat := s.limb + 2 ^ s.lbits * val s.zp
/-- `limb` holds exactly `lbits` bits -/
def XSt.Inv (s : XSt) : Prop := s.limb < 2 ^ s.lbits ∧ Limbs s.zp

theorem val_headD_tail (l : List Nat) : val l = l.headD 0 + B * val l.tail := by
  cases l <;> simp

theorem extract_spec {N : Nat} (hN1 : 1 ≤ N) (hN8 : N ≤ 8) (s : XSt) (h : s.Inv) :
    (extract N s).1 = s.R % 2 ^ N ∧ (extract N s).2.R = s.R / 2 ^ N ∧ (extract N s).2.Inv := by
  obtain ⟨hl, hz⟩ := h
  unfold extract
  by_cases hc : s.lbits ≥ N
  · simp only [hc, if_true]
    obtain ⟨k, hk⟩ : ∃ k, s.lbits = N + k := ⟨s.lbits - N, by omega⟩
    have hp : 2 ^ s.lbits = 2 ^ N * 2 ^ k := by rw [hk, pow_add]
    have hR : s.R = s.limb + 2 ^ N * (2 ^ k * val s.zp) := by unfold XSt.R; rw [hp]; ring
    refine ⟨?_, ?_, ?_, hz⟩
    · rw [hR, Nat.add_mul_mod_self_left]
    · simp only [XSt.R]
      rw [show s.limb + 2 ^ s.lbits * val s.zp = s.limb + 2 ^ N * (2 ^ k * val s.zp) from by rw [hp]; ring,
        Nat.add_mul_div_left _ _ (pow_pos (by decide) N), Nat.shiftRight_eq_div_pow]
      congr 2; congr 1; omega
    · simp only
      rw [Nat.shiftRight_eq_div_pow, Nat.div_lt_iff_lt_mul (pow_pos (by decide) N)]
      have : s.lbits - N = k := by omega
      rw [this, Nat.mul_comm, ← hp]; exact hl
  · simp only [hc, if_false]
    have hlt : s.lbits < N := by omega
    obtain ⟨j, hj⟩ : ∃ j, N = s.lbits + j := ⟨N - s.lbits, by omega⟩
    have hj1 : 1 ≤ j := by omega
    set W := s.zp.headD 0 with hW
    set l := s.lbits with hll
    have hWB : W < B := by
      cases hzp : s.zp with
      | nil => simp [hW, hzp]; exact B_pos
      | cons a t => rw [hzp] at hz; simp [hW, hzp]; exact (Limbs_cons.mp hz).1
    have htailL : Limbs s.zp.tail := by
      cases hzp : s.zp with
      | nil => simp [Limbs_nil]
      | cons a t => rw [hzp] at hz; simpa using (Limbs_cons.mp hz).2
    have hv := val_headD_tail s.zp
    rw [← hW] at hv
    have hp : 2 ^ N = 2 ^ l * 2 ^ j := by rw [hj, pow_add]
    have hB : B = 2 ^ j * 2 ^ (64 - j) := by rw [B_eq_pow, ← pow_add]; congr 1; omega
    have hsh : (W <<< l) % B = (W % 2 ^ (64 - l)) * 2 ^ l := by rw [Mpir.shl_mod_B W l (by omega), Nat.mul_comm]
    have hor := or_shl_mod_B (W := W) (show l ≤ 64 by omega) hl
    have hmodj : W % 2 ^ (64 - l) % 2 ^ j = W % 2 ^ j :=
      Nat.mod_mod_of_dvd _ (pow_dvd_pow 2 (by omega))
    have key : ∀ X : Nat, (s.limb + X * 2 ^ l) % 2 ^ N = s.limb + 2 ^ l * (X % 2 ^ j) := by
      intro X
      rw [hp, Nat.mod_mul]
      have h1 : (s.limb + X * 2 ^ l) % 2 ^ l = s.limb := by
        rw [Nat.add_mul_mod_self_right]; exact Nat.mod_eq_of_lt hl
      have h2 : (s.limb + X * 2 ^ l) / 2 ^ l = X := by
        rw [Nat.add_mul_div_right _ _ (pow_pos (by decide) l), Nat.div_eq_of_lt hl, Nat.zero_add]
      rw [h1, h2]
    have hRX : s.R = s.limb + (W + B * val s.zp.tail) * 2 ^ l := by unfold XSt.R; rw [hv]; ring
    refine ⟨?_, ?_, ?_, htailL⟩
    · rw [hor, key, hRX, key, hmodj]
      congr 2
      rw [hB, Nat.mul_assoc, Nat.add_mul_mod_self_left]
    · simp only [XSt.R]
      rw [show s.limb + 2 ^ l * val s.zp = s.limb + (W + B * val s.zp.tail) * 2 ^ l from by rw [hv]; ring,
        hp, ← Nat.div_div_eq_div_mul,
        Nat.add_mul_div_right _ _ (pow_pos (by decide) l), Nat.div_eq_of_lt hl, Nat.zero_add,
        Nat.shiftRight_eq_div_pow]
      have e1 : N - l = j := by omega
      have e2 : l + 64 - N = 64 - j := by omega
      rw [e1, e2]
      conv_rhs => rw [hB]
      rw [Nat.mul_assoc, Nat.add_mul_div_left _ _ (pow_pos (by decide) j)]
    · simp only
      rw [Nat.shiftRight_eq_div_pow]
      have e1 : N - l = j := by omega
      have e2 : l + 64 - N = 64 - j := by omega
      rw [e1, e2, Nat.div_lt_iff_lt_mul (pow_pos (by decide) j), Nat.mul_comm, ← hB]; exact hWB

theorem extractN8_spec (k : Nat) : ∀ (s : XSt), s.Inv →
    (extractN 8 k s).1 = leBytes k s.R ∧ (extractN 8 k s).2.R = s.R / 256 ^ k ∧ (extractN 8 k s).2.Inv := by
  induction k with
  | zero => intro s h; simp [extractN, leBytes, h]
  | succ k ih =>
    intro s h
    obtain ⟨e1, e2, e3⟩ := extract_spec (N := 8) (by decide) (by decide) s h
    obtain ⟨f1, f2, f3⟩ := ih _ e3
    simp only [extractN, leBytes]
    refine ⟨?_, ?_, f3⟩
    · rw [e1, f1, e2]; norm_num
    · rw [f2, e2, Nat.div_div_eq_div_mul]; congr 1; norm_num; ring

/-- the bytes of one word: `w` whole bytes, a partial byte of `b < 8` bits, zero fill -/
theorem word_bytes (R w b m : Nat) (hb : b < 8) (hm : (if b ≠ 0 then 1 else 0) ≤ m) :
    leBytes (w + m) (R % 2 ^ (8 * w + b)) =
      leBytes w R ++ (if b ≠ 0 then [R / 256 ^ w % 2 ^ b] else []) ++
        List.replicate (m - (if b ≠ 0 then 1 else 0)) 0 := by
  have hp : 2 ^ (8 * w + b) = 256 ^ w * 2 ^ b := by
    rw [pow_add, pow_mul]; norm_num
  rw [leBytes_add]
  have h1 : leBytes w (R % 2 ^ (8 * w + b)) = leBytes w R := by
    conv_rhs => rw [← Nat.mod_add_div R (2 ^ (8 * w + b)), hp, Nat.mul_assoc, leBytes_add_mul]
    rw [hp]
  have h2 : R % 2 ^ (8 * w + b) / 256 ^ w = R / 256 ^ w % 2 ^ b := by
    rw [hp, Nat.mod_mul_right_div_self]
  rw [h1, h2, List.append_assoc]
  congr 1
  by_cases hb0 : b = 0
  · subst hb0; simp [Nat.mod_one, leBytes_zero]
  · simp only [hb0, ne_eq, not_false_eq_true, if_true] at hm ⊢
    obtain ⟨m', rfl⟩ : ∃ m', m = m' + 1 := ⟨m - 1, by omega⟩
    have hu : R / 256 ^ w % 2 ^ b < 128 := by
      have : 2 ^ b ≤ 2 ^ 7 := Nat.pow_le_pow_right (by decide) (by omega)
      have := Nat.mod_lt (R / 256 ^ w) (pow_pos (by decide : 0 < 2) b)
      omega
    simp only [leBytes, List.singleton_append, Nat.add_sub_cancel]
    rw [Nat.mod_eq_of_lt (a := R / 256 ^ w % 2 ^ b) (b := 256) (by omega),
      Nat.div_eq_of_lt (a := R / 256 ^ w % 2 ^ b) (b := 256) (by omega), leBytes_zero]

theorem exportWord_spec (size wbytes wbits : Nat) (hb : wbits < 8)
    (hs : wbytes + (if wbits ≠ 0 then 1 else 0) ≤ size) (s : XSt) (h : s.Inv) :
    (exportWord size wbytes wbits s).1 = leBytes size (s.R % 2 ^ (8 * wbytes + wbits)) ∧
    (exportWord size wbytes wbits s).2.R = s.R / 2 ^ (8 * wbytes + wbits) ∧
    (exportWord size wbytes wbits s).2.Inv := by
  obtain ⟨e1, e2, e3⟩ := extractN8_spec wbytes s h
  have hsz : size = wbytes + (size - wbytes) := by omega
  have hp : 2 ^ (8 * wbytes + wbits) = 256 ^ wbytes * 2 ^ wbits := by rw [pow_add, pow_mul]; norm_num
  by_cases hb0 : wbits = 0
  · subst hb0
    have hw := word_bytes s.R wbytes 0 (size - wbytes) (by decide) (by simp)
    rw [← hsz] at hw
    simp only [exportWord, ne_eq, not_true_eq_false, if_false, List.length_nil, Nat.add_zero, List.append_nil,
      Nat.sub_zero] at hw ⊢
    refine ⟨by rw [hw, e1], by rw [e2]; simp [pow_mul], e3⟩
  · obtain ⟨g1, g2, g3⟩ := extract_spec (N := wbits) (by omega) (by omega) _ e3
    have hw := word_bytes s.R wbytes wbits (size - wbytes) hb (by rw [if_pos hb0] at hs ⊢; omega)
    rw [← hsz] at hw
    simp only [exportWord, hb0, ne_eq, not_false_eq_true, if_true, List.length_singleton] at hw ⊢
    refine ⟨?_, ?_, g3⟩
    · rw [hw, e1, g1, e2, Nat.sub_sub]
    · rw [g2, e2, hp, Nat.div_div_eq_div_mul]

theorem wordOf_succ (numb x i : Nat) : wordOf numb x (i + 1) = wordOf numb (x / 2 ^ numb) i := by
  unfold wordOf; rw [Nat.mul_succ, pow_add, Nat.div_div_eq_div_mul, Nat.mul_comm]

theorem wordOf_zero (numb x : Nat) : wordOf numb x 0 = x % 2 ^ numb := by simp [wordOf]

theorem exportWords_spec (size wbytes wbits : Nat) (hb : wbits < 8)
    (hs : wbytes + (if wbits ≠ 0 then 1 else 0) ≤ size) (c : Nat) : ∀ (s : XSt), s.Inv →
    exportWords size wbytes wbits c s =
      (List.range c).map (fun i => leBytes size (wordOf (8 * wbytes + wbits) s.R i)) := by
  induction c with
  | zero => intro s _; simp [exportWords]
  | succ c ih =>
    intro s h
    obtain ⟨e1, e2, e3⟩ := exportWord_spec size wbytes wbits hb hs s h
    simp only [exportWords]
    rw [ih _ e3, e1, e2, List.range_succ_eq_map, List.map_cons, List.map_map, wordOf_zero]
    congr 1
    apply List.map_congr_left
    intro i _
    simp [wordOf_succ]

/-! ### export: count, fast paths, the whole function -/

theorem bitLen_val_normalized {zl : List Nat} (hL : Limbs zl) (hne : zl ≠ []) (htop : TopNZ zl) :
    zl.length * 64 - clz (zl.getLastD 0) = bitLen (val zl) ∧ 0 < bitLen (val zl) := by
  obtain ⟨h1, h2, h3⟩ := bitLen_val_top hL hne htop
  have : 0 < zl.length := List.length_pos_iff.mpr hne
  unfold clz; omega

theorem sizeinbase2exp_eq {zl : List Nat} (hL : Limbs zl) (hne : zl ≠ []) (htop : TopNZ zl) (numb : Nat) :
    sizeinbase2exp zl numb = exportCount numb (val zl) := by
  unfold sizeinbase2exp exportCount
  rw [(bitLen_val_normalized hL hne htop).1]

theorem wordOf64_cons {x : Nat} (hx : x < B) (V i : Nat) :
    wordOf 64 (x + B * V) (i + 1) = wordOf 64 V i := by
  rw [wordOf_succ, ← B_eq_pow, Nat.add_mul_div_left _ _ B_pos, Nat.div_eq_of_lt hx, Nat.zero_add]

theorem words64 : ∀ (zl : List Nat), Limbs zl →
    (List.range zl.length).map (fun i => leBytes 8 (wordOf 64 (val zl) i)) = zl.map (leBytes 8) := by
  intro zl
  induction zl with
  | nil => intro _; simp
  | cons x xs ih =>
    intro h
    obtain ⟨hx, hxs⟩ := Limbs_cons.mp h
    rw [List.length_cons, List.range_succ_eq_map, List.map_cons, List.map_map, List.map_cons, ← ih hxs]
    congr 1
    · rw [wordOf_zero, val_cons, ← B_eq_pow, Nat.add_mul_mod_self_left, Nat.mod_eq_of_lt hx]
    · apply List.map_congr_left
      intro i _
      simp only [Function.comp, val_cons]
      rw [wordOf64_cons hx]

theorem exportCount64 {zl : List Nat} (hL : Limbs zl) (hne : zl ≠ []) (htop : TopNZ zl) :
    exportCount 64 (val zl) = zl.length := by
  obtain ⟨h1, h2, h3⟩ := bitLen_val_top hL hne htop
  have : 0 < zl.length := List.length_pos_iff.mpr hne
  unfold exportCount; omega

theorem flatMap_eq_flatten_map (f : Nat → List Nat) (l : List Nat) : l.flatMap f = (l.map f).flatten := by
  simp [List.flatMap]

theorem exportCount_zero {numb : Nat} (h : 0 < numb) : exportCount numb 0 = 0 := by
  unfold exportCount; rw [bitLen_zero]; exact Nat.div_eq_of_lt (by omega)

theorem mpz_export_spec (order endian : Int) (size nail align : Nat) (zl : List Nat)
    (ho : order = 1 ∨ order = -1) (he : endian = -1 ∨ endian = 0 ∨ endian = 1) (hs : 1 ≤ size)
    (hn : nail < 8 * size) (hL : Limbs zl) (htop : TopNZ zl) :
    mpz_export order size endian nail align zl =
      (exportCount (8 * size - nail) (val zl), exportBytes order size endian nail (val zl)) := by
  by_cases hne : zl = []
  · subst hne
    simp [mpz_export, mpz_export_core, exportBytes, exportCount_zero (show 0 < 8 * size - nail by omega), layout]
  · have hcnt := sizeinbase2exp_eq hL hne htop (8 * size - nail)
    have hemp : zl.isEmpty = false := by cases zl <;> simp_all
    unfold mpz_export mpz_export_core
    simp only [hemp, Bool.false_eq_true, if_false, hcnt]
    by_cases hfast : nail = 0 ∧ size = 8 ∧ align = 0
    · obtain ⟨rfl, rfl, rfl⟩ := hfast
      have h64 := exportCount64 hL hne htop
      simp only [Nat.sub_zero, show 8 * 8 = 64 from rfl, h64, List.take_length, and_self, if_true]
      unfold exportBytes
      simp only [Nat.sub_zero, show 8 * 8 = 64 from rfl, h64, words64 zl hL]
      have hbe : (beBytes 8) = fun x => (leBytes 8 x).reverse := rfl
      rcases ho with rfl | rfl <;> rcases he with rfl | rfl | rfl <;>
        simp [layout, limbsToBytes, flatMap_eq_flatten_map, List.map_reverse, hbe, List.map_map, Function.comp_def]
    · simp only [hfast, if_false]
      have hb : (8 * size - nail) % 8 < 8 := Nat.mod_lt _ (by decide)
      have hsz : (8 * size - nail) / 8 + (if (8 * size - nail) % 8 ≠ 0 then 1 else 0) ≤ size := by
        split <;> omega
      have hinv : XSt.Inv { limb := 0, lbits := 0, zp := zl } := ⟨by simp, hL⟩
      have hR : XSt.R { limb := 0, lbits := 0, zp := zl } = val zl := by simp [XSt.R]
      rw [exportWords_spec size _ _ hb hsz _ _ hinv, hR]
      have hnumb : 8 * ((8 * size - nail) / 8) + (8 * size - nail) % 8 = 8 * size - nail := Nat.div_add_mod _ 8
      rw [hnumb]
      rfl

theorem mpz_export_natLimbs (x : Nat) (order endian : Int) (size nail align : Nat)
    (ho : order = 1 ∨ order = -1) (he : endian = -1 ∨ endian = 0 ∨ endian = 1) (hs : 1 ≤ size)
    (hn : nail < 8 * size) :
    mpz_export order size endian nail align (natLimbs x) =
      (exportCount (8 * size - nail) x, exportBytes order size endian nail x) := by
  have e := mpz_export_spec order endian size nail align (natLimbs x) ho he hs hn (Limbs_natLimbs x) (TopNZ_natLimbs x)
  rwa [val_natLimbs_eq] at e

/-! ### export followed by import, at the level of the specs -/

theorem chunks_flatten (size : Nat) : ∀ (L : List (List Nat)), (∀ w ∈ L, w.length = size) →
    chunks size L.length L.flatten = L := by
  intro L
  induction L with
  | nil => intro _; rfl
  | cons w L ih =>
    intro h
    have hw : w.length = size := h w (by simp)
    have hL : ∀ v ∈ L, v.length = size := fun v hv => h v (by simp [hv])
    simp only [List.length_cons, chunks, List.flatten_cons]
    rw [List.take_append_of_le_length (by omega), List.take_of_length_le (by omega),
      List.drop_append_of_le_length (by omega), List.drop_of_length_le (by omega), List.nil_append, ih hL]

theorem unlayout_layout (order endian : Int) (size : Nat) (ws : List (List Nat))
    (h : ∀ w ∈ ws, w.length = size) :
    unlayout order endian size ws.length (layout order endian ws) = ws := by
  unfold unlayout layout
  set f : List Nat → List Nat := fun w => if endian ≥ 0 then w.reverse else w with hf
  have hff : ∀ w, f (f w) = w := by intro w; simp only [hf]; split <;> simp
  have hfl : ∀ w, (f w).length = w.length := by intro w; simp only [hf]; split <;> simp
  have hmap : ∀ w ∈ ws.map f, w.length = size := by
    intro w hw; rw [List.mem_map] at hw; obtain ⟨v, hv, rfl⟩ := hw; rw [hfl]; exact h v hv
  by_cases ho : order ≥ 0
  · simp only [ho, if_true]
    have hl : (ws.map f).reverse.length = ws.length := by simp
    have := chunks_flatten size (ws.map f).reverse (by intro w hw; exact hmap w (by simpa using hw))
    rw [hl] at this
    rw [this, List.reverse_reverse, List.map_map]
    conv_rhs => rw [← List.map_id ws]
    apply List.map_congr_left; intro w _; exact hff w
  · simp only [ho, if_false]
    have hl : (ws.map f).length = ws.length := by simp
    have := chunks_flatten size (ws.map f) hmap
    rw [hl] at this
    rw [this, List.map_map]
    conv_rhs => rw [← List.map_id ws]
    apply List.map_congr_left; intro w _; exact hff w

theorem wordOf_lt (numb x i : Nat) : wordOf numb x i < 2 ^ numb := Nat.mod_lt _ (pow_pos (by decide) _)

theorem sum_words (numb size : Nat) (hns : 2 ^ numb ≤ 256 ^ size) (c : Nat) : ∀ x : Nat,
    ((List.range c).map (fun i => leBytes size (wordOf numb x i))).foldr
      (fun w acc => leVal w % 2 ^ numb + 2 ^ numb * acc) 0 = x % 2 ^ (numb * c) := by
  induction c with
  | zero => intro x; simp [Nat.mod_one]
  | succ c ih =>
    intro x
    rw [List.range_succ_eq_map, List.map_cons, List.map_map, List.foldr_cons]
    have hcong : (List.map ((fun i => leBytes size (wordOf numb x i)) ∘ Nat.succ) (List.range c))
        = (List.range c).map (fun i => leBytes size (wordOf numb (x / 2 ^ numb) i)) := by
      apply List.map_congr_left; intro i _; simp [wordOf_succ]
    rw [hcong, ih, leVal_leBytes, wordOf_zero]
    have h1 : x % 2 ^ numb % 256 ^ size = x % 2 ^ numb :=
      Nat.mod_eq_of_lt (lt_of_lt_of_le (Nat.mod_lt _ (pow_pos (by decide) _)) hns)
    rw [h1, Nat.mod_mod, Nat.mul_succ, pow_add, Nat.mul_comm (2 ^ (numb * c)), Nat.mod_mul]

theorem lt_pow_count (numb x : Nat) (hn : 0 < numb) : x < 2 ^ (numb * exportCount numb x) := by
  apply bitLen_le_iff.mp
  unfold exportCount
  have h1 := Nat.div_add_mod (bitLen x + numb - 1) numb
  have h2 := Nat.mod_lt (bitLen x + numb - 1) hn
  generalize numb * ((bitLen x + numb - 1) / numb) = P at *
  omega

theorem numb_le (size nail : Nat) : 2 ^ (8 * size - nail) ≤ 256 ^ size := by
  rw [show (256 : Nat) = 2 ^ 8 by norm_num, ← pow_mul]
  exact Nat.pow_le_pow_right (by decide) (by omega)

theorem exportBytes_words (order endian : Int) (size nail x : Nat) :
    unlayout order (if endian = 0 then -1 else endian) size (exportCount (8 * size - nail) x)
      (exportBytes order size endian nail x)
    = (List.range (exportCount (8 * size - nail) x)).map (fun i => leBytes size (wordOf (8 * size - nail) x i)) := by
  unfold exportBytes
  have := unlayout_layout order (if endian = 0 then -1 else endian) size
    ((List.range (exportCount (8 * size - nail) x)).map (fun i => leBytes size (wordOf (8 * size - nail) x i)))
    (by intro w hw; rw [List.mem_map] at hw; obtain ⟨i, _, rfl⟩ := hw; simp)
  simpa using this

theorem import_export_value (order endian : Int) (size nail x : Nat) (hn : nail < 8 * size) :
    importValue order size endian nail (exportCount (8 * size - nail) x) (exportBytes order size endian nail x) = x := by
  unfold importValue
  simp only
  rw [exportBytes_words, sum_words _ _ (numb_le size nail)]
  exact Nat.mod_eq_of_lt (lt_pow_count _ _ (by omega))

/-! ### import: the ACCUMULATE accumulator -/

/-- value assembled so far -/
def ASt.A (s : ASt) : Nat := val s.out.reverse + B ^ s.out.length * s.limb
/-- bits consumed so far -/
def ASt.T (s : ASt) : Nat := 64 * s.out.length + s.lbits
def ASt.Inv (s : ASt) : Prop := s.limb < 2 ^ s.lbits ∧ s.lbits < 64 ∧ Limbs s.out

theorem accumulate_spec {N : Nat} (hN8 : N ≤ 8) {byte : Nat} (hb : byte < 2 ^ N) (s : ASt) (h : s.Inv) :
    (accumulate N byte s).A = s.A + byte * 2 ^ s.T ∧ (accumulate N byte s).T = s.T + N ∧
    (accumulate N byte s).Inv := by
  obtain ⟨hl, hl64, hout⟩ := h
  set l := s.lbits with hll
  set k := s.out.length with hk
  have hsplit : (2 : Nat) ^ 64 = 2 ^ (64 - l) * 2 ^ l := by rw [← pow_add]; congr 1; omega
  have hor := or_shl_mod_B (W := byte) (show l ≤ 64 by omega) hl
  have hBk : B ^ k * 2 ^ l = 2 ^ (64 * k + l) := by rw [B_eq_pow, ← pow_mul, ← pow_add]
  unfold accumulate
  by_cases hc : l + N ≥ 64
  · simp only [← hll, hc, if_true, hor]
    obtain ⟨j, hj⟩ : ∃ j, l + N = 64 + j := ⟨l + N - 64, by omega⟩
    have hNj : N - (l + N - 64) = 64 - l := by omega
    have hpN : 2 ^ N = 2 ^ (64 - l) * 2 ^ j := by rw [← pow_add]; congr 1; omega
    have hq : byte / 2 ^ (64 - l) < 2 ^ j := by
      rw [Nat.div_lt_iff_lt_mul (pow_pos (by decide) _), Nat.mul_comm, ← hpN]; exact hb
    have hlow : s.limb + byte % 2 ^ (64 - l) * 2 ^ l < B := by
      have h1 := Nat.mod_lt byte (pow_pos (by decide : 0 < 2) (64 - l))
      have h2 : (byte % 2 ^ (64 - l) + 1) * 2 ^ l ≤ 2 ^ (64 - l) * 2 ^ l := Nat.mul_le_mul_right _ h1
      rw [Nat.add_mul, Nat.one_mul] at h2
      rw [B_eq_pow, hsplit]; omega
    refine ⟨?_, ?_, ?_, by simp only; omega, Limbs_cons.mpr ⟨hlow, hout⟩⟩
    · simp only [ASt.A, ASt.T, List.reverse_cons, val_snoc, List.length_reverse, List.length_cons, ← hk, ← hll,
        Nat.shiftRight_eq_div_pow, hNj]
      have hd := Nat.mod_add_div byte (2 ^ (64 - l))
      have hB : B = 2 ^ (64 - l) * 2 ^ l := by rw [B_eq_pow, hsplit]
      rw [← hBk, pow_succ]
      calc val s.out.reverse + B ^ k * (s.limb + byte % 2 ^ (64 - l) * 2 ^ l) + B ^ k * B * (byte / 2 ^ (64 - l))
          = val s.out.reverse + B ^ k * s.limb
            + B ^ k * ((byte % 2 ^ (64 - l) + 2 ^ (64 - l) * (byte / 2 ^ (64 - l))) * 2 ^ l) := by rw [hB]; ring
        _ = _ := by rw [hd]; ring
    · simp only [ASt.T, List.length_cons, ← hk, ← hll]; omega
    · simp only [Nat.shiftRight_eq_div_pow, hNj]
      have : l + N - 64 = j := by omega
      rw [this]; exact hq
  · simp only [← hll, hc, if_false, hor]
    have hlt : l + N < 64 := by omega
    have hbm : byte % 2 ^ (64 - l) = byte :=
      Nat.mod_eq_of_lt (lt_of_lt_of_le hb (Nat.pow_le_pow_right (by decide) (by omega)))
    rw [hbm]
    refine ⟨?_, ?_, ?_, by simp only; omega, hout⟩
    · simp only [ASt.A, ASt.T, ← hk, ← hll]; rw [← hBk]; ring
    · simp only [ASt.T, ← hk]; omega
    · simp only
      rw [pow_add]
      have : (byte + 1) * 2 ^ l ≤ 2 ^ N * 2 ^ l := Nat.mul_le_mul_right _ hb
      rw [Nat.add_mul, Nat.one_mul] at this
      rw [Nat.mul_comm (2 ^ l)]; omega

theorem foldl_acc8 : ∀ (bs : List Nat), Bytes bs → ∀ (s : ASt), s.Inv →
    (bs.foldl (fun s byte => accumulate 8 byte s) s).A = s.A + leVal bs * 2 ^ s.T ∧
    (bs.foldl (fun s byte => accumulate 8 byte s) s).T = s.T + 8 * bs.length ∧
    (bs.foldl (fun s byte => accumulate 8 byte s) s).Inv := by
  intro bs
  induction bs with
  | nil => intro _ s h; simp [h]
  | cons b bs ih =>
    intro hb s h
    obtain ⟨hb0, hbs⟩ := Bytes_cons.mp hb
    obtain ⟨e1, e2, e3⟩ := accumulate_spec (N := 8) (by decide) (by norm_num; exact hb0) s h
    obtain ⟨f1, f2, f3⟩ := ih hbs _ e3
    rw [List.foldl_cons]
    refine ⟨?_, ?_, f3⟩
    · rw [f1, e1, e2, leVal_cons, pow_add]; ring
    · rw [f2, e2, List.length_cons]; ring

theorem word_value (w : List Nat) (wb b : Nat) (hb : b < 8) (hw : wb ≤ w.length) (hB : Bytes w) :
    leVal w % 2 ^ (8 * wb + b) = leVal (w.take wb) + 256 ^ wb * (w.getD wb 0 % 2 ^ b) := by
  have hp : 2 ^ (8 * wb + b) = 256 ^ wb * 2 ^ b := by rw [pow_add, pow_mul]; norm_num
  have hsplit : leVal w = leVal (w.take wb) + 256 ^ wb * leVal (w.drop wb) := by
    conv_lhs => rw [← List.take_append_drop wb w, leVal_append]
    simp [Nat.min_eq_left hw]
  have hlt : leVal (w.take wb) < 256 ^ wb := by
    have := leVal_lt (Bytes_take hB wb); simpa [Nat.min_eq_left hw] using this
  rw [hp, Nat.mod_mul, hsplit, Nat.add_mul_mod_self_left, Nat.mod_eq_of_lt hlt,
    Nat.add_mul_div_left _ _ (pow_pos (by decide) _), Nat.div_eq_of_lt hlt, Nat.zero_add]
  congr 2
  cases hd : w.drop wb with
  | nil =>
    have : w.length ≤ wb := by
      have := congrArg List.length hd; simp at this; omega
    simp [List.getD_eq_getElem?_getD, List.getElem?_eq_none this]
  | cons x t =>
    have hx : w.getD wb 0 = x := by
      have : w[wb]? = some x := by
        have := congrArg (fun l => l[0]?) hd
        simpa using this
      simp [List.getD_eq_getElem?_getD, this]
    rw [hx, leVal_cons]
    have h256 : 256 = 2 ^ b * 2 ^ (8 - b) := by
      rw [← pow_add, show b + (8 - b) = 8 by omega]; norm_num
    rw [h256, Nat.mul_assoc, Nat.add_mul_mod_self_left]

theorem importWord_spec (wbytes wbits : Nat) (hb : wbits < 8) (w : List Nat) (hB : Bytes w)
    (hw : wbytes + (if wbits ≠ 0 then 1 else 0) ≤ w.length) (s : ASt) (h : s.Inv) :
    (importWord wbytes wbits w s).A = s.A + (leVal w % 2 ^ (8 * wbytes + wbits)) * 2 ^ s.T ∧
    (importWord wbytes wbits w s).T = s.T + (8 * wbytes + wbits) ∧ (importWord wbytes wbits w s).Inv := by
  have hwl : wbytes ≤ w.length := by omega
  obtain ⟨e1, e2, e3⟩ := foldl_acc8 (w.take wbytes) (Bytes_take hB _) s h
  have htl : (w.take wbytes).length = wbytes := by simp [Nat.min_eq_left hwl]
  have hv := word_value w wbytes wbits hb hwl hB
  unfold importWord
  by_cases hb0 : wbits = 0
  · subst hb0
    simp only [ne_eq, not_true_eq_false, if_false]
    refine ⟨?_, by rw [e2, htl]; ring, e3⟩
    rw [e1, hv]; simp [Nat.mod_one]
  · simp only [hb0, ne_eq, not_false_eq_true, if_true]
    obtain ⟨g1, g2, g3⟩ := accumulate_spec (N := wbits) (by omega)
      (Nat.mod_lt _ (pow_pos (by decide) _) : w.getD wbytes 0 % 2 ^ wbits < 2 ^ wbits) _ e3
    refine ⟨?_, by rw [g2, e2, htl]; ring, g3⟩
    rw [g1, e1, e2, hv, htl, pow_add, pow_mul]; norm_num; ring

theorem importWords_spec (wbytes wbits size : Nat) (hb : wbits < 8)
    (hs : wbytes + (if wbits ≠ 0 then 1 else 0) ≤ size) : ∀ (ws : List (List Nat)),
    (∀ w ∈ ws, Bytes w ∧ w.length = size) → ∀ (s : ASt), s.Inv →
    (ws.foldl (fun s w => importWord wbytes wbits w s) s).A
      = s.A + 2 ^ s.T * ws.foldr (fun w acc => leVal w % 2 ^ (8 * wbytes + wbits) + 2 ^ (8 * wbytes + wbits) * acc) 0 ∧
    (ws.foldl (fun s w => importWord wbytes wbits w s) s).T = s.T + (8 * wbytes + wbits) * ws.length ∧
    (ws.foldl (fun s w => importWord wbytes wbits w s) s).Inv := by
  intro ws
  induction ws with
  | nil => intro _ s h; simp [h]
  | cons w ws ih =>
    intro hws s h
    obtain ⟨hwB, hwl⟩ := hws w (by simp)
    obtain ⟨e1, e2, e3⟩ := importWord_spec wbytes wbits hb w hwB (by omega) s h
    obtain ⟨f1, f2, f3⟩ := ih (fun v hv => hws v (by simp [hv])) _ e3
    rw [List.foldl_cons, List.foldr_cons]
    refine ⟨?_, ?_, f3⟩
    · rw [f1, e1, e2, pow_add]; ring
    · rw [f2, e2, List.length_cons]; ring

/-! ### import: the whole function -/

theorem chunks_spec (size : Nat) : ∀ (c : Nat) (l : List Nat), Bytes l → l.length = c * size →
    (chunks size c l).length = c ∧ ∀ w ∈ chunks size c l, Bytes w ∧ w.length = size := by
  intro c
  induction c with
  | zero => intro l _ _; simp [chunks]
  | succ c ih =>
    intro l hb hl
    have hd : (l.drop size).length = c * size := by rw [List.length_drop, hl, Nat.succ_mul, Nat.add_sub_cancel]
    obtain ⟨i1, i2⟩ := ih (l.drop size) (Bytes_drop hb _) hd
    simp only [chunks, List.length_cons, i1, List.mem_cons, true_and]
    intro w hw
    rcases hw with rfl | hw
    · refine ⟨Bytes_take hb _, ?_⟩
      rw [List.length_take, hl, Nat.succ_mul]; exact Nat.min_eq_left (Nat.le_add_left _ _)
    · exact i2 w hw

theorem unlayout_spec (order endian : Int) (size count : Nat) (data : List Nat) (hb : Bytes data)
    (hl : data.length = count * size) :
    (unlayout order endian size count data).length = count ∧
    ∀ w ∈ unlayout order endian size count data, Bytes w ∧ w.length = size := by
  obtain ⟨c1, c2⟩ := chunks_spec size count data hb hl
  unfold unlayout
  constructor
  · simp only [List.length_map]; split <;> simp [c1]
  · intro w hw
    simp only [List.mem_map] at hw
    obtain ⟨v, hv, rfl⟩ := hw
    have hv' : v ∈ chunks size count data := by split at hv <;> simpa using hv
    obtain ⟨b1, b2⟩ := c2 v hv'
    split
    · exact ⟨Bytes_reverse.mpr b1, by simpa using b2⟩
    · exact ⟨b1, b2⟩

theorem bytesToLimbs_chunks : ∀ (c : Nat) (l : List Nat), l.length = 8 * c →
    bytesToLimbs l = (chunks 8 c l).map leVal := by
  intro c
  induction c with
  | zero => intro l hl; have : l = [] := List.eq_nil_of_length_eq_zero (by omega); subst this; simp [bytesToLimbs_nil, chunks]
  | succ c ih =>
    intro l hl
    have h8 : (l.take 8).length = 8 := by simp; omega
    have hd : (l.drop 8).length = 8 * c := by simp; omega
    conv_lhs => rw [← List.take_append_drop 8 l, bytesToLimbs_append8 h8]
    simp [chunks, ih _ hd]

theorem foldr_val64 : ∀ (ws : List (List Nat)), (∀ w ∈ ws, Bytes w ∧ w.length = 8) →
    ws.foldr (fun w acc => leVal w % 2 ^ 64 + 2 ^ 64 * acc) 0 = val (ws.map leVal) := by
  intro ws
  induction ws with
  | nil => intro _; rfl
  | cons w ws ih =>
    intro h
    obtain ⟨hb, hl⟩ := h w (by simp)
    have hlt : leVal w < 2 ^ 64 := by
      have := leVal_lt hb; rw [hl] at this; norm_num at this ⊢; exact this
    rw [List.foldr_cons, ih (fun v hv => h v (by simp [hv])), List.map_cons, val_cons, Nat.mod_eq_of_lt hlt, B_eq_pow]

theorem map_leVal_reverse_eq_bswap : ∀ (ws : List (List Nat)), (∀ w ∈ ws, Bytes w ∧ w.length = 8) →
    (ws.map (fun w => w.reverse)).map leVal = (ws.map leVal).map bswap := by
  intro ws h
  rw [List.map_map, List.map_map]
  apply List.map_congr_left
  intro w hw
  obtain ⟨hb, hl⟩ := h w hw
  simp only [Function.comp]
  rw [bswap_leVal hl hb]; rfl

theorem mpz_import_fill_spec (count : Nat) (order : Int) (size : Nat) (endian : Int) (nail align : Nat)
    (data : List Nat) (ho : order = 1 ∨ order = -1) (he : endian = -1 ∨ endian = 0 ∨ endian = 1)
    (hs : 1 ≤ size) (hn : nail < 8 * size) (hb : Bytes data) (hl : data.length = count * size) :
    Limbs (mpz_import_fill false count order size endian nail align data) ∧
    val ((mpz_import_fill false count order size endian nail align data).take ((count * (8 * size - nail) + 63) / 64))
      = importValue order size endian nail count data := by
  set e' : Int := if endian = 0 then -1 else endian with he'
  have hee : e' = -1 ∨ e' = 1 := by rcases he with rfl | rfl | rfl <;> simp [he']
  obtain ⟨u1, u2⟩ := unlayout_spec order e' size count data hb hl
  by_cases hfast : nail = 0 ∧ size = 8 ∧ align = 0 ∧ ¬ (order = 1 ∧ e' = 1)
  · -- the three whole-limb fast paths
    obtain ⟨rfl, rfl, rfl, hne⟩ := hfast
    have hl8 : data.length = 8 * count := by omega
    have htk : data.take (8 * count) = data := List.take_of_length_le (by omega)
    have hbl := bytesToLimbs_length count data hl8
    have hz : (count * (8 * 8 - 0) + 63) / 64 = count := by omega
    have hbL := Limbs_bytesToLimbs count data hl8 hb
    have hiv : importValue order 8 endian 0 count data
        = val ((unlayout order e' 8 count data).map leVal) := by
      unfold importValue; simp only [← he']; exact foldr_val64 _ u2
    obtain ⟨c1, c2⟩ := chunks_spec 8 count data hb hl
    rcases ho with rfl | rfl <;> rcases hee with hE | hE
    · -- order 1, endian -1: MPN_REVERSE
      have hfill : mpz_import_fill false count 1 8 endian 0 0 data = (bytesToLimbs data).reverse := by
        simp [mpz_import_fill, ← he', hE, htk]
      rw [hfill, hz, List.take_of_length_le (by simp [hbl]), hiv, hE]
      exact ⟨Limbs_reverse hbL, by simp [unlayout, bytesToLimbs_chunks count data hl8, List.map_reverse]⟩
    · exact absurd ⟨rfl, hE⟩ hne
    · -- order -1, endian -1: MPN_COPY
      have hfill : mpz_import_fill false count (-1) 8 endian 0 0 data = bytesToLimbs data := by
        simp [mpz_import_fill, ← he', hE, htk]
      rw [hfill, hz, List.take_of_length_le (by simp [hbl]), hiv, hE]
      exact ⟨hbL, by simp [unlayout, bytesToLimbs_chunks count data hl8]⟩
    · -- order -1, endian 1: MPN_BSWAP
      have hfill : mpz_import_fill false count (-1) 8 endian 0 0 data = (bytesToLimbs data).map bswap := by
        simp [mpz_import_fill, ← he', hE, htk]
      rw [hfill, hz, List.take_of_length_le (by simp [hbl]), hiv, hE]
      refine ⟨Limbs_map_bswap _, ?_⟩
      simp only [unlayout, show ¬ ((-1 : Int) ≥ 0) by decide, if_false, show ((1 : Int) ≥ 0) by decide, if_true]
      rw [map_leVal_reverse_eq_bswap _ c2, bytesToLimbs_chunks count data hl8]
  · -- the generic loop
    have hbit : (8 * size - nail) % 8 < 8 := Nat.mod_lt _ (by decide)
    have hsz : (8 * size - nail) / 8 + (if (8 * size - nail) % 8 ≠ 0 then 1 else 0) ≤ size := by
      split <;> omega
    have hnumb : 8 * ((8 * size - nail) / 8) + (8 * size - nail) % 8 = 8 * size - nail := Nat.div_add_mod _ 8
    have hinv0 : ASt.Inv { limb := 0, lbits := 0, out := [] } := ⟨by simp, by simp, Limbs_nil⟩
    obtain ⟨f1, f2, f3⟩ := importWords_spec _ _ size hbit hsz (unlayout order e' size count data) u2 _ hinv0
    rw [hnumb] at f1 f2
    rw [u1] at f2
    set st := (unlayout order e' size count data).foldl
      (fun s w => importWord ((8 * size - nail) / 8) ((8 * size - nail) % 8) w s) { limb := 0, lbits := 0, out := [] }
      with hst
    obtain ⟨i1, i2, i3⟩ := f3
    simp only [ASt.A, ASt.T, List.reverse_nil, val_nil, List.length_nil, pow_zero, Nat.mul_zero, Nat.zero_add,
      Nat.one_mul, Nat.add_zero] at f1 f2
    have hfill : mpz_import_fill false count order size endian nail align data
        = (if st.lbits ≠ 0 then st.limb :: st.out else st.out).reverse := by
      unfold mpz_import_fill
      have hnf : ∀ o e : Int, ¬ (o = 1 ∧ e = 1) →
          ¬ (nail = 0 ∧ size = 8 ∧ align = 0 ∧ order = o ∧ e' = e) := by
        rintro o e hoe ⟨a, b, c, rfl, rfl⟩
        exact hfast ⟨a, b, c, hoe⟩
      simp only [← he', hnf (-1) (-1) (by decide), hnf (-1) 1 (by decide), hnf 1 (-1) (by decide), if_false,
        Bool.false_eq_true, ← hst]
    rw [hfill]
    have hval : val (if st.lbits ≠ 0 then st.limb :: st.out else st.out).reverse
        = importValue order size endian nail count data := by
      unfold importValue; simp only [← he']; rw [← f1]
      split
      · rw [List.reverse_cons, val_snoc, List.length_reverse]
      · have : st.limb = 0 := by
          have h0 : st.lbits = 0 := by omega
          rw [h0] at i1; simpa using i1
        rw [this]; simp
    have hlen : (if st.lbits ≠ 0 then st.limb :: st.out else st.out).reverse.length
        = (count * (8 * size - nail) + 63) / 64 := by
      rw [Nat.mul_comm count, ← f2]; split <;> simp <;> omega
    refine ⟨Limbs_reverse ?_, by rw [← hlen, List.take_length, hval]⟩
    split
    · refine Limbs_cons.mpr ⟨?_, i3⟩
      exact lt_of_lt_of_le i1 (by rw [B_eq_pow]; exact Nat.pow_le_pow_right (by decide) (by omega))
    · exact i3

theorem mpz_import_spec (count : Nat) (order : Int) (size : Nat) (endian : Int) (nail align : Nat)
    (data : List Nat) (ho : order = 1 ∨ order = -1) (he : endian = -1 ∨ endian = 0 ∨ endian = 1)
    (hs : 1 ≤ size) (hn : nail < 8 * size) (hb : Bytes data) (hl : data.length = count * size) :
    val (mpz_import count order size endian nail align data) = importValue order size endian nail count data ∧
    Limbs (mpz_import count order size endian nail align data) ∧
    TopNZ (mpz_import count order size endian nail align data) := by
  obtain ⟨hL, hv⟩ := mpz_import_fill_spec count order size endian nail align data ho he hs hn hb hl
  exact ⟨by rw [mpz_import, mpz_import_core, val_normalize, hv], Limbs_normalize (Limbs_take hL _),
    TopNZ_normalize _⟩

/-! ### shape of the exported byte string -/

theorem flatten_length_const (size : Nat) : ∀ (L : List (List Nat)), (∀ w ∈ L, w.length = size) →
    L.flatten.length = L.length * size := by
  intro L
  induction L with
  | nil => intro _; simp
  | cons w L ih =>
    intro h
    rw [List.flatten_cons, List.length_append, ih (fun v hv => h v (by simp [hv])), h w (by simp), List.length_cons]
    ring

theorem Bytes_flatten : ∀ (L : List (List Nat)), (∀ w ∈ L, Bytes w) → Bytes L.flatten := by
  intro L
  induction L with
  | nil => intro _; exact Bytes_nil
  | cons w L ih =>
    intro h
    rw [List.flatten_cons]
    exact Bytes_append.mpr ⟨h w (by simp), ih (fun v hv => h v (by simp [hv]))⟩

theorem layout_shape (order endian : Int) (size : Nat) (ws : List (List Nat))
    (h : ∀ w ∈ ws, Bytes w ∧ w.length = size) :
    (layout order endian ws).length = ws.length * size ∧ Bytes (layout order endian ws) := by
  unfold layout
  have hm : ∀ w ∈ ws.map (fun w => if endian ≥ 0 then w.reverse else w), Bytes w ∧ w.length = size := by
    intro w hw; rw [List.mem_map] at hw; obtain ⟨v, hv, rfl⟩ := hw
    obtain ⟨b1, b2⟩ := h v hv
    split
    · exact ⟨Bytes_reverse.mpr b1, by simpa using b2⟩
    · exact ⟨b1, b2⟩
  simp only
  generalize hws' : ws.map (fun w => if endian ≥ 0 then w.reverse else w) = ws' at hm
  have hlen : ws'.length = ws.length := by rw [← hws']; simp
  by_cases ho : order ≥ 0
  · simp only [ho, if_true]
    refine ⟨?_, Bytes_flatten _ (fun w hw => (hm w (by simpa using hw)).1)⟩
    rw [flatten_length_const size _ (fun w hw => (hm w (by simpa using hw)).2)]; simp [hlen]
  · simp only [ho, if_false]
    refine ⟨?_, Bytes_flatten _ (fun w hw => (hm w hw).1)⟩
    rw [flatten_length_const size _ (fun w hw => (hm w hw).2), hlen]

theorem exportBytes_shape (order endian : Int) (size nail x : Nat) :
    (exportBytes order size endian nail x).length = exportCount (8 * size - nail) x * size ∧
    Bytes (exportBytes order size endian nail x) := by
  unfold exportBytes
  have := layout_shape order (if endian = 0 then -1 else endian) size
    ((List.range (exportCount (8 * size - nail) x)).map (fun i => leBytes size (wordOf (8 * size - nail) x i)))
    (by intro w hw; rw [List.mem_map] at hw; obtain ⟨i, _, rfl⟩ := hw; exact ⟨leBytes_bytes _ _, by simp⟩)
  simpa using this

theorem ofU8_toU8 {l : List Nat} (h : Bytes l) : ofU8 (toU8 l) = l := by
  unfold ofU8 toU8
  rw [List.map_map]
  conv_rhs => rw [← List.map_id l]
  apply List.map_congr_left
  intro b hb
  have := h b hb
  simp [Function.comp, UInt8.toNat_ofNat']
  omega

theorem normalized_unique {a b : List Nat} (ha : Limbs a) (ta : TopNZ a) (hb : Limbs b) (tb : TopNZ b)
    (h : val a = val b) : a = b := by
  rw [(topNZ_iff_normalized.mp ta).eq_natLimbs ha, (topNZ_iff_normalized.mp tb).eq_natLimbs hb, h]

/-! ### output streams over an arbitrary sink -/

/-- accounting invariant of a stream: what the sink took never exceeds what was handed over, the error flag is
    set exactly when something was dropped, and exactly then some write call came back short.  With
    `ko = some k` the sink is moreover the harness's (`sinkFailAt k`) and the flag is set exactly when the
    position has passed `k`. -/
def Faulty (ko : Option Nat) (s : OStream) : Prop :=
  s.out.length ≤ s.pos ∧ (s.err = true ↔ s.out.length < s.pos) ∧ (s.fired = 0 ↔ s.out.length = s.pos) ∧
  (∀ k, ko = some k → s.sink = sinkFailAt k ∧ (s.err = true ↔ k < s.pos))

theorem faulty_init (f : Nat → Nat → Nat) : Faulty none { sink := f } := by simp [Faulty]
theorem faulty_init_at (k : Nat) : Faulty (some k) { sink := sinkFailAt k } := by simp [Faulty]

theorem write_sticky (s : OStream) (chunk : List Nat) (h : s.err = true) : (s.write chunk).1.err = true := by
  unfold OStream.write
  split
  · exact h
  · simp [h]

theorem err_false_of_write {s : OStream} {chunk : List Nat} (he : (s.write chunk).1.err = false) : s.err = false := by
  cases h : s.err with
  | false => rfl
  | true => have := write_sticky s chunk h; rw [he] at this; cases this

theorem write_faulty {ko : Option Nat} {s : OStream} (h : Faulty ko s) (chunk : List Nat) :
    Faulty ko (s.write chunk).1 ∧ (s.write chunk).1.pos = s.pos + chunk.length ∧
    ((s.write chunk).1.err = false → (s.write chunk).2 = chunk.length) := by
  obtain ⟨h1, h2, h3, h4⟩ := h
  unfold OStream.write
  by_cases hc : chunk.isEmpty
  · have : chunk = [] := by simpa using hc
    subst this
    simp only [List.isEmpty_nil, if_true, List.length_nil, Nat.add_zero]
    exact ⟨⟨h1, h2, h3, h4⟩, trivial, fun _ => trivial⟩
  · simp only [hc, Bool.false_eq_true, if_false]
    have hpos : 0 < chunk.length := by
      cases chunk with
      | nil => simp at hc
      | cons a t => simp
    generalize ha : min (s.sink s.pos chunk.length) chunk.length = a
    have hal : a ≤ chunk.length := by rw [← ha]; exact Nat.min_le_right _ _
    refine ⟨⟨?_, ?_, ?_, ?_⟩, trivial, ?_⟩
    · simp only [List.length_append, List.length_take]; omega
    · simp only [List.length_append, List.length_take, Bool.or_eq_true, decide_eq_true_eq, h2]; omega
    · simp only [List.length_append, List.length_take]
      by_cases hlt : a < chunk.length
      · simp only [hlt, if_true]; omega
      · simp only [hlt, if_false]; omega
    · intro k hk
      obtain ⟨g1, g2⟩ := h4 k hk
      refine ⟨g1, ?_⟩
      simp only [Bool.or_eq_true, decide_eq_true_eq, g2]
      have hs : s.sink s.pos chunk.length = if k < s.pos then 0 else if k < s.pos + chunk.length then k - s.pos
          else chunk.length := by rw [g1]; rfl
      rw [hs] at ha
      by_cases c1 : k < s.pos
      · simp only [c1, if_true] at ha; omega
      · by_cases c2 : k < s.pos + chunk.length
        · simp only [c1, if_false, c2, if_true] at ha; omega
        · simp only [c1, if_false, c2] at ha; omega
    · simp only [Bool.or_eq_false_iff, decide_eq_false_iff_not]
      intro hh; omega

theorem write_full {s : OStream} (hf : ∀ p n, s.sink p n = n) (chunk : List Nat) :
    (∀ p n, (s.write chunk).1.sink p n = n) ∧ (s.write chunk).1.out = s.out ++ chunk ∧ (s.write chunk).1.err = s.err := by
  unfold OStream.write
  by_cases hc : chunk.isEmpty
  · rw [if_pos hc, List.isEmpty_iff.1 hc]; exact ⟨hf, by simp, rfl⟩
  · simp [hc, hf]

theorem write_ret {s : OStream} {chunk : List Nat} (he : (s.write chunk).1.err = false) : (s.write chunk).2 = chunk.length := by
  unfold OStream.write at he ⊢
  by_cases hc : chunk.isEmpty
  · rw [if_pos hc, List.isEmpty_iff.1 hc]; rfl
  · simp only [hc, Bool.false_eq_true, if_false, Bool.or_eq_false_iff, decide_eq_false_iff_not] at he ⊢
    have := Nat.min_le_right (s.sink s.pos chunk.length) chunk.length
    omega

/-- the stream after the chunks have been written one after the other, whatever the sink did with each: every output
    function below is such a sequence, and returns 0 when the flag is up at the end, else the number of bytes -/
def writes (s : OStream) (cs : List (List Nat)) : OStream := cs.foldl (fun s c => (s.write c).1) s

theorem writes_append (s : OStream) (a b : List (List Nat)) : writes s (a ++ b) = writes (writes s a) b :=
  List.foldl_append

theorem writes_sticky : ∀ (cs : List (List Nat)) (s : OStream), s.err = true → (writes s cs).err = true
  | [], _, h => h
  | c :: cs, s, h => writes_sticky cs _ (write_sticky s c h)

theorem err_false_of_writes {s : OStream} {cs : List (List Nat)} (he : (writes s cs).err = false) : s.err = false := by
  cases h : s.err with
  | false => rfl
  | true => have := writes_sticky cs s h; rw [he] at this; cases this

theorem writes_faulty {ko : Option Nat} : ∀ (cs : List (List Nat)) {s : OStream}, Faulty ko s →
    Faulty ko (writes s cs) ∧ (writes s cs).pos = s.pos + cs.flatten.length
  | [], _, h => ⟨h, rfl⟩
  | c :: cs, s, h => by
    obtain ⟨w1, w2, _⟩ := write_faulty h c
    obtain ⟨v1, v2⟩ := writes_faulty cs w1
    exact ⟨v1, by rw [show writes s (c :: cs) = writes (s.write c).1 cs from rfl, v2, w2]; simp; omega⟩

theorem writes_full : ∀ (cs : List (List Nat)) {s : OStream}, (∀ p n, s.sink p n = n) →
    (writes s cs).out = s.out ++ cs.flatten ∧ (writes s cs).err = s.err
  | [], _, _ => ⟨by simp [writes], rfl⟩
  | c :: cs, s, hf => by
    obtain ⟨w1, w2, w3⟩ := write_full hf c
    obtain ⟨v1, v2⟩ := writes_full cs w1
    exact ⟨by rw [show writes s (c :: cs) = writes (s.write c).1 cs from rfl, v1, w2]; simp, v2.trans w3⟩

theorem writes_fresh (cs : List (List Nat)) : (writes {} cs).out = cs.flatten ∧ (writes {} cs).err = false := by
  obtain ⟨v1, v2⟩ := writes_full cs (s := {}) fun _ _ => rfl
  exact ⟨by simpa using v1, v2⟩

/-- the return value of an output function: under a lowered flag the counts it added up are the lengths -/
theorem ret_congr {α : Type} {e : Bool} {z a b : α} (h : e = false → a = b) : (if e then z else a) = if e then z else b := by
  cases e
  · simpa using h rfl
  · rfl

/-- what the invariant says at the end of a function that started on a fresh stream and handed over `n` bytes:
    the error flag is set exactly when the sink took fewer than `n` bytes, and then some write call was short -/
theorem faulty_final {ko : Option Nat} {s : OStream} (h : Faulty ko s) :
    (s.err = true ↔ s.out.length < s.pos) ∧ (s.err = false ↔ s.out.length = s.pos) ∧
    (s.err = true ↔ s.fired ≠ 0) ∧ s.out.length ≤ s.pos := by
  obtain ⟨h1, h2, h3, _⟩ := h
  refine ⟨h2, ?_, ?_, h1⟩
  · cases he : s.err with
    | false => rw [he] at h2; simp at h2; simp; omega
    | true => rw [he] at h2; simp at h2; simp; omega
  · rw [h2, Ne, h3]; omega

/-- every `*_out_str` is `outOf s cs n`: do the writes `cs`, return 0 if the flag is up at the end, else `n` -/
def outOf {α : Type} [Zero α] (s : OStream) (cs : List (List Nat)) (n : α) : α × OStream :=
  (if (writes s cs).err then 0 else n, writes s cs)

theorem outOf_sink {α : Type} [Zero α] (f : Nat → Nat → Nat) (cs : List (List Nat)) (n : α) :
    ((outOf { sink := f } cs n).2.out.length < cs.flatten.length → (outOf { sink := f } cs n).1 = 0) ∧
    ((outOf { sink := f } cs n).2.out.length = cs.flatten.length → (outOf { sink := f } cs n).1 = n) ∧
    (outOf { sink := f } cs n).2.out.length ≤ cs.flatten.length ∧
    ((outOf { sink := f } cs n).2.fired ≠ 0 ↔ (outOf { sink := f } cs n).2.out.length < cs.flatten.length) := by
  obtain ⟨h, hp⟩ := writes_faulty (ko := none) cs (faulty_init f)
  obtain ⟨g1, g2, g3, g4⟩ := faulty_final h
  rw [hp, show ({ sink := f } : OStream).pos = 0 from rfl, Nat.zero_add] at g1 g2 g4
  exact ⟨fun hl => if_pos (g1.mpr hl), fun hl => if_neg (by simpa using g2.mpr hl), g4, g3.symm.trans g1⟩

theorem outOf_failAt {α : Type} [Zero α] (k : Nat) (cs : List (List Nat)) (n : α) :
    (k < cs.flatten.length → (outOf { sink := sinkFailAt k } cs n).1 = 0 ∧ (outOf { sink := sinkFailAt k } cs n).2.fired ≠ 0) ∧
    (cs.flatten.length ≤ k → (outOf { sink := sinkFailAt k } cs n).1 = n ∧ (outOf { sink := sinkFailAt k } cs n).2.fired = 0) := by
  obtain ⟨h, hp⟩ := writes_faulty (ko := some k) cs (faulty_init_at k)
  obtain ⟨g1, g2, g3, g4⟩ := faulty_final h
  have he := (h.2.2.2 k rfl).2
  rw [hp, show ({ sink := sinkFailAt k } : OStream).pos = 0 from rfl, Nat.zero_add] at he
  constructor
  · intro hk; exact ⟨if_pos (he.mpr hk), g3.mp (he.mpr hk)⟩
  · intro hk
    have hef : (writes { sink := sinkFailAt k } cs).err = false := by
      cases h' : (writes { sink := sinkFailAt k } cs).err with
      | false => rfl
      | true => exact absurd (he.mp h') (by omega)
    refine ⟨if_neg (by simpa using hef), ?_⟩
    by_contra hf
    have := g3.mpr hf; rw [hef] at this; cases this

theorem outOf_fresh {α : Type} [Zero α] (cs : List (List Nat)) (n : α) :
    (outOf {} cs n).2.out = cs.flatten ∧ (outOf {} cs n).1 = n :=
  ⟨(writes_fresh cs).1, if_neg (by simp [(writes_fresh cs).2])⟩

/-- number of bytes `mpz_out_str` writes -/
def mpzTextLen (base : Int) (x : Int) : Nat :=
  match outBase base with
  | none => 0
  | some b => if x = 0 then 1 else (if x < 0 then 1 else 0) + (magText base b x.natAbs).length

/-- what `mpz_out_str` writes when the sink takes everything -/
def mpzText (base : Int) (x : Int) : List Nat :=
  match outBase base with
  | none => []
  | some b => if x = 0 then [48] else (if x < 0 then [45] else []) ++ magText base b x.natAbs

/-- the `fputc` / `fwrite` calls of `mpz_out_str` -/
def mpzChunks (base : Int) (x : Int) : List (List Nat) :=
  match outBase base with
  | none => []
  | some b => if x = 0 then [[48]] else (if x < 0 then [[45]] else []) ++ [magText base b x.natAbs]

theorem mpzChunks_flatten (base x : Int) : (mpzChunks base x).flatten = mpzText base x := by
  unfold mpzChunks mpzText
  cases outBase base with
  | none => rfl
  | some b => simp only; split <;> [rfl; (split <;> simp)]

theorem mpzText_length (base x : Int) : (mpzText base x).length = mpzTextLen base x := by
  unfold mpzText mpzTextLen
  cases outBase base with
  | none => rfl
  | some b =>
    simp only
    split
    · rfl
    · rw [List.length_append]; split <;> rfl

theorem mpz_out_str_eq (s : OStream) (base x : Int) :
    mpz_out_str s base x = outOf s (mpzChunks base x) (mpzTextLen base x) := by
  unfold outOf mpz_out_str mpzChunks mpzTextLen
  cases outBase base with
  | none => exact Prod.ext (ite_self 0).symm rfl
  | some b =>
    simp only
    by_cases hx : x = 0
    · simp only [hx, if_true]; rfl
    · simp only [hx, if_false]
      by_cases hn : x < 0
      · simp only [hn, if_true]
        exact Prod.ext (ret_congr fun he => by rw [write_ret he]) rfl
      · simp only [hn, if_false]
        exact Prod.ext (ret_congr fun he => by rw [write_ret he]) rfl

theorem mpz_out_str_text (base x : Int) :
    (mpz_out_str {} base x).2.out = mpzText base x ∧ (mpz_out_str {} base x).1 = (mpzText base x).length := by
  rw [mpz_out_str_eq, ← mpzText_length, ← mpzChunks_flatten]
  exact outOf_fresh _ _

/-- number of bytes `mpq_out_str` writes -/
def mpqTextLen (base : Int) (num den : Int) : Nat :=
  mpzTextLen base num + (if den ≠ 1 then 1 + mpzTextLen base den else 0)

/-- what `mpq_out_str` writes when the sink takes everything -/
def mpqText (base : Int) (num den : Int) : List Nat :=
  mpzText base num ++ (if den ≠ 1 then 47 :: mpzText base den else [])

def mpqChunks (base : Int) (num den : Int) : List (List Nat) :=
  mpzChunks base num ++ (if den ≠ 1 then [47] :: mpzChunks base den else [])

theorem mpqChunks_flatten (base num den : Int) : (mpqChunks base num den).flatten = mpqText base num den := by
  unfold mpqChunks mpqText
  rw [List.flatten_append, mpzChunks_flatten]
  split
  · rw [List.flatten_cons, mpzChunks_flatten]; rfl
  · rfl

theorem mpqText_length (base num den : Int) : (mpqText base num den).length = mpqTextLen base num den := by
  unfold mpqText mpqTextLen
  rw [List.length_append, mpzText_length]
  split
  · rw [List.length_cons, mpzText_length, Nat.add_comm 1]
  · rfl

theorem mpq_out_str_eq (s : OStream) (base num den : Int) :
    mpq_out_str s base num den = outOf s (mpqChunks base num den) (mpqTextLen base num den) := by
  unfold mpq_out_str mpqChunks mpqTextLen
  simp only [mpz_out_str_eq, outOf]
  by_cases hd : den ≠ 1
  · simp only [hd, ne_eq, not_false_eq_true, if_true, writes_append]
    refine Prod.ext (ret_congr fun he => ?_) rfl
    have he' : (writes ((writes s (mpzChunks base num)).write [47]).1 (mpzChunks base den)).err = false := he
    simp [err_false_of_write (err_false_of_writes he'), he']
  · simp only [hd, if_false, List.append_nil, Nat.add_zero]
    exact Prod.ext (ret_congr fun he => by simp [he]) rfl

theorem mpq_out_str_text (base num den : Int) :
    (mpq_out_str {} base num den).2.out = mpqText base num den ∧
    (mpq_out_str {} base num den).1 = (mpqText base num den).length := by
  rw [mpq_out_str_eq, ← mpqText_length, ← mpqChunks_flatten]
  exact outOf_fresh _ _

/-- number of bytes `mpf_out_str` writes for the digit string `str` (with its sign) and exponent `exp` -/
def mpfTextLen (_base : Int) (str : List Nat) (exp : Int) : Nat :=
  str.length + 2 + (1 + (intText exp).length)

/-- the `putc` / `fwrite` / `fprintf` calls of `mpf_out_str` -/
def mpfChunks (base : Int) (str : List Nat) (exp : Int) : List (List Nat) :=
  (if str.head? = some 45 then [[45]] else []) ++
    [[48], [46], if str.head? = some 45 then str.tail else str,
      (if (if base = 0 then 10 else base).natAbs ≤ 10 then 101 else 64) :: intText exp]

theorem mpfChunks_length (base : Int) (str : List Nat) (exp : Int) :
    (mpfChunks base str exp).flatten.length = mpfTextLen base str exp := by
  unfold mpfChunks mpfTextLen
  by_cases hn : str.head? = some 45
  · obtain ⟨c, t, rfl⟩ : ∃ c t, str = c :: t := by cases str <;> simp at hn ⊢
    simp [hn]; omega
  · simp [hn]; omega

theorem mpf_out_str_eq (s : OStream) (base : Int) (str : List Nat) (exp : Int) :
    mpf_out_str s base str exp = outOf s (mpfChunks base str exp) (mpfTextLen base str exp : Int) := by
  rw [← mpfChunks_length]
  unfold outOf mpf_out_str mpfChunks
  by_cases hn : str.head? = some 45
  · simp only [hn, if_true]
    refine Prod.ext (ret_congr fun he => ?_) rfl
    have he' : ((((((s.write [45]).1.write [48]).1.write [46]).1.write str.tail).1.write _).1).err = false := he
    rw [write_ret he', write_ret (err_false_of_write he'), if_pos rfl]
    simp; omega
  · simp only [hn, if_false]
    refine Prod.ext (ret_congr fun he => ?_) rfl
    have he' : (((((s.write [48]).1.write [46]).1.write str).1.write _).1).err = false := he
    rw [write_ret he', write_ret (err_false_of_write he'), if_pos rfl]
    simp; omega

/-- `mpz_out_raw` on any sink: one `fwrite` of the whole record; 0 unless the sink took all of it -/
theorem mpz_out_raw_faulty (z : Mpz) (f : Nat → Nat → Nat) :
    (f 0 (out_raw_m z).length < (out_raw_m z).length →
      (mpz_out_raw { sink := f } z).1 = 0 ∧ (mpz_out_raw { sink := f } z).2.fired = 1 ∧
      (mpz_out_raw { sink := f } z).2.out = (out_raw_m z).take (f 0 (out_raw_m z).length)) ∧
    ((out_raw_m z).length ≤ f 0 (out_raw_m z).length →
      (mpz_out_raw { sink := f } z).1 = (out_raw_m z).length ∧ (mpz_out_raw { sink := f } z).2.fired = 0 ∧
      (mpz_out_raw { sink := f } z).2.out = out_raw_m z) := by
  have hlen : 4 ≤ (out_raw_m z).length := by unfold out_raw_m; simp [hdrBytes]
  have hne : (out_raw_m z).isEmpty = false := by
    cases h : out_raw_m z with
    | nil => rw [h] at hlen; simp at hlen
    | cons a t => rfl
  constructor
  · intro hk
    have hmin : min (f 0 (out_raw_m z).length) (out_raw_m z).length = f 0 (out_raw_m z).length := by omega
    simp only [mpz_out_raw, OStream.write, hne, Bool.false_eq_true, if_false, hmin, hk, if_true]
    refine ⟨?_, trivial, by simp⟩
    have : f 0 (out_raw_m z).length ≠ (out_raw_m z).length := by omega
    simp [this]
  · intro hk
    have hmin : min (f 0 (out_raw_m z).length) (out_raw_m z).length = (out_raw_m z).length := by omega
    simp only [mpz_out_raw, OStream.write, hne, Bool.false_eq_true, if_false, hmin, Nat.lt_irrefl, if_false]
    simp

/-! ### truncated input -/

theorem inp_raw_truncated (v : Int) (hv : byteLen v.natAbs < 2 ^ 31) (k : Nat) (hk : k < (outRawBytes v).length)
    (x : Mpz) (hx : x.WF) (junk : Nat → Nat) (hj : ∀ i, junk i < B) :
    (mpz_inp_raw x ⟨outRawBytes v, some k⟩ junk).1 = 0 ∧ (mpz_inp_raw x ⟨outRawBytes v, some k⟩ junk).2.1.WF := by
  have hlen := outRawBytes_length v
  have hb : Bytes ((outRawBytes v).take k) := Bytes_take (outRawBytes_bytes v) k
  obtain ⟨wf, h⟩ := inp_raw_rd_spec x hx ((outRawBytes v).take k) hb junk hj
  have hav : (Stream.mk (outRawBytes v) (some k)).avail = (outRawBytes v).take k := rfl
  unfold mpz_inp_raw
  rw [hav]
  refine ⟨?_, wf⟩
  have hkl : ((outRawBytes v).take k).length = k := by simp; omega
  by_cases h4 : 4 ≤ k
  · obtain ⟨e1, _, _, e4⟩ := outRaw_parts v hv []
    have ht : ((outRawBytes v).take k).take 4 = (outRawBytes v ++ []).take 4 := by
      rw [List.take_take, Nat.min_eq_left h4]; simp
    rw [ht, e1, e4, hkl, if_neg (by omega)] at h
    exact h.1
  · rw [hkl, if_neg (by omega)] at h
    exact h.1

theorem skipWs_all_space : ∀ (ws : List Nat) (n : Nat), (∀ c ∈ ws, isspace c = true) →
    skipWs ws n = (none, [], n + ws.length + 1) := by
  intro ws
  induction ws with
  | nil => intro n _; simp [skipWs]
  | cons c ws ih =>
    intro n h
    have hc : isspace c = true := h c (by simp)
    simp only [skipWs, hc, if_true]
    rw [ih (n + 1) (fun d hd => h d (by simp [hd]))]
    simp; omega

theorem mpz_inp_str_eof (x : Int) (ws : List Nat) (base : Int) (h : ∀ c ∈ ws, isspace c = true) :
    (mpz_inp_str_rd x ws base).1 = 0 ∧ (mpz_inp_str_rd x ws base).2.1 = x := by
  unfold mpz_inp_str_rd
  rw [skipWs_all_space ws 0 h]
  unfold mpz_inp_str_nowhite
  by_cases hb : base > 62 <;> simp [hb]

theorem skipWs_space_then (ws : List Nat) (c : Nat) (rest : List Nat) (n : Nat)
    (h : ∀ d ∈ ws, isspace d = true) (hc : isspace c = false) :
    skipWs (ws ++ c :: rest) n = (some c, rest, n + ws.length + 1) := by
  induction ws generalizing n with
  | nil => simp [skipWs, hc]
  | cons d ws ih =>
    have hd : isspace d = true := h d (by simp)
    simp only [List.cons_append, skipWs, hd, if_true]
    rw [ih (n + 1) (fun e he => h e (by simp [he]))]
    simp; omega

theorem mpz_inp_str_eof_sign (x : Int) (ws : List Nat) (base : Int) (h : ∀ c ∈ ws, isspace c = true) :
    (mpz_inp_str_rd x (ws ++ [45]) base).1 = 0 ∧ (mpz_inp_str_rd x (ws ++ [45]) base).2.1 = x := by
  unfold mpz_inp_str_rd
  rw [skipWs_space_then ws 45 [] 0 h (by decide)]
  unfold mpz_inp_str_nowhite
  by_cases hb : base > 62 <;> simp [hb, getc]

/-! ### text round trip (mpz)

  The text layer of this model is that of `Mpir.Radix` (C06) under other names: the twin definitions agree, the reader is
  `Radix.scanL`, the text written is `Radix.getStrSpec`. -/

theorem ofDigits_eq_digitsVal (b : Nat) (l : List Nat) : Radix.ofDigits b l = digitsVal b l := rfl

theorem numToText_eq (base : Int) (d : Nat) : numToText base d = Radix.digitChar base d := by
  unfold numToText Radix.digitChar
  by_cases h : base < 0
  · rw [if_neg (by omega), if_pos h]
  · rw [if_pos (by omega), if_neg h]

theorem natDigitsAux_eq {b : Nat} (hb : 2 ≤ b) : ∀ (fuel n : Nat) (acc : List Nat), n < 2 ^ fuel →
    natDigitsAux b fuel n acc = Radix.digitsOf b n ++ acc
  | 0, n, acc, h => by
    have : n = 0 := by simpa using h
    subst this; simp [natDigitsAux]
  | fuel + 1, n, acc, h => by
    rw [natDigitsAux]
    by_cases h0 : n = 0
    · subst h0; simp
    · have hq : n / b < 2 ^ fuel :=
        lt_of_le_of_lt (Nat.div_le_div_left hb (by decide)) (by rw [Nat.div_lt_iff_lt_mul (by decide), ← pow_succ]; exact h)
      rw [if_neg h0, natDigitsAux_eq hb fuel _ _ hq, Radix.digitsOf_step (x := n) hb (by omega)]
      simp

theorem natDigits_eq {b : Nat} (hb : 2 ≤ b) (n : Nat) : natDigits b n = Radix.digitsOf b n := by
  rw [natDigits, natDigitsAux_eq hb _ _ _ (lt_two_pow_bitLen n), List.append_nil]

theorem digitValue_eq_charValue (rb c : Nat) :
    digitValue (decide ((rb : Int) > 36)) c = (Radix.charValue rb c).getD 255 := by
  unfold digitValue Radix.charValue
  by_cases h1 : 48 ≤ c ∧ c ≤ 57
  · rw [if_pos h1, if_pos h1]; rfl
  rw [if_neg h1, if_neg h1]
  by_cases h2 : 65 ≤ c ∧ c ≤ 90
  · rw [if_pos h2, if_pos h2]; rfl
  rw [if_neg h2, if_neg h2]
  by_cases h3 : 97 ≤ c ∧ c ≤ 122
  · rw [if_pos h3, if_pos h3]
    by_cases h : rb ≤ 36
    · rw [if_pos h, decide_eq_false (by omega)]; rfl
    · rw [if_neg h, decide_eq_true (by omega)]; rfl
  · rw [if_neg h3, if_neg h3]; rfl

theorem outBase_abs (base : Int) (hb : Radix.LegalOutBase base) :
    outBase base = some base.natAbs := by
  unfold outBase
  rcases hb with ⟨h1, h2⟩ | ⟨h1, h2⟩
  · rw [if_pos (by omega), if_neg (by omega), if_neg (by omega)]
    congr 1; omega
  · rw [if_neg (by omega)]
    congr 1; omega

theorem mpzText_eq (base : Int) (hb : Radix.LegalOutBase base) (x : Int) :
    mpzText base x = Radix.getStrSpec base x := by
  have hb2 := hb.natAbs_bounds.1
  unfold mpzText Radix.getStrSpec
  rw [outBase_abs base hb]
  simp only
  by_cases hx : x = 0
  · subst hx
    have : Radix.digitChar base 0 = 48 := by simp [Radix.digitChar]
    simp [this]
  · simp only [if_neg hx, magText, natDigits_eq hb2]
    congr 1
    exact List.map_congr_left fun d _ => numToText_eq base d

theorem getc_eq (r : List Nat) : getc r = (r.head?, r.tail) := by cases r <;> rfl

theorem ungetc_head_tail (r : List Nat) : ungetc r.head? r.tail = r := by cases r <;> rfl

theorem readDigits_stop (dv : Nat → Nat) (b c : Nat) (r acc : List Nat) (hc : dv c ≥ b) :
    readDigits dv b (some c) r acc = (acc.reverse, some c, r) := by
  cases r <;> simp [readDigits, hc]

theorem skipZeros_ne (c : Nat) (hc : c ≠ 48) (r : List Nat) (n : Nat) : skipZeros (some c) r n = (some c, r, n) := by
  unfold skipZeros
  split <;> simp_all

/-- `while (c == '0')` on the state "next character = head of `l`" -/
theorem skipZeros_eq : ∀ (l : List Nat) (n : Nat),
    skipZeros l.head? l.tail n =
      ((l.dropWhile (· == 48)).head?, (l.dropWhile (· == 48)).tail, n + (l.takeWhile (· == 48)).length)
  | [], n => by simp [skipZeros]
  | c :: r, n => by
    by_cases h : c = 48
    · subst h
      cases r with
      | nil => simp [skipZeros]
      | cons c' r' =>
        have := skipZeros_eq (c' :: r') (n + 1)
        simp only [List.head?_cons, List.tail_cons] at this ⊢
        rw [skipZeros, this]
        simp [Nat.add_assoc, Nat.add_comm 1]
    · simp only [List.head?_cons, List.tail_cons]
      rw [skipZeros_ne c h]
      simp [h]

/-- the digit loop on the state "next character = head of `l`" -/
theorem readDigits_eq (dv : Nat → Nat) (b : Nat) : ∀ (l acc : List Nat),
    readDigits dv b l.head? l.tail acc =
      (acc.reverse ++ (l.takeWhile (fun c => decide (dv c < b))).map dv,
       (l.dropWhile (fun c => decide (dv c < b))).head?, (l.dropWhile (fun c => decide (dv c < b))).tail)
  | [], acc => by simp [readDigits]
  | c :: r, acc => by
    simp only [List.head?_cons, List.tail_cons]
    by_cases h : dv c ≥ b
    · rw [readDigits_stop dv b c r acc h]
      simp [Nat.not_lt.mpr h]
    · have hlt : dv c < b := by omega
      cases r with
      | nil => simp [readDigits, h, hlt]
      | cons c' r' =>
        have := readDigits_eq dv b (c' :: r') (dv c :: acc)
        simp only [List.head?_cons, List.tail_cons] at this
        rw [readDigits]
        simp only [h, if_false, this]
        simp [hlt]

theorem beq_or_eq (a : Option Nat) (x y : Nat) : (a == some x || a == some y) = decide (a = some x ∨ a = some y) := by
  cases a <;> simp [beq_eq_decide]

/-- the base-0 prefix detection on the state "next character = `ch`, then `r`" -/
theorem inpPrefix_eq (base : Int) (ch : Nat) (r : List Nat) (nread : Nat) :
    (if base = 0 then
        if ch = 48 then
          if (getc r).1 = some 120 ∨ (getc r).1 = some 88 then (16, (getc (getc r).2).1, (getc (getc r).2).2, nread + 2)
          else if (getc r).1 = some 98 ∨ (getc r).1 = some 66 then
            (2, (getc (getc r).2).1, (getc (getc r).2).2, nread + 2)
          else (8, (getc r).1, (getc r).2, nread + 1)
        else (10, some ch, r, nread)
      else (base.toNat, some ch, r, nread) : Nat × Option Nat × List Nat × Nat) =
    ((Radix.prefLen base (ch :: r)).1, ((ch :: r).drop (Radix.prefLen base (ch :: r)).2).head?,
      ((ch :: r).drop (Radix.prefLen base (ch :: r)).2).tail, nread + (Radix.prefLen base (ch :: r)).2) := by
  unfold Radix.prefLen
  by_cases hb : base = 0
  · rw [if_pos hb, if_pos hb]
    by_cases h48 : ch = 48
    · subst h48
      rw [if_pos rfl]
      simp only [show ((48 :: r)[0]? == some 48) = true from rfl, if_true]
      cases r with
      | nil => rfl
      | cons c1 r1 =>
        simp only [getc_eq, List.head?_cons, List.tail_cons, List.getElem?_cons_succ, List.getElem?_cons_zero,
          beq_or_eq, decide_eq_true_eq]
        by_cases hx : some c1 = some 120 ∨ some c1 = some 88
        · rw [if_pos hx, if_pos hx]; rfl
        · rw [if_neg hx, if_neg hx]
          by_cases hbb : some c1 = some 98 ∨ some c1 = some 66
          · rw [if_pos hbb, if_pos hbb]; rfl
          · rw [if_neg hbb, if_neg hbb]; rfl
    · have : ((ch :: r)[0]? == some 48) = false := by simpa using h48
      rw [if_neg h48, this]
      rfl
  · rw [if_neg hb, if_neg hb]
    rfl

/-- `l` = the character already fetched followed by the rest of the stream -/
theorem mpz_inp_str_nowhite_eq (x : Int) (l : List Nat) (base : Int) (hb62 : base ≤ 62) (nread : Nat) :
    mpz_inp_str_nowhite x l.tail base l.head? nread =
      match Radix.scanL (digitValue (decide (base > 36))) base l with
      | none => (0, x, ((if l.head? == some 45 then l.drop 1 else l)).tail)
      | some (n, neg, b, ds) =>
          (nread + n - 1,
           if ds.isEmpty then 0 else (if neg then -(digitsVal b ds : Int) else (digitsVal b ds : Int)),
           l.drop n) := by
  have hb : ¬ base > 62 := by omega
  obtain ⟨body, hbody, hsign, hdrop⟩ : ∃ body, (if (l.head? == some 45) = true then l.drop 1 else l) = body ∧
      (if l.head? = some 45 then (let (c', r') := getc l.tail; (true, c', r', nread + 1))
        else (false, l.head?, l.tail, nread) : Bool × Option Nat × List Nat × Nat) =
        ((l.head? == some 45), body.head?, body.tail, nread + (if (l.head? == some 45) = true then 1 else 0)) ∧
      ∀ k, l.drop ((if (l.head? == some 45) = true then 1 else 0) + k) = body.drop k := by
    by_cases h : l.head? = some 45
    · refine ⟨l.drop 1, by simp [h], ?_, fun k => by simp [h, Nat.add_comm 1 k]⟩
      cases l with
      | nil => simp at h
      | cons c r => simp [h, getc_eq]
    · exact ⟨l, by simp [h], by simp [h], fun k => by simp [h]⟩
  unfold Radix.scanL
  simp only [hbody]
  generalize (l.head? == some 45) = neg at *
  cases body with
  | nil =>
    dsimp only [List.head?_nil, List.tail_nil] at hsign
    unfold mpz_inp_str_nowhite
    simp only [hb, if_false, hsign]
    rfl
  | cons ch r =>
    dsimp only [List.head?_cons, List.tail_cons] at hsign
    unfold mpz_inp_str_nowhite
    simp only [hb, if_false, hsign]
    dsimp only [List.head?_cons, List.tail_cons]
    by_cases hdig : (digitValue (decide (base > 36)) ch : Int) ≥ (if base = 0 then 10 else base)
    · simp only [if_pos hdig]
    · simp only [if_neg hdig, inpPrefix_eq]
      generalize Radix.prefLen base (ch :: r) = p
      have hrest := hdrop p.2
      generalize (ch :: r).drop p.2 = rest at *
      simp only [skipZeros_eq, readDigits_eq, ungetc_head_tail, List.reverse_nil, List.nil_append, List.length_map,
        ← drop_takeWhile_length]
      refine Prod.ext ?_ (Prod.ext rfl ?_)
      · simp only [Nat.add_assoc]
      · simp only []
        rw [← hrest, List.drop_drop, List.drop_drop]
        congr 1; omega

theorem mpzText_scan (base : Int) (hb : Radix.LegalOutBase base) (x : Int) (rest : List Nat)
    (hrest : ∀ c, rest.head? = some c → digitValue (decide ((base.natAbs : Int) > 36)) c ≥ base.natAbs) :
    ∃ digs, Radix.scanL (digitValue (decide ((base.natAbs : Int) > 36))) (base.natAbs : Int) (mpzText base x ++ rest) =
        some ((mpzText base x).length, decide (x < 0), base.natAbs, digs) ∧ digitsVal base.natAbs digs = x.natAbs := by
  obtain ⟨digs, h1, _, h3⟩ := Radix.scanL_getStrSpec _ base hb
    (fun e he => by rw [digitValue_eq_charValue, (Radix.digitChar_props base hb e he).1]; rfl)
    (by rw [digitValue, if_pos (by omega)]) x rest hrest
  exact ⟨digs, by rw [mpzText_eq base hb]; exact h1, h3⟩

/-- the value `mpz_inp_str_nowhite` stores for digits of value |x| read after the sign of x -/
theorem stored_value {x : Int} {b : Nat} {digs : List Nat} (hv : digitsVal b digs = x.natAbs) :
    (if digs.isEmpty then (0 : Int) else
      if decide (x < 0) = true then -(digitsVal b digs : Int) else (digitsVal b digs : Int)) = x := by
  rw [hv]
  cases digs with
  | nil =>
    have : x.natAbs = 0 := by rw [← hv]; rfl
    simp only [List.isEmpty_nil, if_true]; omega
  | cons _ _ =>
    by_cases hneg : x < 0 <;> simp only [List.isEmpty_cons, Bool.false_eq_true, if_false, hneg, decide_true,
      decide_false, if_true] <;> omega

/-- the text `mpz_out_str` writes in base `wb`, followed by `rest`, is read back by `mpz_inp_str_nowhite` in base `rb`: same
    value, all of the text consumed, the stream left at `rest` -/
def ReadsBack (wb rb : Int) (rest : List Nat) : Prop :=
  ∀ (x dest : Int) (nread : Nat), ∃ c0 t, mpzText wb x = c0 :: t ∧ isspace c0 = false ∧
    mpz_inp_str_nowhite dest (t ++ rest) rb (some c0) nread = (nread + (mpzText wb x).length - 1, x, rest)

theorem readsBack (base : Int) (hb : Radix.LegalOutBase base) (rest : List Nat)
    (hrest : ∀ c, rest.head? = some c → digitValue (decide ((base.natAbs : Int) > 36)) c ≥ base.natAbs) :
    ReadsBack base (base.natAbs : Int) rest := fun x dest nread => by
  obtain ⟨c0, t, ht, hsp⟩ := Radix.getStrSpec_head base hb x
  rw [← mpzText_eq base hb] at ht
  obtain ⟨digs, hs, hv⟩ := mpzText_scan base hb x rest hrest
  refine ⟨c0, t, ht, hsp, ?_⟩
  have h := mpz_inp_str_nowhite_eq dest (mpzText base x ++ rest) (base.natAbs : Int)
    (by have := hb.natAbs_bounds.2; omega) nread
  rw [hs] at h
  simp only [stored_value hv, List.drop_left] at h
  rw [ht] at h ⊢
  exact h

theorem readsBack_slash (base : Int) (hb : Radix.LegalOutBase base) (l : List Nat) :
    ReadsBack base (base.natAbs : Int) (47 :: l) :=
  readsBack base hb _ (by
    intro c hc
    have : digitValue (decide ((base.natAbs : Int) > 36)) 47 = 255 := by simp [digitValue]
    simp only [List.head?_cons, Option.some.injEq] at hc
    rw [← hc, this]; have := hb.natAbs_bounds.2; omega)

theorem mpz_roundtrip_of {wb rb : Int} {rest : List Nat} (h : ReadsBack wb rb rest) (x dest : Int) :
    mpz_inp_str_rd dest (mpzText wb x ++ rest) rb = ((mpzText wb x).length, x, rest) := by
  obtain ⟨c0, t, ht, hsp, hnw⟩ := h x dest 1
  unfold mpz_inp_str_rd
  rw [ht] at hnw ⊢
  simp only [List.cons_append, skipWs, hsp, Bool.false_eq_true, if_false, hnw]
  congr 1
  simp

theorem mpz_stream_roundtrip_of {wb rb : Int} {rest : List Nat} (h : ReadsBack wb rb rest) (x dest : Int) :
    mpz_inp_str_rd dest ((mpz_out_str {} wb x).2.out ++ rest) rb = ((mpz_out_str {} wb x).1, x, rest) := by
  obtain ⟨e1, e2⟩ := mpz_out_str_text wb x
  rw [e1, e2]
  exact mpz_roundtrip_of h x dest

/-! ### gmp_fprintf through the repaired `__gmp_fprintf_funs` -/

theorem write_ok_or_fail {ko : Option Nat} {s : OStream} (h : Faulty ko s) (he : s.err = false) (chunk : List Nat)
    (hne : chunk ≠ []) :
    Faulty ko (s.write chunk).1 ∧
    (((s.write chunk).2 = chunk.length ∧ (s.write chunk).1.err = false ∧ (s.write chunk).1.pos = s.pos + chunk.length) ∨
     ((s.write chunk).2 < chunk.length ∧ (s.write chunk).1.err = true)) := by
  obtain ⟨w1, w2, w3⟩ := write_faulty h chunk
  refine ⟨w1, ?_⟩
  cases hE : (s.write chunk).1.err with
  | false => left; exact ⟨w3 hE, rfl, w2⟩
  | true =>
    right; refine ⟨?_, rfl⟩
    -- the error flag can only have been raised by this very write, which then came back short
    have hemp : chunk.isEmpty = false := by cases chunk <;> simp_all
    unfold OStream.write at hE ⊢
    simp only [hemp, Bool.false_eq_true, if_false, he, Bool.false_or, decide_eq_true_eq] at hE ⊢
    exact hE

/-- outcome of one output stage: either it reported −1 and the error flag is up, or it wrote all its `n` bytes
    without error -/
def StageOK (ko : Option Nat) (s : OStream) (n : Nat) (res : OStream × Int) : Prop :=
  Faulty ko res.1 ∧ ((res.2 = -1 ∧ res.1.err = true) ∨ (res.2 = (n : Int) ∧ res.1.err = false ∧ res.1.pos = s.pos + n))

theorem reps_go_stage {ko : Option Nat} (c : Nat) : ∀ (fuel i : Nat) (s : OStream), Faulty ko s → s.err = false → i ≤ 256 * fuel →
    Faulty ko (fprintfReps.go true c fuel i s).1 ∧
    (((fprintfReps.go true c fuel i s).2 = false ∧ (fprintfReps.go true c fuel i s).1.err = true) ∨
     ((fprintfReps.go true c fuel i s).2 = true ∧ (fprintfReps.go true c fuel i s).1.err = false ∧
      (fprintfReps.go true c fuel i s).1.pos = s.pos + i)) := by
  intro fuel
  induction fuel with
  | zero =>
    intro i s h he hi
    have : i = 0 := by omega
    subst this
    simp [fprintfReps.go, h, he]
  | succ fuel ih =>
    intro i s h he hi
    unfold fprintfReps.go
    by_cases hi0 : i = 0
    · subst hi0; simp [h, he]
    · simp only [hi0, if_false]
      have hpiece : List.replicate (min i 256) c ≠ [] := by
        intro hh; have := congrArg List.length hh; simp at this; omega
      obtain ⟨w1, w2⟩ := write_ok_or_fail h he (List.replicate (min i 256) c) hpiece
      rcases w2 with ⟨n1, e1, p1⟩ | ⟨n0, e0⟩
      · have hn : (s.write (List.replicate (min i 256) c)).2 = min i 256 := by simpa using n1
        simp only [hn, ne_eq, not_true_eq_false, and_false, if_false]
        obtain ⟨g1, g2⟩ := ih (i - min i 256) _ w1 e1 (by omega)
        refine ⟨g1, ?_⟩
        rcases g2 with g | ⟨ga, gb, gc⟩
        · left; exact g
        · right; refine ⟨ga, gb, ?_⟩
          rw [gc, p1]; simp
      · have hn : (s.write (List.replicate (min i 256) c)).2 ≠ min i 256 := by
          have : (s.write (List.replicate (min i 256) c)).2 < min i 256 := by simpa using n0
          omega
        simp only [hn, ne_eq, not_false_eq_true, and_self, if_true]
        exact ⟨w1, Or.inl ⟨trivial, e0⟩⟩

theorem reps_stage {ko : Option Nat} {s : OStream} (h : Faulty ko s) (he : s.err = false) (c reps : Nat) :
    StageOK ko s reps (fprintfReps true s c reps) := by
  obtain ⟨g1, g2⟩ := reps_go_stage (ko := ko) c (reps / 256 + 1) reps s h he (by omega)
  unfold StageOK fprintfReps
  simp only
  refine ⟨g1, ?_⟩
  rcases g2 with ⟨g, ge⟩ | ⟨ga, gb, gc⟩
  · left; simp [g, ge]
  · right; simp [ga, gb, gc]

theorem memory_stage {ko : Option Nat} {s : OStream} (h : Faulty ko s) (he : s.err = false) (t : List Nat) (ht : t ≠ []) :
    StageOK ko s t.length (fprintfMemory true s t) := by
  obtain ⟨w1, w2⟩ := write_ok_or_fail h he t ht
  unfold StageOK fprintfMemory
  simp only
  refine ⟨w1, ?_⟩
  rcases w2 with ⟨n1, e1, p1⟩ | ⟨n0, e0⟩
  · right; simp [n1, e1, p1]
  · left
    have : (s.write t).2 ≠ t.length := by omega
    simp [this, e0]

/-- `vfprintf` and the repaired `gmp_fprintf_memory` report a short write in the same way -/
theorem fprintfFormat_eq (s : OStream) (t : List Nat) : fprintfFormat s t = fprintfMemory true s t := by
  unfold fprintfFormat fprintfMemory
  by_cases h : (s.write t).2 = t.length <;> simp [h]

theorem skip_stage {ko : Option Nat} {s : OStream} (h : Faulty ko s) (he : s.err = false) : StageOK ko s 0 (s, (0 : Int)) :=
  ⟨h, Or.inr ⟨rfl, he, rfl⟩⟩

/-- `DOPRNT_FORMAT` is only called when there is text -/
theorem format_stage {ko : Option Nat} {s : OStream} (h : Faulty ko s) (he : s.err = false) (t : List Nat) :
    StageOK ko s t.length (if t.isEmpty then (s, (0 : Int)) else fprintfFormat s t) := by
  cases t with
  | nil => exact skip_stage h he
  | cons c t => exact fprintfFormat_eq s (c :: t) ▸ memory_stage h he (c :: t) (List.cons_ne_nil c t)

/-- `DOPRNT_ACCUMULATE`: the next stage runs unless this one reported −1 -/
def seqStage (q : OStream × Int) (k : OStream → Int → Int × OStream) : Int × OStream :=
  match q with
  | (s1, r1) => if r1 = -1 then (-1, s1) else k s1 r1

theorem gmpFprintfModel_eq (fixed : Bool) (s : OStream) (pre : List Nat) (width base : Nat) (x : Int) (post : List Nat) :
    gmpFprintfModel fixed s pre width base x post =
      let digs := if x = 0 then [48] else magText base base x.natAbs
      let signlen := if x < 0 then 1 else 0
      let justlen : Int := (width : Int) - (digs.length + signlen)
      seqStage (if pre.isEmpty then (s, (0 : Int)) else fprintfFormat s pre) fun s1 r1 =>
      seqStage (if justlen > 0 then fprintfReps fixed s1 32 justlen.toNat else (s1, 0)) fun s2 r2 =>
      seqStage (if signlen ≠ 0 then fprintfReps fixed s2 45 1 else (s2, 0)) fun s3 r3 =>
      seqStage (fprintfMemory fixed s3 digs) fun s4 r4 =>
      seqStage (if post.isEmpty then (s4, (0 : Int)) else fprintfFormat s4 post) fun s5 r5 =>
      (r1 + r2 + r3 + r4 + r5, s5) := rfl

theorem seqStage_ok {ko : Option Nat} {s0 s : OStream} {N n : Nat} {q : OStream × Int}
    {k : OStream → Int → Int × OStream} (hq : StageOK ko s n q)
    (hk : ∀ s', Faulty ko s' → s'.err = false → s'.pos = s.pos + n → StageOK ko s0 N (k s' n).swap) :
    StageOK ko s0 N (seqStage q k).swap := by
  obtain ⟨s1, r1⟩ := q
  obtain ⟨f, ⟨r, e⟩ | ⟨r, e, p⟩⟩ := hq
  · simp only at r e f
    rw [seqStage, if_pos r]; exact ⟨f, Or.inl ⟨rfl, e⟩⟩
  · simp only at r e p f
    rw [seqStage, if_neg (by rw [r]; omega), r]; exact hk s1 f e p

theorem gmp_fprintf_stages {ko : Option Nat} (s0 : OStream) (h0 : Faulty ko s0) (he0 : s0.err = false)
    (pre : List Nat) (width base : Nat) (hb : 2 ≤ base) (x : Int) (post : List Nat) :
    Faulty ko (gmpFprintfModel true s0 pre width base x post).2 ∧
    (((gmpFprintfModel true s0 pre width base x post).1 = -1 ∧
      (gmpFprintfModel true s0 pre width base x post).2.err = true) ∨
     ((gmpFprintfModel true s0 pre width base x post).1 = ((fprintfText pre width base x post).length : Int) ∧
      (gmpFprintfModel true s0 pre width base x post).2.err = false ∧
      (gmpFprintfModel true s0 pre width base x post).2.pos = s0.pos + (fprintfText pre width base x post).length)) := by
  show StageOK ko s0 _ (gmpFprintfModel true s0 pre width base x post).swap
  have hdigs : (if x = 0 then [48] else magText base base x.natAbs) ≠ [] := by
    split
    · simp
    · rename_i hx
      rw [magText, natDigits_eq hb]
      exact fun hh => Radix.digitsOf_ne_nil hb (by omega) (List.map_eq_nil_iff.mp hh)
  simp only [gmpFprintfModel_eq]
  generalize hdg : (if x = 0 then [48] else magText base base x.natAbs) = digs at hdigs ⊢
  have htot : (fprintfText pre width base x post).length
      = pre.length + (width - ((if x < 0 then 1 else 0) + digs.length)) + (if x < 0 then 1 else 0) + digs.length + post.length := by
    unfold fprintfText; simp only [hdg]; split <;> simp <;> omega
  -- text before the conversion, padding, sign, digits, text after the conversion
  refine seqStage_ok (format_stage h0 he0 pre) fun s1 f1 e1 p1 => ?_
  have st2 : StageOK ko s1 (width - ((if x < 0 then 1 else 0) + digs.length))
      (if ((width : Int) - ((digs.length : Int) + (if x < 0 then 1 else 0)) > 0) then
        fprintfReps true s1 32 ((width : Int) - ((digs.length : Int) + (if x < 0 then 1 else 0))).toNat else (s1, 0)) := by
    by_cases hj : ((width : Int) - ((digs.length : Int) + (if x < 0 then 1 else 0)) > 0)
    · have : ((width : Int) - ((digs.length : Int) + (if x < 0 then 1 else 0))).toNat
          = width - ((if x < 0 then 1 else 0) + digs.length) := by
        by_cases hn : x < 0 <;> simp only [hn, if_true, if_false] at hj ⊢ <;> omega
      rw [if_pos hj, this]; exact reps_stage f1 e1 32 _
    · have : width - ((if x < 0 then 1 else 0) + digs.length) = 0 := by
        by_cases hn : x < 0 <;> simp only [hn, if_true, if_false] at hj ⊢ <;> omega
      rw [if_neg hj, this]; exact skip_stage f1 e1
  refine seqStage_ok st2 fun s2 f2 e2 p2 => ?_
  have st3 : StageOK ko s2 (if x < 0 then 1 else 0)
      (if (if x < 0 then (1 : Int) else 0) ≠ 0 then fprintfReps true s2 45 1 else (s2, 0)) := by
    by_cases hn : x < 0
    · simp only [hn, if_true, ne_eq, one_ne_zero, not_false_eq_true]; exact reps_stage f2 e2 45 1
    · simp only [hn, if_false, ne_eq, not_true_eq_false]; exact skip_stage f2 e2
  refine seqStage_ok st3 fun s3 f3 e3 p3 => ?_
  refine seqStage_ok (memory_stage f3 e3 digs hdigs) fun s4 f4 e4 p4 => ?_
  refine seqStage_ok (format_stage f4 e4 post) fun s5 f5 e5 p5 => ?_
  refine ⟨f5, Or.inr ⟨?_, e5, ?_⟩⟩
  · show ((pre.length : Int) + _ + _ + _ + _ : Int) = _
    rw [htot]; push_cast; split <;> simp
  · show s5.pos = _
    rw [htot, p5, p4, p3, p2, p1]; omega

theorem gmp_fprintf_fault (k : Nat) (pre : List Nat) (width base : Nat) (hb : 2 ≤ base) (x : Int) (post : List Nat)
    (hk : k < (fprintfText pre width base x post).length) :
    (gmpFprintfModel true { sink := sinkFailAt k } pre width base x post).1 = -1 := by
  obtain ⟨f, o⟩ := gmp_fprintf_stages (ko := some k) { sink := sinkFailAt k } (faulty_init_at k) rfl pre width base hb x post
  rcases o with ⟨o, _⟩ | ⟨_, e, p⟩
  · exact o
  · exfalso
    have := (f.2.2.2 k rfl).2.mpr (by rw [p]; simpa using hk)
    rw [e] at this; exact absurd this (by simp)

/-! ### text round trip (mpq) -/

/-- raw fields: neither `mpq_out_str` nor `mpq_inp_str` canonicalises -/
theorem mpq_roundtrip_of {wb rb : Int} {rest : List Nat} (hrest : ReadsBack wb rb rest)
    (h47 : ∀ l, ReadsBack wb rb (47 :: l)) (hslash : rest.head? ≠ some 47) (num den : Int) (q : Int × Int) :
    mpq_inp_str_rd q (mpqText wb num den ++ rest) rb = ((mpqText wb num den).length, (num, den), rest) := by
  have hne : ¬ (mpzText wb num).length = 0 := by
    obtain ⟨c0, t, h, _⟩ := hrest num 0 0
    rw [h]; simp
  unfold mpq_inp_str_rd mpqText
  by_cases hd : den ≠ 1
  · simp only [hd, ne_eq, not_false_eq_true, if_true, List.append_assoc, List.cons_append]
    rw [mpz_roundtrip_of (h47 _) num q.1]
    obtain ⟨c0, t, ht, _, hnw⟩ := hrest den 1 ((mpzText wb num).length + 1 + 1)
    simp only [hne, if_false, getc, if_true, ht, List.cons_append, hnw]
    have hne2 : ¬ ((mpzText wb num).length + 1 + 1 + (c0 :: t).length - 1 = 0) := by simp
    simp only [hne2, if_false]
    congr 1
    simp; omega
  · have hd1 : den = 1 := by simpa using hd
    subst hd1
    simp only [ne_eq, not_true_eq_false, if_false, List.append_nil]
    rw [mpz_roundtrip_of hrest num q.1]
    simp only [hne, if_false]
    cases rest with
    | nil => simp [getc, ungetc]
    | cons c r =>
      have hc47 : ¬ (some c = some 47) := by simpa using hslash
      simp [getc, ungetc, hc47]

theorem mpq_stream_roundtrip_of {wb rb : Int} {rest : List Nat} (hrest : ReadsBack wb rb rest)
    (h47 : ∀ l, ReadsBack wb rb (47 :: l)) (hslash : rest.head? ≠ some 47) (num den : Int) (q : Int × Int) :
    mpq_inp_str_rd q ((mpq_out_str {} wb num den).2.out ++ rest) rb = ((mpq_out_str {} wb num den).1, (num, den), rest) := by
  obtain ⟨e1, e2⟩ := mpq_out_str_text wb num den
  rw [e1, e2]
  exact mpq_roundtrip_of hrest h47 hslash num den q

/-! ### text round trip (mpf, stream level) -/

/-- what `mpf_out_str` writes, given the digit string `str` of `mpf_get_str` (with its sign) and `exp` -/
def mpfText (base : Int) (str : List Nat) (exp : Int) : List Nat :=
  (if str.head? = some 45 then [45] else []) ++ [48, 46] ++ (if str.head? = some 45 then str.tail else str) ++
    ((if (if base = 0 then 10 else base).natAbs ≤ 10 then 101 else 64) :: intText exp)

theorem mpf_out_str_text (base : Int) (str : List Nat) (exp : Int) :
    (mpf_out_str {} base str exp).2.out = mpfText base str exp ∧
    (mpf_out_str {} base str exp).1 = (mpfText base str exp).length := by
  have hf : (mpfChunks base str exp).flatten = mpfText base str exp := by
    unfold mpfChunks mpfText; split <;> simp
  rw [mpf_out_str_eq, ← mpfChunks_length, ← hf]
  exact outOf_fresh _ _

theorem readToken_stop (c : Nat) (r acc : List Nat) (hc : isspace c = true) :
    readToken (some c) r acc = (acc.reverse, some c, r) := by
  cases r <;> simp [readToken, hc]

theorem readToken_token (rest : List Nat) (hrest : ∀ c, rest.head? = some c → isspace c = true) :
    ∀ (t : List Nat) (c : Nat) (acc : List Nat), isspace c = false → (∀ e ∈ t, isspace e = false) →
    readToken (some c) (t ++ rest) acc = (acc.reverse ++ c :: t, rest.head?, rest.tail) := by
  intro t
  induction t with
  | nil =>
    intro c acc hc _
    cases rest with
    | nil => simp [readToken, hc]
    | cons d r =>
      have hd : isspace d = true := hrest d rfl
      simp only [List.nil_append, readToken, hc, Bool.false_eq_true, if_false]
      rw [readToken_stop d r _ hd]; simp
  | cons e t ih =>
    intro c acc hc ht
    simp only [List.cons_append, readToken, hc, Bool.false_eq_true, if_false]
    rw [ih e (c :: acc) (ht e (by simp)) (fun x hx => ht x (by simp [hx]))]
    simp

theorem intText_nospace (i : Int) : ∀ e ∈ intText i, isspace e = false := by
  have hdec : ∀ n : Nat, ∀ e ∈ decText n, isspace e = false := by
    intro n e he
    unfold decText at he
    split at he
    · have : e = 48 := by simpa using he
      subst this; decide
    · rw [List.mem_map] at he
      obtain ⟨d, hd, rfl⟩ := he
      rw [natDigits_eq (by decide)] at hd
      have := Radix.digitsOf_lt (by decide) n d hd
      unfold isspace; simp; omega
  intro e he
  unfold intText at he
  split at he
  · rcases List.mem_cons.mp he with h | h
    · subst h; decide
    · exact hdec _ e h
  · exact hdec _ e he

/-- the scanner returns any non-empty token without white space that is followed by white space or the end -/
theorem mpf_inp_str_scan_token (tok : List Nat) (hne : tok ≠ []) (hns : ∀ e ∈ tok, isspace e = false)
    (rest : List Nat) (hrest : ∀ c, rest.head? = some c → isspace c = true) :
    mpf_inp_str_scan (tok ++ rest) = (tok, tok.length, rest) := by
  obtain ⟨c0, t, rfl⟩ := List.exists_cons_of_ne_nil hne
  have hc0 : isspace c0 = false := hns c0 (by simp)
  unfold mpf_inp_str_scan
  simp only [List.cons_append, skipWs, hc0, Bool.false_eq_true, if_false]
  rw [readToken_token rest hrest t c0 [] hc0 (fun e he => hns e (by simp [he]))]
  simp [ungetc_head_tail]

theorem mpf_text_scan (base : Int) (str : List Nat) (exp : Int) (hstr : ∀ e ∈ str, isspace e = false)
    (rest : List Nat) (hrest : ∀ c, rest.head? = some c → isspace c = true) :
    mpf_inp_str_scan (mpfText base str exp ++ rest) = (mpfText base str exp, (mpfText base str exp).length, rest) := by
  have hns : ∀ e ∈ mpfText base str exp, isspace e = false := by
    intro e he
    unfold mpfText at he
    simp only [List.mem_append, List.mem_cons] at he
    rcases he with ((h | h) | h) | h
    · split at h
      · have : e = 45 := by simpa using h
        subst this; decide
      · simp at h
    · rcases h with h | h | h
      · subst h; decide
      · subst h; decide
      · simp at h
    · split at h
      · exact hstr e (List.mem_of_mem_tail h)
      · exact hstr e h
    · rcases h with h | h
      · rw [h]
        by_cases hm : (if base = 0 then 10 else base).natAbs ≤ 10 <;> simp only [hm, if_true, if_false] <;> decide
      · exact intText_nospace exp e h
  exact mpf_inp_str_scan_token _ (by unfold mpfText; split <;> simp) hns rest hrest

end Mpir.Io
