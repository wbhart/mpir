/- The limb lists of the mpf model in natural numbers only (no rational arithmetic is imported): the allocation and
   pointer levels take `top`, `Mant` and result sizes from here, as the value level does. -/
import MpirProofs.Lemmas.Base
import Mpir.Model.Mpf
import Mathlib.Tactic.NormNum
import Mathlib.Data.List.TakeDrop
import Mathlib.Data.List.Basic
namespace Mpir.Mpf
open Mpir

/-! ### the limb selection `top`, the top limb -/

theorem B_ge_two : 2 ≤ B := by rw [B_eq]; norm_num
theorem min_add_sub (n m : ℕ) : min n m + (m - n) = m := by omega

theorem top_length (n : Nat) (l : List Nat) : (top n l).length = min n l.length := by
  unfold top; simp; omega

theorem Limbs_top {l : List Nat} (h : Limbs l) (n : Nat) : Limbs (top n l) := Limbs_drop h _

theorem val_top (n : Nat) (l : List Nat) :
    val l = val (l.take (l.length - n)) + B ^ (l.length - n) * val (top n l) := val_split l _

theorem top_of_le {n : Nat} {l : List Nat} (h : l.length ≤ n) : top n l = l := by
  unfold top; rw [Nat.sub_eq_zero_of_le h]; rfl

theorem getLast?_top {n : Nat} {l : List Nat} (hn : 0 < n) : (top n l).getLast? = l.getLast? := by
  unfold top
  by_cases hl : l = []
  · subst hl; simp
  · have : l.length - n < l.length := by
      have := List.length_pos_of_ne_nil hl; omega
    rw [List.getLast?_drop]; simp; omega

theorem getLast?_eq_topLimb (l : List Nat) (hne : l ≠ []) : l.getLast? = some (topLimb l) := by
  unfold topLimb
  cases h : l.getLast? with
  | none => exact absurd (List.getLast?_eq_none_iff.mp h) hne
  | some x => rfl


theorem drop_eq_topLimb (l : List Nat) (n : Nat) (h : l.length = n + 1) : l.drop n = [topLimb l] := by
  have hne : l ≠ [] := by intro h0; rw [h0] at h; simp at h
  have h1 := List.drop_length_sub_one hne
  rw [h, Nat.add_sub_cancel] at h1
  rw [h1]; unfold topLimb; rw [List.getLast?_eq_some_getLast hne]; rfl

theorem val_take_top (l : List Nat) (n : Nat) (h : l.length = n + 1) :
    val l = val (l.take n) + B ^ n * topLimb l := by
  rw [val_take_drop l n (by omega), drop_eq_topLimb l n h]; simp

theorem two_pow_lt_B {k : Nat} (hk : k < 64) : 2 ^ k < B := by
  unfold B; exact Nat.pow_lt_pow_right (by norm_num) hk

theorem Limbs_singleton {w : Nat} (h : w < B) : Limbs [w] := Limbs_cons.mpr ⟨h, Limbs_nil⟩

/-! ### `Mant`: a normalised non-zero mantissa -/

structure Mant (d : List Nat) : Prop where
  limbs : Limbs d
  ne : d ≠ []
  norm : Normalized d

namespace Mant
variable {d : List Nat}

theorem length_pos (h : Mant d) : 0 < d.length := List.length_pos_of_ne_nil h.ne

theorem val_ge (h : Mant d) : B ^ (d.length - 1) ≤ val d := h.norm.ge h.ne

theorem val_pos (h : Mant d) : 0 < val d := h.norm.pos h.ne

theorem val_lt (h : Mant d) : val d < B ^ d.length := Mpir.val_lt d h.limbs

theorem of_val_ge (hl : Limbs d) (hne : d ≠ []) (h : B ^ (d.length - 1) ≤ val d) : Mant d :=
  ⟨hl, hne, Normalized.of_ge hl (Or.inr h)⟩

theorem singleton {w : ℕ} (h0 : w ≠ 0) (hB : w < B) : Mant [w] := ⟨Limbs_singleton hB, by simp, by simpa [Normalized] using h0⟩

theorem of_nat {n v : ℕ} (hn : 1 ≤ n) (h1 : B ^ (n - 1) ≤ v) (h2 : v < B ^ n) : Mant (toLimbs n v) := by
  have hlen := toLimbs_length n v
  refine of_val_ge (Limbs_toLimbs n v) (fun h => ?_) (by rw [hlen, val_toLimbs_lt _ _ h2]; exact h1)
  rw [h] at hlen; simp at hlen; omega

theorem top (h : Mant d) {n : ℕ} (hn : 0 < n) : Mant (Mpf.top n d) := by
  refine ⟨Limbs_top h.limbs n, fun h0 => ?_, by unfold Normalized; rw [getLast?_top hn]; exact h.norm⟩
  have := top_length n d
  rw [h0] at this
  have := h.length_pos
  simp at *; omega

end Mant

/-! ### the normalising tails of mul, div, mul_2exp (`stripTop`, `shiftUp`, `mulLimbs`) -/

/-- mul.c:73-80, div.c:141-144, mul_2exp.c:109-112: the top limb is dropped if it is zero; `z` limbs are dropped -/
theorem stripTop_spec (n v z : ℕ) (hlt : v < B ^ (n + 1)) (hge : B ^ (n - 1) ≤ v)
    (hz : z = if topLimb (toLimbs (n + 1) v) = 0 then 1 else 0) :
    Mant ((toLimbs (n + 1) v).take (n + 1 - z)) ∧ ((toLimbs (n + 1) v).take (n + 1 - z)).length = n + 1 - z ∧
    val ((toLimbs (n + 1) v).take (n + 1 - z)) = v ∧ z ≤ 1 := by
  have hv := val_toLimbs_lt _ _ hlt
  have hlen := toLimbs_length (n + 1) v
  have hlim := Limbs_toLimbs (n + 1) v
  have hsplit := val_take_top _ n hlen
  generalize toLimbs (n + 1) v = full at *
  have hl2 : (full.take (n + 1 - z)).length = n + 1 - z := by rw [List.length_take, hlen]; omega
  by_cases h0 : topLimb full = 0
  · rw [if_pos h0] at hz; subst hz
    rw [h0, mul_zero, add_zero, hv] at hsplit
    rw [Nat.add_sub_cancel] at hl2 ⊢
    refine ⟨Mant.of_val_ge (Limbs_take hlim n) ?_ ?_, hl2, hsplit.symm, le_refl _⟩
    · intro hnil; rw [hnil] at hsplit; have := Bpow_pos (n - 1); simp only [val] at hsplit; omega
    · rw [hl2, ← hsplit]; exact hge
  · rw [if_neg h0] at hz; subst hz
    rw [Nat.sub_zero, List.take_of_length_le (le_of_eq hlen)] at hl2 ⊢
    have hfne : full ≠ [] := by intro hnil; rw [hnil] at hlen; simp at hlen
    exact ⟨⟨hlim, hfne, by unfold Normalized; rw [getLast?_eq_topLimb full hfne]; simpa using h0⟩, hlen, hv, Nat.zero_le _⟩

theorem shiftUp_spec (up : List Nat) (k : Nat) (h : Mant up) (hk64 : k < 64) :
    Mant (shiftUp up k).1 ∧ (shiftUp up k).1.length = up.length + (shiftUp up k).2 ∧ (shiftUp up k).2 ≤ 1 ∧
    val (shiftUp up k).1 = val up * 2 ^ k := by
  have hn := h.length_pos
  have hlt : val up * 2 ^ k < B ^ (up.length + 1) := by
    rw [pow_succ]; exact Nat.mul_lt_mul'' h.val_lt (two_pow_lt_B hk64)
  have hge : B ^ (up.length - 1) ≤ val up * 2 ^ k :=
    le_trans h.val_ge (Nat.le_mul_of_pos_right _ (Nat.two_pow_pos k))
  unfold shiftUp
  simp only
  by_cases h0 : topLimb (toLimbs (up.length + 1) (val up * 2 ^ k)) = 0
  · obtain ⟨s1, s2, s3, _⟩ := stripTop_spec up.length _ 1 hlt hge (by rw [if_pos h0])
    simp only [h0, ne_eq, not_true_eq_false, if_false, Nat.add_zero]
    exact ⟨s1, s2, Nat.zero_le _, s3⟩
  · obtain ⟨s1, s2, s3, _⟩ := stripTop_spec up.length _ 0 hlt hge (by rw [if_neg h0])
    simp only [h0, ne_eq, not_false_eq_true, if_true]
    exact ⟨s1, s2, le_refl _, s3⟩

/-- mul.c:67-80: the product has L = usize + vsize − adj limbs, of which the top prec+1 are kept -/
theorem mulLimbs_spec (prec : Nat) (up vp : List Nat) (hu : Mant up) (hv : Mant vp) :
    ∃ L, L + (mulLimbs prec up vp).2 = up.length + vp.length ∧
    Mant (mulLimbs prec up vp).1 ∧ (mulLimbs prec up vp).1.length = min (prec + 1) L ∧
    ∃ lo, val up * val vp = lo + B ^ (L - (prec + 1)) * val (mulLimbs prec up vp).1 ∧ lo < B ^ (L - (prec + 1)) := by
  have ha := hu.length_pos
  have hb := hv.length_pos
  obtain ⟨n, hn⟩ : ∃ n, up.length + vp.length = n + 1 := ⟨up.length + vp.length - 1, by omega⟩
  have hlt : val up * val vp < B ^ (n + 1) := by
    rw [← hn, pow_add]; exact Nat.mul_lt_mul'' hu.val_lt hv.val_lt
  have hge : B ^ (n - 1) ≤ val up * val vp := by
    rw [show n - 1 = (up.length - 1) + (vp.length - 1) by omega, pow_add]
    exact Nat.mul_le_mul hu.val_ge hv.val_ge
  obtain ⟨s1, s2, s3, s4⟩ := stripTop_spec n (val up * val vp) _ hlt hge rfl
  unfold mulLimbs
  simp only
  rw [hn]
  generalize (if topLimb (toLimbs (n + 1) (val up * val vp)) = 0 then 1 else 0) = adj at *
  generalize (toLimbs (n + 1) (val up * val vp)).take (n + 1 - adj) = tp at *
  have hsplit := val_top (prec + 1) tp
  have hlo := val_take_lt s1.limbs (tp.length - (prec + 1))
  rw [s3, s2] at hsplit
  rw [s2] at hlo
  exact ⟨n + 1 - adj, by omega, s1.top (Nat.succ_pos prec), by rw [top_length, s2], _, hsplit, hlo⟩

/-! ### for the allocation and pointer levels: the C's limb selection; sizes -/

/-- `if (usize > prec) { up += usize - prec; usize = prec; }` of set.c, add.c, mul.c, … -/
theorem top_eq_ite (L : List Nat) (asize k : Nat) (h : asize ≤ L.length) :
    (L.drop (if asize > k then asize - k else 0)).take (if asize > k then k else asize) = top k (L.take asize) := by
  unfold top
  rw [List.length_take, Nat.min_eq_left h]
  split
  · rw [List.drop_take]; congr 1; omega
  · rw [show asize - k = 0 by omega]; simp

theorem Mant.size_eq {d : List Nat} (h : Mant d) {g : Nat → Nat} (hg : IsSize g) : g (val d) = d.length :=
  hg.of_normalized h.limbs h.norm

theorem topLimb_toLimbs (n v : Nat) : topLimb (toLimbs (n + 1) v) = v / B ^ n % B := by
  unfold topLimb; rw [toLimbs_snoc]; simp

theorem stripTop_size {g : Nat → Nat} (hg : IsSize g) (n v : ℕ) (hlt : v < B ^ (n + 1)) (hge : B ^ (n - 1) ≤ v) :
    n + 1 - (if v / B ^ n % B = 0 then 1 else 0) = g v := by
  rw [hg.eq_sub_top (k := n + 1) (Nat.succ_pos n) hlt (fun _ => hge), Nat.add_sub_cancel,
    Nat.mod_eq_of_lt ((Nat.div_lt_iff_lt_mul (Bpow_pos n)).mpr (by rwa [pow_succ'] at hlt))]

end Mpir.Mpf
