/- The prime-swing algorithm of mpz/oddfac_1.c (`mpz_2multiswing_1`, model in Mpir/Model/Numth.lean):
   Legendre's formula in recursive form, the exponent of p in the swing number n! / ⌊n/2⌋!², the
   SWING_A_PRIME / SH_SWING_A_PRIME macros, the three prime ranges, products over the sieve walk. -/
import MpirProofs.Lemmas.SieveLoop
namespace Mpir.Numth
open Mpir Mpir.Gen.NumthTabs Mpir.Sieve
open Nat

theorem legendre_step (p q : ℕ) [hp : Fact p.Prime] : padicValNat p q ! = q / p + padicValNat p (q / p)! := by
  have h : q = p * (q / p) + q % p := (Nat.div_add_mod q p).symm
  have hlt : q % p < p := Nat.mod_lt _ hp.out.pos
  conv_lhs => rw [h]
  rw [padicValNat_factorial_mul_add (q / p) hlt, padicValNat_factorial_mul]; omega

/-- Σ_{k ≥ 1} (⌊q/p^k⌋ mod 2), summed the way SWING_A_PRIME walks: `do { q /= p; e += q & 1; } while (q >= p)` -/
def swExp (p : ℕ) : ℕ → ℕ → ℕ
  | 0, _ => 0
  | f + 1, q => (q / p) % 2 + (if q / p ≥ p then swExp p f (q / p) else 0)

theorem swExp_lt (p f q : ℕ) (h : q < p) : swExp p f q = 0 := by
  cases f with
  | zero => rfl
  | succ f =>
    have : q / p = 0 := Nat.div_eq_of_lt h
    simp only [swExp, this]
    have : ¬ (0 ≥ p) := by omega
    simp [this]

theorem swExp_succ (p f q : ℕ) : swExp p (f + 1) q = (q / p) % 2 + swExp p f (q / p) := by
  simp only [swExp]
  by_cases h : q / p ≥ p
  · simp [h]
  · simp only [h, if_false]; rw [swExp_lt p f (q / p) (by omega)]

/-- above the square root a single pass of SWING_A_PRIME's loop is made -/
theorem swExp_of_div_lt {p f q : ℕ} (hf : 0 < f) (h : q / p < p) : swExp p f q = q / p % 2 := by
  obtain ⟨f, rfl⟩ : ∃ g, f = g + 1 := ⟨f - 1, by omega⟩
  rw [swExp_succ, swExp_lt p f _ h, Nat.add_zero]

theorem legendre_swing (p : ℕ) [hp : Fact p.Prime] :
    ∀ f q, q < 2 ^ f → padicValNat p q ! = 2 * padicValNat p (q / 2)! + swExp p f q := by
  intro f
  induction f with
  | zero =>
    intro q hq
    have : q = 0 := by simpa using hq
    subst this; simp [swExp]
  | succ f ih =>
    intro q hq
    have hp2 := hp.out.two_le
    have hq' : q / p < 2 ^ f := by
      have : q / p ≤ q / 2 := Nat.div_le_div_left hp2 (by norm_num)
      rw [pow_succ] at hq; omega
    rw [swExp_succ, legendre_step p q, legendre_step p (q / 2), ih (q / p) hq']
    have e : q / 2 / p = q / p / 2 := by rw [Nat.div_div_eq_div_mul, Nat.div_div_eq_div_mul, Nat.mul_comm]
    rw [e]; omega

theorem swExp_eq_sum (p : ℕ) : ∀ f q, swExp p f q = ∑ k ∈ Finset.Ico 1 (f + 1), (q / p ^ k) % 2 := by
  intro f
  induction f with
  | zero => intro q; simp [swExp]
  | succ f ih =>
    intro q
    rw [swExp_succ, ih (q / p), Finset.sum_Ico_eq_sum_range, Finset.sum_Ico_eq_sum_range]
    simp only [Nat.add_sub_cancel]
    rw [Finset.sum_range_succ' _ f]
    simp only [Nat.add_zero, pow_one]
    rw [Nat.add_comm]
    congr 1
    apply Finset.sum_congr rfl
    intro k _
    rw [Nat.div_div_eq_div_mul, show 1 + (k + 1) = (1 + k) + 1 by omega, pow_succ' p (1 + k)]

theorem pow_swExp_le (p : ℕ) (hp : 2 ≤ p) : ∀ f q, 1 ≤ q → p ^ swExp p f q ≤ q := by
  intro f
  induction f with
  | zero => intro q hq; simpa [swExp] using hq
  | succ f ih =>
    intro q hq
    rw [swExp_succ]
    by_cases h0 : q / p = 0
    · rw [h0, swExp_lt p f 0 (by omega)]; simpa using hq
    · have h1 : 1 ≤ q / p := Nat.pos_of_ne_zero h0
      have h2 := ih (q / p) h1
      have h3 : p ^ (q / p % 2) ≤ p := by
        rcases Nat.mod_two_eq_zero_or_one (q / p) with h | h
        · rw [h]; simp; omega
        · rw [h]; simp
      have h4 : p * (q / p) ≤ q := Nat.mul_div_le q p
      rw [pow_add]
      calc p ^ (q / p % 2) * p ^ swExp p f (q / p) ≤ p * (q / p) := Nat.mul_le_mul h3 h2
        _ ≤ q := h4

/-- SWING_A_PRIME's loop (oddfac_1.c:164-175) -/
theorem swingPowers_eq (p : ℕ) (hp : 1 ≤ p) :
    ∀ f q pr, pr * p ^ swExp p f q < B → swingPowers p f q pr = pr * p ^ swExp p f q := by
  intro f
  induction f with
  | zero => intro q pr _; simp [swingPowers, swExp]
  | succ f ih =>
    intro q pr hlt
    rw [swExp_succ] at hlt ⊢
    simp only [swingPowers]
    rw [pow_add] at hlt ⊢
    have hpos : 1 ≤ p ^ swExp p f (q / p) := Nat.one_le_pow _ _ (by omega)
    rcases Nat.mod_two_eq_zero_or_one (q / p) with h | h
    · rw [h] at hlt ⊢
      simp only [pow_zero, one_mul, show ¬ ((0 : ℕ) = 1) by omega, if_false] at hlt ⊢
      by_cases hge : q / p ≥ p
      · simp only [hge, if_true]; exact ih _ _ hlt
      · simp only [hge, if_false]; rw [swExp_lt p f _ (by omega)]; simp
    · rw [h] at hlt ⊢
      simp only [pow_one, if_true] at hlt ⊢
      have hfit : pr * p < B := by
        calc pr * p ≤ pr * (p * p ^ swExp p f (q / p)) := Nat.mul_le_mul_left _ (Nat.le_mul_of_pos_right _ hpos)
          _ < B := hlt
      rw [Nat.mod_eq_of_lt hfit]
      by_cases hge : q / p ≥ p
      · simp only [hge, if_true]
        rw [ih _ _ (by rw [Nat.mul_assoc]; exact hlt)]; ring
      · simp only [hge, if_false]; rw [swExp_lt p f _ (by omega)]; simp

theorem flAppend_val (M : ℕ) (st : FL) : flVal (flAppend M st) = flVal st ∧ (1 ≤ M → (flAppend M st).2 ≤ M) := by
  obtain ⟨l, pr⟩ := st
  unfold flAppend
  by_cases h : pr > M
  · simp only [h, if_true, flVal_mk, prodList]
    exact ⟨by ring, fun h1 => h1⟩
  · simp only [h, if_false]
    exact ⟨trivial, fun _ => by simpa using h⟩

/-- FACTOR_LIST_APPEND, then a loop that multiplies the running limb by p^e whenever that fits (SWING_A_PRIME, COUNT_A_PRIME) -/
theorem flAppend_pow_val (pw : ℕ → ℕ) (M p e : ℕ) (hM : 1 ≤ M) (hfit : M * p ^ e < B)
    (hpw : ∀ pr, pr * p ^ e < B → pw pr = pr * p ^ e) (st : FL) :
    flVal ((flAppend M st).1, pw (flAppend M st).2) = flVal st * p ^ e := by
  obtain ⟨h1, h2⟩ := flAppend_val M st
  have hle := h2 hM
  generalize flAppend M st = st' at h1 hle
  obtain ⟨l, pr⟩ := st'
  simp only at hle ⊢
  rw [hpw pr (Nat.lt_of_le_of_lt (Nat.mul_le_mul_right _ hle) hfit), ← h1]
  simp only [flVal_mk]; ring

theorem swingAPrime_val (n M p : ℕ) (hp : 1 ≤ p) (hM : 1 ≤ M) (hfit : M * p ^ swExp p 64 n < B) (st : FL) :
    flVal (swingAPrime n M p st) = flVal st * p ^ swExp p 64 n :=
  flAppend_pow_val (swingPowers p 64 n) M p _ hM hfit (swingPowers_eq p hp 64 n) st

theorem shSwingAPrime_val (n M p : ℕ) (hfit : M * p < B) (st : FL) :
    flVal (shSwingAPrime n M p st) = flVal st * p ^ (n / p % 2) := by
  unfold shSwingAPrime
  rcases Nat.mod_two_eq_zero_or_one (n / p) with h | h
  · rw [h, if_neg (by decide), pow_zero, Nat.mul_one]
  · rw [h, if_pos rfl, pow_one]; exact flStore_val_of_le st le_rfl hfit

/-- the factor that a product over the primes takes at i -/
def atPrime (g : ℕ → ℕ) (i : ℕ) : ℕ := if i.Prime then g i else 1

theorem prod_atPrime_eq_one {g : ℕ → ℕ} {a b : ℕ} (h : ∀ x, a ≤ x → x < b → x.Prime → g x = 1) :
    ∏ i ∈ Finset.Ico a b, atPrime g i = 1 :=
  Finset.prod_eq_one fun i hi => by
    unfold atPrime; split
    · exact h i (Finset.mem_Ico.1 hi).1 (Finset.mem_Ico.1 hi).2 ‹_›
    · rfl

theorem prod_atPrime_pos {g : ℕ → ℕ} (hg : ∀ x, x.Prime → 0 < g x) (a b : ℕ) : 0 < ∏ i ∈ Finset.Ico a b, atPrime g i :=
  Finset.prod_pos fun i _ => by unfold atPrime; split; exacts [hg i ‹_›, Nat.one_pos]

theorem prod_atPrime_from_three (g : ℕ → ℕ) {b : ℕ} (hb : 5 ≤ b) :
    ∏ i ∈ Finset.Ico 3 b, atPrime g i = g 3 * ∏ i ∈ Finset.Ico 5 b, atPrime g i := by
  rw [Finset.prod_eq_prod_Ico_succ_bot (by omega), Finset.prod_eq_prod_Ico_succ_bot (by omega), atPrime, atPrime,
    if_pos Nat.prime_three, if_neg (by decide), Nat.one_mul]

theorem sieveWalk_val (body : ℕ → FL → FL) (g : ℕ → ℕ) :
    ∀ cnt b st, (∀ j st, b ≤ j → j < b + cnt → (bit_to_n j).Prime → flVal (body (bit_to_n j) st) = flVal st * g (bit_to_n j)) →
      flVal (sieveWalk body cnt b st) = flVal st * ∏ j ∈ Finset.Ico b (b + cnt), atPrime g (bit_to_n j) := by
  intro cnt
  induction cnt with
  | zero => intro b st _; simp [sieveWalk]
  | succ c ih =>
    intro b st h
    rw [sieveWalk, ih (b + 1) _ (fun j st' h1 h2 h3 => h j st' (by omega) (by omega) h3),
      Finset.prod_eq_prod_Ico_succ_bot (show b < b + (c + 1) by omega), show b + 1 + c = b + (c + 1) by omega, atPrime]
    by_cases hp : (bit_to_n b).Prime
    · rw [if_pos ((isPrimeTD_iff _).2 hp), if_pos hp, h b st le_rfl (by omega) hp, Nat.mul_assoc]
    · rw [if_neg (fun e => hp ((isPrimeTD_iff _).1 e)), if_neg hp, Nat.one_mul]

/-- a walk over the sieve positions misses no prime: none lies strictly between two consecutive positions -/
theorem prod_walk_eq (g : ℕ → ℕ) : ∀ cnt b,
    ∏ j ∈ Finset.Ico b (b + cnt), atPrime g (bit_to_n j) = ∏ i ∈ Finset.Ico (bit_to_n b) (bit_to_n (b + cnt)), atPrime g i := by
  intro cnt
  induction cnt with
  | zero => intro b; simp
  | succ c ih =>
    intro b
    have hq : ∏ i ∈ Finset.Ico (bit_to_n (b + c) + 1) (bit_to_n (b + c + 1)), atPrime g i = 1 :=
      prod_atPrime_eq_one fun x h1 h2 hp => by
        have := bit_to_n_ge (b + c)
        rcases prime_lt_next hp (by omega) h2 with h | h <;> omega
    rw [← Nat.add_assoc, Finset.prod_Ico_succ_top (by omega), ih,
      ← Finset.prod_Ico_consecutive _ (bit_to_n_le (Nat.le_add_right b c)) (bit_to_n_le (Nat.le_succ (b + c))),
      Finset.prod_eq_prod_Ico_succ_bot (bit_to_n_lt (Nat.lt_succ_self (b + c))), hq, Nat.mul_one]

theorem nb_le_succ (n : ℕ) (h5 : 5 ≤ n) : bit_to_n (nb n) ≤ n ∧ n < bit_to_n (nb n + 1) := by
  rw [bit_to_n_eq, bit_to_n_eq, nb_eq]; omega

theorem prod_atPrime_gap (g : ℕ → ℕ) {m : ℕ} (h5 : 5 ≤ m) :
    ∏ i ∈ Finset.Ico (m + 1) (bit_to_n (nb m + 1)), atPrime g i = 1 :=
  prod_atPrime_eq_one fun x h1 h2 hp => by
    have := (nb_le_succ m h5).1
    rcases prime_lt_next hp (by omega) h2 with h | h <;> omega

/-- one LOOP_ON_SIEVE from bit s to the bit of b -/
theorem loopOnSieve_val (g : ℕ → ℕ) (body : ℕ → FL → FL) (s b : ℕ) (st : FL) (h5 : 5 ≤ b) (hs : s ≤ nb b)
    (hbody : ∀ p st, p.Prime → bit_to_n s ≤ p → p ≤ b → flVal (body p st) = flVal st * g p) :
    flVal (loopOnSieve s (nb b) body st) = flVal st * ∏ i ∈ Finset.Ico (bit_to_n s) (b + 1), atPrime g i := by
  obtain ⟨h1, h2⟩ := nb_le_succ b h5
  have h3 : bit_to_n s ≤ bit_to_n (nb b) := bit_to_n_le hs
  unfold loopOnSieve
  rw [if_neg (by omega), sieveWalk_val body g _ _ _ (fun j st' g1 g2 hp =>
      hbody _ st' hp (bit_to_n_le g1) (Nat.le_trans (bit_to_n_le (by omega)) h1)),
    prod_walk_eq, show s + (nb b - s + 1) = nb b + 1 by omega,
    ← Finset.prod_Ico_consecutive _ (show bit_to_n s ≤ b + 1 by omega) (show b + 1 ≤ bit_to_n (nb b + 1) by omega),
    prod_atPrime_gap g h5, Nat.mul_one]

/-- the same loop started just after the bit of a: the primes in (a, b] -/
theorem loopOnSieve_val_after (g : ℕ → ℕ) (body : ℕ → FL → FL) (a b : ℕ) (st : FL) (ha : 5 ≤ a) (hab : nb a + 1 ≤ nb b)
    (hbody : ∀ p st, p.Prime → a < p → p ≤ b → flVal (body p st) = flVal st * g p) :
    flVal (loopOnSieve (nb a + 1) (nb b) body st) = flVal st * ∏ i ∈ Finset.Ico (a + 1) (b + 1), atPrime g i := by
  have hb5 : 5 ≤ b := by rw [nb_eq, nb_eq] at hab; omega
  have h2 := (nb_le_succ a ha).2
  have h3 : bit_to_n (nb a + 1) ≤ b := (le_nb_iff _ _ hb5).1 hab
  rw [loopOnSieve_val g body _ b st hb5 hab (fun p st' hp g1 g2 => hbody p st' hp (by omega) g2),
    ← Finset.prod_Ico_consecutive _ (show a + 1 ≤ bit_to_n (nb a + 1) by omega) (show bit_to_n (nb a + 1) ≤ b + 1 by omega),
    prod_atPrime_gap g ha, Nat.one_mul]

/-- The three sieve loops shared by mpz_2multiswing_1 and mpz_goetgheluck_bin_uiui, over the primes 5 ≤ p ≤ a, a < p ≤ b and
    c < p ≤ d; no loop visits the primes between b and c.  (`nb a + 1 ≤ nb b`, `nb c + 1 ≤ nb d`: each
    do-while loop runs at least once, so its range must not be empty — the C's ASSERTs.) -/
theorem three_loops_val (G : ℕ → ℕ) (b1 b2 b3 : ℕ → FL → FL) (a b c d : ℕ) (st : FL)
    (ha : 5 ≤ a) (hab : nb a + 1 ≤ nb b) (hbc : b ≤ c) (hcd : nb c + 1 ≤ nb d)
    (h1 : ∀ p st, p.Prime → 5 ≤ p → p ≤ a → flVal (b1 p st) = flVal st * G p)
    (h2 : ∀ p st, p.Prime → a < p → p ≤ b → flVal (b2 p st) = flVal st * G p)
    (hmid : ∀ p, p.Prime → b < p → p ≤ c → G p = 1)
    (h3 : ∀ p st, p.Prime → c < p → p ≤ d → flVal (b3 p st) = flVal st * G p) :
    flVal (loopOnSieve (nb c + 1) (nb d) b3 (loopOnSieve (nb a + 1) (nb b) b2 (loopOnSieve 0 (nb a) b1 st))) =
      flVal st * ∏ i ∈ Finset.Ico 5 (d + 1), atPrime G i := by
  have hb5 : 5 ≤ b := by rw [nb_eq, nb_eq] at hab; omega
  have hab' : a < b := lt_of_lt_of_le (nb_le_succ a ha).2 ((le_nb_iff _ _ hb5).1 hab)
  have hd5 : 5 ≤ d := by rw [nb_eq, nb_eq] at hcd; omega
  have hcd' : c < d := lt_of_lt_of_le (nb_le_succ c (by omega)).2 ((le_nb_iff _ _ hd5).1 hcd)
  rw [loopOnSieve_val_after G b3 c d _ (by omega) hcd h3, loopOnSieve_val_after G b2 a b _ ha hab h2,
    loopOnSieve_val G b1 0 a st ha (Nat.zero_le _) (fun p st' hp g1 g2 => h1 p st' hp (by rwa [show bit_to_n 0 = 5 by decide] at g1) g2),
    show bit_to_n 0 = 5 by decide,
    ← Finset.prod_Ico_consecutive (atPrime G) (show 5 ≤ c + 1 by omega) (show c + 1 ≤ d + 1 by omega),
    ← Finset.prod_Ico_consecutive (atPrime G) (show 5 ≤ b + 1 by omega) (show b + 1 ≤ c + 1 by omega),
    ← Finset.prod_Ico_consecutive (atPrime G) (show 5 ≤ a + 1 by omega) (show a + 1 ≤ b + 1 by omega),
    prod_atPrime_eq_one (g := G) (a := b + 1) (b := c + 1) (fun x g1 g2 hp => hmid x hp (by omega) (by omega)), Nat.mul_one]
  ring

theorem ppow_pos (e : ℕ → ℕ) (x : ℕ) (hx : x.Prime) : 0 < x ^ e x := Nat.pow_pos hx.pos

theorem padicValNat_prod_atPrime (e : ℕ → ℕ) (q : ℕ) [hq : Fact q.Prime] (a b : ℕ) :
    padicValNat q (∏ i ∈ Finset.Ico a b, atPrime (fun x => x ^ e x) i) = if a ≤ q ∧ q < b then e q else 0 := by
  rw [← Nat.factorization_def _ hq.out, Nat.factorization_prod fun i _ => (by
      unfold atPrime; split; exacts [(ppow_pos e i ‹_›).ne', one_ne_zero]), Finsupp.finsetSum_apply]
  have h : ∀ i ∈ Finset.Ico a b, (atPrime (fun x => x ^ e x) i).factorization q = if i = q then e q else 0 := fun i _ => by
    unfold atPrime
    split
    · next hi => rw [hi.factorization_pow, Finsupp.single_apply]; split <;> simp_all
    · next hi => rw [Nat.factorization_one, Finsupp.zero_apply, if_neg fun h : i = q => hi (h ▸ hq.out)]
  rw [Finset.sum_congr rfl h, Finset.sum_ite_eq']
  simp only [Finset.mem_Ico]

theorem padicValNat_oddPart (q m : ℕ) [hq : Fact q.Prime] (hm : m ≠ 0) :
    padicValNat q (oddPart m) = if q = 2 then 0 else padicValNat q m := by
  obtain ⟨ho, t, ht⟩ := oddPart_spec m hm
  by_cases h2 : q = 2
  · subst h2
    simp only [if_true]
    exact padicValNat.eq_zero_of_not_dvd (by omega)
  · simp only [h2, if_false]
    have hop : oddPart m ≠ 0 := by omega
    conv_rhs => rw [ht]
    have : Fact (Nat.Prime 2) := ⟨Nat.prime_two⟩
    rw [padicValNat.mul (by positivity) hop, padicValNat.pow, padicValNat_primes h2]
    omega

/-- **The swing identity**: odd part of n! = ∏_{odd primes p ≤ n} p^(Σ_k ⌊n/p^k⌋ mod 2) · (odd part of ⌊n/2⌋!)² -/
theorem oddPart_factorial_swing (n b : ℕ) (hn : n < 2 ^ 64) (hb : n < b) :
    oddPart (n !) = (∏ i ∈ Finset.Ico 3 b, atPrime (fun x => x ^ swExp x 64 n) i) * oddPart ((n / 2)!) ^ 2 := by
  have h1 : oddPart (n !) ≠ 0 := by have := (oddPart_spec _ (Nat.factorial_ne_zero n)).1; omega
  have h2 : oddPart ((n / 2)!) ≠ 0 := by have := (oddPart_spec _ (Nat.factorial_ne_zero (n / 2))).1; omega
  have h3 : ∏ i ∈ Finset.Ico 3 b, atPrime (fun x => x ^ swExp x 64 n) i ≠ 0 :=
    Nat.pos_iff_ne_zero.1 (prod_atPrime_pos (ppow_pos _) 3 b)
  apply Nat.eq_of_factorization_eq h1 (Nat.mul_ne_zero h3 (pow_ne_zero _ h2))
  intro p
  by_cases hp : p.Prime
  · have : Fact p.Prime := ⟨hp⟩
    rw [Nat.factorization_def _ hp, Nat.factorization_def _ hp, padicValNat.mul h3 (pow_ne_zero _ h2),
      padicValNat.pow, padicValNat_prod_atPrime, padicValNat_oddPart p _ (Nat.factorial_ne_zero n),
      padicValNat_oddPart p _ (Nat.factorial_ne_zero (n / 2))]
    by_cases h2' : p = 2
    · subst h2'; simp
    · simp only [h2', if_false]
      have hl := legendre_swing p 64 n hn
      have hp3 : 3 ≤ p := by have := hp.two_le; omega
      by_cases hin : 3 ≤ p ∧ p < b
      · simp only [hin, and_self, if_true]; omega
      · simp only [hin, if_false]
        rw [swExp_lt p 64 n (by omega)] at hl; omega
  · rw [Nat.factorization_eq_zero_of_not_prime _ hp, Nat.factorization_eq_zero_of_not_prime _ hp]

/-- oddfac_1.c:133-134 "It gives: x <= limb_apprsqrt (x) ^ 2 < x * 9/4" -/
theorem apprsqrt_bounds (x : ℕ) (hx : 25 ≤ x) :
    x ≤ limb_apprsqrt x * limb_apprsqrt x ∧ 4 * (limb_apprsqrt x * limb_apprsqrt x) < 9 * x := by
  unfold limb_apprsqrt
  have h1 : 2 ^ (x - 1).log2 ≤ x - 1 := Nat.log2_self_le (by omega)
  have h2 : x - 1 < 2 ^ ((x - 1).log2 + 1) := Nat.lt_log2_self
  generalize (x - 1).log2 = s at *
  have hs : 4 ≤ s := by
    by_contra hlt
    have : 2 ^ (s + 1) ≤ 2 ^ 4 := Nat.pow_le_pow_right (by norm_num) (by omega)
    omega
  rcases Nat.even_or_odd' s with ⟨k, rfl | rfl⟩
  · have e1 : 2 * k / 2 = k := by omega
    have e2 : (2 * k - 1) / 2 = k - 1 := by omega
    simp only [e1, e2]
    obtain ⟨m, rfl⟩ : ∃ m, k = m + 1 := ⟨k - 1, by omega⟩
    simp only [Nat.add_sub_cancel]
    have p1 : 2 ^ (m + 1) = 2 * 2 ^ m := by rw [pow_succ]; ring
    have p2 : 2 ^ (2 * (m + 1)) = 4 * (2 ^ m * 2 ^ m) := by
      rw [show 2 * (m + 1) = m + m + 2 by ring, pow_add, pow_add]; ring
    have p3 : 2 ^ (2 * (m + 1) + 1) = 8 * (2 ^ m * 2 ^ m) := by rw [pow_succ, p2]; ring
    rw [p2] at h1; rw [p3] at h2; rw [p1]
    generalize 2 ^ m = A at *
    have e : (2 * A + A) * (2 * A + A) = 9 * (A * A) := by ring
    rw [e]
    generalize A * A = Q at *
    constructor <;> omega
  · have e1 : (2 * k + 1) / 2 = k := by omega
    have e2 : (2 * k + 1 - 1) / 2 = k := by omega
    simp only [e1, e2]
    have p2 : 2 ^ (2 * k + 1) = 2 * (2 ^ k * 2 ^ k) := by
      rw [show 2 * k + 1 = k + k + 1 by ring, pow_add, pow_add]; ring
    have p3 : 2 ^ (2 * k + 1 + 1) = 4 * (2 ^ k * 2 ^ k) := by rw [pow_succ, p2]; ring
    rw [p2] at h1; rw [p3] at h2
    generalize 2 ^ k = A at *
    have e : (A + A) * (A + A) = 4 * (A * A) := by ring
    rw [e]
    generalize A * A = Q at *
    constructor <;> omega

theorem apprsqrt_facts (n : ℕ) (h25 : 25 ≤ n) (hn : n < B) :
    5 ≤ limb_apprsqrt n ∧ limb_apprsqrt n < B ∧ ∀ x, limb_apprsqrt n < x → n / x < x := by
  obtain ⟨hr1, hr2⟩ := apprsqrt_bounds n h25
  generalize limb_apprsqrt n = r at *
  have hr5 : 5 ≤ r := by
    by_contra hlt
    have : r * r ≤ 4 * 4 := Nat.mul_le_mul (by omega) (by omega)
    omega
  refine ⟨hr5, ?_, fun x hx => ?_⟩
  · by_contra hge
    have : B * 5 ≤ r * r := Nat.mul_le_mul (by omega) hr5
    omega
  · rw [Nat.div_lt_iff_lt_mul (by omega)]
    exact lt_of_le_of_lt hr1 (Nat.mul_lt_mul'' hx hx)

theorem swing_ranges_small : ∀ n < 100, 25 ≤ n → nb (limb_apprsqrt n) + 1 ≤ nb (n / 3) := by
  decide +kernel

/-- oddfac_1.c:233 `ASSERT (s <= n_to_bit (n / 3))` (after `s++`) -/
theorem swing_ranges (n : ℕ) (h26 : 25 ≤ n) : nb (limb_apprsqrt n) + 1 ≤ nb (n / 3) := by
  by_cases hsmall : n < 100
  · exact swing_ranges_small n hsmall h26
  · obtain ⟨h1, h2⟩ := apprsqrt_bounds n h26
    generalize limb_apprsqrt n = r at *
    have hr : 10 ≤ r := by
      by_contra hlt
      have : r * r ≤ 9 * 9 := Nat.mul_le_mul (by omega) (by omega)
      omega
    have h3 : 3 * r + 12 ≤ n := by
      have : 10 * r ≤ r * r := Nat.mul_le_mul_right r hr
      omega
    rw [le_nb_iff _ _ (by omega)]
    rw [bit_to_n_eq, nb_eq]; omega

theorem div_eq_two {n x : ℕ} (h1 : n / 3 < x) (h2 : x ≤ n / 2) : n / x = 2 :=
  Nat.div_eq_of_lt_le (by omega) (by omega)
theorem div_eq_one {n x : ℕ} (h1 : n / 2 < x) (h2 : x ≤ n) : n / x = 1 :=
  Nat.div_eq_of_lt_le (by omega) (by omega)

theorem swExp_mid {p n : ℕ} (hp : 3 ≤ p) (h1 : n / 3 < p) (h2 : p ≤ n / 2) : swExp p 64 n = 0 := by
  rw [swExp_of_div_lt (by decide) (by rw [div_eq_two h1 h2]; omega), div_eq_two h1 h2]

theorem swExp_top {p n : ℕ} (hp : 2 ≤ p) (h1 : n / 2 < p) (h2 : p ≤ n) : swExp p 64 n = 1 := by
  rw [swExp_of_div_lt (by decide) (by rw [div_eq_one h1 h2]; omega), div_eq_one h1 h2]

theorem pow_swExp_le_pred (p n : ℕ) (hp : p.Prime) (hp2 : p ≠ 2) (hn : 2 ≤ n) (he : n % 2 = 0) :
    p ^ swExp p 64 n ≤ n - 1 := by
  have h := pow_swExp_le p hp.two_le 64 n (by omega)
  have hodd : Odd (p ^ swExp p 64 n) := (hp.odd_of_ne_two hp2).pow
  have : p ^ swExp p 64 n % 2 = 1 := Nat.odd_iff.1 hodd
  omega

end Mpir.Numth
