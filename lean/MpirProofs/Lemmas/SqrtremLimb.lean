/- mpn_dc_sqrtrem at limb-buffer level (Model/SqrtremLimb.lean) computes what the value-level recursion
   (Model/Root.lean `dcSqrtrem`, proved equal to ⌊√N⌋ and the remainder) computes: every reduction modulo a buffer
   size is the identity on the value in flight, every carry / borrow limb is accounted for by `c`, `b`, `q`.
   Line numbers (`:268-270` …) are those of mpn/generic/sqrtrem.c. -/
import MpirProofs.Lemmas.Root
import MpirProofs.Lemmas.Arith
import Mpir.Model.SqrtremLimb
namespace Mpir.SqrtL
open Mpir Mpir.Root

/-- :268-270 — the pre-subtraction (when the recursive remainder has its carry limb set) and the division give the
    quotient `⌊(R1·W + a1)/s1⌋` split as `q·W + {sp, l}` and the remainder. -/
theorem divStep_spec (W H s1 R1 a1 : Nat) (hs : H ≤ 2 * s1) (hsH : s1 < H) (hr : R1 ≤ 2 * s1) :
    ∃ qn sp0, divStep W H s1 (R1 % H) (R1 / H) a1 = (qn, sp0, (R1 * W + a1) % s1) ∧
      qn * W + sp0 = (R1 * W + a1) / s1 ∧ (0 < W → sp0 < W) := by
  have hs1 : 0 < s1 := by omega
  have hHpos : 0 < H := by omega
  have hq : R1 / H < 2 := (Nat.div_lt_iff_lt_mul hHpos).mpr (by omega)
  have hdm := Nat.div_add_mod R1 H
  unfold divStep
  dsimp only
  have h01 : R1 / H = 0 ∨ R1 / H = 1 := by
    generalize R1 / H = x at hq; omega
  rcases h01 with h0 | h1
  · rw [h0] at hdm ⊢
    simp only [ne_eq, not_true_eq_false, if_false, Nat.zero_add]
    have e : R1 % H = R1 := by omega
    rw [e]
    refine ⟨_, _, rfl, ?_, fun hW => Nat.mod_lt _ hW⟩
    have := Nat.div_add_mod ((R1 * W + a1) / s1) W
    rw [Nat.mul_comm] at this; exact this
  · rw [h1] at hdm ⊢
    simp only [ne_eq, Nat.one_ne_zero, not_false_eq_true, if_true]
    have e : (R1 % H + H - s1) % H = R1 - s1 := by
      have e1 : R1 % H + H - s1 = R1 - s1 := by omega
      rw [e1]; exact Nat.mod_eq_of_lt (by omega)
    rw [e]
    have hnum : R1 * W + a1 = (R1 - s1) * W + a1 + s1 * W := by
      rw [Nat.sub_mul]
      have : s1 * W ≤ R1 * W := Nat.mul_le_mul_right _ (by omega)
      omega
    have e2 : (R1 * W + a1) / s1 = ((R1 - s1) * W + a1) / s1 + W := by
      rw [hnum, Nat.add_mul_div_left _ _ hs1]
    have e3 : (R1 * W + a1) % s1 = ((R1 - s1) * W + a1) % s1 := by
      rw [hnum, Nat.add_mul_mod_self_left]
    rw [e3]
    refine ⟨_, _, rfl, ?_, fun hW => Nat.mod_lt _ hW⟩
    rw [e2]
    have := Nat.div_add_mod (((R1 - s1) * W + a1) / s1) W
    rw [Nat.mul_comm] at this
    rw [Nat.add_mul]
    omega

theorem shl63_mod (q : Nat) (hq : q ≤ 2) : (q <<< 63) % B = q % 2 * 2 ^ 63 := by
  rcases (by omega : q = 0 ∨ q = 1 ∨ q = 2) with rfl | rfl | rfl <;> decide

/-- :271-274 — halving the quotient across the limb boundary `q : {sp, l}`. -/
theorem halfStep_spec (l qn sp0 qs : Nat) (hl : 1 ≤ l) (hq : qn * B ^ l + sp0 = qs) (hsp : sp0 < B ^ l)
    (hQ : qs / 2 ≤ B ^ l) :
    ∃ sp0h q1, halfStep l qn sp0 = (qs % 2, sp0h, q1) ∧ q1 * B ^ l + sp0h = qs / 2 ∧ sp0h < B ^ l ∧ q1 ≤ 1 ∧
      (q1 = 1 → sp0h = 0) := by
  obtain ⟨k, hk⟩ : ∃ k, B ^ (l - 1) = 2 ^ k := ⟨64 * (l - 1), by unfold B; rw [← pow_mul]⟩
  have hW : B ^ l = 2 * (2 ^ 63 * 2 ^ k) := by
    have : l = (l - 1) + 1 := by omega
    conv_lhs => rw [this, pow_succ]
    rw [hk]; unfold B; ring
  have hWh : 2 ^ 63 * 2 ^ k = 2 ^ (63 + k) := by rw [pow_add]
  generalize hWhe : 2 ^ 63 * 2 ^ k = Wh at *
  have hqn : qn ≤ 2 := by
    by_contra hc
    have : 3 * B ^ l ≤ qn * B ^ l := Nat.mul_le_mul_right _ (by omega)
    omega
  unfold halfStep
  rw [shl63_mod qn hqn, hk]
  have hlt : sp0 / 2 < 2 ^ (63 + k) := by rw [← hWh]; omega
  rcases (by omega : qn = 0 ∨ qn = 1 ∨ qn = 2) with rfl | rfl | rfl
  · simp only [Nat.zero_mod, Nat.zero_mul, Nat.or_zero, Nat.zero_shiftRight]
    exact ⟨sp0 / 2, 0, by rw [← hq]; simp, by omega, by omega, by omega, by omega⟩
  · have e : 1 % 2 * 2 ^ 63 * 2 ^ k = 2 ^ (63 + k) := by rw [← hWh, ← hWhe]; simp
    rw [e, Nat.or_two_pow_eq_add_of_lt hlt]
    refine ⟨sp0 / 2 + 2 ^ (63 + k), 0, ?_, by omega, by omega, by omega, by omega⟩
    have : (qs % 2) = sp0 % 2 := by omega
    rw [this]; rfl
  · simp only [Nat.mod_self, Nat.zero_mul, Nat.or_zero]
    have hsp1 : sp0 ≤ 1 := by omega
    refine ⟨sp0 / 2, 1, ?_, by omega, by omega, by omega, by omega⟩
    have : (qs % 2) = sp0 % 2 := by omega
    rw [this]; rfl

/-- :275-276 -/
theorem addBack_spec (H s1 c0 us : Nat) (hus : us < s1) (hsH : s1 < H) :
    ∃ c1 us', addBack H s1 c0 us = (c1, us') ∧ c1 * H + us' = (if c0 ≠ 0 then us + s1 else us) ∧ us' < H ∧ c1 ≤ 1 := by
  unfold addBack
  by_cases hc : c0 ≠ 0
  · rw [if_pos hc, if_pos hc]
    have hH : 0 < H := by omega
    refine ⟨_, _, rfl, ?_, Nat.mod_lt _ hH, ?_⟩
    · have := Nat.div_add_mod (us + s1) H; rw [Nat.mul_comm] at this; exact this
    · have : (us + s1) / H < 2 := (Nat.div_lt_iff_lt_mul hH).mpr (by omega)
      omega
  · rw [if_neg hc, if_neg hc]
    exact ⟨0, us, rfl, by omega, by omega, by omega⟩

/-- :280 -/
theorem addQ_spec (W H s1 q1 sp0h : Nat) (hH : 0 < H) (hsp : sp0h < W) :
    ∃ q' s, addQ W H s1 q1 sp0h = (q', s) ∧ q' * (H * W) + s = s1 * W + (q1 * W + sp0h) ∧ s < H * W := by
  unfold addQ
  refine ⟨_, _, rfl, ?_, ?_⟩
  · have := Nat.div_add_mod (s1 + q1) H
    have e : s1 * W + (q1 * W + sp0h) = (s1 + q1) * W + sp0h := by ring
    rw [e]
    conv_rhs => rw [← this]
    ring
  · have h1 : (s1 + q1) % H < H := Nat.mod_lt _ hH
    have h2 : ((s1 + q1) % H + 1) * W ≤ H * W := Nat.mul_le_mul_right _ h1
    rw [Nat.add_mul] at h2
    omega

/-- :277-279 — subtracting the square of the low quotient limbs and the quotient's top bit; the borrow travels through
    `np[2l]` (when `h = l + 1`) into `c`.  `W = B^l`, `H = B^h`. -/
theorem subSquare_core (l h W H c1 us a0 sp0h q1 : Nat) (hWpos : 0 < W)
    (hcase : (l = h ∧ H = W) ∨ (l ≠ h ∧ H = W * B)) (hus : us < H) (ha0 : a0 < W)
    (hsp : sp0h < W) (hq1 : q1 ≤ 1) (hq0 : q1 = 1 → sp0h = 0) :
    ∃ c rlo, subSquare l h W c1 us a0 sp0h q1 = (c, rlo) ∧ rlo < H * W ∧
      c * ((H * W : Nat) : Int) + (rlo : Int) =
        (((c1 * H + us) * W + a0 : Nat) : Int) - (((q1 * W + sp0h) ^ 2 : Nat) : Int) := by
  have hdm := Nat.div_add_mod us W
  -- `{np, 2l}` and the square fit in `2l` limbs
  have hlo : us % W * W + a0 < W * W := by
    have : (us % W + 1) * W ≤ W * W := Nat.mul_le_mul_right _ (Nat.mod_lt _ hWpos)
    rw [Nat.add_mul] at this; omega
  have hsq : sp0h * sp0h < W * W := Nat.mul_lt_mul'' hsp hsp
  have hsquare : (q1 * W + sp0h) ^ 2 = q1 * (W * W) + sp0h * sp0h := by
    rcases (by omega : q1 = 0 ∨ q1 = 1) with rfl | rfl
    · simp [pow_two]
    · rw [hq0 rfl]; ring
  have hvalue : (c1 * H + us) * W + a0 = c1 * (H * W) + us / W * (W * W) + (us % W * W + a0) := by
    conv_lhs => rw [← hdm]
    ring
  rw [hsquare, hvalue]
  unfold subSquare
  dsimp only
  generalize us % W * W + a0 = lo at *
  generalize sp0h * sp0h = sq at *
  have hsub := sub_mod_borrow lo sq (W * W) hlo hsq.le
  have hsublt := Nat.mod_lt (lo + W * W - sq) (by omega : 0 < W * W)
  generalize (lo + W * W - sq) % (W * W) = lo' at *
  have hbw : (if lo < sq then 1 else 0 : Nat) ≤ 1 := by split <;> omega
  generalize (if lo < sq then 1 else 0 : Nat) = bw at *
  push_cast at hsub
  rcases hcase with ⟨hlh, rfl⟩ | ⟨hlh, rfl⟩
  · -- l = h: the borrow goes straight into c
    rw [if_pos hlh, Nat.div_eq_of_lt hus]
    refine ⟨_, _, rfl, by omega, ?_⟩
    push_cast
    linear_combination hsub
  · -- h = l + 1: through np[2l]
    have htop : us / W < B := by rw [Nat.div_lt_iff_lt_mul hWpos, Nat.mul_comm]; exact hus
    rw [if_neg hlh]
    generalize us / W = top at *
    have hkey := sub_mod_borrow top (q1 + bw) B htop (by rw [B_eq]; omega)
    have hkeylt := Nat.mod_lt (top + B - (q1 + bw)) B_pos
    refine ⟨_, _, rfl, ?_, ?_⟩
    · have : ((top + B - (q1 + bw)) % B + 1) * (W * W) ≤ B * (W * W) := Nat.mul_le_mul_right _ hkeylt
      rw [Nat.add_mul, Nat.one_mul] at this
      rw [show W * B * W = B * (W * W) by ring]
      omega
    · push_cast at hkey ⊢
      linear_combination (W : Int) * W * hkey + hsub

theorem split_unique (Bn r : Nat) (c X : Int) (hBn : 0 < Bn) (hr : r < Bn) (hX : X = c * (Bn : Int) + r) (h0 : 0 ≤ X) :
    X.toNat % Bn = r ∧ ((X.toNat / Bn : Nat) : Int) = c := by
  have hcast : ((X.toNat : Nat) : Int) = X := Int.toNat_of_nonneg h0
  have hu := (Int.ediv_emod_unique (a := X) (b := (Bn : Int)) (r := (r : Int)) (q := c) (by exact_mod_cast hBn)).mpr
    ⟨by rw [hX]; ring, by omega, by exact_mod_cast hr⟩
  constructor
  · have : ((X.toNat % Bn : Nat) : Int) = (r : Int) := by rw [Int.natCast_mod, hcast]; exact hu.2
    exact_mod_cast this
  · rw [Int.natCast_div, hcast]; exact hu.1

/-- :282-287 — the final correction. -/
theorem fixup_spec (Bn rlo s q' sT Sf Rf : Nat) (c rT : Int) (hBn : 0 < Bn)
    (hrT : rT = c * (Bn : Int) + rlo) (hrlo : rlo < Bn) (hsT : sT = q' * Bn + s) (hs : s < Bn) (hsT1 : 1 ≤ sT)
    (hval : (Sf, Rf) = if rT < 0 then (sT - 1, (rT + 2 * (sT : Int) - 1).toNat) else (sT, rT.toNat))
    (hSf : Sf < Bn) (hnn : rT < 0 → 0 ≤ rT + 2 * (sT : Int) - 1) :
    fixup Bn c rlo s q' = (Sf, Rf % Bn, ((Rf / Bn : Nat) : Int)) := by
  have hBnI : (0 : Int) < (Bn : Int) := by exact_mod_cast hBn
  have hc : c < 0 ↔ rT < 0 := by
    constructor
    · intro h
      have : c * (Bn : Int) ≤ -1 * (Bn : Int) := mul_le_mul_of_nonneg_right (by omega) (le_of_lt hBnI)
      rw [hrT]; omega
    · intro h
      by_contra hcn
      have : 0 ≤ c * (Bn : Int) := mul_nonneg (by omega) (le_of_lt hBnI)
      rw [hrT] at h; omega
  unfold fixup
  by_cases hneg : rT < 0
  · rw [if_pos hneg] at hval
    rw [if_pos (hc.mpr hneg)]
    dsimp only
    have hS : Sf = sT - 1 := (Prod.mk.inj hval).1
    have hR : Rf = (rT + 2 * (sT : Int) - 1).toNat := (Prod.mk.inj hval).2
    have tdm := Nat.div_add_mod (rlo + 2 * s) Bn
    have hmodlt : (rlo + 2 * s) % Bn < Bn := Nat.mod_lt _ hBn
    generalize (rlo + 2 * s) % Bn = rlo2 at *
    generalize (rlo + 2 * s) / Bn = cq at *
    have hroot : (s + Bn - 1) % Bn = Sf := by
      rw [hS]
      rcases Nat.eq_zero_or_pos q' with h0 | hp
      · rw [h0, Nat.zero_mul, Nat.zero_add] at hsT
        rw [hsT]
        have : s + Bn - 1 = (s - 1) + Bn := by omega
        rw [this, Nat.add_mod_right]; exact Nat.mod_eq_of_lt (by omega)
      · have hq1 : q' = 1 := by
          by_contra hne
          have : 2 * Bn ≤ q' * Bn := Nat.mul_le_mul_right _ (by omega)
          omega
        rw [hq1, Nat.one_mul] at hsT
        have hs0 : s = 0 := by omega
        rw [hs0, hsT, Nat.zero_add]
        have : Bn + s - 1 = Bn - 1 := by omega
        rw [this]
        exact Nat.mod_eq_of_lt (by omega)
    have hrem : (rlo2 + Bn - 1) % Bn = if rlo2 = 0 then Bn - 1 else rlo2 - 1 := by
      split
      · next h => rw [h, Nat.zero_add]; exact Nat.mod_eq_of_lt (by omega)
      · have : rlo2 + Bn - 1 = (rlo2 - 1) + Bn := by omega
        rw [this, Nat.add_mod_right]; exact Nat.mod_eq_of_lt (by omega)
    have hX : rT + 2 * (sT : Int) - 1 =
        (c + (cq : Int) + ((2 * q' : Nat) : Int) - ((if rlo2 = 0 then 1 else 0 : Nat) : Int)) * (Bn : Int) +
          (((rlo2 + Bn - 1) % Bn : Nat) : Int) := by
      rw [hrem, hrT, hsT]
      have e1 : ((rlo + 2 * s : Nat) : Int) = (Bn : Int) * (cq : Int) + (rlo2 : Int) := by exact_mod_cast tdm.symm
      push_cast at e1 ⊢
      split
      · next h => subst h; rw [Nat.cast_sub (by omega)]; push_cast; linear_combination e1
      · next h => rw [Nat.cast_sub (by omega)]; push_cast; linear_combination e1
    obtain ⟨u1, u2⟩ := split_unique Bn ((rlo2 + Bn - 1) % Bn) _ _ hBn (Nat.mod_lt _ hBn) hX (hnn hneg)
    rw [hroot, hR, u1, u2]
  · rw [if_neg hneg] at hval
    rw [if_neg (fun h => hneg (hc.mp h))]
    have hS : Sf = sT := (Prod.mk.inj hval).1
    have hR : Rf = rT.toNat := (Prod.mk.inj hval).2
    have hq0 : q' = 0 := by
      by_contra hne
      have : 1 * Bn ≤ q' * Bn := Nat.mul_le_mul_right _ (by omega)
      omega
    rw [hq0, Nat.zero_mul, Nat.zero_add] at hsT
    obtain ⟨u1, u2⟩ := split_unique Bn rlo c rT hBn hrlo hrT (by omega)
    rw [hR, u1, u2, hS, hsT]

/-- the limb-level view of a value-level result `(S, R)`: `{sp, n}`, `{np, n}` and the returned carry. -/
def pack (n : Nat) (r : Nat × Nat) : Nat × Nat × Int := (r.1, r.2 % B ^ n, ((r.2 / B ^ n : Nat) : Int))

/-- the value-level step on abstract buffer sizes (the body of `Root.dcCombine`). -/
def combineW (W s1 R1 a1 a0 : Nat) : Nat × Nat :=
  let qs := (R1 * W + a1) / s1
  let us := (R1 * W + a1) % s1
  let u := if qs % 2 ≠ 0 then us + s1 else us
  let r : Int := ((u * W + a0 : Nat) : Int) - ((qs / 2 * (qs / 2) : Nat) : Int)
  let s := s1 * W + qs / 2
  if r < 0 then (s - 1, (r + 2 * (s : Int) - 1).toNat) else (s, r.toNat)

theorem dcCombine_eq (l N s1 R1 : Nat) :
    dcCombine l N (s1, R1) = combineW (B ^ l) s1 R1 (N / B ^ l % B ^ l) (N % B ^ l) := rfl

theorem dcStepW_eq (l h W H s1 R1 a1 a0 S2 R2 : Nat) (hl : 1 ≤ l) (hW : W = B ^ l) (hHpos : 0 < H)
    (hcase : (l = h ∧ H = W) ∨ (l ≠ h ∧ H = W * B)) (hs : H ≤ 2 * s1) (hsH : s1 < H)
    (hr : R1 ≤ 2 * s1) (ha1 : a1 < W) (ha0 : a0 < W) (hval : combineW W s1 R1 a1 a0 = (S2, R2)) (hS2 : S2 < H * W) :
    dcStepW l h W H (H * W) a1 a0 (s1, R1 % H, R1 / H) = (S2, R2 % (H * W), ((R2 / (H * W) : Nat) : Int)) := by
  have hWpos : 0 < W := by rw [hW]; exact pow_pos B_pos _
  have hWH : W ≤ H := by
    rcases hcase with ⟨-, rfl⟩ | ⟨-, rfl⟩
    · exact Nat.le_refl _
    · exact Nat.le_mul_of_pos_right _ B_pos
  have hs1pos : 0 < s1 := by omega
  unfold combineW at hval
  dsimp only at hval
  unfold dcStepW
  dsimp only
  -- :268-270
  obtain ⟨qn, sp0, hd, hqs, hsp0⟩ := divStep_spec W H s1 R1 a1 hs hsH hr
  rw [hd]
  dsimp only
  have hus : (R1 * W + a1) % s1 < s1 := Nat.mod_lt _ hs1pos
  -- Zimmermann's step on the true quantities
  obtain ⟨hdmZ, huT2⟩ := halve_quot s1 (R1 * W + a1) hs1pos
  generalize (R1 * W + a1) % s1 = us at *
  generalize (R1 * W + a1) / s1 = qs at *
  generalize huT : (if qs % 2 ≠ 0 then us + s1 else us) = uT at *
  obtain ⟨hQle, -, hZneg⟩ := zstep W _ s1 R1 a1 a0 (qs / 2) uT (s1 * W + qs / 2) ⟨rfl, hr⟩ (by omega) ha1 ha0 hdmZ huT2 rfl
  -- :271-274
  obtain ⟨sp0h, q1, hhalf, hQv, hsp0h, hq1, hq10⟩ := halfStep_spec l qn sp0 qs hl (by rw [← hW]; exact hqs)
    (by rw [← hW]; exact hsp0 hWpos) (by rw [← hW]; exact hQle)
  rw [hhalf]
  dsimp only
  rw [← hW] at hQv hsp0h
  -- :275-276
  obtain ⟨c1, us', hab, hus'v, hus'lt, hc1⟩ := addBack_spec H s1 (qs % 2) us hus hsH
  rw [hab]
  dsimp only
  rw [huT] at hus'v
  -- :277-279
  obtain ⟨c, rlo, hss, hrlo, hrT⟩ := subSquare_core l h W H c1 us' a0 sp0h q1 hWpos hcase hus'lt ha0 hsp0h hq1 hq10
  rw [hss]
  dsimp only
  -- :280
  obtain ⟨q', s, haq, hsT, hslt⟩ := addQ_spec W H s1 q1 sp0h hHpos hsp0h
  rw [haq]
  dsimp only
  rw [hus'v, hQv, pow_two] at hrT
  rw [hQv] at hsT
  -- :282-287
  have hsT1 : 1 ≤ s1 * W + qs / 2 := by
    have : 1 * 1 ≤ s1 * W := Nat.mul_le_mul hs1pos hWpos
    omega
  exact fixup_spec (H * W) rlo s q' (s1 * W + qs / 2) S2 R2 c
    (((uT * W + a0 : Nat) : Int) - ((qs / 2 * (qs / 2) : Nat) : Int)) (Nat.mul_pos hHpos hWpos) hrT.symm hrlo
    hsT.symm hslt hsT1 hval.symm hS2 (fun hneg => by
      have hlt : uT * W + a0 < qs / 2 * (qs / 2) := by
        clear * - hneg
        generalize uT * W + a0 = A at *
        generalize qs / 2 * (qs / 2) = Q2 at *
        omega
      obtain ⟨z1, z2, -, -⟩ := hZneg hlt
      clear * - z1 z2
      generalize uT * W + a0 = A at *
      generalize qs / 2 * (qs / 2) = Q2 at *
      generalize s1 * W + qs / 2 = sT at *
      omega)

theorem dcL_eq : ∀ (fuel n N : Nat), 0 < n → n ≤ fuel → B ^ (2 * n) ≤ 4 * N → N < B ^ (2 * n) →
    dcL fuel n N = pack n (dcSqrtremF fuel n N)
  | 0, n, N, hn, hf, _, _ => by omega
  | fuel + 1, n, N, hn, hf, hN1, hN2 => by
    have hn0 : ¬ n = 0 := by omega
    rw [dcL, if_neg hn0, dcSqrtremF, if_neg hn0]
    by_cases h1 : n = 1
    · subst h1
      rw [if_pos rfl, if_pos rfl]
      obtain ⟨l0, l1, l2, -⟩ := dc_base_limbs N hN1 hN2
      obtain ⟨sp, rp, cc, e, -, hnn, hrp⟩ := sqrtrem2_exI (N % B) (N / B % B) l0 l1 l2
      unfold dcBase dcBaseOut pack
      rw [e]
      dsimp only
      obtain ⟨u1, u2⟩ := split_unique B rp cc _ B_pos hrp rfl hnn
      rw [pow_one, u1, u2]
    · rw [if_neg h1, if_neg h1]
      dsimp only
      obtain ⟨H, hH, hNh1, hNh2, hNh1', hNh2'⟩ := dc_high n N (by omega) hN1 hN2
      rw [dcL_eq fuel (n - n / 2) _ (by omega) (by omega) hNh1' hNh2']
      have i := dcSqrtremF_spec fuel (n - n / 2) _ (by omega) (by omega) hNh1' hNh2'
      generalize dcSqrtremF fuel (n - n / 2) (N / B ^ (2 * (n / 2))) = hi at *
      obtain ⟨s1, r1⟩ := hi
      have hs1 : H ≤ s1 := i.le_root hNh1
      have hs1lt : s1 < 2 * H := i.root_lt hNh2
      unfold pack
      dsimp only
      rw [Int.toNat_natCast]
      rw [Nat.two_mul, pow_add] at i
      have c := dcCombine_spec (n / 2) N s1 r1
        (Nat.le_trans (Nat.pow_le_pow_right B_pos (by omega : n / 2 ≤ n - n / 2)) (by omega)) i
      have hval := dcCombine_eq (n / 2) N s1 r1
      generalize dcCombine (n / 2) N (s1, r1) = res at *
      obtain ⟨S2, R2⟩ := res
      have hnn' : n / 2 + (n - n / 2) = n := by omega
      have hBn : B ^ n = B ^ (n - n / 2) * B ^ (n / 2) := by rw [← pow_add]; congr 1; omega
      have hS2 : S2 < B ^ (n - n / 2) * B ^ (n / 2) := by
        refine c.root_lt ?_
        rw [← hBn, ← pow_add, ← Nat.two_mul]; exact hN2
      have hcase : (n / 2 = n - n / 2 ∧ B ^ (n - n / 2) = B ^ (n / 2)) ∨
          (n / 2 ≠ n - n / 2 ∧ B ^ (n - n / 2) = B ^ (n / 2) * B) := by
        by_cases he : n / 2 = n - n / 2
        · exact Or.inl ⟨he, by rw [← he]⟩
        · exact Or.inr ⟨he, by rw [show n - n / 2 = n / 2 + 1 by omega, pow_succ]⟩
      unfold dcStepL
      rw [hnn', hBn]
      exact dcStepW_eq (n / 2) (n - n / 2) (B ^ (n / 2)) (B ^ (n - n / 2)) s1 r1 (N / B ^ (n / 2) % B ^ (n / 2))
        (N % B ^ (n / 2)) S2 R2 (by omega) rfl (pow_pos B_pos _) hcase (by omega) (by omega) i.2
        (Nat.mod_lt _ (pow_pos B_pos _)) (Nat.mod_lt _ (pow_pos B_pos _)) hval.symm hS2

end Mpir.SqrtL
