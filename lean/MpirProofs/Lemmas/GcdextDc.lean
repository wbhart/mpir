/- The divide-and-conquer part of mpn_gcdext (gcdext.c:272-386): the first mpn_hgcd round, the loop of rounds with
   hgcd_mul_matrix_vector on the cofactors, the mpn_gcd_subdiv_step fallback.  The invariant `DInv`: (a, b) of n limbs,
   gcd unchanged, (u0, u1) in exactly un limbs with `CofOk` (a = u1·A − v1·V, b = −u0·A + v0·V, det 1), hence
   V = u0·a + u1·b: "|u0|, |u1| ≤ V / min(a, b)" (gcdext.c:393).  Assumed of `hg` (= mpn_hgcd): its contract `HgOk`
   (proved below HGCD_REDUCE_THRESHOLD, `hgcd_spec`) and, for the flag only, `HgMn` (the C's ASSERT at gcdext.c:296/347). -/
import MpirProofs.Lemmas.GcdextLehmer2
import MpirProofs.Lemmas.HgcdRec2
namespace Mpir.Gcdext
open Mpir Mpir.Gcd Mpir.Hgcd

/-- the contract of mpn_hgcd on every call with a freshly initialised matrix on fewer than R limbs -/
def HgOk (hg : Nat → Nat → Nat → HM → StepRes) (R : Nat) : Prop :=
  ∀ n a b, n < R → HPre n a b (matInit n) → HPost n a b (matInit n) (hg n a b (matInit n))

theorem hgOk_hgcd (thr : Thr) (ns : Nat → Nat) (h8 : 8 ≤ thr.hgcd) : HgOk (hgcd thr ns) thr.reduce :=
  fun n a b hn hpre => hgcd_spec thr ns h8 n a b (matInit n) hn hpre

/-- the size field of the matrix on success: `ASSERT (M.n <= (n - p - 1)/2)` (gcdext.c:296, :347) -/
def HgMn (hg : Nat → Nat → Nat → HM → StepRes) (R : Nat) : Prop :=
  ∀ n a b, n < R → HPre n a b (matInit n) → (hg n a b (matInit n)).ret ≠ 0 → (hg n a b (matInit n)).M.n ≤ (n - 1) / 2

/-- invariant of the dc loop w.r.t. the inputs A (first operand after the initial division), V, G = gcd; the flag is
    tracked under the condition P (= `HgMn hg R`) only: values and sizes do not depend on it -/
def DInv (A V G : Nat) (P : Prop) (s : DcState) : Prop :=
  LInv s.a s.b s.n ∧ CofOk A V s.a s.b s.c.u0 s.c.u1 ∧ Nat.gcd s.a s.b = G ∧
  s.c.un = max (nlimbs s.c.u0) (nlimbs s.c.u1) ∧ (P → s.c.ok = true)

theorem dinv_mk {A V G : Nat} {P : Prop} (a b n u0 u1 un : Nat) (ok : Bool) (h1 : LInv a b n) (h2 : CofOk A V a b u0 u1)
    (h3 : Nat.gcd a b = G) (h4 : un = max (nlimbs u0) (nlimbs u1)) (h5 : P → ok = true) :
    DInv A V G P ⟨a, b, n, ⟨u0, u1, un, ok⟩⟩ := ⟨h1, h2, h3, h4, h5⟩

/-- what a finished call returns: (g, S) with the identity and the bound -/
def ResOk (A V G : Nat) (r : Fin) : Prop :=
  ∃ S : Int, r.g = G ∧ r.gn = nlimbs G ∧ r.up = S.natAbs ∧
    r.usize = (if S < 0 then -1 else 1) * (nlimbs S.natAbs : Int) ∧
    (∃ t : Int, (A : Int) * S + V * t = G) ∧ CofBound V G S

theorem resOk_of_finOk {A V G g : Nat} {S : Int} {r : Fin} (h : FinOk r g S) (hg : g = G)
    (hid : ∃ t : Int, (A : Int) * S + V * t = g) (hb : CofBound V g S) : ResOk A V G r ∧ r.ok = true := by
  obtain ⟨h1, h2, h3, h4, h5⟩ := h
  subst hg
  exact ⟨⟨S, h1, h2, h4, h5, hid, hb⟩, h3⟩

theorem resOk_mk {A V G x gn : Nat} {S : Int} (neg ok : Bool) (hgn : gn = nlimbs G)
    (hS : S = if neg then -(x : Int) else x) (hid : ∃ t : Int, (A : Int) * S + V * t = G) (hb : CofBound V G S) :
    ResOk A V G ⟨G, gn, if neg then -(nlimbs x : Int) else nlimbs x, x, ok⟩ :=
  (resOk_of_finOk (finOk_mk neg true hgn rfl hS) rfl hid hb).1

/-- the hook's exit: `ResOk` does not read the flag -/
theorem hookG_resOk {A V G : Nat} (c : Ctx) (d : Int) (hid : ∃ t : Int, (A : Int) * pickCofactor c.u0 c.u1 d + V * t = G)
    (hb : CofBound V G (pickCofactor c.u0 c.u1 d)) : ResOk A V G (hookG c G (nlimbs G) d) :=
  (resOk_of_finOk (hookG_spec ⟨c.u0, c.u1, c.un, true⟩ G d rfl) rfl hid hb).1

/-! ### mpn_gcd_subdiv_step with mpn_gcdext_hook (gcdext.c:313-330, :370-385) -/

theorem dcSubdiv_spec (A V G N : Nat) (P : Prop) (hV : V < B ^ N) (s : DcState) (h : DInv A V G P s) :
    match dcSubdiv (N + 1) s with
    | .inr r => ResOk A V G r ∧ (P → r.ok = true)
    | .inl s' => DInv A V G P s' ∧ s'.a + s'.b < s.a + s.b := by
  obtain ⟨hinv, hcof, hgcd, hun, hokP⟩ := h
  unfold dcSubdiv
  dsimp only
  obtain ⟨ec, e1, e2⟩ := subdivHook_spec A V N hV s.a s.b s.c hinv.1 hinv.2.1 hcof hun _ rfl
  rw [ec]
  generalize (subdivStep s.a s.b).qs.foldl hookQ (s.c.u0, s.c.u1) = w at e1 e2 ⊢
  cases hfin : (subdivStep s.a s.b).fin with
  | some gd =>
    obtain ⟨g, d⟩ := gd
    obtain ⟨rfl, r1, r2⟩ := e1 g d hfin
    subst hgcd
    exact ⟨hookG_resOk ⟨w.1, w.2, _, s.c.ok⟩ d r1 r2, hokP⟩
  | none =>
    obtain ⟨hinv', x3, x4, hcf⟩ := e2 hfin
    exact ⟨⟨hinv', hcf, x3.trans hgcd, rfl, hokP⟩, x4⟩

/-- the state after a successful round -/
structure HgStep (A V G a b u0 u1 p n : Nat) (r : StepRes) (adj : Nat × Nat × Nat) : Prop where
  linv : LInv adj.2.1 adj.2.2 adj.1
  cof : CofOk A V adj.2.1 adj.2.2 (u0 * r.M.e00 + u1 * r.M.e10) (u0 * r.M.e01 + u1 * r.M.e11)
  gcd : Nat.gcd adj.2.1 adj.2.2 = G
  dec : adj.2.1 + adj.2.2 < a + b
  lowa : B ^ (p + (n - p) / 2) ≤ adj.2.1
  lowb : B ^ (p + (n - p) / 2) ≤ adj.2.2
  olda : B ^ (p + (n - p) / 2) ≤ a
  oldb : B ^ (p + (n - p) / 2) ≤ b
  fits : r.M.Fits
  mn : 1 ≤ r.M.n
  det : det1 r.M.toM1
  nle : adj.1 ≤ n

theorem hgRound_spec (hg : Nat → Nat → Nat → HM → StepRes) (R A V G a b n u0 u1 p : Nat) (hok : HgOk hg R)
    (hinv : LInv a b n) (hcof : CofOk A V a b u0 u1) (hgcd : Nat.gcd a b = G) (hp : p < n) (h5 : 5 ≤ n - p)
    (hR : n - p < R) :
    let r := hg (n - p) (a / B ^ p) (b / B ^ p) (matInit (n - p))
    (r.ret ≠ 0 → HgStep A V G a b u0 u1 p n r
        (matAdjust r.M (p + r.ret) (a % B ^ p + B ^ p * r.a) (b % B ^ p + B ^ p * r.b) p)) ∧
    (r.ret = 0 → a % B ^ p + B ^ p * r.a = a ∧ b % B ^ p + B ^ p * r.b = b) ∧
    (HgMn hg R → r.ret ≠ 0 → r.M.n ≤ (n - p - 1) / 2) := by
  intro r
  obtain ⟨h0a, h0b, haB, hbB, ht, hn1⟩ := hinv
  have hpre : HPre (n - p) (a / B ^ p) (b / B ^ p) (matInit (n - p)) :=
    hpre_matInit _ _ _ (div_pow_lt haB) (div_pow_lt hbB) (tight_div hp ht)
  obtain ⟨hl, hz⟩ := hok (n - p) _ _ hR hpre
  refine ⟨fun hret => ?_, fun hret => ?_, fun h => h _ _ _ hR hpre⟩
  · have hadj := adjust_after n a b p _ r hp haB hbB hl hret _ rfl
    obtain ⟨hrel, hMok, _, _, hsucc⟩ := hl
    obtain ⟨hnid, _⟩ := hsucc hret
    generalize matAdjust r.M (p + r.ret) (a % B ^ p + B ^ p * r.a) (b % B ^ p + B ^ p * r.b) p = adj at hadj ⊢
    obtain ⟨q1, q2, q3, q4, q5, q6, q7⟩ := hadj
    have hK : 0 < B ^ (p + (n - p) / 2) := pow_pos B_pos _
    have hpa : 0 < adj.2.1 := lt_of_lt_of_le hK q5
    have hpb : 0 < adj.2.2 := lt_of_lt_of_le hK q6
    obtain ⟨la, lb⟩ := mrel_le q1
    refine ⟨⟨hpa, hpb, q2, q3, q4, ?_⟩, cofOk_step hcof q1, ?_, mrel_decreases q1 hnid hpa hpb, q5, q6,
      le_trans q5 la, le_trans q6 lb, hMok.1, hMok.2, q1.1, q7⟩
    · exact Nat.succ_le_of_lt (lt_of_le_of_lt (Nat.zero_le _)
        (lt_of_lt_of_le (nlimbs_isSize.pow_le_iff.mp q5) (nlimbs_isSize.lt_pow_iff.mp q2)))
    · rw [← hgcd]; exact (mrel_gcd q1).symm
  · obtain ⟨_, _, hu⟩ := hz hret
    obtain ⟨u1', u2', _⟩ := hu h5
    rw [u1', u2']
    exact ⟨by rw [Nat.add_comm]; exact Nat.div_add_mod a (B ^ p), by rw [Nat.add_comm]; exact Nat.div_add_mod b (B ^ p)⟩

/-- gcdext.c:29: the carry limbs ah, bh are stored, so the values are exact -/
theorem mulMatrixVector_eq (M : HM) (u0 u1 un : Nat) (hf : M.Fits) (h0 : nlimbs u0 ≤ un) (h1 : nlimbs u1 ≤ un) :
    mulMatrixVector M u0 u1 un = (u0 * M.e00 + u1 * M.e10, u0 * M.e01 + u1 * M.e11,
      max (nlimbs (u0 * M.e00 + u1 * M.e10)) (nlimbs (u0 * M.e01 + u1 * M.e11))) := by
  obtain ⟨f00, f01, f10, f11⟩ := hf
  rw [nlimbs_isSize.lt_pow_iff] at f00 f01 f10 f11
  have e1 : M.e00 * u0 + M.e10 * u1 = u0 * M.e00 + u1 * M.e10 := by ring
  have e2 : M.e11 * u1 + M.e01 * u0 = u0 * M.e01 + u1 * M.e11 := by ring
  have hx := nlimbs_lin2_le h0 h1 f00 f10
  have hy := nlimbs_lin2_le h0 h1 f01 f11
  unfold mulMatrixVector
  simp only [e1, e2, nlimbs_isSize.div_pow_ne_zero_iff]
  split
  · simp only [Prod.mk.injEq, true_and]; omega
  · rfl

/-- after a successful round; the second clause: the ASSERTs `M.n + un <= ualloc`, `un < ualloc` (gcdext.c:353, :362) -/
theorem dcMul_spec (A V G N a b u0 u1 un p n : Nat) (r : StepRes) (adj : Nat × Nat × Nat)
    (hst : HgStep A V G a b u0 u1 p n r adj) (hcof : CofOk A V a b u0 u1) (hun : un = max (nlimbs u0) (nlimbs u1))
    (hA : A < B ^ N) (hV : V < B ^ N) :
    mulMatrixVector r.M u0 u1 un = (u0 * r.M.e00 + u1 * r.M.e10, u0 * r.M.e01 + u1 * r.M.e11,
      max (nlimbs (u0 * r.M.e00 + u1 * r.M.e10)) (nlimbs (u0 * r.M.e01 + u1 * r.M.e11))) ∧
    (r.M.n ≤ (n - p - 1) / 2 → r.M.n + un ≤ N + 1 ∧
      max (nlimbs (u0 * r.M.e00 + u1 * r.M.e10)) (nlimbs (u0 * r.M.e01 + u1 * r.M.e11)) < N + 1) := by
  -- both numbers keep k = p + (n−p)/2 limbs before and after the round, so old and new cofactors have at most N − k
  have hkN : p + (n - p) / 2 < N :=
    lt_of_lt_of_le (nlimbs_isSize.pow_le_iff.mp hst.lowa) (nlimbs_isSize.lt_pow_iff.mp (lt_of_le_of_lt (cofOk_le hst.cof).1 hA))
  have hold := cof_lt_k hcof hst.olda hst.oldb hV hkN.le
  have hnew := cof_lt_k hst.cof hst.lowa hst.lowb hV hkN.le
  rw [nlimbs_isSize.lt_pow_iff, nlimbs_isSize.lt_pow_iff] at hold hnew
  have hle : un ≤ N - (p + (n - p) / 2) := hun ▸ max_le hold.1 hold.2
  refine ⟨mulMatrixVector_eq r.M u0 u1 un hst.fits (hun ▸ le_max_left _ _) (hun ▸ le_max_right _ _), fun hm => ⟨?_, ?_⟩⟩
  · have h2 : (n - p - 1) / 2 ≤ (n - p) / 2 := Nat.div_le_div_right (Nat.sub_le _ _)
    generalize (n - p) / 2 = k at hkN hle h2
    omega
  · exact lt_of_le_of_lt (max_le hnew.1 hnew.2) (Nat.lt_succ_of_le (Nat.sub_le _ _))

/-! ### the loop (gcdext.c:333-386) -/

theorem dcLoop_spec (hg : Nat → Nat → Nat → HM → StepRes) (R dcThr A V G N : Nat) (hok : HgOk hg R) (hthr : 8 ≤ dcThr)
    (hR : N - N / 3 < R) (hA : A < B ^ N) (hV : V < B ^ N) :
    ∀ (f : Nat) (s : DcState), DInv A V G (HgMn hg R) s → s.a + s.b < f →
      match dcLoop hg dcThr (N + 1) f s with
      | .inr r => ResOk A V G r ∧ (HgMn hg R → r.ok = true)
      | .inl s' => DInv A V G (HgMn hg R) s'
  | 0, s, _, hf => by omega
  | f + 1, s, hinv, hf => by
    unfold dcLoop
    by_cases hn : s.n ≥ dcThr
    · rw [if_pos hn]
      obtain ⟨hl, hcof, hgcd, hun, hokP⟩ := hinv
      have hlt : s.a < B ^ N ∧ s.b < B ^ N :=
        ⟨lt_of_le_of_lt (cofOk_le hcof).1 hA, lt_of_le_of_lt (cofOk_le hcof).2 hV⟩
      have hnN : s.n ≤ N :=
        (linv_iff.mp hl).2.2 ▸ max_le (nlimbs_isSize.lt_pow_iff.mp hlt.1) (nlimbs_isSize.lt_pow_iff.mp hlt.2)
      obtain ⟨g1, g2, hmn⟩ := hgRound_spec hg R A V G s.a s.b s.n s.c.u0 s.c.u1 (s.n / 3) hok hl hcof hgcd (by omega) (by omega) (by omega)
      simp only at g1 g2 hmn ⊢
      generalize hg (s.n - s.n / 3) (s.a / B ^ (s.n / 3)) (s.b / B ^ (s.n / 3)) (matInit (s.n - s.n / 3)) = r at g1 g2 hmn ⊢
      by_cases hret : r.ret > 0
      · rw [if_pos hret]
        have hst := g1 (by omega)
        generalize matAdjust r.M (s.n / 3 + r.ret) (s.a % B ^ (s.n / 3) + B ^ (s.n / 3) * r.a)
          (s.b % B ^ (s.n / 3) + B ^ (s.n / 3) * r.b) (s.n / 3) = adj at hst ⊢
        obtain ⟨nn, a', b'⟩ := adj
        obtain ⟨em, m4⟩ := dcMul_spec A V G N s.a s.b s.c.u0 s.c.u1 s.c.un (s.n / 3) s.n r (nn, a', b') hst hcof hun hA hV
        have hdec : a' + b' < f := by have := hst.dec; simp only at this; omega
        rw [em]
        exact dcLoop_spec hg R dcThr A V G N hok hthr hR hA hV f _
          (dinv_mk a' b' nn _ _ _ _ hst.linv hst.cof hst.gcd rfl
            (fun hp => by
              obtain ⟨z1, z2⟩ := m4 (hmn hp (by omega))
              rw [hokP hp, decide_eq_true z1, decide_eq_true z2]; rfl)) hdec
      · rw [if_neg hret]
        obtain ⟨ea, eb⟩ := g2 (by omega)
        rw [ea, eb]
        have hsub := dcSubdiv_spec A V G N (HgMn hg R) hV ⟨s.a, s.b, s.n, s.c⟩ ⟨hl, hcof, hgcd, hun, hokP⟩
        cases hd : dcSubdiv (N + 1) ⟨s.a, s.b, s.n, s.c⟩ with
        | inr r' => rw [hd] at hsub; exact hsub
        | inl s' =>
          rw [hd] at hsub
          simp only at hsub ⊢
          exact dcLoop_spec hg R dcThr A V G N hok hthr hR hA hV f s' hsub.1 (by have := hsub.2; omega)
    · rw [if_neg hn]
      exact hinv

/-! ### the first round (gcdext.c:280-331) -/

theorem dcFirst_spec (hg : Nat → Nat → Nat → HM → StepRes) (R A V N : Nat) (hok : HgOk hg R) (h10 : 10 ≤ N)
    (hR : N - N / 2 < R) (hl : LInv A V N) :
    match dcFirst hg (N + 1) A V N with
    | .inr r => ResOk A V (Nat.gcd A V) r ∧ (HgMn hg R → r.ok = true)
    | .inl s => DInv A V (Nat.gcd A V) (HgMn hg R) s := by
  have hV : V < B ^ N := hl.2.2.2.1
  have hcof : CofOk A V A V 0 1 := cofOk_init A V
  unfold dcFirst
  obtain ⟨g1, g2, hmn⟩ := hgRound_spec hg R A V (Nat.gcd A V) A V N 0 1 (N / 2) hok hl hcof rfl (by omega) (by omega) hR
  simp only at g1 g2 hmn ⊢
  generalize hg (N - N / 2) (A / B ^ (N / 2)) (V / B ^ (N / 2)) (matInit (N - N / 2)) = r at g1 g2 hmn ⊢
  by_cases hret : r.ret > 0
  · rw [if_pos hret]
    have hst := g1 (by omega)
    generalize matAdjust r.M (N / 2 + r.ret) (A % B ^ (N / 2) + B ^ (N / 2) * r.a)
      (V % B ^ (N / 2) + B ^ (N / 2) * r.b) (N / 2) = adj at hst ⊢
    obtain ⟨nn, a', b'⟩ := adj
    have hc' : CofOk A V a' b' r.M.e10 r.M.e11 := by
      have := hst.cof
      simpa using this
    exact dinv_mk a' b' nn _ _ _ _ hst.linv hc' hst.gcd rfl
      (fun hp => decide_eq_true (le_trans (hmn hp (by omega))
        (le_trans (Nat.div_le_self _ _) (le_trans (Nat.sub_le _ _) (le_trans (Nat.sub_le _ _) (Nat.le_succ _))))))
  · rw [if_neg hret]
    obtain ⟨ea, eb⟩ := g2 (by omega)
    rw [ea, eb]
    have hsub := dcSubdiv_spec A V (Nat.gcd A V) N (HgMn hg R) hV ⟨A, V, N, ⟨0, 1, 1, true⟩⟩ ⟨hl, hcof, rfl, show 1 = max (nlimbs 0) (nlimbs 1) by decide, fun _ => rfl⟩
    cases hd : dcSubdiv (N + 1) ⟨A, V, N, ⟨0, 1, 1, true⟩⟩ with
    | inr r' => rw [hd] at hsub; exact hsub
    | inl s' => rw [hd] at hsub; exact hsub.1

end Mpir.Gcdext
