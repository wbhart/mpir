/- mpf_get_str: how close the integer whose digits are developed (MpfStr.scaledInt) is to |u| · base^(±e); then, with the
   rounding step (MpfStrRound), "within one unit of the last requested digit" under explicit adequacy conditions on
   n_limbs_needed. -/

import MpirProofs.Lemmas.MpfStrDiv
import MpirProofs.Lemmas.MpfStrRound

namespace Mpir.MpfStr
open Mpir Mpir.Mpf Mpir.Radix

theorem keepTop_val (P : ℕ) {d : List ℕ} (hm : Mant d) :
    keepTop P (val d) = (val (top P d), d.length - (top P d).length) := by
  have t5 := val_top P d
  have t6 := val_take_lt hm.limbs (d.length - P)
  rw [keepTop_eq, hm.size_eq limbLen_isSize, top_length, show d.length - min P d.length = d.length - P by omega]
  congr 1
  rw [t5, Nat.add_comm, Nat.mul_add_div (Bpow_pos _), Nat.div_eq_of_lt t6, Nat.add_zero]

theorem top_appr (P : ℕ) (hP : 1 ≤ P) {d : List ℕ} (hm : Mant d) :
    Appr (epsP P) ((val (top P d) : ℚ) * (B : ℚ) ^ (d.length - (top P d).length)) (val d : ℚ) 1 ∧
    val (top P d) ≠ 0 ∧ (top P d).length ≤ P ∧ (top P d).length ≤ d.length := by
  have a := appr_keepTop P hP hm.val_pos.ne'
  rw [keepTop_val P hm] at a
  have t4 := top_length P d
  exact ⟨a, (hm.top hP).val_pos.ne', by omega, by omega⟩

/-- mpn_pow_1_highpart of get_str.c (e = 0 allowed) -/
theorem powHigh0_appr (base P e : ℕ) (hb : 1 ≤ base) (hP : 1 ≤ P) :
    (powHigh0 base e P).1 ≠ 0 ∧
    Appr (epsP P) (((powHigh0 base e P).1 : ℚ) * (B : ℚ) ^ (powHigh0 base e P).2) ((base : ℚ) ^ e) e := by
  unfold powHigh0
  by_cases he : e = 0
  · subst he
    simp only [if_true, pow_zero, Nat.cast_one, mul_one]
    exact ⟨by norm_num, Appr.refl 1⟩
  · rw [if_neg he]
    obtain ⟨a, _, c⟩ := powHigh_appr base P e hb hP (by omega)
    exact ⟨a, c⟩

/-- get_str.c:207-214: `t` shifted by `-off` limbs, low limbs dropped when `off > 0`, is the floor of `t · B^(-off)` -/
theorem shift_floor (t : ℕ) (off : ℤ) :
    ((if off < 0 then t * B ^ (-off).toNat else t / B ^ off.toNat : ℕ) : ℚ) ≤ (t : ℚ) * (B : ℚ) ^ (-off) ∧
    (t : ℚ) * (B : ℚ) ^ (-off) < ((if off < 0 then t * B ^ (-off).toNat else t / B ^ off.toNat : ℕ) : ℚ) + 1 := by
  split
  · rw [show (B : ℚ) ^ (-off) = (B : ℚ) ^ (-off).toNat by rw [← zpow_natCast, Int.toNat_of_nonneg (by omega)]]
    push_cast
    exact ⟨le_rfl, lt_add_one _⟩
  · obtain ⟨k, rfl⟩ := Int.eq_ofNat_of_zero_le (not_lt.mp ‹_›)
    rw [Int.toNat_natCast, zpow_neg, zpow_natCast, ← div_eq_mul_inv]
    exact ⟨by exact_mod_cast natDiv_cast_le t (Bpow_pos k), by exact_mod_cast natDiv_cast_lt t (Bpow_pos k)⟩

/-- the multiplication branch (EXP ≤ n_limbs_needed) -/
theorem scaledInt_mul_bound (base nln : ℕ) (u : F) (hb : 1 ≤ base) (hn : 1 ≤ nln)
    (hm : Mant u.d) (hexp : u.exp ≤ (nln : ℤ)) :
    ∃ e : ℕ, (scaledInt base nln u).2 = (e : ℤ) ∧
      ((scaledInt base nln u).1 : ℚ) ≤ qv u.d u.exp * (base : ℚ) ^ e ∧
      qv u.d u.exp * (base : ℚ) ^ e * (1 - epsP nln) ^ (e + 1) - 1 < ((scaledInt base nln u).1 : ℚ) := by
  obtain ⟨au, _, hun, hul⟩ := top_appr nln hn hm
  unfold scaledInt
  dsimp only
  rw [if_pos hexp]
  -- make the computed pieces opaque (tactics must not try to evaluate them)
  generalize top nln u.d = up at *
  generalize mulTrunc (64 * ((nln : ℤ) - u.exp).toNat) (cpbeBits base) = e at *
  obtain ⟨_, ap⟩ := powHigh0_appr base nln e hb hn
  generalize powHigh0 base e nln = pw at *
  refine ⟨e, rfl, ?_⟩
  -- T = val up · pw.1 · B^(exp + ign - un), within e+1 factors below |u| b^e
  have a2 := Appr.mul_const
    (Appr.mul (epsP_le_one nln) (Nat.cast_nonneg (val u.d)) (by positivity) au ap)
    (zpow_pos Bq_pos (u.exp - (u.d.length : ℤ))).le
  have hT : (val up : ℚ) * (B : ℚ) ^ (u.d.length - up.length) * ((pw.1 : ℚ) * (B : ℚ) ^ pw.2) *
      (B : ℚ) ^ (u.exp - (u.d.length : ℤ)) =
      ((val up * pw.1 : ℕ) : ℚ) * (B : ℚ) ^ (-((up.length : ℤ) - u.exp - (pw.2 : ℤ))) := by
    rw [show -((up.length : ℤ) - u.exp - (pw.2 : ℤ)) =
      ((u.d.length - up.length : ℕ) : ℤ) + (pw.2 : ℤ) + (u.exp - (u.d.length : ℤ)) by omega,
      zpow_add₀ Bq_ne, zpow_add₀ Bq_ne, zpow_natCast, zpow_natCast]
    push_cast; ring
  rw [hT, show (val u.d : ℚ) * (base : ℚ) ^ e * (B : ℚ) ^ (u.exp - (u.d.length : ℤ)) =
    qv u.d u.exp * (base : ℚ) ^ e by unfold qv; ring, Nat.add_comm] at a2
  obtain ⟨f1, f2⟩ := shift_floor (val up * pw.1) ((up.length : ℤ) - u.exp - (pw.2 : ℤ))
  exact ⟨le_trans f1 a2.2, by linarith only [a2.1, f2]⟩

/-- the division branch (EXP > n_limbs_needed); the ignored limbs of the power must not exceed n_less_limbs_needed:
    get_str.c:238 subtracts them -/
theorem scaledInt_div_bound (base nln : ℕ) (u : F) (hb : 1 ≤ base) (hn : 1 ≤ nln)
    (hm : Mant u.d) (hexp : ¬ u.exp ≤ (nln : ℤ))
    (hign : (powHigh0 base (mulTrunc (64 * (u.exp - (nln : ℤ)).toNat) (cpbeBits base)) nln).2 ≤ (u.exp - (nln : ℤ)).toNat) :
    ∃ e : ℕ, (scaledInt base nln u).2 = -(e : ℤ) ∧
      ((scaledInt base nln u).1 : ℚ) * (1 - epsP nln) ^ e ≤ qv u.d u.exp / (base : ℚ) ^ e ∧
      qv u.d u.exp / (base : ℚ) ^ e * (1 - epsP nln) - 1 < ((scaledInt base nln u).1 : ℚ) := by
  have h0 := epsP_nonneg nln
  have h1 := epsP_le_one nln
  obtain ⟨au, _, hun, hul⟩ := top_appr nln hn hm
  unfold scaledInt
  dsimp only
  rw [if_neg hexp]
  generalize top nln u.d = up at *
  generalize mulTrunc (64 * (u.exp - (nln : ℤ)).toNat) (cpbeBits base) = e at *
  obtain ⟨hp1, ap⟩ := powHigh0_appr base nln e hb hn
  generalize powHigh0 base e nln = pw at *
  generalize hless : (u.exp - (nln : ℤ)).toNat = less at *
  refine ⟨e, rfl, ?_⟩
  have hpw : 0 < pw.1 := Nat.pos_of_ne_zero hp1
  have hpwq : (0 : ℚ) < (pw.1 : ℚ) := by exact_mod_cast hpw
  -- the rational quotient is (top limbs in place) / (power in place)
  have hX : ((val up * B ^ (nln + (less - pw.2) - up.length) : ℕ) : ℚ) / (pw.1 : ℚ) =
      (val up : ℚ) * (B : ℚ) ^ (u.d.length - up.length) * (B : ℚ) ^ (u.exp - (u.d.length : ℤ)) /
        ((pw.1 : ℚ) * (B : ℚ) ^ pw.2) := by
    rw [mul_assoc, ← zpow_natCast (B : ℚ) (u.d.length - up.length), ← zpow_add₀ Bq_ne,
      show ((u.d.length - up.length : ℕ) : ℤ) + (u.exp - (u.d.length : ℤ)) =
        ((nln + (less - pw.2) - up.length : ℕ) : ℤ) + (pw.2 : ℤ) by omega,
      zpow_add₀ Bq_ne, zpow_natCast, zpow_natCast, ← mul_assoc, mul_div_mul_right _ _ (pow_ne_zero _ Bq_ne)]
    push_cast; rfl
  have au' := Appr.mul_const au (zpow_pos Bq_pos (u.exp - (u.d.length : ℤ))).le
  obtain ⟨dlo, dhi⟩ := Appr.div h1 (qv_nonneg u.d u.exp) (mul_pos hpwq (pow_pos Bq_pos pw.2)) au' ap
  rw [← hX, pow_one] at dlo
  rw [← hX] at dhi
  have f1 := natDiv_cast_le (val up * B ^ (nln + (less - pw.2) - up.length)) hpw
  have f2 := natDiv_cast_lt (val up * B ^ (nln + (less - pw.2) - up.length)) hpw
  exact ⟨le_trans (mul_le_mul_of_nonneg_right f1 (one_sub_pow_nonneg h1 e)) dhi, by linarith only [dlo, f2]⟩

/-! `N` is the developed integer, `P = b^L0` bounds it, `Q = b^nd`; the goal is a quarter of a unit of the nd-th
  digit, `P / (4 Q)`.  `κ` stands for the accumulated relative error, `k ε` with `k ≤ 2^59`. -/

theorem kappa_bound {k ε Q : ℚ} (hk : k ≤ 2 ^ 59) (h0 : 0 ≤ ε) (hQ : 0 ≤ Q) (hεQ : ε * Q ≤ 1 / 2 ^ 64) :
    k * ε * Q ≤ 1 / 32 := by
  calc k * ε * Q = k * (ε * Q) := by ring
    _ ≤ 2 ^ 59 * (ε * Q) := mul_le_mul_of_nonneg_right hk (mul_nonneg h0 hQ)
    _ ≤ 2 ^ 59 * (1 / 2 ^ 64) := mul_le_mul_of_nonneg_left hεQ (by positivity)
    _ = 1 / 32 := by norm_num

/-- `A (1 - κ) - 1 < N < P` with `κ ≤ 1/2` puts `A` below `2 P`, hence `A - N < A κ + 1 ≤ 2 P κ + 1` -/
theorem below_core {A N P κ : ℚ} (hA : 0 ≤ A) (hκ0 : 0 ≤ κ) (hκ : κ ≤ 1 / 2) (hlo : A * (1 - κ) - 1 < N)
    (hNP : N + 1 ≤ P) : A - N ≤ 2 * P * κ + 1 := by
  have h2 : A ≤ 2 * P := by
    have := mul_le_mul_of_nonneg_left (show 1 / 2 ≤ 1 - κ by linarith) hA
    linarith
  have := mul_le_mul_of_nonneg_right h2 hκ0
  linarith

theorem quarter_unit {P Q κ : ℚ} (hQ : 0 < Q) (hPQ : 8 * Q ≤ P) (hκQ : κ * Q ≤ 1 / 32) :
    2 * P * κ + 1 ≤ P / (4 * Q) := by
  rw [le_div_iff₀ (by linarith)]
  have := mul_le_mul_of_nonneg_left hκQ (show 0 ≤ P by linarith)
  linarith

theorem core_mul (W N ε P Q : ℚ) (e : ℕ) (h0 : 0 ≤ ε) (h1 : ε ≤ 1) (hNW : N ≤ W)
    (hlo : W * (1 - ε) ^ (e + 1) - 1 < N) (hNP : N + 1 ≤ P) (hQ1 : 1 ≤ Q) (hεQ : ε * Q ≤ 1 / 2 ^ 64)
    (hPQ : 8 * Q ≤ P) (he : (e : ℚ) + 1 ≤ 2 ^ 59) (hN0 : 0 ≤ N) :
    W - N ≤ P / (4 * Q) := by
  have hW0 : 0 ≤ W := le_trans hN0 hNW
  have hκ0 : 0 ≤ ((e : ℚ) + 1) * ε := mul_nonneg (by positivity) h0
  have hκQ := kappa_bound he h0 (by linarith) hεQ
  have hκ : ((e : ℚ) + 1) * ε ≤ 1 / 2 := by
    have := mul_le_mul_of_nonneg_left hQ1 hκ0
    linarith
  have hb := one_sub_pow_ge h1 (e + 1)
  push_cast at hb
  have := mul_le_mul_of_nonneg_left hb hW0
  exact le_trans (below_core hW0 hκ0 hκ (by linarith) hNP) (quarter_unit (by linarith) hPQ hκQ)

theorem core_div (V N ε P Q : ℚ) (e : ℕ) (h0 : 0 ≤ ε) (h1 : ε ≤ 1)
    (hhi : N * (1 - ε) ^ e ≤ V) (hlo : V * (1 - ε) - 1 < N) (hNP : N + 1 ≤ P) (hQ1 : 1 ≤ Q)
    (hεQ : ε * Q ≤ 1 / 2 ^ 64) (hPQ : 8 * Q ≤ P) (he : (e : ℚ) + 1 ≤ 2 ^ 59) (hN0 : 0 ≤ N) (hV0 : 0 ≤ V) :
    |N - V| ≤ P / (4 * Q) := by
  have hQ0 : 0 < Q := by linarith
  rw [abs_le]
  constructor
  · -- V - N ≤ 2 P ε + 1
    have hε : ε ≤ 1 / 2 := by
      have := mul_le_mul_of_nonneg_left hQ1 h0
      have : (1 : ℚ) / 2 ^ 64 ≤ 1 / 2 := by norm_num
      linarith
    have hεQ' : ε * Q ≤ 1 / 32 := le_trans hεQ (by norm_num)
    have := le_trans (below_core hV0 h0 hε hlo hNP) (quarter_unit hQ0 hPQ hεQ')
    linarith
  · -- N - V ≤ N e ε ≤ P e ε
    have hκ0 : 0 ≤ (e : ℚ) * ε := mul_nonneg (Nat.cast_nonneg e) h0
    have hκQ := kappa_bound (show (e : ℚ) ≤ 2 ^ 59 by linarith) h0 hQ0.le hεQ
    have := mul_le_mul_of_nonneg_left (one_sub_pow_ge h1 e) hN0
    have := mul_le_mul_of_nonneg_right (show N ≤ P by linarith) hκ0
    have := quarter_unit hQ0 hPQ hκQ
    have := mul_nonneg (show 0 ≤ P by linarith) hκ0
    linarith

/-- one more after a carry out of the first digit -/
theorem finish_exp (b nd : ℕ) (ds : List ℕ) (x : ℤ) : (finish b nd ds x).2 = x ∨ (finish b nd ds x).2 = x + 1 := by
  unfold finish
  simp only
  split
  · unfold roundUp
    split
    · right; rfl
    · left; rfl
  · left; rfl

theorem digVal_digitsOf (b : ℕ) (hb : 2 ≤ b) (N : ℕ) (x : ℤ) :
    digVal b (digitsOf b N) x = (N : ℚ) * (b : ℚ) ^ (x - ((digitsOf b N).length : ℤ)) := by
  unfold digVal; rw [ofDigits_digitsOf hb]

theorem within_unit_glue (b : ℕ) (hb : 2 ≤ b) (nd N : ℕ) (s : ℤ) (U : ℚ)
    (hL : nd < (digitsOf b N).length)
    (hclose : |(N : ℚ) - U * (b : ℚ) ^ s| ≤ (b : ℚ) ^ (digitsOf b N).length / (4 * (b : ℚ) ^ nd)) :
    |digVal b (finish b nd (digitsOf b N) (((digitsOf b N).length : ℤ) - s)).1
        (finish b nd (digitsOf b N) (((digitsOf b N).length : ℤ) - s)).2 - U| ≤
      (b : ℚ) ^ (((digitsOf b N).length : ℤ) - s - (nd : ℤ)) := by
  have hbq : (0 : ℚ) < (b : ℚ) := by exact_mod_cast (show 0 < b by omega)
  have hbne : (b : ℚ) ≠ 0 := hbq.ne'
  have hbs : (0 : ℚ) < (b : ℚ) ^ (-s) := zpow_pos hbq _
  -- rounding: within 3/4 of a unit of N · b^(-s)
  have hr := finish_round b hb nd (digitsOf b N) (((digitsOf b N).length : ℤ) - s) (digitsOf_lt hb N) hL
  rw [digVal_digitsOf b hb N, sub_sub_cancel_left] at hr
  -- conversion error, scaled back: within 1/4 of a unit
  have hconv : |(N : ℚ) * (b : ℚ) ^ (-s) - U| ≤ 1 / 4 * (b : ℚ) ^ (((digitsOf b N).length : ℤ) - s - (nd : ℤ)) := by
    have e1 : ((N : ℚ) - U * (b : ℚ) ^ s) * (b : ℚ) ^ (-s) = (N : ℚ) * (b : ℚ) ^ (-s) - U := by
      rw [sub_mul, mul_assoc, ← zpow_add₀ hbne, add_neg_cancel, zpow_zero, mul_one]
    have e2 : (b : ℚ) ^ (digitsOf b N).length / (4 * (b : ℚ) ^ nd) * (b : ℚ) ^ (-s) =
        1 / 4 * (b : ℚ) ^ (((digitsOf b N).length : ℤ) - s - (nd : ℤ)) := by
      rw [zpow_sub₀ hbne, zpow_sub₀ hbne, zpow_natCast, zpow_natCast, zpow_neg]; ring
    rw [← e1, abs_mul, abs_of_pos hbs, ← e2]
    exact mul_le_mul_of_nonneg_right hclose hbs.le
  calc _ ≤ _ := abs_sub_le _ ((N : ℚ) * (b : ℚ) ^ (-s)) _
    _ ≤ _ := add_le_add hr hconv
    _ = _ := by ring

theorem nLimbsNeeded_pos (base nd : ℕ) : 3 ≤ nLimbsNeeded base nd := by unfold nLimbsNeeded; omega

theorem adequacy_q (b nd nln L0 N : ℕ) (hb : 2 ≤ b)
    (H1 : b ^ nd * 2 ^ 64 ≤ B ^ (nln - 1)) (H2 : nd + 3 ≤ L0) (hN : N < b ^ L0) :
    (N : ℚ) + 1 ≤ (b : ℚ) ^ L0 ∧ (1 : ℚ) ≤ (b : ℚ) ^ nd ∧ epsP nln * (b : ℚ) ^ nd ≤ 1 / 2 ^ 64 ∧
    8 * (b : ℚ) ^ nd ≤ (b : ℚ) ^ L0 := by
  have hbq : (1 : ℚ) ≤ (b : ℚ) := by exact_mod_cast (show 1 ≤ b by omega)
  refine ⟨?_, one_le_pow₀ hbq, ?_, ?_⟩
  · have : N + 1 ≤ b ^ L0 := hN
    exact_mod_cast this
  · unfold epsP
    have hBq : (0 : ℚ) < (B : ℚ) ^ (nln - 1) := pow_pos Bq_pos _
    rw [div_mul_eq_mul_div, one_mul, div_le_div_iff₀ hBq (by positivity)]
    have : ((b ^ nd * 2 ^ 64 : ℕ) : ℚ) ≤ ((B ^ (nln - 1) : ℕ) : ℚ) := by exact_mod_cast H1
    push_cast at this
    linarith
  · have h8 : 8 ≤ b ^ (L0 - nd) := by
      calc 8 = 2 ^ 3 := by norm_num
        _ ≤ b ^ 3 := Nat.pow_le_pow_left hb 3
        _ ≤ b ^ (L0 - nd) := Nat.pow_le_pow_right (by omega) (by omega)
    have : 8 * b ^ nd ≤ b ^ L0 := by
      have e : b ^ L0 = b ^ (L0 - nd) * b ^ nd := by rw [← pow_add]; congr 1; omega
      rw [e]; exact Nat.mul_le_mul_right _ h8
    exact_mod_cast this

/-- the developed integer is within a quarter of a unit of the nd-th digit of the scaled magnitude, when
    n_limbs_needed leaves two guard limbs beyond the nd digits (H1), three more digits are developed than delivered
    (H2), the scaling exponent stays below 2^59 (H3), and in the division branch the power's ignored limbs do not
    exceed n_less_limbs_needed (H4) -/
theorem scaledInt_close (base nd nln : ℕ) (u : F) (hb : 2 ≤ base) (hn : 1 ≤ nln)
    (hm : Mant u.d)
    (H1 : base ^ nd * 2 ^ 64 ≤ B ^ (nln - 1))
    (H2 : nd + 3 ≤ (digitsOf base (scaledInt base nln u).1).length)
    (H3 : (scaledInt base nln u).2.natAbs + 1 ≤ 2 ^ 59)
    (H4 : u.exp ≤ (nln : ℤ) ∨
      (powHigh0 base (mulTrunc (64 * (u.exp - (nln : ℤ)).toNat) (cpbeBits base)) nln).2 ≤ (u.exp - (nln : ℤ)).toNat) :
    |((scaledInt base nln u).1 : ℚ) - qv u.d u.exp * (base : ℚ) ^ (scaledInt base nln u).2| ≤
      (base : ℚ) ^ (digitsOf base (scaledInt base nln u).1).length / (4 * (base : ℚ) ^ nd) := by
  have h0 := epsP_nonneg nln
  have h1 := epsP_le_one nln
  have hNlt := lt_pow_digitsOf_length hb (scaledInt base nln u).1
  obtain ⟨a1, a2, a3, a4⟩ := adequacy_q base nd nln _ _ hb H1 H2 hNlt
  by_cases hexp : u.exp ≤ (nln : ℤ)
  · obtain ⟨e, hs, hNW, hlo⟩ := scaledInt_mul_bound base nln u (by omega) hn hm hexp
    rw [hs, Int.natAbs_natCast] at H3
    rw [hs, zpow_natCast, abs_sub_comm, abs_of_nonneg (sub_nonneg.mpr hNW)]
    exact core_mul _ _ _ _ _ e h0 h1 hNW hlo a1 a2 a3 a4 (by exact_mod_cast H3) (Nat.cast_nonneg _)
  · obtain ⟨e, hs, hhi, hlo⟩ :=
      scaledInt_div_bound base nln u (by omega) hn hm hexp (H4.resolve_left hexp)
    rw [hs, Int.natAbs_neg, Int.natAbs_natCast] at H3
    rw [hs, zpow_neg, zpow_natCast, ← div_eq_mul_inv]
    exact core_div _ _ _ _ _ e h0 h1 hhi hlo a1 a2 a3 a4 (by exact_mod_cast H3) (Nat.cast_nonneg _)
      (div_nonneg (qv_nonneg _ _) (pow_nonneg (Nat.cast_nonneg base) e))

end Mpir.MpfStr
