/- Helper lemmas for the object life-cycle / allocator-ledger model (Mpir/Model/Life.lean, property C04):
   the invariant `Inv`, three primitive transitions that preserve it (free a slot, allocate a slot,
   overwrite a value), and the decomposition of every `step` into those. -/
import Mpir.Model.Life
namespace Mpir.Life

theorem limbsOf_zero : limbsOf 0 = 0 := by
  simp [limbsOf, natLimbs]

theorem bitsToLimbs_pos (bits : Nat) : 1 ≤ bitsToLimbs bits := by
  unfold bitsToLimbs; omega

/-- the invariant of the life-cycle model -/
structure Inv (s : State) : Prop where
  /-- no realloc/free was ever announced with a size different from the ledger's -/
  breaches : s.breaches = 0
  /-- every live object: its block is in the ledger with its `alloc`, `alloc ≥ 1`, the value fits, id below `next` -/
  live : ∀ k o, getObj s k = some o →
    (o.blk, o.alloc) ∈ s.ledger ∧ 1 ≤ o.alloc ∧ limbsOf o.val ≤ o.alloc ∧ o.blk < s.next
  /-- ledger block ids are pairwise distinct -/
  distinct : s.ledger.Pairwise (fun p q => p.1 ≠ q.1)
  /-- ledger block ids are below the fresh-id counter -/
  below : ∀ p ∈ s.ledger, p.1 < s.next
  /-- distinct slots own distinct blocks -/
  owners : ∀ j k oj ok, getObj s j = some oj → getObj s k = some ok → oj.blk = ok.blk → j = k
  /-- no leak: every ledger entry is owned by a live object -/
  noleak : ∀ p ∈ s.ledger, ∃ k o, getObj s k = some o ∧ (o.blk, o.alloc) = p

theorem getObj_def (s : State) (k : Nat) : getObj s k = (s.objs[k]?).getD none := by
  simp [getObj]

theorem lt_of_slot {s : State} {k : Nat} {x : Option Obj} (h : s.objs[k]? = some x) :
    k < s.objs.length :=
  (List.getElem?_eq_some_iff.1 h).1

theorem lt_of_getObj_some {s : State} {k : Nat} {o : Obj} (h : getObj s k = some o) :
    k < s.objs.length := by
  rw [getObj_def] at h
  cases hs : s.objs[k]? with
  | none => rw [hs] at h; cases h
  | some x => exact lt_of_slot hs

theorem getObj_of_slot {s : State} {k : Nat} {x : Option Obj} (h : s.objs[k]? = some x) :
    getObj s k = x := by
  simp [getObj_def, h]

theorem slot_of_getObj_some {s : State} {k : Nat} {o : Obj} (h : getObj s k = some o) :
    s.objs[k]? = some (some o) := by
  have hk := lt_of_getObj_some h
  rw [getObj_def] at h
  simp [List.getElem?_eq_getElem hk] at h ⊢
  exact h

theorem getObj_setObj {s : State} {k : Nat} (hk : k < s.objs.length) (x : Option Obj) (j : Nat) :
    getObj (setObj s k x) j = if j = k then x else getObj s j := by
  simp only [getObj_def, setObj, List.getElem?_set]
  by_cases h : k = j
  · subst h; simp [hk]
  · have h' : ¬ j = k := fun e => h e.symm
    simp [h, h']

@[simp] theorem setObj_ledger (s : State) (k : Nat) (x : Option Obj) : (setObj s k x).ledger = s.ledger := rfl
@[simp] theorem setObj_next (s : State) (k : Nat) (x : Option Obj) : (setObj s k x).next = s.next := rfl
@[simp] theorem setObj_breaches (s : State) (k : Nat) (x : Option Obj) : (setObj s k x).breaches = s.breaches := rfl
@[simp] theorem setObj_length (s : State) (k : Nat) (x : Option Obj) :
    (setObj s k x).objs.length = s.objs.length := by simp [setObj]

theorem setObj_setObj (s : State) (k : Nat) (x y : Option Obj) :
    setObj (setObj s k x) k y = setObj s k y := by
  simp [setObj]

/-! ### the ledger under the invariant -/

theorem ledger_nodup {s : State} (h : Inv s) : s.ledger.Nodup :=
  h.distinct.imp (fun hne e => hne (by rw [e]))

/-- under the invariant a release of a live object's block is never a breach -/
theorem ledgerRelease_live {s : State} (h : Inv s) {k : Nat} {o : Obj} (ho : getObj s k = some o) :
    ledgerRelease s o.blk o.alloc = { s with ledger := s.ledger.erase (o.blk, o.alloc) } := by
  have hm := (h.live k o ho).1
  simp [ledgerRelease, hm]

/-! ### primitive transitions (first `owners_set`: no two objects own one block, through any change of one object) -/

theorem owners_set {s s' : State} (h : Inv s) {k : Nat} {x : Option Obj}
    (hget : ∀ j, getObj s' j = if j = k then x else getObj s j)
    (hx : ∀ o, x = some o → ∀ j oj, j ≠ k → getObj s j = some oj → oj.blk ≠ o.blk) :
    ∀ i j oi oj, getObj s' i = some oi → getObj s' j = some oj → oi.blk = oj.blk → i = j := by
  intro i j oi oj hi hj e
  rw [hget] at hi hj
  split at hi <;> split at hj
  · omega
  · next _ hjk => exact absurd e.symm (hx oi hi j oj hjk hj)
  · next hik _ => exact absurd e (hx oj hj i oi hik hi)
  · exact h.owners i j oi oj hi hj e

theorem inv_free {s : State} (h : Inv s) {k : Nat} {o : Obj} (ho : getObj s k = some o) :
    Inv (setObj { s with ledger := s.ledger.erase (o.blk, o.alloc) } k none) := by
  have hk := lt_of_getObj_some ho
  have hnd := ledger_nodup h
  have hget : ∀ j, getObj (setObj { s with ledger := s.ledger.erase (o.blk, o.alloc) } k none) j
      = if j = k then none else getObj s j := fun j => by
    rw [getObj_setObj (by simpa using hk)]; rfl
  refine ⟨h.breaches, ?_, ?_, ?_, ?_, ?_⟩
  · intro j o' hj
    rw [hget] at hj
    split at hj
    · cases hj
    · rename_i hjk
      obtain ⟨h1, h2, h3, h4⟩ := h.live j o' hj
      refine ⟨?_, h2, h3, h4⟩
      have hne : (o'.blk, o'.alloc) ≠ (o.blk, o.alloc) := by
        intro e
        exact hjk (h.owners j k o' o hj ho (by simpa using congrArg Prod.fst e))
      exact (List.mem_erase_of_ne hne).2 h1
  · exact h.distinct.sublist List.erase_sublist
  · intro p hp; exact h.below p (List.mem_of_mem_erase hp)
  · exact owners_set h hget fun o e => by cases e
  · intro p hp
    have hp' := (hnd.mem_erase_iff).1 hp
    obtain ⟨j, o', hj, e⟩ := h.noleak p hp'.2
    refine ⟨j, o', ?_, e⟩
    rw [hget]
    have hjk : j ≠ k := by
      intro ejk; subst ejk
      rw [ho] at hj; cases hj
      exact hp'.1 e.symm
    simp [hjk, hj]

theorem inv_alloc {s : State} (h : Inv s) {k : Nat} (hk : s.objs[k]? = some none) {n : Nat} (hn : 1 ≤ n)
    {v : Int} (hv : limbsOf v ≤ n) :
    Inv (setObj (ledgerAlloc s n).1 k (some { alloc := n, val := v, blk := s.next })) := by
  have hlt := lt_of_slot hk
  have hnone : getObj s k = none := getObj_of_slot hk
  have hget : ∀ j, getObj (setObj (ledgerAlloc s n).1 k (some { alloc := n, val := v, blk := s.next })) j
      = if j = k then some { alloc := n, val := v, blk := s.next } else getObj s j := fun j => by
    rw [getObj_setObj (by simpa [ledgerAlloc] using hlt)]; rfl
  refine ⟨h.breaches, ?_, ?_, ?_, ?_, ?_⟩
  · intro j o' hj
    rw [hget] at hj
    split at hj
    · cases hj
      simp [ledgerAlloc, hn, hv]
    · obtain ⟨h1, h2, h3, h4⟩ := h.live j o' hj
      refine ⟨?_, h2, h3, ?_⟩
      · simp [ledgerAlloc, h1]
      · simp [ledgerAlloc]; omega
  · simp only [setObj_ledger, ledgerAlloc, List.pairwise_cons]
    refine ⟨?_, h.distinct⟩
    intro p hp e
    have := h.below p hp
    have e' : s.next = p.1 := e
    omega
  · intro p hp
    simp only [setObj_ledger, setObj_next, ledgerAlloc, List.mem_cons] at hp ⊢
    rcases hp with rfl | hp
    · simp
    · have := h.below p hp; omega
  · exact owners_set h hget fun o e j oj _ hj => by cases e; exact Nat.ne_of_lt (h.live j oj hj).2.2.2
  · intro p hp
    simp only [setObj_ledger, ledgerAlloc, List.mem_cons] at hp
    rcases hp with rfl | hp
    · exact ⟨k, { alloc := n, val := v, blk := s.next }, by rw [hget]; simp, rfl⟩
    · obtain ⟨j, o', hj, e⟩ := h.noleak p hp
      refine ⟨j, o', ?_, e⟩
      rw [hget]
      have hjk : j ≠ k := by
        intro ejk; subst ejk; rw [hnone] at hj; cases hj
      simp [hjk, hj]

theorem inv_setval {s : State} (h : Inv s) {k : Nat} {o : Obj} (ho : getObj s k = some o)
    {v : Int} (hv : limbsOf v ≤ o.alloc) :
    Inv (setObj s k (some { o with val := v })) := by
  have hk := lt_of_getObj_some ho
  have hget : ∀ j, getObj (setObj s k (some { o with val := v })) j
      = if j = k then some { o with val := v } else getObj s j := fun j => getObj_setObj hk _ j
  obtain ⟨g1, g2, _, g4⟩ := h.live k o ho
  refine ⟨h.breaches, ?_, h.distinct, h.below, ?_, ?_⟩
  · intro j o' hj
    rw [hget] at hj
    split at hj
    · cases hj; exact ⟨g1, g2, hv, g4⟩
    · exact h.live j o' hj
  · exact owners_set h hget fun o' e j oj hjk hj eb => by cases e; exact hjk (h.owners j k oj o hj ho eb)
  · intro p hp
    obtain ⟨j, o', hj, e⟩ := h.noleak p hp
    by_cases hjk : j = k
    · subst hjk
      rw [ho] at hj; cases hj
      exact ⟨j, { o with val := v }, by rw [hget]; simp, e⟩
    · exact ⟨j, o', by rw [hget]; simp [hjk, hj], e⟩

/-! ### `step` decomposed -/

/-- `reallocObj` on a live object under the invariant = free the slot, then allocate it afresh -/
theorem reallocObj_eq {s : State} (h : Inv s) {k : Nat} {o : Obj} (ho : getObj s k = some o) (n : Nat) :
    reallocObj s k o n =
      setObj (ledgerAlloc (setObj { s with ledger := s.ledger.erase (o.blk, o.alloc) } k none) n).1 k
        (some { alloc := n, val := if limbsOf o.val > n then 0 else o.val,
                blk := (setObj { s with ledger := s.ledger.erase (o.blk, o.alloc) } k none).next }) := by
  simp [reallocObj, ledgerRelease_live h ho, ledgerAlloc, setObj]

theorem inv_reallocObj {s : State} (h : Inv s) {k : Nat} {o : Obj} (ho : getObj s k = some o)
    {n : Nat} (hn : 1 ≤ n) : Inv (reallocObj s k o n) := by
  rw [reallocObj_eq h ho]
  have hk := lt_of_getObj_some ho
  refine inv_alloc (inv_free h ho) ?_ hn ?_
  · simp [setObj, hk]
  · split
    · simp [limbsOf_zero]
    · omega

/-- what `reallocObj` leaves in slot `k` (no invariant needed) -/
theorem getObj_reallocObj {s : State} {k : Nat} {o : Obj} (ho : getObj s k = some o) (n j : Nat) :
    getObj (reallocObj s k o n) j =
      if j = k then some { alloc := n, val := if limbsOf o.val > n then 0 else o.val,
                           blk := (ledgerRelease s o.blk o.alloc).next }
      else getObj s j := by
  have hk := lt_of_getObj_some ho
  have hk' : k < (ledgerAlloc (ledgerRelease s o.blk o.alloc) n).1.objs.length := by
    simp only [ledgerAlloc, ledgerRelease]; split <;> exact hk
  simp only [reallocObj]
  rw [getObj_setObj hk']
  split
  · rfl
  · simp only [getObj, ledgerAlloc, ledgerRelease]; split <;> rfl

/-! ### per-operation preservation -/

theorem getObj_init (n k : Nat) : getObj (init n) k = none := by
  simp only [getObj_def, init, List.getElem?_replicate]
  split <;> rfl

theorem inv_step_init {s : State} (h : Inv s) (k : Nat) : Inv (step s (.init k)) := by
  simp only [step]
  split
  · rename_i hk
    exact inv_alloc h hk (Nat.le_refl 1) (by simp [limbsOf_zero])
  · exact h

theorem inv_step_init2 {s : State} (h : Inv s) (k bits : Nat) : Inv (step s (.init2 k bits)) := by
  simp only [step]
  split
  · rename_i hk
    exact inv_alloc h hk (bitsToLimbs_pos bits) (by simp [limbsOf_zero])
  · exact h

theorem inv_step_realloc2 {s : State} (h : Inv s) (k bits : Nat) : Inv (step s (.realloc2 k bits)) := by
  simp only [step]
  split
  · exact h
  · rename_i o ho
    exact inv_reallocObj h ho (bitsToLimbs_pos bits)

theorem inv_step_set {s : State} (h : Inv s) (k : Nat) (v : Int) : Inv (step s (.set k v)) := by
  simp only [step]
  split
  · exact h
  · rename_i o ho
    split
    · rw [getObj_reallocObj ho, if_pos rfl]
      exact inv_setval (inv_reallocObj h ho (by omega))
        (by rw [getObj_reallocObj ho, if_pos rfl]) (by simp only []; omega)
    · exact inv_setval h ho (by omega)

theorem inv_step_clear {s : State} (h : Inv s) (k : Nat) : Inv (step s (.clear k)) := by
  simp only [step]
  split
  · exact h
  · rename_i o ho
    rw [ledgerRelease_live h ho]
    exact inv_free h ho

theorem getObj_clear (s : State) (k j : Nat) :
    getObj (step s (.clear k)) j = if j = k then none else getObj s j := by
  simp only [step]
  split
  · rename_i hk
    split
    · rename_i e; rw [e]; exact hk
    · rfl
  · rename_i o ho
    have hk := lt_of_getObj_some ho
    rw [getObj_setObj (by simp only [ledgerRelease]; split <;> exact hk)]
    split
    · rfl
    · simp only [getObj, ledgerRelease]; split <;> rfl

theorem inv_clearList {s : State} (h : Inv s) (ks : List Nat) :
    Inv (ks.foldl (fun s k => step s (.clear k)) s) := by
  induction ks generalizing s with
  | nil => exact h
  | cons k ks ih => exact ih (inv_step_clear h k)

theorem getObj_clearList (ks : List Nat) (s : State) (j : Nat) (hj : j ∈ ks ∨ getObj s j = none) :
    getObj (ks.foldl (fun s k => step s (.clear k)) s) j = none := by
  induction ks generalizing s with
  | nil => rcases hj with hj | hj
           · cases hj
           · exact hj
  | cons k ks ih =>
      simp only [List.foldl_cons]
      apply ih
      rcases hj with hj | hj
      · rcases List.mem_cons.1 hj with rfl | hj
        · exact Or.inr (by rw [getObj_clear, if_pos rfl])
        · exact Or.inl hj
      · exact Or.inr (by rw [getObj_clear, hj, ite_self])

theorem getObj_clearAll (s : State) (j : Nat) : getObj (clearAll s) j = none := by
  unfold clearAll
  apply getObj_clearList
  by_cases hj : j < s.objs.length
  · exact Or.inl (List.mem_range.2 hj)
  · right
    rw [getObj_def, List.getElem?_eq_none (Nat.le_of_not_lt hj)]; rfl

end Mpir.Life
