/- mpn_powm on memory over an arbitrary reduction meeting `RedOK`, as the model `PowmR.mpnPowmMemG` spells it. -/
import MpirProofs.Lemmas.PowmLimb
import Mpir.Model.PowmReal
namespace Mpir.PowmL
open Mpir Mpir.Powm Mpir.PowmR

theorem mpnPowmMemG_correct (red : List Nat → List Nat × Bool) (thr : Nat) (binvItch : Nat → Nat) (itch : Nat)
    (bp ep mp : List Nat) (hred : RedOK red mp)
    (hep : Norm ep) (hne : ep ≠ []) (hmp : Limbs mp) (hodd : val mp % 2 = 1)
    (hitch : 2 * mp.length ≤ itch) (hbinv : thr ≤ mp.length → binvItch mp.length ≤ itch) :
    (mpnPowmMemG red thr binvItch itch bp ep mp).2 = true ∧
    (mpnPowmMemG red thr binvItch itch bp ep mp).1 = toLimbs mp.length (val bp ^ val ep % val mp) :=
  powmMem_correct red itch bp ep mp hred hep hne hmp hodd hitch _ (binvFlag_true thr binvItch itch mp.length hbinv)

end Mpir.PowmL
