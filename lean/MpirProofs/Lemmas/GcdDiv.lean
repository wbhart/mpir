/- hgcd2.c `div1` / `div2` (single- and double-limb shift-subtract division) compute the Euclidean
   quotient and remainder. -/
import MpirProofs.Lemmas.Gcd1
namespace Mpir.Gcd
open Mpir

theorem div1DownB_succ (k r X q : Nat) :
    div1DownB (k + 1) r X q =
      if r ≥ X >>> 1 then div1DownB k (r - X >>> 1) (X >>> 1) (((q <<< 1) % B) ||| 1)
      else div1DownB k r (X >>> 1) ((q <<< 1) % B) := by
  simp only [div1DownB]
  split <;> rfl

theorem div1DownA_succ (k r X q : Nat) :
    div1DownA (k + 1) r X q =
      if r ≥ X then div1DownA k (r - X) (X >>> 1) (((q <<< 1) % B) ||| 1)
      else div1DownA k r (X >>> 1) ((q <<< 1) % B) := by
  simp only [div1DownA]
  split <;> rfl

theorem div2DownB_eq : ∀ k n d q, div2DownB k n d q = div1DownB k n d q := by
  intro k
  induction k with
  | zero => intros; rfl
  | succ k ih =>
    intro n d q
    rw [div1DownB_succ]
    simp only [div2DownB]
    split <;> simp only [ih]

theorem div2DownA_eq : ∀ k n d q, div2DownA k n d q = div1DownA k n d q := by
  intro k
  induction k with
  | zero => intros; rfl
  | succ k ih =>
    intro n d q
    rw [div1DownA_succ]
    simp only [div2DownA]
    split <;> simp only [ih]

theorem shl1_modB (q : Nat) (h : 2 * q < B) : (q <<< 1) % B = 2 * q := by
  rw [Nat.shiftLeft_eq, pow_one, Nat.mul_comm, Nat.mod_eq_of_lt h]

theorem shl1_modB_or1 (q : Nat) (h : 2 * q < B) : ((q <<< 1) % B) ||| 1 = 2 * q + 1 := by
  rw [Nat.mod_eq_of_lt (by rw [Nat.shiftLeft_eq, pow_one]; omega), shl1_or1]

theorem mul_pow_succ_shr (d k : Nat) : (d * 2 ^ (k + 1)) >>> 1 = d * 2 ^ k := by
  rw [Nat.shiftRight_eq_div_pow, pow_one, pow_succ, ← Nat.mul_assoc, Nat.mul_div_cancel _ (by norm_num)]

/-- `k` restoring-division steps with divisors `d·2^(k-1), …, d`. -/
theorem div1DownB_spec : ∀ k r q d, r < d * 2 ^ k → q * 2 ^ k + r / d < B →
    div1DownB k r (d * 2 ^ k) q = (q * 2 ^ k + r / d, r % d) := by
  intro k
  induction k with
  | zero =>
    intro r q d hr _
    simp only [pow_zero, Nat.mul_one] at hr ⊢
    simp [div1DownB, Nat.div_eq_of_lt hr, Nat.mod_eq_of_lt hr]
  | succ k ih =>
    intro r q d hr hq
    have hd : 0 < d := by
      rcases Nat.eq_zero_or_pos d with h | h
      · subst h; simp at hr
      · exact h
    have hp : 0 < 2 ^ k := by positivity
    have h2q : 2 * q < B := by
      have h1 : q * 2 ^ (k + 1) = 2 * q * 2 ^ k := by rw [pow_succ]; ring
      have h2 : 2 * q ≤ 2 * q * 2 ^ k := Nat.le_mul_of_pos_right _ hp
      generalize r / d = e at hq
      omega
    rw [div1DownB_succ, mul_pow_succ_shr]
    split
    · rename_i hge
      have hge : d * 2 ^ k ≤ r := hge
      have hdiv : (r - d * 2 ^ k) / d = r / d - 2 ^ k := by
        rw [Nat.sub_mul_div]
      have hle : 2 ^ k ≤ r / d := by
        rw [Nat.le_div_iff_mul_le hd, Nat.mul_comm]; exact hge
      have hmod : (r - d * 2 ^ k) % d = r % d := by
        rw [Nat.sub_mul_mod hge]
      rw [shl1_modB_or1 q h2q, ih (r - d * 2 ^ k) (2 * q + 1) d]
      · rw [hdiv, hmod]
        congr 1
        rw [pow_succ]
        have : (2 * q + 1) * 2 ^ k = q * (2 ^ k * 2) + 2 ^ k := by ring
        omega
      · rw [pow_succ, ← Nat.mul_assoc] at hr; omega
      · rw [hdiv]
        have : (2 * q + 1) * 2 ^ k = q * 2 ^ (k + 1) + 2 ^ k := by rw [pow_succ]; ring
        omega
    · rename_i hlt
      have hlt : r < d * 2 ^ k := Nat.lt_of_not_ge hlt
      rw [shl1_modB q h2q, ih r (2 * q) d hlt]
      · congr 1
        rw [pow_succ]; ring
      · have : 2 * q * 2 ^ k = q * 2 ^ (k + 1) := by rw [pow_succ]; ring
        omega

theorem div1DownB_congr (k r X X' q : Nat) (h : X >>> 1 = X' >>> 1) :
    div1DownB k r X q = div1DownB k r X' q := by
  cases k with
  | zero => rfl
  | succ k => rw [div1DownB_succ, div1DownB_succ, h]

/-- The "test, then shift" loop is the "shift, then test" loop started one bit higher. -/
theorem div1DownA_eq_DownB : ∀ k r Y q, div1DownA k r Y q = div1DownB k r (2 * Y) q := by
  intro k
  induction k with
  | zero => intros; rfl
  | succ k ih =>
    intro r Y q
    have e1 : (2 * Y) >>> 1 = Y := by
      rw [Nat.shiftRight_eq_div_pow, pow_one, Nat.mul_div_cancel_left _ (by norm_num)]
    have e2 : (2 * (Y >>> 1)) >>> 1 = Y >>> 1 := by
      rw [Nat.shiftRight_eq_div_pow (2 * _), pow_one, Nat.mul_div_cancel_left _ (by norm_num)]
    rw [div1DownA_succ, div1DownB_succ, e1, ih, ih,
      div1DownB_congr k _ (2 * (Y >>> 1)) Y _ e2, div1DownB_congr k _ (2 * (Y >>> 1)) Y _ e2]

theorem div1DownA_spec (k r q d : Nat) (hr : r < d * 2 ^ (k + 1))
    (hq : q * 2 ^ (k + 1) + r / d < B) :
    div1DownA (k + 1) r (d * 2 ^ k) q = (q * 2 ^ (k + 1) + r / d, r % d) := by
  rw [div1DownA_eq_DownB]
  have e : 2 * (d * 2 ^ k) = d * 2 ^ (k + 1) := by rw [pow_succ]; ring
  rw [e]
  exact div1DownB_spec (k + 1) r q d hr hq

theorem mul_two_pow_succ (a k : Nat) : a * 2 ^ (k + 1) = 2 * a * 2 ^ k := by
  rw [pow_succ]; ring

/-- The four normalisation loops of div1 / div2 double d while `p d` holds, where `p d` implies that 2d
    still fits the word W: if `p` fails at d·2^f, the loop stops at some d·2^j where `p` fails. -/
theorem up_spec {W : Nat} {p : Nat → Prop} [DecidablePred p] {g : Nat → Nat → Nat → Nat × Nat}
    (g0 : ∀ d c, g 0 d c = (d, c))
    (gs : ∀ f d c, g (f + 1) d c = if p d then g f ((d <<< 1) % W) (c + 1) else (d, c))
    (hp : ∀ d, p d → 2 * d < W) :
    ∀ f d c, ¬ p (d * 2 ^ f) → ∃ j, g f d c = (d * 2 ^ j, c + j) ∧ ¬ p (d * 2 ^ j)
  | 0, d, c, h => ⟨0, by rw [g0, pow_zero, Nat.mul_one, Nat.add_zero], h⟩
  | f + 1, d, c, h => by
    rw [gs]
    by_cases hd : p d
    · rw [if_pos hd, Nat.shiftLeft_eq, pow_one, Nat.mul_comm d 2, Nat.mod_eq_of_lt (hp d hd)]
      rw [mul_two_pow_succ] at h
      obtain ⟨j, hj, h1⟩ := up_spec g0 gs hp f (2 * d) (c + 1) h
      exact ⟨j + 1, by rw [hj, mul_two_pow_succ, Nat.add_assoc, Nat.add_comm 1 j],
        by rw [mul_two_pow_succ]; exact h1⟩
    · rw [if_neg hd]
      exact ⟨0, by rw [pow_zero, Nat.mul_one, Nat.add_zero], by rw [pow_zero, Nat.mul_one]; exact hd⟩

theorem div1_spec (n d : Nat) (hn : n < B) (hd0 : 0 < d) :
    (div1 n d).1 = n / d ∧ (div1 n d).2 = n % d := by
  have hq : 0 * 2 ^ 0 + n / d < B := by
    have := Nat.div_le_self n d
    omega
  unfold div1
  split
  · rename_i hge
    obtain ⟨j, hj, h1⟩ := up_spec (W := B) (p := fun d => d < 2 ^ 63) (g := div1UpHi) (fun _ _ => rfl)
      (fun _ _ _ => rfl) (fun d h => by rw [B_eq]; omega) 64 d 1 (by
      have : 1 * 2 ^ 64 ≤ d * 2 ^ 64 := Nat.mul_le_mul_right _ hd0
      show ¬ d * 2 ^ 64 < 2 ^ 63
      omega)
    have h1 : 2 ^ 63 ≤ d * 2 ^ j := Nat.le_of_not_lt h1
    rw [hj]
    simp only
    rw [Nat.add_comm 1 j, div1DownA_spec j n 0 d
      (by rw [mul_two_pow_succ, Nat.mul_assoc]; rw [B_eq] at hn; omega)
      (by simpa using hq)]
    simp
  · rename_i hlt
    obtain ⟨j, hj, h1⟩ := up_spec (W := B) (p := fun d => n ≥ d) (g := fun f => div1Up f n) (fun _ _ => rfl)
      (fun _ _ _ => rfl) (fun d (h : n ≥ d) => by rw [B_eq]; omega) 64 d 0 (by
      have : 1 * 2 ^ 64 ≤ d * 2 ^ 64 := Nat.mul_le_mul_right _ hd0
      show ¬ n ≥ d * 2 ^ 64
      omega)
    have h1 : n < d * 2 ^ j := Nat.lt_of_not_ge h1
    rw [hj]
    simp only
    rw [Nat.zero_add, div1DownB_spec j n 0 d h1 (by simpa using hq)]
    simp

example : div1 1000000007 13 = (76923077, 6) := by decide +kernel
example : div1 (B - 1) 3 = (6148914691236517205, 0) := by decide +kernel

theorem div2_spec (n d : Nat) (hn : n < B * B) (hd0 : B ≤ d) (hd : d < B * B) :
    (div2 n d).1 = n / d ∧ (div2 n d).2 = n % d := by
  have hdpos : 0 < d := lt_of_lt_of_le B_pos hd0
  have hq : 0 * 2 ^ 0 + n / d < B := by
    have h1 : n / d ≤ n / B := Nat.div_le_div_left hd0 B_pos
    have h2 : n / B < B := (Nat.div_lt_iff_lt_mul B_pos).mpr hn
    omega
  unfold div2
  split
  · rename_i hge
    have hge' : 2 ^ 63 * B ≤ n := (Nat.le_div_iff_mul_le B_pos).mp hge
    obtain ⟨j, hj, h1⟩ := up_spec (W := B * B) (p := fun d => d / B < 2 ^ 63) (g := div2UpHi) (fun _ _ => rfl)
      (fun _ _ _ => rfl) (fun d (h : d / B < 2 ^ 63) => by
        have := (Nat.div_lt_iff_lt_mul B_pos).mp h
        rw [B_eq] at this ⊢; omega) 64 d 1 (by
      have : B * 2 ^ 64 ≤ d * 2 ^ 64 := Nat.mul_le_mul_right _ hd0
      show ¬ d * 2 ^ 64 / B < 2 ^ 63
      rw [Nat.div_lt_iff_lt_mul B_pos, B_eq] at *
      omega)
    have h1 : 2 ^ 63 * B ≤ d * 2 ^ j := (Nat.le_div_iff_mul_le B_pos).mp (Nat.le_of_not_lt h1)
    rw [hj]
    simp only
    rw [Nat.add_comm 1 j, div2DownA_eq, div1DownA_spec j n 0 d
      (by rw [mul_two_pow_succ, Nat.mul_assoc]; rw [B_eq] at hn h1; omega)
      (by simpa using hq)]
    simp
  · rename_i hlt
    have hlt' : n < 2 ^ 63 * B :=
      (Nat.div_lt_iff_lt_mul B_pos).mp (Nat.lt_of_not_ge hlt)
    obtain ⟨j, hj, h1⟩ := up_spec (W := B * B) (p := fun d => n ≥ d) (g := fun f => div2Up f n)
      (fun _ _ => rfl) (fun _ _ _ => rfl) (fun d (h : n ≥ d) => by rw [B_eq] at hlt' ⊢; omega) 128 d 0 (by
      have h3 : B * 2 ^ 128 ≤ d * 2 ^ 128 := Nat.mul_le_mul_right _ hd0
      have h4 : 2 ^ 63 * B ≤ B * 2 ^ 128 := by
        rw [Nat.mul_comm]
        exact Nat.mul_le_mul_left _ (Nat.pow_le_pow_right (by norm_num) (by norm_num))
      exact Nat.not_le.mpr (lt_of_lt_of_le hlt' (le_trans h4 h3)))
    have h1 : n < d * 2 ^ j := Nat.lt_of_not_ge h1
    rw [hj]
    simp only
    rw [Nat.zero_add, div2DownB_eq, div1DownB_spec j n 0 d h1 (by simpa using hq)]
    simp

example : div2 (B * B - 1) (B + 7) = (18446744073709551609, 48) := by
  decide +kernel
example : div2 (2 ^ 127 - 1) (3 * B + 5) = (3074457345618258602, 21521201419327810221) := by
  decide +kernel

end Mpir.Gcd
