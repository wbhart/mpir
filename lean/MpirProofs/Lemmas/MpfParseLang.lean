/- Lemmas: the recogniser `MpfParse.recog` is sound and complete for the inductive grammar `MpfParse.Lang`. -/
import MpirProofs.Lemmas.MpfParse
namespace Mpir.MpfParse
open Mpir Mpir.MpfStr

theorem space_not_dig (b r c : Nat) (hr : r ≤ 62) (hs : Radix.isSpace c = true) : ¬ dv b c < r := by
  simp only [Radix.isSpace, Bool.or_eq_true, beq_iff_eq, Bool.and_eq_true, decide_eq_true_eq] at hs
  have : c = 32 ∨ c = 9 ∨ c = 10 ∨ c = 11 ∨ c = 12 ∨ c = 13 := by omega
  apply not_dig b r c hr
  rcases this with rfl | rfl | rfl | rfl | rfl | rfl <;> simp

theorem dig_not_space (b c : Nat) (hb : b ≤ 62) (h : dv b c < b) : Radix.isSpace c = false := by
  cases hs : Radix.isSpace c with
  | false => rfl
  | true => exact absurd h (space_not_dig b b c hb hs)

theorem dig_not_marker (b c : Nat) (hb : b ≤ 62) (h : dv b c < b) : isMarker b c = false := by
  cases hs : isMarker b c with
  | false => rfl
  | true => exact absurd h (marker_facts b c hb hs).2.2

theorem span_append {p : Nat → Bool} (m rest : List Nat) (h : ∀ x ∈ m, p x = true)
    (hk : ∀ k, rest.head? = some k → p k = false) :
    (m ++ rest).takeWhile p = m ∧ (m ++ rest).dropWhile p = rest := by
  rw [List.takeWhile_append_of_pos h, List.dropWhile_append_of_pos h]
  cases rest with
  | nil => simp
  | cons k e => simp [hk k rfl]

theorem span_facts (p : Nat → Bool) (l : List Nat) :
    (∀ x ∈ l.takeWhile p, p x = true) ∧ (∀ k, (l.dropWhile p).head? = some k → p k = false) := by
  refine ⟨List.all_eq_true.mp List.all_takeWhile, fun k hk => ?_⟩
  have := List.head?_dropWhile_not p l
  rwa [hk] at this

theorem scanMant_iff (b : Nat) (hb : b ≤ 62) (m ds : List Nat) (pt : Option Nat) :
    scanMant (dv b) b m = some (ds, pt) ↔ Mant b m ds pt := by
  constructor
  · intro h
    induction m generalizing ds pt with
    | nil => simp [scanMant] at h; obtain ⟨rfl, rfl⟩ := h; exact Mant.nil
    | cons c cs ih =>
      rw [scanMant] at h
      split at h
      · cases h
      · rename_i ds' pt' hs
        have ih' := ih ds' pt' hs
        split at h
        · cases h; exact Mant.space ‹_› ih'
        · split at h
          · subst c
            split at h
            · cases h
            · cases h; exact Mant.point ih'
          · split at h
            · cases h; exact Mant.digit ‹_› ih'
            · cases h
  · intro h
    induction h with
    | nil => simp [scanMant]
    | space hs _ ih => simp [scanMant, ih, hs]
    | @digit c t ds pt hd _ ih =>
      have h1 := dig_not_space b c hb hd
      have h2 : c ≠ 46 := fun h => dv_point b hb (h ▸ hd)
      simp [scanMant, ih, h1, h2, hd]
    | point _ ih =>
      have h1 : Radix.isSpace 46 = false := by decide
      simp [scanMant, ih, h1]

theorem mantissa_iff (b : Nat) (hb : b ≤ 62) (m ds : List Nat) (pt : Option Nat) :
    mantissa b m = some (ds, pt) ↔ Mant b m ds pt := by
  rw [← scanMant_eq b hb, scanMant_iff b hb]

theorem mant_noMarker (b : Nat) (hb : b ≤ 62) {m ds : List Nat} {pt : Option Nat} (h : Mant b m ds pt) :
    NoMarker b m := by
  induction h with
  | nil => intro x hx; simp at hx
  | @space c t ds pt hs _ ih =>
    intro x hx
    rcases List.mem_cons.1 hx with rfl | hx
    · cases hm : isMarker b x with
      | false => rfl
      | true => have := (marker_facts b x hb hm).1; rw [hs] at this; cases this
    · exact ih x hx
  | @digit c t ds pt hd _ ih =>
    intro x hx
    rcases List.mem_cons.1 hx with rfl | hx
    · exact dig_not_marker b x hb hd
    · exact ih x hx
  | point _ ih =>
    intro x hx
    rcases List.mem_cons.1 hx with rfl | hx
    · cases hm : isMarker b 46 with
      | false => rfl
      | true => exact absurd rfl (marker_facts b 46 hb hm).2.1
    · exact ih x hx

theorem run_facts (b eb : Nat) (l : List Nat) :
    (∀ c ∈ l.takeWhile (isDig b eb), dv b c < eb) ∧
    (∀ c, (l.dropWhile (isDig b eb)).head? = some c → ¬ dv b c < eb) := by
  obtain ⟨f1, f2⟩ := span_facts (isDig b eb) l
  exact ⟨fun c hc => by simpa [isDig] using f1 c hc, fun c hc => by simpa [isDig] using f2 c hc⟩

theorem tw_run (b eb : Nat) (run tail : List Nat) (h1 : ∀ c ∈ run, dv b c < eb)
    (h2 : ∀ c, tail.head? = some c → ¬ dv b c < eb) : (run ++ tail).takeWhile (isDig b eb) = run :=
  (span_append run tail (fun c hc => by simpa [isDig] using h1 c hc) (fun c hc => by simpa [isDig] using h2 c hc)).1

theorem exponent_iff (b eb : Nat) (he : eb ≤ 62) (e : List Nat) (x : Int) :
    exponent b eb e = some x ↔ Expo b eb e x := by
  constructor
  · intro h
    unfold exponent at h
    cases e with
    | nil => simp at h
    | cons c r =>
      -- in each case the run of digits is a `takeWhile`, and `Expo`'s side conditions are `run_facts`
      by_cases h43 : c = 43
      · subst h43
        simp only [List.head?_cons, beq_self_eq_true, Bool.true_or, if_true, List.tail_cons] at h
        obtain ⟨f1, f2⟩ := run_facts b eb r
        split at h
        · cases h
        · cases h
          have := Expo.plus (b := b) (eb := eb) (mt (congrArg List.length) ‹_›) f1 f2
          rwa [List.takeWhile_append_dropWhile] at this
      · by_cases h45 : c = 45
        · subst h45
          simp only [List.head?_cons, beq_self_eq_true, Bool.or_true, if_true, List.tail_cons] at h
          obtain ⟨f1, f2⟩ := run_facts b eb r
          split at h
          · cases h
          · cases h
            have := Expo.minus (b := b) (eb := eb) (mt (congrArg List.length) ‹_›) f1 f2
            rwa [List.takeWhile_append_dropWhile] at this
        · have g1 : (some c == some 43) = false := by simpa using h43
          have g2 : (some c == some 45) = false := by simpa using h45
          simp only [List.head?_cons, g1, g2, Bool.or_self, Bool.false_eq_true, if_false] at h
          obtain ⟨f1, f2⟩ := run_facts b eb (c :: r)
          split at h
          · cases h
          · cases h
            have := Expo.unsigned (b := b) (eb := eb) (mt (congrArg List.length) ‹_›) f1 f2
            rwa [List.takeWhile_append_dropWhile] at this
  · intro h
    cases h with
    | @unsigned run tail hne h1 h2 =>
      cases run with
      | nil => exact absurd rfl hne
      | cons a r =>
        have ha := h1 a (List.mem_cons_self ..)
        have g1 : a ≠ 43 := fun h => not_dig b eb 43 he (by simp) (h ▸ ha)
        have g2 : a ≠ 45 := fun h => not_dig b eb 45 he (by simp) (h ▸ ha)
        have g1' : (some a == some 43) = false := by simpa using g1
        have g2' : (some a == some 45) = false := by simpa using g2
        have t := tw_run b eb (a :: r) tail h1 h2
        unfold exponent
        simp only [List.cons_append, List.head?_cons, g1', g2', Bool.or_self, Bool.false_eq_true, if_false] at t ⊢
        rw [t]; simp
    | @plus run tail hne h1 h2 =>
      have t := tw_run b eb run tail h1 h2
      have hl : run.length ≠ 0 := fun h => hne (List.length_eq_zero_iff.1 h)
      unfold exponent
      simp only [List.head?_cons, beq_self_eq_true, Bool.true_or, if_true, List.tail_cons, t]
      simp [hl]
    | @minus run tail hne h1 h2 =>
      have t := tw_run b eb run tail h1 h2
      have hl : run.length ≠ 0 := fun h => hne (List.length_eq_zero_iff.1 h)
      unfold exponent
      simp only [List.head?_cons, beq_self_eq_true, Bool.or_true, if_true, List.tail_cons, t]
      simp [hl]

theorem start_iff (b : Nat) (hb : b ≤ 62) (c : Nat) (rest : List Nat) :
    (!(isDig b b c || (c == 46 && isDig b b (rest.headD 0)))) = false ↔
      First b (c :: rest.takeWhile (fun x => !isMarker b x)) := by
  rw [start_test]
  constructor
  · rintro (h | ⟨rfl, h⟩)
    · exact Or.inl ⟨c, _, rfl, h⟩
    · cases rest with
      | nil => exact absurd h (not_dig b b 0 hb (by simp))
      | cons d t =>
        simp only [List.headD_cons] at h
        have hm := dig_not_marker b d hb h
        exact Or.inr ⟨d, t.takeWhile (fun x => !isMarker b x), by simp [hm], h⟩
  · rintro (⟨c', t, heq, h⟩ | ⟨d, t, heq, h⟩)
    · simp only [List.cons.injEq] at heq
      obtain ⟨rfl, _⟩ := heq
      exact Or.inl h
    · simp only [List.cons.injEq] at heq
      obtain ⟨rfl, heq⟩ := heq
      right
      refine ⟨rfl, ?_⟩
      cases rest with
      | nil => simp at heq
      | cons d' t' =>
        by_cases hp : (!isMarker b d') = true
        · simp only [List.takeWhile_cons, hp, if_true, List.cons.injEq] at heq
          obtain ⟨rfl, _⟩ := heq
          simpa using h
        · simp [hp] at heq

theorem any_marker_false (b : Nat) (l : List Nat) : l.any (isMarker b) = false ↔ NoMarker b l := by
  unfold NoMarker
  rw [List.any_eq_false]
  simp

theorem body_sound (neg : Bool) (b eb : Nat) (hb : b ≤ 62) (he : eb ≤ 62) (s : List Nat) (p : Parsed)
    (h : body neg b eb s = some p) : Body neg b eb s p := by
  cases s with
  | nil => cases h
  | cons c rest =>
    rw [body] at h
    split at h
    · cases h
    · rename_i h0
      have hF := (start_iff b hb c rest).1 (by simpa using h0)
      have hsplit := List.takeWhile_append_dropWhile (p := fun x => !isMarker b x) (l := rest)
      dsimp only at h
      split at h
      · cases h
      · rename_i ds pt hm
        have hM := (mantissa_iff b hb _ ds pt).1 hm
        split at h
        · rename_i hd
          rw [hd, List.append_nil] at hsplit
          rw [hsplit] at hF hM
          cases h
          exact Body.plain hF hM
        · rename_i k e hd
          have hk : isMarker b k = true := by
            simpa using (span_facts (fun x => !isMarker b x) rest).2 k (by rw [hd]; rfl)
          rw [hd] at hsplit
          rw [← hsplit, ← List.cons_append]
          split at h
          · cases h
          · have hN : NoMarker b e := (any_marker_false b e).1 (Bool.eq_false_iff.mpr ‹_›)
            split at h
            · cases h
              exact Body.zero hF hM ‹_› hk hN
            · split at h
              · cases h
              · cases h
                exact Body.expo hF hM ‹_› hk hN ((exponent_iff b eb he e _).1 ‹_›)

theorem Mant.wf {b : Nat} {m ds : List Nat} {pt : Option Nat} (h : Mant b m ds pt) :
    (∀ d ∈ ds, d < b) ∧ pt.getD 0 ≤ ds.length := by
  induction h with
  | nil => simp
  | space _ _ ih => exact ih
  | digit hd _ ih =>
    refine ⟨fun d hd' => ?_, by simp only [List.length_cons]; omega⟩
    rcases List.mem_cons.mp hd' with rfl | e
    · exact hd
    · exact ih.1 d e
  | point _ ih => exact ⟨ih.1, by simp⟩

theorem Body.wf {neg : Bool} {b eb : Nat} {s : List Nat} {p : Parsed} (h : Body neg b eb s p) :
    p.neg = neg ∧ p.base = b ∧ (∀ d ∈ p.digits, d < b) ∧ p.frac ≤ p.digits.length := by
  cases h with
  | plain _ hM => exact ⟨rfl, rfl, hM.wf.1, hM.wf.2⟩
  | zero _ hM _ _ _ => exact ⟨rfl, rfl, hM.wf.1, hM.wf.2⟩
  | expo _ hM _ _ _ _ => exact ⟨rfl, rfl, hM.wf.1, hM.wf.2⟩

theorem parseBody_wf (neg : Bool) (b eb : ℕ) (hb : b ≤ 62) (he : eb ≤ 62) (s : List ℕ) (p : Parsed)
    (h : parseBody neg b eb s = some p) :
    p.neg = neg ∧ p.base = b ∧ (∀ d ∈ p.digits, d < b) ∧ p.frac ≤ p.digits.length :=
  (body_sound neg b eb hb he s p (parseBody_eq neg b eb hb s ▸ h)).wf

theorem body_front (b : Nat) (hb : b ≤ 62) {m ds : List Nat} {pt : Option Nat} (hF : First b m) (hM : Mant b m ds pt)
    (rest : List Nat) (hk : ∀ k, rest.head? = some k → isMarker b k = true) :
    ∃ c m0, m = c :: m0 ∧
      (!(isDig b b c || (c == 46 && isDig b b ((m0 ++ rest).headD 0)))) = false ∧
      (m0 ++ rest).takeWhile (fun x => !isMarker b x) = m0 ∧
      (m0 ++ rest).dropWhile (fun x => !isMarker b x) = rest ∧
      mantissa b (c :: m0) = some (ds, pt) := by
  obtain ⟨c, m0, rfl⟩ : ∃ c m0, m = c :: m0 := by
    rcases hF with ⟨c, t, rfl, _⟩ | ⟨d, t, rfl, _⟩ <;> exact ⟨_, _, rfl⟩
  have hN := mant_noMarker b hb hM
  obtain ⟨t1, t2⟩ := span_append (p := fun x => !isMarker b x) m0 rest
    (fun x hx => by simp [hN x (List.mem_cons_of_mem _ hx)]) (fun k hk' => by simp [hk k hk'])
  refine ⟨c, m0, rfl, ?_, t1, t2, (mantissa_iff b hb _ ds pt).2 hM⟩
  rw [start_iff b hb, t1]
  exact hF

theorem body_complete (neg : Bool) (b eb : Nat) (hb : b ≤ 62) (he : eb ≤ 62) (s : List Nat) (p : Parsed)
    (h : Body neg b eb s p) : body neg b eb s = some p := by
  cases h with
  | @plain m ds pt hF hM =>
    obtain ⟨c, m0, rfl, h0, t1, t2, hm⟩ := body_front b hb hF hM [] (by simp)
    rw [List.append_nil] at h0 t1 t2
    simp only [body, h0, Bool.false_eq_true, if_false, hm, t1, t2]
  | @zero m ds pt k junk hF hM hz hk hJ =>
    obtain ⟨c, m0, rfl, h0, t1, t2, hm⟩ := body_front b hb hF hM (k :: junk) (fun _ h => by cases h; exact hk)
    simp only [List.cons_append, body, h0, Bool.false_eq_true, if_false, hm, t1, t2, (any_marker_false b junk).2 hJ, hz,
      if_true]
  | @expo m ds pt k e x hF hM hz hk hJ hE =>
    obtain ⟨c, m0, rfl, h0, t1, t2, hm⟩ := body_front b hb hF hM (k :: e) (fun _ h => by cases h; exact hk)
    simp only [List.cons_append, body, h0, Bool.false_eq_true, if_false, hm, t1, t2, (any_marker_false b e).2 hJ, hz,
      (exponent_iff b eb he e x).2 hE]

theorem body_head (neg : Bool) (b eb : Nat) {r : List Nat} {p : Parsed} (h : Body neg b eb r p) :
    ∃ c t, r = c :: t ∧ (dv b c < b ∨ c = 46) := by
  have key : ∀ m, First b m → ∀ tl : List Nat, ∃ c t, m ++ tl = c :: t ∧ (dv b c < b ∨ c = 46) := by
    intro m hF tl
    rcases hF with ⟨c, t, rfl, hc⟩ | ⟨d, t, rfl, _⟩
    · exact ⟨c, t ++ tl, rfl, Or.inl hc⟩
    · exact ⟨46, d :: t ++ tl, rfl, Or.inr rfl⟩
  cases h with
  | plain hF _ => simpa using key _ hF []
  | zero hF _ _ _ _ => exact key _ hF _
  | expo hF _ _ _ _ _ => exact key _ hF _

/-- the recogniser after the NUL cut -/
def recogS (base : Int) (s : List Nat) : Option Parsed :=
  if decide (digitBase base < 2) || decide (62 < digitBase base) then none else
  match s.dropWhile Radix.isSpace with
  | 45 :: r => body true (digitBase base) (expoBase base) r
  | r => body false (digitBase base) (expoBase base) r

theorem recog_eq_recogS (base : Int) (s0 : List Nat) : recog base s0 = recogS base (cstr s0) := rfl

theorem expoBase_le (base : Int) (h : digitBase base ≤ 62) : expoBase base ≤ 62 := by
  unfold expoBase; split <;> omega

theorem recogS_iff (base : Int) (s : List Nat) (p : Parsed) : recogS base s = some p ↔ Lang base s p := by
  unfold recogS
  by_cases hr : digitBase base < 2 ∨ 62 < digitBase base
  · rw [if_pos (by simpa using hr)]
    constructor
    · intro h; cases h
    · intro h; cases h <;> omega
  · rw [if_neg (by simpa using hr)]
    have hb2 : 2 ≤ digitBase base := by omega
    have hb : digitBase base ≤ 62 := by omega
    have he := expoBase_le base hb
    constructor
    · intro h
      have hsplit := List.takeWhile_append_dropWhile (p := Radix.isSpace) (l := s)
      have hws := (span_facts Radix.isSpace s).1
      split at h
      · rename_i r heq
        rw [heq] at hsplit
        rw [← hsplit]
        exact Lang.neg hb2 hb hws (body_sound _ _ _ hb he _ _ h)
      · rw [← hsplit]
        exact Lang.pos hb2 hb hws (body_sound _ _ _ hb he _ _ h)
    · intro h
      cases h with
      | @pos ws r p _ _ hws hB =>
        -- the body begins with a digit or the point: neither white space nor `-`
        obtain ⟨c, t, rfl, hc⟩ := body_head _ _ _ hB
        have hsp : Radix.isSpace c = false := by
          rcases hc with hc | rfl
          · exact dig_not_space _ c hb hc
          · decide
        have h45 : c ≠ 45 := by
          rcases hc with hc | rfl
          · exact fun h => not_dig _ _ 45 hb (by simp) (h ▸ hc)
          · decide
        rw [(span_append ws (c :: t) hws (fun _ h => by cases h; exact hsp)).2]
        split
        · rename_i r heq
          exact absurd (List.cons.inj heq).1 h45
        · exact body_complete _ _ _ hb he _ _ hB
      | @neg ws r p _ _ hws hB =>
        rw [(span_append ws (45 :: r) hws (fun _ h => by cases h; decide)).2]
        exact body_complete _ _ _ hb he _ _ hB

end Mpir.MpfParse
