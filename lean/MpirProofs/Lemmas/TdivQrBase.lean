/- mpn_tdiv_qr / mpn_divrem: the model's contracts and the specification `Spec`, then the small cases and the first branch. -/
import MpirProofs.Lemmas.DivWordHensel
import MpirProofs.Lemmas.TdivLimbs
import Mpir.Model.TdivQr
namespace Mpir.TdivQr
open Mpir Mpir.DivWord Mpir.SbDiv Mpir.Tdiv

theorem val_toLimbs_lt (k v : Nat) (h : v < B ^ k) : val (toLimbs k v) = v :=
  Mpir.val_toLimbs_lt k v h

theorem getD_snoc (l : List Nat) (x : Nat) : (l ++ [x]).getD l.length 0 = x :=
  SbDiv.getD_snoc l x

theorem val_snoc_zero (l : List Nat) : val (l ++ [0]) = val l := by
  rw [val_snoc]; simp

/-- only d ≠ 0 is needed -/
theorem divQrSpec_spec (n d : List Nat) (hd : Limbs d) (hd0 : 0 < val d) :
    val n = ((divQrSpec n d).2.2 * B ^ (n.length - d.length) + val (divQrSpec n d).1) * val d + val (divQrSpec n d).2.1 ∧
    val (divQrSpec n d).2.1 = val n % val d ∧
    (divQrSpec n d).2.2 * B ^ (n.length - d.length) + val (divQrSpec n d).1 = val n / val d ∧
    Limbs (divQrSpec n d).1 ∧ (divQrSpec n d).1.length = n.length - d.length ∧
    Limbs (divQrSpec n d).2.1 ∧ (divQrSpec n d).2.1.length = d.length := by
  unfold divQrSpec
  simp only []
  have q1 := val_toLimbs (n.length - d.length) (val n / val d)
  have q2 := toLimbs_length (n.length - d.length) (val n / val d)
  have q3 := Limbs_toLimbs (n.length - d.length) (val n / val d)
  have r1 := val_toLimbs d.length (val n % val d)
  have r2 := toLimbs_length d.length (val n % val d)
  have r3 := Limbs_toLimbs d.length (val n % val d)
  have hrlt : val n % val d < B ^ d.length := Nat.lt_trans (Nat.mod_lt _ hd0) (val_lt d hd)
  have hr : val (toLimbs d.length (val n % val d)) = val n % val d := by rw [r1, Nat.mod_eq_of_lt hrlt]
  have hq : val n / val d / B ^ (n.length - d.length) * B ^ (n.length - d.length) +
      val (toLimbs (n.length - d.length) (val n / val d)) = val n / val d := by
    rw [q1]; exact Nat.div_add_mod' _ _
  refine ⟨?_, hr, hq, q3, q2, r3, r2⟩
  rw [hq, hr, Nat.mul_comm]; exact (Nat.div_add_mod _ _).symm

/-- when the quotient fits into nn-dn limbs the returned high limb is 0 (the `ASSERT_NOCARRY`s of tdiv_qr.c) -/
theorem divQrSpec_fit (n d : List Nat) (hd : Limbs d) (hd0 : 0 < val d)
    (hfit : val n < val d * B ^ (n.length - d.length)) :
    (divQrSpec n d).2.2 = 0 ∧ val (divQrSpec n d).1 = val n / val d := by
  obtain ⟨_, _, hq, _⟩ := divQrSpec_spec n d hd hd0
  have hlt : val n / val d < B ^ (n.length - d.length) := by
    rw [Nat.div_lt_iff_lt_mul hd0, Nat.mul_comm]; exact hfit
  have h0 : (divQrSpec n d).2.2 = 0 := by
    show val n / val d / B ^ (n.length - d.length) = 0
    exact Nat.div_eq_of_lt hlt
  rw [h0, Nat.zero_mul, Nat.zero_add] at hq
  exact ⟨h0, hq⟩

/-- every callee the dispatch can choose returns the contract: schoolbook by `sb_div_qr_eq_spec`, the others by assumption -/
theorem callDivQr_eq (c : Callee) (n d : List Nat) (hn : Limbs n) (hd : Limbs d) (hdn : 3 ≤ d.length)
    (hnn : d.length ≤ n.length) (hnorm : B / 2 ≤ d.getD (d.length - 1) 0) :
    callDivQr c n d = divQrSpec n d := by
  cases c with
  | dc => rfl
  | inv => rfl
  | sb =>
    have h := sb_div_qr_eq_spec n d _ hdn hnn hnorm hn hd rfl
    have hnd : DivZ.normalised d = true := (normalised_iff d (by omega)).mpr hnorm
    unfold DivZ.mpnDivQr at h
    rw [if_neg (by simp [hnd]; omega)] at h
    exact (Option.some.inj h).symm

theorem divrem_2_zero (n d : List Nat) (hd : d.length = 2) : divrem_2 0 n d = divQrSpec n d := by
  unfold divrem_2 divQrSpec
  simp [hd]

theorem rshift_val_div (u : List Nat) (c : Nat) (hu : Limbs u) (hne : u ≠ []) (hc1 : 1 ≤ c) (hc : c ≤ 63) :
    val (rshift u c).1 = val u / 2 ^ c ∧ Limbs (rshift u c).1 ∧ (rshift u c).1.length = u.length := by
  obtain ⟨_, _, hl, hlen, hv, _⟩ := rshift_val' u c hu (List.length_pos_iff.mpr hne) hc1 hc
  exact ⟨hv, hl, hlen⟩

theorem scaled_divmod (N D c : Nat) (hc : 0 < c) :
    (N * c) / (D * c) = N / D ∧ (N * c) % (D * c) = (N % D) * c := by
  constructor
  · exact Nat.mul_div_mul_right N D hc
  · rw [Nat.mul_comm N c, Nat.mul_comm D c, Nat.mul_mod_mul_left, Nat.mul_comm]

/-- what mpn_tdiv_qr has to deliver: ⌊N/D⌋ on nn-dn+1 limbs, N mod D on dn limbs, no failed assertion -/
def Spec (n d : List Nat) (res : List Nat × List Nat × Bool) : Prop :=
  val res.1 = val n / val d ∧ val res.2.1 = val n % val d ∧ Limbs res.1 ∧ res.1.length = n.length - d.length + 1 ∧
  Limbs res.2.1 ∧ res.2.1.length = d.length ∧ res.2.2 = true

/-- the numerator is below dtop·B^(nn+adjust-1): what `adjust` tests (tdiv_qr.c:105) -/
theorem fit_top (n : List Nat) (dtop : Nat) (hn : Limbs n) (hnn : 1 ≤ n.length) (htop : dtop ≠ 0) (adjust : Nat)
    (hadj : adjust = if n.getD (n.length - 1) 0 ≥ dtop then 1 else 0) :
    val n < dtop * B ^ (n.length + adjust - 1) := by
  obtain ⟨j, hj⟩ : ∃ j, n.length = j + 1 := ⟨n.length - 1, by omega⟩
  rw [hj, Nat.add_sub_cancel] at hadj
  by_cases hge : n.getD j 0 ≥ dtop
  · rw [if_pos hge] at hadj
    rw [hadj, Nat.add_sub_cancel]
    exact Nat.lt_of_lt_of_le (val_lt n hn) (Nat.le_mul_of_pos_left _ (Nat.pos_of_ne_zero htop))
  · rw [if_neg hge] at hadj
    rw [hadj, hj]
    exact Nat.lt_of_lt_of_le (top_bounds n j hn hj).2 (Nat.mul_le_mul_right _ (by omega))

/-- `adjust` is a conservative test for the quotient size (tdiv_qr.c:105) -/
theorem fit_of_adjust (n d : List Nat) (hn : Limbs n) (hd : Limbs d) (hdn : 1 ≤ d.length) (hnn : d.length ≤ n.length)
    (htop : d.getD (d.length - 1) 0 ≠ 0) (adjust : Nat)
    (hadj : adjust = if n.getD (n.length - 1) 0 ≥ d.getD (d.length - 1) 0 then 1 else 0) :
    val n < val d * B ^ (n.length + adjust - d.length) := by
  have hfit := fit_top n _ hn (by omega) htop adjust hadj
  obtain ⟨k, hk⟩ : ∃ k, d.length = k + 1 := ⟨d.length - 1, by omega⟩
  rw [hk, Nat.add_sub_cancel] at hfit
  rw [hk]
  have hd1 := (top_bounds d k hd hk).1
  calc val n < d.getD k 0 * B ^ (n.length + adjust - 1) := hfit
    _ = d.getD k 0 * B ^ k * B ^ (n.length + adjust - (k + 1)) := by
        rw [Nat.mul_assoc, ← pow_add]; congr 2; omega
    _ ≤ val d * B ^ (n.length + adjust - (k + 1)) := Nat.mul_le_mul_right _ hd1

/-- dividing operands that were both multiplied by c: quotient unchanged, remainder scaled -/
theorem divQrSpec_scaled (n2 d2 : List Nat) (N D c : Nat) (hd2 : Limbs d2) (hc : 0 < c) (hD : 0 < D)
    (hvn : val n2 = N * c) (hvd : val d2 = D * c) :
    (divQrSpec n2 d2).2.2 * B ^ (n2.length - d2.length) + val (divQrSpec n2 d2).1 = N / D ∧
    val (divQrSpec n2 d2).2.1 = (N % D) * c ∧
    Limbs (divQrSpec n2 d2).1 ∧ (divQrSpec n2 d2).1.length = n2.length - d2.length ∧
    Limbs (divQrSpec n2 d2).2.1 ∧ (divQrSpec n2 d2).2.1.length = d2.length := by
  obtain ⟨_, hr, hq, rest⟩ := divQrSpec_spec n2 d2 hd2 (by rw [hvd]; exact Nat.mul_pos hD hc)
  obtain ⟨e1, e2⟩ := scaled_divmod N D c hc
  exact ⟨by rw [hq, hvn, hvd, e1], by rw [hr, hvn, hvd, e2], rest⟩

theorem divide_shifted (n2 d2 : List Nat) (N D c : Nat) (hd2 : Limbs d2) (hc : 0 < c) (hD : 0 < D)
    (hvn : val n2 = N * c) (hvd : val d2 = D * c) (hfit : N < D * B ^ (n2.length - d2.length)) :
    (divQrSpec n2 d2).2.2 = 0 ∧ val (divQrSpec n2 d2).1 = N / D ∧ val (divQrSpec n2 d2).2.1 = (N % D) * c ∧
    Limbs (divQrSpec n2 d2).1 ∧ (divQrSpec n2 d2).1.length = n2.length - d2.length ∧
    Limbs (divQrSpec n2 d2).2.1 ∧ (divQrSpec n2 d2).2.1.length = d2.length := by
  obtain ⟨hq, rest⟩ := divQrSpec_scaled n2 d2 N D c hd2 hc hD hvn hvd
  have hf : val n2 < val d2 * B ^ (n2.length - d2.length) := by
    rw [hvn, hvd]
    calc N * c < D * B ^ (n2.length - d2.length) * c := Nat.mul_lt_mul_of_pos_right hfit hc
      _ = D * c * B ^ (n2.length - d2.length) := by ring
  have h0 := (divQrSpec_fit n2 d2 hd2 (by rw [hvd]; exact Nat.mul_pos hD hc) hf).1
  rw [h0, Nat.zero_mul, Nat.zero_add] at hq
  exact ⟨h0, hq, rest⟩

theorem divQrSpec_qh_le (n d : List Nat) (hn : Limbs n) (hl : d.length ≤ n.length)
    (hnorm : B ^ d.length ≤ 2 * val d) : (divQrSpec n d).2.2 ≤ 1 := by
  show val n / val d / B ^ (n.length - d.length) ≤ 1
  have hP := Bpow_pos d.length
  have hd0 : 0 < val d := by omega
  have hnlt := val_lt n hn
  have e : B ^ n.length = B ^ (n.length - d.length) * B ^ d.length := by rw [← pow_add]; congr 1; omega
  have h1 : val n / val d < 2 * B ^ (n.length - d.length) := by
    rw [Nat.div_lt_iff_lt_mul hd0]
    calc val n < B ^ (n.length - d.length) * B ^ d.length := by rw [← e]; exact hnlt
      _ ≤ B ^ (n.length - d.length) * (2 * val d) := Nat.mul_le_mul_left _ hnorm
      _ = 2 * B ^ (n.length - d.length) * val d := by ring
  have h2 : val n / val d / B ^ (n.length - d.length) < 2 := by
    rw [Nat.div_lt_iff_lt_mul (Bpow_pos _)]; exact h1
  omega

theorem list_len1 (l : List Nat) (h : l.length = 1) : l = [l.getD 0 0] := by
  match l, h with
  | [a], _ => rfl

theorem list_len2 (l : List Nat) (h : l.length = 2) : l = [l.getD 0 0, l.getD 1 0] := by
  match l, h with
  | [a, b], _ => rfl

/-! ### dn = 1, dn = 2 and the first branch of the default case (normalise, divide, shift the remainder back), tdiv_qr.c:54-153 -/

theorem lt_B_of_le_one {x : Nat} (h : x ≤ 1) : x < B := by
  have : (1 : Nat) < B := by decide
  omega

theorem spec_intro (n d q r : List Nat) (h1 : val q = val n / val d) (h2 : val r = val n % val d) (h3 : Limbs q)
    (h4 : q.length = n.length - d.length + 1) (h5 : Limbs r) (h6 : r.length = d.length) : Spec n d (q, r, true) :=
  ⟨h1, h2, h3, h4, h5, h6, rfl⟩

theorem case1_spec (n d : List Nat) (hn : Limbs n) (hd : Limbs d) (hdn : d.length = 1) (hnn : 1 ≤ n.length)
    (htop : d.getD 0 0 ≠ 0) : Spec n d (case1 n d) := by
  have hd1 := list_len1 d hdn
  have hdB : d.getD 0 0 < B := getD_lt hd 0
  obtain ⟨e, hr, hq, hql⟩ := divrem_1_spec 0 n (d.getD 0 0) hn (Nat.pos_of_ne_zero htop) hdB
  have hvd : val d = d.getD 0 0 := by rw [hd1]; simp [val_cons]
  rw [pow_zero, Nat.mul_one] at e
  obtain ⟨hQ, hR⟩ := divmod_of_eq (val n) (d.getD 0 0) _ _ e.symm hr
  exact spec_intro n d _ _ (by rw [hvd, hQ]) (by rw [hvd, hR]; simp [val_cons]) hq (by rw [hql, hdn]; omega)
    (Limbs_cons.mpr ⟨by omega, Limbs_nil⟩) (by rw [hdn]; rfl)

/-- the explicit two-limb shift of tdiv_qr.c:73-74 is mpn_lshift -/
theorem case2_d2p (d0 d1 c : Nat) :
    [(d0 <<< c) % B, ((d1 <<< c) % B) ||| (d0 >>> (64 - c))] = (lshift [d0, d1] c).1 := by
  simp [lshift, lshiftGo]

/-- the explicit two-limb shift of tdiv_qr.c:81-83 is mpn_rshift -/
theorem case2_rp (r0 r1 c : Nat) :
    [(r0 >>> c) ||| ((r1 <<< (64 - c)) % B), r1 >>> c] = (rshift [r0, r1] c).1 := rfl

/-- tdiv_qr.c:85-94, divisor normalised -/
theorem case2_norm (n d : List Nat) (hn : Limbs n) (hd : Limbs d) (hdn : d.length = 2) (hnn : 2 ≤ n.length)
    (hnorm : B / 2 ≤ d.getD 1 0) :
    Spec n d ((divrem_2 0 n d).1 ++ [(divrem_2 0 n d).2.2],
      [(divrem_2 0 n d).2.1.getD 0 0, (divrem_2 0 n d).2.1.getD 1 0], true) := by
  rw [divrem_2_zero n d hdn]
  have hnv := (norm_iff_top d 1 hd hdn).mpr hnorm
  have hd0 : 0 < val d := by have := Bpow_pos (1 + 1); omega
  obtain ⟨_, hr, hq, hq3, hq4, hr3, hr4⟩ := divQrSpec_spec n d hd hd0
  have hqh := divQrSpec_qh_le n d hn (by omega) (by rw [hdn]; exact hnv)
  rw [hdn] at hr4
  have hrr := list_len2 _ hr4
  rw [← hrr]
  refine spec_intro n d _ _ ?_ hr (Limbs.snoc hq3 (lt_B_of_le_one hqh)) (by simp [hq4, hdn]) hr3 (by rw [hr4, hdn])
  rw [val_snoc, hq4, ← hq, hdn]; ring

/-- tdiv_qr.c:66-84, divisor not normalised -/
theorem case2_unnorm (n d : List Nat) (hn : Limbs n) (hd : Limbs d) (hdn : d.length = 2) (hnn : 2 ≤ n.length)
    (htop : d.getD 1 0 ≠ 0) (hlt : d.getD 1 0 < B / 2) : Spec n d (case2 n d) := by
  have hd2 := list_len2 d hdn
  have hd1B : d.getD 1 0 < B := getD_lt hd 1
  have hz := (highbit_zero _ hd1B).mpr hlt
  obtain ⟨hc63, hvd2, hnd2, hld2, hlend2⟩ := lshift_norm d 1 hd hdn htop
  obtain ⟨_, hclo, _⟩ := clz_spec (d.getD 1 0) htop hd1B
  have hc1 : 1 ≤ count_leading_zeros (d.getD 1 0) := by
    rcases Nat.eq_zero_or_pos (count_leading_zeros (d.getD 1 0)) with h | h
    · rw [h, pow_zero, Nat.mul_one] at hclo; omega
    · exact h
  have hDge : B ≤ val d := by
    have := val_ge_of_top d (by omega) (by rw [hdn]; exact htop)
    rwa [hdn, pow_one] at this
  have hD0 : 0 < val d := Nat.lt_of_lt_of_le B_pos hDge
  -- the model, with the two explicit shifts rewritten as mpn_lshift / mpn_rshift
  have hd2' : (lshift d (count_leading_zeros (d.getD 1 0))).1 =
      [(d.getD 0 0 <<< count_leading_zeros (d.getD 1 0)) % B,
       ((d.getD 1 0 <<< count_leading_zeros (d.getD 1 0)) % B) ||| (d.getD 0 0 >>> (64 - count_leading_zeros (d.getD 1 0)))] := by
    rw [case2_d2p]; congr 2
  unfold case2
  rw [if_pos hz]
  simp only []
  rw [← hd2', divrem_2_zero _ _ hlend2, case2_rp]
  generalize count_leading_zeros (d.getD 1 0) = c at *
  obtain ⟨hvn2, hln2, hlenn2, hcy⟩ := shifted_dividend n c hn hc63
  obtain ⟨hvsh, _, hlsh, hlensh⟩ := lshift_val' n c hn (by omega)
  have hp : 0 < 2 ^ c := by positivity
  have hnlt := val_lt n hn
  by_cases hcy0 : (lshift n c).2 = 0
  · -- nothing shifted out: nn limbs are divided, the returned limb is stored on top
    rw [if_pos hcy0, if_neg (by simp [hcy0]), Nat.add_zero]
    have htk : ((lshift n c).1 ++ [(lshift n c).2]).take n.length = (lshift n c).1 := by
      rw [← hlensh]; exact take_snoc _ _
    rw [htk]
    rw [hcy0, Nat.mul_zero, Nat.add_zero] at hvsh
    have hqh := divQrSpec_qh_le (lshift n c).1 (lshift d c).1 hlsh (by rw [hlend2, hlensh]; exact hnn)
      (by rw [hlend2]; exact hnd2)
    obtain ⟨hq, hr, hq3, hq4, hr3, hr4⟩ := divQrSpec_scaled (lshift n c).1 (lshift d c).1 (val n) (val d) (2 ^ c)
      hld2 hp hD0 hvsh hvd2
    generalize divQrSpec (lshift n c).1 (lshift d c).1 = res at *
    rw [← list_len2 res.2.1 (hr4.trans hlend2)]
    obtain ⟨hrv, hrl, hrlen⟩ := rshift_val_div res.2.1 c hr3 (by intro h; rw [h] at hr4; simp [hlend2] at hr4) hc1 hc63
    refine spec_intro n d _ _ ?_ ?_ (Limbs.snoc hq3 (lt_B_of_le_one hqh)) ?_ hrl (by rw [hrlen, hr4, hlend2, hdn])
    · rw [val_snoc, hq4, ← hq]; ring
    · rw [hrv, hr, Nat.mul_div_cancel _ hp]
    · simp [hq4, hlensh, hlend2, hdn]
  · -- a non-zero limb shifted out: nn+1 limbs are divided, the quotient fits into nn-1 limbs
    rw [if_neg hcy0, if_pos hcy0]
    have htk : ((lshift n c).1 ++ [(lshift n c).2]).take (n.length + 1) = (lshift n c).1 ++ [(lshift n c).2] := by
      rw [← hlenn2]; exact List.take_length
    rw [htk]
    have hfit : val n < val d * B ^ (((lshift n c).1 ++ [(lshift n c).2]).length - (lshift d c).1.length) := by
      rw [hlenn2, hlend2, Nat.add_sub_add_right]
      calc val n < B ^ n.length := hnlt
        _ = B * B ^ (n.length - 1) := by rw [← pow_succ', Nat.sub_add_cancel (Nat.le_of_succ_le hnn)]
        _ ≤ val d * B ^ (n.length - 1) := Nat.mul_le_mul_right _ hDge
    obtain ⟨h0, hq, hr, hq3, hq4, hr3, hr4⟩ := divide_shifted ((lshift n c).1 ++ [(lshift n c).2]) (lshift d c).1
      (val n) (val d) (2 ^ c) hld2 hp hD0 hvn2 hvd2 hfit
    generalize divQrSpec ((lshift n c).1 ++ [(lshift n c).2]) (lshift d c).1 = res at *
    rw [← list_len2 res.2.1 (hr4.trans hlend2)]
    obtain ⟨hrv, hrl, hrlen⟩ := rshift_val_div res.2.1 c hr3 (by intro h; rw [h] at hr4; simp [hlend2] at hr4) hc1 hc63
    refine spec_intro n d _ _ hq ?_ hq3 ?_ hrl (by rw [hrlen, hr4, hlend2, hdn])
    · rw [hrv, hr, Nat.mul_div_cancel _ hp]
    · rw [hq4, hlenn2, hlend2, hdn]; clear * - hnn; omega

theorem case2_spec (n d : List Nat) (hn : Limbs n) (hd : Limbs d) (hdn : d.length = 2) (hnn : 2 ≤ n.length)
    (htop : d.getD 1 0 ≠ 0) : Spec n d (case2 n d) := by
  have hd1B : d.getD 1 0 < B := getD_lt hd 1
  by_cases hlt : d.getD 1 0 < B / 2
  · exact case2_unnorm n d hn hd hdn hnn htop hlt
  · have hz : ¬ (d.getD 1 0 &&& HIGHBIT = 0) := fun h => hlt ((highbit_zero _ hd1B).mp h)
    have : case2 n d = ((divrem_2 0 n d).1 ++ [(divrem_2 0 n d).2.2],
        [(divrem_2 0 n d).2.1.getD 0 0, (divrem_2 0 n d).2.1.getD 1 0], true) := by
      unfold case2; rw [if_neg hz]
    rw [this]
    exact case2_norm n d hn hd hdn hnn (by omega)

/-- tdiv_qr.c:113-132: both operands multiplied by 2^cnt, divisor normalised, dividend on nn+1 limbs -/
theorem firstNorm_spec (n d : List Nat) (hn : Limbs n) (hd : Limbs d) (k : Nat) (hk : d.length = k + 1)
    (htop : d.getD k 0 ≠ 0) :
    (firstNorm n d).1 ≤ 63 ∧
    val (firstNorm n d).2.1 = val d * 2 ^ (firstNorm n d).1 ∧
    B ^ (k + 1) ≤ 2 * val (firstNorm n d).2.1 ∧
    Limbs (firstNorm n d).2.1 ∧ (firstNorm n d).2.1.length = k + 1 ∧
    val (firstNorm n d).2.2 = val n * 2 ^ (firstNorm n d).1 ∧
    Limbs (firstNorm n d).2.2 ∧ (firstNorm n d).2.2.length = n.length + 1 ∧
    (val n * 2 ^ (firstNorm n d).1 < B ^ n.length →
      val ((firstNorm n d).2.2.take n.length) = val n * 2 ^ (firstNorm n d).1) := by
  have htB : d.getD k 0 < B := getD_lt hd k
  unfold firstNorm
  rw [hk, Nat.add_sub_cancel]
  by_cases hlt : d.getD k 0 < B / 2
  · rw [if_pos ((highbit_zero _ htB).mpr hlt)]
    simp only []
    obtain ⟨hc63, hvd2, hnd2, hld2, hlend2⟩ := lshift_norm d k hd hk htop
    generalize count_leading_zeros (d.getD k 0) = c at *
    obtain ⟨hvn2, hln2, hlenn2, _⟩ := shifted_dividend n c hn hc63
    obtain ⟨hvsh, _, _, hlensh⟩ := lshift_val' n c hn (by omega)
    refine ⟨hc63, hvd2, hnd2, hld2, hlend2, hvn2, hln2, hlenn2, ?_⟩
    intro hfit
    have htk : ((lshift n c).1 ++ [(lshift n c).2]).take n.length = (lshift n c).1 := by
      rw [← hlensh]; exact take_snoc _ _
    rw [htk]
    exact (carry_zero hvsh hfit).2
  · rw [if_neg (fun h => hlt ((highbit_zero _ htB).mp h))]
    simp only [pow_zero, Nat.mul_one]
    refine ⟨by omega, trivial, (norm_iff_top d k hd hk).mpr (by omega), hd, hk, val_snoc_zero n,
      Limbs.snoc hn B_pos, by simp, ?_⟩
    intro _
    rw [take_snoc]

theorem first_spec (T : Thresholds) (n d : List Nat) (hn : Limbs n) (hd : Limbs d) (hdn : 3 ≤ d.length)
    (hnn : d.length ≤ n.length) (htop : d.getD (d.length - 1) 0 ≠ 0) (adjust : Nat)
    (hadj : adjust = if n.getD (n.length - 1) 0 ≥ d.getD (d.length - 1) 0 then 1 else 0) :
    Spec n d (first T n d adjust) := by
  obtain ⟨k, hk⟩ : ∃ k, d.length = k + 1 := ⟨d.length - 1, by omega⟩
  have hfit := fit_of_adjust n d hn hd (by omega) hnn htop adjust hadj
  have hD0 := val_pos_of_top d (by omega) htop
  rw [hk, Nat.add_sub_cancel] at htop
  obtain ⟨hc63, hvd2, hnd2, hld2, hlend2, hvn2, hln2, hlenn2, htake⟩ := firstNorm_spec n d hn hd k hk htop
  have hadj01 : adjust = 0 ∨ adjust = 1 := by
    rw [hadj]; split <;> simp
  unfold first
  simp only []
  generalize (firstNorm n d).1 = c at *
  generalize (firstNorm n d).2.1 = d2 at *
  generalize (firstNorm n d).2.2 = n2 at *
  have hp : 0 < 2 ^ c := by positivity
  have hd2lt := val_lt d2 hld2
  -- the nn + adjust limbs that are divided
  have hn2' : val (n2.take (n.length + adjust)) = val n * 2 ^ c ∧ (n2.take (n.length + adjust)).length = n.length + adjust := by
    rcases hadj01 with h | h
    · subst h
      rw [Nat.add_zero] at hfit ⊢
      refine ⟨htake ?_, by rw [List.length_take, hlenn2]; omega⟩
      have e : B ^ n.length = B ^ d2.length * B ^ (n.length - d.length) := by
        rw [← pow_add]; congr 1; rw [hlend2, ← hk]; omega
      calc val n * 2 ^ c < val d * B ^ (n.length - d.length) * 2 ^ c := Nat.mul_lt_mul_of_pos_right hfit hp
        _ = val d2 * B ^ (n.length - d.length) := by rw [hvd2]; ring
        _ ≤ B ^ d2.length * B ^ (n.length - d.length) := Nat.mul_le_mul_right _ (Nat.le_of_lt hd2lt)
        _ = B ^ n.length := e.symm
    · subst h
      rw [← hlenn2, List.take_length]; exact ⟨hvn2, rfl⟩
  obtain ⟨hv2', hl2'⟩ := hn2'
  have hln2' : Limbs (n2.take (n.length + adjust)) := Limbs_take hln2 _
  rw [callDivQr_eq _ _ d2 hln2' hld2 (by rw [hlend2, ← hk]; exact hdn) (by rw [hl2', hlend2, ← hk]; omega)
    (by rw [hlend2, Nat.add_sub_cancel]; exact (norm_iff_top d2 k hld2 hlend2).mp hnd2)]
  obtain ⟨h0, hq, hr, hq3, hq4, hr3, hr4⟩ := divide_shifted (n2.take (n.length + adjust)) d2 (val n) (val d) (2 ^ c)
    hld2 hp hD0 hv2' hvd2 (by rw [hl2', hlend2, ← hk]; exact hfit)
  generalize divQrSpec (n2.take (n.length + adjust)) d2 = res at *
  rw [h0]
  have hrem : val (if c ≠ 0 then (rshift res.2.1 c).1 else res.2.1) = val n % val d ∧
      Limbs (if c ≠ 0 then (rshift res.2.1 c).1 else res.2.1) ∧
      (if c ≠ 0 then (rshift res.2.1 c).1 else res.2.1).length = d.length := by
    by_cases hc0 : c = 0
    · rw [if_neg (by simp [hc0])]
      rw [hc0, pow_zero, Nat.mul_one] at hr
      exact ⟨hr, hr3, by rw [hr4, hlend2, hk]⟩
    · rw [if_pos hc0]
      obtain ⟨hrv, hrl, hrlen⟩ := rshift_val_div res.2.1 c hr3 (by intro h; rw [h] at hr4; simp [hlend2] at hr4)
        (by omega) hc63
      exact ⟨by rw [hrv, hr, Nat.mul_div_cancel _ hp], hrl, by rw [hrlen, hr4, hlend2, hk]⟩
  obtain ⟨hr1, hr2, hr5⟩ := hrem
  rcases hadj01 with h | h
  · subst h
    rw [if_pos rfl]
    refine spec_intro n d _ _ (by rw [val_snoc_zero]; exact hq) hr1 (Limbs.snoc hq3 B_pos) ?_ hr2 hr5
    rw [List.length_append, hq4, hl2', hlend2, hk]; simp
  · subst h
    rw [if_neg (by decide)]
    refine spec_intro n d _ _ hq hr1 hq3 ?_ hr2 hr5
    rw [hq4, hl2', hlend2, hk]; clear * - hnn hk; omega

end Mpir.TdivQr
