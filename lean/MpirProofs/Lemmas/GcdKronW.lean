/- The mixed-precision Kronecker wrappers (mpz_kronecker_ui/_si, mpz_ui_kronecker/mpz_si_kronecker)
   and mpz_jacobi return the Kronecker symbol `kronSym` for every sign / parity / zero combination. -/
import MpirProofs.Lemmas.Gcd1
import MpirProofs.Lemmas.GcdSize
import MpirProofs.Lemmas.GcdJacobi
import Mathlib.NumberTheory.LegendreSymbol.JacobiSymbol
import Mathlib.NumberTheory.Padics.PadicVal.Basic
import Mathlib.Data.Nat.Bitwise
import Mathlib.Data.Nat.Log
import Mathlib.Tactic.Ring
import Mathlib.Tactic.Linarith
import Mathlib.Tactic.NormNum
namespace Mpir.Gcd
open Mpir

theorem div_B_lt (n : Nat) (h : n ≠ 0) : n / B < n :=
  Nat.div_lt_self (Nat.pos_of_ne_zero h) (by rw [B_eq]; norm_num)

theorem natLimbs_headD (n : Nat) : (natLimbs n).headD 0 = n % B := by
  by_cases h : n = 0
  · subst h; rw [natLimbs_zero]; rfl
  · rw [natLimbs_pos n h]; rfl

theorem low_limb_bits (x : Nat) : x % B % 2 = x % 2 ∧ x % B % 8 = x % 8 ∧ x % B / 2 % 2 = x / 2 % 2 := by
  rw [B_eq]; omega

theorem natLimbs_length_eq_one (n : Nat) : (natLimbs n).length = 1 ↔ 0 < n ∧ n < B := by
  rw [natLimbs_isSize.eq_one, Nat.pos_iff_ne_zero]

/-- JACOBI_STRIP_LOW_ZEROS: the dropped low zero limbs are a power of B. -/
theorem dropZeros_val (l : List Nat) : ∃ k, val l = B ^ k * val (l.dropWhile (· == 0)) := ⟨_, val_dropWhile_zero l⟩

theorem dropZeros_head (l : List Nat) (h : val l ≠ 0) : (l.dropWhile (· == 0)).headD 0 ≠ 0 := by
  obtain ⟨k, -, h2, -⟩ := dropWhile_zero_spec l
  have hv := val_dropWhile_zero l
  cases hd : l.dropWhile (· == 0) with
  | nil => rw [hd] at hv; exact absurd (by simpa using hv) h
  | cons x xs => rw [hd] at h2; simpa using h2

theorem dropZeros_Limbs (l : List Nat) (h : Limbs l) : Limbs (l.dropWhile (· == 0)) :=
  fun x hx => h x ((List.dropWhile_sublist _).subset hx)

theorem jacobi_two_pm (b : Nat) (hb : b % 2 = 1) : jacobiSym 2 b = 1 ∨ jacobiSym 2 b = -1 := by
  rw [jacobi_two_eq b hb]; split_ifs <;> simp

theorem jacobi_two_pow64 (b : Nat) (hb : b % 2 = 1) : jacobiSym 2 b ^ 64 = 1 := by
  rcases jacobi_two_pm b hb with h | h <;> rw [h] <;> norm_num

/-- a whole limb is an even number of twos: (B/b) = 1 for odd b. -/
theorem jacobi_B (b : Nat) (hb : b % 2 = 1) : jacobiSym (B : ℤ) b = 1 := by
  have : (B : ℤ) = 2 ^ 64 := by unfold B; norm_cast
  rw [this, jacobiSym.pow_left, jacobi_two_pow64 b hb]

theorem jacobi_two_mod8 (b c : Nat) (hb : b % 2 = 1) (h : b % 8 = c % 8) :
    jacobiSym 2 b = jacobiSym 2 c := by
  rw [jacobiSym.at_two (Nat.odd_iff.mpr hb), jacobiSym.at_two (Nat.odd_iff.mpr (by omega)),
    (ZMod.natCast_eq_natCast_iff' b c 8).mpr h]

theorem bit1ToPN_congr (x y : Nat) (h : x / 2 % 2 = y / 2 % 2) : bit1ToPN x = bit1ToPN y := by
  rw [bit1ToPN_eq, bit1ToPN_eq, testBit_one_eq, testBit_one_eq, h]

theorem bit1ToPN_and_congr (a x y : Nat) (h : x / 2 % 2 = y / 2 % 2) :
    bit1ToPN (a &&& x) = bit1ToPN (a &&& y) := by
  rw [bit1ToPN_eq, bit1ToPN_eq, Nat.testBit_and, Nat.testBit_and, testBit_one_eq x, testBit_one_eq y, h]

theorem bit1ToPN_zero_and (b : Nat) : bit1ToPN (0 &&& b) = 1 := by
  rw [Nat.zero_and]; rfl

theorem bit1ToPN_two_and (b : Nat) : bit1ToPN (2 &&& b) = bit1ToPN b := by
  rw [bit1ToPN_eq, bit1ToPN_eq, Nat.testBit_and]
  have : (2 : Nat).testBit 1 = true := by decide
  rw [this, Bool.true_and]

/-- bit 1 of an odd b is the sign (-1/b). -/
theorem bit1ToPN_odd (b : Nat) (hb : b % 2 = 1) : bit1ToPN b = jacobiSym (-1) b := by
  rw [jacobiSym.at_neg_one (Nat.odd_iff.mpr hb), ZMod.χ₄_nat_eq_if_mod_four, bit1ToPN_eq,
    testBit_one_eq]
  have : b % 4 = 1 ∨ b % 4 = 3 := by omega
  rcases this with h | h
  · have h1 : ¬ b / 2 % 2 = 1 := by omega
    simp [h, h1, hb]
  · have h1 : b / 2 % 2 = 1 := by omega
    simp [h, h1, hb]

theorem jacobi_neg_one_sq (b : Nat) : jacobiSym (-1) b * jacobiSym (-1) b = 1 := by
  rw [← jacobiSym.mul_left]; norm_num

/-- JACOBI_MOD_OR_MODEXACT_1_ODD: the residue r with r·B^n ≡ -A (mod d) has (r/d) = (-1/d)(A/d). -/
theorem modexact_jacobi (ap : List Nat) (d : Nat) (hd : d % 2 = 1) :
    bit1ToPN d * jacobiSym (modexact_1_odd ap d) d = jacobiSym (val ap) d := by
  obtain ⟨_, h⟩ := modexact_spec ap d hd
  generalize modexact_1_odd ap d = r at *
  have e1 : jacobiSym ((r : ℤ) * (B : ℤ) ^ ap.length) d = jacobiSym ((-1) * (val ap : ℤ)) d := by
    apply jacobiSym.mod_left'
    apply Int.emod_eq_emod_iff_emod_sub_eq_zero.mpr
    have : (r : ℤ) * (B : ℤ) ^ ap.length - (-1) * (val ap : ℤ) = ((r * B ^ ap.length + val ap : Nat) : ℤ) := by
      push_cast; ring
    rw [this]
    exact_mod_cast h
  rw [jacobiSym.mul_left, jacobiSym.pow_left, jacobi_B d hd, one_pow, mul_one, jacobiSym.mul_left] at e1
  rw [bit1ToPN_odd d hd, e1, ← mul_assoc, jacobi_neg_one_sq, one_mul]

theorem jacModBase_spec (bit : Nat) (ap : List Nat) (b : Nat) (hb : b % 2 = 1) (hb1 : 1 < b) :
    jacModBase bit ap b = bit1ToPN bit * jacobiSym (val ap) b := by
  unfold jacModBase
  rw [jacobi_base_spec _ _ _ hb hb1, bit1ToPN_xor, mul_assoc, modexact_jacobi ap b hb]

theorem kronSym_of_natAbs (a b : ℤ) (t b' : Nat) (hb' : b' % 2 = 1) (h : b.natAbs = 2 ^ t * b') :
    kronSym a b = (if b < 0 ∧ a < 0 then -1 else 1) * kron2 a ^ t * jacobiSym a b' := by
  have hpos : 0 < 2 ^ t * b' := Nat.mul_pos (by positivity) (by omega)
  have hb0 : b ≠ 0 := by intro h0; subst h0; simp at h; omega
  unfold kronSym
  rw [if_neg hb0]
  have hpv : padicValNat 2 b.natAbs = t := by
    rw [h, padicValNat.mul (by positivity) (by omega), padicValNat.prime_pow,
      padicValNat.eq_zero_of_not_dvd (by omega), Nat.add_zero]
  rw [hpv, h, Nat.mul_div_cancel_left _ (by positivity)]

theorem kronSym_zero_right (a : ℤ) : kronSym a 0 = if a.natAbs = 1 then 1 else 0 := by
  unfold kronSym; rw [if_pos rfl]

theorem kron2_congr (a b : ℤ) (h : a % 8 = b % 8) : kron2 a = kron2 b := by
  unfold kron2; rw [h]

theorem kron2_natAbs (a : ℤ) : kron2 a = kron2 (a.natAbs : ℤ) := by
  rcases Int.natAbs_eq a with h | h
  · rw [← h]
  · -- χ₈ is even
    rw [kron2_eq_chi8, kron2_eq_chi8]
    conv_lhs => rw [h]
    rw [Int.cast_neg, ← neg_one_mul, map_mul, show ZMod.χ₈ (-1) = 1 by decide, one_mul]

/-- (a/2) = (2/|a|) for odd a. -/
theorem kron2_eq_jacobi (a : ℤ) (ha : a % 2 = 1) : kron2 a = jacobiSym 2 a.natAbs := by
  rw [kron2_natAbs, kron2_nat_odd _ (by omega)]

theorem kron2_pow_B (a : ℤ) (ha : a % 2 = 1) (k c : Nat) : kron2 a ^ (64 * k + c) = kron2 a ^ c := by
  rw [pow_add, pow_mul]
  rcases kron2_odd a ha with h | h <;> rw [h] <;> norm_num

/-- sign of the numerator: (a/b) = (-1/b)^[a<0] (|a|/b), b odd. -/
theorem jacobi_sign (a : ℤ) (b : Nat) (hb : b % 2 = 1) :
    bit1ToPN ((if a < 0 then 2 else 0) &&& b) * jacobiSym (a.natAbs : ℤ) b = jacobiSym a b := by
  by_cases ha : a < 0
  · rw [if_pos ha, bit1ToPN_two_and, bit1ToPN_odd b hb, ← jacobiSym.mul_left]
    congr 1; omega
  · rw [if_neg ha, bit1ToPN_zero_and, one_mul]
    congr 1; omega

theorem ssize_facts (a : ℤ) : (ssize a = 0 ↔ a = 0) ∧ (ssize a < 0 ↔ a < 0) ∧
    ((ssize a = 1 ∨ ssize a = -1) ↔ (0 < a.natAbs ∧ a.natAbs < B)) := by
  unfold ssize sgn
  have h0 := nlimbs_eq_zero_iff a.natAbs
  have h1 := nlimbs_eq_one_iff a.natAbs
  split_ifs
  · rw [one_mul]; omega
  · rw [neg_one_mul]; omega
  · rw [zero_mul]; omega

theorem ssize_eq_zero (a : ℤ) : ssize a = 0 ↔ a = 0 := (ssize_facts a).1

theorem ssize_neg (a : ℤ) : ssize a < 0 ↔ a < 0 := (ssize_facts a).2.1

theorem ssize_pm_one (a : ℤ) : (ssize a = 1 ∨ ssize a = -1) ↔ (0 < a.natAbs ∧ a.natAbs < B) :=
  (ssize_facts a).2.2

theorem ls0_spec (a : ℤ) :
    ls0 ((natLimbs a.natAbs).headD 0) (ssize a) = if a.natAbs = 1 then 1 else 0 := by
  unfold ls0
  rw [natLimbs_headD]
  have hs := ssize_pm_one a
  have hB := B_eq
  by_cases h : a.natAbs = 1
  · rw [if_pos h, if_pos]
    refine ⟨hs.mpr ?_, ?_⟩
    · rw [h, hB]; omega
    · rw [h, hB]
  · rw [if_neg h, if_neg]
    rintro ⟨h1, h3⟩
    obtain ⟨_, h2⟩ := hs.mp h1
    rw [Nat.mod_eq_of_lt h2] at h3; exact h h3

theorem natAbs_decomp (n : Nat) (hn : n ≠ 0) :
    n = 2 ^ ctz n * (n >>> ctz n) ∧ (n >>> ctz n) % 2 = 1 :=
  ⟨(ctz_mul n (Nat.pos_of_ne_zero hn)).symm, ctz_odd n (Nat.pos_of_ne_zero hn)⟩

theorem ctz_pos_of_even (n : Nat) (hn : n ≠ 0) (he : n % 2 = 0) : 0 < ctz n :=
  ctz_isCtz.pos_of_even (Nat.pos_of_ne_zero hn) trivial he

theorem jacobi_zero_left (b : Nat) (hb : b % 2 = 1) :
    jacobiSym 0 b = if b = 1 then 1 else 0 := by
  by_cases h : b = 1
  · subst h; simp
  · rw [if_neg h]; exact jacobiSym.zero_left (by omega)

theorem kronSym_zero_left (b : ℤ) : kronSym 0 b = if b.natAbs = 1 then 1 else 0 := by
  by_cases hb : b = 0
  · subst hb; rw [kronSym_zero_right]
  have hn : b.natAbs ≠ 0 := by omega
  obtain ⟨h1, h2⟩ := natAbs_decomp b.natAbs hn
  rw [kronSym_of_natAbs 0 b _ _ h2 h1, if_neg (by omega), one_mul, jacobi_zero_left _ h2]
  by_cases he : b.natAbs % 2 = 0
  · have := ctz_pos_of_even _ hn he
    rw [kron2_even 0 (by norm_num), zero_pow (by omega), zero_mul, if_neg (by omega)]
  · have h0 : ctz b.natAbs = 0 := ctz_unique b.natAbs 0 b.natAbs (by omega) (by simp)
    rw [h0, pow_zero, one_mul, Nat.shiftRight_zero]

theorem kronSym_even_even (a b : ℤ) (ha : a % 2 = 0) (hb : b % 2 = 0) (hb0 : b ≠ 0) :
    kronSym a b = 0 := by
  have hn : b.natAbs ≠ 0 := by omega
  obtain ⟨h1, h2⟩ := natAbs_decomp b.natAbs hn
  have := ctz_pos_of_even _ hn (by omega)
  rw [kronSym_of_natAbs a b _ _ h2 h1, kron2_even a ha, zero_pow (by omega), mul_zero, zero_mul]

theorem twosBit1_zero (x : Nat) : twosBit1 0 x = 0 := by
  unfold twosBit1; simp

theorem bit1ToPN_zero : bit1ToPN 0 = 1 := by decide

/-- the tail shared by mpz_kronecker_ui / _si: `b' == 1` shortcut or modexact + jacobi_base. -/
theorem jacModBase_or_one (r : Nat) (a : ℤ) (b' : Nat) (hb' : b' % 2 = 1) :
    (if b' = 1 then bit1ToPN r
     else jacModBase (r ^^^ ((if a < 0 then 2 else 0) &&& b')) (natLimbs a.natAbs) b')
      = bit1ToPN r * jacobiSym a b' := by
  by_cases h : b' = 1
  · subst h; rw [if_pos rfl]; simp
  · rw [if_neg h, jacModBase_spec _ _ _ hb' (by omega), val_natLimbs_eq, bit1ToPN_xor, mul_assoc,
      jacobi_sign a b' hb']

/-- JACOBI_TWOS_U_BIT1 (twos, a_low) = (a/2)^twos for odd a. -/
theorem twos_low_spec (a : ℤ) (ha : a % 2 = 1) (t : Nat) :
    bit1ToPN (twosBit1 t ((natLimbs a.natAbs).headD 0)) = kron2 a ^ t := by
  rw [natLimbs_headD]
  have hB := B_eq
  have ho : a.natAbs % B % 2 = 1 := by rw [hB]; omega
  rw [bit1ToPN_twosBit1 _ _ ho, kron2_eq_jacobi a ha, jacobi_two_mod8 _ a.natAbs ho (by rw [hB]; omega)]

theorem low_even_iff (a : ℤ) : (natLimbs a.natAbs).headD 0 % 2 = 0 ↔ a % 2 = 0 := by
  rw [natLimbs_headD, B_eq]; omega

theorem bit1ToPN_ite (p : Prop) [Decidable p] :
    bit1ToPN (if p then 2 else 0) = if p then -1 else 1 := by
  split_ifs <;> decide

theorem mpz_kronecker_si_spec (a b : ℤ) : mpz_kronecker_si a b = kronSym a b := by
  unfold mpz_kronecker_si
  dsimp only
  by_cases ha : a = 0
  · subst ha
    rw [if_pos ((ssize_eq_zero 0).mpr rfl), kronSym_zero_left]
    have : (b = 1 ∨ b = -1) ↔ b.natAbs = 1 := by omega
    simp only [this]
  rw [if_neg (mt (ssize_eq_zero a).mp ha)]
  simp only [ssize_neg]
  by_cases hb0 : b = 0
  · subst hb0
    rw [if_pos (by simp), ls0_spec, kronSym_zero_right]
  have hn : b.natAbs ≠ 0 := by omega
  rw [if_neg (by omega)]
  have hsg : bit1ToPN (if a < 0 ∧ b < 0 then 2 else 0) = if b < 0 ∧ a < 0 then -1 else 1 := by
    rw [bit1ToPN_ite]; simp only [and_comm]
  by_cases hbe : b.natAbs % 2 = 0
  · by_cases hae : (natLimbs a.natAbs).headD 0 % 2 = 0
    · rw [if_pos ⟨hbe, hae⟩, kronSym_even_even a b ((low_even_iff a).mp hae) (by omega) hb0]
    rw [if_neg (by tauto)]
    simp only [if_pos hbe]
    have hao : a % 2 = 1 := by have := low_even_iff a; omega
    obtain ⟨h1, h2⟩ := natAbs_decomp b.natAbs hn
    rw [jacModBase_or_one _ a _ h2, bit1ToPN_xor, twos_low_spec a hao, hsg,
      kronSym_of_natAbs a b _ _ h2 h1]
  · rw [if_neg (by tauto)]
    simp only [if_neg hbe]
    have h2 : b.natAbs % 2 = 1 := by omega
    rw [jacModBase_or_one _ a _ h2, hsg, kronSym_of_natAbs a b 0 _ h2 (by simp), pow_zero, mul_one]

example : mpz_kronecker_si (-15) (-28) = 1 := by decide +kernel
example : mpz_kronecker_si (-(2 ^ 70 + 7)) (-24) = -1 := by decide +kernel
example : kronSym (-(2 ^ 70 + 7)) (-24) = -1 := by
  rw [← mpz_kronecker_si_spec]; decide +kernel

/-- kronzu.c is kronzs.c without the sign of b (the only difference of the models: kronzu.c takes
    JACOBI_ASGN_SU_BIT1 before its `b == 1` test, where the bit is 0) -/
theorem mpz_kronecker_ui_eq_si (a : ℤ) (b : Nat) : mpz_kronecker_ui a b = mpz_kronecker_si a b := by
  have h1 : ((b : ℤ) = 1 ∨ (b : ℤ) = -1) ↔ b = 1 := by omega
  have h2 : ¬ (b : ℤ) < 0 := by omega
  have h3 : (if ssize a < 0 then 2 else 0) &&& 1 = 0 := by split_ifs <;> rfl
  have h4 : (b % 2 = 0 ∧ b = 0) ↔ b = 0 := by omega
  unfold mpz_kronecker_ui mpz_kronecker_si
  simp only [h1, h2, h4, and_false, if_false, Nat.zero_xor, Int.natAbs_natCast, ne_eq, ite_not]
  by_cases hbe : b % 2 = 0
  · simp only [hbe, if_true, true_and]
    by_cases h : b >>> ctz b = 1 <;> simp only [h, h3, if_true, if_false, Nat.xor_zero]
  · have hb0 : b ≠ 0 := by omega
    simp only [hbe, hb0, if_false, false_and, Nat.zero_xor]
    by_cases h : b = 1 <;> simp only [h, h3, if_true, if_false]

theorem mpz_kronecker_ui_spec (a : ℤ) (b : Nat) : mpz_kronecker_ui a b = kronSym a b := by
  rw [mpz_kronecker_ui_eq_si, mpz_kronecker_si_spec]

example : mpz_kronecker_ui (-15) 28 = -1 := by decide +kernel
example : mpz_kronecker_ui (-(2 ^ 70 + 7)) 56 = -1 := by decide +kernel
example : kronSym (-(2 ^ 70 + 7)) 56 = -1 := by
  have h := mpz_kronecker_ui_spec (-(2 ^ 70 + 7)) 56
  rw [Nat.cast_ofNat] at h
  rw [← h]; decide +kernel

/-- the tail of kronsz.c / kronuz.c: `a == 1` shortcut, or reduce b modulo a (modexact), use
    reciprocity on the odd part b' of b (only bit 1 of `bl` is read) and call mpn_jacobi_base. -/
theorem kfin_spec (a : Nat) (l : List Nat) (bl bit c b' : Nat) (ha : a % 2 = 1) (hb' : b' % 2 = 1)
    (hv : val l = 2 ^ c * b') (hbl : bl / 2 % 2 = b' / 2 % 2) :
    (if a = 1 then bit1ToPN bit
     else jacobi_base (modexact_1_odd l a) a ((bit ^^^ a) ^^^ (a &&& bl)))
      = bit1ToPN bit * jacobiSym 2 a ^ c * jacobiSym a b' := by
  by_cases h1 : a = 1
  · subst h1
    rw [if_pos rfl, Nat.cast_one, jacobiSym.one_left]; simp
  rw [if_neg h1, jacobi_base_spec _ _ _ ha (by omega), bit1ToPN_xor, bit1ToPN_xor,
    bit1ToPN_and_congr a bl b' hbl, jacobi_recip a b' ha hb']
  have e := modexact_jacobi l a ha
  rw [hv] at e
  push_cast at e
  rw [jacobiSym.mul_left, jacobiSym.pow_left] at e
  have e2 : bit1ToPN bit * bit1ToPN a * bit1ToPN (a &&& b') * jacobiSym (modexact_1_odd l a) a
      = bit1ToPN bit * bit1ToPN (a &&& b') * (bit1ToPN a * jacobiSym (modexact_1_odd l a) a) := by ring
  rw [e2, e]; ring

theorem bit1ToPN_half_xor (a : Nat) (ha : a % 2 = 1) :
    bit1ToPN ((a >>> 1) ^^^ a) = jacobiSym 2 a := by
  have h := bit1ToPN_twosBit1 1 a ha
  unfold twosBit1 at h
  rw [show (1 : Nat) <<< 1 = 2 from rfl, bit1ToPN_two_and, pow_one] at h
  exact h

/-- kronsz.c:84-113 / kronuz.c:58-93: either b = 2^63·B^k (early return (a/2)), or the stripped
    pointer l' and a `b_low` whose bit 1 is bit 1 of the odd part b' of b. -/
theorem kronEvenB_spec (a : Nat) (ha : a % 2 = 1) (l : List Nat) (hl : Limbs l) (hv : val l ≠ 0)
    (bit : Nat) :
    (∃ k, val l = 2 ^ (64 * k + 63) ∧ kronEvenB a l bit = .inr (bit1ToPN bit * jacobiSym 2 a)) ∨
    (∃ k c b' l' bl, val l = 2 ^ (64 * k + c) * b' ∧ b' % 2 = 1 ∧ val l' = 2 ^ c * b' ∧
      bl / 2 % 2 = b' / 2 % 2 ∧ kronEvenB a l bit = .inl (some (l', bl))) := by
  obtain ⟨k, hk⟩ := dropZeros_val l
  have hh := dropZeros_head l hv
  have hL := dropZeros_Limbs l hl
  unfold kronEvenB
  dsimp only
  generalize l.dropWhile (· == 0) = l' at *
  rw [B_eq_pow, ← pow_mul] at hk
  cases l' with
  | nil => simp at hh
  | cons x xs =>
    generalize hy : (x :: xs).headD 0 = y at *
    obtain rfl : x = y := hy
    have hx0 : x ≠ 0 := hh
    have hxB : x < 2 ^ 64 := (Limbs_cons.mp hL).1
    by_cases hxe : x % 2 = 0
    · rw [if_pos hxe]
      by_cases hx63 : x = 2 ^ 63
      · rw [if_pos hx63]
        cases xs with
        | nil =>
          left
          refine ⟨k, ?_, ?_⟩
          · rw [hk, hx63, pow_add]; simp
          · rw [if_pos (by simp), bit1ToPN_xor, bit1ToPN_half_xor a ha]
        | cons y ys =>
          right
          rw [if_neg (by simp)]
          refine ⟨k, 63, 1 + 2 * (y + B * val ys), _, _, ?_, by omega, ?_, ?_, rfl⟩
          · rw [hk, pow_add, hx63, val_cons, val_cons, B_eq_pow]; ring
          · rw [hx63, val_cons, val_cons, B_eq_pow]; ring
          · simp only [List.getD_cons_succ, List.getD_cons_zero, Nat.shiftLeft_eq, B_eq]
            omega
      · rw [if_neg hx63]
        right
        obtain ⟨h1, h2⟩ := natAbs_decomp x hx0
        have hc : ctz x < 64 := ctz_lt_of_lt_pow x 64 (by omega) hxB
        have hc62 : ctz x ≤ 62 := by
          by_contra hcon
          have h63 : ctz x = 63 := by omega
          rw [h63] at h1 h2
          apply hx63
          generalize x >>> 63 = o at *
          have : o = 1 := by omega
          rw [this] at h1; omega
        generalize ctz x = c at *
        generalize x >>> c = o at *
        obtain ⟨d, hd⟩ : ∃ d, 64 = c + d + 2 := ⟨62 - c, by omega⟩
        refine ⟨k, c, o + 4 * (2 ^ d * val xs), _, _, ?_, by omega, ?_, by omega, rfl⟩
        · rw [hk, pow_add, val_cons, h1, B_eq_pow, hd, pow_add, pow_add]; ring
        · rw [val_cons, h1, B_eq_pow, hd, pow_add, pow_add]; ring
    · rw [if_neg hxe]
      right
      refine ⟨k, 0, val (x :: xs), _, _, ?_, ?_, by simp, ?_, rfl⟩
      · rw [hk, Nat.add_zero]
      · rw [val_cons, B_eq]; omega
      · rw [val_cons, B_eq]; omega

theorem kron2_pow63 (a : ℤ) (ha : a % 2 = 1) (k : Nat) : kron2 a ^ (64 * k + 63) = kron2 a := by
  rw [kron2_pow_B a ha]
  rcases kron2_odd a ha with h | h <;> rw [h] <;> norm_num

theorem natAbs_one_iff (b : ℤ) :
    ((natLimbs b.natAbs).length = 1 ∧ (natLimbs b.natAbs).headD 0 = 1) ↔ b.natAbs = 1 := by
  rw [natLimbs_length_eq_one, natLimbs_headD]
  have hB := B_eq
  constructor
  · rintro ⟨⟨_, h2⟩, h3⟩; rwa [Nat.mod_eq_of_lt h2] at h3
  · intro h; rw [h, hB]; omega

theorem low_odd_facts (n : Nat) (h : (natLimbs n).headD 0 % 2 ≠ 0) :
    n % 2 = 1 ∧ (natLimbs n).headD 0 % 2 = 1 ∧ (natLimbs n).headD 0 % 8 = n % 8 ∧
      (natLimbs n).headD 0 / 2 % 2 = n / 2 % 2 := by
  rw [natLimbs_headD, B_eq] at *
  omega

theorem mpz_si_kronecker_spec (a b : ℤ) : mpz_si_kronecker a b = kronSym a b := by
  unfold mpz_si_kronecker
  dsimp only
  by_cases hb0 : b = 0
  · subst hb0
    rw [if_pos ((ssize_eq_zero 0).mpr rfl), kronSym_zero_right]
    have : (a = 1 ∨ a = -1) ↔ a.natAbs = 1 := by omega
    simp only [this]
  have hn : b.natAbs ≠ 0 := by omega
  rw [if_neg (mt (ssize_eq_zero b).mp hb0)]
  simp only [ssize_neg]
  have hsg : bit1ToPN (if a < 0 ∧ b < 0 then 2 else 0) = if b < 0 ∧ a < 0 then -1 else 1 := by
    rw [bit1ToPN_ite]; simp only [and_comm]
  by_cases hbe : (natLimbs b.natAbs).headD 0 % 2 ≠ 0
  · rw [if_pos hbe]
    obtain ⟨hbo, hlo, hl8, hl2⟩ := low_odd_facts _ hbe
    have hvb : val (natLimbs b.natAbs) = 2 ^ 0 * b.natAbs := by rw [val_natLimbs_eq, pow_zero, one_mul]
    have hks : kronSym a b = (if b < 0 ∧ a < 0 then -1 else 1) * jacobiSym a b.natAbs := by
      rw [kronSym_of_natAbs a b 0 _ hbo (by simp), pow_zero, mul_one]
    have hasg := bit1ToPN_and_congr (if a < 0 then 2 else 0) _ _ hl2
    by_cases ha0 : a = 0
    · subst ha0
      rw [if_pos (by simp), kronSym_zero_left]
      simp only [natAbs_one_iff]
    have han : a.natAbs ≠ 0 := by omega
    rw [if_neg (by omega)]
    by_cases hae : a.natAbs % 2 = 0
    · simp only [if_pos hae]
      obtain ⟨h1, h2⟩ := natAbs_decomp a.natAbs han
      have hJ : jacobiSym (a.natAbs : ℤ) b.natAbs
          = jacobiSym 2 b.natAbs ^ ctz a.natAbs * jacobiSym ((a.natAbs >>> ctz a.natAbs : Nat) : ℤ) b.natAbs := by
        conv_lhs => rw [h1]
        push_cast
        rw [jacobiSym.mul_left, jacobiSym.pow_left]
      rw [kfin_spec _ _ _ _ 0 _ h2 hbo hvb hl2, pow_zero, mul_one, bit1ToPN_xor, bit1ToPN_xor,
        bit1ToPN_twosBit1 _ _ hlo, jacobi_two_mod8 _ _ hlo hl8, hsg, hasg, hks,
        ← jacobi_sign a _ hbo, hJ]
      ring
    · simp only [if_neg hae]
      rw [kfin_spec _ _ _ _ 0 _ (by omega) hbo hvb hl2, pow_zero, mul_one, bit1ToPN_xor, hsg, hasg,
        hks, ← jacobi_sign a _ hbo]
      ring
  rw [if_neg hbe]
  have hbe' : b % 2 = 0 := by rw [natLimbs_headD, B_eq] at hbe; omega
  by_cases hae : a % 2 = 0
  · rw [if_pos hae, kronSym_even_even a b hae hbe' hb0]
  rw [if_neg hae]
  have hao : a % 2 = 1 := by omega
  have hao' : a.natAbs % 2 = 1 := by omega
  have hk2 : kron2 a = jacobiSym 2 a.natAbs := kron2_eq_jacobi a hao
  rcases kronEvenB_spec a.natAbs hao' (natLimbs b.natAbs) (Limbs_natLimbs _)
    (by rw [val_natLimbs_eq]; exact hn) (if a < 0 ∧ b < 0 then 2 else 0)
    with ⟨k, hv, hK⟩ | ⟨k, c, b', l', bl, hv, hb', hv', hbl, hK⟩
  · rw [hK]
    dsimp only
    rw [val_natLimbs_eq] at hv
    rw [kronSym_of_natAbs a b (64 * k + 63) 1 (by norm_num) (by rw [hv, mul_one]),
      kron2_pow63 _ hao, hk2, hsg]
    simp
  · rw [hK]
    dsimp only
    rw [val_natLimbs_eq] at hv
    rw [kfin_spec a.natAbs l' bl _ c b' hao' hb' hv' hbl, kronSym_of_natAbs a b _ b' hb' hv,
      kron2_pow_B _ hao, hk2, bit1ToPN_xor, hsg,
      bit1ToPN_and_congr (if a < 0 then 2 else 0) _ _ hbl, ← jacobi_sign a _ hb']
    ring

example : mpz_si_kronecker (-29) (-(2 ^ 63 * 2 ^ 64 * 7)) = -1 := by decide +kernel
example : mpz_si_kronecker (-21) (-(2 ^ 64 * 2 ^ 63)) = 1 := by decide +kernel
example : mpz_si_kronecker (-40) (-(2 ^ 64 * 2 ^ 64 * 7 + 5)) = -1 := by decide +kernel
example : kronSym (-29) (-(2 ^ 61 * 2 ^ 64 * 7)) = -1 := by
  rw [← mpz_si_kronecker_spec]; decide +kernel

/-- kronuz.c is kronsz.c without the sign of a -/
theorem mpz_ui_kronecker_eq_si (a : Nat) (b : ℤ) : mpz_ui_kronecker a b = mpz_si_kronecker a b := by
  have h0 : (natLimbs b.natAbs).length = 0 ↔ b = 0 := by rw [natLimbs_length_eq_zero]; omega
  have h1 : ((a : ℤ) = 1 ∨ (a : ℤ) = -1) ↔ a = 1 := by omega
  have h2 : ¬ (a : ℤ) < 0 := by omega
  have h3 : (a : ℤ) % 2 = 0 ↔ a % 2 = 0 := by omega
  have h4 : (a % 2 = 0 ∧ a = 0) ↔ a = 0 := by omega
  unfold mpz_ui_kronecker mpz_si_kronecker
  simp only [h0, ssize_eq_zero, h1, h2, h3, h4, false_and, if_false, Nat.zero_and, Nat.zero_xor, Nat.xor_zero,
    Int.natAbs_natCast, ne_eq, ite_not]
  by_cases hae : a % 2 = 0 <;> simp only [hae, if_true, if_false, Nat.zero_xor]

theorem mpz_ui_kronecker_spec (a : Nat) (b : ℤ) : mpz_ui_kronecker a b = kronSym a b := by
  rw [mpz_ui_kronecker_eq_si, mpz_si_kronecker_spec]

example : mpz_ui_kronecker 29 (-(2 ^ 63 * 2 ^ 64 * 7)) = -1 := by decide +kernel
example : mpz_ui_kronecker 21 (-(2 ^ 64 * 2 ^ 63)) = -1 := by decide +kernel
example : mpz_ui_kronecker 20 (-(2 ^ 64 * 2 ^ 64 * 7 + 5)) = -1 := by decide +kernel
example : kronSym 29 (-(2 ^ 61 * 2 ^ 64 * 7)) = -1 := by
  have h := mpz_ui_kronecker_spec 29 (-(2 ^ 61 * 2 ^ 64 * 7))
  rw [Nat.cast_ofNat] at h
  rw [← h]; decide +kernel

/-- MPIR's mixed-precision Kronecker functions return the Kronecker symbol for every sign / parity /
    zero combination (no word-size hypothesis is needed at the level of the models). -/
theorem kronecker_wrappers_spec :
    (∀ (a : ℤ) (b : Nat), mpz_kronecker_ui a b = kronSym a b) ∧
    (∀ (a b : ℤ), mpz_kronecker_si a b = kronSym a b) ∧
    (∀ (a : Nat) (b : ℤ), mpz_ui_kronecker a b = kronSym a b) ∧
    (∀ (a b : ℤ), mpz_si_kronecker a b = kronSym a b) :=
  ⟨mpz_kronecker_ui_spec, mpz_kronecker_si_spec, mpz_ui_kronecker_spec, mpz_si_kronecker_spec⟩

/-- the part of mpz_jacobi after the operands are ordered (mpz/jacobi.c:143-). -/
def jacTail (asrcp : List Nat) (asz : Nat) (bsrcp : List Nat) (bsz alow blow btwos result_bit1 : Nat) : ℤ :=
  if bsz = 1 then
    let result_bit1 := result_bit1 ^^^ twosBit1 btwos alow
    if blow = 1 then bit1ToPN result_bit1
    else if asz > 1 then
      jacobi_base (modexact_1_odd asrcp blow) blow (result_bit1 ^^^ blow)
    else jacobi_base alow blow result_bit1
  else
    let A := val asrcp; let Bv := val bsrcp
    let ap := if asz > bsz then A % Bv else A
    let result_bit1 := if btwos > 0 then result_bit1 ^^^ twosBit1 btwos alow else result_bit1
    let bp := Bv >>> btwos
    jacobi_n ap bp ((result_bit1 >>> 1) % 2)

theorem mpz_jacobi_eq (a b : ℤ) : mpz_jacobi a b =
    if ssize b = 0 then ls0 ((natLimbs a.natAbs).headD 0) (ssize a)
    else if ssize a = 0 then ls0 ((natLimbs b.natAbs).headD 0) (ssize b)
    else if ((natLimbs a.natAbs).headD 0 ||| (natLimbs b.natAbs).headD 0) % 2 = 0 then 0
    else
      let S : Nat := if ssize b < 0 then (if ssize a < 0 then 2 else 0) else 0
      let Lb := (natLimbs b.natAbs).dropWhile (· == 0)
      let r := jacShiftLow Lb Lb.length
      let bit := if ssize a < 0 then S ^^^ r.1 else S
      let La := (natLimbs a.natAbs).dropWhile (· == 0)
      if La.length < r.2.2 then
        let n := jacShiftLow La La.length
        jacTail Lb r.2.2 La n.2.2 r.1 n.1 n.2.1 (bit ^^^ (r.1 &&& n.1))
      else jacTail La La.length Lb r.2.2 (La.headD 0) r.1 r.2.1 bit := by
  unfold mpz_jacobi
  dsimp only
  by_cases h1 : ssize b = 0
  · rw [if_pos h1, if_pos h1]
  rw [if_neg h1, if_neg h1]
  by_cases h2 : ssize a = 0
  · rw [if_pos h2, if_pos h2]
  rw [if_neg h2, if_neg h2]
  by_cases h3 : ((natLimbs a.natAbs).headD 0 ||| (natLimbs b.natAbs).headD 0) % 2 = 0
  · rw [if_pos h3, if_pos h3]
  rw [if_neg h3, if_neg h3]
  by_cases h4 : ((natLimbs a.natAbs).dropWhile (· == 0)).length <
      (jacShiftLow ((natLimbs b.natAbs).dropWhile (· == 0)) ((natLimbs b.natAbs).dropWhile (· == 0)).length).2.2
  · simp only [if_pos h4]; rfl
  · simp only [if_neg h4]; rfl

theorem sbit_eq (x : Nat) : (if (x >>> 1) % 2 % 2 = 1 then (-1 : ℤ) else 1) = bit1ToPN x := by
  rw [bit1ToPN_eq, testBit_one_eq, Nat.shiftRight_eq_div_pow, pow_one, Nat.mod_mod]
  by_cases h : x / 2 % 2 = 1 <;> simp [h]

theorem kronSym_odd_nat (a : ℤ) (b : Nat) (hb : b % 2 = 1) : kronSym a b = jacobiSym a b := by
  rw [kronSym_of_natAbs a b 0 b hb (by simp), if_neg (by omega), pow_zero, one_mul, one_mul]

theorem jacobi_mod_of_dvd (A Bv b' : Nat) (h : b' ∣ Bv) :
    jacobiSym ((A % Bv : Nat) : ℤ) b' = jacobiSym (A : ℤ) b' := by
  rw [jacobiSym.mod_left, ← Int.natCast_mod, Nat.mod_mod_of_dvd _ h, Int.natCast_mod,
    ← jacobiSym.mod_left]

theorem jacTail_spec (La : List Nat) (asz : Nat) (Lb : List Nat) (bsz alow blow btwos bit b' : Nat)
    (hv : val Lb = 2 ^ btwos * b') (hb' : b' % 2 = 1) (hblow : blow = b' % B)
    (hsz : bsz = 1 → b' < B) (ha : asz > 1 ∨ val La = alow) :
    jacTail La asz Lb bsz alow blow btwos bit
      = bit1ToPN bit * bit1ToPN (twosBit1 btwos alow) * jacobiSym (val La) b' := by
  unfold jacTail
  dsimp only
  by_cases h1 : bsz = 1
  · rw [if_pos h1]
    have : blow = b' := by rw [hblow, Nat.mod_eq_of_lt (hsz h1)]
    subst this
    by_cases h2 : blow = 1
    · rw [if_pos h2, h2, bit1ToPN_xor]; simp
    rw [if_neg h2]
    by_cases h3 : asz > 1
    · rw [if_pos h3, jacobi_base_spec _ _ _ hb' (by omega), bit1ToPN_xor, bit1ToPN_xor, mul_assoc,
        modexact_jacobi La blow hb']
    · rw [if_neg h3, jacobi_base_spec _ _ _ hb' (by omega), bit1ToPN_xor]
      rcases ha with ha | ha
      · exact absurd ha h3
      · rw [ha]
  · rw [if_neg h1]
    unfold jacobi_n
    have hbp : val Lb >>> btwos = b' := by
      rw [Nat.shiftRight_eq_div_pow, hv, Nat.mul_div_cancel_left _ (by positivity)]
    rw [sbit_eq, hbp, kronecker_eq_kronSym, kronSym_odd_nat _ _ hb']
    have hJ : jacobiSym ((if asz > bsz then val La % val Lb else val La : Nat) : ℤ) b'
        = jacobiSym (val La : ℤ) b' := by
      split_ifs
      · exact jacobi_mod_of_dvd _ _ _ ⟨2 ^ btwos, by rw [hv]; ring⟩
      · rfl
    rw [hJ]
    by_cases h0 : btwos > 0
    · rw [if_pos h0, bit1ToPN_xor]
    · have : btwos = 0 := by omega
      subst this
      rw [if_neg h0, twosBit1_zero, bit1ToPN_zero, mul_one]

/-- jacobi.c:96-104 / 136-144: the low limb of b >> btwos, and the size after the shift. -/
theorem jacShiftLow_spec (l : List Nat) (hl : Limbs l) (hh : l.headD 0 ≠ 0) :
    ∃ b', val l = 2 ^ (jacShiftLow l l.length).2.1 * b' ∧ b' % 2 = 1 ∧
      (jacShiftLow l l.length).1 = b' % B ∧ ((jacShiftLow l l.length).2.2 = 1 → b' < B) ∧
      1 ≤ (jacShiftLow l l.length).2.2 ∧ (jacShiftLow l l.length).2.2 ≤ l.length ∧
      (jacShiftLow l l.length).2.1 = ctz (l.headD 0) := by
  unfold jacShiftLow
  dsimp only
  cases l with
  | nil => simp at hh
  | cons x xs =>
    generalize hy : (x :: xs).headD 0 = y at *
    obtain rfl : x = y := hy
    have hxB : x < 2 ^ 64 := (Limbs_cons.mp hl).1
    obtain ⟨h1, h2⟩ := natAbs_decomp x hh
    have hc : ctz x < 64 := ctz_lt_of_lt_pow x 64 (by omega) hxB
    generalize ctz x = c at *
    generalize x >>> c = o at *
    have hole : o ≤ x := by rw [h1]; exact Nat.le_mul_of_pos_left _ (by positivity)
    by_cases hc0 : c = 0
    · subst hc0
      rw [if_neg (by omega)]
      rw [pow_zero, one_mul] at h1
      subst h1
      refine ⟨val (x :: xs), by simp, ?_, ?_, ?_, by simp, by simp, rfl⟩
      · rw [val_cons, B_eq]; omega
      · dsimp only; rw [val_cons, B_eq]; omega
      · intro h; dsimp only at h
        have : xs = [] := by
          cases xs with
          | nil => rfl
          | cons _ _ => simp at h
        subst this; rw [val_cons, val_nil, B_eq]; omega
    cases xs with
    | nil =>
      rw [if_neg (by simp)]
      refine ⟨o, by rw [val_cons, val_nil, h1]; simp, h2, ?_, ?_, by simp, by simp, rfl⟩
      · dsimp only; rw [Nat.mod_eq_of_lt]; rw [B_eq]; omega
      · intro _; rw [B_eq]; omega
    | cons y ys =>
      have hyB : y < 2 ^ 64 := (Limbs_cons.mp (Limbs_cons.mp hl).2).1
      rw [if_pos ⟨by simp, by omega⟩]
      generalize hg : (x :: y :: ys).getD 1 0 = y' at *
      obtain rfl : y = y' := hg
      obtain ⟨d, hd⟩ : ∃ d, 64 = d + c := ⟨64 - c, by omega⟩
      have hd' : 64 - c = d := by omega
      rw [hd']
      have hP : (2 : Nat) ^ 64 = 2 ^ d * 2 ^ c := by rw [hd, pow_add]
      have hoP : o < 2 ^ d := by
        have : 2 ^ c * o < 2 ^ c * 2 ^ d := by rw [← h1, mul_comm, ← hP]; exact hxB
        exact Nat.lt_of_mul_lt_mul_left this
      have hsh : (y <<< d) % B = 2 ^ d * (y % 2 ^ c) := by
        rw [Nat.shiftLeft_eq, B_eq_pow, hP, mul_comm y, Nat.mul_mod_mul_left]
      have hor : o ||| (y <<< d) % B = 2 ^ d * (y % 2 ^ c) + o := by
        rw [hsh, Nat.lor_comm, ← Nat.two_pow_add_eq_or_of_lt hoP]
      refine ⟨o + 2 ^ d * (y + B * val ys), ?_, ?_, ?_, ?_, ?_, ?_, rfl⟩
      · rw [val_cons, val_cons, h1, B_eq_pow, hP]; ring
      · have : 2 ^ d * (y + B * val ys) % 2 = 0 := by
          obtain ⟨e, rfl⟩ : ∃ e, d = e + 1 := ⟨d - 1, by omega⟩
          rw [pow_succ, mul_assoc, mul_comm, mul_assoc]; exact Nat.mul_mod_right _ _
        omega
      · rw [hor]
        have e1 : o + 2 ^ d * (y + B * val ys)
            = (2 ^ d * (y % 2 ^ c) + o) + B * (y / 2 ^ c + 2 ^ d * val ys) := by
          conv_lhs => rw [← Nat.mod_add_div y (2 ^ c)]
          rw [B_eq_pow, hP]; ring
        have hlt : 2 ^ d * (y % 2 ^ c) + o < B := by
          have : y % 2 ^ c < 2 ^ c := Nat.mod_lt _ (by positivity)
          rw [B_eq_pow, hP]
          calc 2 ^ d * (y % 2 ^ c) + o < 2 ^ d * (y % 2 ^ c) + 2 ^ d := by omega
            _ = 2 ^ d * (y % 2 ^ c + 1) := by ring
            _ ≤ 2 ^ d * 2 ^ c := Nat.mul_le_mul_left _ (by omega)
        rw [e1, Nat.add_mul_mod_self_left, Nat.mod_eq_of_lt hlt]
      · intro h
        have h' : (y :: ys).length + 1 = 2 ∧ y >>> c = 0 := by
          by_contra hcon
          rw [if_neg (by simpa using hcon)] at h
          simp at h
        obtain ⟨hlen, hy0⟩ := h'
        have : ys = [] := by
          cases ys with
          | nil => rfl
          | cons _ _ => simp at hlen
        subst this
        rw [Nat.shiftRight_eq_div_pow, Nat.div_eq_zero_iff] at hy0
        have hyc : y < 2 ^ c := by
          rcases hy0 with h | h
          · exact absurd h (by positivity)
          · exact h
        rw [val_nil, Nat.mul_zero, Nat.add_zero, B_eq_pow, hP]
        calc o + 2 ^ d * y < 2 ^ d + 2 ^ d * y := by omega
          _ = 2 ^ d * (y + 1) := by ring
          _ ≤ 2 ^ d * 2 ^ c := Nat.mul_le_mul_left _ (by omega)
      · split_ifs <;> simp
      · split_ifs <;> simp

theorem dropZeros_id (l : List Nat) (h : l.headD 0 ≠ 0) : l.dropWhile (· == 0) = l := by
  cases l with
  | nil => rfl
  | cons x xs =>
    have : (x == 0) = false := by simpa using h
    simp [this]

theorem ctz_of_odd (x : Nat) (h : x % 2 = 1) : ctz x = 0 := ctz_unique x 0 x h (by simp)

theorem or_mod_two (x y : Nat) : (x ||| y) % 2 = 0 ↔ x % 2 = 0 ∧ y % 2 = 0 := by
  have h := Nat.or_mod_two_pow (a := x) (b := y) (n := 1)
  rw [pow_one] at h
  rw [h]
  rcases Nat.mod_two_eq_zero_or_one x with h1 | h1 <;>
    rcases Nat.mod_two_eq_zero_or_one y with h2 | h2 <;> simp [h1, h2]

/-- JACOBI_STRIP_LOW_ZEROS on a non-zero operand. -/
theorem strip_facts (n : Nat) (hn : n ≠ 0) :
    (∃ k, n = B ^ k * val ((natLimbs n).dropWhile (· == 0))) ∧
    ((natLimbs n).dropWhile (· == 0)).headD 0 ≠ 0 ∧ Limbs ((natLimbs n).dropWhile (· == 0)) ∧
    (n % 2 = 1 → val ((natLimbs n).dropWhile (· == 0)) = n ∧
      ((natLimbs n).dropWhile (· == 0)).headD 0 % 2 = 1 ∧
      ((natLimbs n).dropWhile (· == 0)).headD 0 % 8 = n % 8) := by
  refine ⟨?_, dropZeros_head _ (by rw [val_natLimbs_eq]; exact hn),
    dropZeros_Limbs _ (Limbs_natLimbs n), ?_⟩
  · obtain ⟨k, hk⟩ := dropZeros_val (natLimbs n)
    rw [val_natLimbs_eq] at hk
    exact ⟨k, hk⟩
  · intro ho
    have hh : (natLimbs n).headD 0 % 2 = 1 ∧ (natLimbs n).headD 0 % 8 = n % 8 := by
      rw [natLimbs_headD, B_eq]; omega
    rw [dropZeros_id _ (by omega), val_natLimbs_eq]
    exact ⟨rfl, hh⟩

theorem bit1ToPN_and_congr2 (x x' y y' : Nat) (hx : x / 2 % 2 = x' / 2 % 2)
    (hy : y / 2 % 2 = y' / 2 % 2) : bit1ToPN (x &&& y) = bit1ToPN (x' &&& y') := by
  rw [bit1ToPN_eq, bit1ToPN_eq, Nat.testBit_and, Nat.testBit_and, testBit_one_eq x,
    testBit_one_eq y, testBit_one_eq x', testBit_one_eq y', hx, hy]

theorem bit1ToPN_sq (x : Nat) : bit1ToPN x * bit1ToPN x = 1 := by
  rw [bit1ToPN_eq]; split_ifs <;> norm_num

theorem mpz_jacobi_spec (a b : ℤ) : mpz_jacobi a b = kronSym a b := by
  rw [mpz_jacobi_eq]
  by_cases hb0 : b = 0
  · subst hb0; rw [if_pos ((ssize_eq_zero 0).mpr rfl), ls0_spec, kronSym_zero_right]
  rw [if_neg (mt (ssize_eq_zero b).mp hb0)]
  by_cases ha0 : a = 0
  · subst ha0; rw [if_pos ((ssize_eq_zero 0).mpr rfl), ls0_spec, kronSym_zero_left]
  rw [if_neg (mt (ssize_eq_zero a).mp ha0)]
  have hB := B_eq
  by_cases hee : ((natLimbs a.natAbs).headD 0 ||| (natLimbs b.natAbs).headD 0) % 2 = 0
  · rw [if_pos hee]
    rw [or_mod_two, natLimbs_headD, natLimbs_headD, hB] at hee
    rw [kronSym_even_even a b (by omega) (by omega) hb0]
  rw [if_neg hee]
  have hpar : a % 2 = 1 ∨ b % 2 = 1 := by
    rw [or_mod_two, natLimbs_headD, natLimbs_headD, hB] at hee; omega
  have hna : a.natAbs % 2 = 1 ↔ a % 2 = 1 := by omega
  have hnb : b.natAbs % 2 = 1 ↔ b % 2 = 1 := by omega
  simp only [ssize_neg]
  obtain ⟨⟨kb, hkb⟩, hhb, hLb, hob⟩ := strip_facts b.natAbs (Int.natAbs_ne_zero.mpr hb0)
  obtain ⟨⟨ka, hka⟩, hha, hLa, hoa⟩ := strip_facts a.natAbs (Int.natAbs_ne_zero.mpr ha0)
  generalize (natLimbs b.natAbs).dropWhile (· == 0) = Lb at *
  generalize (natLimbs a.natAbs).dropWhile (· == 0) = La at *
  obtain ⟨b', hvb, hb'o, hblow, hbsz, hbsz1, hbszle, hbtw⟩ := jacShiftLow_spec Lb hLb hhb
  obtain ⟨a', hva, ha'o, hnblow, hnbsz, hnbsz1, hnbszle, hnbtw⟩ := jacShiftLow_spec La hLa hha
  rcases hrb : jacShiftLow Lb Lb.length with ⟨blow, btwos, bsz⟩
  rcases hra : jacShiftLow La La.length with ⟨nblow, nbtwos, nbsz⟩
  rw [hrb] at hvb hblow hbsz hbsz1 hbszle hbtw
  rw [hra] at hva hnblow hnbsz hnbsz1 hnbszle hnbtw
  dsimp only at hvb hblow hbsz hbsz1 hbszle hbtw hva hnblow hnbsz hnbsz1 hnbszle hnbtw ⊢
  clear hrb hra hee
  obtain ⟨hbl0, hbl8, hbl2⟩ := low_limb_bits b'
  obtain ⟨_, _, hnbl2⟩ := low_limb_bits a'
  rw [← hblow, hb'o] at hbl0
  rw [← hblow] at hbl8 hbl2
  rw [← hnblow] at hnbl2
  have hF1 : a % 2 = 1 → val La = a.natAbs ∧ a' = a.natAbs ∧ nbtwos = 0 ∧
      ∀ t, bit1ToPN (twosBit1 t (La.headD 0)) = kron2 a ^ t := by
    intro h
    obtain ⟨h1, h2, h3⟩ := hoa (hna.mpr h)
    have h0 : nbtwos = 0 := by rw [hnbtw, ctz_of_odd _ h2]
    refine ⟨h1, ?_, h0, ?_⟩
    · rw [h1, h0, pow_zero, one_mul] at hva; exact hva.symm
    · intro t
      rw [bit1ToPN_twosBit1 _ _ h2, kron2_eq_jacobi a h, jacobi_two_mod8 _ _ h2 h3]
  have hF2 : b % 2 = 1 → val Lb = b.natAbs ∧ btwos = 0 := by
    intro h
    obtain ⟨h1, h2, h3⟩ := hob (hnb.mpr h)
    exact ⟨h1, by rw [hbtw, ctz_of_odd _ h2]⟩
  have hF3 : ∃ E, b.natAbs = 2 ^ E * b' ∧ kron2 a ^ E = kron2 a ^ btwos := by
    by_cases h : b % 2 = 1
    · obtain ⟨h1, h2⟩ := hF2 h
      exact ⟨btwos, by rw [← h1, hvb], rfl⟩
    · refine ⟨64 * kb + btwos, ?_, kron2_pow_B a (hpar.resolve_right h) kb btwos⟩
      rw [hkb, hvb, B_eq_pow, ← pow_mul, pow_add]; ring
  obtain ⟨E, hE1, hE2⟩ := hF3
  have hT := kronSym_of_natAbs a b E b' hb'o hE1
  rw [hE2] at hT
  have hbit : bit1ToPN (if a < 0 then (if b < 0 then if a < 0 then 2 else 0 else 0) ^^^ blow
        else if b < 0 then if a < 0 then 2 else 0 else 0)
      = (if b < 0 ∧ a < 0 then -1 else 1) * bit1ToPN ((if a < 0 then 2 else 0) &&& b') := by
    have hbl : bit1ToPN blow = bit1ToPN b' := bit1ToPN_congr _ _ hbl2
    by_cases h1 : a < 0 <;> by_cases h2 : b < 0 <;>
      simp only [h1, h2, if_true, if_false, bit1ToPN_xor, bit1ToPN_two_and, bit1ToPN_zero_and, hbl,
        and_self, and_false, false_and] <;>
      simp [bit1ToPN_zero, show bit1ToPN 2 = -1 by decide]
  generalize (if a < 0 then (if b < 0 then if a < 0 then 2 else 0 else 0) ^^^ blow
        else if b < 0 then if a < 0 then 2 else 0 else 0) = bit at *
  have hJ1 : jacobiSym (a.natAbs : ℤ) b' = jacobiSym (val La : ℤ) b' := by
    rw [hka]; push_cast
    rw [jacobiSym.mul_left, jacobiSym.pow_left, jacobi_B _ hb'o, one_pow, one_mul]
  have hJ2 : jacobiSym (val La : ℤ) b' = jacobiSym 2 b' ^ nbtwos * jacobiSym a' b' := by
    rw [hva]; push_cast
    rw [jacobiSym.mul_left, jacobiSym.pow_left]
  have hJ3 : jacobiSym (val Lb : ℤ) a' = jacobiSym 2 a' ^ btwos * jacobiSym b' a' := by
    rw [hvb]; push_cast
    rw [jacobiSym.mul_left, jacobiSym.pow_left]
  rw [hT, ← jacobi_sign a b' hb'o, hJ1]
  by_cases hsw : La.length < bsz
  · rw [if_pos hsw]
    have hlen : 1 ≤ La.length := by
      cases La with
      | nil => simp at hha
      | cons _ _ => simp
    rw [jacTail_spec Lb bsz La nbsz blow nblow nbtwos _ a' hva ha'o hnblow hnbsz (Or.inl (by omega)),
      bit1ToPN_xor, hbit, hJ3, hJ2,
      bit1ToPN_and_congr2 blow b' nblow a' hbl2 hnbl2,
      jacobi_recip b' a' hb'o ha'o,
      bit1ToPN_twosBit1 nbtwos blow hbl0, jacobi_two_mod8 blow b' hbl0 hbl8]
    have hk : jacobiSym 2 a' ^ btwos = kron2 a ^ btwos := by
      by_cases h : a % 2 = 1
      · obtain ⟨_, h2, _, _⟩ := hF1 h
        rw [kron2_eq_jacobi a h, h2]
      · obtain ⟨_, h2⟩ := hF2 (hpar.resolve_left h)
        rw [h2, pow_zero, pow_zero]
    rw [hk]
    have hsq := bit1ToPN_sq (b' &&& a')
    generalize bit1ToPN (b' &&& a') = r at *
    calc _ = (if b < 0 ∧ a < 0 then -1 else 1) * bit1ToPN ((if a < 0 then 2 else 0) &&& b') *
          jacobiSym 2 b' ^ nbtwos * kron2 a ^ btwos * jacobiSym a' b' * (r * r) := by ring
      _ = _ := by rw [hsq]; ring
  · rw [if_neg hsw]
    have hal : La.length > 1 ∨ val La = La.headD 0 := by
      cases La with
      | nil => simp at hha
      | cons x xs =>
        cases xs with
        | nil => right; simp
        | cons _ _ => left; simp
    rw [jacTail_spec La La.length Lb bsz _ blow btwos _ b' hvb hb'o hblow hbsz hal, hbit]
    have hk : bit1ToPN (twosBit1 btwos (La.headD 0)) = kron2 a ^ btwos := by
      by_cases h : a % 2 = 1
      · obtain ⟨_, _, _, h4⟩ := hF1 h
        exact h4 btwos
      · obtain ⟨_, h2⟩ := hF2 (hpar.resolve_left h)
        rw [h2, pow_zero, twosBit1_zero, bit1ToPN_zero]
    rw [hk]; ring

example : mpz_jacobi (-(2 ^ 64 * 11 * 4 + 7)) (-(2 ^ 70 * 11 * 4 + 9)) = -1 := by decide +kernel
example : mpz_jacobi (2 ^ 63 * 2 ^ 64 * 7) (-(2 ^ 130 + 3)) = -1 := by decide +kernel
example : kronSym (-(2 ^ 64 * 11 * 4 + 7)) (-(2 ^ 70 * 11 * 4 + 9)) = -1 := by
  rw [← mpz_jacobi_spec]; decide +kernel

end Mpir.Gcd
