/- The division branch of mpf_set_str's conversion (convDiv): the quotient has exactly prec+1 limbs, plus possibly a
   leading 1.  Then the three branches together: `convert_spec`. -/
import MpirProofs.Lemmas.MpfStrConv
namespace Mpir.MpfStr
open Mpir Mpir.Mpf

/-- shifting the divisor until the top bit of its top limb is set (set_str.c:415-424) -/
theorem normalize_bounds {r : ℕ} (hr : r ≠ 0) :
    64 * limbLen r - 1 - r.log2 ≤ 63 ∧
    r * 2 ^ (64 * limbLen r - 1 - r.log2) < B ^ limbLen r ∧
    B ^ limbLen r ≤ 2 * (r * 2 ^ (64 * limbLen r - 1 - r.log2)) := by
  have hn : limbLen r = r.log2 / 64 + 1 := by unfold limbLen; rw [if_neg hr]
  refine ⟨by omega, ?_, ?_⟩
  · calc r * 2 ^ (64 * limbLen r - 1 - r.log2)
        < 2 ^ (r.log2 + 1) * 2 ^ (64 * limbLen r - 1 - r.log2) :=
          Nat.mul_lt_mul_of_pos_right Nat.lt_log2_self (Nat.two_pow_pos _)
      _ = B ^ limbLen r := by rw [← pow_add, B_pow]; congr 1; omega
  · calc B ^ limbLen r = 2 * (2 ^ r.log2 * 2 ^ (64 * limbLen r - 1 - r.log2)) := by
          rw [B_pow, ← pow_add, ← pow_succ']; congr 1; omega
      _ ≤ 2 * (r * 2 ^ (64 * limbLen r - 1 - r.log2)) :=
          Nat.mul_le_mul_left _ (Nat.mul_le_mul_right _ (Nat.log2_self_le hr))

theorem limbLen_mul_two_pow {m c : ℕ} (hc : c ≤ 63) :
    limbLen m ≤ limbLen (m * 2 ^ c) ∧ limbLen (m * 2 ^ c) ≤ limbLen m + 1 := by
  exact ⟨limbLen_isSize.mono (Nat.le_mul_of_pos_right _ (Nat.two_pow_pos c)),
    (limbLen_isSize.mul_le m (2 ^ c)).trans (Nat.add_le_add_left
      (limbLen_isSize.lt_pow_iff.mp (by rw [pow_one]; exact two_pow_lt_B (by omega))) _)⟩

theorem quot_bounds {m d a c q P : ℕ} (hm1 : B ^ (a - 1) ≤ m) (hm2 : m < B ^ a) (hd1 : d < B ^ c)
    (hd2 : B ^ c ≤ 2 * d) (ha : 1 ≤ a) (hP : 1 ≤ P) (h : a + q = P + c) :
    B ^ (P - 1) ≤ m * B ^ q / d ∧ m * B ^ q / d < 2 * B ^ P := by
  have hd : 0 < d := by have := Bpow_pos c; omega
  constructor
  · rw [Nat.le_div_iff_mul_le hd]
    calc B ^ (P - 1) * d ≤ B ^ (P - 1) * B ^ c := Nat.mul_le_mul_left _ hd1.le
      _ = B ^ (a - 1) * B ^ q := by rw [← pow_add, ← pow_add]; congr 1; omega
      _ ≤ m * B ^ q := Nat.mul_le_mul_right _ hm1
  · rw [Nat.div_lt_iff_lt_mul hd]
    calc m * B ^ q < B ^ a * B ^ q := Nat.mul_lt_mul_of_pos_right hm2 (Bpow_pos q)
      _ = B ^ P * B ^ c := by rw [← pow_add, ← pow_add, h]
      _ ≤ B ^ P * (2 * d) := Nat.mul_le_mul_left _ hd2
      _ = 2 * B ^ P * d := by ring

/-- set_str.c:430-437: of a quotient with `P` limbs and possibly a leading 1 the `P` top limbs are kept -/
theorem topLimbs_quot {Q P : ℕ} (hP : 1 ≤ P) (h1 : B ^ (P - 1) ≤ Q) (h2 : Q < 2 * B ^ P) :
    Q / B ^ P ≤ 1 ∧ (if Q / B ^ P ≠ 0 then Q / B else Q) = Q / B ^ (Q / B ^ P) ∧
    B ^ (P - 1) ≤ Q / B ^ (Q / B ^ P) ∧ Q / B ^ (Q / B ^ P) < B ^ P := by
  have hq : Q / B ^ P ≤ 1 := Nat.lt_succ_iff.mp ((Nat.div_lt_iff_lt_mul (Bpow_pos P)).mpr h2)
  have hBP : B ^ P = B ^ (P - 1) * B := by rw [← pow_succ]; congr 1; omega
  refine ⟨hq, ?_⟩
  rcases Nat.le_one_iff_eq_zero_or_eq_one.mp hq with h | h
  · rw [h, if_neg (by simp), pow_zero, Nat.div_one]
    exact ⟨rfl, h1, (Nat.div_eq_zero_iff_lt (Bpow_pos P)).mp h⟩
  · have hge : B ^ P ≤ Q := (Nat.one_le_div_iff (Bpow_pos P)).mp h.ge
    rw [h, if_pos (by simp), pow_one]
    refine ⟨rfl, ?_, ?_⟩
    · rw [Nat.le_div_iff_mul_le B_pos, ← hBP]; exact hge
    · rw [Nat.div_lt_iff_lt_mul B_pos]
      exact lt_of_lt_of_le h2 (by rw [Nat.mul_comm]; exact Nat.mul_le_mul_left _ B_ge_two)

/-- set_str.c:405-437 on the kept mantissa `m` and the kept power `r`: the `P` quotient limbs kept and the exponent they
    carry (the ignored limb counts of `m` and `r` apart) -/
def divStep (P m r : ℕ) : ℕ × ℤ :=
  let rn := limbLen r
  let pad := rn - limbLen m
  let cnt := 64 * rn - 1 - r.log2
  let mn2 := limbLen (m * B ^ pad * 2 ^ cnt)
  let Q := m * B ^ pad * 2 ^ cnt * B ^ (P - (mn2 - rn)) / (r * 2 ^ cnt)
  let qlimb := Q / B ^ P
  (if qlimb ≠ 0 then Q / B else Q, (qlimb : ℤ) + ((mn2 - rn : ℕ) : ℤ) - (pad : ℤ))

theorem convDiv_eq (prec : ℕ) (neg : Bool) (M b e : ℕ) :
    convDiv prec neg M b e =
      Mpf.mk prec neg ((divStep (prec + 1) (keepTop (prec + 1) M).1 (powHigh b e (prec + 1)).1).2 +
          (((keepTop (prec + 1) M).2 : ℤ) - ((powHigh b e (prec + 1)).2 : ℤ)))
        (toLimbs (prec + 1) (divStep (prec + 1) (keepTop (prec + 1) M).1 (powHigh b e (prec + 1)).1).1) := by
  unfold convDiv divStep
  dsimp only
  congr 1
  ring

/-- two truncation factors: the integer division and the dropped low limb -/
theorem divStep_spec (prec : ℕ) {m r q : ℕ} {x : ℤ} (hm : m ≠ 0) (hr : r ≠ 0) (h1 : limbLen m ≤ prec + 1)
    (h2 : limbLen r ≤ prec + 1) (h : divStep (prec + 1) m r = (q, x)) :
    B ^ prec ≤ q ∧ q < B ^ (prec + 1) ∧
    Appr (epsP (prec + 1)) ((q : ℚ) * (B : ℚ) ^ (x - ((prec + 1 : ℕ) : ℤ))) ((m : ℚ) / (r : ℚ)) 2 ∧
    (1 ≤ prec → ∀ z : ℤ, Fits ((m : ℚ) / (r : ℚ) * (B : ℚ) ^ z) (PREC_TO_BITS prec) →
      (q : ℚ) * (B : ℚ) ^ (x - ((prec + 1 : ℕ) : ℤ)) = (m : ℚ) / (r : ℚ)) := by
  unfold divStep at h
  obtain ⟨rfl, rfl⟩ := Prod.mk.inj h
  obtain ⟨hc63, r2hi, r2half⟩ := normalize_bounds hr
  have hmn := limbLen_isSize.pos hm
  have hrn := limbLen_isSize.pos hr
  have hm1 : m * B ^ (limbLen r - limbLen m) ≠ 0 := Nat.mul_ne_zero hm (Bpow_pos _).ne'
  obtain ⟨l1, l2⟩ := limbLen_mul_two_pow (m := m * B ^ (limbLen r - limbLen m)) hc63
  rw [limbLen_mul_Bpow hm] at l1 l2
  obtain ⟨m2a, m2b⟩ := limbLen_spec (Nat.mul_ne_zero hm1 (Nat.two_pow_pos (64 * limbLen r - 1 - r.log2)).ne')
  -- opaque from here on: tactics must not evaluate them
  generalize 64 * limbLen r - 1 - r.log2 = cnt at *
  generalize hpad : limbLen r - limbLen m = pad at *
  generalize limbLen (m * B ^ pad * 2 ^ cnt) = mn2 at *
  have hsum : (mn2 - limbLen r) + (prec + 1 - (mn2 - limbLen r)) = prec + 1 := by omega
  generalize prec + 1 - (mn2 - limbLen r) = qxn at *
  obtain ⟨c3, c4⟩ := quot_bounds (q := qxn) (P := prec + 1) m2a m2b r2hi r2half (by omega) (by omega) (by omega)
  have hr2 : 0 < r * 2 ^ cnt := Nat.mul_pos (Nat.pos_of_ne_zero hr) (Nat.two_pow_pos cnt)
  have hX : ((m * B ^ pad * 2 ^ cnt * B ^ qxn : ℕ) : ℚ) / ((r * 2 ^ cnt : ℕ) : ℚ) =
      (m : ℚ) / (r : ℚ) * (B : ℚ) ^ (pad + qxn) := by
    push_cast
    rw [mul_right_comm _ _ ((B : ℚ) ^ qxn), mul_div_mul_right _ _ (pow_ne_zero cnt two_ne_zero), mul_assoc, ← pow_add,
      mul_div_right_comm]
  have aQ := appr_natDiv (prec + 1) (m * B ^ pad * 2 ^ cnt * B ^ qxn) hr2 c3
  rw [hX] at aQ
  generalize hQ : m * B ^ pad * 2 ^ cnt * B ^ qxn / (r * 2 ^ cnt) = Q at *
  obtain ⟨hql, hQ2, q1, q2⟩ := topLimbs_quot (P := prec + 1) (by omega) c3 c4
  rw [hQ2]
  generalize hqlimb : Q / B ^ (prec + 1) = qlimb at *
  have h0 := epsP_nonneg (prec + 1)
  have h1' := epsP_le_one (prec + 1)
  have f1 := Nat.div_mul_le_self Q (B ^ qlimb)
  have f2 := lt_succ_div_mul Q (Bpow_pos qlimb)
  have aQ2 := appr_of_nat (prec + 1) f1 f2 (Or.inr q1)
  have tr := Appr.trans h1' aQ2 aQ
  have hz : (B : ℚ) ^ ((qlimb : ℤ) + ((mn2 - limbLen r : ℕ) : ℤ) - (pad : ℤ) - ((prec + 1 : ℕ) : ℤ)) =
      (B : ℚ) ^ qlimb / (B : ℚ) ^ (pad + qxn) := by
    rw [show (qlimb : ℤ) + ((mn2 - limbLen r : ℕ) : ℤ) - (pad : ℤ) - ((prec + 1 : ℕ) : ℤ) =
      (qlimb : ℤ) - ((pad + qxn : ℕ) : ℤ) by omega, zpow_sub₀ Bq_ne, zpow_natCast, zpow_natCast]
  have hBk : (B : ℚ) ^ (pad + qxn) ≠ 0 := pow_ne_zero _ Bq_ne
  rw [hz, ← mul_div_assoc]
  refine ⟨q1, q2, ?_, ?_⟩
  · have := Appr.mul_const tr (c := 1 / (B : ℚ) ^ (pad + qxn)) (one_div_pos.mpr (pow_pos Bq_pos _)).le
    rwa [mul_one_div, mul_one_div, mul_div_cancel_right₀ _ hBk] at this
  · -- exactness: both cuts (the integer division, the dropped low limb) are `Cut`s of a value that fits
    intro hp z fv
    have hsh : (m : ℚ) / (r : ℚ) * (B : ℚ) ^ (pad + qxn) * (B : ℚ) ^ (z - ((pad + qxn : ℕ) : ℤ)) =
        (m : ℚ) / (r : ℚ) * (B : ℚ) ^ z := by
      rw [mul_assoc, ← zpow_natCast, ← zpow_add₀ Bq_ne, add_sub_cancel]
    have hW := (Bz_pos (z - ((pad + qxn : ℕ) : ℤ))).ne'
    have hQX : (Q : ℚ) = (m : ℚ) / (r : ℚ) * (B : ℚ) ^ (pad + qxn) := by
      have := ((Cut.of_floor (prec := prec + 1) (z - ((pad + qxn : ℕ) : ℤ)) (q := Q)
        (x := ((m * B ^ pad * 2 ^ cnt * B ^ qxn : ℕ) : ℚ) / ((r * 2 ^ cnt : ℕ) : ℚ))
        (by rw [← hQ]; exact natDiv_cast_le _ hr2) (by rw [← hQ]; exact natDiv_cast_lt _ hr2) c3
        (Nat.succ_pos prec)).mono (Nat.le_succ prec)).exact hp (by rw [hX, hsh]; exact fv)
      rw [hX] at this
      exact mul_right_cancel₀ hW this
    have := (Cut.of_nat hp (z - ((pad + qxn : ℕ) : ℤ)) f1 f2 (Or.inr (le_trans (Nat.pow_le_pow_right B_pos (Nat.pred_le prec)) q1))).exact hp
      (by rw [hQX, hsh]; exact fv)
    have : ((Q / B ^ qlimb : ℕ) : ℚ) * (B : ℚ) ^ qlimb = (Q : ℚ) := by exact_mod_cast mul_right_cancel₀ hW this
    rw [this, hQX, mul_div_cancel_right₀ _ hBk]

theorem convDiv_spec (prec : ℕ) (neg : Bool) (M b e : ℕ) (hM : M ≠ 0) (hb : 1 ≤ b) (he : 1 ≤ e) :
    WF (convDiv prec neg M b e) ∧
    ∃ R : ℚ, toQ (convDiv prec neg M b e) = sgn neg * R ∧
      (M : ℚ) / (b : ℚ) ^ e * (1 - epsP (prec + 1)) ^ 3 ≤ R ∧
      R * (1 - epsP (prec + 1)) ^ e ≤ (M : ℚ) / (b : ℚ) ^ e ∧
      (1 ≤ prec → Fits (M : ℚ) (PREC_TO_BITS prec) → Fits ((b ^ e : ℕ) : ℚ) (PREC_TO_BITS prec) →
        Fits ((M : ℚ) / (b : ℚ) ^ e) (PREC_TO_BITS prec) → R = (M : ℚ) / (b : ℚ) ^ e) := by
  have hP : 1 ≤ prec + 1 := by omega
  have h0 := epsP_nonneg (prec + 1)
  have h1 := epsP_le_one (prec + 1)
  have m3 := limbLen_keepTop_fst (prec + 1) hP hM
  have m4 := keepTop_fst_ne (prec + 1) hP hM
  have am := appr_keepTop (prec + 1) hP hM
  have xm := fun hp => keepTop_exact prec hp hM
  obtain ⟨r1, r2, ar⟩ := powHigh_appr b (prec + 1) e hb hP he
  have xp := fun hp => powHigh_exact_of_fits b prec e hp hb he
  rw [convDiv_eq]
  -- opaque from here on: tactics must not evaluate them
  generalize keepTop (prec + 1) M = km at *
  generalize powHigh b e (prec + 1) = pw at *
  generalize hds : divStep (prec + 1) km.1 pw.1 = ds
  obtain ⟨q1, q2, aq, xq⟩ := divStep_spec prec m4 r1 (m3 ▸ min_le_right _ _) r2 (ds.eta ▸ hds)
  have hpw : (0 : ℚ) < (pw.1 : ℚ) * (B : ℚ) ^ pw.2 :=
    mul_pos (by exact_mod_cast Nat.pos_of_ne_zero r1) (pow_pos Bq_pos _)
  -- Y = (m B^dm) / (r B^ir), the quotient of the two kept parts in place
  have hY : (km.1 : ℚ) / (pw.1 : ℚ) * (B : ℚ) ^ ((km.2 : ℤ) - (pw.2 : ℤ)) =
      (km.1 : ℚ) * (B : ℚ) ^ km.2 / ((pw.1 : ℚ) * (B : ℚ) ^ pw.2) := by
    rw [zpow_sub₀ Bq_ne, zpow_natCast, zpow_natCast, mul_div_mul_comm]
  have a3 := Appr.mul_const aq (zpow_pos Bq_pos ((km.2 : ℤ) - (pw.2 : ℤ))).le
  rw [hY] at a3
  obtain ⟨dlo, dhi⟩ := Appr.div h1 (Nat.cast_nonneg M) hpw am ar
  refine ⟨WF_mkNat prec neg _ _ _ hP le_rfl q1 q2,
    (ds.1 : ℚ) * (B : ℚ) ^ (ds.2 - ((prec + 1 : ℕ) : ℤ)) * (B : ℚ) ^ ((km.2 : ℤ) - (pw.2 : ℤ)), ?_, ?_, ?_, ?_⟩
  · rw [toQ_mkNat _ _ _ _ _ q2, add_sub_right_comm, zpow_add₀ Bq_ne]; ring
  · -- M/b^e (1-ε)^3 ≤ Y (1-ε)^2 ≤ R
    calc (M : ℚ) / (b : ℚ) ^ e * (1 - epsP (prec + 1)) ^ 3
        = (M : ℚ) / (b : ℚ) ^ e * (1 - epsP (prec + 1)) ^ 1 * (1 - epsP (prec + 1)) ^ 2 := by ring
      _ ≤ (km.1 : ℚ) * (B : ℚ) ^ km.2 / ((pw.1 : ℚ) * (B : ℚ) ^ pw.2) * (1 - epsP (prec + 1)) ^ 2 :=
          mul_le_mul_of_nonneg_right dlo (one_sub_pow_nonneg h1 2)
      _ ≤ _ := a3.1
  · -- R (1-ε)^e ≤ Y (1-ε)^e ≤ M / b^e
    exact le_trans (mul_le_mul_of_nonneg_right a3.2 (one_sub_pow_nonneg h1 e)) dhi
  · -- exactness: nothing but zero limbs is dropped from mantissa and power
    intro hp fM fb fv
    have hYe : (km.1 : ℚ) * (B : ℚ) ^ km.2 / ((pw.1 : ℚ) * (B : ℚ) ^ pw.2) = (M : ℚ) / (b : ℚ) ^ e := by
      have e1 : (km.1 : ℚ) * (B : ℚ) ^ km.2 = (M : ℚ) := by exact_mod_cast xm hp fM
      have e2 : (pw.1 : ℚ) * (B : ℚ) ^ pw.2 = (b : ℚ) ^ e := by exact_mod_cast xp hp fb
      rw [e1, e2]
    rw [xq hp _ (by rw [hY, hYe]; exact fv), hY, hYe]

/-- The three branches at once: the result is `±R` where the value denoted is `±V`; the bound needs the exponent of the
    base to fit the C `long` it is held in. -/
theorem convert_spec (prec : ℕ) (p : Parsed) (hb : 1 ≤ p.base) (hM : p.mant ≠ 0) :
    WF (convert prec p) ∧ ∃ R V : ℚ, 0 < V ∧ toQ (convert prec p) = sgn p.neg * R ∧ p.value = sgn p.neg * V ∧
      (1 ≤ prec → p.scale.natAbs < 2 ^ 63 → |R - V| < eps prec * V) ∧
      (1 ≤ prec → Fits (p.mant : ℚ) (PREC_TO_BITS prec) → Fits ((p.base ^ p.scale.natAbs : ℕ) : ℚ) (PREC_TO_BITS prec) →
        Fits V (PREC_TO_BITS prec) → R = V) := by
  have hMq : (0 : ℚ) < (p.mant : ℚ) := by exact_mod_cast Nat.pos_of_ne_zero hM
  have hbq : (0 : ℚ) < (p.base : ℚ) := by exact_mod_cast hb
  unfold convert Parsed.value
  rw [if_neg hM]
  by_cases h0 : p.scale.natAbs = 0
  · rw [if_pos h0, Int.natAbs_eq_zero.mp h0, zpow_zero, mul_one]
    obtain ⟨wf, R, hR, ap, _, ex⟩ := convInt_spec prec p.neg p.mant hM
    exact ⟨wf, R, p.mant, hMq, hR, rfl,
      fun hp _ => err_of_appr prec hp hMq ap (by have := B_pos; omega), fun hp fM _ _ => ex hp fM⟩
  · rw [if_neg h0]
    have he1 : 1 ≤ p.scale.natAbs := by omega
    by_cases hneg : p.scale < 0
    · rw [if_pos hneg]
      obtain ⟨wf, R, hR, lo, hi, ex⟩ := convDiv_spec prec p.neg p.mant p.base p.scale.natAbs hM hb he1
      have hV := div_pos hMq (pow_pos hbq p.scale.natAbs)
      refine ⟨wf, R, _, hV, hR, ?_, fun hp he => err_of_two_sided prec hp hV lo hi he, ex⟩
      rw [show p.scale = -(p.scale.natAbs : ℤ) by omega, zpow_neg, zpow_natCast, Int.natAbs_neg, Int.natAbs_natCast,
        mul_assoc, ← div_eq_mul_inv]
    · rw [if_neg hneg]
      obtain ⟨wf, R, hR, ap, ex⟩ := convMul_spec prec p.neg p.mant p.base p.scale.natAbs hM hb he1
      have hV := mul_pos hMq (pow_pos hbq p.scale.natAbs)
      refine ⟨wf, R, _, hV, hR, ?_, fun hp he => err_of_appr prec hp hV ap (by rw [B_eq]; omega),
        ex⟩
      rw [show p.scale = (p.scale.natAbs : ℤ) by omega, zpow_natCast, Int.natAbs_natCast, mul_assoc]

theorem convert_exact (prec : ℕ) (hp : 1 ≤ prec) (p : Parsed) (hb : 1 ≤ p.base) (hM : p.mant ≠ 0)
    (fM : Fits (p.mant : ℚ) (PREC_TO_BITS prec))
    (fb : Fits (((p.base ^ p.scale.natAbs : ℕ) : ℚ)) (PREC_TO_BITS prec))
    (fv : Fits p.value (PREC_TO_BITS prec)) :
    toQ (convert prec p) = p.value := by
  obtain ⟨_, R, V, _, hR, hval, _, hex⟩ := convert_spec prec p hb hM
  rw [hval] at fv ⊢
  rw [hR, hex hp fM fb (fits_sg (sgn_cases p.neg) fv)]

end Mpir.MpfStr
