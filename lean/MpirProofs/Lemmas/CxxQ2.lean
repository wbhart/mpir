/- C20: the expression-template strategy equals evaluation into temporaries, for mpz-typed trees and then for mpq destinations. -/

import MpirProofs.Lemmas.CxxQ

section
namespace Mpir.Cxx

/-! ### mpz-typed trees into an mpz destination -/

theorem wt_bin_z {o : Bin} {a b : E} (hty : (E.bin o a b).ty = .z) (hwt : (E.bin o a b).wt = true) :
    a.ty = .z ∧ b.ty = .z ∧ a.wt = true ∧ b.wt = true := by
  simp only [E.ty] at hty
  have h2 : a.ty = .z ∧ b.ty = .z := by
    by_cases hc : a.ty = .z ∧ b.ty = .z
    · exact hc
    · simp [hc] at hty
  simp only [E.wt, Bool.and_eq_true] at hwt
  exact ⟨h2.1, h2.2, hwt.1.1, hwt.1.2⟩

/-- one operand that is a leaf (handed over as it is) or a sub-expression (evaluated into `p`, then `fn p`):
    the shape of the `un`, `binL`, `binR`, `sh` clauses of `evalZ` -/
theorem evalZ_operand (cst : Bool) {k : Nat} {p : ZLoc} {h : Heap} {a : E}
    (fn : ZLoc → M) (g : Int → Option Int)
    (hfn : ∀ w h1, fn w h1 = (g (h1 w)).map fun r => h1.set p r)
    (ih : Post k p h (evalTmpZ h.get a) (evalZ cst k p a h)) :
    Post k p h ((evalTmpZ h.get a).bind g)
      ((match a.zleaf? with | some i => fn i | none => fun h => (evalZ cst k p a h).bind (fn p)) h) := by
  cases hl : a.zleaf? with
  | some i => rw [zleaf?_eval hl]; simp only [Option.bind_some, hfn]; exact Post.of_set
  | none =>
    refine ih.bind fun x h1 hx hfr => ?_
    rw [hfn, hx]; exact Post.set_of_frame hfr _

/-- The template strategy is evaluation into temporaries (mpz-typed trees), for every destination `p` that exists before the
    evaluation, in particular one that occurs in `e`. -/
theorem evalZ_correct (cst : Bool) : ∀ (e : E), e.ty = .z → e.wt = true →
    ∀ (k : Nat) (p : ZLoc) (h : Heap), p.below k → e.zbelow k →
      Post k p h (evalTmpZ h.get e) (evalZ cst k p e h) := by
  intro e
  induction e with
  | zv i =>
    intro _ _ k p h _ _
    simp only [evalZ, evalTmpZ, mpz_set]
    exact Post.of_set (r := some (h (.v i)))
  | qv i => intro hty; simp [E.ty] at hty
  | zn i =>
    intro _ _ k p h _ _
    simp only [evalZ, evalTmpZ, mpz_set]
    exact Post.of_set (r := some (h (.num i)))
  | zd i =>
    intro _ _ k p h _ _
    simp only [evalZ, evalTmpZ, mpz_set]
    exact Post.of_set (r := some (h (.den i)))
  | un o a ih =>
    intro hty hwt k p h hp hb
    simp only [E.wt, Bool.and_eq_true] at hwt
    simp only [evalZ, evalTmpZ]
    exact evalZ_operand cst (fnUnZ o p) (unZ o) (fun w h1 => fnUnZ_spec o p w h1) (ih hty hwt.1 k p h hp hb)
  | bin o a b iha ihb =>
    intro hty hwt k p h hp hb
    obtain ⟨hta, htb, hwa, hwb⟩ := wt_bin_z hty hwt
    have hk : (ZLoc.v k).below (k + 1) := Nat.lt_succ_self k
    -- what survives an evaluation into the fresh temporary `.v k`
    have keep : ∀ {h1 : Heap}, (∀ l : ZLoc, l.below (k + 1) → l ≠ .v k → h1 l = h l) →
        ∀ l : ZLoc, l.below k → h1 l = h l :=
      fun hfr l hl => hfr l (ZLoc.below_mono (Nat.le_succ k) hl) (ZLoc.ne_of_below hl)
    simp only [evalZ, evalTmpZ]
    cases hla : a.zleaf? with
    | some i =>
      have hbi : i.below k := zleaf?_below hla hb.1
      rw [zleaf?_eval hla]
      cases hlb : b.zleaf? with
      | some j =>
        rw [zleaf?_eval hlb]
        simp only [Option.bind_some, fnBinZ_ll]
        exact Post.of_set
      | none =>
        simp only [Option.bind_some]
        by_cases hpi : p ≠ i
        · rw [if_pos hpi]
          refine (ihb htb hwb k p h hp hb.2).bind fun y h1 hy hfr => ?_
          rw [fnBinZ_ll, hy, hfr i hbi (Ne.symm hpi)]
          exact Post.set_of_frame hfr _
        · rw [if_neg hpi]
          refine (ihb htb hwb (k + 1) (.v k) h hk (E.zbelow_mono (Nat.le_succ k) _ hb.2)).bind fun y h1 hy hfr => ?_
          rw [fnBinZ_ll, hy, keep hfr i hbi]
          exact Post.set_of_frame (fun l hl _ => keep hfr l hl) _
    | none =>
      cases hlb : b.zleaf? with
      | some j =>
        have hbj : j.below k := zleaf?_below hlb hb.2
        rw [zleaf?_eval hlb]
        simp only [Option.bind_some]
        by_cases hpj : p ≠ j
        · rw [if_pos hpj]
          refine (iha hta hwa k p h hp hb.1).bind fun x h1 hx hfr => ?_
          rw [fnBinZ_ll, hx, hfr j hbj (Ne.symm hpj)]
          exact Post.set_of_frame hfr _
        · rw [if_neg hpj]
          refine (iha hta hwa (k + 1) (.v k) h hk (E.zbelow_mono (Nat.le_succ k) _ hb.1)).bind fun x h1 hx hfr => ?_
          rw [fnBinZ_ll, hx, keep hfr j hbj]
          exact Post.set_of_frame (fun l hl _ => keep hfr l hl) _
      | none =>
        -- temp2 := b ; a.eval(p) ; Op::eval(p, p, temp2): the operands are evaluated right to left
        rw [Option.bind_comm]
        refine (ihb htb hwb (k + 1) (.v k) h hk (E.zbelow_mono (Nat.le_succ k) _ hb.2)).bind fun y h1 hy hfr1 => ?_
        have IHa := iha hta hwa (k + 1) p h1 (ZLoc.below_mono (Nat.le_succ k) hp) (E.zbelow_mono (Nat.le_succ k) _ hb.1)
        rw [evalTmpZ_frame (keep hfr1) a hb.1] at IHa
        refine IHa.bind fun x h2 hx hfr2 => ?_
        rw [fnBinZ_ll, hx, hfr2 (.v k) hk (Ne.symm (ZLoc.ne_of_below hp)), hy]
        exact Post.set_of_frame
          (fun l hl hne => (hfr2 l (ZLoc.below_mono (Nat.le_succ k) hl) hne).trans (keep hfr1 l hl)) _
  | binL o c b ih =>
    intro hty hwt k p h hp hb
    simp only [E.wt, Bool.and_eq_true] at hwt
    simp only [evalZ, evalTmpZ]
    exact evalZ_operand cst (fun w => fnBinZ cst o p (.bi c) (.loc w)) _ (fun w h1 => fnBinZ_bl cst o p c w h1 hwt.1.1)
      (ih hty hwt.1.2 k p h hp hb)
  | binR o a c ih =>
    intro hty hwt k p h hp hb
    simp only [E.wt, Bool.and_eq_true] at hwt
    simp only [evalZ, evalTmpZ]
    exact evalZ_operand cst (fun w => fnBinZ cst o p (.loc w) (.bi c)) _ (fun w h1 => fnBinZ_lb cst o p w c h1 hwt.1.1)
      (ih hty hwt.1.2 k p h hp hb)
  | sh o a n ih =>
    intro hty hwt k p h hp hb
    simp only [E.wt, Bool.and_eq_true] at hwt
    simp only [evalZ, evalTmpZ, Option.map_eq_bind]
    exact evalZ_operand cst (fun w => fnShZ cst o p w n) (fun x => some (shZ o n x)) (fun w h1 => fnShZ_spec cst o p w n h1)
      (ih hty hwt.1 k p h hp hb)

/-- `const& temp(expr)`: the bound object holds the value of the operand; nothing that existed before changes -/
theorem bindZ_correct (cst : Bool) (e : E) (hty : e.ty = .z) (hwt : e.wt = true) (k : Nat) (h : Heap) (hb : e.zbelow k) :
    match evalTmpZ h.get e with
    | none => bindZ cst k e h = none
    | some x => ∃ l h', bindZ cst k e h = some (l, h') ∧ h' l = x ∧ l.below (k + 1) ∧ ∀ l' : ZLoc, l'.below k → h' l' = h l' := by
  unfold bindZ
  cases hl : e.zleaf? with
  | some l =>
    rw [zleaf?_eval hl]
    exact ⟨l, h, rfl, rfl, ZLoc.below_mono (by omega) (zleaf?_below hl hb), fun _ _ => rfl⟩
  | none =>
    simp only []
    have H := evalZ_correct cst e hty hwt (k + 1) (.v k) h (by simp [ZLoc.below]) (E.zbelow_mono (by omega) _ hb)
    cases hr : evalTmpZ h.get e with
    | none => rw [hr] at H; simp only [Post] at H; simp [H]
    | some x =>
      rw [hr] at H
      obtain ⟨h', e1, hx, hfr⟩ := H
      exact ⟨.v k, h', by simp [e1], hx, by simp [ZLoc.below], fun l' hl' => hfr l' (ZLoc.below_mono (by omega) hl') (ZLoc.ne_of_below hl')⟩

end Mpir.Cxx
end

section
namespace Mpir.Cxx

/-! ### the value of a tree as a rational, clause by clause -/

def evalTmpR (env : Env) (e : E) : Option Rat := (evalTmp env e).map Val.toQ
def shQ (o : Sh) (n : Nat) (x : Rat) : Rat := match o with | .shl => qshl x n | .shr => qshr x n

theorem unV_ty {o : Un} {x v : Val} (h : unV o x = some v) : v.ty = x.ty := by
  cases x <;> simp only [unV, Option.map_eq_some_iff] at h <;> obtain ⟨_, _, rfl⟩ := h <;> rfl

theorem binV_ty {o : Bin} {x y v : Val} (h : binV o x y = some v) :
    v.ty = if x.ty = .z ∧ y.ty = .z then .z else .q := by
  cases x <;> cases y <;> simp only [binV, Option.map_eq_some_iff] at h <;> obtain ⟨_, _, rfl⟩ := h <;> rfl

theorem biVal_ty {t : Ty} {c : Bi} {x : Val} (h : biVal t c = some x) : x.ty = t := by
  cases c <;> cases t <;> simp only [biVal, Option.some.injEq, Option.map_eq_some_iff] at h
  case d.z | d.q => obtain ⟨_, _, rfl⟩ := h; rfl
  all_goals subst h; rfl

theorem shV_ty (o : Sh) (n : Nat) (x : Val) : (shV o n x).ty = x.ty := by cases x <;> rfl

theorem evalTmp_ty (env : Env) : ∀ (e : E) (v : Val), evalTmp env e = some v → v.ty = e.ty := by
  intro e
  induction e with
  | zv i | qv i | zn i | zd i => intro v h; cases h; rfl
  | un o a ih =>
    intro v h
    simp only [evalTmp, Option.bind_eq_some_iff] at h
    obtain ⟨x, hx, hv⟩ := h
    exact (unV_ty hv).trans (ih x hx)
  | bin o a b iha ihb =>
    intro v h
    simp only [evalTmp, Option.bind_eq_some_iff] at h
    obtain ⟨x, hx, y, hy, hv⟩ := h
    rw [binV_ty hv, iha x hx, ihb y hy]; rfl
  | binL o c b ih =>
    intro v h
    simp only [evalTmp, Option.bind_eq_some_iff] at h
    obtain ⟨y, hy, x, hx, hv⟩ := h
    rw [binV_ty hv, biVal_ty hx, ih y hy]
    show _ = b.ty
    cases b.ty <;> rfl
  | binR o a c ih =>
    intro v h
    simp only [evalTmp, Option.bind_eq_some_iff] at h
    obtain ⟨x, hx, y, hy, hv⟩ := h
    rw [binV_ty hv, biVal_ty hy, ih x hx]
    show _ = a.ty
    cases a.ty <;> rfl
  | sh o a n ih =>
    intro v h
    simp only [evalTmp, Option.map_eq_some_iff] at h
    obtain ⟨x, hx, rfl⟩ := h
    exact (shV_ty o n x).trans (ih x hx)

theorem val_of_ty_q {v : Val} (h : v.ty = .q) : ∃ r, v = .q r := by
  cases v <;> simp [Val.ty] at h; exact ⟨_, rfl⟩
theorem val_of_ty_z {v : Val} (h : v.ty = .z) : ∃ x, v = .z x := by
  cases v <;> simp [Val.ty] at h; exact ⟨_, rfl⟩

theorem biVal_q (c : Bi) : biVal .q c = (biRat c).map Val.q := by
  cases c <;> simp [biVal, biRat, Option.map_map, Function.comp_def]

theorem evalTmpR_z (h : Heap) (e : E) (hty : e.ty = .z) (hc : e.canon h) :
    evalTmpR h.abs e = (evalTmpZ h.get e).map fun x => ((x : Int) : Rat) := by
  unfold evalTmpR; rw [evalTmp_z h e hty hc, Option.map_map]; rfl

theorem evalTmpR_un (env : Env) (o : Un) (a : E) (hty : a.ty = .q) :
    evalTmpR env (.un o a) = (evalTmpR env a).bind (unQ o) := by
  unfold evalTmpR; simp only [evalTmp]
  cases ha : evalTmp env a with
  | none => rfl
  | some v =>
    obtain ⟨r, rfl⟩ := val_of_ty_q ((evalTmp_ty env a v ha).trans hty)
    simp only [Option.bind_some, unV, Option.map_some, Val.toQ, Option.map_map]
    cases unQ o r <;> rfl

theorem evalTmpR_sh (env : Env) (o : Sh) (a : E) (n : Nat) (hty : a.ty = .q) :
    evalTmpR env (.sh o a n) = (evalTmpR env a).map (shQ o n) := by
  unfold evalTmpR; simp only [evalTmp]
  cases ha : evalTmp env a with
  | none => rfl
  | some v =>
    obtain ⟨r, rfl⟩ := val_of_ty_q ((evalTmp_ty env a v ha).trans hty)
    simp only [Option.map_some, shV, Val.toQ, shQ]
    cases o <;> rfl

theorem binV_q {o : Bin} {x y : Val} (h : ¬(x.ty = .z ∧ y.ty = .z)) :
    (binV o x y).map Val.toQ = binQ o x.toQ y.toQ := by
  cases x <;> cases y <;> simp [Val.ty] at h <;> simp only [binV, Option.map_map] <;> cases binQ o _ _ <;> rfl

theorem evalTmpR_bin (env : Env) (o : Bin) (a b : E) (hty : ¬(a.ty = .z ∧ b.ty = .z)) :
    evalTmpR env (.bin o a b) = (evalTmpR env a).bind fun x => (evalTmpR env b).bind fun y => binQ o x y := by
  unfold evalTmpR; simp only [evalTmp]
  cases ha : evalTmp env a with
  | none => rfl
  | some va =>
    cases hb : evalTmp env b with
    | none => rfl
    | some vb =>
      simp only [Option.bind_some, Option.map_some]
      apply binV_q
      rw [evalTmp_ty env a va ha, evalTmp_ty env b vb hb]; exact hty

theorem evalTmpR_binL (env : Env) (o : Bin) (c : Bi) (b : E) (hty : b.ty = .q) :
    evalTmpR env (.binL o c b) = (evalTmpR env b).bind fun y => (biRat c).bind fun x => binQ o x y := by
  unfold evalTmpR; simp only [evalTmp]
  cases hb : evalTmp env b with
  | none => rfl
  | some vb =>
    obtain ⟨r, rfl⟩ := val_of_ty_q ((evalTmp_ty env b vb hb).trans hty)
    simp only [Option.bind_some, Option.map_some, Val.ty, biVal_q, Val.toQ]
    cases biRat c with
    | none => rfl
    | some x => simp only [Option.map_some, Option.bind_some]; exact binV_q (by simp [Val.ty])

theorem evalTmpR_binR (env : Env) (o : Bin) (a : E) (c : Bi) (hty : a.ty = .q) :
    evalTmpR env (.binR o a c) = (evalTmpR env a).bind fun x => (biRat c).bind fun y => binQ o x y := by
  unfold evalTmpR; simp only [evalTmp]
  cases ha : evalTmp env a with
  | none => rfl
  | some va =>
    obtain ⟨r, rfl⟩ := val_of_ty_q ((evalTmp_ty env a va ha).trans hty)
    simp only [Option.bind_some, Option.map_some, Val.ty, biVal_q, Val.toQ]
    cases biRat c with
    | none => rfl
    | some x => simp only [Option.map_some, Option.bind_some]; exact binV_q (by simp [Val.ty])

/-! ### objects below `k`, heaps that agree on them -/

def E.qbelow (k : Nat) : E → Prop
  | .zv _ => True
  | .qv i => i < k
  | .zn i => i < k
  | .zd i => i < k
  | .un _ a => a.qbelow k
  | .bin _ a b => a.qbelow k ∧ b.qbelow k
  | .binL _ _ b => b.qbelow k
  | .binR _ a _ => a.qbelow k
  | .sh _ a _ => a.qbelow k

theorem E.qbelow_mono {k k' : Nat} (hk : k ≤ k') : ∀ (e : E), e.qbelow k → e.qbelow k' := by
  intro e
  induction e with
  | zv i => intro _; trivial
  | qv i => intro h; simp only [E.qbelow] at *; omega
  | zn i => intro h; simp only [E.qbelow] at *; omega
  | zd i => intro h; simp only [E.qbelow] at *; omega
  | un o a ih => exact ih
  | bin o a b iha ihb => intro h; exact ⟨iha h.1, ihb h.2⟩
  | binL o c b ih => exact ih
  | binR o a c ih => exact ih
  | sh o a n ih => exact ih

/-- objects (of either pool) with index below `k` -/
def ZLoc.belowQ (k : Nat) : ZLoc → Prop
  | .v i => i < k
  | .num i => i < k
  | .den i => i < k

theorem ZLoc.belowQ_mono {k k' : Nat} (hk : k ≤ k') {l : ZLoc} (h : l.belowQ k) : l.belowQ k' := by
  cases l <;> simp only [ZLoc.belowQ] at * <;> omega

theorem ZLoc.below_of_belowQ {k : Nat} {l : ZLoc} (h : l.belowQ k) : l.below k := by
  cases l <;> simp only [ZLoc.belowQ, ZLoc.below] at * <;> trivial

/-- two heaps agree on everything below `k` -/
def AgreeBelow (k : Nat) (h h' : Heap) : Prop := ∀ l : ZLoc, l.belowQ k → h' l = h l

theorem evalTmp_agree {k : Nat} {h h' : Heap} (hag : AgreeBelow k h h') :
    ∀ (e : E), e.zbelow k → e.qbelow k → evalTmp h'.abs e = evalTmp h.abs e := by
  intro e
  induction e with
  | zv i => intro hz _; simp only [evalTmp, Heap.abs]; rw [hag (.v i) hz]
  | qv i =>
    intro _ hq; simp only [evalTmp, Heap.abs, qval]
    rw [hag (.num i) hq, hag (.den i) hq]
  | zn i =>
    intro _ hq; simp only [evalTmp, Heap.abs, qval]
    rw [hag (.num i) hq, hag (.den i) hq]
  | zd i =>
    intro _ hq; simp only [evalTmp, Heap.abs, qval]
    rw [hag (.num i) hq, hag (.den i) hq]
  | un o a ih => intro hz hq; simp only [evalTmp, ih hz hq]
  | bin o a b iha ihb => intro hz hq; simp only [evalTmp, iha hz.1 hq.1, ihb hz.2 hq.2]
  | binL o c b ih => intro hz hq; simp only [evalTmp, ih hz hq]
  | binR o a c ih => intro hz hq; simp only [evalTmp, ih hz hq]
  | sh o a n ih => intro hz hq; simp only [evalTmp, ih hz hq]

theorem canon_agree {k : Nat} {h h' : Heap} (hag : AgreeBelow k h h') :
    ∀ (e : E), e.qbelow k → e.canon h → e.canon h' := by
  intro e
  induction e with
  | zv i => intro _ _; trivial
  | qv i =>
    intro hq hc; simp only [E.canon, Canon] at *
    rw [hag (.num i) hq, hag (.den i) hq]; exact hc
  | zn i =>
    intro hq hc; simp only [E.canon, Canon] at *
    rw [hag (.num i) hq, hag (.den i) hq]; exact hc
  | zd i =>
    intro hq hc; simp only [E.canon, Canon] at *
    rw [hag (.num i) hq, hag (.den i) hq]; exact hc
  | un o a ih => exact ih
  | bin o a b iha ihb => intro hq hc; exact ⟨iha hq.1 hc.1, ihb hq.2 hc.2⟩
  | binL o c b ih => exact ih
  | binR o a c ih => exact ih
  | sh o a n ih => exact ih

/-! ### the contract of a step into an mpq destination; mpz-typed trees into it -/

/-- `res` is defined exactly when `r` is; then object `p` is canonical with value `r` and every other object below `k`
    is unchanged (the mpq analogue of `Post`) -/
def PostQ (k p : Nat) (h : Heap) (r : Option Rat) (res : Option Heap) : Prop :=
  match r with
  | none => res = none
  | some x => ∃ h', res = some h' ∧ Canon h' p ∧ qval h' p = x ∧
      ∀ l : ZLoc, l.belowQ k → l ≠ .num p → l ≠ .den p → h' l = h l

theorem PostQ.of_setQ {k p : Nat} {h : Heap} {r : Option Rat} :
    PostQ k p h r (r.map fun x => h.setQ p x) := by
  cases r with
  | none => rfl
  | some x => exact ⟨_, rfl, Canon_setQ h p x, qval_setQ h p x, fun l _ h1 h2 => setQ_get_ne h p x l h1 h2⟩

theorem mpq_set_eq {h : Heap} {r : Nat} (p : Nat) (hc : Canon h r) : mpq_set p r h = h.setQ p (qval h r) := by
  have := copyQ_eq p hc
  unfold copyQ at this
  by_cases hpr : p = r
  · subst hpr
    unfold mpq_set
    rw [Heap.set_self, Heap.set_self, setQ_self hc]
  · simpa [hpr] using this

theorem qleaf?_some {a : E} {i : Nat} (h : a.qleaf? = some i) : a = .qv i := by
  cases a <;> simp [E.qleaf?] at h; subst h; rfl

theorem fnUnQ_spec (o : Un) (p r : Nat) (h : Heap) (hc : Canon h r) :
    fnUnQ o p r h = (unQ o (qval h r)).map (fun x => h.setQ p x) := by
  cases o <;> simp [fnUnQ, unQ, mpq_set_eq p hc, mpq_neg_eq p hc, mpq_abs_eq p hc]

theorem fnShQ_spec (cst : Bool) (o : Sh) (p r n : Nat) (h : Heap) (hc : Canon h r) :
    fnShQ cst o p r n h = some (h.setQ p (shQ o n (qval h r))) := by
  cases o <;> simp [fnShQ, shQ, Lshift.q_spec _ _ _ _ _ hc, Rshift.q_spec _ _ _ _ _ hc]

/-- numerator holds the value, denominator is 1, every other pre-existing object (all mpq fields included) is unchanged -/
def PostN (k p : Nat) (h : Heap) (r : Option Int) (res : Option Heap) : Prop :=
  match r with
  | none => res = none
  | some x => ∃ h', res = some h' ∧ h' (.num p) = x ∧ h' (.den p) = 1 ∧
      ∀ l : ZLoc, l.below k → l ≠ .num p → l ≠ .den p → h' l = h l

theorem convZ_fields (cst : Bool) (e : E) (hty : e.ty = .z) (hwt : e.wt = true) (k p : Nat) (h : Heap) (hb : e.zbelow k) :
    PostN k p h (evalTmpZ h.get e) (convZ cst k p e h) := by
  unfold convZ
  have H := evalZ_correct cst e hty hwt k (.num p) h trivial hb
  cases hr : evalTmpZ h.get e with
  | none => rw [hr] at H; simp only [Post] at H; simp [H, PostN]
  | some x =>
    rw [hr] at H
    obtain ⟨h', e1, hx, hfr⟩ := H
    simp only [e1, Option.map_some, PostN]
    refine ⟨_, rfl, ?_, ?_, fun l hl h1 h2 => ?_⟩
    · simp only [mpz_set_ui]; rw [Heap.set_get_ne _ _ _ _ (by simp)]; exact hx
    · simp [mpz_set_ui]
    · simp only [mpz_set_ui]; rw [Heap.set_get_ne _ _ _ _ h2]; exact hfr l hl h1

theorem ty_z_bin {o : Bin} {a b : E} (hty : (E.bin o a b).ty = .z) : a.ty = .z ∧ b.ty = .z := by
  simp only [E.ty] at hty
  by_cases hc : a.ty = .z ∧ b.ty = .z
  · exact hc
  · simp [hc] at hty

/-- `q_p = e` for an mpz-typed `e` on the RAW fields (no canonicity assumed, `p`'s own accessors may occur in `e`):
    the numerator ends with the temporaries value computed from the old fields, the denominator with 1. -/
theorem evalQ_z_fields (cst : Bool) (e : E) (hty : e.ty = .z) (hwt : e.wt = true) (k p : Nat) (h : Heap) (hb : e.zbelow k) :
    PostN k p h (evalTmpZ h.get e) (evalQ cst k p e h) := by
  have leaf : ∀ l : ZLoc, PostN k p h (some (h l)) (some (mpq_set_z p l h)) := fun l =>
    ⟨_, rfl, by simp only [mpq_set_z]; rw [Heap.set_get_ne _ _ _ _ (by simp), Heap.set_get], by simp [mpq_set_z], fun l' _ h1 h2 => by
      simp only [mpq_set_z]; rw [Heap.set_get_ne _ _ _ _ h2, Heap.set_get_ne _ _ _ _ h1]⟩
  cases e with
  | zv i => simpa only [evalQ, evalTmpZ] using leaf (.v i)
  | zn i => simpa only [evalQ, evalTmpZ] using leaf (.num i)
  | zd i => simpa only [evalQ, evalTmpZ] using leaf (.den i)
  | qv i => simp [E.ty] at hty
  | un o a =>
    have : a.ty = .z := by simpa [E.ty] using hty
    simp only [evalQ, this, if_true]; exact convZ_fields cst _ hty hwt k p h hb
  | sh o a n =>
    have : a.ty = .z := by simpa [E.ty] using hty
    simp only [evalQ, this, if_true]; exact convZ_fields cst _ hty hwt k p h hb
  | binL o c b =>
    have : b.ty = .z := by simpa [E.ty] using hty
    simp only [evalQ, this, if_true]; exact convZ_fields cst _ hty hwt k p h hb
  | binR o a c =>
    have : a.ty = .z := by simpa [E.ty] using hty
    simp only [evalQ, this, if_true]; exact convZ_fields cst _ hty hwt k p h hb
  | bin o a b =>
    have := ty_z_bin hty
    simp only [evalQ]; rw [if_pos this]; exact convZ_fields cst _ hty hwt k p h hb

/-- the raw-field postcondition gives the canonical one for the integer value -/
theorem PostN.toPostQ {k p : Nat} {h : Heap} {r : Option Int} {res : Option Heap} (H : PostN k p h r res) :
    PostQ k p h (r.map fun x => ((x : Int) : Rat)) res := by
  cases r with
  | none => exact H
  | some x =>
    obtain ⟨h', e1, hn, hd, hfr⟩ := H
    refine ⟨h', e1, ?_, ?_, fun l hl a b => hfr l (ZLoc.below_of_belowQ hl) a b⟩
    · simp [Canon, hd]
    · simp [qval, hn, hd, Rat.divInt_eq_div]

/-- an mpz-typed tree into an mpq destination, every shape of tree -/
theorem evalQ_correct_z (cst : Bool) (e : E) (hty : e.ty = .z) (hwt : e.wt = true) (k p : Nat) (h : Heap)
    (hz : e.zbelow k) (hc : e.canon h) :
    PostQ k p h (evalTmpR h.abs e) (evalQ cst k p e h) := by
  rw [evalTmpR_z h e hty hc]
  exact (evalQ_z_fields cst e hty hwt k p h hz).toPostQ

/-! ### sequencing steps: in place, through a temporary -/

theorem PostQ.bind {k p : Nat} {h : Heap} {ra : Option Rat} {res : Option Heap} (H : PostQ k p h ra res)
    (g : Rat → Option Rat) (F : M)
    (hF : ∀ h1 : Heap, Canon h1 p → (∀ l : ZLoc, l.belowQ k → l ≠ .num p → l ≠ .den p → h1 l = h l) →
      F h1 = (g (qval h1 p)).map (fun r => h1.setQ p r)) :
    PostQ k p h (ra.bind g) (res.bind F) := by
  cases ra with
  | none => simp only [PostQ] at H; subst H; rfl
  | some x =>
    obtain ⟨h1, e1, hc, hx, hfr⟩ := H
    subst e1
    simp only [Option.bind_some, hF h1 hc hfr, hx]
    cases g x with
    | none => rfl
    | some r =>
      exact ⟨_, rfl, Canon_setQ _ _ _, qval_setQ _ _ _, fun l hl h1' h2' => by rw [setQ_get_ne _ _ _ _ h1' h2']; exact hfr l hl h1' h2'⟩

/-- an mpq object is its two fields -/
theorem qobj_congr {h h1 : Heap} {i : Nat} (e1 : h1 (.num i) = h (.num i)) (e2 : h1 (.den i) = h (.den i)) :
    (Canon h i → Canon h1 i) ∧ qval h1 i = qval h i := by
  unfold Canon qval; rw [e1, e2]; exact ⟨id, rfl⟩

theorem qobj_of_frame {k p i : Nat} {h h1 : Heap}
    (hfr : ∀ l : ZLoc, l.belowQ k → l ≠ .num p → l ≠ .den p → h1 l = h l) (hi : i < k) (hne : p ≠ i) :
    (Canon h i → Canon h1 i) ∧ qval h1 i = qval h i :=
  qobj_congr (hfr (.num i) hi (fun e => hne (ZLoc.num.inj e).symm) (fun e => ZLoc.noConfusion e))
    (hfr (.den i) hi (fun e => ZLoc.noConfusion e) (fun e => hne (ZLoc.den.inj e).symm))

theorem PostQ.rebase {k p : Nat} {h h1 : Heap} {r : Option Rat} {res : Option Heap}
    (H : PostQ (k + 1) p h1 r res) (hag : AgreeBelow k h h1) : PostQ k p h r res := by
  cases r with
  | none => exact H
  | some x =>
    obtain ⟨h2, e1, hc, hx, hfr⟩ := H
    exact ⟨h2, e1, hc, hx, fun l hl a b => by rw [hfr l (ZLoc.belowQ_mono (by omega) hl) a b]; exact hag l hl⟩

theorem agree_of_PostQ_temp {k : Nat} {h h1 : Heap}
    (hfr : ∀ l : ZLoc, l.belowQ (k + 1) → l ≠ .num k → l ≠ .den k → h1 l = h l) : AgreeBelow k h h1 := by
  intro l hl
  apply hfr l (ZLoc.belowQ_mono (by omega) hl) <;> (intro e; subst e; simp [ZLoc.belowQ] at hl)

theorem agree_of_Post_temp {k : Nat} {h h1 : Heap}
    (hfr : ∀ l : ZLoc, l.below (k + 1) → l ≠ .v k → h1 l = h l) : AgreeBelow k h h1 := by
  intro l hl
  apply hfr l (ZLoc.below_mono (by omega) (ZLoc.below_of_belowQ hl))
  intro e; subst e; simp [ZLoc.belowQ] at hl

theorem PostQ.final {k p : Nat} {h h1 : Heap} (hag : AgreeBelow k h h1) (r : Option Rat) :
    PostQ k p h r (r.map fun x => h1.setQ p x) := by
  cases r with
  | none => rfl
  | some x => exact ⟨_, rfl, Canon_setQ _ _ _, qval_setQ _ _ _, fun l hl a b => by rw [setQ_get_ne _ _ _ _ a b]; exact hag l hl⟩

theorem canon_of_agree {k i : Nat} {h h1 : Heap} (hag : AgreeBelow k h h1) (hi : i < k) (hc : Canon h i) : Canon h1 i :=
  (qobj_congr (hag (.num i) hi) (hag (.den i) hi)).1 hc

theorem qval_of_agree {k i : Nat} {h h1 : Heap} (hag : AgreeBelow k h h1) (hi : i < k) : qval h1 i = qval h i :=
  (qobj_congr (hag (.num i) hi) (hag (.den i) hi)).2

/-- evaluate a temporary mpq object `k`, then continue -/
theorem tempQ_then {k p : Nat} {h : Heap} {rb : Option Rat} {res : Option Heap} (H : PostQ (k + 1) k h rb res)
    (g : Rat → Option Rat) (F : M)
    (hF : ∀ h1 : Heap, Canon h1 k → AgreeBelow k h h1 → PostQ k p h (g (qval h1 k)) (F h1)) :
    PostQ k p h (rb.bind g) (res.bind F) := by
  cases rb with
  | none => simp only [PostQ] at H; subst H; rfl
  | some y =>
    obtain ⟨h1, e1, hc, hy, hfr⟩ := H
    subst e1
    simp only [Option.bind_some]
    rw [← hy]; exact hF h1 hc (agree_of_PostQ_temp hfr)

/-- evaluate a temporary mpz object `.v k`, then continue -/
theorem tempZ_then {k p : Nat} {h : Heap} {ra : Option Int} {res : Option Heap} (H : Post (k + 1) (.v k) h ra res)
    (g : Rat → Option Rat) (F : M)
    (hF : ∀ h1 : Heap, AgreeBelow k h h1 → PostQ k p h (g ((h1 (.v k) : Int) : Rat)) (F h1)) :
    PostQ k p h ((ra.map fun x => ((x : Int) : Rat)).bind g) (res.bind F) := by
  cases ra with
  | none => simp only [Post] at H; subst H; rfl
  | some x =>
    obtain ⟨h1, e1, hx, hfr⟩ := H
    subst e1
    simp only [Option.map_some, Option.bind_some]
    rw [← hx]; exact hF h1 (agree_of_Post_temp hfr)

theorem evalTmpR_agree {k : Nat} {h h' : Heap} (hag : AgreeBelow k h h') (e : E) (hz : e.zbelow k) (hq : e.qbelow k) :
    evalTmpR h'.abs e = evalTmpR h.abs e := by
  unfold evalTmpR; rw [evalTmp_agree hag e hz hq]

theorem evalTmpR_qv (h : Heap) (i : Nat) : evalTmpR h.abs (.qv i) = some (qval h i) := rfl
theorem evalTmpR_zv (h : Heap) (i : Nat) : evalTmpR h.abs (.zv i) = some ((h (.v i) : Int) : Rat) := rfl

theorem zleaf?_evalR {a : E} {l : ZLoc} (hl : a.zleaf? = some l) (h : Heap) (hc : a.canon h) :
    evalTmpR h.abs a = some ((h l : Int) : Rat) := by
  cases a <;> simp [E.zleaf?] at hl <;> subst hl
  · rfl
  · simp only [evalTmpR, evalTmp, Heap.abs, Option.map_some, Val.toQ, (qval_num_den hc).1]
  · have := (qval_num_den hc).2
    simp only [evalTmpR, evalTmp, Heap.abs, Option.map_some, Val.toQ, Int.ofNat_eq_natCast, this]

theorem zleaf?_belowQ {a : E} {l : ZLoc} (hl : a.zleaf? = some l) {k : Nat} (hz : a.zbelow k) (hq : a.qbelow k) : l.belowQ k := by
  cases a <;> simp [E.zleaf?] at hl <;> subst hl <;> first | simpa [ZLoc.belowQ, E.zbelow] using hz | simpa [ZLoc.belowQ, E.qbelow] using hq

theorem ty_q_of_ne_z {e : E} (h : ¬ e.ty = .z) : e.ty = .q := by
  cases h' : e.ty <;> simp_all

/-! ### every tree into an mpq destination -/

/-- The template strategy for an mpq destination is evaluation into temporaries: for every well-typed tree `e`
    (mpz- or mpq-typed, mixed operands, built-ins on either side), every destination object `p < k` (also one
    occurring in `e`), every heap whose mentioned mpq objects are canonical. -/
theorem evalQ_correct (cst : Bool) : ∀ (e : E), e.wt = true →
    ∀ (k p : Nat) (h : Heap), p < k → e.zbelow k → e.qbelow k → e.canon h →
      PostQ k p h (evalTmpR h.abs e) (evalQ cst k p e h) := by
  intro e
  induction e with
  | zv i => intro hwt k p h _ hz _ hc; exact evalQ_correct_z cst _ rfl hwt k p h hz hc
  | qv i =>
    intro _ k p h _ _ _ hc
    simp only [evalQ, evalTmpR_qv]
    rw [mpq_set_eq p hc]
    exact PostQ.of_setQ (r := some _)
  | zn i => intro hwt k p h _ hz _ hc; exact evalQ_correct_z cst _ rfl hwt k p h hz hc
  | zd i => intro hwt k p h _ hz _ hc; exact evalQ_correct_z cst _ rfl hwt k p h hz hc
  | un o a ih =>
    intro hwt k p h hp hz hq hc
    simp only [E.wt, Bool.and_eq_true] at hwt
    simp only [E.zbelow, E.qbelow, E.canon] at hz hq hc
    simp only [evalQ]
    by_cases hta : a.ty = .z
    · exact evalQ_correct_z cst (.un o a) (by simpa [E.ty] using hta) (by simp [E.wt, hwt.1, hta]) k p h hz hc
    · have htq := ty_q_of_ne_z hta
      simp only [hta, if_false]
      rw [evalTmpR_un _ _ _ htq]
      cases hl : a.qleaf? with
      | some i =>
        have := qleaf?_some hl; subst this
        simp only [evalTmpR_qv, Option.bind_some]
        rw [fnUnQ_spec o p i h hc]; exact PostQ.of_setQ
      | none =>
        simp only []
        exact PostQ.bind (ih hwt.1 k p h hp hz hq hc) (unQ o) (fnUnQ o p p) (fun h1 hc1 _ => fnUnQ_spec o p p h1 hc1)
  | sh o a n ih =>
    intro hwt k p h hp hz hq hc
    simp only [E.wt, Bool.and_eq_true] at hwt
    simp only [E.zbelow, E.qbelow, E.canon] at hz hq hc
    simp only [evalQ]
    by_cases hta : a.ty = .z
    · exact evalQ_correct_z cst (.sh o a n) (by simpa [E.ty] using hta) (by simp [E.wt, hwt.1, hwt.2]) k p h hz hc
    · have htq := ty_q_of_ne_z hta
      simp only [hta, if_false]
      rw [evalTmpR_sh _ _ _ _ htq]
      cases hl : a.qleaf? with
      | some i =>
        have := qleaf?_some hl; subst this
        simp only [evalTmpR_qv, Option.map_some]
        rw [fnShQ_spec cst o p i n h hc]; exact PostQ.of_setQ (r := some _)
      | none =>
        simp only []
        have := PostQ.bind (ih hwt.1 k p h hp hz hq hc) (fun x => some (shQ o n x)) (fnShQ cst o p p n)
          (fun h1 hc1 _ => by rw [fnShQ_spec cst o p p n h1 hc1]; rfl)
        cases hr : evalTmpR h.abs a <;> simpa [hr] using this
  | binL o c b ih =>
    intro hwt k p h hp hz hq hc
    simp only [E.wt, Bool.and_eq_true] at hwt
    simp only [E.zbelow, E.qbelow, E.canon] at hz hq hc
    simp only [evalQ]
    by_cases htb : b.ty = .z
    · exact evalQ_correct_z cst (.binL o c b) (by simpa [E.ty] using htb) (by simp [E.wt, hwt.1.1, hwt.1.2, htb]) k p h hz hc
    · have htq := ty_q_of_ne_z htb
      have hoq : o.qOk = true := by simpa [htb] using hwt.2
      simp only [htb, if_false]
      rw [evalTmpR_binL _ _ _ _ htq]
      cases hl : b.qleaf? with
      | some j =>
        have := qleaf?_some hl; subst this
        simp only [evalTmpR_qv, Option.bind_some]
        rw [fnBinQ_spec cst o p (.bi c) (.q j) h hoq trivial hc hwt.1.1 trivial]
        simp only [argR, Option.bind_some]
        exact PostQ.of_setQ
      | none =>
        simp only []
        exact PostQ.bind (ih hwt.1.2 k p h hp hz hq hc) (fun y => (biRat c).bind fun x => binQ o x y) (fnBinQ cst o p (.bi c) (.q p))
          (fun h1 hc1 _ => by rw [fnBinQ_spec cst o p (.bi c) (.q p) h1 hoq trivial hc1 hwt.1.1 trivial]; simp only [argR, Option.bind_some])
  | binR o a c ih =>
    intro hwt k p h hp hz hq hc
    simp only [E.wt, Bool.and_eq_true] at hwt
    simp only [E.zbelow, E.qbelow, E.canon] at hz hq hc
    simp only [evalQ]
    by_cases hta : a.ty = .z
    · exact evalQ_correct_z cst (.binR o a c) (by simpa [E.ty] using hta) (by simp [E.wt, hwt.1.1, hwt.1.2, hta]) k p h hz hc
    · have htq := ty_q_of_ne_z hta
      have hoq : o.qOk = true := by simpa [hta] using hwt.2
      simp only [hta, if_false]
      rw [evalTmpR_binR _ _ _ _ htq]
      cases hl : a.qleaf? with
      | some i =>
        have := qleaf?_some hl; subst this
        simp only [evalTmpR_qv, Option.bind_some]
        rw [fnBinQ_spec cst o p (.q i) (.bi c) h hoq hc trivial trivial hwt.1.1]
        simp only [argR, Option.bind_some]
        exact PostQ.of_setQ
      | none =>
        simp only []
        exact PostQ.bind (ih hwt.1.2 k p h hp hz hq hc) (fun x => (biRat c).bind fun y => binQ o x y) (fnBinQ cst o p (.q p) (.bi c))
          (fun h1 hc1 _ => by rw [fnBinQ_spec cst o p (.q p) (.bi c) h1 hoq hc1 trivial trivial hwt.1.1]; simp only [argR, Option.bind_some])
  | bin o a b iha ihb =>
    intro hwt k p h hp hz hq hc
    simp only [E.wt, Bool.and_eq_true] at hwt
    simp only [E.zbelow, E.qbelow, E.canon] at hz hq hc
    obtain ⟨⟨hwa, hwb⟩, hop⟩ := hwt
    have hk1 : k ≤ k + 1 := by omega
    -- an operand evaluated into the temporary `k`, and into `p` after a temporary has been filled
    have Ta := iha hwa (k + 1) k h (by omega) (E.zbelow_mono hk1 _ hz.1) (E.qbelow_mono hk1 _ hq.1) hc.1
    have Tb := ihb hwb (k + 1) k h (by omega) (E.zbelow_mono hk1 _ hz.2) (E.qbelow_mono hk1 _ hq.2) hc.2
    have Ia : ∀ h1, AgreeBelow k h h1 → PostQ (k + 1) p h1 (evalTmpR h.abs a) (evalQ cst (k + 1) p a h1) := by
      intro h1 hag
      have IH := iha hwa (k + 1) p h1 (by omega) (E.zbelow_mono hk1 _ hz.1) (E.qbelow_mono hk1 _ hq.1) (canon_agree hag _ hq.1 hc.1)
      rwa [evalTmpR_agree hag a hz.1 hq.1] at IH
    have Ib : ∀ h1, AgreeBelow k h h1 → PostQ (k + 1) p h1 (evalTmpR h.abs b) (evalQ cst (k + 1) p b h1) := by
      intro h1 hag
      have IH := ihb hwb (k + 1) p h1 (by omega) (E.zbelow_mono hk1 _ hz.2) (E.qbelow_mono hk1 _ hq.2) (canon_agree hag _ hq.2 hc.2)
      rwa [evalTmpR_agree hag b hz.2 hq.2] at IH
    simp only [evalQ]
    by_cases hzz : a.ty = .z ∧ b.ty = .z
    · exact evalQ_correct_z cst (.bin o a b) (by simp [E.ty, hzz]) (by simp [E.wt, hwa, hwb, hzz]) k p h hz hc
    · have hoq : o.qOk = true := by
        rcases Bool.or_eq_true _ _ |>.mp hop with h1 | h1
        · exact absurd (by simpa using h1) hzz
        · exact h1
      rw [if_neg hzz, evalTmpR_bin _ _ _ _ hzz]
      by_cases hA : isAddSub o = true ∧ a.ty = .z
      · -- mpz ± mpq
        rw [if_pos hA]
        have htb : b.ty = .q := ty_q_of_ne_z (fun hb => hzz ⟨hA.2, hb⟩)
        cases hla : a.zleaf? with
        | some i =>
          have hBi : i.belowQ k := zleaf?_belowQ hla hz.1 hq.1
          rw [zleaf?_evalR hla h hc.1]
          cases hlb : b.qleaf? with
          | some j =>
            have := qleaf?_some hlb; subst this
            simp only [evalTmpR_qv, Option.bind_some]
            rw [fnBinQ_spec cst o p (.z i) (.q j) h hA.1 trivial hc.2 trivial trivial]
            exact PostQ.of_setQ
          | none =>
            simp only [Option.bind_some]
            refine tempQ_then Tb
              (fun y => binQ o ((h i : Int) : Rat) y) (fnBinQ cst o p (.z i) (.q k)) (fun h1 hc1 hag => ?_)
            rw [fnBinQ_spec cst o p (.z i) (.q k) h1 hA.1 trivial hc1 trivial trivial]
            simp only [argR, Option.bind_some, hag i hBi]
            exact PostQ.final hag _
        | none =>
          rw [evalTmpR_z _ a hA.2 hc.1]
          have HZ := evalZ_correct cst a hA.2 hwa (k + 1) (.v k) h (by simp [ZLoc.below]) (E.zbelow_mono hk1 _ hz.1)
          cases hlb : b.qleaf? with
          | some j =>
            have := qleaf?_some hlb; subst this
            simp only [evalTmpR_qv]
            refine tempZ_then HZ (fun x => (some (qval h j)).bind fun y => binQ o x y) (fnBinQ cst o p (.z (.v k)) (.q j)) (fun h1 hag => ?_)
            rw [fnBinQ_spec cst o p (.z (.v k)) (.q j) h1 hA.1 trivial (canon_of_agree hag hq.2 hc.2) trivial trivial]
            simp only [argR, Option.bind_some, qval_of_agree hag hq.2]
            exact PostQ.final hag _
          | none =>
            simp only []
            refine tempZ_then HZ (fun x => (evalTmpR h.abs b).bind fun y => binQ o x y)
              (fun h1 => (evalQ cst (k + 1) p b h1).bind (fnBinQ cst o p (.z (.v k)) (.q p))) (fun h1 hag => ?_)
            refine PostQ.rebase (PostQ.bind (Ib h1 hag) _ _ (fun h2 hc2 hfr2 => ?_)) hag
            rw [fnBinQ_spec cst o p (.z (.v k)) (.q p) h2 hA.1 trivial hc2 trivial trivial]
            have e : h2 (.v k) = h1 (.v k) := hfr2 _ (by simp [ZLoc.belowQ]) (by simp) (by simp)
            simp only [argR, Option.bind_some, e]
      · rw [if_neg hA]
        by_cases hB : isAddSub o = true ∧ b.ty = .z
        · -- mpq ± mpz
          rw [if_pos hB]
          have hta : a.ty = .q := ty_q_of_ne_z (fun ha => hzz ⟨ha, hB.2⟩)
          cases hla : a.qleaf? with
          | some i =>
            have := qleaf?_some hla; subst this
            cases hlb : b.zleaf? with
            | some j =>
              rw [zleaf?_evalR hlb h hc.2]
              simp only [evalTmpR_qv, Option.bind_some]
              rw [fnBinQ_spec cst o p (.q i) (.z j) h hB.1 hc.1 trivial trivial trivial]
              exact PostQ.of_setQ
            | none =>
              simp only [evalTmpR_qv, Option.bind_some]
              rw [evalTmpR_z _ b hB.2 hc.2]
              have HZ := evalZ_correct cst b hB.2 hwb (k + 1) (.v k) h (by simp [ZLoc.below]) (E.zbelow_mono hk1 _ hz.2)
              refine tempZ_then HZ (fun y => binQ o (qval h i) y) (fnBinQ cst o p (.q i) (.z (.v k))) (fun h1 hag => ?_)
              rw [fnBinQ_spec cst o p (.q i) (.z (.v k)) h1 hB.1 (canon_of_agree hag hq.1 hc.1) trivial trivial trivial]
              simp only [argR, Option.bind_some, qval_of_agree hag hq.1]
              exact PostQ.final hag _
          | none =>
            rw [Option.bind_comm]
            cases hlb : b.zleaf? with
            | some j =>
              have hBj : j.belowQ k := zleaf?_belowQ hlb hz.2 hq.2
              rw [zleaf?_evalR hlb h hc.2]
              simp only [Option.bind_some]
              refine tempQ_then Ta
                (fun x => binQ o x ((h j : Int) : Rat)) (fnBinQ cst o p (.q k) (.z j)) (fun h1 hc1 hag => ?_)
              rw [fnBinQ_spec cst o p (.q k) (.z j) h1 hB.1 hc1 trivial trivial trivial]
              simp only [argR, Option.bind_some, hag j hBj]
              exact PostQ.final hag _
            | none =>
              simp only []
              rw [evalTmpR_z _ b hB.2 hc.2]
              have HZ := evalZ_correct cst b hB.2 hwb (k + 1) (.v k) h (by simp [ZLoc.below]) (E.zbelow_mono hk1 _ hz.2)
              refine tempZ_then HZ (fun y => (evalTmpR h.abs a).bind fun x => binQ o x y)
                (fun h1 => (evalQ cst (k + 1) p a h1).bind (fnBinQ cst o p (.q p) (.z (.v k)))) (fun h1 hag => ?_)
              refine PostQ.rebase (PostQ.bind (Ia h1 hag) _ _ (fun h2 hc2 hfr2 => ?_)) hag
              rw [fnBinQ_spec cst o p (.q p) (.z (.v k)) h2 hB.1 hc2 trivial trivial trivial]
              have e : h2 (.v k) = h1 (.v k) := hfr2 _ (by simp [ZLoc.belowQ]) (by simp) (by simp)
              simp only [argR, Option.bind_some, e]
        · -- generic rules
          rw [if_neg hB]
          cases hla : a.qleaf? with
          | some i =>
            have := qleaf?_some hla; subst this
            cases hlb : b.qleaf? with
            | some j =>
              have := qleaf?_some hlb; subst this
              simp only [evalTmpR_qv, Option.bind_some]
              rw [fnBinQ_spec cst o p (.q i) (.q j) h hoq hc.1 hc.2 trivial trivial]
              exact PostQ.of_setQ
            | none =>
              simp only [evalTmpR_qv, Option.bind_some]
              by_cases hpi : p ≠ i
              · simp only [hpi, ne_eq, not_false_eq_true, if_true]
                refine PostQ.bind (ihb hwb k p h hp hz.2 hq.2 hc.2) (fun y => binQ o (qval h i) y) _ (fun h1 hc1 hfr => ?_)
                have cq := qobj_of_frame hfr hq.1 hpi
                rw [fnBinQ_spec cst o p (.q i) (.q p) h1 hoq (cq.1 hc.1) hc1 trivial trivial]
                simp only [argR, Option.bind_some, cq.2]
              · simp only [hpi, if_false]
                refine tempQ_then Tb
                  (fun y => binQ o (qval h i) y) (fnBinQ cst o p (.q i) (.q k)) (fun h1 hc1 hag => ?_)
                rw [fnBinQ_spec cst o p (.q i) (.q k) h1 hoq (canon_of_agree hag hq.1 hc.1) hc1 trivial trivial]
                simp only [argR, Option.bind_some, qval_of_agree hag hq.1]
                exact PostQ.final hag _
          | none =>
            cases hlb : b.qleaf? with
            | some j =>
              have := qleaf?_some hlb; subst this
              rw [Option.bind_comm]
              simp only [evalTmpR_qv, Option.bind_some]
              by_cases hpj : p ≠ j
              · simp only [hpj, ne_eq, not_false_eq_true, if_true]
                refine PostQ.bind (iha hwa k p h hp hz.1 hq.1 hc.1) (fun x => binQ o x (qval h j)) _ (fun h1 hc1 hfr => ?_)
                have cq := qobj_of_frame hfr hq.2 hpj
                rw [fnBinQ_spec cst o p (.q p) (.q j) h1 hoq hc1 (cq.1 hc.2) trivial trivial]
                simp only [argR, Option.bind_some, cq.2]
              · simp only [hpj, if_false]
                refine tempQ_then Ta
                  (fun x => binQ o x (qval h j)) (fnBinQ cst o p (.q k) (.q j)) (fun h1 hc1 hag => ?_)
                rw [fnBinQ_spec cst o p (.q k) (.q j) h1 hoq hc1 (canon_of_agree hag hq.2 hc.2) trivial trivial]
                simp only [argR, Option.bind_some, qval_of_agree hag hq.2]
                exact PostQ.final hag _
            | none =>
              simp only []
              by_cases hta : a.ty = .q
              · simp only [hta, if_true]
                rw [Option.bind_comm]
                refine tempQ_then Tb
                  (fun y => (evalTmpR h.abs a).bind fun x => binQ o x y)
                  (fun h1 => (evalQ cst (k + 1) p a h1).bind (fnBinQ cst o p (.q p) (.q k))) (fun h1 hc1 hag => ?_)
                refine PostQ.rebase (PostQ.bind (Ia h1 hag) _ _ (fun h2 hc2 hfr2 => ?_)) hag
                have cq := qobj_of_frame hfr2 (Nat.lt_succ_self k) (Nat.ne_of_lt hp)
                rw [fnBinQ_spec cst o p (.q p) (.q k) h2 hoq hc2 (cq.1 hc1) trivial trivial]
                simp only [argR, Option.bind_some, cq.2]
              · simp only [hta, if_false]
                refine tempQ_then Ta
                  (fun x => (evalTmpR h.abs b).bind fun y => binQ o x y)
                  (fun h1 => (evalQ cst (k + 1) p b h1).bind (fnBinQ cst o p (.q k) (.q p))) (fun h1 hc1 hag => ?_)
                refine PostQ.rebase (PostQ.bind (Ib h1 hag) _ _ (fun h2 hc2 hfr2 => ?_)) hag
                have cq := qobj_of_frame hfr2 (Nat.lt_succ_self k) (Nat.ne_of_lt hp)
                rw [fnBinQ_spec cst o p (.q k) (.q p) h2 hoq (cq.1 hc1) hc2 trivial trivial]
                simp only [argR, Option.bind_some, cq.2]

end Mpir.Cxx
end
