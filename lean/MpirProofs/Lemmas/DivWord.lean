/- Word-level division (Mpir/Model/DivWord.lean), Euclidean side: `invert_limb`, `udiv_qrnnd_preinv2` as the exact
   division step, and the one-limb loops of mpn_mod_1 / mpn_divrem_1, each equal to `plainLoop` of the unshifted
   problem, whose invariant is the one induction about values. -/
import MpirProofs.Lemmas.Base
import MpirProofs.Lemmas.Arith
import Mpir.Model.DivWord
import Mathlib.Tactic.Ring
import Mathlib.Tactic.Linarith
import Mathlib.Tactic.Push
import Mathlib.Tactic.Zify
import Mathlib.Tactic.NormNum
import Mathlib.Tactic.LinearCombination
import Mathlib.Data.Int.ModEq
import Mathlib.Data.Nat.ModEq
import Mathlib.Data.Nat.GCD.Basic
namespace Mpir.DivWord
open Mpir


/-! ### the word primitives (longlong.h): two-limb add and subtract, masks -/

theorem BB_eq : B * B = 340282366920938463463374607431768211456 := by unfold B; norm_num

theorem umul_ppmm_eq (u v : Nat) : umul_ppmm u v = (u * v / B, u * v % B) := rfl

theorem add_ssaaaa_eq (ah al bh bl : Nat) :
    add_ssaaaa ah al bh bl = (((ah * B + al + (bh * B + bl)) / B) % B, (ah * B + al + (bh * B + bl)) % B) := by
  simp only [add_ssaaaa, B_eq] at *
  refine Prod.ext ?_ ?_ <;> simp only <;> omega

theorem sub_ddmmss_eq (ah al bh bl : Nat) (hah : ah < B) (hal : al < B) (hbh : bh < B) (hbl : bl < B) :
    sub_ddmmss ah al bh bl =
      (((ah * B + al + B * B - (bh * B + bl)) / B) % B, (ah * B + al + B * B - (bh * B + bl)) % B) := by
  simp only [sub_ddmmss, boolToNat, BB_eq, decide_eq_true_eq]
  simp only [B_eq] at *
  refine Prod.ext ?_ ?_ <;> simp only <;> first | omega | (split <;> omega)

/-- two-limb results of add_ssaaaa / sub_ddmmss are the limbs of the value modulo B² -/
theorem pair2_mod (V : Nat) : (V / B % B, V % B) = ((V % (B * B)) / B, (V % (B * B)) % B) := by
  have hB := B_pos
  refine Prod.ext ?_ ?_
  · show V / B % B = V % (B * B) / B
    rw [Nat.mod_mul_right_div_self]
  · show V % B = V % (B * B) % B
    rw [Nat.mod_mul_left_mod]

theorem add2_eq (R d1 d0 : Nat) :
    add_ssaaaa (R / B) (R % B) d1 d0 = (((R + (d1 * B + d0)) % (B * B)) / B, ((R + (d1 * B + d0)) % (B * B)) % B) := by
  rw [add_ssaaaa_eq, Nat.div_add_mod', pair2_mod]

theorem sub2_eq (R d1 d0 : Nat) (hR : R < B * B) (h1 : d1 < B) (h0 : d0 < B) :
    sub_ddmmss (R / B) (R % B) d1 d0 =
      (((R + B * B - (d1 * B + d0)) % (B * B)) / B, ((R + B * B - (d1 * B + d0)) % (B * B)) % B) := by
  have hB := B_pos
  rw [sub_ddmmss_eq _ _ _ _ ((Nat.div_lt_iff_lt_mul hB).mpr hR) (Nat.mod_lt _ hB) h1 h0, Nat.div_add_mod', pair2_mod]

theorem and_mask (d : Nat) (hd : d < B) : (B - 1) &&& d = d := limbMask_and d hd

theorem and_mask' (d : Nat) (hd : d < B) : d &&& (B - 1) = d := by
  rw [Nat.and_comm]; exact and_mask d hd

/-! ### invert_limb (gmp-impl.h:2822) -/

/-- bounds for a reciprocal `v = ⌊(M−1)/d⌋ − B` with `B·d < M ≤ 2·B·d` -/
theorem recip_bounds (M d : Nat) (hd0 : 0 < d) (h1 : B * d < M) (h2 : M ≤ 2 * B * d) :
    (M - 1) / d - B < B ∧ (B + ((M - 1) / d - B)) * d ≤ M - 1 ∧ M - 1 < (B + ((M - 1) / d - B) + 1) * d := by
  have hQ : B ≤ (M - 1) / d := by rw [Nat.le_div_iff_mul_le hd0]; omega
  have hlt : (M - 1) / d < B + B := by
    rw [Nat.div_lt_iff_lt_mul hd0, ← Nat.two_mul, Nat.mul_assoc]
    rw [Nat.mul_assoc] at h2; omega
  have hm1 := Nat.div_mul_le_self (M - 1) d
  have hm2 : M - 1 < ((M - 1) / d + 1) * d := by
    have := Nat.lt_mul_div_succ (M - 1) hd0
    rwa [Nat.mul_comm d] at this
  generalize (M - 1) / d = Q at *
  rw [Nat.add_sub_cancel' hQ]
  exact ⟨by omega, hm1, hm2⟩

theorem two_mul_ge_B {d : Nat} (h1 : B / 2 ≤ d) : B ≤ 2 * d := by simp only [B_eq] at *; omega

theorem invert_limb_eq (d : Nat) (h1 : B / 2 ≤ d) (h2 : d < B) :
    invert_limb d = (B * B - 1) / d - B := by
  have hB := B_pos
  have h3 := two_mul_ge_B h1
  have e1 : (B - 1 - d) * B + d * B = B * B - B := by
    rw [← Nat.add_mul, Nat.sub_add_cancel (by omega), Nat.sub_mul, Nat.one_mul]
  have hle : d * B ≤ B * B - 1 := by omega
  have e : (B - 1 - d) * B + (B - 1) = (B * B - 1) - d * B := by
    have := Nat.le_mul_self B
    omega
  show ((B - 1 - d) * B + (B - 1)) / d % B = _
  rw [e, Nat.sub_mul_div_of_le _ _ _ hle]
  exact Nat.mod_eq_of_lt (recip_bounds (B * B) d (by omega) (Nat.mul_lt_mul_of_pos_left h2 hB)
    (by rw [Nat.mul_comm 2, Nat.mul_assoc]; exact Nat.mul_le_mul_left B h3)).1

theorem invert_limb_bounds (d : Nat) (h1 : B / 2 ≤ d) (h2 : d < B) :
    invert_limb d < B ∧ (B + invert_limb d) * d ≤ B * B - 1 ∧ B * B - 1 < (B + invert_limb d + 1) * d := by
  have h3 := two_mul_ge_B h1
  rw [invert_limb_eq d h1 h2]
  exact recip_bounds (B * B) d (by have := B_pos; omega) (Nat.mul_lt_mul_of_pos_left h2 B_pos)
    (by rw [Nat.mul_comm 2, Nat.mul_assoc]; exact Nat.mul_le_mul_left B h3)

/-! ### udiv_qrnnd_preinv2 (gmp-impl.h:2936), the variant this build uses -/

/-- Core lemma behind udiv_qrnnd_preinv2 (Granlund–Montgomery Lemma 8.1), over ℤ with B abstract. -/
theorem preinv2_core (B d nh nl di k n1 q1 q0 : ℤ)
    (hB : 0 < B) (hd1 : B ≤ 2 * d) (hd2 : d < B)
    (hnh0 : 0 ≤ nh) (hnh : nh < d) (hnl0 : 0 ≤ nl) (hnl : nl < B)
    (hk1 : 1 ≤ k) (hk2 : k ≤ d) (hm : (B + di) * d = B * B - k)
    (hn1 : (n1 = 0 ∧ 2 * nl < B) ∨ (n1 = 1 ∧ B ≤ 2 * nl))
    (hq0 : 0 ≤ q0) (hq0' : q0 < B)
    (hX : di * (nh + n1) + (nl + n1 * (d - B)) + nh * B = q1 * B + q0) :
    q1 * d ≤ nh * B + nl ∧ nh * B + nl < (q1 + 2) * d := by
  -- key identity: (n - q1 d) * B = nl (B-d) + k (nh+n1) + q0 d - n1 (B-d)^2
  have key : (nh * B + nl - q1 * d) * B
      = nl * (B - d) + k * (nh + n1) + q0 * d - n1 * (B - d) * (B - d) := by
    linear_combination d * hX - (nh + n1) * hm
  have hd0 : 0 < d := by linarith
  have he : 0 ≤ B - d := by linarith
  have hk0 : 0 ≤ k := by linarith
  have t3 : q0 * d ≤ (B - 1) * d := mul_le_mul_of_nonneg_right (by linarith) hd0.le
  -- it suffices to bound `(n - q1 d) * B` by `0` and `2 d * B`
  suffices h : 0 ≤ (nh * B + nl - q1 * d) * B ∧ (nh * B + nl - q1 * d) * B < 2 * d * B by
    constructor
    · have := nonneg_of_mul_nonneg_left h.1 hB
      linarith
    · have := lt_of_mul_lt_mul_right h.2 hB.le
      linarith
  rw [key]
  rcases hn1 with ⟨rfl, hlo⟩ | ⟨rfl, hhi⟩
  · have t1 : nl * (B - d) ≤ d * (B - d) := mul_le_mul_of_nonneg_right (by linarith) he
    have t2 : k * nh ≤ d * (d - 1) := mul_le_mul hk2 (by linarith) hnh0 hd0.le
    constructor
    · linear_combination mul_nonneg hnl0 he + mul_nonneg hk0 hnh0 + mul_nonneg hq0 hd0.le
    · linear_combination t1 + t2 + t3 + 2 * hd0
  · have u1 : 0 ≤ (B - d) * (nl + d - B) := mul_nonneg he (by linarith)
    have t1 : nl * (B - d) ≤ (B - 1) * (B - d) := mul_le_mul_of_nonneg_right (by linarith) he
    have t2 : k * (nh + 1) ≤ d * d := mul_le_mul hk2 (by linarith) (by linarith) hd0.le
    constructor
    · linear_combination u1 + mul_nonneg hk0 (by linarith : (0:ℤ) ≤ nh + 1) + mul_nonneg hq0 hd0.le
    · linear_combination t1 + t2 + t3 + hB

theorem mask_cases (nl d : Nat) (hnl : nl < B) (hd : d < B) :
    ∃ n1, ((n1 = 0 ∧ 2 * nl < B) ∨ (n1 = 1 ∧ B ≤ 2 * nl)) ∧
      LIMB_HIGHBIT_TO_MASK nl = n1 * (B - 1) ∧ (LIMB_HIGHBIT_TO_MASK nl &&& d) = n1 * d := by
  unfold LIMB_HIGHBIT_TO_MASK HIGHBIT
  by_cases h : B / 2 ≤ nl
  · refine ⟨1, Or.inr ⟨rfl, ?_⟩, ?_, ?_⟩
    · simp only [B_eq] at *; omega
    · simp [h]
    · simp only [h, if_true, one_mul]; exact and_mask d hd
  · refine ⟨0, Or.inl ⟨rfl, ?_⟩, ?_, ?_⟩
    · simp only [B_eq] at *; omega
    · simp [h]
    · simp [h]

/-- `preinv2_core` for limbs: the quotient estimate of udiv_qrnnd_preinv2 is at most two too small -/
theorem preinv2_quot (d nh nl di n1 nadj q1 q0 : ℕ) (hd1 : B ≤ 2 * d) (hd2 : d < B) (hnh : nh < d)
    (hnl : nl < B) (hv1 : (B + di) * d ≤ B * B - 1) (hv2 : B * B - 1 < (B + di + 1) * d)
    (hn1 : (n1 = 0 ∧ 2 * nl < B) ∨ (n1 = 1 ∧ B ≤ 2 * nl))
    (hnadj : nadj + n1 * B = nl + n1 * d) (hq0 : q0 < B)
    (hX : di * (nh + n1) + (nh * B + nadj) = q1 * B + q0) :
    q1 * d ≤ nh * B + nl ∧ nh * B + nl < (q1 + 2) * d := by
  have hBB : 0 < B * B := Nat.mul_pos B_pos B_pos
  obtain ⟨k, hk, hk1, hk2⟩ : ∃ k, (B + di) * d + k = B * B ∧ 1 ≤ k ∧ k ≤ d := by
    rw [Nat.add_mul _ 1, Nat.one_mul] at hv2
    exact ⟨B * B - (B + di) * d, by omega, by omega, by omega⟩
  have hn1' : ((n1 : ℤ) = 0 ∧ 2 * (nl : ℤ) < B) ∨ ((n1 : ℤ) = 1 ∧ (B : ℤ) ≤ 2 * nl) := by
    exact_mod_cast hn1
  have := preinv2_core (B : ℤ) d nh nl di k n1 q1 q0 (by exact_mod_cast B_pos) (by exact_mod_cast hd1)
    (by exact_mod_cast hd2) (Int.natCast_nonneg _) (by exact_mod_cast hnh) (Int.natCast_nonneg _)
    (by exact_mod_cast hnl) (by exact_mod_cast hk1) (by exact_mod_cast hk2)
    (by have := congrArg ((↑) : ℕ → ℤ) hk; push_cast at this; linear_combination this) hn1'
    (Int.natCast_nonneg _) (by exact_mod_cast hq0)
    (by have e1 := congrArg ((↑) : ℕ → ℤ) hX
        have e2 := congrArg ((↑) : ℕ → ℤ) hnadj
        push_cast at e1 e2
        linear_combination e1 - e2)
  exact_mod_cast this

theorem divmod_of_eq (n d q r : Nat) (h : n = q * d + r) (hr : r < d) : n / d = q ∧ n % d = r := by
  subst h
  rw [Nat.mul_comm, Nat.mul_add_div (by omega), Nat.mul_add_mod, Nat.div_eq_of_lt hr, Nat.mod_eq_of_lt hr]
  exact ⟨rfl, rfl⟩


/-- dividing `X·P + e` by `d·P` leaves the quotient `X / d` and scales the remainder; `e < P` is what the next limb's high
    bits (or nothing) add below the scale -/
theorem scaled_divmod (X d P e : Nat) (he : e < P) :
    (X * P + e) / (d * P) = X / d ∧ (X * P + e) % (d * P) = X % d * P + e := by
  have hP : 0 < P := by omega
  rcases Nat.eq_zero_or_pos d with rfl | hd
  · simp
  have key : X * P + e = (X / d) * (d * P) + (X % d * P + e) := by
    have h := Nat.div_add_mod X d
    calc X * P + e = (d * (X / d) + X % d) * P + e := by rw [h]
      _ = _ := by ring
  have hlt : X % d * P + e < d * P := by
    have h1 : (X % d + 1) * P ≤ d * P := Nat.mul_le_mul_right _ (Nat.mod_lt _ hd)
    have h2 : (X % d + 1) * P = X % d * P + P := by ring
    omega
  exact divmod_of_eq _ _ _ _ key hlt

/-- the branch-free final correction of udiv_qrnnd_preinv2: from an estimate `q1` at most one too small,
    the high limb of `(B−1−q1)·d + n`, less `d`, is the mask that selects quotient and remainder -/
theorem preinv2_fixup (n d q1 : Nat) (hd : d < B) (c1 : q1 * d ≤ n) (c2 : n < (q1 + 2) * d) (hn : n < d * B) :
    (((((B - 1 - q1) * d + n) / B % B + B - d) % B + B - (B - 1 - q1)) % B,
      (((B - 1 - q1) * d + n) % B + (d &&& ((((B - 1 - q1) * d + n) / B % B + B - d) % B))) % B)
      = (n / d, n % d) := by
  have hB := B_pos
  have hd0 : 0 < d := Nat.pos_of_mul_pos_right (Nat.zero_lt_of_lt hn)
  have hq1 : q1 < B := Nat.lt_of_mul_lt_mul_right (Nat.lt_of_le_of_lt c1 (Nat.mul_comm d B ▸ hn))
  have hY : (B - 1 - q1) * d + q1 * d + d = B * d := by
    rw [← Nat.add_mul, ← Nat.succ_mul]; congr 1; omega
  have hBd' : B ≤ B * d := Nat.le_mul_of_pos_right _ hd0
  rw [Nat.add_mul] at c2
  rw [Nat.mul_comm d B] at hn
  generalize (B - 1 - q1) * d = Y at *
  generalize hP : q1 * d = P at *
  generalize hBd : B * d = Bd at *
  by_cases hc : n < P + d
  · obtain ⟨e1, e2⟩ := divmod_of_eq n d q1 (n - P) (by rw [hP]; omega) (by omega)
    obtain ⟨f1, f2⟩ := divmod_of_eq (Y + n) B (d - 1) (B - d + (n - P))
      (by rw [Nat.sub_mul, Nat.mul_comm d B, hBd]; omega) (by omega)
    rw [f1, f2, e1, e2, Nat.mod_eq_of_lt (show d - 1 < B by omega),
      show d - 1 + B - d = B - 1 by omega, Nat.mod_eq_of_lt (show B - 1 < B by omega), and_mask' d hd,
      show B - 1 + B - (B - 1 - q1) = q1 + B by omega, Nat.add_mod_right, Nat.mod_eq_of_lt hq1,
      show B - d + (n - P) + d = n - P + B by omega, Nat.add_mod_right,
      Nat.mod_eq_of_lt (show n - P < B by omega)]
  · obtain ⟨e1, e2⟩ := divmod_of_eq n d (q1 + 1) (n - P - d)
      (by rw [Nat.add_mul, Nat.one_mul, hP]; omega) (by omega)
    obtain ⟨f1, f2⟩ := divmod_of_eq (Y + n) B d (n - P - d) (by rw [Nat.mul_comm d B, hBd]; omega) (by omega)
    have hq1' : q1 + 1 < B := by
      apply Nat.lt_of_mul_lt_mul_right (a := d)
      rw [Nat.add_mul, Nat.one_mul, hP, hBd]; omega
    rw [f1, f2, e1, e2, Nat.mod_eq_of_lt hd, Nat.add_sub_cancel_left, Nat.mod_self, Nat.and_zero,
      Nat.add_zero, Nat.mod_eq_of_lt (show n - P - d < B by omega), Nat.zero_add,
      show B - (B - 1 - q1) = q1 + 1 by omega, Nat.mod_eq_of_lt hq1']

theorem udiv_qrnnd_preinv2_eq (nh nl d : Nat) (h1 : B / 2 ≤ d) (h2 : d < B) (hnh : nh < d) (hnl : nl < B) :
    udiv_qrnnd_preinv2 nh nl d (invert_limb d) = ((nh * B + nl) / d, (nh * B + nl) % d) := by
  obtain ⟨hv, hv1, hv2⟩ := invert_limb_bounds d h1 h2
  generalize invert_limb d = di at *
  obtain ⟨n1, hn1, hmask, hmaskd⟩ := mask_cases nl d hnl h2
  have hB := B_pos
  have hd2 : B ≤ 2 * d := by simp only [B_eq] at *; omega
  -- the multiplier nh - nmask
  have hm : (nh + B - n1 * (B - 1)) % B = nh + n1 := by
    rcases hn1 with ⟨rfl, _⟩ | ⟨rfl, _⟩
    · rw [Nat.zero_mul, Nat.sub_zero, Nat.add_mod_right, Nat.mod_eq_of_lt (by omega), Nat.add_zero]
    · rw [show nh + B - 1 * (B - 1) = nh + 1 by omega, Nat.mod_eq_of_lt (by omega)]
  obtain ⟨nadj, hnadj, hnadj2⟩ : ∃ nadj, (nl + n1 * d) % B = nadj ∧ nadj + n1 * B = nl + n1 * d := by
    refine ⟨_, rfl, ?_⟩
    rcases hn1 with ⟨rfl, _⟩ | ⟨rfl, _⟩
    · simp only [Nat.zero_mul, Nat.add_zero]; exact Nat.mod_eq_of_lt hnl
    · rw [Nat.one_mul, Nat.one_mul, Nat.mod_eq_sub_mod (by omega), Nat.mod_eq_of_lt (by omega)]; omega
  unfold udiv_qrnnd_preinv2
  simp only [hmaskd, hnadj]
  simp only [umul_ppmm_eq, add_ssaaaa_eq, hmask, hm, Nat.div_add_mod']
  have hXdm := Nat.div_add_mod' (di * (nh + n1) + (nh * B + nadj)) B
  have hq0 := Nat.mod_lt (di * (nh + n1) + (nh * B + nadj)) hB
  generalize (di * (nh + n1) + (nh * B + nadj)) / B = q1 at *
  generalize (di * (nh + n1) + (nh * B + nadj)) % B = q0 at *
  obtain ⟨c1, c2⟩ := preinv2_quot d nh nl di n1 nadj q1 q0 hd2 h2 hnh hnl hv1 hv2 hn1 hnadj2 hq0 hXdm.symm
  have hnlt : nh * B + nl < d * B :=
    Nat.lt_of_lt_of_le (by rw [Nat.succ_mul]; omega) (Nat.mul_le_mul_right B hnh)
  have hq1B : q1 < B := Nat.lt_of_mul_lt_mul_right (Nat.lt_of_le_of_lt c1 (Nat.mul_comm d B ▸ hnlt))
  rw [Nat.mod_eq_of_lt hq1B]
  exact preinv2_fixup (nh * B + nl) d q1 h2 c1 c2 hnlt


/-! ### udiv_qrnnd_preinv1 (the branching variant; not selected in this build) -/

/-- the estimate q0 = nh + ⌊nh·di/B⌋ is never too large and at most three too small: 0 ≤ n − q0·d < B + 2d -/
theorem preinv1_core (nh nl d di : Nat) (h1 : B / 2 ≤ d) (h2 : d < B) (hnh : nh < d) (hnl : nl < B)
    (hv1 : (B + di) * d ≤ B * B - 1) (hv2 : B * B - 1 < (B + di + 1) * d) :
    (nh * di / B + nh) * d ≤ nh * B + nl ∧ nh * B + nl < (nh * di / B + nh) * d + B + 2 * d := by
  have hBB : 0 < B * B := Nat.mul_pos B_pos B_pos
  have hdm := Nat.div_add_mod' (nh * di) B
  have hb := Nat.mod_lt (nh * di) B_pos
  generalize nh * di / B = a at *
  generalize nh * di % B = b at *
  -- k = B² − (B+di)·d
  obtain ⟨k, hk, hk1, hk2⟩ : ∃ k, (B + di) * d + k = B * B ∧ 1 ≤ k ∧ k ≤ d := by
    rw [Nat.add_mul _ 1, Nat.one_mul] at hv2
    exact ⟨B * B - (B + di) * d, by omega, by omega, by omega⟩
  zify at hdm hk hnh hnl hb hk2 h2 ⊢
  have hB : (0 : ℤ) < B := by exact_mod_cast B_pos
  -- (n − q0 d)·B = nl·B + nh·k + b·d
  have key : ((nh : ℤ) * B + nl - (a + nh) * d) * B = nl * B + nh * k + b * d := by
    linear_combination (-(d : ℤ)) * hdm - (nh : ℤ) * hk
  have hd0 : (0 : ℤ) ≤ d := Int.natCast_nonneg _
  constructor
  · have : (0 : ℤ) ≤ ((nh : ℤ) * B + nl - (a + nh) * d) * B := by
      rw [key]
      exact add_nonneg (add_nonneg (mul_nonneg (Int.natCast_nonneg _) hB.le)
        (mul_nonneg (Int.natCast_nonneg _) (Int.natCast_nonneg _))) (mul_nonneg (Int.natCast_nonneg _) hd0)
    exact sub_nonneg.mp (nonneg_of_mul_nonneg_left this hB)
  · have b1 : (nl : ℤ) * B ≤ (B - 1) * B := mul_le_mul_of_nonneg_right (by omega) hB.le
    have b2 : (nh : ℤ) * k ≤ (d - 1) * B :=
      mul_le_mul (by omega) (by omega) (Int.natCast_nonneg _) (by omega)
    have b3 : (b : ℤ) * d ≤ (B - 1) * d := mul_le_mul_of_nonneg_right (by omega) hd0
    have : ((nh : ℤ) * B + nl - (a + nh) * d) * B < (B + 2 * d) * B := by
      rw [key]; linear_combination b1 + b2 + b3 + 2 * hB + hd0
    rw [add_assoc]
    exact sub_lt_iff_lt_add'.mp (lt_of_mul_lt_mul_right this hB.le)

/-- the closing `if (_r >= d)`: from n = q·d + r with r < 2d to quotient and remainder -/
theorem preinv1Adj2_eq (q r d : Nat) (hr : r < B) (hrd : r < 2 * d) (hq : (q * d + r) / d < B) :
    preinv1Adj2 q r d = ((q * d + r) / d, (q * d + r) % d) := by
  unfold preinv1Adj2
  by_cases h : r ≥ d
  · obtain ⟨e1, e2⟩ := divmod_of_eq (q * d + r) d (q + 1) (r - d) (by rw [Nat.add_mul]; omega) (by omega)
    rw [e1] at hq
    rw [if_pos h, e1, e2, Nat.mod_eq_of_lt hq]
    have : r + B - d = (r - d) + B := by omega
    rw [this, Nat.add_mod_right, Nat.mod_eq_of_lt (by omega)]
  · obtain ⟨e1, e2⟩ := divmod_of_eq (q * d + r) d q r rfl (by omega)
    rw [if_neg h, e1, e2]

/-- the two-limb corrections bring a remainder R < B + 2d below B, d at a time, keeping q·d + R -/
theorem preinv1Adj1_spec (q R d : Nat) (hd : d < B) (hBd : B ≤ 2 * d) (hR : R < B + 2 * d) (hq : q + R / d < B) :
    (preinv1Adj1 q (R / B) (R % B) d).2 < B ∧
    (preinv1Adj1 q (R / B) (R % B) d).1 * d + (preinv1Adj1 q (R / B) (R % B) d).2 = q * d + R := by
  have hB := B_pos
  have hd0 : 0 < d := by omega
  unfold preinv1Adj1
  by_cases hx : R < B
  · rw [Nat.div_eq_of_lt hx, Nat.mod_eq_of_lt hx]
    exact ⟨hx, rfl⟩
  · have hxh : (R / B != 0) = true := bne_iff_ne.mpr (Nat.div_ne_zero_iff.mpr ⟨hB.ne', by omega⟩)
    have hRBB : R < B * B := by
      have : 3 * B ≤ B * B := Nat.mul_le_mul_right _ (by rw [B_eq]; norm_num)
      omega
    have h1 : 1 ≤ R / d := (Nat.le_div_iff_mul_le hd0).mpr (by omega)
    have hR1 : (R + B * B - (0 * B + d)) % (B * B) = R - d := by
      have : R + B * B - (0 * B + d) = (R - d) + B * B := by omega
      rw [this, Nat.add_mod_right, Nat.mod_eq_of_lt (by omega)]
    rw [if_pos hxh, sub2_eq R 0 d hRBB hB hd, hR1, Nat.mod_eq_of_lt (by omega : q + 1 < B)]
    simp only
    by_cases hx2 : R - d < B
    · rw [Nat.div_eq_of_lt hx2, Nat.mod_eq_of_lt hx2]
      refine ⟨hx2, ?_⟩
      show (q + 1) * d + (R - d) = q * d + R
      rw [Nat.add_mul]; omega
    · have hxh2 : ((R - d) / B != 0) = true := bne_iff_ne.mpr (Nat.div_ne_zero_iff.mpr ⟨hB.ne', by omega⟩)
      have h2 : 2 ≤ R / d := (Nat.le_div_iff_mul_le hd0).mpr (by omega)
      have hr : ((R - d) % B + B - d) % B = R - 2 * d := by
        have e : (R - d) % B = R - d - B := by
          rw [Nat.mod_eq_sub_mod (Nat.le_of_not_lt hx2), Nat.mod_eq_of_lt (by omega)]
        have : R - d - B + B - d = R - 2 * d := by omega
        rw [e, this, Nat.mod_eq_of_lt (by omega)]
      rw [if_pos hxh2, hr, Nat.mod_eq_of_lt (by omega : q + 1 + 1 < B)]
      refine ⟨by omega, ?_⟩
      show (q + 1 + 1) * d + (R - 2 * d) = q * d + R
      rw [Nat.add_mul, Nat.add_mul]; omega

theorem udiv_qrnnd_preinv1_eq (nh nl d di : Nat) (h1 : B / 2 ≤ d) (h2 : d < B) (hnh : nh < d) (hnl : nl < B)
    (hdi : di = invert_limb d) :
    udiv_qrnnd_preinv1 nh nl d di = ((nh * B + nl) / d, (nh * B + nl) % d) := by
  subst hdi
  obtain ⟨hv, hv1, hv2⟩ := invert_limb_bounds d h1 h2
  generalize invert_limb d = di at *
  obtain ⟨c1, c2⟩ := preinv1_core nh nl d di h1 h2 hnh hnl hv1 hv2
  have hB := B_pos
  have hd0 : 0 < d := by omega
  have hBd : B ≤ 2 * d := two_mul_ge_B h1
  have hnlt : nh * B + nl < B * d := by
    have : (nh + 1) * B ≤ d * B := Nat.mul_le_mul_right _ hnh
    rw [Nat.add_mul, Nat.mul_comm d B] at this
    omega
  unfold udiv_qrnnd_preinv1
  simp only [umul_ppmm_eq]
  generalize nh * di / B + nh = q0 at *
  -- n = q0·d + R with R < B + 2d
  obtain ⟨R, hn⟩ : ∃ R, nh * B + nl = q0 * d + R := ⟨_, (Nat.add_sub_cancel' c1).symm⟩
  have hdiv : (nh * B + nl) / d = q0 + R / d := by
    rw [hn, Nat.add_comm, Nat.add_mul_div_right _ _ hd0, Nat.add_comm]
  have hqB : q0 + R / d < B := by rw [← hdiv]; exact (Nat.div_lt_iff_lt_mul hd0).mpr hnlt
  have hXlt : q0 * d < B * B := by
    have : B * d ≤ B * B := Nat.mul_le_mul_left _ (Nat.le_of_lt h2)
    omega
  have h3B : 3 * B ≤ B * B := Nat.mul_le_mul_right _ (by rw [B_eq]; norm_num)
  rw [Nat.mod_eq_of_lt (Nat.lt_of_le_of_lt (Nat.le_add_right _ _) hqB),
    sub_ddmmss_eq nh nl _ _ (by omega) hnl ((Nat.div_lt_iff_lt_mul hB).mpr hXlt) (Nat.mod_lt _ hB),
    Nat.div_add_mod', pair2_mod]
  have hRe : (nh * B + nl + B * B - q0 * d) % (B * B) = R := by
    have : nh * B + nl + B * B - q0 * d = R + B * B := by omega
    rw [this, Nat.add_mod_right, Nat.mod_eq_of_lt (by omega)]
  rw [hRe]
  simp only
  obtain ⟨a1, a2⟩ := preinv1Adj1_spec q0 R d h2 hBd (by omega) hqB
  generalize preinv1Adj1 q0 (R / B) (R % B) d = t at *
  rw [preinv1Adj2_eq t.1 t.2 d a1 (by omega) (by rw [a2, ← hn]; exact (Nat.div_lt_iff_lt_mul hd0).mpr hnlt),
    a2, ← hn]

/-! ### most-significant-first values; the division step `udiv_qrnnd` and the plain loop (divrem_1.c:128-142, mod_1.c:88-95) -/

/-- Horner value of a most-significant-first limb list continued from `acc`, i.e. `acc * B ^ l.length + val l.reverse`
    (`valMS_eq`); the recursion is the step `acc·B + x` of the top-down division loops, so their invariant needs no powers -/
def valMS (acc : Nat) : List Nat → Nat
  | [] => acc
  | x :: xs => valMS (acc * B + x) xs

theorem valMS_cons (a x : Nat) (xs : List Nat) : valMS a (x :: xs) = valMS (a * B + x) xs := rfl

theorem valMS_append (a : Nat) (l1 l2 : List Nat) : valMS a (l1 ++ l2) = valMS (valMS a l1) l2 := by
  induction l1 generalizing a with
  | nil => rfl
  | cons x xs ih => simp only [List.cons_append, valMS, ih]

theorem valMS_eq (a : Nat) (l : List Nat) : valMS a l = a * B ^ l.length + val l.reverse := by
  induction l generalizing a with
  | nil => simp [valMS]
  | cons x xs ih =>
    simp only [valMS, ih, List.reverse_cons, val_append, List.length_reverse, List.length_cons, val_cons, val_nil, pow_succ]
    ring

theorem val_eq_valMS (l : List Nat) : val l = valMS 0 l.reverse := by
  rw [valMS_eq]; simp

theorem valMS_replicate_zero (a k : Nat) : valMS a (List.replicate k 0) = a * B ^ k := by
  induction k generalizing a with
  | zero => simp [valMS]
  | succ k ih => simp only [List.replicate_succ, valMS, ih, pow_succ]; ring

theorem udiv_qrnnd_lt (r n0 d : Nat) (hr : r < d) (hn0 : n0 < B) : (r * B + n0) / d < B := by
  rw [Nat.div_lt_iff_lt_mul (by omega)]
  have : (r + 1) * B ≤ d * B := Nat.mul_le_mul_right _ hr
  have : (r + 1) * B = r * B + B := by ring
  rw [Nat.mul_comm B d]; omega

theorem udiv_qrnnd_fst (r n0 d : Nat) (hr : r < d) (hn0 : n0 < B) :
    (udiv_qrnnd r n0 d).1 = (r * B + n0) / d := by
  show ((r * B + n0) / d) % B = _
  exact Nat.mod_eq_of_lt (udiv_qrnnd_lt r n0 d hr hn0)

theorem udiv_qrnnd_snd (r n0 d : Nat) : (udiv_qrnnd r n0 d).2 = (r * B + n0) % d := rfl

theorem udiv_qrnnd_spec1 (r n0 d : Nat) (hr : r < d) (hn0 : n0 < B) :
    (udiv_qrnnd r n0 d).1 * d + (udiv_qrnnd r n0 d).2 = r * B + n0 := by
  rw [udiv_qrnnd_fst r n0 d hr hn0, udiv_qrnnd_snd, Nat.mul_comm]; exact Nat.div_add_mod _ _

theorem udiv_qrnnd_spec2 (r n0 d : Nat) (hr : r < d) : (udiv_qrnnd r n0 d).2 < d := by
  rw [udiv_qrnnd_snd]; exact Nat.mod_lt _ (by omega)

theorem udiv_qrnnd_spec3 (r n0 d : Nat) (hr : r < d) (hn0 : n0 < B) : (udiv_qrnnd r n0 d).1 < B := by
  rw [udiv_qrnnd_fst r n0 d hr hn0]; exact udiv_qrnnd_lt r n0 d hr hn0

theorem udiv_qrnnd_eq (r n0 d : Nat) (hr : r < d) (hn0 : n0 < B) :
    udiv_qrnnd r n0 d = ((r * B + n0) / d, (r * B + n0) % d) :=
  Prod.ext (udiv_qrnnd_fst r n0 d hr hn0) (udiv_qrnnd_snd r n0 d)

theorem udiv_qrnnd_spec (r n0 d : Nat) (hr : r < d) (hn0 : n0 < B) :
    (udiv_qrnnd r n0 d).1 * d + (udiv_qrnnd r n0 d).2 = r * B + n0 ∧ (udiv_qrnnd r n0 d).2 < d ∧
    (udiv_qrnnd r n0 d).1 < B :=
  ⟨udiv_qrnnd_spec1 r n0 d hr hn0, udiv_qrnnd_spec2 r n0 d hr, udiv_qrnnd_spec3 r n0 d hr hn0⟩


theorem plainLoop_cons (d n0 : Nat) (ns : List Nat) (r : Nat) :
    plainLoop d (n0 :: ns) r = ((udiv_qrnnd r n0 d).1 :: (plainLoop d ns (udiv_qrnnd r n0 d).2).1,
      (plainLoop d ns (udiv_qrnnd r n0 d).2).2) := rfl

/-- the plain loop: Horner invariant `N = Q·d + r`. -/
theorem plainLoop_spec (d : Nat) (ms : List Nat) : ∀ (r Q : Nat), r < d → Limbs ms →
    valMS (Q * d + r) ms = valMS Q (plainLoop d ms r).1 * d + (plainLoop d ms r).2 ∧
    (plainLoop d ms r).2 < d ∧ Limbs (plainLoop d ms r).1 ∧ (plainLoop d ms r).1.length = ms.length := by
  induction ms with
  | nil => intro r Q hr _; exact ⟨rfl, hr, Limbs_nil, rfl⟩
  | cons n0 ns ih =>
    intro r Q hr hl
    have ⟨h0, hns⟩ := Limbs_cons.mp hl
    obtain ⟨e, hr', hq⟩ := udiv_qrnnd_spec r n0 d hr h0
    have ih := ih (udiv_qrnnd r n0 d).2 (Q * B + (udiv_qrnnd r n0 d).1) hr' hns
    rw [plainLoop_cons, valMS_cons]
    generalize (udiv_qrnnd r n0 d).1 = q at *
    generalize (udiv_qrnnd r n0 d).2 = r' at *
    obtain ⟨i1, i2, i3, i4⟩ := ih
    have : (Q * d + r) * B + n0 = (Q * B + q) * d + r' := by
      have : (Q * d + r) * B + n0 = Q * B * d + (r * B + n0) := by ring
      rw [this, ← e]; ring
    rw [this, i1]
    exact ⟨by rw [valMS_cons], i2, Limbs_cons.mpr ⟨hq, i3⟩, by rw [List.length_cons, List.length_cons, i4]⟩

/-! ### the loop with the precomputed inverse is the plain loop -/

theorem udiv_qrnnd_preinv_eq (r n0 d : Nat) (h1 : B / 2 ≤ d) (h2 : d < B) (hr : r < d) (hn0 : n0 < B) :
    udiv_qrnnd_preinv r n0 d (invert_limb d) = udiv_qrnnd r n0 d := by
  rw [udiv_qrnnd_eq r n0 d hr hn0]; exact udiv_qrnnd_preinv2_eq r n0 d h1 h2 hr hn0

theorem preinvLoop_cons (d di n0 : Nat) (ns : List Nat) (r : Nat) :
    preinvLoop d di (n0 :: ns) r = ((udiv_qrnnd_preinv r n0 d di).1 :: (preinvLoop d di ns (udiv_qrnnd_preinv r n0 d di).2).1,
      (preinvLoop d di ns (udiv_qrnnd_preinv r n0 d di).2).2) := rfl

theorem preinvLoop_eq (d : Nat) (h1 : B / 2 ≤ d) (h2 : d < B) (ms : List Nat) : ∀ (r : Nat), r < d → Limbs ms →
    preinvLoop d (invert_limb d) ms r = plainLoop d ms r := by
  induction ms with
  | nil => intro r _ _; rfl
  | cons n0 ns ih =>
    intro r hr hl
    have ⟨h0, hns⟩ := Limbs_cons.mp hl
    obtain ⟨_, hr', _⟩ := udiv_qrnnd_spec r n0 d hr h0
    rw [preinvLoop_cons, plainLoop_cons, udiv_qrnnd_preinv_eq r n0 d h1 h2 hr h0, ih _ hr' hns]


/-! ### count_leading_zeros, a limb split at a bit, and one step of every loop that shifts the dividend on the fly -/

theorem clz_spec (d : Nat) (hd0 : d ≠ 0) (hdB : d < B) :
    count_leading_zeros d ≤ 63 ∧ B / 2 ≤ d * 2 ^ count_leading_zeros d ∧ d * 2 ^ count_leading_zeros d < B := by
  unfold count_leading_zeros
  have h1 := Nat.log2_self_le hd0
  have h2 := @Nat.lt_log2_self d
  have h3 : d.log2 < 64 := (Nat.log2_lt hd0).mpr hdB
  generalize d.log2 = k at *
  refine ⟨by omega, ?_, ?_⟩
  · have : B / 2 = 2 ^ k * 2 ^ (63 - k) := by
      rw [← pow_add]; have : k + (63 - k) = 63 := by omega
      rw [this]; rfl
    rw [this]; exact Nat.mul_le_mul_right _ h1
  · have : B = 2 ^ (k + 1) * 2 ^ (63 - k) := by
      rw [← pow_add]; have : k + 1 + (63 - k) = 64 := by omega
      rw [this]; rfl
    rw [this]; exact Nat.mul_lt_mul_of_pos_right h2 (by positivity)

/-- splitting a limb at bit 64-s: high part (as computed by `(l >> (63-s)) >> 1`), low part shifted up. -/
theorem limb_split (l s : Nat) (hs : s ≤ 63) :
    (l >>> (63 - s)) >>> 1 = l / 2 ^ (64 - s) ∧ (l <<< s) % B = (l % 2 ^ (64 - s)) * 2 ^ s := by
  constructor
  · rw [Nat.shiftRight_eq_div_pow, Nat.shiftRight_eq_div_pow, Nat.div_div_eq_div_mul, ← pow_succ]
    congr 2; omega
  · rw [shl_mod_B l s (by omega), Nat.mul_comm]

theorem limb_split_sum (l s : Nat) (hs : s ≤ 64) :
    (l / 2 ^ (64 - s)) * B + (l % 2 ^ (64 - s)) * 2 ^ s = l * 2 ^ s := by
  have h := Nat.div_add_mod l (2 ^ (64 - s))
  rw [B_split s hs, Nat.mul_comm (2 ^ s)]
  generalize l / 2 ^ (64 - s) = a at *
  generalize l % 2 ^ (64 - s) = b at *
  generalize 2 ^ (64 - s) = T at *
  rw [← h]; ring

theorem limb_hi_lt (l s : Nat) (hl : l < B) (hs : s ≤ 64) : l / 2 ^ (64 - s) < 2 ^ s :=
  Nat.shiftRight_eq_div_pow l _ ▸ shr_lt l s hs hl

/-- `(a << s) mod B | (b >> (64-s))` is a sum -/
theorem shl_or (a b s : Nat) (hb : b < B) (hs1 : 1 ≤ s) (hs : s ≤ 63) :
    ((a <<< s) % B) ||| (b >>> (64 - s)) = (a % 2 ^ (64 - s)) * 2 ^ s + b / 2 ^ (64 - s) := by
  rw [shl_mod_B a s (by omega), ← Nat.two_pow_add_eq_or_of_lt (shr_lt b s (by omega) hb),
    Nat.shiftRight_eq_div_pow, Nat.mul_comm]


theorem shifted_start_lt (r d n1 s : Nat) (hr : r < d) (hn1 : n1 < B) (hs : s ≤ 64) :
    r * 2 ^ s + n1 / 2 ^ (64 - s) < d * 2 ^ s := by
  have := limb_hi_lt n1 s hn1 hs
  have : (r + 1) * 2 ^ s ≤ d * 2 ^ s := Nat.mul_le_mul_right _ hr
  have : (r + 1) * 2 ^ s = r * 2 ^ s + 2 ^ s := by ring
  omega

theorem or_shift_sum (r n1 s : Nat) (hn1 : n1 < B) (hs : s ≤ 64) :
    r * 2 ^ s ||| n1 >>> (64 - s) = r * 2 ^ s + n1 / 2 ^ (64 - s) := by
  rw [Nat.shiftRight_eq_div_pow, ← Nat.shiftLeft_eq]
  exact (Nat.shiftLeft_add_eq_or_of_lt (limb_hi_lt n1 s hn1 hs) _).symm

/-- one step of every loop that shifts the dividend on the fly is the plain step of the unshifted problem, the
    remainder scaled by `2^s`; `e` is 0 or the high bits of the next limb -/
theorem scaled_step (d0 s l r0 e : Nat) (hs : s ≤ 63) (h1 : B / 2 ≤ d0 * 2 ^ s) (h2 : d0 * 2 ^ s < B)
    (hr : r0 < d0) (hl : l < B) (he : e < 2 ^ s) :
    udiv_qrnnd_preinv (r0 * 2 ^ s + l / 2 ^ (64 - s)) (l % 2 ^ (64 - s) * 2 ^ s + e) (d0 * 2 ^ s)
        (invert_limb (d0 * 2 ^ s))
      = ((udiv_qrnnd r0 l d0).1, (udiv_qrnnd r0 l d0).2 * 2 ^ s + e) := by
  have hlt := shifted_start_lt r0 d0 l s hr hl (by omega)
  have hlo : l % 2 ^ (64 - s) * 2 ^ s + e < B := by
    have h := Nat.mod_lt l (show 0 < 2 ^ (64 - s) by positivity)
    have h3 : (l % 2 ^ (64 - s) + 1) * 2 ^ s ≤ 2 ^ (64 - s) * 2 ^ s := Nat.mul_le_mul_right _ h
    have h4 : (l % 2 ^ (64 - s) + 1) * 2 ^ s = l % 2 ^ (64 - s) * 2 ^ s + 2 ^ s := by ring
    rw [B_split s (by omega), Nat.mul_comm (2 ^ s)]; omega
  rw [udiv_qrnnd_preinv_eq _ _ _ h1 h2 hlt hlo, udiv_qrnnd_eq _ _ _ hlt hlo, udiv_qrnnd_eq _ _ _ hr hl]
  have : (r0 * 2 ^ s + l / 2 ^ (64 - s)) * B + (l % 2 ^ (64 - s) * 2 ^ s + e) = (r0 * B + l) * 2 ^ s + e := by
    have := limb_split_sum l s (by omega)
    calc _ = r0 * 2 ^ s * B + (l / 2 ^ (64 - s) * B + l % 2 ^ (64 - s) * 2 ^ s) + e := by ring
      _ = _ := by rw [this]; ring
  obtain ⟨a, b⟩ := scaled_divmod (r0 * B + l) d0 (2 ^ s) e he
  rw [this, a, b]


/-! ### mpn_divrem_euclidean_qr_1 (divrem_euclidean_qr_1.c) -/

theorem euclidLoop_cons (d i s l : Nat) (ls : List Nat) (r : Nat) :
    euclidLoop d i s (l :: ls) r =
      ((udiv_qrnnd_preinv ((((l >>> (63 - s)) >>> 1) + r) % B) ((l <<< s) % B) d i).1 ::
        (euclidLoop d i s ls (udiv_qrnnd_preinv ((((l >>> (63 - s)) >>> 1) + r) % B) ((l <<< s) % B) d i).2).1,
       (euclidLoop d i s ls (udiv_qrnnd_preinv ((((l >>> (63 - s)) >>> 1) + r) % B) ((l <<< s) % B) d i).2).2) := rfl

theorem euclid_step (d0 s l r0 : Nat) (hs : s ≤ 63) (h1 : B / 2 ≤ d0 * 2 ^ s) (h2 : d0 * 2 ^ s < B)
    (hr : r0 < d0) (hl : l < B) :
    udiv_qrnnd_preinv ((((l >>> (63 - s)) >>> 1) + r0 * 2 ^ s) % B) ((l <<< s) % B) (d0 * 2 ^ s) (invert_limb (d0 * 2 ^ s))
      = ((udiv_qrnnd r0 l d0).1, (udiv_qrnnd r0 l d0).2 * 2 ^ s) := by
  obtain ⟨e1, e2⟩ := limb_split l s hs
  have hlt := shifted_start_lt r0 d0 l s hr hl (by omega)
  have := scaled_step d0 s l r0 0 hs h1 h2 hr hl (by positivity)
  rw [Nat.add_zero, Nat.add_zero] at this
  rw [e1, e2, Nat.add_comm, Nat.mod_eq_of_lt (by omega), this]


theorem euclidLoop_eq (d0 s : Nat) (hs : s ≤ 63) (h1 : B / 2 ≤ d0 * 2 ^ s) (h2 : d0 * 2 ^ s < B) (ls : List Nat) :
    ∀ r0, r0 < d0 → Limbs ls →
    euclidLoop (d0 * 2 ^ s) (invert_limb (d0 * 2 ^ s)) s ls (r0 * 2 ^ s) =
      ((plainLoop d0 ls r0).1, (plainLoop d0 ls r0).2 * 2 ^ s) := by
  induction ls with
  | nil => intro r0 _ _; rfl
  | cons l ls ih =>
    intro r0 hr hl
    have ⟨h0, hls⟩ := Limbs_cons.mp hl
    rw [euclidLoop_cons, euclid_step d0 s l r0 hs h1 h2 hr h0, plainLoop_cons]
    simp only
    rw [ih _ (udiv_qrnnd_spec2 r0 l d0 hr) hls]

theorem divrem_euclidean_qr_1_eq (x : List Nat) (d : Nat) (hx : Limbs x) (hd0 : d ≠ 0) (hdB : d < B) :
    divrem_euclidean_qr_1 x d = ((plainLoop d x.reverse 0).1.reverse, (plainLoop d x.reverse 0).2) := by
  obtain ⟨hs, h1, h2⟩ := clz_spec d hd0 hdB
  unfold divrem_euclidean_qr_1
  simp only
  rw [Nat.shiftLeft_eq, Nat.mod_eq_of_lt h2]
  have := euclidLoop_eq d _ hs h1 h2 x.reverse 0 (by omega) (Limbs_reverse hx)
  rw [Nat.zero_mul] at this
  rw [this]
  simp only
  rw [Nat.shiftRight_eq_div_pow, Nat.mul_div_cancel _ (by positivity)]


/-! ### the unnormalised loops of divrem_1.c:226-243 and mod_1.c:163-173, and the fraction limbs -/

theorem unnormLoop_nil (d di s n1 r : Nat) :
    unnormLoop d di s n1 [] r =
      ([(udiv_qrnnd_preinv r ((n1 <<< s) % B) d di).1], (udiv_qrnnd_preinv r ((n1 <<< s) % B) d di).2) := rfl

theorem unnormLoop_cons (d di s n1 n0 : Nat) (ns : List Nat) (r : Nat) :
    unnormLoop d di s n1 (n0 :: ns) r =
      ((udiv_qrnnd_preinv r (((n1 <<< s) % B) ||| (n0 >>> (64 - s))) d di).1 ::
        (unnormLoop d di s n0 ns (udiv_qrnnd_preinv r (((n1 <<< s) % B) ||| (n0 >>> (64 - s))) d di).2).1,
       (unnormLoop d di s n0 ns (udiv_qrnnd_preinv r (((n1 <<< s) % B) ||| (n0 >>> (64 - s))) d di).2).2) := rfl

/-- divrem_1.c:226-239 / mod_1.c:163-173 run one limb behind: the pending limb `n1` has its high bits already in the remainder -/
theorem unnormLoop_eq_plain (d0 s : Nat) (hs1 : 1 ≤ s) (hs : s ≤ 63) (h1 : B / 2 ≤ d0 * 2 ^ s)
    (h2 : d0 * 2 ^ s < B) (rest : List Nat) : ∀ n1 r0, r0 < d0 → n1 < B → Limbs rest →
    unnormLoop (d0 * 2 ^ s) (invert_limb (d0 * 2 ^ s)) s n1 rest (r0 * 2 ^ s + n1 / 2 ^ (64 - s)) =
      ((plainLoop d0 (n1 :: rest) r0).1, (plainLoop d0 (n1 :: rest) r0).2 * 2 ^ s) := by
  induction rest with
  | nil =>
    intro n1 r0 hr hn1 _
    have := scaled_step d0 s n1 r0 0 hs h1 h2 hr hn1 (by positivity)
    rw [Nat.add_zero, Nat.add_zero] at this
    rw [unnormLoop_nil, (limb_split n1 s hs).2, this]; rfl
  | cons n0 ns ih =>
    intro n1 r0 hr hn1 hl
    have ⟨h0, hns⟩ := Limbs_cons.mp hl
    rw [unnormLoop_cons, shl_or n1 n0 s h0 hs1 hs,
      scaled_step d0 s n1 r0 _ hs h1 h2 hr hn1 (limb_hi_lt n0 s h0 (by omega)), plainLoop_cons]
    simp only
    rw [ih n0 _ (udiv_qrnnd_spec2 r0 n1 d0 hr) h0 hns]

theorem preinvLoop_zeros_eq_plain (d0 s : Nat) (hs : s ≤ 63) (h1 : B / 2 ≤ d0 * 2 ^ s) (h2 : d0 * 2 ^ s < B) :
    ∀ (k r0 : Nat), r0 < d0 →
    preinvLoop (d0 * 2 ^ s) (invert_limb (d0 * 2 ^ s)) (List.replicate k 0) (r0 * 2 ^ s) =
      ((plainLoop d0 (List.replicate k 0) r0).1, (plainLoop d0 (List.replicate k 0) r0).2 * 2 ^ s)
  | 0, _, _ => rfl
  | k + 1, r0, hr => by
    have := scaled_step d0 s 0 r0 0 hs h1 h2 hr B_pos (by positivity)
    simp only [Nat.zero_div, Nat.zero_mod, Nat.zero_mul, Nat.add_zero] at this
    rw [List.replicate_succ, preinvLoop_cons, this, plainLoop_cons]
    simp only
    rw [preinvLoop_zeros_eq_plain d0 s hs h1 h2 k _ (udiv_qrnnd_spec2 r0 0 d0 hr)]

theorem unnormFeed_eq_plain (d s : Nat) (hs1 : 1 ≤ s) (hs : s ≤ 63) (h1 : B / 2 ≤ d * 2 ^ s) (h2 : d * 2 ^ s < B)
    (ms : List Nat) (r : Nat) (hr : r < d) (hms : Limbs ms) :
    unnormFeed (d * 2 ^ s) (invert_limb (d * 2 ^ s)) s ms (r * 2 ^ s) =
      ((plainLoop d ms r).1, (plainLoop d ms r).2 * 2 ^ s) := by
  cases ms with
  | nil => rfl
  | cons n1 rest =>
    have ⟨hn1, hrest⟩ := Limbs_cons.mp hms
    show unnormLoop _ _ s n1 rest (r * 2 ^ s ||| n1 >>> (64 - s)) = _
    rw [or_shift_sum r n1 s hn1 (by omega), unnormLoop_eq_plain d s hs1 hs h1 h2 rest n1 r hr hn1 hrest]

/-! ### consequences for the plain loop -/

theorem plainLoop_append (d : Nat) (a b : List Nat) : ∀ r,
    plainLoop d (a ++ b) r =
      ((plainLoop d a r).1 ++ (plainLoop d b (plainLoop d a r).2).1, (plainLoop d b (plainLoop d a r).2).2) := by
  induction a with
  | nil => intro r; rfl
  | cons x xs ih =>
    intro r
    rw [List.cons_append, plainLoop_cons, plainLoop_cons, ih]; rfl

theorem valMS_mod (d : Nat) (l : List Nat) : ∀ a, valMS a l % d = valMS (a % d) l % d := by
  induction l with
  | nil => intro a; simp [valMS]
  | cons x xs ih =>
    intro a
    have key : (a * B + x) % d = ((a % d) * B + x) % d := by
      conv_lhs => rw [Nat.add_mod, Nat.mul_mod]
      conv_rhs => rw [Nat.add_mod, Nat.mul_mod, Nat.mod_mod]
    rw [valMS_cons, valMS_cons, ih, ih ((a % d) * B + x), key]

theorem plainLoop_rem (d : Nat) (ms : List Nat) (r : Nat) (hr : r < d) (hl : Limbs ms) :
    (plainLoop d ms r).2 = valMS r ms % d := by
  obtain ⟨e, h2, _, _⟩ := plainLoop_spec d ms r 0 hr hl
  rw [Nat.zero_mul, Nat.zero_add] at e
  rw [e, Nat.mul_add_mod_self_right, Nat.mod_eq_of_lt h2]


theorem plainLoop_first (d top : Nat) (rest : List Nat) (htop : top < B) (hd0 : 0 < d) :
    plainLoop d (top :: rest) 0 = (top / d :: (plainLoop d rest (top % d)).1, (plainLoop d rest (top % d)).2) := by
  rw [plainLoop_cons, udiv_qrnnd_eq 0 top d hd0 htop, Nat.zero_mul, Nat.zero_add]

/-! ### mpn_mod_1, mpn_preinv_mod_1 (mod_1.c, preinv_mod_1.c) -/

theorem HIGHBIT_eq : HIGHBIT = 2 ^ 63 := rfl

theorem and_two_pow' (d n : Nat) (hd : d < 2 ^ (n + 1)) : d &&& 2 ^ n = if 2 ^ n ≤ d then 2 ^ n else 0 := by
  apply Nat.eq_of_testBit_eq
  intro i
  rw [Nat.testBit_and, Nat.testBit_two_pow]
  have hp : 0 < 2 ^ n := by positivity
  by_cases hi : n = i
  · subst hi
    rw [Nat.testBit_eq_decide_div_mod_eq]
    have hlt : d / 2 ^ n < 2 := by
      rw [Nat.div_lt_iff_lt_mul hp, Nat.mul_comm, ← pow_succ]; exact hd
    split
    · rename_i h
      have : 1 ≤ d / 2 ^ n := (Nat.one_le_div_iff hp).mpr h
      rw [Nat.testBit_two_pow]; simp; omega
    · rename_i h
      have : d / 2 ^ n = 0 := Nat.div_eq_of_lt (by omega)
      simp [this]
  · simp only [hi, decide_false, Bool.and_false]
    split
    · rw [Nat.testBit_two_pow]; simp [hi]
    · simp

/-- the C test `(d & GMP_LIMB_HIGHBIT) != 0` -/
theorem highbit_test (d : Nat) (hd : d < B) : (d &&& HIGHBIT != 0) = decide (B / 2 ≤ d) := by
  rw [HIGHBIT_eq, and_two_pow' d 63 hd]
  have e : B / 2 = 2 ^ 63 := rfl
  rw [e]
  by_cases h : 2 ^ 63 ≤ d
  · simp only [h, if_true, decide_true]; decide
  · simp only [h, if_false, decide_false]; decide

/-- first step of the normalised paths: r = top - d if top ≥ d -/
theorem norm_first (top d : Nat) (htop : top < B) (h1 : B / 2 ≤ d) (h2 : d < B) :
    (if top ≥ d then (top + B - d) % B else top) = top % d ∧
    (top + B - (d &&& ((B - (if top ≥ d then 1 else 0)) % B))) % B = top % d ∧
    (if top ≥ d then 1 else 0) * d + top % d = top := by
  by_cases h : top ≥ d
  · have hm : top % d = top - d := by
      rw [Nat.mod_eq_sub_mod h]; exact Nat.mod_eq_of_lt (by simp only [B_eq] at *; omega)
    rw [hm]
    have e1 : (B - 1) % B = B - 1 := Nat.mod_eq_of_lt (by have := B_pos; omega)
    simp only [h, if_true, e1, and_mask' d h2]
    simp only [B_eq] at *; omega
  · have hm : top % d = top := Nat.mod_eq_of_lt (by omega)
    have e1 : (B - 0) % B = 0 := by simp
    simp only [h, if_false, e1, Nat.and_zero]
    simp only [B_eq] at *; omega

theorem mod1Norm_eq (top : Nat) (rest : List Nat) (d : Nat) (htop : top < B) (hrest : Limbs rest)
    (h1 : B / 2 ≤ d) (h2 : d < B) : mod1Norm top rest d = valMS top rest % d := by
  obtain ⟨e1, _, _⟩ := norm_first top d htop h1 h2
  have hd0 : 0 < d := by simp only [B_eq] at h1; omega
  have hr : top % d < d := Nat.mod_lt _ hd0
  unfold mod1Norm
  simp only [e1]
  rw [valMS_mod]
  cases rest with
  | nil => simp [valMS, Nat.mod_eq_of_lt hr]
  | cons x xs =>
    simp only [List.isEmpty_cons, Bool.false_eq_true, if_false]
    split
    · exact plainLoop_rem d _ _ hr hrest
    · rw [preinvLoop_eq d h1 h2 _ _ hr hrest]; exact plainLoop_rem d _ _ hr hrest

theorem mod1Unnorm_eq (top : Nat) (rest : List Nat) (d : Nat) (htop : top < B) (hrest : Limbs rest)
    (hd0 : 0 < d) (hd : d < B / 2) : mod1Unnorm top rest d = valMS top rest % d := by
  have hdB : d < B := by simp only [B_eq] at *; omega
  obtain ⟨r, ms, hrm, hr, hms, hval⟩ : ∃ r ms, (if top < d then (top, rest) else (0, top :: rest)) = (r, ms) ∧
      r < d ∧ Limbs ms ∧ valMS r ms = valMS top rest := by
    by_cases h : top < d
    · exact ⟨top, rest, by simp [h], h, hrest, rfl⟩
    · refine ⟨0, top :: rest, by simp [h], hd0, Limbs_cons.mpr ⟨htop, hrest⟩, ?_⟩
      rw [valMS_cons, Nat.zero_mul, Nat.zero_add]
  unfold mod1Unnorm
  rw [hrm, ← hval]
  simp only
  cases ms with
  | nil => simp [valMS, Nat.mod_eq_of_lt hr]
  | cons n1 ns =>
    simp only
    have ⟨hn1, hns⟩ := Limbs_cons.mp hms
    split
    · exact plainLoop_rem d _ _ hr hms
    · obtain ⟨hs, c1, c2⟩ := clz_spec d (by omega) hdB
      have hs1 : 1 ≤ count_leading_zeros d := by
        rcases Nat.eq_zero_or_pos (count_leading_zeros d) with h | h
        · rw [h] at c1; simp only [B_eq] at *; omega
        · exact h
      generalize count_leading_zeros d = s at *
      have hrs : r * 2 ^ s < d * 2 ^ s := Nat.mul_lt_mul_of_pos_right hr (by positivity)
      rw [Nat.shiftLeft_eq, Nat.mod_eq_of_lt c2, Nat.shiftLeft_eq, Nat.mod_eq_of_lt (by omega),
        or_shift_sum r n1 s hn1 (by omega), unnormLoop_eq_plain d s hs1 hs c1 c2 ns n1 r hr hn1 hns]
      simp only
      rw [Nat.shiftRight_eq_div_pow, Nat.mul_div_cancel _ (by positivity), plainLoop_rem d _ _ hr hms]


theorem mod_1_eq (u : List Nat) (d : Nat) (hu : Limbs u) (hd0 : 0 < d) (hdB : d < B) :
    mod_1 u d = val u % d := by
  rw [val_eq_valMS]
  unfold mod_1
  have hl := Limbs_reverse hu
  cases h : u.reverse with
  | nil => simp [valMS]
  | cons top rest =>
    rw [h] at hl
    have ⟨htop, hrest⟩ := Limbs_cons.mp hl
    simp only
    rw [highbit_test d hdB, valMS_cons, Nat.zero_mul, Nat.zero_add]
    by_cases hn : B / 2 ≤ d
    · simp only [hn, decide_true, if_true]; exact mod1Norm_eq top rest d htop hrest hn hdB
    · simp only [hn, decide_false, Bool.false_eq_true, if_false]
      exact mod1Unnorm_eq top rest d htop hrest hd0 (by omega)

theorem preinv_mod_1_eq (u : List Nat) (d : Nat) (hu : Limbs u) (h1 : B / 2 ≤ d) (h2 : d < B) :
    preinv_mod_1 u d (invert_limb d) = val u % d := by
  rw [val_eq_valMS]
  unfold preinv_mod_1
  have hl := Limbs_reverse hu
  have hd0 : 0 < d := by simp only [B_eq] at h1; omega
  cases h : u.reverse with
  | nil => simp [valMS]
  | cons top rest =>
    rw [h] at hl
    have ⟨htop, hrest⟩ := Limbs_cons.mp hl
    obtain ⟨e1, _, _⟩ := norm_first top d htop h1 h2
    have hr : top % d < d := Nat.mod_lt _ hd0
    simp only [e1]
    rw [preinvLoop_eq d h1 h2 _ _ hr hrest, plainLoop_rem d _ _ hr hrest, valMS_cons, Nat.zero_mul, Nat.zero_add,
      ← valMS_mod]


/-! ### mpn_divrem_1 (divrem_1.c) on its Euclidean paths -/

/-- result contract of mpn_divrem_1, least-significant-first -/
def Divrem1Spec (qxn : Nat) (u : List Nat) (d : Nat) (res : List Nat × Nat) : Prop :=
  val res.1 * d + res.2 = val u * B ^ qxn ∧ res.2 < d ∧ Limbs res.1 ∧ res.1.length = u.length + qxn

theorem plainLoop_Divrem1Spec (qxn : Nat) (u : List Nat) (d : Nat) (hu : Limbs u) (hd0 : 0 < d) :
    Divrem1Spec qxn u d ((plainLoop d (u.reverse ++ List.replicate qxn 0) 0).1.reverse,
      (plainLoop d (u.reverse ++ List.replicate qxn 0) 0).2) := by
  obtain ⟨e, a, b, c⟩ := plainLoop_spec d (u.reverse ++ List.replicate qxn 0) 0 0 hd0
    (Limbs_append.mpr ⟨Limbs_reverse hu, Limbs_replicate_zero qxn⟩)
  rw [Nat.zero_mul, Nat.zero_add, valMS_append, valMS_replicate_zero, ← val_eq_valMS] at e
  refine ⟨?_, a, Limbs_reverse b, ?_⟩
  · show val (plainLoop d _ 0).1.reverse * d + _ = _
    rw [val_eq_valMS, List.reverse_reverse, e]
  · show (plainLoop d _ 0).1.reverse.length = _
    rw [List.length_reverse, c, List.length_append, List.length_reverse, List.length_replicate]

/-- divrem_1.c, normalised divisor: the high quotient limb (0 or 1) is the plain loop's first step -/
theorem divrem1Norm_eq_plain (ms : List Nat) (k d : Nat) (hms : Limbs ms) (h1 : B / 2 ≤ d) (h2 : d < B) :
    divrem1Norm ms (List.replicate k 0) d = plainLoop d (ms ++ List.replicate k 0) 0 := by
  have hd0 : 0 < d := by simp only [B_eq] at h1; omega
  have hfr := Limbs_replicate_zero k
  have hloop : ∀ (l : List Nat) (r : Nat), r < d → Limbs l → preinvLoop d (invert_limb d) l r = plainLoop d l r :=
    fun l r hr hl => preinvLoop_eq d h1 h2 l r hr hl
  unfold divrem1Norm
  cases ms with
  | nil =>
    simp only [List.nil_append]
    rw [hloop _ 0 hd0 hfr]; split <;> rfl
  | cons top rest =>
    have ⟨htop, hrest⟩ := Limbs_cons.mp hms
    obtain ⟨_, e2, e3⟩ := norm_first top d htop h1 h2
    have hq : top / d = if top ≥ d then 1 else 0 :=
      (divmod_of_eq top d _ _ (by rw [e3]) (Nat.mod_lt _ hd0)).1
    simp only [e2, List.cons_append, List.nil_append]
    rw [hloop _ _ (Nat.mod_lt _ hd0) (Limbs_append.mpr ⟨hrest, hfr⟩), plainLoop_first d top _ htop hd0, hq]
    split <;> rfl

/-- divrem_1.c, unnormalised divisor: skip step, threshold choice and normalisation shift all disappear -/
theorem divrem1Unnorm_eq_plain (ms : List Nat) (k d : Nat) (hms : Limbs ms) (hd0 : 0 < d) (hd : d < B / 2) :
    divrem1Unnorm ms (List.replicate k 0) d = plainLoop d (ms ++ List.replicate k 0) 0 := by
  have hdB : d < B := by simp only [B_eq] at *; omega
  have hfr := Limbs_replicate_zero k
  -- the skip step is the plain loop's first step when `n1 < d`, and nothing otherwise
  obtain ⟨qh, r, ms', hsk, hr, hms', hpl⟩ : ∃ qh r ms', divrem1Skip ms d = (qh, r, ms') ∧ r < d ∧ Limbs ms' ∧
      ∀ l, plainLoop d (ms ++ l) 0 = (qh ++ (plainLoop d (ms' ++ l) r).1, (plainLoop d (ms' ++ l) r).2) := by
    cases ms with
    | nil => exact ⟨[], 0, [], rfl, hd0, Limbs_nil, fun _ => rfl⟩
    | cons n1 rest =>
      have ⟨hn1, hrest⟩ := Limbs_cons.mp hms
      by_cases h : n1 < d
      · refine ⟨[0], n1, rest, by simp [divrem1Skip, h], h, hrest, fun l => ?_⟩
        rw [List.cons_append, plainLoop_first d n1 _ hn1 hd0, Nat.div_eq_of_lt h, Nat.mod_eq_of_lt h]; rfl
      · exact ⟨[], 0, n1 :: rest, by simp [divrem1Skip, h], hd0, hms, fun _ => rfl⟩
  unfold divrem1Unnorm
  rw [hsk, hpl]
  simp only [List.length_replicate]
  split
  · rename_i hn
    have hm0 : ms' = [] := List.eq_nil_of_length_eq_zero (by omega)
    have hk0 : k = 0 := by omega
    subst hm0 hk0; simp [plainLoop]
  · split
    · rfl
    · obtain ⟨hs, c1, c2⟩ := clz_spec d (by omega) hdB
      have hs1 : 1 ≤ count_leading_zeros d := by
        rcases Nat.eq_zero_or_pos (count_leading_zeros d) with h | h
        · rw [h] at c1; simp only [B_eq] at *; omega
        · exact h
      generalize count_leading_zeros d = s at *
      have hrs : r * 2 ^ s < d * 2 ^ s := Nat.mul_lt_mul_of_pos_right hr (by positivity)
      rw [Nat.shiftLeft_eq, Nat.mod_eq_of_lt c2, Nat.shiftLeft_eq, Nat.mod_eq_of_lt (by omega),
        unnormFeed_eq_plain d s hs1 hs c1 c2 ms' r hr hms',
        preinvLoop_zeros_eq_plain d s hs c1 c2 k _ (plainLoop_spec d ms' r 0 hr hms').2.1, plainLoop_append]
      simp only [Nat.shiftRight_eq_div_pow, Nat.mul_div_cancel _ (show 0 < 2 ^ s by positivity), List.append_assoc]

theorem divrem_euclidean_qr_1_spec (u : List Nat) (d : Nat) (hu : Limbs u) (hd0 : 0 < d) (hdB : d < B) :
    Divrem1Spec 0 u d (divrem_euclidean_qr_1 u d) := by
  have := plainLoop_Divrem1Spec 0 u d hu hd0
  rw [List.replicate_zero, List.append_nil] at this
  rw [divrem_euclidean_qr_1_eq u d hu (by omega) hdB]; exact this

/-- mpn_divrem_1 on every path except the Hensel one (qxn = 0, small d, un ≥ DIVREM_EUCLID_HENSEL_THRESHOLD) -/
theorem divrem_1_spec_nohensel (qxn : Nat) (u : List Nat) (d : Nat) (hu : Limbs u) (hd0 : 0 < d) (hdB : d < B)
    (hnh : (decide (qxn = 0) && (decide (d ≤ HIGHBIT / 2 + 1) &&
      ABOVE_THRESHOLD u.length Gen.DIVREM_EUCLID_HENSEL_THRESHOLD)) = false) :
    Divrem1Spec qxn u d (divrem_1 qxn u d) := by
  unfold divrem_1
  simp only [hnh, Bool.false_eq_true, if_false]
  split
  · rename_i h0
    have hu0 : u = [] := List.eq_nil_of_length_eq_zero (by omega)
    have hq0 : qxn = 0 := by omega
    subst hu0 hq0
    exact ⟨by simp, hd0, Limbs_nil, rfl⟩
  · split
    · rename_i hq; subst hq
      exact divrem_euclidean_qr_1_spec u d hu hd0 hdB
    · rw [highbit_test d hdB]
      by_cases hn : B / 2 ≤ d
      · simp only [hn, decide_true, if_true]
        rw [divrem1Norm_eq_plain u.reverse qxn d (Limbs_reverse hu) hn hdB]
        exact plainLoop_Divrem1Spec qxn u d hu hd0
      · simp only [hn, decide_false, Bool.false_eq_true, if_false]
        rw [divrem1Unnorm_eq_plain u.reverse qxn d (Limbs_reverse hu) hd0 (by omega)]
        exact plainLoop_Divrem1Spec qxn u d hu hd0

end Mpir.DivWord
