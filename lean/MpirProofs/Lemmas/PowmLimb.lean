/- The limb level of C08 (Mpir/Model/PowmLimb.lean; `powm.c` is mpn/generic/powm.c here): mpn_redc_n with the wrap-around recovery; mpn_powm on memory for
   any reduction meeting `RedOK` (`powmMem_correct`); mpn_powlo on memory. -/
import MpirProofs.Lemmas.Powm
import MpirProofs.Lemmas.Area
namespace Mpir.PowmL
open Mpir Mpir.Powm

/-! ### the wrap-around recovery of mpn_redc_n, as arithmetic

`P = B^k`, `R = B^(rn-k)` (`k = 2n − rn`), so `B^rn = P·R`.  The full product is
`y = l0 + P·L + P·R·yh` (`l0 < P` the known low part, `L < R`, `yh < P` the part that wrapped).
`Y` is the residue returned by mulmod_bnm1. -/

theorem digits_unique {P a b c c' : Nat} (ha : a < P) (hb : b < P) (h : a + P * c = b + P * c') : a = b ∧ c = c' := by
  have hP : 0 < P := by omega
  have h1 := congrArg (· % P) h
  have h2 := congrArg (· / P) h
  simp only [Nat.add_mul_mod_self_left, Nat.mod_eq_of_lt ha, Nat.mod_eq_of_lt hb] at h1
  simp only [Nat.add_mul_div_left _ _ hP, Nat.div_eq_of_lt ha, Nat.div_eq_of_lt hb, Nat.zero_add] at h2
  exact ⟨h1, h2⟩

/-- `d`, `cy` are the outputs of the subtraction, `V'`, `bw` those of the decrement. -/
theorem wrap_recover (P R l0 L yh Y e d cy V' bw : Nat) (hP : 2 ≤ P) (hR : 1 ≤ R)
    (hl0 : l0 < P) (hL : L < R) (hyh : yh < P) (he : e ≤ 1)
    (hrep : Y + e * (P * R - 1) = l0 + P * L + yh)
    (hexcl : ¬ (yh = P - 1 ∧ L = R - 1))
    (hd : d + l0 = Y % P + P * cy) (hdlt : d < P)
    (hV : V' + cy = Y / P + R * d + P * R * bw) (hV' : V' < P * R) :
    V' = L + R * yh ∧ bw = 0 := by
  have hPL : P * L + P ≤ P * R := by
    have : P * (L + 1) ≤ P * R := Nat.mul_le_mul_left _ (by omega)
    rw [Nat.mul_add, Nat.mul_one] at this; exact this
  have hRy : R * yh + R ≤ P * R := by
    have : R * (yh + 1) ≤ R * P := Nat.mul_le_mul_left _ (by omega)
    rw [Nat.mul_add, Nat.mul_one, Nat.mul_comm R P] at this; exact this
  have hdm := Nat.div_add_mod Y P
  have hYl : Y % P < P := Nat.mod_lt _ (by omega)
  generalize Y % P = Yl at *
  generalize Y / P = Yh at *
  -- it is enough to identify the subtrahend: then `V'` and `bw` are the digits of `L + R·yh` in base `P·R`
  suffices h : Yh + R * d = L + R * yh + cy by
    have := digits_unique (P := P * R) (a := V') (b := L + R * yh) (c := 0) (c' := bw) hV' (by omega) (by omega)
    exact ⟨this.1, this.2.symm⟩
  rcases Nat.eq_zero_or_pos e with h0 | h1
  · -- `Y = l0 + yh + P·L`: the low digit of `Y` minus `l0` is `yh`, with the borrow that `Yh` carries
    subst h0
    rw [Nat.zero_mul, Nat.add_zero] at hrep
    obtain ⟨h1, h2⟩ := digits_unique (c := Yh) (c' := cy + L) hdlt hyh (by rw [Nat.mul_add]; omega)
    rw [h1, h2]; omega
  · -- `Y + P·R − 1 = l0 + yh + P·L` forces `L = R − 1` and `Y = l0 + yh + 1 − P < P`
    have : e = 1 := by omega
    subst this
    rw [Nat.one_mul] at hrep
    have hLR : L = R - 1 := by
      by_contra hne
      have : P * (L + 2) ≤ P * R := Nat.mul_le_mul_left _ (by omega)
      rw [Nat.mul_add] at this
      omega
    have hPL2 : P * L + P = P * R := by
      have : L + 1 = R := by omega
      rw [← this, Nat.mul_add, Nat.mul_one]
    have hYh : Yh = 0 := by
      by_contra h
      have : P * 1 ≤ P * Yh := Nat.mul_le_mul_left _ (by omega)
      omega
    subst hYh
    have hyh2 : yh + 2 ≤ P := by
      by_contra hne
      exact hexcl ⟨by omega, hLR⟩
    obtain ⟨h1, h2⟩ := digits_unique (c := 1) (c' := cy) hdlt (by omega : yh + 1 < P) (by omega)
    rw [h1, ← h2, Nat.mul_add, Nat.mul_one]; omega


/-! ### mpn_redc_n on limb lists -/

/-- a product of two numbers below `P·Q` cannot have its top `P`-digit and the digits below it all ones. -/
theorem wrap_excl (P Q y L yh l0 : Nat) (hP : 2 ≤ P) (hQ : 1 ≤ Q) (hy : y ≤ (P * Q - 1) * (P * Q - 1))
    (hdec : y = l0 + P * L + P * (Q * Q) * yh) : ¬ (yh = P - 1 ∧ L = Q * Q - 1) := by
  rintro ⟨h1, h2⟩
  have hPQ : 1 ≤ P * Q := Nat.mul_pos (by omega) hQ
  have hQQ : 1 ≤ Q * Q := Nat.mul_pos hQ hQ
  -- (PQ−1)² + 2PQ = (PQ)² + 1
  have e1 : (P * Q - 1) * (P * Q - 1) + 2 * (P * Q) = (P * Q) * (P * Q) + 1 := by
    obtain ⟨t, ht⟩ : ∃ t, P * Q = t + 1 := ⟨P * Q - 1, by omega⟩
    rw [ht]; simp only [Nat.add_sub_cancel]; ring
  have e2 : P * L + P = P * (Q * Q) := by
    have : L + 1 = Q * Q := by omega
    rw [← this]; ring
  have e3 : P * (Q * Q) * yh + P * (Q * Q) = (P * Q) * (P * Q) := by
    have : yh + 1 = P := by omega
    calc P * (Q * Q) * yh + P * (Q * Q) = P * (Q * Q) * (yh + 1) := by ring
      _ = (P * Q) * (P * Q) := by rw [this]; ring
  have e4 : P ≤ P * Q := Nat.le_mul_of_pos_right _ hQ
  generalize (P * Q - 1) * (P * Q - 1) = sq at *
  generalize (P * Q) * (P * Q) = T2 at *
  generalize P * (Q * Q) * yh = a1 at *
  generalize P * (Q * Q) = W at *
  generalize P * L = a2 at *
  generalize P * Q = T at *
  omega

/-- `R = Q²` and `x, m < P·Q`, so the part `y / (P·R) < P` that wrapped lands in the lowest `P`-digit. -/
theorem wrap_recover_mul (P Q x m Y d cy V' bw : Nat) (hP : 2 ≤ P) (hQ : 1 ≤ Q) (hx : x < P * Q) (hm : m < P * Q)
    (hY : Y < P * (Q * Q)) (hrep : Y % (P * (Q * Q) - 1) = (x * m) % (P * (Q * Q) - 1)) (hzero : x * m = 0 → Y = 0)
    (hd : d + (x * m) % P = Y % P + P * cy) (hdlt : d < P)
    (hV : V' + cy = Y / P + Q * Q * d + P * (Q * Q) * bw) (hV' : V' < P * (Q * Q)) :
    V' = x * m / P ∧ bw = 0 := by
  have hQQpos : 0 < Q * Q := Nat.mul_pos hQ hQ
  have hylt : x * m < (P * Q) * (P * Q) := Nat.mul_lt_mul'' hx hm
  have hxm : x * m ≤ (P * Q - 1) * (P * Q - 1) := Nat.mul_le_mul (by omega) (by omega)
  generalize x * m = y at *
  have hyP := Nat.div_add_mod y P
  have hyQ := Nat.div_add_mod (y / P) (Q * Q)
  have hl0lt : y % P < P := Nat.mod_lt _ (by omega)
  have hLlt : y / P % (Q * Q) < Q * Q := Nat.mod_lt _ hQQpos
  have hyhlt : y / P / (Q * Q) < P := by
    rw [Nat.div_div_eq_div_mul]
    apply Nat.div_lt_of_lt_mul
    rw [show P * (Q * Q) * P = (P * Q) * (P * Q) by ring]; exact hylt
  generalize y % P = l0 at *
  generalize y / P % (Q * Q) = L at *
  generalize y / P / (Q * Q) = yh at *
  have hydec : y = l0 + P * L + P * (Q * Q) * yh := by
    rw [← hyP, ← hyQ]; ring
  have hexcl := wrap_excl P Q y L yh l0 hP hQ hxm hydec
  clear hxm hylt hx hm
  have hPL : P * L + P ≤ P * (Q * Q) := by
    have : P * (L + 1) ≤ P * (Q * Q) := Nat.mul_le_mul_left _ (by omega)
    rw [Nat.mul_add, Nat.mul_one] at this; exact this
  have hPle : P * 1 ≤ P * (Q * Q) := Nat.mul_le_mul_left _ hQQpos
  obtain ⟨e, he1, hrepe⟩ : ∃ e, e ≤ 1 ∧ Y + e * (P * (Q * Q) - 1) = l0 + P * L + yh := by
    have hS0 : l0 + P * L + yh = 0 → Y = 0 := by
      intro h
      apply hzero
      have : yh = 0 := by omega
      rw [hydec, this, Nat.mul_zero]; omega
    have hcong : Y % (P * (Q * Q) - 1) = (l0 + P * L + yh) % (P * (Q * Q) - 1) := by
      rw [hrep, hydec]
      obtain ⟨t, ht⟩ : ∃ t, P * (Q * Q) = t + 1 := ⟨P * (Q * Q) - 1, by omega⟩
      rw [ht, Nat.add_sub_cancel, show l0 + P * L + (t + 1) * yh = (l0 + P * L + yh) + t * yh by ring,
        Nat.add_mul_mod_self_left]
    have hS2 : l0 + P * L + yh < 2 * (P * (Q * Q) - 1) := by
      -- `S ≤ P·R + P − 2`, with equality to `2(P·R − 1)` only in the excluded case
      by_contra hge
      apply hexcl
      constructor
      · omega
      · by_contra hLne
        have : P * (L + 2) ≤ P * (Q * Q) := Nat.mul_le_mul_left _ (by omega)
        rw [Nat.mul_add] at this
        omega
    exact rep_cases _ Y _ (by omega) (by omega) hS2 hS0 hcong
  obtain ⟨h1, h2⟩ := wrap_recover P (Q * Q) l0 L yh Y e d cy V' bw hP hQQpos hl0lt hLlt hyhlt he1 hrepe hexcl
    hd hdlt hV hV'
  exact ⟨by rw [h1, ← hyQ]; ring, h2⟩

/-- redc_n.c:76-78 -/
theorem redcN_finish (uh yh mp : List Nat) (huh : Limbs uh) (hyh : Limbs yh) (hmp : Limbs mp)
    (h1 : uh.length = mp.length) (h2 : yh.length = mp.length) :
    (if (subNC uh yh 0).2 != 0 then (addNC (subNC uh yh 0).1 mp 0).1 else (subNC uh yh 0).1) =
      toLimbs mp.length (if val uh < val yh then (val uh + B ^ mp.length - val yh + val mp) % B ^ mp.length
        else val uh - val yh) := by
  obtain ⟨tv, tc, tL, tn⟩ := subNC_val uh yh 0 huh hyh (by rw [h1, h2]) (by omega)
  rw [h1] at tv tn
  have hyhlt := val_lt yh hyh
  rw [h2] at hyhlt
  generalize subNC uh yh 0 = r3 at *
  obtain ⟨rp, cy2⟩ := r3
  simp only at tv tc tL tn ⊢
  have hrplt : val rp < B ^ mp.length := by have := val_lt rp tL; rwa [tn] at this
  by_cases hc : cy2 = 0
  · subst hc
    have hlt : ¬ val uh < val yh := by omega
    simp only [hlt, if_false, show ((0 : Nat) != 0) = false from rfl, Bool.false_eq_true]
    exact eq_toLimbs_of tL tn (by omega)
  · have hc1 : cy2 = 1 := by omega
    subst hc1
    have hlt : val uh < val yh := by omega
    simp only [hlt, if_true, show ((1 : Nat) != 0) = true from rfl]
    obtain ⟨av, ac, aL, an⟩ := addNC_val rp mp 0 tL hmp tn (by omega)
    rw [tn] at av an
    generalize addNC rp mp 0 = r4 at *
    have houtlt : val r4.1 < B ^ mp.length := by have := val_lt r4.1 aL; rwa [an] at this
    apply eq_toLimbs_of aL an
    rw [show val uh + B ^ mp.length - val yh + val mp = val r4.1 + B ^ mp.length * r4.2 by omega,
      Nat.add_mul_mod_self_left, Nat.mod_eq_of_lt houtlt]

theorem redcN_pows (k n rn : Nat) (hk : k + rn = 2 * n) (h1 : n ≤ rn) :
    B ^ n = B ^ k * B ^ (rn - n) ∧ B ^ (rn - k) = B ^ (rn - n) * B ^ (rn - n) ∧
    B ^ rn = B ^ k * (B ^ (rn - n) * B ^ (rn - n)) ∧ B ^ (n - k) = B ^ (rn - n) := by
  refine ⟨?_, ?_, ?_, ?_⟩
  · rw [← pow_add]; congr 1; omega
  · rw [← pow_add]; congr 1; omega
  · rw [← pow_add, ← pow_add]; congr 1; omega
  · congr 1; omega

theorem redcNCore_spec (rn : Nat) (up mp yres : List Nat) (x : Nat)
    (hup : Limbs up) (hmp : Limbs mp) (hyr : Limbs yres)
    (hlen : up.length = 2 * mp.length) (hyl : yres.length = rn) (hn : 1 ≤ mp.length)
    (hrn1 : mp.length ≤ rn) (hrn2 : rn < 2 * mp.length)
    (hx : x < B ^ mp.length)
    (hlow : (x * val mp) % B ^ mp.length = val up % B ^ mp.length)
    (hrep : val yres % (B ^ rn - 1) = (x * val mp) % (B ^ rn - 1))
    (hzero : x * val mp = 0 → val yres = 0) :
    (redcNCore rn up mp yres).2 = true ∧
    (redcNCore rn up mp yres).1 = toLimbs mp.length
      (if val up / B ^ mp.length < x * val mp / B ^ mp.length
       then (val up / B ^ mp.length + B ^ mp.length - x * val mp / B ^ mp.length + val mp) % B ^ mp.length
       else val up / B ^ mp.length - x * val mp / B ^ mp.length) := by
  -- `k = 2n − rn` limbs of the product wrapped; `B^k = P`, `B^(rn−n) = Q`
  obtain ⟨k, hk⟩ : ∃ k, k + rn = 2 * mp.length := ⟨2 * mp.length - rn, by omega⟩
  obtain ⟨hBn, hR, hBrn, hQ⟩ := redcN_pows k mp.length rn hk hrn1
  have hB2 : 2 ≤ B := by decide
  have hP2 : 2 ≤ B ^ k := two_le_Bpow k (by omega)
  have hcode : redcNCore rn up mp yres =
      (if (subNC (up.drop mp.length) ((((yres ++ (subNC (yres.take k) (up.take k) 0).1).take k ++
              (sub_1 ((yres ++ (subNC (yres.take k) (up.take k) 0).1).drop k) (subNC (yres.take k) (up.take k) 0).2).1).drop
                mp.length).take mp.length) 0).2 != 0
        then (addNC (subNC (up.drop mp.length) ((((yres ++ (subNC (yres.take k) (up.take k) 0).1).take k ++
              (sub_1 ((yres ++ (subNC (yres.take k) (up.take k) 0).1).drop k) (subNC (yres.take k) (up.take k) 0).2).1).drop
                mp.length).take mp.length) 0).1 mp 0).1
        else (subNC (up.drop mp.length) ((((yres ++ (subNC (yres.take k) (up.take k) 0).1).take k ++
              (sub_1 ((yres ++ (subNC (yres.take k) (up.take k) 0).1).drop k) (subNC (yres.take k) (up.take k) 0).2).1).drop
                mp.length).take mp.length) 0).1,
       (sub_1 ((yres ++ (subNC (yres.take k) (up.take k) 0).1).drop k) (subNC (yres.take k) (up.take k) 0).2).2 == 0) := by
    have hk' : 2 * mp.length - rn = k := by omega
    unfold redcNCore
    simp only [show ¬ (2 * mp.length ≤ rn) by omega, if_false, sub_n, add_n, hk']
  rw [hcode]
  -- first subtraction: the low `k` limbs
  have htk1 : (yres.take k).length = k := by rw [List.length_take]; omega
  have htk2 : (up.take k).length = k := by rw [List.length_take]; omega
  obtain ⟨sv, sc, sL, sn⟩ := subNC_val (yres.take k) (up.take k) 0 (Limbs_take hyr k) (Limbs_take hup k)
    (by rw [htk1, htk2]) (by omega)
  rw [htk1] at sv sn
  rw [val_take_eq_mod yres hyr k, val_take_eq_mod up hup k] at sv
  generalize subNC (yres.take k) (up.take k) 0 = r1 at *
  obtain ⟨d, cy⟩ := r1
  simp only at sv sc sL sn ⊢
  have hdlt : val d < B ^ k := by have := val_lt d sL; rwa [sn] at this
  -- the decrement of `yp[k..2n)`
  rw [List.drop_append_of_le_length (by omega : k ≤ yres.length), List.take_append_of_le_length (by omega : k ≤ yres.length)]
  have hseglen : (yres.drop k ++ d).length = rn := by rw [List.length_append, List.length_drop, sn]; omega
  obtain ⟨dv, dc, dL, dn⟩ := sub_1_val' (yres.drop k ++ d) cy
    (Limbs_append.mpr ⟨Limbs_drop hyr k, sL⟩) (by rw [hseglen]; omega) (by omega)
  rw [hseglen] at dv dn
  rw [val_append, List.length_drop, hyl, val_drop_eq_div yres hyr k] at dv
  generalize sub_1 (yres.drop k ++ d) cy = r2 at *
  obtain ⟨seg, bw⟩ := r2
  simp only at dv dc dL dn ⊢
  have hseglt : val seg < B ^ rn := by have := val_lt seg dL; rwa [dn] at this
  have hYlt : val yres < B ^ rn := by have := val_lt yres hyr; rwa [hyl] at this
  have hmlt := val_lt mp hmp
  -- the low digit of the product is that of `up`
  have hl0 : (x * val mp) % B ^ k = val up % B ^ k := by
    have h1 : ∀ a, a % B ^ mp.length % B ^ k = a % B ^ k := fun a => by rw [hBn]; exact Nat.mod_mul_right_mod _ _ _
    rw [← h1 (x * val mp), hlow, h1]
  rw [← hl0] at sv
  rw [hBn] at hx hmlt
  rw [hBrn] at hrep hseglt hYlt dv
  rw [hR] at dv
  obtain ⟨hV, hbw⟩ := wrap_recover_mul (B ^ k) (B ^ (rn - mp.length)) x (val mp) (val yres) (val d) cy (val seg) bw
    hP2 (Nat.pow_pos B_pos) hx hmlt hYlt hrep hzero sv hdlt (by omega) hseglt
  subst hbw
  have hhi : ((yres.take k ++ seg).drop mp.length).take mp.length = seg.drop (mp.length - k) := by
    rw [List.drop_append, htk1, List.drop_eq_nil_of_le (by omega : (yres.take k).length ≤ mp.length), List.nil_append,
      List.take_of_length_le (by rw [List.length_drop, dn]; omega)]
  have hhv : val (seg.drop (mp.length - k)) = x * val mp / B ^ mp.length := by
    rw [val_drop_eq_div seg dL, hV, hQ, Nat.div_div_eq_div_mul, ← hBn]
  have hhn : (seg.drop (mp.length - k)).length = mp.length := by rw [List.length_drop, dn]; omega
  have hun : (up.drop mp.length).length = mp.length := by rw [List.length_drop]; omega
  rw [hhi, redcN_finish _ _ mp (Limbs_drop hup _) (Limbs_drop dL _) hmp hun hhn, hhv, val_drop_eq_div up hup]
  exact ⟨rfl, rfl⟩

/-- redc_n.c:71-80 for ANY representative `yres` that mpn_mulmod_bnm1 may leave (zero only for the product zero). -/
theorem redcNCore_redc_n (rn : Nat) (up mp ip yres : List Nat)
    (hup : Limbs up) (hmp : Limbs mp) (hyr : Limbs yres)
    (hlen : up.length = 2 * mp.length) (hyl : yres.length = rn) (hn : 1 ≤ mp.length)
    (hrn1 : mp.length ≤ rn) (hrn2 : rn < 2 * mp.length)
    (hinv : (val ip * val mp) % B ^ mp.length = 1)
    (hrep : val yres % (B ^ rn - 1) = ((val up % B ^ mp.length * val ip) % B ^ mp.length * val mp) % (B ^ rn - 1))
    (hzero : (val up % B ^ mp.length * val ip) % B ^ mp.length * val mp = 0 → val yres = 0) :
    (redcNCore rn up mp yres).2 = true ∧
    (redcNCore rn up mp yres).1 = toLimbs mp.length (redc_n (val up) (val mp) mp.length (val ip)) ∧
    redc_n (val up) (val mp) mp.length (val ip) < B ^ mp.length ∧
    (redc_n (val up) (val mp) mp.length (val ip) * B ^ mp.length ≡ val up [MOD val mp]) ∧
    (val up < val mp * B ^ mp.length → redc_n (val up) (val mp) mp.length (val ip) < val mp) := by
  have hBn1 : 1 < B ^ mp.length := one_lt_B_pow hn
  have hult : val up < B ^ mp.length * B ^ mp.length := by
    have := val_lt up hup
    rwa [hlen, two_mul, pow_add] at this
  have hmpos : 0 < val mp := by
    rcases Nat.eq_zero_or_pos (val mp) with h | h
    · rw [h, Nat.mul_zero, Nat.zero_mod] at hinv; omega
    · exact h
  have hip : (val ip * val mp) % B ^ mp.length = 1 % B ^ mp.length := by rw [hinv, Nat.mod_eq_of_lt hBn1]
  obtain ⟨c1, c2⟩ := redcNCore_spec rn up mp yres _ hup hmp hyr hlen hyl hn hrn1 hrn2
    (Nat.mod_lt _ (Nat.pow_pos B_pos)) (redc_low _ _ _ _ hip) hrep hzero
  obtain ⟨s1, s2, s3⟩ := redc_n_spec (val up) (val mp) mp.length (val ip) hmpos (val_lt mp hmp) hult hip
  rw [← redc_n_eq _ _ _ _ hult] at c2
  exact ⟨c1, c2, s1, s2, s3⟩

theorem redcN_eq (rn : Nat) (up mp ip : List Nat) (hup : Limbs up) (hmp : Limbs mp)
    (hlen : up.length = 2 * mp.length) (hn : 1 ≤ mp.length)
    (hrn1 : mp.length ≤ rn) (hrn2 : rn < 2 * mp.length)
    (hip : (val ip * val mp) % B ^ mp.length = 1) :
    (redcN rn up mp ip).2 = true ∧
    (redcN rn up mp ip).1 = toLimbs mp.length (redc_n (val up) (val mp) mp.length (val ip)) := by
  have hM : 0 < B ^ rn - 1 := by have := one_lt_B_pow (n := rn) (by omega); omega
  -- the executable model takes the least representative
  have hyv : val (mulmodBnm1 rn (toLimbs mp.length (val (up.take mp.length) * val ip)) mp) =
      ((val up % B ^ mp.length * val ip) % B ^ mp.length * val mp) % (B ^ rn - 1) := by
    unfold mulmodBnm1
    rw [val_toLimbs, val_toLimbs, val_take_eq_mod up hup, Nat.mod_eq_of_lt]
    have := Nat.mod_lt ((val up % B ^ mp.length * val ip) % B ^ mp.length * val mp) hM
    omega
  obtain ⟨c1, c2, -⟩ := redcNCore_redc_n rn up mp ip
    (mulmodBnm1 rn (toLimbs mp.length (val (up.take mp.length) * val ip)) mp) hup hmp
    (by unfold mulmodBnm1; exact Limbs_toLimbs _ _) hlen
    (by unfold mulmodBnm1; exact toLimbs_length _ _) hn hrn1 hrn2 hip (by rw [hyv, Nat.mod_mod])
    (by intro h0; rw [hyv, h0, Nat.zero_mod])
  exact ⟨c1, c2⟩


/-! ### the limb-level reduction of mpn_powm -/

def RedOK (red : List Nat → List Nat × Bool) (mp : List Nat) : Prop :=
  ∀ u, Limbs u → u.length = 2 * mp.length →
    (red u).2 = true ∧ Limbs (red u).1 ∧ (red u).1.length = mp.length ∧
    IsRedc (B ^ mp.length) (val mp) (val u) (val (red u).1)

theorem reduceL_lt (thr : Nat) (nextSize : Nat → Nat) (mp u : List Nat) (h : mp.length < thr) :
    reduceL thr nextSize mp (mipOf thr mp) u =
      (redc_1 u mp ((B - modlimb_invert (mp.headD 1)) % B), true) := by
  unfold reduceL mipOf
  rw [if_pos h, if_pos h, List.headD_cons]

theorem reduceL_ge (thr : Nat) (nextSize : Nat → Nat) (mp u : List Nat) (h : ¬ mp.length < thr) :
    reduceL thr nextSize mp (mipOf thr mp) u =
      redcN (nextSize mp.length) u mp (toLimbs mp.length (binvert (val mp) mp.length)) := by
  unfold reduceL mipOf
  rw [if_neg h, if_neg h]

theorem reduceL_spec (thr : Nat) (nextSize : Nat → Nat) (mp : List Nat) (hmp : Limbs mp) (hn : 1 ≤ mp.length)
    (hodd : val mp % 2 = 1)
    (hns : thr ≤ mp.length → mp.length ≤ nextSize mp.length ∧ nextSize mp.length < 2 * mp.length) :
    RedOK (reduceL thr nextSize mp (mipOf thr mp)) mp := by
  intro u hu hul
  by_cases hthr : mp.length < thr
  · rw [reduceL_lt thr nextSize mp u hthr]
    obtain ⟨hL, hlen, hI⟩ := redc_1_isRedc u mp _ hn hu hmp hul (nprim_spec mp hn hodd)
    exact ⟨rfl, hL, hlen, hI⟩
  · rw [reduceL_ge thr nextSize mp u hthr]
    obtain ⟨hr1, hr2⟩ := hns (by omega)
    have hipv : (val (toLimbs mp.length (binvert (val mp) mp.length)) * val mp) % B ^ mp.length = 1 := by
      rw [val_toLimbs, Nat.mod_mul_mod]
      exact binvert_spec (val mp) mp.length hn hodd
    obtain ⟨hok, hval⟩ := redcN_eq (nextSize mp.length) u mp _ hu hmp hul hn hr1 hr2 hipv
    have hI := redc_n_isRedc (val u) (val mp) mp.length _ (by omega) (val_lt mp hmp)
      (by have := val_lt u hu; rwa [hul, two_mul, pow_add] at this)
      (by rw [hipv, Nat.mod_eq_of_lt (one_lt_B_pow hn)])
    rw [hval, val_toLimbs_lt _ _ hI.lt]
    exact ⟨hok, Limbs_toLimbs _ _, toLimbs_length _ _, hI⟩

theorem mulRed_isRedc (red : List Nat → List Nat × Bool) (mp : List Nat) (hred : RedOK red mp)
    (tp a b : List Nat) (h : 2 * mp.length ≤ tp.length) (ha : Limbs a) (hb : Limbs b)
    (hal : a.length = mp.length) (hbl : b.length = mp.length) :
    (mulRed red mp.length tp a b).2.2 = true ∧ (mulRed red mp.length tp a b).2.1.length = tp.length ∧
    Limbs (mulRed red mp.length tp a b).1 ∧ (mulRed red mp.length tp a b).1.length = mp.length ∧
    IsRedc (B ^ mp.length) (val mp) (val a * val b) (val (mulRed red mp.length tp a b).1) := by
  have hlt : val a * val b < B ^ (2 * mp.length) := by
    rw [two_mul, pow_add]; exact Nat.mul_lt_mul'' (hal ▸ val_lt a ha) (hbl ▸ val_lt b hb)
  have hv := val_toLimbs_lt _ _ hlt
  generalize hP : toLimbs (2 * mp.length) (val a * val b) = P at hv
  have hl : P.length = 2 * mp.length := hP ▸ toLimbs_length _ _
  obtain ⟨r1, r2, r3, r4⟩ := hred P (hP ▸ Limbs_toLimbs _ _) hl
  have hu : (load (store tp 0 P).1 0 (2 * mp.length)).1 = P := by
    rw [load_store_in _ 0 _ _ (by omega) (by omega), List.take_of_length_le (by omega)]
  unfold mulRed
  simp only [hP, hu, r1, store_ok, load_ok, store_length, hl]
  rw [hv] at r4
  exact ⟨by simp only [Bool.and_eq_true, decide_eq_true_eq, and_true]; omega, trivial, r2, r3, r4⟩


/-! ### mpn_powm on memory -/

/-- `r` holds `b^k` in Montgomery form on n proper limbs. -/
def Good (b : Nat) (mp : List Nat) (r : List Nat) (k : Nat) : Prop :=
  Limbs r ∧ r.length = mp.length ∧ Mont (B ^ mp.length) (val mp) b (val r) k

theorem good_mul (red : List Nat → List Nat × Bool) (mp : List Nat) (hred : RedOK red mp) (b : Nat)
    (hcop : Nat.gcd (val mp) (B ^ mp.length) = 1)
    (tp x y : List Nat) (j k : Nat) (h : 2 * mp.length ≤ tp.length) (hx : Good b mp x j) (hy : Good b mp y k) :
    (mulRed red mp.length tp x y).2.2 = true ∧ (mulRed red mp.length tp x y).2.1.length = tp.length ∧
    Good b mp (mulRed red mp.length tp x y).1 (j + k) := by
  obtain ⟨h1, h2, h3, h4, h5⟩ := mulRed_isRedc red mp hred tp x y h hx.1 hy.1 hx.2.1 hy.2.1
  exact ⟨h1, h2, h3, h4, hx.2.2.mul hcop hy.2.2 h5⟩

theorem getD_set_list (pp : List (List Nat)) (k i : Nat) (r d : List Nat) (hk : k < pp.length) :
    (pp.set k r).getD i d = if i = k then r else pp.getD i d := by
  rw [List.getD_eq_getElem?_getD, List.getD_eq_getElem?_getD, List.getElem?_set]
  by_cases h : k = i
  · subst h; simp [hk]
  · have : ¬ i = k := fun e => h e.symm
    simp [h, this]

theorem inPP_of_lt (n w i : Nat) (h : i < 2 ^ (w - 1)) : inPP n w i = true := by
  unfold inPP
  rw [Nat.shiftLeft_eq]
  have : n * (i + 1) ≤ n * 2 ^ (w - 1) := Nat.mul_le_mul_left _ h
  rw [Nat.mul_add, Nat.mul_one] at this
  simpa using this

theorem precomp_spec (red : List Nat → List Nat × Bool) (mp : List Nat) (hred : RedOK red mp) (b w : Nat)
    (hcop : Nat.gcd (val mp) (B ^ mp.length) = 1) (b2 : List Nat) (hb2 : Good b mp b2 2) :
    ∀ (c j : Nat) (pp : List (List Nat)) (tp : List Nat) (ok : Bool),
      pp.length = 2 ^ (w - 1) → j + c + 1 = 2 ^ (w - 1) → 2 * mp.length ≤ tp.length → ok = true →
      (∀ i, i ≤ j → Good b mp (pp.getD i (zeros mp.length)) (2 * i + 1)) →
      (precomp red mp.length w b2 c j pp tp ok).2.2 = true ∧
      (precomp red mp.length w b2 c j pp tp ok).2.1.length = tp.length ∧
      ∀ i, i < 2 ^ (w - 1) → Good b mp ((precomp red mp.length w b2 c j pp tp ok).1.getD i (zeros mp.length)) (2 * i + 1) := by
  intro c
  induction c with
  | zero =>
    intro j pp tp ok hpl hj htp hok hgood
    simp only [precomp]
    exact ⟨hok, trivial, fun i hi => hgood i (by omega)⟩
  | succ c ih =>
    intro j pp tp ok hpl hj htp hok hgood
    simp only [precomp]
    obtain ⟨m1, m2, m3⟩ := good_mul red mp hred b hcop tp (pp.getD j (zeros mp.length)) b2 (2 * j + 1) 2 htp
      (hgood j (le_refl _)) hb2
    have hin1 := inPP_of_lt mp.length w j (by omega)
    have hin2 := inPP_of_lt mp.length w (j + 1) (by omega)
    have hok' : (ok && (mulRed red mp.length tp (pp.getD j (zeros mp.length)) b2).2.2 && inPP mp.length w j
        && inPP mp.length w (j + 1)) = true := by
      rw [hok, m1, hin1, hin2]; rfl
    obtain ⟨r1, r2, r3⟩ := ih (j + 1) (pp.set (j + 1) (mulRed red mp.length tp (pp.getD j (zeros mp.length)) b2).1)
      (mulRed red mp.length tp (pp.getD j (zeros mp.length)) b2).2.1 _
      (by rw [List.length_set]; exact hpl) (by omega) (by rw [m2]; exact htp) hok'
      (by
        intro i hi
        rw [getD_set_list _ _ _ _ _ (by omega)]
        by_cases hij : i = j + 1
        · simp only [hij, if_true]
          have e : 2 * j + 1 + 2 = 2 * (j + 1) + 1 := by ring
          rw [← e]; exact m3
        · simp only [hij, if_false]
          exact hgood i (by omega))
    exact ⟨r1, by rw [r2, m2], r3⟩

/-- powm.c:224-259 -/
theorem powmTable_spec (red : List Nat → List Nat × Bool) (mp : List Nat) (hred : RedOK red mp) (hmp : Limbs mp)
    (b w : Nat) (hcop : Nat.gcd (val mp) (B ^ mp.length) = 1) (hmpos : 0 < val mp)
    (tp : List Nat) (ok : Bool) (hok : ok = true) (htp : 2 * mp.length ≤ tp.length) :
    (powmTable red mp.length w tp ok b (val mp)).2.2 = true ∧
    (powmTable red mp.length w tp ok b (val mp)).2.1.length = tp.length ∧
    ∀ i, i < 2 ^ (w - 1) → Good b mp ((powmTable red mp.length w tp ok b (val mp)).1.getD i (zeros mp.length)) (2 * i + 1) := by
  have h2w : 1 ≤ 2 ^ (w - 1) := Nat.one_le_two_pow
  have hmlt := val_lt mp hmp
  generalize he : toLimbs mp.length ((b * B ^ mp.length) % val mp) = e0
  have hg0 : Good b mp e0 1 := by
    refine ⟨he ▸ Limbs_toLimbs _ _, he ▸ toLimbs_length _ _, ?_⟩
    rw [← he, val_toLimbs_lt _ _ (lt_trans (Nat.mod_lt _ hmpos) hmlt)]
    exact .enter b hmpos hmlt
  have he0 : ((List.replicate (2 ^ (w - 1)) (zeros mp.length)).set 0 e0).getD 0 (zeros mp.length) = e0 := by
    rw [getD_set_list _ _ _ _ _ (by rw [List.length_replicate]; omega)]; simp
  unfold powmTable
  simp only [he, he0]
  obtain ⟨q1, q2, q3⟩ := good_mul red mp hred b hcop tp e0 e0 1 1 htp hg0 hg0
  generalize mulRed red mp.length tp e0 e0 = P at *
  obtain ⟨r1, r2, r3⟩ := precomp_spec red mp hred b w hcop P.1 q3 (2 ^ (w - 1) - 1) 0
    ((List.replicate (2 ^ (w - 1)) (zeros mp.length)).set 0 e0) P.2.1 (ok && inPP mp.length w 0 && P.2.2)
    (by rw [List.length_set, List.length_replicate]) (by omega) (q2 ▸ htp)
    (by rw [hok, inPP_of_lt mp.length w 0 h2w, q1]; rfl)
    (fun i hi => by rw [Nat.le_zero.mp hi, he0]; exact hg0)
  exact ⟨r1, r2.trans q2, r3⟩

def StOK (n itch : Nat) (s : St) : Prop := s.ok = true ∧ s.tp.length = itch ∧ Limbs s.rp ∧ s.rp.length = n

/-- powm.c:261-314 -/
theorem powmWindow_mont (red : List Nat → List Nat × Bool) (mp : List Nat) (hred : RedOK red mp) (b itch w : Nat)
    (hcop : Nat.gcd (val mp) (B ^ mp.length) = 1) (hitch : 2 * mp.length ≤ itch)
    (ep : List Nat) (hep : Norm ep) (hne : ep ≠ []) (hw1 : 1 ≤ w) (hw63 : w ≤ 63)
    (pp : List (List Nat)) (tp : List Nat) (ok : Bool) (t1 : ok = true) (t2 : tp.length = itch)
    (t3 : ∀ i, i < 2 ^ (w - 1) → Good b mp (pp.getD i (zeros mp.length)) (2 * i + 1)) :
    StOK mp.length itch
      (windowExp (sqrSt red mp.length) (mulSt red mp.length) (tableSt mp.length w pp tp ok) ep (sizeinbase2 ep) w) ∧
    Mont (B ^ mp.length) (val mp) b
      (val (windowExp (sqrSt red mp.length) (mulSt red mp.length) (tableSt mp.length w pp tp ok) ep (sizeinbase2 ep) w).rp)
      (val ep) := by
  have htab : ∀ i, i < 2 ^ (w - 1) → StOK mp.length itch (tableSt mp.length w pp tp ok i) := fun i hi =>
    ⟨by simp only [tableSt, t1, inPP_of_lt mp.length w i hi]; rfl, t2, (t3 i hi).1, (t3 i hi).2.1⟩
  refine windowExp_rel _ _ _ (fun s k => StOK mp.length itch s ∧ Mont (B ^ mp.length) (val mp) b (val s.rp) k)
    ep hep.1 hne (hep.2 hne) w hw1 hw63
    (fun s k ⟨⟨h1, h2, h3, h4⟩, hm⟩ => ?_) (fun s k i hi ⟨⟨h1, h2, h3, h4⟩, hm⟩ => ?_)
    (fun i hi => ⟨htab i hi, (t3 i hi).2.2⟩)
  · obtain ⟨g1, g2, g3, g4, g5⟩ := mulRed_isRedc red mp hred s.tp s.rp s.rp (h2 ▸ hitch) h3 h3 h4 h4
    exact ⟨⟨by simp only [sqrSt, h1, g1]; rfl, g2.trans h2, g3, g4⟩, two_mul k ▸ hm.mul hcop hm g5⟩
  · obtain ⟨k1, k2, k3, k4⟩ := htab i hi
    obtain ⟨g1, g2, g3, g4, g5⟩ := mulRed_isRedc red mp hred s.tp s.rp _ (h2 ▸ hitch) h3 k3 h4 k4
    exact ⟨⟨by simp only [mulSt, h1, k1, g1]; rfl, g2.trans h2, g3, g4⟩, hm.mul hcop (t3 i hi).2.2 g5⟩

/-- powm.c:559-577 -/
theorem powmFinish_mont (red : List Nat → List Nat × Bool) (mp : List Nat) (hred : RedOK red mp) (hmp : Limbs mp)
    (b e itch : Nat) (hcop : Nat.gcd (val mp) (B ^ mp.length) = 1) (hitch : 2 * mp.length ≤ itch)
    (s : St) (hs : StOK mp.length itch s) (hg : Mont (B ^ mp.length) (val mp) b (val s.rp) e) :
    (powmFinish red mp s).2 = true ∧ (powmFinish red mp s).1 = toLimbs mp.length (b ^ e % val mp) := by
  obtain ⟨hok, htp, gL, gn⟩ := hs
  -- `MPN_COPY (tp, rp, n); MPN_ZERO (tp + n, n)`, then REDC reads `tp[0..2n)`
  have hu : (load (store (store s.tp 0 s.rp).1 mp.length (zeros mp.length)).1 0 (2 * mp.length)).1 =
      s.rp ++ zeros mp.length := by
    have h1 := store_take_hi (store s.tp 0 s.rp).1 mp.length (zeros mp.length) (by rw [store_length, zeros_length]; omega)
    have h2 := store_take_zero s.tp s.rp (by omega)
    rw [zeros_length, ← two_mul] at h1
    rw [gn] at h2
    rw [load_prefix _ _ (by simp only [store_length]; omega), h1, h2]
  unfold powmFinish
  simp only [hu, hok, store_ok, load_ok, store_length, zeros_length, gn, Bool.true_and]
  obtain ⟨r1, r2, r3, hI⟩ := hred _ (Limbs_append.mpr ⟨gL, Limbs_zeros mp.length⟩)
    (by rw [List.length_append, zeros_length, gn]; omega)
  rw [show val (s.rp ++ zeros mp.length) = val s.rp from val_append_zeros _ _] at hI
  have hv := hg.leave hcop hI
  have hle := hI.le hg.1
  refine ⟨by rw [r1]; simp only [Bool.and_eq_true, decide_eq_true_eq, and_true]; omega, ?_⟩
  generalize (red (s.rp ++ zeros mp.length)).1 = r at *
  have hc := cmp_ge_iff r mp r2 hmp r3
  split
  · have hge := hc.mp ‹_›
    rw [if_pos hge] at hv
    obtain ⟨sv, sc, sL, sn⟩ := subNC_val r mp 0 r2 hmp r3 (by omega)
    refine eq_toLimbs_of sL (sn.trans r3) ?_
    have hlt := val_lt _ sL
    rw [sn, r3] at hlt
    rw [r3] at sv
    rw [← hv]
    rcases Nat.eq_zero_or_pos (subNC r mp 0).2 with hb | hb
    · rw [hb] at sv; unfold sub_n; omega
    · have : (subNC r mp 0).2 = 1 := by omega
      rw [this] at sv; unfold sub_n; omega
  · rw [if_neg (fun h => ‹¬ _› (hc.mpr h))] at hv
    exact eq_toLimbs_of r2 r3 hv

/-- `ok` is the flag the caller brings in (the scratch need of mpn_binvert, powm.c:219). -/
theorem powmMem_correct (red : List Nat → List Nat × Bool) (itch : Nat) (bp ep mp : List Nat) (hred : RedOK red mp)
    (hep : Norm ep) (hne : ep ≠ []) (hmp : Limbs mp) (hodd : val mp % 2 = 1)
    (hitch : 2 * mp.length ≤ itch) (ok : Bool) (hok : ok = true) :
    (powmFinish red mp (windowExp (sqrSt red mp.length) (mulSt red mp.length)
      (tableSt mp.length (win_size (sizeinbase2 ep))
        (powmTable red mp.length (win_size (sizeinbase2 ep)) (zeros itch) ok (val bp) (val mp)).1
        (powmTable red mp.length (win_size (sizeinbase2 ep)) (zeros itch) ok (val bp) (val mp)).2.1
        (powmTable red mp.length (win_size (sizeinbase2 ep)) (zeros itch) ok (val bp) (val mp)).2.2)
      ep (sizeinbase2 ep) (win_size (sizeinbase2 ep)))).2 = true ∧
    (powmFinish red mp (windowExp (sqrSt red mp.length) (mulSt red mp.length)
      (tableSt mp.length (win_size (sizeinbase2 ep))
        (powmTable red mp.length (win_size (sizeinbase2 ep)) (zeros itch) ok (val bp) (val mp)).1
        (powmTable red mp.length (win_size (sizeinbase2 ep)) (zeros itch) ok (val bp) (val mp)).2.1
        (powmTable red mp.length (win_size (sizeinbase2 ep)) (zeros itch) ok (val bp) (val mp)).2.2)
      ep (sizeinbase2 ep) (win_size (sizeinbase2 ep)))).1 = toLimbs mp.length (val bp ^ val ep % val mp) := by
  have hcop := coprime_odd_Bpow (val mp) mp.length hodd
  obtain ⟨hw1, hw63⟩ := win_size_bounds (sizeinbase2 ep)
  obtain ⟨t1, t2, t3⟩ := powmTable_spec red mp hred hmp (val bp) (win_size (sizeinbase2 ep)) hcop (by omega)
    (zeros itch) ok hok (by rw [zeros_length]; exact hitch)
  rw [zeros_length] at t2
  -- from here on the table is opaque: unfolding it would run `precomp`
  generalize powmTable red mp.length (win_size (sizeinbase2 ep)) (zeros itch) ok (val bp) (val mp) = T at *
  obtain ⟨f1, f2⟩ := powmWindow_mont red mp hred (val bp) itch _ hcop hitch ep hep hne hw1 hw63 T.1 T.2.1 T.2.2 t1 t2 t3
  exact powmFinish_mont red mp hred hmp (val bp) (val ep) itch hcop hitch _ f1 f2

theorem binvFlag_true (thr : Nat) (binvItch : Nat → Nat) (itch n : Nat) (hbinv : thr ≤ n → binvItch n ≤ itch) :
    (if n < thr then true else decide (binvItch n ≤ itch)) = true := by
  split
  · rfl
  · exact decide_eq_true (hbinv (by omega))

/-- `hitch`, `hbinv`: a scratch of at least `MAX (mpn_binvert_itch (n), 2n)` limbs (powm.c:157). -/
theorem mpnPowmMem_correct (thr : Nat) (nextSize binvItch : Nat → Nat) (itch : Nat) (bp ep mp : List Nat)
    (hep : Norm ep) (hne : ep ≠ []) (hmp : Limbs mp) (hn : 1 ≤ mp.length) (hodd : val mp % 2 = 1)
    (hns : thr ≤ mp.length → mp.length ≤ nextSize mp.length ∧ nextSize mp.length < 2 * mp.length)
    (hitch : 2 * mp.length ≤ itch) (hbinv : thr ≤ mp.length → binvItch mp.length ≤ itch) :
    (mpnPowmMem thr nextSize binvItch itch bp ep mp).2 = true ∧
    (mpnPowmMem thr nextSize binvItch itch bp ep mp).1 = toLimbs mp.length (val bp ^ val ep % val mp) :=
  powmMem_correct _ itch bp ep mp (reduceL_spec thr nextSize mp hmp hn hodd hns) hep hne hmp hodd hitch _
    (binvFlag_true thr binvItch itch mp.length hbinv)

/-! ### mpn_powlo on memory -/

/-- `r` holds `b^k mod B^n`. -/
def GoodLo (b n : Nat) (r : List Nat) (k : Nat) : Prop :=
  Limbs r ∧ r.length = n ∧ val r = b ^ k % B ^ n

theorem mulLo_spec (b n : Nat) (s : St) (y : List Nat) (yok : Bool) (j k : Nat) (hn : 1 ≤ n)
    (hok : s.ok = true) (hyok : yok = true) (htp : 2 * n ≤ s.tp.length)
    (hx : GoodLo b n s.rp j) (hy : GoodLo b n y k) :
    (mulLo n s y yok).ok = true ∧ (mulLo n s y yok).tp.length = s.tp.length ∧
    GoodLo b n (mulLo n s y yok).rp (j + k) := by
  have hdl : (toLimbs (2 * n) (val s.rp * val y)).length = 2 * n := toLimbs_length _ _
  have hl : (load (store s.tp 0 (toLimbs (2 * n) (val s.rp * val y))).1 0 n).1 =
      (toLimbs (2 * n) (val s.rp * val y)).take n := load_store_in _ 0 _ _ (by omega) (by omega)
  unfold mulLo
  simp only [hl, hok, hyok, store_ok, load_ok, store_length, hdl]
  refine ⟨by simp only [Bool.and_eq_true, decide_eq_true_eq, true_and]; omega, trivial,
    Limbs_take (Limbs_toLimbs _ _) _, ?_, ?_⟩
  · rw [List.length_take, hdl]; omega
  · rw [val_take_eq_mod _ (Limbs_toLimbs _ _), val_toLimbs, hx.2.2, hy.2.2]
    have hdvd : B ^ n ∣ B ^ (2 * n) := Nat.pow_dvd_pow B (by omega)
    rw [Nat.mod_mod_of_dvd _ hdvd, ← Nat.mul_mod, pow_add]

theorem inPPlo_of_le (n w i : Nat) (h : i ≤ 2 ^ (w - 1)) : inPPlo n w i = true := by
  unfold inPPlo
  rw [Nat.shiftLeft_eq]
  have : n * i ≤ n * 2 ^ (w - 1) := Nat.mul_le_mul_left _ h
  simpa using this

theorem precompLo_spec (b n w : Nat) (tp b2 : List Nat) (hb2 : GoodLo b n b2 2)
    (hload : load tp (2 * n) n = (b2, true)) :
    ∀ (c j : Nat) (pp : List (List Nat)) (ok : Bool),
      pp.length = 2 ^ (w - 1) + 1 → j + c + 1 = 2 ^ (w - 1) → ok = true →
      (∀ i, i ≤ j → GoodLo b n (pp.getD i (zeros n)) (2 * i + 1)) →
      (precompLo n w tp c j pp ok).2 = true ∧
      ∀ i, i < 2 ^ (w - 1) → GoodLo b n ((precompLo n w tp c j pp ok).1.getD i (zeros n)) (2 * i + 1) := by
  intro c
  induction c with
  | zero =>
    intro j pp ok hpl hj hok hgood
    simp only [precompLo]
    exact ⟨hok, fun i hi => hgood i (by omega)⟩
  | succ c ih =>
    intro j pp ok hpl hj hok hgood
    simp only [precompLo, hload]
    have hx := hgood j (le_refl _)
    set prod := toLimbs (2 * n) (val (pp.getD j (zeros n)) * val b2) with hprod
    have hpl' : prod.length = 2 * n := toLimbs_length _ _
    have hlow : GoodLo b n (prod.take n) (2 * (j + 1) + 1) := by
      refine ⟨Limbs_take (Limbs_toLimbs _ _) _, by rw [List.length_take, hpl']; omega, ?_⟩
      rw [val_take_eq_mod _ (Limbs_toLimbs _ _), val_toLimbs, hx.2.2, hb2.2.2]
      have hdvd : B ^ n ∣ B ^ (2 * n) := Nat.pow_dvd_pow B (by omega)
      rw [Nat.mod_mod_of_dvd _ hdvd, ← Nat.mul_mod, ← pow_add]
      congr 2
    have hok' : (ok && true && inPPlo n w j && inPPlo n w (j + 1) && inPPlo n w (j + 2)) = true := by
      rw [hok, inPPlo_of_le n w j (by omega), inPPlo_of_le n w (j + 1) (by omega), inPPlo_of_le n w (j + 2) (by omega)]
      rfl
    apply ih (j + 1) _ _ (by rw [List.length_set, List.length_set]; exact hpl) (by omega) hok'
    intro i hi
    rw [getD_set_list _ _ _ _ _ (by rw [List.length_set]; omega), getD_set_list _ _ _ _ _ (by omega)]
    have h2 : ¬ i = j + 2 := by omega
    simp only [h2, if_false]
    by_cases hij : i = j + 1
    · simp only [hij, if_true]; exact hlow
    · simp only [hij, if_false]; exact hgood i (by omega)

/-- the documented `3n` limbs of scratch; `pp` has n spare limbs for the high halves that MPIR's mpn_mullow_n writes. -/
theorem mpnPowloMem_correct (itch : Nat) (bp ep : List Nat) (n : Nat) (hbp : Limbs bp) (hbl : n ≤ bp.length)
    (hn : 1 ≤ n) (hep : Norm ep) (hne : ep ≠ []) (h2 : 2 ≤ val ep) (hitch : 3 * n ≤ itch) :
    (mpnPowloMem itch bp ep n).2 = true ∧
    (mpnPowloMem itch bp ep n).1 = toLimbs n (val (bp.take n) ^ val ep % B ^ n) := by
  generalize hbd : val (bp.take n) = b
  have hebi := sizeinbase2_ge_two ep hep hne h2
  obtain ⟨hw1, hw63⟩ := win_size_lo_bounds (sizeinbase2 ep) hebi
  have h2w : 1 ≤ 2 ^ (win_size_lo (sizeinbase2 ep) - 1) := Nat.one_le_two_pow
  have htake : (bp.take n).length = n := by rw [List.length_take]; omega
  have hb0 : GoodLo b n (bp.take n) 1 := by
    refine ⟨Limbs_take hbp n, htake, ?_⟩
    rw [pow_one, Nat.mod_eq_of_lt, hbd]
    have := val_lt _ (Limbs_take hbp n)
    rwa [htake, hbd] at this
  unfold mpnPowloMem
  simp only [hbd]
  generalize win_size_lo (sizeinbase2 ep) = w at *
  -- b^2: the square at tp[0..2n), its low half copied to tp[2n..3n)
  obtain ⟨m1, m2, m3⟩ := mulLo_spec b n { rp := bp.take n, tp := zeros itch, ok := true } (bp.take n) true 1 1 hn rfl rfl
    (by simp only [zeros_length]; omega) hb0 hb0
  simp only [mulLo, hbd, zeros_length, Bool.true_and] at m1 m2 m3
  generalize store (zeros itch) 0 (toLimbs (2 * n) (b * b)) = A at *
  generalize hla : load A.1 0 n = la at *
  have hC : load (store A.1 (2 * n) la.1).1 (2 * n) n = (la.1, true) :=
    Prod.ext (by rw [load_store_in _ _ _ _ (by rw [m3.2.1]; omega) (by rw [m3.2.1]), List.take_of_length_le (by rw [m3.2.1])])
      (by simp only [load_ok, store_length, decide_eq_true_eq]; omega)
  have hCok : (store A.1 (2 * n) la.1).2 = true := by simp only [store_ok, m3.2.1, decide_eq_true_eq]; omega
  have hCl : (store A.1 (2 * n) la.1).1.length = itch := by rw [store_length, m2]
  generalize store A.1 (2 * n) la.1 = C at *
  have he0 : ((List.replicate (2 ^ (w - 1) + 1) (zeros n)).set 0 (bp.take n)).getD 0 (zeros n) = bp.take n := by
    rw [getD_set_list _ _ _ _ _ (by rw [List.length_replicate]; omega)]; simp
  obtain ⟨t1, t3⟩ := precompLo_spec b n w C.1 la.1 m3 hC (2 ^ (w - 1) - 1) 0
    ((List.replicate (2 ^ (w - 1) + 1) (zeros n)).set 0 (bp.take n))
    (inPPlo n w 0 && A.2 && la.2 && C.2) (by rw [List.length_set, List.length_replicate]) (by omega)
    (by rw [inPPlo_of_le n w 0 (by omega), hCok]; simp only [Bool.and_eq_true] at m1; rw [m1.1, m1.2]; rfl)
    (fun i hi => by rw [Nat.le_zero.mp hi, he0]; exact hb0)
  generalize precompLo n w C.1 (2 ^ (w - 1) - 1) 0 ((List.replicate (2 ^ (w - 1) + 1) (zeros n)).set 0 (bp.take n)) (inPPlo n w 0 && A.2 && la.2 && C.2) = T at *
  let Rel : St → Nat → Prop := fun s k => s.ok = true ∧ s.tp.length = itch ∧ GoodLo b n s.rp k
  have htabR : ∀ i, i < 2 ^ (w - 1) → Rel (tableLo n w T.1 C.1 T.2 i) (2 * i + 1) := fun i hi =>
    ⟨by simp only [tableLo, t1, inPPlo_of_le n w i (by omega)]; rfl, hCl, t3 i hi⟩
  obtain ⟨f1, _, f3⟩ := windowExp_rel (fun s => mulLo n s s.rp true) (fun s t => mulLo n s t.rp t.ok)
    (tableLo n w T.1 C.1 T.2) Rel ep hep.1 hne (hep.2 hne) w hw1 hw63
    (fun s k ⟨h1, h2', h3⟩ => by
      obtain ⟨g1, g2, g3⟩ := mulLo_spec b n s s.rp true k k hn h1 rfl (by rw [h2']; omega) h3 h3
      exact ⟨g1, g2.trans h2', two_mul k ▸ g3⟩)
    (fun s k i hi ⟨h1, h2', h3⟩ => by
      obtain ⟨k1, -, k3⟩ := htabR i hi
      obtain ⟨g1, g2, g3⟩ := mulLo_spec b n s _ _ k (2 * i + 1) hn h1 k1 (by rw [h2']; omega) h3 k3
      exact ⟨g1, g2.trans h2', g3⟩)
    htabR
  exact ⟨f1, eq_toLimbs_of f3.1 f3.2.1 f3.2.2⟩

end Mpir.PowmL
