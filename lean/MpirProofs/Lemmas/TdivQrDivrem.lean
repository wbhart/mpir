/- Helper lemmas for the model of mpn_divrem (divrem.c), given the specification of mpn_tdiv_qr for dn ≥ 3. -/
import MpirProofs.Lemmas.TdivQrBase
namespace Mpir.TdivQr
open Mpir Mpir.DivWord Mpir.SbDiv Mpir.Tdiv

/-- the low k limbs and the top limb of a vector of k+1 limbs, in terms of its value
    (`MPN_COPY (qp, q2p, qn); qhl = q2p[qn]`, divrem.c:56-57, :85-86, :95-96) -/
theorem split_top_div (q : List Nat) (k : Nat) (hq : Limbs q) (hlen : q.length = k + 1) :
    q.take k = toLimbs k (val q) ∧ q.getD k 0 = val q / B ^ k := by
  have e := val_take_top q k hlen
  have hl : (q.take k).length = k := by rw [List.length_take, hlen]; omega
  have hlt := val_lt (q.take k) (Limbs_take hq k)
  have ht := toLimbs_val_add (q.take k) (q.getD k 0) (Limbs_take hq k)
  rw [hl] at hlt ht
  rw [e] at ht
  refine ⟨ht.symm, ?_⟩
  rw [← e, Nat.add_mul_div_left _ _ (Bpow_pos k), Nat.div_eq_of_lt hlt, Nat.zero_add]

theorem val_zero_pad (k : Nat) (n : List Nat) : val (List.replicate k 0 ++ n) = val n * B ^ k := by
  rw [val_append, val_replicate_zero, List.length_replicate, Nat.zero_add, Nat.mul_comm]

theorem divrem_spec (T : Thresholds) (qxn : Nat) (n d : List Nat) (hn : Limbs n) (hd : Limbs d) (hdn : 1 ≤ d.length)
    (hnn : d.length ≤ n.length) (hnorm : B / 2 ≤ d.getD (d.length - 1) 0)
    (hbig : 3 ≤ d.length → ∀ n2 : List Nat, Limbs n2 → d.length ≤ n2.length →
      ∃ res, tdiv_qr T n2 d = some res ∧ Spec n2 d res) :
    divrem T qxn n d =
      (toLimbs (n.length - d.length + qxn) (val n * B ^ qxn / val d), toLimbs d.length (val n * B ^ qxn % val d),
       val n * B ^ qxn / val d / B ^ (n.length - d.length + qxn), true) := by
  unfold divrem
  simp only []
  by_cases h1 : d.length = 1
  · -- divrem.c:44-61
    rw [if_pos h1]
    rw [h1] at hnorm
    have hdB : d.getD 0 0 < B := getD_lt hd 0
    have hvd : val d = d.getD 0 0 := by rw [list_len1 d h1]; simp [val_cons]
    have hd0 : 0 < d.getD 0 0 := by
      have : 0 < B / 2 := by decide
      simp only [Nat.sub_self] at hnorm
      omega
    obtain ⟨e, hr, hq, hql⟩ := divrem_1_spec qxn n (d.getD 0 0) hn hd0 hdB
    obtain ⟨hQ, hR⟩ := divmod_of_eq (val n * B ^ qxn) (d.getD 0 0) _ _ e.symm hr
    have hlen : (divrem_1 qxn n (d.getD 0 0)).1.length = (n.length + qxn - 1) + 1 := by rw [hql]; omega
    obtain ⟨s1, s2⟩ := split_top_div _ _ hq hlen
    have e1 : n.length - 1 + qxn = n.length + qxn - 1 := by omega
    have hrB : (divrem_1 qxn n (d.getD 0 0)).2 < B := by omega
    have ht : toLimbs 1 (divrem_1 qxn n (d.getD 0 0)).2 = [(divrem_1 qxn n (d.getD 0 0)).2] := by
      show [(divrem_1 qxn n (d.getD 0 0)).2 % B] = _
      rw [Nat.mod_eq_of_lt hrB]
    rw [s1, s2, hvd, hQ, hR, h1, e1, ht]
  · rw [if_neg h1]
    by_cases h2 : d.length = 2
    · -- divrem.c:62-65
      rw [if_pos h2]
      unfold divrem_2
      simp only [h2]
    · rw [if_neg h2]
      have h3 : 3 ≤ d.length := by omega
      have hn2 : (if qxn ≠ 0 then List.replicate qxn 0 ++ n else n) = List.replicate qxn 0 ++ n := by
        by_cases hq0 : qxn = 0
        · rw [if_neg (by simp [hq0]), hq0]; rfl
        · rw [if_pos hq0]
      rw [hn2]
      have hl2 : Limbs (List.replicate qxn 0 ++ n) := Limbs_append.mpr ⟨Limbs_replicate_zero qxn, hn⟩
      have hlen2 : (List.replicate qxn 0 ++ n).length = n.length + qxn := by
        rw [List.length_append, List.length_replicate]; omega
      obtain ⟨res, hres, s1, s2, s3, s4, s5, s6, s7⟩ := hbig h3 _ hl2 (by rw [hlen2]; omega)
      rw [hres]
      simp only []
      rw [val_zero_pad] at s1 s2
      have hlen : res.1.length = (n.length - d.length + qxn) + 1 := by rw [s4, hlen2]; omega
      obtain ⟨t1, t2⟩ := split_top_div _ _ s3 hlen
      rw [t1, t2, s1, s7, eq_toLimbs_of s5 s6 s2]

end Mpir.TdivQr
