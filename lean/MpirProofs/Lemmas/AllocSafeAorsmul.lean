/- mpz/aorsmul_i.c and aorsmul.c (Mpir/Model/AllocSafeMpz4.lean): every path refines the value-level `Mpz.aorsmul_1` in the block
   `MPZ_REALLOC (w, new_wsize+1)` leaves.  x is read either right after the reallocation (first kernel call, also when x is w)
   or — only when x has more limbs than w, hence is another variable — through the frame of `Wrote`. -/
import MpirProofs.Lemmas.AllocSafeMpz
import MpirProofs.Lemmas.MpzMul
import Mpir.Model.AllocSafeMpz4
namespace Mpir.AllocSafe
open Mpir
open Mpir.Mpz (sgn natAbs_sgn Norm)

theorem Wrote.inplace {s1 s2 : St} {w : Nat} {R : List Nat} (W : Wrote s1 s2 w R) (k n : Nat) (l : List Nat)
    (hk : k + n = R.length) (hl : Limbs l) (hn : l.length = n) :
    s2.rd ((s1.PTR w).add k) n = R.drop k ∧ s2.rdOk ((s1.PTR w).add k) n = true ∧
    Wrote s1 (s2.wr ((s1.PTR w).add k) l) w (R.take k ++ l) := by
  obtain ⟨e, ok⟩ := W.rd_off k n (by omega)
  rw [List.take_of_length_le (by simp; omega)] at e
  exact ⟨e, ok, W.wr_tail k l hl (by omega)⟩

/-- `(wp + k)[i] = v` right above what has been written -/
theorem Wrote.store_top {s1 s2 : St} {w : Nat} {R : List Nat} (W : Wrote s1 s2 w R) (k i v : Nat) (hki : k + i = R.length)
    (hv : v < B) (hfit : R.length + 1 ≤ (s1.h w).buf.alloc) :
    Wrote s1 (s2.store ((s1.PTR w).add k) i v) w (R ++ [v]) := by
  have W1 := W.append [v] (limb_singleton hv) hfit
  rwa [← hki, ← add_add_ptr] at W1

/-- `mpn_add_1 (wp + k, wp + k, n, v)` over the top n ≥ 1 limbs written -/
theorem Wrote.add_1_tail {s1 s2 : St} {w : Nat} {R : List Nat} (W : Wrote s1 s2 w R) (k n v : Nat)
    (hk : k + n = R.length) (hn : 0 < n) (hv : v < B) :
    mpn_add_1 s2 ((s1.PTR w).add k) ((s1.PTR w).add k) n v =
      (s2.wr ((s1.PTR w).add k) (Mpir.add_1 (R.drop k) v).1, (Mpir.add_1 (R.drop k) v).2) ∧
    Wrote s1 (s2.wr ((s1.PTR w).add k) (Mpir.add_1 (R.drop k) v).1) w (R.take k ++ (Mpir.add_1 (R.drop k) v).1) ∧
    (Mpir.add_1 (R.drop k) v).1.length = n ∧ (Mpir.add_1 (R.drop k) v).2 ≤ 1 := by
  have hdl : (R.drop k).length = n := by simp; omega
  obtain ⟨_, ac, al, an⟩ := add_1_val' (R.drop k) v (Limbs_drop W.limbs _) (by omega) hv
  rw [hdl] at an
  obtain ⟨e, ok, W2⟩ := W.inplace k n _ hk al an
  exact ⟨by simp only [mpn_add_1, e, ok, chk_true], W2, an, ac⟩

/-- `mpn_mul_1 (wp + |R|, xp + |R|, n, y)`: the high limbs of another variable x, stored right above what has been written -/
theorem Wrote.mul_1_src {s1 s2 : St} {w : Nat} {R : List Nat} (W : Wrote s1 s2 w R) {x : Nat} {X : List Nat}
    (D : Den s1 (.ptr (s1.PTR x)) X) (hxw : x ≠ w) (hX : Limbs X) (n y : Nat) (hn : R.length + n = X.length) (hy : y < B)
    (hfit : X.length ≤ (s1.h w).buf.alloc) :
    mpn_mul_1 s2 ((s1.PTR w).add R.length) ((s1.PTR x).add R.length) n y =
      (s2.wr ((s1.PTR w).add R.length) (Mpir.mul_1 (X.drop R.length) y).1, (Mpir.mul_1 (X.drop R.length) y).2) ∧
    Wrote s1 (s2.wr ((s1.PTR w).add R.length) (Mpir.mul_1 (X.drop R.length) y).1) w
      (R ++ (Mpir.mul_1 (X.drop R.length) y).1) ∧
    (Mpir.mul_1 (X.drop R.length) y).1.length = n ∧ (Mpir.mul_1 (X.drop R.length) y).2 < B := by
  obtain ⟨e, ok⟩ := W.rd_src D hxw R.length n (by omega)
  rw [List.take_of_length_le (by simp; omega)] at e
  obtain ⟨_, mc, ml, mn⟩ := mul_1_val' (X.drop R.length) y (Limbs_drop hX _) hy
  have mn' : (Mpir.mul_1 (X.drop R.length) y).1.length = n := by rw [mn]; simp; omega
  exact ⟨by simp only [mpn_mul_1, e, ok, chk_true], W.append _ ml (by omega), mn', mc⟩

/-! ## aorsmul_i.c:100-131, addmul of absolute values -/

theorem aorsmul_1_add_refines (s1 : St) (w x : Nat) (y : Nat) (wneg : Bool) (Wd Xd : List Nat)
    (hok : s1.ok = true) (hb : BWF (s1.h w).buf) (hWd : (s1.h w).buf.limbs.take Wd.length = Wd)
    (Dx : Den s1 (.ptr (s1.PTR x)) Xd) (hLW : Limbs Wd) (hLX : Limbs Xd) (hy : y < B)
    (hxw : x = w → Xd.length = Wd.length)
    (hroom : max Wd.length Xd.length + 1 ≤ (s1.h w).buf.alloc) :
    Refines s1 (aorsmul_1_add s1 w x y wneg Wd.length Xd.length) w
      ⟨(s1.h w).buf.alloc, sgn wneg (Mpz.aorsmul_1_add Wd Xd y).1, (Mpz.aorsmul_1_add Wd Xd y).2⟩ := by
  have W0 := Wrote.base s1 w Wd hok hb hWd
  unfold aorsmul_1_add Mpz.aorsmul_1_add
  -- mpn_addmul_1 on the low min_size limbs
  obtain ⟨ew, okw⟩ := W0.rd (min Wd.length Xd.length) (Nat.min_le_left _ _)
  obtain ⟨ex, okx⟩ := Dx.rd (min Wd.length Xd.length) (Nat.min_le_right _ _)
  simp only [St.rdS, St.rdOkS] at ex okx
  obtain ⟨_, rc, rl, rn⟩ := addmul_1_val' (Wd.take (min Wd.length Xd.length)) (Xd.take (min Wd.length Xd.length)) y
    (Limbs_take hLW _) (Limbs_take hLX _) hy (by simp only [List.length_take]; omega)
  have rn' : (Mpir.addmul_1 (Wd.take (min Wd.length Xd.length)) (Xd.take (min Wd.length Xd.length)) y).1.length =
      min Wd.length Xd.length := by rw [rn, List.length_take]; omega
  have W1 := W0.wr_low _ rl (by rw [rn']; omega)
  rw [rn'] at W1
  simp only [mpn_addmul_1, ew, ex, okw, okx, Bool.and_self, chk_true]
  generalize Mpir.addmul_1 (Wd.take (min Wd.length Xd.length)) (Xd.take (min Wd.length Xd.length)) y = r at *
  clear ew okw ex okx hWd W0
  rcases Nat.lt_trichotomy Xd.length Wd.length with hlt | heq | hgt
  · -- xsize < wsize: the carry runs through the rest of w
    rw [Nat.min_eq_right (by omega)] at W1 rn' ⊢
    rw [Nat.max_eq_left (by omega)] at hroom ⊢
    simp only [show (Xd.length != Wd.length) = true by simp; omega, if_true, if_neg (by omega : ¬ Xd.length > Wd.length)]
    obtain ⟨e, W2, an, ac⟩ := W1.add_1_tail Xd.length (Wd.length - Xd.length) r.2 (by simp [rn']) (by omega) rc
    simp only [List.drop_left' rn', List.take_left' rn'] at e W2 an ac
    simp only [e]
    generalize Mpir.add_1 (Wd.drop Xd.length) r.2 = a at *
    have hl2 : (r.1 ++ a.1).length = Wd.length := by simp [rn', an]; omega
    have W3 := W2.store_top Xd.length (Wd.length - Xd.length) a.2 (by omega) (by have := B_eq; omega) (by omega)
    rw [show (0 + a.2) % B = a.2 by rw [Nat.zero_add]; exact Nat.mod_eq_of_lt (by have := B_eq; omega)]
    exact W3.fin_take wneg (Wd.length + (if a.2 != 0 then 1 else 0)) (by rw [List.length_append, hl2]; split <;> simp)
  · -- equal sizes
    rw [show min Wd.length Xd.length = Wd.length by omega] at W1 rn' ⊢
    rw [show max Wd.length Xd.length = Wd.length by omega] at hroom ⊢
    simp only [show (Xd.length != Wd.length) = false by simp; omega, Bool.false_eq_true, if_false]
    rw [List.drop_of_length_le (Nat.le_refl _), List.append_nil] at W1
    have W3 := W1.store_top Wd.length 0 r.2 (by omega) rc (by omega)
    rw [List.append_nil]
    exact W3.fin_take wneg (Wd.length + (if r.2 != 0 then 1 else 0)) (by rw [List.length_append, rn']; split <;> simp)
  · -- xsize > wsize: x is another variable; mul_1 of its high part, then the carry of the low part added in
    have hxw' : x ≠ w := fun h => by have := hxw h; omega
    rw [Nat.min_eq_left (by omega)] at W1 rn' ⊢
    rw [Nat.max_eq_right (by omega)] at hroom ⊢
    simp only [show (Xd.length != Wd.length) = true by simp; omega, if_true, if_pos hgt]
    rw [List.drop_of_length_le (Nat.le_refl _), List.append_nil] at W1
    obtain ⟨e, W2, mn, mc⟩ := W1.mul_1_src Dx hxw' hLX (Xd.length - Wd.length) y (by omega) hy (by omega)
    rw [rn'] at e W2 mn mc
    simp only [e]
    generalize Mpir.mul_1 (Xd.drop Wd.length) y = m at *
    obtain ⟨e', W3, an, ac⟩ := W2.add_1_tail Wd.length (Xd.length - Wd.length) r.2 (by simp [rn', mn]) (by omega) rc
    simp only [List.drop_left' rn', List.take_left' rn'] at e' W3 an ac
    simp only [e']
    generalize Mpir.add_1 m.1 r.2 = a at *
    have hl2 : (r.1 ++ a.1).length = Xd.length := by simp [rn', an]; omega
    have W4 := W3.store_top Wd.length (Xd.length - Wd.length) ((m.2 + a.2) % B) (by omega) (Nat.mod_lt _ B_pos) (by omega)
    exact W4.fin_take wneg (Xd.length + (if (m.2 + a.2) % B != 0 then 1 else 0))
      (by rw [List.length_append, hl2]; split <;> simp)

/-! ## aorsmul_i.c:137-154, submul of absolute values, w at least as long as x -/

theorem bne_true' (b : Bool) : (b != true) = !b := by cases b <;> rfl
theorem bne_false' (b : Bool) : (b != false) = b := by cases b <;> rfl

/-- aorsmul_i.c:144-154, 185-188 on `buf` (n limbs, n + 1 ≤ alloc): the store `wp[new_wsize] = ~-cy` goes to the extra limb -/
theorem subGeFix_refines {s1 s2 : St} {w : Nat} {buf : List Nat} (W : Wrote s1 s2 w buf) (wneg : Bool) (cy : Nat)
    (hroom : buf.length + 1 ≤ (s1.h w).buf.alloc) :
    Refines s1 (aorsmul_1_subGeFix s2 w wneg buf.length cy) w
      ⟨(s1.h w).buf.alloc, sgn (wneg != (Mpz.subGeFix buf cy).1) (Mpz.subGeFix buf cy).2.length, (Mpz.subGeFix buf cy).2⟩ := by
  have hp : s2.PTR w = s1.PTR w := by simp [St.PTR, W.gen]
  have hB := B_pos
  unfold aorsmul_1_subGeFix Mpz.subGeFix
  rw [hp]
  by_cases hc0 : cy = 0
  · have e : (cy != 0) = false := by simp [hc0]
    simp only [e, Bool.false_eq_true, if_false, bne_false']
    exact W.fin_norm wneg
  · have e : (cy != 0) = true := by simp [hc0]
    simp only [e, if_true, bne_true']
    have W1 := W.append [B - 1 - (B - cy) % B] (limb_singleton (by omega)) (by simpa using hroom)
    obtain ⟨e1, ok1⟩ := W1.rd buf.length (by simp)
    rw [List.take_left' rfl] at e1
    obtain ⟨_, cl, cn⟩ := Mpir.com_n_val' buf W.limbs
    have W2 := W1.wr 0 (Mpir.com_n buf) cl (Nat.zero_le _) (by rw [cn]; omega)
    simp only [add_zero_ptr, List.take_zero, List.nil_append, Nat.zero_add, cn, List.drop_left' rfl] at W2
    have hl2 : (Mpir.com_n buf ++ [B - 1 - (B - cy) % B]).length = buf.length + 1 := by simp [cn]
    obtain ⟨e2, ok2⟩ := W2.rd (buf.length + 1) (by rw [hl2])
    rw [List.take_of_length_le (by rw [hl2])] at e2
    obtain ⟨_, _, il, iln⟩ := Mpir.incr_val (Mpir.com_n buf ++ [B - 1 - (B - cy) % B])
      (Limbs_append.mpr ⟨cl, limb_singleton (by omega)⟩)
    rw [hl2] at iln
    have W3 := W2.wr 0 _ il (Nat.zero_le _) (by rw [iln]; omega)
    simp only [add_zero_ptr, List.take_zero, List.nil_append, Nat.zero_add, iln,
      List.drop_of_length_le (Nat.le_of_eq hl2), List.append_nil] at W3
    have F := W3.fin_norm (!wneg)
    rw [iln] at F
    simpa [St.store, mpn_not, mpn_com_n, MPN_INCR_U, e1, ok1, e2, ok2, chk_true] using F

theorem aorsmul_1_sub_ge_refines (s1 : St) (w x : Nat) (y : Nat) (wneg : Bool) (Wd Xd : List Nat)
    (hok : s1.ok = true) (hb : BWF (s1.h w).buf) (hWd : (s1.h w).buf.limbs.take Wd.length = Wd)
    (Dx : Den s1 (.ptr (s1.PTR x)) Xd) (hLW : Limbs Wd) (hLX : Limbs Xd) (hy : y < B)
    (hge : Wd.length ≥ Xd.length)
    (hroom : max Wd.length Xd.length + 1 ≤ (s1.h w).buf.alloc) :
    Refines s1 (aorsmul_1_sub_ge s1 w x y wneg Wd.length Xd.length) w
      ⟨(s1.h w).buf.alloc, sgn (wneg != (Mpz.aorsmul_1_sub_ge Wd Xd y).1) (Mpz.aorsmul_1_sub_ge Wd Xd y).2.length,
        (Mpz.aorsmul_1_sub_ge Wd Xd y).2⟩ := by
  have W0 := Wrote.base s1 w Wd hok hb hWd
  rw [Mpz.aorsmul_1_sub_ge_eq]
  unfold aorsmul_1_sub_ge Mpz.subGeBorrow
  have e1 : min Wd.length Xd.length = Xd.length := Nat.min_eq_right hge
  have e2 : max Wd.length Xd.length = Wd.length := Nat.max_eq_left hge
  rw [e1]
  rw [e2] at hroom ⊢
  obtain ⟨ew, okw⟩ := W0.rd Xd.length hge
  obtain ⟨ex, okx⟩ := Dx.rd Xd.length (Nat.le_refl _)
  simp only [St.rdS, St.rdOkS] at ex okx
  rw [List.take_length] at ex
  have htl : (Wd.take Xd.length).length = Xd.length := by simp; omega
  obtain ⟨_, rc, rl, rn⟩ := submul_1_val' (Wd.take Xd.length) Xd y (Limbs_take hLW _) hLX hy htl
  have W1 := W0.wr 0 _ rl (Nat.zero_le _) (by rw [rn]; omega)
  simp only [add_zero_ptr, List.take_zero, List.nil_append, Nat.zero_add, rn] at W1
  simp only [mpn_submul_1, ew, ex, okw, okx, Bool.and_self, chk_true]
  generalize Mpir.submul_1 (Wd.take Xd.length) Xd y = r at *
  by_cases heq : Wd.length = Xd.length
  · have e3 : (Wd.length != Xd.length) = false := by simp [heq]
    simp only [e3, Bool.false_eq_true, if_false]
    rw [List.drop_of_length_le (by omega), List.append_nil] at W1
    have F := subGeFix_refines W1 wneg r.2 (by rw [rn]; omega)
    rw [rn, ← heq] at F
    simpa using F
  · have e3 : (Wd.length != Xd.length) = true := by simp [heq]
    simp only [e3, if_true]
    have hdl : (Wd.drop Xd.length).length = Wd.length - Xd.length := by simp
    obtain ⟨_, _, bl, bn⟩ := sub_1_val' (Wd.drop Xd.length) r.2 (Limbs_drop hLW _) (by omega) rc
    obtain ⟨e, ok⟩ := W1.rd_off Xd.length (Wd.length - Xd.length) (by simp [rn])
    rw [List.drop_left' rn, List.take_of_length_le (by omega)] at e
    simp only [mpn_sub_1, e, ok, chk_true]
    generalize Mpir.sub_1 (Wd.drop Xd.length) r.2 = b at *
    have W2 := W1.wr_tail Xd.length b.1 bl (by simp [rn, bn, hdl])
    rw [List.take_left' rn] at W2
    have hl2 : (r.1 ++ b.1).length = Wd.length := by simp [rn, bn, hdl]; omega
    have F := subGeFix_refines W2 wneg b.2 (by rw [hl2]; omega)
    rw [hl2] at F
    exact F

/-! ## aorsmul_i.c:77-87, w = 0: the plain product -/

theorem aorsmul_1_zero_refines (s1 : St) (w x : Nat) (y : Nat) (sub : Bool) (Xd : List Nat)
    (hok : s1.ok = true) (hb : BWF (s1.h w).buf) (Dx : Den s1 (.ptr (s1.PTR x)) Xd) (hLX : Limbs Xd) (hy : y < B)
    (hroom : Xd.length + 1 ≤ (s1.h w).buf.alloc) :
    Refines s1 (((mpn_mul_1 s1 (s1.PTR w) (s1.PTR x) Xd.length y).1.store (s1.PTR w) Xd.length
        (mpn_mul_1 s1 (s1.PTR w) (s1.PTR x) Xd.length y).2).setSize w
          (sgn sub (Xd.length + (if (mpn_mul_1 s1 (s1.PTR w) (s1.PTR x) Xd.length y).2 != 0 then 1 else 0)))) w
      ⟨(s1.h w).buf.alloc, sgn sub (Xd.length + (if (Mpir.mul_1 Xd y).2 != 0 then 1 else 0)),
        ((Mpir.mul_1 Xd y).1 ++ [(Mpir.mul_1 Xd y).2]).take (Xd.length + (if (Mpir.mul_1 Xd y).2 != 0 then 1 else 0))⟩ := by
  obtain ⟨ex, okx⟩ := Dx.rd Xd.length (Nat.le_refl _)
  simp only [St.rdS, St.rdOkS] at ex okx
  rw [List.take_length] at ex
  obtain ⟨_, mc, ml, mn⟩ := mul_1_val' Xd y hLX hy
  simp only [mpn_mul_1, ex, okx]
  have T := tail_carry s1 w (Mpir.mul_1 Xd y).1 (Mpir.mul_1 Xd y).2
    (Xd.length + (if (Mpir.mul_1 Xd y).2 != 0 then 1 else 0)) sub true hok rfl hb ml mc (by rw [mn]; exact hroom)
    (by rw [mn]; split <;> omega)
  simp only [mn] at T
  exact T

/-! ## aorsmul_i.c:155-181, submul of absolute values, x longer than w -/

/-- `MPN_MUL_1C (cy, wp + |R|, xp + |R|, n, y, cin)` (aorsmul_i.c:171), n ≥ 1: the high limbs of another variable x times y
    plus `cin`, stored right above what has been written -/
theorem Wrote.mul_1c_src {s1 s2 : St} {w : Nat} {R : List Nat} (W : Wrote s1 s2 w R) {x : Nat} {X : List Nat}
    (D : Den s1 (.ptr (s1.PTR x)) X) (hxw : x ≠ w) (hX : Limbs X) (n y cin : Nat) (hn : R.length + n = X.length)
    (hn0 : 0 < n) (hy : y < B) (hcin : cin < B) (hfit : X.length ≤ (s1.h w).buf.alloc) :
    ∃ s3, MPN_MUL_1C s2 ((s1.PTR w).add R.length) ((s1.PTR x).add R.length) n y cin =
        (s3, (Mpz.mul_1c (X.drop R.length) y cin).2) ∧
      Wrote s1 s3 w (R ++ (Mpz.mul_1c (X.drop R.length) y cin).1) ∧
      (Mpz.mul_1c (X.drop R.length) y cin).1.length = n ∧ (Mpz.mul_1c (X.drop R.length) y cin).2 < B := by
  obtain ⟨e, W2, mn, mc⟩ := W.mul_1_src D hxw hX n y hn hy hfit
  obtain ⟨e', W3, an, _⟩ := W2.add_1_tail R.length n cin (by simp [mn]) hn0 hcin
  simp only [List.drop_left' rfl, List.take_left' rfl] at e' W3 an
  exact ⟨_, by simp only [MPN_MUL_1C, Mpz.mul_1c, e, e'], W3, an, Nat.mod_lt _ B_pos⟩

/-- aorsmul_i.c:172-188 once `lo ++ hi` (hi the MPN_MUL_1C limbs) is in place: `wp[new_wsize] = cy`, the held -1 applied by
    MPN_DECR_U to the limbs above `lo`, MPN_NORMALIZE, the flipped sign -/
theorem subLt_tail {s1 s2 : St} {w : Nat} {lo hi : List Nat} (W : Wrote s1 s2 w (lo ++ hi)) (wneg : Bool) (cout cy2 : Nat)
    (hco : cout < B) (hhi : hi ≠ []) (hroom : lo.length + hi.length + 1 ≤ (s1.h w).buf.alloc) :
    Refines s1
      ((MPN_NORMALIZE
          (if (cy2 != 0) = true then
            MPN_DECR_U (s2.store (s1.PTR w) (lo.length + hi.length) cout) ((s1.PTR w).add lo.length)
              (lo.length + hi.length + (if (cout != 0) = true then 1 else 0) - lo.length)
           else s2.store (s1.PTR w) (lo.length + hi.length) cout)
          (s1.PTR w) (lo.length + hi.length + (if (cout != 0) = true then 1 else 0))).2.setSize w
        (sgn (!wneg) (MPN_NORMALIZE
          (if (cy2 != 0) = true then
            MPN_DECR_U (s2.store (s1.PTR w) (lo.length + hi.length) cout) ((s1.PTR w).add lo.length)
              (lo.length + hi.length + (if (cout != 0) = true then 1 else 0) - lo.length)
           else s2.store (s1.PTR w) (lo.length + hi.length) cout)
          (s1.PTR w) (lo.length + hi.length + (if (cout != 0) = true then 1 else 0))).1)) w
      ⟨(s1.h w).buf.alloc,
        sgn (!wneg) (Mpir.normalize (lo ++ (if (cy2 != 0) = true then
          (Mpir.decr ((hi ++ [cout]).take (lo.length + hi.length + (if (cout != 0) = true then 1 else 0) - lo.length))).1
          else (hi ++ [cout]).take (lo.length + hi.length + (if (cout != 0) = true then 1 else 0) - lo.length)))).length,
        Mpir.normalize (lo ++ (if (cy2 != 0) = true then
          (Mpir.decr ((hi ++ [cout]).take (lo.length + hi.length + (if (cout != 0) = true then 1 else 0) - lo.length))).1
          else (hi ++ [cout]).take (lo.length + hi.length + (if (cout != 0) = true then 1 else 0) - lo.length)))⟩ := by
  have hpos := List.length_pos_iff.mpr hhi
  have W6 := W.append [cout] (limb_singleton hco) (by simpa using hroom)
  simp only [List.length_append] at W6
  generalize hk : lo.length + hi.length + (if (cout != 0) = true then 1 else 0) - lo.length = k
  have hk1 : k ≤ hi.length + 1 := by rw [← hk]; split <;> omega
  have hk0 : hi.length ≤ k := by rw [← hk]; omega
  have hn : lo.length + hi.length + (if (cout != 0) = true then 1 else 0) = lo.length + k := by rw [← hk]; omega
  rw [hn]
  have htk : (lo ++ hi ++ [cout]).take (lo.length + k) = lo ++ (hi ++ [cout]).take k := by
    rw [List.append_assoc, List.take_append, List.take_of_length_le (by omega)]
    congr 2; omega
  by_cases hc2 : (cy2 != 0) = true
  · simp only [hc2, if_true]
    obtain ⟨e7, ok7⟩ := W6.rd_off lo.length k (by simp; omega)
    rw [List.append_assoc, List.drop_left' rfl] at e7
    obtain ⟨_, _, dl, dn⟩ := Mpir.decr_val ((hi ++ [cout]).take k)
      (Limbs_take (Limbs_append.mpr ⟨(Limbs_append.mp W.limbs).2, limb_singleton hco⟩) _)
    have hhl : ((hi ++ [cout]).take k).length = k := by simp; omega
    rw [hhl] at dn
    have W8 := (W6.wr lo.length _ dl (by simp) (by rw [dn]; omega)).take (lo.length + k)
    have e8 : ((lo ++ hi ++ [cout]).take lo.length ++ (Mpir.decr ((hi ++ [cout]).take k)).1 ++
        (lo ++ hi ++ [cout]).drop (lo.length + (Mpir.decr ((hi ++ [cout]).take k)).1.length)).take (lo.length + k) =
        lo ++ (Mpir.decr ((hi ++ [cout]).take k)).1 := by
      rw [List.append_assoc lo, List.take_left' rfl, List.append_assoc, List.take_append]
      rw [List.take_of_length_le (by omega), List.take_append, dn, List.take_of_length_le (by rw [dn]; omega)]
      rw [show lo.length + k - lo.length - k = 0 by omega, List.take_zero, List.append_nil]
    rw [e8] at W8
    have F := W8.fin_norm (!wneg)
    rw [show (lo ++ (Mpir.decr ((hi ++ [cout]).take k)).1).length = lo.length + k by simp [dn]] at F
    simpa only [St.store, MPN_DECR_U, e7, ok7, chk_true] using F
  · simp only [hc2, Bool.false_eq_true, if_false]
    have W8 := W6.take (lo.length + k)
    rw [htk] at W8
    have F := W8.fin_norm (!wneg)
    rw [show (lo ++ (hi ++ [cout]).take k).length = lo.length + k by simp; omega] at F
    simpa only [St.store] using F

theorem aorsmul_1_sub_lt_refines (s1 : St) (w x : Nat) (y : Nat) (wneg : Bool) (Wd Xd : List Nat)
    (hok : s1.ok = true) (hb : BWF (s1.h w).buf) (hWd : (s1.h w).buf.limbs.take Wd.length = Wd)
    (Dx : Den s1 (.ptr (s1.PTR x)) Xd) (hLW : Limbs Wd) (hLX : Limbs Xd) (hy : y < B)
    (hW1 : 1 ≤ Wd.length) (hlt : Wd.length < Xd.length) (hxw : x ≠ w)
    (hroom : max Wd.length Xd.length + 1 ≤ (s1.h w).buf.alloc) :
    Refines s1 (aorsmul_1_sub_lt s1 w x y wneg Wd.length Xd.length) w
      ⟨(s1.h w).buf.alloc, sgn (!wneg) (Mpz.aorsmul_1_sub_lt Wd Xd y).length, Mpz.aorsmul_1_sub_lt Wd Xd y⟩ := by
  have W0 := Wrote.base s1 w Wd hok hb hWd
  have hB := B_pos
  rw [Mpz.aorsmul_1_sub_lt_eq]
  unfold aorsmul_1_sub_lt Mpz.subLtCore
  rw [Nat.min_eq_left (by omega)]
  rw [Nat.max_eq_right (by omega)] at hroom ⊢
  -- mpn_submul_1 on the low limbs
  obtain ⟨ew, okw⟩ := W0.rd_all
  obtain ⟨ex, okx⟩ := Dx.rd Wd.length (by omega)
  simp only [St.rdS, St.rdOkS] at ex okx
  obtain ⟨_, rc, rl, rn⟩ := submul_1_val' Wd (Xd.take Wd.length) y hLW (Limbs_take hLX _) hy (by simp; omega)
  rw [show (Xd.take Wd.length).length = Wd.length by simp; omega] at rn
  have W1 := W0.wr_over _ rl (by omega) (by rw [rn]; omega)
  simp only [mpn_submul_1, ew, ex, okw, okx, Bool.and_self, chk_true]
  generalize Mpir.submul_1 Wd (Xd.take Wd.length) y = r at *
  clear ew okw ex okx W0 hWd
  -- mpn_not
  obtain ⟨e3, ok3⟩ := W1.rd Wd.length (by omega)
  rw [List.take_of_length_le (by omega)] at e3
  obtain ⟨_, cl, cn⟩ := Mpir.com_n_val' r.1 rl
  rw [rn] at cn
  have W2 := W1.wr_over _ cl (by omega) (by rw [cn]; omega)
  simp only [mpn_not, mpn_com_n, e3, ok3, chk_true]
  clear e3 ok3 W1
  -- mpn_add_1 (wp, wp, wsize, 1)
  obtain ⟨e4, W3, an, _⟩ := W2.add_1_tail 0 Wd.length 1 (by omega) (by omega) (by unfold B; omega)
  simp only [add_zero_ptr, List.drop_zero, List.take_zero, List.nil_append] at e4 W3 an
  simp only [e4]
  generalize Mpir.add_1 (Mpir.com_n r.1) 1 = a at *
  clear e4 W2
  generalize ((r.2 + a.2) % B + B - 1) % B = cyv
  -- MPN_MUL_1C on the high limbs of x
  obtain ⟨s3, e5, W5, mn, hco⟩ := W3.mul_1c_src Dx hxw hLX (Xd.length - Wd.length) y
    ((cyv + (if (cyv == B - 1) = true then 1 else 0)) % B) (by omega) (by omega) hy (Nat.mod_lt _ hB) (by omega)
  rw [an] at e5 W5 mn hco
  simp only [e5]
  generalize Mpz.mul_1c (Xd.drop Wd.length) y ((cyv + (if (cyv == B - 1) = true then 1 else 0)) % B) = m at *
  -- the carry limb, the held -1, the normalisation
  have T := subLt_tail W5 wneg m.2 (if (cyv == B - 1) = true then 1 else 0) hco
    (by intro h; rw [h] at mn; simp at mn; omega) (by rw [an, mn]; omega)
  rw [an, mn, show Wd.length + (Xd.length - Wd.length) = Xd.length by omega] at T
  exact T

/-! ## mpz_aorsmul_1 -/

theorem grown_base {s s1 : St} {w n : Nat} (G : Grown s s1 w n) (hw : OWF (s.h w)) :
    (s1.h w).buf.limbs.take (view (s.h w)).d.length = (view (s.h w)).d := by
  rw [view_d_length hw, G.take w _ hw.1 (view_fit hw)]; rfl

theorem aorsmul_1_refines (s : St) (w x : Nat) (y : Nat) (sub : Bool) (hs : s.ok = true)
    (hw : OWF (s.h w)) (hx : OWF (s.h x)) (hy : y < B) :
    Refines s (aorsmul_1 1 s w x y sub) w (Mpz.aorsmul_1 (view (s.h w)) (view (s.h x)) y sub) := by
  unfold aorsmul_1 Mpz.aorsmul_1
  rw [show s.SIZ x = (s.h x).size from rfl, show s.SIZ w = (s.h w).size from rfl]
  have e1 : (view (s.h x)).size = (s.h x).size := rfl
  have e2 : (view (s.h w)).size = (s.h w).size := rfl
  rw [e1, e2]
  have hXl := view_d_length hx
  have hWl := view_d_length hw
  have hLX := view_limbs hx
  have hLW := view_limbs hw
  by_cases h0 : ((s.h x).size == 0 || y == 0) = true
  · simp only [h0, if_true]
    exact ⟨hs, rfl, hw.1, fun _ _ => rfl⟩
  · simp only [h0, Bool.false_eq_true, if_false]
    by_cases hw0 : ((s.h w).size == 0) = true
    · simp only [hw0, if_true]
      have G := MPZ_REALLOC_grown s w ((s.h x).size.natAbs + 1) hw
      have Dx := Den.of_grown G hx
      have halloc : (Mpz.grow (view (s.h w)) ((s.h x).size.natAbs + 1)).alloc =
        ((MPZ_REALLOC s w ((s.h x).size.natAbs + 1)).h w).buf.alloc := G.alloc.symm
      rw [halloc]
      refine Refines.of_grown G ?_
      have Z := aorsmul_1_zero_refines _ w x y (sub != decide ((s.h x).size < 0)) (view (s.h x)).d
        (by rw [G.ok]; exact hs) (G.bwf w hw.1) Dx hLX hy (by rw [hXl]; exact G.room)
      rw [hXl] at Z
      exact Z
    · simp only [hw0, Bool.false_eq_true, if_false]
      have hw0' : (s.h w).size ≠ 0 := by simpa using hw0
      have G := MPZ_REALLOC_grown s w (max (s.h w).size.natAbs (s.h x).size.natAbs + 1) hw
      have Dx := Den.of_grown G hx
      have hbase := grown_base G hw
      have halloc : (Mpz.grow (view (s.h w)) (max (s.h w).size.natAbs (s.h x).size.natAbs + 1)).alloc =
        ((MPZ_REALLOC s w (max (s.h w).size.natAbs (s.h x).size.natAbs + 1)).h w).buf.alloc := G.alloc.symm
      rw [halloc]
      refine Refines.of_grown G ?_
      have hok1 : (MPZ_REALLOC s w (max (s.h w).size.natAbs (s.h x).size.natAbs + 1)).ok = true := by rw [G.ok]; exact hs
      have hbw := G.bwf w hw.1
      have hroom : max (view (s.h w)).d.length (view (s.h x)).d.length + 1 ≤
          ((MPZ_REALLOC s w (max (s.h w).size.natAbs (s.h x).size.natAbs + 1)).h w).buf.alloc := by
        rw [hWl, hXl]; exact G.room
      have hxw : x = w → (view (s.h x)).d.length = (view (s.h w)).d.length := by intro h; rw [h]
      by_cases hsub : ((sub != decide ((s.h x).size < 0)) != decide ((s.h w).size < 0)) = true
      · simp only [hsub, Bool.not_true, Bool.false_eq_true, if_false]
        by_cases hge : (s.h w).size.natAbs ≥ (s.h x).size.natAbs
        · simp only [hge, if_true]
          have R := aorsmul_1_sub_ge_refines _ w x y (decide ((s.h w).size < 0)) (view (s.h w)).d (view (s.h x)).d
            hok1 hbw hbase Dx hLW hLX hy (by rw [hWl, hXl]; exact hge) hroom
          rw [hWl, hXl] at R
          exact R
        · simp only [hge, if_false]
          have R := aorsmul_1_sub_lt_refines _ w x y (decide ((s.h w).size < 0)) (view (s.h w)).d (view (s.h x)).d
            hok1 hbw hbase Dx hLW hLX hy (by rw [hWl]; omega) (by rw [hWl, hXl]; omega)
            (by intro h; rw [h] at hge; exact hge (Nat.le_refl _)) hroom
          rw [hWl, hXl] at R
          exact R
      · have hsub' : ((sub != decide ((s.h x).size < 0)) != decide ((s.h w).size < 0)) = false := by simpa using hsub
        simp only [hsub', Bool.not_false, if_true]
        have R := aorsmul_1_add_refines _ w x y (decide ((s.h w).size < 0)) (view (s.h w)).d (view (s.h x)).d
          hok1 hbw hbase Dx hLW hLX hy hxw hroom
        rw [hWl, hXl] at R
        exact R

/-! ## mpz/aorsmul.c -/

/-- `c = mpn_add (wp, up, usize, tp, tsize); wp[usize] = c; size = usize + (c != 0)` (aorsmul.c:115-117): both operands are read
    before anything is stored, either may be w's own limbs or the temporary product -/
theorem add_S_refines (s1 : St) (w : Nat) (up vp : Src) (U V : List Nat) (neg : Bool) (hok : s1.ok = true)
    (hb : BWF (s1.h w).buf) (DU : Den s1 up U) (DV : Den s1 vp V) (hLU : Limbs U) (hLV : Limbs V)
    (hle : V.length ≤ U.length) (hroom : U.length + 1 ≤ (s1.h w).buf.alloc) :
    Refines s1 (((mpn_add_S s1 (s1.PTR w) up U.length vp V.length).1.store (s1.PTR w) U.length
        (mpn_add_S s1 (s1.PTR w) up U.length vp V.length).2).setSize w
          (sgn neg (U.length + (if (mpn_add_S s1 (s1.PTR w) up U.length vp V.length).2 != 0 then 1 else 0)))) w
      ⟨(s1.h w).buf.alloc, sgn neg (U.length + (if (Mpir.add U V).2 != 0 then 1 else 0)),
        ((Mpir.add U V).1 ++ [(Mpir.add U V).2]).take (U.length + (if (Mpir.add U V).2 != 0 then 1 else 0))⟩ := by
  obtain ⟨eu, oku⟩ := DU.rd U.length (Nat.le_refl _)
  obtain ⟨ev, okv⟩ := DV.rd V.length (Nat.le_refl _)
  rw [List.take_length] at eu ev
  obtain ⟨_, ac, al, an⟩ := Mpir.add_val' U V hLU hLV hle
  simp only [mpn_add_S, eu, ev, oku, okv, Bool.and_self]
  have T := tail_carry s1 w (Mpir.add U V).1 (Mpir.add U V).2 (U.length + (if (Mpir.add U V).2 != 0 then 1 else 0)) neg true
    hok rfl hb al (by have := B_eq; omega) (by rw [an]; exact hroom) (by rw [an]; split <;> omega)
  simp only [an] at T
  exact T

/-- `mpn_sub (wp, up, usize, tp, tsize); MPN_NORMALIZE (wp, usize)` (aorsmul.c:135-137) -/
theorem sub_S_refines (s1 : St) (w : Nat) (up vp : Src) (U V : List Nat) (neg : Bool) (hok : s1.ok = true)
    (hb : BWF (s1.h w).buf) (DU : Den s1 up U) (DV : Den s1 vp V) (hLU : Limbs U) (hLV : Limbs V)
    (hle : V.length ≤ U.length) (hroom : U.length ≤ (s1.h w).buf.alloc) :
    Refines s1 ((MPN_NORMALIZE (mpn_sub_S s1 (s1.PTR w) up U.length vp V.length).1 (s1.PTR w) U.length).2.setSize w
        (sgn neg (MPN_NORMALIZE (mpn_sub_S s1 (s1.PTR w) up U.length vp V.length).1 (s1.PTR w) U.length).1)) w
      ⟨(s1.h w).buf.alloc, sgn neg (Mpir.normalize (Mpir.sub U V).1).length, Mpir.normalize (Mpir.sub U V).1⟩ := by
  obtain ⟨eu, oku⟩ := DU.rd U.length (Nat.le_refl _)
  obtain ⟨ev, okv⟩ := DV.rd V.length (Nat.le_refl _)
  rw [List.take_length] at eu ev
  obtain ⟨_, _, sl, sn⟩ := Mpir.sub_val' U V hLU hLV hle
  simp only [mpn_sub_S, eu, ev, oku, okv, Bool.and_self]
  have T := (Wrote.fresh s1 w (Mpir.sub U V).1 true hok rfl hb sl (by rw [sn]; exact hroom)).fin_norm neg
  simp only [sn] at T
  exact T

/-- the temporary product `tp = TMP_ALLOC_LIMBS (tsize); mpn_mul (tp, xp, xsize, yp, ysize)` (aorsmul.c:95-97) -/
theorem mpn_mul_tmp_spec (s : St) (xp yp : Ptr) (X Y : List Nat) (DX : Den s (.ptr xp) X) (DY : Den s (.ptr yp) Y)
    (hLX : Limbs X) (hLY : Limbs Y) (hY : Y ≠ []) :
    ∃ tb, mpn_mul_tmp s (X.length + Y.length) xp X.length yp Y.length = (tb, s, Mpz.topLimb (Mpz.mpn_mul X Y)) ∧
      ∀ s' : St, Den s' (.tmp tb 0) (Mpz.mpn_mul X Y) := by
  obtain ⟨ex, okx⟩ := DX.rd_all
  obtain ⟨ey, oky⟩ := DY.rd_all
  simp only [St.rdS, St.rdOkS] at ex okx ey oky
  have tn : (Mpz.mpn_mul X Y).length = X.length + Y.length := (mul_basecase_val' X Y hLX hLY (List.length_pos_iff.mpr hY)).2.2
  refine ⟨⟨X.length + Y.length, Mpz.mpn_mul X Y⟩, ?_, fun s' => ⟨rfl, by simp [tn], List.take_of_length_le (Nat.le_refl _)⟩⟩
  simp [mpn_mul_tmp, ex, ey, okx, oky, Buf.write, Buf.new, tn, chk_true]

theorem Den.one {s : St} {src : Src} {L : List Nat} (D : Den s src L) (h1 : L.length = 1) :
    (s.rdS (src.add 0) 1).headD junk = L.headD 0 ∧ s.rdOkS (src.add 0) 1 = true := by
  obtain ⟨e, ok⟩ := D.rd_add 0 1 (by omega)
  refine ⟨?_, ok⟩
  rw [e]
  match L, h1 with
  | [a], _ => rfl

/-- `mpn_cmp_twosizes_lt` on two operands: the limbs are compared (and read) only when the sizes agree -/
theorem cmp_twosizes_lt_spec (s : St) (a b : Src) (A Bl : List Nat) (Da : Den s a A) (Db : Den s b Bl) :
    cmp_twosizes_lt s a A.length b Bl.length = (Mpz.cmp_twosizes_lt A Bl, s) := by
  unfold cmp_twosizes_lt Mpz.cmp_twosizes_lt
  by_cases ha : A.length < Bl.length
  · simp [ha]
  · by_cases hb : A.length = Bl.length
    · obtain ⟨ea, oka⟩ := Da.rd_all
      obtain ⟨eb, okb⟩ := Db.rd_all
      rw [hb] at ea oka
      simp [hb, ea, eb, oka, okb, chk_true]
    · have hb3 : (A.length == Bl.length) = false := by simpa using hb
      simp [ha, hb3]

theorem aorsmulCore_refines (s : St) (w x y : Nat) (sub : Bool) (hs : s.ok = true)
    (hw : OWF (s.h w)) (hx : OWF (s.h x)) (hy : OWF (s.h y)) (hy0 : (s.h y).size ≠ 0) :
    Refines s (aorsmulCore (fun a b => max a b + 1) true s w x y (s.h x).size (s.h y).size sub) w
      (Mpz.aorsmulCore (view (s.h w)) (view (s.h x)) (view (s.h y)) sub) := by
  unfold aorsmulCore Mpz.aorsmulCore
  rw [show s.SIZ w = (s.h w).size from rfl, view_size, view_size, view_size]
  have hXl := view_d_length hx
  have hWl := view_d_length hw
  have hYl := view_d_length hy
  have hLX := view_limbs hx
  have hLW := view_limbs hw
  have hLY := view_limbs hy
  by_cases h1 : ((s.h y).size.natAbs == 1) = true
  · -- the one-limb shortcut into mpz_aorsmul_1
    simp only [h1, if_true]
    have h1' : (view (s.h y)).d.length = 1 := by rw [hYl]; simpa using h1
    obtain ⟨el, okl⟩ := (Den.of_owf hy).one h1'
    simp only [Src.add, St.rdS, St.rdOkS] at el okl
    simp only [St.load, el, okl, chk_true]
    have hy0B : (view (s.h y)).d.headD 0 < B := by
      match hd : (view (s.h y)).d, h1' with
      | [a], _ => rw [hd] at hLY; exact hLY a (by simp)
    exact aorsmul_1_refines s w x _ _ hs hw hx hy0B
  · simp only [h1, Bool.false_eq_true, if_false]
    have hYne : (view (s.h y)).d ≠ [] := by
      intro h; rw [h] at hYl; simp at hYl; omega
    simp only [← hXl, ← hYl, ← hWl]
    have G := MPZ_REALLOC_grown s w (max (view (s.h w)).d.length ((view (s.h x)).d.length + (view (s.h y)).d.length) + 1) hw
    have Dx := Den.of_grown G hx
    have Dy := Den.of_grown G hy
    have Dw := Den.of_grown G hw
    rw [← G.alloc]
    refine Refines.of_grown G ?_
    have hok1 := G.ok.trans hs
    have hbw := G.bwf w hw.1
    have hroom := G.room
    generalize MPZ_REALLOC s w (max (view (s.h w)).d.length ((view (s.h x)).d.length + (view (s.h y)).d.length) + 1) = s1 at *
    obtain ⟨_, tl, tn⟩ := mul_basecase_val' (view (s.h x)).d (view (s.h y)).d hLX hLY (List.length_pos_iff.mpr hYne)
    have tn' : (Mpz.mpn_mul (view (s.h x)).d (view (s.h y)).d).length = (view (s.h x)).d.length + (view (s.h y)).d.length := tn
    have tl' : Limbs (Mpz.mpn_mul (view (s.h x)).d (view (s.h y)).d) := tl
    by_cases hw0 : ((s.h w).size == 0) = true
    · -- w = 0: the product goes straight to wp
      simp only [hw0, if_true]
      obtain ⟨ex, okx⟩ := Dx.rd_all
      obtain ⟨ey, oky⟩ := Dy.rd_all
      simp only [St.rdS, St.rdOkS] at ex okx ey oky
      simp only [mpn_mul, ex, ey, okx, oky, Bool.and_self]
      exact (Wrote.fresh s1 w _ true hok1 rfl hbw tl' (by rw [tn']; omega)).fin_take _ _ (by rw [tn']; omega)
    · simp only [hw0, Bool.false_eq_true, if_false]
      obtain ⟨tb, et, Dt⟩ := mpn_mul_tmp_spec s1 (s1.PTR x) (s1.PTR y) _ _ Dx Dy hLX hLY hYne
      simp only [et]
      generalize Mpz.mpn_mul (view (s.h x)).d (view (s.h y)).d = t at *
      generalize htz : (view (s.h x)).d.length + (view (s.h y)).d.length - (if Mpz.topLimb t == 0 then 1 else 0) = tsz
      have htz' : tsz ≤ t.length := by rw [tn', ← htz]; omega
      have DT : Den s1 (.tmp tb 0) (t.take tsz) := (Dt s1).take tsz
      have hTl : (t.take tsz).length = tsz := by rw [List.length_take]; omega
      have hLT : Limbs (t.take tsz) := Limbs_take tl' _
      by_cases hsub : (((sub != decide ((s.h y).size < 0)) != decide ((s.h x).size < 0)) != decide ((s.h w).size < 0)) = true
      · -- submul of magnitudes: the bigger one first
        simp only [hsub, Bool.not_true, Bool.false_eq_true, if_false]
        have hcmp := cmp_twosizes_lt_spec s1 _ _ _ _ Dw DT
        rw [hTl] at hcmp
        simp only [hcmp]
        by_cases hlt : Mpz.cmp_twosizes_lt (view (s.h w)).d (t.take tsz) = true
        · simp only [hlt, if_true]
          have hle : (view (s.h w)).d.length ≤ (t.take tsz).length := by
            unfold Mpz.cmp_twosizes_lt at hlt
            simp only [Bool.or_eq_true, Bool.and_eq_true, decide_eq_true_eq, beq_iff_eq] at hlt
            omega
          have R := sub_S_refines s1 w (.tmp tb 0) (.ptr (s1.PTR w)) (t.take tsz) (view (s.h w)).d
            (decide ((s.h w).size < 0) != true) hok1 hbw DT Dw hLT hLW hle (by rw [hTl]; omega)
          rwa [hTl] at R
        · have hlt' : Mpz.cmp_twosizes_lt (view (s.h w)).d (t.take tsz) = false := by simpa using hlt
          simp only [hlt', Bool.false_eq_true, if_false]
          have hle : (t.take tsz).length ≤ (view (s.h w)).d.length := by
            unfold Mpz.cmp_twosizes_lt at hlt'
            simp only [Bool.or_eq_false_iff, decide_eq_false_iff_not] at hlt'
            omega
          have R := sub_S_refines s1 w (.ptr (s1.PTR w)) (.tmp tb 0) (view (s.h w)).d (t.take tsz)
            (decide ((s.h w).size < 0) != false) hok1 hbw Dw DT hLW hLT hle (by omega)
          rwa [hTl] at R
      · have hsub' : (((sub != decide ((s.h y).size < 0)) != decide ((s.h x).size < 0)) != decide ((s.h w).size < 0)) = false := by
          simpa using hsub
        simp only [hsub', Bool.not_false, if_true, Bool.true_or]
        by_cases hlt : (view (s.h w)).d.length < tsz
        · simp only [hlt, decide_true, if_true]
          have R := add_S_refines s1 w (.tmp tb 0) (.ptr (s1.PTR w)) (t.take tsz) (view (s.h w)).d
            (decide ((s.h w).size < 0)) hok1 hbw DT Dw hLT hLW (by rw [hTl]; omega) (by rw [hTl]; omega)
          rw [hTl] at R ⊢
          exact R
        · simp only [hlt, decide_false, Bool.false_eq_true, if_false]
          have R := add_S_refines s1 w (.ptr (s1.PTR w)) (.tmp tb 0) (view (s.h w)).d (t.take tsz)
            (decide ((s.h w).size < 0)) hok1 hbw Dw DT hLW hLT (by rw [hTl]; omega) (by omega)
          rwa [hTl] at R

theorem aorsmul_refines (s : St) (w x y : Nat) (sub : Bool) (hs : s.ok = true)
    (hw : OWF (s.h w)) (hx : OWF (s.h x)) (hy : OWF (s.h y)) :
    Refines s (aorsmul (fun a b => max a b + 1) true s w x y sub) w
      (Mpz.aorsmul (view (s.h w)) (view (s.h x)) (view (s.h y)) sub) := by
  unfold aorsmul
  rw [Mpz.aorsmul_eq]
  rw [show s.SIZ x = (s.h x).size from rfl, show s.SIZ y = (s.h y).size from rfl]
  have e1 : (view (s.h x)).size = (s.h x).size := rfl
  have e3 : (view (s.h y)).size = (s.h y).size := rfl
  rw [e1, e3]
  by_cases h0 : ((s.h x).size == 0 || (s.h y).size == 0) = true
  · simp only [h0, if_true]
    exact ⟨hs, rfl, hw.1, fun _ _ => rfl⟩
  · simp only [h0, Bool.false_eq_true, if_false]
    have ⟨hx0, hy0⟩ : (s.h x).size ≠ 0 ∧ (s.h y).size ≠ 0 := by simpa using h0
    by_cases hsw : (s.h y).size.natAbs > (s.h x).size.natAbs
    · simp only [hsw, if_true]
      exact aorsmulCore_refines s w y x sub hs hw hy hx hx0
    · simp only [hsw, if_false]
      exact aorsmulCore_refines s w x y sub hs hw hx hy hy0

end Mpir.AllocSafe
