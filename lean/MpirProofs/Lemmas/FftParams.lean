/- Lemmas about the parameter selection of mpn_mul_fft_main (Mpir/Model/FftParams.lean). -/
import Mpir.Model.FftParams
import Mpir.Gen.Params
import Mathlib.Tactic.Ring
import Mathlib.Tactic.Linarith
import Mathlib.Tactic.IntervalCases
import Mathlib.Tactic.NormNum
namespace Mpir.FftParams

/-! ### the loops of mul_fft_main.c -/

/-- mul_fft_main.c:55-68 — whatever the first loop returns satisfies its exit condition. -/
theorem findInit_spec (b1 b2 : Nat) : ∀ (fuel depth w d' w' : Nat), 6 ≤ depth → (w = 1 ∨ w = 2) →
    findInit b1 b2 fuel depth w = some (d', w') →
    6 ≤ d' ∧ (w' = 1 ∨ w' = 2) ∧ trunc b1 b2 d' w' ≤ 4 * 2 ^ d' := by
  intro fuel
  induction fuel with
  | zero => intro depth w d' w' _ _ h; simp [findInit] at h
  | succ f ih =>
    intro depth w d' w' hd hw h
    unfold findInit at h
    by_cases hc : trunc b1 b2 depth w > 4 * 2 ^ depth
    · simp only [hc, if_true] at h
      by_cases h1 : w = 1
      · simp only [h1, if_true] at h
        exact ih depth 2 d' w' hd (Or.inr rfl) h
      · simp only [h1, if_false] at h
        exact ih (depth + 1) 1 d' w' (by omega) (Or.inl rfl) h
    · simp only [hc, if_false, Option.some.injEq, Prod.mk.injEq] at h
      obtain ⟨rfl, rfl⟩ := h
      exact ⟨hd, hw, by omega⟩

/-- mul_fft_main.c:83-89 — the "smaller w" loop keeps w a multiple of wadj, at least wadj, and only ever
    returns a w whose coefficient count was tested (or the w it started from). -/
theorem smallerW_spec (b1 b2 depth wadj : Nat) : ∀ (fuel w : Nat), wadj ∣ w → wadj ≤ w →
    trunc b1 b2 depth w ≤ 4 * 2 ^ depth →
    wadj ∣ smallerW b1 b2 depth wadj fuel w ∧ wadj ≤ smallerW b1 b2 depth wadj fuel w ∧
    trunc b1 b2 depth (smallerW b1 b2 depth wadj fuel w) ≤ 4 * 2 ^ depth := by
  intro fuel
  induction fuel with
  | zero => intro w h1 h2 h3; simp only [smallerW]; exact ⟨h1, h2, h3⟩
  | succ f ih =>
    intro w h1 h2 h3
    unfold smallerW
    simp only []
    by_cases hc : trunc b1 b2 depth (w - wadj) ≤ 4 * 2 ^ depth ∧ w - wadj > wadj
    · simp only [hc, and_self, if_true]
      exact ih (w - wadj) (Nat.dvd_sub h1 (dvd_refl _)) (by omega) hc.1
    · simp only [hc, if_false]
      have : w - wadj + wadj = w := by omega
      rw [this]; exact ⟨h1, h2, h3⟩

/-! ### the adjustments keep the parameters sound -/

/-- the conditions the transforms need, from: 64 | n*w, n*w large enough, coefficient count fits -/
theorem sound_of (n1 n2 D r : Nat) (mfa : Bool) (h64 : 64 ∣ 2 ^ D * r) (hbig : D + 3 ≤ 2 ^ D * r)
    (htr : trunc (n1 * limbBits) (n2 * limbBits) D r ≤ 4 * 2 ^ D) (hm : mfa = true → 1 ≤ D) :
    Sound n1 n2 ⟨mfa, D, r⟩ := by
  unfold Sound
  simp only [limbBits, bitsOf] at *
  generalize 2 ^ D * r = X at *
  refine ⟨h64, ?_, ?_, htr, ?_, hm⟩ <;> omega

/-- rounding argument for the MFA adjustment (mul_fft_main.c:95-99), M = (n/2)·w: if at most 3n coefficients are needed
    at (depth, w) then at most 4(n/2) are needed at (depth-1, 3w).  With p1 + p2 ≥ 4m the coefficients would hold at
    least 4m·Y bits, the operands at most (6m + 1)·X − 2; but 2Y ≈ 3X. -/
theorem mfa_fit (m M d X Y c1 c2 q1 q2 p1 p2 : ℕ) (hM : M ≤ 2 * m) (hd : 11 ≤ d)
    (hX : 2 * X + (d + 1) ≤ 2 * M) (hY : 3 * M ≤ 2 * Y + d + 1)
    (a1 : c1 + 1 ≤ (q1 + 1) * X) (a2 : c2 + 1 ≤ (q2 + 1) * X) (e1 : p1 * Y ≤ c1) (e2 : p2 * Y ≤ c2)
    (hq : q1 + q2 + 1 ≤ 6 * m) : p1 + p2 + 1 ≤ 4 * m := by
  by_contra hc
  have s2 := Nat.mul_le_mul_right X (show q1 + q2 + 2 ≤ 6 * m + 1 by omega)
  have s3 := Nat.mul_le_mul_right Y (show 4 * m ≤ p1 + p2 by omega)
  have t1 := Nat.mul_le_mul_left (6 * m + 1) hX
  have t2 := Nat.mul_le_mul_left (4 * m) hY
  have t3 := Nat.mul_le_mul_left (2 * m + 1) (show 12 ≤ d + 1 by omega)
  have t4 := Nat.mul_le_mul_left m hM
  linarith

/-- mul_fft_main.c:74-77 — the FFT_TAB adjustment (depth -= off, w *= 4^off) never needs more coefficients than the
    shorter transform has: n·w grows by 2^off, so a coefficient holds at least 2^off times as many bits and at most the
    2^off-th part of the coefficients is needed, of 4n/2^off. -/
theorem adjust_fits (b1 b2 depth w off : Nat) (ho : off ≤ depth) (hbig : depth + 3 ≤ 2 ^ depth * w)
    (h : trunc b1 b2 depth w ≤ 4 * 2 ^ depth) :
    trunc b1 b2 (depth - off) (w * 2 ^ (2 * off)) ≤ 4 * 2 ^ (depth - off) := by
  obtain ⟨d, rfl⟩ : ∃ d, depth = d + off := ⟨depth - off, by omega⟩
  rw [Nat.add_sub_cancel]
  have hK : 0 < 2 ^ off := by positivity
  have hX0 : 0 < bitsOf (d + off) w := by unfold bitsOf; omega
  have hXY : 2 ^ off * bitsOf (d + off) w ≤ bitsOf d (w * 2 ^ (2 * off)) := by
    unfold bitsOf
    rw [show 2 ^ d * (w * 2 ^ (2 * off)) = 2 ^ off * (2 ^ (d + off) * w) by rw [pow_add, two_mul, pow_add]; ring]
    generalize 2 ^ (d + off) * w = N
    generalize 2 ^ off = K at hK
    rw [Nat.le_div_iff_mul_le two_pos, Nat.mul_assoc]
    have h1 := Nat.mul_le_mul_left K (Nat.div_mul_le_self (N - (d + off + 1)) 2)
    have h2 : d + 1 ≤ K * (d + off + 1) := le_trans (by omega) (Nat.le_mul_of_pos_left _ hK)
    rw [Nat.mul_sub] at h1
    omega
  unfold trunc coeffs at *
  generalize bitsOf (d + off) w = X at *
  generalize bitsOf d (w * 2 ^ (2 * off)) = Y at *
  have hq : ∀ b, (b - 1) / Y * 2 ^ off ≤ (b - 1) / X := fun b =>
    calc (b - 1) / Y * 2 ^ off ≤ (b - 1) / (2 ^ off * X) * 2 ^ off :=
          Nat.mul_le_mul_right _ (Nat.div_le_div_left hXY (Nat.mul_pos hK hX0))
      _ = (b - 1) / X / 2 ^ off * 2 ^ off := by rw [Nat.mul_comm (2 ^ off) X, Nat.div_div_eq_div_mul]
      _ ≤ (b - 1) / X := Nat.div_mul_le_self _ _
  have h1 := hq b1
  have h2 := hq b2
  rw [pow_add, ← Nat.mul_assoc] at h
  have : ((b1 - 1) / Y + (b2 - 1) / Y) * 2 ^ off < 4 * 2 ^ d * 2 ^ off := by rw [Nat.add_mul]; omega
  have := Nat.lt_of_mul_lt_mul_right this
  omega

/-- the w finally passed on (mul_fft_main.c:81-90) -/
theorem pick_spec (b1 b2 D wadj W : Nat) (hdv : wadj ∣ W) (hle : wadj ≤ W)
    (ht : trunc b1 b2 D W ≤ 4 * 2 ^ D) :
    wadj ∣ (if W > wadj then smallerW b1 b2 D wadj W W else W) ∧
    wadj ≤ (if W > wadj then smallerW b1 b2 D wadj W W else W) ∧
    trunc b1 b2 D (if W > wadj then smallerW b1 b2 D wadj W W else W) ≤ 4 * 2 ^ D := by
  split
  · exact smallerW_spec b1 b2 D wadj W W hdv hle ht
  · exact ⟨hdv, hle, ht⟩

/-- depth < 11 branch of mul_fft_main.c:70-92 -/
theorem adjust_lt11 (tab : List (List Int)) (n1 n2 depth w : Nat) (hd6 : 6 ≤ depth) (hd : depth < 11)
    (hw : w = 1 ∨ w = 2) (hoff : tabGet tab depth w ≤ 4)
    (htr : trunc (n1 * limbBits) (n2 * limbBits) depth w ≤ 4 * 2 ^ depth) :
    Sound n1 n2 (adjust tab (n1 * limbBits) (n2 * limbBits) depth w) := by
  unfold adjust
  simp only [hd, if_true]
  generalize tabGet tab depth w = off at *
  have h64 : 2 ^ 6 ≤ 2 ^ depth := Nat.pow_le_pow_right (by norm_num) hd6
  have hfit := adjust_fits _ _ depth w off (by omega)
    (le_trans (by omega) (Nat.le_mul_of_pos_right _ (by rcases hw with rfl | rfl <;> norm_num))) htr
  generalize hD : depth - off = D at *
  generalize hW : w * 2 ^ (2 * off) = W at *
  have hwadj_pos : 0 < (if D < 6 then 2 ^ (6 - D) else 1) := by split <;> positivity
  have hdv : (if D < 6 then 2 ^ (6 - D) else 1) ∣ W := by
    split
    · rw [← hW]; exact Dvd.dvd.mul_left (Nat.pow_dvd_pow 2 (by omega)) w
    · exact one_dvd _
  have hWpos : 0 < W := by rw [← hW]; rcases hw with rfl | rfl <;> positivity
  have hle : (if D < 6 then 2 ^ (6 - D) else 1) ≤ W := Nat.le_of_dvd hWpos hdv
  obtain ⟨p1, p2, p3⟩ := pick_spec _ _ D _ W hdv hle hfit
  generalize (if W > (if D < 6 then 2 ^ (6 - D) else 1) then smallerW (n1 * limbBits) (n2 * limbBits) D (if D < 6 then 2 ^ (6 - D) else 1) W W else W) = r at *
  have h64w : 64 ∣ 2 ^ D * (if D < 6 then 2 ^ (6 - D) else 1) := by
    split
    · rw [← pow_add, show D + (6 - D) = 6 by omega]; norm_num
    · rw [mul_one]; exact Nat.pow_dvd_pow 2 (show 6 ≤ D by omega)
  have h64 : 64 ∣ 2 ^ D * r := dvd_trans h64w (Nat.mul_dvd_mul_left _ p1)
  have hpos : 0 < 2 ^ D * r := Nat.mul_pos (by positivity) (Nat.lt_of_lt_of_le hwadj_pos p2)
  have hge : 64 ≤ 2 ^ D * r := Nat.le_of_dvd hpos h64
  exact sound_of n1 n2 D r false h64 (by omega) p3 (by simp)

/-- depth ≥ 11 branch of mul_fft_main.c:93-102 (MFA), including the depth--, w *= 3 adjustment -/
theorem adjust_ge11 (tab : List (List Int)) (n1 n2 depth w : Nat) (_hn1 : 1 ≤ n1) (_hn2 : 1 ≤ n2) (hd : 11 ≤ depth)
    (hw : w = 1 ∨ w = 2)
    (htr : trunc (n1 * limbBits) (n2 * limbBits) depth w ≤ 4 * 2 ^ depth) :
    Sound n1 n2 (adjust tab (n1 * limbBits) (n2 * limbBits) depth w) := by
  unfold adjust
  rw [if_neg (by omega : ¬ depth < 11)]
  obtain ⟨e, rfl⟩ : ∃ e, depth = e + 1 := ⟨depth - 1, by omega⟩
  have hpe : e + 1 ≤ 2 ^ e := Nat.lt_two_pow_self
  have h64 : 64 ∣ 2 ^ e := Nat.pow_dvd_pow 2 (show 6 ≤ e by omega)
  have hM1 : 2 ^ e ≤ 2 ^ e * w := Nat.le_mul_of_pos_right _ (by rcases hw with rfl | rfl <;> norm_num)
  have hM2 : 2 ^ e * w ≤ 2 * 2 ^ e := by rcases hw with rfl | rfl <;> omega
  split
  · -- (depth - 1, 3 w)
    rename_i h3
    rw [Nat.add_sub_cancel]
    refine sound_of n1 n2 e (w * 3) true (Dvd.dvd.mul_right h64 _) (by rw [← Nat.mul_assoc]; omega) ?_ (fun _ => by omega)
    unfold trunc coeffs bitsOf at h3 ⊢
    rw [pow_succ, Nat.mul_right_comm] at h3
    rw [← Nat.mul_assoc]
    generalize 2 ^ e * w = M at *
    have hX0 : 0 < (M * 2 - (e + 1 + 1)) / 2 := by omega
    have hY0 : 0 < (M * 3 - (e + 1)) / 2 := by omega
    have hX : 2 * ((M * 2 - (e + 1 + 1)) / 2) + (e + 1 + 1) ≤ 2 * M := by omega
    have hY : 3 * M ≤ 2 * ((M * 3 - (e + 1)) / 2) + (e + 1) + 1 := by omega
    generalize (M * 2 - (e + 1 + 1)) / 2 = X at *
    generalize (M * 3 - (e + 1)) / 2 = Y at *
    have a : ∀ b, b - 1 + 1 ≤ ((b - 1) / X + 1) * X := fun b => by
      rw [Nat.mul_comm]; exact Nat.lt_mul_div_succ _ hX0
    have := mfa_fit (2 ^ e) M (e + 1) X Y (n1 * limbBits - 1) (n2 * limbBits - 1) ((n1 * limbBits - 1) / X)
      ((n2 * limbBits - 1) / X) ((n1 * limbBits - 1) / Y) ((n2 * limbBits - 1) / Y) hM2 hd hX hY (a _) (a _)
      (Nat.div_mul_le_self _ Y) (Nat.div_mul_le_self _ Y) (by omega)
    omega
  · -- (depth, w) unchanged
    exact sound_of n1 n2 (e + 1) w true (Dvd.dvd.mul_right (Dvd.dvd.mul_right h64 2) _)
      (by rw [pow_succ, Nat.mul_right_comm]; omega) htr (fun _ => by omega)

/-! ### the first loop terminates -/

theorem two_d_le (d : Nat) (hd : 4 ≤ d) : 2 * d + 4 ≤ 2 ^ d := by
  induction d with
  | zero => omega
  | succ e ih =>
    by_cases h : e = 3
    · subst h; norm_num
    · have := ih (by omega); rw [pow_succ]; omega

/-- the first loop's exit test holds at (d, 1) as soon as (2^d)^2 ≥ total bits -/
theorem stop_at (d b1 b2 : Nat) (hd : 6 ≤ d) (h1 : 1 ≤ b1) (h2 : 1 ≤ b2) (hb : b1 + b2 ≤ (2 ^ d) ^ 2) :
    trunc b1 b2 d 1 ≤ 4 * 2 ^ d := by
  unfold trunc coeffs
  have hn := two_d_le d (by omega)
  have hbits : 2 ^ d ≤ 4 * bitsOf d 1 := by unfold bitsOf; omega
  have hpos : 0 < bitsOf d 1 := by
    have : 64 ≤ 2 ^ d := by
      calc 64 = 2 ^ 6 := by norm_num
        _ ≤ 2 ^ d := Nat.pow_le_pow_right (by norm_num) hd
    omega
  generalize bitsOf d 1 = X at *
  generalize 2 ^ d = n at *
  have e1 : (b1 - 1) / X * X ≤ b1 - 1 := Nat.div_mul_le_self _ _
  have e2 : (b2 - 1) / X * X ≤ b2 - 1 := Nat.div_mul_le_self _ _
  generalize (b1 - 1) / X = q1 at *
  generalize (b2 - 1) / X = q2 at *
  have e1' : q1 * X + 1 ≤ b1 := by omega
  have e2' : q2 * X + 1 ≤ b2 := by omega
  have k1 := Nat.mul_le_mul_left n hbits
  have : (q1 + q2) * X < 4 * n * X := by linarith
  have := Nat.lt_of_mul_lt_mul_right this
  omega

theorem findInit_some (b1 b2 D : Nat) (hstop : trunc b1 b2 D 1 ≤ 4 * 2 ^ D) :
    ∀ (fuel d w : Nat), d ≤ D → ((w = 1 ∧ 2 * (D - d) + 1 ≤ fuel) ∨ (w = 2 ∧ d < D ∧ 2 * (D - d) ≤ fuel)) →
      findInit b1 b2 fuel d w ≠ none := by
  intro fuel
  induction fuel with
  | zero => intro d w _ h; omega
  | succ f ih =>
    intro d w hd h
    unfold findInit
    by_cases hc : trunc b1 b2 d w > 4 * 2 ^ d
    · simp only [hc, if_true]
      rcases h with ⟨rfl, hf⟩ | ⟨rfl, hlt, hf⟩
      · simp only [if_true]
        have : d < D := by
          by_contra hx
          have : d = D := by omega
          subst this; omega
        exact ih d 2 hd (Or.inr ⟨rfl, this, by omega⟩)
      · simp only [show ¬ (2 = 1) by decide, if_false]
        exact ih (d + 1) 1 (by omega) (Or.inl ⟨rfl, by omega⟩)
    · simp [hc]

/-- total bits fit under (2^D)^2 for D = log2(n1+n2)/2 + 6 -/
theorem depth_bound (n1 n2 : Nat) :
    n1 * limbBits + n2 * limbBits ≤ (2 ^ (Nat.log2 (n1 + n2) / 2 + 6)) ^ 2 := by
  have hN : n1 + n2 < 2 ^ (Nat.log2 (n1 + n2) + 1) := Nat.lt_log2_self
  generalize Nat.log2 (n1 + n2) = L at *
  have : (2 ^ (L / 2 + 6)) ^ 2 = 2 ^ (2 * (L / 2) + 12) := by rw [← pow_mul]; congr 1; ring
  rw [this]
  have h2 : 2 ^ (L + 7) ≤ 2 ^ (2 * (L / 2) + 12) := Nat.pow_le_pow_right (by norm_num) (by omega)
  have h3 : 2 ^ (L + 7) = 64 * 2 ^ (L + 1) := by rw [show L + 7 = (L + 1) + 6 by omega, pow_add]; norm_num; ring
  unfold limbBits
  omega

/-- mul_fft_main.c:55-68 terminates: the model's fuel is sufficient, so `fftParams` never returns `none`. -/
theorem fftParams_total (tab : List (List Int)) (n1 n2 : Nat) (hn1 : 1 ≤ n1) (hn2 : 1 ≤ n2) :
    fftParams tab n1 n2 ≠ none := by
  unfold fftParams
  simp only []
  have hb := depth_bound n1 n2
  have hstop := stop_at (Nat.log2 (n1 + n2) / 2 + 6) (n1 * limbBits) (n2 * limbBits) (by omega)
    (by unfold limbBits; omega) (by unfold limbBits; omega) hb
  have := findInit_some _ _ _ hstop (initFuel n1 n2) 6 1 (by omega) (Or.inl ⟨rfl, by unfold initFuel; omega⟩)
  split
  · contradiction
  · simp

/-! ### the selection as a whole -/

theorem sound_of_fftParams (tab : List (List Int))
    (htab : ∀ d w, 6 ≤ d → d < 11 → (w = 1 ∨ w = 2) → tabGet tab d w ≤ 4)
    (n1 n2 : Nat) (hn1 : 1 ≤ n1) (hn2 : 1 ≤ n2) (c : Choice) (h : fftParams tab n1 n2 = some c) :
    Sound n1 n2 c := by
  unfold fftParams at h
  simp only [] at h
  split at h
  · simp at h
  · rename_i depth w hf
    obtain ⟨hd6, hw, htr⟩ := findInit_spec _ _ _ 6 1 depth w (le_refl 6) (Or.inl rfl) hf
    simp only [Option.some.injEq] at h
    subst h
    by_cases hd : depth < 11
    · exact adjust_lt11 tab n1 n2 depth w hd6 hd hw (htab depth w hd6 hd hw) htr
    · exact adjust_ge11 tab n1 n2 depth w hn1 hn2 (by omega) hw htr

theorem fftParams_sound (tab : List (List Int))
    (htab : ∀ d w, 6 ≤ d → d < 11 → (w = 1 ∨ w = 2) → tabGet tab d w ≤ 4)
    (n1 n2 : Nat) (hn1 : 1 ≤ n1) (hn2 : 1 ≤ n2) :
    ∃ c, fftParams tab n1 n2 = some c ∧ Sound n1 n2 c := by
  cases h : fftParams tab n1 n2 with
  | none => exact absurd h (fftParams_total tab n1 n2 hn1 hn2)
  | some c => exact ⟨c, rfl, sound_of_fftParams tab htab n1 n2 hn1 hn2 c h⟩

theorem fftTab_le_four : ∀ d w, 6 ≤ d → d < 11 → (w = 1 ∨ w = 2) → tabGet Mpir.Gen.params.FFT_TAB d w ≤ 4 := by
  intro d w h1 h2 hw
  interval_cases d <;> rcases hw with rfl | rfl <;> decide

/-- mul_fft_main.c:70, :93-101: the matrix Fourier multiplier is only ever selected with depth ≥ 10 -/
theorem fftParams_mfa_depth (tab : List (List Int)) (n1 n2 : Nat) (depth w : Nat)
    (h : fftParams tab n1 n2 = some ⟨true, depth, w⟩) : 10 ≤ depth := by
  unfold fftParams at h
  simp only [] at h
  split at h
  · simp at h
  · rename_i d0 w0 hf
    simp only [Option.some.injEq] at h
    unfold adjust at h
    by_cases hd : d0 < 11
    · simp only [hd, if_true] at h
      have := congrArg Choice.mfa h
      simp at this
    · simp only [hd, if_false] at h
      split at h
      · have := congrArg Choice.depth h
        simp only at this; omega
      · have := congrArg Choice.depth h
        simp only at this; omega

end Mpir.FftParams
