/- Refinement proof for the size-aware model of mpz/set_d.c (Mpir/Model/AllocSafeMpz4.lean `set_d`): `_mpz_realloc (r, rn)`
   covers the zero fill of `rn - 2` limbs and the two limbs of the double stored above it; the limbs are those of the value-level
   model of C09 (`Conv.mpz_set_d`). -/
import MpirProofs.Lemmas.AllocSafe
import MpirProofs.Lemmas.Conv
import Mpir.Model.AllocSafeMpz4
namespace Mpir.AllocSafe
open Mpir
open Mpir.Mpz (sgn natAbs_sgn)

theorem set_two (L : List Nat) (k a b : Nat) (hL : L.length = k + 2) :
    ((List.replicate k 0 ++ L.drop k).set (k + 1) b).set k a = List.replicate k 0 ++ [a, b] := by
  have hd : (L.drop k).length = 2 := by simp [hL]
  match h : L.drop k, hd with
  | [x, y], _ =>
    rw [List.set_append_right _ _ (by simp), List.set_append_right _ _ (by simp)]
    simp

theorem set_d_refines (s : St) (r : Nat) (d : Nat) (hs : s.ok = true) (hr : OWF (s.h r))
    (hfin : (Conv.isNaN d || Conv.isInf d) = false)
    (hlimb : (Conv.extract_double (Conv.absBits d)).1 < B ∧ (Conv.extract_double (Conv.absBits d)).2.1 < B) :
    ∃ s' z, set_d 0 s r d = some s' ∧ Conv.mpz_set_d d = some z ∧
      Refines s s' r ⟨(Mpz.grow (view (s.h r)) (Conv.extract_double (Conv.absBits d)).2.2.toNat).alloc,
        sgn (Conv.isNeg d) (Conv.extract_double (Conv.absBits d)).2.2.toNat, z.d⟩ ∧
      z.size = sgn (Conv.isNeg d) (Conv.extract_double (Conv.absBits d)).2.2.toNat := by
  unfold set_d Conv.mpz_set_d
  simp only [hfin, Bool.false_eq_true, if_false, Nat.sub_zero]
  generalize Conv.extract_double (Conv.absBits d) = t at *
  obtain ⟨h0B, h1B⟩ := hlimb
  have G := MPZ_REALLOC_grown s r t.2.2.toNat hr
  have halloc : (Mpz.grow (view (s.h r)) t.2.2.toNat).alloc = ((MPZ_REALLOC s r t.2.2.toNat).h r).buf.alloc := G.alloc.symm
  rw [halloc]
  have hok1 : (MPZ_REALLOC s r t.2.2.toNat).ok = true := by rw [G.ok]; exact hs
  have hb1 := G.bwf r hr.1
  have hroom := G.room
  generalize MPZ_REALLOC s r t.2.2.toNat = s1 at *
  rw [show t = (t.1, t.2.1, t.2.2) from rfl]
  simp only []
  have W0 := Wrote.refl s1 r t.2.2.toNat hok1 hb1 hroom
  have hR0 : ((s1.h r).buf.limbs.take t.2.2.toNat).length = t.2.2.toNat := by rw [List.length_take, hb1.1]; omega
  generalize (s1.h r).buf.limbs.take t.2.2.toNat = R0 at W0 hR0
  by_cases h0 : t.2.2.toNat = 0
  · have hle : t.2.2 ≤ 0 := by omega
    simp only [h0, beq_self_eq_true, if_true, hle]
    refine ⟨_, _, rfl, rfl, Refines.of_grown G ?_, by simp [sgn]⟩
    have F := W0.fin_take (Conv.isNeg d) 0 (Nat.zero_le _)
    simpa using F
  · have hpos : ¬ t.2.2 ≤ 0 := by omega
    have h0' : (t.2.2.toNat == 0) = false := by simpa using h0
    have hz : (if t.2.2 ≤ 0 then (0 : Int) else t.2.2) = t.2.2 := by rw [if_neg hpos]
    simp only [h0', Bool.false_eq_true, if_false, hz]
    have hne0 : ¬ t.2.2 = 0 := by omega
    have hsz : sgn (Conv.isNeg d) t.2.2.toNat = (if Conv.isNeg d = true then -t.2.2 else t.2.2) := by
      unfold sgn; rw [Int.toNat_of_nonneg (by omega)]
    by_cases h1 : t.2.2.toNat = 1
    · have h1' : t.2.2 = 1 := by omega
      have e : (t.2.2.toNat == 1) = true := by simpa using h1
      simp only [e, if_true, hne0, if_false, eq_true h1']
      refine ⟨_, _, rfl, rfl, Refines.of_grown G ?_, hsz.symm⟩
      have W1 := W0.store_set 0 t.2.1 (by omega) h1B
      have F := W1.fin_take (Conv.isNeg d) 1 (by simp; omega)
      have hset : (R0.set 0 t.2.1).take 1 = [t.2.1] := by
        match R0, hR0.trans h1 with
        | [x], _ => rfl
      rw [hset] at F
      rw [h1]
      exact F
    · have e : (t.2.2.toNat == 1) = false := by simpa using h1
      have hn1 : ¬ t.2.2 = 1 := by omega
      simp only [e, Bool.false_eq_true, if_false, hne0, hn1]
      refine ⟨_, _, rfl, rfl, Refines.of_grown G ?_, hsz.symm⟩
      have hk : t.2.2.toNat = (t.2.2.toNat - 2) + 2 := by omega
      have W1 := W0.wr 0 (List.replicate (t.2.2.toNat - 2) 0) (Limbs_replicate_zero _) (Nat.zero_le _) (by simp; omega)
      simp only [add_zero_ptr, List.take_zero, List.nil_append, Nat.zero_add, List.length_replicate] at W1
      have hl1 : (List.replicate (t.2.2.toNat - 2) 0 ++ R0.drop (t.2.2.toNat - 2)).length = t.2.2.toNat := by
        simp [hR0] <;> omega
      have W2 := W1.store_set (t.2.2.toNat - 2 + 1) t.2.1 (by rw [hl1]; omega) h1B
      have W3 := W2.store_set (t.2.2.toNat - 2) t.1 (by simp [hR0] <;> omega) h0B
      rw [set_two R0 (t.2.2.toNat - 2) t.1 t.2.1 (by rw [hR0]; omega)] at W3
      have F := W3.fin_take (Conv.isNeg d) t.2.2.toNat (by simp; omega)
      rw [List.take_of_length_le (by simp; omega)] at F
      simpa [MPN_ZERO] using F

theorem extract_double_limbs (d : Nat) (hfin : Conv.expOf d ≠ 2047) :
    (Conv.extract_double (Conv.absBits d)).1 < B ∧ (Conv.extract_double (Conv.absBits d)).2.1 < B := by
  obtain ⟨he, _, _, _, _⟩ := Conv.absBits_fields d
  by_cases hzero : Conv.isZero (Conv.absBits d) = true
  · have : Conv.extract_double (Conv.absBits d) = (0, 0, 0) := by unfold Conv.extract_double; rw [if_pos hzero]
    rw [this]; exact ⟨B_pos, B_pos⟩
  · have hz' : Conv.isZero (Conv.absBits d) = false := by simpa using hzero
    obtain ⟨r0, r1, ex, e, h0, _, h1, _⟩ := Conv.extract_double_eq _ hz' (by rw [he]; exact hfin)
    rw [e]; exact ⟨h0, h1⟩

theorem finite_of_exp (d : Nat) (hfin : Conv.expOf d ≠ 2047) : (Conv.isNaN d || Conv.isInf d) = false := by
  rw [(Conv.finite_flags hfin).1, (Conv.finite_flags hfin).2]; rfl

end Mpir.AllocSafe
