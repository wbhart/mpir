/- mpz_primorial_ui (mpz/primorial_ui.c) for every argument. -/
import MpirProofs.Lemmas.SwingAsm
namespace Mpir.Numth
open Mpir Mpir.Gen.NumthTabs Mpir.Sieve
open Nat

theorem primorial_eq_prod (n : ℕ) : _root_.primorial n = ∏ i ∈ Finset.Ico 0 (n + 1), atPrime (fun x => x) i := by
  rw [_root_.primorial, Finset.prod_filter, Finset.range_eq_Ico]; rfl

theorem mpz_primorial_ui_eq (n : ℕ) (hn : n < B) : mpz_primorial_ui n = primorial n := by
  have hlen : primorialTable.length = 5 := by decide
  unfold mpz_primorial_ui
  by_cases hsmall : n < primorialTable.length
  · simp only [hsmall, if_true]
    rw [hlen] at hsmall
    have : ∀ i < 5, primorialTable.getD i 0 = primorial i := by decide +kernel
    exact this n hsmall
  · simp only [hsmall, if_false]
    rw [hlen] at hsmall ⊢
    rw [n_to_bit_five, n_to_bit_eq_nb n (by omega) hn]
    change flVal _ = _
    rw [loopOnSieve_val (fun x => x) _ 0 n _ (by omega) (Nat.zero_le _)
      (fun p st' _ _ h2 => flStore_val_of_le st' h2 (limb_div_mul_lt le_rfl)), show bit_to_n 0 = 5 by decide]
    have h6 : flVal (([] : List ℕ), primorialTable.getD (5 - 1) 0) = 6 := by decide +kernel
    have h5 : ∏ i ∈ Finset.Ico 0 5, atPrime (fun x => x) i = 6 := by decide
    rw [h6, primorial_eq, primorial_eq_prod, ← Finset.prod_Ico_consecutive _ (Nat.zero_le 5) (show 5 ≤ n + 1 by omega), h5]

end Mpir.Numth
