/- mpz_sqrtrem on the pointer-level model: manual free + allocate of the root block, "Make OP not overlap with ROOT",
   remainder in place when rem is op. -/
import MpirProofs.Lemmas.AliasMemOps
namespace Mpir.AliasMem
open Mpir
open Mpir.DivZ (sizeNat siz sameSign)

theorem mpn_sqrtrem_ok {s : St} {sp rp np nn : Nat} {Nl bs br : List Nat}
    (hN : s.load np nn = .ok Nl) (hbs : s.blk sp = some bs) (hbr : s.blk rp = some br)
    (h1 : sp ≠ np) (h2 : sp ≠ rp) (hnn : 1 ≤ nn) (htop : Nl.getD (nn - 1) 0 ≠ 0)
    (has : (nn + 1) / 2 ≤ bs.length) (har : sizeNat (val Nl - Nat.sqrt (val Nl) * Nat.sqrt (val Nl)) ≤ br.length) :
    mpn_sqrtrem sp rp np nn s =
      .ok (sizeNat (val Nl - Nat.sqrt (val Nl) * Nat.sqrt (val Nl)),
        (s.setBlk sp (some (toLimbs ((nn + 1) / 2) (Nat.sqrt (val Nl)) ++ bs.drop ((nn + 1) / 2)))).setBlk rp
          (some (toLimbs (sizeNat (val Nl - Nat.sqrt (val Nl) * Nat.sqrt (val Nl))) (val Nl - Nat.sqrt (val Nl) * Nat.sqrt (val Nl))
            ++ br.drop (sizeNat (val Nl - Nat.sqrt (val Nl) * Nat.sqrt (val Nl)))))) := by
  unfold mpn_sqrtrem
  have hc : ¬ (sp = np ∨ sp = rp) := by tauto
  have hs : ¬ ¬ 1 ≤ nn := by omega
  simp only [bind, Except.bind, hc, if_false, hN, hs, htop, pure, Except.pure]
  have st1 : s.store sp (toLimbs ((nn + 1) / 2) (Nat.sqrt (val Nl))) =
      .ok (s.setBlk sp (some (toLimbs ((nn + 1) / 2) (Nat.sqrt (val Nl)) ++ bs.drop ((nn + 1) / 2)))) := by
    unfold St.store; rw [hbs]; simp only [toLimbs_length]; rw [if_pos has]
  rw [st1]; simp only []
  unfold St.store
  have : (s.setBlk sp (some (toLimbs ((nn + 1) / 2) (Nat.sqrt (val Nl)) ++ bs.drop ((nn + 1) / 2)))).blk rp = some br := by
    simp [St.setBlk, Ne.symm h2, hbr]
  rw [this]; simp only [toLimbs_length]; rw [if_pos har]

theorem sqrtrem_ok {s : St} (h : Inv s) {root rem op : Nat} (hr : root < s.nv) (hm : rem < s.nv) (ho : op < s.nv)
    (hrm : root ≠ rem) (hop : 0 ≤ s.value op) :
    ∃ s', sqrtrem root rem op s = .ok s' ∧ Res2 s s' root rem (Nat.sqrt (s.value op).toNat : Int)
      (s.value op - (Nat.sqrt (s.value op).toNat : Int) * (Nat.sqrt (s.value op).toNat : Int)) := by
  unfold sqrtrem sqrtremV
  simp only [Variant.c, bind, Except.bind, pure, Except.pure, true_and]
  have hsz0 : ¬ s.size op < 0 := fun e => by have := (h.size_neg_iff ho).mp e; omega
  rw [if_neg hsz0]
  by_cases hz : s.size op = 0
  · rw [if_pos hz]
    have hv0 : s.value op = 0 := (h.size_eq_zero_iff ho).mp hz
    obtain ⟨i1, u1, v1⟩ := setSize_zero_spec h hr
    obtain ⟨i2, u2, v2⟩ := setSize_zero_spec i1 (v := rem) (u1.nv ▸ hm)
    exact ⟨_, rfl, u1.res2 u2 h hr hm hrm i1 i2 (by rw [v1, hv0]; rfl) (by rw [v2, hv0]; rfl)⟩
  · rw [if_neg hz]
    set n := (s.size op).natAbs with hn
    have hn1 : 1 ≤ n := by omega
    rw [value_of_nonneg hop, Int.toNat_natCast]
    -- MPZ_REALLOC (rem, n)
    obtain ⟨i1, k1, a1⟩ := realloc_same h hm n
    set s1 := s.mpzRealloc rem n with hs1
    have ho1 : op < s1.nv := k1.lt ho
    -- the block of root: a new one if it is too small, and then root is not op, whose limbs fit its block
    have hne : s1.alloc root < (n + 1) / 2 → op ≠ root := fun hlt e => by
      have hf := i1.fits op ho1
      rw [k1.size, ← hn, e] at hf
      omega
    obtain ⟨s2, es2, i2, nv2, size2, val2, ar2, am2, hpo, hmagop⟩ : ∃ s2,
        (if decide (s1.alloc root < (n + 1) / 2) = true then s1.freshBlock root ((n + 1) / 2) else s1) = s2 ∧ Inv s2 ∧
        s2.nv = s.nv ∧ (∀ i, s2.size i = s.size i) ∧ (∀ i, i < s.nv → i ≠ root → s2.value i = s.value i) ∧
        (n + 1) / 2 ≤ s2.alloc root ∧ n ≤ s2.alloc rem ∧ s2.ptr op = s1.ptr op ∧ s2.mag op = s.mag op := by
      by_cases hgrow : s1.alloc root < (n + 1) / 2
      · obtain ⟨i2, nv2, size2, val2, aV, aO, -, pO, -⟩ := freshBlock_spec i1 (k1.lt hr) ((n + 1) / 2) hgrow
        exact ⟨_, if_pos (decide_eq_true hgrow), i2, nv2.trans k1.nv, fun i => (size2 i).trans (k1.size i),
          fun i hi hir => (val2 i (k1.lt hi) hir).trans (k1.value hi), aV.ge, (aO rem hrm.symm).symm ▸ a1, pO op (hne hgrow),
          by rw [← value_natAbs, ← value_natAbs, val2 op ho1 (hne hgrow), k1.value ho]⟩
      · exact ⟨s1, if_neg (by simpa using hgrow), i1, k1.nv, k1.size, fun i hi _ => k1.value hi, by omega, a1, rfl, k1.mag ho⟩
    rw [es2]
    have hr2 : root < s2.nv := by rw [nv2]; exact hr
    have hm2 : rem < s2.nv := by rw [nv2]; exact hm
    have ho2 : op < s2.nv := by rw [nv2]; exact ho
    have hroot_ptr : (if decide (s1.alloc root < (n + 1) / 2) = true then s2.ptr root else s1.ptr root) = s2.ptr root := by
      split
      · rfl
      · rw [← es2, if_neg ‹_›]
    rw [hroot_ptr]
    -- the copy of op
    rw [← hpo]
    generalize hcc : decide ((!decide (s1.alloc root < (n + 1) / 2)) = true ∧ s2.ptr root = s2.ptr op) = c
    have hl := i2.load_var ho2; rw [size2, ← hn] at hl
    obtain ⟨q, s3, e3, i3, x3, l3, t3, f3⟩ := copyIf_spec i2 c hl
    rw [e3]; simp only []
    have hr3 : root < s3.nv := by rw [x3.nv]; exact hr2
    have hm3 : rem < s3.nv := by rw [x3.nv]; exact hm2
    obtain ⟨bs, hbs, hbsl, hbsL⟩ := i3.live root hr3
    obtain ⟨br, hbr, hbrl, hbrL⟩ := i3.live rem hm3
    have hsp : s3.ptr root = s2.ptr root := x3.ptr root
    rw [hsp] at hbs
    have hspq : s2.ptr root ≠ q := by
      cases c
      · rw [(f3 rfl).1]
        exact fun e => of_decide_eq_false hcc
          ⟨by simpa using fun hlt => hne hlt (i2.inj root op hr2 ho2 e).symm, e⟩
      · rw [(t3 rfl).1]; exact Nat.ne_of_lt (i2.lt root hr2)
    have hspr : s2.ptr root ≠ s3.ptr rem := by
      rw [← hsp]; exact fun e => hrm (i3.inj root rem hr3 hm3 e)
    have hsop : s2.size op ≠ 0 := by rw [size2]; exact hz
    have htop := i2.top_ne_zero ho2 hsop; rw [size2, ← hn] at htop
    have hN1 := i2.mag_ge ho2 hsop; rw [size2, ← hn] at hN1
    have hN2 := i2.mag_lt ho2; rw [size2, ← hn] at hN2
    set N := s2.mag op with hNdef
    have hvalN : val (s2.limbs op) = N := rfl
    set Rt := Nat.sqrt N with hRt
    have hsq : Rt * Rt ≤ N := Nat.sqrt_le N
    set Rm := N - Rt * Rt with hRm
    have hRtsz : sizeNat Rt = (n + 1) / 2 := sqrt_size hN1 hN2 hn1
    have hRmsz : sizeNat Rm ≤ n := (DivZ.sizeNat_le_iff _ _).mpr (by omega)
    have hmpn : mpn_sqrtrem (s2.ptr root) (s3.ptr rem) q n s3 =
        .ok (sizeNat Rm, (s3.setBlk (s2.ptr root) (some (toLimbs ((n + 1) / 2) Rt ++ bs.drop ((n + 1) / 2)))).setBlk (s3.ptr rem)
          (some (toLimbs (sizeNat Rm) Rm ++ br.drop (sizeNat Rm)))) :=
      mpn_sqrtrem_ok l3 hbs hbr hspq hspr hn1 htop (by rw [hbsl, x3.alloc]; exact ar2)
        (by rw [hbrl, x3.alloc]; exact Nat.le_trans hRmsz am2)
    rw [hmpn]; simp only []
    rw [← hsp, put_put_eq s3 hrm]
    obtain ⟨R4, p4⟩ := put2_toLimbs i3 hr3 hm3 hrm (hsp ▸ hbs) hbr ((n + 1) / 2) Rt (((n + 1) / 2 : Nat) : Int)
      (by rw [x3.alloc]; exact ar2) (hRtsz ▸ DivZ.lt_B_pow_sizeNat Rt) (by rw [Int.natAbs_natCast, hRtsz]) (sizeNat Rm) Rm
      ((sizeNat Rm : Nat) : Int) (by rw [x3.alloc]; exact Nat.le_trans hRmsz am2) (DivZ.lt_B_pow_sizeNat Rm)
      (Int.natAbs_natCast _)
    rw [sgnv_natCast, sgnv_natCast, show ((Rm : Nat) : Int) = (N : Int) - (Rt : Int) * (Rt : Int) by
      rw [hRm]; push_cast [hsq]; ring] at R4
    have R5 := R4.rebase (x3.nv.trans nv2) fun i hi hir _ => (x3.value i2 (nv2 ▸ hi)).trans (val2 i hi hir)
    rw [← hmagop]
    cases c
    · exact ⟨_, rfl, R5⟩
    · exact ⟨_, rfl, R5.free_list hr hm [q] fun p hp i hi => by
        rw [List.mem_singleton.mp hp, R4.2.1] at *
        rw [p4, x3.ptr, (t3 rfl).1]
        exact Nat.ne_of_lt (i2.lt i (x3.nv ▸ hi))⟩

end Mpir.AliasMem
