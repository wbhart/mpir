/- C20, stream I/O: lemmas for Props/C20_io.lean (model: Mpir/Model/CxxIo.lean).  `Cursor` and one rule per primitive of the
   extractors (`start_spec`, `readSign_cursor`, `setDigits_cursor`, `get_cursor`, `finish_cursor`), the mpz / mpq extractor
   against its specification, and the inserters in closed form (`insertQ_eq`). -/
import MpirProofs.Lemmas.Scanf
import Mpir.Model.CxxIo
namespace Mpir.CxxIo
open Mpir.Printf

/-! ### streams, and the digit loop of `__gmp_istream_set_digits` -/

/-- a stream that ran into the end of its input -/
def mkE (d : List Char) (f : Fmt) : IStream := { rest := [], done := d, eof := true, fail := true, fmt := f }

@[simp] theorem get_mkG_cons (x : Char) (r d : List Char) (f : Fmt) (c : Char) :
    (mkG (x :: r) d f).get c = (mkG r (x :: d) f, x) := rfl
@[simp] theorem get_mkG_nil (d : List Char) (f : Fmt) (c : Char) : (mkG [] d f).get c = (mkE d f, c) := rfl
@[simp] theorem get_mkE (d : List Char) (f : Fmt) (c : Char) : (mkE d f).get c = (mkE d f, c) := rfl
@[simp] theorem good_mkG (r d : List Char) (f : Fmt) : (mkG r d f).good = true := rfl
@[simp] theorem good_mkE (d : List Char) (f : Fmt) : (mkE d f).good = false := rfl
@[simp] theorem failed_mkG (r d : List Char) (f : Fmt) : (mkG r d f).failed = false := rfl
@[simp] theorem failed_mkE (d : List Char) (f : Fmt) : (mkE d f).failed = true := rfl
@[simp] theorem eof_mkE (d : List Char) (f : Fmt) : (mkE d f).eof = true := rfl
@[simp] theorem fmt_mkG (r d : List Char) (f : Fmt) : (mkG r d f).fmt = f := rfl
@[simp] theorem fmt_mkE (d : List Char) (f : Fmt) : (mkE d f).fmt = f := rfl
@[simp] theorem rest_mkG (r d : List Char) (f : Fmt) : (mkG r d f).rest = r := rfl
@[simp] theorem rest_mkE (d : List Char) (f : Fmt) : (mkE d f).rest = [] := rfl
@[simp] theorem putback_mkG (c : Char) (r d : List Char) (f : Fmt) : (mkG r (c :: d) f).putback c = mkG (c :: r) d f := by
  simp [IStream.putback, mkG]
@[simp] theorem clear_mkE (d : List Char) (f : Fmt) : (mkE d f).clear = mkG [] d f := rfl

theorem finish_mkG (c : Char) (r d : List Char) (f : Fmt) (a : Bool) : finish (mkG r (c :: d) f) c a = mkG (c :: r) d f := by
  simp [finish]
theorem finish_mkE (c : Char) (d : List Char) (f : Fmt) (a : Bool) :
    finish (mkE d f) c a = if a then mkG [] d f else mkE d f := by
  cases a <;> simp [finish]

/-- the loop on a good stream whose last character read is `c`: it collects the longest run of digits of `c :: r`;
    either a further character `x` stops it (and has been read), or the input ends (`c'` is the stale last digit) -/
theorem digitsLoop_spec (test : Char → Bool) (f : Fmt) : ∀ (r : List Char) (n : Nat) (s : List Char) (c : Char) (d : List Char) (ok : Bool),
    r.length + 1 ≤ n →
    (∃ x tl, (c :: r).dropWhile test = x :: tl ∧
      digitsLoop test n s (mkG r (c :: d) f) c ok =
        (s ++ (c :: r).takeWhile test, mkG tl (x :: (((c :: r).takeWhile test).reverse ++ d)) f, x,
         ok || !((c :: r).takeWhile test).isEmpty)) ∨
    ((c :: r).dropWhile test = [] ∧ ∃ c', test c' = true ∧
      digitsLoop test n s (mkG r (c :: d) f) c ok = (s ++ (c :: r).takeWhile test, mkE (((c :: r).takeWhile test).reverse ++ d) f, c', true)) := by
  intro r
  induction r with
  | nil =>
    intro n s c d ok hn
    obtain ⟨m, rfl⟩ : ∃ m, n = m + 1 := ⟨n - 1, by simp at hn; omega⟩
    by_cases hc : test c = true
    · right
      refine ⟨by simp [hc], c, hc, ?_⟩
      simp [digitsLoop, hc]
    · left
      refine ⟨c, [], by simp [hc], ?_⟩
      simp [digitsLoop, hc]
  | cons y r ih =>
    intro n s c d ok hn
    obtain ⟨m, rfl⟩ : ∃ m, n = m + 1 := ⟨n - 1, by simp at hn; omega⟩
    by_cases hc : test c = true
    · have hm : r.length + 1 ≤ m := by simp at hn; omega
      rcases ih m (s ++ [c]) y (c :: d) true hm with ⟨x, tl, h1, h2⟩ | ⟨h1, c', hc', h2⟩
      · left
        refine ⟨x, tl, by simp [hc, h1], ?_⟩
        simp only [digitsLoop, hc, if_true, get_mkG_cons, failed_mkG, Bool.false_eq_true, if_false, h2]
        simp [hc]
      · right
        refine ⟨by simp [hc, h1], c', hc', ?_⟩
        simp only [digitsLoop, hc, if_true, get_mkG_cons, failed_mkG, Bool.false_eq_true, if_false, h2]
        simp [hc]
    · left
      refine ⟨c, y :: r, by simp [hc], ?_⟩
      simp [digitsLoop, hc]

theorem digitsLoop_stop (test : Char → Bool) (n : Nat) (s : List Char) (i : IStream) (c : Char) (ok : Bool)
    (hc : test c = false) : digitsLoop test n s i c ok = (s, i, c, ok) := by
  cases n <;> simp [digitsLoop, hc]

/-! ### character classes -/

theorem char_le_iff (a b : Char) : a ≤ b ↔ a.toNat ≤ b.toNat := by
  rw [Char.le_def, UInt32.le_iff_toNat_le]; rfl
theorem char_eq_iff (a b : Char) : a = b ↔ a.toNat = b.toNat := by
  constructor
  · intro h; rw [h]
  · intro h; apply Char.ext; apply UInt32.toNat_inj.mp; exact h

theorem digitTest10_iff (c : Char) : digitTest 10 c = true ↔ 48 ≤ c.toNat ∧ c.toNat ≤ 57 := by
  simp [digitTest, isdigit, char_le_iff]
theorem digitTest8_iff (c : Char) : digitTest 8 c = true ↔ 48 ≤ c.toNat ∧ c.toNat ≤ 55 := by
  simp [digitTest, isdigit, char_le_iff, char_eq_iff]; omega
theorem digitTest16_iff (c : Char) : digitTest 16 c = true ↔
    (48 ≤ c.toNat ∧ c.toNat ≤ 57) ∨ (97 ≤ c.toNat ∧ c.toNat ≤ 102) ∨ (65 ≤ c.toNat ∧ c.toNat ≤ 70) := by
  simp [digitTest, isxdigit, isdigit, char_le_iff]; omega
theorem digitTest_eq_isDigitIn (b : Nat) (hb : b = 8 ∨ b = 10 ∨ b = 16) : digitTest b = Scanf.isDigitIn b := by
  funext c
  rcases hb with rfl | rfl | rfl <;> simp [digitTest, Scanf.isDigitIn, isdigit, isxdigit, Bool.and_assoc]

theorem digitTest_of_not_xdigit (b : Nat) (c : Char) (h : isxdigit c = false) : digitTest b c = false := by
  unfold isxdigit at h
  simp only [Bool.or_eq_false_iff] at h
  obtain ⟨⟨h1, h2⟩, h3⟩ := h
  unfold digitTest isxdigit
  split_ifs <;> simp [h1, h2, h3]

theorem setStr_digits (b : Nat) (hb : b = 8 ∨ b = 10 ∨ b = 16) (neg : Bool) (ds : List Char) (hne : ds ≠ [])
    (hall : ∀ c ∈ ds, digitTest b c = true) :
    Scanf.setStr ((if neg then ['-'] else []) ++ ds) b =
      some (if neg then -(digitsVal b ds : Int) else (digitsVal b ds : Int)) :=
  Scanf.setStr_digits b hb neg ds hne (by rwa [← digitTest_eq_isDigitIn b hb])

/-! ### the stream after `n` characters; `Cursor` and one rule per primitive -/

theorem after_cons (f : Fmt) (d u : List Char) (x : Char) (n : Nat) (e fl : Bool) :
    after f d (x :: u) (n + 1) e fl = after f (x :: d) u n e fl := by
  simp [after]

theorem after_append (f : Fmt) (d X v : List Char) (n : Nat) (e fl : Bool) :
    after f d (X ++ v) (X.length + n) e fl = after f (X.reverse ++ d) v n e fl := by
  induction X generalizing d with
  | nil => simp
  | cons x X ih =>
    have : (x :: X).length + n = (X.length + n) + 1 := by simp; omega
    rw [this, List.cons_append, after_cons, ih]
    simp

theorem after_zero (f : Fmt) (d u : List Char) : after f d u 0 false false = mkG u d f := by
  simp [after, mkG]

theorem after_all (f : Fmt) (d u : List Char) : after f d u u.length true true = mkE (u.reverse ++ d) f := by
  simp [after, mkE]

theorem digitsPart_pre (b : Nat) (neg : Bool) (pre : Nat) (zero : Bool) (t : List Char) :
    digitsPart b neg pre zero t =
      { digitsPart b neg 0 zero t with n := pre + (digitsPart b neg 0 zero t).n } := by
  unfold digitsPart
  simp only
  split_ifs <;> simp

/-- where a scanning stage starts: a good stream whose last character read is `c` (the text from there on is `u`, its
    first character `c`), or a stream at the end of its input with a stale `c` satisfying `P` -/
def Cursor (P : Char → Prop) (f : Fmt) (d u : List Char) (i : IStream) (c : Char) : Prop :=
  (∃ r, u = c :: r ∧ i = mkG r (c :: d) f) ∨ (u = [] ∧ i = mkE d f ∧ P c)

theorem Cursor.mono {P Q : Char → Prop} (hPQ : ∀ c, P c → Q c) {f : Fmt} {d u : List Char} {i : IStream} {c : Char}
    (h : Cursor P f d u i c) : Cursor Q f d u i c := by
  rcases h with h | ⟨h1, h2, h3⟩
  · exact Or.inl h
  · exact Or.inr ⟨h1, h2, hPQ c h3⟩

theorem get_cursor {P : Char → Prop} {f : Fmt} {d : List Char} {x : Char} {r : List Char} {i : IStream} {c : Char}
    (h : Cursor P f d (x :: r) i c) : c = x ∧ Cursor (· = x) f (x :: d) r (i.get c).1 (i.get c).2 := by
  rcases h with ⟨r', he, rfl⟩ | ⟨he, _, _⟩
  · cases he
    refine ⟨rfl, ?_⟩
    cases r with
    | nil => exact Or.inr ⟨rfl, rfl, rfl⟩
    | cons y r'' => exact Or.inl ⟨r'', rfl, rfl⟩
  · cases he

/-- the test `c == a` of the C against the text, for a character `a` the stale character cannot be -/
theorem cursor_head {P : Char → Prop} {f : Fmt} {d u : List Char} {i : IStream} {c : Char} (h : Cursor P f d u i c) (a : Char)
    (hP : ∀ c, P c → c ≠ a) : c = a ↔ ∃ t, u = a :: t := by
  rcases h with ⟨r, rfl, rfl⟩ | ⟨rfl, _, h3⟩
  · constructor
    · rintro rfl; exact ⟨r, rfl⟩
    · rintro ⟨t, ht⟩; cases ht; rfl
  · constructor
    · intro e; exact absurd e (hP c h3)
    · rintro ⟨t, ht⟩; cases ht

theorem finish_cursor {P : Char → Prop} {f : Fmt} {d u : List Char} {i : IStream} {c : Char} (h : Cursor P f d u i c) (a : Bool) :
    finish i c a = if u = [] then (if a then mkG [] d f else mkE d f) else mkG u d f := by
  rcases h with ⟨r, rfl, rfl⟩ | ⟨rfl, rfl, _⟩
  · simp [finish_mkG]
  · simp [finish_mkE]

/-- `if (! i.get(c)) c = 0;` from a cursor: the stale character at the end of the input is NUL -/
theorem get_cursor0 {P : Char → Prop} {f : Fmt} {d : List Char} {x : Char} {r : List Char} {i : IStream} {c : Char}
    (h : Cursor P f d (x :: r) i c) :
    Cursor (· = '\x00') f (x :: d) r (i.get c).1 (if (i.get c).1.failed then '\x00' else (i.get c).2) := by
  rcases (get_cursor h).2 with ⟨r', hr, hi⟩ | ⟨hr, hi, _⟩
  · rw [hi]; exact Or.inl ⟨r', by simpa using hr, by simp⟩
  · rw [hi]; exact Or.inr ⟨hr, rfl, by simp⟩

/-- the optional sign (ismpznw.cc:41-46, ismpf.cc:79-84) from a cursor: `sg` is the sign read, `neg` what is kept of it -/
theorem readSign_cursor {P : Char → Prop} (hP : ∀ c, P c → c ≠ '-' ∧ c ≠ '+') {f : Fmt} {d u : List Char} {i : IStream} {c : Char}
    (h : Cursor P f d u i c) :
    ∃ (neg : Bool) (sg t : List Char), u = sg ++ t ∧
      (sg = ['-'] ∧ neg = true ∨ sg = ['+'] ∧ neg = false ∨
        sg = [] ∧ neg = false ∧ (∀ r, t ≠ '-' :: r) ∧ (∀ r, t ≠ '+' :: r)) ∧
      (readSign i c).1 = (if neg then ['-'] else []) ∧
      Cursor (fun x => P x ∨ x = '-' ∨ x = '+') f (sg.reverse ++ d) t (readSign i c).2.1 (readSign i c).2.2 := by
  have hm := cursor_head h '-' (fun c hc => (hP c hc).1)
  have hp := cursor_head h '+' (fun c hc => (hP c hc).2)
  by_cases h1 : c = '-'
  · obtain ⟨t, rfl⟩ := hm.mp h1
    exact ⟨true, ['-'], t, rfl, Or.inl ⟨rfl, rfl⟩, by simp [readSign, h1],
      by simpa [readSign, h1] using (get_cursor h).2.mono fun x hx => Or.inr (Or.inl (h1 ▸ hx))⟩
  · by_cases h2 : c = '+'
    · obtain ⟨t, rfl⟩ := hp.mp h2
      exact ⟨false, ['+'], t, rfl, Or.inr (Or.inl ⟨rfl, rfl⟩), by simp [readSign, h2],
        by simpa [readSign, h1, h2] using (get_cursor h).2.mono fun x hx => Or.inr (Or.inr (h2 ▸ hx))⟩
    · exact ⟨false, [], u, rfl, Or.inr (Or.inr ⟨rfl, rfl, fun r e => h1 (hm.mpr ⟨r, e⟩), fun r e => h2 (hp.mpr ⟨r, e⟩)⟩),
        by simp [readSign, h1, h2], by simpa [readSign, h1, h2] using h.mono fun x hx => Or.inl hx⟩

/-! ### the digits stage: `__gmp_istream_set_digits`, putback or clear, mpz_set_str -/

theorem mem_takeWhile_imp' (p : Char → Bool) : ∀ (l : List Char) (x : Char), x ∈ l.takeWhile p → p x = true :=
  fun l x h => (mem_takeWhile l x h).1

theorem length_takeWhile_le' (p : Char → Bool) (l : List Char) : (l.takeWhile p).length ≤ l.length :=
  (List.takeWhile_sublist p).length_le

theorem takeWhile_of_dropWhile_nil (p : Char → Bool) (l : List Char) (h : l.dropWhile p = []) : l.takeWhile p = l := by
  have := List.takeWhile_append_dropWhile (p := p) (l := l)
  rw [h, List.append_nil] at this; exact this

/-- ismpznw.cc:49-61 with the results of `__gmp_istream_set_base` given -/
def digitsRun (s : List Char) (i : IStream) (c : Char) (b : Nat) (zero : Bool) : IStream × Val :=
  let r := setDigits s i c false b
  let i4 := finish r.2.1 r.2.2.1 (r.2.2.2 || zero)
  if r.2.2.2 then (i4, Val.ofOpt (Scanf.setStr r.1 b))
  else if zero then (i4, Val.value 0) else (i4.setFail, Val.unchanged)

/-- `__gmp_istream_set_digits (s, i, c, ok, b)` from a cursor -/
theorem setDigits_cursor (b : Nat) {P : Char → Prop} (hP : ∀ c, P c → digitTest b c = false) {f : Fmt} {d u : List Char}
    {i : IStream} {c : Char} (s : List Char) (ok : Bool) (h : Cursor P f d u i c) :
    (setDigits s i c ok b).1 = s ++ u.takeWhile (digitTest b) ∧
    (setDigits s i c ok b).2.2.2 = (ok || !(u.takeWhile (digitTest b)).isEmpty) ∧
    Cursor (fun c => P c ∨ digitTest b c = true) f ((u.takeWhile (digitTest b)).reverse ++ d) (u.dropWhile (digitTest b))
      (setDigits s i c ok b).2.1 (setDigits s i c ok b).2.2.1 := by
  rcases h with ⟨r, rfl, rfl⟩ | ⟨rfl, rfl, hc⟩
  · unfold setDigits
    simp only [rest_mkG]
    rcases digitsLoop_spec (digitTest b) f r (r.length + 1) s c d ok (Nat.le_refl _) with ⟨x, tl, h1, h2⟩ | ⟨h1, c', hc', h2⟩
    · rw [h2]
      exact ⟨rfl, rfl, Or.inl ⟨tl, h1, rfl⟩⟩
    · rw [h2]
      have hds : List.takeWhile (digitTest b) (c :: r) = c :: r := takeWhile_of_dropWhile_nil _ _ h1
      refine ⟨rfl, ?_, Or.inr ⟨h1, rfl, Or.inr hc'⟩⟩
      rw [hds]; simp
  · unfold setDigits
    rw [digitsLoop_stop _ _ _ _ _ _ (hP c hc)]
    exact ⟨by simp, by simp, Or.inr ⟨by simp, by simp, Or.inl hc⟩⟩

/-- the digits stage (`__gmp_istream_set_digits`, the putback / clear, the conversion) against `digitsPart` -/
theorem digits_stage (f : Fmt) (b : Nat) (hb : b = 8 ∨ b = 10 ∨ b = 16) (neg zero : Bool) (d u : List Char) (i : IStream) (c : Char)
    (h : Cursor (fun c => isxdigit c = false) f d u i c) :
    digitsRun (if neg then ['-'] else []) i c b zero =
    (after f d u (digitsPart b neg 0 zero u).n (digitsPart b neg 0 zero u).eof (digitsPart b neg 0 zero u).fail,
     (digitsPart b neg 0 zero u).val) := by
  obtain ⟨h1, h2, h3⟩ := setDigits_cursor b (digitTest_of_not_xdigit b) (if neg then ['-'] else []) false h
  unfold digitsRun digitsPart
  simp only [h1, h2, finish_cursor h3, Bool.false_or, Nat.zero_add]
  have hdrop := drop_takeWhile_length (digitTest b) u
  have htake := take_takeWhile_length (digitTest b) u
  have hall := mem_takeWhile_imp' (digitTest b) u
  have hdw : u.dropWhile (digitTest b) = [] → u.takeWhile (digitTest b) = u := takeWhile_of_dropWhile_nil _ _
  generalize u.takeWhile (digitTest b) = ds at *
  generalize u.dropWhile (digitTest b) = dw at *
  by_cases hne : ds = []
  · subst hne
    simp only [List.length_nil, List.drop_zero] at hdrop
    subst hdrop
    cases zero <;> cases u <;> simp [after, mkG, mkE, IStream.setFail]
  · have he : ds.isEmpty = false := by cases ds <;> simp_all
    simp only [he, Bool.not_false, if_true, Bool.true_or, hne, ne_eq, not_false_eq_true,
      setStr_digits b hb neg ds hne hall, Val.ofOpt]
    by_cases hw : dw = []
    · subst hw; rw [← hdw rfl]; simp [after, mkG]
    · simp [hw, after, mkG, hdrop, htake]

/-! ### base selection, sign, the whole of `__gmpz_operator_in_nowhite` -/

/-- ismpznw.cc:48-61 -/
def bodyRun (i : IStream) (c : Char) (s : List Char) : IStream × Val :=
  digitsRun s (setBase i c).1 (setBase i c).2.1 (setBase i c).2.2.2.2 (setBase i c).2.2.1

theorem extractZNowhite_eq (i : IStream) (c : Char) :
    extractZNowhite i c = bodyRun (readSign i c).2.1 (readSign i c).2.2 (readSign i c).1 := by
  unfold extractZNowhite bodyRun digitsRun
  rcases readSign i c with ⟨s, i1, c1⟩
  rfl

theorem base?_cases (f : Fmt) (b : Nat) (h : f.base? = some b) : b = 8 ∨ b = 10 ∨ b = 16 := by
  unfold Fmt.base? at h
  split_ifs at h <;> simp_all

theorem setBase_fixed (i : IStream) (c : Char) (b : Nat) (h : i.fmt.base? = some b) : setBase i c = (i, c, false, false, b) := by
  unfold Fmt.base? at h
  unfold setBase
  simp only []
  split at h
  · rename_i h1; rw [if_pos h1]; cases h; rfl
  · rename_i h1; rw [if_neg h1]; split at h
    · rename_i h2; rw [if_pos h2]; cases h; rfl
    · rename_i h2; rw [if_neg h2]; split at h
      · rename_i h3; rw [if_pos h3]; cases h; rfl
      · cases h

theorem setBase_auto (i : IStream) (c : Char) (h : i.fmt.base? = none) : setBase i c =
    if c = '0' then
      (let g1 := i.get c
       let c1 := if g1.1.failed then '\x00' else g1.2
       if c1 = 'x' ∨ c1 = 'X' then ((g1.1.get c1).1, (g1.1.get c1).2, false, true, 16)
       else (g1.1, c1, true, true, 8))
    else (i, c, false, true, 10) := by
  unfold Fmt.base? at h
  split_ifs at h with h1 h2 h3
  unfold setBase
  simp only [if_neg h1, if_neg h2, if_neg h3]

def Stale (c : Char) : Prop := c ≠ '0' ∧ isxdigit c = false

theorem body_stage (f : Fmt) (neg : Bool) (d u : List Char) (i : IStream) (c : Char) (h : Cursor Stale f d u i c) :
    bodyRun i c (if neg then ['-'] else []) =
      (after f d u (bodySpec f neg 0 u).n (bodySpec f neg 0 u).eof (bodySpec f neg 0 u).fail, (bodySpec f neg 0 u).val) := by
  have hfmt : i.fmt = f := by rcases h with ⟨r, _, rfl⟩ | ⟨_, rfl, _⟩ <;> rfl
  have hst : Cursor (fun c => isxdigit c = false) f d u i c := h.mono fun _ hc => hc.2
  unfold bodyRun
  cases hb : f.base? with
  | some b =>
    rw [setBase_fixed i c b (by rw [hfmt]; exact hb)]
    simp only [bodySpec, hb]
    exact digits_stage f b (base?_cases f b hb) neg false d u i c hst
  | none =>
    rw [setBase_auto i c (by rw [hfmt]; exact hb)]
    have h0 := cursor_head h '0' (fun c hc => hc.1)
    by_cases hc0 : c = '0'
    · obtain ⟨t, rfl⟩ := h0.mp hc0
      have hg := get_cursor0 h
      have hx := cursor_head hg 'x' (fun c hc => by rw [hc]; decide)
      have hX := cursor_head hg 'X' (fun c hc => by rw [hc]; decide)
      subst hc0
      simp only [if_true]
      generalize (if (i.get '0').1.failed = true then '\x00' else (i.get '0').2) = c1 at *
      by_cases hy : c1 = 'x' ∨ c1 = 'X'
      · -- "0x" / "0X": hexadecimal digits follow
        obtain ⟨r', rfl⟩ : ∃ r', t = c1 :: r' := hy.elim (fun e => e ▸ hx.mp e) (fun e => e ▸ hX.mp e)
        have hyx : isxdigit c1 = false := by rcases hy with rfl | rfl <;> decide
        have hspec : bodySpec f neg 0 ('0' :: c1 :: r') = digitsPart 16 neg (0 + 2) false r' := by
          rcases hy with rfl | rfl <;> simp [bodySpec, hb]
        simp only [hy, if_true]
        rw [digits_stage f 16 (Or.inr (Or.inr rfl)) neg false _ r' _ _ ((get_cursor hg).2.mono fun x hx => hx ▸ hyx),
          hspec, digitsPart_pre 16 neg (0 + 2) false r']
        simp only [Nat.zero_add, Nat.add_comm 2, after_cons]
      · -- "0": octal digits, or the number zero
        have hspec : bodySpec f neg 0 ('0' :: t) = digitsPart 8 neg (0 + 1) true t := by
          simp only [bodySpec, hb]
          split
          · rename_i heq; exact absurd (Or.inl (hx.mpr ⟨_, (List.cons.inj heq).2⟩)) hy
          · rename_i heq; exact absurd (Or.inr (hX.mpr ⟨_, (List.cons.inj heq).2⟩)) hy
          · simp_all
          · simp_all
        simp only [hy, if_false]
        rw [digits_stage f 8 (Or.inl rfl) neg true _ t _ _ (hg.mono fun x hx => by rw [hx]; decide),
          hspec, digitsPart_pre 8 neg (0 + 1) true t]
        simp only [Nat.zero_add, Nat.add_comm 1, after_cons]
    · have hspec : bodySpec f neg 0 u = digitsPart 10 neg 0 false u := by
        simp only [bodySpec, hb]
        split
        · exact absurd (h0.mpr ⟨_, rfl⟩) hc0
        · exact absurd (h0.mpr ⟨_, rfl⟩) hc0
        · exact absurd (h0.mpr ⟨_, rfl⟩) hc0
        · rfl
      simp only [hc0, if_false]
      rw [hspec]
      exact digits_stage f 10 (Or.inr (Or.inl rfl)) neg false d u i c hst

/-- every `bodySpec` is one `digitsPart`, whatever the count `k` in front -/
theorem bodySpec_eq_digitsPart (f : Fmt) (neg : Bool) (u : List Char) :
    ∃ b j zero t, (∀ k, bodySpec f neg k u = digitsPart b neg (k + j) zero t) ∧ j + t.length = u.length := by
  unfold bodySpec
  split
  · exact ⟨_, 0, false, u, fun k => rfl, by simp⟩
  · split
    · exact ⟨16, 2, false, _, fun k => rfl, by simp; omega⟩
    · exact ⟨16, 2, false, _, fun k => rfl, by simp; omega⟩
    · exact ⟨8, 1, true, _, fun k => rfl, by simp; omega⟩
    · exact ⟨10, 0, false, u, fun k => rfl, by simp⟩

theorem numSpec_eq_digitsPart (f : Fmt) (u : List Char) :
    ∃ b neg pre zero t, numSpec f u = digitsPart b neg pre zero t ∧ pre + t.length = u.length := by
  unfold numSpec
  split
  · obtain ⟨b, j, z, t, h, hl⟩ := bodySpec_eq_digitsPart f true ‹_›
    exact ⟨b, true, 1 + j, z, t, h 1, by simp only [List.length_cons]; omega⟩
  · obtain ⟨b, j, z, t, h, hl⟩ := bodySpec_eq_digitsPart f false ‹_›
    exact ⟨b, false, 1 + j, z, t, h 1, by simp only [List.length_cons]; omega⟩
  · obtain ⟨b, j, z, t, h, hl⟩ := bodySpec_eq_digitsPart f false u
    exact ⟨b, false, 0 + j, z, t, h 0, by omega⟩

theorem bodySpec_pre (f : Fmt) (neg : Bool) (k : Nat) (u : List Char) :
    bodySpec f neg k u = { bodySpec f neg 0 u with n := k + (bodySpec f neg 0 u).n } := by
  obtain ⟨b, j, z, t, h, -⟩ := bodySpec_eq_digitsPart f neg u
  rw [h k, h 0, digitsPart_pre b neg (k + j), digitsPart_pre b neg (0 + j)]; simp; omega

/-- a stale character that cannot be taken for part of a number -/
def Stale0 (c : Char) : Prop := c ≠ '-' ∧ c ≠ '+' ∧ Stale c

theorem stale_minus : Stale '-' := by constructor <;> decide
theorem stale_plus : Stale '+' := by constructor <;> decide

theorem numSpec_sign (f : Fmt) (neg : Bool) (sg t : List Char)
    (h : sg = ['-'] ∧ neg = true ∨ sg = ['+'] ∧ neg = false ∨
      sg = [] ∧ neg = false ∧ (∀ r, t ≠ '-' :: r) ∧ (∀ r, t ≠ '+' :: r)) :
    numSpec f (sg ++ t) = bodySpec f neg sg.length t := by
  rcases h with ⟨rfl, rfl⟩ | ⟨rfl, rfl⟩ | ⟨rfl, rfl, h1, h2⟩
  · rfl
  · rfl
  · rw [List.nil_append]; unfold numSpec; split
    · exact absurd rfl (h1 _)
    · exact absurd rfl (h2 _)
    · rfl

theorem nowhite_spec (f : Fmt) (d u : List Char) (i : IStream) (c : Char) (h : Cursor Stale0 f d u i c) :
    extractZNowhite i c =
      (after f d u (numSpec f u).n (numSpec f u).eof (numSpec f u).fail, (numSpec f u).val) := by
  obtain ⟨neg, sg, t, rfl, hsg, hs, hcur⟩ := readSign_cursor (fun c hc => ⟨hc.1, hc.2.1⟩) h
  have hst : Cursor Stale f (sg.reverse ++ d) t (readSign i c).2.1 (readSign i c).2.2 := hcur.mono fun x hx => by
    rcases hx with hx | rfl | rfl
    exacts [hx.2.2, stale_minus, stale_plus]
  rw [extractZNowhite_eq, hs, body_stage f neg _ t _ _ hst, numSpec_sign f neg sg t hsg, bodySpec_pre f neg sg.length t]
  simp only [after_append]

/-! ### white space, `operator>>` for mpz and mpq -/

theorem isspace_iff (c : Char) : isspace c = true ↔ c.toNat = 32 ∨ (9 ≤ c.toNat ∧ c.toNat ≤ 13) := by
  simp [isspace, Scanf.isSpace, char_eq_iff]; omega

theorem stale0_of_space (c : Char) (h : isspace c = true) : Stale0 c := by
  rw [isspace_iff] at h
  have hx : isxdigit c = false := by
    have h16 : ¬ digitTest 16 c = true := by rw [digitTest16_iff]; omega
    simpa [digitTest] using h16
  refine ⟨?_, ?_, ?_, hx⟩ <;> (intro e; rw [e] at h; revert h; decide)

theorem stale0_nul : Stale0 '\x00' := by refine ⟨?_, ?_, ?_, ?_⟩ <;> decide
theorem stale0_slash : Stale0 '/' := by refine ⟨?_, ?_, ?_, ?_⟩ <;> decide

theorem skipWs_spec (P : Char → Prop) (hsp : ∀ c, isspace c = true → P c) (f : Fmt) :
    ∀ (r : List Char) (n : Nat) (c : Char) (d : List Char), r.length + 1 ≤ n →
    Cursor P f (((c :: r).takeWhile isspace).reverse ++ d) ((c :: r).dropWhile isspace)
      (skipWs n (mkG r (c :: d) f) c).1 (skipWs n (mkG r (c :: d) f) c).2 := by
  intro r
  induction r with
  | nil =>
    intro n c d hn
    obtain ⟨m, rfl⟩ : ∃ m, n = m + 1 := ⟨n - 1, by simp at hn; omega⟩
    by_cases hc : isspace c = true
    · right
      simp [skipWs, hc, hsp c hc]
    · have e : skipWs (m + 1) (mkG [] (c :: d) f) c = (mkG [] (c :: d) f, c) := by simp [skipWs, hc]
      rw [e]
      left
      exact ⟨[], by simp [hc], by simp [hc]⟩
  | cons y r ih =>
    intro n c d hn
    obtain ⟨m, rfl⟩ : ∃ m, n = m + 1 := ⟨n - 1, by simp at hn; omega⟩
    by_cases hc : isspace c = true
    · have hm : r.length + 1 ≤ m := by simp at hn; omega
      have := ih m y (c :: d) hm
      simp only [skipWs, hc, if_true, get_mkG_cons, failed_mkG, Bool.false_eq_true, if_false]
      simpa [hc] using this
    · have e : skipWs (m + 1) (mkG (y :: r) (c :: d) f) c = (mkG (y :: r) (c :: d) f, c) := by simp [skipWs, hc]
      rw [e]
      left
      exact ⟨y :: r, by simp [hc], by simp [hc]⟩

/-- ismpf.cc:63-77 (= ismpz.cc:40-53): where the number starts; the stale character is NUL or white space -/
theorem start_spec (P : Char → Prop) (hsp : ∀ c, isspace c = true → P c) (h0 : P '\x00') (f : Fmt) (t d : List Char) :
    Cursor P f ((wsPrefix f t).reverse ++ d) (t.drop (wsPrefix f t).length) (start (mkG t d f)).1 (start (mkG t d f)).2 := by
  cases t with
  | nil =>
    right
    simp [start, wsPrefix, skipWs, h0, show isspace '\x00' = false by decide]
  | cons x r =>
    by_cases hs : f.skipws = true
    · have := skipWs_spec P hsp f r (r.length + 1) x d (Nat.le_refl _)
      simp only [start, get_mkG_cons, fmt_mkG, hs, if_true, rest_mkG, wsPrefix, drop_takeWhile_length]
      exact this
    · left
      simp only [start, get_mkG_cons, fmt_mkG, hs, wsPrefix]
      exact ⟨r, by simp, by simp⟩

theorem extractZ_at (f : Fmt) (t d : List Char) :
    extractZ (mkG t d f) =
      (after f ((wsPrefix f t).reverse ++ d) (t.drop (wsPrefix f t).length)
          (numSpec f (t.drop (wsPrefix f t).length)).n (numSpec f (t.drop (wsPrefix f t).length)).eof
          (numSpec f (t.drop (wsPrefix f t).length)).fail,
       (numSpec f (t.drop (wsPrefix f t).length)).val) := by
  have h := start_spec Stale0 stale0_of_space stale0_nul f t d
  have : extractZ (mkG t d f) = extractZNowhite (start (mkG t d f)).1 (start (mkG t d f)).2 := rfl
  rw [this]
  exact nowhite_spec f _ _ _ _ h

theorem digitsPart_props (b : Nat) (neg : Bool) (pre : Nat) (zero : Bool) (t : List Char) :
    ((digitsPart b neg pre zero t).fail = true ↔ (digitsPart b neg pre zero t).val = .unchanged) ∧
    (digitsPart b neg pre zero t).val ≠ .invalid ∧
    ((digitsPart b neg pre zero t).fail = false → (digitsPart b neg pre zero t).eof = false) ∧
    (digitsPart b neg pre zero t).n ≤ pre + t.length := by
  have hl := length_takeWhile_le' (digitTest b) t
  unfold digitsPart
  simp only
  split_ifs <;> simp <;> omega

theorem numSpec_props (f : Fmt) (u : List Char) :
    ((numSpec f u).fail = true ↔ (numSpec f u).val = .unchanged) ∧ (numSpec f u).val ≠ .invalid ∧
    ((numSpec f u).fail = false → (numSpec f u).eof = false) ∧ (numSpec f u).n ≤ u.length := by
  obtain ⟨b, neg, pre, z, t, h, hl⟩ := numSpec_eq_digitsPart f u
  rw [h, ← hl]; exact digitsPart_props b neg pre z t

theorem after_wsPrefix_text (f : Fmt) (t : List Char) (n : Nat) (e fl : Bool) :
    (after f ((wsPrefix f t).reverse ++ []) (t.drop (wsPrefix f t).length) n e fl).text = t := by
  have hw : wsPrefix f t = t.take (wsPrefix f t).length := by
    unfold wsPrefix; split
    · rw [take_takeWhile_length]
    · rfl
  simp only [after, IStream.text, List.append_nil, List.reverse_append, List.reverse_reverse, List.append_assoc,
    List.take_append_drop]
  rw [hw, List.length_take]
  have : min (wsPrefix f t).length t.length = (wsPrefix f t).length := by
    have : (wsPrefix f t).length ≤ t.length := by
      unfold wsPrefix; split
      · exact length_takeWhile_le' _ _
      · simp
    omega
  rw [this, List.take_append_drop]

theorem after_good (f : Fmt) (d u : List Char) (n : Nat) (e fl : Bool) (hf : fl = false) (he : e = false) :
    (after f d u n e fl).good = true := by
  simp [after, IStream.good, hf, he]

theorem extractQ_spec' (f : Fmt) (t : List Char) : extractQ (mkG t [] f) = specQ f t := by
  unfold extractQ specQ
  rw [extractZ_at f t []]
  simp only [List.append_nil]
  generalize hu : t.drop (wsPrefix f t).length = u
  generalize hw : (wsPrefix f t).reverse = wr
  cases hf : (numSpec f u).fail with
  | true => simp [after, IStream.failed]
  | false =>
    have he := (numSpec_props f u).2.2.1 hf
    simp only [he, Bool.false_eq_true, if_false]
    have hfailed : (after f wr u (numSpec f u).n false false).failed = false := by simp [after, IStream.failed]
    simp only [hfailed, Bool.false_eq_true, if_false]
    generalize (numSpec f u).n = n
    generalize (numSpec f u).val = v
    have ha : after f wr u n false false = mkG (u.drop n) ((u.take n).reverse ++ wr) f := by simp [after, mkG]
    rw [ha]
    cases hd : u.drop n with
    | nil =>
      simp [show ¬ (('\x00' : Char) = '/') by decide]
    | cons x v' =>
      by_cases hx : x = '/'
      · subst hx
        simp only [get_mkG_cons, if_true]
        have hcur : Cursor Stale0 f ((u.take n).reverse ++ wr) ('/' :: v') (mkG v' ('/' :: ((u.take n).reverse ++ wr)) f) '/' :=
          Or.inl ⟨v', rfl, rfl⟩
        rw [nowhite_spec f _ v' _ _ ((get_cursor hcur).2.mono fun x hx => hx ▸ stale0_slash)]
      · simp only [get_mkG_cons, hx, if_false, good_mkG, if_true, putback_mkG]
        split
        · rename_i heq; simp_all
        · rfl

/-! ### a stream that is not good: the extractor sets `failbit` and stores nothing -/

theorem get_not_good (i : IStream) (c : Char) (h : i.good = false) : i.get c = ({ i with fail := true }, c) := by
  simp [IStream.get, h]

theorem setDigits_stop (b : Nat) (s : List Char) (i : IStream) (c : Char) (ok : Bool) (hc : digitTest b c = false) :
    setDigits s i c ok b = (s, i, c, ok) := digitsLoop_stop _ _ _ _ _ _ hc

theorem start_not_good (i : IStream) (h : i.good = false) : start i = ({ i with fail := true }, '\x00') := by
  unfold start
  rw [get_not_good i _ h]
  simp only
  split
  · cases hn : ({ i with fail := true } : IStream).rest.length + 1 with
    | zero => simp [skipWs]
    | succ n => simp [skipWs, show isspace '\x00' = false by decide]
  · rfl

theorem readSign_nul (i : IStream) : readSign i '\x00' = ([], i, '\x00') := by
  simp [readSign, show ¬ (('\x00' : Char) = '-' ∨ ('\x00' : Char) = '+') by decide]

theorem extractZ_not_good' (i : IStream) (h : i.good = false) : extractZ i = ({ i with fail := true }, Val.unchanged) := by
  have hg : ({ i with fail := true } : IStream).good = false := by simp [IStream.good]
  have hsb : ∃ b z sb, setBase { i with fail := true } '\x00' = ({ i with fail := true }, '\x00', z, sb, b) ∧ z = false := by
    unfold setBase
    simp only [show ¬ (('\x00' : Char) = '0') by decide, if_false]
    split_ifs <;> exact ⟨_, _, _, rfl, rfl⟩
  obtain ⟨b, z, sb, e, rfl⟩ := hsb
  unfold extractZ
  rw [start_not_good i h]
  simp only
  rw [extractZNowhite_eq, readSign_nul]
  unfold bodyRun
  rw [e]
  unfold digitsRun
  simp only [setDigits_stop b _ _ '\x00' _ (digitTest_of_not_xdigit b '\x00' (by decide))]
  simp [finish, hg, IStream.setFail]

/-! ### `operator<<` for mpz and mpq in closed form -/

section
open List

/-- the parameters `operator<<` for integers works with -/
def intParams (o : OStream) : Params := { (paramsFromIos o).1 with prec := -1 }

theorem ios_base (o : OStream) : (paramsFromIos o).1.base =
    if o.fmt.hexOnly then (if o.fmt.uppercase then -16 else 16) else if o.fmt.octOnly then 8 else 10 := rfl
theorem ios_showbase (o : OStream) : (paramsFromIos o).1.showbase =
    if o.fmt.showbase then (if o.fmt.hexOnly then .yes else .nonzero) else .no := rfl
theorem ios_justify (o : OStream) : (paramsFromIos o).1.justify =
    if o.fmt.left ∧ ¬ o.fmt.right ∧ ¬ o.fmt.internal then .left
    else if o.fmt.internal ∧ ¬ o.fmt.left ∧ ¬ o.fmt.right then .internal else .right := rfl

theorem intParams_base (o : OStream) :
    (intParams o).base.natAbs = o.fmt.outBase ∧ decide ((intParams o).base < 0) = o.fmt.outUpper := by
  show (paramsFromIos o).1.base.natAbs = _ ∧ decide ((paramsFromIos o).1.base < 0) = _
  rw [ios_base, Fmt.outBase, Fmt.outUpper]
  cases o.fmt.hexOnly <;> cases o.fmt.octOnly <;> cases o.fmt.uppercase <;> exact ⟨rfl, rfl⟩

/-- the base prefix doprnti.c:69-87 chooses is the `showbase` prefix of the stream -/
theorem ios_prefix (o : OStream) (s : List Char) (isZero : Bool) (hz : s.head? = some '0' ↔ isZero = true) :
    (if (paramsFromIos o).1.showbase = .nonzero ∧ s.head? = some '0' then [] else showbaseStr (intParams o)) =
      prefixStr o.fmt isZero := by
  have hb : (intParams o).base = (paramsFromIos o).1.base := rfl
  have hs : (intParams o).showbase = (paramsFromIos o).1.showbase := rfl
  rw [showbaseStr, hb, hs, ios_base, ios_showbase, prefixStr]
  simp only [propext hz]
  cases o.fmt.showbase <;> cases o.fmt.hexOnly <;> cases o.fmt.octOnly <;> cases o.fmt.uppercase <;> cases isZero <;> rfl

theorem ios_sign (o : OStream) (neg : Bool) :
    (if neg then some '-' else (paramsFromIos o).1.sign).toList = signStr o.fmt neg := by
  show (if neg then some '-' else (if o.fmt.showpos then some '+' else none)).toList = _
  rw [signStr]
  cases neg <;> cases o.fmt.showpos <;> rfl

/-- doprnti.c / doprntf.c justify with the parameters of a stream as `fieldLayout` says -/
theorem ios_layout (o : OStream) (sign pre body : List Char) :
    justLayout (paramsFromIos o).1.justify
      (replicate (o.width - ((sign.length + pre.length + body.length : Nat) : Int)).toNat o.fill) (sign ++ pre) body =
      fieldLayout o.fmt o.width o.fill sign pre body := by
  rw [ios_justify, fieldLayout, justLayout]
  generalize replicate _ o.fill = pad
  cases o.fmt.left <;> cases o.fmt.right <;> cases o.fmt.internal <;> simp

theorem outBase_range (f : Fmt) : 2 ≤ f.outBase ∧ f.outBase ≤ 36 := by
  unfold Fmt.outBase; split_ifs <;> omega

theorem head?_append_ne_nil (a b : List Char) (h : a ≠ []) : (a ++ b).head? = a.head? := by
  cases a with
  | nil => exact absurd rfl h
  | cons x t => rfl

/-- `o << q` (and `o << z`, the case d = 1) writes sign, prefix and digits in the field, the prefix again after the slash -/
theorem insertQ_eq (o : OStream) (n d : Int) (hd : 0 < d) :
    insertQ o n d = ({ o with width := 0 } : OStream).write (fieldLayout o.fmt o.width o.fill (signStr o.fmt (decide (n < 0)))
        (prefixStr o.fmt (decide (n = 0)))
        (natDigits o.fmt.outBase o.fmt.outUpper n.natAbs ++
          (if d = 1 then [] else '/' :: (prefixStr o.fmt false ++ natDigits o.fmt.outBase o.fmt.outUpper d.natAbs)))) := by
  have hb := intParams_base o
  have hr := outBase_range o.fmt
  have hmemn := natDigits_ne_slash_minus (u := o.fmt.outUpper) hr.1 hr.2 n.natAbs
  have hnm := natDigits_head_ne_minus (u := o.fmt.outUpper) hr.1 hr.2 n.natAbs
  generalize hnd : natDigits o.fmt.outBase o.fmt.outUpper n.natAbs = nd at hmemn hnm
  generalize hdd : natDigits o.fmt.outBase o.fmt.outUpper d.natAbs = dd
  have hnne : nd ≠ [] := by rw [← hnd]; exact natDigits_ne_nil _ _ _
  have hzn : nd.head? = some '0' ↔ decide (n = 0) = true := by
    rw [← hnd, natDigits_head_zero_iff _ _ hr.1 hr.2]; simp
  have hzd : dd.head? = some '0' ↔ false = true := by
    rw [← hdd, natDigits_head_zero_iff _ _ hr.1 hr.2]; simp; omega
  generalize hs : nd ++ (if d = 1 then [] else '/' :: dd) = s
  have e1 : insertQ o n d = ({ o with width := 0 } : OStream).write
      (callsBytes (doprntInteger (intParams o) ((if decide (n < 0) then ['-'] else []) ++ s))) := by
    have e2 : mpqGetStr (intParams o).base n d = (if decide (n < 0) then ['-'] else []) ++ s := by
      unfold mpqGetStr mpzGetStr; rw [hb.1, hb.2, hnd, hdd, ← hs]
      simp [show ¬ d < 0 by omega]
    rw [← e2]; rfl
  have hsh : s.head? = nd.head? := by rw [← hs]; exact head?_append_ne_nil _ _ hnne
  have hhead : s.head? ≠ some '-' := hsh ▸ hnm
  have hsplit : splitSlash s = if d = 1 then none else some (nd ++ ['/'], dd) :=
    hs ▸ splitSlash_opt nd dd (d = 1) fun c hc => (hmemn c hc).1
  rw [e1, doprntInteger, doprntIntegerG_signed _ _ _ hhead, show (intParams o).prec = -1 from rfl]
  simp only [show ¬ ((-1 : Int) = 0) by decide, and_false, if_false]
  rw [core_bytes_noprec _ _ _ _ rfl]
  simp only [show (intParams o).showbase = (paramsFromIos o).1.showbase from rfl, ios_prefix o _ _ (hsh ▸ hzn),
    show (intParams o).sign = (paramsFromIos o).1.sign from rfl, ios_sign, hsplit]
  by_cases h1 : d = 1
  · simp only [h1, if_true, ← hs, append_nil]
    exact congrArg _ (ios_layout o _ _ _)
  · simp only [h1, if_false, ios_prefix o _ _ hzd, append_assoc, cons_append, nil_append]
    exact congrArg _ (ios_layout o _ _ _)

theorem insertZ_eq (o : OStream) (z : Int) :
    insertZ o z = ({ o with width := 0 } : OStream).write (fieldLayout o.fmt o.width o.fill (signStr o.fmt (decide (z < 0)))
        (prefixStr o.fmt (decide (z = 0))) (natDigits o.fmt.outBase o.fmt.outUpper z.natAbs)) := by
  have : insertZ o z = insertQ o z 1 := by simp [insertQ, insertZ, mpqGetStr]
  rw [this, insertQ_eq o z 1 Int.one_pos]; simp

/-! ### the characters written -/

theorem digit_ge_48 (b : Nat) (hb : b = 8 ∨ b = 10 ∨ b = 16) (c : Char) (h : digitTest b c = true) : 48 ≤ c.toNat := by
  rcases hb with rfl | rfl | rfl
  · have := (digitTest8_iff c).mp h; omega
  · have := (digitTest10_iff c).mp h; omega
  · have := (digitTest16_iff c).mp h; omega

theorem cstr_id (l : List Char) (h : ∀ c ∈ l, 1 ≤ c.toNat) : cstr l = l := by
  unfold cstr
  refine takeWhile_all l fun c hc => ?_
  have := h c hc
  simp only [ne_eq, decide_not, Bool.not_eq_eq_eq_not, Bool.not_true, decide_eq_false_iff_not, char_eq_iff]
  have e : ('\x00' : Char).toNat = 0 := rfl
  omega

theorem outBase_cases (f : Fmt) : f.outBase = 8 ∨ f.outBase = 10 ∨ f.outBase = 16 := by
  unfold Fmt.outBase; split_ifs <;> simp

end

end Mpir.CxxIo
