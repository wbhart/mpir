/- mpn_hgcd / mpn_hgcd_reduce: the contract, by induction over the recursion (operands below HGCD_REDUCE_THRESHOLD
   limbs, so that mpn_hgcd_reduce recurses through mpn_hgcd and not through mpn_hgcd_appr). -/
import MpirProofs.Lemmas.HgcdRec
namespace Mpir.Hgcd
open Mpir Mpir.Gcd

/-- precondition of mpn_hgcd: M freshly initialised (identity), numbers of n limbs, one of them using limb n-1 -/
def HPre (n a b : Nat) (M : HM) : Prop := M.toM1 = idM ∧ MOk M ∧ a < B ^ n ∧ b < B ^ n ∧ Tight n a b

/-- the contract of mpn_hgcd (n limbs, s = n/2 + 1): see `LoopRet`; when 0 is returned nothing was changed
    (for n ≥ 5; for n = 3, 4 a subtraction may have been recorded, see the first part of HgcdRec.lean) -/
def HPost (n a b : Nat) (M : HM) (r : StepRes) : Prop :=
  LoopRet (n / 2 + 1) a b M.alloc n r ∧
  (r.ret = 0 → r.a < B ^ n ∧ r.b < B ^ n ∧ (5 ≤ n → r.a = a ∧ r.b = b ∧ r.M = M))

/-- the contract of mpn_hgcd_reduce on the limbs from p on: as `HPost`, with the bound B^(p + (n − p)/2) for the full
    numbers and the relation to the full inputs -/
def RPost (n p a b : Nat) (M : HM) (r : StepRes) : Prop :=
  MOk r.M ∧ r.M.alloc = M.alloc ∧
  (r.ret ≠ 0 → MRel r.M.toM1 r.a r.b a b ∧ NonId r.M.toM1 ∧ B ^ (p + (n - p) / 2) ≤ r.a ∧ B ^ (p + (n - p) / 2) ≤ r.b ∧
      r.a < B ^ r.ret ∧ r.b < B ^ r.ret ∧ Tight r.ret r.a r.b ∧ r.ret ≤ n) ∧
  (r.ret = 0 → 5 ≤ n - p → r.a = a ∧ r.b = b ∧ r.M = M)

theorem rpost_mk (n p a b : Nat) (M : HM) (ret' a' b' : Nat) (M' : HM) (h1 : MOk M') (h2 : M'.alloc = M.alloc)
    (h3 : ret' ≠ 0 → MRel M'.toM1 a' b' a b ∧ NonId M'.toM1 ∧ B ^ (p + (n - p) / 2) ≤ a' ∧ B ^ (p + (n - p) / 2) ≤ b' ∧
      a' < B ^ ret' ∧ b' < B ^ ret' ∧ Tight ret' a' b' ∧ ret' ≤ n)
    (h4 : ret' = 0 → 5 ≤ n - p → a' = a ∧ b' = b ∧ M' = M) : RPost n p a b M ⟨ret', a', b', M'⟩ := ⟨h1, h2, h3, h4⟩

theorem tight_div {n p a b : Nat} (hp : p < n) (h : Tight n a b) : Tight (n - p) (a / B ^ p) (b / B ^ p) := by
  rw [tight_iff, lt_max_iff, nlimbs_div_pow, nlimbs_div_pow]
  exact (lt_max_iff.mp (tight_iff.mp h)).imp (fun h => by omega) (fun h => by omega)

theorem hpre_high {n p a b : Nat} {M : HM} (hp : p < n) (h : HPre n a b M) : HPre (n - p) (a / B ^ p) (b / B ^ p) M :=
  ⟨h.1, h.2.1, div_pow_lt h.2.2.1, div_pow_lt h.2.2.2.1, tight_div hp h.2.2.2.2⟩

theorem reduceBody_spec (thr : Thr) (ns : Nat → Nat) (rc : Fns) (M : HM) (a b n p : Nat)
    (hrc : ∀ a' b' M', HPre (n - p) a' b' M' → HPost (n - p) a' b' M' (rc.hgcd (n - p) a' b' M'))
    (hpn : p < n) (hthr : n < thr.reduce) (hpre : HPre n a b M) :
    RPost n p a b M (reduceBody thr ns rc M a b n p) := by
  unfold reduceBody
  rw [if_pos hthr]
  obtain ⟨hl, hz⟩ := hrc _ _ _ (hpre_high hpn hpre)
  generalize rc.hgcd (n - p) (a / B ^ p) (b / B ^ p) M = r at *
  simp only
  by_cases hret : r.ret > 0
  · rw [if_pos hret]
    have hret' : r.ret ≠ 0 := Nat.ne_of_gt hret
    have hadj := adjust_after n a b p M.alloc r hpn hpre.2.2.1 hpre.2.2.2.1 hl hret' _ rfl
    generalize matAdjust r.M (p + r.ret) (a % B ^ p + B ^ p * r.a) (b % B ^ p + B ^ p * r.b) p = adj at hadj ⊢
    obtain ⟨q1, q2, q3, q4, q5, q6, q7⟩ := hadj
    obtain ⟨_, hMok, hal, _, hsucc⟩ := hl
    refine rpost_mk n p a b M adj.1 adj.2.1 adj.2.2 r.M hMok hal
      (fun _ => ⟨q1, (hsucc hret').1, q5, q6, q2, q3, q4, q7⟩) (fun hc => ?_)
    exfalso
    rw [hc, pow_zero] at q2
    have hp0 : 0 < B ^ (p + (n - p) / 2) := pow_pos B_pos _
    have e0 : adj.2.1 = 0 := Nat.lt_one_iff.mp q2
    rw [e0] at q5
    exact absurd q5 (Nat.not_le.mpr hp0)
  · rw [if_neg hret]
    obtain ⟨_, hMok, hal, _, _⟩ := hl
    have hr0 : r.ret = 0 := by omega
    obtain ⟨_, _, hu⟩ := hz hr0
    refine rpost_mk n p a b M 0 _ _ r.M hMok hal (fun hc => absurd rfl hc) (fun _ h5 => ?_)
    obtain ⟨u1, u2, u3⟩ := hu h5
    rw [u1, u2, u3]
    refine ⟨?_, ?_, rfl⟩
    · rw [Nat.add_comm]; exact Nat.div_add_mod a (B ^ p)
    · rw [Nat.add_comm]; exact Nat.div_add_mod b (B ^ p)

theorem hpost_of_fin (n a b : Nat) (M : HM) (n' a' b' : Nat) (M' : HM) (su : Bool) (hpre : HPre n a b M) (hn : 3 ≤ n)
    (hacc : Acc (n / 2 + 1) a b M.alloc n' a' b' M' su) (hle : n' ≤ n)
    (hinit : su = false → n' = n ∧ a' = a ∧ b' = b ∧ M' = M) :
    HPost n a b M (hgcdFin n' a' b' (n / 2 + 1) M' su) := by
  obtain ⟨h1, h2, _⟩ := hgcdFin_spec (n / 2 + 1) a b M.alloc n' a' b' M' su (by omega) hacc
  refine ⟨⟨h1.1, h1.2.1, h1.2.2.1, by have := h1.2.2.2.1; omega, h1.2.2.2.2⟩, fun hc => ?_⟩
  obtain ⟨g1, g2, g3, g4, g5⟩ := h2 hc
  obtain ⟨e1, e2, e3, e4⟩ := hinit g1
  subst e1 e2 e3 e4
  obtain ⟨hid, hMok, ha, hb, ht⟩ := hpre
  obtain ⟨k1, k2, k3⟩ := hgcdStep_unchanged n' a' b' (n' / 2 + 1) M' hMok (by omega) (by omega) (by omega) ha hb g5
  rw [g2, g3, g4]
  exact ⟨k1, k2, fun h5 => k3 (by omega) ht⟩

theorem hpre_matInit (n a b : Nat) (ha : a < B ^ n) (hb : b < B ^ n) (ht : Tight n a b) : HPre n a b (matInit n) := by
  obtain ⟨e1, e2, _, e4, _⟩ := matInit_spec n
  exact ⟨e1, ⟨e4, by rw [e2]⟩, ha, hb, ht⟩

/-- hgcd.c:114-170 -/
theorem hgcdTail_spec (thr : Thr) (rc : Fns) (n a b : Nat) (M : HM) (r : StepRes) (su : Bool) (hpre : HPre n a b M)
    (hn : 5 ≤ n) (hrc : ∀ n' a' b' M', n' < n → HPre n' a' b' M' → HPost n' a' b' M' (rc.hgcd n' a' b' M'))
    (hacc : Acc (n / 2 + 1) a b M.alloc r.ret r.a r.b r.M su) (hle : r.ret ≤ n)
    (hinit : su = false → r.ret = n ∧ r.a = a ∧ r.b = b ∧ r.M = M) :
    HPost n a b M (hgcdTail thr rc (n / 2 + 1) r su) := by
  unfold hgcdTail
  obtain ⟨c1, c2, c3, c4, c5, c6, c7, c8⟩ := hacc
  have hacc' : Acc (n / 2 + 1) a b M.alloc r.ret r.a r.b r.M su := ⟨c1, c2, c3, c4, c5, c6, c7, c8⟩
  have hfin0 := hpost_of_fin n a b M r.ret r.a r.b r.M su hpre (by omega) hacc' hle hinit
  by_cases hbig : r.ret > n / 2 + 1 + 2
  · rw [if_pos hbig]
    simp only
    have hp : 2 * (n / 2 + 1) - r.ret + 1 < r.ret := by omega
    generalize hpdef : 2 * (n / 2 + 1) - r.ret + 1 = p at *
    have hn' : r.ret - p < n := by omega
    have hpre1 : HPre (r.ret - p) (r.a / B ^ p) (r.b / B ^ p) (matInit (r.ret - p)) :=
      hpre_matInit _ _ _ (div_pow_lt c4) (div_pow_lt c5) (tight_div hp c6)
    obtain ⟨hl, hz⟩ := hrc _ _ _ _ hn' hpre1
    generalize rc.hgcd (r.ret - p) (r.a / B ^ p) (r.b / B ^ p) (matInit (r.ret - p)) = r1 at *
    by_cases hret : r1.ret > 0
    · rw [if_pos hret]
      have hret' : r1.ret ≠ 0 := Nat.ne_of_gt hret
      have hadj := adjust_after r.ret r.a r.b p _ r1 hp c4 c5 hl hret' _ rfl
      generalize matAdjust r1.M (p + r1.ret) (r.a % B ^ p + B ^ p * r1.a) (r.b % B ^ p + B ^ p * r1.b) p = adj at hadj ⊢
      obtain ⟨q1, q2, q3, q4, q5, q6, q7⟩ := hadj
      obtain ⟨_, hMok1, _, _, hsucc⟩ := hl
      obtain ⟨w1, w2, w3, w4, _⟩ := matMul_spec thr.strassen r.M r1.M c2.1 hMok1.1
      have hs : p + (r.ret - p) / 2 = n / 2 + 1 := by clear * - hpdef hbig hle; omega
      rw [hs] at q5 q6
      have hnid : NonId (matMul thr.strassen r.M r1.M).toM1 := by
        rw [w1]; exact nonId_mmul_right (mrel_det c1) (hsucc hret').1
      have hacc2 : Acc (n / 2 + 1) a b M.alloc adj.1 adj.2.1 adj.2.2 (matMul thr.strassen r.M r1.M) true :=
        ⟨by rw [w1]; exact mrel_comp c1 q1, ⟨w2, w4⟩, by rw [w3, c3], q2, q3, q4, pow_lt_of q5 q2, fun _ => ⟨hnid, q5, q6⟩⟩
      exact hpost_of_fin n a b M adj.1 adj.2.1 adj.2.2 _ true hpre (by omega) hacc2 (by omega) (fun hc => absurd hc (by simp))
    · rw [if_neg hret]
      have hr0 : r1.ret = 0 := by omega
      obtain ⟨_, _, hu⟩ := hz hr0
      obtain ⟨u1, u2, _⟩ := hu (by omega)
      have ea : r.a % B ^ p + B ^ p * r1.a = r.a := by rw [u1, Nat.add_comm]; exact Nat.div_add_mod _ _
      have eb : r.b % B ^ p + B ^ p * r1.b = r.b := by rw [u2, Nat.add_comm]; exact Nat.div_add_mod _ _
      rw [ea, eb]
      exact hfin0
  · rw [if_neg hbig]
    exact hfin0

theorem hpost_mk0 (n a b : Nat) (M : HM) (hpre : HPre n a b M) (hn : n ≤ 2) : HPost n a b M ⟨0, a, b, M⟩ := by
  obtain ⟨hid, hMok, ha, hb, _⟩ := hpre
  refine ⟨⟨by rw [hid]; exact mrel_id a b, hMok, rfl, Nat.zero_le _, fun hc => absurd rfl hc⟩, fun _ => ⟨ha, hb, fun h5 => by omega⟩⟩

theorem hgcdBody_spec (thr : Thr) (rc : Fns) (n a b : Nat) (M : HM) (h8 : 8 ≤ thr.hgcd) (hpre : HPre n a b M)
    (hrcH : ∀ n' a' b' M', n' < n → HPre n' a' b' M' → HPost n' a' b' M' (rc.hgcd n' a' b' M'))
    (hrcR : thr.hgcd < n → RPost n (n / 2) a b M (rc.reduce M a b n (n / 2))) :
    HPost n a b M (hgcdBody thr rc n a b M) := by
  unfold hgcdBody
  simp only
  by_cases h2 : n ≤ n / 2 + 1
  · rw [if_pos h2]; exact hpost_mk0 n a b M hpre (by omega)
  rw [if_neg h2]
  obtain ⟨hid, hMok, ha, hb, ht⟩ := hpre
  have hpre' : HPre n a b M := ⟨hid, hMok, ha, hb, ht⟩
  have hacc0 : Acc (n / 2 + 1) a b M.alloc n a b M false :=
    ⟨by rw [hid]; exact mrel_id a b, hMok, rfl, ha, hb, ht, by omega, fun hc => absurd hc (by simp)⟩
  by_cases hthr : n > thr.hgcd
  · rw [if_pos hthr]
    obtain ⟨r1, r2, r3, r4⟩ := hrcR hthr
    generalize rc.reduce M a b n (n / 2) = r at *
    have hst : ∃ st su, (if r.ret ≠ 0 then (r, true) else (⟨n, r.a, r.b, r.M⟩, false) : StepRes × Bool) = (st, su) ∧
        Acc (n / 2 + 1) a b M.alloc st.ret st.a st.b st.M su ∧ st.ret ≤ n ∧ (su = false → st = ⟨n, a, b, M⟩) := by
      by_cases hr : r.ret ≠ 0
      · obtain ⟨k1, k2, k3, k4, k5, k6, k7, k8⟩ := r3 hr
        have hs : B ^ (n / 2 + 1) ≤ B ^ (n / 2 + (n - n / 2) / 2) := Nat.pow_le_pow_right B_pos (by omega)
        exact ⟨_, _, if_pos hr, ⟨k1, r1, r2, k5, k6, k7, pow_lt_of (le_trans hs k3) k5,
          fun _ => ⟨k2, le_trans hs k3, le_trans hs k4⟩⟩, k8, fun hc => absurd hc (by simp)⟩
      · obtain ⟨u1, u2, u3⟩ := r4 (by omega) (by omega)
        exact ⟨_, _, if_neg hr, by rw [u1, u2, u3]; exact hacc0, le_refl _, fun _ => by rw [u1, u2, u3]⟩
    obtain ⟨st, su, e, hacc1, hle1, hinit1⟩ := hst
    rw [e]
    simp only
    have hloop := stepLoop_spec (n / 2 + 1) a b M.alloc (3 * n / 4 + 1) (by omega) (st.a + st.b + 1) st.ret st.a st.b
      st.M su hacc1 (by omega)
    cases hl : stepLoop (st.a + st.b + 1) (3 * n / 4 + 1) st.ret st.a st.b (n / 2 + 1) st.M su with
    | inl r2 =>
      rw [hl] at hloop
      simp only
      obtain ⟨⟨l1, l2, l3, l4, l5⟩, l6, _⟩ := hloop
      refine ⟨⟨l1, l2, l3, by omega, l5⟩, fun hc => ?_⟩
      obtain ⟨g1, g2, g3, g4, g5, _⟩ := l6 hc
      have hi := hinit1 g1
      rw [hi] at g2 g3 g4 g5
      simp only at g2 g3 g4 g5
      obtain ⟨k1, k2, k3⟩ := hgcdStep_unchanged n a b (n / 2 + 1) M hMok (by omega) (by omega) (by omega) ha hb g5
      rw [g2, g3, g4]
      exact ⟨k1, k2, fun _ => k3 (by omega) ht⟩
    | inr q =>
      rw [hl] at hloop
      obtain ⟨r2, su2⟩ := q
      simp only
      obtain ⟨l1, l2, l3, l4, l5, _⟩ := hloop
      refine hgcdTail_spec thr rc n a b M r2 su2 hpre' (by omega) hrcH l1 (by omega) (fun hc => ?_)
      have hsu0 : su = false := by
        cases su
        · rfl
        · exact absurd (l4 rfl) (by rw [hc]; simp)
      have h1 := l5 hc
      have h2 := hinit1 hsu0
      rw [h1, h2]
      exact ⟨rfl, rfl, rfl, rfl⟩
  · rw [if_neg hthr]
    exact hpost_of_fin n a b M n a b M false hpre' (by omega) hacc0 (le_refl _) (fun _ => ⟨rfl, rfl, rfl, rfl⟩)

theorem fns_spec (thr : Thr) (ns : Nat → Nat) (h8 : 8 ≤ thr.hgcd) : ∀ f,
    (∀ n a b M, 2 * n ≤ f → n < thr.reduce → HPre n a b M → HPost n a b M ((fns thr ns f).hgcd n a b M)) ∧
    (∀ M a b n p, 2 * (n - p) + 1 ≤ f → p < n → n < thr.reduce → HPre n a b M →
      RPost n p a b M ((fns thr ns f).reduce M a b n p)) := by
  intro f
  induction f with
  | zero =>
    refine ⟨fun n a b M h _ hpre => ?_, fun M a b n p h => by omega⟩
    have : n = 0 := by omega
    subst this
    exact hpost_mk0 0 a b M hpre (by omega)
  | succ f ih =>
    obtain ⟨ihH, ihR⟩ := ih
    refine ⟨fun n a b M h hthr hpre => ?_, fun M a b n p h hpn hthr hpre => ?_⟩
    · show HPost n a b M (hgcdBody thr (fns thr ns f) n a b M)
      apply hgcdBody_spec thr _ n a b M h8 hpre
      · intro n' a' b' M' hlt hpre'
        exact ihH n' a' b' M' (by omega) (by omega) hpre'
      · intro hgt
        exact ihR M a b n (n / 2) (by omega) (by omega) hthr hpre
    · show RPost n p a b M (reduceBody thr ns (fns thr ns f) M a b n p)
      apply reduceBody_spec thr ns _ M a b n p _ hpn hthr hpre
      intro a' b' M' hpre'
      exact ihH (n - p) a' b' M' (by omega) (by omega) hpre'

theorem hgcd_spec (thr : Thr) (ns : Nat → Nat) (h8 : 8 ≤ thr.hgcd) (n a b : Nat) (M : HM) (hthr : n < thr.reduce)
    (hpre : HPre n a b M) : HPost n a b M (hgcd thr ns n a b M) :=
  (fns_spec thr ns h8 (depth n)).1 n a b M (by unfold depth; omega) hthr hpre

theorem hgcdReduce_spec (thr : Thr) (ns : Nat → Nat) (h8 : 8 ≤ thr.hgcd) (M : HM) (a b n p : Nat) (hpn : p < n)
    (hthr : n < thr.reduce) (hpre : HPre n a b M) : RPost n p a b M (hgcdReduce thr ns M a b n p) :=
  (fns_spec thr ns h8 (depth n)).2 M a b n p (by unfold depth; omega) hpn hthr hpre

end Mpir.Hgcd
