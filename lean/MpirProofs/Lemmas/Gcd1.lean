/- The pieces of mpn_gcd_1 (gcd_1.c): the masks of GCD_1_METHOD 2 and the binary loop (`gcd1Loop_spec`), the modexact
   contract (`modexact_gcd`), gcd against powers of two, and the strip after the reduction (`gcd1Strip_spec`).  The wrapper
   and `gcd_1 = Nat.gcd` are in GcdMpz.lean. -/
import MpirProofs.Lemmas.Gcd
import Mathlib.Tactic.IntervalCases
import Mathlib.Data.Nat.ModEq
namespace Mpir.Gcd
open Mpir

theorem xor_mask (t : Nat) (h : t < B) : t ^^^ (B - 1) = B - 1 - t := by
  apply Nat.eq_of_testBit_eq
  intro i
  have hB : B = 2 ^ 64 := rfl
  rw [Nat.testBit_xor, hB, Nat.testBit_two_pow_sub_one]
  have e : 2 ^ 64 - 1 - t = 2 ^ 64 - (t + 1) := by omega
  rw [e, Nat.testBit_two_pow_sub_succ (by rw [← hB]; exact h)]
  by_cases hi : i < 64
  · simp [hi]
  · have : t.testBit i = false := Nat.testBit_lt_two_pow (lt_of_lt_of_le h (by rw [hB]; exact Nat.pow_le_pow_right (by norm_num) (by omega)))
    simp [hi, this]

theorem ctz_neg (x : Nat) (h0 : 0 < x) (h : x < B) : ctz (B - x) = ctz x := ctz_isCtz.neg (n := 64) h0 h trivial trivial

/-- one subtract-and-shift step of the binary algorithm on odd numbers -/
theorem bin_step (x y : Nat) (h : x < y) :
    Nat.gcd (2 * ((y - x) >>> (ctz (y - x) + 1)) + 1) (2 * x + 1) = Nat.gcd (2 * y + 1) (2 * x + 1) := by
  have h0 : 0 < y - x := by omega
  obtain ⟨h1, hodd⟩ := ctz_spec (y - x) h0
  have e : 2 * ((y - x) >>> (ctz (y - x) + 1)) + 1 = (y - x) / 2 ^ ctz (y - x) := by
    rw [Nat.shiftRight_eq_div_pow, pow_succ, ← Nat.div_div_eq_div_mul]; omega
  rw [e]
  generalize ctz (y - x) = k at *
  generalize (y - x) / 2 ^ k = o at *
  have e2 : 2 * y + 1 = 2 ^ (k + 1) * o + (2 * x + 1) := by
    have : 2 ^ (k + 1) * o = 2 * (y - x) := by rw [pow_succ, h1]; ring
    omega
  rw [e2, Nat.gcd_add_self_left]
  exact (Nat.Coprime.gcd_mul_left_cancel o (coprime_two_pow_odd (k + 1) (2 * x + 1) (by omega))).symm

theorem shift_sum_lt (d : Nat) (k : Nat) (h : 0 < d) : d >>> (k + 1) ≤ d - 1 := by
  rw [Nat.shiftRight_eq_div_pow]
  have : d / 2 ^ (k + 1) ≤ d / 2 := by
    apply Nat.div_le_div_left _ (by norm_num)
    calc 2 = 2 ^ 1 := by norm_num
      _ ≤ 2 ^ (k + 1) := Nat.pow_le_pow_right (by norm_num) (by omega)
  omega

theorem highMask_lo (t : Nat) (h : t < 2 ^ 63) : highMask t = 0 := by
  unfold highMask; rw [if_neg (by omega)]
theorem highMask_hi (t : Nat) (h : 2 ^ 63 ≤ t) : highMask t = B - 1 := by
  unfold highMask; rw [if_pos h]

theorem gcd1Loop_succ (f u v : Nat) (huv : u ≠ v) (hu : u < 2 ^ 63) (hv : v < 2 ^ 63) :
    gcd1Loop (f + 1) u v =
      if v < u then gcd1Loop f ((u - v) >>> (ctz (u - v) + 1)) v
      else gcd1Loop f ((v - u) >>> (ctz (v - u) + 1)) u := by
  conv_lhs => unfold gcd1Loop
  rw [if_neg huv]
  dsimp only
  have hmask : B - 1 < B := by simp only [B_eq]; omega
  split
  · rename_i hlt
    have ht : (u + B - v) % B = u - v := by simp only [B_eq]; omega
    rw [ht, highMask_lo (u - v) (by omega)]
    simp only [Nat.zero_and, Nat.xor_zero, Nat.add_zero, Nat.sub_zero]
    have e1 : v % B = v := by simp only [B_eq]; omega
    have e2 : (u - v + B) % B = u - v := by simp only [B_eq]; omega
    rw [e1, e2]
  · rename_i hlt
    have hlt' : u < v := by omega
    have ht : (u + B - v) % B = B - (v - u) := by simp only [B_eq]; omega
    have h1 : 2 ^ 63 ≤ B - (v - u) := by simp only [B_eq]; omega
    have h2 : B - (v - u) < B := by simp only [B_eq]; omega
    rw [ht, highMask_hi _ h1, limbMask_and _ h2, xor_mask _ h2]
    have e1 : (v + (B - (v - u))) % B = u := by simp only [B_eq]; omega
    have e2 : (B - 1 - (B - (v - u)) + B - (B - 1)) % B = v - u := by simp only [B_eq]; omega
    rw [e1, e2, ctz_neg (v - u) (by omega) (by simp only [B_eq]; omega)]

theorem gcd1Loop_spec : ∀ (f u v : Nat), u < 2 ^ 63 → v < 2 ^ 63 → u + v ≤ f →
    2 * gcd1Loop f u v + 1 = Nat.gcd (2 * u + 1) (2 * v + 1)
  | 0, u, v, _, _, hf => by
    have : u = 0 := by omega
    have : v = 0 := by omega
    subst_vars; simp [gcd1Loop]
  | f + 1, u, v, hu, hv, hf => by
    by_cases huv : u = v
    · subst huv; simp [gcd1Loop]
    · rw [gcd1Loop_succ f u v huv hu hv]
      split
      · rename_i hlt
        have hs := shift_sum_lt (u - v) (ctz (u - v)) (by omega)
        rw [gcd1Loop_spec f _ v (by omega) hv (by omega)]
        exact bin_step v u hlt
      · rename_i hlt
        have hlt' : u < v := by omega
        have hs := shift_sum_lt (v - u) (ctz (v - u)) (by omega)
        rw [gcd1Loop_spec f _ u (by omega) hu (by omega), bin_step u v hlt', Nat.gcd_comm]

theorem halve_spec (d x : Nat) (hd : d % 2 = 1) (hx : x < d) : halve d x < d ∧ (2 * halve d x) % d = x % d := by
  unfold halve
  split
  · refine ⟨by omega, ?_⟩
    have : 2 * (x / 2) = x := by omega
    rw [this]
  · refine ⟨by omega, ?_⟩
    have : 2 * ((x + d) / 2) = x + d := by omega
    rw [this, Nat.add_mod_right]

theorem halveN_spec (d : Nat) (hd : d % 2 = 1) : ∀ (k x : Nat), x < d →
    halveN k d x < d ∧ (2 ^ k * halveN k d x) % d = x % d
  | 0, x, hx => by simp [halveN, hx]
  | k + 1, x, hx => by
    obtain ⟨h1, h2⟩ := halve_spec d x hd hx
    obtain ⟨i1, i2⟩ := halveN_spec d hd k (halve d x) h1
    simp only [halveN]
    refine ⟨i1, ?_⟩
    have : 2 ^ (k + 1) * halveN k d (halve d x) = 2 * (2 ^ k * halveN k d (halve d x)) := by ring
    rw [this, Nat.mul_mod, i2, ← Nat.mul_mod, h2]

/-- one limb of modexact: c' = ((c - s)·2⁻ᵏ) mod d -/
theorem modexact_step (k d s c : Nat) (hd : d % 2 = 1) :
    halveN k d ((c + d - s % d) % d) < d ∧ (2 ^ k * halveN k d ((c + d - s % d) % d) + s) % d = c % d := by
  have hd0 : 0 < d := by omega
  have hx : (c + d - s % d) % d < d := Nat.mod_lt _ hd0
  obtain ⟨h1, h2⟩ := halveN_spec d hd k _ hx
  refine ⟨h1, ?_⟩
  generalize halveN k d ((c + d - s % d) % d) = c' at *
  have hs : s % d ≤ c + d := by have := Nat.mod_lt s hd0; omega
  rw [Nat.add_mod, h2, Nat.mod_mod, ← Nat.add_mod]
  have : c + d - s % d + s = c + d + (s / d) * d := by
    have := Nat.div_add_mod s d
    have e : s / d * d = d * (s / d) := Nat.mul_comm _ _
    omega
  rw [this, Nat.add_mul_mod_self_right, Nat.add_mod_right]

theorem modexactGo_spec (k d : Nat) (hk : 2 ^ k = B) (hd : d % 2 = 1) (l : List Nat) : ∀ (c : Nat), c < d →
    modexactGo k d c l < d ∧ (modexactGo k d c l * B ^ l.length + val l) % d = c % d := by
  induction l with
  | nil =>
    intro c hc
    simp only [modexactGo, List.length_nil, pow_zero, mul_one, val_nil, add_zero]
    exact ⟨hc, trivial⟩
  | cons s ss ih =>
    intro c hc
    obtain ⟨h1, key⟩ := modexact_step k d s c hd
    rw [hk] at key
    simp only [modexactGo]
    generalize halveN k d ((c + d - s % d) % d) = c' at *
    obtain ⟨i1, i2⟩ := ih c' h1
    refine ⟨i1, ?_⟩
    generalize modexactGo k d c' ss = r at *
    simp only [val_cons, List.length_cons, pow_succ]
    have : r * (B ^ ss.length * B) + (s + B * val ss) = B * (r * B ^ ss.length + val ss) + s := by ring
    rw [this, Nat.add_mod, Nat.mul_mod, i2, ← Nat.mul_mod, ← Nat.add_mod, key]

theorem modexact_spec (up : List Nat) (d : Nat) (hd : d % 2 = 1) :
    modexact_1_odd up d < d ∧ (modexact_1_odd up d * B ^ up.length + val up) % d = 0 := by
  have := modexactGo_spec 64 d rfl hd up 0 (by omega)
  simpa [modexact_1_odd] using this

theorem modexact_gcd (up : List Nat) (d : Nat) (hd : d % 2 = 1) :
    Nat.gcd (modexact_1_odd up d) d = Nat.gcd (val up) d := by
  obtain ⟨_, h⟩ := modexact_spec up d hd
  generalize modexact_1_odd up d = r at *
  have hB : B ^ up.length = 2 ^ (64 * up.length) := by
    show (2 ^ 64) ^ up.length = _; rw [← pow_mul]
  have hc : Nat.Coprime (B ^ up.length) d := by rw [hB]; exact coprime_two_pow_odd _ d hd
  have hdvd : d ∣ r * B ^ up.length + val up := Nat.dvd_of_mod_eq_zero h
  -- gcd (r, d) = gcd (r B^n, d) = gcd (val, d)
  have e1 : Nat.gcd (B ^ up.length * r) d = Nat.gcd r d := Nat.Coprime.gcd_mul_left_cancel r hc
  rw [← e1]
  apply Nat.dvd_antisymm
  · apply Nat.dvd_gcd _ (Nat.gcd_dvd_right _ _)
    have h1 : Nat.gcd (B ^ up.length * r) d ∣ r * B ^ up.length + val up :=
      Nat.dvd_trans (Nat.gcd_dvd_right _ _) hdvd
    have h2 : Nat.gcd (B ^ up.length * r) d ∣ r * B ^ up.length := by
      rw [Nat.mul_comm r]; exact Nat.gcd_dvd_left _ _
    exact (Nat.dvd_add_right h2).mp h1
  · apply Nat.dvd_gcd _ (Nat.gcd_dvd_right _ _)
    have h1 : Nat.gcd (val up) d ∣ r * B ^ up.length + val up :=
      Nat.dvd_trans (Nat.gcd_dvd_right _ _) hdvd
    have h2 : Nat.gcd (val up) d ∣ val up := Nat.gcd_dvd_left _ _
    rw [Nat.mul_comm]
    exact (Nat.dvd_add_left h2).mp h1

theorem gcd_two_pow_odd (k x y : Nat) (hy : y % 2 = 1) : Nat.gcd (2 ^ k * x) y = Nat.gcd x y :=
  Nat.Coprime.gcd_mul_left_cancel x (coprime_two_pow_odd k y hy)

theorem gcd_B_mul_odd (x y : Nat) (hy : y % 2 = 1) : Nat.gcd (B * x) y = Nat.gcd x y :=
  gcd_two_pow_odd 64 x y hy

theorem gcd_pow_two (i j x y : Nat) (hx : x % 2 = 1) (hy : y % 2 = 1) :
    Nat.gcd (2 ^ i * x) (2 ^ j * y) = 2 ^ min i j * Nat.gcd x y := by
  rcases Nat.le_total i j with h | h
  · obtain ⟨d, rfl⟩ := Nat.exists_eq_add_of_le h
    rw [Nat.min_eq_left h, Nat.pow_add, Nat.mul_assoc, Nat.gcd_mul_left]
    congr 1
    rw [Nat.gcd_comm, gcd_two_pow_odd d y x hx, Nat.gcd_comm]
  · obtain ⟨d, rfl⟩ := Nat.exists_eq_add_of_le h
    rw [Nat.min_eq_right h, Nat.pow_add, Nat.mul_assoc, Nat.gcd_mul_left]
    congr 1
    exact gcd_two_pow_odd d x y hy

theorem shl1_or1 (x : Nat) : (x <<< 1) ||| 1 = 2 * x + 1 := by
  rw [← Nat.shiftLeft_add_eq_or_of_lt (by norm_num : 1 < 2 ^ 1), Nat.shiftLeft_eq]; ring

/-- the tail of mpn_gcd_1 entered at `strip_u_maybe`: gcd of the remainder with the odd divisor, shifted back -/
theorem gcd1Strip_spec (r V zb : Nat) (hr0 : 0 < r) (hr : r < B) (hV : V % 2 = 1) (hVB : V < B) :
    gcd1Strip r V zb = (Nat.gcd r V * 2 ^ zb) % B := by
  have hB : B = 2 ^ 64 := rfl
  unfold gcd1Strip
  dsimp only
  obtain ⟨h1, hodd⟩ := ctz_spec r hr0
  have hu' : r >>> (ctz r + 1) < 2 ^ 63 := by
    rw [Nat.shiftRight_eq_div_pow]
    have : r / 2 ^ (ctz r + 1) ≤ r / 2 := by
      apply Nat.div_le_div_left _ (by norm_num)
      calc 2 = 2 ^ 1 := by norm_num
        _ ≤ 2 ^ (ctz r + 1) := Nat.pow_le_pow_right (by norm_num) (by omega)
    rw [hB] at hr; omega
  have hv' : V >>> 1 < 2 ^ 63 := by
    rw [Nat.shiftRight_eq_div_pow]; rw [hB] at hVB; omega
  have hloop := gcd1Loop_spec _ _ _ hu' hv' (le_refl _)
  rw [shl1_or1, hloop, Nat.shiftLeft_eq]
  have e1 : 2 * (r >>> (ctz r + 1)) + 1 = r / 2 ^ ctz r := by
    rw [Nat.shiftRight_eq_div_pow, pow_succ, ← Nat.div_div_eq_div_mul]; omega
  have e2 : 2 * (V >>> 1) + 1 = V := by rw [Nat.shiftRight_eq_div_pow]; omega
  rw [e1, e2]
  congr 2
  conv_rhs => rw [h1]
  exact (gcd_two_pow_odd _ _ _ hV).symm

end Mpir.Gcd
