/-
  The scanf side of C18: the field reader `gmpscan` of scanf/doscan.c (model Mpir/Model/Scanf.lean) in closed form
  (`digitsLoop_spec`, `number_fixed`, `gmpscan_Z_fixed`, `gmpscan_fieldDigits`), the value of digit strings
  (`setStr_digits`, `natDigits_props`), the shape of printed text (`Shape` is in ScanfI; here `zeros_digits`), the steps of
  `__gmp_doscan` on `%`, the type letter and the conversion, and the base detection step `baseStep`.
-/
import MpirProofs.Lemmas.Printf
namespace Mpir.Scanf
open Mpir.Printf

/-! ### characters and digit values -/

/-- value of a digit string in base `b` (what mpz_set_str computes) -/
def strVal (b : Nat) (s : List Char) : Nat := s.foldl (fun a c => a * b + digitValue c) 0

theorem strVal_append (b : Nat) (s t : List Char) :
    strVal b (s ++ t) = t.foldl (fun a c => a * b + digitValue c) (strVal b s) := by
  simp [strVal, List.foldl_append]

theorem strVal_snoc (b : Nat) (s : List Char) (c : Char) : strVal b (s ++ [c]) = strVal b s * b + digitValue c := by
  simp [strVal, List.foldl_append]

theorem strVal_zeros (b k : Nat) (s : List Char) : strVal b (List.replicate k '0' ++ s) = strVal b s := by
  have h0 : ∀ k, strVal b (List.replicate k '0') = 0 := by
    intro k
    induction k with
    | zero => rfl
    | succ k ih => rw [List.replicate_succ', strVal_snoc, ih]; simp [digitValue]
  rw [strVal_append, h0]; rfl

theorem cle (a b : Char) : (a ≤ b) = (a.toNat ≤ b.toNat) := rfl
theorem lits : '0'.toNat = 48 ∧ '9'.toNat = 57 ∧ 'a'.toNat = 97 ∧ 'f'.toNat = 102 ∧ 'z'.toNat = 122 ∧ 'A'.toNat = 65 ∧
    'F'.toNat = 70 ∧ 'Z'.toNat = 90 ∧ '8'.toNat = 56 := by decide

theorem ceq (a b : Char) : (a = b) = (a.toNat = b.toNat) := by rw [Char.toNat_inj]

/-- `isDigitIn` by character codes -/
theorem isDigitIn_iff (b : Nat) (c : Char) : isDigitIn b c = true ↔
    (48 ≤ c.toNat ∧ c.toNat ≤ 57 ∧ (b = 8 → c.toNat ≤ 55)) ∨
    (b = 16 ∧ ((97 ≤ c.toNat ∧ c.toNat ≤ 102) ∨ (65 ≤ c.toNat ∧ c.toNat ≤ 70))) := by
  obtain ⟨l0, l9, la, lf, lz, lA, lF, lZ, l8⟩ := lits
  unfold isDigitIn
  split <;> simp only [cle, ceq, l0, l9, la, lf, lA, lF, l8, Bool.and_eq_true, Bool.or_eq_true, decide_eq_true_eq,
    Bool.not_eq_true', Bool.and_eq_false_imp, Bool.or_eq_false_iff, decide_eq_false_iff_not] <;> omega

theorem isDigitIn_lt (b : Nat) (hb : b = 8 ∨ b = 10 ∨ b = 16) (c : Char) (h : isDigitIn b c = true) :
    digitValue c < b := by
  rw [isDigitIn_iff] at h
  obtain ⟨l0, l9, la, lf, lz, lA, lF, lZ, l8⟩ := lits
  simp only [digitValue, cle, l0, l9, la, lz, lA, lZ]
  split_ifs <;> omega

/-! ### the field reader in closed form -/

/-- `g` stands at the unread input `rem` (look-ahead character included) under the width `W`:
    either the look-ahead `c` is the head of `rem`, or GET() hit the width and nothing was read. -/
def Rep (W : Nat) (g : GS) (rem : List Char) : Prop :=
  (g.over = false → g.chars ≤ W ∧ g.c = rem.head? ∧ g.rest = rem.tail) ∧
  (g.over = true → g.chars = W + 1 ∧ g.rest = rem)

theorem rep_get (W : Nat) (g : GS) (c : Char) (t : List Char) (h : Rep W g (c :: t)) (ho : g.over = false) :
    Rep W (g.get W) t ∧ (g.get W).chars = g.chars + 1 ∧ (g.get W).s = g.s ∧ (g.get W).base = g.base ∧
    (g.get W).seenDigit = g.seenDigit ∧ ((g.get W).over = true ↔ g.chars = W) := by
  obtain ⟨hc, -, hr⟩ := h.1 ho
  simp only [List.tail_cons] at hr
  unfold GS.get
  by_cases hw : g.chars + 1 > W
  · simp only [hw, if_true, true_and]
    refine ⟨⟨fun h => by simp at h, fun _ => ⟨by show g.chars + 1 = W + 1; omega, hr⟩⟩, by constructor <;> intro <;> first | trivial | omega⟩
  · simp only [hw, if_false]
    rw [hr]
    cases t with
    | nil => simp [Rep, ho]; omega
    | cons x xs => simp [Rep, ho]; omega

theorem digitsLoop_over (W fuel : Nat) (g : GS) (h : g.over = true) : digitsLoop W fuel g = g := by
  cases fuel <;> simp [digitsLoop, h]

theorem digitsLoop_spec (W : Nat) : ∀ (fuel : Nat) (g : GS) (rem : List Char), Rep W g rem → g.over = false →
    rem.length + 1 ≤ fuel →
    Rep W (digitsLoop W fuel g) (rem.drop ((rem.take (W + 1 - g.chars)).takeWhile (isDigitIn g.base)).length) ∧
    (digitsLoop W fuel g).s = g.s ++ (rem.take (W + 1 - g.chars)).takeWhile (isDigitIn g.base) ∧
    (digitsLoop W fuel g).chars = g.chars + ((rem.take (W + 1 - g.chars)).takeWhile (isDigitIn g.base)).length ∧
    (digitsLoop W fuel g).base = g.base ∧
    (digitsLoop W fuel g).seenDigit =
      (g.seenDigit || !((rem.take (W + 1 - g.chars)).takeWhile (isDigitIn g.base)).isEmpty) := by
  intro fuel
  induction fuel with
  | zero => intro g rem _ _ h; omega
  | succ fuel ih =>
    intro g rem hrep ho hf
    obtain ⟨hc, hcc, hr⟩ := hrep.1 ho
    cases rem with
    | nil =>
      simp only [List.head?_nil] at hcc
      simp [digitsLoop, ho, hcc, hrep]
    | cons c t =>
      simp only [List.head?_cons] at hcc
      have hW : W + 1 - g.chars = (W - g.chars) + 1 := by omega
      by_cases hd : isDigitIn g.base c = true
      · have hrep0 : Rep W { (g.store c) with seenDigit := true } (c :: t) := hrep
        obtain ⟨r1, r2, r3, r4, r5, r6⟩ := rep_get W { (g.store c) with seenDigit := true } c t hrep0 ho
        have hstep : digitsLoop W (fuel + 1) g = digitsLoop W fuel ({ (g.store c) with seenDigit := true }.get W) := by
          simp [digitsLoop, ho, hcc, hd]
        rw [hstep, hW, List.take_succ_cons, List.takeWhile_cons_of_pos hd]
        by_cases hov : ({ (g.store c) with seenDigit := true }.get W).over = true
        · have hcw : g.chars = W := r6.mp hov
          rw [digitsLoop_over _ _ _ hov]
          have h0 : W - g.chars = 0 := by omega
          simp only [h0, List.take_zero, List.takeWhile_nil, List.length_cons, List.length_nil, List.drop_succ_cons,
            List.drop_zero]
          refine ⟨r1, ?_, ?_, ?_, ?_⟩
          · rw [r3]; rfl
          · rw [r2]; rfl
          · rw [r4]; rfl
          · rw [r5]; simp
        · have hov' : ({ (g.store c) with seenDigit := true }.get W).over = false := by simpa using hov
          have hlen : t.length + 1 ≤ fuel := by simp at hf; omega
          obtain ⟨i1, i2, i3, i4, i5⟩ := ih _ t r1 hov' hlen
          rw [r2, r4] at i1 i2 i3 i5
          have hb : ({ (g.store c) with seenDigit := true } : GS).base = g.base := rfl
          have hch : ({ (g.store c) with seenDigit := true } : GS).chars = g.chars := rfl
          rw [hb, hch] at i1 i2 i3 i5
          have hsub : W + 1 - (g.chars + 1) = W - g.chars := by omega
          rw [hsub] at i1 i2 i3 i5
          refine ⟨by simpa using i1, ?_, ?_, ?_, ?_⟩
          · rw [i2, r3]; simp [GS.store]
          · rw [i3]; simp only [List.length_cons]; omega
          · rw [i4, r4]; rfl
          · rw [i5, r5]; simp
      · have hd' : isDigitIn g.base c = false := by simpa using hd
        have hstep : digitsLoop W (fuel + 1) g = g := by simp [digitsLoop, ho, hcc, hd']
        rw [hstep, hW, List.take_succ_cons, List.takeWhile_cons_of_neg hd]
        simp [hrep]

def signLen : List Char → Nat
  | c :: _ => if c = '-' ∨ c = '+' then 1 else 0
  | [] => 0
def signStore : List Char → List Char
  | c :: _ => if c = '-' then ['-'] else []
  | [] => []

/-- the sign step of `number` (doscan.c:234-244) -/
def signStep (W : Nat) (g : GS) : GS :=
  match g.c with
  | some '-' => (g.store '-').get W
  | some '+' => g.get W
  | _ => g

theorem signStep_spec (W : Nat) (g : GS) (rem : List Char) (hrep : Rep W g rem) (ho : g.over = false) :
    Rep W (signStep W g) (rem.drop (signLen rem)) ∧ (signStep W g).s = g.s ++ signStore rem ∧
    (signStep W g).chars = g.chars + signLen rem ∧ (signStep W g).base = g.base ∧
    (signStep W g).seenDigit = g.seenDigit ∧ ((signStep W g).over = true → signLen rem = 1 ∧ g.chars = W) := by
  obtain ⟨hc, hcc, hr⟩ := hrep.1 ho
  cases rem with
  | nil =>
    simp only [List.head?_nil] at hcc
    simp [signStep, hcc, signLen, signStore, hrep, ho]
  | cons c t =>
    simp only [List.head?_cons] at hcc
    by_cases h1 : c = '-'
    · subst h1
      have hrep0 : Rep W (g.store '-') ('-' :: t) := hrep
      obtain ⟨r1, r2, r3, r4, r5, r6⟩ := rep_get W (g.store '-') '-' t hrep0 ho
      have e : signStep W g = (g.store '-').get W := by simp [signStep, hcc]
      rw [e]
      refine ⟨by simpa [signLen] using r1, by rw [r3]; simp [GS.store, signStore], by rw [r2]; simp [GS.store, signLen],
        by rw [r4]; rfl, by rw [r5]; rfl, fun h => ⟨by simp [signLen], r6.mp h⟩⟩
    · by_cases h2 : c = '+'
      · subst h2
        obtain ⟨r1, r2, r3, r4, r5, r6⟩ := rep_get W g '+' t hrep ho
        have e : signStep W g = g.get W := by simp [signStep, hcc]
        rw [e]
        refine ⟨by simpa [signLen] using r1, by rw [r3]; simp [signStore], by rw [r2]; simp [signLen],
          r4, r5, fun h => ⟨by simp [signLen], r6.mp h⟩⟩
      · have e : signStep W g = g := by
          unfold signStep
          split
          · rename_i h; rw [hcc] at h; exact absurd (Option.some.inj h) h1
          · rename_i h; rw [hcc] at h; exact absurd (Option.some.inj h) h2
          · rfl
        rw [e]
        simp [signLen, signStore, h1, h2, hrep, ho]

/-- base detection of `number` (doscan.c:246-266) -/
def baseStep (W : Nat) (g : GS) : GS :=
  let g := { g with base := 10 }
  if g.c = some '0' then
    let g := ({ (g.store '0') with seenDigit := true, base := 8 }).get W
    if g.over then g else
    if g.c = some 'x' ∨ g.c = some 'X' then
      match g.c with
      | some c => ({ (g.store c) with base := 16, seenDigit := false }).get W
      | none => g
    else g
  else g

theorem signStep_base (W : Nat) (g : GS) : (signStep W g).base = g.base := by
  have gb : ∀ g : GS, (g.get W).base = g.base := by
    intro g; unfold GS.get; split
    · rfl
    · split <;> rfl
  unfold signStep
  split <;> simp [gb, GS.store]

theorem number_unfold (W pb : Nat) (g : GS) :
    number W pb g =
      if (signStep W { g with seenDigit := false }).over = true then signStep W { g with seenDigit := false }
      else digitsLoop W ((if (signStep W { g with seenDigit := false }).base = 0 then baseStep W (signStep W { g with seenDigit := false })
            else signStep W { g with seenDigit := false }).rest.length + 2)
        (if (signStep W { g with seenDigit := false }).base = 0 then baseStep W (signStep W { g with seenDigit := false })
            else signStep W { g with seenDigit := false }) := by
  rfl

theorem number_eq (W pb : Nat) (g : GS) (hb : g.base ≠ 0) :
    number W pb g =
      if (signStep W { g with seenDigit := false }).over = true then signStep W { g with seenDigit := false }
      else digitsLoop W ((signStep W { g with seenDigit := false }).rest.length + 2) (signStep W { g with seenDigit := false }) := by
  have hb' : ¬ (signStep W { g with seenDigit := false }).base = 0 := by rw [signStep_base]; exact hb
  rw [number_unfold, if_neg hb']

/-- `number` for a fixed base (doscan.c:233-286 with base ≠ 0): optional sign, then the longest run of digits
    of the base that the width allows. -/
theorem number_fixed (W pb : Nat) (g : GS) (rem : List Char) (hrep : Rep W g rem) (ho : g.over = false)
    (hb : g.base ≠ 0) :
    Rep W (number W pb g)
      (rem.drop (signLen rem + (((rem.drop (signLen rem)).take (W + 1 - g.chars - signLen rem)).takeWhile (isDigitIn g.base)).length)) ∧
    (number W pb g).s = g.s ++ signStore rem ++ ((rem.drop (signLen rem)).take (W + 1 - g.chars - signLen rem)).takeWhile (isDigitIn g.base) ∧
    (number W pb g).chars = g.chars + signLen rem +
      (((rem.drop (signLen rem)).take (W + 1 - g.chars - signLen rem)).takeWhile (isDigitIn g.base)).length ∧
    (number W pb g).base = g.base ∧
    (number W pb g).seenDigit = !(((rem.drop (signLen rem)).take (W + 1 - g.chars - signLen rem)).takeWhile (isDigitIn g.base)).isEmpty := by
  rw [number_eq W pb g hb]
  have hrep0 : Rep W { g with seenDigit := false } rem := hrep
  obtain ⟨s1, s2, s3, s4, s5, s6⟩ := signStep_spec W { g with seenDigit := false } rem hrep0 ho
  by_cases hov : (signStep W { g with seenDigit := false }).over = true
  · obtain ⟨k1, kW⟩ := s6 hov
    have kW' : g.chars = W := kW
    have h0 : W + 1 - g.chars - signLen rem = 0 := by omega
    simp only [hov, if_true, h0, List.take_zero, List.takeWhile_nil, List.length_nil, Nat.add_zero, List.append_nil,
      List.isEmpty_nil, Bool.not_true]
    exact ⟨s1, s2, s3, s4, s5⟩
  · have hov' : (signStep W { g with seenDigit := false }).over = false := by simpa using hov
    simp only [hov', Bool.false_eq_true, if_false]
    have hfuel : (rem.drop (signLen rem)).length + 1 ≤ (signStep W { g with seenDigit := false }).rest.length + 2 := by
      obtain ⟨-, -, hr⟩ := s1.1 hov'
      rw [hr]; simp; omega
    obtain ⟨d1, d2, d3, d4, d5⟩ := digitsLoop_spec W _ _ _ s1 hov' hfuel
    rw [s3, s4] at d1 d2 d3 d5
    have e1 : ({ g with seenDigit := false } : GS).chars = g.chars := rfl
    have e2 : ({ g with seenDigit := false } : GS).base = g.base := rfl
    have e3 : W + 1 - (g.chars + signLen rem) = W + 1 - g.chars - signLen rem := by omega
    rw [e1, e2, e3] at d1 d2 d3 d5
    refine ⟨by simpa [List.drop_drop, Nat.add_comm] using d1, by rw [d2, s2], by rw [d3], by rw [d4, s4],
      by rw [d5, s5]; rfl⟩

theorem rep_rest (W : Nat) (g : GS) (rem : List Char) (h : Rep W g rem) :
    (g.chars ≠ W + 1 → g.c = rem.head? ∧ g.rest = rem.tail) ∧ (g.chars = W + 1 → g.rest = rem) := by
  cases ho : g.over with
  | false =>
    obtain ⟨hc, hcc, hr⟩ := h.1 ho
    exact ⟨fun _ => ⟨hcc, hr⟩, fun h => by omega⟩
  | true =>
    obtain ⟨hc, hr⟩ := h.2 ho
    exact ⟨fun h => absurd hc h, fun _ => hr⟩

def scanWidth (p : ScanParams) : Nat := if p.width = 0 then 2147483646 else p.width

theorem scanWidth_pos (p : ScanParams) : 1 ≤ scanWidth p := by unfold scanWidth; split <;> omega

/-! ### `gmpscan` in terms of `number` -/

/-- doscan.c:314-327: a `/` after the numerator of a rational starts the denominator (`do_second`) -/
def slashStep (p : ScanParams) (width : Nat) (g : GS) : GS × Bool :=
  if ¬ g.over ∧ p.type = 'Q' ∧ g.c = some '/' then
    if ¬ g.seenDigit then (g, true)
    else
      let g := ({ (g.store '/') with seenDigit := false, base := p.base }).get width
      if g.over then (g, false) else (number width p.base g, false)
  else (g, false)

/-- doscan.c:330-386: convert, push the look-ahead back, return the count -/
def finishScan (p : ScanParams) (width : Nat) (gi : GS × Bool) : GResult :=
  let g := gi.1
  let invalid := gi.2 || !g.seenDigit
  let val : Scanned :=
    if invalid ∨ p.ignore then .none
    else if p.type = 'Q' then (match setStrQ g.s p.base with | some (n, d) => .q n d | none => .none)
    else (match setStr g.s p.base with | some v => .z v | none => .none)
  let rest := if g.chars ≠ width + 1 then (match g.c with | some c => c :: g.rest | none => g.rest) else g.rest
  { ret := if invalid then -1 else (g.chars - 1 : Nat), rest := rest, val := val }

theorem gmpscan_cons (p : ScanParams) (c0 : Char) (rest0 : List Char) :
    gmpscan p (c0 :: rest0) = finishScan p (scanWidth p) (slashStep p (scanWidth p)
      (number (scanWidth p) p.base { chars := 1, c := some c0, rest := rest0, base := p.base })) := by
  rfl

theorem gmpscan_start (p : ScanParams) (inp : List Char) (hne : inp ≠ []) :
    ∃ g0 : GS, Rep (scanWidth p) g0 inp ∧ g0.over = false ∧ g0.chars = 1 ∧ g0.s = [] ∧ g0.base = p.base ∧
      gmpscan p inp = finishScan p (scanWidth p) (slashStep p (scanWidth p) (number (scanWidth p) p.base g0)) := by
  cases inp with
  | nil => exact absurd rfl hne
  | cons c0 rest0 =>
    exact ⟨{ chars := 1, c := some c0, rest := rest0, base := p.base },
      ⟨fun _ => ⟨scanWidth_pos p, rfl, rfl⟩, fun h => by simp at h⟩, rfl, rfl, rfl, rfl, gmpscan_cons p c0 rest0⟩

theorem rep_not_over (W : Nat) (g : GS) (rem : List Char) (h : Rep W g rem) (hc : g.chars ≤ W) : g.over = false := by
  cases ho : g.over with
  | false => rfl
  | true => have := (h.2 ho).1; omega

/-- `finishScan` on a reader state that stands at `tail` -/
theorem finishScan_eq (p : ScanParams) (W : Nat) (g : GS) (tail : List Char) (hrep : Rep W g tail) :
    finishScan p W (g, false) =
      { ret := if g.seenDigit = true then ((g.chars - 1 : Nat) : Int) else -1, rest := tail,
        val := if g.seenDigit = false ∨ p.ignore = true then .none
               else if p.type = 'Q' then (match setStrQ g.s p.base with | some (n, d) => .q n d | none => .none)
               else (match setStr g.s p.base with | some v => .z v | none => .none) } := by
  obtain ⟨h1, h2⟩ := rep_rest W g tail hrep
  unfold finishScan
  simp only [GResult.mk.injEq]
  refine ⟨by cases g.seenDigit <;> simp, ?_, by cases g.seenDigit <;> simp⟩
  by_cases hc : g.chars = W + 1
  · simp [hc, h2 hc]
  · obtain ⟨a, b⟩ := h1 hc
    simp only [ne_eq, hc, not_false_eq_true, if_true, a, b]
    cases tail <;> simp

theorem finishScan_ok (p : ScanParams) (W : Nat) (g : GS) (tail : List Char) (hrep : Rep W g tail) (hs : g.seenDigit = true) :
    finishScan p W (g, false) =
      { ret := ((g.chars - 1 : Nat) : Int), rest := tail,
        val := if p.ignore then .none
               else if p.type = 'Q' then (match setStrQ g.s p.base with | some (n, d) => .q n d | none => .none)
               else (match setStr g.s p.base with | some v => .z v | none => .none) } := by
  rw [finishScan_eq p W g tail hrep]; simp [hs]

theorem slashStep_none (p : ScanParams) (W : Nat) (g : GS) (tail : List Char) (hrep : Rep W g tail)
    (h : p.type ≠ 'Q' ∨ tail.head? ≠ some '/') : slashStep p W g = (g, false) := by
  unfold slashStep
  rw [if_neg]
  rintro ⟨h1, h2, h3⟩
  rcases h with h | h
  · exact h h2
  · have ho : g.over = false := by simpa using h1
    rw [(hrep.1 ho).2.1] at h3; exact h h3

theorem gmpscan_Z_fixed (p : ScanParams) (hty : p.type = 'Z') (hb : p.base ≠ 0) (inp : List Char) (hne : inp ≠ []) :
    gmpscan p inp =
      { ret := if (((inp.drop (signLen inp)).take (scanWidth p - signLen inp)).takeWhile (isDigitIn p.base)).isEmpty then -1
               else ((signLen inp + (((inp.drop (signLen inp)).take (scanWidth p - signLen inp)).takeWhile (isDigitIn p.base)).length : Nat) : Int),
        rest := inp.drop (signLen inp + (((inp.drop (signLen inp)).take (scanWidth p - signLen inp)).takeWhile (isDigitIn p.base)).length),
        val := if (((inp.drop (signLen inp)).take (scanWidth p - signLen inp)).takeWhile (isDigitIn p.base)).isEmpty ∨ p.ignore = true then .none
               else (setStr (signStore inp ++ ((inp.drop (signLen inp)).take (scanWidth p - signLen inp)).takeWhile (isDigitIn p.base)) p.base).elim
                 .none .z } := by
  obtain ⟨g0, hrep, ho, hc, hs, hbase, e⟩ := gmpscan_start p inp hne
  obtain ⟨n1, n2, n3, n4, n5⟩ := number_fixed (scanWidth p) p.base g0 inp hrep ho (by rw [hbase]; exact hb)
  have hq : p.type ≠ 'Q' := by rw [hty]; decide
  simp only [hc, hs, hbase, show scanWidth p + 1 - 1 = scanWidth p by omega, List.nil_append] at n1 n2 n3 n5
  rw [e, slashStep_none p _ _ _ n1 (Or.inl hq), finishScan_eq p _ _ _ n1, n2, n3, n5]
  generalize ((List.drop (signLen inp) inp).take (scanWidth p - signLen inp)).takeWhile (isDigitIn p.base) = ds
  cases hde : ds.isEmpty
  · simp [hq]
    refine ⟨by omega, ?_⟩
    split
    · rfl
    · cases setStr (signStore inp ++ ds) p.base <;> rfl
  · simp

/-! ### values: what mpz_set_str makes of the stored string, and the digits mpz_get_str writes -/

theorem isDigitIn_zero (b : Nat) : isDigitIn b '0' = true := by
  rw [isDigitIn_iff]; have : '0'.toNat = 48 := by decide
  omega

theorem setStr_digits (b : Nat) (hb : b = 8 ∨ b = 10 ∨ b = 16) (neg : Bool) (ds : List Char) (hne : ds ≠ [])
    (hall : ∀ c ∈ ds, isDigitIn b c = true) :
    setStr ((if neg then ['-'] else []) ++ ds) b = some (if neg then -(strVal b ds : Int) else (strVal b ds : Int)) :=
  setStr_signed_digits _ b (by omega) (by omega) ds hne fun c hc => isDigitIn_lt b hb c (hall c hc)

/-- the (base, upper-case) pairs the integer conversions use -/
def ConvBase (b : Nat) (u : Bool) : Prop := (b = 8 ∧ u = false) ∨ (b = 10 ∧ u = false) ∨ (b = 16)

theorem digitChar_isDigitIn : ∀ (u : Bool) (d : Nat), d < 16 → isDigitIn 16 (digitChar u d) = true ∧
    (d < 10 → isDigitIn 10 (digitChar false d) = true) ∧ (d < 8 → isDigitIn 8 (digitChar false d) = true) := by
  decide +kernel

theorem digitChar_props (b : Nat) (u : Bool) (h : ConvBase b u) :
    ∀ d, d < b → digitValue (digitChar u d) = d ∧ isDigitIn b (digitChar u d) = true := by
  intro d hd
  refine ⟨digitValue_digitChar u d (by rcases h with ⟨h, -⟩ | ⟨h, -⟩ | h <;> omega), ?_⟩
  rcases h with ⟨hb, hu⟩ | ⟨hb, hu⟩ | hb
  · subst hb hu; exact (digitChar_isDigitIn false d (by omega)).2.2 hd
  · subst hb hu; exact (digitChar_isDigitIn false d (by omega)).2.1 hd
  · subst hb; exact (digitChar_isDigitIn u d hd).1

theorem natDigits_props (b : Nat) (u : Bool) (h : ConvBase b u) (n : Nat) :
    strVal b (natDigits b u n) = n ∧ (∀ c ∈ natDigits b u n, isDigitIn b c = true) :=
  have hb : 2 ≤ b := by rcases h with ⟨h, -⟩ | ⟨h, -⟩ | h <;> omega
  ⟨natDigits_foldl hb (fun d hd => (digitChar_props b u h d hd).1) n,
   natDigits_forall hb (fun d hd => (digitChar_props b u h d hd).2) n⟩

theorem ConvBase_base (b : Nat) (u : Bool) (h : ConvBase b u) : b = 8 ∨ b = 10 ∨ b = 16 := by
  rcases h with ⟨hb, _⟩ | ⟨hb, _⟩ | hb <;> simp [hb]

theorem conv_ConvBase (conv : Conv) : ConvBase conv.base conv.upper := by
  cases conv <;> simp [ConvBase, Conv.base, Conv.upper]

/-! ### white space, longest runs -/

theorem skipWhite_spaces (a : Nat) (x : List Char) (hx : ∀ c, x.head? = some c → isSpace c = false) :
    skipWhite (List.replicate a ' ' ++ x) = (a, x) := by
  induction a with
  | zero =>
    cases x with
    | nil => rfl
    | cons c t => simp [skipWhite, hx c rfl]
  | succ a ih =>
    have : isSpace ' ' = true := by decide
    simp [List.replicate_succ, skipWhite, this, ih]

theorem takeWhile_stop {α : Type} (p : α → Bool) (A B : List α) (hA : ∀ c ∈ A, p c = true)
    (hB : ∀ c, B.head? = some c → p c = false) : (A ++ B).takeWhile p = A := by
  rw [List.takeWhile_append_of_pos hA]
  cases B with
  | nil => simp
  | cons c t => simp [hB c rfl]

/-! ### the shape of printed text -/

/-- what follows a printed number: the `/` of a rational or a blank of left adjustment, no digit of any base -/
theorem sep_not_digit (b : Nat) (hb : b = 8 ∨ b = 10 ∨ b = 16) (R : List Char)
    (hR : ∀ c, R.head? = some c → c = '/' ∨ c = ' ') : ∀ c, R.head? = some c → isDigitIn b c = false := by
  intro c hc
  rcases hR c hc with h | h <;> subst h <;> rcases hb with h | h | h <;> rw [h] <;> decide

theorem blank_sep (t : Nat) : ∀ c, (List.replicate t ' ').head? = some c → c = '/' ∨ c = ' ' := by
  intro c hc
  cases t with
  | zero => cases hc
  | succ j => exact Or.inr (Option.some.inj hc).symm

/-- `k` zeros and the printed digits (none for 0 with precision 0: then a zero must be there) are a number of the
    base, with the value printed -/
theorem zeros_digits (b : Nat) (u : Bool) (hcb : ConvBase b u) (mag k : Nat) (ds : List Char)
    (hds : ds = natDigits b u mag ∨ (mag = 0 ∧ ds = [])) (hk : ds = [] → 1 ≤ k) :
    (∀ c ∈ List.replicate k '0' ++ ds, isDigitIn b c = true) ∧ List.replicate k '0' ++ ds ≠ [] ∧
    strVal b (List.replicate k '0' ++ ds) = mag := by
  have hb := ConvBase_base _ _ hcb
  obtain ⟨hval, hdigs⟩ := natDigits_props b u hcb mag
  refine ⟨?_, ?_, ?_⟩
  · intro c hc
    rcases List.mem_append.mp hc with h | h
    · rw [(List.mem_replicate.mp h).2]; exact isDigitIn_zero b
    · rcases hds with hd | ⟨-, hd⟩ <;> rw [hd] at h
      · exact hdigs c h
      · cases h
  · intro h
    obtain ⟨h1, h2⟩ := List.append_eq_nil_iff.mp h
    have hk0 : k = 0 := by simpa using congrArg List.length h1
    have := hk h2
    omega
  · rw [strVal_zeros]
    rcases hds with hd | ⟨hm, hd⟩ <;> rw [hd]
    · exact hval
    · rw [hm]; rfl

theorem signed_natAbs (sg : List Char) (v : Int) (m : Nat) (hneg : sg = ['-'] ↔ v < 0) (hm : m = v.natAbs) :
    (if sg = ['-'] then -(m : Int) else (m : Int)) = v := by
  by_cases hv : v < 0
  · rw [if_pos (hneg.mpr hv)]; omega
  · rw [if_neg (fun h => hv (hneg.mp h))]; omega

/-! ### `__gmp_doscan` on the formats of the round trip -/

def valOuts : Scanned → List Out
  | .z v => [.z v]
  | .q n d => [.q n d]
  | .none => []

/-- the scan base of a conversion character (doscan.c:650-700) -/
def ConvChar (c : Char) (b : Nat) : Prop :=
  (c = 'd' ∧ b = 10) ∨ (c = 'u' ∧ b = 10) ∨ (c = 'i' ∧ b = 0) ∨ (c = 'o' ∧ b = 8) ∨ (c = 'x' ∧ b = 16) ∨ (c = 'X' ∧ b = 16)

/-- the scanf conversion that matches a printf conversion (`%Zi` prints decimal, so `d` reads it back) -/
def readConv : Conv → Char
  | .d => 'd' | .i => 'd' | .u => 'u' | .o => 'o' | .x => 'x' | .X => 'X'

theorem readConv_convChar (conv : Conv) : ConvChar (readConv conv) conv.base := by
  cases conv <;> simp [ConvChar, readConv, Conv.base]

theorem scanRun_pct (fs : List Char) (st : SS) : scanRun ('%' :: fs) .text st = scanRun fs (.spec {}) st := by
  rw [scanRun]; simp (decide := true)

theorem scanRun_type (T : Char) (hT : T = 'Z' ∨ T = 'Q') (fs : List Char) (sp : SP) (st : SS) (hn : sp.inNum = false) :
    scanRun (T :: fs) (.spec sp) st = scanRun fs (.spec { sp with p := { sp.p with type := T } }) st := by
  rcases hT with hT | hT <;> subst hT <;>
  · rw [scanRun]; simp (decide := true) [hn]

theorem scanRun_conv (c : Char) (b : Nat) (hc : ConvChar c b) (fs : List Char) (sp : SP) (st : SS) (hn : sp.inNum = false)
    (hT : sp.p.type = 'Z' ∨ sp.p.type = 'Q') :
    scanRun (c :: fs) (.spec sp) st =
      (match doNumeric { sp with p := { sp.p with base := b } } st with
       | .inl r => some r
       | .inr st => scanRun fs .text st) := by
  have hm : isMpirType sp.p.type = true := by rcases hT with h | h <;> rw [h] <;> decide
  have hF : ¬ sp.p.type = 'F' := by rcases hT with h | h <;> rw [h] <;> decide
  rcases hc with ⟨h1, h2⟩ | ⟨h1, h2⟩ | ⟨h1, h2⟩ | ⟨h1, h2⟩ | ⟨h1, h2⟩ | ⟨h1, h2⟩ <;> subst h1 h2 <;>
  · rw [scanRun]; simp (decide := true) [hn, hm, hF]; rfl

/-- the count `gmpscan` returns: −2 exactly at the end of the input, else −1 (invalid) or a number of characters -/
theorem gmpscan_ret (p : ScanParams) (i : List Char) :
    ((gmpscan p i).ret = -2 ∧ i = []) ∨ (i ≠ [] ∧ ((gmpscan p i).ret = -1 ∨ 0 ≤ (gmpscan p i).ret)) := by
  cases i with
  | nil => left; simp [gmpscan]
  | cons c t =>
    -- `ret` is −1 or a character count; the scanner itself stays folded
    have key : ∀ (q : Prop) [Decidable q] (k : Nat),
        (if q then (-1 : Int) else (k : Int)) = -1 ∨ 0 ≤ (if q then (-1 : Int) else (k : Int)) := by
      intro q _ k; split
      · exact Or.inl rfl
      · exact Or.inr (Int.natCast_nonneg k)
    exact Or.inr ⟨by simp, key _ _⟩

/-! ### what a digit character is not -/

theorem digit_not_special (b : Nat) (c : Char) (h : isDigitIn b c = true) :
    c ≠ '-' ∧ c ≠ '+' ∧ c ≠ '/' ∧ c ≠ 'x' ∧ c ≠ 'X' ∧ isSpace c = false := by
  rw [isDigitIn_iff] at h
  simp only [isSpace, ne_eq, ceq, Bool.or_eq_false_iff, decide_eq_false_iff_not]
  have : ' '.toNat = 32 ∧ '\t'.toNat = 9 ∧ '\n'.toNat = 10 ∧ '\x0b'.toNat = 11 ∧ '\x0c'.toNat = 12 ∧ '\r'.toNat = 13 ∧
    '-'.toNat = 45 ∧ '+'.toNat = 43 ∧ '/'.toNat = 47 ∧ 'x'.toNat = 120 ∧ 'X'.toNat = 88 := by decide
  omega

/-! ### base detection (`%Zi` / `%Qi`) -/

theorem rep_get' (W : Nat) (g : GS) (c : Char) (t : List Char) (h : Rep W g (c :: t)) (ho : g.over = false) (hW : g.chars + 1 ≤ W) :
    Rep W (g.get W) t ∧ (g.get W).chars = g.chars + 1 ∧ (g.get W).s = g.s ∧ (g.get W).base = g.base ∧
    (g.get W).seenDigit = g.seenDigit ∧ (g.get W).over = false := by
  obtain ⟨r1, r2, r3, r4, r5, r6⟩ := rep_get W g c t h ho
  refine ⟨r1, r2, r3, r4, r5, ?_⟩
  cases hov : (g.get W).over with
  | false => rfl
  | true => have := r6.mp hov; omega

theorem baseStep_unfold (W : Nat) (g : GS) (G1 : GS)
    (hG : G1 = ({ ({ g with base := 10 }.store '0') with seenDigit := true, base := 8 } : GS).get W) :
    baseStep W g =
      if g.c = some '0' then
        (if G1.over = true then G1 else
          if G1.c = some 'x' ∨ G1.c = some 'X' then
            (match G1.c with
             | some c => ({ (G1.store c) with base := 16, seenDigit := false } : GS).get W
             | none => G1)
          else G1)
      else { g with base := 10 } := by
  subst hG; rfl

theorem baseStep_hex (W : Nat) (g : GS) (x : Char) (t : List Char) (hx : x = 'x' ∨ x = 'X')
    (hrep : Rep W g ('0' :: x :: t)) (ho : g.over = false) (hW : g.chars + 2 ≤ W) :
    Rep W (baseStep W g) t ∧ (baseStep W g).s = g.s ++ ['0', x] ∧ (baseStep W g).chars = g.chars + 2 ∧
    (baseStep W g).base = 16 ∧ (baseStep W g).seenDigit = false ∧ (baseStep W g).over = false := by
  obtain ⟨-, hcc, -⟩ := hrep.1 ho
  simp only [List.head?_cons] at hcc
  have hrep0 : Rep W { ({ g with base := 10 }.store '0') with seenDigit := true, base := 8 } ('0' :: x :: t) := hrep
  obtain ⟨a1, a2, a3, a4, a5, a6⟩ := rep_get' W _ '0' (x :: t) hrep0 ho (by show g.chars + 1 ≤ W; omega)
  obtain ⟨-, acc, -⟩ := a1.1 a6
  simp only [List.head?_cons] at acc
  have e := baseStep_unfold W g _ rfl
  generalize ({ ({ g with base := 10 }.store '0') with seenDigit := true, base := 8 } : GS).get W = g1 at *
  have hrep1 : Rep W { (g1.store x) with base := 16, seenDigit := false } (x :: t) := a1
  obtain ⟨b1, b2, b3, b4, b5, b6⟩ := rep_get' W _ x t hrep1 a6 (by show g1.chars + 1 ≤ W; rw [a2]; show g.chars + 1 + 1 ≤ W; omega)
  have hxx : (x = 'x' ∨ x = 'X') := hx
  rw [e]
  simp only [hcc, if_true, a6, Bool.false_eq_true, if_false, acc, Option.some.injEq, hxx]
  refine ⟨b1, ?_, ?_, b4, b5, b6⟩
  · rw [b3]; show g1.s ++ [x] = _; rw [a3]; simp [GS.store]
  · rw [b2]; show g1.chars + 1 = _; rw [a2]; rfl

theorem baseStep_dec (W : Nat) (g : GS) (rem : List Char) (h0 : rem.head? ≠ some '0') (hrep : Rep W g rem) (ho : g.over = false) :
    baseStep W g = { g with base := 10 } := by
  obtain ⟨-, hcc, -⟩ := hrep.1 ho
  unfold baseStep
  simp only [hcc, h0, if_false]

/-! ### a `%Z` field with a fixed base -/

/-- the digits of a `%Z` field with a fixed base: cut the input at the width, drop an optional sign, take the LONGEST
    run of digits of the base -/
def fieldDigits (p : ScanParams) (inp : List Char) : List Char :=
  ((inp.take (scanWidth p)).drop (signLen inp)).takeWhile (isDigitIn p.base)

theorem gmpscan_fieldDigits (p : ScanParams) (hty : p.type = 'Z') (hb : p.base = 8 ∨ p.base = 10 ∨ p.base = 16)
    (inp : List Char) (hne : inp ≠ []) :
    (gmpscan p inp).rest = inp.drop (signLen inp + (fieldDigits p inp).length) ∧
    (fieldDigits p inp = [] → (gmpscan p inp).ret = -1 ∧ (gmpscan p inp).val = .none) ∧
    (fieldDigits p inp ≠ [] → (gmpscan p inp).ret = ((signLen inp + (fieldDigits p inp).length : Nat) : Int) ∧
      (gmpscan p inp).val = if p.ignore then .none
              else .z (if inp.head? = some '-' then -(strVal p.base (fieldDigits p inp) : Int)
                       else (strVal p.base (fieldDigits p inp) : Int))) := by
  have hb0 : p.base ≠ 0 := by omega
  have hr := gmpscan_Z_fixed p hty hb0 inp hne
  have hds : ((inp.drop (signLen inp)).take (scanWidth p - signLen inp)).takeWhile (isDigitIn p.base) = fieldDigits p inp := by
    unfold fieldDigits; rw [List.drop_take]
  rw [hds] at hr
  have hall : ∀ c ∈ fieldDigits p inp, isDigitIn p.base c = true := fun c hc => (mem_takeWhile _ c hc).1
  generalize fieldDigits p inp = ds at *
  refine ⟨by rw [hr], fun h => ?_, fun h => ?_⟩
  · rw [hr, h]; simp
  · have hemp : ds.isEmpty = false := by cases ds <;> simp_all
    have hst : signStore inp = (if (decide (inp.head? = some '-')) = true then ['-'] else []) := by
      cases inp with
      | nil => exact absurd rfl hne
      | cons c t => by_cases hc : c = '-' <;> simp [signStore, hc]
    rw [hr]
    simp only [hemp, Bool.false_eq_true, if_false, false_or, true_and, hst]
    rw [setStr_digits p.base hb _ ds h hall]
    by_cases hi : p.ignore = true
    · simp [hi]
    · simp [hi, Option.elim]

end Mpir.Scanf
