/- mpn_mulmod_2expm1 (mpn/generic/mulmod_2expm1.c): value-level arithmetic of the folding and of the CRT recombination,
   `Good`, and the basecase (the limb operations shared with the +1 basecase are at the end of FftRingSplit.lean). -/
import MpirProofs.Lemmas.FftRingSplit
import Mpir.Model.Mulmod2expm1
namespace Mpir.Mm1
open Mpir Mpir.Fft

/-- the product of `M` with a carry bit, in the form `omega` can split on -/
theorem bit_mul (M c : Nat) (hc : c ≤ 1) : c = 0 ∧ M * c = 0 ∨ c = 1 ∧ M * c = M := by
  rcases Nat.le_one_iff_eq_zero_or_eq_one.mp hc with rfl | rfl
  · exact Or.inl ⟨rfl, Nat.mul_zero M⟩
  · exact Or.inr ⟨rfl, Nat.mul_one M⟩

theorem bit_lt_B {c : Nat} (hc : c ≤ 1) : c < B := lt_of_le_of_lt hc (by rw [B_eq]; norm_num)

theorem divmod_of (x r q Q : Nat) (h : r + Q * q = x) (hr : r < Q) : x / Q = q ∧ x % Q = r :=
  (Nat.div_mod_unique (by omega)).mpr ⟨h, hr⟩

/-- the end-around carry -/
theorem fold_val (Q lo hi : Nat) (hQ : 2 ≤ Q) (hlo : lo < Q) (hhi : hi < Q) :
    (lo + hi) % Q + (lo + hi) / Q < Q ∧
    ((lo + hi) % Q + (lo + hi) / Q) % (Q - 1) = (lo + Q * hi) % (Q - 1) ∧
    ((lo + hi) % Q + (lo + hi) / Q = 0 ↔ lo + Q * hi = 0) := by
  have hdm := Nat.div_add_mod (lo + hi) Q
  have hr := Nat.mod_lt (lo + hi) (show 0 < Q by omega)
  have hd : (lo + hi) / Q ≤ 1 := Nat.le_of_lt_succ ((Nat.div_lt_iff_lt_mul (by omega)).mpr (by omega))
  have hQd := bit_mul Q _ hd
  generalize (lo + hi) / Q = d at *
  generalize (lo + hi) % Q = r at *
  -- `lo + Q·hi = (r + d) + (Q − 1)·(hi + d)`
  have hid : lo + Q * hi = (r + d) + (Q - 1) * (hi + d) := by
    obtain ⟨q, rfl⟩ : ∃ q, Q = q + 1 := ⟨Q - 1, by omega⟩
    rw [Nat.add_sub_cancel]
    rw [Nat.add_mul, Nat.one_mul] at hdm
    rw [Nat.add_mul, Nat.one_mul, Nat.mul_add]
    omega
  have h0 : hi = 0 → Q * hi = 0 := fun h => by rw [h, Nat.mul_zero]
  have h1 : hi ≤ Q * hi := Nat.le_mul_of_pos_left hi (by omega)
  refine ⟨by omega, by rw [hid, Nat.add_mul_mod_self_left], by omega⟩

/-- the CRT step of mulmod_2expm1.c:117-126 in numbers, `H = 2·H2`: `S` and `Dv ≤ H` are the residues of `P` modulo
    `H − 1` and `H + 1`, `(R1, R2)` what the recombination makes of them; `R1 + H·R2` rotated by one bit inside
    `2·log H` bits is the residue of `P` modulo `H² − 1`, zero only for `P = 0` -/
theorem crt_good (H2 S Dv P R1 R2 X : Nat) (hH : 1 ≤ H2)
    (hS : S % (2 * H2 - 1) = P % (2 * H2 - 1)) (hS0 : S = 0 ↔ P = 0)
    (hD : (Dv : Int) ≡ P [ZMOD (2 * H2 : Int) + 1]) (hDle : Dv ≤ 2 * H2)
    (hR1 : R1 < 2 * H2) (hR2 : R2 < 2 * H2) (hz : (R1 = 0 ∧ R2 = 0) ↔ (S = 0 ∧ Dv = 0))
    (hW : (R1 : Int) + (2 * H2 : Int) * R2 ≡ ((S : Int) + Dv) + (2 * H2 : Int) * ((S : Int) - Dv)
      [ZMOD (2 * H2 : Int) * (2 * H2) - 1])
    (hX : X = (R1 + 2 * H2 * R2) / 2 + (R1 + 2 * H2 * R2) % 2 * (2 * H2 * H2)) :
    X < 2 * H2 * (2 * H2) ∧ X % (2 * H2 * (2 * H2) - 1) = P % (2 * H2 * (2 * H2) - 1) ∧ (X = 0 ↔ P = 0) := by
  obtain ⟨W, hWd⟩ : ∃ W, W = R1 + 2 * H2 * R2 := ⟨_, rfl⟩
  rw [← hWd] at hX
  have hT : 0 < 2 * H2 * H2 := Nat.mul_pos (Nat.mul_pos two_pos hH) hH
  have hHH : 2 * H2 * (2 * H2) = 2 * (2 * H2 * H2) := Nat.mul_left_comm _ _ _
  -- `W < H²`, so the rotation stays below `H²` and is zero only for `W = 0`
  have hWlt : W < 2 * (2 * H2 * H2) := by
    have h1 : 2 * H2 * (R2 + 1) ≤ 2 * H2 * (2 * H2) := Nat.mul_le_mul_left _ hR2
    rw [Nat.mul_succ, hHH] at h1
    omega
  have hrot : X < 2 * (2 * H2 * H2) ∧ (X = 0 ↔ W = 0) := by
    rcases Nat.mod_two_eq_zero_or_one W with h | h <;> rw [hX, h] <;> omega
  refine ⟨by rw [hHH]; exact hrot.1, ?_, ?_⟩
  · have hN : ((2 * H2 * (2 * H2) - 1 : Nat) : Int) = 2 * H2 * (2 * H2) - 1 := by
      rw [Nat.cast_sub (Nat.mul_pos (Nat.mul_pos two_pos hH) (Nat.mul_pos two_pos hH))]; push_cast; rfl
    have hS' : (S : Int) ≡ P [ZMOD 2 * H2 - 1] := by
      have h := Int.natCast_modEq_iff.mpr (show S ≡ P [MOD (2 * H2 - 1)] from hS)
      rwa [Nat.cast_sub (by omega)] at h
    obtain ⟨a, ha⟩ := hS'.symm.dvd
    obtain ⟨d, hd⟩ := hD.symm.dvd
    obtain ⟨w, hw⟩ := hW.symm.dvd
    apply Int.natCast_modEq_iff.mp
    rw [hN]
    apply Int.ModEq.symm
    apply Int.modEq_of_dvd
    have hXi : (X : Int) = (W / 2 : Nat) + (W % 2 : Nat) * (2 * H2 * H2) := by rw [hX]; push_cast; rfl
    have hdm : (2 : Int) * (W / 2 : Nat) + (W % 2 : Nat) = R1 + 2 * H2 * R2 := by
      exact_mod_cast (Nat.div_add_mod W 2).trans hWd
    rw [hXi]
    generalize ((W / 2 : Nat) : Int) = q at *
    generalize ((W % 2 : Nat) : Int) = r at *
    -- with `X = q + r·T`, `T = H²/2`, `N = H² − 1 = 2·(T − 1) + 1`: the hypotheses give `2·(X − P) = N·F` for
    -- `F = r + w + a − d`, hence `X − P = N·((X − P) − (T − 1)·F)`
    refine ⟨q + r * (2 * H2 * H2) - P - (2 * H2 * H2 - 1) * (r + w + a - d), ?_⟩
    linear_combination (-(2 * (H2 : Int) * H2 - 1)) * (hdm + hw + (1 + 2 * (H2 : Int)) * ha + (1 - 2 * (H2 : Int)) * hd)
  · rw [hrot.2, hWd, Nat.add_eq_zero_iff, Nat.mul_eq_zero, or_iff_right (Nat.mul_pos two_pos hH).ne', hz]
    refine ⟨fun h0 => hS0.mp h0.1, fun hP => ⟨hS0.mpr hP, ?_⟩⟩
    -- `Dv ≤ H` is a multiple of `H + 1`
    have hdv : ((2 * H2 + 1 : Nat) : Int) ∣ Dv := by
      rw [hP] at hD; push_cast; exact Int.modEq_zero_iff_dvd.mp hD
    exact Nat.eq_zero_of_dvd_of_lt (Int.natCast_dvd_natCast.mp hdv) (Nat.lt_succ_of_le hDle)

/-- mulmod_2expm1.c:229-265 when `S1 − bor` does not borrow; a carry `c2` meets an even `S2` -/
theorem recomb_noborrow (H2 S Dv S1 c D1 bor S2 D2 c2 : Nat) (hS : S < 2 * H2) (hDv : Dv ≤ 2 * H2)
    (h1 : S1 + 2 * H2 * c = S + Dv) (h1b : S1 < 2 * H2) (hc : c ≤ 1)
    (h2 : D1 + Dv = S + 2 * H2 * bor) (h2b : D1 < 2 * H2) (hbor : bor ≤ 1)
    (h3 : S2 + bor = S1)
    (h4 : D2 + 2 * H2 * c2 = D1 + c) (hc2 : c2 ≤ 1) :
    (S2 + c2 < 2 * H2 ∧ (c2 = 1 → S2 % 2 = 0) ∧ ((S2 + c2 = 0 ∧ D2 = 0) ↔ (S = 0 ∧ Dv = 0))) ∧
    (((S2 + c2 : Nat) : Int) + (2 * H2 : Int) * D2 ≡ ((S : Int) + Dv) + (2 * H2 : Int) * ((S : Int) - Dv)
      [ZMOD (2 * H2 : Int) * (2 * H2) - 1]) := by
  constructor
  · -- the eight carry combinations, each linear
    rcases Nat.le_one_iff_eq_zero_or_eq_one.mp hc with rfl | rfl <;>
    rcases Nat.le_one_iff_eq_zero_or_eq_one.mp hbor with rfl | rfl <;>
    rcases Nat.le_one_iff_eq_zero_or_eq_one.mp hc2 with rfl | rfl <;>
    simp only [Nat.mul_zero, Nat.mul_one, Nat.add_zero] at h1 h2 h4 <;> omega
  · apply Int.ModEq.symm
    apply Int.modEq_of_dvd
    refine ⟨(bor : Int) - c2, ?_⟩
    have e1 : (S1 : Int) + 2 * H2 * c = S + Dv := by exact_mod_cast h1
    have e2 : (D1 : Int) + Dv = S + 2 * H2 * bor := by exact_mod_cast h2
    have e3 : (S2 : Int) + bor = S1 := by exact_mod_cast h3
    have e4 : (D2 : Int) + 2 * H2 * c2 = D1 + c := by exact_mod_cast h4
    push_cast
    linear_combination e3 + e1 + (2 * (H2 : Int)) * e4 + (2 * (H2 : Int)) * e2

/-- the same when `S1 − bor` borrows (then `S1 = 0` and `bor = c = 1`): the pair is `(S2, D1)` -/
theorem recomb_borrow (H2 S Dv S1 c D1 bor S2 : Nat)
    (h1 : S1 + 2 * H2 * c = S + Dv) (hc : c ≤ 1)
    (h2 : D1 + Dv = S + 2 * H2 * bor) (h2b : D1 < 2 * H2) (hbor : bor ≤ 1)
    (h3 : S2 + bor = S1 + 2 * H2) (h3b : S2 < 2 * H2) :
    ((S2 = 0 ∧ D1 = 0) ↔ (S = 0 ∧ Dv = 0)) ∧
    ((S2 : Int) + (2 * H2 : Int) * D1 ≡ ((S : Int) + Dv) + (2 * H2 : Int) * ((S : Int) - Dv)
      [ZMOD (2 * H2 : Int) * (2 * H2) - 1]) := by
  -- `S2 < H` forces `S1 = 0` and `bor = 1`; then `c = 0` would give `S = Dv = 0` and `D1 = H`
  have hb : bor = 1 := by omega
  subst hb
  have hc1 : c = 1 := by
    rcases Nat.le_one_iff_eq_zero_or_eq_one.mp hc with rfl | rfl
    · omega
    · rfl
  subst hc1
  rw [Nat.mul_one] at h1 h2
  refine ⟨by omega, ?_⟩
  apply Int.ModEq.symm
  apply Int.modEq_of_dvd
  refine ⟨1, ?_⟩
  have e1 : (S1 : Int) + 2 * H2 = S + Dv := by exact_mod_cast h1
  have e2 : (D1 : Int) + Dv = S + 2 * H2 := by exact_mod_cast h2
  have e3 : (S2 : Int) + 1 = S1 + 2 * H2 := by exact_mod_cast h3
  linear_combination e3 + e1 + (2 * (H2 : Int)) * e2

/-- what every level of mpn_mulmod_2expm1 delivers for the product `P`; a non-zero multiple of `2^b − 1` comes back as
    `2^b − 1` -/
def Good (b P : Nat) (r : List Nat × Bool) : Prop :=
  r.2 = true ∧ r.1.length = (b + 63) / 64 ∧ Limbs r.1 ∧ val r.1 < 2 ^ b ∧
  val r.1 % (2 ^ b - 1) = P % (2 ^ b - 1) ∧ (val r.1 = 0 ↔ P = 0)

/-- "only 0 has two representations": a residue `x ≤ M` that is zero only for `P = 0` is determined by `P` -/
theorem rep_unique (M x P : Nat) (hx : x ≤ M) (hm : x % M = P % M) (h0 : x = 0 ↔ P = 0) :
    (P % M = 0 → P ≠ 0 → x = M) ∧ (P < M → x = P) := by
  rcases Nat.lt_or_ge x M with hlt | hge
  · rw [Nat.mod_eq_of_lt hlt] at hm
    exact ⟨fun hz hne => absurd (h0.mp (hm.trans hz)) hne, fun hP => by rw [hm, Nat.mod_eq_of_lt hP]⟩
  · have hxM : x = M := by omega
    refine ⟨fun _ _ => hxM, fun hP => ?_⟩
    rw [hxM, Nat.mod_self, Nat.mod_eq_of_lt hP] at hm
    have := h0.mpr hm.symm
    omega

theorem two_le_two_pow (b : Nat) (hb : 1 ≤ b) : 2 ≤ 2 ^ b := by
  calc 2 = 2 ^ 1 := rfl
    _ ≤ 2 ^ b := Nat.pow_le_pow_right (by norm_num) hb

/-- the end of both paths of the basecase (mulmod_2expm1.c:66, :88-90) -/
theorem fold_limbs (X : List Nat) (n b P : Nat) (hb : 1 ≤ b) (hX : Limbs X) (hl : X.length = n) (hn : 1 ≤ n)
    (hbn : 2 ^ b ≤ B ^ n) (hP : P < 2 ^ b * 2 ^ b) (hv : val X = (P % 2 ^ b + P / 2 ^ b) % 2 ^ b) :
    (add_1 X ((P % 2 ^ b + P / 2 ^ b) / 2 ^ b)).2 = 0 ∧ (add_1 X ((P % 2 ^ b + P / 2 ^ b) / 2 ^ b)).1.length = n ∧
    Limbs (add_1 X ((P % 2 ^ b + P / 2 ^ b) / 2 ^ b)).1 ∧ val (add_1 X ((P % 2 ^ b + P / 2 ^ b) / 2 ^ b)).1 < 2 ^ b ∧
    val (add_1 X ((P % 2 ^ b + P / 2 ^ b) / 2 ^ b)).1 % (2 ^ b - 1) = P % (2 ^ b - 1) ∧
    (val (add_1 X ((P % 2 ^ b + P / 2 ^ b) / 2 ^ b)).1 = 0 ↔ P = 0) := by
  have hQ := two_le_two_pow b hb
  have hlo : P % 2 ^ b < 2 ^ b := Nat.mod_lt _ (by omega)
  have hhi : P / 2 ^ b < 2 ^ b := (Nat.div_lt_iff_lt_mul (by omega)).mpr hP
  obtain ⟨f1, f2, f3⟩ := fold_val (2 ^ b) (P % 2 ^ b) (P / 2 ^ b) hQ hlo hhi
  have hc : (P % 2 ^ b + P / 2 ^ b) / 2 ^ b < 2 := (Nat.div_lt_iff_lt_mul (by omega)).mpr (by omega)
  rw [Nat.mod_add_div] at f2 f3
  rw [← hv] at f1 f2 f3
  generalize (P % 2 ^ b + P / 2 ^ b) / 2 ^ b = c at *
  obtain ⟨r1, _, r3, r4⟩ := add_1_val' X c hX (by omega) (bit_lt_B (Nat.le_of_lt_succ hc))
  rw [hl] at r1 r4
  obtain ⟨hr0, r1⟩ := carry_zero r1 (lt_of_lt_of_le f1 hbn)
  rw [r1]
  exact ⟨hr0, r4, r3, f1, f2, f3⟩

theorem halves_spec (tp : List Nat) (n : Nat) (hL : Limbs tp) (hl : tp.length = 2 * n) :
    (val (tp.take n) = val tp % B ^ n ∧ (tp.take n).length = n ∧ Limbs (tp.take n)) ∧
    (val (tp.drop n) = val tp / B ^ n ∧ (tp.drop n).length = n ∧ Limbs (tp.drop n)) := by
  have t1 := val_take_eq_mod tp hL n
  have t2 := val_drop_eq_div tp hL n
  exact ⟨⟨t1, by rw [List.length_take]; omega, Limbs_take hL n⟩, t2, by rw [List.length_drop]; omega, Limbs_drop hL n⟩

theorem size_whole (n : Nat) : (64 * n + 63) / 64 = n := by omega

theorem basecase_whole (yp zp : List Nat) (n : Nat) :
    basecase yp zp (64 * n) =
      let tp := toLimbs (2 * n) (val yp * val zp)
      let a := add_n (tp.take n) (tp.drop n)
      ((add_1 a.1 a.2).1, (add_1 a.1 a.2).2 == 0) := by
  unfold basecase
  simp only [size_whole, Nat.sub_self, ↓reduceIte]

theorem basecase_masked (yp zp : List Nat) (n k : Nat) (hn : 1 ≤ n) (hk1 : 1 ≤ k) (hk : k ≤ 63) :
    basecase yp zp (64 * n - k) =
      let tp := toLimbs (2 * n) (val yp * val zp)
      let sh := lshift (tp.drop n) k
      let hi := setAt sh.1 0 (sh.1.getD 0 0 ||| (tp.getD (n - 1) 0 >>> (64 - k)))
      let a := add_n (maskK (tp.take n) n k) hi
      let r := add_1 (maskK a.1 n k) (a.1.getD (n - 1) 0 >>> (64 - k))
      (r.1, (a.2 + sh.2 == 0) && r.2 == 0) := by
  obtain ⟨_, g2, g3⟩ := maskK_take (toLimbs (2 * n) (val yp * val zp)) n k hn
    (by rw [toLimbs_length]; omega)
  unfold basecase
  simp only [(size_facts_k n k hn hk).1, (size_facts_k n k hn hk).2, show k ≠ 0 by omega, ↓reduceIte, g2, g3]

theorem basecase_spec_whole (yp zp : List Nat) (n : Nat) (hn : 1 ≤ n) (hyb : val yp < 2 ^ (64 * n))
    (hzb : val zp < 2 ^ (64 * n)) : Good (64 * n) (val yp * val zp) (basecase yp zp (64 * n)) := by
  have hPQ : val yp * val zp < 2 ^ (64 * n) * 2 ^ (64 * n) := Nat.mul_lt_mul'' hyb hzb
  have hBn := B_pow n
  obtain ⟨tv, tl, tL⟩ := toLimbs_sq n _ _ (le_of_eq hBn.symm) hPQ
  rw [basecase_whole]
  simp only []
  generalize toLimbs (2 * n) (val yp * val zp) = tp at *
  rw [← tv] at hPQ ⊢
  clear tv hyb hzb
  obtain ⟨⟨t1, t2, t3⟩, u1, u2, u3⟩ := halves_spec tp n tL tl
  obtain ⟨a1, _, a3, a4⟩ := add_n_val' (tp.take n) (tp.drop n) t3 u3 (by rw [t2, u2])
  rw [t1, u1, t2, hBn] at a1
  rw [t2] at a4
  generalize add_n (tp.take n) (tp.drop n) = a at *
  obtain ⟨g1, g2⟩ := divmod_of _ _ _ _ a1 (by rw [← hBn, ← a4]; exact val_lt a.1 a3)
  obtain ⟨r0, r1, r2, r3, r4, r5⟩ := fold_limbs a.1 n (64 * n) (val tp) (by omega) a3 a4 hn (le_of_eq hBn.symm) hPQ g2.symm
  rw [g1] at r0 r1 r2 r3 r4 r5
  exact ⟨by simp [r0], by rw [r1, size_whole], r2, r3, r4, r5⟩

theorem basecase_spec_masked (yp zp : List Nat) (n k : Nat) (hn : 1 ≤ n) (hk1 : 1 ≤ k) (hk : k ≤ 63)
    (hyb : val yp < 2 ^ (64 * n - k)) (hzb : val zp < 2 ^ (64 * n - k)) :
    Good (64 * n - k) (val yp * val zp) (basecase yp zp (64 * n - k)) := by
  have hPQ : val yp * val zp < 2 ^ (64 * n - k) * 2 ^ (64 * n - k) := Nat.mul_lt_mul'' hyb hzb
  have hBn := Bn_eq n k hn hk
  have h2Q : 2 ^ (64 * n - k) * 2 ≤ B ^ n := by rw [hBn]; exact Nat.mul_le_mul_left _ (two_le_two_pow k hk1)
  have hQB : 2 ^ (64 * n - k) ≤ B ^ n := le_trans (Nat.le_mul_of_pos_right _ two_pos) h2Q
  obtain ⟨tv, tl, tL⟩ := toLimbs_sq n _ _ hQB hPQ
  rw [basecase_masked yp zp n k hn hk1 hk]
  simp only []
  generalize toLimbs (2 * n) (val yp * val zp) = tp at *
  rw [← tv] at hPQ ⊢
  clear tv hyb hzb
  obtain ⟨l1, l2, l3⟩ := split_lo_k tp n k hn hk tL (by omega)
  obtain ⟨s0, h1, h2, h3⟩ := prod_hi tp n k hn hk1 hk tL tl hPQ
  generalize lshift (tp.drop n) k = sh at *
  generalize setAt sh.1 0 (sh.1.getD 0 0 ||| (tp.getD (n - 1) 0 >>> (64 - k))) = hi at *
  generalize maskK (tp.take n) n k = lo at *
  obtain ⟨a1, _, a3, a4⟩ := add_n_val' lo hi l3 h3 (by rw [l2, h2])
  rw [l2, l1, h1] at a1
  rw [l2] at a4
  generalize add_n lo hi = a at *
  -- the sum of the halves is below `2·2^b ≤ B^n`
  obtain ⟨ha0, a1⟩ := carry_zero a1 (by
    have := Nat.mod_lt (val tp) (Nat.two_pow_pos (64 * n - k))
    have := (Nat.div_lt_iff_lt_mul (Nat.two_pow_pos (64 * n - k))).mpr hPQ
    omega)
  obtain ⟨m1, m2, m3⟩ := maskK_spec a.1 n k a3 a4 hn (by omega)
  rw [top_shr a.1 n k a3 a4 hn hk, a1]
  rw [a1] at m1
  obtain ⟨r0, r1, r2, r3, r4, r5⟩ := fold_limbs (maskK a.1 n k) n (64 * n - k) (val tp) (by omega) m3 m2 hn hQB hPQ m1
  refine ⟨?_, by rw [r1, (size_facts_k n k hn hk).1], r2, r3, r4, r5⟩
  show ((a.2 + sh.2 == 0) && (add_1 (maskK a.1 n k) _).2 == 0) = true
  rw [r0, ha0, s0]
  rfl

theorem size_cases (b : Nat) (hb : 1 ≤ b) :
    (∃ n, 1 ≤ n ∧ b = 64 * n) ∨ (∃ n k, 1 ≤ n ∧ 1 ≤ k ∧ k ≤ 63 ∧ b = 64 * n - k) := by
  have h1 := Nat.div_add_mod (b + 63) 64
  have h2 := Nat.mod_lt (b + 63) (show 0 < 64 by norm_num)
  generalize (b + 63) / 64 = n at h1
  generalize (b + 63) % 64 = r at h1 h2
  by_cases hr : r = 63
  · exact Or.inl ⟨n, by omega, by omega⟩
  · exact Or.inr ⟨n, 63 - r, by omega, by omega, by omega, by omega⟩

theorem basecase_spec (yp zp : List Nat) (b : Nat) (hb : 1 ≤ b)
    (hyb : val yp < 2 ^ b) (hzb : val zp < 2 ^ b) : Good b (val yp * val zp) (basecase yp zp b) := by
  rcases size_cases b hb with ⟨n, hn, rfl⟩ | ⟨n, k, hn, hk1, hk, rfl⟩
  · exact basecase_spec_whole yp zp n hn hyb hzb
  · exact basecase_spec_masked yp zp n k hn hk1 hk hyb hzb
end Mpir.Mm1
