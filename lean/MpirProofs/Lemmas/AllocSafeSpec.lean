/- Value identities and well-formedness of the list-level results `Spec.com`, `Spec.tdiv_q_2exp`
   (Mpir/Model/AllocSafeMpz.lean), and the facts about a right shift by `cnt` bits they share with `Spec.cfdiv_q_2exp`. -/
import MpirProofs.Lemmas.AllocSafe
import MpirProofs.Lemmas.DivZ
import Mathlib.Tactic.Ring
import Mathlib.Tactic.Linarith
namespace Mpir.AllocSafe
open Mpir
open Mpir.Mpz (sgn Norm natAbs_sgn WF toInt mk_spec grow_alloc WF_iff)

theorem Spec.com_spec (w u : Mpz.Mpz) (hu : WF u) :
    WF (Spec.com w u) ∧ toInt (Spec.com w u) = -toInt u - 1 := by
  obtain ⟨_, _, hul, hun⟩ := (WF_iff u).mp hu
  rw [Mpz.toInt_eq u]
  unfold Spec.com
  dsimp only
  by_cases hpos : u.size ≥ 0
  · rw [if_pos hpos]
    obtain ⟨ga1, ga2⟩ := grow_alloc w (u.size.natAbs + 1)
    have hns : ¬ u.size < 0 := by omega
    by_cases h0 : (u.size.natAbs == 0) = true
    · rw [if_pos h0]
      have h0' : u.size = 0 := by simpa using h0
      have hd : u.d = [] := List.length_eq_zero_iff.mp (by rw [hul, h0']; rfl)
      obtain ⟨wf, ti⟩ := mk_spec (Mpz.grow w (u.size.natAbs + 1)).alloc 1 true [1] rfl
        ⟨Limbs_cons.mpr ⟨by unfold B; omega, Limbs_nil⟩, by simp⟩ (by omega) (by omega)
      refine ⟨wf, ?_⟩
      rw [ti, hd]; simp [Mpz.sval, h0']
    · rw [if_neg h0]
      have hn0 : u.size.natAbs ≠ 0 := by simpa using h0
      have hne : u.d ≠ [] := by intro h; rw [h] at hul; simp at hul; omega
      obtain ⟨av, ac, al, an⟩ := add_1_val' u.d 1 hun.1 (List.length_pos_iff.mpr hne) (by unfold B; omega)
      have hlow := hun.lower hne
      rw [hul] at av an hlow
      by_cases hcy : (Mpir.add_1 u.d 1).2 = 0
      · have hcy' : ((Mpir.add_1 u.d 1).2 != 0) = false := by simp [hcy]
        rw [hcy'] ; simp only [Bool.false_eq_true, if_false]
        rw [hcy] at av
        obtain ⟨wf, ti⟩ := mk_spec (Mpz.grow w (u.size.natAbs + 1)).alloc u.size.natAbs true _ an
          (Norm.of_lower al (Or.inr (by rw [an]; omega))) (by omega) (by omega)
        refine ⟨wf, ?_⟩
        rw [ti]; simp only [Mpz.sval, hns, if_false, if_true]; omega
      · have hcy' : ((Mpir.add_1 u.d 1).2 != 0) = true := by simp [hcy]
        rw [hcy']; simp only [if_true]
        have h1 : (Mpir.add_1 u.d 1).2 = 1 := by omega
        rw [h1] at av ⊢
        obtain ⟨wf, ti⟩ := mk_spec (Mpz.grow w (u.size.natAbs + 1)).alloc (u.size.natAbs + 1) true
          ((Mpir.add_1 u.d 1).1 ++ [1]) (by simp [an])
          ⟨Limbs_append.mpr ⟨al, Limbs_cons.mpr ⟨by unfold B; omega, Limbs_nil⟩⟩, by simp⟩ (by omega) (by omega)
        refine ⟨wf, ?_⟩
        have key : val ((Mpir.add_1 u.d 1).1 ++ [1]) = val u.d + 1 := by
          rw [val_append, an]; simp only [val_cons, val_nil]; omega
        rw [ti, key]; simp only [Mpz.sval, hns, if_false, if_true]
        omega
  · rw [if_neg hpos]
    have hs : u.size < 0 := by omega
    obtain ⟨ga1, ga2⟩ := grow_alloc w u.size.natAbs
    have hne : u.d ≠ [] := by intro h; rw [h] at hul; simp at hul; omega
    have hvpos := hun.pos hne
    obtain ⟨wf, ti⟩ := (hul ▸ Mpz.sub_1_strip u.d 1 hun hne (by unfold B; omega) hvpos).obj
      (Mpz.grow w u.size.natAbs).alloc false (by split_ifs <;> omega) (by omega)
    refine ⟨wf, ?_⟩
    rw [ti, Mpz.sgn_false]; simp only [Mpz.sval, hs, if_true]; omega

theorem Norm_drop {d : List Nat} (hd : Norm d) (k : Nat) (hk : k < d.length) : Norm (d.drop k) := by
  refine ⟨Limbs_drop hd.1 k, ?_⟩
  rw [List.getLast?_drop]
  have : ¬ d.length ≤ k := by omega
  simp only [this, if_false]; exact hd.2

theorem val_lt_two_pow {d : List Nat} (hd : Limbs d) {cnt : Nat} (hle : d.length ≤ cnt / 64) : val d < 2 ^ cnt :=
  DivZ.lt_two_pow_of_size (Nat.le_trans ((DivZ.sizeNat_le_iff _ _).mpr (val_lt d hd)) hle)

/-- `mpn_rshift` by 0 < c < 64 followed by `n -= (top limb == 0)` -/
theorem rshift_strip (D : List Nat) (c : Nat) (hD : Norm D) (hne : D ≠ []) (hc0 : c ≠ 0) (hc : c < 64) :
    Norm ((Mpir.rshift D c).1.take (D.length - (if Mpz.topLimb (Mpir.rshift D c).1 == 0 then 1 else 0))) ∧
    val ((Mpir.rshift D c).1.take (D.length - (if Mpz.topLimb (Mpir.rshift D c).1 == 0 then 1 else 0))) = val D / 2 ^ c ∧
    ((Mpir.rshift D c).1.take (D.length - (if Mpz.topLimb (Mpir.rshift D c).1 == 0 then 1 else 0))).length =
      D.length - (if Mpz.topLimb (Mpir.rshift D c).1 == 0 then 1 else 0) ∧
    (Mpir.rshift D c).1.length = D.length ∧ Limbs (Mpir.rshift D c).1 ∧
    (((Mpir.rshift D c).2 != 0) = true ↔ val D % 2 ^ c ≠ 0) ∧
    Mpz.topLimb (Mpir.rshift D c).1 = (Mpir.rshift D c).1.getD (D.length - 1) 0 := by
  obtain ⟨x, xs, rfl⟩ : ∃ x xs, D = x :: xs := by
    cases D with
    | nil => exact absurd rfl hne
    | cons x xs => exact ⟨x, xs, rfl⟩
  obtain ⟨_, _, rl, rn, rv, rout⟩ := Mpir.rshift_val' (x :: xs) c hD.1 (Nat.succ_pos _) (by omega) (by omega)
  have hlow := hD.lower hne
  have htop := Mpz.topLimb_eq_getD _ _ rn (Nat.succ_pos _)
  generalize (x :: xs).length = n at *
  generalize val (x :: xs) = V at *
  have h2c : 2 ^ c ≤ B := by unfold B; exact Nat.pow_le_pow_right (by omega) (by omega)
  -- the shifted vector is at least B^(n-2): at most one top limb vanishes
  have hstrip : n ≤ 1 ∨ B ^ (n - 2) ≤ val (Mpir.rshift (x :: xs) c).1 := by
    by_cases h2 : n ≤ 1
    · exact Or.inl h2
    · right
      rw [rv, Nat.le_div_iff_mul_le (by positivity)]
      calc B ^ (n - 2) * 2 ^ c ≤ B ^ (n - 2) * B := Nat.mul_le_mul_left _ h2c
        _ = B ^ (n - 1) := by rw [← pow_succ]; congr 1; omega
        _ ≤ V := hlow
  obtain ⟨tv, tl, tn⟩ := Mpz.strip_top _ n rn rl hstrip
  refine ⟨tn, by rw [tv, rv], tl, rn, rl, ?_, htop⟩
  rw [rout]
  have hp : 0 < 2 ^ (64 - c) := by positivity
  simp only [bne_iff_ne, ne_eq, Nat.mul_eq_zero]
  omega

theorem sval_tdiv (s : Int) (a b q : Nat) (h : q = a / b) :
    (if s < 0 then -(q : Int) else (q : Int)) = Int.tdiv (if s < 0 then -(a : Int) else (a : Int)) (b : Int) := by
  subst h
  split
  · rw [Int.neg_tdiv]; congr 1
  · rfl

theorem Spec.tdiv_q_2exp_spec (w u : Mpz.Mpz) (cnt : Nat) (hw : 1 ≤ w.alloc) (hu : WF u) :
    WF (Spec.tdiv_q_2exp w u cnt) ∧ toInt (Spec.tdiv_q_2exp w u cnt) = Int.tdiv (toInt u) (2 ^ cnt) := by
  obtain ⟨_, _, hul, hun⟩ := (WF_iff u).mp hu
  have hpow : ((2 : Int) ^ cnt) = (((2 : Nat) ^ cnt : Nat) : Int) := by push_cast; rfl
  rw [Mpz.toInt_eq u, hpow]
  unfold Spec.tdiv_q_2exp Mpz.sval
  dsimp only
  by_cases hle : u.size.natAbs ≤ cnt / 64
  · rw [if_pos hle]
    refine ⟨(Mpz.WF_zero w hw).1, ?_⟩
    rw [← sval_tdiv u.size (val u.d) (2 ^ cnt) 0 (by rw [Nat.div_eq_of_lt (val_lt_two_pow hun.1 (by omega))])]
    simp [toInt]
  · rw [if_neg hle]
    obtain ⟨ga1, ga2⟩ := grow_alloc w (u.size.natAbs - cnt / 64)
    have hND := Norm_drop hun (cnt / 64) (by omega)
    have hdl : (u.d.drop (cnt / 64)).length = u.size.natAbs - cnt / 64 := by simp; omega
    have hvd := val_drop_eq_div u.d hun.1 (cnt / 64)
    have hne : u.d.drop (cnt / 64) ≠ [] := by intro h; rw [h] at hdl; simp at hdl; omega
    -- both arms: a normalised magnitude `T` of the right value and length
    have fin : ∀ (n : Nat) (T : List Nat), T.length = n → Norm T → n ≤ u.size.natAbs - cnt / 64 → val T = val u.d / 2 ^ cnt →
        WF ⟨(Mpz.grow w (u.size.natAbs - cnt / 64)).alloc, sgn (decide (u.size < 0)) n, T⟩ ∧
        toInt ⟨(Mpz.grow w (u.size.natAbs - cnt / 64)).alloc, sgn (decide (u.size < 0)) n, T⟩ =
          Int.tdiv (if u.size < 0 then -(val u.d : Int) else (val u.d : Int)) ((2 ^ cnt : Nat) : Int) := by
      intro n T hTl hT hn hv
      obtain ⟨wf, ti⟩ := mk_spec (Mpz.grow w (u.size.natAbs - cnt / 64)).alloc n (decide (u.size < 0)) T hTl hT
        (by omega) (by omega)
      refine ⟨wf, ?_⟩
      rw [ti, ← sval_tdiv u.size (val u.d) (2 ^ cnt) (val T) hv]; simp
    by_cases h0 : cnt % 64 = 0
    · have h0' : (cnt % 64 != 0) = false := by simp [h0]
      rw [h0']; simp only [Bool.false_eq_true, if_false]
      exact fin _ _ hdl hND (Nat.le_refl _) (by rw [hvd, two_pow_split cnt, h0]; simp)
    · have h0' : (cnt % 64 != 0) = true := by simp [h0]
      rw [h0']; simp only [if_true]
      obtain ⟨tn, tv, tl, _⟩ := rshift_strip _ (cnt % 64) hND hne h0 (Nat.mod_lt _ (by omega))
      rw [hdl] at tn tv tl
      exact fin _ _ tl tn (by omega) (by rw [tv, hvd, two_pow_split cnt, Nat.div_div_eq_div_mul])

end Mpir.AllocSafe
