/- mpf_set_str's conversion (Mpir/Model/MpfStr.lean).  When the numbers involved fit in p = 64·(prec-1) bits, nothing but zero
   limbs is ever dropped; in general, from accumulated truncation factors to the property's bound 2^(2-p).  The branches
   without a division (convInt, convMul). -/

import MpirProofs.Lemmas.MpfStr
import Mathlib.Data.Nat.Factorization.Basic

namespace Mpir.MpfStr
open Mpir Mpir.Mpf

/-- `Fits` in natural numbers.  Only the squaring loop needs this form: a factor of a number that fits, fits
    (`fitsN_of_mul`). -/
def FitsN (N : ℕ) (p : ℕ) : Prop := ∃ m j : ℕ, N = m * 2 ^ j ∧ m < 2 ^ p

theorem FitsN.fits {N p : ℕ} (h : FitsN N p) : Fits (N : ℚ) p := by
  obtain ⟨m, j, hm, hp⟩ := h
  exact ⟨m, j, by rw [hm, zpow_natCast]; push_cast; ring, by rw [abs_of_nonneg (by positivity)]; exact_mod_cast hp⟩

theorem fitsN_of_fits {N p : ℕ} (h : Fits (N : ℚ) p) : FitsN N p := by
  obtain ⟨m, k, hm, hp⟩ := h
  have hp' : m.natAbs < 2 ^ p := by
    have : (m.natAbs : ℤ) < 2 ^ p := by rw [Int.natCast_natAbs]; exact hp
    exact_mod_cast this
  rcases le_or_gt 0 k with hk | hk
  · obtain ⟨j, rfl⟩ : ∃ j : ℕ, k = j := ⟨k.toNat, by omega⟩
    rw [zpow_natCast] at hm
    have hz : (N : ℤ) = m * 2 ^ j := by exact_mod_cast hm
    have := congrArg Int.natAbs hz
    exact ⟨m.natAbs, j, by simpa [Int.natAbs_mul, Int.natAbs_pow] using this, hp'⟩
  · obtain ⟨j, rfl⟩ : ∃ j : ℕ, k = -(j : ℤ) := ⟨(-k).toNat, by omega⟩
    rw [zpow_neg, zpow_natCast] at hm
    have hz : (N : ℤ) * 2 ^ j = m := by
      have : (N : ℚ) * 2 ^ j = m := by rw [hm]; field_simp
      exact_mod_cast this
    have := congrArg Int.natAbs hz
    have hn : N * 2 ^ j = m.natAbs := by simpa [Int.natAbs_mul, Int.natAbs_pow] using this
    have : N ≤ N * 2 ^ j := Nat.le_mul_of_pos_right _ (Nat.two_pow_pos _)
    exact ⟨N, 0, by simp, by omega⟩

theorem fitsN_of_mul {x y p : ℕ} (h : FitsN (x * y) p) (hne : x * y ≠ 0) : FitsN x p := by
  obtain ⟨m, j, hm, hmp⟩ := h
  have hx : x ≠ 0 := left_ne_zero_of_mul hne
  obtain ⟨k, x', hodd, hxx⟩ := Nat.exists_eq_two_pow_mul_odd hx
  refine ⟨x', k, by rw [hxx]; ring, ?_⟩
  have hdvd : x' ∣ m * 2 ^ j := by
    rw [← hm, hxx]; exact ⟨2 ^ k * y, by ring⟩
  have hcop : Nat.Coprime x' (2 ^ j) := (Nat.coprime_two_right.mpr hodd).pow_right j
  have hd : x' ∣ m := hcop.dvd_of_dvd_mul_right hdvd
  have hm0 : m ≠ 0 := by
    intro h0; rw [h0, Nat.zero_mul] at hm; exact hne hm
  exact lt_of_le_of_lt (Nat.le_of_dvd (Nat.pos_of_ne_zero hm0) hd) hmp

theorem fitsN_of_mul_Bpow {N k p : ℕ} (h : FitsN (N * B ^ k) p) : FitsN N p := by
  rcases Nat.eq_zero_or_pos N with rfl | hN
  · exact ⟨0, 0, by simp, Nat.two_pow_pos p⟩
  · exact fitsN_of_mul h (Nat.mul_ne_zero hN.ne' (Bpow_pos k).ne')

theorem keepTop_exact_shift (prec : ℕ) (hp : 1 ≤ prec) {x n v : ℕ} (hv : v ≠ 0) (h : x * B ^ n = v)
    (hf : FitsN v (PREC_TO_BITS prec)) :
    (keepTop (prec + 1) x).1 * B ^ (n + (keepTop (prec + 1) x).2) = v := by
  have hx : x ≠ 0 := by rintro rfl; rw [zero_mul] at h; exact hv h.symm
  rw [pow_add, mul_comm (_ ^ _) (_ ^ _), ← mul_assoc,
    keepTop_exact prec hp hx (fitsN_of_mul_Bpow (k := n) (h ▸ hf)).fits, h]

theorem powStep_exact (b prec : ℕ) (hp : 1 ≤ prec) {st : ℕ × ℕ} {v : ℕ} (bit : Bool) (hv : v ≠ 0)
    (h : st.1 * B ^ st.2 = v) (hfit : FitsN (v * v) (PREC_TO_BITS prec)) :
    (powStep b (prec + 1) st bit).1 * B ^ (powStep b (prec + 1) st bit).2 = v * v * (if bit then b else 1) := by
  have hk := keepTop_exact_shift prec hp (Nat.mul_ne_zero hv hv) (x := st.1 * st.1) (n := 2 * st.2)
    (by rw [← h, two_mul, pow_add]; ring) hfit
  unfold powStep
  cases bit
  · simpa using hk
  · simp only [↓reduceIte]; rw [mul_right_comm, hk]

theorem powLoop_exact (b prec e : ℕ) (hp : 1 ≤ prec) (hb : 1 ≤ b) (hfit : FitsN (b ^ e) (PREC_TO_BITS prec)) :
    ∀ k : ℕ, 1 ≤ k → k ≤ e →
      (powLoop b (prec + 1) k).1 * B ^ (powLoop b (prec + 1) k).2 = b ^ k := by
  refine powLoop_induction b (prec + 1) (C := fun k st => k ≤ e → st.1 * B ^ st.2 = b ^ k) ?_ ?_
  · intro _; simp
  · intro k st hk ih hke
    have hsplit : b ^ e = b ^ (k / 2) * b ^ (k / 2) * b ^ (e - 2 * (k / 2)) := by
      rw [← pow_add, ← pow_add]; congr 1; omega
    have hfit2 : FitsN (b ^ (k / 2) * b ^ (k / 2)) (PREC_TO_BITS prec) :=
      fitsN_of_mul (hsplit ▸ hfit) (hsplit ▸ pow_ne_zero e (by omega))
    rw [powStep_exact b prec hp _ (pow_ne_zero _ (by omega)) (ih (by omega)) hfit2, pow_half_sq]

theorem powHigh_exact_of_fits (b prec e : ℕ) (hp : 1 ≤ prec) (hb : 1 ≤ b) (he : 1 ≤ e)
    (hfit : Fits ((b ^ e : ℕ) : ℚ) (PREC_TO_BITS prec)) :
    (powHigh b e (prec + 1)).1 * B ^ (powHigh b e (prec + 1)).2 = b ^ e := by
  have hf := fitsN_of_fits hfit
  unfold powHigh
  exact keepTop_exact_shift prec hp (pow_ne_zero e (Nat.pos_iff_ne_zero.mp hb)) (powLoop_exact b prec e hp hb hf e he le_rfl) hf

def sgn (neg : Bool) : ℚ := if neg then -1 else 1

theorem sgn_cases (neg : Bool) : sgn neg = 1 ∨ sgn neg = -1 := by cases neg <;> simp [sgn]

/-- the exact rational an accepted string denotes: (-1)^neg · mantissa · base^(exponent − fraction length) -/
def Parsed.value (p : Parsed) : ℚ := sgn p.neg * (p.mant : ℚ) * (p.base : ℚ) ^ p.scale

theorem toQ_mkNat (prec : Nat) (neg : Bool) (ex : Int) (n v : Nat) (hv : v < B ^ n) :
    toQ (Mpf.mk prec neg ex (toLimbs n v)) = sgn neg * (v : ℚ) * (B : ℚ) ^ (ex - (n : ℤ)) := by
  unfold Mpf.mk sgn
  rw [toQ_mk_neg prec (neg = true) ex (toLimbs n v), val_toLimbs_lt _ _ hv, toLimbs_length]

theorem WF_mkNat (prec : Nat) (neg : Bool) (ex : Int) (n v : Nat) (hn1 : 1 ≤ n) (hn : n ≤ prec + 1)
    (h1 : B ^ (n - 1) ≤ v) (h2 : v < B ^ n) : WF (Mpf.mk prec neg ex (toLimbs n v)) :=
  (Mant.of_nat hn1 h1 h2).wf_mk_neg (by rw [toLimbs_length]; exact hn) _ _

theorem limbLen_bounds_q {v : Nat} (hv : v ≠ 0) :
    (B : ℚ) ^ (limbLen v - 1) ≤ (v : ℚ) ∧ (v : ℚ) < (B : ℚ) ^ limbLen v := by
  obtain ⟨a, b⟩ := limbLen_spec hv
  exact ⟨by exact_mod_cast a, by exact_mod_cast b⟩

theorem eps_eq_epsP (prec : ℕ) (hp : 1 ≤ prec) : eps prec = 4 * (B : ℚ) * epsP (prec + 1) := by
  rw [eps_eq]; unfold epsP
  rw [show prec + 1 - 1 = (prec - 1) + 1 by omega, pow_succ]
  have hB := Bq_ne
  have hBp : (B : ℚ) ^ (prec - 1) ≠ 0 := pow_ne_zero _ hB
  field_simp

theorem epsP_mul_B_le (prec : ℕ) (hp : 1 ≤ prec) : epsP (prec + 1) * (B : ℚ) ≤ 1 := by
  unfold epsP
  rw [Nat.add_sub_cancel, div_mul_eq_mul_div, one_mul, div_le_one (pow_pos Bq_pos _)]
  exact le_self_pow₀ (by exact_mod_cast B_pos) (by omega)

theorem err_of_appr (prec : ℕ) (hp : 1 ≤ prec) {R V : ℚ} {k : ℕ} (hV : 0 < V)
    (h : Appr (epsP (prec + 1)) R V k) (hk : k < 4 * B) : |R - V| < eps prec * V := by
  have e := Appr.err (epsP_le_one _) hV.le h
  rw [abs_sub_comm, abs_of_nonneg (by linarith [h.2]), eps_eq_epsP prec hp]
  have hkq : (k : ℚ) < 4 * (B : ℚ) := by exact_mod_cast hk
  have := mul_lt_mul_of_pos_right (mul_lt_mul_of_pos_right hkq (epsP_pos (prec + 1))) hV
  linarith

/-- below: 3 ε V; above: R ≤ 2 V, hence at most 2 e ε V -/
theorem two_sided_core {R V ε c : ℚ} {e : ℕ} (h0 : 0 < ε) (h1 : ε ≤ 1) (hV : 0 < V)
    (hlo : V * (1 - ε) ^ 3 ≤ R) (hhi : R * (1 - ε) ^ e ≤ V) (heε : (e : ℚ) * ε ≤ 1 / 2)
    (hc3 : 3 < c) (hce : 2 * (e : ℚ) < c) : |R - V| < c * ε * V := by
  have b3 := one_sub_pow_ge h1 3
  push_cast at b3
  have hR : 0 ≤ R := le_trans (mul_nonneg hV.le (one_sub_pow_nonneg h1 3)) hlo
  have lo : V * (1 - 3 * ε) ≤ R := le_trans (mul_le_mul_of_nonneg_left b3 hV.le) hlo
  have up : R * (1 - (e : ℚ) * ε) ≤ V := le_trans (mul_le_mul_of_nonneg_left (one_sub_pow_ge h1 e) hR) hhi
  have h2 : R ≤ 2 * V := by
    have : R * (1 / 2) ≤ R * (1 - (e : ℚ) * ε) := mul_le_mul_of_nonneg_left (by linarith) hR
    linarith
  have h3 : R * ((e : ℚ) * ε) ≤ 2 * V * ((e : ℚ) * ε) :=
    mul_le_mul_of_nonneg_right h2 (mul_nonneg (Nat.cast_nonneg e) h0.le)
  have hεV : 0 < ε * V := mul_pos h0 hV
  rw [abs_lt]
  constructor
  · linarith [mul_pos (sub_pos.mpr hc3) hεV]
  · linarith [mul_pos (sub_pos.mpr hce) hεV]

theorem err_of_two_sided (prec : ℕ) (hp : 1 ≤ prec) {R V : ℚ} {e : ℕ} (hV : 0 < V)
    (hlo : V * (1 - epsP (prec + 1)) ^ 3 ≤ R) (hhi : R * (1 - epsP (prec + 1)) ^ e ≤ V) (he : e < 2 ^ 63) :
    |R - V| < eps prec * V := by
  have heq : (e : ℚ) < 2 ^ 63 := by exact_mod_cast he
  have hεB := epsP_mul_B_le prec hp
  rw [Bq_eq] at hεB
  rw [eps_eq_epsP prec hp, Bq_eq]
  refine two_sided_core (epsP_pos _) (epsP_le_one _) hV hlo hhi ?_ (by norm_num) (by linarith)
  -- e ε ≤ 2^63 ε = (ε 2^64) / 2
  have := mul_le_mul_of_nonneg_right heq.le (epsP_nonneg (prec + 1))
  linarith

theorem abs_sgn (neg : Bool) : |sgn neg| = 1 := by
  rcases sgn_cases neg with s | s <;> rw [s] <;> norm_num

theorem err_with_sign (neg : Bool) (prec : ℕ) {R V : ℚ} (hV : 0 < V) (h : |R - V| < eps prec * V) :
    |sgn neg * R - sgn neg * V| < eps prec * |sgn neg * V| := by
  rw [← mul_sub, abs_mul, abs_mul, abs_sgn, one_mul, one_mul, abs_of_pos hV]
  exact h

theorem convInt_spec (prec : ℕ) (neg : Bool) (M : ℕ) (hM : M ≠ 0) :
    WF (convInt prec neg M) ∧
    ∃ R : ℚ, toQ (convInt prec neg M) = sgn neg * R ∧ Appr (epsP (prec + 1)) R (M : ℚ) 1 ∧
      (limbLen M ≤ prec + 1 → R = M) ∧ (1 ≤ prec → Fits (M : ℚ) (PREC_TO_BITS prec) → R = M) := by
  obtain ⟨_, _, k3, k4, _, k6⟩ := keepTop_spec (prec + 1) (by omega) hM
  have ak := appr_keepTop (prec + 1) (by omega) hM
  have xm := fun hp => keepTop_exact prec hp hM
  obtain ⟨b1, b2⟩ := limbLen_spec k4
  unfold convInt
  dsimp only
  generalize keepTop (prec + 1) M = km at *
  refine ⟨WF_mkNat prec neg _ _ _ (limbLen_isSize.pos k4) (by omega) b1 b2, (km.1 : ℚ) * (B : ℚ) ^ km.2, ?_, ak, ?_, ?_⟩
  · rw [toQ_mkNat _ _ _ _ _ b2, add_sub_cancel_left, zpow_natCast, mul_assoc]
  · intro h
    rw [k6 h, pow_zero, mul_one]
  · intro hp hf
    exact_mod_cast xm hp hf

theorem convMul_spec (prec : ℕ) (neg : Bool) (M b e : ℕ) (hM : M ≠ 0) (hb : 1 ≤ b) (he : 1 ≤ e) :
    WF (convMul prec neg M b e) ∧
    ∃ R : ℚ, toQ (convMul prec neg M b e) = sgn neg * R ∧
      Appr (epsP (prec + 1)) R ((M : ℚ) * (b : ℚ) ^ e) (e + 2) ∧
      (1 ≤ prec → Fits (M : ℚ) (PREC_TO_BITS prec) → Fits ((b ^ e : ℕ) : ℚ) (PREC_TO_BITS prec) →
        Fits ((M : ℚ) * (b : ℚ) ^ e) (PREC_TO_BITS prec) → R = (M : ℚ) * (b : ℚ) ^ e) := by
  have hP : 1 ≤ prec + 1 := by omega
  have h0 := epsP_nonneg (prec + 1)
  have h1 := epsP_le_one (prec + 1)
  have m4 := keepTop_fst_ne (prec + 1) hP hM
  have am := appr_keepTop (prec + 1) hP hM
  have xm := fun hp => keepTop_exact prec hp hM
  obtain ⟨r1, _, ar⟩ := powHigh_appr b (prec + 1) e hb hP he
  have xp := fun hp => powHigh_exact_of_fits b prec e hp hb he
  unfold convMul
  dsimp only
  -- opaque from here on: tactics must not evaluate them
  generalize keepTop (prec + 1) M = km at *
  generalize powHigh b e (prec + 1) = pw at *
  have ht : pw.1 * km.1 ≠ 0 := Nat.mul_ne_zero r1 m4
  obtain ⟨_, _, t3, t4, t5, _⟩ := keepTop_spec (prec + 1) hP ht
  have at' := Appr.mul_const (appr_keepTop (prec + 1) hP ht)
    (mul_pos (pow_pos Bq_pos km.2) (pow_pos Bq_pos pw.2)).le
  have xt := fun hp => keepTop_cut prec hp ht
  generalize keepTop (prec + 1) (pw.1 * km.1) = kt at *
  obtain ⟨c1, c2⟩ := limbLen_spec t4
  have htn := limbLen_isSize.pos ht
  rw [t3] at c1 c2 t5
  refine ⟨WF_mkNat prec neg _ _ _ (le_min htn hP) (min_le_right _ _) c1 c2,
    (kt.1 : ℚ) * (B : ℚ) ^ kt.2 * ((B : ℚ) ^ km.2 * (B : ℚ) ^ pw.2), ?_, ?_, ?_⟩
  · rw [toQ_mkNat _ _ _ _ _ c2]
    have : ((limbLen (pw.1 * km.1) : ℤ) + (km.2 : ℤ) + (pw.2 : ℤ)) - ((min (limbLen (pw.1 * km.1)) (prec + 1) : ℕ) : ℤ) =
        ((kt.2 + km.2 + pw.2 : ℕ) : ℤ) := by omega
    rw [this, zpow_natCast, pow_add, pow_add]; ring
  · -- kt ≈ t = r m ; (r m) B^dm B^ir = (m B^dm)(r B^ir) ≈ M b^e
    have a2 := Appr.mul h1 (Nat.cast_nonneg M) (pow_nonneg (Nat.cast_nonneg b) e) am ar
    have e1 : ((pw.1 * km.1 : ℕ) : ℚ) * ((B : ℚ) ^ km.2 * (B : ℚ) ^ pw.2) =
        (km.1 : ℚ) * (B : ℚ) ^ km.2 * ((pw.1 : ℚ) * (B : ℚ) ^ pw.2) := by
      push_cast; ring
    rw [e1] at at'
    have tr := Appr.trans h1 at' a2
    rwa [show 1 + (1 + e) = e + 2 by omega] at tr
  · intro hp fM fb fv
    have ht' : ((pw.1 * km.1 : ℕ) : ℚ) * (B : ℚ) ^ (km.2 + pw.2) = (M : ℚ) * (b : ℚ) ^ e := by
      have : pw.1 * km.1 * B ^ (km.2 + pw.2) = M * b ^ e := by rw [← xm hp fM, ← xp hp fb, pow_add]; ring
      exact_mod_cast this
    have xt' := (xt hp ((km.2 + pw.2 : ℕ) : ℤ)).exact hp (by rw [zpow_natCast, ht']; exact fv)
    rw [zpow_natCast, ht'] at xt'
    rw [← xt', pow_add]; push_cast; ring

theorem convert_of_mant_zero (prec : ℕ) (p : Parsed) (h : p.mant = 0) : convert prec p = zero prec := by
  unfold convert; rw [if_pos h]

end Mpir.MpfStr
