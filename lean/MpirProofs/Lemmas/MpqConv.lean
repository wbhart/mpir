/- Helper lemmas for the conversions: mpq_set_f (set_f.c), mpq_set_d (set_d.c with
   __gmp_extract_double) — exact — and mpq_get_d (get_d.c + mpn_get_d) — truncation toward zero. -/
import MpirProofs.Lemmas.Mpq
import MpirProofs.Lemmas.ExtractDbl
import Mathlib.Algebra.Order.Field.Power
import Mathlib.Data.Rat.Floor
import Mathlib.Algebra.Order.Floor.Semifield
namespace Mpir.Mpq

theorem stripLow_spec (m fuel : Nat) :
    m = (stripLow m fuel).1 * B ^ (stripLow m fuel).2 ∧
    (m ≠ 0 → m < B ^ fuel → (stripLow m fuel).1 % B ≠ 0) := by
  induction fuel generalizing m with
  | zero =>
    refine ⟨by simp [stripLow], fun h0 h1 => ?_⟩
    simp at h1; omega
  | succ f ih =>
    rw [stripLow]
    split_ifs with hc
    · obtain ⟨i1, i2⟩ := ih (m / B)
      rcases hs : stripLow (m / B) f with ⟨m', k⟩
      rw [hs] at i1 i2
      simp only [] at i1 i2 ⊢
      refine ⟨?_, fun h0 h1 => ?_⟩
      · have hm : m = m / B * B := (Nat.div_mul_cancel (Nat.dvd_of_mod_eq_zero hc.1)).symm
        rw [pow_succ, ← mul_assoc, ← i1, ← hm]
      · apply i2
        · intro h; have : m = m / B * B := (Nat.div_mul_cancel (Nat.dvd_of_mod_eq_zero hc.1)).symm
          rw [h] at this; omega
        · rw [pow_succ] at h1
          exact Nat.div_lt_of_lt_mul (by rw [Nat.mul_comm]; exact h1)
    · refine ⟨by simp, fun h0 _ => ?_⟩
      intro h; exact hc ⟨h, h0⟩

/-- value of an mpf operand: sign, mantissa `F` (with `limbs F` limbs), exponent in limbs -/
def mpfVal (neg : Bool) (F : Nat) (fexp : Int) : ℚ :=
  (if neg then -1 else 1) * (F : ℚ) * (B : ℚ) ^ (fexp - (limbs F : ℤ))

/-- dividing numerator and the power-of-B denominator by `2^ctz(low limb)` keeps the value and gives
    canonical form (set_d.c:108-115; both fractional branches of set_f.c) -/
theorem reduce_pow2 {np K : ℕ} (h : np % B ≠ 0) (hK : 1 ≤ K) :
    (⟨((np / 2 ^ ctz (np % B) : ℕ) : ℤ), ((B ^ K / 2 ^ ctz (np % B) : ℕ) : ℤ)⟩ : Q).toRat
      = (np : ℚ) / ((B : ℕ) : ℚ) ^ K ∧
    Canonical ⟨((np / 2 ^ ctz (np % B) : ℕ) : ℤ), ((B ^ K / 2 ^ ctz (np % B) : ℕ) : ℤ)⟩ := by
  obtain ⟨o, ho, hodd, hc⟩ := low_limb_ctz h
  generalize ctz (np % B) = c at *
  have hB : B ^ K = 2 ^ c * 2 ^ (64 * K - c) := by
    rw [← pow_add, B_pow]; congr 1; omega
  rw [ho, hB, Nat.mul_div_cancel_left o (by positivity), Nat.mul_div_cancel_left _ (by positivity)]
  have hv : ((2 ^ c * o : ℕ) : ℚ) / ((B : ℕ) : ℚ) ^ K
      = (((2 ^ c * o : ℕ) : ℤ) : ℚ) / (((2 ^ c * 2 ^ (64 * K - c) : ℕ) : ℤ) : ℚ) := by
    rw [← hB]; push_cast; rfl
  rw [hv]
  refine canonical_of_cross (by positivity) (by positivity) ?_ (by push_cast; ring)
  show IsCoprime (o : ℤ) ((2 ^ (64 * K - c) : ℕ) : ℤ)
  push_cast
  exact (isCoprime_of_odd (by omega)).symm.pow_right

theorem ctz_odd {x : ℕ} (h : x % 2 = 1) : ctz x = 0 := ctz_isCtz.of_odd trivial h

theorem setFVal_spec (neg : Bool) (F : Nat) (fexp : Int) :
    (setFVal neg F fexp).toRat = mpfVal neg F fexp ∧ Canonical (setFVal neg F fexp) := by
  unfold setFVal mpfVal
  by_cases hF : F = 0
  · subst hF; simp [Q.toRat, Canonical]
  rw [if_neg hF, mul_assoc]
  obtain ⟨s1, s2⟩ := stripLow_spec F (limbs F)
  have s2 := s2 hF (limbs_isSize.lt_pow F)
  simp only []
  generalize (stripLow F (limbs F)).1 = F' at *
  generalize (stripLow F (limbs F)).2 = k at *
  have hF' : F' ≠ 0 := by rintro rfl; simp at s2
  have hk : k < limbs F := by
    have h1 : B ^ k ≤ F := by rw [s1]; exact Nat.le_mul_of_pos_left _ (Nat.pos_of_ne_zero hF')
    exact (Nat.pow_lt_pow_iff_right one_lt_B).mp (lt_of_le_of_lt h1 (limbs_isSize.lt_pow F))
  have hB : (B : ℚ) ≠ 0 := by have := B_pos; positivity
  -- the stripped mantissa `F'` with its own exponent
  have tgt : (F : ℚ) * (B : ℚ) ^ (fexp - (limbs F : ℤ))
      = (F' : ℚ) * (B : ℚ) ^ (fexp - ((limbs F : ℤ) - k)) := by
    rw [show fexp - ((limbs F : ℤ) - k) = (k : ℤ) + (fexp - (limbs F : ℤ)) by ring, zpow_add₀ hB,
      zpow_natCast, ← mul_assoc]
    congr 1; exact_mod_cast s1
  rw [tgt, show ((limbs F - k : ℕ) : ℤ) = (limbs F : ℤ) - k by omega]
  by_cases c1 : fexp ≥ (limbs F : ℤ) - k
  · -- an integer
    simp only [c1, if_true]
    have e : (((fexp - ((limbs F : ℤ) - k)).toNat : ℕ) : ℤ) = fexp - ((limbs F : ℤ) - k) := by omega
    refine sgn_spec neg ⟨?_, (int_spec _).2⟩
    rw [(int_spec _).1]; push_cast; rw [← zpow_natCast, e]
  -- a fraction with denominator `B^ds`, reduced by the trailing zeros of the low limb
  simp only [c1, if_false]
  have hds : 1 ≤ ((limbs F : ℤ) - k - fexp).toNat := by omega
  have e : fexp - ((limbs F : ℤ) - k) = -((((limbs F : ℤ) - k - fexp).toNat : ℕ) : ℤ) := by omega
  rw [e, zpow_neg, zpow_natCast, ← div_eq_mul_inv]
  generalize ((limbs F : ℤ) - k - fexp).toNat = ds at *
  have hr := reduce_pow2 s2 hds
  by_cases c2 : F' % B % 2 = 1
  · simp only [c2, if_true]
    rw [ctz_odd c2, pow_zero, Nat.div_one, Nat.div_one] at hr
    exact sgn_spec neg hr
  · simp only [c2, if_false]
    obtain ⟨-, -, -, hc⟩ := low_limb_ctz s2
    have hden : B ^ (ds - 1) * 2 ^ (64 - ctz (F' % B)) = B ^ ds / 2 ^ ctz (F' % B) := by
      have : B ^ ds = B ^ (ds - 1) * 2 ^ (64 - ctz (F' % B)) * 2 ^ ctz (F' % B) := by
        rw [mul_assoc, ← pow_add, show 64 - ctz (F' % B) + ctz (F' % B) = 64 by omega, ← B_eq_pow,
          ← pow_succ]
        congr 1; omega
      rw [this, Nat.mul_div_cancel _ (by positivity)]
    rw [hden]
    exact sgn_spec neg hr

theorem two_ne : (2 : ℚ) ≠ 0 := by norm_num

/-- magnitude of the finite double with exponent field `e` and fraction `f` -/
def dblMag (e f : Nat) : ℚ :=
  if e = 0 then (f : ℚ) * (2 : ℚ) ^ (-1074 : ℤ) else ((2 ^ 52 + f : ℕ) : ℚ) * (2 : ℚ) ^ ((e : ℤ) - 1075)

theorem B_cast_rat : ((B : ℕ) : ℚ) = (2 : ℚ) ^ (64 : ℤ) := by
  unfold B; rw [Nat.cast_pow, Nat.cast_ofNat]; rfl

theorem B_zpow (z : ℤ) : ((B : ℕ) : ℚ) ^ z = (2 : ℚ) ^ (64 * z) := by
  rw [B_cast_rat, ← zpow_mul]

theorem dblMag_eq (e f : Nat) : dblMag e f = (dblNat e f : ℚ) * (2 : ℚ) ^ (-1074 : ℤ) := by
  unfold dblMag dblNat
  by_cases e0 : e = 0
  · rw [if_pos e0, if_pos e0]
  · rw [if_neg e0, if_neg e0, Nat.cast_mul, Nat.cast_pow, Nat.cast_ofNat, mul_assoc, ← zpow_natCast, ← zpow_add₀ two_ne]
    congr 2; omega

theorem extractDouble_rat (e f : Nat) (hf : f < 2 ^ 52) (hnz : ¬ (e = 0 ∧ f = 0)) :
    ((extractDouble e f).1 : ℚ) * ((B : ℕ) : ℚ) ^ ((extractDouble e f).2 - 2) = dblMag e f ∧
    (extractDouble e f).1 ≠ 0 ∧ (extractDouble e f).1 < B * B := by
  obtain ⟨tp, ex, h, t1, t2, x1, hv, _⟩ := extractDouble_spec e f hf hnz
  rw [h, dblMag_eq]
  refine ⟨?_, by have := B_pos; omega, t2⟩
  have hvq : (tp : ℚ) * (2 : ℚ) ^ ((64 * ex + 1074).toNat : ℤ) = (dblNat e f : ℚ) * (2 : ℚ) ^ (128 : ℤ) := by
    rw [zpow_natCast]; exact_mod_cast hv
  rw [Int.toNat_of_nonneg (by omega)] at hvq
  show (tp : ℚ) * ((B : ℕ) : ℚ) ^ (ex - 2) = _
  rw [B_zpow, show 64 * (ex - 2) = (64 * ex + 1074) + (-1202) by ring, zpow_add₀ two_ne, ← mul_assoc, hvq, mul_assoc,
    ← zpow_add₀ two_ne]
  norm_num

/-- the fractional arm of set_d.c (:102-117) on a numerator with non-zero low limb and denominator `B^K` -/
theorem setd_frac {np K : ℕ} (h : np % B ≠ 0) :
    (⟨((np / 2 ^ ctz (np % B ||| B ^ K % B) : ℕ) : ℤ), ((B ^ K / 2 ^ ctz (np % B ||| B ^ K % B) : ℕ) : ℤ)⟩ : Q).toRat
      = (np : ℚ) / ((B : ℕ) : ℚ) ^ K ∧
    Canonical ⟨((np / 2 ^ ctz (np % B ||| B ^ K % B) : ℕ) : ℤ), ((B ^ K / 2 ^ ctz (np % B ||| B ^ K % B) : ℕ) : ℤ)⟩ := by
  rcases Nat.eq_zero_or_pos K with hK | hK
  · subst hK
    have h1 : (1 : ℕ) % B = 1 := Nat.mod_eq_of_lt (by rw [B_eq_pow]; norm_num)
    have hodd : (np % B ||| 1) % 2 = 1 := by rw [Nat.or_mod_two_eq_one]; right; rfl
    simp only [pow_zero, h1, ctz_odd hodd, Nat.div_one]
    exact ⟨by simp [Q.toRat], by norm_num, by simp⟩
  · have h0 : B ^ K % B = 0 := by
      obtain ⟨k, rfl⟩ : ∃ k, K = k + 1 := ⟨K - 1, by omega⟩
      rw [pow_succ]; exact Nat.mul_mod_left _ _
    rw [h0, Nat.or_zero]
    exact reduce_pow2 h hK

/-- value of a finite double: sign bit, exponent field, fraction -/
def dblVal (s : Bool) (e f : Nat) : ℚ := (if s then -1 else 1) * dblMag e f

theorem setDVal_spec (s : Bool) (e f : Nat) (hf : f < 2 ^ 52) :
    (setDVal s e f).toRat = dblVal s e f ∧ Canonical (setDVal s e f) := by
  unfold setDVal dblVal
  by_cases hz : e = 0 ∧ f = 0
  · rw [if_pos hz]; obtain ⟨rfl, rfl⟩ := hz
    simp [Q.toRat, Canonical, dblMag]
  rw [if_neg hz]
  obtain ⟨t1, t2, t3⟩ := extractDouble_rat e f hf hz
  simp only []
  generalize (extractDouble e f).1 = tp at *
  generalize (extractDouble e f).2 = exp at *
  generalize dblMag e f = D at *
  have hBq : ((B : ℕ) : ℚ) ≠ 0 := by have := B_pos; positivity
  by_cases c1 : exp ≤ 1
  · -- a fraction: the numerator (without its low limb if that is zero) over a power of B
    simp only [c1, if_true]
    by_cases h0 : tp % B = 0
    · simp only [h0, if_true]
      have htp : tp = tp / B * B := (Nat.div_mul_cancel (Nat.dvd_of_mod_eq_zero h0)).symm
      have hu : tp / B % B ≠ 0 := by
        rw [Nat.mod_eq_of_lt (Nat.div_lt_of_lt_mul t3)]; intro hu0; rw [hu0] at htp; omega
      obtain ⟨v1, v2⟩ := setd_frac (K := (-exp + 1 + 1 - 1).toNat) hu
      refine sgn_spec s ⟨?_, v2⟩
      have e : (((-exp + 1 + 1 - 1).toNat : ℕ) : ℤ) = 1 - exp := by omega
      have e2 : (tp : ℚ) = ((tp / B : ℕ) : ℚ) * ((B : ℕ) : ℚ) := by exact_mod_cast htp
      rw [v1, ← t1, div_eq_mul_inv, ← zpow_natCast, e, ← zpow_neg]
      conv_rhs => rw [e2]
      rw [mul_assoc, ← zpow_one_add₀ hBq]
      congr 2; ring
    · simp only [h0, if_false]
      obtain ⟨v1, v2⟩ := setd_frac (K := (-exp + 2 + 1 - 1).toNat) h0
      refine sgn_spec s ⟨?_, v2⟩
      have e : (((-exp + 2 + 1 - 1).toNat : ℕ) : ℤ) = 2 - exp := by omega
      rw [v1, ← t1, div_eq_mul_inv, ← zpow_natCast, e, ← zpow_neg]
      congr 2; ring
  · -- an integer
    simp only [c1, if_false]
    have e : (((exp - 2).toNat : ℕ) : ℤ) = exp - 2 := by omega
    refine sgn_spec s ⟨?_, (int_spec _).2⟩
    rw [(int_spec _).1]; push_cast; rw [← zpow_natCast, e, t1]

/-- the quotient and exponent that mpq_get_d hands to mpn_get_d -/
def getDQuot (n d : ℕ) : ℕ × ℤ :=
  let nsize : Int := (limbs n : Nat)
  let dsize : Int := (limbs d : Nat)
  let zeros := 3 - (nsize - dsize + 1)
  let chop := max (-zeros) 0
  (n / B ^ chop.toNat * B ^ (zeros + chop).toNat / d, -zeros * 64)

theorem get_d_eq (src : Nat) (h : Heap) :
    get_d src h = if (h src).num = 0 then 0 else
      getDBits ((h src).num < 0) (getDQuot (h src).num.natAbs (h src).den.natAbs).1
        (getDQuot (h src).num.natAbs (h src).den.natAbs).2 := by
  unfold get_d getDQuot
  rfl

theorem getDQuot_spec {n d : ℕ} (hn : n ≠ 0) (hd : d ≠ 0) :
    (getDQuot n d).1 = ⌊(n : ℚ) / (d : ℚ) * (2 : ℚ) ^ (-(getDQuot n d).2)⌋₊ ∧ B ≤ (getDQuot n d).1 := by
  unfold getDQuot
  simp only []
  have ln := limbs_isSize.pos hn
  have ld := limbs_isSize.pos hd
  have hnl := limbs_isSize.pow_le hn
  have hdu := limbs_isSize.lt_pow d
  generalize hZ : 3 - (((limbs n : ℕ) : ℤ) - ((limbs d : ℕ) : ℤ) + 1) = zeros
  rcases le_or_gt 0 zeros with hz | hz
  · -- pad with `z` zero limbs, nothing chopped
    obtain ⟨z, rfl⟩ : ∃ z : ℕ, zeros = (z : ℤ) := ⟨_, (Int.toNat_of_nonneg hz).symm⟩
    rw [show max (-(z : ℤ)) 0 = 0 by omega]
    simp only [Int.toNat_zero, pow_zero, Nat.div_one, add_zero, Int.toNat_natCast]
    constructor
    · rw [← Nat.floor_div_eq_div (K := ℚ)]
      congr 1
      rw [neg_mul, neg_neg, show ((z : ℤ) * 64) = ((64 * z : ℕ) : ℤ) by push_cast; ring, zpow_natCast,
        Nat.cast_mul, Nat.cast_pow, B_eq_pow, Nat.cast_pow, Nat.cast_ofNat, ← pow_mul, div_mul_eq_mul_div]
    · rw [Nat.le_div_iff_mul_le (Nat.pos_of_ne_zero hd)]
      calc B * d ≤ B * B ^ limbs d := Nat.mul_le_mul_left _ hdu.le
        _ = B ^ (limbs n - 1) * B ^ z := by rw [← pow_succ', ← pow_add]; congr 1; omega
        _ ≤ n * B ^ z := Nat.mul_le_mul_right _ hnl
  · -- chop `c` low limbs, nothing padded
    obtain ⟨c, rfl⟩ : ∃ c : ℕ, zeros = -(c : ℤ) := ⟨(-zeros).toNat, by omega⟩
    rw [show max (- -(c : ℤ)) 0 = (c : ℤ) by omega]
    simp only [neg_add_cancel, Int.toNat_zero, pow_zero, mul_one, Int.toNat_natCast, neg_neg]
    constructor
    · rw [Nat.div_div_eq_div_mul, ← Nat.floor_div_eq_div (K := ℚ)]
      congr 1
      rw [show ((c : ℤ) * 64) = ((64 * c : ℕ) : ℤ) by push_cast; ring, zpow_neg, zpow_natCast,
        Nat.cast_mul, Nat.cast_pow, B_eq_pow, Nat.cast_pow, Nat.cast_ofNat, ← pow_mul,
        div_mul_eq_div_div_swap, div_eq_mul_inv ((n : ℚ) / d)]
    · rw [Nat.le_div_iff_mul_le (Nat.pos_of_ne_zero hd), Nat.le_div_iff_mul_le (Nat.pow_pos B_pos)]
      calc B * d * B ^ c ≤ B * B ^ limbs d * B ^ c :=
            Nat.mul_le_mul_right _ (Nat.mul_le_mul_left _ hdu.le)
        _ = B ^ (limbs n - 1) := by rw [← pow_succ', ← pow_add]; congr 1; omega
        _ ≤ n := hnl


/-- bit pattern of the double obtained by truncating the positive rational `x` toward zero, where `E` is
    the exponent of its leading bit (`2^E ≤ x < 2^(E+1)`) and `sgn` is the sign bit (0 or 2^63):
    infinity on overflow, exponent field `E+1023` and the truncated 53-bit mantissa without its hidden
    bit for normal numbers, the truncated multiple of 2^-1074 for denormals, +0.0 below that. -/
def truncDbl (sgn : ℕ) (x : ℚ) (E : ℤ) : ℕ :=
  if E ≥ 1024 then sgn + 2047 * 2 ^ 52
  else if E ≤ -1075 then 0
  else if E ≤ -1023 then sgn + ⌊x * (2 : ℚ) ^ (1074 : ℤ)⌋₊
  else sgn + (E + 1023).toNat * 2 ^ 52 + (⌊x * (2 : ℚ) ^ (52 - E)⌋₊ - 2 ^ 52)

theorem one_lt_two_q : (1 : ℚ) < 2 := by norm_num

theorem leading_bit {q : ℕ} {exp E : ℤ} {x : ℚ} (hq0 : q ≠ 0) (hx : 0 < x)
    (hq : q = ⌊x * (2 : ℚ) ^ (-exp)⌋₊) (hE1 : (2 : ℚ) ^ E ≤ x) (hE2 : x < (2 : ℚ) ^ (E + 1)) :
    E = exp + ((bits q : ℕ) : ℤ) - 1 := by
  have hy0 : 0 ≤ x * (2 : ℚ) ^ (-exp) := by positivity
  have hpos : (0 : ℚ) < (2 : ℚ) ^ exp := by positivity
  -- 2^(bits q - 1) ≤ q ≤ x · 2^(-exp) < q + 1 ≤ 2^(bits q)
  have g1 : (2 : ℚ) ^ (bits q - 1) ≤ (q : ℚ) := by exact_mod_cast bits_lb hq0
  have g2 : (q : ℚ) + 1 ≤ (2 : ℚ) ^ bits q := by exact_mod_cast bits_ub q
  have f1 : (2 : ℚ) ^ ((bits q - 1 : ℕ) : ℤ) ≤ x * (2 : ℚ) ^ (-exp) := by
    rw [zpow_natCast]; exact le_trans g1 (by rw [hq]; exact Nat.floor_le hy0)
  have f2 : x * (2 : ℚ) ^ (-exp) < (2 : ℚ) ^ ((bits q : ℕ) : ℤ) := by
    rw [zpow_natCast]; exact lt_of_lt_of_le (by rw [hq]; exact Nat.lt_floor_add_one _) g2
  rw [zpow_neg, ← div_eq_mul_inv, le_div_iff₀ hpos, ← zpow_add₀ two_ne] at f1
  rw [zpow_neg, ← div_eq_mul_inv, div_lt_iff₀ hpos, ← zpow_add₀ two_ne] at f2
  have a1 := (zpow_lt_zpow_iff_right₀ one_lt_two_q).mp (lt_of_le_of_lt hE1 f2)
  have a2 := (zpow_lt_zpow_iff_right₀ one_lt_two_q).mp (lt_of_le_of_lt f1 hE2)
  have := bits_pos hq0
  omega

theorem getDBits_trunc (neg : Bool) (q : ℕ) (exp : ℤ) (x : ℚ) (E : ℤ) (hx : 0 < x)
    (hq : q = ⌊x * (2 : ℚ) ^ (-exp)⌋₊) (hB : B ≤ q) (hE1 : (2 : ℚ) ^ E ≤ x) (hE2 : x < (2 : ℚ) ^ (E + 1)) :
    getDBits neg q exp = truncDbl (if neg then 2 ^ 63 else 0) x E := by
  have hq0 : q ≠ 0 := by have := B_pos; omega
  have hlb := bits_lb hq0
  have hub := bits_ub q
  have hnb : 65 ≤ bits q := by
    have : 2 ^ 64 < 2 ^ bits q := lt_of_le_of_lt hB hub
    have := (Nat.pow_lt_pow_iff_right (by norm_num : 1 < 2)).mp this
    omega
  have hEeq := leading_bit hq0 hx hq hE1 hE2
  -- the 53-bit mantissa: the top 53 bits of `q` are the integer part of `x · 2^(52-E)`
  have hm0 : q * 2 ^ 53 / 2 ^ bits q = ⌊x * (2 : ℚ) ^ (52 - E)⌋₊ := by
    have e1 : 2 ^ bits q = 2 ^ (bits q - 53) * 2 ^ 53 := by rw [← pow_add]; congr 1; omega
    have hfl : q / 2 ^ (bits q - 53) = ⌊x * (2 : ℚ) ^ (-exp) / ((2 ^ (bits q - 53) : ℕ) : ℚ)⌋₊ := by
      rw [Nat.floor_div_natCast, ← hq]
    rw [e1, Nat.mul_div_mul_right _ _ (by positivity), hfl]
    congr 1
    rw [Nat.cast_pow, Nat.cast_ofNat, div_eq_mul_inv, ← zpow_natCast, ← zpow_neg, mul_assoc, ← zpow_add₀ two_ne]
    congr 2
    omega
  have hm_lo : 2 ^ 52 ≤ q * 2 ^ 53 / 2 ^ bits q := by
    rw [Nat.le_div_iff_mul_le (by positivity)]
    calc 2 ^ 52 * 2 ^ bits q = 2 ^ (bits q - 1) * 2 ^ 53 := by rw [← pow_add, ← pow_add]; congr 1; omega
      _ ≤ q * 2 ^ 53 := Nat.mul_le_mul_right _ hlb
  unfold getDBits truncDbl
  simp only []
  rw [← hEeq]
  by_cases c1 : E ≥ 1024
  · rw [if_pos c1, if_pos c1]
  rw [if_neg c1, if_neg c1]
  by_cases c2 : E ≤ -1023
  · rw [if_pos c2]
    by_cases c3 : E ≤ -1075
    · rw [if_pos c3, if_pos c3]
    · -- denormal: the mantissa shifted right by -1022 - E is the integer part of `x · 2^1074`
      rw [if_neg c3, if_neg c3, if_pos c2, hm0, ← Nat.floor_div_natCast]
      congr 2
      rw [Nat.cast_pow, Nat.cast_ofNat, div_eq_mul_inv, ← zpow_natCast, ← zpow_neg, mul_assoc, ← zpow_add₀ two_ne]
      congr 2
      omega
  · -- normal: dropping the hidden bit is subtracting 2^52
    rw [if_neg c2, if_neg (show ¬ E ≤ -1075 by omega), if_neg c2, ← hm0, Nat.mod_eq_sub_mod hm_lo, Nat.mod_eq_of_lt]
    have : q * 2 ^ 53 < 2 ^ 53 * 2 ^ bits q := by
      rw [Nat.mul_comm]; exact Nat.mul_lt_mul_of_pos_left hub (by positivity)
    have := (Nat.div_lt_iff_lt_mul (by positivity)).mpr this
    omega

end Mpir.Mpq
