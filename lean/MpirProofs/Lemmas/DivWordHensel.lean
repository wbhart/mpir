/- Word-level division, the Hensel path of mpn_divrem_1: the quotient by mpn_rsh_divrem_hensel_qr_1_1/_1_2 (`exactQ` with an
   output shift), the remainder by mpn_divrem_euclidean_r_1 (mpn_mod_1_1/2/3 folding), and mpn_divrem_1 on every path. -/
import MpirProofs.Lemmas.DivWordExact
import MpirProofs.Lemmas.DivWord3by2
namespace Mpir.DivWord
open Mpir

/-! ### mpn_rsh_divrem_hensel_qr_1_1 (rsh_divrem_hensel_qr_1_1.c): one limb at a time -/

/-- the output limbs: right shift by s of the limb vector q :: qs, built as the C does
    (`qo | (q' << (63-s) << 1)`, `qo = q' >> s`) -/
def shrList (s : Nat) : Nat → List Nat → List Nat
  | q, [] => [q >>> s]
  | q, q' :: qs => henselOr (q >>> s) q' s :: shrList s q' qs

/-- `shrList` is the list-level mpn_rshift (`rshiftGo`): `henselOr` spells the or-term `<< (63-s) << 1` so that `s = 0` needs no
    case of its own -/
theorem shrList_eq_rshiftGo (s : Nat) (hs : s ≤ 63) : ∀ (qs : List Nat) (q : Nat), shrList s q qs = rshiftGo s (q :: qs)
  | [], _ => rfl
  | q' :: qs, q => by
    have e : (((q' <<< (63 - s)) % B) <<< 1) % B = (q' <<< (64 - s)) % B := by
      rw [Nat.shiftLeft_eq, Nat.shiftLeft_eq, Nat.shiftLeft_eq, pow_one, Nat.mod_mul_mod, Nat.mul_assoc, ← pow_succ]
      congr 3; omega
    show henselOr (q >>> s) q' s :: shrList s q' qs = ((q >>> s) ||| ((q' <<< (64 - s)) % B)) :: rshiftGo s (q' :: qs)
    rw [shrList_eq_rshiftGo s hs qs q', henselOr, e]

theorem shrList_spec (s : Nat) (hs : s ≤ 63) (qs : List Nat) (q : Nat) (hq : q < B) (hl : Limbs qs) :
    val (shrList s q qs) = val (q :: qs) / 2 ^ s ∧ Limbs (shrList s q qs) ∧ (shrList s q qs).length = qs.length + 1 := by
  have h := Limbs_cons.mpr ⟨hq, hl⟩
  obtain ⟨_, hL, hlen⟩ := rshiftGo_val s (by omega) qs q h
  rw [shrList_eq_rshiftGo s hs]
  exact ⟨rshiftGo_div s (by omega) q qs h, hL, hlen⟩

theorem henselStep_q (d m x h c : Nat) : (henselStep d m x h c).1 = ((x + B - (h + c) % B) % B * m) % B := rfl
theorem henselStep_h (d m x h c : Nat) :
    (henselStep d m x h c).2.1 = (((x + B - (h + c) % B) % B * m) % B * d) / B := rfl
theorem henselStep_c (d m x h c : Nat) : (henselStep d m x h c).2.2 = if (h + c) % B > x then 1 else 0 := rfl

/-- one limb of rsh_divrem_hensel is a step of `exactQ` with the carry kept as `h + c` -/
theorem henselStep_eq (d m x h c : Nat) (hT : h + c < B) :
    (henselStep d m x h c).1 = exQ m x (h + c) ∧
    (henselStep d m x h c).2.1 + (henselStep d m x h c).2.2 = exC d m x (h + c) := by
  rw [henselStep_q, henselStep_h, henselStep_c, Nat.mod_eq_of_lt hT]
  exact ⟨rfl, Nat.add_comm _ _⟩

theorem hensel11Go_cons (d m s x : Nat) (xs : List Nat) (h c qo : Nat) :
    hensel11Go d m s (x :: xs) h c qo =
      (henselOr qo (henselStep d m x h c).1 s ::
        (hensel11Go d m s xs (henselStep d m x h c).2.1 (henselStep d m x h c).2.2 ((henselStep d m x h c).1 >>> s)).1,
       (hensel11Go d m s xs (henselStep d m x h c).2.1 (henselStep d m x h c).2.2 ((henselStep d m x h c).1 >>> s)).2) := rfl

/-- the one-limb-at-a-time loop: the quotient limbs of `exactQ`, shifted on the way out -/
theorem hensel11Go_eq (d m s : Nat) (hd0 : 0 < d) (hdB : d < B) (hinv : (d * m) % B = 1) :
    ∀ (xs : List Nat) (h c qp : Nat), h + c < B → Limbs xs →
    hensel11Go d m s xs h c (qp >>> s) = (shrList s qp (exactQ d m xs (h + c)).1, (exactQ d m xs (h + c)).2)
  | [], h, c, qp, hT, _ => by
    show ([qp >>> s], (h + c) % B) = _
    rw [Nat.mod_eq_of_lt hT, exactQ_nil]; rfl
  | x :: xs, h, c, qp, hT, hl => by
    have ⟨hx, hxs⟩ := Limbs_cons.mp hl
    obtain ⟨e1, e2⟩ := henselStep_eq d m x h c hT
    have a2 := (ex_step d m x (h + c) hx hT hd0 hinv).2.1
    rw [hensel11Go_cons, hensel11Go_eq d m s hd0 hdB hinv xs _ _ _ (by rw [e2]; omega) hxs, e1, e2, exactQ_cons]
    rfl

/-! ### mpn_rsh_divrem_hensel_qr_1_2 (rsh_divrem_hensel_qr_1_2.c): two limbs at a time -/

/-- the C's second limb of the inverse, `mh = ml·(B − hi(d·ml))`: from ml = d⁻¹ mod B, ml + mh·B = d⁻¹ mod B² (proved from
    that formula directly, not through `newton_step`) -/
theorem inv2_modEq (d ml mh : Nat) (hdB : d < B) (hml : ml < B) (hinv : (d * ml) % B = 1)
    (hmh : mh = (ml * ((B - (d * ml) / B) % B)) % B) : (ml + mh * B) * d ≡ 1 [MOD B * B] := by
  have hB := B_pos
  have hdm := Nat.div_add_mod' (d * ml) B
  have hlt : d * ml / B < B := (Nat.div_lt_iff_lt_mul hB).mpr (Nat.mul_lt_mul'' hdB hml)
  rw [hinv] at hdm
  have h1 : d * ml ≡ 1 [MOD B] := by rw [← hdm]; exact Nat.ModEq.add_right 1 (Nat.modEq_zero_iff_dvd.mpr ⟨_, Nat.mul_comm _ _⟩) |>.trans (by rw [Nat.zero_add])
  generalize d * ml / B = hb at *
  -- mh·d ≡ ml·d·(B − hb) ≡ B − hb
  have h2 : mh * d + hb ≡ 0 [MOD B] := by
    have e1 : mh ≡ ml * (B - hb) [MOD B] := by
      rw [hmh]; exact (Nat.mod_modEq _ _).trans ((Nat.mod_modEq _ _).mul_left _)
    have e2 : mh * d ≡ 1 * (B - hb) [MOD B] := by
      have := (e1.mul_right d).trans ((congrArg (· % B) (by ring : ml * (B - hb) * d = d * ml * (B - hb))).trans (h1.mul_right _))
      exact this
    have e3 := e2.add_right hb
    rw [Nat.one_mul, Nat.sub_add_cancel hlt.le] at e3
    exact e3.trans (Nat.mod_self B)
  have e : (ml + mh * B) * d = 1 + (mh * d + hb) * B := by
    rw [Nat.add_mul, Nat.mul_comm ml d, ← hdm]; ring
  rw [e]
  have := (h2.mul_right' B).add_left 1
  rwa [Nat.zero_mul, Nat.add_zero] at this

/-- the arithmetic of the two-limb step: with M = ml + mh·B an inverse of d mod B², the limb-wise product
    Q = R·M mod B² satisfies Q·d = R + H·B², and H is recovered from the high product qh·d alone as
    H = hi(qh·d) + [lo(qh·d) > R / B] -/
theorem henselPair_core (d ml mh R : Nat) (hR : R < B * B) (hd0 : 0 < d) (hdB : d < B)
    (hM : (ml + mh * B) * d ≡ 1 [MOD B * B]) (qh : Nat)
    (hqh : qh = (((R % B * ml) / B + (R / B * ml) % B) % B + (R % B * mh) % B) % B) :
    ∃ H, ((R % B * ml) % B + qh * B) * d = R + H * (B * B) ∧ H < d ∧
      H = if (qh * d) % B > R / B then qh * d / B + 1 else qh * d / B := by
  have hB := B_pos
  have hqhB : qh < B := by rw [hqh]; exact Nat.mod_lt _ hB
  have hqlB : (R % B * ml) % B < B := Nat.mod_lt _ hB
  -- Q ≡ R·M (mod B²)
  have h1 : (R % B * ml) % B + qh * B ≡ R * (ml + mh * B) [MOD B * B] := by
    have e1 : qh ≡ (R % B * ml) / B + R / B * ml + R % B * mh [MOD B] := by
      rw [hqh]
      exact (Nat.mod_modEq _ _).trans
        (((Nat.mod_modEq _ _).trans ((Nat.mod_modEq _ _).add_left _)).add (Nat.mod_modEq _ _))
    have e2 := (e1.mul_right' B).add_left ((R % B * ml) % B)
    refine e2.trans ?_
    have e3 : R * (ml + mh * B) = (R % B * ml) % B + ((R % B * ml) / B + R / B * ml + R % B * mh) * B
        + R / B * mh * (B * B) := by
      have hp := Nat.div_add_mod' (R % B * ml) B
      generalize R % B * ml / B = a at *
      generalize R % B * ml % B = ql at *
      have e : R * (ml + mh * B) = (R / B * B + R % B) * (ml + mh * B) := by rw [Nat.div_add_mod']
      have : (R / B * B + R % B) * (ml + mh * B) =
          R % B * ml + (R / B * ml + R % B * mh) * B + R / B * mh * (B * B) := by ring
      rw [e, this, ← hp]; ring
    rw [e3]
    exact (Nat.add_mul_mod_self_right _ _ _).symm
  -- hence Q·d ≡ R, and Q·d = R + H·B²
  have h2 : ((R % B * ml) % B + qh * B) * d % (B * B) = R := by
    have := (h1.mul_right d).trans ((congrArg (· % (B * B)) (Nat.mul_assoc R _ d)).trans (hM.mul_left R))
    rw [Nat.mul_one] at this
    exact Eq.trans this (Nat.mod_eq_of_lt hR)
  have h3 := Nat.div_add_mod' (((R % B * ml) % B + qh * B) * d) (B * B)
  rw [h2] at h3
  generalize ((R % B * ml) % B + qh * B) * d / (B * B) = H at h3
  generalize (R % B * ml) % B = ql at *
  have hP : ql * d < B * B := Nat.mul_lt_mul'' hqlB hdB
  have e : ql * d + qh * d * B = H * (B * B) + R := by rw [h3]; ring
  refine ⟨H, by rw [← h3, Nat.add_comm], ?_, ?_⟩
  · have hQ : ql + qh * B < B * B := by
      have : (qh + 1) * B ≤ B * B := Nat.mul_le_mul_right _ hqhB
      rw [Nat.add_mul, Nat.one_mul] at this
      omega
    have : H * (B * B) < d * (B * B) := by
      have := Nat.mul_lt_mul_of_pos_right hQ hd0
      rw [Nat.mul_comm d]; omega
    exact Nat.lt_of_mul_lt_mul_right this
  · -- compare the limbs of ql·d + (qh·d)·B = R + H·B²
    clear h1 h2 h3 hM hqh hqhB hqlB hd0 hdB
    generalize ql * d = P at *
    generalize qh * d = S at *
    simp only [B_eq] at *
    split <;> omega

/-- two-limb subtraction of a limb with borrow out: R + t = X + borrow·B² -/
theorem sub2_limb_borrow (X t : Nat) (hX : X < B * B) (ht : t < B) :
    (X + B * B - t) % (B * B) + t = X + (if X < t then 1 else 0) * (B * B) := by
  have hBB : B ≤ B * B := Nat.le_mul_of_pos_left _ B_pos
  split
  · rw [Nat.mod_eq_of_lt (by omega)]; omega
  · have : X + B * B - t = (X - t) + B * B := by omega
    rw [this, Nat.add_mod_right, Nat.mod_eq_of_lt (by omega)]; omega

theorem henselPair_spec (d ml mh xl xh h c : Nat) (hxl : xl < B) (hxh : xh < B) (hT : h + c < B)
    (hd0 : 0 < d) (hdB : d < B) (hinv : (d * ml) % B = 1) (hml : ml < B)
    (hmh : mh = (ml * ((B - (d * ml) / B) % B)) % B) :
    (henselPair d ml mh xl xh h c).1 < B ∧ (henselPair d ml mh xl xh h c).2.1 < B ∧
    (henselPair d ml mh xl xh h c).2.2.1 + (henselPair d ml mh xl xh h c).2.2.2 < B ∧
    xl + xh * B + ((henselPair d ml mh xl xh h c).2.2.2 + (henselPair d ml mh xl xh h c).2.2.1) * (B * B) =
      ((henselPair d ml mh xl xh h c).1 + (henselPair d ml mh xl xh h c).2.1 * B) * d + (h + c) := by
  have hB := B_pos
  have hM := inv2_modEq d ml mh hdB hml hinv hmh
  simp only [henselPair, umul_ppmm_eq]
  rw [Nat.mod_eq_of_lt hT, Nat.add_comm xl (xh * B)]
  generalize h + c = t at *
  rw [sub_ddmmss_eq xh xl 0 t hxh hxl hB hT, pair2_mod, Nat.zero_mul, Nat.zero_add]
  simp only
  have hX : xh * B + xl < B * B := by
    have : (xh + 1) * B ≤ B * B := Nat.mul_le_mul_right _ hxh
    rw [Nat.add_mul, Nat.one_mul] at this
    omega
  -- the borrow as the C computes it
  have hc' : (if (xh == 0 && decide (t > xl)) = true then 1 else 0) = if xh * B + xl < t then 1 else 0 := by
    by_cases h0 : xh = 0
    · subst h0; simp
    · have : ¬ (xh * B + xl < t) := by
        have : B ≤ xh * B := Nat.le_mul_of_pos_left _ (Nat.pos_of_ne_zero h0)
        omega
      simp [h0, this]
  have hRt := sub2_limb_borrow (xh * B + xl) t hX hT
  rw [hc']
  generalize xh * B + xl = X at *
  have hcb : (if X < t then 1 else 0) ≤ 1 := by split <;> omega
  generalize (if X < t then 1 else 0) = cb at *
  have hR : (X + B * B - t) % (B * B) < B * B := Nat.mod_lt _ (Nat.mul_pos hB hB)
  generalize (X + B * B - t) % (B * B) = R at *
  obtain ⟨qh, hqh⟩ : ∃ qh, qh = (((R % B * ml) / B + (R / B * ml) % B) % B + (R % B * mh) % B) % B := ⟨_, rfl⟩
  have hqhB : qh < B := by rw [hqh]; exact Nat.mod_lt _ hB
  simp only [← hqh]
  obtain ⟨H, e1, e2, e3⟩ := henselPair_core d ml mh R hR hd0 hdB hM qh hqh
  have hHeq : (if (qh * d) % B > R / B then (qh * d / B + 1) % B else qh * d / B) = H := by
    rw [e3]; split
    · rename_i hc; rw [if_pos hc] at e3; exact Nat.mod_eq_of_lt (by omega)
    · rfl
  rw [hHeq, e1]
  refine ⟨Nat.mod_lt _ hB, hqhB, by omega, ?_⟩
  rw [Nat.add_mul cb]; omega

/-- unshifted quotient limbs and final carry of the two-limbs-at-a-time loop -/
def henselQ2 (d ml mh : Nat) : List Nat → Nat → Nat → List Nat × Nat
  | xl :: xh :: xs, h, c =>
      ((henselPair d ml mh xl xh h c).1 :: (henselPair d ml mh xl xh h c).2.1 ::
        (henselQ2 d ml mh xs (henselPair d ml mh xl xh h c).2.2.1 (henselPair d ml mh xl xh h c).2.2.2).1,
       (henselQ2 d ml mh xs (henselPair d ml mh xl xh h c).2.2.1 (henselPair d ml mh xl xh h c).2.2.2).2)
  | [x], h, c => ([(henselStep d ml x h c).1], ((henselStep d ml x h c).2.1 + (henselStep d ml x h c).2.2) % B)
  | [], h, c => ([], (h + c) % B)

theorem hensel12Go_pair (d ml mh s xl xh : Nat) (xs : List Nat) (h c qo : Nat) :
    hensel12Go d ml mh s (xl :: xh :: xs) h c qo =
      (henselOr qo (henselPair d ml mh xl xh h c).1 s ::
        henselOr ((henselPair d ml mh xl xh h c).1 >>> s) (henselPair d ml mh xl xh h c).2.1 s ::
        (hensel12Go d ml mh s xs (henselPair d ml mh xl xh h c).2.2.1 (henselPair d ml mh xl xh h c).2.2.2
          ((henselPair d ml mh xl xh h c).2.1 >>> s)).1,
       (hensel12Go d ml mh s xs (henselPair d ml mh xl xh h c).2.2.1 (henselPair d ml mh xl xh h c).2.2.2
          ((henselPair d ml mh xl xh h c).2.1 >>> s)).2) := rfl

theorem list_pair_induction {P : List Nat → Prop} (h0 : P []) (h1 : ∀ x, P [x])
    (h2 : ∀ x y xs, P xs → P (x :: y :: xs)) : ∀ l, P l
  | [] => h0
  | [x] => h1 x
  | x :: y :: xs => h2 x y xs (list_pair_induction h0 h1 h2 xs)

theorem hensel12Go_eq (d ml mh s : Nat) (xs : List Nat) : ∀ h c qp,
    hensel12Go d ml mh s xs h c (qp >>> s) = (shrList s qp (henselQ2 d ml mh xs h c).1, (henselQ2 d ml mh xs h c).2) := by
  induction xs using list_pair_induction with
  | h0 => intro h c qp; rfl
  | h1 x => intro h c qp; rfl
  | h2 xl xh xs ih =>
    intro h c qp
    rw [hensel12Go_pair, ih]
    rfl

theorem henselQ2_nil (d ml mh h c : Nat) : henselQ2 d ml mh [] h c = ([], (h + c) % B) := rfl
theorem henselQ2_one (d ml mh x h c : Nat) : henselQ2 d ml mh [x] h c =
      ([(henselStep d ml x h c).1], ((henselStep d ml x h c).2.1 + (henselStep d ml x h c).2.2) % B) := rfl
theorem henselQ2_pair (d ml mh xl xh : Nat) (xs : List Nat) (h c : Nat) : henselQ2 d ml mh (xl :: xh :: xs) h c =
      ((henselPair d ml mh xl xh h c).1 :: (henselPair d ml mh xl xh h c).2.1 ::
        (henselQ2 d ml mh xs (henselPair d ml mh xl xh h c).2.2.1 (henselPair d ml mh xl xh h c).2.2.2).1,
       (henselQ2 d ml mh xs (henselPair d ml mh xl xh h c).2.2.1 (henselPair d ml mh xl xh h c).2.2.2).2) := rfl

/-- the two-limbs-at-a-time loop computes the same quotient limbs and carry: its pair step satisfies the invariant of
    two limb steps (`henselPair_spec`), which determines them (`exactQ_unique`) -/
theorem henselQ2_eq_exactQ (d ml mh : Nat) (hodd : d % 2 = 1) (hdB : d < B) (hinv : (d * ml) % B = 1) (hml : ml < B)
    (hmh : mh = (ml * ((B - (d * ml) / B) % B)) % B) (xs : List Nat) :
    ∀ h c, h + c < B → Limbs xs → henselQ2 d ml mh xs h c = exactQ d ml xs (h + c) := by
  have hd0 : 0 < d := by omega
  induction xs using list_pair_induction with
  | h0 => intro h c hT _; rw [henselQ2_nil, Nat.mod_eq_of_lt hT, exactQ_nil]
  | h1 x =>
    intro h c hT hl
    obtain ⟨e1, e2⟩ := henselStep_eq d ml x h c hT
    have a2 := (ex_step d ml x (h + c) (Limbs_cons.mp hl).1 hT hd0 hinv).2.1
    rw [henselQ2_one, e1, e2, Nat.mod_eq_of_lt (by omega), exactQ_cons, exactQ_nil]
  | h2 xl xh xs ih =>
    intro h c hT hl
    have ⟨hxl, hl'⟩ := Limbs_cons.mp hl
    have ⟨hxh, hxs⟩ := Limbs_cons.mp hl'
    obtain ⟨a1, a2, a3, a4⟩ := henselPair_spec d ml mh xl xh h c hxl hxh hT hd0 hdB hinv hml hmh
    rw [henselQ2_pair, ih _ _ a3 hxs]
    generalize (henselPair d ml mh xl xh h c).1 = ql at *
    generalize (henselPair d ml mh xl xh h c).2.1 = qh at *
    generalize (henselPair d ml mh xl xh h c).2.2.1 = h' at *
    generalize (henselPair d ml mh xl xh h c).2.2.2 = c' at *
    have hl2 : Limbs [xl, xh] := Limbs_cons.mpr ⟨hxl, Limbs_cons.mpr ⟨hxh, Limbs_nil⟩⟩
    have hq2 : Limbs [ql, qh] := Limbs_cons.mpr ⟨a1, Limbs_cons.mpr ⟨a2, Limbs_nil⟩⟩
    have hlen2 : ∀ a b : Nat, [a, b].length = 2 := fun _ _ => rfl
    have hv := val_lt _ hq2
    rw [hlen2] at hv
    obtain ⟨u1, u2⟩ := exactQ_unique d ml hodd hdB hinv [xl, xh] (h + c) (val [ql, qh]) (h' + c') hT hl2
      (by rw [hlen2]; exact hv) (by rw [hlen2]; simp only [val_cons, val_nil]; linear_combination a4)
    obtain ⟨_, _, hL, hlen⟩ := exactQ_spec d ml hd0 hdB hinv [xl, xh] (h + c) hT hl2
    have h1 := eq_toLimbs _ hq2
    have h2 := eq_toLimbs _ hL
    rw [hlen2] at h1
    rw [hlen, hlen2, ← u1] at h2
    have hlist : [ql, qh] = (exactQ d ml [xl, xh] (h + c)).1 := h1.trans h2.symm
    rw [exactQ_cons, exactQ_cons, exactQ_nil] at hlist u2
    rw [exactQ_cons, exactQ_cons, u2]
    injection hlist with e1 hlist
    injection hlist with e2 _
    rw [e1, e2]

/-! ### the contract of both variants and of mpn_rsh_divrem_hensel_qr_1 -/

/-- contract of the 2-adic divisions: x + ret·B^n = Q·d + cin with Q < B^n, output = ⌊Q / 2^s⌋ -/
def HenselSpec (x : List Nat) (d s cin : Nat) (res : List Nat × Nat) : Prop :=
  ∃ Q, val x + res.2 * B ^ x.length = Q * d + cin ∧ Q < B ^ x.length ∧ val res.1 = Q / 2 ^ s ∧
    Limbs res.1 ∧ res.1.length = x.length

/-- both variants return the shifted quotient limbs and the carry of `exactQ` -/
theorem HenselSpec_exactQ (x0 : Nat) (xs : List Nat) (d m s cin : Nat) (hx : Limbs (x0 :: xs)) (hd0 : 0 < d) (hdB : d < B)
    (hinv : (d * m) % B = 1) (hs : s ≤ 63) (hcin : cin < B) :
    HenselSpec (x0 :: xs) d s cin
      (shrList s (exQ m x0 cin) (exactQ d m xs (exC d m x0 cin)).1, (exactQ d m xs (exC d m x0 cin)).2) := by
  obtain ⟨e, _, hL, hlen⟩ := exactQ_spec d m hd0 hdB hinv (x0 :: xs) cin hcin hx
  rw [exactQ_cons] at e hL hlen
  have ⟨hq0, hQs⟩ := Limbs_cons.mp hL
  obtain ⟨s1, s2, s3⟩ := shrList_spec s hs _ _ hq0 hQs
  refine ⟨_, e, hlen ▸ val_lt _ hL, s1, s2, ?_⟩
  rw [s3]; rw [List.length_cons] at hlen; exact hlen

theorem rsh_divrem_hensel_qr_1_1_spec (x : List Nat) (d s cin : Nat) (hx : Limbs x) (hne : x ≠ [])
    (hodd : d % 2 = 1) (hdB : d < B) (hs : s ≤ 63) (hcin : cin < B) :
    HenselSpec x d s cin (rsh_divrem_hensel_qr_1_1 x d s cin) := by
  cases x with
  | nil => exact absurd rfl hne
  | cons x0 xs =>
    have hd0 : 0 < d := by omega
    have hinv := modlimb_invert_mul d hodd
    have hunf : rsh_divrem_hensel_qr_1_1 (x0 :: xs) d s cin =
        hensel11Go d (modlimb_invert d) s xs (henselStep d (modlimb_invert d) x0 cin 0).2.1
          (henselStep d (modlimb_invert d) x0 cin 0).2.2 ((henselStep d (modlimb_invert d) x0 cin 0).1 >>> s) := rfl
    have ⟨hx0, hxs⟩ := Limbs_cons.mp hx
    obtain ⟨e1, e2⟩ := henselStep_eq d (modlimb_invert d) x0 cin 0 (by omega)
    have a2 := (ex_step d (modlimb_invert d) x0 (cin + 0) hx0 (by omega) hd0 hinv).2.1
    rw [hunf, hensel11Go_eq d _ s hd0 hdB hinv xs _ _ _ (by rw [e2]; omega) hxs, e1, e2, Nat.add_zero]
    exact HenselSpec_exactQ x0 xs d _ s cin hx hd0 hdB hinv hs hcin

theorem rsh_divrem_hensel_qr_1_2_spec (x : List Nat) (d s cin : Nat) (hx : Limbs x) (hne : x ≠ [])
    (hodd : d % 2 = 1) (hdB : d < B) (hs : s ≤ 63) (hcin : cin < B) :
    HenselSpec x d s cin (rsh_divrem_hensel_qr_1_2 x d s cin) := by
  cases x with
  | nil => exact absurd rfl hne
  | cons x0 xs =>
    have ⟨hx0, hxs⟩ := Limbs_cons.mp hx
    have hd0 : 0 < d := by omega
    have hinv := modlimb_invert_mul d hodd
    have hml : modlimb_invert d < B := Nat.mod_lt _ B_pos
    generalize hmldef : modlimb_invert d = ml at *
    have hunf : rsh_divrem_hensel_qr_1_2 (x0 :: xs) d s cin =
        hensel12Go d ml ((ml * ((B - (d * ml) / B) % B)) % B) s xs (henselStep d ml x0 cin 0).2.1
          (henselStep d ml x0 cin 0).2.2 ((henselStep d ml x0 cin 0).1 >>> s) := by
      rw [← hmldef]; rfl
    obtain ⟨e1, e2⟩ := henselStep_eq d ml x0 cin 0 (by omega)
    have a2 := (ex_step d ml x0 (cin + 0) hx0 (by omega) hd0 hinv).2.1
    rw [hunf, hensel12Go_eq, henselQ2_eq_exactQ d ml _ hodd hdB hinv hml rfl xs _ _ (by rw [e2]; omega) hxs, e1, e2,
      Nat.add_zero]
    exact HenselSpec_exactQ x0 xs d ml s cin hx hd0 hdB hinv hs hcin

theorem rsh_divrem_hensel_qr_1_spec (x : List Nat) (d s cin : Nat) (hx : Limbs x) (hne : x ≠ [])
    (hodd : d % 2 = 1) (hdB : d < B) (hs : s ≤ 63) (hcin : cin < B) :
    HenselSpec x d s cin (rsh_divrem_hensel_qr_1 x d s cin) := by
  unfold rsh_divrem_hensel_qr_1
  split
  · exact rsh_divrem_hensel_qr_1_1_spec x d s cin hx hne hodd hdB hs hcin
  · exact rsh_divrem_hensel_qr_1_2_spec x d s cin hx hne hodd hdB hs hcin

theorem hensel_exact (x : List Nat) (d s cin : Nat) (res : List Nat × Nat) (h : HenselSpec x d s cin res)
    (hodd : d % 2 = 1) (hle : cin ≤ val x) (hdvd : d ∣ val x - cin) :
    val res.1 = (val x - cin) / d / 2 ^ s ∧ Limbs res.1 ∧ res.1.length = x.length := by
  obtain ⟨Q, e, hQ, hv, hL, hlen⟩ := h
  have hd0 : 0 < d := by omega
  have e' : (val x - cin) + res.2 * B ^ x.length = d * Q := by rw [Nat.mul_comm d Q]; omega
  have := exact_finish d (val x - cin) Q res.2 x.length hodd e' hQ hdvd
  refine ⟨?_, hL, hlen⟩
  rw [hv, this, Nat.mul_div_cancel_left _ hd0]


/-! ### mpn_mod_1_1/2/3 (mod_1_1.c, mod_1_2.c, mod_1_3.c): two-limb accumulators -/

/-- two-limb value of a (high, low) pair -/
def v2 (p : Nat × Nat) : Nat := p.1 * B + p.2

/-- a proper two-limb pair with value V -/
def Pair2 (p : Nat × Nat) (V : Nat) : Prop := p.1 < B ∧ p.2 < B ∧ v2 p = V

theorem add2_noovf (ah al bh bl : Nat) (h : ah * B + al + (bh * B + bl) < B * B) :
    Pair2 (add_ssaaaa ah al bh bl) (ah * B + al + (bh * B + bl)) := by
  have hB := B_pos
  rw [add_ssaaaa_eq]
  have hq : (ah * B + al + (bh * B + bl)) / B < B := (Nat.div_lt_iff_lt_mul hB).mpr h
  refine ⟨?_, Nat.mod_lt _ hB, ?_⟩
  · show (ah * B + al + (bh * B + bl)) / B % B < B
    exact Nat.mod_lt _ hB
  · show (ah * B + al + (bh * B + bl)) / B % B * B + (ah * B + al + (bh * B + bl)) % B = _
    rw [Nat.mod_eq_of_lt hq]; exact Nat.div_add_mod' _ _

theorem umul_pair (a b : Nat) (ha : a < B) (hb : b < B) : Pair2 (umul_ppmm a b) (a * b) := by
  have hB := B_pos
  rw [umul_ppmm_eq]
  refine ⟨?_, Nat.mod_lt _ hB, Nat.div_add_mod' _ _⟩
  show a * b / B < B
  rw [Nat.div_lt_iff_lt_mul hB]
  have h1 : a * b ≤ a * B := Nat.mul_le_mul_left _ (Nat.le_of_lt hb)
  have h2 : a * B < B * B := Nat.mul_lt_mul_of_pos_right ha hB
  omega

theorem prod_le (a b d : Nat) (ha : a < B) (hb : b < d) : a * b ≤ (B - 1) * (d - 1) :=
  Nat.mul_le_mul (by omega) (by omega)

/-- k products of a limb with a residue mod d, plus one limb, fit in two limbs as long as k·d ≤ B + k:
    the size conditions under which mod_1_1/2/3 are selected -/
theorem prods_fit (k d : Nat) (hd : k * d ≤ B + k) : k * ((B - 1) * (d - 1)) + B ≤ B * B := by
  have h1 : k * (d - 1) ≤ B := by rw [Nat.mul_sub, Nat.mul_one]; omega
  calc k * ((B - 1) * (d - 1)) + B = (B - 1) * (k * (d - 1)) + B := by ring
    _ ≤ (B - 1) * B + B := Nat.add_le_add_right (Nat.mul_le_mul_left _ h1) _
    _ = B * B := by rw [Nat.sub_one_mul, Nat.sub_add_cancel (Nat.le_mul_self B)]

theorem mulAddLimb_pair (a b x : Nat) (ha : a < B) (hb : b < B) (hx : x < B) :
    Pair2 (mulAddLimb a b x) (a * b + x) := by
  obtain ⟨p1, p2, p3⟩ := umul_pair a b ha hb
  have hab := prod_le a b B ha hb
  have hBB := prods_fit 1 B (by omega)
  simp only [v2] at p3
  have := add2_noovf (umul_ppmm a b).1 (umul_ppmm a b).2 0 x (by omega)
  rw [Nat.zero_mul, Nat.zero_add, p3] at this
  exact this

theorem accMul_pair (s : Nat × Nat) (V a b : Nat) (hs : Pair2 s V) (ha : a < B) (hb : b < B) (hlt : V + a * b < B * B) :
    Pair2 (accMul s a b) (V + a * b) := by
  obtain ⟨p1, p2, p3⟩ := umul_pair a b ha hb
  obtain ⟨s1, s2, s3⟩ := hs
  simp only [v2] at p3 s3
  have := add2_noovf s.1 s.2 (umul_ppmm a b).1 (umul_ppmm a b).2 (by omega)
  rw [s3, p3] at this
  exact this

theorem mulAcc_pair (a b : Nat) (s : Nat × Nat) (V : Nat) (hs : Pair2 s V) (ha : a < B) (hb : b < B)
    (hlt : a * b + V < B * B) : Pair2 (mulAcc a b s) (a * b + V) := by
  obtain ⟨p1, p2, p3⟩ := umul_pair a b ha hb
  obtain ⟨s1, s2, s3⟩ := hs
  simp only [v2] at p3 s3
  have := add2_noovf (umul_ppmm a b).1 (umul_ppmm a b).2 s.1 s.2 (by omega)
  rw [s3, p3] at this
  exact this

/-- `p` is a two-limb accumulator holding at most `k` products limb × (B^i mod d) plus one limb, congruent to `W` modulo `d` -/
def Acc (d k : Nat) (p : Nat × Nat) (W : Nat) : Prop :=
  ∃ V, Pair2 p V ∧ V % d = W % d ∧ V + 1 ≤ k * ((B - 1) * (d - 1)) + B

theorem modEq_term (d a i W V : Nat) (h : V % d = W % d) : (V + a * (B ^ i % d)) % d = (W + a * B ^ i) % d :=
  Nat.ModEq.add h (Nat.ModEq.mul_left _ (Nat.mod_modEq _ _))

theorem Acc.limb (d x : Nat) (hx : x < B) : Acc d 0 (0, x) x :=
  ⟨x, ⟨B_pos, hx, by simp [v2]⟩, rfl, by omega⟩

theorem Acc.start {d : Nat} (hd0 : 0 < d) (hdB : d < B) (a i x : Nat) (ha : a < B) (hx : x < B) :
    Acc d 1 (mulAddLimb a (B ^ i % d) x) (x + a * B ^ i) := by
  have hl : B ^ i % d < d := Nat.mod_lt _ hd0
  have b := prod_le a (B ^ i % d) d ha hl
  refine ⟨_, mulAddLimb_pair a _ x ha (by omega) hx, ?_, by omega⟩
  rw [Nat.add_comm]; exact modEq_term d a i x x rfl

theorem Acc.accMul {d K k : Nat} {s : Nat × Nat} {W : Nat} (hd0 : 0 < d) (hdB : d < B) (hK : K * d ≤ B + K) (hk : k + 1 ≤ K)
    (h : Acc d k s W) (a i : Nat) (ha : a < B) : Acc d (k + 1) (accMul s a (B ^ i % d)) (W + a * B ^ i) := by
  obtain ⟨V, hp, hm, hb⟩ := h
  have hl : B ^ i % d < d := Nat.mod_lt _ hd0
  have b := prod_le a (B ^ i % d) d ha hl
  have hf := prods_fit K d hK
  have hmono : (k + 1) * ((B - 1) * (d - 1)) ≤ K * ((B - 1) * (d - 1)) := Nat.mul_le_mul_right _ hk
  have e : (k + 1) * ((B - 1) * (d - 1)) = k * ((B - 1) * (d - 1)) + (B - 1) * (d - 1) := by ring
  exact ⟨_, accMul_pair s V a _ hp ha (by omega) (by omega), modEq_term d a i W V hm, by omega⟩

theorem Acc.mulAcc {d K k : Nat} {s : Nat × Nat} {W : Nat} (hd0 : 0 < d) (hdB : d < B) (hK : K * d ≤ B + K) (hk : k + 1 ≤ K)
    (h : Acc d k s W) (a i : Nat) (ha : a < B) : Acc d (k + 1) (mulAcc a (B ^ i % d) s) (W + a * B ^ i) := by
  obtain ⟨V, hp, hm, hb⟩ := h
  have hl : B ^ i % d < d := Nat.mod_lt _ hd0
  have b := prod_le a (B ^ i % d) d ha hl
  have hf := prods_fit K d hK
  have hmono : (k + 1) * ((B - 1) * (d - 1)) ≤ K * ((B - 1) * (d - 1)) := Nat.mul_le_mul_right _ hk
  have e : (k + 1) * ((B - 1) * (d - 1)) = k * ((B - 1) * (d - 1)) + (B - 1) * (d - 1) := by ring
  refine ⟨_, mulAcc_pair a _ s V hp ha (by omega) (by omega), ?_, by omega⟩
  rw [Nat.add_comm]; exact modEq_term d a i W V hm

/-! ### the wrappers of divrem_euclidean_r_1.c: table of residues, closing division -/

/-- the closing division of the mpn_mod_1_k_wrap functions -/
theorem modWrapFinal_spec (sl sh d c : Nat) (hc : c ≤ 63) (h1 : B / 2 ≤ d * 2 ^ c) (h2 : d * 2 ^ c < B)
    (hsl : sl < B) (hsh : sh < d) :
    modWrapFinal sl sh c (d * 2 ^ c) (invert_limb (d * 2 ^ c)) = (sh * B + sl) % d := by
  obtain ⟨e1, e2⟩ := limb_split sl c hc
  have hshc : sh * 2 ^ c < d * 2 ^ c := Nat.mul_lt_mul_of_pos_right hsh (by positivity)
  have := scaled_step d c sl sh 0 hc h1 h2 hsh hsl (by positivity)
  rw [Nat.add_zero, Nat.add_zero] at this
  unfold modWrapFinal
  rw [e1, e2, Nat.shiftLeft_eq, Nat.mod_eq_of_lt (by omega), ← Nat.shiftRight_eq_div_pow,
    or_shift_sum sh sl c hsl (by omega), this, udiv_qrnnd_snd, Nat.shiftRight_eq_div_pow,
    Nat.mul_div_cancel _ (by positivity)]

/-- the power-of-B residues computed by the wraps: one preinv division per power -/
theorem wrap_pow_step (d c X : Nat) (h1 : B / 2 ≤ d * 2 ^ c) (h2 : d * 2 ^ c < B) (hX : X < d) :
    (udiv_qrnnd_preinv (X * 2 ^ c) 0 (d * 2 ^ c) (invert_limb (d * 2 ^ c))).2 = ((X * B) % d) * 2 ^ c := by
  have hp : 0 < 2 ^ c := by positivity
  have hlt : X * 2 ^ c < d * 2 ^ c := Nat.mul_lt_mul_of_pos_right hX hp
  rw [udiv_qrnnd_preinv_eq _ _ _ h1 h2 hlt B_pos, udiv_qrnnd_snd, Nat.add_zero]
  have : X * 2 ^ c * B = (X * B) * 2 ^ c := by ring
  rw [this, Nat.mul_mod_mul_right]

theorem wrap_pow_first (d : Nat) (hd0 : 0 < d) (hdB : d < B) :
    (udiv_qrnnd_preinv ((1 <<< count_leading_zeros d) % B) 0 (d * 2 ^ count_leading_zeros d)
      (invert_limb (d * 2 ^ count_leading_zeros d))).2 = (B % d) * 2 ^ count_leading_zeros d := by
  obtain ⟨hc, h1, h2⟩ := clz_spec d (by omega) hdB
  by_cases hd1 : d = 1
  · subst hd1; decide
  · have hp : 0 < 2 ^ count_leading_zeros d := by positivity
    have h1c : (1 <<< count_leading_zeros d) % B = 1 * 2 ^ count_leading_zeros d := by
      rw [Nat.shiftLeft_eq]
      apply Nat.mod_eq_of_lt
      have : 1 * 2 ^ count_leading_zeros d < d * 2 ^ count_leading_zeros d :=
        Nat.mul_lt_mul_of_pos_right (by omega) hp
      omega
    rw [h1c, wrap_pow_step d _ 1 h1 h2 (by omega), Nat.one_mul]

theorem shr_cancel (Y c : Nat) : (Y * 2 ^ c) >>> c = Y := by
  rw [Nat.shiftRight_eq_div_pow, Nat.mul_div_cancel _ (by positivity)]

/-! ### mpn_mod_1_1 -/

theorem fold1Step_pair (d db0 db1 : Nat) (st : Nat × Nat) (V xj : Nat) (hst : Pair2 st V) (hxj : xj < B)
    (hd : 2 * d ≤ B + 2) (hd0 : 0 < d) (hdb0 : db0 = B % d) (hdb1 : db1 = B ^ 2 % d) :
    ∃ V', Pair2 (fold1Step db0 db1 st xj) V' ∧ V' % d = (V * B + xj) % d := by
  obtain ⟨s1, s2, s3⟩ := hst
  have hdB : d < B := by have := B_eq; omega
  subst hdb1
  rw [show db0 = B ^ 1 % d by rw [hdb0, pow_one]]
  obtain ⟨V', hp, hm, -⟩ := (Acc.start hd0 hdB st.2 1 xj s2 hxj).mulAcc hd0 hdB hd (by omega) st.1 2 s1
  simp only [v2] at s3
  exact ⟨V', hp, by rw [hm, ← s3]; congr 1; ring⟩

theorem valMS_congr (d : Nat) (l : List Nat) (a a' : Nat) (h : a % d = a' % d) : valMS a l % d = valMS a' l % d := by
  rw [valMS_mod, h, ← valMS_mod]

theorem foldFin_spec (d db0 th tl : Nat) (hd0 : 0 < d) (hdB : d < B) (hdb0 : db0 = B % d) (hth : th < B) (htl : tl < B) :
    ((foldFin db0 th tl).2 * B + (foldFin db0 th tl).1) % d = (th * B + tl) % d ∧
    (foldFin db0 th tl).2 < d ∧ (foldFin db0 th tl).1 < B := by
  have hdb0lt : db0 < d := by rw [hdb0]; exact Nat.mod_lt _ hd0
  obtain ⟨-, hl, e⟩ := mulAddLimb_pair th db0 tl hth (by omega : db0 < B) htl
  change (foldFin db0 th tl).2 * B + (foldFin db0 th tl).1 = th * db0 + tl at e
  change (foldFin db0 th tl).1 < B at hl
  refine ⟨?_, ?_, hl⟩
  · rw [e, hdb0]
    exact Nat.ModEq.add_right _ (Nat.ModEq.mul_left _ (Nat.mod_modEq _ _))
  · have b1 : th * db0 ≤ (B - 1) * (d - 1) := Nat.mul_le_mul (by omega) (by omega)
    have : (foldFin db0 th tl).2 * B < d * B := by
      have h1 : (B - 1) * (d - 1) ≤ B * (d - 1) := Nat.mul_le_mul_right _ (Nat.sub_le _ _)
      have h2 : B * (d - 1) + B = d * B := by
        rw [← Nat.mul_succ, Nat.succ_eq_add_one, Nat.sub_add_cancel hd0, Nat.mul_comm]
      omega
    exact Nat.lt_of_mul_lt_mul_right this

theorem mod_1_1Go_spec (d db0 db1 : Nat) (hd : 2 * d ≤ B + 2) (hd0 : 0 < d) (hdb0 : db0 = B % d)
    (hdb1 : db1 = B ^ 2 % d) (rest : List Nat) (h l : Nat) (hh : h < B) (hl : l < B) (hrest : Limbs rest) :
    ((mod_1_1Go db0 db1 rest h l).2 * B + (mod_1_1Go db0 db1 rest h l).1) % d = valMS (h * B + l) rest % d ∧
    (mod_1_1Go db0 db1 rest h l).2 < d ∧ (mod_1_1Go db0 db1 rest h l).1 < B := by
  have hdB : d < B := by have := B_eq; omega
  have hfold : ∀ (rest : List Nat) (st : Nat × Nat) (V : Nat), Pair2 st V → Limbs rest →
      ∃ V', Pair2 (rest.foldl (fold1Step db0 db1) st) V' ∧ V' % d = valMS V rest % d := by
    intro rest
    induction rest with
    | nil => intro st V hst _; exact ⟨V, hst, rfl⟩
    | cons xj xs ih =>
      intro st V hst hlim
      have ⟨hxj, hxs⟩ := Limbs_cons.mp hlim
      obtain ⟨V1, p1, e1⟩ := fold1Step_pair d db0 db1 st V xj hst hxj hd hd0 hdb0 hdb1
      obtain ⟨V2, p2, e2⟩ := ih _ V1 p1 hxs
      refine ⟨V2, by rw [List.foldl_cons]; exact p2, ?_⟩
      rw [e2, valMS_cons]; exact valMS_congr d xs _ _ e1
  obtain ⟨V', ⟨q1, q2, q3⟩, e⟩ := hfold rest (h, l) (h * B + l) ⟨hh, hl, rfl⟩ hrest
  unfold mod_1_1Go
  simp only
  obtain ⟨f1, f2, f3⟩ := foldFin_spec d db0 _ _ hd0 hdB hdb0 q1 q2
  refine ⟨?_, f2, f3⟩
  rw [f1, ← e]; simp only [v2] at q3; rw [q3]

theorem mod_1_1_wrap_spec (x : List Nat) (d : Nat) (hx : Limbs x) (hd0 : 0 < d) (hd : 2 * d ≤ B + 2) :
    mod_1_1_wrap x d = val x % d := by
  have hdB : d < B := by have := B_eq; omega
  rw [val_eq_valMS]
  unfold mod_1_1_wrap
  have hl := Limbs_reverse hx
  cases hrev : x.reverse with
  | nil => simp [valMS]
  | cons h t =>
    cases t with
    | nil => simp [valMS]
    | cons l rest =>
      rw [hrev] at hl
      have ⟨hh, hl'⟩ := Limbs_cons.mp hl
      have ⟨hll, hrest⟩ := Limbs_cons.mp hl'
      obtain ⟨hc, h1, h2⟩ := clz_spec d (by omega) hdB
      simp only
      rw [Nat.shiftLeft_eq d, Nat.mod_eq_of_lt h2, wrap_pow_first d hd0 hdB,
        wrap_pow_step d _ (B % d) h1 h2 (Nat.mod_lt _ hd0), shr_cancel, shr_cancel]
      have hdb1 : (B % d * B) % d = B ^ 2 % d := by rw [pow_two, Nat.mod_mul_mod]
      obtain ⟨g1, g2, g3⟩ := mod_1_1Go_spec d (B % d) ((B % d * B) % d) hd hd0 rfl hdb1 rest h l hh hll hrest
      rw [modWrapFinal_spec _ _ d _ hc h1 h2 g3 g2, g1, valMS_cons, valMS_cons, Nat.zero_mul, Nat.zero_add]

/-! ### mpn_mod_1_2 -/

theorem fold2Step_pair (d db0 db1 db2 xj1 xj th tl : Nat) (hxj1 : xj1 < B) (hxj : xj < B) (hth : th < B)
    (htl : tl < B) (hd : 3 * d ≤ B + 3) (hd0 : 0 < d) (hdb0 : db0 = B % d) (hdb1 : db1 = B ^ 2 % d)
    (hdb2 : db2 = B ^ 3 % d) :
    ∃ V', Pair2 (fold2Step db0 db1 db2 xj1 xj th tl) V' ∧ V' % d = ((th * B + tl) * B ^ 2 + xj1 * B + xj) % d := by
  have hdB : d < B := by have := B_eq; omega
  subst hdb1 hdb2
  rw [show db0 = B ^ 1 % d by rw [hdb0, pow_one]]
  obtain ⟨V', hp, hm, -⟩ := ((Acc.start hd0 hdB xj1 1 xj hxj1 hxj).accMul hd0 hdB hd (by omega) tl 2 htl).mulAcc
    hd0 hdB hd (by omega) th 3 hth
  exact ⟨V', hp, by rw [hm]; congr 1; ring⟩

theorem mod_1_2Go_pair (db0 db1 db2 xj1 xj : Nat) (xs : List Nat) (th tl : Nat) :
    mod_1_2Go db0 db1 db2 (xj1 :: xj :: xs) th tl =
      mod_1_2Go db0 db1 db2 xs (fold2Step db0 db1 db2 xj1 xj th tl).1 (fold2Step db0 db1 db2 xj1 xj th tl).2 := rfl
theorem mod_1_2Go_one (db0 db1 db2 x0 th tl : Nat) :
    mod_1_2Go db0 db1 db2 [x0] th tl =
      foldFin db0 (fold1Step db0 db1 (th, tl) x0).1 (fold1Step db0 db1 (th, tl) x0).2 := rfl
theorem mod_1_2Go_nil (db0 db1 db2 th tl : Nat) : mod_1_2Go db0 db1 db2 [] th tl = foldFin db0 th tl := rfl

theorem mod_1_2Go_spec (d db0 db1 db2 : Nat) (hd : 3 * d ≤ B + 3) (hd0 : 0 < d) (hdb0 : db0 = B % d)
    (hdb1 : db1 = B ^ 2 % d) (hdb2 : db2 = B ^ 3 % d) (rest : List Nat) :
    ∀ th tl, th < B → tl < B → Limbs rest →
    ((mod_1_2Go db0 db1 db2 rest th tl).2 * B + (mod_1_2Go db0 db1 db2 rest th tl).1) % d =
      valMS (th * B + tl) rest % d ∧
    (mod_1_2Go db0 db1 db2 rest th tl).2 < d ∧ (mod_1_2Go db0 db1 db2 rest th tl).1 < B := by
  have hdB : d < B := by have := B_eq; omega
  induction rest using list_pair_induction with
  | h0 =>
    intro th tl hth htl _
    rw [mod_1_2Go_nil]
    exact foldFin_spec d db0 th tl hd0 hdB hdb0 hth htl
  | h1 x0 =>
    intro th tl hth htl hl
    have ⟨hx0, _⟩ := Limbs_cons.mp hl
    rw [mod_1_2Go_one]
    obtain ⟨V', ⟨q1, q2, q3⟩, e⟩ := fold1Step_pair d db0 db1 (th, tl) (th * B + tl) x0 ⟨hth, htl, rfl⟩ hx0
      (by omega) hd0 hdb0 hdb1
    obtain ⟨f1, f2, f3⟩ := foldFin_spec d db0 _ _ hd0 hdB hdb0 q1 q2
    refine ⟨?_, f2, f3⟩
    simp only [v2] at q3
    rw [f1, q3, e, valMS_cons]; rfl
  | h2 xj1 xj xs ih =>
    intro th tl hth htl hl
    have ⟨hxj1, hl'⟩ := Limbs_cons.mp hl
    have ⟨hxj, hxs⟩ := Limbs_cons.mp hl'
    rw [mod_1_2Go_pair]
    obtain ⟨V', ⟨q1, q2, q3⟩, e⟩ := fold2Step_pair d db0 db1 db2 xj1 xj th tl hxj1 hxj hth htl hd hd0 hdb0 hdb1 hdb2
    obtain ⟨g1, g2, g3⟩ := ih _ _ q1 q2 hxs
    refine ⟨?_, g2, g3⟩
    simp only [v2] at q3
    rw [g1, q3, valMS_cons, valMS_cons]
    apply valMS_congr
    have : ((th * B + tl) * B + xj1) * B + xj = (th * B + tl) * B ^ 2 + xj1 * B + xj := by ring
    rw [e, this]

/-! ### mpn_mod_1_3 -/

theorem fold3Step_pair (d db0 db1 db2 db3 xj2 xj1 xj th tl : Nat) (hxj2 : xj2 < B) (hxj1 : xj1 < B) (hxj : xj < B)
    (hth : th < B) (htl : tl < B) (hd : 4 * d ≤ B + 4) (hd0 : 0 < d) (hdb0 : db0 = B % d)
    (hdb1 : db1 = B ^ 2 % d) (hdb2 : db2 = B ^ 3 % d) (hdb3 : db3 = B ^ 4 % d) :
    ∃ V', Pair2 (fold3Step db0 db1 db2 db3 xj2 xj1 xj th tl) V' ∧
      V' % d = ((th * B + tl) * B ^ 3 + xj2 * B ^ 2 + xj1 * B + xj) % d := by
  have hdB : d < B := by have := B_eq; omega
  subst hdb1 hdb2 hdb3
  rw [show db0 = B ^ 1 % d by rw [hdb0, pow_one]]
  obtain ⟨V', hp, hm, -⟩ := (((Acc.start hd0 hdB xj1 1 xj hxj1 hxj).accMul hd0 hdB hd (by omega) xj2 2 hxj2).accMul
    hd0 hdB hd (by omega) tl 3 htl).mulAcc hd0 hdB hd (by omega) th 4 hth
  exact ⟨V', hp, by rw [hm]; congr 1; ring⟩

/-- the one-limb tail of mod_1_3: `sh = 0; sl = xp[0]`, then tl·db0 and th·db1 -/
theorem tail3b_pair (d db0 db1 x0 th tl : Nat) (hx0 : x0 < B) (hth : th < B) (htl : tl < B)
    (hd : 2 * d ≤ B + 2) (hd0 : 0 < d) (hdb0 : db0 = B % d) (hdb1 : db1 = B ^ 2 % d) :
    ∃ V', Pair2 (mulAcc th db1 (accMul (0, x0) tl db0)) V' ∧ V' % d = ((th * B + tl) * B + x0) % d := by
  have hdB : d < B := by have := B_eq; omega
  subst hdb1
  rw [show db0 = B ^ 1 % d by rw [hdb0, pow_one]]
  obtain ⟨V', hp, hm, -⟩ := ((Acc.limb d x0 hx0).accMul hd0 hdB hd (by omega) tl 1 htl).mulAcc hd0 hdB hd (by omega) th 2 hth
  exact ⟨V', hp, by rw [hm]; congr 1; ring⟩

theorem mod_1_3Go_triple (db0 db1 db2 db3 xj2 xj1 xj : Nat) (xs : List Nat) (th tl : Nat) :
    mod_1_3Go db0 db1 db2 db3 (xj2 :: xj1 :: xj :: xs) th tl =
      mod_1_3Go db0 db1 db2 db3 xs (fold3Step db0 db1 db2 db3 xj2 xj1 xj th tl).1
        (fold3Step db0 db1 db2 db3 xj2 xj1 xj th tl).2 := rfl
theorem mod_1_3Go_two (db0 db1 db2 db3 x1 x0 th tl : Nat) :
    mod_1_3Go db0 db1 db2 db3 [x1, x0] th tl =
      foldFin db0 (fold2Step db0 db1 db2 x1 x0 th tl).1 (fold2Step db0 db1 db2 x1 x0 th tl).2 := rfl
theorem mod_1_3Go_one (db0 db1 db2 db3 x0 th tl : Nat) :
    mod_1_3Go db0 db1 db2 db3 [x0] th tl =
      foldFin db0 (mulAcc th db1 (accMul (0, x0) tl db0)).1 (mulAcc th db1 (accMul (0, x0) tl db0)).2 := rfl
theorem mod_1_3Go_nil (db0 db1 db2 db3 th tl : Nat) :
    mod_1_3Go db0 db1 db2 db3 [] th tl = foldFin db0 th tl := rfl

theorem list_triple_induction {P : List Nat → Prop} (h0 : P []) (h1 : ∀ x, P [x]) (h2 : ∀ x y, P [x, y])
    (h3 : ∀ x y z xs, P xs → P (x :: y :: z :: xs)) : ∀ l, P l
  | [] => h0
  | [x] => h1 x
  | [x, y] => h2 x y
  | x :: y :: z :: xs => h3 x y z xs (list_triple_induction h0 h1 h2 h3 xs)

theorem mod_1_3Go_spec (d db0 db1 db2 db3 : Nat) (hd : 4 * d ≤ B + 4) (hd0 : 0 < d) (hdb0 : db0 = B % d)
    (hdb1 : db1 = B ^ 2 % d) (hdb2 : db2 = B ^ 3 % d) (hdb3 : db3 = B ^ 4 % d) (rest : List Nat) :
    ∀ th tl, th < B → tl < B → Limbs rest →
    ((mod_1_3Go db0 db1 db2 db3 rest th tl).2 * B + (mod_1_3Go db0 db1 db2 db3 rest th tl).1) % d =
      valMS (th * B + tl) rest % d ∧
    (mod_1_3Go db0 db1 db2 db3 rest th tl).2 < d ∧ (mod_1_3Go db0 db1 db2 db3 rest th tl).1 < B := by
  have hdB : d < B := by have := B_eq; omega
  induction rest using list_triple_induction with
  | h0 =>
    intro th tl hth htl _
    rw [mod_1_3Go_nil]
    exact foldFin_spec d db0 th tl hd0 hdB hdb0 hth htl
  | h1 x0 =>
    intro th tl hth htl hl
    have ⟨hx0, _⟩ := Limbs_cons.mp hl
    rw [mod_1_3Go_one]
    obtain ⟨V', ⟨q1, q2, q3⟩, e⟩ := tail3b_pair d db0 db1 x0 th tl hx0 hth htl (by omega) hd0 hdb0 hdb1
    obtain ⟨f1, f2, f3⟩ := foldFin_spec d db0 _ _ hd0 hdB hdb0 q1 q2
    refine ⟨?_, f2, f3⟩
    simp only [v2] at q3
    rw [f1, q3, e, valMS_cons]; rfl
  | h2 x1 x0 =>
    intro th tl hth htl hl
    have ⟨hx1, hl'⟩ := Limbs_cons.mp hl
    have ⟨hx0, _⟩ := Limbs_cons.mp hl'
    rw [mod_1_3Go_two]
    obtain ⟨V', ⟨q1, q2, q3⟩, e⟩ := fold2Step_pair d db0 db1 db2 x1 x0 th tl hx1 hx0 hth htl (by omega) hd0
      hdb0 hdb1 hdb2
    obtain ⟨f1, f2, f3⟩ := foldFin_spec d db0 _ _ hd0 hdB hdb0 q1 q2
    refine ⟨?_, f2, f3⟩
    simp only [v2] at q3
    have : valMS (th * B + tl) [x1, x0] = (th * B + tl) * B ^ 2 + x1 * B + x0 := by
      rw [valMS_cons, valMS_cons]; show ((th * B + tl) * B + x1) * B + x0 = _; ring
    rw [f1, q3, e, this]
  | h3 xj2 xj1 xj xs ih =>
    intro th tl hth htl hl
    have ⟨hxj2, hl'⟩ := Limbs_cons.mp hl
    have ⟨hxj1, hl''⟩ := Limbs_cons.mp hl'
    have ⟨hxj, hxs⟩ := Limbs_cons.mp hl''
    rw [mod_1_3Go_triple]
    obtain ⟨V', ⟨q1, q2, q3⟩, e⟩ := fold3Step_pair d db0 db1 db2 db3 xj2 xj1 xj th tl hxj2 hxj1 hxj hth htl hd hd0
      hdb0 hdb1 hdb2 hdb3
    obtain ⟨g1, g2, g3⟩ := ih _ _ q1 q2 hxs
    refine ⟨?_, g2, g3⟩
    simp only [v2] at q3
    rw [g1, q3, valMS_cons, valMS_cons, valMS_cons]
    apply valMS_congr
    have : (((th * B + tl) * B + xj2) * B + xj1) * B + xj =
        (th * B + tl) * B ^ 3 + xj2 * B ^ 2 + xj1 * B + xj := by ring
    rw [e, this]

/-! ### mpn_mod_1_2_wrap, mpn_mod_1_3_wrap, mpn_divrem_euclidean_r_1 -/

theorem pow_mod_step (d k : Nat) : (B ^ k % d * B) % d = B ^ (k + 1) % d := by
  rw [pow_succ, Nat.mod_mul_mod]

theorem mod_1_2_wrap_spec (x : List Nat) (d : Nat) (hx : Limbs x) (hd0 : 0 < d) (hd : 3 * d ≤ B + 3) :
    mod_1_2_wrap x d = val x % d := by
  have hdB : d < B := by have := B_eq; omega
  rw [val_eq_valMS]
  unfold mod_1_2_wrap
  have hl := Limbs_reverse hx
  cases hrev : x.reverse with
  | nil => simp [valMS]
  | cons h t =>
    cases t with
    | nil => simp [valMS]
    | cons l rest =>
      rw [hrev] at hl
      have ⟨hh, hl'⟩ := Limbs_cons.mp hl
      have ⟨hll, hrest⟩ := Limbs_cons.mp hl'
      obtain ⟨hc, h1, h2⟩ := clz_spec d (by omega) hdB
      have hm := fun k => Nat.mod_lt (B ^ k) hd0
      have hB1 : B % d = B ^ 1 % d := by rw [pow_one]
      simp only
      rw [Nat.shiftLeft_eq d, Nat.mod_eq_of_lt h2, wrap_pow_first d hd0 hdB, hB1,
        wrap_pow_step d _ _ h1 h2 (hm 1), pow_mod_step, wrap_pow_step d _ _ h1 h2 (hm 2), pow_mod_step,
        shr_cancel, shr_cancel, shr_cancel]
      obtain ⟨g1, g2, g3⟩ := mod_1_2Go_spec d _ _ _ hd hd0 hB1.symm rfl rfl rest h l hh hll hrest
      rw [modWrapFinal_spec _ _ d _ hc h1 h2 g3 g2, g1, valMS_cons, valMS_cons, Nat.zero_mul, Nat.zero_add]

theorem mod_1_3_wrap_spec (x : List Nat) (d : Nat) (hx : Limbs x) (hd0 : 0 < d) (hd : 4 * d ≤ B + 4) :
    mod_1_3_wrap x d = val x % d := by
  have hdB : d < B := by have := B_eq; omega
  rw [val_eq_valMS]
  unfold mod_1_3_wrap
  have hl := Limbs_reverse hx
  cases hrev : x.reverse with
  | nil => simp [valMS]
  | cons h t =>
    cases t with
    | nil => simp [valMS]
    | cons l rest =>
      rw [hrev] at hl
      have ⟨hh, hl'⟩ := Limbs_cons.mp hl
      have ⟨hll, hrest⟩ := Limbs_cons.mp hl'
      obtain ⟨hc, h1, h2⟩ := clz_spec d (by omega) hdB
      have hm := fun k => Nat.mod_lt (B ^ k) hd0
      have hB1 : B % d = B ^ 1 % d := by rw [pow_one]
      simp only
      rw [Nat.shiftLeft_eq d, Nat.mod_eq_of_lt h2, wrap_pow_first d hd0 hdB, hB1,
        wrap_pow_step d _ _ h1 h2 (hm 1), pow_mod_step, wrap_pow_step d _ _ h1 h2 (hm 2), pow_mod_step,
        wrap_pow_step d _ _ h1 h2 (hm 3), pow_mod_step,
        shr_cancel, shr_cancel, shr_cancel, shr_cancel]
      obtain ⟨g1, g2, g3⟩ := mod_1_3Go_spec d _ _ _ _ hd hd0 hB1.symm rfl rfl rfl rest h l hh hll hrest
      rw [modWrapFinal_spec _ _ d _ hc h1 h2 g3 g2, g1, valMS_cons, valMS_cons, Nat.zero_mul, Nat.zero_add]

theorem divrem_euclidean_r_1_spec (x : List Nat) (d : Nat) (hx : Limbs x) (hd0 : 0 < d) (hdB : d < B) :
    divrem_euclidean_r_1 x d = val x % d := by
  unfold divrem_euclidean_r_1
  simp only [Bool.and_eq_true, decide_eq_true_eq]
  have hH : HIGHBIT = 9223372036854775808 := by unfold HIGHBIT; rw [B_eq]
  have hM : LIMB_MAX = 18446744073709551615 := by unfold LIMB_MAX; rw [B_eq]
  split
  · rename_i h
    exact mod_1_3_wrap_spec x d hx hd0 (by have := h.1; rw [hH] at this; simp only [B_eq]; omega)
  · split
    · rename_i h
      exact mod_1_2_wrap_spec x d hx hd0 (by have := h.1; rw [hM] at this; simp only [B_eq]; omega)
    · split
      · rename_i h
        exact mod_1_1_wrap_spec x d hx hd0 (by have := h.1; rw [hH] at this; simp only [B_eq]; omega)
      · obtain ⟨hs, h1, h2⟩ := clz_spec d (by omega) hdB
        rw [Nat.shiftLeft_eq, Nat.mod_eq_of_lt h2]
        have := euclidLoop_eq d _ hs h1 h2 x.reverse 0 hd0 (Limbs_reverse hx)
        rw [Nat.zero_mul] at this
        rw [this]
        simp only
        rw [shr_cancel, plainLoop_rem d _ _ hd0 (Limbs_reverse hx), ← val_eq_valMS]


/-! ### mpn_divrem_1 (divrem_1.c:102-108 and the whole function) -/

/-- the Hensel path of mpn_divrem_1 (divrem_1.c:102-108): remainder by mpn_divrem_euclidean_r_1,
    quotient by the 2-adic division of n − r by the odd part of d, shifted right on the fly -/
theorem divrem_1_hensel_path (u : List Nat) (d : Nat) (hu : Limbs u) (hne : u ≠ []) (hd0 : 0 < d) (hdB : d < B) :
    Divrem1Spec 0 u d
      ((rsh_divrem_hensel_qr_1 u (d >>> count_trailing_zeros d) (count_trailing_zeros d)
        (divrem_euclidean_r_1 u d)).1, divrem_euclidean_r_1 u d) := by
  rw [divrem_euclidean_r_1_spec u d hu hd0 hdB]
  obtain ⟨hdvd, hodd, hi⟩ := ctz_spec d hd0 hdB
  generalize count_trailing_zeros d = i at *
  rw [Nat.shiftRight_eq_div_pow]
  have hd' : d = 2 ^ i * (d / 2 ^ i) := (Nat.mul_div_cancel' hdvd).symm
  have hd'le : d / 2 ^ i ≤ d := Nat.div_le_self _ _
  generalize d / 2 ^ i = d' at *
  have hr : val u % d < d := Nat.mod_lt _ hd0
  have hspec := rsh_divrem_hensel_qr_1_spec u d' i (val u % d) hu hne hodd (by omega) hi (by omega)
  have hdvd' : d' ∣ val u - val u % d :=
    Dvd.dvd.trans ⟨2 ^ i, by rw [hd', Nat.mul_comm]⟩ (Nat.dvd_sub_mod (val u))
  obtain ⟨e1, e2, e3⟩ := hensel_exact u d' i (val u % d) _ hspec hodd (Nat.mod_le _ _) hdvd'
  refine ⟨?_, hr, e2, by rw [e3, Nat.add_zero]⟩
  simp only
  rw [e1, Nat.div_div_eq_div_mul, Nat.mul_comm d' (2 ^ i), ← hd', pow_zero, Nat.mul_one]
  have h1 : (val u - val u % d) / d = val u / d := by
    have := Nat.div_add_mod (val u) d
    have h2 : val u - val u % d = d * (val u / d) := by omega
    rw [h2, Nat.mul_div_cancel_left _ hd0]
  rw [h1, Nat.mul_comm]; exact Nat.div_add_mod _ _

theorem divrem_1_spec (qxn : Nat) (u : List Nat) (d : Nat) (hu : Limbs u) (hd0 : 0 < d) (hdB : d < B) :
    Divrem1Spec qxn u d (divrem_1 qxn u d) := by
  by_cases hnh : (decide (qxn = 0) && (decide (d ≤ HIGHBIT / 2 + 1) &&
      ABOVE_THRESHOLD u.length Gen.DIVREM_EUCLID_HENSEL_THRESHOLD)) = false
  · exact divrem_1_spec_nohensel qxn u d hu hd0 hdB hnh
  · rw [Bool.not_eq_false] at hnh
    unfold divrem_1
    simp only [hnh, if_true]
    split
    · rename_i h0
      have hu0 : u = [] := List.eq_nil_of_length_eq_zero (by omega)
      have hq0 : qxn = 0 := by omega
      subst hu0 hq0
      exact ⟨by simp, hd0, Limbs_nil, rfl⟩
    · rename_i hn0
      have hq : qxn = 0 := by
        simp only [Bool.and_eq_true, decide_eq_true_eq] at hnh; exact hnh.1
      subst hq
      have hne : u ≠ [] := by
        intro h; subst h; simp at hn0
      exact divrem_1_hensel_path u d hu hne hd0 hdB


end Mpir.DivWord
