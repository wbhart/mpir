/- Helper lemmas for the accumulating multiplies of the mpz object layer: `mpz_aorsmul_1`
   (mpz/aorsmul_i.c) and `mpz_aorsmul` (mpz/aorsmul.c) as modelled in Mpir/Model/Mpz.lean. -/
import MpirProofs.Lemmas.Mpz
import MpirProofs.Lemmas.MpzKernel
namespace Mpir.Mpz
open Mpir

theorem mul_1c_spec (x : List Nat) (y cin : Nat) (hx : Limbs x) (hne : x ≠ []) (hy : y < B)
    (hc : cin < B) :
    val (mul_1c x y cin).1 + B ^ x.length * (mul_1c x y cin).2 = val x * y + cin ∧
    (mul_1c x y cin).2 < B ∧ Limbs (mul_1c x y cin).1 ∧ (mul_1c x y cin).1.length = x.length := by
  obtain ⟨mv, mc, ml, mn⟩ := mul_1_val' x y hx hy
  obtain ⟨bv, bc, bl, bn⟩ := add_1_val' (mul_1 x y).1 cin ml (mn ▸ List.length_pos_iff.mpr hne) hc
  rw [mn] at bv bn
  have hcs : val (add_1 (mul_1 x y).1 cin).1 + B ^ x.length * ((mul_1 x y).2 + (add_1 (mul_1 x y).1 cin).2)
      = val x * y + cin := by linear_combination bv + mv
  have hsum := carry_sum_lt (val_lt x hx) hy hc hcs
  unfold mul_1c
  dsimp only
  rw [Nat.mod_eq_of_lt hsum]
  exact ⟨hcs, hsum, bl, bn⟩

theorem aorsmul_1_add_spec (wp xp : List Nat) (y : Nat) (hw : Norm wp) (hx : Norm xp)
    (hwne : wp ≠ []) (hxne : xp ≠ []) (hy : y < B) (hy0 : y ≠ 0) :
    IsMag (aorsmul_1_add wp xp y).2 (aorsmul_1_add wp xp y).1 (val wp + val xp * y) ∧
    (aorsmul_1_add wp xp y).1 ≤ max wp.length xp.length + 1 := by
  -- whatever the relative sizes, aorsmul_i.c:130-131 finds max(wsize, xsize) limbs `buf` and a carry limb `c` with
  -- buf + B^max·c = w + x·y
  suffices h : ∃ buf c, aorsmul_1_add wp xp y =
        (max wp.length xp.length + (if c != 0 then 1 else 0),
          (buf ++ [c]).take (max wp.length xp.length + (if c != 0 then 1 else 0))) ∧
      Limbs buf ∧ buf.length = max wp.length xp.length ∧ c < B ∧
      val buf + B ^ max wp.length xp.length * c = val wp + val xp * y by
    obtain ⟨buf, c, e, hl, hn, hc, hv⟩ := h
    have hy1 : val xp * 1 ≤ val xp * y := Nat.mul_le_mul_left _ (Nat.pos_of_ne_zero hy0)
    have htot : B ^ (max wp.length xp.length - 1) ≤ val wp + val xp * y := by
      rcases Nat.le_total wp.length xp.length with h | h
      · rw [Nat.max_eq_right h]; have := hx.lower hxne; omega
      · rw [Nat.max_eq_left h]; have := hw.lower hwne; omega
    obtain ⟨tv, tl, tn⟩ := take_carry buf c _ hn hl hc (Or.inr (hv ▸ htot))
    rw [e]
    exact ⟨⟨tv.trans hv, tl, tn⟩, by split_ifs <;> omega⟩
  unfold aorsmul_1_add
  dsimp only
  rcases Nat.lt_trichotomy xp.length wp.length with hlt | heq | hgt
  · -- xsize < wsize: the carry of addmul_1 goes into the rest of w
    have htl : (wp.take xp.length).length = xp.length := by rw [List.length_take]; omega
    obtain ⟨av, ac, al, an⟩ := addmul_1_val' (wp.take xp.length) xp y (Limbs_take hw.1 _) hx.1 hy htl
    obtain ⟨bv, bc, bl, bn⟩ := K.add_1_drop_val wp _ xp.length _ (val xp * y) hw.1 hlt al an ac av
    have hcB : (add_1 (wp.drop xp.length) (addmul_1 (wp.take xp.length) xp y).2).2 < B := by
      have := B_eq; omega
    simp only [Nat.min_eq_right hlt.le, Nat.max_eq_left hlt.le, bne_iff_ne.mpr hlt.ne, if_true,
      if_neg (Nat.lt_asymm hlt), List.take_length, Nat.zero_add, Nat.mod_eq_of_lt hcB]
    exact ⟨_, _, rfl, bl, bn, hcB, bv⟩
  · -- xsize = wsize
    obtain ⟨av, ac, al, an⟩ := addmul_1_val' wp xp y hw.1 hx.1 hy heq.symm
    simp only [Nat.min_eq_left heq.ge, Nat.max_eq_left heq.le, bne_eq_false_iff_eq.mpr heq, Bool.false_eq_true,
      if_false, List.take_length, List.take_of_length_le heq.le, List.append_nil]
    exact ⟨_, _, rfl, al, an.trans heq, ac, heq ▸ av⟩
  · -- xsize > wsize: `MPN_MUL_1C` on the rest of x with the carry of addmul_1
    have htl : (xp.take wp.length).length = wp.length := by rw [List.length_take]; omega
    have hdl : (xp.drop wp.length).length = xp.length - wp.length := List.length_drop
    obtain ⟨av, ac, al, an⟩ := addmul_1_val' wp (xp.take wp.length) y hw.1 (Limbs_take hx.1 _) hy htl.symm
    rw [htl] at av an
    obtain ⟨mv, mc, ml, mn⟩ := mul_1c_spec (xp.drop wp.length) y (addmul_1 wp (xp.take wp.length) y).2
      (Limbs_drop hx.1 _) (fun h => by rw [h, List.length_nil] at hdl; omega) hy ac
    have e := K.val_append_carry an av mv
    rw [hdl] at e mn
    rw [Nat.add_sub_cancel' hgt.le] at e
    simp only [Nat.min_eq_left hgt.le, Nat.max_eq_right hgt.le, bne_iff_ne.mpr hgt.ne', if_true, if_pos hgt,
      List.take_length]
    refine ⟨_ ++ (mul_1c (xp.drop wp.length) y (addmul_1 wp (xp.take wp.length) y).2).1,
      (mul_1c (xp.drop wp.length) y (addmul_1 wp (xp.take wp.length) y).2).2, rfl,
      Limbs_append.mpr ⟨al, ml⟩, by rw [List.length_append, an, mn]; omega, mc, ?_⟩
    rw [e, val_take_drop xp wp.length hgt.le]
    ring

/-- proof-side name for the first phase of `aorsmul_1_sub_ge` (aorsmul_i.c:141-142): the borrow `c` of submul_1 goes through
    the limbs of w above xsize -/
def subGeBorrow (wp : List Nat) (xs : Nat) (c : Nat) : List Nat × Nat :=
  if wp.length != xs then sub_1 (wp.drop xs) c else ([], c)

/-- proof-side name for its second phase (aorsmul_i.c:144-152, :185): on a borrow out the two's complement, sign flipped -/
def subGeFix (buf : List Nat) (cy : Nat) : Bool × List Nat :=
  if cy != 0 then (true, normalize (incr (com_n buf ++ [B - 1 - (B - cy) % B])).1)
  else (false, normalize buf)

theorem aorsmul_1_sub_ge_eq (wp xp : List Nat) (y : Nat) :
    aorsmul_1_sub_ge wp xp y =
      subGeFix ((submul_1 (wp.take xp.length) xp y).1 ++
          (subGeBorrow wp xp.length (submul_1 (wp.take xp.length) xp y).2).1)
        (subGeBorrow wp xp.length (submul_1 (wp.take xp.length) xp y).2).2 := rfl

theorem subGeBorrow_spec (wp : List Nat) (xs c : Nat) (lo : List Nat) (hw : Limbs wp) (hc : c < B)
    (hle : xs ≤ wp.length) (hlo : Limbs lo) (hln : lo.length = xs) :
    Limbs (lo ++ (subGeBorrow wp xs c).1) ∧ (lo ++ (subGeBorrow wp xs c).1).length = wp.length ∧
    val (lo ++ (subGeBorrow wp xs c).1) + B ^ xs * c =
      val lo + B ^ xs * val (wp.drop xs) + B ^ wp.length * (subGeBorrow wp xs c).2 ∧
    (subGeBorrow wp xs c).2 < B := by
  unfold subGeBorrow
  by_cases he : wp.length = xs
  · have e : (wp.length != xs) = false := by simp [he]
    rw [e]
    have hd : wp.drop xs = [] := by simp [he]
    simp only [Bool.false_eq_true, if_false, List.append_nil, hd, val_nil, Nat.mul_zero, Nat.add_zero]
    exact ⟨hlo, by omega, by rw [he], hc⟩
  · have e : (wp.length != xs) = true := by simp [he]
    rw [e]
    simp only [if_true]
    have hdl : (wp.drop xs).length = wp.length - xs := by simp
    obtain ⟨bv, bc, bl, bn⟩ := sub_1_val' (wp.drop xs) c (Limbs_drop hw _) (by omega) hc
    refine ⟨Limbs_append.mpr ⟨hlo, bl⟩, by simp [hln, bn, hdl]; omega, ?_, by have := B_eq; omega⟩
    rw [val_append, hln]
    have hp : B ^ wp.length = B ^ xs * B ^ (wp.length - xs) := by
      rw [← pow_add]; congr 1; omega
    rw [hp]; rw [hdl] at bv
    linear_combination B ^ xs * bv

theorem subGeFix_spec (buf : List Nat) (cy n : Nat) (hbl : Limbs buf) (hbn : buf.length = n)
    (hc : cy < B) :
    Norm (subGeFix buf cy).2 ∧ (subGeFix buf cy).2.length ≤ n + 1 ∧
    (if (subGeFix buf cy).1 = true then val (subGeFix buf cy).2 + val buf = B ^ n * cy
     else val (subGeFix buf cy).2 = val buf ∧ cy = 0) := by
  unfold subGeFix
  by_cases hc0 : cy = 0
  · have e : (cy != 0) = false := by simp [hc0]
    rw [e]
    simp only [Bool.false_eq_true, if_false]
    exact ⟨Norm_normalize hbl, by have := normalize_length_le buf; omega, val_normalize _, hc0⟩
  · have e : (cy != 0) = true := by simp [hc0]
    rw [e]
    simp only [if_true]
    obtain ⟨k, hk⟩ : ∃ k, cy = k + 1 := ⟨cy - 1, by omega⟩
    subst hk
    have htop : B - 1 - (B - (k + 1)) % B = k := by
      rw [Nat.mod_eq_of_lt (by omega)]; omega
    rw [htop]
    obtain ⟨cv, cl, cn⟩ := com_n_val' buf hbl
    have hb1l : Limbs (com_n buf ++ [k]) :=
      Limbs_append.mpr ⟨cl, Limbs_cons.mpr ⟨by omega, Limbs_nil⟩⟩
    obtain ⟨iv, ic, il, in_⟩ := incr_val (com_n buf ++ [k]) hb1l
    have hlen1 : (com_n buf ++ [k]).length = n + 1 := by simp [cn, hbn]
    rw [hlen1] at iv in_
    rw [val_append, cn, hbn] at iv
    simp only [val_cons, val_nil, Nat.mul_zero, Nat.add_zero] at iv
    have hup := val_lt _ il
    rw [in_, pow_succ] at hup
    rw [pow_succ] at iv
    rw [hbn] at cv
    generalize incr (com_n buf ++ [k]) = res at *
    generalize B ^ n = P at *
    have hk1 : P * (k + 2) ≤ P * B := Nat.mul_le_mul_left _ (by omega)
    have e3 : P * (k + 1) = P * k + P := by ring
    have e4 : P * (k + 2) = P * k + P + P := by ring
    have hc' : res.2 = 0 := by
      rcases Nat.le_one_iff_eq_zero_or_eq_one.mp ic with h | h
      · exact h
      · rw [h] at iv; omega
    rw [hc'] at iv
    refine ⟨Norm_normalize il, by have := normalize_length_le res.1; omega, ?_⟩
    rw [val_normalize]
    omega

theorem aorsmul_1_sub_ge_spec (wp xp : List Nat) (y : Nat) (hw : Norm wp) (hx : Norm xp)
    (hy : y < B) (hle : xp.length ≤ wp.length) :
    Norm (aorsmul_1_sub_ge wp xp y).2 ∧ (aorsmul_1_sub_ge wp xp y).2.length ≤ wp.length + 1 ∧
    (if (aorsmul_1_sub_ge wp xp y).1 = true
      then val (aorsmul_1_sub_ge wp xp y).2 + val wp = val xp * y
      else val (aorsmul_1_sub_ge wp xp y).2 + val xp * y = val wp) := by
  have htl : (wp.take xp.length).length = xp.length := by simp; omega
  obtain ⟨sv, sc, sl, sn⟩ := submul_1_val' (wp.take xp.length) xp y (Limbs_take hw.1 _) hx.1 hy htl
  have hsplit := val_take_drop wp xp.length hle
  rw [aorsmul_1_sub_ge_eq]
  obtain ⟨b1, b2, b3, b4⟩ := subGeBorrow_spec wp xp.length (submul_1 (wp.take xp.length) xp y).2
    (submul_1 (wp.take xp.length) xp y).1 hw.1 sc hle sl sn
  obtain ⟨f1, f2, f3⟩ := subGeFix_spec _ _ wp.length b1 b2 b4
  refine ⟨f1, f2, ?_⟩
  generalize subGeFix _ _ = res at *
  generalize subGeBorrow wp xp.length (submul_1 (wp.take xp.length) xp y).2 = bw at *
  generalize submul_1 (wp.take xp.length) xp y = r at *
  generalize B ^ xp.length * val (wp.drop xp.length) = T at *
  by_cases hr : res.1 = true
  · rw [if_pos hr] at f3 ⊢; omega
  · rw [if_neg hr] at f3 ⊢
    obtain ⟨f3a, f3b⟩ := f3
    rw [f3b] at b3; omega

theorem take_carry_weak (r : List Nat) (c n : Nat) (hn : r.length = n) (hl : Limbs r) (hc : c < B) :
    val ((r ++ [c]).take (n + (if c != 0 then 1 else 0))) = val r + B ^ n * c ∧
    ((r ++ [c]).take (n + (if c != 0 then 1 else 0))).length = n + (if c != 0 then 1 else 0) ∧
    Limbs ((r ++ [c]).take (n + (if c != 0 then 1 else 0))) := by
  by_cases h0 : c = 0
  · subst h0
    simp only [bne_self_eq_false, Bool.false_eq_true, if_false, Nat.add_zero, Nat.mul_zero]
    rw [List.take_left' hn]
    exact ⟨rfl, hn, hl⟩
  · have hb : (c != 0) = true := by simp [h0]
    simp only [hb, if_true]
    rw [List.take_of_length_le (by simp [hn])]
    exact ⟨by rw [val_append, hn]; simp, by simp [hn],
      Limbs_append.mpr ⟨hl, Limbs_cons.mpr ⟨hc, Limbs_nil⟩⟩⟩

/-- aorsmul_i.c:165-170: `cy -= 1; cy2 = (cy == MAX); cy += cy2` on a limb. -/
theorem cy_fix (cy1 : Nat) (h : cy1 < B) :
    ((cy1 + B - 1) % B + (if ((cy1 + B - 1) % B == B - 1) = true then 1 else 0)) % B + 1
      = cy1 + (if ((cy1 + B - 1) % B == B - 1) = true then 1 else 0) ∧
    ((cy1 + B - 1) % B + (if ((cy1 + B - 1) % B == B - 1) = true then 1 else 0)) % B < B ∧
    (if ((cy1 + B - 1) % B == B - 1) = true then 1 else 0) ≤ 1 := by
  by_cases h0 : cy1 = 0
  · subst h0
    have e : (0 + B - 1) % B = B - 1 := by rw [Nat.zero_add]; exact Nat.mod_eq_of_lt (by have := B_pos; omega)
    rw [e]
    simp only [beq_self_eq_true, if_true]
    have e2 : B - 1 + 1 = B := by have := B_pos; omega
    rw [e2, Nat.mod_self]
    exact ⟨rfl, B_pos, le_refl _⟩
  · have e : (cy1 + B - 1) % B = cy1 - 1 := by
      have : cy1 + B - 1 = (cy1 - 1) + B := by omega
      rw [this, Nat.add_mod_right]; exact Nat.mod_eq_of_lt (by omega)
    rw [e]
    have e2 : (cy1 - 1 == B - 1) = false := by simp; omega
    rw [e2]
    simp only [Bool.false_eq_true, if_false, Nat.add_zero]
    rw [Nat.mod_eq_of_lt (by omega)]
    exact ⟨by omega, by omega, by omega⟩

/-- aorsmul_i.c:177-178: `MPN_DECR_U` by the held borrow `c ≤ 1`, which the limbs can pay -/
theorem decr_held (hi : List Nat) (c : Nat) (hl : Limbs hi) (hc : c ≤ 1) (hge : c ≤ val hi) :
    Limbs (if c != 0 then (decr hi).1 else hi) ∧ (if c != 0 then (decr hi).1 else hi).length = hi.length ∧
    val (if c != 0 then (decr hi).1 else hi) + c = val hi := by
  by_cases h0 : c = 0
  · subst h0
    exact ⟨hl, rfl, rfl⟩
  · obtain rfl : c = 1 := by omega
    obtain ⟨dv, dc, dl, dn⟩ := decr_val hi hl
    have hup := val_lt _ dl
    rw [dn] at hup
    have hc0 : (decr hi).2 = 0 := by
      by_contra h
      rw [show (decr hi).2 = 1 by omega] at dv
      omega
    rw [hc0] at dv
    exact ⟨dl, dn, dv⟩

/-- proof-side name for the part of `aorsmul_1_sub_lt` after the `submul_1` call -/
def subLtCore (ws xs : Nat) (xhi : List Nat) (y : Nat) (r : List Nat × Nat) : List Nat :=
  let a := add_1 (com_n r.1) 1
  let cy := ((r.2 + a.2) % B + B - 1) % B
  let cy2 := if cy == B - 1 then 1 else 0
  let m := mul_1c xhi y ((cy + cy2) % B)
  let n := xs + (if m.2 != 0 then 1 else 0)
  let hi := (m.1 ++ [m.2]).take (n - ws)
  normalize (a.1 ++ (if cy2 != 0 then (decr hi).1 else hi))

theorem aorsmul_1_sub_lt_eq (wp xp : List Nat) (y : Nat) :
    aorsmul_1_sub_lt wp xp y =
      subLtCore wp.length xp.length (xp.drop wp.length) y (submul_1 wp (xp.take wp.length) y) := rfl

theorem subLtCore_spec (ws xs : Nat) (xhi : List Nat) (y : Nat) (r : List Nat × Nat) (W Xlo : Nat)
    (hws : 1 ≤ ws) (hxs : ws < xs) (hxl : Limbs xhi) (hxn : xhi.length = xs - ws)
    (hxpos : 1 ≤ val xhi) (hy : y < B) (hy0 : y ≠ 0) (hrl : Limbs r.1) (hrn : r.1.length = ws)
    (hrc : r.2 < B) (hXlo : Xlo < B ^ ws) (hr : val r.1 + Xlo * y = W + B ^ ws * r.2) :
    Norm (subLtCore ws xs xhi y r) ∧ (subLtCore ws xs xhi y r).length ≤ xs + 1 ∧
    val (subLtCore ws xs xhi y r) + W = (Xlo + B ^ ws * val xhi) * y := by
  have hB := B_eq
  unfold subLtCore
  dsimp only
  -- two's complement of the low limbs
  obtain ⟨cv, cl, cn⟩ := com_n_val' r.1 hrl
  obtain ⟨av, ac, al, an⟩ := add_1_val' (com_n r.1) 1 cl (by omega) (by omega)
  rw [cn, hrn] at av an
  rw [hrn] at cv
  generalize add_1 (com_n r.1) 1 = a at *
  -- the borrow of submul_1 plus the carry of the negation fits a limb
  have hsum : r.2 + a.2 < B := by
    rcases Nat.le_one_iff_eq_zero_or_eq_one.mp ac with h | h
    · omega
    · rw [h] at av ⊢
      have hlo : val r.1 = 0 := by omega
      rw [hlo] at hr
      by_contra hge
      have h1 : B ^ ws * (B - 1) ≤ B ^ ws * r.2 := Nat.mul_le_mul_left _ (by omega)
      have h2 : Xlo * y ≤ Xlo * (B - 1) := Nat.mul_le_mul_left _ (by omega)
      have h3 : Xlo * (B - 1) < B ^ ws * (B - 1) := Nat.mul_lt_mul_of_pos_right hXlo (by omega)
      omega
  rw [Nat.mod_eq_of_lt hsum]
  obtain ⟨f1, f2, f3⟩ := cy_fix (r.2 + a.2) hsum
  generalize (if ((r.2 + a.2 + B - 1) % B == B - 1) = true then 1 else 0) = cy2 at *
  generalize ((r.2 + a.2 + B - 1) % B + cy2) % B = cyB at *
  -- the high limbs
  have hxne : xhi ≠ [] := by
    intro h; rw [h] at hxn; simp at hxn; omega
  obtain ⟨mv, mc, ml, mn⟩ := mul_1c_spec xhi y cyB hxl hxne hy f2
  rw [hxn] at mv mn
  generalize mul_1c xhi y cyB = m at *
  have e : xs + (if (m.2 != 0) = true then 1 else 0) - ws =
      (xs - ws) + (if (m.2 != 0) = true then 1 else 0) := by split_ifs <;> omega
  rw [e]
  obtain ⟨tv, tl, tL⟩ := take_carry_weak m.1 m.2 (xs - ws) mn ml mc
  generalize List.take (xs - ws + if (m.2 != 0) = true then 1 else 0) (m.1 ++ [m.2]) = hi at *
  have hy1 : val xhi * 1 ≤ val xhi * y := Nat.mul_le_mul_left _ (Nat.pos_of_ne_zero hy0)
  obtain ⟨hL', hn', hv'⟩ := decr_held hi cy2 tL f3 (by rw [tv, mv]; omega)
  generalize (if (cy2 != 0) = true then (decr hi).1 else hi) = hi' at *
  refine ⟨Norm_normalize (Limbs_append.mpr ⟨al, hL'⟩), ?_, ?_⟩
  · have := normalize_length_le (a.1 ++ hi')
    simp only [List.length_append] at this
    have : (if (m.2 != 0) = true then 1 else 0) ≤ 1 := by split_ifs <;> omega
    omega
  · rw [val_normalize, val_append, an]
    rw [tv, mv] at hv'
    linear_combination av + cv - hr + B ^ ws * (hv' + f1)

theorem aorsmul_1_sub_lt_spec (wp xp : List Nat) (y : Nat) (hw : Norm wp) (hx : Norm xp)
    (hwne : wp ≠ []) (hy : y < B) (hy0 : y ≠ 0) (hlt : wp.length < xp.length) :
    Norm (aorsmul_1_sub_lt wp xp y) ∧ (aorsmul_1_sub_lt wp xp y).length ≤ xp.length + 1 ∧
    val (aorsmul_1_sub_lt wp xp y) + val wp = val xp * y := by
  have hwlen : wp.length ≠ 0 := fun h0 => hwne (List.length_eq_zero_iff.mp h0)
  have hxne : xp ≠ [] := by intro h; rw [h] at hlt; simp at hlt
  have htl : (xp.take wp.length).length = wp.length := by simp; omega
  obtain ⟨sv, sc, sl, sn⟩ := submul_1_val' wp (xp.take wp.length) y hw.1 (Limbs_take hx.1 _) hy htl.symm
  rw [htl] at sv sn
  have hsplit := val_take_drop xp wp.length (by omega)
  have hXlo := val_lt _ (Limbs_take hx.1 wp.length)
  rw [htl] at hXlo
  have hdl : (xp.drop wp.length).length = xp.length - wp.length := by simp
  have hxpos : 1 ≤ val (xp.drop wp.length) := by
    have hlow := hx.lower hxne
    by_contra h0
    have h0' : val (xp.drop wp.length) = 0 := by omega
    rw [h0'] at hsplit
    have : B ^ wp.length ≤ B ^ (xp.length - 1) := Nat.pow_le_pow_right B_pos (by omega)
    simp only [Nat.mul_zero, Nat.add_zero] at hsplit
    omega
  rw [aorsmul_1_sub_lt_eq]
  obtain ⟨c1, c2, c3⟩ := subLtCore_spec wp.length xp.length (xp.drop wp.length) y
    (submul_1 wp (xp.take wp.length) y) (val wp) (val (xp.take wp.length)) (by omega) hlt
    (Limbs_drop hx.1 _) hdl hxpos hy hy0 sl sn sc hXlo sv
  exact ⟨c1, c2, by rw [c3, ← hsplit]⟩

theorem prod_sign (sub : Bool) (xs : Int) (xd : List Nat) (y : Nat) :
    sgn (sub != decide (xs < 0)) (val xd * y)
      = if sub = true then -(sval xs xd * (y : Int)) else sval xs xd * (y : Int) := by
  rw [sval_decide, ← sgn_false y, sgn_mul, Bool.bne_false, sgn_sub]

theorem aorsmul_1_spec (w x : Mpz) (y : Nat) (sub : Bool) (hw : WF w) (hx : WF x) (hy : y < B) :
    WF (aorsmul_1 w x y sub) ∧
    toInt (aorsmul_1 w x y sub) =
      toInt w + (if sub = true then -(toInt x * (y : Int)) else toInt x * (y : Int)) := by
  obtain ⟨hw1, hw2, hwl, hwn⟩ := (WF_iff w).mp hw
  obtain ⟨_, _, hxl, hxn⟩ := (WF_iff x).mp hx
  unfold aorsmul_1
  dsimp only
  by_cases h0 : (x.size == 0 || y == 0) = true
  · rw [if_pos h0]
    refine ⟨hw, ?_⟩
    rcases (by simpa using h0 : x.size = 0 ∨ y = 0) with h | h
    · rw [toInt_zero_of_size hx h]; simp
    · subst h; simp
  rw [if_neg h0]
  have ⟨hx0, hy0⟩ : x.size ≠ 0 ∧ y ≠ 0 := by simpa using h0
  have hxne := size_ne_zero hx hx0
  rw [toInt_eq x, ← prod_sign sub x.size x.d y]
  by_cases hw0 : (w.size == 0) = true
  · -- aorsmul_i.c:77-87
    rw [if_pos hw0]
    have hw0' : w.size = 0 := by simpa using hw0
    obtain ⟨ga1, ga2⟩ := grow_alloc w (x.size.natAbs + 1)
    obtain ⟨wf, ti⟩ := (hxl ▸ mul_1_take x.d y hxn hxne hy hy0).obj (grow w (x.size.natAbs + 1)).alloc
      (sub != decide (x.size < 0)) (by split_ifs <;> omega) (by omega)
    exact ⟨wf, by rw [ti, toInt_zero_of_size hw hw0', Int.zero_add]⟩
  rw [if_neg hw0]
  have hw0' : w.size ≠ 0 := by simpa using hw0
  have hwne := size_ne_zero hw hw0'
  obtain ⟨ga1, ga2⟩ := grow_alloc w (max w.size.natAbs x.size.natAbs + 1)
  rw [toInt_eq w]
  rw [sval_decide w.size]
  generalize hsp : (sub != decide (x.size < 0)) = sp
  generalize hwneg : decide (w.size < 0) = wneg
  by_cases hadd : (!(sp != wneg)) = true
  · -- addmul of absolute values
    rw [if_pos hadd]
    obtain rfl : wneg = sp := by cases sp <;> cases wneg <;> simp at hadd ⊢
    obtain ⟨hm, a4⟩ := aorsmul_1_add_spec w.d x.d y hwn hxn hwne hxne hy hy0
    rw [hwl, hxl] at a4
    obtain ⟨wf, ti⟩ := hm.obj (grow w (max w.size.natAbs x.size.natAbs + 1)).alloc wneg (by omega) (by omega)
    exact ⟨wf, by rw [ti]; exact (sgn_add_same wneg _ _).symm⟩
  rw [if_neg hadd]
  have hdiff : ¬ wneg = sp := by cases sp <;> cases wneg <;> simp at hadd ⊢
  by_cases hge : w.size.natAbs ≥ x.size.natAbs
  · -- submul, w at least as long as x
    rw [if_pos hge]
    obtain ⟨b1, b2, b3⟩ := aorsmul_1_sub_ge_spec w.d x.d y hwn hxn hy (by omega)
    rw [hwl] at b2
    generalize aorsmul_1_sub_ge w.d x.d y = r at *
    obtain ⟨wf, ti⟩ := mk_spec (grow w (max w.size.natAbs x.size.natAbs + 1)).alloc r.2.length
      (wneg != r.1) r.2 rfl b1 (by omega) (by omega)
    refine ⟨wf, ?_⟩
    rw [ti]
    exact acc_finish wneg sp r.1 (val w.d) (val x.d * y) (val r.2) hdiff b3
  · -- submul, x longer than w
    rw [if_neg hge]
    obtain ⟨c1, c2, c3⟩ := aorsmul_1_sub_lt_spec w.d x.d y hwn hxn hwne hy hy0 (by omega)
    rw [hxl] at c2
    generalize aorsmul_1_sub_lt w.d x.d y = D at *
    obtain ⟨wf, ti⟩ := mk_spec (grow w (max w.size.natAbs x.size.natAbs + 1)).alloc D.length
      (!wneg) D rfl c1 (by omega) (by omega)
    refine ⟨wf, ?_⟩
    rw [ti]
    have := acc_finish wneg sp true (val w.d) (val x.d * y) (val D) hdiff (by simpa using c3)
    rwa [Bool.bne_true] at this

theorem cmp_twosizes_lt_iff (x y : List Nat) (hx : Norm x) (hy : Norm y) :
    cmp_twosizes_lt x y = true ↔ val x < val y := by
  unfold cmp_twosizes_lt
  simp only [Bool.or_eq_true, Bool.and_eq_true, decide_eq_true_eq, beq_iff_eq]
  rcases Nat.lt_trichotomy x.length y.length with hlt | heq | hgt
  · have : val x < val y := by
      by_contra h
      have := len_le_of_val_le hy hx (by omega)
      omega
    exact ⟨fun _ => this, fun _ => Or.inl hlt⟩
  · have := cmp_lt_iff x y hx.1 hy.1 heq
    constructor
    · rintro (h | ⟨_, h⟩)
      · omega
      · exact this.mp h
    · intro h; exact Or.inr ⟨heq, this.mpr h⟩
  · have : ¬ val x < val y := by
      intro h
      have := len_le_of_val_le hx hy (by omega)
      omega
    constructor
    · rintro (h | ⟨h, _⟩) <;> omega
    · intro h; exact absurd h this

/-- proof-side name for `mpz_aorsmul` after the operand swap (aorsmul.c:63-143) -/
def aorsmulCore (w x' y' : Mpz) (sub : Bool) : Mpz :=
  let sub := sub != decide (y'.size < 0)
  let ysize := y'.size.natAbs
  if ysize == 1 then aorsmul_1 w x' (y'.d.headD 0) sub
  else
    let sub := sub != decide (x'.size < 0)
    let xsize := x'.size.natAbs
    let wsize_signed := w.size
    let sub := sub != decide (wsize_signed < 0)
    let wsize := wsize_signed.natAbs
    let tsize := xsize + ysize
    let w1 := grow w (max wsize tsize + 1)
    let wp := w.d
    let t := mpn_mul x'.d y'.d
    let tsize := tsize - (if topLimb t == 0 then 1 else 0)
    let tp := t.take tsize
    if wsize_signed == 0 then
      { alloc := w1.alloc, size := sgn sub tsize, d := tp }
    else if !sub then
      let big := if wsize < tsize then tp else wp
      let small := if wsize < tsize then wp else tp
      let r := Mpir.add big small
      let n := big.length + (if r.2 != 0 then 1 else 0)
      { alloc := w1.alloc, size := sgn (wsize_signed < 0) n, d := (r.1 ++ [r.2]).take n }
    else
      let lt := cmp_twosizes_lt wp tp
      let big := if lt then tp else wp
      let small := if lt then wp else tp
      let wd := normalize (Mpir.sub big small).1
      { alloc := w1.alloc, size := sgn (decide (wsize_signed < 0) != lt) wd.length, d := wd }

theorem aorsmul_eq (w x y : Mpz) (sub : Bool) :
    aorsmul w x y sub =
      if x.size == 0 || y.size == 0 then w
      else aorsmulCore w (if y.size.natAbs > x.size.natAbs then y else x)
        (if y.size.natAbs > x.size.natAbs then x else y) sub := rfl

theorem sign3 (sub yneg : Bool) (X : Int) (y0 : Nat) :
    (if (sub != yneg) = true then -(X * (y0 : Int)) else X * (y0 : Int)) =
      if sub = true then -(X * sgn yneg y0) else X * sgn yneg y0 := by
  cases sub <;> cases yneg <;> simp [sgn]

/-- the order in which aorsmul.c:63-75 folds the three signs into `sub` -/
theorem bne_fold (a b c : Bool) : (a != (c != b)) = ((a != b) != c) := by cases a <;> cases b <;> cases c <;> rfl

theorem aorsmulCore_spec (w x y : Mpz) (sub : Bool) (hw : WF w) (hx : WF x) (hy : WF y)
    (hx0 : x.size ≠ 0) (hy0 : y.size ≠ 0) (_hle : y.size.natAbs ≤ x.size.natAbs) :
    WF (aorsmulCore w x y sub) ∧
    toInt (aorsmulCore w x y sub) =
      toInt w + (if sub = true then -(toInt x * toInt y) else toInt x * toInt y) := by
  obtain ⟨hw1, hw2, hwl, hwn⟩ := (WF_iff w).mp hw
  obtain ⟨_, _, hxl, hxn⟩ := (WF_iff x).mp hx
  obtain ⟨_, _, hyl, hyn⟩ := (WF_iff y).mp hy
  have hxne := size_ne_zero hx hx0
  have hyne := size_ne_zero hy hy0
  unfold aorsmulCore
  dsimp only
  by_cases h1 : (y.size.natAbs == 1) = true
  · -- aorsmul.c:67-71
    rw [if_pos h1]
    have h1' : y.size.natAbs = 1 := by simpa using h1
    obtain ⟨y0, -, hyB, -, hh, hvv⟩ := hyn.single (hyl.trans h1')
    rw [hh]
    obtain ⟨wf, ti⟩ := aorsmul_1_spec w x y0 (sub != decide (y.size < 0)) hw hx hyB
    refine ⟨wf, ?_⟩
    rw [ti, sign3, toInt_eq y, sval_decide y.size, hvv]
  rw [if_neg h1]
  obtain ⟨ga1, ga2⟩ := grow_alloc w (max w.size.natAbs (x.size.natAbs + y.size.natAbs) + 1)
  obtain ⟨p1, p2, p3⟩ := mul_basecase_val' x.d y.d hxn.1 hyn.1 (List.length_pos_iff.mpr hyne)
  obtain ⟨tv, tl, tn⟩ := prod_strip (mpn_mul x.d y.d) x.d y.d hxn hyn hxne hyne p1 p2 p3
  rw [hxl, hyl] at tv tl tn
  have htle : x.size.natAbs + y.size.natAbs - (if (topLimb (mpn_mul x.d y.d) == 0) = true then 1 else 0)
      ≤ x.size.natAbs + y.size.natAbs := Nat.sub_le _ _
  generalize x.size.natAbs + y.size.natAbs - (if (topLimb (mpn_mul x.d y.d) == 0) = true then 1 else 0)
    = tsize at *
  generalize List.take tsize (mpn_mul x.d y.d) = tp at *
  rw [toInt_eq x, toInt_eq y, sval_decide x.size, sval_decide y.size, sgn_mul, sgn_sub, bne_fold, ← tv]
  generalize hsp : ((sub != decide (y.size < 0)) != decide (x.size < 0)) = sp
  by_cases hw0 : (w.size == 0) = true
  · rw [if_pos hw0]
    have hw0' : w.size = 0 := by simpa using hw0
    have hwneg : decide (w.size < 0) = false := by simp [hw0']
    rw [hwneg]
    obtain ⟨wf, ti⟩ := mk_spec (grow w (max w.size.natAbs (x.size.natAbs + y.size.natAbs) + 1)).alloc
      tsize (sp != false) tp tl tn (by omega) (by omega)
    refine ⟨wf, ?_⟩
    rw [ti, toInt_zero_of_size hw hw0', Int.zero_add, Bool.bne_false]; rfl
  rw [if_neg hw0]
  have hw0' : w.size ≠ 0 := by simpa using hw0
  have hwne := size_ne_zero hw hw0'
  rw [toInt_eq w, sval_decide w.size]
  generalize hwneg : decide (w.size < 0) = wneg
  by_cases hadd : (!(sp != wneg)) = true
  · -- aorsmul.c:100-118
    rw [if_pos hadd]
    obtain rfl : wneg = sp := by cases sp <;> cases wneg <;> simp at hadd ⊢
    by_cases hlt : w.size.natAbs < tsize
    · simp only [if_pos hlt]
      obtain ⟨wf, ti⟩ := mk_add_spec (grow w (max w.size.natAbs (x.size.natAbs + y.size.natAbs) + 1)).alloc wneg
        tp w.d tn hwn.1 (fun h => by rw [h] at tl; simp at tl; omega) (by omega) (by omega)
      exact ⟨wf, by rw [ti, Nat.add_comm]; exact (sgn_add_same wneg _ _).symm⟩
    · simp only [if_neg hlt]
      obtain ⟨wf, ti⟩ := mk_add_spec (grow w (max w.size.natAbs (x.size.natAbs + y.size.natAbs) + 1)).alloc wneg
        w.d tp hwn tn.1 hwne (by omega) (by omega)
      exact ⟨wf, by rw [ti]; exact (sgn_add_same wneg _ _).symm⟩
  · -- aorsmul.c:119-138
    rw [if_neg hadd]
    have hdiff : ¬ wneg = sp := by cases sp <;> cases wneg <;> simp at hadd ⊢
    have hiff := cmp_twosizes_lt_iff w.d tp hwn tn
    by_cases hlt : cmp_twosizes_lt w.d tp = true
    · rw [hlt]
      simp only [if_true]
      have hv := (hiff.mp hlt).le
      obtain ⟨sv, sc, sl, sn⟩ := sub_val' tp w.d tn.1 hwn.1 (len_le_of_val_le hwn tn hv)
      obtain ⟨wf, ti, e⟩ := mk_sub_spec (grow w (max w.size.natAbs (x.size.natAbs + y.size.natAbs) + 1)).alloc
        _ (wneg != true) _ _ _ _ sn sv sl hv (by omega) (by omega)
      exact ⟨wf, by rw [ti]; exact acc_finish wneg sp true _ _ _ hdiff e⟩
    · rw [Bool.not_eq_true] at hlt
      rw [hlt]
      simp only [Bool.false_eq_true, if_false]
      have hv : val tp ≤ val w.d := Nat.le_of_not_lt fun h => by rw [hiff.mpr h] at hlt; cases hlt
      obtain ⟨sv, sc, sl, sn⟩ := sub_val' w.d tp hwn.1 tn.1 (len_le_of_val_le tn hwn hv)
      obtain ⟨wf, ti, e⟩ := mk_sub_spec (grow w (max w.size.natAbs (x.size.natAbs + y.size.natAbs) + 1)).alloc
        _ (wneg != false) _ _ _ _ sn sv sl hv (by omega) (by omega)
      exact ⟨wf, by rw [ti]; exact acc_finish wneg sp false _ _ _ hdiff e⟩

theorem aorsmul_spec (w x y : Mpz) (sub : Bool) (hw : WF w) (hx : WF x) (hy : WF y) :
    WF (aorsmul w x y sub) ∧
    toInt (aorsmul w x y sub) =
      toInt w + (if sub = true then -(toInt x * toInt y) else toInt x * toInt y) := by
  rw [aorsmul_eq]
  by_cases h0 : (x.size == 0 || y.size == 0) = true
  · rw [if_pos h0]
    refine ⟨hw, ?_⟩
    rcases (by simpa using h0 : x.size = 0 ∨ y.size = 0) with h | h
    · rw [toInt_zero_of_size hx h]; simp
    · rw [toInt_zero_of_size hy h]; simp
  rw [if_neg h0]
  have ⟨hx0, hy0⟩ : x.size ≠ 0 ∧ y.size ≠ 0 := by simpa using h0
  by_cases hsw : y.size.natAbs > x.size.natAbs
  · simp only [if_pos hsw]
    obtain ⟨wf, ti⟩ := aorsmulCore_spec w y x sub hw hy hx hy0 hx0 (by omega)
    exact ⟨wf, by rw [ti, Int.mul_comm]⟩
  · simp only [if_neg hsw]
    exact aorsmulCore_spec w x y sub hw hx hy hx0 hy0 (by omega)

end Mpir.Mpz
