/- mpn_hgcd (hgcd.c) and mpn_hgcd_reduce below HGCD_REDUCE_THRESHOLD.  First a quirk: mpn_gcd_subdiv_step has one
   `return 0` path that has already recorded a subtraction (b = 2a); mpn_hgcd_step reaches it only when mpn_hgcd2 fails,
   and mpn_hgcd2 cannot fail on b = 2a (or a = 2b) when the top limbs are normalised (n ≠ s + 1), so the path is confined
   to calls of mpn_hgcd with 3 or 4 limbs.  Then the loop of steps (`stepLoop_spec`, `hgcdFin_spec`) and what holds after a
   recursive call (`adjust_after`); the induction over the recursion is HgcdRec2.lean. -/

import MpirProofs.Lemmas.HgcdStep

namespace Mpir.Hgcd
open Mpir Mpir.Gcd

/-! ### the `return 0` path of mpn_gcd_subdiv_step that has recorded a subtraction -/

/-- the only ways mpn_hgcd2 returns 0 (hgcd2.c:222, :228, :237) -/
theorem hgcd2_none_cases (ah al bh bl : Nat) (h : hgcd2 ah al bh bl = none) :
    ah < 2 ∨ bh < 2 ∨
    ((ah > bh ∨ (ah = bh ∧ al > bl)) ∧ (ah * B + al - (bh * B + bl)) / B < 2) ∨
    (¬(ah > bh ∨ (ah = bh ∧ al > bl)) ∧ (bh * B + bl - (ah * B + al)) / B < 2) := by
  unfold hgcd2 at h
  split at h
  · rename_i h1; rcases h1 with h1 | h1
    · left; exact h1
    · right; left; exact h1
  · simp only at h
    split at h
    · rename_i hc
      split at h
      · rename_i h2; right; right; left; exact ⟨hc, h2⟩
      · exact absurd h (by simp)
    · rename_i hc
      split at h
      · rename_i h2; right; right; right; exact ⟨hc, h2⟩
      · exact absurd h (by simp)

theorem or_ge_two_pow {x y k : Nat} (h : 2 ^ k ≤ x ||| y) : 2 ^ k ≤ x ∨ 2 ^ k ≤ y := by
  by_contra hc
  have := Nat.or_lt_two_pow (x := x) (y := y) (n := k) (by omega) (by omega)
  omega

theorem stepTop_norm (n a b s : Nat) (t : Nat × Nat × Nat × Nat) (hn : 3 ≤ n) (hns : n ≠ s + 1)
    (ha : a < B ^ n) (hb : b < B ^ n) (htop : B ^ (n - 1) ≤ a ∨ B ^ (n - 1) ≤ b)
    (h : stepTop n a b s = some t) : 2 ^ 63 ≤ t.1 ∨ 2 ^ 63 ≤ t.2.2.1 := by
  unfold stepTop at h
  simp only [if_neg hns] at h
  have hmask : limbAt a (n - 1) ||| limbAt b (n - 1) ≠ 0 := by
    intro hz
    simp only [nlimbs_isSize.lt_pow_iff, nlimbs_isSize.pow_le_iff] at ha hb htop
    rw [Nat.or_eq_zero_iff, limbAt_eq_zero_iff (by omega), limbAt_eq_zero_iff (by omega)] at hz
    omega
  split at h
  · rename_i hm
    have := Option.some.inj h
    subst this
    exact or_ge_two_pow hm
  · rename_i hm
    have := Option.some.inj h
    subst this
    simp only
    obtain ⟨hs1, hs, hta, htb⟩ := clz_mask _ _ hm
    have hlog : 2 ^ (limbAt a (n - 1) ||| limbAt b (n - 1)).log2 ≤ limbAt a (n - 1) ||| limbAt b (n - 1) :=
      Nat.log2_self_le hmask
    have hl63 : (limbAt a (n - 1) ||| limbAt b (n - 1)).log2 < 63 :=
      (Nat.log2_lt hmask).mpr (by omega)
    have hclz : clz (limbAt a (n - 1) ||| limbAt b (n - 1)) = 63 - (limbAt a (n - 1) ||| limbAt b (n - 1)).log2 := rfl
    generalize (limbAt a (n - 1) ||| limbAt b (n - 1)).log2 = L at *
    generalize clz (limbAt a (n - 1) ||| limbAt b (n - 1)) = sh at *
    have hlimb : ∀ x i, limbAt x i < B := fun x i => by rw [limbAt_eq]; exact Nat.mod_lt _ B_pos
    have key : ∀ th tl, th < 2 ^ (64 - sh) → tl < B → 2 ^ L ≤ th → 2 ^ 63 ≤ extractNumb sh th tl := by
      intro th tl h1 h2 h3
      rw [extractNumb_eq sh th tl hs1 hs h2, Nat.mod_eq_of_lt h1]
      have : 2 ^ L * 2 ^ sh ≤ th * 2 ^ sh := Nat.mul_le_mul_right _ h3
      have e : 2 ^ L * 2 ^ sh = 2 ^ 63 := by rw [← Nat.pow_add]; congr 1; omega
      exact le_trans (by omega) (Nat.le_add_right _ _)
    rcases or_ge_two_pow hlog with h1 | h1
    · left; exact key _ _ hta (hlimb _ _) h1
    · right; exact key _ _ htb (hlimb _ _) h1

theorem window_double (A0 B0 W rx ry X : Nat) (hrx : rx < W) (hry : ry < W)
    (ea : X = W * A0 + rx) (eb : 2 * X = W * B0 + ry) : 2 * A0 ≤ B0 ∧ B0 < 2 * A0 + 2 := by
  have h1 : W * (2 * A0) ≤ W * B0 + ry := by rw [← eb, ea]; ring_nf; omega
  have h2 : W * B0 < W * (2 * A0 + 2) := by
    have : W * B0 + ry = 2 * (W * A0 + rx) := by rw [← eb, ea]
    have : W * (2 * A0 + 2) = 2 * (W * A0) + 2 * W := by ring
    omega
  constructor
  · by_contra hc
    have : W * (B0 + 1) ≤ W * (2 * A0) := Nat.mul_le_mul_left _ (by omega)
    rw [Nat.mul_add] at this; omega
  · exact Nat.lt_of_mul_lt_mul_left h2

/-- mpn_hgcd2 succeeds when one two-limb operand is normalised and (up to the truncation) twice the other -/
theorem hgcd2_double (t : Nat × Nat × Nat × Nat)
    (t1 : t.1 < B) (t2 : t.2.1 < B) (t3 : t.2.2.1 < B) (t4 : t.2.2.2 < B)
    (hnorm : 2 ^ 63 ≤ t.1 ∨ 2 ^ 63 ≤ t.2.2.1)
    (hd : (2 * (t.1 * B + t.2.1) ≤ t.2.2.1 * B + t.2.2.2 ∧ t.2.2.1 * B + t.2.2.2 < 2 * (t.1 * B + t.2.1) + 2) ∨
          (2 * (t.2.2.1 * B + t.2.2.2) ≤ t.1 * B + t.2.1 ∧ t.1 * B + t.2.1 < 2 * (t.2.2.1 * B + t.2.2.2) + 2)) :
    hgcd2 t.1 t.2.1 t.2.2.1 t.2.2.2 ≠ none := by
  intro hnone
  rw [B_eq] at t1 t2 t3 t4 hd
  rcases hgcd2_none_cases _ _ _ _ hnone with h | h | ⟨hc, h⟩ | ⟨hc, h⟩
  · omega
  · omega
  · rw [B_eq] at h
    rcases hc with hc | ⟨hc1, hc2⟩ <;> omega
  · rw [B_eq] at h
    rw [not_or, not_and_or] at hc
    omega

theorem hgcdStep_unchanged (n a b s : Nat) (M : HM) (hM : MOk M) (hn : 3 ≤ n) (hs : s < n) (hs0 : 1 ≤ s)
    (ha : a < B ^ n) (hb : b < B ^ n) (hret : (hgcdStep n a b s M).ret = 0) :
    (hgcdStep n a b s M).a < B ^ n ∧ (hgcdStep n a b s M).b < B ^ n ∧
    (n ≠ s + 1 → B ^ (n - 1) ≤ a ∨ B ^ (n - 1) ≤ b → (hgcdStep n a b s M).a = a ∧ (hgcdStep n a b s M).b = b ∧ (hgcdStep n a b s M).M = M) := by
  obtain ⟨E, _, _, _, _, _, _, h0⟩ := hgcdStep_spec n a b s M hM (by omega) hs hs0 ha hb
  obtain ⟨k1, k2, _, hcase⟩ := h0 hret
  refine ⟨k1, k2, fun hns htop => ?_⟩
  rcases hcase with h | ⟨hS, _, hd⟩
  · exact h
  · exfalso
    -- the recorded-subtraction path: b = 2a or a = 2b, reached through subdivStepS, so hgcd2 failed
    have hsome : ∃ t, stepTop n a b s = some t := by
      unfold stepTop; simp only [if_neg hns]; split <;> exact ⟨_, rfl⟩
    obtain ⟨t, ht⟩ := hsome
    have hbind : (stepTop n a b s).bind (fun t => hgcd2 t.1 t.2.1 t.2.2.1 t.2.2.2) = none := by
      by_contra hc
      obtain ⟨m1, hm1⟩ := Option.ne_none_iff_exists'.mp hc
      obtain ⟨t', ht', h2'⟩ := Option.bind_eq_some_iff.mp hm1
      obtain ⟨_, _, x, y, hr, _, _, _, _⟩ := hgcd2_step_spec n a b s t' m1 (by omega) hs hs0 ha hb ht' h2'
      obtain ⟨_, _, _, _, _, v6, _⟩ := mul1InvVec_spec m1 a b n x y hr ha hb (by omega)
      unfold hgcdStep at hret
      rw [hm1] at hret
      simp only at hret
      omega
    rw [ht] at hbind
    simp only [Option.bind_some] at hbind
    obtain ⟨sh, rx, ry, hsh, _, hrx, hry, t1, t2, t3, t4, ea, eb⟩ := stepTop_spec n a b s t (by omega) hs hs0 ha hb ht
    have hnorm := stepTop_norm n a b s t hn hns ha hb htop ht
    rcases hd with hd | hd
    · have := window_double _ _ (B ^ (n - 2)) rx ry (a * 2 ^ sh) hrx hry ea (by rw [← eb, hd]; ring)
      exact hgcd2_double t t1 t2 t3 t4 hnorm (Or.inl this) hbind
    · have := window_double _ _ (B ^ (n - 2)) ry rx (b * 2 ^ sh) hry hrx eb (by rw [← ea, hd]; ring)
      exact hgcd2_double t t1 t2 t3 t4 hnorm (Or.inr this) hbind

/-! ### the loops of mpn_hgcd_step calls in mpn_hgcd; after a recursive call (mpn_hgcd_matrix_adjust) -/

/-- one of a, b uses limb n − 1 -/
def Tight (n a b : Nat) : Prop := B ^ (n - 1) ≤ a ∨ B ^ (n - 1) ≤ b

theorem tight_iff {n a b : Nat} : Tight n a b ↔ n - 1 < max (nlimbs a) (nlimbs b) := by
  simp only [Tight, nlimbs_isSize.pow_le_iff, lt_max_iff]

/-- state of mpn_hgcd's loops relative to its inputs (a0, b0); M is the product of all matrices recorded so far -/
def Acc (s a0 b0 al n a b : Nat) (M : HM) (success : Bool) : Prop :=
  MRel M.toM1 a b a0 b0 ∧ MOk M ∧ M.alloc = al ∧ a < B ^ n ∧ b < B ^ n ∧ Tight n a b ∧ s < n ∧
  (success = true → NonId M.toM1 ∧ B ^ s ≤ a ∧ B ^ s ≤ b)

theorem pow_lt_of {s n x : Nat} (h1 : B ^ s ≤ x) (h2 : x < B ^ n) : s < n := by
  have hB : 1 < B := by rw [B_eq]; norm_num
  exact (Nat.pow_lt_pow_iff_right hB).mp (lt_of_le_of_lt h1 h2)

/-- what a loop of mpn_hgcd returns: (a0; b0) = M·(a; b); on success (ret ≠ 0) M is not the identity, both numbers keep
    more than s limbs, ret is their exact common size and they differ by less than B^s -/
def LoopRet (s a0 b0 al n : Nat) (r : StepRes) : Prop :=
  MRel r.M.toM1 r.a r.b a0 b0 ∧ MOk r.M ∧ r.M.alloc = al ∧ r.ret ≤ n ∧
  (r.ret ≠ 0 → NonId r.M.toM1 ∧ B ^ s ≤ r.a ∧ B ^ s ≤ r.b ∧ r.a < B ^ r.ret ∧ r.b < B ^ r.ret ∧ Tight r.ret r.a r.b ∧
      absDiff r.a r.b < B ^ s)

theorem stepLoop_spec (s a0 b0 al lim : Nat) (hs0 : 1 ≤ s) :
    ∀ (f n a b : Nat) (M : HM) (success : Bool), Acc s a0 b0 al n a b M success → a + b < f →
      match stepLoop f lim n a b s M success with
      | .inl r => LoopRet s a0 b0 al n r ∧
          (r.ret = 0 → success = false ∧ r.a = (hgcdStep n a b s M).a ∧ r.b = (hgcdStep n a b s M).b ∧
            r.M = (hgcdStep n a b s M).M ∧ (hgcdStep n a b s M).ret = 0 ∧ n > lim) ∧ (M.NormD → r.M.NormD)
      | .inr (r, su) => Acc s a0 b0 al r.ret r.a r.b r.M su ∧ r.ret ≤ n ∧ r.ret ≤ lim ∧ (success = true → su = true) ∧
          (su = false → r = ⟨n, a, b, M⟩) ∧ (M.NormD → r.M.NormD) := by
  intro f
  induction f with
  | zero => intro n a b M success _ hf; omega
  | succ f ih =>
    intro n a b M success hacc hf
    obtain ⟨hrel, hM, hal, ha, hb, htight, hsn, hsucc⟩ := hacc
    unfold stepLoop
    by_cases hlim : n > lim
    · rw [if_pos hlim]
      obtain ⟨E, e1, e2, e3, e4, eN, e5, e6⟩ := hgcdStep_spec n a b s M hM (by omega) hsn hs0 ha hb
      have hun : n ≠ s + 1 → (hgcdStep n a b s M).ret = 0 →
          (hgcdStep n a b s M).a = a ∧ (hgcdStep n a b s M).b = b ∧ (hgcdStep n a b s M).M = M :=
        fun hns hr => (hgcdStep_unchanged n a b s M hM (by omega) hsn hs0 ha hb hr).2.2 hns htight
      generalize hgcdStep n a b s M = r at *
      simp only
      by_cases hret : r.ret = 0
      · rw [if_pos hret]
        simp only
        obtain ⟨g1, g2, g3, g4⟩ := e6 hret
        have hrel' : MRel r.M.toM1 r.a r.b a0 b0 := by rw [e1]; exact mrel_comp hrel e2
        cases success
        · simp only [Bool.false_eq_true, ↓reduceIte]
          exact ⟨⟨hrel', e3, by rw [e4, hal], Nat.zero_le _, fun hc => absurd rfl hc⟩,
            fun _ => ⟨trivial, trivial, trivial, trivial, hret, hlim⟩, eN hrel.1⟩
        · simp only [↓reduceIte]
          obtain ⟨k1, k2, k3⟩ := hsucc rfl
          have hge : B ^ s ≤ r.a ∧ B ^ s ≤ r.b := by
            rcases g4 with ⟨q1, q2, _⟩ | ⟨q1, q2, _⟩
            · rw [q1, q2]; exact ⟨k2, k3⟩
            · exact ⟨q1, by rw [← q2]; exact q1⟩
          have htr : Tight n r.a r.b := by
            rcases g4 with ⟨q1, q2, _⟩ | ⟨q1, q2, q3⟩
            · rw [q1, q2]; exact htight
            · -- recorded-subtraction exit: only possible for n = s + 1
              by_cases hns : n = s + 1
              · left; rw [hns]; exact q1
              · exfalso
                obtain ⟨u1, u2, _⟩ := hun hns hret
                have hpos : 0 < B ^ s := pow_pos B_pos _
                omega
          refine ⟨⟨hrel', e3, by rw [e4, hal], le_refl _, fun _ => ⟨?_, hge.1, hge.2, g1, g2, htr, ?_⟩⟩, fun hc => by omega,
            eN hrel.1⟩
          · rw [e1]; exact nonId_mmul k1 (mrel_det e2)
          · rcases g3 with h | h | h
            · omega
            · omega
            · exact h
      · rw [if_neg hret]
        obtain ⟨d1, d2, d3, d4, d5, d6, d7⟩ := e5 hret
        have hrel' : MRel r.M.toM1 r.a r.b a0 b0 := by rw [e1]; exact mrel_comp hrel e2
        have hpos : 0 < B ^ s := pow_pos B_pos _
        have hdec : r.a + r.b < a + b := mrel_decreases e2 d1 (by omega) (by omega)
        -- M may be the identity: E itself is not
        have hnid : NonId r.M.toM1 := by rw [e1]; exact nonId_mmul_right (mrel_det hrel) d1
        have hacc' : Acc s a0 b0 al r.ret r.a r.b r.M true :=
          ⟨hrel', e3, by rw [e4, hal], d4, d5, d6, pow_lt_of d2 d4, fun _ => ⟨hnid, d2, d3⟩⟩
        have := ih r.ret r.a r.b r.M true hacc' (by omega)
        cases hloop : stepLoop f lim r.ret r.a r.b s r.M true with
        | inl r2 =>
          rw [hloop] at this
          obtain ⟨⟨l1, l2, l3, l4, l5⟩, l6, l7⟩ := this
          exact ⟨⟨l1, l2, l3, by omega, l5⟩, fun hc => absurd (l6 hc).1 (by simp), fun h => l7 (eN hrel.1 h)⟩
        | inr q =>
          rw [hloop] at this
          obtain ⟨r2, su⟩ := q
          obtain ⟨l1, l2, l3, l4, l5, l7⟩ := this
          have hsu : su = true := l4 rfl
          exact ⟨l1, by omega, l3, fun _ => hsu, fun hc => by rw [hsu] at hc; exact absurd hc (by simp),
            fun h => l7 (eN hrel.1 h)⟩
    · rw [if_neg hlim]
      exact ⟨⟨hrel, hM, hal, ha, hb, htight, hsn, hsucc⟩, le_refl _, Nat.le_of_not_gt hlim, fun h => h, fun _ => rfl,
        fun h => h⟩

theorem hgcdFin_spec (s a0 b0 al n a b : Nat) (M : HM) (success : Bool) (hs0 : 1 ≤ s)
    (hacc : Acc s a0 b0 al n a b M success) :
    LoopRet s a0 b0 al n (hgcdFin n a b s M success) ∧
    ((hgcdFin n a b s M success).ret = 0 → success = false ∧ (hgcdFin n a b s M success).a = (hgcdStep n a b s M).a ∧
      (hgcdFin n a b s M success).b = (hgcdStep n a b s M).b ∧ (hgcdFin n a b s M success).M = (hgcdStep n a b s M).M ∧
      (hgcdStep n a b s M).ret = 0) ∧ (M.NormD → (hgcdFin n a b s M success).M.NormD) := by
  have := stepLoop_spec s a0 b0 al 0 hs0 (a + b + 1) n a b M success hacc (by omega)
  unfold hgcdFin
  cases hloop : stepLoop (a + b + 1) 0 n a b s M success with
  | inl r =>
    rw [hloop] at this
    exact ⟨this.1, fun hc => ⟨(this.2.1 hc).1, (this.2.1 hc).2.1, (this.2.1 hc).2.2.1, (this.2.1 hc).2.2.2.1,
      (this.2.1 hc).2.2.2.2.1⟩, this.2.2⟩
  | inr q =>
    rw [hloop] at this
    obtain ⟨r, su⟩ := q
    obtain ⟨l1, _, l3, _, _⟩ := this
    exfalso
    have := l1.2.2.2.2.2.2.1
    omega

theorem div_pow_lt {a n p : Nat} (ha : a < B ^ n) : a / B ^ p < B ^ (n - p) := by
  rw [nlimbs_isSize.lt_pow_iff] at ha ⊢
  rw [nlimbs_div_pow]; omega

/-- after a successful recursive call on the limbs from p on -/
theorem adjust_after (n a b p al1 : Nat) (r1 : StepRes) (hp : p < n) (ha : a < B ^ n) (hb : b < B ^ n)
    (hpost : LoopRet ((n - p) / 2 + 1) (a / B ^ p) (b / B ^ p) al1 (n - p) r1) (hret : r1.ret ≠ 0) :
    ∀ adj, adj = matAdjust r1.M (p + r1.ret) (a % B ^ p + B ^ p * r1.a) (b % B ^ p + B ^ p * r1.b) p →
    MRel r1.M.toM1 adj.2.1 adj.2.2 a b ∧ adj.2.1 < B ^ adj.1 ∧ adj.2.2 < B ^ adj.1 ∧ Tight adj.1 adj.2.1 adj.2.2 ∧
    B ^ (p + (n - p) / 2) ≤ adj.2.1 ∧ B ^ (p + (n - p) / 2) ≤ adj.2.2 ∧ adj.1 ≤ n := by
  intro adj hadj
  obtain ⟨hrel, hMok, _, hle, hsucc⟩ := hpost
  obtain ⟨hnid, hx, hy, hxB, hyB, htight, _⟩ := hsucc hret
  have hpp : 0 < B ^ p := pow_pos B_pos _
  -- the entries of M are at least two limbs shorter than r1.a, r1.b
  have hsz := mrel_size4_le hrel hx hy (div_pow_lt (p := p) ha) (div_pow_lt (p := p) hb)
  simp only [size4, HM.toM1, max_le_iff] at hsz
  obtain ⟨⟨s00, s01⟩, s10, s11⟩ := hsz
  rw [nlimbs_isSize.pow_le_iff] at hx hy
  rw [nlimbs_isSize.lt_pow_iff] at ha hb
  have nxB := nlimbs_isSize.lt_pow_iff.mp hxB
  have nyB := nlimbs_isSize.lt_pow_iff.mp hyB
  have g01 : nlimbs r1.M.e01 + 1 < nlimbs r1.a := by omega
  have g10 : nlimbs r1.M.e10 + 1 < nlimbs r1.b := by omega
  have f00 : r1.M.e00 < B ^ ((n - p) / 2) := nlimbs_isSize.lt_pow_iff.mpr (by omega)
  have f11 : r1.M.e11 < B ^ ((n - p) / 2) := nlimbs_isSize.lt_pow_iff.mpr (by omega)
  have hpk : p + (n - p) / 2 ≤ p + r1.ret := by omega
  clear s00 s01 s10 s11
  have hal : a % B ^ p < B ^ p := Nat.mod_lt _ hpp
  have hbl : b % B ^ p < B ^ p := Nat.mod_lt _ hpp
  have d1 : (a % B ^ p + B ^ p * r1.a) / B ^ p = r1.a := by
    rw [Nat.add_mul_div_left _ _ hpp, Nat.div_eq_of_lt hal, Nat.zero_add]
  have d2 : (b % B ^ p + B ^ p * r1.b) / B ^ p = r1.b := by
    rw [Nat.add_mul_div_left _ _ hpp, Nat.div_eq_of_lt hbl, Nat.zero_add]
  have m1 : (a % B ^ p + B ^ p * r1.a) % B ^ p = a % B ^ p := by
    rw [Nat.add_mul_mod_self_left]; exact Nat.mod_eq_of_lt hal
  have m2 : (b % B ^ p + B ^ p * r1.b) % B ^ p = b % B ^ p := by
    rw [Nat.add_mul_mod_self_left]; exact Nat.mod_eq_of_lt hbl
  have compose : ∀ {l x : Nat}, l < B ^ p → x < B ^ r1.ret → l + B ^ p * x < B ^ (p + r1.ret) := fun hl hx => by
    rw [pow_add]
    have := Nat.mul_le_mul_left (B ^ p) (Nat.succ_le_of_lt hx)
    rw [Nat.mul_succ] at this; omega
  have hspec := matAdjust_spec r1.M (p + r1.ret) (a % B ^ p + B ^ p * r1.a) (b % B ^ p + B ^ p * r1.b) p
    (a / B ^ p) (b / B ^ p) ((n - p) / 2) hpk f00 f11 (compose hal hxB) (compose hbl hyB) (by omega)
    (by rw [d1, d2]; exact hrel) (by rw [d1]; exact (nlimbs_isSize.lt_of_lt (by omega)).le)
    (by rw [d2]; exact (nlimbs_isSize.lt_of_lt (by omega)).le)
  rw [m1, m2, d1, d2, Nat.div_add_mod, Nat.div_add_mod, ← hadj] at hspec
  obtain ⟨q1, q2, q3, q4, q5, q6, q7, q8⟩ := hspec
  have low : ∀ {e x : Nat}, nlimbs e + 1 < nlimbs x → p + nlimbs x - 1 ≤ nlimbs (B ^ p * (x - e)) := fun h => by
    have := nlimbs_sub_ge h
    rw [nlimbs_isSize.Bpow_mul p (nlimbs_pos_iff.mp (by omega)).ne']; omega
  have la := (low g01).trans (nlimbs_isSize.mono q7)
  have lb := (low g10).trans (nlimbs_isSize.mono q8)
  have na := (nlimbs_isSize.mono (mrel_le q1).1).trans ha
  have nb := (nlimbs_isSize.mono (mrel_le q1).2).trans hb
  have htight' : Tight adj.1 adj.2.1 adj.2.2 := by
    by_cases hc : p + r1.ret ≤ adj.1
    · exact q6 hc
    · -- the size went down by one limb
      rw [tight_iff, lt_max_iff] at htight ⊢
      clear * - hc htight la lb hx; omega
  refine ⟨q1, q2, q3, htight', nlimbs_isSize.pow_le_iff.mpr (by clear * - la hx; omega),
    nlimbs_isSize.pow_le_iff.mpr (by clear * - lb hy; omega), ?_⟩
  rw [tight_iff, lt_max_iff] at htight'
  clear * - htight' na nb; omega

end Mpir.Hgcd
