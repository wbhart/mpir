/- mpn_mul_trunc_sqrt2 (value-level transforms, limb-level split / pointwise product / combine) computes the product. -/
import MpirProofs.Lemmas.FftXConv
import MpirProofs.Lemmas.FftRingCombine
import MpirProofs.Lemmas.FftXSqrt2
import Mpir.Model.FftParams
namespace Mpir.FftX
open Mpir Finset

theorem polyEval_eq_sum (bits : Nat) (cs : List (List Nat)) :
    (Fft.polyEval bits cs : Int) = ∑ j ∈ range cs.length, (val (cs.getD j []) : Int) * ((2 : Int) ^ bits) ^ j := by
  induction cs with
  | nil => simp [Fft.polyEval]
  | cons c cs ih =>
    rw [List.length_cons, sum_range_succ', Fft.polyEval]
    push_cast
    rw [ih, mul_sum]
    simp only [List.getD_cons_succ, List.getD_cons_zero, pow_zero, mul_one, pow_succ]
    rw [add_comm]; congr 1
    apply sum_congr rfl; intro j _; ring

/-- `ii[j]` after mpir_fft_split_bits and the zeroing of the remaining entries (mul_trunc_sqrt2.c:82-84) -/
def padC (N : Nat) (cs : List (List Nat)) : List Int :=
  (cs.map fun c => Fft.rval c) ++ List.replicate (N - cs.length) (0 : Int)

theorem el_replicate_zero (k m : Nat) : el (List.replicate k (0 : Int)) m = 0 := by
  simp only [el, List.getD_eq_getElem?_getD, List.getElem?_replicate]; split <;> rfl

theorem el_padC (N L bits : Nat) (cs : List (List Nat))
    (hc : ∀ c ∈ cs, c.length = L + 1 ∧ Limbs c ∧ val c < 2 ^ bits) (hb : 2 ^ bits ≤ B ^ L) (i : Nat) :
    el (padC N cs) i = if i < cs.length then (val (cs.getD i []) : Int) else 0 := by
  unfold padC
  split_ifs with h
  · rw [el_append_left _ _ _ (by simpa using h)]
    have hm : cs.getD i [] ∈ cs := by
      rw [List.getD_eq_getElem?_getD, List.getElem?_eq_getElem h]; simp
    obtain ⟨h1, h2, h3⟩ := hc _ hm
    rw [← Fft.rval_of_val_lt _ L h1 h2 (by omega)]
    simp [el, List.getD_eq_getElem?_getD, List.getElem?_eq_getElem h]
  · have : i = (cs.map fun c => Fft.rval c).length + (i - cs.length) := by simp; omega
    rw [this, el_append_right, el_replicate_zero]

theorem length_padC (N : Nat) (cs : List (List Nat)) (h : cs.length ≤ N) : (padC N cs).length = N := by
  simp [padC]; omega

theorem padC_eval (N L bits : Nat) (cs : List (List Nat))
    (hc : ∀ c ∈ cs, c.length = L + 1 ∧ Limbs c ∧ val c < 2 ^ bits) (hb : 2 ^ bits ≤ B ^ L) (hN : cs.length ≤ N) :
    ∑ i ∈ range N, el (padC N cs) i * ((2 : Int) ^ bits) ^ i = (Fft.polyEval bits cs : Int) := by
  rw [polyEval_eq_sum]
  have e : ∑ j ∈ range cs.length, (val (cs.getD j []) : Int) * ((2 : Int) ^ bits) ^ j =
      ∑ i ∈ range cs.length, el (padC N cs) i * ((2 : Int) ^ bits) ^ i := by
    apply sum_congr rfl; intro i hi
    rw [el_padC N L bits cs hc hb, if_pos (mem_range.mp hi)]
  rw [e]
  symm
  apply sum_subset (range_subset_range.mpr hN)
  intro i _ hi
  have : cs.length ≤ i := by simpa using hi
  rw [el_padC N L bits cs hc hb, if_neg (by omega)]; ring

/-- a transform of depth d in 64·L bits: 1 ≤ L, and the final division by 2^(d+2) is a shift by at most 2·64·L bits -/
theorem depth_le (d w L : Nat) (hL : 2 ^ d * w = 64 * L) (hw : 1 ≤ w) : 1 ≤ L ∧ d + 2 ≤ 2 * (64 * L) := by
  have : d + 1 ≤ 2 ^ d := Nat.lt_two_pow_self
  have : 2 ^ d ≤ 2 ^ d * w := Nat.le_mul_of_pos_right _ hw
  omega

section ring
variable {S : Type} [CommRing S] (f : ℤ →+* S)

theorem fft_full_sqrt2_conv (d w : Nat) (hd : 64 ∣ 2 ^ d * w) (hz : f 2 ^ (2 ^ d * w) = -1) (a b : List Int)
    (j1 j2 : Nat) (ha : ∀ i, j1 ≤ i → el a i = 0) (hb : ∀ k, j2 ≤ k → el b k = 0) (hJ : j1 + j2 ≤ 4 * 2 ^ d + 1)
    (k : Nat) (hk : k < 2 ^ (d + 1 + 1)) :
    f (el (fft_full_sqrt2 d w (conv a b (4 * 2 ^ d))) k) =
      f (el (fft_full_sqrt2 d w a) k) * f (el (fft_full_sqrt2 d w b) k) := by
  have hN : 2 ^ (d + 1 + 1) = 4 * 2 ^ d := by rw [pow_succ, pow_succ]; ring
  rw [fft_full_sqrt2_dft f d w hd hz a k hk, fft_full_sqrt2_dft f d w hd hz b k hk,
    fft_full_sqrt2_dft f d w hd hz _ k hk, hN]
  generalize f (s2 (2 ^ d * w)) ^ w = σ
  generalize rev (d + 1 + 1) k = r
  simp only [pow_mul]
  rw [← cauchy_range (fun i => f (el a i)) (fun i => f (el b i)) (σ ^ r) (4 * 2 ^ d) j1 j2
    (fun i hi => by simp [ha i hi]) (fun i hi => by simp [hb i hi]) hJ]
  apply sum_congr rfl; intro i hi
  rw [el_conv _ _ _ _ (mem_range.mp hi), map_sum]
  congr 1
  apply sum_congr rfl; intro m _; rw [map_mul]

end ring

theorem conv_chain (depth w L trunc j1 j2 : Nat) (a b : List Int) (hL : 2 ^ depth * w = 64 * L) (hw : 1 ≤ w)
    (ht : TruncSOk depth trunc) (ha : ∀ i, j1 ≤ i → el a i = 0) (hb : ∀ k, j2 ≤ k → el b k = 0)
    (hj1 : 1 ≤ j1) (hj2 : 1 ≤ j2) (hJ : j1 + j2 ≤ trunc + 1) (j : Nat) (hj : j < trunc) :
    el (ifft_trunc_sqrt2 depth w trunc
        ((List.range (4 * 2 ^ depth)).map fun j =>
          if j < trunc then pointwise L (2 ^ depth * w) (el (fft_trunc_sqrt2 depth w trunc a) j) (el (fft_trunc_sqrt2 depth w trunc b) j)
          else el (fft_trunc_sqrt2 depth w trunc a) j)) j * 2 ^ (2 * (64 * L) - (depth + 2))
      ≡ el (conv a b (4 * 2 ^ depth)) j [ZMOD pOf (64 * L)] := by
  rw [hL]
  have hd : 64 ∣ 2 ^ depth * w := ⟨L, hL⟩
  obtain ⟨hL1, hle⟩ := depth_le depth w L hL hw
  have hN : 2 ^ (depth + 1 + 1) = 4 * 2 ^ depth := by rw [pow_succ, pow_succ]; ring
  have hz : (Int.castRingHom (ZMod (2 ^ (64 * L) + 1))) 2 ^ (2 ^ depth * w) = -1 := zmod_two_pow_of hL
  have ht3 := ht.2.2
  -- in ZMod p the pointwise products are the transform values of the convolution, which vanishes from `trunc` on
  rw [← zmod_eq_iff, map_mul,
    (recovers0_ifft_trunc_sqrt2 depth w trunc ht hd hw hz 1).one (conv a b (4 * 2 ^ depth)) _ (fun k hk => ?_) (fun i hi _ => ?_) j hj]
  · simpa using zmod_unscale (64 * L) (depth + 2) hle _
  · rw [el_range_map _ _ _ (by omega), if_pos hk, (zmod_eq_iff (64 * L) _ _).mpr (pointwise_spec L hL1 _ _), map_mul,
      (prefix0_fft_trunc_sqrt2 _ _ _ ht a fun i hi => ha i (by omega)).2 k hk,
      (prefix0_fft_trunc_sqrt2 _ _ _ ht b fun i hi => hb i (by omega)).2 k hk,
      fft_full_sqrt2_conv _ depth w hd hz a b j1 j2 ha hb (by omega) k (by omega)]
  · rw [conv_zero a b _ j1 j2 i ha hb (by omega)]; simp

theorem polyEval_range_map (bits J : Nat) (g : Nat → List Nat) :
    (Fft.polyEval bits ((List.range J).map g) : Int) = ∑ j ∈ range J, (val (g j) : Int) * ((2 : Int) ^ bits) ^ j := by
  rw [polyEval_eq_sum]
  simp only [List.length_map, List.length_range]
  apply sum_congr rfl; intro j hj
  have : j < J := mem_range.mp hj
  simp [List.getD_eq_getElem?_getD, this]

theorem padC_split (x : List Nat) (bits L N : Nat) (hx : Limbs x) (hn : 1 ≤ x.length) (hb : 1 ≤ bits)
    (hbL : bits ≤ 64 * L) (hN : (x.length * 64 - 1) / bits + 1 ≤ N) :
    (padC N (Fft.split_bits x bits L)).length = N ∧
    (∀ i, (x.length * 64 - 1) / bits + 1 ≤ i → el (padC N (Fft.split_bits x bits L)) i = 0) ∧
    (∀ i, 0 ≤ el (padC N (Fft.split_bits x bits L)) i ∧ el (padC N (Fft.split_bits x bits L)) i ≤ 2 ^ bits - 1) ∧
    ∑ i ∈ range N, el (padC N (Fft.split_bits x bits L)) i * ((2 : Int) ^ bits) ^ i = (val x : Int) := by
  have h2L : 2 ^ bits ≤ B ^ L := by rw [B_pow]; exact Nat.pow_le_pow_right (by norm_num) hbL
  obtain ⟨pv, cv, lv⟩ := Fft.split_bits_spec x bits L hx hn hb (by omega)
  rw [Nat.mul_comm 64] at lv
  have ev := el_padC N L bits _ cv h2L
  rw [lv] at ev
  have h1 : (1 : Int) ≤ 2 ^ bits := one_le_pow₀ (by norm_num)
  refine ⟨length_padC _ _ (by rw [lv]; exact hN), fun i hi => by rw [ev, if_neg (by omega)], fun i => ?_,
    by rw [padC_eval _ L bits _ cv h2L (by rw [lv]; exact hN), pv]⟩
  rw [ev]
  split_ifs with h
  · have hm : (Fft.split_bits x bits L).getD i [] ∈ Fft.split_bits x bits L := by
      rw [List.getD_eq_getElem?_getD, List.getElem?_eq_getElem (by rw [lv]; exact h)]; simp
    have : (val ((Fft.split_bits x bits L).getD i []) : Int) < 2 ^ bits := by exact_mod_cast (cv _ hm).2.2
    exact ⟨by positivity, by omega⟩
  · exact ⟨le_rfl, by omega⟩

/-- the bound 2^(2·bits + depth + 1): at most min(j1, j2) ≤ 2n products overlap -/
theorem conv_lt (a b : List Int) (D bits j1 j2 N j : Nat) (ha0 : ∀ i, j1 ≤ i → el a i = 0) (hb0 : ∀ i, j2 ≤ i → el b i = 0)
    (ha1 : ∀ i, 0 ≤ el a i ∧ el a i ≤ 2 ^ bits - 1) (hb1 : ∀ i, 0 ≤ el b i ∧ el b i ≤ 2 ^ bits - 1)
    (h4 : j1 + j2 ≤ 4 * 2 ^ D + 1) (hj : j < N) :
    0 ≤ el (conv a b N) j ∧ el (conv a b N) j < 2 ^ (2 * bits + D + 1) := by
  have hM : (0 : Int) ≤ 2 ^ bits - 1 := by have : (1 : Int) ≤ 2 ^ bits := one_le_pow₀ (by norm_num); omega
  obtain ⟨c0, c1, c2⟩ := conv_bound a b N j1 j2 j (2 ^ bits - 1) hM ha0 hb0 ha1 hb1 hj
  refine ⟨c0, ?_⟩
  have hsq : ((2 : Int) ^ bits - 1) * (2 ^ bits - 1) < 2 ^ bits * 2 ^ bits := by nlinarith
  have hsq0 : (0 : Int) ≤ (2 ^ bits - 1) * (2 ^ bits - 1) := mul_nonneg hM hM
  have e : (2 : Int) ^ (2 * bits + D + 1) = 2 * 2 ^ D * (2 ^ bits * 2 ^ bits) := by
    rw [pow_succ, pow_add, pow_mul']; ring
  have hmin : ∀ J : Nat, J ≤ 2 * 2 ^ D → el (conv a b N) j ≤ (J : Int) * ((2 ^ bits - 1) * (2 ^ bits - 1)) →
      el (conv a b N) j < 2 ^ (2 * bits + D + 1) := by
    intro J hJ hc
    have hJ' : (J : Int) ≤ 2 * 2 ^ D := by exact_mod_cast hJ
    rw [e]
    calc el (conv a b N) j ≤ (J : Int) * ((2 ^ bits - 1) * (2 ^ bits - 1)) := hc
      _ ≤ 2 * 2 ^ D * ((2 ^ bits - 1) * (2 ^ bits - 1)) := mul_le_mul_of_nonneg_right hJ' hsq0
      _ < 2 * 2 ^ D * (2 ^ bits * 2 ^ bits) := mul_lt_mul_of_pos_left hsq (by positivity)
  rcases Nat.le_total j1 j2 with h | h
  · exact hmin j1 (by omega) c1
  · exact hmin j2 (by omega) c2

/-- the last step of both multipliers (mpir_fft_combine_bits into a zeroed destination) -/
theorem combine_conv (a b : List Int) (D L bits j1 j2 r X1 X2 : Nat) (hb : 1 ≤ bits)
    (ha0 : ∀ i, j1 ≤ i → el a i = 0) (hb0 : ∀ i, j2 ≤ i → el b i = 0)
    (ha1 : ∀ i, 0 ≤ el a i ∧ el a i ≤ 2 ^ bits - 1) (hb1 : ∀ i, 0 ≤ el b i ∧ el b i ≤ 2 ^ bits - 1)
    (hea : ∑ i ∈ range (4 * 2 ^ D), el a i * ((2 : Int) ^ bits) ^ i = (X1 : Int))
    (heb : ∑ i ∈ range (4 * 2 ^ D), el b i * ((2 : Int) ^ bits) ^ i = (X2 : Int))
    (hj1 : 1 ≤ j1) (h4 : j1 + j2 - 1 ≤ 4 * 2 ^ D) (h5 : 2 * bits + D + 1 ≤ 64 * L) (hX : X1 * X2 < B ^ r)
    (Z : Nat → Int) (hZ : ∀ j < j1 + j2 - 1, Z j ≡ el (conv a b (4 * 2 ^ D)) j [ZMOD pOf (64 * L)]) :
    (Fft.combine_bits (List.replicate r 0) ((List.range (j1 + j2 - 1)).map fun j => canon L (Z j)) bits L).length = r ∧
    Limbs (Fft.combine_bits (List.replicate r 0) ((List.range (j1 + j2 - 1)).map fun j => canon L (Z j)) bits L) ∧
    val (Fft.combine_bits (List.replicate r 0) ((List.range (j1 + j2 - 1)).map fun j => canon L (Z j)) bits L) = X1 * X2 := by
  have hcoef : ∀ j, j < j1 + j2 - 1 → (canon L (Z j)).length = L + 1 ∧ Limbs (canon L (Z j)) ∧
      val (canon L (Z j)) < B ^ L ∧ (val (canon L (Z j)) : Int) = el (conv a b (4 * 2 ^ D)) j := fun j hj => by
    obtain ⟨c0, c1⟩ := conv_lt a b D bits j1 j2 (4 * 2 ^ D) j ha0 hb0 ha1 hb1 (by omega) (by omega)
    exact canon_of_small L _ _ (hZ j hj) c0 (lt_of_lt_of_le c1 (pow_le_pow_right₀ (by norm_num) h5))
  obtain ⟨r1, r2, r3⟩ := Fft.combine_bits_spec (List.replicate r 0)
    ((List.range (j1 + j2 - 1)).map fun j => canon L (Z j)) bits L
    (Limbs_replicate_zero _) (val_replicate_zero _) hb
    (fun c hc => by
      obtain ⟨j, hj, rfl⟩ := List.mem_map.mp hc
      obtain ⟨q1, q2, q3, _⟩ := hcoef j (List.mem_range.mp hj)
      exact ⟨q1, q2, q3⟩)
  rw [List.length_replicate] at r1 r3
  refine ⟨r1, r2, ?_⟩
  -- the evaluation at 2^bits: the convolution evaluates to the product of the evaluations
  have hev : (Fft.polyEval bits ((List.range (j1 + j2 - 1)).map fun j => canon L (Z j)) : Int) = (X1 : Int) * (X2 : Int) := by
    rw [polyEval_range_map, ← hea, ← heb, ← cauchy_range (fun i => el a i) (fun i => el b i) ((2 : Int) ^ bits)
      (4 * 2 ^ D) j1 j2 ha0 hb0 (by omega)]
    symm
    rw [← sum_subset (range_subset_range.mpr h4)]
    · exact sum_congr rfl fun j hj => by
        rw [(hcoef j (mem_range.mp hj)).2.2.2, el_conv _ _ _ _ (lt_of_lt_of_le (mem_range.mp hj) h4)]
    · intro j hj hj'
      have : j1 + j2 - 1 ≤ j := by simpa using hj'
      rw [← el_conv _ _ _ _ (mem_range.mp hj), conv_zero a b _ j1 j2 j ha0 hb0 (by omega)]; ring
  rw [r3, show Fft.polyEval bits ((List.range (j1 + j2 - 1)).map fun j => canon L (Z j)) = X1 * X2 by exact_mod_cast hev]
  exact Nat.mod_eq_of_lt hX

/-- mul_trunc_sqrt2.c:78-80: at least 2n + 1 coefficients, rounded up to an even number -/
theorem trunc_even_ok (D t : Nat) (ht : t ≤ 4 * 2 ^ D) :
    TruncSOk D (2 * (((if t ≤ 2 * 2 ^ D then 2 * 2 ^ D + 1 else t) + 1) / 2)) ∧
    t ≤ 2 * (((if t ≤ 2 * 2 ^ D then 2 * 2 ^ D + 1 else t) + 1) / 2) := by
  have := Nat.two_pow_pos D
  unfold TruncSOk
  split_ifs <;> omega

theorem mul_trunc_sqrt2_spec (i1 i2 : List Nat) (depth w : Nat) (hi1 : Limbs i1) (hi2 : Limbs i2)
    (hn1 : 1 ≤ i1.length) (hn2 : 1 ≤ i2.length)
    (hs : FftParams.Sound i1.length i2.length ⟨false, depth, w⟩) :
    (mul_trunc_sqrt2 i1 i2 depth w).length = i1.length + i2.length ∧ Limbs (mul_trunc_sqrt2 i1 i2 depth w) ∧
    val (mul_trunc_sqrt2 i1 i2 depth w) = val i1 * val i2 := by
  simp only [FftParams.Sound, FftParams.limbBits, FftParams.bitsOf, FftParams.trunc, FftParams.coeffs] at hs
  obtain ⟨⟨L, hL⟩, s2, _, s4, s5, _⟩ := hs
  have hw : 1 ≤ w := Nat.pos_of_ne_zero (by rintro rfl; simp at s2)
  have eL : 2 ^ depth * w / 64 = L := by rw [hL]; omega
  generalize hbits : (2 ^ depth * w - (depth + 1)) / 2 = bits at s2 s4 s5
  generalize hq1 : (i1.length * 64 - 1) / bits = q1 at s4
  generalize hq2 : (i2.length * 64 - 1) / bits = q2 at s4
  have hN1 : q1 + 1 ≤ 4 * 2 ^ depth := by omega
  have hN2 : q2 + 1 ≤ 4 * 2 ^ depth := by omega
  have hbL : bits ≤ 64 * L := by omega
  have h5 : 2 * bits + depth + 1 ≤ 64 * L := by omega
  obtain ⟨ht, hJt⟩ := trunc_even_ok depth _ s4
  have hJ : q1 + 1 + (q2 + 1) ≤ 2 * (((if q1 + 1 + (q2 + 1) - 1 ≤ 2 * 2 ^ depth then 2 * 2 ^ depth + 1
      else q1 + 1 + (q2 + 1) - 1) + 1) / 2) + 1 := by omega
  subst hq1 hq2 hbits
  obtain ⟨la, a0, a1, ea⟩ := padC_split i1 _ L (4 * 2 ^ depth) hi1 hn1 s2 hbL hN1
  obtain ⟨lb, b0, b1, eb⟩ := padC_split i2 _ L (4 * 2 ^ depth) hi2 hn2 s2 hbL hN2
  unfold mul_trunc_sqrt2
  simp only [eL]
  exact combine_conv _ _ depth L _ _ _ _ _ _ s2 a0 b0 a1 b1 ea eb (Nat.le_add_left 1 _) s4 h5
    (by rw [pow_add]; exact Nat.mul_lt_mul'' (val_lt i1 hi1) (val_lt i2 hi2)) _
    (fun j hj => conv_chain depth w L _ _ _ _ _ hL hw ht a0 b0 (Nat.le_add_left 1 _) (Nat.le_add_left 1 _) hJ j
      (lt_of_lt_of_le hj hJt))

end Mpir.FftX
