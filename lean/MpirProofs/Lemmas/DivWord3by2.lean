/- Word-level division, three limbs by two: udiv_qr_3by2 and mpir_invert_pi1 (Möller–Granlund). -/
import MpirProofs.Lemmas.DivWord
namespace Mpir.DivWord
open Mpir

/-! ### udiv_qr_3by2 (gmp-impl.h:2871) -/

/-- The arithmetic core, over ℤ with abstract radix: with `(B+v)·d = B³ − k`, `1 ≤ k ≤ d`,
    `B²/2 ≤ d < B²`, `⟨n2,n1⟩ < d` and `n2·(v+B) + n1 = q1·B + q0`, the candidate remainder
    `r = n − (q1+1)·d` lies in `[−d, B²)`, is `≥ −(B−q0)·B`, and `r ≥ q0·B` forces `r < B² − d`. -/
theorem threeby2_core (B d v k n2 n1 n0 q1 q0 r : ℤ)
    (hB : 0 < B) (hd1 : B * B ≤ 2 * d) (hd2 : d < B * B)
    (hv : 0 ≤ v) (hk1 : 1 ≤ k) (hk2 : k ≤ d) (hm : (B + v) * d = B * B * B - k)
    (hn2 : 0 ≤ n2) (hn1 : 0 ≤ n1) (hn1' : n1 < B) (hn0 : 0 ≤ n0) (hn0' : n0 < B)
    (hN : n2 * B + n1 < d)
    (hq0 : 0 ≤ q0) (hq0' : q0 < B) (hX : n2 * (v + B) + n1 = q1 * B + q0)
    (hr : r = n2 * (B * B) + n1 * B + n0 - (q1 + 1) * d) :
    -d ≤ r ∧ r < B * B ∧ -(B - q0) * B ≤ r ∧ (q0 * B ≤ r → r < B * B - d) := by
  have hBB : 0 < B * B := mul_pos hB hB
  have hd0 : 0 < d := by omega
  have key : r * B = n1 * (B * B - d) + n0 * B + n2 * k - (B - q0) * d := by
    have h1 : q1 * B * d = (n2 * (v + B) + n1 - q0) * d := by rw [hX]; ring
    have h2 : n2 * ((B + v) * d) = n2 * (B * B * B - k) := by rw [hm]
    rw [hr]
    linear_combination (-1 : ℤ) * h1 - h2
  have he : 0 < B * B - d := sub_pos.mpr hd2
  have hn2k : 0 ≤ n2 * k := mul_nonneg hn2 (by omega)
  have hn1e : 0 ≤ n1 * (B * B - d) := mul_nonneg hn1 (le_of_lt he)
  have hn0B : 0 ≤ n0 * B := mul_nonneg hn0 (le_of_lt hB)
  have ht1 : 1 ≤ B - q0 := by omega
  have htB : B - q0 ≤ B := by omega
  have hn2lt : n2 ≤ B - 1 := by
    have : n2 * B < B * B := by omega
    have : n2 < B := lt_of_mul_lt_mul_right this (le_of_lt hB)
    omega
  have h1 : n1 * (B * B - d) ≤ (B - 1) * (B * B - d) := mul_le_mul_of_nonneg_right (by omega) (le_of_lt he)
  have h2 : n0 * B ≤ (B - 1) * B := mul_le_mul_of_nonneg_right (by omega) (le_of_lt hB)
  have h3 : n2 * k ≤ (B - 1) * d :=
    le_trans (mul_le_mul_of_nonneg_right hn2lt (by omega)) (mul_le_mul_of_nonneg_left hk2 (by omega))
  have h4 : 1 * d ≤ (B - q0) * d := mul_le_mul_of_nonneg_right ht1 (le_of_lt hd0)
  have h5 : (B - q0) * d ≤ B * d := mul_le_mul_of_nonneg_right htB (le_of_lt hd0)
  have h6 : (B - q0) * d ≤ (B - q0) * (B * B) := mul_le_mul_of_nonneg_left (le_of_lt hd2) (by omega)
  refine ⟨?_, ?_, ?_, ?_⟩
  · -- r ≥ -d
    have : (-d) * B ≤ r * B := by rw [key]; linear_combination hn1e + hn0B + hn2k + h5
    exact le_of_mul_le_mul_right this hB
  · -- r < B²
    have : r * B < (B * B) * B := by rw [key]; linear_combination h1 + h2 + h3 + h4 + hB + hd0
    exact lt_of_mul_lt_mul_right this (le_of_lt hB)
  · -- r ≥ -(B-q0) B
    have : (-(B - q0) * B) * B ≤ r * B := by rw [key]; linear_combination hn1e + hn0B + hn2k + h6
    exact le_of_mul_le_mul_right this hB
  · intro hge
    -- (★★): B (n2 k + n1 e + B²) ≤ B² d + e²
    have hvd : v * d = B * (B * B - d) - k := by linear_combination hm
    have hvd0 : 0 ≤ v * d := mul_nonneg hv (le_of_lt hd0)
    have s1 : (B * n2) * k ≤ (d - 1 - n1) * k := mul_le_mul_of_nonneg_right (by linarith) (by linarith)
    have s2 : n1 * (v * d) ≤ (B - 1) * (v * d) := mul_le_mul_of_nonneg_right (by linarith) hvd0
    have hdB : 0 ≤ d - B := by linarith [mul_self_nonneg (B - 1)]
    have s3 : (B * (B * B - d) - d) * (d - B) ≤ (v * d) * (d - B) :=
      mul_le_mul_of_nonneg_right (by linarith) hdB
    rw [hvd] at s2 s3
    have star : B * (n2 * k + n1 * (B * B - d) + B * B) ≤ B * B * d + (B * B - d) * (B * B - d) := by
      linear_combination s1 + s2 + s3
    by_contra hnot
    rw [not_lt] at hnot
    have g1 : (q0 * B) * B ≤ r * B := mul_le_mul_of_nonneg_right hge (le_of_lt hB)
    have g2 : (B * B - d) * B ≤ r * B := mul_le_mul_of_nonneg_right hnot (le_of_lt hB)
    rw [key] at g1 g2
    have a1 : B * B * B - n0 * B - n2 * k - n1 * (B * B - d) ≤ (B - q0) * (B * B - d) := by
      linear_combination g1
    have a2 : (B - q0) * d ≤ n2 * k + n0 * B - (B - n1) * (B * B - d) := by linear_combination g2
    have m1 := mul_le_mul_of_nonneg_right a1 (le_of_lt hd0)
    have m2 := mul_le_mul_of_nonneg_right a2 (le_of_lt he)
    have k1 : (B * B * B - n0 * B - n2 * k - n1 * (B * B - d)) * d ≤
        (n2 * k + n0 * B - (B - n1) * (B * B - d)) * (B * B - d) := by linear_combination m1 + m2
    have k2 := mul_le_mul_of_nonneg_left star (le_of_lt hB)
    have k3 : n0 * (B * B * B) ≤ (B - 1) * (B * B * B) :=
      mul_le_mul_of_nonneg_right (by omega) (le_of_lt (mul_pos hBB hB))
    have k4 : 0 < B * B * B := mul_pos hBB hB
    linarith [k1, k2, k3, k4]

theorem lex_lt_iff {M x y x' y' : Nat} (hx : x < M) (hx' : x' < M) :
    x + M * y < x' + M * y' ↔ y < y' ∨ (y = y' ∧ x < x') := by
  rcases Nat.lt_trichotomy y y' with h | rfl | h
  · have : M * (y + 1) ≤ M * y' := Nat.mul_le_mul_left _ h
    rw [Nat.mul_succ] at this
    omega
  · omega
  · have : M * (y' + 1) ≤ M * y := Nat.mul_le_mul_left _ h
    rw [Nat.mul_succ] at this
    omega

theorem lex_le_iff {M x y x' y' : Nat} (hx : x < M) (hx' : x' < M) :
    x + M * y ≤ x' + M * y' ↔ y < y' ∨ (y = y' ∧ x ≤ x') := by
  rw [← Nat.not_lt, lex_lt_iff hx' hx]
  omega

/-- lexicographic comparison of two-limb numbers as written in the C -/
theorem lex_ge (R d1 d0 : Nat) (h0 : d0 < B) :
    (decide (R / B ≥ d1) && (decide (R / B > d1) || decide (R % B ≥ d0))) = decide (R ≥ d1 * B + d0) := by
  have e : R ≥ d1 * B + d0 ↔ d1 < R / B ∨ (d1 = R / B ∧ d0 ≤ R % B) := by
    rw [← lex_le_iff h0 (Nat.mod_lt R B_pos), Nat.mod_add_div, Nat.mul_comm, Nat.add_comm]
  rw [Bool.eq_iff_iff]
  simp only [Bool.and_eq_true, Bool.or_eq_true, decide_eq_true_eq, e]
  omega


/-- the remainder limbs computed by udiv_qr_3by2 are n − (q+1)·d modulo B² -/
theorem tb2Rem_spec (q n1 n0 d1 d0 : Nat) (hq : q < B) (hn1 : n1 < B) (hn0 : n0 < B) (hd1 : d1 < B) (hd0 : d0 < B) :
    ∃ R, R < B * B ∧ tb2Rem q n1 n0 d1 d0 = (R / B, R % B) ∧
      (R : ℤ) ≡ (n1 : ℤ) * B + n0 - (q + 1) * (d1 * B + d0) [ZMOD ((B : ℤ) * B)] := by
  have hB := B_pos
  have hBB : 0 < B * B := Nat.mul_pos hB hB
  unfold tb2Rem
  simp only [umul_ppmm_eq]
  have ha1B : (n1 + B - (d1 * q) % B) % B < B := Nat.mod_lt _ hB
  have ha1 : (((n1 + B - (d1 * q) % B) % B : ℕ) : ℤ) ≡ (n1 : ℤ) - d1 * q [ZMOD (B : ℤ)] := by
    refine (natCast_mod_modEq _ _).trans ?_
    have hle : (d1 * q) % B ≤ n1 + B := by have := Nat.mod_lt (d1 * q) hB; omega
    rw [Nat.cast_sub hle]
    push_cast
    have h1 : ((d1 : ℤ) * q) % B ≡ d1 * q [ZMOD (B : ℤ)] := Int.mod_modEq _ _
    have h2 : (n1 : ℤ) + B ≡ n1 + 0 [ZMOD (B : ℤ)] := Int.ModEq.add_left _ (Int.modEq_iff_dvd.mpr ⟨-1, by ring⟩)
    rw [add_zero] at h2
    exact h2.sub h1
  generalize (n1 + B - (d1 * q) % B) % B = a1 at *
  rw [sub_ddmmss_eq a1 n0 d1 d0 ha1B hn0 hd1 hd0, pair2_mod]
  have hdlt : d1 * B + d0 < B * B := by
    have : (d1 + 1) * B ≤ B * B := Nat.mul_le_mul_right _ hd1
    have : (d1 + 1) * B = d1 * B + B := by ring
    omega
  have hR2 : (a1 * B + n0 + B * B - (d1 * B + d0)) % (B * B) < B * B := Nat.mod_lt _ hBB
  have hR2m : (((a1 * B + n0 + B * B - (d1 * B + d0)) % (B * B) : ℕ) : ℤ) ≡
      (a1 : ℤ) * B + n0 - (d1 * B + d0) [ZMOD ((B : ℤ) * B)] := by
    have := natCast_mod_modEq (a1 * B + n0 + B * B - (d1 * B + d0)) (B * B)
    rw [Nat.cast_sub (by omega)] at this
    push_cast at this
    refine this.trans ?_
    rw [Int.modEq_iff_dvd]; exact ⟨-1, by ring⟩
  generalize (a1 * B + n0 + B * B - (d1 * B + d0)) % (B * B) = R2 at *
  simp only
  have hT : d0 * q < B * B := by
    have h1 : d0 * q ≤ d0 * B := Nat.mul_le_mul_left _ (Nat.le_of_lt hq)
    have h2 : d0 * B < B * B := Nat.mul_lt_mul_of_pos_right hd0 hB
    omega
  rw [sub2_eq R2 _ _ hR2 ((Nat.div_lt_iff_lt_mul hB).mpr hT) (Nat.mod_lt _ hB), Nat.div_add_mod']
  refine ⟨(R2 + B * B - d0 * q) % (B * B), Nat.mod_lt _ hBB, rfl, ?_⟩
  have h3 := natCast_mod_modEq (R2 + B * B - d0 * q) (B * B)
  rw [Nat.cast_sub (by omega)] at h3
  push_cast at h3
  refine h3.trans ?_
  have h4 : (R2 : ℤ) + B * B - d0 * q ≡ R2 - d0 * q [ZMOD ((B : ℤ) * B)] := by
    rw [Int.modEq_iff_dvd]; exact ⟨-1, by ring⟩
  refine h4.trans ?_
  have h5 : (a1 : ℤ) * B ≡ ((n1 : ℤ) - d1 * q) * B [ZMOD ((B : ℤ) * B)] := Int.ModEq.mul_right' ha1
  have h6 : (R2 : ℤ) - d0 * q ≡ (((n1 : ℤ) - d1 * q) * B + n0 - (d1 * B + d0)) - d0 * q [ZMOD ((B : ℤ) * B)] := by
    refine Int.ModEq.sub_right _ (hR2m.trans ?_)
    exact (h5.add_right _).sub_right _
  refine h6.trans ?_
  have : (((n1 : ℤ) - d1 * q) * B + n0 - (d1 * B + d0)) - d0 * q = (n1 : ℤ) * B + n0 - (q + 1) * (d1 * B + d0) := by ring
  rw [this]


/-- the unlikely second correction, in terms of the two-limb value -/
theorem tb2Adj2_eq (q R d1 d0 : Nat) (hR : R < B * B) (hd1 : d1 < B) (hd0 : d0 < B) :
    tb2Adj2 q (R / B) (R % B) d1 d0 =
      if R ≥ d1 * B + d0 then ((q + 1) % B, (R - (d1 * B + d0)) / B, (R - (d1 * B + d0)) % B)
      else (q, R / B, R % B) := by
  have hBB : 0 < B * B := Nat.mul_pos B_pos B_pos
  have hlex := lex_ge R d1 d0 hd0
  unfold tb2Adj2
  by_cases h : R ≥ d1 * B + d0
  · rw [if_pos h]
    simp only [h, decide_true, Bool.and_eq_true, decide_eq_true_eq] at hlex
    rw [if_pos hlex.1]
    have h2 : (decide (R / B > d1) || decide (R % B ≥ d0)) = true := hlex.2
    rw [if_pos h2, sub2_eq R d1 d0 hR hd1 hd0]
    have : (R + B * B - (d1 * B + d0)) % (B * B) = R - (d1 * B + d0) := by
      have : R + B * B - (d1 * B + d0) = (R - (d1 * B + d0)) + B * B := by omega
      rw [this, Nat.add_mod_right, Nat.mod_eq_of_lt (by omega)]
    rw [this]
  · rw [if_neg h]
    simp only [h, decide_false] at hlex
    by_cases h1 : R / B ≥ d1
    · rw [if_pos h1]
      have h2 : (decide (R / B > d1) || decide (R % B ≥ d0)) = false := by
        simpa [h1] using hlex
      rw [h2]; rfl
    · rw [if_neg h1]

theorem pred_succ_mod {q : Nat} (hq : q < B) : ((q + 1) % B + B - 1) % B = q := by
  by_cases h : q + 1 = B
  · rw [h, Nat.mod_self, Nat.zero_add, Nat.mod_eq_of_lt (by omega)]; omega
  · rw [Nat.mod_eq_of_lt (show q + 1 < B by omega), show q + 1 + B - 1 = q + B by omega,
      Nat.add_mod_right, Nat.mod_eq_of_lt hq]

/-- the two conditional corrections of udiv_qr_3by2 deliver the Euclidean quotient and remainder.
    `R` is the candidate remainder `n − (q1+1)·d` modulo B²: it wrapped around (first alternative, seen by
    the test `r1 ≥ q0`) or it did not, and then that test fires at most when adding `d` does not overflow. -/
theorem tb2Adjust_spec (q1 q0 R d1 d0 n : Nat) (hd1 : d1 < B) (hd0 : d0 < B)
    (hnorm : B * B ≤ 2 * (d1 * B + d0)) (hR : R < B * B) (hn : n < (d1 * B + d0) * B)
    (h : (n + B * B = R + (q1 + 1) * (d1 * B + d0) ∧ q0 * B ≤ R ∧ B * B ≤ R + (d1 * B + d0)) ∨
         (n = R + (q1 + 1) * (d1 * B + d0) ∧ (q0 * B ≤ R → R + (d1 * B + d0) < B * B))) :
    tb2Adjust ((q1 + 1) % B) q0 (R / B) (R % B) d1 d0 =
      (n / (d1 * B + d0), (n % (d1 * B + d0)) / B, (n % (d1 * B + d0)) % B) := by
  have hB := B_pos
  have hdlt := two_limb_lt hd1 hd0
  unfold tb2Adjust
  rw [add2_eq]
  have hA2 := fun q R hR => tb2Adj2_eq q R d1 d0 hR hd1 hd0
  generalize d1 * B + d0 = d at *
  have hdiv_le : ∀ a, q0 ≤ a / B ↔ q0 * B ≤ a := fun a => Nat.le_div_iff_mul_le hB
  rw [Nat.add_mul, Nat.one_mul] at h
  rw [Nat.mul_comm d B] at hn
  generalize hP : q1 * d = P at *
  generalize hBd : B * d = Bd at *
  rcases h with ⟨e, hq, hw⟩ | ⟨e, hq⟩
  · have hq1 : q1 < B := by
      apply Nat.lt_of_mul_lt_mul_right (a := d); rw [hP, hBd]; omega
    rw [if_pos ((hdiv_le R).mpr hq), Nat.mod_eq_sub_mod hw, Nat.mod_eq_of_lt (by omega)]
    simp only
    rw [hA2 _ _ (by omega), if_neg (by omega)]
    obtain ⟨e1, e2⟩ := divmod_of_eq n d q1 (R + d - B * B) (by rw [hP]; omega) (by omega)
    rw [e1, e2, pred_succ_mod hq1]
  · have hq1 : q1 + 1 < B := by
      apply Nat.lt_of_mul_lt_mul_right (a := d); rw [Nat.add_mul, Nat.one_mul, hP, hBd]; omega
    have hq1' : (q1 + 1) % B = q1 + 1 := Nat.mod_eq_of_lt hq1
    by_cases hge : q0 ≤ R / B
    · have hlt := hq ((hdiv_le R).mp hge)
      rw [if_pos hge, Nat.mod_eq_of_lt hlt]
      simp only
      rw [hA2 _ _ hlt, if_pos (Nat.le_add_left d R)]
      obtain ⟨e1, e2⟩ := divmod_of_eq n d (q1 + 1) R (by rw [Nat.add_mul, Nat.one_mul, hP]; omega) (by omega)
      rw [e1, e2, Nat.add_sub_cancel, pred_succ_mod (Nat.lt_of_succ_lt hq1), hq1']
    · rw [if_neg hge, hA2 _ _ hR]
      by_cases hRd : R ≥ d
      · rw [if_pos hRd]
        have hq2B : q1 + 2 < B := by
          apply Nat.lt_of_mul_lt_mul_right (a := d); rw [Nat.add_mul, hP, hBd]; omega
        obtain ⟨e1, e2⟩ := divmod_of_eq n d (q1 + 2) (R - d) (by rw [Nat.add_mul, hP]; omega) (by omega)
        rw [e1, e2, hq1', Nat.mod_eq_of_lt hq2B]
      · rw [if_neg hRd]
        obtain ⟨e1, e2⟩ := divmod_of_eq n d (q1 + 1) R (by rw [Nat.add_mul, Nat.one_mul, hP]; omega) (by omega)
        rw [e1, e2, hq1']

/-- `threeby2_core` for limbs: the quotient estimate `q1` is a limb, and a two-limb `R` congruent to the
    candidate remainder `n − (q1+1)·d` is that remainder, or it plus B², with the bounds `tb2Adjust_spec` needs -/
theorem threeby2_cases (n2 n1 n0 d dinv q1 q0 : ℕ) (hn1 : n1 < B) (hn0 : n0 < B) (hd1 : B * B ≤ 2 * d)
    (hd2 : d < B * B) (hN : n2 * B + n1 < d) (hv1 : (B + dinv) * d ≤ B * B * B - 1)
    (hv2 : B * B * B - 1 < (B + dinv + 1) * d) (hq0 : q0 < B)
    (hX : n2 * dinv + (n2 * B + n1) = q1 * B + q0) :
    q1 < B ∧ ∀ R : ℕ, R < B * B →
      (R : ℤ) ≡ (n1 : ℤ) * B + n0 - ((q1 : ℤ) + 1) * d [ZMOD ((B : ℤ) * B)] →
      (n2 * B * B + n1 * B + n0 + B * B = R + (q1 + 1) * d ∧ q0 * B ≤ R ∧ B * B ≤ R + d) ∨
      (n2 * B * B + n1 * B + n0 = R + (q1 + 1) * d ∧ (q0 * B ≤ R → R + d < B * B)) := by
  have hBBB : 0 < B * B * B := Nat.mul_pos (Nat.mul_pos B_pos B_pos) B_pos
  obtain ⟨k, hk, hk1, hk2⟩ : ∃ k, (B + dinv) * d + k = B * B * B ∧ 1 ≤ k ∧ k ≤ d := by
    rw [Nat.add_mul _ 1, Nat.one_mul] at hv2
    exact ⟨B * B * B - (B + dinv) * d, by omega, by omega, by omega⟩
  have hBz : (0 : ℤ) < B := by exact_mod_cast B_pos
  obtain ⟨c1, c2, c3, c4⟩ := threeby2_core (B : ℤ) d dinv k n2 n1 n0 q1 q0
    ((n2 : ℤ) * (B * B) + n1 * B + n0 - ((q1 : ℤ) + 1) * d) hBz (by exact_mod_cast hd1)
    (by exact_mod_cast hd2) (Int.natCast_nonneg _) (by exact_mod_cast hk1) (by exact_mod_cast hk2)
    (by have := congrArg ((↑) : ℕ → ℤ) hk; push_cast at this; linear_combination this)
    (Int.natCast_nonneg _) (Int.natCast_nonneg _) (by exact_mod_cast hn1) (Int.natCast_nonneg _)
    (by exact_mod_cast hn0) (by exact_mod_cast hN) (Int.natCast_nonneg _) (by exact_mod_cast hq0)
    (by have := congrArg ((↑) : ℕ → ℤ) hX; push_cast at this; linear_combination this) rfl
  have hdz : (0 : ℤ) ≤ d := Int.natCast_nonneg _
  clear hk hk1 hk2 hv1 hv2 hX
  generalize hr : (n2 : ℤ) * (B * B) + n1 * B + n0 - ((q1 : ℤ) + 1) * d = r at *
  refine ⟨?_, fun R hR hmod => ?_⟩
  · have h1 : (q1 : ℤ) * d < B * d := by
      have : (n2 : ℤ) * B + n1 + 1 ≤ d := by exact_mod_cast hN
      have hn0' : (n0 : ℤ) < B := by exact_mod_cast hn0
      linarith [mul_le_mul_of_nonneg_right this hBz.le]
    exact_mod_cast lt_of_mul_lt_mul_right h1 hdz
  · have hRe : (R : ℤ) = r % ((B : ℤ) * B) := by
      have h2 : (R : ℤ) ≡ r [ZMOD ((B : ℤ) * B)] := by
        refine hmod.trans ?_
        rw [← hr, Int.modEq_iff_dvd]; exact ⟨n2, by ring⟩
      rw [← h2.eq, Int.emod_eq_of_lt (Int.natCast_nonneg _) (by exact_mod_cast hR)]
    have hd2z : (d : ℤ) < B * B := by exact_mod_cast hd2
    by_cases hneg : r < 0
    · rw [← Int.add_emod_right, Int.emod_eq_of_lt (by linarith) (by linarith)] at hRe
      refine Or.inl ⟨?_, ?_, ?_⟩
      · zify; linear_combination hr - hRe
      · zify; linarith
      · zify; linarith
    · rw [Int.emod_eq_of_lt (not_lt.mp hneg) c2] at hRe
      refine Or.inr ⟨?_, fun h => ?_⟩
      · zify; linear_combination hr - hRe
      · zify at h ⊢; linarith [c4 (by linarith)]

theorem udiv_qr_3by2_eq (n2 n1 n0 d1 d0 dinv : Nat) (hn2 : n2 < B) (hn1 : n1 < B) (hn0 : n0 < B)
    (hd1 : d1 < B) (hd0 : d0 < B) (hnorm : B / 2 ≤ d1) (hN : n2 * B + n1 < d1 * B + d0)
    (hdinv : dinv = (B * B * B - 1) / (d1 * B + d0) - B) :
    udiv_qr_3by2 n2 n1 n0 d1 d0 dinv =
      ((n2 * B * B + n1 * B + n0) / (d1 * B + d0),
       ((n2 * B * B + n1 * B + n0) % (d1 * B + d0)) / B,
       ((n2 * B * B + n1 * B + n0) % (d1 * B + d0)) % B) := by
  have hB := B_pos
  have hdlt := two_limb_lt hd1 hd0
  have hdge : B * B ≤ 2 * (d1 * B + d0) := by
    have := Nat.mul_le_mul_right B (two_mul_ge_B hnorm)
    rw [Nat.mul_add, ← Nat.mul_assoc]; omega
  obtain ⟨hvB, hv1, hv2⟩ := recip_bounds (B * B * B) (d1 * B + d0) (by omega)
    (by rw [Nat.mul_assoc]; exact Nat.mul_lt_mul_of_pos_left hdlt hB)
    (by rw [Nat.mul_comm 2, Nat.mul_assoc, Nat.mul_assoc]; exact Nat.mul_le_mul_left B hdge)
  rw [← hdinv] at hvB hv1 hv2
  have hnlt : n2 * B * B + n1 * B + n0 < (d1 * B + d0) * B := by
    have := Nat.mul_le_mul_right B (Nat.succ_le_of_lt hN)
    rw [Nat.succ_mul, Nat.add_mul] at this; omega
  unfold udiv_qr_3by2
  rw [umul_ppmm_eq]
  simp only
  rw [add_ssaaaa_eq, Nat.div_add_mod']
  simp only
  have hq0B : (n2 * dinv + (n2 * B + n1)) % B < B := Nat.mod_lt _ hB
  have hXdm := Nat.div_add_mod' (n2 * dinv + (n2 * B + n1)) B
  generalize (n2 * dinv + (n2 * B + n1)) / B = q1 at *
  generalize (n2 * dinv + (n2 * B + n1)) % B = q0 at *
  obtain ⟨hq1B, hcases⟩ := threeby2_cases n2 n1 n0 (d1 * B + d0) dinv q1 q0 hn1 hn0 hdge hdlt hN hv1 hv2
    hq0B hXdm.symm
  rw [Nat.mod_eq_of_lt hq1B]
  obtain ⟨R, hR, hRe, hRm⟩ := tb2Rem_spec q1 n1 n0 d1 d0 hq1B hn1 hn0 hd1 hd0
  rw [hRe]
  exact tb2Adjust_spec q1 q0 R d1 d0 _ hd1 hd0 hdge hR hnlt
    (hcases R hR (by rw [Nat.cast_add, Nat.cast_mul]; exact hRm))


/-! ### mpir_invert_pi1 (gmp-impl.h:2831) -/

/-- phase A: after absorbing d0 into the high limb, p = B − G with G = B² − (B+v)·d1 − d0 ∈ [1, d1] -/
theorem pi1PhaseA_spec (v0 k1 d1 d0 : Nat) (hY : (B + v0) * d1 + k1 = B * B) (hk1 : 1 ≤ k1) (hk2 : k1 ≤ d1)
    (hnorm : B / 2 ≤ d1) (hd1 : d1 < B) (hd0 : d0 < B) (hv0 : v0 < B) :
    ∃ j G, (pi1PhaseA v0 (((d1 * v0) % B + d0) % B) d1 d0).1 + j = v0 ∧ j ≤ 2 ∧
      (pi1PhaseA v0 (((d1 * v0) % B + d0) % B) d1 d0).2 + G = B ∧ 1 ≤ G ∧ G ≤ d1 ∧ G + d0 = k1 + j * d1 := by
  have hYe : d1 * v0 + B * d1 + k1 = B * B := by rw [← hY]; ring
  clear hY
  -- v0 ≥ 1 unless k1 > d0 ; v0 ≥ 2 unless k1 + d1 > d0
  have hv1 : d0 ≥ k1 → 1 ≤ v0 := by
    intro h; by_contra h3
    have : v0 = 0 := by omega
    subst this; simp only [B_eq, Nat.mul_zero] at *; omega
  have hv2 : d0 ≥ k1 + d1 → 2 ≤ v0 := by
    intro h; by_contra h3
    have : v0 = 0 ∨ v0 = 1 := by omega
    rcases this with rfl | rfl
    · simp only [B_eq, Nat.mul_zero] at *; omega
    · simp only [B_eq, Nat.mul_one] at *; omega
  have hYm : (d1 * v0) % B = B - k1 := by
    generalize d1 * v0 = Y at *
    simp only [B_eq] at *; omega
  rw [hYm]
  clear hYm hYe
  unfold pi1PhaseA
  by_cases hc : d0 ≥ k1
  · have hp2 : (B - k1 + d0) % B = d0 - k1 := by simp only [B_eq] at *; omega
    rw [hp2, if_pos (by omega)]
    by_cases hm : d0 - k1 ≥ d1
    · simp only [hm, if_true, and_mask d1 hd1]
      have := hv2 (by omega)
      clear hv1 hv2 hp2
      simp only [B_eq] at *
      refine ⟨2, k1 + 2 * d1 - d0, ?_, by omega, ?_, ?_, ?_, ?_⟩ <;> omega
    · simp only [hm, if_false, Nat.zero_and]
      have := hv1 hc
      clear hv1 hv2 hp2
      simp only [B_eq] at *
      refine ⟨1, k1 + d1 - d0, ?_, by omega, ?_, ?_, ?_, ?_⟩ <;> omega
  · have hp2 : (B - k1 + d0) % B = B - k1 + d0 := by simp only [B_eq] at *; omega
    rw [hp2, if_neg (by omega)]
    simp only [B_eq] at *
    refine ⟨0, k1 - d0, ?_, by omega, ?_, ?_, ?_, ?_⟩ <;> omega

/-- phase B: F(v') = B·G − d0·v + j'·d lands in [1, d] -/
theorem pi1PhaseB_spec (v p G d1 d0 : Nat) (hp : p + G = B) (hG1 : 1 ≤ G) (hG2 : G ≤ d1) (hv : v < B)
    (hnorm : B / 2 ≤ d1) (hd1 : d1 < B) (hd0 : d0 < B) :
    ∃ j, pi1PhaseB v p d1 d0 + j = v ∧ j ≤ 2 ∧ 1 + d0 * v ≤ B * G + j * (d1 * B + d0) ∧
      B * G + j * (d1 * B + d0) ≤ d0 * v + (d1 * B + d0) := by
  have hT : d0 * v < B * B := by
    have h1 : d0 * v ≤ d0 * B := Nat.mul_le_mul_left _ (Nat.le_of_lt hv)
    have h2 : d0 * B < B * B := Nat.mul_lt_mul_of_pos_right hd0 B_pos
    omega
  have hv1 : d0 * v ≥ B → 1 ≤ v := by
    intro h; by_contra h3
    have : v = 0 := by omega
    subst this; simp only [B_eq, Nat.mul_zero] at *; omega
  have hv2 : d0 * v ≥ B → 2 ≤ v := by
    intro h; by_contra h3
    have : v = 0 ∨ v = 1 := by omega
    rcases this with rfl | rfl
    · simp only [B_eq, Nat.mul_zero] at *; omega
    · simp only [B_eq, Nat.mul_one] at *; omega
  unfold pi1PhaseB
  rw [umul_ppmm_eq]
  simp only
  generalize d0 * v = T at *
  have hdm := Nat.div_add_mod T B
  have htl := Nat.mod_lt T B_pos
  generalize T / B = th at *
  generalize T % B = tl at *
  by_cases hc : th ≥ G
  · have hp' : (p + th) % B = th - G := by simp only [B_eq] at *; omega
    rw [hp', if_pos (by simp only [B_eq] at *; omega)]
    have := hv2 (by simp only [B_eq] at *; omega)
    clear hv1 hv2 hp'
    by_cases h1 : th - G ≥ d1
    · rw [if_pos h1]
      by_cases h2 : (decide (th - G > d1) || decide (tl ≥ d0)) = true
      · rw [if_pos h2]
        simp only [Bool.or_eq_true, decide_eq_true_eq] at h2
        simp only [B_eq] at *
        refine ⟨2, ?_, by omega, ?_, ?_⟩ <;> omega
      · rw [if_neg h2]
        simp only [Bool.or_eq_true, decide_eq_true_eq, not_or, not_lt, not_le] at h2
        simp only [B_eq] at *
        refine ⟨1, ?_, by omega, ?_, ?_⟩ <;> omega
    · rw [if_neg h1]
      simp only [B_eq] at *
      refine ⟨1, ?_, by omega, ?_, ?_⟩ <;> omega
  · have hp' : (p + th) % B = p + th := by simp only [B_eq] at *; omega
    rw [hp', if_neg (by omega)]
    clear hv1 hv2 hp'
    simp only [B_eq] at *
    refine ⟨0, ?_, by omega, ?_, ?_⟩ <;> omega

theorem invert_pi1_unfold (d1 d0 : Nat) :
    invert_pi1 d1 d0 =
      pi1PhaseB (pi1PhaseA (invert_limb d1) (((d1 * invert_limb d1) % B + d0) % B) d1 d0).1
        (pi1PhaseA (invert_limb d1) (((d1 * invert_limb d1) % B + d0) % B) d1 d0).2 d1 d0 := rfl

theorem invert_pi1_eq (d1 d0 : Nat) (hnorm : B / 2 ≤ d1) (hd1 : d1 < B) (hd0 : d0 < B) :
    invert_pi1 d1 d0 = (B * B * B - 1) / (d1 * B + d0) - B := by
  obtain ⟨hv, hv1, hv2⟩ := invert_limb_bounds d1 hnorm hd1
  have hBB : 0 < B * B := Nat.mul_pos B_pos B_pos
  rw [invert_pi1_unfold]
  generalize invert_limb d1 = v0 at *
  -- k1 = B² − (B+v0)·d1
  obtain ⟨k1, hY, hk1, hk2⟩ : ∃ k1, (B + v0) * d1 + k1 = B * B ∧ 1 ≤ k1 ∧ k1 ≤ d1 := by
    refine ⟨B * B - (B + v0) * d1, by omega, by omega, ?_⟩
    have : (B + v0 + 1) * d1 = (B + v0) * d1 + d1 := by ring
    omega
  obtain ⟨j, G, hvA, hj, hpA, hG1, hG2, hGe⟩ := pi1PhaseA_spec v0 k1 d1 d0 hY hk1 hk2 hnorm hd1 hd0 hv
  generalize pi1PhaseA v0 (((d1 * v0) % B + d0) % B) d1 d0 = resA at *
  obtain ⟨vA, pA⟩ := resA
  have hvA : vA + j = v0 := hvA
  have hpA : pA + G = B := hpA
  show pi1PhaseB vA pA d1 d0 = _
  obtain ⟨j', hvB, hj', hF1, hF2⟩ := pi1PhaseB_spec vA pA G d1 d0 hpA hG1 hG2 (by omega) hnorm hd1 hd0
  generalize pi1PhaseB vA pA d1 d0 = vB at *
  -- (B + vB)·d + F = B³
  have e1 : (B + vA) * d1 + j * d1 + k1 = B * B := by rw [← hY, ← hvA]; ring
  have e2 : (B + vB) * (d1 * B + d0) + j' * (d1 * B + d0) = ((B + vA) * d1) * B + B * d0 + d0 * vA := by
    rw [← hvB]; ring
  have hd0' : 0 < d1 * B + d0 := by simp only [B_eq] at *; omega
  generalize hd : d1 * B + d0 = d at *
  have hjd : j * d1 ≤ 2 * d1 := Nat.mul_le_mul_right _ hj
  have hj'd : j' * d ≤ 2 * d := Nat.mul_le_mul_right _ hj'
  generalize (B + vA) * d1 = P at *
  generalize d0 * vA = Q at *
  generalize j * d1 = J at *
  generalize j' * d = J' at *
  generalize hE : (B + vB) * d = E at *
  have hBBB : B * B * B = 6277101735386680763835789423207666416102355444464034512896 := by
    rw [B_eq]
  have key : E + (B * G + J') = B * B * B + Q := by
    rw [hBBB]; simp only [B_eq] at *; omega
  have lo : (B + vB) * d ≤ B * B * B - 1 := by rw [hE]; omega
  have hi : B * B * B - 1 < (B + vB + 1) * d := by
    have : (B + vB + 1) * d = (B + vB) * d + d := by ring
    rw [this, hE]; omega
  rw [Nat.div_eq_of_lt_le lo hi]; omega

end Mpir.DivWord
