/- The pointer-level mpf functions after AliasMpf2 in two sections: mpf_div; then mpf_floor / ceil / trunc, mpf_mul_2exp /
   div_2exp, mpf_ui_div. -/
import MpirProofs.Lemmas.AliasMpf2
import Mpir.Model.AliasMpf3

/- mpf_div on the pointer-level mpf model (Mpir/Model/AliasMpf.lean): r = u needs the dividend copied even when it is
   chopped (raw precision), r = v needs the divisor copied, u = v is harmless. -/

section
namespace Mpir.AliasMem
open Mpir
open Mpir.DivZ (sizeNat siz sameSign)

/-- div.c:137-147: the remainder area `remp` is a TMP block of the call -/
theorem divFinish_ok {s : FSt} (h : FInv s) {st0 : St} (i0 : Inv st0) (x0 : Ext s.st st0) {r : Nat} (hr : r < s.st.nv)
    {remp up off tsize vp vn : Nat} {Nl Vl Rm0 : List Nat} (neg : Bool) (rexp : Int) (tmps : List Nat)
    (hN : st0.loadAt up off tsize = .ok Nl) (hV : st0.load vp vn = .ok Vl)
    (hN1 : B ^ (tsize - 1) ≤ val Nl) (hN2 : val Nl < B ^ tsize) (hV1 : B ^ (vn - 1) ≤ val Vl) (hV2 : val Vl < B ^ vn)
    (hVtop : Vl.getD (vn - 1) 0 ≠ 0) (hvn : 1 ≤ vn) (hts : tsize = s.prec r + vn)
    (hrem : st0.blk remp = some Rm0) (hreml : vn ≤ Rm0.length) (hremnv : ∀ i, i < s.st.nv → s.st.ptr i ≠ remp)
    (hremlt : remp < st0.next) (hremfresh : s.st.blk remp = none)
    (h1 : s.st.ptr r ≠ up) (h2 : s.st.ptr r ≠ vp) (h3 : remp ≠ up) (h4 : remp ≠ vp)
    (htmps : ∀ p, p ∈ tmps → ∀ i, i < s.st.nv → s.st.ptr i ≠ p) :
    ∃ s', divFinish s r (s.st.ptr r) remp up off tsize vp vn (s.prec r) neg rexp tmps st0 = .ok s' ∧
      FRes s s' r (Mpf.quotFinish (s.prec r) neg (val Nl / val Vl) rexp) := by
  subst hts
  obtain ⟨bR, hbR, -, -, hroom, -, -⟩ := h.blk hr
  have hbR0 : st0.blk (s.st.ptr r) = some bR := by rw [x0.blk _ (by rw [hbR]; simp), hbR]
  obtain ⟨hQlt, hQsz⟩ := quot_size hN1 hN2 hV1 hV2 hvn (Nat.le_add_left _ _)
  simp only [Nat.add_sub_cancel] at hQlt hQsz
  generalize hq : val Nl / val Vl = q at *
  have hrp_rem : s.st.ptr r ≠ remp := hremnv r hr
  unfold divFinish mpn_tdiv_qr_off
  have hc : ¬ (s.st.ptr r = up ∨ s.st.ptr r = vp ∨ remp = up ∨ remp = vp ∨ s.st.ptr r = remp) :=
    not_or.mpr ⟨h1, not_or.mpr ⟨h2, not_or.mpr ⟨h3, not_or.mpr ⟨h4, hrp_rem⟩⟩⟩⟩
  have hs : ¬ ¬ (1 ≤ vn ∧ vn ≤ s.prec r + vn) := fun hx => hx ⟨hvn, Nat.le_add_left _ _⟩
  simp only [bind, Except.bind, hc, if_false, hN, hV, hs, hVtop, pure, Except.pure, Nat.add_sub_cancel, hq]
  rw [store_blk hbR0 (by rw [toLimbs_length]; exact hroom)]
  simp only [toLimbs_length]
  rw [store_blk ((setBlk_blk_ne _ _ (Ne.symm hrp_rem)).trans hrem) (by rw [toLimbs_length]; exact hreml)]
  simp only [toLimbs_length]
  rw [limbAt_toLimbs ((setBlk_blk_ne _ _ hrp_rem).trans (setBlk_blk_self _ _ _)) (Nat.lt_succ_self _)]
  refine ⟨_, rfl, ?_⟩
  -- the remainder is stored into a block that no variable points to: seen from the variables it is part of the state
  -- in which the quotient is stored
  have i1 : Inv (st0.setBlk remp (some (toLimbs vn (val Nl % val Vl) ++ List.drop vn Rm0))) :=
    (setBlk_nonvar i0 (fun i hi => by rw [x0.ptr]; exact hremnv i (by rw [x0.nv] at hi; exact hi)) hremlt _).1
  have x1 : Ext s.st (st0.setBlk remp (some (toLimbs vn (val Nl % val Vl) ++ List.drop vn Rm0))) :=
    ⟨x0.nv, x0.vars, fun p hp => (setBlk_blk_ne _ _ (fun e => hp (by rw [e]; exact hremfresh))).trans (x0.blk p hp), x0.next⟩
  refine fput_quot h i1 x1 hr hbR q neg rexp tmps hQlt hQsz htmps ?_ rfl (fun j => rfl)
  rw [← setBlk_comm _ hrp_rem]
  rfl

theorem Ext.loadAt {s s' : St} (h : Ext s s') {p off n : Nat} {l : List Nat} (hl : s.loadAt p off n = .ok l) :
    s'.loadAt p off n = .ok l := by
  unfold St.loadAt at *
  cases hb : s.blk p with
  | none => rw [hb] at hl; simp at hl
  | some b => rw [h.blk p (by rw [hb]; simp), hb]; rw [hb] at hl; exact hl

/-- div.c:121-128 -/
theorem divPrepU_ok {st : St} (i : Inv st) (c : Bool) {up off n : Nat} {l : List Nat} (hl : st.loadAt up off n = .ok l)
    (hlen : l.length = n) (zeros : Nat) (hz : c = false → zeros = 0) :
    ∃ up' off' tmps st', divPrepU c up off n zeros st = .ok (up', off', n + zeros, tmps, st') ∧ Inv st' ∧ Ext st st' ∧
      st'.loadAt up' off' (n + zeros) = .ok (List.replicate zeros 0 ++ l) ∧
      (∀ p, p ∈ tmps → st.next ≤ p) ∧ (∀ q, q < st.next → (c = false → q ≠ up) → q ≠ up') := by
  cases c
  · obtain rfl := hz rfl
    exact ⟨up, off, [], st, rfl, i, Ext.refl st, hl, fun _ hp => absurd hp List.not_mem_nil, fun _ _ hq => hq rfl⟩
  · refine ⟨st.next, 0, [st.next], (st.malloc (List.replicate zeros 0 ++ l)).2, ?_, malloc_inv i _,
      malloc_ext i _, ?_, fun p hp => Nat.le_of_eq (List.mem_singleton.mp hp).symm, fun _ hq _ => Nat.ne_of_lt hq⟩
    · simp only [divPrepU, if_true, bind, Except.bind, hl, pure, Except.pure, St.malloc]
    · have hlen' : (List.replicate zeros 0 ++ l).length = n + zeros := by
        rw [List.length_append, List.length_replicate, hlen, Nat.add_comm]
      rw [loadAt_ok (malloc_blk_new st _) (by rw [hlen', Nat.zero_add]), List.drop_zero,
        List.take_of_length_le (Nat.le_of_eq hlen')]

/-- div.c:130-135 -/
theorem divPrepV_ok {st : St} (i : Inv st) (c : Bool) {p n : Nat} {l : List Nat} (hl : st.load p n = .ok l) :
    ∃ p' tmps st', divPrepV c p n st = .ok (p', tmps, st') ∧ Inv st' ∧ Ext st st' ∧ st'.load p' n = .ok l ∧
      (∀ q, q ∈ tmps → st.next ≤ q) ∧ (∀ q, q < st.next → (c = false → q ≠ p) → q ≠ p') := by
  cases c
  · exact ⟨p, [], st, rfl, i, Ext.refl st, hl, fun _ hp => absurd hp List.not_mem_nil, fun _ _ hq => hq rfl⟩
  · refine ⟨st.next, [st.next], (st.malloc l).2, ?_, malloc_inv i l, malloc_ext i l, ?_,
      fun q hq => Nat.le_of_eq (List.mem_singleton.mp hq).symm, fun _ hq _ => Nat.ne_of_lt hq⟩
    · simp only [divPrepV, St.tmpCopy, if_true, bind, Except.bind, hl, pure, Except.pure, St.malloc]
    · have := load_of_blk (malloc_blk_new st l)
      rwa [load_length hl] at this

/-- ui_div.c:86-91 is the same step -/
theorem divPrepV_eq (c : Prop) [Decidable c] (vp n : Nat) (st : St) :
    (if c then Except.bind (st.tmpCopy vp n) fun r3 => Except.ok (r3.1, [r3.1], r3.2) else Except.ok (vp, [], st)) =
      divPrepV (decide c) vp n st := by
  unfold divPrepV
  by_cases hc : c <;> simp only [hc, decide_true, decide_false, if_true, if_false, Bool.false_eq_true] <;> rfl

/-- the bit-exact model's answer, with the quantities named as in div.c -/
theorem mpf_div_value {s : FSt} (h : FInv s) {u v : Nat} (hu : u < s.st.nv) (hv : v < s.st.nv) (prec : Nat)
    (hv0 : s.st.size v ≠ 0) (hu0 : s.st.size u ≠ 0) :
    Mpf.div prec (s.F u) (s.F v) =
      .ok (Mpf.quotFinish prec (!decide (sameSign (s.st.size u) (s.st.size v)))
        (val ((s.st.limbs u).drop (max (-(((prec + 1 : Nat) : Int) - (((s.st.size u).natAbs : Int) - ((s.st.size v).natAbs : Int) + 1))) 0).toNat) *
          B ^ ((((prec + 1 : Nat) : Int) - (((s.st.size u).natAbs : Int) - ((s.st.size v).natAbs : Int) + 1)) +
            ((max (-(((prec + 1 : Nat) : Int) - (((s.st.size u).natAbs : Int) - ((s.st.size v).natAbs : Int) + 1))) 0).toNat : Int)).toNat
          / val (s.st.limbs v))
        (s.exp u - s.exp v + 1)) := by
  unfold Mpf.div
  have e1 : (s.F v).size ≠ 0 := hv0
  have e2 : (s.F u).size ≠ 0 := hu0
  rw [if_neg e1, if_neg e2]
  simp only [FSt.F, (h.inv.limbs_spec hu).1, (h.inv.limbs_spec hv).1, neg_eq]
  rfl

/-- div.c:92-101: `chop` low limbs of u are ignored, or `zeros` zero limbs are put below u -/
theorem div_chop_zeros {prec nu nv : Nat} (hu : 1 ≤ nu) (hv : 1 ≤ nv) {zI : Int} {chop zeros : Nat}
    (hzI : ((prec + 1 : Nat) : Int) - ((nu : Int) - (nv : Int) + 1) = zI) (hchop : (max (-zI) 0).toNat = chop)
    (hzeros : (zI + (chop : Int)).toNat = zeros) :
    chop ≤ nu ∧ nu - chop + zeros = prec + nv ∧ (¬ zI > 0 → zeros = 0) ∧ 1 ≤ nu - chop := by
  omega

theorem mpf_div_ok {s : FSt} (h : FInv s) {r u v : Nat} (hr : r < s.st.nv) (hu : u < s.st.nv) (hv : v < s.st.nv)
    (hv0 : s.st.size v ≠ 0) :
    ∃ s' f, mpf_div r u v s = .ok s' ∧ Mpf.div (s.prec r) (s.F u) (s.F v) = .ok f ∧ FRes s s' r f := by
  unfold mpf_div mpf_divV
  simp only [FVariant.c, bind, Except.bind, pure, Except.pure, true_and]
  rw [if_neg (Int.natAbs_ne_zero.mpr hv0)]
  by_cases hu0 : s.st.size u = 0
  · rw [if_pos (by rw [hu0]; rfl)]
    refine ⟨_, Mpf.zero (s.prec r), rfl, ?_, setSE_zero_spec h hr⟩
    unfold Mpf.div
    have e1 : (s.F v).size ≠ 0 := hv0
    have e2 : (s.F u).size = 0 := hu0
    rw [if_neg e1, if_pos e2]
  · rw [if_neg (Int.natAbs_ne_zero.mpr hu0)]
    have hdiv := mpf_div_value h hu hv (s.prec r) hv0 hu0
    have oU := h.inv.normOp hu hu0
    have oV := h.inv.normOp hv hv0
    have hlU := loadAt_var_off h.inv hu
    have hlV := h.inv.load_var hv
    have hpr := h.inv.lt r hr
    have hpu := h.inv.lt u hu
    have hpv := h.inv.lt v hv
    have hlt : ∀ i, i < s.st.nv → s.st.ptr i < s.st.next := h.inv.lt
    generalize (s.st.size u).natAbs = nu at *
    generalize (s.st.size v).natAbs = nv at *
    generalize hzI : (((s.prec r + 1 : Nat) : Int) - ((nu : Int) - (nv : Int) + 1)) = zI at *
    generalize hchop : (max (-zI) 0).toNat = chop at *
    generalize hzeros : (zI + (chop : Int)).toNat = zeros at *
    obtain ⟨a1, a2, a3, a4⟩ := div_chop_zeros oU.pos oV.pos hzI hchop hzeros
    clear hchop hzeros hzI
    have i1 : Inv (s.st.tmpAlloc nv).2 := malloc_inv h.inv _
    have x1 : Ext s.st (s.st.tmpAlloc nv).2 := malloc_ext h.inv _
    have hb1 : (s.st.tmpAlloc nv).2.blk s.st.next = some (List.replicate nv junk) := malloc_blk_new _ _
    have nx1 : (s.st.tmpAlloc nv).2.next = s.st.next + 1 := rfl
    rw [show (s.st.tmpAlloc nv).1 = s.st.next from rfl]
    generalize (s.st.tmpAlloc nv).2 = st1 at *
    have hUlen : ((s.st.limbs u).drop chop).length = nu - chop := by rw [List.length_drop, oU.len]
    have mU : Mpf.Mant ((s.st.limbs u).drop chop) := by
      have t := (normOp_iff.mp oU).1.top a4
      unfold Mpf.top at t
      rwa [oU.len, Nat.sub_sub_self a1] at t
    have hUlt := hUlen ▸ mU.val_lt
    have hUge := hUlen ▸ mU.val_ge
    generalize hcu : decide (zI > 0 ∨ s.st.ptr r = s.st.ptr u) = cu
    obtain ⟨up, off, t1, st2, e2, i2, x2, hN, ht1, hneU⟩ := divPrepU_ok i1 cu (x1.loadAt (hlU chop a1)) hUlen zeros
      (fun e => a3 (fun hp => of_decide_eq_false (hcu.trans e) (Or.inl hp)))
    rw [e2]; simp only []
    generalize hcv : decide (s.st.ptr r = s.st.ptr v) = cv
    obtain ⟨vp, t2, st3, e3, i3, x3, hV, ht2, hneV⟩ := divPrepV_ok i2 cv ((x1.trans x2).load hlV)
    rw [e3]; simp only []
    have hnext2 : st1.next ≤ st2.next := x2.next
    have hnext3 : st2.next ≤ st3.next := x3.next
    have hrem2 : st2.blk s.st.next = some (List.replicate nv junk) := (x2.blk _ (by rw [hb1]; simp)).trans hb1
    -- the pointers handed to mpn_tdiv_qr: the areas of the call are above every variable's block
    have hr1 : s.st.ptr r < st1.next := by rw [nx1]; exact Nat.lt_succ_of_lt hpr
    have hx1 : s.st.next < st1.next := by rw [nx1]; exact Nat.lt_succ_self _
    have n1 : s.st.ptr r ≠ up := hneU _ hr1 fun e hc => of_decide_eq_false (hcu.trans e) (Or.inr hc)
    have n2 : s.st.ptr r ≠ vp := hneV _ (Nat.lt_of_lt_of_le hr1 hnext2) fun e => of_decide_eq_false (hcv.trans e)
    have n3 : s.st.next ≠ up := hneU _ hx1 fun _ => Nat.ne_of_gt hpu
    have n4 : s.st.next ≠ vp := hneV _ (Nat.lt_of_lt_of_le hx1 hnext2) fun _ => Nat.ne_of_gt hpv
    obtain ⟨s', hs', hres⟩ := divFinish_ok h i3 ((x1.trans x2).trans x3) hr (remp := s.st.next) (up := up) (off := off)
      (tsize := nu - chop + zeros) (vp := vp) (vn := nv)
      (!decide (sameSign (s.st.size u) (s.st.size v))) (s.exp u - s.exp v + 1) (s.st.next :: t1 ++ t2)
      (x3.loadAt hN) hV
      (by rw [val_zeros_append, show nu - chop + zeros - 1 = zeros + (nu - chop - 1) by clear * - a4; omega, pow_add]
          exact Nat.mul_le_mul_left _ hUge)
      (by rw [val_zeros_append, Nat.add_comm, pow_add]; exact Nat.mul_lt_mul_of_pos_left hUlt (Nat.pow_pos B_pos))
      oV.ge oV.lt oV.top oV.pos a2
      ((x3.blk _ (by rw [hrem2]; simp)).trans hrem2)
      (by rw [List.length_replicate]) (fun i hi => Nat.ne_of_lt (hlt i hi)) (by clear * - nx1 hnext2 hnext3; omega)
      (h.inv.fresh _ (Nat.le_refl _)) n1 n2 n3 n4
      (fun p hp i hi => by
        have hge : s.st.next ≤ p := by
          simp only [List.cons_append, List.mem_cons, List.mem_append] at hp
          rcases hp with e | e | e
          · exact Nat.le_of_eq e.symm
          · have := ht1 p e; clear * - this nx1; omega
          · have := ht2 p e; clear * - this nx1 hnext2; omega
        exact Nat.ne_of_lt (Nat.lt_of_lt_of_le (hlt i hi) hge))
    refine ⟨s', _, hs', hdiv, ?_⟩
    rw [val_zeros_append, Nat.mul_comm] at hres
    exact hres

end Mpir.AliasMem
end

/- mpf_floor / mpf_ceil / mpf_trunc, mpf_mul_2exp / mpf_div_2exp, mpf_ui_div of Mpir/Model/AliasMpf3.lean: for every assignment
   of ids `r` ends up with what the bit-exact model Mpir/Model/Mpf.lean computes from the operands as they were before the call. -/

section
namespace Mpir.AliasMem
open Mpir
open Mpir.DivZ (sizeNat siz sameSign)

/-! ### `if (rp != up) MPN_COPY_INCR (rp, up, n)` -/

theorem copyTop_ok {X : St} {rp up uoff n : Nat} {bu br : List Nat} (hbu : X.blk up = some bu) (hbr : X.blk rp = some br)
    (hu : uoff + n ≤ bu.length) (hr : n ≤ br.length) :
    copyTop true rp up uoff n X = .ok (X.setBlk rp (some ((bu.drop uoff).take n ++ br.drop n))) := by
  have hal : ((bu.drop uoff).take n).length = n := by simp; omega
  unfold copyTop
  by_cases hc : rp = up ∧ uoff = 0
  · rw [if_pos hc]
    obtain ⟨e1, e2⟩ := hc
    subst e1 e2
    have : br = bu := by rw [hbu] at hbr; exact (Option.some.inj hbr).symm
    subst this
    show Except.ok X = _
    congr 1
    refine St.ext' rfl (fun _ => rfl) (fun q => ?_) rfl
    by_cases e : q = rp
    · subst e; simp [St.setBlk, hbr]
    · simp [St.setBlk, e]
  · rw [if_neg hc]
    unfold mpn_copy
    simp only [bind, Except.bind]
    rw [if_neg (by omega), if_neg (by simp), loadAt_ok hbu hu]
    simp only []
    rw [storeAt_ok hbr (by rw [hal]; omega), wrAt_zero, hal]

theorem top_take_blk {bu : List Nat} {n0 asize : Nat} (h1 : asize ≤ n0) (h2 : n0 ≤ bu.length) :
    Mpf.top asize (bu.take n0) = (bu.drop (n0 - asize)).take asize := by
  unfold Mpf.top
  rw [List.length_take, Nat.min_eq_left h2, List.drop_take]
  congr 1; omega

theorem FInv.top_blk {s : FSt} (h : FInv s) {u : Nat} (hu : u < s.st.nv) {bu : List Nat}
    (hbu : s.st.blk (s.st.ptr u) = some bu) {a : Nat} (h1 : 1 ≤ a) (h2 : a ≤ (s.st.size u).natAbs) :
    Mpf.top a (s.F u).d = (bu.drop ((s.st.size u).natAbs - a)).take a ∧
      NormOp ((bu.drop ((s.st.size u).natAbs - a)).take a) a := by
  obtain ⟨bu', hbu', -, -, -, hfu, -⟩ := h.blk hu
  obtain rfl : bu' = bu := Option.some.inj (hbu'.symm.trans hbu)
  have hu0 : s.st.size u ≠ 0 := fun e0 => by rw [e0] at h2; exact absurd (Nat.le_trans h1 h2) (by decide)
  have oT := (h.inv.normOp hu hu0).top_k h1
  rw [Nat.min_eq_right h2, limbs_of_blk hbu, top_take_blk h2 hfu] at oT
  exact ⟨by rw [show (s.F u).d = s.st.limbs u from rfl, limbs_of_blk hbu, top_take_blk h2 hfu], oT⟩

theorem put_res {s : FSt} (h : FInv s) {r : Nat} (hr : r < s.st.nv) (b : List Nat) (n : Nat) (sz e : Int)
    (hbl : b.length = s.st.alloc r) (hbL : Limbs b) (hn : n ≤ s.st.alloc r) (hnorm : sizeNat (val (b.take n)) = n)
    (hsz : sz.natAbs = n) {S' : FSt} (hst : S'.st = s.st.put r b sz) (hprec : S'.prec = s.prec)
    (hexp : ∀ j, S'.exp j = if j = r then e else s.exp j) : FRes s S' r ⟨s.prec r, sz, e, b.take n⟩ :=
  fput_spec h h.inv (Ext.refl s.st) hr b n sz e [] hbl hbL hn hnorm hsz (fun _ hp => absurd hp List.not_mem_nil) hst hprec hexp

theorem put_res_toLimbs {s : FSt} (h : FInv s) {r : Nat} (hr : r < s.st.nv) {br : List Nat} (hbr : s.st.blk (s.st.ptr r) = some br)
    (t q n : Nat) (sz e : Int) (ht : t ≤ s.prec r + 1) (hq : q < B ^ t) (hn : sizeNat q = n) (hsz : sz.natAbs = n)
    {S' : FSt} (hst : S'.st = s.st.put r (toLimbs t q ++ br.drop t) sz) (hprec : S'.prec = s.prec)
    (hexp : ∀ j, S'.exp j = if j = r then e else s.exp j) : FRes s S' r ⟨s.prec r, sz, e, (toLimbs t q).take n⟩ :=
  fput_toLimbs h h.inv (Ext.refl s.st) hr hbr t q n sz e [] ht hq hn hsz (fun _ hp => absurd hp List.not_mem_nil) hst hprec hexp

/-- `rp[0] = 1`, `SIZ (r) = ±1` (ceilfloor.c:57-59, :91-95) -/
theorem put_one {s : FSt} (h : FInv s) {r : Nat} (hr : r < s.st.nv) {b : List Nat} (hbl : b.length = s.st.alloc r)
    (hbL : Limbs b) (sz e : Int) (hsz : sz.natAbs = 1) {S' : FSt} (hst : S'.st = s.st.put r (wrAt b 0 [1]) sz)
    (hprec : S'.prec = s.prec) (hexp : ∀ j, S'.exp j = if j = r then e else s.exp j) :
    FRes s S' r ⟨s.prec r, sz, e, [1]⟩ := by
  have h1 : 1 ≤ b.length := hbl ▸ Nat.le_trans (Nat.le_add_left 1 _) (h.room r hr)
  have hb1 : (wrAt b 0 [1]).take 1 = [1] := by rw [wrAt_zero]; rfl
  have hone : sizeNat (val [1]) = 1 := sizeNat_eq (by simp [val]) (by rw [B_eq]; decide) (Nat.le_refl _)
  have hf := put_res h hr (wrAt b 0 [1]) 1 sz e ((wrAt_length h1).trans hbl)
    (by rw [wrAt_zero]; exact Limbs_wr (fun x hx => by rw [List.mem_singleton.mp hx, B_eq]; decide) hbL) (hbl ▸ h1)
    (by rw [hb1]; exact hone) hsz hst hprec hexp
  rwa [hb1] at hf

theorem copyTop_res {s : FSt} (h : FInv s) {r u : Nat} (hr : r < s.st.nv) (hu : u < s.st.nv) {bu br : List Nat}
    (hbu : s.st.blk (s.st.ptr u) = some bu) (hbr : s.st.blk (s.st.ptr r) = some br) (asize : Nat) (h1 : 1 ≤ asize)
    (h2 : asize ≤ (s.st.size u).natAbs) (h3 : asize ≤ s.prec r + 1) (e : Int) {S' : FSt}
    (hst : S'.st = s.st.put r ((bu.drop ((s.st.size u).natAbs - asize)).take asize ++ br.drop asize)
        (if s.st.size u ≥ 0 then (asize : Int) else -(asize : Int)))
    (hprec : S'.prec = s.prec) (hexp : ∀ j, S'.exp j = if j = r then e else s.exp j) :
    FRes s S' r ⟨s.prec r, if s.st.size u ≥ 0 then (asize : Int) else -(asize : Int), e, Mpf.top asize (s.F u).d⟩ := by
  obtain ⟨htop, oT⟩ := h.top_blk hu hbu h1 h2
  obtain ⟨br', hbr', hbrl, hbrL, hroom, -, -⟩ := h.blk hr
  obtain rfl : br' = br := Option.some.inj (hbr'.symm.trans hbr)
  rw [htop]
  have hf := put_res h hr ((bu.drop ((s.st.size u).natAbs - asize)).take asize ++ br'.drop asize) asize _ e
    (by rw [List.length_append, oT.len, List.length_drop, ← hbrl]; exact Nat.add_sub_cancel' (Nat.le_trans h3 hroom))
    (Limbs_append.mpr ⟨oT.limbs, Limbs_drop hbrL _⟩) (hbrl ▸ Nat.le_trans h3 hroom)
    (by rw [List.take_left' oT.len]; exact sizeNat_eq oT.ge oT.lt h1) (natAbs_ite_pos _ asize) hst hprec hexp
  rwa [List.take_left' oT.len] at hf

/-- trunc.c:53-65 / ceilfloor.c:69-75, :101-103 -/
theorem copyTop_tail {s : FSt} (h : FInv s) {r u : Nat} (hr : r < s.st.nv) (hu : u < s.st.nv) {a : Nat} (h1 : 1 ≤ a)
    (h2 : a ≤ (s.st.size u).natAbs) (h3 : a ≤ s.prec r + 1) (e : Int) :
    ∃ s', Except.bind (copyTop true (s.st.ptr r) (s.st.ptr u) ((s.st.size u).natAbs - a) a
          ((s.setExp r e).st.setSize r (if s.st.size u ≥ 0 then (a : Int) else -(a : Int))))
        (fun st => Except.ok ((s.setExp r e).withSt st)) = .ok s' ∧
      FRes s s' r ⟨s.prec r, if s.st.size u ≥ 0 then (a : Int) else -(a : Int), e, Mpf.top a (s.F u).d⟩ := by
  obtain ⟨bu, hbu, -, -, -, hfu, -⟩ := h.blk hu
  obtain ⟨br, hbr, -, -, hroom, -, -⟩ := h.blk hr
  rw [copyTop_ok (X := (s.setExp r e).st.setSize r (if s.st.size u ≥ 0 then (a : Int) else -(a : Int))) hbu hbr
    (by rw [Nat.sub_add_cancel h2]; exact hfu) (Nat.le_trans h3 hroom)]
  exact ⟨_, rfl, copyTop_res h hr hu hbu hbr a h1 h2 h3 e rfl rfl (fun j => rfl)⟩

/-- the number of integer limbs kept (trunc.c:53-59, ceilfloor.c:69-75) -/
theorem asize_bounds {nu p : Nat} {e : Int} (hnu : nu ≠ 0) (he : ¬ e ≤ 0) :
    1 ≤ min (min nu e.toNat) (p + 1) ∧ min (min nu e.toNat) (p + 1) ≤ nu ∧ min (min nu e.toNat) (p + 1) ≤ p + 1 := by
  omega

/-! ### mpf_trunc -/

theorem mpf_trunc_ok {s : FSt} (h : FInv s) {r u : Nat} (hr : r < s.st.nv) (hu : u < s.st.nv) :
    ∃ s', mpf_trunc r u s = .ok s' ∧ FRes s s' r (Mpf.trunc (s.prec r) (s.F u)) := by
  have hFs : (s.F u).size = s.st.size u := rfl
  have hFe : (s.F u).exp = s.exp u := rfl
  have hFl : (s.F u).d.length = (s.st.size u).natAbs := (h.inv.limbs_spec hu).1
  unfold mpf_trunc mpf_truncV Mpf.trunc
  simp only [FVariant3.c, bind, pure, Except.pure, hFs, hFe, hFl]
  by_cases hz : s.st.size u = 0 ∨ s.exp u ≤ 0
  · rw [if_pos hz, if_pos hz]; exact ⟨_, rfl, setSE_zero_spec h hr⟩
  rw [if_neg hz, if_neg hz]
  obtain ⟨ha1, ha2, ha3⟩ := asize_bounds (p := s.prec r) (Int.natAbs_ne_zero.mpr (not_or.mp hz).1) (not_or.mp hz).2
  exact copyTop_tail h hr hu ha1 ha2 ha3 (s.exp u)

/-! ### mpf_floor / mpf_ceil -/

theorem mpn_add_1_off_ok {X : St} {rp up uoff n c : Nat} {bu br : List Nat} (hbu : X.blk up = some bu)
    (hbr : X.blk rp = some br) (h1 : 1 ≤ n) (hu : uoff + n ≤ bu.length) (hr : n ≤ br.length) :
    mpn_add_1_off rp up uoff n c X =
      .ok ((val ((bu.drop uoff).take n) + c) / B ^ n,
        X.setBlk rp (some (toLimbs n (val ((bu.drop uoff).take n) + c) ++ br.drop n))) := by
  unfold mpn_add_1_off
  simp only [bind, Except.bind, pure, Except.pure]
  rw [if_neg (not_not.mpr h1), loadAt_ok hbu hu]
  simp only []
  rw [storeAt_ok hbr (by rw [toLimbs_length]; omega), wrAt_zero, toLimbs_length]

theorem mpf_ceilfloor_ok {s : FSt} (h : FInv s) {r u : Nat} (hr : r < s.st.nv) (hu : u < s.st.nv) (dir : Int)
    (hd : dir = 1 ∨ dir = -1) :
    ∃ s', mpf_ceilfloor r u dir s = .ok s' ∧ FRes s s' r (Mpf.ceilOrFloor (s.prec r) (s.F u) dir) := by
  obtain ⟨bu, hbu, -, -, -, hfu, hUd⟩ := h.blk hu
  obtain ⟨br, hbr, hbrl, hbrL, hroom, -, -⟩ := h.blk hr
  have hFs : (s.F u).size = s.st.size u := rfl
  have hFe : (s.F u).exp = s.exp u := rfl
  have hFl : (s.F u).d.length = (s.st.size u).natAbs := (h.inv.limbs_spec hu).1
  unfold mpf_ceilfloor mpf_ceilfloorV Mpf.ceilOrFloor
  simp only [FVariant3.c, bind, pure, Except.pure, hFs, hFe, hFl, if_true]
  by_cases hz : s.st.size u = 0
  · rw [if_pos hz, if_pos hz]; exact ⟨_, rfl, setSE_zero_spec h hr⟩
  rw [if_neg hz, if_neg hz]
  by_cases he : s.exp u ≤ 0
  · rw [if_pos he, if_pos he]
    by_cases hsg : (decide (s.st.size u < 0) != decide (dir < 0)) = true
    · rw [if_pos hsg, if_pos hsg]; exact ⟨_, rfl, setSE_zero_spec h hr⟩
    · rw [if_neg hsg, if_neg hsg, storeAt_ok hbr (Nat.le_trans (Nat.le_add_left 1 _) hroom)]
      exact ⟨_, rfl, put_one h hr hbrl hbrL dir 1 (by rcases hd with e | e <;> rw [e] <;> rfl) rfl rfl (fun j => rfl)⟩
  rw [if_neg he, if_neg he]
  obtain ⟨ha1, ha2, ha3⟩ := asize_bounds (p := s.prec r) (Int.natAbs_ne_zero.mpr hz) he
  have hign : ∀ k, List.take ((s.st.size u).natAbs - k) (s.F u).d = bu.take ((s.st.size u).natAbs - k) := fun k => by
    rw [show (s.F u).d = s.st.limbs u from rfl, ← hUd, List.take_take, Nat.min_eq_left (Nat.sub_le _ _)]
  rw [hign]
  -- from here on the number of limbs kept is a number `a`; what is known of it is the copy without rounding and the
  -- limbs as they lie in the block of `u`
  have hcopy := copyTop_tail h hr hu ha1 ha2 ha3 (s.exp u)
  obtain ⟨htop, oT⟩ := h.top_blk hu hbu ha1 ha2
  have hua : (s.st.size u).natAbs - min (min (s.st.size u).natAbs (s.exp u).toNat) (s.prec r + 1) +
      min (min (s.st.size u).natAbs (s.exp u).toNat) (s.prec r + 1) ≤ bu.length := by rw [Nat.sub_add_cancel ha2]; exact hfu
  have har := Nat.le_trans ha3 hroom
  clear hign hz he ha2 hfu hUd hFl
  generalize min (min (s.st.size u).natAbs (s.exp u).toNat) (s.prec r + 1) = a at *
  by_cases hsd : (decide (s.st.size u < 0) == decide (dir < 0)) = true
  · rw [if_pos hsd, loadAt_ok (s := (s.setExp r (s.exp u)).st) hbu
      (by rw [Nat.zero_add]; exact Nat.le_trans (Nat.le_add_right _ _) hua)]
    simp only [Except.bind, List.drop_zero]
    by_cases hany : ((bu.take ((s.st.size u).natAbs - a)).any fun x => x != 0) = true
    · rw [if_pos hany, if_pos (⟨hsd, hany⟩ : _ ∧ _), htop,
        mpn_add_1_off_ok (X := (s.setExp r (s.exp u)).st) hbu hbr ha1 hua har]
      simp only []
      have hge := oT.ge
      have hlt := oT.lt
      clear oT htop hcopy hua
      generalize val ((bu.drop ((s.st.size u).natAbs - a)).take a) = A at *
      by_cases hcy : (A + 1) / B ^ a ≠ 0
      · -- :89-94 the carry out of the kept limbs: the result is one limb 1, one place up
        rw [if_pos hcy, if_pos hcy, storeAt_ok (setBlk_blk_self _ _ _) (by rw [length_wr' har]; exact Nat.le_trans ha1 har),
          setBlk_setBlk]
        refine ⟨_, rfl, put_one h hr ((length_wr' har).trans hbrl) (Limbs_wr' (Limbs_toLimbs _ _) hbrL) _ (s.exp u + 1)
          (natAbs_ite_pos _ 1) rfl rfl (fun j => ?_)⟩
        show (if j = r then s.exp u + 1 else if j = r then s.exp u else s.exp j) = _
        by_cases e : j = r <;> simp [e]
      · rw [if_neg hcy, if_neg hcy]
        have hSlt : A + 1 < B ^ a := Nat.lt_of_not_le fun hc =>
          hcy (Nat.pos_iff_ne_zero.mp (Nat.div_pos hc (Bpow_pos _)))
        refine ⟨_, rfl, FRes.of_eq (put_res_toLimbs h hr hbr a (A + 1) a _ (s.exp u) ha3 hSlt
          (sizeNat_eq (Nat.le_succ_of_le hge) hSlt ha1) (natAbs_ite_pos _ a) rfl rfl (fun j => rfl)) ?_⟩
        rw [List.take_of_length_le (Nat.le_of_eq (toLimbs_length _ _))]
    · rw [if_neg hany, if_neg (fun (hc : _ ∧ _) => hany hc.2)]
      simpa only [Except.bind] using hcopy
  · rw [if_neg hsd, if_neg (fun (hc : _ ∧ _) => hsd hc.1)]
    simp only [Except.bind, Bool.false_eq_true, if_false]
    simpa only [Except.bind] using hcopy

theorem mpf_floor_ok {s : FSt} (h : FInv s) {r u : Nat} (hr : r < s.st.nv) (hu : u < s.st.nv) :
    ∃ s', mpf_floor r u s = .ok s' ∧ FRes s s' r (Mpf.floor (s.prec r) (s.F u)) :=
  mpf_ceilfloor_ok h hr hu (-1) (Or.inr rfl)

theorem mpf_ceil_ok {s : FSt} (h : FInv s) {r u : Nat} (hr : r < s.st.nv) (hu : u < s.st.nv) :
    ∃ s', mpf_ceil r u s = .ok s' ∧ FRes s s' r (Mpf.ceil (s.prec r) (s.F u)) :=
  mpf_ceilfloor_ok h hr hu 1 (Or.inl rfl)

/-! ### mpf_mul_2exp / mpf_div_2exp -/

/-- mpn_rshift by 64 - k into rp+1 with the bits shifted out in rp[0] is the same data as a left shift by k -/
theorem rshift_full (n A k : Nat) (hk1 : 1 ≤ k) (hk2 : k < 64) :
    toLimbs (n + 1) (A * 2 ^ k) = [A % 2 ^ (64 - k) * 2 ^ (64 - (64 - k))] ++ toLimbs n (A / 2 ^ (64 - k)) := by
  have hkk : 64 - (64 - k) = k := by omega
  rw [hkk]
  have hB : B = 2 ^ (64 - k) * 2 ^ k := by rw [← pow_add]; unfold B; congr 1; omega
  have hA := Nat.div_add_mod A (2 ^ (64 - k))
  have hlo : A % 2 ^ (64 - k) * 2 ^ k < B := by
    rw [hB]; exact Nat.mul_lt_mul_of_pos_right (Nat.mod_lt _ (Nat.pow_pos (by decide))) (Nat.pow_pos (by decide))
  have hv : A * 2 ^ k = A % 2 ^ (64 - k) * 2 ^ k + B * (A / 2 ^ (64 - k)) := by
    rw [hB]
    calc A * 2 ^ k = (2 ^ (64 - k) * (A / 2 ^ (64 - k)) + A % 2 ^ (64 - k)) * 2 ^ k := by rw [hA]
      _ = _ := by ring
  rw [show toLimbs (n + 1) (A * 2 ^ k) = ((A * 2 ^ k) % B) :: toLimbs n ((A * 2 ^ k) / B) from rfl]
  rw [hv, Nat.add_mul_mod_self_left, Nat.mod_eq_of_lt hlo, Nat.add_mul_div_left _ _ B_pos, Nat.div_eq_of_lt hlo, Nat.zero_add]
  rfl

theorem topLimb_snoc (l : List Nat) (x : Nat) : Mpf.topLimb (l ++ [x]) = x := by simp [Mpf.topLimb]

theorem shift_res {s : FSt} (h : FInv s) {r : Nat} (hr : r < s.st.nv) {br : List Nat} (hbr : s.st.blk (s.st.ptr r) = some br)
    (n A k : Nat) (hn2 : n ≤ s.prec r) (hA1 : B ^ (n - 1) ≤ A) (hA2 : A < B ^ n) (hk2 : k < 64)
    (sz : Int) (e : Int) (adj : Nat) (hadj : (if Mpf.topLimb (toLimbs (n + 1) (A * 2 ^ k)) ≠ 0 then 1 else 0) = adj)
    (hsz : sz.natAbs = n + adj) {S' : FSt}
    (hst : S'.st = s.st.put r (toLimbs (n + 1) (A * 2 ^ k) ++ br.drop (n + 1)) sz) (hprec : S'.prec = s.prec)
    (hexp : ∀ j, S'.exp j = if j = r then e else s.exp j) :
    FRes s S' r ⟨s.prec r, sz, e, (toLimbs (n + 1) (A * 2 ^ k)).take (n + adj)⟩ := by
  have h2kB : 2 ^ k < B := by unfold B; exact Nat.pow_lt_pow_right (by decide) hk2
  have hvlt : A * 2 ^ k < B ^ (n + 1) := by rw [pow_succ]; exact Nat.mul_lt_mul'' hA2 h2kB
  have hvge : B ^ (n - 1) ≤ A * 2 ^ k := Nat.le_trans hA1 (Nat.le_mul_of_pos_right _ Nat.one_le_two_pow)
  refine put_res_toLimbs h hr hbr (n + 1) (A * 2 ^ k) (n + adj) sz e (Nat.succ_le_succ hn2) hvlt ?_ hsz hst hprec hexp
  rw [← Mpf.stripTop_size DivZ.sizeNat_isSize n (A * 2 ^ k) hvlt hvge, ← hadj, Mpf.topLimb_toLimbs]
  split <;> simp_all

/-- mul_2exp.c:102-118 / div_2exp.c:108-124: mpn_rshift by `64 - k` one limb up when limbs of u are dropped (works from the
    low end, so `rp == up` is fine), else mpn_lshift by `k` with the carry stored on top -/
theorem shiftTop_ok {X : St} {rp up nu prec n k : Nat} {bu br : List Nat} (hbu : X.blk up = some bu) (hbr : X.blk rp = some br)
    (hn : n = min nu prec) (hn1 : 1 ≤ n) (hfu : nu ≤ bu.length) (hroom : prec + 1 ≤ br.length) (hk1 : 1 ≤ k) (hk2 : k < 64)
    (hlt : val ((bu.drop (nu - n)).take n) < B ^ n) :
    (if nu > prec then
          Except.bind
            (mpn_rshift (rp) 1 (up) (nu - prec) (prec) (64 - k) X)
            fun __x =>
            Except.bind (__x.2.storeAt (rp) 0 [__x.1]) fun st =>
              Except.bind (limbAt st (rp) (prec)) fun top =>
                Except.ok (prec, if top ≠ 0 then 1 else 0, st)
        else
          Except.bind
            (mpn_lshift (rp) 0 (up) 0 nu k X)
            fun __x =>
            Except.bind (__x.2.storeAt (rp) nu [__x.1]) fun st =>
              Except.ok (nu, if __x.1 ≠ 0 then 1 else 0, st)) =
    Except.ok (n, (if Mpf.topLimb (toLimbs (n + 1) (val ((bu.drop (nu - n)).take n) * 2 ^ k)) ≠ 0 then 1 else 0),
      X.setBlk (rp) (some (toLimbs (n + 1) (val ((bu.drop (nu - n)).take n) * 2 ^ k) ++ br.drop (n + 1)))) := by
  have hnr : n + 1 ≤ br.length := Nat.le_trans (Nat.succ_le_succ (hn ▸ Nat.min_le_right _ _)) hroom
  by_cases hlong : nu > prec
  · obtain rfl : n = prec := by omega
    rw [if_pos hlong, mpn_rshift_ok (loadAt_ok hbu (by omega)) hbr (by omega) hn1 (by omega) (by omega) (by omega)]
    simp only [Except.bind]
    rw [storeAt_ok (setBlk_blk_self _ _ _) (by rw [wrAt_length (by rw [toLimbs_length]; omega), Nat.zero_add]; exact Nat.le_trans hn1 (Nat.le_of_succ_le hnr)),
      setBlk_setBlk]
    simp only []
    rw [wrAt_wrAt_zero (by simp) (by rw [toLimbs_length]; omega), ← rshift_full _ _ _ hk1 hk2, wrAt_zero, toLimbs_length,
      limbAt_setBlk _ _ _ _ (by rw [length_wr' hnr]; exact hnr)]
    simp only []
    rw [getD_append_left (by rw [toLimbs_length]; exact Nat.lt_succ_self _), topLimb_toLimbs _ _ (Nat.le_add_left 1 n),
      toLimbs_getD _ _ _ (Nat.lt_succ_self _), Nat.add_sub_cancel]
  · obtain rfl : n = nu := by omega
    rw [Nat.sub_self] at hlt ⊢
    rw [if_neg hlong, mpn_lshift_ok (loadAt_ok hbu (by omega)) hbr (by omega) hn1 (by omega) hk2 (by omega)]
    simp only [Except.bind]
    rw [storeAt_ok (setBlk_blk_self _ _ _) (by rw [wrAt_length (by rw [toLimbs_length]; omega)]; exact hnr), setBlk_setBlk]
    simp only []
    have hvlt : val ((bu.drop 0).take n) * 2 ^ k / B ^ n < B := by
      rw [Nat.div_lt_iff_lt_mul (Bpow_pos _), Nat.mul_comm B]
      exact Nat.mul_lt_mul'' hlt (by unfold B; exact Nat.pow_lt_pow_right (by decide) hk2)
    have := wrAt_wrAt_next (b := br) (l := toLimbs n (val ((bu.drop 0).take n) * 2 ^ k))
      (l2 := [val ((bu.drop 0).take n) * 2 ^ k / B ^ n]) (off := 0) (by simp only [toLimbs_length, Nat.zero_add, List.length_singleton]; exact hnr)
    rw [Nat.zero_add, toLimbs_length] at this
    rw [this.trans (wrAt_zero _ _), Mpir.toLimbs_snoc n, topLimb_snoc, Nat.mod_eq_of_lt hvlt, List.length_append, toLimbs_length]
    rfl

theorem two_exp_eq (mul : Bool) (p : Nat) (f : Mpf.F) (e : Nat) :
    (if mul then Mpf.mul_2exp p f e else Mpf.div_2exp p f e) =
      (if f.size = 0 then Mpf.zero p
       else if e % 64 = 0 then
         ⟨p, if f.size ≥ 0 then ((Mpf.top (p + 1) f.d).length : Int) else -((Mpf.top (p + 1) f.d).length : Int),
           if mul then f.exp + (e / 64 : Nat) else f.exp - (e / 64 : Nat), Mpf.top (p + 1) f.d⟩
       else
         ⟨p, if f.size ≥ 0 then ((Mpf.shiftUp (Mpf.top p f.d) (if mul then e % 64 else 64 - e % 64)).1.length : Int)
             else -((Mpf.shiftUp (Mpf.top p f.d) (if mul then e % 64 else 64 - e % 64)).1.length : Int),
           if mul then f.exp + (e / 64 : Nat) + ((Mpf.shiftUp (Mpf.top p f.d) (if mul then e % 64 else 64 - e % 64)).2 : Nat)
           else f.exp - (e / 64 : Nat) - 1 + ((Mpf.shiftUp (Mpf.top p f.d) (if mul then e % 64 else 64 - e % 64)).2 : Nat),
           (Mpf.shiftUp (Mpf.top p f.d) (if mul then e % 64 else 64 - e % 64)).1⟩) := by
  cases mul <;> rfl

theorem mpf_2exp_ok {s : FSt} (h : FInv s) {r u : Nat} (hr : r < s.st.nv) (hu : u < s.st.nv) (mul : Bool) (e : Nat)
    (hp : 1 ≤ s.prec r) :
    ∃ s', mpf_2expV .c mul r u e s = .ok s' ∧
      FRes s s' r (if mul then Mpf.mul_2exp (s.prec r) (s.F u) e else Mpf.div_2exp (s.prec r) (s.F u) e) := by
  obtain ⟨bu, hbu, -, -, -, hfu, -⟩ := h.blk hu
  obtain ⟨br, hbr, -, -, hroom, -, -⟩ := h.blk hr
  have hFs : (s.F u).size = s.st.size u := rfl
  have hFe : (s.F u).exp = s.exp u := rfl
  have hFl : (s.F u).d.length = (s.st.size u).natAbs := (h.inv.limbs_spec hu).1
  rw [two_exp_eq]
  unfold mpf_2expV
  simp only [FVariant3.c, bind, pure, Except.pure, hFs, hFe, if_true]
  by_cases hz : s.st.size u = 0
  · rw [if_pos hz, if_pos hz]; exact ⟨_, rfl, setSE_zero_spec h hr⟩
  rw [if_neg hz, if_neg hz]
  -- from here on the operand's length is a number `nu ≥ 1`; what is known of the variable is kept as two functions of it
  have hnu1 : 1 ≤ (s.st.size u).natAbs := Int.natAbs_pos.mpr hz
  have htb := @FInv.top_blk s h u hu bu hbu
  have hctr := @copyTop_res s h r u hr hu bu br hbu hbr
  clear hFs hFe hz hu
  generalize (s.st.size u).natAbs = nu at *
  by_cases he : e % 64 = 0
  · rw [if_pos he, if_pos he, (top_off_len nu (s.prec r + 1)).1, (top_off_len nu (s.prec r + 1)).2, top_min, hFl, top_length,
      hFl, Nat.min_eq_right (Nat.min_le_left _ _),
      copyTop_ok (X := s.st) hbu hbr (by rw [Nat.sub_add_cancel (Nat.min_le_left _ _)]; exact hfu)
        (Nat.le_trans (Nat.min_le_right _ _) hroom)]
    exact ⟨_, rfl, hctr _ (Nat.le_min.mpr ⟨hnu1, Nat.le_add_left 1 _⟩) (Nat.min_le_left _ _) (Nat.min_le_right _ _) _
      rfl rfl (fun j => rfl)⟩
  rw [if_neg he, if_neg he]
  generalize hk : (if mul = true then e % 64 else 64 - e % 64) = k
  have hk12 : 1 ≤ k ∧ k < 64 := by rw [← hk]; split <;> omega
  clear hk he
  have hn1 : 1 ≤ min nu (s.prec r) := Nat.le_min.mpr ⟨hnu1, hp⟩
  obtain ⟨htop, oT⟩ := htb hn1 (Nat.min_le_left _ _)
  unfold Mpf.shiftUp
  simp only []
  rw [top_min, hFl, htop, oT.len, shiftTop_ok hbu hbr rfl hn1 hfu hroom hk12.1 hk12.2 oT.lt]
  simp only [Except.bind]
  have hge := oT.ge
  have hlt := oT.lt
  have hnp := Nat.min_le_right nu (s.prec r)
  clear oT htop htb hctr hFl
  generalize min nu (s.prec r) = n at *
  generalize val ((bu.drop (nu - n)).take n) = A at *
  generalize hadj : (if Mpf.topLimb (toLimbs (n + 1) (A * 2 ^ k)) ≠ 0 then 1 else 0) = adj
  have hadj1 : n + adj ≤ n + 1 := by rw [← hadj]; split <;> simp
  rw [List.length_take, toLimbs_length, Nat.min_eq_left hadj1]
  exact ⟨_, rfl, shift_res h hr hbr n A k hnp hge hlt hk12.2 _ _ adj hadj (natAbs_ite_pos _ _) rfl rfl (fun j => rfl)⟩

theorem mpf_mul_2exp_ok {s : FSt} (h : FInv s) {r u : Nat} (hr : r < s.st.nv) (hu : u < s.st.nv) (e : Nat) (hp : 1 ≤ s.prec r) :
    ∃ s', mpf_mul_2exp r u e s = .ok s' ∧ FRes s s' r (Mpf.mul_2exp (s.prec r) (s.F u) e) :=
  mpf_2exp_ok h hr hu true e hp

theorem mpf_div_2exp_ok {s : FSt} (h : FInv s) {r u : Nat} (hr : r < s.st.nv) (hu : u < s.st.nv) (e : Nat) (hp : 1 ≤ s.prec r) :
    ∃ s', mpf_div_2exp r u e s = .ok s' ∧ FRes s s' r (Mpf.div_2exp (s.prec r) (s.F u) e) :=
  mpf_2exp_ok h hr hu false e hp

/-! ### mpf_ui_div -/

theorem loadAt_zero (s : St) (p n : Nat) : s.loadAt p 0 n = s.load p n := by
  unfold St.loadAt St.load
  cases s.blk p with
  | none => rfl
  | some l => simp only [Nat.zero_add, List.drop_zero]

/-- ui_div.c:109-118 is the tail of div.c (:138-147) with the dividend at the start of its block -/
theorem ui_div_tail_eq (s : FSt) (r rp remp tp nl vp dl prec : Nat) (vs rexp : Int) (tmps : List Nat) (st : St) :
    (Except.bind (mpn_tdiv_qr rp remp tp nl vp dl st) fun st =>
        Except.bind (limbAt st rp (prec + 1 - 1)) fun top =>
          Except.ok (((s.withSt st).setSE r
              (if vs ≥ 0 then ((prec + 1 - if top = 0 then 1 else 0 : Nat) : Int)
               else -((prec + 1 - if top = 0 then 1 else 0 : Nat) : Int))
              (rexp - ((if top = 0 then 1 else 0 : Nat) : Int))).withSt
            (tmps.foldl St.free ((s.withSt st).setSE r
              (if vs ≥ 0 then ((prec + 1 - if top = 0 then 1 else 0 : Nat) : Int)
               else -((prec + 1 - if top = 0 then 1 else 0 : Nat) : Int))
              (rexp - ((if top = 0 then 1 else 0 : Nat) : Int))).st))) =
      divFinish s r rp remp tp 0 nl vp dl prec (decide (vs < 0)) rexp tmps st := by
  unfold divFinish mpn_tdiv_qr mpn_tdiv_qr_off
  simp only [bind, Except.bind, pure, Except.pure, loadAt_zero, sgn_eq, Nat.add_sub_cancel]

theorem mpf_ui_div_ok {s : FSt} (h : FInv s) {r v : Nat} (hr : r < s.st.nv) (hv : v < s.st.nv) {u : Nat} (huB : u < B)
    (hvz : s.st.size v ≠ 0) :
    ∃ s' f, mpf_ui_div r u v s = .ok s' ∧ Mpf.ui_div (s.prec r) u (s.F v) = .ok f ∧ FRes s s' r f := by
  have hFs : (s.F v).size = s.st.size v := rfl
  have hFe : (s.F v).exp = s.exp v := rfl
  have hFd : (s.F v).d = s.st.limbs v := rfl
  have oV := h.inv.normOp hv hvz
  have hVload := h.inv.load_var hv
  unfold mpf_ui_div mpf_ui_divV Mpf.ui_div
  simp only [FVariant3.c, bind, pure, Except.pure, hFs, hFe, hFd, true_and, oV.len]
  rw [if_neg (Int.natAbs_ne_zero.mpr hvz), if_neg hvz]
  by_cases hu0 : u = 0
  · rw [if_pos hu0, if_pos hu0]; exact ⟨_, _, rfl, rfl, setSE_zero_spec h hr⟩
  rw [if_neg hu0, if_neg hu0]
  generalize (s.st.size v).natAbs = n at *
  have hV2 := oV.lt
  have hVtop := oV.top
  obtain ⟨hVlen, -, hn1, hV1⟩ := oV
  generalize s.st.limbs v = Vl at *
  generalize hTd : List.replicate (s.prec r + n - 1) 0 ++ [u] = T
  have hTl : T.length = s.prec r + n := by
    rw [← hTd, List.length_append, List.length_replicate]; exact Nat.sub_add_cancel (Nat.le_trans hn1 (Nat.le_add_left _ _))
  have hTv : val T = u * B ^ (s.prec r + n - 1) := by rw [← hTd, val_zeros_append, Nat.mul_comm]; simp [val]
  have hT1 : B ^ (s.prec r + n - 1) ≤ val T := by rw [hTv]; exact Nat.le_mul_of_pos_left _ (Nat.pos_of_ne_zero hu0)
  have hT2 : val T < B ^ (s.prec r + n) := by
    rw [hTv, ← Nat.sub_add_cancel (Nat.le_trans hn1 (Nat.le_add_left n (s.prec r))), Nat.add_sub_cancel, pow_succ']
    exact Nat.mul_lt_mul_of_pos_right huB (Bpow_pos _)
  have i1 : Inv (s.st.tmpAlloc n).2 := malloc_inv h.inv _
  have x1 : Ext s.st (s.st.tmpAlloc n).2 := malloc_ext h.inv _
  have i2 := malloc_inv i1 T
  have x2 := malloc_ext i1 T
  have x12 := x1.trans x2
  have hR1 : (s.st.tmpAlloc n).2.blk s.st.next = some (List.replicate n junk) := malloc_blk_new _ _
  have hR : ((s.st.tmpAlloc n).2.malloc T).2.blk s.st.next = some (List.replicate n junk) := by
    rw [x2.blk _ (by rw [hR1]; simp), hR1]
  have hT : ((s.st.tmpAlloc n).2.malloc T).2.blk (s.st.next + 1) = some T := malloc_blk_new _ _
  have hV := x12.load hVload
  have hlr := h.inv.lt r hr
  have hlv := h.inv.lt v hv
  have hlt : ∀ i, i < s.st.nv → s.st.ptr i < s.st.next := h.inv.lt
  have nx2 : ((s.st.tmpAlloc n).2.malloc T).2.next = s.st.next + 1 + 1 := rfl
  rw [← hTv]
  -- the rest is div.c:130-147 with the dividend `T`
  simp only [ui_div_tail_eq]
  rw [divPrepV_eq]
  generalize hcv : decide (s.st.ptr r = s.st.ptr v) = cv
  obtain ⟨vp, t2, st3, e3, i3, x3, hV3, ht2, hneV⟩ := divPrepV_ok i2 cv hV
  rw [e3]
  simp only [Except.bind]
  have hnext3 := x3.next
  have n2 : s.st.ptr r ≠ vp :=
    hneV _ (by rw [nx2]; exact Nat.lt_succ_of_lt (Nat.lt_succ_of_lt hlr)) fun e => of_decide_eq_false (hcv.trans e)
  have n4 : s.st.next ≠ vp := hneV _ (by rw [nx2]; exact Nat.lt_succ_of_lt (Nat.lt_succ_self _)) fun _ => Nat.ne_of_gt hlv
  obtain ⟨S', e1, e2⟩ := divFinish_ok h i3 (x12.trans x3) hr (remp := s.st.next) (up := s.st.next + 1) (off := 0)
    (tsize := s.prec r + n) (vp := vp) (vn := n) (decide (s.st.size v < 0)) (1 - s.exp v + 1) (s.st.next :: (s.st.next + 1) :: t2)
    (x3.loadAt (by rw [loadAt_zero, ← hTl]; exact load_of_blk hT)) hV3
    (by rw [Nat.add_sub_assoc hn1] at hT1 ⊢; exact hT1) hT2 hV1 hV2 hVtop hn1 rfl
    ((x3.blk _ (by rw [hR]; simp)).trans hR) (by rw [List.length_replicate])
    (fun i hi => Nat.ne_of_lt (hlt i hi)) (by clear * - nx2 hnext3; omega) (h.inv.fresh _ (Nat.le_refl _))
    (Nat.ne_of_lt (Nat.lt_succ_of_lt hlr)) n2 (Nat.ne_of_lt (Nat.lt_succ_self _)) n4
    (fun p hp i hi => by
      have hge : s.st.next ≤ p := by
        simp only [List.mem_cons] at hp
        rcases hp with e | e | e
        · exact Nat.le_of_eq e.symm
        · exact e ▸ Nat.le_succ _
        · have := ht2 p e; clear * - this nx2; omega
      exact Nat.ne_of_lt (Nat.lt_of_lt_of_le (hlt i hi) hge))
  exact ⟨S', _, e1, rfl, e2⟩

theorem mpf_ui_div_zero {s : FSt} {r v u : Nat} (hvz : s.st.size v = 0) :
    mpf_ui_div r u v s = .error "div0" ∧ Mpf.ui_div (s.prec r) u (s.F v) = .div0 := by
  have hFs : (s.F v).size = s.st.size v := rfl
  unfold mpf_ui_div mpf_ui_divV Mpf.ui_div
  simp only [bind, Except.bind, hFs]
  rw [if_pos (by omega), if_pos hvz]
  exact ⟨rfl, rfl⟩

/-! ### examples -/

-- the pattern of the seeded defect C05_b_3 (DESIGN.md A.4): ceil in place, fraction limb zero, integer limb 5: stays 5 (the fraction is inspected BEFORE the move)
example : lookF (mpf_ceil 0 0 (ofFs [⟨2, 2, 1, [0, 5]⟩])) 1 = .ok [⟨2, 1, 1, [5]⟩] := by decide +kernel
-- scanBeforeMove := false: the moved integer limb is taken for a fraction limb, 5 becomes 6
example : lookF (mpf_ceilfloorV {scanBeforeMove := false} 0 0 1 (ofFs [⟨2, 2, 1, [0, 5]⟩])) 1 = .ok [⟨2, 1, 1, [6]⟩] := by
  decide +kernel
-- r = u, 5 limbs > prec + 1 = 3, two integer limbs [4, 5] above a non-zero fraction
example : lookF (mpf_ceil 0 0 (ofFs [⟨2, 5, 2, [1, 2, 3, 4, 5]⟩])) 1 = .ok [⟨2, 2, 2, [5, 5]⟩] := by decide +kernel
example : lookF (mpf_floor 0 0 (ofFs [⟨2, 5, 2, [1, 2, 3, 4, 5]⟩])) 1 = .ok [⟨2, 2, 2, [4, 5]⟩] := by decide +kernel
example : Mpf.ceil 2 ⟨2, 5, 2, [1, 2, 3, 4, 5]⟩ = ⟨2, 2, 2, [5, 5]⟩ := by decide +kernel
-- floor of a negative number whose kept limbs are all ones: carry, one limb, exponent + 1
example : lookF (mpf_floor 0 0 (ofFs [⟨1, -4, 3, [9, 2 ^ 64 - 1, 2 ^ 64 - 1, 2 ^ 64 - 1]⟩])) 1 = .ok [⟨1, -1, 4, [1]⟩] := by
  decide +kernel
-- a pure fraction, r ≠ u
example : lookF (mpf_floor 0 1 (ofFs [⟨2, 0, 0, []⟩, ⟨2, -1, 0, [7]⟩])) 2 = .ok [⟨2, -1, 1, [1]⟩, ⟨2, -1, 0, [7]⟩] := by
  decide +kernel
example : lookF (mpf_trunc 0 0 (ofFs [⟨2, -5, 9, [1, 2, 3, 4, 5]⟩])) 1 = .ok [⟨2, -3, 9, [3, 4, 5]⟩] := by decide +kernel
-- copyIncr := false: MPN_COPY_DECR moving limbs down inside one block
example : lookF (mpf_ceilfloorV {copyIncr := false} 0 0 (-1) (ofFs [⟨2, 5, 9, [1, 2, 3, 4, 5]⟩])) 1 =
    .error "ub:MPN_COPY_DECR overlap" := by decide +kernel
example : lookF (mpf_truncV {copyIncr := false} 0 0 (ofFs [⟨2, -5, 9, [1, 2, 3, 4, 5]⟩])) 1 =
    .error "ub:MPN_COPY_DECR overlap" := by decide +kernel
-- shifts in place, 5 limbs under prec 2
example : lookF (mpf_mul_2exp 0 0 3 (ofFs [⟨2, 5, 9, [1, 2, 3, 4, 2 ^ 63]⟩])) 1 = .ok [⟨2, 3, 10, [32, 0, 4]⟩] := by
  decide +kernel
example : Mpf.mul_2exp 2 ⟨2, 5, 9, [1, 2, 3, 4, 2 ^ 63]⟩ 3 = ⟨2, 3, 10, [32, 0, 4]⟩ := by decide +kernel
example : lookF (mpf_mul_2exp 0 0 64 (ofFs [⟨2, 5, 9, [1, 2, 3, 4, 5]⟩])) 1 = .ok [⟨2, 3, 10, [3, 4, 5]⟩] := by decide +kernel
example : lookF (mpf_div_2exp 0 0 67 (ofFs [⟨2, -5, 9, [1, 2, 3, 4, 5]⟩])) 1 =
    .ok [⟨2, -2, 7, [9223372036854775808, 11529215046068469760]⟩] := by decide +kernel
example : lookF (mpf_div_2exp 0 1 1 (ofFs [⟨2, 0, 0, []⟩, ⟨2, 2, 1, [1, 1]⟩])) 2 =
    .ok [⟨2, 2, 0, [2 ^ 63, 2 ^ 63]⟩, ⟨2, 2, 1, [1, 1]⟩] := by decide +kernel
-- rshiftWhenLong := false: mpn_lshift (rp, up + 1, 2, 3) with rp == up
example : lookF (mpf_2expV {rshiftWhenLong := false} true 0 0 3 (ofFs [⟨2, 3, 9, [2, 3, 4]⟩])) 1 =
    .error "ub:mpn_lshift overlap" := by decide +kernel
example : lookF (mpf_2expV {copyIncr := false} true 0 0 64 (ofFs [⟨2, 5, 9, [2, 3, 4, 5, 6]⟩])) 1 =
    .error "ub:MPN_COPY_DECR overlap" := by decide +kernel
-- 7 / v in place, v negative with 4 limbs > prec + 1
example : lookF (mpf_ui_div 0 7 0 (ofFs [⟨2, -4, 9, [1, 2, 3, 4]⟩])) 1 =
    .ok [⟨2, -3, -7, [12682136550675316736, 13835058055282163710, 1]⟩] := by decide +kernel
example : Mpf.ui_div 2 7 ⟨2, -4, 9, [1, 2, 3, 4]⟩ = .ok ⟨2, -3, -7, [12682136550675316736, 13835058055282163710, 1]⟩ := by
  decide +kernel
example : lookF (mpf_ui_div 0 1 1 (ofFs [⟨2, 0, 0, []⟩, ⟨2, 1, 1, [2]⟩])) 2 = .ok [⟨2, 2, 0, [0, 2 ^ 63]⟩, ⟨2, 1, 1, [2]⟩] := by
  decide +kernel
-- copyV := false: the quotient area is the divisor
example : lookF (mpf_ui_divV {copyV := false} 0 7 0 (ofFs [⟨2, 2, 9, [2, 3]⟩])) 1 =
    .error "ub:mpn_tdiv_qr operands overlap" := by decide +kernel

end Mpir.AliasMem
end
