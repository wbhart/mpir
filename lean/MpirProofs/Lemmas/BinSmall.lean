/-
  Lemmas for C16 part binsmall: mul1…mul8 of mpz/bin_uiui.c, the accumulation loop of mpz_smallk_bin_uiui,
  mpn_divrem_hensel_rsh_qr_1_preinv as an exact 2-adic division, mpz_smallkdc_bin_uiui.
-/
import MpirProofs.Lemmas.Numth
namespace Mpir.Numth
open Mpir Mpir.Gen.NumthTabs Nat

/-! ## mul1 … mul8 -/

theorem mulB_fit {x y t a b : ℕ} (hx : x ≤ t ^ a) (hy : y ≤ t ^ b) (h : t ^ (a + b) < B) :
    x * y % B = x * y ∧ x * y ≤ t ^ (a + b) := by
  have : x * y ≤ t ^ (a + b) := by rw [pow_add]; exact Nat.mul_le_mul hx hy
  exact ⟨Nat.mod_eq_of_lt (by omega), this⟩

theorem chunk_fit {x n w W : ℕ} (hx : x ≤ n) (hw : w ≤ W) (h : n ^ W < B) : x ^ w < B := by
  refine lt_of_le_of_lt (Nat.pow_le_pow_left hx w) ?_
  rcases Nat.eq_zero_or_pos n with rfl | h0
  · rcases Nat.eq_zero_or_pos w with rfl | hw0
    · exact Nat.one_lt_two_pow (by decide)
    · rw [Nat.zero_pow hw0]; exact B_pos
  · exact lt_of_le_of_lt (Nat.pow_le_pow_right h0 hw) h

theorem two_dvd_consec (m : ℕ) : 2 ∣ m * (m + 1) :=
  (Nat.even_mul_succ_self m).two_dvd

theorem eight_dvd_consec4 (m : ℕ) : 8 ∣ m * (m + 1) * ((m + 2) * (m + 3)) := by
  have h := Nat.factorial_dvd_ascFactorial m 4
  have e : m.ascFactorial 4 = m * (m + 1) * ((m + 2) * (m + 3)) := by
    simp only [Nat.ascFactorial]; ring
  rw [e] at h
  exact Dvd.dvd.trans (by decide : 8 ∣ 4 !) h

theorem mul2_twos (m : ℕ) : (m ||| 1) * ((m + 1) / 2) * 2 = m * (m + 1) := by
  rw [or_one_eq, Nat.mul_assoc]
  rcases Nat.mod_two_eq_zero_or_one m with h | h
  · rw [h, Nat.sub_zero, show (m + 1) / 2 * 2 = m by omega, Nat.mul_comm]
  · rw [h, Nat.add_sub_cancel, show (m + 1) / 2 * 2 = m + 1 by omega]

/-- the twos taken out of the two halves of a product come back as one power of two -/
theorem div_mul_div_mul {L R c e p : ℕ} (hL : c ∣ L) (hR : e ∣ R) (hp : c * e = p) : L / c * (R / e) * p = L * R := by
  rw [← hp, mul_mul_mul_comm, Nat.div_mul_cancel hL, Nat.div_mul_cancel hR]

/-- mul1 … mul8 (bin_uiui.c:131-199) with the `tcnttab[]` count put back.  Every partial product in a function body is a product
    of at most w numbers ≤ t = m + w − 1, so none wraps; `nmax = log_n_max (n)` guarantees the hypothesis. -/
theorem mulfunc_spec (w m : ℕ) (hw1 : 1 ≤ w) (hw8 : w ≤ 8) (hfit : (m + w - 1) ^ w < B) :
    mulfunc w m * 2 ^ tcnt (w - 1) = m.ascFactorial w := by
  by_cases hw : w = 1
  · subst hw; simp [mulfunc, tcnt, tcnttab, Nat.ascFactorial]
  generalize ht : m + w - 1 = t at hfit
  have hB : ∀ a ≤ w, t ^ a < B := fun a ha => chunk_fit (le_refl t) ha hfit
  have htB : t < B := by simpa using hB 1 hw1
  have hle : ∀ i < w, m + i ≤ t := fun i hi => by omega
  have hmod : ∀ i < w, (m + i) % B = m + i := fun i hi => Nat.mod_eq_of_lt (lt_of_le_of_lt (hle i hi) htB)
  have hm0 : m % B = m := Nat.mod_eq_of_lt (by omega)
  have two : ∀ {x y : ℕ}, x ≤ t → y ≤ t → x * y % B = x * y ∧ x * y ≤ t ^ 2 := fun hx hy =>
    mulB_fit (a := 1) (b := 1) (by rwa [pow_one]) (by rwa [pow_one]) (hB 2 (by omega))
  have one : ∀ {x : ℕ}, x ≤ t → x ≤ t ^ 1 := fun hx => by rwa [pow_one]
  have hdiv : ∀ {x a c : ℕ}, x ≤ t ^ a → x / c ≤ t ^ a := fun h => le_trans (Nat.div_le_self _ _) h
  have d2 := two_dvd_consec
  have d8 := eight_dvd_consec4
  have p01 : m * (m + 1) % B = m * (m + 1) ∧ m * (m + 1) ≤ t ^ 2 := two (hle 0 (by omega)) (hle 1 (by omega))
  interval_cases w
  · omega
  · -- mul2: (m | 1) * ((m + 1) >> 1)
    have h1 : m ||| 1 ≤ t := by rw [or_one_eq]; omega
    simp only [mulfunc, tcnt, tcnttab, List.getD_cons_succ, List.getD_cons_zero, hmod 1 (by decide)]
    rw [(two h1 (le_trans (Nat.div_le_self _ _) (hle 1 (by decide)))).1, pow_one, mul2_twos]
    simp only [Nat.ascFactorial]; ring
  ·
    simp only [mulfunc, tcnt, tcnttab, List.getD_cons_succ, List.getD_cons_zero, hm0, hmod 1 (by decide),
      hmod 2 (by decide), Nat.add_zero]
    rw [p01.1, (mulB_fit (hdiv p01.2) (one (hle 2 (by decide))) (hB 3 (by decide))).1, pow_one, mul_right_comm,
      Nat.div_mul_cancel (d2 m)]
    simp only [Nat.ascFactorial]; ring
  ·
    have p23 := two (hle 2 (by decide)) (hle 3 (by decide))
    simp only [mulfunc, tcnt, tcnttab, List.getD_cons_succ, List.getD_cons_zero, hm0, hmod 1 (by decide),
      hmod 2 (by decide), hmod 3 (by decide), Nat.add_zero]
    rw [p01.1, p23.1, (mulB_fit (hdiv p01.2) (hdiv p23.2) (hB 4 (by decide))).1,
      div_mul_div_mul (d2 m) (d2 (m + 2)) (by norm_num)]
    simp only [Nat.ascFactorial]; ring
  ·
    have p012 := mulB_fit p01.2 (one (hle 2 (by decide))) (hB 3 (by decide))
    have p34 := two (hle 3 (by decide)) (hle 4 (by decide))
    simp only [mulfunc, tcnt, tcnttab, List.getD_cons_succ, List.getD_cons_zero, hm0, hmod 1 (by decide),
      hmod 2 (by decide), hmod 3 (by decide), hmod 4 (by decide), Nat.add_zero]
    rw [p01.1, p012.1, p34.1, (mulB_fit (hdiv p012.2) (hdiv p34.2) (hB 5 (by decide))).1,
      div_mul_div_mul ((d2 m).mul_right _) (d2 (m + 3)) (by norm_num)]
    simp only [Nat.ascFactorial]; ring
  all_goals
    -- mul6, mul7, mul8 start with m (m+1) (m+2) (m+3) >> 3
    have p23 := two (hle 2 (by decide)) (hle 3 (by decide))
    have p0123 := mulB_fit p01.2 p23.2 (hB 4 (by decide))
    have p45 := two (hle 4 (by decide)) (hle 5 (by decide))
  ·
    simp only [mulfunc, tcnt, tcnttab, List.getD_cons_succ, List.getD_cons_zero, hm0, hmod 1 (by decide),
      hmod 2 (by decide), hmod 3 (by decide), hmod 4 (by decide), hmod 5 (by decide), Nat.add_zero]
    rw [p01.1, p23.1, p0123.1, p45.1, (mulB_fit (hdiv p0123.2) (hdiv p45.2) (hB 6 (by decide))).1,
      div_mul_div_mul (d8 m) (d2 (m + 4)) (by norm_num)]
    simp only [Nat.ascFactorial]; ring
  ·
    have p456 := mulB_fit p45.2 (one (hle 6 (by decide))) (hB 3 (by decide))
    simp only [mulfunc, tcnt, tcnttab, List.getD_cons_succ, List.getD_cons_zero, hm0, hmod 1 (by decide),
      hmod 2 (by decide), hmod 3 (by decide), hmod 4 (by decide), hmod 5 (by decide), hmod 6 (by decide), Nat.add_zero]
    rw [p01.1, p23.1, p0123.1, p45.1, p456.1, (mulB_fit (hdiv p0123.2) (hdiv p456.2) (hB 7 (by decide))).1,
      div_mul_div_mul (d8 m) ((d2 (m + 4)).mul_right _) (by norm_num)]
    simp only [Nat.ascFactorial]; ring
  ·
    have p67 := two (hle 6 (by decide)) (hle 7 (by decide))
    have p4567 := mulB_fit p45.2 p67.2 (hB 4 (by decide))
    simp only [mulfunc, tcnt, tcnttab, List.getD_cons_succ, List.getD_cons_zero, hm0, hmod 1 (by decide),
      hmod 2 (by decide), hmod 3 (by decide), hmod 4 (by decide), hmod 5 (by decide), hmod 6 (by decide), hmod 7 (by decide),
      Nat.add_zero]
    rw [p01.1, p23.1, p0123.1, p45.1, p67.1, p4567.1, (mulB_fit (hdiv p0123.2) (hdiv p4567.2) (hB 8 (by decide))).1,
      div_mul_div_mul (d8 m) (d8 (m + 4)) (by norm_num)]
    simp only [Nat.ascFactorial]; ring

/-! ## mpn_divrem_hensel_rsh_qr_1_preinv: exact division by an odd limb -/

/-- one limb of Hensel division: with d·m ≡ 1 (mod B), q = ((x − t) mod B)·m mod B satisfies
    x + B·(borrow + high(q·d)) = q·d + t -/
theorem hensel_limb (x t d m : ℕ) (hx : x < B) (ht : t < B) (hd : d < B) (hdm : d * m % B = 1) :
    let c' := if t > x then 1 else 0
    let q := (x + B - t) % B * m % B
    x + B * (c' + q * d / B) = q * d + t ∧ q < B ∧ q * d / B + c' < B := by
  intro c' q
  have hB : 2 ≤ B := by rw [B_eq]; norm_num
  have hq : q < B := Nat.mod_lt _ (by omega)
  have h1 : (x + B - t) % B + t = x + B * c' := by
    simp only [c']
    split
    · rw [Nat.mod_eq_of_lt (by omega)]; omega
    · have : x + B - t = (x - t) + B := by omega
      rw [this, Nat.add_mod_right, Nat.mod_eq_of_lt (by omega)]; omega
  have h2 : q * d % B = (x + B - t) % B := by
    simp only [q]
    rw [Nat.mod_mul_mod, mul_assoc, mul_comm m d, Nat.mul_mod, hdm, Nat.mul_one, Nat.mod_mod, Nat.mod_mod]
  have h3 := Nat.div_add_mod (q * d) B
  have hle : q * d / B + 2 ≤ B := by
    have : q * d ≤ (B - 1) * (B - 1) := Nat.mul_le_mul (by omega) (by omega)
    have h4 : q * d < B * (B - 1) := by
      have h5 : (B - 1) * (B - 1) < B * (B - 1) := Nat.mul_lt_mul_of_pos_right (by omega) (by omega)
      exact lt_of_le_of_lt this h5
    have := Nat.div_lt_of_lt_mul h4
    omega
  refine ⟨?_, hq, ?_⟩
  · rw [Nat.mul_add]; omega
  · simp only [c']; split <;> omega

/-- invariant after j limbs: xs mod B^j + (h + c)·B^j = acc·d, no borrow is lost -/
theorem henselRshAux_spec (xs d m : ℕ) (hd : d < B) (hdm : d * m % B = 1) :
    ∀ cnt j h c acc, h + c < B → acc < B ^ j → xs % B ^ j + (h + c) * B ^ j = acc * d →
      henselRshAux xs d m cnt j h c acc < B ^ (j + cnt) ∧
      ∃ e, xs % B ^ (j + cnt) + e * B ^ (j + cnt) = henselRshAux xs d m cnt j h c acc * d := by
  intro cnt
  induction cnt with
  | zero => intro j h c acc hc hacc hinv; exact ⟨hacc, h + c, hinv⟩
  | succ cnt ih =>
    intro j h c acc hc hacc hinv
    unfold henselRshAux
    simp only
    rw [Nat.mod_eq_of_lt hc, show j + (cnt + 1) = j + 1 + cnt by omega]
    obtain ⟨e1, e2, e3⟩ := hensel_limb (xs / B ^ j % B) (h + c) d m (Nat.mod_lt _ B_pos) hc hd hdm
    generalize (xs / B ^ j % B + B - (h + c)) % B * m % B = q at e1 e2 e3 ⊢
    generalize (if h + c > xs / B ^ j % B then 1 else 0) = c' at e1 e3 ⊢
    apply ih (j + 1) (q * d / B) c' (acc + q * B ^ j) e3
    · calc acc + q * B ^ j < B ^ j + q * B ^ j := Nat.add_lt_add_right hacc _
        _ = (q + 1) * B ^ j := by ring
        _ ≤ B * B ^ j := Nat.mul_le_mul_right _ e2
        _ = B ^ (j + 1) := (pow_succ' B j).symm
    · rw [Nat.mod_pow_succ, pow_succ]
      calc xs % B ^ j + B ^ j * (xs / B ^ j % B) + (q * d / B + c') * (B ^ j * B)
          = xs % B ^ j + B ^ j * (xs / B ^ j % B + B * (c' + q * d / B)) := by ring
        _ = xs % B ^ j + (h + c) * B ^ j + q * B ^ j * d := by rw [e1]; ring
        _ = (acc + q * B ^ j) * d := by rw [hinv]; ring

/-- mpn_divrem_hensel_rsh_qr_1_preinv (qp, xp, n, d, m, s) when (x >> s) = d·T exactly: the n quotient limbs are T -/
theorem henselRshDiv_exact (x n d m s T : ℕ) (hx : x < B ^ n) (hd : d < B) (hdm : d * m % B = 1)
    (hT : x >>> s = d * T) : henselRshDiv x n d m s = T := by
  unfold henselRshDiv
  rw [Nat.mod_eq_of_lt hx, hT]
  obtain ⟨h1, e, h2⟩ := henselRshAux_spec (d * T) d m hd hdm n 0 0 0 0 (by have := B_pos; omega) (by simp) (by simp [Nat.mod_one])
  simp only [Nat.zero_add] at h1 h2
  generalize henselRshAux (d * T) d m n 0 0 0 0 = Q at h1 h2 ⊢
  have hdpos : 0 < d := by
    rcases Nat.eq_zero_or_pos d with h | h
    · subst h; simp at hdm
    · exact h
  have hxs : d * T < B ^ n := by
    rw [← hT]; exact lt_of_le_of_lt (by rw [Nat.shiftRight_eq_div_pow]; exact Nat.div_le_self _ _) hx
  have hTlt : T < B ^ n := lt_of_le_of_lt (Nat.le_mul_of_pos_left T hdpos) hxs
  rw [Nat.mod_eq_of_lt hxs] at h2
  -- d·T + e·B^n = Q·d, d invertible mod B^n  ⇒  Q ≡ T (mod B^n)
  have hcop : Nat.Coprime d (B ^ n) := by
    apply Nat.Coprime.pow_right
    have : Nat.Coprime d B := by
      have h1 : Nat.gcd d B ∣ d * m % B := by
        rw [Nat.dvd_mod_iff (Nat.gcd_dvd_right d B)]
        exact Dvd.dvd.mul_right (Nat.gcd_dvd_left d B) m
      rw [hdm] at h1
      exact Nat.dvd_one.mp h1
    exact this
  have hmod : (d * Q) % B ^ n = (d * T) % B ^ n := by
    rw [mul_comm d Q, ← h2, Nat.add_mul_mod_self_right]
  have hQT : Q ≡ T [MOD B ^ n] := Nat.ModEq.cancel_left_of_coprime (by rwa [Nat.coprime_comm, Nat.Coprime] at hcop) hmod
  have := Nat.ModEq.eq_of_lt_of_lt hQT h1 hTlt
  exact this

/-! ## log_n_max and mpz_smallk_bin_uiui -/

theorem logNMaxAux_spec (n : ℕ) (hn : n ≤ limbrootsTable.getD 0 0) :
    ∀ L, 1 ≤ L → 1 ≤ logNMaxAux L n ∧ logNMaxAux L n ≤ L ∧ n ≤ limbrootsTable.getD (logNMaxAux L n - 1) 0 := by
  intro L
  induction L with
  | zero => intro h; omega
  | succ L ih =>
    intro _
    unfold logNMaxAux
    split
    · rename_i hgt
      have hL : 1 ≤ L := by
        rcases Nat.eq_zero_or_pos L with h | h
        · subst h; omega
        · exact h
      obtain ⟨a, b, c⟩ := ih hL
      exact ⟨a, by omega, c⟩
    · rename_i hle
      exact ⟨by omega, le_refl _, by simpa using Nat.le_of_not_gt hle⟩

theorem limbroots_pow : ∀ i < 8, limbrootsTable.getD i 0 ^ (i + 1) < B := by decide +kernel

/-- `MAXFACS (nmax, n)` = log_n_max (n): 1 ≤ nmax ≤ 8 and n^nmax fits a limb -/
theorem log_n_max_spec (n : ℕ) (hn : n < B) :
    1 ≤ log_n_max n ∧ log_n_max n ≤ 8 ∧ n ^ log_n_max n < B := by
  have h0 : n ≤ limbrootsTable.getD 0 0 := by
    have : limbrootsTable.getD 0 0 = B - 1 := by decide +kernel
    omega
  obtain ⟨a, b, c⟩ := logNMaxAux_spec n h0 8 (by omega)
  refine ⟨a, b, ?_⟩
  unfold log_n_max
  generalize logNMaxAux 8 n = r at a b c
  have := limbroots_pow (r - 1) (by omega)
  rw [Nat.sub_add_cancel a] at this
  exact lt_of_le_of_lt (Nat.pow_le_pow_left c r) this

theorem smallkLoop_spec (n k W : ℕ) (hk : k ≤ n) (hW8 : W ≤ 8) (hW : n ^ W < B) :
    ∀ fuel nmax numfac i rp i2, numfac ≤ fuel → nmax ≤ W → (numfac ≠ 0 → 1 ≤ nmax) → (numfac ≠ 0 → i + numfac = n + 1) →
      numfac ≤ k → rp * 2 ^ i2 = (n - k + 1).ascFactorial (k - numfac) →
      (smallkLoop fuel nmax numfac i rp i2).1 * 2 ^ (smallkLoop fuel nmax numfac i rp i2).2 = (n - k + 1).ascFactorial k := by
  intro fuel
  induction fuel with
  | zero =>
    intro nmax numfac i rp i2 h1 _ _ _ _ hinv
    have : numfac = 0 := by omega
    subst this
    simpa [smallkLoop] using hinv
  | succ fuel ih =>
    intro nmax numfac i rp i2 h1 h2 h3 h4 h5 hinv
    unfold smallkLoop
    by_cases h0 : numfac = 0
    · subst h0; simpa using hinv
    · simp only [h0, if_false]
      have hn1 := h3 h0
      have hi := h4 h0
      have hmin1 : 1 ≤ min nmax numfac := by simp only [Nat.le_min]; omega
      have hminW : min nmax numfac ≤ W := le_trans (Nat.min_le_left _ _) h2
      have hminF : min nmax numfac ≤ numfac := Nat.min_le_right _ _
      generalize min nmax numfac = w at hmin1 hminW hminF ⊢
      have hfit : (i + w - 1) ^ w < B := chunk_fit (by omega) hminW hW
      have hm := mulfunc_spec w i hmin1 (by omega) hfit
      apply ih w (numfac - w) ((i + w) % B) (rp * mulfunc w i) (i2 + tcnt (w - 1)) (by omega) hminW (fun _ => hmin1)
      · intro hne
        have hB : n < B := by simpa using chunk_fit (le_refl n) (show 1 ≤ W by omega) hW
        rw [Nat.mod_eq_of_lt (by omega)]; omega
      · omega
      · rw [pow_add, show rp * mulfunc w i * (2 ^ i2 * 2 ^ tcnt (w - 1)) = rp * 2 ^ i2 * (mulfunc w i * 2 ^ tcnt (w - 1)) by ring,
          hinv, hm, show i = n - k + 1 + (k - numfac) by omega, Nat.ascFactorial_mul_ascFactorial]
        congr 1; omega

theorem limbCount_isSize : IsSize limbCount := limbCount_le_iff

theorem lt_pow_limbCount (v : ℕ) : v < B ^ (if limbCount v = 0 then 1 else limbCount v) := by
  split
  · next h => rw [limbCount_isSize.eq_zero.1 h]; exact Bpow_pos 1
  · exact limbCount_isSize.lt_pow v

theorem smallkLoop_i2_indep : ∀ fuel nmax numfac i rp i2,
    (smallkLoop fuel nmax numfac i rp i2).2 = (smallkLoop fuel nmax numfac 0 0 i2).2 := by
  intro fuel
  induction fuel with
  | zero => intros; rfl
  | succ fuel ih =>
    intro nmax numfac i rp i2
    unfold smallkLoop
    by_cases h0 : numfac = 0
    · simp [h0]
    · simp only [h0, if_false]
      rw [ih, ih _ _ ((0 + min nmax numfac) % B) (0 * mulfunc (min nmax numfac) 0)]

/-- the twos removed on the fly by mul1…mul8 never exceed the twos of k! (every chunk size, every 2 ≤ k ≤ 25) -/
theorem smallk_i2_le : ∀ nm < 9, 1 ≤ nm → ∀ k < ODD_FACTORIAL_TABLE_LIMIT + 1, 2 ≤ k →
    (smallkLoop k (min nm k) (k - min nm k) 0 0 (tcnt (min nm k - 1))).2 ≤ fac2cntTab (k / 2 - 1) := by
  decide +kernel

theorem smallk_tables : ∀ k < ODD_FACTORIAL_TABLE_LIMIT + 1, 2 ≤ k →
    k ! = 2 ^ fac2cntTab (k / 2 - 1) * oddfacTab k ∧ oddfacTab k < B ∧ oddfacTab k * facinvTab (k - 2) % B = 1 := by
  decide +kernel

theorem shiftRight_of_mul_two_pow {r a b c : ℕ} (h : r * 2 ^ a = 2 ^ b * c) (hab : a ≤ b) : r >>> (b - a) = c := by
  have hb : b = a + (b - a) := by omega
  rw [hb, pow_add] at h
  have h2 : r = 2 ^ (b - a) * c := by
    have : r * 2 ^ a = 2 ^ (b - a) * c * 2 ^ a := by rw [h]; ring
    exact Nat.eq_of_mul_eq_mul_right (by positivity) this
  rw [Nat.shiftRight_eq_div_pow, h2, Nat.mul_div_cancel_left _ (by positivity)]

theorem smallk_bin_uiui_eq (n k : ℕ) (hk2 : 2 ≤ k) (hk25 : k ≤ ODD_FACTORIAL_TABLE_LIMIT) (hkn : k ≤ n) (hn : n < B) :
    smallk_bin_uiui n k = n.choose k := by
  obtain ⟨hW1, hW8, hWfit⟩ := log_n_max_spec n hn
  unfold smallk_bin_uiui
  simp only
  rw [show min (log_n_max n) 8 = log_n_max n from Nat.min_eq_left hW8]
  have hnm1 : 1 ≤ min (log_n_max n) k := by simp only [Nat.le_min]; omega
  have hnmW : min (log_n_max n) k ≤ log_n_max n := Nat.min_le_left _ _
  have hnmk : min (log_n_max n) k ≤ k := Nat.min_le_right _ _
  have hi2 := smallk_i2_le (log_n_max n) (by omega) hW1 k (by omega) hk2
  generalize hnm : min (log_n_max n) k = nm at hnm1 hnmW hnmk hi2 ⊢
  have hfit : (n - k + 1 + nm - 1) ^ nm < B := chunk_fit (by omega) hnmW hWfit
  have hm := mulfunc_spec nm (n - k + 1) hnm1 (by omega) hfit
  have hloop := smallkLoop_spec n k (log_n_max n) hkn hW8 hWfit k nm (k - nm) ((n - k + 1 + nm) % B) (mulfunc nm (n - k + 1))
    (tcnt (nm - 1)) (by omega) hnmW (fun _ => hnm1) (fun h => by rw [Nat.mod_eq_of_lt (by omega)]; omega) (by omega)
    (by rw [hm]; congr 1; omega)
  rw [← smallkLoop_i2_indep k nm (k - nm) ((n - k + 1 + nm) % B) (mulfunc nm (n - k + 1))] at hi2
  generalize smallkLoop k nm (k - nm) ((n - k + 1 + nm) % B) (mulfunc nm (n - k + 1)) (tcnt (nm - 1)) = res at hloop hi2 ⊢
  obtain ⟨rp, i2⟩ := res
  simp only at hloop hi2 ⊢
  obtain ⟨t1, t2, t3⟩ := smallk_tables k (by omega) hk2
  have hdesc : (n - k + 1).ascFactorial k = k ! * n.choose k := by
    rw [← Nat.add_descFactorial_eq_ascFactorial, Nat.sub_add_cancel hkn, Nat.descFactorial_eq_factorial_mul_choose]
  rw [hdesc, t1, mul_assoc] at hloop
  exact henselRshDiv_exact rp _ (oddfacTab k) (facinvTab (k - 2)) _ (n.choose k) (lt_pow_limbCount rp) t2 t3
    (shiftRight_of_mul_two_pow hloop hi2)

/-! ## bc_bin_uiui (by table) and mpz_smallkdc_bin_uiui -/

theorem bc_bin_uiui_binom : ∀ n < ODD_FACTORIAL_EXTTABLE_LIMIT + 1, ∀ k < n + 1, 2 ≤ k → 2 ≤ n - k →
    bc_bin_uiui n k = binom n k := by
  decide +kernel

theorem smallkdc_tables : ∀ k < 2 * ODD_CENTRAL_BINOMIAL_TABLE_LIMIT + 1, ODD_FACTORIAL_TABLE_LIMIT < k →
    binom k (k / 2) = 2 ^ (fac2binTable.getD (k - k / 2 - ODD_CENTRAL_BINOMIAL_OFFSET) 0 - (if k - k / 2 ≠ k / 2 then 1 else 0)) *
        bin2kkTable.getD (k - k / 2 - ODD_CENTRAL_BINOMIAL_OFFSET) 0 ∧
      bin2kkTable.getD (k - k / 2 - ODD_CENTRAL_BINOMIAL_OFFSET) 0 < B ∧
      bin2kkTable.getD (k - k / 2 - ODD_CENTRAL_BINOMIAL_OFFSET) 0 * bin2kkinvTable.getD (k - k / 2 - ODD_CENTRAL_BINOMIAL_OFFSET) 0 % B = 1 := by
  decide +kernel

theorem smallkdc_consts : ODD_FACTORIAL_TABLE_LIMIT = 25 ∧ ODD_CENTRAL_BINOMIAL_TABLE_LIMIT = 35 ∧ ODD_FACTORIAL_EXTTABLE_LIMIT = 67 ∧
    BIN_UIUI_RECURSIVE_SMALLDC = 1 := by decide

/-- fuel = recursion depth allowance: k ≤ 25·2^fuel -/
theorem smallkdc_bin_uiui_eq : ∀ fuel n k, ODD_FACTORIAL_TABLE_LIMIT < k → k ≤ 2 * ODD_CENTRAL_BINOMIAL_TABLE_LIMIT →
    k ≤ 25 * 2 ^ fuel → 2 * k ≤ n → n < B → smallkdc_bin_uiui fuel n k = n.choose k := by
  obtain ⟨c1, c2, c3, c4⟩ := smallkdc_consts
  intro fuel
  induction fuel with
  | zero => intro n k h1 _ h3 _ _; rw [c1] at h1; omega
  | succ fuel ih =>
    intro n k h1 h2 h3 h4 hn
    have htab := smallkdc_tables k (by omega) h1
    rw [c1] at h1
    rw [c2] at h2
    rw [pow_succ] at h3
    unfold smallkdc_bin_uiui
    simp only
    -- a = k >> 1 and b = k − a, m = n − a
    obtain ⟨e1, e2, e3, e4⟩ : k / 2 + (k - k / 2) = k ∧ k / 2 ≤ k - k / 2 ∧ k - k / 2 ≤ k / 2 + 1 ∧ n - k / 2 + k / 2 = n := by
      omega
    have hmul := Nat.choose_mul (n := n) (Nat.div_le_self k 2)
    generalize k / 2 = a at *
    generalize k - a = b at *
    generalize n - a = m at *
    -- either half, by mpz_smallk_bin_uiui or recursively
    have hrec : ∀ n' k', 13 ≤ k' → 2 * k' ≤ k + 1 → k' ≤ n' → (25 < k' → 2 * k' ≤ n') → n' < B →
        (if BIN_UIUI_RECURSIVE_SMALLDC = 0 ∨ k' ≤ ODD_FACTORIAL_TABLE_LIMIT then smallk_bin_uiui n' k'
          else smallkdc_bin_uiui fuel n' k') = n'.choose k' := by
      intro n' k' g1 g2 g3 g4 g5
      rw [c4, c1]
      by_cases hk' : k' ≤ 25
      · rw [if_pos (Or.inr hk')]
        exact smallk_bin_uiui_eq n' k' (by omega) (by rw [c1]; exact hk') g3 g5
      · rw [if_neg (by omega)]
        exact ih n' k' (by rw [c1]; omega) (by rw [c2]; omega) (by omega) (g4 (by omega)) g5
    rw [hrec n a (by omega) (by omega) (by omega) (by omega) hn]
    have hsecond : (if m ≤ ODD_FACTORIAL_EXTTABLE_LIMIT then n.choose a * bc_bin_uiui m b
        else n.choose a * (if BIN_UIUI_RECURSIVE_SMALLDC = 0 ∨ b ≤ ODD_FACTORIAL_TABLE_LIMIT then
          smallk_bin_uiui m b else smallkdc_bin_uiui fuel m b)) = n.choose k * k.choose a := by
      rw [hmul, c3]
      split
      · rw [bc_bin_uiui_binom m (by rw [c3]; omega) b (by omega) (by omega) (by omega), binom_eq_choose]
      · rw [hrec m b (by omega) (by omega) (by omega) (by omega) (by omega)]
    rw [hsecond]
    obtain ⟨t1, t2, t3⟩ := htab
    rw [binom_eq_choose] at t1
    refine henselRshDiv_exact _ _ _ _ _ (n.choose k) (lt_pow_limbCount _) t2 t3 ?_
    rw [Nat.shiftRight_eq_div_pow, t1, Nat.mul_comm, Nat.mul_assoc, Nat.mul_div_cancel_left _ (by positivity), Nat.mul_comm]

end Mpir.Numth
