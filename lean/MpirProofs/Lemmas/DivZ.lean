/- The mpz division wrappers of Mpir/Model/DivZ.lean (callees replaced by their specification): each model function equals
   "final store = `s.set …` of the documented quotient / remainder" for every alias pattern.  Floor and ceiling come from the
   truncating pair by one adjustment rule (`cfQ_eq`, `cfR_eq`; `spec_ui` for a natural divisor); then divisibility and congruence. -/
import MpirProofs.Lemmas.DivWord
import Mpir.Model.DivZ
import Mathlib.Tactic.Ring
import Mathlib.Tactic.Linarith
import Mathlib.Tactic.SplitIfs
import Mathlib.Tactic.Tauto
namespace Mpir.DivZ
open Mpir

/-! ### `sizeNat`, `siz`: the `_mp_size` field of a value -/

theorem sizeNat_isSize : IsSize sizeNat := limbCount_le_iff

theorem sizeNat_le_iff (v k : Nat) : sizeNat v ≤ k ↔ v < B ^ k := sizeNat_isSize v k

theorem lt_B_pow_sizeNat (v : Nat) : v < B ^ sizeNat v := sizeNat_isSize.lt_pow v

theorem sizeNat_eq_zero {v : Nat} : sizeNat v = 0 ↔ v = 0 := sizeNat_isSize.eq_zero

theorem lt_of_sizeNat_lt {a b : Nat} (h : sizeNat a < sizeNat b) : a < b := sizeNat_isSize.lt_of_lt h

theorem siz_natAbs (v : Int) : (siz v).natAbs = sizeNat v.natAbs := by
  unfold siz; split <;> simp

theorem siz_natCast (m : Nat) : siz (m : Int) = (sizeNat m : Int) := by
  unfold siz; simp

theorem siz_neg (z : Int) : siz (-z) = -siz z := by
  unfold siz
  by_cases h0 : z = 0
  · subst h0; simp [sizeNat_eq_zero.mpr rfl]
  · by_cases h1 : z < 0
    · rw [if_neg (by omega), if_pos h1]; simp
    · rw [if_pos (by omega), if_neg h1]; simp

theorem siz_eq_zero {v : Int} : siz v = 0 ↔ v = 0 := by
  have := @sizeNat_eq_zero v.natAbs
  unfold siz; split <;> omega

theorem siz_neg_iff {v : Int} : siz v < 0 ↔ v < 0 := by
  have := @sizeNat_eq_zero v.natAbs
  unfold siz; split <;> omega

theorem siz_nonneg_iff {v : Int} : 0 ≤ siz v ↔ 0 ≤ v := by
  have := @siz_neg_iff v; omega

theorem sameSign_siz (x y : Int) : sameSign (siz x) (siz y) ↔ (x < 0 ↔ y < 0) := by
  unfold sameSign; rw [siz_neg_iff, siz_neg_iff]

/-! ### the store of variables -/

theorem Store.set_apply (s : Store) (i : Nat) (v : Int) (j : Nat) :
    (s.set i v) j = if j = i then v else s j := rfl

theorem Store.set_comm (s : Store) {i j : Nat} (h : i ≠ j) (a b : Int) :
    (s.set i a).set j b = (s.set j b).set i a := by
  funext k
  rw [Store.set_apply, Store.set_apply, Store.set_apply, Store.set_apply]
  by_cases hk : k = j
  · rw [if_pos hk, if_pos hk, if_neg (fun hi => h (hi.symm.trans hk))]
  · rw [if_neg hk, if_neg hk]

theorem Store.set_set (s : Store) (i : Nat) (a b : Int) : (s.set i a).set i b = s.set i b := by
  funext j; rw [Store.set_apply, Store.set_apply, Store.set_apply]; split <;> rfl

/-- `TMP_FREE`: a store that differs from `s` at most in the temporary `t`, after the release of `t` -/
theorem Store.restore (s s0 : Store) (t : Nat) (h0 : ∀ j, j ≠ t → s0 j = s j) : s0.set t (s t) = s := by
  funext j
  rw [Store.set_apply]
  split
  · rename_i hj; rw [hj]
  · exact h0 j ‹_›

theorem Store.set_restore (s s0 : Store) (r t : Nat) (M : Int) (htr : t ≠ r) (h0 : ∀ j, j ≠ t → s0 j = s j) :
    (s0.set r M).set t (s t) = s.set r M := by
  rw [Store.set_comm _ htr.symm, Store.restore s s0 t h0]

/-! ### floor and ceiling from truncation (`Adj`, `cfQ`, `cfR`) -/

theorem tdiv_sign_mag (x y : Int) :
    Int.tdiv x y = if (x < 0 ↔ y < 0) then ((x.natAbs / y.natAbs : Nat) : Int) else -((x.natAbs / y.natAbs : Nat) : Int) := by
  cases x <;> cases y <;> simp [Int.tdiv, Int.negSucc_lt_zero]
  omega

theorem tmod_sign_mag (x y : Int) :
    Int.tmod x y = if 0 ≤ x then ((x.natAbs % y.natAbs : Nat) : Int) else -((x.natAbs % y.natAbs : Nat) : Int) := by
  cases x <;> cases y <;> simp [Int.tmod, Int.negSucc_not_nonneg]

theorem tdiv_tmod_of_natAbs_lt {x y : Int} (h : x.natAbs < y.natAbs) : Int.tdiv x y = 0 ∧ Int.tmod x y = x := by
  have h0 : Int.tdiv x y = 0 := by
    rw [tdiv_sign_mag, Nat.div_eq_of_lt h]; simp
  refine ⟨h0, ?_⟩
  rw [Int.tmod_def, h0]; simp

theorem fdiv_from_tdiv {x y : Int} (hy : y ≠ 0) :
    Int.fdiv x y = if ¬ (x < 0 ↔ y < 0) ∧ Int.tmod x y ≠ 0 then Int.tdiv x y - 1 else Int.tdiv x y := by
  rw [Int.fdiv_eq_tdiv]
  by_cases hdv : y ∣ x
  · have h0 : Int.tmod x y = 0 := Int.dvd_iff_tmod_eq_zero.mp hdv
    simp [hdv, h0]
  · have h0 : Int.tmod x y ≠ 0 := fun h => hdv (Int.dvd_iff_tmod_eq_zero.mpr h)
    have hx : x ≠ 0 := fun h => hdv (h ▸ Int.dvd_zero y)
    simp only [hdv, if_false, h0, ne_eq, not_false_eq_true, and_true]
    rcases Int.lt_or_gt_of_ne hy with hneg | hpos
    · have : y.sign = -1 := Int.sign_eq_neg_one_of_neg hneg
      rw [this]; split_ifs <;> omega
    · have : y.sign = 1 := Int.sign_eq_one_of_pos hpos
      rw [this]; split_ifs <;> omega

theorem fmod_from_tmod {x y : Int} (hy : y ≠ 0) :
    Int.fmod x y = if ¬ (x < 0 ↔ y < 0) ∧ Int.tmod x y ≠ 0 then Int.tmod x y + y else Int.tmod x y := by
  rw [Int.fmod_def, fdiv_from_tdiv hy]
  by_cases h : ¬ (x < 0 ↔ y < 0) ∧ Int.tmod x y ≠ 0
  · rw [if_pos h, if_pos h, Int.tmod_def]; ring
  · rw [if_neg h, if_neg h, Int.tmod_def]

theorem cdivQ_from_tdiv {x y : Int} (hy : y ≠ 0) :
    cdivQ x y = if (x < 0 ↔ y < 0) ∧ Int.tmod x y ≠ 0 then Int.tdiv x y + 1 else Int.tdiv x y := by
  unfold cdivQ
  rw [fdiv_from_tdiv hy, Int.neg_tdiv, Int.neg_tmod]
  by_cases h0 : Int.tmod x y = 0
  · simp [h0]
  · have hx : x ≠ 0 := fun h => h0 (by rw [h]; simp)
    have e : (¬ (-x < 0 ↔ y < 0)) ↔ (x < 0 ↔ y < 0) := by omega
    by_cases h : (x < 0 ↔ y < 0)
    · have h1 : ¬ (-x < 0 ↔ y < 0) ∧ -Int.tmod x y ≠ 0 := ⟨e.mpr h, by omega⟩
      rw [if_pos h1, if_pos ⟨h, h0⟩]; ring
    · have h1 : ¬ (¬ (-x < 0 ↔ y < 0) ∧ -Int.tmod x y ≠ 0) := fun hh => h (e.mp hh.1)
      have h2 : ¬ ((x < 0 ↔ y < 0) ∧ Int.tmod x y ≠ 0) := fun hh => h hh.1
      rw [if_neg h1, if_neg h2]; ring

theorem cdivR_from_tmod {x y : Int} (hy : y ≠ 0) :
    cdivR x y = if (x < 0 ↔ y < 0) ∧ Int.tmod x y ≠ 0 then Int.tmod x y - y else Int.tmod x y := by
  unfold cdivR
  rw [cdivQ_from_tdiv hy]
  by_cases h : (x < 0 ↔ y < 0) ∧ Int.tmod x y ≠ 0
  · rw [if_pos h, if_pos h, Int.tmod_def]; ring
  · rw [if_neg h, if_neg h, Int.tmod_def]; ring

def cfQ (ceil : Bool) (x y : Int) : Int := if ceil then cdivQ x y else fdivQ x y
def cfR (ceil : Bool) (x y : Int) : Int := if ceil then cdivR x y else fdivR x y

/-- the truncated quotient is off by one: signs agree (ceiling) / differ (floor), and the remainder is not zero -/
def Adj (ceil : Bool) (x y : Int) : Prop :=
  (if ceil then (x < 0 ↔ y < 0) else ¬ (x < 0 ↔ y < 0)) ∧ Int.tmod x y ≠ 0

instance (ceil : Bool) (x y : Int) : Decidable (Adj ceil x y) := by unfold Adj; infer_instance

theorem cfQ_eq (ceil : Bool) {x y : Int} (hy : y ≠ 0) :
    cfQ ceil x y = if Adj ceil x y then (if ceil then Int.tdiv x y + 1 else Int.tdiv x y - 1) else Int.tdiv x y := by
  cases ceil
  · simp only [cfQ, Bool.false_eq_true, if_false, fdivQ]; exact fdiv_from_tdiv hy
  · simp only [cfQ, if_true]; exact cdivQ_from_tdiv hy

theorem cfR_eq (ceil : Bool) {x y : Int} (hy : y ≠ 0) :
    cfR ceil x y = if Adj ceil x y then (if ceil then Int.tmod x y - y else Int.tmod x y + y) else Int.tmod x y := by
  cases ceil
  · simp only [cfR, Bool.false_eq_true, if_false, fdivR]; exact fmod_from_tmod hy
  · simp only [cfR, if_true]; exact cdivR_from_tmod hy

/-! ### mpz_tdiv_qr / q / r (tdiv_qr.c, tdiv_q.c, tdiv_r.c) -/

theorem siz_natAbs_ne_zero {v : Int} (h : v ≠ 0) : (siz v).natAbs ≠ 0 := by
  rw [siz_natAbs]; intro h'; exact h (by have := sizeNat_eq_zero.mp h'; omega)

/-- fewer limbs, smaller magnitude: the early exit of tdiv_qr.c:47 -/
theorem natAbs_lt_of_siz_lt {x y : Int} (h : ((siz x).natAbs : Int) - ((siz y).natAbs : Int) + 1 ≤ 0) :
    x.natAbs < y.natAbs :=
  lt_of_sizeNat_lt (by rw [siz_natAbs, siz_natAbs] at h; omega)

theorem tmod_lt_zero_iff {x y : Int} (h : Int.tmod x y ≠ 0) : Int.tmod x y < 0 ↔ x < 0 := by
  rw [tmod_sign_mag] at h ⊢
  split_ifs at h ⊢ <;> omega

/-- tdiv_qr.c:49-56, tdiv_r.c:47: the copy of the numerator to `rem` is skipped when they are the same variable -/
theorem Store.copy_set (s : Store) (n r : Nat) : (if n ≠ r then s.set r (s n) else s) = s.set r (s n) := by
  by_cases h : n = r
  · rw [if_neg (not_not.mpr h)]
    funext j
    rw [Store.set_apply]
    split
    · rename_i hj; rw [hj, h]
    · rfl
  · rw [if_pos h]

theorem tdiv_qr_eq (s : Store) (q r n d : Nat) (hqr : q ≠ r) (hd : s d ≠ 0) :
    tdiv_qr s q r n d = .ok (fun j => if j = r then Int.tmod (s n) (s d) else if j = q then Int.tdiv (s n) (s d) else s j) := by
  have hdl := siz_natAbs_ne_zero hd
  unfold tdiv_qr mpn_tdiv_qr
  simp only [hdl, if_false]
  split
  · rename_i h
    obtain ⟨h0, h1⟩ := tdiv_tmod_of_natAbs_lt (natAbs_lt_of_siz_lt h)
    rw [h0, h1, Store.copy_set]
    congr 1; funext j
    rw [Store.set_apply, Store.set_apply]
    by_cases hjr : j = r
    · rw [if_pos hjr, if_pos hjr, if_neg (fun h => hqr (h.symm.trans hjr))]
    · rw [if_neg hjr, if_neg hjr]
  · congr 1; funext j
    simp only [Store.set_apply, tdiv_sign_mag (s n) (s d), tmod_sign_mag (s n) (s d), sameSign_siz, ge_iff_le, siz_nonneg_iff]

theorem tdiv_q_eq (s : Store) (q n d : Nat) (hd : s d ≠ 0) :
    tdiv_q s q n d = .ok (s.set q (Int.tdiv (s n) (s d))) := by
  have hdl := siz_natAbs_ne_zero hd
  unfold tdiv_q mpn_tdiv_q
  simp only [hdl, if_false]
  split
  · rename_i h
    rw [(tdiv_tmod_of_natAbs_lt (natAbs_lt_of_siz_lt h)).1]
  · simp only [tdiv_sign_mag (s n) (s d), sameSign_siz]

theorem tdiv_r_eq (s : Store) (r n d : Nat) (hd : s d ≠ 0) :
    tdiv_r s r n d = .ok (s.set r (Int.tmod (s n) (s d))) := by
  have hdl := siz_natAbs_ne_zero hd
  unfold tdiv_r mpn_tdiv_qr
  simp only [hdl, if_false]
  split
  · rename_i h
    rw [(tdiv_tmod_of_natAbs_lt (natAbs_lt_of_siz_lt h)).2, Store.copy_set]
  · simp only [tmod_sign_mag (s n) (s d), ge_iff_le, siz_nonneg_iff]

/-! ### mpz_fdiv_* / mpz_cdiv_* and mpz_mod (fdiv_qr.c … mod.c): the copy of the divisor, the adjustment, `TMP_FREE` -/

theorem fresh_ne (a b c d : Nat) : fresh a b c d ≠ a ∧ fresh a b c d ≠ b ∧ fresh a b c d ≠ c ∧ fresh a b c d ≠ d := by
  unfold fresh; omega

theorem adj_store (A : Prop) [Decidable A] (s s0 : Store) (q r t : Nat) (T M Q R : Int) (hqr : q ≠ r)
    (htq : t ≠ q) (htr : t ≠ r) (h0 : ∀ j, j ≠ t → s0 j = s j) (j : Nat) :
    ((if A then (Store.set (fun j => if j = r then M else if j = q then T else s0 j) q Q).set r R
      else fun j => if j = r then M else if j = q then T else s0 j).set t (s t)) j =
    if j = r then (if A then R else M) else if j = q then (if A then Q else T) else s j := by
  show ((if A then (((s0.set q T).set r M).set q Q).set r R else (s0.set q T).set r M).set t (s t)) j =
    ((s.set q (if A then Q else T)).set r (if A then R else M)) j
  have e : ∀ Q R, ((s0.set q Q).set r R).set t (s t) = (s.set q Q).set r R := fun Q R => by
    rw [Store.set_comm _ htr.symm, Store.set_comm _ htq.symm, Store.restore s s0 t h0]
  by_cases hA : A
  · rw [if_pos hA, if_pos hA, if_pos hA, Store.set_comm _ hqr.symm M Q, Store.set_set, Store.set_set, e]
  · rw [if_neg hA, if_neg hA, if_neg hA, e]

/-- the wrappers copy the divisor to the temporary `t` when it is also a destination (fdiv_qr.c:39-44) -/
theorem copy_divisor (c : Prop) [Decidable c] (s : Store) (t d : Nat) :
    (if c then s.set t (s d) else s) (if c then t else d) = s d ∧
    (∀ j, j ≠ t → (if c then s.set t (s d) else s) j = s j) ∧
    ∀ j, t ≠ j → (¬ c → d ≠ j) → (if c then t else d) ≠ j := by
  split
  · exact ⟨if_pos rfl, fun j hj => if_neg hj, fun _ h _ => h⟩
  · exact ⟨rfl, fun _ _ => rfl, fun _ _ h => h ‹_›⟩

theorem cfdiv_qr_eq (ceil : Bool) (s : Store) (q r n d : Nat) (hqr : q ≠ r) (hd : s d ≠ 0) :
    cfdiv_qr ceil s q r n d = .ok (fun j =>
      if j = r then (if ceil then cdivR (s n) (s d) else Int.fmod (s n) (s d))
      else if j = q then (if ceil then cdivQ (s n) (s d) else Int.fdiv (s n) (s d)) else s j) := by
  obtain ⟨htq, htr, htn, _⟩ := fresh_ne q r n d
  show _ = Except.ok (fun j => if j = r then cfR ceil (s n) (s d) else if j = q then cfQ ceil (s n) (s d) else s j)
  unfold cfdiv_qr
  generalize fresh q r n d = t at *
  rw [cfR_eq ceil hd, cfQ_eq ceil hd]
  obtain ⟨hdv, h0, hv⟩ := copy_divisor (q = d ∨ r = d) s t d
  have hvq := hv q htq (fun hc h => hc (Or.inl h.symm))
  have hvr := hv r htr (fun hc h => hc (Or.inr h.symm))
  dsimp only
  generalize (if q = d ∨ r = d then s.set t (s d) else s) = s0 at *
  generalize (if q = d ∨ r = d then t else d) = dv at *
  rw [tdiv_qr_eq s0 q r n dv hqr (by rw [hdv]; exact hd)]
  simp only [Store.set_apply, if_pos, if_false, hqr, hqr.symm, hvq, hvr, hdv, h0 n htn.symm, sameSign_siz, ne_eq,
    siz_eq_zero, Adj]
  congr 1; funext j
  rw [adj_store _ s s0 q r t _ _ _ _ hqr htq htr h0]

theorem adj_store_q (A : Prop) [Decidable A] (s : Store) (q t : Nat) (T M Q : Int) (htq : t ≠ q) (j : Nat) :
    ((if A then Store.set (fun j => if j = t then M else if j = q then T else s j) q Q
      else fun j => if j = t then M else if j = q then T else s j).set t (s t)) j =
    s.set q (if A then Q else T) j := by
  show ((if A then ((s.set q T).set t M).set q Q else (s.set q T).set t M).set t (s t)) j = s.set q (if A then Q else T) j
  have e : ∀ Q, (s.set q Q).set t (s t) = s.set q Q := fun Q => Store.set_restore s s q t Q htq (fun _ _ => rfl)
  by_cases hA : A
  · rw [if_pos hA, if_pos hA, Store.set_comm _ htq M Q, Store.set_set, Store.set_set, e]
  · rw [if_neg hA, if_neg hA, Store.set_set, e]

theorem cfdiv_q_eq (ceil : Bool) (s : Store) (q n d : Nat) (hd : s d ≠ 0) :
    cfdiv_q ceil s q n d = .ok (s.set q (if ceil then cdivQ (s n) (s d) else Int.fdiv (s n) (s d))) := by
  obtain ⟨htq, htn, htd, _⟩ := fresh_ne q n d 0
  show _ = Except.ok (s.set q (cfQ ceil (s n) (s d)))
  unfold cfdiv_q
  generalize fresh q n d 0 = t at *
  dsimp only
  rw [cfQ_eq ceil hd, tdiv_qr_eq s q t n d (Ne.symm htq) hd]
  have e : (s d < 0 ↔ s n < 0) ↔ (s n < 0 ↔ s d < 0) := iff_comm
  simp only [if_pos, if_false, htq, Ne.symm htq, sameSign_siz, ne_eq, siz_eq_zero, e, Adj]
  congr 1; funext j
  rw [adj_store_q _ s q t _ _ _ htq]

theorem adj_store_r (A : Prop) [Decidable A] (s s0 : Store) (r t : Nat) (M R : Int) (htr : t ≠ r)
    (h0 : ∀ j, j ≠ t → s0 j = s j) :
    (if A then (s0.set r M).set r R else s0.set r M).set t (s t) = s.set r (if A then R else M) := by
  split
  · rw [Store.set_set, Store.set_restore s s0 r t R htr h0]
  · rw [Store.set_restore s s0 r t M htr h0]

/-- the sign test of fdiv_r.c / cdiv_r.c / mod.c reads the dividend after mpz_tdiv_r has stored the preliminary
    remainder: if dividend and remainder are the same variable it sees the remainder's sign, which is the
    dividend's whenever the remainder is not zero -/
theorem sign_after_tdiv_r {x y : Int} (c : Prop) [Decidable c] (h : Int.tmod x y ≠ 0) :
    (if c then Int.tmod x y else x) < 0 ↔ x < 0 := by
  split
  · exact tmod_lt_zero_iff h
  · rfl

theorem cfdiv_r_eq (ceil : Bool) (s : Store) (r n d : Nat) (hd : s d ≠ 0) :
    cfdiv_r ceil s r n d = .ok (s.set r (if ceil then cdivR (s n) (s d) else Int.fmod (s n) (s d))) := by
  obtain ⟨htr, htn, htd, _⟩ := fresh_ne r n d 0
  show _ = Except.ok (s.set r (cfR ceil (s n) (s d)))
  unfold cfdiv_r
  generalize fresh r n d 0 = t at *
  rw [cfR_eq ceil hd]
  have hA : ∀ (c : Prop) [Decidable c],
      ((if ceil = true then (s d < 0 ↔ (if c then Int.tmod (s n) (s d) else s n) < 0)
        else ¬ (s d < 0 ↔ (if c then Int.tmod (s n) (s d) else s n) < 0)) ∧ ¬ Int.tmod (s n) (s d) = 0) ↔
      Adj ceil (s n) (s d) :=
    fun c _ => and_congr_left fun hz => by rw [sign_after_tdiv_r c hz, iff_comm (a := s d < 0)]
  obtain ⟨hdv, h0, hv⟩ := copy_divisor (r = d) s t d
  have hvr := hv r htr (fun hc h => hc h.symm)
  dsimp only
  generalize (if r = d then s.set t (s d) else s) = s0 at *
  generalize (if r = d then t else d) = dv at *
  rw [tdiv_r_eq s0 r n dv (by rw [hdv]; exact hd)]
  simp only [Store.set_apply, if_pos, if_false, hvr, hdv, h0 n htn.symm, sameSign_siz, ne_eq, siz_eq_zero, hA]
  exact congrArg _ (adj_store_r _ s s0 r t _ _ htr h0)

theorem emod_from_tmod (x y : Int) :
    x % y = if Int.tmod x y ≠ 0 ∧ x < 0 then (if y < 0 then Int.tmod x y - y else Int.tmod x y + y) else Int.tmod x y := by
  rw [Int.emod_eq_tmod]
  by_cases hdv : y ∣ x
  · have h0 : Int.tmod x y = 0 := Int.dvd_iff_tmod_eq_zero.mp hdv
    simp [hdv, h0]
  · have h0 : Int.tmod x y ≠ 0 := fun h => hdv (Int.dvd_iff_tmod_eq_zero.mpr h)
    simp only [hdv, or_false, h0, ne_eq, not_false_eq_true, true_and]
    split_ifs <;> omega

theorem mod_eq (s : Store) (r n d : Nat) (hd : s d ≠ 0) :
    mod s r n d = .ok (s.set r (s n % s d)) := by
  obtain ⟨htr, htn, _, _⟩ := fresh_ne r n d 0
  unfold mod
  generalize fresh r n d 0 = t at *
  rw [emod_from_tmod]
  obtain ⟨hdv, h0, hv⟩ := copy_divisor (r = d) s t d
  have hvr := hv r htr (fun hc h => hc h.symm)
  dsimp only
  generalize (if r = d then s.set t (s d) else s) = s0 at *
  generalize (if r = d then t else d) = dv at *
  rw [tdiv_r_eq s0 r n dv (by rw [hdv]; exact hd)]
  simp only [Store.set_apply, if_pos, if_false, hvr, hdv, h0 n htn.symm, ne_eq, siz_eq_zero, siz_neg_iff]
  congr 1
  by_cases hz : Int.tmod (s n) (s d) = 0
  · rw [if_neg (not_not.mpr hz), if_neg (fun h => h.1 hz), Store.set_restore s s0 r t _ htr h0]
  · rw [if_pos hz]
    by_cases hn : s n < 0
    · rw [if_pos ((sign_after_tdiv_r _ hz).mpr hn), if_pos (And.intro hz hn)]
      by_cases hdn : s d < 0
      · rw [if_pos hdn, if_pos hdn, Store.set_set, Store.set_restore s s0 r t _ htr h0]
      · rw [if_neg hdn, if_neg hdn, Store.set_set, Store.set_restore s s0 r t _ htr h0]
    · rw [if_neg (fun h => hn ((sign_after_tdiv_r _ hz).mp h)), if_neg (fun h => hn h.2),
        Store.set_restore s s0 r t _ htr h0]

/-! ### division by zero -/

theorem tdiv_qr_div0 (s : Store) (q r n d : Nat) (hd : s d = 0) : tdiv_qr s q r n d = .error "div0" := by
  unfold tdiv_qr; simp [hd, siz, sizeNat]
theorem tdiv_q_div0 (s : Store) (q n d : Nat) (hd : s d = 0) : tdiv_q s q n d = .error "div0" := by
  unfold tdiv_q; simp [hd, siz, sizeNat]
theorem tdiv_r_div0 (s : Store) (r n d : Nat) (hd : s d = 0) : tdiv_r s r n d = .error "div0" := by
  unfold tdiv_r; simp [hd, siz, sizeNat]
theorem cfdiv_qr_div0 (c : Bool) (s : Store) (q r n d : Nat) (hd : s d = 0) : cfdiv_qr c s q r n d = .error "div0" := by
  unfold cfdiv_qr; dsimp only
  rw [tdiv_qr_div0 _ q r n _ ((copy_divisor (q = d ∨ r = d) s _ d).1.trans hd)]
theorem cfdiv_q_div0 (c : Bool) (s : Store) (q n d : Nat) (hd : s d = 0) : cfdiv_q c s q n d = .error "div0" := by
  unfold cfdiv_q; dsimp only; rw [tdiv_qr_div0 _ _ _ _ _ hd]
theorem cfdiv_r_div0 (c : Bool) (s : Store) (r n d : Nat) (hd : s d = 0) : cfdiv_r c s r n d = .error "div0" := by
  unfold cfdiv_r; dsimp only
  rw [tdiv_r_div0 _ r n _ ((copy_divisor (r = d) s _ d).1.trans hd)]
theorem mod_div0 (s : Store) (r n d : Nat) (hd : s d = 0) : mod s r n d = .error "div0" := by
  unfold mod; dsimp only
  rw [tdiv_r_div0 _ r n _ ((copy_divisor (r = d) s _ d).1.trans hd)]

/-! ### the `_ui` functions (tdiv_q_ui.c … cdiv_ui.c): sign–magnitude form of the three roundings, `uiAdjust`, `uiRem` -/

def specQ (dir : Int) (x y : Int) : Int := if dir = 0 then Int.tdiv x y else if dir = -1 then Int.fdiv x y else cdivQ x y
def specR (dir : Int) (x y : Int) : Int := if dir = 0 then Int.tmod x y else if dir = -1 then Int.fmod x y else cdivR x y

theorem spec_ui (dir : Int) (hdir : dir = 0 ∨ dir = -1 ∨ dir = 1) (x : Int) (u : Nat) (hu : u ≠ 0) :
    specQ dir x u = (if uiAdjust dir (x.natAbs % u) (siz x)
        then (if 0 ≤ x then ((x.natAbs / u + 1 : Nat) : Int) else -((x.natAbs / u + 1 : Nat) : Int))
        else (if 0 ≤ x then ((x.natAbs / u : Nat) : Int) else -((x.natAbs / u : Nat) : Int))) ∧
    specR dir x u = (if x.natAbs % u = 0 then 0
        else uiRem dir (siz x) (if uiAdjust dir (x.natAbs % u) (siz x) then u - x.natAbs % u else x.natAbs % u)) := by
  have hy : (u : Int) ≠ 0 := by omega
  have hy0 : ¬ ((u : Int) < 0) := by omega
  have hlt : x.natAbs % u < u := Nat.mod_lt _ (by omega)
  have hq := tdiv_sign_mag x u
  have hr := tmod_sign_mag x u
  have hF := fdiv_from_tdiv (x := x) hy
  have hFm := fmod_from_tmod (x := x) hy
  have hC := cdivQ_from_tdiv (x := x) hy
  have hCm := cdivR_from_tmod (x := x) hy
  simp only [Int.natAbs_natCast, hy0, iff_false, not_lt] at hq hr hF hFm hC hCm
  have hsz : siz x < 0 ↔ x < 0 := siz_neg_iff
  unfold specQ specR uiAdjust uiRem
  generalize x.natAbs / u = k at *
  generalize x.natAbs % u = m at *
  generalize siz x = sz at *
  rw [hF, hFm, hC, hCm, hq, hr]
  clear hF hFm hC hCm hq hr
  by_cases hx : 0 ≤ x
  · have hsz' : ¬ sz < 0 := by omega
    have hsz2 : sz ≥ 0 := by omega
    rcases hdir with rfl | rfl | rfl <;> by_cases hm : m = 0 <;>
      simp [hx, hsz', hsz2, hm] <;> omega
  · have hsz' : sz < 0 := by omega
    have hsz2 : ¬ sz ≥ 0 := by omega
    rcases hdir with rfl | rfl | rfl <;> by_cases hm : m = 0 <;>
      simp [hx, hsz', hsz2, hm] <;> omega

/-- magnitude quotient, plus one when the dividend's sign agrees with `dir` and the remainder is not zero: the floor resp. ceiling quotient -/
theorem specQ_signmag (dir : Int) (hdir : dir = -1 ∨ dir = 1) (neg : Prop) [Decidable neg] (m u : Nat) (hu : u ≠ 0)
    (hm : neg → 0 < m) :
    specQ dir (if neg then -(m : Int) else (m : Int)) (u : Int) =
      (if neg then -((m / u + (if (neg ↔ dir < 0) ∧ m % u ≠ 0 then 1 else 0) : Nat) : Int)
       else ((m / u + (if (neg ↔ dir < 0) ∧ m % u ≠ 0 then 1 else 0) : Nat) : Int)) := by
  obtain ⟨h, _⟩ := spec_ui dir (Or.inr hdir) (if neg then -(m : Int) else (m : Int)) u hu
  rw [h]
  unfold uiAdjust
  by_cases hn : neg
  · have hm' := hm hn
    simp only [hn, if_true, Int.natAbs_neg, Int.natAbs_natCast, true_iff]
    have hx : ¬ (0 : Int) ≤ -(m : Int) := by omega
    have hs : siz (-(m : Int)) < 0 := siz_neg_iff.mpr (by omega)
    have hs' : ¬ siz (-(m : Int)) ≥ 0 := by omega
    simp only [hx, if_false, hs, hs', and_true, and_false, or_false]
    rcases hdir with e | e <;> subst e <;> simp
    · by_cases hr : m % u = 0 <;> simp [hr]
  · simp only [hn, if_false, Int.natAbs_natCast, false_iff]
    have hx : (0 : Int) ≤ (m : Int) := by omega
    have hs : ¬ siz (m : Int) < 0 := by rw [siz_neg_iff]; omega
    have hs' : siz (m : Int) ≥ 0 := by omega
    simp only [hx, if_true, hs, hs', and_true, and_false, false_or]
    rcases hdir with e | e <;> subst e <;> simp
    · by_cases hr : m % u = 0 <;> simp [hr]

theorem specQ_round (dir : Int) (hdir : dir = -1 ∨ dir = 1) (x : Int) (u : Nat) (hu : u ≠ 0) :
    specQ dir x (u : Int) =
      (if 0 ≤ x then ((x.natAbs / u + (if (x < 0 ↔ dir < 0) ∧ x.natAbs % u ≠ 0 then 1 else 0) : Nat) : Int)
       else -((x.natAbs / u + (if (x < 0 ↔ dir < 0) ∧ x.natAbs % u ≠ 0 then 1 else 0) : Nat) : Int)) := by
  have e : x = if x < 0 then -(x.natAbs : Int) else (x.natAbs : Int) := by split <;> omega
  conv_lhs => rw [e]
  rw [specQ_signmag dir hdir (x < 0) x.natAbs u hu (by omega)]
  by_cases h : x < 0
  · have h' : ¬ 0 ≤ x := by omega
    simp only [h, h', if_true, if_false]
  · have h' : 0 ≤ x := by omega
    simp only [h, h', if_true, if_false]

theorem ui_incr_fits {a u : Nat} (hu0 : u ≠ 0) (h : a % u ≠ 0) : ¬ (a / u + 1 ≥ B ^ sizeNat a) := by
  have h1 := lt_B_pow_sizeNat a
  have hu : 2 ≤ u := by
    rcases Nat.lt_or_ge u 2 with h2 | h2
    · have : u = 1 := by omega
      subst this; exact absurd (Nat.mod_one a) h
    · exact h2
  have h2 := Nat.div_add_mod a u
  have h3 : 2 * (a / u) ≤ u * (a / u) := Nat.mul_le_mul_right _ hu
  omega

theorem specQ_zero (x y : Int) : specQ 0 x y = Int.tdiv x y := if_pos rfl
theorem specR_zero (x y : Int) : specR 0 x y = Int.tmod x y := if_pos rfl

theorem sameSign_dir (sz dir : Int) (hdir : dir = -1 ∨ dir = 1) :
    sameSign sz dir ↔ ((dir = -1 ∧ sz < 0) ∨ (dir = 1 ∧ sz ≥ 0)) := by
  unfold sameSign; rcases hdir with rfl | rfl <;> omega

theorem not_uiAdjust_zero (dir ns : Int) : ¬ uiAdjust dir 0 ns := fun h => h.1 rfl

theorem uiAdjust_of_ne_zero (dir ns : Int) {rl : Nat} (h : rl ≠ 0) :
    uiAdjust dir rl ns ↔ (dir = -1 ∧ ns < 0) ∨ (dir = 1 ∧ ns ≥ 0) := and_iff_right h

theorem uiAdjust_iff (dir : Int) (hdir : dir = -1 ∨ dir = 1) (rl : Nat) (ns : Int) :
    uiAdjust dir rl ns ↔ rl ≠ 0 ∧ sameSign ns dir := by
  unfold uiAdjust; rw [sameSign_dir ns dir hdir]

theorem uiRem_natAbs (dir ns : Int) (k : Nat) : (uiRem dir ns k).natAbs = k := by
  unfold uiRem; split_ifs <;> simp

theorem uiRem_value (dir ns : Int) (hdir : dir = 0 ∨ dir = -1 ∨ dir = 1) (k : Nat) :
    uiRem dir ns k = if dir = 0 ∧ ns < 0 ∨ dir = 1 then -(k : Int) else (k : Int) := by
  unfold uiRem
  rcases hdir with e | e | e <;> subst e <;> by_cases h0 : ns < 0 <;> simp [h0] <;> omega

/-- cfdiv_r_2exp.c:143 after `usize = -usize` (:122) on the rounding-away path -/
theorem uiRem_sign (dir : Int) (hdir : dir = -1 ∨ dir = 1) (sz : Int) (hsz : sz ≠ 0) (m : Nat) :
    uiRem dir sz m = if sameSign sz dir then (if -sz ≥ 0 then (m : Int) else -(m : Int))
      else (if sz ≥ 0 then (m : Int) else -(m : Int)) := by
  unfold uiRem sameSign; rcases hdir with rfl | rfl <;> simp <;> split_ifs <;> omega

theorem div_q_ui_eq (dir : Int) (hdir : dir = 0 ∨ dir = -1 ∨ dir = 1) (s : Store) (q n : Nat) (u : Nat) (hu : u ≠ 0) :
    div_q_ui dir s q n u = .ok (s.set q (specQ dir (s n) u), (specR dir (s n) u).natAbs) := by
  obtain ⟨hQ, hR⟩ := spec_ui dir hdir (s n) u hu
  rw [hQ, hR]
  unfold div_q_ui mpn_divrem_1
  simp only [hu, if_false]
  have hnn : siz (s n) ≥ 0 ↔ 0 ≤ s n := siz_nonneg_iff
  by_cases hz : siz (s n) = 0
  · have h0 : s n = 0 := siz_eq_zero.mp hz
    simp [h0, uiAdjust]
  · simp only [hz, if_false, siz_natAbs]
    by_cases hadj : uiAdjust dir ((s n).natAbs % u) (siz (s n))
    · have hrl : (s n).natAbs % u ≠ 0 := hadj.1
      simp only [hadj, if_true, ui_incr_fits hu hrl, if_false, hrl, uiRem_natAbs, hnn]
    · simp only [hadj, if_false, hnn]
      by_cases hrl : (s n).natAbs % u = 0
      · simp [hrl]
      · simp only [hrl, if_false, uiRem_natAbs]

theorem div_r_ui_eq (dir : Int) (hdir : dir = 0 ∨ dir = -1 ∨ dir = 1) (s : Store) (r n : Nat) (u : Nat) (hu : u ≠ 0) :
    div_r_ui dir s r n u = .ok (s.set r (specR dir (s n) u), (specR dir (s n) u).natAbs) := by
  obtain ⟨_, hR⟩ := spec_ui dir hdir (s n) u hu
  rw [hR]
  unfold div_r_ui mpn_mod_1
  simp only [hu, if_false]
  by_cases hz : siz (s n) = 0
  · have h0 : s n = 0 := siz_eq_zero.mp hz
    simp [h0]
  · simp only [hz, if_false]
    by_cases hrl : (s n).natAbs % u = 0
    · simp [hrl]
    · simp only [hrl, if_false, uiRem_natAbs]

theorem div_qr_ui_eq (dir : Int) (hdir : dir = 0 ∨ dir = -1 ∨ dir = 1) (s : Store) (q r n : Nat) (hqr : q ≠ r) (u : Nat) (hu : u ≠ 0) :
    div_qr_ui dir s q r n u = .ok ((s.set r (specR dir (s n) u)).set q (specQ dir (s n) u), (specR dir (s n) u).natAbs) := by
  obtain ⟨hQ, hR⟩ := spec_ui dir hdir (s n) u hu
  rw [hQ, hR]
  unfold div_qr_ui mpn_divrem_1
  simp only [hu, if_false]
  have hnn : siz (s n) ≥ 0 ↔ 0 ≤ s n := siz_nonneg_iff
  by_cases hz : siz (s n) = 0
  · have h0 : s n = 0 := siz_eq_zero.mp hz
    simp [h0, uiAdjust]
    intro _; exact Store.set_comm s hqr 0 0
  · simp only [hz, if_false, siz_natAbs]
    by_cases hrl : (s n).natAbs % u = 0
    · have hadj : ¬ uiAdjust dir 0 (siz (s n)) := fun h => h.1 rfl
      simp [hrl, hadj, hnn]
    · simp only [hrl, if_false]
      by_cases hadj : uiAdjust dir ((s n).natAbs % u) (siz (s n))
      · simp only [hadj, if_true, ui_incr_fits hu hrl, if_false, uiRem_natAbs, hnn]
      · simp only [hadj, if_false, hnn, uiRem_natAbs]

theorem div_ui_eq_snd (dir : Int) (x : Int) (u : Nat) :
    div_ui dir x u = (div_r_ui dir (fun _ => x) 0 0 u).map Prod.snd := by
  unfold div_ui div_r_ui
  dsimp only
  split_ifs <;> rfl

theorem div_ui_eq (dir : Int) (hdir : dir = 0 ∨ dir = -1 ∨ dir = 1) (x : Int) (u : Nat) (hu : u ≠ 0) :
    div_ui dir x u = .ok (specR dir x u).natAbs := by
  rw [div_ui_eq_snd, div_r_ui_eq dir hdir _ 0 0 u hu]; rfl

theorem div_ui_div0 (dir : Int) (s : Store) (q r n : Nat) (x : Int) :
    div_q_ui dir s q n 0 = .error "div0" ∧ div_r_ui dir s r n 0 = .error "div0" ∧
    div_qr_ui dir s q r n 0 = .error "div0" ∧ div_ui dir x 0 = .error "div0" := by
  simp [div_q_ui, div_r_ui, div_qr_ui, div_ui]

/-! ### what the specifications say: the defining pair of each rounding -/

theorem tmod_facts (n d : Int) (hd : d ≠ 0) :
    (Int.tmod n d).natAbs < d.natAbs ∧ (Int.tmod n d = 0 ∨ (Int.tmod n d < 0 ↔ n < 0)) ∧
    n = Int.tdiv n d * d + Int.tmod n d := by
  refine ⟨?_, ?_, ?_⟩
  · rw [Int.natAbs_tmod]; exact Nat.mod_lt _ (by omega)
  · by_cases h : Int.tmod n d = 0
    · exact Or.inl h
    · exact Or.inr (tmod_lt_zero_iff h)
  · have := Int.tdiv_mul_add_tmod n d; omega

theorem tdiv_pair (n d : Int) (hd : d ≠ 0) :
    n = tdivQ n d * d + tdivR n d ∧ (tdivR n d).natAbs < d.natAbs ∧ (tdivR n d = 0 ∨ (tdivR n d < 0 ↔ n < 0)) ∧
    (tdivQ n d).natAbs = n.natAbs / d.natAbs := by
  obtain ⟨h1, h2, h3⟩ := tmod_facts n d hd
  exact ⟨h3, h1, h2, by unfold tdivQ; rw [Int.natAbs_tdiv]; rfl⟩

theorem fdiv_pair (n d : Int) (hd : d ≠ 0) :
    n = fdivQ n d * d + fdivR n d ∧ (fdivR n d).natAbs < d.natAbs ∧ (fdivR n d = 0 ∨ (fdivR n d < 0 ↔ d < 0)) := by
  obtain ⟨h1, h2, h3⟩ := tmod_facts n d hd
  have e := Int.fdiv_mul_add_fmod n d
  unfold fdivQ fdivR
  refine ⟨by omega, ?_, ?_⟩ <;> rw [fmod_from_tmod hd] <;> split_ifs <;> omega

theorem cdiv_pair (n d : Int) (hd : d ≠ 0) :
    n = cdivQ n d * d + cdivR n d ∧ (cdivR n d).natAbs < d.natAbs ∧ (cdivR n d = 0 ∨ (cdivR n d < 0 ↔ 0 < d)) := by
  obtain ⟨h1, h2, h3⟩ := tmod_facts n d hd
  refine ⟨by unfold cdivR; omega, ?_, ?_⟩ <;> rw [cdivR_from_tmod hd] <;> split_ifs <;> omega

theorem fdiv_floor (n d : Int) (hd : d ≠ 0) :
    (0 < d → fdivQ n d * d ≤ n ∧ n < (fdivQ n d + 1) * d) ∧ (d < 0 → (fdivQ n d + 1) * d < n ∧ n ≤ fdivQ n d * d) := by
  obtain ⟨h1, h2, h3⟩ := fdiv_pair n d hd
  have e : (fdivQ n d + 1) * d = fdivQ n d * d + d := by ring
  constructor <;> intro hdd <;> rw [e] <;> omega

theorem cdiv_ceil (n d : Int) (hd : d ≠ 0) :
    (0 < d → (cdivQ n d - 1) * d < n ∧ n ≤ cdivQ n d * d) ∧ (d < 0 → cdivQ n d * d ≤ n ∧ n < (cdivQ n d - 1) * d) := by
  obtain ⟨h1, h2, h3⟩ := cdiv_pair n d hd
  have e : (cdivQ n d - 1) * d = cdivQ n d * d - d := by ring
  constructor <;> intro hdd <;> rw [e] <;> omega

theorem mod_range (n d : Int) (hd : d ≠ 0) : 0 ≤ modS n d ∧ modS n d < |d| ∧ d ∣ n - modS n d := by
  unfold modS
  exact ⟨Int.emod_nonneg _ hd, Int.emod_lt_abs _ hd, Int.dvd_self_sub_emod⟩

/-! ### the `_2exp` functions (tdiv_q_2exp.c, tdiv_r_2exp.c, cfdiv_q_2exp.c, cfdiv_r_2exp.c) -/

/-- the limb offset, then mpn_rshift unless the bit count is a multiple of 64 (tdiv_q_2exp.c, cfdiv_q_2exp.c:66-72) -/
theorem rshift_split (a cnt : Nat) :
    (if cnt % 64 ≠ 0 then a / B ^ (cnt / 64) / 2 ^ (cnt % 64) else a / B ^ (cnt / 64)) = a / 2 ^ cnt := by
  rw [div_two_pow_split a cnt]
  split_ifs with hc
  · rfl
  · rw [Decidable.not_not.mp hc, pow_zero, Nat.div_one]

theorem lt_two_pow_of_size {a cnt : Nat} (h : sizeNat a ≤ cnt / 64) : a < 2 ^ cnt := by
  have h1 := (sizeNat_le_iff a _).mp h
  have h2 : B ^ (cnt / 64) ≤ B ^ (cnt / 64) * 2 ^ (cnt % 64) := Nat.le_mul_of_pos_right _ (Nat.pow_pos (by decide))
  rw [← two_pow_split] at h2; omega

theorem two_pow_dvd_Bsucc (cnt : Nat) : 2 ^ cnt ∣ B ^ (cnt / 64 + 1) := by
  rw [B_pow]; exact Nat.pow_dvd_pow 2 (by omega)

theorem mod_Bsucc_mod (a cnt : Nat) : (a % B ^ (cnt / 64 + 1)) % (B ^ (cnt / 64) * 2 ^ (cnt % 64)) = a % 2 ^ cnt := by
  rw [← two_pow_split]; exact Nat.mod_mod_of_dvd a (two_pow_dvd_Bsucc cnt)

theorem limb_mod (h cnt : Nat) : (h % B) % 2 ^ (cnt % 64) = h % 2 ^ (cnt % 64) := by
  apply Nat.mod_mod_of_dvd
  unfold B; exact Nat.pow_dvd_pow 2 (by omega)

theorem low_bits_ne_zero_iff (a cnt : Nat) :
    (a % B ^ (cnt / 64) ≠ 0 ∨ a / B ^ (cnt / 64) % 2 ^ (cnt % 64) ≠ 0) ↔ a % 2 ^ cnt ≠ 0 := by
  rw [mod_two_pow_split a cnt]
  have hp := Bpow_pos (cnt / 64)
  generalize a % B ^ (cnt / 64) = p
  generalize a / B ^ (cnt / 64) % 2 ^ (cnt % 64) = q
  generalize B ^ (cnt / 64) = b at *
  simp only [ne_eq, Nat.add_eq_zero_iff, Nat.mul_eq_zero]
  constructor
  · rintro (h | h) ⟨h1, h2 | h2⟩ <;> omega
  · intro h; by_cases h1 : p = 0
    · right; intro h2; exact h ⟨h1, Or.inr h2⟩
    · exact Or.inl h1

theorem neg_mod_pow {a cnt : Nat} (h : a % 2 ^ cnt ≠ 0) :
    a % B ^ (cnt / 64 + 1) ≠ 0 ∧
    (B ^ (cnt / 64 + 1) - a % B ^ (cnt / 64 + 1)) % (B ^ (cnt / 64) * 2 ^ (cnt % 64)) = 2 ^ cnt - a % 2 ^ cnt := by
  rw [← two_pow_split]
  obtain ⟨k, hk⟩ := two_pow_dvd_Bsucc cnt
  have hMpos := Bpow_pos (cnt / 64 + 1)
  generalize B ^ (cnt / 64 + 1) = M at *
  generalize hm : 2 ^ cnt = m at *
  have hmpos : 0 < m := by rw [← hm]; exact Nat.pow_pos (by decide)
  subst hk
  have ht : (a % (m * k)) % m = a % m := Nat.mod_mod_of_dvd a (Dvd.intro k rfl)
  generalize hr : a % (m * k) = r at *
  generalize a % m = t at *
  have hkpos : 0 < k := by
    rcases Nat.eq_zero_or_pos k with h0 | h0
    · subst h0; simp at hMpos
    · exact h0
  have hrlt : r < m * k := by rw [← hr]; exact Nat.mod_lt _ (Nat.mul_pos hmpos hkpos)
  refine ⟨by intro h0; rw [h0, Nat.zero_mod] at ht; omega, ?_⟩
  have hdm := Nat.div_add_mod r m
  have hj : r / m < k := (Nat.div_lt_iff_lt_mul hmpos).mpr (by rw [Nat.mul_comm]; exact hrlt)
  obtain ⟨e, he⟩ := Nat.exists_eq_add_of_lt hj
  have hlt : r % m < m := Nat.mod_lt _ hmpos
  have : m * k - r = m * e + (m - r % m) := by
    subst he
    have : m * (r / m + e + 1) = m * (r / m) + m * e + m := by ring
    omega
  rw [this, Nat.mul_add_mod, ht, Nat.mod_eq_of_lt (by omega)]

theorem tdiv_natCast (x : Int) (u : Nat) :
    Int.tdiv x u = if 0 ≤ x then ((x.natAbs / u : Nat) : Int) else -((x.natAbs / u : Nat) : Int) := by
  have hq := tdiv_sign_mag x u
  have hy0 : ¬ ((u : Int) < 0) := by omega
  simp only [Int.natAbs_natCast, hy0, iff_false, not_lt] at hq
  exact hq

theorem tmod_natCast (x : Int) (u : Nat) :
    Int.tmod x u = if 0 ≤ x then ((x.natAbs % u : Nat) : Int) else -((x.natAbs % u : Nat) : Int) := by
  have hr := tmod_sign_mag x u
  simp only [Int.natAbs_natCast] at hr
  exact hr

theorem wsize_le_iff (x : Int) (cnt : Nat) :
    ((siz x).natAbs : Int) - ((cnt / 64 : Nat) : Int) ≤ 0 ↔ sizeNat x.natAbs ≤ cnt / 64 := by
  rw [siz_natAbs]; omega

theorem tdiv_q_2exp_eq (s : Store) (w u cnt : Nat) :
    tdiv_q_2exp s w u cnt = s.set w (Int.tdiv (s u) ((2 ^ cnt : Nat) : Int)) := by
  unfold tdiv_q_2exp
  simp only [wsize_le_iff, tdiv_natCast, ge_iff_le, siz_nonneg_iff]
  split
  · rename_i h
    rw [Nat.div_eq_of_lt (lt_two_pow_of_size h)]; simp
  · rw [rshift_split]

theorem tdiv_r_2exp_eq (s : Store) (w u cnt : Nat) :
    tdiv_r_2exp s w u cnt = s.set w (Int.tmod (s u) ((2 ^ cnt : Nat) : Int)) := by
  unfold tdiv_r_2exp
  simp only [tmod_natCast, ge_iff_le, siz_nonneg_iff, siz_natAbs, limb_mod]
  congr 1
  have e : (if sizeNat (s u).natAbs > cnt / 64 then
        (if (s u).natAbs / B ^ (cnt / 64) % 2 ^ (cnt % 64) ≠ 0 then
          (s u).natAbs / B ^ (cnt / 64) % 2 ^ (cnt % 64) * B ^ (cnt / 64) + (s u).natAbs % B ^ (cnt / 64)
        else (s u).natAbs % B ^ (cnt / 64))
      else (s u).natAbs) = (s u).natAbs % 2 ^ cnt := by
    split_ifs with h1 h2
    · rw [mod_two_pow_split (s u).natAbs cnt]; ring
    · rw [mod_two_pow_split (s u).natAbs cnt]; simp only [ne_eq, not_not] at h2; rw [h2]; simp
    · rw [Nat.mod_eq_of_lt (lt_two_pow_of_size (by omega))]
  rw [e]

theorem cfdiv_q_2exp_eq (dir : Int) (hdir : dir = -1 ∨ dir = 1) (s : Store) (w u cnt : Nat) :
    cfdiv_q_2exp s w u cnt dir = s.set w (specQ dir (s u) ((2 ^ cnt : Nat) : Int)) := by
  have hpos : (2 ^ cnt : Nat) ≠ 0 := (Nat.pow_pos (by decide)).ne'
  obtain ⟨hQ, _⟩ := spec_ui dir (Or.inr hdir) (s u) (2 ^ cnt) hpos
  rw [hQ]
  unfold cfdiv_q_2exp
  simp only [wsize_le_iff]
  have hz : siz (s u) = 0 ↔ s u = 0 := siz_eq_zero
  have hn : siz (s u) < 0 ↔ s u < 0 := siz_neg_iff
  have ha : (s u).natAbs = 0 ↔ s u = 0 := Int.natAbs_eq_zero
  by_cases h : sizeNat (s u).natAbs ≤ cnt / 64
  · rw [if_pos h]
    have hlt := lt_two_pow_of_size h
    rw [Nat.div_eq_of_lt hlt, Nat.mod_eq_of_lt hlt]
    congr 1
    unfold uiAdjust
    simp only [sameSign_dir _ _ hdir]
    generalize siz (s u) = sz at *
    generalize (s u).natAbs = a at *
    clear hQ
    have hsz : sz = 0 ↔ a = 0 := hz.trans ha.symm
    have hsz2 : 0 ≤ s u ↔ sz ≥ 0 := by omega
    simp only [hsz, hsz2]
    clear hz ha hn hsz hsz2
    rcases hdir with rfl | rfl <;> by_cases hx : sz ≥ 0 <;> by_cases h0 : a = 0 <;>
      simp [hx, h0]
  · rw [if_neg h]
    have er : (if cnt % 64 ≠ 0 then
          (decide (sameSign (siz (s u)) dir) && decide ((s u).natAbs % B ^ (cnt / 64) ≠ 0) ||
            decide (sameSign (siz (s u)) dir) && decide ((s u).natAbs / B ^ (cnt / 64) % 2 ^ (cnt % 64) ≠ 0))
        else (decide (sameSign (siz (s u)) dir) && decide ((s u).natAbs % B ^ (cnt / 64) ≠ 0))) =
        decide (uiAdjust dir ((s u).natAbs % 2 ^ cnt) (siz (s u))) := by
      have h1 := low_bits_ne_zero_iff (s u).natAbs cnt
      have h2 := sameSign_dir (siz (s u)) dir hdir
      rw [Bool.eq_iff_iff, decide_eq_true_eq]
      unfold uiAdjust
      by_cases hc : cnt % 64 = 0
      · simp only [hc, ne_eq, not_true_eq_false, if_false, pow_zero, Nat.mod_one, or_false, Bool.and_eq_true,
          decide_eq_true_eq] at h1 ⊢
        rw [← h1, ← h2]; exact and_comm
      · simp only [hc, ne_eq, not_false_eq_true, if_true, Bool.or_eq_true, Bool.and_eq_true, decide_eq_true_eq] at h1 ⊢
        rw [← h1, ← h2]
        constructor
        · rintro (⟨hp, hx⟩ | ⟨hp, hy⟩)
          · exact ⟨Or.inl hx, hp⟩
          · exact ⟨Or.inr hy, hp⟩
        · rintro ⟨hx | hy, hp⟩
          · exact Or.inl ⟨hp, hx⟩
          · exact Or.inr ⟨hp, hy⟩
    rw [rshift_split, er]
    congr 1
    by_cases hadj : uiAdjust dir ((s u).natAbs % 2 ^ cnt) (siz (s u))
    · simp only [hadj, decide_true, if_true, ge_iff_le, siz_nonneg_iff]
      have : (if (s u).natAbs / 2 ^ cnt ≠ 0 then (s u).natAbs / 2 ^ cnt + 1 else 1) = (s u).natAbs / 2 ^ cnt + 1 := by
        split_ifs with h0
        · rfl
        · simp only [ne_eq, not_not] at h0; rw [h0]
      rw [this]
    · simp only [hadj, decide_false, if_false, ge_iff_le, siz_nonneg_iff, Bool.false_eq_true]


theorem negate_iff (a cnt : Nat) (ha : a ≠ 0) :
    (decide (sizeNat a ≤ cnt / 64) || decide (a % B ^ (cnt / 64) ≠ 0) ||
      decide ((a / B ^ (cnt / 64) % B) % 2 ^ (cnt % 64) ≠ 0)) = true ↔ a % 2 ^ cnt ≠ 0 := by
  simp only [Bool.or_eq_true, decide_eq_true_eq, limb_mod]
  rw [← low_bits_ne_zero_iff a cnt]
  constructor
  · rintro ((h | h) | h)
    · left; rw [Nat.mod_eq_of_lt ((sizeNat_le_iff a _).mp h)]; exact ha
    · exact Or.inl h
    · exact Or.inr h
  · rintro (h | h)
    · exact Or.inl (Or.inr h)
    · exact Or.inr h

theorem sub_one_add_one {M r : Nat} (h : r < M) (h0 : r ≠ 0) : M - 1 - r + 1 = M - r ∧ ¬ (M - r ≥ M) := by omega

theorem cfdiv_r_2exp_eq (dir : Int) (hdir : dir = -1 ∨ dir = 1) (s : Store) (w u cnt : Nat) :
    cfdiv_r_2exp s w u cnt dir = .ok (s.set w (specR dir (s u) ((2 ^ cnt : Nat) : Int))) := by
  have hpos : (2 ^ cnt : Nat) ≠ 0 := (Nat.pow_pos (by decide)).ne'
  obtain ⟨_, hR⟩ := spec_ui dir (Or.inr hdir) (s u) (2 ^ cnt) hpos
  rw [hR]
  unfold cfdiv_r_2exp
  dsimp only
  have hzz : siz (s u) = 0 ↔ s u = 0 := siz_eq_zero
  have hn : siz (s u) < 0 ↔ s u < 0 := siz_neg_iff
  have ha0 : (s u).natAbs = 0 ↔ s u = 0 := Int.natAbs_eq_zero
  have hsd := sameSign_dir (siz (s u)) dir hdir
  by_cases hz : siz (s u) = 0
  · have h0 : s u = 0 := hzz.mp hz
    simp only [hz, if_true]
    simp [h0]
  · have hx : s u ≠ 0 := fun h => hz (hzz.mpr h)
    have ha : (s u).natAbs ≠ 0 := fun h => hx (ha0.mp h)
    simp only [hz, if_false, siz_natAbs]
    by_cases hs : sameSign (siz (s u)) dir
    · have hadj : ∀ m, m ≠ 0 → uiAdjust dir m (siz (s u)) := fun m hm => ⟨hm, hsd.mp hs⟩
      simp only [hs, not_true_eq_false, if_false]
      by_cases hm : (s u).natAbs % 2 ^ cnt = 0
      · have hneg : ¬ ((decide (sizeNat (s u).natAbs ≤ cnt / 64) || decide ((s u).natAbs % B ^ (cnt / 64) ≠ 0) ||
            decide (((s u).natAbs / B ^ (cnt / 64) % B) % 2 ^ (cnt % 64) ≠ 0)) = true) := by
          rw [negate_iff _ _ ha]; simpa using hm
        simp only [hneg, Bool.false_eq_true, not_false_eq_true, if_true, hm]
      · have hneg : (decide (sizeNat (s u).natAbs ≤ cnt / 64) || decide ((s u).natAbs % B ^ (cnt / 64) ≠ 0) ||
            decide (((s u).natAbs / B ^ (cnt / 64) % B) % 2 ^ (cnt % 64) ≠ 0)) = true := (negate_iff _ _ ha).mpr hm
        obtain ⟨hr0, hval⟩ := neg_mod_pow hm
        have hrlt : (s u).natAbs % B ^ (cnt / 64 + 1) < B ^ (cnt / 64 + 1) := Nat.mod_lt _ (Bpow_pos _)
        obtain ⟨e1, e2⟩ := sub_one_add_one hrlt hr0
        simp only [hneg, not_true_eq_false, if_false, e1, e2, hval, hm, hadj _ hm, if_true]
        congr 2
        rw [uiRem_sign dir hdir _ hz, if_pos hs]
    · have hnadj : ∀ m, ¬ uiAdjust dir m (siz (s u)) := fun m h => hs (hsd.mpr h.2)
      simp only [hs, not_false_eq_true, if_true, hnadj, if_false]
      by_cases hsz : sizeNat (s u).natAbs ≤ cnt / 64
      · have hlt := lt_two_pow_of_size hsz
        simp only [hsz, if_true, Nat.mod_eq_of_lt hlt, ha, if_false]
        congr 1
        have hv : s u = uiRem dir (siz (s u)) (s u).natAbs := by
          rw [uiRem_sign dir hdir _ hz, if_neg hs]
          have := @siz_nonneg_iff (s u)
          split <;> omega
        rw [← hv]
        by_cases hwu : w = u
        · subst hwu; simp only [if_true]; funext j; simp only [Store.set_apply]; split_ifs with h <;> simp [h]
        · simp only [hwu, if_false]
      · simp only [hsz, if_false, mod_Bsucc_mod]
        congr 2
        rw [uiRem_sign dir hdir _ hz, if_neg hs]
        split_ifs <;> omega

/-! ### mpz_divisible_p, _ui_p, _2exp_p (divis.c, divis_ui.c, divis_2exp.c) -/

theorem ctz_isCtz : IsCtz (fun _ => True) ctz :=
  isCtz_of_halving_eq ctz fun x hx => by rw [ctz, dif_neg (by omega)]

theorem ctz_spec (d : Nat) (hd : d ≠ 0) : 2 ^ ctz d ∣ d ∧ (d / 2 ^ ctz d) % 2 = 1 := ctz_isCtz d (Nat.pos_of_ne_zero hd) trivial

theorem ctz_lt {d : Nat} (hd : d ≠ 0) (hdB : d < B) : ctz d < 64 := ctz_isCtz.lt_of_lt_pow (Nat.pos_of_ne_zero hd) trivial hdB

theorem two_pow_ctz_dvd_B {d : Nat} (hd : d ≠ 0) (hdB : d < B) : 2 ^ ctz d ∣ B :=
  Nat.pow_dvd_pow 2 (Nat.le_of_lt (ctz_lt hd hdB))

theorem int_coprime_mul_dvd {p q : Nat} (hc : Nat.Coprime p q) {x : Int} (hp : (p : Int) ∣ x) (hq : (q : Int) ∣ x) :
    ((p * q : Nat) : Int) ∣ x := by
  rw [Int.natCast_dvd] at *
  exact Nat.Coprime.mul_dvd_of_dvd_of_dvd hc hp hq

theorem odd_part_dvd_iff {d : Nat} (hd : d ≠ 0) {x : Int} (hp : ((2 ^ ctz d : Nat) : Int) ∣ x) :
    ((d / 2 ^ ctz d : Nat) : Int) ∣ x ↔ (d : Int) ∣ x := by
  obtain ⟨c1, c2⟩ := ctz_spec d hd
  have hcop := coprime_two_pow_odd (ctz d) _ c2
  have e : d = 2 ^ ctz d * (d / 2 ^ ctz d) := (Nat.mul_div_cancel' c1).symm
  constructor
  · intro h; rw [e]; exact int_coprime_mul_dvd hcop hp h
  · intro h; exact Int.dvd_trans (Int.natCast_dvd_natCast.mpr (Nat.div_dvd_of_dvd c1)) h

theorem mod_eq_zero_beq (a d : Nat) : (a % d == 0) = true ↔ d ∣ a := by
  rw [beq_iff_eq, Nat.dvd_iff_mod_eq_zero]

theorem mpn_divisible_p_iff (a d : Nat) : mpn_divisible_p a d = true ↔ d ∣ a := mod_eq_zero_beq a d

theorem lowZerosMod_of_ne_zero {d : Nat} (hd : d ≠ 0) : lowZerosMod d = 2 ^ ctz d := by
  unfold lowZerosMod; simp [hd]

theorem divisible_p_iff' (a d : Int) : divisible_p a d = true ↔ d ∣ a := by
  unfold divisible_p
  simp only [siz_eq_zero]
  by_cases hd : d = 0
  · subst hd; simp
  · simp only [hd, if_false, mpn_divisible_p_iff, Int.natAbs_dvd_natAbs]

theorem divisible_ui_p_iff' (thr : Nat) (a : Int) (d : Nat) (hdB : d < B) :
    divisible_ui_p thr a d = true ↔ (d : Int) ∣ a := by
  unfold divisible_ui_p mpn_mod_1
  simp only [siz_eq_zero]
  have hcast : ∀ k : Nat, (k : Int) ∣ a ↔ k ∣ a.natAbs := fun k => by
    rw [← Int.natAbs_dvd_natAbs]; simp
  by_cases hd : d = 0
  · subst hd; simp
  · simp only [hd, if_false]
    by_cases ha : a = 0
    · subst ha; simp
    · simp only [ha, if_false, hcast]
      split
      · exact mod_eq_zero_beq _ _
      · split
        · have c1 := (ctz_spec d hd).1
          have hlz : lowZerosMod d = 2 ^ ctz d := lowZerosMod_of_ne_zero hd
          rw [hlz, Nat.mod_mod_of_dvd _ (two_pow_ctz_dvd_B hd hdB)]
          split
          · rename_i hne
            constructor
            · intro h; exact absurd h (by simp)
            · intro h; exact absurd (Nat.dvd_iff_mod_eq_zero.mp (Nat.dvd_trans c1 h)) hne
          · rename_i hne
            simp only [ne_eq, not_not] at hne
            rw [mod_eq_zero_beq, ← Int.natCast_dvd_natCast, ← Int.natCast_dvd_natCast]
            exact odd_part_dvd_iff hd (Int.natCast_dvd_natCast.mpr (Nat.dvd_of_mod_eq_zero hne))
        · exact mod_eq_zero_beq _ _

theorem divisible_2exp_p_iff' (a : Int) (d : Nat) :
    divisible_2exp_p a d = true ↔ ((2 ^ d : Nat) : Int) ∣ a := by
  have hcast : ((2 ^ d : Nat) : Int) ∣ a ↔ 2 ^ d ∣ a.natAbs := by
    rw [← Int.natAbs_dvd_natAbs]; simp
  rw [hcast, Nat.dvd_iff_mod_eq_zero]
  unfold divisible_2exp_p
  simp only [siz_natAbs, limb_mod]
  split
  · rename_i h
    have hlt := lt_two_pow_of_size h
    rw [Nat.mod_eq_of_lt hlt]; simp [sizeNat_eq_zero]
  · have hl := low_bits_ne_zero_iff a.natAbs d
    split
    · rename_i h1
      constructor
      · intro h; exact absurd h (by simp)
      · intro h; exact absurd h (hl.mp (Or.inl h1))
    · rename_i h1
      simp only [ne_eq, not_not] at h1
      simp only [decide_eq_true_eq]
      constructor
      · intro h; by_contra hne; rcases hl.mpr hne with h2 | h2
        · exact h2 h1
        · exact h2 h
      · intro h; by_contra hne; exact (hl.mp (Or.inr hne)) h

/-! ### mpz_divexact, mpz_divexact_ui (divexact.c, dive_ui.c) -/

/-- mpz_divexact is mpz_tdiv_q when the divisor is not zero (mpn_divexact is specified as the quotient) -/
theorem divexact_eq_tdiv_q (s : Store) (q n d : Nat) (hd : s d ≠ 0) : divexact s q n d = tdiv_q s q n d := by
  have hdl := siz_natAbs_ne_zero hd
  unfold divexact tdiv_q mpn_divexact mpn_tdiv_q
  simp only [hdl, if_false]
  have e : ((siz (s n)).natAbs < (siz (s d)).natAbs) ↔
      (((siz (s n)).natAbs : Int) - ((siz (s d)).natAbs : Int) + 1 ≤ 0) := by omega
  simp only [e]

theorem divexact_eq (s : Store) (q n d : Nat) (hd : s d ≠ 0) :
    divexact s q n d = .ok (s.set q (Int.tdiv (s n) (s d))) := by
  rw [divexact_eq_tdiv_q _ _ _ _ hd]; exact tdiv_q_eq s q n d hd

theorem divexact_ui_eq (s : Store) (q n : Nat) (u : Nat) (hu : u ≠ 0) :
    divexact_ui s q n u = .ok (s.set q (Int.tdiv (s n) u)) := by
  unfold divexact_ui mpn_divexact
  simp only [hu, if_false, siz_eq_zero]
  split
  · rename_i h; rw [h]; simp
  · simp only [tdiv_natCast, ge_iff_le, siz_nonneg_iff]

/-! ### mpz_congruent_p, _ui_p (cong.c, cong_ui.c): `NEG_MOD`, the low-bits rejection, the `cong_1` block -/

theorem negMod_spec (a d : Nat) (hd : d ≠ 0) (ha : a < B) (hdB : d < B) : d ∣ negMod a d + a ∧ negMod a d < B := by
  unfold negMod
  split
  · rename_i h
    constructor
    · have : d - a + a = d := by omega
      rw [this]
    · omega
  · rename_i h
    -- dnorm = d * 2^(63 - log2 d) is in [2^63, 2^64)
    obtain ⟨_, hn2, hn1⟩ := DivWord.clz_spec d hd hdB
    unfold DivWord.count_leading_zeros at hn1 hn2
    have hB : B = 2 * (B / 2) := by unfold B; decide
    dsimp only
    generalize hk : 2 ^ (63 - d.log2) = k at *
    rw [Nat.mod_eq_of_lt hn1]
    have hdvd : d ∣ d * k := Dvd.intro _ rfl
    generalize hn : d * k = dn at *
    split
    · rename_i h3
      have : (dn + B - a) % B = dn - a := by
        have : dn + B - a = (dn - a) + B := by omega
        rw [this, Nat.add_mod_right, Nat.mod_eq_of_lt (by omega)]
      rw [this]
      constructor
      · have : dn - a + a = dn := by omega
        rw [this]; exact hdvd
      · omega
    · rename_i h3
      have h4 : (2 * dn) % B = 2 * dn - B := by
        have : 2 * dn = (2 * dn - B) + B := by omega
        rw [this, Nat.add_mod_right, Nat.mod_eq_of_lt (by omega)]; omega
      rw [h4]
      have : (2 * dn - B + B - a) % B = 2 * dn - a := by
        have : 2 * dn - B + B - a = 2 * dn - a := by omega
        rw [this, Nat.mod_eq_of_lt (by omega)]
      rw [this]
      constructor
      · have : 2 * dn - a + a = 2 * dn := by omega
        rw [this]; exact Dvd.dvd.mul_left hdvd 2
      · omega

theorem dvd_sub_iff_mag (a c m : Int) :
    m ∣ a - c ↔ m ∣ (a.natAbs : Int) - (if (a < 0 ↔ c < 0) then (c.natAbs : Int) else -(c.natAbs : Int)) := by
  split
  · rename_i h
    by_cases ha : a < 0
    · have hc : c < 0 := h.mp ha
      have : (a.natAbs : Int) - c.natAbs = -(a - c) := by omega
      rw [this, Int.dvd_neg]
    · have hc : ¬ c < 0 := fun hc => ha (h.mpr hc)
      have : (a.natAbs : Int) - c.natAbs = a - c := by omega
      rw [this]
  · rename_i h
    by_cases ha : a < 0
    · have hc : ¬ c < 0 := fun hc => h ⟨fun _ => hc, fun _ => ha⟩
      have : (a.natAbs : Int) - -(c.natAbs : Int) = -(a - c) := by omega
      rw [this, Int.dvd_neg]
    · have hc : c < 0 := by
        by_contra hc; exact h ⟨fun h1 => absurd h1 ha, fun h1 => absurd h1 hc⟩
      have : (a.natAbs : Int) - -(c.natAbs : Int) = a - c := by omega
      rw [this]

def sgnC (same : Prop) [Decidable same] (C : Nat) : Int := if same then (C : Int) else -(C : Int)

theorem nat_mod_eq_zero_iff_int_dvd (x m : Nat) : x % m = 0 ↔ (m : Int) ∣ (x : Int) := by
  rw [Int.natCast_dvd_natCast, Nat.dvd_iff_mod_eq_zero]

theorem B_dvd_negLow (A : Nat) : (B : Int) ∣ (((B - A % B) % B : Nat) : Int) + (A : Int) := by
  have hB := B_pos
  have hr : A % B < B := Nat.mod_lt _ hB
  have hd : (B : Int) ∣ (A : Int) - ((A % B : Nat) : Int) := by
    rw [Int.natCast_emod]; exact Int.dvd_self_sub_emod
  by_cases h0 : A % B = 0
  · rw [h0] at hd ⊢; simp at hd ⊢; exact hd
  · rw [Nat.mod_eq_of_lt (by omega)]
    have : (((B - A % B : Nat)) : Int) + (A : Int) = (B : Int) + ((A : Int) - ((A % B : Nat) : Int)) := by omega
    rw [this]; exact Int.dvd_add (Int.dvd_refl _) hd

/-- the low-bits quick rejection of cong.c:91-94 and cong_ui.c:98 -/
theorem quick_iff (same : Prop) [Decidable same] (A C m : Nat) (hmB : m ∣ B) :
    (((if same then A % B else (B - A % B) % B) + B - C % B) % B) % m = 0 ↔ (m : Int) ∣ (A : Int) - sgnC same C := by
  have hB := B_pos
  have hc : C % B < B := Nat.mod_lt _ hB
  rw [Nat.mod_mod_of_dvd _ hmB, nat_mod_eq_zero_iff_int_dvd]
  have hmB' : (m : Int) ∣ (B : Int) := Int.natCast_dvd_natCast.mpr hmB
  have hC : (B : Int) ∣ (C : Int) - ((C % B : Nat) : Int) := by rw [Int.natCast_emod]; exact Int.dvd_self_sub_emod
  have hA : (B : Int) ∣ (A : Int) - ((A % B : Nat) : Int) := by rw [Int.natCast_emod]; exact Int.dvd_self_sub_emod
  unfold sgnC
  by_cases hs : same
  · simp only [hs, if_true]
    apply Int.dvd_iff_dvd_of_dvd_sub
    have : ((A % B + B - C % B : Nat) : Int) - ((A : Int) - (C : Int)) =
        (B : Int) - ((A : Int) - ((A % B : Nat) : Int)) + ((C : Int) - ((C % B : Nat) : Int)) := by omega
    rw [this]
    exact Int.dvd_trans hmB' (Int.dvd_add (Int.dvd_sub (Int.dvd_refl _) hA) hC)
  · simp only [hs, if_false]
    have hN := B_dvd_negLow A
    rw [← Int.dvd_neg (b := (A : Int) - -(C : Int))]
    apply Int.dvd_iff_dvd_of_dvd_sub
    have : (((B - A % B) % B + B - C % B : Nat) : Int) - -((A : Int) - -(C : Int)) =
        ((((B - A % B) % B : Nat) : Int) + (A : Int)) + (B : Int) + ((C : Int) - ((C % B : Nat) : Int)) := by omega
    rw [this]
    exact Int.dvd_trans hmB' (Int.dvd_add (Int.dvd_add hN (Int.dvd_refl _)) hC)

/-- |a - c| as computed by cong.c:151-168 -/
theorem general_iff (same : Prop) [Decidable same] (A C D : Nat) :
    mpn_divisible_p (if same then (if A ≥ C then A - C else C - A) else A + C) D = true ↔
      (D : Int) ∣ (A : Int) - sgnC same C := by
  unfold sgnC
  rw [mpn_divisible_p_iff, ← Int.natCast_dvd_natCast]
  by_cases hs : same
  · simp only [hs, if_true]
    split
    · have : ((A - C : Nat) : Int) = (A : Int) - C := by omega
      rw [this]
    · have : ((C - A : Nat) : Int) = -((A : Int) - C) := by omega
      rw [this, Int.dvd_neg]
  · simp only [hs, if_false]
    have : ((A + C : Nat) : Int) = (A : Int) - -(C : Int) := by omega
    rw [this]

/-- the `cong_1` block of cong.c:100-125 (and the tail of cong_ui.c), as it appears inside the models -/
def cong1 (same : Prop) [Decidable same] (thr asize A : Nat) (dlow clow : Nat) : Bool :=
  let clow := if same then clow else negMod clow dlow
  if asize < thr then
    let r := mpn_mod_1 A dlow
    if clow < dlow then r == clow else r == clow % dlow
  else
    let dlow := if dlow % 2 = 0 then dlow / 2 ^ ctz dlow else dlow
    modexact_1c_odd_divides A dlow clow

theorem nat_mod_eq_iff (A c D : Nat) : A % D = c % D ↔ (D : Int) ∣ (A : Int) - (c : Int) := by
  rw [Int.dvd_iff_emod_eq_zero, ← Int.emod_eq_emod_iff_emod_sub_eq_zero, ← Int.natCast_emod, ← Int.natCast_emod]
  exact Int.natCast_inj.symm

theorem mod1_cmp_iff (A c D : Nat) :
    (if c < D then mpn_mod_1 A D == c else mpn_mod_1 A D == c % D) = true ↔ (D : Int) ∣ (A : Int) - (c : Int) := by
  unfold mpn_mod_1
  rw [← nat_mod_eq_iff]
  split
  · rename_i h; rw [beq_iff_eq, Nat.mod_eq_of_lt h]
  · rw [beq_iff_eq]

theorem modexact_iff (A D c : Nat) : modexact_1c_odd_divides A D c = true ↔ (D : Int) ∣ (A : Int) - (c : Int) := by
  unfold modexact_1c_odd_divides; rw [beq_iff_eq, ← Int.dvd_iff_emod_eq_zero]

/-- NEG_MOD turns subtracting `c` into adding it: the adjusted `c` is congruent to `±c` modulo `d` -/
theorem negMod_adjust (same : Prop) [Decidable same] (c d : Nat) (hd : d ≠ 0) (hc : c < B) (hdB : d < B) :
    (d : Int) ∣ ((if same then c else negMod c d : Nat) : Int) - sgnC same c := by
  unfold sgnC
  by_cases hs : same
  · simp [hs]
  · simp only [hs, if_false]
    have := (negMod_spec c d hd hc hdB).1
    have h2 : ((negMod c d : Nat) : Int) - -(c : Int) = ((negMod c d + c : Nat) : Int) := by omega
    rw [h2]; exact Int.natCast_dvd_natCast.mpr this

theorem dvd_sub_congr {D2 D1 : Nat} (h2 : D2 ∣ D1) {A c' c : Int} (hF : (D1 : Int) ∣ c' - c) :
    (D2 : Int) ∣ A - c' ↔ (D2 : Int) ∣ A - c := by
  apply Int.dvd_iff_dvd_of_dvd_sub
  have : A - c' - (A - c) = -(c' - c) := by omega
  rw [this, Int.dvd_neg]
  exact Int.dvd_trans (Int.natCast_dvd_natCast.mpr h2) hF

theorem cong1_iff (same : Prop) [Decidable same] (thr asize A D1 cl : Nat) (hD0 : D1 ≠ 0) (hDB : D1 < B) (hcl : cl < B)
    (hq : ((2 ^ ctz D1 : Nat) : Int) ∣ (A : Int) - sgnC same cl) :
    cong1 same thr asize A D1 cl = true ↔ (D1 : Int) ∣ (A : Int) - sgnC same cl := by
  unfold cong1
  have hF := negMod_adjust same cl D1 hD0 hcl hDB
  generalize (if same then cl else negMod cl D1) = cl' at *
  have hswap : ∀ D2 : Nat, D2 ∣ D1 → (((D2 : Int) ∣ (A : Int) - (cl' : Int)) ↔ (D2 : Int) ∣ (A : Int) - sgnC same cl) :=
    fun D2 h2 => dvd_sub_congr h2 hF
  dsimp only
  split
  · rw [mod1_cmp_iff]; exact hswap D1 (Nat.dvd_refl _)
  · rw [modexact_iff]
    split
    · rw [hswap _ (Nat.div_dvd_of_dvd (ctz_spec D1 hD0).1)]
      exact odd_part_dvd_iff hD0 hq
    · exact hswap D1 (Nat.dvd_refl _)

theorem congruent_ui_p_iff' (thr : Nat) (a : Int) (cu du : Nat) (hcB : cu < B) (hdB : du < B) :
    congruent_ui_p thr a cu du = true ↔ (du : Int) ∣ a - (cu : Int) := by
  unfold congruent_ui_p
  by_cases hd : du = 0
  · subst hd
    simp only [if_true, decide_eq_true_eq, Int.natCast_zero, Int.zero_dvd]; omega
  · simp only [hd, if_false, siz_eq_zero]
    by_cases ha : a = 0
    · subst ha
      simp only [if_true, Int.zero_sub, Int.dvd_neg, Int.natCast_dvd_natCast]
      split
      · rename_i h
        rw [decide_eq_true_eq]
        constructor
        · intro h0; rw [h0]; exact Nat.dvd_zero _
        · intro h0; exact Nat.eq_zero_of_dvd_of_lt h0 h
      · rw [decide_eq_true_eq, Nat.dvd_iff_mod_eq_zero]
    · simp only [ha, if_false]
      rw [dvd_sub_iff_mag a cu du]
      have hcn : ¬ ((cu : Int) < 0) := by omega
      simp only [hcn, iff_false, Int.natAbs_natCast]
      change _ ↔ (du : Int) ∣ (a.natAbs : Int) - sgnC (¬ a < 0) cu
      have hsz : siz a < 0 ↔ a < 0 := siz_neg_iff
      have hF : (du : Int) ∣ ((if siz a < 0 then negMod cu du else cu : Nat) : Int) - sgnC (¬ a < 0) cu := by
        have := negMod_adjust (¬ a < 0) cu du hd hcB hdB
        rw [ite_not] at this
        simpa only [hsz] using this
      have hcB' : (if siz a < 0 then negMod cu du else cu) < B := by
        split
        · exact (negMod_spec cu du hd hcB hdB).2
        · exact hcB
      generalize (if siz a < 0 then negMod cu du else cu) = c' at *
      generalize a.natAbs = A at *
      have hswap : ∀ D2 : Nat, D2 ∣ du → (((D2 : Int) ∣ (A : Int) - (c' : Int)) ↔ (D2 : Int) ∣ (A : Int) - sgnC (¬ a < 0) cu) :=
        fun D2 h2 => dvd_sub_congr h2 hF
      split
      · rw [mod1_cmp_iff]; exact hswap du (Nat.dvd_refl _)
      · split
        · -- even divisor: low-bits test, then modexact on the odd part
          have c1 := (ctz_spec du hd).1
          have hlz : lowZerosMod du = 2 ^ ctz du := lowZerosMod_of_ne_zero hd
          rw [hlz]
          have hq := quick_iff True A c' (2 ^ ctz du) (two_pow_ctz_dvd_B hd hdB)
          simp only [if_true, Nat.mod_eq_of_lt hcB', sgnC] at hq
          split
          · rename_i hne
            constructor
            · intro h; exact absurd h (by simp)
            · intro h
              have h1 := (hswap _ c1).mpr (Int.dvd_trans (Int.natCast_dvd_natCast.mpr c1) h)
              exact absurd (hq.mpr h1) hne
          · rename_i hne
            simp only [ne_eq, not_not] at hne
            rw [modexact_iff, ← hswap du (Nat.dvd_refl _)]
            exact odd_part_dvd_iff hd (hq.mp hne)
        · rw [modexact_iff]
          exact hswap du (Nat.dvd_refl _)

theorem lowZerosMod_dvd (D : Nat) (hD : D ≠ 0) : lowZerosMod (D % B) ∣ B ∧ lowZerosMod (D % B) ∣ D := by
  have hB := B_pos
  unfold lowZerosMod
  split
  · rename_i h; exact ⟨Nat.dvd_refl _, Nat.dvd_of_mod_eq_zero h⟩
  · rename_i h
    have hlt : D % B < B := Nat.mod_lt _ hB
    have h1 := two_pow_ctz_dvd_B h hlt
    obtain ⟨c1, _⟩ := ctz_spec (D % B) h
    refine ⟨h1, ?_⟩
    generalize 2 ^ ctz (D % B) = p at *
    rw [← Nat.div_add_mod D B]
    exact Nat.dvd_add (Nat.dvd_trans h1 (Dvd.intro _ rfl)) c1

theorem ctz_odd {n : Nat} (h : n % 2 = 1) : ctz n = 0 := ctz_isCtz.of_odd trivial h

/-- a two-limb divisor whose odd part fits a limb (cong.c:130-144) -/
theorem two_limb_odd_part {D : Nat} (hlow : D % B ≠ 0) (hsec : D / B ≤ 2 ^ ctz (D % B) - 1) :
    ∃ D1, D / 2 ^ ctz (D % B) = D1 ∧ D = 2 ^ ctz (D % B) * D1 ∧ D1 % 2 = 1 ∧ D1 < B ∧ D1 ≠ 0 := by
  have hB := B_pos
  have hlt : D % B < B := Nat.mod_lt _ hB
  obtain ⟨c1, c2⟩ := ctz_spec (D % B) hlow
  have hpB := two_pow_ctz_dvd_B hlow hlt
  have hpos : 0 < 2 ^ ctz (D % B) := Nat.pow_pos (by decide)
  have ht := ctz_lt hlow hlt
  generalize ctz (D % B) = t at *
  have hBsplit : B = 2 ^ t * (2 * 2 ^ (63 - t)) := by
    have hBv : B = 2 ^ 64 := rfl
    rw [hBv, ← Nat.pow_succ', ← Nat.pow_add]; congr 1; omega
  generalize hp : 2 ^ t = p at *
  generalize 2 ^ (63 - t) = e at *
  obtain ⟨o, ho⟩ := c1
  have hoo : D % B / p = o := by rw [ho]; exact Nat.mul_div_cancel_left _ hpos
  rw [hoo] at c2
  have hD : D = p * (D / B * (2 * e) + o) := by
    have := Nat.div_add_mod D B
    calc D = B * (D / B) + D % B := this.symm
      _ = p * (2 * e) * (D / B) + p * o := by rw [← hBsplit, ho]
      _ = p * (D / B * (2 * e) + o) := by ring
  refine ⟨D / B * (2 * e) + o, ?_, hD, ?_, ?_, ?_⟩
  · conv_lhs => rw [hD]
    exact Nat.mul_div_cancel_left _ hpos
  · have : D / B * (2 * e) = 2 * (D / B * e) := by ring
    rw [this]; omega
  · have h1 : D / B * (2 * e) + o < p * (2 * e) := by
      have : o < 2 * e := by
        have : p * o < p * (2 * e) := by rw [← ho, ← hBsplit]; exact hlt
        exact Nat.lt_of_mul_lt_mul_left this
      have h3 : (D / B + 1) * (2 * e) ≤ p * (2 * e) := Nat.mul_le_mul_right _ (by omega)
      have : (D / B + 1) * (2 * e) = D / B * (2 * e) + 2 * e := by ring
      omega
    exact Nat.lt_of_lt_of_eq h1 hBsplit.symm
  · omega

theorem sizeNat_eq_one {v : Nat} : sizeNat v = 1 ↔ v ≠ 0 ∧ v < B := sizeNat_isSize.eq_one

theorem sizeNat_eq_two {v : Nat} (h : sizeNat v = 2) : v / B < B := by
  have := sizeNat_isSize.lt_pow v
  rw [h, pow_two] at this
  exact (Nat.div_lt_iff_lt_mul B_pos).mpr this

/-- body of mpz_congruent_p after the d = 0 test and the operand swap -/
theorem cong_body_iff (thr : Nat) (a c d : Int) (hd : d ≠ 0) :
    (let dsize := (siz d).natAbs
     let dp := d.natAbs
     let sign_nonneg := sameSign (siz a) (siz c)
     let asize := (siz a).natAbs
     let ap := a.natAbs
     if siz c = 0 then mpn_divisible_p ap dp else
     let csize := (siz c).natAbs
     let cp := c.natAbs
     let alow0 := ap % B
     let clow := cp % B
     let dlow := dp % B
     let dmaskMod := lowZerosMod dlow
     let alow := if sign_nonneg then alow0 else (B - alow0) % B
     if ((alow + B - clow) % B) % dmaskMod ≠ 0 then false else
     let cong_1 (dlow clow : Nat) : Bool :=
       let clow := if sign_nonneg then clow else negMod clow dlow
       if asize < thr then
         let r := mpn_mod_1 ap dlow
         if clow < dlow then r == clow else r == clow % dlow
       else
         let dlow := if dlow % 2 = 0 then dlow / 2 ^ ctz dlow else dlow
         modexact_1c_odd_divides ap dlow clow
     let general : Bool :=
       let x := if sign_nonneg then (if ap ≥ cp then ap - cp else cp - ap) else ap + cp
       mpn_divisible_p x dp
     if csize = 1 then
       if dsize = 1 then cong_1 dlow clow
       else if dsize = 2 ∧ dlow ≠ 0 then
         let dsecond := dp / B % B
         if dsecond ≤ dmaskMod - 1 then cong_1 (dp / 2 ^ ctz dlow) clow
         else general
       else general
     else general) = true ↔ d ∣ a - c := by
  rw [dvd_sub_iff_mag a c d, ← Int.natAbs_dvd]
  change _ ↔ (d.natAbs : Int) ∣ (a.natAbs : Int) - sgnC (a < 0 ↔ c < 0) c.natAbs
  have hD : d.natAbs ≠ 0 := by omega
  have hB := B_pos
  dsimp only
  simp only [siz_natAbs, siz_eq_zero, sameSign_siz]
  generalize d.natAbs = D at *
  generalize a.natAbs = A
  by_cases hc : c = 0
  · subst hc
    simp only [if_true]
    unfold sgnC
    rw [mpn_divisible_p_iff, ← Int.natCast_dvd_natCast]
    simp
  · have hC : c.natAbs ≠ 0 := by omega
    simp only [hc, if_false]
    generalize c.natAbs = C at *
    obtain ⟨hmB, hmD⟩ := lowZerosMod_dvd D hD
    have hq := quick_iff (a < 0 ↔ c < 0) A C _ hmB
    have hgen := general_iff (a < 0 ↔ c < 0) A C D
    by_cases hquick : ((((if (a < 0 ↔ c < 0) then A % B else (B - A % B) % B) + B - C % B) % B) % lowZerosMod (D % B)) = 0
    · have hqm := hq.mp hquick
      simp only [hquick, ne_eq, not_true_eq_false, if_false]
      by_cases hcs : sizeNat C = 1
      · have hCB : C < B := (sizeNat_eq_one.mp hcs).2
        simp only [hcs, if_true, Nat.mod_eq_of_lt hCB]
        by_cases hds : sizeNat D = 1
        · have hDB : D < B := (sizeNat_eq_one.mp hds).2
          simp only [hds, if_true, Nat.mod_eq_of_lt hDB] at hqm ⊢
          have hlz : lowZerosMod D = 2 ^ ctz D := lowZerosMod_of_ne_zero hD
          rw [hlz] at hqm
          exact cong1_iff (a < 0 ↔ c < 0) thr (sizeNat A) A D C hD hDB hCB hqm
        · simp only [hds, if_false]
          by_cases hd2 : sizeNat D = 2 ∧ D % B ≠ 0
          · have hsec : D / B % B = D / B := Nat.mod_eq_of_lt (sizeNat_eq_two hd2.1)
            have hlz : lowZerosMod (D % B) = 2 ^ ctz (D % B) := lowZerosMod_of_ne_zero hd2.2
            simp only [hd2, and_self, if_true, hsec, hlz, not_false_eq_true] at hqm ⊢
            by_cases hsm : D / B ≤ 2 ^ ctz (D % B) - 1
            · simp only [hsm, if_true]
              obtain ⟨D1, e1, e2, hodd, hD1B, hD10⟩ := two_limb_odd_part hd2.2 hsm
              rw [e1]
              have h1 := cong1_iff (a < 0 ↔ c < 0) thr (sizeNat A) A D1 C hD10 hD1B hCB (by rw [ctz_odd hodd]; simp)
              refine Iff.trans h1 ?_
              have hcop := coprime_two_pow_odd (ctz (D % B)) D1 hodd
              constructor
              · intro h; rw [e2]; exact int_coprime_mul_dvd hcop hqm h
              · intro h; exact Int.dvd_trans (Int.natCast_dvd_natCast.mpr (Dvd.intro_left _ e2.symm)) h
            · simp only [hsm, if_false]; exact hgen
          · simp only [hd2, if_false]; exact hgen
      · simp only [hcs, if_false]; exact hgen
    · simp only [hquick, ne_eq, not_false_eq_true, if_true]
      constructor
      · intro h; exact absurd h (by simp)
      · intro h
        exact absurd (hq.mpr (Int.dvd_trans (Int.natCast_dvd_natCast.mpr hmD) h)) hquick

theorem congruent_p_iff' (thr : Nat) (a0 c0 d : Int) : congruent_p thr a0 c0 d = true ↔ d ∣ a0 - c0 := by
  unfold congruent_p
  by_cases hd : d = 0
  · subst hd
    have : siz 0 = 0 := siz_eq_zero.mpr rfl
    rw [if_pos this, decide_eq_true_eq, Int.zero_dvd]; omega
  · have hsd : ¬ siz d = 0 := fun h => hd (siz_eq_zero.mp h)
    rw [if_neg hsd]
    by_cases hsw : (siz a0).natAbs < (siz c0).natAbs
    · simp only [hsw, if_true]
      have e : d ∣ a0 - c0 ↔ d ∣ c0 - a0 := by
        rw [← Int.dvd_neg]; have : -(a0 - c0) = c0 - a0 := by omega
        rw [this]
      rw [e]
      exact cong_body_iff thr c0 a0 d hd
    · simp only [hsw, if_false]
      exact cong_body_iff thr a0 c0 d hd

/-! ### the value contract of mpn_tdiv_qr -/

theorem normalized_of_topNonzero {d : List Nat} (h : topNonzero d = true) : Normalized d ∧ d ≠ [] := by
  unfold topNonzero at h
  cases hl : d.getLast? with
  | none => simp [hl] at h
  | some x =>
    simp only [hl, bne_iff_ne, ne_eq] at h
    exact ⟨fun h0 => h (Option.some.inj (hl.symm.trans h0)), fun hd => by simp [hd] at hl⟩

theorem val_ge_of_topNonzero {d : List Nat} (h : topNonzero d = true) : B ^ (d.length - 1) ≤ val d :=
  (normalized_of_topNonzero h).1.ge (normalized_of_topNonzero h).2

/-- total on the documented domain; nn-dn+1 limbs always hold ⌊n/d⌋ -/
theorem mpnTdivQr_contract (n d : List Nat) (hn : Limbs n) (hd : Limbs d) (ht : topNonzero d = true) (hl : d.length ≤ n.length) :
    ∃ q r, mpnTdivQr n d = some (q, r) ∧ q.length = n.length - d.length + 1 ∧ r.length = d.length ∧ Limbs q ∧ Limbs r ∧
      val q = val n / val d ∧ val r = val n % val d ∧ val n = val q * val d + val r ∧ val r < val d := by
  have hdpos : 0 < val d := Nat.lt_of_lt_of_le (Bpow_pos _) (val_ge_of_topNonzero ht)
  unfold mpnTdivQr
  have hc : ¬ (¬ topNonzero d = true ∨ n.length < d.length) := by
    intro h; rcases h with h | h
    · exact h ht
    · omega
  simp only [hc, if_false]
  have q1 := val_toLimbs (n.length - d.length + 1) (val n / val d)
  have q2 := toLimbs_length (n.length - d.length + 1) (val n / val d)
  have q3 := Limbs_toLimbs (n.length - d.length + 1) (val n / val d)
  have r1 := val_toLimbs d.length (val n % val d)
  have r2 := toLimbs_length d.length (val n % val d)
  have r3 := Limbs_toLimbs d.length (val n % val d)
  have hrlt : val n % val d < val d := Nat.mod_lt _ hdpos
  have hdlt := val_lt d hd
  have hnlt := val_lt n hn
  have hqfit : val n / val d < B ^ (n.length - d.length + 1) := by
    rw [Nat.div_lt_iff_lt_mul hdpos]
    have hge := val_ge_of_topNonzero ht
    have hdl : 1 ≤ d.length := by
      rcases Nat.eq_zero_or_pos d.length with h0 | h0
      · have : d = [] := List.length_eq_zero_iff.mp h0
        subst this; simp [topNonzero] at ht
      · exact h0
    have e : B ^ n.length = B ^ (n.length - d.length + 1) * B ^ (d.length - 1) := by
      rw [← Nat.pow_add]; congr 1; omega
    calc val n < B ^ n.length := hnlt
      _ = B ^ (n.length - d.length + 1) * B ^ (d.length - 1) := e
      _ ≤ B ^ (n.length - d.length + 1) * val d := Nat.mul_le_mul_left _ hge
  refine ⟨_, _, rfl, q2, r2, q3, r3, ?_, ?_, ?_, ?_⟩
  · rw [q1, Nat.mod_eq_of_lt hqfit]
  · rw [r1, Nat.mod_eq_of_lt (Nat.lt_trans hrlt hdlt)]
  · rw [q1, r1, Nat.mod_eq_of_lt hqfit, Nat.mod_eq_of_lt (Nat.lt_trans hrlt hdlt)]
    have := Nat.div_add_mod (val n) (val d)
    rw [Nat.mul_comm] at this; omega
  · rw [r1, Nat.mod_eq_of_lt (Nat.lt_trans hrlt hdlt)]; exact hrlt

end Mpir.DivZ
