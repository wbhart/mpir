/- Positional digit strings and the documented alphabets (specification part of Mpir/Model/Radix.lean): `ofDigits`,
   `digitsOf`, `fixedDigits`, `padDigits`, `digitChar` against `charValue`.  Rests on the model and Lemmas/Base.lean only,
   so that every layer that prints or reads digits (C06, C17, C18, C20) can use it. -/
import MpirProofs.Lemmas.Base
import Mpir.Model.Radix
namespace Mpir.Radix
open Mpir

/-! ### digit strings -/

theorem digitsAcc_eq_digitsOf (b : Nat) : ∀ (x : Nat) (acc : List Nat),
    digitsAcc b x acc = digitsOf b x ++ acc := by
  unfold digitsOf
  intro x
  induction x using Nat.strong_induction_on with
  | _ x ih =>
    intro acc
    rw [digitsAcc]; conv_rhs => rw [digitsAcc]
    split
    · simp
    · rename_i h
      have hlt : x / b < x := Nat.div_lt_self (by omega) (by omega)
      rw [ih _ hlt (x % b :: acc), ih _ hlt [x % b]]; simp

@[simp] theorem digitsOf_zero (b : Nat) : digitsOf b 0 = [] := by
  unfold digitsOf; rw [digitsAcc]; simp

theorem digitsOf_step {b x : Nat} (hb : 2 ≤ b) (hx : 0 < x) :
    digitsOf b x = digitsOf b (x / b) ++ [x % b] := by
  conv_lhs => unfold digitsOf; rw [digitsAcc]
  rw [dif_neg (by omega), digitsAcc_eq_digitsOf]

@[simp] theorem ofDigits_nil (b : Nat) : ofDigits b [] = 0 := rfl

theorem foldl_ofDigits (b : Nat) : ∀ (l : List Nat) (acc : Nat),
    l.foldl (fun a d => a * b + d) acc = acc * b ^ l.length + ofDigits b l
  | [], acc => by simp
  | x :: l, acc => by
    have h1 := foldl_ofDigits b l (acc * b + x)
    have h2 := foldl_ofDigits b l (0 * b + x)
    simp only [List.foldl_cons, ofDigits, List.length_cons, pow_succ] at *
    rw [h1, h2]; ring

theorem ofDigits_cons (b d : Nat) (ds : List Nat) : ofDigits b (d :: ds) = d * b ^ ds.length + ofDigits b ds := by
  have := foldl_ofDigits b ds (0 * b + d)
  simp only [ofDigits, List.foldl_cons] at *
  rw [this]; ring

theorem ofDigits_app (b : Nat) (l1 l2 : List Nat) :
    ofDigits b (l1 ++ l2) = ofDigits b l1 * b ^ l2.length + ofDigits b l2 := by
  unfold ofDigits
  rw [List.foldl_append, foldl_ofDigits]; rfl

theorem ofDigits_append (b : Nat) (l : List Nat) (d : Nat) : ofDigits b (l ++ [d]) = ofDigits b l * b + d := by
  rw [ofDigits_app, ofDigits_cons]; simp

theorem ofDigits_digitsOf {b : Nat} (hb : 2 ≤ b) (x : Nat) : ofDigits b (digitsOf b x) = x := by
  induction x using Nat.strong_induction_on with
  | _ x ih =>
    rcases Nat.eq_zero_or_pos x with rfl | hx
    · simp
    · rw [digitsOf_step hb hx, ofDigits_append, ih _ (Nat.div_lt_self hx (by omega))]
      exact Nat.div_add_mod' x b

theorem digitsOf_lt {b : Nat} (hb : 2 ≤ b) (x : Nat) : ∀ d ∈ digitsOf b x, d < b := by
  induction x using Nat.strong_induction_on with
  | _ x ih =>
    rcases Nat.eq_zero_or_pos x with rfl | hx
    · simp
    · rw [digitsOf_step hb hx]
      intro d hd
      rcases List.mem_append.mp hd with h | h
      · exact ih _ (Nat.div_lt_self hx (by omega)) d h
      · simp at h; subst h; exact Nat.mod_lt _ (by omega)

theorem digitsOf_ne_nil {b x : Nat} (hb : 2 ≤ b) (hx : 0 < x) : digitsOf b x ≠ [] := by
  rw [digitsOf_step hb hx]; simp

theorem digitsOf_head_ne_zero {b : Nat} (hb : 2 ≤ b) (x : Nat) : (digitsOf b x).head? ≠ some 0 := by
  induction x using Nat.strong_induction_on with
  | _ x ih =>
    rcases Nat.eq_zero_or_pos x with rfl | hx
    · simp
    · rw [digitsOf_step hb hx]
      by_cases hq : x / b = 0
      · rw [hq]; simp
        have : x < b := by
          by_contra hcon
          have := Nat.div_pos (Nat.le_of_not_lt hcon) (by omega : 0 < b); omega
        rw [Nat.mod_eq_of_lt this]; omega
      · have hb1 : 1 < b := by omega
        have := ih (x / b) (Nat.div_lt_self hx hb1)
        have hne := digitsOf_ne_nil hb (Nat.pos_of_ne_zero hq)
        cases hd : digitsOf b (x / b) with
        | nil => exact absurd hd hne
        | cons a l => rw [hd] at this; simpa using this

theorem fixedDigits_split {D : Nat} (hD : 0 < D) (c : Nat) : ∀ (a y : Nat), y < D ^ (a + c) →
    fixedDigits D (a + c) y = fixedDigits D a (y / D ^ c) ++ fixedDigits D c (y % D ^ c)
  | 0, y, h => by
    simp only [Nat.zero_add] at h
    simp [fixedDigits, Nat.mod_eq_of_lt h]
  | a + 1, y, _ => by
    rw [show a + 1 + c = (a + c) + 1 by omega, fixedDigits, fixedDigits]
    have hp : 0 < D ^ (a + c) := Nat.pow_pos hD
    rw [fixedDigits_split hD c a (y % D ^ (a + c)) (Nat.mod_lt _ hp)]
    have e1 : y / D ^ (a + c) = y / D ^ c / D ^ a := by
      rw [Nat.div_div_eq_div_mul, ← pow_add, Nat.add_comm]
    have e2 : y % D ^ (a + c) / D ^ c = y / D ^ c % D ^ a := by
      rw [Nat.add_comm, pow_add, Nat.mod_mul_right_div_self]
    have e3 : y % D ^ (a + c) % D ^ c = y % D ^ c := by
      rw [Nat.add_comm, pow_add]; exact Nat.mod_mul_right_mod _ _ _
    rw [e1, e2, e3]; simp

theorem fixedDigits_snoc {b : Nat} (hb : 0 < b) (n r : Nat) (hr : r < b ^ (n + 1)) :
    fixedDigits b (n + 1) r = fixedDigits b n (r / b) ++ [r % b] := by
  rw [fixedDigits_split hb 1 n r hr, pow_one]
  simp [fixedDigits]

theorem digitsOf_append_fixed {b : Nat} (hb : 2 ≤ b) : ∀ (n Q r : Nat), 0 < Q → r < b ^ n →
    digitsOf b (Q * b ^ n + r) = digitsOf b Q ++ fixedDigits b n r
  | 0, Q, r, _, hr => by
    have : r = 0 := by simpa using hr
    subst this; simp [fixedDigits]
  | n + 1, Q, r, hQ, hr => by
    have hbpos : 0 < b := by omega
    have hpos : 0 < Q * b ^ (n + 1) + r := by
      have : 0 < b ^ (n + 1) := Nat.pow_pos hbpos
      have := Nat.mul_pos hQ this; omega
    rw [digitsOf_step hb hpos, fixedDigits_snoc hbpos n r hr]
    have e1 : (Q * b ^ (n + 1) + r) / b = Q * b ^ n + r / b := by
      rw [pow_succ, ← Nat.mul_assoc, Nat.add_comm, Nat.add_mul_div_right _ _ hbpos, Nat.add_comm]
    have e2 : (Q * b ^ (n + 1) + r) % b = r % b := by
      rw [pow_succ, ← Nat.mul_assoc, Nat.add_comm, Nat.add_mul_mod_self_right]
    have hr' : r / b < b ^ n := by
      rw [Nat.div_lt_iff_lt_mul hbpos, ← pow_succ]; exact hr
    rw [e1, e2, digitsOf_append_fixed hb n Q (r / b) hQ hr', List.append_assoc]

theorem fixedDigits_length (b : Nat) : ∀ (n r : Nat), (fixedDigits b n r).length = n
  | 0, _ => rfl
  | n + 1, r => by simp [fixedDigits, fixedDigits_length b n]

theorem ofDigits_lt {b : Nat} (hb : 0 < b) : ∀ (ds : List Nat), (∀ d ∈ ds, d < b) → ofDigits b ds < b ^ ds.length
  | [], _ => by simp
  | x :: l, h => by
    rw [ofDigits_cons, List.length_cons, pow_succ]
    have ih := ofDigits_lt hb l (fun d hd => h d (List.mem_cons_of_mem _ hd))
    have hx : (x + 1) * b ^ l.length ≤ b * b ^ l.length := Nat.mul_le_mul_right _ (h x (by simp))
    rw [Nat.add_mul, Nat.one_mul] at hx
    rw [Nat.mul_comm (b ^ l.length) b]
    omega

theorem ofDigits_zeros (b z : Nat) (ds : List Nat) : ofDigits b (List.replicate z 0 ++ ds) = ofDigits b ds := by
  rw [ofDigits_app]
  have : ofDigits b (List.replicate z 0) = 0 := by
    induction z with
    | zero => rfl
    | succ z ih => rw [List.replicate_succ, ofDigits_cons, ih]; simp
  rw [this]; simp

theorem digitsOf_length_bounds {b : Nat} (hb : 2 ≤ b) {x : Nat} (hx : 0 < x) :
    0 < (digitsOf b x).length ∧ b ^ ((digitsOf b x).length - 1) ≤ x ∧ x < b ^ (digitsOf b x).length := by
  have hval := ofDigits_digitsOf hb x
  have hlt := digitsOf_lt hb x
  have hne := digitsOf_ne_nil hb hx
  have hhead := digitsOf_head_ne_zero hb x
  cases hds : digitsOf b x with
  | nil => exact absurd hds hne
  | cons d ds =>
    rw [hds] at hval hlt hhead
    refine ⟨by simp, ?_, ?_⟩
    · rw [← hval, ofDigits_cons]
      simp only [List.length_cons, Nat.add_sub_cancel]
      have hd : 1 ≤ d := by
        rcases Nat.eq_zero_or_pos d with h | h
        · subst h; simp at hhead
        · exact h
      calc b ^ ds.length = 1 * b ^ ds.length := (Nat.one_mul _).symm
        _ ≤ d * b ^ ds.length := Nat.mul_le_mul_right _ hd
        _ ≤ d * b ^ ds.length + ofDigits b ds := Nat.le_add_right _ _
    · rw [← hval]; exact ofDigits_lt (by omega) _ hlt

theorem digitsOf_small {D Q : Nat} (hD : 2 ≤ D) (h0 : 0 < Q) (h1 : Q < D) : digitsOf D Q = [Q] := by
  rw [digitsOf_step hD h0, Nat.div_eq_of_lt h1, Nat.mod_eq_of_lt h1]; simp

theorem digitsOf_eq_fixed {D : Nat} (hD : 2 ≤ D) {m W : Nat} (hm : 0 < m) (hlo : D ^ (m - 1) ≤ W) (hhi : W < D ^ m) :
    digitsOf D W = fixedDigits D m W := by
  obtain ⟨k, rfl⟩ : ∃ k, m = k + 1 := ⟨m - 1, by omega⟩
  simp only [Nat.add_sub_cancel] at hlo
  have hp : 0 < D ^ k := Nat.pow_pos (by omega)
  rw [fixedDigits]
  have hQ0 : 0 < W / D ^ k := Nat.div_pos hlo hp
  have hQ1 : W / D ^ k < D := by rw [Nat.div_lt_iff_lt_mul hp, Nat.mul_comm, ← pow_succ]; exact hhi
  conv_lhs => rw [← Nat.div_add_mod W (D ^ k), Nat.mul_comm]
  rw [digitsOf_append_fixed hD k _ _ hQ0 (Nat.mod_lt _ hp), digitsOf_small hD hQ0 hQ1]; simp

/-! ### zero-padded digit strings -/

def padDigits (b k v : Nat) : List Nat := List.replicate (k - (digitsOf b v).length) 0 ++ digitsOf b v

theorem fixedDigits_zero (b : Nat) (hb : 0 < b) : ∀ n : Nat, fixedDigits b n 0 = List.replicate n 0
  | 0 => rfl
  | n + 1 => by
    rw [fixedDigits, Nat.zero_div, Nat.zero_mod, fixedDigits_zero b hb n]; rfl

theorem lt_pow_digitsOf_length {b : Nat} (hb : 2 ≤ b) (v : Nat) : v < b ^ (digitsOf b v).length := by
  rcases Nat.eq_zero_or_pos v with h0 | h0
  · subst h0; simp
  · exact (digitsOf_length_bounds hb h0).2.2

theorem digitsOf_length_le_iff {b : Nat} (hb : 2 ≤ b) {v n : Nat} : (digitsOf b v).length ≤ n ↔ v < b ^ n := by
  refine ⟨fun h => lt_of_lt_of_le (lt_pow_digitsOf_length hb v) (Nat.pow_le_pow_right (by omega) h), fun h => ?_⟩
  rcases Nat.eq_zero_or_pos v with h0 | h0
  · subst h0; simp
  · obtain ⟨_, lo, _⟩ := digitsOf_length_bounds hb h0
    by_contra hcon
    have : b ^ n ≤ b ^ ((digitsOf b v).length - 1) := Nat.pow_le_pow_right (by omega) (by omega)
    omega

theorem digitsOf_length_le {b : Nat} (hb : 2 ≤ b) {v n : Nat} (h : v < b ^ n) : (digitsOf b v).length ≤ n :=
  (digitsOf_length_le_iff hb).mpr h

theorem digitsOf_length_gt {b : Nat} (hb : 2 ≤ b) {v m : Nat} (h : b ^ m ≤ v) : m < (digitsOf b v).length :=
  Nat.lt_of_not_le fun hle => absurd ((digitsOf_length_le_iff hb).mp hle) (Nat.not_lt.mpr h)

theorem digits_of_bracket {b x n : Nat} (hb : 2 ≤ b) (hlo : b ^ n ≤ x) (hhi : x < b ^ (n + 1)) :
    (digitsOf b x).length = n + 1 :=
  Nat.le_antisymm (digitsOf_length_le hb hhi) (digitsOf_length_gt hb hlo)

theorem fixedDigits_eq_pad {b : Nat} (hb : 2 ≤ b) {n v : Nat} (h : v < b ^ n) :
    fixedDigits b n v = padDigits b n v := by
  unfold padDigits
  rcases Nat.eq_zero_or_pos v with h0 | h0
  · subst h0; simp [fixedDigits_zero b (by omega)]
  · obtain ⟨dpos, lo, hi⟩ := digitsOf_length_bounds hb h0
    have hle := digitsOf_length_le hb h
    generalize hd : (digitsOf b v).length = d at *
    obtain ⟨a, rfl⟩ : ∃ a, n = a + d := ⟨n - d, by omega⟩
    rw [fixedDigits_split (by omega) d a v h, Nat.div_eq_of_lt hi, Nat.mod_eq_of_lt hi,
      fixedDigits_zero b (by omega), Nat.add_sub_cancel, ← digitsOf_eq_fixed hb dpos lo hi]

theorem padDigits_of_le {b k v : Nat} (h : k ≤ (digitsOf b v).length) : padDigits b k v = digitsOf b v := by
  unfold padDigits; rw [Nat.sub_eq_zero_of_le h]; simp

theorem padDigits_length {b : Nat} (k v : Nat) : (padDigits b k v).length = max k (digitsOf b v).length := by
  unfold padDigits; simp; omega

theorem digitsOf_length_div {b : Nat} (hb : 2 ≤ b) (c v : Nat) :
    (digitsOf b (v / b ^ c)).length = (digitsOf b v).length - c := by
  have hp : 0 < b ^ c := Nat.pow_pos (by omega)
  rcases Nat.eq_zero_or_pos (v / b ^ c) with h0 | h0
  · rw [h0, digitsOf_zero, List.length_nil]
    have := digitsOf_length_le hb ((Nat.div_eq_zero_iff_lt hp).mp h0)
    omega
  · have h := digitsOf_append_fixed hb c (v / b ^ c) (v % b ^ c) h0 (Nat.mod_lt _ hp)
    rw [Nat.div_add_mod' v (b ^ c)] at h
    rw [h, List.length_append, fixedDigits_length]; omega

theorem padDigits_max {b len k v : Nat} (h : k ≤ (padDigits b len v).length) :
    padDigits b (max len k) v = padDigits b len v := by
  rw [padDigits_length] at h
  unfold padDigits; congr 2; omega

theorem padDigits_zero (b len : Nat) : padDigits b len 0 = List.replicate len 0 := by
  unfold padDigits; simp

theorem replicate_pad {b : Nat} (len k v : Nat) :
    List.replicate (len - (padDigits b k v).length) 0 ++ padDigits b k v = padDigits b (max len k) v := by
  rw [padDigits_length]
  unfold padDigits
  rw [← List.append_assoc, List.replicate_append_replicate]
  congr 2; omega

theorem pad_append_fixed {b : Nat} (hb : 2 ≤ b) (k c Q r : Nat) (hr : r < b ^ c) :
    padDigits b k Q ++ fixedDigits b c r = padDigits b (k + c) (Q * b ^ c + r) := by
  rcases Nat.eq_zero_or_pos Q with h0 | h0
  · subst h0
    rw [Nat.zero_mul, Nat.zero_add, fixedDigits_eq_pad hb hr]
    have hle := digitsOf_length_le hb hr
    unfold padDigits
    rw [digitsOf_zero]
    simp only [List.length_nil, Nat.sub_zero, List.append_nil]
    rw [← List.append_assoc, List.replicate_append_replicate]
    congr 2; omega
  · unfold padDigits
    rw [digitsOf_append_fixed hb c Q r h0 hr, List.append_assoc]
    congr 2
    simp only [List.length_append, fixedDigits_length]; omega

/-! ### the alphabets -/

theorem charValue_base (rb c : Nat) : charValue rb c = if rb ≤ 36 then charValue 36 c else charValue 62 c := by
  unfold charValue
  by_cases h : rb ≤ 36 <;> simp [h]

theorem charValue_some {rb c v : Nat} (h : charValue rb c = some v) :
    (48 ≤ c ∧ c ≤ 57 ∧ v = c - 48) ∨ (65 ≤ c ∧ 10 ≤ v ∧ v < 62) := by
  unfold charValue at h
  split at h
  · simp at h; omega
  · split at h
    · simp at h; omega
    · split at h
      · simp at h; split at h <;> omega
      · simp at h

theorem charValue_lt (rb c v : Nat) (h : charValue rb c = some v) : v < 62 := by
  rcases charValue_some h with h | h <;> omega

/-- the legal bases of mpz_get_str / mpz_out_str -/
def LegalOutBase (base : Int) : Prop := (2 ≤ base ∧ base ≤ 62) ∨ (-36 ≤ base ∧ base ≤ -2)

theorem LegalOutBase.natAbs_bounds {base : Int} (hb : LegalOutBase base) : 2 ≤ base.natAbs ∧ base.natAbs ≤ 62 := by
  unfold LegalOutBase at hb; omega

/-- `h`: `c` is a character of one of the three alphabets and `v` its value under the case rule of `rb` -/
theorem charValue_alnum {rb c v : Nat}
    (h : (48 ≤ c ∧ c ≤ 57 ∧ v = c - 48) ∨ (65 ≤ c ∧ c ≤ 90 ∧ v = c - 65 + 10) ∨
      (97 ≤ c ∧ c ≤ 122 ∧ rb ≤ 36 ∧ v = c - 97 + 10) ∨ (97 ≤ c ∧ c ≤ 122 ∧ 36 < rb ∧ v = c - 97 + 36)) :
    charValue rb c = some v ∧ isSpace c = false ∧ c ≠ 0 ∧ c ≠ 45 ∧ c < 256 := by
  refine ⟨?_, by simp [isSpace]; omega, by omega, by omega, by omega⟩
  unfold charValue
  rcases h with ⟨h1, h2, rfl⟩ | ⟨h1, h2, rfl⟩ | ⟨h1, h2, h3, rfl⟩ | ⟨h1, h2, h3, rfl⟩
  · rw [if_pos ⟨h1, h2⟩]
  · rw [if_neg (by omega), if_pos ⟨h1, h2⟩]
  · rw [if_neg (by omega), if_neg (by omega), if_pos ⟨h1, h2⟩, if_pos h3]
  · rw [if_neg (by omega), if_neg (by omega), if_pos ⟨h1, h2⟩, if_neg (by omega)]

theorem digitChar_props (base : Int) (hb : LegalOutBase base) (d : Nat) (hd : d < base.natAbs) :
    charValue base.natAbs (digitChar base d) = some d ∧ isSpace (digitChar base d) = false ∧
    digitChar base d ≠ 0 ∧ digitChar base d ≠ 45 ∧ digitChar base d < 256 := by
  unfold LegalOutBase at hb
  apply charValue_alnum
  unfold digitChar
  by_cases h10 : d < 10
  · -- a decimal digit in every alphabet
    simp only [if_pos h10, ite_self]
    exact Or.inl ⟨by omega, by omega, by omega⟩
  simp only [if_neg h10]
  by_cases hneg : base < 0
  · rw [if_pos hneg]; exact Or.inr (Or.inl ⟨by omega, by omega, by omega⟩)
  rw [if_neg hneg]
  by_cases h36 : base ≤ 36
  · rw [if_pos h36]; exact Or.inr (Or.inr (Or.inl ⟨by omega, by omega, by omega, by omega⟩))
  rw [if_neg h36]
  by_cases hd36 : d < 36
  · rw [if_pos hd36]; exact Or.inr (Or.inl ⟨by omega, by omega, by omega⟩)
  · rw [if_neg hd36]; exact Or.inr (Or.inr (Or.inr ⟨by omega, by omega, by omega, by omega⟩))

end Mpir.Radix
