/- mpz_mul_2exp and mpz_tdiv_q_2exp on the pointer-level model (offsets inside a block, in-place shifts). -/
import MpirProofs.Lemmas.AliasMemOps
namespace Mpir.AliasMem
open Mpir
open Mpir.DivZ (sizeNat siz sameSign)

theorem size_ite_mul (s : St) (u cnt : Nat) :
    (if s.size u ≥ 0 then ((s.mag u * 2 ^ cnt : Nat) : Int) else -((s.mag u * 2 ^ cnt : Nat) : Int)) =
      s.value u * 2 ^ cnt := by
  unfold St.value
  by_cases h0 : s.size u < 0
  · rw [if_neg (by omega), if_pos h0]; push_cast; ring
  · rw [if_pos (by omega), if_neg h0]; push_cast; ring

theorem size_ite_tdivQ (s : St) (u k : Nat) :
    (if s.size u ≥ 0 then ((s.mag u / k : Nat) : Int) else -((s.mag u / k : Nat) : Int)) =
      DivZ.tdivQ (s.value u) (k : Int) := by
  rw [value_eq_sgnv, DivZ.tdivQ, tdiv_sgnv, sgnv_ge]

theorem loadAt_var0 {s : St} (h : Inv s) {i : Nat} (hi : i < s.nv) :
    s.loadAt (s.ptr i) 0 (s.size i).natAbs = .ok (s.limbs i) := by
  simpa using loadAt_var_off h hi 0 (Nat.zero_le _)

/-- `MPN_ZERO (wp, lc)` below a block `X` written at offset `lc` -/
theorem storeAt_zeros {s : St} {p lc : Nat} {b X : List Nat} (h : lc + X.length ≤ b.length) :
    (s.setBlk p (some (wrAt b lc X))).storeAt p 0 (List.replicate lc 0) =
      .ok (s.setBlk p (some (wrAt b 0 (List.replicate lc 0 ++ X)))) := by
  rw [storeAt_setBlk (by rw [wrAt_length h, List.length_replicate]; omega),
    wrAt_wrAt_zero (List.length_replicate ..) h]

/-- the tail of mpz_mul_2exp: `cnt / 64` zero limbs and then `X`, the normalised limbs of `|u| * 2 ^ (cnt % 64)` -/
theorem mul_2exp_fin {s s1 : St} (h : Inv s) (i1 : Inv s1) (k : Same s s1) {w u : Nat} (f : Fr s w s1) (hw : w < s.nv) (hu : u < s.nv)
    (hu0 : s.size u ≠ 0) {b : List Nat} (hbl : b.length = s1.alloc w) (hbL : Limbs b) (cnt : Nat) {X : List Nat} {wsize : Nat}
    (hXL : Limbs X) (hXv : val X = s.mag u * 2 ^ (cnt % 64)) (hXn : X.length = sizeNat (val X))
    (hws : wsize = cnt / 64 + X.length) (hfit : wsize ≤ b.length) :
    Post s ((s1.setBlk (s1.ptr w) (some (wrAt b 0 (List.replicate (cnt / 64) 0 ++ X)))).setSize w
      (if s.size u ≥ 0 then (wsize : Int) else -(wsize : Int))) w (s.value u * 2 ^ cnt) := by
  have hm0 : s.mag u ≠ 0 := Nat.pos_iff_ne_zero.mp (Nat.lt_of_lt_of_le (Bpow_pos _) (h.mag_ge hu hu0))
  have hX0 : val X ≠ 0 := by rw [hXv]; exact Nat.mul_ne_zero hm0 (Nat.pos_iff_ne_zero.mp (Nat.two_pow_pos _))
  have hv : val (List.replicate (cnt / 64) 0 ++ X) = s.mag u * 2 ^ cnt := by
    rw [val_zeros_append, hXv, two_pow_split cnt]; ring
  have r := put_signed i1 k f hw hbl hbL (l := List.replicate (cnt / 64) 0 ++ X) (wsize := wsize)
    (by rw [List.length_append, List.length_replicate, ← hws]; exact hfit)
    (Limbs_append.mpr ⟨Limbs_replicate_zero _, hXL⟩)
    (by rw [val_zeros_append, sizeNat_Bpow_mul _ hX0, ← hXn, hws]) (s.size u ≥ 0)
  rwa [hv, size_ite_mul] at r

theorem mul_2exp_post {s : St} (h : Inv s) {w u : Nat} (hw : w < s.nv) (hu : u < s.nv) (cnt : Nat) :
    Ok (mul_2exp w u cnt s) (fun s' => Post s s' w (s.value u * 2 ^ cnt)) := by
  unfold mul_2exp mul_2expV
  simp only [Variant.c, if_true, bind, Except.bind, pure, Except.pure]
  by_cases hu0 : s.size u = 0
  · rw [if_pos hu0]
    obtain ⟨i2, u2, v2⟩ := setSize_zero_spec h hw
    refine ⟨_, rfl, Post.of_same_upd (Same.refl s) (Fr.refl s w) u2 i2 ?_⟩
    rw [v2, (h.size_eq_zero_iff hu).mp hu0, Int.zero_mul]
  · rw [if_neg hu0]
    have o := h.normOp hu hu0
    obtain ⟨i1, k, a1⟩ := realloc_same h hw ((s.size u).natAbs + cnt / 64 + 1)
    have fr1 : Fr s w (s.mpzRealloc w ((s.size u).natAbs + cnt / 64 + 1)) := (Fr.refl s w).realloc _
    generalize s.mpzRealloc w ((s.size u).natAbs + cnt / 64 + 1) = s1 at *
    obtain ⟨b, hb, hbl, hbL⟩ := i1.live w (k.lt hw)
    have hld : s1.loadAt (s1.ptr u) 0 (s.size u).natAbs = .ok (s.limbs u) := by
      have := loadAt_var0 i1 (k.lt hu); rwa [k.size, k.limbs u hu] at this
    have fin := @mul_2exp_fin s s1 h i1 k w u fr1 hw hu hu0 b hbl hbL cnt
    generalize (s.size u).natAbs = n at *
    have hfit : cnt / 64 + n + 1 ≤ b.length := by omega
    by_cases hc : cnt % 64 = 0
    · -- whole limbs: MPN_COPY_DECR
      rw [if_neg (not_not_intro hc), mpn_copy_ok false hld hb (by rw [o.len]; omega) rfl]
      simp only []
      rw [storeAt_zeros (by rw [o.len]; omega)]
      exact ⟨_, rfl, fin o.limbs (by rw [hc, pow_zero, Nat.mul_one]; rfl)
        (by rw [o.len]; exact (sizeNat_eq o.ge o.lt o.pos).symm) (by rw [o.len, Nat.add_comm]) (by omega)⟩
    · rw [if_pos hc, mpn_lshift_ok hld hb (by omega) o.pos hc (Nat.mod_lt _ (by decide)) (by omega)]
      simp only []
      generalize hv : val (s.limbs u) * 2 ^ (cnt % 64) = v
      have hvlt : v < B ^ (n + 1) := by
        rw [← hv, pow_succ]
        exact Nat.lt_of_lt_of_le (Nat.mul_lt_mul_of_pos_right o.lt (Nat.two_pow_pos _))
          (Nat.mul_le_mul_left _ (Nat.le_of_lt (two_pow_mod_lt cnt)))
      have hvge : B ^ (n - 1) ≤ v :=
        hv ▸ Nat.le_trans o.ge (Nat.le_mul_of_pos_right _ (Nat.two_pow_pos _))
      have hlen : (toLimbs n v).length = n := toLimbs_length n v
      by_cases htop : v / B ^ n = 0
      · have hvn : v < B ^ n := (Nat.div_eq_zero_iff.mp htop).resolve_left (Nat.ne_of_gt (Bpow_pos _))
        rw [if_neg (not_not_intro htop)]
        simp only []
        rw [storeAt_zeros (by rw [hlen]; omega)]
        exact ⟨_, rfl, fin (Limbs_toLimbs _ _) ((val_toLimbs_lt _ _ hvn).trans hv.symm)
          (by rw [hlen, val_toLimbs_lt _ _ hvn]; exact (sizeNat_eq hvge hvn o.pos).symm) (by rw [hlen, Nat.add_comm])
          (by omega)⟩
      · have hvn : B ^ n ≤ v := Nat.le_of_not_lt (fun hlt => htop (Nat.div_eq_of_lt hlt))
        have hst : (s1.setBlk (s1.ptr w) (some (wrAt b (cnt / 64) (toLimbs n v)))).storeAt (s1.ptr w) (n + cnt / 64)
            [v / B ^ n] = .ok (s1.setBlk (s1.ptr w) (some (wrAt b (cnt / 64) (toLimbs n v ++ [v / B ^ n])))) := by
          rw [show n + cnt / 64 = cnt / 64 + (toLimbs n v).length by rw [hlen, Nat.add_comm],
            storeAt_setBlk (by rw [wrAt_length (by rw [hlen]; omega), hlen]; exact hfit),
            wrAt_wrAt_next (by rw [hlen]; exact hfit)]
        have hXlen : (toLimbs n v ++ [v / B ^ n]).length = n + 1 := by rw [List.length_append, hlen]; rfl
        have hXval : val (toLimbs n v ++ [v / B ^ n]) = v := by
          rw [val_append, hlen, val_toLimbs, val_cons, val_nil, Nat.mul_zero, Nat.add_zero, Nat.mod_add_div]
        rw [if_pos htop, hst]
        simp only []
        rw [storeAt_zeros (by rw [hXlen]; omega)]
        refine ⟨_, rfl, fin (Limbs_append.mpr ⟨Limbs_toLimbs _ _, fun x hx => ?_⟩) (hXval.trans hv.symm)
          (by rw [hXlen, hXval]; exact (sizeNat_eq hvn hvlt (Nat.succ_pos n)).symm)
          (by rw [hXlen]; omega) (by omega)⟩
        rw [List.mem_singleton.mp hx, Nat.div_lt_iff_lt_mul (Bpow_pos _), Nat.mul_comm, ← pow_succ]
        exact hvlt

theorem mul_2exp_ok {s : St} (h : Inv s) {w u : Nat} (hw : w < s.nv) (hu : u < s.nv) (cnt : Nat) :
    ∃ s', mul_2exp w u cnt s = .ok s' ∧ Res s s' w (s.value u * 2 ^ cnt) :=
  (mul_2exp_post h hw hu cnt).mono fun _ p => p.res h hw

theorem tdiv_q_2exp_post {s : St} (h : Inv s) {w u : Nat} (hw : w < s.nv) (hu : u < s.nv) (cnt : Nat) :
    Ok (tdiv_q_2exp w u cnt s) (fun s' => Post s s' w (DivZ.tdivQ (s.value u) ((2 ^ cnt : Nat) : Int))) := by
  unfold tdiv_q_2exp
  simp only [bind, Except.bind, pure, Except.pure]
  by_cases hws : (((s.size u).natAbs : Nat) : Int) - ((cnt / 64 : Nat) : Int) ≤ 0
  · rw [if_pos hws]
    obtain ⟨i2, u2, v2⟩ := setSize_zero_spec h hw
    have hlt : s.mag u < 2 ^ cnt := DivZ.lt_two_pow_of_size (by rw [← h.size_natAbs hu]; omega)
    refine ⟨_, rfl, Post.of_same_upd (Same.refl s) (Fr.refl s w) u2 i2 ?_⟩
    rw [v2, ← size_ite_tdivQ s u, Nat.div_eq_of_lt hlt]; simp
  · rw [if_neg hws,
      show (((s.size u).natAbs : Int) - ((cnt / 64 : Nat) : Int)).toNat = (s.size u).natAbs - cnt / 64 by clear * - hws; omega]
    have o := (h.normOp hu (by clear * - hws; omega)).drop (k := cnt / 64) (by clear * - hws; omega)
    have hval : val ((s.limbs u).drop (cnt / 64)) = s.mag u / B ^ (cnt / 64) :=
      val_drop_eq_div _ (h.limbs_spec hu).2 _
    obtain ⟨i1, k, a1⟩ := realloc_same h hw ((s.size u).natAbs - cnt / 64)
    have fr1 : Fr s w (s.mpzRealloc w ((s.size u).natAbs - cnt / 64)) := (Fr.refl s w).realloc _
    generalize s.mpzRealloc w ((s.size u).natAbs - cnt / 64) = s1 at *
    obtain ⟨b, hb, hbl, hbL⟩ := i1.live w (k.lt hw)
    have hld : s1.loadAt (s1.ptr u) (cnt / 64) ((s.size u).natAbs - cnt / 64) = .ok ((s.limbs u).drop (cnt / 64)) := by
      have := loadAt_var_off i1 (k.lt hu) (cnt / 64) (by rw [k.size]; omega); rwa [k.size, k.limbs u hu] at this
    generalize (s.size u).natAbs - cnt / 64 = m at *
    generalize (s.limbs u).drop (cnt / 64) = H at *
    have hfit : m ≤ b.length := by omega
    by_cases hc : cnt % 64 = 0
    · rw [if_neg (not_not_intro hc), mpn_copy_ok true hld hb (by rw [o.len]; omega) rfl]
      simp only []
      have r := put_signed i1 k fr1 hw hbl hbL (l := H) (wsize := m) (by rw [o.len]; exact hfit) o.limbs
        (sizeNat_eq o.ge o.lt o.pos).symm (s.size u ≥ 0)
      have e : (if s.size u ≥ 0 then ((val H : Nat) : Int) else -((val H : Nat) : Int)) =
          DivZ.tdivQ (s.value u) ((2 ^ cnt : Nat) : Int) := by
        rw [hval, ← size_ite_tdivQ s u, div_two_pow_split _ cnt, hc, pow_zero, Nat.div_one]
      rw [e] at r
      exact ⟨_, rfl, r⟩
    · rw [if_pos hc, mpn_rshift_ok hld hb (by omega) o.pos hc (Nat.mod_lt _ (by decide)) (by omega)]
      simp only []
      obtain ⟨hQlt, hQsz⟩ := quot_size (D := 2 ^ (cnt % 64)) (dl := 1) o.ge o.lt
        (by rw [Nat.sub_self, pow_zero]; exact Nat.one_le_two_pow) (by rw [pow_one]; exact two_pow_mod_lt cnt)
        (Nat.le_refl 1) o.pos
      rw [Nat.sub_add_cancel o.pos] at hQlt hQsz
      rw [limbAt_toLimbs ((setBlk_blk_self _ _ _).trans (congrArg some (wrAt_zero _ _))) (Nat.sub_lt o.pos Nat.one_pos)]
      simp only []
      rw [hQsz]
      have r := put_signed i1 k fr1 hw hbl hbL (l := toLimbs m (val H / 2 ^ (cnt % 64))) (wsize := sizeNat (val H / 2 ^ (cnt % 64)))
        (by rw [toLimbs_length]; exact hfit) (Limbs_toLimbs _ _) (by rw [val_toLimbs_lt _ _ hQlt]) (s.size u ≥ 0)
      have e : (if s.size u ≥ 0 then ((val (toLimbs m (val H / 2 ^ (cnt % 64))) : Nat) : Int)
          else -((val (toLimbs m (val H / 2 ^ (cnt % 64))) : Nat) : Int)) =
          DivZ.tdivQ (s.value u) ((2 ^ cnt : Nat) : Int) := by
        rw [val_toLimbs_lt _ _ hQlt, hval, ← div_two_pow_split, size_ite_tdivQ s u]
      rw [e] at r
      exact ⟨_, rfl, r⟩

theorem tdiv_q_2exp_ok {s : St} (h : Inv s) {w u : Nat} (hw : w < s.nv) (hu : u < s.nv) (cnt : Nat) :
    ∃ s', tdiv_q_2exp w u cnt s = .ok s' ∧ Res s s' w (DivZ.tdivQ (s.value u) ((2 ^ cnt : Nat) : Int)) :=
  (tdiv_q_2exp_post h hw hu cnt).mono fun _ p => p.res h hw

end Mpir.AliasMem
