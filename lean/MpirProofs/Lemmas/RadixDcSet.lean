/- C06 — mpn_dc_set_str and mpn_set_str_compute_powtab (models in Mpir/Model/RadixDc.lean). -/
import MpirProofs.Lemmas.RadixDc
import Mathlib.Data.Nat.Bitwise
namespace Mpir.RadixDc
open Mpir Mpir.Radix

/-! ### mpn_dc_set_str -/

/-- the multiply-and-add part of mpn_dc_set_str (set_str.c:238-265) -/
def dcCombine (pw : Pow) (h l : List Nat) : Option (List Nat) :=
  let rp := if h.length == 0 then List.replicate (pw.p.length + pw.shift) 0
            else List.replicate pw.shift 0 ++ toLimbs (pw.p.length + h.length) (val pw.p * val h)
  if l.length > h.length + pw.p.length + pw.shift then none else
  let sum := toLimbs (h.length + pw.p.length + pw.shift) (val rp + val l)
  some (if sum.getLast? == some 0 then sum.dropLast else sum)

/-- `BELOW_THRESHOLD (len, SET_STR_DC_THRESHOLD) ? mpn_bc_set_str : mpn_dc_set_str (…, powtab + 1, …)` -/
def dcPart (T base : Nat) (rest : List Pow) (len : Nat) (s : List Nat) : Option (List Nat) :=
  if len < T then some (bc_set_str base s) else dcSetStr T base rest s

theorem dcSetStr_cons (T base : Nat) (pw : Pow) (rest : List Pow) (str : List Nat) :
    dcSetStr T base (pw :: rest) str =
      if str.length ≤ pw.dib then dcPart T base rest str.length str
      else match dcPart T base rest (str.length - pw.dib) (str.take (str.length - pw.dib)),
                 dcPart T base rest pw.dib (str.drop (str.length - pw.dib)) with
        | some h, some l => dcCombine pw h l
        | _, _ => none := by
  rw [dcSetStr]; rfl

/-- result shape: empty or fewer limbs than the digit count allows -/
def Fits (b k : Nat) (r : List Nat) : Prop := r = [] ∨ B ^ (r.length - 1) < b ^ k

theorem combine_ok {b cpl e : Nat} {pw : Pow} (hb : 2 ≤ b) (hok : PowOk b cpl pw e) (k : Nat) (h l : List Nat)
    (hh : Limbs h) (_hl : Limbs l) (hvh : val h < b ^ k) (hvl : val l < (b ^ cpl) ^ e)
    (hfh : Fits b k h) (hfl : l = [] ∨ B ^ (l.length - 1) < (b ^ cpl) ^ e) :
    ∃ r, dcCombine pw h l = some r ∧ val r = val h * (b ^ cpl) ^ e + val l ∧ Limbs r ∧
      (r = [] ∨ B ^ (r.length - 1) < b ^ k * (b ^ cpl) ^ e) := by
  have hPlo := hok.lower
  have hPhi := hok.upper
  have hval := hok.value
  have hpl : 0 < pw.p.length := List.length_pos_iff.mpr hok.ne
  have hB1 : 1 < B := by rw [B_eq]; omega
  have hbk : 0 < b ^ k := Nat.pow_pos (by omega)
  generalize hP : (b ^ cpl) ^ e = P at *
  have hPpos : 0 < P := by rw [← hP]; exact Nat.pow_pos (Nat.pow_pos (by omega))
  generalize hlam : pw.p.length + pw.shift = lam at *
  have hlam1 : 1 ≤ lam := by omega
  -- ln ≤ λ
  have hll : l.length ≤ lam := by
    rcases hfl with h0 | h0
    · rw [h0]; simp
    · have := (Nat.pow_lt_pow_iff_right hB1).mp (lt_trans h0 hPhi); omega
  have hvhB := val_lt h hh
  -- value of rp
  have hrp : val (if h.length == 0 then List.replicate (pw.p.length + pw.shift) 0
            else List.replicate pw.shift 0 ++ toLimbs (pw.p.length + h.length) (val pw.p * val h)) = val h * P := by
    by_cases h0 : h.length = 0
    · have : h = [] := List.length_eq_zero_iff.mp h0
      subst this; simp [val_replicate_zero]
    · have hc : (h.length == 0) = false := by simpa using h0
      simp only [hc, Bool.false_eq_true, if_false]
      rw [val_append, val_replicate_zero, List.length_replicate, Nat.zero_add]
      have hfit : val pw.p * val h < B ^ (pw.p.length + h.length) := by
        rw [pow_add]; exact Nat.mul_lt_mul'' (val_lt _ hok.limbs) hvhB
      rw [val_toLimbs_lt _ _ hfit, ← hval]; ring
  unfold dcCombine
  simp only []
  rw [hrp, show h.length + pw.p.length + pw.shift = h.length + lam by omega, if_neg (by omega)]
  -- the sum fits n = hn + λ limbs
  have hfit : val h * P + val l < B ^ (h.length + lam) := by
    have h1 : val h * P + val l < (val h + 1) * P := by rw [Nat.add_mul, Nat.one_mul]; omega
    have h2 : (val h + 1) * P ≤ B ^ h.length * B ^ lam := Nat.mul_le_mul hvhB (Nat.le_of_lt hPhi)
    rw [pow_add]; omega
  have hV : val h * P + val l < b ^ k * P := by
    have h1 : val h * P + val l < (val h + 1) * P := by rw [Nat.add_mul, Nat.one_mul]; omega
    exact lt_of_lt_of_le h1 (Nat.mul_le_mul_right _ hvh)
  have sv := val_toLimbs_lt _ _ hfit
  have sl := toLimbs_length (h.length + lam) (val h * P + val l)
  have sL := Limbs_toLimbs (h.length + lam) (val h * P + val l)
  generalize toLimbs (h.length + lam) (val h * P + val l) = sum at *
  have sne : sum ≠ [] := by intro e0; rw [e0] at sl; simp at sl; omega
  have hs := dropLast_getLast! sum sne
  have hgl : sum.getLast? = some sum.getLast! := by
    conv_lhs => rw [← hs]
    simp
  rw [hgl]
  by_cases htop : sum.getLast! = 0
  · have hc : (some sum.getLast! == some 0) = true := by rw [htop]; rfl
    rw [if_pos hc]
    have dv : val sum.dropLast = val h * P + val l := by
      rw [← sv]; conv_rhs => rw [← hs]
      rw [val_snoc, htop]; simp
    refine ⟨_, rfl, dv, (Limbs_append.mp (hs ▸ sL)).1, ?_⟩
    rw [List.length_dropLast, sl]
    -- B^(n-2) < b^k·P unless the result is empty
    rcases Nat.lt_or_ge (h.length + lam) 2 with hsmall | hbig
    · left; apply List.eq_nil_of_length_eq_zero; rw [List.length_dropLast, sl]; omega
    · right
      rcases Nat.eq_zero_or_pos h.length with hz | hz
      · -- hn = 0: n = λ ≥ 2
        rw [hz] at hbig ⊢; simp only [Nat.zero_add] at hbig ⊢
        have h1 : B ^ (lam - 1 - 1) < B ^ (lam - 1) := Nat.pow_lt_pow_right hB1 (by omega)
        calc B ^ (lam - 1 - 1) < B ^ (lam - 1) := h1
          _ ≤ P := hPlo
          _ ≤ b ^ k * P := Nat.le_mul_of_pos_left _ hbk
      · have h0 : B ^ (h.length - 1) < b ^ k := by
          rcases hfh with h0 | h0
          · rw [h0] at hz; simp at hz
          · exact h0
        have e1 : h.length + lam - 1 - 1 = (h.length - 1) + (lam - 1) := by omega
        rw [e1, pow_add]
        exact Nat.mul_lt_mul_of_lt_of_le h0 hPlo hPpos
  · have hc : (some sum.getLast! == some 0) = false := by simpa using htop
    rw [if_neg (by rw [hc]; simp)]
    refine ⟨_, rfl, sv, sL, Or.inr ?_⟩
    have := val_ge_of_top sne htop
    rw [sv] at this
    exact lt_of_le_of_lt this hV

/-- what every part of the recursion returns -/
def SetRes (b : Nat) (s r : List Nat) : Prop := val r = ofDigits b s ∧ Limbs r ∧ Fits b s.length r

theorem bc_res {b : Nat} (hb : 2 ≤ b)
    (hbc : ∀ str : List Nat, str ≠ [] → (∀ d ∈ str, d < b) →
      val (bc_set_str b str) = ofDigits b str ∧ Limbs (bc_set_str b str) ∧ Norm (bc_set_str b str))
    (s : List Nat) (hne : s ≠ []) (hd : ∀ d ∈ s, d < b) : SetRes b s (bc_set_str b s) := by
  obtain ⟨h1, h2, h3⟩ := hbc s hne hd
  refine ⟨h1, h2, ?_⟩
  rcases h3 with h3 | h3
  · exact Or.inl h3
  · right; rw [h1] at h3; exact lt_of_le_of_lt h3 (ofDigits_lt (by omega) s hd)

/-- one level of mpn_dc_set_str, given that the parts (at most `digits_in_base` digits each) convert correctly -/
theorem dc_level {b cpl T e : Nat} {pw : Pow} {rest : List Pow} (hb : 2 ≤ b) (hcpl : 0 < cpl) (hok : PowOk b cpl pw e)
    (hp : ∀ (n : Nat) (s : List Nat), s.length = n → s ≠ [] → (∀ d ∈ s, d < b) → n ≤ cpl * e →
      ∃ r, dcPart T b rest n s = some r ∧ SetRes b s r)
    (str : List Nat) (hne : str ≠ []) (hd : ∀ d ∈ str, d < b) (hlen : str.length ≤ 2 * (cpl * e)) :
    ∃ r, dcSetStr T b (pw :: rest) str = some r ∧ SetRes b str r := by
  have hdib := hok.dib
  have he := hok.epos
  have hdpos : 0 < pw.dib := by rw [hdib]; exact Nat.mul_pos hcpl (by omega)
  rw [dcSetStr_cons]
  by_cases hle : str.length ≤ pw.dib
  · rw [if_pos hle]
    exact hp str.length str rfl hne hd (by omega)
  · rw [if_neg hle]
    have hhi_len : (str.take (str.length - pw.dib)).length = str.length - pw.dib := by
      rw [List.length_take]; omega
    have hlo_len : (str.drop (str.length - pw.dib)).length = pw.dib := by
      rw [List.length_drop]; omega
    obtain ⟨h, hh1, hh2, hh3, hh4⟩ := hp (str.length - pw.dib) (str.take (str.length - pw.dib)) hhi_len
      (by intro e0; rw [e0] at hhi_len; simp at hhi_len; omega)
      (fun d hm => hd d (List.mem_of_mem_take hm)) (by omega)
    obtain ⟨l, hl1, hl2, hl3, hl4⟩ := hp pw.dib (str.drop (str.length - pw.dib)) hlo_len
      (by intro e0; rw [e0] at hlo_len; simp at hlo_len; omega)
      (fun d hm => hd d (List.mem_of_mem_drop hm)) (by omega)
    rw [hh1, hl1]
    simp only []
    have hPb : (b ^ cpl) ^ e = b ^ pw.dib := by rw [hdib, pow_mul]
    have hvh : val h < b ^ (str.length - pw.dib) := by
      have := ofDigits_lt (b := b) (by omega) (str.take (str.length - pw.dib)) (fun d hm => hd d (List.mem_of_mem_take hm))
      rw [hhi_len] at this; rw [hh2]; exact this
    have hvl : val l < (b ^ cpl) ^ e := by
      have := ofDigits_lt (b := b) (by omega) (str.drop (str.length - pw.dib)) (fun d hm => hd d (List.mem_of_mem_drop hm))
      rw [hlo_len] at this; rw [hl2, hPb]; exact this
    unfold Fits at hl4
    rw [hhi_len] at hh4
    rw [hlo_len, ← hPb] at hl4
    obtain ⟨r, r1, r2, r3, r4⟩ := combine_ok hb hok (str.length - pw.dib) h l hh3 hl3 hvh hvl hh4 hl4
    refine ⟨r, r1, ?_, r3, ?_⟩
    · rw [r2, hh2, hl2, hPb]
      conv_rhs => rw [← List.take_append_drop (str.length - pw.dib) str, ofDigits_app, hlo_len]
    · rw [hPb, ← pow_add, show str.length - pw.dib + pw.dib = str.length by omega] at r4
      exact r4

/-- mpn_dc_set_str: for a table of exact powers (last entry = big_base, exponents at most doubling), digits
    below the base, at most `2·digits_in_base` digits at the current entry, and SET_STR_DC_THRESHOLD above
    chars_per_limb: the C never leaves the table, and the limbs returned have the value of the digit string. -/
theorem dcSetStr_ok {b cpl T : Nat} (hb : 2 ≤ b) (hcpl : 0 < cpl) (hT : cpl < T)
    (hbc : ∀ str : List Nat, str ≠ [] → (∀ d ∈ str, d < b) →
      val (bc_set_str b str) = ofDigits b str ∧ Limbs (bc_set_str b str) ∧ Norm (bc_set_str b str)) :
    ∀ (rest : List Pow) (es : List Nat) (pw : Pow) (e : Nat), GetTabOk b cpl (pw :: rest) (e :: es) →
    ∀ (str : List Nat), str ≠ [] → (∀ d ∈ str, d < b) → str.length ≤ 2 * (cpl * e) →
      ∃ r, dcSetStr T b (pw :: rest) str = some r ∧ SetRes b str r := by
  intro rest
  induction rest with
  | nil =>
    intro es pw e htab str hne hd hlen
    cases es with
    | cons _ _ => simp [GetTabOk] at htab
    | nil =>
    obtain ⟨hok, he⟩ := htab
    subst he
    refine dc_level hb hcpl hok ?_ str hne hd hlen
    intro n s hn sne sd hnle
    unfold dcPart
    rw [if_pos (by omega)]
    exact ⟨_, rfl, bc_res hb hbc s sne sd⟩
  | cons pw' tab ih =>
    intro es pw e htab str hne hd hlen
    cases es with
    | nil => simp [GetTabOk] at htab
    | cons e' es' =>
    obtain ⟨hok, hee, htab'⟩ := htab
    refine dc_level hb hcpl hok ?_ str hne hd hlen
    intro n s hn sne sd hnle
    unfold dcPart
    by_cases hlt : n < T
    · rw [if_pos hlt]; exact ⟨_, rfl, bc_res hb hbc s sne sd⟩
    · rw [if_neg hlt]
      exact ih es' pw' e' htab' s sne sd
        (hn ▸ le_trans hnle (Nat.mul_left_comm 2 cpl e' ▸ Nat.mul_le_mul_left cpl hee))

/-! ### mpn_set_str_compute_powtab -/

/-- per-base facts about `big_base & -big_base` (small numbers, checked by `decide +kernel`): it is a power of two
    dividing big_base and B, and the odd cofactor of big_base is coprime to B -/
def SetBaseOk (b : Nat) : Prop :=
  lowBit (bigBase b) = 2 ^ Nat.log2 (lowBit (bigBase b)) ∧ bigBase b % lowBit (bigBase b) = 0 ∧
  Nat.gcd (bigBase b / lowBit (bigBase b)) B = 1 ∧ B % lowBit (bigBase b) = 0
instance (b : Nat) : Decidable (SetBaseOk b) := by unfold SetBaseOk; infer_instance

theorem and_two_zero (x : Nat) : (x &&& 2 = 0) ↔ (x / 2) % 2 = 0 := by
  have := Nat.and_two_pow x 1
  simp at this
  rw [this, Nat.testBit_eq_decide_div_mod_eq]
  simp

/-- the strip loop of set_str.c:197 keeps the value, the top limb and divisibility by big_base -/
theorem stripLow2_spec {D lb od j : Nat} (hlb : lb = 2 ^ j) (hD : D = lb * od) (hco : Nat.Coprime od B)
    (hlbB : lb ∣ B) : ∀ (l : List Nat) (sh : Nat), D ∣ val l →
    val (stripLow2 (lb - 1) l sh).1 * B ^ (stripLow2 (lb - 1) l sh).2 = val l * B ^ sh ∧
    (∀ x ∈ (stripLow2 (lb - 1) l sh).1, x ∈ l) ∧
    ((stripLow2 (lb - 1) l sh).1 ≠ [] → (stripLow2 (lb - 1) l sh).1.getLast! = l.getLast!) ∧
    D ∣ val (stripLow2 (lb - 1) l sh).1
  | [], sh, h => by simp [stripLow2]
  | [x], sh, h => by simp [stripLow2]; exact h
  | t0 :: t1 :: rest, sh, h => by
    rw [stripLow2]
    split
    · rename_i hc
      simp only [Bool.and_eq_true, beq_iff_eq] at hc
      obtain ⟨h0, h1⟩ := hc
      subst h0
      -- big_base divides the number without its low zero limb
      have hv : val (0 :: t1 :: rest) = B * val (t1 :: rest) := by simp
      have hod : od ∣ val (t1 :: rest) := by
        have : od ∣ B * val (t1 :: rest) := by
          rw [← hv]; exact Dvd.dvd.trans ⟨lb, by rw [hD]; ring⟩ h
        exact Nat.Coprime.dvd_of_dvd_mul_left hco this
      have hlbd : lb ∣ val (t1 :: rest) := by
        rw [val_cons]
        refine Nat.dvd_add ?_ (Dvd.dvd.mul_right hlbB _)
        rw [hlb, Nat.and_two_pow_sub_one_eq_mod] at h1
        rw [hlb]; exact Nat.dvd_of_mod_eq_zero h1
      have hcop : Nat.Coprime lb od := (Nat.Coprime.coprime_dvd_right hlbB hco).symm
      have hDd : D ∣ val (t1 :: rest) := by
        rw [hD]; exact Nat.Coprime.mul_dvd_of_dvd_of_dvd hcop hlbd hod
      obtain ⟨r1, r2, r3, r4⟩ := stripLow2_spec hlb hD hco hlbB (t1 :: rest) (sh + 1) hDd
      refine ⟨?_, fun x hx => List.mem_cons_of_mem _ (r2 x hx), fun hne => ?_, r4⟩
      · rw [r1, hv, pow_succ]; ring
      · rw [r3 hne, getLast!_cons_cons]
    · exact ⟨rfl, fun x hx => hx, fun _ => rfl, h⟩

theorem GetTabOk.forall₂ {b cpl : Nat} : ∀ (tab : List Pow) (es : List Nat), GetTabOk b cpl tab es →
    List.Forall₂ (PowOk b cpl) tab es
  | [], [], h => by simp [GetTabOk] at h
  | [], _ :: _, h => by simp [GetTabOk] at h
  | _ :: _, [], h => by simp [GetTabOk] at h
  | [pw], [e], h => List.Forall₂.cons h.1 List.Forall₂.nil
  | [_], _ :: _ :: _, h => by simp [GetTabOk] at h
  | _ :: _ :: _, [_], h => by simp [GetTabOk] at h
  | pw :: pw' :: tab, e :: e' :: es, h => List.Forall₂.cons h.1 (GetTabOk.forall₂ (pw' :: tab) (e' :: es) h.2.2)

/-- exponent of big_base in powtab[pi]: `((un-1) >> (pi+1)) + 1` -/
def setExp (m pi : Nat) : Nat := (m >>> (pi + 1)) + 1

theorem setPowGo_ok {b cpl lb od j : Nat} (hb : 2 ≤ b) (hlb : lb = 2 ^ j) (hD : b ^ cpl = lb * od)
    (hco : Nat.Coprime od B) (hlbB : lb ∣ B) (hmask : lowBit (b ^ cpl) = lb) (m : Nat) :
    ∀ (k : Nat) (p : List Nat) (shift dib : Nat) (rest : List Pow) (n : Nat),
      GetTabOk b cpl (⟨p, shift, dib⟩ :: rest) ((List.range' k n).map (setExp m)) → 0 < n → b ^ cpl ∣ val p →
      GetTabOk b cpl (setPowGo (b ^ cpl) cpl m k p shift dib (⟨p, shift, dib⟩ :: rest))
        ((List.range' 0 (k + n)).map (setExp m))
  | 0, p, shift, dib, rest, n, htab, _, _ => by
    rw [setPowGo]; simpa using htab
  | pi + 1, p, shift, dib, rest, n, htab, hn, hdvd => by
    obtain ⟨n', rfl⟩ : ∃ n', n = n' + 1 := ⟨n - 1, by omega⟩
    rw [List.range'_succ, List.map_cons] at htab
    have hok := htab.head
    have hDpos : 0 < b ^ cpl := Nat.pow_pos (by omega)
    have hppos : 0 < val p := lt_of_lt_of_le (Nat.pow_pos B_pos) (val_ge_of_top hok.ne hok.top)
    have hv := hok.value
    have hdib := hok.dib
    have he1 := hok.epos
    simp only at hv hdib
    rw [setPowGo, hmask]
    simp only []
    -- the new exponent
    have hbit : setExp m pi = 2 * setExp m (pi + 1) - (if ((m >>> pi) &&& 2) == 0 then 1 else 0) := by
      unfold setExp
      have e1 : m >>> (pi + 1) = (m >>> pi) / 2 := by
        rw [Nat.shiftRight_succ]
      have e2 : m >>> (pi + 1 + 1) = (m >>> pi) / 2 / 2 := by
        rw [Nat.shiftRight_succ, Nat.shiftRight_succ]
      rw [e1, e2]
      generalize m >>> pi = x
      by_cases hz : x &&& 2 = 0
      · have hc : (x &&& 2 == 0) = true := by simpa using hz
        rw [if_pos hc]
        have := (and_two_zero _).mp hz
        omega
      · have hc : (x &&& 2 == 0) = false := by simpa using hz
        rw [if_neg (by rw [hc]; simp)]
        have : x / 2 % 2 ≠ 0 := fun h => hz ((and_two_zero _).mpr h)
        omega
    generalize hee : setExp m (pi + 1) = e at *
    generalize hdv : (((m >>> pi) &&& 2) == 0) = dv at *
    -- value, digit count and divisibility of the new power
    have key : ∃ t : Nat, t * B ^ (2 * shift) = (b ^ cpl) ^ (setExp m pi) ∧ b ^ cpl ∣ t ∧
        (if dv = true then val p * val p / b ^ cpl else val p * val p) = t ∧
        (if dv = true then 2 * dib - cpl else 2 * dib) = cpl * setExp m pi := by
      have hsq := sq_value hv
      obtain ⟨w, hw⟩ := hdvd
      have hwpos : 0 < w := by
        rcases Nat.eq_zero_or_pos w with h | h
        · rw [h] at hw; simp at hw; omega
        · exact h
      cases dv with
      | true =>
        simp only [if_true] at hbit ⊢
        have hq : val p * val p / b ^ cpl = w * (b ^ cpl * w) := by
          rw [hw, Nat.mul_assoc, Nat.mul_div_cancel_left _ hDpos]
        refine ⟨w * (b ^ cpl * w), ?_, ⟨w * w, by ring⟩, hq, ?_⟩
        · have h2 : w * (b ^ cpl * w) * B ^ (2 * shift) * b ^ cpl = (b ^ cpl) ^ (2 * e - 1) * b ^ cpl := by
            rw [← pow_succ, show 2 * e - 1 + 1 = 2 * e by omega, ← hsq, hw]; ring
          rw [hbit]; exact Nat.eq_of_mul_eq_mul_right hDpos h2
        · rw [hbit, hdib, Nat.mul_sub, Nat.mul_one]; congr 1; ring
      | false =>
        simp only [Bool.false_eq_true, if_false] at hbit ⊢
        refine ⟨val p * val p, ?_, Dvd.dvd.mul_right ⟨w, hw⟩ _, rfl, ?_⟩
        · rw [hbit, Nat.sub_zero]; exact hsq
        · rw [hbit, hdib, Nat.sub_zero]; ring
    obtain ⟨t, htv, htd, e1, e2⟩ := key
    rw [e1, e2]
    obtain ⟨s1, s2, s3, s4⟩ := stripLow2_spec hlb hD hco hlbB (natLimbs t) (2 * shift) (by rw [val_natLimbs_eq]; exact htd)
    generalize hst : stripLow2 (lb - 1) (natLimbs t) (2 * shift) = st at *
    obtain ⟨tl, sh'⟩ := st
    simp only at s1 s2 s3 s4 ⊢
    have hnew : PowOk b cpl ⟨tl, sh', cpl * setExp m pi⟩ (setExp m pi) :=
      PowOk.of_stripped hb (by unfold setExp; exact Nat.le_add_left 1 _) htv s1 s2 s3
    have hle : setExp m pi ≤ 2 * e := by rw [hbit]; omega
    have htab' : GetTabOk b cpl (⟨tl, sh', cpl * setExp m pi⟩ :: ⟨p, shift, dib⟩ :: rest)
        ((List.range' pi (n' + 1 + 1)).map (setExp m)) := by
      rw [List.range'_succ, List.map_cons, List.range'_succ, List.map_cons, hee]
      exact ⟨hnew, hle, htab⟩
    have := setPowGo_ok hb hlb hD hco hlbB hmask m pi tl sh' (cpl * setExp m pi) (⟨p, shift, dib⟩ :: rest)
      (n' + 1 + 1) htab' (by omega) s4
    rw [show pi + 1 + (n' + 1) = pi + (n' + 1 + 1) by omega]
    exact this

/-- the table mpn_set_str_compute_powtab builds: entry `pi` is `big_base^(((un-1) >> (pi+1)) + 1)` -/
theorem setPowtabX_ok {b cpl lb od j : Nat} (hb : 2 ≤ b) (hbb : b ^ cpl < B) (hlb : lb = 2 ^ j) (hD : b ^ cpl = lb * od)
    (hco : Nat.Coprime od B) (hlbB : lb ∣ B) (hmask : lowBit (b ^ cpl) = lb) (un : Nat) (hun : 2 ≤ un) :
    GetTabOk b cpl (setPowtabX (b ^ cpl) cpl un)
      ((List.range' 0 (Nat.log2 (un - 1) + 1)).map (setExp (un - 1))) := by
  unfold setPowtabX
  rw [if_neg (by omega)]
  simp only []
  have hp0 := p0_ok (cpl := cpl) hb hbb
  have hm : un - 1 ≠ 0 := by omega
  have hlog : un - 1 < 2 ^ (Nat.log2 (un - 1) + 1) := Nat.lt_log2_self
  have hbase : GetTabOk b cpl [⟨[b ^ cpl], 0, cpl⟩] ((List.range' (Nat.log2 (un - 1)) 1).map (setExp (un - 1))) := by
    simp only [List.range'_one, List.map_cons, List.map_nil]
    have : setExp (un - 1) (Nat.log2 (un - 1)) = 1 := by
      unfold setExp
      rw [Nat.shiftRight_eq_div_pow, Nat.div_eq_of_lt hlog]
    rw [this]
    exact ⟨hp0, rfl⟩
  exact setPowGo_ok hb hlb hD hco hlbB hmask (un - 1) (Nat.log2 (un - 1)) [b ^ cpl] 0 cpl [] 1 hbase (by omega)
    (by simp)

/-- the table of mpn_set_str_compute_powtab from the per-base facts -/
theorem setPowtab_ok {b : Nat} (hb : 2 ≤ b) (hok : NonPow2Ok b) (hsb : SetBaseOk b) (un : Nat) (hun : 2 ≤ un) :
    GetTabOk b (charsPerLimb b) (setPowtab b un)
      ((List.range' 0 (Nat.log2 (un - 1) + 1)).map (setExp (un - 1))) := by
  obtain ⟨s1, s2, s3, s4⟩ := hsb
  rw [hok.1] at s1 s2 s3 s4
  unfold setPowtab
  rw [hok.1]
  exact setPowtabX_ok (lb := lowBit (b ^ charsPerLimb b)) (od := b ^ charsPerLimb b / lowBit (b ^ charsPerLimb b))
    hb hok.2.1 s1 (Nat.mul_div_cancel' (Nat.dvd_of_mod_eq_zero s2)).symm s3 (Nat.dvd_of_mod_eq_zero s4) rfl un hun

/-! ### mpn_set_str, all sizes -/

theorem cpl_lt_64 {b : Nat} (hb : 2 ≤ b) (hok : NonPow2Ok b) : charsPerLimb b < 64 := by
  have h1 : 2 ^ charsPerLimb b ≤ b ^ charsPerLimb b := Nat.pow_le_pow_left hb _
  have h2 := hok.2.1
  rw [B_eq] at h2
  have : (2 : Nat) ^ charsPerLimb b < 2 ^ 64 := by omega
  exact (Nat.pow_lt_pow_iff_right (by omega)).mp this

theorem set_str_dc_branch {b : Nat} (hb : 2 ≤ b) (hb62 : b ≤ 62) (hok : NonPow2Ok b) (hsb : SetBaseOk b)
    (T : Nat) (hT : 64 ≤ T) (str : List Nat) (hd : ∀ d ∈ str, d < b) (hlen : charsPerLimb b ≤ str.length) :
    ∃ r, dcSetStr T b (setPowtab b (str.length / charsPerLimb b + 1)) str = some r ∧
      val r = ofDigits b str ∧ Limbs r := by
  have hcpl := hok.cpl_pos hb62
  have hbb : b ^ charsPerLimb b < B := hok.2.1
  have hc64 := cpl_lt_64 hb hok
  have hne : str ≠ [] := by intro e0; rw [e0] at hlen; simp at hlen; omega
  have hm1 : 1 ≤ str.length / charsPerLimb b := (Nat.one_le_div_iff hcpl).mpr hlen
  have htab := setPowtab_ok hb hok hsb (str.length / charsPerLimb b + 1) (by omega)
  rw [Nat.add_sub_cancel] at htab
  rw [List.range'_succ, List.map_cons] at htab
  generalize setPowtab b (str.length / charsPerLimb b + 1) = tab at *
  cases tab with
  | nil => simp [GetTabOk] at htab
  | cons pw rest =>
    have hbc := fun (s : List Nat) (h1 : s ≠ []) (h2 : ∀ d ∈ s, d < b) => bc_set_str_full hb hb62 hok s h1 h2
    obtain ⟨r, r1, r2, r3, _⟩ := dcSetStr_ok hb hcpl (by omega : charsPerLimb b < T) hbc rest _ pw _ htab str hne hd
      (by
        unfold setExp
        rw [Nat.shiftRight_eq_div_pow]
        simp only [Nat.zero_add, pow_one]
        have h1 := Nat.lt_mul_div_succ str.length hcpl
        generalize str.length / charsPerLimb b = m at *
        have h2 : m + 1 ≤ 2 * (m / 2 + 1) := by omega
        have h3 : charsPerLimb b * (m + 1) ≤ charsPerLimb b * (2 * (m / 2 + 1)) := Nat.mul_le_mul_left _ h2
        have e : 2 * (charsPerLimb b * (m / 2 + 1)) = charsPerLimb b * (2 * (m / 2 + 1)) := by ring
        omega)
    exact ⟨r, r1, r2, r3⟩

/-- mpn_set_str with the divide-and-conquer branch modelled, every base 2..62, every non-empty digit string,
    every pair of thresholds with SET_STR_DC_THRESHOLD ≥ 100 and SET_STR_PRECOMPUTE_THRESHOLD at least that
    (the minima of tune/tuneup.c): the limbs returned have exactly the value of the digit string -/
theorem mpn_set_str_dc_of_table {b : Nat} (hb : 2 ≤ b) (hb62 : b ≤ 62)
    (hnp : pow2P b = false → NonPow2Ok b ∧ SetBaseOk b) (hp : pow2P b = true → Pow2Ok b)
    (dcT preT : Nat) (hdc : 100 ≤ dcT) (hpre : dcT ≤ preT) (str : List Nat) (hne : str ≠ [])
    (hd : ∀ d ∈ str, d < b) :
    ∃ r, mpn_set_str_dc dcT preT b str = some r ∧ val r = ofDigits b str ∧ Limbs r := by
  unfold mpn_set_str_dc
  cases hpw : pow2P b with
  | true =>
    simp only [if_true]
    have hok := hp hpw
    obtain ⟨h1, h2⟩ := set_str_pow2_of_table hok (bigBase_le_64 hb62 hok) str hd
    exact ⟨_, rfl, h1, h2⟩
  | false =>
    simp only [Bool.false_eq_true, if_false]
    obtain ⟨hok, hsb⟩ := hnp hpw
    split
    · obtain ⟨h1, h2, _⟩ := bc_set_str_full hb hb62 hok str hne hd
      exact ⟨_, rfl, h1, h2⟩
    · rename_i hlen
      have hc64 := cpl_lt_64 hb hok
      exact set_str_dc_branch hb hb62 hok hsb dcT (by omega) str hd (by omega)

end Mpir.RadixDc
