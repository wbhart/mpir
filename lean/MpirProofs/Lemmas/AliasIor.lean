/- mpz_ior on the pointer-level model: the allocation requests of ior.c (MIN (sizes) in the -,- case, the size of the
   negative operand in the mixed case) are enough because `x & (y - 1) + 1` cannot carry out of the limbs of `y`. -/
import MpirProofs.Lemmas.AliasBits
namespace Mpir.AliasMem
open Mpir

theorem ior_fit (x y : Bits.Z) (hx : x.WF) (hy : y.WF) :
    (Bits.mpz_ior x y).mag.length ≤ (iorPlan x.neg x.mag y.neg y.mag).need := by
  have := Bits.mpz_ior_len x y hx hy
  unfold iorPlan; cases hxn : x.neg <;> cases hyn : y.neg <;> simp_all

theorem mpz_ior_post {s : St} (h : Inv s) {res op1 op2 : Nat} (hr : res < s.nv) (h1 : op1 < s.nv) (h2 : op2 < s.nv) :
    Ok (mpz_ior res op1 op2 s) (fun s' => Post s s' res (Int.lor (s.value op1) (s.value op2))) := by
  have := logic_post iorPlan Bits.mpz_ior (fun n1 a n2 b => by unfold iorPlan; split <;> [rfl; (split <;> [rfl; (split <;> rfl)])])
    (fun x y hx hy => (Bits.mpz_ior_lor x y hx hy).2) ior_fit h hr h1 h2
  rw [(Bits.mpz_ior_lor _ _ (Zof_WF h h1) (Zof_WF h h2)).1, Zof_toInt, Zof_toInt, Bits.lor_eq] at this
  exact this

theorem mpz_ior_ok {s : St} (h : Inv s) {res op1 op2 : Nat} (hr : res < s.nv) (h1 : op1 < s.nv) (h2 : op2 < s.nv) :
    ∃ s', mpz_ior res op1 op2 s = .ok s' ∧ Res s s' res (Int.lor (s.value op1) (s.value op2)) :=
  (mpz_ior_post h hr h1 h2).mono fun _ p => p.res h hr

end Mpir.AliasMem
