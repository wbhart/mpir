/- mpn_gcd at value level.  An mpn_hgcd2 matrix satisfying `lehmerOk` and every subtraction and division step of
   mpn_gcd_subdiv_step (s = 0, model `subdivStep`, with its hook calls) are instances of `MRel`, so the gcd and the
   cofactor relation survive; the gcd-found exits are classified (`ExitOk`) for the bound on the cofactor.  Then gcd_2,
   the Lehmer loop and the n ≤ 2 endgame against gcd. -/

import MpirProofs.Lemmas.GcdLoop
import MpirProofs.Lemmas.GcdMpz

namespace Mpir.Gcd
open Mpir

/-! ### `LInv`: n is the size of the pair -/

theorem linv_iff {a b n : Nat} : LInv a b n ↔ 0 < a ∧ 0 < b ∧ n = max (nlimbs a) (nlimbs b) := by
  unfold LInv
  simp only [nlimbs_isSize.lt_pow_iff, nlimbs_isSize.pow_le_iff]
  constructor
  · rintro ⟨ha, hb, h0, h1, ht, hn⟩; exact ⟨ha, hb, by omega⟩
  · rintro ⟨ha, hb, h⟩
    have := nlimbs_pos ha
    exact ⟨ha, hb, by omega, by omega, by omega, by omega⟩

theorem linv_nlimbs {x y : Nat} (hx : 0 < x) (hxy : x ≤ y) : LInv x y (nlimbs y) ∧ LInv y x (nlimbs y) := by
  have := nlimbs_isSize.mono hxy
  exact ⟨linv_iff.mpr ⟨hx, lt_of_lt_of_le hx hxy, by omega⟩, linv_iff.mpr ⟨lt_of_lt_of_le hx hxy, hx, by omega⟩⟩

/-- the operands of mpn_gcd / mpn_gcdext after the initial division: U (or U mod V ≠ 0) and V with n = nlimbs V -/
theorem linv_operands {U V : Nat} (hV : 0 < V) (hle : nlimbs V ≤ nlimbs U) :
    (U % V ≠ 0 → LInv (U % V) V (nlimbs V)) ∧ (¬ nlimbs U > nlimbs V → LInv U V (nlimbs V)) := by
  refine ⟨fun hz => (linv_nlimbs (Nat.pos_of_ne_zero hz) (Nat.mod_lt _ hV).le).1, fun hgt => ?_⟩
  have := nlimbs_pos hV
  exact linv_iff.mpr ⟨nlimbs_pos_iff.mp (by omega), hV, by omega⟩

open Mpir.Hgcd

/-! ### the cofactor row (`CofOk`, `LocOk`) through mpn_gcd_subdiv_step with s = 0 (gcd_subdiv_step.c) -/

/-- (u0, u1) is the second row of a matrix that takes the current pair (a, b) to the inputs (A, Bv); `CofInv` (GcdLoop,
    the spelling of the property theorems) names the first row, `CofOk` only says that one exists (`cofInv_iff`) -/
def CofOk (A Bv a b u0 u1 : Nat) : Prop := ∃ v0 v1, MRel ⟨v0, v1, u0, u1⟩ a b A Bv

theorem cofOk_init (A Bv : Nat) : CofOk A Bv A Bv 0 1 := ⟨1, 0, mrel_id A Bv⟩

theorem cofOk_step {A Bv a b a' b' u0 u1 : Nat} {m : M1} (h : CofOk A Bv a b u0 u1) (hr : MRel m a' b' a b) :
    CofOk A Bv a' b' (u0 * m.u00 + u1 * m.u10) (u0 * m.u01 + u1 * m.u11) := by
  obtain ⟨v0, v1, hc⟩ := h
  exact ⟨_, _, mrel_comp hc hr⟩

theorem cofOk_le {A Bv a b u0 u1 : Nat} (h : CofOk A Bv a b u0 u1) : a ≤ A ∧ b ≤ Bv := by
  obtain ⟨v0, v1, hr⟩ := h
  exact mrel_le hr

theorem cofOk_a {A Bv a b u0 u1 : Nat} (h : CofOk A Bv a b u0 u1) : ∃ t : Int, (A : Int) * u1 + Bv * t = a := by
  obtain ⟨v0, v1, hr⟩ := h
  have := (mrel_inverse hr).1
  simp only at this
  exact ⟨-(v1 : Int), by zify at this; linarith⟩

theorem cofOk_b {A Bv a b u0 u1 : Nat} (h : CofOk A Bv a b u0 u1) :
    ∃ t : Int, (A : Int) * (-(u0 : Int)) + Bv * t = b := by
  obtain ⟨v0, v1, hr⟩ := h
  have := (mrel_inverse hr).2
  simp only at this
  exact ⟨(v0 : Int), by zify at this; linarith⟩

/-- the local view of mpn_gcd_subdiv_step: (la, lb) are the caller's (a, b), swapped iff `sw` -/
def LocOk (A Bv la lb : Nat) (sw : Bool) (w : Nat × Nat) : Prop := ∃ v0 v1, LRel sw ⟨v0, v1, w.1, w.2⟩ la lb A Bv

theorem locOk_iff {A Bv la lb : Nat} {sw : Bool} {w : Nat × Nat} :
    LocOk A Bv la lb sw w ↔ CofOk A Bv (if sw then lb else la) (if sw then la else lb) w.1 w.2 := by
  simp only [LocOk, CofOk, lrel_iff]

theorem locOk_swap {A Bv la lb : Nat} {sw : Bool} {w : Nat × Nat} (h : LocOk A Bv la lb sw w) :
    LocOk A Bv lb la (!sw) w := by
  obtain ⟨v0, v1, h⟩ := h
  exact ⟨v0, v1, lrel_swap h⟩

theorem pick_zero (u0 u1 : Nat) : pickCofactor u0 u1 0 = u1 := by
  unfold pickCofactor; simp
theorem pick_one (u0 u1 : Nat) : pickCofactor u0 u1 1 = -(u0 : Int) := by
  unfold pickCofactor; simp

theorem locOk_sub {A Bv la lb : Nat} {sw : Bool} {w : Nat × Nat} (q : Nat) (h : LocOk A Bv la lb sw w)
    (hq : q * la ≤ lb) : LocOk A Bv la (lb - q * la) sw (hookQ w (q, sw)) := by
  obtain ⟨v0, v1, h⟩ := h
  have := lrel_sub q h hq
  cases sw
  · exact ⟨v0 + q * v1, v1, by simpa [mmul, elemQ, hookQ, Nat.mul_comm] using this⟩
  · exact ⟨v0, v1 + q * v0, by simpa [mmul, elemQ, hookQ, Nat.mul_comm, Nat.add_comm] using this⟩

theorem locOk_div {A Bv lo hi : Nat} {sw : Bool} {w : Nat × Nat} (h : LocOk A Bv lo hi sw w) :
    LocOk A Bv lo (hi % lo) sw (hookQ w (hi / lo, sw)) := by
  have := locOk_sub (hi / lo) h (Nat.div_mul_le_self hi lo)
  rwa [show hi - hi / lo * lo = hi % lo by have := Nat.div_add_mod hi lo; rw [Nat.mul_comm] at this; omega] at this

/-- the caller's pair (a, b) at the moment the hook is called with gp != NULL, and what d says about it -/
def ExitOk (A Bv : Nat) (w : Nat × Nat) (g : Nat) (d : Int) : Prop :=
  ∃ a b, 0 < a ∧ 0 < b ∧ CofOk A Bv a b w.1 w.2 ∧
    ((d = -1 ∧ a = g ∧ b = g) ∨ (d = 0 ∧ a = g ∧ ∃ q, 2 ≤ q ∧ b = q * g) ∨ (d = 1 ∧ b = g ∧ ∃ q, 2 ≤ q ∧ a = q * g))

theorem loc_exit {A Bv lo hi q : Nat} {s : Bool} {w : Nat × Nat} (h : LocOk A Bv lo hi s w) (hlo : 0 < lo)
    (hq : 2 ≤ q) (hhi : hi = q * lo) : ExitOk A Bv w lo (if s then 1 else 0) := by
  have h := locOk_iff.mp h
  have hhi0 : 0 < hi := by rw [hhi]; exact Nat.mul_pos (by omega) hlo
  cases s
  · simp only [Bool.false_eq_true, if_false] at h ⊢
    exact ⟨lo, hi, hlo, hhi0, h, Or.inr (Or.inl ⟨rfl, rfl, q, hq, hhi⟩)⟩
  · simp only [if_true] at h ⊢
    exact ⟨hi, lo, hhi0, hlo, h, Or.inr (Or.inr ⟨rfl, rfl, q, hq, hhi⟩)⟩

/-- what one mpn_gcd_subdiv_step with the cofactor hook guarantees for a pair with gcd G and sum S whose cofactors on
    entry are `init` -/
def SubdivOk (A Bv G S : Nat) (init : Nat × Nat) (r : Subdiv) : Prop :=
  (∀ g d, r.fin = some (g, d) → g = G ∧ ExitOk A Bv (r.qs.foldl hookQ init) g d) ∧
  (r.fin = none → LInv r.a r.b r.n ∧ Nat.gcd r.a r.b = G ∧ r.a + r.b < S ∧
    CofOk A Bv r.a r.b (r.qs.foldl hookQ init).1 (r.qs.foldl hookQ init).2)

theorem subdivDivide_spec (A Bv la lb : Nat) (sw : Bool) (q1 : List (Nat × Bool)) (a b : Nat) (init : Nat × Nat)
    (h0a : 0 < la) (h0b : 0 < lb) (hne : la ≠ lb) (h : LocOk A Bv la lb sw (q1.foldl hookQ init)) :
    SubdivOk A Bv (Nat.gcd la lb) (la + lb) init (subdivDivide la lb sw q1 a b) := by
  -- reduce to lo < hi
  have key : ∀ (lo hi : Nat) (s : Bool), 0 < lo → lo < hi → Nat.gcd lo hi = Nat.gcd la lb → lo + hi = la + lb →
      LocOk A Bv lo hi s (q1.foldl hookQ init) →
      SubdivOk A Bv (Nat.gcd la lb) (la + lb) init
        (if hi % lo = 0 then ⟨q1, some (lo, if s then 1 else 0), a, b, 0⟩
         else if s then ⟨q1 ++ [(hi / lo, s)], none, hi % lo, lo, nlimbs lo⟩
         else ⟨q1 ++ [(hi / lo, s)], none, lo, hi % lo, nlimbs lo⟩) := by
    intro lo hi s hlo hlt hg hs hloc
    have hrlt : hi % lo < lo := Nat.mod_lt _ hlo
    have hgr : Nat.gcd (hi % lo) lo = Nat.gcd la lb := by rw [← hg, Nat.gcd_rec lo hi]
    by_cases hr : hi % lo = 0
    · rw [if_pos hr]
      refine ⟨fun g d hfin => ?_, fun hfin => by simp at hfin⟩
      simp only [Option.some.injEq, Prod.mk.injEq] at hfin
      obtain ⟨hq, he⟩ := quot_of_mod_zero hlt hr
      rw [← hfin.1, ← hfin.2]
      exact ⟨by rw [← hgr, hr, Nat.gcd_zero_left], loc_exit hloc hlo hq he⟩
    · rw [if_neg hr]
      obtain ⟨l1, l2⟩ := linv_nlimbs (Nat.pos_of_ne_zero hr) hrlt.le
      have hd := locOk_iff.mp (locOk_div hloc)
      cases s
      · simp only [Bool.false_eq_true, if_false] at hd ⊢
        refine ⟨fun g d hfin => by simp at hfin, fun _ => ⟨l2, by rw [Nat.gcd_comm]; exact hgr, ?_, ?_⟩⟩
        · show lo + hi % lo < la + lb; omega
        · show CofOk A Bv lo (hi % lo) ((q1 ++ [(hi / lo, false)]).foldl hookQ init).1 ((q1 ++ [(hi / lo, false)]).foldl hookQ init).2
          rw [List.foldl_append]; exact hd
      · simp only [if_true] at hd ⊢
        refine ⟨fun g d hfin => by simp at hfin, fun _ => ⟨l1, hgr, ?_, ?_⟩⟩
        · show hi % lo + lo < la + lb; omega
        · show CofOk A Bv (hi % lo) lo ((q1 ++ [(hi / lo, true)]).foldl hookQ init).1 ((q1 ++ [(hi / lo, true)]).foldl hookQ init).2
          rw [List.foldl_append]; exact hd
  unfold subdivDivide
  dsimp only
  by_cases hgt : la > lb
  · simp only [if_pos hgt]
    exact key lb la (!sw) h0b hgt (Nat.gcd_comm _ _) (Nat.add_comm _ _) (locOk_swap h)
  · simp only [if_neg hgt]
    exact key la lb sw h0a (by omega) rfl rfl h

theorem subdivOrdered_spec (A Bv la lb : Nat) (sw : Bool) (a b : Nat) (init : Nat × Nat)
    (h0a : 0 < la) (hlt : la < lb) (h : LocOk A Bv la lb sw init) :
    SubdivOk A Bv (Nat.gcd la lb) (la + lb) init (subdivOrdered la lb sw a b) := by
  unfold subdivOrdered
  rw [if_neg (by omega)]
  dsimp only
  have hg : Nat.gcd la (lb - la) = Nat.gcd la lb := by
    conv_rhs => rw [show lb = (lb - la) + la by omega]
    rw [Nat.gcd_add_self_right]
  by_cases he : la = lb - la
  · rw [if_pos he]
    refine ⟨fun g d hfin => ?_, fun hfin => by simp at hfin⟩
    simp only [Option.some.injEq, Prod.mk.injEq] at hfin
    rw [← hfin.1, ← hfin.2, ← he]
    exact ⟨by rw [← hg, ← he, Nat.gcd_self], loc_exit (q := 2) h h0a (le_refl _) (by omega)⟩
  · rw [if_neg he]
    -- the subtraction step lb -= la with hook (1, sw)
    have hloc : LocOk A Bv la (lb - la) sw (hookQ init (1, sw)) := by
      simpa using locOk_sub 1 h (by omega)
    obtain ⟨t1, t2⟩ := subdivDivide_spec A Bv la (lb - la) sw [(1, sw)] a b init h0a (by omega) he hloc
    rw [hg] at t1 t2
    exact ⟨t1, fun hf => by obtain ⟨x1, x2, x3, x4⟩ := t2 hf; exact ⟨x1, x2, by omega, x4⟩⟩

theorem subdivStep_spec (A Bv a b u0 u1 : Nat) (ha : 0 < a) (hb : 0 < b) (h : CofOk A Bv a b u0 u1) :
    SubdivOk A Bv (Nat.gcd a b) (a + b) (u0, u1) (subdivStep a b) := by
  unfold subdivStep
  by_cases hab : a = b
  · rw [if_pos hab]
    refine ⟨fun g d hfin => ?_, fun hfin => by simp at hfin⟩
    simp only [Option.some.injEq, Prod.mk.injEq] at hfin
    obtain ⟨hg, hd⟩ := hfin
    exact ⟨by rw [← hg, ← hab, Nat.gcd_self], a, b, ha, hb, h, Or.inl ⟨hd.symm, hg, by rw [← hab]; exact hg⟩⟩
  · rw [if_neg hab]
    by_cases hgt : a > b
    · rw [if_pos hgt]
      have := subdivOrdered_spec A Bv b a true a b (u0, u1) hb hgt (locOk_iff.mpr (by simpa using h))
      rwa [Nat.gcd_comm, Nat.add_comm] at this
    · rw [if_neg hgt]
      exact subdivOrdered_spec A Bv a b false a b (u0, u1) ha (by omega) (locOk_iff.mpr (by simpa using h))

/-! ### gcd_2 (gcd.c), the Lehmer loop of mpn_gcd and the n ≤ 2 endgame -/

theorem ctz_low (d : Nat) (h : d % B ≠ 0) : ctz (d % B) = ctz d := ctz_isCtz.low (n := 64) h trivial trivial

theorem sub_mod_ne_zero (u v : Nat) (hle : v ≤ u) (h : u % B ≠ v % B) : (u - v) % B ≠ 0 := by
  intro h0
  apply h
  have : B ∣ u - v := Nat.dvd_of_mod_eq_zero h0
  exact ((Nat.modEq_iff_dvd' hle).mpr this).symm

theorem odd_sub_strip (u v : Nat) (hu : u % 2 = 1) (hv : v % 2 = 1) (hlt : v < u) :
    ((u - v) >>> ctz (u - v)) % 2 = 1 ∧ Nat.gcd ((u - v) >>> ctz (u - v)) v = Nat.gcd u v ∧
    (u - v) >>> ctz (u - v) < u ∧ 0 < (u - v) >>> ctz (u - v) := by
  have h0 : 0 < u - v := by omega
  have hodd := ctz_odd (u - v) h0
  have hmul := ctz_mul (u - v) h0
  refine ⟨hodd, ?_, ?_, odd_pos hodd⟩
  · have : Nat.gcd (u - v) v = Nat.gcd u v := by
      conv_rhs => rw [show u = (u - v) + v by omega]
      rw [Nat.gcd_add_self_left]
    rw [← this]
    conv_rhs => rw [← hmul]
    exact (gcd_two_pow_odd _ _ _ hv).symm
  · exact lt_of_le_of_lt (Nat.shiftRight_le _ _) (by omega)

theorem gcd2Loop_spec : ∀ (f u v : Nat), u % 2 = 1 → v % 2 = 1 → u + v ≤ f →
    (gcd2Loop f u v).1 % 2 = 1 ∧ (gcd2Loop f u v).2 % 2 = 1 ∧
    Nat.gcd (gcd2Loop f u v).1 (gcd2Loop f u v).2 = Nat.gcd u v ∧
    (gcd2Loop f u v).1 ≤ u ∧ (gcd2Loop f u v).2 ≤ v ∧
    ((gcd2Loop f u v).1 / B = (gcd2Loop f u v).2 / B ∨ (gcd2Loop f u v).1 % B = (gcd2Loop f u v).2 % B)
  | 0, u, v, hu, hv, hf => by omega
  | f + 1, u, v, hu, hv, hf => by
    unfold gcd2Loop
    by_cases hc : u / B ≠ v / B ∧ u % B ≠ v % B
    · rw [if_pos hc]
      by_cases hgt : u / B > v / B
      · rw [if_pos hgt]
        dsimp only
        have hlt : v < u := Nat.lt_of_div_lt_div hgt
        rw [ctz_low _ (sub_mod_ne_zero u v (le_of_lt hlt) hc.2)]
        obtain ⟨o1, o2, o3, o4⟩ := odd_sub_strip u v hu hv hlt
        obtain ⟨i1, i2, i3, i4, i5, i6⟩ := gcd2Loop_spec f _ v o1 hv (by omega)
        exact ⟨i1, i2, by rw [i3, o2], by omega, i5, i6⟩
      · rw [if_neg hgt]
        dsimp only
        have hlt : u < v := Nat.lt_of_div_lt_div (by omega : u / B < v / B)
        rw [ctz_low _ (sub_mod_ne_zero v u (le_of_lt hlt) (fun h => hc.2 h.symm))]
        obtain ⟨o1, o2, o3, o4⟩ := odd_sub_strip v u hv hu hlt
        obtain ⟨i1, i2, i3, i4, i5, i6⟩ := gcd2Loop_spec f u _ hu o1 (by omega)
        exact ⟨i1, i2, by rw [i3, Nat.gcd_comm, o2, Nat.gcd_comm], i4, by omega, i6⟩
    · rw [if_neg hc]
      refine ⟨hu, hv, rfl, le_refl _, le_refl _, ?_⟩
      by_contra hcon
      apply hc
      constructor
      · intro h; exact hcon (Or.inl h)
      · intro h; exact hcon (Or.inr h)

theorem two_limbs (x : Nat) (h : x < B * B) : Limbs [x % B, x / B] ∧ val [x % B, x / B] = x := by
  refine ⟨Limbs_cons.mpr ⟨Nat.mod_lt _ B_pos, Limbs_cons.mpr ⟨Nat.div_lt_of_lt_mul h, Limbs_nil⟩⟩, ?_⟩
  simp only [val_cons, val_nil, Nat.mul_zero, Nat.add_zero]
  exact Nat.mod_add_div x B

/-- the one- or two-limb operand gcd_2 hands to mpn_gcd_1 (gcd.c:112) -/
theorem two_limbs_norm (x : Nat) (h : x < B * B) :
    Limbs (if x / B ≠ 0 then [x % B, x / B] else [x % B]) ∧ val (if x / B ≠ 0 then [x % B, x / B] else [x % B]) = x := by
  split
  · exact two_limbs x h
  · rename_i h0
    have := two_limbs x h
    rw [not_not.mp h0] at this
    exact ⟨Limbs_cons.mpr ⟨(Limbs_cons.mp this.1).1, Limbs_nil⟩, by simpa [val_cons] using this.2⟩

theorem gcd_of_add {u v x : Nat} (h : u + x = v ∨ v + x = u) : Nat.gcd u x = Nat.gcd u v := by
  rcases h with rfl | rfl
  · exact (Nat.gcd_self_add_right u x).symm
  · rw [Nat.gcd_add_self_left, Nat.gcd_self_add_left, Nat.gcd_comm]

/-- the end of gcd_2 (gcd.c:112-121): u ≠ v agree in one limb, so the difference w of the other limbs is |u − v|,
    divided by B when it is the low limbs that agree -/
theorem gcd2_diff (u v w : Nat) (huB : u < B * B) (hvB : v < B * B) (hne : u ≠ v) (h : u / B = v / B ∨ u % B = v % B)
    (hw : w = if u % B = v % B then (if u / B > v / B then u / B - v / B else v / B - u / B)
          else (if u % B > v % B then u % B - v % B else v % B - u % B)) :
    0 < w ∧ w < B ∧
      (u + (if u % B = v % B then B * w else w) = v ∨ v + (if u % B = v % B then B * w else w) = u) := by
  simp only [B_eq] at *
  split_ifs at hw ⊢ <;> omega

theorem gcd_2_spec (u v : Nat) (hu : u % 2 = 1) (hv : v % 2 = 1) (huB : u < B * B) (hvB : v < B * B) :
    gcd_2 u v = Nat.gcd u v := by
  obtain ⟨i1, i2, i3, i4, i5, i6⟩ := gcd2Loop_spec (u + v) u v hu hv (le_refl _)
  unfold gcd_2
  generalize gcd2Loop (u + v) u v = p at *
  obtain ⟨u', v'⟩ := p
  simp only at i1 i2 i3 i4 i5 i6 ⊢
  by_cases he : u' = v'
  · rw [if_pos he, ← i3, ← he, Nat.gcd_self]
  rw [if_neg he, ← i3]
  have hu'B : u' < B * B := lt_of_le_of_lt i4 huB
  obtain ⟨hw0, hwB, hadd⟩ := gcd2_diff u' v' _ hu'B (lt_of_le_of_lt i5 hvB) he i6 rfl
  obtain ⟨hl, hval⟩ := two_limbs_norm u' hu'B
  rw [gcd_1_correct _ _ hl (by rw [hval]; exact (odd_pos i1).ne') hw0 hwB, hval, ← gcd_of_add hadd]
  split
  · rw [Nat.gcd_comm u' (B * _), gcd_B_mul_odd _ _ i1, Nat.gcd_comm]
  · rfl

def LoopOk (G : Nat) : (Nat × Nat × Nat) ⊕ Nat → Prop
  | .inr g => g = G
  | .inl (a', b', n') => n' ≤ 2 ∧ LInv a' b' n' ∧ Nat.gcd a' b' = G

/-- `n -= (ap[n-1] | bp[n-1]) == 0` (`shrinkN`) on a pair of which one member still reaches limb n − 2 -/
theorem linv_shrinkN {a b n : Nat} (hn : 2 ≤ n) (hpa : 0 < a) (hpb : 0 < b) (ha : a < B ^ n) (hb : b < B ^ n)
    (hnorm : B ^ (n - 2) ≤ a ∨ B ^ (n - 2) ≤ b) : LInv a b (shrinkN a b n) := by
  simp only [nlimbs_isSize.lt_pow_iff, nlimbs_isSize.pow_le_iff] at ha hb hnorm
  rw [linv_iff, shrinkN, shrink_eq (by omega) ha hb]
  exact ⟨hpa, hpb, by omega⟩

theorem lehmer_step_spec (hh : Hgcd2Contract) {a b n : Nat} {m : M1} (hinv : LInv a b n) (hn : 2 ≤ n)
    (hm : hgcd2 (top2 a b n).1 (top2 a b n).2.1 (top2 a b n).2.2.1 (top2 a b n).2.2.2 = some m) :
    lehmerOk m a b ∧
    LInv (m.u11 * a - m.u01 * b) (m.u00 * b - m.u10 * a) (shrinkN (m.u11 * a - m.u01 * b) (m.u00 * b - m.u10 * a) n) ∧
    Nat.gcd (m.u11 * a - m.u01 * b) (m.u00 * b - m.u10 * a) = Nat.gcd a b ∧
    (m.u11 * a - m.u01 * b) + (m.u00 * b - m.u10 * a) < a + b := by
  obtain ⟨hl, hne, hpa, hpb, hnorm⟩ := hh a b n m hinv hn hm
  have hr := lehmerOk_iff.mp hl
  obtain ⟨hle1, hle2⟩ := mrel_le hr
  exact ⟨hl, linv_shrinkN hn hpa hpb (lt_of_le_of_lt hle1 hinv.2.2.1) (lt_of_le_of_lt hle2 hinv.2.2.2.1) hnorm,
    (mrel_gcd hr).symm, mrel_decreases hr hne hpa hpb⟩

theorem gcdLehmerLoop_spec (hh : Hgcd2Contract) : ∀ (f a b n : Nat), LInv a b n → a + b < f →
    LoopOk (Nat.gcd a b) (gcdLehmerLoop f a b n)
  | 0, a, b, n, _, hf => by omega
  | f + 1, a, b, n, hinv, hf => by
    unfold gcdLehmerLoop
    by_cases hn : n > 2
    · rw [if_pos hn]
      have hc := fun m => lehmer_step_spec hh (m := m) hinv (by omega)
      generalize top2 a b n = t at hc ⊢
      obtain ⟨uh, ul, vh, vl⟩ := t
      simp only at hc ⊢
      cases hm : hgcd2 uh ul vh vl with
      | some m =>
        simp only
        obtain ⟨_, hinv', hg, hdec⟩ := hc m hm
        rw [← hg]
        exact gcdLehmerLoop_spec hh f _ _ _ hinv' (by omega)
      | none =>
        simp only
        obtain ⟨s1, s2⟩ := subdivStep_spec a b a b 0 1 hinv.1 hinv.2.1 (cofOk_init a b)
        cases hfin : (subdivStep a b).fin with
        | some gd =>
          obtain ⟨g, d⟩ := gd
          exact (s1 g d hfin).1
        | none =>
          simp only
          obtain ⟨x1, x2, x3, _⟩ := s2 hfin
          rw [← x2]
          exact gcdLehmerLoop_spec hh f _ _ _ x1 (by omega)
    · rw [if_neg hn]
      exact ⟨by omega, hinv, rfl⟩

theorem gcdEndgame_spec (a b n : Nat) (hinv : LInv a b n) (hn : n ≤ 2) (hodd : Nat.gcd a b % 2 = 1) :
    gcdEndgame a b n = Nat.gcd a b := by
  have hB : B = 2 ^ 64 := rfl
  obtain ⟨h0a, h0b, haB, hbB, _, h1n⟩ := hinv
  unfold gcdEndgame
  by_cases hn1 : n = 1
  · rw [if_pos hn1]
    subst hn1
    rw [pow_one] at haB hbB
    exact gcd_1_single a b h0a haB h0b hbB
  rw [if_neg hn1]
  have hn2 : n = 2 := by omega
  subst hn2
  rw [pow_two] at haB hbB
  dsimp only
  -- not both even
  have hnb : ¬ (a % 2 = 0 ∧ b % 2 = 0) := by
    rintro ⟨ea, eb⟩
    have : 2 ∣ Nat.gcd a b := Nat.dvd_gcd (Nat.dvd_of_mod_eq_zero ea) (Nat.dvd_of_mod_eq_zero eb)
    omega
  -- after the swap: a' odd
  have key : ∀ (a' b' : Nat), a' % 2 = 1 → 0 < b' → a' < B * B → b' < B * B → Nat.gcd a' b' = Nat.gcd a b →
      (if b' % B = 0 then gcd_1 [a' % B, a' / B] (b' / B)
       else gcd_2 a' (if b' % 2 = 0 then b' >>> ctz (b' % B) else b')) = Nat.gcd a b := by
    intro a' b' ha' hb' ha'B hb'B hg
    have ha'pos : 0 < a' := odd_pos ha'
    by_cases hz : b' % B = 0
    · rw [if_pos hz]
      have e := Nat.mod_add_div b' B
      rw [hz, Nat.zero_add] at e
      have hq0 : 0 < b' / B := by
        rcases Nat.eq_zero_or_pos (b' / B) with h | h
        · rw [h] at e; omega
        · exact h
      have hqB : b' / B < B := Nat.div_lt_of_lt_mul hb'B
      obtain ⟨hl, hv⟩ := two_limbs a' ha'B
      rw [gcd_1_correct _ _ hl (by rw [hv]; omega) hq0 hqB, hv, ← hg]
      conv_rhs => rw [← e, Nat.gcd_comm, gcd_B_mul_odd _ _ ha', Nat.gcd_comm]
    · rw [if_neg hz]
      by_cases he : b' % 2 = 0
      · rw [if_pos he, ctz_low b' hz]
        have hodd' := ctz_odd b' hb'
        have hmul := ctz_mul b' hb'
        have hle : b' >>> ctz b' ≤ b' := Nat.shiftRight_le _ _
        rw [gcd_2_spec a' _ ha' hodd' ha'B (lt_of_le_of_lt hle hb'B), ← hg]
        conv_rhs => rw [← hmul, Nat.gcd_comm, gcd_two_pow_odd _ _ _ ha', Nat.gcd_comm]
      · rw [if_neg he]
        rw [gcd_2_spec a' b' ha' (by omega) ha'B hb'B, hg]
  by_cases hae : a % 2 = 0
  · simp only [if_pos hae]
    have hbo : b % 2 = 1 := by
      by_contra h; exact hnb ⟨hae, by omega⟩
    have := key b a hbo h0a hbB haB (Nat.gcd_comm _ _)
    simp only [if_pos hae] at this
    exact this
  · simp only [if_neg hae]
    exact key a b (by omega) h0b haB hbB rfl

theorem gcdLehmer_spec (hh : Hgcd2Contract) (a b n : Nat) (hinv : LInv a b n) (hodd : Nat.gcd a b % 2 = 1) :
    gcdLehmer a b n = Nat.gcd a b := by
  unfold gcdLehmer
  have h := gcdLehmerLoop_spec hh (a + b + 1) a b n hinv (by omega)
  cases hr : gcdLehmerLoop (a + b + 1) a b n with
  | inr g =>
    rw [hr] at h
    exact h
  | inl t =>
    obtain ⟨a', b', n'⟩ := t
    rw [hr] at h
    obtain ⟨h1, h2, h3⟩ := h
    simp only
    rw [gcdEndgame_spec a' b' n' h2 h1 (by rw [h3]; exact hodd), h3]

theorem odd_of_dvd_odd {g v : Nat} (h : g ∣ v) (hv : v % 2 = 1) : g % 2 = 1 := by
  obtain ⟨k, rfl⟩ := h
  by_contra hc
  have : g % 2 = 0 := by omega
  have : (g * k) % 2 = 0 := by rw [Nat.mul_mod, this]; simp
  omega

theorem mpn_gcd_of_hgcd2 (hh : Hgcd2Contract) : MpnGcdContract := by
  intro U V hV0 hVodd hle
  have hodd : Nat.gcd U V % 2 = 1 := odd_of_dvd_odd (Nat.gcd_dvd_right U V) hVodd
  obtain ⟨l1, l2⟩ := linv_operands hV0 hle
  unfold mpn_gcd
  by_cases hgt : nlimbs U > nlimbs V
  · rw [if_pos hgt]
    dsimp only
    have hg : Nat.gcd (U % V) V = Nat.gcd U V := by rw [Nat.gcd_comm U V, Nat.gcd_rec V U]
    by_cases hz : U % V = 0
    · rw [if_pos hz, ← hg, hz, Nat.gcd_zero_left]
    · rw [if_neg hz, gcdLehmer_spec hh _ _ _ (l1 hz) (by rw [hg]; exact hodd), hg]
  · rw [if_neg hgt]
    exact gcdLehmer_spec hh _ _ _ (l2 hgt) hodd

end Mpir.Gcd
