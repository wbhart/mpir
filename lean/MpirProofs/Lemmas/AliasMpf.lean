/- The mpf functions of Mpir/Model/AliasMpf.lean (pointer level): object invariant of mpf variables and the common tail
   "limbs stored through r->_mp_d, then r->_mp_size / r->_mp_exp, TMP_FREE". -/
import MpirProofs.Lemmas.AliasMemOps
import MpirProofs.Lemmas.MpfLimbs
import Mpir.Model.AliasMpf
namespace Mpir.AliasMem
open Mpir
open Mpir.DivZ (sizeNat siz sameSign)

/-- the limb data is that of the mpz model, and every block has room for PREC + 1 limbs (mpf functions never reallocate).
    `|size| ≤ PREC + 1` is NOT required: mpf_set_prec_raw may have lowered PREC under a long operand. -/
structure FInv (s : FSt) : Prop where
  inv : Inv s.st
  room : ∀ i, i < s.st.nv → s.prec i + 1 ≤ s.st.alloc i

/-- `r` holds `f`, every other variable (header and limbs) is as before -/
def FRes (s s' : FSt) (r : Nat) (f : Mpf.F) : Prop :=
  FInv s' ∧ s'.st.nv = s.st.nv ∧ s'.F r = f ∧ ∀ i, i < s.st.nv → i ≠ r → s'.F i = s.F i

theorem FSt.F_congr {s s' : FSt} {i : Nat} (hp : s'.prec i = s.prec i) (he : s'.exp i = s.exp i)
    (hv : s'.st.vars i = s.st.vars i) (hb : s'.st.blk (s.st.ptr i) = s.st.blk (s.st.ptr i)) : s'.F i = s.F i := by
  unfold FSt.F
  rw [hp, he, limbs_congr hv hb]
  unfold St.size; rw [hv]

theorem foldl_free_blk (l : List Nat) (X : St) (q : Nat) (hq : q ∉ l) : (l.foldl St.free X).blk q = X.blk q := by
  induction l generalizing X with
  | nil => rfl
  | cons a l ih =>
    simp only [List.foldl_cons]
    rw [ih _ (fun h => hq (List.mem_cons_of_mem _ h))]
    have : q ≠ a := fun e => hq (by rw [e]; exact List.mem_cons_self)
    simp [St.free, St.setBlk, this]

/-- the zero result (`r->_mp_size = 0; r->_mp_exp = 0`) -/
theorem setSE_zero_spec {s : FSt} (h : FInv s) {r : Nat} (hr : r < s.st.nv) :
    FRes s (s.setSE r 0 0) r (Mpf.zero (s.prec r)) := by
  obtain ⟨i1, u1, _⟩ := setSize_zero_spec h.inv hr
  refine ⟨⟨i1, fun i hi => ?_⟩, u1.nv, ?_, fun i hi hir => ?_⟩
  · show s.prec i + 1 ≤ (s.st.setSize r 0).alloc i
    rw [u1.alloc]; exact h.room i (by have : i < (s.st.setSize r 0).nv := hi; rw [u1.nv] at this; exact this)
  · simp [FSt.F, FSt.setSE, Mpf.zero, St.limbs, St.setSize, St.setVar, St.size]
  · exact FSt.F_congr rfl (by simp [FSt.setSE, hir]) (u1.vars_o i hir)
      (u1.blk_o _ (fun e => hir (h.inv.inj i r hi hr e)))

theorem FSt.ext' {a b : FSt} (h1 : a.st = b.st) (h2 : a.prec = b.prec) (h3 : ∀ j, a.exp j = b.exp j) : a = b := by
  cases a; cases b
  simp only [FSt.mk.injEq] at *
  exact ⟨h1, h2, funext h3⟩

theorem limbs_of_blk {s : St} {i : Nat} {b : List Nat} (hb : s.blk (s.ptr i) = some b) :
    s.limbs i = b.take (s.size i).natAbs := by
  unfold St.limbs; rw [hb]; rfl

theorem FInv.blk {s : FSt} (h : FInv s) {i : Nat} (hi : i < s.st.nv) :
    ∃ b, s.st.blk (s.st.ptr i) = some b ∧ b.length = s.st.alloc i ∧ Limbs b ∧ s.prec i + 1 ≤ b.length ∧
      (s.st.size i).natAbs ≤ b.length ∧ b.take (s.st.size i).natAbs = s.st.limbs i := by
  obtain ⟨b, hb, hbl, hbL⟩ := h.inv.live i hi
  exact ⟨b, hb, hbl, hbL, hbl ▸ h.room i hi, hbl ▸ h.inv.fits i hi, (limbs_of_blk hb).symm⟩

/-- The common tail of the mpf functions.  The final state `S'` is given by its three components, so that every order in
    which the C does the stores fits. -/
theorem fput_spec {s : FSt} (h : FInv s) {st1 : St} (i1 : Inv st1) (x1 : Ext s.st st1) {r : Nat} (hr : r < s.st.nv)
    (b : List Nat) (n : Nat) (sz e : Int) (tmp : List Nat)
    (hbl : b.length = s.st.alloc r) (hbL : Limbs b) (hn : n ≤ s.st.alloc r) (hnorm : sizeNat (val (b.take n)) = n)
    (hsz : sz.natAbs = n) (htmp : ∀ p, p ∈ tmp → ∀ i, i < s.st.nv → s.st.ptr i ≠ p)
    {S' : FSt} (hst : S'.st = tmp.foldl St.free ((st1.setBlk (s.st.ptr r) (some b)).setSize r sz))
    (hprec : S'.prec = s.prec) (hexp : ∀ j, S'.exp j = if j = r then e else s.exp j) :
    FRes s S' r ⟨s.prec r, sz, e, b.take n⟩ := by
  obtain rfl : S' = (s.withSt (tmp.foldl St.free (st1.put r b sz))).setExp r e :=
    FSt.ext' (by rw [hst, St.put, x1.ptr]; rfl) hprec hexp
  have hr1 : r < st1.nv := by rw [x1.nv]; exact hr
  obtain ⟨ip, up, _⟩ := put_ok i1 hr1 b (val (b.take n)) sz (by rw [x1.alloc]; exact hbl) hbL (by rw [hnorm]; exact hsz)
    (by rw [hnorm, x1.alloc]; exact hn) (by rw [hnorm])
  have hXr : (st1.put r b sz).vars r = { s.st.vars r with size := sz } := by
    simp [St.put, St.setSize, St.setVar, St.setBlk, x1.vars]
  have hXb : (st1.put r b sz).blk (s.st.ptr r) = some b := by
    simp [St.put, St.setSize, St.setVar, St.setBlk, x1.ptr]
  generalize st1.put r b sz = X at *
  have nvX : X.nv = s.st.nv := by rw [up.nv, x1.nv]
  obtain ⟨j1, m1, _⟩ := free_list_inv tmp ip (fun q hq i hi => by
    rw [up.ptr, x1.ptr]; exact htmp q hq i (by rw [nvX] at hi; exact hi))
  have hnotin : ∀ i, i < s.st.nv → s.st.ptr i ∉ tmp := fun i hi hm => htmp _ hm i hi rfl
  refine ⟨⟨j1, fun i hi => ?_⟩, by show (tmp.foldl St.free X).nv = _; rw [m1, nvX], ?_, fun i hi hir => ?_⟩
  · show s.prec i + 1 ≤ (tmp.foldl St.free X).alloc i
    have hi' : i < s.st.nv := by rw [← nvX, ← m1]; exact hi
    unfold St.alloc; rw [foldl_free_vars]
    show s.prec i + 1 ≤ X.alloc i
    rw [up.alloc, x1.alloc]; exact h.room i hi'
  · unfold FSt.F St.limbs St.size St.ptr
    simp only [FSt.setExp, FSt.withSt, foldl_free_vars, if_true]
    rw [hXr]
    simp only []
    have e1 : (tmp.foldl St.free X).blk (s.st.vars r).ptr = some b := by
      show (tmp.foldl St.free X).blk (s.st.ptr r) = some b
      rw [foldl_free_blk _ _ _ (hnotin r hr)]; exact hXb
    rw [e1, hsz]; rfl
  · refine FSt.F_congr rfl (by simp [FSt.setExp, FSt.withSt, hir]) ?_ ?_
    · show (tmp.foldl St.free X).vars i = _
      rw [foldl_free_vars, up.vars_o i hir, x1.vars]
    · show (tmp.foldl St.free X).blk (s.st.ptr i) = _
      rw [foldl_free_blk _ _ _ (hnotin i hi), up.blk_o _ (by rw [x1.ptr]; exact fun e => hir (h.inv.inj i r hi hr e))]
      obtain ⟨l, hl, _⟩ := h.inv.live i hi
      exact x1.blk _ (by rw [hl]; simp)

theorem normOp_iff {l : List Nat} {n : Nat} : NormOp l n ↔ Mpf.Mant l ∧ l.length = n :=
  ⟨fun o => ⟨Mpf.Mant.of_val_ge o.limbs (fun e => by have := o.len; have := o.pos; rw [e] at *; simp at *; omega)
      (o.len ▸ o.ge), o.len⟩,
    fun ⟨m, hl⟩ => ⟨hl, m.limbs, hl ▸ m.length_pos, hl ▸ m.val_ge⟩⟩

theorem FRes.of_eq {s s' : FSt} {r : Nat} {f g : Mpf.F} (h : FRes s s' r f) (e : f = g) : FRes s s' r g := e ▸ h

theorem topLimb_toLimbs (n v : Nat) (hn : 1 ≤ n) : Mpf.topLimb (toLimbs n v) = v / B ^ (n - 1) % B := by
  unfold Mpf.topLimb
  rw [List.getLast?_eq_getElem?, toLimbs_length, ← List.getD_eq_getElem?_getD, toLimbs_getD _ _ _ (by omega)]

/-- `sign_quotient = usize ^ vsize` (div.c:70), `sign_product` (mul.c:37) -/
theorem neg_eq (a b : Int) : (!decide (sameSign a b)) = ((decide (a < 0)) != (decide (b < 0))) := by
  unfold sameSign
  by_cases ha : a < 0 <;> by_cases hb : b < 0 <;> simp [ha, hb]

theorem fput_toLimbs {s : FSt} (h : FInv s) {st1 : St} (i1 : Inv st1) (x1 : Ext s.st st1) {r : Nat} (hr : r < s.st.nv)
    {br : List Nat} (hbr : s.st.blk (s.st.ptr r) = some br) (t q n : Nat) (sz e : Int) (tmp : List Nat)
    (ht : t ≤ s.prec r + 1) (hq : q < B ^ t) (hn : sizeNat q = n) (hsz : sz.natAbs = n)
    (htmp : ∀ p, p ∈ tmp → ∀ i, i < s.st.nv → s.st.ptr i ≠ p)
    {S' : FSt} (hst : S'.st = tmp.foldl St.free ((st1.setBlk (s.st.ptr r) (some (toLimbs t q ++ br.drop t))).setSize r sz))
    (hprec : S'.prec = s.prec) (hexp : ∀ j, S'.exp j = if j = r then e else s.exp j) :
    FRes s S' r ⟨s.prec r, sz, e, (toLimbs t q).take n⟩ := by
  obtain ⟨b, hb, hbl, hbL, hroom, -, -⟩ := h.blk hr
  obtain rfl : b = br := Option.some.inj (hb.symm.trans hbr)
  have hnt : n ≤ t := hn ▸ (DivZ.sizeNat_le_iff _ _).mpr hq
  have hf := fput_spec h i1 x1 hr (toLimbs t q ++ b.drop t) n sz e tmp
    (by rw [length_wr' (Nat.le_trans ht hroom)]; exact hbl) (Limbs_wr' (Limbs_toLimbs _ _) hbL)
    (hbl ▸ Nat.le_trans hnt (Nat.le_trans ht hroom)) (by rw [← hn, val_take_wr _ (hn ▸ hnt)]) hsz htmp hst hprec hexp
  rwa [List.take_append_of_le_length (by rw [toLimbs_length]; exact hnt)] at hf

theorem fput_mant {s : FSt} (h : FInv s) {st1 : St} (i1 : Inv st1) (x1 : Ext s.st st1) {r : Nat} (hr : r < s.st.nv)
    {br : List Nat} (hbr : s.st.blk (s.st.ptr r) = some br) {m : List Nat} (hm : Mpf.Mant m) (hlen : m.length ≤ s.prec r + 1)
    (sz e : Int) (tmp : List Nat) (hsz : sz.natAbs = m.length)
    (htmp : ∀ p, p ∈ tmp → ∀ i, i < s.st.nv → s.st.ptr i ≠ p)
    {S' : FSt} (hst : S'.st = tmp.foldl St.free ((st1.setBlk (s.st.ptr r) (some (m ++ br.drop m.length))).setSize r sz))
    (hprec : S'.prec = s.prec) (hexp : ∀ j, S'.exp j = if j = r then e else s.exp j) :
    FRes s S' r ⟨s.prec r, sz, e, m⟩ := by
  have hf := fput_toLimbs h i1 x1 hr hbr m.length (val m) m.length sz e tmp hlen hm.val_lt (hm.size_eq DivZ.sizeNat_isSize) hsz
    htmp (by rw [toLimbs_val m hm.limbs]; exact hst) hprec hexp
  rwa [toLimbs_val m hm.limbs, List.take_length] at hf

/-- the tail shared by mpf_div, mpf_div_ui, mpf_ui_div (div.c:140-147) -/
theorem fput_quot {s : FSt} (h : FInv s) {st1 : St} (i1 : Inv st1) (x1 : Ext s.st st1) {r : Nat} (hr : r < s.st.nv)
    {br : List Nat} (hbr : s.st.blk (s.st.ptr r) = some br) (q : Nat) (neg : Bool) (rexp : Int) (tmp : List Nat)
    (hq : q < B ^ (s.prec r + 1))
    (hqs : s.prec r + 1 - (if q / B ^ s.prec r % B = 0 then 1 else 0) = sizeNat q)
    (htmp : ∀ p, p ∈ tmp → ∀ i, i < s.st.nv → s.st.ptr i ≠ p)
    {S' : FSt}
    (hst : S'.st = tmp.foldl St.free ((st1.setBlk (s.st.ptr r) (some (toLimbs (s.prec r + 1) q ++ br.drop (s.prec r + 1)))).setSize r
      (if neg then -((s.prec r + 1 - (if q / B ^ s.prec r % B = 0 then 1 else 0) : Nat) : Int)
        else ((s.prec r + 1 - (if q / B ^ s.prec r % B = 0 then 1 else 0) : Nat) : Int))))
    (hprec : S'.prec = s.prec)
    (hexp : ∀ j, S'.exp j = if j = r then rexp - ((if q / B ^ s.prec r % B = 0 then 1 else 0 : Nat) : Int) else s.exp j) :
    FRes s S' r (Mpf.quotFinish (s.prec r) neg q rexp) := by
  have hf := fput_toLimbs h i1 x1 hr hbr (s.prec r + 1) q _ _ _ tmp (Nat.le_refl _) hq hqs.symm (natAbs_ite_neg _ _) htmp
    hst hprec hexp
  unfold Mpf.quotFinish
  simp only []
  rw [topLimb_toLimbs _ _ (Nat.le_add_left _ _), Nat.add_sub_cancel, List.length_take, toLimbs_length,
    Nat.min_eq_left (Nat.sub_le _ _)]
  exact hf

end Mpir.AliasMem
