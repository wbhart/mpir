/-
  mpn_sb_divappr_q as a whole: the first (exact) loop, the cut of divisor and dividend (`cut_spec`, `pieces_val`, shared with
  mpn_sb_div_q), then `daCore_trunc`: the dividend read is exactly (exact part)·B·V + truncated product + the three limbs left.
  From it `sb_divappr_q_callSpec`: the function keeps `DcDivappr.CallSpec`, the invariant of mpn_dc_divappr_q, whose leaf it is.
-/
import MpirProofs.Lemmas.SbDivQLoop
namespace Mpir.SbDivQ
open Mpir Mpir.DivWord Mpir.SbDiv Mpir.DcDivappr

/-- one iteration of the first loop: below B·d the test `cy == d1 && n1 == d0` selects the same path as the test of
    the truncating loop, so the step is an exact division step -/
theorem daStep1_spec (dlo a : List Nat) (d0 d1 n1 cy : Nat) (ha : a.length = dlo.length + 1)
    (hD : NormDiv dlo d0 d1) (hal : Limbs a) (hn1 : n1 < B) (hcy : cy < B)
    (hW : val a + B ^ (dlo.length + 1) * (n1 + B * cy) < B * val (dlo ++ [d0, d1])) :
    ExactStep2 (val (dlo ++ [d0, d1])) (val a + B ^ (dlo.length + 1) * (n1 + B * cy)) dlo.length
      (daStep1 (dlo ++ [d0, d1]) d1 d0 (invert_pi1 d1 d0) a cy n1) := by
  have htop : n1 + B * cy ≤ d0 + B * d1 := by
    obtain ⟨alo, m0, rfl, hlen, -, -⟩ := exists_top1 ha hal
    rw [val_window1 alo m0 n1 cy hlen, val_top2] at hW
    exact top2_le _ _ _ _ m0 n1 cy (val_lt dlo hD.lo) hW
  rw [lex_le_iff hn1 hD.lt0] at htop
  have e : daStep1 (dlo ++ [d0, d1]) d1 d0 (invert_pi1 d1 d0) a cy n1 =
      daFix ((dlo ++ [d0, d1]).take dlo.length) d1 d0
        (if cy ≥ d1 ∧ n1 ≥ d0 then daSpecial (dlo ++ [d0, d1]) (a ++ [n1]) cy
         else daRegular ((dlo ++ [d0, d1]).take dlo.length) d1 d0 (invert_pi1 d1 d0) (a.take dlo.length)
           (a.getD dlo.length 0) n1 cy) := by
    unfold daStep1
    simp only [List.length_append, List.length_cons, List.length_nil, Nat.add_sub_cancel]
    by_cases h : cy = d1 ∧ n1 = d0
    · rw [if_pos h, if_pos (by omega)]
    · rw [if_neg h, if_neg (by omega)]
  rw [e]
  exact daStep2_spec dlo a d0 d1 n1 cy ha hD hal hn1 hcy hW

/-- sb_divappr_q.c:83-126 -/
theorem daLoop1_spec (dlo : List Nat) (d0 d1 : Nat) (hD : NormDiv dlo d0 d1) (xs w : List Nat) (cy n1 : Nat)
    (qs : List Nat) (hxs : Limbs xs) (hw : Limbs w) (hwl : w.length = dlo.length) (hn1 : n1 < B) (hcy : cy < B)
    (hR : val w + B ^ dlo.length * (n1 + B * cy) < val (dlo ++ [d0, d1])) :
    ∃ ql w' cy' n1', daLoop1 (dlo ++ [d0, d1]) d1 d0 (invert_pi1 d1 d0) xs w cy n1 qs = (ql ++ qs, w', cy', n1') ∧
      ql.length = xs.length ∧ Limbs ql ∧
      val xs.reverse + B ^ xs.length * (val w + B ^ dlo.length * (n1 + B * cy))
        = val ql * val (dlo ++ [d0, d1]) + (val w' + B ^ dlo.length * (n1' + B * cy')) ∧
      val w' + B ^ dlo.length * (n1' + B * cy') < val (dlo ++ [d0, d1]) ∧
      Limbs w' ∧ w'.length = dlo.length ∧ n1' < B ∧ cy' < B := by
  obtain ⟨ql, ⟨w', cy', n1'⟩, e, h1, h2, ⟨h3, h4, h5, h6⟩, h7, h8⟩ := exactLoop_spec (val (dlo ++ [d0, d1]))
    (fun s : List Nat × Nat × Nat => val s.1 + B ^ dlo.length * (s.2.2 + B * s.2.1))
    (fun s => Limbs s.1 ∧ s.1.length = dlo.length ∧ s.2.2 < B ∧ s.2.1 < B)
    (fun x s => daStep1 (dlo ++ [d0, d1]) d1 d0 (invert_pi1 d1 d0) (x :: s.1) s.2.1 s.2.2)
    (fun xs s qs => daLoop1 (dlo ++ [d0, d1]) d1 d0 (invert_pi1 d1 d0) xs s.1 s.2.1 s.2.2 qs)
    (fun _ _ => rfl) (fun _ _ _ _ => rfl)
    (fun x s hx hs hv => by
      obtain ⟨e1, e2, hq, hw1⟩ := daStep1_spec dlo (x :: s.1) d0 d1 s.2.2 s.2.1 (by simp [hs.2.1]) hD
        (Limbs_cons.mpr ⟨hx, hs.1⟩) hs.2.2.1 hs.2.2.2 (by rw [val_push]; exact push_lt hx hv)
      exact ⟨hq, hw1, e2, by rw [← val_push]; exact e1⟩)
    xs (w, cy, n1) qs hxs ⟨hw, hwl, hn1, hcy⟩ hR
  exact ⟨ql, w', cy', n1', e, h1, h2, h8, h7, h3, h4, h5, h6⟩

theorem rev_take_mid (nlow mid : List Nat) (x : Nat) :
    ((nlow ++ x :: mid).reverse).take mid.length = mid.reverse := by
  rw [List.reverse_append, List.reverse_cons, List.append_assoc]
  exact List.take_left' (by simp)

theorem rev_getD_mid (nlow mid : List Nat) (x : Nat) :
    ((nlow ++ x :: mid).reverse).getD mid.length 0 = x := by
  rw [List.reverse_append, List.reverse_cons, List.append_assoc]
  simp [List.getD_eq_getElem?_getD]

theorem daCore_eq (nlow mid hi dlo : List Nat) (x d0 d1 dinv : Nat) (hhi : hi.length = dlo.length + 2) :
    daCore (nlow ++ x :: (mid ++ hi)) (dlo ++ [d0, d1]) (mid.length + dlo.length + 1) dinv =
      (let qh := if cmp hi (dlo ++ [d0, d1]) ≥ 0 then 1 else 0
       let hi' := if qh ≠ 0 then (sub_n hi (dlo ++ [d0, d1])).1 else hi
       let s := daLoop1 (dlo ++ [d0, d1]) d1 d0 dinv mid.reverse (hi'.take dlo.length)
         (hi'.getD (dlo.length + 1) 0) (hi'.getD dlo.length 0) []
       let r := daLoop2 d1 d0 dinv dlo.length (dlo ++ [d0, d1]) (x :: s.2.1) s.2.2.1 s.2.2.2 s.1
       (r.1, r.2, qh)) := by
  have e0 : (dlo ++ [d0, d1]).length = dlo.length + 2 := by simp
  have e1 : (nlow ++ x :: (mid ++ hi)).length - (dlo.length + 2) = (nlow ++ x :: mid).length := by
    simp [hhi]; omega
  have e2 : nlow ++ x :: (mid ++ hi) = (nlow ++ x :: mid) ++ hi := by simp
  unfold daCore
  simp only [e0, e1]
  rw [e2, List.drop_left' rfl, List.take_left' rfl]
  simp only [show dlo.length + 2 - 1 = dlo.length + 1 from rfl, show dlo.length + 2 - 2 = dlo.length from rfl,
    getD_top0, getD_top1, show mid.length + dlo.length + 1 + 1 - (dlo.length + 2) = mid.length by omega,
    rev_take_mid, rev_getD_mid]

/-- bounds relative to the window W of the truncating loop, carried over the quotient limbs Qhi above it:
    X = W + B·Qhi·V is what the function read of the dividend -/
theorem top_upper (Bk W V Qb Qhi X : Nat) (hl1 : Bk * (W + 1) ≤ (Qb + 1) * V) (hX : X = W + B * (Qhi * V)) :
    Bk * (X + 1) ≤ (Qb + B * Bk * Qhi + 1) * V := by
  subst hX
  have e1 : Bk * (W + B * (Qhi * V) + 1) = Bk * (W + 1) + B * Bk * Qhi * V := by ring
  have e2 : (Qb + B * Bk * Qhi + 1) * V = (Qb + 1) * V + B * Bk * Qhi * V := by ring
  omega

theorem top_lower (Bk W V Qb Qhi X Y E : Nat) (hl2 : Qb * V + Y ≤ Bk * W + E) (hX : X = W + B * (Qhi * V)) :
    (Qb + B * Bk * Qhi) * V + Y ≤ Bk * X + E := by
  subst hX
  have e1 : Bk * (W + B * (Qhi * V)) = Bk * W + B * Bk * Qhi * V := by ring
  have e2 : (Qb + B * Bk * Qhi) * V = Qb * V + B * Bk * Qhi * V := by ring
  omega

theorem pieces_val (s : Nat) (nlow mid hi dlo dp0 : List Nat) (x d0 d1 : Nat) (hdp : dp0.drop s = dlo ++ [d0, d1])
    (hdp0l : dp0.length = s + dlo.length + 2) (hnl : nlow.length = s + dlo.length) (hnlow : Limbs nlow)
    (hdp0 : Limbs dp0) (hnorm : B / 2 ≤ d1) :
    val (nlow ++ x :: (mid ++ hi))
      = val nlow + B ^ s * B ^ dlo.length * (x + B * (val mid + B ^ mid.length * val hi)) ∧
    val nlow < B ^ s * B ^ dlo.length ∧ val dp0 = val (dp0.take s) + B ^ s * val (dlo ++ [d0, d1]) ∧
    val (dp0.take s) < B ^ s ∧ B ^ dlo.length * B * B ≤ 2 * val (dlo ++ [d0, d1]) := by
  have hvd := val_take_drop dp0 s (by omega)
  have hDlow := val_lt (dp0.take s) (Limbs_take hdp0 _)
  have hNlow := val_lt nlow hnlow
  have hVn := norm_pow dlo d0 d1 (hdp ▸ Limbs_drop hdp0 s) hnorm
  rw [hdp] at hvd
  rw [List.length_take, Nat.min_eq_left (by omega)] at hDlow
  rw [hnl, pow_add] at hNlow
  rw [pow_k2] at hVn
  exact ⟨by rw [val_append, val_cons, val_append, hnl, pow_add], hNlow, hvd, hDlow, hVn⟩

/-- when divisor limbs are ignored (s > 0) the quotient has only k+1 limbs and qh, so its product with the ignored part
    of the divisor is small -/
theorem quot_low_le (s k ml qh Qv Dlow : Nat) (hcase : s = 0 ∨ ml = 0) (hqh : qh ≤ 1) (hQ : Qv < B ^ (ml + k + 1))
    (hDlow : Dlow < B ^ s) : (qh * B ^ (ml + k + 1) + Qv) * Dlow ≤ 2 * (B ^ s * (B ^ k * B)) := by
  rcases hcase with rfl | rfl
  · obtain rfl : Dlow = 0 := by simpa using hDlow
    simp
  · rw [Nat.zero_add, pow_succ] at hQ ⊢
    have : qh * (B ^ k * B) ≤ 1 * (B ^ k * B) := Nat.mul_le_mul_right _ hqh
    calc (qh * (B ^ k * B) + Qv) * Dlow ≤ (2 * (B ^ k * B)) * B ^ s := Nat.mul_le_mul (by omega) hDlow.le
      _ = 2 * (B ^ s * (B ^ k * B)) := by ring

/-- relative to the divisor limbs used (V) and the dividend limbs read (X): `qu` the limbs of the exact first loop, `ql` those
    of the truncating loop.  X is EXACTLY (exact part)·B·V + (truncated product of ql) + r3; everything else the callers need
    follows from `tS_bounds`. -/
theorem daCore_trunc (nlow mid hi dlo : List Nat) (x d0 d1 : Nat) (hhi : hi.length = dlo.length + 2)
    (hmid : Limbs mid) (hhil : Limbs hi) (hx : x < B) (hD : NormDiv dlo d0 d1) (hk : dlo.length < B) :
    ∃ ql qu r3 qh, daCore (nlow ++ x :: (mid ++ hi)) (dlo ++ [d0, d1]) (mid.length + dlo.length + 1) (invert_pi1 d1 d0)
        = (ql ++ qu, r3, qh) ∧
      ql.length = dlo.length + 1 ∧ qu.length = mid.length ∧ Limbs ql ∧ Limbs qu ∧ qh ≤ 1 ∧ r3.length = 3 ∧ Limbs r3 ∧
      (val hi < val (dlo ++ [d0, d1]) → qh = 0) ∧
      x + B * (val mid + B ^ mid.length * val hi)
        = (val qu + B ^ mid.length * qh) * (B * val (dlo ++ [d0, d1]))
          + tS (val (dlo ++ [d0, d1])) (val ql) (dlo.length + 1) + val r3 ∧
      B ^ dlo.length * (x + B * (val mid + B ^ mid.length * val hi) + 1)
        ≤ (val ql + B * B ^ dlo.length * (val qu + B ^ mid.length * qh) + 1) * val (dlo ++ [d0, d1]) := by
  have hdl : (dlo ++ [d0, d1]).length = dlo.length + 2 := by simp
  obtain ⟨qh, hi', e1, e2, hqh, hv, hlt, hl', hll'⟩ :=
    sb_init hi (dlo ++ [d0, d1]) hhil hD.limbs (by rw [hdl]; exact hhi) (by rw [hdl]; exact norm_pow dlo d0 d1 hD.limbs hD.norm)
  rw [hdl] at hll'
  have hsp := split_top2_val hi' dlo.length hll'
  obtain ⟨ql1, w1, cy1, n11, el1, hql1l, hql1, h3, h4, hw1, hw1l, hn11, hcy1⟩ :=
    daLoop1_spec dlo d0 d1 hD mid.reverse (hi'.take dlo.length)
      (hi'.getD (dlo.length + 1) 0) (hi'.getD dlo.length 0) [] (Limbs_reverse hmid) (Limbs_take hl' _)
      (by rw [List.length_take, hll']; omega) (getD_lt hl' _) (getD_lt hl' _) (by rw [hsp]; exact hlt)
  rw [hsp, List.reverse_reverse, List.length_reverse] at h3
  rw [List.length_reverse] at hql1l
  obtain ⟨ql, r3, el2, hqll, hql, hr3l, hr3, i1, i3⟩ :=
    daLoop2_spec d0 d1 dlo.length dlo (x :: w1) cy1 n11 0 ql1 _ _ rfl (by simp [hw1l]) hD
      (Limbs_cons.mpr ⟨hx, hw1⟩) hn11 hcy1 B_pos hk rfl rfl (by rw [val_push, Nat.zero_add]; exact push_lt hx h4)
  rw [daCore_eq _ _ _ _ _ _ _ _ hhi]
  simp only []
  rw [e1, e2, el1]
  simp only [List.append_nil]
  rw [el2]
  have hX : x + B * (val mid + B ^ mid.length * val hi)
      = (val (x :: w1) + B ^ (dlo.length + 1) * (n11 + B * cy1))
        + B * ((val ql1 + B ^ mid.length * qh) * val (dlo ++ [d0, d1])) := by
    rw [hv, val_push]; linear_combination B * h3
  refine ⟨ql, ql1, r3, qh, rfl, hqll, hql1l, hql, hql1, hqh, hr3l, hr3, fun h => ?_, ?_, ?_⟩
  · rcases Nat.eq_zero_or_pos qh with h0 | h0
    · exact h0
    · have : 1 * val (dlo ++ [d0, d1]) ≤ qh * val (dlo ++ [d0, d1]) := Nat.mul_le_mul_right _ h0
      omega
  · rw [hX, i3]; ring
  · generalize val (x :: w1) + B ^ (dlo.length + 1) * (n11 + B * cy1) = W at hX i1
    refine top_upper _ W _ _ _ _ (Nat.le_of_mul_le_mul_left ?_ B_pos) hX
    calc B * (B ^ dlo.length * (W + 1)) = B ^ (dlo.length + 1) * (W + 1) := by rw [pow_succ]; ring
      _ ≤ (val ql + 1) * (0 + B * val (dlo ++ [d0, d1])) := i1
      _ = B * ((val ql + 1) * val (dlo ++ [d0, d1])) := by ring

theorem up_full (N D V Dlow Nlow X Q S Bk : Nat) (hN : N = Nlow + S * Bk * X) (hNlow : Nlow < S * Bk)
    (hD : D = Dlow + S * V) (u2 : Bk * (X + 1) ≤ (Q + 1) * V) : N < (Q + 1) * D := by
  have a : S * (Bk * (X + 1)) ≤ S * ((Q + 1) * V) := Nat.mul_le_mul_left _ u2
  have e1 : S * (Bk * (X + 1)) = S * Bk * X + S * Bk := by ring
  have e2 : (Q + 1) * (Dlow + S * V) = (Q + 1) * Dlow + S * ((Q + 1) * V) := by ring
  subst hN hD
  omega

/-- the normalised top of the divisor outweighs k+3 units of the truncation error -/
theorem SV_ge (V S Bk k : Nat) (hV : Bk * B * B ≤ 2 * V) (hk : 2 * (k + 3) ≤ B) :
    (k + 3) * (S * (Bk * B)) ≤ S * V := by
  have b : 2 * (k + 3) * (S * (Bk * B)) ≤ B * (S * (Bk * B)) := Nat.mul_le_mul_right _ hk
  have c : S * (Bk * B * B) ≤ S * (2 * V) := Nat.mul_le_mul_left _ hV
  have e1 : 2 * (k + 3) * (S * (Bk * B)) = 2 * ((k + 3) * (S * (Bk * B))) := by ring
  have e2 : B * (S * (Bk * B)) = S * (Bk * B * B) := by ring
  have e3 : S * (2 * V) = 2 * (S * V) := by ring
  omega

theorem split_dividend (n : List Nat) (f c1 : Nat) (hf : f < n.length) :
    n = n.take f ++ n.getD f 0 :: ((n.drop (f + 1)).take c1 ++ n.drop (f + 1 + c1)) := by
  have h2 : n.drop f = n.getD f 0 :: n.drop (f + 1) := by
    rw [List.drop_eq_getElem_cons hf]
    simp [List.getD_eq_getElem?_getD, hf]
  have h3 : n.drop (f + 1) = (n.drop (f + 1)).take c1 ++ n.drop (f + 1 + c1) := by
    conv_lhs => rw [← List.take_append_drop c1 (n.drop (f + 1))]
    rw [List.drop_drop]
  rw [← h3, ← h2, List.take_append_drop]

/-- the cut of the divisor (sb_divappr_q.c:68-72, sb_div_q.c:59-63) and the pieces of divisor and dividend the loops see:
    s = the number of divisor limbs ignored, d.drop s = dlo ++ [d0, d1] the divisor used; of the dividend the low limbs
    `nlow` are ignored, `x` enters the truncating loop, `mid` is consumed by the first loop, `hi` is the first window -/
theorem cut_spec (n d : List Nat) (hdn : 3 ≤ d.length) (hnn : d.length < n.length) (hn : Limbs n) (hd : Limbs d) :
    ∃ s dlo d0 d1 nlow x mid hi,
      (if n.length - d.length + 1 < d.length then d.drop (d.length - (n.length - d.length + 1)) else d)
        = dlo ++ [d0, d1] ∧
      d.drop s = dlo ++ [d0, d1] ∧ d.length = s + dlo.length + 2 ∧
      d.getD (d.length - 1) 0 = d1 ∧ d.getD (d.length - 2) 0 = d0 ∧
      n = nlow ++ x :: (mid ++ hi) ∧ nlow.length = s + dlo.length ∧ hi.length = dlo.length + 2 ∧
      n.length - d.length = mid.length + dlo.length + 1 ∧ (s = 0 ∨ mid.length = 0) ∧
      Limbs dlo ∧ d0 < B ∧ d1 < B ∧ Limbs nlow ∧ x < B ∧ Limbs mid ∧ Limbs hi := by
  obtain ⟨qn0, hqn0⟩ : ∃ qn0, n.length = d.length + qn0 := ⟨n.length - d.length, by omega⟩
  obtain ⟨s, k, hsd, hkq, hcase, ecut⟩ : ∃ s k, s + (k + 2) = d.length ∧ k + 1 ≤ qn0 ∧ (s = 0 ∨ k + 1 = qn0) ∧
      (if n.length - d.length + 1 < d.length then d.drop (d.length - (n.length - d.length + 1)) else d) = d.drop s := by
    by_cases hc : n.length - d.length + 1 < d.length
    · exact ⟨d.length - (qn0 + 1), qn0 - 1, by omega, by omega, Or.inr (by omega), by rw [if_pos hc]; congr 2; omega⟩
    · exact ⟨0, d.length - 2, by omega, by omega, Or.inl rfl, by rw [if_neg hc]; rfl⟩
  obtain ⟨dlo, d0, d1, edp, hdlol, hdlo, hd0, hd1⟩ :=
    exists_top2 (k := k) (by rw [List.length_drop]; omega) (Limbs_drop hd s)
  have e_d0 : d.getD (d.length - 2) 0 = d0 := by
    rw [show d.length - 2 = s + dlo.length by omega, ← getD_drop, edp, getD_top0]
  have e_d1 : d.getD (d.length - 1) 0 = d1 := by
    rw [show d.length - 1 = s + (dlo.length + 1) by omega, ← getD_drop, edp, getD_top1]
  refine ⟨s, dlo, d0, d1, n.take (s + k), n.getD (s + k) 0, (n.drop (s + k + 1)).take (qn0 - k - 1),
    n.drop (s + k + 1 + (qn0 - k - 1)), by rw [ecut, edp], edp, by omega, e_d1, e_d0,
    split_dividend n (s + k) (qn0 - k - 1) (by omega), by rw [List.length_take]; omega,
    by rw [List.length_drop]; omega, by rw [List.length_take, List.length_drop]; omega,
    by rw [List.length_take, List.length_drop]; omega, hdlo, hd0, hd1, Limbs_take hn _, getD_lt hn _,
    Limbs_take (Limbs_drop hn _) _, Limbs_drop hn _⟩

theorem sb_divappr_q_callSpec (n d : List Nat) (dinv : Nat) (hdn : 3 ≤ d.length) (hnn : d.length < n.length)
    (hnorm : B / 2 ≤ d.getD (d.length - 1) 0) (hn : Limbs n) (hd : Limbs d)
    (hdinv : dinv = invert_pi1 (d.getD (d.length - 1) 0) (d.getD (d.length - 2) 0))
    (hsize : 2 * d.length + 2 ≤ B) :
    ∃ q r3 qh, sb_divappr_q n d dinv = (q, r3, qh) ∧ q.length = n.length - d.length ∧ Limbs q ∧
      r3.length = 3 ∧ Limbs r3 ∧
      CallSpec n.length d.length (val n) (val d) { q := val q, qh := qh, r3 := val r3, ok := true } := by
  obtain ⟨s, dlo, d0, d1, nlow, x, mid, hi, ecut, edp, hdl, e_d1, e_d0, en, hnlowl, hhil, hqn, hcase, hdlo, hd0, hd1,
    hnlow, hx, hmid, hhi⟩ := cut_spec n d hdn hnn hn hd
  rw [e_d1] at hnorm
  rw [e_d1, e_d0] at hdinv
  subst hdinv
  have hused : (if n.length - d.length + 1 < d.length then n.length - d.length + 1 else d.length) = dlo.length + 2 := by
    clear * - hdl hqn hcase hnn
    split <;> omega
  have es : d.length - (dlo.length + 2) = s := by clear * - hdl; omega
  -- values of the pieces: Dc = V, Nc / B^k = X
  obtain ⟨eN, hNlow, hvd, hDlow, -⟩ := pieces_val s nlow mid hi dlo d x d0 d1 edp hdl hnlowl hnlow hd hnorm
  have hVd : val d / B ^ s = val (dlo ++ [d0, d1]) := by
    rw [hvd, Nat.add_comm, Nat.mul_comm]; exact div_of_split _ _ _ hDlow
  obtain ⟨ql, qu, r3, qh, ec, hqll, hqul, hql, hqu, hqh, hr3l, hr3, hq0, hid, hup⟩ :=
    daCore_trunc nlow mid hi dlo x d0 d1 hhil hmid hhi hx ⟨hdlo, hd0, hd1, hnorm⟩ (by clear * - hdl hsize; omega)
  have ecore : sb_divappr_q n d (invert_pi1 d1 d0) = (ql ++ qu, r3, qh) := by
    unfold sb_divappr_q
    simp only []
    rw [ecut, hqn]
    conv_lhs => rw [en]
    exact ec
  refine ⟨ql ++ qu, r3, qh, ecore, by rw [List.length_append, hqll, hqul]; omega, Limbs_append.mpr ⟨hql, hqu⟩,
    hr3l, hr3, ?_⟩
  unfold CallSpec
  simp only []
  rw [hused, es, hVd]
  generalize n.length - d.length = qn0 at *
  have eNv : val n = (x + B * (val mid + B ^ mid.length * val hi)) * (B ^ s * B ^ dlo.length) + val nlow := by
    rw [en, eN]; ring
  have hX : val n / B ^ s / B ^ dlo.length = x + B * (val mid + B ^ mid.length * val hi) := by
    rw [Nat.div_div_eq_div_mul, eNv]; exact div_of_split _ _ _ hNlow
  have hlo : B ^ dlo.length * (x + B * (val mid + B ^ mid.length * val hi)) ≤ val n / B ^ s := by
    rw [← hX]; exact Nat.mul_div_le _ _
  have hhi' : val n / B ^ s < B ^ dlo.length * (x + B * (val mid + B ^ mid.length * val hi) + 1) := by
    rw [← hX]; exact Nat.lt_mul_div_succ _ (Bpow_pos _)
  have hQl := val_lt ql hql
  rw [hqll] at hQl
  have eQ : qh * B ^ qn0 + val (ql ++ qu)
      = val ql + B * B ^ dlo.length * (val qu + B ^ mid.length * qh) := by
    rw [val_append, hqll, hqn, show mid.length + dlo.length + 1 = mid.length + (dlo.length + 1) from rfl, pow_add,
      pow_succ (n := dlo.length)]
    ring
  have hup2 := upper_of_trunc dlo.length _ (val ql) (val qu + B ^ mid.length * qh) (val r3) _ hQl hid
  refine ⟨trivial, ?_, hqh, Nat.zero_le _, by rw [eQ]; exact Nat.lt_of_lt_of_le hhi' hup,
    by rw [eQ]; exact hup2.trans (Nat.add_le_add_right hlo _),
    fun hcut hpre => ?_⟩
  · have := val_lt _ (Limbs_append.mpr ⟨hql, hqu⟩)
    rwa [List.length_append, hqll, hqul, show dlo.length + 1 + mid.length = qn0 by omega] at this
  · obtain rfl : mid = [] := List.eq_nil_of_length_eq_zero (by clear * - hcut hqn hdl hcase; omega)
    obtain rfl : qu = [] := List.eq_nil_of_length_eq_zero hqul
    simp only [List.length_nil, Nat.zero_add, val_nil, pow_zero, Nat.one_mul] at hqn hid hX
    have hhiv : val n / B ^ s / B ^ qn0 = val hi := by
      rw [hqn, ← div_pow_succ', hX, Nat.add_comm, Nat.mul_comm]; exact div_of_split _ _ _ hx
    have h0 := hq0 (hhiv ▸ hpre)
    rw [h0, Nat.zero_mul, Nat.zero_add] at hid
    exact ⟨h0, by rw [List.append_nil, hqn, Nat.add_sub_cancel, hX]; exact hid⟩

theorem sb_divappr_q_spec (n d : List Nat) (dinv : Nat) (hdn : 3 ≤ d.length) (hnn : d.length < n.length)
    (hnorm : B / 2 ≤ d.getD (d.length - 1) 0) (hn : Limbs n) (hd : Limbs d)
    (hdinv : dinv = invert_pi1 (d.getD (d.length - 1) 0) (d.getD (d.length - 2) 0))
    (hsize : 2 * d.length + 2 ≤ B) :
    ∃ q r3 qh, sb_divappr_q n d dinv = (q, r3, qh) ∧ q.length = n.length - d.length ∧ Limbs q ∧ qh ≤ 1 ∧
      (qh * B ^ (n.length - d.length) + val q = val n / val d ∨
       qh * B ^ (n.length - d.length) + val q = val n / val d + 1) := by
  obtain ⟨q, r3, qh, e, hql, hq, -, -, hc⟩ := sb_divappr_q_callSpec n d dinv hdn hnn hnorm hn hd hdinv hsize
  obtain ⟨k, hk⟩ : ∃ k, d.length = k + 1 := ⟨d.length - 1, by omega⟩
  rw [hk, Nat.add_sub_cancel] at hnorm
  exact ⟨q, r3, qh, e, hql, hq, hc.qh_le,
    hc.floor_or_succ (by omega) (by rw [hk]; exact (Tdiv.norm_iff_top d k hd hk).mpr hnorm) hsize⟩

theorem toLimbs_spec' (k v : Nat) : val (toLimbs k v) = v % B ^ k ∧ (toLimbs k v).length = k ∧ Limbs (toLimbs k v) :=
  ⟨val_toLimbs k v, toLimbs_length k v, Limbs_toLimbs k v⟩

/-- `sbLeaf`: the value-level wrapper through which the model of mpn_dc_divappr_q calls the function -/
theorem sbLeaf_ok : LeafOK sbLeaf := by
  intro nn dn N D hdn hnn hN hD hnorm hsize
  obtain ⟨nv, nl, nL⟩ := toLimbs_spec' nn N
  obtain ⟨dv, dl, dL⟩ := toLimbs_spec' dn D
  rw [Nat.mod_eq_of_lt hN] at nv
  rw [Nat.mod_eq_of_lt hD] at dv
  have hok : (decide (2 < dn) && decide (dn < nn) && decide (B ^ dn / 2 ≤ D) && decide (D < B ^ dn)) = true := by
    have : B ^ dn / 2 ≤ D := by omega
    simp [this, hD]; omega
  obtain ⟨k, rfl⟩ : ∃ k, dn = k + 1 := ⟨dn - 1, by omega⟩
  have htop := (Tdiv.norm_iff_top (toLimbs (k + 1) D) k dL dl).mp (by rw [dv]; exact hnorm)
  obtain ⟨q, r3, qh, e, -, -, -, -, hc⟩ := sb_divappr_q_callSpec (toLimbs nn N) (toLimbs (k + 1) D) _ (by omega)
    (by omega) (by rw [dl]; exact htop) nL dL rfl (by omega)
  rw [nl, dl, nv, dv] at hc
  unfold sbLeaf
  simp only []
  rw [hok]
  rw [dl, Nat.add_sub_cancel] at e
  rw [Nat.add_sub_cancel, e]
  exact hc

end Mpir.SbDivQ
