/- C06 — the size `xn` of the power table of mpn_get_str (get_str.c:412), computed in binary64:
   a lower bound that makes the top power large enough, for operands below 2^36 limbs. -/
import MpirProofs.Lemmas.Radix
import Mpir.Model.RadixDc
import Mathlib.Tactic.FieldSimp
import Mathlib.Tactic.Positivity
import Mathlib.Tactic.NormNum
import Mathlib.Algebra.Order.Field.Basic
import Mathlib.Algebra.Order.Ring.Rat
namespace Mpir.RadixDc
open Mpir Mpir.Radix

/-- value of a rounded result `(m, up, down)` = `m·2^up / 2^down` -/
def rv (r : Nat × Nat × Nat) : ℚ := ((r.1 <<< r.2.1 : Nat) : ℚ) / (2 : ℚ) ^ r.2.2

/-- every rounding loses less than this factor -/
def sigma : ℚ := 1 - 1 / 2 ^ 50

theorem sigma_pos : 0 < sigma := by unfold sigma; norm_num

theorem rnRat_ge {num den : Nat} (hn : 0 < num) (hd : 0 < den) :
    (num : ℚ) / den * sigma ≤ rv (rnRat num den) := by
  unfold rnRat
  rw [if_neg (by omega)]
  simp only []
  have hl1 : den < 2 ^ (Nat.log2 den + 1) := Nat.lt_log2_self
  generalize hs : 64 + Nat.log2 den = s at *
  have hN : num <<< s = num * 2 ^ s := Nat.shiftLeft_eq _ _
  rw [hN]
  generalize hNN : num * 2 ^ s = N at *
  have h2s : 2 ^ 63 * den < 2 ^ s := by
    rw [← hs, show 64 + Nat.log2 den = 63 + (Nat.log2 den + 1) by omega, pow_add]
    exact Nat.mul_lt_mul_of_pos_left hl1 (by positivity)
  have hNs : 2 ^ s ≤ N := by rw [← hNN]; exact Nat.le_mul_of_pos_left _ hn
  have hQ63 : 2 ^ 63 ≤ N / den := (Nat.le_div_iff_mul_le hd).mpr (by omega)
  have hdm := Nat.div_add_mod N den
  have hml := Nat.mod_lt N hd
  generalize hQ : N / den = Q at *
  have hQ0 : Q ≠ 0 := by
    have : 0 < 2 ^ 63 := by positivity
    omega
  have hL : 2 ^ Nat.log2 Q ≤ Q := Nat.log2_self_le hQ0
  have hL63 : 63 ≤ Nat.log2 Q := (Nat.le_log2 hQ0).mpr hQ63
  generalize hsh : Nat.log2 Q + 1 - 53 = sh at *
  have hshQ : 2 ^ sh * 2 ^ 52 ≤ Q := by
    rw [← pow_add, show sh + 52 = Nat.log2 Q by omega]; exact hL
  rw [Nat.shiftRight_eq_div_pow]
  have hqd := Nat.div_add_mod Q (2 ^ sh)
  have hqm := Nat.mod_lt Q (show 0 < 2 ^ sh by positivity)
  generalize hq : Q / 2 ^ sh = q at *
  -- the rounded mantissa is at least q
  have hge : ∀ up : Bool, q ≤ (if up = true then q + 1 else q) := by intro up; split <;> omega
  generalize (decide (Q % 2 ^ sh > 2 ^ (sh - 1)) || (Q % 2 ^ sh == 2 ^ (sh - 1) && (N % den != 0 || q % 2 == 1))) = up
  have hm := hge up
  generalize (if up = true then q + 1 else q) = m at *
  unfold rv
  simp only [Nat.shiftLeft_eq]
  -- everything in ℚ
  have c1 : (Q : ℚ) * den ≤ N := by
    have : Q * den ≤ N := by rw [Nat.mul_comm]; omega
    exact_mod_cast this
  have c2 : (N : ℚ) < Q * den + den := by
    have : N < Q * den + den := by rw [Nat.mul_comm]; omega
    exact_mod_cast this
  have c3 : (Q : ℚ) < q * 2 ^ sh + 2 ^ sh := by
    have : Q < q * 2 ^ sh + 2 ^ sh := by rw [Nat.mul_comm]; omega
    exact_mod_cast this
  have c4 : (2 : ℚ) ^ sh * 2 ^ 52 ≤ Q := by exact_mod_cast hshQ
  have c5 : (2 : ℚ) ^ 63 ≤ Q := by exact_mod_cast hQ63
  have c6 : (q : ℚ) ≤ m := by exact_mod_cast hm
  have c7 : (N : ℚ) = num * 2 ^ s := by rw [← hNN]; push_cast; ring
  have dpos : (0 : ℚ) < den := by exact_mod_cast hd
  have spos : (0 : ℚ) < 2 ^ s := by positivity
  have shpos : (0 : ℚ) < 2 ^ sh := by positivity
  push_cast
  rw [div_mul_eq_mul_div, div_le_div_iff₀ dpos spos]
  -- num·σ·2^s ≤ m·2^sh·den
  have e1 : (q : ℚ) * 2 ^ sh * den ≤ m * 2 ^ sh * den := by
    apply mul_le_mul_of_nonneg_right _ dpos.le
    exact mul_le_mul_of_nonneg_right c6 shpos.le
  -- Q·den·(1 - 2^-52) < q·2^sh·den
  have e2 : (Q : ℚ) * den * (1 - 1 / 2 ^ 52) ≤ q * 2 ^ sh * den := by
    have : (Q : ℚ) * (1 - 1 / 2 ^ 52) ≤ q * 2 ^ sh := by
      have : (2 : ℚ) ^ sh ≤ Q / 2 ^ 52 := by rw [le_div_iff₀ (by positivity)]; exact c4
      linarith
    calc (Q : ℚ) * (den : ℚ) * (1 - 1 / 2 ^ 52) = (Q : ℚ) * (1 - 1 / 2 ^ 52) * (den : ℚ) := by ring
      _ ≤ (q : ℚ) * 2 ^ sh * (den : ℚ) := mul_le_mul_of_nonneg_right this dpos.le
  -- den ≤ Q·den / 2^63
  have e3 : (den : ℚ) ≤ Q * den / 2 ^ 63 := by
    rw [le_div_iff₀ (by positivity)]
    calc (den : ℚ) * 2 ^ 63 = 2 ^ 63 * (den : ℚ) := by ring
      _ ≤ (Q : ℚ) * (den : ℚ) := mul_le_mul_of_nonneg_right c5 dpos.le
  rw [show (num : ℚ) * sigma * 2 ^ s = (N : ℚ) * sigma by rw [c7]; ring]
  unfold sigma
  have hA : (0 : ℚ) ≤ (Q : ℚ) * (den : ℚ) := by positivity
  generalize (Q : ℚ) * den = A at *
  generalize (q : ℚ) * 2 ^ sh * den = X at *
  generalize (m : ℚ) * 2 ^ sh * den = Y at *
  -- N < A(1 + 2^-63), A(1 - 2^-52) ≤ X ≤ Y, goal N(1 - 2^-50) ≤ Y
  have hNA : (N : ℚ) ≤ A * (1 + 1 / 2 ^ 63) := by linarith
  have hk : (1 + 1 / 2 ^ 63 : ℚ) * (1 - 1 / 2 ^ 50) ≤ 1 - 1 / 2 ^ 52 := by norm_num
  calc (N : ℚ) * (1 - 1 / 2 ^ 50) ≤ A * (1 + 1 / 2 ^ 63) * (1 - 1 / 2 ^ 50) :=
        mul_le_mul_of_nonneg_right hNA (by norm_num)
    _ = A * ((1 + 1 / 2 ^ 63) * (1 - 1 / 2 ^ 50)) := by ring
    _ ≤ A * (1 - 1 / 2 ^ 52) := mul_le_mul_of_nonneg_left hk hA
    _ ≤ Y := by linarith

theorem rv_pos_num {r : Nat × Nat × Nat} (h : 0 < rv r) : 0 < r.1 <<< r.2.1 := by
  unfold rv at h
  by_contra hcon
  have : r.1 <<< r.2.1 = 0 := Nat.eq_zero_of_not_pos hcon
  rw [this] at h; simp at h

theorem rv_eq (r : Nat × Nat × Nat) : ((r.1 <<< r.2.1 : Nat) : ℚ) = rv r * 2 ^ r.2.2 := by
  unfold rv; field_simp

/-- the binary64 evaluation of `1 + un·(c·64)/chars_per_limb` loses less than four roundings and the
    truncation -/
theorem xnOf_gt {b un : Nat} (hun : 0 < un) (hcpl : 0 < charsPerLimb b) (hM : 0 < dM b) :
    sigma + (un : ℚ) * ((dM b : ℚ) * 64 / 2 ^ dk b) / charsPerLimb b * sigma ^ 4 < (xnOf b un : ℚ) + 1 := by
  have hdec : decodeDouble (cpbeBits b) = (dM b, dk b) := rfl
  have hs := sigma_pos
  unfold xnOf
  simp only [hdec]
  generalize dM b = M at *
  generalize dk b = k at *
  generalize charsPerLimb b = cpl at *
  have hMq : (0 : ℚ) < M := by exact_mod_cast hM
  have hcq : (0 : ℚ) < cpl := by exact_mod_cast hcpl
  have huq : (0 : ℚ) < un := by exact_mod_cast hun
  -- (double) un
  have ha := rnRat_ge hun (show 0 < 1 by omega)
  simp only [Nat.cast_one, div_one] at ha
  generalize rnRat un 1 = a at *
  have hapos : 0 < rv a := lt_of_lt_of_le (by positivity) ha
  have han := rv_pos_num hapos
  -- un·(c·64)
  have h1 := rnRat_ge (num := (a.1 <<< a.2.1) * (M * 64)) (den := 2 ^ (a.2.2 + k))
    (Nat.mul_pos han (by omega)) (by positivity)
  have e1 : (((a.1 <<< a.2.1) * (M * 64) : Nat) : ℚ) / ((2 ^ (a.2.2 + k) : Nat) : ℚ) = rv a * ((M : ℚ) * 64 / 2 ^ k) := by
    push_cast
    rw [rv_eq a, pow_add]; field_simp
  rw [e1] at h1
  generalize rnRat ((a.1 <<< a.2.1) * (M * 64)) (2 ^ (a.2.2 + k)) = t1 at *
  have ht1pos : 0 < rv t1 := lt_of_lt_of_le (by positivity) h1
  have ht1n := rv_pos_num ht1pos
  -- / chars_per_limb
  have h2 := rnRat_ge (num := t1.1 <<< t1.2.1) (den := 2 ^ t1.2.2 * cpl) ht1n (by positivity)
  have e2 : ((t1.1 <<< t1.2.1 : Nat) : ℚ) / ((2 ^ t1.2.2 * cpl : Nat) : ℚ) = rv t1 / cpl := by
    push_cast
    rw [rv_eq t1]; field_simp
  rw [e2] at h2
  generalize rnRat (t1.1 <<< t1.2.1) (2 ^ t1.2.2 * cpl) = t2 at *
  have ht2pos : 0 < rv t2 := lt_of_lt_of_le (by positivity) h2
  -- 1 +
  have h3 := rnRat_ge (num := 2 ^ t2.2.2 + (t2.1 <<< t2.2.1)) (den := 2 ^ t2.2.2)
    (Nat.add_pos_left (by positivity) _) (by positivity)
  have e3 : ((2 ^ t2.2.2 + (t2.1 <<< t2.2.1) : Nat) : ℚ) / ((2 ^ t2.2.2 : Nat) : ℚ) = 1 + rv t2 := by
    push_cast
    rw [rv_eq t2]; field_simp
  rw [e3] at h3
  generalize rnRat (2 ^ t2.2.2 + (t2.1 <<< t2.2.1)) (2 ^ t2.2.2) = t3 at *
  -- truncation
  have h4 : rv t3 < (((t3.1 <<< t3.2.1) / 2 ^ t3.2.2 : Nat) : ℚ) + 1 := by
    have hd : 0 < 2 ^ t3.2.2 := by positivity
    have hdm := Nat.div_add_mod (t3.1 <<< t3.2.1) (2 ^ t3.2.2)
    have hml := Nat.mod_lt (t3.1 <<< t3.2.1) hd
    generalize (t3.1 <<< t3.2.1) / 2 ^ t3.2.2 = x at *
    have : t3.1 <<< t3.2.1 < (x + 1) * 2 ^ t3.2.2 := by
      rw [Nat.add_mul, Nat.one_mul, Nat.mul_comm]; omega
    have hq : ((t3.1 <<< t3.2.1 : Nat) : ℚ) < ((x : ℚ) + 1) * 2 ^ t3.2.2 := by exact_mod_cast this
    unfold rv
    rw [div_lt_iff₀ (by positivity)]; exact hq
  -- chain
  have c1 : rv t1 ≥ un * sigma * ((M : ℚ) * 64 / 2 ^ k) * sigma := by
    have : rv a * ((M : ℚ) * 64 / 2 ^ k) ≥ un * sigma * ((M : ℚ) * 64 / 2 ^ k) :=
      mul_le_mul_of_nonneg_right ha (by positivity)
    calc rv t1 ≥ rv a * ((M : ℚ) * 64 / 2 ^ k) * sigma := h1
      _ ≥ un * sigma * ((M : ℚ) * 64 / 2 ^ k) * sigma := mul_le_mul_of_nonneg_right this hs.le
  have c2 : rv t2 ≥ un * sigma * ((M : ℚ) * 64 / 2 ^ k) * sigma / cpl * sigma := by
    have : rv t1 / cpl ≥ un * sigma * ((M : ℚ) * 64 / 2 ^ k) * sigma / cpl :=
      div_le_div_of_nonneg_right c1 hcq.le
    calc rv t2 ≥ rv t1 / cpl * sigma := h2
      _ ≥ _ := mul_le_mul_of_nonneg_right this hs.le
  have c3 : rv t3 ≥ (1 + un * sigma * ((M : ℚ) * 64 / 2 ^ k) * sigma / cpl * sigma) * sigma := by
    calc rv t3 ≥ (1 + rv t2) * sigma := h3
      _ ≥ _ := mul_le_mul_of_nonneg_right (by linarith) hs.le
  calc sigma + (un : ℚ) * ((M : ℚ) * 64 / 2 ^ k) / cpl * sigma ^ 4
      = (1 + un * sigma * ((M : ℚ) * 64 / 2 ^ k) * sigma / cpl * sigma) * sigma := by ring
    _ ≤ rv t3 := c3
    _ < _ := h4

/-- per-base facts used for `xn` (all small numbers, checked by `decide +kernel`): the table constant `c` is at least
    `(u2/v2)(1 - 2^-38)` where `u2/v2 > log_b 2` is the upper Farey neighbour of the sizeinbase certificate,
    and `64·u2/(v2·chars_per_limb) ≥ 1` -/
def XnOk (b : Nat) : Prop :=
  (sibHint b).2.2.2.2.1 * 2 ^ dk b * (2 ^ 38 - 1) ≤ dM b * (sibHint b).2.2.2.2.2 * 2 ^ 38 ∧
  0 < (sibHint b).2.2.2.2.2 ∧ charsPerLimb b * (sibHint b).2.2.2.2.2 ≤ 64 * (sibHint b).2.2.2.2.1 ∧
  0 < dM b ∧ 0 < charsPerLimb b
instance (b : Nat) : Decidable (XnOk b) := by unfold XnOk; infer_instance

/-- the top power of the table is large enough: `B^(un-1) ≤ big_base^xn` for 1 ≤ un ≤ 2^36 -/
theorem xn_large {b : Nat} (hb : 2 ≤ b) (hx : XnOk b) (hbig : 2 ^ (sibHint b).2.2.2.2.2 < b ^ (sibHint b).2.2.2.2.1)
    {un : Nat} (h1 : 1 ≤ un) (hN : un ≤ 2 ^ 36) :
    B ^ (un - 1) ≤ (b ^ charsPerLimb b) ^ xnOf b un := by
  obtain ⟨hc, hv2, hal, hM, hcpl⟩ := hx
  have hgt := xnOf_gt (b := b) (un := un) (by omega) hcpl hM
  generalize (sibHint b).2.2.2.2.1 = u2 at *
  generalize (sibHint b).2.2.2.2.2 = v2 at *
  generalize dM b = M at *
  generalize dk b = k at *
  generalize charsPerLimb b = cpl at *
  generalize xnOf b un = xn at *
  -- (un-1)·64·u2 ≤ xn·cpl·v2
  have key : (un - 1) * 64 * u2 ≤ xn * cpl * v2 := by
    have hv2q : (0 : ℚ) < v2 := by exact_mod_cast hv2
    have hcq : (0 : ℚ) < cpl := by exact_mod_cast hcpl
    have hkq : (0 : ℚ) < 2 ^ k := by positivity
    have hcq' : (u2 : ℚ) * 2 ^ k * (2 ^ 38 - 1) ≤ M * v2 * 2 ^ 38 := by
      have : u2 * 2 ^ k * (2 ^ 38 - 1) ≤ M * v2 * 2 ^ 38 := hc
      have := (Nat.cast_le (α := ℚ)).mpr this
      push_cast at this
      norm_num at this ⊢; exact this
    have halq : (cpl : ℚ) * v2 ≤ 64 * u2 := by exact_mod_cast hal
    have hunq : (un : ℚ) ≤ 2 ^ 36 := by exact_mod_cast hN
    have hun1 : (1 : ℚ) ≤ un := by exact_mod_cast h1
    -- α' = 64 u2 / (v2 cpl) ≥ 1, c·64/cpl ≥ α'(1 - 2^-38)
    set al : ℚ := 64 * u2 / (v2 * cpl) with hal_def
    have hal1 : 1 ≤ al := by
      rw [hal_def, le_div_iff₀ (by positivity)]; linarith
    have hcal : al * (1 - 1 / 2 ^ 38) ≤ (M : ℚ) * 64 / 2 ^ k / cpl := by
      rw [hal_def, le_div_iff₀ hcq, le_div_iff₀ hkq, div_mul_eq_mul_div, div_mul_eq_mul_div, div_mul_eq_mul_div,
        div_le_iff₀ (by positivity)]
      have : (64 : ℚ) * u2 * (1 - 1 / 2 ^ 38) * cpl * 2 ^ k = (u2 * 2 ^ k * (2 ^ 38 - 1)) * (64 * cpl / 2 ^ 38) := by
        field_simp
      rw [this]
      calc (u2 : ℚ) * 2 ^ k * (2 ^ 38 - 1) * (64 * cpl / 2 ^ 38) ≤ M * v2 * 2 ^ 38 * (64 * cpl / 2 ^ 38) :=
            mul_le_mul_of_nonneg_right hcq' (by positivity)
        _ = M * 64 * (v2 * cpl) := by field_simp
    have hxq : al * (un - 1) < xn := by
      have hs4 : (1 - 1 / 2 ^ 38 : ℚ) * sigma ^ 4 ≥ 1 - 1 / 2 ^ 37 := by unfold sigma; norm_num
      have h2 : (un : ℚ) * ((M : ℚ) * 64 / 2 ^ k) / cpl * sigma ^ 4 ≥ un * al * (1 - 1 / 2 ^ 37) := by
        have e : (un : ℚ) * ((M : ℚ) * 64 / 2 ^ k) / cpl = un * ((M : ℚ) * 64 / 2 ^ k / cpl) := by ring
        rw [e]
        have s4 : (0 : ℚ) ≤ sigma ^ 4 := by have := sigma_pos; positivity
        calc (un : ℚ) * ((M : ℚ) * 64 / 2 ^ k / cpl) * sigma ^ 4
            ≥ un * (al * (1 - 1 / 2 ^ 38)) * sigma ^ 4 :=
              mul_le_mul_of_nonneg_right (mul_le_mul_of_nonneg_left hcal (by positivity)) s4
          _ = un * al * ((1 - 1 / 2 ^ 38) * sigma ^ 4) := by ring
          _ ≥ un * al * (1 - 1 / 2 ^ 37) := mul_le_mul_of_nonneg_left hs4 (by positivity)
      have h3 : (un : ℚ) * al ≤ 2 ^ 36 * al := mul_le_mul_of_nonneg_right hunq (by linarith)
      have hsig : sigma = 1 - 1 / 2 ^ 50 := rfl
      have : (un : ℚ) * al * (1 - 1 / 2 ^ 37) = un * al - un * al / 2 ^ 37 := by ring
      have h5 : (un : ℚ) * al / 2 ^ 37 ≤ al / 2 := by
        rw [div_le_div_iff₀ (by positivity) (by positivity)]
        calc (un : ℚ) * al * 2 = al * (2 * un) := by ring
          _ ≤ al * 2 ^ 37 := mul_le_mul_of_nonneg_left (by linarith) (by linarith)
      linarith
    have : ((un - 1) * 64 * u2 : ℚ) < xn * cpl * v2 := by
      rw [hal_def, div_mul_eq_mul_div, div_lt_iff₀ (by positivity)] at hxq
      linarith
    have hcast : (((un - 1) * 64 * u2 : Nat) : ℚ) < ((xn * cpl * v2 : Nat) : ℚ) := by
      push_cast [Nat.cast_sub h1]; exact this
    exact Nat.le_of_lt (by exact_mod_cast hcast)
  -- from the exponent inequality to the powers
  have hb0 : 0 < b := by omega
  have c1 : (2 ^ v2) ^ (64 * (un - 1)) ≤ (b ^ u2) ^ (64 * (un - 1)) := Nat.pow_le_pow_left (Nat.le_of_lt hbig) _
  have c2 : (b ^ u2) ^ (64 * (un - 1)) ≤ (b ^ (cpl * xn)) ^ v2 := by
    rw [← pow_mul, ← pow_mul]
    exact Nat.pow_le_pow_right hb0 (le_of_eq_of_le (by ring) (le_of_le_of_eq key (by ring)))
  have c3 : (2 ^ v2) ^ (64 * (un - 1)) = (2 ^ (64 * (un - 1))) ^ v2 := by
    rw [← pow_mul, ← pow_mul, Nat.mul_comm]
  rw [B_pow, ← pow_mul]
  exact (Nat.pow_le_pow_iff_left (by omega)).mp (c3 ▸ le_trans c1 c2)

end Mpir.RadixDc
