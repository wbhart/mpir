/-
  mpn_tdiv_q, the two branches.
  First branch (tdiv_q.c:113-193, `qn + FUDGE >= dn`): the whole dividend is shifted and divided by an exact callee.
  Second branch (tdiv_q.c:194-292, `qn + FUDGE < dn`): the operands handed to the approximate division (`prep2`) are
  N' = ⌊N/P⌋·c and D' = ⌊D·c/(P·B)⌋ of Lemmas/TdivQCore.lean, D' normalised; then (tdiv_q.c:279-291) MPN_COPY (qp, tp+1, qn),
  the guard-limb test, the multiply-back, `rn`, the compare and mpn_decr_u.
-/
import MpirProofs.Lemmas.TdivQ
import MpirProofs.Lemmas.TdivQCore
namespace Mpir.TdivQ
open Mpir Mpir.DivWord Mpir.Tdiv

theorem branch1_spec (T : Thresholds) (n d : List Nat) (hn : Limbs n) (hd : Limbs d) (hdn : 1 ≤ d.length)
    (hnn : d.length ≤ n.length) (htop : d.getD (d.length - 1) 0 ≠ 0) :
    (branch1 T n d).1 = toLimbs (n.length - d.length + 1) (val n / val d) := by
  have hdhB := getD_lt hd (d.length - 1)
  have hQ : val n / val d < B ^ (n.length - d.length + 1) := Nat.div_lt_of_lt_mul (quot_fits n d hn hd hdn hnn htop)
  unfold branch1
  simp only []
  rw [highbit_clear _ hdhB]
  by_cases hu : d.getD (d.length - 1) 0 < B / 2
  · -- unnormalised divisor
    rw [if_pos (decide_eq_true hu)]
    obtain ⟨k, hk⟩ : ∃ k, d.length = k + 1 := ⟨d.length - 1, by omega⟩
    rw [show d.length - 1 = k by omega] at htop ⊢
    obtain ⟨hc63, dv, _, _, dl⟩ := lshift_norm d k hd hk htop
    rw [← hk] at dl
    obtain ⟨nv, nl, nL⟩ := lshift_ext n (count_leading_zeros (d.getD k 0)) (by omega) hn
    generalize count_leading_zeros (d.getD k 0) = cnt at *
    obtain ⟨k1, k2, k3, k4, _⟩ := call_store_spec (dispatchDivQ T d.length (n.length + if (lshift n cnt).2 ≠ 0 then 1 else 0) n.length)
      0 (List.take (n.length + if (lshift n cnt).2 ≠ 0 then 1 else 0) ((lshift n cnt).1 ++ [(lshift n cnt).2]))
      (lshift d cnt).1 (lshift n cnt).2 (n.length - d.length) (val n / val d)
      (by rw [nl, dl]; exact Nat.sub_add_comm hnn)
      (by rw [nv, dv, Nat.mul_div_mul_right _ _ (by positivity)])
      hQ (fun _ => hQ)
    dsimp only
    exact eq_toLimbs_of k2 k1 (Nat.le_antisymm k4 k3)
  · -- normalised divisor
    rw [if_neg (by rw [decide_eq_true_eq]; exact hu)]
    obtain ⟨k1, k2, k3, k4, _⟩ := call_store_spec (dispatchDivQ T d.length n.length n.length) 0 n d 0
      (n.length - d.length) (val n / val d) (by simp) rfl hQ (fun _ => hQ)
    rw [show storeQh 0 (call (dispatchDivQ T d.length n.length n.length) 0 n d).1
        (call (dispatchDivQ T d.length n.length n.length) 0 n d).2
        = (call (dispatchDivQ T d.length n.length n.length) 0 n d).1 ++
          [(call (dispatchDivQ T d.length n.length n.length) 0 n d).2] from if_pos rfl] at k1 k2 k3 k4
    dsimp only
    exact eq_toLimbs_of k2 k1 (Nat.le_antisymm k4 k3)

theorem above_ge {size k : Nat} {t : Gen.Threshold} (ht : thrGe k t)
    (h : BELOW_THRESHOLD size t = false) : k ≤ size := by
  cases t with
  | none => simp [BELOW_THRESHOLD, ABOVE_THRESHOLD] at h
  | some t =>
    simp only [thrGe] at ht
    simp only [BELOW_THRESHOLD, ABOVE_THRESHOLD, Bool.not_eq_false', Bool.or_eq_true, beq_iff_eq,
      decide_eq_true_eq] at h
    omega

/-- what `prep2` hands to the callee.  t = nn-(2qn+1) dividend limbs are dropped (P = B^t), t+1 divisor limbs. -/
def Prep2Spec (n d : List Nat) (npx dpx : List Nat) (cy : Nat) : Prop :=
  ∃ c c' : Nat, c * c' = B ∧
  val npx = val n / B ^ (n.length - (2 * (n.length - d.length + 1) + 1)) * c ∧
  val dpx = val d * c / (B ^ (n.length - (2 * (n.length - d.length + 1) + 1)) * B) ∧
  npx.length = 2 * (n.length - d.length + 1) + 1 + (if cy ≠ 0 then 1 else 0) ∧
  dpx.length = n.length - d.length + 1 + 1 ∧
  B ^ (n.length - d.length + 1 + 1) ≤ 2 * val dpx ∧
  val npx < val dpx * B ^ (n.length - d.length + 1 + 1) ∧
  (cy = 0 → val npx < B ^ (2 * (n.length - d.length + 1) + 1))

/-- sizes in the second branch: s = dn-(qn+1) = t+1 where t = nn-(2qn+1); both are in range iff qn+2 ≤ dn -/
theorem sizes2 (nn dn : Nat) (hnn : dn ≤ nn) (hq : nn - dn + 1 + 2 ≤ dn) :
    dn - (nn - dn + 1 + 1) = nn - (2 * (nn - dn + 1) + 1) + 1 ∧ 2 * (nn - dn + 1) + 1 ≤ nn ∧
    nn - (nn - (2 * (nn - dn + 1) + 1)) = 2 * (nn - dn + 1) + 1 ∧
    dn - (dn - (nn - dn + 1 + 1)) = nn - dn + 1 + 1 := by omega

/-- tdiv_q.c:208-211: the top 2k+1 dividend limbs shifted by cnt, with the extra limb -/
theorem dividend_ops (nlow : List Nat) (k cnt : Nat) (hL : Limbs nlow) (hlen : nlow.length = 2 * k + 1) (hcnt : cnt ≤ 63) :
    val (List.take (2 * k + 1 + if (lshift nlow cnt).2 ≠ 0 then 1 else 0) ((lshift nlow cnt).1 ++ [(lshift nlow cnt).2]))
      = val nlow * 2 ^ cnt ∧
    (List.take (2 * k + 1 + if (lshift nlow cnt).2 ≠ 0 then 1 else 0) ((lshift nlow cnt).1 ++ [(lshift nlow cnt).2])).length
      = 2 * k + 1 + (if (lshift nlow cnt).2 ≠ 0 then 1 else 0) ∧
    ((lshift nlow cnt).2 = 0 →
      val (List.take (2 * k + 1 + if (lshift nlow cnt).2 ≠ 0 then 1 else 0) ((lshift nlow cnt).1 ++ [(lshift nlow cnt).2]))
        < B ^ (2 * k + 1)) ∧
    val nlow * 2 ^ cnt < B ^ (2 * k + 1) * 2 ^ cnt := by
  obtain ⟨nv, nl, nL⟩ := lshift_ext nlow cnt (by omega) hL
  rw [hlen] at nl nv nL
  have hnlt := val_lt _ hL
  rw [hlen] at hnlt
  refine ⟨nv, nl, ?_, Nat.mul_lt_mul_of_pos_right hnlt (by positivity)⟩
  intro h0
  have := val_lt _ nL
  have e : (List.take (2 * k + 1 + if (lshift nlow cnt).2 ≠ 0 then 1 else 0)
      ((lshift nlow cnt).1 ++ [(lshift nlow cnt).2])).length = 2 * k + 1 := by
    rw [nl, if_neg (by simpa using h0), Nat.add_zero]
  rw [e] at this
  exact this

theorem prep2_spec (n d : List Nat) (hn : Limbs n) (hd : Limbs d) (hnn : d.length ≤ n.length)
    (hq : n.length - d.length + 1 + 2 ≤ d.length) (htop : d.getD (d.length - 1) 0 ≠ 0) :
    Prep2Spec n d (prep2 n d).1 (prep2 n d).2.1 (prep2 n d).2.2 := by
  have hdhB := getD_lt hd (d.length - 1)
  obtain ⟨hs, ht, hnlen, hdlen⟩ := sizes2 n.length d.length hnn hq
  have hdh1 : 1 ≤ d.getD (d.length - 1) 0 := Nat.pos_of_ne_zero htop
  have hnlL : Limbs (n.drop (n.length - (2 * (n.length - d.length + 1) + 1))) := Limbs_drop hn _
  have hnlv := val_drop_eq_div n hn (n.length - (2 * (n.length - d.length + 1) + 1))
  have hnll : (n.drop (n.length - (2 * (n.length - d.length + 1) + 1))).length
      = 2 * (n.length - d.length + 1) + 1 := by rw [List.length_drop]; exact hnlen
  have hdtL : Limbs (d.drop (d.length - (n.length - d.length + 1 + 1))) := Limbs_drop hd _
  have hdtv := val_drop_eq_div d hd (d.length - (n.length - d.length + 1 + 1))
  have hdtl : (d.drop (d.length - (n.length - d.length + 1 + 1))).length = n.length - d.length + 1 + 1 := by
    rw [List.length_drop]; exact hdlen
  have hdtop := getD_drop_top d (d.length - (n.length - d.length + 1 + 1)) (by omega)
  rw [hdtl, Nat.add_sub_cancel] at hdtop
  have hpowN : B ^ (2 * (n.length - d.length + 1) + 1)
      = B ^ (n.length - d.length + 1) * B ^ (n.length - d.length + 1 + 1) := by
    rw [← pow_add]; congr 1; omega
  have hPB : B ^ (d.length - (n.length - d.length + 1 + 1))
      = B ^ (n.length - (2 * (n.length - d.length + 1) + 1)) * B := by rw [hs, pow_succ]
  by_cases hu : d.getD (d.length - 1) 0 < B / 2
  · -- unnormalised divisor: shift by cnt = count_leading_zeros dh
    obtain ⟨y, ys, hys⟩ := List.exists_cons_of_ne_nil (l := d.drop (d.length - (n.length - d.length + 1 + 1)))
      (by intro h; rw [h] at hdtl; simp at hdtl)
    generalize hp : prep2 n d = p
    unfold prep2 at hp
    simp only [] at hp
    rw [highbit_clear _ hdhB, if_pos (decide_eq_true hu), hys, lshift_or_low, ← hys] at hp
    subst hp
    dsimp only
    obtain ⟨hc63, hcn, hcf⟩ := clz_spec _ htop hdhB
    generalize count_leading_zeros (d.getD (d.length - 1) 0) = cnt at *
    have hcc := (Mpir.B_split cnt (by omega)).symm
    have hxB : d.getD (d.length - (n.length - d.length + 1 + 1) - 1) 0 < B := getD_lt hd _
    rw [← hdtop] at hcn hcf
    obtain ⟨dv, _, dl, _, dnorm, dge⟩ := lshiftGo_norm _ (n.length - d.length + 1) _ _ hdtL hdtl (by omega)
      (shr_lt _ _ (by omega) hxB) hcn hcf
    rw [hdtop] at dge
    obtain ⟨nv, nl, n0, nlt⟩ := dividend_ops _ (n.length - d.length + 1) cnt hnlL hnll hc63
    -- x is the limb of D of weight P, so the value is ⌊D·c/(P·B)⌋
    have hxv : d.getD (d.length - (n.length - d.length + 1 + 1) - 1) 0
        = val d / B ^ (n.length - (2 * (n.length - d.length + 1) + 1)) % B := by
      rw [hs, Nat.add_sub_cancel]
      exact (val_div_mod hd _).symm
    have hsi := shift_in (val d) (B ^ (n.length - (2 * (n.length - d.length + 1) + 1)))
      (2 ^ cnt) (2 ^ (64 - cnt)) (Bpow_pos _) hcc
    refine ⟨_, _, hcc, ?_, ?_, nl, dl, dnorm, ?_, n0⟩
    · rw [nv, hnlv]
    · rw [dv, Nat.shiftRight_eq_div_pow, hsi, hdtv, hPB, ← hxv]
    · rw [nv]
      rw [hpowN] at nlt
      calc _ < _ := nlt
        _ = 1 * 2 ^ cnt * B ^ (n.length - d.length + 1) * B ^ (n.length - d.length + 1 + 1) := by ring
        _ ≤ _ := Nat.mul_le_mul_right _
          (Nat.le_trans (Nat.mul_le_mul_right _ (Nat.mul_le_mul_right _ hdh1)) dge)
  · -- normalised divisor: plain copies
    generalize hp : prep2 n d = p
    unfold prep2 at hp
    simp only [] at hp
    rw [highbit_clear _ hdhB, if_neg (by rw [decide_eq_true_eq]; exact hu)] at hp
    subst hp
    dsimp only
    obtain ⟨hb1, hb2⟩ := top_bounds _ (n.length - d.length + 1) hdtL hdtl
    rw [hdtop, Nat.mul_comm] at hb1
    have hnlt := val_lt _ hnlL
    rw [hnll] at hnlt
    have hdh : B ≤ 2 * d.getD (d.length - 1) 0 := by
      have : B = B / 2 * 2 := by simp only [B_eq]
      omega
    refine ⟨1, B, Nat.one_mul _, ?_, ?_, ?_, hdtl, ?_, ?_, ?_⟩
    · rw [hnlv, Nat.mul_one]
    · rw [hdtv, Nat.mul_one, hPB]
    · rw [hnll]; simp
    · calc B ^ (n.length - d.length + 1 + 1) = B ^ (n.length - d.length + 1) * B := pow_succ _ _
        _ ≤ B ^ (n.length - d.length + 1) * (2 * d.getD (d.length - 1) 0) := Nat.mul_le_mul_left _ hdh
        _ = 2 * (B ^ (n.length - d.length + 1) * d.getD (d.length - 1) 0) := by ring
        _ ≤ _ := Nat.mul_le_mul_left _ hb1
    · have a2 : B ^ (n.length - d.length + 1) * 1 ≤ B ^ (n.length - d.length + 1) * d.getD (d.length - 1) 0 :=
        Nat.mul_le_mul_left _ hdh1
      rw [Nat.mul_one] at a2
      rw [hpowN] at hnlt
      calc _ < B ^ (n.length - d.length + 1) * B ^ (n.length - d.length + 1 + 1) := hnlt
        _ ≤ _ := Nat.mul_le_mul_right _ (Nat.le_trans a2 hb1)
    · intro _; exact hnlt

/-- tdiv_q.c:285-289: `rn > nn || mpn_cmp (np, rp, nn) < 0` with rp = D·Qh on dn+qn = nn+1 limbs is the comparison
    N < D·Qh of the VALUES: a non-zero top limb rp[nn] means D·Qh ≥ B^nn > N, otherwise the nn low limbs are compared -/
theorem mulback_test (n d qp : List Nat) (hn : Limbs n) (hd : Limbs d) (hqp : Limbs qp)
    (hdn : d.length ≤ n.length) (hql : qp.length = n.length - d.length + 1) :
    (decide (d.length + (n.length - d.length + 1) -
        (if (mul d qp).getD (d.length + (n.length - d.length + 1) - 1) 0 = 0 then 1 else 0) > n.length) ||
      decide (cmp n ((mul d qp).take n.length) < 0)) = decide (val n < val d * val qp) := by
  have hB := B_pos
  have hlen : d.length + (n.length - d.length + 1) = n.length + 1 := by omega
  have hV : val d * val qp < B ^ (n.length + 1) := by
    have h1 := val_lt d hd
    have h2 := val_lt qp hqp
    have : B ^ (n.length + 1) = B ^ d.length * B ^ qp.length := by rw [← pow_add]; congr 1; omega
    rw [this]
    exact Nat.mul_lt_mul'' h1 h2
  have hmul : mul d qp = toLimbs n.length (val d * val qp) ++ [val d * val qp / B ^ n.length] := by
    unfold mul
    rw [hql, hlen, toLimbs_snoc]
    congr 2
    apply Nat.mod_eq_of_lt
    rw [Nat.div_lt_iff_lt_mul (Bpow_pos _), ← pow_succ']; exact hV
  have hget : (mul d qp).getD (d.length + (n.length - d.length + 1) - 1) 0 = val d * val qp / B ^ n.length := by
    rw [hmul, hlen, Nat.add_sub_cancel, List.getD_eq_getElem?_getD,
      List.getElem?_append_right (by rw [toLimbs_length]), toLimbs_length]
    simp
  have htake : (mul d qp).take n.length = toLimbs n.length (val d * val qp) := by
    rw [hmul, List.take_left' (toLimbs_length _ _)]
  rw [hget, htake, hlen]
  have hnlt := val_lt n hn
  by_cases h0 : val d * val qp / B ^ n.length = 0
  · have hlt : val d * val qp < B ^ n.length := by
      rcases Nat.lt_or_ge (val d * val qp) (B ^ n.length) with h | h
      · exact h
      · have := Nat.div_pos h (Bpow_pos n.length); omega
    rw [if_pos h0]
    have hc := cmp_lt_iff n (toLimbs n.length (val d * val qp)) hn (Limbs_toLimbs _ _) (by rw [toLimbs_length])
    rw [val_toLimbs_lt _ _ hlt] at hc
    have : ¬ (n.length + 1 - 1 > n.length) := by omega
    simp only [this, decide_false, Bool.false_or]
    exact decide_eq_decide.mpr hc
  · have hge : B ^ n.length ≤ val d * val qp := by
      rcases Nat.lt_or_ge (val d * val qp) (B ^ n.length) with h | h
      · exact absurd (Nat.div_eq_of_lt h) h0
      · exact h
    rw [if_neg h0]
    have h1 : n.length + 1 - 0 > n.length := by omega
    have h2 : val n < val d * val qp := by omega
    simp only [h1, h2, decide_true, Bool.true_or]

/-- tdiv_q.c:279-291, given what `guard_constant_sound` (Props/C02_tdivq.lean) says about tp[] -/
theorem finish2_spec (n d tp : List Nat) (hn : Limbs n) (hd : Limbs d) (htp : Limbs tp)
    (hnn : d.length ≤ n.length) (hlen : tp.length = n.length - d.length + 1 + 1)
    (hg : 4 < val tp % B → val tp / B = val n / val d)
    (hc : (if val n < val d * (val tp / B) then val tp / B - 1 else val tp / B) = val n / val d) :
    (finish2 n d tp).1 = toLimbs (n.length - d.length + 1) (val n / val d) := by
  obtain ⟨hqv, hg0⟩ := val_tail_head tp htp
  have hqL : Limbs (tp.drop 1) := Limbs_drop htp 1
  have hql : (tp.drop 1).length = n.length - d.length + 1 := by rw [List.length_drop, hlen]; omega
  unfold finish2
  simp only []
  rw [hg0]
  by_cases h4 : val tp % B ≤ 4
  · rw [if_pos h4, mulback_test n d (tp.drop 1) hn hd hqL hnn hql, hqv]
    by_cases hlt : val n < val d * (val tp / B)
    · rw [if_pos (by simpa using hlt)]
      rw [if_pos hlt] at hc
      dsimp only
      have hpos : 1 ≤ val (tp.drop 1) := by
        rw [hqv]
        exact Nat.pos_of_ne_zero fun h => by rw [h, Nat.mul_zero] at hlt; exact absurd hlt (Nat.not_lt_zero _)
      obtain ⟨dv, dL, dl⟩ := decr_pos (tp.drop 1) hqL hpos
      rw [hqv] at dv
      rw [hql] at dl
      exact eq_toLimbs_of dL dl (by omega)
    · rw [if_neg (by simpa using hlt)]
      rw [if_neg hlt] at hc
      dsimp only
      exact eq_toLimbs_of hqL hql (by rw [hqv]; exact hc)
  · rw [if_neg h4]
    dsimp only
    exact eq_toLimbs_of hqL hql (by rw [hqv]; exact hg (by omega))

end Mpir.TdivQ
