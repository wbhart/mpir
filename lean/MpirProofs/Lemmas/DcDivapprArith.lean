/-
  The TRUNCATED PRODUCT  tS D Q m = Σ_{j<m} q_j · ⌊D / B^(m-1-j)⌋  (q_j the base-B digits of Q < B^m): the part of
  Q·D / B^(m-1) that mpn_sb_divappr_q / mpn_dc_divappr_q really subtract from their window (a product d_i·q_j is subtracted iff
  i + j ≥ m - 1); its arithmetic (with `sumd`, the limb sum __divappr_helper adds, and `mm`, the middle part that is the
  model's `mulmidV`: `mm_eq_mulmidV`), and the contract every approximate division keeps (`CallSpec`; `CutSpec` for a sub-call,
  `LeafOK` for the leaf).
-/
import MpirProofs.Lemmas.Base
import Mpir.Model.DcDivappr
import Mathlib.Tactic.Ring
import Mathlib.Tactic.Linarith
import Mathlib.Tactic.LinearCombination
import Mathlib.Tactic.Positivity
namespace Mpir.DcDivappr
open Mpir

/-- truncated product: the top digit of Q times D, the next digit times ⌊D/B⌋, … -/
def tS : Nat → Nat → Nat → Nat
  | _, _, 0 => 0
  | D, Q, m + 1 => (Q / B ^ m) * D + tS (D / B) (Q % B ^ m) m

/-- Σ_{i<k} (limb i of D) -/
def sumd (D : Nat) : Nat → Nat
  | 0 => 0
  | k + 1 => sumd D k + D / B ^ k % B

theorem Bpow_split {a b n : Nat} (h : a + b = n) : B ^ n = B ^ a * B ^ b := by rw [← h, pow_add]

theorem one_lt_half : 1 < B / 2 := by rw [B_eq]; decide

theorem split_lt' {lo P hi H : Nat} (hhi : hi < H) (hlo : lo < P) : hi * P + lo < H * P := by
  rw [Nat.add_comm, Nat.mul_comm hi, Nat.mul_comm H]; exact add_mul_lt hlo hhi

/-- from the floor bound of a sub-call on the window cut by P = B^s to the floor bound on the whole window -/
theorem floor_uncut {Wc P q Dc : Nat} (hP : 0 < P) (h : Wc / P < (q + 1) * (Dc / P)) : Wc < (q + 1) * Dc :=
  calc Wc < P * (Wc / P + 1) := Nat.lt_mul_div_succ Wc hP
    _ ≤ P * ((q + 1) * (Dc / P)) := Nat.mul_le_mul_left _ h
    _ = (q + 1) * (P * (Dc / P)) := Nat.mul_left_comm ..
    _ ≤ (q + 1) * Dc := Nat.mul_le_mul_left _ (Nat.mul_div_le _ _)

theorem tS_zero_q : ∀ (m D : Nat), tS D 0 m = 0
  | 0, _ => rfl
  | m + 1, D => by
    show (0 / B ^ m) * D + tS (D / B) (0 % B ^ m) m = 0
    rw [Nat.zero_div, Nat.zero_mod, tS_zero_q m, Nat.zero_mul]

theorem div_pow_add (D a b : Nat) : D / B ^ a / B ^ b = D / B ^ (a + b) := by
  rw [Nat.div_div_eq_div_mul, pow_add]

theorem div_pow_succ (D k : Nat) : D / B / B ^ k = D / B ^ (k + 1) := by
  simpa only [pow_one, Nat.add_comm 1 k] using div_pow_add D 1 k

theorem div_pow_succ' (D k : Nat) : D / B ^ k / B = D / B ^ (k + 1) := by
  simpa only [pow_one] using div_pow_add D k 1

theorem mod_pow_div_mod (D an e sl : Nat) (h : e + sl ≤ an) : D % B ^ an / B ^ e % B ^ sl = D / B ^ e % B ^ sl := by
  have e1 : B ^ an = B ^ e * B ^ (an - e) := by rw [← pow_add]; congr 1; omega
  rw [e1, Nat.mod_mul_right_div_self]
  apply Nat.mod_mod_of_dvd
  exact pow_dvd_pow B (by omega)

theorem mod_div_mod (Q m j : Nat) (h : j < m) : Q % B ^ m / B ^ j % B = Q / B ^ j % B := by
  simpa only [pow_one] using mod_pow_div_mod Q m j 1 h

theorem tS_split (sl : Nat) : ∀ (sh D Qh Ql : Nat), Qh < B ^ sh → Ql < B ^ sl →
    tS D (Qh * B ^ sl + Ql) (sh + sl) = tS D Qh sh + tS (D / B ^ sh) Ql sl
  | 0, D, Qh, Ql, hQh, _ => by
    have : Qh = 0 := by simpa using hQh
    subst this
    simp [tS]
  | sh + 1, D, Qh, Ql, hQh, hQl => by
    have hP := Bpow_pos sh
    have hPl := Bpow_pos sl
    have e : sh + 1 + sl = (sh + sl) + 1 := by omega
    rw [e]
    show ((Qh * B ^ sl + Ql) / B ^ (sh + sl)) * D + tS (D / B) ((Qh * B ^ sl + Ql) % B ^ (sh + sl)) (sh + sl)
      = ((Qh / B ^ sh) * D + tS (D / B) (Qh % B ^ sh) sh) + tS (D / B ^ (sh + 1)) Ql sl
    have hdm := Nat.div_add_mod Qh (B ^ sh)
    have hm := Nat.mod_lt Qh hP
    have hlow : Qh % B ^ sh * B ^ sl + Ql < B ^ (sh + sl) := by
      rw [pow_add]; exact split_lt' hm hQl
    have hval : Qh * B ^ sl + Ql = (Qh / B ^ sh) * B ^ (sh + sl) + (Qh % B ^ sh * B ^ sl + Ql) := by
      rw [pow_add]
      conv_lhs => rw [← hdm]
      ring
    rw [hval, div_of_split _ _ _ hlow, mod_of_split _ _ _ hlow,
      tS_split sl sh (D / B) (Qh % B ^ sh) Ql hm hQl, div_pow_succ]
    ring

theorem tS_one (V q : Nat) : tS V q 1 = q * V := by simp [tS]

theorem tS_top (V q Ql k : Nat) (hQl : Ql < B ^ k) : tS V (Ql + B ^ k * q) (k + 1) = q * V + tS (V / B) Ql k := by
  show ((Ql + B ^ k * q) / B ^ k) * V + tS (V / B) ((Ql + B ^ k * q) % B ^ k) k = _
  rw [Nat.add_comm Ql, Nat.mul_comm (B ^ k), div_of_split _ _ _ hQl, mod_of_split _ _ _ hQl]

/-- Both bounds are stated after multiplication by B.  The top digit multiplies the whole divisor, so only m-1 of the m levels
    lose anything. -/
theorem tS_bounds : ∀ (m D Q : Nat), Q < B ^ m →
    B ^ m * tS D Q m ≤ B * (Q * D) ∧ B * (Q * D) ≤ B ^ m * tS D Q m + (m - 1) * B ^ (m + 1)
  | 0, D, Q, hQ => by
    have : Q = 0 := by simpa using hQ
    subst this
    simp [tS]
  | 1, D, Q, _ => by
    show B ^ 1 * ((Q / B ^ 0) * D + 0) ≤ B * (Q * D) ∧ B * (Q * D) ≤ B ^ 1 * ((Q / B ^ 0) * D + 0) + 0 * B ^ 2
    simp
  | m + 2, D, Q, hQ => by
    have hm := Nat.mod_lt Q (Bpow_pos (m + 1))
    obtain ⟨i1, i2⟩ := tS_bounds (m + 1) (D / B) (Q % B ^ (m + 1)) hm
    have hdl : Q % B ^ (m + 1) * (D % B) ≤ B ^ (m + 1) * B := Nat.mul_le_mul hm.le (Nat.mod_lt D B_pos).le
    have hQ' := Nat.div_add_mod Q (B ^ (m + 1))
    have hD' := Nat.div_add_mod D B
    show B ^ (m + 2) * ((Q / B ^ (m + 1)) * D + tS (D / B) (Q % B ^ (m + 1)) (m + 1)) ≤ B * (Q * D) ∧
      B * (Q * D) ≤ B ^ (m + 2) * ((Q / B ^ (m + 1)) * D + tS (D / B) (Q % B ^ (m + 1)) (m + 1)) + (m + 1) * B ^ (m + 2 + 1)
    rw [pow_succ (n := m + 2), pow_succ (n := m + 1)]
    rw [Nat.add_sub_cancel, pow_succ (n := m + 1)] at i2
    generalize tS (D / B) (Q % B ^ (m + 1)) (m + 1) = t at *
    generalize Q / B ^ (m + 1) = qt at *
    generalize Q % B ^ (m + 1) = ql at *
    generalize B ^ (m + 1) = P at *
    generalize D / B = D' at *
    generalize D % B = d0 at *
    subst hQ' hD'
    -- Q = P·qt + ql, D = B·D' + d0: the top digit contributes exactly, the rest by induction, ql·d0 is what is lost
    constructor
    · linear_combination B * i1 + Nat.zero_le (B * (ql * d0))
    · linear_combination B * i2 + B * hdl

theorem sumd_shift : ∀ (k D : Nat), sumd D (k + 1) = D % B + sumd (D / B) k
  | 0, D => by simp [sumd]
  | k + 1, D => by
    show sumd D (k + 1) + D / B ^ (k + 1) % B = D % B + (sumd (D / B) k + D / B / B ^ k % B)
    rw [sumd_shift k D, div_pow_succ]; ring

theorem sumd_le : ∀ (k D : Nat), sumd D k + k ≤ k * B
  | 0, _ => by simp [sumd]
  | k + 1, D => by
    have hd : D / B ^ k % B + 1 ≤ B := Nat.mod_lt (D / B ^ k) B_pos
    show sumd D k + D / B ^ k % B + (k + 1) ≤ (k + 1) * B
    linear_combination sumd_le k D + hd

theorem Bpow_add_pred (a b : Nat) : B ^ (a + b) - 1 = (B ^ a - 1) * B ^ b + (B ^ b - 1) := by
  have hb := Bpow_pos b
  have h : (B ^ a - 1) * B ^ b + B ^ b = B ^ (a + b) := by
    rw [← Nat.succ_mul, Nat.succ_eq_add_one, Nat.sub_add_cancel (Bpow_pos a), pow_add]
  omega

/-- the all-ones quotient, what __divappr_helper stores -/
theorem tS_sat : ∀ (m D : Nat), tS D (B ^ (m + 1) - 1) (m + 1) + D / B ^ m + sumd D m = B * D
  | 0, D => by
    have hB := B_pos
    show ((B ^ (0 + 1) - 1) / B ^ 0) * D + tS (D / B) ((B ^ (0 + 1) - 1) % B ^ 0) 0 + D / B ^ 0 + sumd D 0 = B * D
    simp only [pow_zero, Nat.div_one, zero_add, pow_one, tS, sumd, Nat.add_zero]
    obtain ⟨b, hb⟩ : ∃ b, B = b + 1 := ⟨B - 1, by omega⟩
    rw [hb, Nat.add_sub_cancel]; ring
  | m + 1, D => by
    have hB := B_pos
    have hP := Bpow_pos (m + 1)
    have ih := tS_sat m (D / B)
    have hlow : B ^ (m + 1) - 1 < B ^ (m + 1) := by omega
    show ((B ^ (m + 1 + 1) - 1) / B ^ (m + 1)) * D + tS (D / B) ((B ^ (m + 1 + 1) - 1) % B ^ (m + 1)) (m + 1)
      + D / B ^ (m + 1) + sumd D (m + 1) = B * D
    rw [Nat.add_comm (m + 1) 1, Bpow_add_pred 1 (m + 1), pow_one, div_of_split _ _ _ hlow, mod_of_split _ _ _ hlow, sumd_shift]
    rw [div_pow_succ] at ih
    have hD := Nat.div_add_mod D B
    obtain ⟨b, hb⟩ : ∃ b, B = b + 1 := ⟨B - 1, by omega⟩
    have e : B - 1 = b := by omega
    rw [e]
    have : b * D + D = B * D := by rw [hb]; ring
    generalize tS (D / B) (B ^ (m + 1) - 1) (m + 1) = t at *
    generalize sumd (D / B) m = s at *
    omega

/-- the lowest quotient digit meets the top of the divisor only -/
theorem tS_snoc (k D Qa q0 : Nat) (hQa : Qa < B ^ k) (hq0 : q0 < B) :
    tS D (Qa * B + q0) (k + 1) = tS D Qa k + q0 * (D / B ^ k) := by
  have h := tS_split 1 k D Qa q0 hQa (by rwa [pow_one])
  rw [pow_one] at h
  rw [h]
  show _ + (q0 / B ^ 0 * (D / B ^ k) + 0) = _
  rw [pow_zero, Nat.div_one, Nat.add_zero]

theorem exists_trailing : ∀ (Q : Nat), 1 ≤ Q →
    ∃ z Qa q0, q0 + 1 < B ∧ Q = (Qa * B + (q0 + 1)) * B ^ z ∧ Q - 1 = (Qa * B + q0) * B ^ z + (B ^ z - 1) := by
  intro Q
  induction Q using Nat.strong_induction_on with
  | _ Q ih =>
    intro hQ
    have hdm := Nat.div_add_mod' Q B
    by_cases h : Q % B = 0
    · rw [h, Nat.add_zero] at hdm
      have h1 : 1 ≤ Q / B := by
        rcases Nat.eq_zero_or_pos (Q / B) with h0 | h0
        · rw [h0, Nat.zero_mul] at hdm; omega
        · exact h0
      obtain ⟨z, Qa, q0, hq0, e, e1⟩ := ih (Q / B) (Nat.div_lt_self hQ (by rw [B_eq]; omega)) h1
      refine ⟨z + 1, Qa, q0, hq0, by rw [← hdm, e, pow_succ, Nat.mul_assoc], ?_⟩
      have hY : Q - 1 = (Q / B - 1) * B + (B - 1) := by
        have : (Q / B - 1) * B + B = Q / B * B := by
          rw [← Nat.succ_mul, Nat.succ_eq_add_one, Nat.sub_add_cancel h1]
        have := B_pos
        omega
      rw [hY, e1, Bpow_add_pred z 1, pow_one, Nat.add_mul, pow_succ, Nat.mul_assoc, Nat.add_assoc]
    · have := Nat.mod_lt Q B_pos
      refine ⟨0, Q / B, Q % B - 1, by omega, ?_, ?_⟩
      · rw [pow_zero, Nat.mul_one]; omega
      · rw [pow_zero, Nat.mul_one]; omega

theorem digit_ones (A z i : Nat) (hi : i < z) : (A * B ^ z + (B ^ z - 1)) / B ^ i % B = B - 1 := by
  have hB := B_pos
  have hz := Bpow_pos z
  rw [← mod_div_mod _ z i hi, mod_of_split _ _ _ (by omega)]
  obtain ⟨e, rfl⟩ : ∃ e, z = e + 1 + i := ⟨z - 1 - i, by omega⟩
  have hi := Bpow_pos i
  rw [Bpow_add_pred (e + 1) i, div_of_split _ _ _ (by omega), Bpow_add_pred e 1, pow_one, mod_of_split _ _ _ (by omega)]

theorem digit_above (Qa q0 z : Nat) (hq0 : q0 < B) : ((Qa * B + q0) * B ^ z + (B ^ z - 1)) / B ^ z % B = q0 := by
  have hP := Bpow_pos z
  rw [div_of_split _ _ _ (by omega), mod_of_split _ _ _ hq0]

/-- decrementing the quotient: with z trailing zero digits, the truncated product drops by ⌊D/B^(m-1)⌋ plus the z
    divisor limbs d_(m-1-z) … d_(m-2) (dc_divappr_q.c:125-128) -/
theorem tS_dec (m z D Qa q0 : Nat) (hQ : (Qa * B + (q0 + 1)) * B ^ z < B ^ m) (hq0 : q0 + 1 < B) :
    tS D ((Qa * B + (q0 + 1)) * B ^ z) m
      = tS D ((Qa * B + q0) * B ^ z + (B ^ z - 1)) m + D / B ^ (m - 1) + sumd (D / B ^ (m - 1 - z)) z := by
  have hB := B_pos
  have hPz := Bpow_pos z
  have hzm : z < m := by
    by_contra hc
    have h1 : B ^ m ≤ B ^ z := Nat.pow_le_pow_right hB (by omega)
    have h2 : 1 * B ^ z ≤ (Qa * B + (q0 + 1)) * B ^ z := Nat.mul_le_mul_right _ (by omega)
    omega
  obtain ⟨k, rfl⟩ : ∃ k, m = (k + 1) + z := ⟨m - z - 1, by omega⟩
  have hQ1 : Qa * B + (q0 + 1) < B ^ (k + 1) := by
    rw [pow_add] at hQ; exact Nat.lt_of_mul_lt_mul_right hQ
  have hQa : Qa < B ^ k := by
    rw [pow_succ] at hQ1
    by_contra hc
    have : B ^ k * B ≤ Qa * B := Nat.mul_le_mul_right _ (by omega)
    omega
  have h0 := tS_split z (k + 1) D (Qa * B + (q0 + 1)) 0 hQ1 hPz
  rw [Nat.add_zero, tS_zero_q, Nat.add_zero] at h0
  rw [h0, tS_split z (k + 1) D (Qa * B + q0) (B ^ z - 1) (by omega) (by omega),
    tS_snoc k D Qa _ hQa hq0, tS_snoc k D Qa _ hQa (by omega),
    show k + 1 + z - 1 = k + z by omega, show k + z - z = k by omega]
  -- the z low digits B - 1 of the decremented quotient against the divisor above limb k
  cases z with
  | zero => simp [tS, sumd]; ring
  | succ z =>
    have hs := tS_sat z (D / B ^ (k + 1))
    have hD := Nat.div_add_mod (D / B ^ k) B
    rw [div_pow_add] at hs
    rw [div_pow_succ'] at hD
    rw [sumd_shift, div_pow_succ', show k + (z + 1) = k + 1 + z by omega]
    linear_combination hD.symm + hs.symm

theorem tS_ones_pred (j D : Nat) : tS D (B ^ (j + 1) - 1) (j + 1) = tS D (B ^ (j + 1) - 2) (j + 1) + D / B ^ j := by
  have hB2 : 2 ≤ B := by rw [B_eq]; omega
  have hj : B ^ j - 1 < B ^ j := Nat.sub_lt (Bpow_pos j) Nat.one_pos
  have e1 : B ^ (j + 1) - 1 = (B ^ j - 1) * B + (B - 1) := by rw [Bpow_add_pred j 1, pow_one]
  have e2 : B ^ (j + 1) - 2 = (B ^ j - 1) * B + (B - 2) := by omega
  rw [e1, e2, tS_snoc j D _ _ hj (by omega), tS_snoc j D _ _ hj (by omega), show B - 1 = B - 2 + 1 by omega,
    Nat.succ_mul, Nat.add_assoc]

/-- the truncated remainder is small, r3 < B² + (m+1)·B, as soon as the quotient is not below the floor: Q·D' is within
    m·B^m of B^(m-1)·tS D' Q m -/
theorem r3_small (m W' D' Q r3 : Nat) (hm : 1 ≤ m) (hQ : Q < B ^ m) (hD : D' < B ^ (m + 1))
    (hX : W' / B ^ (m - 1) = tS D' Q m + r3) (hfl : W' < (Q + 1) * (D' + 1)) : r3 < B * B + (m + 1) * B := by
  obtain ⟨j, rfl⟩ : ∃ j, m = j + 1 := ⟨m - 1, by omega⟩
  have hb := (tS_bounds (j + 1) D' Q hQ).2
  have hW : B ^ j * (W' / B ^ j) ≤ W' := Nat.mul_div_le _ _
  rw [Nat.add_sub_cancel] at hX hb
  rw [pow_succ' B j] at hQ hb
  rw [pow_succ' B (j + 1), pow_succ' B j, ← Nat.mul_assoc] at hD hb
  rw [hX] at hW
  generalize B ^ j = P at *
  have hQ' : Q + 1 ≤ B * P := hQ
  have hD' : D' + 1 ≤ B * B * P := hD
  have hfl' : W' + 1 ≤ (Q + 1) * (D' + 1) := hfl
  -- B·P·r3 ≤ B·W' - B·P·tS < B·(Q+1)·(D'+1) - B·P·tS ≤ B·(Q + D' + 1) + (j+1)·B·B·P
  have h : B * P * r3 + B ≤ B * P * (B * B + (j + 1 + 1) * B) := by
    linear_combination B * hW + B * hfl' + hb + B * hQ' + B * hD' + Nat.zero_le B + Nat.zero_le (B * B * P)
  exact Nat.lt_of_mul_lt_mul_left (Nat.lt_of_lt_of_le (Nat.lt_add_of_pos_right B_pos) h)

theorem tS_hi_le (sl sh D Q : Nat) (hsh : 1 ≤ sh) (hQ : Q < B ^ sh) :
    B ^ (sl + (sh - 1)) * tS D Q sh ≤ Q * B ^ sl * D := by
  have hb := (tS_bounds sh D Q hQ).1
  have e3 : B * B ^ (sl + (sh - 1)) = B ^ sl * B ^ sh := by
    rw [← pow_succ', ← pow_add]; congr 1; omega
  have h3 : B * (B ^ (sl + (sh - 1)) * tS D Q sh) ≤ B * (Q * B ^ sl * D) := by
    linear_combination B ^ sl * hb + tS D Q sh * e3.le
  exact Nat.le_of_mul_le_mul_left h3 B_pos

/-- a negative truncated remainder: the quotient is above the floor -/
theorem lt_of_trunc_lt (sl sh W D Q : Nat) (hsh : 1 ≤ sh) (hQ : Q < B ^ sh) (h : W / B ^ (sl + (sh - 1)) < tS D Q sh) :
    W < Q * B ^ sl * D :=
  calc W < B ^ (sl + (sh - 1)) * (W / B ^ (sl + (sh - 1)) + 1) := Nat.lt_mul_div_succ W (Bpow_pos _)
    _ ≤ B ^ (sl + (sh - 1)) * tS D Q sh := Nat.mul_le_mul_left _ h
    _ ≤ Q * B ^ sl * D := tS_hi_le sl sh D Q hsh hQ

/-- the exact product exceeds what was read by at most k+1 units of B^(k+1), because the truncated remainder r3 is ≥ 0 (with the
    normalisation this becomes "at most one above the floor" in `CallSpec.floor_or_succ`); Qu: digits above the truncating part
    that were divided out exactly -/
theorem upper_of_trunc (k V Ql Qu r3 X : Nat) (hQl : Ql < B ^ (k + 1))
    (hX : X = Qu * (B * V) + tS V Ql (k + 1) + r3) :
    (Ql + B * B ^ k * Qu) * V ≤ B ^ k * X + (k + 1) * B ^ (k + 1) := by
  have hb := (tS_bounds (k + 1) V Ql hQl).2
  apply Nat.le_of_mul_le_mul_left _ B_pos
  rw [Nat.add_sub_cancel, pow_succ (n := k + 1), pow_succ] at hb
  rw [pow_succ, hX]
  linear_combination hb + Nat.zero_le (B * B ^ k * r3) + Nat.zero_le (B * B * B ^ k)

theorem mul_le_of_trunc (m W' D' Q r3 : Nat) (hm : 1 ≤ m) (hQ : Q < B ^ m)
    (hX : W' / B ^ (m - 1) = tS D' Q m + r3) : Q * D' ≤ W' + m * B ^ m := by
  obtain ⟨j, rfl⟩ : ∃ j, m = j + 1 := ⟨m - 1, by omega⟩
  rw [Nat.add_sub_cancel] at hX
  have h := upper_of_trunc j D' Q 0 r3 (W' / B ^ j) hQ (by rw [hX, Nat.zero_mul, Nat.zero_add])
  rw [Nat.mul_zero, Nat.add_zero] at h
  exact h.trans (Nat.add_le_add_right (Nat.mul_div_le _ _) _)

/-- Σ_j q_j · (⌊D / B^(m-1-j)⌋ mod B^sl), same recursion as `tS` -/
def mm (sl : Nat) : Nat → Nat → Nat → Nat
  | _, _, 0 => 0
  | D, Q, m + 1 => (Q / B ^ m) * (D % B ^ sl) + mm sl (D / B) (Q % B ^ m) m

theorem mm_zero (sl : Nat) : ∀ (m D : Nat), mm sl D 0 m = 0
  | 0, _ => rfl
  | m + 1, D => by
    show (0 / B ^ m) * (D % B ^ sl) + mm sl (D / B) (0 % B ^ m) m = 0
    rw [Nat.zero_div, Nat.zero_mod, mm_zero sl m, Nat.zero_mul]

theorem tS_mm (sl : Nat) : ∀ (m D Q : Nat), tS D Q m = B ^ sl * tS (D / B ^ sl) Q m + mm sl D Q m
  | 0, _, _ => by simp [tS, mm]
  | m + 1, D, Q => by
    show (Q / B ^ m) * D + tS (D / B) (Q % B ^ m) m
      = B ^ sl * ((Q / B ^ m) * (D / B ^ sl) + tS (D / B ^ sl / B) (Q % B ^ m) m)
        + ((Q / B ^ m) * (D % B ^ sl) + mm sl (D / B) (Q % B ^ m) m)
    rw [tS_mm sl m (D / B) (Q % B ^ m)]
    have e : D / B / B ^ sl = D / B ^ sl / B := by
      rw [Nat.div_div_eq_div_mul, Nat.div_div_eq_div_mul, Nat.mul_comm]
    rw [e]
    have hD : (Q / B ^ m) * D = (Q / B ^ m) * (B ^ sl * (D / B ^ sl) + D % B ^ sl) := by
      rw [Nat.div_add_mod D (B ^ sl)]
    rw [hD]
    ring

theorem mm_le (sl : Nat) : ∀ (m D Q : Nat), Q < B ^ m → mm sl D Q m ≤ m * (B * B ^ sl)
  | 0, _, _, _ => by simp [mm]
  | m + 1, D, Q, hQ => by
    have hP := Bpow_pos m
    have ih := mm_le sl m (D / B) (Q % B ^ m) (Nat.mod_lt _ hP)
    have h1 : Q / B ^ m < B := by
      rw [Nat.div_lt_iff_lt_mul hP, Nat.mul_comm, ← pow_succ]; exact hQ
    have h2 := Nat.mod_lt D (Bpow_pos sl)
    show (Q / B ^ m) * (D % B ^ sl) + mm sl (D / B) (Q % B ^ m) m ≤ (m + 1) * (B * B ^ sl)
    linear_combination ih + Nat.mul_le_mul h1.le h2.le

theorem mulmidV_congr (an bn A Q m : Nat) : ∀ j, j ≤ m → mulmidV an bn A (Q % B ^ m) j = mulmidV an bn A Q j
  | 0, _ => rfl
  | j + 1, h => by
    show mulmidV an bn A (Q % B ^ m) j + (Q % B ^ m / B ^ j % B) * _ = mulmidV an bn A Q j + (Q / B ^ j % B) * _
    rw [mulmidV_congr an bn A Q m j (by omega), mod_div_mod Q m j (by omega)]

/-- mpn_mulmid (tp, dp, an, qp, bn) with an = sl + bn - 1 is the middle part `mm` of the truncated product -/
theorem mm_eq_mulmidV (sl an bn D : Nat) (hsl : 1 ≤ sl) (han : an + 1 = sl + bn) : ∀ (m e Q : Nat), Q < B ^ m → bn = m + e →
    mm sl (D / B ^ e) Q m = mulmidV an bn D Q m
  | 0, _, _, _, _ => rfl
  | m + 1, e, Q, hQ, hbn => by
    have hP := Bpow_pos m
    have h1 : Q / B ^ m < B := by
      rw [Nat.div_lt_iff_lt_mul hP, Nat.mul_comm, ← pow_succ]; exact hQ
    show (Q / B ^ m) * (D / B ^ e % B ^ sl) + mm sl (D / B ^ e / B) (Q % B ^ m) m
      = mulmidV an bn D Q m + (Q / B ^ m % B) * (D % B ^ an / B ^ (bn - 1 - m) % B ^ (an - bn + 1))
    have e1 : bn - 1 - m = e := by omega
    have e2 : an - bn + 1 = sl := by omega
    have e3 : D / B ^ e / B = D / B ^ (e + 1) := div_pow_succ' D e
    rw [e1, e2, e3, mod_pow_div_mod D an e sl (by omega), Nat.mod_eq_of_lt h1,
      mm_eq_mulmidV sl an bn D hsl han m (e + 1) (Q % B ^ m) (Nat.mod_lt _ hP) (by omega),
      mulmidV_congr an bn D Q m m (le_refl _)]
    ring

/-! Every approximate quotient routine of this tree (mpn_sb_divappr_q, mpn_dc_divappr_q at every level of its recursion) keeps
  `CallSpec`; "⌊N/D⌋ or ⌊N/D⌋ + 1" (`floor_or_succ`) and what a caller inside mpn_dc_divappr_q reads again (`cut`) follow. -/

/-- what a sub-call (leaf or recursion) on m quotient limbs guarantees; dn = the caller's divisor length -/
def CutSpec (m dn Nsub D : Nat) (r : Res) : Prop :=
  r.ok = true ∧ r.q < B ^ m ∧ r.wl ≤ 1 ∧
  Nsub / B ^ (dn - (m + 1)) < (r.q + 1) * (D / B ^ (dn - (m + 1))) ∧
  Nsub / B ^ (dn - (m + 1)) / B ^ (m - 1) = tS (D / B ^ (dn - (m + 1))) r.q m + r.r3

/-- what a call of mpn_dc_divappr_q guarantees, relative to the divisor limbs it uses (dn = min (dn0, qn0 + 1) of them, Dc) and
    the dividend limbs it reads (Nc) -/
def CallSpec (nn dn0 N D0 : Nat) (r : Res) : Prop :=
  let qn0 := nn - dn0
  let dn := if qn0 + 1 < dn0 then qn0 + 1 else dn0
  let Dc := D0 / B ^ (dn0 - dn)
  let Nc := N / B ^ (dn0 - dn)
  r.ok = true ∧ r.q < B ^ qn0 ∧ r.qh ≤ 1 ∧ r.wl ≤ 1 ∧
  Nc < (r.qh * B ^ qn0 + r.q + 1) * Dc ∧ (r.qh * B ^ qn0 + r.q) * Dc ≤ Nc + (dn - 1) * B ^ (dn - 1) ∧
  (qn0 + 1 < dn0 → Nc / B ^ qn0 < Dc → r.qh = 0 ∧ Nc / B ^ (qn0 - 1) = tS Dc r.q qn0 + r.r3)

theorem CallSpec.ok {nn dn N D : Nat} {r : Res} (h : CallSpec nn dn N D r) : r.ok = true := h.1
theorem CallSpec.q_lt {nn dn N D : Nat} {r : Res} (h : CallSpec nn dn N D r) : r.q < B ^ (nn - dn) := h.2.1
theorem CallSpec.qh_le {nn dn N D : Nat} {r : Res} (h : CallSpec nn dn N D r) : r.qh ≤ 1 := h.2.2.1
theorem CallSpec.wl_le {nn dn N D : Nat} {r : Res} (h : CallSpec nn dn N D r) : r.wl ≤ 1 := h.2.2.2.1

theorem CallSpec.remainder {nn dn N D : Nat} {r : Res} (h : CallSpec nn dn N D r) (hcut : nn - dn + 1 < dn)
    (hpre : N / B ^ (dn - (nn - dn + 1)) / B ^ (nn - dn) < D / B ^ (dn - (nn - dn + 1))) :
    r.qh = 0 ∧
      N / B ^ (dn - (nn - dn + 1)) / B ^ (nn - dn - 1) = tS (D / B ^ (dn - (nn - dn + 1))) r.q (nn - dn) + r.r3 := by
  unfold CallSpec at h
  simp only [] at h
  rw [if_pos hcut] at h
  exact h.2.2.2.2.2.2 hcut hpre

/-- error budget: from the two halves of `CallSpec` (relative to the limbs used) to ⌊N/D0⌋ or ⌊N/D0⌋ + 1 -/
theorem appr_budget (Q N D0 Ps n Bn : Nat) (hPs : 0 < Ps) (hD0 : 0 < D0)
    (c1 : N / Ps < (Q + 1) * (D0 / Ps)) (c2 : Q * (D0 / Ps) ≤ N / Ps + n * Bn)
    (hE : n * Bn * Ps + Q * (Ps - 1) ≤ D0) : Q = N / D0 ∨ Q = N / D0 + 1 := by
  have low : N < (Q + 1) * D0 := floor_uncut hPs c1
  have high : Q * D0 ≤ N + D0 := by
    have a : D0 ≤ Ps * (D0 / Ps) + (Ps - 1) := by
      have := Nat.lt_mul_div_succ D0 hPs
      rw [Nat.mul_succ] at this; omega
    linear_combination Q * a + Ps * c2 + Nat.mul_div_le N Ps + hE
  have h1 : N / D0 < Q + 1 := (Nat.div_lt_iff_lt_mul hD0).mpr low
  have h2 : Q < N / D0 + 2 := by
    have hlt := Nat.lt_mul_div_succ N hD0
    have : Q * D0 < (N / D0 + 2) * D0 := by linear_combination high + hlt
    exact Nat.lt_of_mul_lt_mul_right this
  omega

/-- the error term of `CallSpec` plus what the ignored divisor limbs can contribute stays below D -/
theorem CallSpec.floor_or_succ {nn dn N D : Nat} {r : Res} (h : CallSpec nn dn N D r) (hdn : 1 ≤ dn)
    (hnorm : B ^ dn ≤ 2 * D) (hsize : 2 * dn + 2 ≤ B) :
    r.qh * B ^ (nn - dn) + r.q = N / D ∨ r.qh * B ^ (nn - dn) + r.q = N / D + 1 := by
  unfold CallSpec at h
  simp only [] at h
  obtain ⟨-, c2, c3, -, c5, c6, -⟩ := h
  have hD0 : 0 < D := by have := Bpow_pos dn; omega
  by_cases hcut : nn - dn + 1 < dn
  · rw [if_pos hcut] at c5 c6
    rw [Nat.add_sub_cancel] at c6
    apply appr_budget _ N D (B ^ (dn - (nn - dn + 1))) (nn - dn) (B ^ (nn - dn)) (Bpow_pos _) hD0 c5 c6
    have hQ : r.qh * B ^ (nn - dn) + r.q ≤ 2 * B ^ (nn - dn) := by
      have : r.qh * B ^ (nn - dn) ≤ 1 * B ^ (nn - dn) := Nat.mul_le_mul_right _ c3
      omega
    have e : B ^ dn = B * (B ^ (nn - dn) * B ^ (dn - (nn - dn + 1))) := by
      rw [← pow_add, ← pow_succ']; congr 1; omega
    have h1 : (r.qh * B ^ (nn - dn) + r.q) * (B ^ (dn - (nn - dn + 1)) - 1)
        ≤ 2 * B ^ (nn - dn) * B ^ (dn - (nn - dn + 1)) := Nat.mul_le_mul hQ (Nat.sub_le _ _)
    have h2 : 2 * (nn - dn + 2) * (B ^ (nn - dn) * B ^ (dn - (nn - dn + 1))) ≤ B * (B ^ (nn - dn) * B ^ (dn - (nn - dn + 1))) :=
      Nat.mul_le_mul_right _ (by omega)
    rw [e] at hnorm
    have : 2 * ((nn - dn) * B ^ (nn - dn) * B ^ (dn - (nn - dn + 1))
        + (r.qh * B ^ (nn - dn) + r.q) * (B ^ (dn - (nn - dn + 1)) - 1)) ≤ 2 * D := by
      linear_combination 2 * h1 + h2 + hnorm
    omega
  · rw [if_neg hcut] at c5 c6
    rw [Nat.sub_self, pow_zero] at c5 c6
    apply appr_budget _ N D 1 (dn - 1) (B ^ (dn - 1)) Nat.one_pos hD0 c5 c6
    rw [Nat.sub_self, Nat.mul_zero, Nat.add_zero, Nat.mul_one]
    have h2 : 2 * (dn - 1) * B ^ (dn - 1) ≤ B * B ^ (dn - 1) := Nat.mul_le_mul_right _ (by omega)
    rw [← pow_succ', Nat.sub_add_cancel (by omega : 1 ≤ dn)] at h2
    have := Nat.mul_assoc 2 (dn - 1) (B ^ (dn - 1))
    omega

theorem CallSpec.cut {m dn Nsub D : Nat} {r : Res} (h : CallSpec (dn + m) dn Nsub D r) (hm : m + 1 < dn)
    (hpre : Nsub / B ^ (dn - (m + 1)) / B ^ m < D / B ^ (dn - (m + 1))) : CutSpec m dn Nsub D r := by
  unfold CallSpec at h
  simp only [Nat.add_sub_cancel_left] at h
  rw [if_pos hm] at h
  obtain ⟨i1, i2, -, i4, i5, -, i7⟩ := h
  obtain ⟨j1, j2⟩ := i7 hm hpre
  rw [j1, Nat.zero_mul, Nat.zero_add] at i5
  exact ⟨i1, i2, i4, i5, j2⟩

/-- the leaf mpn_dc_divappr_q calls below SB_DIVAPPR_Q_CUTOFF keeps `CallSpec` on its ASSERTed domain: all the induction over
    the recursion needs to know about it -/
def LeafOK (leaf : Leaf) : Prop :=
  ∀ nn dn N D, 3 ≤ dn → dn < nn → N < B ^ nn → D < B ^ dn → B ^ dn ≤ 2 * D → 2 * dn + 2 ≤ B →
    CallSpec nn dn N D (leaf nn dn N D)

end Mpir.DcDivappr
