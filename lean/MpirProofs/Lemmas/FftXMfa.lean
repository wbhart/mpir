/- The matrix Fourier variants of Mpir/Model/FftX.lean: the twiddled column transforms, strided access, then mpir_fft_mfa_trunc_sqrt2. -/

import MpirProofs.Lemmas.FftX
import Mathlib.Algebra.BigOperators.Ring.Finset
import Mpir.Model.FftMfa
import MpirProofs.Lemmas.FftXSqrt2
import Mathlib.Data.List.Nodup

namespace Mpir.FftX
open Mpir Finset

/-! ### mpir_revbin is `rev` -/

theorem revLoop_eq (k x out : Nat) : revLoop k x out = out * 2 ^ k + rev k (x % 2 ^ k) := by
  induction k generalizing x out with
  | zero => simp [revLoop, rev]
  | succ k ih =>
    rw [revLoop, ih]
    have hx : x % 2 ^ (k + 1) = 2 * (x / 2 % 2 ^ k) + x % 2 := by
      rw [pow_succ, Nat.mod_mul_left_div_self_aux]
    rw [hx, rev_low k _ _ (Nat.mod_lt _ (Nat.two_pow_pos k)) (Nat.mod_lt _ (by norm_num)), pow_succ]; ring
where
  Nat.mod_mul_left_div_self_aux {x k : Nat} : x % (2 ^ k * 2) = 2 * (x / 2 % 2 ^ k) + x % 2 := by
    rw [Nat.mul_comm, Nat.mod_mul]; omega

theorem revbin_rev (bits k : Nat) (hk : k < 2 ^ bits) : revbin k bits = rev bits k := by
  unfold revbin
  split_ifs with h
  · have tab : ∀ b, b ≤ 4 → ∀ x, x < 16 → x < 2 ^ b → (revtab.getD b []).getD x 0 = rev b x := by decide
    have hk16 : k < 16 := lt_of_lt_of_le hk (by
      calc 2 ^ bits ≤ 2 ^ 4 := Nat.pow_le_pow_right (by norm_num) h
        _ = 16 := by norm_num)
    exact tab bits h k hk16 hk
  · rw [revLoop_eq, Nat.mod_eq_of_lt hk]; simp

/-! ### the forward twiddled column transforms (fft_mfa_trunc_sqrt2.c:65-140) -/

theorem fft_radix2_twiddle_succ (d w ws r c rs : Nat) (xs : List Int) : fft_radix2_twiddle (d + 1) w ws r c rs xs =
    fft_radix2_twiddle d (2 * w) ws r c (2 * rs) (difSums (2 ^ (d + 1)) w xs) ++
    fft_radix2_twiddle d (2 * w) ws (r + rs) c (2 * rs) (difDiffs (2 ^ (d + 1)) w xs) := rfl

theorem length_fft_radix2_twiddle (d w ws r c rs : Nat) (xs : List Int) :
    (fft_radix2_twiddle d w ws r c rs xs).length = 2 ^ (d + 1) := by
  induction d generalizing w r rs xs with
  | zero => simp [fft_radix2_twiddle]
  | succ d ih => rw [fft_radix2_twiddle_succ, List.length_append, ih, ih]; ring

theorem el_fft_radix2_twiddle_low (d w ws r c rs : Nat) (xs : List Int) (m : Nat) (hm : m < 2 ^ (d + 1)) :
    el (fft_radix2_twiddle (d + 1) w ws r c rs xs) m =
      el (fft_radix2_twiddle d (2 * w) ws r c (2 * rs) (difSums (2 ^ (d + 1)) w xs)) m := by
  rw [fft_radix2_twiddle_succ, el_append_left _ _ _ (by rw [length_fft_radix2_twiddle]; exact hm)]

theorem el_fft_radix2_twiddle_high (d w ws r c rs : Nat) (xs : List Int) (m : Nat) :
    el (fft_radix2_twiddle (d + 1) w ws r c rs xs) (2 ^ (d + 1) + m) =
      el (fft_radix2_twiddle d (2 * w) ws (r + rs) c (2 * rs) (difDiffs (2 ^ (d + 1)) w xs)) m := by
  rw [fft_radix2_twiddle_succ, el_append_right' _ _ _ _ (length_fft_radix2_twiddle _ _ _ _ _ _ _)]

/-- the twiddled transform is the plain one with output k (frequency rev k) times 2^((r + rs·rev k)·c·ws), exactly; with
    r = 0, rs = 1 that is the twiddle z^(frequency·column) of the matrix Fourier algorithm, z = 2^ws -/
theorem el_fft_radix2_twiddle (d w ws r c rs : Nat) (xs : List Int) (k : Nat) (hk : k < 2 ^ (d + 1)) :
    el (fft_radix2_twiddle d w ws r c rs xs) k =
      el (fft_radix2 d w xs) k * 2 ^ ((r + rs * rev (d + 1) k) * c * ws) := by
  induction d generalizing w r rs xs k with
  | zero =>
    have r0 : rev 1 0 = 0 := by decide
    have r1 : rev 1 1 = 1 := by decide
    have e1 : ∀ a b : Int, el [a, b] 1 = b := fun _ _ => rfl
    simp only [Nat.zero_add, pow_one] at hk ⊢
    rw [fft_radix2_zero]
    simp only [fft_radix2_twiddle, bflyTw]
    interval_cases k
    · rw [el_cons_zero, el_cons_zero, r0]; congr 2
    · rw [e1, e1, r1, Nat.zero_mul, pow_zero, mul_one]; congr 2; ring
  | succ d ih =>
    rw [pow_succ' 2 (d + 1)] at hk
    apply lt_two_mul_cases hk <;> intro i hi
    · rw [el_fft_radix2_twiddle_low _ _ _ _ _ _ _ _ hi, ih _ _ _ _ _ hi, el_fft_radix2_low _ _ _ _ hi, rev_lo _ _ hi]
      congr 2; ring
    · rw [el_fft_radix2_twiddle_high, ih _ _ _ _ _ hi, el_fft_radix2_high, rev_hi]
      congr 2; ring

section ring
variable {S : Type} [CommRing S] (f : ℤ →+* S)

theorem fft_radix2_twiddle_dft (d w ws r c rs : Nat) (xs : List Int) (hz : f 2 ^ (2 ^ d * w) = -1) (k : Nat)
    (hk : k < 2 ^ (d + 1)) :
    f (el (fft_radix2_twiddle d w ws r c rs xs) k) =
      (∑ j ∈ range (2 ^ (d + 1)), f (el xs j) * (f 2 ^ w) ^ (rev (d + 1) k * j)) *
        f 2 ^ ((r + rs * rev (d + 1) k) * c * ws) := by
  rw [el_fft_radix2_twiddle _ _ _ _ _ _ _ _ hk, map_mul, fft_radix2_dft f d w xs hz k hk, map_pow]

theorem sum_range_mul_eq (n1 n2 : Nat) (F : Nat → S) :
    ∑ k ∈ range (n1 * n2), F k = ∑ m ∈ range n2, ∑ i ∈ range n1, F (i + m * n1) := by
  induction n2 with
  | zero => simp
  | succ n2 ih =>
    rw [Nat.mul_succ, sum_range_add, ih, sum_range_succ]
    congr 1
    apply sum_congr rfl; intro i _; congr 1; ring

/-- n = n1·n2: column DFTs (root ω^n1), twiddles ω^(j·i), row DFTs (root ω^n2) give the length-n DFT; entry (row j, column t)
    is the value of frequency j + n2·t -/
theorem mfa_index (ω : S) (n1 n2 : Nat) (hω : ω ^ (n1 * n2) = 1) (x : Nat → S) (j t : Nat) :
    ∑ i ∈ range n1, ((∑ m ∈ range n2, x (i + m * n1) * (ω ^ n1) ^ (j * m)) * ω ^ (j * i)) * (ω ^ n2) ^ (t * i) =
      ∑ k ∈ range (n1 * n2), x k * ω ^ ((j + n2 * t) * k) := by
  rw [sum_range_mul_eq, sum_comm]
  apply sum_congr rfl; intro i _
  rw [sum_mul, sum_mul]
  apply sum_congr rfl; intro m _
  have e : ω ^ ((j + n2 * t) * (i + m * n1)) =
      (ω ^ n1) ^ (j * m) * ω ^ (j * i) * (ω ^ n2) ^ (t * i) * (ω ^ (n1 * n2)) ^ (t * m) := by
    simp only [← pow_mul, ← pow_add]; congr 1; ring
  rw [e, hω]; simp; ring

end ring

theorem prefix_fft_trunc1_twiddle (d w ws r c rs t : Nat) (ht : TruncOk d t) :
    Prefix t (2 ^ (d + 1)) (fft_radix2_twiddle d w ws r c rs) (fft_trunc1_twiddle d w ws r c rs t) := by
  induction d generalizing w r rs t with
  | zero =>
    cases truncOk_zero ht
    exact fun xs => ⟨fun _ => by simp [fft_trunc1_twiddle, length_fft_radix2_twiddle],
      by simp [fft_trunc1_twiddle, length_fft_radix2_twiddle], fun k _ => by simp [fft_trunc1_twiddle]⟩
  | succ d ih =>
    rw [pow_succ' 2 (d + 1)]
    exact Prefix.trunc1 (fft_radix2_twiddle_succ d w ws r c rs) (length_fft_radix2_twiddle d _ _ _ _ _)
      (length_fft_radix2_twiddle d _ _ _ _ _)
      (fun h => ih _ _ _ _ (truncOk_low ht h)) (fun h => ih _ _ _ _ (truncOk_high ht h))

/-! ### the inverse twiddled column transforms; the common factor `k`: the rows of the MFA convolution arrive multiplied by n1 -/

theorem length_ifft_radix2_twiddle (d w ws r c rs : Nat) (xs : List Int) :
    (ifft_radix2_twiddle d w ws r c rs xs).length = 2 ^ (d + 1) := by
  cases d with
  | zero => simp [ifft_radix2_twiddle]
  | succ d => simp only [ifft_radix2_twiddle, List.length_append, length_fsts, length_snds]; ring

/-- the largest twiddle exponent of the children is that of the parent -/
theorem tw_bound_child (d w ws r c rs : Nat) (hb : (r + rs * (2 ^ (d + 1 + 1) - 1)) * c * ws ≤ 2 * (2 ^ (d + 1) * w)) :
    (r + 2 * rs * (2 ^ (d + 1) - 1)) * c * ws ≤ 2 * (2 ^ d * (2 * w)) ∧
    (r + rs + 2 * rs * (2 ^ (d + 1) - 1)) * c * ws ≤ 2 * (2 ^ d * (2 * w)) := by
  have hp : 2 ^ (d + 1 + 1) = 2 * 2 ^ (d + 1) := by rw [pow_succ]; ring
  have hq : 2 * (2 ^ d * (2 * w)) = 2 * (2 ^ (d + 1) * w) := by rw [pow_succ]; ring
  have hpos := Nat.two_pow_pos (d + 1)
  rw [hq]
  have e2 : r + rs + 2 * rs * (2 ^ (d + 1) - 1) = r + rs * (2 ^ (d + 1 + 1) - 1) := by
    rw [hp]
    obtain ⟨P, hP⟩ : ∃ P, 2 ^ (d + 1) = P + 1 := ⟨2 ^ (d + 1) - 1, by omega⟩
    rw [hP]
    have : 2 * (P + 1) - 1 = 2 * P + 1 := by omega
    rw [this, Nat.add_sub_cancel]; ring
  have e1 : r + 2 * rs * (2 ^ (d + 1) - 1) ≤ r + rs * (2 ^ (d + 1 + 1) - 1) := by rw [← e2]; omega
  constructor
  · exact le_trans (Nat.mul_le_mul_right _ (Nat.mul_le_mul_right _ e1)) hb
  · rw [e2]; exact hb

section ring
variable {S : Type} [CommRing S] {f : ℤ →+* S}

theorem ibflyTw_val (f : ℤ →+* S) (wn : Nat) (a b : Int) (b1 b2 : Nat) (k X Y : S) (hu : f 2 ^ (2 * wn) = 1)
    (h1 : b1 ≤ 2 * wn) (h2 : b2 ≤ 2 * wn)
    (ha : f a = k * ((X + Y) * f 2 ^ b1)) (hb : f b = k * ((X - Y) * f 2 ^ b2)) :
    f (ibflyTw wn a b b1 b2).1 = 2 * k * X ∧ f (ibflyTw wn a b b1 b2).2 = 2 * k * Y := by
  have e1 := pow_mul_pow_sub_eq_one (f 2) (2 * wn) b1 hu h1
  have e2 := pow_mul_pow_sub_eq_one (f 2) (2 * wn) b2 hu h2
  simp only [ibflyTw, map_add, map_sub, map_mul, map_pow, ha, hb]
  constructor
  · linear_combination (k * (X + Y)) * e1 + (k * (X - Y)) * e2
  · linear_combination (k * (X + Y)) * e1 - (k * (X - Y)) * e2

theorem difLayer_twiddle (d w ws r c rs : Nat) : DifLayer f (2 ^ (d + 1)) (fun i => f 2 ^ (i * w))
    (fft_radix2_twiddle (d + 1) w ws r c rs)
    (fft_radix2_twiddle d (2 * w) ws r c (2 * rs)) (fft_radix2_twiddle d (2 * w) ws (r + rs) c (2 * rs)) :=
  fun xs => ⟨_, _, fun k hk => ⟨el_fft_radix2_twiddle_low d w ws r c rs xs k hk, f_difSums f _ _ _ k hk,
    f_difDiffs f _ _ _ k hk⟩, el_fft_radix2_twiddle_high d w ws r c rs xs⟩

theorem recovers_ifft_radix2_twiddle (d w ws r c rs : Nat) (hd : 64 ∣ 2 ^ d * w) (hu : f 2 ^ (2 * (2 ^ d * w)) = 1)
    (hb : (r + rs * (2 ^ (d + 1) - 1)) * c * ws ≤ 2 * (2 ^ d * w)) (k : S) :
    Recovers f (2 ^ (d + 1)) (2 ^ (d + 1)) k (k * 2 ^ (d + 1)) (fft_radix2_twiddle d w ws r c rs)
      (ifft_radix2_twiddle d w ws r c rs) := by
  induction d generalizing w r rs with
  | zero =>
    intro xs ys h _ j hj
    simp only [Nat.pow_zero, Nat.one_mul, Nat.zero_add, Nat.pow_one] at hd hu hj h hb ⊢
    have ew : wnOf 1 w = w := by rw [wnOf_eq 1 w (by simpa using hd)]; simp
    have hb' : (r + rs) * c * ws ≤ 2 * w := by simpa using hb
    have h0 := h 0 (by norm_num); have h1 := h 1 (by norm_num)
    simp only [fft_radix2_twiddle, bflyTw] at h0 h1
    rw [el_cons_zero] at h0
    rw [show ∀ a b : Int, el [a, b] 1 = b from fun _ _ => rfl] at h1
    have e2 : (r * c + rs * c) * ws = (r + rs) * c * ws := by ring
    have le1 : r * c * ws ≤ (r + rs) * c * ws :=
      Nat.mul_le_mul_right _ (Nat.mul_le_mul_right _ (Nat.le_add_right _ _))
    have hbv := ibflyTw_val f w (el ys 0) (el ys 1) (r * c * ws) ((r * c + rs * c) * ws) k (f (el xs 0)) (f (el xs 1)) hu
      (by omega) (by rw [e2]; exact hb')
      (by rw [h0]; simp) (by rw [h1]; simp)
    simp only [ifft_radix2_twiddle, ew]
    interval_cases j
    · rw [el_cons_zero, hbv.1]; ring
    · rw [show ∀ a b : Int, el [a, b] 1 = b from fun _ _ => rfl, hbv.2]; ring
  | succ d ih =>
    obtain ⟨a1, _, a3, a4, a5⟩ := layer_side d w hd hu
    obtain ⟨hb1, hb2⟩ := tw_bound_child d w ws r c rs hb
    rw [pow_succ' 2 (d + 1), pow_succ' (2 : S) (d + 1), mul_left_comm]
    exact Recovers.radix2 a1 a3 (difLayer_twiddle d w ws r c rs) (length_ifft_radix2_twiddle d _ _ _ _ _)
      (ih _ _ _ a4 a5 hb1) (ih _ _ _ a4 a5 hb2)

theorem recovers_ifft_trunc1_twiddle (d w ws r c rs t : Nat) (ht : TruncOk d t) (hd : 64 ∣ 2 ^ d * w) (hw : 1 ≤ w)
    (hu : f 2 ^ (2 * (2 ^ d * w)) = 1) (hb : (r + rs * (2 ^ (d + 1) - 1)) * c * ws ≤ 2 * (2 ^ d * w)) (k : S) :
    Recovers f t (2 ^ (d + 1)) k (k * 2 ^ (d + 1)) (fft_radix2_twiddle d w ws r c rs)
      (ifft_trunc1_twiddle d w ws r c rs t) := by
  induction d generalizing w r rs t with
  | zero =>
    cases truncOk_zero ht
    exact recovers_ifft_radix2_twiddle 0 w ws r c rs hd hu hb k
  | succ d ih =>
    obtain ⟨a1, a2, a3, a4, a5⟩ := layer_side d w hd hu
    obtain ⟨hb1, hb2⟩ := tw_bound_child d w ws r c rs hb
    have R1 := recovers_ifft_radix2_twiddle (d + 1) w ws r c rs hd hu hb k
    rw [pow_succ' 2 (d + 1), pow_succ' (2 : S) (d + 1), mul_left_comm] at R1 ⊢
    exact Recovers.trunc1 a1 (a2 hw) a3 (difLayer_twiddle d w ws r c rs) (pow_succ' 2 (d + 1) ▸ ht.2.2) R1
      (recovers_ifft_radix2_twiddle d _ ws r c _ a4 a5 hb1 k)
      (fun h => ih _ _ _ _ (truncOk_low ht h) a4 (by omega) a5 hb1)
      (fun h => ih _ _ _ _ (truncOk_high ht h) a4 (by omega) a5 hb2)

end ring

/-! ### column pass + row pass = the plain transform, permuted -/

theorem length_revPerm (D : Nat) (c : List Int) : (revPerm D c).length = c.length := by simp [revPerm]

theorem el_revPerm (D : Nat) (c : List Int) (hc : c.length = 2 ^ D) (j : Nat) (hj : j < 2 ^ D) :
    el (revPerm D c) j = el c (rev D j) := by
  unfold revPerm
  rw [el_range_map _ _ _ (by rw [hc]; exact hj), revbin_rev D j hj]

theorem el_getCol (xs : List Int) (off is cnt j : Nat) (hj : j < cnt) : el (getCol xs off is cnt) j = el xs (off + j * is) :=
  el_range_map _ _ _ hj

/-- column pass (fft_mfa_trunc_sqrt2.c:202-207): entry j of column i after mpir_fft_radix2_twiddle and the revbin swaps -/
def mfaCol (e2 w n1 : Nat) (xs : List Int) (i : Nat) : List Int :=
  revPerm (e2 + 1) (fft_radix2_twiddle e2 (w * n1) w 0 i 1 (getCol xs i n1 (2 ^ (e2 + 1))))

/-- row pass (fft_mfa_trunc_sqrt2.c:211-219): row j after mpir_fft_radix2 and the revbin swaps -/
def mfaRow (e1 e2 w : Nat) (xs : List Int) (j : Nat) : List Int :=
  revPerm (e1 + 1) (fft_radix2 e1 (w * 2 ^ (e2 + 1))
    ((List.range (2 ^ (e1 + 1))).map fun i => el (mfaCol e2 w (2 ^ (e1 + 1)) xs i) j))

section ring
variable {S : Type} [CommRing S] (f : ℤ →+* S)

theorem mfaCol_val (e1 e2 w : Nat) (xs : List Int) (hz : f 2 ^ (2 ^ (e1 + e2 + 1) * w) = -1) (i j : Nat)
    (hj : j < 2 ^ (e2 + 1)) :
    f (el (mfaCol e2 w (2 ^ (e1 + 1)) xs i) j) =
      (∑ m ∈ range (2 ^ (e2 + 1)), f (el xs (i + m * 2 ^ (e1 + 1))) * ((f 2 ^ w) ^ 2 ^ (e1 + 1)) ^ (j * m)) *
        (f 2 ^ w) ^ (j * i) := by
  have hz' : f 2 ^ (2 ^ e2 * (w * 2 ^ (e1 + 1))) = -1 := by
    rw [← hz]; congr 1; rw [pow_succ, pow_succ, pow_add]; ring
  unfold mfaCol
  rw [el_revPerm _ _ (length_fft_radix2_twiddle _ _ _ _ _ _ _) j hj,
    fft_radix2_twiddle_dft f e2 _ w 0 i 1 _ hz' _ (rev_lt _ _), rev_rev _ _ hj]
  congr 1
  · apply sum_congr rfl; intro m hm
    rw [el_getCol _ _ _ _ _ (mem_range.mp hm)]
    congr 1
    simp only [← pow_mul]
  · rw [← pow_mul]; congr 1; ring

/-- the two passes leave in (row j, column t) what the plain radix-2 transform leaves in position rev(j + n2·t) -/
theorem mfa_passes (e1 e2 w : Nat) (xs : List Int) (hz : f 2 ^ (2 ^ (e1 + e2 + 1) * w) = -1) (j t : Nat)
    (hj : j < 2 ^ (e2 + 1)) (ht : t < 2 ^ (e1 + 1)) :
    f (el (mfaRow e1 e2 w xs j) t) =
      f (el (fft_radix2 (e1 + e2 + 1) w xs) (rev (e1 + e2 + 1 + 1) (j + 2 ^ (e2 + 1) * t))) := by
  have hN : 2 ^ (e1 + 1) * 2 ^ (e2 + 1) = 2 ^ (e1 + e2 + 1 + 1) := by rw [← pow_add]; congr 1; ring
  have hlt : j + 2 ^ (e2 + 1) * t < 2 ^ (e1 + e2 + 1 + 1) := by
    rw [← hN]
    calc j + 2 ^ (e2 + 1) * t < 2 ^ (e2 + 1) + 2 ^ (e2 + 1) * t := by omega
      _ = 2 ^ (e2 + 1) * (t + 1) := by ring
      _ ≤ 2 ^ (e2 + 1) * 2 ^ (e1 + 1) := Nat.mul_le_mul_left _ ht
      _ = 2 ^ (e1 + 1) * 2 ^ (e2 + 1) := by ring
  have hz1 : f 2 ^ (2 ^ e1 * (w * 2 ^ (e2 + 1))) = -1 := by
    rw [← hz]; congr 1; rw [pow_succ, pow_succ, pow_add]; ring
  have hω : (f 2 ^ w) ^ (2 ^ (e1 + 1) * 2 ^ (e2 + 1)) = 1 := by
    have : (f 2 ^ w) ^ (2 ^ (e1 + 1) * 2 ^ (e2 + 1)) = (f 2 ^ (2 ^ (e1 + e2 + 1) * w)) ^ 2 := by
      rw [← pow_mul, ← pow_mul]; congr 1; rw [hN, pow_succ]; ring
    rw [this, hz]; norm_num
  rw [fft_radix2_dft f _ w xs hz _ (rev_lt _ _), rev_rev _ _ hlt]
  unfold mfaRow
  rw [el_revPerm _ _ (length_fft_radix2 _ _ _) t ht, fft_radix2_dft f e1 _ _ hz1 _ (rev_lt _ _), rev_rev _ _ ht]
  rw [← hN, ← mfa_index (f 2 ^ w) (2 ^ (e1 + 1)) (2 ^ (e2 + 1)) hω (fun k => f (el xs k)) j t]
  apply sum_congr rfl; intro i hi
  rw [el_range_map _ _ _ (mem_range.mp hi), mfaCol_val f e1 e2 w xs hz i j hj]
  congr 1
  simp only [← pow_mul]

end ring

/-! ### strided access (getCol / setCol / onRows): what a fold of column-local or row-local updates leaves in every entry -/


theorem length_setCol (xs : List Int) (off is : Nat) (col : List Int) : (setCol xs off is col).length = xs.length := by
  simp [setCol]

theorem length_getCol (xs : List Int) (off is cnt : Nat) : (getCol xs off is cnt).length = cnt := by simp [getCol]

theorem el_setCol (xs : List Int) (off is : Nat) (col : List Int) (k : Nat) (hk : k < xs.length) :
    el (setCol xs off is col) k =
      if off ≤ k ∧ (k - off) % is = 0 ∧ (k - off) / is < col.length then el col ((k - off) / is) else el xs k :=
  el_range_map _ _ _ hk

theorem add_mul_mod (a q n : Nat) (ha : a < n) : (a + q * n) % n = a := by
  rw [Nat.add_mul_mod_self_right, Nat.mod_eq_of_lt ha]

theorem add_mul_div (a q n : Nat) (ha : a < n) : (a + q * n) / n = q := by
  rw [Nat.add_mul_div_right _ _ (by omega), Nat.div_eq_of_lt ha]; simp

/-- writing column c (offset base' + c) of an n2 × n1 matrix and reading entry (j, i) of the matrix at `base`;
    the two matrices are the same (base = base') or apart by a multiple of n1 rows beyond n2 -/
theorem el_setCol_same (xs : List Int) (base n1 n2 c i j : Nat) (col : List Int) (hcl : col.length = n2)
    (hc : c < n1) (hi : i < n1) (hj : j < n2) (hk : base + i + j * n1 < xs.length) :
    el (setCol xs (base + c) n1 col) (base + i + j * n1) = if i = c then el col j else el xs (base + i + j * n1) := by
  rw [el_setCol _ _ _ _ _ hk]
  by_cases hic : i = c
  · subst hic
    have e : base + i + j * n1 - (base + i) = 0 + j * n1 := by omega
    rw [e, add_mul_mod 0 j n1 (by omega), add_mul_div 0 j n1 (by omega), if_pos ⟨by omega, rfl, by omega⟩, if_pos rfl]
  · rw [if_neg hic]
    apply if_neg
    rintro ⟨h1, h2, _⟩
    rcases Nat.lt_or_ge c i with h | h
    · have e : base + i + j * n1 - (base + c) = (i - c) + j * n1 := by omega
      rw [e, add_mul_mod _ _ _ (by omega)] at h2; omega
    · -- i < c: then j ≥ 1 and the remainder is n1 + i − c
      have hj1 : 1 ≤ j := by
        rcases Nat.eq_zero_or_pos j with h0 | h0
        · subst h0; simp at h1; omega
        · exact h0
      obtain ⟨j', rfl⟩ : ∃ j', j = j' + 1 := ⟨j - 1, by omega⟩
      have e : base + i + (j' + 1) * n1 - (base + c) = (n1 + i - c) + j' * n1 := by
        rw [Nat.add_mul]; omega
      rw [e, add_mul_mod _ _ _ (by omega)] at h2; omega

/-- … of the other matrix: first-half write, second-half read (the matrices are n1·n2 apart) -/
theorem el_setCol_lo_hi (xs : List Int) (n1 n2 c i j : Nat) (col : List Int) (hcl : col.length = n2)
    (hc : c < n1) (hi : i < n1) (hk : n1 * n2 + i + j * n1 < xs.length) :
    el (setCol xs c n1 col) (n1 * n2 + i + j * n1) = el xs (n1 * n2 + i + j * n1) := by
  rw [el_setCol _ _ _ _ _ hk]
  apply if_neg
  rintro ⟨_, h2, h3⟩
  rcases Nat.lt_or_ge i c with h | h
  · have e : n1 * n2 + i + j * n1 - c = (n1 + i - c) + (n2 - 1 + j) * n1 := by
      have : 1 ≤ n2 := Nat.pos_of_ne_zero (by rintro rfl; rw [hcl] at h3; exact Nat.not_lt_zero _ h3)
      obtain ⟨m, rfl⟩ : ∃ m, n2 = m + 1 := ⟨n2 - 1, by omega⟩
      simp only [Nat.add_sub_cancel, Nat.mul_succ, Nat.add_mul]; rw [Nat.mul_comm n1 m]; omega
    rw [e, add_mul_mod _ _ _ (by omega)] at h2; omega
  · have e : n1 * n2 + i + j * n1 - c = (i - c) + (n2 + j) * n1 := by
      rw [Nat.add_mul, Nat.mul_comm n1 n2]; omega
    rw [e, add_mul_mod _ _ _ (by omega)] at h2
    rw [e, add_mul_div _ _ _ (by omega)] at h3; omega

/-- second-half write, first-half read -/
theorem el_setCol_hi_lo (xs : List Int) (n1 n2 c i j : Nat) (col : List Int) (hi : i < n1) (hj : j < n2)
    (hk : i + j * n1 < xs.length) :
    el (setCol xs (n1 * n2 + c) n1 col) (i + j * n1) = el xs (i + j * n1) := by
  rw [el_setCol _ _ _ _ _ hk]
  apply if_neg
  rintro ⟨h1, _, _⟩
  have : i + j * n1 < n1 * n2 := by
    calc i + j * n1 < n1 + j * n1 := by omega
      _ = (j + 1) * n1 := by ring
      _ ≤ n2 * n1 := Nat.mul_le_mul_right _ hj
      _ = n1 * n2 := Nat.mul_comm _ _
  omega

theorem row_bound {n1 n2 i : Nat} (hi : i < n2) : i * n1 + n1 ≤ n1 * n2 := by
  have := Nat.mul_le_mul_right n1 (Nat.succ_le_of_lt hi)
  rw [Nat.succ_mul, Nat.mul_comm n2] at this; exact this

theorem idx_lt (n1 n2 i j : Nat) (hi : i < n1) (hj : j < n2) : i + j * n1 < n1 * n2 := by
  have := row_bound (n1 := n1) hj; omega

/-- `W ys c` changes only the columns c of the two matrices held by `ys`, to `A c` and `Bc c` of these two columns -/
def ColStep (n1 n2 : Nat) (W : List Int → Nat → List Int) (A Bc : Nat → List Int → List Int → List Int) : Prop :=
  ∀ c < n1, ∀ ys : List Int, ys.length = 2 * (n1 * n2) →
    (W ys c).length = ys.length ∧ ∀ i < n1, ∀ j < n2,
      el (W ys c) (i + j * n1) =
        (if i = c then el (A c (getCol ys c n1 n2) (getCol ys (n1 * n2 + c) n1 n2)) j else el ys (i + j * n1)) ∧
      el (W ys c) (n1 * n2 + i + j * n1) =
        (if i = c then el (Bc c (getCol ys c n1 n2) (getCol ys (n1 * n2 + c) n1 n2)) j
         else el ys (n1 * n2 + i + j * n1))

theorem fold_colStep (n1 n2 : Nat) (W : List Int → Nat → List Int) (A Bc : Nat → List Int → List Int → List Int)
    (hW : ColStep n1 n2 W A Bc) (xs : List Int) (hlen : xs.length = 2 * (n1 * n2)) :
    ((List.range n1).foldl W xs).length = xs.length ∧
    ∀ i < n1, ∀ j < n2,
      el ((List.range n1).foldl W xs) (i + j * n1) = el (A i (getCol xs i n1 n2) (getCol xs (n1 * n2 + i) n1 n2)) j ∧
      el ((List.range n1).foldl W xs) (n1 * n2 + i + j * n1) =
        el (Bc i (getCol xs i n1 n2) (getCol xs (n1 * n2 + i) n1 n2)) j := by
  have key : ∀ c ≤ n1, ((List.range c).foldl W xs).length = xs.length ∧
      ∀ i < n1, ∀ j < n2,
        el ((List.range c).foldl W xs) (i + j * n1) =
          (if i < c then el (A i (getCol xs i n1 n2) (getCol xs (n1 * n2 + i) n1 n2)) j else el xs (i + j * n1)) ∧
        el ((List.range c).foldl W xs) (n1 * n2 + i + j * n1) =
          (if i < c then el (Bc i (getCol xs i n1 n2) (getCol xs (n1 * n2 + i) n1 n2)) j
           else el xs (n1 * n2 + i + j * n1)) := by
    intro c hc
    induction c with
    | zero => simp
    | succ c ih =>
      obtain ⟨hl, hv⟩ := ih (by omega)
      rw [List.range_succ, List.foldl_append, List.foldl_cons, List.foldl_nil]
      obtain ⟨wl, wv⟩ := hW c (by omega) _ (by rw [hl, hlen])
      -- the columns c have not been touched yet
      have ga : getCol ((List.range c).foldl W xs) c n1 n2 = getCol xs c n1 n2 :=
        List.map_congr_left fun j hj => by rw [(hv c (by omega) j (List.mem_range.mp hj)).1, if_neg (by omega)]
      have gb : getCol ((List.range c).foldl W xs) (n1 * n2 + c) n1 n2 = getCol xs (n1 * n2 + c) n1 n2 :=
        List.map_congr_left fun j hj => by rw [(hv c (by omega) j (List.mem_range.mp hj)).2, if_neg (by omega)]
      rw [ga, gb] at wv
      refine ⟨by rw [wl, hl], fun i hi j hj => ?_⟩
      rw [(wv i hi j hj).1, (wv i hi j hj).2, (hv i hi j hj).1, (hv i hi j hj).2]
      by_cases hic : i = c
      · subst hic; rw [if_pos rfl, if_pos rfl, if_pos (by omega), if_pos (by omega)]; exact ⟨rfl, rfl⟩
      · rw [if_neg hic, if_neg hic]
        by_cases h : i < c
        · rw [if_pos h, if_pos h, if_pos (by omega), if_pos (by omega)]; exact ⟨rfl, rfl⟩
        · rw [if_neg h, if_neg h, if_neg (by omega), if_neg (by omega)]; exact ⟨rfl, rfl⟩
  obtain ⟨hl, hv⟩ := key n1 le_rfl
  exact ⟨hl, fun i hi j hj => by have := hv i hi j hj; rwa [if_pos hi, if_pos hi] at this⟩

/-- one step: columns i of both matrices are replaced by `G i` of them -/
def colStep (n1 n2 off2 : Nat) (G : Nat → List Int → List Int → List Int × List Int) (xs : List Int) (i : Nat) : List Int :=
  setCol (setCol xs i n1 (G i (getCol xs i n1 n2) (getCol xs (off2 + i) n1 n2)).1) (off2 + i) n1
    (G i (getCol xs i n1 n2) (getCol xs (off2 + i) n1 n2)).2

theorem colStep_spec (n1 n2 : Nat) (G : Nat → List Int → List Int → List Int × List Int)
    (hG : ∀ i ca cb, ca.length = n2 → cb.length = n2 → (G i ca cb).1.length = n2 ∧ (G i ca cb).2.length = n2) :
    ColStep n1 n2 (colStep n1 n2 (n1 * n2) G) (fun i ca cb => (G i ca cb).1) (fun i ca cb => (G i ca cb).2) := by
  intro c hc ys hl
  obtain ⟨g1, g2⟩ := hG c _ _ (length_getCol ys c n1 n2) (length_getCol ys (n1 * n2 + c) n1 n2)
  unfold colStep
  refine ⟨by rw [length_setCol, length_setCol], fun i hi j hj => ?_⟩
  have hb := idx_lt n1 n2 i j hi hj
  have e := el_setCol_same ys 0 n1 n2 c i j _ g1 hc hi hj (by rw [hl]; omega)
  simp only [Nat.zero_add] at e
  rw [el_setCol_hi_lo _ n1 n2 c i j _ hi hj (by rw [length_setCol, hl]; omega), e,
    el_setCol_same _ (n1 * n2) n1 n2 c i j _ g2 hc hi hj (by rw [length_setCol, hl]; omega),
    el_setCol_lo_hi ys n1 n2 c i j _ g1 hc hi (by rw [hl]; omega)]
  exact ⟨rfl, rfl⟩

theorem setLo_spec (n1 n2 : Nat) (H : Nat → List Int → List Int) (hH : ∀ i c, c.length = n2 → (H i c).length = n2) :
    ColStep n1 n2 (fun xs i => setCol xs i n1 (H i (getCol xs i n1 n2))) (fun i ca _ => H i ca) (fun _ _ cb => cb) := by
  intro c hc ys hl
  have h1 := hH c _ (length_getCol ys c n1 n2)
  refine ⟨length_setCol _ _ _ _, fun i hi j hj => ?_⟩
  have hb := idx_lt n1 n2 i j hi hj
  have e := el_setCol_same ys 0 n1 n2 c i j _ h1 hc hi hj (by rw [hl]; omega)
  simp only [Nat.zero_add] at e
  rw [e, el_setCol_lo_hi ys n1 n2 c i j _ h1 hc hi (by rw [hl]; omega)]
  refine ⟨rfl, ?_⟩
  split_ifs with h
  · rw [h, el_getCol _ _ _ _ _ hj]
  · rfl

theorem setHi_spec (n1 n2 off2 : Nat) (hoff : off2 = n1 * n2) (H : Nat → List Int → List Int)
    (hH : ∀ i c, c.length = n2 → (H i c).length = n2) :
    ColStep n1 n2 (fun xs i => setCol xs (n1 * n2 + i) n1 (H i (getCol xs (off2 + i) n1 n2))) (fun _ ca _ => ca)
      (fun i _ cb => H i cb) := by
  subst hoff
  intro c hc ys hl
  have h1 := hH c _ (length_getCol ys (n1 * n2 + c) n1 n2)
  refine ⟨length_setCol _ _ _ _, fun i hi j hj => ?_⟩
  have hb := idx_lt n1 n2 i j hi hj
  rw [el_setCol_hi_lo ys n1 n2 c i j _ hi hj (by rw [hl]; omega),
    el_setCol_same ys (n1 * n2) n1 n2 c i j _ h1 hc hi hj (by rw [hl]; omega)]
  refine ⟨?_, rfl⟩
  split_ifs with h
  · rw [h, el_getCol _ _ _ _ _ hj]
  · rfl

theorem list_eq_of_el (a b : List Int) (n : Nat) (ha : a.length = n) (hb : b.length = n)
    (h : ∀ m < n, el a m = el b m) : a = b := by
  apply List.ext_getElem (by rw [ha, hb])
  intro m h1 h2
  have := h m (by omega)
  simp only [el, List.getD_eq_getElem?_getD, List.getElem?_eq_getElem h1, List.getElem?_eq_getElem h2] at this
  simpa using this

theorem el_row_upd (xs : List Int) (a n1 : Nat) (R : List Int) (hR : R.length = n1) (ha : a + n1 ≤ xs.length) (k : Nat) :
    el (xs.take a ++ R ++ xs.drop (a + n1)) k =
      if a ≤ k ∧ k < a + n1 then el R (k - a) else el xs k := by
  have hta : (xs.take a).length = a := by simp; omega
  by_cases h1 : k < a
  · rw [if_neg (by omega), List.append_assoc, el_append_left _ _ _ (by omega), el_take _ _ _ h1]
  · by_cases h2 : k < a + n1
    · rw [if_pos ⟨by omega, h2⟩, el_append_left _ _ _ (by simp; omega)]
      have : k = (xs.take a).length + (k - a) := by omega
      rw [this, el_append_right, hta]; simp
    · rw [if_neg (by omega)]
      have : k = (xs.take a ++ R).length + (k - (a + n1)) := by simp; omega
      rw [this, el_append_right, el_drop]; congr 1; simp; omega

theorem length_row_upd (xs : List Int) (a n1 : Nat) (R : List Int) (hR : R.length = n1) (ha : a + n1 ≤ xs.length) :
    (xs.take a ++ R ++ xs.drop (a + n1)).length = xs.length := by
  simp; omega

theorem el_take_drop (xs : List Int) (a n t : Nat) (ht : t < n) : el ((xs.drop a).take n) t = el xs (a + t) := by
  rw [el_take _ _ _ ht, el_drop]

theorem onRowsI_spec (off n1 n2 : Nat) (f : Nat → List Int → List Int)
    (hf : ∀ i r, r.length = n1 → (f i r).length = n1)
    (rows : List Nat) (hr : ∀ i ∈ rows, i < n2) (xs : List Int) (hlen : off + n1 * n2 ≤ xs.length) :
    (onRowsI xs off n1 rows f).length = xs.length ∧
    (∀ k, (k < off ∨ off + n1 * n2 ≤ k) → el (onRowsI xs off n1 rows f) k = el xs k) ∧
    (rows.Nodup → ∀ j < n2, ∀ t < n1,
      el (onRowsI xs off n1 rows f) (off + j * n1 + t) =
        if j ∈ rows then el (f j ((xs.drop (off + j * n1)).take n1)) t else el xs (off + j * n1 + t)) := by
  induction rows generalizing xs with
  | nil => simp [onRowsI]
  | cons i rest ih =>
    have hrow := row_bound (n1 := n1) (hr i (by simp))
    have hRl : ((xs.drop (off + i * n1)).take n1).length = n1 := by simp; omega
    -- the array after the update of row i
    obtain ⟨ys, hys⟩ : ∃ ys, ys = xs.take (off + i * n1) ++ f i ((xs.drop (off + i * n1)).take n1) ++
      xs.drop (off + i * n1 + n1) := ⟨_, rfl⟩
    have hyl : ys.length = xs.length := by rw [hys]; exact length_row_upd _ _ _ _ (hf _ _ hRl) (by omega)
    have hyv : ∀ k, el ys k = if off + i * n1 ≤ k ∧ k < off + i * n1 + n1 then
        el (f i ((xs.drop (off + i * n1)).take n1)) (k - (off + i * n1)) else el xs k :=
      fun k => by rw [hys]; exact el_row_upd xs _ n1 _ (hf _ _ hRl) (by omega) k
    have hstep : onRowsI xs off n1 (i :: rest) f = onRowsI ys off n1 rest f := by
      rw [hys]; simp only [onRowsI, List.foldl_cons]
    obtain ⟨l1, l2, l3⟩ := ih (fun x hx => hr x (by simp [hx])) ys (by rw [hyl]; exact hlen)
    rw [hstep]
    refine ⟨by rw [l1, hyl], fun k hk => by rw [l2 k hk, hyv, if_neg (by omega)], fun hnd j hj t ht => ?_⟩
    have hnd' := List.nodup_cons.mp hnd
    have hrowj := row_bound (n1 := n1) hj
    rw [l3 hnd'.2 j hj t ht]
    by_cases hji : j = i
    · subst hji
      rw [if_neg hnd'.1, if_pos (List.mem_cons_self), hyv, if_pos ⟨by omega, by omega⟩]
      congr 1; omega
    · -- rows other than i are the same in ys and xs
      have hother : ∀ t' < n1, el ys (off + j * n1 + t') = el xs (off + j * n1 + t') := by
        intro t' ht'
        rw [hyv, if_neg]
        rintro ⟨h1, h2⟩
        rcases Nat.lt_or_gt_of_ne hji with h | h
        · have := Nat.mul_le_mul_right n1 (Nat.succ_le_of_lt h); rw [Nat.succ_mul] at this; omega
        · have := Nat.mul_le_mul_right n1 (Nat.succ_le_of_lt h); rw [Nat.succ_mul] at this; omega
      have hrowj : (ys.drop (off + j * n1)).take n1 = (xs.drop (off + j * n1)).take n1 :=
        list_eq_of_el _ _ n1 (by simp; omega) (by simp; omega) fun m hm => by
          rw [el_take_drop _ _ _ _ hm, el_take_drop _ _ _ _ hm, hother m hm]
      simp only [List.mem_cons, hji, false_or]
      rw [hrowj, hother t ht]

theorem onRows_eq (xs : List Int) (off n1 : Nat) (rows : List Nat) (f : List Int → List Int) :
    onRows xs off n1 rows f = onRowsI xs off n1 rows fun _ => f := rfl

/-! ### mpir_fft_mfa_trunc_sqrt2 and its column passes alone (the `outer` function of Mpir/Model/FftMfa.lean): the same values as
   the plain √2 transform, permuted (row j, column t) ↦ position rev(j + n2·t) -/


theorem clog2_pow (k : Nat) : clog2 (2 ^ (k + 1)) = k + 1 := by
  unfold clog2
  have h2 : 2 ≤ 2 ^ (k + 1) := by rw [pow_succ']; have := Nat.two_pow_pos k; omega
  rw [if_neg (by omega)]
  congr 1
  rw [Nat.log2_eq_iff (by omega)]
  constructor
  · rw [pow_succ]; omega
  · omega

theorem take_drop_eq_map (xs : List Int) (a n : Nat) (h : a + n ≤ xs.length) :
    (xs.drop a).take n = (List.range n).map fun i => el xs (a + i) :=
  list_eq_of_el _ _ n (by simp; omega) (by simp) fun m hm => by rw [el_take_drop _ _ _ _ hm, el_range_map _ _ _ hm]

/-- n1 = 2^(e1+1) columns, n2 = 2^(e2+1) rows, n = 2^(e1+e2+1) -/
theorem mfa_dims (e1 e2 : Nat) : 2 ^ (e1 + 1) * 2 ^ (e2 + 1) = 2 * 2 ^ (e1 + e2 + 1) ∧
    2 * 2 ^ (e1 + e2 + 1) / 2 ^ (e1 + 1) = 2 ^ (e2 + 1) := by
  have hN : 2 ^ (e1 + 1) * 2 ^ (e2 + 1) = 2 * 2 ^ (e1 + e2 + 1) := by rw [← pow_add, ← pow_succ']; congr 1; ring
  exact ⟨hN, by rw [← hN]; exact Nat.mul_div_cancel_left _ (Nat.two_pow_pos _)⟩

theorem revbin_rows (D t2 : Nat) (ht : t2 ≤ 2 ^ D) :
    ((List.range t2).map fun s => revbin s D).Nodup ∧ (∀ i ∈ (List.range t2).map fun s => revbin s D, i < 2 ^ D) ∧
    ∀ s < t2, rev D s ∈ (List.range t2).map fun s => revbin s D := by
  have e : ∀ s < t2, revbin s D = rev D s := fun s hs => revbin_rev D s (lt_of_lt_of_le hs ht)
  refine ⟨List.Nodup.map_on (fun a ha b hb hab => ?_) List.nodup_range, fun i hi => ?_,
    fun s hs => List.mem_map.mpr ⟨s, List.mem_range.mpr hs, e s hs⟩⟩
  · have ha := List.mem_range.mp ha
    have hb := List.mem_range.mp hb
    rw [e a ha, e b hb] at hab
    rw [← rev_rev D a (lt_of_lt_of_le ha ht), ← rev_rev D b (lt_of_lt_of_le hb ht), hab]
  · obtain ⟨s, hs, rfl⟩ := List.mem_map.mp hi
    rw [e s (List.mem_range.mp hs)]; exact rev_lt _ _

/-- the C's requirement "trunc is a multiple of 2·n1" gives the requirement of the truncated column transforms -/
theorem truncOk_of_dvd (e1 e2 trunc : Nat) (ht : TruncSOk (e1 + e2 + 1) trunc) (hdiv : 2 * 2 ^ (e1 + 1) ∣ trunc) :
    TruncOk e2 ((trunc - 2 * 2 ^ (e1 + e2 + 1)) / 2 ^ (e1 + 1)) := by
  obtain ⟨q, rfl⟩ := hdiv
  obtain ⟨_, ht2, ht3⟩ := ht
  have hn1 := Nat.two_pow_pos (e1 + 1)
  have e1' : 2 * 2 ^ (e1 + 1) * q = 2 ^ (e1 + 1) * (2 * q) := by ring
  have e2' : 2 * 2 ^ (e1 + e2 + 1) = 2 ^ (e1 + 1) * (2 * 2 ^ e2) := by
    rw [show e1 + e2 + 1 = (e1 + 1) + e2 by ring, pow_add]; ring
  have e3 : 4 * 2 ^ (e1 + e2 + 1) = 2 ^ (e1 + 1) * (4 * 2 ^ e2) := by
    rw [show e1 + e2 + 1 = (e1 + 1) + e2 by ring, pow_add]; ring
  rw [e1', e2'] at ht2
  rw [e1', e3] at ht3
  have h2 := Nat.lt_of_mul_lt_mul_left ht2
  have h3 := Nat.le_of_mul_le_mul_left ht3 hn1
  rw [e1', e2', ← Nat.mul_sub, Nat.mul_div_cancel_left _ hn1]
  have hp := pow_succ' 2 e2
  exact ⟨by omega, by omega, by omega⟩

/-- trunc − 2n consists of trunc2 full rows -/
theorem trunc2_mul (e1 e2 trunc : Nat) (hdiv : 2 * 2 ^ (e1 + 1) ∣ trunc) :
    (trunc - 2 * 2 ^ (e1 + e2 + 1)) / 2 ^ (e1 + 1) * 2 ^ (e1 + 1) = trunc - 2 * 2 ^ (e1 + e2 + 1) :=
  Nat.div_mul_cancel (Nat.dvd_sub (Dvd.dvd.trans (Dvd.intro_left 2 rfl) hdiv)
    (by rw [← (mfa_dims e1 e2).1]; exact Dvd.intro _ rfl))

theorem mfa_pos_cases (e1 e2 trunc : Nat) (hdiv : 2 * 2 ^ (e1 + 1) ∣ trunc) {P : Nat → Prop}
    (h1 : ∀ i < 2 ^ (e1 + 1), ∀ j < 2 ^ (e2 + 1), P (i + j * 2 ^ (e1 + 1)))
    (h2 : ∀ i < 2 ^ (e1 + 1), ∀ m < (trunc - 2 * 2 ^ (e1 + e2 + 1)) / 2 ^ (e1 + 1),
      P (2 * 2 ^ (e1 + e2 + 1) + (i + m * 2 ^ (e1 + 1))))
    (p : Nat) (hp : p < trunc) : P p := by
  have hn1 := Nat.two_pow_pos (e1 + 1)
  have hdec : ∀ q, q = q % 2 ^ (e1 + 1) + q / 2 ^ (e1 + 1) * 2 ^ (e1 + 1) := fun q => by
    rw [Nat.mul_comm]; exact (Nat.mod_add_div q _).symm
  by_cases hp2 : p < 2 * 2 ^ (e1 + e2 + 1)
  · rw [hdec p]
    exact h1 _ (Nat.mod_lt _ hn1) _ (Nat.div_lt_of_lt_mul (by rw [(mfa_dims e1 e2).1]; exact hp2))
  · obtain ⟨q, rfl⟩ : ∃ q, p = 2 * 2 ^ (e1 + e2 + 1) + q := ⟨p - 2 * 2 ^ (e1 + e2 + 1), by omega⟩
    rw [hdec q]
    exact h2 _ (Nat.mod_lt _ hn1) _ (Nat.div_lt_of_lt_mul (by rw [Nat.mul_comm, trunc2_mul e1 e2 trunc hdiv]; omega))

/-- the column update of the first loop (fft_mfa_trunc_sqrt2.c:160-207) -/
def mfaG (e1 e2 w trunc : Nat) (i : Nat) (ca cb : List Int) : List Int × List Int :=
  let f := fun m =>
    let j := i + m * 2 ^ (e1 + 1)
    if w % 2 = 1 then
      if j < trunc - 2 * 2 ^ (e1 + e2 + 1) then
        if j % 2 = 1 then bflySqrt2 (wnOf (2 ^ (e1 + e2 + 1)) w) (el ca m) (el cb m) j w
        else bfly (el ca m) (el cb m) (j / 2) w
      else
        (el ca m, if i % 2 = 1 then adjSqrt2 (wnOf (2 ^ (e1 + e2 + 1)) w) (el ca m) j w
                  else adj (el ca m) (j / 2) w)
    else
      if j < trunc - 2 * 2 ^ (e1 + e2 + 1) then bfly (el ca m) (el cb m) j (w / 2)
      else (el ca m, adj (el ca m) j (w / 2))
  (revPerm (e2 + 1) (fft_radix2_twiddle e2 (w * 2 ^ (e1 + 1)) w 0 i 1 (fsts (2 ^ (e2 + 1)) f)), snds (2 ^ (e2 + 1)) f)

/-- the column update of the third loop (:225-239) -/
def mfaH (e1 e2 w trunc : Nat) (i : Nat) (cb : List Int) : List Int :=
  revPerm (e2 + 1) (fft_trunc1_twiddle e2 (w * 2 ^ (e1 + 1)) w 0 i 1 ((trunc - 2 * 2 ^ (e1 + e2 + 1)) / 2 ^ (e1 + 1)) cb)

/-- the row update (:211-219, :242-252) -/
def mfaRowF (e1 e2 w : Nat) (row : List Int) : List Int :=
  revPerm (e1 + 1) (fft_radix2 e1 (w * 2 ^ (e2 + 1)) row)

/-- the first loop (:160-207): both columns i -/
def mfaCols1 (e1 e2 w trunc : Nat) (xs : List Int) : List Int :=
  (List.range (2 ^ (e1 + 1))).foldl
    (colStep (2 ^ (e1 + 1)) (2 ^ (e2 + 1)) (2 ^ (e1 + 1) * 2 ^ (e2 + 1)) (mfaG e1 e2 w trunc)) xs

/-- the third loop (:225-239): column i of the second half matrix -/
def mfaCols3 (e1 e2 w trunc : Nat) (xs : List Int) : List Int :=
  (List.range (2 ^ (e1 + 1))).foldl
    (fun xs i => setCol xs (2 ^ (e1 + 1) * 2 ^ (e2 + 1) + i) (2 ^ (e1 + 1))
      (mfaH e1 e2 w trunc i (getCol xs (2 * 2 ^ (e1 + e2 + 1) + i) (2 ^ (e1 + 1)) (2 ^ (e2 + 1))))) xs

theorem fft_mfa_unfold (e1 e2 w trunc : Nat) (xs : List Int) :
    fft_mfa_trunc_sqrt2 (e1 + e2 + 1) w (2 ^ (e1 + 1)) trunc xs =
      onRows (mfaCols3 e1 e2 w trunc (onRows (mfaCols1 e1 e2 w trunc xs) 0 (2 ^ (e1 + 1)) (List.range (2 ^ (e2 + 1)))
          (mfaRowF e1 e2 w)))
        (2 ^ (e1 + 1) * 2 ^ (e2 + 1)) (2 ^ (e1 + 1))
        ((List.range ((trunc - 2 * 2 ^ (e1 + e2 + 1)) / 2 ^ (e1 + 1))).map fun s => revbin s (e2 + 1))
        (mfaRowF e1 e2 w) := by
  obtain ⟨hN, hn2⟩ := mfa_dims e1 e2
  unfold fft_mfa_trunc_sqrt2 mfaCols1 mfaCols3
  simp only [hn2, clog2_pow, Nat.add_sub_cancel]
  rw [hN]
  rfl

theorem fft_mfa_outer_unfold (e1 e2 w trunc : Nat) (xs : List Int) :
    fft_mfa_trunc_sqrt2_outer (e1 + e2 + 1) w (2 ^ (e1 + 1)) trunc xs =
      mfaCols3 e1 e2 w trunc (mfaCols1 e1 e2 w trunc xs) := by
  obtain ⟨hN, hn2⟩ := mfa_dims e1 e2
  unfold fft_mfa_trunc_sqrt2_outer mfaCols1 mfaCols3
  simp only [hn2, clog2_pow, Nat.add_sub_cancel]
  rw [hN]
  rfl

theorem mfaG_eq (e1 e2 w trunc : Nat) (xs : List Int) (ht2 : 2 * 2 ^ (e1 + e2 + 1) < trunc)
    (hz0 : ∀ j, trunc ≤ j → el xs j = 0) (i : Nat) (hi : i < 2 ^ (e1 + 1)) :
    mfaG e1 e2 w trunc i (getCol xs i (2 ^ (e1 + 1)) (2 ^ (e2 + 1)))
      (getCol xs (2 ^ (e1 + 1) * 2 ^ (e2 + 1) + i) (2 ^ (e1 + 1)) (2 ^ (e2 + 1))) =
    (mfaCol e2 w (2 ^ (e1 + 1)) (layerSums (2 ^ (e1 + e2 + 1)) xs) i,
      getCol (layerDiffs (2 ^ (e1 + e2 + 1)) w xs) i (2 ^ (e1 + 1)) (2 ^ (e2 + 1))) := by
  obtain ⟨hN, _⟩ := mfa_dims e1 e2
  -- the entries of the two columns and of the first layer; the parity of j = i + m·n1 is that of i (n1 is even)
  have hcol : ∀ m < 2 ^ (e2 + 1),
      el (getCol xs i (2 ^ (e1 + 1)) (2 ^ (e2 + 1))) m = el xs (i + m * 2 ^ (e1 + 1)) ∧
      el (getCol xs (2 ^ (e1 + 1) * 2 ^ (e2 + 1) + i) (2 ^ (e1 + 1)) (2 ^ (e2 + 1))) m =
        el xs (2 * 2 ^ (e1 + e2 + 1) + (i + m * 2 ^ (e1 + 1))) ∧
      i + m * 2 ^ (e1 + 1) < 2 * 2 ^ (e1 + e2 + 1) ∧ (i + m * 2 ^ (e1 + 1)) % 2 = i % 2 ∧
      (¬ i + m * 2 ^ (e1 + 1) < trunc - 2 * 2 ^ (e1 + e2 + 1) →
        el xs (2 * 2 ^ (e1 + e2 + 1) + (i + m * 2 ^ (e1 + 1))) = 0) := fun m hm => by
    have := idx_lt _ _ i m hi hm
    refine ⟨el_getCol _ _ _ _ _ hm, by rw [el_getCol _ _ _ _ _ hm, hN, Nat.add_assoc], by omega, ?_,
      fun h => hz0 _ (by omega)⟩
    rw [pow_succ, ← Nat.mul_assoc, Nat.add_mul_mod_self_right]
  unfold mfaG mfaCol
  simp only []
  congr 2
  · congr 2
    refine List.map_congr_left fun m hm => ?_
    obtain ⟨c1, c2, c3, _, _⟩ := hcol m (List.mem_range.mp hm)
    beta_reduce
    rw [c1, c2, el_layerSums _ _ _ c3]
    split_ifs with h1 h2 h3 h4 <;> simp [bfly, bflySqrt2, *]
  · refine List.map_congr_left fun m hm => ?_
    obtain ⟨c1, c2, c3, c4, c5⟩ := hcol m (List.mem_range.mp hm)
    beta_reduce
    rw [c1, c2, el_layerDiffs _ _ _ _ c3, twN, c4]
    by_cases hw : w % 2 = 1
    · rw [if_pos hw, if_pos hw]
      by_cases h1 : i + m * 2 ^ (e1 + 1) < trunc - 2 * 2 ^ (e1 + e2 + 1)
      · rw [if_pos h1]; split_ifs with hp hq <;> first | omega | rfl
      · rw [if_neg h1, c5 h1]; split_ifs with hp hq <;> first | omega | simp [adjSqrt2, adj]
    · rw [if_neg hw, if_neg hw]
      split_ifs with h1
      · rfl
      · simp [adj, c5 h1]

theorem length_mfaG (e1 e2 w trunc i : Nat) (ca cb : List Int) :
    (mfaG e1 e2 w trunc i ca cb).1.length = 2 ^ (e2 + 1) ∧ (mfaG e1 e2 w trunc i ca cb).2.length = 2 ^ (e2 + 1) := by
  simp [mfaG, length_revPerm, length_fft_radix2_twiddle, length_snds]

theorem mfaCols1_spec (e1 e2 w trunc : Nat) (xs : List Int) (hlen : xs.length = 4 * 2 ^ (e1 + e2 + 1))
    (ht2 : 2 * 2 ^ (e1 + e2 + 1) < trunc) (hz0 : ∀ j, trunc ≤ j → el xs j = 0) :
    (mfaCols1 e1 e2 w trunc xs).length = xs.length ∧
    ∀ i < 2 ^ (e1 + 1), ∀ j < 2 ^ (e2 + 1),
      el (mfaCols1 e1 e2 w trunc xs) (i + j * 2 ^ (e1 + 1)) =
        el (mfaCol e2 w (2 ^ (e1 + 1)) (layerSums (2 ^ (e1 + e2 + 1)) xs) i) j ∧
      el (mfaCols1 e1 e2 w trunc xs) (2 ^ (e1 + 1) * 2 ^ (e2 + 1) + i + j * 2 ^ (e1 + 1)) =
        el (layerDiffs (2 ^ (e1 + e2 + 1)) w xs) (i + j * 2 ^ (e1 + 1)) := by
  obtain ⟨hN, _⟩ := mfa_dims e1 e2
  unfold mfaCols1
  obtain ⟨l, v⟩ := fold_colStep _ _ _ _ _ (colStep_spec _ _ _ fun i ca cb _ _ => length_mfaG e1 e2 w trunc i ca cb) xs
    (by rw [hlen, hN]; ring)
  refine ⟨l, fun i hi j hj => ?_⟩
  have := v i hi j hj
  rw [mfaG_eq e1 e2 w trunc xs ht2 hz0 i hi, el_getCol _ _ _ _ _ hj] at this
  exact this

/-- only the rows rev s, s < trunc2, of the second half matrix are claimed -/
theorem mfaCols3_spec (e1 e2 w trunc : Nat) (ht2' : TruncOk e2 ((trunc - 2 * 2 ^ (e1 + e2 + 1)) / 2 ^ (e1 + 1)))
    (Y D : List Int) (hlen : Y.length = 4 * 2 ^ (e1 + e2 + 1))
    (hY : ∀ i < 2 ^ (e1 + 1), ∀ j < 2 ^ (e2 + 1),
      el Y (2 ^ (e1 + 1) * 2 ^ (e2 + 1) + i + j * 2 ^ (e1 + 1)) = el D (i + j * 2 ^ (e1 + 1))) :
    (mfaCols3 e1 e2 w trunc Y).length = Y.length ∧
    (∀ i < 2 ^ (e1 + 1), ∀ j < 2 ^ (e2 + 1),
      el (mfaCols3 e1 e2 w trunc Y) (i + j * 2 ^ (e1 + 1)) = el Y (i + j * 2 ^ (e1 + 1))) ∧
    ∀ i < 2 ^ (e1 + 1), ∀ s < (trunc - 2 * 2 ^ (e1 + e2 + 1)) / 2 ^ (e1 + 1),
      el (mfaCols3 e1 e2 w trunc Y) (2 ^ (e1 + 1) * 2 ^ (e2 + 1) + i + rev (e2 + 1) s * 2 ^ (e1 + 1)) =
        el (mfaCol e2 w (2 ^ (e1 + 1)) D i) (rev (e2 + 1) s) := by
  obtain ⟨hN, _⟩ := mfa_dims e1 e2
  unfold mfaCols3
  have hH : ∀ (i : Nat) (c : List Int), c.length = 2 ^ (e2 + 1) → (mfaH e1 e2 w trunc i c).length = 2 ^ (e2 + 1) :=
    fun i c hc => by rw [mfaH, length_revPerm, (prefix_fft_trunc1_twiddle _ _ _ _ _ _ _ ht2' c).1 hc]
  obtain ⟨l, v⟩ := fold_colStep _ _ _ _ _ (setHi_spec (2 ^ (e1 + 1)) (2 ^ (e2 + 1)) _ hN.symm (mfaH e1 e2 w trunc) hH) Y
    (by rw [hlen, hN]; ring)
  refine ⟨l, fun i hi j hj => by rw [(v i hi j hj).1, el_getCol _ _ _ _ _ hj], fun i hi s hs => ?_⟩
  have hs2 : s < 2 ^ (e2 + 1) := lt_of_lt_of_le hs ht2'.2.2
  have hjr := rev_lt (e2 + 1) s
  have ecol : getCol Y (2 ^ (e1 + 1) * 2 ^ (e2 + 1) + i) (2 ^ (e1 + 1)) (2 ^ (e2 + 1)) =
      getCol D i (2 ^ (e1 + 1)) (2 ^ (e2 + 1)) :=
    List.map_congr_left fun m hm => hY i hi m (List.mem_range.mp hm)
  -- the truncated column transform at a relevant row is the full one
  rw [(v i hi _ hjr).2, ecol, mfaH, mfaCol,
    el_revPerm _ _ ((prefix_fft_trunc1_twiddle _ _ _ _ _ _ _ ht2' _).1 (length_getCol _ _ _ _)) _ hjr,
    el_revPerm _ _ (length_fft_radix2_twiddle _ _ _ _ _ _ _) _ hjr, rev_rev _ _ hs2,
    (prefix_fft_trunc1_twiddle _ _ _ _ _ _ _ ht2' _).2.2 s hs]

theorem fft_mfa_outer_spec (e1 e2 w trunc : Nat) (xs : List Int) (hlen : xs.length = 4 * 2 ^ (e1 + e2 + 1))
    (ht : TruncSOk (e1 + e2 + 1) trunc)
    (ht2' : TruncOk e2 ((trunc - 2 * 2 ^ (e1 + e2 + 1)) / 2 ^ (e1 + 1)))
    (hz0 : ∀ j, trunc ≤ j → el xs j = 0) :
    (fft_mfa_trunc_sqrt2_outer (e1 + e2 + 1) w (2 ^ (e1 + 1)) trunc xs).length = xs.length ∧
    (∀ i < 2 ^ (e1 + 1), ∀ j < 2 ^ (e2 + 1),
      el (fft_mfa_trunc_sqrt2_outer (e1 + e2 + 1) w (2 ^ (e1 + 1)) trunc xs) (i + j * 2 ^ (e1 + 1)) =
        el (mfaCol e2 w (2 ^ (e1 + 1)) (layerSums (2 ^ (e1 + e2 + 1)) xs) i) j) ∧
    (∀ i < 2 ^ (e1 + 1), ∀ s < (trunc - 2 * 2 ^ (e1 + e2 + 1)) / 2 ^ (e1 + 1),
      el (fft_mfa_trunc_sqrt2_outer (e1 + e2 + 1) w (2 ^ (e1 + 1)) trunc xs)
          (2 ^ (e1 + 1) * 2 ^ (e2 + 1) + i + rev (e2 + 1) s * 2 ^ (e1 + 1)) =
        el (mfaCol e2 w (2 ^ (e1 + 1)) (layerDiffs (2 ^ (e1 + e2 + 1)) w xs) i) (rev (e2 + 1) s)) := by
  obtain ⟨l1, v1⟩ := mfaCols1_spec e1 e2 w trunc xs hlen ht.2.1 hz0
  obtain ⟨l3, a3, v3⟩ := mfaCols3_spec e1 e2 w trunc ht2' _ _ (l1 ▸ hlen) fun i hi j hj => (v1 i hi j hj).2
  rw [fft_mfa_outer_unfold]
  exact ⟨l3.trans l1, fun i hi j hj => by rw [a3 i hi j hj, (v1 i hi j hj).1], v3⟩

theorem length_mfaRowF (e1 e2 w : Nat) (r : List Int) : (mfaRowF e1 e2 w r).length = 2 ^ (e1 + 1) := by
  simp [mfaRowF, length_revPerm, length_fft_radix2]

theorem row_eq_map (X : List Int) (off n1 n2 j : Nat) (hj : j < n2) (hl : off + n1 * n2 ≤ X.length) (g : Nat → Int)
    (h : ∀ i < n1, el X (off + i + j * n1) = g i) : (X.drop (off + j * n1)).take n1 = (List.range n1).map g := by
  have := row_bound (n1 := n1) hj
  rw [take_drop_eq_map _ _ _ (by omega)]
  exact List.map_congr_left fun i hi => by
    rw [show off + j * n1 + i = off + i + j * n1 by ring, h i (List.mem_range.mp hi)]

/-- mpir_fft_mfa_trunc_sqrt2 on inputs zero from `trunc` on, as exact equalities over ℤ -/
theorem fft_mfa_rows (e1 e2 w trunc : Nat) (xs : List Int) (hlen : xs.length = 4 * 2 ^ (e1 + e2 + 1))
    (ht : TruncSOk (e1 + e2 + 1) trunc) (ht2' : TruncOk e2 ((trunc - 2 * 2 ^ (e1 + e2 + 1)) / 2 ^ (e1 + 1)))
    (hz0 : ∀ j, trunc ≤ j → el xs j = 0) :
    (∀ j < 2 ^ (e2 + 1), ∀ t < 2 ^ (e1 + 1),
      el (fft_mfa_trunc_sqrt2 (e1 + e2 + 1) w (2 ^ (e1 + 1)) trunc xs) (j * 2 ^ (e1 + 1) + t) =
        el (mfaRow e1 e2 w (layerSums (2 ^ (e1 + e2 + 1)) xs) j) t) ∧
    ∀ s < (trunc - 2 * 2 ^ (e1 + e2 + 1)) / 2 ^ (e1 + 1), ∀ t < 2 ^ (e1 + 1),
      el (fft_mfa_trunc_sqrt2 (e1 + e2 + 1) w (2 ^ (e1 + 1)) trunc xs)
          (2 ^ (e1 + 1) * 2 ^ (e2 + 1) + rev (e2 + 1) s * 2 ^ (e1 + 1) + t) =
        el (mfaRow e1 e2 w (layerDiffs (2 ^ (e1 + e2 + 1)) w xs) (rev (e2 + 1) s)) t := by
  obtain ⟨hN, _⟩ := mfa_dims e1 e2
  have hrf := fun (_ : Nat) (r : List Int) (_ : r.length = 2 ^ (e1 + 1)) => length_mfaRowF e1 e2 w r
  obtain ⟨hnd, hrows, hmem⟩ := revbin_rows (e2 + 1) _ ht2'.2.2
  rw [fft_mfa_unfold]
  -- the four loops
  obtain ⟨l1, v1⟩ := mfaCols1_spec e1 e2 w trunc xs hlen ht.2.1 hz0
  generalize mfaCols1 e1 e2 w trunc xs = X1 at *
  obtain ⟨l2, o2, v2⟩ := onRowsI_spec 0 (2 ^ (e1 + 1)) (2 ^ (e2 + 1)) (fun _ => mfaRowF e1 e2 w) hrf
    (List.range (2 ^ (e2 + 1))) (fun i hi => List.mem_range.mp hi) X1 (by omega)
  rw [← onRows_eq] at l2 o2 v2
  generalize onRows X1 0 (2 ^ (e1 + 1)) (List.range (2 ^ (e2 + 1))) (mfaRowF e1 e2 w) = X2 at *
  obtain ⟨l3, a3, v3⟩ := mfaCols3_spec e1 e2 w trunc ht2' X2 _ (by omega) fun i hi j hj => by
    rw [o2 _ (Or.inr (by omega)), (v1 i hi j hj).2]
  generalize mfaCols3 e1 e2 w trunc X2 = X3 at *
  obtain ⟨_, o4, v4⟩ := onRowsI_spec (2 ^ (e1 + 1) * 2 ^ (e2 + 1)) (2 ^ (e1 + 1)) (2 ^ (e2 + 1))
    (fun _ => mfaRowF e1 e2 w) hrf _ hrows X3 (by omega)
  rw [← onRows_eq] at o4 v4
  constructor
  · intro j hj t htt
    have hidx := idx_lt (2 ^ (e1 + 1)) (2 ^ (e2 + 1)) t j htt hj
    have r2 := v2 List.nodup_range j hj t htt
    rw [if_pos (List.mem_range.mpr hj)] at r2
    rw [o4 _ (Or.inl (by omega)), Nat.add_comm, a3 t htt j hj, show t + j * 2 ^ (e1 + 1) = 0 + j * 2 ^ (e1 + 1) + t by omega,
      r2, mfaRow, mfaRowF, row_eq_map X1 0 (2 ^ (e1 + 1)) (2 ^ (e2 + 1)) j hj (by omega)
        (fun i => el (mfaCol e2 w (2 ^ (e1 + 1)) (layerSums (2 ^ (e1 + e2 + 1)) xs) i) j) fun i hi => by
        rw [Nat.zero_add]; exact (v1 i hi j hj).1]
  · intro s hs t htt
    rw [v4 hnd _ (rev_lt _ _) t htt, if_pos (hmem s hs), mfaRow, mfaRowF,
      row_eq_map X3 _ (2 ^ (e1 + 1)) (2 ^ (e2 + 1)) _ (rev_lt _ _) (by omega)
        (fun i => el (mfaCol e2 w (2 ^ (e1 + 1)) (layerDiffs (2 ^ (e1 + e2 + 1)) w xs) i) (rev (e2 + 1) s))
        fun i hi => v3 i hi s hs]

end Mpir.FftX
