/- mpn_hgcd2 (model `hgcd2` of mpn/generic/hgcd2.c) meets `Hgcd2Contract`.  The loops keep M·(x; y) = (A0; B0) EXACTLY on
   the 128-bit values (`MRel`); `trunc_lift` carries such a relation from truncated values to any extension by lower
   digits (N⁻¹ stays non-negative, the error is bounded by the entries of N) and is used twice: single precision phase →
   128-bit values (K = 2^32), and 128-bit values → the full numbers (K = B^(n−2)).  Every exit yields `Post` (x, y ≥
   3·2^63, row sums below 2^63: no wrap-around); `top2_spec`: the normalised top two limbs are ⌊a·2^s / B^(n−2)⌋. -/
import MpirProofs.Lemmas.GcdLoop
import MpirProofs.Lemmas.GcdSize
import MpirProofs.Lemmas.GcdDiv
import Mathlib.Tactic.LinearCombination
import Mathlib.Tactic.Zify
namespace Mpir.Gcd
open Mpir Mpir.Hgcd

/-- a -= q·b, M := M·(1 q; 0 1) -/
theorem subA_eq (m : M1) (q : Nat) :
    (⟨m.u00, m.u01 + q * m.u00, m.u10, m.u11 + q * m.u10⟩ : M1) = mmul m (elemQ q 1) := by
  simp [mmul, elemQ, Nat.mul_comm, Nat.add_comm]

theorem mrel_subA {m : M1} {x y X Y : Nat} (q : Nat) (h : MRel m x y X Y) (hq : q * y ≤ x) :
    MRel ⟨m.u00, m.u01 + q * m.u00, m.u10, m.u11 + q * m.u10⟩ (x - q * y) y X Y :=
  subA_eq m q ▸ mrel_comp h (mrel_elemQ1 q x y hq)

theorem trunc_lift {n : M1} {s t S T : Nat} (K rS rT : Nat) (h : MRel n s t S T)
    (hrS : rS ≤ K) (hrT : rT ≤ K) (h1 : n.u01 ≤ s) (h2 : n.u10 ≤ t) :
    ∃ x y, MRel n x y (K * S + rS) (K * T + rT) ∧ K * (s - n.u01) ≤ x ∧ K * (t - n.u10) ≤ y ∧
      x + n.u01 * rT = K * s + n.u11 * rS ∧ y + n.u10 * rS = K * t + n.u00 * rT := by
  obtain ⟨hd, eS, eT⟩ := h
  have one : ∀ p q s r r' : Nat, r' ≤ K → q ≤ s → ∃ x, x + q * r' = K * s + p * r ∧ K * (s - q) ≤ x := by
    intro p q s r r' hr' hq
    have e : K * s = K * (s - q) + K * q := by rw [← Nat.mul_add]; congr 1; omega
    have : q * r' ≤ q * K := Nat.mul_le_mul_left _ hr'
    rw [Nat.mul_comm q K] at this
    exact ⟨K * s + p * r - q * r', by omega, by omega⟩
  obtain ⟨x, hx, bx⟩ := one n.u11 n.u01 s rS rT hrT h1
  obtain ⟨y, hy, bY⟩ := one n.u00 n.u10 t rT rS hrS h2
  refine ⟨x, y, ⟨hd, ?_, ?_⟩, bx, bY, hx, hy⟩
  · rw [eS]; zify at hd hx hy ⊢
    linear_combination (-(n.u00 : ℤ)) * hx - n.u01 * hy - rS * hd
  · rw [eT]; zify at hd hx hy ⊢
    linear_combination (-(n.u10 : ℤ)) * hx - n.u11 * hy - rT * hd

/-- what every `return 1` of mpn_hgcd2 guarantees for the 128-bit inputs (A0, B0); row sums below 2^63: the entries
    fit GMP_LIMB_BITS - 1 bits, in particular none ever wrapped -/
def Post (A0 B0 : Nat) (m : M1) : Prop :=
  ∃ x y, MRel m x y A0 B0 ∧ 3 * 2 ^ 63 ≤ x ∧ 3 * 2 ^ 63 ≤ y ∧ NonId m ∧
    m.u00 + m.u01 < 2 ^ 63 ∧ m.u10 + m.u11 < 2 ^ 63

/-- double precision loop: (a; b) = M⁻¹(A0; B0) exactly, both at least two limbs + 1 bit -/
def DInv (A0 B0 a b : Nat) (m : M1) : Prop :=
  MRel m a b A0 B0 ∧ 2 * B ≤ a ∧ 2 * B ≤ b ∧ NonId m

/-- single precision loop: M = M₁·N where M₁ is the matrix at the switch, (a1; b1) = M₁⁻¹(A0; B0)
    the exact values at the switch (below 2^96), and N·(as; bs) = the truncated values
    (a1 >> 32; b1 >> 32), as, bs ≥ 2^33. -/
def SInv (A0 B0 as bs : Nat) (m : M1) : Prop :=
  ∃ (m1 n : M1) (a1 b1 : Nat), MRel m1 a1 b1 A0 B0 ∧ a1 < 2 ^ 96 ∧ b1 < 2 ^ 96 ∧
    MRel n as bs (a1 / 2 ^ 32) (b1 / 2 ^ 32) ∧ m = mmul m1 n ∧ 2 ^ 33 ≤ as ∧ 2 ^ 33 ≤ bs ∧ NonId m

def HInv (A0 B0 : Nat) : HPt → Nat → Nat → M1 → Prop
  | .dA, a, b, m => DInv A0 B0 a b m ∧ b / B ≤ a / B
  | .dB, a, b, m => DInv A0 B0 a b m ∧ a / B ≤ b / B
  | .sA, a, b, m => SInv A0 B0 a b m ∧ b ≤ a
  | .sB, a, b, m => SInv A0 B0 a b m ∧ a ≤ b

theorem dinv_post {A0 B0 a b : Nat} {m : M1} (hA : A0 < B * B) (hB : B0 < B * B)
    (h : DInv A0 B0 a b m) : Post A0 B0 m := by
  obtain ⟨hr, ha, hb, hn⟩ := h
  obtain ⟨e1, e2⟩ := mrel_entries_lt (L := 2 ^ 63) hr ha hb (by rw [B_eq] at hA ⊢; omega) (by rw [B_eq] at hB ⊢; omega)
  refine ⟨a, b, hr, ?_, ?_, hn, e1, e2⟩ <;> (simp only [B_eq] at ha hb; omega)

/-- row sums of M₁·N: (n00 + n01)·2^65 ≤ a1 and (n10 + n11)·2^65 ≤ b1 because the truncated single
    precision values never drop below 2^33 -/
theorem sinv_rows {m1 n : M1} {a1 b1 as bs A0 B0 : Nat} (hA : A0 < B * B) (hB : B0 < B * B)
    (hr1 : MRel m1 a1 b1 A0 B0) (hrn : MRel n as bs (a1 / 2 ^ 32) (b1 / 2 ^ 32))
    (has : 2 ^ 33 ≤ as) (hbs : 2 ^ 33 ≤ bs) :
    (mmul m1 n).u00 + (mmul m1 n).u01 < 2 ^ 63 ∧ (mmul m1 n).u10 + (mmul m1 n).u11 < 2 ^ 63 := by
  obtain ⟨_, eS, eT⟩ := hrn
  obtain ⟨_, eA, eB⟩ := hr1
  have sa : 2 ^ 65 * (n.u00 + n.u01) ≤ a1 := by
    have h1 : 2 ^ 33 * n.u00 ≤ n.u00 * as := by rw [Nat.mul_comm]; exact Nat.mul_le_mul_left _ has
    have h2 : 2 ^ 33 * n.u01 ≤ n.u01 * bs := by rw [Nat.mul_comm]; exact Nat.mul_le_mul_left _ hbs
    omega
  have sb : 2 ^ 65 * (n.u10 + n.u11) ≤ b1 := by
    have h1 : 2 ^ 33 * n.u10 ≤ n.u10 * as := by rw [Nat.mul_comm]; exact Nat.mul_le_mul_left _ has
    have h2 : 2 ^ 33 * n.u11 ≤ n.u11 * bs := by rw [Nat.mul_comm]; exact Nat.mul_le_mul_left _ hbs
    omega
  have row : ∀ p q : Nat, p * a1 + q * b1 < B * B →
      p * n.u00 + q * n.u10 + (p * n.u01 + q * n.u11) < 2 ^ 63 := by
    intro p q hpq
    have h1 : p * (2 ^ 65 * (n.u00 + n.u01)) ≤ p * a1 := Nat.mul_le_mul_left _ sa
    have h2 : q * (2 ^ 65 * (n.u10 + n.u11)) ≤ q * b1 := Nat.mul_le_mul_left _ sb
    have e : 2 ^ 65 * (p * n.u00 + q * n.u10 + (p * n.u01 + q * n.u11))
        = p * (2 ^ 65 * (n.u00 + n.u01)) + q * (2 ^ 65 * (n.u10 + n.u11)) := by ring
    rw [B_eq] at hpq
    omega
  exact ⟨row _ _ (eA ▸ hA), row _ _ (eB ▸ hB)⟩

theorem sinv_post {A0 B0 as bs : Nat} {m : M1} (hA : A0 < B * B) (hB : B0 < B * B)
    (h : SInv A0 B0 as bs m) : Post A0 B0 m := by
  obtain ⟨m1, n, a1, b1, hr1, ha1, hb1, hrn, rfl, has, hbs, hn⟩ := h
  obtain ⟨r1, r2⟩ := sinv_rows hA hB hr1 hrn has hbs
  have hS : a1 / 2 ^ 32 < 2 ^ 31 * 2 ^ 33 := by omega
  have hT : b1 / 2 ^ 32 < 2 ^ 31 * 2 ^ 33 := by omega
  obtain ⟨e1, e2⟩ := mrel_entries_lt hrn has hbs hS hT
  obtain ⟨x, y, hxy, hx, hy, _, _⟩ := trunc_lift (2 ^ 32) (a1 % 2 ^ 32) (b1 % 2 ^ 32) hrn
    (le_of_lt (Nat.mod_lt _ (by norm_num))) (le_of_lt (Nat.mod_lt _ (by norm_num))) (by omega) (by omega)
  rw [Nat.div_add_mod, Nat.div_add_mod] at hxy
  refine ⟨x, y, mrel_comp hr1 hxy, ?_, ?_, hn, r1, r2⟩
  · have : 2 ^ 32 * (2 ^ 33 - 2 ^ 31) ≤ 2 ^ 32 * (as - n.u01) := Nat.mul_le_mul_left _ (by omega)
    omega
  · have : 2 ^ 32 * (2 ^ 33 - 2 ^ 31) ≤ 2 ^ 32 * (bs - n.u10) := Nat.mul_le_mul_left _ (by omega)
    omega

theorem post_entries {A0 B0 : Nat} {m : M1} (h : Post A0 B0 m) :
    m.u00 + m.u01 < B ∧ m.u10 + m.u11 < B := by
  obtain ⟨x, y, _, _, _, _, r1, r2⟩ := h
  rw [B_eq]; omega

/-- the C's wrapping update of the second column is the exact one -/
theorem updA_eq {A0 B0 : Nat} {m : M1} {q : Nat}
    (h : Post A0 B0 ⟨m.u00, m.u01 + q * m.u00, m.u10, m.u11 + q * m.u10⟩) :
    ({ m with u01 := (m.u01 + q * m.u00) % B, u11 := (m.u11 + q * m.u10) % B } : M1)
      = ⟨m.u00, m.u01 + q * m.u00, m.u10, m.u11 + q * m.u10⟩ := by
  obtain ⟨e1, e2⟩ := post_entries h
  simp only at e1 e2
  rw [Nat.mod_eq_of_lt (by omega), Nat.mod_eq_of_lt (by omega)]

theorem nonId_subA {m : M1} (q : Nat) (h : NonId m) :
    NonId ⟨m.u00, m.u01 + q * m.u00, m.u10, m.u11 + q * m.u10⟩ :=
  subA_eq m q ▸ nonId_mmul h (det1_elemQ q 1)

theorem dinv_subA {A0 B0 a b : Nat} {m : M1} (q : Nat) (h : DInv A0 B0 a b m) (hq : q * b ≤ a)
    (hT : 2 * B ≤ a - q * b) :
    DInv A0 B0 (a - q * b) b ⟨m.u00, m.u01 + q * m.u00, m.u10, m.u11 + q * m.u10⟩ := by
  obtain ⟨hr, _, hb, hn⟩ := h
  exact ⟨mrel_subA q hr hq, hT, hb, nonId_subA q hn⟩

theorem mmul_subA (m1 n : M1) (q : Nat) :
    (⟨(mmul m1 n).u00, (mmul m1 n).u01 + q * (mmul m1 n).u00, (mmul m1 n).u10,
      (mmul m1 n).u11 + q * (mmul m1 n).u10⟩ : M1)
      = mmul m1 ⟨n.u00, n.u01 + q * n.u00, n.u10, n.u11 + q * n.u10⟩ := by
  rw [subA_eq, subA_eq, mmul_assoc]

theorem sinv_subA {A0 B0 a b : Nat} {m : M1} (q : Nat) (h : SInv A0 B0 a b m) (hq : q * b ≤ a)
    (hT : 2 ^ 33 ≤ a - q * b) :
    SInv A0 B0 (a - q * b) b ⟨m.u00, m.u01 + q * m.u00, m.u10, m.u11 + q * m.u10⟩ := by
  obtain ⟨m1, n, a1, b1, hr1, ha1, hb1, hrn, rfl, _, hbs, hn⟩ := h
  exact ⟨m1, _, a1, b1, hr1, ha1, hb1, mrel_subA q hrn hq, mmul_subA m1 n q, hT, hbs, nonId_subA q hn⟩

theorem sinv_lt {A0 B0 a b : Nat} {m : M1} (h : SInv A0 B0 a b m) : a < B ∧ b < B := by
  obtain ⟨m1, n, a1, b1, _, ha1, hb1, hrn, _, _, _, _⟩ := h
  obtain ⟨l1, l2⟩ := mrel_le hrn
  rw [B_eq]; omega

/-- "switch to single precision" (hgcd2.c:252, 296) -/
theorem dinv_switch {A0 B0 a b : Nat} {m : M1} (h : DInv A0 B0 a b m) (ha : a / B < HALF) (hb : b / B < HALF) :
    SInv A0 B0 (((a / B) <<< 32) + ((a % B) >>> 32)) (((b / B) <<< 32) + ((b % B) >>> 32)) m := by
  have ea : ((a / B) <<< 32) + ((a % B) >>> 32) = a / 2 ^ 32 := by
    rw [Nat.shiftLeft_eq, Nat.shiftRight_eq_div_pow, B_eq]; omega
  have eb : ((b / B) <<< 32) + ((b % B) >>> 32) = b / 2 ^ 32 := by
    rw [Nat.shiftLeft_eq, Nat.shiftRight_eq_div_pow, B_eq]; omega
  rw [ea, eb]
  obtain ⟨hr, h2a, h2b, hn⟩ := h
  simp only [B_eq, HALF] at ha hb h2a h2b
  refine ⟨m, ⟨1, 0, 0, 1⟩, a, b, hr, by omega, by omega, ⟨rfl, by simp, by simp⟩, ?_, by omega, by omega, hn⟩
  cases m; simp [mmul]

/-- division facts used at each `div1`/`div2` call: x' = x - y (already subtracted once), then
    q = x' / y, r = x' % y -/
theorem divstep_facts (x y : Nat) (hy : 0 < y) (hle : y ≤ x) :
    ((x - y) / y) * y ≤ x ∧ x - ((x - y) / y) * y = (x - y) % y + y ∧
    ((x - y) / y + 1) * y ≤ x ∧ x - ((x - y) / y + 1) * y = (x - y) % y ∧ (x - y) % y < y := by
  have e := Nat.div_add_mod (x - y) y
  have hr := Nat.mod_lt (x - y) hy
  generalize (x - y) / y = q at *
  generalize (x - y) % y = r at *
  have e1 : (q + 1) * y = y * q + y := by ring
  have e2 : q * y = y * q := Nat.mul_comm _ _
  omega

/-! ### the mirrored computation

`subtract_a` / `subtract_a1` are the code of the loop tops with a and b exchanged, which exchanges the
rows and the columns of M; so only the program points `dA` and `sA` are followed step by step. -/

theorem hgcd2Loop_swap : ∀ (f a b : Nat) (m : M1),
    hgcd2Loop f .dB a b m = (hgcd2Loop f .dA b a m.swap).swap ∧
    hgcd2Loop f .sB a b m = (hgcd2Loop f .sA b a m.swap).swap
  | 0, a, b, m => ⟨rfl, rfl⟩
  | f + 1, a, b, m => by
    have ihd := fun a b m => (hgcd2Loop_swap f a b m).1
    have ihs := fun a b m => (hgcd2Loop_swap f a b m).2
    have ss : ∀ m : M1, m.swap.swap = m := fun _ => rfl
    constructor
    · rw [hgcd2Loop, hgcd2Loop]
      dsimp only
      simp only [ihd, ihs, apply_ite M1.swap, ss, eq_comm (a := b / B)]
      rfl
    · rw [hgcd2Loop, hgcd2Loop]
      dsimp only
      simp only [ihs, apply_ite M1.swap, ss]
      rfl

theorem mmul_swap (m n : M1) : (mmul m n).swap = mmul m.swap n.swap := by
  show M1.mk _ _ _ _ = M1.mk _ _ _ _
  congr 1 <;> exact Nat.add_comm _ _

theorem post_swap {A0 B0 : Nat} {m : M1} (h : Post A0 B0 m) : Post B0 A0 m.swap := by
  obtain ⟨x, y, hr, hx, hy, hn, r1, r2⟩ := h
  exact ⟨y, x, mrel_swap hr, hy, hx, hn.symm, by rw [Nat.add_comm]; exact r2, by rw [Nat.add_comm]; exact r1⟩

theorem hinv_swap {A0 B0 a b : Nat} {m : M1} :
    (HInv A0 B0 .dB a b m → HInv B0 A0 .dA b a m.swap) ∧ (HInv A0 B0 .sB a b m → HInv B0 A0 .sA b a m.swap) := by
  constructor
  · rintro ⟨⟨hr, ha, hb, hn⟩, hord⟩
    exact ⟨⟨mrel_swap hr, hb, ha, hn.symm⟩, hord⟩
  · rintro ⟨⟨m1, n, a1, b1, hr1, ha1, hb1, hrn, rfl, has, hbs, hn⟩, hord⟩
    exact ⟨⟨m1.swap, n.swap, b1, a1, mrel_swap hr1, hb1, ha1, mrel_swap hrn, mmul_swap m1 n, hbs, has, hn.symm⟩, hord⟩

section loop
variable {A0 B0 : Nat} (hA : A0 < B * B) (hB : B0 < B * B)
include hA hB

theorem hinv_post {pt : HPt} {a b : Nat} {m : M1} (h : HInv A0 B0 pt a b m) : Post A0 B0 m := by
  cases pt
  · exact dinv_post hA hB h.1
  · exact dinv_post hA hB h.1
  · exact sinv_post hA hB h.1
  · exact sinv_post hA hB h.1

theorem loop_dA {f a b : Nat} {m : M1}
    (ih : ∀ pt a b m, HInv A0 B0 pt a b m → Post A0 B0 (hgcd2Loop f pt a b m))
    (h : HInv A0 B0 .dA a b m) : Post A0 B0 (hgcd2Loop (f + 1) .dA a b m) := by
  obtain ⟨hd, hord⟩ := h
  have hd' := hd
  obtain ⟨hr, h2a, h2b, hn⟩ := hd'
  obtain ⟨la, lb⟩ := mrel_le hr
  have haBB : a < B * B := lt_of_le_of_lt la hA
  have hbBB : b < B * B := lt_of_le_of_lt lb hB
  unfold hgcd2Loop
  dsimp only
  by_cases e1 : a / B = b / B
  · rw [if_pos e1]; exact dinv_post hA hB hd
  rw [if_neg e1]
  have hlt : b < a := Nat.lt_of_div_lt_div (by omega : b / B < a / B)
  by_cases e2 : a / B < HALF
  · rw [if_pos e2]
    exact ih .sA _ _ _ ⟨dinv_switch hd e2 (by omega), by
      have : b / 2 ^ 32 ≤ a / 2 ^ 32 := Nat.div_le_div_right (le_of_lt hlt)
      rw [Nat.shiftLeft_eq, Nat.shiftRight_eq_div_pow, Nat.shiftLeft_eq, Nat.shiftRight_eq_div_pow]
      simp only [B_eq] at *; omega⟩
  rw [if_neg e2]
  by_cases e3 : (a - b) / B < 2
  · rw [if_pos e3]; exact dinv_post hA hB hd
  rw [if_neg e3]
  have h2ab : 2 * B ≤ a - b := by simp only [B_eq] at *; omega
  by_cases e4 : (a - b) / B ≤ b / B
  · rw [if_pos e4]
    have hd1 := dinv_subA 1 hd (by omega) (by rw [Nat.one_mul]; exact h2ab)
    simp only [Nat.one_mul] at hd1
    have hu := updA_eq (q := 1) (by simp only [Nat.one_mul]; exact dinv_post hA hB hd1)
    simp only [Nat.one_mul] at hu
    rw [hu]
    exact ih .dB _ _ _ ⟨hd1, e4⟩
  rw [if_neg e4]
  have hb0 : B ≤ b := by omega
  have hdiv := div2_spec (a - b) b (by omega) hb0 hbBB
  rw [show div2 (a - b) b = ((a - b) / b, (a - b) % b) from Prod.ext hdiv.1 hdiv.2]
  dsimp only
  obtain ⟨f1, f2, f3, f4, f5⟩ := divstep_facts a b (lt_of_lt_of_le B_pos hb0) (le_of_lt hlt)
  by_cases e5 : (a - b) % b / B < 2
  · rw [if_pos e5]
    have hd1 := dinv_subA ((a - b) / b) hd f1 (by rw [f2]; exact Nat.le_trans h2b (Nat.le_add_left _ _))
    rw [updA_eq (dinv_post hA hB hd1)]
    exact dinv_post hA hB hd1
  · rw [if_neg e5]
    have hq : (a - b) / b + 1 < B := by
      have : (a - b) / b ≤ (a - b) / (2 * B) := Nat.div_le_div_left h2b (by rw [B_eq]; norm_num)
      simp only [B_eq] at *; omega
    rw [Nat.mod_eq_of_lt hq]
    have hd1 := dinv_subA ((a - b) / b + 1) hd f3 (by rw [f4]; simp only [B_eq] at *; omega)
    rw [updA_eq (dinv_post hA hB hd1)]
    rw [f4] at hd1
    exact ih .dB _ _ _ ⟨hd1, Nat.div_le_div_right (le_of_lt f5)⟩

theorem loop_sA {f a b : Nat} {m : M1}
    (ih : ∀ pt a b m, HInv A0 B0 pt a b m → Post A0 B0 (hgcd2Loop f pt a b m))
    (h : HInv A0 B0 .sA a b m) : Post A0 B0 (hgcd2Loop (f + 1) .sA a b m) := by
  obtain ⟨hs, hord⟩ := h
  obtain ⟨haB, hbB⟩ := sinv_lt hs
  have h2b : 2 ^ 33 ≤ b := by obtain ⟨_, _, _, _, _, _, _, _, _, _, h, _⟩ := hs; exact h
  unfold hgcd2Loop
  dsimp only
  by_cases e3 : a - b < 2 * HALF
  · rw [if_pos e3]; exact sinv_post hA hB hs
  rw [if_neg e3]
  have h2ab : 2 ^ 33 ≤ a - b := by simp only [HALF] at e3; omega
  by_cases e4 : a - b ≤ b
  · rw [if_pos e4]
    have hs1 := sinv_subA 1 hs (by omega) (by rw [Nat.one_mul]; exact h2ab)
    simp only [Nat.one_mul] at hs1
    have hu := updA_eq (q := 1) (by simp only [Nat.one_mul]; exact sinv_post hA hB hs1)
    simp only [Nat.one_mul] at hu
    rw [hu]
    exact ih .sB _ _ _ ⟨hs1, e4⟩
  rw [if_neg e4]
  have hdiv := div1_spec (a - b) b (by omega) (by omega)
  rw [show div1 (a - b) b = ((a - b) / b, (a - b) % b) from Prod.ext hdiv.1 hdiv.2]
  dsimp only
  obtain ⟨f1, f2, f3, f4, f5⟩ := divstep_facts a b (by omega) hord
  by_cases e5 : (a - b) % b < 2 * HALF
  · rw [if_pos e5]
    have hs1 := sinv_subA ((a - b) / b) hs f1 (by rw [f2]; omega)
    rw [updA_eq (sinv_post hA hB hs1)]
    exact sinv_post hA hB hs1
  · rw [if_neg e5]
    have hq : (a - b) / b + 1 < B := by
      have : (a - b) / b ≤ (a - b) / 2 ^ 33 := Nat.div_le_div_left h2b (by norm_num)
      simp only [B_eq] at *; omega
    rw [Nat.mod_eq_of_lt hq]
    have hs1 := sinv_subA ((a - b) / b + 1) hs f3 (by rw [f4]; simp only [HALF] at e5; omega)
    rw [updA_eq (sinv_post hA hB hs1)]
    rw [f4] at hs1
    exact ih .sB _ _ _ ⟨hs1, le_of_lt f5⟩

end loop

/-- every program point keeps its invariant; whatever the loop returns (including on fuel
    exhaustion, which therefore needs no separate termination argument) satisfies `Post`. -/
theorem hgcd2Loop_post {A0 B0 : Nat} (hA : A0 < B * B) (hB : B0 < B * B) (f : Nat) (pt : HPt) (a b : Nat)
    (m : M1) (h : HInv A0 B0 pt a b m) : Post A0 B0 (hgcd2Loop f pt a b m) := by
  induction f generalizing A0 B0 pt a b m with
  | zero => rw [hgcd2Loop]; exact hinv_post hA hB h
  | succ f ih =>
    cases pt
    · exact loop_dA hA hB (ih hA hB) h
    · rw [(hgcd2Loop_swap (f + 1) a b m).1]
      exact post_swap (loop_dA hB hA (ih hB hA) (hinv_swap.1 h))
    · exact loop_sA hA hB (ih hA hB) h
    · rw [(hgcd2Loop_swap (f + 1) a b m).2]
      exact post_swap (loop_sA hB hA (ih hB hA) (hinv_swap.2 h))

theorem two_limb_facts (ah al bh bl : Nat) (hal : al < B) (hbl : bl < B) :
    (ah * B + al) / B = ah ∧ (bh * B + bl) / B = bh ∧
    (ah > bh ∨ (ah = bh ∧ al > bl) ↔ bh * B + bl < ah * B + al) ∧
    (2 ≤ ah → 2 * B ≤ ah * B + al) := by
  rw [B_eq] at *
  refine ⟨by omega, by omega, by omega, by omega⟩

theorem hgcd2_post (ah al bh bl : Nat) (m : M1) (hah : ah < B) (hal : al < B) (hbh : bh < B) (hbl : bl < B)
    (h : hgcd2 ah al bh bl = some m) : Post (ah * B + al) (bh * B + bl) m := by
  have hA := two_limb_lt hah hal
  have hB := two_limb_lt hbh hbl
  obtain ⟨dA, dB, hcmp, h2A⟩ := two_limb_facts ah al bh bl hal hbl
  obtain ⟨_, _, _, h2B⟩ := two_limb_facts bh bl ah al hbl hal
  unfold hgcd2 at h
  by_cases e0 : ah < 2 ∨ bh < 2
  · rw [if_pos e0] at h; exact absurd h (by simp)
  rw [if_neg e0] at h
  dsimp only at h
  have h2A := h2A (by omega)
  have h2B := h2B (by omega)
  generalize ah * B + al = a at *
  generalize bh * B + bl = b at *
  by_cases e1 : ah > bh ∨ (ah = bh ∧ al > bl)
  · rw [if_pos e1] at h
    have hlt : b < a := hcmp.mp e1
    by_cases e2 : (a - b) / B < 2
    · rw [if_pos e2] at h; exact absurd h (by simp)
    rw [if_neg e2] at h
    have hd : DInv a b (a - b) b ⟨1, 1, 0, 1⟩ :=
      ⟨⟨by simp, by simp only; omega, by simp⟩, by rw [B_eq] at *; omega, h2B, Or.inl (by simp)⟩
    simp only [Option.some.injEq] at h
    rw [← h, ← dB]
    split
    · exact hgcd2Loop_post hA hB _ _ _ _ _ ⟨hd, by omega⟩
    · exact hgcd2Loop_post hA hB _ _ _ _ _ ⟨hd, by omega⟩
  · rw [if_neg e1] at h
    have hlt : a ≤ b := by
      by_contra hc; exact e1 (hcmp.mpr (by omega))
    by_cases e2 : (b - a) / B < 2
    · rw [if_pos e2] at h; exact absurd h (by simp)
    rw [if_neg e2] at h
    have hd : DInv a b a (b - a) ⟨1, 0, 1, 1⟩ :=
      ⟨⟨by simp, by simp, by simp only; omega⟩, h2A, by rw [B_eq] at *; omega, Or.inr (by simp)⟩
    simp only [Option.some.injEq] at h
    rw [← h, ← dA]
    split
    · exact hgcd2Loop_post hA hB _ _ _ _ _ ⟨hd, by omega⟩
    · exact hgcd2Loop_post hA hB _ _ _ _ _ ⟨hd, by omega⟩

/-- Lehmer/Jebelean: a matrix with `Post` for (A0, B0) works for EVERY pair (X, Y) extending
    (A0, B0) by lower digits: M⁻¹(X; Y) is non-negative and at least W·B in both components. -/
theorem post_extend' {A0 B0 : Nat} {m : M1} (h : Post A0 B0 m)
    (W rx ry : Nat) (hrx : rx < W) (hry : ry < W) :
    ∃ x y, MRel m x y (W * A0 + rx) (W * B0 + ry) ∧ W * B ≤ x ∧ W * B ≤ y := by
  obtain ⟨x, y, hr, hx, hy, _, r1, r2⟩ := h
  obtain ⟨x', y', hr', hx', hy', _, _⟩ := trunc_lift W rx ry hr (le_of_lt hrx) (le_of_lt hry) (by omega) (by omega)
  refine ⟨x', y', hr', le_trans (Nat.mul_le_mul_left _ ?_) hx', le_trans (Nat.mul_le_mul_left _ ?_) hy'⟩
  · rw [B_eq]; omega
  · rw [B_eq]; omega

theorem post_extend {A0 B0 : Nat} {m : M1} (h : Post A0 B0 m)
    (W rx ry : Nat) (hrx : rx < W) (hry : ry < W) :
    ∃ x y, MRel m x y (W * A0 + rx) (W * B0 + ry) ∧ W * 2 ^ 63 ≤ x ∧ W * 2 ^ 63 ≤ y := by
  obtain ⟨x, y, hr, hx, hy⟩ := post_extend' h W rx ry hrx hry
  have : W * 2 ^ 63 ≤ W * B := Nat.mul_le_mul_left _ (by rw [B_eq]; norm_num)
  exact ⟨x, y, hr, this.trans hx, this.trans hy⟩

theorem contract_of_mrel {m : M1} {a b s W x y : Nat} (hs : s ≤ 63) (h : MRel m x y (a * 2 ^ s) (b * 2 ^ s))
    (hx : W * 2 ^ 63 ≤ x) (hy : W * 2 ^ 63 ≤ y) (hW : 0 < W) :
    lehmerOk m a b ∧ 0 < m.u11 * a - m.u01 * b ∧ 0 < m.u00 * b - m.u10 * a ∧
    W ≤ m.u11 * a - m.u01 * b ∧ W ≤ m.u00 * b - m.u10 * a := by
  obtain ⟨i1, i2⟩ := mrel_inverse h
  have hp : 0 < 2 ^ s := by positivity
  have hle : 2 ^ s ≤ 2 ^ 63 := Nat.pow_le_pow_right (by norm_num) hs
  have k1 : (m.u11 * a - m.u01 * b) * 2 ^ s = x := by
    rw [Nat.sub_mul, Nat.mul_assoc, Nat.mul_assoc, i1]; omega
  have k2 : (m.u00 * b - m.u10 * a) * 2 ^ s = y := by
    rw [Nat.sub_mul, Nat.mul_assoc, Nat.mul_assoc, i2]; omega
  have w1 : W ≤ m.u11 * a - m.u01 * b := by
    apply Nat.le_of_mul_le_mul_right _ hp
    rw [k1]; exact le_trans (Nat.mul_le_mul_left _ hle) hx
  have w2 : W ≤ m.u00 * b - m.u10 * a := by
    apply Nat.le_of_mul_le_mul_right _ hp
    rw [k2]; exact le_trans (Nat.mul_le_mul_left _ hle) hy
  refine ⟨⟨h.1, ?_, ?_⟩, by omega, by omega, w1, w2⟩ <;> omega

/-- MPN_EXTRACT_NUMB as arithmetic: with c = 2^s, d = 2^(64-s) (c·d = B) -/
theorem extractNumb_eq (s h l : Nat) (hs1 : 1 ≤ s) (hs : s ≤ 63) (hl : l < B) :
    extractNumb s h l = (h % 2 ^ (64 - s)) * 2 ^ s + l / 2 ^ (64 - s) := by
  have hB : B = 2 ^ (64 - s) * 2 ^ s := by
    rw [← Nat.pow_add]; have : 64 - s + s = 64 := by omega
    rw [this]; rfl
  unfold extractNumb
  rw [Nat.shiftLeft_eq, Nat.shiftRight_eq_div_pow]
  have e1 : h * 2 ^ s % B = (h % 2 ^ (64 - s)) * 2 ^ s := by
    rw [hB]; exact Nat.mul_mod_mul_right _ _ _
  have e2 : l / 2 ^ (64 - s) < 2 ^ s := Nat.div_lt_of_lt_mul (by rw [← hB]; exact hl)
  rw [e1, ← Nat.shiftLeft_eq, Nat.shiftLeft_add_eq_or_of_lt e2]

/-- arithmetic core: shifting three digits (l2, l1, l0 base B = c·d, l2 < d) left by c and dropping
    the lowest digit. -/
theorem shift3 (c d l2 l1 l0 P r : Nat) (h2 : l2 < d) (hd : 0 < d) (hc : 0 < c) (hr : r < P) :
    ∃ rx, rx < (c * d) * P ∧
      (((l2 * (c * d) + l1) * (c * d) + l0) * P + r) * c
        = ((c * d) * P) * (((l2 % d) * c + l1 / d) * (c * d) + ((l1 % d) * c + l0 / d)) + rx := by
  refine ⟨(l0 % d) * c * P + r * c, ?_, ?_⟩
  · have h0 : l0 % d + 1 ≤ d := Nat.mod_lt _ hd
    have h1 : (l0 % d + 1) * c * P ≤ d * c * P := Nat.mul_le_mul_right _ (Nat.mul_le_mul_right _ h0)
    have h3 : (r + 1) * c ≤ P * c := Nat.mul_le_mul_right _ hr
    have e1 : (l0 % d + 1) * c * P = (l0 % d) * c * P + P * c := by ring
    have e2 : (r + 1) * c = r * c + c := by ring
    have e3 : d * c * P = c * d * P := by ring
    omega
  · have e2 := Nat.mod_eq_of_lt h2
    have e1 := Nat.div_add_mod l1 d
    have e0 := Nat.div_add_mod l0 d
    rw [e2]
    generalize l1 / d = k1 at *
    generalize l1 % d = m1 at *
    generalize l0 / d = k0 at *
    generalize l0 % d = m0 at *
    subst e1 e0
    ring

theorem extractNumb_lt (s h l : Nat) (hs1 : 1 ≤ s) (hs : s ≤ 63) (hl : l < B) : extractNumb s h l < B := by
  rw [extractNumb_eq s h l hs1 hs hl]
  have hB := B_split s (by omega)
  have hd : 0 < 2 ^ (64 - s) := by positivity
  have e2 : l / 2 ^ (64 - s) < 2 ^ s := Nat.div_lt_of_lt_mul (by rw [Nat.mul_comm, ← hB]; exact hl)
  have h0 : h % 2 ^ (64 - s) + 1 ≤ 2 ^ (64 - s) := Nat.mod_lt _ hd
  have h1 : (h % 2 ^ (64 - s) + 1) * 2 ^ s ≤ 2 ^ (64 - s) * 2 ^ s := Nat.mul_le_mul_right _ h0
  rw [Nat.add_mul, Nat.one_mul, Nat.mul_comm (2 ^ (64 - s)), ← hB] at h1
  omega

theorem top_noshift (x k : Nat) (hx : x < B ^ (k + 2)) :
    limbAt x (k + 1) < B ∧ limbAt x k < B ∧
    x * 2 ^ 0 = B ^ k * (limbAt x (k + 1) * B + limbAt x k) + x % B ^ k := by
  rw [limbAt_eq, limbAt_eq]
  refine ⟨Nat.mod_lt _ B_pos, Nat.mod_lt _ B_pos, ?_⟩
  have ht : x / B ^ k < B * B := by
    apply Nat.div_lt_of_lt_mul
    have : B ^ (k + 2) = B ^ k * (B * B) := by ring
    rw [← this]; exact hx
  rw [pow_succ, ← Nat.div_div_eq_div_mul, Nat.mod_eq_of_lt (Nat.div_lt_of_lt_mul ht)]
  rw [Nat.div_add_mod' (x / B ^ k) B, Nat.div_add_mod]
  simp

theorem top_shift2 (x s : Nat) (hs1 : 1 ≤ s) (hs : s ≤ 63) (hx : x < B ^ 2) (ht : limbAt x 1 < 2 ^ (64 - s)) :
    extractNumb s (limbAt x 1) (limbAt x 0) < B ∧ (limbAt x 0 <<< s) % B < B ∧
    x * 2 ^ s = B ^ 0 * (extractNumb s (limbAt x 1) (limbAt x 0) * B + (limbAt x 0 <<< s) % B) + 0 := by
  have hl0 : limbAt x 0 < B := by rw [limbAt_eq]; exact Nat.mod_lt _ B_pos
  refine ⟨extractNumb_lt _ _ _ hs1 hs hl0, Nat.mod_lt _ B_pos, ?_⟩
  rw [extractNumb_eq _ _ _ hs1 hs hl0, shl_mod_B _ _ (by omega), Nat.mod_eq_of_lt ht]
  have ex : x = limbAt x 1 * B + limbAt x 0 := by
    rw [limbAt_eq, limbAt_eq, pow_one, pow_zero, Nat.div_one]
    rw [Nat.mod_eq_of_lt (Nat.div_lt_of_lt_mul (by rw [← pow_two]; exact hx))]
    exact (Nat.div_add_mod' x B).symm
  have hB := B_split s (by omega)
  have e0 := Nat.div_add_mod (limbAt x 0) (2 ^ (64 - s))
  generalize limbAt x 1 = l1 at *
  generalize limbAt x 0 = l0 at *
  generalize l0 / 2 ^ (64 - s) = k0 at *
  generalize l0 % 2 ^ (64 - s) = m0 at *
  generalize 2 ^ (64 - s) = d at *
  generalize 2 ^ s = c at *
  rw [ex, hB, ← e0]
  ring

theorem top_shift3 (x k s : Nat) (hs1 : 1 ≤ s) (hs : s ≤ 63) (hx : x < B ^ (k + 3))
    (ht : limbAt x (k + 2) < 2 ^ (64 - s)) :
    extractNumb s (limbAt x (k + 2)) (limbAt x (k + 1)) < B ∧
    extractNumb s (limbAt x (k + 1)) (limbAt x k) < B ∧
    ∃ rx, rx < B ^ (k + 1) ∧
      x * 2 ^ s = B ^ (k + 1) * (extractNumb s (limbAt x (k + 2)) (limbAt x (k + 1)) * B
                                  + extractNumb s (limbAt x (k + 1)) (limbAt x k)) + rx := by
  have hl0 : limbAt x k < B := by rw [limbAt_eq]; exact Nat.mod_lt _ B_pos
  have hl1 : limbAt x (k + 1) < B := by rw [limbAt_eq]; exact Nat.mod_lt _ B_pos
  refine ⟨extractNumb_lt _ _ _ hs1 hs hl1, extractNumb_lt _ _ _ hs1 hs hl0, ?_⟩
  rw [extractNumb_eq _ _ _ hs1 hs hl0, extractNumb_eq _ _ _ hs1 hs hl1]
  have hB := B_split s (by omega)
  have ht3 : x / B ^ k < B * B * B := by
    apply Nat.div_lt_of_lt_mul
    have : B ^ (k + 3) = B ^ k * (B * B * B) := by ring
    rw [← this]; exact hx
  have ex : x = ((limbAt x (k + 2) * B + limbAt x (k + 1)) * B + limbAt x k) * B ^ k + x % B ^ k := by
    rw [limbAt_eq, limbAt_eq, limbAt_eq]
    have p2 : B ^ (k + 2) = B ^ k * B * B := by ring
    rw [p2, pow_succ, ← Nat.div_div_eq_div_mul, ← Nat.div_div_eq_div_mul]
    have : x / B ^ k / B / B < B := Nat.div_lt_of_lt_mul (Nat.div_lt_of_lt_mul (by
      have : B * (B * B) = B * B * B := by ring
      rw [this]; exact ht3))
    rw [Nat.mod_eq_of_lt this, Nat.div_add_mod' (x / B ^ k / B) B, Nat.div_add_mod' (x / B ^ k) B,
      Nat.div_add_mod' x (B ^ k)]
  have hr : x % B ^ k < B ^ k := Nat.mod_lt _ (pow_pos B_pos _)
  obtain ⟨rx, hrx, e⟩ := shift3 (2 ^ s) (2 ^ (64 - s)) (limbAt x (k + 2)) (limbAt x (k + 1)) (limbAt x k)
    (B ^ k) (x % B ^ k) ht (by positivity) (by positivity) hr
  rw [← hB] at hrx e
  have p1 : B ^ (k + 1) = B * B ^ k := by ring
  refine ⟨rx, by rw [p1]; exact hrx, ?_⟩
  rw [p1, ← e, ← ex]

theorem clz_mask (ta tb : Nat) (hm : ¬ 2 ^ 63 ≤ ta ||| tb) :
    1 ≤ clz (ta ||| tb) ∧ clz (ta ||| tb) ≤ 63 ∧
    ta < 2 ^ (64 - clz (ta ||| tb)) ∧ tb < 2 ^ (64 - clz (ta ||| tb)) := by
  have h1 : ta ≤ ta ||| tb := Nat.left_le_or
  have h2 : tb ≤ ta ||| tb := Nat.right_le_or
  generalize ta ||| tb = mask at *
  have hlog : mask.log2 < 63 := by
    rcases Nat.eq_zero_or_pos mask with h | h
    · subst h; simp
    · exact (Nat.log2_lt (by omega)).mpr (by omega)
  have hlt : mask < 2 ^ (mask.log2 + 1) := Nat.lt_log2_self
  unfold clz
  have e : 64 - (63 - mask.log2) = mask.log2 + 1 := by omega
  rw [e]
  refine ⟨by omega, by omega, by omega, by omega⟩

/-- the normalised top two limbs (gcd.c:225, gcdext_lehmer.c:181): ⌊a·2^s / B^(n-2)⌋ and ⌊b·2^s / B^(n-2)⌋ as two-limb
    values, for one common shift 0 ≤ s ≤ 63 -/
theorem top2_spec (a b n : Nat) (hn : 2 ≤ n) (ha : a < B ^ n) (hb : b < B ^ n) :
    ∃ s rx ry, s ≤ 63 ∧ rx < B ^ (n - 2) ∧ ry < B ^ (n - 2) ∧
      (top2 a b n).1 < B ∧ (top2 a b n).2.1 < B ∧ (top2 a b n).2.2.1 < B ∧ (top2 a b n).2.2.2 < B ∧
      a * 2 ^ s = B ^ (n - 2) * ((top2 a b n).1 * B + (top2 a b n).2.1) + rx ∧
      b * 2 ^ s = B ^ (n - 2) * ((top2 a b n).2.2.1 * B + (top2 a b n).2.2.2) + ry := by
  unfold top2
  dsimp only
  by_cases hm : 2 ^ 63 ≤ limbAt a (n - 1) ||| limbAt b (n - 1)
  · rw [if_pos hm]
    obtain ⟨k, rfl⟩ : ∃ k, n = k + 2 := ⟨n - 2, by omega⟩
    have e1 : k + 2 - 1 = k + 1 := rfl
    have e2 : k + 2 - 2 = k := rfl
    rw [e1, e2]
    obtain ⟨a1, a2, a3⟩ := top_noshift a k ha
    obtain ⟨b1, b2, b3⟩ := top_noshift b k hb
    exact ⟨0, a % B ^ k, b % B ^ k, by omega, Nat.mod_lt _ (pow_pos B_pos _), Nat.mod_lt _ (pow_pos B_pos _),
      a1, a2, b1, b2, a3, b3⟩
  · rw [if_neg hm]
    obtain ⟨hs1, hs, hta, htb⟩ := clz_mask _ _ hm
    generalize clz (limbAt a (n - 1) ||| limbAt b (n - 1)) = s at *
    by_cases h2 : n = 2
    · rw [if_pos h2]
      subst h2
      obtain ⟨a1, a2, a3⟩ := top_shift2 a s hs1 hs ha hta
      obtain ⟨b1, b2, b3⟩ := top_shift2 b s hs1 hs hb htb
      exact ⟨s, 0, 0, hs, by simp, by simp, a1, a2, b1, b2, a3, b3⟩
    · rw [if_neg h2]
      obtain ⟨k, rfl⟩ : ∃ k, n = k + 3 := ⟨n - 3, by omega⟩
      have e1 : k + 3 - 1 = k + 2 := rfl
      have e2 : k + 3 - 2 = k + 1 := rfl
      have e3 : k + 3 - 3 = k := rfl
      rw [e1] at hta htb
      rw [e1, e2, e3]
      obtain ⟨a1, a2, rx, a3, a4⟩ := top_shift3 a k s hs1 hs ha hta
      obtain ⟨b1, b2, ry, b3, b4⟩ := top_shift3 b k s hs1 hs hb htb
      exact ⟨s, rx, ry, hs, a3, b3, a1, a2, b1, b2, a4, b4⟩

/-- the contract holds for the executable model `hgcd2`, the bit-exact mirror of mpn/generic/hgcd2.c; in fact both
    components of M⁻¹(a; b) keep ≥ n - 1 limbs -/
theorem hgcd2_contract : Hgcd2Contract := by
  intro a b n m hinv hn h
  obtain ⟨h0a, h0b, haB, hbB, _, _⟩ := hinv
  obtain ⟨s, rx, ry, hs, hrx, hry, t1, t2, t3, t4, ea, eb⟩ := top2_spec a b n hn haB hbB
  have hp := hgcd2_post _ _ _ _ m t1 t2 t3 t4 h
  have hne : NonId m := by obtain ⟨_, _, _, _, _, h, _⟩ := hp; exact h
  obtain ⟨x, y, hr, hx, hy⟩ := post_extend hp (B ^ (n - 2)) rx ry hrx hry
  rw [← ea, ← eb] at hr
  obtain ⟨c1, c2, c3, c4, _⟩ := contract_of_mrel hs hr hx hy (pow_pos B_pos _)
  exact ⟨c1, hne, c2, c3, Or.inl c4⟩

end Mpir.Gcd
