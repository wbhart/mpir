/- mpn_rootrem_internal: the Newton round, the schedule `sizes[]` and the induction over it, the routine as a whole;
   the dispatcher mpn_rootrem.  `rootrem`, `rootremInternal`, `rrStep`, … without a prefix are the `Option`-valued mirror
   (Model/Rootrem.lean), `Root.rootrem`, … the value-level model (Model/Root.lean); from `rrStep_gen` on every statement is
   about both at once. -/

import MpirProofs.Lemmas.RootremBc
import Mathlib.Data.List.Chain

namespace Mpir.Rootrem
open Mpir Mpir.Root Mpir.Gen.SqrtTabs

/-! ### the Newton round over ℕ and its correction (rootrem.c:309-415) -/

/-- Bernoulli: `(X + q)^k ≥ X^k + k·X^(k−1)·q`. -/
theorem pow_add_ge (X q : Nat) : ∀ k : Nat, X ^ (k + 1) + (k + 1) * X ^ k * q ≤ (X + q) ^ (k + 1)
  | 0 => by simp
  | k + 1 => by
    have ih := pow_add_ge X q k
    have h1 : (X + q) * (X ^ (k + 1) + (k + 1) * X ^ k * q) ≤ (X + q) * (X + q) ^ (k + 1) :=
      Nat.mul_le_mul_left _ ih
    have h2 : X ^ (k + 1 + 1) + (k + 1 + 1) * X ^ (k + 1) * q ≤
        (X + q) * (X ^ (k + 1) + (k + 1) * X ^ k * q) := by
      have e1 : X ^ (k + 1 + 1) = X ^ k * X * X := by ring
      have e2 : X ^ (k + 1) = X ^ k * X := by ring
      rw [e1, e2]
      generalize X ^ k = a
      nlinarith [Nat.zero_le ((k + 1) * a * q * q)]
    calc _ ≤ _ := h2
      _ ≤ (X + q) * (X + q) ^ (k + 1) := h1
      _ = (X + q) ^ (k + 1 + 1) := by ring

/-- upper side of the linearisation: `(X + t)^k ≤ X^k + k·X^(k−1)·(t + 1)` as soon as `k·t·(t+1) ≤ X`. -/
theorem pow_add_le_lin (X t k : Nat) (hk : 1 ≤ k) (hX : k * t * (t + 1) ≤ X) (hXpos : 0 < X) :
    (X + t) ^ k ≤ X ^ k + k * X ^ (k - 1) * (t + 1) := by
  obtain ⟨j, hj⟩ : ∃ j, k = j + 1 := ⟨k - 1, by omega⟩
  subst hj
  simp only [Nat.add_sub_cancel]
  have hkt : (j + 1) * t < X ∨ t = 0 := by
    rcases Nat.eq_zero_or_pos t with h | h
    · right; exact h
    · left
      have : (j + 1) * t * 2 ≤ (j + 1) * t * (t + 1) := Nat.mul_le_mul_left _ (by omega)
      have : 0 < (j + 1) * t := Nat.mul_pos (by omega) h
      omega
  rcases hkt with hkt | ht0
  · obtain ⟨r, hr⟩ : ∃ r, r + (j + 1) * t = X := ⟨X - (j + 1) * t, by omega⟩
    have hrpos : 0 < r := by omega
    have h1 := pow_add_mul_le X t (j + 1) r (by omega)
    have h2 : X ^ (j + 1 + 1) ≤ (X ^ (j + 1) + (j + 1) * X ^ j * (t + 1)) * r := by
      have e1 : X ^ (j + 1 + 1) = X ^ j * (X * X) := by ring
      have e2 : (X ^ (j + 1) + (j + 1) * X ^ j * (t + 1)) * r = X ^ j * ((X + (j + 1) * (t + 1)) * r) := by ring
      rw [e1, e2]
      apply Nat.mul_le_mul_left
      -- (X + k(t+1)) (X - kt) ≥ X²  ⇐  X ≥ k t (t+1)
      have hX' : (j + 1) * t * (t + 1) ≤ r + (j + 1) * t := by omega
      rw [← hr]
      nlinarith [Nat.zero_le r, Nat.zero_le ((j + 1) * t)]
    exact Nat.le_of_mul_le_mul_right (Nat.le_trans h1 h2) hrpos
  · subst ht0
    simp only [Nat.add_zero]
    exact Nat.le_add_right _ _

/-- The Newton round of mpn_rootrem_internal.  `S` is the floor k-th root of `⌊U'/β^k⌋` (in the C `β = 2^b`), and either
    `k·β ≤ S` (the schedule's condition `c ≥ ⌈(b + log2 k)/2⌉`, Brent–Zimmermann) or `β = 2` (one bit at a time): the
    candidate `S·β + Q` is never below the root of `U'` and at most one above (`ASSERT_ALWAYS (c <= 1)`). -/
theorem newton_round (k S β U' : Nat) (hk : 2 ≤ k) (hS : 0 < S) (hβ : 1 ≤ β)
    (h1 : S ^ k * β ^ k ≤ U') (h2 : U' < (S + 1) ^ k * β ^ k) (hc : k * β ≤ S ∨ β = 2) :
    let Q0 := (U' / β ^ (k - 1) - S ^ k * β) / (k * S ^ (k - 1))
    let Q := if Q0 ≥ β then β - 1 else Q0
    iroot k U' ≤ S * β + Q ∧ S * β + Q ≤ iroot k U' + 1 ∧ S * β ≤ iroot k U' ∧ iroot k U' < (S + 1) * β ∧ Q < β := by
  intro Q0 Q
  have hk0 : 0 < k := by omega
  obtain ⟨r1, r2⟩ := iroot_spec k U' hk0
  generalize hs' : iroot k U' = s' at *
  have hX : 0 < S * β := Nat.mul_pos hS (by omega)
  have hk1 : k - 1 + 1 = k := by omega
  -- X ≤ s' < X + β
  have hXs : S * β ≤ s' := by
    rw [le_iff_of_root r1 r2, Nat.mul_pow]; exact h1
  have hsX : s' < (S + 1) * β := by
    rw [lt_iff_of_root r1 r2, Nat.mul_pow]; exact h2
  -- Q0 = (U' - X^k) / (k X^(k-1))
  have hQ0 : Q0 = (U' - (S * β) ^ k) / (k * (S * β) ^ (k - 1)) := by
    show (U' / β ^ (k - 1) - S ^ k * β) / (k * S ^ (k - 1)) = _
    have hβk : β ^ k = β ^ (k - 1) * β := by rw [← pow_succ, hk1]
    have e1 : (S * β) ^ k = β ^ (k - 1) * (S ^ k * β) := by rw [Nat.mul_pow, hβk]; ring
    have e2 : k * (S * β) ^ (k - 1) = β ^ (k - 1) * (k * S ^ (k - 1)) := by rw [Nat.mul_pow]; ring
    have hle : β ^ (k - 1) * (S ^ k * β) ≤ U' := by rw [← e1, Nat.mul_pow]; exact h1
    rw [e1, e2, ← Nat.div_div_eq_div_mul (U' - β ^ (k - 1) * (S ^ k * β)) (β ^ (k - 1)) (k * S ^ (k - 1)),
      Nat.sub_mul_div_of_le _ _ _ hle]
  have hQlt : Q < β := by
    show (if Q0 ≥ β then β - 1 else Q0) < β
    split <;> omega
  have hQle : Q ≤ Q0 := by
    show (if Q0 ≥ β then β - 1 else Q0) ≤ Q0
    split <;> omega
  have hden : 0 < k * (S * β) ^ (k - 1) := Nat.mul_pos hk0 (pow_pos hX _)
  have hQ0mul : k * (S * β) ^ (k - 1) * Q0 ≤ U' - (S * β) ^ k := by
    rw [hQ0, Nat.mul_comm]; exact Nat.div_mul_le_self _ _
  have hXk : (S * β) ^ k ≤ U' := by rw [Nat.mul_pow]; exact h1
  refine ⟨?_, ?_, hXs, hsX, hQlt⟩
  · -- never below the root
    obtain ⟨q, hq⟩ := Nat.exists_eq_add_of_le hXs
    have hqβ : q < β := by
      have : (S + 1) * β = S * β + β := by ring
      omega
    have hb := pow_add_ge (S * β) q (k - 1)
    rw [hk1] at hb
    have hq0 : q ≤ Q0 := by
      rw [hQ0, Nat.le_div_iff_mul_le hden]
      have : (S * β) ^ k + k * (S * β) ^ (k - 1) * q ≤ U' := by
        calc _ ≤ (S * β + q) ^ k := hb
          _ = s' ^ k := by rw [hq]
          _ ≤ U' := r1
      have e : q * (k * (S * β) ^ (k - 1)) = k * (S * β) ^ (k - 1) * q := Nat.mul_comm _ _
      omega
    have : q ≤ Q := by
      show q ≤ (if Q0 ≥ β then β - 1 else Q0)
      split <;> omega
    omega
  · -- at most one above
    rcases Nat.eq_zero_or_pos Q with hQ0' | hQpos
    · omega
    · obtain ⟨t, ht⟩ : ∃ t, Q = t + 1 := ⟨Q - 1, by omega⟩
      have hcond : k * t * (t + 1) ≤ S * β := by
        rcases hc with hc | hc
        · calc k * t * (t + 1) ≤ k * β * β := Nat.mul_le_mul (Nat.mul_le_mul_left _ (by omega)) (by omega)
            _ ≤ S * β := Nat.mul_le_mul_right _ hc
        · have : t = 0 := by omega
          subst this; simp
      have hlin := pow_add_le_lin (S * β) t k hk0 hcond hX
      have hle : (S * β + t) ^ k ≤ U' := by
        calc (S * β + t) ^ k ≤ (S * β) ^ k + k * (S * β) ^ (k - 1) * (t + 1) := hlin
          _ = (S * β) ^ k + k * (S * β) ^ (k - 1) * Q := by rw [ht]
          _ ≤ (S * β) ^ k + k * (S * β) ^ (k - 1) * Q0 := Nat.add_le_add_left (Nat.mul_le_mul_left _ hQle) _
          _ ≤ (S * β) ^ k + (U' - (S * β) ^ k) := Nat.add_le_add_left hQ0mul _
          _ = U' := by omega
      have := (le_iff_of_root r1 r2).mpr hle
      omega

/-- the correction loop of mpn_rootrem_internal (rootrem.c:377-415): at most one decrement, `ASSERT_ALWAYS (c <= 1)` holds. -/
theorem rrCorrect_spec (k Uk sn S W : Nat) (wantW : Bool) (hk : 1 ≤ k)
    (hlo : B ^ (sn - 1) ≤ iroot k Uk) (h1 : iroot k Uk ≤ S) (h2 : S ≤ iroot k Uk + 1) :
    rrCorrect k Uk sn S W wantW =
      some (iroot k Uk, Uk - iroot k Uk ^ k, if wantW then iroot k Uk ^ (k - 1) else W) := by
  have hpow : ∀ x : Nat, x ^ (k - 1) * x = x ^ k := fun x => by rw [← pow_succ, Nat.sub_add_cancel hk]
  unfold rrCorrect
  rw [pow1_some sn S (k - 1) (by omega)]
  simp only [Option.bind_eq_bind, Option.bind_some, hpow, ← le_iroot_iff hk]
  split
  · rw [show S = iroot k Uk by omega]
  · rw [show S - 1 = iroot k Uk by omega, pow1_some sn _ (k - 1) hlo]
    simp only [Option.bind_some, hpow, ← le_iroot_iff hk, Nat.le_refl, if_true]

/-! ### the schedule `sizes[]` (rootrem.c:215-238), one round on the models, the loop over the schedule -/

/-- relation between consecutive entries `a = sizes[i-1]`, `c = sizes[i]` (rootrem.c:235-236 "sizes[i] <= 2 * sizes[i+1]"
    in the precise form the round needs): strictly decreasing, and either `c ≥ ⌈(a + logk)/2⌉` or one bit at a time. -/
def SchedOK (logk a c : Nat) : Prop := c < a ∧ (a + logk ≤ 2 * c ∨ a = c + 1)

/-- the next entry of the schedule (rootrem.c:228-230). -/
def rrNext (logk b : Nat) : Nat := if (b + logk + 1) / 2 ≥ b then b - 1 else (b + logk + 1) / 2

theorem rrSizes_nil (logk b : Nat) : rrSizes logk 0 b = [] := rfl

theorem rrSizes_zero (logk fuel : Nat) : rrSizes logk (fuel + 1) 0 = [0] := by simp [rrSizes]

theorem rrSizes_succ (logk fuel b : Nat) (hb : b ≠ 0) :
    rrSizes logk (fuel + 1) b = b :: rrSizes logk fuel (rrNext logk b) := by simp [rrSizes, hb, rrNext]

theorem rrNext_ok (logk b : Nat) (hb : b ≠ 0) : SchedOK logk b (rrNext logk b) := by
  unfold SchedOK rrNext; split <;> omega

theorem rrSizes_head_eq (logk fuel b : Nat) : (rrSizes logk (fuel + 1) b).head? = some b := by
  by_cases hb : b = 0
  · subst hb; rw [rrSizes_zero]; rfl
  · rw [rrSizes_succ _ _ _ hb]; rfl

theorem rrSizes_head (logk : Nat) : ∀ (fuel b y : Nat), (rrSizes logk fuel b).head? = some y → y = b
  | 0, b, y, h => by simp [rrSizes_nil] at h
  | fuel + 1, b, y, h => by rw [rrSizes_head_eq] at h; exact (Option.some.inj h).symm

theorem rrSizes_chain (logk : Nat) : ∀ (fuel b : Nat), List.IsChain (SchedOK logk) (rrSizes logk fuel b)
  | 0, b => by simp [rrSizes_nil]
  | fuel + 1, b => by
    by_cases hb : b = 0
    · subst hb; rw [rrSizes_zero]; exact List.isChain_singleton _
    · rw [rrSizes_succ _ _ _ hb, List.isChain_cons]
      refine ⟨fun y hy => ?_, rrSizes_chain logk fuel _⟩
      rw [rrSizes_head logk fuel _ y hy]; exact rrNext_ok logk b hb

theorem rrSizes_le (logk : Nat) : ∀ (fuel b x : Nat), x ∈ rrSizes logk fuel b → x ≤ b
  | 0, b, x, h => by simp [rrSizes_nil] at h
  | fuel + 1, b, x, h => by
    by_cases hb : b = 0
    · subst hb; rw [rrSizes_zero] at h; simp at h; omega
    · rw [rrSizes_succ _ _ _ hb] at h
      rcases List.mem_cons.mp h with h | h
      · omega
      · have := rrSizes_le logk fuel _ x h
        have := (rrNext_ok logk b hb).1
        omega

theorem rrSizes_bridge (logk : Nat) : ∀ (fuel b : Nat), (rrSizes logk fuel b).getLast? = some 0 →
    Root.rrSizes logk fuel b = rrSizes logk fuel b
  | 0, b, h => by simp [rrSizes_nil] at h
  | fuel + 1, b, h => by
    by_cases hb : b = 0
    · subst hb; rw [rrSizes_zero]; simp [Root.rrSizes]
    · have e : Root.rrSizes logk (fuel + 1) b = b :: Root.rrSizes logk fuel (rrNext logk b) := by
        simp [Root.rrSizes, hb, rrNext]
      rw [rrSizes_succ _ _ _ hb] at h ⊢
      rw [e]
      congr 1
      apply rrSizes_bridge
      generalize rrSizes logk fuel (rrNext logk b) = l at *
      cases l with
      | nil => simp at h; omega
      | cons y ys => rw [List.getLast?_cons_cons] at h; exact h

theorem rrSizes_tail (logk : Nat) : ∀ (b fuel : Nat), b ≤ logk + 1 → b + 1 ≤ fuel →
    (rrSizes logk fuel b).length = b + 1 ∧ (rrSizes logk fuel b).getLast? = some 0
  | 0, fuel, _, hf => by
    obtain ⟨f, rfl⟩ : ∃ f, fuel = f + 1 := ⟨fuel - 1, by omega⟩
    simp [rrSizes_zero]
  | b + 1, fuel, hb, hf => by
    obtain ⟨f, rfl⟩ : ∃ f, fuel = f + 1 := ⟨fuel - 1, by omega⟩
    have hn : rrNext logk (b + 1) = b := by unfold rrNext; rw [if_pos (by omega)]; omega
    rw [rrSizes_succ _ _ _ (by omega), hn]
    obtain ⟨i1, i2⟩ := rrSizes_tail logk b f (by omega) (by omega)
    refine ⟨by simp [i1], ?_⟩
    have hne : rrSizes logk f b ≠ [] := by
      intro h0; rw [h0] at i1; simp at i1
    rw [List.getLast?_cons_of_ne_nil hne]; exact i2

/-- length of the schedule: `b − (logk+1)` halves at every step of the first phase, then `logk + 1` single bits. -/
theorem rrSizes_len (logk : Nat) : ∀ (j b fuel : Nat), b < logk + 1 + 2 ^ j → j + logk + 2 ≤ fuel →
    (rrSizes logk fuel b).length ≤ j + logk + 2 ∧ (rrSizes logk fuel b).getLast? = some 0
  | 0, b, fuel, hb, hf => by
    obtain ⟨i1, i2⟩ := rrSizes_tail logk b fuel (by simp at hb; omega) (by simp at hb; omega)
    simp at hb
    exact ⟨by omega, i2⟩
  | j + 1, b, fuel, hb, hf => by
    by_cases hs : b ≤ logk + 1
    · obtain ⟨i1, i2⟩ := rrSizes_tail logk b fuel hs (by omega)
      exact ⟨by omega, i2⟩
    · obtain ⟨f, rfl⟩ : ∃ f, fuel = f + 1 := ⟨fuel - 1, by omega⟩
      have hn : rrNext logk b = (b + logk + 1) / 2 := by unfold rrNext; rw [if_neg (by omega)]
      rw [rrSizes_succ _ _ _ (by omega), hn]
      have h2 : 2 ^ (j + 1) = 2 * 2 ^ j := by rw [pow_succ]; ring
      obtain ⟨i1, i2⟩ := rrSizes_len logk j ((b + logk + 1) / 2) f (by omega) (by omega)
      refine ⟨by simp; omega, ?_⟩
      have hne : rrSizes logk f ((b + logk + 1) / 2) ≠ [] := by
        intro h0; rw [h0] at i2; simp at i2
      rw [List.getLast?_cons_of_ne_nil hne]; exact i2

/-- `logk` of rootrem.c:211-213 for `k ≥ 2`: `2^(logk−1) < k ≤ 2^logk`. -/
theorem logk_spec (k : Nat) (hk : 2 ≤ k) :
    (if bitLen (k - 1) = 0 then 1 else bitLen (k - 1)) = bitLen (k - 1) ∧
    2 ^ (bitLen (k - 1) - 1) < k ∧ k ≤ 2 ^ bitLen (k - 1) ∧ 1 ≤ bitLen (k - 1) := by
  obtain ⟨b1, b2, b3⟩ := bitLen_spec (k - 1) (by omega)
  refine ⟨by rw [if_neg (by omega)], by omega, by omega, b3⟩

/-- `ASSERT_ALWAYS (ni < GMP_NUMB_BITS + 1)` (rootrem.c:234) holds for every operand of at most 2^62 bits: the
    schedule built from `b = xnb − 1` ends in 0 and has at most 65 entries (`ni ≤ 64`). -/
theorem rrSizes_fits (k T : Nat) (hk : 2 ≤ k) (hT : 1 ≤ T) (hsz : T * k < 2 ^ 62) :
    (rrSizes (bitLen (k - 1)) 66 T).length ≤ 65 ∧ (rrSizes (bitLen (k - 1)) 66 T).getLast? = some 0 := by
  obtain ⟨-, l1, l2, l3⟩ := logk_spec k hk
  generalize bitLen (k - 1) = logk at *
  have h1 : T * 2 ^ (logk - 1) < 2 ^ 62 :=
    Nat.lt_of_le_of_lt (Nat.mul_le_mul_left _ (Nat.le_of_lt l1)) hsz
  have hlk : logk - 1 < 62 := by
    have : 2 ^ (logk - 1) < 2 ^ 62 := Nat.lt_of_le_of_lt (Nat.le_mul_of_pos_left _ hT) h1
    exact (Nat.pow_lt_pow_iff_right (by norm_num)).mp this
  have hTlt : T < 2 ^ (63 - logk) := by
    have e : (2 : Nat) ^ 62 = 2 ^ (63 - logk) * 2 ^ (logk - 1) := by
      rw [← pow_add]; congr 1; omega
    rw [e] at h1
    exact Nat.lt_of_mul_lt_mul_right h1
  obtain ⟨i1, i2⟩ := rrSizes_len logk (63 - logk) T 66 (by omega) (by omega)
  exact ⟨by omega, i2⟩

/-- the candidate `C` of one round is the root of `⌊U/2^kk'⌋` or one above and keeps its limb count when decremented
    (mpn_pow_1 needs a normalised base); what the round does next, in both models. -/
theorem rrStep_gen (U k b S kk' next : Nat) (last approx : Bool) (hk : 2 ≤ k) (hb : 1 ≤ b) (hSpos : 0 < S)
    (hS1 : S ^ k ≤ U / 2 ^ (kk' + k * b)) (hS2 : U / 2 ^ (kk' + k * b) < (S + 1) ^ k)
    (hSlt : (S + 1) * 2 ^ b ≤ 2 ^ (next + 1)) (hnext : 2 ^ next ≤ S * 2 ^ b)
    (hc : k * 2 ^ b ≤ S ∨ b = 1) :
    ∃ C W0, iroot k (U / 2 ^ kk') ≤ C ∧ C ≤ iroot k (U / 2 ^ kk') + 1 ∧
      B ^ (limbLen C - 1) ≤ iroot k (U / 2 ^ kk') ∧
      rrStep U k b last approx (S, U / 2 ^ (kk' + k * b) - S ^ k, S ^ (k - 1), kk' + k * b) =
        (if last then
          (if (approx && decide (C % B > 1)) = true then some (C, U / 2 ^ kk', W0, kk', true)
           else (rrCorrect k (U / 2 ^ kk') (limbLen C) C W0 false).map fun (S, R, W) => (S, R, W, kk', false))
         else (rrCorrect k (U / 2 ^ kk') (limbLen C) C W0 true).map fun (S, R, W) => (S, R, W, kk', approx)) ∧
      Root.rrStep U k b last approx (S, U / 2 ^ (kk' + k * b) - S ^ k, S ^ (k - 1), kk' + k * b) =
        (if last then
          (if (approx && decide (C % B > 1)) = true then (C, U / 2 ^ kk', W0, kk', true)
           else (adjustDown k (U / 2 ^ kk') 2 C, U / 2 ^ kk' - adjustDown k (U / 2 ^ kk') 2 C ^ k, W0, kk', false))
         else (adjustDown k (U / 2 ^ kk') 2 C, U / 2 ^ kk' - adjustDown k (U / 2 ^ kk') 2 C ^ k,
            adjustDown k (U / 2 ^ kk') 2 C ^ (k - 1), kk', approx)) := by
  have hk1 : k - 1 + 1 = k := by omega
  have hkb : k * b = (k - 1) * b + b := by
    conv_lhs => rw [← hk1]
    ring
  have e1 : kk' + k * b - b = kk' + (k - 1) * b := by omega
  have e2 : kk' + (k - 1) * b - (k - 1) * b = kk' := by omega
  obtain ⟨β, hβ⟩ : ∃ β, β = 2 ^ b := ⟨_, rfl⟩
  have hβ1 : 1 ≤ β := by rw [hβ]; exact Nat.one_le_two_pow
  obtain ⟨U', hU'⟩ : ∃ U', U' = U / 2 ^ kk' := ⟨_, rfl⟩
  have d1 : U / 2 ^ (kk' + (k - 1) * b) = U' / β ^ (k - 1) := by
    rw [hU', hβ, Nat.div_div_eq_div_mul, ← pow_mul, ← pow_add, Nat.mul_comm b]
  have d2 : U / 2 ^ (kk' + k * b) = U' / β ^ k := by
    rw [hU', hβ, Nat.div_div_eq_div_mul, ← pow_mul, ← pow_add, Nat.mul_comm b]
  have d3 : U' / β ^ k = U' / β ^ (k - 1) / β := by
    rw [Nat.div_div_eq_div_mul, ← pow_succ, hk1]
  rw [d2] at hS1 hS2
  have hβk : 0 < β ^ k := pow_pos (by omega) _
  have h1 : S ^ k * β ^ k ≤ U' := Nat.le_trans (Nat.mul_le_mul_right _ hS1) (Nat.div_mul_le_self _ _)
  have h2 : U' < (S + 1) ^ k * β ^ k := by
    have := Nat.lt_mul_div_succ U' hβk
    calc U' < β ^ k * (U' / β ^ k + 1) := this
      _ ≤ β ^ k * (S + 1) ^ k := Nat.mul_le_mul_left _ hS2
      _ = (S + 1) ^ k * β ^ k := Nat.mul_comm _ _
  have hc' : k * β ≤ S ∨ β = 2 := by
    rcases hc with h | h
    · left; rw [hβ]; exact h
    · right; rw [hβ, h]; rfl
  obtain ⟨n1, n2, n3, n4, n5⟩ := newton_round k S β U' hk hSpos hβ1 h1 h2 hc'
  unfold rrStep Root.rrStep
  dsimp only
  simp only [Nat.shiftRight_eq_div_pow]
  rw [e1, e2, d1, d2, ← hβ, ← hU']
  have hR1 : (U' / β ^ k - S ^ k) * β + U' / β ^ (k - 1) % β = U' / β ^ (k - 1) - S ^ k * β := by
    rw [d3] at hS1 ⊢
    have := Nat.div_add_mod (U' / β ^ (k - 1)) β
    rw [Nat.sub_mul]
    have : S ^ k * β ≤ U' / β ^ (k - 1) / β * β := Nat.mul_le_mul_right _ hS1
    have e : β * (U' / β ^ (k - 1) / β) = U' / β ^ (k - 1) / β * β := Nat.mul_comm _ _
    omega
  rw [hR1, Nat.mul_comm (S ^ (k - 1)) k]
  generalize hQ : (if (U' / β ^ (k - 1) - S ^ k * β) / (k * S ^ (k - 1)) ≥ β then β - 1
      else (U' / β ^ (k - 1) - S ^ k * β) / (k * S ^ (k - 1))) = Q at n1 n2 n5
  have hS1lt : S * β + Q < 2 ^ (next + 1) := by
    have : (S + 1) * β = S * β + β := by ring
    rw [← hβ] at hSlt; omega
  have hlo : B ^ (limbLen (S * β + Q) - 1) ≤ iroot k U' := by
    have hl : limbLen (S * β + Q) ≤ next / 64 + 1 := by
      rw [limbLen_isSize _ _]
      refine Nat.lt_of_lt_of_le hS1lt ?_
      unfold B; rw [← pow_mul]
      exact Nat.pow_le_pow_right (by norm_num) (by omega)
    calc B ^ (limbLen (S * β + Q) - 1) ≤ B ^ (next / 64) := Nat.pow_le_pow_right B_pos (by omega)
      _ = 2 ^ (64 * (next / 64)) := by unfold B; rw [← pow_mul]
      _ ≤ 2 ^ next := Nat.pow_le_pow_right (by norm_num) (by omega)
      _ ≤ S * β := by rw [hβ]; exact hnext
      _ ≤ iroot k U' := n3
  refine ⟨S * β + Q, k * S ^ (k - 1), n1, n2, hlo, ?_, ?_⟩
  · cases last <;> simp
  · cases last
    · simp
    · simp only [if_true]
      by_cases ha : (approx && decide ((S * β + Q) % B > 1)) = true
      · rw [if_pos ha, if_pos ha, ha]
      · rw [if_neg ha, if_neg ha, Bool.not_eq_true _ |>.mp ha]

theorem rrStep_spec_mid (U k b S kk' next : Nat) (approx : Bool) (hk : 2 ≤ k) (hb : 1 ≤ b) (hSpos : 0 < S)
    (hS1 : S ^ k ≤ U / 2 ^ (kk' + k * b)) (hS2 : U / 2 ^ (kk' + k * b) < (S + 1) ^ k)
    (hSlt : (S + 1) * 2 ^ b ≤ 2 ^ (next + 1)) (hnext : 2 ^ next ≤ S * 2 ^ b)
    (hc : k * 2 ^ b ≤ S ∨ b = 1) :
    rrStep U k b false approx (S, U / 2 ^ (kk' + k * b) - S ^ k, S ^ (k - 1), kk' + k * b) =
      some (iroot k (U / 2 ^ kk'), U / 2 ^ kk' - iroot k (U / 2 ^ kk') ^ k, iroot k (U / 2 ^ kk') ^ (k - 1), kk', approx) ∧
    Root.rrStep U k b false approx (S, U / 2 ^ (kk' + k * b) - S ^ k, S ^ (k - 1), kk' + k * b) =
      (iroot k (U / 2 ^ kk'), U / 2 ^ kk' - iroot k (U / 2 ^ kk') ^ k, iroot k (U / 2 ^ kk') ^ (k - 1), kk', approx) := by
  obtain ⟨C, W0, c1, c2, c3, e, e'⟩ := rrStep_gen U k b S kk' next false approx hk hb hSpos hS1 hS2 hSlt hnext hc
  rw [e, e', rrCorrect_spec k _ _ _ _ true (by omega) c3 c1 c2, adjustDown_spec k _ (by omega) 2 C c1 (by omega)]
  simp

/-- what mpn_rootrem_internal returns as `(root, R, approx still on)`: the exact root and remainder, or — `approx` on
    and the low limb of the candidate above 1 — the candidate itself (root or root + 1) with `R = U` (rootrem.c:385-386). -/
def RrPost (U k : Nat) (approx : Bool) (r : Nat × Nat × Bool) : Prop :=
  (r.2.2 = false → r.1 = iroot k U ∧ r.2.1 = U - iroot k U ^ k) ∧
  (r.2.2 = true → approx = true ∧ iroot k U ≤ r.1 ∧ r.1 ≤ iroot k U + 1 ∧ 1 < r.1 % B ∧ r.2.1 = U)

theorem RrPost.exact {U k : Nat} {r : Nat × Nat × Bool} (h : RrPost U k false r) :
    r = (iroot k U, U - iroot k U ^ k, false) := by
  obtain ⟨S, R, ap⟩ := r
  cases ap with
  | true => exact absurd (h.2 rfl).1 (by simp)
  | false => obtain ⟨rfl, rfl⟩ := h.1 rfl; rfl

theorem rrStep_spec_last (U k b S kk' next : Nat) (approx : Bool) (hk : 2 ≤ k) (hb : 1 ≤ b) (hSpos : 0 < S)
    (hS1 : S ^ k ≤ U / 2 ^ (kk' + k * b)) (hS2 : U / 2 ^ (kk' + k * b) < (S + 1) ^ k)
    (hSlt : (S + 1) * 2 ^ b ≤ 2 ^ (next + 1)) (hnext : 2 ^ next ≤ S * 2 ^ b)
    (hc : k * 2 ^ b ≤ S ∨ b = 1) :
    ∃ S' R' W' ap, rrStep U k b true approx (S, U / 2 ^ (kk' + k * b) - S ^ k, S ^ (k - 1), kk' + k * b) =
        some (S', R', W', kk', ap) ∧
      Root.rrStep U k b true approx (S, U / 2 ^ (kk' + k * b) - S ^ k, S ^ (k - 1), kk' + k * b) = (S', R', W', kk', ap) ∧
      RrPost (U / 2 ^ kk') k approx (S', R', ap) := by
  obtain ⟨C, W0, c1, c2, c3, e, e'⟩ := rrStep_gen U k b S kk' next true approx hk hb hSpos hS1 hS2 hSlt hnext hc
  rw [e, e']
  simp only [if_true]
  by_cases ha : (approx && decide (C % B > 1)) = true
  · rw [if_pos ha, if_pos ha]
    simp only [Bool.and_eq_true, decide_eq_true_eq] at ha
    exact ⟨C, _, W0, true, rfl, rfl, And.intro (by simp) fun _ => ⟨ha.1, c1, c2, ha.2, rfl⟩⟩
  · rw [if_neg ha, if_neg ha, rrCorrect_spec k _ _ _ _ false (by omega) c3 c1 c2,
      adjustDown_spec k _ (by omega) 2 C c1 (by omega)]
    exact ⟨_, _, _, false, rfl, rfl, And.intro (fun _ => ⟨rfl, rfl⟩) (by simp)⟩

theorem iroot_trunc_bits (U k T h : Nat) (hk : 0 < k) (hh : h ≤ T) (hU1 : 2 ^ (k * T) ≤ U) (hU2 : U < 2 ^ (k * (T + 1))) :
    2 ^ h ≤ iroot k (U / 2 ^ (k * (T - h))) ∧ iroot k (U / 2 ^ (k * (T - h))) < 2 ^ (h + 1) := by
  have hpos : 0 < 2 ^ (k * (T - h)) := Nat.two_pow_pos _
  rw [le_iroot_iff hk, iroot_lt_iff hk, ← pow_mul, ← pow_mul, Nat.le_div_iff_mul_le hpos, Nat.div_lt_iff_lt_mul hpos,
    ← pow_add, ← pow_add, Nat.mul_comm h k, Nat.mul_comm (h + 1) k, ← Nat.mul_add, ← Nat.mul_add]
  exact ⟨Nat.le_trans (Nat.pow_le_pow_right (by norm_num) (Nat.mul_le_mul_left _ (by omega))) hU1,
    Nat.lt_of_lt_of_le hU2 (Nat.pow_le_pow_right (by norm_num) (Nat.mul_le_mul_left _ (by omega)))⟩

/-- the loop invariant of rootrem.c:244-250 at schedule entry `h` (`T = sizes[0]`). -/
def rrInv (U k T h : Nat) : Nat × Nat × Nat × Nat :=
  (iroot k (U / 2 ^ (k * (T - h))), U / 2 ^ (k * (T - h)) - iroot k (U / 2 ^ (k * (T - h))) ^ k,
    iroot k (U / 2 ^ (k * (T - h))) ^ (k - 1), k * (T - h))

/-- one link `hi < lo` of the schedule: the invariant at `hi` is the state one round needs, with every side condition of
    `rrStep_gen` (`b = lo − hi`, `kk' = k·(T − lo)`). -/
theorem sched_link (U k T logk hi lo : Nat) (hk : 2 ≤ k) (hlk : k ≤ 2 ^ logk)
    (hU1 : 2 ^ (k * T) ≤ U) (hU2 : U < 2 ^ (k * (T + 1))) (h : SchedOK logk lo hi) (hloT : lo ≤ T) :
    ∃ S, rrInv U k T hi = (S, U / 2 ^ (k * (T - lo) + k * (lo - hi)) - S ^ k, S ^ (k - 1), k * (T - lo) + k * (lo - hi)) ∧
      0 < S ∧ S ^ k ≤ U / 2 ^ (k * (T - lo) + k * (lo - hi)) ∧ U / 2 ^ (k * (T - lo) + k * (lo - hi)) < (S + 1) ^ k ∧
      (S + 1) * 2 ^ (lo - hi) ≤ 2 ^ (lo + 1) ∧ 2 ^ lo ≤ S * 2 ^ (lo - hi) ∧ (k * 2 ^ (lo - hi) ≤ S ∨ lo - hi = 1) := by
  obtain ⟨hlt, hcond⟩ := h
  obtain ⟨s1, s2⟩ := iroot_trunc_bits U k T hi (by omega) (by omega) hU1 hU2
  obtain ⟨r1, r2⟩ := iroot_spec k (U / 2 ^ (k * (T - hi))) (by omega)
  have ekk : k * (T - hi) = k * (T - lo) + k * (lo - hi) := by rw [← Nat.mul_add]; congr 1; omega
  have hbpow : 2 ^ (hi + 1) * 2 ^ (lo - hi) = 2 ^ (lo + 1) := by rw [← pow_add]; congr 1; omega
  have hbpow2 : 2 ^ hi * 2 ^ (lo - hi) = 2 ^ lo := by rw [← pow_add]; congr 1; omega
  unfold rrInv
  generalize iroot k (U / 2 ^ (k * (T - hi))) = S at *
  rw [ekk] at r1 r2 ⊢
  refine ⟨S, rfl, by omega, r1, r2, by rw [← hbpow]; exact Nat.mul_le_mul_right _ (by omega),
    by rw [← hbpow2]; exact Nat.mul_le_mul_right _ s1, ?_⟩
  rcases hcond with h | h
  · left
    calc k * 2 ^ (lo - hi) ≤ 2 ^ logk * 2 ^ (lo - hi) := Nat.mul_le_mul_right _ hlk
      _ = 2 ^ (logk + (lo - hi)) := by rw [← pow_add]
      _ ≤ 2 ^ hi := Nat.pow_le_pow_right (by norm_num) (by omega)
      _ ≤ S := s1
  · right; omega

theorem rrLoop_spec (U k T logk : Nat) (approx : Bool) (hk : 2 ≤ k) (hlk : k ≤ 2 ^ logk)
    (hU1 : 2 ^ (k * T) ≤ U) (hU2 : U < 2 ^ (k * (T + 1))) :
    ∀ (rest : List Nat) (hi lo : Nat),
      List.IsChain (fun c a => SchedOK logk a c) (hi :: lo :: rest) →
      (∀ x ∈ hi :: lo :: rest, x ≤ T) → (hi :: lo :: rest).getLast? = some T →
      ∃ r, rrLoop U k approx (hi :: lo :: rest) (rrInv U k T hi) = some r ∧
        Root.rrLoop U k approx (hi :: lo :: rest) (rrInv U k T hi) = r ∧ RrPost U k approx r := by
  intro rest
  induction rest with
  | nil =>
    intro hi lo hch hle hlast
    obtain rfl : lo = T := by simpa using hlast
    rw [List.isChain_cons_cons] at hch
    obtain ⟨S, eI, hS0, r1, r2, hSlt, hnext, hc⟩ := sched_link U k lo logk hi lo hk hlk hU1 hU2 hch.1 (Nat.le_refl _)
    obtain ⟨S', R', W', ap, e, e', P⟩ := rrStep_spec_last U k (lo - hi) S (k * (lo - lo)) lo approx hk
      (Nat.sub_pos_of_lt hch.1.1)
      hS0 r1 r2 hSlt hnext hc
    simp only [Nat.sub_self, Nat.mul_zero, pow_zero, Nat.div_one] at e e' P
    refine ⟨(S', R', ap), ?_, ?_, P⟩
    · rw [eI, rrLoop]
      simp only [List.isEmpty_nil, Nat.sub_self, Nat.mul_zero]
      rw [e]
      simp
    · rw [eI, Root.rrLoop]
      simp only [List.isEmpty_nil, Nat.sub_self, Nat.mul_zero]
      rw [e']
      simp
  | cons nx rest' ih =>
    intro hi lo hch hle hlast
    rw [List.isChain_cons_cons] at hch
    obtain ⟨S, eI, hS0, r1, r2, hSlt, hnext, hc⟩ := sched_link U k T logk hi lo hk hlk hU1 hU2 hch.1 (hle lo (by simp))
    have step := rrStep_spec_mid U k (lo - hi) S (k * (T - lo)) lo approx hk (Nat.sub_pos_of_lt hch.1.1) hS0 r1 r2 hSlt hnext hc
    obtain ⟨r, e, e', P⟩ := ih lo nx hch.2 (fun x hx => hle x (List.mem_cons_of_mem _ hx))
      (by rw [List.getLast?_cons_cons] at hlast; exact hlast)
    refine ⟨r, ?_, ?_, P⟩
    · rw [eI, rrLoop]
      simp only [List.isEmpty_cons]
      rw [step.1]
      simpa [rrInv] using e
    · rw [eI, Root.rrLoop]
      simp only [List.isEmpty_cons]
      rw [step.2]
      simpa [rrInv] using e'

/-! ### mpn_rootrem_internal as a whole; the dispatcher mpn_rootrem (rootrem.c:78-132) -/

theorem bitLen_le_of_lt (a n : Nat) (h : a < 2 ^ n) : bitLen a ≤ n := (bitCount_le_iff a n).mpr h

theorem bitLen_mono {a b : Nat} (h : a ≤ b) : bitLen a ≤ bitLen b :=
  bitLen_le_of_lt a _ (Nat.lt_of_le_of_lt h ((bitCount_le_iff b _).mp (Nat.le_refl _)))

theorem root_window (U k : Nat) (hU : 0 < U) (hk : 0 < k) :
    2 ^ (k * ((bitLen U - 1) / k)) ≤ U ∧ U < 2 ^ (k * ((bitLen U - 1) / k + 1)) := by
  obtain ⟨b1, b2, b3⟩ := bitLen_spec U hU
  constructor
  · exact Nat.le_trans (Nat.pow_le_pow_right (by norm_num) (Nat.mul_div_le _ _)) b1
  · refine Nat.lt_of_lt_of_le b2 (Nat.pow_le_pow_right (by norm_num) ?_)
    have := Nat.lt_mul_div_succ (bitLen U - 1) hk
    omega

theorem rootremInternal_ok (U k : Nat) (approx : Bool) (hU : 0 < U) (hk : 2 ≤ k) (hsz : bitLen U ≤ 2 ^ 62) :
    ∃ r, rootremInternal U k approx = some r ∧ Root.rootremInternal U k approx = r ∧ RrPost U k approx r := by
  obtain ⟨w1, w2⟩ := root_window U k hU (by omega)
  obtain ⟨l0, l1, l2, l3⟩ := logk_spec k hk
  unfold rootremInternal Root.rootremInternal
  dsimp only
  rw [l0]
  generalize hT : (bitLen U - 1) / k = T at *
  by_cases hx : T + 1 = 1
  · rw [if_pos hx, if_pos hx]
    have hT0 : T = 0 := by omega
    subst hT0
    obtain ⟨s1, s2⟩ := iroot_trunc_bits U k 0 0 (by omega) (by omega) w1 w2
    simp only [Nat.sub_self, Nat.mul_zero, pow_zero, Nat.div_one, Nat.zero_add, pow_one] at s1 s2
    have : iroot k U = 1 := by omega
    exact ⟨(1, U - 1, false), rfl, rfl, fun _ => by rw [this]; simp, by simp⟩
  · rw [if_neg hx, if_neg hx]
    have hT1 : 1 ≤ T := by omega
    have hTk : T * k < 2 ^ 62 := by
      have := Nat.div_mul_le_self (bitLen U - 1) k
      rw [hT] at this
      have := (bitLen_spec U hU).2.2
      omega
    have e1 : T + 1 - 1 = T := by omega
    rw [e1]
    obtain ⟨f1, f2⟩ := rrSizes_fits k T hk hT1 hTk
    rw [rrSizes_bridge _ 66 T f2]
    have hhead := rrSizes_head_eq (bitLen (k - 1)) 65 T
    have hchain := rrSizes_chain (bitLen (k - 1)) 66 T
    have hle := rrSizes_le (bitLen (k - 1)) 66 T
    generalize rrSizes (bitLen (k - 1)) 66 T = sizes at *
    rw [if_neg (by rw [f2]; simp; omega)]
    -- the state before the first round is the invariant at entry 0
    obtain ⟨s1, s2⟩ := iroot_trunc_bits U k T 0 (by omega) (by omega) w1 w2
    simp only [pow_zero, Nat.zero_add, pow_one] at s1 s2
    have h1 : iroot k (U / 2 ^ (k * (T - 0))) = 1 := by omega
    have hst : rrInv U k T 0 = (1, (U >>> (k * T)) - 1, 1, k * T) := by
      unfold rrInv
      rw [h1]
      simp [Nat.shiftRight_eq_div_pow]
    rw [← hst]
    -- shape of the reversed schedule
    have hrl : sizes.reverse.getLast? = some T := by rw [List.getLast?_reverse]; exact hhead
    have hrh : sizes.reverse.head? = some 0 := by rw [List.head?_reverse]; exact f2
    have hrc : List.IsChain (fun c a => SchedOK (bitLen (k - 1)) a c) sizes.reverse :=
      List.isChain_reverse.mpr hchain
    have hrle : ∀ x ∈ sizes.reverse, x ≤ T := fun x hx => hle x (List.mem_reverse.mp hx)
    generalize sizes.reverse = rs at *
    match rs, hrl, hrh, hrc, hrle with
    | [], hrl, _, _, _ => simp at hrl
    | [x], hrl, hrh, _, _ =>
      simp at hrl hrh; omega
    | hi :: lo :: rest, hrl, hrh, hrc, hrle =>
      have : hi = 0 := by simpa using hrh
      subst this
      exact rrLoop_spec U k T (bitLen (k - 1)) approx hk l2 w1 w2 rest 0 lo hrc hrle hrl

theorem rootremInternal_exact (U k : Nat) (hU : 0 < U) (hk : 2 ≤ k) (hsz : bitLen U ≤ 2 ^ 62) :
    rootremInternal U k false = some (iroot k U, U - iroot k U ^ k, false) ∧
    Root.rootremInternal U k false = (iroot k U, U - iroot k U ^ k, false) := by
  obtain ⟨r, e, e', P⟩ := rootremInternal_ok U k false hU hk hsz
  rw [e, e', P.exact]
  exact ⟨rfl, rfl⟩

/-- the root of the operand padded with `k` zero limbs determines the root: `⌊(U·B^k)^(1/k)⌋ / B = ⌊U^(1/k)⌋`. -/
theorem iroot_padded (U k : Nat) (hk : 0 < k) : iroot k (U * B ^ k) / B = iroot k U := by
  rw [← iroot_div_pow _ hk B_pos, Nat.mul_div_cancel _ (pow_pos B_pos k)]

theorem padded_exact_iff (U k : Nat) (hk : 0 < k) :
    iroot k (U * B ^ k) ^ k = U * B ^ k ↔ iroot k U ^ k = U := by
  constructor
  · intro h
    have hd : B ∣ iroot k (U * B ^ k) := by
      rw [← Nat.pow_dvd_pow_iff (Nat.ne_of_gt hk), h]; exact Nat.dvd_mul_left _ _
    obtain ⟨t, ht⟩ := hd
    rw [ht, Nat.mul_pow, Nat.mul_comm] at h
    have hU : t ^ k = U := Nat.eq_of_mul_eq_mul_right (pow_pos B_pos _) h
    rw [← hU, iroot_pow t k hk]
  · intro h
    have e : (iroot k U * B) ^ k = U * B ^ k := by rw [Nat.mul_pow, h]
    rw [← e, iroot_pow _ k hk]

theorem rootrem_ok (U k : Nat) (w : Bool) (hU : 0 < U) (hk : 2 ≤ k) (hkB : k < B) (hsz : bitLen U ≤ 2 ^ 61) :
    ∃ R, rootrem U k w = some (iroot k U, R) ∧ Root.rootrem U (limbLen U) k w = (iroot k U, R) ∧ (w = true → R = U - iroot k U ^ k) ∧
      (R = 0 ↔ iroot k U ^ k = U) := by
  have hk0 : 0 < k := by omega
  obtain ⟨r1, r2⟩ := iroot_spec k U hk0
  unfold rootrem Root.rootrem
  dsimp only
  by_cases h1 : limbLen U < rootremThreshold
  · rw [if_pos h1, if_pos h1]
    have hb := bitLen_of_threshold h1
    exact ⟨_, (rootremBasecase_ok U k hU hk hkB hb).1, (rootremBasecase_ok U k hU hk hkB hb).2, fun _ => rfl, by omega⟩
  · rw [if_neg h1, if_neg h1]
    by_cases h2 : (!w && decide (limbLen U / k > 2)) = true
    · rw [if_pos h2, if_pos h2]
      simp only [Bool.and_eq_true, Bool.not_eq_true', decide_eq_true_eq] at h2
      obtain ⟨hw, hq⟩ := h2
      subst hw
      -- size of the padded operand
      have h3k : 3 * k ≤ limbLen U := by
        have := (Nat.le_div_iff_mul_le hk0).mp hq
        omega
      have hpadsz : bitLen (U * B ^ k) ≤ 2 ^ 62 := by
        have hlt : U * B ^ k < 2 ^ (bitLen U + 64 * k) := by
          rw [pow_add]
          have : B ^ k = 2 ^ (64 * k) := by unfold B; rw [← pow_mul]
          rw [this]
          exact Nat.mul_lt_mul_of_pos_right (bitLen_spec U hU).2.1 (Nat.two_pow_pos _)
        have := bitLen_le_of_lt _ _ hlt
        unfold limbLen at h3k
        omega
      obtain ⟨⟨S, R, ap⟩, e, e', p1, p2⟩ := rootremInternal_ok (U * B ^ k) k true
        (Nat.mul_pos hU (pow_pos B_pos _)) hk hpadsz
      simp only at p1 p2
      have hq := iroot_padded U k hk0
      rw [e, e']
      simp only [Option.map_some]
      cases ap with
      | false =>
        obtain ⟨pS, pR⟩ := p1 rfl
        have hdiv : S / B = iroot k U := by rw [pS, hq]
        refine ⟨R, by rw [hdiv], by rw [hdiv], by simp, ?_⟩
        have hle := (iroot_spec k (U * B ^ k) hk0).1
        rw [← padded_exact_iff U k hk0, pR]
        omega
      | true =>
        obtain ⟨-, a1, a2, a3, a4⟩ := p2 rfl
        have hdiv : S / B = iroot k U := by
          rw [← hq]
          generalize iroot k (U * B ^ k) = r at a1 a2 ⊢
          rw [B_eq] at a3 ⊢; omega
        refine ⟨R, by rw [hdiv], by rw [hdiv], by simp, ?_⟩
        have hRpos : 0 < R := by rw [a4]; exact Nat.mul_pos hU (pow_pos B_pos _)
        constructor
        · intro h; omega
        · intro h
          exfalso
          have e : (iroot k U * B) ^ k = U * B ^ k := by rw [Nat.mul_pow, h]
          have hs : iroot k U * B = iroot k (U * B ^ k) := by rw [← e, iroot_pow _ k hk0]
          have hB2 : 2 ≤ B := by unfold B; norm_num
          rcases Nat.lt_or_ge (iroot k (U * B ^ k)) S with hlt | hge
          · have : S = iroot k U * B + 1 := by omega
            rw [this, Nat.mul_add_mod_self_right, Nat.mod_eq_of_lt (by omega)] at a3
            omega
          · have : S = iroot k U * B := by omega
            rw [this, Nat.mul_mod_left] at a3
            omega
    · rw [if_neg h2, if_neg h2]
      obtain ⟨e, e'⟩ := rootremInternal_exact U k hU hk (by omega)
      rw [e, e']
      exact ⟨U - iroot k U ^ k, rfl, rfl, fun _ => rfl, by omega⟩

end Mpir.Rootrem
