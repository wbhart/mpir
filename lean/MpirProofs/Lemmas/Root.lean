/- The residue filters of mpn_perfect_square_p, then square roots (the notion `SqrtRem`, the normalising wrapper under the
   contract `DcSpec`, mpn_sqrtrem1, mpn_sqrtrem2, mpn_dc_sqrtrem, mpn_sqrtrem as a whole), then the perfect-square test and
   the mpz layer; all about Mpir/Model/Root.lean.  n-th roots: Lemmas/Iroot.lean and Lemmas/Rootrem*.lean. -/
import MpirProofs.Lemmas.Kernels
import MpirProofs.Lemmas.Iroot
import Mathlib.Tactic.Ring
import Mathlib.Tactic.Linarith
import Mathlib.Tactic.NormNum
import Mathlib.Data.Nat.ModEq
import Mathlib.Data.Nat.Sqrt
import Mathlib.Tactic.LinearCombination
namespace Mpir.Root
open Mpir Mpir.Gen.SqrtTabs

/-! ### mpn_perfect_square_p: the mod-256 probe and PERFSQR_MOD_1 / PERFSQR_MOD_2 (gmp-impl.h) -/

/-- kernel-checked fact about the regenerated `sq_res_0x100`: every square residue has its bit set. -/
theorem sqRes256_table : ∀ j < 256, sqRes256 (j * j % 256) = true := by decide +kernel

theorem sqRes256_mod (lo : Nat) : sqRes256 lo = sqRes256 (lo % 256) := by
  simp [sqRes256]

theorem sqRes256_sq (k : Nat) : sqRes256 (k * k % B) = true := by
  rw [sqRes256_mod]
  have h : k * k % B % 256 = (k % 256) * (k % 256) % 256 := by
    rw [Nat.mod_mod_of_dvd _ (by unfold B; norm_num : 256 ∣ B), Nat.mul_mod]
  rw [h]
  exact sqRes256_table _ (Nat.mod_lt _ (by norm_num))

/-- what a regenerated test entry must satisfy (decidable; checked by the kernel on the whole table):
    `d` divides `2^48 - 1`, `inv·d ≡ 1 (mod 2^49)`, the product `q·d` cannot wrap, and for every square
    residue `j² mod d` the bit at the index the modexact step produces is set. -/
def testOK (t : ModTest) : Bool :=
  decide (0 < t.d) && decide ((2 ^ mod34Bits - 1) % t.d = 0) && decide (t.inv * t.d % 2 ^ perfsqrModBits = 1)
    && decide (t.d * 2 ^ perfsqrModBits ≤ B)
    && (List.range t.d).all fun j => (List.range t.d).all fun i =>
        !decide ((i * 2 ^ perfsqrModBits + j * j) % t.d = 0) || perfsqrBit t i

theorem perfsqrTests_ok : perfsqrTests.all testOK = true := by decide +kernel

theorem bits_facts : perfsqrModBits ≤ 63 ∧ mod34Bits + 1 = perfsqrModBits ∧ mod34Bits = 48 := by decide

theorem and_mask (x k : Nat) (hk : k ≤ 63) : x % B &&& ((1 <<< k) % B - 1) = x % 2 ^ k := by
  have h1 : (1 <<< k) % B = 2 ^ k := by
    rw [Nat.one_shiftLeft]
    apply Nat.mod_eq_of_lt
    unfold B
    exact Nat.pow_lt_pow_right (by norm_num) (by omega)
  rw [h1, Nat.and_two_pow_sub_one_eq_mod]
  exact Nat.mod_mod_of_dvd _ (by unfold B; exact Nat.pow_dvd_pow 2 (by omega))

theorem perfsqrIdx_spec (t : ModTest) (r : Nat) (hd : 0 < t.d)
    (hinv : t.inv * t.d % 2 ^ perfsqrModBits = 1) (hw : t.d * 2 ^ perfsqrModBits ≤ B)
    (hr : r < 2 ^ perfsqrModBits) :
    perfsqrIdx t r < t.d ∧ (perfsqrIdx t r * 2 ^ perfsqrModBits + r) % t.d = 0 := by
  unfold perfsqrIdx
  dsimp only
  rw [and_mask _ _ bits_facts.1]
  generalize perfsqrModBits = m at *
  generalize hq : r * t.inv % 2 ^ m = q
  have hqlt : q * t.d < 2 ^ m * t.d := by
    rw [← hq]; exact Nat.mul_lt_mul_of_pos_right (Nat.mod_lt _ (Nat.two_pow_pos m)) hd
  rw [Nat.mod_eq_of_lt (Nat.lt_of_lt_of_le hqlt (Nat.mul_comm _ _ ▸ hw)), Nat.shiftRight_eq_div_pow]
  -- `q·d ≡ r·inv·d ≡ r (mod 2^m)`, so `q·d = idx·2^m + r`
  have hlow : q * t.d % 2 ^ m = r := by
    rw [← hq, Nat.mod_mul_mod, Nat.mul_assoc, Nat.mul_mod, hinv, Nat.mul_one, Nat.mod_mod, Nat.mod_eq_of_lt hr]
  have hdiv := Nat.div_add_mod' (q * t.d) (2 ^ m)
  rw [hlow] at hdiv
  exact ⟨Nat.div_lt_of_lt_mul hqlt, by rw [hdiv]; exact Nat.mul_mod_left _ _⟩

theorem perfsqrTest_sq (t : ModTest) (ht : testOK t = true) (k r : Nat) (hr : r < 2 ^ perfsqrModBits)
    (hmod : r % (2 ^ mod34Bits - 1) = k * k % (2 ^ mod34Bits - 1)) : perfsqrTest t r = true := by
  simp only [testOK, Bool.and_eq_true, decide_eq_true_eq, List.all_eq_true, List.mem_range,
    Bool.or_eq_true, Bool.not_eq_true', decide_eq_false_iff_not] at ht
  obtain ⟨⟨⟨⟨hd, hdvd⟩, hinv⟩, hw⟩, htab⟩ := ht
  obtain ⟨hlt, hz⟩ := perfsqrIdx_spec t r hd hinv hw hr
  have hrd : r % t.d = k * k % t.d := by
    have h1 := Nat.mod_mod_of_dvd r (Nat.dvd_of_mod_eq_zero hdvd)
    have h2 := Nat.mod_mod_of_dvd (k * k) (Nat.dvd_of_mod_eq_zero hdvd)
    rw [← h1, ← h2, hmod]
  have hz' : (perfsqrIdx t r * 2 ^ perfsqrModBits + (k % t.d) * (k % t.d)) % t.d = 0 := by
    rw [Nat.add_mod, ← Nat.mul_mod, ← hrd, ← Nat.add_mod]; exact hz
  rcases htab (k % t.d) (Nat.mod_lt _ hd) _ hlt with h | h
  · exact absurd hz' h
  · exact h

/-! ### mpn_mod_34lsub1 (mod_34lsub1.c) and PERFSQR_MOD_34 -/

theorem parts0_congr (x : Nat) : m34Parts0 x % (2 ^ 48 - 1) = x % (2 ^ 48 - 1) := by
  unfold m34Parts0
  rw [Nat.and_two_pow_sub_one_eq_mod, Nat.shiftRight_eq_div_pow]
  norm_num
  omega

theorem parts1_congr (x : Nat) : m34Parts1 x % (2 ^ 48 - 1) = (x * 2 ^ 64) % (2 ^ 48 - 1) := by
  unfold m34Parts1
  rw [Nat.and_two_pow_sub_one_eq_mod, Nat.shiftRight_eq_div_pow, Nat.shiftLeft_eq]
  norm_num
  omega

theorem parts2_congr (x : Nat) : m34Parts2 x % (2 ^ 48 - 1) = (x * 2 ^ 128) % (2 ^ 48 - 1) := by
  unfold m34Parts2
  rw [Nat.and_two_pow_sub_one_eq_mod, Nat.shiftRight_eq_div_pow, Nat.shiftLeft_eq]
  norm_num
  omega

theorem parts_bound (x : Nat) (hx : x < B) : m34Parts0 x < 2 ^ 49 ∧ m34Parts1 x < 2 ^ 49 ∧ m34Parts2 x < 2 ^ 49 := by
  unfold m34Parts0 m34Parts1 m34Parts2
  simp only [Nat.and_two_pow_sub_one_eq_mod, Nat.shiftRight_eq_div_pow, Nat.shiftLeft_eq, B_eq] at *
  norm_num
  omega

/-- ADD (c, a, val): exact two-limb accumulation while the carry counter cannot wrap (`n` further additions fit). -/
theorem m34Add_spec (a c v n : Nat) (ha : a < B) (hv : v < B) (hc : c + (n + 1) < B) :
    (m34Add a c v).1 + B * (m34Add a c v).2 = a + B * c + v ∧ (m34Add a c v).1 < B ∧
    (m34Add a c v).2 + n < B := by
  unfold m34Add boolToNat
  rw [B_eq] at *
  by_cases h : (a + v) % 18446744073709551616 < v <;>
    simp only [h, decide_true, decide_false, if_true, Bool.false_eq_true, if_false] <;> omega

def M34.acc (st : M34) : Nat :=
  (st.a0 + B * st.c0) + B * (st.a1 + B * st.c1) + B ^ 2 * (st.a2 + B * st.c2)

/-- the accumulators are limbs and each carry counter can take `n` more carries. -/
def M34.ok (st : M34) (n : Nat) : Prop :=
  st.a0 < B ∧ st.a1 < B ∧ st.a2 < B ∧ st.c0 + n < B ∧ st.c1 + n < B ∧ st.c2 + n < B

theorem B3_modEq : B ^ 3 ≡ 1 [MOD B ^ 3 - 1] :=
  Nat.modEq_sub (Nat.one_le_pow _ _ B_pos)

theorem m34Loop_spec : ∀ (p : List Nat) (st : M34), Limbs p → st.ok p.length →
    (m34Loop p st).acc ≡ st.acc + val p [MOD B ^ 3 - 1] ∧ (m34Loop p st).ok 0
  | [], st, _, hok => ⟨by rw [m34Loop, val_nil]; rfl, hok⟩
  | [p0], st, hp, ⟨h0, h1, h2, hc0, hc1, hc2⟩ => by
    obtain ⟨e0, b0, c0⟩ := m34Add_spec st.a0 st.c0 p0 0 h0 (Limbs_cons.mp hp).1 hc0
    simp only [m34Loop, M34.acc, M34.ok, val_cons, val_nil]
    refine ⟨?_, b0, h1, h2, c0, Nat.lt_of_le_of_lt (Nat.le_add_right _ _) hc1,
      Nat.lt_of_le_of_lt (Nat.le_add_right _ _) hc2⟩
    rw [e0]
    exact congrArg (· % _) (by ring)
  | [p0, p1], st, hp, ⟨h0, h1, h2, hc0, hc1, hc2⟩ => by
    have ⟨hp0, hp'⟩ := Limbs_cons.mp hp
    obtain ⟨e0, b0, c0⟩ := m34Add_spec st.a0 st.c0 p0 1 h0 hp0 hc0
    obtain ⟨e1, b1, c1⟩ := m34Add_spec st.a1 st.c1 p1 1 h1 (Limbs_cons.mp hp').1 hc1
    simp only [m34Loop, M34.acc, M34.ok, val_cons, val_nil]
    refine ⟨?_, b0, b1, h2, Nat.lt_of_le_of_lt (Nat.le_add_right _ _) c0,
      Nat.lt_of_le_of_lt (Nat.le_add_right _ _) c1, Nat.lt_of_le_of_lt (Nat.le_add_right _ _) hc2⟩
    rw [e0, e1]
    exact congrArg (· % _) (by ring)
  | p0 :: p1 :: p2 :: rest, st, hp, ⟨h0, h1, h2, hc0, hc1, hc2⟩ => by
    have ⟨hp0, hp'⟩ := Limbs_cons.mp hp
    have ⟨hp1, hp''⟩ := Limbs_cons.mp hp'
    have ⟨hp2, hrest⟩ := Limbs_cons.mp hp''
    obtain ⟨e0, b0, c0⟩ := m34Add_spec st.a0 st.c0 p0 (rest.length + 2) h0 hp0 hc0
    obtain ⟨e1, b1, c1⟩ := m34Add_spec st.a1 st.c1 p1 (rest.length + 2) h1 hp1 hc1
    obtain ⟨e2, b2, c2⟩ := m34Add_spec st.a2 st.c2 p2 (rest.length + 2) h2 hp2 hc2
    have fewer : ∀ {c : Nat}, c + (rest.length + 2) < B → c + rest.length < B := fun h => by omega
    obtain ⟨ih, ihok⟩ := m34Loop_spec rest ⟨_, _, _, _, _, _⟩ hrest ⟨b0, b1, b2, fewer c0, fewer c1, fewer c2⟩
    refine ⟨ih.trans ?_, ihok⟩
    simp only [M34.acc, val_cons]
    rw [e0, e1, e2]
    -- the limbs after the first three weigh `B ^ 3 ≡ 1`
    have h := (B3_modEq.mul_right (val rest)).symm
    rw [Nat.one_mul] at h
    exact (h.add_left _).trans (congrArg (· % _) (by ring))

theorem dvd_B3 : (2 ^ 48 - 1) ∣ B ^ 3 - 1 := by unfold B; norm_num

/-- mpn_mod_34lsub1 returns a limb congruent to `{p, n}` modulo `2^48 - 1`
    (`n/3 < GMP_NUMB_MAX` is the C's ASSERT; `p.length < B - 1` is a little stronger and always true). -/
theorem mod34lsub1_congr (p : List Nat) (hp : Limbs p) (hn : p.length + 1 < B) :
    mod34lsub1 p % (2 ^ 48 - 1) = val p % (2 ^ 48 - 1) ∧ mod34lsub1 p < B := by
  obtain ⟨hc, h0, h1, h2, hc0, hc1, hc2⟩ := m34Loop_spec p ⟨0, 0, 0, 0, 0, 0⟩ hp
    ⟨B_pos, B_pos, B_pos, by simpa using by omega, by simpa using by omega, by simpa using by omega⟩
  have hc' := Nat.ModEq.of_dvd dvd_B3 hc
  unfold mod34lsub1
  dsimp only
  generalize m34Loop p ⟨0, 0, 0, 0, 0, 0⟩ = st at *
  simp only [Nat.add_zero] at hc0 hc1 hc2
  obtain ⟨p0a, -, -⟩ := parts_bound st.a0 h0
  obtain ⟨-, p1a, -⟩ := parts_bound st.a1 h1
  obtain ⟨-, -, p2a⟩ := parts_bound st.a2 h2
  obtain ⟨-, p1c, -⟩ := parts_bound st.c0 hc0
  obtain ⟨-, -, p2c⟩ := parts_bound st.c1 hc1
  obtain ⟨p0c, -, -⟩ := parts_bound st.c2 hc2
  have hV : m34Parts0 st.a0 + m34Parts1 st.a1 + m34Parts2 st.a2 + m34Parts1 st.c0 + m34Parts2 st.c1
      + m34Parts0 st.c2 < B := by simp only [B_eq]; omega
  rw [Nat.mod_eq_of_lt hV]
  refine ⟨?_, hV⟩
  have e : m34Parts0 st.a0 + m34Parts1 st.a1 + m34Parts2 st.a2 + m34Parts1 st.c0 + m34Parts2 st.c1
      + m34Parts0 st.c2 ≡ st.a0 + st.a1 * 2 ^ 64 + st.a2 * 2 ^ 128 + st.c0 * 2 ^ 64 + st.c1 * 2 ^ 128
        + st.c2 [MOD 2 ^ 48 - 1] :=
    ((((Nat.ModEq.add (parts0_congr st.a0) (parts1_congr st.a1)).add (parts2_congr st.a2)).add
      (parts1_congr st.c0)).add (parts2_congr st.c1)).add (parts0_congr st.c2)
  have hB3 : B ^ 3 ≡ 1 [MOD 2 ^ 48 - 1] := B3_modEq.of_dvd dvd_B3
  have e2 : st.acc ≡ st.a0 + st.a1 * 2 ^ 64 + st.a2 * 2 ^ 128 + st.c0 * 2 ^ 64 + st.c1 * 2 ^ 128
      + st.c2 [MOD 2 ^ 48 - 1] := by
    have : st.acc = st.a0 + st.a1 * 2 ^ 64 + st.a2 * 2 ^ 128 + st.c0 * 2 ^ 64 + st.c1 * 2 ^ 128
        + B ^ 3 * st.c2 := by unfold M34.acc B; ring
    rw [this]
    have := hB3.mul_right st.c2
    rw [Nat.one_mul] at this
    exact Nat.ModEq.add_left _ this
  have hc'' : st.acc ≡ val p [MOD 2 ^ 48 - 1] := by simpa [M34.acc] using hc'
  exact (e.trans e2.symm).trans hc''

theorem perfsqrFold_spec (r : Nat) (hr : r < B) :
    perfsqrFold r % (2 ^ 48 - 1) = r % (2 ^ 48 - 1) ∧ perfsqrFold r < 2 ^ 49 := by
  unfold perfsqrFold
  rw [bits_facts.2.2]
  have h1 : (1 <<< 48) % B = 2 ^ 48 := by unfold B; decide
  rw [h1, Nat.and_two_pow_sub_one_eq_mod, Nat.shiftRight_eq_div_pow]
  simp only [B_eq] at hr
  norm_num
  omega

/-! ### root and remainder: `SqrtRem`; the normalising wrapper of mpn_sqrtrem (sqrtrem.c:296-378) under `DcSpec` -/

/-- `p = (s, r)` is the square root of `N` with its remainder: `N = s² + r`, `r ≤ 2s` (equivalently `s² ≤ N < (s+1)²`).
    Every square-root routine establishes this of its result. -/
abbrev SqrtRem (N : Nat) (p : Nat × Nat) : Prop := p.1 * p.1 + p.2 = N ∧ p.2 ≤ 2 * p.1

namespace SqrtRem
variable {N : Nat} {p : Nat × Nat}

theorem eq_sqrt (h : SqrtRem N p) : p = (Nat.sqrt N, N - Nat.sqrt N * Nat.sqrt N) := by
  obtain ⟨s, r⟩ := p
  obtain ⟨h1, h2⟩ : s * s + r = N ∧ r ≤ 2 * s := h
  obtain rfl : s = Nat.sqrt N := Nat.eq_sqrt.mpr (by constructor <;> nlinarith)
  exact Prod.ext rfl (by simp only; omega)

theorem le_root (h : SqrtRem N p) {lo : Nat} (h1 : lo * lo ≤ N) : lo ≤ p.1 := by
  rw [h.eq_sqrt]; exact Nat.le_sqrt.mpr h1

theorem root_lt (h : SqrtRem N p) {hi : Nat} (h2 : N < hi * hi) : p.1 < hi :=
  Nat.mul_self_lt_mul_self_iff.mp (by have := h.1; omega)

/-- denormalisation (sqrtrem.c:322-347): from the root/remainder `(S, R)` of `u·4^k` to those of `u`. -/
theorem unscale {u k S R : Nat} (h : SqrtRem (u * 2 ^ (2 * k)) (S, R)) :
    SqrtRem u (S / 2 ^ k, (R + 2 * (S % 2 ^ k) * S - (S % 2 ^ k) * (S % 2 ^ k)) / 2 ^ (2 * k)) := by
  obtain ⟨hS, hR⟩ : S * S + R = u * 2 ^ (2 * k) ∧ R ≤ 2 * S := h
  have hK : 0 < 2 ^ k := Nat.two_pow_pos k
  have hK2 : 2 ^ (2 * k) = 2 ^ k * 2 ^ k := by rw [Nat.two_mul, pow_add]
  rw [hK2] at hS ⊢
  clear hK2
  generalize 2 ^ k = K at *
  have hKK : 0 < K * K := Nat.mul_pos hK hK
  have hdec := Nat.div_add_mod' S K
  have hs0 := Nat.mod_lt S hK
  generalize S / K = S1 at *
  generalize S % K = s0 at *
  subst hdec
  -- S1² ≤ u < (S1+1)²
  have hle : S1 * S1 ≤ u := by
    refine Nat.le_of_mul_le_mul_right ?_ hKK
    calc S1 * S1 * (K * K) = S1 * K * (S1 * K) := by ring
      _ ≤ (S1 * K + s0) * (S1 * K + s0) := Nat.mul_le_mul (Nat.le_add_right _ _) (Nat.le_add_right _ _)
      _ ≤ u * (K * K) := by omega
  have hlt : u < (S1 + 1) * (S1 + 1) := by
    refine Nat.lt_of_mul_lt_mul_right (a := K * K) ?_
    have h : S1 * K + s0 + 1 ≤ (S1 + 1) * K := by rw [Nat.add_mul, Nat.one_mul]; omega
    have hsq : (S1 * K + s0 + 1) * (S1 * K + s0 + 1)
        = (S1 * K + s0) * (S1 * K + s0) + 2 * (S1 * K + s0) + 1 := by ring
    calc u * (K * K) < (S1 * K + s0 + 1) * (S1 * K + s0 + 1) := by rw [← hS, hsq]; omega
      _ ≤ (S1 + 1) * K * ((S1 + 1) * K) := Nat.mul_le_mul h h
      _ = (S1 + 1) * (S1 + 1) * (K * K) := by ring
  obtain ⟨d, rfl⟩ := Nat.exists_eq_add_of_le hle
  have key : R + 2 * s0 * (S1 * K + s0) = d * (K * K) + s0 * s0 := by linear_combination hS
  show S1 * S1 + (R + 2 * s0 * (S1 * K + s0) - s0 * s0) / (K * K) = S1 * S1 + d ∧
    (R + 2 * s0 * (S1 * K + s0) - s0 * s0) / (K * K) ≤ 2 * S1
  rw [key, Nat.add_sub_cancel, Nat.mul_div_cancel _ hKK]
  have hZ : (S1 + 1) * (S1 + 1) = S1 * S1 + 2 * S1 + 1 := by ring
  exact ⟨rfl, by omega⟩

end SqrtRem

/-- the even shift count of mpn_sqrtrem normalises the high limb. -/
theorem clz_half_norm (h : Nat) (hp : 0 < h) (hB : h < B) :
    2 ^ 62 ≤ h * 2 ^ (2 * (clz h / 2)) ∧ h * 2 ^ (2 * (clz h / 2)) < 2 ^ 64 ∧ clz h / 2 ≤ 31 ∧
    (h + 1) * 2 ^ (2 * (clz h / 2)) ≤ 2 ^ 64 := by
  obtain ⟨h1, h2, h3⟩ := bitLen_spec h hp
  have hL : bitLen h ≤ 64 := by
    by_contra hc
    have : 2 ^ 64 ≤ 2 ^ (bitLen h - 1) := Nat.pow_le_pow_right (by norm_num) (by omega)
    unfold B at hB; omega
  unfold clz
  generalize bitLen h = L at *
  set c := (64 - L) / 2 with hc
  refine ⟨?_, ?_, by omega, ?_⟩
  · calc 2 ^ 62 ≤ 2 ^ (L - 1 + 2 * c) := Nat.pow_le_pow_right (by norm_num) (by omega)
      _ = 2 ^ (L - 1) * 2 ^ (2 * c) := by rw [pow_add]
      _ ≤ h * 2 ^ (2 * c) := Nat.mul_le_mul_right _ h1
  · calc h * 2 ^ (2 * c) < 2 ^ L * 2 ^ (2 * c) := Nat.mul_lt_mul_of_pos_right h2 (by positivity)
      _ = 2 ^ (L + 2 * c) := by rw [pow_add]
      _ ≤ 2 ^ 64 := Nat.pow_le_pow_right (by norm_num) (by omega)
  · calc (h + 1) * 2 ^ (2 * c) ≤ 2 ^ L * 2 ^ (2 * c) := Nat.mul_le_mul_right _ h2
      _ = 2 ^ (L + 2 * c) := by rw [pow_add]
      _ ≤ 2 ^ 64 := Nat.pow_le_pow_right (by norm_num) (by omega)

/-- the contract of mpn_dc_sqrtrem on a normalised operand `B^(2n)/4 ≤ N < B^(2n)`. -/
def DcSpec : Prop := ∀ n N, 0 < n → B ^ (2 * n) ≤ 4 * N → N < B ^ (2 * n) →
  (dcSqrtrem n N).1 * (dcSqrtrem n N).1 + (dcSqrtrem n N).2 = N ∧ (dcSqrtrem n N).2 ≤ 2 * (dcSqrtrem n N).1

theorem dcSpec_iff : DcSpec ↔ ∀ n N, 0 < n → B ^ (2 * n) ≤ 4 * N → N < B ^ (2 * n) → SqrtRem N (dcSqrtrem n N) :=
  Iff.rfl

/-- an operand bracketed by its top limb, `high·P ≤ u < (high+1)·P`, and scaled by `E·F` where `E` normalises the top
    limb (`2^62 ≤ high·E`, `(high+1)·E ≤ 2^64`) is a normalised operand of mpn_dc_sqrtrem for the size `F·2^64·P`. -/
theorem norm_window (u high P E F : Nat) (hu1 : high * P ≤ u) (hu2 : u < (high + 1) * P)
    (c1 : 2 ^ 62 ≤ high * E) (c4 : (high + 1) * E ≤ 2 ^ 64) (hF : 0 < F) :
    F * (2 ^ 64 * P) ≤ 4 * (u * (E * F)) ∧ u * (E * F) < F * (2 ^ 64 * P) := by
  have hE : 0 < E := Nat.pos_of_ne_zero (by rintro rfl; simp at c1)
  have h1 : 2 ^ 62 * P ≤ u * E :=
    calc 2 ^ 62 * P ≤ high * E * P := Nat.mul_le_mul_right _ c1
      _ = high * P * E := by ring
      _ ≤ u * E := Nat.mul_le_mul_right _ hu1
  have h2 : u * E < 2 ^ 64 * P :=
    calc u * E < (high + 1) * P * E := Nat.mul_lt_mul_of_pos_right hu2 hE
      _ = (high + 1) * E * P := by ring
      _ ≤ 2 ^ 64 * P := Nat.mul_le_mul_right _ c4
  constructor
  · calc F * (2 ^ 64 * P) = 4 * (2 ^ 62 * P) * F := by ring
      _ ≤ 4 * (u * E) * F := Nat.mul_le_mul_right _ (Nat.mul_le_mul_left _ h1)
      _ = 4 * (u * (E * F)) := by ring
  · calc u * (E * F) = u * E * F := by ring
      _ < 2 ^ 64 * P * F := Nat.mul_lt_mul_of_pos_right h2 hF
      _ = F * (2 ^ 64 * P) := by ring

theorem sqrtremVal_norm (u nn high : Nat) (hnn : 0 < nn) (hu1 : high * B ^ (nn - 1) ≤ u)
    (hu2 : u < (high + 1) * B ^ (nn - 1)) (hp : 0 < high) (hB : high < B)
    (hbr : ¬(nn = 1 ∧ high ≥ B / 2)) (hdc : DcSpec) :
    sqrtremVal u nn high = (Nat.sqrt u, u - Nat.sqrt u * Nat.sqrt u) := by
  obtain ⟨c1, c2, c3, c4⟩ := clz_half_norm high hp hB
  unfold sqrtremVal
  rw [if_neg hbr]
  dsimp only
  generalize clz high / 2 = c at *
  have hodd : nn % 2 = 0 ∨ nn % 2 = 1 := Nat.mod_two_eq_zero_or_one nn
  -- `B^(2·tn) = 2^(64·(nn % 2)) · 2^64 · B^(nn-1)`
  have hBn : B ^ (2 * ((nn + 1) / 2)) = 2 ^ (64 * (nn % 2)) * (2 ^ 64 * B ^ (nn - 1)) := by
    rw [B_pow, B_pow, ← pow_add, ← pow_add]; congr 1; omega
  by_cases hcase : nn % 2 ≠ 0 ∨ c > 0
  · rw [if_pos hcase]
    -- the shifted and padded operand is `u·2^(2k)`
    have hk : 2 * (c + nn % 2 * 64 / 2) = 2 * c + 64 * (nn % 2) := by omega
    have hT : (u <<< (2 * c)) * B ^ (2 * ((nn + 1) / 2) - nn) = u * 2 ^ (2 * (c + nn % 2 * 64 / 2)) := by
      rw [Nat.shiftLeft_eq, B_pow, Nat.mul_assoc, ← pow_add]; congr 2; omega
    have hpow : 2 ^ (2 * (c + nn % 2 * 64 / 2)) = 2 ^ (2 * c) * 2 ^ (64 * (nn % 2)) := by rw [hk, pow_add]
    obtain ⟨hN1, hN2⟩ := norm_window u high (B ^ (nn - 1)) (2 ^ (2 * c)) (2 ^ (64 * (nn % 2))) hu1 hu2 c1 c4
      (Nat.two_pow_pos _)
    rw [← hBn, ← hpow] at hN1 hN2
    rw [hT]
    generalize c + nn % 2 * 64 / 2 = k at *
    have e := dcSpec_iff.mp hdc ((nn + 1) / 2) (u * 2 ^ (2 * k)) (by omega) hN1 hN2
    generalize dcSqrtrem ((nn + 1) / 2) (u * 2 ^ (2 * k)) = res at *
    obtain ⟨S, R⟩ := res
    simp only
    rw [and_mask _ _ (by omega : k ≤ 63), Nat.shiftRight_eq_div_pow, Nat.shiftRight_eq_div_pow]
    exact e.unscale.eq_sqrt
  · rw [if_neg hcase]
    -- even limb count, normalised top limb: the operand goes to mpn_dc_sqrtrem unchanged
    have hc0 : c = 0 := by omega
    have hev : nn % 2 = 0 := by omega
    subst hc0
    obtain ⟨hN1, hN2⟩ := norm_window u high (B ^ (nn - 1)) 1 1 hu1 hu2 (by simpa using c1) (by simpa using c4)
      Nat.one_pos
    rw [hev, Nat.mul_zero, pow_zero, Nat.one_mul] at hBn
    simp only [Nat.one_mul, Nat.mul_one] at hN1 hN2
    rw [← hBn] at hN1 hN2
    exact (dcSpec_iff.mp hdc ((nn + 1) / 2) u (by omega) hN1 hN2).eq_sqrt

/-! ### Zimmermann's step; mpn_sqrtrem1 (sqrtrem.c:145-196) -/

/-- Zimmermann's step (one level of the Karatsuba square root; also one pass of the loop of mpn_sqrtrem1 with
    β = 2^prec): two more base-β digits `a1, a0`, one division by `2s`, at most one correction. -/
theorem zstep (β N s r a1 a0 q u s' : Nat) (h : SqrtRem N (s, r)) (hs : β ≤ 2 * s) (h1 : a1 < β) (h0 : a0 < β)
    (hdm : 2 * s * q + u = r * β + a1) (hu : u < 2 * s) (hs' : s' = s * β + q) :
    q ≤ β ∧
    (q * q ≤ u * β + a0 → SqrtRem (N * (β * β) + a1 * β + a0) (s', u * β + a0 - q * q)) ∧
    (u * β + a0 < q * q → 1 ≤ s' ∧ q * q ≤ u * β + a0 + (2 * s' - 1) ∧
      SqrtRem (N * (β * β) + a1 * β + a0) (s' - 1, u * β + a0 + (2 * s' - 1) - q * q)) := by
  obtain ⟨rfl, hr⟩ : s * s + r = N ∧ r ≤ 2 * s := h
  dsimp only [SqrtRem]
  have hrβ : r * β ≤ 2 * s * β := Nat.mul_le_mul_right _ hr
  have hq : q ≤ β := by
    by_contra hc
    have h : 2 * s * (β + 1) ≤ 2 * s * q := Nat.mul_le_mul_left _ (by omega)
    rw [Nat.mul_add, Nat.mul_one] at h
    omega
  have hN : s' * s' + (u * β + a0) = (s * s + r) * (β * β) + a1 * β + a0 + q * q := by
    rw [hs']; linear_combination β * hdm
  have hub : u * β + a0 < 2 * s * β := by
    have : (u + 1) * β ≤ 2 * s * β := Nat.mul_le_mul_right _ hu
    rw [Nat.add_mul, Nat.one_mul] at this
    omega
  have h2s : 2 * s' = 2 * s * β + 2 * q := by rw [hs']; ring
  refine ⟨hq, fun hc => ⟨by omega, by omega⟩, fun hc => ?_⟩
  have hqq : q * q ≤ 2 * s * β := by
    have := Nat.mul_le_mul hq (Nat.le_trans hq hs)
    rwa [Nat.mul_comm β] at this
  have hq1 : 1 ≤ q := by
    by_contra h
    rw [show q = 0 by omega] at hc
    omega
  obtain ⟨m, rfl⟩ : ∃ m, s' = m + 1 := ⟨s' - 1, by omega⟩
  have hsq : (m + 1) * (m + 1) = m * m + 2 * m + 1 := by ring
  rw [hsq] at hN
  refine ⟨by omega, by omega, ?_, by omega⟩
  rw [Nat.add_sub_cancel]
  omega

theorem wsub_of_le {x y : Nat} (hy : y ≤ x) (hx : x < B) : wsub x y = x - y := by
  unfold wsub
  rw [Nat.mod_eq_of_lt (Nat.lt_of_le_of_lt hy hx), Nat.add_comm, Nat.add_sub_assoc hy, Nat.add_mod_left,
    Nat.mod_eq_of_lt (Nat.lt_of_le_of_lt (Nat.sub_le _ _) hx)]

theorem wsub_of_lt {x y : Nat} (h : x < y) (hy : y < B) : wsub x y = x + B - y := by
  unfold wsub
  rw [Nat.mod_eq_of_lt hy, Nat.mod_eq_of_lt (by omega)]

theorem wshl_add {x k a : Nat} (h : x * 2 ^ k + a < B) : (wshl x k + a) % B = x * 2 ^ k + a := by
  unfold wshl
  rw [Nat.shiftLeft_eq, Nat.mod_eq_of_lt (Nat.lt_of_le_of_lt (Nat.le_add_right _ _) h), Nat.mod_eq_of_lt h]

/-- One pass of the loop of mpn_sqrtrem1 at precision `prec` is Zimmermann's step in base `β = 2^prec` on the top
    `2·prec` bits of `np0`; nothing wraps because every intermediate value stays below `2·β² ≤ B/2`. -/
theorem sqrtrem1Step_spec (prec N s r np0 : Nat) (hprec : 2 * prec + 2 ≤ 64) (hnp : np0 < B) (h : SqrtRem N (s, r))
    (hs1 : 2 ^ prec ≤ 2 * s) (hs2 : s < 2 ^ prec) :
    ∃ s' r', sqrtrem1Step prec (s, r, np0) = (s', r', np0 * (2 ^ prec * 2 ^ prec) % B) ∧
      SqrtRem (N * (2 ^ prec * 2 ^ prec) + np0 / 2 ^ (64 - 2 * prec)) (s', r') := by
  obtain ⟨rfl, hr⟩ : s * s + r = N ∧ r ≤ 2 * s := h
  have hBW : B = 2 ^ (64 - prec) * 2 ^ prec := by unfold B; rw [← pow_add]; congr 1; omega
  have hWV : 2 ^ (64 - prec) = 2 ^ (64 - 2 * prec) * 2 ^ prec := by rw [← pow_add]; congr 1; omega
  have hV : 2 ^ 2 ≤ 2 ^ (64 - 2 * prec) := Nat.pow_le_pow_right (by norm_num) (by omega)
  have hβ : 0 < 2 ^ prec := Nat.two_pow_pos _
  unfold sqrtrem1Step wshl
  simp only [Nat.shiftLeft_eq, Nat.shiftRight_eq_div_pow]
  generalize 2 ^ prec = β at *
  generalize 2 ^ (64 - prec) = W at *
  generalize 2 ^ (64 - 2 * prec) = V at *
  subst hWV
  have hM : 4 * (β * β) ≤ B := by
    rw [hBW, Nat.mul_assoc]; exact Nat.mul_le_mul_right _ hV
  -- the two digits shifted in
  have ha1 : np0 / (V * β) < β := Nat.div_lt_of_lt_mul (hBW ▸ hnp)
  have ha0 : np0 * β % B / (V * β) < β := Nat.div_lt_of_lt_mul (by rw [← hBW]; exact Nat.mod_lt _ B_pos)
  have hdig : np0 / (V * β) * β + np0 * β % B / (V * β) = np0 / V := by
    rw [hBW, Nat.mul_mod_mul_right, Nat.mul_div_mul_right _ _ hβ, Nat.mod_mul_right_div_self,
      ← Nat.div_div_eq_div_mul]
    exact Nat.div_add_mod' _ _
  generalize np0 / (V * β) = a1 at *
  generalize np0 * β % B / (V * β) = a0 at *
  obtain ⟨q, u, hdm, hu, hq⟩ : ∃ q u, 2 * s * q + u = r * β + a1 ∧ u < 2 * s ∧ (r * β + a1) / (2 * s) = q :=
    ⟨_, _, Nat.div_add_mod _ _, Nat.mod_lt _ (by omega), rfl⟩
  obtain ⟨hqb, hA, hC⟩ := zstep β _ s r a1 a0 q u (s * β + q) ⟨rfl, hr⟩ hs1 ha1 ha0 hdm hu rfl
  rw [← hdig, ← Nat.add_assoc]
  have hsβ : s * β + β ≤ β * β := by
    have := Nat.mul_le_mul_right β hs2
    rwa [Nat.succ_mul] at this
  have hrβ : r * β ≤ 2 * (s * β) := by
    have := Nat.mul_le_mul_right β hr
    rwa [Nat.mul_assoc] at this
  have huβ : u * β + β ≤ 2 * (s * β) := by
    have := Nat.mul_le_mul_right β hu
    rwa [Nat.succ_mul, Nat.mul_assoc] at this
  have hqq : q * q ≤ β * β := Nat.mul_le_mul hqb hqb
  have hcomm : q * (2 * s) = 2 * s * q := Nat.mul_comm _ _
  have b1 : r * β + a1 < B := by omega
  have b5 : s * β + q < B := by omega
  have b6 : u * β + a0 < B := by omega
  have e1 : (r * β % B + a1) % B = r * β + a1 := by
    rw [Nat.mod_eq_of_lt (Nat.lt_of_le_of_lt (Nat.le_add_right _ _) b1), Nat.mod_eq_of_lt b1]
  have e3 : 2 * s % B = 2 * s := Nat.mod_eq_of_lt (by omega)
  have e4 : wsub (r * β + a1) (q * (2 * s) % B) = u := by
    rw [Nat.mod_eq_of_lt (by omega : q * (2 * s) < B), wsub_of_le (by omega) b1]; omega
  have e5 : (s * β % B + q) % B = s * β + q := by
    rw [Nat.mod_eq_of_lt (Nat.lt_of_le_of_lt (Nat.le_add_right _ _) b5), Nat.mod_eq_of_lt b5]
  have e6 : (u * β % B + a0) % B = u * β + a0 := by
    rw [Nat.mod_eq_of_lt (Nat.lt_of_le_of_lt (Nat.le_add_right _ _) b6), Nat.mod_eq_of_lt b6]
  have e7 : q * q % B = q * q := Nat.mod_eq_of_lt (by omega)
  have e9 : np0 * β % B * β % B = np0 * (β * β) % B := by rw [Nat.mod_mul_mod, Nat.mul_assoc]
  rw [e1, e3, hq, e4, e5, e6, e7, e9]
  by_cases hc : u * β + a0 < q * q
  · obtain ⟨c1, c2, c3, c4⟩ := hC hc
    rw [if_pos hc]
    have f1 : wsub (s * β + q) 1 = s * β + q - 1 := wsub_of_le c1 b5
    have f2 : (wsub (u * β + a0) (q * q) + wsub (2 * (s * β + q) % B) 1) % B
        = u * β + a0 + (2 * (s * β + q) - 1) - q * q := by
      have e : u * β + a0 + B - q * q + (2 * (s * β + q) - 1)
          = u * β + a0 + (2 * (s * β + q) - 1) - q * q + B := by omega
      have b7 : 2 * (s * β + q) < B := by omega
      rw [Nat.mod_eq_of_lt b7, wsub_of_le (by omega : 1 ≤ 2 * (s * β + q)) b7,
        wsub_of_lt hc (by omega : q * q < B), e, Nat.add_mod_right]
      exact Nat.mod_eq_of_lt (by omega)
    exact ⟨_, _, rfl, by dsimp only; rw [f1, f2, c3], by dsimp only; rw [f1, f2]; exact c4⟩
  · obtain ⟨c1, c2⟩ := hA (Nat.le_of_not_lt hc)
    rw [if_neg hc, wsub_of_le (Nat.le_of_not_lt hc) b6]
    exact ⟨_, _, rfl, c1, c2⟩

/-- kernel-checked fact about the regenerated `approx_tab`: entry `i` is `⌊√(256·(i+64))⌋`, in [128, 255]. -/
theorem approxTab_ok : ∀ i < 192, 128 ≤ approxTab.getD i 0 ∧ approxTab.getD i 0 ≤ 255 ∧
    approxTab.getD i 0 * approxTab.getD i 0 ≤ 256 * (i + 64) ∧
    256 * (i + 64) < (approxTab.getD i 0 + 1) * (approxTab.getD i 0 + 1) := by decide +kernel

theorem approxTabBase_eq : approxTabBase = 64 := by decide

theorem seed_spec (a : Nat) (h1 : B / 4 ≤ a) (h2 : a < B) :
    SqrtRem (a / 281474976710656) (sqrtrem1Seed a) ∧ 128 ≤ (sqrtrem1Seed a).1 ∧ (sqrtrem1Seed a).1 < 256 := by
  have hB := B_eq
  -- only the top 16 bits `T` of the limb matter; the table index is `T / 256 - 64`
  have hT1 : 16384 ≤ a / 281474976710656 := by omega
  have hT2 : a / 281474976710656 < 65536 := by omega
  have hTd : a / 72057594037927936 = a / 281474976710656 / 256 := by omega
  unfold sqrtrem1Seed
  simp only [Nat.shiftRight_eq_div_pow, approxTabBase_eq, Nat.reduceSub, Nat.reducePow]
  rw [hTd]
  generalize a / 281474976710656 = T at *
  clear hTd h1 h2
  obtain ⟨t1, t2, t3, t4⟩ := approxTab_ok (T / 256 - 64) (by omega)
  generalize approxTab.getD (T / 256 - 64) 0 = s at *
  have hZ : (s + 1) * (s + 1) = s * s + 2 * s + 1 := by ring
  have hss : s * s ≤ T := by omega
  have hss' : s * s ≤ 255 * 255 := Nat.mul_le_mul t2 t2
  rw [Nat.mod_eq_of_lt (by omega : s * s < B), wsub_of_le hss (by omega)]
  by_cases hc : 2 * s < T - s * s
  · rw [if_pos hc, Nat.mod_eq_of_lt (by omega : s + 1 < B), Nat.mod_eq_of_lt (by omega : 2 * s + 1 < B),
      wsub_of_le (by omega) (by omega)]
    dsimp only
    have hlt : s + 1 < 256 := by
      by_contra hh
      have : 256 * 256 ≤ (s + 1) * (s + 1) := Nat.mul_le_mul (by omega) (by omega)
      omega
    dsimp only [SqrtRem]
    exact ⟨⟨by omega, by omega⟩, by omega, hlt⟩
  · rw [if_neg hc]
    dsimp only [SqrtRem]
    exact ⟨⟨by omega, by omega⟩, t1, by omega⟩

theorem sqrtrem1Loop_unroll (st : Nat × Nat × Nat) :
    sqrtrem1Loop 6 8 st = sqrtrem1Step 16 (sqrtrem1Step 8 st) := by
  rw [sqrtrem1Loop, if_pos (by norm_num), sqrtrem1Loop, if_pos (by norm_num), sqrtrem1Loop,
    if_neg (by norm_num)]

theorem bitsA (x : Nat) (hx : x < B) :
    x / 281474976710656 * 65536 + x * 65536 % B / 281474976710656 = x / 4294967296 := by
  rw [B_eq] at hx ⊢; omega

theorem bitsB (x : Nat) (hx : x < B) :
    x / 4294967296 * 4294967296 + x * 65536 % B * 65536 % B / 4294967296 = x := by
  rw [B_eq] at hx ⊢; omega

theorem sqrtrem1_sq (a : Nat) (h1 : B / 4 ≤ a) (h2 : a < B) : SqrtRem a (sqrtrem1 a) := by
  have hB := B_eq
  obtain ⟨g, g3, g4⟩ := seed_spec a h1 h2
  unfold sqrtrem1
  dsimp only
  generalize sqrtrem1Seed a = sd at *
  obtain ⟨s0, r0⟩ := sd
  have hnp0 : wshl a 16 = a * 65536 % B := by unfold wshl; rw [Nat.shiftLeft_eq]
  rw [sqrtrem1Loop_unroll, hnp0]
  -- 8 → 16 bits: the root of the top 32 bits
  obtain ⟨s1, r1, e1, i1⟩ := sqrtrem1Step_spec 8 _ s0 r0 (a * 65536 % B) (by norm_num) (Nat.mod_lt _ B_pos) g
    (by omega) (by omega)
  simp only [Nat.reducePow, Nat.reduceMul, Nat.reduceSub] at e1 i1
  rw [bitsA a h2] at i1
  have hs1a : 32768 ≤ s1 := i1.le_root (by omega)
  have hs1b : s1 < 65536 := i1.root_lt (by omega)
  -- 16 → 32 bits: the root of the limb
  obtain ⟨s2, r2, e2, i2⟩ := sqrtrem1Step_spec 16 _ s1 r1 (a * 65536 % B * 65536 % B) (by norm_num)
    (Nat.mod_lt _ B_pos) i1 (by omega) (by omega)
  simp only [Nat.reducePow, Nat.reduceMul, Nat.reduceSub] at e2 i2
  rw [bitsB a h2] at i2
  rw [e1, e2]
  exact i2

/-! ### mpn_sqrtrem2 (sqrtrem.c:203-243) -/

theorem sqrtrem2Sub_spec (s r : Nat) (hs : 0 < s) (hr : r ≤ 2 * s) (hs32 : s < 4294967296) :
    ∃ qhl r', sqrtrem2Sub 4 0 r s = (qhl, r') ∧ qhl ≤ 2 ∧ r = qhl * s + r' ∧ r' < s ∧
      (qhl = 2 → r' = 0) := by
  have hrB : r < B := by rw [B_eq]; omega
  by_cases h1 : r ≥ s
  · have e1 : wsub r s = r - s := wsub_of_le h1 hrB
    by_cases h2 : r - s ≥ s
    · have e2 : wsub (r - s) s = r - s - s := wsub_of_le h2 (by omega)
      have h3 : ¬ r - s - s ≥ s := by omega
      exact ⟨2, r - s - s, by simp [sqrtrem2Sub, h1, h2, h3, e1, e2], by omega, by omega, by omega, by omega⟩
    · exact ⟨1, r - s, by simp [sqrtrem2Sub, e1, h1, h2], by omega, by omega, by omega, by omega⟩
  · exact ⟨0, r, by simp [sqrtrem2Sub, h1], by omega, by omega, by omega, by omega⟩

theorem mod_add_carry {x : Nat} (h : x < 2 * B) : x % B + B * (if x ≥ B then 1 else 0) = x := by
  by_cases hx : x ≥ B
  · rw [if_pos hx, Nat.mod_eq_sub_mod hx, Nat.mod_eq_of_lt (by omega)]; omega
  · rw [if_neg hx, Nat.mod_eq_of_lt (by omega)]; omega

/-- sqrtrem.c:236-240: adding `S` (possibly `S = B`, stored as 0) and then `S − 1` with carries. -/
theorem sqrtrem2AddBack_spec (S rp : Nat) (cc : Int) (V : Nat) (hrp : rp < B) (hS1 : 1 ≤ S) (hS2 : S ≤ B)
    (hval : cc * (B : Int) + (rp : Int) + (2 * S - 1 : Nat) = (V : Int)) :
    ∃ rp' cc', sqrtrem2AddBack (S % B) rp cc = (S - 1, rp', cc') ∧ cc' * (B : Int) + (rp' : Int) = (V : Int) ∧
      rp' < B := by
  unfold sqrtrem2AddBack
  dsimp only
  rw [boolToNat_decide, boolToNat_decide]
  rcases Nat.lt_or_eq_of_le hS2 with hS | rfl
  · -- `S < B`: two additions with carry
    rw [Nat.mod_eq_of_lt hS, if_pos (by omega), if_pos (by omega), wsub_of_le hS1 hS]
    have k1 := mod_add_carry (x := rp + S) (by omega)
    have hr1 := Nat.mod_lt (rp + S) B_pos
    generalize (rp + S) % B = r1 at *
    generalize (if rp + S ≥ B then 1 else 0) = c1 at *
    have k2 := mod_add_carry (x := r1 + (S - 1)) (by omega)
    refine ⟨_, _, rfl, ?_, Nat.mod_lt _ B_pos⟩
    generalize (r1 + (S - 1)) % B = r2 at *
    generalize (if r1 + (S - 1) ≥ B then 1 else 0) = c2 at *
    rw [B_eq] at *
    omega
  · -- `S = B` is stored as 0: the first addition is the carry alone
    rw [Nat.mod_self, if_neg (by simp), if_neg (by simp), wsub_of_lt Nat.one_pos (by rw [B_eq]; norm_num),
      Nat.zero_add]
    have k2 := mod_add_carry (x := rp + (B - 1)) (by omega)
    refine ⟨_, _, rfl, ?_, Nat.mod_lt _ B_pos⟩
    generalize (rp + (B - 1)) % B = r2 at *
    generalize (if rp + (B - 1) ≥ B then 1 else 0) = c2 at *
    rw [B_eq] at *
    omega

/-- sqrtrem.c:232-241: subtract `q²` (and `qhl·B`) from the two-limb remainder `T = cch·B + rp`, and
    correct once if that went negative. -/
theorem sqrtrem2Fix_spec (S cch rp qq qh T QQ : Nat) (hrp : rp < B) (hqq : qq < B) (hS1 : 1 ≤ S)
    (hS2 : S ≤ B) (hT : cch * B + rp = T) (hQQ : qq + qh * B = QQ) (hA : QQ ≤ T → S < B)
    (hC : T < QQ → QQ ≤ T + (2 * S - 1)) :
    ∃ sp rp' cc', sqrtrem2Fix (S % B) cch rp qq qh = (sp, rp', cc') ∧
      (QQ ≤ T → sp = S ∧ cc' * (B : Int) + (rp' : Int) = ((T - QQ : Nat) : Int)) ∧
      (T < QQ → sp = S - 1 ∧ cc' * (B : Int) + (rp' : Int) = ((T + (2 * S - 1) - QQ : Nat) : Int)) ∧
      rp' < B := by
  have hB := B_eq
  unfold sqrtrem2Fix
  dsimp only
  rw [boolToNat_decide]
  have hrp1 : wsub rp qq < B := by unfold wsub; exact Nat.mod_lt _ B_pos
  have hval : ((cch : Int) - ((if rp < qq then 1 else 0 : Nat) + qh : Nat)) * (B : Int) + (wsub rp qq : Nat)
      = (T : Int) - (QQ : Int) := by
    unfold wsub
    rw [B_eq] at *
    by_cases h : rp < qq
    · rw [if_pos h]; push_cast; omega
    · rw [if_neg h]; push_cast; omega
  generalize (cch : Int) - ((if rp < qq then 1 else 0 : Nat) + qh : Nat) = cc0 at *
  generalize wsub rp qq = rp1 at *
  by_cases hneg : T < QQ
  · have hc : cc0 < 0 := by
      by_contra hc
      have : (0 : Int) ≤ cc0 * (B : Int) := Int.mul_nonneg (by omega) (by rw [hB]; norm_num)
      omega
    rw [if_pos hc]
    have h2 := hC hneg
    obtain ⟨rp', cc', e, v, vlt⟩ := sqrtrem2AddBack_spec S rp1 cc0 (T + (2 * S - 1) - QQ) hrp1 hS1 hS2
      (by push_cast [Nat.cast_sub h2]; omega)
    exact ⟨_, _, _, e, fun h => absurd hneg (Nat.not_lt.mpr h), fun _ => ⟨rfl, v⟩, vlt⟩
  · have hle := Nat.le_of_not_lt hneg
    have hc : ¬ cc0 < 0 := by
      intro hc
      have : cc0 * (B : Int) ≤ -1 * (B : Int) :=
        Int.mul_le_mul_of_nonneg_right (by omega) (by rw [hB]; norm_num)
      omega
    rw [if_neg hc]
    refine ⟨_, _, _, rfl, fun _ => ⟨Nat.mod_eq_of_lt (hA hle), ?_⟩, fun h => absurd h hneg, hrp1⟩
    have : cc0 * (B : Int) + (rp1 : Int) = ((T - QQ : Nat) : Int) := by
      rw [hval, Nat.cast_sub hle]
    exact this

theorem splitT (u a : Nat) : u / 4294967296 * 18446744073709551616 + (u * 4294967296 % 18446744073709551616 + a)
    = u * 4294967296 + a := by omega

/-- mpn_sqrtrem2 after the subtraction loop: `np1 = s² + r`, `r = qhl·s + r'`, `r' < s`. -/
theorem sqrtrem2Tail_specI (np0 N s r r' qhl : Nat) (hnp0 : np0 < B) (hs1 : 2147483648 ≤ s)
    (hs2 : s < 4294967296) (h : SqrtRem N (s, r)) (hql : qhl ≤ 2) (hr' : r = qhl * s + r') (hr's : r' < s)
    (h2 : qhl = 2 → r' = 0) :
    ∃ sp rp cc, sqrtrem2Tail np0 s r' qhl = (sp, rp, cc) ∧
      SqrtRem (N * B + np0) (sp, (cc * (B : Int) + (rp : Int)).toNat) ∧ (0 : Int) ≤ cc * (B : Int) + (rp : Int) ∧
      rp < B := by
  obtain ⟨rfl, hr⟩ : s * s + r = N ∧ r ≤ 2 * s := h
  have hB := B_eq
  rw [hB] at hnp0
  obtain ⟨q0, u, hdm, hu, hq⟩ : ∃ q u, 2 * s * q + u = r' * 4294967296 + np0 / 4294967296 ∧ u < 2 * s ∧
      (r' * 4294967296 + np0 / 4294967296) / (2 * s) = q :=
    ⟨_, _, Nat.div_add_mod _ _, Nat.mod_lt _ (by omega), rfl⟩
  have hq31 : q0 < 2147483648 := by
    by_contra hc
    have : 2 * s * 2147483648 ≤ 2 * s * q0 := Nat.mul_le_mul_left _ (by omega)
    omega
  -- the two bits of `qhl`; when `qhl = 2` the remainder was exactly `2s` and the new quotient digit is 0
  obtain ⟨qb, qh, hqb, hqh, hsum, hqb1, hqh1, hexcl⟩ : ∃ qb qh, qhl &&& 1 = qb ∧ qhl >>> 1 = qh ∧
      qhl = qb + 2 * qh ∧ qb ≤ 1 ∧ qh ≤ 1 ∧ (qh = 1 → qb = 0 ∧ q0 = 0 ∧ r' = 0) := by
    rcases (by omega : qhl = 0 ∨ qhl = 1 ∨ qhl = 2) with rfl | rfl | rfl
    · exact ⟨0, 0, rfl, rfl, rfl, by omega, by omega, by omega⟩
    · exact ⟨1, 0, rfl, rfl, rfl, by omega, by omega, by omega⟩
    · refine ⟨0, 1, rfl, rfl, rfl, by omega, by omega, fun _ => ⟨rfl, ?_, h2 rfl⟩⟩
      rw [h2 rfl] at hdm
      by_contra hc
      have : 2 * s * 1 ≤ 2 * s * q0 := Nat.mul_le_mul_left _ (by omega)
      omega
  have hdmQ : 2 * s * (q0 + qb * 2147483648 + qh * 4294967296) + u = r * 4294967296 + np0 / 4294967296 := by
    subst hr' hsum; linear_combination hdm
  clear hr' hsum h2 hql
  -- the machine words of the tail are the exact values
  have hcomm : q0 * (2 * s) = 2 * s * q0 := Nat.mul_comm _ _
  have e1 : (wshl r' 32 + np0 >>> 32) % B = r' * 4294967296 + np0 / 4294967296 := by
    rw [Nat.shiftRight_eq_div_pow, wshl_add (by rw [hB]; omega)]; norm_num
  have e3 : (2 * s) % B = 2 * s := Nat.mod_eq_of_lt (by rw [hB]; omega)
  have e4 : wsub (r' * 4294967296 + np0 / 4294967296) ((q0 * (2 * s)) % B) = u := by
    rw [Nat.mod_eq_of_lt (by rw [hB]; omega), wsub_of_le (by omega) (by rw [hB]; omega)]; omega
  have e5 : (q0 + wshl qb 31) % B = q0 + qb * 2147483648 := by
    unfold wshl; rw [Nat.shiftLeft_eq, hB]; omega
  have e8 : (wshl u 32 + np0 % 4294967296) % B = u * 4294967296 % B + np0 % 4294967296 := by
    unfold wshl; rw [Nat.shiftLeft_eq, hB]; omega
  generalize hql' : q0 + qb * 2147483648 = ql at *
  have e6 : (wshl ((s + qh) % B) 32 + ql) % B = (s * 4294967296 + (ql + qh * 4294967296)) % B := by
    unfold wshl; rw [Nat.shiftLeft_eq, hB]; omega
  have hqlql : ql * ql < B := by
    rw [hB]; have : ql * ql ≤ 4294967295 * 4294967295 := Nat.mul_le_mul (by omega) (by omega)
    omega
  have hQQ : ql * ql + qh * B = (ql + qh * 4294967296) * (ql + qh * 4294967296) := by
    rcases (by omega : qh = 0 ∨ qh = 1) with rfl | rfl
    · simp
    · rw [show ql = 0 by omega, hB]
  unfold sqrtrem2Tail
  dsimp only
  rw [hqb, hqh, e1, e3, hq, e4, e5, e6, Nat.and_two_pow_sub_one_eq_mod np0 32, e8, Nat.mod_eq_of_lt hqlql,
    Nat.shiftRight_eq_div_pow]
  simp only [Nat.reducePow]
  clear e1 e3 e4 e5 e6 e8 hcomm hq
  have hS2 : s * 4294967296 + (ql + qh * 4294967296) ≤ B := by rw [hB]; omega
  have hrp : u * 4294967296 % B + np0 % 4294967296 < B := by rw [hB]; omega
  -- `Q = 2^32` would need a remainder of at least `2^64`
  have hfit : (ql + qh * 4294967296) * (ql + qh * 4294967296) ≤ u * 4294967296 + np0 % 4294967296 →
      s * 4294967296 + (ql + qh * 4294967296) < B := by
    intro hle
    rcases (by omega : qh = 0 ∨ qh = 1) with rfl | rfl
    · rw [hB]; omega
    · exfalso
      obtain ⟨-, rfl, rfl⟩ := hexcl rfl
      rw [show ql = 0 by omega] at hle
      omega
  obtain ⟨hQle, hA, hC⟩ := zstep 4294967296 _ s r (np0 / 4294967296) (np0 % 4294967296)
    (ql + qh * 4294967296) u (s * 4294967296 + (ql + qh * 4294967296))
    ⟨rfl, hr⟩ (by omega) (by omega) (by omega) hdmQ hu rfl
  have hN : (s * s + r) * (4294967296 * 4294967296) + np0 / 4294967296 * 4294967296 + np0 % 4294967296
      = (s * s + r) * B + np0 := by
    rw [hB]; omega
  rw [hN] at hA hC
  generalize hQ : ql + qh * 4294967296 = Q at *
  obtain ⟨sp, rp, cc, efix, fA, fC, frp⟩ := sqrtrem2Fix_spec (s * 4294967296 + Q) (u / 4294967296)
    (u * 4294967296 % B + np0 % 4294967296) (ql * ql) qh (u * 4294967296 + np0 % 4294967296) (Q * Q)
    hrp hqlql (Nat.le_trans (by norm_num) (Nat.le_add_right_of_le (Nat.mul_le_mul_right _ hs1)))
    hS2 (by rw [hB]; exact splitT _ _) hQQ hfit (fun h => (hC h).2.1)
  refine ⟨sp, rp, cc, efix, ?_⟩
  by_cases hneg : u * 4294967296 + np0 % 4294967296 < Q * Q
  · obtain ⟨c1, c2, c3, c4⟩ := hC hneg
    obtain ⟨f1, f2⟩ := fC hneg
    rw [f1, f2, Int.toNat_natCast]; exact ⟨⟨c3, c4⟩, Int.natCast_nonneg _, frp⟩
  · obtain ⟨c1, c2⟩ := hA (Nat.le_of_not_lt hneg)
    obtain ⟨f1, f2⟩ := fA (Nat.le_of_not_lt hneg)
    rw [f1, f2, Int.toNat_natCast]; exact ⟨⟨c1, c2⟩, Int.natCast_nonneg _, frp⟩

theorem sqrtrem2_exI (np0 np1 : Nat) (h0 : np0 < B) (h1 : B / 4 ≤ np1) (h2 : np1 < B) :
    ∃ sp rp cc, sqrtrem2 np0 np1 = (sp, rp, cc) ∧ SqrtRem (np1 * B + np0) (sp, (cc * (B : Int) + (rp : Int)).toNat) ∧
      (0 : Int) ≤ cc * (B : Int) + (rp : Int) ∧ rp < B := by
  have hB := B_eq
  have g := sqrtrem1_sq np1 h1 h2
  unfold sqrtrem2
  dsimp only
  generalize sqrtrem1 np1 = sr at *
  obtain ⟨s, r⟩ := sr
  have b1 : 2147483648 ≤ s := g.le_root (by omega)
  have b2 : s < 4294967296 := g.root_lt (by omega)
  obtain ⟨qhl, r', eSub, q1, q2, q3, q4⟩ := sqrtrem2Sub_spec s r (by omega) g.2 b2
  rw [eSub]
  dsimp only
  exact sqrtrem2Tail_specI np0 np1 s r r' qhl h0 b1 b2 g q1 q2 q3 q4

/-! ### mpn_dc_sqrtrem (sqrtrem.c:252-293), value level -/

theorem dc_base_limbs (N : Nat) (hN1 : B ^ 2 ≤ 4 * N) (hN2 : N < B ^ 2) :
    N % B < B ∧ B / 4 ≤ N / B % B ∧ N / B % B < B ∧ N / B % B * B + N % B = N := by
  rw [B_eq] at *
  omega

theorem dcBase_spec (N : Nat) (hN1 : B ^ 2 ≤ 4 * N) (hN2 : N < B ^ 2) : SqrtRem N (dcBase N) := by
  obtain ⟨l0, l1, l2, l3⟩ := dc_base_limbs N hN1 hN2
  obtain ⟨sp, rp, cc, e, c, -⟩ := sqrtrem2_exI (N % B) (N / B % B) l0 l1 l2
  rw [l3] at c
  unfold dcBase
  rw [e]
  exact c

/-- mpn_dc_sqrtrem divides by `s1`, not `2·s1`, and halves the quotient: the bit shifted out goes back into the
    remainder (sqrtrem.c:270-276), which gives quotient and remainder of the division by `2·s1`. -/
theorem halve_quot (s1 num : Nat) (hs : 0 < s1) :
    2 * s1 * (num / s1 / 2) + (if num / s1 % 2 ≠ 0 then num % s1 + s1 else num % s1) = num ∧
    (if num / s1 % 2 ≠ 0 then num % s1 + s1 else num % s1) < 2 * s1 := by
  have hdm := Nat.div_add_mod num s1
  have hus := Nat.mod_lt num hs
  have hc := Nat.div_add_mod (num / s1) 2
  generalize num / s1 = qs at *
  generalize num % s1 = us at *
  have e : s1 * qs = 2 * s1 * (qs / 2) + s1 * (qs % 2) := by
    conv_lhs => rw [← hc]
    ring
  rcases Nat.mod_two_eq_zero_or_one qs with h | h <;> rw [h] at e ⊢ <;> simp only [ne_eq, not_true_eq_false,
    Nat.one_ne_zero, not_false_eq_true, if_true, if_false] <;> omega

theorem dcCombine_spec (l N s1 r1 : Nat) (hs : B ^ l ≤ 2 * s1) (h : SqrtRem (N / (B ^ l * B ^ l)) (s1, r1)) :
    SqrtRem N (dcCombine l N (s1, r1)) := by
  have hβ : 0 < B ^ l := pow_pos B_pos _
  unfold dcCombine
  dsimp only
  generalize B ^ l = β at *
  -- `N` in base `β`: the high part and the two low digits
  have hNdec : N / (β * β) * (β * β) + N / β % β * β + N % β = N := by
    have e1 := Nat.div_add_mod N β
    have e2 := Nat.div_add_mod (N / β) β
    rw [Nat.div_div_eq_div_mul] at e2
    linear_combination e1 + β * e2
  obtain ⟨hu1, hu2⟩ := halve_quot s1 (r1 * β + N / β % β) (by omega)
  generalize (if (r1 * β + N / β % β) / s1 % 2 ≠ 0 then (r1 * β + N / β % β) % s1 + s1
    else (r1 * β + N / β % β) % s1) = u at *
  generalize (r1 * β + N / β % β) / s1 / 2 = q at *
  obtain ⟨-, hA, hC⟩ := zstep β _ s1 r1 (N / β % β) (N % β) q u (s1 * β + q) h hs (Nat.mod_lt _ hβ)
    (Nat.mod_lt _ hβ) hu1 hu2 rfl
  rw [hNdec] at hA hC
  generalize u * β + N % β = A at *
  generalize q * q = Q at *
  generalize s1 * β + q = s at *
  by_cases hneg : A < Q
  · obtain ⟨c1, c2, c3, c4⟩ := hC hneg
    rw [if_pos (by omega), show ((A : Int) - (Q : Int) + 2 * (s : Int) - 1).toNat = A + (2 * s - 1) - Q by omega]
    exact ⟨c3, c4⟩
  · obtain ⟨c1, c2⟩ := hA (Nat.le_of_not_lt hneg)
    rw [if_neg (by omega), show ((A : Int) - (Q : Int)).toNat = A - Q by omega]
    exact ⟨c1, c2⟩

/-- the high `2h` limbs of a normalised `2n`-limb operand (`l = n / 2`, `h = n - l`) are a normalised operand:
    with `B^h = 2·H` they lie in `[H², 4·H²)`. -/
theorem dc_high (n N : Nat) (hn : 2 ≤ n) (hN1 : B ^ (2 * n) ≤ 4 * N) (hN2 : N < B ^ (2 * n)) :
    ∃ H, B ^ (n - n / 2) = 2 * H ∧ H * H ≤ N / B ^ (2 * (n / 2)) ∧ N / B ^ (2 * (n / 2)) < 2 * H * (2 * H) ∧
      B ^ (2 * (n - n / 2)) ≤ 4 * (N / B ^ (2 * (n / 2))) ∧ N / B ^ (2 * (n / 2)) < B ^ (2 * (n - n / 2)) := by
  suffices h : ∃ H, B ^ (n - n / 2) = 2 * H ∧ H * H ≤ N / B ^ (2 * (n / 2)) ∧
      N / B ^ (2 * (n / 2)) < 2 * H * (2 * H) by
    obtain ⟨H, hH, h1, h2⟩ := h
    have hY : B ^ (2 * (n - n / 2)) = 2 * H * (2 * H) := by rw [Nat.two_mul, pow_add, hH]
    exact ⟨H, hH, h1, h2, by rw [hY]; linarith, by rw [hY]; exact h2⟩
  obtain ⟨m, hm⟩ : ∃ m, n - n / 2 = m + 1 := ⟨n - n / 2 - 1, by omega⟩
  have hH : B ^ (n - n / 2) = 2 * (B ^ m * 2 ^ 63) := by rw [hm, pow_succ]; unfold B; ring
  have hsplit : B ^ (2 * n) = B ^ (2 * (n / 2)) * (2 * (B ^ m * 2 ^ 63) * (2 * (B ^ m * 2 ^ 63))) := by
    rw [← hH, ← pow_add, ← pow_add]; congr 1; omega
  rw [hsplit] at hN1 hN2
  refine ⟨_, hH, (Nat.le_div_iff_mul_le (pow_pos B_pos _)).mpr ?_, Nat.div_lt_of_lt_mul hN2⟩
  generalize B ^ m * 2 ^ 63 = H at *
  generalize B ^ (2 * (n / 2)) = X at *
  have e : X * (2 * H * (2 * H)) = 4 * (H * H * X) := by ring
  omega

theorem dcSqrtremF_spec : ∀ (fuel n N : Nat), 0 < n → n ≤ fuel →
    B ^ (2 * n) ≤ 4 * N → N < B ^ (2 * n) → SqrtRem N (dcSqrtremF fuel n N)
  | 0, n, N, hn, hf, _, _ => by omega
  | fuel + 1, n, N, hn, hf, hN1, hN2 => by
    rw [dcSqrtremF, if_neg (by omega)]
    by_cases h1 : n = 1
    · subst h1
      rw [if_pos rfl]
      exact dcBase_spec N hN1 hN2
    · rw [if_neg h1]
      obtain ⟨H, hH, hNh1, -, hNh1', hNh2'⟩ := dc_high n N (by omega) hN1 hN2
      have i := dcSqrtremF_spec fuel (n - n / 2) (N / B ^ (2 * (n / 2))) (by omega) (by omega) hNh1' hNh2'
      generalize dcSqrtremF fuel (n - n / 2) (N / B ^ (2 * (n / 2))) = hi at *
      obtain ⟨s1, r1⟩ := hi
      have hs1 : H ≤ s1 := i.le_root hNh1
      rw [Nat.two_mul, pow_add] at i
      refine dcCombine_spec (n / 2) N s1 r1 ?_ i
      calc B ^ (n / 2) ≤ B ^ (n - n / 2) := Nat.pow_le_pow_right B_pos (by omega)
        _ ≤ 2 * s1 := by omega

theorem dcSpec : DcSpec := dcSpec_iff.mpr fun n N hn h1 hlt => dcSqrtremF_spec n n N hn (Nat.le_refl _) h1 hlt

/-! ### mpn_sqrtrem on limb lists, all paths -/

theorem val_getLast (l : List Nat) (hne : l ≠ []) (hl : Limbs l) :
    l.getLastD 0 * B ^ (l.length - 1) ≤ val l ∧ val l < (l.getLastD 0 + 1) * B ^ (l.length - 1) ∧
    l.getLastD 0 < B := by
  rcases List.eq_nil_or_concat l with rfl | ⟨xs, t, rfl⟩
  · exact absurd rfl hne
  · rw [List.concat_eq_append] at hl ⊢
    obtain ⟨hxs, ht⟩ := Limbs_append.mp hl
    have hv := val_lt xs hxs
    rw [val_snoc, List.getLastD_concat, List.length_append, List.length_singleton, Nat.add_sub_cancel, Nat.add_mul,
      Nat.one_mul, Nat.mul_comm t]
    exact ⟨Nat.le_add_left _ _, by omega, (Limbs_cons.mp ht).1⟩

theorem sqrtremVal_spec (u nn high : Nat) (hnn : 0 < nn) (hu1 : high * B ^ (nn - 1) ≤ u)
    (hu2 : u < (high + 1) * B ^ (nn - 1)) (hp : 0 < high) (hB : high < B) :
    sqrtremVal u nn high = (Nat.sqrt u, u - Nat.sqrt u * Nat.sqrt u) := by
  by_cases hbr : nn = 1 ∧ high ≥ B / 2
  · obtain ⟨h1, h2⟩ := hbr
    subst h1
    simp only [Nat.sub_self, pow_zero, Nat.mul_one] at hu1 hu2
    have : u = high := by omega
    subst this
    unfold sqrtremVal
    rw [if_pos ⟨rfl, h2⟩]
    exact (sqrtrem1_sq u (by have := B_eq; omega) hB).eq_sqrt
  · exact sqrtremVal_norm u nn high hnn hu1 hu2 hp hB hbr dcSpec

theorem sqrtrem_full (np : List Nat) (hl : Limbs np) (hne : np ≠ []) (hhi : np.getLastD 0 ≠ 0) :
    val (sqrtrem np).sp = Nat.sqrt (val np) ∧ (sqrtrem np).sp.length = (np.length + 1) / 2 ∧
    val (sqrtrem np).rp = val np - Nat.sqrt (val np) * Nat.sqrt (val np) ∧
    (sqrtrem np).rn = (sqrtrem np).rp.length ∧
    ((sqrtrem np).rn = 0 ↔ ∃ k, val np = k * k) := by
  have hlen : 0 < np.length := List.length_pos_iff.mpr hne
  obtain ⟨g1, g2, g3⟩ := val_getLast np hne hl
  have hv := sqrtremVal_spec (val np) np.length (np.getLastD 0) hlen g1 g2 (Nat.pos_of_ne_zero hhi) g3
  unfold sqrtrem
  dsimp only
  rw [if_neg (by omega), hv]
  dsimp only
  generalize val np = u at *
  -- the root fits in (nn+1)/2 limbs
  have hult : u < B ^ np.length := by
    have : (np.getLastD 0 + 1) * B ^ (np.length - 1) ≤ B * B ^ (np.length - 1) :=
      Nat.mul_le_mul_right _ (by omega)
    have e : B * B ^ (np.length - 1) = B ^ np.length := by
      rw [← pow_succ']; congr 1; omega
    omega
  have hslt : Nat.sqrt u < B ^ ((np.length + 1) / 2) := by
    rw [Nat.sqrt_lt', ← pow_mul]
    exact Nat.lt_of_lt_of_le hult (Nat.pow_le_pow_right B_pos (by omega))
  refine ⟨val_toLimbs_lt _ _ hslt, toLimbs_length _ _, val_natLimbs_eq _, rfl, ?_⟩
  rw [natLimbs_length_eq_zero]
  constructor
  · intro h; exact ⟨Nat.sqrt u, by have := Nat.sqrt_le u; omega⟩
  · rintro ⟨k, rfl⟩; rw [Nat.sqrt_eq]; omega

/-- `mpn_sqrtrem_spec` states "the most significant limb is not zero" with `getLastD`. -/
theorem getLastD_ne_zero {l : List Nat} (h : Normalized l) (hne : l ≠ []) : l.getLastD 0 ≠ 0 := by
  rw [List.getLastD_eq_getLast?, List.getLast?_eq_getLast hne]
  exact (normalized_iff_getLast hne).mp h

theorem natLimbs_wf (v : Nat) (h : v ≠ 0) :
    natLimbs v ≠ [] ∧ Limbs (natLimbs v) ∧ (natLimbs v).getLastD 0 ≠ 0 :=
  have hne : natLimbs v ≠ [] := fun e => h (natLimbs_eq_nil.mp e)
  ⟨hne, Limbs_natLimbs v, getLastD_ne_zero (normalized_natLimbs v) hne⟩

/-! ### mpn_perfect_square_p as a whole; mpz_sqrt, mpz_sqrtrem, mpz_perfect_square_p -/

/-- the third test of mpn_perfect_square_p on ANY limb vector (high zero limbs allowed, all-zero
    included): true exactly for squares. -/
theorem perfectSquareFinal_iff (up : List Nat) (hl : Limbs up) :
    perfectSquareFinal up = true ↔ ∃ k, val up = k * k := by
  have n1 := val_normalize up
  have n2 := normalized_normalize up
  have n3 := Limbs_normalize hl
  unfold perfectSquareFinal
  dsimp only
  generalize normalize up = nz at *
  cases nz with
  | nil =>
    simp only [List.isEmpty_nil, if_true, true_iff]
    exact ⟨0, by rw [← n1]; simp⟩
  | cons x xs =>
    have hne : (x :: xs) ≠ [] := by simp
    have key := (sqrtrem_full (x :: xs) n3 hne (getLastD_ne_zero n2 hne)).2.2.2.2
    rw [n1] at key
    simp only [List.isEmpty_cons, Bool.false_eq_true, if_false, beq_iff_eq]
    exact key

theorem perfsqrFilters_sq (up : List Nat) (k : Nat) (hl : Limbs up) (hne : up ≠ [])
    (hn : up.length + 1 < B) (hv : val up = k * k) :
    sqRes256 (up.headD 0) = true ∧ perfsqrModTest (perfsqrFold (mod34lsub1 up)) = true := by
  constructor
  · obtain ⟨x, xs, rfl⟩ := List.exists_cons_of_ne_nil hne
    have hx := (Limbs_cons.mp hl).1
    have : x = k * k % B := by
      rw [← hv, val_cons, Nat.add_mul_mod_self_left, Nat.mod_eq_of_lt hx]
    simp only [List.headD_cons]
    rw [this]; exact sqRes256_sq k
  · obtain ⟨hc, hlt⟩ := mod34lsub1_congr up hl hn
    obtain ⟨fc, flt⟩ := perfsqrFold_spec _ hlt
    have hb := bits_facts
    have hmod : perfsqrFold (mod34lsub1 up) % (2 ^ mod34Bits - 1) = k * k % (2 ^ mod34Bits - 1) := by
      rw [hb.2.2, fc, hc, hv]
    have hr : perfsqrFold (mod34lsub1 up) < 2 ^ perfsqrModBits := by
      rw [← hb.2.1, hb.2.2]; exact flt
    unfold perfsqrModTest
    rw [List.all_eq_true]
    intro t ht
    exact perfsqrTest_sq t (List.all_eq_true.mp perfsqrTests_ok t ht) k _ hr hmod

theorem perfectSquareP_iff_of (up : List Nat) (hl : Limbs up) (hne : up ≠ []) (hn : up.length + 1 < B)
    (hs : perfectSquareFinal up = true ↔ ∃ k, val up = k * k) :
    perfectSquareP up = true ↔ ∃ k, val up = k * k := by
  unfold perfectSquareP
  generalize hA : sqRes256 (up.headD 0) = A
  generalize hB : perfsqrModTest (perfsqrFold (mod34lsub1 up)) = Bv
  constructor
  · intro h
    cases A <;> cases Bv <;> simp at h
    exact hs.mp h
  · rintro ⟨k, hk⟩
    obtain ⟨h1, h2⟩ := perfsqrFilters_sq up k hl hne hn hk
    rw [hA] at h1; rw [hB] at h2; subst h1; subst h2
    simpa using hs.mpr ⟨k, hk⟩

theorem perfectSquareP_iff (up : List Nat) (hl : Limbs up) (hne : up ≠ []) (hn : up.length + 1 < B) :
    perfectSquareP up = true ↔ ∃ k, val up = k * k :=
  perfectSquareP_iff_of up hl hne hn (perfectSquareFinal_iff up hl)

theorem mpzSqrt_ok (u : Int) (h : 0 ≤ u) : mpzSqrt u = .ok (Nat.sqrt u.toNat : Nat) ∧
    mpzSqrtrem u = .ok ((Nat.sqrt u.toNat : Nat), ((u.toNat - Nat.sqrt u.toNat * Nat.sqrt u.toNat : Nat) : Int)) := by
  by_cases h0 : u = 0
  · subst h0; simp [mpzSqrt, mpzSqrtrem]
  · have hpos : u.toNat ≠ 0 := by omega
    obtain ⟨w1, w2, w3⟩ := natLimbs_wf u.toNat hpos
    obtain ⟨f1, -, f3, -, -⟩ := sqrtrem_full (natLimbs u.toNat) w2 w1 w3
    rw [val_natLimbs_eq u.toNat] at f1 f3
    have hn : ¬ u < 0 := by omega
    simp only [mpzSqrt, mpzSqrtrem, hn, h0, if_false, f1, f3]
    exact ⟨trivial, trivial⟩

theorem mpzPerfectSquareP_iff (u : Int) (hsz : u.toNat + 1 < B ^ (B - 2)) :
    mpzPerfectSquareP u = true ↔ ∃ k : Int, u = k * k := by
  by_cases hneg : u < 0
  · have : ¬ u > 0 := by omega
    simp only [mpzPerfectSquareP, this, if_false]
    constructor
    · intro h; simp at h; omega
    · rintro ⟨k, rfl⟩; exact absurd hneg (not_lt.mpr (mul_self_nonneg k))
  · by_cases h0 : u = 0
    · subst h0; simp [mpzPerfectSquareP]
    · have hpos : u.toNat ≠ 0 := by omega
      have hgt : u > 0 := by omega
      obtain ⟨w1, w2, -⟩ := natLimbs_wf u.toNat hpos
      have hlen : (natLimbs u.toNat).length + 1 < B := by
        have := (natLimbs_length_le_iff u.toNat (B - 2)).mpr (by omega)
        have := B_eq
        omega
      have key := perfectSquareP_iff (natLimbs u.toNat) w2 w1 hlen
      rw [val_natLimbs_eq u.toNat] at key
      simp only [mpzPerfectSquareP, hgt, if_true]
      rw [key]
      constructor
      · rintro ⟨k, hk⟩; exact ⟨k, by have : (u.toNat : Int) = u := Int.toNat_of_nonneg (by omega); rw [← this, hk]; push_cast; ring⟩
      · rintro ⟨k, hk⟩
        refine ⟨k.natAbs, ?_⟩
        have : (u.toNat : Int) = (k.natAbs * k.natAbs : Nat) := by
          rw [Int.toNat_of_nonneg (by omega), hk]; push_cast; rcases abs_choice k with h | h <;> rw [h] <;> ring
        exact_mod_cast this

end Mpir.Root
