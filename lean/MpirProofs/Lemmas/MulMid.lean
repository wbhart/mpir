/- The middle product models of Mpir/Model/MulMid.lean (mulmid_basecase.c, mulmid.c, mulmid_n.c) return MP, the middle
   product `mpW` of the specification: `IsMP` (the rn + 2 limbs are MP of rn diagonals), the basecase (`basecase_isMP`), what is
   assumed of mpn_toom42_mulmid (`TmSpec`, met by `tmSpec`: `tmSpec_ok`), arithmetic of `mpW` (splitting by diagonals
   `mpW_hsplit` and by rows `mpW_vsplit`, bounds), one step and the whole of a wide region (chunks of diagonals: `hcomb`,
   `hloop_spec`, `hregion`) and of a tall region (chunks of rows: `vcomb`, `vloop_spec`, `vregion`), the driver
   (`mulmid_isMP`), and last the header formula of mulmid.c as a sum over index pairs (`pairsR_eq`). -/
import Mpir.Model.MulMid
import MpirProofs.Lemmas.Base
import MpirProofs.Lemmas.Kernels
import Mathlib.Tactic.Ring
import Mathlib.Tactic.Linarith
import Mathlib.Tactic.LinearCombination
namespace Mpir.MulMid
open Mpir

/-! ### mpn_mulmid_basecase -/

theorem win_length (a : List Nat) (s rn : Nat) (h : s + rn ≤ a.length) : (win a s rn).length = rn := by
  simp only [win, List.length_take, List.length_drop]; omega

theorem win_limbs {a : List Nat} (ha : Limbs a) (s rn : Nat) : Limbs (win a s rn) := Limbs_take (Limbs_drop ha _) _

/-- add_ssaaaa (hi, lo, hi, lo, 0, temp) is the exact two-limb sum while at most B rows have been accumulated -/
theorem addSs0_spec (hi lo temp k : Nat) (hlo : lo < B) (hhi : hi < B) (ht : temp < B)
    (hk : lo + B * hi ≤ k * (B - 1)) (hkB : k + 1 ≤ B) :
    (addSs0 hi lo temp).2 + B * (addSs0 hi lo temp).1 = lo + B * hi + temp ∧
    (addSs0 hi lo temp).1 < B ∧ (addSs0 hi lo temp).2 < B ∧
    (addSs0 hi lo temp).2 + B * (addSs0 hi lo temp).1 ≤ (k + 1) * (B - 1) := by
  simp only [addSs0, boolToNat_decide]
  simp only [B_eq] at *
  split <;> omega

/-- the addmul_1 rows of the basecase: {rp, un} + B^un·(lo + B·hi) grows by exactly the rows' share of MP (`k`: the number of
    rows accumulated so far, which bounds the two carry limbs) -/
theorem rows_val (a : List Nat) (ha : Limbs a) (un : Nat) : ∀ (vs rp : List Nat) (lo hi k : Nat),
    Limbs vs → Limbs rp → rp.length = un → lo < B → hi < B → lo + B * hi ≤ k * (B - 1) → k + vs.length ≤ B →
    vs.length - 1 + un ≤ a.length →
    val (rows a un vs rp lo hi).1 + B ^ un * ((rows a un vs rp lo hi).2.1 + B * (rows a un vs rp lo hi).2.2)
      = val rp + B ^ un * (lo + B * hi) + mpW un a vs ∧
    Limbs (rows a un vs rp lo hi).1 ∧ (rows a un vs rp lo hi).1.length = un ∧
    (rows a un vs rp lo hi).2.1 < B ∧ (rows a un vs rp lo hi).2.2 < B
  | [], rp, lo, hi, k, _, hrp, hl, hlo, hhi, _, _, _ => by simp [rows, mpW, hrp, hl, hlo, hhi]
  | v :: vs, rp, lo, hi, k, hvs, hrp, hl, hlo, hhi, hk, hkB, hlen => by
    have ⟨hv, hvs'⟩ := Limbs_cons.mp hvs
    simp only [List.length_cons] at hkB hlen
    have hwl : (win a vs.length un).length = un := win_length a _ _ (by omega)
    obtain ⟨av, ac, al, an⟩ := addmul1C_val v hv rp (win a vs.length un) 0 hrp (win_limbs ha _ _)
      (by rw [hl, hwl]) B_pos
    rw [hwl] at av an
    obtain ⟨es, s1, s2, sk⟩ := addSs0_spec hi lo (addmul1C rp (win a vs.length un) v 0).2 k hlo hhi ac hk (by omega)
    have step : rows a un (v :: vs) rp lo hi =
        rows a un vs (addmul1C rp (win a vs.length un) v 0).1
          (addSs0 hi lo (addmul1C rp (win a vs.length un) v 0).2).2
          (addSs0 hi lo (addmul1C rp (win a vs.length un) v 0).2).1 := by
      simp only [rows, addmul_1]
    obtain ⟨ihv, ihl, ihn, ih1, ih2⟩ := rows_val a ha un vs _ _ _ (k + 1) hvs' al an s2 s1 sk (by omega) (by omega)
    rw [step]
    refine ⟨?_, ihl, ihn, ih1, ih2⟩
    rw [ihv]
    simp only [mpW]
    linear_combination av + B ^ un * es

/-- result {rp, rn+2} is MP of rn diagonals -/
def IsMP (r : List Nat) (rn : Nat) (a b : List Nat) : Prop := val r = mpW rn a b ∧ Limbs r ∧ r.length = rn + 2

/-- mpn_mulmid_basecase on {a, un} × b: the un - vn + 3 limbs are MP exactly (`rn` names the un - vn + 1 diagonals) -/
theorem basecase_isMP (a b : List Nat) (un rn : Nat) (ha : Limbs a) (hb : Limbs b) (hvn : 1 ≤ b.length)
    (hrn : un + 1 = rn + b.length) (hrn1 : 1 ≤ rn) (hal : un ≤ a.length) (hB : b.length ≤ B) :
    IsMP (mulmid_basecase a un b) rn a b := by
  cases b with
  | nil => simp at hvn
  | cons v0 vs =>
    have ⟨hv0, hvs⟩ := Limbs_cons.mp hb
    rw [List.length_cons] at hrn hB
    obtain rfl : rn = un - vs.length := by omega
    have hwl : (win a vs.length (un - vs.length)).length = un - vs.length := win_length a _ _ (by omega)
    obtain ⟨mv, mc, ml, mn⟩ := mul1C_val v0 hv0 (win a vs.length (un - vs.length)) 0 (win_limbs ha _ _) B_pos
    rw [hwl] at mv mn
    obtain ⟨rv, rl, rn, r1, r2⟩ := rows_val a ha (un - vs.length) vs _ _ 0 1 hvs ml mn mc B_pos
      (by simp only [B_eq] at *; omega) (by omega) (by omega)
    unfold mulmid_basecase
    dsimp only [mul_1]
    refine ⟨?_, Limbs_append.mpr ⟨rl, Limbs_cons.mpr ⟨r1, Limbs_cons.mpr ⟨r2, Limbs_nil⟩⟩⟩, by simp [rn]⟩
    simp only [val_append, val_cons, val_nil, rn, mpW]
    linear_combination rv + mv

/-- the specification of mpn_toom42_mulmid (toom42_mulmid.c header): {rp, n+2} = MP({ap, 2n-1}, {bp, n}), for the sizes n ≥ T =
    MULMID_TOOM42_THRESHOLD at which mulmid_n.c / mulmid.c call it -/
def TmSpec (T : Nat) (tm : List Nat → List Nat → Nat → List Nat) : Prop :=
  ∀ (a b : List Nat) (n : Nat), Limbs a → Limbs b → b.length = n → 1 ≤ n → T ≤ n → n ≤ B → 2 * n - 1 ≤ a.length →
    val (tm a b n) = mpW n a b ∧ Limbs (tm a b n) ∧ (tm a b n).length = n + 2

/-! ### arithmetic of `mpW`; the add-back of the two saved limbs -/

theorem val_take_add (k : Nat) (l : List Nat) (r : Nat) :
    val (l.take (k + r)) = val (l.take k) + B ^ k * val ((l.drop k).take r) := by
  rw [val_split (l.take (k + r)) k, List.take_take, List.drop_take, Nat.min_eq_left (Nat.le_add_right k r),
    Nat.add_sub_cancel_left]

/-- splitting MP by diagonals: the first k diagonals, then r more on the operand advanced by k (`ap += k`) -/
theorem mpW_hsplit (k r : Nat) (a : List Nat) : ∀ b : List Nat,
    mpW (k + r) a b = mpW k a b + B ^ k * mpW r (a.drop k) b
  | [] => by simp [mpW]
  | b0 :: bs => by
    simp only [mpW, win, mpW_hsplit k r a bs, val_take_add k _ r, List.drop_drop]
    rw [Nat.add_comm k bs.length]
    ring

/-- splitting MP by rows: the high rows `hi` on a, the low rows on the operand advanced by |hi| (`ap += |hi|`) -/
theorem mpW_vsplit (rn : Nat) (a hi : List Nat) : ∀ lo : List Nat,
    mpW rn a (lo ++ hi) = mpW rn (a.drop hi.length) lo + mpW rn a hi
  | [] => by simp [mpW]
  | b0 :: bs => by
    simp only [List.cons_append, mpW, win, mpW_vsplit rn a hi bs, List.length_append, List.drop_drop]
    rw [Nat.add_comm bs.length hi.length]
    ring

/-- MP of n rows of rn diagonals is below n·B^(rn+1): it fits rn + 2 limbs while n ≤ B, and its top limb is below n -/
theorem mpW_le (rn : Nat) (a : List Nat) (ha : Limbs a) : ∀ b : List Nat, Limbs b →
    mpW rn a b + b.length * B ^ rn ≤ b.length * B ^ (rn + 1)
  | [], _ => by simp [mpW]
  | b0 :: bs, hb => by
    have ⟨h0, hbs⟩ := Limbs_cons.mp hb
    have ih := mpW_le rn a ha bs hbs
    have hw : val (win a bs.length rn) < B ^ rn := val_take_lt (Limbs_drop ha _) rn
    -- one row: b0·w + B^rn ≤ (B-1)·B^rn + B^rn = B^(rn+1)
    have h1 : b0 * val (win a bs.length rn) ≤ (B - 1) * B ^ rn := Nat.mul_le_mul (by omega) hw.le
    have h2 : (B - 1) * B ^ rn + B ^ rn = B ^ (rn + 1) := by
      rw [← Nat.add_one_mul, Nat.sub_add_cancel B_pos, pow_succ, Nat.mul_comm]
    rw [mpW, List.length_cons, Nat.add_one_mul, Nat.add_one_mul]
    omega

/-- the two limbs above the first k of a (k+2)-limb vector: `t0 = rp[0], t1 = rp[1]` after `rp += k` -/
theorem top2 : ∀ (k : Nat) (l : List Nat), l.length = k + 2 → Limbs l →
    val l = val (l.take k) + B ^ k * (l.getD k 0 + B * l.getD (k + 1) 0) ∧ l.getD k 0 < B ∧ l.getD (k + 1) 0 < B ∧
    (l.take k).length = k
  | 0, [x, y], _, h => by
    have ⟨hx, hy⟩ := Limbs_cons.mp h
    have ⟨hy, _⟩ := Limbs_cons.mp hy
    simp [hx, hy]
  | k + 1, z :: l, hl, h => by
    have ⟨hz, hl'⟩ := Limbs_cons.mp h
    obtain ⟨e, h0, h1, h2⟩ := top2 k l (by simpa using hl) hl'
    simp only [List.take_succ_cons, val_cons, List.getD_cons_succ, pow_succ, List.length_cons, h2]
    refine ⟨?_, h0, h1, trivial⟩
    rw [e]; ring

theorem addc_limb (x y : Nat) (hx : x < B) (hy : y < B) :
    (x + y) % B + B * boolToNat (decide ((x + y) % B < x)) = x + y ∧ (x + y) % B < B :=
  ⟨add_carry x y hx hy, Nat.mod_lt _ B_pos⟩

/-- ADDC_LIMB + MPN_INCR_U: the region grows by t0 + B·t1, with mpn_add_1's carry c made explicit -/
theorem addback_val (r0 r1 : Nat) (rs : List Nat) (t0 t1 : Nat) (h : Limbs (r0 :: r1 :: rs)) (h0 : t0 < B) (h1 : t1 + 1 < B) :
    ∃ c, val (addback (r0 :: r1 :: rs) t0 t1) + B ^ (rs.length + 2) * c = val (r0 :: r1 :: rs) + t0 + B * t1 ∧
      Limbs (addback (r0 :: r1 :: rs) t0 t1) ∧ (addback (r0 :: r1 :: rs) t0 t1).length = rs.length + 2 := by
  have ⟨hr0, hr⟩ := Limbs_cons.mp h
  obtain ⟨e, wl⟩ := addc_limb r0 t0 hr0 h0
  have hcy : boolToNat (decide ((r0 + t0) % B < r0)) ≤ 1 := boolToNat_le _
  have hm : (t1 + boolToNat (decide ((r0 + t0) % B < r0))) % B = t1 + boolToNat (decide ((r0 + t0) % B < r0)) :=
    Nat.mod_eq_of_lt (by omega)
  obtain ⟨av, _, al, an⟩ := add_1_val' (r1 :: rs) (t1 + boolToNat (decide ((r0 + t0) % B < r0))) hr (Nat.succ_pos _) (by omega)
  simp only [List.length_cons] at av an
  refine ⟨(add_1 (r1 :: rs) (t1 + boolToNat (decide ((r0 + t0) % B < r0)))).2, ?_, ?_, ?_⟩
  · simp only [addback, hm, val_cons, pow_succ] at *
    linear_combination e + B * av
  · simp only [addback, hm]; exact Limbs_cons.mpr ⟨wl, al⟩
  · simp only [addback, hm, List.length_cons, an]

theorem mpW_lt (rn : Nat) (a b : List Nat) (ha : Limbs a) (hb : Limbs b) (hB : b.length ≤ B) :
    mpW rn a b < B ^ (rn + 2) := by
  have h := mpW_le rn a ha b hb
  have h1 : b.length * B ^ (rn + 1) ≤ B * B ^ (rn + 1) := Nat.mul_le_mul_right _ hB
  have e : B * B ^ (rn + 1) = B ^ (rn + 2) := by rw [pow_succ _ (rn + 1), Nat.mul_comm]
  rcases Nat.eq_zero_or_pos b.length with h0 | h0
  · rw [List.eq_nil_of_length_eq_zero h0, mpW]
    exact Nat.pow_pos B_pos
  · have : 0 < b.length * B ^ rn := Nat.mul_pos h0 (Nat.pow_pos B_pos)
    omega

theorem mpW_top (rn : Nat) (a b : List Nat) (ha : Limbs a) (hb : Limbs b) (hbn : 1 ≤ b.length) (lo t : Nat)
    (h : lo + B ^ (rn + 1) * t = mpW rn a b) : t < b.length := by
  have h' := mpW_le rn a ha b hb
  have hp : 0 < b.length * B ^ rn := Nat.mul_pos hbn (Nat.pow_pos B_pos)
  have : B ^ (rn + 1) * t < B ^ (rn + 1) * b.length := by
    rw [Nat.mul_comm _ b.length]; omega
  exact Nat.lt_of_mul_lt_mul_left this

/-! ### wide regions (chunks of diagonals) and tall regions (chunks of rows) of mulmid.c -/

/-- one step of a wide region: the next chunk's MP with the two saved limbs added back continues the result exactly -/
theorem hcomb (a b pre cur new : List Nat) (k r : Nat) (ha : Limbs a) (hb : Limbs b) (hbn : 1 ≤ b.length)
    (hB : b.length < B) (hcur : Limbs cur) (hcl : cur.length = k + 2)
    (hv : val (pre ++ cur) = mpW (pre.length + k) a b)
    (hnew : val new = mpW r (a.drop (pre.length + k)) b) (hnl : Limbs new) (hnn : new.length = r + 2) :
    val (pre ++ cur.take k ++ addback new (cur.getD k 0) (cur.getD (k + 1) 0)) = mpW (pre.length + k + r) a b ∧
    Limbs (addback new (cur.getD k 0) (cur.getD (k + 1) 0)) ∧
    (addback new (cur.getD k 0) (cur.getD (k + 1) 0)).length = r + 2 := by
  obtain ⟨e, h0, h1, h2⟩ := top2 k cur hcl hcur
  generalize cur.getD k 0 = t0 at *
  generalize cur.getD (k + 1) 0 = t1 at *
  rw [val_append, e] at hv
  have ht1 : t1 < b.length := by
    apply mpW_top (pre.length + k) a b ha hb hbn (val pre + B ^ pre.length * (val (cur.take k) + B ^ k * t0)) t1
    rw [← hv]; simp only [pow_add, pow_succ]; ring
  match new, hnn, hnl, hnew with
  | r0 :: r1 :: rs, hnn, hnl, hnew =>
    have hrs : rs.length = r := by simpa using hnn
    obtain ⟨c, av, al, an⟩ := addback_val r0 r1 rs t0 t1 hnl h0 (by omega)
    rw [hrs] at av an
    have hs := mpW_hsplit (pre.length + k) r a b
    have hlt := mpW_lt (pre.length + k + r) a b ha hb (by omega)
    have key : val pre + B ^ pre.length * val (cur.take k) +
        B ^ (pre.length + k) * val (addback (r0 :: r1 :: rs) t0 t1) + B ^ (pre.length + k + r + 2) * c
        = mpW (pre.length + k + r) a b := by
      rw [hs, ← hv, ← hnew]; linear_combination B ^ (pre.length + k) * av
    refine ⟨?_, al, an⟩
    rw [← (carry_zero key hlt).2]
    simp only [val_append, List.length_append, h2, pow_add]

/-- one step of a tall region: mpn_add_n of the next chunk's MP (lower rows, operand advanced) is exact, carry 0 -/
theorem vcomb (a lo hi rp temp : List Nat) (rn : Nat) (ha : Limbs a) (hlo : Limbs lo) (hhi : Limbs hi)
    (hB : lo.length + hi.length ≤ B)
    (hrv : val rp = mpW rn a hi) (hrl : Limbs rp) (hrn : rp.length = rn + 2)
    (htv : val temp = mpW rn (a.drop hi.length) lo) (htl : Limbs temp) (htn : temp.length = rn + 2) :
    val (add_n rp temp).1 = mpW rn a (lo ++ hi) ∧ Limbs (add_n rp temp).1 ∧ (add_n rp temp).1.length = rn + 2 := by
  obtain ⟨av, _, al, an⟩ := add_n_val' rp temp hrl htl (by omega)
  have hlt := mpW_lt rn a (lo ++ hi) ha (Limbs_append.mpr ⟨hlo, hhi⟩) (by simpa using hB)
  rw [hrn] at av an
  exact ⟨(carry_zero (av.trans (by rw [mpW_vsplit rn a hi lo, ← hrv, ← htv]; omega)) hlt).2, al, an⟩

theorem win_append_drop (b : List Nat) (bn c : Nat) (h : c ≤ bn) : win b (bn - c) c ++ b.drop bn = b.drop (bn - c) := by
  have : b.drop bn = (b.drop (bn - c)).drop c := by rw [List.drop_drop]; congr 1; omega
  rw [this, win, List.take_append_drop]

/-- the tall loops: invariant rp = MP(a0, rows bn.. of b), ap + c = a0 + (|b| - bn) -/
theorem vloop_spec (f : List Nat → List Nat → List Nat) (c rn : Nat) (a0 b : List Nat) (ha0 : Limbs a0) (hb : Limbs b)
    (hB : b.length ≤ B) (hal : rn + b.length - 1 ≤ a0.length)
    (hf : ∀ a' bc, Limbs a' → Limbs bc → bc.length = c → rn + c - 1 ≤ a'.length → IsMP (f a' bc) rn a' bc) :
    ∀ (bn : Nat) (a rp : List Nat), bn ≤ b.length → a.drop c = a0.drop (b.length - bn) → IsMP rp rn a0 (b.drop bn) →
      (vloop f c a b bn rp).2.2 ≤ bn ∧ ((vloop f c a b bn rp).2.2 < c ∨ c = 0) ∧
      (vloop f c a b bn rp).2.1.drop c = a0.drop (b.length - (vloop f c a b bn rp).2.2) ∧
      IsMP (vloop f c a b bn rp).1 rn a0 (b.drop (vloop f c a b bn rp).2.2) := by
  intro bn
  induction bn using Nat.strong_induction_on with
  | _ bn ih =>
    intro a rp hbn hap hrp
    rw [vloop]
    split
    · rename_i h
      obtain ⟨hc0, hcb⟩ := h
      dsimp only
      have hbcl : (win b (bn - c) c).length = c := win_length b _ _ (by omega)
      have ha' : Limbs (a.drop c) := by rw [hap]; exact Limbs_drop ha0 _
      have hfs := hf (a.drop c) (win b (bn - c) c) ha' (win_limbs hb _ _) hbcl
        (by rw [hap, List.length_drop]; omega)
      obtain ⟨tv, tl, tn⟩ := hfs
      obtain ⟨rv, rl, rn'⟩ := hrp
      have hdl : (b.drop bn).length = b.length - bn := List.length_drop
      have hcomb := vcomb a0 (win b (bn - c) c) (b.drop bn) rp (f (a.drop c) (win b (bn - c) c)) rn ha0
        (win_limbs hb _ _) (Limbs_drop hb _) (by rw [hbcl, hdl]; omega) rv rl rn'
        (by rw [tv, hdl, hap]) tl tn
      rw [win_append_drop b bn c hcb] at hcomb
      obtain ⟨i1, i2, i3, i4⟩ := ih (bn - c) (by omega) (a.drop c) _ (by omega)
        (by rw [hap, List.drop_drop]; congr 1; omega) hcomb
      exact ⟨by omega, i2, i3, i4⟩
    · rename_i h
      refine ⟨le_refl _, ?_, hap, hrp⟩
      by_cases hc : c = 0
      · exact Or.inr hc
      · left; simp only [not_and, not_le] at h; exact h (by omega)

/-- invariant of the wide loops, state r = (done, cur, ap, x): x - e diagonals remain beyond the current chunk, `tot` = diagonals
    before the current chunk + remaining ones (constant), ap = a0 + |done|, done ++ cur = MP of the first |done| + k diagonals -/
def HInv (k e : Nat) (a0 b : List Nat) (tot : Nat) (r : List Nat × List Nat × List Nat × Nat) : Prop :=
  e ≤ r.2.2.2 ∧ r.2.2.1 = a0.drop r.1.length ∧ val (r.1 ++ r.2.1) = mpW (r.1.length + k) a0 b ∧
  Limbs r.1 ∧ Limbs r.2.1 ∧ r.2.1.length = k + 2 ∧ r.1.length + (r.2.2.2 - e) = tot

theorem hloop_spec (f : List Nat → List Nat) (k e : Nat) (a0 b : List Nat) (tot : Nat) (ha0 : Limbs a0) (hb : Limbs b)
    (hbn : 1 ≤ b.length) (hB : b.length < B) (hk : 0 < k) (hal : tot + k + b.length - 1 ≤ a0.length)
    (hf : ∀ a', Limbs a' → k + b.length - 1 ≤ a'.length → IsMP (f a') k a' b) :
    ∀ (x : Nat) (a done cur : List Nat), HInv k e a0 b tot (done, cur, a, x) →
      HInv k e a0 b tot (hloop f k (k + e) a x done cur) ∧ (hloop f k (k + e) a x done cur).2.2.2 < k + e := by
  intro x
  induction x using Nat.strong_induction_on with
  | _ x ih =>
    intro a done cur hinv
    rw [hloop]
    split
    · rename_i h
      obtain ⟨_, hx0, hwx⟩ := h
      dsimp only
      obtain ⟨i1, i2, i3, i4, i5, i6, i7⟩ := hinv
      simp only at i1 i2 i3 i4 i5 i6 i7
      have ha' : a.drop k = a0.drop (done.length + k) := by rw [i2, List.drop_drop]
      have hfs := hf (a.drop k) (by rw [ha']; exact Limbs_drop ha0 _) (by rw [ha', List.length_drop]; omega)
      obtain ⟨nv, nl, nn⟩ := hfs
      obtain ⟨c1, c2, c3⟩ := hcomb a0 b done cur (f (a.drop k)) k k ha0 hb hbn hB i5 i6 i3 (by rw [nv, ha']) nl nn
      have h2 := (top2 k cur i6 i5).2.2.2
      apply ih (x - k) (by omega)
      refine ⟨?_, ?_, ?_, ?_, c2, c3, ?_⟩
      · simp only; omega
      · simp only [List.length_append, h2]; exact ha'
      · simp only [List.length_append, h2]; rw [← c1, List.append_assoc]
      · exact Limbs_append.mpr ⟨i4, Limbs_take i5 _⟩
      · simp only [List.length_append, h2]; omega
    · rename_i h
      refine ⟨hinv, ?_⟩
      simp only [not_and, not_le] at h
      have := hinv.1
      simp only at this ⊢
      by_cases hx : 0 < x
      · exact h hk hx
      · omega

/-- a tall region of mulmid.c: first chunk (top c rows), the loop, the last chunk of fewer than c rows by `g` -/
theorem vregion (f : List Nat → List Nat → List Nat) (g : List Nat → Nat → List Nat → List Nat) (c rn : Nat) (a b : List Nat)
    (ha : Limbs a) (hb : Limbs b) (hB : b.length ≤ B) (hal : rn + b.length - 1 ≤ a.length) (hc : 0 < c) (hcb : c ≤ b.length)
    (hf : ∀ a' bc, Limbs a' → Limbs bc → bc.length = c → rn + c - 1 ≤ a'.length → IsMP (f a' bc) rn a' bc)
    (hg : ∀ a' lo, Limbs a' → Limbs lo → 0 < lo.length → lo.length < c → lo.length + c ≤ b.length →
      rn + lo.length - 1 ≤ a'.length → IsMP (g a' lo.length lo) rn a' lo) :
    IsMP (if (vloop f c a b (b.length - c) (f a (win b (b.length - c) c))).2.2 ≠ 0 then
        (add_n (vloop f c a b (b.length - c) (f a (win b (b.length - c) c))).1
          (g ((vloop f c a b (b.length - c) (f a (win b (b.length - c) c))).2.1.drop c)
             (vloop f c a b (b.length - c) (f a (win b (b.length - c) c))).2.2
             (win b 0 (vloop f c a b (b.length - c) (f a (win b (b.length - c) c))).2.2))).1
      else (vloop f c a b (b.length - c) (f a (win b (b.length - c) c))).1) rn a b := by
  have hwl : (win b (b.length - c) c).length = c := win_length b _ _ (by omega)
  have hwe : win b (b.length - c) c = b.drop (b.length - c) := by
    rw [win]; apply List.take_of_length_le; rw [List.length_drop]; omega
  have h0 := hf a (win b (b.length - c) c) ha (win_limbs hb _ _) hwl (by omega)
  rw [hwe] at h0
  have H := vloop_spec f c rn a b ha hb hB hal hf (b.length - c) a (f a (win b (b.length - c) c)) (by omega)
    (by congr 1; omega) (by rw [hwe]; exact h0)
  generalize vloop f c a b (b.length - c) (f a (win b (b.length - c) c)) = st at H
  obtain ⟨s1, s2, s3, s4⟩ := H
  split
  · rename_i hne
    have hlt : st.2.2 < c := by rcases s2 with h | h <;> omega
    have hwt : win b 0 st.2.2 = b.take st.2.2 := by simp [win]
    have htl : (b.take st.2.2).length = st.2.2 := by rw [List.length_take]; omega
    have hgs := hg (st.2.1.drop c) (b.take st.2.2) (by rw [s3]; exact Limbs_drop ha _) (Limbs_take hb _)
      (by omega) (by omega) (by omega) (by rw [s3, List.length_drop]; omega)
    rw [htl] at hgs
    obtain ⟨tv, tl, tn⟩ := hgs
    obtain ⟨rv, rl, rn'⟩ := s4
    have hdl : (b.drop st.2.2).length = b.length - st.2.2 := List.length_drop
    have := vcomb a (b.take st.2.2) (b.drop st.2.2) st.1 (g (st.2.1.drop c) st.2.2 (b.take st.2.2)) rn ha
      (Limbs_take hb _) (Limbs_drop hb _) (by rw [htl, hdl]; omega) rv rl rn' (by rw [tv, hdl, s3]) tl tn
    rw [List.take_append_drop] at this
    rw [hwt]; exact this
  · rename_i hne
    have : st.2.2 = 0 := by omega
    rw [this] at s4
    simpa using s4

/-- a wide region of mulmid.c with D diagonals: first chunk of k diagonals, the loop (loop variable x starting at x0 = D - k + e,
    x - e = diagonals beyond the current chunk, loop bound w = k + e), then either a last chunk of d = x - e < k diagonals by `g`
    with add-back, or nothing -/
theorem hregion (f : List Nat → List Nat) (g : List Nat → Nat → List Nat) (k e w x0 D : Nat) (a b : List Nat)
    (ha : Limbs a) (hb : Limbs b) (hbn : 1 ≤ b.length) (hB : b.length < B) (hk : 0 < k) (hD : k ≤ D)
    (hw : w = k + e) (hx0 : x0 + k = D + e) (hal : D + b.length - 1 ≤ a.length)
    (hf : ∀ a', Limbs a' → k + b.length - 1 ≤ a'.length → IsMP (f a') k a' b)
    (hg : ∀ a' d, Limbs a' → 0 < d → d < k → d + k ≤ D → d + b.length - 1 ≤ a'.length → IsMP (g a' (d + e)) d a' b) :
    e ≤ (hloop f k w a x0 [] (f a)).2.2.2 ∧
    (e < (hloop f k w a x0 [] (f a)).2.2.2 →
      IsMP ((hloop f k w a x0 [] (f a)).1 ++ (hloop f k w a x0 [] (f a)).2.1.take k ++
        addback (g ((hloop f k w a x0 [] (f a)).2.2.1.drop k) (hloop f k w a x0 [] (f a)).2.2.2)
          ((hloop f k w a x0 [] (f a)).2.1.getD k 0) ((hloop f k w a x0 [] (f a)).2.1.getD (k + 1) 0)) D a b) ∧
    ((hloop f k w a x0 [] (f a)).2.2.2 = e →
      IsMP ((hloop f k w a x0 [] (f a)).1 ++ (hloop f k w a x0 [] (f a)).2.1) D a b) := by
  obtain rfl : x0 = D - k + e := by omega
  subst hw
  obtain ⟨fv, fl, fn⟩ := hf a ha (by omega)
  have H := hloop_spec f k e a b (D - k) ha hb hbn hB hk (by omega) hf (D - k + e) a [] (f a)
    ⟨by simp only; omega, by simp, by simpa using fv, Limbs_nil, fl, fn, by simp only [List.length_nil]; omega⟩
  generalize hloop f k (k + e) a (D - k + e) [] (f a) = st at H
  obtain ⟨⟨i1, i2, i3, i4, i5, i6, i7⟩, hlt⟩ := H
  have h2 := (top2 k st.2.1 i6 i5).2.2.2
  refine ⟨i1, fun hx => ?_, fun hx => ?_⟩
  · obtain ⟨d, hd⟩ : ∃ d, st.2.2.2 = d + e := ⟨st.2.2.2 - e, by omega⟩
    have ha' : st.2.2.1.drop k = a.drop (st.1.length + k) := by rw [i2, List.drop_drop]
    obtain ⟨nv, nl, nn⟩ := hg (st.2.2.1.drop k) d (by rw [ha']; exact Limbs_drop ha _) (by omega) (by omega) (by omega)
      (by rw [ha', List.length_drop]; omega)
    obtain ⟨c1, c2, c3⟩ := hcomb a b st.1 st.2.1 _ k d ha hb hbn hB i5 i6 i3 (by rw [nv, ha']) nl nn
    rw [show st.1.length + k + d = D by omega] at c1
    rw [hd]
    exact ⟨c1, Limbs_append.mpr ⟨Limbs_append.mpr ⟨i4, Limbs_take i5 _⟩, c2⟩,
      by simp only [List.length_append, h2, c3]; omega⟩
  · rw [show st.1.length + k = D by omega] at i3
    exact ⟨i3, Limbs_append.mpr ⟨i4, i5⟩, by simp only [List.length_append, i6]; omega⟩

/-! ### mpn_mulmid (mulmid.c) -/

/-- `rn` names the an - bn + 1 diagonals of the result -/
theorem mulmid_isMP (T : Nat) (tm : List Nat → List Nat → Nat → List Nat) (htm : TmSpec T tm) :
    ∀ (fuel : Nat) (a : List Nat) (an rn : Nat) (b : List Nat), Limbs a → Limbs b → 1 ≤ b.length → 1 ≤ rn →
      an + 1 = rn + b.length → an ≤ a.length → b.length < B → an ≤ fuel → IsMP (mulmid T tm fuel a an b) rn a b
  | 0, a, an, rn, b, _, _, h1, h2, h3, _, _, h5 => by omega
  | fuel + 1, a, an, rn, b, ha, hb, hbn, hrn1, hrn, hal, hB, hfuel => by
    have ih := mulmid_isMP T tm htm fuel
    have htm' : ∀ (a' bc : List Nat) (n : Nat), Limbs a' → Limbs bc → bc.length = n → 1 ≤ n → T ≤ n → n ≤ B →
        2 * n - 1 ≤ a'.length → IsMP (tm a' bc n) n a' bc := htm
    rw [mulmid]
    dsimp only
    rw [show an - b.length + 1 = rn by omega]
    split
    · -- bn < T: chunks of CHUNK - bn + 1 diagonals by the basecase
      split
      · exact basecase_isMP a b an rn ha hb hbn hrn hrn1 hal (by omega)
      · obtain ⟨r1, r2, r3⟩ := hregion (fun a' => mulmid_basecase a' (200 + T) b) (fun a' x' => mulmid_basecase a' x' b)
          (200 + T - b.length + 1) (b.length - 1) (200 + T) (an - (200 + T - b.length + 1)) rn a b ha hb hbn hB
          (by omega) (by omega) (by omega) (by omega) (by omega)
          (fun a' ha' hl => basecase_isMP a' b _ _ ha' hb hbn (by omega) (by omega) (by omega) (by omega))
          (fun a' d ha' h1 h2 h3 h4 => basecase_isMP a' b _ _ ha' hb hbn (by omega) h1 (by omega) (by omega))
        split
        · exact r2 (by omega)
        · exact r3 (by omega)
    · split
      · -- rn < T ≤ bn: chunks of CHUNK rows by the basecase
        split
        · exact basecase_isMP a b an rn ha hb hbn hrn hrn1 hal (by omega)
        · exact vregion (fun a' bc => mulmid_basecase a' (an - (b.length - (200 + T))) bc)
            (fun a' n lo => mulmid_basecase a' (rn + n - 1) lo) (200 + T) rn a b ha hb
            (by omega) (by omega) (by omega) (by omega)
            (fun a' bc ha' hbc hl h => basecase_isMP a' bc _ rn ha' hbc (by omega) (by omega) hrn1 (by omega) (by omega))
            (fun a' lo ha' hlo h1 h2 h3 h4 =>
              basecase_isMP a' lo _ rn ha' hlo h1 (by omega) hrn1 (by omega) (by omega))
      · split
        · -- T ≤ rn < bn: chunks of rn rows by toom42, the last one by mpn_mulmid itself
          exact vregion (fun a' bc => tm a' bc rn) (fun a' n lo => mulmid T tm fuel a' (rn + n - 1) lo) rn rn a b ha hb
            (by omega) (by omega) (by omega) (by omega)
            (fun a' bc ha' hbc hl h => htm' a' bc _ ha' hbc hl (by omega) (by omega) (by omega) (by omega))
            (fun a' lo ha' hlo h1 h2 h3 h4 =>
              ih a' _ rn lo ha' hlo h1 hrn1 (by omega) (by omega) (by omega) (by omega))
        · -- T ≤ bn ≤ rn: chunks of bn diagonals by toom42, the last one by mpn_mulmid itself
          obtain ⟨r1, r2, r3⟩ := hregion (fun a' => tm a' b b.length)
            (fun a' x' => mulmid T tm fuel a' (x' + b.length - 1) b) b.length 0 b.length (rn - b.length) rn a b ha hb hbn hB
            (by omega) (by omega) rfl (by omega) (by omega)
            (fun a' ha' hl => htm' a' b _ ha' hb rfl hbn (by omega) (by omega) (by omega))
            (fun a' d ha' h1 h2 h3 h4 => ih a' _ d b ha' hb hbn h1 (by omega) (by omega) hB (by omega))
          split
          · exact r2 (by omega)
          · exact r3 (by omega)

theorem tmSpec_ok (T : Nat) : TmSpec T tmSpec := by
  intro a b n ha hb hbl hn _ hnB hal
  refine ⟨?_, Limbs_toLimbs _ _, toLimbs_length _ _⟩
  rw [tmSpec]
  apply val_toLimbs_lt
  apply mpW_lt n a b ha hb
  rw [hbl]; exact hnB

/-! ### the header formula (sum over index pairs) = the row form -/

theorem sum_range_succ' (f : Nat → Nat) (n : Nat) :
    ((List.range (n + 1)).map f).sum = f 0 + ((List.range n).map fun j => f (j + 1)).sum := by
  rw [List.range_succ_eq_map]; simp [List.map_map, Function.comp_def]

theorem sum_map_add' (l : List Nat) (f g : Nat → Nat) :
    (l.map fun x => f x + g x).sum = (l.map f).sum + (l.map g).sum := by
  induction l with
  | nil => simp
  | cons x xs ih => simp only [List.map_cons, List.sum_cons, ih]; omega

theorem sum_map_mul' (l : List Nat) (c : Nat) (f : Nat → Nat) :
    (l.map fun x => c * f x).sum = c * (l.map f).sum := by
  induction l with
  | nil => simp
  | cons x xs ih => simp only [List.map_cons, List.sum_cons, ih]; ring

theorem sum_map_congr' (l : List Nat) (f g : Nat → Nat) (h : ∀ x, f x = g x) : (l.map f).sum = (l.map g).sum := by
  have : f = g := funext h
  rw [this]

theorem sum_map_zero' (l : List Nat) : (l.map fun _ => 0).sum = 0 := by
  induction l with
  | nil => simp
  | cons x xs ih => simp [ih]

theorem win_sum : ∀ (a : List Nat) (s rn : Nat),
    ((List.range a.length).map fun i => if s ≤ i ∧ i < s + rn then a.getD i 0 * B ^ (i - s) else 0).sum = val (win a s rn)
  | [], s, rn => by simp [win]
  | x :: xs, 0, 0 => by
    simp only [win, List.drop_zero, List.take_zero, val_nil]
    rw [sum_map_congr' _ _ (fun _ => 0) (fun i => by simp)]
    exact sum_map_zero' _
  | x :: xs, 0, r + 1 => by
    rw [List.length_cons, sum_range_succ']
    have ih := win_sum xs 0 r
    simp only [win, List.drop_zero] at ih ⊢
    simp only [List.take_succ_cons, val_cons, ← ih, ← sum_map_mul']
    simp only [Nat.zero_le, true_and, Nat.zero_add, Nat.sub_zero, List.getD_cons_zero, List.getD_cons_succ, pow_zero,
      Nat.mul_one, Nat.succ_lt_succ_iff, Nat.lt_succ_iff, if_true]
    congr 1
    apply sum_map_congr'
    intro i
    split
    · rw [pow_succ]; ring
    · simp
  | x :: xs, s + 1, rn => by
    rw [List.length_cons, sum_range_succ']
    have ih := win_sum xs s rn
    simp only [win, List.drop_succ_cons] at ih ⊢
    rw [← ih]
    simp only [Nat.le_zero, Nat.succ_ne_zero, false_and, if_false, Nat.zero_add, List.getD_cons_succ]
    apply sum_map_congr'
    intro i
    have e1 : (s + 1 ≤ i + 1 ∧ i + 1 < s + 1 + rn) ↔ (s ≤ i ∧ i < s + rn) := by omega
    have e2 : i + 1 - (s + 1) = i - s := by omega
    simp only [e1, e2]

/-- the pair sum with the diagonal band n-1 ≤ i+j < n-1+rn (rn diagonals) -/
def pairsR (rn : Nat) (a b : List Nat) : Nat :=
  ((List.range a.length).map fun i => ((List.range b.length).map fun j =>
      if b.length - 1 ≤ i + j ∧ i + j < b.length - 1 + rn then a.getD i 0 * b.getD j 0 * B ^ (i + j - (b.length - 1)) else 0).sum).sum

theorem pairsR_eq (rn : Nat) (a : List Nat) : ∀ b : List Nat, pairsR rn a b = mpW rn a b
  | [] => by
    simp only [pairsR, List.length_nil, List.range_zero, List.map_nil, List.sum_nil, mpW]
    exact sum_map_zero' _
  | b0 :: bs => by
    have ih := pairsR_eq rn a bs
    rw [mpW, ← ih, ← win_sum a bs.length rn, ← sum_map_mul']
    simp only [pairsR, List.length_cons, Nat.add_sub_cancel]
    rw [← sum_map_add']
    apply sum_map_congr'
    intro i
    rw [sum_range_succ']
    congr 1
    · simp only [Nat.add_zero, List.getD_cons_zero]
      split
      · ring
      · simp
    · refine congrArg List.sum (List.map_congr_left fun j hj => ?_)
      have hj' : j < bs.length := List.mem_range.mp hj
      have e1 : (bs.length ≤ i + (j + 1) ∧ i + (j + 1) < bs.length + rn) ↔
          (bs.length - 1 ≤ i + j ∧ i + j < bs.length - 1 + rn) := by omega
      have e2 : i + (j + 1) - bs.length = i + j - (bs.length - 1) := by omega
      simp only [e1, e2, List.getD_cons_succ]

end Mpir.MulMid
