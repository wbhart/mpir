/-
  mpn_sb_div_q: the steps `dq…` of Mpir/Model/SbDivQ.lean and the truncating loop sb_div_q.c:115-188.  The borrow chain of
  sb_div_q.c:95-98 is sub_333 of sb_div_qr.c, so the ordinary step and the first loop are those of mpn_sb_div_qr.  A step of the
  truncating loop is an exact division step, with an unreduced remainder possible when q = B-1, or the `flag = 0` event (the
  window exceeds (B-1)·d by B^(len) or more).

  Invariant of the truncating loop.  Level j: divisor V on j+2 limbs, window W on j+3 limbs; the divisor limbs already dropped
  have the value L < Bt (Bt a power of B), so the divisor the loops started with is d = V·Bt + L; E = (error accumulated by
  the digits above)/B^j, bounded by B^j·E ≤ m·B^j·Bt·B.  Hypothesis (the true partial remainder is reduced):  Bt·(W+1) ≤ B·d + E.
  With Q = the j+1 digits produced:
    always:         B^j·Bt·(W+1) ≤ (Q+1)·d + B^j·E   (Q is not too small)
    flag still ~0:  W = tS V Q (j+1) + R         (exact bookkeeping with the truncated product of Lemmas/DcDivapprArith.lean, as
                    for mpn_sb_divappr_q; Q·V - B^j·tS V Q (j+1) is what "Compensate for triangularization" subtracts)
    flag = 0:       the digits from the event on are all B-1 and
                    Q·d + B^j·E + d ≤ B^j·Bt·W + (m+j+1)·B^j·Bt·B
-/
import MpirProofs.Lemmas.SbDiv
import MpirProofs.Lemmas.DcDivapprArith
namespace Mpir.SbDivQ
open Mpir Mpir.DivWord Mpir.SbDiv Mpir.DcDivappr

/-- the borrow chain sb_div_q.c:95-98 computes the two low limbs and the borrow of sub_333 -/
theorem dqBorrow_eq (n1 n0 cy : Nat) (hn1 : n1 < B) (hn0 : n0 < B) (hcy : cy < B) :
    (dqBorrow n1 n0 cy).2 = (sub_333_0 n1 n0 cy).2 ∧
    ((dqBorrow n1 n0 cy).1 ≠ 0 ↔ (sub_333_0 n1 n0 cy).1 ≠ 0) := by
  unfold dqBorrow sub_333_0
  simp only [boolToNat_decide, Prod.mk.injEq, B_eq] at *
  split <;> split <;> omega

theorem dqRegular_eq_sb (dlo a : List Nat) (d0 d1 n1 : Nat) (ha : a.length = dlo.length + 2)
    (hD : NormDiv dlo d0 d1) (hal : Limbs a) (hn1 : n1 < B)
    (hN : a.getD (dlo.length + 1) 0 + B * n1 < d0 + B * d1) :
    dqRegular (dlo ++ [d0, d1]) d1 d0 (invert_pi1 d1 d0) a n1
      = sbRegular (dlo ++ [d0, d1]) d1 d0 (invert_pi1 d1 d0) a n1 := by
  have hB := B_pos
  obtain ⟨alo, m0, m1, rfl, hlen, halo, hm0, hm1⟩ := exists_top2 ha hal
  rw [← hlen, getD_top1] at hN
  obtain ⟨q, r, e1, hq, hr, -⟩ := div3by2 n1 m1 m0 d1 d0 hn1 hm1 hm0 hD.lt1 hD.lt0 hD.norm hN
  obtain ⟨rl, cy2, e2, -, hc, -, -⟩ := submul_1_spec q halo hD.lo hlen hq
  obtain ⟨eb, eb0⟩ := dqBorrow_eq (r / B) (r % B) cy2
    (by rw [Nat.div_lt_iff_lt_mul hB]; exact hr.trans (add_mul_lt hD.lt0 hD.lt1)) (Nat.mod_lt _ hB) hc
  unfold dqRegular sbRegular
  simp only [len_top, take_top]
  rw [← hlen]
  simp only [getD_top0, getD_top1, take_top]
  rw [e1]
  simp only []
  rw [e2]
  simp only []
  rw [eb]
  by_cases h : (dqBorrow (r / B) (r % B) cy2).1 ≠ 0
  · rw [if_pos h, if_pos (eb0.mp h)]
  · rw [if_neg h, if_neg (fun h' => h (eb0.mpr h'))]

theorem dqStepA_eq_sb (dlo : List Nat) (d0 d1 : Nat) (hD : NormDiv dlo d0 d1) (a : List Nat) (n1 : Nat) (ha : a.length = dlo.length + 2) (hal : Limbs a) (hn1 : n1 < B)
    (hW : val a + B ^ (dlo.length + 2) * n1 < B * val (dlo ++ [d0, d1])) :
    dqStepA (dlo ++ [d0, d1]) d1 d0 (invert_pi1 d1 d0) a n1 = sbStep (dlo ++ [d0, d1]) d1 d0 (invert_pi1 d1 d0) a n1 := by
  unfold dqStepA sbStep
  simp only [len_top]
  by_cases h : n1 = d1 ∧ a.getD (dlo.length + 1) 0 = d0
  · rw [if_pos h, if_pos h]
  · rw [if_neg h, if_neg h, dqRegular_eq_sb dlo a d0 d1 n1 ha hD hal hn1
      (window_top_lt dlo a d0 d1 n1 ha hD.lo hal hD.lt0 hW h)]

theorem B_eq_succ2 : ∃ b2, B = b2 + 2 := ⟨2 ^ 64 - 2, by unfold B; norm_num⟩

/-- arithmetic of the q = B-1 branch of the truncating loop (sb_div_q.c:118-134): `va` the memory limbs of the window,
    `n1` its top limb, `vr`, `cy` the result and borrow of mpn_submul_1 by B-1; P = B^(len), Pl = P/B.
    The borrow cy exceeds n1 by at most one because the window is above (B-2)·V: n1 ≥ d1 and V < (d1+1)·Pl. -/
theorem bm1_arith (P Pl V va n1 cy vr d1 : Nat) (hP : P = Pl * B)
    (hV2 : V < (d1 + 1) * Pl) (hva : va < P)
    (hvr : vr < P) (hd1 : d1 < B) (hnorm : B ≤ 2 * d1) (hn1 : d1 ≤ n1)
    (hsub : vr + V * (B - 1) = va + P * cy) :
    (n1 = cy → va + P * n1 = (B - 1) * V + vr) ∧
    (n1 < cy → P ≤ vr + V ∧ va + P * n1 + P = (B - 2) * V + (vr + V) ∧ vr + V < V + P) ∧
    (cy < n1 → (B - 1) * V + P ≤ va + P * n1) := by
  obtain ⟨b2, hb⟩ := B_eq_succ2
  rw [show B - 1 = b2 + 1 by omega] at hsub ⊢
  rw [show B - 2 = b2 by omega]
  rw [Nat.mul_succ, Nat.mul_comm V] at hsub
  rw [Nat.add_mul, Nat.one_mul]
  refine ⟨?_, ?_, ?_⟩
  · rintro rfl; omega
  · intro hlt
    have hPl : 0 < Pl := Nat.pos_of_ne_zero (by rintro rfl; simp [hP] at hva)
    have hVlt : V < P := by
      have : (d1 + 1) * Pl ≤ B * Pl := Nat.mul_le_mul_right _ hd1
      rw [hP, Nat.mul_comm Pl]; omega
    -- the window is above (B-2)·V
    have hW : b2 * V < va + P * n1 := by
      have h1 : P * d1 ≤ P * n1 := Nat.mul_le_mul_left _ hn1
      have h2 : b2 * (V + 1) ≤ b2 * ((d1 + 1) * Pl) := Nat.mul_le_mul_left _ hV2
      have h4 : b2 * (d1 + 1) + 2 ≤ B * d1 := by rw [hb, Nat.mul_succ, Nat.add_mul]; omega
      have h3 : Pl * (b2 * (d1 + 1) + 2) ≤ Pl * (B * d1) := Nat.mul_le_mul_left _ h4
      have e1 : Pl * (b2 * (d1 + 1) + 2) = b2 * ((d1 + 1) * Pl) + 2 * Pl := by ring
      have e2 : Pl * (B * d1) = P * d1 := by rw [hP]; ring
      rw [Nat.mul_succ] at h2
      omega
    have hcy : cy = n1 + 1 := by
      by_contra hne
      have : P * (n1 + 2) ≤ P * cy := Nat.mul_le_mul_left _ (by omega)
      rw [Nat.mul_add] at this
      omega
    subst hcy
    rw [Nat.mul_succ] at hsub
    exact ⟨by omega, by omega, by omega⟩
  · intro hlt
    have : P * (cy + 1) ≤ P * n1 := Nat.mul_le_mul_left _ hlt
    rw [Nat.mul_succ] at this
    omega

/-- sb_div_q.c:115-159 with flag = ~0 -/
theorem dqStepB_true (dlo a : List Nat) (d0 d1 n1 : Nat) (ha : a.length = dlo.length + 2)
    (hD : NormDiv dlo d0 d1) (hal : Limbs a) (hn1 : n1 < B) :
    ∃ q w n1' fl, dqStepB (dlo ++ [d0, d1]) d1 d0 (invert_pi1 d1 d0) a n1 true = (q, w, n1', fl) ∧
      q < B ∧ Limbs w ∧ w.length = dlo.length + 1 ∧ n1' < B ∧
      (fl = true → val a + B ^ (dlo.length + 2) * n1
          = q * val (dlo ++ [d0, d1]) + (val w + B ^ (dlo.length + 1) * n1') ∧
        (val w + B ^ (dlo.length + 1) * n1' < val (dlo ++ [d0, d1]) ∨ q + 1 = B)) ∧
      (fl = false → q + 1 = B ∧
        (B - 1) * val (dlo ++ [d0, d1]) + B ^ (dlo.length + 2) ≤ val a + B ^ (dlo.length + 2) * n1) := by
  have hB := B_pos
  have hd := hD.limbs
  have hd1 := hD.lt1
  have hdl : (dlo ++ [d0, d1]).length = dlo.length + 2 := by simp
  unfold dqStepB
  simp only [len_top, andFlag, if_true]
  by_cases hge : n1 ≥ d1
  · obtain ⟨r, cy, er, hv, hc, hrl, hrn⟩ := submul_1_spec (B - 1) hal hd (by rw [ha, hdl]) (by omega)
    rw [if_pos hge, er]
    simp only []
    rw [hdl] at hv hrn
    have hvr := val_lt r hrl
    have hva := val_lt a hal
    rw [hrn] at hvr
    rw [ha] at hva
    obtain ⟨k1, k2, k3⟩ := bm1_arith (B ^ (dlo.length + 2)) (B ^ dlo.length * B) (val (dlo ++ [d0, d1])) (val a) n1 cy
      (val r) d1 (pow_k2 _) (val_dp_bounds dlo d0 d1 hD.lo hD.lt0) hva hvr hd1 (two_mul_ge_B hD.norm) hge hv
    have hsp : val (r.take (dlo.length + 1)) + B ^ (dlo.length + 1) * r.getD (dlo.length + 1) 0 = val r :=
      val_take_top r (dlo.length + 1) hrn
    have hwr : (r.take (dlo.length + 1)).length = dlo.length + 1 := by rw [List.length_take, hrn]; omega
    by_cases hne : n1 ≠ cy
    · rw [if_pos hne]
      by_cases hlt : n1 < cy
      · obtain ⟨m1, m2, m3⟩ := k2 hlt
        obtain ⟨vs, c, es, av, ac, al, an⟩ := add_n_spec hrl hd (by rw [hrn, hdl])
        rw [hrn] at av an
        have hvs := val_lt vs al
        rw [an] at hvs
        have hc1 : c = 1 := by
          rcases Nat.eq_zero_or_pos c with h | h
          · subst h; omega
          · omega
        subst hc1
        have hsv : val (vs.take (dlo.length + 1)) + B ^ (dlo.length + 1) * vs.getD (dlo.length + 1) 0 = val vs :=
          val_take_top vs (dlo.length + 1) an
        rw [if_pos hlt, es]
        refine ⟨B - 2, _, _, true, rfl, by omega, Limbs_take al _, by rw [List.length_take, an]; omega,
          getD_lt al _, fun _ => ⟨?_, Or.inl ?_⟩, fun h => by cases h⟩
        · rw [hsv]; omega
        · rw [hsv]; omega
      · rw [if_neg hlt]
        refine ⟨B - 1, _, _, false, rfl, by omega, Limbs_take hrl _, hwr, getD_lt hrl _, (fun h => by cases h),
          fun _ => ⟨by omega, ?_⟩⟩
        exact k3 (by omega)
    · rw [if_neg hne]
      refine ⟨B - 1, _, _, true, rfl, by omega, Limbs_take hrl _, hwr, getD_lt hrl _,
        fun _ => ⟨?_, Or.inr (by omega)⟩, fun h => by cases h⟩
      rw [hsp]; exact k1 (by omega)
  · rw [if_neg hge]
    have hN : a.getD (dlo.length + 1) 0 + B * n1 < d0 + B * d1 :=
      (lex_lt_iff (getD_lt hal _) hD.lt0).mpr (Or.inl (by omega))
    obtain ⟨h1, h2, hq, hw, hwl, hn1'⟩ := sbRegular_spec dlo a d0 d1 n1 ha hD hal hn1 hN
    rw [dqRegular_eq_sb dlo a d0 d1 n1 ha hD hal hn1 hN]
    exact ⟨_, _, _, true, rfl, hq, hw, hwl, hn1', fun _ => ⟨h1, Or.inl h2⟩, fun h => by cases h⟩

theorem dqStepB_false (dp a : List Nat) (d1 d0 dinv n1 : Nat) :
    (dqStepB dp d1 d0 dinv a n1 false).1 = B - 1 ∧ (dqStepB dp d1 d0 dinv a n1 false).2.2.2 = false := by
  unfold dqStepB
  simp only [andFlag, Bool.false_eq_true, if_false, ge_iff_le, Nat.zero_le, if_true, Nat.not_lt_zero]
  split <;> simp

theorem add_ssaaaa_val (r1 r0 d1 d0 : Nat) (hr1 : r1 < B) (hr0 : r0 < B) (hd1 : d1 < B) (hd0 : d0 < B)
    (hc : B * B ≤ r0 + B * r1 + (d0 + B * d1)) :
    (add_ssaaaa r1 r0 d1 d0).2 + B * (add_ssaaaa r1 r0 d1 d0).1 + B * B = r0 + B * r1 + (d0 + B * d1) ∧
      (add_ssaaaa r1 r0 d1 d0).2 < B ∧ (add_ssaaaa r1 r0 d1 d0).1 < B := by
  unfold add_ssaaaa
  simp only [B_eq] at *
  omega

theorem list_len2 (l : List Nat) (h : l.length = 2) : ∃ x y, l = [x, y] := by
  match l, h with
  | [x, y], _ => exact ⟨x, y, rfl⟩

theorem val2 (x y : Nat) : val [x, y] = x + B * y := by simp [val_cons]

/-- sb_div_q.c:161-188 with flag = ~0 -/
theorem dqLast_true (a0 a1 d0 d1 n1 : Nat) (ha0 : a0 < B) (ha1 : a1 < B) (hD : NormDiv [] d0 d1) (hn1 : n1 < B) :
    ∃ q r0 r1 fl, dqLast d1 d0 (invert_pi1 d1 d0) [a0, a1] n1 true = (q, [r0, r1], r1, fl) ∧
      q < B ∧ r0 < B ∧ r1 < B ∧
      (fl = true → a0 + B * a1 + B * B * n1 = q * (d0 + B * d1) + (r0 + B * r1) ∧
        (r0 + B * r1 < d0 + B * d1 ∨ q + 1 = B)) ∧
      (fl = false → q + 1 = B ∧ (B - 1) * (d0 + B * d1) + B * B ≤ a0 + B * a1 + B * B * n1) := by
  have hB := B_pos
  obtain ⟨-, hd0, hd1, hnorm⟩ := hD
  unfold dqLast
  simp only [andFlag, if_true]
  by_cases hge : n1 ≥ d1
  · obtain ⟨r, cy, erc, hv, hc, hrl, hrn⟩ := submul_1_spec (a := [a0, a1]) (u := [d0, d1]) (B - 1) (Limbs_pair ha0 ha1)
      (Limbs_pair hd0 hd1) rfl (by omega)
    obtain ⟨r0, r1, rfl⟩ := list_len2 r hrn
    have hr0 : r0 < B := hrl r0 (by simp)
    have hr1 : r1 < B := hrl r1 (by simp)
    rw [if_pos hge, erc]
    simp only [List.getD_cons_zero, List.getD_cons_succ]
    rw [val2, val2, val2, show ([d0, d1] : List Nat).length = 2 from rfl, pow_two] at hv
    have hPl : d0 + B * d1 < (d1 + 1) * B := by rw [Nat.add_mul, Nat.one_mul, Nat.mul_comm d1]; omega
    obtain ⟨k1, k2, k3⟩ := bm1_arith (B * B) B (d0 + B * d1) (a0 + B * a1) n1 cy (r0 + B * r1) d1 rfl
      hPl (add_mul_lt ha0 ha1) (add_mul_lt hr0 hr1) hd1 (two_mul_ge_B hnorm) hge hv
    by_cases hne : n1 ≠ cy
    · rw [if_pos hne]
      by_cases hlt : n1 < cy
      · obtain ⟨m1, m2, m3⟩ := k2 hlt
        obtain ⟨s1, s2, s3⟩ := add_ssaaaa_val r1 r0 d1 d0 hr1 hr0 hd1 hd0 m1
        rw [if_pos hlt]
        refine ⟨B - 2, _, _, true, rfl, by omega, s2, s3, fun _ => ⟨?_, Or.inl ?_⟩, fun h => by cases h⟩
        · omega
        · omega
      · rw [if_neg hlt]
        refine ⟨B - 1, _, _, false, rfl, by omega, hr0, hr1, (fun h => by cases h), fun _ => ⟨by omega, ?_⟩⟩
        exact k3 (by omega)
    · rw [if_neg hne]
      refine ⟨B - 1, _, _, true, rfl, by omega, hr0, hr1, fun _ => ⟨?_, Or.inr (by omega)⟩, fun h => by cases h⟩
      exact k1 (by omega)
  · rw [if_neg hge]
    simp only [List.getD_cons_zero, List.getD_cons_succ]
    obtain ⟨q, r, e, hq, hr, hT⟩ := div3by2 n1 a1 a0 d1 d0 hn1 ha1 ha0 hd1 hd0 hnorm
      ((lex_lt_iff ha1 hd0).mpr (Or.inl (by omega)))
    have h1 : r / B < B := by rw [Nat.div_lt_iff_lt_mul hB]; exact hr.trans (add_mul_lt hd0 hd1)
    have h2 := Nat.mod_add_div r B
    rw [e]
    simp only []
    exact ⟨q, _, _, true, rfl, hq, Nat.mod_lt _ hB, h1, fun _ => ⟨by rw [hT]; omega, Or.inl (by omega)⟩,
      fun h => by cases h⟩

theorem dqLast_false (d1 d0 dinv : Nat) (a : List Nat) (n1 : Nat) :
    (dqLast d1 d0 dinv a n1 false).1 = B - 1 ∧ (dqLast d1 d0 dinv a n1 false).2.2.2 = false := by
  unfold dqLast
  simp only [andFlag, Bool.false_eq_true, if_false, ge_iff_le, Nat.zero_le, if_true, Nat.not_lt_zero]
  split <;> simp

/-! ### one level of the invariant, value level

  Bj = B^j; a step W = q·V + W' with the next divisor limb c dropped (V = c + B·V') leads from level j+1 to
  level j with B·Bt, L' = c·Bt + L and E' = B·E + B·q·L. -/

/-- the hypothesis at the next level; the remainder W' may be unreduced only when q = B-1 -/
theorem stepH (Bt W W' V q d L E : Nat) (hd : V * Bt + L = d) (hW : W = q * V + W')
    (hH : Bt * (W + 1) ≤ B * d + E) (hr : W' < V ∨ q + 1 = B) :
    B * Bt * (W' + 1) ≤ B * d + (B * E + B * q * L) := by
  subst hW hd
  rcases hr with h | h
  · have h1 : B * Bt * (W' + 1) ≤ B * Bt * V := Nat.mul_le_mul_left _ h
    have e : B * (V * Bt + L) = B * Bt * V + B * L := by ring
    omega
  · have h1 : B * (Bt * (q * V + W' + 1)) ≤ B * (B * (V * Bt + L) + E) := Nat.mul_le_mul_left _ hH
    have e1 : B * (Bt * (q * V + W' + 1)) = B * Bt * q * V + B * Bt * (W' + 1) := by ring
    have e2 : B * (B * (V * Bt + L) + E) = B * Bt * q * V + B * q * L + B * (V * Bt + L) + B * E := by
      rw [← h]; ring
    omega

theorem stepHE (Bj Bt E q L m : Nat) (hE : B * Bj * E ≤ m * (B * Bj * Bt * B)) (hq : q < B) (hL : L < Bt) :
    Bj * (B * E + B * q * L) ≤ (m + 1) * (Bj * (B * Bt) * B) := by
  have h2 : Bj * B * (q * L) ≤ Bj * B * (B * Bt) := Nat.mul_le_mul_left _ (Nat.mul_le_mul hq.le hL.le)
  have e1 : Bj * (B * E + B * q * L) = B * Bj * E + Bj * B * (q * L) := by ring
  have e2 : (m + 1) * (Bj * (B * Bt) * B) = m * (B * Bj * Bt * B) + Bj * B * (B * Bt) := by ring
  omega

theorem stepUp (Bj Bt W W' V q d L E Q' : Nat) (hd : V * Bt + L = d) (hW : W = q * V + W')
    (ih : Bj * (B * Bt) * (W' + 1) ≤ (Q' + 1) * d + Bj * (B * E + B * q * L)) :
    B * Bj * Bt * (W + 1) ≤ (Q' + B * Bj * q + 1) * d + B * Bj * E := by
  subst hW hd
  have e1 : B * Bj * Bt * (q * V + W' + 1) = B * Bj * q * (V * Bt) + Bj * (B * Bt) * (W' + 1) := by ring
  have e2 : (Q' + B * Bj * q + 1) * (V * Bt + L) + B * Bj * E
      = (Q' + 1) * (V * Bt + L) + Bj * (B * E + B * q * L) + B * Bj * q * (V * Bt) := by ring
  omega

theorem stepLo (Bj Bt W W' V q d L E Q' S : Nat) (hd : V * Bt + L = d) (hW : W = q * V + W')
    (ih : Q' * d + Bj * (B * E + B * q * L) + d ≤ Bj * (B * Bt) * W' + S) :
    (Q' + B * Bj * q) * d + B * Bj * E + d ≤ B * Bj * Bt * W + S := by
  subst hW hd
  have e1 : B * Bj * Bt * (q * V + W') = B * Bj * q * (V * Bt) + Bj * (B * Bt) * W' := by ring
  have e2 : (Q' + B * Bj * q) * (V * Bt + L) + B * Bj * E
      = Q' * (V * Bt + L) + Bj * (B * E + B * q * L) + B * Bj * q * (V * Bt) := by ring
  omega

theorem lt_pow_succ (c L Bt : Nat) (hc : c < B) (hL : L < Bt) : c * Bt + L < B * Bt := by
  have : (c + 1) * Bt ≤ B * Bt := Nat.mul_le_mul_right _ hc
  rw [Nat.add_mul, Nat.one_mul] at this
  omega

theorem eventBounds (Bj Bt W V d L E m Q : Nat) (hQ : Q + 1 = Bj * B) (hd : V * Bt + L = d)
    (hL : L < Bt) (hV : V < Bj * B * B) (hev : (B - 1) * V + Bj * B * B ≤ W) (hH : Bt * (W + 1) ≤ B * d + E)
    (hE : Bj * E ≤ m * (Bj * Bt * B)) :
    Bj * Bt * (W + 1) ≤ (Q + 1) * d + Bj * E ∧ Q * d + Bj * E + d ≤ Bj * Bt * W + (m + 1) * (Bj * Bt * B) := by
  obtain ⟨b2, hb⟩ := B_eq_succ2
  rw [show B - 1 = b2 + 1 by omega] at hev
  have h0 : Bj * Bt * (W + 1) ≤ Bj * (B * d + E) := by rw [Nat.mul_assoc]; exact Nat.mul_le_mul_left _ hH
  have e0 : Bj * (B * d + E) = Bj * B * d + Bj * E := by ring
  have eQ : Q * d + d = Bj * B * d := by rw [← hQ]; ring
  have h1 : Bj * Bt * ((b2 + 1) * V + Bj * B * B) ≤ Bj * Bt * W := Nat.mul_le_mul_left _ hev
  have h2 : Bj * (B * L) ≤ Bj * (B * Bt) := Nat.mul_le_mul_left _ (Nat.mul_le_mul_left _ hL.le)
  have h3 : Bj * Bt * V ≤ Bj * Bt * (Bj * B * B) := Nat.mul_le_mul_left _ hV.le
  have hk : Bj * B * (V * Bt) = Bj * Bt * ((b2 + 1) * V) + Bj * Bt * V := by rw [hb]; ring
  subst hd
  have e3 : Bj * B * (V * Bt + L) = Bj * B * (V * Bt) + Bj * (B * L) := by ring
  have e4 : Bj * Bt * ((b2 + 1) * V + Bj * B * B) = Bj * Bt * ((b2 + 1) * V) + Bj * Bt * (Bj * B * B) := by ring
  have e6 : (m + 1) * (Bj * Bt * B) = m * (Bj * Bt * B) + Bj * (B * Bt) := by ring
  rw [hQ]
  exact ⟨by omega, by omega⟩

theorem dqLoopB_false (d1 d0 dinv : Nat) : ∀ (j : Nat) (dp a : List Nat) (n1 : Nat) (qs : List Nat),
    ∃ np01 n1f, dqLoopB d1 d0 dinv j dp a n1 false qs = (List.replicate (j + 1) (B - 1) ++ qs, np01, n1f, false)
  | 0, dp, a, n1, qs => by
    obtain ⟨e1, e2⟩ := dqLast_false d1 d0 dinv a n1
    rw [dqLoopB, e1, e2]
    exact ⟨_, _, rfl⟩
  | j + 1, dp, a, n1, qs => by
    obtain ⟨e1, e2⟩ := dqStepB_false dp a d1 d0 dinv n1
    rw [dqLoopB, e1, e2]
    obtain ⟨np01, n1f, e⟩ := dqLoopB_false d1 d0 dinv j (dp.drop 1) (dqStepB dp d1 d0 dinv a n1 false).2.1
      (dqStepB dp d1 d0 dinv a n1 false).2.2.1 ((B - 1) :: qs)
    rw [e]
    refine ⟨np01, n1f, ?_⟩
    rw [List.replicate_succ' (n := j + 1), List.append_assoc]
    rfl

/-- the invariant of the head of this file -/
theorem dqLoopB_spec (d0 d1 : Nat) :
    ∀ (j : Nat) (dlo a : List Nat) (n1 : Nat) (qs : List Nat) (Bt L E m W V d : Nat), dlo.length = j →
      a.length = j + 2 → NormDiv dlo d0 d1 → Limbs a → n1 < B → L < Bt →
      W = val a + B ^ (j + 2) * n1 → V = val (dlo ++ [d0, d1]) → V * Bt + L = d →
      Bt * (W + 1) ≤ B * d + E → B ^ j * E ≤ m * (B ^ j * Bt * B) →
      ∃ ql np01 n1f fl, dqLoopB d1 d0 (invert_pi1 d1 d0) j (dlo ++ [d0, d1]) a n1 true qs = (ql ++ qs, np01, n1f, fl) ∧
        ql.length = j + 1 ∧ Limbs ql ∧
        B ^ j * Bt * (W + 1) ≤ (val ql + 1) * d + B ^ j * E ∧
        (fl = true → ∃ r0 r1, np01 = [r0, r1] ∧ n1f = r1 ∧ r0 < B ∧ r1 < B ∧
          W = tS V (val ql) (j + 1) + (r0 + B * r1)) ∧
        (fl = false → val ql * d + B ^ j * E + d ≤ B ^ j * Bt * W + (m + j + 1) * (B ^ j * Bt * B))
  | 0, dlo, a, n1, qs, Bt, L, E, m, W, V, d, hdl, hal, hD, ha, hn1, hL, eW, eV, ed, hH, hE => by
    match dlo, hdl with
    | [], _ =>
      obtain ⟨a0, a1, rfl⟩ := list_len2 a hal
      obtain ⟨q, r0, r1, fl, e, hq, hr0, hr1, ht, hf⟩ :=
        dqLast_true a0 a1 d0 d1 n1 (ha a0 (by simp)) (ha a1 (by simp)) hD hn1
      have eW' : W = a0 + B * a1 + B * B * n1 := by rw [eW, val2, Nat.zero_add, pow_two]
      have eV' : V = d0 + B * d1 := by rw [eV]; exact val2 d0 d1
      have eq : val [q] = q := by simp
      rw [← eW', ← eV'] at ht hf
      rw [dqLoopB, e]
      rw [pow_zero] at hE ⊢
      have hev : fl = false → 1 * Bt * (W + 1) ≤ (q + 1) * d + 1 * E ∧
          q * d + 1 * E + d ≤ 1 * Bt * W + (m + 1) * (1 * Bt * B) := fun hfl =>
        eventBounds 1 Bt W V d L E m q (by rw [(hf hfl).1, Nat.one_mul]) ed hL
          (by rw [Nat.one_mul, eV']; exact add_mul_lt hD.lt0 hD.lt1) (by rw [Nat.one_mul]; exact (hf hfl).2) hH hE
      refine ⟨[q], [r0, r1], r1, fl, rfl, rfl, by intro x hx; simp at hx; subst hx; exact hq, ?_, ?_, ?_⟩
      · rw [eq]
        cases fl with
        | true =>
          obtain ⟨h1, h2⟩ := ht rfl
          rw [Nat.one_mul, Nat.one_mul]
          rcases h2 with h2 | h2
          · have h3 : Bt * (r0 + B * r1 + 1) ≤ Bt * V := Nat.mul_le_mul_left _ h2
            have e1 : Bt * (q * V + (r0 + B * r1) + 1) = q * (V * Bt) + Bt * (r0 + B * r1 + 1) := by ring
            have e2 : (q + 1) * (V * Bt + L) = q * (V * Bt) + Bt * V + (q + 1) * L := by ring
            rw [h1, ← ed]
            omega
          · rw [h2]; exact hH
        | false => exact (hev rfl).1
      · intro hfl
        obtain ⟨h1, -⟩ := ht hfl
        refine ⟨r0, r1, rfl, rfl, hr0, hr1, ?_⟩
        rw [eq, Nat.zero_add, tS_one]
        exact h1
      · intro hfl
        rw [eq]
        exact (hev hfl).2
  | j + 1, dlo, a, n1, qs, Bt, L, E, m, W, V, d, hdl, hal, hD, ha, hn1, hL, eW, eV, ed, hH, hE => by
    have p1 : B ^ (j + 1) = B * B ^ j := by rw [pow_succ, Nat.mul_comm]
    obtain ⟨q, w, n1', fls, es, hq, hw, hwl, hn1', ht, hf⟩ :=
      dqStepB_true dlo a d0 d1 n1 (by rw [hal, hdl]) hD ha hn1
    rw [hdl, ← eW, ← eV] at ht hf
    rw [hdl] at hwl
    rw [dqLoopB, es]
    simp only []
    have hVlt := val_lt (dlo ++ [d0, d1]) hD.limbs
    rw [← eV, show (dlo ++ [d0, d1]).length = j + 1 + 2 by simp [hdl], pow_k2] at hVlt
    cases fls with
    | false =>
      obtain ⟨hqe, hev⟩ := hf rfl
      obtain rfl : q = B - 1 := by omega
      obtain ⟨np01, n1f, e⟩ := dqLoopB_false d1 d0 (invert_pi1 d1 d0) j ((dlo ++ [d0, d1]).drop 1) w n1' ((B - 1) :: qs)
      have hv := val_replicate_max (j + 1 + 1)
      rw [pow_succ] at hv
      rw [pow_k2] at hev
      obtain ⟨k1, k2⟩ := eventBounds (B ^ (j + 1)) Bt W V d L E m _ hv ed hL hVlt hev hH hE
      rw [e]
      refine ⟨List.replicate (j + 1 + 1) (B - 1), np01, n1f, false, ?_, by simp, Limbs_replicate_max _, k1,
        (fun h => by cases h), fun _ => ?_⟩
      · rw [List.replicate_succ' (n := j + 1), List.append_assoc]; rfl
      · have : (m + 1) * (B ^ (j + 1) * Bt * B) ≤ (m + (j + 1) + 1) * (B ^ (j + 1) * Bt * B) :=
          Nat.mul_le_mul_right _ (by omega)
        omega
    | true =>
      obtain ⟨h1, h2⟩ := ht rfl
      match dlo, hdl, hD with
      | c :: dlo', hdl', hD' =>
        have hc := (Limbs_cons.mp hD'.lo).1
        have eV2 : V = c + B * val (dlo' ++ [d0, d1]) := eV
        have hd' : val (dlo' ++ [d0, d1]) * (B * Bt) + (c * Bt + L) = d := by rw [← ed, eV2]; ring
        rw [p1] at hE ⊢
        obtain ⟨ql', np01, n1f, fl, el, hqll, hql, up, it, iff⟩ :=
          dqLoopB_spec d0 d1 j dlo' w n1' (q :: qs) (B * Bt) (c * Bt + L) (B * E + B * q * L) (m + 1) _ _ d
            (by simpa using hdl') hwl hD'.tail hw hn1' (lt_pow_succ c L Bt hc hL) rfl rfl hd'
            (stepH Bt W _ V q d L E ed h1 hH h2) (stepHE (B ^ j) Bt E q L m hE hq hL)
        have hvq : val (ql' ++ [q]) = val ql' + B * B ^ j * q := by rw [val_snoc, hqll, p1]
        refine ⟨ql' ++ [q], np01, n1f, fl, ?_, by simp [hqll], Limbs.snoc hql hq, ?_, fun hfl => ?_, fun hfl => ?_⟩
        · show dqLoopB d1 d0 _ j (dlo' ++ [d0, d1]) w n1' true (q :: qs) = _
          rw [el]; simp
        · rw [hvq]
          exact stepUp (B ^ j) Bt W _ V q d L E (val ql') ed h1 up
        · obtain ⟨r0, r1, enp, en1, hr0, hr1, f1⟩ := it hfl
          refine ⟨r0, r1, enp, en1, hr0, hr1, ?_⟩
          have hQ' := val_lt ql' hql
          rw [hqll] at hQ'
          have eVd : V / B = val (dlo' ++ [d0, d1]) := by
            rw [eV2, Nat.add_comm, Nat.mul_comm]; exact div_of_split _ _ _ hc
          rw [val_snoc, hqll, tS_top _ _ _ _ hQ', eVd, Nat.add_assoc, ← f1]; exact h1
        · rw [hvq]
          have := stepLo (B ^ j) Bt W _ V q d L E (val ql') _ ed h1 (iff hfl)
          rw [show (m + 1 + j + 1) * (B ^ j * (B * Bt) * B) = (m + (j + 1) + 1) * (B * B ^ j * Bt * B) by ring] at this
          exact this

end Mpir.SbDivQ
