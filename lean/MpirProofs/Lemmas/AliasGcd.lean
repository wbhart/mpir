/- mpz_gcd on the pointer-level model: early pointer fetch, SIZ (g) written before the copy in the zero-operand cases,
   one-limb cases storing through PTR (g) without a realloc, general case via TMP copies. -/
import MpirProofs.Lemmas.AliasMemOps
namespace Mpir.AliasMem
open Mpir
open Mpir.DivZ (sizeNat siz sameSign)

theorem realloc_setSize_comm (s : St) (g n : Nat) (z : Int) :
    (s.setSize g z).mpzRealloc g n = (s.mpzRealloc g n).setSize g z := by
  unfold St.mpzRealloc
  have ha : (s.setSize g z).alloc g = s.alloc g := by simp [St.setSize, St.setVar, St.alloc]
  rw [ha]
  by_cases hlt : s.alloc g < n
  · simp only [hlt, if_true]
    cases s with
    | mk nv vars blk next =>
      simp only [St.setSize, St.setVar, St.malloc, St.free, St.setBlk, St.ptr, St.size, St.mk.injEq, true_and, and_true]
      refine ⟨?_, ?_⟩
      · funext j
        by_cases e : j = g <;> simp [e]
      · rfl
  · simp only [hlt, if_false]

theorem gcdCopy_ok {s : St} (h : Inv s) {g w : Nat} (hg : g < s.nv) (hw : w < s.nv) :
    ∃ s', gcdCopy g w (s.ptr w) (s.size w).natAbs s = .ok s' ∧ Post s s' g (s.mag w) := by
  unfold gcdCopy
  simp only [bind, Except.bind, pure, Except.pure]
  set n := (s.size w).natAbs with hn
  by_cases hgw : g = w
  · rw [if_pos hgw]
    subst hgw
    obtain ⟨i1, u1, v1⟩ := flip_spec h hg (n : Int) (by rw [hn]; simp only [Int.natAbs_natCast])
    refine ⟨_, rfl, Post.of_same_upd (Same.refl s) (Fr.refl s g) u1 i1 ?_⟩
    rw [v1]; unfold sgnv; simp
  · rw [if_neg hgw, realloc_setSize_comm]
    obtain ⟨i1, k1, a1⟩ := realloc_same h hg n
    have fr1 : Fr s g (s.mpzRealloc g n) := (Fr.refl s g).realloc _
    set s1 := s.mpzRealloc g n with hs1
    have hg1 : g < s1.nv := k1.lt hg
    have hw1 : w < s1.nv := k1.lt hw
    have hpw : s1.ptr w = s.ptr w := by rw [hs1, realloc_ptr]; simp [Ne.symm hgw]
    have hl := i1.load_var hw1; rw [k1.size, ← hn, hpw] at hl
    have hl' : (s1.setSize g n).load (s.ptr w) n = .ok (s1.limbs w) := hl
    rw [hl']; simp only []
    have hls := i1.limbs_spec hw1; rw [k1.size, ← hn] at hls
    obtain ⟨b, hb, hlen, hL, hst⟩ := store_var i1 hg1 (s1.limbs w) (by rw [hls.1]; exact a1)
    have hpg : (s1.setSize g n).ptr g = s1.ptr g := by simp [St.setSize, St.setVar, St.ptr]
    have hst' : (s1.setSize g n).store ((s1.setSize g n).ptr g) (s1.limbs w) =
        .ok (s1.put g (s1.limbs w ++ b.drop (s1.limbs w).length) n) := by
      rw [hpg]; unfold St.store
      have : (s1.setSize g n).blk (s1.ptr g) = some b := hb
      rw [this]; simp only []
      rw [if_pos (by rw [hls.1]; omega)]
      rfl
    rw [hst']
    have hsn := i1.size_natAbs hw1; rw [k1.size, ← hn] at hsn
    have p := put_upd i1 hg1 (s1.limbs w ++ b.drop (s1.limbs w).length) (s1.mag w) false
      (by rw [length_wr _ _ (by rw [hls.1]; omega)]; exact hlen) (Limbs_wr hls.2 hL) (by rw [← hsn]; exact a1)
      (by rw [← hsn, List.take_append_of_le_length (by rw [hls.1]), List.take_of_length_le (by rw [hls.1])]; rfl)
    simp only [Bool.false_eq_true, if_false, ← hsn] at p
    have hmag : s1.mag w = s.mag w := by rw [← value_natAbs, ← value_natAbs, k1.value hw]
    exact ⟨_, rfl, p.1, p.2.1.nv.trans k1.nv, fr1.upd p.2.1, by rw [p.2.2, hmag],
      fun i => Nat.le_trans (k1.alloc i) (Nat.le_of_eq (p.2.1.alloc i).symm)⟩

theorem gcdOne_ok {s : St} (h : Inv s) {g w x : Nat} (hg : g < s.nv) (hw : w < s.nv) (hx : x < s.nv)
    (hx1 : (s.size x).natAbs = 1) (ha : 1 ≤ s.alloc g) :
    ∃ s', gcdOne g (s.ptr w) (s.size w).natAbs (s.ptr x) s = .ok s' ∧ Post s s' g (Nat.gcd (s.mag w) (s.mag x)) := by
  unfold gcdOne
  simp only [bind, Except.bind, pure, Except.pure]
  have hl : (s.setSize g 1).load (s.ptr w) (s.size w).natAbs = .ok (s.limbs w) := h.load_var hw
  rw [hl]; simp only []
  obtain ⟨bx, hbx, hbxl, hbxL⟩ := h.live x hx
  have hfx := h.fits x hx
  have hlx : limbAt (s.setSize g 1) (s.ptr x) 0 = .ok (bx.getD 0 0) :=
    limbAt_of_blk (s := s.setSize g 1) (show (s.setSize g 1).blk (s.ptr x) = some bx from hbx) (by omega)
  rw [hlx]; simp only []
  have hmx : s.mag x = bx.getD 0 0 := by
    unfold St.mag St.limbs; rw [hbx, hx1]; simp only [Option.getD_some]
    cases bx with
    | nil => simp at hbxl; omega
    | cons a as => simp
  have hxB : bx.getD 0 0 < B := by
    cases bx with
    | nil => simp at hbxl; omega
    | cons a as => simp; exact hbxL a (by simp)
  have hx0 : s.mag x ≠ 0 := fun e => by
    have := h.size_natAbs hx; rw [e, DivZ.sizeNat_eq_zero.mpr rfl] at this; omega
  rw [← hmx]
  set G := Nat.gcd (val (s.limbs w)) (s.mag x) with hG
  have hGpos : 0 < G := Nat.gcd_pos_of_pos_right _ (Nat.pos_of_ne_zero hx0)
  have hGle : G ≤ s.mag x := Nat.gcd_le_right _ (Nat.pos_of_ne_zero hx0)
  have hGB : G < B := by rw [hmx] at hGle; omega
  have hGsz : sizeNat G = 1 := sizeNat_eq (by simp; omega) (by simpa using hGB) (Nat.le_refl 1)
  obtain ⟨bg, hbg, hbgl, hbgL⟩ := h.live g hg
  have hpg : (s.setSize g 1).ptr g = s.ptr g := by simp [St.setSize, St.setVar, St.ptr]
  rw [hpg, storeAt_ok (show (s.setSize g 1).blk (s.ptr g) = some bg from hbg) (by simp; omega)]
  have ht : [G] = toLimbs 1 G := by simp [toLimbs, Nat.mod_eq_of_lt hGB]
  rw [ht]
  have p := put_wrAt0 h hg bg hbgl hbgL 1 G (by rw [hGsz]) (by omega) false
  simp only [Bool.false_eq_true, if_false, hGsz] at p
  exact ⟨_, rfl, Post.of_same_upd (Same.refl s) (Fr.refl s g) p.2.1 p.1 p.2.2⟩

/-- `ha`: the one-limb arms store `PTR (g)[0]` (gcd.c:66-68, :73-75) without a realloc -/
theorem mpz_gcd_post {s : St} (h : Inv s) {g u v : Nat} (hg : g < s.nv) (hu : u < s.nv) (hv : v < s.nv)
    (ha : 1 ≤ s.alloc g) :
    Ok (mpz_gcd g u v s) (fun s' => Post s s' g (Int.gcd (s.value u) (s.value v))) := by
  have hgcd : Int.gcd (s.value u) (s.value v) = Nat.gcd (s.mag u) (s.mag v) := by
    rw [Int.gcd, value_natAbs, value_natAbs]
  rw [hgcd]
  unfold mpz_gcd
  simp only [bind, Except.bind, pure, Except.pure]
  by_cases hu0 : (s.size u).natAbs = 0
  · rw [if_pos hu0]
    have : s.mag u = 0 := h.mag_zero hu (by omega)
    rw [this, Nat.gcd_zero_left]
    exact gcdCopy_ok h hg hv
  · rw [if_neg hu0]
    by_cases hv0 : (s.size v).natAbs = 0
    · rw [if_pos hv0]
      have : s.mag v = 0 := h.mag_zero hv (by omega)
      rw [this, Nat.gcd_zero_right]
      exact gcdCopy_ok h hg hu
    · rw [if_neg hv0]
      by_cases hu1 : (s.size u).natAbs = 1
      · rw [if_pos hu1, Nat.gcd_comm]
        exact gcdOne_ok h hg hv hu hu1 ha
      · rw [if_neg hu1]
        by_cases hv1 : (s.size v).natAbs = 1
        · rw [if_pos hv1]
          exact gcdOne_ok h hg hu hv hv1 ha
        · rw [if_neg hv1, h.load_var hu]; simp only []
          rw [h.load_var hv]; simp only []
          set G := Nat.gcd (val (s.limbs u)) (val (s.limbs v)) with hG
          obtain ⟨i1, k1, a1⟩ := realloc_same h hg (sizeNat G)
          obtain ⟨s', e', hres, us⟩ := setInt_spec i1 (k1.lt hg) (G : Int) (by simpa using a1)
          exact ⟨s', e', Post.of_same_upd k1 ((Fr.refl s g).realloc _) us hres.1 hres.2.2.1⟩

theorem mpz_gcd_ok {s : St} (h : Inv s) {g u v : Nat} (hg : g < s.nv) (hu : u < s.nv) (hv : v < s.nv)
    (ha : 1 ≤ s.alloc g) :
    ∃ s', mpz_gcd g u v s = .ok s' ∧ Res s s' g (Int.gcd (s.value u) (s.value v)) :=
  (mpz_gcd_post h hg hu hv ha).mono fun _ p => p.res h hg

theorem Vals.gcd {n : Nat} {f : Nat → Int} {s : St} (V : Vals n f s) {g u v : Nat} (hg : g < n) (hu : u < n) (hv : v < n)
    (ha : 1 ≤ s.alloc g) : Ok (mpz_gcd g u v s) (Vals n (Function.update f g (Int.gcd (f u) (f v)))) := by
  rw [← V.val u hu, ← V.val v hv]
  exact V.step (mpz_gcd_ok V.inv (V.lt hg) (V.lt hu) (V.lt hv) ha)

end Mpir.AliasMem
