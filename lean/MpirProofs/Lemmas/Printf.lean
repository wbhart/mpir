/- C18, formatted output: the writers (snprintf, asprintf), the parser of `__gmp_doprnt` in closed form (`parse_closed`),
   the bytes of `__gmp_doprnt_integer` for every string (`doprntIntegerCore_bytes`) against the C99 layout, `run_forward`;
   at the end, in `Mpir.Scanf`, `mpz_set_str` reads back what `mpz_get_str` wrote. -/
import Mpir.Model.Printf
import Mpir.Model.Scanf
import MpirProofs.Lemmas.RadixDigits
import Mathlib.Tactic.IntervalCases
namespace Mpir.Printf

@[simp] theorem callsBytes_nil : callsBytes [] = [] := rfl
@[simp] theorem callsBytes_cons (c : Call) (cs : List Call) : callsBytes (c :: cs) = c.bytes ++ callsBytes cs := by
  simp [callsBytes]
@[simp] theorem callsBytes_append (a b : List Call) : callsBytes (a ++ b) = callsBytes a ++ callsBytes b := by
  simp [callsBytes]
@[simp] theorem callsBytes_repsMaybe (c : Char) (n : Nat) : callsBytes (repsMaybe c n) = List.replicate n c := by
  unfold repsMaybe; split <;> simp_all [Call.bytes]
@[simp] theorem callsBytes_memoryMaybe (s : List Char) : callsBytes (memoryMaybe s) = s := by
  unfold memoryMaybe; split <;> simp_all [Call.bytes]

/-! ### bounded writer -/

theorem snCall_spec (d : SnState) (c : Call) :
    (snCall d c).2 = c.bytes.length ∧ (snCall d c).1.written = d.written ++ c.bytes.take (d.size - 1) ∧
    (snCall d c).1.size = d.size - (c.bytes.take (d.size - 1)).length := by
  unfold snCall
  split
  · exact ⟨rfl, by simp [List.take_eq_take_iff], by simp⟩
  · rw [show d.size - 1 = 0 by omega]; simp

theorem snCalls_spec (cs : List Call) : ∀ (d : SnState) (ret : Nat),
    (snCalls d cs ret).2 = ret + (callsBytes cs).length ∧
    (snCalls d cs ret).1.written = d.written ++ (callsBytes cs).take (d.size - 1) ∧
    (snCalls d cs ret).1.size = d.size - ((callsBytes cs).take (d.size - 1)).length := by
  induction cs with
  | nil => intro d ret; simp [snCalls]
  | cons c cs ih =>
    intro d ret
    obtain ⟨c1, c2, c3⟩ := snCall_spec d c
    obtain ⟨h1, h2, h3⟩ := ih (snCall d c).1 (ret + (snCall d c).2)
    have ha : (snCall d c).1.size - 1 = d.size - 1 - c.bytes.length := by
      rw [c3, List.length_take]; omega
    rw [show snCalls d (c :: cs) ret = snCalls (snCall d c).1 cs (ret + (snCall d c).2) from rfl, h1, h2, h3, ha, c1, c2, c3,
      callsBytes_cons, List.length_append, List.take_append, List.length_append, List.append_assoc]
    exact ⟨by omega, rfl, by omega⟩

/-! ### digit strings -/

theorem digitTab_length (u : Bool) : (digitTab u).length = 36 := by cases u <;> rfl

theorem digitChar_mem (u : Bool) (d : Nat) (h : d < 36) : digitChar u d ∈ digitTab u := by
  unfold digitChar
  have hl : d < (digitTab u).length := by rw [digitTab_length]; exact h
  have : (digitTab u).getD d '?' = (digitTab u)[d] := by simp [List.getD_eq_getElem?_getD, hl]
  rw [this]
  exact List.getElem_mem hl

theorem digitTab_ne (u : Bool) : ∀ c ∈ digitTab u, c ≠ '/' ∧ c ≠ '-' := by
  cases u <;> decide

theorem digitChar_zero (u : Bool) : digitChar u 0 = '0' := by cases u <;> rfl

theorem digitChar_eq_zero (u : Bool) (d : Nat) (h : d < 36) (h0 : digitChar u d = '0') : d = 0 := by
  interval_cases d <;> cases u <;> first | rfl | (exfalso; revert h0; decide)

theorem natDigits_zero (b : Nat) (u : Bool) : natDigits b u 0 = ['0'] := by
  rw [natDigits]
  by_cases hb : 0 < b
  · simp [hb, digitChar_zero]
  · have : b < 2 := by omega
    simp [this, digitChar_zero]

theorem natDigits_ne_nil (b : Nat) (u : Bool) (n : Nat) : natDigits b u n ≠ [] := by
  rw [natDigits]; split <;> simp

/-- `natDigits` is `mpz_get_str`'s digit list (`Radix.digitsOf`) through the digit table, with "0" for zero -/
theorem natDigits_eq_map {b : Nat} (u : Bool) (hb : 2 ≤ b) :
    ∀ n, natDigits b u n = if n = 0 then ['0'] else (Radix.digitsOf b n).map (digitChar u) := by
  intro n
  induction n using Nat.strong_induction_on with
  | _ n ih =>
    by_cases h0 : n = 0
    · rw [if_pos h0, h0, natDigits_zero]
    rw [if_neg h0, natDigits]
    split
    · rename_i h
      rw [Radix.digitsOf_small hb (by omega) (by omega)]; rfl
    · rename_i h
      have hq : n / b ≠ 0 := by have := Nat.div_pos (show b ≤ n by omega) (show 0 < b by omega); omega
      rw [ih (n / b) (Nat.div_lt_self (by omega) (by omega)), if_neg hq, Radix.digitsOf_step hb (show 0 < n by omega),
        List.map_append]
      rfl

theorem natDigits_forall {b : Nat} {u : Bool} (hb : 2 ≤ b) {P : Char → Prop} (hd : ∀ d, d < b → P (digitChar u d)) :
    ∀ n, ∀ c ∈ natDigits b u n, P c := by
  intro n c hc
  rw [natDigits_eq_map u hb] at hc
  split at hc
  · rw [List.mem_singleton.mp hc, ← digitChar_zero u]; exact hd 0 (by omega)
  · obtain ⟨x, hx, rfl⟩ := List.mem_map.mp hc
    exact hd x (Radix.digitsOf_lt hb n x hx)

theorem natDigits_foldl {b : Nat} {u : Bool} (hb : 2 ≤ b) {val : Char → Nat} (hd : ∀ d, d < b → val (digitChar u d) = d) :
    ∀ n, (natDigits b u n).foldl (fun a c => a * b + val c) 0 = n := by
  intro n
  rw [natDigits_eq_map u hb]
  split
  · rename_i h0; rw [h0, ← digitChar_zero u]; simp [hd 0 (by omega)]
  · -- the values of the characters are the digits again
    have hval : ((Radix.digitsOf b n).map (digitChar u)).map val = Radix.digitsOf b n := by
      rw [List.map_map]
      exact (List.map_congr_left fun x hx => hd x (Radix.digitsOf_lt hb n x hx)).trans (List.map_id _)
    have := List.foldl_map (f := val) (g := fun a x => a * b + x) (l := (Radix.digitsOf b n).map (digitChar u)) (init := 0)
    rw [hval] at this
    exact this.symm.trans (Radix.ofDigits_digitsOf hb n)

theorem natDigits_mem (b : Nat) (u : Bool) (hb : 2 ≤ b) (hb' : b ≤ 36) :
    ∀ n, ∀ c ∈ natDigits b u n, c ∈ digitTab u :=
  natDigits_forall hb fun d hd => digitChar_mem u d (by omega)

theorem natDigits_head_ne_zero (b : Nat) (u : Bool) (hb : 2 ≤ b) (hb' : b ≤ 36) :
    ∀ n, n ≠ 0 → (natDigits b u n).head? ≠ some '0' := by
  intro n hn
  rw [natDigits_eq_map u hb, if_neg hn]
  cases hl : Radix.digitsOf b n with
  | nil => simp
  | cons x t =>
    have hx : x < b := Radix.digitsOf_lt hb n x (by rw [hl]; exact List.mem_cons_self)
    have h0 : x ≠ 0 := fun e => Radix.digitsOf_head_ne_zero hb n (by rw [hl, e]; rfl)
    simpa using fun h => h0 (digitChar_eq_zero u x (by omega) h)

theorem natDigits_head_zero_iff (b : Nat) (u : Bool) (hb : 2 ≤ b) (hb' : b ≤ 36) (n : Nat) :
    (natDigits b u n).head? = some '0' ↔ n = 0 :=
  ⟨fun h => by by_contra hn; exact natDigits_head_ne_zero b u hb hb' n hn h, by rintro rfl; rw [natDigits_zero]; rfl⟩

theorem natDigits_ne_slash_minus {b : Nat} {u : Bool} (hb : 2 ≤ b) (hb' : b ≤ 36) (n : Nat) :
    ∀ c ∈ natDigits b u n, c ≠ '/' ∧ c ≠ '-' :=
  fun c hc => digitTab_ne u c (natDigits_mem b u hb hb' n c hc)

theorem natDigits_head_ne_minus {b : Nat} {u : Bool} (hb : 2 ≤ b) (hb' : b ≤ 36) (n : Nat) :
    (natDigits b u n).head? ≠ some '-' := by
  cases h : natDigits b u n with
  | nil => simp
  | cons a t => simpa using (natDigits_ne_slash_minus (u := u) hb hb' n a (by rw [h]; exact List.mem_cons_self)).2

theorem splitSlash_none (s : List Char) (h : ∀ c ∈ s, c ≠ '/') : splitSlash s = none := by
  induction s with
  | nil => rfl
  | cons c cs ih =>
    have hc : c ≠ '/' := h c (List.mem_cons_self)
    have := ih (fun x hx => h x (List.mem_cons_of_mem _ hx))
    simp [splitSlash, hc, this]

/-! ### the parser's flag loop -/

/-- what one flag character does to the `showbase`, `sign`, `justify` and `fill` fields (doprnt.c, the flag cases) -/
def gShow (a : Showbase) (c : Char) : Showbase := if c = '#' then .nonzero else a
def gSign (a : Option Char) (c : Char) : Option Char :=
  if c = '+' then some '+' else if c = ' ' then (if a = none then some ' ' else a) else a
def gJust (a : Justify) (c : Char) : Justify :=
  if c = '-' then .left else if c = '0' then (if a = .right then .internal else a) else a
def gFill (a : Char) (c : Char) : Char := if c = '0' then '0' else a

theorem gShow_fold (fl : List Char) (a : Showbase) : fl.foldl gShow a = if '#' ∈ fl then .nonzero else a := by
  induction fl generalizing a with
  | nil => simp
  | cons c cs ih =>
    simp only [List.foldl_cons, ih, gShow, List.mem_cons]
    by_cases h1 : c = '#' <;> by_cases h2 : '#' ∈ cs <;> simp [h1, h2, eq_comm]

theorem gFill_fold (fl : List Char) (a : Char) : fl.foldl gFill a = if '0' ∈ fl then '0' else a := by
  induction fl generalizing a with
  | nil => simp
  | cons c cs ih =>
    simp only [List.foldl_cons, ih, gFill, List.mem_cons]
    by_cases h1 : c = '0' <;> by_cases h2 : '0' ∈ cs <;> simp [h1, h2, eq_comm]

theorem gSign_fold (fl : List Char) (a : Option Char) :
    fl.foldl gSign a = if '+' ∈ fl then some '+' else
      (match a with | some s => some s | none => if ' ' ∈ fl then some ' ' else none) := by
  induction fl generalizing a with
  | nil => cases a <;> simp
  | cons c cs ih =>
    simp only [List.foldl_cons, ih, gSign, List.mem_cons]
    by_cases h1 : c = '+'
    · subst h1; simp
    · by_cases h2 : c = ' '
      · subst h2
        cases a <;> by_cases h3 : '+' ∈ cs <;> simp [h3]
      · have e1 : ¬ '+' = c := fun h => h1 h.symm
        have e2 : ¬ ' ' = c := fun h => h2 h.symm
        simp [h1, h2, e1, e2]

theorem gJust_fold (fl : List Char) (a : Justify) :
    fl.foldl gJust a = if '-' ∈ fl then .left else if '0' ∈ fl ∧ a = .right then .internal else a := by
  induction fl generalizing a with
  | nil => simp
  | cons c cs ih =>
    simp only [List.foldl_cons, ih, gJust, List.mem_cons]
    by_cases h1 : c = '-'
    · subst h1; simp
    · by_cases h2 : c = '0'
      · subst h2
        by_cases h3 : '-' ∈ cs <;> by_cases h4 : '0' ∈ cs <;> cases a <;> simp [h3, h4]
      · have e1 : ¬ '-' = c := fun h => h1 h.symm
        have e2 : ¬ '0' = c := fun h => h2 h.symm
        simp [h1, h2, e1, e2]

theorem stepFlag_eq (ps : PS) (c : Char) (hp : ps.inPrec = false) :
    stepFlag false ps c = { ps with param := { ps.param with
      showbase := gShow ps.param.showbase c, sign := gSign ps.param.sign c,
      justify := gJust ps.param.justify c, fill := gFill ps.param.fill c } } := by
  obtain ⟨⟨b, cv, eu, eh, e4, fi, ju, pr, sb, sp, st, sg, wi⟩, ty, ip, sp', inn⟩ := ps
  simp only at hp
  subst hp
  unfold stepFlag gShow gSign gJust gFill PS.setValue
  by_cases h1 : c = '#'
  · subst h1; simp
  by_cases h2 : c = '+'
  · subst h2; simp
  by_cases h3 : c = ' '
  · subst h3; cases sg <;> simp
  by_cases h4 : c = '-'
  · subst h4; simp
  by_cases h5 : c = '0'
  · subst h5; simp
  simp [h1, h2, h3, h4, h5]

theorem foldl_stepFlag (fl : List Char) : ∀ (ps : PS), ps.inPrec = false →
    fl.foldl (stepFlag false) ps = { ps with param := { ps.param with
      showbase := fl.foldl gShow ps.param.showbase, sign := fl.foldl gSign ps.param.sign,
      justify := fl.foldl gJust ps.param.justify, fill := fl.foldl gFill ps.param.fill } } := by
  induction fl with
  | nil => intro ps _; rfl
  | cons c cs ih =>
    intro ps hp
    rw [List.foldl_cons, stepFlag_eq ps c hp]
    exact ih _ hp

/-! ### the parser state after flags, width and precision -/

/-- the precision `__gmp_doprnt` ends up with: −1 = "not given" -/
def precInt : PrecArg → Int
  | .none => -1
  | .dot => -1
  | .num n => n
  | .star n => if n < 0 then -1 else n

def negStar : WidthArg → Prop
  | .star n => n < 0
  | _ => False
instance (w : WidthArg) : Decidable (negStar w) := by cases w <;> unfold negStar <;> infer_instance

def leftP (fl : List Char) (w : WidthArg) : Prop := '-' ∈ fl ∨ negStar w
instance (fl : List Char) (w : WidthArg) : Decidable (leftP fl w) := by unfold leftP; infer_instance

def widthStep (ps : PS) : WidthArg → PS
  | .none => ps
  | .num n => ps.setValue n
  | .star n => stepStar false ps n
def precStep (ps : PS) : PrecArg → PS
  | .none => ps
  | .dot => stepDot ps
  | .num n => (stepDot ps).setValue n
  | .star n => stepStar false (stepDot ps) n

def baseP (Fi : Char) (J : Justify) (S : Showbase) (G : Option Char) (Wd Pr : Int) : Params :=
  { fill := Fi, justify := J, showbase := S, sign := G, width := Wd, prec := Pr }

/-- `param.prec` and `seen_precision` after the precision part -/
def precAfter : PrecArg → Int
  | .none => 6
  | .dot => -1
  | .num n => n
  | .star n => if n < 0 then 6 else n
def seenAfter : PrecArg → Bool
  | .none => false
  | .dot => true
  | .num _ => true
  | .star n => decide (0 ≤ n)

theorem flags_closed (fl : List Char) :
    fl.foldl (stepFlag false) {} =
      ⟨baseP (if '0' ∈ fl then '0' else ' ') (if '-' ∈ fl then .left else if '0' ∈ fl then .internal else .right)
        (if '#' ∈ fl then .nonzero else .no) (if '+' ∈ fl then some '+' else if ' ' ∈ fl then some ' ' else none) 0 6,
        '\x00', false, false, false⟩ := by
  rw [foldl_stepFlag fl {} rfl, gShow_fold, gSign_fold, gJust_fold, gFill_fold]
  simp [baseP]

theorem widthStep_closed (Fi : Char) (J : Justify) (S : Showbase) (G : Option Char) (Pr : Int) (w : WidthArg) :
    widthStep ⟨baseP Fi J S G 0 Pr, '\x00', false, false, false⟩ w =
      ⟨baseP Fi (if negStar w then .left else J) S G (cWidth w) Pr, '\x00', false, false, false⟩ := by
  cases w with
  | none => simp [widthStep, negStar, cWidth]
  | num n => simp [widthStep, PS.setValue, negStar, cWidth, baseP]
  | star n =>
    by_cases hn : n < 0
    · simp [widthStep, stepStar, negStar, cWidth, baseP, hn]; exact (abs_of_neg hn).symm
    · simp [widthStep, stepStar, negStar, cWidth, baseP, hn]; exact (abs_of_nonneg (by omega)).symm

theorem precStep_closed (Fi : Char) (J : Justify) (S : Showbase) (G : Option Char) (Wd : Int) (p : PrecArg) :
    (precStep ⟨baseP Fi J S G Wd 6, '\x00', false, false, false⟩ p).param = baseP Fi J S G Wd (precAfter p) ∧
    (precStep ⟨baseP Fi J S G Wd 6, '\x00', false, false, false⟩ p).seenPrec = seenAfter p := by
  cases p with
  | none => exact ⟨rfl, rfl⟩
  | dot => exact ⟨rfl, rfl⟩
  | num n => simp [precStep, stepDot, PS.setValue, baseP, precAfter, seenAfter]
  | star n =>
    by_cases hn : n < 0
    · simp [precStep, stepDot, stepStar, baseP, precAfter, seenAfter, hn]
    · simp [precStep, stepDot, stepStar, baseP, precAfter, seenAfter, hn]; omega

/-- The state in which `__gmp_doprnt` reaches the conversion character of `% fl w p`. -/
theorem parse_closed (fl : List Char) (w : WidthArg) (p : PrecArg) :
    (precStep (widthStep (fl.foldl (stepFlag false) {}) w) p).param =
      baseP (if '0' ∈ fl then '0' else ' ') (if leftP fl w then .left else if '0' ∈ fl then .internal else .right)
        (if '#' ∈ fl then .nonzero else .no) (if '+' ∈ fl then some '+' else if ' ' ∈ fl then some ' ' else none)
        (cWidth w) (precAfter p) ∧
    (precStep (widthStep (fl.foldl (stepFlag false) {}) w) p).seenPrec = seenAfter p := by
  rw [flags_closed, widthStep_closed]
  have hj : (if negStar w then Justify.left else if '-' ∈ fl then .left else if '0' ∈ fl then .internal else .right) =
      (if leftP fl w then .left else if '0' ∈ fl then .internal else .right) := by
    unfold leftP; by_cases h1 : '-' ∈ fl <;> by_cases h2 : negStar w <;> simp [h1, h2]
  rw [hj]
  exact precStep_closed ..

theorem precInt_eq (p : PrecArg) : precInt p = if seenAfter p then precAfter p else -1 := by
  cases p with
  | star n =>
    by_cases hn : n < 0
    · simp [precInt, seenAfter, precAfter, hn]
    · simp [precInt, seenAfter, precAfter, hn, not_lt.mp hn]
  | _ => rfl

theorem specParams_eq (fl : List Char) (w : WidthArg) (p : PrecArg) (conv : Conv) :
    specParams false fl w p conv =
      integerParams false (precStep (widthStep (fl.foldl (stepFlag false) {}) w) p) (convBase conv) := by
  unfold specParams widthStep precStep
  cases w <;> cases p <;> rfl

theorem integerParams_closed (Fi : Char) (J : Justify) (S : Showbase) (G : Option Char) (Wd Pr : Int)
    (ty : Char) (ip seen inn : Bool) (base : Int) :
    integerParams false ⟨baseP Fi J S G Wd Pr, ty, ip, seen, inn⟩ base =
      { baseP (if J = .left ∨ 0 ≤ (if seen then Pr else -1) then ' ' else Fi)
          (if (J = .left ∨ 0 ≤ (if seen then Pr else -1)) ∧ J = .internal then .right else J) S G Wd (if seen then Pr else -1)
        with base := base } := by
  cases seen <;> by_cases h : J = .left <;> simp [integerParams, baseP, h]
  split <;> simp_all

theorem specParams_fields (fl : List Char) (w : WidthArg) (p : PrecArg) (conv : Conv) :
    let P := specParams false fl w p conv
    P.base = convBase conv ∧
    P.showbase = (if '#' ∈ fl then Showbase.nonzero else .no) ∧
    P.sign = (if '+' ∈ fl then some '+' else if ' ' ∈ fl then some ' ' else none) ∧
    P.width = (cWidth w : Int) ∧
    P.prec = precInt p ∧
    P.justify = (if leftP fl w then Justify.left else if '0' ∈ fl ∧ precInt p < 0 then .internal else .right) ∧
    P.fill = (if ¬ leftP fl w ∧ '0' ∈ fl ∧ precInt p < 0 then '0' else ' ') := by
  obtain ⟨hparam, hseen⟩ := parse_closed fl w p
  rw [specParams_eq]
  generalize precStep (widthStep (fl.foldl (stepFlag false) {}) w) p = ps at hparam hseen
  obtain ⟨param, ty, ip, seen, inn⟩ := ps
  simp only at hparam hseen
  subst hparam hseen
  rw [integerParams_closed, ← precInt_eq]
  refine ⟨rfl, rfl, rfl, rfl, rfl, ?_, ?_⟩
  · show (if _ then _ else _) = _
    by_cases h1 : leftP fl w <;> by_cases h2 : '0' ∈ fl <;> by_cases h3 : 0 ≤ precInt p <;> simp [h1, h2, h3]
  · show (if _ then _ else _) = _
    by_cases h1 : leftP fl w <;> by_cases h2 : '0' ∈ fl <;> by_cases h3 : 0 ≤ precInt p <;> simp [h1, h2, h3]

/-! ### `__gmp_doprnt_integer` in closed form

`doprntIntegerCore_bytes` holds for every string, with the lengths of doprnti.c as `cSL`, `cDL`, `cZ`, `cJ`; `core_bytes` is
the case of a string without '/' (integers) in natural-number arithmetic, `core_bytes_noprec` the case without a precision
(`operator<<`); `closed_eq_layout` (next section) compares `closedCore` with the C99 layout, `Scanf.core_shape`
(Lemmas/ScanfQ.lean) lists the pieces in the order the scanner meets them. -/

section
open List

def justLayout (j : Justify) (pad a b : List Char) : List Char :=
  (if j = .right then pad else []) ++ a ++ (if j = .internal then pad else []) ++ b ++ (if j = .left then pad else [])

/-- the padding calls of doprnti.c:101-106, 114-115, 131-132 (and of doprntf.c): `justify` is NONE when `justlen ≤ 0` -/
theorem callsBytes_padIf (j k : Justify) (fill : Char) (n : Int) (hk : k ≠ .none) :
    callsBytes (if (if n ≤ 0 then Justify.none else j) = k then [Call.reps fill n.toNat] else []) =
      if j = k then replicate n.toNat fill else [] := by
  by_cases hn : n ≤ 0
  · simp [hn, hk.symm, Int.toNat_of_nonpos hn]
  · simp only [hn, if_false]; split <;> simp [Call.bytes]

theorem callsBytes_signCall (sign : Option Char) :
    callsBytes (match sign with | some c => [Call.reps c 1] | none => []) = sign.toList := by
  cases sign <;> simp [Call.bytes]

/-- the calls of doprnti.c:105-132 with the lengths as parameters -/
def coreCalls (P : Params) (sign : Option Char) (s sb : List Char) (slash : Option (List Char × List Char))
    (showbaselen denShowbaselen zeros justlen : Int) : List Call :=
  let justify := if justlen ≤ 0 then Justify.none else P.justify
  (if justify = .right then [Call.reps P.fill justlen.toNat] else []) ++
  (match sign with | some c => [Call.reps c 1] | none => []) ++
  memoryMaybe (sb.take showbaselen.toNat) ++
  repsMaybe '0' zeros.toNat ++
  (if justify = .internal then [Call.reps P.fill justlen.toNat] else []) ++
  (match slash with
   | some (num, den) =>
       if denShowbaselen ≠ 0 then [Call.memory num, Call.memory (sb.take denShowbaselen.toNat), Call.memory den]
       else [Call.memory s]
   | none => [Call.memory s]) ++
  (if justify = .left then [Call.reps P.fill justlen.toNat] else [])

/-- doprnti.c:119-129: the string, with the base prefix of the denominator after the slash -/
def coreBody (s sb : List Char) (slash : Option (List Char × List Char)) (denShowbaselen : Int) : List Char :=
  match slash with
  | some (num, den) => if denShowbaselen ≠ 0 then num ++ sb.take denShowbaselen.toNat ++ den else s
  | none => s

theorem coreCalls_bytes (P : Params) (sign : Option Char) (s sb : List Char) (slash : Option (List Char × List Char))
    (showbaselen denShowbaselen zeros justlen : Int) :
    callsBytes (coreCalls P sign s sb slash showbaselen denShowbaselen zeros justlen) =
      justLayout P.justify (replicate justlen.toNat P.fill)
        (sign.toList ++ sb.take showbaselen.toNat ++ replicate zeros.toNat '0') (coreBody s sb slash denShowbaselen) := by
  have hbody : callsBytes (match slash with
      | some (num, den) =>
        if denShowbaselen ≠ 0 then [Call.memory num, Call.memory (sb.take denShowbaselen.toNat), Call.memory den]
        else [Call.memory s]
      | none => [Call.memory s]) = coreBody s sb slash denShowbaselen := by
    unfold coreBody
    split
    · split <;> simp [Call.bytes]
    · simp [Call.bytes]
  unfold coreCalls justLayout
  simp only [callsBytes_append, callsBytes_padIf, callsBytes_repsMaybe, callsBytes_memoryMaybe, callsBytes_signCall, hbody,
    ne_eq, reduceCtorEq, not_false_eq_true, append_assoc]

/-- doprnti.c:90 `zeros` -/
def cZ (P : Params) (s : List Char) : Int := max 0 (P.prec - (s.length : Int))
/-- doprnti.c:86-95 `showbaselen`; `¬ (false = true)` is the model's `¬ old` with the flag `old` of
    `doprntIntegerCore` fixed to `false` (the current code), kept so that the two unfold to the same term -/
def cSL (P : Params) (s sb : List Char) : Int :=
  if ¬ (false = true) ∧ cZ P s > 0 ∧ (if P.showbase = .nonzero ∧ s.head? = some '0' then (0 : Int) else (sb.length : Int)) = 1 then 0
  else (if P.showbase = .nonzero ∧ s.head? = some '0' then (0 : Int) else (sb.length : Int))
/-- doprnti.c:81-84 `den_showbaselen` -/
def cDL (P : Params) (s sb : List Char) : Int :=
  match splitSlash s with
  | none => 0
  | some (_, den) => if P.showbase = .nonzero ∧ den.head? = some '0' then (0 : Int) else (sb.length : Int)
/-- doprnti.c:98-99 `justlen` -/
def cJ (P : Params) (sign : Option Char) (s sb : List Char) : Int :=
  P.width - ((s.length : Int) + (if sign.isSome then 1 else 0) + cSL P s sb + cDL P s sb + cZ P s)

theorem doprntIntegerCore_bytes (P : Params) (sign : Option Char) (s sb : List Char) :
    callsBytes (doprntIntegerCore false P sign s sb) =
      justLayout P.justify (replicate (cJ P sign s sb).toNat P.fill)
        (sign.toList ++ sb.take (cSL P s sb).toNat ++ replicate (cZ P s).toNat '0')
        (coreBody s sb (splitSlash s) (cDL P s sb)) :=
  coreCalls_bytes P sign s sb (splitSlash s) (cSL P s sb) (cDL P s sb) (cZ P s) (cJ P sign s sb)

/-- `doprntIntegerCore` on a string without '/' in closed form (natural-number arithmetic) -/
def closedCore (P : Params) (sign s sb : List Char) : List Char :=
  let sb1 := if P.showbase = .nonzero ∧ s.head? = some '0' then [] else sb
  let zeros := (P.prec - s.length).toNat
  let pre := if zeros > 0 ∧ sb1.length = 1 then [] else sb1
  justLayout P.justify (replicate (P.width - ((s.length + sign.length + pre.length + zeros : Nat) : Int)).toNat P.fill)
    (sign ++ pre ++ replicate zeros '0') s

theorem core_bytes (P : Params) (sign : Option Char) (s sb : List Char) (hs : splitSlash s = none) :
    callsBytes (doprntIntegerCore false P sign s sb) = closedCore P sign.toList s sb := by
  rw [doprntIntegerCore_bytes]
  unfold closedCore cJ cSL cDL cZ coreBody
  simp only [hs]
  generalize hsb1 : (if P.showbase = .nonzero ∧ s.head? = some '0' then [] else sb) = sb1
  have e1 : (if P.showbase = .nonzero ∧ s.head? = some '0' then (0 : Int) else (sb.length : Int)) = (sb1.length : Int) := by
    rw [← hsb1]; split <;> simp
  have htake : take sb1.length sb = sb1 := by rw [← hsb1]; split <;> simp
  have ez : max 0 (P.prec - (s.length : Int)) = (((P.prec - (s.length : Int)).toNat : Nat) : Int) := by omega
  rw [e1, ez]
  generalize (P.prec - (s.length : Int)).toNat = zeros
  have hpre : take (if ¬ (false = true) ∧ (zeros : Int) > 0 ∧ (sb1.length : Int) = 1 then (0 : Int) else sb1.length).toNat sb =
      (if zeros > 0 ∧ sb1.length = 1 then [] else sb1) := by
    by_cases hc : zeros > 0 ∧ sb1.length = 1
    · rw [if_pos hc, if_pos ⟨by simp, by omega, by omega⟩]; rfl
    · rw [if_neg hc, if_neg (by omega)]; exact htake
  have hlen : (if ¬ (false = true) ∧ (zeros : Int) > 0 ∧ (sb1.length : Int) = 1 then (0 : Int) else sb1.length) =
      ((if zeros > 0 ∧ sb1.length = 1 then [] else sb1).length : Int) := by
    by_cases hc : zeros > 0 ∧ sb1.length = 1
    · rw [if_pos hc, if_pos ⟨by simp, by omega, by omega⟩]; rfl
    · rw [if_neg hc, if_neg (by omega)]
  rw [hpre, hlen]
  congr 3
  cases sign <;> simp

theorem splitSlash_eq : ∀ (s num den : List Char), splitSlash s = some (num, den) → s = num ++ den
  | [], _, _, h => by simp [splitSlash] at h
  | c :: cs, num, den, h => by
    unfold splitSlash at h
    split at h
    · cases h; rfl
    · cases hr : splitSlash cs with
      | none => simp [hr] at h
      | some ab =>
        obtain ⟨a, b⟩ := ab
        simp only [hr, Option.some.injEq, Prod.mk.injEq] at h
        rw [← h.1, ← h.2, splitSlash_eq cs a b hr]; rfl

theorem splitSlash_append (a b : List Char) (h : ∀ c ∈ a, c ≠ '/') : splitSlash (a ++ '/' :: b) = some (a ++ ['/'], b) := by
  induction a with
  | nil => simp [splitSlash]
  | cons x t ih =>
    have hx : x ≠ '/' := h x List.mem_cons_self
    have := ih (fun c hc => h c (List.mem_cons_of_mem _ hc))
    simp [splitSlash, hx, this]

/-- a numerator, and a denominator after a slash unless `c` -/
theorem splitSlash_opt (a b : List Char) (c : Prop) [Decidable c] (h : ∀ x ∈ a, x ≠ '/') :
    splitSlash (a ++ if c then [] else '/' :: b) = if c then none else some (a ++ ['/'], b) := by
  by_cases h1 : c
  · simp only [h1, if_true, List.append_nil]; exact splitSlash_none _ h
  · simp only [h1, if_false]; exact splitSlash_append a b h

/-- `__gmp_doprnt_integer` without a precision (as `operator<<` calls it) -/
theorem core_bytes_noprec (P : Params) (sign : Option Char) (s sb : List Char) (hp : P.prec = -1) :
    callsBytes (doprntIntegerCore false P sign s sb) =
      (let sb1 := if P.showbase = .nonzero ∧ s.head? = some '0' then [] else sb
       let body := match splitSlash s with
         | some (num, den) => num ++ (if P.showbase = .nonzero ∧ den.head? = some '0' then [] else sb) ++ den
         | none => s
       justLayout P.justify (replicate (P.width - ((sign.toList.length + sb1.length + body.length : Nat) : Int)).toNat P.fill)
         (sign.toList ++ sb1) body) := by
  rw [doprntIntegerCore_bytes]
  have hz : cZ P s = 0 := by unfold cZ; rw [hp]; omega
  have hlen : ∀ c : Prop, [Decidable c] → (if c then (0 : Int) else (sb.length : Int)) = ((if c then [] else sb).length : Int) := by
    intro c _; split <;> rfl
  have htake : ∀ c : Prop, [Decidable c] → take (if c then [] else sb).length sb = (if c then [] else sb) := by
    intro c _; split <;> simp
  have hsg : (if sign.isSome = true then (1 : Int) else 0) = (sign.toList.length : Int) := by cases sign <;> rfl
  unfold cJ cSL cDL coreBody
  simp only [hz, gt_iff_lt, lt_self_iff_false, false_and, and_false, if_false, Int.toNat_zero, replicate_zero, append_nil,
    hlen, Int.toNat_natCast, htake, hsg]
  cases hs : splitSlash s with
  | none => simp only []; congr 3; omega
  | some nd =>
    obtain ⟨num, den⟩ := nd
    have := splitSlash_eq s num den hs
    subst this
    simp only [Int.natCast_eq_zero, length_eq_zero_iff, ne_eq, ite_not]
    by_cases hc : (if P.showbase = .nonzero ∧ den.head? = some '0' then [] else sb) = []
    · rw [if_pos hc, hc]; simp only [length_nil, append_nil, length_append]; congr 3; omega
    · rw [if_neg hc, Int.toNat_natCast, htake]; simp only [length_append]; congr 3; omega

/-- the calls of doprntf.c:352-376 with the lengths as parameters -/
def floatCalls (j : Justify) (fill : Char) (justlen : Int) (sign : Option Char) (sb s : List Char)
    (intlen intzeros pointlen fraczeros fraclen preczeros : Int) (ex : List Char) : List Call :=
  let justify := if justlen ≤ 0 then Justify.none else j
  (if justify = .right then [Call.reps fill justlen.toNat] else []) ++
  (match sign with | some c => [Call.reps c 1] | none => []) ++
  memoryMaybe sb ++
  (if justify = .internal then [Call.reps fill justlen.toNat] else []) ++
  [Call.memory (s.take intlen.toNat)] ++
  repsMaybe '0' intzeros.toNat ++
  (if pointlen ≠ 0 then [Call.memory ['.']] else []) ++
  repsMaybe '0' fraczeros.toNat ++
  memoryMaybe ((s.drop intlen.toNat).take fraclen.toNat) ++
  repsMaybe '0' preczeros.toNat ++
  memoryMaybe ex ++
  (if justify = .left then [Call.reps fill justlen.toNat] else [])

theorem floatCalls_bytes (j : Justify) (fill : Char) (justlen : Int) (sign : Option Char) (sb s : List Char)
    (intlen intzeros pointlen fraczeros fraclen preczeros : Int) (ex : List Char) :
    callsBytes (floatCalls j fill justlen sign sb s intlen intzeros pointlen fraczeros fraclen preczeros ex) =
      justLayout j (replicate justlen.toNat fill) (sign.toList ++ sb)
        (s.take intlen.toNat ++ replicate intzeros.toNat '0' ++ (if pointlen ≠ 0 then ['.'] else []) ++
          replicate fraczeros.toNat '0' ++ (s.drop intlen.toNat).take fraclen.toNat ++ replicate preczeros.toNat '0' ++ ex) := by
  have hpt : callsBytes (if pointlen ≠ 0 then [Call.memory ['.']] else []) = if pointlen ≠ 0 then ['.'] else [] := by
    split <;> simp [Call.bytes]
  unfold floatCalls justLayout
  simp only [callsBytes_append, callsBytes_padIf, callsBytes_repsMaybe, callsBytes_memoryMaybe, callsBytes_signCall, hpt,
    callsBytes_cons, callsBytes_nil, Call.bytes, ne_eq, reduceCtorEq, not_false_eq_true, append_assoc, append_nil]

end

/-! ### model layout = specification layout -/

section
open List

theorem replicate_comm_one (n : Nat) (c : Char) (t : List Char) :
    c :: (replicate n c ++ t) = replicate n c ++ c :: t := by
  induction n with
  | zero => simp
  | succ n ih => simp [replicate_succ, ih]

def padSpec (minus zmode : Bool) (width : Nat) (sg pre ds : List Char) : List Char :=
  let pad := width - (sg.length + pre.length + ds.length)
  if minus then sg ++ pre ++ ds ++ replicate pad ' '
  else if zmode then sg ++ pre ++ replicate pad '0' ++ ds
  else replicate pad ' ' ++ sg ++ pre ++ ds

theorem pad_eq (minus zmode : Bool) (width : Nat) (sg prem pres : List Char) (zeros : Nat) (t ds : List Char)
    (hbody : prem ++ replicate zeros '0' ++ t = pres ++ ds)
    (hz : zmode = true → zeros = 0 ∧ ∀ n, prem ++ replicate n '0' ++ t = pres ++ replicate n '0' ++ ds) :
    justLayout (if minus then .left else if zmode then .internal else .right)
      (replicate (width - (t.length + sg.length + prem.length + zeros)) (if ¬ minus ∧ zmode then '0' else ' '))
      (sg ++ prem ++ replicate zeros '0') t = padSpec minus zmode width sg pres ds := by
  have hlen : prem.length + zeros + t.length = pres.length + ds.length := by
    have := congrArg List.length hbody; simpa [Nat.add_assoc] using this
  unfold justLayout padSpec
  have e : width - (t.length + sg.length + prem.length + zeros) = width - (sg.length + pres.length + ds.length) := by omega
  rw [e]
  generalize width - (sg.length + pres.length + ds.length) = pad
  cases minus <;> cases zmode <;> simp
  · simp [← hbody]
  · obtain ⟨hz0, hzn⟩ := hz rfl
    subst hz0
    simpa using hzn pad
  · simpa using congrArg (· ++ replicate pad ' ') hbody
  · simpa using congrArg (· ++ replicate pad ' ') hbody

/-- prefix and digits: the model's (prefix, precision zeros, string) against the specification's
    (prefix, digit string with precision zeros and octal 0) -/
theorem body_eq (hash : Bool) (b : Nat) (u : Bool) (cp : Option Nat) (mag : Nat) (t sb : List Char)
    (hsb : sb = if hash then (if b = 16 then (if u then ['0', 'X'] else ['0', 'x']) else if b = 8 then ['0'] else []) else [])
    (G2 : hash = true → b = 16 → (t.head? = some '0' ↔ mag = 0)) :
    let zeros := cp.getD 1 - t.length
    let sb1 := if hash = true ∧ t.head? = some '0' then [] else sb
    let prem := if zeros > 0 ∧ sb1.length = 1 then [] else sb1
    let ds1 := replicate (cp.getD 1 - t.length) '0' ++ t
    let ds := if hash = true ∧ b = 8 ∧ ds1.head? ≠ some '0' then '0' :: ds1 else ds1
    let pres := if hash = true ∧ b = 16 ∧ mag ≠ 0 then (if u then ['0', 'X'] else ['0', 'x']) else []
    prem ++ replicate zeros '0' ++ t = pres ++ ds ∧
    (zeros = 0 → ∀ n, prem ++ replicate n '0' ++ t = pres ++ replicate n '0' ++ ds) := by
  intro zeros
  cases hash with
  | false => subst hsb; simp [zeros]
  | true =>
    by_cases h16 : b = 16
    · have hG := G2 rfl h16
      subst h16
      by_cases hm : mag = 0
      · have ht := hG.mpr hm
        subst hsb; cases u <;> simp [ht, hm, zeros]
      · have ht : ¬ t.head? = some '0' := fun h => hm (hG.mp h)
        subst hsb; cases u <;> simp [ht, hm, zeros]
    · by_cases h8 : b = 8
      · subst h8; subst hsb
        by_cases hz : zeros = 0
        · have hz' : cp.getD 1 - t.length = 0 := hz
          by_cases ht : t.head? = some '0'
          · simp [ht, hz, zeros]
          · simp [ht, hz, zeros]
            intro n; exact replicate_comm_one n '0' t
        · have hz' : ¬ cp.getD 1 - t.length = 0 := hz
          have hpos : 0 < cp.getD 1 - t.length := Nat.pos_of_ne_zero hz'
          have hhd : (replicate (cp.getD 1 - t.length) '0' ++ t).head? = some '0' := by
            obtain ⟨k, hk⟩ : ∃ k, cp.getD 1 - t.length = k + 1 := ⟨_, (Nat.succ_pred_eq_of_pos hpos).symm⟩
            rw [hk]; simp [replicate_succ]
          by_cases ht : t.head? = some '0' <;> simp [ht, hz, hhd, hpos, zeros]
      · subst hsb; simp [h16, h8, zeros]

theorem closed_eq_layout (P : Params) (f : Flags) (width : Nat) (cp : Option Nat) (b : Nat) (u : Bool)
    (sg : List Char) (mag : Nat) (t : List Char)
    (hbase : (b = 10 ∧ P.base = 10) ∨ (b = 8 ∧ P.base = 8) ∨ (b = 16 ∧ P.base = 16 ∧ u = false) ∨ (b = 16 ∧ P.base = -16 ∧ u = true))
    (hshow : P.showbase = if f.hash then .nonzero else .no)
    (hwidth : P.width = width)
    (hprec : P.prec = match cp with | none => -1 | some n => (n : Int))
    (hjust : P.justify = if f.minus then .left else if (f.zero && cp.isNone) then .internal else .right)
    (hfill : P.fill = if ¬ f.minus ∧ (f.zero && cp.isNone) then '0' else ' ')
    (G1 : cp = none → 1 ≤ t.length) (G2 : f.hash = true → b = 16 → (t.head? = some '0' ↔ mag = 0)) :
    closedCore P sg t (showbaseStr P) = layoutFrom f width cp b u sg mag t := by
  have hzeros : (P.prec - (t.length : Int)).toNat = cp.getD 1 - t.length := by
    rw [hprec]; cases cp with
    | none => have := G1 rfl; simp; omega
    | some n => simp
  have hsb : showbaseStr P = if f.hash then (if b = 16 then (if u then ['0', 'X'] else ['0', 'x']) else if b = 8 then ['0'] else []) else [] := by
    unfold showbaseStr; rw [hshow]
    rcases hbase with ⟨hb, hP⟩ | ⟨hb, hP⟩ | ⟨hb, hP, hu⟩ | ⟨hb, hP, hu⟩
    · cases f.hash <;> simp [hb, hP]
    · cases f.hash <;> simp [hb, hP]
    · cases f.hash <;> simp [hb, hP, hu]
    · cases f.hash <;> simp [hb, hP, hu]
  have hnz : (P.showbase = .nonzero ∧ t.head? = some '0') ↔ (f.hash = true ∧ t.head? = some '0') := by
    rw [hshow]; cases f.hash <;> simp
  obtain ⟨hb1, hb2⟩ := body_eq f.hash b u cp mag t (showbaseStr P) hsb G2
  have hpad : ∀ n : Nat, ((width : Int) - (n : Int)).toNat = width - n := by intro n; omega
  have hL : closedCore P sg t (showbaseStr P) =
      justLayout P.justify
        (replicate (width - (t.length + sg.length +
          (if cp.getD 1 - t.length > 0 ∧ (if f.hash = true ∧ t.head? = some '0' then [] else showbaseStr P).length = 1 then []
           else (if f.hash = true ∧ t.head? = some '0' then [] else showbaseStr P)).length + (cp.getD 1 - t.length))) P.fill)
        (sg ++ (if cp.getD 1 - t.length > 0 ∧ (if f.hash = true ∧ t.head? = some '0' then [] else showbaseStr P).length = 1 then []
         else (if f.hash = true ∧ t.head? = some '0' then [] else showbaseStr P)) ++ replicate (cp.getD 1 - t.length) '0') t := by
    unfold closedCore
    simp only [hzeros, hwidth, hpad, hnz]
  have hR : layoutFrom f width cp b u sg mag t =
      padSpec f.minus (f.zero && cp.isNone) width sg
        (if f.hash = true ∧ b = 16 ∧ mag ≠ 0 then (if u then ['0', 'X'] else ['0', 'x']) else [])
        (if f.hash = true ∧ b = 8 ∧ (replicate (cp.getD 1 - t.length) '0' ++ t).head? ≠ some '0'
          then '0' :: (replicate (cp.getD 1 - t.length) '0' ++ t) else (replicate (cp.getD 1 - t.length) '0' ++ t)) := by
    unfold layoutFrom padSpec
    simp only [Bool.and_eq_true, Option.isNone_iff_eq_none]
  rw [hL, hR, hjust, hfill]
  apply pad_eq
  · exact hb1
  · intro hz
    have hz0 : cp.getD 1 - t.length = 0 := by
      simp only [Bool.and_eq_true, Option.isNone_iff_eq_none] at hz
      have := G1 hz.2; rw [hz.2]; simp; omega
    exact ⟨hz0, hb2 hz0⟩

end

section
open List

theorem getD_one_eq_zero {o : Option Nat} (h : o.getD 1 = 0) : o = some 0 := by
  cases o with
  | none => cases h
  | some n => exact congrArg some h

theorem convBase_natAbs (conv : Conv) : (convBase conv).natAbs = conv.base := by cases conv <;> rfl
theorem convBase_neg (conv : Conv) : decide (convBase conv < 0) = conv.upper := by cases conv <;> rfl

theorem conv_base_cases (conv : Conv) (P : Params) (h : P.base = convBase conv) :
    (conv.base = 10 ∧ P.base = 10) ∨ (conv.base = 8 ∧ P.base = 8) ∨ (conv.base = 16 ∧ P.base = 16 ∧ conv.upper = false) ∨
    (conv.base = 16 ∧ P.base = -16 ∧ conv.upper = true) := by
  cases conv <;> simp_all [convBase, Conv.base, Conv.upper]

theorem cPrec_precInt (p : PrecArg) (hp : p ≠ .dot) :
    precInt p = (match cPrec p with | none => -1 | some n => (n : Int)) := by
  cases p with
  | none => rfl
  | dot => exact absurd rfl hp
  | num n => rfl
  | star n =>
    by_cases hn : n < 0
    · simp [precInt, cPrec, hn]
    · simp [precInt, cPrec, hn]; omega

theorem cFlags_eq (fl : List Char) (w : WidthArg) :
    cFlags fl w = { minus := decide (leftP fl w), plus := decide ('+' ∈ fl), space := decide (' ' ∈ fl),
                    hash := decide ('#' ∈ fl), zero := decide ('0' ∈ fl) } := by
  cases w <;> simp [cFlags, leftP, negStar]
  exact (Bool.decide_or ..).symm

theorem cFlags_minus (fl : List Char) (w : WidthArg) : (cFlags fl w).minus = true ↔ leftP fl w := by
  cases w <;> simp [cFlags, leftP, negStar]
theorem cFlags_zero (fl : List Char) (w : WidthArg) : (cFlags fl w).zero = true ↔ '0' ∈ fl := by simp [cFlags]
theorem precInt_neg (p : PrecArg) (hp : p ≠ .dot) : precInt p < 0 ↔ (cPrec p).isNone = true := by
  rw [cPrec_precInt p hp]; cases cPrec p <;> simp

theorem just_bridge (fl : List Char) (w : WidthArg) (p : PrecArg) (hp : p ≠ .dot) :
    (if leftP fl w then Justify.left else if '0' ∈ fl ∧ precInt p < 0 then .internal else .right) =
      (if (cFlags fl w).minus then Justify.left else if ((cFlags fl w).zero && (cPrec p).isNone) then .internal else .right) := by
  simp only [← cFlags_minus, ← cFlags_zero fl w, precInt_neg p hp, Bool.and_eq_true]

theorem fill_bridge (fl : List Char) (w : WidthArg) (p : PrecArg) (hp : p ≠ .dot) :
    (if ¬ leftP fl w ∧ '0' ∈ fl ∧ precInt p < 0 then '0' else ' ') =
      (if ¬ (cFlags fl w).minus ∧ ((cFlags fl w).zero && (cPrec p).isNone) then '0' else ' ') := by
  simp only [← cFlags_minus, ← cFlags_zero fl w, precInt_neg p hp, Bool.and_eq_true]

theorem doprntIntegerG_signed (P : Params) (neg : Prop) [Decidable neg] (ds : List Char) (hhead : ds.head? ≠ some '-') :
    doprntIntegerG false P ((if neg then ['-'] else []) ++ ds) =
      doprntIntegerCore false P (if neg then some '-' else P.sign)
        (if ds.head? = some '0' ∧ P.prec = 0 then ds.tail else ds) (showbaseStr P) := by
  by_cases h : neg <;> simp [doprntIntegerG, hhead, h]

/-- The bytes of `gmp_printf ("%<fl><w><p>Z<conv>", v)` are the C99 layout rules applied to the mpz_get_str digits, with
    o/x/X signed.  `hx` leaves out `%#.0Zx` of 0, where the code prints the bare prefix. -/
theorem layoutModel_eq_spec (fl : List Char) (w : WidthArg) (p : PrecArg) (conv : Conv) (v : Int)
    (hp : p ≠ .dot) (hx : ¬ ('#' ∈ fl ∧ cPrec p = some 0 ∧ v = 0 ∧ conv.base = 16)) :
    layoutModel fl w p conv v = gmpLayoutSpec (cFlags fl w) (cWidth w) (cPrec p) conv v := by
  obtain ⟨hbase, hshow, hsign, hwidth, hprec, hjust, hfill⟩ := specParams_fields fl w p conv
  unfold layoutModel layoutModelG
  generalize specParams false fl w p conv = P at *
  have hb2 : 2 ≤ conv.base := by cases conv <;> decide
  have hb36 : conv.base ≤ 36 := by cases conv <;> decide
  unfold mpzGetStr
  rw [convBase_natAbs, convBase_neg]
  have hmem := natDigits_ne_slash_minus (u := conv.upper) hb2 hb36 v.natAbs
  have hhead := natDigits_head_ne_minus (u := conv.upper) hb2 hb36 v.natAbs
  have hz := natDigits_head_zero_iff conv.base conv.upper hb2 hb36 v.natAbs
  generalize hds : natDigits conv.base conv.upper v.natAbs = ds at hmem hhead hz
  have hne : ds ≠ [] := by rw [← hds]; exact natDigits_ne_nil _ _ _
  rw [doprntIntegerG_signed P _ ds hhead]
  -- the string after "precision 0 prints no digits for 0"
  have hgetD : (cPrec p).getD 1 = 0 ↔ P.prec = 0 := by
    rw [hprec, cPrec_precInt p hp]; cases cPrec p <;> simp
  have ht : (if ds.head? = some '0' ∧ P.prec = 0 then ds.tail else ds) =
      (if v.natAbs = 0 ∧ (cPrec p).getD 1 = 0 then [] else ds) := by
    by_cases hm : v.natAbs = 0
    · have : ds = ['0'] := by rw [← hds, hm]; exact natDigits_zero _ _
      subst this; simp [hm, hgetD]
    · simp [hm, hz]
  rw [ht]
  generalize htdef : (if v.natAbs = 0 ∧ (cPrec p).getD 1 = 0 then [] else ds) = t
  have hts : splitSlash t = none := by
    apply splitSlash_none
    intro c hc; rw [← htdef] at hc
    split at hc
    · cases hc
    · exact (hmem c hc).1
  rw [core_bytes P _ t _ hts]
  have hsg : (if v < 0 then some '-' else P.sign).toList = signChars (cFlags fl w) (decide (v < 0)) := by
    rw [hsign]
    by_cases hv : v < 0 <;> by_cases h1 : '+' ∈ fl <;> by_cases h2 : ' ' ∈ fl <;> simp [hv, h1, h2, signChars, cFlags]
  rw [hsg]
  unfold gmpLayoutSpec layoutCore
  rw [hds, htdef]
  apply closed_eq_layout
  · exact conv_base_cases conv P hbase
  · rw [hshow]; by_cases h : '#' ∈ fl <;> simp [h, cFlags]
  · exact hwidth
  · rw [hprec]; exact cPrec_precInt p hp
  · rw [hjust]; exact just_bridge fl w p hp
  · rw [hfill]; exact fill_bridge fl w p hp
  · intro hc
    rw [← htdef, hc]; simp
    exact Nat.pos_of_ne_zero (fun h => hne (List.length_eq_zero_iff.mp h))
  · intro hh h16
    have hh' : '#' ∈ fl := by simpa [cFlags] using hh
    by_cases hm : v.natAbs = 0
    · have hv0 : v = 0 := by omega
      have hp0 : ¬ (cPrec p).getD 1 = 0 := by
        intro h0
        apply hx
        exact ⟨hh', getD_one_eq_zero h0, hv0, h16⟩
      have : ds = ['0'] := by rw [← hds, hm]; exact natDigits_zero _ _
      rw [← htdef]; simp [hm, hp0, this]
    · rw [← htdef]; simp [hm, hz]

end

/-! ### `gmp_asprintf`: the growing block -/

/-- the ASSERT of GMP_ASPRINTF_T_NEED / __gmp_asprintf_final: room for the terminator, no store outside -/
def AsInv (d : AsState) : Prop := d.buf.length + 1 ≤ d.alloc ∧ d.ok = true

theorem asNeed_spec (d : AsState) (n : Nat) (h : AsInv d) :
    (asNeed d n).buf = d.buf ∧ (asNeed d n).ok = d.ok ∧ d.buf.length + n + 1 ≤ (asNeed d n).alloc := by
  unfold asNeed
  obtain ⟨h1, _⟩ := h
  simp only
  split
  · refine ⟨rfl, rfl, ?_⟩; simp only; omega
  · refine ⟨rfl, rfl, ?_⟩; omega

theorem asStore_spec (d : AsState) (s : List Char) (h : AsInv d) :
    AsInv (asStore d s) ∧ (asStore d s).buf = d.buf ++ s := by
  obtain ⟨n1, n2, n3⟩ := asNeed_spec d s.length h
  unfold asStore AsInv
  simp only [n1, n2, List.length_append]
  refine ⟨⟨by omega, ?_⟩, trivial⟩
  simp [h.2]; omega

theorem asFormat_fit (d : AsState) (out : List Char) (fuel space : Nat) (h : AsInv d) (hs : out.length < space) :
    ∃ d', asFormat d out (fuel + 1) space = some d' ∧ AsInv d' ∧ d'.buf = d.buf ++ out := by
  obtain ⟨n1, n2, n3⟩ := asNeed_spec d space h
  unfold asFormat
  simp only [n1]
  have hlt : out.length < (asNeed d space).alloc - d.buf.length - 1 := by omega
  simp only [hlt, if_true]
  refine ⟨_, rfl, ⟨?_, ?_⟩, rfl⟩
  · simp only [List.length_append]; omega
  · simp [n2, h.2]; omega

/-- Why the model's three tries (`asCall`: fuel 3, first size 256) are enough, whatever the first size: when `out`
    does not fit, the retry asks for `2·space` if `ret = space - 1` and for `ret + 2` otherwise, `asNeed` provides
    that much, and either is more than `ret + 1`: the second try fits (`asFormat_fit`). -/
theorem asFormat_spec (d : AsState) (out : List Char) (space : Nat) (h : AsInv d) :
    ∃ d', asFormat d out 3 space = some d' ∧ AsInv d' ∧ d'.buf = d.buf ++ out := by
  obtain ⟨n1, n2, n3⟩ := asNeed_spec d space h
  have hinv1 : AsInv (asNeed d space) := ⟨by rw [n1]; omega, by rw [n2]; exact h.2⟩
  unfold asFormat
  simp only [n1]
  by_cases hlt : out.length < (asNeed d space).alloc - d.buf.length - 1
  · simp only [hlt, if_true]
    refine ⟨_, rfl, ⟨?_, ?_⟩, rfl⟩
    · simp only [List.length_append]; omega
    · simp [n2, h.2]; omega
  · simp only [hlt, if_false]
    by_cases heq : out.length = (asNeed d space).alloc - d.buf.length - 1
    · simp only [heq, if_true]
      have := asFormat_fit (asNeed d space) out 1 (((asNeed d space).alloc - d.buf.length) * 2) hinv1 (by omega)
      rw [n1] at this
      exact this
    · simp only [heq, if_false]
      have := asFormat_fit (asNeed d space) out 1 (out.length + 2) hinv1 (by omega)
      rw [n1] at this
      exact this

theorem asCalls_spec (cs : List Call) : ∀ d, AsInv d →
    ∃ d', asCalls d cs = some d' ∧ AsInv d' ∧ d'.buf = d.buf ++ callsBytes cs := by
  induction cs with
  | nil => intro d h; exact ⟨d, rfl, h, by simp⟩
  | cons c cs ih =>
    intro d h
    have hc : ∃ d1, asCall d c = some d1 ∧ AsInv d1 ∧ d1.buf = d.buf ++ c.bytes := by
      cases c with
      | format o => exact asFormat_spec d o 256 h
      | memory s => exact ⟨_, rfl, asStore_spec d _ h⟩
      | reps ch n => exact ⟨_, rfl, asStore_spec d _ h⟩
    obtain ⟨d1, e1, i1, b1⟩ := hc
    obtain ⟨d2, e2, i2, b2⟩ := ih d1 i1
    refine ⟨d2, ?_, i2, ?_⟩
    · simp only [asCalls, e1, e2]
    · rw [b2, b1]; simp

/-- `gmp_asprintf` in closed form -/
theorem asRun_eq (cs : List Call) :
    asRun cs = some { ret := (callsBytes cs).length, text := callsBytes cs, block := (callsBytes cs).length + 1, ok := true } := by
  obtain ⟨d, e, ⟨i1, i2⟩, b⟩ := asCalls_spec cs {} ⟨by decide, rfl⟩
  have hb : d.buf = callsBytes cs := by simpa using b
  simp only [asRun, e, hb, i2, Bool.true_and]
  rw [hb] at i1; simp [i1]

/-! ### the parser forwards formats without MPIR conversions unchanged -/

/-- characters after which `__gmp_doprnt` does something itself: the MPIR type letters, `%n`, float conversions -/
def mpirChars : List Char := ['Z', 'Q', 'N', 'M', 'F', 'n', 'a', 'A', 'e', 'E', 'f', 'g', 'G']

abbrev StdType (t : Char) : Prop := t ≠ 'Z' ∧ t ≠ 'Q' ∧ t ≠ 'N'

def ModeOK : Mode → Prop
  | .text => True
  | .spec ps _ => StdType ps.type

/-- what a step may change when nothing is done here: only `ap` and the pending text -/
def Forwarded (c : Char) (st0 : DS) (m : Mode) (st : DS) : Prop :=
  ModeOK m ∧ st.pending = c :: st0.pending ∧ st.lastAp = st0.lastAp ∧ st.calls = st0.calls ∧
    st.retval = st0.retval ∧ st.stores = st0.stores

def StepOK (c : Char) (st0 : DS) : Step → Prop
  | .fail => True
  | .cont m st => Forwarded c st0 m st

theorem StepOK_cont (c : Char) (st0 : DS) (m : Mode) (ap : List Arg) (hm : ModeOK m) :
    StepOK c st0 (.cont m { st0 with pending := c :: st0.pending, ap := ap }) := ⟨hm, rfl, rfl, rfl, rfl, rfl⟩

theorem StepOK_pop (c : Char) (st0 : DS) (m : Int → Mode) (hm : ∀ n, ModeOK (m n)) :
    StepOK c st0 (match popInt st0.ap with
      | some (n, as) => .cont (m n) { st0 with pending := c :: st0.pending, ap := as }
      | none => .fail) := by
  cases popInt st0.ap with
  | none => trivial
  | some x => exact StepOK_cont c st0 _ _ (hm _)

theorem doInteger_std (ps : PS) (tp : List Char) (base : Int) (st : DS) (h : StdType ps.type) :
    Step.ofOpt .text (doInteger false ps tp base st) =
      (match popInt st.ap with | some (_, as) => .cont .text { st with ap := as } | none => .fail) := by
  unfold doInteger
  simp only [h.1, h.2.1, h.2.2, if_false]
  cases popInt st.ap <;> rfl

theorem setValue_type (ps : PS) (n : Int) : (ps.setValue n).type = ps.type := by
  unfold PS.setValue; split <;> rfl

theorem stepFlag_type (ps : PS) (c : Char) : (stepFlag false ps c).type = ps.type := by
  unfold stepFlag
  simp only [apply_ite PS.type, setValue_type, ite_self]

theorem stepStar_type (ps : PS) (n : Int) : (stepStar false ps n).type = ps.type := by
  unfold stepStar
  simp only [apply_ite PS.type, ite_self]

theorem specStep_forward (c : Char) (ps : PS) (tp : List Char) (st0 : DS)
    (hc : c ∉ mpirChars) (hm : StdType ps.type) :
    StepOK c st0 (specStep false c ps tp st0) := by
  simp only [mpirChars, List.mem_cons, List.not_mem_nil, or_false, not_or] at hc
  obtain ⟨hZ, hQ, hN, hM, hF, hn, ha, hA, he, hE, hf, hg, hG⟩ := hc
  have hspec : ∀ ps' : PS, ps'.type = ps.type → ModeOK (.spec ps' tp) := fun ps' h => by rw [ModeOK, h]; exact hm
  have hpop : StepOK c st0 (match popInt st0.ap with
      | some (_, as) => .cont .text { st0 with pending := c :: st0.pending, ap := as }
      | none => .fail) := StepOK_pop c st0 (fun _ => .text) fun _ => trivial
  unfold specStep
  simp only [doInteger_std { ps with inNum := false } _ _ _ hm, hZ, hQ, hN, hM, hF, hn, ha, hA, he, hE, hf, hg, hG, false_or, or_false, if_false]
  refine iteInduction (fun _ => StepOK_cont c st0 _ _ (hspec _ (setValue_type ..))) fun _ => ?_   -- inside a number
  refine iteInduction (fun _ => hpop) fun _ => ?_                                                  -- d i u
  refine iteInduction (fun _ => hpop) fun _ => ?_                                                  -- o
  refine iteInduction (fun _ => hpop) fun _ => ?_                                                  -- x
  refine iteInduction (fun _ => hpop) fun _ => ?_                                                  -- X
  refine iteInduction (fun _ => hpop) fun _ => ?_                                                  -- c
  refine iteInduction (fun _ => ?_) fun _ => ?_                                                    -- s p
  · cases st0.ap with
    | nil => trivial
    | cons _ as => exact StepOK_cont c st0 _ as trivial
  refine iteInduction (fun _ => StepOK_cont c st0 _ _ trivial) fun _ => ?_                         -- m %
  refine iteInduction (fun _ => StepOK_cont c st0 _ _ ⟨hZ, hQ, hN⟩) fun _ => ?_                    -- j L q t z
  refine iteInduction (fun _ => StepOK_cont c st0 _ _ ?_) fun _ => ?_                              -- h
  · show StdType (if ps.type ≠ 'h' then 'h' else 'H'); split <;> decide
  refine iteInduction (fun _ => StepOK_cont c st0 _ _ ?_) fun _ => ?_                              -- l
  · show StdType (if ps.type ≠ 'l' then 'l' else 'L'); split <;> decide
  refine iteInduction (fun _ => StepOK_cont c st0 _ _ (hspec _ (stepFlag_type ..))) fun _ => ?_    -- flags
  refine iteInduction (fun _ => StepOK_cont c st0 _ _ (hspec _ rfl)) fun _ => ?_                   -- '
  refine iteInduction (fun _ => StepOK_cont c st0 _ _ (hspec _ rfl)) fun _ => ?_                   -- .
  refine iteInduction (fun _ => StepOK_pop c st0 _ fun _ => hspec _ (stepStar_type ..)) fun _ => ?_  -- *
  refine iteInduction (fun _ => StepOK_cont c st0 _ _ (hspec _ (setValue_type ..))) fun _ => ?_    -- first digit
  exact StepOK_cont c st0 _ _ trivial

theorem run_forward (A : List Arg) : ∀ (cs : List Char) (mode : Mode) (st : DS),
    (∀ c ∈ cs, c ∉ mpirChars) → ModeOK mode → st.calls = [] → st.retval = 0 → st.stores = [] → st.lastAp = A →
    ∀ r, run false cs mode st = some r →
      r.stores = [] ∧
      ((st.pending.reverse ++ cs = [] ∧ r.calls = [] ∧ r.retval = 0) ∨
       ∃ out, libcFormat (st.pending.reverse ++ cs) A = some out ∧ r.calls = [.format out] ∧ r.retval = out.length) := by
  intro cs
  induction cs with
  | nil =>
    intro mode st _ _ hcalls hret hstores hlast r hr
    cases mode with
    | spec ps tp => simp [run] at hr
    | text =>
      simp only [run] at hr
      by_cases hp : st.pending.isEmpty
      · simp only [hp, if_true, Option.some.injEq] at hr
        subst hr
        refine ⟨hstores, Or.inl ⟨?_, hcalls, hret⟩⟩
        simpa using hp
      · simp only [hp] at hr
        cases hl : libcFormat st.pending.reverse st.lastAp with
        | none => simp [hl] at hr
        | some out =>
          simp only [hl, Bool.false_eq_true, if_false, Option.some.injEq] at hr
          subst hr
          refine ⟨hstores, Or.inr ⟨out, ?_, ?_, ?_⟩⟩
          · simpa [hlast] using hl
          · simp [DS.emit, hcalls]
          · simp [DS.emit, hret, Call.bytes]
  | cons c cs ih =>
    intro mode st hall hm hcalls hret hstores hlast r hr
    have hc : c ∉ mpirChars := hall c List.mem_cons_self
    have hall' : ∀ x ∈ cs, x ∉ mpirChars := fun x hx => hall x (List.mem_cons_of_mem _ hx)
    have key : ∀ (m' : Mode) (st' : DS), ModeOK m' → st'.pending = c :: st.pending → st'.lastAp = st.lastAp →
        st'.calls = st.calls → st'.retval = st.retval → st'.stores = st.stores → run false cs m' st' = some r →
        r.stores = [] ∧
        ((st.pending.reverse ++ c :: cs = [] ∧ r.calls = [] ∧ r.retval = 0) ∨
         ∃ out, libcFormat (st.pending.reverse ++ c :: cs) A = some out ∧ r.calls = [.format out] ∧ r.retval = out.length) := by
      intro m' st' hm' hp hl hc' hr' hs' hrun
      have := ih m' st' hall' hm' (by rw [hc', hcalls]) (by rw [hr', hret]) (by rw [hs', hstores]) (by rw [hl, hlast]) r hrun
      rw [hp] at this
      simpa using this
    cases mode with
    | text =>
      simp only [run] at hr
      by_cases h : c = '%'
      · simp only [h, if_true] at hr
        exact key (.spec {} st.pending) { st with pending := '%' :: st.pending }
          ⟨by decide, by decide, by decide⟩ (by simp [h]) rfl rfl rfl rfl hr
      · simp only [h, if_false] at hr
        exact key .text { st with pending := c :: st.pending } trivial rfl rfl rfl rfl rfl hr
    | spec ps tp =>
      simp only [run] at hr
      have hstep := specStep_forward c ps tp st hc hm
      cases hs : specStep false c ps tp st with
      | fail => simp [hs] at hr
      | cont m' st' =>
        rw [hs] at hstep hr
        obtain ⟨h1, h2, h3, h4, h5, h6⟩ := hstep
        exact key m' st' h1 h2 h3 h4 h5 h6 hr

/-! ### the C99 layout: its body and its length -/

section
open List

/-- sign-less, unpadded part of the C99 layout: base prefix, precision zeros / octal 0, digits -/
def layoutBody (f : Flags) (prec : Option Nat) (base : Nat) (upper : Bool) (mag : Nat) : List Char :=
  let ds0 := if mag = 0 ∧ prec.getD 1 = 0 then [] else natDigits base upper mag
  let ds1 := List.replicate (prec.getD 1 - ds0.length) '0' ++ ds0
  let ds := if f.hash ∧ base = 8 ∧ ds1.head? ≠ some '0' then '0' :: ds1 else ds1
  let pre := if f.hash ∧ base = 16 ∧ mag ≠ 0 then (if upper then ['0', 'X'] else ['0', 'x']) else []
  pre ++ ds

theorem layoutCore_length (f : Flags) (width : Nat) (prec : Option Nat) (base : Nat) (upper : Bool)
    (sign : List Char) (mag : Nat) :
    (layoutCore f width prec base upper sign mag).length =
      max width (sign.length + (layoutBody f prec base upper mag).length) ∧
    (width ≤ sign.length + (layoutBody f prec base upper mag).length →
      layoutCore f width prec base upper sign mag = sign ++ layoutBody f prec base upper mag) := by
  unfold layoutCore layoutFrom layoutBody
  simp only
  generalize (if mag = 0 ∧ prec.getD 1 = 0 then [] else natDigits base upper mag) = ds0
  generalize (if f.hash = true ∧ base = 8 ∧ (replicate (prec.getD 1 - ds0.length) '0' ++ ds0).head? ≠ some '0'
    then '0' :: (replicate (prec.getD 1 - ds0.length) '0' ++ ds0) else replicate (prec.getD 1 - ds0.length) '0' ++ ds0) = ds
  generalize (if f.hash = true ∧ base = 16 ∧ mag ≠ 0 then (if upper = true then ['0', 'X'] else ['0', 'x']) else []) = pre
  constructor
  · split_ifs <;> simp only [length_append, length_replicate] <;> omega
  · intro h
    have : width - (sign.length + pre.length + ds.length) = 0 := by simp only [length_append] at h; omega
    rw [this]
    split_ifs <;> simp

end

end Mpir.Printf

namespace Mpir.Scanf
open Mpir.Printf

/-! ### reading back what was printed -/

/-- the digit table and `__gmp_digit_value_tab` are inverse: both cases, every digit up to 35 -/
theorem digitValue_digitChar : ∀ (u : Bool) (d : Nat), d < 36 → digitValue (digitChar u d) = d := by
  decide +kernel

theorem setStr_signed (neg : Bool) (u : List Char) (b0 : Nat) (hu : u.head? ≠ some '-') :
    setStr ((if neg then ['-'] else []) ++ u) b0 = (setStr u b0).map (fun v => if neg then -v else v) := by
  cases neg with
  | false => simp
  | true =>
    unfold setStr
    simp only [if_true, List.cons_append, List.nil_append, List.head?_cons, decide_true, List.tail_cons, hu, decide_false,
      Bool.false_eq_true, if_false]
    cases u.head? with
    | none => rfl
    | some c =>
      simp only [apply_ite (Option.map _), Option.map_none, Option.map_some]

theorem setStr_of_digits (b : Nat) (hb : b ≠ 0) (hb' : b ≤ 255) (ds : List Char) (hne : ds ≠ [])
    (hall : ∀ c ∈ ds, digitValue c < b) :
    setStr ds b = some ((ds.foldl (fun a c => a * b + digitValue c) 0 : Nat) : Int) := by
  cases ds with
  | nil => exact absurd rfl hne
  | cons a t =>
    have hda := hall a List.mem_cons_self
    have ha : a ≠ '-' := by
      intro h; rw [h, show digitValue '-' = 255 by decide] at hda; omega
    have hallb : (a :: t).all (fun c => decide (digitValue c < b)) = true := by
      simp only [List.all_eq_true, decide_eq_true_eq]; exact hall
    simp only [setStr, List.head?_cons, Option.some.injEq, ha, decide_false, Bool.false_eq_true, if_false, hb,
      show ¬ digitValue a ≥ b by omega, hallb, if_true]

theorem head_ne_minus_of_digits {b : Nat} (hb' : b ≤ 255) {ds : List Char} (hall : ∀ c ∈ ds, digitValue c < b) :
    ds.head? ≠ some '-' := by
  cases ds with
  | nil => simp
  | cons a t =>
    have := hall a List.mem_cons_self
    simp only [List.head?_cons, ne_eq, Option.some.injEq]
    intro e; rw [e, show digitValue '-' = 255 by decide] at this; omega

/-- an optional '-' and then digits of the base: the two lemmas above as they are used -/
theorem setStr_signed_digits (p : Prop) [Decidable p] (b : Nat) (hb : b ≠ 0) (hb' : b ≤ 255) (ds : List Char) (hne : ds ≠ [])
    (hall : ∀ c ∈ ds, digitValue c < b) :
    setStr ((if p then ['-'] else []) ++ ds) b =
      some (if p then -((ds.foldl (fun a c => a * b + digitValue c) 0 : Nat) : Int)
            else (ds.foldl (fun a c => a * b + digitValue c) 0 : Nat)) := by
  have := setStr_signed (decide p) ds b (head_ne_minus_of_digits hb' hall)
  simp only [decide_eq_true_eq] at this
  rw [this, setStr_of_digits b hb hb' ds hne hall]; rfl

/-- mpz_set_str reads back what mpz_get_str wrote: every base 2..36, lower or upper case digits -/
theorem setStr_getStr (b : Nat) (u : Bool) (hb : 2 ≤ b) (hb' : b ≤ 36) (v : Int) :
    setStr ((if v < 0 then ['-'] else []) ++ natDigits b u v.natAbs) b = some v := by
  have hval := natDigits_foldl hb (fun d hd => digitValue_digitChar u d (by omega)) v.natAbs
  have hall : ∀ c ∈ natDigits b u v.natAbs, digitValue c < b :=
    natDigits_forall hb (fun d hd => by rw [digitValue_digitChar u d (by omega)]; exact hd) v.natAbs
  rw [setStr_signed_digits _ b (by omega) (by omega) _ (natDigits_ne_nil _ _ _) hall, hval]
  split <;> simp only [Option.some.injEq] <;> omega

theorem setStr_getStr10 (v : Int) : setStr (mpzGetStr 10 v) 10 = some v :=
  setStr_getStr 10 false (by decide) (by decide) v

end Mpir.Scanf
