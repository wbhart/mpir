/- Memory-level helpers of the pointer-level alias model that no single routine owns: writing a limb range into a block
   (`wrAt`), `loadAt`/`storeAt`, a fresh block for a variable, storing a result with its size, reading a limb of a
   variable, and the size arithmetic the routines share. -/
import MpirProofs.Lemmas.AliasHoare
import MpirProofs.Lemmas.Iroot
import Mpir.Model.AliasMul
namespace Mpir.AliasMem
open Mpir
open Mpir.DivZ (sizeNat siz sameSign)

/-! ### how many limbs a result has -/

theorem sizeNat_eq {m k : Nat} (h1 : B ^ (k - 1) ≤ m) (h2 : m < B ^ k) (hk : 1 ≤ k) : sizeNat m = k :=
  DivZ.sizeNat_isSize.eq_of_bounds hk h1 h2

theorem pow_le_of_sizeNat {Q : Nat} (hQ : Q ≠ 0) : B ^ (sizeNat Q - 1) ≤ Q := DivZ.sizeNat_isSize.pow_le hQ

theorem sizeNat_Bpow_mul (k : Nat) {v : Nat} (hv : v ≠ 0) : sizeNat (B ^ k * v) = k + sizeNat v :=
  DivZ.sizeNat_isSize.Bpow_mul k hv

theorem quot_size {N D nl dl : Nat} (hN1 : B ^ (nl - 1) ≤ N) (hN2 : N < B ^ nl) (hD1 : B ^ (dl - 1) ≤ D)
    (hD2 : D < B ^ dl) (hdl : 1 ≤ dl) (hle : dl ≤ nl) :
    N / D < B ^ (nl - dl + 1) ∧
    (nl - dl + 1) - (if N / D / B ^ (nl - dl + 1 - 1) % B = 0 then 1 else 0) = sizeNat (N / D) := by
  obtain ⟨h1, h2⟩ := div_size_bounds hN1 hN2 hD1 hD2 hdl hle
  exact ⟨h1, top_size h1 h2 (by omega)⟩

/-- `wsize -= (top limb == 0)` is the normalised size of the product (mul.c:100, :160-161) -/
theorem mul_size {P k : Nat} (h1 : B ^ (k - 2) ≤ P) (h2 : P < B ^ k) (hk : 2 ≤ k) :
    sizeNat P = k - (if P / B ^ (k - 1) = 0 then 1 else 0) :=
  DivZ.sizeNat_isSize.eq_sub_top (by omega) h2 fun _ => h1

theorem sqrt_size {N n : Nat} (h1 : B ^ (n - 1) ≤ N) (h2 : N < B ^ n) (hn : 1 ≤ n) :
    sizeNat (Nat.sqrt N) = (n + 1) / 2 := by
  obtain ⟨a, b⟩ := Root.sqrt_window B_pos h1 (by rwa [Nat.sub_add_cancel hn])
  rw [show (n + 1) / 2 = (n - 1) / 2 + 1 by omega]
  exact sizeNat_eq (by simpa using a) b (by omega)

/-- the root of an `un`-limb number has exactly `(un - 1) / k + 1` limbs: rootrem.c:54 `rootn`, stored into SIZ (root)
    without a normalisation (:83) -/
theorem iroot_size {N un k : Nat} (h1 : B ^ (un - 1) ≤ N) (h2 : N < B ^ un) (hun : 1 ≤ un) (hk : 1 ≤ k) :
    sizeNat (Root.iroot k N) = (un - 1) / k + 1 := by
  obtain ⟨a, b⟩ := Root.iroot_window hk B_pos h1 (by rwa [Nat.sub_add_cancel hun])
  exact sizeNat_eq (by simpa using a) b (Nat.le_add_left 1 _)

theorem two_pow_mod_lt (cnt : Nat) : 2 ^ (cnt % 64) < B :=
  Nat.pow_lt_pow_right (by decide) (Nat.mod_lt _ (by decide))

theorem getLast_ne_zero_of_getD {l : List Nat} (h : l.getD (l.length - 1) 0 ≠ 0) : l.getLast? ≠ some 0 := by
  by_cases hne : l = []
  · subst hne; simp
  · exact (normalized_iff_getD hne).mpr h

theorem sizeNat_of_norm {l : List Nat} (hL : Limbs l) (hn : l.getLast? ≠ some 0) : sizeNat (val l) = l.length :=
  DivZ.sizeNat_isSize.of_normalized hL hn

theorem val_replicate_junk_norm (k : Nat) : sizeNat (val (List.replicate k junk)) = k := by
  rw [DivZ.sizeNat_isSize.of_normalized (Limbs_replicate_junk k) (by
    unfold Normalized; cases k <;> simp [List.getLast?_replicate, junk]), List.length_replicate]

/-! ### a block written from its start: `l ++ b.drop n`

`length_wr`, `Limbs_wr` of AliasMem have the cut as `l.length`; the primed forms have it as an `n` of its own (`length_wr'`
for `l = toLimbs n m` only), which is how the goal reads once `toLimbs_length` has been rewritten. -/

theorem length_wr' {n m : Nat} {b : List Nat} (h : n ≤ b.length) : (toLimbs n m ++ b.drop n).length = b.length := by
  simp [toLimbs_length]; omega

theorem Limbs_wr' {l b : List Nat} {n : Nat} (hl : Limbs l) (hb : Limbs b) : Limbs (l ++ b.drop n) :=
  Limbs_append.mpr ⟨hl, Limbs_drop hb _⟩

theorem getD_append_left {a b : List Nat} {i : Nat} (h : i < a.length) : (a ++ b).getD i 0 = a.getD i 0 := by
  simp [List.getD_eq_getElem?_getD, List.getElem?_append_left h]

theorem val_take_wr {n m : Nat} (rest : List Nat) (hk : sizeNat m ≤ n) :
    val ((toLimbs n m ++ rest).take (sizeNat m)) = m := by
  rw [List.take_append_of_le_length (by rw [toLimbs_length]; exact hk), toLimbs_take _ _ _ hk]
  exact val_toLimbs_lt _ _ (DivZ.lt_B_pow_sizeNat _)

/-! ### `wrAt`: a block written at an offset -/

theorem wrAt_length {b l : List Nat} {off : Nat} (h : off + l.length ≤ b.length) : (wrAt b off l).length = b.length := by
  simp [wrAt]; omega

theorem wrAt_zero (b l : List Nat) : wrAt b 0 l = l ++ b.drop l.length := by simp [wrAt]

theorem wrAt_wrAt_next {b l l2 : List Nat} {off : Nat} (h : off + l.length + l2.length ≤ b.length) :
    wrAt (wrAt b off l) (off + l.length) l2 = wrAt b off (l ++ l2) := by
  have hA : (b.take off ++ l).length = off + l.length := by simp; omega
  unfold wrAt
  have e1 : (b.take off ++ l ++ b.drop (off + l.length)).take (off + l.length) = b.take off ++ l :=
    List.take_left' hA
  have e2 : (b.take off ++ l ++ b.drop (off + l.length)).drop (off + l.length + l2.length) =
      b.drop (off + (l ++ l2).length) := by
    rw [← List.drop_drop, List.drop_left' hA, List.drop_drop]
    congr 1; simp; omega
  rw [e1, e2]; simp

theorem wrAt_wrAt_zero {b l z : List Nat} {off : Nat} (hz : z.length = off) (h : off + l.length ≤ b.length) :
    wrAt (wrAt b off l) 0 z = wrAt b 0 (z ++ l) := by
  rw [wrAt_zero, wrAt_zero]
  unfold wrAt
  have h1 : (b.take off).length = off := by simp; omega
  rw [hz, List.append_assoc, List.drop_left' h1]
  simp [hz]

theorem Limbs_wrAt {b l : List Nat} {off : Nat} (hb : Limbs b) (hl : Limbs l) : Limbs (wrAt b off l) := by
  unfold wrAt
  exact Limbs_append.mpr ⟨Limbs_append.mpr ⟨Limbs_take hb _, hl⟩, Limbs_drop hb _⟩

/-! ### equations between states: `setBlk`, `store`/`load` and their `At` forms -/

theorem setBlk_setBlk (s : St) (p : Nat) (x y : Option (List Nat)) : (s.setBlk p x).setBlk p y = s.setBlk p y := by
  cases s with
  | mk nv vars blk next =>
    simp only [St.setBlk, St.mk.injEq, true_and, and_true]
    funext q
    by_cases e : q = p <;> simp [e]

theorem put_put_eq (s : St) {q r : Nat} (hqr : q ≠ r) (b1 b2 : List Nat) (z1 z2 : Int) :
    (((s.setBlk (s.ptr q) (some b1)).setBlk (s.ptr r) (some b2)).setSize q z1).setSize r z2 =
      (s.put q b1 z1).put r b2 z2 := by
  have hp : (s.put q b1 z1).ptr r = s.ptr r := by
    simp [St.put, St.setSize, St.setVar, St.setBlk, St.ptr, Ne.symm hqr]
  unfold St.put
  rw [show ((s.setBlk (s.ptr q) (some b1)).setSize q z1).ptr r = s.ptr r from hp]
  rfl

theorem setBlk_comm (s : St) {p q : Nat} (hpq : p ≠ q) (x y : Option (List Nat)) :
    (s.setBlk p x).setBlk q y = (s.setBlk q y).setBlk p x := by
  refine St.ext' rfl (fun _ => rfl) ?_ rfl
  intro k
  simp only [St.setBlk]
  by_cases e1 : k = q <;> by_cases e2 : k = p
  · exact absurd (e2.symm.trans e1) hpq
  · subst e1; simp [Ne.symm hpq]
  · subst e2; simp [hpq]
  · simp [e1, e2]

theorem setBlk_setSize (s : St) (v : Nat) (z : Int) (p : Nat) (x : Option (List Nat)) :
    (s.setSize v z).setBlk p x = (s.setBlk p x).setSize v z := rfl

theorem free_setSize (s : St) (v : Nat) (z : Int) (p : Nat) : (s.setSize v z).free p = (s.free p).setSize v z := rfl

theorem free_setBlk_self (s : St) (p : Nat) (x : Option (List Nat)) : (s.setBlk p x).free p = s.free p :=
  setBlk_setBlk s p x none

theorem free_setBlk_ne (s : St) {p q : Nat} (h : q ≠ p) (x : Option (List Nat)) :
    (s.setBlk q x).free p = (s.free p).setBlk q x := setBlk_comm s h x none

theorem setSize_setSize (s : St) (w : Nat) (a b : Int) : (s.setSize w a).setSize w b = s.setSize w b := by
  cases s with
  | mk nv vars blk next =>
    simp only [St.setSize, St.setVar, St.mk.injEq, true_and, and_true]
    funext j
    by_cases e : j = w <;> simp [e]

theorem setSize_comm (s : St) {q r : Nat} (hqr : q ≠ r) (z1 z2 : Int) :
    (s.setSize r z2).setSize q z1 = (s.setSize q z1).setSize r z2 := by
  cases s with
  | mk nv vars blk next =>
    simp only [St.setSize, St.setVar, St.mk.injEq, true_and, and_true]
    funext j
    by_cases e1 : j = q <;> by_cases e2 : j = r <;> simp [e1, e2, hqr, Ne.symm hqr]

theorem put_put_eq' (s : St) {q r : Nat} (hqr : q ≠ r) (b1 b2 : List Nat) (z1 z2 : Int) :
    (((s.setBlk (s.ptr q) (some b1)).setBlk (s.ptr r) (some b2)).setSize r z2).setSize q z1 =
      (s.put q b1 z1).put r b2 z2 := by
  rw [← put_put_eq s hqr]
  cases s with
  | mk nv vars blk next =>
    simp only [St.setSize, St.setVar, St.setBlk, St.mk.injEq, true_and, and_true]
    funext j
    by_cases e1 : j = q <;> by_cases e2 : j = r <;> simp [e1, e2, hqr, Ne.symm hqr]

theorem put2_toLimbs {s : St} (h : Inv s) {q r : Nat} (hq : q < s.nv) (hr : r < s.nv) (hqr : q ≠ r) {bq br : List Nat}
    (hbq : s.blk (s.ptr q) = some bq) (hbr : s.blk (s.ptr r) = some br)
    (n1 m1 : Nat) (z1 : Int) (hn1 : n1 ≤ s.alloc q) (hm1 : m1 < B ^ n1) (hz1 : z1.natAbs = sizeNat m1)
    (n2 m2 : Nat) (z2 : Int) (hn2 : n2 ≤ s.alloc r) (hm2 : m2 < B ^ n2) (hz2 : z2.natAbs = sizeNat m2) :
    Res2 s ((s.put q (toLimbs n1 m1 ++ bq.drop n1) z1).put r (toLimbs n2 m2 ++ br.drop n2) z2) q r (sgnv z1 m1) (sgnv z2 m2) ∧
      ∀ i, ((s.put q (toLimbs n1 m1 ++ bq.drop n1) z1).put r (toLimbs n2 m2 ++ br.drop n2) z2).ptr i = s.ptr i := by
  obtain ⟨i1, u1, v1⟩ := put_toLimbs h hq hbq n1 m1 z1 hn1 hm1 hz1
  obtain ⟨i2, u2, v2⟩ := put_toLimbs i1 (u1.nv ▸ hr) (b := br)
    (by rw [u1.ptr, u1.blk_o _ (fun e => hqr (h.inj q r hq hr e.symm))]; exact hbr) n2 m2 z2 (by rw [u1.alloc]; exact hn2) hm2 hz2
  exact ⟨u1.res2 u2 h hq hr hqr i1 i2 v1 v2, fun i => (u2.ptr i).trans (u1.ptr i)⟩

/-- `SIZ (v) = sz` first, the limbs afterwards (mpz_divexact's copy back, `ret:` of mpz_powm): together a `put` -/
theorem setSize_store {s : St} {v : Nat} {b : List Nat} (hb : s.blk (s.ptr v) = some b) (sz : Int) (l : List Nat)
    (hl : l.length ≤ b.length) :
    (s.setSize v sz).store ((s.setSize v sz).ptr v) l = .ok (s.put v (l ++ b.drop l.length) sz) := by
  have hp : (s.setSize v sz).ptr v = s.ptr v := by simp [St.setSize, St.setVar, St.ptr]
  rw [hp]; unfold St.store
  rw [show (s.setSize v sz).blk (s.ptr v) = some b from hb]; simp only []
  rw [if_pos hl]; rfl

theorem storeAt_ok {s : St} {p off : Nat} {b l : List Nat} (hb : s.blk p = some b) (h : off + l.length ≤ b.length) :
    s.storeAt p off l = .ok (s.setBlk p (some (wrAt b off l))) := by
  unfold St.storeAt; rw [hb]; simp only []; rw [if_pos h]

theorem loadAt_ok {s : St} {p off n : Nat} {b : List Nat} (hb : s.blk p = some b) (h : off + n ≤ b.length) :
    s.loadAt p off n = .ok ((b.drop off).take n) := by
  unfold St.loadAt; rw [hb]; simp only []; rw [if_pos h]

theorem storeAt_setBlk {s : St} {p off : Nat} {b l : List Nat} (h : off + l.length ≤ b.length) :
    (s.setBlk p (some b)).storeAt p off l = .ok (s.setBlk p (some (wrAt b off l))) := by
  rw [storeAt_ok (setBlk_blk_self _ _ _) h, setBlk_setBlk]

theorem store_setBlk {s : St} {p : Nat} {b l : List Nat} (h : l.length ≤ b.length) :
    (s.setBlk p (some b)).store p l = .ok (s.setBlk p (some (wrAt b 0 l))) := by
  unfold St.store; rw [setBlk_blk_self]; simp only []
  rw [if_pos h, setBlk_setBlk, wrAt_zero]

theorem load_wrAt {s : St} {p j : Nat} {b l : List Nat} (hj : j ≤ l.length) (hl : l.length ≤ b.length) :
    (s.setBlk p (some (wrAt b 0 l))).load p j = .ok (l.take j) := by
  unfold St.load; rw [setBlk_blk_self]; simp only []
  rw [if_pos (by rw [wrAt_length (by omega)]; omega), wrAt_zero, List.take_append_of_le_length hj]

theorem load_eq_of_blk {s s' : St} {p : Nat} (h : s'.blk p = s.blk p) (n : Nat) : s'.load p n = s.load p n := by
  unfold St.load; rw [h]

theorem malloc_setBlk (s : St) (l b : List Nat) : (s.malloc l).2.setBlk s.next (some b) = (s.malloc b).2 := by
  show ({ s.setBlk s.next (some l) with next := s.next + 1 } : St).setBlk s.next (some b) = _
  unfold St.malloc St.setBlk
  simp only [St.mk.injEq, true_and, and_true]
  funext q
  by_cases e : q = s.next <;> simp [e]

theorem free_newBlock (s : St) (v n : Nat) : (s.free (s.ptr v)).newBlock v n = s.freshBlock v n := rfl

/-! ### reading the limbs of a variable -/

theorem limbAt_of_blk {s : St} {p i : Nat} {b : List Nat} (h : s.blk p = some b) (hi : i < b.length) :
    limbAt s p i = .ok (b.getD i 0) := by
  simp [limbAt, h, hi]

theorem limbAt_setBlk (s : St) (p : Nat) (b : List Nat) (i : Nat) (hi : i < b.length) :
    limbAt (s.setBlk p (some b)) p i = .ok (b.getD i 0) := limbAt_of_blk (setBlk_blk_self _ _ _) hi

theorem limbAt_toLimbs {s : St} {p n m i : Nat} {rest : List Nat} (h : s.blk p = some (toLimbs n m ++ rest)) (hi : i < n) :
    limbAt s p i = .ok (m / B ^ i % B) := by
  rw [limbAt_of_blk h (by rw [List.length_append, toLimbs_length]; omega),
    getD_append_left (by rw [toLimbs_length]; exact hi), toLimbs_getD _ _ _ hi]

theorem limbAt_var {s : St} (h : Inv s) {i : Nat} (hi : i < s.nv) (k : Nat) (hk : k < (s.size i).natAbs) :
    limbAt s (s.ptr i) k = .ok (s.mag i / B ^ k % B) := by
  obtain ⟨l, hl, hlen, hL⟩ := h.live i hi
  have hf := h.fits i hi
  rw [limbAt_of_blk hl (by omega)]
  congr 1
  have hU := Mpir.eq_toLimbs (s.limbs i) (h.limbs_spec hi).2
  rw [(h.limbs_spec hi).1] at hU
  have : l.getD k 0 = (s.limbs i).getD k 0 := by
    unfold St.limbs; rw [hl]; simp only [Option.getD_some]
    rw [List.getD_eq_getElem?_getD, List.getD_eq_getElem?_getD, List.getElem?_take_of_lt hk]
  rw [this, hU, toLimbs_getD _ _ _ hk]; rfl

theorem loadAt_var_off {s : St} (h : Inv s) {i : Nat} (hi : i < s.nv) (off : Nat) (ho : off ≤ (s.size i).natAbs) :
    s.loadAt (s.ptr i) off ((s.size i).natAbs - off) = .ok ((s.limbs i).drop off) := by
  obtain ⟨l, hl, hlen, _⟩ := h.live i hi
  have := h.fits i hi
  rw [loadAt_ok hl (by omega)]
  unfold St.limbs; rw [hl]; simp only [Option.getD_some]
  rw [List.drop_take]

theorem loadAt_var_low {s : St} (h : Inv s) {i : Nat} (hi : i < s.nv) (k : Nat) (hk : k ≤ (s.size i).natAbs) :
    s.loadAt (s.ptr i) 0 k = .ok ((s.limbs i).take k) := by
  obtain ⟨l, hl, hlen, _⟩ := h.live i hi
  have := h.fits i hi
  rw [loadAt_ok hl (by omega)]
  unfold St.limbs; rw [hl]; simp only [Option.getD_some, List.drop_zero]
  rw [List.take_take, Nat.min_eq_left hk]

theorem val_limbs_take {s : St} (h : Inv s) {i : Nat} (hi : i < s.nv) (k : Nat) :
    val ((s.limbs i).take k) = s.mag i % B ^ k :=
  val_take_eq_mod _ (h.limbs_spec hi).2 k

theorem mag_of_value {s s' : St} {i j : Nat} (h : s'.value i = s.value j) : s'.mag i = s.mag j := by
  rw [← value_natAbs, ← value_natAbs, h]

theorem mag_one_limb {s : St} {i : Nat} {b : List Nat} (hb : s.blk (s.ptr i) = some b) (h1 : (s.size i).natAbs = 1)
    (hl : 1 ≤ b.length) : s.mag i = b.getD 0 0 := by
  unfold St.mag St.limbs; rw [hb, h1]
  cases b with
  | nil => simp at hl
  | cons a as => simp

theorem NormOp.drop {l : List Nat} {n : Nat} (o : NormOp l n) {k : Nat} (hk : k < n) : NormOp (l.drop k) (n - k) := by
  refine ⟨by rw [List.length_drop, o.len], Limbs_drop o.limbs k, by omega, ?_⟩
  rw [val_drop_eq_div _ o.limbs k, Nat.le_div_iff_mul_le (Bpow_pos _), ← pow_add,
    show n - k - 1 + k = n - 1 by omega]
  exact o.ge

/-! ### `put` at the `wrAt` shapes -/

theorem put_wrAt {s : St} (h : Inv s) {w : Nat} (hw : w < s.nv) {b : List Nat} (hbl : b.length = s.alloc w) (hbL : Limbs b)
    (l : List Nat) (sz : Int) (hl : l.length ≤ b.length) (hL : Limbs l) (hsz : sz.natAbs = sizeNat (val l)) :
    Inv (s.put w (wrAt b 0 l) sz) ∧ Upd s (s.put w (wrAt b 0 l) sz) w ∧
      (s.put w (wrAt b 0 l) sz).value w = sgnv sz (val l) := by
  have hk : sizeNat (val l) ≤ l.length := (DivZ.sizeNat_le_iff _ _).mpr (val_lt l hL)
  refine put_ok h hw _ (val l) sz (by rw [wrAt_length (by omega)]; exact hbl) (Limbs_wrAt hbL hL) hsz (by omega) ?_
  rw [wrAt_zero, List.take_append_of_le_length hk]
  exact val_take_sizeNat l

theorem put_list {s : St} (h : Inv s) {w : Nat} (hw : w < s.nv) {b : List Nat} (hb : s.blk (s.ptr w) = some b)
    (l : List Nat) (hl : l.length ≤ b.length) (hL : Limbs l) (hn : sizeNat (val l) = l.length) (neg : Bool) :
    Inv (s.put w (wrAt b 0 l) (if neg then -(l.length : Int) else (l.length : Int))) ∧
    Upd s (s.put w (wrAt b 0 l) (if neg then -(l.length : Int) else (l.length : Int))) w ∧
    (s.put w (wrAt b 0 l) (if neg then -(l.length : Int) else (l.length : Int))).value w =
      (if neg then -(val l : Int) else (val l : Int)) := by
  obtain ⟨b', hb', hbl, hbL⟩ := h.live w hw
  obtain rfl : b' = b := Option.some.inj (hb'.symm.trans hb)
  obtain ⟨i2, u2, v2⟩ := put_wrAt h hw hbl hbL l (if neg then -(l.length : Int) else (l.length : Int)) hl hL
    (by rw [hn]; cases neg <;> simp)
  exact ⟨i2, u2, v2.trans (sgnv_ofBool _ _ _ (fun e => DivZ.sizeNat_eq_zero.mp (hn.trans e)))⟩

/-- `SIZ (w) = c ? wsize : -wsize` as the last store of a function -/
theorem put_signed {s s1 : St} (i1 : Inv s1) (k : Same s s1) {w : Nat} (f : Fr s w s1) (hw : w < s.nv) {b : List Nat}
    (hbl : b.length = s1.alloc w) (hbL : Limbs b) {l : List Nat} {wsize : Nat} (hl : l.length ≤ b.length) (hL : Limbs l)
    (hws : wsize = sizeNat (val l)) (c : Prop) [Decidable c] :
    Post s ((s1.setBlk (s1.ptr w) (some (wrAt b 0 l))).setSize w (if c then (wsize : Int) else -(wsize : Int))) w
      (if c then (val l : Int) else -(val l : Int)) := by
  obtain ⟨i2, u2, v2⟩ := put_wrAt i1 (k.lt hw) hbl hbL l (if c then (wsize : Int) else -(wsize : Int)) hl hL
    (by rw [natAbs_ite_pos, hws])
  exact Post.of_same_upd k f u2 i2
    (v2.trans (sgnv_ite _ _ _ (fun e => DivZ.sizeNat_eq_zero.mp (hws.symm.trans e))))

theorem put_wrAt0 {s : St} (h : Inv s) {w : Nat} (hw : w < s.nv) (B1 : List Nat) (hB1 : B1.length = s.alloc w)
    (hB1L : Limbs B1) (k M : Nat) (hk : sizeNat M ≤ k) (hkl : k ≤ B1.length) (neg : Bool) :
    Inv (s.put w (wrAt B1 0 (toLimbs k M)) (if neg then -(sizeNat M : Int) else (sizeNat M : Int))) ∧
    Upd s (s.put w (wrAt B1 0 (toLimbs k M)) (if neg then -(sizeNat M : Int) else (sizeNat M : Int))) w ∧
    (s.put w (wrAt B1 0 (toLimbs k M)) (if neg then -(sizeNat M : Int) else (sizeNat M : Int))).value w =
      (if neg then -(M : Int) else (M : Int)) :=
  put_upd h hw _ M neg (by rw [wrAt_length (by rw [toLimbs_length]; omega)]; exact hB1)
    (Limbs_wrAt hB1L (Limbs_toLimbs _ _)) (by omega)
    (by rw [wrAt_zero]; exact val_take_wr _ hk)

theorem flip_spec {s : St} (h : Inv s) {w : Nat} (hw : w < s.nv) (z : Int) (hz : z.natAbs = (s.size w).natAbs) :
    Inv (s.setSize w z) ∧ Upd s (s.setSize w z) w ∧ (s.setSize w z).value w = sgnv z (s.mag w) := by
  obtain ⟨b, hb, hbl, hbL⟩ := h.live w hw
  have hsn := h.size_natAbs hw
  rw [setSize_eq_put s hb]
  exact put_ok h hw b (s.mag w) z hbl hbL (hz.trans hsn) (hsn ▸ h.fits w hw)
    (by rw [← hsn]; unfold St.mag St.limbs; rw [hb]; rfl)

/-- `SIZ (x) = sz; PTR (x)[0] = 1;` with sz ∈ {1, 0, -1} (gcdext.c:63-64, bin_ui.c:75) -/
theorem setOne_ok {s : St} (h : Inv s) {x : Nat} (hx : x < s.nv) (hal : 1 ≤ s.alloc x) (sz : Int) (hsz : sz.natAbs ≤ 1) :
    ∃ s', (s.setSize x sz).storeAt ((s.setSize x sz).ptr x) 0 [1] = .ok s' ∧ Inv s' ∧ Upd s s' x ∧ s'.value x = sz := by
  have hv : sgnv sz sz.natAbs = sz := by unfold sgnv; split <;> omega
  obtain ⟨b, hb, hbl, hbL⟩ := h.live x hx
  have hp : (s.setSize x sz).ptr x = s.ptr x := by simp [St.setSize, St.setVar, St.ptr]
  rw [hp, storeAt_ok (show (s.setSize x sz).blk (s.ptr x) = some b from hb) (show 0 + 1 ≤ b.length by omega)]
  have hL1 : Limbs [1] := fun y hy => by rw [List.mem_singleton.mp hy, B_eq]; decide
  -- the magnitude is 0 or 1, and so is its limb count
  have hk : sizeNat sz.natAbs = sz.natAbs := by
    rcases Nat.le_one_iff_eq_zero_or_eq_one.mp hsz with e | e <;> rw [e]
    · exact DivZ.sizeNat_eq_zero.mpr rfl
    · exact sizeNat_eq (by simp) (by rw [B_eq]; decide) (Nat.le_refl 1)
  obtain ⟨i1, u1, v1⟩ := put_ok h hx (wrAt b 0 [1]) sz.natAbs sz (by rw [wrAt_length (show 0 + 1 ≤ b.length by omega)]; exact hbl)
    (Limbs_wrAt hbL hL1) hk.symm (by omega) (by
      rw [hk, wrAt_zero]
      rcases Nat.le_one_iff_eq_zero_or_eq_one.mp hsz with e | e <;> rw [e] <;> rfl)
  exact ⟨_, rfl, i1, u1, v1.trans hv⟩

/-! ### mpn_copy, mpn_lshift, mpn_rshift -/

/-- MPN_COPY_INCR to the start of a block / MPN_COPY_DECR from the start of a block: the overlap rule cannot fire -/
theorem mpn_copy_ok {s : St} (incr : Bool) {rp roff up uoff n : Nat} {U b : List Nat} (hU : s.loadAt up uoff n = .ok U)
    (hb : s.blk rp = some b) (hfit : roff + U.length ≤ b.length) (h0 : cond incr roff uoff = 0) :
    mpn_copy incr rp roff up uoff n s = .ok (s.setBlk rp (some (wrAt b roff U))) := by
  unfold mpn_copy
  cases incr
  · obtain rfl : uoff = 0 := h0
    simp only [Bool.false_eq_true, false_and, if_false, bind, Except.bind, Bool.not_false, Nat.not_lt_zero,
      and_false, hU]
    exact storeAt_ok hb hfit
  · obtain rfl : roff = 0 := h0
    simp only [Nat.not_lt_zero, false_and, and_false, if_false, bind, Except.bind, Bool.not_true,
      Bool.false_eq_true, hU]
    exact storeAt_ok hb hfit

theorem mpn_lshift_ok {s : St} {rp roff up uoff n c : Nat} {U b : List Nat} (hU : s.loadAt up uoff n = .ok U)
    (hb : s.blk rp = some b) (hfit : roff + n ≤ b.length) (hn : 1 ≤ n) (hc1 : c ≠ 0) (hc : c < 64)
    (hov : ¬ (rp = up ∧ roff < uoff ∧ uoff < roff + n)) :
    mpn_lshift rp roff up uoff n c s =
      .ok (val U * 2 ^ c / B ^ n, s.setBlk rp (some (wrAt b roff (toLimbs n (val U * 2 ^ c))))) := by
  unfold mpn_lshift
  simp only [bind, Except.bind, pure, Except.pure]
  rw [if_neg (not_not.mpr ⟨hn, Nat.one_le_iff_ne_zero.mpr hc1, hc⟩), if_neg hov, hU]
  simp only []
  rw [storeAt_ok hb (by rw [toLimbs_length]; exact hfit)]

theorem mpn_rshift_ok {s : St} {rp roff up uoff n c : Nat} {U b : List Nat} (hU : s.loadAt up uoff n = .ok U)
    (hb : s.blk rp = some b) (hfit : roff + n ≤ b.length) (hn : 1 ≤ n) (hc1 : c ≠ 0) (hc : c < 64)
    (hov : ¬ (rp = up ∧ uoff < roff ∧ roff < uoff + n)) :
    mpn_rshift rp roff up uoff n c s =
      .ok (val U % 2 ^ c * 2 ^ (64 - c), s.setBlk rp (some (wrAt b roff (toLimbs n (val U / 2 ^ c))))) := by
  unfold mpn_rshift
  simp only [bind, Except.bind, pure, Except.pure]
  rw [if_neg (not_not.mpr ⟨hn, Nat.one_le_iff_ne_zero.mpr hc1, hc⟩), if_neg hov, hU]
  simp only []
  rw [storeAt_ok hb (by rw [toLimbs_length]; exact hfit)]

/-! ### a new block for a variable -/

/-- `junk` is a non-zero limb, so `v` holds some value of the same size and `Inv.norm` survives -/
theorem newBlock_spec {s : St} (h : Inv s) {v : Nat} (hv : v < s.nv) (n : Nat) (hlt : s.alloc v < n) :
    Inv (s.newBlock v n) ∧ (s.newBlock v n).nv = s.nv ∧ (∀ i, (s.newBlock v n).size i = s.size i) ∧
    (∀ i, i < s.nv → i ≠ v → (s.newBlock v n).value i = s.value i) ∧
    (s.newBlock v n).alloc v = n ∧ (∀ i, i ≠ v → (s.newBlock v n).alloc i = s.alloc i) ∧
    (s.newBlock v n).ptr v = s.next ∧ (∀ i, i ≠ v → (s.newBlock v n).ptr i = s.ptr i) ∧
    (s.newBlock v n).next = s.next + 1 ∧
    (∀ q, q ≠ s.next → (s.newBlock v n).blk q = s.blk q) ∧
    (s.newBlock v n).blk s.next = some (List.replicate n junk) := by
  have hvars : ∀ i, (s.newBlock v n).vars i =
      if i = v then { alloc := n, size := s.size v, ptr := s.next } else s.vars i := fun i => by
    simp [St.newBlock, St.setVar, St.malloc, St.setBlk]
  have hblk : ∀ q, (s.newBlock v n).blk q =
      if q = s.next then some (List.replicate n junk) else s.blk q := fun q => by
    simp only [St.newBlock, St.setVar, St.malloc, St.setBlk]
  have hnext : (s.newBlock v n).next = s.next + 1 := by
    simp [St.newBlock, St.setVar, St.malloc, St.setBlk]
  have hnv : (s.newBlock v n).nv = s.nv := by
    simp [St.newBlock, St.setVar, St.malloc, St.setBlk]
  have hsize : ∀ i, (s.newBlock v n).size i = s.size i := fun i => by
    unfold St.size; rw [hvars]; split
    · next e => subst e; rfl
    · rfl
  have hptr_v : (s.newBlock v n).ptr v = s.next := by unfold St.ptr; rw [hvars]; simp
  have hptr_o : ∀ i, i ≠ v → (s.newBlock v n).ptr i = s.ptr i := fun i hi => by
    unfold St.ptr; rw [hvars]; simp [hi]
  have halloc_v : (s.newBlock v n).alloc v = n := by unfold St.alloc; rw [hvars]; simp
  have halloc_o : ∀ i, i ≠ v → (s.newBlock v n).alloc i = s.alloc i := fun i hi => by
    unfold St.alloc; rw [hvars]; simp [hi]
  have hblk_o : ∀ i, i < s.nv → (s.newBlock v n).blk (s.ptr i) = s.blk (s.ptr i) := fun i hi => by
    rw [hblk, if_neg (Nat.ne_of_lt (h.lt i hi))]
  have hfit := h.fits v hv
  have hval : ∀ i, i < s.nv → i ≠ v → (s.newBlock v n).value i = s.value i := fun i hi hiv =>
    value_congr (by rw [hvars]; simp [hiv]) (hblk_o i hi)
  have hnorm : (s.newBlock v n).size v = siz ((s.newBlock v n).value v) := by
    rw [hsize]
    have hk : (s.size v).natAbs ≤ n := by omega
    have hmag : (s.newBlock v n).mag v = val (List.replicate (s.size v).natAbs junk) := by
      unfold St.mag St.limbs
      rw [hsize, hptr_v, hblk]; simp [List.take_replicate, Nat.min_eq_left hk]
    have hsn := val_replicate_junk_norm (s.size v).natAbs
    rw [value_eq_sgnv, hsize, hmag]
    unfold siz sgnv
    by_cases h0 : s.size v < 0
    · rw [if_pos h0]
      have hpos : val (List.replicate (s.size v).natAbs junk) ≠ 0 := fun e => by
        rw [e, DivZ.sizeNat_eq_zero.mpr rfl] at hsn; omega
      rw [if_pos (by omega)]; simp only [Int.natAbs_neg, Int.natAbs_natCast]; omega
    · rw [if_neg h0, if_neg (by omega)]; simp only [Int.natAbs_natCast]; omega
  obtain ⟨i', _⟩ := h.of_agree_but (s' := s.newBlock v n) v
    (fun i hi hiv => by rw [hnv] at hi; exact ⟨hi, by rw [hvars, if_neg hiv], hblk_o i hi⟩)
    (by rw [hnext]; exact Nat.le_succ _)
    (fun q hq => by rw [hnext] at hq; rw [hblk, if_neg (by omega)]; exact h.fresh q (by omega))
    (fun _ => ⟨⟨List.replicate n junk, by rw [hptr_v, hblk, if_pos rfl], by rw [halloc_v]; simp, Limbs_replicate_junk _⟩,
      by rw [hptr_v, hnext]; exact Nat.lt_succ_self _, by rw [hsize, halloc_v]; omega, hnorm,
      fun i hi _ => by rw [hptr_v]; rw [hnv] at hi; exact Nat.ne_of_lt (h.lt i hi)⟩)
  exact ⟨i', hnv, hsize, hval, halloc_v, halloc_o, hptr_v, hptr_o, hnext, fun q h1 => by rw [hblk, if_neg h1],
    by rw [hblk, if_pos rfl]⟩

theorem freshBlock_spec {s : St} (h : Inv s) {v : Nat} (hv : v < s.nv) (n : Nat) (hlt : s.alloc v < n) :
    Inv (s.freshBlock v n) ∧ (s.freshBlock v n).nv = s.nv ∧ (∀ i, (s.freshBlock v n).size i = s.size i) ∧
    (∀ i, i < s.nv → i ≠ v → (s.freshBlock v n).value i = s.value i) ∧
    (s.freshBlock v n).alloc v = n ∧ (∀ i, i ≠ v → (s.freshBlock v n).alloc i = s.alloc i) ∧
    (s.freshBlock v n).ptr v = s.next ∧ (∀ i, i ≠ v → (s.freshBlock v n).ptr i = s.ptr i) ∧
    (s.freshBlock v n).next = s.next + 1 ∧
    (∀ q, q ≠ s.next → q ≠ s.ptr v → (s.freshBlock v n).blk q = s.blk q) := by
  obtain ⟨i1, nv1, size1, val1, aV, aO, pV, pO, nx, bO, -⟩ := newBlock_spec h hv n hlt
  have hpn : s.ptr v ≠ s.next := Nat.ne_of_lt (h.lt v hv)
  have e : s.freshBlock v n = (s.newBlock v n).free (s.ptr v) := by
    refine St.ext' rfl (fun _ => rfl) (fun q => ?_) rfl
    simp only [St.freshBlock, St.newBlock, St.setVar, St.malloc, St.free, St.setBlk]
    by_cases e1 : q = s.next
    · simp [e1, hpn.symm]
    · simp [e1]
  obtain ⟨i2, nv2, vars2, val2⟩ := free_inv i1 (s.ptr v) (fun i hi => by
    rw [nv1] at hi
    by_cases hiv : i = v
    · rw [hiv, pV]; exact hpn.symm
    · rw [pO i hiv]; exact fun e => hiv (h.inj i v hi hv e))
  rw [e]
  refine ⟨i2, nv2.trans nv1, size1, fun i hi hiv => (val2 i (nv1 ▸ hi)).trans (val1 i hi hiv), aV, aO, pV, pO, nx,
    fun q h1 h2 => ?_⟩
  rw [← bO q h1]
  simp [St.free, St.setBlk, h2]

end Mpir.AliasMem
