/- FFT ring layer: mpn_mulmod_2expp1_internal / _basecase (the pointwise products of the FFT): the whole-limb case
   b = 64·n, then b not a multiple of 64 (the masked, shifted path); mpn_mulmod_Bexpp1 on canonical residues. -/
import MpirProofs.Lemmas.FftRingBfly
import MpirProofs.Lemmas.FftRingSplit
namespace Mpir.Fft
open Mpir

/-- subtract-then-add-back (mulmod_2expp1_basecase.c:103-105): lo − hi modulo B^n + 1, fully reduced -/
theorem sub_fold (lo hi : List Nat) (hlo : Limbs lo) (hhi : Limbs hi) (hl : lo.length = hi.length) (hn : 1 ≤ lo.length) :
    let xc := sub_n lo hi
    let r := add_1 xc.1 xc.2
    r.1.length = lo.length ∧ Limbs r.1 ∧ r.2 ≤ 1 ∧ val r.1 + B ^ lo.length * r.2 ≤ B ^ lo.length ∧
    ∃ q : Int, (val r.1 : Int) + (B : Int) ^ lo.length * r.2 = (val lo : Int) - val hi + q * ((B : Int) ^ lo.length + 1) := by
  intro xc r
  obtain ⟨sv, sc, sL, sn⟩ := subNC_val lo hi 0 hlo hhi hl (by omega)
  have hxc : xc = subNC lo hi 0 := rfl
  rw [← hxc] at sv sc sL sn
  have hc : xc.2 < B := by have := B_eq; omega
  obtain ⟨av, ac, aL, an⟩ := add_1_val' xc.1 xc.2 sL (by omega) hc
  have hr : r = add_1 xc.1 xc.2 := rfl
  rw [← hr, sn] at av an
  have hxv := val_lt xc.1 sL
  rw [sn] at hxv
  refine ⟨an, aL, ac, by omega, xc.2, ?_⟩
  have sv' := congrArg (fun z : Nat => (z : Int)) sv
  have av' := congrArg (fun z : Nat => (z : Int)) av
  push_cast at sv' av'
  linear_combination av' + sv'

/-- mpn_mulmod_2expp1_internal, b = 64·n, non-FFT path (mulmod_2expp1_basecase.c:96-105) -/
theorem internal_spec (yp zp : List Nat) (n : Nat) (hn : 1 ≤ n) (hy : Limbs yp) (hz : Limbs zp)
    (hly : yp.length = n) (hlz : zp.length = n) :
    (mulmod_2expp1_internal yp zp (64 * n)).1.length = n ∧ Limbs (mulmod_2expp1_internal yp zp (64 * n)).1 ∧
    (mulmod_2expp1_internal yp zp (64 * n)).2 ≤ 1 ∧
    val (mulmod_2expp1_internal yp zp (64 * n)).1 + B ^ n * (mulmod_2expp1_internal yp zp (64 * n)).2 ≤ B ^ n ∧
    ∃ q : Int, (val (mulmod_2expp1_internal yp zp (64 * n)).1 : Int) +
      (B : Int) ^ n * (mulmod_2expp1_internal yp zp (64 * n)).2 = (val yp : Int) * val zp + q * ((B : Int) ^ n + 1) := by
  have hyv := val_lt yp hy; rw [hly] at hyv
  have hzv := val_lt zp hz; rw [hlz] at hzv
  obtain ⟨tv, tl, tL⟩ := Mm1.toLimbs_sq n _ (B ^ n) (le_refl _) (Nat.mul_lt_mul'' hyv hzv)
  set tp := toLimbs (2 * n) (val yp * val zp) with htp
  have hlo : (tp.take n).length = n := by simp [tl]; omega
  have hhi : (tp.drop n).length = n := by simp [tl]; omega
  have e : mulmod_2expp1_internal yp zp (64 * n) =
      add_1 (sub_n (tp.take n) (tp.drop n)).1 (sub_n (tp.take n) (tp.drop n)).2 := by
    unfold mulmod_2expp1_internal
    simp only [show (64 * n + 63) / 64 = n by omega, Nat.sub_self, ↓reduceIte]
    rfl
  rw [e]
  obtain ⟨f1, f2, f3, f4, q, fq⟩ := sub_fold (tp.take n) (tp.drop n) (Limbs_take tL _) (Limbs_drop tL _)
    (by rw [hlo, hhi]) (by omega)
  rw [hlo] at f1 f4 fq
  refine ⟨f1, f2, f3, f4, q - val (tp.drop n), ?_⟩
  have hs' := congrArg (fun z : Nat => (z : Int)) (val_take_drop tp n (by omega))
  rw [tv] at hs'
  push_cast at hs'
  rw [fq]; linear_combination -hs'

/-- the final reduction of the masked path: from lo − hi over n limbs to the canonical residue modulo Q + 1,
    Q = 2^b, B^n = Q·2^k -/
theorem masked_fold (Q K lo hi xp c2 x' cc : Nat) (hK : 1 ≤ K) (hlo : lo < Q) (hhi : hi < Q)
    (hc2 : c2 ≤ 1) (hcc : cc ≤ 1) (hx' : x' < Q * K)
    (h7 : xp + hi = lo + Q * K * c2) (hxp : xp < Q * K) (h8 : x' + Q * K * cc = xp + c2) :
    x' % Q + Q * cc ≤ Q ∧
    ∃ q : Int, ((x' % Q : Nat) : Int) + (Q : Int) * cc = (lo : Int) - hi + q * ((Q : Int) + 1) := by
  have hc : c2 = 0 ∨ c2 = 1 := by omega
  rcases hc with h0 | h1
  · subst h0
    simp only [Nat.mul_zero, Nat.add_zero] at h7 h8
    have hcc0 : cc = 0 := by
      by_contra hne
      have : cc = 1 := by omega
      subst this; simp only [Nat.mul_one] at h8; omega
    subst hcc0
    simp only [Nat.mul_zero, Nat.add_zero] at h8 ⊢
    have hxq : x' < Q := by omega
    rw [Nat.mod_eq_of_lt hxq]
    refine ⟨by omega, 0, ?_⟩
    push_cast; omega
  · subst h1
    simp only [Nat.mul_one] at h7 h8
    by_cases hz : lo + 1 = hi
    · have hcc1 : cc = 1 := by
        by_contra hne
        have : cc = 0 := by omega
        subst this; simp only [Nat.mul_zero, Nat.add_zero] at h8; omega
      subst hcc1
      simp only [Nat.mul_one] at h8 ⊢
      have hx0 : x' = 0 := by omega
      subst hx0
      refine ⟨by simp, 1, ?_⟩
      simp only [Nat.zero_mod]; push_cast; omega
    · have hcc0 : cc = 0 := by
        by_contra hne
        have : cc = 1 := by omega
        subst this; simp only [Nat.mul_one] at h8; omega
      subst hcc0
      simp only [Nat.mul_zero, Nat.add_zero] at h8 ⊢
      obtain ⟨K', rfl⟩ : ∃ K', K = K' + 1 := ⟨K - 1, by omega⟩
      have hform : x' = (Q + lo + 1 - hi) + Q * K' := by
        have : Q * (K' + 1) = Q * K' + Q := by ring
        omega
      have hr : Q + lo + 1 - hi < Q := by omega
      rw [hform, Nat.add_mul_mod_self_left, Nat.mod_eq_of_lt hr]
      refine ⟨by omega, 1, ?_⟩
      have : ((Q + lo + 1 - hi : Nat) : Int) = (Q : Int) + lo + 1 - hi := by omega
      rw [this]; ring

/-- mpn_mulmod_2expp1_internal, b = 64·n − k with 0 < k < 64 (mulmod_2expp1_basecase.c:96-99, 108-123) -/
theorem internal_spec_k (yp zp : List Nat) (n k : Nat) (hn : 1 ≤ n) (hk1 : 1 ≤ k) (hk : k ≤ 63)
    (hyb : val yp < 2 ^ (64 * n - k)) (hzb : val zp < 2 ^ (64 * n - k)) :
    (mulmod_2expp1_internal yp zp (64 * n - k)).1.length = n ∧ Limbs (mulmod_2expp1_internal yp zp (64 * n - k)).1 ∧
    (mulmod_2expp1_internal yp zp (64 * n - k)).2 ≤ 1 ∧
    val (mulmod_2expp1_internal yp zp (64 * n - k)).1 + 2 ^ (64 * n - k) * (mulmod_2expp1_internal yp zp (64 * n - k)).2
      ≤ 2 ^ (64 * n - k) ∧
    ∃ q : Int, (val (mulmod_2expp1_internal yp zp (64 * n - k)).1 : Int) +
      2 ^ (64 * n - k) * (mulmod_2expp1_internal yp zp (64 * n - k)).2 =
        (val yp : Int) * val zp + q * (2 ^ (64 * n - k) + 1) := by
  obtain ⟨s1, s2⟩ := size_facts_k n k hn hk
  have hk0 : k ≠ 0 := by omega
  set Q := 2 ^ (64 * n - k) with hQ
  have hQpos : 0 < Q := Nat.two_pow_pos _
  have hBn := Bn_eq n k hn hk
  rw [← hQ] at hBn
  have hPQ : val yp * val zp < Q * Q := Nat.mul_lt_mul'' hyb hzb
  have hQB : Q ≤ B ^ n := by rw [hBn]; exact Nat.le_mul_of_pos_right _ (Nat.two_pow_pos _)
  obtain ⟨tv, tl, tL⟩ := Mm1.toLimbs_sq n _ Q hQB hPQ
  generalize hPdef : val yp * val zp = P at *
  have hhiVQ : P / Q < Q := (Nat.div_lt_iff_lt_mul hQpos).mpr hPQ
  -- the product cut at bit 64n − k: lo = P % Q, hi = P / Q, nothing shifted out
  obtain ⟨hlo, hc10, hhi1⟩ := Mm1.prod_split (toLimbs (2 * n) P) n k hn hk1 hk tL tl (by rw [tv]; exact hPQ)
  rw [tv, ← hQ] at hlo hhi1
  unfold mulmod_2expp1_internal
  simp only [s1, s2, hk0, ↓reduceIte, hPdef]
  generalize (setAt (toLimbs (2 * n) P) (n - 1) ((toLimbs (2 * n) P).getD (n - 1) 0 &&& (2 ^ (64 - k) - 1))).take n = lo at *
  generalize lshift ((setAt (toLimbs (2 * n) P) (n - 1)
    ((toLimbs (2 * n) P).getD (n - 1) 0 &&& (2 ^ (64 - k) - 1))).drop n) k = sh at *
  generalize setAt sh.1 0 (sh.1.getD 0 0 ||| (toLimbs (2 * n) P).getD (n - 1) 0 >>> (64 - k)) = hi at *
  rw [hc10]
  -- sub_n and add_1
  obtain ⟨sv, sc, sL, sn⟩ := subNC_val lo hi 0 hlo.2.2 hhi1.2.2 (by rw [hlo.2.1, hhi1.2.1]) (by omega)
  have hsub : sub_n lo hi = subNC lo hi 0 := rfl
  rw [← hsub, hlo.1, hhi1.1, hlo.2.1] at sv
  rw [← hsub] at sc sL
  rw [← hsub, hlo.2.1] at sn
  generalize sub_n lo hi = sb at *
  obtain ⟨av, ac, aL, an⟩ := add_1_val' sb.1 (sb.2 + 0) sL (by omega) (by have := B_eq; omega)
  rw [sn] at av an
  generalize add_1 sb.1 (sb.2 + 0) = ad at *
  obtain ⟨mv, ml, mL⟩ := mask_top_mod ad.1 n k aL an hn (by omega)
  rw [← hQ] at mv
  refine ⟨ml, mL, ac, ?_⟩
  rw [mv]
  have hxpv := val_lt sb.1 sL; rw [sn] at hxpv
  have hadv := val_lt ad.1 aL; rw [an] at hadv
  rw [hBn] at sv av hxpv hadv
  have hloQ : P % Q < Q := Nat.mod_lt _ hQpos
  obtain ⟨f1, q, fq⟩ := masked_fold Q (2 ^ k) (P % Q) (P / Q) (val sb.1) sb.2 (val ad.1) ad.2
    (Nat.one_le_two_pow) hloQ hhiVQ sc ac hadv (by omega) hxpv (by omega)
  refine ⟨f1, q - (P / Q : Nat), ?_⟩
  have hdm := Nat.div_add_mod P Q
  have hQi : (2 : Int) ^ (64 * n - k) = (Q : Int) := by rw [hQ]; push_cast; rfl
  have hPi : (val yp : Int) * val zp = (P : Int) := by rw [← hPdef]; push_cast; rfl
  rw [hQi, hPi]
  generalize val ad.1 % Q = R at *
  generalize P / Q = D at *
  generalize P % Q = M at *
  have hdm' := congrArg (fun z : Nat => (z : Int)) hdm
  push_cast at hdm' fq ⊢
  rw [fq]
  linear_combination hdm'

/-- the negation branch (:182-184, :191-193) for b = 64·n − k, 0 ≤ k < 64 -/
theorem negmask_spec_k (u : List Nat) (n k : Nat) (hn : 1 ≤ n) (hk : k ≤ 63) (hu : Limbs u)
    (hl : u.length = n) (hub : val u < 2 ^ (64 * n - k)) :
    let ad := add_1 (neg_n u).1 (neg_n u).2
    let x := setAt ad.1 (n - 1) (ad.1.getD (n - 1) 0 &&& (2 ^ (64 - k) - 1))
    x.length = n ∧ Limbs x ∧ ad.2 ≤ 1 ∧ val x + 2 ^ (64 * n - k) * ad.2 ≤ 2 ^ (64 * n - k) ∧
    ∃ q : Int, (val x : Int) + 2 ^ (64 * n - k) * ad.2 = -(val u : Int) + q * (2 ^ (64 * n - k) + 1) := by
  intro ad x
  set Q := 2 ^ (64 * n - k) with hQ
  have hQpos : 0 < Q := Nat.two_pow_pos _
  have hBn := Bn_eq n k hn hk
  rw [← hQ] at hBn
  obtain ⟨nv, ncase, nL, nn⟩ := negNC_zero_val u hu
  have hneg : neg_n u = negNC u 0 := rfl
  rw [← hneg, hl] at nv nn
  rw [← hneg] at ncase nL
  have hc1 : (neg_n u).2 ≤ 1 := by rcases ncase with ⟨h, _⟩ | ⟨h, _⟩ <;> omega
  obtain ⟨av, ac, aL, an⟩ := add_1_val' (neg_n u).1 (neg_n u).2 nL (by omega) (by have := B_eq; omega)
  have had : ad = add_1 (neg_n u).1 (neg_n u).2 := rfl
  rw [← had, nn] at av an
  rw [← had] at ac aL
  obtain ⟨mv, ml, mL⟩ := mask_top_mod ad.1 n k aL an hn (by omega)
  have hx : x = setAt ad.1 (n - 1) (ad.1.getD (n - 1) 0 &&& (2 ^ (64 - k) - 1)) := rfl
  rw [← hx, ← hQ] at mv; rw [← hx] at ml mL
  refine ⟨ml, mL, ac, ?_⟩
  rw [mv]
  have hxpv := val_lt (neg_n u).1 nL; rw [nn] at hxpv
  have hadv := val_lt ad.1 aL; rw [an] at hadv
  rw [hBn] at nv av hxpv hadv
  obtain ⟨f1, q, fq⟩ := masked_fold Q (2 ^ k) 0 (val u) (val (neg_n u).1) (neg_n u).2 (val ad.1) ad.2
    (Nat.one_le_two_pow) hQpos hub hc1 ac hadv (by omega) hxpv (by omega)
  refine ⟨f1, q, ?_⟩
  have hQi : (2 : Int) ^ (64 * n - k) = (Q : Int) := by rw [hQ]; push_cast; rfl
  rw [hQi]
  generalize val ad.1 % Q = R at *
  push_cast at fq ⊢
  rw [fq]; ring

theorem basecase_unfold_k (yp zp : List Nat) (c n k : Nat) (hn : 1 ≤ n) (hk : k ≤ 63) :
    mulmod_2expp1_basecase yp zp c (64 * n - k) =
      if c / 2 % 2 = 0 then
        if c % 2 = 0 then mulmod_2expp1_internal yp zp (64 * n - k)
        else (setAt (add_1 (neg_n yp).1 (neg_n yp).2).1 (n - 1)
               ((add_1 (neg_n yp).1 (neg_n yp).2).1.getD (n - 1) 0 &&& (2 ^ (64 - k) - 1)),
              (add_1 (neg_n yp).1 (neg_n yp).2).2)
      else
        if c % 2 = 0 then
          (setAt (add_1 (neg_n zp).1 (neg_n zp).2).1 (n - 1)
             ((add_1 (neg_n zp).1 (neg_n zp).2).1.getD (n - 1) 0 &&& (2 ^ (64 - k) - 1)),
            (add_1 (neg_n zp).1 (neg_n zp).2).2)
        else (1 :: List.replicate (n - 1) 0, 0) := by
  obtain ⟨s1, s2⟩ := size_facts_k n k hn hk
  unfold mulmod_2expp1_basecase
  simp only [s1, s2]

/-- mpn_mulmod_2expp1_basecase for b = 64·n − k, 0 ≤ k < 64, on its non-FFT path: the product modulo 2^b + 1, fully
    reduced, for operands given as n limbs plus a flag bit saying "this operand is 2^b" -/
theorem basecase_spec_k (yp zp : List Nat) (c n k : Nat) (hn : 1 ≤ n) (hk : k ≤ 63)
    (hy : Limbs yp) (hz : Limbs zp) (hly : yp.length = n) (hlz : zp.length = n)
    (hyb : val yp < 2 ^ (64 * n - k)) (hzb : val zp < 2 ^ (64 * n - k)) :
    (mulmod_2expp1_basecase yp zp c (64 * n - k)).1.length = n ∧
    Limbs (mulmod_2expp1_basecase yp zp c (64 * n - k)).1 ∧
    (mulmod_2expp1_basecase yp zp c (64 * n - k)).2 ≤ 1 ∧
    val (mulmod_2expp1_basecase yp zp c (64 * n - k)).1 +
      2 ^ (64 * n - k) * (mulmod_2expp1_basecase yp zp c (64 * n - k)).2 ≤ 2 ^ (64 * n - k) ∧
    ((val (mulmod_2expp1_basecase yp zp c (64 * n - k)).1 : Int) +
      2 ^ (64 * n - k) * (mulmod_2expp1_basecase yp zp c (64 * n - k)).2 ≡
        flaggedb (c / 2 % 2) (64 * n - k) yp * flaggedb (c % 2) (64 * n - k) zp [ZMOD 2 ^ (64 * n - k) + 1]) := by
  rw [basecase_unfold_k _ _ _ _ _ hn hk]
  have hy2 : c / 2 % 2 = 0 ∨ c / 2 % 2 = 1 := by omega
  have hz2 : c % 2 = 0 ∨ c % 2 = 1 := by omega
  have fl0 : ∀ u, flaggedb 0 (64 * n - k) u = (val u : Int) := fun u => by simp [flaggedb]
  have fl1 : ∀ u, flaggedb 1 (64 * n - k) u = (2 : Int) ^ (64 * n - k) := fun u => by simp [flaggedb]
  have hmod : ∀ a b : Int, (∃ q : Int, a = b + q * (2 ^ (64 * n - k) + 1)) → a ≡ b [ZMOD 2 ^ (64 * n - k) + 1] := by
    intro a b ⟨q, hq⟩
    rw [Int.modEq_iff_dvd]; exact ⟨-q, by rw [hq]; ring⟩
  rcases hy2 with cy | cy <;> rcases hz2 with cz | cz <;>
    simp only [cy, cz, ↓reduceIte, one_ne_zero, fl0, fl1]
  · by_cases hk0 : k = 0
    · subst hk0
      obtain ⟨i1, i2, i3, i4, q, iq⟩ := internal_spec yp zp n hn hy hz hly hlz
      rw [B_pow] at i4; rw [B_pow_two] at iq
      exact ⟨i1, i2, i3, i4, hmod _ _ ⟨q, iq⟩⟩
    · obtain ⟨i1, i2, i3, i4, q, iq⟩ := internal_spec_k yp zp n k hn (by omega) hk hyb hzb
      exact ⟨i1, i2, i3, i4, hmod _ _ ⟨q, iq⟩⟩
  · obtain ⟨f1, f2, f3, f4, q, fq⟩ := negmask_spec_k yp n k hn hk hy hly hyb
    exact ⟨f1, f2, f3, f4, hmod _ _ ⟨q - val yp, by rw [fq]; ring⟩⟩
  · obtain ⟨f1, f2, f3, f4, q, fq⟩ := negmask_spec_k zp n k hn hk hz hlz hzb
    exact ⟨f1, f2, f3, f4, hmod _ _ ⟨q - val zp, by rw [fq]; ring⟩⟩
  · have hv : val (1 :: List.replicate (n - 1) 0) = 1 := by simp [val_replicate_zero]
    have hL : Limbs (1 :: List.replicate (n - 1) 0) :=
      Limbs_cons.mpr ⟨by rw [B_eq]; norm_num, Limbs_replicate_zero _⟩
    refine ⟨by simp; omega, hL, by omega, ?_, ?_⟩
    · rw [hv]; simp only [Nat.mul_zero, Nat.add_zero]; exact Nat.one_le_two_pow
    · rw [hv]; exact hmod _ _ ⟨-(2 ^ (64 * n - k) - 1), by push_cast; ring⟩

/-! ### mpn_mulmod_Bexpp1 (limbs ≤ FFT_MULMOD_2EXPP1_CUTOFF): the product of two canonical residues -/

theorem canonical_val (xs : List Nat) (t : Nat) (hx : Limbs (xs ++ [t])) (hc : Canonical (xs ++ [t])) :
    t ≤ 1 ∧ rval (xs ++ [t]) = (val xs : Int) + (B : Int) ^ xs.length * t ∧ (t = 1 → val xs = 0) := by
  rcases hc with h | ⟨h, h0⟩
  · simp only [top_snoc] at h; subst h
    exact ⟨by omega, by rw [rval_snoc]; simp, by omega⟩
  · simp only [top_snoc, lo_snoc] at h h0; subst h
    exact ⟨by omega, by rw [rval_snoc]; simp, fun _ => h0⟩

/-- negating a canonical residue over all limbs+1 limbs (mulmod_bexpp1.c:47, :52) -/
theorem neg_canonical (xs : List Nat) (t : Nat) (hx : Limbs (xs ++ [t])) (hn : 1 ≤ xs.length)
    (hc : Canonical (xs ++ [t])) :
    ∃ ys g, (neg_n (xs ++ [t])).1 = ys ++ [g] ∧ ys.length = xs.length ∧ Limbs (ys ++ [g]) ∧ g ≠ B / 2 ∧
      rval (ys ++ [g]) = - rval (xs ++ [t]) := by
  obtain ⟨nv, _, nL, nn⟩ := neg_n_spec (xs ++ [t]) hx
  simp only [List.length_append, List.length_cons, List.length_nil] at nv nn
  obtain ⟨ys, g, e, l⟩ := exists_snoc _ xs.length nn
  rw [e] at nv nL
  obtain ⟨ht, hr, h0⟩ := canonical_val xs t hx hc
  have ⟨hxs, _⟩ := Limbs_snoc.mp hx
  have hv0 : (0 : Int) ≤ val xs := Nat.cast_nonneg _
  have hv1 := valZ_lt xs hxs
  have hP := B_le_pow xs.length hn
  have hrange : -((B : Int) ^ xs.length) ≤ -rval (xs ++ [t]) ∧ -rval (xs ++ [t]) ≤ 0 := by
    rw [hr]
    have : t = 0 ∨ t = 1 := by omega
    rcases this with h | h
    · subst h; simp only [Nat.cast_zero, mul_zero, add_zero]; constructor <;> linarith
    · have := h0 h; subst h; rw [this]; simp
  have hfit : -((B : Int) ^ xs.length * (B : Int)) ≤ 2 * -rval (xs ++ [t]) ∧
      2 * -rval (xs ++ [t]) < (B : Int) ^ xs.length * (B : Int) := by
    have hpos := BZpow_pos xs.length
    generalize (B : Int) ^ xs.length = P at hrange hpos ⊢
    rw [BZ_eq]; constructor <;> linarith only [hrange.1, hrange.2, hpos]
  have hrv : rval (ys ++ [g]) = -rval (xs ++ [t]) := by
    refine rval_of_fits ys g nL l _ ((neg_n (xs ++ [t])).2 : Int) ?_ hfit
    rw [hr]
    rw [val_snoc, val_snoc, l] at nv
    have nv' := congrArg (fun z : Nat => (z : Int)) nv
    rw [val_snoc, l]; push_cast at nv' ⊢
    linear_combination nv'
  refine ⟨ys, g, e, l, nL, ?_, hrv⟩
  have tb := top_bounds ys g nL (-1) 0 (by rw [l, hrv]; linarith only [hrange.1])
    (by rw [l, hrv]; linarith only [hrange.2, BZpow_pos xs.length])
  intro hg; rw [hg] at tb
  have : sint (B / 2) = -9223372036854775808 := by rw [sint_def]; simp only [B_eq]; norm_num
  rw [this] at tb; omega

theorem mulmod_Bexpp1_spec (A C : List Nat) (t1 t2 : Nat) (hA : Limbs (A ++ [t1])) (hC : Limbs (C ++ [t2]))
    (hl : A.length = C.length) (hn : 1 ≤ A.length)
    (c1 : Canonical (A ++ [t1])) (c2 : Canonical (C ++ [t2])) :
    Res A.length ((mulmod_Bexpp1 (A ++ [t1]) (C ++ [t2])).1) fun y =>
      Canonical y ∧
      rval y ≡ rval (A ++ [t1]) * rval (C ++ [t2]) [ZMOD pmod A.length] := by
  obtain ⟨ht1, hr1, h01⟩ := canonical_val A t1 hA c1
  obtain ⟨ht2, hr2, h02⟩ := canonical_val C t2 hC c2
  have hB := B_eq
  unfold mulmod_Bexpp1
  simp only [top_snoc, lo_snoc]
  have hc : ladd (2 * t1 % B) t2 = 2 * t1 + t2 := by unfold ladd; rw [B_eq]; omega
  rw [hc]
  have hlen : (A ++ [t1]).length - 1 = A.length := by simp
  rw [hlen]
  by_cases o2 : t2 = 1
  · -- i2 = 2^(nw) ≡ −1
    have e1 : (2 * t1 + t2) % 2 = 1 := by omega
    simp only [e1, ↓reduceIte]
    obtain ⟨ns, ng, ne, nl, nL, nmin, nr⟩ := neg_canonical A t1 hA hn c1
    rw [ne]
    obtain ⟨ys, g, e, l, L, cn, r⟩ := normmod_spec ns ng nL (by omega) nmin
    refine ⟨ys, g, e, by rw [l, nl], L, cn, ?_⟩
    rw [nl] at r
    refine r.trans ?_
    rw [nr, hr2, h02 o2, o2, ← hl, modEq_pmod_iff]
    exact ⟨-rval (A ++ [t1]), by push_cast; ring⟩
  · have z2 : t2 = 0 := by omega
    by_cases o1 : t1 = 1
    · have e1 : (2 * t1 + t2) % 2 = 0 := by omega
      have e2 : (2 * t1 + t2) / 2 % 2 = 1 := by omega
      simp only [e1, e2, ↓reduceIte, zero_ne_one]
      obtain ⟨ns, ng, ne, nl, nL, nmin, nr⟩ := neg_canonical C t2 hC (by omega) c2
      rw [ne]
      obtain ⟨ys, g, e, l, L, cn, r⟩ := normmod_spec ns ng nL (by omega) nmin
      refine ⟨ys, g, e, by rw [l, nl, hl], L, cn, ?_⟩
      rw [nl, ← hl] at r
      refine r.trans ?_
      rw [nr, hr1, h01 o1, o1, modEq_pmod_iff]
      exact ⟨-rval (C ++ [t2]), by push_cast; ring⟩
    · have z1 : t1 = 0 := by omega
      subst z1 z2
      simp only [Nat.mul_zero, Nat.add_zero, Nat.zero_mod, Nat.zero_div, zero_ne_one, ↓reduceIte]
      rw [Nat.mul_comm A.length 64]
      have hAL := (Limbs_snoc.mp hA).1
      have hCL := (Limbs_snoc.mp hC).1
      obtain ⟨b1, b2, b3, b4, b5⟩ := basecase_spec_k A C 0 A.length 0 hn (by omega) hAL hCL rfl hl.symm
        (by rw [Nat.sub_zero, ← B_pow]; exact val_lt A hAL) (by rw [Nat.sub_zero, ← B_pow, hl]; exact val_lt C hCL)
      rw [Nat.sub_zero] at b1 b2 b3 b4 b5
      rw [← B_pow] at b4
      rw [← B_pow_two] at b5
      generalize (mulmod_2expp1_basecase A C 0 (64 * A.length)).1 = r at *
      generalize (mulmod_2expp1_basecase A C 0 (64 * A.length)).2 = cc at *
      have hcL : Limbs (r ++ [cc]) := Limbs_snoc.mpr ⟨b2, by omega⟩
      refine ⟨r, cc, rfl, b1, hcL, ?_, ?_⟩
      · by_cases hcc : cc = 0
        · exact Or.inl (by simpa using hcc)
        · have : cc = 1 := by omega
          subst this
          refine Or.inr ⟨by simp, ?_⟩
          simp only [lo_snoc]; generalize B ^ A.length = P at *; omega
      · have hs : sint cc = cc := sint_bit cc b3
        rw [rval_snoc, b1, hs, hr1, hr2]
        simp only [flaggedb, Nat.zero_div, Nat.zero_mod, zero_ne_one, ↓reduceIte] at b5
        simpa [pmod] using b5

theorem basecase_spec (yp zp : List Nat) (c b : Nat) (hb : 1 ≤ b) (hy : Limbs yp) (hz : Limbs zp)
    (hly : yp.length = (b + 63) / 64) (hlz : zp.length = (b + 63) / 64)
    (hyb : val yp < 2 ^ b) (hzb : val zp < 2 ^ b) :
    (mulmod_2expp1_basecase yp zp c b).1.length = (b + 63) / 64 ∧ Limbs (mulmod_2expp1_basecase yp zp c b).1 ∧
    (mulmod_2expp1_basecase yp zp c b).2 ≤ 1 ∧
    val (mulmod_2expp1_basecase yp zp c b).1 + 2 ^ b * (mulmod_2expp1_basecase yp zp c b).2 ≤ 2 ^ b ∧
    ((val (mulmod_2expp1_basecase yp zp c b).1 : Int) + 2 ^ b * (mulmod_2expp1_basecase yp zp c b).2 ≡
        flaggedb (c / 2 % 2) b yp * flaggedb (c % 2) b zp [ZMOD 2 ^ b + 1]) := by
  generalize hn : (b + 63) / 64 = n at *
  have hb' : b = 64 * n - (64 * n - b) := by omega
  rw [hb'] at hyb hzb ⊢
  exact basecase_spec_k yp zp c n (64 * n - b) (by omega) (by omega) hy hz hly hlz hyb hzb

theorem mulmod_Bexpp1_out (a b : List Nat) (n : Nat) (ha : Limbs a) (hb : Limbs b)
    (hla : a.length = n + 1) (hlb : b.length = n + 1) (hn : 1 ≤ n) (ca : Canonical a) (cb : Canonical b) :
    (mulmod_Bexpp1 a b).1.length = n + 1 ∧ Limbs (mulmod_Bexpp1 a b).1 ∧ Canonical (mulmod_Bexpp1 a b).1 ∧
    rval (mulmod_Bexpp1 a b).1 ≡ rval a * rval b [ZMOD pmod n] := by
  obtain ⟨A, t1, rfl, rfl⟩ := exists_snoc a n hla
  obtain ⟨C, t2, rfl, hC⟩ := exists_snoc b A.length hlb
  exact (mulmod_Bexpp1_spec A C t1 t2 ha hb hC.symm hn ca cb).out

end Mpir.Fft
