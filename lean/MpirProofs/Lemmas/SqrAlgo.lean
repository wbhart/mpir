/- The squaring variants of Mpir/Model/SqrAlgo.lean are the multiplication models of Mpir/Model/MulAlgo.lean with both
   operands equal. -/
import Mpir.Model.SqrAlgo
import MpirProofs.Lemmas.MulAlgo
namespace Mpir.SqrAlgo
open Mpir Mpir.MulAlgo

/-- mpn_kara_sqr_n is mpn_kara_mul_n with both operands equal: the sign product of the multiplication is a square, so it
    always takes the `mpn_karasub` branch, and the two basecase thresholds act as their maximum -/
theorem kara_sqr_n_eq_mul (T1 T2 : Nat) : ∀ (n x : Nat), kara_sqr_n T1 T2 x n = kara_mul_n (max T1 T2) x x n := by
  intro n
  induction n using Nat.strong_induction_on with
  | _ n ih =>
    intro x
    rw [kara_sqr_n, kara_mul_n]
    split
    · rfl
    · have hs : ∀ c : Prop, [Decidable c] → ((if c then (1 : Int) else -1) * (if c then 1 else -1) * (-1)) = -1 := by
        intro c _; split <;> rfl
      have hT : (n - n / 2 < max T1 T2) ↔ (n - n / 2 < T1 ∨ n - n / 2 < T2) := lt_max_iff
      simp only [hs, if_true]
      by_cases h1 : n - n / 2 < T1
      · simp only [h1, hT, true_or, if_true]
      · by_cases h2 : n - n / 2 < T2
        · simp only [h1, h2, hT, or_true, if_true, if_false]
        · have hm : n / 2 < n := by omega
          have hm' : n - n / 2 < n := by omega
          simp only [h1, h2, hT, or_self, if_false, hm, hm', dite_true, ih _ hm, ih _ hm']
          -- the two sides differ only in which copy of the `match` on the three sub-results they use
          generalize kara_mul_n (max T1 T2) (x % B ^ (n / 2)) _ _ = o1
          generalize kara_mul_n (max T1 T2) (absDiff _ _) _ _ = o2
          generalize kara_mul_n (max T1 T2) (x / B ^ (n / 2)) _ _ = o3
          cases o1 <;> cases o2 <;> cases o3 <;> rfl

/-- the interpolation only tests `sa < 0`: a square of a sign is as good as 1 -/
theorem toom3Interp_sign (v0 v1 v2 vm1 vinf s : Int) :
    toom3Interp v0 v1 v2 vm1 vinf (s * s) = toom3Interp v0 v1 v2 vm1 vinf 1 := by
  unfold toom3Interp
  have h1 : ¬ (s * s < 0) := not_lt.mpr (mul_self_nonneg s)
  have h2 : ¬ ((1 : Int) < 0) := by norm_num
  simp only [h1, h2, if_false]

/-- mpn_toom3_sqr_n is mpn_toom3_mul_n with both operands equal (the squaring hands the interpolation the constant sign 1 where
    the multiplication hands it sa·sa) -/
theorem toom3_sqr_n_eq_mul (sqr : Nat → Nat) (hsqr : ∀ x, sqr x = x * x) (a n : Nat) :
    toom3_sqr_n sqr a n = toom3_mul_n (fun x y => x * y) a a n := by
  unfold toom3_sqr_n toom3_mul_n toom3_mul
  simp only [hsqr, toom3Interp_sign]

/-- mpn_toom4_sqr_n is mpn_toom4_mul_n with both operands equal (value level); the C differs in the order of the
    additions forming the evaluation points and passes non-negative n4, n6 (the values at −1 and −1/2 are squares) -/
theorem toom4_sqr_n_eq_mul (sqr : Nat → Nat) (hsqr : ∀ x, sqr x = x * x) (a n : Nat) (hn : 1 ≤ n) :
    toom4_sqr_n sqr a n = toom4_mul_n (fun x y => x * y) a a n := by
  have hs : (n - 1) / 4 + 1 = (n + 3) / 4 := by omega
  unfold toom4_sqr_n toom4_mul_n toom4_mul
  simp only [hsqr, hs, bne_self_eq_false, Bool.false_and]
  generalize a % B ^ ((n + 3) / 4) = a0
  generalize a / B ^ ((n + 3) / 4) % B ^ ((n + 3) / 4) = a1
  generalize a / (B ^ ((n + 3) / 4)) ^ 2 % B ^ ((n + 3) / 4) = a2
  generalize a / (B ^ ((n + 3) / 4)) ^ 3 = a3
  rw [Nat.add_comm a3 a1, Nat.add_comm (8 * a0) (2 * a2), Nat.add_comm (4 * a1) a3,
    show 8 * a3 + 4 * a2 + 2 * a1 + a0 = a0 + 2 * a1 + 4 * a2 + 8 * a3 by ring]

end Mpir.SqrAlgo
