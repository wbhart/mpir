/- The matrix Fourier multiplication: inner pass, inverse column loops and the convolution chain, then the inverse transform and mpn_mul_mfa_trunc_sqrt2. -/

import MpirProofs.Lemmas.FftXMfa
import MpirProofs.Lemmas.FftXConv
import Mpir.Model.FftMfa
import MpirProofs.Lemmas.FftXMul

namespace Mpir.FftX
open Mpir Finset

theorem pOf_eq_pmod (L : Nat) : pOf (64 * L) = Fft.pmod L := by rw [pOf_eq]; rfl

/-- normalise, normalise, mpn_mulmod_Bexpp1: the product modulo p -/
theorem pointwiseB_spec (L : Nat) (hL : 1 ≤ L) (a b : Int) :
    pointwiseB L a b ≡ a * b [ZMOD pOf (64 * L)] := by
  obtain ⟨la, La, ca, va⟩ := canon_norm L a
  obtain ⟨lb, Lb, cb, vb⟩ := canon_norm L b
  obtain ⟨_, _, _, h⟩ := Fft.mulmod_Bexpp1_out (canon L a) (canon L b) L La Lb la lb hL ca cb
  unfold pointwiseB
  rw [va, vb, ← pOf_eq_pmod] at h
  exact Int.ModEq.trans h (Int.ModEq.mul (Int.mod_modEq _ _) (Int.mod_modEq _ _))

theorem fft_mfa_inner_unfold (e1 e2 w trunc : Nat) (ii jj : List Int) :
    fft_mfa_trunc_sqrt2_inner (e1 + e2 + 1) w (2 ^ (e1 + 1)) trunc ii jj =
      onRowsI
        (onRowsI ii (2 ^ (e1 + 1) * 2 ^ (e2 + 1)) (2 ^ (e1 + 1))
          ((List.range ((trunc - 2 * 2 ^ (e1 + e2 + 1)) / 2 ^ (e1 + 1))).map fun s => revbin s (e2 + 1))
          (fun i row => rowConv e1 (w * 2 ^ (e2 + 1)) (2 ^ (e1 + 1)) (2 ^ (e1 + e2 + 1) * w / 64) row
            ((jj.drop (2 ^ (e1 + 1) * 2 ^ (e2 + 1) + i * 2 ^ (e1 + 1))).take (2 ^ (e1 + 1)))))
        0 (2 ^ (e1 + 1)) (List.range (2 ^ (e2 + 1)))
        (fun i row => rowConv e1 (w * 2 ^ (e2 + 1)) (2 ^ (e1 + 1)) (2 ^ (e1 + e2 + 1) * w / 64) row
          ((jj.drop (0 + i * 2 ^ (e1 + 1))).take (2 ^ (e1 + 1)))) := by
  obtain ⟨hN, hn2⟩ := mfa_dims e1 e2
  unfold fft_mfa_trunc_sqrt2_inner
  simp only [hn2, clog2_pow, Nat.add_sub_cancel]
  rw [hN]

theorem length_rowConv (e wr n1 L : Nat) (ra rb : List Int) : (rowConv e wr n1 L ra rb).length = 2 ^ (e + 1) := by
  unfold rowConv; exact length_ifft_radix2 _ _ _

section ring
variable {S : Type} [CommRing S] (f : ℤ →+* S)

/-- one row of the inner pass (`hpw`: the pointwise product is the product in S); the factor n1 comes from the inverse row
    transform, which is not scaled -/
theorem rowConv_val (e1 e2 w L : Nat) (hd : 64 ∣ 2 ^ (e1 + e2 + 1) * w) (hz : f 2 ^ (2 ^ (e1 + e2 + 1) * w) = -1)
    (hpw : ∀ a b, f (pointwiseB L a b) = f a * f b) (Xa Xb Xx : List Int) (j : Nat) (hj : j < 2 ^ (e2 + 1))
    (hX : ∀ K < 2 ^ (e1 + e2 + 1 + 1), f (el (fft_radix2 (e1 + e2 + 1) w Xx) K) =
      f (el (fft_radix2 (e1 + e2 + 1) w Xa) K) * f (el (fft_radix2 (e1 + e2 + 1) w Xb) K))
    (ra rb : List Int) (hra : ∀ t < 2 ^ (e1 + 1), el ra t = el (mfaCol e2 w (2 ^ (e1 + 1)) Xa t) j)
    (hrb : ∀ t < 2 ^ (e1 + 1), el rb t = el (mfaCol e2 w (2 ^ (e1 + 1)) Xb t) j) (t : Nat) (ht : t < 2 ^ (e1 + 1)) :
    f (el (rowConv e1 (w * 2 ^ (e2 + 1)) (2 ^ (e1 + 1)) L ra rb) t) =
      2 ^ (e1 + 1) * f (el (mfaCol e2 w (2 ^ (e1 + 1)) Xx t) j) := by
  have hnw : 2 ^ e1 * (w * 2 ^ (e2 + 1)) = 2 ^ (e1 + e2 + 1) * w := by
    rw [show e1 + e2 + 1 = e1 + (e2 + 1) by ring, pow_add]; ring
  have hu : f 2 ^ (2 * (2 ^ (e1 + e2 + 1) * w)) = 1 := by rw [pow_mul' (f 2) 2 _, hz]; norm_num
  -- the transform of a row of the column-transformed matrix of X is a part of the transform of X
  have rowfft : ∀ (r X : List Int), (∀ t < 2 ^ (e1 + 1), el r t = el (mfaCol e2 w (2 ^ (e1 + 1)) X t) j) →
      ∀ k < 2 ^ (e1 + 1), f (el (fft_radix2 e1 (w * 2 ^ (e2 + 1)) r) k) =
        f (el (fft_radix2 (e1 + e2 + 1) w X) (rev (e1 + e2 + 1 + 1) (j + 2 ^ (e2 + 1) * rev (e1 + 1) k))) :=
    fun r X h k hk => by
      have := mfa_passes f e1 e2 w X hz j (rev (e1 + 1) k) hj (rev_lt _ _)
      rw [mfaRow, el_revPerm _ _ (length_fft_radix2 _ _ _) _ (rev_lt _ _), rev_rev _ _ hk] at this
      rw [← this, fft_radix2_congr e1 _ r ((List.range (2 ^ (e1 + 1))).map fun i => el (mfaCol e2 w (2 ^ (e1 + 1)) X i) j)
        fun i hi => by rw [h i hi, el_range_map _ _ _ hi]]
  rw [rowConv, (recovers_ifft_radix2 e1 (w * 2 ^ (e2 + 1)) (hnw ▸ hd) (hnw ▸ hu) 1).inverts
    ((List.range (2 ^ (e1 + 1))).map fun i => el (mfaCol e2 w (2 ^ (e1 + 1)) Xx i) j) _ (fun k hk => ?_) t ht,
    el_range_map _ _ _ ht]
  rw [el_range_map _ _ _ hk, hpw, rowfft ra Xa hra k hk, rowfft rb Xb hrb k hk,
    rowfft _ Xx (fun t ht => el_range_map _ _ _ ht) k hk, hX _ (rev_lt _ _)]

end ring

theorem fft_mfa_inner_spec {S : Type} [CommRing S] (f : ℤ →+* S) (e1 e2 w L trunc : Nat)
    (hL : 2 ^ (e1 + e2 + 1) * w = 64 * L) (hz : f 2 ^ (2 ^ (e1 + e2 + 1) * w) = -1)
    (hpw : ∀ a b, f (pointwiseB L a b) = f a * f b)
    (ht2' : TruncOk e2 ((trunc - 2 * 2 ^ (e1 + e2 + 1)) / 2 ^ (e1 + 1)))
    (Sa Da Sb Db Sx Dx A Bm : List Int) (hlA : A.length = 4 * 2 ^ (e1 + e2 + 1))
    (hA1 : ∀ i < 2 ^ (e1 + 1), ∀ j < 2 ^ (e2 + 1), el A (i + j * 2 ^ (e1 + 1)) = el (mfaCol e2 w (2 ^ (e1 + 1)) Sa i) j)
    (hA2 : ∀ i < 2 ^ (e1 + 1), ∀ s < (trunc - 2 * 2 ^ (e1 + e2 + 1)) / 2 ^ (e1 + 1),
      el A (2 ^ (e1 + 1) * 2 ^ (e2 + 1) + i + rev (e2 + 1) s * 2 ^ (e1 + 1)) =
        el (mfaCol e2 w (2 ^ (e1 + 1)) Da i) (rev (e2 + 1) s))
    (hB1 : ∀ i < 2 ^ (e1 + 1), ∀ j < 2 ^ (e2 + 1), el Bm (i + j * 2 ^ (e1 + 1)) = el (mfaCol e2 w (2 ^ (e1 + 1)) Sb i) j)
    (hB2 : ∀ i < 2 ^ (e1 + 1), ∀ s < (trunc - 2 * 2 ^ (e1 + e2 + 1)) / 2 ^ (e1 + 1),
      el Bm (2 ^ (e1 + 1) * 2 ^ (e2 + 1) + i + rev (e2 + 1) s * 2 ^ (e1 + 1)) =
        el (mfaCol e2 w (2 ^ (e1 + 1)) Db i) (rev (e2 + 1) s))
    (hS : ∀ K < 2 ^ (e1 + e2 + 1 + 1), f (el (fft_radix2 (e1 + e2 + 1) w Sx) K) =
      f (el (fft_radix2 (e1 + e2 + 1) w Sa) K) * f (el (fft_radix2 (e1 + e2 + 1) w Sb) K))
    (hD : ∀ K < 2 ^ (e1 + e2 + 1 + 1), f (el (fft_radix2 (e1 + e2 + 1) w Dx) K) =
      f (el (fft_radix2 (e1 + e2 + 1) w Da) K) * f (el (fft_radix2 (e1 + e2 + 1) w Db) K)) :
    (fft_mfa_trunc_sqrt2_inner (e1 + e2 + 1) w (2 ^ (e1 + 1)) trunc A Bm).length = A.length ∧
    (∀ t < 2 ^ (e1 + 1), ∀ j < 2 ^ (e2 + 1),
      f (el (fft_mfa_trunc_sqrt2_inner (e1 + e2 + 1) w (2 ^ (e1 + 1)) trunc A Bm) (t + j * 2 ^ (e1 + 1))) =
        2 ^ (e1 + 1) * f (el (mfaCol e2 w (2 ^ (e1 + 1)) Sx t) j)) ∧
    (∀ t < 2 ^ (e1 + 1), ∀ s < (trunc - 2 * 2 ^ (e1 + e2 + 1)) / 2 ^ (e1 + 1),
      f (el (fft_mfa_trunc_sqrt2_inner (e1 + e2 + 1) w (2 ^ (e1 + 1)) trunc A Bm)
          (2 ^ (e1 + 1) * 2 ^ (e2 + 1) + t + rev (e2 + 1) s * 2 ^ (e1 + 1))) =
        2 ^ (e1 + 1) * f (el (mfaCol e2 w (2 ^ (e1 + 1)) Dx t) (rev (e2 + 1) s))) := by
  obtain ⟨hN, _⟩ := mfa_dims e1 e2
  have hd : 64 ∣ 2 ^ (e1 + e2 + 1) * w := ⟨L, hL⟩
  have eL : 2 ^ (e1 + e2 + 1) * w / 64 = L := by rw [hL]; omega
  obtain ⟨hnd, hrows, hmem⟩ := revbin_rows (e2 + 1) _ ht2'.2.2
  rw [fft_mfa_inner_unfold, eL]
  obtain ⟨l1, o1, v1⟩ := onRowsI_spec (2 ^ (e1 + 1) * 2 ^ (e2 + 1)) (2 ^ (e1 + 1)) (2 ^ (e2 + 1))
    (fun i row => rowConv e1 (w * 2 ^ (e2 + 1)) (2 ^ (e1 + 1)) L row
      ((Bm.drop (2 ^ (e1 + 1) * 2 ^ (e2 + 1) + i * 2 ^ (e1 + 1))).take (2 ^ (e1 + 1))))
    (fun _ _ _ => length_rowConv _ _ _ _ _ _) _ hrows A (by omega)
  generalize onRowsI A (2 ^ (e1 + 1) * 2 ^ (e2 + 1)) (2 ^ (e1 + 1))
    ((List.range ((trunc - 2 * 2 ^ (e1 + e2 + 1)) / 2 ^ (e1 + 1))).map fun s => revbin s (e2 + 1))
    (fun i row => rowConv e1 (w * 2 ^ (e2 + 1)) (2 ^ (e1 + 1)) L row
      ((Bm.drop (2 ^ (e1 + 1) * 2 ^ (e2 + 1) + i * 2 ^ (e1 + 1))).take (2 ^ (e1 + 1)))) = R1 at *
  obtain ⟨l2, o2, v2⟩ := onRowsI_spec 0 (2 ^ (e1 + 1)) (2 ^ (e2 + 1))
    (fun i row => rowConv e1 (w * 2 ^ (e2 + 1)) (2 ^ (e1 + 1)) L row
      ((Bm.drop (0 + i * 2 ^ (e1 + 1))).take (2 ^ (e1 + 1))))
    (fun _ _ _ => length_rowConv _ _ _ _ _ _) (List.range (2 ^ (e2 + 1)))
    (fun i hi => List.mem_range.mp hi) R1 (by omega)
  refine ⟨by rw [l2, l1], fun t ht j hj => ?_, fun t ht s hs => ?_⟩
  · -- a row of the first half
    have hidx := fun t' (ht' : t' < 2 ^ (e1 + 1)) => idx_lt (2 ^ (e1 + 1)) (2 ^ (e2 + 1)) t' j ht' hj
    have ei : ∀ t', 0 + j * 2 ^ (e1 + 1) + t' = t' + j * 2 ^ (e1 + 1) := fun t' => by omega
    rw [← ei, v2 List.nodup_range j hj t ht, if_pos (List.mem_range.mpr hj)]
    exact rowConv_val f e1 e2 w L hd hz hpw Sa Sb Sx j hj hS _ _
      (fun t' ht' => by rw [el_take_drop _ _ _ _ ht', o1 _ (Or.inl (by have := hidx t' ht'; omega)), ei, hA1 t' ht' j hj])
      (fun t' ht' => by rw [el_take_drop _ _ _ _ ht', ei, hB1 t' ht' j hj]) t ht
  · -- a relevant row of the second half
    have hjr := rev_lt (e2 + 1) s
    have ei : ∀ t', 2 ^ (e1 + 1) * 2 ^ (e2 + 1) + rev (e2 + 1) s * 2 ^ (e1 + 1) + t' =
        2 ^ (e1 + 1) * 2 ^ (e2 + 1) + t' + rev (e2 + 1) s * 2 ^ (e1 + 1) := fun t' => by ring
    rw [o2 _ (Or.inr (by omega)), ← ei, v1 hnd _ hjr t ht, if_pos (hmem s hs)]
    exact rowConv_val f e1 e2 w L hd hz hpw Da Db Dx _ hjr hD _ _
      (fun t' ht' => by rw [el_take_drop _ _ _ _ ht', ei, hA2 t' ht' s hs])
      (fun t' ht' => by rw [el_take_drop _ _ _ _ ht', ei, hB2 t' ht' s hs]) t ht

/-! ### the partial revbin swaps (ifft_mfa_trunc_sqrt2.c:304-308) -/

theorem el_set' (l : List Int) (i p : Nat) (v : Int) (hi : i < l.length) :
    el (l.set i v) p = if p = i then v else el l p := by
  unfold el
  rw [List.getD_eq_getElem?_getD, List.getD_eq_getElem?_getD, List.getElem?_set]
  by_cases h : i = p
  · subst h; simp [hi]
  · rw [if_neg h, if_neg (fun e => h e.symm)]

theorem revSwaps_succ (D k : Nat) (c : List Int) :
    revSwaps D (k + 1) c =
      if k < revbin k D then ((revSwaps D k c).set k (el (revSwaps D k c) (revbin k D))).set (revbin k D) (el (revSwaps D k c) k)
      else revSwaps D k c := by
  unfold revSwaps
  rw [List.range_succ, List.foldl_append]
  rfl

theorem revSwaps_spec (D : Nat) (c : List Int) (hc : c.length = 2 ^ D) (cnt : Nat) (hcnt : cnt ≤ 2 ^ D) :
    (revSwaps D cnt c).length = 2 ^ D ∧
    ∀ p < 2 ^ D, el (revSwaps D cnt c) p = if p < cnt ∨ rev D p < cnt then el c (rev D p) else el c p := by
  induction cnt with
  | zero => exact ⟨by simp [revSwaps, hc], fun p _ => by simp [revSwaps]⟩
  | succ k ih =>
    obtain ⟨hl, hv⟩ := ih (by omega)
    have hk : k < 2 ^ D := by omega
    have hs := rev_lt D k
    have rs : rev D (rev D k) = k := rev_rev D k hk
    rw [revSwaps_succ, revbin_rev D k hk]
    generalize hcur : revSwaps D k c = cur at *
    by_cases hks : k < rev D k
    · rw [if_pos hks]
      refine ⟨by simp [hl], ?_⟩
      intro p hp
      rw [el_set' _ _ _ _ (by rw [List.length_set, hl]; exact hs), el_set' _ _ _ _ (by rw [hl]; exact hk),
        hv _ hs, hv k hk, rs]
      by_cases hps : p = rev D k
      · rw [if_pos hps, if_neg (by omega), hps, rs, if_pos (Or.inr (by omega))]
      · rw [if_neg hps]
        by_cases hpk : p = k
        · rw [if_pos hpk, if_neg (by omega), hpk, if_pos (Or.inl (by omega))]
        · rw [if_neg hpk, hv p hp]
          have hrp : rev D p ≠ k := fun h => hps (by rw [← rev_rev D p hp, h])
          have : (p < k + 1 ∨ rev D p < k + 1) ↔ (p < k ∨ rev D p < k) := by omega
          rw [if_congr this rfl rfl]
    · rw [if_neg hks]
      refine ⟨hl, ?_⟩
      intro p hp
      rw [hv p hp]
      by_cases hpk : p = k
      · subst hpk
        have hR : (if p < p + 1 ∨ rev D p < p + 1 then el c (rev D p) else el c p) = el c (rev D p) :=
          if_pos (Or.inl (by omega))
        rw [hR]
        by_cases h : rev D p < p
        · exact if_pos (Or.inr h)
        · have e : rev D p = p := by omega
          have hn : ¬ (p < p ∨ rev D p < p) := by omega
          rw [if_neg hn, e]
      · by_cases hps : p = rev D k
        · have hlt : rev D k < k := by
            rcases Nat.lt_or_ge (rev D k) k with h | h
            · exact h
            · exfalso; apply hpk; omega
          have h1 : p < k ∨ rev D p < k := Or.inl (by omega)
          have h2 : p < k + 1 ∨ rev D p < k + 1 := Or.inl (by omega)
          rw [if_pos h1, if_pos h2]
        · have hrp : rev D p ≠ k := fun h => hps (by rw [← rev_rev D p hp, h])
          have : (p < k + 1 ∨ rev D p < k + 1) ↔ (p < k ∨ rev D p < k) := by omega
          rw [if_congr this rfl rfl]

theorem el_map_lt (l : List Int) (g : Int → Int) (m : Nat) (hm : m < l.length) : el (l.map g) m = g (el l m) := by
  simp [el, List.getD_eq_getElem?_getD, hm]

/-- first-half column update (ifft_mfa_trunc_sqrt2.c:283-296) -/
def imfaH1 (e1 e2 w : Nat) (i : Nat) (col : List Int) : List Int :=
  ifft_radix2_twiddle e2 (w * 2 ^ (e1 + 1)) w 0 i 1 (revPerm (e2 + 1) col)

/-- the column update of the last loop of mpir_ifft_mfa_trunc_sqrt2 (ifft_mfa_trunc_sqrt2.c:207-260; the same
    statements as :302-354 of the outer variant): swaps, recomputed entries, truncated inverse transform, √2 layer -/
def imfaG2u (e1 e2 w trunc : Nat) (i : Nat) (ca cb0 : List Int) : List Int × List Int :=
  let cb := revSwaps (e2 + 1) ((trunc - 2 * 2 ^ (e1 + e2 + 1)) / 2 ^ (e1 + 1)) cb0
  let cb := (List.range (2 ^ (e2 + 1))).map fun j =>
    if (trunc - 2 * 2 ^ (e1 + e2 + 1)) / 2 ^ (e1 + 1) ≤ j then
      let u := i + j * 2 ^ (e1 + 1)
      if w % 2 = 1 then
        if i % 2 = 1 then adjSqrt2 (wnOf (2 ^ (e1 + e2 + 1)) w) (el ca j) u w
        else adj (el ca j) (u / 2) w
      else adj (el ca j) u (w / 2)
    else el cb j
  let cb := ifft_trunc1_twiddle e2 (w * 2 ^ (e1 + 1)) w 0 i 1 ((trunc - 2 * 2 ^ (e1 + e2 + 1)) / 2 ^ (e1 + 1)) cb
  let h := fun m =>
    let j := i + m * 2 ^ (e1 + 1)
    if j < trunc - 2 * 2 ^ (e1 + e2 + 1) then
      if w % 2 = 1 then
        if j % 2 = 1 then ibflySqrt2 (wnOf (2 ^ (e1 + e2 + 1)) w) (el ca m) (el cb m) j w
        else ibfly (wnOf (2 ^ (e1 + e2 + 1)) w) (el ca m) (el cb m) (j / 2) w
      else ibfly (wnOf (2 ^ (e1 + e2 + 1)) w) (el ca m) (el cb m) j (w / 2)
    else (2 * el ca m, el cb m)
  (fsts (2 ^ (e2 + 1)) h, snds (2 ^ (e2 + 1)) h)

/-- the column update of the second loop of the outer variant (:302-365): the same, then the division by 4n -/
def imfaG2 (e1 e2 w trunc : Nat) (i : Nat) (ca cb0 : List Int) : List Int × List Int :=
  let sc := fun (v : Int) => v * 2 ^ (2 * wnOf (2 ^ (e1 + e2 + 1)) w - (e2 + 1 + (e1 + 1) + 1))
  ((imfaG2u e1 e2 w trunc i ca cb0).1.map sc,
   (List.range (2 ^ (e2 + 1))).map fun j =>
     if j < (trunc - 2 * 2 ^ (e1 + e2 + 1)) / 2 ^ (e1 + 1) then sc (el (imfaG2u e1 e2 w trunc i ca cb0).2 j)
     else el (imfaG2u e1 e2 w trunc i ca cb0).2 j)

theorem ifft_mfa_outer_unfold (e1 e2 w trunc : Nat) (xs : List Int) :
    ifft_mfa_trunc_sqrt2_outer (e1 + e2 + 1) w (2 ^ (e1 + 1)) trunc xs =
      (List.range (2 ^ (e1 + 1))).foldl
        (colStep (2 ^ (e1 + 1)) (2 ^ (e2 + 1)) (2 ^ (e1 + 1) * 2 ^ (e2 + 1)) (imfaG2 e1 e2 w trunc))
        ((List.range (2 ^ (e1 + 1))).foldl
          (fun xs i => setCol xs i (2 ^ (e1 + 1)) (imfaH1 e1 e2 w i (getCol xs i (2 ^ (e1 + 1)) (2 ^ (e2 + 1))))) xs) := by
  obtain ⟨hN, hn2⟩ := mfa_dims e1 e2
  unfold ifft_mfa_trunc_sqrt2_outer
  simp only [hn2, clog2_pow, Nat.add_sub_cancel]
  rw [hN]
  rfl

/-- the row update of mpir_ifft_mfa_trunc_sqrt2 (ifft_mfa_trunc_sqrt2.c:163-172, :194-204): revbin swaps, mpir_ifft_radix2 -/
def imfaRowF (e1 e2 w : Nat) (row : List Int) : List Int :=
  ifft_radix2 e1 (w * 2 ^ (e2 + 1)) (revPerm (e1 + 1) row)

theorem ifft_mfa_unfold (e1 e2 w trunc : Nat) (xs : List Int) :
    ifft_mfa_trunc_sqrt2 (e1 + e2 + 1) w (2 ^ (e1 + 1)) trunc xs =
      (List.range (2 ^ (e1 + 1))).foldl
        (colStep (2 ^ (e1 + 1)) (2 ^ (e2 + 1)) (2 ^ (e1 + 1) * 2 ^ (e2 + 1)) (imfaG2u e1 e2 w trunc))
        (onRows
          ((List.range (2 ^ (e1 + 1))).foldl
            (fun xs i => setCol xs i (2 ^ (e1 + 1)) (imfaH1 e1 e2 w i (getCol xs i (2 ^ (e1 + 1)) (2 ^ (e2 + 1)))))
            (onRows xs 0 (2 ^ (e1 + 1)) (List.range (2 ^ (e2 + 1))) (imfaRowF e1 e2 w)))
          (2 ^ (e1 + 1) * 2 ^ (e2 + 1)) (2 ^ (e1 + 1))
          ((List.range ((trunc - 2 * 2 ^ (e1 + e2 + 1)) / 2 ^ (e1 + 1))).map fun s => revbin s (e2 + 1))
          (imfaRowF e1 e2 w)) := by
  obtain ⟨hN, hn2⟩ := mfa_dims e1 e2
  unfold ifft_mfa_trunc_sqrt2
  simp only [hn2, clog2_pow, Nat.add_sub_cancel]
  rw [hN]
  rfl

/-! ### the column loops of the inverse transforms, the outer inverse pass, and the chain outer → inner → inverse outer -/


section ring
variable {S : Type} [CommRing S] (f : ℤ →+* S)

theorem imfaG2u_val (e1 e2 w trunc : Nat) (hd : 64 ∣ 2 ^ (e1 + e2 + 1) * w) (hw : 1 ≤ w)
    (hz : f 2 ^ (2 ^ (e1 + e2 + 1) * w) = -1) (ht : TruncSOk (e1 + e2 + 1) trunc) (hdiv : 2 * 2 ^ (e1 + 1) ∣ trunc)
    (x : List Int) (h0 : ∀ j, trunc ≤ j → j < 4 * 2 ^ (e1 + e2 + 1) → f (el x j) = 0) (k : S)
    (i : Nat) (hi : i < 2 ^ (e1 + 1)) (ca cb0 : List Int) (hcbl : cb0.length = 2 ^ (e2 + 1))
    (hca : ∀ m < 2 ^ (e2 + 1), f (el ca m) = k * 2 ^ (e2 + 1) *
      (f (el x (i + m * 2 ^ (e1 + 1))) + f (el x (2 * 2 ^ (e1 + e2 + 1) + (i + m * 2 ^ (e1 + 1))))))
    (hcb : ∀ s < (trunc - 2 * 2 ^ (e1 + e2 + 1)) / 2 ^ (e1 + 1), f (el cb0 (rev (e2 + 1) s)) =
      k * f (el (mfaCol e2 w (2 ^ (e1 + 1)) (layerDiffs (2 ^ (e1 + e2 + 1)) w x) i) (rev (e2 + 1) s))) :
    (∀ m < 2 ^ (e2 + 1), f (el (imfaG2u e1 e2 w trunc i ca cb0).1 m) =
      2 * (k * 2 ^ (e2 + 1)) * f (el x (i + m * 2 ^ (e1 + 1)))) ∧
    (∀ m < (trunc - 2 * 2 ^ (e1 + e2 + 1)) / 2 ^ (e1 + 1), f (el (imfaG2u e1 e2 w trunc i ca cb0).2 m) =
      2 * (k * 2 ^ (e2 + 1)) * f (el x (2 * 2 ^ (e1 + e2 + 1) + (i + m * 2 ^ (e1 + 1))))) := by
  obtain ⟨hN, _⟩ := mfa_dims e1 e2
  have ht2' := truncOk_of_dvd e1 e2 trunc ht hdiv
  obtain ⟨ht1, ht2, ht3⟩ := ht
  have hn1 := Nat.two_pow_pos (e1 + 1)
  -- trunc − 2n = trunc2·n1
  have htr := (trunc2_mul e1 e2 trunc hdiv).symm
  generalize htr2 : (trunc - 2 * 2 ^ (e1 + e2 + 1)) / 2 ^ (e1 + 1) = trunc2 at *
  have hu : f 2 ^ (2 * (2 ^ (e1 + e2 + 1) * w)) = 1 := by rw [pow_mul' (f 2) 2 _, hz]; norm_num
  have hnw : 2 ^ e2 * (w * 2 ^ (e1 + 1)) = 2 ^ (e1 + e2 + 1) * w := by
    rw [show e1 + e2 + 1 = e2 + (e1 + 1) by ring, pow_add]; ring
  have hb' : (0 + 1 * (2 ^ (e2 + 1) - 1)) * i * w ≤ 2 * (2 ^ e2 * (w * 2 ^ (e1 + 1))) := by
    rw [show 2 * (2 ^ e2 * (w * 2 ^ (e1 + 1))) = 2 ^ (e2 + 1) * 2 ^ (e1 + 1) * w by rw [pow_succ]; ring,
      Nat.zero_add, Nat.one_mul]
    exact Nat.mul_le_mul_right w (Nat.mul_le_mul (Nat.sub_le _ _) (le_of_lt hi))
  have hidx : ∀ m < 2 ^ (e2 + 1), i + m * 2 ^ (e1 + 1) < 2 * 2 ^ (e1 + e2 + 1) := fun m hm => by
    rw [← hN]; exact idx_lt _ _ i m hi hm
  have hlow : ∀ m, i + m * 2 ^ (e1 + 1) < trunc - 2 * 2 ^ (e1 + e2 + 1) ↔ m < trunc2 := fun m => by
    rw [htr]
    constructor
    · intro h
      by_contra hm
      have := Nat.mul_le_mul_right (2 ^ (e1 + 1)) (not_lt.mp hm); omega
    · intro hm
      have := Nat.mul_le_mul_right (2 ^ (e1 + 1)) (Nat.succ_le_of_lt hm); rw [Nat.succ_mul] at this; omega
  have hpar : ∀ m, (i + m * 2 ^ (e1 + 1)) % 2 = i % 2 := fun m => by
    rw [pow_succ, ← Nat.mul_assoc, Nat.add_mul_mod_self_right]
  have hzero : ∀ m, trunc2 ≤ m → m < 2 ^ (e2 + 1) → f (el x (2 * 2 ^ (e1 + e2 + 1) + (i + m * 2 ^ (e1 + 1)))) = 0 :=
    fun m hm2 hm => by
      have := (hlow m).not.mpr (not_lt.mpr hm2); have := hidx m hm
      exact h0 _ (by omega) (by omega)
  have hDiff : ∀ m < 2 ^ (e2 + 1),
      f (el (getCol (layerDiffs (2 ^ (e1 + e2 + 1)) w x) i (2 ^ (e1 + 1)) (2 ^ (e2 + 1))) m) =
        (f (el x (i + m * 2 ^ (e1 + 1))) - f (el x (2 * 2 ^ (e1 + e2 + 1) + (i + m * 2 ^ (e1 + 1))))) *
          f (twN (2 ^ (e1 + e2 + 1) * w) w (i + m * 2 ^ (e1 + 1))) := fun m hm => by
    rw [el_getCol _ _ _ _ _ hm, f_layerDiffs f _ _ hd _ _ (hidx m hm)]
  unfold imfaG2u
  simp only [htr2, wnOf_eq _ _ hd, hlow]
  refine zeroHigh_layer _ _ ht2'.2.2 k _ (fun m => f (el x (i + m * 2 ^ (e1 + 1))))
    (fun m => f (el x (2 * 2 ^ (e1 + e2 + 1) + (i + m * 2 ^ (e1 + 1)))))
    (fun m => f (twN (2 ^ (e1 + e2 + 1) * w) w (i + m * 2 ^ (e1 + 1))))
    (getCol (layerDiffs (2 ^ (e1 + e2 + 1)) w x) i (2 ^ (e1 + 1)) (2 ^ (e2 + 1))) ca
    (fun j => el (revSwaps (e2 + 1) trunc2 cb0) j)
    (fun j a => if w % 2 = 1 then
        if i % 2 = 1 then adjSqrt2 (2 ^ (e1 + e2 + 1) * w) a (i + j * 2 ^ (e1 + 1)) w
        else adj a ((i + j * 2 ^ (e1 + 1)) / 2) w
      else adj a (i + j * 2 ^ (e1 + 1)) (w / 2))
    (fun m a b => if w % 2 = 1 then
        (if (i + m * 2 ^ (e1 + 1)) % 2 = 1 then ibflySqrt2 (2 ^ (e1 + e2 + 1) * w) a b (i + m * 2 ^ (e1 + 1)) w
         else ibfly (2 ^ (e1 + e2 + 1) * w) a b ((i + m * 2 ^ (e1 + 1)) / 2) w)
      else ibfly (2 ^ (e1 + e2 + 1) * w) a b (i + m * 2 ^ (e1 + 1)) (w / 2))
    (recovers_ifft_trunc1_twiddle e2 (w * 2 ^ (e1 + 1)) w 0 i 1 trunc2 ht2' (hnw ▸ hd) (Nat.mul_pos hw hn1) (hnw ▸ hu) hb' k)
    hDiff hzero (fun j _ _ a => ?_) (fun m hm a b X Y ha hb => ?_) hca (fun m hm => ?_)
  · rw [twN, hpar j]
    split_ifs <;> first | omega | simp only [adj, adjSqrt2, map_mul, map_pow]
  · obtain ⟨c0, c1, c2⟩ := isqrt2_cases f (e1 + e2 + 1) w _ hd hz (hidx m (lt_of_lt_of_le hm ht2'.2.2)) a b _ X Y ha hb
    split_ifs with h1 h2
    · exact c2 h1 h2
    · exact c1 h1 (by omega)
    · exact c0 (by omega)
  · have hm2 : m < 2 ^ (e2 + 1) := lt_of_lt_of_le hm ht2'.2.2
    rw [(revSwaps_spec (e2 + 1) cb0 hcbl trunc2 ht2'.2.2).2 m hm2, if_pos (Or.inl hm), hcb m hm, mfaCol,
      el_revPerm _ _ (length_fft_radix2_twiddle _ _ _ _ _ _ _) _ (rev_lt _ _), rev_rev _ _ hm2]

theorem imfaG2_val (e1 e2 w trunc : Nat) (hd : 64 ∣ 2 ^ (e1 + e2 + 1) * w) (hw : 1 ≤ w)
    (hz : f 2 ^ (2 ^ (e1 + e2 + 1) * w) = -1) (ht : TruncSOk (e1 + e2 + 1) trunc) (hdiv : 2 * 2 ^ (e1 + 1) ∣ trunc)
    (x : List Int) (h0 : ∀ j, trunc ≤ j → j < 4 * 2 ^ (e1 + e2 + 1) → f (el x j) = 0) (k : S)
    (i : Nat) (hi : i < 2 ^ (e1 + 1)) (ca cb0 : List Int) (hcbl : cb0.length = 2 ^ (e2 + 1))
    (hca : ∀ m < 2 ^ (e2 + 1), f (el ca m) = k * 2 ^ (e2 + 1) *
      (f (el x (i + m * 2 ^ (e1 + 1))) + f (el x (2 * 2 ^ (e1 + e2 + 1) + (i + m * 2 ^ (e1 + 1))))))
    (hcb : ∀ s < (trunc - 2 * 2 ^ (e1 + e2 + 1)) / 2 ^ (e1 + 1), f (el cb0 (rev (e2 + 1) s)) =
      k * f (el (mfaCol e2 w (2 ^ (e1 + 1)) (layerDiffs (2 ^ (e1 + e2 + 1)) w x) i) (rev (e2 + 1) s))) :
    (∀ m < 2 ^ (e2 + 1), f (el (imfaG2 e1 e2 w trunc i ca cb0).1 m) =
      2 * (k * 2 ^ (e2 + 1)) * f (el x (i + m * 2 ^ (e1 + 1))) *
        f 2 ^ (2 * (2 ^ (e1 + e2 + 1) * w) - (e2 + 1 + (e1 + 1) + 1))) ∧
    (∀ m < (trunc - 2 * 2 ^ (e1 + e2 + 1)) / 2 ^ (e1 + 1), f (el (imfaG2 e1 e2 w trunc i ca cb0).2 m) =
      2 * (k * 2 ^ (e2 + 1)) * f (el x (2 * 2 ^ (e1 + e2 + 1) + (i + m * 2 ^ (e1 + 1)))) *
        f 2 ^ (2 * (2 ^ (e1 + e2 + 1) * w) - (e2 + 1 + (e1 + 1) + 1))) := by
  obtain ⟨U1, U2⟩ := imfaG2u_val f e1 e2 w trunc hd hw hz ht hdiv x h0 k i hi ca cb0 hcbl hca hcb
  have ht2' := truncOk_of_dvd e1 e2 trunc ht hdiv
  have ewn : wnOf (2 ^ (e1 + e2 + 1)) w = 2 ^ (e1 + e2 + 1) * w := wnOf_eq _ _ hd
  have hl1 : (imfaG2u e1 e2 w trunc i ca cb0).1.length = 2 ^ (e2 + 1) := by simp [imfaG2u, length_fsts]
  unfold imfaG2
  simp only [ewn]
  constructor
  · intro m hm
    rw [el_map_lt _ _ _ (by rw [hl1]; exact hm), map_mul, map_pow, U1 m hm]
  · intro m hm
    have hm2 : m < 2 ^ (e2 + 1) := lt_of_lt_of_le hm ht2'.2.2
    rw [el_range_map _ _ _ hm2, if_pos hm, map_mul, map_pow, U2 m hm]

/-- ifft_mfa_trunc_sqrt2.c:175-188, :280-293 -/
theorem imfaCols1_spec (e1 e2 w : Nat) (hd : 64 ∣ 2 ^ (e1 + e2 + 1) * w) (hz : f 2 ^ (2 ^ (e1 + e2 + 1) * w) = -1)
    (x : List Int) (k : S) (R : List Int) (hlen : R.length = 4 * 2 ^ (e1 + e2 + 1))
    (hR1 : ∀ i < 2 ^ (e1 + 1), ∀ j < 2 ^ (e2 + 1), f (el R (i + j * 2 ^ (e1 + 1))) =
      k * f (el (mfaCol e2 w (2 ^ (e1 + 1)) (layerSums (2 ^ (e1 + e2 + 1)) x) i) j)) :
    ((List.range (2 ^ (e1 + 1))).foldl (fun xs i => setCol xs i (2 ^ (e1 + 1))
      (imfaH1 e1 e2 w i (getCol xs i (2 ^ (e1 + 1)) (2 ^ (e2 + 1))))) R).length = R.length ∧
    ∀ i < 2 ^ (e1 + 1), ∀ j < 2 ^ (e2 + 1),
      f (el ((List.range (2 ^ (e1 + 1))).foldl (fun xs i => setCol xs i (2 ^ (e1 + 1))
          (imfaH1 e1 e2 w i (getCol xs i (2 ^ (e1 + 1)) (2 ^ (e2 + 1))))) R) (i + j * 2 ^ (e1 + 1))) =
        k * 2 ^ (e2 + 1) *
          (f (el x (i + j * 2 ^ (e1 + 1))) + f (el x (2 * 2 ^ (e1 + e2 + 1) + (i + j * 2 ^ (e1 + 1))))) ∧
      el ((List.range (2 ^ (e1 + 1))).foldl (fun xs i => setCol xs i (2 ^ (e1 + 1))
          (imfaH1 e1 e2 w i (getCol xs i (2 ^ (e1 + 1)) (2 ^ (e2 + 1))))) R)
          (2 ^ (e1 + 1) * 2 ^ (e2 + 1) + i + j * 2 ^ (e1 + 1)) =
        el R (2 ^ (e1 + 1) * 2 ^ (e2 + 1) + i + j * 2 ^ (e1 + 1)) := by
  obtain ⟨hN, _⟩ := mfa_dims e1 e2
  have hu : f 2 ^ (2 * (2 ^ (e1 + e2 + 1) * w)) = 1 := by rw [pow_mul' (f 2) 2 _, hz]; norm_num
  have hnw : 2 ^ e2 * (w * 2 ^ (e1 + 1)) = 2 ^ (e1 + e2 + 1) * w := by
    rw [show e1 + e2 + 1 = e2 + (e1 + 1) by ring, pow_add]; ring
  obtain ⟨l1, v1⟩ := fold_colStep _ _ _ _ _ (setLo_spec (2 ^ (e1 + 1)) (2 ^ (e2 + 1)) (imfaH1 e1 e2 w)
    fun i c _ => length_ifft_radix2_twiddle _ _ _ _ _ _ _) R (by rw [hlen, hN]; ring)
  refine ⟨l1, fun i hi j hj => ⟨?_, by rw [(v1 i hi j hj).2, el_getCol _ _ _ _ _ hj]⟩⟩
  have hidx : i + j * 2 ^ (e1 + 1) < 2 * 2 ^ (e1 + e2 + 1) := by rw [← hN]; exact idx_lt _ _ i j hi hj
  rw [(v1 i hi j hj).1, imfaH1,
    (recovers_ifft_radix2_twiddle e2 (w * 2 ^ (e1 + 1)) w 0 i 1 (hnw ▸ hd) (hnw ▸ hu) ?_ k).full
      (getCol (layerSums (2 ^ (e1 + e2 + 1)) x) i (2 ^ (e1 + 1)) (2 ^ (e2 + 1))) _ (fun m hm => ?_) j hj,
    el_getCol _ _ _ _ _ hj, el_layerSums _ _ _ hidx, map_add]
  · rw [show 2 * (2 ^ e2 * (w * 2 ^ (e1 + 1))) = 2 ^ (e2 + 1) * 2 ^ (e1 + 1) * w by rw [pow_succ]; ring,
      Nat.zero_add, Nat.one_mul]
    exact Nat.mul_le_mul_right w (Nat.mul_le_mul (Nat.sub_le _ _) (le_of_lt hi))
  · rw [el_revPerm _ _ (length_getCol _ _ _ _) m hm, el_getCol _ _ _ _ _ (rev_lt _ _), hR1 i hi _ (rev_lt _ _), mfaCol,
      el_revPerm _ _ (length_fft_radix2_twiddle _ _ _ _ _ _ _) _ (rev_lt _ _), rev_rev _ _ hm]

/-- the last column loop over the column update `G` of either variant (`imfaG2u`, or `imfaG2` which also divides: σ) -/
theorem imfaCols2_spec (e1 e2 w trunc : Nat) (ht2' : TruncOk e2 ((trunc - 2 * 2 ^ (e1 + e2 + 1)) / 2 ^ (e1 + 1)))
    (x : List Int) (k σ : S) (G : Nat → List Int → List Int → List Int × List Int)
    (hGl : ∀ i ca cb, (G i ca cb).1.length = 2 ^ (e2 + 1) ∧ (G i ca cb).2.length = 2 ^ (e2 + 1))
    (hG : ∀ i < 2 ^ (e1 + 1), ∀ ca cb0 : List Int, cb0.length = 2 ^ (e2 + 1) →
      (∀ m < 2 ^ (e2 + 1), f (el ca m) = k * 2 ^ (e2 + 1) *
        (f (el x (i + m * 2 ^ (e1 + 1))) + f (el x (2 * 2 ^ (e1 + e2 + 1) + (i + m * 2 ^ (e1 + 1)))))) →
      (∀ s < (trunc - 2 * 2 ^ (e1 + e2 + 1)) / 2 ^ (e1 + 1), f (el cb0 (rev (e2 + 1) s)) =
        k * f (el (mfaCol e2 w (2 ^ (e1 + 1)) (layerDiffs (2 ^ (e1 + e2 + 1)) w x) i) (rev (e2 + 1) s))) →
      (∀ m < 2 ^ (e2 + 1), f (el (G i ca cb0).1 m) = 2 * (k * 2 ^ (e2 + 1)) * f (el x (i + m * 2 ^ (e1 + 1))) * σ) ∧
      (∀ m < (trunc - 2 * 2 ^ (e1 + e2 + 1)) / 2 ^ (e1 + 1), f (el (G i ca cb0).2 m) =
        2 * (k * 2 ^ (e2 + 1)) * f (el x (2 * 2 ^ (e1 + e2 + 1) + (i + m * 2 ^ (e1 + 1)))) * σ))
    (Y : List Int) (hlen : Y.length = 4 * 2 ^ (e1 + e2 + 1))
    (hY1 : ∀ i < 2 ^ (e1 + 1), ∀ j < 2 ^ (e2 + 1), f (el Y (i + j * 2 ^ (e1 + 1))) = k * 2 ^ (e2 + 1) *
      (f (el x (i + j * 2 ^ (e1 + 1))) + f (el x (2 * 2 ^ (e1 + e2 + 1) + (i + j * 2 ^ (e1 + 1))))))
    (hY2 : ∀ i < 2 ^ (e1 + 1), ∀ s < (trunc - 2 * 2 ^ (e1 + e2 + 1)) / 2 ^ (e1 + 1),
      f (el Y (2 ^ (e1 + 1) * 2 ^ (e2 + 1) + i + rev (e2 + 1) s * 2 ^ (e1 + 1))) =
        k * f (el (mfaCol e2 w (2 ^ (e1 + 1)) (layerDiffs (2 ^ (e1 + e2 + 1)) w x) i) (rev (e2 + 1) s))) :
    (∀ i < 2 ^ (e1 + 1), ∀ j < 2 ^ (e2 + 1),
      f (el ((List.range (2 ^ (e1 + 1))).foldl (colStep (2 ^ (e1 + 1)) (2 ^ (e2 + 1)) (2 ^ (e1 + 1) * 2 ^ (e2 + 1)) G) Y)
          (i + j * 2 ^ (e1 + 1))) = 2 * (k * 2 ^ (e2 + 1)) * f (el x (i + j * 2 ^ (e1 + 1))) * σ) ∧
    ∀ i < 2 ^ (e1 + 1), ∀ m < (trunc - 2 * 2 ^ (e1 + e2 + 1)) / 2 ^ (e1 + 1),
      f (el ((List.range (2 ^ (e1 + 1))).foldl (colStep (2 ^ (e1 + 1)) (2 ^ (e2 + 1)) (2 ^ (e1 + 1) * 2 ^ (e2 + 1)) G) Y)
          (2 ^ (e1 + 1) * 2 ^ (e2 + 1) + i + m * 2 ^ (e1 + 1))) =
        2 * (k * 2 ^ (e2 + 1)) * f (el x (2 * 2 ^ (e1 + e2 + 1) + (i + m * 2 ^ (e1 + 1)))) * σ := by
  obtain ⟨hN, _⟩ := mfa_dims e1 e2
  obtain ⟨_, v2⟩ := fold_colStep _ _ _ _ _ (colStep_spec _ _ G fun i ca cb _ _ => hGl i ca cb) Y (by rw [hlen, hN]; ring)
  have col := fun i (hi : i < 2 ^ (e1 + 1)) => hG i hi (getCol Y i (2 ^ (e1 + 1)) (2 ^ (e2 + 1)))
    (getCol Y (2 ^ (e1 + 1) * 2 ^ (e2 + 1) + i) (2 ^ (e1 + 1)) (2 ^ (e2 + 1))) (length_getCol _ _ _ _)
    (fun m hm => by rw [el_getCol _ _ _ _ _ hm]; exact hY1 i hi m hm)
    (fun s hs => by rw [el_getCol _ _ _ _ _ (rev_lt _ _)]; exact hY2 i hi s hs)
  exact ⟨fun i hi j hj => by rw [(v2 i hi j hj).1]; exact (col i hi).1 j hj,
    fun i hi m hm => by rw [(v2 i hi m (lt_of_lt_of_le hm ht2'.2.2)).2]; exact (col i hi).2 m hm⟩

theorem ifft_mfa_outer_spec (e1 e2 w trunc : Nat) (hd : 64 ∣ 2 ^ (e1 + e2 + 1) * w) (hw : 1 ≤ w)
    (hz : f 2 ^ (2 ^ (e1 + e2 + 1) * w) = -1) (ht : TruncSOk (e1 + e2 + 1) trunc) (hdiv : 2 * 2 ^ (e1 + 1) ∣ trunc)
    (x : List Int) (h0 : ∀ j, trunc ≤ j → j < 4 * 2 ^ (e1 + e2 + 1) → f (el x j) = 0) (k : S)
    (R : List Int) (hlen : R.length = 4 * 2 ^ (e1 + e2 + 1))
    (hR1 : ∀ i < 2 ^ (e1 + 1), ∀ j < 2 ^ (e2 + 1), f (el R (i + j * 2 ^ (e1 + 1))) =
      k * f (el (mfaCol e2 w (2 ^ (e1 + 1)) (layerSums (2 ^ (e1 + e2 + 1)) x) i) j))
    (hR2 : ∀ i < 2 ^ (e1 + 1), ∀ s < (trunc - 2 * 2 ^ (e1 + e2 + 1)) / 2 ^ (e1 + 1),
      f (el R (2 ^ (e1 + 1) * 2 ^ (e2 + 1) + i + rev (e2 + 1) s * 2 ^ (e1 + 1))) =
        k * f (el (mfaCol e2 w (2 ^ (e1 + 1)) (layerDiffs (2 ^ (e1 + e2 + 1)) w x) i) (rev (e2 + 1) s))) :
    (∀ i < 2 ^ (e1 + 1), ∀ j < 2 ^ (e2 + 1),
      f (el (ifft_mfa_trunc_sqrt2_outer (e1 + e2 + 1) w (2 ^ (e1 + 1)) trunc R) (i + j * 2 ^ (e1 + 1))) =
        2 * (k * 2 ^ (e2 + 1)) * f (el x (i + j * 2 ^ (e1 + 1))) *
          f 2 ^ (2 * (2 ^ (e1 + e2 + 1) * w) - (e2 + 1 + (e1 + 1) + 1))) ∧
    (∀ i < 2 ^ (e1 + 1), ∀ m < (trunc - 2 * 2 ^ (e1 + e2 + 1)) / 2 ^ (e1 + 1),
      f (el (ifft_mfa_trunc_sqrt2_outer (e1 + e2 + 1) w (2 ^ (e1 + 1)) trunc R)
          (2 ^ (e1 + 1) * 2 ^ (e2 + 1) + i + m * 2 ^ (e1 + 1))) =
        2 * (k * 2 ^ (e2 + 1)) * f (el x (2 * 2 ^ (e1 + e2 + 1) + (i + m * 2 ^ (e1 + 1)))) *
          f 2 ^ (2 * (2 ^ (e1 + e2 + 1) * w) - (e2 + 1 + (e1 + 1) + 1))) := by
  have ht2' := truncOk_of_dvd e1 e2 trunc ht hdiv
  obtain ⟨l1, v1⟩ := imfaCols1_spec f e1 e2 w hd hz x k R hlen hR1
  rw [ifft_mfa_outer_unfold]
  exact imfaCols2_spec f e1 e2 w trunc ht2' x k _ (imfaG2 e1 e2 w trunc)
    (fun i ca cb => by simp [imfaG2, imfaG2u, length_fsts])
    (fun i hi ca cb0 hcbl hca hcb => imfaG2_val f e1 e2 w trunc hd hw hz ht hdiv x h0 k i hi ca cb0 hcbl hca hcb)
    _ (l1 ▸ hlen) (fun i hi j hj => (v1 i hi j hj).1)
    (fun i hi s hs => by rw [(v1 i hi _ (rev_lt _ _)).2]; exact hR2 i hi s hs)

end ring

/-- outer forward pass, inner pass (row transforms, pointwise mpn_mulmod_Bexpp1, inverse row transforms), outer inverse pass
    (division by 4n included): the acyclic convolution below `trunc` -/
theorem mfa_conv_chain (e1 e2 w L trunc j1 j2 : Nat) (a b : List Int) (hL : 2 ^ (e1 + e2 + 1) * w = 64 * L) (hw : 1 ≤ w)
    (hla : a.length = 4 * 2 ^ (e1 + e2 + 1)) (hlb : b.length = 4 * 2 ^ (e1 + e2 + 1))
    (ht : TruncSOk (e1 + e2 + 1) trunc) (hdiv : 2 * 2 ^ (e1 + 1) ∣ trunc)
    (ha : ∀ i, j1 ≤ i → el a i = 0) (hb : ∀ k, j2 ≤ k → el b k = 0)
    (hj1 : 1 ≤ j1) (hj2 : 1 ≤ j2) (hJ : j1 + j2 ≤ trunc + 1) (p : Nat) (hp : p < trunc) :
    el (ifft_mfa_trunc_sqrt2_outer (e1 + e2 + 1) w (2 ^ (e1 + 1)) trunc
        (fft_mfa_trunc_sqrt2_inner (e1 + e2 + 1) w (2 ^ (e1 + 1)) trunc
          (fft_mfa_trunc_sqrt2_outer (e1 + e2 + 1) w (2 ^ (e1 + 1)) trunc a)
          (fft_mfa_trunc_sqrt2_outer (e1 + e2 + 1) w (2 ^ (e1 + 1)) trunc b))) p
      ≡ el (conv a b (4 * 2 ^ (e1 + e2 + 1))) p [ZMOD pOf (64 * L)] := by
  have hd : 64 ∣ 2 ^ (e1 + e2 + 1) * w := ⟨L, hL⟩
  obtain ⟨hL1, hle⟩ := depth_le (e1 + e2 + 1) w L hL hw
  obtain ⟨hN, _⟩ := mfa_dims e1 e2
  have hP := pow_succ' 2 (e1 + e2 + 1)
  have hPP := pow_succ' 2 (e1 + e2 + 1 + 1)
  have ht2' := truncOk_of_dvd e1 e2 trunc ht hdiv
  have ht3 := ht.2.2
  have hz : (Int.castRingHom (ZMod (2 ^ (64 * L) + 1))) 2 ^ (2 ^ (e1 + e2 + 1) * w) = -1 := zmod_two_pow_of hL
  obtain ⟨lA, A1, A2⟩ := fft_mfa_outer_spec e1 e2 w trunc a hla ht ht2' fun i hi => ha i (by omega)
  obtain ⟨lB, B1, B2⟩ := fft_mfa_outer_spec e1 e2 w trunc b hlb ht ht2' fun i hi => hb i (by omega)
  -- the transform of the convolution is the pointwise product, in both halves of the full √2 transform
  have hconv := fun K hK => fft_full_sqrt2_conv _ (e1 + e2 + 1) w hd hz a b j1 j2 ha hb (by omega) K hK
  obtain ⟨lR, R1, R2⟩ := fft_mfa_inner_spec _ e1 e2 w L trunc hL hz
    (fun a b => by rw [(zmod_eq_iff (64 * L) _ _).mpr (pointwiseB_spec L hL1 _ _), map_mul]) ht2' _ _ _ _
    (layerSums (2 ^ (e1 + e2 + 1)) (conv a b (4 * 2 ^ (e1 + e2 + 1))))
    (layerDiffs (2 ^ (e1 + e2 + 1)) w (conv a b (4 * 2 ^ (e1 + e2 + 1)))) _ _ (by rw [lA, hla]) A1 A2 B1 B2
    (fun K hK => by
      rw [← fft_full_sqrt2_low _ _ _ _ hK, ← fft_full_sqrt2_low _ _ _ _ hK, ← fft_full_sqrt2_low _ _ _ _ hK]
      exact hconv K (by omega))
    (fun K hK => by
      rw [← fft_full_sqrt2_high, ← fft_full_sqrt2_high, ← fft_full_sqrt2_high]
      exact hconv _ (by omega))
  obtain ⟨O1, O2⟩ := ifft_mfa_outer_spec _ e1 e2 w trunc hd hw hz ht hdiv (conv a b (4 * 2 ^ (e1 + e2 + 1)))
    (fun j hj _ => by rw [conv_zero a b _ j1 j2 j ha hb (by omega)]; simp) (2 ^ (e1 + 1)) _ (by rw [lR, lA, hla]) R1 R2
  -- the scaling: 2·n1·n2·2^(−(depth+depth2+1)) = 1
  have hsc : ∀ X : ZMod (2 ^ (64 * L) + 1), 2 * (2 ^ (e1 + 1) * 2 ^ (e2 + 1)) * X *
      (Int.castRingHom (ZMod (2 ^ (64 * L) + 1))) 2 ^ (2 * (2 ^ (e1 + e2 + 1) * w) - (e2 + 1 + (e1 + 1) + 1)) = X := fun X => by
    have := zmod_unscale (64 * L) (e2 + 1 + (e1 + 1) + 1) (by omega) X
    rw [hL]; rw [pow_succ _ (e2 + 1 + (e1 + 1)), pow_add] at this
    simpa [mul_comm, mul_assoc, mul_left_comm] using this
  rw [← zmod_eq_iff]
  apply mfa_pos_cases e1 e2 trunc hdiv ?_ ?_ p hp
  · intro i hi j hj; rw [O1 i hi j hj, hsc]
  · intro i hi m hm
    have := O2 i hi m hm
    rw [hN, Nat.add_assoc (2 * 2 ^ (e1 + e2 + 1))] at this
    rw [this, hsc]

/-! ### mpir_ifft_mfa_trunc_sqrt2 inverts mpir_fft_mfa_trunc_sqrt2; mpn_mul_mfa_trunc_sqrt2 computes the product -/


section ring
variable {S : Type} [CommRing S] (f : ℤ →+* S)

theorem ifft_mfa_spec (e1 e2 w trunc : Nat) (hd : 64 ∣ 2 ^ (e1 + e2 + 1) * w) (hw : 1 ≤ w)
    (hz : f 2 ^ (2 ^ (e1 + e2 + 1) * w) = -1) (ht : TruncSOk (e1 + e2 + 1) trunc) (hdiv : 2 * 2 ^ (e1 + 1) ∣ trunc)
    (x : List Int) (h0 : ∀ j, trunc ≤ j → j < 4 * 2 ^ (e1 + e2 + 1) → f (el x j) = 0)
    (Y : List Int) (hlen : Y.length = 4 * 2 ^ (e1 + e2 + 1))
    (hY1 : ∀ j < 2 ^ (e2 + 1), ∀ t < 2 ^ (e1 + 1), f (el Y (j * 2 ^ (e1 + 1) + t)) =
      f (el (mfaRow e1 e2 w (layerSums (2 ^ (e1 + e2 + 1)) x) j) t))
    (hY2 : ∀ s < (trunc - 2 * 2 ^ (e1 + e2 + 1)) / 2 ^ (e1 + 1), ∀ t < 2 ^ (e1 + 1),
      f (el Y (2 ^ (e1 + 1) * 2 ^ (e2 + 1) + rev (e2 + 1) s * 2 ^ (e1 + 1) + t)) =
        f (el (mfaRow e1 e2 w (layerDiffs (2 ^ (e1 + e2 + 1)) w x) (rev (e2 + 1) s)) t)) :
    (∀ i < 2 ^ (e1 + 1), ∀ j < 2 ^ (e2 + 1),
      f (el (ifft_mfa_trunc_sqrt2 (e1 + e2 + 1) w (2 ^ (e1 + 1)) trunc Y) (i + j * 2 ^ (e1 + 1))) =
        2 * (2 ^ (e1 + 1) * 2 ^ (e2 + 1)) * f (el x (i + j * 2 ^ (e1 + 1)))) ∧
    (∀ i < 2 ^ (e1 + 1), ∀ m < (trunc - 2 * 2 ^ (e1 + e2 + 1)) / 2 ^ (e1 + 1),
      f (el (ifft_mfa_trunc_sqrt2 (e1 + e2 + 1) w (2 ^ (e1 + 1)) trunc Y)
          (2 ^ (e1 + 1) * 2 ^ (e2 + 1) + i + m * 2 ^ (e1 + 1))) =
        2 * (2 ^ (e1 + 1) * 2 ^ (e2 + 1)) * f (el x (2 * 2 ^ (e1 + e2 + 1) + (i + m * 2 ^ (e1 + 1))))) := by
  obtain ⟨hN, _⟩ := mfa_dims e1 e2
  have ht2' := truncOk_of_dvd e1 e2 trunc ht hdiv
  have hu : f 2 ^ (2 * (2 ^ (e1 + e2 + 1) * w)) = 1 := by rw [pow_mul' (f 2) 2 _, hz]; norm_num
  have hnw1 : 2 ^ e1 * (w * 2 ^ (e2 + 1)) = 2 ^ (e1 + e2 + 1) * w := by
    rw [show e1 + e2 + 1 = e1 + (e2 + 1) by ring, pow_add]; ring
  obtain ⟨hnd, hrows, hmem⟩ := revbin_rows (e2 + 1) _ ht2'.2.2
  rw [ifft_mfa_unfold]
  -- one inverse row pass
  have rowinv : ∀ (X row : List Int) (j : Nat), j < 2 ^ (e2 + 1) → row.length = 2 ^ (e1 + 1) →
      (∀ t < 2 ^ (e1 + 1), f (el row t) = f (el (mfaRow e1 e2 w X j) t)) →
      ∀ t < 2 ^ (e1 + 1), f (el (imfaRowF e1 e2 w row) t) = 2 ^ (e1 + 1) * f (el (mfaCol e2 w (2 ^ (e1 + 1)) X t) j) :=
    fun X row j hj hrl h t ht => by
      rw [imfaRowF, (recovers_ifft_radix2 e1 (w * 2 ^ (e2 + 1)) (hnw1 ▸ hd) (hnw1 ▸ hu) 1).inverts
        ((List.range (2 ^ (e1 + 1))).map fun i => el (mfaCol e2 w (2 ^ (e1 + 1)) X i) j) _ (fun k hk => ?_) t ht,
        el_range_map _ _ _ ht]
      rw [el_revPerm _ _ hrl k hk, h _ (rev_lt _ _), mfaRow,
        el_revPerm _ _ (length_fft_radix2 _ _ _) _ (rev_lt _ _), rev_rev _ _ hk]
  have hrf : ∀ (_ : Nat) (r : List Int), r.length = 2 ^ (e1 + 1) → (imfaRowF e1 e2 w r).length = 2 ^ (e1 + 1) :=
    fun _ r _ => by simp [imfaRowF, length_ifft_radix2]
  have hrowlen : ∀ (Z : List Int) (a : Nat), a + 2 ^ (e1 + 1) ≤ Z.length → ((Z.drop a).take (2 ^ (e1 + 1))).length = 2 ^ (e1 + 1) :=
    fun Z a h => by simp; omega
  -- first-half rows, first-half columns
  obtain ⟨lA, oA, vA⟩ := onRowsI_spec 0 (2 ^ (e1 + 1)) (2 ^ (e2 + 1)) (fun _ => imfaRowF e1 e2 w) hrf (List.range (2 ^ (e2 + 1)))
    (fun i hi => List.mem_range.mp hi) Y (by omega)
  rw [← onRows_eq] at lA oA vA
  generalize onRows Y 0 (2 ^ (e1 + 1)) (List.range (2 ^ (e2 + 1))) (imfaRowF e1 e2 w) = Z1 at *
  obtain ⟨lB, vB⟩ := imfaCols1_spec f e1 e2 w hd hz x (2 ^ (e1 + 1)) Z1 (by omega) fun i hi j hj => by
    have hb := row_bound (n1 := 2 ^ (e1 + 1)) hj
    rw [show i + j * 2 ^ (e1 + 1) = 0 + j * 2 ^ (e1 + 1) + i by omega, vA List.nodup_range j hj i hi,
      if_pos (List.mem_range.mpr hj)]
    exact rowinv _ _ j hj (hrowlen _ _ (by omega)) (fun t ht => by
      rw [el_take_drop _ _ _ _ ht, Nat.zero_add]; exact hY1 j hj t ht) i hi
  generalize (List.range (2 ^ (e1 + 1))).foldl
    (fun xs i => setCol xs i (2 ^ (e1 + 1)) (imfaH1 e1 e2 w i (getCol xs i (2 ^ (e1 + 1)) (2 ^ (e2 + 1))))) Z1 = Z2 at *
  -- relevant rows of the second half, both columns
  obtain ⟨lC, oC, vC⟩ := onRowsI_spec (2 ^ (e1 + 1) * 2 ^ (e2 + 1)) (2 ^ (e1 + 1)) (2 ^ (e2 + 1)) (fun _ => imfaRowF e1 e2 w)
    hrf _ hrows Z2 (by omega)
  rw [← onRows_eq] at lC oC vC
  generalize onRows Z2 (2 ^ (e1 + 1) * 2 ^ (e2 + 1)) (2 ^ (e1 + 1))
    ((List.range ((trunc - 2 * 2 ^ (e1 + e2 + 1)) / 2 ^ (e1 + 1))).map fun s => revbin s (e2 + 1)) (imfaRowF e1 e2 w) = Z3 at *
  have := imfaCols2_spec f e1 e2 w trunc ht2' x (2 ^ (e1 + 1)) 1 (imfaG2u e1 e2 w trunc)
    (fun i ca cb => by simp [imfaG2u, length_fsts, length_snds])
    (fun i hi ca cb0 hcbl hca hcb => by
      simpa using imfaG2u_val f e1 e2 w trunc hd hw hz ht hdiv x h0 (2 ^ (e1 + 1)) i hi ca cb0 hcbl hca hcb)
    Z3 (by omega)
    (fun i hi j hj => by rw [oC _ (Or.inl (idx_lt _ _ i j hi hj))]; exact (vB i hi j hj).1)
    (fun i hi s hs => by
      have hjr := rev_lt (e2 + 1) s
      have hb := row_bound (n1 := 2 ^ (e1 + 1)) hjr
      rw [show 2 ^ (e1 + 1) * 2 ^ (e2 + 1) + i + rev (e2 + 1) s * 2 ^ (e1 + 1) =
        2 ^ (e1 + 1) * 2 ^ (e2 + 1) + rev (e2 + 1) s * 2 ^ (e1 + 1) + i by ring, vC hnd _ hjr i hi, if_pos (hmem s hs)]
      exact rowinv _ _ _ hjr (hrowlen _ _ (by omega)) (fun t ht => by
        rw [el_take_drop _ _ _ _ ht,
          show 2 ^ (e1 + 1) * 2 ^ (e2 + 1) + rev (e2 + 1) s * 2 ^ (e1 + 1) + t =
            2 ^ (e1 + 1) * 2 ^ (e2 + 1) + t + rev (e2 + 1) s * 2 ^ (e1 + 1) by ring,
          (vB t ht _ hjr).2, oA _ (Or.inr (by omega)),
          show 2 ^ (e1 + 1) * 2 ^ (e2 + 1) + t + rev (e2 + 1) s * 2 ^ (e1 + 1) =
            2 ^ (e1 + 1) * 2 ^ (e2 + 1) + rev (e2 + 1) s * 2 ^ (e1 + 1) + t by ring]
        exact hY2 s hs t ht) i hi)
  simpa [mul_assoc] using this

theorem ifft_mfa_inverts (e1 e2 w trunc : Nat) (hd : 64 ∣ 2 ^ (e1 + e2 + 1) * w) (hw : 1 ≤ w)
    (hz : f 2 ^ (2 ^ (e1 + e2 + 1) * w) = -1) (ht : TruncSOk (e1 + e2 + 1) trunc) (hdiv : 2 * 2 ^ (e1 + 1) ∣ trunc)
    (xs : List Int) (hxl : xs.length = 4 * 2 ^ (e1 + e2 + 1)) (hz0 : ∀ j, trunc ≤ j → el xs j = 0)
    (ys : List Int) (hyl : ys.length = 4 * 2 ^ (e1 + e2 + 1))
    (h1 : ∀ j < 2 ^ (e2 + 1), ∀ t < 2 ^ (e1 + 1), f (el ys (j * 2 ^ (e1 + 1) + t)) =
      f (el (fft_mfa_trunc_sqrt2 (e1 + e2 + 1) w (2 ^ (e1 + 1)) trunc xs) (j * 2 ^ (e1 + 1) + t)))
    (h2 : ∀ s < (trunc - 2 * 2 ^ (e1 + e2 + 1)) / 2 ^ (e1 + 1), ∀ t < 2 ^ (e1 + 1),
      f (el ys (2 ^ (e1 + 1) * 2 ^ (e2 + 1) + rev (e2 + 1) s * 2 ^ (e1 + 1) + t)) =
      f (el (fft_mfa_trunc_sqrt2 (e1 + e2 + 1) w (2 ^ (e1 + 1)) trunc xs)
        (2 ^ (e1 + 1) * 2 ^ (e2 + 1) + rev (e2 + 1) s * 2 ^ (e1 + 1) + t)))
    (p : Nat) (hp : p < trunc) :
    f (el (ifft_mfa_trunc_sqrt2 (e1 + e2 + 1) w (2 ^ (e1 + 1)) trunc ys) p) = 2 ^ (e1 + e2 + 1 + 2) * f (el xs p) := by
  obtain ⟨hN, _⟩ := mfa_dims e1 e2
  obtain ⟨F1, F2⟩ := fft_mfa_rows e1 e2 w trunc xs hxl ht (truncOk_of_dvd e1 e2 trunc ht hdiv) hz0
  obtain ⟨O1, O2⟩ := ifft_mfa_spec f e1 e2 w trunc hd hw hz ht hdiv xs (fun j hj _ => by rw [hz0 j hj]; simp) ys hyl
    (fun j hj t htt => by rw [h1 j hj t htt, F1 j hj t htt]) (fun s hs t htt => by rw [h2 s hs t htt, F2 s hs t htt])
  have hsc : (2 : S) * (2 ^ (e1 + 1) * 2 ^ (e2 + 1)) = 2 ^ (e1 + e2 + 1 + 2) := by
    rw [show e1 + e2 + 1 + 2 = (e1 + 1) + (e2 + 1) + 1 by ring, pow_succ, pow_add]; ring
  rw [hsc] at O1 O2
  apply mfa_pos_cases e1 e2 trunc hdiv ?_ ?_ p hp
  · exact O1
  · intro i hi m hm
    have := O2 i hi m hm
    rwa [hN, Nat.add_assoc (2 * 2 ^ (e1 + e2 + 1))] at this

end ring

/-- rounding up to a multiple of M (mul_mfa_trunc_sqrt2.c:82) -/
theorem roundup_spec (M t q : Nat) (hM : 0 < M) (ht : t ≤ M * q) :
    t ≤ M * ((t + M - 1) / M) ∧ M * ((t + M - 1) / M) ≤ M * q := by
  constructor
  · have h2 := Nat.lt_mul_div_succ (t + M - 1) hM
    rw [Nat.mul_succ] at h2
    omega
  · apply Nat.mul_le_mul_left
    apply Nat.lt_succ_iff.mp
    rw [Nat.div_lt_iff_lt_mul hM, Nat.succ_mul, Nat.mul_comm q M]
    omega

/-- mpn_mul_mfa_trunc_sqrt2 returns the product; depth ≥ 2 because sqrt = 2^(depth/2) ≥ 2 columns are needed -/
theorem mul_mfa_trunc_sqrt2_spec (i1 i2 : List Nat) (depth w : Nat) (hi1 : Limbs i1) (hi2 : Limbs i2)
    (hn1 : 1 ≤ i1.length) (hn2 : 1 ≤ i2.length) (hdep : 2 ≤ depth)
    (hs : FftParams.Sound i1.length i2.length ⟨true, depth, w⟩) :
    (mul_mfa_trunc_sqrt2 i1 i2 depth w).length = i1.length + i2.length ∧ Limbs (mul_mfa_trunc_sqrt2 i1 i2 depth w) ∧
    val (mul_mfa_trunc_sqrt2 i1 i2 depth w) = val i1 * val i2 := by
  simp only [FftParams.Sound, FftParams.limbBits, FftParams.bitsOf, FftParams.trunc, FftParams.coeffs] at hs
  obtain ⟨⟨L, hL⟩, s2, _, s4, s5, _⟩ := hs
  obtain ⟨e1, he1⟩ : ∃ e1, depth / 2 = e1 + 1 := ⟨depth / 2 - 1, by omega⟩
  obtain ⟨e2, rfl⟩ : ∃ e2, depth = e1 + e2 + 1 := ⟨depth - depth / 2, by omega⟩
  have hw : 1 ≤ w := Nat.pos_of_ne_zero (by rintro rfl; simp at s2)
  have eL : 2 ^ (e1 + e2 + 1) * w / 64 = L := by rw [hL]; omega
  have hN4 : 4 * 2 ^ (e1 + e2 + 1) = 2 * 2 ^ (e1 + 1) * 2 ^ (e2 + 1) := by
    rw [show e1 + e2 + 1 = (e1 + 1) + e2 by ring, pow_add, pow_succ 2 e2]; ring
  have hn := Nat.two_pow_pos (e1 + e2 + 1)
  have hn1' := Nat.two_pow_pos (e1 + 1)
  generalize hbits : (2 ^ (e1 + e2 + 1) * w - (e1 + e2 + 1 + 1)) / 2 = bits at s2 s4 s5
  generalize hq1 : (i1.length * 64 - 1) / bits = q1 at s4
  generalize hq2 : (i2.length * 64 - 1) / bits = q2 at s4
  have hN1 : q1 + 1 ≤ 4 * 2 ^ (e1 + e2 + 1) := by omega
  have hN2 : q2 + 1 ≤ 4 * 2 ^ (e1 + e2 + 1) := by omega
  have hbL : bits ≤ 64 * L := by omega
  have h5 : 2 * bits + (e1 + e2 + 1) + 1 ≤ 64 * L := by omega
  -- trunc (mul_mfa_trunc_sqrt2.c:80-82): at least 2n + 1, rounded up to a multiple of 2·n1
  have h0 : 2 * 2 ^ (e1 + e2 + 1) < (if q1 + 1 + (q2 + 1) - 1 ≤ 2 * 2 ^ (e1 + e2 + 1) then 2 * 2 ^ (e1 + e2 + 1) + 1
        else q1 + 1 + (q2 + 1) - 1) ∧
      (if q1 + 1 + (q2 + 1) - 1 ≤ 2 * 2 ^ (e1 + e2 + 1) then 2 * 2 ^ (e1 + e2 + 1) + 1 else q1 + 1 + (q2 + 1) - 1) ≤
        4 * 2 ^ (e1 + e2 + 1) ∧
      q1 + 1 + (q2 + 1) - 1 ≤
        (if q1 + 1 + (q2 + 1) - 1 ≤ 2 * 2 ^ (e1 + e2 + 1) then 2 * 2 ^ (e1 + e2 + 1) + 1 else q1 + 1 + (q2 + 1) - 1) := by
    split_ifs <;> omega
  generalize ht0 : (if q1 + 1 + (q2 + 1) - 1 ≤ 2 * 2 ^ (e1 + e2 + 1) then 2 * 2 ^ (e1 + e2 + 1) + 1
    else q1 + 1 + (q2 + 1) - 1) = t0 at h0
  obtain ⟨r1, r2⟩ := roundup_spec (2 * 2 ^ (e1 + 1)) t0 (2 ^ (e2 + 1)) (by omega) (by rw [← hN4]; exact h0.2.1)
  rw [← hN4] at r2
  have ht : TruncSOk (e1 + e2 + 1) (2 * 2 ^ (e1 + 1) * ((t0 + 2 * 2 ^ (e1 + 1) - 1) / (2 * 2 ^ (e1 + 1)))) :=
    ⟨by rw [Nat.mul_assoc]; exact Nat.mul_mod_right 2 _, by omega, r2⟩
  have hJ : q1 + 1 + (q2 + 1) ≤ 2 * 2 ^ (e1 + 1) * ((t0 + 2 * 2 ^ (e1 + 1) - 1) / (2 * 2 ^ (e1 + 1))) + 1 := by omega
  subst ht0
  subst hq1 hq2 hbits
  obtain ⟨la, a0, a1, ea⟩ := padC_split i1 _ L (4 * 2 ^ (e1 + e2 + 1)) hi1 hn1 s2 hbL hN1
  obtain ⟨lb, b0, b1, eb⟩ := padC_split i2 _ L (4 * 2 ^ (e1 + e2 + 1)) hi2 hn2 s2 hbL hN2
  unfold mul_mfa_trunc_sqrt2
  simp only [eL, he1]
  exact combine_conv _ _ (e1 + e2 + 1) L _ _ _ _ _ _ s2 a0 b0 a1 b1 ea eb (Nat.le_add_left 1 _) s4 h5
    (by rw [pow_add]; exact Nat.mul_lt_mul'' (val_lt i1 hi1) (val_lt i2 hi2)) _
    (fun j hj => mfa_conv_chain e1 e2 w L _ _ _ _ _ hL hw la lb ht (Dvd.intro _ rfl) a0 b0 (Nat.le_add_left 1 _)
      (Nat.le_add_left 1 _) hJ j (by omega))

end Mpir.FftX
