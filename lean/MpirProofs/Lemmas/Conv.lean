/- The C11 models of Mpir/Model/Conv.lean: comparisons as the sign of an exact difference (`sgn`, `sgn_lex`, `Z.by_size`),
   `mpn_get_d` as truncation to a double (`getd_m53`, `getd_finish`, `mpn_get_d_eq`), `__gmp_extract_double` with
   mpz_set_d and mpz_cmp_d, and the mpf comparisons and truncations on `F.mant · B^F.lowExp`. -/
import MpirProofs.Lemmas.Kernels
import MpirProofs.Lemmas.ExtractDbl
import Mpir.Model.Conv
import Mathlib.Tactic.NormNum
import Mathlib.Tactic.Positivity
namespace Mpir.Conv
open Mpir

/-! ### the sign function of the C comparisons -/

theorem sgn_eq_sign (x : Int) : sgn x = x.sign := by
  unfold sgn
  rcases lt_trichotomy x 0 with h | h | h
  · rw [if_pos h, Int.sign_eq_neg_one_of_neg h]
  · subst h; rfl
  · rw [if_neg (by omega), if_pos h, Int.sign_eq_one_of_pos h]

theorem sgn_pos {x : Int} (h : 0 < x) : sgn x = 1 := by rw [sgn_eq_sign, Int.sign_eq_one_of_pos h]
theorem sgn_neg {x : Int} (h : x < 0) : sgn x = -1 := by rw [sgn_eq_sign, Int.sign_eq_neg_one_of_neg h]
theorem sgn_zero : sgn 0 = 0 := rfl
theorem sgn_eq_pos {c x : Int} (hc : 0 < c) (hx : 0 < x) : sgn c = sgn x := by rw [sgn_pos hc, sgn_pos hx]
theorem sgn_eq_neg {c x : Int} (hc : c < 0) (hx : x < 0) : sgn c = sgn x := by rw [sgn_neg hc, sgn_neg hx]
theorem sgn_eq_zero {c x : Int} (hc : c = 0) (hx : x = 0) : sgn c = sgn x := by rw [hc, hx]
theorem sgn_neg_eq (x : Int) : sgn (-x) = -sgn x := by simp only [sgn_eq_sign, Int.sign_neg]
theorem sgn_sgn (x : Int) : sgn (sgn x) = sgn x := by simp only [sgn_eq_sign, Int.sign_sign]
theorem sgn_mul_pos {c : Int} (hc : 0 < c) (x : Int) : sgn (c * x) = sgn x := by
  simp only [sgn_eq_sign, Int.sign_mul, Int.sign_eq_one_of_pos hc, one_mul]
theorem sgn_eq_iff (x : Int) : (sgn x = 1 ↔ 0 < x) ∧ (sgn x = 0 ↔ x = 0) ∧ (sgn x = -1 ↔ x < 0) := by
  simp only [sgn_eq_sign, Int.sign_eq_one_iff_pos, Int.sign_eq_zero_iff_zero, Int.sign_eq_neg_one_iff_neg, and_self]

theorem sgn_nonpos_iff (x : Int) : sgn x ≤ 0 ↔ x ≤ 0 := by
  rcases lt_trichotomy x 0 with h | h | h
  · rw [sgn_neg h]; omega
  · rw [h]; decide
  · rw [sgn_pos h]; omega

theorem ite_cmp_eq_sgn (a b : Nat) : (if a > b then (1 : Int) else if a < b then -1 else 0) = sgn ((a : Int) - b) := by
  by_cases g : a > b
  · rw [if_pos g, sgn_pos (by omega)]
  · rw [if_neg g]
    by_cases l : a < b
    · rw [if_pos l, sgn_neg (by omega)]
    · rw [if_neg l, show (a : Int) - b = 0 by omega]; rfl

theorem sgn_lex {P d r : Int} (h1 : -P < r) (h2 : r < P) : sgn (P * d + r) = if d = 0 then sgn r else sgn d := by
  have hP : 0 < P := by omega
  rcases lt_trichotomy d 0 with h | h | h
  · have : P * d ≤ P * (-1) := mul_le_mul_of_nonneg_left (by omega) hP.le
    rw [if_neg (by omega), sgn_neg h, sgn_neg (by omega)]
  · rw [if_pos h, h, mul_zero, zero_add]
  · have : P * 1 ≤ P * d := mul_le_mul_of_nonneg_left (by omega) hP.le
    rw [if_neg (by omega), sgn_pos h, sgn_pos (by omega)]

theorem pow_le_pow_B {a b : Nat} (h : a ≤ b) : B ^ a ≤ B ^ b := Nat.pow_le_pow_right B_pos h

theorem mul_pow_lt_mul_pow {x y a b α β : Nat} (hx : x < B ^ a) (hy : B ^ b ≤ y) (h : a + α ≤ b + β) :
    x * B ^ α < y * B ^ β :=
  mul_lt_mul_of_pow_bounds B_pos hx le_rfl hy le_rfl h

theorem toS64_toU64 {v : Int} (h1 : LONG_MIN ≤ v) (h2 : v ≤ LONG_MAX) : toS64 (toU64 v) = v := by
  unfold toS64 toU64 LONG_MIN LONG_MAX at *; omega

theorem toS64_congr {a b : Nat} (h : a % 2 ^ 64 = b % 2 ^ 64) : toS64 a = toS64 b := by unfold toS64; rw [h]

theorem cmp_spec (u v : List Nat) (hu : Limbs u) (hv : Limbs v) (hl : u.length = v.length) :
    Mpir.cmp u v = sgn ((val u : Int) - val v) := by
  rcases cmp_cases u v hu hv hl with ⟨h, l⟩ | ⟨h, l⟩ | ⟨h, l⟩
  · rw [h, sgn_neg (by omega)]
  · rw [h, l, sub_self, sgn_zero]
  · rw [h, sgn_pos (by omega)]

/-! ### limb vectors: top limbs, bounds by size -/

theorem val_top_split (l : List Nat) (hne : l ≠ []) :
    val l = val (l.take (l.length - 1)) + B ^ (l.length - 1) * l.getD (l.length - 1) 0 := by
  have hn : 0 < l.length := List.length_pos_of_ne_nil hne
  rw [val_split_at l (l.length - 1) (by omega), List.drop_of_length_le (by omega)]; simp

theorem val_top2_split (l : List Nat) (h2 : 2 ≤ l.length) :
    val l = val (l.take (l.length - 2)) + B ^ (l.length - 2) * (l.getD (l.length - 2) 0 + B * l.getD (l.length - 1) 0) := by
  have e : l.length - 2 + 1 = l.length - 1 := by omega
  rw [val_split_at l (l.length - 2) (by omega), e, drop_eq_getD_cons _ _ (by omega), List.drop_of_length_le (by omega)]
  simp

theorem ne_nil_of_size {l : List Nat} {s : Int} (hl : l.length = s.natAbs) (hs : s ≠ 0) : l ≠ [] := by
  intro e; rw [e] at hl; simp at hl; omega

theorem limbs_bounds {l : List Nat} {n : Nat} (hl : l.length = n) (hL : Limbs l) (ht : l ≠ [] → Normalized l) :
    (n = 0 → val l = 0) ∧ (n ≠ 0 → B ^ (n - 1) ≤ val l) ∧ val l < B ^ n := by
  subst hl
  exact ⟨fun h0 => by rw [List.length_eq_zero_iff.mp h0]; rfl, fun hn => Normalized.ge (ht fun e => hn (by rw [e]; rfl)) (fun e => hn (by rw [e]; rfl)), val_lt l hL⟩

theorem Z.wf_bounds {z : Z} (h : z.wf) :
    (z.size = 0 → val z.d = 0) ∧ (z.size ≠ 0 → B ^ (z.size.natAbs - 1) ≤ val z.d) ∧ val z.d < B ^ z.size.natAbs := by
  obtain ⟨b0, b1, b2⟩ := limbs_bounds h.1 h.2.1 h.2.2
  exact ⟨fun h0 => b0 (by omega), fun hn => b1 (by omega), b2⟩

theorem F.wf_bounds {f : F} (h : f.wf) :
    (f.size = 0 → val f.d = 0) ∧ (f.size ≠ 0 → B ^ (f.size.natAbs - 1) ≤ val f.d) ∧ val f.d < B ^ f.size.natAbs :=
  Z.wf_bounds (z := ⟨f.size, f.d⟩) ⟨h.1, h.2.1, h.2.2.1⟩


/-! ### mpz: value against `_mp_size` -/

theorem Z.toInt_of_nonneg {z : Z} (h : 0 ≤ z.size) : z.toInt = val z.d := if_neg (by omega)
theorem Z.toInt_of_neg {z : Z} (h : z.size < 0) : z.toInt = -(val z.d : Int) := if_pos h

theorem Z.natAbs_toInt (z : Z) : z.toInt.natAbs = val z.d := natAbs_ite_neg _ _

theorem sgn_carries {s X : Int} (h : sgn s = sgn X) : (s < 0 → X < 0) ∧ (s = 0 → X = 0) ∧ (0 < s → 0 < X) := by
  obtain ⟨a1, a2, a3⟩ := sgn_eq_iff X
  exact ⟨fun c => a3.mp (by rw [← h, sgn_neg c]), fun c => a2.mp (by rw [← h, c]; rfl), fun c => a1.mp (by rw [← h, sgn_pos c])⟩

theorem Z.sgn_size {z : Z} (h : z.wf) : sgn z.size = sgn z.toInt := by
  obtain ⟨a0, a1, _⟩ := Z.wf_bounds h
  have pos : z.size ≠ 0 → 0 < val z.d := fun hn => lt_of_lt_of_le (Bpow_pos _) (a1 hn)
  rcases lt_trichotomy z.size 0 with c | c | c
  · have := pos (by omega); rw [sgn_neg c, Z.toInt_of_neg c, sgn_neg (by omega)]
  · rw [c, Z.toInt_of_nonneg (by omega), a0 c]; rfl
  · have := pos (by omega); rw [sgn_pos c, Z.toInt_of_nonneg (by omega), sgn_pos (by omega)]

theorem Z.toInt_sign {z : Z} (h : z.wf) :
    (z.size < 0 → z.toInt < 0) ∧ (z.size = 0 → z.toInt = 0) ∧ (z.size > 0 → z.toInt > 0) :=
  sgn_carries (Z.sgn_size h)

theorem Z.toInt_sign_iff {z : Z} (h : z.wf) :
    (z.toInt < 0 ↔ z.size < 0) ∧ (z.toInt = 0 ↔ z.size = 0) ∧ (0 < z.toInt ↔ 0 < z.size) := by
  obtain ⟨s1, s2, s3⟩ := Z.toInt_sign h
  rcases lt_trichotomy z.size 0 with c | c | c
  · have := s1 c; omega
  · have := s2 c; omega
  · have := s3 c; omega

theorem Z.toInt_lt_of_size_lt {a b : Z} (ha : a.wf) (hb : b.wf) (h : a.size < b.size) : a.toInt < b.toInt := by
  obtain ⟨_, a1, a2⟩ := Z.wf_bounds ha
  obtain ⟨_, b1, b2⟩ := Z.wf_bounds hb
  obtain ⟨sa, _, _⟩ := Z.toInt_sign ha
  obtain ⟨_, _, sb⟩ := Z.toInt_sign hb
  by_cases han : a.size < 0
  · by_cases hbn : b.size < 0
    · have := lt_of_lt_of_le b2 (le_trans (pow_le_pow_B (by omega)) (a1 (by omega)))
      rw [Z.toInt_of_neg han, Z.toInt_of_neg hbn]; omega
    · have := sa han
      have : 0 ≤ b.toInt := by rw [Z.toInt_of_nonneg (by omega)]; omega
      omega
  · have := lt_of_lt_of_le a2 (le_trans (pow_le_pow_B (by omega)) (b1 (by omega)))
    rw [Z.toInt_of_nonneg (by omega), Z.toInt_of_nonneg (by omega)]; omega

theorem val_head_split : ∀ (l : List Nat), Limbs l → ∃ r, val l = l.getD 0 0 + B * r ∧ l.getD 0 0 < B
  | [], _ => ⟨0, by simp, by simp [B_pos]⟩
  | x :: xs, h => ⟨val xs, by simp, by simpa using (Limbs_cons.mp h).1⟩


theorem Z.by_size {z : Z} (h : z.wf) :
    (z.size = 0 → z.toInt = 0) ∧
    (z.size = 1 → z.toInt = z.d.getD 0 0) ∧ (z.size = -1 → z.toInt = -(z.d.getD 0 0 : Int)) ∧
    (2 ≤ z.size → (B : Int) ≤ z.toInt) ∧ (z.size ≤ -2 → z.toInt ≤ -(B : Int)) ∧
    (z.size = 1 ∨ z.size = -1 → 0 < z.d.getD 0 0) ∧ z.d.getD 0 0 < B := by
  obtain ⟨r, hr, hlt⟩ := val_head_split z.d h.2.1
  obtain ⟨_, a1, a2⟩ := Z.wf_bounds h
  have one : z.size.natAbs = 1 → val z.d = z.d.getD 0 0 ∧ 0 < z.d.getD 0 0 := fun hs => by
    have := a1 (by omega)
    rw [hs, pow_one] at a2
    rw [hs, Nat.sub_self, pow_zero] at this
    unfold B at *; omega
  have two : 2 ≤ z.size.natAbs → B ≤ val z.d := fun hs =>
    le_trans (B_le_Bpow (by omega)) (a1 (by omega))
  refine ⟨(Z.toInt_sign h).2.1, fun hs => ?_, fun hs => ?_, fun hs => ?_, fun hs => ?_, fun hs => ?_, hlt⟩
  · rw [Z.toInt_of_nonneg (by omega), (one (by omega)).1]
  · rw [Z.toInt_of_neg (by omega), (one (by omega)).1]
  · have := two (by omega); rw [Z.toInt_of_nonneg (by omega)]; omega
  · have := two (by omega); rw [Z.toInt_of_neg (by omega)]; omega
  · exact (one (by omega)).2

/-! ### `shiftZ` and bit lengths -/

theorem shiftZ_nonneg (v : Nat) {k : Int} (h : 0 ≤ k) : shiftZ v k = v * 2 ^ k.toNat := by
  unfold shiftZ; rw [if_pos h, Nat.shiftLeft_eq]
theorem shiftZ_neg (v : Nat) {k : Int} (h : k < 0) : shiftZ v k = v / 2 ^ (-k).toNat := by
  unfold shiftZ; rw [if_neg (by omega), Nat.shiftRight_eq_div_pow]

theorem shiftZ_floor (v : Nat) (k : Int) :
    (0 ≤ k → shiftZ v k = v * 2 ^ k.toNat) ∧
    (k < 0 → shiftZ v k * 2 ^ (-k).toNat ≤ v ∧ v < (shiftZ v k + 1) * 2 ^ (-k).toNat) := by
  refine ⟨fun h => shiftZ_nonneg v h, fun h => ?_⟩
  rw [shiftZ_neg v h, Nat.mul_comm _ (2 ^ _), Nat.mul_comm _ (2 ^ _)]
  exact ⟨Nat.mul_div_le v _, Nat.lt_mul_div_succ v (Nat.two_pow_pos _)⟩

theorem shiftZ_shiftRight (v : Nat) (a : Int) (b : Nat) : (shiftZ v a) >>> b = shiftZ v (a - b) := by
  rw [Nat.shiftRight_eq_div_pow]
  by_cases ha : 0 ≤ a
  · rw [shiftZ_nonneg v ha]
    by_cases hb : (b : Int) ≤ a
    · rw [shiftZ_nonneg v (by omega)]
      have : a.toNat = (a - b).toNat + b := by omega
      rw [this, pow_add, ← Nat.mul_assoc, Nat.mul_div_cancel _ (Nat.two_pow_pos b)]
    · rw [shiftZ_neg v (by omega)]
      have : b = a.toNat + (-(a - b)).toNat := by omega
      rw [this, pow_add, Nat.mul_comm v, Nat.mul_div_mul_left _ _ (Nat.two_pow_pos _)]
      congr 2; omega
  · rw [shiftZ_neg v (by omega), shiftZ_neg v (by omega), Nat.div_div_eq_div_mul, ← pow_add]
    congr 2; omega

theorem bitlen_limb {t : Nat} (h0 : t ≠ 0) (hB : t < B) : bitlen t = 64 - clz64 t ∧ clz64 t ≤ 63 := by
  have : t.log2 < 64 := (Nat.log2_lt h0).mpr hB
  rw [bitlen_pos h0]; unfold clz64; omega

theorem bitlen_val {l : List Nat} (hL : Limbs l) (hne : l ≠ []) (ht : Normalized l) :
    bitlen (val l) = 64 * l.length - clz64 (l.getD (l.length - 1) 0) ∧ clz64 (l.getD (l.length - 1) 0) ≤ 63 := by
  have h64 : (l.getD (l.length - 1) 0).log2 < 64 :=
    (Nat.log2_lt ((normalized_iff_getD hne).mp ht)).mpr (getD_lt hL _)
  have hn := List.length_pos_of_ne_nil hne
  rw [bitlen_pos (Nat.ne_of_gt (ht.pos hne)), log2_val hL hne ht]; unfold clz64; omega

theorem top53_bounds {v : Nat} (h : v ≠ 0) :
    2 ^ 52 ≤ shiftZ v (53 - (bitlen v : Int)) ∧ shiftZ v (53 - (bitlen v : Int)) < 2 ^ 53 := by
  obtain ⟨l, u⟩ := bitlen_bounds h
  have hL : 1 ≤ bitlen v := by rw [bitlen_pos h]; omega
  generalize bitlen v = L at *
  by_cases c : (L : Int) ≤ 53
  · rw [shiftZ_nonneg v (by omega)]
    have e : (53 - (L : Int)).toNat = 53 - L := by omega
    rw [e]
    exact scale_bounds (n := 53) l u hL (by omega)
  · rw [shiftZ_neg v (by omega)]
    have e : (-(53 - (L : Int))).toNat = L - 53 := by omega
    rw [e]
    have p1 : 2 ^ 52 * 2 ^ (L - 53) = 2 ^ (L - 1) := by rw [← pow_add]; congr 1; omega
    have p2 : 2 ^ 53 * 2 ^ (L - 53) = 2 ^ L := by rw [← pow_add]; congr 1; omega
    constructor
    · rw [Nat.le_div_iff_mul_le (Nat.two_pow_pos _), p1]; exact l
    · rw [Nat.div_lt_iff_lt_mul (Nat.two_pow_pos _), p2]; exact u


/-! ### mpn_get_d: the shifted high limbs are the 53 leading bits (get_d.c:129-145) -/

theorem getd_m53 {l : List Nat} (hL : Limbs l) (hne : l ≠ []) (ht : Normalized l) :
    ((((l.getD (l.length - 1) 0 <<< clz64 (l.getD (l.length - 1) 0)) % B) |||
        (((if l.length ≥ 2 then l.getD (l.length - 2) 0 else 0) >>> (64 - clz64 (l.getD (l.length - 1) 0))) &&&
          (if clz64 (l.getD (l.length - 1) 0) = 0 then 0 else B - 1))) >>> 11)
      = shiftZ (val l) (53 - (bitlen (val l) : Int)) := by
  obtain ⟨hbl, hls⟩ := bitlen_val hL hne ht
  have tnz := (normalized_iff_getD hne).mp ht
  have tlt := getD_lt hL (l.length - 1)
  obtain ⟨hbt, _⟩ := bitlen_limb tnz tlt
  have m1lt : (if l.length ≥ 2 then l.getD (l.length - 2) 0 else 0) < B := by
    split
    · exact getD_lt hL _
    · exact B_pos
  have hn := List.length_pos_of_ne_nil hne
  -- the 64-bit window below the leading bit is shiftZ v (64 - L)
  have key : (l.getD (l.length - 1) 0) * 2 ^ clz64 (l.getD (l.length - 1) 0) +
      (if l.length ≥ 2 then l.getD (l.length - 2) 0 else 0) / 2 ^ (64 - clz64 (l.getD (l.length - 1) 0))
      = shiftZ (val l) (64 - (bitlen (val l) : Int)) := by
    rw [hbl]
    by_cases h2 : l.length ≥ 2
    · have e := val_top2_split l h2
      have b := val_take_lt hL (l.length - 2)
      rw [if_pos h2]
      generalize l.getD (l.length - 1) 0 = top at *
      generalize l.getD (l.length - 2) 0 = m1 at *
      generalize clz64 top = ls at *
      rw [shiftZ_neg _ (by omega)]
      have ex : (-(64 - ((64 * l.length - ls : Nat) : Int))).toNat = 64 * (l.length - 2) + (64 - ls) := by omega
      rw [ex, pow_add, ← B_pow, ← Nat.div_div_eq_div_mul, e, Nat.add_mul_div_left _ _ (Bpow_pos _),
        Nat.div_eq_of_lt b, Nat.zero_add]
      have hB : B = 2 ^ (64 - ls) * 2 ^ ls := by rw [← pow_add, B_eq_pow]; congr 1; omega
      have : m1 + B * top = m1 + 2 ^ (64 - ls) * (2 ^ ls * top) := by rw [hB]; ring
      rw [this, Nat.add_mul_div_left _ _ (Nat.two_pow_pos _)]; ring
    · have e := val_top_split l hne
      have h1 : l.length - 1 = 0 := by omega
      rw [h1, List.take_zero, val_nil, pow_zero, Nat.zero_add, Nat.one_mul] at e
      rw [if_neg h2, e, shiftZ_nonneg _ (by omega), Nat.zero_div, Nat.add_zero]
      congr 2; omega
  -- top·2^ls < B
  have f1 : (l.getD (l.length - 1) 0) * 2 ^ clz64 (l.getD (l.length - 1) 0) < B := by
    have := (bitlen_bounds tnz).2
    have hB : B = 2 ^ bitlen (l.getD (l.length - 1) 0) * 2 ^ clz64 (l.getD (l.length - 1) 0) := by
      rw [← pow_add, B_eq_pow]; congr 1; omega
    rw [hB]; exact Nat.mul_lt_mul_of_pos_right this (Nat.two_pow_pos _)
  generalize (if l.length ≥ 2 then l.getD (l.length - 2) 0 else 0) = m1 at *
  generalize l.getD (l.length - 1) 0 = top at *
  generalize clz64 top = ls at *
  -- the masked low part
  have lt : m1 / 2 ^ (64 - ls) < 2 ^ ls := by
    rw [Nat.div_lt_iff_lt_mul (Nat.two_pow_pos _), ← pow_add]
    have : ls + (64 - ls) = 64 := by omega
    rw [this, ← B_eq_pow]; exact m1lt
  have f2 : ((m1 >>> (64 - ls)) &&& (if ls = 0 then 0 else B - 1)) = m1 / 2 ^ (64 - ls) := by
    rw [Nat.shiftRight_eq_div_pow]
    by_cases z : ls = 0
    · subst z; rw [if_pos rfl, Nat.and_zero]; simp at lt; omega
    · rw [if_neg z, B_eq_pow, Nat.and_two_pow_sub_one_eq_mod, Nat.mod_eq_of_lt]
      have : 2 ^ ls ≤ 2 ^ 64 := Nat.pow_le_pow_right (by decide) (by omega)
      omega
  rw [f2, Nat.shiftLeft_eq, Nat.mod_eq_of_lt f1, ← Nat.shiftLeft_eq,
    ← Nat.shiftLeft_add_eq_or_of_lt lt, Nat.shiftLeft_eq, key, shiftZ_shiftRight]
  congr 1; omega


/-! ### the specification `truncate53` by cases; bit patterns -/

theorem denorm_shift_bounds {m r : Nat} (t1 : 2 ^ 52 ≤ m) (t2 : m < 2 ^ 53) (r1 : 1 ≤ r) (r2 : r ≤ 52) :
    1 ≤ m >>> r ∧ m >>> r < 2 ^ 52 := by
  have p1 : 2 ^ r ≤ 2 ^ 52 := Nat.pow_le_pow_right (by decide) r2
  have p2 : 2 ^ 1 ≤ 2 ^ r := Nat.pow_le_pow_right (by decide) r1
  rw [Nat.shiftRight_eq_div_pow, Nat.le_div_iff_mul_le (Nat.two_pow_pos _), Nat.div_lt_iff_lt_mul (Nat.two_pow_pos _)]
  constructor
  · omega
  · calc m < 2 ^ 52 * 2 ^ 1 := t2
      _ ≤ 2 ^ 52 * 2 ^ r := Nat.mul_le_mul_left _ p2

/-- `truncate53` spelled out: overflow, normal, denormal (the mantissa also as the C code computes it, by a further
    shift of the 53 leading bits), underflow. -/
theorem truncate53_cases (x e : Int) (hx : x ≠ 0) :
    (bitlen x.natAbs + e > 1024 → truncate53 x e = .inf (decide (x < 0))) ∧
    (-1021 ≤ bitlen x.natAbs + e → bitlen x.natAbs + e ≤ 1024 →
      truncate53 x e = .fin (decide (x < 0)) (shiftZ x.natAbs (53 - (bitlen x.natAbs : Int))) ((bitlen x.natAbs : Int) + e - 53)) ∧
    (-1073 ≤ bitlen x.natAbs + e → bitlen x.natAbs + e ≤ -1022 →
      truncate53 x e = .fin (decide (x < 0))
        (shiftZ x.natAbs (53 - (bitlen x.natAbs : Int)) >>> (-1021 - ((bitlen x.natAbs : Int) + e)).toNat) (-1074) ∧
      1 ≤ shiftZ x.natAbs (53 - (bitlen x.natAbs : Int)) >>> (-1021 - ((bitlen x.natAbs : Int) + e)).toNat ∧
      shiftZ x.natAbs (53 - (bitlen x.natAbs : Int)) >>> (-1021 - ((bitlen x.natAbs : Int) + e)).toNat < 2 ^ 52 ∧
      shiftZ x.natAbs (53 - (bitlen x.natAbs : Int)) >>> (-1021 - ((bitlen x.natAbs : Int) + e)).toNat = shiftZ x.natAbs (e + 1074)) ∧
    (bitlen x.natAbs + e ≤ -1074 → truncate53 x e = .fin false 0 (-1074)) := by
  have hv : x.natAbs ≠ 0 := by omega
  obtain ⟨t1, t2⟩ := top53_bounds hv
  obtain ⟨_, bu⟩ := bitlen_bounds hv
  have hL1 : 1 ≤ bitlen x.natAbs := by rw [bitlen_pos hv]; omega
  unfold truncate53
  dsimp only
  rw [if_neg hv]
  generalize x.natAbs = v at *
  generalize bitlen v = L at *
  have hq1 : -1021 ≤ (L : Int) + e → (if (L : Int) + e - 53 ≥ -1074 then (L : Int) + e - 53 else -1074) = (L : Int) + e - 53 :=
    fun h => if_pos (by omega)
  have hq2 : (L : Int) + e ≤ -1022 → (if (L : Int) + e - 53 ≥ -1074 then (L : Int) + e - 53 else -1074) = -1074 :=
    fun h => if_neg (by omega)
  refine ⟨fun h => ?_, fun h1 h2 => ?_, fun h1 h2 => ?_, fun h => ?_⟩
  · rw [if_pos h]
  · have : e - ((L : Int) + e - 53) = 53 - (L : Int) := by ring
    rw [if_neg (show ¬ (L : Int) + e > 1024 by omega), hq1 h1, this, if_neg (show ¬ shiftZ v (53 - (L : Int)) = 0 by omega)]
  · have e1 : e - (-1074) = (53 - (L : Int)) - ((-1021 - ((L : Int) + e)).toNat : Nat) := by omega
    have e2 : e + 1074 = (53 - (L : Int)) - ((-1021 - ((L : Int) + e)).toNat : Nat) := by omega
    obtain ⟨l1, l2⟩ := denorm_shift_bounds (r := (-1021 - ((L : Int) + e)).toNat) t1 t2 (by omega) (by omega)
    rw [if_neg (show ¬ (L : Int) + e > 1024 by omega), hq2 h2, e1, e2, ← shiftZ_shiftRight, if_neg (Nat.ne_of_gt l1)]
    exact ⟨rfl, l1, l2, rfl⟩
  · have : shiftZ v (e - (-1074)) = 0 := by
      rw [shiftZ_neg _ (by omega)]
      exact Nat.div_eq_of_lt (lt_of_lt_of_le bu (Nat.pow_le_pow_right (by decide) (by omega)))
    rw [if_neg (show ¬ (L : Int) + e > 1024 by omega), hq2 (by omega), this, if_pos rfl]

theorem mkBits_fields (sg e m : Nat) (hs : sg ≤ 1) (he : e < 2048) (hm : m < 2 ^ 52) :
    sigOf (mkBits sg e m) = sg ∧ expOf (mkBits sg e m) = e ∧ manOf (mkBits sg e m) = m := by
  unfold sigOf expOf manOf mkBits; omega

theorem boolToNat_sign (s : Bool) : boolToNat s ≤ 1 ∧ decide (boolToNat s = 1) = s := by cases s <;> decide

theorem decode_encode_inf (s : Bool) : decode (encode (.inf s)) = .inf s := by
  obtain ⟨f1, f2, f3⟩ := mkBits_fields _ 2047 0 (boolToNat_sign s).1 (by norm_num) (by norm_num)
  simp only [encode]; unfold decode
  rw [f1, f2, f3, if_pos rfl, if_pos rfl, (boolToNat_sign s).2]

theorem decode_encode_denorm (s : Bool) {m : Nat} (h : m < 2 ^ 52) :
    decode (encode (.fin s m (-1074))) = .fin s m (-1074) := by
  obtain ⟨f1, f2, f3⟩ := mkBits_fields _ 0 m (boolToNat_sign s).1 (by norm_num) h
  simp only [encode]; unfold decode
  rw [if_pos h, f1, f2, f3, if_neg (by decide), if_pos rfl, (boolToNat_sign s).2]

theorem decode_encode_norm (s : Bool) {m : Nat} {q : Int} (h1 : 2 ^ 52 ≤ m) (h2 : m < 2 ^ 53) (q1 : -1074 ≤ q) (q2 : q ≤ 971) :
    decode (encode (.fin s m q)) = .fin s m q := by
  obtain ⟨f1, f2, f3⟩ := mkBits_fields _ (q + 1075).toNat (m - 2 ^ 52) (boolToNat_sign s).1 (by omega) (by omega)
  simp only [encode]; unfold decode
  rw [if_neg (show ¬ m < 2 ^ 52 by omega), f1, f2, f3, if_neg (show ¬ (q + 1075).toNat = 2047 by omega),
    if_neg (show ¬ (q + 1075).toNat = 0 by omega), (boolToNat_sign s).2,
    show 2 ^ 52 + (m - 2 ^ 52) = m by omega, show ((q + 1075).toNat : Int) - 1075 = q by omega]

theorem truncToDouble_zero (e : Int) : truncToDouble 0 e = 0 := by
  simp [truncToDouble, truncate53, encode, mkBits, boolToNat]

theorem decode_truncToDouble (x e : Int) : decode (truncToDouble x e) = truncate53 x e := by
  unfold truncToDouble
  by_cases hx : x = 0
  · have : truncate53 x e = .fin false 0 (-1074) := by rw [hx]; rfl
    rw [this]; exact decode_encode_denorm _ (by norm_num)
  · obtain ⟨d1, d2, d3, d4⟩ := truncate53_cases x e hx
    obtain ⟨t1, t2⟩ := top53_bounds (v := x.natAbs) (by omega)
    rcases lt_or_ge 1024 ((bitlen x.natAbs : Int) + e) with h | h
    · rw [d1 h]; exact decode_encode_inf _
    · rcases le_or_gt (-1021) ((bitlen x.natAbs : Int) + e) with g | g
      · rw [d2 g h]; exact decode_encode_norm _ t1 t2 (by omega) (by omega)
      · rcases le_or_gt (-1073) ((bitlen x.natAbs : Int) + e) with k | k
        · obtain ⟨dd, _, l2, _⟩ := d3 k (by omega)
          rw [dd]; exact decode_encode_denorm _ l2
        · rw [d4 (by omega)]; exact decode_encode_denorm _ (by norm_num)

theorem trunc_cases (x e : Int) (hx : x ≠ 0) :
    (bitlen x.natAbs + e > 1024 → truncToDouble x e = mkBits (if x < 0 then 1 else 0) 2047 0) ∧
    (-1021 ≤ bitlen x.natAbs + e → bitlen x.natAbs + e ≤ 1024 →
      truncToDouble x e = mkBits (if x < 0 then 1 else 0) ((bitlen x.natAbs : Int) + e + 1022).toNat
        (shiftZ x.natAbs (53 - (bitlen x.natAbs : Int)) - 2 ^ 52)) ∧
    (-1073 ≤ bitlen x.natAbs + e → bitlen x.natAbs + e ≤ -1022 →
      truncToDouble x e = mkBits (if x < 0 then 1 else 0) 0
        (shiftZ x.natAbs (53 - (bitlen x.natAbs : Int)) >>> (-1021 - ((bitlen x.natAbs : Int) + e)).toNat)) ∧
    (bitlen x.natAbs + e ≤ -1074 → truncToDouble x e = 0) := by
  obtain ⟨d1, d2, d3, d4⟩ := truncate53_cases x e hx
  obtain ⟨t1, _⟩ := top53_bounds (v := x.natAbs) (by omega)
  unfold truncToDouble
  refine ⟨fun h => ?_, fun h1 h2 => ?_, fun h1 h2 => ?_, fun h => ?_⟩
  · rw [d1 h]; simp only [encode, boolToNat_decide]
  · rw [d2 h1 h2]; simp only [encode, boolToNat_decide]
    rw [if_neg (by omega)]; congr 2; omega
  · obtain ⟨dd, _, l2, _⟩ := d3 h1 h2
    rw [dd]; simp only [encode, boolToNat_decide]
    rw [if_pos l2]
  · rw [d4 h]; rfl

/-- the bit exponent only matters up to saturation: far above the double range the result is ±∞, far below it is 0 -/
theorem truncToDouble_sat (x : Int) {e e' : Int}
    (h : (bitlen x.natAbs + e > 1024 ∧ bitlen x.natAbs + e' > 1024) ∨
      (bitlen x.natAbs + e ≤ -1074 ∧ bitlen x.natAbs + e' ≤ -1074)) :
    truncToDouble x e = truncToDouble x e' := by
  by_cases hx : x = 0
  · rw [hx, truncToDouble_zero, truncToDouble_zero]
  · obtain ⟨c1, _, _, c4⟩ := trunc_cases x e hx
    obtain ⟨d1, _, _, d4⟩ := trunc_cases x e' hx
    rcases h with ⟨a, b⟩ | ⟨a, b⟩
    · rw [c1 a, d1 b]
    · rw [c4 a, d4 b]


/-! ### mpn_get_d = truncation (all sizes, all exponents of a `long`) -/

theorem assemble_inf (sign : Int) : assemble 0 1024 sign = mkBits (if sign < 0 then 1 else 0) 2047 0 := by
  unfold assemble mkBits; simp

theorem assemble_normal (m : Nat) (ex sign : Int) (h1 : 2 ^ 52 ≤ m) (h2 : m < 2 ^ 53) (e1 : -1022 ≤ ex) (e2 : ex ≤ 1023) :
    assemble m ex sign = mkBits (if sign < 0 then 1 else 0) (ex + 1023).toNat (m - 2 ^ 52) := by
  unfold assemble mkBits
  dsimp only
  rw [Nat.shiftRight_eq_div_pow]
  have : ((ex + 1023) % 2048).toNat = (ex + 1023).toNat := by omega
  rw [this]
  have : m % 2 ^ 32 + m / 2 ^ 32 % 2 ^ 20 * 2 ^ 32 = m - 2 ^ 52 := by omega
  rw [this]

theorem assemble_denorm (m : Nat) (sign : Int) (h2 : m < 2 ^ 52) :
    assemble m (-1023) sign = mkBits (if sign < 0 then 1 else 0) 0 m := by
  unfold assemble mkBits
  dsimp only
  rw [Nat.shiftRight_eq_div_pow]
  have : m % 2 ^ 32 + m / 2 ^ 32 % 2 ^ 20 * 2 ^ 32 = m := by omega
  rw [this]; simp

/-- get_d.c:168-217: from the 53 leading bits and the exponent of the leading bit to the fields of the double -/
theorem getd_finish (v : Nat) (hv : v ≠ 0) (sign e : Int) :
    (if (bitlen v : Int) + e - 1 ≥ 1024 then assemble 0 1024 sign
      else if (bitlen v : Int) + e - 1 ≤ -1023 then
        if (bitlen v : Int) + e - 1 ≤ -1022 - 53 then 0
        else assemble (shiftZ v (53 - (bitlen v : Int)) >>> (-1022 - ((bitlen v : Int) + e - 1)).toNat) (-1023) sign
      else assemble (shiftZ v (53 - (bitlen v : Int))) ((bitlen v : Int) + e - 1) sign)
    = truncToDouble (if sign < 0 then -(v : Int) else (v : Int)) e := by
  have hx : (if sign < 0 then -(v : Int) else (v : Int)) ≠ 0 := by split <;> omega
  have hxa : (if sign < 0 then -(v : Int) else (v : Int)).natAbs = v := by split <;> omega
  have sg : ((if sign < 0 then -(v : Int) else (v : Int)) < 0) ↔ sign < 0 := by split <;> omega
  obtain ⟨c1, c2, c3, c4⟩ := trunc_cases _ e hx
  simp only [hxa, sg] at c1 c2 c3 c4
  obtain ⟨t1, t2⟩ := top53_bounds hv
  generalize truncToDouble _ e = R at *
  generalize shiftZ v (53 - (bitlen v : Int)) = m at *
  generalize (bitlen v : Int) = L at *
  by_cases h1 : L + e - 1 ≥ 1024
  · rw [if_pos h1, assemble_inf, c1 (by omega)]
  · rw [if_neg h1]
    by_cases h2 : L + e - 1 ≤ -1023
    · rw [if_pos h2]
      by_cases h3 : L + e - 1 ≤ -1022 - 53
      · rw [if_pos h3, c4 (by omega)]
      · have er : (-1022 - (L + e - 1)).toNat = (-1021 - (L + e)).toNat := by omega
        rw [if_neg h3, c3 (by omega) (by omega), er]
        exact assemble_denorm _ _ (denorm_shift_bounds t1 t2 (by omega) (by omega)).2
    · rw [if_neg h2, c2 (by omega) (by omega), assemble_normal m _ sign t1 t2 (by omega) (by omega)]
      congr 2; omega

theorem mpn_get_d_eq (ptr : List Nat) (sign exp : Int) (hL : Limbs ptr) (ht : ptr ≠ [] → Normalized ptr)
    (hsz : ptr.length < 2 ^ 57) (he1 : LONG_MIN ≤ exp) (he2 : exp ≤ LONG_MAX) :
    mpn_get_d ptr sign exp = truncToDouble (if sign < 0 then -(val ptr : Int) else (val ptr : Int)) exp := by
  by_cases hne : ptr = []
  · subst hne
    simp [mpn_get_d, truncToDouble_zero]
  · have hn := List.length_pos_of_ne_nil hne
    have ht := ht hne
    have hv : val ptr ≠ 0 := (ht.pos hne).ne'
    obtain ⟨hbl, hls⟩ := bitlen_val hL hne ht
    unfold mpn_get_d
    dsimp only
    rw [if_neg (Nat.ne_of_gt hn), getd_m53 hL hne ht]
    have c0 : (64 * ptr.length) % 2 ^ 64 = 64 * ptr.length := Nat.mod_eq_of_lt (by omega)
    have c0' : toU64 (LONG_MAX - exp) = (LONG_MAX - exp).toNat := by unfold toU64 LONG_MAX LONG_MIN at *; omega
    have ee : exp + 64 * (ptr.length : Int) - ((clz64 (ptr.getD (ptr.length - 1) 0) : Int) + 1) = (bitlen (val ptr) : Int) + exp - 1 := by
      rw [hbl]; omega
    rw [c0, c0', ee, getd_finish (val ptr) hv sign exp]
    by_cases hov : 64 * ptr.length > (LONG_MAX - exp).toNat
    · have big : (bitlen (val ptr) : Int) + exp - 1 ≥ 1024 := by rw [hbl]; unfold LONG_MAX at hov; omega
      rw [if_pos hov, ← getd_finish (val ptr) hv sign exp, if_pos big]
    · rw [if_neg hov]

/-- mpz_get_d_2exp / mpf_get_d_2exp: with the exponent 64·size - clz (top limb), which is the bit length, mpn_get_d
    returns the 53 leading bits scaled into [0.5, 1) -/
theorem get_d_2exp_core (d : List Nat) (size : Int) (hL : Limbs d) (ht : Normalized d) (hne : d ≠ []) (hsz : d.length < 2 ^ 57) :
    (d.length : Int) * 64 - (clz64 (d.getD (d.length - 1) 0) : Int) = (bitlen (val d) : Int) ∧
    mpn_get_d d size (-(bitlen (val d) : Int)) =
      truncToDouble (if size < 0 then -(val d : Int) else (val d : Int)) (-(bitlen (val d) : Int)) ∧
    decode (truncToDouble (if size < 0 then -(val d : Int) else (val d : Int)) (-(bitlen (val d) : Int))) =
      .fin (decide ((if size < 0 then -(val d : Int) else (val d : Int)) < 0)) (shiftZ (val d) (53 - (bitlen (val d) : Int))) (-53) ∧
    2 ^ 52 ≤ shiftZ (val d) (53 - (bitlen (val d) : Int)) ∧ shiftZ (val d) (53 - (bitlen (val d) : Int)) < 2 ^ 53 := by
  obtain ⟨hbl, hls⟩ := bitlen_val hL hne ht
  have hn := List.length_pos_of_ne_nil hne
  have e1 : (d.length : Int) * 64 - (clz64 (d.getD (d.length - 1) 0) : Int) = (bitlen (val d) : Int) := by rw [hbl]; omega
  have hb1 : LONG_MIN ≤ -(bitlen (val d) : Int) := by unfold LONG_MIN; rw [hbl]; omega
  have hb2 : -(bitlen (val d) : Int) ≤ LONG_MAX := by unfold LONG_MAX; omega
  have r1 : -1021 ≤ (bitlen (val d) : Int) + -(bitlen (val d) : Int) := by omega
  have r2 : (bitlen (val d) : Int) + -(bitlen (val d) : Int) ≤ 1024 := by omega
  have r3 : (bitlen (val d) : Int) + -(bitlen (val d) : Int) - 53 = -53 := by omega
  have hv : val d ≠ 0 := (ht.pos hne).ne'
  have hx : (if size < 0 then -(val d : Int) else (val d : Int)) ≠ 0 := by split <;> omega
  have hxa : (if size < 0 then -(val d : Int) else (val d : Int)).natAbs = val d := by split <;> omega
  obtain ⟨_, d2, _, _⟩ := truncate53_cases _ (-(bitlen (val d) : Int)) hx
  rw [hxa] at d2
  obtain ⟨t1, t2⟩ := top53_bounds hv
  refine ⟨e1, mpn_get_d_eq d size _ hL (fun _ => ht) hsz hb1 hb2, ?_, t1, t2⟩
  rw [decode_truncToDouble, d2 r1 r2, r3]

/-! ### __gmp_extract_double on bit patterns; the fields of a double -/

/-- {rp,2}·B^(exp-2) = d exactly, written without negative exponents through d·2^1074 = dblNum -/
theorem extract_double_eq (b : Nat) (hz : isZero b = false) (hf : expOf b ≠ 2047) :
    ∃ r0 r1 ex, extract_double b = (r0, r1, ex) ∧ r0 < B ∧ 1 ≤ r1 ∧ r1 < B ∧ -16 ≤ ex ∧ ex ≤ 16 ∧
      (r1 * B + r0) * 2 ^ (64 * ex + 1074).toNat = dblNum b * 2 ^ 128 ∧ (1023 ≤ expOf b → 1 ≤ ex) ∧ (expOf b < 1023 → ex ≤ 0) := by
  have hm : manOf b < 2 ^ 52 := Nat.mod_lt _ (by norm_num)
  have he : expOf b < 2048 := Nat.mod_lt _ (by norm_num)
  have hnz : ¬ (expOf b = 0 ∧ manOf b = 0) := by
    unfold isZero at hz; simp only [decide_eq_false_iff_not] at hz
    unfold expOf manOf; omega
  obtain ⟨tp, ex, h, t1, t2, x1, hv, x2, x3, x4⟩ := Mpq.extractDouble_spec _ _ hm hnz
  rw [extract_double_value b hz, h]
  exact ⟨_, _, _, rfl, Nat.mod_lt _ B_pos, (Nat.le_div_iff_mul_le B_pos).mpr (by rwa [Nat.one_mul]),
    Nat.div_lt_of_lt_mul t2, x1, x2 (by omega), by rw [Nat.div_add_mod']; exact hv, x3, x4⟩

theorem finite_flags {b : Nat} (hf : expOf b ≠ 2047) : isNaN b = false ∧ isInf b = false := by
  unfold isNaN isInf; simp [hf]

theorem nonfinite_flags {b : Nat} (h : expOf b = 2047) : (isNaN b || isInf b) = true := by
  unfold isNaN isInf
  by_cases m : manOf b = 0 <;> simp [h, m]

theorem inf_flags {b : Nat} (h : isInf b = true) : isNaN b = false ∧ isZero b = false := by
  unfold isInf at h; simp at h
  refine ⟨by unfold isNaN; simp [h.1, h.2], ?_⟩
  have := h.1
  unfold expOf at this; unfold isZero; simp; omega

/-- C `d < 0.0` for a non-zero d is the sign bit -/
theorem isNeg_of_nonzero {b : Nat} (hz : isZero b = false) : isNeg b = decide (sigOf b = 1) := by
  unfold isNeg; rw [hz]; simp

theorem absBits_fields (b : Nat) :
    expOf (absBits b) = expOf b ∧ manOf (absBits b) = manOf b ∧ isZero (absBits b) = isZero b ∧
    dblNum (absBits b) = dblNum b ∧ sigOf (absBits b) = 0 := by
  have e1 : expOf (absBits b) = expOf b := by unfold expOf absBits; omega
  have e2 : manOf (absBits b) = manOf b := by unfold manOf absBits; omega
  refine ⟨e1, e2, ?_, ?_, ?_⟩
  · unfold isZero absBits; simp
  · unfold dblNum; rw [e1, e2]
  · unfold sigOf absBits; omega

theorem dblNum_zero {b : Nat} (h : isZero b = true) : dblNum b = 0 := by
  unfold isZero at h; simp at h
  have e1 : expOf b = 0 := by unfold expOf; omega
  have e2 : manOf b = 0 := by unfold manOf; omega
  unfold dblNum; rw [if_pos e1, e2]

theorem two_limbs_lt {r0 r1 : Nat} (h0 : r0 < B) (h1 : r1 < B) : r1 * B + r0 < B ^ 2 := by
  rw [pow_two]; exact two_limb_lt h1 h0

/-- the callers hand |d| to `__gmp_extract_double` -/
theorem extract_double_abs (b : Nat) (hz : isZero b = false) (hf : expOf b ≠ 2047) :
    ∃ r0 r1 ex, extract_double (absBits b) = (r0, r1, ex) ∧ r0 < B ∧ 1 ≤ r1 ∧ r1 < B ∧ -16 ≤ ex ∧ ex ≤ 16 ∧
      (r1 * B + r0) * 2 ^ (64 * ex + 1074).toNat = dblNum b * 2 ^ 128 ∧ (1023 ≤ expOf b → 1 ≤ ex) ∧ (expOf b < 1023 → ex ≤ 0) := by
  obtain ⟨a1, _, a3, a4, _⟩ := absBits_fields b
  have := extract_double_eq (absBits b) (by rw [a3]; exact hz) (by rw [a1]; exact hf)
  rwa [a4, a1] at this

theorem isNeg_iff {b : Nat} (hz : isZero b = false) : isNeg b = true ↔ sigOf b = 1 := by
  rw [isNeg_of_nonzero hz, decide_eq_true_eq]

/-! ### mpz_set_d (set_d.c) -/

/-- floor (d) from the extracted double, by the number of integer limbs `ex` -/
theorem set_d_quot (r0 r1 : Nat) (ex : Int) (dn : Nat) (h0 : r0 < B) (h1' : r1 < B)
    (hrel : (r1 * B + r0) * 2 ^ (64 * ex + 1074).toNat = dn * 2 ^ 128) :
    (ex ≤ 0 → dn / 2 ^ 1074 = 0) ∧ (ex = 1 → dn / 2 ^ 1074 = r1) ∧
    (2 ≤ ex → dn / 2 ^ 1074 = (r1 * B + r0) * B ^ (ex.toNat - 2)) := by
  have hB : B = 2 ^ 64 := rfl
  refine ⟨fun c0 => ?_, fun c1 => ?_, fun c2 => ?_⟩
  · apply Nat.div_eq_of_lt
    have hlt : r1 * B + r0 < 2 ^ 128 := by
      calc r1 * B + r0 < B ^ 2 := two_limbs_lt h0 h1'
        _ = 2 ^ 128 := by rw [hB]; norm_num
    have ht : 2 ^ (64 * ex + 1074).toNat ≤ 2 ^ 1074 := Nat.pow_le_pow_right (by decide) (by omega)
    have : dn * 2 ^ 128 < 2 ^ 1074 * 2 ^ 128 := by
      rw [← hrel]
      calc (r1 * B + r0) * 2 ^ (64 * ex + 1074).toNat ≤ (r1 * B + r0) * 2 ^ 1074 := Nat.mul_le_mul_left _ ht
        _ < 2 ^ 128 * 2 ^ 1074 := Nat.mul_lt_mul_of_pos_right hlt (Nat.two_pow_pos _)
        _ = 2 ^ 1074 * 2 ^ 128 := Nat.mul_comm _ _
    exact Nat.lt_of_mul_lt_mul_right this
  · subst c1
    have hd : dn = (r1 * B + r0) * 2 ^ 1010 := by
      have : (64 * (1 : Int) + 1074).toNat = 1010 + 128 := by decide
      rw [this, pow_add, ← Nat.mul_assoc] at hrel
      exact (Nat.eq_of_mul_eq_mul_right (Nat.two_pow_pos 128) hrel).symm
    have : (2 : Nat) ^ 1074 = B * 2 ^ 1010 := by rw [hB, ← pow_add]
    rw [hd, this, Nat.mul_div_mul_right _ _ (Nat.two_pow_pos _), Nat.mul_comm r1 B, Nat.add_comm,
      Nat.add_mul_div_left _ _ B_pos, Nat.div_eq_of_lt h0, Nat.zero_add]
  · have hd : dn = (r1 * B + r0) * B ^ (ex.toNat - 2) * 2 ^ 1074 := by
      have : (64 * ex + 1074).toNat = 64 * (ex.toNat - 2) + 1074 + 128 := by omega
      rw [this, pow_add, pow_add, ← Nat.mul_assoc, ← Nat.mul_assoc, ← B_pow] at hrel
      exact (Nat.eq_of_mul_eq_mul_right (Nat.two_pow_pos 128) hrel).symm
    rw [hd, Nat.mul_div_cancel _ (Nat.two_pow_pos _)]

theorem Z.wf_zero : Z.wf ⟨0, []⟩ := ⟨rfl, Limbs_nil, fun h => absurd rfl h⟩

theorem Z.one_limb {s : Int} (hs : s = 1 ∨ s = -1) {n : Nat} (h0 : n ≠ 0) (hB : n < B) :
    Z.wf ⟨s, [n]⟩ ∧ Z.toInt ⟨s, [n]⟩ = s * n := by
  refine ⟨⟨?_, Limbs_cons.mpr ⟨hB, Limbs_nil⟩, fun _ => by simp [h0]⟩, ?_⟩
  · rcases hs with rfl | rfl <;> rfl
  · rcases hs with rfl | rfl <;> simp [Z.toInt]

theorem set_d_shapes (r0 r1 : Nat) (h0 : r0 < B) (h1 : 1 ≤ r1) (h1' : r1 < B) (s : Bool) :
    (Z.wf ⟨0, []⟩ ∧ Z.toInt ⟨0, []⟩ = 0) ∧
    (Z.wf ⟨if s then -1 else 1, [r1]⟩ ∧ Z.toInt ⟨if s then -1 else 1, [r1]⟩ = (if s then -1 else 1) * (r1 : Int)) ∧
    (∀ k : Nat, Z.wf ⟨if s then -((k + 2 : Nat) : Int) else ((k + 2 : Nat) : Int), List.replicate k 0 ++ [r0, r1]⟩ ∧
      Z.toInt ⟨if s then -((k + 2 : Nat) : Int) else ((k + 2 : Nat) : Int), List.replicate k 0 ++ [r0, r1]⟩ =
        (if s then -1 else 1) * (((r1 * B + r0) * B ^ k : Nat) : Int)) := by
  refine ⟨⟨Z.wf_zero, rfl⟩, Z.one_limb (by cases s <;> simp) (by omega) h1', fun k => ⟨⟨?_, ?_, fun _ => ?_⟩, ?_⟩⟩
  · simp only [List.length_append, List.length_replicate, List.length_cons, List.length_nil]
    cases s
    · simp only [Bool.false_eq_true, if_false]; omega
    · simp only [if_true]; omega
  · exact Limbs_append.mpr ⟨Limbs_replicate_zero _, Limbs_cons.mpr ⟨h0, Limbs_cons.mpr ⟨h1', Limbs_nil⟩⟩⟩
  · rw [List.getLast?_append]; simp; omega
  · have hval : val (List.replicate k 0 ++ [r0, r1]) = (r1 * B + r0) * B ^ k := by
      rw [val_append, val_replicate_zero, List.length_replicate, Nat.zero_add]
      simp only [val_cons, val_nil]; ring
    unfold Z.toInt
    dsimp only
    rw [hval]
    cases s
    · simp only [Bool.false_eq_true, if_false]; rw [if_neg (by omega)]; simp
    · simp only [if_true]; rw [if_pos (by omega)]; simp



/-- mpz/set_d.c:39-108 against the exact value of the double -/
theorem mpz_set_d_eq (b : Nat) :
    (expOf b = 2047 → mpz_set_d b = none) ∧
    (expOf b ≠ 2047 → ∃ z, mpz_set_d b = some z ∧ z.wf ∧
      z.toInt = (if sigOf b = 1 then -1 else 1) * ((dblNum b / 2 ^ 1074 : Nat) : Int)) := by
  constructor
  · intro h
    unfold mpz_set_d
    rw [nonfinite_flags h]; rfl
  · intro hf
    have a3 := (absBits_fields b).2.2.1
    obtain ⟨hn, hi⟩ := finite_flags hf
    unfold mpz_set_d
    rw [hn, hi, Bool.or_self]
    simp only [Bool.false_eq_true, if_false]
    by_cases hz : isZero b = true
    · have : extract_double (absBits b) = (0, 0, 0) := by unfold extract_double; rw [a3, hz]; rfl
      rw [this]
      dsimp only
      simp only [le_refl, if_true, neg_zero, ite_self]
      refine ⟨_, rfl, Z.wf_zero, ?_⟩
      rw [dblNum_zero hz]; simp [Z.toInt]
    · have hz' : isZero b = false := by simpa using hz
      have hneg := isNeg_of_nonzero hz'
      obtain ⟨r0, r1, ex, he, h0, h1, h1', x1, x2, hrel, _, _⟩ := extract_double_abs b hz' hf
      obtain ⟨q0, q1, q2⟩ := set_d_quot r0 r1 ex (dblNum b) h0 h1' hrel
      obtain ⟨s0, s1, s2⟩ := set_d_shapes r0 r1 h0 h1 h1' (isNeg b)
      rw [he]
      dsimp only
      have sgn_eq : (if isNeg b = true then (-1 : Int) else 1) = (if sigOf b = 1 then -1 else 1) := by
        rw [hneg]; by_cases c : sigOf b = 1 <;> simp [c]
      generalize hrn : (if ex ≤ 0 then (0 : Int) else ex) = rn
      by_cases c0 : ex ≤ 0
      · rw [if_pos c0] at hrn; subst hrn
        simp only [if_true, neg_zero, ite_self]
        exact ⟨_, rfl, s0.1, by rw [q0 c0, s0.2]; simp⟩
      · rw [if_neg c0] at hrn; subst hrn
        by_cases c1 : ex = 1
        · subst c1
          rw [if_neg (show ¬ (1 : Int) = 0 by decide), if_pos (show (1 : Int) = 1 from rfl)]
          refine ⟨_, rfl, s1.1, ?_⟩
          rw [s1.2, q1 rfl, sgn_eq]
        · obtain ⟨k, hk⟩ : ∃ k : Nat, ex = ((k + 2 : Nat) : Int) := ⟨ex.toNat - 2, by omega⟩
          subst hk
          have t : ((k + 2 : Nat) : Int).toNat - 2 = k := by omega
          rw [if_neg (show ¬ ((k + 2 : Nat) : Int) = 0 by omega), if_neg (show ¬ ((k + 2 : Nat) : Int) = 1 by omega), t]
          refine ⟨_, rfl, (s2 k).1, ?_⟩
          rw [(s2 k).2, q2 (by omega), t, sgn_eq]

/-! ### mpz_cmp_d, mpz_cmpabs_d (cmp_d.c) -/

theorem any_ne_zero_iff (l : List Nat) : (l.any (· != 0)) = true ↔ val l ≠ 0 := by
  rw [Ne, val_eq_zero_iff, List.any_eq_true]
  simp

/-- RETURN_CMP of cmp_d.c for different limbs -/
theorem ite_ge_eq_sgn {a b : Nat} (h : a ≠ b) (ret : Int) : (if a ≥ b then ret else -ret) = ret * sgn ((a : Int) - b) := by
  by_cases g : a ≥ b
  · rw [if_pos g, sgn_pos (by omega), mul_one]
  · rw [if_neg g, sgn_neg (by omega), mul_neg_one]

theorem sgn_lex3 {P t z lo r1 r0 : Nat} (hz : z < B) (h0 : r0 < B) (hlo : lo < P) :
    sgn ((((t * B + z) * P + lo : Nat) : Int) - (((r1 * B + r0) * P : Nat) : Int)) =
      if t ≠ r1 then sgn ((t : Int) - r1) else if z ≠ r0 then sgn ((z : Int) - r0) else sgn lo := by
  have key : (((t * B + z) * P + lo : Nat) : Int) - (((r1 * B + r0) * P : Nat) : Int) =
      (P : Int) * ((B : Int) * ((t : Int) - r1) + ((z : Int) - r0)) + lo := by push_cast; ring
  have h1 : -(P : Int) < lo := by omega
  have h2 : (lo : Int) < P := by omega
  have g1 : -(B : Int) < (z : Int) - r0 := by omega
  have g2 : (z : Int) - r0 < B := by omega
  have hd := sgn_lex (d := (t : Int) - r1) g1 g2
  rw [key, sgn_lex h1 h2]
  by_cases c1 : t = r1
  · rw [if_neg (not_not.mpr c1), c1, sub_self, mul_zero, zero_add]
    by_cases c2 : z = r0
    · rw [if_neg (not_not.mpr c2), if_pos (by omega)]
    · rw [if_pos c2, if_neg (show ¬ (z : Int) - r0 = 0 by omega)]
  · rw [if_neg (show ¬ (t : Int) - r1 = 0 by omega)] at hd
    have ne : ¬ (B : Int) * ((t : Int) - r1) + ((z : Int) - r0) = 0 := fun e0 => by
      rw [e0, sgn_zero] at hd
      have := (sgn_eq_iff _).2.1.mp hd.symm
      omega
    rw [if_pos c1, if_neg ne, hd]

/-- cmp_d.c:102-109: lexicographic comparison of the `ex` limbs of z against the two extracted limbs
    placed at the top; stated on the common scale B·z versus (d1·B + d0)·B^(ex-1). -/
theorem cmpLimbsD_spec (zp : List Nat) (hL : Limbs zp) (hn : 1 ≤ zp.length) (r0 r1 : Nat) (ret : Int)
    (h0 : r0 < B) :
    cmpLimbsD zp r0 r1 ret =
      ret * sgn (((val zp * B : Nat) : Int) - (((r1 * B + r0) * B ^ (zp.length - 1) : Nat) : Int)) := by
  have hne : zp ≠ [] := List.ne_nil_of_length_pos hn
  -- B·z = (top·B + z2)·P + lo, z2 the limb below the top (0 if there is none), lo < P what is left below
  have split : ∃ lo, lo < B ^ (zp.length - 1) ∧
      val zp * B = (zp.getD (zp.length - 1) 0 * B + (if zp.length = 1 then 0 else zp.getD (zp.length - 2) 0)) * B ^ (zp.length - 1) + lo ∧
      (zp.length = 1 → lo = 0) ∧ (lo ≠ 0 ↔ val (zp.take (zp.length - 2)) ≠ 0) := by
    by_cases n1 : zp.length = 1
    · refine ⟨0, Bpow_pos _, ?_, fun _ => rfl, by simp [n1]⟩
      rw [val_top_split zp hne, n1]; simp
    · have hP : B ^ (zp.length - 1) = B ^ (zp.length - 2) * B := by rw [← pow_succ]; congr 1; omega
      refine ⟨val (zp.take (zp.length - 2)) * B, ?_, ?_, fun h => absurd h n1, by simp [B_pos.ne']⟩
      · rw [hP]; exact Nat.mul_lt_mul_of_pos_right (val_take_lt hL _) B_pos
      · rw [if_neg n1, hP]; conv_lhs => rw [val_top2_split zp (by omega)]
        ring
  obtain ⟨lo, hlo, hval, hlo1, hnz⟩ := split
  have hz : (if zp.length = 1 then 0 else zp.getD (zp.length - 2) 0) < B := by
    split
    · exact B_pos
    · exact getD_lt hL _
  rw [hval, sgn_lex3 hz h0 hlo]
  unfold cmpLimbsD
  dsimp only
  by_cases c : zp.getD (zp.length - 1) 0 ≠ r1
  · rw [if_pos c, if_pos c, ite_ge_eq_sgn c]
  · rw [if_neg c, if_neg c]
    by_cases n1 : zp.length = 1
    · rw [if_pos n1, if_pos n1, hlo1 n1]
      by_cases z : r0 ≠ 0
      · rw [if_pos z, if_pos (Ne.symm z), sgn_neg (by omega), mul_neg_one]
      · rw [if_neg z, if_neg (fun h => z (Ne.symm h)), Nat.cast_zero, sgn_zero, mul_zero]
    · rw [if_neg n1, if_neg n1]
      by_cases c2 : zp.getD (zp.length - 2) 0 ≠ r0
      · rw [if_pos c2, if_pos c2, ite_ge_eq_sgn c2]
      · rw [if_neg c2, if_neg c2]
        by_cases a : (zp.take (zp.length - 2)).any (· != 0) = true
        · have := hnz.mpr ((any_ne_zero_iff _).mp a)
          rw [if_pos a, sgn_pos (by omega), mul_one]
        · have : lo = 0 := by
            by_contra ne; exact a ((any_ne_zero_iff _).mpr (hnz.mp ne))
          rw [if_neg a, this, Nat.cast_zero, sgn_zero, mul_zero]


theorem dblNum_pos {b : Nat} (hz : isZero b = false) : 0 < dblNum b := by
  unfold isZero at hz; simp at hz
  unfold dblNum
  by_cases e : expOf b = 0
  · rw [if_pos e]; unfold expOf at e; unfold manOf; omega
  · rw [if_neg e]; exact Nat.mul_pos (by omega) (Nat.two_pow_pos _)

theorem lt_one_iff (d : Nat) (hd : d < 2 ^ 63) : d < oneBits ↔ expOf d < 1023 := by
  unfold oneBits expOf; omega

theorem dblNum_lt_one {b : Nat} (h : expOf b < 1023) : dblNum b < 2 ^ 1074 := by
  have hm : manOf b < 2 ^ 52 := by unfold manOf; omega
  unfold dblNum
  by_cases e : expOf b = 0
  · rw [if_pos e]
    exact lt_of_lt_of_le hm (Nat.pow_le_pow_right (by decide) (by decide))
  · rw [if_neg e]
    calc (2 ^ 52 + manOf b) * 2 ^ (expOf b - 1) < 2 ^ 53 * 2 ^ (expOf b - 1) := Nat.mul_lt_mul_of_pos_right (by omega) (Nat.two_pow_pos _)
      _ ≤ 2 ^ 53 * 2 ^ 1021 := Nat.mul_le_mul_left _ (Nat.pow_le_pow_right (by decide) (by omega))
      _ = 2 ^ 1074 := by rw [← pow_add]

/-- steps 3-5 of mpz_cmp_d / mpz_cmpabs_d -/
theorem cmpTailD_spec (zp : List Nat) (hL : Limbs zp) (ht : Normalized zp) (hne : zp ≠ []) (zsize : Int)
    (hzs : zsize = zp.length) (d : Nat) (hd : d < 2 ^ 63) (hz : isZero d = false) (hf : expOf d ≠ 2047) (ret : Int) :
    cmpTailD zp zsize d ret = ret * sgn ((val zp : Int) * 2 ^ 1074 - dblNum d) := by
  have hn := List.length_pos_of_ne_nil hne
  have vlo := ht.ge hne
  have vhi := val_lt zp hL
  unfold cmpTailD
  by_cases lt : d < oneBits
  · have : dblNum d < val zp * 2 ^ 1074 :=
      lt_of_lt_of_le (dblNum_lt_one ((lt_one_iff d hd).mp lt)) (Nat.le_mul_of_pos_left _ (lt_of_lt_of_le (Bpow_pos _) vlo))
    have pos : (0 : Int) < (val zp : Int) * 2 ^ 1074 - dblNum d := by
      have := Int.ofNat_lt.mpr this
      push_cast at this; exact sub_pos.mpr this
    rw [if_pos lt, sgn_pos pos, mul_one]
  · obtain ⟨r0, r1, ex, he, h0, h1, h1', _, _, hrel, hex1, _⟩ := extract_double_eq d hz hf
    have ex1 : 1 ≤ ex := hex1 (by have := (lt_one_iff d hd).not.mp lt; omega)
    rw [if_neg lt, he]
    dsimp only
    -- both sides on the scale 2^1010: |d|·2^1074 = (r1·B + r0)·B^(ex-1)·2^1010 and 2^1074 = B·2^1010
    have hdn : dblNum d = (r1 * B + r0) * B ^ (ex.toNat - 1) * 2 ^ 1010 := by
      have : (64 * ex + 1074).toNat = 64 * (ex.toNat - 1) + 1010 + 128 := by omega
      rw [this, pow_add, pow_add, ← Nat.mul_assoc, ← Nat.mul_assoc, ← B_pow] at hrel
      exact (Nat.eq_of_mul_eq_mul_right (Nat.two_pow_pos 128) hrel).symm
    have key : (val zp : Int) * 2 ^ 1074 - dblNum d =
        ((2 ^ 1010 : Nat) : Int) * (((val zp * B : Nat) : Int) - (((r1 * B + r0) * B ^ (ex.toNat - 1) : Nat) : Int)) := by
      have : ((2 : Int) ^ 1074) = ((B * 2 ^ 1010 : Nat) : Int) := by rw [B_eq_pow, ← pow_add]; push_cast; rfl
      rw [this, hdn]; push_cast; ring
    rw [key, sgn_mul_pos (by exact_mod_cast Nat.two_pow_pos 1010)]
    have x1 : B ^ 1 ≤ r1 * B + r0 := by rw [pow_one]; exact le_trans (Nat.le_mul_of_pos_left _ h1) (Nat.le_add_right _ _)
    have x2 : r1 * B + r0 < B ^ 2 := two_limbs_lt h0 h1'
    by_cases ne : zsize ≠ ex
    · rw [if_pos ne]
      by_cases ge : zsize ≥ ex
      · -- more limbs than the double
        have := mul_pow_lt_mul_pow (α := ex.toNat - 1) (β := 1) x2 vlo (by omega)
        rw [pow_one] at this
        rw [if_pos ge, sgn_pos (by omega), mul_one]
      · have := mul_pow_lt_mul_pow (α := 1) (β := ex.toNat - 1) vhi x1 (by omega)
        rw [pow_one] at this
        rw [if_neg ge, sgn_neg (by omega), mul_neg_one]
    · have : ex.toNat = zp.length := by omega
      rw [if_neg ne, this]
      exact cmpLimbsD_spec zp hL hn r0 r1 ret h0


/-! ### mpf: mantissa and low exponent; mpf_cmp (mpf/cmp.c) -/

/-- exact value of a finite double scaled by 2^1074, with its sign -/
def dblInt (b : Nat) : Int := if sigOf b = 1 then -(dblNum b : Int) else (dblNum b : Int)

/-- signed mantissa of an mpf: value = F.mant · B^(exp - |size|) -/
def F.mant (f : F) : Int := if f.size < 0 then -(val f.d : Int) else (val f.d : Int)

/-- limb exponent of the least significant limb: value = mant · B^lowExp -/
def F.lowExp (f : F) : Int := f.exp - f.size.natAbs

/-- the two-limb shape of `set_d_shapes` read as an mpf -/
theorem set_d_shape_F (r0 r1 : Nat) (h0 : r0 < B) (h1 : 1 ≤ r1) (h1' : r1 < B) (s : Bool) (ex : Int) :
    F.wf ⟨if s then -2 else 2, ex, [r0, r1]⟩ ∧
    F.mant ⟨if s then -2 else 2, ex, [r0, r1]⟩ = (if s then -1 else 1) * ((r1 * B + r0 : Nat) : Int) := by
  obtain ⟨w, t⟩ := (set_d_shapes r0 r1 h0 h1 h1' s).2.2 0
  simp only [List.replicate_zero, List.nil_append, pow_zero, Nat.mul_one, Nat.zero_add, Nat.cast_ofNat] at w t
  exact ⟨⟨w.1, w.2.1, w.2.2, fun h => by cases s <;> simp at h⟩, t⟩

theorem sgn_natCast_sub_of_lt {a b : Nat} (h : a < b) : sgn ((a : Int) - b) = -1 := sgn_neg (by omega)
theorem sgn_natCast_sub_of_gt {a b : Nat} (h : b < a) : sgn ((a : Int) - b) = 1 := sgn_pos (by omega)

/-- the lowest limb is not zero (what `stripLow` leaves) -/
def HeadNZ (l : List Nat) : Prop := l.head? ≠ some 0

theorem stripLow_cons (x : Nat) (xs : List Nat) :
    stripLow (x :: xs) = if x = 0 then stripLow xs else x :: xs := by
  unfold stripLow
  by_cases h : x = 0
  · subst h; simp
  · simp [h]

theorem stripLow_headNZ (l : List Nat) : HeadNZ (stripLow l) := (dropWhile_zero_spec l).choose_spec.2.1

theorem stripLow_val (l : List Nat) : (stripLow l).length ≤ l.length ∧
    val l = B ^ (l.length - (stripLow l).length) * val (stripLow l) :=
  ⟨(List.dropWhile_sublist _).length_le, val_dropWhile_zero l⟩

theorem Limbs_stripLow {l : List Nat} (h : Limbs l) : Limbs (stripLow l) :=
  fun x hx => h x ((List.dropWhile_sublist _).subset hx)

theorem val_take_pos {s : List Nat} (hh : HeadNZ s) {j : Nat} (h1 : 1 ≤ j) (h2 : j ≤ s.length) : 0 < val (s.take j) := by
  cases s with
  | nil => simp at h2; omega
  | cons h t =>
    have hne : h ≠ 0 := by intro e; subst e; exact hh (by simp)
    obtain ⟨j', rfl⟩ : ∃ j', j = j' + 1 := ⟨j - 1, by omega⟩
    rw [List.take_succ_cons, val_cons]; omega

/-- two limb vectors aligned at their high ends on a scale of K limbs, the first at least as long: the limbs of the
    first above the length of the second decide, and on equality its extra low limbs -/
theorem sgn_aligned {up vp : List Nat} (hu : Limbs up) (h : vp.length ≤ up.length) {K : Nat} (hK : up.length ≤ K) :
    sgn (((val up * B ^ (K - up.length) : Nat) : Int) - ((val vp * B ^ (K - vp.length) : Nat) : Int)) =
      if (val (up.drop (up.length - vp.length)) : Int) - val vp = 0 then sgn (val (up.take (up.length - vp.length)))
      else sgn ((val (up.drop (up.length - vp.length)) : Int) - val vp) := by
  have e := val_take_drop up (up.length - vp.length) (by omega)
  have lt := val_take_lt hu (up.length - vp.length)
  have hP : B ^ (K - vp.length) = B ^ (K - up.length) * B ^ (up.length - vp.length) := by
    rw [← pow_add]; congr 1; omega
  have T : ((val up * B ^ (K - up.length) : Nat) : Int) - ((val vp * B ^ (K - vp.length) : Nat) : Int) =
      ((B ^ (K - up.length) : Nat) : Int) * (((B ^ (up.length - vp.length) : Nat) : Int) *
        ((val (up.drop (up.length - vp.length)) : Int) - val vp) + val (up.take (up.length - vp.length))) := by
    rw [hP]; conv_lhs => rw [e]
    push_cast; ring
  have r1 : -((B ^ (up.length - vp.length) : Nat) : Int) < val (up.take (up.length - vp.length)) := by omega
  have r2 : (val (up.take (up.length - vp.length)) : Int) < (B ^ (up.length - vp.length) : Nat) := by omega
  rw [T, sgn_mul_pos (by exact_mod_cast Bpow_pos _), sgn_lex r1 r2]

/-- the mantissa comparison of mpf_cmp on stripped operands, on a common top-aligned scale K -/
theorem mpf_cmp_limbs_spec (up vp : List Nat) (hu : Limbs up) (hv : Limbs vp) (hhu : HeadNZ up) (hhv : HeadNZ vp)
    (usign : Int) (K : Nat) (hK1 : up.length ≤ K) (hK2 : vp.length ≤ K) :
    mpf_cmp_limbs up vp usign =
      usign * sgn (((val up * B ^ (K - up.length) : Nat) : Int) - ((val vp * B ^ (K - vp.length) : Nat) : Int)) := by
  unfold mpf_cmp_limbs
  dsimp only
  by_cases g : up.length > vp.length
  · have lo_pos : (0 : Int) < val (up.take (up.length - vp.length)) := by
      exact_mod_cast val_take_pos hhu (show 1 ≤ up.length - vp.length by omega) (by omega)
    rw [if_pos g, cmp_spec _ _ (Limbs_drop hu _) hv (by rw [List.length_drop]; omega), sgn_aligned hu (by omega) hK1]
    rcases lt_trichotomy ((val (up.drop (up.length - vp.length)) : Int) - val vp) 0 with h | h | h
    · rw [sgn_neg h, if_neg (by decide), if_neg (by decide), if_neg (by omega), mul_neg_one]
    · rw [h, sgn_zero, if_pos rfl, if_pos rfl, sgn_pos lo_pos, mul_one]
    · rw [sgn_pos h, if_neg (by decide), if_pos (by decide), if_neg (by omega), mul_one]
  · rw [if_neg g]
    by_cases g2 : vp.length > up.length
    · -- the same with the operands exchanged
      have lo_pos : (0 : Int) < val (vp.take (vp.length - up.length)) := by
        exact_mod_cast val_take_pos hhv (show 1 ≤ vp.length - up.length by omega) (by omega)
      have N : ∀ a b : Int, sgn (a - b) = -sgn (b - a) := fun a b => by rw [← sgn_neg_eq, neg_sub]
      rw [if_pos g2, cmp_spec _ _ hu (Limbs_drop hv _) (by rw [List.length_drop]; omega), N ((val up * B ^ (K - up.length) : Nat) : Int),
        sgn_aligned hv (show up.length ≤ vp.length by omega) hK2]
      rcases lt_trichotomy ((val up : Int) - val (vp.drop (vp.length - up.length))) 0 with h | h | h
      · rw [sgn_neg h, if_neg (by decide), if_neg (by decide), if_neg (by omega), sgn_pos (by omega)]; ring
      · rw [h, sgn_zero, if_pos rfl, if_pos (by omega), sgn_pos lo_pos]; ring
      · rw [sgn_pos h, if_neg (by decide), if_pos (by decide), if_neg (by omega), sgn_neg (by omega)]; ring
    · have hl : up.length = vp.length := by omega
      rw [if_neg g2, cmp_spec _ _ hu hv hl, sgn_aligned hu (by omega) hK1, hl, Nat.sub_self, List.drop_zero, List.take_zero,
        val_nil, Nat.cast_zero, sgn_zero]
      rcases lt_trichotomy ((val up : Int) - val vp) 0 with h | h | h
      · rw [sgn_neg h, if_neg (by decide), if_neg (by decide), if_neg (by omega), mul_neg_one]
      · rw [h, sgn_zero, if_pos rfl, if_pos rfl, mul_zero]
      · rw [sgn_pos h, if_neg (by decide), if_pos (by decide), if_neg (by omega), mul_one]

theorem sgn_usign_mul (s X : Int) (hs : s = 1 ∨ s = -1) : sgn (s * sgn X) = sgn (s * X) := by
  rcases hs with h | h
  · rw [h, one_mul, one_mul, sgn_sgn]
  · rw [h, neg_one_mul, neg_one_mul, sgn_neg_eq, sgn_sgn, sgn_neg_eq]


theorem F.mant_natAbs (f : F) : f.mant.natAbs = val f.d := Z.natAbs_toInt ⟨f.size, f.d⟩

theorem F.sgn_size {f : F} (h : f.wf) : sgn f.size = sgn f.mant :=
  Z.sgn_size (z := ⟨f.size, f.d⟩) ⟨h.1, h.2.1, h.2.2.1⟩

theorem F.mant_scaled_sign {f : F} (hf : f.wf) (k : Nat) :
    (f.size < 0 → f.mant * ((B ^ k : Nat) : Int) < 0) ∧ (f.size = 0 → f.mant * ((B ^ k : Nat) : Int) = 0) ∧
    (0 < f.size → 0 < f.mant * ((B ^ k : Nat) : Int)) :=
  sgn_carries (by rw [mul_comm, sgn_mul_pos (by exact_mod_cast Bpow_pos k), F.sgn_size hf])

theorem F.mant_eq_mul (f : F) : f.mant = (if f.size ≥ 0 then 1 else -1) * (val f.d : Int) := by
  unfold F.mant
  by_cases a : f.size ≥ 0
  · rw [if_neg (by omega), if_pos a, one_mul]
  · rw [if_pos (by omega), if_neg a, neg_one_mul]

theorem stripLow_scale (l : List Nat) {K : Nat} (hK : l.length ≤ K) :
    val (stripLow l) * B ^ (K - (stripLow l).length) = val l * B ^ (K - l.length) := by
  obtain ⟨h1, h2⟩ := stripLow_val l
  have : K - (stripLow l).length = (l.length - (stripLow l).length) + (K - l.length) := by omega
  rw [this, pow_add]; conv_rhs => rw [h2]
  ring

/-- The sign tests common to mpf_cmp and mpf_cmp_si: `su`, `sv` carry the signs of the exact values U, V;
    `inner` is what is returned when both are non-zero of the same sign. -/
theorem signed_cmp_spec {su sv U V inner : Int}
    (hU : (su < 0 → U < 0) ∧ (su = 0 → U = 0) ∧ (0 < su → 0 < U))
    (hV : (sv < 0 → V < 0) ∧ (sv = 0 → V = 0) ∧ (0 < sv → 0 < V))
    (hin : su ≠ 0 → sv ≠ 0 → (su < 0 ↔ sv < 0) → sgn inner = sgn (U - V)) :
    sgn (if (decide (su < 0) != decide (sv < 0)) = true then (if su ≥ 0 then 1 else -1)
      else if su = 0 then -(if sv ≠ 0 then 1 else 0)
      else if sv = 0 then (if su ≠ 0 then 1 else 0) else inner) = sgn (U - V) := by
  obtain ⟨u1, u2, u3⟩ := hU
  obtain ⟨v1, v2, v3⟩ := hV
  have same : ((decide (su < 0) != decide (sv < 0)) = true) ↔ ¬ (su < 0 ↔ sv < 0) := by
    by_cases a : su < 0 <;> by_cases b : sv < 0 <;> simp [a, b]
  by_cases hs : (decide (su < 0) != decide (sv < 0)) = true
  · have := same.mp hs
    rw [if_pos hs]
    by_cases a : su ≥ 0
    · rw [if_pos a]; exact sgn_eq_pos (by decide) (by omega)
    · rw [if_neg a]; exact sgn_eq_neg (by decide) (by omega)
  · have := same.not.mp hs
    rw [if_neg hs]
    by_cases a : su = 0
    · rw [if_pos a]
      by_cases b : sv = 0
      · rw [if_neg (not_not.mpr b)]; exact sgn_eq_zero (by decide) (by omega)
      · rw [if_pos b]; exact sgn_eq_neg (by decide) (by omega)
    · rw [if_neg a]
      by_cases b : sv = 0
      · rw [if_pos b, if_pos a]; exact sgn_eq_pos (by decide) (by omega)
      · rw [if_neg b]; exact hin a b (by omega)

/-- mpf/cmp.c:60-107 for non-zero operands of the same sign, both as integers on any common scale B^m -/
theorem mpf_cmp_abs (u v : F) (hu : u.wf) (hv : v.wf) (hu0 : u.size ≠ 0) (hv0 : v.size ≠ 0) (usign : Int)
    (m : Int) (hmu : m ≤ u.lowExp) (hmv : m ≤ v.lowExp) :
    (if u.exp > v.exp then usign else if u.exp < v.exp then -usign
      else mpf_cmp_limbs (stripLow u.d) (stripLow v.d) usign) =
    usign * sgn (((val u.d * B ^ (u.lowExp - m).toNat : Nat) : Int) - ((val v.d * B ^ (v.lowExp - m).toNat : Nat) : Int)) := by
  obtain ⟨_, u1, u2⟩ := F.wf_bounds hu
  obtain ⟨_, v1, v2⟩ := F.wf_bounds hv
  have u1 := u1 hu0
  have v1 := v1 hv0
  have ul := hu.1
  have vl := hv.1
  have pu : 0 < u.size.natAbs := by omega
  have pv : 0 < v.size.natAbs := by omega
  -- the low exponents relative to m as naturals α, β: then exp = m + α + number of limbs
  obtain ⟨α, hα⟩ := Int.eq_ofNat_of_zero_le (sub_nonneg.mpr hmu)
  obtain ⟨β, hβ⟩ := Int.eq_ofNat_of_zero_le (sub_nonneg.mpr hmv)
  rw [hα, hβ, Int.toNat_natCast, Int.toNat_natCast]
  unfold F.lowExp at hα hβ
  generalize u.size.natAbs = a at *
  generalize v.size.natAbs = b at *
  clear hu0 hv0 hmu hmv
  by_cases g : u.exp > v.exp
  · have := mul_pow_lt_mul_pow (α := β) (β := α) v2 u1 (by omega)
    rw [if_pos g, sgn_natCast_sub_of_gt this, mul_one]
  · rw [if_neg g]
    by_cases g2 : u.exp < v.exp
    · have := mul_pow_lt_mul_pow (α := α) (β := β) u2 v1 (by omega)
      rw [if_pos g2, sgn_natCast_sub_of_lt this, mul_neg_one]
    · -- equal exponents: both mantissas top-aligned on a scale of a + α = b + β limbs
      have hK : b + β = a + α := by omega
      have su := (stripLow_val u.d).1
      have sv := (stripLow_val v.d).1
      rw [if_neg g2]
      clear hα hβ g g2 u1 u2 v1 v2
      rw [mpf_cmp_limbs_spec _ _ (Limbs_stripLow hu.2.1) (Limbs_stripLow hv.2.1) (stripLow_headNZ _) (stripLow_headNZ _)
        usign (a + α) (by omega) (by omega), stripLow_scale _ (by omega), stripLow_scale _ (by omega),
        show a + α - u.d.length = α by omega, show a + α - v.d.length = β by omega]

theorem mpf_cmp_sgn (u v : F) (hu : u.wf) (hv : v.wf) :
    sgn (mpf_cmp u v) =
      sgn (u.mant * ((B ^ (u.lowExp - min u.lowExp v.lowExp).toNat : Nat) : Int)
         - v.mant * ((B ^ (v.lowExp - min u.lowExp v.lowExp).toNat : Nat) : Int)) := by
  unfold mpf_cmp
  dsimp only
  refine signed_cmp_spec (F.mant_scaled_sign hu _) (F.mant_scaled_sign hv _) (fun hu0 hv0 same => ?_)
  have hsg : (if u.size ≥ 0 then (1 : Int) else -1) = 1 ∨ (if u.size ≥ 0 then (1 : Int) else -1) = -1 := by
    by_cases a : u.size ≥ 0 <;> simp [a]
  have mv : v.mant = (if u.size ≥ 0 then 1 else -1) * (val v.d : Int) := by
    rw [F.mant_eq_mul, if_congr (show v.size ≥ 0 ↔ u.size ≥ 0 by omega) rfl rfl]
  rw [mpf_cmp_abs u v hu hv hu0 hv0 _ _ (min_le_left _ _) (min_le_right _ _), sgn_usign_mul _ _ hsg, mv, F.mant_eq_mul u]
  congr 1; push_cast; ring

/-! ### mpf against one limb; truncation to an integer -/

theorem stripLow_snoc (init : List Nat) {top : Nat} (h : top ≠ 0) : stripLow (init ++ [top]) = stripLow init ++ [top] := by
  induction init with
  | nil => simp [stripLow, h]
  | cons x xs ih =>
    rw [List.cons_append, stripLow_cons, stripLow_cons, ih]
    split <;> rfl

theorem cmp_singleton_ite (a b : Nat) (x y z : Int) :
    (if Mpir.cmp [a] [b] = 0 then x else if Mpir.cmp [a] [b] > 0 then y else z) =
      if a > b then y else if a < b then z else x := by
  have e : Mpir.cmp [a] [b] = if a ≠ b then (if a > b then 1 else -1) else 0 := rfl
  rcases lt_trichotomy a b with h | h | h
  · have hc : Mpir.cmp [a] [b] = -1 := by rw [e, if_pos (by omega), if_neg (by omega)]
    rw [hc, if_neg (by decide), if_neg (by decide), if_neg (by omega), if_pos h]
  · have hc : Mpir.cmp [a] [b] = 0 := by rw [e, if_neg (by omega)]
    rw [hc, if_pos rfl, if_neg (by omega), if_neg (by omega)]
  · have hc : Mpir.cmp [a] [b] = 1 := by rw [e, if_pos (by omega), if_pos h]
    rw [hc, if_neg (by decide), if_pos (by decide), if_pos h]

theorem mpf_cmp_limbs_one (init : List Nat) {top : Nat} (ht : top ≠ 0) (vv : Nat) (usign : Int) :
    mpf_cmp_limbs (stripLow (init ++ [top])) [vv] usign =
      if top > vv then usign else if top < vv then -usign
      else if (stripLow (init ++ [top])).length > 1 then usign else 0 := by
  rw [stripLow_snoc init ht]
  unfold mpf_cmp_limbs
  simp only [List.length_append, List.length_cons, List.length_nil, Nat.zero_add, Nat.add_sub_cancel, List.drop_left]
  by_cases g : (stripLow init).length + 1 > 1
  · rw [if_pos g, if_pos g, cmp_singleton_ite]
  · have e : stripLow init = [] := List.length_eq_zero_iff.mp (by omega)
    rw [if_neg g, if_neg g, if_neg (by omega), e, List.nil_append, cmp_singleton_ite]

/-- steps 2-4 of mpf_cmp_ui / mpf_cmp_si: |u| against a non-zero one-limb value on a common integer scale -/
theorem mpf_cmp_limb1_spec (u : F) (hu : u.wf) (vv : Nat) (hv0 : 0 < vv) (hvB : vv < B) (usign : Int) :
    mpf_cmp_limb1 u vv usign =
      usign * sgn ((val u.d : Int) * ((B ^ (u.lowExp - min u.lowExp 0).toNat : Nat) : Int)
        - (vv : Int) * ((B ^ (0 - min u.lowExp 0).toNat : Nat) : Int)) := by
  rw [← Nat.cast_mul, ← Nat.cast_mul]
  by_cases hu0 : u.size = 0
  · -- u = 0 has exponent 0
    have he := hu.2.2.2 hu0
    unfold mpf_cmp_limb1
    rw [if_neg (by omega), if_pos (by omega), (F.wf_bounds hu).1 hu0, Nat.zero_mul,
      sgn_natCast_sub_of_lt (Nat.mul_pos hv0 (Bpow_pos _)), mul_neg_one]
  · -- otherwise it is mpf_cmp against the mpf with the one limb vv and exponent 1
    have wv : F.wf ⟨1, 1, [vv]⟩ :=
      ⟨rfl, Limbs_cons.mpr ⟨hvB, Limbs_nil⟩, fun _ => by simp; omega, fun h => absurd h one_ne_zero⟩
    have hl : F.lowExp ⟨1, 1, [vv]⟩ = 0 := rfl
    have key := mpf_cmp_abs u ⟨1, 1, [vv]⟩ hu wv hu0 one_ne_zero usign (min u.lowExp 0) (min_le_left _ _)
      (by rw [hl]; exact min_le_right _ _)
    rw [hl] at key
    dsimp only at key
    rw [show val [vv] = vv by simp, show stripLow [vv] = [vv] by rw [stripLow_cons, if_neg (by omega)]] at key
    rw [← key]
    unfold mpf_cmp_limb1
    dsimp only
    have hne : u.d ≠ [] := ne_nil_of_size hu.1 hu0
    have one := mpf_cmp_limbs_one (u.d.take (u.d.length - 1)) ((normalized_iff_getD hne).mp (hu.2.2.1 hne)) vv usign
    rw [← split_top1 u.d (u.d.length - 1) (by have := List.length_pos_of_ne_nil hne; omega)] at one
    rw [← hu.1, one]

/-- floor |f| -/
def F.truncNat (f : F) : Nat :=
  if f.lowExp ≥ 0 then val f.d * B ^ f.lowExp.toNat else val f.d / B ^ (-f.lowExp).toNat
def F.truncInt (f : F) : Int := if f.size < 0 then -(f.truncNat : Int) else (f.truncNat : Int)

theorem F.trunc_facts {f : F} (h : f.wf) :
    (f.exp ≤ 0 → f.truncNat = 0) ∧
    (f.exp = 1 → f.truncNat = f.d.getD (f.size.natAbs - 1) 0 ∧ 1 ≤ f.truncNat ∧ f.truncNat < B) ∧
    (2 ≤ f.exp → B ≤ f.truncNat) ∧
    (0 < f.exp → f.truncNat % B = mpf_intLimb f) := by
  obtain ⟨u0, u1, u2⟩ := F.wf_bounds h
  have ul := h.1
  have hs : f.exp ≠ 0 → f.size ≠ 0 := fun he hz => he (h.2.2.2 hz)
  refine ⟨fun he => ?_, fun he => ?_, fun he => ?_, fun he => ?_⟩
  · unfold F.truncNat F.lowExp
    by_cases s0 : f.size = 0
    · rw [u0 s0]; simp
    · rw [if_neg (by omega)]
      exact Nat.div_eq_of_lt (lt_of_lt_of_le u2 (pow_le_pow_B (by omega)))
  · have hne : f.d ≠ [] := ne_nil_of_size ul (hs (by omega))
    have e := val_top_split f.d hne
    have b := val_take_lt h.2.1 (f.d.length - 1)
    have tnz := (normalized_iff_getD hne).mp (h.2.2.1 hne)
    have tlt := getD_lt h.2.1 (f.d.length - 1)
    rw [ul] at e b tnz tlt
    have key : f.truncNat = f.d.getD (f.size.natAbs - 1) 0 := by
      unfold F.truncNat F.lowExp
      by_cases n1 : f.size.natAbs = 1
      · have : (f.exp - ((1 : Nat) : Int)).toNat = 0 := by omega
        rw [if_pos (by omega), e, n1, this]; simp
      · have : (-(f.exp - (f.size.natAbs : Int))).toNat = f.size.natAbs - 1 := by omega
        rw [if_neg (by omega), this, e, Nat.add_mul_div_left _ _ (Bpow_pos _), Nat.div_eq_of_lt b, Nat.zero_add]
    rw [key]; exact ⟨rfl, by omega, tlt⟩
  · have hu1 := u1 (hs (by omega))
    unfold F.truncNat F.lowExp
    by_cases c : f.exp - (f.size.natAbs : Int) ≥ 0
    · rw [if_pos c]
      calc B ≤ B ^ ((f.size.natAbs - 1) + (f.exp - (f.size.natAbs : Int)).toNat) := B_le_Bpow (by omega)
        _ = B ^ (f.size.natAbs - 1) * B ^ (f.exp - (f.size.natAbs : Int)).toNat := by rw [pow_add]
        _ ≤ val f.d * B ^ (f.exp - (f.size.natAbs : Int)).toNat := Nat.mul_le_mul_right _ hu1
    · rw [if_neg c, Nat.le_div_iff_mul_le (Bpow_pos _)]
      calc B * B ^ (-(f.exp - (f.size.natAbs : Int))).toNat = B ^ (1 + (-(f.exp - (f.size.natAbs : Int))).toNat) := by
            rw [pow_add, pow_one]
        _ ≤ B ^ (f.size.natAbs - 1) := pow_le_pow_B (by omega)
        _ ≤ val f.d := hu1
  · unfold F.truncNat F.lowExp mpf_intLimb
    dsimp only
    by_cases c : (f.size.natAbs : Int) ≥ f.exp
    · rw [if_pos c, ← val_div_mod h.2.1]
      by_cases c0 : f.exp - (f.size.natAbs : Int) ≥ 0
      · have e0 : (f.exp - (f.size.natAbs : Int)).toNat = 0 := by omega
        have e1 : ((f.size.natAbs : Int) - f.exp).toNat = 0 := by omega
        rw [if_pos c0, e0, e1, pow_zero, Nat.mul_one, Nat.div_one]
      · have e1 : (-(f.exp - (f.size.natAbs : Int))).toNat = ((f.size.natAbs : Int) - f.exp).toNat := by omega
        rw [if_neg c0, e1]
    · have : (f.exp - (f.size.natAbs : Int)).toNat = ((f.exp - (f.size.natAbs : Int)).toNat - 1) + 1 := by omega
      rw [if_neg c, if_pos (by omega), this, pow_succ, ← Nat.mul_assoc]; exact Nat.mul_mod_left _ _

end Mpir.Conv
