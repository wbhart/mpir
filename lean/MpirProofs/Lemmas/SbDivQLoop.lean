/-
  mpn_sb_divappr_q: its steps (from the shared cores of Lemmas/SbDiv.lean), __divappr_helper, the last limb, the truncating loop.
  Invariant of `daLoop2 k` (divisor V on k+2 limbs, window W on k+3 limbs, c the divisor limb dropped just before, W < c + B·V):
  the k+1 quotient limbs Q satisfy B^(k+1)·(W + 1) ≤ (Q + 1)·(c + B·V) (Q is not too small) whichever branch is taken, and the
  three limbs left in np[0..2] are exactly W - tS V Q (k+1) (the truncated product of Lemmas/DcDivapprArith.lean).  That Q is not
  much too large follows from this identity alone (`tS_bounds`).
-/
import MpirProofs.Lemmas.SbDiv
import MpirProofs.Lemmas.DcDivapprArith
namespace Mpir.SbDivQ
open Mpir Mpir.DivWord Mpir.SbDiv Mpir.DcDivappr

theorem add_ssaaaa_twice (cy n1 d1 d0 c : Nat) :
    (add_ssaaaa (add_ssaaaa cy n1 d1 d0).1 (add_ssaaaa cy n1 d1 d0).2 0 c).2 = (n1 + d0 + c) % B ∧
    (add_ssaaaa (add_ssaaaa cy n1 d1 d0).1 (add_ssaaaa cy n1 d1 d0).2 0 c).1 = (cy + d1 + (n1 + d0 + c) / B) % B := by
  unfold add_ssaaaa
  simp only [B_eq]
  constructor <;> omega

/-- `ExactStep` with the two top limbs of the remainder in registers, as mpn_sb_divappr_q keeps them -/
abbrev ExactStep2 (V W k : Nat) (r : Nat × List Nat × Nat × Nat) : Prop :=
  W = r.1 * V + (val r.2.1 + B ^ k * (r.2.2.2 + B * r.2.2.1)) ∧ val r.2.1 + B ^ k * (r.2.2.2 + B * r.2.2.1) < V ∧
    r.1 < B ∧ Limbs r.2.1 ∧ r.2.1.length = k ∧ r.2.2.2 < B ∧ r.2.2.1 < B

theorem daRegFix_spec (dlo alo : List Nat) (d0 d1 m0 n1 cy : Nat) (hlen : alo.length = dlo.length)
    (hD : NormDiv dlo d0 d1) (halo : Limbs alo) (hm0 : m0 < B) (hn1 : n1 < B) (hcy : cy < B)
    (hN : n1 + B * cy < d0 + B * d1) :
    ExactStep2 (val dlo + B ^ dlo.length * (d0 + B * d1)) (val alo + B ^ dlo.length * (m0 + B * n1 + B * B * cy))
      dlo.length (daFix dlo d1 d0 (daRegular dlo d1 d0 (invert_pi1 d1 d0) alo m0 n1 cy)) := by
  obtain ⟨q, rl, b, n1s, n0s, e, hq, hrl, hrn, hs1, hs0, hnb, hbo⟩ :=
    daRegular_spec dlo alo d0 d1 m0 n1 cy hlen hD halo hm0 hn1 hcy hN
  rw [e]
  unfold daFix
  simp only []
  by_cases hb : b = 0
  · obtain ⟨k1, k2⟩ := hnb hb
    rw [if_neg (not_not.mpr hb)]
    exact ⟨k1, k2, hq, hrl, hrn, hs0, hs1⟩
  · obtain ⟨k1, k2, k3⟩ := hbo hb
    obtain ⟨vs, c1, es, av, _, al, an⟩ := add_n_spec hrl hD.lo hrn
    obtain ⟨eb2, eb1⟩ := add_ssaaaa_twice n1s n0s d1 d0 c1
    rw [if_pos hb, es]
    simp only []
    rw [eb2, eb1]
    have hsplit := Nat.div_add_mod (n0s + d0 + c1) B
    have hlo := Nat.mod_lt (n0s + d0 + c1) B_pos
    generalize (n0s + d0 + c1) % B = n0' at *
    generalize (n0s + d0 + c1) / B = c at *
    rw [hrn] at av an
    have hvs := val_lt vs al
    rw [an] at hvs
    have hX : val vs + B ^ dlo.length * n0' < B ^ dlo.length * B := by
      have : B ^ dlo.length * (n0' + 1) ≤ B ^ dlo.length * B := Nat.mul_le_mul_left _ hlo
      rw [Nat.mul_succ] at this
      omega
    obtain ⟨a1, a2, a3, a4⟩ := regular_b (B ^ dlo.length * B) _ _ q _ (val vs + B ^ dlo.length * n0')
      (n1s + d1 + c) k1 k2 k3 hD.val_lt (by linear_combination av.symm + B ^ dlo.length * hsplit.symm) hX hq
    have eR : val vs + B ^ dlo.length * (n0' + B * ((n1s + d1 + c) % B))
        = val vs + B ^ dlo.length * n0' + B ^ dlo.length * B * ((n1s + d1 + c) % B) := by ring
    rw [← eR] at a1 a2
    exact ⟨a1, a2, a3, al, an, hlo, a4⟩

theorem daSpecial_eq (dp mem : List Nat) (cy : Nat) :
    daSpecial dp mem cy =
      (B - 1, (submul_1 mem dp (B - 1)).1.take (mem.length - 2), (cy + B - (submul_1 mem dp (B - 1)).2) % B,
        (submul_1 mem dp (B - 1)).1.getD (mem.length - 1) 0, (submul_1 mem dp (B - 1)).1.getD (mem.length - 2) 0) := rfl

/-- the q = B-1 step: the borrow out of mpn_submul_1 equals the top limb (cy2 = 0: no add-back) -/
theorem daSpecial_spec (dlo alo : List Nat) (d0 d1 m0 : Nat) (hlen : alo.length = dlo.length)
    (hD : NormDiv dlo d0 d1) (halo : Limbs alo) (hm0 : m0 < B)
    (hW : val alo + B ^ dlo.length * (m0 + B * d0 + B * B * d1) < B * (val dlo + B ^ dlo.length * (d0 + B * d1))) :
    ExactStep2 (val dlo + B ^ dlo.length * (d0 + B * d1)) (val alo + B ^ dlo.length * (m0 + B * d0 + B * B * d1))
      dlo.length (daFix dlo d1 d0 (daSpecial (dlo ++ [d0, d1]) (alo ++ [m0, d0]) d1)) := by
  obtain ⟨r, er, hrl, hrn, k1, k2⟩ := special_core dlo alo d0 d1 m0 hlen hD halo hm0 hW
  have eLa : (alo ++ [m0, d0]).length = dlo.length + 2 := by simp [hlen]
  have hz : (d1 + B - d1) % B = 0 := by rw [Nat.add_sub_cancel_left]; exact Nat.mod_self _
  rw [daSpecial_eq, er, eLa]
  unfold daFix
  simp only [hz, ne_eq, not_true_eq_false, if_false]
  rw [← split_top2_val r dlo.length hrn] at k1 k2
  exact ⟨k1, k2, Nat.sub_lt B_pos Nat.one_pos, Limbs_take hrl _, by rw [List.length_take, hrn]; omega, getD_lt hrl _,
    getD_lt hrl _⟩

theorem trunc_step (P W q V R Q' c : Nat) (hW : W = q * V + R) (h1 : P * (R + 1) ≤ (Q' + 1) * V) :
    P * B * (W + 1) ≤ (Q' + P * q + 1) * (c + B * V) := by
  subst hW
  have a : B * (P * (R + 1)) ≤ B * ((Q' + 1) * V) := Nat.mul_le_mul_left _ h1
  have e1 : P * B * (q * V + R + 1) = B * P * q * V + B * (P * (R + 1)) := by ring
  have e2 : (Q' + P * q + 1) * (c + B * V) = (Q' + P * q + 1) * c + B * P * q * V + B * ((Q' + 1) * V) := by ring
  omega

/-- all remaining quotient limbs set to B-1 (Q + 1 = P = B^(number of limbs)) -/
theorem trunc_sat (P Q W V c : Nat) (hQ : Q + 1 = P) (hW1 : W < c + B * V) : P * (W + 1) ≤ (Q + 1) * (c + B * V) := by
  rw [hQ]; exact Nat.mul_le_mul_left _ hW1

theorem trunc_base (W V q R c : Nat) (hW : W = q * V + R) (hR : R < V) : B * (W + 1) ≤ (q + 1) * (c + B * V) := by
  subst hW
  have a : B * (R + 1) ≤ B * V := Nat.mul_le_mul_left _ hR
  have e1 : B * (q * V + R + 1) = B * (q * V) + B * (R + 1) := by ring
  have e2 : (q + 1) * (c + B * V) = (q + 1) * c + B * (q * V) + B * V := by ring
  omega

theorem mul_le_add_mul_iff {x a b : Nat} (hx : x < B) : B * b ≤ x + B * a ↔ b ≤ a := by
  have := DivWord.lex_le_iff (M := B) (x := 0) (y := b) (x' := x) (y' := a) B_pos hx
  simp only [Nat.zero_add] at this
  rw [this]; omega

theorem val_window1 (alo : List Nat) (m0 n1 cy : Nat) {k : Nat} (hlen : alo.length = k) :
    val (alo ++ [m0]) + B ^ (k + 1) * (n1 + B * cy) = val alo + B ^ k * (m0 + B * n1 + B * B * cy) := by
  rw [val_snoc, hlen, pow_k1]; ring

/-- the test sb_divappr_q.c:142-147 fires exactly when the window is ≥ B·divisor -/
theorem daSat_iff (dlo m : List Nat) (d0 d1 n1 cy : Nat) (hm : m.length = dlo.length + 1)
    (hdlo : Limbs dlo) (hml : Limbs m) (hd0 : d0 < B) (hn1 : n1 < B) :
    (cy ≥ d1 ∧ (cy > d1 ∨ (cy = d1 ∧
        cmp ((m ++ [n1]).drop 1) ((dlo ++ [d0, d1]).take (dlo.length + 1)) ≥ 0))) ↔
      B * val (dlo ++ [d0, d1]) ≤ val m + B ^ (dlo.length + 1) * (n1 + B * cy) := by
  match m, hm, hml with
  | ml :: mr, hm, hml =>
    have ⟨hml0, hmr⟩ := Limbs_cons.mp hml
    have hmrl : mr.length = dlo.length := by simpa using hm
    have hc := cmp_ge_iff (mr ++ [n1]) (dlo ++ [d0]) (Limbs.snoc hmr hn1) (Limbs.snoc hdlo hd0) (by simp [hmrl])
    have hX := val_lt _ (Limbs.snoc hmr hn1)
    have hY := val_lt _ (Limbs.snoc hdlo hd0)
    rw [List.length_append, List.length_singleton, hmrl] at hX
    rw [List.length_append, List.length_singleton] at hY
    have eW : val (ml :: mr) + B ^ (dlo.length + 1) * (n1 + B * cy)
        = ml + B * (val (mr ++ [n1]) + B ^ (dlo.length + 1) * cy) := by
      rw [val_cons, val_snoc, hmrl, pow_succ]; ring
    have eV : val (dlo ++ [d0, d1]) = val (dlo ++ [d0]) + B ^ (dlo.length + 1) * d1 := by
      rw [val_top2, val_snoc, pow_succ]; ring
    rw [show ((ml :: mr) ++ [n1]).drop 1 = mr ++ [n1] from rfl, take_top1, hc, eW, eV, mul_le_add_mul_iff hml0,
      lex_le_iff hY hX]
    omega

theorem daStep2_spec (dlo m : List Nat) (d0 d1 n1 cy : Nat) (hm : m.length = dlo.length + 1)
    (hD : NormDiv dlo d0 d1) (hml : Limbs m) (hn1 : n1 < B) (hcy : cy < B)
    (hW : val m + B ^ (dlo.length + 1) * (n1 + B * cy) < B * val (dlo ++ [d0, d1])) :
    ExactStep2 (val (dlo ++ [d0, d1])) (val m + B ^ (dlo.length + 1) * (n1 + B * cy)) dlo.length
      (daFix ((dlo ++ [d0, d1]).take dlo.length) d1 d0
        (if cy ≥ d1 ∧ n1 ≥ d0 then daSpecial (dlo ++ [d0, d1]) (m ++ [n1]) cy
         else daRegular ((dlo ++ [d0, d1]).take dlo.length) d1 d0 (invert_pi1 d1 d0) (m.take dlo.length)
           (m.getD dlo.length 0) n1 cy)) := by
  obtain ⟨alo, m0, rfl, hlen, halo, hm0⟩ := exists_top1 hm hml
  rw [take_top, ← hlen, take_snoc, getD_snoc, hlen]
  rw [val_window1 alo m0 n1 cy hlen, val_top2] at hW ⊢
  have htop := top2_le _ _ _ _ m0 n1 cy (val_lt dlo hD.lo) hW
  rw [lex_le_iff hn1 hD.lt0] at htop
  by_cases hsp : cy ≥ d1 ∧ n1 ≥ d0
  · obtain ⟨rfl, rfl⟩ : cy = d1 ∧ n1 = d0 := by omega
    rw [if_pos hsp, List.append_assoc]
    exact daSpecial_spec dlo alo n1 cy m0 hlen hD halo hm0 hW
  · rw [if_neg hsp]
    exact daRegFix_spec dlo alo d0 d1 m0 n1 cy hlen hD halo hm0 hn1 hcy ((lex_lt_iff hn1 hD.lt0).mpr (by omega))

theorem sumd_succ_list (l : List Nat) (hl : Limbs l) (K : Nat) : sumd (val l) (K + 1) = sumd (val l) K + l.getD K 0 := by
  show sumd (val l) K + val l / B ^ K % B = _
  rw [val_div_mod hl K]

theorem sum_take_sumd (l : List Nat) (hl : Limbs l) : ∀ K, (l.take K).sum = sumd (val l) K
  | 0 => by simp [sumd]
  | K + 1 => by
    rw [sumd_succ_list l hl, ← sum_take_sumd l hl K, List.take_add_one, List.sum_append]
    congr 1
    rw [List.getD_eq_getElem?_getD]
    rcases l[K]? with _ | x <;> simp

theorem subNC_cons (u v cy : Nat) (us vs : List Nat) :
    (subNC (u :: us) (v :: vs) cy).1 =
      ((u + B - v) % B + B - cy) % B ::
        (subNC us vs (boolToNat ((u + B - v) % B > u) ||| boolToNat (((u + B - v) % B + B - cy) % B > (u + B - v) % B))).1 := by
  rw [subNC]

theorem sub_limb_c (u v cy : Nat) (hu : u < B) (hv : v < B) (hc : cy ≤ 1) :
    ∃ c, ((u + B - v) % B + B - cy) % B + v + cy = u + B * c ∧ c ≤ 1 ∧
      boolToNat ((u + B - v) % B > u) ||| boolToNat (((u + B - v) % B + B - cy) % B > (u + B - v) % B) = c :=
  ⟨_, (sub_limb u v cy _ _ _ hu hv hc rfl rfl rfl).1, (sub_limb u v cy _ _ _ hu hv hc rfl rfl rfl).2.1, rfl⟩

theorem sub_n_low2 (u1 u2 v1 v2 : Nat) (us vs : List Nat) (hu1 : u1 < B) (hu2 : u2 < B) (hv1 : v1 < B) (hv2 : v2 < B) :
    ∃ s0 s1 c, (sub_n (u1 :: u2 :: us) (v1 :: v2 :: vs)).1.getD 0 0 = s0 ∧
      (sub_n (u1 :: u2 :: us) (v1 :: v2 :: vs)).1.getD 1 0 = s1 ∧
      s0 + B * s1 + (v1 + B * v2) = u1 + B * u2 + B * B * c := by
  obtain ⟨c0, e0, hc0, ec0⟩ := sub_limb_c u1 v1 0 hu1 hv1 (Nat.zero_le _)
  obtain ⟨c1, e1, _, _⟩ := sub_limb_c u2 v2 c0 hu2 hv2 hc0
  unfold sub_n
  rw [subNC_cons, subNC_cons, List.getD_cons_zero, List.getD_cons_succ, List.getD_cons_zero, ec0]
  exact ⟨_, _, c1, rfl, rfl, by linear_combination e0 + B * e1⟩

/-- `for (…) mpn_add_1 (np, np, 3, x)` over a list of limbs: the sum modulo B³ -/
theorem fold_add1 : ∀ (xs np3 : List Nat), Limbs xs → Limbs np3 → np3.length = 3 →
    Limbs (xs.foldl (fun m x => (add_1 m x).1) np3) ∧ (xs.foldl (fun m x => (add_1 m x).1) np3).length = 3 ∧
    val (xs.foldl (fun m x => (add_1 m x).1) np3) = (val np3 + xs.sum) % B ^ 3
  | [], np3, _, h3, hl => by
    have := val_lt np3 h3
    rw [hl] at this
    simp [h3, hl, Nat.mod_eq_of_lt this]
  | x :: xs, np3, hxs, h3, hl => by
    have ⟨hx, hxs'⟩ := Limbs_cons.mp hxs
    match np3, hl with
    | [a, b, c], _ =>
      obtain ⟨av, _, al, an⟩ := add_1_val' [a, b, c] x h3 (Nat.succ_pos _) hx
      obtain ⟨i1, i2, i3⟩ := fold_add1 xs (add_1 [a, b, c] x).1 hxs' al (by simpa using an)
      refine ⟨i1, i2, ?_⟩
      change _ + B ^ 3 * _ = _ at av
      rw [List.foldl_cons, i3, List.sum_cons, ← Nat.add_assoc, ← av, Nat.add_right_comm, Nat.add_mul_mod_self_left]

theorem B3 : B ^ 3 = B * B * B := by ring

/-- the arithmetic of __divappr_helper on np[0..2]: s1, s0 the two low limbs of the mpn_sub_n, then add_ssaaaa with dK
    and the sum S of the mpn_add_1; W is the window, V the divisor -/
theorem helper_arith (a0 a1 a2 ar b0 b1 br s0 s1 c dK S W t : Nat)
    (hs : s0 + B * s1 + (b0 + B * b1) = a1 + B * a2 + B * B * c)
    (hW : W % (B * B * B) = (a0 + B * (a1 + B * (a2 + B * ar))) % (B * B * B))
    (hid : W + B * dK + S = B * (b0 + B * (b1 + B * br)) + t) (ht : t < B * B * B) :
    (a0 + B * ((s0 + dK) % B + B * ((s1 + 0 + (s0 + dK) / B) % B)) + S) % (B * B * B) = t := by
  simp only [B_eq] at *
  omega

/-- __divappr_helper (qp, np, dp, K) on np[0..2], for a window W that agrees with the memory limbs modulo B³: when
    t = W + B·dp[K] + Σ_{i<K} dp[i] - B·V fits three limbs, these are what is left -/
theorem helper_spec (mem dp : List Nat) (K : Nat) (hm : Limbs mem) (hd : Limbs dp) (hml : 3 ≤ mem.length)
    (hdl : dp.length = K + 1) (hK : 1 ≤ K) :
    (divapprHelper mem dp K).length = 3 ∧ Limbs (divapprHelper mem dp K) ∧
    ∀ W t, W % B ^ 3 = val mem % B ^ 3 → W + B * dp.getD K 0 + sumd (val dp) K = B * val dp + t → t < B ^ 3 →
      val (divapprHelper mem dp K) = t := by
  match mem, hml, dp, hdl with
  | _ :: _ :: _ :: _, _, [_], hdl => simp at hdl; omega
  | a0 :: a1 :: a2 :: ar, _, b0 :: b1 :: br, hdl =>
    have hB := B_pos
    obtain ⟨ha0, hm1⟩ := Limbs_cons.mp hm
    obtain ⟨ha1, hm2⟩ := Limbs_cons.mp hm1
    obtain ⟨ha2, _⟩ := Limbs_cons.mp hm2
    obtain ⟨hb0, hd1⟩ := Limbs_cons.mp hd
    obtain ⟨hb1, _⟩ := Limbs_cons.mp hd1
    obtain ⟨s0, s1, c, e0, e1, hs⟩ := sub_n_low2 a1 a2 b0 b1 (ar.take (K - 1)) br ha1 ha2 hb0 hb1
    have et1 : ((a0 :: a1 :: a2 :: ar).drop 1).take (K + 1) = a1 :: a2 :: ar.take (K - 1) := by
      rw [show K + 1 = (K - 1) + 1 + 1 by omega]; rfl
    have et2 : (b0 :: b1 :: br).take (K + 1) = b0 :: b1 :: br := List.take_of_length_le (by omega)
    unfold divapprHelper
    simp only [et1, et2, e0, e1, List.getD_cons_zero]
    unfold add_ssaaaa
    simp only []
    obtain ⟨f1, f2, f3⟩ := fold_add1 ((b0 :: b1 :: br).take K).reverse
      [a0, (s0 + (b0 :: b1 :: br).getD K 0) % B, (s1 + 0 + (s0 + (b0 :: b1 :: br).getD K 0) / B) % B]
      (Limbs_reverse (Limbs_take hd _)) (Limbs_cons.mpr ⟨ha0, Limbs_pair (Nat.mod_lt _ hB) (Nat.mod_lt _ hB)⟩) rfl
    refine ⟨f2, f1, fun W t hW hid ht => ?_⟩
    rw [f3, List.sum_reverse, sum_take_sumd _ hd]
    rw [B3] at hW ht ⊢
    simp only [val_cons, val_nil, Nat.mul_zero, Nat.add_zero] at hW hid ⊢
    exact helper_arith a0 a1 a2 (val ar) b0 b1 (val br) s0 s1 c _ _ W t hs hW hid ht

theorem helper_sat (j : Nat) (dlo mem : List Nat) (d0 d1 W c : Nat) (hdl : dlo.length = j) (hD : NormDiv dlo d0 d1)
    (hmem : Limbs mem) (hml : 3 ≤ mem.length) (hWm : W % B ^ 3 = val mem % B ^ 3)
    (hc : c < B) (hj : j < B) (hge : B * val (dlo ++ [d0, d1]) ≤ W) (hW : W < c + B * val (dlo ++ [d0, d1])) :
    (divapprHelper mem (dlo ++ [d0, d1]) (j + 1)).length = 3 ∧ Limbs (divapprHelper mem (dlo ++ [d0, d1]) (j + 1)) ∧
    W = tS (val (dlo ++ [d0, d1])) (B ^ (j + 1) - 1) (j + 1) + val (divapprHelper mem (dlo ++ [d0, d1]) (j + 1)) := by
  have hdp := hD.limbs
  obtain ⟨l1, l2, l3⟩ := helper_spec mem (dlo ++ [d0, d1]) (j + 1) hmem hdp hml (by simp [hdl]) (by omega)
  refine ⟨l1, l2, ?_⟩
  have hsat := tS_sat j (val (dlo ++ [d0, d1]))
  have hVdiv : val (dlo ++ [d0, d1]) / B ^ j = d0 + B * d1 := by
    have hlt := val_lt dlo hD.lo
    rw [val_top2, hdl, Nat.add_comm, Nat.mul_comm] at *
    exact div_of_split _ _ _ hlt
  have eS := sumd_succ_list _ hdp j
  have hSle := sumd_le j (val (dlo ++ [d0, d1]))
  have eK : (dlo ++ [d0, d1]).getD (j + 1) 0 = d1 := by rw [← hdl]; exact getD_top1 dlo d0 d1
  rw [← hdl, getD_top0, hdl] at eS
  rw [hVdiv] at hsat
  have hd1B := add_mul_lt hD.lt0 hD.lt1
  have hjB : j * B ≤ B * B := Nat.mul_le_mul_right _ hj.le
  have h2 : 2 ≤ B := by rw [B_eq]; omega
  have hB3 : B * B + (B * B + B) ≤ B ^ 3 := by
    have : B * B * 3 ≤ B * B * B := Nat.mul_le_mul_left _ (by rw [B_eq]; omega)
    have : B ≤ B * B := Nat.le_mul_of_pos_right B B_pos
    rw [B3]; omega
  have := l3 W (W - tS (val (dlo ++ [d0, d1])) (B ^ (j + 1) - 1) (j + 1)) hWm (by rw [eK]; omega) (by omega)
  omega

theorem val3 (x y z : Nat) : val [x, y, z] = x + B * y + B * B * z := by
  simp only [val_cons, val_nil]; ring

theorem Limbs3 {x y z : Nat} (hx : x < B) (hy : y < B) (hz : z < B) : Limbs [x, y, z] :=
  Limbs_cons.mpr ⟨hx, Limbs_pair hy hz⟩

/-- sb_divappr_q.c:198-242 as a two-way choice: the arm `if (np[1] >= d0)` (:213-226) is never taken -/
theorem daFinal_eq (d1 d0 dinv m0 n1 cy : Nat) :
    daFinal d1 d0 dinv m0 n1 cy =
      if cy ≥ d1 ∧ (cy > d1 ∨ (cy = d1 ∧ n1 ≥ d0)) then (B - 1, divapprHelper [m0, n1, cy] [d0, d1] 1)
      else ((udiv_qr_3by2 cy n1 m0 d1 d0 dinv).1,
        [(udiv_qr_3by2 cy n1 m0 d1 d0 dinv).2.2, (udiv_qr_3by2 cy n1 m0 d1 d0 dinv).2.1, 0]) := by
  unfold daFinal
  by_cases h1 : cy ≥ d1
  · by_cases h2 : cy > d1 ∨ (cy = d1 ∧ n1 ≥ d0)
    · rw [if_pos h1, if_pos h2, if_pos ⟨h1, h2⟩]
    · rw [if_pos h1, if_neg h2, if_neg (by omega), if_neg (fun h => h2 h.2)]
  · rw [if_neg h1, if_neg (fun h => h1 h.1)]

theorem daFinal_spec (d0 d1 m0 n1 cy c : Nat) (hD : NormDiv [] d0 d1) (hm0 : m0 < B) (hn1 : n1 < B)
    (hcy : cy < B) (hc : c < B) (hW : m0 + B * n1 + B * B * cy < c + B * (d0 + B * d1)) :
    ∃ q r3, daFinal d1 d0 (invert_pi1 d1 d0) m0 n1 cy = (q, r3) ∧ q < B ∧ r3.length = 3 ∧ Limbs r3 ∧
      m0 + B * n1 + B * B * cy = q * (d0 + B * d1) + val r3 ∧
      (val r3 < d0 + B * d1 ∨ (q + 1 = B ∧ B * (d0 + B * d1) ≤ m0 + B * n1 + B * B * cy)) := by
  have hB := B_pos
  have hsat : (cy ≥ d1 ∧ (cy > d1 ∨ (cy = d1 ∧ n1 ≥ d0))) ↔ B * (d0 + B * d1) ≤ m0 + B * n1 + B * B * cy := by
    rw [show m0 + B * n1 + B * B * cy = m0 + B * (n1 + B * cy) by ring, mul_le_add_mul_iff hm0,
      lex_le_iff hD.lt0 hn1]
    omega
  rw [daFinal_eq]
  by_cases hs : B * (d0 + B * d1) ≤ m0 + B * n1 + B * B * cy
  · rw [if_pos (hsat.mpr hs)]
    have eV : val ([] ++ [d0, d1]) = d0 + B * d1 := by simp [val_cons]
    obtain ⟨l1, l2, l3⟩ := helper_sat 0 [] [m0, n1, cy] d0 d1 _ c rfl hD (Limbs3 hm0 hn1 hcy)
      (le_refl _) (by rw [val3]) hc hB (by rw [eV]; exact hs) (by rw [eV]; exact hW)
    rw [eV, Nat.zero_add, pow_one, tS_one] at l3
    exact ⟨_, _, rfl, Nat.sub_lt hB Nat.one_pos, l1, l2, l3, Or.inr ⟨Nat.sub_add_cancel hB, hs⟩⟩
  · rw [if_neg (fun h => hs (hsat.mp h))]
    obtain ⟨q, r, e, hq, hr, hT⟩ := div3by2 cy n1 m0 d1 d0 hcy hn1 hm0 hD.lt1 hD.lt0 hD.norm (by
      rw [show m0 + B * n1 + B * B * cy = m0 + B * (n1 + B * cy) by ring, mul_le_add_mul_iff hm0] at hs
      omega)
    have h1 : r / B < B := by
      rw [Nat.div_lt_iff_lt_mul hB]; exact hr.trans (add_mul_lt hD.lt0 hD.lt1)
    have h2 := Nat.mod_add_div r B
    rw [e]
    simp only []
    exact ⟨q, _, rfl, hq, rfl, Limbs3 (Nat.mod_lt _ hB) h1 hB, by rw [val3, hT]; omega, Or.inl (by rw [val3]; omega)⟩

/-- the invariant of the head of this file -/
theorem daLoop2_spec (d0 d1 : Nat) :
    ∀ (k : Nat) (dlo m : List Nat) (cy n1 c : Nat) (qs : List Nat) (W V : Nat), dlo.length = k → m.length = k + 1 →
      NormDiv dlo d0 d1 → Limbs m → n1 < B → cy < B → c < B → k < B →
      W = val m + B ^ (k + 1) * (n1 + B * cy) → V = val (dlo ++ [d0, d1]) → W < c + B * V →
      ∃ ql r3, daLoop2 d1 d0 (invert_pi1 d1 d0) k (dlo ++ [d0, d1]) m cy n1 qs = (ql ++ qs, r3) ∧
        ql.length = k + 1 ∧ Limbs ql ∧ r3.length = 3 ∧ Limbs r3 ∧
        B ^ (k + 1) * (W + 1) ≤ (val ql + 1) * (c + B * V) ∧
        W = tS V (val ql) (k + 1) + val r3
  | 0, dlo, m, cy, n1, c, qs, W, V, hdl, hml, hD, hm, hn1, hcy, hc, _, eW, eV, hW => by
    match dlo, hdl, m, hml, hm with
    | [], _, [m0], _, hm =>
      have eV' : V = d0 + B * d1 := by rw [eV]; simp [val_cons]
      have eW' : W = m0 + B * n1 + B * B * cy := by
        rw [eW]; simp only [val_cons, val_nil, Nat.zero_add, pow_one]; ring
      subst eV' eW'
      obtain ⟨q, r3, e, hq, hr3l, hr3, e1, hred⟩ := daFinal_spec d0 d1 m0 n1 cy c hD (Limbs_cons.mp hm).1 hn1 hcy hc hW
      have eq : val [q] = q := by simp
      rw [daLoop2, List.getD_cons_zero, e]
      refine ⟨[q], r3, rfl, rfl, by intro x hx; simp at hx; subst hx; exact hq, hr3l, hr3, ?_⟩
      rw [eq, Nat.zero_add, pow_one, tS_one]
      rcases hred with h | ⟨h1, h2⟩
      · exact ⟨trunc_base _ (d0 + B * d1) q (val r3) c e1 h, e1⟩
      · exact ⟨trunc_sat B q _ (d0 + B * d1) c h1 hW, e1⟩
  | k + 1, dlo, m, cy, n1, c, qs, W, V, hdl, hml, hD, hm, hn1, hcy, hc, hk, eW, eV, hW => by
    have hsat := daSat_iff dlo m d0 d1 n1 cy (by omega) hD.lo hm hD.lt0 hn1
    rw [hdl, ← eW, ← eV] at hsat
    rw [daLoop2]
    by_cases hs : B * V ≤ W
    · rw [if_pos (hsat.mpr hs)]
      have hv := val_replicate_max (k + 1 + 1)
      have k1 := trunc_sat (B ^ (k + 1 + 1)) _ _ _ c hv hW
      have hWm : W % B ^ 3 = val (m ++ [n1]) % B ^ 3 := by
        rw [eW, val_snoc, hml, show val m + B ^ (k + 1 + 1) * (n1 + B * cy)
          = val m + B ^ (k + 1 + 1) * n1 + B ^ 3 * (B ^ k * cy) by rw [pow_succ, pow_succ, B3]; ring,
          Nat.add_mul_mod_self_left]
      obtain ⟨l1, l2, l3⟩ := helper_sat (k + 1) dlo (m ++ [n1]) d0 d1 W c hdl hD (Limbs.snoc hm hn1)
        (by simp [hml]) hWm hc hk (eV ▸ hs) (eV ▸ hW)
      refine ⟨List.replicate (k + 1 + 1) (B - 1), _, rfl, by simp, Limbs_replicate_max _, l1, l2, k1, ?_⟩
      rw [show val (List.replicate (k + 1 + 1) (B - 1)) = B ^ (k + 1 + 1) - 1 by omega, eV]; exact l3
    · rw [if_neg (fun h => hs (hsat.mp h))]
      have hst := daStep2_spec dlo m d0 d1 n1 cy (by omega) hD hm hn1 hcy (by rw [hdl, ← eW, ← eV]; omega)
      rw [hdl, ← eW, ← eV] at hst
      simp only []
      generalize daFix ((dlo ++ [d0, d1]).take (k + 1)) d1 d0 _ = t at hst ⊢
      obtain ⟨q, w, cy', n1'⟩ := t
      obtain ⟨e1, e2, hq, hw, hwl, hn1', hcy'⟩ := hst
      simp only [] at e1 e2 hq hw hwl hn1' hcy'
      match dlo, hdl, hD with
      | c' :: dlo', hdl', hD' =>
        have hc' := (Limbs_cons.mp hD'.lo).1
        have eV2 : V = c' + B * val (dlo' ++ [d0, d1]) := eV
        obtain ⟨ql', r3, el, hqll, hql, hr3l, hr3, i1, i3⟩ :=
          daLoop2_spec d0 d1 k dlo' w cy' n1' c' (q :: qs) _ _ (by simpa using hdl') hwl hD'.tail hw hn1' hcy' hc'
            (by omega) rfl rfl (eV2 ▸ e2)
        have hQ' := val_lt ql' hql
        rw [hqll] at hQ'
        rw [← eV2] at i1
        have t1 := trunc_step (B ^ (k + 1)) W q V _ (val ql') c e1 i1
        have eVd : V / B = val (dlo' ++ [d0, d1]) := by
          rw [eV2, Nat.add_comm, Nat.mul_comm]; exact div_of_split _ _ _ hc'
        refine ⟨ql' ++ [q], r3, ?_, by simp [hqll], Limbs.snoc hql hq, hr3l, hr3, ?_, ?_⟩
        · show daLoop2 d1 d0 _ k (dlo' ++ [d0, d1]) w cy' n1' (q :: qs) = _
          rw [el]; simp
        · rw [val_snoc, hqll, pow_succ (n := k + 1)]; exact t1
        · rw [val_snoc, hqll, tS_top _ _ _ _ hQ', eVd, Nat.add_assoc, ← i3]; exact e1

end Mpir.SbDivQ
