/- The mpz object-layer model (Mpir/Model/Mpz.lean): every routine leaves a well-formed object whose integer is the exact result.
   First what the routines share: `Norm` (proper limbs, top limb not zero), the signed value `sval` and the laws of `sgn`,
   `mk_spec` (the object built from a normalised magnitude), `IsMag` / `IsMag.obj` (a buffer that holds a magnitude in exactly n
   limbs, and the object it is stored in), `take_carry` / `strip_top` (the two ways a routine fixes the size after a kernel: store
   the carry limb if it is not zero, drop the top limb if it is zero); then the routines, one heading each, with
   `mul_cases` (mpz/mul.c as a case rule) and `mulProd` before `mul_spec`. -/
import MpirProofs.Lemmas.Kernels
import Mpir.Model.Mpz
import Mathlib.Tactic.SplitIfs
namespace Mpir.Mpz
open Mpir

def Norm (d : List Nat) : Prop := Limbs d ∧ d.getLast? ≠ some 0

theorem Norm_nil : Norm [] := ⟨Limbs_nil, by simp⟩

theorem Norm.lower {d : List Nat} (h : Norm d) (hne : d ≠ []) : B ^ (d.length - 1) ≤ val d := Normalized.ge h.2 hne

theorem Norm.of_lower {d : List Nat} (hl : Limbs d) (h : d = [] ∨ B ^ (d.length - 1) ≤ val d) : Norm d :=
  ⟨hl, Normalized.of_ge hl h⟩

theorem Norm.upper {d : List Nat} (h : Norm d) : val d < B ^ d.length := val_lt d h.1

theorem Norm.pos {d : List Nat} (h : Norm d) (hne : d ≠ []) : 0 < val d :=
  Nat.lt_of_lt_of_le (pow_pos B_pos _) (h.lower hne)

theorem Norm_normalize {l : List Nat} (h : Limbs l) : Norm (normalize l) := ⟨Limbs_normalize h, normalized_normalize l⟩

theorem WF_iff (x : Mpz) :
    WF x ↔ 1 ≤ x.alloc ∧ x.size.natAbs ≤ x.alloc ∧ x.d.length = x.size.natAbs ∧ Norm x.d := by
  unfold WF Norm; tauto

def sval (s : Int) (d : List Nat) : Int := if s < 0 then -(val d : Int) else (val d : Int)

theorem toInt_eq (x : Mpz) : toInt x = sval x.size x.d := rfl

theorem natAbs_sgn (b : Bool) (n : Nat) : (sgn b n).natAbs = n := natAbs_ite_neg (b = true) n

/-! ### the algebra of the signed magnitude `sgn neg m`; for magnitudes of opposite sign see `acc_finish` -/
theorem sgn_false (n : Nat) : sgn false n = n := rfl

theorem sgn_true (n : Nat) : sgn true n = -(n : Int) := rfl

theorem sgn_mul (a b : Bool) (x y : Nat) : sgn a x * sgn b y = sgn (a != b) (x * y) := by
  cases a <;> cases b <;> simp [sgn]

theorem sgn_add_same (a : Bool) (x y : Nat) : sgn a x + sgn a y = sgn a (x + y) := by
  cases a <;> simp [sgn]; omega

/-- `sub ? −z : z` -/
theorem sgn_sub (sub a : Bool) (x : Nat) : (if sub = true then -(sgn a x) else sgn a x) = sgn (sub != a) x := by
  cases sub <;> cases a <;> simp [sgn]

theorem realloc_alloc (m : Mpz) (n : Nat) : (realloc m n).alloc = max n 1 := by
  unfold realloc; dsimp only; split <;> rfl

theorem grow_alloc (w : Mpz) (n : Nat) : n ≤ (grow w n).alloc ∧ w.alloc ≤ (grow w n).alloc := by
  unfold grow
  split
  · rw [realloc_alloc]; omega
  · omega

theorem grow_alloc_eq (w : Mpz) (n : Nat) (hn : 1 ≤ n) : (grow w n).alloc = if w.alloc < n then n else w.alloc := by
  by_cases hlt : w.alloc < n
  · simp only [grow, gt_iff_lt, hlt, if_true, realloc_alloc]; omega
  · simp only [grow, gt_iff_lt, hlt, if_false]

theorem mk_spec (a n : Nat) (neg : Bool) (d : List Nat) (hn : d.length = n) (hd : Norm d)
    (ha : n ≤ a) (ha1 : 1 ≤ a) :
    WF ⟨a, sgn neg n, d⟩ ∧
    toInt ⟨a, sgn neg n, d⟩ = if neg then -(val d : Int) else (val d : Int) := by
  refine ⟨(WF_iff _).mpr ⟨ha1, by simpa [natAbs_sgn] using ha, by simp [natAbs_sgn, hn], hd⟩, ?_⟩
  unfold toInt sgn
  cases neg
  · simp
  · simp only [if_true]
    by_cases h0 : n = 0
    · subst h0
      have : d = [] := List.length_eq_zero_iff.mp hn
      subst this; simp
    · have : -(n : Int) < 0 := by omega
      rw [if_pos this]

/-- the buffer `X` holds the magnitude `v` in exactly `n` limbs, the top one not zero: what is stored in an object -/
structure IsMag (X : List Nat) (n v : Nat) : Prop where
  val_eq : val X = v
  len : X.length = n
  norm : Norm X

/-- … and the object it is stored in -/
theorem IsMag.obj {X : List Nat} {n v : Nat} (h : IsMag X n v) (a : Nat) (neg : Bool) (ha : n ≤ a) (ha1 : 1 ≤ a) :
    WF ⟨a, sgn neg n, X⟩ ∧ toInt ⟨a, sgn neg n, X⟩ = sgn neg v := by
  obtain ⟨wf, ti⟩ := mk_spec a n neg X h.len h.norm ha ha1
  exact ⟨wf, by rw [ti, h.val_eq]; rfl⟩

/-- `(r ++ [c]).take (n + [c ≠ 0])`: the buffer after `wp[n] = c; size = n + (c != 0)`. -/
theorem take_carry (r : List Nat) (c n : Nat) (hn : r.length = n) (hl : Limbs r) (hc : c < B)
    (hlow : n = 0 ∨ B ^ (n - 1) ≤ val r + B ^ n * c) :
    IsMag ((r ++ [c]).take (n + (if c != 0 then 1 else 0))) (n + (if c != 0 then 1 else 0)) (val r + B ^ n * c) := by
  have hR : Limbs (r ++ [c]) := Limbs_append.mpr ⟨hl, Limbs_cons.mpr ⟨hc, Limbs_nil⟩⟩
  have hv : val (r ++ [c]) = val r + B ^ n * c := by rw [val_snoc, hn]
  have hlt : val r < B ^ n := hn ▸ val_lt r hl
  -- the carry limb is `value / B^n`: what is kept is the normalised list
  have e : n + (if c != 0 then 1 else 0) = (natLimbs (val (r ++ [c]))).length := by
    rw [hv, natLimbs_isSize.eq_add_carry (by rw [pow_succ]; exact add_mul_lt hlt hc) (fun h => hlow.resolve_left (by omega)),
      Nat.add_mul_div_left _ _ (Bpow_pos n), Nat.div_eq_of_lt hlt, Nat.zero_add]
    by_cases h : c = 0 <;> simp [h]
  rw [e, take_natLimbs_length hR]
  exact ⟨(val_normalize _).trans hv, by rw [normalize_eq_natLimbs hR], Norm_normalize hR⟩

theorem take_carry' (r : List Nat) (c n : Nat) (hn : r.length = n) (hl : Limbs r) (hc : c ≤ 1)
    (hlow : n = 0 ∨ B ^ (n - 1) ≤ val r + B ^ n * c) :
    IsMag ((r ++ [c]).take (n + c)) (n + c) (val r + B ^ n * c) := by
  have h := take_carry r c n hn hl (by have := B_eq; omega) hlow
  have e : (if c != 0 then 1 else 0) = c := by
    rcases Nat.le_one_iff_eq_zero_or_eq_one.mp hc with h | h <;> subst h <;> rfl
  rw [e] at h; exact h

theorem sval_neg (s : Int) (d : List Nat) (h : d.length = s.natAbs) : sval (-s) d = -sval s d := by
  unfold sval
  by_cases h0 : s = 0
  · subst h0
    have : d = [] := List.length_eq_zero_iff.mp (by simpa using h)
    subst this; simp
  · by_cases h1 : s < 0
    · have : ¬ (-s < 0) := by omega
      rw [if_pos h1, if_neg this]; simp
    · have : -s < 0 := by omega
      rw [if_neg h1, if_pos this]

theorem len_le_of_val_le {x y : List Nat} (hx : Norm x) (hy : Norm y) (h : val x ≤ val y) :
    x.length ≤ y.length := by
  rw [← natLimbs_isSize.of_normalized hx.1 hx.2, ← natLimbs_isSize.of_normalized hy.1 hy.2]
  exact natLimbs_isSize.mono h

theorem sval_decide (s : Int) (d : List Nat) : sval s d = sgn (decide (s < 0)) (val d) := by
  unfold sval sgn; by_cases h : s < 0 <;> simp [h]

/-- `w ± p` from magnitudes: `D` is their sum (same sign) or difference, `flip` = the second was the larger -/
theorem acc_finish (sw sp flip : Bool) (Wm Pm D : Nat) (hs : sw ≠ sp)
    (h : if flip = true then D + Wm = Pm else D + Pm = Wm) :
    sgn (sw != flip) D = sgn sw Wm + sgn sp Pm := by
  cases sw <;> cases sp <;> cases flip <;> simp [sgn] at hs h ⊢ <;> omega

/-- after `mpn_sub`/`mpn_sub_n` of magnitudes and MPN_NORMALIZE; the borrow `c` is 0: the smaller was subtracted -/
theorem mk_sub_spec (a n : Nat) (neg : Bool) (r : List Nat) (c x y : Nat) (hn : r.length = n)
    (hv : val r + y = x + B ^ n * c) (hl : Limbs r) (hle : y ≤ x) (ha : n ≤ a) (ha1 : 1 ≤ a) :
    WF ⟨a, sgn neg (normalize r).length, normalize r⟩ ∧
    toInt ⟨a, sgn neg (normalize r).length, normalize r⟩ = sgn neg (val (normalize r)) ∧
    val (normalize r) + y = x := by
  obtain ⟨_, hv'⟩ := borrow_zero hv (hn ▸ val_lt r hl) hle
  obtain ⟨wf, ti⟩ := mk_spec a _ neg _ rfl (Norm_normalize hl) (by have := normalize_length_le r; omega) ha1
  exact ⟨wf, ti, by rw [val_normalize]; exact hv'⟩

/-- after `mpn_add` of magnitudes; the carry limb is stored when it is non-zero -/
theorem mk_add_spec (a : Nat) (neg : Bool) (big small : List Nat) (hb : Norm big) (hs : Limbs small) (hbne : big ≠ [])
    (hlen : small.length ≤ big.length) (ha : big.length + 1 ≤ a) :
    WF ⟨a, sgn neg (big.length + (if (Mpir.add big small).2 != 0 then 1 else 0)),
      ((Mpir.add big small).1 ++ [(Mpir.add big small).2]).take
        (big.length + (if (Mpir.add big small).2 != 0 then 1 else 0))⟩ ∧
    toInt ⟨a, sgn neg (big.length + (if (Mpir.add big small).2 != 0 then 1 else 0)),
      ((Mpir.add big small).1 ++ [(Mpir.add big small).2]).take
        (big.length + (if (Mpir.add big small).2 != 0 then 1 else 0))⟩ =
      sgn neg (val big + val small) := by
  obtain ⟨av, ac, al, an⟩ := add_val' big small hb.1 hs hlen
  have hlow := hb.lower hbne
  rw [← av]
  exact (take_carry (Mpir.add big small).1 (Mpir.add big small).2 big.length an al
    (by have := B_eq; omega) (Or.inr (by omega))).obj a neg (by split_ifs <;> omega) (by omega)

/-! ### mpz_add, mpz_sub (mpz/aors.h) -/

theorem aorsCore_spec (w u v : Mpz) (us vs : Int) (hu : Norm u.d) (hv : Norm v.d)
    (hul : u.d.length = us.natAbs) (hvl : v.d.length = vs.natAbs) (hle : vs.natAbs ≤ us.natAbs) :
    WF (aorsCore w u v us vs) ∧ toInt (aorsCore w u v us vs) = sval us u.d + sval vs v.d := by
  obtain ⟨ga1, ga2⟩ := grow_alloc w (us.natAbs + 1)
  unfold aorsCore
  dsimp only
  split_ifs with hds hne hcmp
  · -- signs differ, sizes differ: |u| > |v|
    have hne' : us.natAbs ≠ vs.natAbs := by simpa using hne
    have hvu : val v.d ≤ val u.d := by
      by_contra h
      have := len_le_of_val_le hu hv (by omega)
      omega
    obtain ⟨sv, sc, sl, sn⟩ := sub_val' u.d v.d hu.1 hv.1 (by omega)
    obtain ⟨wf, ti, e⟩ := mk_sub_spec (grow w (us.natAbs + 1)).alloc _ (decide (us < 0)) _ _ _ _ sn sv sl hvu
      (by omega) (by omega)
    refine ⟨wf, ?_⟩
    rw [ti, sval_decide, sval_decide]
    simpa only [Bool.bne_false] using acc_finish (decide (us < 0)) (decide (vs < 0)) false _ _ _
      (bne_iff_ne.mp hds) e
  · -- signs differ, same size, |u| < |v|
    have hlen : u.d.length = v.d.length := by have : us.natAbs = vs.natAbs := by simpa using hne
                                              omega
    have hlt := (cmp_lt_iff u.d v.d hu.1 hv.1 hlen).mp hcmp
    obtain ⟨sv, sc, sl, sn⟩ := sub_n_val' v.d u.d hv.1 hu.1 hlen.symm
    have hneg : decide (us ≥ 0) = (decide (us < 0) != true) := by by_cases h : us < 0 <;> simp [h]; omega
    rw [hneg]
    obtain ⟨wf, ti, e⟩ := mk_sub_spec (grow w (us.natAbs + 1)).alloc _ (decide (us < 0) != true) _ _ _ _ sn sv
      sl hlt.le (by omega) (by omega)
    refine ⟨wf, ?_⟩
    rw [ti, sval_decide, sval_decide]
    exact acc_finish (decide (us < 0)) (decide (vs < 0)) true _ _ _ (bne_iff_ne.mp hds) e
  · -- signs differ, same size, |u| ≥ |v|
    have hlen : u.d.length = v.d.length := by have : us.natAbs = vs.natAbs := by simpa using hne
                                              omega
    have hge : val v.d ≤ val u.d :=
      Nat.le_of_not_lt fun h => hcmp ((cmp_lt_iff u.d v.d hu.1 hv.1 hlen).mpr h)
    obtain ⟨sv, sc, sl, sn⟩ := sub_n_val' u.d v.d hu.1 hv.1 hlen
    obtain ⟨wf, ti, e⟩ := mk_sub_spec (grow w (us.natAbs + 1)).alloc _ (decide (us < 0)) _ _ _ _ sn sv sl hge
      (by omega) (by omega)
    refine ⟨wf, ?_⟩
    rw [ti, sval_decide, sval_decide]
    simpa only [Bool.bne_false] using acc_finish (decide (us < 0)) (decide (vs < 0)) false _ _ _
      (bne_iff_ne.mp hds) e
  · -- same sign: add
    obtain ⟨av, ac, al, an⟩ := add_val' u.d v.d hu.1 hv.1 (by omega)
    rw [hul] at av an
    have hlow : us.natAbs = 0 ∨ B ^ (us.natAbs - 1) ≤
        val (Mpir.add u.d v.d).1 + B ^ us.natAbs * (Mpir.add u.d v.d).2 := by
      by_cases h0 : us.natAbs = 0
      · exact Or.inl h0
      · have := hu.lower (fun h => by rw [h] at hul; exact h0 hul.symm)
        rw [hul] at this
        exact Or.inr (by omega)
    obtain ⟨wf, ti⟩ := (take_carry' _ _ us.natAbs an al ac hlow).obj (grow w (us.natAbs + 1)).alloc (decide (us < 0))
      (by omega) (by omega)
    refine ⟨wf, ?_⟩
    have hs : decide (us < 0) = decide (vs < 0) := by simpa [diffSign] using hds
    rw [ti, av, sval_decide, sval_decide, ← hs]
    exact (sgn_add_same _ _ _).symm

theorem aors_spec (isSub : Bool) (w u v : Mpz) (hu : WF u) (hv : WF v) :
    WF (aors isSub w u v) ∧
    toInt (aors isSub w u v) = toInt u + (if isSub then -toInt v else toInt v) := by
  obtain ⟨_, _, hul, hun⟩ := (WF_iff u).mp hu
  obtain ⟨_, _, hvl, hvn⟩ := (WF_iff v).mp hv
  have hv' : sval (if isSub then -v.size else v.size) v.d = if isSub then -toInt v else toInt v := by
    cases isSub
    · simp [toInt_eq]
    · simp [toInt_eq, sval_neg _ _ hvl]
  have hvl' : v.d.length = (if isSub = true then -v.size else v.size).natAbs := by
    cases isSub <;> simp [hvl]
  unfold aors
  dsimp only
  generalize (if isSub = true then -v.size else v.size) = vs' at *
  by_cases hsw : u.size.natAbs < vs'.natAbs
  · rw [if_pos hsw]
    obtain ⟨wf, ti⟩ := aorsCore_spec w v u _ u.size hvn hun hvl' hul (by omega)
    refine ⟨wf, ?_⟩
    rw [ti, hv', toInt_eq u]; ring
  · rw [if_neg hsw]
    obtain ⟨wf, ti⟩ := aorsCore_spec w u v u.size _ hun hvn hul hvl' (by omega)
    exact ⟨wf, by rw [ti, hv', toInt_eq u]⟩

/-! ### mpz_add_ui, mpz_sub_ui (mpz/aors_ui.h), mpz_ui_sub (mpz/ui_sub.c) -/

theorem topLimb_concat (l : List Nat) (b : Nat) : topLimb (l ++ [b]) = b := by
  simp [topLimb, List.getLastD_eq_getLast?]

theorem topLimb_eq_getD (r : List Nat) (n : Nat) (hn : r.length = n) (hpos : 0 < n) : topLimb r = r.getD (n - 1) 0 := by
  rcases List.eq_nil_or_concat r with h0 | ⟨l, b, rfl⟩
  · subst h0; simp at hn; omega
  · subst hn
    simp [topLimb_concat]

theorem strip_top (r : List Nat) (n : Nat) (hn : r.length = n) (hl : Limbs r)
    (hlow : n ≤ 1 ∨ B ^ (n - 2) ≤ val r) :
    IsMag (r.take (n - (if topLimb r == 0 then 1 else 0))) (n - (if topLimb r == 0 then 1 else 0)) (val r) := by
  rcases Nat.eq_zero_or_pos n with h0 | hpos
  · subst h0; rw [List.length_eq_zero_iff.mp hn]; exact ⟨by simp, by simp, by simpa using Norm_nil⟩
  -- the top limb is `val r / B^(n-1)`: what is kept is `normalize r`
  have htop : topLimb r = val r / B ^ (n - 1) := by
    rw [topLimb_eq_getD r n hn hpos, ← val_div_mod hl, Nat.mod_eq_of_lt]
    rw [Nat.div_lt_iff_lt_mul (Bpow_pos _), Nat.mul_comm, ← pow_succ, Nat.sub_add_cancel hpos, ← hn]
    exact val_lt r hl
  have e : n - (if topLimb r == 0 then 1 else 0) = (natLimbs (val r)).length := by
    rw [natLimbs_isSize.eq_sub_top hpos (hn ▸ val_lt r hl) (fun h => hlow.resolve_left (by omega)), htop]
    by_cases h : val r / B ^ (n - 1) = 0 <;> simp [h]
  rw [e, take_natLimbs_length hl]
  exact ⟨val_normalize r, by rw [normalize_eq_natLimbs hl], Norm_normalize hl⟩

theorem sgn_false_ite (c : Prop) [Decidable c] :
    sgn false (if c then 1 else 0) = (if c then 1 else 0 : Int) := by
  unfold sgn; by_cases h : c <;> simp [h]

theorem single_take (x : Nat) (hx : x < B) :
    IsMag ([x].take (if x != 0 then 1 else 0)) (if x != 0 then 1 else 0) x := by
  have h := take_carry [] x 0 rfl Limbs_nil hx (Or.inl rfl)
  simpa using h

theorem pow_pred_ge {n v : Nat} (hn : 2 ≤ n) (hv : v < B) : B ^ (n - 2) + v ≤ B ^ (n - 1) := by
  have e : n - 1 = (n - 2) + 1 := by omega
  rw [e, pow_succ]
  have h1 : 1 * (B - 1) ≤ B ^ (n - 2) * (B - 1) := Nat.mul_le_mul_right _ (Nat.one_le_pow _ _ B_pos)
  have h2 : B ^ (n - 2) * B = B ^ (n - 2) * (B - 1) + B ^ (n - 2) := by
    rw [← Nat.mul_succ, Nat.succ_eq_add_one, Nat.sub_add_cancel B_pos]
  omega

theorem ge_limb {d : List Nat} (hd : Norm d) (hne : d ≠ []) {v : Nat} (hv : v < B)
    (h : ¬ (d.length = 1 ∧ d.headD 0 < v)) : v ≤ val d := by
  have hlow := hd.lower hne
  by_cases h1 : d.length = 1
  · match d, h1 with
    | [x], _ => simp at h ⊢; omega
  · have h2 : 2 ≤ d.length := by
      have : d.length ≠ 0 := fun h => hne (List.length_eq_zero_iff.mp h)
      omega
    have := pow_pred_ge h2 hv
    have : 1 ≤ B ^ (d.length - 2) := Nat.one_le_pow _ _ B_pos
    omega

theorem sub_1_strip (d : List Nat) (v : Nat) (hd : Norm d) (hne : d ≠ []) (hv : v < B)
    (hge : v ≤ val d) :
    IsMag ((sub_1 d v).1.take (d.length - (if topLimb (sub_1 d v).1 == 0 then 1 else 0)))
      (d.length - (if topLimb (sub_1 d v).1 == 0 then 1 else 0)) (val d - v) := by
  obtain ⟨sv, sc, sl, sn⟩ := sub_1_val' d v hd.1 (List.length_pos_iff.mpr hne) hv
  have hrup := val_lt _ sl
  rw [sn] at hrup
  obtain ⟨_, sv'⟩ := borrow_zero sv hrup hge
  have hlow := hd.lower hne
  obtain ⟨tv, tl, tn⟩ := strip_top (sub_1 d v).1 d.length sn sl (by
    by_cases h2 : d.length ≤ 1
    · left; exact h2
    · right
      have := pow_pred_ge (by omega : 2 ≤ d.length) hv
      omega)
  exact ⟨by rw [tv]; omega, tl, tn⟩

theorem size_ne_zero {u : Mpz} (hu : WF u) (h : u.size ≠ 0) : u.d ≠ [] := by
  obtain ⟨_, _, hul, _⟩ := (WF_iff u).mp hu
  intro hd; rw [hd] at hul; simp at hul; omega

/-- a one-limb operand -/
theorem Norm.single {d : List Nat} (h : Norm d) (h1 : d.length = 1) :
    ∃ x, d = [x] ∧ x < B ∧ x ≠ 0 ∧ d.headD 0 = x ∧ val d = x := by
  obtain ⟨x, rfl⟩ := List.length_eq_one_iff.mp h1
  exact ⟨x, rfl, (Limbs_cons.mp h.1).1, by simpa using h.2, rfl, by simp⟩

theorem isMag_single {x : Nat} (hx : x < B) (h0 : x ≠ 0) : IsMag [x] 1 x :=
  ⟨by simp, rfl, Limbs_cons.mpr ⟨hx, Limbs_nil⟩, by simpa using h0⟩

theorem aors_ui_spec (isSub : Bool) (w u : Mpz) (vval : Nat) (hu : WF u) (hv : vval < B) :
    WF (aors_ui isSub w u vval) ∧
    toInt (aors_ui isSub w u vval) = toInt u + (if isSub then -(vval : Int) else (vval : Int)) := by
  obtain ⟨_, _, hul, hun⟩ := (WF_iff u).mp hu
  obtain ⟨ga1, ga2⟩ := grow_alloc w (u.size.natAbs + 1)
  rw [toInt_eq u, sval_decide]
  unfold aors_ui
  dsimp only
  by_cases h0 : (u.size.natAbs == 0) = true
  · rw [if_pos h0]
    have h0' : u.size = 0 := by simpa using h0
    have hd : u.d = [] := List.length_eq_zero_iff.mp (by rw [hul, h0']; rfl)
    obtain ⟨wf, ti⟩ := (single_take vval hv).obj (grow w (u.size.natAbs + 1)).alloc isSub
      (by split_ifs <;> omega) (by omega)
    refine ⟨wf, ?_⟩
    rw [ti, hd, val_nil, show sgn (decide (u.size < 0)) 0 = 0 by cases decide (u.size < 0) <;> rfl, Int.zero_add]
    rfl
  rw [if_neg h0]
  have hn0 : u.size.natAbs ≠ 0 := by simpa using h0
  have hne := size_ne_zero hu (by omega)
  by_cases hadd : (if isSub = true then decide (u.size < 0) else decide (u.size ≥ 0)) = true
  · rw [if_pos hadd]
    obtain ⟨av, ac, al, an⟩ := add_1_val' u.d vval hun.1 (List.length_pos_iff.mpr hne) hv
    have hlow := hun.lower hne
    rw [hul] at av an hlow
    obtain ⟨wf, ti⟩ := (take_carry' _ _ u.size.natAbs an al ac (Or.inr (by omega))).obj
      (grow w (u.size.natAbs + 1)).alloc isSub (by omega) (by omega)
    refine ⟨wf, ?_⟩
    have hd : decide (u.size < 0) = isSub := by cases isSub <;> simpa using hadd
    rw [ti, av, hd]
    exact (sgn_add_same isSub _ _).symm
  rw [if_neg hadd]
  have hd : decide (u.size < 0) = !isSub := by cases isSub <;> simpa using hadd
  rw [hd]
  by_cases hone : (u.size.natAbs == 1 && decide (u.d.headD 0 < vval)) = true
  · rw [if_pos hone]
    have ⟨h1, hlt⟩ : u.size.natAbs = 1 ∧ u.d.headD 0 < vval := by simpa using hone
    obtain ⟨x, -, -, -, hh, hvv⟩ := hun.single (by omega)
    rw [hh] at hlt ⊢
    obtain ⟨wf, ti⟩ := (isMag_single (x := vval - x) (by omega) (by omega)).obj (grow w (u.size.natAbs + 1)).alloc isSub
      (by omega) (by omega)
    refine ⟨wf, ?_⟩
    have h := acc_finish (!isSub) isSub true x vval (vval - x) (by cases isSub <;> simp) (by simp; omega)
    rw [Bool.bne_true, Bool.not_not] at h
    rw [ti, hvv]
    exact h
  rw [if_neg hone]
  have hge : vval ≤ val u.d := ge_limb hun hne hv (by
    intro ⟨h1, h2⟩; apply hone
    simp only [Bool.and_eq_true, beq_iff_eq, decide_eq_true_eq]; exact ⟨by omega, h2⟩)
  obtain ⟨wf, ti⟩ := (hul ▸ sub_1_strip u.d vval hun hne hv hge).obj (grow w (u.size.natAbs + 1)).alloc (!isSub)
    (by split_ifs <;> omega) (by omega)
  refine ⟨wf, ?_⟩
  rw [ti]
  have h := acc_finish (!isSub) isSub false (val u.d) vval (val u.d - vval) (by cases isSub <;> simp) (by simp; omega)
  rwa [Bool.bne_false] at h

theorem ui_sub_spec (w : Mpz) (uval : Nat) (v : Mpz) (hw : 1 ≤ w.alloc) (hv : WF v) (hu : uval < B) :
    WF (ui_sub w uval v) ∧ toInt (ui_sub w uval v) = (uval : Int) - toInt v := by
  obtain ⟨_, _, hvl, hvn⟩ := (WF_iff v).mp hv
  rw [toInt_eq v]
  unfold ui_sub
  dsimp only
  by_cases hgt : v.size > 1
  · rw [if_pos hgt]
    obtain ⟨ga1, ga2⟩ := grow_alloc w v.size.natAbs
    have hne := size_ne_zero hv (by omega)
    have hge : uval ≤ val v.d := ge_limb hvn hne hu (by intro ⟨h1, _⟩; omega)
    obtain ⟨wf, ti⟩ := (hvl ▸ sub_1_strip v.d uval hvn hne hu hge).obj (grow w v.size.natAbs).alloc true
      (by split_ifs <;> omega) (by omega)
    simp only [sgn_true] at wf ti
    refine ⟨wf, ?_⟩
    rw [ti]
    have : ¬ v.size < 0 := by omega
    unfold sval
    rw [if_neg this]; omega
  rw [if_neg hgt]
  by_cases h1 : (v.size == 1) = true
  · rw [if_pos h1]
    have h1' : v.size = 1 := by simpa using h1
    obtain ⟨x, -, hxB, -, hh, hvv⟩ := hvn.single (by rw [hvl, h1']; rfl)
    have hs : sval v.size v.d = (x : Int) := by rw [sval, hvv, h1']; rfl
    rw [hs, hh]
    by_cases hge : uval ≥ x
    · rw [if_pos hge]
      obtain ⟨wf, ti⟩ := (single_take (uval - x) (by omega)).obj w.alloc false (by split_ifs <;> omega) hw
      rw [sgn_false_ite] at wf ti
      refine ⟨wf, ?_⟩
      rw [ti, sgn_false]; omega
    · rw [if_neg hge]
      obtain ⟨wf, ti⟩ := (isMag_single (x := x - uval) (by omega) (by omega)).obj w.alloc true (by omega) hw
      simp only [sgn_true] at wf ti
      refine ⟨wf, ?_⟩
      rw [show (-1 : Int) = -((1 : Nat) : Int) from rfl, ti]
      omega
  rw [if_neg h1]
  have h1' : v.size ≠ 1 := by simpa using h1
  by_cases h0 : (v.size == 0) = true
  · rw [if_pos h0]
    have h0' : v.size = 0 := by simpa using h0
    have hd : v.d = [] := List.length_eq_zero_iff.mp (by rw [hvl, h0']; rfl)
    obtain ⟨wf, ti⟩ := (single_take uval hu).obj w.alloc false (by split_ifs <;> omega) hw
    rw [sgn_false_ite] at wf ti
    refine ⟨wf, ?_⟩
    rw [ti, hd, sgn_false]; simp [sval]
  rw [if_neg h0]
  have h0' : v.size ≠ 0 := by simpa using h0
  have hneg : v.size < 0 := by omega
  obtain ⟨ga1, ga2⟩ := grow_alloc w (v.size.natAbs + 1)
  have hne := size_ne_zero hv h0'
  obtain ⟨av, ac, al, an⟩ := add_1_val' v.d uval hvn.1 (List.length_pos_iff.mpr hne) hu
  have hlow := hvn.lower hne
  rw [hvl] at av an hlow
  obtain ⟨wf, ti⟩ := (take_carry (add_1 v.d uval).1 (add_1 v.d uval).2 v.size.natAbs an al
    (by have := B_eq; omega) (Or.inr (by omega))).obj (grow w (v.size.natAbs + 1)).alloc false
    (by split_ifs <;> omega) (by omega)
  rw [sgn_false, sgn_false] at ti
  rw [sgn_false] at wf
  refine ⟨wf, ?_⟩
  rw [ti]
  unfold sval
  rw [if_pos hneg]
  omega

/-! ### mpz_neg, mpz_abs, mpz_set -/

theorem WF_zero (w : Mpz) (hw : 1 ≤ w.alloc) :
    WF { w with size := 0, d := [] } ∧ toInt { w with size := 0, d := [] } = 0 :=
  ⟨(WF_iff _).mpr ⟨hw, by simp, by simp, Norm_nil⟩, by simp [toInt]⟩

theorem toInt_zero_of_size {u : Mpz} (hu : WF u) (h0 : u.size = 0) : toInt u = 0 := by
  obtain ⟨_, _, hul, _⟩ := (WF_iff u).mp hu
  have hd : u.d = [] := List.length_eq_zero_iff.mp (by rw [hul, h0]; rfl)
  simp [toInt, hd]

/-- mpz_neg, mpz_abs and mpz_set keep the limbs of `u` and write a size field of the same magnitude -/
theorem resize_spec (a : Nat) (s : Int) (u : Mpz) (hu : WF u) (hs : s.natAbs = u.size.natAbs) (ha1 : 1 ≤ a)
    (ha : u.size.natAbs ≤ a) : WF ⟨a, s, u.d⟩ ∧ toInt ⟨a, s, u.d⟩ = sval s u.d := by
  obtain ⟨_, _, hul, hun⟩ := (WF_iff u).mp hu
  exact ⟨(WF_iff _).mpr ⟨ha1, by dsimp only; omega, by dsimp only; omega, hun⟩, rfl⟩

theorem neg_spec (same : Bool) (w u : Mpz) (hw : 1 ≤ w.alloc) (hu : WF u)
    (hs : same = true → w = u) :
    WF (neg same w u) ∧ toInt (neg same w u) = -toInt u := by
  obtain ⟨hu1, hu2, hul, _⟩ := (WF_iff u).mp hu
  obtain ⟨ga1, ga2⟩ := grow_alloc w u.size.natAbs
  rw [toInt_eq u, ← sval_neg _ _ hul]
  unfold neg
  cases same
  · exact resize_spec _ _ u hu (by omega) (by omega) ga1
  · rw [hs rfl]
    exact resize_spec _ _ u hu (by omega) hu1 hu2

theorem sval_natAbs (s : Int) (d : List Nat) : sval (s.natAbs : Int) d = ((sval s d).natAbs : Int) := by
  unfold sval
  have h1 : ¬ ((s.natAbs : Int) < 0) := by omega
  rw [if_neg h1]
  by_cases h : s < 0
  · rw [if_pos h]; simp
  · rw [if_neg h]; simp

theorem abs_spec (same : Bool) (w u : Mpz) (hw : 1 ≤ w.alloc) (hu : WF u)
    (hs : same = true → w = u) :
    WF (abs same w u) ∧ toInt (abs same w u) = ((toInt u).natAbs : Int) := by
  obtain ⟨hu1, hu2, _, _⟩ := (WF_iff u).mp hu
  obtain ⟨ga1, ga2⟩ := grow_alloc w u.size.natAbs
  rw [toInt_eq u, ← sval_natAbs]
  unfold abs
  cases same
  · exact resize_spec _ _ u hu (by omega) (by omega) ga1
  · rw [hs rfl]
    exact resize_spec _ _ u hu (by omega) hu1 hu2

theorem set_spec (w u : Mpz) (hw : 1 ≤ w.alloc) (hu : WF u) :
    WF (set w u) ∧ toInt (set w u) = toInt u := by
  obtain ⟨ga1, ga2⟩ := grow_alloc w u.size.natAbs
  exact resize_spec _ _ u hu rfl (by omega) ga1

/-! ### mpz_mul_2exp (mpz/mul_2exp.c) -/

theorem mul_2exp_hi_spec (d : List Nat) (c : Nat) (hd : Norm d) (hne : d ≠ []) (hc : c < 64) :
    val (mul_2exp_hi d c) = val d * 2 ^ c ∧ Norm (mul_2exp_hi d c) ∧ mul_2exp_hi d c ≠ [] ∧
    (mul_2exp_hi d c).length ≤ d.length + 1 := by
  unfold mul_2exp_hi
  by_cases h0 : c = 0
  · subst h0; simp [hd, hne]
  · have hb : (c != 0) = true := by simp [h0]
    rw [if_pos hb]
    dsimp only
    obtain ⟨lv, lc, ll, ln⟩ := lshift_val' d c hd.1 (by omega)
    have hcB : (lshift d c).2 < B := by
      have : 2 ^ c < 2 ^ 64 := Nat.pow_lt_pow_right (by norm_num) hc
      unfold B; omega
    have hr_ne : (lshift d c).1 ≠ [] := by
      intro h; rw [h] at ln; exact hne (List.length_eq_zero_iff.mp ln.symm)
    by_cases hz : (lshift d c).2 = 0
    · have hb2 : ((lshift d c).2 != 0) = false := by simp [hz]
      rw [hb2]
      simp only [Bool.false_eq_true, if_false]
      rw [hz] at lv
      have hlow := hd.lower hne
      have h2 : 1 ≤ 2 ^ c := Nat.one_le_two_pow
      refine ⟨by omega, Norm.of_lower ll (Or.inr ?_), hr_ne, by omega⟩
      rw [ln]
      have : val d * 1 ≤ val d * 2 ^ c := Nat.mul_le_mul_left _ h2
      omega
    · have hb2 : ((lshift d c).2 != 0) = true := by simp [hz]
      rw [hb2]
      simp only [if_true]
      refine ⟨by rw [val_append, ln]; simpa using lv,
        ⟨Limbs_append.mpr ⟨ll, Limbs_cons.mpr ⟨hcB, Limbs_nil⟩⟩, by simp [hz]⟩, by simp, by simp [ln]⟩

theorem mul_2exp_spec (w u : Mpz) (cnt : Nat) (hw : 1 ≤ w.alloc) (hu : WF u) :
    WF (mul_2exp w u cnt) ∧ toInt (mul_2exp w u cnt) = toInt u * 2 ^ cnt := by
  obtain ⟨_, _, hul, hun⟩ := (WF_iff u).mp hu
  unfold mul_2exp
  dsimp only
  by_cases h0 : (u.size == 0) = true
  · rw [if_pos h0]
    have h0' : u.size = 0 := by simpa using h0
    obtain ⟨wf, ti⟩ := WF_zero w hw
    exact ⟨wf, by rw [ti, toInt_zero_of_size hu h0']; simp⟩
  rw [if_neg h0]
  have hn0 : u.size ≠ 0 := by simpa using h0
  have hne := size_ne_zero hu hn0
  obtain ⟨ga1, ga2⟩ := grow_alloc w (u.size.natAbs + cnt / 64 + 1)
  obtain ⟨hv, hn, hhne, hlen⟩ := mul_2exp_hi_spec u.d (cnt % 64) hun hne (Nat.mod_lt _ (by norm_num))
  generalize mul_2exp_hi u.d (cnt % 64) = hi at *
  have hnorm : Norm (List.replicate (cnt / 64) 0 ++ hi) :=
    ⟨Limbs_append.mpr ⟨Limbs_replicate_zero _, hn.1⟩, normalized_append hhne hn.2⟩
  obtain ⟨wf, ti⟩ := mk_spec (grow w (u.size.natAbs + cnt / 64 + 1)).alloc _ (decide (u.size < 0)) _ rfl
    hnorm (by simp; omega) (by omega)
  refine ⟨wf, ?_⟩
  rw [ti, val_zeros_append, hv, Nat.mul_left_comm, ← two_pow_split, toInt_eq u, sval_decide,
    show (2 : Int) ^ cnt = sgn false (2 ^ cnt) by simp [sgn_false], sgn_mul, Bool.bne_false]
  rfl

/-! ### mpz_mul_ui, mpz_mul_si (mpz/mul_i.h), mpz_mul (mpz/mul.c) -/

/-- `mul_1` followed by `wp[n] = cy; n += (cy != 0)`: the magnitude `d·y`. -/
theorem mul_1_take (d : List Nat) (y : Nat) (hd : Norm d) (hne : d ≠ []) (hy : y < B) (hy0 : y ≠ 0) :
    IsMag (((mul_1 d y).1 ++ [(mul_1 d y).2]).take (d.length + (if (mul_1 d y).2 != 0 then 1 else 0)))
      (d.length + (if (mul_1 d y).2 != 0 then 1 else 0)) (val d * y) := by
  obtain ⟨mv, mc, ml, mn⟩ := mul_1_val' d y hd.1 hy
  have hlow := hd.lower hne
  have h1 : val d * 1 ≤ val d * y := Nat.mul_le_mul_left _ (Nat.pos_of_ne_zero hy0)
  obtain ⟨tv, tl, tn⟩ := take_carry (mul_1 d y).1 (mul_1 d y).2 d.length mn ml mc
    (Or.inr (by omega))
  exact ⟨tv.trans mv, tl, tn⟩

theorem mul_i_spec (w mult : Mpz) (sml : Nat) (sneg : Bool) (hw : 1 ≤ w.alloc) (hm : WF mult)
    (hs : sml < B) :
    WF (mul_i w mult sml sneg) ∧
    toInt (mul_i w mult sml sneg) = toInt mult * (if sneg then -(sml : Int) else (sml : Int)) := by
  obtain ⟨_, _, hml, hmn⟩ := (WF_iff mult).mp hm
  unfold mul_i
  dsimp only
  by_cases h0 : (mult.size == 0 || sml == 0) = true
  · rw [if_pos h0]
    obtain ⟨wf, ti⟩ := WF_zero w hw
    refine ⟨wf, ?_⟩
    rw [ti]
    rcases (by simpa using h0 : mult.size = 0 ∨ sml = 0) with h | h
    · rw [toInt_zero_of_size hm h]; simp
    · subst h; simp
  rw [if_neg h0]
  have ⟨hm0, hs0⟩ : mult.size ≠ 0 ∧ sml ≠ 0 := by simpa using h0
  have hne := size_ne_zero hm hm0
  obtain ⟨ga1, ga2⟩ := grow_alloc w (mult.size.natAbs + 1)
  obtain ⟨wf, ti⟩ := (hml ▸ mul_1_take mult.d sml hmn hne hs hs0).obj (grow w (mult.size.natAbs + 1)).alloc
    (decide (mult.size < 0) != sneg) (by split_ifs <;> omega) (by omega)
  refine ⟨wf, ?_⟩
  rw [ti, toInt_eq mult, sval_decide]
  exact (sgn_mul _ sneg _ _).symm

theorem diffSign_mul (a b : Int) (da db : List Nat) :
    sval a da * sval b db = sgn (diffSign a b) (val da * val db) := by
  rw [sval_decide, sval_decide, sgn_mul]; rfl

/-- a product buffer of `un+vn` limbs with `n -= (wp[n-1] == 0)` -/
theorem prod_strip (wp a b : List Nat) (ha : Norm a) (hb : Norm b) (hane : a ≠ []) (hbne : b ≠ [])
    (hv : val wp = val a * val b) (hl : Limbs wp) (hn : wp.length = a.length + b.length) :
    IsMag (wp.take (a.length + b.length - (if topLimb wp == 0 then 1 else 0)))
      (a.length + b.length - (if topLimb wp == 0 then 1 else 0)) (val a * val b) := by
  have hlow : B ^ (a.length + b.length - 2) ≤ val wp := hv ▸ (mul_size_bounds
    (List.length_pos_iff.mpr hane) (List.length_pos_iff.mpr hbne) (ha.lower hane) ha.upper (hb.lower hbne) hb.upper).1
  obtain ⟨tv, tl, tn⟩ := strip_top wp (a.length + b.length) hn hl (Or.inr hlow)
  exact ⟨tv.trans hv, tl, tn⟩

/-- what mpz_mul leaves: the `n` limbs of the product `P`, one fewer if the top one is zero -/
def mulProd (walloc : Nat) (neg : Bool) (n : Nat) (P : List Nat) : Mpz :=
  ⟨walloc, sgn neg (n - (if topLimb P == 0 then 1 else 0)), P.take (n - (if topLimb P == 0 then 1 else 0))⟩

theorem mk_prod_spec (a : Nat) (neg : Bool) (wp x y : List Nat) (hx : Norm x) (hy : Norm y) (hxne : x ≠ [])
    (hyne : y ≠ []) (hv : val wp = val x * val y) (hl : Limbs wp) (hn : wp.length = x.length + y.length)
    (ha1 : 1 ≤ a) (ha : x.length + y.length ≤ a) :
    WF (mulProd a neg (x.length + y.length) wp) ∧
    toInt (mulProd a neg (x.length + y.length) wp) = sgn neg (val x * val y) :=
  (prod_strip wp x y hx hy hxne hyne hv hl hn).obj a neg (by split_ifs <;> omega) ha1

/-- mpz/mul.c as a case rule: the three cases are the objects `unfold mul` leaves (zero operand, one-limb `v`, the general
    product), so a statement about `mul` is proved by proving it of these three.  The basecase shortcut (:83-103) and the
    generic path (:105-166) leave the same object: they differ in their use of memory, which this layer does not see. -/
theorem mul_cases (thr : Nat) (al : Alias) (w u v : Mpz) (huv : al.uv = true → u = v) (C : Mpz → Prop)
    (h0 : (u.size = 0 ∨ v.size = 0) → C { w with size := 0, d := [] })
    (h1 : u.size ≠ 0 → v.size.natAbs = 1 →
      C ⟨(grow w (u.size.natAbs + 1)).alloc,
        sgn (diffSign u.size v.size) (u.size.natAbs + (if (mul_1 u.d (v.d.headD 0)).2 != 0 then 1 else 0)),
        ((mul_1 u.d (v.d.headD 0)).1 ++ [(mul_1 u.d (v.d.headD 0)).2]).take
          (u.size.natAbs + (if (mul_1 u.d (v.d.headD 0)).2 != 0 then 1 else 0))⟩)
    (hp : u.size ≠ 0 → 2 ≤ v.size.natAbs →
      C (mulProd (if w.alloc < u.size.natAbs + v.size.natAbs then u.size.natAbs + v.size.natAbs else w.alloc)
        (diffSign u.size v.size) (u.size.natAbs + v.size.natAbs)
        (if u.size.natAbs ≥ v.size.natAbs then mul_basecase u.d v.d else mul_basecase v.d u.d))) :
    C (mul thr al w u v) := by
  unfold mul
  dsimp only
  refine iteInduction (fun h => h0 (by simpa using h)) fun h => ?_
  have ⟨hu0, hv0⟩ : u.size ≠ 0 ∧ v.size ≠ 0 := by simpa using h
  refine iteInduction (fun h => h1 hu0 (by simpa using h)) fun h => ?_
  have h2 : 2 ≤ v.size.natAbs := by have : v.size.natAbs ≠ 1 := by simpa using h
                                    omega
  have hp := hp hu0 h2
  have hsq : al.uv = true → mpn_sqr u.d = mul_basecase u.d v.d := fun h => by rw [← huv h]; rfl
  have hg := grow_alloc_eq w (u.size.natAbs + v.size.natAbs) (by omega)
  unfold mulProd at hp
  refine iteInduction (fun _ => ?_) fun _ => ?_
  · rw [hg]
    by_cases hge : u.size.natAbs ≥ v.size.natAbs
    · rw [if_pos hge] at hp
      by_cases he : u.size.natAbs = v.size.natAbs
      · rw [if_pos (by simpa using he : (u.size.natAbs == v.size.natAbs) = true)]
        by_cases ha : al.uv = true
        · rw [if_pos ha, hsq ha]; exact hp
        · rw [if_neg ha]; exact hp
      · rw [if_neg (by simpa using he : ¬(u.size.natAbs == v.size.natAbs) = true),
          if_pos (by omega : u.size.natAbs > v.size.natAbs)]
        exact hp
    · rw [if_neg hge] at hp
      rw [if_neg (by simp only [beq_iff_eq]; omega : ¬(u.size.natAbs == v.size.natAbs) = true),
        if_neg (by omega : ¬u.size.natAbs > v.size.natAbs)]
      exact hp
  · by_cases hsw : u.size.natAbs < v.size.natAbs
    · rw [if_neg (by omega : ¬u.size.natAbs ≥ v.size.natAbs)] at hp
      simp only [if_pos hsw]
      rw [if_neg (by simp only [Bool.and_eq_true, beq_iff_eq]; omega :
        ¬(al.uv && v.size.natAbs == u.size.natAbs) = true)]
      exact hp
    · rw [if_pos (by omega : u.size.natAbs ≥ v.size.natAbs)] at hp
      simp only [if_neg hsw]
      by_cases ha : (al.uv && u.size.natAbs == v.size.natAbs) = true
      · rw [if_pos ha, hsq (by simp only [Bool.and_eq_true] at ha; exact ha.1)]; exact hp
      · rw [if_neg ha]; exact hp

theorem mul_spec (thr : Nat) (al : Alias) (w u v : Mpz) (hw : 1 ≤ w.alloc) (hu : WF u) (hv : WF v)
    (huv : al.uv = true → u = v) :
    WF (mul thr al w u v) ∧ toInt (mul thr al w u v) = toInt u * toInt v := by
  obtain ⟨_, _, hul, hun⟩ := (WF_iff u).mp hu
  obtain ⟨_, _, hvl, hvn⟩ := (WF_iff v).mp hv
  refine mul_cases thr al w u v huv (fun r => WF r ∧ toInt r = toInt u * toInt v) (fun h => ?_) (fun hu0 h1 => ?_)
    (fun hu0 h2 => ?_)
  · obtain ⟨wf, ti⟩ := WF_zero w hw
    refine ⟨wf, ?_⟩
    rw [ti]
    rcases h with h | h
    · rw [toInt_zero_of_size hu h]; simp
    · rw [toInt_zero_of_size hv h]; simp
  · -- mul.c:69-78
    have hune := size_ne_zero hu hu0
    rw [toInt_eq u, toInt_eq v, diffSign_mul]
    obtain ⟨y, -, hyB, hy0, hh, hvv⟩ := hvn.single (hvl.trans h1)
    rw [hh, hvv]
    obtain ⟨ga1, ga2⟩ := grow_alloc w (u.size.natAbs + 1)
    exact (hul ▸ mul_1_take u.d y hun hune hyB hy0).obj (grow w (u.size.natAbs + 1)).alloc (diffSign u.size v.size)
      (by split_ifs <;> omega) (by omega)
  · have hune := size_ne_zero hu hu0
    have hvne := size_ne_zero hv (by intro h; rw [h] at h2; simp at h2)
    rw [toInt_eq u, toInt_eq v, diffSign_mul, ← hul, ← hvl]
    have hal : 1 ≤ (if w.alloc < u.d.length + v.d.length then u.d.length + v.d.length else w.alloc) ∧
        u.d.length + v.d.length ≤ (if w.alloc < u.d.length + v.d.length then u.d.length + v.d.length else w.alloc) := by
      split_ifs <;> omega
    obtain ⟨p1, p2, p3⟩ := mul_basecase_val' u.d v.d hun.1 hvn.1 (List.length_pos_iff.mpr hvne)
    obtain ⟨q1, q2, q3⟩ := mul_basecase_val' v.d u.d hvn.1 hun.1 (List.length_pos_iff.mpr hune)
    have hP : ∀ P, P = mul_basecase u.d v.d ∨ P = mul_basecase v.d u.d →
        val P = val u.d * val v.d ∧ Limbs P ∧ P.length = u.d.length + v.d.length := by
      rintro P (rfl | rfl)
      · exact ⟨p1, p2, p3⟩
      · exact ⟨by rw [q1, Nat.mul_comm], q2, by rw [q3, Nat.add_comm]⟩
    obtain ⟨a1, a2, a3⟩ := hP _ (ite_eq_or_eq (u.d.length ≥ v.d.length) _ _)
    exact mk_prod_spec _ _ _ u.d v.d hun hvn hune hvne a1 a2 a3 hal.1 hal.2
end Mpir.Mpz
