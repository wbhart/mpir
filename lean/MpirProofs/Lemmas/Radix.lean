/- Helper lemmas for C06 (radix conversion): what the tables must satisfy (`NonPow2Ok`, `Pow2Ok`, `Base10Ok`, `BasesOk`,
   `TabOk`), basecase and power-of-two conversions, mpn_set_str, the parser of mpz_set_str, mpz_get_str and the round
   trip, sizeinbase and its Farey certificates.  The digit-string specification and the alphabets are in
   Lemmas/RadixDigits.lean. -/
import MpirProofs.Lemmas.RadixDigits
import MpirProofs.Lemmas.Kernels
import Mathlib.Tactic.Ring
import Mathlib.Tactic.Linarith
import Mathlib.Tactic.IntervalCases
import Mathlib.Data.Nat.Digits.Defs
namespace Mpir.Radix
open Mpir

theorem digitsOf_eq_digits {b : Nat} (hb : 2 ≤ b) (x : Nat) : digitsOf b x = (Nat.digits b x).reverse := by
  induction x using Nat.strong_induction_on with
  | _ x ih =>
    rcases Nat.eq_zero_or_pos x with rfl | hx
    · simp
    · rw [digitsOf_step hb hx, ih _ (Nat.div_lt_self hx (by omega)),
        Nat.digits_eq_cons_digits_div (b := b) (n := x) (by omega) (by omega)]
      simp

/-! ### mpn_sb_get_str -/

theorem mul_add_lt {a c P Q : Nat} (ha : a < P) (hc : c < Q) : a * Q + c < P * Q := by
  rw [Nat.add_comm, Nat.mul_comm a, Nat.mul_comm P]
  exact add_mul_lt hc ha

theorem dropLast_getLast! : ∀ (l : List Nat), l ≠ [] → l.dropLast ++ [l.getLast!] = l
  | [], h => absurd rfl h
  | [x], _ => by simp [List.getLast!]
  | x :: y :: l, _ => by
    have := dropLast_getLast! (y :: l) (by simp)
    simp only [List.dropLast_cons_cons, List.cons_append]
    rw [show (x :: y :: l).getLast! = (y :: l).getLast! by simp [List.getLast!]]
    rw [this]

theorem divrem1_spec (d : Nat) (hd : 0 < d) : ∀ (u : List Nat), Limbs u →
    val u = val (divrem1 u d).1 * d + (divrem1 u d).2 ∧ (divrem1 u d).2 < d ∧
    (divrem1 u d).1.length = u.length ∧ Limbs (divrem1 u d).1
  | [], _ => by simp [divrem1, hd, Limbs_nil]
  | x :: xs, h => by
    have ⟨hx, hxs⟩ := Limbs_cons.mp h
    obtain ⟨hv, hr, hl, hq⟩ := divrem1_spec d hd xs hxs
    simp only [divrem1]
    generalize divrem1 xs d = res at *
    obtain ⟨qs, r⟩ := res
    simp only at hv hr hl hq ⊢
    refine ⟨?_, Nat.mod_lt _ hd, by simp [hl], Limbs_cons.mpr ⟨?_, hq⟩⟩
    · simp only [val_cons]
      rw [hv]
      linear_combination (Nat.div_add_mod (r * B + x) d).symm
    · rw [Nat.div_lt_iff_lt_mul hd, Nat.mul_comm B d]
      exact mul_add_lt hr hx

/-- one digit of the fraction: if `f/B` brackets `r/(p·b)` from above within `E/B`, then the integer part of
    `f·b/B` is the leading digit `r / p` and its fraction brackets the rest `(r mod p)/p` in the same way -/
theorem peel_step_arith {p b f r E : Nat} (hp : 0 < p) (hE : E < B)
    (h1 : r * B < f * (p * b)) (h2 : f * (p * b) ≤ r * B + E) :
    f * b / B = r / p ∧ (r % p) * B < (f * b % B) * p ∧ (f * b % B) * p ≤ (r % p) * B + E := by
  have hr := Nat.div_add_mod r p
  have hr' : r % p < p := Nat.mod_lt _ hp
  generalize r / p = d0 at *
  generalize r % p = r' at *
  have e2 : r * B = d0 * B * p + r' * B := by rw [← hr]; ring
  have e3 : f * (p * b) = f * b * p := by ring
  have hr1 : r' * B + E < B * p := by rw [Nat.mul_comm B p]; exact mul_add_lt hr' hE
  have hdiv : f * b / B = d0 := by
    refine Nat.div_eq_of_lt_le ?_ ?_
    · refine Nat.le_of_lt (Nat.lt_of_mul_lt_mul_right (a := p) ?_)
      omega
    · refine Nat.lt_of_mul_lt_mul_right (a := p) ?_
      rw [Nat.add_mul, Nat.one_mul, Nat.add_mul]; omega
  have hm := Nat.div_add_mod (f * b) B
  rw [hdiv] at hm
  generalize f * b % B = m at *
  have e1 : f * b * p = d0 * B * p + m * p := by rw [← hm]; ring
  refine ⟨hdiv, ?_, ?_⟩ <;> omega

theorem peel_digits {b : Nat} (E : Nat) (hE : E < B) (n : Nat) : ∀ (r f : Nat), r < b ^ n → f < B →
    r * B < f * b ^ n → f * b ^ n ≤ r * B + E → (peel b n f).1 = fixedDigits b n r := by
  induction n with
  | zero => intro r f _ _ _ _; simp [peel, fixedDigits]
  | succ n ih =>
    intro r f hr hf h1 h2
    have hbpos : 0 < b := by
      rcases Nat.eq_zero_or_pos b with rfl | h
      · simp at hr
      · exact h
    have hp : 0 < b ^ n := Nat.pow_pos hbpos
    rw [pow_succ] at h1 h2
    obtain ⟨e1, e2, e3⟩ := peel_step_arith hp hE h1 h2
    simp only [peel, umul_ppmm, fixedDigits]
    rw [e1, ih (r % b ^ n) (f * b % B) (Nat.mod_lt _ hp) (Nat.mod_lt _ B_pos) e2 e3]

theorem peel_append (b : Nat) : ∀ (i j f : Nat),
    peel b (i + j) f = ((peel b i f).1 ++ (peel b j (peel b i f).2).1, (peel b j (peel b i f).2).2)
  | 0, j, f => by simp [peel]
  | i + 1, j, f => by
    rw [show i + 1 + j = (i + j) + 1 by omega]
    simp only [peel]
    rw [peel_append b i j]
    simp


theorem peel_snd_lt (b : Nat) : ∀ (i f : Nat), f < B → (peel b i f).2 < B
  | 0, f, h => by simpa [peel] using h
  | i + 1, f, _ => by
    simp only [peel, umul_ppmm]
    exact peel_snd_lt b i _ (Nat.mod_lt _ B_pos)

theorem peel10_eq : ∀ (i f : Nat), f % 16 = 0 → f < B → peel10 i (f / 16) = (peel 10 i f).1
  | 0, _, _, _ => by simp [peel10, peel]
  | i + 1, f, h16, hf => by
    simp only [peel10, peel, umul_ppmm]
    have hmask : (B - 1) >>> 4 = 2 ^ 60 - 1 := by simp [B_eq]
    rw [hmask, Nat.and_two_pow_sub_one_eq_mod, Nat.shiftRight_eq_div_pow]
    have e1 : f / 16 * 10 % B / 2 ^ 60 = f * 10 / B := by simp only [B_eq] at *; omega
    have e2 : f / 16 * 10 % B % 2 ^ 60 = f * 10 % B / 16 := by simp only [B_eq] at *; omega
    have e3 : f * 10 % B % 16 = 0 := by simp only [B_eq] at *; omega
    rw [e1, e2, peel10_eq i (f * 10 % B) e3 (Nat.mod_lt _ B_pos)]

theorem peel_ten_div (j : Nat) : ∀ (i f : Nat), f % 2 ^ j = 0 → i + j ≤ 4 → (peel 10 i f).2 % 2 ^ (i + j) = 0
  | 0, f, h, _ => by simpa [peel] using h
  | i + 1, f, h, hij => by
    simp only [peel, umul_ppmm]
    have := peel_ten_div (j + 1) i (f * 10 % B) (by
      have : j ≤ 3 := by omega
      interval_cases j <;> simp only [B_eq] at * <;> omega) (by omega)
    rw [show i + 1 + j = i + (j + 1) by omega]; exact this

theorem peelBase10_eq (h10 : Gen.mpBases10.1 = 19 ∧ Gen.mpBases10.2.2.2 = 0) (f : Nat) (hf : f < B) :
    peelBase10 f = (peel 10 19 f).1 := by
  unfold peelBase10
  rw [h10.1, h10.2]
  simp only [Nat.min_eq_left (Nat.zero_le 4), Nat.sub_zero]
  rw [show (19 : Nat) = 4 + 15 from rfl, peel_append]
  have hd : (peel 10 4 f).2 % 16 = 0 := by
    have := peel_ten_div 0 4 f (Nat.mod_one f) (by omega); simpa using this
  have hl := peel_snd_lt 10 4 f hf
  generalize (peel 10 4 f).2 = g at *
  generalize (peel 10 4 f).1 = ds
  simp only
  have : ((g + 15) % B) >>> 4 = g / 16 := by
    rw [Nat.shiftRight_eq_div_pow]; simp only [B_eq] at *; omega
  rw [this, peel10_eq 15 g hd hl]

theorem val_ge_of_top {u : List Nat} (hne : u ≠ []) (htop : u.getLast! ≠ 0) : B ^ (u.length - 1) ≤ val u :=
  ((normalized_iff_getLast! hne).mpr htop).ge hne

theorem frac_bounds {r bb : Nat} (hr : r < bb) (hbb : bb < B) :
    r * B / bb + 1 < B ∧ r * B < (r * B / bb + 1) * bb ∧ (r * B / bb + 1) * bb ≤ r * B + bb := by
  have hpos : 0 < bb := by omega
  have h1 := Nat.div_add_mod (r * B) bb
  have h2 := Nat.mod_lt (r * B) hpos
  generalize r * B / bb = q at *
  generalize r * B % bb = m at *
  have e : (q + 1) * bb = bb * q + bb := by ring
  refine ⟨?_, by omega, by omega⟩
  by_contra hcon
  have hq : B - 1 ≤ q := by omega
  have : bb * (B - 1) ≤ bb * q := Nat.mul_le_mul_left _ hq
  have e2 : bb * (B - 1) = bb * B - bb := by rw [Nat.mul_sub, Nat.mul_one]
  have : r * B + B ≤ bb * B := by rw [← Nat.succ_mul]; exact Nat.mul_le_mul_right _ hr
  have : bb * B - bb > r * B := by omega
  omega

/-- The basecase loop for an arbitrary {up, un} (high zero limbs allowed, as mpn_dc_get_str passes them):
    the digits of the value, zero-padded on the left to at least `chars_per_limb·(un-1)` digits. -/
theorem sbLoop_pad {b cpl bb : Nat} {ten : Bool} (hb : 2 ≤ b) (hcpl : 0 < cpl) (hbb : bb = b ^ cpl) (hlt : bb < B)
    (hpeel : ∀ f, f < B → (if ten then peelBase10 f else (peel b cpl f).1) = (peel b cpl f).1) :
    ∀ (fuel : Nat) (u acc : List Nat), Limbs u → u ≠ [] → val u < 2 ^ fuel → u.length ≤ fuel + 1 →
      digitsAcc b ((sbLoop b cpl bb ten fuel u acc).1.headD 0) (sbLoop b cpl bb ten fuel u acc).2
        = padDigits b (cpl * (u.length - 1)) (val u) ++ acc := by
  intro fuel
  have hbbpos : 0 < bb := by rw [hbb]; exact Nat.pow_pos (by omega)
  have hbb2 : 2 ≤ bb := by
    rw [hbb]; calc 2 ≤ b ^ 1 := by simpa using hb
      _ ≤ b ^ cpl := Nat.pow_le_pow_right (by omega) hcpl
  have hone : ∀ (x : Nat) (acc : List Nat), digitsAcc b x acc = padDigits b (cpl * ([x].length - 1)) (val [x]) ++ acc := by
    intro x acc
    rw [digitsAcc_eq_digitsOf, padDigits_of_le (by simp), show val [x] = x by simp]
  induction fuel with
  | zero =>
    intro u acc _ hne _ hlen
    match u, hne, hlen with
    | [x], _, _ => simp only [sbLoop, List.headD_cons]; exact hone x acc
  | succ fuel ih =>
    intro u acc hu hne hfuel hlenf
    rw [sbLoop]
    split
    · rename_i hlen
      obtain ⟨hv, hr, hl, hq⟩ := divrem1_spec bb hbbpos u hu
      generalize divrem1 u bb = res at *
      obtain ⟨q, r⟩ := res
      simp only at hv hr hl hq ⊢
      obtain ⟨f1, f2, f3⟩ := frac_bounds hr hlt
      have hds : (if ten then peelBase10 ((r * B / bb + 1) % B) else (peel b cpl ((r * B / bb + 1) % B)).1)
          = fixedDigits b cpl r := by
        rw [Nat.mod_eq_of_lt f1, hpeel _ f1]
        exact peel_digits bb hlt cpl r _ (hbb ▸ hr) f1 (hbb ▸ f2) (hbb ▸ f3)
      rw [hds]
      have hqne : q ≠ [] := by intro e; rw [e] at hl; simp at hl; omega
      have hsplit := dropLast_getLast! q hqne
      have hqv : val q = val q.dropLast + B ^ (u.length - 1) * q.getLast! := by
        conv_lhs => rw [← hsplit]
        rw [val_snoc]; simp [hl]
      have hQlt : val q < 2 ^ fuel := by
        have : val q * 2 ≤ val u := hv ▸ le_trans (Nat.mul_le_mul_left _ hbb2) (Nat.le_add_right _ _)
        rw [pow_succ] at hfuel; omega
      by_cases h0 : q.getLast! = 0
      · -- the top quotient limb is zero: un decreases
        have hc : (q.getLast! == 0) = true := by rw [h0]; rfl
        rw [if_pos hc]
        have hvq : val q.dropLast = val q := by rw [hqv, h0]; simp
        have hlen' : q.dropLast.length = u.length - 1 := by simp [hl]
        have hne' : q.dropLast ≠ [] := by
          intro e; rw [e] at hlen'; simp at hlen'; omega
        rw [ih _ _ (Limbs_append.mp (hsplit ▸ hq)).1 hne' (hvq ▸ hQlt) (by omega), hvq, hlen',
          ← List.append_assoc, pad_append_fixed hb _ _ _ _ (hbb ▸ hr), hv, hbb]
        congr 2
        have : u.length - 1 = (u.length - 1 - 1) + 1 := by omega
        conv_rhs => rw [this]
        ring
      · -- the top quotient limb is non-zero: the quotient is normalised, no padding at all
        have hc : ¬ (q.getLast! == 0) = true := fun h => h0 (beq_iff_eq.mp h)
        rw [if_neg hc]
        have hQge : B ^ (u.length - 1) ≤ val q := by
          rw [hqv]
          exact le_trans (Nat.le_mul_of_pos_right _ (Nat.pos_of_ne_zero h0)) (Nat.le_add_left _ _)
        have hfl : q.length ≤ fuel + 1 := by
          -- 2^(64(un-1)) ≤ val q < 2^fuel
          have h1 : (2 : Nat) ^ (64 * (u.length - 1)) < 2 ^ fuel := by
            have := B_pow (u.length - 1); omega
          have := (Nat.pow_lt_pow_iff_right (by omega : 1 < 2)).mp h1
          omega
        rw [ih _ _ hq hqne hQlt hfl, hl, ← List.append_assoc, pad_append_fixed hb _ _ _ _ (hbb ▸ hr), hv, hbb]
        congr 1
        -- both sides are unpadded: b^(cpl·un) ≤ val u
        have hbig : b ^ (cpl * (u.length - 1) + cpl) ≤ val q * b ^ cpl + r := by
          have e1 : b ^ (cpl * (u.length - 1) + cpl) = (b ^ cpl) ^ (u.length - 1) * b ^ cpl := by
            rw [← pow_mul, ← pow_add]
          have e2 : (b ^ cpl) ^ (u.length - 1) ≤ B ^ (u.length - 1) :=
            Nat.pow_le_pow_left (by rw [← hbb]; omega) _
          rw [e1]
          calc (b ^ cpl) ^ (u.length - 1) * b ^ cpl ≤ val q * b ^ cpl := Nat.mul_le_mul_right _ (le_trans e2 hQge)
            _ ≤ _ := Nat.le_add_right _ _
        have hg := digitsOf_length_gt hb hbig
        rw [padDigits_of_le (by omega), padDigits_of_le (by omega)]
    · rename_i hlen
      have h1 : u.length = 1 := by
        have : u.length ≠ 0 := by simpa using hne
        omega
      match u, h1 with
      | [x], _ => simp only [List.headD_cons]; exact hone x acc

/-! ### what the `mp_bases` table must satisfy -/

/-- what `bases_table_ok` establishes for a base that is not a power of two -/
def NonPow2Ok (b : Nat) : Prop :=
  bigBase b = b ^ charsPerLimb b ∧ b ^ charsPerLimb b < B ∧ B ≤ b ^ (charsPerLimb b + 1) ∧
  bigBaseInv b = (B * B - 1) / (bigBase b <<< clz (bigBase b)) - B
instance (b : Nat) : Decidable (NonPow2Ok b) := by unfold NonPow2Ok; infer_instance

/-- what `bases_table_ok` establishes for a power of two -/
def Pow2Ok (b : Nat) : Prop :=
  2 ^ bigBase b = b ∧ 0 < bigBase b ∧ charsPerLimb b = 64 / bigBase b ∧ bigBaseInv b = 0
instance (b : Nat) : Decidable (Pow2Ok b) := by unfold Pow2Ok; infer_instance

/-- the base-10 constants of gmp-impl.h agree with the table and big_base is normalised -/
def Base10Ok : Prop :=
  Gen.mpBases10 = (charsPerLimb 10, bigBase 10, bigBaseInv 10, clz (bigBase 10)) ∧
  charsPerLimb 10 = 19 ∧ clz (bigBase 10) = 0
instance : Decidable Base10Ok := by unfold Base10Ok; infer_instance

theorem bigBase_le_64 {b : Nat} (hb62 : b ≤ 62) (hok : Pow2Ok b) : bigBase b ≤ 64 := by
  by_contra hcon
  have : 2 ^ 64 ≤ 2 ^ bigBase b := Nat.pow_le_pow_right (by omega) (by omega)
  rw [hok.1] at this; omega

theorem NonPow2Ok.cpl_pos {b : Nat} (hb62 : b ≤ 62) (h : NonPow2Ok b) : 0 < charsPerLimb b := by
  rcases Nat.eq_zero_or_pos (charsPerLimb b) with h0 | h0
  · have := h.2.2.1; rw [h0] at this; simp [B_eq] at this; omega
  · exact h0

theorem sb_get_str_pad {b : Nat} (hb : 2 ≤ b) (hb62 : b ≤ 62) (hok : NonPow2Ok b) (h10 : Base10Ok)
    (up : List Nat) (hu : Limbs up) (hne : up ≠ []) :
    sb_get_str b up = padDigits b (charsPerLimb b * (up.length - 1)) (val up) := by
  obtain ⟨t1, t2, t3⟩ := h10
  have hcpl := hok.cpl_pos hb62
  have hval : val up < 2 ^ (64 * up.length + 1) := by
    have := val_lt up hu
    rw [B_pow] at this; rw [pow_succ]; omega
  unfold sb_get_str
  by_cases hten : b = 10
  · subst hten
    have e1 : Gen.mpBases10.1 = charsPerLimb 10 := by rw [t1]
    have e2 : Gen.mpBases10.2.1 = bigBase 10 := by rw [t1]
    have e3 : Gen.mpBases10.2.2.2 = 0 := by rw [t1]; exact t3
    simp only [show ((10 : Nat) == 10) = true from rfl, if_true, e1, e2]
    have := sbLoop_pad (b := 10) (cpl := charsPerLimb 10) (bb := bigBase 10) (ten := true) hb hcpl hok.1
      (hok.1 ▸ hok.2.1)
      (by intro f hf; simp only [if_true]; rw [t2]; exact peelBase10_eq ⟨e1.trans t2, e3⟩ f hf)
      (64 * up.length + 1) up [] hu hne hval (by omega)
    simpa using this
  · have hf : (b == 10) = false := by simpa using hten
    simp only [hf, Bool.false_eq_true, if_false]
    have := sbLoop_pad (b := b) (cpl := charsPerLimb b) (bb := bigBase b) (ten := false) hb hcpl hok.1
      (hok.1 ▸ hok.2.1) (by intro f _; simp)
      (64 * up.length + 1) up [] hu hne hval (by omega)
    simpa using this

/-- with a non-zero top limb there is no padding: `B^(un-1) ≤ u` has more than `chars_per_limb·(un-1)` digits -/
theorem sb_get_str_of_table {b : Nat} (hb : 2 ≤ b) (hb62 : b ≤ 62) (hok : NonPow2Ok b) (h10 : Base10Ok)
    (up : List Nat) (hu : Limbs up) (hne : up ≠ []) (htop : up.getLast! ≠ 0) :
    sb_get_str b up = digitsOf b (val up) := by
  rw [sb_get_str_pad hb hb62 hok h10 up hu hne]
  have hpw : b ^ (charsPerLimb b * (up.length - 1)) ≤ B ^ (up.length - 1) := by
    rw [pow_mul]; exact Nat.pow_le_pow_left (Nat.le_of_lt hok.2.1) _
  have := digitsOf_length_gt hb (le_trans hpw (val_ge_of_top hne htop))
  exact padDigits_of_le (by omega)

/-! ### mpn_get_str, power-of-two bases -/

theorem pow2Inner_spec {bpd : Nat} (hbpd : 0 < bpd) (n1 r : Nat) (hr : r < bpd) : ∀ k : Nat,
    pow2Inner bpd n1 (((r + k * bpd : Nat) : Int) - bpd) =
      (fixedDigits (2 ^ bpd) k (n1 / 2 ^ r % (2 ^ bpd) ^ k), (r : Int) - bpd)
  | 0 => by
    rw [pow2Inner, dif_neg (by omega)]; simp [fixedDigits]
  | k + 1 => by
    rw [pow2Inner, dif_pos (by constructor <;> [(push_cast; nlinarith); exact hbpd])]
    have harg : ((r + (k + 1) * bpd : Nat) : Int) - bpd - bpd = ((r + k * bpd : Nat) : Int) - bpd := by
      push_cast; ring
    have htn : (((r + (k + 1) * bpd : Nat) : Int) - bpd).toNat = r + k * bpd := by
      have : ((r + (k + 1) * bpd : Nat) : Int) - bpd = ((r + k * bpd : Nat) : Int) := by push_cast; ring
      rw [this]; exact Int.toNat_natCast _
    simp only [harg, htn]
    rw [pow2Inner_spec hbpd n1 r hr k, fixedDigits]
    simp only
    rw [Nat.one_shiftLeft, Nat.and_two_pow_sub_one_eq_mod, Nat.shiftRight_eq_div_pow]
    have hD : 0 < (2 ^ bpd) ^ k := Nat.pow_pos (Nat.pow_pos (by omega))
    have e1 : n1 / 2 ^ r % (2 ^ bpd) ^ (k + 1) / (2 ^ bpd) ^ k = n1 / 2 ^ (r + k * bpd) % 2 ^ bpd := by
      rw [pow_succ, Nat.mod_mul_right_div_self, Nat.div_div_eq_div_mul, ← pow_mul, ← pow_add, Nat.mul_comm bpd k]
    have e2 : n1 / 2 ^ r % (2 ^ bpd) ^ (k + 1) % (2 ^ bpd) ^ k = n1 / 2 ^ r % (2 ^ bpd) ^ k := by
      rw [pow_succ]; exact Nat.mod_mul_right_mod _ _ _
    rw [e1, e2]

theorem pow2_boundary {bpd r k s E n1 u lower : Nat} (hs : s + r = bpd) (hs64 : s ≤ 64) (hs1 : 0 < s)
    (hu : u < 2 ^ 64) (hlow : lower < 2 ^ E) :
    let W := n1 * 2 ^ (E + 64) + (u * 2 ^ E + lower)
    let P0' := 64 - s + E
    let P0 := P0' + (k + 1) * bpd
    (W % 2 ^ P0) % 2 ^ P0' = (u * 2 ^ E + lower) % 2 ^ P0' ∧
    (W % 2 ^ P0) / 2 ^ P0' = (n1 * 2 ^ s + u / 2 ^ (64 - s)) % (2 ^ bpd) ^ (k + 1) ∧
    (n1 * 2 ^ s + u / 2 ^ (64 - s)) % (2 ^ bpd) ^ (k + 1) / 2 ^ bpd = n1 / 2 ^ r % (2 ^ bpd) ^ k ∧
    (n1 * 2 ^ s + u / 2 ^ (64 - s)) % (2 ^ bpd) ^ (k + 1) % 2 ^ bpd = n1 % 2 ^ r * 2 ^ s + u / 2 ^ (64 - s) ∧
    u / 2 ^ (64 - s) < 2 ^ s := by
  intro W P0' P0
  have hu' : u / 2 ^ (64 - s) < 2 ^ s := by
    rw [Nat.div_lt_iff_lt_mul (Nat.pow_pos (by omega)), ← pow_add]
    rw [show s + (64 - s) = 64 by omega]; exact hu
  have e64 : E + 64 = s + P0' := by omega
  have hW : W = (n1 * 2 ^ s) * 2 ^ P0' + (u * 2 ^ E + lower) := by
    show n1 * 2 ^ (E + 64) + _ = _
    rw [e64, pow_add]; ring
  have hP0 : (2 : Nat) ^ P0 = 2 ^ P0' * (2 ^ bpd) ^ (k + 1) := by
    show 2 ^ (P0' + (k + 1) * bpd) = _
    rw [pow_add, ← pow_mul, Nat.mul_comm bpd]
  have hdiv : (u * 2 ^ E + lower) / 2 ^ P0' = u / 2 ^ (64 - s) := by
    show _ / 2 ^ (64 - s + E) = _
    rw [Nat.add_comm (64 - s) E, pow_add, ← Nat.div_div_eq_div_mul]
    congr 1
    rw [Nat.mul_comm, Nat.mul_add_div (Nat.pow_pos (by omega)), Nat.div_eq_of_lt hlow]; simp
  refine ⟨?_, ?_, ?_, ?_, hu'⟩
  · rw [hP0, Nat.mod_mul_right_mod, hW, Nat.mul_comm _ (2 ^ P0'), Nat.mul_add_mod]
  · rw [hP0, Nat.mod_mul_right_div_self, hW, Nat.mul_comm _ (2 ^ P0'),
      Nat.mul_add_div (Nat.pow_pos (by omega)), hdiv]
  · rw [pow_succ, Nat.mul_comm ((2 ^ bpd) ^ k), Nat.mod_mul_right_div_self]
    congr 1
    rw [← hs, pow_add, ← Nat.div_div_eq_div_mul, Nat.mul_comm n1, Nat.mul_add_div (Nat.pow_pos (by omega)),
      Nat.div_eq_of_lt hu']; simp
  · rw [pow_succ, Nat.mul_comm ((2 ^ bpd) ^ k), Nat.mod_mul_right_mod]
    have hn := Nat.div_add_mod n1 (2 ^ r)
    have : n1 * 2 ^ s + u / 2 ^ (64 - s) = 2 ^ bpd * (n1 / 2 ^ r) + (n1 % 2 ^ r * 2 ^ s + u / 2 ^ (64 - s)) := by
      rw [← hs, pow_add]; conv_lhs => rw [← hn]
      ring
    rw [this, Nat.mul_add_mod]
    apply Nat.mod_eq_of_lt
    rw [← hs, pow_add, Nat.mul_comm (2 ^ s)]
    exact mul_add_lt (Nat.mod_lt _ (Nat.pow_pos (by omega))) hu'

theorem pow2Go_spec {bpd : Nat} (hbpd : 0 < bpd) (hbpd64 : bpd ≤ 64) :
    ∀ (rest : List Nat) (n1 p : Nat), Limbs rest → bpd ∣ (p + 64 * rest.length) →
      pow2Go bpd n1 (p : Int) rest =
        fixedDigits (2 ^ bpd) ((p + 64 * rest.length) / bpd)
          ((n1 * B ^ rest.length + val rest.reverse) % 2 ^ (p + 64 * rest.length))
  | [], n1, p, _, hdvd => by
    obtain ⟨k, hk⟩ := hdvd
    simp only [List.length_nil, Nat.mul_zero, Nat.add_zero] at hk
    subst hk
    have h := pow2Inner_spec hbpd n1 0 hbpd k
    simp only [Nat.zero_add, pow_zero, Nat.div_one] at h
    simp only [pow2Go, List.length_nil, Nat.mul_zero, Nat.add_zero, pow_zero, Nat.mul_one, List.reverse_nil, val_nil]
    rw [show ((bpd * k : Nat) : Int) - (bpd : Int) = ((k * bpd : Nat) : Int) - bpd by rw [Nat.mul_comm], h,
      Nat.mul_div_cancel_left _ hbpd, pow_mul]
  | u :: rest, n1, p, hl, hdvd => by
    have ⟨hu, hrest⟩ := Limbs_cons.mp hl
    have hp := Nat.div_add_mod p bpd
    have hr : p % bpd < bpd := Nat.mod_lt _ hbpd
    generalize p / bpd = k at hp
    generalize p % bpd = r at hp hr
    subst hp
    have hi := pow2Inner_spec hbpd n1 r hr k
    rw [pow2Go, show ((bpd * k + r : Nat) : Int) - (bpd : Int) = ((r + k * bpd : Nat) : Int) - bpd by
      push_cast; ring, hi]
    simp only
    have hs : (-((r : Int) - bpd)).toNat = bpd - r := by omega
    have hp' : (r : Int) - bpd + 64 = ((64 - (bpd - r) : Nat) : Int) := by omega
    rw [hs, hp', Int.toNat_natCast]
    have hdvd' : bpd ∣ (64 - (bpd - r)) + 64 * rest.length := by
      have : (64 - (bpd - r)) + 64 * rest.length + (k + 1) * bpd = bpd * k + r + 64 * (u :: rest).length := by
        simp only [List.length_cons]; ring_nf; omega
      have h2 : bpd ∣ (64 - (bpd - r)) + 64 * rest.length + (k + 1) * bpd := this ▸ hdvd
      exact (Nat.dvd_add_left (Dvd.intro_left _ rfl)).mp h2
    rw [pow2Go_spec hbpd hbpd64 rest u _ hrest hdvd']
    have hlow := val_lt rest.reverse (fun x hx => hrest x (List.mem_reverse.mp hx))
    rw [List.length_reverse, B_pow] at hlow
    have hb := pow2_boundary (bpd := bpd) (r := r) (k := k) (s := bpd - r) (E := 64 * rest.length) (n1 := n1)
      (u := u) (lower := val rest.reverse) (by omega) (by omega) (by omega) (by simpa [B_eq] using hu) hlow
    simp only at hb
    obtain ⟨b1, b2, b3, b4, b5⟩ := hb
    have hW : n1 * B ^ (u :: rest).length + val (u :: rest).reverse
        = n1 * 2 ^ (64 * rest.length + 64) + (u * 2 ^ (64 * rest.length) + val rest.reverse) := by
      simp only [List.length_cons, List.reverse_cons, val_snoc, List.length_reverse, B_pow]
      ring_nf
    have hP : bpd * k + r + 64 * (u :: rest).length = 64 - (bpd - r) + 64 * rest.length + (k + 1) * bpd := by
      simp only [List.length_cons]; ring_nf; omega
    have hcnt : (64 - (bpd - r) + 64 * rest.length + (k + 1) * bpd) / bpd
        = (k + 1) + (64 - (bpd - r) + 64 * rest.length) / bpd := by
      rw [Nat.add_mul_div_right _ _ hbpd, Nat.add_comm]
    rw [hW, hP, hcnt]
    have hD : 0 < 2 ^ bpd := Nat.pow_pos (by omega)
    have hm : (64 - (bpd - r) + 64 * rest.length) = bpd * ((64 - (bpd - r) + 64 * rest.length) / bpd) :=
      (Nat.mul_div_cancel' hdvd').symm
    generalize (64 - (bpd - r) + 64 * rest.length) / bpd = m' at *
    have hpow : (2 : Nat) ^ (64 - (bpd - r) + 64 * rest.length) = (2 ^ bpd) ^ m' := by rw [hm, pow_mul]
    have hpow2 : (2 ^ bpd) ^ (k + 1 + m') = 2 ^ (64 - (bpd - r) + 64 * rest.length + (k + 1) * bpd) := by
      rw [← pow_mul, hm]; congr 1; ring
    rw [fixedDigits_split hD m' (k + 1) _ (by rw [hpow2]; exact Nat.mod_lt _ (Nat.pow_pos (by omega)))]
    rw [← hpow, b1, b2]
    rw [fixedDigits_snoc hD k _ (Nat.mod_lt _ (Nat.pow_pos hD)), b3, b4]
    rw [B_pow]
    -- the straddling digit
    have hn0 : ((n1 <<< (bpd - r)) % B) &&& ((1 <<< bpd) - 1) = (n1 % 2 ^ r) <<< (bpd - r) := by
      rw [Nat.one_shiftLeft, Nat.and_two_pow_sub_one_eq_mod, Nat.shiftLeft_eq, Nat.shiftLeft_eq]
      have hBD : B = 2 ^ bpd * 2 ^ (64 - bpd) := by unfold B; rw [← pow_add]; congr 1; omega
      rw [hBD, Nat.mod_mul_right_mod]
      have e : (2 : Nat) ^ bpd = 2 ^ r * 2 ^ (bpd - r) := by rw [← pow_add]; congr 1; omega
      rw [e, Nat.mul_mod_mul_right]
    rw [hn0, Nat.shiftRight_eq_div_pow, ← Nat.shiftLeft_add_eq_or_of_lt b5, Nat.shiftLeft_eq]
    simp [List.append_assoc]

theorem bitlen_bounds {up : List Nat} (hu : Limbs up) (hne : up ≠ []) (htop : up.getLast! ≠ 0) :
    63 - Nat.log2 up.getLast! ≤ 63 ∧ Nat.log2 up.getLast! ≤ 63 ∧
    2 ^ (64 * up.length - clz up.getLast! - 1) ≤ val up ∧ val up < 2 ^ (64 * up.length - clz up.getLast!) := by
  have hn := (normalized_iff_getLast! hne).mpr htop
  have hv : val up ≠ 0 := Nat.ne_of_gt (hn.pos hne)
  have hlen : up.length - 1 < up.length := Nat.sub_lt (List.length_pos_iff.mpr hne) Nat.one_pos
  have e : up.getD (up.length - 1) 0 = up.getLast! := by
    rw [List.getLast!_of_getLast? (List.getLast?_eq_some_getLast hne), List.getLast_eq_getElem,
      List.getD_eq_getElem?_getD, List.getElem?_eq_getElem hlen]; rfl
  have hl64 : Nat.log2 up.getLast! < 64 := (Nat.log2_lt htop).mpr (e ▸ getD_lt hu _)
  have hs : 64 * up.length - clz up.getLast! = (val up).log2 + 1 := by
    unfold clz; rw [log2_val hu hne hn, e]; omega
  rw [hs, Nat.add_sub_cancel]
  exact ⟨by omega, by omega, Nat.log2_self_le hv, Nat.lt_log2_self⟩

theorem get_str_pow2_of_table {b : Nat} (hb : 2 ≤ b) (hok : Pow2Ok b) (h64 : bigBase b ≤ 64)
    (up : List Nat) (hu : Limbs up) (hne : up ≠ []) (htop : up.getLast! ≠ 0) :
    get_str_pow2 b up = digitsOf b (val up) := by
  obtain ⟨hpow, hbpd, _, _⟩ := hok
  obtain ⟨_, hl63, hlo, hhi⟩ := bitlen_bounds hu hne htop
  have hsplit := dropLast_getLast! up hne
  have hlim := Limbs_append.mp (hsplit ▸ hu)
  have hlen : up.length = up.dropLast.length + 1 := by
    conv_lhs => rw [← hsplit]
    simp
  have hrest : up.reverse.drop 1 = up.dropLast.reverse := by
    conv_lhs => rw [← hsplit]
    simp
  have hv : val up = up.getLast! * B ^ up.dropLast.length + val up.dropLast := by
    conv_lhs => rw [← hsplit]
    rw [val_snoc]; ring
  unfold get_str_pow2
  simp only [hrest]
  generalize hbits : 64 * up.length - clz up.getLast! = bits at *
  generalize hbpdg : bigBase b = bpd at *
  have hbits1 : 64 * up.dropLast.length + 1 ≤ bits := by
    rw [← hbits, hlen]; unfold clz; omega
  -- rounded-up bit count
  have hround : ∃ bits', (if (bits % bpd != 0) = true then bits + (bpd - bits % bpd) else bits) = bits' ∧
      bpd ∣ bits' ∧ bits ≤ bits' ∧ bits' < bits + bpd := by
    by_cases h0 : bits % bpd = 0
    · exact ⟨bits, by simp [h0], Nat.dvd_of_mod_eq_zero h0, le_refl _, by omega⟩
    · refine ⟨bits + (bpd - bits % bpd), by simp [h0], ?_, by omega, ?_⟩
      · have hm := Nat.div_add_mod bits bpd
        have hlt := Nat.mod_lt bits hbpd
        refine ⟨bits / bpd + 1, ?_⟩
        rw [Nat.mul_add, Nat.mul_one]; omega
      · have hlt := Nat.mod_lt bits hbpd; omega
  obtain ⟨bits', hb', hdvd, hge, hlt⟩ := hround
  rw [hb']
  have hcast : ((bits' : Int) - ((up.length - 1 : Nat) : Int) * 64) = ((bits' - 64 * up.dropLast.length : Nat) : Int) := by
    rw [hlen]; simp only [Nat.add_sub_cancel]; omega
  rw [hcast]
  have hP : bits' - 64 * up.dropLast.length + 64 * up.dropLast.reverse.length = bits' := by
    rw [List.length_reverse]; omega
  rw [pow2Go_spec hbpd h64 up.dropLast.reverse _ _
    (fun x hx => hlim.1 x (List.mem_reverse.mp hx)) (by rw [hP]; exact hdvd)]
  rw [hP, List.reverse_reverse, List.length_reverse, ← hv, hpow]
  have hWlt : val up < 2 ^ bits' := lt_of_lt_of_le hhi (Nat.pow_le_pow_right (by omega) hge)
  rw [Nat.mod_eq_of_lt hWlt]
  obtain ⟨m, hm⟩ := hdvd
  have hmpos : 0 < m := by
    rcases Nat.eq_zero_or_pos m with h | h
    · subst h; omega
    · exact h
  rw [hm, Nat.mul_div_cancel_left _ hbpd]
  refine (digitsOf_eq_fixed hb hmpos ?_ ?_).symm
  · rw [← hpow, ← pow_mul]
    refine le_trans (Nat.pow_le_pow_right (by omega) ?_) hlo
    have : bpd * (m - 1) = bpd * m - bpd := by rw [Nat.mul_sub, Nat.mul_one]
    rw [this]; omega
  · rw [← hpow, ← pow_mul, ← hm]; exact hWlt

/-! ### mpn_set_str -/

theorem chunkVal_eq {b : Nat} (hb : 0 < b) (ds : List Nat) (h : ∀ d ∈ ds, d < b) (hfit : b ^ ds.length ≤ B) :
    chunkVal b ds = ofDigits b ds := by
  match ds with
  | [] => rfl
  | d :: ds =>
    -- no intermediate value of the Horner loop exceeds the final one
    have key : ∀ (l : List Nat) (acc : Nat), acc * b ^ l.length + ofDigits b l < B →
        l.foldl (fun r d => (r * b + d) % B) acc = acc * b ^ l.length + ofDigits b l := by
      intro l
      induction l with
      | nil => intro acc _; simp
      | cons x l ih =>
        intro acc hlt
        have e : (acc * b + x) * b ^ l.length + ofDigits b l
            = acc * b ^ (x :: l).length + ofDigits b (x :: l) := by
          rw [ofDigits_cons, List.length_cons, pow_succ]; ring
        have hsmall : acc * b + x < B :=
          lt_of_le_of_lt (le_trans (Nat.le_mul_of_pos_right _ (Nat.pow_pos hb)) (Nat.le_add_right _ _)) (e ▸ hlt)
        rw [List.foldl_cons, Nat.mod_eq_of_lt hsmall, ih _ (e ▸ hlt), e]
    have hlt := ofDigits_lt hb (d :: ds) h
    rw [ofDigits_cons] at hlt ⊢
    exact key ds d (lt_of_lt_of_le hlt hfit)

/-- empty, or the top limb is non-zero (stated through the value) -/
def Norm (r : List Nat) : Prop := r = [] ∨ B ^ (r.length - 1) ≤ val r

/-- one step `rp ← rp·m + d` of mpn_bc_set_str: value, proper limbs, and the size: a limb is appended only
    when the carry out is non-zero -/
theorem bcStep_spec (rp : List Nat) (m d : Nat) (hrp : Limbs rp) (hm : m < B) (hd : d < B) :
    val (bcStep rp m d) = val rp * m + d ∧ Limbs (bcStep rp m d) ∧
    ((bcStep rp m d).length = rp.length ∨
      ((bcStep rp m d).length = rp.length + 1 ∧ B ^ rp.length ≤ val (bcStep rp m d))) := by
  unfold bcStep
  cases rp with
  | nil =>
    by_cases hd0 : d = 0
    · subst hd0; simp [Limbs_nil]
    · have : (d != 0) = true := by simpa using hd0
      simp [this, Limbs_cons, hd, Limbs_nil]; omega
  | cons x xs =>
    obtain ⟨mv, _, ml, mn⟩ := Mpir.mul1C_val m hm (x :: xs) 0 hrp B_pos
    obtain ⟨r1, cy1, hr1⟩ : ∃ r1 cy1, mul_1 (x :: xs) m = (r1, cy1) := ⟨_, _, rfl⟩
    rw [show mul1C (x :: xs) m 0 = mul_1 (x :: xs) m from rfl, hr1] at mv ml mn
    simp only [show ((x :: xs).length == 0) = false from rfl, Bool.false_eq_true, if_false, hr1] at mv ml mn ⊢
    match r1, mn with
    | y :: ys, mn =>
      obtain ⟨av, _, al, an⟩ := Mpir.add_1_val' (y :: ys) d ml (Nat.succ_pos _) hd
      simp only [List.length_cons] at av an
      obtain ⟨r2, cy2, hr2⟩ : ∃ r2 cy2, add_1 (y :: ys) d = (r2, cy2) := ⟨_, _, rfl⟩
      rw [hr2] at av al an
      simp only [hr2] at av al an ⊢
      have hys : ys.length + 1 = (x :: xs).length := mn
      rw [hys] at av an
      -- r2 + B^n·(cy1 + cy2) = rp·m + d
      have hsum : val r2 + B ^ (x :: xs).length * (cy1 + cy2) = val (x :: xs) * m + d := by
        rw [Nat.mul_add]; omega
      have hcy : cy1 + cy2 < B := carry_sum_lt (val_lt _ hrp) hm hd hsum
      rw [Nat.mod_eq_of_lt hcy]
      by_cases hc : cy1 + cy2 = 0
      · have : ((cy1 + cy2) != 0) = false := by simp [hc]
        rw [hc, Nat.mul_zero, Nat.add_zero] at hsum
        simp only [this, Bool.false_eq_true, if_false]
        exact ⟨hsum, al, Or.inl an⟩
      · have : ((cy1 + cy2) != 0) = true := by simpa using hc
        simp only [this, if_true]
        have hv : val (r2 ++ [cy1 + cy2]) = val (x :: xs) * m + d := by rw [val_snoc, an]; exact hsum
        refine ⟨hv, Limbs_append.mpr ⟨al, Limbs_cons.mpr ⟨hcy, Limbs_nil⟩⟩, Or.inr ⟨by simp [an], ?_⟩⟩
        rw [hv, ← hsum]
        exact le_trans (Nat.le_mul_of_pos_right _ (Nat.pos_of_ne_zero hc)) (Nat.le_add_left _ _)
theorem bcStep_norm {rp : List Nat} {m d : Nat} (hrp : Limbs rp) (hm : m < B) (hd : d < B) (hm1 : 1 ≤ m)
    (hn : Norm rp) : Norm (bcStep rp m d) := by
  obtain ⟨sv, _, sl⟩ := bcStep_spec rp m d hrp hm hd
  rcases sl with sl | ⟨sl, hge⟩
  · rcases hn with rfl | hn
    · exact Or.inl (List.eq_nil_of_length_eq_zero sl)
    · right; rw [sl, sv]
      exact le_trans hn (le_trans (Nat.le_mul_of_pos_right _ hm1) (Nat.le_add_right _ _))
  · right; rw [sl]; exact hge

theorem foldl_pow (b : Nat) : ∀ (l : List Nat) (acc : Nat), acc * b ^ l.length < B → 0 < b →
    l.foldl (fun m _ => (m * b) % B) acc = acc * b ^ l.length
  | [], acc, _, _ => by simp
  | x :: l, acc, h, hb => by
    have e : acc * b * b ^ l.length = acc * b ^ (x :: l).length := by rw [List.length_cons, pow_succ]; ring
    have hs : acc * b < B := lt_of_le_of_lt (Nat.le_mul_of_pos_right _ (Nat.pow_pos hb)) (e ▸ h)
    rw [List.foldl_cons, Nat.mod_eq_of_lt hs, foldl_pow b l (acc * b) (e ▸ h) hb, e]

theorem bcLoop_val {b cpl bb : Nat} (hb : 2 ≤ b) (hcpl : 0 < cpl) (hbb : bb = b ^ cpl) (hlt : bb < B) :
    ∀ (n : Nat) (str rp : List Nat), str.length = n → str ≠ [] → (∀ d ∈ str, d < b) → Limbs rp →
      val (bcLoop b cpl bb str rp) = val rp * b ^ str.length + ofDigits b str ∧
      Limbs (bcLoop b cpl bb str rp) ∧ (Norm rp → Norm (bcLoop b cpl bb str rp)) := by
  intro n
  induction n using Nat.strong_induction_on with
  | _ n ih =>
    intro str rp hn hne hd hrp
    have hbpos : 0 < b := by omega
    rw [bcLoop]
    split
    · rename_i hc
      have htl : (str.take cpl).length = cpl := by rw [List.length_take]; omega
      have htd : ∀ d ∈ str.take cpl, d < b := fun d h => hd d (List.mem_of_mem_take h)
      have hcv : chunkVal b (str.take cpl) = ofDigits b (str.take cpl) :=
        chunkVal_eq hbpos _ htd (by rw [htl, ← hbb]; exact Nat.le_of_lt hlt)
      have hclt : ofDigits b (str.take cpl) < bb := by
        have := ofDigits_lt hbpos _ htd; rw [htl, ← hbb] at this; exact this
      rw [hcv]
      obtain ⟨sv, sl, _⟩ := bcStep_spec rp bb _ hrp hlt (lt_trans hclt hlt)
      have sn := bcStep_norm (d := ofDigits b (str.take cpl)) hrp hlt (lt_trans hclt hlt)
        (hbb ▸ Nat.pow_pos hbpos)
      have hdl : (str.drop cpl).length = str.length - cpl := List.length_drop
      obtain ⟨rv, rl, rn⟩ := ih (str.drop cpl).length (by rw [hdl, ← hn]; omega) (str.drop cpl) _ rfl
        (by intro e; rw [e] at hdl; simp at hdl; omega)
        (fun d h => hd d (List.mem_of_mem_drop h)) sl
      refine ⟨?_, rl, fun h => rn (sn h)⟩
      rw [rv, sv, hdl]
      conv_rhs => rw [← List.take_append_drop cpl str, ofDigits_app, hdl]
      have : b ^ str.length = bb * b ^ (str.length - cpl) := by
        rw [hbb, ← pow_add]; congr 1; omega
      rw [List.take_append_drop, this]; ring
    · rename_i hc
      have hlen : str.length ≤ cpl := by omega
      have hpos : 0 < str.length := List.length_pos_iff.mpr hne
      have hple : b ^ str.length ≤ bb := by rw [hbb]; exact Nat.pow_le_pow_right hbpos hlen
      have hm : (str.drop 1).foldl (fun m _ => (m * b) % B) b = b ^ str.length := by
        have e : b * b ^ (str.drop 1).length = b ^ str.length := by
          rw [List.length_drop, ← pow_succ']; congr 1; omega
        rw [foldl_pow b _ b (by rw [e]; omega) hbpos, e]
      have hclt := ofDigits_lt hbpos _ hd
      rw [hm, chunkVal_eq hbpos _ hd (by omega)]
      obtain ⟨sv, sl, _⟩ := bcStep_spec rp (b ^ str.length) (ofDigits b str) hrp (by omega) (by omega)
      exact ⟨sv, sl, bcStep_norm hrp (by omega) (by omega) (Nat.pow_pos hbpos)⟩

theorem bc_set_str_full {b : Nat} (hb : 2 ≤ b) (hb62 : b ≤ 62) (hok : NonPow2Ok b)
    (str : List Nat) (hne : str ≠ []) (hd : ∀ d ∈ str, d < b) :
    val (bc_set_str b str) = ofDigits b str ∧ Limbs (bc_set_str b str) ∧ Norm (bc_set_str b str) := by
  obtain ⟨h1, h2, h3⟩ :=
    bcLoop_val hb (hok.cpl_pos hb62) hok.1 (hok.1 ▸ hok.2.1) str.length str [] rfl hne hd Limbs_nil
  exact ⟨by simpa [bc_set_str] using h1, h2, h3 (Or.inl rfl)⟩

theorem setPow2Go_val {bpd : Nat} (hbpd : 0 < bpd) (h64 : bpd ≤ 64) : ∀ (ds : List Nat) (res nb : Nat),
    (∀ d ∈ ds, d < 2 ^ bpd) → nb < 64 → res < 2 ^ nb →
    val (setPow2Go bpd ds res nb) = res + 2 ^ nb * ofDigits (2 ^ bpd) ds.reverse ∧
    Limbs (setPow2Go bpd ds res nb)
  | [], res, nb, _, hnb, hres => by
    have hB : res < B := lt_trans hres (by rw [B_eq]; exact Nat.pow_lt_pow_right (by omega) hnb |>.trans_eq (by norm_num))
    by_cases h0 : res = 0
    · subst h0; simp [setPow2Go, Limbs_nil]
    · have : (res != 0) = true := by simpa using h0
      simp [setPow2Go, this, Limbs_cons, hB, Limbs_nil]
  | d :: ds, res, nb, hd, hnb, hres => by
    have hd0 : d < 2 ^ bpd := hd d (by simp)
    have hds : ∀ x ∈ ds, x < 2 ^ bpd := fun x hx => hd x (List.mem_cons_of_mem _ hx)
    have hBsplit : B = 2 ^ (64 - nb) * 2 ^ nb := by unfold B; rw [← pow_add]; congr 1; omega
    have hor : res ||| ((d <<< nb) % B) = (d % 2 ^ (64 - nb)) * 2 ^ nb + res := by
      rw [or_shl_mod_B (by omega) hres, Nat.add_comm]
    have hV : ofDigits (2 ^ bpd) (d :: ds).reverse = ofDigits (2 ^ bpd) ds.reverse * 2 ^ bpd + d := by
      rw [List.reverse_cons, ofDigits_append]
    rw [setPow2Go]
    simp only [hor, hV]
    have hk := Nat.div_add_mod d (2 ^ (64 - nb))
    have hkm : d % 2 ^ (64 - nb) < 2 ^ (64 - nb) := Nat.mod_lt _ (Nat.pow_pos (by omega))
    split
    · rename_i hge
      have hsh : bpd - (nb + bpd - 64) = 64 - nb := by omega
      have hnew : d >>> (64 - nb) < 2 ^ (nb + bpd - 64) := by
        rw [Nat.shiftRight_eq_div_pow, Nat.div_lt_iff_lt_mul (Nat.pow_pos (by omega)), ← pow_add]
        rw [show nb + bpd - 64 + (64 - nb) = bpd by omega]; exact hd0
      rw [hsh]
      obtain ⟨iv, il⟩ := setPow2Go_val hbpd h64 ds (d >>> (64 - nb)) (nb + bpd - 64) hds (by omega) hnew
      have hlimb : d % 2 ^ (64 - nb) * 2 ^ nb + res < B := hBsplit ▸ mul_add_lt hkm hres
      refine ⟨?_, Limbs_cons.mpr ⟨hlimb, il⟩⟩
      rw [val_cons, iv, Nat.shiftRight_eq_div_pow]
      have e1 : (2 : Nat) ^ (nb + bpd - 64) * B = 2 ^ nb * 2 ^ bpd := by
        unfold B; rw [← pow_add, ← pow_add]; congr 1; omega
      generalize ofDigits (2 ^ bpd) ds.reverse = V at *
      generalize d / 2 ^ (64 - nb) = q at *
      generalize d % 2 ^ (64 - nb) = m at *
      calc m * 2 ^ nb + res + B * (q + 2 ^ (nb + bpd - 64) * V)
          = res + 2 ^ nb * (2 ^ (64 - nb) * q + m) + (2 ^ (nb + bpd - 64) * B) * V := by rw [hBsplit]; ring
        _ = res + 2 ^ nb * (V * 2 ^ bpd + d) := by rw [e1, hk]; ring
    · rename_i hlt
      have hres' : d % 2 ^ (64 - nb) * 2 ^ nb + res < 2 ^ (nb + bpd) := by
        rw [pow_add, Nat.mul_comm (2 ^ nb)]
        exact mul_add_lt (lt_of_le_of_lt (Nat.mod_le _ _) hd0) hres
      obtain ⟨iv, il⟩ := setPow2Go_val hbpd h64 ds _ (nb + bpd) hds (by omega) hres'
      refine ⟨?_, il⟩
      rw [iv]
      have hdsmall : d % 2 ^ (64 - nb) = d := by
        apply Nat.mod_eq_of_lt
        exact lt_of_lt_of_le hd0 (Nat.pow_le_pow_right (by omega) (by omega))
      rw [hdsmall, pow_add]; ring

theorem set_str_pow2_of_table {b : Nat} (hok : Pow2Ok b) (h64 : bigBase b ≤ 64) (str : List Nat)
    (hd : ∀ d ∈ str, d < b) :
    val (set_str_pow2 b str) = ofDigits b str ∧ Limbs (set_str_pow2 b str) := by
  obtain ⟨hpow, hbpd, _, _⟩ := hok
  unfold set_str_pow2
  obtain ⟨v, l⟩ := setPow2Go_val hbpd h64 str.reverse 0 0
    (fun d h => by rw [hpow]; exact hd d (List.mem_reverse.mp h)) (by omega) (by simp)
  refine ⟨?_, l⟩
  rw [v, List.reverse_reverse, hpow]; simp

/-! ### parser -/

theorem skipSpace_eq : ∀ l : List Nat, skipSpace l = rd (l.dropWhile isSpace)
  | [] => rfl
  | c :: r => by
    by_cases h : isSpace c = true
    · simp [skipSpace, h, skipSpace_eq r]
    · simp [skipSpace, h, rd]

/-- the characters skipped after the prefix: `'0'` and white space -/
def zs (c : Nat) : Bool := c == 48 || isSpace c

theorem skipZeroSpace_eq : ∀ l : List Nat, skipZeroSpace (rd l).1 (rd l).2 = rd (l.dropWhile zs)
  | [] => by simp [rd, skipZeroSpace]
  | [c] => by
    by_cases h : zs c = true
    · have h' : (c == 48 || isSpace c) = true := h
      simp [rd, skipZeroSpace, h, h']
    · have h' : ¬ (c == 48 || isSpace c) = true := h
      simp [rd, skipZeroSpace, h, h']
  | c :: c' :: r => by
    have ih := skipZeroSpace_eq (c' :: r)
    by_cases h : zs c = true
    · have h' : (c == 48 || isSpace c) = true := h
      simp only [rd, skipZeroSpace, h', if_true, List.dropWhile_cons_of_pos h] at ih ⊢
      exact ih
    · have h' : ¬ (c == 48 || isSpace c) = true := h
      simp [rd, skipZeroSpace, h', List.dropWhile_cons_of_neg h]

/-- the table offset used for a requested base -/
def offOf (rb : Nat) : Nat := if rb > 36 then 224 else 0

theorem off_eq (rb : Nat) : (if ((rb : Nat) : Int) > 36 then 224 else 0) = offOf rb := by
  unfold offOf
  by_cases h : rb > 36
  · rw [if_pos h, if_pos (by omega)]
  · rw [if_neg h, if_neg (by omega)]

/-- hypothesis form of `digit_tab_ok` -/
def TabOk : Prop := ∀ c < 256,
  digitValue 0 c = (match charValue 36 c with | some v => v | none => 255) ∧
  digitValue 224 c = (match charValue 62 c with | some v => v | none => 255)

theorem digitValue_eq (htab : TabOk) (rb c : Nat) (hc : c < 256) :
    digitValue (offOf rb) c = (charValue rb c).getD 255 := by
  obtain ⟨h1, h2⟩ := htab c hc
  rw [charValue_base]
  unfold offOf
  by_cases h : rb ≤ 36
  · have : ¬ rb > 36 := by omega
    simp only [this, if_false, h, if_true, h1]
    cases charValue 36 c <;> rfl
  · have : rb > 36 := by omega
    simp only [this, if_true, h, if_false, h2]
    cases charValue 62 c <;> rfl

theorem digitOf_eq (htab : TabOk) (rb b c : Nat) (hc : c < 256) (hb : b ≤ 62) :
    digitOf rb b c = if digitValue (offOf rb) c < b then some (digitValue (offOf rb) c) else none := by
  rw [digitValue_eq htab rb c hc]
  unfold digitOf
  cases h : charValue rb c with
  | none => simp; omega
  | some v => simp

theorem convDigits_eq (htab : TabOk) (rb b : Nat) (hb : b ≤ 62) : ∀ l : List Nat, (∀ c ∈ l, c < 256) →
    convDigits (offOf rb) b l = (l.filter (fun c => !isSpace c)).mapM (digitOf rb b)
  | [], _ => by simp [convDigits]
  | c :: r, h => by
    have ih := convDigits_eq htab rb b hb r (fun x hx => h x (List.mem_cons_of_mem _ hx))
    have hc := h c (by simp)
    rw [convDigits]
    by_cases hs : isSpace c = true
    · simp [hs, ih]
    · simp only [hs, Bool.not_false, if_true, List.filter_cons_of_pos, List.mapM_cons,
        digitOf_eq htab rb b c hc hb, ih]
      by_cases hd : digitValue (offOf rb) c < b
      · have : ¬ digitValue (offOf rb) c ≥ b := by omega
        simp only [this, if_false, hd, if_true]
        cases (List.filter (fun c => !isSpace c) r).mapM (digitOf rb b) <;> simp
      · have : digitValue (offOf rb) c ≥ b := by omega
        simp [this, hd]

/-! ### mpn_set_str (the dispatcher) and mpz_set_str against `parseSpec` -/

/-- mpn_set_str returns the value of the digit string (power-of-two path, basecase, and the
    specification-level stand-in for the divide-and-conquer path) -/
theorem mpn_set_str_val_of_table {b : Nat} (hb : 2 ≤ b) (hb62 : b ≤ 62)
    (hnp : pow2P b = false → NonPow2Ok b) (hp2 : pow2P b = true → Pow2Ok b)
    (str : List Nat) (hne : str ≠ []) (hd : ∀ d ∈ str, d < b) :
    val (mpn_set_str b str) = ofDigits b str := by
  unfold mpn_set_str
  cases hp : pow2P b with
  | true =>
    simp only [if_true]
    have hok := hp2 hp
    have h64 := bigBase_le_64 hb62 hok
    exact (set_str_pow2_of_table hok h64 str hd).1
  | false =>
    simp only [Bool.false_eq_true, if_false]
    split
    · exact (bc_set_str_full hb hb62 (hnp hp) str hne hd).1
    · exact val_natLimbs_eq _

theorem mapM_dropWhile_zs (rb b : Nat) (hb : 0 < b) : ∀ l : List Nat,
    ((l.filter (fun c => !isSpace c)).mapM (digitOf rb b)).map (ofDigits b) =
    (((l.dropWhile zs).filter (fun c => !isSpace c)).mapM (digitOf rb b)).map (ofDigits b)
  | [] => rfl
  | c :: r => by
    have ih := mapM_dropWhile_zs rb b hb r
    by_cases h : zs c = true
    · rw [List.dropWhile_cons_of_pos h, ← ih]
      by_cases hs : isSpace c = true
      · simp [hs]
      · have h48 : c = 48 := by
          unfold zs at h; simp only [Bool.or_eq_true, beq_iff_eq] at h
          rcases h with h | h
          · exact h
          · exact absurd h hs
        subst h48
        have hd0 : digitOf rb b 48 = some 0 := by
          unfold digitOf charValue; simp; omega
        simp only [hs, Bool.not_false, List.filter_cons_of_pos, List.mapM_cons, hd0]
        cases (List.filter (fun c => !isSpace c) r).mapM (digitOf rb b) with
        | none => simp
        | some ds => simp [ofDigits_cons]
    · rw [List.dropWhile_cons_of_neg h]

theorem mapM_digitOf_lt (rb b : Nat) : ∀ (l ds : List Nat), l.mapM (digitOf rb b) = some ds →
    (∀ d ∈ ds, d < b) ∧ ds.length = l.length
  | [], ds, h => by simp at h; subst h; simp
  | c :: r, ds, h => by
    simp only [List.mapM_cons] at h
    cases hc : digitOf rb b c with
    | none => simp [hc] at h
    | some v =>
      cases hr : r.mapM (digitOf rb b) with
      | none => simp [hc, hr] at h
      | some vs =>
        simp [hc, hr] at h
        subst h
        obtain ⟨i1, i2⟩ := mapM_digitOf_lt rb b r vs hr
        have hv : v < b := by
          unfold digitOf at hc
          cases hcv : charValue rb c with
          | none => simp [hcv] at hc
          | some w =>
            simp [hcv] at hc
            obtain ⟨h1, h2⟩ := hc; omega
        refine ⟨?_, by simp [i2]⟩
        intro d hd
        rcases List.mem_cons.mp hd with h | h
        · omega
        · exact i1 d h

/-- the value part of the specification once sign, base and prefix are settled -/
def specTail (rb b : Nat) (neg : Bool) (s3 : List Nat) : Option Int :=
  match (s3.filter (fun c => !isSpace c)).mapM (digitOf rb b) with
  | none => none
  | some ds => some (if neg then -(Int.ofNat (ofDigits b ds)) else Int.ofNat (ofDigits b ds))

theorem setStrTail_eq (htab : TabOk) {rb b : Nat} (hb : 2 ≤ b) (hb62 : b ≤ 62)
    (hnp : pow2P b = false → NonPow2Ok b) (hp2 : pow2P b = true → Pow2Ok b) (neg : Bool)
    (s3 : List Nat) (h3 : ∀ c ∈ s3, c ≠ 0 ∧ c < 256) :
    setStrTail (offOf rb) b neg (rd s3).1 (rd s3).2 = specTail rb b neg s3 := by
  unfold setStrTail specTail
  rw [skipZeroSpace_eq]
  have hdz := mapM_dropWhile_zs rb b (by omega) s3
  have hsub : ∀ c ∈ s3.dropWhile zs, c ≠ 0 ∧ c < 256 :=
    fun c hc => h3 c ((List.dropWhile_sublist _).subset hc)
  cases hs4 : s3.dropWhile zs with
  | nil =>
    rw [hs4] at hdz
    simp only [rd, beq_self_eq_true, if_true]
    simp only [List.filter_nil, List.mapM_nil] at hdz
    cases hm : (s3.filter (fun c => !isSpace c)).mapM (digitOf rb b) with
    | none => rw [hm] at hdz; simp at hdz
    | some ds =>
      rw [hm] at hdz
      have : ofDigits b ds = 0 := by simpa using hdz
      simp [this]
  | cons c str =>
    rw [hs4] at hdz hsub
    have hc0 : c ≠ 0 := (hsub c (by simp)).1
    have hnz : ¬ zs c = true := by
      have := List.head_dropWhile_not zs (l := s3) (by rw [hs4]; simp)
      simp only [hs4, List.head_cons] at this
      simpa using this
    have hnsp : isSpace c = false := by
      unfold zs at hnz; simp only [Bool.or_eq_true, not_or] at hnz
      simpa using hnz.2
    have hcb : (c == 0) = false := by simpa using hc0
    simp only [rd, hcb, Bool.false_eq_true, if_false]
    rw [convDigits_eq htab rb b hb62 (c :: str) (fun x hx => (hsub x hx).2)]
    cases hm4 : ((c :: str).filter (fun c => !isSpace c)).mapM (digitOf rb b) with
    | none =>
      rw [hm4] at hdz
      cases hm : (s3.filter (fun c => !isSpace c)).mapM (digitOf rb b) with
      | none => rfl
      | some ds => rw [hm] at hdz; simp at hdz
    | some ds =>
      rw [hm4] at hdz
      obtain ⟨hlt, hlen⟩ := mapM_digitOf_lt rb b _ ds hm4
      have hne : ds ≠ [] := by
        intro e; rw [e] at hlen
        simp [hnsp] at hlen
      have hv := mpn_set_str_val_of_table hb hb62 hnp hp2 ds hne hlt
      cases hm : (s3.filter (fun c => !isSpace c)).mapM (digitOf rb b) with
      | none => rw [hm] at hdz; simp at hdz
      | some ds' =>
        rw [hm] at hdz
        have : ofDigits b ds' = ofDigits b ds := by simpa using hdz
        simp [hv, this]

theorem splitPrefix_other (c1 : Nat) (r : List Nat) (h1 : c1 ≠ 120) (h2 : c1 ≠ 88) (h3 : c1 ≠ 98) (h4 : c1 ≠ 66) :
    splitPrefix (48 :: c1 :: r) = (8, c1 :: r) :=
  splitPrefix.eq_5 _ (fun _ e => h1 (List.cons.inj e).1) (fun _ e => h2 (List.cons.inj e).1)
    (fun _ e => h3 (List.cons.inj e).1) (fun _ e => h4 (List.cons.inj e).1)

theorem splitPrefix_not48 (c : Nat) (r : List Nat) (h : c ≠ 48) : splitPrefix (c :: r) = (10, c :: r) :=
  splitPrefix.eq_6 _ (fun _ e => h (List.cons.inj e).1) (fun _ e => h (List.cons.inj e).1)
    (fun _ e => h (List.cons.inj e).1) (fun _ e => h (List.cons.inj e).1) (fun _ e => h (List.cons.inj e).1)

theorem setStrPrefix_zero (c : Nat) (r : List Nat) :
    setStrPrefix 0 c r = ((splitPrefix (c :: r)).1, (rd (splitPrefix (c :: r)).2).1, (rd (splitPrefix (c :: r)).2).2) := by
  unfold setStrPrefix
  simp only [if_true]
  by_cases h48 : c = 48
  · subst h48
    simp only [beq_self_eq_true, if_true]
    cases r with
    | nil => simp [rd, splitPrefix]
    | cons c1 r1 =>
      by_cases h1 : c1 = 120
      · subst h1; simp [rd, splitPrefix]
      by_cases h2 : c1 = 88
      · subst h2; simp [rd, splitPrefix]
      by_cases h3 : c1 = 98
      · subst h3; simp [rd, splitPrefix]
      by_cases h4 : c1 = 66
      · subst h4; simp [rd, splitPrefix]
      rw [splitPrefix_other c1 r1 h1 h2 h3 h4]
      simp [rd, h1, h2, h3, h4]
  · rw [splitPrefix_not48 c r h48]
    have : (c == 48) = false := by simpa using h48
    simp [this, rd]

theorem splitPrefix_base (s : List Nat) : (splitPrefix s).1 = 16 ∨ (splitPrefix s).1 = 2 ∨ (splitPrefix s).1 = 8 ∨
    (splitPrefix s).1 = 10 := by
  unfold splitPrefix; split <;> simp

theorem splitPrefix_suffix (s : List Nat) : ∀ c ∈ (splitPrefix s).2, c ∈ s := by
  unfold splitPrefix; split <;> simp_all

/-- table facts for all bases, as established by `bases_table_ok` -/
def BasesOk : Prop := ∀ b < 63, 2 ≤ b → (pow2P b = false → NonPow2Ok b) ∧ (pow2P b = true → Pow2Ok b)

/-- mpz_set_str after white space and sign -/
def modelRest (rb : Nat) (neg : Bool) (c : Nat) (str : List Nat) : Option Int :=
  if ((digitValue (offOf rb) c : Nat) : Int) ≥ (if (rb : Int) = 0 then 10 else (rb : Int)) then none else
  match setStrPrefix (rb : Int) c str with
  | (b, c, str) => setStrTail (offOf rb) b neg c str

/-- parseSpec after white space and sign -/
def specRest (rb : Nat) (neg : Bool) (s2 : List Nat) : Option Int :=
  match s2 with
  | [] => none
  | c :: _ =>
    if (digitOf rb (if rb = 0 then 10 else rb) c).isNone then none else
    match (if rb = 0 then splitPrefix s2 else (rb, s2)) with
    | (b, s) => specTail rb b neg s

theorem rest_eq (htab : TabOk) (hbases : BasesOk) {rb : Nat} (hrb62 : rb ≤ 62) (hrb1 : rb ≠ 1) (neg : Bool)
    (s2 : List Nat) (h2 : ∀ c ∈ s2, c ≠ 0 ∧ c < 256) :
    modelRest rb neg (rd s2).1 (rd s2).2 = specRest rb neg s2 := by
  have hlimI : (if (rb : Int) = 0 then (10 : Int) else (rb : Int)) = (((if rb = 0 then 10 else rb) : Nat) : Int) := by
    by_cases h : rb = 0 <;> simp [h]
  have hlim62 : (if rb = 0 then 10 else rb) ≤ 62 := by split <;> omega
  cases s2 with
  | nil =>
    show modelRest rb neg 0 [] = none
    unfold modelRest
    have h255 : digitValue (offOf rb) 0 = 255 := by
      rw [digitValue_eq htab rb 0 (by omega)]; rfl
    rw [if_pos (by rw [h255, hlimI]; omega)]
  | cons c r =>
    show modelRest rb neg c r = _
    have hc := (h2 c (by simp)).2
    unfold modelRest specRest
    dsimp only
    rw [hlimI, digitOf_eq htab rb _ c hc hlim62]
    by_cases hd : digitValue (offOf rb) c < (if rb = 0 then 10 else rb)
    · rw [if_neg (by omega), if_pos hd]
      simp only [Option.isNone_some, Bool.false_eq_true, if_false]
      by_cases h0 : rb = 0
      · subst h0
        simp only [Nat.cast_zero, if_true]
        rw [setStrPrefix_zero]
        have hb := splitPrefix_base (c :: r)
        have hsuf := splitPrefix_suffix (c :: r)
        generalize splitPrefix (c :: r) = p at *
        obtain ⟨b, s3⟩ := p
        simp only at hb hsuf ⊢
        have hb2 : 2 ≤ b ∧ b ≤ 62 := by omega
        exact setStrTail_eq htab hb2.1 hb2.2 (hbases b (by omega) hb2.1).1 (hbases b (by omega) hb2.1).2 neg s3
          (fun x hx => h2 x (hsuf x hx))
      · have hb2 : 2 ≤ rb := by omega
        have hne : ((rb : Nat) : Int) ≠ 0 := by omega
        simp only [setStrPrefix, hne, if_false, h0, Int.toNat_natCast]
        exact setStrTail_eq htab hb2 hrb62 (hbases rb (by omega) hb2).1 (hbases rb (by omega) hb2).2 neg (c :: r) h2
    · rw [if_pos (by omega), if_neg hd]
      simp only [Option.isNone_none, if_true]

theorem mem_takeWhile_ne0 (c : Nat) : ∀ l : List Nat, c ∈ l.takeWhile (· != 0) → c ≠ 0 :=
  fun l h => by simpa using (mem_takeWhile l c h).1

theorem mpz_set_str_eq_parse_of (htab : TabOk) (hbases : BasesOk) (base : Int) (hb1 : base ≠ 1)
    (s : List Nat) (hs : ∀ c ∈ s, c < 256) : mpz_set_str base s = parseSpec base s := by
  have hs' : ∀ c ∈ s.takeWhile (· != 0), c ≠ 0 ∧ c < 256 := fun c hc =>
    ⟨mem_takeWhile_ne0 c s hc, hs c ((List.takeWhile_sublist _).subset hc)⟩
  by_cases h62 : base > 62
  · unfold mpz_set_str parseSpec
    have : base < 0 ∨ base = 1 ∨ 62 < base := Or.inr (Or.inr h62)
    dsimp only
    rw [if_pos this, if_pos h62]
  by_cases hneg : base < 0
  · unfold mpz_set_str parseSpec
    have hne0 : base ≠ 0 := by omega
    have hor : base < 0 ∨ base = 1 ∨ 62 < base := Or.inl hneg
    dsimp only
    rw [if_pos hor, if_neg h62]
    have : ∀ (off c : Nat), ((digitValue off c : Nat) : Int) ≥ (if base = 0 then 10 else base) := by
      intro off c; rw [if_neg hne0]; omega
    simp only [this, if_true]
  -- 0 ≤ base ≤ 62, base ≠ 1
  obtain ⟨rb, hrb⟩ : ∃ rb : Nat, base = (rb : Int) := ⟨base.toNat, by omega⟩
  subst hrb
  have hrb62 : rb ≤ 62 := by omega
  have hrb1 : rb ≠ 1 := by omega
  have hcond : ¬ (((rb : Nat) : Int) < 0 ∨ ((rb : Nat) : Int) = 1 ∨ 62 < ((rb : Nat) : Int)) := by omega
  -- both sides in terms of modelRest / specRest
  have hmodel : mpz_set_str (rb : Int) s =
      (match setStrSign (rd ((s.takeWhile (· != 0)).dropWhile isSpace)).1 (rd ((s.takeWhile (· != 0)).dropWhile isSpace)).2 with
       | (negative, c, str) => modelRest rb negative c str) := by
    unfold mpz_set_str
    simp only [h62, if_false, off_eq]
    rw [skipSpace_eq]
    rfl
  have hspec : parseSpec (rb : Int) s =
      (let s1 := (s.takeWhile (· != 0)).dropWhile isSpace
       let neg := s1.head? == some 45
       specRest rb neg (if neg then s1.drop 1 else s1)) := by
    unfold parseSpec
    simp only [hcond, if_false, Int.toNat_natCast]
    rfl
  rw [hmodel, hspec]
  have hsub1 : ∀ c ∈ (s.takeWhile (· != 0)).dropWhile isSpace, c ≠ 0 ∧ c < 256 :=
    fun c hc => hs' c ((List.dropWhile_sublist _).subset hc)
  generalize (s.takeWhile (· != 0)).dropWhile isSpace = s1 at hsub1
  cases s1 with
  | nil =>
    show modelRest rb false 0 [] = specRest rb false []
    exact rest_eq htab hbases hrb62 hrb1 false [] (by simp)
  | cons c0 r0 =>
    by_cases h45 : c0 = 45
    · subst h45
      show modelRest rb true (rd r0).1 (rd r0).2 = specRest rb true r0
      exact rest_eq htab hbases hrb62 hrb1 true r0 (fun x hx => hsub1 x (List.mem_cons_of_mem _ hx))
    · have hb : (c0 == 45) = false := by simpa using h45
      have hh : (some c0 == some 45) = false := by simpa using h45
      simp only [rd, setStrSign, hb, Bool.false_eq_true, if_false, List.head?_cons, hh]
      exact rest_eq htab hbases hrb62 hrb1 false (c0 :: r0) hsub1

/-! ### mpz_get_str and the round trip -/

theorem natLimbs_top (v : Nat) (hv : v ≠ 0) : natLimbs v ≠ [] ∧ (natLimbs v).getLast! ≠ 0 :=
  have hne : natLimbs v ≠ [] := mt natLimbs_eq_nil.mp hv
  ⟨hne, (normalized_iff_getLast! hne).mp (normalized_natLimbs v)⟩

theorem mapM_digitChar (base : Int) (hb : LegalOutBase base) : ∀ ds : List Nat, (∀ d ∈ ds, d < base.natAbs) →
    (ds.map (digitChar base)).mapM (digitOf base.natAbs base.natAbs) = some ds
  | [], _ => rfl
  | d :: ds, h => by
    have hd := h d (by simp)
    have ih := mapM_digitChar base hb ds (fun x hx => h x (List.mem_cons_of_mem _ hx))
    have hp := (digitChar_props base hb d hd).1
    simp only [List.map_cons, List.mapM_cons, digitOf, hp, hd, if_true, ih]
    rfl

theorem parseSpec_nat (rb : Nat) (h1 : rb ≠ 1) (h62 : rb ≤ 62) (s : List Nat) :
    parseSpec (rb : Int) s =
      specRest rb (((s.takeWhile (· != 0)).dropWhile isSpace).head? == some 45)
        (if (((s.takeWhile (· != 0)).dropWhile isSpace).head? == some 45) = true
          then ((s.takeWhile (· != 0)).dropWhile isSpace).drop 1 else (s.takeWhile (· != 0)).dropWhile isSpace) := by
  have hcond : ¬ (((rb : Nat) : Int) < 0 ∨ ((rb : Nat) : Int) = 1 ∨ 62 < ((rb : Nat) : Int)) := by omega
  unfold parseSpec
  simp only [hcond, if_false, Int.toNat_natCast]
  rfl

/-- parseSpec on a sign followed by text that starts with a non-space, non-'-' character and holds no NUL -/
theorem parseSpec_signed (rb : Nat) (h1 : rb ≠ 1) (h62 : rb ≤ 62) (neg : Bool) (c : Nat) (t : List Nat)
    (hnz : ∀ x ∈ c :: t, x ≠ 0) (hsp : isSpace c = false) (h45 : c ≠ 45) :
    parseSpec (rb : Int) ((if neg = true then [45] else []) ++ c :: t) = specRest rb neg (c :: t) := by
  rw [parseSpec_nat rb h1 h62]
  have htw : ((if neg = true then [45] else []) ++ c :: t).takeWhile (· != 0) =
      (if neg = true then [45] else []) ++ c :: t := by
    apply takeWhile_all
    intro x hx
    rcases List.mem_append.mp hx with h | h
    · cases neg <;> simp at h; subst h; rfl
    · simpa using hnz x h
  rw [htw]
  cases neg with
  | true => simp [isSpace]
  | false =>
    have hh : (some c == some 45) = false := by simpa using h45
    simp [hsp, hh]

theorem getStrSpec_digits (base : Int) (hb : LegalOutBase base) (x : Int) :
    ∃ ds, getStrSpec base x = (if x < 0 then [45] else []) ++ ds.map (digitChar base) ∧ ds ≠ [] ∧
      (∀ d ∈ ds, d < base.natAbs) ∧ ofDigits base.natAbs ds = x.natAbs ∧ (x ≠ 0 → ds.head? ≠ some 0) := by
  have hb2 := hb.natAbs_bounds
  unfold getStrSpec
  by_cases hx : x = 0
  · subst hx; exact ⟨[0], rfl, by simp, by simp; omega, by simp [ofDigits], fun h => absurd rfl h⟩
  · exact ⟨digitsOf base.natAbs x.natAbs, by simp only [if_neg hx],
      digitsOf_ne_nil hb2.1 (Int.natAbs_pos.mpr hx), digitsOf_lt hb2.1 _, ofDigits_digitsOf hb2.1 _,
      fun _ => digitsOf_head_ne_zero hb2.1 _⟩

theorem getStrSpec_head (base : Int) (hb : LegalOutBase base) (x : Int) :
    ∃ c0 t, getStrSpec base x = c0 :: t ∧ isSpace c0 = false := by
  obtain ⟨ds, htext, hne, hlt, _⟩ := getStrSpec_digits base hb x
  obtain ⟨d0, ds', rfl⟩ := List.exists_cons_of_ne_nil hne
  rw [htext]
  by_cases hneg : x < 0
  · exact ⟨45, (d0 :: ds').map (digitChar base), by simp [hneg], by decide⟩
  · exact ⟨digitChar base d0, ds'.map (digitChar base), by simp [hneg],
      (digitChar_props base hb d0 (hlt d0 (by simp))).2.1⟩

theorem parse_getStrSpec (base : Int) (hb : LegalOutBase base) (x : Int) :
    parseSpec ((base.natAbs : Nat) : Int) (getStrSpec base x) = some x := by
  have hb2 := hb.natAbs_bounds
  obtain ⟨ds, htext, hne, hlt, hval, _⟩ := getStrSpec_digits base hb x
  have hprops : ∀ c ∈ ds.map (digitChar base), isSpace c = false ∧ c ≠ 0 ∧ c ≠ 45 := by
    intro c hc
    obtain ⟨d, hd, rfl⟩ := List.mem_map.mp hc
    have := digitChar_props base hb d (hlt d hd)
    exact ⟨this.2.1, this.2.2.1, this.2.2.2.1⟩
  have hmap : (ds.map (digitChar base)).mapM (digitOf base.natAbs base.natAbs) = some ds := mapM_digitChar base hb ds hlt
  rw [htext]
  generalize ds.map (digitChar base) = cs at hprops hmap
  have hfilter : cs.filter (fun c => !isSpace c) = cs := by
    apply List.filter_eq_self.mpr
    intro c hc; simp [(hprops c hc).1]
  obtain ⟨c0, r0, rfl⟩ : ∃ c0 r0, cs = c0 :: r0 := by
    cases cs with
    | nil => simp at hmap; exact absurd hmap hne
    | cons a l => exact ⟨a, l, rfl⟩
  have hc0 := hprops c0 (by simp)
  have hrb0 : base.natAbs ≠ 0 := by omega
  -- specRest on the digit characters
  have hrest : ∀ neg : Bool, specRest base.natAbs neg (c0 :: r0) =
      some (if neg then -(Int.ofNat x.natAbs) else Int.ofNat x.natAbs) := by
    intro neg
    have hfirst : (digitOf base.natAbs (if base.natAbs = 0 then 10 else base.natAbs) c0).isNone = false := by
      rw [if_neg hrb0]
      have hm := hmap
      simp only [List.mapM_cons] at hm
      cases hd : digitOf base.natAbs base.natAbs c0 with
      | none => simp [hd] at hm
      | some v => rfl
    unfold specRest
    dsimp only
    rw [hfirst]
    simp only [Bool.false_eq_true, if_false, hrb0]
    unfold specTail
    rw [hfilter, hmap]
    simp only [hval]
  have key := fun neg => parseSpec_signed base.natAbs (by omega) hb2.2 neg c0 r0 (fun y hy => (hprops y hy).2.1)
    hc0.1 hc0.2.2
  by_cases hx : x < 0
  · have := key true
    simp only [if_true] at this
    rw [if_pos hx, this, hrest true]; simp only [if_true]; congr 1; simp only [Int.ofNat_eq_natCast]; omega
  · have := key false
    simp only [Bool.false_eq_true, if_false] at this
    rw [if_neg hx, this, hrest false]; simp only [Bool.false_eq_true, if_false]; congr 1
    simp only [Int.ofNat_eq_natCast]; omega

theorem mpn_get_str_of_table {b : Nat} (hb : 2 ≤ b) (hb62 : b ≤ 62)
    (hnp : pow2P b = false → NonPow2Ok b) (hp2 : pow2P b = true → Pow2Ok b) (h10 : Base10Ok)
    (up : List Nat) (hu : Limbs up) (hne : up ≠ []) (htop : up.getLast! ≠ 0) :
    mpn_get_str b up = digitsOf b (val up) := by
  unfold mpn_get_str
  have hl : (up.length == 0) = false := by
    cases up with
    | nil => exact absurd rfl hne
    | cons a l => rfl
  simp only [hl, Bool.false_eq_true, if_false]
  cases hp : pow2P b with
  | true =>
    simp only [if_true]
    have hok := hp2 hp
    have h64 := bigBase_le_64 hb62 hok
    exact get_str_pow2_of_table hb hok h64 up hu hne htop
  | false =>
    simp only [Bool.false_eq_true, if_false]
    split
    · exact sb_get_str_of_table hb hb62 (hnp hp) h10 up hu hne htop
    · rfl

theorem text_lower : ∀ d < 36, numToTextLower.getD d 0 = (if d < 10 then 48 + d else 97 + (d - 10)) := by
  decide +kernel
theorem text_upper : ∀ d < 36, numToTextUpper.getD d 0 = (if d < 10 then 48 + d else 65 + (d - 10)) := by
  decide +kernel
theorem text_62 : ∀ d < 62, numToText62.getD d 0 =
    (if d < 10 then 48 + d else if d < 36 then 65 + (d - 10) else 97 + (d - 36)) := by decide +kernel

theorem getStrBase_legal (base : Int) (hb : LegalOutBase base) :
    ∃ tab, getStrBase base = some (base.natAbs, tab) ∧ ∀ d < base.natAbs, tab.getD d 0 = digitChar base d := by
  unfold LegalOutBase at hb
  unfold getStrBase digitChar
  rcases hb with ⟨h1, h2⟩ | ⟨h1, h2⟩
  · have e : base.toNat = base.natAbs := by omega
    by_cases h36 : base > 36
    · refine ⟨numToText62, ?_, ?_⟩
      · simp only [show base ≥ 0 by omega, if_true, show ¬ base ≤ 1 by omega, if_false, h36, show ¬ base > 62 by omega, e]
      · intro d hd
        simp only [show ¬ base < 0 by omega, if_false, show ¬ base ≤ 36 by omega]
        exact text_62 d (by omega)
    · refine ⟨numToTextLower, ?_, ?_⟩
      · simp only [show base ≥ 0 by omega, if_true, show ¬ base ≤ 1 by omega, if_false, h36, e]
      · intro d hd
        simp only [show ¬ base < 0 by omega, if_false, show base ≤ 36 by omega, if_true]
        exact text_lower d (by omega)
  · refine ⟨numToTextUpper, ?_, ?_⟩
    · have e : (-base).toNat = base.natAbs := by omega
      simp only [show ¬ base ≥ 0 by omega, if_false, e, show ¬ base.natAbs ≤ 1 by omega, show ¬ base.natAbs > 36 by omega]
    · intro d hd
      simp only [show base < 0 by omega, if_true]
      exact text_upper d (by omega)

theorem mpn_get_str_natLimbs (hbases : BasesOk) (h10 : Base10Ok) {b : Nat} (hb : 2 ≤ b) (hb62 : b ≤ 62) (v : Nat) :
    mpn_get_str b (natLimbs v) = if v = 0 then [0] else digitsOf b v := by
  have hbo := hbases b (by omega) hb
  by_cases hv : v = 0
  · subst hv; simp [natLimbs_zero, mpn_get_str]
  · obtain ⟨t1, t2⟩ := natLimbs_top _ hv
    rw [mpn_get_str_of_table hb hb62 hbo.1 hbo.2 h10 _ (Limbs_natLimbs _) t1 t2, val_natLimbs_eq, if_neg hv]

theorem mpz_get_str_spec_of (hbases : BasesOk) (h10 : Base10Ok) (base : Int) (hb : LegalOutBase base) (x : Int) :
    mpz_get_str base x = some (getStrSpec base x) := by
  have hb2 := hb.natAbs_bounds
  obtain ⟨tab, ht, htab⟩ := getStrBase_legal base hb
  unfold mpz_get_str getStrSpec
  rw [ht]
  simp only
  rw [mpn_get_str_natLimbs hbases h10 hb2.1 hb2.2]
  simp only [Int.natAbs_eq_zero]
  congr 2
  apply List.map_congr_left
  intro d hd
  apply htab
  by_cases hx : x = 0
  · simp only [hx, if_true, List.mem_singleton] at hd; omega
  · simp only [hx, if_false] at hd; exact digitsOf_lt hb2.1 _ d hd

theorem getStrSpec_bytes (base : Int) (hb : LegalOutBase base) (x : Int) : ∀ c ∈ getStrSpec base x, c < 256 := by
  obtain ⟨ds, htext, _, hlt, _, _⟩ := getStrSpec_digits base hb x
  intro c hc
  rw [htext] at hc
  rcases List.mem_append.mp hc with h | h
  · split at h <;> simp at h; omega
  · obtain ⟨d, hd, rfl⟩ := List.mem_map.mp h
    exact (digitChar_props base hb d (hlt d hd)).2.2.2.2

/-! ### sizeinbase -/

theorem digits_len_pow2 {k bits W : Nat} (hk : 0 < k) (hbits : 0 < bits) (hlo : 2 ^ (bits - 1) ≤ W) (hhi : W < 2 ^ bits) :
    (digitsOf (2 ^ k) W).length = (bits + k - 1) / k := by
  have hm := Nat.div_add_mod (bits + k - 1) k
  have hr := Nat.mod_lt (bits + k - 1) hk
  generalize (bits + k - 1) / k = m at *
  generalize (bits + k - 1) % k = r at *
  have hmpos : 0 < m := by
    rcases Nat.eq_zero_or_pos m with h | h
    · subst h; omega
    · exact h
  have hD : 2 ≤ 2 ^ k := by
    calc 2 = 2 ^ 1 := rfl
      _ ≤ 2 ^ k := Nat.pow_le_pow_right (by omega) hk
  rw [digitsOf_eq_fixed hD hmpos ?_ ?_, fixedDigits_length]
  · rw [← pow_mul]
    refine le_trans (Nat.pow_le_pow_right (by omega) ?_) hlo
    have : k * (m - 1) = k * m - k := by rw [Nat.mul_sub, Nat.mul_one]
    rw [this]; omega
  · rw [← pow_mul]
    exact lt_of_lt_of_le hhi (Nat.pow_le_pow_right (by omega) (by omega))

theorem sizeinbase_pow2_of_table {b : Nat} (hok : Pow2Ok b) (hp : pow2P b = true) (x : Int) :
    mpz_sizeinbase x b = if x = 0 then 1 else (digitsOf b x.natAbs).length := by
  obtain ⟨hpow, hbpd, _, _⟩ := hok
  unfold mpz_sizeinbase sizeinbase sizeinbaseBits
  by_cases hx : x = 0
  · subst hx; simp [natLimbs_zero]
  · have hxn : x.natAbs ≠ 0 := by omega
    obtain ⟨t1, t2⟩ := natLimbs_top _ hxn
    obtain ⟨_, hl63, hlo, hhi⟩ := bitlen_bounds (Limbs_natLimbs _) t1 t2
    have hl : ((natLimbs x.natAbs).length == 0) = false := by
      cases h : natLimbs x.natAbs with
      | nil => exact absurd h t1
      | cons a l => rfl
    simp only [hl, Bool.false_eq_true, if_false, hp, if_true, hx]
    rw [val_natLimbs_eq] at hlo hhi
    rw [Nat.mul_comm (natLimbs x.natAbs).length 64]
    have hpos : 0 < 64 * (natLimbs x.natAbs).length - clz (natLimbs x.natAbs).getLast! := by
      have : 0 < (natLimbs x.natAbs).length := List.length_pos_iff.mpr t1
      unfold clz; omega
    conv_rhs => rw [← hpow]
    exact (digits_len_pow2 hbpd hpos hlo hhi).symm

/-! ### MPN_SIZEINBASE, bases that are not powers of two: the certificate tables -/

/-- bit-length bound of `sizeinbase_bound_partial` -/
def sibT : Nat := 2 ^ 24

/-- Proof hints, one row per base 2..62 (dummy rows for powers of two): `(p1, q1, u1, v1, u2, v2)` with
    p1/q1 ≤ log_b 2 (a convergent) and Farey neighbours u1/v1 ≤ chars_per_bit_exactly, log_b 2 < u2/v2,
    v1 + v2 > sibT.  Nothing here is trusted: `SibOk` re-checks every property in the kernel. -/
def sibHints : List (Nat × Nat × Nat × Nat × Nat × Nat) := [
  (0, 1, 0, 1, 1, 1),
  (190537, 301994, 190537, 301994, 10400200, 16483927),
  (0, 1, 0, 1, 1, 1),
  (97879, 227268, 1936274, 4495889, 5710943, 13260399),
  (190537, 492531, 190537, 492531, 6398923, 16540976),
  (91313, 256348, 3720121, 10443700, 4173722, 11717119),
  (0, 1, 0, 1, 1, 1),
  (190537, 603988, 190537, 603988, 5200100, 16483927),
  (97879, 325147, 1936274, 6432163, 3774669, 12539179),
  (417431, 1444074, 1686227, 5833387, 4641250, 16056087),
  (190537, 683068, 190537, 683068, 4493553, 16109219),
  (5458, 20197, 4516757, 16713987, 54353, 201130),
  (91313, 347661, 3720121, 14163821, 4173722, 15890841),
  (416263, 1626294, 416263, 1626294, 4070577, 15903299),
  (0, 1, 0, 1, 1, 1),
  (32631, 133378, 4102668, 16769503, 36667, 149875),
  (190537, 794525, 190537, 794525, 3866341, 16122352),
  (163451, 694328, 163451, 694328, 3843692, 16327725),
  (97879, 423026, 1936274, 8368437, 3774669, 16313848),
  (118580, 520841, 1454590, 6389021, 3042781, 13364860),
  (417431, 1861505, 1686227, 7519614, 2955023, 13177723),
  (35969, 162708, 3105451, 14047700, 1160048, 5247549),
  (190537, 873605, 190537, 873605, 3540868, 16234747),
  (97879, 454536, 968137, 4495889, 2806532, 13033131),
  (5458, 25655, 3538403, 16632050, 54353, 255483),
  (190537, 905982, 190537, 905982, 3403221, 16181933),
  (91313, 438974, 3266520, 15703321, 453601, 2180621),
  (390321, 1896172, 2596913, 12615754, 1103296, 5359791),
  (416263, 2042557, 416263, 2042557, 3238051, 15888762),
  (31766, 157375, 2354068, 11662515, 1644671, 8148023),
  (0, 1, 0, 1, 1, 1),
  (134680, 679379, 2948386, 14872821, 622177, 3138506),
  (32631, 166009, 3295994, 16768247, 36667, 186542),
  (158358, 812263, 1923323, 9865268, 2276316, 11675869),
  (190537, 985062, 190537, 985062, 3104193, 16048445),
  (170754, 889535, 3167803, 16502522, 176297, 918411),
  (163451, 857779, 163451, 857779, 3189888, 16740301),
  (133671, 706505, 2872553, 15182598, 1622363, 8574841),
  (97879, 520905, 1936274, 10304711, 1838395, 9783806),
  (3317, 17771, 2934499, 15721731, 1465591, 7851980),
  (118580, 639421, 1454590, 7843611, 3042781, 16407641),
  (163253, 885854, 1679041, 9110921, 1515788, 8225067),
  (4856, 26511, 1686227, 9205841, 2955023, 16132746),
  (15466, 84937, 3041585, 16703938, 2054707, 11284149),
  (35969, 198677, 1945403, 10745554, 1160048, 6407597),
  (178269, 990211, 178269, 990211, 2865292, 15915519),
  (190537, 1064142, 190537, 1064142, 2969257, 16583189),
  (272457, 1529767, 1633260, 9170281, 2086861, 11717119),
  (97879, 552415, 968137, 5464026, 2806532, 15839663),
  (350833, 1990074, 350833, 1990074, 2842494, 16123835),
  (5458, 31113, 2940520, 16762257, 54353, 309836),
  (18807, 107725, 634807, 3636124, 2627228, 15048553),
  (190537, 1096519, 190537, 1096519, 2831610, 16295597),
  (57821, 334284, 2567482, 14843537, 2795633, 16162560),
  (91313, 530287, 2812919, 16335619, 453601, 2634222),
  (210909, 1230209, 1999312, 11661767, 2756855, 16080432),
  (67667, 396392, 2596913, 15212667, 1103296, 6463087),
  (57585, 338752, 2804836, 16499849, 1594537, 9380092),
  (92053, 543747, 416263, 2458820, 2821788, 16667993),
  (190781, 1131472, 1692427, 10037340, 1221625, 7245137),
  (31766, 189141, 2354068, 14016583, 1644671, 9792694)]

def sibHint (b : Nat) : Nat × Nat × Nat × Nat × Nat × Nat := sibHints.getD (b - 2) (0, 1, 0, 1, 1, 1)
def dM (b : Nat) : Nat := (decodeDouble (cpbeBits b)).1
def dk (b : Nat) : Nat := (decodeDouble (cpbeBits b)).2

/-- the per-base certificate checked by the kernel.  Only `2^v2 < b^u2` is used further (`RadixDc.xn_large`); the bounds
    on MPN_SIZEINBASE rest on `SibOk2` (Lemmas/RadixSib.lean) -/
def SibOk (b : Nat) : Prop :=
  (sibHint b).2.2.2.2.1 * (sibHint b).2.2.2.1 = (sibHint b).2.2.1 * (sibHint b).2.2.2.2.2 + 1 ∧   -- u2·v1 = u1·v2 + 1
  (sibHint b).2.2.1 * 2 ^ dk b ≤ dM b * (sibHint b).2.2.2.1 ∧                                      -- u1/v1 ≤ c
  2 ^ (sibHint b).2.2.2.2.2 < b ^ (sibHint b).2.2.2.2.1 ∧                                          -- log_b 2 < u2/v2
  sibT < (sibHint b).2.2.2.1 + (sibHint b).2.2.2.2.2 ∧                                             -- v1 + v2 > T
  b ^ (sibHint b).1 ≤ 2 ^ (sibHint b).2.1 ∧ 0 < (sibHint b).2.1 ∧                                  -- p1/q1 ≤ log_b 2
  sibT * (dM b * (sibHint b).2.1 - (sibHint b).1 * 2 ^ dk b) + (sibHint b).2.1 * 2 ^ (dk b - 30)
      + (sibHint b).1 * 2 ^ dk b ≤ (sibHint b).2.1 * 2 ^ dk b ∧                                    -- T·(c - p1/q1) + 2^-30 ≤ 1 - p1/q1
  53 ≤ dk b ∧ dM b < 2 ^ 53
instance (b : Nat) : Decidable (SibOk b) := by unfold SibOk; infer_instance

end Mpir.Radix
