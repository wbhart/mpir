/- A carry chain across a split of the operand: the low limbs leave a carry, `mpn_add_1` on the limbs above absorbs it
   (mpz/aorsmul_i.c, mpn/generic/mul.c:120-121 and :235-248).  Used by Lemmas/MpzMul.lean and Lemmas/MulLoops.lean; the kernels themselves
   are called under their names of Lemmas/Kernels.lean (`add_1_val'`, `mul_1_val'`, …). -/
import MpirProofs.Lemmas.Kernels
namespace Mpir.Mpz.K
open Mpir

/-- A carry chain across a split: the low `n` limbs left the carry `c`, the limbs above absorb it. -/
theorem val_append_carry {l h : List Nat} {n m c c' A H : Nat} (hl : l.length = n)
    (h1 : val l + B ^ n * c = A) (h2 : val h + B ^ m * c' = H + c) :
    val (l ++ h) + B ^ (n + m) * c' = A + B ^ n * H := by
  rw [val_append, hl, pow_add]
  linear_combination h1 + B ^ n * h2

/-- … where the limbs above are those of `p` from `n` on and `mpn_add_1` does the absorbing: `lo` is what an
    operation made of the low `n` limbs of `p` and of an addend `A` -/
theorem add_1_drop_val (p lo : List Nat) (n c A : Nat) (hp : Limbs p) (hn : n < p.length) (hlo : Limbs lo)
    (hln : lo.length = n) (hc : c < B) (hv : val lo + B ^ n * c = val (p.take n) + A) :
    val (lo ++ (add_1 (p.drop n) c).1) + B ^ p.length * (add_1 (p.drop n) c).2 = val p + A ∧
    (add_1 (p.drop n) c).2 ≤ 1 ∧ Limbs (lo ++ (add_1 (p.drop n) c).1) ∧
    (lo ++ (add_1 (p.drop n) c).1).length = p.length := by
  have hdl : (p.drop n).length = p.length - n := List.length_drop
  obtain ⟨iv, ic, iL, iN⟩ := add_1_val' (p.drop n) c (Limbs_drop hp n) (by omega) hc
  refine ⟨?_, ic, Limbs_append.mpr ⟨hlo, iL⟩, by rw [List.length_append, hln, iN, hdl]; omega⟩
  have e := val_append_carry hln hv iv
  rw [hdl, Nat.add_sub_cancel' hn.le] at e
  rw [e, val_take_drop p n hn.le]
  ring

end Mpir.Mpz.K
