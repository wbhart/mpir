/- The claim in the comment of mpn_hgcd_matrix_mul ("the product has normalized size >= M->n + M1->n - 2 … we can't have
   M ending with a large power and M1 starting with a large power of the same matrix"), as an inequality between the largest
   entries: if the state (x, y) reached through M is BALANCED with respect to the last factor of M (M ends with a power of
   (1 0; 1 1), i.e. column 0 dominates ⇒ y ≤ K·x; column 1 dominates ⇒ x ≤ K·y) and M1 reduces the high parts
   (⌊x/P⌋, ⌊y/P⌋) to a pair (u, v) with |u − v| < min(u, v), then  max(M)·max(M1) ≤ 8K·max(M·M1).
   With 8K ≤ B and tight size fields this gives an entry of M·M1 using limb M->n + M1->n − 3. -/
import MpirProofs.Lemmas.HgcdStep
import Mathlib.Tactic.Linarith
namespace Mpir.Hgcd
open Mpir Mpir.Gcd

def mxM (m : M1) : Nat := max (max m.u00 m.u01) (max m.u10 m.u11)

/-- a non-negative matrix of determinant 1 other than the identity has a dominating column -/
theorem col_dichotomy (m : M1) (hd : det1 m) :
    (m.u01 ≤ m.u00 ∧ m.u11 ≤ m.u10) ∨ (m.u00 ≤ m.u01 ∧ m.u10 ≤ m.u11) ∨ m = ⟨1, 0, 0, 1⟩ := by
  unfold det1 at hd
  obtain ⟨a, b, c, d⟩ := m
  simp only at hd ⊢
  by_cases h0 : b ≤ a ∧ d ≤ c
  · exact Or.inl h0
  by_cases h1 : a ≤ b ∧ c ≤ d
  · exact Or.inr (Or.inl h1)
  right; right
  have hcases : (a < b ∧ d < c) ∨ (b < a ∧ c < d) := by omega
  rcases hcases with ⟨h2, h3⟩ | ⟨h2, h3⟩
  · exfalso
    have : a * d ≤ b * c := Nat.mul_le_mul (le_of_lt h2) (le_of_lt h3)
    omega
  · have e1 : (b + 1) * (c + 1) ≤ a * d := Nat.mul_le_mul h2 h3
    have e2 : (b + 1) * (c + 1) = b * c + b + c + 1 := by ring
    have hb : b = 0 := by omega
    have hc : c = 0 := by omega
    subst hb; subst hc
    simp only [Nat.zero_mul, Nat.zero_add] at hd
    have ha : a = 1 := Nat.eq_one_of_mul_eq_one_right hd
    have hd' : d = 1 := Nat.eq_one_of_mul_eq_one_left hd
    rw [ha, hd']

theorem le_mxM (m : M1) : m.u00 ≤ mxM m ∧ m.u01 ≤ mxM m ∧ m.u10 ≤ mxM m ∧ m.u11 ≤ mxM m :=
  ⟨le_trans (le_max_left _ _) (le_max_left _ _), le_trans (le_max_right _ _) (le_max_left _ _),
    le_trans (le_max_left _ _) (le_max_right _ _), le_trans (le_max_right _ _) (le_max_right _ _)⟩

theorem mxM_le {m : M1} {k : Nat} (h00 : m.u00 ≤ k) (h01 : m.u01 ≤ k) (h10 : m.u10 ≤ k) (h11 : m.u11 ≤ k) : mxM m ≤ k :=
  max_le (max_le h00 h01) (max_le h10 h11)

theorem size4_eq (m : M1) : size4 m = nlimbs (mxM m) := by
  have hm : Monotone nlimbs := fun _ _ h => nlimbs_isSize.mono h
  simp only [size4, mxM, hm.map_max]

theorem normD_iff_mxM (M : HM) : M.NormD ↔ B ^ (M.n - 1) ≤ mxM M.toM1 := by
  rw [normD_iff, size4_eq, nlimbs_isSize.pow_le_iff]

theorem max_lt_two_min {u v T : Nat} (hu : T ≤ u) (hv : T ≤ v) (hd : absDiff u v < T) : max u v < 2 * min u v := by
  unfold absDiff at hd
  split at hd <;> omega

theorem mul_size_col0 (m f : M1) (x y u v P T K : Nat) (hP : 0 < P) (hK : 1 ≤ K)
    (hf : MRel f u v (x / P) (y / P)) (hu : T ≤ u) (hv : T ≤ v) (hT : 0 < T) (hdiff : absDiff u v < T)
    (hx : P ≤ x) (hc : m.u01 ≤ m.u00 ∧ m.u11 ≤ m.u10) (hbal : y ≤ K * x) :
    (mxM m) * (mxM f) ≤ 8 * K * (mxM (mmul m f)) := by
  obtain ⟨_, ex, ey⟩ := hf
  obtain ⟨q00, q01, q10, q11⟩ := le_mxM (mmul m f)
  -- the largest entry of m is in column 0, and the product dominates it times row 0 of f
  have hbig : mxM m ≤ max m.u00 m.u10 :=
    mxM_le (le_max_left _ _) (hc.1.trans (le_max_left _ _)) (le_max_right _ _) (hc.2.trans (le_max_right _ _))
  have hp : ∀ e, e = m.u00 ∨ e = m.u10 → e * (f.u00 + f.u01) ≤ 2 * mxM (mmul m f) := by
    rintro e (rfl | rfl)
    · have := le_trans (Nat.le_add_right (m.u00 * f.u00) (m.u01 * f.u10)) q00
      have := le_trans (Nat.le_add_right (m.u00 * f.u01) (m.u01 * f.u11)) q01
      rw [Nat.mul_add]; omega
    · have := le_trans (Nat.le_add_right (m.u10 * f.u00) (m.u11 * f.u10)) q10
      have := le_trans (Nat.le_add_right (m.u10 * f.u01) (m.u11 * f.u11)) q11
      rw [Nat.mul_add]; omega
  -- u, v within a factor two
  have hhl := max_lt_two_min hu hv hdiff
  have hlo0 : 0 < min u v := lt_min (lt_of_lt_of_le hT hu) (lt_of_lt_of_le hT hv)
  -- x/P ≤ r0·max,  r1·min ≤ y/P  for the row sums r0, r1 of f
  have hxh : x / P ≤ (f.u00 + f.u01) * max u v := by
    rw [ex, Nat.add_mul]
    exact Nat.add_le_add (Nat.mul_le_mul_left _ (le_max_left _ _)) (Nat.mul_le_mul_left _ (le_max_right _ _))
  have hyh : (f.u10 + f.u11) * min u v ≤ y / P := by
    rw [ey, Nat.add_mul]
    exact Nat.add_le_add (Nat.mul_le_mul_left _ (min_le_left _ _)) (Nat.mul_le_mul_left _ (min_le_right _ _))
  -- y/P ≤ 2K·(x/P)
  have hxh1 : 1 ≤ x / P := (Nat.one_le_div_iff hP).mpr hx
  have hyx : y / P ≤ 2 * K * (x / P) := by
    have h2 : x < (x / P + 1) * P := by
      rw [Nat.mul_comm]; exact Nat.lt_mul_div_succ x hP
    have h3 : K * x / P ≤ K * (x / P + 1) := by
      apply Nat.div_le_of_le_mul
      calc K * x ≤ K * ((x / P + 1) * P) := Nat.mul_le_mul_left _ (le_of_lt h2)
        _ = P * (K * (x / P + 1)) := by ring
    calc y / P ≤ K * x / P := Nat.div_le_div_right hbal
      _ ≤ K * (x / P + 1) := h3
      _ = K * (x / P) + K := by ring
      _ ≤ K * (x / P) + K * (x / P) := Nat.add_le_add_left (Nat.le_mul_of_pos_right _ hxh1) _
      _ = 2 * K * (x / P) := by ring
  -- r1 ≤ 4K·r0
  have hr : f.u10 + f.u11 ≤ 4 * K * (f.u00 + f.u01) := by
    refine Nat.le_of_mul_le_mul_right ?_ hlo0
    calc (f.u10 + f.u11) * min u v ≤ 2 * K * ((f.u00 + f.u01) * max u v) :=
          le_trans hyh (le_trans hyx (Nat.mul_le_mul_left _ hxh))
      _ ≤ 2 * K * ((f.u00 + f.u01) * (2 * min u v)) := Nat.mul_le_mul_left _ (Nat.mul_le_mul_left _ (le_of_lt hhl))
      _ = 4 * K * (f.u00 + f.u01) * min u v := by ring
  have h0 : f.u00 + f.u01 ≤ 4 * K * (f.u00 + f.u01) := Nat.le_mul_of_pos_left _ (by omega)
  have hfm : mxM f ≤ 4 * K * (f.u00 + f.u01) :=
    mxM_le ((Nat.le_add_right _ _).trans h0) ((Nat.le_add_left _ _).trans h0) ((Nat.le_add_right _ _).trans hr)
      ((Nat.le_add_left _ _).trans hr)
  calc mxM m * mxM f ≤ max m.u00 m.u10 * (4 * K * (f.u00 + f.u01)) := Nat.mul_le_mul hbig hfm
    _ = 4 * K * (max m.u00 m.u10 * (f.u00 + f.u01)) := by ring
    _ ≤ 4 * K * (2 * mxM (mmul m f)) := Nat.mul_le_mul_left _ (hp _ (max_choice _ _))
    _ = 8 * K * mxM (mmul m f) := by ring

theorem mxM_swap (m : M1) : mxM m.swap = mxM m :=
  (max_comm _ _).trans (congrArg₂ max (max_comm _ _) (max_comm _ _))

theorem mul_size_claim (m f : M1) (x y u v P T K : Nat) (hP : 0 < P) (hK : 1 ≤ K) (hd : det1 m)
    (hf : MRel f u v (x / P) (y / P)) (hu : T ≤ u) (hv : T ≤ v) (hT : 0 < T) (hdiff : absDiff u v < T)
    (hx : P ≤ x) (hy : P ≤ y)
    (hb0 : m.u01 ≤ m.u00 ∧ m.u11 ≤ m.u10 → y ≤ K * x) (hb1 : m.u00 ≤ m.u01 ∧ m.u10 ≤ m.u11 → x ≤ K * y) :
    mxM m * mxM f ≤ 8 * K * mxM (mmul m f) := by
  rcases col_dichotomy m hd with hc | hc | hc
  · exact mul_size_col0 m f x y u v P T K hP hK hf hu hv hT hdiff hx hc (hb0 hc)
  · have := mul_size_col0 m.swap f.swap y x v u P T K hP hK (mrel_swap hf) hv hu hT (by rw [absDiff_comm]; exact hdiff) hy
      ⟨hc.2, hc.1⟩ (hb1 hc)
    rw [← mmul_swap, mxM_swap, mxM_swap, mxM_swap] at this
    exact this
  · subst hc
    have e : mmul ⟨1, 0, 0, 1⟩ f = f := by unfold mmul; simp
    have e1 : mxM ⟨1, 0, 0, 1⟩ = 1 := by unfold mxM; simp
    rw [e, e1, Nat.one_mul]
    exact Nat.le_mul_of_pos_left _ (by omega)

/-- mpn_hgcd_matrix_mul keeps the size field tight WHEN the size claim holds (the C's `ASSERT` after the decrements) -/
theorem matMul_norm (thr : Nat) (M M1 : HM) (hf : M.Fits) (hf1 : M1.Fits) (hn : 1 ≤ M.n) (hn1 : 1 ≤ M1.n)
    (hd : det1 M.toM1) (hd1 : det1 M1.toM1)
    (hN : M.NormD) (hN1 : M1.NormD) (hclaim : mxM M.toM1 * mxM M1.toM1 ≤ B * mxM (mmul M.toM1 M1.toM1)) :
    (matMul thr M M1).NormD := by
  -- the largest entry of the product reaches limb M->n + M1->n − 3
  have hlow : M.n + M1.n - 3 < size4 (mmul M.toM1 M1.toM1) := by
    rw [size4_eq, ← nlimbs_isSize.pow_le_iff]
    have h3 : B ^ (M.n - 1) * B ^ (M1.n - 1) ≤ B * mxM (mmul M.toM1 M1.toM1) :=
      le_trans (Nat.mul_le_mul ((normD_iff_mxM M).mp hN) ((normD_iff_mxM M1).mp hN1)) hclaim
    rw [← pow_add] at h3
    by_cases h3' : M.n + M1.n = 2
    · rw [h3', show 2 - 3 = 0 from rfl, pow_zero]
      exact le_trans (det1_pos (det1_mmul hd hd1)).1 (le_mxM _).1
    · rw [show M.n - 1 + (M1.n - 1) = (M.n + M1.n - 3) + 1 by omega, pow_succ, Nat.mul_comm] at h3
      exact Nat.le_of_mul_le_mul_left h3 B_pos
  rw [normD_iff, matMul_eq thr M M1 hf hf1]
  show max (M.n + M1.n - 3) (size4 (mmul M.toM1 M1.toM1) - 1) + 1 - 1 < size4 (mmul M.toM1 M1.toM1)
  omega

end Mpir.Hgcd
