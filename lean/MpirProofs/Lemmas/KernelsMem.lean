/- Helper lemmas for the memory-level kernel models (Mpir/Model/KernelsMem.lean): generic facts about
   `read` / `write` / `writeList` and what a caller observes of a store (`mem_spec`), the C's overlap conditions, then
   for each kernel a loop lemma (`*Loop_eq`) and the lemma about the whole function (`*_eq`), all of the shape
   "under the permitted-overlap hypothesis the final memory is `writeList m rp (list-level result of
   the words read from the ORIGINAL memory)`". -/
import MpirProofs.Lemmas.Kernels
import Mpir.Model.KernelsMem
namespace Mpir.Mem
open Mpir

/-! ### `read`, `write`, `writeList` -/

theorem Memory.ext' {m m' : Memory} (h : ∀ a, m a = m' a) : m = m' := by
  cases m; cases m'; congr; funext a; exact h a

@[simp] theorem write_same (m : Memory) (p v : Nat) : write m p v p = v := by simp [write]

theorem write_other (m : Memory) {p a : Nat} (v : Nat) (h : a ≠ p) : write m p v a = m a := by
  simp [write, h]

theorem write_self (m : Memory) (p : Nat) : write m p (m p) = m := by
  apply Memory.ext'; intro a
  show (if a = p then m p else m a) = m a
  split
  · next h => rw [h]
  · rfl

@[simp] theorem read_length (m : Memory) : ∀ (n p : Nat), (read m p n).length = n
  | 0, _ => rfl
  | n + 1, p => by simp [read, read_length m n]

theorem read_succ (m : Memory) (p n : Nat) : read m p (n + 1) = m p :: read m (p + 1) n := rfl

theorem read_snoc (m : Memory) : ∀ (n p : Nat), read m p (n + 1) = read m p n ++ [m (p + n)]
  | 0, p => by simp [read]
  | n + 1, p => by
      rw [read_succ, read_snoc m n (p + 1), read_succ]
      simp [Nat.add_assoc, Nat.add_comm 1 n]

theorem read_congr {m m' : Memory} : ∀ (n p : Nat), (∀ a, p ≤ a → a < p + n → m a = m' a) →
    read m p n = read m' p n
  | 0, _, _ => rfl
  | n + 1, p, h => by
      rw [read_succ, read_succ, h p (Nat.le_refl _) (by omega),
        read_congr n (p + 1) (fun a h1 h2 => h a (by omega) (by omega))]

theorem read_write_outside (m : Memory) (a v p n : Nat) (h : a < p ∨ p + n ≤ a) :
    read (write m a v) p n = read m p n :=
  read_congr n p (fun b h1 h2 => write_other m v (by omega))

theorem writeList_outside : ∀ (l : List Nat) (m : Memory) (p a : Nat), a < p ∨ p + l.length ≤ a →
    writeList m p l a = m a
  | [], _, _, _, _ => rfl
  | x :: xs, m, p, a, h => by
      simp only [writeList, List.length_cons] at *
      rw [writeList_outside xs _ _ _ (by omega), write_other _ _ (by omega)]

theorem read_writeList : ∀ (l : List Nat) (m : Memory) (p : Nat), read (writeList m p l) p l.length = l
  | [], _, _ => rfl
  | x :: xs, m, p => by
      simp only [writeList, List.length_cons, read_succ]
      rw [read_writeList xs, writeList_outside xs _ _ _ (by omega), write_same]

theorem write_comm (m : Memory) {a b : Nat} (v w : Nat) (h : a ≠ b) :
    write (write m a v) b w = write (write m b w) a v := by
  apply Memory.ext'; intro c
  show (if c = b then w else if c = a then v else m c) = (if c = a then v else if c = b then w else m c)
  by_cases h1 : c = b <;> by_cases h2 : c = a <;> simp_all

theorem writeList_write_comm : ∀ (l : List Nat) (m : Memory) (p a v : Nat), a < p ∨ p + l.length ≤ a →
    writeList (write m a v) p l = write (writeList m p l) a v
  | [], _, _, _, _, _ => rfl
  | x :: xs, m, p, a, v, h => by
      simp only [writeList, List.length_cons] at *
      rw [write_comm m v x (by omega), writeList_write_comm xs _ _ _ _ (by omega)]

theorem writeList_snoc : ∀ (l : List Nat) (m : Memory) (p v : Nat),
    writeList m p (l ++ [v]) = write (writeList m p l) (p + l.length) v
  | [], _, _, _ => rfl
  | x :: xs, m, p, v => by
      simp only [List.cons_append, writeList, List.length_cons]
      rw [writeList_snoc xs]; congr 1; omega

theorem writeList_read_self (m : Memory) : ∀ (n p : Nat), writeList m p (read m p n) = m
  | 0, _ => rfl
  | n + 1, p => by rw [read_succ, writeList, write_self, writeList_read_self m n]

theorem writeList_spec (m : Memory) (rp n : Nat) (l : List Nat) (hl : l.length = n) :
    read (writeList m rp l) rp n = l ∧ ∀ a, a < rp ∨ rp + n ≤ a → writeList m rp l a = m a := by
  subst hl
  exact ⟨read_writeList l m rp, fun a h => writeList_outside l m rp a h⟩

/-! ### the overlap predicates of gmp-impl.h in linear arithmetic -/

theorem sameOrSeparate_iff (x y n : Nat) : SameOrSeparate x y n ↔ (x = y ∨ x + n ≤ y ∨ y + n ≤ x) := by
  unfold SameOrSeparate SameOrSeparate2 Overlap; omega

theorem sameOrSeparate2_iff (x xn y yn : Nat) : SameOrSeparate2 x xn y yn ↔ (x = y ∨ x + xn ≤ y ∨ y + yn ≤ x) := by
  unfold SameOrSeparate2 Overlap; omega

theorem sameOrIncr_iff (d s n : Nat) : SameOrIncr d s n ↔ (d ≤ s ∨ s + n ≤ d) := by
  unfold SameOrIncr Overlap; omega

theorem sameOrDecr_iff (d s n : Nat) : SameOrDecr d s n ↔ (s ≤ d ∨ d + n ≤ s) := by
  unfold SameOrDecr Overlap; omega

/-! ### ascending loops: mpn_add_n, sub_n, mul_1, addmul_1, submul_1, com_n, rshift, copyi -/

theorem addNLoop_eq : ∀ (n : Nat) (m : Memory) (rp up vp cy : Nat),
    (rp = up ∨ rp + n ≤ up ∨ up + n ≤ rp) → (rp = vp ∨ rp + n ≤ vp ∨ vp + n ≤ rp) →
    addNLoop n m rp up vp cy =
      (writeList m rp (addNC (read m up n) (read m vp n) cy).1, (addNC (read m up n) (read m vp n) cy).2)
  | 0, _, _, _, _, _, _, _ => rfl
  | n + 1, m, rp, up, vp, cy, hu, hv => by
      simp only [addNLoop, read_succ, addNC]
      rw [addNLoop_eq n _ _ _ _ _ (by omega) (by omega),
        read_write_outside m rp _ (up + 1) n (by omega), read_write_outside m rp _ (vp + 1) n (by omega)]
      rfl

theorem wsub_eq (a b : Nat) : wsub a b = (a + B - b) % B := by unfold wsub; rw [Nat.add_comm]

theorem subNLoop_eq : ∀ (n : Nat) (m : Memory) (rp up vp cy : Nat),
    (rp = up ∨ rp + n ≤ up ∨ up + n ≤ rp) → (rp = vp ∨ rp + n ≤ vp ∨ vp + n ≤ rp) →
    subNLoop n m rp up vp cy =
      (writeList m rp (subNC (read m up n) (read m vp n) cy).1, (subNC (read m up n) (read m vp n) cy).2)
  | 0, _, _, _, _, _, _, _ => rfl
  | n + 1, m, rp, up, vp, cy, hu, hv => by
      simp only [subNLoop, read_succ, subNC, wsub_eq]
      rw [subNLoop_eq n _ _ _ _ _ (by omega) (by omega),
        read_write_outside m rp _ (up + 1) n (by omega), read_write_outside m rp _ (vp + 1) n (by omega)]
      rfl

/-- mul_1 tolerates every `rp ≤ up` (MPN_SAME_OR_INCR_P): a limb is loaded before the store to the same
    or a lower address. -/
theorem mul1Loop_eq (vl : Nat) : ∀ (n : Nat) (m : Memory) (rp up cl : Nat),
    (rp ≤ up ∨ up + n ≤ rp) →
    mul1Loop vl n m rp up cl =
      (writeList m rp (mul1C (read m up n) vl cl).1, (mul1C (read m up n) vl cl).2)
  | 0, _, _, _, _, _ => rfl
  | n + 1, m, rp, up, cl, h => by
      simp only [mul1Loop, read_succ, mul1C]
      rw [mul1Loop_eq vl n _ _ _ _ (by omega), read_write_outside m rp _ (up + 1) n (by omega)]
      rfl

theorem addmul1Loop_eq (vl : Nat) : ∀ (n : Nat) (m : Memory) (rp up cl : Nat),
    (rp = up ∨ rp + n ≤ up ∨ up + n ≤ rp) →
    addmul1Loop vl n m rp up cl =
      (writeList m rp (addmul1C (read m rp n) (read m up n) vl cl).1,
       (addmul1C (read m rp n) (read m up n) vl cl).2)
  | 0, _, _, _, _, _ => rfl
  | n + 1, m, rp, up, cl, h => by
      simp only [addmul1Loop, read_succ, addmul1C]
      rw [addmul1Loop_eq vl n _ _ _ _ (by omega), read_write_outside m rp _ (up + 1) n (by omega),
        read_write_outside m rp _ (rp + 1) n (by omega)]
      rfl

theorem submul1Loop_eq (vl : Nat) : ∀ (n : Nat) (m : Memory) (rp up cl : Nat),
    (rp = up ∨ rp + n ≤ up ∨ up + n ≤ rp) →
    submul1Loop vl n m rp up cl =
      (writeList m rp (submul1C (read m rp n) (read m up n) vl cl).1,
       (submul1C (read m rp n) (read m up n) vl cl).2)
  | 0, _, _, _, _, _ => rfl
  | n + 1, m, rp, up, cl, h => by
      simp only [submul1Loop, read_succ, submul1C, wsub_eq]
      rw [submul1Loop_eq vl n _ _ _ _ (by omega), read_write_outside m rp _ (up + 1) n (by omega),
        read_write_outside m rp _ (rp + 1) n (by omega)]
      rfl

/-- com_n is an ascending load/store loop: correct for every `rp ≤ up` (the documented rule is the
    narrower same-or-separate). -/
theorem comNLoop_eq : ∀ (n : Nat) (m : Memory) (rp up : Nat), (rp ≤ up ∨ up + n ≤ rp) →
    comNLoop n m rp up = writeList m rp (Mpir.com_n (read m up n))
  | 0, _, _, _, _ => rfl
  | n + 1, m, rp, up, h => by
      simp only [comNLoop, read_succ, Mpir.com_n, List.map_cons]
      rw [comNLoop_eq n _ _ _ (by omega), read_write_outside m rp _ (up + 1) n (by omega)]
      rfl

/-- list-level rshift seen from inside the loop: the limb already loaded enters only as `x >>> cnt` -/
def rshiftTail (cnt : Nat) : Nat → List Nat → List Nat
  | low, [] => [low]
  | low, y :: ys => (low ||| ((y <<< (64 - cnt)) % B)) :: rshiftTail cnt (y >>> cnt) ys

theorem rshiftGo_cons (cnt x : Nat) : ∀ (l : List Nat), rshiftGo cnt (x :: l) = rshiftTail cnt (x >>> cnt) l
  | [] => rfl
  | y :: ys => by rw [rshiftGo, rshiftTail, rshiftGo_cons cnt y ys]

/-- `up` is the C pointer after the first `*up++` (so `up = up₀ + 1`): hypothesis `rp < up` is `rp ≤ up₀`. -/
theorem rshiftLoop_eq (cnt : Nat) : ∀ (i : Nat) (m : Memory) (rp up low : Nat), (rp < up ∨ up + i ≤ rp) →
    rshiftLoop cnt i m rp up low = writeList m rp (rshiftTail cnt low (read m up i))
  | 0, _, _, _, _, _ => rfl
  | i + 1, m, rp, up, low, h => by
      simp only [rshiftLoop, read_succ, rshiftTail]
      rw [rshiftLoop_eq cnt i _ _ _ _ (by omega), read_write_outside m rp _ (up + 1) i (by omega)]
      rfl

theorem copyiLoop_eq : ∀ (k : Nat) (m : Memory) (rp up x : Nat), (rp < up ∨ up + k ≤ rp) →
    copyiLoop k m rp up x = writeList m rp (x :: read m up k)
  | 0, _, _, _, _, _ => rfl
  | k + 1, m, rp, up, x, h => by
      simp only [copyiLoop, read_succ]
      rw [copyiLoop_eq k _ _ _ _ (by omega), read_write_outside m rp _ (up + 1) k (by omega),
        write_other m x (by omega : up ≠ rp)]
      rfl

/-! ### descending loops: mpn_copyd, mpn_lshift -/

theorem copydLoop_eq (rp up : Nat) : ∀ (k : Nat) (m : Memory) (x : Nat), (up ≤ rp ∨ rp + k + 1 ≤ up) →
    copydLoop rp up k m x = writeList m rp (read m up k ++ [x])
  | 0, _, _, _ => rfl
  | k + 1, m, x, h => by
      simp only [copydLoop]
      rw [copydLoop_eq rp up k _ _ (by omega), read_write_outside m _ _ up k (by omega),
        write_other m x (by omega : up + k ≠ rp + (k + 1)),
        writeList_write_comm _ m rp _ x (by simp), read_snoc, writeList_snoc (read m up k ++ [m (up + k)])]
      simp

/-- list-level lshift seen from the top: `us` = the limbs below the one already loaded, most significant
    first; `high` = `(loaded limb << cnt) mod B`; `lo` = bits entering limb 0.  Result most significant first. -/
def lshiftDown (cnt lo : Nat) : List Nat → Nat → List Nat
  | [], high => [high ||| lo]
  | low :: rest, high => (high ||| (low >>> (64 - cnt))) :: lshiftDown cnt lo rest ((low <<< cnt) % B)

theorem lshiftDown_length (cnt lo : Nat) : ∀ (l : List Nat) (h : Nat), (lshiftDown cnt lo l h).length = l.length + 1
  | [], _ => rfl
  | x :: xs, h => by simp [lshiftDown, lshiftDown_length cnt lo xs]

theorem lshiftDown_snoc (cnt lo y : Nat) : ∀ (zs : List Nat) (h : Nat),
    lshiftDown cnt lo (zs ++ [y]) h = lshiftDown cnt (y >>> (64 - cnt)) zs h ++ [((y <<< cnt) % B) ||| lo]
  | [], h => by simp [lshiftDown]
  | z :: zs, h => by simp [lshiftDown, lshiftDown_snoc cnt lo y zs]

theorem lshiftGo_snoc (cnt x : Nat) : ∀ (xs : List Nat) (lo : Nat),
    lshiftGo cnt (xs ++ [x]) lo = ((lshiftDown cnt lo xs.reverse ((x <<< cnt) % B)).reverse, x >>> (64 - cnt))
  | [], lo => by simp [lshiftGo, lshiftDown]
  | y :: ys, lo => by
      simp only [List.cons_append, lshiftGo, lshiftGo_snoc cnt x ys, List.reverse_cons, lshiftDown_snoc]
      simp

theorem lshiftLoop_eq (cnt rp up : Nat) : ∀ (i : Nat) (m : Memory) (high : Nat), (up ≤ rp ∨ rp + i + 1 ≤ up) →
    lshiftLoop cnt rp up i m high = writeList m rp (lshiftDown cnt 0 (read m up i).reverse high).reverse
  | 0, m, high, _ => by simp [lshiftLoop, lshiftDown, read, writeList]
  | i + 1, m, high, h => by
      simp only [lshiftLoop]
      rw [lshiftLoop_eq cnt rp up i _ _ (by omega), read_write_outside m _ _ up i (by omega),
        writeList_write_comm _ m rp _ _ (by simp [lshiftDown_length]), read_snoc]
      simp only [List.reverse_append, List.reverse_cons, List.reverse_nil, List.nil_append, List.cons_append,
        lshiftDown]
      rw [writeList_snoc]
      simp [lshiftDown_length]

/-! ### `__GMPN_COPY_REST`, mpn_add_1, mpn_sub_1 (`__GMPN_AORS_1`), mpn_neg_n: ascending, with an early exit that copies the rest -/

theorem copyRestLoop_eq (dst src : Nat) : ∀ (k j : Nat) (m : Memory), (dst ≤ src ∨ src + (j + k) ≤ dst) →
    copyRestLoop dst src k j m = writeList m (dst + j) (read m (src + j) k)
  | 0, _, _, _ => rfl
  | k + 1, j, m, h => by
      simp only [copyRestLoop, read_succ, writeList]
      rw [copyRestLoop_eq dst src k (j + 1) _ (by omega),
        read_write_outside m (dst + j) _ (src + (j + 1)) k (by omega)]
      rfl

theorem copyRest_eq (m : Memory) (dst src size start : Nat) (hs : start ≤ size)
    (h : dst ≤ src ∨ src + size ≤ dst) :
    copyRest m dst src size start = writeList m (dst + start) (read m (src + start) (size - start)) := by
  unfold copyRest
  exact copyRestLoop_eq dst src _ _ m (by omega)


/-- the exit of __GMPN_AORS_1 / __GMPN_AORS after the store of limb `i`:
    `if ((src) != (dst)) __GMPN_COPY_REST (dst, src, n, i + 1);` leaves `r` followed by the source's
    remaining limbs, whether the copy is done (separate) or skipped (same pointer). -/
theorem copyTail_eq (m : Memory) (dst src n i k r : Nat) (hk : i + (k + 1) = n)
    (h : dst = src ∨ dst + n ≤ src ∨ src + n ≤ dst) :
    (if src ≠ dst then copyRest (write m (dst + i) r) dst src n (i + 1) else write m (dst + i) r)
      = writeList m (dst + i) (r :: read m (src + i + 1) k) := by
  by_cases hsd : src = dst
  · subst hsd
    rw [if_neg (by simp), writeList, ← read_write_outside m (src + i) r (src + i + 1) k (by omega),
      writeList_read_self]
  · rw [if_pos hsd, copyRest_eq _ dst src n (i + 1) (by omega) (by omega),
      read_write_outside m (dst + i) r _ _ (by omega), writeList]
    have : n - (i + 1) = k := by omega
    rw [this]; rfl

theorem incrLoop_eq (dst src n : Nat) (h : dst = src ∨ dst + n ≤ src ∨ src + n ≤ dst) :
    ∀ (k i : Nat) (m : Memory), i + k = n →
    incrLoop dst src n k i m =
      (writeList m (dst + i) (incr (read m (src + i) k)).1, (incr (read m (src + i) k)).2)
  | 0, _, _, _ => rfl
  | k + 1, i, m, hk => by
      simp only [incrLoop, read_succ, incr]
      by_cases hc : (m (src + i) + 1) % B < 1
      · simp only [hc, if_true]
        rw [incrLoop_eq dst src n h k (i + 1) _ (by omega),
          read_write_outside m (dst + i) _ (src + (i + 1)) k (by omega)]
        rfl
      · simp only [hc, if_false]
        rw [copyTail_eq m dst src n i k _ hk h]

theorem decrLoop_eq (dst src n : Nat) (h : dst = src ∨ dst + n ≤ src ∨ src + n ≤ dst) :
    ∀ (k i : Nat) (m : Memory), i + k = n →
    decrLoop dst src n k i m =
      (writeList m (dst + i) (decr (read m (src + i) k)).1, (decr (read m (src + i) k)).2)
  | 0, _, _, _ => rfl
  | k + 1, i, m, hk => by
      simp only [decrLoop, read_succ, decr, wsub_eq]
      by_cases hc : m (src + i) < 1
      · simp only [hc, if_true]
        rw [decrLoop_eq dst src n h k (i + 1) _ (by omega),
          read_write_outside m (dst + i) _ (src + (i + 1)) k (by omega)]
        rfl
      · simp only [hc, if_false]
        rw [copyTail_eq m dst src n i k _ hk h]

theorem add_1_eq (m : Memory) (dst src n v : Nat) (hn : 1 ≤ n) (h : dst = src ∨ dst + n ≤ src ∨ src + n ≤ dst) :
    add_1 m dst src n v = (writeList m dst (Mpir.add_1 (read m src n) v).1, (Mpir.add_1 (read m src n) v).2) := by
  obtain ⟨k, rfl⟩ : ∃ k, n = k + 1 := ⟨n - 1, by omega⟩
  simp only [add_1, read_succ, Mpir.add_1, Nat.add_sub_cancel]
  by_cases hc : (m src + v) % B < v
  · simp only [hc, if_true]
    rw [incrLoop_eq dst src (k + 1) h k 1 _ (by omega), read_write_outside m dst _ (src + 1) k (by omega)]
    rfl
  · simp only [hc, if_false]
    have := copyTail_eq m dst src (k + 1) 0 k ((m src + v) % B) (by omega) h
    simpa using this

theorem sub_1_eq (m : Memory) (dst src n v : Nat) (hn : 1 ≤ n) (h : dst = src ∨ dst + n ≤ src ∨ src + n ≤ dst) :
    sub_1 m dst src n v = (writeList m dst (Mpir.sub_1 (read m src n) v).1, (Mpir.sub_1 (read m src n) v).2) := by
  obtain ⟨k, rfl⟩ : ∃ k, n = k + 1 := ⟨n - 1, by omega⟩
  simp only [sub_1, read_succ, Mpir.sub_1, Nat.add_sub_cancel, wsub_eq]
  by_cases hc : m src < v
  · simp only [hc, if_true]
    rw [decrLoop_eq dst src (k + 1) h k 1 _ (by omega), read_write_outside m dst _ (src + 1) k (by omega)]
    rfl
  · simp only [hc, if_false]
    have := copyTail_eq m dst src (k + 1) 0 k ((m src + B - v) % B) (by omega) h
    simpa using this

theorem negNLoop_eq : ∀ (n : Nat) (m : Memory) (rp up : Nat), (rp = up ∨ rp + n ≤ up ∨ up + n ≤ rp) →
    negNLoop n m rp up = (writeList m rp (negNC (read m up n) 0).1, (negNC (read m up n) 0).2)
  | 0, _, _, _, _ => rfl
  | n + 1, m, rp, up, h => by
      simp only [negNLoop, read_succ, negNC, if_true]
      by_cases hz : m up = 0
      · simp only [hz, if_true]
        have e : (if n = 0 then (write m rp 0, 0) else negNLoop n (write m rp 0) (rp + 1) (up + 1))
            = negNLoop n (write m rp 0) (rp + 1) (up + 1) := by
          cases n <;> simp [negNLoop]
        rw [e, negNLoop_eq n _ _ _ (by omega), read_write_outside m rp _ (up + 1) n (by omega)]
        rfl
      · simp only [hz, if_false, negNC_one]
        have e : (if n ≠ 0 then com_n (write m rp ((B - m up) % B)) (rp + 1) (up + 1) n
              else write m rp ((B - m up) % B))
            = com_n (write m rp ((B - m up) % B)) (rp + 1) (up + 1) n := by
          cases n <;> simp [com_n, comNLoop]
        rw [e, com_n, comNLoop_eq n _ _ _ (by omega), read_write_outside m rp _ (up + 1) n (by omega)]
        rfl

/-! ### `read` and `writeList` across a split of the region -/

theorem read_append (m : Memory) : ∀ (a p b : Nat), read m p (a + b) = read m p a ++ read m (p + a) b
  | 0, p, b => by simp [read]
  | a + 1, p, b => by
      rw [show a + 1 + b = (a + b) + 1 by omega, read_succ, read_succ, read_append m a (p + 1) b]
      simp [Nat.add_assoc, Nat.add_comm 1 a]

theorem read_take (m : Memory) (p a n : Nat) (h : a ≤ n) : (read m p n).take a = read m p a := by
  obtain ⟨b, rfl⟩ : ∃ b, n = a + b := ⟨n - a, by omega⟩
  rw [read_append, List.take_left' (read_length m a p)]

theorem read_drop (m : Memory) (p a n : Nat) (h : a ≤ n) : (read m p n).drop a = read m (p + a) (n - a) := by
  obtain ⟨b, rfl⟩ : ∃ b, n = a + b := ⟨n - a, by omega⟩
  rw [read_append, List.drop_left' (read_length m a p), Nat.add_sub_cancel_left]

theorem writeList_append : ∀ (l₁ l₂ : List Nat) (m : Memory) (p : Nat),
    writeList m p (l₁ ++ l₂) = writeList (writeList m p l₁) (p + l₁.length) l₂
  | [], _, _, _ => rfl
  | x :: xs, l₂, m, p => by
      simp only [List.cons_append, writeList, List.length_cons]
      rw [writeList_append xs]; congr 1; omega

theorem read_writeList_outside (m : Memory) (p : Nat) (l : List Nat) (q n : Nat)
    (h : p + l.length ≤ q ∨ q + n ≤ p) : read (writeList m p l) q n = read m q n :=
  read_congr n q (fun a h1 h2 => writeList_outside l m p a (by omega))

/-! ### mpn_add, mpn_sub (`__GMPN_AORS`) -/

/-- `if ((wp) != (xp)) __GMPN_COPY_REST (wp, xp, size, start);` — copy done or skipped, the region
    `[wp+start, wp+size)` holds the source's limbs afterwards and nothing else changed. -/
theorem copyOrSkip_eq (m : Memory) (wp xp size start : Nat) (hs : start ≤ size)
    (h : wp = xp ∨ wp + size ≤ xp ∨ xp + size ≤ wp) :
    (if wp ≠ xp then copyRest m wp xp size start else m)
      = writeList m (wp + start) (read m (xp + start) (size - start)) := by
  by_cases hsd : wp = xp
  · subst hsd; rw [if_neg (by simp), writeList_read_self]
  · rw [if_pos hsd, copyRest_eq _ wp xp size start hs (by omega)]

/-- the carry loop of __GMPN_AORS is that of __GMPN_AORS_1, written with `== 0` for `< 1` -/
theorem addTestLoop_eq_incrLoop (wp xp xsize : Nat) : ∀ (k i : Nat) (m : Memory),
    addTestLoop wp xp xsize k i m = incrLoop wp xp xsize k i m
  | 0, _, _ => rfl
  | k + 1, i, m => by
      simp only [addTestLoop, incrLoop, Nat.lt_one_iff, addTestLoop_eq_incrLoop wp xp xsize k, ne_comm]

theorem subTestLoop_eq_decrLoop (wp xp xsize : Nat) : ∀ (k i : Nat) (m : Memory),
    subTestLoop wp xp xsize k i m = decrLoop wp xp xsize k i m
  | 0, _, _ => rfl
  | k + 1, i, m => by
      simp only [subTestLoop, decrLoop, Nat.lt_one_iff, subTestLoop_eq_decrLoop wp xp xsize k, ne_comm]

theorem aors_tail (m : Memory) (wp xp xsize ysize c : Nat) (lo : List Nat) (f : List Nat → List Nat × Nat)
    (loop : Memory → Memory × Nat) (hs : ysize ≤ xsize) (hx : wp = xp ∨ wp + xsize ≤ xp ∨ xp + xsize ≤ wp)
    (hlen : lo.length = ysize)
    (hloop : ∀ m', loop m' = (writeList m' (wp + ysize) (f (read m' (xp + ysize) (xsize - ysize))).1,
      (f (read m' (xp + ysize) (xsize - ysize))).2)) :
    (if ¬c = 0 then loop (writeList m wp lo)
      else (if ¬wp = xp then copyRest (writeList m wp lo) wp xp xsize ysize else writeList m wp lo, 0)) =
    (writeList m wp
        (if (c != 0) = true then
            (lo ++ (f (read m (xp + ysize) (xsize - ysize))).1, (f (read m (xp + ysize) (xsize - ysize))).2)
          else (lo ++ read m (xp + ysize) (xsize - ysize), 0)).1,
      (if (c != 0) = true then
          (lo ++ (f (read m (xp + ysize) (xsize - ysize))).1, (f (read m (xp + ysize) (xsize - ysize))).2)
        else (lo ++ read m (xp + ysize) (xsize - ysize), 0)).2) := by
  have hrd : read (writeList m wp lo) (xp + ysize) (xsize - ysize) = read m (xp + ysize) (xsize - ysize) :=
    read_writeList_outside m wp lo _ _ (by omega)
  by_cases hc : c = 0
  · have := copyOrSkip_eq (writeList m wp lo) wp xp xsize ysize hs hx
    simp only [ne_eq] at this
    simp only [hc, not_true, if_false, bne_self_eq_false, Bool.false_eq_true]
    rw [this, hrd, writeList_append, hlen]
  · have hb : (c != 0) = true := by simpa using hc
    simp only [hc, not_false_eq_true, if_true, hb]
    rw [hloop, hrd, writeList_append, hlen]

theorem add_eq (m : Memory) (wp xp xsize yp ysize : Nat) (hs : ysize ≤ xsize)
    (hx : wp = xp ∨ wp + xsize ≤ xp ∨ xp + xsize ≤ wp) (hy : wp = yp ∨ wp + xsize ≤ yp ∨ yp + ysize ≤ wp) :
    add m wp xp xsize yp ysize =
      (writeList m wp (Mpir.add (read m xp xsize) (read m yp ysize)).1,
       (Mpir.add (read m xp xsize) (read m yp ysize)).2) := by
  by_cases hy0 : ysize = 0
  · subst hy0
    have := copyOrSkip_eq m wp xp xsize 0 (by omega) hx
    simp only [add, Mpir.add, read, List.length_nil, List.take_zero, Mpir.add_n, addNC, List.drop_zero,
      List.nil_append, ne_eq, not_true, if_false, bne_self_eq_false, Bool.false_eq_true]
    simpa using this
  · unfold add Mpir.add
    simp only [read_length, read_take m xp ysize xsize hs, read_drop m xp ysize xsize hs, add_n, Mpir.add_n,
      addNLoop_eq ysize m wp xp yp 0 (by omega) (by omega), ne_eq, hy0, not_false_eq_true, if_true]
    have hlen : (addNC (read m xp ysize) (read m yp ysize) 0).1.length = ysize := by
      rw [addNC_length _ _ _ (by simp), read_length]
    generalize addNC (read m xp ysize) (read m yp ysize) 0 = r at hlen ⊢
    exact aors_tail m wp xp xsize ysize r.2 r.1 incr _ hs hx hlen (fun m' => by
      rw [addTestLoop_eq_incrLoop, incrLoop_eq wp xp xsize hx (xsize - ysize) ysize m' (by omega)])

theorem sub_eq (m : Memory) (wp xp xsize yp ysize : Nat) (hs : ysize ≤ xsize)
    (hx : wp = xp ∨ wp + xsize ≤ xp ∨ xp + xsize ≤ wp) (hy : wp = yp ∨ wp + xsize ≤ yp ∨ yp + ysize ≤ wp) :
    sub m wp xp xsize yp ysize =
      (writeList m wp (Mpir.sub (read m xp xsize) (read m yp ysize)).1,
       (Mpir.sub (read m xp xsize) (read m yp ysize)).2) := by
  by_cases hy0 : ysize = 0
  · subst hy0
    have := copyOrSkip_eq m wp xp xsize 0 (by omega) hx
    simp only [sub, Mpir.sub, read, List.length_nil, List.take_zero, Mpir.sub_n, subNC, List.drop_zero,
      List.nil_append, ne_eq, not_true, if_false, bne_self_eq_false, Bool.false_eq_true]
    simpa using this
  · unfold sub Mpir.sub
    simp only [read_length, read_take m xp ysize xsize hs, read_drop m xp ysize xsize hs, sub_n, Mpir.sub_n,
      subNLoop_eq ysize m wp xp yp 0 (by omega) (by omega), ne_eq, hy0, not_false_eq_true, if_true]
    have hlen : (subNC (read m xp ysize) (read m yp ysize) 0).1.length = ysize := by
      rw [subNC_length _ _ _ (by simp), read_length]
    generalize subNC (read m xp ysize) (read m yp ysize) 0 = r at hlen ⊢
    exact aors_tail m wp xp xsize ysize r.2 r.1 decr _ hs hx hlen (fun m' => by
      rw [subTestLoop_eq_decrLoop, decrLoop_eq wp xp xsize hx (xsize - ysize) ysize m' (by omega)])

/-! ### the caller's view of a store; the entry points of the shift and copy loops -/

/-- what a caller can observe of "the call stored the list `l` at `[rp, rp+n)` and returned `r`" -/
theorem mem_spec {m : Memory} {rp n r : Nat} {l : List Nat} {res : Memory × Nat}
    (h : res = (writeList m rp l, r)) (hl : l.length = n) :
    read res.1 rp n = l ∧ res.2 = r ∧ ∀ a, a < rp ∨ rp + n ≤ a → res.1 a = m a := by
  subst h; subst hl
  exact ⟨read_writeList l m rp, rfl, fun a h => writeList_outside l m rp a h⟩

theorem lshift_eq (m : Memory) (rp up n cnt : Nat) (hn : 1 ≤ n) (h : up ≤ rp ∨ rp + n ≤ up) :
    lshift m rp up n cnt =
      (writeList m rp (Mpir.lshift (read m up n) cnt).1, (Mpir.lshift (read m up n) cnt).2) := by
  obtain ⟨k, rfl⟩ : ∃ k, n = k + 1 := ⟨n - 1, by omega⟩
  simp only [lshift, Mpir.lshift, Nat.add_sub_cancel, read_snoc, lshiftGo_snoc]
  rw [lshiftLoop_eq cnt rp up k m _ (by omega)]

theorem rshift_eq (m : Memory) (rp up n cnt : Nat) (hn : 1 ≤ n) (h : rp ≤ up ∨ up + n ≤ rp) :
    rshift m rp up n cnt =
      (writeList m rp (Mpir.rshift (read m up n) cnt).1, (Mpir.rshift (read m up n) cnt).2) := by
  obtain ⟨k, rfl⟩ : ∃ k, n = k + 1 := ⟨n - 1, by omega⟩
  simp only [rshift, Mpir.rshift, Nat.add_sub_cancel, read_succ, rshiftGo_cons]
  rw [rshiftLoop_eq cnt k m rp (up + 1) _ (by omega)]

theorem copyi_eq (m : Memory) (rp up n : Nat) (h : rp ≤ up ∨ up + n ≤ rp) :
    copyi m rp up n = writeList m rp (read m up n) := by
  cases n with
  | zero => rfl
  | succ k =>
    simp only [copyi, ne_eq, Nat.add_one_ne_zero, not_false_eq_true, if_true, Nat.add_sub_cancel, read_succ]
    rw [copyiLoop_eq k m rp (up + 1) _ (by omega)]

theorem copyd_eq (m : Memory) (rp up n : Nat) (h : up ≤ rp ∨ rp + n ≤ up) :
    copyd m rp up n = writeList m rp (read m up n) := by
  cases n with
  | zero => rfl
  | succ k =>
    simp only [copyd, ne_eq, Nat.add_one_ne_zero, not_false_eq_true, if_true, Nat.add_sub_cancel, read_snoc]
    rw [copydLoop_eq rp up k m _ (by omega)]

end Mpir.Mem
