/-
  C06 — MPN_SIZEINBASE for every operand size.  Huge powers `b^u` are bounded from both sides as `m·2^e` with a truncated
  mantissa (`powLo`, `powHi`), so that the kernel can decide `2^v < b^u` and `b^p ≤ 2^q` for exponents up to 2^128 with
  256-bit numbers: the table constant c = M/2^k is certified ABOVE log_b 2, and log_b 2 is bracketed from below to 128 bits.
  With `r = ⌊RNE(RNE(t)·c)⌋ + 1` for a bit count `t`: claim A (never too small) `2^t ≤ b^r` for t ≤ 2^53 + 20, claim B (at
  most one too large) `b^(r-2) ≤ 2^(t-1)` for t ≤ `sibT2` ≈ 2^51.2.  Below 2^53 bits `(double) t` is exact and both follow
  from the error of one rounding; the 21 bit counts from 2^53 on of claim A are checked one by one.
-/
import MpirProofs.Lemmas.Radix
namespace Mpir.Radix
open Mpir

/-! ### powers with a truncated mantissa -/

/-- number of low bits to drop so that about `P` significant bits of `m` remain (`bit length - P`).  Any value
    would be sound; this one avoids `Nat.log2` of a long number (not accelerated in the kernel): in the steady
    state of `powLo`/`powHi` the product has between 2P-8 and 2P+6 bits, so its top part is a short number. -/
def truncShift (P m : Nat) : Nat :=
  let hi := m >>> (2 * P - 8)
  if hi ≠ 0 then P - 8 + Nat.log2 hi + 1
  else
    let mid := m >>> P
    if mid = 0 then 0 else Nat.log2 mid + 1

/-- keep at most `P` significant bits of `m`, rounding down: `m·2^e ≥ m'·2^e'` -/
def truncLo (P m e : Nat) : Nat × Nat :=
  let s := truncShift P m
  (m >>> s, e + s)

/-- keep at most `P + 1` significant bits of `m`, rounding up: `m·2^e ≤ m'·2^e'` -/
def truncHi (P m e : Nat) : Nat × Nat :=
  let s := truncShift P m
  if s = 0 then (m, e) else ((m >>> s) + 1, e + s)

theorem truncLo_le (P m e : Nat) : (truncLo P m e).1 * 2 ^ (truncLo P m e).2 ≤ m * 2 ^ e := by
  unfold truncLo
  simp only
  generalize truncShift P m = s
  rw [Nat.shiftRight_eq_div_pow, Nat.add_comm e s, pow_add, ← Nat.mul_assoc]
  exact Nat.mul_le_mul_right _ (Nat.div_mul_le_self m (2 ^ s))

theorem truncHi_ge (P m e : Nat) : m * 2 ^ e ≤ (truncHi P m e).1 * 2 ^ (truncHi P m e).2 := by
  unfold truncHi
  simp only
  generalize truncShift P m = s
  split
  · exact le_refl _
  · rw [Nat.shiftRight_eq_div_pow, Nat.add_comm e s, pow_add, ← Nat.mul_assoc]
    apply Nat.mul_le_mul_right
    have h1 := Nat.div_add_mod m (2 ^ s)
    have h2 := Nat.mod_lt m (Nat.pow_pos (n := s) (by omega : 0 < 2))
    rw [Nat.add_mul, Nat.one_mul, Nat.mul_comm]
    omega

/-- `b^u ≥ m·2^e`, by binary exponentiation on `f` bits of `u` with the mantissa cut to `P` bits -/
def powLo (P b : Nat) : Nat → Nat → Nat × Nat
  | 0, _ => (1, 0)
  | f + 1, u =>
      let r := powLo P b f (u / 2)
      truncLo P (r.1 * r.1 * (if u % 2 = 1 then b else 1)) (2 * r.2)

/-- `b^u ≤ m·2^e` -/
def powHi (P b : Nat) : Nat → Nat → Nat × Nat
  | 0, _ => (1, 0)
  | f + 1, u =>
      let r := powHi P b f (u / 2)
      truncHi P (r.1 * r.1 * (if u % 2 = 1 then b else 1)) (2 * r.2)

theorem sq_step (b u : Nat) : (b ^ (u / 2)) ^ 2 * (if u % 2 = 1 then b else 1) = b ^ u := by
  have hu : u = 2 * (u / 2) + u % 2 := by omega
  have hc : (if u % 2 = 1 then b else 1) = b ^ (u % 2) := by
    rcases Nat.mod_two_eq_zero_or_one u with h | h <;> simp [h]
  rw [hc]
  conv_rhs => rw [hu, pow_add, pow_mul']

theorem powLo_le (P b : Nat) : ∀ f u, u < 2 ^ f → (powLo P b f u).1 * 2 ^ (powLo P b f u).2 ≤ b ^ u
  | 0, u, h => by
      have : u = 0 := by simpa using h
      subst this; simp [powLo]
  | f + 1, u, h => by
      have ih := powLo_le P b f (u / 2) (by rw [pow_succ] at h; omega)
      simp only [powLo]
      refine le_trans (truncLo_le _ _ _) ?_
      generalize powLo P b f (u / 2) = r at *
      rw [← sq_step b u]
      calc r.1 * r.1 * (if u % 2 = 1 then b else 1) * 2 ^ (2 * r.2)
          = (r.1 * 2 ^ r.2) ^ 2 * (if u % 2 = 1 then b else 1) := by rw [pow_mul']; ring
        _ ≤ (b ^ (u / 2)) ^ 2 * (if u % 2 = 1 then b else 1) :=
            Nat.mul_le_mul_right _ (Nat.pow_le_pow_left ih 2)

theorem powHi_ge (P b : Nat) : ∀ f u, u < 2 ^ f → b ^ u ≤ (powHi P b f u).1 * 2 ^ (powHi P b f u).2
  | 0, u, h => by
      have : u = 0 := by simpa using h
      subst this; simp [powHi]
  | f + 1, u, h => by
      have ih := powHi_ge P b f (u / 2) (by rw [pow_succ] at h; omega)
      simp only [powHi]
      refine le_trans ?_ (truncHi_ge _ _ _)
      generalize powHi P b f (u / 2) = r at *
      rw [← sq_step b u]
      calc (b ^ (u / 2)) ^ 2 * (if u % 2 = 1 then b else 1)
          ≤ (r.1 * 2 ^ r.2) ^ 2 * (if u % 2 = 1 then b else 1) :=
            Nat.mul_le_mul_right _ (Nat.pow_le_pow_left ih 2)
        _ = r.1 * r.1 * (if u % 2 = 1 then b else 1) * 2 ^ (2 * r.2) := by rw [pow_mul']; ring

/-- given a lower bound `lo.1·2^lo.2 ≤ b^u`, decides (soundly) `2^v < b^(u+d)` for a small `d`; the bound on
    `v - lo.2` only keeps a failing check from building an astronomical power -/
def powGtFrom (P b : Nat) (lo : Nat × Nat) (d v : Nat) : Bool :=
  decide (lo.2 ≤ v) && decide (v - lo.2 ≤ 2 * P) && decide (2 ^ (v - lo.2) < lo.1 * b ^ d)

/-- decides (soundly, not completely) `2^v < b^u` for `u < 2^f` -/
def powGt (P b f u v : Nat) : Bool :=
  decide (u < 2 ^ f) && powGtFrom P b (powLo P b f u) 0 v

/-- decides (soundly) `b^p ≤ 2^q` for `p < 2^f` -/
def powLe (P b f p q : Nat) : Bool :=
  let r := powHi P b f p
  decide (p < 2 ^ f) && decide (r.2 ≤ q) && decide (q - r.2 ≤ 2 * P) && decide (r.1 ≤ 2 ^ (q - r.2))

/-- decides (soundly) `b^p < 2^q` for `p < 2^f` -/
def powLt (P b f p q : Nat) : Bool :=
  let r := powHi P b f p
  decide (p < 2 ^ f) && decide (r.2 ≤ q) && decide (q - r.2 ≤ 2 * P) && decide (r.1 < 2 ^ (q - r.2))

theorem powGtFrom_sound {P b u d v : Nat} {lo : Nat × Nat} (hlo : lo.1 * 2 ^ lo.2 ≤ b ^ u)
    (h : powGtFrom P b lo d v = true) : 2 ^ v < b ^ (u + d) := by
  unfold powGtFrom at h
  simp only [Bool.and_eq_true, decide_eq_true_eq] at h
  obtain ⟨⟨he, _⟩, hm⟩ := h
  calc 2 ^ v = 2 ^ (v - lo.2) * 2 ^ lo.2 := by rw [← pow_add]; congr 1; omega
    _ < lo.1 * b ^ d * 2 ^ lo.2 := Nat.mul_lt_mul_of_pos_right hm (Nat.pow_pos (by omega))
    _ = lo.1 * 2 ^ lo.2 * b ^ d := by ring
    _ ≤ b ^ u * b ^ d := Nat.mul_le_mul_right _ hlo
    _ = b ^ (u + d) := (pow_add b u d).symm

theorem powGt_sound {P b f u v : Nat} (h : powGt P b f u v = true) : 2 ^ v < b ^ u := by
  unfold powGt at h
  simp only [Bool.and_eq_true, decide_eq_true_eq] at h
  exact powGtFrom_sound (powLo_le P b f u h.1) h.2

theorem powLe_sound {P b f p q : Nat} (h : powLe P b f p q = true) : b ^ p ≤ 2 ^ q := by
  unfold powLe at h
  simp only [Bool.and_eq_true, decide_eq_true_eq] at h
  obtain ⟨⟨⟨hp, he⟩, _⟩, hm⟩ := h
  have hge := powHi_ge P b f p hp
  generalize powHi P b f p = r at *
  calc b ^ p ≤ r.1 * 2 ^ r.2 := hge
    _ ≤ 2 ^ (q - r.2) * 2 ^ r.2 := Nat.mul_le_mul_right _ hm
    _ = 2 ^ q := by rw [← pow_add]; congr 1; omega

theorem powLt_sound {P b f p q : Nat} (h : powLt P b f p q = true) : b ^ p < 2 ^ q := by
  unfold powLt at h
  simp only [Bool.and_eq_true, decide_eq_true_eq] at h
  obtain ⟨⟨⟨hp, he⟩, _⟩, hm⟩ := h
  have hge := powHi_ge P b f p hp
  generalize powHi P b f p = r at *
  calc b ^ p ≤ r.1 * 2 ^ r.2 := hge
    _ < 2 ^ (q - r.2) * 2 ^ r.2 := Nat.mul_lt_mul_of_pos_right hm (Nat.pow_pos (by omega))
    _ = 2 ^ q := by rw [← pow_add]; congr 1; omega

/-! ### the binary64 product of MPN_SIZEINBASE: one rounding -/

theorem rn53_small {t : Nat} (ht : t < 2 ^ 53) (k : Nat) : rn53 t k = (t, 0, k) := by
  unfold rn53
  have : (if t = 0 then 0 else Nat.log2 t + 1) ≤ 53 := by
    split
    · omega
    · rename_i h
      have := (Nat.log2_lt h).mpr ht; omega
  simp only [this, if_true]

/-- round-to-nearest-even on 53 bits of `N / 2^k` for `N < 2^(53+j)`, `1 ≤ j ≤ k`: multiples of `2^k` (integers)
    below `N` stay below the rounded value, and the rounded value exceeds `N` by at most half a unit in the last
    place, `2^(j-1)` -/
theorem rn53_spec (N k j : Nat) (hN : N < 2 ^ (53 + j)) (hj : 1 ≤ j) (hjk : j ≤ k) :
    (rn53 N k).2.2 = k ∧
    (∀ n, n * 2 ^ k ≤ N → n * 2 ^ k ≤ (rn53 N k).1 <<< (rn53 N k).2.1) ∧
    (rn53 N k).1 <<< (rn53 N k).2.1 ≤ N + 2 ^ (j - 1) := by
  unfold rn53
  by_cases hlen : (if N = 0 then 0 else Nat.log2 N + 1) ≤ 53
  · simp only [hlen, if_true, Nat.shiftLeft_zero]
    exact ⟨trivial, fun n h => h, Nat.le_add_right _ _⟩
  · simp only [hlen, if_false]
    have hN0 : N ≠ 0 := by
      intro h; rw [h] at hlen; simp at hlen
    simp only [hN0, if_false] at hlen ⊢
    have hl77 : Nat.log2 N < 53 + j := (Nat.log2_lt hN0).mpr hN
    generalize hs : Nat.log2 N + 1 - 53 = s at *
    have hs1 : 1 ≤ s := by omega
    have hs24 : s ≤ j := by omega
    have hdm := Nat.div_add_mod N (2 ^ s)
    have hrem := Nat.mod_lt N (Nat.pow_pos (n := s) (show 0 < 2 by omega))
    rw [Nat.shiftRight_eq_div_pow]
    generalize N / 2 ^ s = q at *
    generalize N % 2 ^ s = rem at *
    have hhalf : 2 ^ s = 2 * 2 ^ (s - 1) := by
      rw [← pow_succ']; congr 1; omega
    have h23 : 2 ^ (s - 1) ≤ 2 ^ (j - 1) := Nat.pow_le_pow_right (by omega) (by omega)
    refine ⟨trivial, ?_, ?_⟩
    · intro n hn
      have hks : 2 ^ k = 2 ^ s * 2 ^ (k - s) := by rw [← pow_add]; congr 1; omega
      have hq : n * 2 ^ (k - s) ≤ q := by
        have : 2 ^ s * (n * 2 ^ (k - s)) ≤ 2 ^ s * q + rem := by
          rw [hdm]; calc 2 ^ s * (n * 2 ^ (k - s)) = n * 2 ^ k := by rw [hks]; ring
            _ ≤ N := hn
        by_contra hcon
        have : q + 1 ≤ n * 2 ^ (k - s) := by omega
        have := Nat.mul_le_mul_left (2 ^ s) this
        rw [Nat.mul_add, Nat.mul_one] at this; omega
      rw [Nat.shiftLeft_eq]
      have hqq : q ≤ (if rem > 2 ^ (s - 1) ∨ rem = 2 ^ (s - 1) ∧ q % 2 = 1 then q + 1 else q) := by
        split <;> omega
      calc n * 2 ^ k = n * 2 ^ (k - s) * 2 ^ s := by rw [hks]; ring
        _ ≤ q * 2 ^ s := Nat.mul_le_mul_right _ hq
        _ ≤ _ := Nat.mul_le_mul_right _ hqq
    · rw [Nat.shiftLeft_eq]
      split
      · rename_i hup
        have : 2 ^ (s - 1) ≤ rem := by rcases hup with h | h <;> omega
        rw [Nat.add_mul, Nat.one_mul]
        rw [Nat.mul_comm] at hdm; omega
      · rw [Nat.mul_comm] at hdm; omega

/-- `(size_t) (t * c)` for `t < 2^53` (an exact double), `c = M/2^k`, `t·M < 2^(53+j)`:
    at least `⌊t·c⌋`, at most `t·c + 2^(j-1-k)` -/
theorem mulTrunc_spec {t bits M k j : Nat} (hdec : decodeDouble bits = (M, k)) (ht53 : t < 2 ^ 53)
    (hN : t * M < 2 ^ (53 + j)) (hj : 1 ≤ j) (hjk : j ≤ k) :
    t * M / 2 ^ k ≤ mulTrunc t bits ∧ mulTrunc t bits * 2 ^ k ≤ t * M + 2 ^ (j - 1) := by
  unfold mulTrunc
  rw [hdec, rn53_small ht53 0]
  simp only [Nat.add_zero]
  obtain ⟨e, lo, hi⟩ := rn53_spec (t * M) k j hN hj hjk
  generalize rn53 (t * M) k = res at *
  obtain ⟨p, pu, pk⟩ := res
  simp only at e lo hi ⊢
  subst e
  have hp : 0 < 2 ^ pk := Nat.pow_pos (by omega)
  refine ⟨?_, ?_⟩
  · rw [Nat.le_div_iff_mul_le hp]
    exact lo _ (Nat.div_mul_le_self _ _)
  · exact le_trans (Nat.div_mul_le_self _ _) hi

/-! ### comparing exponents instead of powers -/

/-- `b^n ≤ 2^t` and `2^v < b^u` (i.e. n/t ≤ log_b 2 < u/v) give n·v < t·u -/
theorem pow_ratio_lt {b n t u v : Nat} (h1 : b ^ n ≤ 2 ^ t) (h2 : 2 ^ v < b ^ u) (ht : 0 < t) : n * v < t * u := by
  by_contra hcon
  have hle : t * u ≤ n * v := by omega
  have hb : 0 < b := by
    rcases Nat.eq_zero_or_pos b with rfl | h
    · rcases Nat.eq_zero_or_pos u with rfl | hu
      · simp at h2
      · rw [Nat.zero_pow hu] at h2; exact absurd h2 (Nat.not_lt_zero _)
    · exact h
  have c1 : (b ^ u) ^ t ≤ (b ^ n) ^ v := by
    rw [← pow_mul, ← pow_mul, Nat.mul_comm u t]; exact Nat.pow_le_pow_right hb hle
  have c2 : (b ^ n) ^ v ≤ (2 ^ t) ^ v := Nat.pow_le_pow_left h1 v
  have c3 : (2 ^ t) ^ v = (2 ^ v) ^ t := by rw [← pow_mul, ← pow_mul, Nat.mul_comm]
  have c4 : (2 ^ v) ^ t < (b ^ u) ^ t := Nat.pow_lt_pow_left h2 (by omega)
  omega

/-- `b^p ≤ 2^q` (p/q ≤ log_b 2) and m·q ≤ s·p give b^m ≤ 2^s -/
theorem pow_ratio_le {b m s p q : Nat} (hb : 0 < b) (h : b ^ p ≤ 2 ^ q) (hq : 0 < q) (hm : m * q ≤ s * p) :
    b ^ m ≤ 2 ^ s := by
  have c1 : (b ^ m) ^ q ≤ (b ^ p) ^ s := by
    rw [← pow_mul, ← pow_mul, Nat.mul_comm p s]; exact Nat.pow_le_pow_right hb hm
  have c2 : (b ^ p) ^ s ≤ (2 ^ q) ^ s := Nat.pow_le_pow_left h s
  have c3 : (2 ^ q) ^ s = (2 ^ s) ^ q := by rw [← pow_mul, ← pow_mul, Nat.mul_comm]
  exact (Nat.pow_le_pow_iff_left (by omega)).mp (le_trans c1 (c3 ▸ c2))

/-! ### the per-base certificate -/

/-- `⌊log_b 2 · 2^128⌋` for every base 2..62 (0 for powers of two).  Proof hints only: `SibOk2` re-checks
    `b^p ≤ 2^(2^128)` in the kernel. -/
def sibP128 : List Nat := [0,
  214694269906139964571946863620261224770,
  0,
  146551638558577196571787166997476613513,
  131639188895779357986673668208242371217,
  121211024743367383374586532344680810962,
  0,
  107347134953069982285973431810130612385,
  102435199438739363750012109250103232700,
  98363663293040865864284200491858125303,
  94919365782065161376156599844611946954,
  91957278820874447313540959751519019601,
  89375005453140177732719746428183951203,
  87098002514692304831758645185042844126,
  0,
  83250265540480699687656636037846163202,
  81603953740952192694273717314589328545,
  80105502234685807525695326029319070181,
  78733926027940283914907137725992215359,
  77472171104077872155430296236939959619,
  76306219272159432244999713259262236861,
  75224429382536283466256097730374296476,
  74217044712452148278150848462445505918,
  73275819279288598285893583498738306756,
  72393730656227144833666081642813588127,
  71564756635379988190648954540087074923,
  70783699651469384815168277453750309637,
  70046047372814504115199189736736200079,
  69347860990721560010964843215810055363,
  68685684942986378099148261790501236376,
  0,
  67457529857761314226580418425387729242,
  66886457462027907376340045329695053396,
  66341117422608667552431225328682844309,
  65819594447889678993336834104121185608,
  65320167594945992630767722788604288689,
  64841285640710374986125204757792790817,
  64381546158693041597816725063033390684,
  63939677660778406032374864970225004540,
  63514524287888026951541465974414013854,
  63105032630958268914184193433154341123,
  62710240340939643906853818009103122487,
  62329266248026516283876593977227583388,
  61961301759574850293186164396955932676,
  61605603345825157440709826979890377715,
  61261485954656014756362472993965392788,
  60928317222720766857903741065759366984,
  60605512371683691687293266172340405481,
  60292529695821480779999704128034635550,
  59988866561736126368362535580215903936,
  59694055852923607771451854260263801420,
  59407662801924818163744238403245298839,
  59129282161122023924382236308587077446,
  58858535670232869912847947851538291326,
  58595069784433462385845617917329687221,
  58338553632005390391120104243061776172,
  58088677174605269904328858733979797441,
  57845149546827059527651445570663800681,
  57607697554771303846977721095972245605,
  57376064315937224967335812785465284302,
  57150008024983734904003758927483731247]

def sibP (b : Nat) : Nat := sibP128.getD (b - 2) 0

/-- largest bit count for which claim B follows from the error bound alone (base 3 is the binding one):
    `T·(c - log_3 2) + 2^-3 ≤ 1 - log_3 2`.  ≈ 2^51.22 -/
def sibT2 : Nat := 2626805675765606

/-- number of product bits beyond 53 at the bound: `T·M < 2^(53+j)` -/
def sibJ (b : Nat) : Nat := Nat.log2 (sibT2 * dM b) + 1 - 53

/-- largest bit count for which claim A holds for every base (it fails for base 30 at the next one) -/
def sibTA : Nat := 2 ^ 53 + 20

/-- claim A at the bit counts 2^53 .. 2^53+20, one by one: `2^t < b^r` for the model's answer `r`.  The 21 answers
    lie within a few units above the first one `r₀`, so one truncated power `b^r₀` serves them all. -/
def sibATail (b : Nat) : Bool :=
  let r0 := mulTrunc (2 ^ 53) (cpbeBits b) + 1
  let lo := powLo 256 b 54 r0
  decide (r0 < 2 ^ 54) &&
  (List.range 21).all fun j =>
    let r := mulTrunc (2 ^ 53 + j) (cpbeBits b) + 1
    decide (r0 ≤ r) && powGtFrom 256 b lo (r - r0) (2 ^ 53 + j)

theorem sibATail_sound {b : Nat} (h : sibATail b = true) {j : Nat} (hj : j < 21) :
    2 ^ (2 ^ 53 + j) < b ^ (mulTrunc (2 ^ 53 + j) (cpbeBits b) + 1) := by
  unfold sibATail at h
  simp only [Bool.and_eq_true, decide_eq_true_eq, List.all_eq_true, List.mem_range] at h
  obtain ⟨h0, hall⟩ := h
  obtain ⟨hle, hgt⟩ := hall j hj
  have := powGtFrom_sound (powLo_le 256 b 54 _ h0) hgt
  rwa [Nat.add_sub_cancel' hle] at this

/-- the per-base certificate, checked by the kernel with 256-bit truncated powers -/
def SibOk2 (b : Nat) : Prop :=
  powGt 256 b 53 (dM b) (2 ^ dk b) = true ∧                         -- 2^(2^k) < b^M : c > log_b 2
  powLe 256 b 128 (sibP b) (2 ^ 128) = true ∧                       -- b^p ≤ 2^(2^128) : p/2^128 ≤ log_b 2
  sibT2 * dM b < 2 ^ (53 + sibJ b) ∧ 1 ≤ sibJ b ∧ sibJ b ≤ dk b ∧
  sibT2 * (dM b * 2 ^ 128 - sibP b * 2 ^ dk b) + 2 ^ 128 * 2 ^ (sibJ b - 1) + sibP b * 2 ^ dk b
      ≤ 2 ^ 128 * 2 ^ dk b ∧                                         -- T·(c - p/q) + half ulp ≤ 1 - p/q
  53 ≤ dk b ∧ dM b < 2 ^ 53 ∧
  sibATail b = true
instance (b : Nat) : Decidable (SibOk2 b) := by unfold SibOk2; infer_instance

theorem sibA_sound {b : Nat} (hok : SibOk2 b) (t : Nat) (ht1 : 1 ≤ t) (htT : t ≤ sibTA) :
    2 ^ t ≤ b ^ (mulTrunc t (cpbeBits b) + 1) := by
  obtain ⟨hc, _, _, _, _, _, hk53, hM53, hall⟩ := hok
  by_cases ht : t < 2 ^ 53
  · have hdec : decodeDouble (cpbeBits b) = (dM b, dk b) := rfl
    have hN : t * dM b < 2 ^ (53 + 53) := by
      rw [pow_add]; exact Nat.mul_lt_mul'' ht hM53
    obtain ⟨mlo, _⟩ := mulTrunc_spec hdec ht hN (by omega) hk53
    generalize mulTrunc t (cpbeBits b) = m2 at *
    have hcert := powGt_sound hc
    by_contra hcon
    have hlt : b ^ (m2 + 1) ≤ 2 ^ t := by omega
    have hr := pow_ratio_lt hlt hcert (by omega)
    have hkpos : 0 < 2 ^ dk b := Nat.pow_pos (by omega)
    have hgt : t * dM b < (m2 + 1) * 2 ^ dk b := by
      have := Nat.lt_succ_of_le mlo
      rw [Nat.div_lt_iff_lt_mul hkpos] at this; exact this
    omega
  · have hj : t - 2 ^ 53 < 21 := by unfold sibTA at htT; omega
    have := sibATail_sound hall hj
    rw [show 2 ^ 53 + (t - 2 ^ 53) = t by omega] at this
    exact Nat.le_of_lt this

theorem sibB_sound {b : Nat} (hb : 2 ≤ b) (hok : SibOk2 b) (t : Nat) (ht1 : 1 ≤ t) (htT : t ≤ sibT2) :
    b ^ (mulTrunc t (cpbeBits b) + 1 - 2) ≤ 2 ^ (t - 1) := by
  obtain ⟨_, hp, hNT, hj1, hjk, h6, hk53, hM53, _⟩ := hok
  have hdec : decodeDouble (cpbeBits b) = (dM b, dk b) := rfl
  have ht53 : t < 2 ^ 53 := lt_of_le_of_lt htT (by unfold sibT2; norm_num)
  have hN : t * dM b < 2 ^ (53 + sibJ b) := lt_of_le_of_lt (Nat.mul_le_mul_right _ htT) hNT
  obtain ⟨_, mhi⟩ := mulTrunc_spec hdec ht53 hN hj1 hjk
  have hp1 := powLe_sound hp
  generalize mulTrunc t (cpbeBits b) = m2 at *
  generalize dM b = M at *
  generalize dk b = k at *
  generalize sibJ b = j at *
  generalize sibP b = p1 at *
  generalize hq : 2 ^ 128 = q1 at *
  have hq1 : 0 < q1 := by rw [← hq]; norm_num
  have hkpos : 0 < 2 ^ k := Nat.pow_pos (by omega)
  rw [show m2 + 1 - 2 = m2 - 1 by omega]
  apply pow_ratio_le (by omega) hp1 hq1
  rcases Nat.eq_zero_or_pos m2 with h0 | h0
  · subst h0; simp
  · have key : (m2 - 1) * q1 * 2 ^ k ≤ (t - 1) * p1 * 2 ^ k := by
      have e1 : (m2 - 1) * q1 * 2 ^ k = m2 * 2 ^ k * q1 - q1 * 2 ^ k := by
        rw [Nat.sub_mul, Nat.sub_mul, Nat.one_mul]
        congr 1; ring
      have e2 : (t - 1) * p1 * 2 ^ k = t * p1 * 2 ^ k - p1 * 2 ^ k := by
        rw [Nat.sub_mul, Nat.sub_mul, Nat.one_mul]
      have hA : m2 * 2 ^ k * q1 ≤ (t * M + 2 ^ (j - 1)) * q1 := Nat.mul_le_mul_right _ mhi
      have hB : t * (M * q1 - p1 * 2 ^ k) ≤ sibT2 * (M * q1 - p1 * 2 ^ k) := Nat.mul_le_mul_right _ htT
      have hC : t * (M * q1) ≤ t * (p1 * 2 ^ k) + t * (M * q1 - p1 * 2 ^ k) := by
        rw [← Nat.mul_add]; exact Nat.mul_le_mul_left _ (by omega)
      have hE : p1 * 2 ^ k ≤ t * p1 * 2 ^ k := by
        calc p1 * 2 ^ k = 1 * (p1 * 2 ^ k) := (Nat.one_mul _).symm
          _ ≤ t * (p1 * 2 ^ k) := Nat.mul_le_mul_right _ ht1
          _ = t * p1 * 2 ^ k := by ring
      rw [e1, e2]
      have hsum : (t * M + 2 ^ (j - 1)) * q1 + p1 * 2 ^ k ≤ t * p1 * 2 ^ k + q1 * 2 ^ k := by
        have : (t * M + 2 ^ (j - 1)) * q1 = t * (M * q1) + q1 * 2 ^ (j - 1) := by ring
        have e3 : t * (p1 * 2 ^ k) = t * p1 * 2 ^ k := by ring
        omega
      omega
    exact Nat.le_of_mul_le_mul_right key hkpos

/-! ### MPN_SIZEINBASE from the two claims -/

theorem sizeinbase_eq_bits {up : List Nat} (hu : Limbs up) (hne : up ≠ []) (htop : up.getLast! ≠ 0) (b : Nat) :
    ∃ t, 1 ≤ t ∧ 2 ^ (t - 1) ≤ val up ∧ val up < 2 ^ t ∧ sizeinbase up b = sizeinbaseBits t b := by
  obtain ⟨_, hl63, hlo, hhi⟩ := bitlen_bounds hu hne htop
  have hl : (up.length == 0) = false := by
    cases up with
    | nil => exact absurd rfl hne
    | cons a l => rfl
  refine ⟨64 * up.length - clz up.getLast!, ?_, hlo, hhi, ?_⟩
  · have : 0 < up.length := List.length_pos_iff.mpr hne
    unfold clz; omega
  · unfold sizeinbase
    simp only [hl, Bool.false_eq_true, if_false]
    rw [Nat.mul_comm up.length 64]

theorem sizeinbase_ge_of2 {b : Nat} (hb : 2 ≤ b) (hnp : pow2P b = false) (hok : SibOk2 b)
    {up : List Nat} (hu : Limbs up) (hne : up ≠ []) (htop : up.getLast! ≠ 0) (hbits : val up < 2 ^ sibTA) :
    (digitsOf b (val up)).length ≤ sizeinbase up b := by
  obtain ⟨t, ht1, hlo, hhi, heq⟩ := sizeinbase_eq_bits hu hne htop b
  have hTA : t ≤ sibTA := by
    by_contra hcon
    have : 2 ^ sibTA ≤ 2 ^ (t - 1) := Nat.pow_le_pow_right (by omega) (by omega)
    omega
  rw [heq]
  unfold sizeinbaseBits
  simp only [hnp, Bool.false_eq_true, if_false]
  exact digitsOf_length_le hb (lt_of_lt_of_le hhi (sibA_sound hok t ht1 hTA))

theorem sizeinbase_bound_of2 {b : Nat} (hb : 2 ≤ b) (hnp : pow2P b = false) (hok : SibOk2 b)
    {up : List Nat} (hu : Limbs up) (hne : up ≠ []) (htop : up.getLast! ≠ 0) (hbits : val up < 2 ^ sibT2) :
    sizeinbase up b = (digitsOf b (val up)).length ∨ sizeinbase up b = (digitsOf b (val up)).length + 1 := by
  have h1 := sizeinbase_ge_of2 hb hnp hok hu hne htop
    (lt_of_lt_of_le hbits (Nat.pow_le_pow_right (by omega) (by unfold sibT2 sibTA; norm_num)))
  obtain ⟨t, ht1, hlo, hhi, heq⟩ := sizeinbase_eq_bits hu hne htop b
  have htT : t ≤ sibT2 := by
    by_contra hcon
    have : 2 ^ sibT2 ≤ 2 ^ (t - 1) := Nat.pow_le_pow_right (by omega) (by omega)
    omega
  rw [heq] at h1 ⊢
  unfold sizeinbaseBits at h1 ⊢
  simp only [hnp, Bool.false_eq_true, if_false] at h1 ⊢
  have h2 := digitsOf_length_gt hb (le_trans (sibB_sound hb hok t ht1 htT) hlo)
  omega

end Mpir.Radix
