/- The canonical cofactor `Mpir.Gcd.gcdextS` (what `Mpir.Gcd.mpn_gcdext` returns by definition on the divide-and-conquer
   range) meets the identity and the bound `CofBound`; the cofactor with identity and bound is unique (including the
   exception S = 1 ∧ V = 2G), and so is the pair (G, S) that meets the contract of mpn_gcdext. -/
import MpirProofs.Lemmas.GcdextLehmer2
import MpirProofs.Lemmas.GcdExtZ
import Mathlib.Data.Int.GCD
namespace Mpir.Gcdext
open Mpir Mpir.Gcd Mpir.Hgcd

theorem symMod_props (x m : Int) (hm : 0 < m) :
    ∃ k : Int, x = symMod x m + m * k ∧ -m < 2 * symMod x m ∧ 2 * symMod x m ≤ m := by
  unfold symMod
  have h1 := Int.emod_nonneg x hm.ne'
  have h2 := Int.emod_lt_of_pos x hm
  have h3 : x % m + m * (x / m) = x := by rw [Int.emod_def]; ring
  simp only
  split
  · exact ⟨x / m + 1, by linear_combination (-1 : Int) * h3, by omega, by omega⟩
  · exact ⟨x / m, by linear_combination (-1 : Int) * h3, by omega, by omega⟩

theorem gcdextS_cof (A V : Nat) (hV : 0 < V) :
    ((Nat.gcd A V : Int) - A * gcdextS A V) % V = 0 ∧ CofBound V (Nat.gcd A V) (gcdextS A V) := by
  obtain ⟨hx1, hx2⟩ := xgcd_spec A V
  unfold gcdextS
  rcases hx : xgcd A V with ⟨g, x, y⟩
  rw [hx] at hx1 hx2
  simp only at hx1 hx2 ⊢
  subst hx1
  have hGpos : 0 < Nat.gcd A V := Nat.gcd_pos_of_pos_right _ hV
  have hGV : A % V = 0 → Nat.gcd A V = V := fun h => Nat.gcd_eq_right (Nat.dvd_of_mod_eq_zero h)
  obtain ⟨u, hu⟩ := Nat.gcd_dvd_left A V
  obtain ⟨m, hm⟩ := Nat.gcd_dvd_right A V
  generalize Nat.gcd A V = G at *
  have hGi : (0 : Int) < G := by exact_mod_cast hGpos
  have hAi : (A : Int) = G * u := by exact_mod_cast hu
  have hVi : (V : Int) = G * m := by exact_mod_cast hm
  have hmpos : 0 < m := Nat.pos_of_ne_zero (by rintro rfl; simp at hm; omega)
  by_cases hz : A % V = 0
  · rw [if_pos hz, hGV hz]
    refine ⟨by simp, Or.inl (by simpa using hV)⟩
  · rw [if_neg hz]
    by_cases h2 : (V : Int) = 2 * G
    · rw [if_pos h2]
      have h2n : V = 2 * G := by exact_mod_cast h2
      have hm2 : m = 2 := by
        have : G * m = G * 2 := by rw [← hm, h2n]; ring
        exact Nat.eq_of_mul_eq_mul_left hGpos this
      refine ⟨?_, Or.inr ⟨rfl, h2n⟩⟩
      rcases Nat.even_or_odd' u with ⟨k, hk | hk⟩
      · exfalso; apply hz
        apply Nat.mod_eq_zero_of_dvd
        exact ⟨k, by rw [hu, hk, h2n]; ring⟩
      · apply Int.emod_eq_zero_of_dvd
        refine ⟨-(k : Int), ?_⟩
        rw [hAi, h2, hk]; push_cast; ring
    · rw [if_neg h2]
      have hdiv : (V : Int) / (G : Int) = m := by
        rw [hVi]; exact Int.mul_ediv_cancel_left _ (ne_of_gt hGi)
      rw [hdiv]
      have hmi : (0 : Int) < m := by exact_mod_cast hmpos
      obtain ⟨k, hk, lo, hi⟩ := symMod_props x m hmi
      generalize symMod x (m : Int) = S at hk lo hi ⊢
      have hbez : (u : Int) * x + m * y = 1 := by
        have : (G : Int) * (u * x + m * y) = G * 1 := by rw [hAi, hVi] at hx2; linear_combination hx2
        exact mul_left_cancel₀ (ne_of_gt hGi) this
      refine ⟨?_, ?_⟩
      · apply Int.emod_eq_zero_of_dvd
        refine ⟨y + u * k, ?_⟩
        rw [hAi, hVi]
        have e : (G : Int) = G * (u * x + m * y) := by rw [hbez, mul_one]
        rw [hk] at e
        linear_combination e
      · apply cofBound_of_lt
        have hne : 2 * S ≠ m := by
          intro he
          have hS0 : 0 ≤ S := by omega
          have : S * (u + 2 * (u * k) + 2 * y) = 1 := by
            rw [hk, ← he] at hbez
            linear_combination hbez
          have hS1 : S = 1 := Int.eq_one_of_mul_eq_one_right hS0 this
          apply h2
          rw [hVi, ← he, hS1]; ring
        have hlt : 2 * |S| < m := by
          rcases abs_cases S with ⟨e, _⟩ | ⟨e, _⟩ <;> rw [e] <;> omega
        rw [hVi]
        linear_combination mul_lt_mul_of_pos_left hlt hGi

theorem cofactor_unique (U V G : Nat) (S1 S2 : Int) (hV : 0 < V) (hG : G = Nat.gcd U V)
    (h1 : ((G : Int) - U * S1) % V = 0) (h2 : ((G : Int) - U * S2) % V = 0)
    (b1 : CofBound V G S1) (b2 : CofBound V G S2) : S1 = S2 := by
  have hGpos : 0 < G := by rw [hG]; exact Nat.gcd_pos_of_pos_right _ hV
  have hcop : Nat.Coprime (U / G) (V / G) := by
    rw [hG]; exact Nat.coprime_div_gcd_div_gcd (hG ▸ hGpos)
  obtain ⟨u, hu⟩ : G ∣ U := hG ▸ Nat.gcd_dvd_left U V
  obtain ⟨m, hm⟩ : G ∣ V := hG ▸ Nat.gcd_dvd_right U V
  have hud : U / G = u := by rw [hu]; exact Nat.mul_div_cancel_left _ hGpos
  have hmd : V / G = m := by rw [hm]; exact Nat.mul_div_cancel_left _ hGpos
  rw [hud, hmd] at hcop
  have hGi : (0 : Int) < G := by exact_mod_cast hGpos
  have hUi : (U : Int) = G * u := by exact_mod_cast hu
  have hVi : (V : Int) = G * m := by exact_mod_cast hm
  have hmpos : 0 < m := Nat.pos_of_ne_zero (by rintro rfl; simp at hm; omega)
  have hmi : (0 : Int) < m := by exact_mod_cast hmpos
  -- m ∣ S1 − S2
  have hdvd : (m : Int) ∣ S1 - S2 := by
    obtain ⟨t1, ht1⟩ := Int.dvd_of_emod_eq_zero h1
    obtain ⟨t2, ht2⟩ := Int.dvd_of_emod_eq_zero h2
    have e : (G : Int) * (u * (S1 - S2)) = G * (m * (t2 - t1)) := by
      rw [hUi, hVi] at ht1 ht2
      linear_combination ht2 - ht1
    have e' : (u : Int) * (S1 - S2) = m * (t2 - t1) := mul_left_cancel₀ (ne_of_gt hGi) e
    have hd : (m : Int) ∣ (S1 - S2) * (u : Int) := ⟨t2 - t1, by rw [mul_comm]; exact e'⟩
    have hg1 : Int.gcd (m : Int) (u : Int) = 1 := by
      rw [Int.gcd_natCast_natCast]; exact Nat.Coprime.symm hcop
    exact Int.dvd_of_dvd_mul_left_of_gcd_one hd hg1
  -- the bounds in terms of m
  have conv : ∀ S : Int, CofBound V G S → 2 * |S| < m ∨ (S = 1 ∧ m = 2) := by
    intro S hb
    rcases hb with h | ⟨h, h'⟩
    · left
      have hi : 2 * (G : Int) * |S| < V := by
        rw [← Int.natCast_natAbs]; exact_mod_cast h
      rw [hVi] at hi
      exact lt_of_mul_lt_mul_left (by linear_combination hi : (G : Int) * (2 * |S|) < G * m) hGi.le
    · right
      refine ⟨h, ?_⟩
      have : G * m = G * 2 := by rw [← hm, h']; ring
      exact Nat.eq_of_mul_eq_mul_left hGpos this
  have zero_of : ∀ d : Int, (m : Int) ∣ d → |d| < m → d = 0 := fun d hd hl => Int.eq_zero_of_abs_lt_dvd hd hl
  rcases conv S1 b1 with c1 | ⟨c1, c1'⟩ <;> rcases conv S2 b2 with c2 | ⟨c2, c2'⟩
  · have : |S1 - S2| < m := by
      have := abs_sub S1 S2
      omega
    have := zero_of _ hdvd this
    omega
  · subst c2; subst c2'
    have hS1 : S1 = 0 := by
      rcases abs_cases S1 with ⟨e, _⟩ | ⟨e, _⟩ <;> rw [e] at c1 <;> push_cast at c1 <;> omega
    subst hS1
    obtain ⟨t, ht⟩ := hdvd
    push_cast at ht; omega
  · subst c1; subst c1'
    have hS2 : S2 = 0 := by
      rcases abs_cases S2 with ⟨e, _⟩ | ⟨e, _⟩ <;> rw [e] at c2 <;> push_cast at c2 <;> omega
    subst hS2
    obtain ⟨t, ht⟩ := hdvd
    push_cast at ht; omega
  · rw [c1, c2]

/-- `Mpir.Gcd.mpn_gcdext` at n ≥ GCDEXT_DC_THRESHOLD (the canonical cofactor by definition): gcd, identity, bound -/
theorem mpn_gcdext_value_dc (U V : Nat) (hV0 : 0 < V) (hle : nlimbs V ≤ nlimbs U) (hdc : GCDEXT_DC_THRESHOLD ≤ nlimbs V) :
    (mpn_gcdext U (nlimbs U) V (nlimbs V)).1 = Nat.gcd U V ∧
    ((Nat.gcd U V : Int) - U * (mpn_gcdext U (nlimbs U) V (nlimbs V)).2) % V = 0 ∧
    CofBound V (Nat.gcd U V) (mpn_gcdext U (nlimbs U) V (nlimbs V)).2 := by
  unfold mpn_gcdext
  dsimp only
  rcases reduced_operand hV0 hle _ rfl with ⟨hc, hd⟩ | ⟨hc, _, q, hU⟩
  · rw [if_pos hc, Nat.gcd_eq_right hd]
    exact ⟨rfl, (contract_of_dvd hV0 hd).1.2.1, (contract_of_dvd hV0 hd).2⟩
  · rw [if_neg hc, if_neg (by omega)]
    obtain ⟨c1, c2⟩ := gcdextS_cof _ V hV0
    obtain ⟨e, h, _⟩ := contract_of_reduced hV0 hU rfl c1 c2
    rw [← e]; exact ⟨rfl, h, c2⟩

/-- the manual's contract implies the precise bound: S = 1 without 2·G·|S| < V forces V = 2G -/
theorem cofBound_of_contract (U V G : Nat) (S : Int) (hV0 : 0 < V) (h : mpnGcdextOk U V G S) : CofBound V G S := by
  obtain ⟨q1, _, q3, q4⟩ := h
  rcases q3 with h | h
  · by_cases hs : 2 * G * S.natAbs < V
    · exact Or.inl hs
    · right
      refine ⟨h, ?_⟩
      rw [h] at hs q4
      simp only [Int.natAbs_one, Nat.mul_one, not_lt] at hs
      have hGV : G ∣ V := q1 ▸ Nat.gcd_dvd_right U V
      obtain ⟨m, hm⟩ := hGV
      have hne : U % V ≠ 0 := fun hz => by have := q4.mpr hz; omega
      have hm1 : m ≠ 1 := by
        rintro rfl
        apply hne
        rw [Nat.mul_one] at hm
        rw [hm, q1]
        exact Nat.mod_eq_zero_of_dvd (Nat.gcd_dvd_left U V)
      have hm0 : m ≠ 0 := by rintro rfl; omega
      have hm2 : m ≤ 2 := by
        by_contra hc
        have : G * 3 ≤ G * m := Nat.mul_le_mul_left _ (by omega)
        omega
      have : m = 2 := by omega
      rw [hm, this]; ring
  · exact Or.inl h

theorem contract_unique (U V G1 G2 : Nat) (S1 S2 : Int) (hV : 0 < V) (h1 : mpnGcdextOk U V G1 S1) (h2 : mpnGcdextOk U V G2 S2) :
    G1 = G2 ∧ S1 = S2 := by
  have b1 := cofBound_of_contract U V G1 S1 hV h1
  have b2 := cofBound_of_contract U V G2 S2 hV h2
  have e : G1 = G2 := h1.1.trans h2.1.symm
  subst e
  exact ⟨rfl, cofactor_unique U V G1 S1 S2 hV h1.1 h1.2.1 h2.2.1 b1 b2⟩

end Mpir.Gcdext
