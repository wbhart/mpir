/- mpn_tdiv_q: list-level facts for the model Mpir/Model/TdivQ.lean: mpn_lshift with its extra limb, the callee oracle, the qh
   stores. -/
import MpirProofs.Lemmas.TdivLimbs
import Mpir.Model.TdivQ
namespace Mpir.TdivQ
open Mpir Mpir.DivWord Mpir.Tdiv

theorem val_toLimbs_snoc_div (k v : Nat) : val (toLimbs k v ++ [v / B ^ k]) = v := by
  rw [val_snoc, val_toLimbs, toLimbs_length]
  exact Nat.mod_add_div v (B ^ k)

theorem val_tail_head (l : List Nat) (hl : Limbs l) :
    val (l.drop 1) = val l / B ∧ l.getD 0 0 = val l % B :=
  ⟨by simpa using val_drop_eq_div l hl 1, by simpa using (val_div_mod hl 0).symm⟩

theorem getD_drop_top (d : List Nat) (s : Nat) (hs : s < d.length) :
    (d.drop s).getD ((d.drop s).length - 1) 0 = d.getD (d.length - 1) 0 := by
  rw [List.length_drop, List.getD_eq_getElem?_getD, List.getD_eq_getElem?_getD, List.getElem?_drop]
  congr 2; omega

/-- the C test `(dh & GMP_NUMB_HIGHBIT) == 0` as the `if` of the model has it -/
theorem highbit_clear (dh : Nat) (hB : dh < B) : (dh &&& HIGHBIT == 0) = decide (dh < B / 2) := by
  rw [Bool.eq_iff_iff, beq_iff_eq, decide_eq_true_iff]; exact highbit_zero dh hB

/-- mpn_lshift followed by `new_np[n] = cy` and `new_nn = n + (cy != 0)`: the new_nn limbs hold U·2^cnt -/
theorem lshift_ext (u : List Nat) (c : Nat) (hc : c ≤ 63) (hu : Limbs u) :
    let sh := lshift u c
    let new_nn := u.length + (if sh.2 ≠ 0 then 1 else 0)
    val ((sh.1 ++ [sh.2]).take new_nn) = val u * 2 ^ c ∧ ((sh.1 ++ [sh.2]).take new_nn).length = new_nn ∧
      Limbs ((sh.1 ++ [sh.2]).take new_nn) := by
  intro sh new_nn
  obtain ⟨hv, hl, _, _⟩ := shifted_dividend u c hu hc
  obtain ⟨tv, tl⟩ := take_snoc_nz sh.1 sh.2
  rw [show sh.1.length = u.length from (lshift_val' u c hu (by omega)).2.2.2] at tv tl
  exact ⟨tv.trans hv, tl, Limbs_take hl _⟩

/-- tdiv_q.c:214-215: shifting a vector and or-ing `b < 2^cnt` into its low limb is `lshiftGo` with carry-in b -/
theorem lshift_or_low (c x : Nat) (xs : List Nat) (b : Nat) :
    (((lshift (x :: xs) c).1.getD 0 0 ||| b) :: (lshift (x :: xs) c).1.drop 1) = (lshiftGo c (x :: xs) b).1 := by
  simp [lshift, lshiftGo]

/-- every (q, qh) a contract-abiding callee can return — m proper limbs and a number with
    qh·B^m + val q = ⌊N/D⌋ + e — is what `quotOracle e` returns -/
theorem oracle_complete (e : Nat) (np dp q : List Nat) (qh : Nat) (hq : Limbs q)
    (hl : q.length = np.length - dp.length)
    (hv : qh * B ^ (np.length - dp.length) + val q = val np / val dp + e) :
    quotOracle e np dp = (q, qh) := by
  unfold quotOracle
  simp only []
  rw [← hv, ← hl]
  have hlt := val_lt q hq
  refine Prod.ext ?_ ?_
  · simp only []
    rw [Nat.add_comm, Nat.mul_comm]; exact toLimbs_val_add q qh hq
  · simp only []
    rw [Nat.add_comm, Nat.add_mul_div_right _ _ (Bpow_pos _), Nat.div_eq_of_lt hlt, Nat.zero_add]

/-- the stores `if (cy == 0) qp[k] = qh; else if (qh != 0) fill with GMP_NUMB_MAX` (tdiv_q.c:152-163, :237-248).
    The callee wrote m = k (cy = 0) or k+1 (cy ≠ 0) limbs of Q'' and returned qh = ⌊Q''/B^m⌋.  If the exact quotient
    `lo ≤ Q''` fits k+1 limbs (and, for cy = 0, Q'' does), the k+1 limbs stored hold a value between `lo` and Q'':
    the all-ones saturation only ever LOWERS an overshooting estimate, never below the exact quotient. -/
theorem storeQh_spec (cy k Q'' lo : Nat) (hlo : lo ≤ Q'') (hfit : lo < B ^ (k + 1))
    (h0 : cy = 0 → Q'' < B ^ (k + 1)) :
    let m := k + (if cy ≠ 0 then 1 else 0)
    let tp := storeQh cy (toLimbs m Q'') (Q'' / B ^ m)
    tp.length = k + 1 ∧ Limbs tp ∧ lo ≤ val tp ∧ val tp ≤ Q'' ∧ (Q'' < B ^ (k + 1) → val tp = Q'') := by
  intro m tp
  by_cases hcy : cy = 0
  · have hm : m = k := by simp [m, hcy]
    have htp : tp = toLimbs k Q'' ++ [Q'' / B ^ k] := by simp [tp, storeQh, hcy, hm]
    have hv : val tp = Q'' := by rw [htp]; exact val_toLimbs_snoc_div k Q''
    have hqh : Q'' / B ^ k < B := by
      rw [Nat.div_lt_iff_lt_mul (Bpow_pos k), Nat.mul_comm, ← pow_succ]; exact h0 hcy
    refine ⟨by rw [htp]; simp [toLimbs_length], ?_, by omega, by omega, fun _ => hv⟩
    rw [htp]; exact Limbs.snoc (Limbs_toLimbs _ _) hqh
  · have hm : m = k + 1 := by simp [m, hcy]
    by_cases hqh : Q'' / B ^ (k + 1) = 0
    · have htp : tp = toLimbs (k + 1) Q'' := by simp [tp, storeQh, hcy, hm, hqh]
      have hlt : Q'' < B ^ (k + 1) := by
        rcases Nat.lt_or_ge Q'' (B ^ (k + 1)) with h | h
        · exact h
        · have := Nat.div_pos h (Bpow_pos (k + 1)); omega
      have hv : val tp = Q'' := by rw [htp]; exact val_toLimbs_lt _ _ hlt
      exact ⟨by rw [htp, toLimbs_length], by rw [htp]; exact Limbs_toLimbs _ _, by omega, by omega, fun _ => hv⟩
    · have htp : tp = List.replicate (k + 1) (B - 1) := by
        simp [tp, storeQh, hcy, hm, hqh, toLimbs_length]
      have hge : B ^ (k + 1) ≤ Q'' := by
        rcases Nat.lt_or_ge Q'' (B ^ (k + 1)) with h | h
        · exact absurd (Nat.div_eq_of_lt h) hqh
        · exact h
      have hv := val_replicate_max (k + 1)
      rw [← htp] at hv
      exact ⟨by rw [htp]; simp, by rw [htp]; exact Limbs_replicate _ _ (Nat.sub_lt B_pos Nat.one_pos), by omega, by omega, fun h => by omega⟩

theorem call_store_spec (c : Callee) (e : Nat) (np' dp' : List Nat) (cy k lo : Nat)
    (hm : np'.length - dp'.length = k + (if cy ≠ 0 then 1 else 0))
    (hlo : lo = val np' / val dp') (hfit : lo < B ^ (k + 1)) (h0 : cy = 0 → lo + e < B ^ (k + 1)) :
    (storeQh cy (call c e np' dp').1 (call c e np' dp').2).length = k + 1 ∧
    Limbs (storeQh cy (call c e np' dp').1 (call c e np' dp').2) ∧
    lo ≤ val (storeQh cy (call c e np' dp').1 (call c e np' dp').2) ∧
    val (storeQh cy (call c e np' dp').1 (call c e np' dp').2) ≤ lo + e ∧
    (c.approx = false → val (storeQh cy (call c e np' dp').1 (call c e np' dp').2) = lo) := by
  have hcall : call c e np' dp' =
      (toLimbs (k + (if cy ≠ 0 then 1 else 0)) (lo + (if c.approx then e else 0)),
       (lo + (if c.approx then e else 0)) / B ^ (k + (if cy ≠ 0 then 1 else 0))) := by
    simp only [call, quotOracle, hm, hlo]
  rw [hcall]
  dsimp only
  have he' : (if c.approx then e else 0) ≤ e := by split <;> omega
  obtain ⟨a1, a2, a3, a4, a5⟩ := storeQh_spec cy k (lo + (if c.approx then e else 0)) lo (by omega) hfit
    (fun h => by have := h0 h; omega)
  refine ⟨a1, a2, a3, by omega, ?_⟩
  intro hex
  have : (if c.approx then e else 0) = 0 := by rw [hex]; rfl
  rw [this, Nat.add_zero] at a5 ⊢
  exact a5 hfit

theorem quot_fits (n d : List Nat) (hn : Limbs n) (hd : Limbs d) (hdn : 1 ≤ d.length) (hnn : d.length ≤ n.length)
    (htop : d.getD (d.length - 1) 0 ≠ 0) : val n < val d * B ^ (n.length - d.length + 1) :=
  calc val n < B ^ n.length := val_lt n hn
    _ = B ^ (d.length - 1) * B ^ (n.length - d.length + 1) := by rw [← pow_add]; congr 1; omega
    _ ≤ val d * B ^ (n.length - d.length + 1) := Nat.mul_le_mul_right _ (val_ge_of_top d hdn htop)

end Mpir.TdivQ
