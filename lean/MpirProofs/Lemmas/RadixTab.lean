/- C06 — the regenerated tables are what the C requires of them: `mp_bases` (`Mpir.Gen.mpBases`), the digit-value table
   `__gmp_digit_value_tab` (mp_dv_tab.c, `Mpir.Gen.digitValueTab`), the certificates of the `chars_per_bit_exactly` column.
   Property theorems of C06; they stand here so that the other parts of C06 and C17 can use them. -/
import MpirProofs.Lemmas.Radix
namespace Mpir.Radix
open Mpir

/-- The regenerated `mp_bases` table is what its definition requires, for every base 2..62:
    * not a power of two: `big_base = b^chars_per_limb`, `b^chars_per_limb < 2^64 ≤ b^(chars_per_limb+1)`
      (so chars_per_limb is the largest exponent that fits a limb), and
      `big_base_inverted = ⌊(B²-1) / (big_base << clz)⌋ - B` (= `invert_limb` of the normalised big_base);
    * power of two: `big_base = log2 b`, `chars_per_limb = ⌊64 / log2 b⌋`, no inverse;
    * the base-10 constants of gmp-impl.h (`MP_BASES_*_10`) equal the table entry, chars_per_limb is 19 and
      the normalisation count is 0 (the base-10 fast path of mpn_sb_get_str relies on that);
    * the table has exactly the 61 entries 2..62. -/
theorem bases_table_ok :
    (∀ b < 63, 2 ≤ b → (pow2P b = false → NonPow2Ok b) ∧ (pow2P b = true → Pow2Ok b)) ∧
    Base10Ok ∧ Gen.mpBases.length = 61 := by
  decide +kernel

/-- `__gmp_digit_value_tab` written out from the documented alphabets: entries 0..223 from the alphabet of the bases
    up to 36, then the 256 entries that offset 224 (bases 37..62) addresses.  One comparison of two lists: looking
    the characters up in the table one by one costs a walk through the list each. -/
theorem digitValueTab_eq : Gen.digitValueTab =
    (List.range 224).map (fun c => (charValue 36 c).getD 255) ++
      (List.range 256).map (fun c => (charValue 62 c).getD 255) := by
  decide +kernel

/-- `__gmp_digit_value_tab` decodes exactly the documented alphabets: the first half (bases up to 36) maps
    `0-9` to 0..9 and both `A-Z` and `a-z` to 10..35; the second half (offset 224, bases 37..62) maps `0-9`,
    `A-Z` to 10..35 and `a-z` to 36..61; every other byte is 255 in both halves; 480 entries. -/
theorem digit_tab_ok :
    Gen.digitValueTab.length = 480 ∧
    ∀ c < 256,
      digitValue 0 c = (match charValue 36 c with | some v => v | none => 255) ∧
      digitValue 224 c = (match charValue 62 c with | some v => v | none => 255) := by
  refine ⟨by rw [digitValueTab_eq]; simp, fun c hc => ⟨?_, ?_⟩⟩
  · unfold digitValue
    rw [digitValueTab_eq, List.getD_eq_getElem?_getD, Nat.zero_add]
    rcases Nat.lt_or_ge c 224 with h | h
    · rw [List.getElem?_append_left (by simpa using h)]
      simp only [List.getElem?_map, List.getElem?_range h, Option.map_some, Option.getD_some]
      cases charValue 36 c <;> rfl
    · -- the two halves overlap in 224..255: no character of either alphabet there
      rw [List.getElem?_append_right (by simpa using h)]
      have hi : c - 224 < 256 := by omega
      simp only [List.length_map, List.length_range, List.getElem?_map, List.getElem?_range hi, Option.map_some,
        Option.getD_some]
      have e1 : charValue 62 (c - 224) = none := by
        rw [charValue, if_neg (by omega), if_neg (by omega), if_neg (by omega)]
      have e2 : charValue 36 c = none := by
        rw [charValue, if_neg (by omega), if_neg (by omega), if_neg (by omega)]
      rw [e1, e2]; rfl
  · unfold digitValue
    rw [digitValueTab_eq, List.getD_eq_getElem?_getD, List.getElem?_append_right (by simp)]
    simp only [List.length_map, List.length_range, Nat.add_sub_cancel_left, List.getElem?_map,
      List.getElem?_range hc, Option.map_some, Option.getD_some]
    cases charValue 62 c <;> rfl

/-- The certificates for the regenerated `chars_per_bit_exactly` column: for every base 3..62 that is not a
    power of two the binary64 constant c lies on the right side of Farey neighbours of log_b 2 whose
    denominators add up to more than 2^24 (kernel-checked big-number comparisons `2^v < b^u`, `b^p ≤ 2^q`).
    The upper neighbour `u2/v2 > log_b 2` is what the size of the power table of mpn_get_str is measured against
    (`RadixDc.xn_large`). -/
theorem sizeinbase_table_ok : ∀ b < 63, 2 ≤ b → pow2P b = false → SibOk b := by decide +kernel

end Mpir.Radix
