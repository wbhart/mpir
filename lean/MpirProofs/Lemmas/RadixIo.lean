/- C06 — the stream functions mpz_out_str / mpz_inp_str / mpq_out_str / mpq_inp_str (models in Mpir/Model/Radix.lean).
   The reader is reduced to the closed form `scanL`, which the second model of mpz/inp_str.c (Mpir/Model/Io.lean, C17) shares. -/
import MpirProofs.Lemmas.Radix
namespace Mpir.Radix
open Mpir

/-! ### mpz_out_str -/

/-- base 0 means 10 for mpz_out_str -/
def outBase (base : Int) : Int := if base = 0 then 10 else base

theorem digitsOf_dropWhile {b : Nat} (hb : 2 ≤ b) (x : Nat) : (digitsOf b x).dropWhile (· == 0) = digitsOf b x := by
  have h := digitsOf_head_ne_zero hb x
  cases hd : digitsOf b x with
  | nil => rfl
  | cons d ds =>
    rw [hd] at h
    have : d ≠ 0 := by intro e; subst e; simp at h
    rw [List.dropWhile_cons_of_neg (by simpa using this)]

theorem mpz_out_str_spec_of (hbases : BasesOk) (h10 : Base10Ok) (base : Int) (hb : LegalOutBase (outBase base)) (x : Int) :
    mpz_out_str base x = (getStrSpec (outBase base) x, (getStrSpec (outBase base) x).length) := by
  have hb2 := hb.natAbs_bounds
  obtain ⟨tab, ht, htab⟩ := getStrBase_legal (outBase base) hb
  -- the base/alphabet selection of mpz_out_str agrees with that of mpz_get_str on the normalised base
  have hbt : (if base ≥ 0 then
        if base = 0 then some (10, numToTextLower)
        else if base > 36 then (if base > 62 then none else some (base.toNat, numToText62))
        else some (base.toNat, numToTextLower)
      else some ((-base).toNat, numToTextUpper)) = some ((outBase base).natAbs, tab) := by
    rw [← ht]
    unfold getStrBase outBase
    by_cases h0 : base = 0
    · subst h0; simp
    · have hl : LegalOutBase base := by unfold outBase at hb; rwa [if_neg h0] at hb
      unfold LegalOutBase at hl
      simp only [h0, if_false]
      rcases hl with ⟨h1, h2⟩ | ⟨h1, h2⟩
      · simp only [show base ≥ 0 by omega, if_true, show ¬ base ≤ 1 by omega, if_false]
      · have e1 : ¬ (-base).toNat ≤ 1 := by omega
        have e2 : ¬ (-base).toNat > 36 := by omega
        simp only [show ¬ base ≥ 0 by omega, if_false, e1, e2]
  unfold mpz_out_str
  simp only [hbt]
  by_cases hx : x = 0
  · subst hx
    have h48 : digitChar (outBase base) 0 = 48 := by unfold digitChar; simp
    simp [getStrSpec, h48]
  · simp only [hx, if_false]
    rw [mpn_get_str_natLimbs hbases h10 hb2.1 hb2.2, if_neg (Int.natAbs_ne_zero.mpr hx), digitsOf_dropWhile hb2.1]
    have hmap : (digitsOf (outBase base).natAbs x.natAbs).map (fun d => tab.getD d 0) =
        (digitsOf (outBase base).natAbs x.natAbs).map (digitChar (outBase base)) := by
      apply List.map_congr_left
      intro d hd
      exact htab d (digitsOf_lt hb2.1 _ d hd)
    rw [hmap]
    unfold getStrSpec
    simp only [hx, if_false]

/-! ### the stream state of the readers -/

/-- stream position after the character with index `k` has been read (`getc` does not move at EOF) -/
def posOf (s : List Nat) (k : Nat) : Nat := if k < s.length then k + 1 else k

/-- the state `(c, pos, nread)` of mpz_inp_str after `k` characters have been consumed and the next one
    (index `k`, `none` = EOF) has been fetched with getc: every getc is counted in nread -/
def St (s : List Nat) (k : Nat) : Option Nat × Nat × Nat := (s[k]?, posOf s k, k + 1)

theorem getc_St (s : List Nat) (k : Nat) (hk : k < s.length) :
    getc s (posOf s k) = ((St s (k + 1)).1, (St s (k + 1)).2.1) := by
  unfold getc St posOf
  rw [if_pos hk]
  by_cases h : k + 1 < s.length
  · rw [if_pos h, List.getElem?_eq_getElem h]
  · rw [if_neg h, List.getElem?_eq_none (by omega)]

/-- `do c = getc; nread++; while (isspace (c))` -/
theorem skip_eq (s : List Nat) : ∀ (fuel pos : Nat), pos ≤ s.length → s.length - pos < fuel →
    mpz_inp_str.skip s fuel pos pos = St s (pos + ((s.drop pos).takeWhile isSpace).length)
  | 0, pos, _, h => by omega
  | fuel + 1, pos, hle, hf => by
    rw [mpz_inp_str.skip]
    by_cases hk : pos < s.length
    · rw [List.getElem?_eq_getElem hk, List.drop_eq_getElem_cons hk]
      simp only []
      by_cases hsp : isSpace s[pos] = true
      · rw [if_pos hsp, List.takeWhile_cons_of_pos hsp, skip_eq s fuel (pos + 1) (by omega) (by omega)]
        simp only [List.length_cons]
        congr 1; omega
      · rw [if_neg hsp, List.takeWhile_cons_of_neg hsp]
        simp [St, posOf, hk]
    · have : pos = s.length := by omega
      subst this
      simp [St, posOf]

/-- `while (c == '0') { c = getc; nread++; }` -/
theorem skipZeros_eq (s : List Nat) : ∀ (fuel k : Nat), k ≤ s.length → s.length - k < fuel →
    inp_str_nowhite.skipZeros s fuel (St s k).1 (St s k).2.1 (St s k).2.2 =
      St s (k + ((s.drop k).takeWhile (· == 48)).length)
  | 0, k, _, h => by omega
  | fuel + 1, k, hle, hf => by
    rw [inp_str_nowhite.skipZeros]
    by_cases hk : k < s.length
    · rw [List.drop_eq_getElem_cons hk]
      by_cases h0 : s[k] = 48
      · have hc : ((St s k).1 == some 48) = true := by simp [St, List.getElem?_eq_getElem hk, h0]
        rw [if_pos hc, show (St s k).2.1 = posOf s k from rfl, getc_St s k hk]
        have hn : (St s k).2.2 + 1 = (St s (k + 1)).2.2 := by simp [St]
        rw [hn, skipZeros_eq s fuel (k + 1) (by omega) (by omega),
          List.takeWhile_cons_of_pos (by simp [h0])]
        simp only [List.length_cons]
        congr 1; omega
      · have hc : ¬ ((St s k).1 == some 48) = true := by simp [St, List.getElem?_eq_getElem hk, h0]
        rw [if_neg hc, List.takeWhile_cons_of_neg (by simp [h0])]
        simp
    · have hc : ¬ ((St s k).1 == some 48) = true := by simp [St, List.getElem?_eq_none (by omega : s.length ≤ k)]
      rw [if_neg hc, List.drop_eq_nil_of_le (by omega)]
      simp

/-- the digit loop: the longest run of characters whose table value is below the base -/
theorem inpDigits_eq (off base : Nat) (s : List Nat) : ∀ (fuel pos : Nat) (acc : List Nat), pos ≤ s.length →
    s.length - pos < fuel →
    inpDigits off base s fuel pos acc =
      (acc.reverse ++ ((s.drop pos).takeWhile (fun c => decide (digitValue off c < base))).map (digitValue off),
       pos + ((s.drop pos).takeWhile (fun c => decide (digitValue off c < base))).length)
  | 0, pos, _, _, h => by omega
  | fuel + 1, pos, acc, hle, hf => by
    rw [inpDigits]
    by_cases hk : pos < s.length
    · rw [List.getElem?_eq_getElem hk, List.drop_eq_getElem_cons hk]
      simp only []
      by_cases hd : digitValue off s[pos] ≥ base
      · rw [if_pos hd, List.takeWhile_cons_of_neg (by simpa using hd)]
        simp
      · rw [if_neg hd, List.takeWhile_cons_of_pos (by simpa using hd),
          inpDigits_eq off base s fuel (pos + 1) _ (by omega) (by omega)]
        simp only [List.reverse_cons, List.map_cons, List.length_cons, List.append_assoc, List.singleton_append]
        congr 1; omega
    · rw [List.getElem?_eq_none (by omega), List.drop_eq_nil_of_le (by omega)]
      simp

/-! ### mpz_inp_str_nowhite in terms of character indices -/

theorem lt_of_beq_or {s : List Nat} {k a b : Nat} (h : (s[k]? == some a || s[k]? == some b) = true) :
    k < s.length := by
  by_contra hcon
  rw [List.getElem?_eq_none (by omega)] at h; simp at h

theorem some_lt {s : List Nat} {k c : Nat} (h : s[k]? = some c) : k < s.length := by
  by_contra hcon
  rw [List.getElem?_eq_none (by omega)] at h; simp at h

/-- `if (c == '-') { negative = 1; c = getc (stream); nread++; }` -/
theorem sign_eq (s : List Nat) (k : Nat) :
    (if (St s k).1 == some 45 then (true, (getc s (St s k).2.1).1, (getc s (St s k).2.1).2, (St s k).2.2 + 1)
      else (false, (St s k).1, (St s k).2.1, (St s k).2.2)) =
    (s[k]? == some 45, (St s (if s[k]? == some 45 then k + 1 else k)).1,
      (St s (if s[k]? == some 45 then k + 1 else k)).2.1, (St s (if s[k]? == some 45 then k + 1 else k)).2.2) := by
  have e : (St s k).1 = s[k]? := rfl
  rw [e]
  by_cases h : (s[k]? == some 45) = true
  · rw [if_pos h, if_pos h, show (St s k).2.1 = posOf s k from rfl, getc_St s k (some_lt (beq_iff_eq.mp h)), h]
    rfl
  · rw [if_neg h, if_neg h]
    simp only [Bool.not_eq_true] at h
    rw [h]; rfl

/-- base and length of the base-0 prefix at the head of `body` -/
def prefLen (base : Int) (body : List Nat) : Nat × Nat :=
  if base = 0 then
    if body[0]? == some 48 then
      if body[1]? == some 120 || body[1]? == some 88 then (16, 2)
      else if body[1]? == some 98 || body[1]? == some 66 then (2, 2)
      else (8, 1)
    else (10, 0)
  else (base.toNat, 0)

theorem prefLen_le (base : Int) (body : List Nat) : (prefLen base body).2 ≤ body.length := by
  unfold prefLen
  split
  · split
    · rename_i h0
      have h1 : 0 < body.length := some_lt (beq_iff_eq.mp h0)
      split
      · rename_i h; exact lt_of_beq_or h
      · split
        · rename_i h; exact lt_of_beq_or h
        · exact h1
    · exact Nat.zero_le _
  · exact Nat.zero_le _

/-- base and index of the first character after the base-0 prefix that starts at index `k1` -/
def prefK (base : Int) (s : List Nat) (k1 : Nat) : Nat × Nat :=
  ((prefLen base (s.drop k1)).1, k1 + (prefLen base (s.drop k1)).2)

/-- the base-0 prefix detection of mpz_inp_str_nowhite (inp_str.c:73-96): base, then character, position and count
    after it; `c0` = the first character after the sign, `pos`, `nread` = the state after reading it -/
def inpPrefix (base : Int) (s : List Nat) (c0 pos nread : Nat) : Nat × Option Nat × Nat × Nat :=
  if base = 0 then
    if c0 == 48 then
      let (c1, pos1) := getc s pos
      if c1 == some 120 || c1 == some 88 then (16, (getc s pos1).1, (getc s pos1).2, nread + 2)
      else if c1 == some 98 || c1 == some 66 then (2, (getc s pos1).1, (getc s pos1).2, nread + 2)
      else (8, c1, pos1, nread + 1)
    else (10, some c0, pos, nread)
  else (base.toNat, some c0, pos, nread)

theorem prefix_eq (base : Int) (s : List Nat) (k1 c0 : Nat) (hc0 : s[k1]? = some c0) :
    inpPrefix base s c0 (St s k1).2.1 (St s k1).2.2 =
    ((prefK base s k1).1, (St s (prefK base s k1).2).1, (St s (prefK base s k1).2).2.1, (St s (prefK base s k1).2).2.2) := by
  have hk1 := some_lt hc0
  have hst : (some c0, (St s k1).2.1, (St s k1).2.2) = St s k1 := by simp [St, hc0]
  unfold inpPrefix prefK prefLen
  simp only [List.getElem?_drop, Nat.add_zero]
  by_cases hb : base = 0
  · rw [if_pos hb, if_pos hb, hc0]
    by_cases h48 : c0 = 48
    · subst h48
      simp only [beq_self_eq_true, if_true]
      rw [show (St s k1).2.1 = posOf s k1 from rfl, getc_St s k1 hk1]
      simp only []
      have e1 : (St s (k1 + 1)).1 = s[k1 + 1]? := rfl
      rw [e1]
      by_cases hx : (s[k1 + 1]? == some 120 || s[k1 + 1]? == some 88) = true
      · have hk2 : k1 + 1 < s.length := lt_of_beq_or hx
        rw [if_pos hx, if_pos hx, show (St s (k1 + 1)).2.1 = posOf s (k1 + 1) from rfl, getc_St s (k1 + 1) hk2]
        rfl
      · rw [if_neg hx, if_neg hx]
        by_cases hbb : (s[k1 + 1]? == some 98 || s[k1 + 1]? == some 66) = true
        · have hk2 : k1 + 1 < s.length := lt_of_beq_or hbb
          rw [if_pos hbb, if_pos hbb, show (St s (k1 + 1)).2.1 = posOf s (k1 + 1) from rfl, getc_St s (k1 + 1) hk2]
          rfl
        · rw [if_neg hbb, if_neg hbb]
          rfl
    · have : (c0 == 48) = false := by simpa using h48
      have h2 : (some c0 == some 48) = false := by simpa using h48
      rw [this, h2]
      simp only [Bool.false_eq_true, if_false]
      rw [Nat.add_zero, ← hst]
  · rw [if_neg hb, if_neg hb]
    simp only []
    rw [Nat.add_zero, ← hst]

/-- mpz_inp_str_nowhite called with `c` = the character with index `k`, just fetched -/
def nowhiteK (base : Int) (s : List Nat) (k : Nat) : InpResult :=
  inp_str_nowhite base s (St s k).1 (St s k).2.1 (St s k).2.2

theorem prefK_le (base : Int) (s : List Nat) (k1 : Nat) (hk : k1 < s.length) : (prefK base s k1).2 ≤ s.length := by
  have := prefLen_le base (s.drop k1)
  rw [List.length_drop] at this
  unfold prefK
  omega

/-! ### mpz_inp_str_nowhite along its paths

  Every stage's result is a variable (hence the model fragments as hypotheses): the stage lemmas above are put in
  afterwards, so that the body is unfolded only here. -/

theorem inp_str_nowhite_fail {base : Int} {s : List Nat} {c : Option Nat} {pos nread : Nat} (hb62 : base ≤ 62)
    {neg : Bool} {c1 : Option Nat} {pos1 nread1 : Nat}
    (hsign : (if c == some 45 then (true, (getc s pos).1, (getc s pos).2, nread + 1) else (false, c, pos, nread)) =
      (neg, c1, pos1, nread1))
    (hbad : ∀ c0, c1 = some c0 →
      (digitValue (if base > 36 then 224 else 0) c0 : Int) ≥ (if base = 0 then 10 else base)) :
    inp_str_nowhite base s c pos nread = ⟨0, none, pos1⟩ := by
  unfold inp_str_nowhite
  simp only [show ¬ base > 62 by omega, if_false, hsign]
  cases c1 with
  | none => rfl
  | some c0 => simp only [if_pos (hbad c0 rfl)]

theorem inp_str_nowhite_digits {base : Int} {s : List Nat} {c : Option Nat} {pos nread : Nat} (hb62 : base ≤ 62)
    {neg : Bool} {c0 pos1 nread1 : Nat}
    (hsign : (if c == some 45 then (true, (getc s pos).1, (getc s pos).2, nread + 1) else (false, c, pos, nread)) =
      (neg, some c0, pos1, nread1))
    (hdig : ¬ (digitValue (if base > 36 then 224 else 0) c0 : Int) ≥ (if base = 0 then 10 else base))
    {b : Nat} {c2 : Option Nat} {pos2 nread2 : Nat} (hpref : inpPrefix base s c0 pos1 nread1 = (b, c2, pos2, nread2))
    {c3 : Option Nat} {pos3 nread3 : Nat}
    (hz : inp_str_nowhite.skipZeros s (s.length + 1) c2 pos2 nread2 = (c3, pos3, nread3))
    {start : Nat} (hstart : inpStart c3 pos3 = start) {ds : List Nat} {endpos : Nat}
    (hd : inpDigits (if base > 36 then 224 else 0) b s (s.length + 1) start [] = (ds, endpos)) :
    inp_str_nowhite base s c pos nread =
      ⟨nread3 + ds.length - 1,
       some (if ds.length == 0 then 0
         else if neg then -(Int.ofNat (val (mpn_set_str b ds))) else Int.ofNat (val (mpn_set_str b ds))), endpos⟩ := by
  unfold inpPrefix at hpref
  unfold inp_str_nowhite
  simp only [show ¬ base > 62 by omega, if_false, hsign, if_neg hdig, hpref, hz, hstart, hd]

theorem inpStart_St (s : List Nat) (k : Nat) : inpStart (St s k).1 (St s k).2.1 = k := by
  unfold inpStart St posOf
  by_cases h : k < s.length
  · rw [List.getElem?_eq_getElem h, if_pos h]; rfl
  · rw [List.getElem?_eq_none (by omega), if_neg h]

theorem mpz_inp_str_eq (base : Int) (s : List Nat) :
    mpz_inp_str base s = nowhiteK base s (s.takeWhile isSpace).length := by
  unfold mpz_inp_str
  have h := skip_eq s (s.length + 1) 0 (by omega) (by omega)
  simp only [List.drop_zero, Nat.zero_add] at h
  rw [h]
  rfl

/-! ### mpz_inp_str_nowhite on the remaining input as a list -/

/-- What mpz_inp_str_nowhite does with the remaining input `l` (first element = the character already fetched), for any
    digit-value function `dv`: `none` = "no digits" (returns 0); otherwise the number of characters consumed, the sign,
    the base chosen and the values of the digits read (leading zeros skipped). -/
def scanL (dv : Nat → Nat) (base : Int) (l : List Nat) : Option (Nat × Bool × Nat × List Nat) :=
  let neg := l.head? == some 45
  let body := if neg then l.drop 1 else l
  match body.head? with
  | none => none
  | some c0 =>
    if (dv c0 : Int) ≥ (if base = 0 then 10 else base) then none else
    let p := prefLen base body
    let rest := body.drop p.2
    let z := (rest.takeWhile (· == 48)).length
    let run := (rest.drop z).takeWhile (fun c => decide (dv c < p.1))
    some ((if neg then 1 else 0) + p.2 + z + run.length, neg, p.1, run.map dv)

theorem nowhiteK_eq_scan (base : Int) (hb62 : base ≤ 62) (s : List Nat) (k : Nat) :
    match scanL (digitValue (if base > 36 then 224 else 0)) base (s.drop k) with
    | none => (nowhiteK base s k).ret = 0 ∧ (nowhiteK base s k).value = none
    | some (n, neg, b, ds) => nowhiteK base s k = ⟨k + n, some (if ds.length == 0 then 0 else
        if neg then -(Int.ofNat (val (mpn_set_str b ds))) else Int.ofNat (val (mpn_set_str b ds))), k + n⟩ := by
  have hs := sign_eq s k
  unfold nowhiteK scanL
  have hhead : (s.drop k).head? = s[k]? := by rw [List.head?_drop]
  simp only [hhead]
  generalize (s[k]? == some 45) = neg at hs ⊢
  have hbody : (if neg = true then (s.drop k).drop 1 else s.drop k) = s.drop (if neg = true then k + 1 else k) := by
    cases neg
    · simp
    · simp [List.drop_drop]
  rw [hbody]
  have hk : (if neg = true then k + 1 else k) = k + (if neg = true then 1 else 0) := by cases neg <;> rfl
  generalize (if neg = true then k + 1 else k) = k1 at hs hk ⊢
  rw [List.head?_drop]
  rw [show (St s k1).1 = s[k1]? from rfl] at hs
  cases hc : s[k1]? with
  | none =>
    rw [hc] at hs
    rw [inp_str_nowhite_fail hb62 hs (fun _ h => nomatch h)]
    exact ⟨rfl, rfl⟩
  | some c0 =>
    rw [hc] at hs
    by_cases hcond : (digitValue (if base > 36 then 224 else 0) c0 : Int) ≥ (if base = 0 then 10 else base)
    · simp only [if_pos hcond]
      rw [inp_str_nowhite_fail hb62 hs (fun c h => Option.some.inj h ▸ hcond)]
      exact ⟨rfl, rfl⟩
    · simp only [if_neg hcond]
      have hk2 := prefK_le base s k1 (some_lt hc)
      have hk3 : (prefK base s k1).2 + ((s.drop (prefK base s k1).2).takeWhile (· == 48)).length ≤ s.length := by
        have := (List.takeWhile_sublist (· == 48) (l := s.drop (prefK base s k1).2)).length_le
        rw [List.length_drop] at this; omega
      rw [inp_str_nowhite_digits hb62 hs hcond (prefix_eq base s k1 c0 hc)
        (skipZeros_eq s (s.length + 1) _ hk2 (by omega))
        (inpStart_St s _) (inpDigits_eq _ _ s (s.length + 1) _ [] hk3 (by omega))]
      simp only [prefK, List.reverse_nil, List.nil_append, List.length_map, Nat.add_right_comm _ 1,
        Nat.add_sub_cancel, List.drop_drop]
      rw [hk]
      simp only [Nat.add_assoc]
      rfl

/-! ### list lemmas for the token -/

theorem takeWhile_split (p q : Nat → Bool) (hq : ∀ x, q x = true → p x = true) : ∀ l : List Nat,
    l.takeWhile p = l.takeWhile q ++ (l.drop (l.takeWhile q).length).takeWhile p
  | [] => by simp
  | x :: l => by
    by_cases h : q x = true
    · rw [List.takeWhile_cons_of_pos (hq x h), List.takeWhile_cons_of_pos h, takeWhile_split p q hq l]
      simp
    · rw [List.takeWhile_cons_of_neg h]
      simp

theorem takeWhile_congr_mem {p q : Nat → Bool} : ∀ l : List Nat, (∀ x ∈ l, p x = q x) → l.takeWhile p = l.takeWhile q
  | [], _ => rfl
  | x :: l, h => by
    have hx := h x (by simp)
    have ih := takeWhile_congr_mem l (fun y hy => h y (List.mem_cons_of_mem _ hy))
    by_cases hp : p x = true
    · rw [List.takeWhile_cons_of_pos hp, List.takeWhile_cons_of_pos (hx ▸ hp), ih]
    · rw [List.takeWhile_cons_of_neg hp, List.takeWhile_cons_of_neg (hx ▸ hp)]

theorem map_takeWhile_zero (f : Nat → Nat) (h0 : f 48 = 0) : ∀ l : List Nat,
    (l.takeWhile (· == 48)).map f = List.replicate (l.takeWhile (· == 48)).length 0
  | [] => rfl
  | x :: l => by
    by_cases h : x = 48
    · subst h
      rw [List.takeWhile_cons_of_pos (by simp)]
      simp [h0, map_takeWhile_zero f h0 l, List.replicate_succ]
    · rw [List.takeWhile_cons_of_neg (by simpa using h)]; rfl

theorem isSome_digitOf (htab : TabOk) (rb b c : Nat) (hc : c < 256) (hb : b ≤ 62) :
    (digitOf rb b c).isSome = decide (digitValue (offOf rb) c < b) := by
  rw [digitOf_eq htab rb b c hc hb]
  by_cases h : digitValue (offOf rb) c < b
  · simp [h]
  · simp [h]

theorem digitOf_some {rb b c : Nat} (h : (digitOf rb b c).isSome = true) : ∃ v, charValue rb c = some v ∧ v < b := by
  unfold digitOf at h
  cases hv : charValue rb c with
  | none => rw [hv] at h; simp at h
  | some v =>
    rw [hv] at h
    exact ⟨v, rfl, by by_contra hcon; simp [hcon] at h⟩

theorem digit_char_props {rb b c : Nat} (h : (digitOf rb b c).isSome = true) :
    c ≠ 0 ∧ isSpace c = false ∧ c ≠ 45 ∧ 48 ≤ c := by
  obtain ⟨v, hv, _⟩ := digitOf_some h
  have h48 : 48 ≤ c := by rcases charValue_some hv with h | h <;> omega
  refine ⟨by omega, ?_, by omega, h48⟩
  unfold isSpace; simp; omega

theorem digitValue_digitChar (htab : TabOk) (base : Int) (hb : LegalOutBase base) {d : Nat} (hd : d < base.natAbs) :
    digitValue (offOf base.natAbs) (digitChar base d) = d := by
  obtain ⟨h1, _, _, _, h5⟩ := digitChar_props base hb d hd
  rw [digitValue_eq htab base.natAbs _ h5, h1]; rfl

theorem digitValue_48 (htab : TabOk) (rb : Nat) : digitValue (offOf rb) 48 = 0 := by
  rw [digitValue_eq htab rb 48 (by omega)]
  unfold charValue; simp

theorem prefLen_split (body : List Nat) :
    (prefLen 0 body).1 = (splitPrefix body).1 ∧ body.drop (prefLen 0 body).2 = (splitPrefix body).2 ∧
    (∀ c ∈ body.take (prefLen 0 body).2, c = 48 ∨ c = 120 ∨ c = 88 ∨ c = 98 ∨ c = 66) := by
  suffices h : ∃ b pl rest, prefLen 0 body = (b, pl) ∧ splitPrefix body = (b, rest) ∧ body.drop pl = rest ∧
      ∀ c ∈ body.take pl, c = 48 ∨ c = 120 ∨ c = 88 ∨ c = 98 ∨ c = 66 by
    obtain ⟨b, pl, rest, hp, hs, hd, hc⟩ := h
    rw [hp, hs]
    exact ⟨rfl, hd, hc⟩
  have one : ∀ c ∈ [48], c = 48 ∨ c = 120 ∨ c = 88 ∨ c = 98 ∨ c = 66 := fun c hc => Or.inl (List.mem_singleton.mp hc)
  have two : ∀ {d : Nat}, d = 120 ∨ d = 88 ∨ d = 98 ∨ d = 66 → ∀ c ∈ [48, d], c = 48 ∨ c = 120 ∨ c = 88 ∨ c = 98 ∨ c = 66 := by
    intro d hd c hc
    rcases List.mem_cons.mp hc with rfl | hc
    · exact Or.inl rfl
    · exact Or.inr (List.mem_singleton.mp hc ▸ hd)
  match body with
  | [] => exact ⟨10, 0, [], rfl, rfl, rfl, fun _ h => nomatch h⟩
  | [c] =>
    by_cases h : c = 48
    · subst h; exact ⟨8, 1, [], rfl, rfl, rfl, one⟩
    · exact ⟨10, 0, [c], by simp [prefLen, h], splitPrefix_not48 c [] h, rfl, fun _ h => nomatch h⟩
  | c :: d :: r =>
    by_cases h : c = 48
    · subst h
      by_cases h1 : d = 120
      · subst h1; exact ⟨16, 2, r, rfl, rfl, rfl, two (Or.inl rfl)⟩
      · by_cases h2 : d = 88
        · subst h2; exact ⟨16, 2, r, rfl, rfl, rfl, two (Or.inr (Or.inl rfl))⟩
        · by_cases h3 : d = 98
          · subst h3; exact ⟨2, 2, r, rfl, rfl, rfl, two (Or.inr (Or.inr (Or.inl rfl)))⟩
          · by_cases h4 : d = 66
            · subst h4; exact ⟨2, 2, r, rfl, rfl, rfl, two (Or.inr (Or.inr (Or.inr rfl)))⟩
            · exact ⟨8, 1, d :: r, by simp [prefLen, h1, h2, h3, h4], splitPrefix_other d r h1 h2 h3 h4, rfl, one⟩
    · exact ⟨10, 0, c :: d :: r, by simp [prefLen, h], splitPrefix_not48 c (d :: r) h, rfl,
        fun _ h => nomatch h⟩

/-! ### what the readers consume, and its value -/

/-- The text mpz_inp_str_nowhite consumes from the remaining input `r`: an optional `-`, for base 0 the prefix
    (`0x`, `0X`, `0b`, `0B`, `0`), then the longest run of characters that are digits of the base; `none` when the
    first character after the sign is not a digit (a decimal digit for base 0): the "no digits" error. -/
def inpTok (rb : Nat) (r : List Nat) : Option (List Nat) :=
  let neg := r.head? == some 45
  let body := if neg then r.drop 1 else r
  match body with
  | [] => none
  | c :: _ =>
    if (digitOf rb (if rb = 0 then 10 else rb) c).isNone then none else
    let bs := if rb = 0 then splitPrefix body else (rb, body)
    some (r.take (r.length - bs.2.length + (bs.2.takeWhile (fun c => (digitOf rb bs.1 c).isSome)).length))

theorem sign_body (r : List Nat) :
    ∃ body : List Nat, (if (r.head? == some 45) = true then r.drop 1 else r) = body ∧
      r = (if (r.head? == some 45) = true then [45] else []) ++ body := by
  cases r with
  | nil => exact ⟨[], by simp, by simp⟩
  | cons x t =>
    by_cases h : x = 45
    · subst h; exact ⟨t, by simp, by simp⟩
    · have : ((x :: t).head? == some 45) = false := by simpa using h
      rw [this]
      exact ⟨x :: t, by simp, by simp⟩

theorem specTail_digits (htab : TabOk) (rb b : Nat) (hb62 : b ≤ 62) (neg : Bool) (digs : List Nat)
    (h256 : ∀ c ∈ digs, c < 256) (hd : ∀ c ∈ digs, (digitOf rb b c).isSome = true) :
    specTail rb b neg digs = some (if neg then -(Int.ofNat (ofDigits b (digs.map (digitValue (offOf rb)))))
      else Int.ofNat (ofDigits b (digs.map (digitValue (offOf rb))))) := by
  unfold specTail
  have hf : digs.filter (fun c => !isSpace c) = digs := by
    apply List.filter_eq_self.mpr
    intro c hc; simp [(digit_char_props (hd c hc)).2.1]
  have hm : ∀ l : List Nat, (∀ c ∈ l, c < 256) → (∀ c ∈ l, (digitOf rb b c).isSome = true) →
      l.mapM (digitOf rb b) = some (l.map (digitValue (offOf rb))) := by
    intro l
    induction l with
    | nil => intro _ _; rfl
    | cons x l ih =>
      intro h1 h2
      have hx := h2 x (by simp)
      have e := digitOf_eq htab rb b x (h1 x (by simp)) hb62
      have hlt : digitValue (offOf rb) x < b := by
        by_contra hcon; rw [e, if_neg hcon] at hx; simp at hx
      rw [if_pos hlt] at e
      simp only [List.mapM_cons, e, List.map_cons,
        ih (fun c hc => h1 c (List.mem_cons_of_mem _ hc)) (fun c hc => h2 c (List.mem_cons_of_mem _ hc))]
      rfl
  rw [hf, hm digs h256 hd]

theorem digit_small {rb b d : Nat} (hb : b ≤ 10) (h : (digitOf rb b d).isSome = true) : 48 ≤ d ∧ d ≤ 57 := by
  obtain ⟨v, hv, hvb⟩ := digitOf_some h
  rcases charValue_some hv with h | h <;> omega

theorem splitPrefix_tok (body : List Nat) :
    splitPrefix (body.take (body.length - (splitPrefix body).2.length) ++
        (splitPrefix body).2.takeWhile (fun c => (digitOf 0 (splitPrefix body).1 c).isSome)) =
      ((splitPrefix body).1, (splitPrefix body).2.takeWhile (fun c => (digitOf 0 (splitPrefix body).1 c).isSome)) := by
  have two : ∀ (x : Nat) (r : List Nat), (48 :: x :: r).length - r.length = 2 := by
    intro x r; simp only [List.length_cons]; omega
  have one : ∀ (r : List Nat), (48 :: r).length - r.length = 1 := by
    intro r; simp only [List.length_cons]; omega
  -- a first character other than '0': decimal, no prefix
  have dec : ∀ (c : Nat) (t : List Nat), c ≠ 48 →
      splitPrefix ((c :: t).take ((c :: t).length - (c :: t).length) ++
        (c :: t).takeWhile (fun c => (digitOf 0 10 c).isSome)) =
      (10, (c :: t).takeWhile (fun c => (digitOf 0 10 c).isSome)) := by
    intro c t h
    rw [Nat.sub_self, List.take_zero, List.nil_append]
    by_cases hd : (digitOf 0 10 c).isSome = true
    · rw [List.takeWhile_cons_of_pos (p := fun c => (digitOf 0 10 c).isSome) hd]
      exact splitPrefix_not48 c _ h
    · rw [List.takeWhile_cons_of_neg (p := fun c => (digitOf 0 10 c).isSome) hd]; rfl
  match body with
  | [] => rfl
  | [c] =>
    by_cases h : c = 48
    · subst h; rfl
    · rw [splitPrefix_not48 c [] h]; exact dec c [] h
  | c :: d :: r =>
    by_cases h : c = 48
    · subst h
      by_cases h1 : d = 120
      · subst h1
        show splitPrefix ((48 :: 120 :: r).take ((48 :: 120 :: r).length - r.length) ++ _) = _
        rw [two]; rfl
      · by_cases h2 : d = 88
        · subst h2
          show splitPrefix ((48 :: 88 :: r).take ((48 :: 88 :: r).length - r.length) ++ _) = _
          rw [two]; rfl
        · by_cases h3 : d = 98
          · subst h3
            show splitPrefix ((48 :: 98 :: r).take ((48 :: 98 :: r).length - r.length) ++ _) = _
            rw [two]; rfl
          · by_cases h4 : d = 66
            · subst h4
              show splitPrefix ((48 :: 66 :: r).take ((48 :: 66 :: r).length - r.length) ++ _) = _
              rw [two]; rfl
            · rw [splitPrefix_other d r h1 h2 h3 h4]
              show splitPrefix ((48 :: d :: r).take ((48 :: d :: r).length - (d :: r).length) ++ _) = _
              rw [one]
              show splitPrefix (48 :: (d :: r).takeWhile (fun c => (digitOf 0 8 c).isSome)) = _
              by_cases hd : (digitOf 0 8 d).isSome = true
              · rw [List.takeWhile_cons_of_pos (p := fun c => (digitOf 0 8 c).isSome) hd]
                have := digit_small (by omega) hd
                rw [splitPrefix_other d _ (by omega) (by omega) (by omega) (by omega)]
              · rw [List.takeWhile_cons_of_neg (p := fun c => (digitOf 0 8 c).isSome) hd]; rfl
    · rw [splitPrefix_not48 c (d :: r) h]; exact dec c (d :: r) h

theorem prefLen_cases (rb : Nat) (hrb : rb = 0 ∨ 2 ≤ rb) (hrb62 : rb ≤ 62) (body : List Nat) :
    (prefLen (rb : Int) body).1 = (if rb = 0 then splitPrefix body else (rb, body)).1 ∧
    body.drop (prefLen (rb : Int) body).2 = (if rb = 0 then splitPrefix body else (rb, body)).2 ∧
    (prefLen (rb : Int) body).2 ≤ body.length ∧
    (∀ c ∈ body.take (prefLen (rb : Int) body).2, c = 48 ∨ c = 120 ∨ c = 88 ∨ c = 98 ∨ c = 66) ∧
    2 ≤ (prefLen (rb : Int) body).1 ∧ (prefLen (rb : Int) body).1 ≤ 62 := by
  by_cases h0 : rb = 0
  · subst h0
    obtain ⟨a1, a2, a4⟩ := prefLen_split body
    simp only [Nat.cast_zero, if_true]
    refine ⟨a1, a2, prefLen_le 0 body, a4, ?_⟩
    rw [a1]
    have := splitPrefix_base body
    omega
  · have : prefLen (rb : Int) body = (rb, 0) := by
      unfold prefLen; rw [if_neg (by omega)]; simp
    rw [this, if_neg h0]
    exact ⟨rfl, rfl, Nat.zero_le _, by intro c hc; simp at hc, by omega, hrb62⟩

theorem prefLen_zero (rb : Nat) (body : List Nat) (h : (prefLen (rb : Int) body).2 = 0) :
    (prefLen (rb : Int) body).1 = (if rb = 0 then 10 else rb) := by
  unfold prefLen at h ⊢
  by_cases h0 : rb = 0
  · subst h0
    simp only [Nat.cast_zero, if_true] at h ⊢
    split at h
    · split at h
      · simp at h
      · split at h <;> simp at h
    · rename_i h1; rw [if_neg h1]
  · rw [if_neg (by omega), if_neg h0]; simp

theorem set_str_value (hbases : BasesOk) {b : Nat} (hb2 : 2 ≤ b) (hb62 : b ≤ 62) (ds : List Nat)
    (hds : ∀ d ∈ ds, d < b) (neg : Bool) :
    (if ds.length == 0 then (0 : Int) else
      let v := Int.ofNat (val (mpn_set_str b ds))
      if neg then -v else v) =
    if neg = true then -(Int.ofNat (ofDigits b ds)) else Int.ofNat (ofDigits b ds) := by
  cases ds with
  | nil => cases neg <;> simp [ofDigits]
  | cons d l =>
    have hbo := hbases b (by omega) hb2
    have h0 : ((d :: l).length == 0) = false := rfl
    simp only [h0, Bool.false_eq_true, if_false]
    rw [mpn_set_str_val_of_table hb2 hb62 hbo.1 hbo.2 _ (List.cons_ne_nil _ _) hds]

theorem digitRun_split (htab : TabOk) (rb : Nat) {b : Nat} (hb2 : 2 ≤ b) (hb62 : b ≤ 62) (rest : List Nat)
    (h256 : ∀ x ∈ rest, x < 256) :
    rest.takeWhile (fun c => (digitOf rb b c).isSome) =
      rest.takeWhile (· == 48) ++
        (rest.drop (rest.takeWhile (· == 48)).length).takeWhile (fun c => decide (digitValue (offOf rb) c < b)) := by
  rw [takeWhile_congr_mem rest (fun x hx => isSome_digitOf htab rb b x (h256 x hx) hb62)]
  refine takeWhile_split _ (· == 48) (fun x hx => ?_) rest
  rw [show x = 48 by simpa using hx, digitValue_48 htab rb]
  exact decide_eq_true (by omega)

theorem take_sign_pre_digs (sign body rest digs : List Nat) (pl : Nat) (hdrop : body.drop pl = rest)
    (hpl : pl ≤ body.length) (hdigs : digs <+: rest) :
    (sign ++ body).take ((sign ++ body).length - rest.length + digs.length) = sign ++ (body.take pl ++ digs) ∧
    ((sign ++ body).take ((sign ++ body).length - rest.length + digs.length)).length =
      (sign ++ body).length - rest.length + digs.length ∧
    (sign ++ body).length - rest.length + digs.length = sign.length + pl + digs.length := by
  have hbl : body.length = pl + rest.length := by rw [← hdrop, List.length_drop]; omega
  have hn : (sign ++ body).length - rest.length + digs.length = sign.length + pl + digs.length := by
    rw [List.length_append]; omega
  have hlen : (sign ++ (body.take pl ++ digs)).length = sign.length + pl + digs.length := by
    rw [List.length_append, List.length_append, List.length_take, Nat.min_eq_left hpl, Nat.add_assoc]
  have htake : (sign ++ body).take ((sign ++ body).length - rest.length + digs.length) =
      sign ++ (body.take pl ++ digs) := by
    obtain ⟨tl, rfl⟩ := hdigs
    have hb : sign ++ body = (sign ++ (body.take pl ++ digs)) ++ tl := by
      rw [List.append_assoc, List.append_assoc, ← hdrop, List.take_append_drop]
    rw [hn, ← hlen, hb]
    exact List.take_left' rfl
  exact ⟨htake, by rw [htake, hlen, hn], hn⟩

theorem parseSpec_tok (htab : TabOk) (rb : Nat) (hrb : rb = 0 ∨ 2 ≤ rb) (hrb62 : rb ≤ 62) (neg : Bool) (c : Nat)
    (t : List Nat) (h256 : ∀ x ∈ c :: t, x < 256) (hcD : (digitOf rb (if rb = 0 then 10 else rb) c).isSome = true)
    {b : Nat} {rest : List Nat} (hbs : (if rb = 0 then splitPrefix (c :: t) else (rb, c :: t)) = (b, rest))
    {digs : List Nat} (hdigs : rest.takeWhile (fun c => (digitOf rb b c).isSome) = digs) :
    parseSpec (rb : Int) ((if neg = true then [45] else []) ++ ((c :: t).take ((c :: t).length - rest.length) ++ digs)) =
      some (if neg = true then -(Int.ofNat (ofDigits b (digs.map (digitValue (offOf rb)))))
        else Int.ofNat (ofDigits b (digs.map (digitValue (offOf rb))))) := by
  obtain ⟨p1, p2, p3, p4, _, p6⟩ := prefLen_cases rb hrb hrb62 (c :: t)
  rw [hbs] at p1 p2
  simp only at p1 p2
  rw [p1] at p6
  have hpl : (c :: t).length - rest.length = (prefLen (rb : Int) (c :: t)).2 := by
    rw [← p2, List.length_drop]; omega
  rw [hpl]
  have hdigsD : ∀ x ∈ digs, (digitOf rb b x).isSome = true := by
    intro x hx; rw [← hdigs] at hx; exact (mem_takeWhile _ _ hx).1
  have hdigs256 : ∀ x ∈ digs, x < 256 := by
    intro x hx; rw [← hdigs] at hx
    exact h256 x (List.mem_of_mem_drop (p2 ▸ (mem_takeWhile _ _ hx).2))
  have hcp := digit_char_props hcD
  generalize hpre : (c :: t).take (prefLen (rb : Int) (c :: t)).2 = pre at *
  have hpd : ∀ x ∈ pre ++ digs, x ≠ 0 ∧ isSpace x = false := by
    intro x hx
    rcases List.mem_append.mp hx with h | h
    · rcases p4 x h with e | e | e | e | e <;> subst e <;> exact ⟨by omega, by decide⟩
    · have := digit_char_props (hdigsD x h); exact ⟨this.1, this.2.1⟩
  obtain ⟨tl, htl⟩ : ∃ tl, pre ++ digs = c :: tl := by
    rcases Nat.eq_zero_or_pos (prefLen (rb : Int) (c :: t)).2 with h0 | h0
    · have hb' : b = (if rb = 0 then 10 else rb) := by rw [← p1]; exact prefLen_zero rb _ h0
      rw [h0] at hpre p2
      rw [← hpre, ← hdigs, ← p2, List.take_zero, List.drop_zero,
        List.takeWhile_cons_of_pos (p := fun c => (digitOf rb b c).isSome) (by rw [hb']; exact hcD)]
      exact ⟨_, rfl⟩
    · obtain ⟨pl', hpl'⟩ : ∃ pl', (prefLen (rb : Int) (c :: t)).2 = pl' + 1 := ⟨_, (Nat.sub_add_cancel h0).symm⟩
      rw [← hpre, hpl', List.take_succ_cons]; exact ⟨_, rfl⟩
  have hrest_spec : ∀ ng : Bool, specRest rb ng (pre ++ digs) =
      some (if ng then -(Int.ofNat (ofDigits b (digs.map (digitValue (offOf rb)))))
        else Int.ofNat (ofDigits b (digs.map (digitValue (offOf rb))))) := by
    intro ng
    have hsp : (if rb = 0 then splitPrefix (pre ++ digs) else (rb, pre ++ digs)) = (b, digs) := by
      by_cases h0 : rb = 0
      · subst h0
        simp only [if_true] at hbs ⊢
        have := splitPrefix_tok (c :: t)
        rw [hbs] at this
        simp only at this
        rw [hpl, hpre, hdigs] at this
        exact this
      · simp only [if_neg h0] at hbs ⊢
        have e1 : b = rb := (Prod.mk.inj hbs).1.symm
        have e2 : rest = c :: t := (Prod.mk.inj hbs).2.symm
        have : (prefLen (rb : Int) (c :: t)).2 = 0 := by rw [← hpl, e2]; exact Nat.sub_self _
        rw [this, List.take_zero] at hpre
        rw [← hpre, e1]; rfl
    unfold specRest
    rw [htl]
    dsimp only
    have : (digitOf rb (if rb = 0 then 10 else rb) c).isNone = false := Option.isNone_eq_false_iff.mpr hcD
    rw [this, ← htl, hsp]
    simp only [Bool.false_eq_true, if_false]
    exact specTail_digits htab rb b p6 ng digs hdigs256 hdigsD
  rw [htl, parseSpec_signed rb (by omega) hrb62 neg c tl (fun x hx => (hpd x (htl ▸ hx)).1) hcp.2.1 hcp.2.2.1, ← htl]
  exact hrest_spec neg

theorem scanL_spec (htab : TabOk) (rb : Nat) (hrb : rb = 0 ∨ 2 ≤ rb) (hrb62 : rb ≤ 62)
    (r : List Nat) (hr : ∀ c ∈ r, c < 256) :
    match inpTok rb r with
    | none => scanL (digitValue (offOf rb)) (rb : Int) r = none
    | some tok => ∃ neg b ds, scanL (digitValue (offOf rb)) (rb : Int) r = some (tok.length, neg, b, ds) ∧
        2 ≤ b ∧ b ≤ 62 ∧ (∀ d ∈ ds, d < b) ∧
        parseSpec (rb : Int) tok =
          some (if neg = true then -(Int.ofNat (ofDigits b ds)) else Int.ofNat (ofDigits b ds)) ∧
        tok = r.take tok.length := by
  obtain ⟨body, hbody, hreq⟩ := sign_body r
  unfold inpTok scanL
  simp only [hbody]
  generalize hneg : (r.head? == some 45) = neg at *
  have hb256 : ∀ c ∈ body, c < 256 := by
    intro c hc; apply hr; rw [hreq]; exact List.mem_append_right _ hc
  cases body with
  | nil => exact rfl
  | cons c t =>
    have hc256 := hb256 c (by simp)
    have hlim : 2 ≤ (if rb = 0 then 10 else rb) ∧ (if rb = 0 then 10 else rb) ≤ 62 := by
      split <;> omega
    have hcond : ((digitValue (offOf rb) c : Int) ≥ (if (rb : Int) = 0 then 10 else (rb : Int))) ↔
        (digitOf rb (if rb = 0 then 10 else rb) c).isNone = true := by
      rw [digitOf_eq htab rb _ c hc256 hlim.2]
      by_cases h0 : rb = 0
      · subst h0
        simp only [Nat.cast_zero, if_true]
        by_cases h : digitValue (offOf 0) c < 10
        · simp [h]
        · simp [h]; omega
      · have h0' : ¬ (rb : Int) = 0 := by omega
        simp only [if_neg h0, if_neg h0']
        by_cases h : digitValue (offOf rb) c < rb
        · simp [h]
        · simp [h]; omega
    show match (if _ then _ else _ : Option (List Nat)) with | none => _ | some tok => _
    by_cases hfail : (digitOf rb (if rb = 0 then 10 else rb) c).isNone = true
    · rw [if_pos hfail]
      dsimp only [List.head?_cons]
      rw [if_pos (hcond.mpr hfail)]
    · rw [if_neg hfail]
      have hcD : (digitOf rb (if rb = 0 then 10 else rb) c).isSome = true :=
        Option.isNone_eq_false_iff.mp (Bool.eq_false_iff.mpr hfail)
      obtain ⟨p1, p2, p3, _, p5, p6⟩ := prefLen_cases rb hrb hrb62 (c :: t)
      generalize hbs : (if rb = 0 then splitPrefix (c :: t) else (rb, c :: t)) = bs at *
      obtain ⟨b, rest⟩ := bs
      simp only at p1 p2 ⊢
      dsimp only [List.head?_cons]
      rw [if_neg (mt hcond.mp hfail), p1, p2]
      rw [p1] at p5 p6
      have hrest256 : ∀ x ∈ rest, x < 256 := fun x hx => hb256 x (List.mem_of_mem_drop (p2 ▸ hx))
      have hsplit := digitRun_split htab rb p5 p6 rest hrest256
      have hspec := parseSpec_tok htab rb hrb hrb62 neg c t hb256 hcD hbs rfl
      obtain ⟨htok, htl, hn⟩ := take_sign_pre_digs (if neg = true then [45] else []) (c :: t) rest _
        (prefLen (rb : Int) (c :: t)).2 p2 p3 (List.takeWhile_prefix (fun c => (digitOf rb b c).isSome))
      rw [← hreq] at htok htl hn
      have hpl : (c :: t).length - rest.length = (prefLen (rb : Int) (c :: t)).2 := by
        rw [← p2, List.length_drop]; omega
      rw [hpl, ← htok] at hspec
      have hdlt : ∀ d ∈ ((rest.drop (rest.takeWhile (· == 48)).length).takeWhile
          (fun c => decide (digitValue (offOf rb) c < b))).map (digitValue (offOf rb)), d < b := by
        intro d hd
        obtain ⟨x, hx, rfl⟩ := List.mem_map.mp hd
        simpa using (mem_takeWhile _ _ hx).1
      have hzeros := map_takeWhile_zero _ (digitValue_48 htab rb) rest
      generalize rest.takeWhile (fun c => (digitOf rb b c).isSome) = digs at *
      generalize rest.takeWhile (· == 48) = zeros at *
      generalize (rest.drop zeros.length).takeWhile (fun c => decide (digitValue (offOf rb) c < b)) = run at *
      refine ⟨neg, b, _, congrArg some (Prod.ext ?_ rfl), p5, p6, hdlt, ?_, ?_⟩
      · rw [htl, hn, hsplit, List.length_append, ← Nat.add_assoc]
        cases neg <;> rfl
      · -- the value: the zeros skipped do not change it
        rw [hspec, hsplit, List.map_append, hzeros, ofDigits_zeros]
      · rw [htl]

/-! ### mpz_inp_str -/

theorem nowhiteK_spec (htab : TabOk) (hbases : BasesOk) (rb : Nat) (hrb : rb = 0 ∨ 2 ≤ rb) (hrb62 : rb ≤ 62)
    (s : List Nat) (hs : ∀ c ∈ s, c < 256) (k : Nat) :
    match inpTok rb (s.drop k) with
    | none => (nowhiteK (rb : Int) s k).ret = 0 ∧ (nowhiteK (rb : Int) s k).value = none
    | some tok => nowhiteK (rb : Int) s k = ⟨k + tok.length, parseSpec (rb : Int) tok, k + tok.length⟩ ∧
        (parseSpec (rb : Int) tok).isSome = true ∧ tok = (s.drop k).take tok.length := by
  have h1 := nowhiteK_eq_scan (rb : Int) (by omega) s k
  have h2 := scanL_spec htab rb hrb hrb62 (s.drop k) (fun c hc => hs c (List.mem_of_mem_drop hc))
  rw [off_eq] at h1
  cases htk : inpTok rb (s.drop k) with
  | none =>
    rw [htk] at h2
    simp only at h2 ⊢
    rw [h2] at h1
    exact h1
  | some tok =>
    rw [htk] at h2
    obtain ⟨neg, b, ds, a1, b2, b62, hlt, a2, a3⟩ := h2
    rw [a1] at h1
    simp only at h1 ⊢
    rw [a2, h1, set_str_value hbases b2 b62 ds hlt neg]
    exact ⟨rfl, rfl, a3⟩

theorem mpz_inp_str_spec_of (htab : TabOk) (hbases : BasesOk) (rb : Nat) (hrb : rb = 0 ∨ 2 ≤ rb) (hrb62 : rb ≤ 62)
    (s : List Nat) (hs : ∀ c ∈ s, c < 256) :
    match inpTok rb (s.dropWhile isSpace) with
    | none => (mpz_inp_str (rb : Int) s).ret = 0 ∧ (mpz_inp_str (rb : Int) s).value = none
    | some tok => mpz_inp_str (rb : Int) s =
          ⟨(s.takeWhile isSpace).length + tok.length, parseSpec (rb : Int) tok, (s.takeWhile isSpace).length + tok.length⟩ ∧
        (parseSpec (rb : Int) tok).isSome = true ∧ tok = (s.dropWhile isSpace).take tok.length := by
  rw [mpz_inp_str_eq (rb : Int) s, ← drop_takeWhile_length]
  exact nowhiteK_spec htab hbases rb hrb hrb62 s hs _

/-! ### reading back what mpz_out_str wrote -/

/-- `rest` does not continue the number: it is empty or starts with a character that is not a digit of base b -/
def NoDigitAhead (b : Nat) (rest : List Nat) : Prop :=
  match rest with
  | [] => True
  | c :: _ => (digitOf b b c).isSome = false

instance (b : Nat) (rest : List Nat) : Decidable (NoDigitAhead b rest) := by
  unfold NoDigitAhead; cases rest <;> infer_instance

/-- the digits read are `ds` without its leading zeros: a lone "0" reads as no digit at all (value 0) -/
theorem scanL_written (dv : Nat → Nat) (b : Nat) (hb : 2 ≤ b) (f : Nat → Nat)
    (hf : ∀ e, e < b → dv (f e) = e ∧ f e ≠ 45) (h48 : dv 48 = 0)
    (neg : Bool) (ds rest : List Nat) (hne : ds ≠ []) (hds : ∀ e ∈ ds, e < b)
    (hrest : ∀ c, rest.head? = some c → dv c ≥ b) :
    ∃ z digs, scanL dv (b : Int) ((if neg then [45] else []) ++ ds.map f ++ rest) =
        some ((if neg then 1 else 0) + ds.length, neg, b, digs) ∧ ds = List.replicate z 0 ++ digs := by
  have hb0 : ¬ ((b : Int) = 0) := by omega
  have hrun : (ds.map f ++ rest).takeWhile (fun c => decide (dv c < b)) = ds.map f := by
    rw [List.takeWhile_append_of_pos (by
      intro c hc; obtain ⟨e, he, rfl⟩ := List.mem_map.mp hc
      rw [(hf e (hds e he)).1]; exact decide_eq_true (hds e he))]
    cases rest with
    | nil => simp
    | cons c r => rw [List.takeWhile_cons_of_neg (by simpa using hrest c rfl), List.append_nil]
  have hsplit := takeWhile_split (fun c => decide (dv c < b)) (· == 48)
    (fun x hx => by rw [show x = 48 by simpa using hx, h48]; exact decide_eq_true (by omega)) (ds.map f ++ rest)
  rw [hrun] at hsplit
  have hmap : (ds.map f).map dv = ds := by
    rw [List.map_map]
    conv_rhs => rw [← List.map_id ds]
    exact List.map_congr_left fun e he => (hf e (hds e he)).1
  obtain ⟨d0, ds', rfl⟩ := List.exists_cons_of_ne_nil hne
  have h1 := (hf d0 (hds d0 (by simp))).1
  have key : ∀ l : List Nat, (l.head? == some 45) = neg →
      (if neg = true then l.drop 1 else l) = (d0 :: ds').map f ++ rest →
      ∃ z digs, scanL dv (b : Int) l = some ((if neg then 1 else 0) + (d0 :: ds').length, neg, b, digs) ∧
        d0 :: ds' = List.replicate z 0 ++ digs := by
    intro l hl hbody
    have hhead : ((d0 :: ds').map f ++ rest).head? = some (f d0) := rfl
    have hd0 := hds d0 (by simp)
    have hlen := congrArg List.length hsplit
    rw [List.length_map, List.length_append] at hlen
    generalize (d0 :: ds').map f ++ rest = text at *
    refine ⟨(text.takeWhile (· == 48)).length,
      ((text.drop (text.takeWhile (· == 48)).length).takeWhile (fun c => decide (dv c < b))).map dv, ?_, ?_⟩
    · unfold scanL
      simp only [hl, hbody, hhead, h1, hb0, if_false]
      rw [if_neg (by omega)]
      simp only [prefLen, hb0, if_false, Int.toNat_natCast, List.drop_zero, Nat.add_zero]
      rw [hlen, Nat.add_assoc]
    · have h := congrArg (List.map dv) hsplit
      rwa [hmap, List.map_append, map_takeWhile_zero dv h48] at h
  cases neg with
  | true => exact key _ (by simp) (by simp)
  | false => exact key _ (by simpa using (hf d0 (hds d0 (by simp))).2) (by simp)

theorem scanL_base0 (dv : Nat → Nat) (l : List Nat)
    (h : (if l.head? == some 45 then l.drop 1 else l).head? ≠ some 48) :
    scanL dv 0 l = scanL dv 10 l := by
  unfold scanL
  simp only
  cases hb : (if (l.head? == some 45) = true then l.drop 1 else l) with
  | nil => rfl
  | cons c t =>
    rw [hb] at h
    have hc : c ≠ 48 := by simpa using h
    simp [prefLen, hc]

/-- requested base 0: a lone "0" is the octal prefix with no digit after it -/
theorem scanL_base0_zero (dv : Nat → Nat) (h48 : dv 48 = 0) (rest : List Nat)
    (hrest : ∀ c, rest.head? = some c → dv c ≥ 8 ∧ c ≠ 120 ∧ c ≠ 88 ∧ c ≠ 98 ∧ c ≠ 66) :
    scanL dv 0 (48 :: rest) = some (1, false, 8, []) := by
  cases rest with
  | nil => simp [scanL, prefLen, h48]
  | cons c r =>
    obtain ⟨h8, h1, h2, h3, h4⟩ := hrest c rfl
    have hc48 : c ≠ 48 := by rintro rfl; omega
    have hd : ¬ dv c < 8 := by omega
    simp [scanL, prefLen, h1, h2, h3, h4, hc48, hd, h48]

/-- what the scanner finds in the text of `getStrSpec`, for any digit-value function that inverts the alphabet of the base -/
theorem scanL_getStrSpec (dv : Nat → Nat) (base : Int) (hb : LegalOutBase base)
    (hdv : ∀ e, e < base.natAbs → dv (digitChar base e) = e) (h48 : dv 48 = 0) (x : Int) (rest : List Nat)
    (hrest : ∀ c, rest.head? = some c → dv c ≥ base.natAbs) :
    ∃ digs, scanL dv (base.natAbs : Int) (getStrSpec base x ++ rest) =
        some ((getStrSpec base x).length, decide (x < 0), base.natAbs, digs) ∧
      (∀ d ∈ digs, d < base.natAbs) ∧ ofDigits base.natAbs digs = x.natAbs := by
  have hb2 := hb.natAbs_bounds
  obtain ⟨ds, htext, hne, hlt, hv, _⟩ := getStrSpec_digits base hb x
  obtain ⟨z, digs, hs, hz⟩ := scanL_written dv _ hb2.1 (digitChar base)
    (fun e he => ⟨hdv e he, (digitChar_props base hb e he).2.2.2.1⟩) h48 (decide (x < 0)) ds rest hne hlt hrest
  refine ⟨digs, ?_, fun d hd => hlt d (by rw [hz]; exact List.mem_append_right _ hd), by rw [← hv, hz, ofDigits_zeros]⟩
  rw [htext]
  by_cases hneg : x < 0
  · simp only [hneg, decide_true, if_true] at hs ⊢
    rw [hs]; simp [Nat.add_comm 1]
  · simp only [hneg, decide_false, Bool.false_eq_true, if_false] at hs ⊢
    rw [hs]; simp

theorem NoDigitAhead.ge (htab : TabOk) {b : Nat} (hb62 : b ≤ 62) {rest : List Nat} (hnd : NoDigitAhead b rest)
    (hrest : ∀ c, rest.head? = some c → c < 256) : ∀ c, rest.head? = some c → digitValue (offOf b) c ≥ b := by
  intro c hc
  cases rest with
  | nil => simp at hc
  | cons c' r =>
    simp only [List.head?_cons, Option.some.injEq] at hc
    subst hc
    have h : (digitOf b b c').isSome = false := hnd
    rw [isSome_digitOf htab _ _ _ (hrest c' rfl) hb62] at h
    simpa using h

theorem getStrSpec_nospace (base : Int) (hb : LegalOutBase base) (x : Int) (rest : List Nat) :
    (getStrSpec base x ++ rest).takeWhile isSpace = [] := by
  obtain ⟨c0, t, h, hs⟩ := getStrSpec_head base hb x
  rw [h, List.cons_append, List.takeWhile_cons_of_neg (by simp [hs])]

theorem nowhiteK_written (htab : TabOk) (hbases : BasesOk) (base : Int) (hb : LegalOutBase base) (x : Int)
    (s : List Nat) (k : Nat) (rest : List Nat) (hs : s.drop k = getStrSpec base x ++ rest)
    (hrest : ∀ c, rest.head? = some c → c < 256) (hnd : NoDigitAhead base.natAbs rest) :
    nowhiteK (base.natAbs : Int) s k =
      ⟨k + (getStrSpec base x).length, some x, k + (getStrSpec base x).length⟩ := by
  have hb2 := hb.natAbs_bounds
  obtain ⟨digs, hsc, hlt, hv⟩ := scanL_getStrSpec _ base hb (fun _ he => digitValue_digitChar htab base hb he)
    (digitValue_48 htab _) x rest (hnd.ge htab hb2.2 hrest)
  have h := nowhiteK_eq_scan (base.natAbs : Int) (by omega) s k
  rw [hs, off_eq, hsc] at h
  simp only at h
  rw [h, set_str_value hbases hb2.1 hb2.2 digs hlt, hv]
  congr 2
  by_cases hneg : x < 0 <;>
    simp only [hneg, decide_true, decide_false, if_true, Bool.false_eq_true, if_false, Int.ofNat_eq_natCast] <;> omega

theorem inp_out_roundtrip_of (htab : TabOk) (hbases : BasesOk) (h10 : Base10Ok) (base : Int) (hb : LegalOutBase base)
    (x : Int) (rest : List Nat) (hrest : ∀ c ∈ rest, c < 256) (hnd : NoDigitAhead base.natAbs rest) :
    mpz_inp_str (base.natAbs : Int) ((mpz_out_str base x).1 ++ rest) =
      ⟨(mpz_out_str base x).2, some x, (mpz_out_str base x).2⟩ := by
  have hob : outBase base = base := by
    unfold outBase; rw [if_neg]; unfold LegalOutBase at hb; omega
  rw [mpz_out_str_spec_of hbases h10 base (by rw [hob]; exact hb) x, hob]
  simp only
  rw [mpz_inp_str_eq, getStrSpec_nospace base hb, List.length_nil,
    nowhiteK_written htab hbases base hb x _ 0 rest rfl (fun c hc => hrest c (List.mem_of_mem_head? hc)) hnd,
    Nat.zero_add]

/-! ### mpq_out_str / mpq_inp_str -/

theorem mpq_out_str_spec_of (hbases : BasesOk) (h10 : Base10Ok) (base : Int) (hb : LegalOutBase (outBase base))
    (n d : Int) :
    mpq_out_str base n d =
      (if d = 1 then getStrSpec (outBase base) n else getStrSpec (outBase base) n ++ [47] ++ getStrSpec (outBase base) d,
       (if d = 1 then getStrSpec (outBase base) n
        else getStrSpec (outBase base) n ++ [47] ++ getStrSpec (outBase base) d).length) := by
  unfold mpq_out_str
  rw [mpz_out_str_spec_of hbases h10 base hb n, mpz_out_str_spec_of hbases h10 base hb d]
  by_cases hd : d = 1
  · simp [hd]
  · have : (d != 1) = true := by simpa using hd
    simp only [this, if_true, if_neg hd, List.length_append, List.length_cons, List.length_nil]
    congr 1; omega

theorem parseSpec_nil (base : Int) : parseSpec base [] = none := by
  unfold parseSpec; simp

theorem getc_eq (s : List Nat) (k : Nat) : getc s k = (s[k]?, posOf s k) := by
  unfold getc posOf
  by_cases h : k < s.length
  · rw [List.getElem?_eq_getElem h, if_pos h]
  · rw [List.getElem?_eq_none (by omega), if_neg h]

theorem mpq_inp_str_num {base : Int} {s : List Nat} {k : Nat} {vn : Int} (h1 : mpz_inp_str base s = ⟨k, some vn, k⟩)
    (hk : k ≠ 0) :
    mpq_inp_str base s =
      if s[k]? = some 47 then
        (if (nowhiteK base s (k + 1)).ret == 0 then (0, none, (nowhiteK base s (k + 1)).pos)
         else ((nowhiteK base s (k + 1)).ret, some (vn, (nowhiteK base s (k + 1)).value.getD 0),
           (nowhiteK base s (k + 1)).pos))
      else (k, some (vn, 1), k) := by
  unfold mpq_inp_str
  rw [h1]
  have hret : ((k == 0) = true) = False := by simp; omega
  simp only [hret, if_false, getc_eq, Option.getD_some]
  by_cases h47 : s[k]? = some 47
  · have hc : (s[k]? == some 47) = true := by rw [h47]; rfl
    have hpos : posOf s k = k + 1 := by unfold posOf; rw [if_pos (some_lt h47)]
    rw [if_pos h47]
    simp only [hc, if_true, hpos]
    rfl
  · have hc : (s[k]? == some 47) = false := by
      cases hh : s[k]? with
      | none => rfl
      | some c => rw [hh] at h47; simp at h47; simpa using h47
    rw [if_neg h47]
    simp only [hc, Bool.false_eq_true, if_false, Nat.add_sub_cancel]

theorem mpq_inp_str_spec_of (htab : TabOk) (hbases : BasesOk) (rb : Nat) (hrb : rb = 0 ∨ 2 ≤ rb) (hrb62 : rb ≤ 62)
    (s : List Nat) (hs : ∀ c ∈ s, c < 256) :
    match inpTok rb (s.dropWhile isSpace) with
    | none => (mpq_inp_str (rb : Int) s).1 = 0 ∧ (mpq_inp_str (rb : Int) s).2.1 = none
    | some tn =>
      ∃ vn, parseSpec (rb : Int) tn = some vn ∧
      if s[(s.takeWhile isSpace).length + tn.length]? = some 47 then
        match inpTok rb (s.drop ((s.takeWhile isSpace).length + tn.length + 1)) with
        | none => (mpq_inp_str (rb : Int) s).1 = 0 ∧ (mpq_inp_str (rb : Int) s).2.1 = none
        | some td => ∃ vd, parseSpec (rb : Int) td = some vd ∧
            td = (s.drop ((s.takeWhile isSpace).length + tn.length + 1)).take td.length ∧
            mpq_inp_str (rb : Int) s =
              ((s.takeWhile isSpace).length + tn.length + 1 + td.length, some (vn, vd),
               (s.takeWhile isSpace).length + tn.length + 1 + td.length)
      else mpq_inp_str (rb : Int) s =
        ((s.takeWhile isSpace).length + tn.length, some (vn, 1), (s.takeWhile isSpace).length + tn.length) := by
  have h1 := mpz_inp_str_spec_of htab hbases rb hrb hrb62 s hs
  cases htk : inpTok rb (s.dropWhile isSpace) with
  | none =>
    rw [htk] at h1
    simp only at h1 ⊢
    unfold mpq_inp_str
    have : ((mpz_inp_str (rb : Int) s).ret == 0) = true := by rw [h1.1]; rfl
    rw [if_pos this]; exact ⟨rfl, rfl⟩
  | some tn =>
    rw [htk] at h1
    obtain ⟨a1, a2, a3⟩ := h1
    obtain ⟨vn, hvn⟩ := Option.isSome_iff_exists.mp a2
    refine ⟨vn, hvn, ?_⟩
    have htn : tn.length ≠ 0 := by
      intro h
      rw [List.length_eq_zero_iff.mp h, parseSpec_nil] at hvn; simp at hvn
    rw [hvn] at a1
    generalize hk : (s.takeWhile isSpace).length + tn.length = k at *
    rw [mpq_inp_str_num a1 (by omega)]
    by_cases h47 : s[k]? = some 47
    · rw [if_pos h47, if_pos h47]
      have h2 := nowhiteK_spec htab hbases rb hrb hrb62 s hs (k + 1)
      cases htd : inpTok rb (s.drop (k + 1)) with
      | none =>
        rw [htd] at h2
        simp only at h2 ⊢
        have : ((nowhiteK (rb : Int) s (k + 1)).ret == 0) = true := by rw [h2.1]; rfl
        rw [if_pos this]; exact ⟨rfl, rfl⟩
      | some td =>
        rw [htd] at h2
        obtain ⟨b1, b2, b3⟩ := h2
        obtain ⟨vd, hvd⟩ := Option.isSome_iff_exists.mp b2
        refine ⟨vd, hvd, b3, ?_⟩
        rw [b1, hvd]
        have : ((k + 1 + td.length == 0) = true) = False := by simp
        simp only [this, if_false, Option.getD_some]
    · rw [if_neg h47, if_neg h47]

theorem noDigit_47 (b : Nat) (l : List Nat) : NoDigitAhead b (47 :: l) := by
  unfold NoDigitAhead digitOf charValue; simp

theorem mpq_inp_out_roundtrip_of (htab : TabOk) (hbases : BasesOk) (h10 : Base10Ok) (base : Int)
    (hb : LegalOutBase base) (n d : Int) (rest : List Nat) (hrest : ∀ c ∈ rest, c < 256)
    (hnd : NoDigitAhead base.natAbs rest) (h47 : d = 1 → rest.head? ≠ some 47) :
    mpq_inp_str (base.natAbs : Int) ((mpq_out_str base n d).1 ++ rest) =
      ((mpq_out_str base n d).2, some (n, d), (mpq_out_str base n d).2) := by
  have hob : outBase base = base := by
    unfold outBase; rw [if_neg]; unfold LegalOutBase at hb; omega
  have hr : ∀ c, rest.head? = some c → c < 256 := fun c hc => hrest c (List.mem_of_mem_head? hc)
  rw [mpq_out_str_spec_of hbases h10 base (by rw [hob]; exact hb) n d, hob]
  simp only
  have hNpos : (getStrSpec base n).length ≠ 0 := by
    obtain ⟨ds, htext, hne, _⟩ := getStrSpec_digits base hb n
    obtain ⟨d0, ds', rfl⟩ := List.exists_cons_of_ne_nil hne
    rw [htext]; simp
  generalize hN : getStrSpec base n = N at *
  have hnum : ∀ tl : List Nat, (∀ c, tl.head? = some c → c < 256) → NoDigitAhead base.natAbs tl →
      mpz_inp_str (base.natAbs : Int) (N ++ tl) = ⟨N.length, some n, N.length⟩ := by
    intro tl h1 h2
    rw [mpz_inp_str_eq, ← hN, getStrSpec_nospace base hb, List.length_nil,
      nowhiteK_written htab hbases base hb n _ 0 tl rfl h1 h2, Nat.zero_add]
  by_cases hd : d = 1
  · rw [if_pos hd, mpq_inp_str_num (hnum rest hr hnd) hNpos, hd]
    have hnext : ¬ (N ++ rest)[N.length]? = some 47 := by
      rw [List.getElem?_append_right (Nat.le_refl _), Nat.sub_self]
      have := h47 hd
      cases rest with
      | nil => simp
      | cons a l => simpa using this
    rw [if_neg hnext]
  · rw [if_neg hd]
    generalize hD : getStrSpec base d = D
    have e1 : N ++ [47] ++ D ++ rest = N ++ (47 :: (D ++ rest)) := by simp
    rw [e1, mpq_inp_str_num (hnum _ (fun c hc => by simp at hc; omega) (noDigit_47 _ _)) hNpos]
    have hnext : (N ++ (47 :: (D ++ rest)))[N.length]? = some 47 := by
      rw [List.getElem?_append_right (Nat.le_refl _), Nat.sub_self]; rfl
    have hdrop : (N ++ (47 :: (D ++ rest))).drop (N.length + 1) = getStrSpec base d ++ rest := by
      rw [← List.drop_drop, List.drop_left, hD]
      rfl
    rw [if_pos hnext, nowhiteK_written htab hbases base hb d _ _ rest hdrop hr hnd, hD]
    have : ((N.length + 1 + D.length == 0) = true) = False := by simp
    simp only [this, if_false, Option.getD_some, List.length_append, List.length_cons, List.length_nil]

end Mpir.Radix
