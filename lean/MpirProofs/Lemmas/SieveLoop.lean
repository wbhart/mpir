/- The sieving loops of primesieve.c (model Mpir/Model/Sieve.lean): striking the multiples of one prime,
   the outer loop of first_block_primesieve, the LOOP_ON_SIEVE of block_resieve. -/
import MpirProofs.Lemmas.Sieve
namespace Mpir.Sieve
open Mpir Mpir.Numth

/-- a set bit of the window [off, off+bits] never stands for a prime -/
def Sound (a : Array ℕ) (off bits : ℕ) : Prop :=
  ∀ b ≤ bits, sieveBit a b = true → ¬ (bit_to_n (b + off)).Prime

/-- every number of the window with a prime factor q < P, q² ≤ number, is marked -/
def Compl (a : Array ℕ) (off bits P : ℕ) : Prop :=
  ∀ b ≤ bits, ∀ q, q.Prime → 5 ≤ q → q < P → q ∣ bit_to_n (b + off) → q * q ≤ bit_to_n (b + off) →
    sieveBit a b = true

/-- first index ≥ offset of the progression lindex + k·step, relative to offset (primesieve.c:202-205) -/
def adj (lindex step offset : ℕ) : ℕ :=
  (if lindex < offset then lindex + step * ((offset - lindex - 1) / step + 1) else lindex) - offset

theorem adj_zero (l s : ℕ) : adj l s 0 = l := by simp [adj]

/-- `adj` moves L forward by a multiple of the step, to the first member of the progression that is ≥ off -/
theorem adj_spec (L step off : ℕ) (hs : 0 < step) (b : ℕ) :
    (∃ k, b = adj L step off + k * step) ↔ (∃ k, b + off = L + k * step) := by
  -- adj + off = L + t·step with adj < step whenever t > 0
  obtain ⟨t, ht, hlt⟩ : ∃ t, adj L step off + off = L + t * step ∧ (t ≠ 0 → adj L step off < step) := by
    unfold adj
    split
    · next h =>
      refine ⟨(off - L - 1) / step + 1, ?_, fun _ => ?_⟩
      all_goals
        have h1 := Nat.div_add_mod (off - L - 1) step
        have h2 := Nat.mod_lt (off - L - 1) hs
        simp only [Nat.mul_add, Nat.mul_one, Nat.mul_comm _ step]
        generalize step * ((off - L - 1) / step) = q at *
        omega
    · next h => exact ⟨0, by omega, fun h0 => absurd rfl h0⟩
  generalize adj L step off = A at *
  constructor
  · rintro ⟨k, rfl⟩
    exact ⟨t + k, by rw [Nat.add_mul]; omega⟩
  · rintro ⟨k, hk⟩
    have hkt : t ≤ k := by
      by_contra hlt'
      have : (k + 1) * step ≤ t * step := Nat.mul_le_mul_right _ (by omega)
      rw [Nat.add_mul, Nat.one_mul] at this
      have := hlt (by omega)
      omega
    refine ⟨k - t, ?_⟩
    have : k * step = t * step + (k - t) * step := by rw [← Nat.add_mul, Nat.add_sub_cancel' hkt]
    omega
theorem shiftLeft_one_eq (x : ℕ) : x <<< 1 = 2 * x := by
  rw [Nat.shiftLeft_eq]; omega

/-- one stride of block_resieve / first_block_primesieve, started at bit L (global index) of the window -/
theorem stride_spec (p L off bits : ℕ) (hp : 0 < p) (a : Array ℕ) (hsz : bits / 64 < a.size) (hl : LimbsA a) :
    Marks a (markFor bits (2 * p) (2 * p % 64) (bits + 1) a (adj L (2 * p) off) (1 <<< (adj L (2 * p) off % 64)))
      (fun b => b ≤ bits ∧ ∃ k, bit_to_n (b + off) = bit_to_n L + 6 * p * k) := by
  rw [Nat.one_shiftLeft]
  have hf : bits < adj L (2 * p) off + (bits + 1) * (2 * p) :=
    Nat.lt_of_lt_of_le (Nat.lt_succ_self bits) (Nat.le_trans (Nat.le_mul_of_pos_right _ (by omega)) (Nat.le_add_left _ _))
  refine (markFor_spec bits (2 * p) (bits + 1) a (adj L (2 * p) off) hf hsz hl).congr fun b => and_congr_right fun _ => ?_
  rw [adj_spec L (2 * p) off (by omega) b]
  exact exists_congr fun k => ⟨fun hk => by rw [hk, bit_to_n_stride], fun hk => bit_to_n_inj (by rw [hk, bit_to_n_stride])⟩

/-- the exact effect of striking with the number p = id_to_n i (both strides) on the window -/
def Struck (a a' : Array ℕ) (i off bits : ℕ) : Prop :=
  Marks a a' fun b => b ≤ bits ∧ id_to_n i ∣ bit_to_n (b + off) ∧ id_to_n i * id_to_n i ≤ bit_to_n (b + off)

theorem id_to_n_pos (i : ℕ) : 0 < id_to_n i := Nat.add_pos_left (Nat.succ_pos _) _

theorem id_to_n_ge {i : ℕ} (hi : 1 ≤ i) : 5 ≤ id_to_n i := by
  obtain ⟨k, rfl⟩ := Nat.exists_eq_add_of_le' hi
  rw [← bit_to_n_eq_id]; exact bit_to_n_ge k

theorem strike_both (i off bits : ℕ) (hi : 1 ≤ i) (a : Array ℕ) (hsz : bits / 64 < a.size) (hl : LimbsA a) :
    Struck a
      (markFor bits (2 * id_to_n i) (2 * id_to_n i % 64) (bits + 1)
        (markFor bits (2 * id_to_n i) (2 * id_to_n i % 64) (bits + 1) a
          (adj (sqIndex i (id_to_n i)) (2 * id_to_n i) off) (1 <<< (adj (sqIndex i (id_to_n i)) (2 * id_to_n i) off % 64)))
        (adj (nextIndex i) (2 * id_to_n i) off) (1 <<< (adj (nextIndex i) (2 * id_to_n i) off % 64)))
      i off bits := by
  have h1 := stride_spec (id_to_n i) (sqIndex i (id_to_n i)) off bits (id_to_n_pos i) a hsz hl
  have h2 := stride_spec (id_to_n i) (nextIndex i) off bits (id_to_n_pos i) _ (by rw [h1.1]; exact hsz) h1.2.1
  refine (h1.trans h2).congr fun b => ?_
  rw [← and_or_left, bit_to_n_sqIndex i hi, bit_to_n_nextIndex i, stride_union i _ (bit_to_n_mod6 _)]

/-- when the second stride starts beyond the window (the `continue` of primesieve.c:215-216) the first stride alone does it -/
theorem strike_first (i off bits : ℕ) (hi : 1 ≤ i) (hnext : bits + off < nextIndex i)
    (a : Array ℕ) (hsz : bits / 64 < a.size) (hl : LimbsA a) :
    Struck a
      (markFor bits (2 * id_to_n i) (2 * id_to_n i % 64) (bits + 1) a
          (adj (sqIndex i (id_to_n i)) (2 * id_to_n i) off) (1 <<< (adj (sqIndex i (id_to_n i)) (2 * id_to_n i) off % 64)))
      i off bits := by
  refine (stride_spec (id_to_n i) (sqIndex i (id_to_n i)) off bits (id_to_n_pos i) a hsz hl).congr fun b =>
    and_congr_right fun hb => ?_
  rw [bit_to_n_sqIndex i hi, stride_union i _ (bit_to_n_mod6 _)]
  refine ⟨Or.inl, fun h => h.resolve_right fun ⟨k, hk⟩ => ?_⟩
  have h1 : bit_to_n (b + off) < bit_to_n (nextIndex i) := bit_to_n_lt (by omega)
  rw [bit_to_n_nextIndex, hk] at h1
  exact Nat.not_succ_le_self _ (Nat.le_trans h1 (Nat.le_add_right _ _))

theorem sound_struck {a a' : Array ℕ} {i off bits : ℕ} (hi : 1 ≤ i) (h : Struck a a' i off bits) (hs : Sound a off bits) :
    Sound a' off bits := by
  intro b hb hm
  rcases (h.2.2 b).1 hm with h1 | ⟨_, ⟨c, hc⟩, hle⟩
  · exact hs b hb h1
  · rw [hc]
    have hp5 := id_to_n_ge hi
    have hcp : id_to_n i ≤ c := by
      rw [hc] at hle; exact Nat.le_of_mul_le_mul_left hle (by omega)
    exact Nat.not_prime_mul (by omega) (by omega)

/-- no number coprime to 6 lies strictly between bit_to_n j and bit_to_n (j+1) -/
theorem prime_lt_next {q j : ℕ} (hq : q.Prime) (h5 : 5 ≤ q) (h : q < bit_to_n (j + 1)) : q < bit_to_n j ∨ q = bit_to_n j := by
  have h6 := prime_mod6 hq h5
  have e := bit_to_n_nb q h5 h6
  have : nb q ≤ j := by
    by_contra hc
    have : bit_to_n (j + 1) ≤ bit_to_n (nb q) := bit_to_n_le (by omega)
    omega
  rcases Nat.lt_or_eq_of_le this with h1 | h1
  · left; rw [← e]; exact bit_to_n_lt h1
  · right; rw [← e, h1]

theorem compl_struck {a a' : Array ℕ} {j off bits : ℕ} (h : Struck a a' (j + 1) off bits)
    (hc : Compl a off bits (bit_to_n j)) : Compl a' off bits (bit_to_n (j + 1)) := by
  intro b hb q hq h5 hlt hd hsq
  rcases prime_lt_next hq h5 hlt with h1 | h1
  · exact (h.2.2 b).2 (Or.inl (hc b hb q hq h5 h1 hd hsq))
  · rw [bit_to_n_eq_id] at h1
    rw [h1] at hd hsq
    exact (h.2.2 b).2 (Or.inr ⟨hb, hd, hsq⟩)

theorem compl_skip {a : Array ℕ} {j off bits : ℕ} (hnp : ¬ (bit_to_n j).Prime)
    (hc : Compl a off bits (bit_to_n j)) : Compl a off bits (bit_to_n (j + 1)) := by
  intro b hb q hq h5 hlt hd hsq
  rcases prime_lt_next hq h5 hlt with h1 | h1
  · exact hc b hb q hq h5 h1 hd hsq
  · exact absurd (h1 ▸ hq) hnp

/-- least prime factor of a composite number coprime to 6 -/
theorem exists_small_factor (m : ℕ) (h5 : 5 ≤ m) (h6 : m % 6 = 1 ∨ m % 6 = 5) (hnp : ¬ m.Prime) :
    ∃ q, q.Prime ∧ 5 ≤ q ∧ q ∣ m ∧ q * q ≤ m := by
  refine ⟨m.minFac, Nat.minFac_prime (by omega), ?_, Nat.minFac_dvd m, ?_⟩
  · have hq := Nat.minFac_prime (n := m) (by omega)
    have hd := Nat.minFac_dvd m
    have h2 : m.minFac ≠ 2 := fun e => by rw [e] at hd; omega
    have h3 : m.minFac ≠ 3 := fun e => by rw [e] at hd; omega
    have h4 : m.minFac ≠ 4 := fun e => by rw [e] at hq; exact absurd hq (by decide)
    have := hq.two_le
    omega
  · have := Nat.minFac_sq_le_self (n := m) (by omega) hnp
    rwa [sq] at this

/-- on the window [off, off+bits] a bit is set exactly for the composites -/
def Final (a : Array ℕ) (off bits : ℕ) : Prop :=
  ∀ b ≤ bits, (sieveBit a b = true ↔ ¬ (bit_to_n (b + off)).Prime)

/-- once every prime below P has struck and P² exceeds the top of the window, every composite is marked -/
theorem final_of_compl {a : Array ℕ} {off bits P : ℕ} (hs : Sound a off bits) (hc : Compl a off bits P)
    (htop : bit_to_n (bits + off) < P * P) : Final a off bits := by
  refine fun b hb => ⟨hs b hb, fun hnp => ?_⟩
  obtain ⟨q, hq, h5, hd, hsq⟩ := exists_small_factor _ (bit_to_n_ge _) (bit_to_n_mod6 _) hnp
  refine hc b hb q hq h5 ?_ hd hsq
  have : bit_to_n (b + off) ≤ bit_to_n (bits + off) := bit_to_n_le (Nat.add_le_add_right hb off)
  by_contra hge
  have : P * P ≤ q * q := Nat.mul_le_mul (Nat.le_of_not_lt hge) (Nat.le_of_not_lt hge)
  omega

/-- an unmarked position below the striking frontier is a prime -/
theorem prime_of_clear {a : Array ℕ} {j off bits : ℕ} (hc : Compl a off bits (bit_to_n (j + off)))
    (hj : j ≤ bits) (hclr : sieveBit a j = false) : (bit_to_n (j + off)).Prime := by
  by_contra hnp
  obtain ⟨q, hq, h5, hd, hsq⟩ := exists_small_factor _ (bit_to_n_ge _) (bit_to_n_mod6 _) hnp
  have hlt : q < bit_to_n (j + off) := by
    by_contra hge
    have : bit_to_n (j + off) * 5 ≤ q * q := Nat.mul_le_mul (by omega) h5
    have := bit_to_n_ge (j + off)
    omega
  have := hc j hj q hq h5 hlt hd hsq
  rw [hclr] at this; exact absurd this (by simp)

theorem mask_step (j : ℕ) : rotl (2 ^ (j % 64)) 1 = 2 ^ ((j + 1) % 64) := by
  rw [rotl_two_pow _ (Nat.mod_lt _ (by decide)) 1 (by decide), Nat.add_mod j 1 64]

theorem index_step (j : ℕ) : j / 64 + (2 ^ ((j + 1) % 64) &&& 1) = (j + 1) / 64 := by
  rw [two_pow_and_one, Nat.succ_div]
  simp only [Nat.dvd_iff_mod_eq_zero]

theorem markDo_eq (bits step r : ℕ) (a : Array ℕ) (l m : ℕ) (h : l ≤ bits) :
    markDo bits step r bits a l m = markFor bits step r (bits + 1) a l m := by
  simp [markDo, markFor, h]

theorem bool_eq_of_iff_or {x y : Bool} {P : Prop} (h : x = true ↔ (y = true ∨ P)) (hP : ¬ P) : x = y := by
  cases x <;> cases y <;> simp_all

/-- The `do … while (1)` of first_block_primesieve leaves through its `break` (never reading beyond the
    array) with every composite of the window marked and no prime marked.  j0 = the bit of a prime whose
    square exceeds the window. -/
theorem fbLoop_spec (bits j0 : ℕ) (hj0 : j0 ≤ bits) (hp0 : (bit_to_n j0).Prime)
    (hsq0 : bit_to_n bits < bit_to_n j0 * bit_to_n j0) :
    ∀ fuel j (a : Array ℕ), j ≤ j0 → j0 < fuel + j → bits / 64 < a.size → LimbsA a → Sound a 0 bits →
      Compl a 0 bits (bit_to_n j) →
      ∃ a', fbLoop bits fuel a (2 ^ (j % 64)) (j / 64) (j + 1) = some a' ∧ a'.size = a.size ∧ LimbsA a' ∧
        Final a' 0 bits ∧ (∀ b, bits < b → sieveBit a' b = sieveBit a b) := by
  intro fuel
  induction fuel with
  | zero => intro j a h1 h2; omega
  | succ f ih =>
    intro j a hj hfuel hsz hl hs hc
    have hidx : ¬ (j / 64 ≥ a.size) := by
      have := Nat.div_le_div_right (c := 64) (Nat.le_trans hj hj0); omega
    simp only [fbLoop, hidx, if_false, clearAt_eq, mask_step, index_step]
    cases hbit : sieveBit a j
    · -- the bit is clear: id_to_n (j+1) is a prime
      simp only [Bool.not_false, if_true]
      have hprime : (bit_to_n j).Prime := prime_of_clear (j := j) (off := 0) hc (Nat.le_trans hj hj0) hbit
      have hsqn : bit_to_n (sqIndex (j + 1) (id_to_n (j + 1))) = bit_to_n j * bit_to_n j := by
        rw [bit_to_n_sqIndex (j + 1) (by omega), ← bit_to_n_eq_id]
      by_cases hbrk : sqIndex (j + 1) (id_to_n (j + 1)) > bits
      · simp only [hbrk, if_true]
        refine ⟨a, rfl, rfl, hl, final_of_compl hs hc ?_, fun _ _ => rfl⟩
        rw [← hsqn]; exact bit_to_n_lt hbrk
      · simp only [hbrk, if_false]
        have hle : sqIndex (j + 1) (id_to_n (j + 1)) ≤ bits := by omega
        have hjlt : j < j0 := by
          rcases Nat.lt_or_eq_of_le hj with h | h
          · exact h
          · exfalso
            have := bit_to_n_le hle
            rw [hsqn, h] at this; omega
        rw [markDo_eq _ _ _ _ _ _ hle, shiftLeft_one_eq]
        have hst := strike_both (j + 1) 0 bits (by omega) a hsz hl
        simp only [adj_zero] at hst
        obtain ⟨a', e, s', l', fin', pad'⟩ := ih (j + 1) _ (by omega) (by omega)
          (by rw [hst.1]; exact hsz) hst.2.1 (sound_struck (by omega) hst hs) (compl_struck hst hc)
        refine ⟨a', e, by rw [s', hst.1], l', fin', fun b hb => ?_⟩
        rw [pad' b hb]
        exact bool_eq_of_iff_or (hst.2.2 b) (by omega)
    · -- the bit is set: a composite, skip
      simp only [Bool.not_true, Bool.false_eq_true, if_false]
      have hnp : ¬ (bit_to_n j).Prime := hs j (Nat.le_trans hj hj0) hbit
      have hjlt : j < j0 := by
        rcases Nat.lt_or_eq_of_le hj with h | h
        · exact h
        · exfalso; rw [h] at hnp; exact hnp hp0
      exact ih (j + 1) a (by omega) (by omega) hsz hl hs (compl_skip hnp hc)

theorem adj_def (L step off : ℕ) :
    (if L < off then L + step * ((off - L - 1) / step + 1) else L) - off = adj L step off := rfl

/-- after the `continue` of primesieve.c:216 (`__i` advanced, `__mask`/`__index` not) the next pass tests the
    same clear bit with the next number, whose square index is beyond the window: `break`. -/
theorem brLoop_desync (bits off sb : ℕ) (sv : Array ℕ) (fuel : ℕ) (a : Array ℕ) (mask index j : ℕ)
    (hclr : clearAt sv index mask = true) (hsq : bits + off < sqIndex (j + 2) (id_to_n (j + 2))) :
    brLoop bits off sb sv fuel a mask index (j + 1) = a := by
  cases fuel with
  | zero => rfl
  | succ f => simp only [brLoop, hclr, if_true, show j + 1 + 1 = j + 2 by omega, gt_iff_lt, hsq]

/-- `sv`, `sb`: the part of the sieve already final, read by LOOP_ON_SIEVE; `hH`: its primes suffice for the window -/
theorem brLoop_spec (bits off sb : ℕ) (sv : Array ℕ)
    (hsv : Final sv 0 sb)
    (hH : bit_to_n (bits + off) < bit_to_n (sb + 1) * bit_to_n (sb + 1)) :
    ∀ fuel j (a : Array ℕ), j ≤ sb → sb < fuel + j → bits / 64 < a.size → LimbsA a → Sound a off bits →
      Compl a off bits (bit_to_n j) →
      ∃ a', brLoop bits off sb sv fuel a (2 ^ (j % 64)) (j / 64) j = a' ∧ a'.size = a.size ∧ LimbsA a' ∧
        Final a' off bits := by
  intro fuel
  induction fuel with
  | zero => intro j a h1 h2; omega
  | succ f ih =>
    intro j a hj hfuel hsz hl hs hc
    simp only [brLoop, clearAt_eq, mask_step, index_step]
    cases hbit : sieveBit sv j
    · -- clear: bit_to_n j = id_to_n (j+1) is a prime
      simp only [Bool.not_false, if_true]
      have hprime : (bit_to_n j).Prime := by
        by_contra hnp
        have := (hsv j hj).2 hnp
        rw [hbit] at this; exact absurd this (by simp)
      have hsqn : bit_to_n (sqIndex (j + 1) (id_to_n (j + 1))) = bit_to_n j * bit_to_n j := by
        rw [bit_to_n_sqIndex (j + 1) (by omega), ← bit_to_n_eq_id]
      have hnxn : bit_to_n (nextIndex (j + 1)) = bit_to_n j * bit_to_n (j + 1) := by
        rw [bit_to_n_nextIndex (j + 1), ← bit_to_n_eq_id, ← bit_to_n_eq_id]
      by_cases hbrk : sqIndex (j + 1) (id_to_n (j + 1)) > bits + off
      · simp only [hbrk, if_true]
        refine ⟨a, rfl, rfl, hl, final_of_compl hs hc ?_⟩
        rw [← hsqn]; exact bit_to_n_lt hbrk
      · simp only [hbrk, if_false, adj_def, shiftLeft_one_eq]
        by_cases hcont : nextIndex (j + 1) > bits + off
        · -- `continue`
          simp only [hcont, if_true]
          have hst := strike_first (j + 1) off bits (by omega) hcont a hsz hl
          have hdes : ∀ x, brLoop bits off sb sv f x (2 ^ (j % 64)) (j / 64) (j + 1) = x := by
            intro x
            apply brLoop_desync
            · rw [clearAt_eq, hbit]; rfl
            · have h1 : bit_to_n (nextIndex (j + 1)) < bit_to_n (sqIndex (j + 2) (id_to_n (j + 2))) := by
                rw [hnxn, bit_to_n_sqIndex (j + 2) (by omega), ← bit_to_n_eq_id]
                exact Nat.mul_lt_mul_of_pos_right (bit_to_n_lt (by omega)) (by have := bit_to_n_ge (j + 1); omega)
              have h2 : nextIndex (j + 1) < sqIndex (j + 2) (id_to_n (j + 2)) := by
                by_contra hge
                have := bit_to_n_le (Nat.le_of_not_lt hge)
                omega
              omega
          rw [hdes, ite_self]
          refine ⟨_, rfl, hst.1, hst.2.1, final_of_compl (sound_struck (by omega) hst hs) (compl_struck hst hc) ?_⟩
          have h1 : bit_to_n (bits + off) < bit_to_n (nextIndex (j + 1)) := bit_to_n_lt hcont
          rw [hnxn] at h1
          have : bit_to_n j * bit_to_n (j + 1) ≤ bit_to_n (j + 1) * bit_to_n (j + 1) :=
            Nat.mul_le_mul_right _ (bit_to_n_le (by omega))
          omega
        · simp only [hcont, if_false]
          have hst := strike_both (j + 1) off bits (by omega) a hsz hl
          by_cases hmore : j + 1 ≤ sb
          · simp only [hmore, if_true]
            obtain ⟨a', e, s', l', fin'⟩ := ih (j + 1) _ hmore (by omega) (by rw [hst.1]; exact hsz) hst.2.1
              (sound_struck (by omega) hst hs) (compl_struck hst hc)
            exact ⟨a', e, by rw [s', hst.1], l', fin'⟩
          · simp only [hmore, if_false]
            have hjsb : j = sb := by omega
            refine ⟨_, rfl, hst.1, hst.2.1, final_of_compl (sound_struck (by omega) hst hs) (compl_struck hst hc) ?_⟩
            rw [hjsb]; exact hH
    · -- set: a composite
      simp only [Bool.not_true, Bool.false_eq_true, if_false]
      have hnp : ¬ (bit_to_n j).Prime := (hsv j hj).1 hbit
      by_cases hmore : j + 1 ≤ sb
      · simp only [hmore, if_true]
        exact ih (j + 1) a hmore (by omega) hsz hl hs (compl_skip hnp hc)
      · simp only [hmore, if_false]
        have hjsb : j = sb := by omega
        refine ⟨a, rfl, rfl, hl, final_of_compl hs (compl_skip hnp hc) ?_⟩
        rw [hjsb]; exact hH

end Mpir.Sieve
