/- For the mpf_set_str / mpf_get_str model (Mpir/Model/MpfStr.lean): limb counts, truncation to the top limbs, and the
   one-sided relation `Appr` in which the truncation errors of mpn_pow_1_highpart accumulate. -/
import MpirProofs.Lemmas.Mpf
import Mpir.Model.MpfStr
namespace Mpir.MpfStr
open Mpir Mpir.Mpf

theorem lt_succ_div_mul (a : ℕ) {d : ℕ} (hd : 0 < d) : a < (a / d + 1) * d := by
  rw [Nat.mul_comm]; exact Nat.lt_mul_div_succ a hd

theorem natDiv_cast_le (a : ℕ) {d : ℕ} (hd : 0 < d) : ((a / d : ℕ) : ℚ) ≤ (a : ℚ) / (d : ℚ) := by
  rw [le_div_iff₀ (by exact_mod_cast hd)]
  exact_mod_cast Nat.div_mul_le_self a d

theorem natDiv_cast_lt (a : ℕ) {d : ℕ} (hd : 0 < d) : (a : ℚ) / (d : ℚ) < ((a / d : ℕ) : ℚ) + 1 := by
  rw [div_lt_iff₀ (by exact_mod_cast hd)]
  exact_mod_cast lt_succ_div_mul a hd

theorem limbLen_isSize : IsSize limbLen := limbCount_le_iff

theorem limbLen_zero : limbLen 0 = 0 := limbLen_isSize.eq_zero.mpr rfl

theorem limbLen_spec {v : Nat} (hv : v ≠ 0) : B ^ (limbLen v - 1) ≤ v ∧ v < B ^ limbLen v :=
  ⟨limbLen_isSize.pow_le hv, limbLen_isSize.lt_pow v⟩

theorem limbLen_mul_Bpow {v : Nat} (hv : v ≠ 0) (k : Nat) : limbLen (v * B ^ k) = limbLen v + k := by
  rw [Nat.mul_comm, limbLen_isSize.Bpow_mul k hv, Nat.add_comm]

theorem limbLen_div_Bpow (v d : Nat) : limbLen (v / B ^ d) = limbLen v - d := limbLen_isSize.div_pow v d

theorem keepTop_eq (P v : Nat) : keepTop P v = (v / B ^ (limbLen v - P), limbLen v - P) := by
  unfold keepTop
  dsimp only
  split
  · rfl
  · rw [Nat.sub_eq_zero_of_le (by omega), pow_zero, Nat.div_one]

theorem keepTop_spec (P : Nat) (hP : 1 ≤ P) {v : Nat} (hv : v ≠ 0) :
    (keepTop P v).1 * B ^ (keepTop P v).2 ≤ v ∧ v < ((keepTop P v).1 + 1) * B ^ (keepTop P v).2 ∧
    limbLen (keepTop P v).1 = min (limbLen v) P ∧ (keepTop P v).1 ≠ 0 ∧
    limbLen v = limbLen (keepTop P v).1 + (keepTop P v).2 ∧
    (limbLen v ≤ P → keepTop P v = (v, 0)) := by
  rw [keepTop_eq]
  dsimp only
  have hp := limbLen_isSize.pos hv
  have hl := limbLen_div_Bpow v (limbLen v - P)
  refine ⟨Nat.div_mul_le_self _ _, lt_succ_div_mul v (Bpow_pos _), by omega, ?_, by omega, ?_⟩
  · intro h; rw [h, limbLen_isSize.eq_zero.mpr rfl] at hl; omega
  · intro h; rw [Nat.sub_eq_zero_of_le h, pow_zero, Nat.div_one]

theorem keepTop_fst_ne (P : Nat) (hP : 1 ≤ P) {v : Nat} (hv : v ≠ 0) : (keepTop P v).1 ≠ 0 := (keepTop_spec P hP hv).2.2.2.1

theorem limbLen_keepTop_fst (P : Nat) (hP : 1 ≤ P) {v : Nat} (hv : v ≠ 0) :
    limbLen (keepTop P v).1 = min (limbLen v) P := (keepTop_spec P hP hv).2.2.1

/-- `x` approximates `v` from below within `k` factors `(1 - ε)` -/
def Appr (ε : ℚ) (x v : ℚ) (k : ℕ) : Prop := v * (1 - ε) ^ k ≤ x ∧ x ≤ v

section appr
variable {ε : ℚ}

theorem Appr.refl (v : ℚ) : Appr ε v v 0 := by unfold Appr; simp

theorem Appr.mul_const {x v : ℚ} {k : ℕ} (h : Appr ε x v k) {c : ℚ} (hc : 0 ≤ c) : Appr ε (x * c) (v * c) k := by
  refine ⟨?_, mul_le_mul_of_nonneg_right h.2 hc⟩
  calc v * c * (1 - ε) ^ k = (v * (1 - ε) ^ k) * c := by ring
    _ ≤ x * c := mul_le_mul_of_nonneg_right h.1 hc

theorem Appr.mono (h0 : 0 ≤ ε) (h1 : ε ≤ 1) {x v : ℚ} {k k' : ℕ} (hv : 0 ≤ v) (h : Appr ε x v k) (hk : k ≤ k') :
    Appr ε x v k' :=
  ⟨le_trans (mul_le_mul_of_nonneg_left (pow_le_pow_of_le_one (by linarith) (by linarith) hk) hv) h.1, h.2⟩

-- `ε ≤ 1` is the first explicit argument of every lemma below
variable (h1 : ε ≤ 1)
include h1

theorem one_sub_pow_nonneg (k : ℕ) : 0 ≤ (1 - ε) ^ k := pow_nonneg (by linarith) k

theorem Appr.trans {x y v : ℚ} {j k : ℕ} (hxy : Appr ε x y j) (hyv : Appr ε y v k) :
    Appr ε x v (j + k) := by
  refine ⟨?_, le_trans hxy.2 hyv.2⟩
  calc v * (1 - ε) ^ (j + k) = (v * (1 - ε) ^ k) * (1 - ε) ^ j := by rw [pow_add]; ring
    _ ≤ y * (1 - ε) ^ j := mul_le_mul_of_nonneg_right hyv.1 (one_sub_pow_nonneg h1 j)
    _ ≤ x := hxy.1

theorem Appr.nonneg {x v : ℚ} {k : ℕ} (hv : 0 ≤ v) (h : Appr ε x v k) : 0 ≤ x :=
  le_trans (mul_nonneg hv (one_sub_pow_nonneg h1 k)) h.1

theorem Appr.mul {x v y w : ℚ} {j k : ℕ} (hv : 0 ≤ v) (hw : 0 ≤ w) (hx : Appr ε x v j) (hy : Appr ε y w k) :
    Appr ε (x * y) (v * w) (j + k) := by
  have hx0 := Appr.nonneg h1 hv hx
  have hy0 := Appr.nonneg h1 hw hy
  refine ⟨?_, mul_le_mul hx.2 hy.2 hy0 hv⟩
  calc v * w * (1 - ε) ^ (j + k) = (v * (1 - ε) ^ j) * (w * (1 - ε) ^ k) := by rw [pow_add]; ring
    _ ≤ x * y := mul_le_mul hx.1 hy.1 (mul_nonneg hw (one_sub_pow_nonneg h1 k)) hx0

theorem Appr.sq {x v : ℚ} {k : ℕ} (hv : 0 ≤ v) (h : Appr ε x v k) : Appr ε (x * x) (v * v) (2 * k) := by
  have := Appr.mul h1 hv hv h h
  rwa [← two_mul] at this

/-- a quotient of two approximations from below is off by the factors of the numerator on one side and by
    those of the denominator on the other -/
theorem Appr.div {x v y w : ℚ} {j k : ℕ} (hv : 0 ≤ v) (hy : 0 < y) (hx : Appr ε x v j) (hyw : Appr ε y w k) :
    v / w * (1 - ε) ^ j ≤ x / y ∧ x / y * (1 - ε) ^ k ≤ v / w := by
  have hw : 0 < w := lt_of_lt_of_le hy hyw.2
  constructor
  · calc v / w * (1 - ε) ^ j = v * (1 - ε) ^ j / w := by ring
      _ ≤ x / w := div_le_div_of_nonneg_right hx.1 hw.le
      _ ≤ x / y := div_le_div_of_nonneg_left (Appr.nonneg h1 hv hx) hy hyw.2
  · rw [div_mul_eq_mul_div, div_le_div_iff₀ hy hw]
    calc x * (1 - ε) ^ k * w = x * (w * (1 - ε) ^ k) := by ring
      _ ≤ v * y := mul_le_mul hx.2 hyw.1 (mul_nonneg hw.le (one_sub_pow_nonneg h1 k)) hv

/-- Bernoulli: the accumulated factor loses at most `k ε` -/
theorem one_sub_pow_ge (k : ℕ) : 1 - (k : ℚ) * ε ≤ (1 - ε) ^ k := by
  have := one_add_mul_le_pow (show (-2 : ℚ) ≤ -ε by linarith) k
  calc 1 - (k : ℚ) * ε = 1 + (k : ℚ) * (-ε) := by ring
    _ ≤ (1 + -ε) ^ k := this
    _ = (1 - ε) ^ k := by rw [← sub_eq_add_neg]

theorem Appr.err {x v : ℚ} {k : ℕ} (hv : 0 ≤ v) (h : Appr ε x v k) : v - x ≤ (k : ℚ) * ε * v := by
  have : v * (1 - (k : ℚ) * ε) ≤ x := le_trans (mul_le_mul_of_nonneg_left (one_sub_pow_ge h1 k) hv) h.1
  linarith

end appr

/-- ε of a `P`-limb truncation -/
def epsP (P : Nat) : ℚ := 1 / (B : ℚ) ^ (P - 1)

theorem epsP_pos (P : ℕ) : 0 < epsP P := by unfold epsP; exact div_pos one_pos (pow_pos Bq_pos _)
theorem epsP_nonneg (P : Nat) : 0 ≤ epsP P := (epsP_pos P).le
theorem epsP_le_one (P : Nat) : epsP P ≤ 1 := by
  unfold epsP
  rw [div_le_one (pow_pos Bq_pos _)]; exact one_le_pow₀ (by exact_mod_cast B_pos)

/-- flooring to a multiple of `d` with at least `P` limbs in the quotient costs one factor:
    the error is below `d ≤ X / B^(P-1)` -/
theorem appr_floor (P : ℕ) (q : ℕ) (d X : ℚ) (hd : 0 < d) (hq : B ^ (P - 1) ≤ q)
    (h1 : (q : ℚ) * d ≤ X) (h2 : X < ((q : ℚ) + 1) * d) : Appr (epsP P) ((q : ℚ) * d) X 1 := by
  have hBq : (0 : ℚ) < (B : ℚ) ^ (P - 1) := pow_pos Bq_pos _
  have hq' : (B : ℚ) ^ (P - 1) ≤ (q : ℚ) := by exact_mod_cast hq
  refine ⟨?_, h1⟩
  have key : d ≤ X * epsP P := by
    unfold epsP
    rw [mul_one_div, le_div_iff₀ hBq]
    calc d * (B : ℚ) ^ (P - 1) ≤ d * (q : ℚ) := mul_le_mul_of_nonneg_left hq' hd.le
      _ = (q : ℚ) * d := by ring
      _ ≤ X := h1
  rw [pow_one]
  linarith

theorem appr_natDiv (P a : ℕ) {d : ℕ} (hd : 0 < d) (hq : B ^ (P - 1) ≤ a / d) :
    Appr (epsP P) ((a / d : ℕ) : ℚ) ((a : ℚ) / (d : ℚ)) 1 := by
  have := appr_floor P (a / d) 1 ((a : ℚ) / (d : ℚ)) one_pos hq
    (by rw [mul_one]; exact natDiv_cast_le a hd) (by rw [mul_one]; exact natDiv_cast_lt a hd)
  rwa [mul_one] at this

theorem keepTop_big (P : ℕ) (hP : 1 ≤ P) {v : ℕ} (hv : v ≠ 0) :
    (keepTop P v).2 = 0 ∨ B ^ (P - 1) ≤ (keepTop P v).1 := by
  obtain ⟨_, _, c, d, _, f⟩ := keepTop_spec P hP hv
  by_cases hle : limbLen v ≤ P
  · left; rw [f hle]
  · right
    have := (limbLen_spec d).1
    rwa [c, Nat.min_eq_right (by omega)] at this

/-- the `Appr` twin of `Cut.of_nat` -/
theorem appr_of_nat (P : ℕ) {t N k : ℕ} (h1 : t * B ^ k ≤ N) (h2 : N < (t + 1) * B ^ k)
    (hq : k = 0 ∨ B ^ (P - 1) ≤ t) : Appr (epsP P) ((t : ℚ) * (B : ℚ) ^ k) (N : ℚ) 1 := by
  rcases hq with rfl | hq
  · rw [pow_zero, mul_one] at h1 h2
    rw [pow_zero, mul_one, show t = N by omega]
    exact Appr.mono (epsP_nonneg P) (epsP_le_one P) (Nat.cast_nonneg _) (Appr.refl _) (Nat.zero_le 1)
  · exact appr_floor P t ((B : ℚ) ^ k) N (pow_pos Bq_pos _) hq (by exact_mod_cast h1) (by exact_mod_cast h2)

theorem appr_keepTop (P : Nat) (hP : 1 ≤ P) {v : Nat} (hv : v ≠ 0) :
    Appr (epsP P) (((keepTop P v).1 : ℚ) * (B : ℚ) ^ (keepTop P v).2) (v : ℚ) 1 :=
  appr_of_nat P (keepTop_spec P hP hv).1 (keepTop_spec P hP hv).2.1 (keepTop_big P hP hv)

theorem keepTop_cut (prec : ℕ) (hp : 1 ≤ prec) {v : ℕ} (hv : v ≠ 0) (z : ℤ) :
    Cut prec ((v : ℚ) * (B : ℚ) ^ z)
      ((((keepTop (prec + 1) v).1 * B ^ (keepTop (prec + 1) v).2 : ℕ) : ℚ) * (B : ℚ) ^ z) :=
  Cut.of_nat hp z (keepTop_spec (prec + 1) (by omega) hv).1 (keepTop_spec (prec + 1) (by omega) hv).2.1
    ((keepTop_big (prec + 1) (by omega) hv).imp id (le_trans (Nat.pow_le_pow_right B_pos (by omega))))

theorem keepTop_exact (prec : ℕ) (hp : 1 ≤ prec) {v : ℕ} (hv : v ≠ 0) (h : Fits (v : ℚ) (PREC_TO_BITS prec)) :
    (keepTop (prec + 1) v).1 * B ^ (keepTop (prec + 1) v).2 = v := by
  have := (keepTop_cut prec hp hv 0).exact hp (by simpa using h)
  rw [zpow_zero, mul_one, mul_one] at this
  exact_mod_cast this

theorem Appr.keepTop {P : ℕ} (hP : 1 ≤ P) {x : ℕ} (hx : x ≠ 0) {n : ℕ} {v : ℚ} {k : ℕ}
    (h : Appr (epsP P) ((x : ℚ) * (B : ℚ) ^ n) v k) :
    Appr (epsP P) (((keepTop P x).1 : ℚ) * (B : ℚ) ^ (n + (keepTop P x).2)) v (1 + k) := by
  have ak := Appr.mul_const (appr_keepTop P hP hx) (pow_pos Bq_pos n).le
  rw [pow_add, mul_comm (_ ^ _) (_ ^ _), ← mul_assoc]
  exact Appr.trans (epsP_le_one P) ak h

theorem powLoop_one (base P : Nat) : powLoop base P 1 = (base, 0) := by
  rw [powLoop]; simp

theorem powLoop_step (base P e : Nat) (he : 2 ≤ e) :
    powLoop base P e = powStep base P (powLoop base P (e / 2)) (e % 2 == 1) := by
  rw [powLoop]; simp [show ¬ e ≤ 1 by omega]

/-- induction along the squaring loop: from the state for `e / 2` to the state for `e` -/
theorem powLoop_induction (base P : Nat) {C : Nat → Nat × Nat → Prop} (h1 : C 1 (base, 0))
    (hstep : ∀ e st, 2 ≤ e → C (e / 2) st → C e (powStep base P st (e % 2 == 1))) :
    ∀ e, 1 ≤ e → C e (powLoop base P e) := by
  intro e
  induction e using Nat.strong_induction_on with
  | _ e ih =>
    intro he
    by_cases h2 : e = 1
    · subst h2; rw [powLoop_one]; exact h1
    · rw [powLoop_step base P e (by omega)]
      exact hstep e _ (by omega) (ih (e / 2) (by omega) (by omega))

theorem pow_half_sq {R : Type*} [Monoid R] (b : R) (e : ℕ) :
    b ^ (e / 2) * b ^ (e / 2) * (if e % 2 == 1 then b else 1) = b ^ e := by
  rw [← pow_add]
  rcases Nat.mod_two_eq_zero_or_one e with h | h <;> rw [h]
  · rw [if_neg (by decide), mul_one]; congr 1; omega
  · rw [if_pos (by decide), ← pow_succ]; congr 1; omega

/-- one round: squaring doubles the accumulated factors, the truncation adds one -/
theorem powStep_appr (base P : Nat) (hb : 1 ≤ base) (hP : 1 ≤ P) {st : Nat × Nat} {v : ℚ} {k : ℕ} (bit : Bool)
    (hst : st.1 ≠ 0) (hv : 0 ≤ v) (h : Appr (epsP P) ((st.1 : ℚ) * (B : ℚ) ^ st.2) v k) :
    (powStep base P st bit).1 ≠ 0 ∧
    Appr (epsP P) (((powStep base P st bit).1 : ℚ) * (B : ℚ) ^ (powStep base P st bit).2)
      (v * v * (if bit then (base : ℚ) else 1)) (1 + 2 * k) := by
  have hsq : st.1 * st.1 ≠ 0 := Nat.mul_ne_zero hst hst
  have kne := keepTop_fst_ne P hP hsq
  have sq := Appr.sq (epsP_le_one P) hv h
  rw [show (st.1 : ℚ) * (B : ℚ) ^ st.2 * ((st.1 : ℚ) * (B : ℚ) ^ st.2) =
    ((st.1 * st.1 : ℕ) : ℚ) * (B : ℚ) ^ (2 * st.2) by push_cast; ring] at sq
  have tr := Appr.keepTop hP hsq sq
  unfold powStep
  cases bit
  · exact ⟨kne, by simpa using tr⟩
  · refine ⟨Nat.mul_ne_zero kne (by omega), ?_⟩
    have m := Appr.mul_const tr (Nat.cast_nonneg base)
    simp only [↓reduceIte]
    convert m using 1
    push_cast; ring

/-- invariant of the squaring loop: the state is base^e from below within e-1 truncation factors -/
theorem powLoop_appr (base P : Nat) (hb : 1 ≤ base) (hP : 1 ≤ P) : ∀ e : Nat, 1 ≤ e →
    (powLoop base P e).1 ≠ 0 ∧
    Appr (epsP P) (((powLoop base P e).1 : ℚ) * (B : ℚ) ^ (powLoop base P e).2) ((base : ℚ) ^ e) (e - 1) := by
  refine powLoop_induction base P (C := fun e st => st.1 ≠ 0 ∧
    Appr (epsP P) ((st.1 : ℚ) * (B : ℚ) ^ st.2) ((base : ℚ) ^ e) (e - 1)) ?_ ?_
  · exact ⟨by simp; omega, by simpa using Appr.refl (base : ℚ)⟩
  · intro e st he ⟨r0, a0⟩
    obtain ⟨r, a⟩ := powStep_appr base P hb hP (e % 2 == 1) r0 (by positivity) a0
    rw [pow_half_sq] at a
    exact ⟨r, Appr.mono (epsP_nonneg P) (epsP_le_one P) (by positivity) a (by omega)⟩

/-- mpn_pow_1_highpart: the returned limbs (at most `P`, top limb non-zero) times B^ign are base^e from below
    within `e` truncation factors `(1 - B^(1-P))` -/
theorem powHigh_appr (base P e : Nat) (hb : 1 ≤ base) (hP : 1 ≤ P) (he : 1 ≤ e) :
    (powHigh base e P).1 ≠ 0 ∧ limbLen (powHigh base e P).1 ≤ P ∧
    Appr (epsP P) (((powHigh base e P).1 : ℚ) * (B : ℚ) ^ (powHigh base e P).2) ((base : ℚ) ^ e) e := by
  obtain ⟨r0, a0⟩ := powLoop_appr base P hb hP e he
  have kl := limbLen_keepTop_fst P hP r0
  have kne := keepTop_fst_ne P hP r0
  have tr := Appr.keepTop hP r0 a0
  rw [show 1 + (e - 1) = e by omega] at tr
  exact ⟨kne, by unfold powHigh; rw [kl]; omega, tr⟩

end Mpir.MpfStr
