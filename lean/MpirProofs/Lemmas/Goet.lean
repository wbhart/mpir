/- Goetgheluck's binomial algorithm (mpz/bin_uiui.c:581-702, model in Mpir/Model/Numth.lean): Kummer's theorem in
   the borrow-chain form COUNT_A_PRIME computes, the prime ranges, the product over the sieve walk. -/
import MpirProofs.Lemmas.SwingAsm
import Mathlib.Data.Nat.Choose.Factorization
namespace Mpir.Numth
open Mpir Mpir.Gen.NumthTabs Mpir.Sieve
open Nat

/-- number of borrows when b (+ incoming borrow c) is subtracted from a in base p, walked the way COUNT_A_PRIME
    does: `do { mb += b % p; b /= p; ma = a % p; a /= p; if (ma < mb) { mb = 1; e++; } else mb = 0; } while (a >= p)` -/
def kumExp (p : ℕ) : ℕ → ℕ → ℕ → ℕ → ℕ
  | 0, _, _, _ => 0
  | f + 1, a, b, c =>
    (if a % p < c + b % p then 1 else 0) +
      (if a / p ≥ p then kumExp p f (a / p) (b / p) (if a % p < c + b % p then 1 else 0) else 0)

theorem kumExp_lt (p f a b c : ℕ) (ha : a < p) (hbc : b + c ≤ a) : kumExp p f a b c = 0 := by
  cases f with
  | zero => rfl
  | succ f =>
    have h1 : a % p = a := Nat.mod_eq_of_lt ha
    have h2 : b % p = b := Nat.mod_eq_of_lt (by omega)
    have h3 : a / p = 0 := Nat.div_eq_of_lt ha
    have h4 : ¬ (a < c + b) := by omega
    have h5 : ¬ (0 ≥ p) := by omega
    simp [kumExp, h1, h2, h3, h4, h5]

/-- above the square root a single pass of COUNT_A_PRIME's loop is made -/
theorem kumExp_of_div_lt {p f a b c : ℕ} (hf : 0 < f) (h : a / p < p) :
    kumExp p f a b c = if a % p < c + b % p then 1 else 0 := by
  obtain ⟨f, rfl⟩ : ∃ g, f = g + 1 := ⟨f - 1, by omega⟩
  rw [kumExp, if_neg (show ¬ a / p ≥ p by omega), Nat.add_zero]

/-- one digit of the subtraction a − b − c in base p -/
theorem sub_div_digit (p a b c : ℕ) (hp : 0 < p) (hc : c ≤ 1) (hbc : b + c ≤ a) :
    b / p + (if a % p < c + b % p then 1 else 0) ≤ a / p ∧
    (a - b - c) / p = a / p - b / p - (if a % p < c + b % p then 1 else 0) := by
  have ha := Nat.div_add_mod a p
  have hb := Nat.div_add_mod b p
  have hα : a % p < p := Nat.mod_lt _ hp
  have hγ : b % p < p := Nat.mod_lt _ hp
  have hle : b / p ≤ a / p := Nat.div_le_div_right (by omega)
  have hmul : p * (b / p) ≤ p * (a / p) := Nat.mul_le_mul_left _ hle
  by_cases hβ : a % p < c + b % p
  · simp only [hβ, if_true]
    have hlt : b / p + 1 ≤ a / p := by
      by_contra hcon
      have : a / p = b / p := by omega
      rw [this] at ha; omega
    have hmul2 : p * (b / p + 1) ≤ p * (a / p) := Nat.mul_le_mul_left _ hlt
    refine ⟨hlt, ?_⟩
    apply Nat.div_eq_of_lt_le
    · rw [Nat.sub_mul, Nat.sub_mul, Nat.mul_comm (a / p), Nat.mul_comm (b / p), Nat.one_mul]
      rw [Nat.mul_add, Nat.mul_one] at hmul2; omega
    · rw [show a / p - b / p - 1 + 1 = a / p - b / p by omega, Nat.sub_mul, Nat.mul_comm (a / p), Nat.mul_comm (b / p)]
      omega
  · simp only [hβ, if_false, Nat.add_zero, Nat.sub_zero]
    refine ⟨hle, ?_⟩
    apply Nat.div_eq_of_lt_le
    · rw [Nat.sub_mul, Nat.mul_comm (a / p), Nat.mul_comm (b / p)]; omega
    · rw [Nat.add_mul, Nat.sub_mul, Nat.mul_comm (a / p), Nat.mul_comm (b / p), Nat.one_mul]; omega

/-- Kummer via Legendre: v_p(a!) = v_p(b!) + v_p((a−b−c)!) + (number of borrows) -/
theorem kummer_legendre (p : ℕ) [hp : Fact p.Prime] :
    ∀ f a b c, c ≤ 1 → b + c ≤ a → a < 2 ^ f →
      padicValNat p a ! = padicValNat p b ! + padicValNat p (a - b - c)! + kumExp p f a b c := by
  intro f
  induction f with
  | zero =>
    intro a b c _ hbc ha
    have : a = 0 := by simpa using ha
    subst this
    have : b = 0 := by omega
    subst this
    simp [kumExp]
  | succ f ih =>
    intro a b c hc hbc ha
    have hp2 := hp.out.two_le
    obtain ⟨d1, d2⟩ := sub_div_digit p a b c (by omega) hc hbc
    have ha' : a / p < 2 ^ f := by
      have : a / p ≤ a / 2 := Nat.div_le_div_left hp2 (by norm_num)
      rw [pow_succ] at ha; omega
    generalize hβ : (if a % p < c + b % p then 1 else 0) = β at d1 d2
    have hβ1 : β ≤ 1 := by rw [← hβ]; split <;> omega
    have hrec := ih (a / p) (b / p) β hβ1 d1 ha'
    have hk : kumExp p (f + 1) a b c = β + kumExp p f (a / p) (b / p) β := by
      simp only [kumExp, hβ]
      by_cases hge : a / p ≥ p
      · simp [hge]
      · simp only [hge, if_false]
        rw [kumExp_lt p f (a / p) (b / p) β (by omega) d1]
    rw [hk, legendre_step p a, legendre_step p b, legendre_step p (a - b - c), d2, hrec]
    omega

theorem pow_kumExp_le (p : ℕ) (hp : 2 ≤ p) : ∀ f a b c, c ≤ 1 → b + c ≤ a → 1 ≤ a → p ^ kumExp p f a b c ≤ a := by
  intro f
  induction f with
  | zero => intro a b c _ _ ha; simpa [kumExp] using ha
  | succ f ih =>
    intro a b c hc hbc ha
    by_cases hlt : a < p
    · rw [kumExp_lt p _ a b c hlt hbc]; simpa using ha
    · obtain ⟨d1, _⟩ := sub_div_digit p a b c (by omega) hc hbc
      simp only [kumExp]
      generalize hβ : (if a % p < c + b % p then 1 else 0) = β at d1
      have hβ1 : β ≤ 1 := by rw [← hβ]; split <;> omega
      have h1 : 1 ≤ a / p := (Nat.le_div_iff_mul_le (by omega)).2 (by omega)
      have h4 : p * (a / p) ≤ a := Nat.mul_div_le a p
      have h3 : p ^ β ≤ p := by
        calc p ^ β ≤ p ^ 1 := Nat.pow_le_pow_right (by omega) hβ1
          _ = p := pow_one p
      rw [pow_add]
      by_cases hge : a / p ≥ p
      · simp only [hge, if_true]
        calc p ^ β * p ^ kumExp p f (a / p) (b / p) β ≤ p * (a / p) := Nat.mul_le_mul h3 (ih _ _ _ hβ1 d1 h1)
          _ ≤ a := h4
      · simp only [hge, if_false, pow_zero, Nat.mul_one]
        calc p ^ β ≤ p * 1 := by simpa using h3
          _ ≤ p * (a / p) := Nat.mul_le_mul_left _ h1
          _ ≤ a := h4

/-- COUNT_A_PRIME's loop (bin_uiui.c:581-594) -/
theorem countPowers_eq (p : ℕ) (hp : 1 ≤ p) :
    ∀ f a b c pr, pr * p ^ kumExp p f a b c < B → countPowers p f a b c pr = pr * p ^ kumExp p f a b c := by
  intro f
  induction f with
  | zero => intro a b c pr _; simp [countPowers, kumExp]
  | succ f ih =>
    intro a b c pr hlt
    simp only [kumExp] at hlt ⊢
    simp only [countPowers]
    by_cases hβ : a % p < c + b % p
    · simp only [hβ, if_true] at hlt ⊢
      rw [pow_add, pow_one] at hlt ⊢
      by_cases hge : a / p ≥ p
      · simp only [hge, if_true] at hlt ⊢
        have hpos : 1 ≤ p ^ kumExp p f (a / p) (b / p) 1 := Nat.one_le_pow _ _ (by omega)
        have hfit : pr * p < B :=
          Nat.lt_of_le_of_lt (Nat.mul_le_mul_left _ (Nat.le_mul_of_pos_right _ hpos)) hlt
        rw [Nat.mod_eq_of_lt hfit, ih _ _ _ _ (by rw [Nat.mul_assoc]; exact hlt)]; ring
      · simp only [hge, if_false, pow_zero, Nat.mul_one] at hlt ⊢
        rw [Nat.mod_eq_of_lt hlt]
    · simp only [hβ, if_false, Nat.zero_add] at hlt ⊢
      by_cases hge : a / p ≥ p
      · simp only [hge, if_true] at hlt ⊢
        exact ih _ _ _ _ hlt
      · simp only [hge, if_false, pow_zero, Nat.mul_one]

/-- COUNT_A_PRIME (p, n, k, prod, max_prod, factors, j) -/
theorem countAPrime_val (n k M p : ℕ) (hp : 1 ≤ p) (hM : 1 ≤ M) (hfit : M * p ^ kumExp p 64 n k 0 < B) (st : FL) :
    flVal (countAPrime n k M p st) = flVal st * p ^ kumExp p 64 n k 0 :=
  flAppend_pow_val (countPowers p 64 n k 0) M p _ hM hfit (countPowers_eq p hp 64 n k 0) st

/-- SH_COUNT_A_PRIME -/
theorem shCountAPrime_val (n k M p : ℕ) (hfit : M * p < B) (st : FL) :
    flVal (shCountAPrime n k M p st) = flVal st * p ^ (if n % p < k % p then 1 else 0) := by
  unfold shCountAPrime
  split
  · rw [pow_one]; exact flStore_val_of_le st le_rfl hfit
  · rw [pow_zero, Nat.mul_one]

theorem padicValNat_two_factorial (m : ℕ) (hm : m < B) : padicValNat 2 m ! = m - popcount m := by
  have h := factorial_two_adic m hm
  have ho := (oddPart_spec (m !) (Nat.factorial_ne_zero m)).1
  have : Fact (Nat.Prime 2) := ⟨Nat.prime_two⟩
  conv_lhs => rw [h]
  rw [padicValNat.mul (by positivity) (by omega), padicValNat.prime_pow,
    padicValNat.eq_zero_of_not_dvd (by omega)]
  omega

theorem popcount_le (m : ℕ) : popcount m ≤ m := popc_le 64 m

theorem padicValNat_choose_add (p : ℕ) [Fact p.Prime] {n k : ℕ} (hk : k ≤ n) :
    padicValNat p (n.choose k) + padicValNat p k ! + padicValNat p (n - k)! = padicValNat p n ! := by
  have hc : n.choose k ≠ 0 := Nat.pos_iff_ne_zero.1 (Nat.choose_pos hk)
  rw [← Nat.choose_mul_factorial_mul_factorial hk,
    padicValNat.mul (Nat.mul_ne_zero hc (Nat.factorial_ne_zero _)) (Nat.factorial_ne_zero _),
    padicValNat.mul hc (Nat.factorial_ne_zero _)]

/-- Kummer, as COUNT_A_PRIME computes it -/
theorem padicValNat_choose_eq_kumExp (p : ℕ) [Fact p.Prime] (n k : ℕ) (hn : n < 2 ^ 64) (hk : k ≤ n) :
    padicValNat p (n.choose k) = kumExp p 64 n k 0 := by
  have hv := padicValNat_choose_add p hk
  have hkl := kummer_legendre p 64 n k 0 (by omega) (by omega) hn
  simp only [Nat.sub_zero] at hkl
  omega

/-- `popc(n-k) + popc(k) - popc(n)` (bin_uiui.c:637-641) is the exponent of 2 in binomial(n,k) -/
theorem two_adic_choose (n k : ℕ) (hn : n < B) (hk : k ≤ n) :
    padicValNat 2 (n.choose k) = popcount (n - k) + popcount k - popcount n := by
  have : Fact (Nat.Prime 2) := ⟨Nat.prime_two⟩
  have hv := padicValNat_choose_add 2 hk
  rw [padicValNat_two_factorial n hn, padicValNat_two_factorial k (by omega), padicValNat_two_factorial (n - k) (by omega)] at hv
  have := popcount_le n; have := popcount_le k; have := popcount_le (n - k)
  omega

/-- the prime-power factor COUNT_A_PRIME accumulates for x -/
def kumG (n k : ℕ) (x : ℕ) : ℕ := x ^ kumExp x 64 n k 0

/-- **Kummer / Goetgheluck**: binomial(n,k) = 2^(popcount bookkeeping) · ∏_{odd primes p ≤ n} p^(borrows of n − k in base p) -/
theorem choose_eq_kummer_prod (n k b : ℕ) (hn : n < 2 ^ 64) (hk : k ≤ n) (hb : n < b) :
    n.choose k = 2 ^ (popcount (n - k) + popcount k - popcount n) * ∏ i ∈ Finset.Ico 3 b, atPrime (kumG n k) i := by
  have hB64 : B = 2 ^ 64 := rfl
  have hc0 : n.choose k ≠ 0 := Nat.pos_iff_ne_zero.1 (Nat.choose_pos hk)
  have h3 : ∏ i ∈ Finset.Ico 3 b, atPrime (kumG n k) i ≠ 0 := Nat.pos_iff_ne_zero.1 (prod_atPrime_pos (ppow_pos _) 3 b)
  apply Nat.eq_of_factorization_eq hc0 (Nat.mul_ne_zero (by positivity) h3)
  intro p
  by_cases hp : p.Prime
  · have : Fact p.Prime := ⟨hp⟩
    rw [Nat.factorization_def _ hp, Nat.factorization_def _ hp, padicValNat.mul (by positivity) h3, padicValNat.pow]
    change _ = _ + padicValNat p (∏ i ∈ Finset.Ico 3 b, atPrime (fun x => x ^ kumExp x 64 n k 0) i)
    rw [padicValNat_prod_atPrime]
    by_cases h2 : p = 2
    · subst h2
      rw [two_adic_choose n k (by omega) hk, padicValNat.self (by norm_num)]
      simp
    · have hp3 : 3 ≤ p := by have := hp.two_le; omega
      have : Fact (Nat.Prime 2) := ⟨Nat.prime_two⟩
      rw [padicValNat_primes h2]
      rw [padicValNat_choose_eq_kumExp p n k hn hk]
      by_cases hin : 3 ≤ p ∧ p < b
      · simp only [hin, and_self, if_true, Nat.mul_zero, Nat.zero_add]
      · simp only [hin, if_false, Nat.mul_zero, Nat.zero_add]
        exact kumExp_lt p 64 n k 0 (by omega) (by omega)
  · rw [Nat.factorization_eq_zero_of_not_prime _ hp, Nat.factorization_eq_zero_of_not_prime _ hp]

/-- the power of two of bin_uiui.c:642 `prod = CNST_LIMB(1) << count` fits a limb: 2^count ≤ n -/
theorem two_pow_count_le (n k : ℕ) (hn : n < B) (hk : k ≤ n) (h1 : 1 ≤ n) :
    2 ^ (popcount (n - k) + popcount k - popcount n) ≤ n := by
  rw [← two_adic_choose n k hn hk, ← Nat.factorization_def _ Nat.prime_two]
  calc 2 ^ (n.choose k).factorization 2 ≤ 2 ^ Nat.log 2 n :=
        Nat.pow_le_pow_right (by norm_num) Nat.factorization_choose_le_log
    _ ≤ n := Nat.pow_log_le_self 2 (by omega)

theorem mod_eq_sub_of_lt_two_mul {n x : ℕ} (h1 : x ≤ n) (h2 : n < 2 * x) : n % x = n - x := by
  rw [Nat.mod_eq_sub_mod h1, Nat.mod_eq_of_lt (by omega)]

/-- a prime in (n/2, n] has n/p = 1, n mod p = n − p, k mod p = k: one pass, and a borrow exactly when n − p < k -/
theorem kumExp_big {p n k : ℕ} (hp : 2 ≤ p) (hk : 2 * k ≤ n) (h1 : n / 2 < p) (h2 : p ≤ n) :
    kumExp p 64 n k 0 = if n - p < k then 1 else 0 := by
  rw [kumExp_of_div_lt (by decide) (by rw [div_eq_one h1 h2]; omega), Nat.zero_add,
    mod_eq_sub_of_lt_two_mul h2 (by omega), Nat.mod_eq_of_lt (by omega)]

theorem kumExp_mid {p n k : ℕ} (hp : 2 ≤ p) (hk : 2 * k ≤ n) (h1 : n / 2 < p) (h2 : p ≤ n - k) : kumExp p 64 n k 0 = 0 := by
  rw [kumExp_big hp hk h1 (by omega), if_neg (by omega)]

theorem kumExp_top {p n k : ℕ} (hp : 2 ≤ p) (hk : 2 * k ≤ n) (h1 : n - k < p) (h2 : p ≤ n) : kumExp p 64 n k 0 = 1 := by
  rw [kumExp_big hp hk (by omega) h2, if_pos (by omega)]

/-- 25 ≤ n and `n_to_bit (n - k) < n_to_bit (n)` are the C's ASSERTs; k = MIN(k, n−k) as mpz_bin_uiui passes it -/
theorem goetgheluck_eq_choose (n k : ℕ) (h25 : 25 ≤ n) (hnB : n < B) (hk : 2 * k ≤ n) (hlast : nb (n - k) < nb n) :
    goetgheluck_bin_uiui n k = n.choose k := by
  rw [choose_eq_kummer_prod n k (n + 1) (by rw [B_eq] at hnB; omega) (by omega) (by omega)]
  unfold goetgheluck_bin_uiui
  simp only []
  have hcnt := two_pow_count_le n k hnB (by omega) (by omega)
  generalize popcount (n - k) + popcount k - popcount n = count at hcnt ⊢
  rw [Nat.mod_eq_of_lt (by omega : 2 ^ count < B)]
  -- max_prod = GMP_NUMB_MAX / n
  have hfit : ∀ x, x ≤ n → (B - 1) / n * x < B := fun x hx => limb_div_mul_lt hx
  have hM1 : 1 ≤ (B - 1) / n := by rw [Nat.le_div_iff_mul_le (by omega)]; omega
  generalize (B - 1) / n = M at hfit hM1 ⊢
  have hM2 : M * 2 % B = M * 2 := Nat.mod_eq_of_lt (hfit 2 (by omega))
  obtain ⟨hr5, hrB, hr⟩ := apprsqrt_facts n h25 hnB
  have hrange : nb (limb_apprsqrt n) + 1 ≤ nb (n / 2) := Nat.le_trans (swing_ranges n h25) (nb_mono (by omega))
  generalize limb_apprsqrt n = r at hr5 hrB hr hrange ⊢
  have hr2 : r < n / 2 := lt_of_lt_of_le (nb_le_succ r hr5).2 ((le_nb_iff _ _ (by omega)).1 hrange)
  have hfitG : ∀ x, x.Prime → M * x ^ kumExp x 64 n k 0 < B := fun x hx =>
    hfit _ (pow_kumExp_le x hx.two_le 64 n k 0 (by omega) (by omega) (by omega))
  rw [n_to_bit_five, n_to_bit_eq_nb r hr5 hrB, n_to_bit_eq_nb (n / 2) (by omega) (by omega),
    n_to_bit_eq_nb (n - k) (by omega) (by omega), n_to_bit_eq_nb n (by omega) hnB, hM2]
  change flVal _ = _
  rw [three_loops_val (kumG n k) _ _ _ r (n / 2) (n - k) n _ hr5 hrange (by omega) hlast
    (fun p st hp h5 _ => countAPrime_val n k M p (by omega) hM1 (hfitG p hp) st)
    (fun p st hp h1 h2 => by
      -- r < p: one pass of the loop, SH_COUNT_A_PRIME does the same
      rw [shCountAPrime_val n k (M * 2) p (by rw [Nat.mul_assoc]; exact hfit _ (by omega)) st, kumG,
        kumExp_of_div_lt (by decide) (hr p h1), Nat.zero_add])
    (fun p hp h1 h2 => by rw [kumG, kumExp_mid hp.two_le hk (by omega) h2, pow_zero])
    (fun p st hp h1 h2 => by rw [flStore_val_of_le st le_rfl (hfit p h2), kumG, kumExp_top hp.two_le hk h1 h2, pow_one]),
    countAPrime_val n k M 3 (by norm_num) hM1 (hfitG 3 Nat.prime_three),
    prod_atPrime_from_three _ (by omega), flVal_mk]
  simp only [prodList, kumG]; ring

end Mpir.Numth
