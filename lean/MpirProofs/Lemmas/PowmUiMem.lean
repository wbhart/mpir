/- mpz_powm_ui at the memory level: every flag of Mpir/Model/PowmUiMem.lean is true. -/
import MpirProofs.Lemmas.Powm
import Mpir.Model.PowmUiMem
namespace Mpir.PowmUi
open Mpir Mpir.Powm

theorem dropTop_ge (v k : Nat) : k - 1 ≤ dropTop v k := by
  unfold dropTop; split <;> omega

theorem modOk_of (nn dn qcap : Nat) (h1 : 1 ≤ dn) (h2 : dn ≤ nn) (h3 : (if dn = 1 then nn else nn - dn) ≤ qcap) :
    modOk nn dn qcap = true := by
  unfold modOk
  rw [decide_eq_true h1, decide_eq_true h2, decide_eq_true h3]
  rfl

theorem stepOk_of (mn tn : Nat) (hmn : 1 ≤ mn) (h : tn ≤ 2 * mn) : stepOk mn tn = true := by
  unfold stepOk
  by_cases h1 : tn < mn
  · rw [if_pos h1]
  · rw [if_neg h1]
    exact modOk_of tn mn (mn + 1) hmn (Nat.le_of_not_lt h1) (by split <;> omega)

theorem puiReduce_size (m mn t tn : Nat) :
    (puiReduce m mn t tn).2 = if tn < mn then tn else mn := by
  unfold puiReduce; split <;> rfl

theorem pui_step (ms mn bn t w : Nat) (hms1 : B ^ (mn - 1) ≤ ms) (hms2 : ms < B ^ mn) (hmn : 1 ≤ mn)
    (ht : t < B ^ w) (hw1 : bn < w) (hbn : bn ≤ mn) (hw2 : w ≤ 2 * mn) :
    stepOk mn (dropTop t w) = true ∧
      (puiReduce ms mn t (dropTop t w)).1 < B ^ (puiReduce ms mn t (dropTop t w)).2 ∧
      bn ≤ (puiReduce ms mn t (dropTop t w)).2 ∧ (puiReduce ms mn t (dropTop t w)).2 ≤ mn := by
  obtain ⟨d1, d2⟩ := dropTop_spec t w ht
  have d3 := dropTop_ge t w
  obtain ⟨r1, r2, -, -⟩ := puiReduce_spec ms mn t (dropTop t w) hms1 hms2 hmn d1
  refine ⟨stepOk_of mn _ hmn (by omega), r1, ?_, r2⟩
  rw [puiReduce_size]
  split <;> omega

theorem puiLoopOk_true (ms mn b bn : Nat) (hms1 : B ^ (mn - 1) ≤ ms) (hms2 : ms < B ^ mn) (hmn : 1 ≤ mn)
    (hb : b < B ^ bn) (hbn1 : 1 ≤ bn) (hbn : bn ≤ mn) :
    ∀ (bits : List Bool) (x xn : Nat), x < B ^ xn → bn ≤ xn → xn ≤ mn →
      puiLoopOk ms mn b bn bits x xn = true ∧ bn ≤ (puiLoop ms mn b bn bits x xn).2 ∧
      (puiLoop ms mn b bn bits x xn).2 ≤ mn
  | [], x, xn, _, h2, h3 => by simp [puiLoopOk, puiLoop, h2, h3]
  | bit :: rest, x, xn, h1, h2, h3 => by
    have ht : x * x < B ^ (2 * xn) := by rw [two_mul, pow_add]; exact Nat.mul_lt_mul'' h1 h1
    have hx2 : 2 * xn ≤ 2 * mn := Nat.mul_le_mul_left 2 h3
    obtain ⟨s1, r1, r3, r2⟩ := pui_step ms mn bn (x * x) (2 * xn) hms1 hms2 hmn ht (by omega) hbn hx2
    have ok1 : (decide (1 ≤ xn) && decide (2 * xn ≤ 2 * mn + 1)) = true := by
      rw [decide_eq_true (hbn1.trans h2), decide_eq_true (Nat.le_succ_of_le hx2)]
      rfl
    rw [puiLoopOk, puiLoop]
    simp only [ok1, s1, Bool.true_and]
    generalize puiReduce ms mn (x * x) (dropTop (x * x) (2 * xn)) = p at *
    cases bit with
    | false =>
      exact puiLoopOk_true ms mn b bn hms1 hms2 hmn hb hbn1 hbn rest p.1 p.2 r1 r3 r2
    | true =>
      have ht2 : p.1 * b < B ^ (p.2 + bn) := by rw [pow_add]; exact Nat.mul_lt_mul'' r1 hb
      have hpb : p.2 + bn ≤ 2 * mn := (Nat.add_le_add r2 hbn).trans_eq (Nat.two_mul mn).symm
      obtain ⟨s2, q1, q3, q2⟩ := pui_step ms mn bn (p.1 * b) (p.2 + bn) hms1 hms2 hmn ht2
        (Nat.lt_add_of_pos_left (hbn1.trans r3)) hbn hpb
      have ok3 : (decide (1 ≤ bn) && decide (bn ≤ p.2) && decide (p.2 + bn ≤ 2 * mn + 1)) = true := by
        rw [decide_eq_true hbn1, decide_eq_true r3, decide_eq_true (Nat.le_succ_of_le hpb)]
        rfl
      simp only [ok3, s2, Bool.true_and, if_true]
      exact puiLoopOk_true ms mn b bn hms1 hms2 hmn hb hbn1 hbn rest _ _ q1 q3 q2

theorem puiXOk_true (ms mn zc bv bn el : Nat) (hms1 : B ^ (mn - 1) ≤ ms) (hms2 : ms < B ^ mn) (hmn : 1 ≤ mn)
    (hbv : bv < B ^ bn) (hbn1 : 1 ≤ bn) (hbn : bn ≤ mn) :
    puiXOk ms mn zc bv bn el = true := by
  unfold puiXOk
  simp only []
  have hp : ∀ p : Nat × Nat,
      p = (if el = 1 then (if (decide (bn = mn) && decide (bv ≥ ms)) = true then (bv - ms, bn) else (bv, bn))
           else puiLoop ms mn bv bn (lowerBits el) bv bn) →
      (if el = 1 then true else puiLoopOk ms mn bv bn (lowerBits el) bv bn) = true ∧ 1 ≤ p.2 ∧ p.2 ≤ mn := by
    intro p hpd
    by_cases h1 : el = 1
    · rw [if_pos h1] at hpd
      rw [if_pos h1]
      refine ⟨rfl, ?_, ?_⟩ <;> (rw [hpd]; split <;> simp only <;> omega)
    · rw [if_neg h1] at hpd
      rw [if_neg h1]
      obtain ⟨i1, i2, i3⟩ := puiLoopOk_true ms mn bv bn hms1 hms2 hmn hbv hbn1 hbn (lowerBits el) bv bn hbv (le_refl _) hbn
      rw [hpd]; exact ⟨i1, by omega, i3⟩
  generalize hpe : (if el = 1 then (if (decide (bn = mn) && decide (bv ≥ ms)) = true then (bv - ms, bn) else (bv, bn))
           else puiLoop ms mn bv bn (lowerBits el) bv bn) = p
  obtain ⟨p1, p2, p3⟩ := hp p hpe.symm
  rw [p1]
  by_cases hz : (zc != 0) = true
  · rw [if_pos hz]
    have hci : (if (p.1 <<< zc / B ^ p.2 != 0) = true then 1 else 0) ≤ 1 := by split <;> omega
    generalize (if (p.1 <<< zc / B ^ p.2 != 0) = true then 1 else 0) = ci at *
    have s := stepOk_of mn (p.2 + ci) hmn (by omega)
    rw [s]
    have hq : 1 ≤ (puiReduce ms mn (p.1 <<< zc) (p.2 + ci)).2 := by
      rw [puiReduce_size]; split <;> omega
    simp; omega
  · rw [if_neg hz]

theorem mpzPowmUiOk_true (b : Int) (el : Nat) (m : Int) : mpzPowmUiOk b el m = true := by
  unfold mpzPowmUiOk
  simp only []
  by_cases hc : ((natLimbs m.natAbs).length = 0 || el = 0 || decide (20 ≤ el)) = true
  · rw [if_pos hc]
  · rw [if_neg hc]
    simp only [Bool.or_eq_true, decide_eq_true_eq, not_or, not_le] at hc
    obtain ⟨⟨hn0, he0⟩, h20⟩ := hc
    have hmn : m.natAbs ≠ 0 := fun h => hn0 ((natLimbs_length_eq_zero _).mpr h)
    obtain ⟨s1, s2, s3, s4, s5, s6⟩ := shifted_modulus m.natAbs hmn
    generalize hzc : clz ((natLimbs m.natAbs).getLastD 1) = zc at *
    generalize hms : m.natAbs <<< zc = ms at *
    have hmsM : ms = m.natAbs * 2 ^ zc := by rw [← hms, Nat.shiftLeft_eq]
    set mn := (natLimbs m.natAbs).length with hmnd
    have hmspos : 0 < ms := lt_of_lt_of_le (Nat.pow_pos B_pos) s1
    have hokB : (if (natLimbs b.natAbs).length > mn then modOk (natLimbs b.natAbs).length mn ((natLimbs b.natAbs).length - mn + 1)
        else true) = true := by
      by_cases hgt : (natLimbs b.natAbs).length > mn
      · rw [if_pos hgt]
        exact modOk_of _ mn _ s3 hgt.le (by split <;> omega)
      · rw [if_neg hgt]
    rw [hokB]
    have hbb : ∀ bb : Nat × Nat,
        bb = (if (natLimbs b.natAbs).length > mn then (b.natAbs % ms, (natLimbs (b.natAbs % ms)).length)
              else (b.natAbs, (natLimbs b.natAbs).length)) → bb.1 < B ^ bb.2 ∧ bb.2 ≤ mn := by
      intro bb hbd
      by_cases hgt : (natLimbs b.natAbs).length > mn
      · rw [if_pos hgt] at hbd; subst hbd
        simp only
        have hlt := Nat.mod_lt b.natAbs hmspos
        refine ⟨?_, natLimbs_length_le _ _ (lt_trans hlt s2)⟩
        have := val_lt _ (Limbs_natLimbs (b.natAbs % ms))
        rwa [val_natLimbs_eq] at this
      · rw [if_neg hgt] at hbd; subst hbd
        simp only
        refine ⟨?_, by omega⟩
        have := val_lt _ (Limbs_natLimbs b.natAbs)
        rwa [val_natLimbs_eq] at this
    generalize hbe : (if (natLimbs b.natAbs).length > mn then (b.natAbs % ms, (natLimbs (b.natAbs % ms)).length)
              else (b.natAbs, (natLimbs b.natAbs).length)) = bb
    obtain ⟨b1, b2⟩ := hbb bb hbe.symm
    by_cases hbn0 : bb.2 = 0
    · rw [if_pos hbn0]
    · rw [if_neg hbn0]
      have hX := puiXOk_true ms mn zc bb.1 bb.2 el s1 s2 s3 b1 (by omega) b2
      obtain ⟨_, _, x3, _⟩ := puiX_spec m.natAbs ms mn zc bb.1 bb.2 el hmsM s1 s2 s6 s3 s4
        b1 b2 (Nat.pos_of_ne_zero he0)
      have hN := mpnNormalize_le (toLimbs mn (puiX ms mn zc bb.1 bb.2 el).1) (puiX ms mn zc bb.1 bb.2 el).2
      rw [hX]
      simp only [Bool.true_and, Bool.and_true, Bool.and_eq_true, decide_eq_true_eq]
      exact ⟨⟨b2, x3⟩, by omega⟩
end Mpir.PowmUi
