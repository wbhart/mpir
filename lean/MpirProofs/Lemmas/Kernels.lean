/- Value theorems of the limb-vector kernel models (Mpir/Model/Kernels.lean): one per kernel loop, for an arbitrary
   carry-in.  The primed names (`add_n_val'`, `add_1_val'`, `mul_1_val'`, …) are the entry points; their unprimed namesakes are
   the property theorems of Props/C03.lean and Props/C01_leaves.lean, stated with the C's preconditions. -/
import MpirProofs.Lemmas.Base
import Mpir.Model.Kernels
import Mathlib.Tactic.Ring
import Mathlib.Tactic.Linarith
import Mathlib.Tactic.IntervalCases
import Mathlib.Tactic.LinearCombination
namespace Mpir


theorem boolToNat_le (b : Bool) : boolToNat b ≤ 1 := by cases b <;> decide

theorem boolToNat_decide (p : Prop) [Decidable p] : boolToNat (decide p) = if p then 1 else 0 := by
  by_cases h : p <;> simp [boolToNat, h]

theorem lor_le_one {a b : Nat} (ha : a ≤ 1) (hb : b ≤ 1) : a ||| b ≤ 1 :=
  Nat.le_of_lt_succ (Nat.or_lt_two_pow (n := 1) (Nat.lt_succ_of_le ha) (Nat.lt_succ_of_le hb))

theorem lor_eq_max {a b : Nat} (ha : a ≤ 1) (hb : b ≤ 1) : a ||| b = max a b := by
  interval_cases a <;> interval_cases b <;> rfl

/-! ### one limb: the C's carry and borrow tests -/

/-- the C's carry test: after `s = a + b`, a carry iff `s < a` -/
theorem add_carry (a b : Nat) (ha : a < B) (hb : b < B) :
    (a + b) % B + B * boolToNat (decide ((a + b) % B < a)) = a + b := by
  rw [boolToNat_decide]
  by_cases h : a + b < B
  · rw [Nat.mod_eq_of_lt h, if_neg (by omega)]; omega
  · rw [Nat.mod_eq_sub_mod (by omega), Nat.mod_eq_of_lt (by omega), if_pos (by omega)]; omega

theorem add_carry' (a b : Nat) (ha : a < B) (hb : b < B) :
    (a + b) % B + B * boolToNat (decide ((a + b) % B < b)) = a + b := by
  rw [Nat.add_comm a b]; exact add_carry b a hb ha

theorem sub_borrow_lt (a b : Nat) (ha : a < B) (hb : b < B) :
    (a + B - b) % B + b = a + B * (if a < b then 1 else 0) := by
  by_cases h : a < b
  · rw [Nat.mod_eq_of_lt (by omega), if_pos h]; omega
  · rw [show a + B - b = a - b + B by omega, Nat.add_mod_right, Nat.mod_eq_of_lt (by omega), if_neg h]
    omega

/-- the C's borrow test: after `s = a - b`, a borrow iff `s > a` -/
theorem sub_borrow (a b : Nat) (ha : a < B) (hb : b < B) :
    (a + B - b) % B + b = a + B * boolToNat (decide ((a + B - b) % B > a)) := by
  have e := sub_borrow_lt a b ha hb
  rw [boolToNat_decide]
  generalize (a + B - b) % B = r at *
  by_cases h : a < b
  · rw [if_pos h] at e; rw [if_pos (by omega)]; exact e
  · rw [if_neg h] at e; rw [if_neg (by omega)]; exact e

/-! ### mpn_add_n, mpn_sub_n (add_n.c, sub_n.c) -/

theorem add_limb (u v cy sl rl c : Nat) (hu : u < B) (hv : v < B) (hc : cy ≤ 1)
    (hsl : sl = (u + v) % B) (hrl : rl = (sl + cy) % B)
    (hcd : c = boolToNat (decide (sl < u)) ||| boolToNat (decide (rl < sl))) :
    rl + B * c = u + v + cy ∧ c ≤ 1 ∧ rl < B := by
  have hs : sl < B := hsl ▸ Nat.mod_lt _ B_pos
  have hr : rl < B := hrl ▸ Nat.mod_lt _ B_pos
  have e1 := add_carry u v hu hv
  have e2 := add_carry sl cy hs (Nat.lt_of_le_of_lt hc one_lt_B)
  rw [← hsl] at e1
  rw [← hrl] at e2
  rw [lor_eq_max (boolToNat_le _) (boolToNat_le _)] at hcd
  have h1 := boolToNat_le (decide (sl < u))
  have h2 := boolToNat_le (decide (rl < sl))
  generalize boolToNat (decide (sl < u)) = c1 at *
  generalize boolToNat (decide (rl < sl)) = c2 at *
  clear hsl hrl
  simp only [B_eq] at *
  omega

theorem addNC_val : ∀ (u v : List Nat) (cy : Nat), Limbs u → Limbs v → u.length = v.length → cy ≤ 1 →
    val (addNC u v cy).1 + B ^ u.length * (addNC u v cy).2 = val u + val v + cy ∧
    (addNC u v cy).2 ≤ 1 ∧ Limbs (addNC u v cy).1 ∧ (addNC u v cy).1.length = u.length
  | [], [], cy, _, _, _, hc => ⟨by show 0 + 1 * cy = 0 + 0 + cy; omega, hc, Limbs_nil, rfl⟩
  | [], _ :: _, _, _, _, h, _ => nomatch h
  | _ :: _, [], _, _, _, h, _ => nomatch h
  | u :: us, v :: vs, cy, hu, hv, hl, hc => by
    have ⟨hu0, hus⟩ := Limbs_cons.mp hu
    have ⟨hv0, hvs⟩ := Limbs_cons.mp hv
    obtain ⟨sl, hsl⟩ : ∃ sl, sl = (u + v) % B := ⟨_, rfl⟩
    obtain ⟨rl, hrl⟩ : ∃ rl, rl = (sl + cy) % B := ⟨_, rfl⟩
    obtain ⟨c, hcd⟩ : ∃ c, c = boolToNat (decide (sl < u)) ||| boolToNat (decide (rl < sl)) := ⟨_, rfl⟩
    have step : addNC (u :: us) (v :: vs) cy = (rl :: (addNC us vs c).1, (addNC us vs c).2) := by
      rw [hcd, hrl, hsl]; rfl
    have ⟨e, c1, r1⟩ := add_limb u v cy sl rl c hu0 hv0 hc hsl hrl hcd
    obtain ⟨ihv, ihc, ihl, ihn⟩ := addNC_val us vs c hus hvs (Nat.succ.inj hl) c1
    rw [step]
    simp only [val_cons, List.length_cons, pow_succ]
    refine ⟨?_, ihc, Limbs_cons.mpr ⟨r1, ihl⟩, by rw [ihn]⟩
    linear_combination e + B * ihv

theorem sub_limb (u v cy sl rl c : Nat) (hu : u < B) (hv : v < B) (hc : cy ≤ 1)
    (hsl : sl = (u + B - v) % B) (hrl : rl = (sl + B - cy) % B)
    (hcd : c = boolToNat (decide (sl > u)) ||| boolToNat (decide (rl > sl))) :
    rl + v + cy = u + B * c ∧ c ≤ 1 ∧ rl < B := by
  have hs : sl < B := hsl ▸ Nat.mod_lt _ B_pos
  have hr : rl < B := hrl ▸ Nat.mod_lt _ B_pos
  have e1 := sub_borrow u v hu hv
  have e2 := sub_borrow sl cy hs (Nat.lt_of_le_of_lt hc one_lt_B)
  rw [← hsl] at e1
  rw [← hrl] at e2
  rw [lor_eq_max (boolToNat_le _) (boolToNat_le _)] at hcd
  have h1 := boolToNat_le (decide (sl > u))
  have h2 := boolToNat_le (decide (rl > sl))
  generalize boolToNat (decide (sl > u)) = c1 at *
  generalize boolToNat (decide (rl > sl)) = c2 at *
  clear hsl hrl
  simp only [B_eq] at *
  omega

theorem subNC_val : ∀ (u v : List Nat) (cy : Nat), Limbs u → Limbs v → u.length = v.length → cy ≤ 1 →
    val (subNC u v cy).1 + val v + cy = val u + B ^ u.length * (subNC u v cy).2 ∧
    (subNC u v cy).2 ≤ 1 ∧ Limbs (subNC u v cy).1 ∧ (subNC u v cy).1.length = u.length
  | [], [], cy, _, _, _, hc => by simp [subNC, hc, Limbs_nil]
  | [], _ :: _, _, _, _, h, _ => nomatch h
  | _ :: _, [], _, _, _, h, _ => nomatch h
  | u :: us, v :: vs, cy, hu, hv, hl, hc => by
    have ⟨hu0, hus⟩ := Limbs_cons.mp hu
    have ⟨hv0, hvs⟩ := Limbs_cons.mp hv
    obtain ⟨sl, hsl⟩ : ∃ sl, sl = (u + B - v) % B := ⟨_, rfl⟩
    obtain ⟨rl, hrl⟩ : ∃ rl, rl = (sl + B - cy) % B := ⟨_, rfl⟩
    obtain ⟨c, hcd⟩ : ∃ c, c = boolToNat (decide (sl > u)) ||| boolToNat (decide (rl > sl)) := ⟨_, rfl⟩
    have step : subNC (u :: us) (v :: vs) cy = (rl :: (subNC us vs c).1, (subNC us vs c).2) := by
      rw [hcd, hrl, hsl]; rfl
    have ⟨e, c1, r1⟩ := sub_limb u v cy sl rl c hu0 hv0 hc hsl hrl hcd
    obtain ⟨ihv, ihc, ihl, ihn⟩ := subNC_val us vs c hus hvs (Nat.succ.inj hl) c1
    rw [step]
    simp only [val_cons, List.length_cons, pow_succ]
    refine ⟨?_, ihc, Limbs_cons.mpr ⟨r1, ihl⟩, by rw [ihn]⟩
    linear_combination e + B * ihv

theorem add_n_val' (u v : List Nat) (hu : Limbs u) (hv : Limbs v) (hl : u.length = v.length) :
    val (add_n u v).1 + B ^ u.length * (add_n u v).2 = val u + val v ∧
    (add_n u v).2 ≤ 1 ∧ Limbs (add_n u v).1 ∧ (add_n u v).1.length = u.length :=
  addNC_val u v 0 hu hv hl (Nat.zero_le 1)

theorem sub_n_val' (u v : List Nat) (hu : Limbs u) (hv : Limbs v) (hl : u.length = v.length) :
    val (sub_n u v).1 + val v = val u + B ^ u.length * (sub_n u v).2 ∧
    (sub_n u v).2 ≤ 1 ∧ Limbs (sub_n u v).1 ∧ (sub_n u v).1.length = u.length :=
  subNC_val u v 0 hu hv hl (Nat.zero_le 1)

/-! ### mpn_add_1, mpn_sub_1, mpn_add, mpn_sub (mpir.h `__GMPN_AORS_1`, `__GMPN_AORS`): carry propagation with early exit -/

/-- `incr (x :: xs)` is the case `v = 1` -/
theorem add_1_cons_val (x v : Nat) (xs : List Nat) (hx : x < B) (hv : v < B) (hxs : Limbs xs)
    (ih : val (incr xs).1 + B ^ xs.length * (incr xs).2 = val xs + 1 ∧
      (incr xs).2 ≤ 1 ∧ Limbs (incr xs).1 ∧ (incr xs).1.length = xs.length) :
    val (add_1 (x :: xs) v).1 + B ^ (xs.length + 1) * (add_1 (x :: xs) v).2 = val (x :: xs) + v ∧
    (add_1 (x :: xs) v).2 ≤ 1 ∧ Limbs (add_1 (x :: xs) v).1 ∧
    (add_1 (x :: xs) v).1.length = xs.length + 1 := by
  obtain ⟨ihv, ihc, ihl, ihn⟩ := ih
  obtain ⟨r, hr⟩ : ∃ r, r = (x + v) % B := ⟨_, rfl⟩
  have step : add_1 (x :: xs) v = if r < v then (r :: (incr xs).1, (incr xs).2) else (r :: xs, 0) := by
    rw [hr]; rfl
  have hrB : r < B := hr ▸ Nat.mod_lt _ B_pos
  have e := add_carry' x v hx hv
  rw [← hr, boolToNat_decide] at e
  rw [step]
  by_cases h : r < v
  · rw [if_pos h] at e ⊢
    simp only [val_cons, List.length_cons, pow_succ]
    refine ⟨?_, ihc, Limbs_cons.mpr ⟨hrB, ihl⟩, by rw [ihn]⟩
    linear_combination e + B * ihv
  · rw [if_neg h] at e ⊢
    simp only [val_cons, List.length_cons, pow_succ]
    refine ⟨?_, Nat.zero_le 1, Limbs_cons.mpr ⟨hrB, hxs⟩, trivial⟩
    linear_combination e

theorem incr_val : ∀ (u : List Nat), Limbs u →
    val (incr u).1 + B ^ u.length * (incr u).2 = val u + 1 ∧
    (incr u).2 ≤ 1 ∧ Limbs (incr u).1 ∧ (incr u).1.length = u.length
  | [], _ => by simp [incr, Limbs_nil]
  | x :: xs, h =>
    have ⟨hx, hxs⟩ := Limbs_cons.mp h
    add_1_cons_val x 1 xs hx one_lt_B hxs (incr_val xs hxs)

theorem add_1_val' (u : List Nat) (v : Nat) (h : Limbs u) (hn : 0 < u.length) (hv : v < B) :
    val (add_1 u v).1 + B ^ u.length * (add_1 u v).2 = val u + v ∧
    (add_1 u v).2 ≤ 1 ∧ Limbs (add_1 u v).1 ∧ (add_1 u v).1.length = u.length :=
  match u, h, hn with
  | x :: xs, h, _ =>
    have ⟨hx, hxs⟩ := Limbs_cons.mp h
    add_1_cons_val x v xs hx hv hxs (incr_val xs hxs)

theorem sub_1_cons_val (x v : Nat) (xs : List Nat) (hx : x < B) (hv : v < B) (hxs : Limbs xs)
    (ih : val (decr xs).1 + 1 = val xs + B ^ xs.length * (decr xs).2 ∧
      (decr xs).2 ≤ 1 ∧ Limbs (decr xs).1 ∧ (decr xs).1.length = xs.length) :
    val (sub_1 (x :: xs) v).1 + v = val (x :: xs) + B ^ (xs.length + 1) * (sub_1 (x :: xs) v).2 ∧
    (sub_1 (x :: xs) v).2 ≤ 1 ∧ Limbs (sub_1 (x :: xs) v).1 ∧
    (sub_1 (x :: xs) v).1.length = xs.length + 1 := by
  obtain ⟨ihv, ihc, ihl, ihn⟩ := ih
  obtain ⟨r, hr⟩ : ∃ r, r = (x + B - v) % B := ⟨_, rfl⟩
  have step : sub_1 (x :: xs) v = if x < v then (r :: (decr xs).1, (decr xs).2) else (r :: xs, 0) := by
    rw [hr]; rfl
  have hrB : r < B := hr ▸ Nat.mod_lt _ B_pos
  have e := sub_borrow_lt x v hx hv
  rw [← hr] at e
  rw [step]
  by_cases h : x < v
  · rw [if_pos h] at e ⊢
    simp only [val_cons, List.length_cons, pow_succ]
    refine ⟨?_, ihc, Limbs_cons.mpr ⟨hrB, ihl⟩, by rw [ihn]⟩
    linear_combination e + B * ihv
  · rw [if_neg h] at e ⊢
    simp only [val_cons, List.length_cons, pow_succ]
    refine ⟨?_, Nat.zero_le 1, Limbs_cons.mpr ⟨hrB, hxs⟩, trivial⟩
    linear_combination e

theorem decr_val : ∀ (u : List Nat), Limbs u →
    val (decr u).1 + 1 = val u + B ^ u.length * (decr u).2 ∧
    (decr u).2 ≤ 1 ∧ Limbs (decr u).1 ∧ (decr u).1.length = u.length
  | [], _ => by simp [decr, Limbs_nil]
  | x :: xs, h =>
    have ⟨hx, hxs⟩ := Limbs_cons.mp h
    sub_1_cons_val x 1 xs hx one_lt_B hxs (decr_val xs hxs)

theorem sub_1_val' (u : List Nat) (v : Nat) (h : Limbs u) (hn : 0 < u.length) (hv : v < B) :
    val (sub_1 u v).1 + v = val u + B ^ u.length * (sub_1 u v).2 ∧
    (sub_1 u v).2 ≤ 1 ∧ Limbs (sub_1 u v).1 ∧ (sub_1 u v).1.length = u.length :=
  match u, h, hn with
  | x :: xs, h, _ =>
    have ⟨hx, hxs⟩ := Limbs_cons.mp h
    sub_1_cons_val x v xs hx hv hxs (decr_val xs hxs)

theorem add_def (x y : List Nat) : add x y =
    if (addNC (x.take y.length) y 0).2 != 0 then
      ((addNC (x.take y.length) y 0).1 ++ (incr (x.drop y.length)).1, (incr (x.drop y.length)).2)
    else ((addNC (x.take y.length) y 0).1 ++ x.drop y.length, 0) := rfl

theorem sub_def (x y : List Nat) : sub x y =
    if (subNC (x.take y.length) y 0).2 != 0 then
      ((subNC (x.take y.length) y 0).1 ++ (decr (x.drop y.length)).1, (decr (x.drop y.length)).2)
    else ((subNC (x.take y.length) y 0).1 ++ x.drop y.length, 0) := rfl

theorem add_val' (x y : List Nat) (hx : Limbs x) (hy : Limbs y) (hl : y.length ≤ x.length) :
    val (add x y).1 + B ^ x.length * (add x y).2 = val x + val y ∧
    (add x y).2 ≤ 1 ∧ Limbs (add x y).1 ∧ (add x y).1.length = x.length := by
  have htl : (x.take y.length).length = y.length := List.length_take_of_le hl
  obtain ⟨av, ac, al, an⟩ := addNC_val (x.take y.length) y 0 (Limbs_take hx _) hy htl (Nat.zero_le 1)
  obtain ⟨iv, ic, il, iN⟩ := incr_val (x.drop y.length) (Limbs_drop hx _)
  have hsplit := val_take_drop x y.length hl
  have hpow : B ^ x.length = B ^ y.length * B ^ (x.length - y.length) := by
    rw [← pow_add, Nat.add_sub_cancel' hl]
  rw [htl] at av an
  rw [List.length_drop] at iv iN
  rw [add_def]
  by_cases hc : (addNC (x.take y.length) y 0).2 = 0
  · rw [hc] at av
    rw [hc, if_neg (by decide)]
    simp only [val_append, List.length_append, Limbs_append, an, List.length_drop]
    refine ⟨?_, Nat.zero_le 1, ⟨al, Limbs_drop hx _⟩, Nat.add_sub_cancel' hl⟩
    linear_combination av - hsplit
  · have hc1 : (addNC (x.take y.length) y 0).2 = 1 := by omega
    rw [hc1] at av
    rw [hc1, if_pos (by decide)]
    simp only [val_append, List.length_append, Limbs_append, an, iN]
    refine ⟨?_, ic, ⟨al, il⟩, Nat.add_sub_cancel' hl⟩
    linear_combination av + B ^ y.length * iv - hsplit + (incr (x.drop y.length)).2 * hpow

theorem sub_val' (x y : List Nat) (hx : Limbs x) (hy : Limbs y) (hl : y.length ≤ x.length) :
    val (sub x y).1 + val y = val x + B ^ x.length * (sub x y).2 ∧
    (sub x y).2 ≤ 1 ∧ Limbs (sub x y).1 ∧ (sub x y).1.length = x.length := by
  have htl : (x.take y.length).length = y.length := List.length_take_of_le hl
  obtain ⟨av, ac, al, an⟩ := subNC_val (x.take y.length) y 0 (Limbs_take hx _) hy htl (Nat.zero_le 1)
  obtain ⟨iv, ic, il, iN⟩ := decr_val (x.drop y.length) (Limbs_drop hx _)
  have hsplit := val_take_drop x y.length hl
  have hpow : B ^ x.length = B ^ y.length * B ^ (x.length - y.length) := by
    rw [← pow_add, Nat.add_sub_cancel' hl]
  rw [htl] at av an
  rw [List.length_drop] at iv iN
  rw [sub_def]
  by_cases hc : (subNC (x.take y.length) y 0).2 = 0
  · rw [hc] at av
    rw [hc, if_neg (by decide)]
    simp only [val_append, List.length_append, Limbs_append, an, List.length_drop]
    refine ⟨?_, Nat.zero_le 1, ⟨al, Limbs_drop hx _⟩, Nat.add_sub_cancel' hl⟩
    linear_combination av - hsplit
  · have hc1 : (subNC (x.take y.length) y 0).2 = 1 := by omega
    rw [hc1] at av
    rw [hc1, if_pos (by decide)]
    simp only [val_append, List.length_append, Limbs_append, an, iN]
    refine ⟨?_, ic, ⟨al, il⟩, Nat.add_sub_cancel' hl⟩
    linear_combination av + B ^ y.length * iv - hsplit - (decr (x.drop y.length)).2 * hpow

/-! ### mpn_com_n, mpn_neg_n -/

theorem com_n_val' : ∀ (u : List Nat), Limbs u →
    val (com_n u) + val u + 1 = B ^ u.length ∧ Limbs (com_n u) ∧ (com_n u).length = u.length
  | [], _ => by simp [com_n, Limbs_nil]
  | x :: xs, h => by
    have ⟨hx, hxs⟩ := Limbs_cons.mp h
    obtain ⟨ihv, ihl, ihn⟩ := com_n_val' xs hxs
    have step : com_n (x :: xs) = (B - 1 - x) :: com_n xs := rfl
    rw [step]
    simp only [val_cons, List.length_cons, pow_succ]
    refine ⟨?_, Limbs_cons.mpr ⟨by omega, ihl⟩, by rw [ihn]⟩
    have e : (B - 1 - x) + x + 1 = B := by omega
    linear_combination e + B * ihv

theorem negNC_one : ∀ (u : List Nat), negNC u 1 = (com_n u, 1)
  | [] => rfl
  | x :: xs => by
    have step : negNC (x :: xs) 1 = ((B - 1 - x) :: (negNC xs 1).1, (negNC xs 1).2) := rfl
    rw [step, negNC_one xs]; rfl

theorem negNC_zero_val : ∀ (u : List Nat), Limbs u →
    val (negNC u 0).1 + val u = B ^ u.length * (negNC u 0).2 ∧
    (((negNC u 0).2 = 0 ∧ val u = 0) ∨ ((negNC u 0).2 = 1 ∧ val u ≠ 0)) ∧
    Limbs (negNC u 0).1 ∧ (negNC u 0).1.length = u.length
  | [], _ => by simp [negNC, Limbs_nil]
  | x :: xs, h => by
    have ⟨hx, hxs⟩ := Limbs_cons.mp h
    have hB := B_pos
    by_cases hx0 : x = 0
    · obtain ⟨ihv, ihc, ihl, ihn⟩ := negNC_zero_val xs hxs
      have step : negNC (x :: xs) 0 = (0 :: (negNC xs 0).1, (negNC xs 0).2) := by
        rw [hx0]; rfl
      rw [step]
      simp only [val_cons, List.length_cons, pow_succ]
      refine ⟨?_, ?_, Limbs_cons.mpr ⟨B_pos, ihl⟩, by rw [ihn]⟩
      · rw [hx0]; linear_combination B * ihv
      · rcases ihc with ⟨c0, v0⟩ | ⟨c1, v1⟩
        · left; exact ⟨c0, by rw [hx0, v0]; simp⟩
        · right; refine ⟨c1, ?_⟩
          have := Nat.mul_pos hB (Nat.pos_of_ne_zero v1); omega
    · obtain ⟨cv, cl, cn⟩ := com_n_val' xs hxs
      have step : negNC (x :: xs) 0 = (((B - x) % B) :: com_n xs, 1) := by
        simp only [negNC, hx0, ↓reduceIte, negNC_one]
      rw [step]
      simp only [val_cons, List.length_cons, pow_succ]
      have hr : (B - x) % B = B - x := Nat.mod_eq_of_lt (by omega)
      rw [hr]
      refine ⟨?_, Or.inr ⟨trivial, by omega⟩, Limbs_cons.mpr ⟨by omega, cl⟩, by rw [cn]⟩
      have e : (B - x) + x = B := by omega
      linear_combination e + B * cv

theorem neg_n_val' (u : List Nat) (hu : Limbs u) :
    val (neg_n u).1 + val u = B ^ u.length * (neg_n u).2 ∧
    (neg_n u).2 = (if val u = 0 then 0 else 1) ∧
    Limbs (neg_n u).1 ∧ (neg_n u).1.length = u.length := by
  obtain ⟨hv, hc, hl, hn⟩ := negNC_zero_val u hu
  refine ⟨hv, ?_, hl, hn⟩
  rcases hc with ⟨c0, v0⟩ | ⟨c1, v1⟩
  · rw [if_pos v0]; exact c0
  · rw [if_neg v1]; exact c1

/-! ### mpn_lshift, mpn_rshift (lshift.c, rshift.c) -/

/-- one limb of lshift: the `|` of the shifted limb and the bits carried in is an addition -/
theorem lshift_limb (x lo c : Nat) (hc : c ≤ 64) (hlo : lo < 2 ^ c) :
    ((x <<< c) % B ||| lo) + B * (x >>> (64 - c)) = x * 2 ^ c + lo ∧
    ((x <<< c) % B ||| lo) < B := by
  have hB := B_split c hc
  rw [shl_mod_B x c hc, ← Nat.two_pow_add_eq_or_of_lt hlo, Nat.shiftRight_eq_div_pow]
  have hdm := Nat.div_add_mod x (2 ^ (64 - c))
  constructor
  · rw [hB]; linear_combination (2 ^ c) * hdm
  · rw [hB, Nat.add_comm]; exact add_mul_lt hlo (Nat.mod_lt _ (Nat.two_pow_pos _))

theorem lshiftGo_val (c : Nat) (hc : c ≤ 64) : ∀ (u : List Nat) (lo : Nat), Limbs u → lo < 2 ^ c →
    val (lshiftGo c u lo).1 + B ^ u.length * (lshiftGo c u lo).2 = val u * 2 ^ c + lo ∧
    (lshiftGo c u lo).2 < 2 ^ c ∧ Limbs (lshiftGo c u lo).1 ∧ (lshiftGo c u lo).1.length = u.length
  | [], lo, _, hlo => by simp [lshiftGo, hlo, Limbs_nil]
  | x :: xs, lo, h, hlo => by
    have ⟨hx, hxs⟩ := Limbs_cons.mp h
    obtain ⟨e, hcur⟩ := lshift_limb x lo c hc hlo
    obtain ⟨ihv, ihc, ihl, ihn⟩ := lshiftGo_val c hc xs (x >>> (64 - c)) hxs (shr_lt x c hc hx)
    have step : lshiftGo c (x :: xs) lo = (((x <<< c) % B ||| lo) :: (lshiftGo c xs (x >>> (64 - c))).1,
        (lshiftGo c xs (x >>> (64 - c))).2) := rfl
    rw [step]
    simp only [val_cons, List.length_cons, pow_succ]
    refine ⟨?_, ihc, Limbs_cons.mpr ⟨hcur, ihl⟩, by rw [ihn]⟩
    linear_combination e + B * ihv

theorem lshift_val' (u : List Nat) (c : Nat) (hu : Limbs u) (hc : c ≤ 64) :
    val (lshift u c).1 + B ^ u.length * (lshift u c).2 = val u * 2 ^ c ∧
    (lshift u c).2 < 2 ^ c ∧ Limbs (lshift u c).1 ∧ (lshift u c).1.length = u.length :=
  lshiftGo_val c hc u 0 hu (Nat.two_pow_pos c)

theorem lshift_zero : ∀ (u : List Nat), Limbs u → lshift u 0 = (u, 0)
  | [], _ => rfl
  | x :: xs, h => by
    have ⟨hx, hxs⟩ := Limbs_cons.mp h
    have e : x >>> (64 - 0) = 0 := by rw [Nat.shiftRight_eq_div_pow]; exact Nat.div_eq_of_lt hx
    have ih : lshiftGo 0 xs 0 = (xs, 0) := lshift_zero xs hxs
    simp only [lshift, lshiftGo, e, ih, Nat.shiftLeft_zero, Nat.or_zero, Nat.mod_eq_of_lt hx]

theorem rshift_limb (x c : Nat) (hc : c ≤ 64) :
    (x >>> c) * B + (x <<< (64 - c)) % B = x * 2 ^ (64 - c) := by
  rw [shl_mod_B x (64 - c) (Nat.sub_le _ _), Nat.sub_sub_self hc, Nat.shiftRight_eq_div_pow, B_split c hc]
  linear_combination (2 ^ (64 - c)) * Nat.div_add_mod x (2 ^ c)

theorem rshift_or (x y c : Nat) (hc : c ≤ 64) (hx : x < B) :
    ((x >>> c) ||| ((y <<< (64 - c)) % B)) = x >>> c + (y <<< (64 - c)) % B ∧
    x >>> c + (y <<< (64 - c)) % B < B := by
  have hxs : x >>> c < 2 ^ (64 - c) := by
    have := shr_lt x (64 - c) (Nat.sub_le _ _) hx
    rwa [Nat.sub_sub_self hc] at this
  rw [shl_mod_B y (64 - c) (Nat.sub_le _ _), Nat.sub_sub_self hc]
  constructor
  · rw [Nat.or_comm, ← Nat.two_pow_add_eq_or_of_lt hxs, Nat.add_comm]
  · rw [B_split c hc, Nat.mul_comm (2 ^ c)]; exact add_mul_lt hxs (Nat.mod_lt _ (Nat.two_pow_pos _))

theorem rshiftGo_val (c : Nat) (hc : c ≤ 64) : ∀ (xs : List Nat) (x : Nat), Limbs (x :: xs) →
    val (rshiftGo c (x :: xs)) * B + (x <<< (64 - c)) % B = val (x :: xs) * 2 ^ (64 - c) ∧
    Limbs (rshiftGo c (x :: xs)) ∧ (rshiftGo c (x :: xs)).length = xs.length + 1
  | [], x, h => by
    have ⟨hx, _⟩ := Limbs_cons.mp h
    have step : rshiftGo c [x] = [x >>> c] := rfl
    rw [step]
    simp only [val_cons, val_nil, List.length_cons, List.length_nil]
    refine ⟨?_, Limbs_cons.mpr ⟨?_, Limbs_nil⟩, trivial⟩
    · linear_combination rshift_limb x c hc
    · exact lt_of_le_of_lt (Nat.shiftRight_le _ _) hx
  | y :: ys, x, h => by
    have ⟨hx, hys⟩ := Limbs_cons.mp h
    obtain ⟨ihv, ihl, ihn⟩ := rshiftGo_val c hc ys y hys
    obtain ⟨eor, hcur⟩ := rshift_or x y c hc hx
    have step : rshiftGo c (x :: y :: ys) =
        ((x >>> c) ||| ((y <<< (64 - c)) % B)) :: rshiftGo c (y :: ys) := rfl
    rw [step, eor]
    simp only [val_cons, List.length_cons] at ihv ihn ⊢
    refine ⟨?_, Limbs_cons.mpr ⟨hcur, ihl⟩, by rw [ihn]⟩
    linear_combination rshift_limb x c hc + B * ihv

theorem rshiftGo_div (c : Nat) (hc : c ≤ 64) (x : Nat) (xs : List Nat) (h : Limbs (x :: xs)) :
    val (rshiftGo c (x :: xs)) = val (x :: xs) / 2 ^ c := by
  obtain ⟨hv, _, _⟩ := rshiftGo_val c hc xs x h
  have hret : (x <<< (64 - c)) % B < B := Nat.mod_lt _ B_pos
  have h := congrArg (· / B) hv
  simp only [Nat.mul_comm _ B, Nat.mul_add_div B_pos, Nat.div_eq_of_lt hret, Nat.add_zero] at h
  rw [h, B_split c hc, Nat.mul_comm (2 ^ c), Nat.mul_comm (val _), Nat.mul_div_mul_left _ _ (by positivity)]

theorem rshift_val' (u : List Nat) (c : Nat) (hu : Limbs u) (hn : 0 < u.length) (hc1 : 1 ≤ c) (hc : c ≤ 63) :
    val (rshift u c).1 * B + (rshift u c).2 = val u * 2 ^ (64 - c) ∧
    (rshift u c).2 < B ∧ Limbs (rshift u c).1 ∧ (rshift u c).1.length = u.length ∧
    val (rshift u c).1 = val u / 2 ^ c ∧ (rshift u c).2 = (val u % 2 ^ c) * 2 ^ (64 - c) := by
  match u, hu, hn with
  | x :: xs, hu, _ =>
    obtain ⟨hv, hl, hlen⟩ := rshiftGo_val c (by omega) xs x hu
    have step : rshift (x :: xs) c = (rshiftGo c (x :: xs), (x <<< (64 - c)) % B) := rfl
    rw [step]
    have hB := B_split c (by omega)
    have hret : (x <<< (64 - c)) % B < B := Nat.mod_lt _ B_pos
    refine ⟨hv, hret, hl, hlen, rshiftGo_div c (by omega) x xs hu, ?_⟩
    have h := congrArg (· % B) hv
    simp only [Nat.mul_comm _ B, Nat.mul_add_mod, Nat.mod_eq_of_lt hret] at h
    show (x <<< (64 - c)) % B = _
    rw [h, hB, Nat.mul_comm (2 ^ c), Nat.mul_comm (val _), Nat.mul_mod_mul_left, Nat.mul_comm]

/-! ### mpn_cmp, mpn_zero_p -/

theorem val_reverse_cons (x : Nat) (xs : List Nat) :
    val (x :: xs).reverse = val xs.reverse + B ^ xs.length * x := by
  rw [List.reverse_cons, val_append, List.length_reverse]; simp

/-- `a`, `b` most significant first -/
theorem cmpRev_spec : ∀ (a b : List Nat), Limbs a → Limbs b → a.length = b.length →
    (cmpRev a b = -1 ∧ val a.reverse < val b.reverse) ∨
    (cmpRev a b = 0 ∧ val a.reverse = val b.reverse) ∨
    (cmpRev a b = 1 ∧ val b.reverse < val a.reverse)
  | [], [], _, _, _ => by simp [cmpRev]
  | [], _ :: _, _, _, h => nomatch h
  | _ :: _, [], _, _, h => nomatch h
  | x :: xs, y :: ys, ha, hb, hl => by
    have ⟨hx, hxs⟩ := Limbs_cons.mp ha
    have ⟨hy, hys⟩ := Limbs_cons.mp hb
    have hl' : xs.length = ys.length := by simpa using hl
    have ih := cmpRev_spec xs ys hxs hys hl'
    have bx := val_lt xs.reverse (Limbs_reverse hxs)
    have bY := val_lt ys.reverse (Limbs_reverse hys)
    rw [List.length_reverse] at bx bY
    rw [val_reverse_cons, val_reverse_cons, ← hl']
    rw [← hl'] at bY
    generalize val xs.reverse = p at *
    generalize val ys.reverse = q at *
    generalize B ^ xs.length = P at *
    have step : cmpRev (x :: xs) (y :: ys) =
        if x ≠ y then (if x > y then 1 else -1) else cmpRev xs ys := rfl
    rw [step]
    by_cases hxy : x = y
    · rw [if_neg (not_not.mpr hxy), hxy]
      rcases ih with ⟨h, l⟩ | ⟨h, l⟩ | ⟨h, l⟩
      · exact Or.inl ⟨h, Nat.add_lt_add_right l _⟩
      · exact Or.inr (Or.inl ⟨h, by rw [l]⟩)
      · exact Or.inr (Or.inr ⟨h, Nat.add_lt_add_right l _⟩)
    · rw [if_pos hxy]
      by_cases hgt : x > y
      · rw [if_pos hgt]
        exact Or.inr (Or.inr ⟨rfl, Nat.lt_of_lt_of_le (add_mul_lt bY hgt) (Nat.le_add_left _ _)⟩)
      · rw [if_neg hgt]
        have hlt : x < y := by omega
        exact Or.inl ⟨rfl, Nat.lt_of_lt_of_le (add_mul_lt bx hlt) (Nat.le_add_left _ _)⟩

theorem cmp_cases (u v : List Nat) (hu : Limbs u) (hv : Limbs v) (hl : u.length = v.length) :
    (cmp u v = -1 ∧ val u < val v) ∨ (cmp u v = 0 ∧ val u = val v) ∨ (cmp u v = 1 ∧ val v < val u) := by
  have h := cmpRev_spec u.reverse v.reverse (Limbs_reverse hu) (Limbs_reverse hv)
    (by rw [List.length_reverse, List.length_reverse, hl])
  rwa [List.reverse_reverse, List.reverse_reverse] at h

theorem cmp_lt_iff (u v : List Nat) (hu : Limbs u) (hv : Limbs v) (hl : u.length = v.length) :
    cmp u v < 0 ↔ val u < val v := by
  rcases cmp_cases u v hu hv hl with ⟨h, l⟩ | ⟨h, l⟩ | ⟨h, l⟩ <;> rw [h] <;> constructor <;> omega

theorem cmp_ge_iff (u v : List Nat) (hu : Limbs u) (hv : Limbs v) (hl : u.length = v.length) :
    cmp u v ≥ 0 ↔ val v ≤ val u := by
  rcases cmp_cases u v hu hv hl with ⟨h, l⟩ | ⟨h, l⟩ | ⟨h, l⟩ <;> rw [h] <;> constructor <;> omega

theorem zero_p_iff' : ∀ (u : List Nat), zero_p u = true ↔ val u = 0
  | [] => by simp [zero_p]
  | x :: xs => by
    have ih := zero_p_iff' xs
    have step : zero_p (x :: xs) = ((x == 0) && zero_p xs) := rfl
    have hB := B_pos
    rw [step, val_cons, Bool.and_eq_true, ih, beq_iff_eq]
    constructor
    · rintro ⟨h1, h2⟩; rw [h1, h2]; simp
    · intro h
      have h1 : x = 0 := by omega
      have h2 : B * val xs = 0 := by omega
      exact ⟨h1, (Nat.mul_eq_zero.mp h2).resolve_left (by omega)⟩

/-! ### mpn_mul_1, mpn_addmul_1, mpn_submul_1 (mul_1.c, addmul_1.c, submul_1.c) -/

/-- the carry out of a `P`-sized window is a limb because `X·y + c ≤ (X+1)(B-1) ≤ P·(B-1)` -/
theorem carry_sum_lt {P X y c a s : Nat} (hX : X < P) (hy : y < B) (hc : c < B)
    (h : a + P * s = X * y + c) : s < B := by
  have hB := B_pos
  have h1 : X * y + c ≤ (X + 1) * (B - 1) := by
    rw [Nat.succ_mul]
    exact Nat.add_le_add (Nat.mul_le_mul_left _ (by omega)) (by omega)
  have h2 : (X + 1) * (B - 1) ≤ P * (B - 1) := Nat.mul_le_mul_right _ hX
  have h3 : s ≤ B - 1 := Nat.le_of_mul_le_mul_left (by omega) (Nat.zero_lt_of_lt hX)
  omega

/-- the literal is `(B-1)²` -/
theorem limb_mul_le (u v : Nat) (hu : u < B) (hv : v < B) :
    u * v ≤ 340282366920938463426481119284349108225 := by
  have : u * v ≤ (B - 1) * (B - 1) := Nat.mul_le_mul (by omega) (by omega)
  simpa [B_eq] using this

/-- one limb of mul_1: `lpl += cl; cl = (lpl < cl) + hpl` is the exact two-limb sum u·v + cl -/
theorem mul1_limb (u v cl p lpl cl' : Nat) (hu : u < B) (hv : v < B) (hcl : cl < B)
    (hp : p = u * v)
    (hlpl : lpl = (p % B + cl) % B)
    (hcl' : cl' = (boolToNat (decide (lpl < cl)) + p / B) % B) :
    lpl + B * cl' = p + cl ∧ cl' < B ∧ lpl < B := by
  have hb := limb_mul_le u v hu hv
  have e := add_carry' (p % B) cl (Nat.mod_lt _ B_pos) hcl
  have hdm := Nat.div_add_mod p B
  have hc := boolToNat_le (decide (lpl < cl))
  have hl : lpl < B := hlpl ▸ Nat.mod_lt _ B_pos
  rw [← hp] at hb
  rw [← hlpl] at e
  generalize boolToNat (decide (lpl < cl)) = c at *
  generalize p / B = ph at *
  generalize p % B = pl at *
  clear hlpl hp hu hv
  -- the high word of a product of two limbs is at most B - 2, so adding the carry bit does not wrap
  rw [Nat.mod_eq_of_lt (by simp only [B_eq] at *; omega)] at hcl'
  simp only [B_eq] at *
  omega

theorem mul1C_val (v : Nat) (hv : v < B) : ∀ (u : List Nat) (cl : Nat), Limbs u → cl < B →
    val (mul1C u v cl).1 + B ^ u.length * (mul1C u v cl).2 = val u * v + cl ∧
    (mul1C u v cl).2 < B ∧ Limbs (mul1C u v cl).1 ∧ (mul1C u v cl).1.length = u.length
  | [], cl, _, hcl => by simp [mul1C, hcl, Limbs_nil]
  | u :: us, cl, h, hcl => by
    have ⟨hu, hus⟩ := Limbs_cons.mp h
    obtain ⟨lpl, hlpl⟩ : ∃ lpl, lpl = ((u * v) % B + cl) % B := ⟨_, rfl⟩
    obtain ⟨cl', hcl'⟩ : ∃ c, c = (boolToNat (decide (lpl < cl)) + (u * v) / B) % B := ⟨_, rfl⟩
    have step : mul1C (u :: us) v cl = (lpl :: (mul1C us v cl').1, (mul1C us v cl').2) := by
      rw [hcl', hlpl]; rfl
    obtain ⟨e, c1, r1⟩ := mul1_limb u v cl _ lpl cl' hu hv hcl rfl hlpl hcl'
    obtain ⟨ihv, ihc, ihl, ihn⟩ := mul1C_val v hv us cl' hus c1
    rw [step]
    simp only [val_cons, List.length_cons, pow_succ]
    refine ⟨?_, ihc, Limbs_cons.mpr ⟨r1, ihl⟩, by rw [ihn]⟩
    linear_combination e + B * ihv

/-- one limb of addmul_1: the mul_1 limb, then `rl + lpl` with its carry added to the high word;
    that sum cannot wrap because `r + u·v + cl < B²` -/
theorem addmul1_limb (r u v cl p lpl1 cl1 lpl cl2 : Nat) (hr : r < B) (hu : u < B) (hv : v < B)
    (hcl : cl < B) (hp : p = u * v)
    (h1 : lpl1 = (p % B + cl) % B)
    (h2 : cl1 = (boolToNat (decide (lpl1 < cl)) + p / B) % B)
    (h3 : lpl = (r + lpl1) % B)
    (h4 : cl2 = (cl1 + boolToNat (decide (lpl < r))) % B) :
    lpl + B * cl2 = r + p + cl ∧ cl2 < B ∧ lpl < B := by
  obtain ⟨e1, c1, l1⟩ := mul1_limb u v cl p lpl1 cl1 hu hv hcl hp h1 h2
  have hb := limb_mul_le u v hu hv
  have e := add_carry r lpl1 hr l1
  have hc := boolToNat_le (decide (lpl < r))
  have hl : lpl < B := h3 ▸ Nat.mod_lt _ B_pos
  rw [← hp] at hb
  rw [← h3] at e
  generalize boolToNat (decide (lpl < r)) = c at *
  clear h1 h2 h3 hp hu hv
  rw [Nat.mod_eq_of_lt (by simp only [B_eq] at *; omega)] at h4
  simp only [B_eq] at *
  omega

theorem addmul1C_val (v : Nat) (hv : v < B) : ∀ (r u : List Nat) (cl : Nat), Limbs r → Limbs u →
    r.length = u.length → cl < B →
    val (addmul1C r u v cl).1 + B ^ u.length * (addmul1C r u v cl).2 = val r + val u * v + cl ∧
    (addmul1C r u v cl).2 < B ∧ Limbs (addmul1C r u v cl).1 ∧ (addmul1C r u v cl).1.length = u.length
  | [], [], cl, _, _, _, hcl => by simp [addmul1C, hcl, Limbs_nil]
  | [], _ :: _, _, _, _, h, _ => nomatch h
  | _ :: _, [], _, _, _, h, _ => nomatch h
  | r :: rs, u :: us, cl, hr, hu, hl, hcl => by
    have ⟨hr0, hrs⟩ := Limbs_cons.mp hr
    have ⟨hu0, hus⟩ := Limbs_cons.mp hu
    obtain ⟨lpl1, h1⟩ : ∃ x, x = ((u * v) % B + cl) % B := ⟨_, rfl⟩
    obtain ⟨cl1, h2⟩ : ∃ x, x = (boolToNat (decide (lpl1 < cl)) + (u * v) / B) % B := ⟨_, rfl⟩
    obtain ⟨lpl, h3⟩ : ∃ x, x = (r + lpl1) % B := ⟨_, rfl⟩
    obtain ⟨cl2, h4⟩ : ∃ x, x = (cl1 + boolToNat (decide (lpl < r))) % B := ⟨_, rfl⟩
    have step : addmul1C (r :: rs) (u :: us) v cl =
        (lpl :: (addmul1C rs us v cl2).1, (addmul1C rs us v cl2).2) := by
      rw [h4, h3, h2, h1]; rfl
    obtain ⟨e, c1, r1⟩ := addmul1_limb r u v cl _ lpl1 cl1 lpl cl2 hr0 hu0 hv hcl rfl h1 h2 h3 h4
    obtain ⟨ihv, ihc, ihl, ihn⟩ := addmul1C_val v hv rs us cl2 hrs hus (Nat.succ.inj hl) c1
    rw [step]
    simp only [val_cons, List.length_cons, pow_succ]
    refine ⟨?_, ihc, Limbs_cons.mpr ⟨r1, ihl⟩, by rw [ihn]⟩
    linear_combination e + B * ihv

theorem submul1_limb (r u v cl p lpl1 cl1 lpl cl2 : Nat) (hr : r < B) (hu : u < B) (hv : v < B)
    (hcl : cl < B) (hp : p = u * v)
    (h1 : lpl1 = (p % B + cl) % B)
    (h2 : cl1 = (boolToNat (decide (lpl1 < cl)) + p / B) % B)
    (h3 : lpl = (r + B - lpl1) % B)
    (h4 : cl2 = (cl1 + boolToNat (decide (lpl > r))) % B) :
    lpl + p + cl = r + B * cl2 ∧ cl2 < B ∧ lpl < B := by
  obtain ⟨e1, c1, l1⟩ := mul1_limb u v cl p lpl1 cl1 hu hv hcl hp h1 h2
  have hb := limb_mul_le u v hu hv
  have e := sub_borrow r lpl1 hr l1
  have hc := boolToNat_le (decide (lpl > r))
  have hl : lpl < B := h3 ▸ Nat.mod_lt _ B_pos
  rw [← hp] at hb
  rw [← h3] at e
  generalize boolToNat (decide (lpl > r)) = c at *
  clear h1 h2 h3 hp hu hv
  rw [Nat.mod_eq_of_lt (by simp only [B_eq] at *; omega)] at h4
  simp only [B_eq] at *
  omega

theorem submul1C_val (v : Nat) (hv : v < B) : ∀ (r u : List Nat) (cl : Nat), Limbs r → Limbs u →
    r.length = u.length → cl < B →
    val (submul1C r u v cl).1 + val u * v + cl = val r + B ^ u.length * (submul1C r u v cl).2 ∧
    (submul1C r u v cl).2 < B ∧ Limbs (submul1C r u v cl).1 ∧ (submul1C r u v cl).1.length = u.length
  | [], [], cl, _, _, _, hcl => by simp [submul1C, hcl, Limbs_nil]
  | [], _ :: _, _, _, _, h, _ => nomatch h
  | _ :: _, [], _, _, _, h, _ => nomatch h
  | r :: rs, u :: us, cl, hr, hu, hl, hcl => by
    have ⟨hr0, hrs⟩ := Limbs_cons.mp hr
    have ⟨hu0, hus⟩ := Limbs_cons.mp hu
    obtain ⟨lpl1, h1⟩ : ∃ x, x = ((u * v) % B + cl) % B := ⟨_, rfl⟩
    obtain ⟨cl1, h2⟩ : ∃ x, x = (boolToNat (decide (lpl1 < cl)) + (u * v) / B) % B := ⟨_, rfl⟩
    obtain ⟨lpl, h3⟩ : ∃ x, x = (r + B - lpl1) % B := ⟨_, rfl⟩
    obtain ⟨cl2, h4⟩ : ∃ x, x = (cl1 + boolToNat (decide (lpl > r))) % B := ⟨_, rfl⟩
    have step : submul1C (r :: rs) (u :: us) v cl =
        (lpl :: (submul1C rs us v cl2).1, (submul1C rs us v cl2).2) := by
      rw [h4, h3, h2, h1]; rfl
    obtain ⟨e, c1, r1⟩ := submul1_limb r u v cl _ lpl1 cl1 lpl cl2 hr0 hu0 hv hcl rfl h1 h2 h3 h4
    obtain ⟨ihv, ihc, ihl, ihn⟩ := submul1C_val v hv rs us cl2 hrs hus (Nat.succ.inj hl) c1
    rw [step]
    simp only [val_cons, List.length_cons, pow_succ]
    refine ⟨?_, ihc, Limbs_cons.mpr ⟨r1, ihl⟩, by rw [ihn]⟩
    linear_combination e + B * ihv

theorem mul_1_val' (u : List Nat) (vl : Nat) (hu : Limbs u) (hv : vl < B) :
    val (mul_1 u vl).1 + B ^ u.length * (mul_1 u vl).2 = val u * vl ∧
    (mul_1 u vl).2 < B ∧ Limbs (mul_1 u vl).1 ∧ (mul_1 u vl).1.length = u.length :=
  mul1C_val vl hv u 0 hu B_pos

theorem addmul_1_val' (r u : List Nat) (vl : Nat) (hr : Limbs r) (hu : Limbs u) (hv : vl < B)
    (hl : r.length = u.length) :
    val (addmul_1 r u vl).1 + B ^ u.length * (addmul_1 r u vl).2 = val r + val u * vl ∧
    (addmul_1 r u vl).2 < B ∧ Limbs (addmul_1 r u vl).1 ∧ (addmul_1 r u vl).1.length = u.length :=
  addmul1C_val vl hv r u 0 hr hu hl B_pos

theorem submul_1_val' (r u : List Nat) (vl : Nat) (hr : Limbs r) (hu : Limbs u) (hv : vl < B)
    (hl : r.length = u.length) :
    val (submul_1 r u vl).1 + val u * vl = val r + B ^ u.length * (submul_1 r u vl).2 ∧
    (submul_1 r u vl).2 < B ∧ Limbs (submul_1 r u vl).1 ∧ (submul_1 r u vl).1.length = u.length :=
  submul1C_val vl hv r u 0 hr hu hl B_pos

/-! ### mpn_mul_basecase -/

theorem mulBasecaseRows_val (u : List Nat) (hu : Limbs u) : ∀ (vs acc : List Nat) (off : Nat),
    Limbs vs → Limbs acc → acc.length = u.length + off →
    val (mulBasecaseRows u vs acc off) = val acc + B ^ off * val u * val vs ∧
    Limbs (mulBasecaseRows u vs acc off) ∧
    (mulBasecaseRows u vs acc off).length = u.length + off + vs.length
  | [], acc, off, _, hacc, hlen => by simp [mulBasecaseRows, hacc, hlen]
  | v :: vs, acc, off, hvs, hacc, hlen => by
    have ⟨hv, hvs'⟩ := Limbs_cons.mp hvs
    have hmid : (acc.drop off).length = u.length := by simp [hlen]
    have hlo : (acc.take off).length = off := by simp [hlen]
    obtain ⟨av, ac, al, an⟩ := addmul1C_val v hv (acc.drop off) u 0 (Limbs_drop hacc _) hu hmid
      B_pos
    have hsplit := val_take_drop acc off (by omega)
    have step : mulBasecaseRows u (v :: vs) acc off =
        mulBasecaseRows u vs (acc.take off ++ (addmul1C (acc.drop off) u v 0).1 ++
          [(addmul1C (acc.drop off) u v 0).2]) (off + 1) := by
      simp only [mulBasecaseRows, addmul_1]
    have hacc' : Limbs (acc.take off ++ (addmul1C (acc.drop off) u v 0).1 ++
          [(addmul1C (acc.drop off) u v 0).2]) :=
      Limbs_append.mpr ⟨Limbs_append.mpr ⟨Limbs_take hacc _, al⟩, Limbs_cons.mpr ⟨ac, Limbs_nil⟩⟩
    obtain ⟨ihv, ihl, ihn⟩ := mulBasecaseRows_val u hu vs _ (off + 1) hvs' hacc'
      (by simp only [List.length_append, hlo, an, List.length_cons, List.length_nil]; omega)
    rw [step]
    refine ⟨?_, ihl, by rw [ihn]; simp only [List.length_cons]; omega⟩
    rw [ihv]
    simp only [val_append, val_cons, val_nil, List.length_append, hlo, an, pow_succ, pow_add]
    linear_combination B ^ off * av - hsplit

theorem mul_basecase_val' (u v : List Nat) (hu : Limbs u) (hv : Limbs v) (hvn : 0 < v.length) :
    val (mul_basecase u v) = val u * val v ∧ Limbs (mul_basecase u v) ∧
    (mul_basecase u v).length = u.length + v.length := by
  match v, hv, hvn with
  | v0 :: vs, hv, _ =>
    have ⟨hv0, hvs⟩ := Limbs_cons.mp hv
    obtain ⟨mv, mc, ml, mn⟩ := mul1C_val v0 hv0 u 0 hu B_pos
    have step : mul_basecase u (v0 :: vs) =
        mulBasecaseRows u vs ((mul1C u v0 0).1 ++ [(mul1C u v0 0).2]) 1 := by
      simp only [mul_basecase, mul_1]
    have hacc : Limbs ((mul1C u v0 0).1 ++ [(mul1C u v0 0).2]) :=
      Limbs_append.mpr ⟨ml, Limbs_cons.mpr ⟨mc, Limbs_nil⟩⟩
    obtain ⟨rv, rl, rn⟩ := mulBasecaseRows_val u hu vs _ 1 hvs hacc
      (by simp only [List.length_append, mn, List.length_cons, List.length_nil])
    rw [step]
    refine ⟨?_, rl, by rw [rn, List.length_cons]; omega⟩
    rw [rv]
    simp only [val_append, val_cons, val_nil, mn, pow_one]
    linear_combination mv

/-! ### length and limb bounds of the results, without the hypotheses of the `_val` theorems -/

theorem addNC_length : ∀ (u v : List Nat) (cy : Nat), u.length = v.length → (addNC u v cy).1.length = u.length
  | [], [], _, _ => rfl
  | [], _ :: _, _, h => by simp at h
  | _ :: _, [], _, h => by simp at h
  | u :: us, v :: vs, cy, h => by
      simp only [addNC, List.length_cons]
      rw [addNC_length us vs _ (by simpa using h)]

theorem subNC_length : ∀ (u v : List Nat) (cy : Nat), u.length = v.length → (subNC u v cy).1.length = u.length
  | [], [], _, _ => rfl
  | [], _ :: _, _, h => by simp at h
  | _ :: _, [], _, h => by simp at h
  | u :: us, v :: vs, cy, h => by
      simp only [subNC, List.length_cons]
      rw [subNC_length us vs _ (by simpa using h)]

theorem lshiftGo_length (cnt : Nat) : ∀ (u : List Nat) (lo : Nat), (lshiftGo cnt u lo).1.length = u.length
  | [], _ => rfl
  | x :: xs, lo => by simp [lshiftGo, lshiftGo_length cnt xs]

theorem rshiftGo_length (cnt : Nat) : ∀ (u : List Nat), (rshiftGo cnt u).length = u.length
  | [] => rfl
  | [_] => rfl
  | x :: y :: ys => by simp [rshiftGo, rshiftGo_length cnt (y :: ys)]

theorem mul1C_length (vl : Nat) : ∀ (u : List Nat) (cl : Nat), (mul1C u vl cl).1.length = u.length
  | [], _ => rfl
  | x :: xs, cl => by simp [mul1C, mul1C_length vl xs]

theorem addmul1C_length (vl : Nat) : ∀ (r u : List Nat) (cl : Nat), r.length = u.length →
    (addmul1C r u vl cl).1.length = u.length
  | [], [], _, _ => rfl
  | [], _ :: _, _, h => by simp at h
  | _ :: _, [], _, h => by simp at h
  | r :: rs, u :: us, cl, h => by
      simp only [addmul1C, List.length_cons]
      rw [addmul1C_length vl rs us _ (by simpa using h)]

theorem submul1C_length (vl : Nat) : ∀ (r u : List Nat) (cl : Nat), r.length = u.length →
    (submul1C r u vl cl).1.length = u.length
  | [], [], _, _ => rfl
  | [], _ :: _, _, h => by simp at h
  | _ :: _, [], _, h => by simp at h
  | r :: rs, u :: us, cl, h => by
      simp only [submul1C, List.length_cons]
      rw [submul1C_length vl rs us _ (by simpa using h)]

theorem negNC_length : ∀ (u : List Nat) (c : Nat), (negNC u c).1.length = u.length
  | [], _ => rfl
  | x :: xs, c => by
      simp only [negNC]
      split
      · split <;> simp [negNC_length xs]
      · simp [negNC_length xs]

theorem incr_length : ∀ (u : List Nat), (incr u).1.length = u.length
  | [] => rfl
  | x :: xs => by
      simp only [incr]; split <;> simp [incr_length xs]

theorem decr_length : ∀ (u : List Nat), (decr u).1.length = u.length
  | [] => rfl
  | x :: xs => by
      simp only [decr]; split <;> simp [decr_length xs]

theorem add_1_length (u : List Nat) (v : Nat) : (add_1 u v).1.length = u.length := by
  cases u with
  | nil => rfl
  | cons x xs => simp only [add_1]; split <;> simp [incr_length]

theorem sub_1_length (u : List Nat) (v : Nat) : (sub_1 u v).1.length = u.length := by
  cases u with
  | nil => rfl
  | cons x xs => simp only [sub_1]; split <;> simp [decr_length]

theorem add_length (x y : List Nat) (h : y.length ≤ x.length) : (add x y).1.length = x.length := by
  unfold add add_n
  simp only
  split <;> simp [addNC_length, incr_length, h]

theorem sub_length (x y : List Nat) (h : y.length ≤ x.length) : (sub x y).1.length = x.length := by
  unfold sub sub_n
  simp only
  split <;> simp [subNC_length, decr_length, h]

theorem Limbs_subNC : ∀ (u v : List Nat) (cy : Nat), Limbs (subNC u v cy).1
  | [], _, _ => by simp [subNC, Limbs_nil]
  | _ :: _, [], _ => by simp [subNC, Limbs_nil]
  | u :: us, v :: vs, cy => by
    simp only [subNC]
    exact Limbs_cons.mpr ⟨Nat.mod_lt _ B_pos, Limbs_subNC us vs _⟩

theorem Limbs_addNC : ∀ (u v : List Nat) (cy : Nat), Limbs (addNC u v cy).1
  | [], _, _ => by simp [addNC, Limbs_nil]
  | _ :: _, [], _ => by simp [addNC, Limbs_nil]
  | u :: us, v :: vs, cy => by
    simp only [addNC]
    exact Limbs_cons.mpr ⟨Nat.mod_lt _ B_pos, Limbs_addNC us vs _⟩

theorem Limbs_decr (u : List Nat) (h : Limbs u) : Limbs (decr u).1 := (decr_val u h).2.2.1

theorem Limbs_incr (u : List Nat) (h : Limbs u) : Limbs (incr u).1 := (incr_val u h).2.2.1

theorem Limbs_sub (x y : List Nat) (hx : Limbs x) : Limbs (sub x y).1 := by
  unfold sub sub_n
  simp only
  split
  · exact Limbs_append.mpr ⟨Limbs_subNC _ _ _, Limbs_decr _ (Limbs_drop hx _)⟩
  · exact Limbs_append.mpr ⟨Limbs_subNC _ _ _, Limbs_drop hx _⟩

theorem Limbs_add (x y : List Nat) (hx : Limbs x) : Limbs (add x y).1 := by
  unfold add add_n
  simp only
  split
  · exact Limbs_append.mpr ⟨Limbs_addNC _ _ _, Limbs_incr _ (Limbs_drop hx _)⟩
  · exact Limbs_append.mpr ⟨Limbs_addNC _ _ _, Limbs_drop hx _⟩

end Mpir
