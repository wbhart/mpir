/- Refinement proof for the size-aware model of mpz/mul.c (Mpir/Model/AllocSafeMpz4.lean `mul`): every path refines the
   value-level model `Mpz.mul` (exact by C01's `mpz_mul_exact`) with `ok = true`; the operands are read from the block they
   live in at the time of the call — the retained old block of w (`free_me`), a temporary copy, or another variable's block. -/
import MpirProofs.Lemmas.AllocSafeAorsmul
namespace Mpir.AllocSafe
open Mpir
open Mpir.Mpz (sgn natAbs_sgn Norm)

/-- mul.c:154-163 on a state whose block of w has room for the product and does not hold an operand that is still needed -/
theorem mulTail_refines (s1 : St) (w : Nat) (up vp : Src) (U V : List Nat) (same neg : Bool)
    (hok : s1.ok = true) (hb : BWF (s1.h w).buf) (DU : Den s1 up U) (DV : Den s1 vp V) (hLU : Limbs U) (hLV : Limbs V)
    (hV : V ≠ []) (hsame : same = true → up = vp ∧ U = V) (hroom : U.length + V.length ≤ (s1.h w).buf.alloc) :
    Refines s1 (mulTail s1 w up vp U.length V.length same neg) w
      (Mpz.mulProd (s1.h w).buf.alloc neg (U.length + V.length) (Mpz.mpn_mul U V)) := by
  obtain ⟨eu, oku⟩ := DU.rd U.length (Nat.le_refl _)
  obtain ⟨ev, okv⟩ := DV.rd V.length (Nat.le_refl _)
  rw [List.take_length] at eu ev
  obtain ⟨_, tl, tn⟩ := mul_basecase_val' U V hLU hLV (List.length_pos_iff.mpr hV)
  have W := Wrote.fresh s1 w (Mpz.mpn_mul U V) true hok rfl hb tl (by rw [show (Mpz.mpn_mul U V).length = _ from tn]; exact hroom)
  have tn' : (Mpz.mpn_mul U V).length = U.length + V.length := tn
  unfold mulTail Mpz.mulProd
  by_cases hsq : (same && U.length == V.length) = true
  · -- mpn_sqr: the same rows, and the top limb is read back at 2·usize − 1
    obtain ⟨hp, hUV⟩ := hsame (by simp only [Bool.and_eq_true] at hsq; exact hsq.1)
    subst hp hUV
    simp only [hsq, if_true, mpn_mul_S, eu, oku, Bool.and_self]
    have F := W.fin_strip (by intro h; rw [h] at tn'; have := List.length_pos_iff.mpr hV; simp at tn'; omega) neg
    rw [tn', chk_true] at F
    rw [chk_true, Nat.two_mul]
    exact F
  · simp only [hsq, Bool.false_eq_true, if_false, mpn_mul_S, eu, ev, oku, okv, Bool.and_self]
    exact W.fin_take neg _ (by rw [tn']; omega)

/-! ## the fresh block of mul.c:128-130 -/

theorem freshBlock_ok (s : St) (w n : Nat) : (freshBlock s w n).ok = s.ok := rfl
theorem freshBlock_other (s : St) (w n : Nat) {x : Nat} (hx : x ≠ w) : (freshBlock s w n).h x = s.h x := by
  simp [freshBlock, upd, hx]
theorem freshBlock_bwf (s : St) (w n : Nat) : BWF ((freshBlock s w n).h w).buf := by
  simp only [freshBlock, upd_same]; exact BWF_new n
theorem freshBlock_alloc (s : St) (w n : Nat) : ((freshBlock s w n).h w).buf.alloc = n := by
  simp [freshBlock, Buf.new]

/-- an operand in another variable's block is still there after w got its fresh block -/
theorem Den.fresh {s : St} {w n x : Nat} {L : List Nat} (D : Den s (.ptr (s.PTR x)) L) (hx : x ≠ w) :
    Den (freshBlock s w n) (.ptr (s.PTR x)) L := by
  obtain ⟨h0, hl, hfit, ht⟩ := D
  have hf := freshBlock_other s w n hx
  simp only [PTR_id] at hfit ht
  exact ⟨h0, by simp [St.live, St.PTR, hf], by simp only [PTR_id, hf]; exact hfit, by simp only [PTR_id, hf]; exact ht⟩

/-- the retained old block (`free_me`), or any detached block, holds what it held -/
theorem Den.detached (b : Buf) (L : List Nat) (hfit : L.length ≤ b.alloc) (ht : b.limbs.take L.length = L) (s' : St) :
    Den s' (.tmp b 0) L := ⟨rfl, hfit, ht⟩

theorem tmp_copy_spec (s : St) (p : Ptr) (L : List Nat) (D : Den s (.ptr p) L) :
    (tmp_copy s p L.length).2 = s ∧ ∀ s' : St, Den s' (.tmp (tmp_copy s p L.length).1 0) L := by
  obtain ⟨e, ok⟩ := D.rd L.length (Nat.le_refl _)
  simp only [St.rdS, St.rdOkS] at e ok
  rw [List.take_length] at e
  refine ⟨?_, ?_⟩
  · simp only [tmp_copy, e, ok, Buf.write, Buf.new, Nat.zero_add, Nat.le_refl, if_true, Bool.and_self, chk_true]
  · intro s'
    simp only [tmp_copy, e, Buf.write, Buf.new, Nat.zero_add, Nat.le_refl, if_true]
    refine ⟨rfl, by simp, ?_⟩
    simp only [List.take_zero, List.nil_append]
    rw [List.take_append_of_le_length (by omega)]
    exact List.take_of_length_le (by omega)

theorem Den.of_owf_detached {s : St} {x : Nat} (hx : OWF (s.h x)) (s' : St) :
    Den s' (.tmp (s.h x).buf 0) (view (s.h x)).d :=
  Den.detached _ _ (by rw [view_d_length hx]; exact view_fit hx) (by rw [view_d_length hx]; rfl) s'

theorem mulGeneric_refines (s : St) (w u v : Nat) (neg : Bool) (hs : s.ok = true)
    (hw : OWF (s.h w)) (hu : OWF (s.h u)) (hv : OWF (s.h v)) (hv0 : (s.h v).size ≠ 0) :
    Refines s (mulGeneric true s w u v (s.h u).size.natAbs (s.h v).size.natAbs neg) w
      (Mpz.mulProd (if (s.h w).buf.alloc < (s.h u).size.natAbs + (s.h v).size.natAbs
          then (s.h u).size.natAbs + (s.h v).size.natAbs else (s.h w).buf.alloc) neg
        ((s.h u).size.natAbs + (s.h v).size.natAbs) (Mpz.mpn_mul (view (s.h u)).d (view (s.h v)).d)) := by
  have hUl := view_d_length hu
  have hVl := view_d_length hv
  have hLU := view_limbs hu
  have hLV := view_limbs hv
  have hVne : (view (s.h v)).d ≠ [] := by intro h; rw [h] at hVl; simp at hVl; omega
  have hsameUV : (u == v) = true → (view (s.h u)).d = (view (s.h v)).d := by
    intro h; have : u = v := by simpa using h
    rw [this]
  have huv_of : (u == v) = true → u = v := fun h => by simpa using h
  unfold mulGeneric
  rw [show s.ALLOC w = (s.h w).buf.alloc from rfl]
  rw [← hUl, ← hVl]
  by_cases hal : (s.h w).buf.alloc < (view (s.h u)).d.length + (view (s.h v)).d.length
  · simp only [hal, if_true, Bool.and_true]
    have fin : ∀ (up vp : Src), Den (freshBlock s w ((view (s.h u)).d.length + (view (s.h v)).d.length)) up (view (s.h u)).d →
        Den (freshBlock s w ((view (s.h u)).d.length + (view (s.h v)).d.length)) vp (view (s.h v)).d →
        ((u == v) = true → up = vp) →
        Refines s (mulTail (freshBlock s w ((view (s.h u)).d.length + (view (s.h v)).d.length)) w up vp
          (view (s.h u)).d.length (view (s.h v)).d.length (u == v) neg) w
          (Mpz.mulProd ((view (s.h u)).d.length + (view (s.h v)).d.length) neg
            ((view (s.h u)).d.length + (view (s.h v)).d.length) (Mpz.mpn_mul (view (s.h u)).d (view (s.h v)).d)) := by
      intro up vp DU DV hp
      have R := mulTail_refines (freshBlock s w ((view (s.h u)).d.length + (view (s.h v)).d.length)) w up vp
        (view (s.h u)).d (view (s.h v)).d (u == v) neg (by rw [freshBlock_ok]; exact hs) (freshBlock_bwf _ _ _) DU DV hLU hLV hVne
        (fun h => ⟨hp h, hsameUV h⟩) (by rw [freshBlock_alloc])
      rw [freshBlock_alloc] at R
      exact R.rebase (fun x hx => freshBlock_other s w _ hx)
    by_cases hwu : w = u
    · have e : (w == u) = true := by simpa using hwu
      simp only [e, Bool.true_or, if_true]
      by_cases hwv : w = v
      · have e' : (w == v) = true := by simpa using hwv
        simp only [e', if_true]
        refine fin _ _ ?_ ?_ (fun _ => rfl)
        · rw [hwu]; exact Den.of_owf_detached hu _
        · rw [hwv]; exact Den.of_owf_detached hv _
      · have e' : (w == v) = false := by simpa using hwv
        simp only [e', Bool.false_eq_true, if_false]
        refine fin _ _ ?_ ?_ (fun h => absurd (hwu.trans (huv_of h)) hwv)
        · rw [hwu]; exact Den.of_owf_detached hu _
        · exact (Den.of_owf hv).fresh (fun h => hwv h.symm)
    · have e : (w == u) = false := by simpa using hwu
      by_cases hwv : w = v
      · have e' : (w == v) = true := by simpa using hwv
        simp only [e, e', Bool.or_true, Bool.false_or, if_true, Bool.false_eq_true, if_false]
        refine fin _ _ ?_ ?_ (fun h => absurd (hwv.trans (huv_of h).symm) hwu)
        · exact (Den.of_owf hu).fresh (fun h => hwu h.symm)
        · rw [hwv]; exact Den.of_owf_detached hv _
      · have e' : (w == v) = false := by simpa using hwv
        simp only [e, e', Bool.or_self, Bool.false_eq_true, if_false]
        refine fin _ _ ((Den.of_owf hu).fresh (fun h => hwu h.symm)) ((Den.of_owf hv).fresh (fun h => hwv h.symm)) ?_
        intro h; have : u = v := by simpa using h
        rw [this]
  · simp only [hal, if_false]
    have fin : ∀ (up vp : Src), Den s up (view (s.h u)).d → Den s vp (view (s.h v)).d → ((u == v) = true → up = vp) →
        Refines s (mulTail s w up vp (view (s.h u)).d.length (view (s.h v)).d.length (u == v) neg) w
          (Mpz.mulProd (s.h w).buf.alloc neg ((view (s.h u)).d.length + (view (s.h v)).d.length)
            (Mpz.mpn_mul (view (s.h u)).d (view (s.h v)).d)) := by
      intro up vp DU DV hp
      exact mulTail_refines s w up vp (view (s.h u)).d (view (s.h v)).d (u == v) neg hs hw.1 DU DV hLU hLV hVne
        (fun h => ⟨hp h, hsameUV h⟩) (by omega)
    by_cases hwu : w = u
    · have e : (w == u) = true := by simpa using hwu
      simp only [e, if_true]
      obtain ⟨c1, c2⟩ := tmp_copy_spec s (s.PTR u) (view (s.h u)).d (Den.of_owf hu)
      rw [show tmp_copy s (s.PTR u) (view (s.h u)).d.length = ((tmp_copy s (s.PTR u) (view (s.h u)).d.length).1,
        (tmp_copy s (s.PTR u) (view (s.h u)).d.length).2) from rfl]
      simp only [c1]
      by_cases hwv : w = v
      · have e' : (w == v) = true := by simpa using hwv
        simp only [e', if_true]
        refine fin _ _ (c2 s) ?_ (fun _ => rfl)
        have huv : u = v := hwu.symm.trans hwv
        rw [← huv]; exact c2 s
      · have e' : (w == v) = false := by simpa using hwv
        simp only [e', Bool.false_eq_true, if_false]
        exact fin _ _ (c2 s) (Den.of_owf hv) (fun h => absurd (hwu.trans (huv_of h)) hwv)
    · have e : (w == u) = false := by simpa using hwu
      simp only [e, Bool.false_eq_true, if_false]
      by_cases hwv : w = v
      · have e' : (w == v) = true := by simpa using hwv
        simp only [e', if_true]
        obtain ⟨c1, c2⟩ := tmp_copy_spec s (s.PTR v) (view (s.h v)).d (Den.of_owf hv)
        rw [show tmp_copy s (s.PTR v) (view (s.h v)).d.length = ((tmp_copy s (s.PTR v) (view (s.h v)).d.length).1,
          (tmp_copy s (s.PTR v) (view (s.h v)).d.length).2) from rfl]
        simp only [c1]
        exact fin _ _ (Den.of_owf hu) (c2 s) (fun h => absurd (hwv.trans (huv_of h).symm) hwu)
      · have e' : (w == v) = false := by simpa using hwv
        simp only [e', Bool.false_eq_true, if_false]
        refine fin _ _ (Den.of_owf hu) (Den.of_owf hv) ?_
        intro h; have : u = v := by simpa using h
        rw [this]

theorem mul_refines (thr : Nat) (s : St) (w u v : Nat) (hs : s.ok = true)
    (hw : OWF (s.h w)) (hu : OWF (s.h u)) (hv : OWF (s.h v)) :
    Refines s (mul thr true 1 s w u v) w
      (Mpz.mul thr ⟨w == u, w == v, u == v⟩ (view (s.h w)) (view (s.h u)) (view (s.h v))) := by
  have hUl := view_d_length hu
  have hVl := view_d_length hv
  have hLU := view_limbs hu
  have hLV := view_limbs hv
  -- the value side names the three objects; each branch fixes the tests of the size-aware code
  refine Mpz.mul_cases thr _ _ _ _ (fun h => by rw [show u = v by simpa using h])
    (fun r => Refines s (mul thr true 1 s w u v) w r) (fun h0 => ?_) (fun hu0 h1 => ?_) (fun hu0 h2 => ?_)
  · change (s.h u).size = 0 ∨ (s.h v).size = 0 at h0
    unfold mul
    rw [show s.SIZ u = (s.h u).size from rfl, show s.SIZ v = (s.h v).size from rfl,
      if_pos (by rcases h0 with h | h <;> simp [h])]
    exact ⟨by simpa using hs, by simp [view], by simpa using hw.1, fun x hx => setSize_other _ _ _ hx⟩
  · -- mul.c:69-77
    have e1 : (view (s.h u)).size = (s.h u).size := rfl
    have e2 : (view (s.h v)).size = (s.h v).size := rfl
    rw [e1] at hu0; rw [e2] at h1; rw [e1, e2]
    unfold mul
    rw [show s.SIZ u = (s.h u).size from rfl, show s.SIZ v = (s.h v).size from rfl,
      if_neg (by simp [hu0, h1]), if_pos (by simp [h1])]
    have G := MPZ_REALLOC_grown s w ((s.h u).size.natAbs + 1) hw
    have Du := Den.of_grown G hu
    have Dv := Den.of_grown G hv
    rw [show (Mpz.grow (view (s.h w)) ((s.h u).size.natAbs + 1)).alloc =
      ((MPZ_REALLOC s w ((s.h u).size.natAbs + 1)).h w).buf.alloc from G.alloc.symm]
    refine Refines.of_grown G ?_
    have h1' : (view (s.h v)).d.length = 1 := hVl.trans h1
    obtain ⟨el, okl⟩ := Dv.one h1'
    simp only [Src.add, St.rdS, St.rdOkS] at el okl
    simp only [St.load, el, okl, chk_true]
    have hv0B : (view (s.h v)).d.headD 0 < B := by
      match hd : (view (s.h v)).d, h1' with
      | [a], _ => rw [hd] at hLV; exact hLV a (by simp)
    have Z := aorsmul_1_zero_refines _ w u ((view (s.h v)).d.headD 0) (Mpz.diffSign (s.h u).size (s.h v).size) (view (s.h u)).d
      (by rw [G.ok]; exact hs) (G.bwf w hw.1) Du hLU hv0B (by rw [hUl]; exact G.room)
    rw [hUl] at Z
    exact Z
  · have e1 : (view (s.h u)).size = (s.h u).size := rfl
    have e2 : (view (s.h v)).size = (s.h v).size := rfl
    have e3 : (view (s.h w)).alloc = (s.h w).buf.alloc := rfl
    rw [e1] at hu0; rw [e2] at h2; rw [e1, e2, e3]
    have hv0 : (s.h v).size ≠ 0 := by intro h; rw [h] at h2; simp at h2
    have hUne : (view (s.h u)).d ≠ [] := by intro h; rw [h] at hUl; simp at hUl; omega
    have hVne : (view (s.h v)).d ≠ [] := by intro h; rw [h] at hVl; simp at hVl; omega
    unfold mul
    rw [show s.SIZ u = (s.h u).size from rfl, show s.SIZ v = (s.h v).size from rfl,
      if_neg (by simp [hu0, hv0]), if_neg (by simp only [beq_iff_eq]; omega)]
    by_cases hbc : (decide ((s.h u).size.natAbs + (s.h v).size.natAbs ≤ thr) && w != u && w != v) = true
    · -- mul.c:83-103, the basecase shortcut (w is neither operand)
      rw [if_pos hbc]
      have G := MPZ_REALLOC_grown s w ((s.h u).size.natAbs + (s.h v).size.natAbs) hw
      have Du := Den.of_grown G hu
      have Dv := Den.of_grown G hv
      rw [← e3, ← Mpz.grow_alloc_eq _ _ (by omega), show (Mpz.grow (view (s.h w)) ((s.h u).size.natAbs + (s.h v).size.natAbs)).alloc =
        ((MPZ_REALLOC s w ((s.h u).size.natAbs + (s.h v).size.natAbs)).h w).buf.alloc from G.alloc.symm]
      refine Refines.of_grown G ?_
      set s1 := MPZ_REALLOC s w ((s.h u).size.natAbs + (s.h v).size.natAbs)
      obtain ⟨eu, oku⟩ := Du.rd (view (s.h u)).d.length (Nat.le_refl _)
      obtain ⟨ev, okv⟩ := Dv.rd (view (s.h v)).d.length (Nat.le_refl _)
      simp only [St.rdS, St.rdOkS] at eu oku ev okv
      rw [List.take_length, hUl] at eu
      rw [List.take_length, hVl] at ev
      rw [hUl] at oku
      rw [hVl] at okv
      unfold Mpz.mulProd
      have key : ∀ (t : List Nat) (st : St), Limbs t → t.length = (s.h u).size.natAbs + (s.h v).size.natAbs →
          st = (s1.chk true).wr (s1.PTR w) t →
          Refines s1 ((st.load (s1.PTR w) ((s.h u).size.natAbs + (s.h v).size.natAbs - 1)).2.setSize w
            (sgn (Mpz.diffSign (s.h u).size (s.h v).size) ((s.h u).size.natAbs + (s.h v).size.natAbs -
              (if (st.load (s1.PTR w) ((s.h u).size.natAbs + (s.h v).size.natAbs - 1)).1 == 0 then 1 else 0)))) w
            ⟨(s1.h w).buf.alloc, sgn (Mpz.diffSign (s.h u).size (s.h v).size) ((s.h u).size.natAbs + (s.h v).size.natAbs -
                (if Mpz.topLimb t == 0 then 1 else 0)),
              t.take ((s.h u).size.natAbs + (s.h v).size.natAbs - (if Mpz.topLimb t == 0 then 1 else 0))⟩ := by
        intro t st tl tn hst
        subst hst
        have hne : t ≠ [] := by intro h; rw [h] at tn; simp at tn; omega
        have F := (G.fresh hs hw true rfl tl (by rw [tn])).fin_strip hne
          (Mpz.diffSign (s.h u).size (s.h v).size)
        rwa [tn] at F
      by_cases hg : (s.h u).size.natAbs ≥ (s.h v).size.natAbs
      · simp only [hg, if_true]
        obtain ⟨_, tl, tn⟩ := mul_basecase_val' (view (s.h u)).d (view (s.h v)).d hLU hLV (List.length_pos_iff.mpr hVne)
        rw [hUl, hVl] at tn
        simp only [mpn_mul, eu, ev, oku, okv, Bool.and_self]
        exact key (Mpz.mpn_mul (view (s.h u)).d (view (s.h v)).d) _ tl tn rfl
      · simp only [hg, if_false]
        obtain ⟨_, tl, tn⟩ := mul_basecase_val' (view (s.h v)).d (view (s.h u)).d hLV hLU (List.length_pos_iff.mpr hUne)
        rw [hUl, hVl, Nat.add_comm] at tn
        simp only [mpn_mul, eu, ev, oku, okv, Bool.and_self]
        exact key (Mpz.mpn_mul (view (s.h v)).d (view (s.h u)).d) _ tl tn rfl
    · -- mul.c:105-166, the generic path, after the swap
      rw [if_neg hbc]
      by_cases hsw : (s.h u).size.natAbs < (s.h v).size.natAbs
      · rw [if_pos hsw, if_neg (by omega : ¬(s.h u).size.natAbs ≥ (s.h v).size.natAbs)]
        have R := mulGeneric_refines s w v u (Mpz.diffSign (s.h u).size (s.h v).size) hs hw hv hu hu0
        rw [Nat.add_comm (s.h v).size.natAbs (s.h u).size.natAbs] at R
        exact R
      · rw [if_neg hsw, if_pos (by omega : (s.h u).size.natAbs ≥ (s.h v).size.natAbs)]
        exact mulGeneric_refines s w u v _ hs hw hu hv hv0

theorem mul_safe (thr : Nat) (s : St) (w u v : Nat) (hs : s.ok = true)
    (hw : OWF (s.h w)) (hu : OWF (s.h u)) (hv : OWF (s.h v)) :
    Safe s (mul thr true 1 s w u v) w (Mpz.mul thr ⟨w == u, w == v, u == v⟩ (view (s.h w)) (view (s.h u)) (view (s.h v))) ∧
    Mpz.toInt (view ((mul thr true 1 s w u v).h w)) = Mpz.toInt (view (s.h u)) * Mpz.toInt (view (s.h v)) := by
  have h := Mpz.mul_spec thr ⟨w == u, w == v, u == v⟩ (view (s.h w)) (view (s.h u)) (view (s.h v)) hw.alloc_pos hu.2 hv.2
    (by intro h; have : u = v := by simpa using h
        rw [this])
  exact (mul_refines thr s w u v hs hw hu hv).safe_val h.1 h.2

end Mpir.AllocSafe
