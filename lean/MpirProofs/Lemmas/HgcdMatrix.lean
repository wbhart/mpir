/- The hgcd matrix at value level.  matrix22_mul.c: the Strassen-like schedule, with the sign flags and the dropped
   carries of the C, computes the plain 2x2 product for ALL operands.  hgcd_matrix.c (here _init and _update_q, the other
   functions in HgcdStep.lean): every update is a right multiplication by a non-negative unimodular matrix and the size
   field stays a valid bound of the entries.  Sizes are
   read through `size4`, the `nlimbs` of the largest entry: `Fits` is `size4 ≤ M->n`, `NormD` is `M->n − 1 < size4`. -/

import MpirProofs.Lemmas.Base
import Mpir.Model.Hgcd
import Mathlib.Tactic.Ring
import Mathlib.Tactic.Linarith
import Mathlib.Tactic.LinearCombination
import Mathlib.Tactic.Positivity
import Mathlib.Tactic.Zify
import MpirProofs.Lemmas.GcdLoop
import MpirProofs.Lemmas.GcdSize

namespace Mpir.Hgcd
open Mpir

/-! ### matrix22_mul.c -/

/-- value of a sign/magnitude pair (sign flag true = negative) -/
def sv (s : Bool) (x : Nat) : Int := if s then -(x : Int) else x

theorem sv_false (x : Nat) : sv false x = x := rfl
theorem sv_true (x : Nat) : sv true x = -(x : Int) := rfl

theorem absSubN_sv (a b : Nat) : sv (absSubN a b).2 (absSubN a b).1 = (a : Int) - b := by
  unfold absSubN
  split
  · rename_i h; simp only [sv_false]; omega
  · rename_i h; simp only [sv_true]; omega

theorem absSubN_le (a b : Nat) : (absSubN a b).1 ≤ a ∨ (absSubN a b).1 ≤ b := by
  unfold absSubN
  split
  · left; simp
  · right; simp

theorem absSubN_lt {a b K : Nat} (ha : a < K) (hb : b < K) : (absSubN a b).1 < K := by
  rcases absSubN_le a b with h | h <;> omega

theorem sv_abs_le (s : Bool) (x : Nat) : sv s x ≤ x ∧ -(x : Int) ≤ sv s x := by
  cases s <;> simp [sv]

theorem sv_nat {s : Bool} {x v : Nat} (h : sv s x = (v : Int)) : x = v := by
  cases s
  · simp only [sv_false] at h; exact_mod_cast h
  · simp only [sv_true] at h; omega

theorem sv_mul (s t : Bool) (x y : Nat) : sv (s != t) (x * y) = sv s x * sv t y := by
  cases s <;> cases t <;> simp [sv]

theorem addSignedN_sv (a : Nat) (as : Bool) (b : Nat) (bs : Bool) (n : Nat) (h : a + b < B ^ n) :
    sv (addSignedN a as b bs n).2 (addSignedN a as b bs n).1 = sv as a + sv bs b ∧
    (addSignedN a as b bs n).1 ≤ a + b := by
  unfold addSignedN
  have hs := absSubN_sv a b
  have hl := absSubN_le a b
  cases as <;> cases bs <;> simp only [bne_self_eq_false, Bool.false_eq_true, ↓reduceIte, Bool.true_bne,
      Bool.false_bne, Bool.not_false]
  · rw [Nat.mod_eq_of_lt h]; simp [sv]
  · refine ⟨?_, by omega⟩
    generalize (absSubN a b).2 = s at *
    cases s <;> simp only [sv, Bool.false_eq_true, ↓reduceIte] at hs ⊢ <;> omega
  · refine ⟨?_, by omega⟩
    generalize (absSubN a b).2 = s at *
    cases s <;> simp only [sv, Bool.false_eq_true, ↓reduceIte, Bool.not_false, Bool.not_true] at hs ⊢ <;> omega
  · rw [Nat.mod_eq_of_lt h]; simp [sv]; omega

/-- `s0[rn] = r1[rn] - mpn_sub_n (s0, r1, r0, rn)` (and the same shape for t0): for K ≤ x < 2K and y < K
    the low part minus y with the borrow taken from the top limb is x - y. -/
theorem top_borrow (x y K : Nat) (hK : 0 < K) (hx : x / K ≠ 0) (hx2 : x < 2 * K) (hy : y < K) :
    (x % K + K - y) % K + ((x / K + B - (if x % K < y then 1 else 0)) % B) * K = x - y := by
  have hq : x / K = 1 := by
    have h1 : x / K < 2 := Nat.div_lt_of_lt_mul (by omega)
    have h0 : 0 < x / K := Nat.pos_of_ne_zero hx
    exact Nat.le_antisymm (Nat.lt_succ_iff.mp h1) h0
  have hx' : x = K + x % K := by
    have := Nat.div_add_mod x K
    rw [hq] at this; omega
  have hm : x % K < K := Nat.mod_lt _ hK
  have hB : 2 ≤ B := by rw [B_eq]; norm_num
  rw [hq]
  split
  · rename_i h
    have e1 : (x % K + K - y) % K = x % K + K - y := Nat.mod_eq_of_lt (by omega)
    have e2 : (1 + B - 1) % B = 0 := by simp
    rw [e1, e2]; omega
  · rename_i h
    have e1 : (x % K + K - y) % K = x % K - y := by
      have : x % K + K - y = (x % K - y) + K := by omega
      rw [this, Nat.add_mod_right]; exact Nat.mod_eq_of_lt (by omega)
    have e2 : (1 + B - 0) % B = 1 := by
      rw [Nat.sub_zero, Nat.add_mod_right]; exact Nat.mod_eq_of_lt (by omega)
    rw [e1, e2]; omega

theorem sv_not (s : Bool) (x : Nat) : sv (!s) x = -sv s x := by cases s <;> simp [sv]

theorem split_mul (x t K : Nat) (hK : 0 < K) (hx : x < 2 * K) :
    x % K * t + (if x / K ≠ 0 then K * t else 0) = x * t := by
  by_cases h : x / K = 0
  · have hlt : x < K := by
      by_contra hc
      have : 0 < x / K := Nat.div_pos (by omega) hK
      omega
    rw [if_neg (not_not.mpr h), Nat.mod_eq_of_lt hlt]; rfl
  · rw [if_pos h]
    have h1 : x / K < 2 := Nat.div_lt_of_lt_mul (by omega)
    have h0 : 0 < x / K := Nat.pos_of_ne_zero h
    have hq : x / K = 1 := Nat.le_antisymm (Nat.lt_succ_iff.mp h1) h0
    have := Nat.div_add_mod x K
    rw [hq] at this
    calc x % K * t + K * t = (K * 1 + x % K) * t := by ring
      _ = x * t := by rw [this]

/-- `if s then abs_sub_n (a, x) else a + x` (matrix22_mul.c:133-142, 167-175): a plus a signed value -/
theorem stage_addpos (a x K : Nat) (s : Bool) (v : Int) (ha : a < K) (hx : x < K) (hv : sv s x = v) :
    sv (if s = true then absSubN a x else (a + x, false)).2 (if s = true then absSubN a x else (a + x, false)).1 = a + v ∧
    (if s = true then absSubN a x else (a + x, false)).1 < 2 * K ∧
    ((if s = true then absSubN a x else (a + x, false)).2 = true →
      (if s = true then absSubN a x else (a + x, false)).1 < K) := by
  cases s
  · simp only [Bool.false_eq_true, ↓reduceIte, sv_false, false_implies, and_true]
    simp only [sv_false] at hv
    constructor
    · push_cast; omega
    · omega
  · simp only [↓reduceIte]
    refine ⟨?_, ?_, fun _ => absSubN_lt ha hx⟩
    · rw [absSubN_sv]; simp only [sv_true] at hv; omega
    · have := absSubN_lt ha hx; omega

theorem stage_addpos' (a x K : Nat) (s : Bool) (v : Int) (ha : a < K) (hx : x < K) (hv : sv s x = v) :
    sv (if s = true then absSubN a x else (x + a, false)).2 (if s = true then absSubN a x else (x + a, false)).1 = a + v ∧
    (if s = true then absSubN a x else (x + a, false)).1 < 2 * K ∧
    ((if s = true then absSubN a x else (x + a, false)).2 = true →
      (if s = true then absSubN a x else (x + a, false)).1 < K) := by
  rw [Nat.add_comm x a]; exact stage_addpos a x K s v ha hx hv

/-- matrix22_mul.c:143-158 (`neg = false`: s0 := r0 − signed r1) and :208-219 (`neg = true`: t0 := signed t0 − m0):
    the same code with the two sign flags exchanged -/
theorem stage_sub (neg : Bool) (y x K : Nat) (s : Bool) (v : Int) (hK : 0 < K) (hy : y < K) (b : x < 2 * K)
    (c : s = true → x < K) (e : sv s x = v) :
    sv (if s = true then (x + y, neg)
        else if x / K ≠ 0 then
          ((x % K + K - y) % K + ((x / K + B - (if x % K < y then 1 else 0)) % B) * K, !neg)
        else if neg = true then absSubN x y else absSubN y x).2
       (if s = true then (x + y, neg)
        else if x / K ≠ 0 then
          ((x % K + K - y) % K + ((x / K + B - (if x % K < y then 1 else 0)) % B) * K, !neg)
        else if neg = true then absSubN x y else absSubN y x).1 = (if neg = true then v - y else y - v) ∧
    (if s = true then (x + y, neg)
        else if x / K ≠ 0 then
          ((x % K + K - y) % K + ((x / K + B - (if x % K < y then 1 else 0)) % B) * K, !neg)
        else if neg = true then absSubN x y else absSubN y x).1 < 2 * K := by
  cases s
  · simp only [Bool.false_eq_true, ↓reduceIte, sv_false] at e ⊢
    split
    · rename_i hq
      rw [top_borrow x y K hK hq b hy]
      have : K ≤ x := by
        by_contra hc
        exact hq (Nat.div_eq_of_lt (by omega))
      cases neg <;> simp only [Bool.not_false, Bool.not_true, sv_true, sv_false, Bool.false_eq_true, ↓reduceIte] <;>
        constructor <;> omega
    · rename_i hq
      have hlt : x < K := by
        by_contra hc
        apply hq
        have : 0 < x / K := Nat.div_pos (by omega) hK
        omega
      cases neg <;> simp only [Bool.false_eq_true, ↓reduceIte]
      · exact ⟨by rw [absSubN_sv]; omega, by have := absSubN_lt hy hlt; omega⟩
      · exact ⟨by rw [absSubN_sv]; omega, by have := absSubN_lt hlt hy; omega⟩
  · have := c rfl
    cases neg <;> simp only [↓reduceIte, sv_false, sv_true, Bool.false_eq_true] at e ⊢ <;>
      exact ⟨by push_cast; omega, by omega⟩

/-- matrix22_mul.c:183-194: the product of the (rn+1)-limb r1 and the (mn+1)-limb t0, both ways of computing it -/
theorem stage_u3 (r1a t0b K L P : Nat) (hK : 0 < K) (b1 : r1a < 2 * K) (bt : t0b < 2 * L) (hP : 4 * (K * L) ≤ P) :
    (if t0b / L ≠ 0 then (r1a % K * t0b + if r1a / K ≠ 0 then K * t0b else 0) % P else r1a * t0b) = r1a * t0b ∧
    r1a * t0b < 4 * (K * L) := by
  have hb : r1a * t0b < 4 * (K * L) := by
    have : r1a * t0b < (2 * K) * (2 * L) := Nat.mul_lt_mul'' b1 bt
    calc r1a * t0b < (2 * K) * (2 * L) := this
      _ = 4 * (K * L) := by ring
  refine ⟨?_, hb⟩
  split
  · rw [split_mul r1a t0b K hK b1]
    exact Nat.mod_eq_of_lt (by omega)
  · rfl

/-- matrix22_mul.c:247-267: `if (s) add_n (u, x) else sub_n (u, x)` with the carry/borrow dropped -/
theorem stage_final (u x P v : Nat) (s : Bool) (h : (v : Int) = u - sv s x) (hv : v < P) :
    (if s = true then (u + x) % P else (u + P - x) % P) = v := by
  cases s
  · simp only [Bool.false_eq_true, ↓reduceIte, sv_false] at h ⊢
    have : u + P - x = v + P := by omega
    rw [this, Nat.add_mod_right]
    exact Nat.mod_eq_of_lt hv
  · simp only [↓reduceIte, sv_true] at h ⊢
    have : u + x = v := by omega
    rw [this]; exact Nat.mod_eq_of_lt hv

theorem mul_lt_of (a b c d K L : Nat) (ha : a < c * K) (hb : b < d * L) : a * b < c * d * (K * L) := by
  calc a * b < (c * K) * (d * L) := Nat.mul_lt_mul'' ha hb
    _ = c * d * (K * L) := by ring

theorem strassen_eq (r0 r1 r2 r3 rn m0 m1 m2 m3 mn : Nat)
    (h0 : r0 < B ^ rn) (h1 : r1 < B ^ rn) (h2 : r2 < B ^ rn) (h3 : r3 < B ^ rn)
    (g0 : m0 < B ^ mn) (g1 : m1 < B ^ mn) (g2 : m2 < B ^ mn) (g3 : m3 < B ^ mn) :
    strassen r0 r1 r2 r3 rn m0 m1 m2 m3 mn = matrix22MulBase r0 r1 r2 r3 m0 m1 m2 m3 := by
  unfold strassen matrix22MulBase
  extract_lets K L P u0 r3' r3a r3s r1' r1a r1s s0' s0 s0s u1a r0f t0' t0a t0sa u1s u1b t0'' t0b t0sb r3b r3'' r3c r3sc t0''' t0c t0sc u0b r1b rn1 r2' r2a t0sd r3''' r3d r3sd u0c t0d u1c mn1 r1f r3f r2f
  have hKp : 0 < K := pow_pos B_pos _
  have hLp : 0 < L := pow_pos B_pos _
  have hB8 : 8 ≤ B := by rw [B_eq]; norm_num
  have hP1 : P = K * L * B := by simp only [P, K, L]; rw [pow_succ, pow_add]
  have hP2 : B ^ (rn1 + mn) = P := by simp only [rn1, P]; congr 1; omega
  have hP3 : B ^ mn1 = P := by simp only [mn1, rn1, P]; congr 1; omega
  have hbig : 8 * (K * L) ≤ P := by
    rw [hP1, Nat.mul_comm 8]; exact Nat.mul_le_mul_left _ hB8
  replace h0 : r0 < K := h0
  replace h1 : r1 < K := h1
  replace h2 : r2 < K := h2
  replace h3 : r3 < K := h3
  replace g0 : m0 < L := g0
  replace g1 : m1 < L := g1
  replace g2 : m2 < L := g2
  replace g3 : m3 < L := g3
  clear_value K L P
  clear hP1 hB8
  -- stage 1: r3 := |r3 - r2|
  have e_r3 : sv r3s r3a = (r3 : Int) - r2 := absSubN_sv r3 r2
  have b_r3 : r3a < K := absSubN_lt h3 h2
  clear_value r3a r3s
  clear r3'
  -- stage 2: r1 := r1 - r2 + r3
  obtain ⟨e_r1, b_r1, c_r1⟩ : sv r1s r1a = (r1 : Int) + (r3 - r2) ∧ r1a < 2 * K ∧ (r1s = true → r1a < K) :=
    stage_addpos r1 r3a K r3s _ h1 b_r3 e_r3
  clear_value r1a r1s
  clear r1'
  -- stage 3: s0 := r0 - (r1 - r2 + r3)  ("reverse sign")
  obtain ⟨e_s0, b_s0⟩ : sv s0s s0 = (r0 : Int) - (r1 + (r3 - r2)) ∧ s0 < 2 * K :=
    stage_sub false r0 r1a K r1s _ hKp h0 b_r1 c_r1 e_r1
  clear_value s0 s0s
  clear s0'
  -- stage 4: t0 := |m3 - m2|
  have e_t0a : sv t0sa t0a = (m3 : Int) - m2 := absSubN_sv m3 m2
  have b_t0a : t0a < L := absSubN_lt g3 g2
  clear_value t0a t0sa
  clear t0'
  -- stage 5: u2 = s2·t2 with reversed sign
  have e_u1b : sv u1s u1b = -(((r3 : Int) - r2) * (m3 - m2)) := by
    simp only [u1s, u1b]
    rw [sv_not, sv_mul, e_r3, e_t0a]
  have b_u1b : u1b < K * L := Nat.mul_lt_mul'' b_r3 b_t0a
  clear_value u1b u1s
  -- stage 6: t0 := m1 - m2 + m3
  obtain ⟨e_t0b, b_t0b, c_t0b⟩ : sv t0sb t0b = (m1 : Int) + (m3 - m2) ∧ t0b < 2 * L ∧ (t0sb = true → t0b < L) :=
    stage_addpos' m1 t0a L t0sa _ g1 b_t0a e_t0a
  clear_value t0b t0sb
  clear t0''
  -- stage 7: u3 = s3·t3 (magnitude)
  obtain ⟨e_r3b, b_r3b⟩ : r3b = r1a * t0b ∧ r1a * t0b < 4 * (K * L) :=
    stage_u3 r1a t0b K L P hKp b_r1 b_t0b (by omega)
  have s_r3b : sv (r1s != t0sb) r3b = ((r1 : Int) + (r3 - r2)) * (m1 + (m3 - m2)) := by
    rw [e_r3b, sv_mul, e_r1, e_t0b]
  rw [← e_r3b] at b_r3b
  clear_value r3b
  have b_u0 : u0 < K * L := Nat.mul_lt_mul'' h1 g2
  -- stage 8: u3 + u5
  obtain ⟨e_r3c, b_r3c⟩ : sv r3sc r3c = ((r1 : Int) + (r3 - r2)) * (m1 + (m3 - m2)) + r1 * m2 ∧ r3c < 5 * (K * L) := by
    simp only [r3c, r3sc, r3'']
    generalize (r1s != t0sb) = sg at *
    cases sg
    · simp only [Bool.false_eq_true, ↓reduceIte, sv_false] at s_r3b ⊢
      rw [Nat.mod_eq_of_lt (by omega)]
      refine ⟨?_, by omega⟩
      push_cast; rw [s_r3b]; simp only [u0]; push_cast; ring
    · simp only [↓reduceIte, sv_true] at s_r3b ⊢
      refine ⟨?_, ?_⟩
      · rw [absSubN_sv]; simp only [u0]; push_cast; linear_combination s_r3b
      · rcases absSubN_le u0 r3b with h | h <;> omega
  clear_value r3c r3sc
  clear r3''
  -- stage 9: t0 := t3 - m0
  obtain ⟨e_t0c, b_t0c⟩ : sv t0sc t0c = (m1 : Int) + (m3 - m2) - m0 ∧ t0c < 2 * L :=
    stage_sub true m0 t0b L t0sb _ hLp g0 b_t0b c_t0b e_t0b
  clear_value t0c t0sc
  clear t0'''
  -- stage 10: u6 = s6·t4, s1 = r1 + r3
  have b_u0b : u0b < 2 * (K * L) := by
    have := mul_lt_of r2 t0c 1 2 K L (by omega) b_t0c
    simp only [u0b]; omega
  have s_u0b : sv t0sc u0b = (r2 : Int) * ((m1 : Int) + (m3 - m2) - m0) := by
    simp only [u0b]
    have := sv_mul false t0sc r2 t0c
    simp only [Bool.false_bne, sv_false] at this
    rw [this, e_t0c]
  clear_value u0b
  have e_r1b : r1b = r1 + r3 := by
    simp only [r1b]
    cases r1s
    · simp only [Bool.false_eq_true, ↓reduceIte, sv_false] at e_r1 ⊢; omega
    · have := c_r1 rfl
      simp only [↓reduceIte, sv_true] at e_r1 ⊢
      have h4 : r2 + K - r1a = (r1 + r3) + K := by omega
      rw [h4, Nat.add_mod_right]
      exact Nat.mod_eq_of_lt (by omega)
  clear_value r1b
  -- stage 11: r2 := u3 + u5 + u6, r3 := -u2 + u3 + u5
  have e_r2a := addSignedN_sv r3c r3sc u0b t0sc (rn1 + mn) (by rw [hP2]; omega)
  have e_r3d := addSignedN_sv r3c r3sc u1b u1s (rn1 + mn) (by rw [hP2]; omega)
  rw [e_r3c, s_u0b] at e_r2a
  rw [e_r3c, e_u1b] at e_r3d
  change sv t0sd r2a = _ ∧ r2a ≤ _ at e_r2a
  change sv r3sd r3d = _ ∧ r3d ≤ _ at e_r3d
  obtain ⟨e_r2a, b_r2a⟩ := e_r2a
  obtain ⟨e_r3d, b_r3d⟩ := e_r3d
  clear_value r2a t0sd r3d r3sd
  clear r2' r3'''
  -- stage 12: u4 = s4·t5 (sign s0s), u1 = s1·t1
  have b_u0c : u0c < 2 * (K * L) := by
    have := mul_lt_of s0 m1 2 1 K L b_s0 (by omega)
    simp only [u0c]; omega
  have s_u0c : sv s0s u0c = ((r0 : Int) - (r1 + (r3 - r2))) * m1 := by
    simp only [u0c]
    have := sv_mul s0s false s0 m1
    simp only [Bool.bne_false, sv_false] at this
    rw [this, e_s0]
  clear_value u0c
  have e_u1c : u1c = (r1 + r3) * (m3 + m1) := by simp only [u1c, t0d, e_r1b]
  clear_value u1c
  -- stage 13: the results
  have e_r1f := addSignedN_sv r3d r3sd u0c s0s mn1 (by rw [hP3]; omega)
  rw [e_r3d, s_u0c] at e_r1f
  have v_r1f : r1f = r0 * m1 + r1 * m3 := by
    apply sv_nat (s := (addSignedN r3d r3sd u0c s0s mn1).2)
    simp only [r1f]
    rw [e_r1f.1]; push_cast; ring
  have b_p3 : r2 * m1 + r3 * m3 < P := by
    have a1 : r2 * m1 < K * L := Nat.mul_lt_mul'' h2 g1
    have a2 : r3 * m3 < K * L := Nat.mul_lt_mul'' h3 g3
    omega
  have b_p2 : r3 * m2 + r2 * m0 < P := by
    have a1 : r3 * m2 < K * L := Nat.mul_lt_mul'' h3 g2
    have a2 : r2 * m0 < K * L := Nat.mul_lt_mul'' h2 g0
    omega
  have v_r3f : r3f = r2 * m1 + r3 * m3 := by
    simp only [r3f]; rw [hP3]
    apply stage_final _ _ _ _ _ _ b_p3
    rw [e_r3d, e_u1c]; push_cast; ring
  have v_r2f : r2f = r3 * m2 + r2 * m0 := by
    simp only [r2f]; rw [hP3]
    apply stage_final _ _ _ _ _ _ b_p2
    rw [e_r2a, e_u1c]; push_cast; ring
  rw [v_r1f, v_r3f, v_r2f]

theorem matrix22Mul_eq (thr r0 r1 r2 r3 rn m0 m1 m2 m3 mn : Nat)
    (h0 : r0 < B ^ rn) (h1 : r1 < B ^ rn) (h2 : r2 < B ^ rn) (h3 : r3 < B ^ rn)
    (g0 : m0 < B ^ mn) (g1 : m1 < B ^ mn) (g2 : m2 < B ^ mn) (g3 : m3 < B ^ mn) :
    matrix22Mul thr r0 r1 r2 r3 rn m0 m1 m2 m3 mn
      = (r0 * m0 + r1 * m2, r0 * m1 + r1 * m3, r2 * m0 + r3 * m2, r2 * m1 + r3 * m3) := by
  unfold matrix22Mul
  split
  · unfold matrix22MulBase; simp only [Nat.add_comm]
  · rw [strassen_eq _ _ _ _ _ _ _ _ _ _ h0 h1 h2 h3 g0 g1 g2 g3]
    unfold matrix22MulBase; simp only [Nat.add_comm]

open Mpir.Gcd

/-! ### hgcd_matrix.c: the matrix as `M1` with a size field, mpn_hgcd_matrix_init, mpn_hgcd_matrix_update_q -/

def HM.toM1 (M : HM) : M1 := ⟨M.e00, M.e01, M.e10, M.e11⟩

/-- every entry fits the size field: the invariant all mpn calls on M->p[i][j] rely on -/
def HM.Fits (M : HM) : Prop := M.e00 < B ^ M.n ∧ M.e01 < B ^ M.n ∧ M.e10 < B ^ M.n ∧ M.e11 < B ^ M.n

/-- some entry of M uses limb M->n − 1 -/
def HM.NormD (M : HM) : Prop :=
  B ^ (M.n - 1) ≤ M.e00 ∨ B ^ (M.n - 1) ≤ M.e01 ∨ B ^ (M.n - 1) ≤ M.e10 ∨ B ^ (M.n - 1) ≤ M.e11

theorem det1_elem0 (q : Nat) : det1 ⟨1, 0, q, 1⟩ := by simp [det1]
theorem det1_elem1 (q : Nat) : det1 ⟨1, q, 0, 1⟩ := by simp [det1]

def size4 (m : M1) : Nat := max (max (nlimbs m.u00) (nlimbs m.u01)) (max (nlimbs m.u10) (nlimbs m.u11))

theorem fits_iff (M : HM) : M.Fits ↔ size4 M.toM1 ≤ M.n := by
  simp only [HM.Fits, nlimbs_isSize.lt_pow_iff, size4, HM.toM1, max_le_iff, and_assoc]

theorem normD_iff (M : HM) : M.NormD ↔ M.n - 1 < size4 M.toM1 := by
  simp only [HM.NormD, nlimbs_isSize.pow_le_iff, size4, HM.toM1, lt_max_iff, or_assoc]

theorem size4_mmul_ge (a m : M1) (hd : det1 m) : size4 a ≤ size4 (mmul a m) := by
  obtain ⟨r0, r1⟩ := row_mul_ge hd a.u00 a.u01
  obtain ⟨s0, s1⟩ := row_mul_ge hd a.u10 a.u11
  exact max_le_max (max_le_max (nlimbs_isSize.mono r0) (nlimbs_isSize.mono r1))
    (max_le_max (nlimbs_isSize.mono s0) (nlimbs_isSize.mono s1))

/-- `mrel_entries_lt` in limbs: a matrix that takes a pair with more than s limbs to a pair of n limbs has entries
    of at most n − s limbs -/
theorem mrel_size4_le {m : M1} {x y X Y s n : Nat} (h : MRel m x y X Y) (hx : B ^ s ≤ x) (hy : B ^ s ≤ y)
    (hX : X < B ^ n) (hY : Y < B ^ n) : size4 m ≤ n - s := by
  have hsn : s ≤ n :=
    ((Nat.pow_lt_pow_iff_right (by rw [B_eq]; norm_num)).mp (lt_of_le_of_lt (hx.trans (mrel_le h).1) hX)).le
  have e : B ^ n = B ^ (n - s) * B ^ s := by rw [← pow_add, Nat.sub_add_cancel hsn]
  obtain ⟨e1, e2⟩ := mrel_entries_lt h hx hy (e ▸ hX) (e ▸ hY)
  simp only [size4, max_le_iff, nlimbs_isSize.lt_pow_iff.symm]
  omega

theorem matInit_spec (n : Nat) :
    (matInit n).toM1 = ⟨1, 0, 0, 1⟩ ∧ (matInit n).n = 1 ∧ (matInit n).alloc = (n + 1) / 2 + 1 ∧ (matInit n).Fits ∧
    det1 (matInit n).toM1 := by
  have hB : 1 < B := by rw [B_eq]; norm_num
  refine ⟨rfl, rfl, rfl, ?_, by simp [det1, matInit, HM.toM1]⟩
  simp only [HM.Fits, matInit, pow_one]
  exact ⟨hB, B_pos, B_pos, hB⟩

theorem setCol_toM1_0 (M : HM) (x0 x1 n : Nat) : (M.setCol 0 x0 x1 n).toM1 = ⟨x0, M.e01, x1, M.e11⟩ := rfl
theorem setCol_toM1_1 (M : HM) (x0 x1 n : Nat) : (M.setCol 1 x0 x1 n).toM1 = ⟨M.e00, x0, M.e10, x1⟩ := rfl
theorem setCol_n (M : HM) (c x0 x1 n : Nat) : (M.setCol c x0 x1 n).n = n := by unfold HM.setCol; split <;> rfl

/-- the column update of mpn_hgcd_matrix_update_q on its own: column c += q · column o, with the size bookkeeping of
    both branches (hgcd_matrix.c:59-65 and :79-112); returns the new column and the new M->n -/
def updCol (c o : Nat × Nat) (q n : Nat) : Nat × Nat × Nat :=
  if nlimbs q = 1 then
    (c.1 + q * o.1, c.2 + q * o.2, if (c.1 + q * o.1) / B ^ n ≠ 0 ∨ (c.2 + q * o.2) / B ^ n ≠ 0 then n + 1 else n)
  else
    let n1 := max (max (nlimbs o.1) (nlimbs o.2)) (n - nlimbs q) + nlimbs q
    (c.1 + o.1 * q, c.2 + o.2 * q,
      if (c.1 + o.1 * q) / B ^ n1 ≠ 0 ∨ (c.2 + o.2 * q) / B ^ n1 ≠ 0 then n1 + 1
      else if limbAt (c.1 + o.1 * q) (n1 - 1) ||| limbAt (c.2 + o.2 * q) (n1 - 1) = 0 then n1 - 1 else n1)

theorem updateQ_eq (M : HM) (q col : Nat) :
    updateQ M q col = M.setCol col (updCol (M.col col) (M.col (1 - col)) q M.n).1
      (updCol (M.col col) (M.col (1 - col)) q M.n).2.1 (updCol (M.col col) (M.col (1 - col)) q M.n).2.2 := by
  unfold updateQ updCol
  by_cases h : nlimbs q = 1 <;> simp only [h, if_true, if_false]

/-- the column update in terms of the sizes C, O of the columns c, o and X of the new column -/
theorem updCol_eq (c0 c1 o0 o1 q n : Nat) (hq : 0 < q) (hn : 1 ≤ n)
    (hC : max (nlimbs c0) (nlimbs c1) ≤ n) (hO : max (nlimbs o0) (nlimbs o1) ≤ n) :
    ∃ n', updCol (c0, c1) (o0, o1) q n = (c0 + q * o0, c1 + q * o1, n') ∧
      max (nlimbs (c0 + q * o0)) (nlimbs (c1 + q * o1)) ≤ n' ∧ max (nlimbs o0) (nlimbs o1) ≤ n' ∧ 1 ≤ n' ∧
      n' ≤ n + nlimbs q + 1 ∧ (nlimbs q = 1 → n ≤ n' ∧ n' ≤ n + 1) ∧
      (n ≤ max (max (nlimbs c0) (nlimbs c1)) (max (nlimbs o0) (nlimbs o1)) → 0 < max (nlimbs o0) (nlimbs o1) →
        n' ≤ max (max (nlimbs (c0 + q * o0)) (nlimbs (c1 + q * o1))) (max (nlimbs o0) (nlimbs o1))) := by
  obtain ⟨a1, a2, a3, a4⟩ := nlimbs_addmul2 c0 c1 o0 o1 q hq
  have hqn := nlimbs_pos hq
  unfold updCol
  by_cases h1 : nlimbs q = 1
  · rw [if_pos h1]; dsimp only
    have hqB := ((nlimbs_eq_one_iff q).mp h1).2
    have x0 : nlimbs (c0 + q * o0) ≤ n + 1 :=
      nlimbs_addmul_le (le_trans (le_max_left _ _) hC) (le_trans (le_max_left _ _) hO) hqB
    have x1 : nlimbs (c1 + q * o1) ≤ n + 1 :=
      nlimbs_addmul_le (le_trans (le_max_right _ _) hC) (le_trans (le_max_right _ _) hO) hqB
    rw [grow_eq x0 x1]
    have hX : max (nlimbs (c0 + q * o0)) (nlimbs (c1 + q * o1)) ≤ n + 1 := max_le x0 x1
    clear x0 x1 a3 a4 hqB
    generalize max (nlimbs (c0 + q * o0)) (nlimbs (c1 + q * o1)) = X at *
    generalize max (nlimbs c0) (nlimbs c1) = C at *
    generalize max (nlimbs o0) (nlimbs o1) = O at *
    exact ⟨_, rfl, le_max_right _ _, le_trans hO (le_max_left _ _), le_trans hn (le_max_left _ _), by omega,
      fun _ => ⟨le_max_left _ _, max_le (Nat.le_succ _) hX⟩, fun hN _ => by omega⟩
  · rw [if_neg h1]; dsimp only
    simp only [Nat.mul_comm o0 q, Nat.mul_comm o1 q]
    generalize hX : max (nlimbs (c0 + q * o0)) (nlimbs (c1 + q * o1)) = X at *
    generalize max (nlimbs c0) (nlimbs c1) = C at *
    generalize hOd : max (nlimbs o0) (nlimbs o1) = O at *
    have hx0 : nlimbs (c0 + q * o0) ≤ X := hX ▸ le_max_left _ _
    have hx1 : nlimbs (c1 + q * o1) ≤ X := hX ▸ le_max_right _ _
    -- before normalisation n0 + qn limbs, n0 the larger of the size of o and n − qn
    generalize hn0 : max O (n - nlimbs q) = n0
    have hXn : X ≤ n0 + nlimbs q + 1 := by omega
    rw [grow_shrink_eq (by omega) (le_trans hx0 hXn) (le_trans hx1 hXn), hX]
    clear hx0 hx1 hX hOd
    exact ⟨_, rfl, le_max_right _ _, by omega, by omega, by omega, fun h => absurd h h1, fun _ _ => by omega⟩

/-- mpn_hgcd_matrix_update_q: M := M·E with E = (1 0; q 1) (col 0) or (1 q; 0 1) (col 1) -/
theorem updateQ_spec (M : HM) (q col : Nat) (hq : 0 < q) (hcol : col ≤ 1) (hf : M.Fits) (hn : 1 ≤ M.n) :
    (updateQ M q col).toM1 = mmul M.toM1 (elemQ q col) ∧ (updateQ M q col).Fits ∧
    (updateQ M q col).alloc = M.alloc ∧ (updateQ M q col).n ≤ M.n + nlimbs q + 1 ∧
    (nlimbs q = 1 → M.n ≤ (updateQ M q col).n ∧ (updateQ M q col).n ≤ M.n + 1) ∧ 1 ≤ (updateQ M q col).n ∧
    (M.NormD → 1 ≤ M.e00 → 1 ≤ M.e11 → (updateQ M q col).NormD) := by
  obtain ⟨f00, f01, f10, f11⟩ := hf
  rw [nlimbs_isSize.lt_pow_iff] at f00 f01 f10 f11
  rw [updateQ_eq]
  rcases (by omega : col = 0 ∨ col = 1) with rfl | rfl
  · obtain ⟨n', e, b0, b1, l0, l1, l2, hk⟩ :=
      updCol_eq M.e00 M.e10 M.e01 M.e11 q M.n hq hn (max_le f00 f10) (max_le f01 f11)
    simp only [HM.col, Nat.sub_zero, one_ne_zero, if_true, if_false, e]
    refine ⟨?_, ?_, rfl, l1, l2, l0, fun hN _ h11 => ?_⟩
    · rw [setCol_toM1_0]
      simp only [HM.toM1, mmul, elemQ, if_true, Nat.mul_one, Nat.mul_zero, Nat.zero_add, Nat.mul_comm q]
    · simp only [HM.Fits, HM.setCol, if_true, nlimbs_isSize.lt_pow_iff]
      exact ⟨le_trans (le_max_left _ _) b0, le_trans (le_max_left _ _) b1, le_trans (le_max_right _ _) b0,
        le_trans (le_max_right _ _) b1⟩
    · rw [normD_iff] at hN ⊢
      rw [setCol_toM1_0, setCol_n]
      simp only [size4, HM.toM1] at hN ⊢
      rw [max_max_max_comm] at hN ⊢
      have hO := lt_of_lt_of_le (nlimbs_pos h11) (le_max_right (nlimbs M.e01) (nlimbs M.e11))
      clear b0 b1 l1 l2 f00 f01 f10 f11
      generalize max (max (nlimbs M.e00) (nlimbs M.e10)) (max (nlimbs M.e01) (nlimbs M.e11)) = S at *
      have := hk (by omega) hO
      omega
  · obtain ⟨n', e, b0, b1, l0, l1, l2, hk⟩ :=
      updCol_eq M.e01 M.e11 M.e00 M.e10 q M.n hq hn (max_le f01 f11) (max_le f00 f10)
    simp only [HM.col, Nat.sub_self, one_ne_zero, if_true, if_false, e]
    refine ⟨?_, ?_, rfl, l1, l2, l0, fun hN h00 _ => ?_⟩
    · rw [setCol_toM1_1]
      simp only [HM.toM1, mmul, elemQ, one_ne_zero, if_false, Nat.mul_one, Nat.mul_zero, Nat.add_zero,
        Nat.mul_comm q, Nat.add_comm]
    · simp only [HM.Fits, HM.setCol, one_ne_zero, if_false, nlimbs_isSize.lt_pow_iff]
      exact ⟨le_trans (le_max_left _ _) b1, le_trans (le_max_left _ _) b0, le_trans (le_max_right _ _) b1,
        le_trans (le_max_right _ _) b0⟩
    · rw [normD_iff] at hN ⊢
      rw [setCol_toM1_1, setCol_n]
      simp only [size4, HM.toM1] at hN ⊢
      rw [max_max_max_comm, max_comm] at hN
      rw [max_max_max_comm, max_comm]
      have hO := lt_of_lt_of_le (nlimbs_pos h00) (le_max_left (nlimbs M.e00) (nlimbs M.e10))
      clear b0 b1 l1 l2 f00 f01 f10 f11
      generalize max (max (nlimbs M.e01) (nlimbs M.e11)) (max (nlimbs M.e00) (nlimbs M.e10)) = S at *
      have := hk (by omega) hO
      omega

end Mpir.Hgcd
