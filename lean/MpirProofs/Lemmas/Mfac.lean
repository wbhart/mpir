/-
  C16 part binsmall: mpz_mfac_uiui (mpz/mfac_uiui.c:46-124) = n!^(m) for every n, m.
-/
import MpirProofs.Lemmas.Numth
namespace Mpir.Numth
open Mpir Mpir.Gen.NumthTabs Nat

/-! ## Euclid with fuel (stands for mpn_gcd_1 (&sn, 1, m)) -/

theorem gcdNat_eq : ∀ e fuel a b, b < 2 ^ e → 2 * e + 1 ≤ fuel → gcdNat fuel a b = Nat.gcd a b := by
  intro e
  induction e with
  | zero =>
    intro fuel a b hb hf
    obtain ⟨f, rfl⟩ : ∃ f, fuel = f + 1 := ⟨fuel - 1, by omega⟩
    have : b = 0 := by simpa using hb
    subst this
    simp [gcdNat]
  | succ e ih =>
    intro fuel a b hb hf
    obtain ⟨f, rfl⟩ : ∃ f, fuel = f + 2 := ⟨fuel - 2, by omega⟩
    rw [gcdNat]
    by_cases h0 : b = 0
    · subst h0; simp
    · simp only [h0, if_false]
      rw [gcdNat]
      by_cases h1 : a % b = 0
      · simp only [h1, if_true]
        rw [Nat.gcd_comm, Nat.gcd_rec, h1, Nat.gcd_zero_left]
      · simp only [h1, if_false]
        have hr : a % b < b := Nat.mod_lt _ (by omega)
        have hhalf : b % (a % b) < 2 ^ e := by
          rw [pow_succ] at hb
          by_cases hle : 2 * (a % b) ≤ b
          · have := Nat.mod_lt b (show 0 < a % b by omega)
            omega
          · have : b % (a % b) = b - a % b := by
              rw [Nat.mod_eq_sub_mod (by omega), Nat.mod_eq_of_lt (by omega)]
            omega
        rw [ih f (a % b) (b % (a % b)) hhalf (by omega)]
        rw [Nat.gcd_comm (a % b), ← Nat.gcd_rec, Nat.gcd_comm a b, Nat.gcd_rec b a, Nat.gcd_comm]

/-! ## the multifactorial -/

theorem mf_one (n : ℕ) : multiFactorial n 1 = n ! := by
  induction n with
  | zero => rw [multiFactorial_rec 0 1 (le_refl 1)]; simp
  | succ n ih =>
    rw [multiFactorial_rec (n + 1) 1 (le_refl 1)]
    by_cases h : n + 1 ≤ 1
    · have : n = 0 := by omega
      subst this; simp
    · simp only [h, if_false, Nat.add_sub_cancel, ih, Nat.factorial_succ]

theorem mf_two (n : ℕ) : multiFactorial n 2 = n‼ := by
  induction n using Nat.strong_induction_on with
  | _ n ih =>
    rw [multiFactorial_rec n 2 (by omega)]
    by_cases h : n ≤ 2
    · simp only [h, if_true]
      interval_cases n <;> simp [Nat.doubleFactorial]
    · simp only [h, if_false]
      obtain ⟨k, rfl⟩ : ∃ k, n = k + 2 := ⟨n - 2, by omega⟩
      rw [Nat.add_sub_cancel, ih k (by omega), Nat.doubleFactorial_add_two]

/-- (g n)!^(g m) = g^⌈n/m⌉ · n!^(m) -/
theorem mf_scale (g m : ℕ) (hg : 1 ≤ g) (hm : 1 ≤ m) : ∀ n, multiFactorial (g * n) (g * m) = g ^ ((n + m - 1) / m) * multiFactorial n m := by
  intro n
  induction n using Nat.strong_induction_on with
  | _ n ih =>
    have hgm : 1 ≤ g * m := Nat.mul_pos hg hm
    rw [multiFactorial_rec (g * n) (g * m) hgm, multiFactorial_rec n m hm]
    by_cases h0 : n = 0
    · subst h0
      have : (m - 1) / m = 0 := Nat.div_eq_of_lt (by omega)
      simp [this]
    by_cases h : n ≤ m
    · have h' : g * n ≤ g * m := Nat.mul_le_mul_left g h
      have hne : g * n ≠ 0 := by
        have := Nat.mul_pos hg (show 0 < n by omega); omega
      have hc : (n + m - 1) / m = 1 := Nat.div_eq_of_lt_le (by omega) (by omega)
      simp only [h, h', hne, h0, if_true, if_false, hc, pow_one]
    · have h' : ¬ g * n ≤ g * m := by
        intro hle; exact h (Nat.le_of_mul_le_mul_left hle hg)
      simp only [h, h', if_false]
      rw [← Nat.mul_sub, ih (n - m) (by omega)]
      have hc : (n + m - 1) / m = (n - m + m - 1) / m + 1 := by
        rw [show n + m - 1 = (n - m + m - 1) + m by omega, Nat.add_div_right _ (by omega)]
      rw [hc, pow_succ]; ring

theorem ceil_div_of_not_dvd (n m : ℕ) (hm : 1 ≤ m) (h : n % m ≠ 0) : (n + m - 1) / m = n / m + 1 := by
  have h1 := Nat.div_add_mod n m
  have h2 := Nat.mod_lt n (show 0 < m by omega)
  apply Nat.div_eq_of_lt_le
  · rw [Nat.add_mul, Nat.one_mul, mul_comm]; omega
  · rw [Nat.add_mul, Nat.one_mul, Nat.add_mul, Nat.one_mul, mul_comm]; omega

/-! ## the product loop of the m ≥ 3 branch (mfac_uiui.c:94-98) -/

theorem mfacStore_val (m M n1 : ℕ) (hm : 2 ≤ m) (hM : M * n1 < B) :
    ∀ fuel n st, n ≤ fuel → n ≤ n1 → Nat.Coprime n m →
      (mfacStore m M fuel n st).2 * flVal (mfacStore m M fuel n st).1 = flVal st * multiFactorial n m := by
  intro fuel
  induction fuel with
  | zero =>
    intro n st h1 _ hc
    have : n = 0 := by omega
    subst this
    rw [Nat.coprime_zero_left] at hc; omega
  | succ fuel ih =>
    intro n st h1 h2 hc
    unfold mfacStore
    have hn0 : n ≠ 0 := by
      intro h; subst h; rw [Nat.coprime_zero_left] at hc; omega
    by_cases h : n > m
    · simp only [h, if_true]
      have hc' : Nat.Coprime (n - m) m := by
        have : n = (n - m) + m := by omega
        rw [this, Nat.coprime_add_self_left] at hc; exact hc
      rw [ih (n - m) (flStore n M st) (by omega) (by omega) hc']
      rw [flStore_val n M st (fun hle => lt_of_le_of_lt (Nat.mul_le_mul hle h2) hM)]
      rw [multiFactorial_rec n m (by omega)]
      simp only [show ¬ n ≤ m by omega, if_false]; ring
    · simp only [h, if_false]
      rw [multiFactorial_rec n m (by omega)]
      simp only [show n ≤ m by omega, if_true, hn0, if_false]; ring

/-- **mpz_mfac_uiui (n, m) = n!^(m)** for every n < 2^64 and 1 ≤ m < 2^64, given mpz_fac_ui = ! and mpz_2fac_ui = ‼ -/
theorem mpz_mfac_uiui_eq (hfac : ∀ x < B, mpz_fac_ui x = x !) (h2fac : ∀ x < B, mpz_2fac_ui x = x‼)
    (n m : ℕ) (hm : 1 ≤ m) (hn : n < B) (hmB : m < B) : mpz_mfac_uiui n m = multiFactorial n m := by
  unfold mpz_mfac_uiui
  have hm1 : (m + B - 1) % B = m - 1 := by
    rw [show m + B - 1 = (m - 1) + B by omega, Nat.add_mod_right, Nat.mod_eq_of_lt (by omega)]
  rw [hm1]
  by_cases h1 : n < 3 ∨ n - 3 < m - 1
  · rw [if_pos h1]
    rw [multiFactorial_rec n m hm]
    by_cases hle : n ≤ m
    · simp only [hle, if_true]; split <;> omega
    · have hn1 : n = m + 1 := by omega
      simp only [hle, if_false]
      rw [hn1, Nat.add_sub_cancel_left, multiFactorial_rec 1 m hm]
      simp [hm]
  rw [if_neg h1]
  have hn3 : 3 ≤ n := by omega
  have hnm : m + 2 ≤ n := by omega
  rw [gcdNat_eq 64 200 n m (by rw [B_eq] at hmB; norm_num; exact hmB) (by omega)]
  have hgpos : 0 < Nat.gcd n m := Nat.gcd_pos_of_pos_right n (by omega)
  have hgn : Nat.gcd n m * (n / Nat.gcd n m) = n := Nat.mul_div_cancel' (Nat.gcd_dvd_left n m)
  have hgm : Nat.gcd n m * (m / Nat.gcd n m) = m := Nat.mul_div_cancel' (Nat.gcd_dvd_right n m)
  have hcop : Nat.Coprime (n / Nat.gcd n m) (m / Nat.gcd n m) := Nat.coprime_div_gcd_div_gcd hgpos
  have hdiv : ∀ x, (if Nat.gcd n m ≠ 1 then x / Nat.gcd n m else x) = x / Nat.gcd n m := fun x => by
    split
    · rfl
    · rename_i h; rw [not_not.1 h, Nat.div_one]
  simp only [hdiv]
  obtain ⟨g, hg⟩ : ∃ g, g = Nat.gcd n m := ⟨_, rfl⟩
  rw [← hg] at hgpos hgn hgm hcop
  simp only [← hg]
  clear hdiv hg
  obtain ⟨n', hn''⟩ : ∃ n', n' = n / g := ⟨_, rfl⟩
  obtain ⟨m', hm''⟩ : ∃ m', m' = m / g := ⟨_, rfl⟩
  simp only [← hn'', ← hm''] at hgn hgm hcop ⊢
  clear hn'' hm''
  have hm'1 : 1 ≤ m' := by
    rcases Nat.eq_zero_or_pos m' with h | h
    · rw [h] at hgm; omega
    · exact h
  have hlt : m' < n' := by
    have : g * m' < g * n' := by omega
    exact Nat.lt_of_mul_lt_mul_left this
  have hn'B : n' < B := by
    have : n' ≤ g * n' := Nat.le_mul_of_pos_left n' hgpos
    omega
  have hscale := mf_scale g m' hgpos hm'1 n'
  rw [hgn, hgm] at hscale
  rw [hscale]
  by_cases hm2 : m' ≤ 2
  · rw [if_pos hm2]
    by_cases hm1' : m' = 1
    · subst hm1'
      simp only [if_true]
      have hc : (n' + 1 - 1) / 1 = n' := by simp
      rw [hc, mf_one]
      by_cases hg2 : g > 2
      · rw [if_pos hg2, hfac n' hn'B]
      · rw [if_neg hg2]
        by_cases hg2' : g = 2
        · subst hg2'
          rw [if_pos rfl, h2fac (n' * 2) (by omega)]
          have := mf_scale 2 1 (by omega) (le_refl 1) n'
          rw [hc, mf_one, Nat.mul_one, mf_two, mul_comm 2 n'] at this
          exact this
        · rw [if_neg hg2', hfac n' hn'B]
          have : g = 1 := by omega
          rw [this]; simp
    · have hm2' : m' = 2 := by omega
      subst hm2'
      simp only [show (2 : ℕ) ≠ 1 by omega, if_false]
      have hodd : n' % 2 = 1 := by
        rcases Nat.mod_two_eq_zero_or_one n' with h | h
        · exfalso
          have h2 : 2 ∣ Nat.gcd n' 2 := Nat.dvd_gcd (Nat.dvd_of_mod_eq_zero h) (dvd_refl 2)
          rw [hcop] at h2; omega
        · exact h
      have hc : (n' + 2 - 1) / 2 = n' / 2 + 1 := by omega
      rw [hc, mf_two, h2fac n' hn'B]
      split
      · rfl
      · rename_i h; rw [not_not] at h; rw [h]; simp
  · rw [if_neg hm2]
    have hm3 : 3 ≤ m' := by omega
    have hnd : n' % m' ≠ 0 := by
      intro h
      have h2 : m' ∣ Nat.gcd n' m' := Nat.dvd_gcd (Nat.dvd_of_mod_eq_zero h) (dvd_refl m')
      rw [hcop] at h2
      have := Nat.le_of_dvd (by omega) h2; omega
    rw [ceil_div_of_not_dvd n' m' hm'1 hnd]
    have hcop' : Nat.Coprime (n' - m') m' := by
      have : n' = (n' - m') + m' := by omega
      rw [this, Nat.coprime_add_self_left] at hcop; exact hcop
    have hMn : (B - 1) / (n' - m') * (n' - m') < B := limb_div_mul_lt le_rfl
    have hst := mfacStore_val m' ((B - 1) / (n' - m')) (n' - m') (by omega) hMn n' (n' - m') ([], n') (by omega) (le_refl _) hcop'
    generalize mfacStore m' ((B - 1) / (n' - m')) n' (n' - m') ([], n') = res at hst ⊢
    obtain ⟨st, nl⟩ := res
    simp only at hst ⊢
    have hval : prodList (st.2 :: nl :: st.1) = multiFactorial n' m' := by
      rw [multiFactorial_rec n' m' hm'1]
      simp only [show ¬ n' ≤ m' by omega, if_false]
      have : flVal ([], n') = n' := by simp [flVal, prodList]
      rw [this] at hst
      rw [← hst]
      simp only [prodList, flVal]; ring
    rw [hval]
    split
    · rfl
    · rename_i h
      have : g = 1 := by omega
      rw [this]; simp

end Mpir.Numth
