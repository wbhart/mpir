/- C18, the float conversions of printf/doprntf.c (`__gmp_doprnt_mpf`, model Mpir/Model/PrintfF.lean): the bytes of the
   emitted calls (`emit_bytes`), the parser's parameters in closed form (`closedParams`), the digits of the fixed and the
   scientific style (`fixed_bytes`, `sci_bytes`), the second rounding (`fixedRound_eq_roundAt`), and the layout of each
   conversion against the specification `specF` (`layoutOn_closed`). -/
import Mpir.Model.PrintfF
import MpirProofs.Lemmas.Printf
namespace Mpir.PrintfF
open Mpir Mpir.Printf List

theorem callsBytes_append (a b : List Call) : callsBytes (a ++ b) = callsBytes a ++ callsBytes b :=
  Printf.callsBytes_append a b

theorem emit_bytes (p : Params) (sign : Option Char) (s : List Char) (prec : Int) (a iz fz fl : Nat) (ex : List Char)
    (W : Nat) (hw : p.width = (W : Int)) (hlen : a + fl ≤ s.length) :
    callsBytes (emit p sign s prec ⟨a, iz, fz, fl, ex⟩) =
      (let pz : Nat := if p.showtrailing then
          (prec - (((fz + fl : Nat) : Int) + (if p.conv = 3 then ((a + iz : Nat) : Int) else 0))).toNat else 0
       let sb : List Char :=
          if p.showbase = .no then []
          else if p.showbase = .nonzero ∧ a = 0 ∧ fl = 0 then []
          else (if p.base = 16 then ['0', 'x'] else if p.base = -16 then ['0', 'X'] else if p.base = 8 then ['0'] else [])
       let body := s.take a ++ replicate iz '0' ++ (if fz + fl + pz ≠ 0 ∨ p.showpoint then ['.'] else []) ++ replicate fz '0' ++
          (s.drop a).take fl ++ replicate pz '0' ++ ex
       justLayout p.justify (replicate (W - (body.length + sign.toList.length + sb.length)) p.fill) (sign.toList ++ sb) body) := by
  rw [show emit p sign s prec ⟨a, iz, fz, fl, ex⟩ = floatCalls p.justify p.fill _ sign _ s _ _ _ _ _ _ ex from rfl,
    floatCalls_bytes]
  simp only []
  generalize hpzN : (if p.showtrailing then
      (prec - (((fz + fl : Nat) : Int) + (if p.conv = 3 then ((a + iz : Nat) : Int) else 0))).toNat else 0) = pz
  have hpz : (if p.showtrailing = true then
      max 0 (prec - ((fz : Int) + (fl : Int) + if p.conv = 3 then (a : Int) + (iz : Int) else 0)) else 0) = (pz : Int) := by
    rw [← hpzN]
    by_cases h1 : p.showtrailing = true <;> by_cases h2 : p.conv = 3 <;> simp only [h1, h2, if_true, if_false] <;> push_cast <;> omega
  have hpt : (if (if (fz : Int) + (fl : Int) + (pz : Int) ≠ 0 ∨ p.showpoint = true then (1 : Int) else 0) ≠ 0 then ['.'] else []) =
      (if fz + fl + pz ≠ 0 ∨ p.showpoint = true then ['.'] else ([] : List Char)) := by
    have : (fz : Int) + (fl : Int) + (pz : Int) ≠ 0 ↔ fz + fl + pz ≠ 0 := by omega
    simp only [this]; split <;> simp
  have hpl : (if (fz : Int) + (fl : Int) + (pz : Int) ≠ 0 ∨ p.showpoint = true then (1 : Int) else 0) =
      ((if fz + fl + pz ≠ 0 ∨ p.showpoint = true then ['.'] else ([] : List Char)).length : Int) := by
    have : (fz : Int) + (fl : Int) + (pz : Int) ≠ 0 ↔ fz + fl + pz ≠ 0 := by omega
    simp only [this]; split <;> rfl
  rw [hpz, hpt, hpl]
  simp only [Int.natCast_eq_zero, Int.toNat_natCast]
  generalize (if p.showbase = .no then ([] : List Char)
      else if p.showbase = .nonzero ∧ a = 0 ∧ fl = 0 then []
      else (if p.base = 16 then ['0', 'x'] else if p.base = -16 then ['0', 'X'] else if p.base = 8 then ['0'] else [])) = sb
  generalize (if fz + fl + pz ≠ 0 ∨ p.showpoint = true then ['.'] else ([] : List Char)) = pt
  congr 2
  have hta : (s.take a).length = a := by rw [length_take]; omega
  have htf : ((s.drop a).take fl).length = fl := by rw [length_take, length_drop]; omega
  have hsg : (if sign.isSome = true then (1 : Int) else 0) = (sign.toList.length : Int) := by cases sign <;> rfl
  simp only [length_append, length_replicate, hta, htf, hw, hsg]
  omega
/-! ### the parameters the parser arrives at, in closed form -/

def fBaseInt : FConv → Int
  | .f | .e | .g => 10
  | .E | .G => -10
  | .a => 16
  | .A => -16
def isHex : FConv → Bool
  | .a | .A => true
  | _ => false
def convNum : FConv → Nat
  | .f => 1
  | .g | .G => 3
  | _ => 2
def precIntF (c : FConv) : FPrec → Int
  | .dflt => if isHex c then -1 else 6
  | .all => -1
  | .num n => n

def closedParams (c : FConv) (f : Flags) (W : Nat) (prec : FPrec) : Params :=
  { base := fBaseInt c, conv := convNum c, expUpper := c.upper, expHex := isHex c, exptimes4 := isHex c,
    fill := if ¬ f.minus ∧ f.zero then '0' else ' ',
    justify := if f.minus then .left else if f.zero then .internal else .right,
    prec := precIntF c prec,
    showbase := if isHex c then .yes else if f.hash then .nonzero else .no,
    showpoint := f.hash && !isHex c,
    showtrailing := isHex c || decide (convNum c ≠ 3) || f.hash,
    sign := if f.plus then some '+' else if f.space then some ' ' else none,
    width := W }

theorem floatParams_closed (c : FConv) (Fi : Char) (J : Justify) (S : Showbase) (G : Option Char) (Wd Pr : Int)
    (ty : Char) (ip seen inn : Bool) :
    floatParams false ⟨baseP Fi J S G Wd Pr, ty, ip, seen, inn⟩ c.char =
      { base := fBaseInt c, conv := convNum c, expUpper := c.upper, expHex := isHex c, exptimes4 := isHex c,
        fill := if J = .left then ' ' else Fi, justify := J,
        prec := if isHex c ∧ seen = false then -1 else Pr,
        showbase := if isHex c then .yes else S,
        showpoint := !isHex c && decide (S = .nonzero),
        showtrailing := isHex c || decide (convNum c ≠ 3) || decide (S = .nonzero),
        sign := G, width := Wd } := by
  by_cases hj : J = .left <;> by_cases hs : S = .nonzero <;> cases c <;>
    simp [floatParams, baseP, FConv.char, fBaseInt, isHex, convNum, FConv.upper, hj, hs]

theorem fSpecParams_eq (fl : List Char) (w : WidthArg) (p : PrecArg) (c : FConv) :
    fSpecParams fl w p c = floatParams false (precStep (widthStep (fl.foldl (stepFlag false) {}) w) p) c.char := by
  unfold fSpecParams widthStep precStep
  cases w <;> cases p <;> rfl

theorem precIntF_eq (c : FConv) (p : PrecArg) :
    precIntF c (cPrecF p) = if isHex c ∧ seenAfter p = false then -1 else precAfter p := by
  cases p with
  | star n =>
    by_cases hn : n < 0
    · cases c <;> simp [isHex, seenAfter, precAfter, precIntF, cPrecF, hn]
    · cases c <;> simp [isHex, seenAfter, precAfter, precIntF, cPrecF, hn, not_lt.mp hn]
  | _ => cases c <;> rfl

theorem fSpecParams_closed (fl : List Char) (w : WidthArg) (p : PrecArg) (c : FConv) :
    fSpecParams fl w p c = closedParams c (cFlags fl w) (cWidth w) (cPrecF p) := by
  obtain ⟨hparam, hseen⟩ := parse_closed fl w p
  rw [fSpecParams_eq]
  generalize precStep (widthStep (fl.foldl (stepFlag false) {}) w) p = ps at hparam hseen
  obtain ⟨param, ty, ip, seen, inn⟩ := ps
  simp only at hparam hseen
  subst hparam hseen
  rw [floatParams_closed, ← precIntF_eq, cFlags_eq]
  unfold closedParams
  by_cases h1 : '#' ∈ fl <;> by_cases h2 : leftP fl w <;> by_cases h3 : '0' ∈ fl <;> simp [h1, h2, h3]

theorem pad_closed (c : FConv) (f : Flags) (W : Nat) (prec : FPrec) (sg sb body : List Char) :
    justLayout (closedParams c f W prec).justify
      (replicate (W - (body.length + sg.length + sb.length)) (closedParams c f W prec).fill) (sg ++ sb) body =
      padF f W sg sb body := by
  have := pad_eq f.minus f.zero W sg sb sb 0 body body (by simp) (by intro _; exact ⟨rfl, fun n => rfl⟩)
  simpa [closedParams, padSpec, padF] using this

theorem sign_closed (c : FConv) (f : Flags) (W : Nat) (prec : FPrec) (neg : Bool) :
    (if neg then some '-' else (closedParams c f W prec).sign).toList = signChars f neg := by
  cases neg <;> simp [closedParams, signChars] <;> split_ifs <;> simp

/-! ### digits of the fixed and the scientific style -/

/-- lengths of the fixed layout as natural numbers -/
def fA (L : Nat) (x : Int) : Nat := if x ≤ 0 then 0 else min L x.toNat
def fIz (L : Nat) (x : Int) : Nat := if x ≤ 0 then 1 else x.toNat - L

theorem fixedParts_nat (L : Nat) (x : Int) :
    fixedParts (L : Int) x = ⟨(fA L x : Nat), (fIz L x : Nat), ((-x).toNat : Nat), ((L - fA L x : Nat) : Nat), []⟩ := by
  unfold fixedParts fA fIz
  by_cases h : x ≤ 0
  · simp only [h, if_true, Parts.mk.injEq]; refine ⟨by simp, by simp, by omega, by simp, trivial⟩
  · simp only [h, if_false, Parts.mk.injEq]; refine ⟨by omega, by omega, by omega, by omega, trivial⟩

theorem sciParts_nat (p : Params) (L : Nat) (x : Int) :
    sciParts p (L : Int) x = ⟨(min 1 L : Nat), ((if L = 0 then 1 else 0 : Nat) : Nat), (0 : Nat), ((L - min 1 L : Nat) : Nat),
      expText p ((x - (min 1 L : Nat)) * (if p.exptimes4 then 4 else 1))⟩ := by
  unfold sciParts
  simp only [Parts.mk.injEq]
  refine ⟨by omega, ?_, by simp, by omega, ?_⟩
  · by_cases h : L = 0
    · subst h; simp
    · have : min (1 : Int) (L : Int) ≠ 0 := by omega
      simp [h, this]
  · congr 2; congr 1; omega

theorem map_zeros (up : Bool) (n : Nat) : (zeros n).map (digitChar up) = replicate n '0' := by
  simp [zeros, digitChar_zero]

theorem point_key (up pt : Bool) (fr : List Nat) (I : List Char) (F : List Char) (n : Nat)
    (hF : fr.map (digitChar up) = F) (hn : fr.length = n) :
    I ++ (if n ≠ 0 ∨ pt = true then ['.'] else []) ++ F =
    I ++ (if fr.length ≠ 0 ∨ pt = true then '.' :: fr.map (digitChar up) else []) := by
  subst hF; subst hn
  by_cases hc : fr.length ≠ 0 ∨ pt = true
  · rw [if_pos hc, if_pos hc]; simp
  · have : fr = [] := by
      by_contra h'; apply hc; left; simpa using h'
    subst this; rw [if_neg hc, if_neg hc]; simp

theorem fracDigits_length (ds : List Nat) (x : Int) :
    (fracDigits ds x).length = (-x).toNat + (ds.length - fA ds.length x) := by
  unfold fracDigits fA zeros
  by_cases h : x ≤ 0
  · have hk : x.toNat = 0 := by omega
    simp [h, hk]
  · simp [h]; omega

theorem fixed_bytes_aux (up : Bool) (ds : List Nat) (x : Int) (pz : Nat) (pt : Bool) :
    take (fA ds.length x) (ds.map (digitChar up)) ++ replicate (fIz ds.length x) '0' ++
      (if (-x).toNat + (ds.length - fA ds.length x) + pz ≠ 0 ∨ pt = true then ['.'] else []) ++ replicate (-x).toNat '0' ++
      take (ds.length - fA ds.length x) (drop (fA ds.length x) (ds.map (digitChar up))) ++ replicate pz '0' =
    (intDigits ds x).map (digitChar up) ++
      (if (fracDigits ds x ++ zeros pz).length ≠ 0 ∨ pt = true then '.' :: (fracDigits ds x ++ zeros pz).map (digitChar up) else []) := by
  have hI : take (fA ds.length x) (ds.map (digitChar up)) ++ replicate (fIz ds.length x) '0' = (intDigits ds x).map (digitChar up) := by
    unfold intDigits fA fIz
    by_cases h : x ≤ 0
    · simp [h, digitChar_zero]
    · simp only [h, if_false, map_append, map_zeros, ← map_take]
      congr 2
      rcases Nat.le_total ds.length x.toNat with h1 | h1
      · rw [Nat.min_eq_left h1, take_of_length_le h1, take_of_length_le (le_refl _)]
      · rw [Nat.min_eq_right h1]
  have hF : replicate (-x).toNat '0' ++ take (ds.length - fA ds.length x) (drop (fA ds.length x) (ds.map (digitChar up))) ++ replicate pz '0' =
      (fracDigits ds x ++ zeros pz).map (digitChar up) := by
    unfold fracDigits fA
    by_cases h : x ≤ 0
    · have hk : x.toNat = 0 := by omega
      simp [h, hk, map_zeros]
      exact take_of_length_le (by simp)
    · have hneg : (-x).toNat = 0 := by omega
      simp only [h, if_false, hneg, replicate_zero, nil_append, map_append, map_zeros, ← map_drop]
      rw [take_of_length_le (by simp)]
      congr 2
      rcases Nat.le_total ds.length x.toNat with h1 | h1
      · rw [Nat.min_eq_left h1, drop_of_length_le h1, drop_of_length_le (le_refl _)]
      · rw [Nat.min_eq_right h1]
  have := point_key up pt (fracDigits ds x ++ zeros pz) ((intDigits ds x).map (digitChar up)) _
    ((-x).toNat + (ds.length - fA ds.length x) + pz) hF.symm (by simp [fracDigits_length, zeros])
  rw [← this, ← hI]
  simp only [append_assoc]

theorem fixed_bytes (up : Bool) (ds : List Nat) (x : Int) (pz : Nat) (pt : Bool) (fracLen : Option Nat)
    (hpz : pz = match fracLen with | some P => P - ((-x).toNat + (ds.length - fA ds.length x)) | none => 0) :
    take (fA ds.length x) (ds.map (digitChar up)) ++ replicate (fIz ds.length x) '0' ++
      (if (-x).toNat + (ds.length - fA ds.length x) + pz ≠ 0 ∨ pt = true then ['.'] else []) ++ replicate (-x).toNat '0' ++
      take (ds.length - fA ds.length x) (drop (fA ds.length x) (ds.map (digitChar up))) ++ replicate pz '0' =
    styleF up ds x fracLen pt := by
  rw [fixed_bytes_aux]
  unfold styleF
  cases fracLen with
  | none => simp only at hpz; subst hpz; simp [zeros]
  | some P => simp only at hpz; subst hpz; simp only [padZeros, fracDigits_length]

theorem sci_bytes_aux (up : Bool) (ds : List Nat) (pz : Nat) (pt : Bool)
    (E : List Char) :
    take (min 1 ds.length) (ds.map (digitChar up)) ++ replicate (if ds.length = 0 then 1 else 0) '0' ++
      (if 0 + (ds.length - min 1 ds.length) + pz ≠ 0 ∨ pt = true then ['.'] else []) ++ replicate 0 '0' ++
      take (ds.length - min 1 ds.length) (drop (min 1 ds.length) (ds.map (digitChar up))) ++ replicate pz '0' ++ E =
    digitChar up (ds.headD 0) ::
      (if (ds.tail ++ zeros pz).length ≠ 0 ∨ pt = true then '.' :: (ds.tail ++ zeros pz).map (digitChar up) else []) ++ E := by
  cases ds with
  | nil =>
    have := point_key up pt (zeros pz) ['0'] (replicate pz '0') pz (map_zeros up pz) (by simp [zeros])
    simp only [length_nil, Nat.min_zero, take_zero, if_true, replicate_one, nil_append, Nat.sub_zero, Nat.zero_add,
      replicate_zero, append_nil, drop_zero, map_nil, headD_nil, tail_nil, digitChar_zero] at this ⊢
    rw [this]; simp
  | cons d r =>
    have h1 : min 1 (d :: r).length = 1 := by simp
    rw [h1]
    have h2 : (d :: r).length - 1 = r.length := by simp
    rw [h2]
    have h3 : ¬ ((d :: r).length = 0) := by simp
    rw [if_neg h3]
    have := point_key up pt (r ++ zeros pz) [digitChar up d] (r.map (digitChar up) ++ replicate pz '0') (r.length + pz)
      (by simp [map_zeros]) (by simp [zeros])
    simp only [map_cons, take_succ_cons, take_zero, drop_succ_cons, drop_zero, replicate_zero, append_nil, Nat.zero_add,
      headD_cons, tail_cons]
    rw [take_of_length_le (by simp)]
    have this := congrArg (· ++ E) this
    simp only [append_assoc, cons_append, nil_append] at this ⊢
    exact this

theorem sci_bytes (up : Bool) (ds : List Nat) (x : Int) (pz : Nat) (pt : Bool) (fracLen : Option Nat)
    (letter : Char) (minD : Nat) (mul : Int) (hz : ds = [] → x = 0)
    (hpz : pz = match fracLen with | some P => P - (ds.length - min 1 ds.length) | none => 0) :
    take (min 1 ds.length) (ds.map (digitChar up)) ++ replicate (if ds.length = 0 then 1 else 0) '0' ++
      (if 0 + (ds.length - min 1 ds.length) + pz ≠ 0 ∨ pt = true then ['.'] else []) ++ replicate 0 '0' ++
      take (ds.length - min 1 ds.length) (drop (min 1 ds.length) (ds.map (digitChar up))) ++ replicate pz '0' ++
      expChars letter minD ((x - (min 1 ds.length : Nat)) * mul) =
    styleE up ds x fracLen pt letter minD mul := by
  rw [sci_bytes_aux]
  unfold styleE
  have hX : (x - (min 1 ds.length : Nat)) = (if ds.length = 0 then 0 else x - 1) := by
    cases ds with
    | nil => have := hz rfl; subst this; simp
    | cons d r => simp
  rw [hX]
  have hl : ds.length - min 1 ds.length = ds.tail.length := by cases ds <;> simp
  rw [hl] at hpz
  cases fracLen with
  | none => simp only at hpz; subst hpz; simp [zeros]
  | some P => simp only at hpz; subst hpz; simp only [padZeros]; rfl

/-! ### the pieces under the closed parameters: exponent text, base prefix, emitted bytes -/

theorem expText_closed (c : FConv) (f : Flags) (W : Nat) (prec : FPrec) (e : Int) :
    expText (closedParams c f W prec) e =
      expChars (if isHex c then (if c.upper then 'P' else 'p') else (if c.upper then 'E' else 'e')) (if isHex c then 1 else 2) e := by
  unfold expText expChars
  have hne := natDigits_ne_nil 10 false e.natAbs
  cases c <;> simp [closedParams, isHex, FConv.upper] <;>
    (rcases hd : natDigits 10 false e.natAbs with _ | ⟨a, _ | ⟨b, t⟩⟩ <;> simp_all)

theorem closed_upper (c : FConv) (f : Flags) (W : Nat) (prec : FPrec) :
    decide ((closedParams c f W prec).base < 0) = c.upper := by
  cases c <;> simp [closedParams, fBaseInt, FConv.upper]

/-- the base prefix of the specification -/
def fPrefix : FConv → List Char
  | .a => ['0', 'x']
  | .A => ['0', 'X']
  | _ => []

theorem fPrefix_nil {c : FConv} (h : isHex c = false) : fPrefix c = [] := by
  cases c <;> first | rfl | cases h

theorem showbase_closed (c : FConv) (f : Flags) (W : Nat) (prec : FPrec) (a fl : Nat) :
    (if (closedParams c f W prec).showbase = .no then ([] : List Char)
      else if (closedParams c f W prec).showbase = .nonzero ∧ a = 0 ∧ fl = 0 then []
      else (if (closedParams c f W prec).base = 16 then ['0', 'x'] else if (closedParams c f W prec).base = -16 then ['0', 'X']
            else if (closedParams c f W prec).base = 8 then ['0'] else [])) = fPrefix c := by
  cases c <;> cases hh : f.hash <;> simp [closedParams, isHex, fBaseInt, fPrefix, hh]

theorem emit_fixed (c : FConv) (hc : isHex c = false) (f : Flags) (W : Nat) (prec : FPrec) (sign : Option Char)
    (ds : List Nat) (x : Int) (prec' : Int) (fracLen : Option Nat)
    (hpz : (if (closedParams c f W prec).showtrailing then
          (prec' - ((((-x).toNat + (ds.length - fA ds.length x) : Nat) : Int) +
            (if (closedParams c f W prec).conv = 3 then ((fA ds.length x + fIz ds.length x : Nat) : Int) else 0))).toNat else 0) =
        match fracLen with | some P => P - ((-x).toNat + (ds.length - fA ds.length x)) | none => 0) :
    callsBytes (emit (closedParams c f W prec) sign (ds.map (digitChar c.upper)) prec' (fixedParts ds.length x)) =
      padF f W sign.toList [] (styleF c.upper ds x fracLen f.hash) := by
  rw [fixedParts_nat, emit_bytes _ _ _ _ _ _ _ _ _ W rfl (by simp [fA]; split <;> omega)]
  simp only []
  rw [hpz, showbase_closed c f W prec, pad_closed]
  have hsp : (closedParams c f W prec).showpoint = f.hash := by simp [closedParams, hc]
  rw [hsp]
  have hp : fPrefix c = [] := fPrefix_nil hc
  rw [hp, append_nil, fixed_bytes _ _ _ _ _ fracLen rfl]

def expLetter (c : FConv) : Char :=
  if isHex c then (if c.upper then 'P' else 'p') else (if c.upper then 'E' else 'e')

theorem emit_sci (c : FConv) (f : Flags) (W : Nat) (prec : FPrec) (sign : Option Char)
    (ds : List Nat) (x : Int) (prec' : Int) (fracLen : Option Nat) (hz : ds = [] → x = 0)
    (hpz : (if (closedParams c f W prec).showtrailing then
          (prec' - ((((0 : Nat) + (ds.length - min 1 ds.length) : Nat) : Int) +
            (if (closedParams c f W prec).conv = 3 then ((min 1 ds.length + (if ds.length = 0 then 1 else 0) : Nat) : Int) else 0))).toNat else 0) =
        match fracLen with | some P => P - (ds.length - min 1 ds.length) | none => 0) :
    callsBytes (emit (closedParams c f W prec) sign (ds.map (digitChar c.upper)) prec' (sciParts (closedParams c f W prec) ds.length x)) =
      padF f W sign.toList (fPrefix c)
        (styleE c.upper ds x fracLen (f.hash && !isHex c) (expLetter c) (if isHex c then 1 else 2) (if isHex c then 4 else 1)) := by
  rw [sciParts_nat, emit_bytes _ _ _ _ _ _ _ _ _ W rfl (by simp)]
  simp only []
  rw [hpz, showbase_closed c f W prec, pad_closed, expText_closed]
  have hsp : (closedParams c f W prec).showpoint = (f.hash && !isHex c) := by simp [closedParams]
  have h4 : (if (closedParams c f W prec).exptimes4 = true then (4 : Int) else 1) = (if isHex c then 4 else 1) := by simp [closedParams]
  rw [hsp, h4]
  have := sci_bytes c.upper ds x _ (f.hash && !isHex c) fracLen (expLetter c) (if isHex c then 1 else 2) (if isHex c then 4 else 1) hz rfl
  rw [← this]
  rfl

/-! ### the digit request and the rounding to the precision -/

theorem strip_roundUp (b : Nat) (ds : List Nat) (x : Int) :
    MpfStr.stripTrailingZeros (MpfStr.roundUp b ds x).1 = (MpfStr.roundUp b ds x).1 := by
  unfold MpfStr.roundUp MpfStr.stripTrailingZeros
  cases h : dropWhile (fun d => d + 1 == b) ds.reverse with
  | nil => simp
  | cons d rest => simp

/-- doprntf.c's second rounding is the rule of mpf_get_str applied once more (D-F2, D-F3) -/
theorem fixedRound_eq_roundAt (b : Nat) (ds : List Nat) (x prec : Int) :
    fixedRound b ds x prec = roundAt b ds x (x + prec) := by
  unfold fixedRound roundAt
  simp only []
  by_cases h1 : x + prec < 0
  · simp [h1]
  · simp only [h1, if_false]
    by_cases h2 : (ds.length : Int) ≤ x + prec
    · simp [h2]
    · simp only [h2, if_false]
      have hlen : ds.length > (x + prec).toNat := by omega
      unfold MpfStr.finish
      have hthr : (ds.getD (x + prec).toNat 0 ≥ (b + 1) / 2) ↔ (2 * ds.getD (x + prec).toNat 0 ≥ b) := by omega
      by_cases h3 : 2 * ds.getD (x + prec).toNat 0 ≥ b
      · have h3' := hthr.mpr h3
        simp only [h3', if_true, hlen, h3, and_self, strip_roundUp]
        split <;> simp_all
      · have h3' : ¬ (ds.getD (x + prec).toNat 0 ≥ (b + 1) / 2) := fun h => h3 (hthr.mp h)
        simp only [h3', if_false, hlen, h3, and_false]
        split <;> simp_all

theorem request_fst (P : Params) (fprec : Nat) (fexp : Int) :
    (request P fprec fexp).1 = if P.prec ≤ -1 ∧ P.conv = 3 then (MpfStr.maxDigits P.base.natAbs fprec : Int) else P.prec := by
  unfold request
  simp only []
  split_ifs <;> simp_all

theorem fixedRound_all (b : Nat) (ds : List Nat) (x : Int) :
    fixedRound b ds x (max 0 ((ds.length : Int) - x)) = (ds, x) := by
  unfold fixedRound
  simp only []
  have h1 : ¬ (x + max 0 ((ds.length : Int) - x) < 0) := by omega
  have h2 : (ds.length : Int) ≤ x + max 0 ((ds.length : Int) - x) := by omega
  simp [h1, h2]

theorem specF_prefix (c : FConv) : (match c with | .a => ['0', 'x'] | .A => ['0', 'X'] | _ => ([] : List Char)) = fPrefix c := by
  cases c <;> rfl

/-! ### each conversion against the specification `specF` -/

/-- the precision as the specification takes it: none when the parser left −1 -/
def fracOf (p : Int) : Option Nat := if p ≤ -1 then none else some p.toNat

theorem natCast_not_le (n : Nat) : ¬ ((n : Int) ≤ -1) := by omega

theorem sci_closed (c : FConv) (hc : convNum c = 2) (f : Flags) (W : Nat) (prec : FPrec) (sign : Option Char)
    (ds : List Nat) (x : Int) (prec1 : Int) (hz : ds = [] → x = 0) :
    callsBytes (emit (closedParams c f W prec) sign (ds.map (digitChar c.upper))
        (if prec1 ≤ -1 then max 0 ((ds.length : Int) - 1) else prec1) (sciParts (closedParams c f W prec) ds.length x)) =
      padF f W sign.toList (fPrefix c)
        (styleE c.upper ds x (fracOf prec1) (f.hash && !isHex c) (expLetter c) (if isHex c then 1 else 2) (if isHex c then 4 else 1)) := by
  apply emit_sci c f W prec sign ds x _ _ hz
  have hst : (closedParams c f W prec).showtrailing = true := by simp [closedParams, hc]
  have hcv : (closedParams c f W prec).conv = 2 := hc
  rw [hst, hcv, fracOf]
  by_cases hp : prec1 ≤ -1
  · simp only [hp, if_true]; omega
  · simp only [hp, if_false, if_true, show ¬ ((2 : Nat) = 3) by decide]; omega

/-- styles g G with `P0` significant digits asked for: scientific or fixed by the exponent, trailing zeros only under `#` -/
theorem general_closed (c : FConv) (hc : convNum c = 3) (f : Flags) (W : Nat) (prec : FPrec) (sign : Option Char)
    (ds : List Nat) (x : Int) (P0 : Nat) (hz : ds = [] → x = 0) :
    callsBytes (emit (closedParams c f W prec) sign (ds.map (digitChar c.upper)) P0
        (if x - 1 < -4 ∨ x - 1 ≥ max 1 (P0 : Int) then sciParts (closedParams c f W prec) ds.length x else fixedParts ds.length x)) =
      padF f W sign.toList []
        (if x - 1 < -4 ∨ x - 1 ≥ ((max 1 P0 : Nat) : Int) then
          styleE c.upper ds x (if f.hash then some (max 1 P0 - 1) else none) f.hash (if c.upper then 'E' else 'e') 2 1
         else styleF c.upper ds x (if f.hash then some (if x ≥ 1 then P0 - x.toNat else P0 - 1) else none) f.hash) := by
  have hx : isHex c = false := by cases c <;> first | rfl | cases hc
  have hst : (closedParams c f W prec).showtrailing = f.hash := by simp [closedParams, hc, hx]
  have hcv : (closedParams c f W prec).conv = 3 := hc
  have hmax : ((max 1 P0 : Nat) : Int) = max 1 (P0 : Int) := by omega
  have hpre : fPrefix c = [] := fPrefix_nil hx
  have hlet : expLetter c = (if c.upper then 'E' else 'e') := by simp [expLetter, hx]
  rw [hmax]
  by_cases hs : x - 1 < -4 ∨ x - 1 ≥ max 1 (P0 : Int)
  · rw [if_pos hs, if_pos hs, emit_sci c f W prec sign ds x _ (if f.hash then some (max 1 P0 - 1) else none) hz, hpre, hlet]
    · simp only [hx, Bool.not_false, Bool.and_true, Bool.false_eq_true, if_false]
    · rw [hst, hcv]
      cases f.hash
      · rfl
      · simp only [if_true]; split <;> omega
  · rw [if_neg hs, if_neg hs, emit_fixed c hx f W prec sign ds x _ (if f.hash then some (if x ≥ 1 then P0 - x.toNat else P0 - 1) else none)]
    rw [hst, hcv]
    cases f.hash
    · rfl
    · simp only [if_true, fA, fIz]; split <;> split <;> omega

theorem fixed_closed (f : Flags) (W : Nat) (prec : FPrec) (sign : Option Char) (ds : List Nat) (x : Int) (prec1 : Int) :
    let r := fixedRound 10 ds x (if prec1 ≤ -1 then max 0 ((ds.length : Int) - x) else prec1)
    callsBytes (emit (closedParams .f f W prec) sign (r.1.map (digitChar false))
        (if prec1 ≤ -1 then max 0 ((ds.length : Int) - x) else prec1) (fixedParts r.1.length r.2)) =
      padF f W sign.toList []
        (if prec1 ≤ -1 then styleF false ds x none f.hash
         else styleF false (roundAt 10 ds x (x + prec1)).1 (roundAt 10 ds x (x + prec1)).2 (some prec1.toNat) f.hash) := by
  have hst : (closedParams .f f W prec).showtrailing = true := by simp [closedParams, isHex, convNum]
  have hcv : (closedParams .f f W prec).conv = 1 := rfl
  by_cases hp : prec1 ≤ -1
  · simp only [hp, if_true, fixedRound_all]
    apply emit_fixed .f rfl f W prec sign ds x _ none
    rw [hst, hcv, fA]; simp only [if_true, show ¬ ((1 : Nat) = 3) by decide, if_false]
    split <;> omega
  · simp only [hp, if_false, fixedRound_eq_roundAt]
    apply emit_fixed .f rfl f W prec sign _ _ _ (some prec1.toNat)
    rw [hst, hcv]; simp only [if_true, show ¬ ((1 : Nat) = 3) by decide, if_false]
    omega

theorem convNum_cases (c : FConv) : c = .f ∨ convNum c = 2 ∨ convNum c = 3 := by cases c <;> simp [convNum]

theorem bodyF_sci (c : FConv) (hc : convNum c = 2) (hash : Bool) (prec : FPrec) (sig : Nat) (ds : List Nat) (x : Int) :
    bodyF c hash prec sig ds x = styleE c.upper ds x (fracOf (precIntF c prec)) (hash && !isHex c) (expLetter c)
      (if isHex c then 1 else 2) (if isHex c then 4 else 1) := by
  cases c <;> first | (exfalso; revert hc; decide) | (cases prec <;> simp [bodyF, fracOf, precIntF, isHex, FConv.upper, expLetter, natCast_not_le])

theorem bodyF_general (c : FConv) (hc : convNum c = 3) (hash : Bool) (prec : FPrec) (sig : Nat) (ds : List Nat) (x : Int) :
    bodyF c hash prec sig ds x =
      (let P0 : Nat := match prec with | .dflt => 6 | .all => sig | .num n => n
       if x - 1 < -4 ∨ x - 1 ≥ ((max 1 P0 : Nat) : Int) then
          styleE c.upper ds x (if hash then some (max 1 P0 - 1) else none) hash (if c.upper then 'E' else 'e') 2 1
       else styleF c.upper ds x (if hash then some (if x ≥ 1 then P0 - x.toNat else P0 - 1) else none) hash) := by
  cases c <;> first | (exfalso; revert hc; decide) | rfl

theorem specF_eq (c : FConv) (f : Flags) (W : Nat) (prec : FPrec) (sig : Nat) (neg : Bool) (ds : List Nat) (x : Int) :
    specF c f W prec sig neg ds x = padF f W (signChars f neg) (fPrefix c) (bodyF c f.hash prec sig ds x) := by
  cases c <;> rfl

theorem layoutOn_closed (c : FConv) (f : Flags) (W : Nat) (prec : FPrec) (fprec : Nat) (fexp : Int)
    (neg : Bool) (ds : List Nat) (x : Int) (hz : ds = [] → x = 0) :
    callsBytes (layoutOn (closedParams c f W prec) (request (closedParams c f W prec) fprec fexp).1 neg ds x) =
      specF c f W prec (MpfStr.maxDigits c.base fprec) neg ds x := by
  have hconv : (closedParams c f W prec).conv = convNum c := rfl
  have hprec : (closedParams c f W prec).prec = precIntF c prec := rfl
  rw [specF_eq]
  unfold layoutOn choose
  simp only [closed_upper, request_fst, hconv, hprec]
  clear hconv hprec
  rw [← sign_closed c f W prec neg]
  generalize (if neg = true then some '-' else (closedParams c f W prec).sign) = sign
  rcases convNum_cases c with rfl | h2 | h3
  · simp only [show convNum .f = 1 from rfl, if_true, show ¬ ((1 : Nat) = 3) by decide, and_false, if_false]
    exact (fixed_closed f W prec sign ds x _).trans (by cases prec <;> simp [bodyF, precIntF, isHex, FConv.upper, natCast_not_le, fPrefix])
  · simp only [h2, show ¬ ((2 : Nat) = 1) by decide, show ¬ ((2 : Nat) = 3) by decide, and_false, if_true, if_false, bodyF_sci c h2]
    exact sci_closed c h2 f W prec sign ds x _ hz
  · have hx : isHex c = false := by cases c <;> first | rfl | cases h3
    have hP0 : (if precIntF c prec ≤ -1 then ((MpfStr.maxDigits (closedParams c f W prec).base.natAbs fprec : Nat) : Int)
        else precIntF c prec) = ((match prec with | .dflt => 6 | .all => MpfStr.maxDigits c.base fprec | .num n => n : Nat) : Int) := by
      cases c <;> first | (exfalso; revert h3; decide) | (cases prec <;> simp [precIntF, isHex, natCast_not_le, closedParams, fBaseInt, FConv.base])
    simp only [h3, show ¬ ((3 : Nat) = 1) by decide, show ¬ ((3 : Nat) = 2) by decide, if_false, and_true,
      hP0, apply_ite Prod.fst, apply_ite Prod.snd, ite_self, bodyF_general c h3, fPrefix_nil hx]
    exact general_closed c h3 f W prec sign ds x _ hz

end Mpir.PrintfF
