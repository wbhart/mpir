/- Two sections on the pointer-level model: mpz_tdiv_r_2exp, then mpz_cdiv_r_2exp / mpz_fdiv_r_2exp. -/
import MpirProofs.Lemmas.AliasMemOps

/- mpz_tdiv_r_2exp on the pointer-level model: in place (res = in) only the masked high limb is stored; otherwise the
   low limbs are copied after the reallocation of res through the re-read `in->_mp_d`. -/

section
namespace Mpir.AliasMem
open Mpir
open Mpir.DivZ (sizeNat siz sameSign)

/-- `MPN_COPY (PTR (r), PTR (u), k); SIZ (r) = ±k` -/
theorem copy_low_ok {s : St} (h : Inv s) {r u : Nat} (hr : r < s.nv) (hu : u < s.nv) (k : Nat)
    (hk : k ≤ (s.size u).natAbs) (hka : k ≤ s.alloc r) (hnorm : sizeNat (s.mag u % B ^ k) = k) (neg : Bool) :
    ∃ X, s.loadAt (s.ptr u) 0 k = .ok ((s.limbs u).take k) ∧ s.storeAt (s.ptr r) 0 ((s.limbs u).take k) = .ok X ∧
      (∀ i, X.size i = s.size i) ∧ (∀ i, X.ptr i = s.ptr i) ∧
      Inv (X.setSize r (if neg then -(k : Int) else (k : Int))) ∧
      Upd s (X.setSize r (if neg then -(k : Int) else (k : Int))) r ∧
      (X.setSize r (if neg then -(k : Int) else (k : Int))).value r =
        (if neg then -((s.mag u % B ^ k : Nat) : Int) else ((s.mag u % B ^ k : Nat) : Int)) := by
  obtain ⟨b, hb, hbl, hbL⟩ := h.live r hr
  have hlen : ((s.limbs u).take k).length = k := by simp [(h.limbs_spec hu).1]; omega
  have hv := val_limbs_take h hu k
  have p := put_list h hr hb ((s.limbs u).take k) (by rw [hlen]; omega) (Limbs_take (h.limbs_spec hu).2 _)
    (by rw [hv, hlen]; exact hnorm) neg
  rw [hlen, hv] at p
  exact ⟨_, loadAt_var_low h hu k hk, storeAt_ok hb (by rw [hlen]; omega), fun _ => rfl, fun _ => rfl, p⟩

theorem shrink_ok {s : St} (h : Inv s) {u : Nat} (hu : u < s.nv) (k : Nat)
    (hk : k ≤ (s.size u).natAbs) (hnorm : sizeNat (s.mag u % B ^ k) = k) (neg : Bool) :
    Inv (s.setSize u (if neg then -(k : Int) else (k : Int))) ∧ Upd s (s.setSize u (if neg then -(k : Int) else (k : Int))) u ∧
      (s.setSize u (if neg then -(k : Int) else (k : Int))).value u =
        (if neg then -((s.mag u % B ^ k : Nat) : Int) else ((s.mag u % B ^ k : Nat) : Int)) := by
  obtain ⟨b, hb, hbl, hbL⟩ := h.live u hu
  have hf := h.fits u hu
  rw [setSize_eq_put s hb]
  have hv : val (b.take k) = s.mag u % B ^ k := by
    rw [← val_limbs_take h hu k]; unfold St.limbs; rw [hb]; simp only [Option.getD_some]
    rw [List.take_take, Nat.min_eq_left hk]
  have p := put_upd h hu b (s.mag u % B ^ k) neg hbl hbL (by rw [hnorm]; omega) (by rw [hnorm]; exact hv)
  rw [hnorm] at p
  exact p

/-- tdiv_r_2exp.c:70-72 after `MPZ_REALLOC (res, k)` -/
theorem tdivR2expTail_low {s : St} (h : Inv s) {r u : Nat} (hr : r < s.nv) (hu : u < s.nv) (k : Nat)
    (hkn : k ≤ (s.size u).natAbs) (hnorm : sizeNat (s.mag u % B ^ k) = k) :
    ∃ s', tdivR2expTail r u k k (s.mpzRealloc r k) = .ok s' ∧
      Post s s' r (if s.size u ≥ 0 then ((s.mag u % B ^ k : Nat) : Int) else -((s.mag u % B ^ k : Nat) : Int)) := by
  obtain ⟨i1, k1, a1⟩ := realloc_same h hr k
  have fr1 : Fr s r (s.mpzRealloc r k) := (Fr.refl s r).realloc _
  generalize s.mpzRealloc r k = s1 at *
  have hszform : ∀ j : Nat, (if s.size u ≥ 0 then (j : Int) else -(j : Int)) =
      (if decide (s.size u < 0) = true then -(j : Int) else (j : Int)) := fun j => by
    by_cases h0 : s.size u < 0
    · rw [if_neg (by omega), if_pos (decide_eq_true h0)]
    · rw [if_pos (by omega), if_neg (fun e => h0 (of_decide_eq_true e))]
  unfold tdivR2expTail
  simp only [bind, Except.bind, pure, Except.pure]
  by_cases hru : r = u
  · subst hru
    simp only [ne_eq, not_true_eq_false, if_false]
    rw [k1.size, hszform, hszform]
    have p := shrink_ok i1 (k1.lt hr) k (by rw [k1.size]; exact hkn) (by rw [k1.mag hr]; exact hnorm) (decide (s.size r < 0))
    rw [k1.mag hr] at p
    exact ⟨_, rfl, Post.of_same_upd k1 fr1 p.2.1 p.1 p.2.2⟩
  · rw [if_pos hru]
    obtain ⟨X, e1, e2, hXs, _, p⟩ := copy_low_ok i1 (k1.lt hr) (k1.lt hu) k (by rw [k1.size]; exact hkn) a1
      (by rw [k1.mag hu]; exact hnorm) (decide (s.size u < 0))
    rw [e1]; simp only []
    rw [e2]; simp only []
    rw [hXs u, k1.size, hszform, hszform]
    rw [k1.mag hu] at p
    exact ⟨_, rfl, Post.of_same_upd k1 fr1 p.2.1 p.1 p.2.2⟩

theorem tdiv_r_2exp_post {s : St} (h : Inv s) {r u : Nat} (hr : r < s.nv) (hu : u < s.nv) (cnt : Nat) :
    Ok (tdiv_r_2exp r u cnt s) (fun s' => Post s s' r (DivZ.tdivR (s.value u) ((2 ^ cnt : Nat) : Int))) := by
  unfold tdiv_r_2exp
  simp only [bind, Except.bind, pure, Except.pure]
  set n := (s.size u).natAbs with hn
  set lc := cnt / 64 with hlc
  set c := cnt % 64 with hc
  set N := s.mag u with hN
  have hspec : DivZ.tdivR (s.value u) ((2 ^ cnt : Nat) : Int) =
      if s.size u ≥ 0 then ((N % 2 ^ cnt : Nat) : Int) else -((N % 2 ^ cnt : Nat) : Int) := by
    rw [value_eq_sgnv, DivZ.tdivR, tmod_sgnv, sgnv_ge]
  rw [hspec]
  have hsplit := mod_two_pow_split N cnt
  rw [← hlc, ← hc] at hsplit
  have hszform : ∀ k : Nat, (if s.size u ≥ 0 then (k : Int) else -(k : Int)) =
      (if decide (s.size u < 0) = true then -(k : Int) else (k : Int)) := fun k => by
    by_cases h0 : s.size u < 0
    · rw [if_neg (by omega), if_pos (by simpa using h0)]
    · rw [if_pos (by omega), if_neg (by simpa using h0)]
  have hnegform : ∀ (X : St) (k : Nat), X.size u = s.size u →
      (if X.size u ≥ 0 then (k : Int) else -(k : Int)) = (if decide (s.size u < 0) = true then -(k : Int) else (k : Int)) :=
    fun X k e => by rw [e]; exact hszform k
  have hNlt : N < B ^ n := h.mag_lt hu
  have h2cnt : B ^ lc ≤ 2 ^ cnt := by
    rw [two_pow_split cnt, ← hlc]; exact Nat.le_mul_of_pos_right _ (Nat.pow_pos (by decide))
  -- a copy / shrink to the k low limbs, k normalised, with the value N % 2^cnt
  have hlow : ∀ (k : Nat), k ≤ n → sizeNat (N % B ^ k) = k → N % B ^ k = N % 2 ^ cnt →
      ∃ s', tdivR2expTail r u k k (s.mpzRealloc r k) = Except.ok s' ∧
        Post s s' r (if s.size u ≥ 0 then ((N % 2 ^ cnt : Nat) : Int) else -((N % 2 ^ cnt : Nat) : Int)) := by
    intro k hkn hnorm hval
    rw [← hval]
    exact tdivR2expTail_low h hr hu k hkn hnorm
  by_cases hgt : n > lc
  · rw [if_pos hgt, limbAt_var h hu lc hgt]; simp only []
    rw [DivZ.limb_mod]
    set x := N / B ^ lc % 2 ^ c with hx
    by_cases hx0 : x ≠ 0
    · rw [if_pos hx0]
      obtain ⟨i1, k1, a1⟩ := realloc_same h hr (lc + 1)
      have fr1 : Fr s r (s.mpzRealloc r (lc + 1)) := (Fr.refl s r).realloc _
      set s1 := s.mpzRealloc r (lc + 1) with hs1
      have hr1 : r < s1.nv := k1.lt hr
      have hu1 : u < s1.nv := k1.lt hu
      obtain ⟨br, hbr, hbrl, hbrL⟩ := i1.live r hr1
      have hmagu : s1.mag u = N := by
        show s1.mag u = s.mag u
        rw [← value_natAbs, ← value_natAbs, k1.value hu]
      have hfitr : lc + 1 ≤ br.length := by omega
      rw [storeAt_ok hbr (by simp; omega)]; simp only []
      unfold tdivR2expTail
      simp only [bind, Except.bind, pure, Except.pure]
      have hc64 : c < 64 := Nat.mod_lt _ (by decide)
      have hxB : x < B := by
        have h1 : x < 2 ^ c := Nat.mod_lt _ (Nat.pow_pos (by decide))
        have h2 : 2 ^ c < B := by
          show 2 ^ c < 2 ^ 64
          exact Nat.pow_lt_pow_right (by decide) hc64
        omega
      set M := N % B ^ lc + B ^ lc * x with hM
      have hMval : M = N % 2 ^ cnt := hsplit.symm
      have hlow' : N % B ^ lc < B ^ lc := Nat.mod_lt _ (Bpow_pos _)
      have hMsz : sizeNat M = lc + 1 := by
        apply sizeNat_eq
        · simp only [Nat.add_sub_cancel]
          calc B ^ lc = B ^ lc * 1 := (Nat.mul_one _).symm
            _ ≤ B ^ lc * x := Nat.mul_le_mul_left _ (Nat.one_le_iff_ne_zero.mpr hx0)
            _ ≤ M := Nat.le_add_left _ _
        · rw [pow_succ]
          calc M < B ^ lc + B ^ lc * x := by omega
            _ = B ^ lc * (x + 1) := by ring
            _ ≤ B ^ lc * B := Nat.mul_le_mul_left _ (by omega)
        · omega
      -- the lc low limbs of a variable, read from its block
      have hlowval : ∀ (v : Nat) (bv : List Nat), v < s1.nv → s1.blk (s1.ptr v) = some bv → lc ≤ (s1.size v).natAbs →
          val (bv.take lc) = s1.mag v % B ^ lc := fun v bv hv hbv hle => by
        rw [← val_limbs_take i1 hv lc]; unfold St.limbs; rw [hbv]; simp only [Option.getD_some]
        rw [List.take_take, Nat.min_eq_left hle]
      by_cases hru : r = u
      · subst hru
        simp only [ne_eq, not_true_eq_false, if_false]
        have hXs : (s1.setBlk (s1.ptr r) (some (wrAt br lc [x]))).size r = s.size r := k1.size r
        rw [hnegform _ _ hXs, ← hMsz]
        have htk : (wrAt br lc [x]).take (sizeNat M) = br.take lc ++ [x] := by
          rw [hMsz]; unfold wrAt
          exact List.take_left' (by simp; omega)
        have p := put_upd i1 hr1 (wrAt br lc [x]) M (decide (s.size r < 0))
          (by rw [wrAt_length (by simp; omega)]; exact hbrl)
          (Limbs_wrAt hbrL (by intro y hy; simp at hy; rw [hy]; exact hxB)) (by rw [hMsz]; omega)
          (by have hlt : (br.take lc).length = lc := by simp; omega
              rw [htk, val_append, hlt]; simp only [val_cons, val_nil, Nat.mul_zero, Nat.add_zero]
              rw [hlowval r br hr1 hbr (by rw [k1.size]; omega), hmagu])
        rw [← hMval, hszform]
        exact ⟨_, rfl, p.1, p.2.1.nv.trans k1.nv, fr1.upd p.2.1, p.2.2,
          fun i => Nat.le_trans (k1.alloc i) (Nat.le_of_eq (p.2.1.alloc i).symm)⟩
      · rw [if_pos hru]
        obtain ⟨bu, hbu, hbul, hbuL⟩ := i1.live u hu1
        have hne : s1.ptr u ≠ s1.ptr r := fun e => hru (i1.inj u r hu1 hr1 e).symm
        have hXu : (s1.setBlk (s1.ptr r) (some (wrAt br lc [x]))).blk (s1.ptr u) = some bu := by
          simp [St.setBlk, hne, hbu]
        have hfu := i1.fits u hu1
        have hXpu : (s1.setBlk (s1.ptr r) (some (wrAt br lc [x]))).ptr u = s1.ptr u := rfl
        have hXpr : (s1.setBlk (s1.ptr r) (some (wrAt br lc [x]))).ptr r = s1.ptr r := rfl
        rw [hXpu, loadAt_ok hXu (by rw [k1.size] at hfu; omega)]; simp only [List.drop_zero]
        have hlen : (bu.take lc).length = lc := by simp; rw [k1.size] at hfu; omega
        rw [hXpr, storeAt_ok (setBlk_blk_self _ _ _) (by rw [wrAt_length (by simp; omega), hlen]; omega), setBlk_setBlk,
          wrAt_wrAt_zero hlen (by simp; omega)]
        simp only []
        have hXs : (s1.setBlk (s1.ptr r) (some (wrAt br 0 (bu.take lc ++ [x])))).size u = s.size u := k1.size u
        rw [hnegform _ _ hXs]
        have hLlen : (bu.take lc ++ [x]).length = lc + 1 := by simp [hlen]
        have hLval : val (bu.take lc ++ [x]) = M := by
          rw [val_append, hlen]; simp only [val_cons, val_nil, Nat.mul_zero, Nat.add_zero]
          rw [hlowval u bu hu1 hbu (by rw [k1.size]; omega), hmagu]
        have p := put_list i1 hr1 hbr (bu.take lc ++ [x]) (by rw [hLlen]; omega)
          (Limbs_append.mpr ⟨Limbs_take hbuL _, by intro y hy; simp at hy; rw [hy]; exact hxB⟩)
          (by rw [hLval, hLlen]; exact hMsz) (decide (s.size u < 0))
        rw [hLlen, hLval] at p
        rw [← hMval, hszform]
        exact ⟨_, rfl, p.1, p.2.1.nv.trans k1.nv, fr1.upd p.2.1, p.2.2,
          fun i => Nat.le_trans (k1.alloc i) (Nat.le_of_eq (p.2.1.alloc i).symm)⟩
    · rw [if_neg hx0, loadAt_var_low h hu lc (by omega)]; simp only []
      rw [val_limbs_take h hu lc]
      have hx0' : x = 0 := by simpa using hx0
      have hm : N % B ^ lc = N % 2 ^ cnt := by rw [hsplit, hx0']; simp
      set k := sizeNat (N % B ^ lc) with hk
      have hklc : k ≤ lc := (DivZ.sizeNat_le_iff _ _).mpr (Nat.mod_lt _ (Bpow_pos _))
      have hmk : N % B ^ k = N % B ^ lc := by
        rw [← Nat.mod_mod_of_dvd N (Nat.pow_dvd_pow B hklc)]
        exact Nat.mod_eq_of_lt (DivZ.lt_B_pow_sizeNat _)
      exact hlow k (by omega) (by rw [hmk]) (by rw [hmk, hm])
  · rw [if_neg hgt]; simp only []
    have hmn : N % B ^ n = N := Nat.mod_eq_of_lt hNlt
    have hle : B ^ n ≤ B ^ lc := Nat.pow_le_pow_right B_pos (by omega)
    exact hlow n (Nat.le_refl _) (by rw [hmn]; exact (h.size_natAbs hu).symm)
      (by rw [hmn, Nat.mod_eq_of_lt (by omega)])

theorem tdiv_r_2exp_ok {s : St} (h : Inv s) {r u : Nat} (hr : r < s.nv) (hu : u < s.nv) (cnt : Nat) :
    ∃ s', tdiv_r_2exp r u cnt s = .ok s' ∧ Res s s' r (DivZ.tdivR (s.value u) ((2 ^ cnt : Nat) : Int)) :=
  (tdiv_r_2exp_post h hr hu cnt).mono fun _ p => p.res h hr

end Mpir.AliasMem
end

/- mpz_cdiv_r_2exp / mpz_fdiv_r_2exp on the pointer-level model: early `up = PTR (u)` valid on the truncating side (no
   realloc when w = u), re-fetched on the negate side; mask and strip of the high limb. -/

section
namespace Mpir.AliasMem
open Mpir
open Mpir.DivZ (sizeNat siz sameSign)

theorem mask_arith (a x lc c : Nat) (ha : a < B ^ lc) :
    (a + B ^ lc * x) % (B ^ lc * 2 ^ c) = a + B ^ lc * (x % 2 ^ c) := by
  rw [Nat.mod_mul, Nat.add_mul_mod_self_left, Nat.mod_eq_of_lt ha, Nat.add_mul_div_left _ _ (Bpow_pos _),
    Nat.div_eq_of_lt ha, Nat.zero_add]

theorem cfdivRMask_ok {s1 : St} (h : Inv s1) {w : Nat} (hw : w < s1.nv) (B1 : List Nat) (hB1 : B1.length = s1.alloc w)
    (hB1L : Limbs B1) (lc c : Nat) (hlc : lc + 1 ≤ B1.length) (neg : Bool) :
    ∃ s', cfdivRMask w (s1.ptr w) lc c neg (s1.setBlk (s1.ptr w) (some B1)) = .ok s' ∧ Inv s' ∧ Upd s1 s' w ∧
      s'.value w = (if neg then -((val (B1.take (lc + 1)) % (B ^ lc * 2 ^ c) : Nat) : Int)
        else ((val (B1.take (lc + 1)) % (B ^ lc * 2 ^ c) : Nat) : Int)) := by
  unfold cfdivRMask
  simp only [bind, Except.bind, pure, Except.pure]
  have hl : (s1.setBlk (s1.ptr w) (some B1)).load (s1.ptr w) (lc + 1) = .ok (B1.take (lc + 1)) := by
    unfold St.load; rw [setBlk_blk_self]; simp only []; rw [if_pos hlc]
  rw [hl]; simp only []
  rw [storeAt_ok (setBlk_blk_self _ _ _) (by simp; omega), setBlk_setBlk]
  simp only []
  set x := (B1.take (lc + 1)).getD lc 0 with hx
  set a := val (B1.take lc) with ha
  have halt : a < B ^ lc := by
    have := val_lt _ (Limbs_take hB1L lc)
    have hl : (B1.take lc).length = lc := by simp; omega
    rwa [hl] at this
  have hxB1 : x = B1.getD lc 0 := by
    rw [hx, List.getD_eq_getElem?_getD, List.getD_eq_getElem?_getD, List.getElem?_take_of_lt (by omega)]
  have hsplit : B1.take (lc + 1) = B1.take lc ++ [x] := by
    rw [hxB1, List.take_add_one]
    have hlt : lc < B1.length := by omega
    simp [List.getD_eq_getElem?_getD, List.getElem?_eq_getElem hlt]
  have hvfull : val (B1.take (lc + 1)) = a + B ^ lc * x := by
    rw [hsplit, val_append]; simp only [val_cons, val_nil, Nat.mul_zero, Nat.add_zero]
    have hl : (B1.take lc).length = lc := by simp; omega
    rw [hl]
  set v := val (B1.take (lc + 1)) % (B ^ lc * 2 ^ c) with hv
  have hvval : v = a + B ^ lc * (x % 2 ^ c) := by rw [hv, hvfull, mask_arith a x lc c halt]
  set B2 := wrAt B1 lc [x % 2 ^ c] with hB2
  have hxm : x % 2 ^ c < B := by
    have : x < B := by
      rw [hxB1]
      have hlt : lc < B1.length := by omega
      rw [List.getD_eq_getElem?_getD, List.getElem?_eq_getElem hlt]; exact hB1L _ (List.getElem_mem hlt)
    exact Nat.lt_of_le_of_lt (Nat.mod_le _ _) this
  have hB2L : Limbs B2 := Limbs_wrAt hB1L (by intro y hy; simp at hy; rw [hy]; exact hxm)
  have hB2len : B2.length = s1.alloc w := by rw [hB2, wrAt_length (by simp; omega)]; exact hB1
  have hB2take : B2.take (lc + 1) = B1.take lc ++ [x % 2 ^ c] := by
    rw [hB2]; unfold wrAt
    exact List.take_left' (by simp; omega)
  have hB2val : val (B2.take (lc + 1)) = v := by
    rw [hB2take, val_append]; simp only [val_cons, val_nil, Nat.mul_zero, Nat.add_zero]
    have hl : (B1.take lc).length = lc := by simp; omega
    rw [hl, hvval]
  have hvlt : v < B ^ (lc + 1) := by
    rw [← hB2val]
    have := val_lt _ (Limbs_take hB2L (lc + 1))
    have hl : (B2.take (lc + 1)).length = lc + 1 := by simp; omega
    rwa [hl] at this
  have hk : sizeNat v ≤ lc + 1 := (DivZ.sizeNat_le_iff _ _).mpr hvlt
  have p := put_upd h hw B2 v neg hB2len hB2L (by omega)
    (by have e : B2.take (sizeNat v) = (B2.take (lc + 1)).take (sizeNat v) := by rw [List.take_take, Nat.min_eq_left hk]
        rw [e, val_take_eq_mod _ (Limbs_take hB2L _) _, hB2val]
        exact Nat.mod_eq_of_lt (DivZ.lt_B_pow_sizeNat v))
  exact ⟨_, rfl, p.1, p.2.1, p.2.2⟩

/-- the side of mpz_cdiv_r_2exp / mpz_fdiv_r_2exp that rounds towards zero (cfdiv_r_2exp.c:59-84 and the exit :44-48) -/
theorem cfdiv_r_2exp_trunc_ok {s : St} (h : Inv s) {w u : Nat} (hw : w < s.nv) (hu : u < s.nv) (cnt : Nat) (dir : Int)
    (htr : s.size u = 0 ∨ ¬ sameSign (s.size u) dir) :
    ∃ s', cfdiv_r_2exp w u cnt dir s = .ok s' ∧ Post s s' w (DivZ.tdivR (s.value u) ((2 ^ cnt : Nat) : Int)) := by
  unfold cfdiv_r_2exp
  simp only [bind, Except.bind, pure, Except.pure]
  set n := (s.size u).natAbs with hn
  set lc := cnt / 64 with hlc
  set c := cnt % 64 with hc
  set N := s.mag u with hN
  have hspec : DivZ.tdivR (s.value u) ((2 ^ cnt : Nat) : Int) =
      if decide (s.size u < 0) = true then -((N % 2 ^ cnt : Nat) : Int) else ((N % 2 ^ cnt : Nat) : Int) := by
    rw [value_eq_sgnv, DivZ.tdivR, tmod_sgnv]; unfold sgnv; simp only [decide_eq_true_eq]; rfl
  rw [hspec]
  by_cases hz : s.size u = 0
  · rw [if_pos hz]
    have hm0 : N = 0 := h.mag_zero hu hz
    obtain ⟨i2, u2, v2⟩ := setSize_zero_spec h hw
    exact ⟨_, rfl, Post.of_same_upd (Same.refl s) (Fr.refl s w) u2 i2 (by rw [v2, hm0]; simp)⟩
  · rw [if_neg hz]
    have hns : ¬ sameSign (s.size u) dir := by rcases htr with e | e; exact absurd e hz; exact e
    rw [if_pos hns]
    have hNlt : N < B ^ n := h.mag_lt hu
    have h2cnt : B ^ lc ≤ 2 ^ cnt := by
      rw [two_pow_split cnt, ← hlc]; exact Nat.le_mul_of_pos_right _ (Nat.pow_pos (by decide))
    have hsmall : n ≤ lc → N % 2 ^ cnt = N := fun hle => by
      have : B ^ n ≤ B ^ lc := Nat.pow_le_pow_right B_pos hle
      exact Nat.mod_eq_of_lt (by omega)
    have hmod : ∀ L : Nat, L = N % B ^ (lc + 1) → L % (B ^ lc * 2 ^ c) = N % 2 ^ cnt := fun L e => by
      rw [e]; exact DivZ.mod_Bsucc_mod N cnt
    by_cases hwu : w = u
    · subst hwu
      simp only [if_true]
      by_cases hle : n ≤ lc
      · rw [if_pos hle]
        refine ⟨s, rfl, Post.same h ?_⟩
        rw [hsmall hle, value_eq_sgnv]
        exact sgnv_of_iff decide_eq_true_iff.symm _
      · rw [if_neg hle]
        obtain ⟨b, hb, hbl, hbL⟩ := h.live w hw
        have hf := h.fits w hw
        obtain ⟨s', e', i', u', v'⟩ := cfdivRMask_ok h hw b hbl hbL lc c (by omega) (decide (s.size w < 0))
        rw [setBlk_same s hb] at e'
        refine ⟨s', e', Post.of_same_upd (Same.refl s) (Fr.refl s w) u' i' ?_⟩
        rw [v']
        have htk : b.take (lc + 1) = (s.limbs w).take (lc + 1) := by
          unfold St.limbs; rw [hb]; simp only [Option.getD_some]
          rw [List.take_take, Nat.min_eq_left (by omega)]
        rw [htk, hmod _ (val_limbs_take h hw (lc + 1))]
    · rw [if_neg hwu]
      set i := min n (lc + 1) with hi
      obtain ⟨i1, k1, a1⟩ := realloc_same h hw i
      have fr1 : Fr s w (s.mpzRealloc w i) := (Fr.refl s w).realloc _
      set s1 := s.mpzRealloc w i with hs1
      have hw1 : w < s1.nv := k1.lt hw
      have hu1 : u < s1.nv := k1.lt hu
      have hpu : s1.ptr u = s.ptr u := by rw [hs1, realloc_ptr]; simp [Ne.symm hwu]
      have hmag : s1.mag u = N := by
        show s1.mag u = s.mag u
        rw [← value_natAbs, ← value_natAbs, k1.value hu]
      rw [← hpu]
      by_cases hle : n ≤ lc
      · have hin : i = n := by omega
        obtain ⟨X, e1, e2, hXs, _, p⟩ := copy_low_ok i1 hw1 hu1 i (by rw [k1.size]; omega) a1
          (by rw [hmag, hin, Nat.mod_eq_of_lt hNlt]; exact (h.size_natAbs hu).symm) (decide (s.size u < 0))
        rw [e1]; simp only []
        rw [e2]; simp only []
        rw [if_pos hle]
        have hsz : s.size u = (if decide (s.size u < 0) = true then -(i : Int) else (i : Int)) := by
          by_cases h0 : s.size u < 0
          · rw [if_pos (by simpa using h0)]; omega
          · rw [if_neg (by simpa using h0)]; omega
        have hNi : N % B ^ i = N % 2 ^ cnt := by rw [hin, Nat.mod_eq_of_lt hNlt, hsmall hle]
        rw [hmag, hNi] at p
        have hXeq : X.setSize w (s.size u) = X.setSize w (if decide (s.size u < 0) = true then -(i : Int) else (i : Int)) := by
          rw [← hsz]
        rw [hXeq]
        exact ⟨_, rfl, p.1, p.2.1.nv.trans k1.nv, fr1.upd p.2.1, p.2.2, fun j => Nat.le_trans (k1.alloc j) (Nat.le_of_eq (p.2.1.alloc j).symm)⟩
      · have hin : i = lc + 1 := by omega
        obtain ⟨bw, hbw, hbwl, hbwL⟩ := i1.live w hw1
        have hld := loadAt_var_low i1 hu1 i (by rw [k1.size]; omega)
        rw [hld]; simp only []
        have hLlen : ((s1.limbs u).take i).length = i := by simp [(i1.limbs_spec hu1).1, k1.size]; omega
        rw [storeAt_ok hbw (by rw [hLlen]; omega)]; simp only []
        rw [if_neg hle]
        obtain ⟨s', e', i', u', v'⟩ := cfdivRMask_ok i1 hw1 (wrAt bw 0 ((s1.limbs u).take i))
          (by rw [wrAt_length (by rw [hLlen]; omega)]; exact hbwl)
          (Limbs_wrAt hbwL (Limbs_take (i1.limbs_spec hu1).2 _)) lc c
          (by rw [wrAt_length (by rw [hLlen]; omega)]; omega) (decide (s.size u < 0))
        refine ⟨s', e', i', u'.nv.trans k1.nv, fr1.upd u', ?_, fun j => Nat.le_trans (k1.alloc j) (Nat.le_of_eq (u'.alloc j).symm)⟩
        rw [v']
        have htk : (wrAt bw 0 ((s1.limbs u).take i)).take (lc + 1) = (s1.limbs u).take (lc + 1) := by
          rw [wrAt_zero, List.take_append_of_le_length (by have := hLlen; omega),
            List.take_take, Nat.min_eq_left (by omega)]
        rw [htk, hmod _ (by rw [val_limbs_take i1 hu1 (lc + 1), hmag])]

/-- the side that rounds away from zero (cfdiv_r_2exp.c:85-123): zero when the low cnt bits of u are zero, else the two's
    complement `2^cnt - (|u| mod 2^cnt)` with the opposite sign -/
theorem cfdiv_r_2exp_away_ok {s : St} (h : Inv s) {w u : Nat} (hw : w < s.nv) (hu : u < s.nv) (cnt : Nat) (dir : Int)
    (hz : s.size u ≠ 0) (hss : sameSign (s.size u) dir) :
    ∃ s', cfdiv_r_2exp w u cnt dir s = .ok s' ∧
      Post s s' w (if s.mag u % 2 ^ cnt = 0 then 0
        else if s.size u ≥ 0 then -((2 ^ cnt - s.mag u % 2 ^ cnt : Nat) : Int) else ((2 ^ cnt - s.mag u % 2 ^ cnt : Nat) : Int)) := by
  unfold cfdiv_r_2exp
  simp only [bind, Except.bind, pure, Except.pure]
  set n := (s.size u).natAbs with hn
  set lc := cnt / 64 with hlc
  set c := cnt % 64 with hc
  set N := s.mag u with hN
  rw [if_neg hz, if_neg (not_not.mpr hss)]
  have hNlt : N < B ^ n := h.mag_lt hu
  have hN0 : N ≠ 0 := fun e => by
    have := h.size_natAbs hu; rw [← hN, e, DivZ.sizeNat_eq_zero.mpr rfl] at this; omega
  have h2cnt : B ^ lc ≤ 2 ^ cnt := by
    rw [two_pow_split cnt, ← hlc]; exact Nat.le_mul_of_pos_right _ (Nat.pow_pos (by decide))
  -- the test for "some low bit is set"
  have hneed : ∃ nb : Bool, cfdivRNeedNeg (s.ptr u) n lc c s = Except.ok nb ∧ (nb = true ↔ N % 2 ^ cnt ≠ 0) := by
    unfold cfdivRNeedNeg
    simp only [bind, Except.bind, pure, Except.pure]
    by_cases hle : n ≤ lc
    · rw [if_pos hle]
      refine ⟨true, rfl, ?_⟩
      have : B ^ n ≤ B ^ lc := Nat.pow_le_pow_right B_pos hle
      rw [Nat.mod_eq_of_lt (by omega)]; simp [hN0]
    · rw [if_neg hle, loadAt_var_low h hu lc (by omega)]; simp only []
      rw [val_limbs_take h hu lc]
      have hlow := DivZ.low_bits_ne_zero_iff N cnt
      rw [← hlc, ← hc] at hlow
      by_cases hl0 : N % B ^ lc ≠ 0
      · rw [if_pos hl0]
        exact ⟨true, rfl, by simp; exact hlow.mp (Or.inl hl0)⟩
      · rw [if_neg hl0, limbAt_var h hu lc (by omega)]; simp only []
        rw [DivZ.limb_mod]
        refine ⟨_, rfl, ?_⟩
        rw [decide_eq_true_iff, ← hlow]
        constructor
        · intro hx; exact Or.inr hx
        · rintro (hx | hx)
          · exact absurd hx hl0
          · exact hx
  obtain ⟨nb, enb, hnb⟩ := hneed
  rw [enb]; simp only []
  cases nb
  · have hr0 : N % 2 ^ cnt = 0 := by
      by_contra hcon
      exact absurd (hnb.mpr hcon) (by simp)
    simp only [Bool.not_false, if_true]
    rw [if_pos hr0]
    obtain ⟨i2, u2, v2⟩ := setSize_zero_spec h hw
    exact ⟨_, rfl, Post.of_same_upd (Same.refl s) (Fr.refl s w) u2 i2 v2⟩
  · have hr : N % 2 ^ cnt ≠ 0 := hnb.mp rfl
    simp only [Bool.not_true, Bool.false_eq_true, if_false]
    rw [if_neg hr]
    unfold cfdivRNegate
    simp only [bind, Except.bind]
    obtain ⟨i1, k1, a1⟩ := realloc_same h hw (lc + 1)
    have fr1 : Fr s w (s.mpzRealloc w (lc + 1)) := (Fr.refl s w).realloc _
    set s1 := s.mpzRealloc w (lc + 1) with hs1
    have hw1 : w < s1.nv := k1.lt hw
    have hu1 : u < s1.nv := k1.lt hu
    have hmag : s1.mag u = N := by
      show s1.mag u = s.mag u
      rw [← value_natAbs, ← value_natAbs, k1.value hu]
    set i := min n (lc + 1) with hi
    rw [loadAt_var_low i1 hu1 i (by rw [k1.size]; omega)]; simp only []
    obtain ⟨hL0, hnegmod⟩ := DivZ.neg_mod_pow hr
    have hLval : val ((s1.limbs u).take i) = N % B ^ (lc + 1) := by
      rw [val_limbs_take i1 hu1 i, hmag]
      by_cases hle : n ≤ lc
      · have hin : i = n := by omega
        have : B ^ n ≤ B ^ (lc + 1) := Nat.pow_le_pow_right B_pos (by omega)
        rw [hin, Nat.mod_eq_of_lt hNlt, Nat.mod_eq_of_lt (by omega)]
      · have hin : i = lc + 1 := by omega
        rw [hin]
    rw [hLval]
    set L := N % B ^ (lc + 1) with hLdef
    have hLlt : L < B ^ (lc + 1) := Nat.mod_lt _ (Bpow_pos _)
    obtain ⟨bw, hbw, hbwl, hbwL⟩ := i1.live w hw1
    have hTlen : (toLimbs (lc + 1) (B ^ (lc + 1) - L)).length = lc + 1 := toLimbs_length _ _
    rw [storeAt_ok hbw (by rw [hTlen]; omega)]; simp only []
    obtain ⟨s', e', i', u', v'⟩ := cfdivRMask_ok i1 hw1 (wrAt bw 0 (toLimbs (lc + 1) (B ^ (lc + 1) - L)))
      (by rw [wrAt_length (by rw [hTlen]; omega)]; exact hbwl)
      (Limbs_wrAt hbwL (Limbs_toLimbs _ _)) lc c
      (by rw [wrAt_length (by rw [hTlen]; omega)]; omega) (decide (s.size u ≥ 0))
    refine ⟨s', e', i', u'.nv.trans k1.nv, fr1.upd u', ?_, fun j => Nat.le_trans (k1.alloc j) (Nat.le_of_eq (u'.alloc j).symm)⟩
    rw [v']
    have htk : (wrAt bw 0 (toLimbs (lc + 1) (B ^ (lc + 1) - L))).take (lc + 1) = toLimbs (lc + 1) (B ^ (lc + 1) - L) := by
      rw [wrAt_zero, List.take_append_of_le_length (by rw [hTlen]), List.take_of_length_le (by rw [hTlen])]
    rw [htk, val_toLimbs_lt _ _ (by omega), hnegmod]
    by_cases h0 : s.size u ≥ 0
    · rw [if_pos (by simpa using h0), if_pos h0]
    · rw [if_neg (by simpa using h0), if_neg h0]

theorem cfdiv_r_2exp_post {s : St} (h : Inv s) {w u : Nat} (hw : w < s.nv) (hu : u < s.nv) (cnt : Nat) (dir : Int)
    (hdir : dir = 1 ∨ dir = -1) :
    Ok (cfdiv_r_2exp w u cnt dir s) (fun s' => Post s s' w (DivZ.specR dir (s.value u) ((2 ^ cnt : Nat) : Int))) := by
  have hpos : (2 ^ cnt : Nat) ≠ 0 := (Nat.pow_pos (by decide)).ne'
  obtain ⟨_, hR⟩ := DivZ.spec_ui dir (by rcases hdir with e | e <;> simp [e]) (s.value u) (2 ^ cnt) hpos
  have hmabs : (s.value u).natAbs = s.mag u := value_natAbs s u
  have hsiz : siz (s.value u) = s.size u := (h.norm u hu).symm
  have hneg := h.size_neg_iff hu
  rw [hmabs, hsiz] at hR
  rw [hR]
  by_cases hz : s.size u = 0
  · obtain ⟨s', e', hres⟩ := cfdiv_r_2exp_trunc_ok h hw hu cnt dir (Or.inl hz)
    refine ⟨s', e', ?_⟩
    have hm0 : s.mag u = 0 := h.mag_zero hu hz
    have hv0 : s.value u = 0 := (h.size_eq_zero_iff hu).mp hz
    rw [hv0] at hres
    rw [hm0]; simpa [DivZ.tdivR] using hres
  · by_cases hss : sameSign (s.size u) dir
    · obtain ⟨s', e', hres⟩ := cfdiv_r_2exp_away_ok h hw hu cnt dir hz hss
      refine ⟨s', e', ?_⟩
      by_cases hr : s.mag u % 2 ^ cnt = 0
      · rw [if_pos hr] at hres ⊢; exact hres
      · rw [if_neg hr] at hres ⊢
        have e : ∀ X : Int, (if -s.size u ≥ 0 then X else -X) = (if s.size u ≥ 0 then -X else X) :=
          fun X => by split_ifs <;> omega
        rw [if_pos ((DivZ.uiAdjust_iff dir hdir.symm _ _).mpr ⟨hr, hss⟩), DivZ.uiRem_sign dir hdir.symm _ hz, if_pos hss, e]
        exact hres
    · obtain ⟨s', e', hres⟩ := cfdiv_r_2exp_trunc_ok h hw hu cnt dir (Or.inr hss)
      refine ⟨s', e', ?_⟩
      unfold DivZ.tdivR at hres
      rw [DivZ.tmod_natCast, hmabs] at hres
      by_cases hr : s.mag u % 2 ^ cnt = 0
      · rw [if_pos hr]; rw [hr] at hres; simpa using hres
      · rw [if_neg hr]
        have e : ∀ X : Int, (if s.size u ≥ 0 then X else -X) = (if 0 ≤ s.value u then X else -X) :=
          fun X => by split_ifs <;> omega
        rw [if_neg (fun a => hss ((DivZ.uiAdjust_iff dir hdir.symm _ _).mp a).2), DivZ.uiRem_sign dir hdir.symm _ hz,
          if_neg hss, e]
        exact hres

theorem cfdiv_r_2exp_ok {s : St} (h : Inv s) {w u : Nat} (hw : w < s.nv) (hu : u < s.nv) (cnt : Nat) (dir : Int)
    (hdir : dir = 1 ∨ dir = -1) :
    ∃ s', cfdiv_r_2exp w u cnt dir s = .ok s' ∧ Res s s' w (DivZ.specR dir (s.value u) ((2 ^ cnt : Nat) : Int)) :=
  (cfdiv_r_2exp_post h hw hu cnt dir hdir).mono fun _ p => p.res h hw

end Mpir.AliasMem
end
