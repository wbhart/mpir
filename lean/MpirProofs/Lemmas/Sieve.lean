/- The prime sieve model (Mpir/Model/Sieve.lean), property C16 part sieve:
   the bit ↔ number maps, the bit-array primitives, the stride loops. -/
import MpirProofs.Lemmas.Numth
import Mpir.Model.Sieve
namespace Mpir.Sieve
open Mpir Mpir.Numth

theorem id_to_n_eq (i : ℕ) : id_to_n i = 3 * i + 1 + i % 2 := by
  unfold id_to_n; rw [Nat.and_one_is_mod]; omega

theorem bit_to_n_eq (b : ℕ) : bit_to_n b = 3 * b + 5 - b % 2 := by
  unfold bit_to_n; rw [or_one_eq]; omega

theorem bit_to_n_eq_id (b : ℕ) : bit_to_n b = id_to_n (b + 1) := by
  rw [bit_to_n_eq, id_to_n_eq]; omega

/-- `n_to_bit` without the limb wrap-around -/
def nb (n : ℕ) : ℕ := ((n - 5) ||| 1) / 3

theorem nb_eq (n : ℕ) : nb n = (n - 5 + 1 - (n - 5) % 2) / 3 := by
  unfold nb; rw [or_one_eq]

theorem n_to_bit_eq_nb (n : ℕ) (h5 : 5 ≤ n) (hn : n < B) : n_to_bit n = nb n := by
  unfold n_to_bit nb
  have : (n + B - 5) % B = n - 5 := by
    rw [show n + B - 5 = (n - 5) + B by omega, Nat.add_mod_right, Nat.mod_eq_of_lt (by omega)]
  rw [this]

theorem bit_to_n_mod6 (b : ℕ) : bit_to_n b % 6 = 1 ∨ bit_to_n b % 6 = 5 := by
  rw [bit_to_n_eq]; omega

theorem bit_to_n_ge (b : ℕ) : 5 ≤ bit_to_n b := by rw [bit_to_n_eq]; omega

theorem bit_to_n_strictMono : StrictMono bit_to_n :=
  strictMono_nat_of_lt_succ fun b => by rw [bit_to_n_eq, bit_to_n_eq]; omega

theorem bit_to_n_lt {a b : ℕ} (h : a < b) : bit_to_n a < bit_to_n b := bit_to_n_strictMono h

theorem bit_to_n_le {a b : ℕ} (h : a ≤ b) : bit_to_n a ≤ bit_to_n b := bit_to_n_strictMono.monotone h

theorem bit_to_n_inj {a b : ℕ} (h : bit_to_n a = bit_to_n b) : a = b := bit_to_n_strictMono.injective h

theorem le_nb_iff (b n : ℕ) (h5 : 5 ≤ n) : b ≤ nb n ↔ bit_to_n b ≤ n := by
  rw [bit_to_n_eq, nb_eq]; omega

theorem nb_bit_to_n (b : ℕ) : nb (bit_to_n b) = b := by
  rw [nb_eq, bit_to_n_eq]; omega

theorem nb_mono {m n : ℕ} (h : m ≤ n) : nb m ≤ nb n := by
  rw [nb_eq, nb_eq]; omega

theorem bit_to_n_nb (m : ℕ) (h5 : 5 ≤ m) (h6 : m % 6 = 1 ∨ m % 6 = 5) : bit_to_n (nb m) = m := by
  rw [bit_to_n_eq, nb_eq]; omega

theorem prime_mod6 {q : ℕ} (hq : q.Prime) (h5 : 5 ≤ q) : q % 6 = 1 ∨ q % 6 = 5 := by
  have h2 := hq.eq_one_or_self_of_dvd 2
  have h3 := hq.eq_one_or_self_of_dvd 3
  omega

theorem id_to_n_even (j : ℕ) : id_to_n (2 * j) = 6 * j + 1 := by
  rw [id_to_n_eq, Nat.mul_mod_right]; ring
theorem id_to_n_odd (j : ℕ) : id_to_n (2 * j + 1) = 6 * j + 5 := by
  rw [id_to_n_eq, Nat.mul_add_mod]; ring
theorem bit_to_n_even (m : ℕ) : bit_to_n (2 * m) = 6 * m + 5 := by
  rw [bit_to_n_eq_id, id_to_n_odd]
theorem bit_to_n_odd (m : ℕ) : bit_to_n (2 * m + 1) = 6 * m + 7 := by
  rw [bit_to_n_eq_id, show 2 * m + 1 + 1 = 2 * (m + 1) by ring, id_to_n_even]; ring

/-- primesieve.c:142-143: `i*(step+1)-1+(-(i&1)&(i+1))` is the bit of id_to_n(i)² -/
theorem bit_to_n_sqIndex (i : ℕ) (hi : 1 ≤ i) :
    bit_to_n (sqIndex i (id_to_n i)) = id_to_n i * id_to_n i := by
  unfold sqIndex
  rw [Nat.and_one_is_mod]
  rcases Nat.even_or_odd' i with ⟨j, rfl | rfl⟩
  · obtain ⟨k, rfl⟩ : ∃ k, j = k + 1 := ⟨j - 1, by omega⟩
    rw [id_to_n_even, Nat.mul_mod_right, if_neg (by decide), Nat.add_zero,
      Nat.sub_eq_of_eq_add (by ring : 2 * (k + 1) * (6 * (k + 1) + 1 + 1) = 2 * (6 * (k * k) + 14 * k + 7) + 1 + 1),
      bit_to_n_odd]
    ring
  · rw [id_to_n_odd, Nat.mul_add_mod, if_pos rfl,
      show (2 * j + 1) * (6 * j + 5 + 1) = 12 * (j * j) + 18 * j + 5 + 1 by ring, Nat.add_sub_cancel,
      show 12 * (j * j) + 18 * j + 5 + (2 * j + 1 + 1) = 2 * (6 * (j * j) + 10 * j + 3) + 1 by ring, bit_to_n_odd]
    ring

/-- primesieve.c:158-159: `i*(i*3+6)+(i&1)` is the bit of id_to_n(i)·id_to_n(i+1) -/
theorem bit_to_n_nextIndex (i : ℕ) :
    bit_to_n (nextIndex i) = id_to_n i * id_to_n (i + 1) := by
  unfold nextIndex
  rw [Nat.and_one_is_mod]
  rcases Nat.even_or_odd' i with ⟨j, rfl | rfl⟩
  · rw [id_to_n_even, id_to_n_odd, Nat.mul_mod_right,
      show 2 * j * (2 * j * 3 + 6) + 0 = 2 * (6 * (j * j) + 6 * j) by ring, bit_to_n_even]
    ring
  · rw [id_to_n_odd, show 2 * j + 1 + 1 = 2 * (j + 1) by ring, id_to_n_even, Nat.mul_add_mod,
      show (2 * j + 1) * ((2 * j + 1) * 3 + 6) + 1 = 2 * (6 * (j * j) + 12 * j + 5) by ring, bit_to_n_even]
    ring

theorem bit_to_n_stride (b k p : ℕ) : bit_to_n (b + k * (2 * p)) = bit_to_n b + 6 * p * k := by
  rcases Nat.even_or_odd' b with ⟨j, rfl | rfl⟩
  · rw [show 2 * j + k * (2 * p) = 2 * (j + k * p) by ring, bit_to_n_even, bit_to_n_even]; ring
  · rw [show 2 * j + 1 + k * (2 * p) = 2 * (j + k * p) + 1 by ring, bit_to_n_odd, bit_to_n_odd]; ring

/-- For p ≡ 1 (mod 6), p' = p + 4 or p ≡ 5, p' = p + 2 (the two residues ±1 mod 6): the progressions p·p + 6p·k and
    p·p' + 6p·k are exactly the multiples p·c, c ≥ p, that are coprime to 6. -/
theorem stride_cover {p p' m : ℕ} (hp : p % 6 = 1 ∧ p' = p + 4 ∨ p % 6 = 5 ∧ p' = p + 2)
    (hm : m % 6 = 1 ∨ m % 6 = 5) :
    (p ∣ m ∧ p * p ≤ m) ↔ (∃ k, m = p * p + 6 * p * k) ∨ (∃ k, m = p * p' + 6 * p * k) := by
  have hmul : ∀ c k, p * (c + 6 * k) = p * c + 6 * p * k := fun c k => by ring
  obtain ⟨hp0, hlt, hle, hsum⟩ : 0 < p ∧ p < p' ∧ p' ≤ p + 4 ∧ (p' + p) % 6 = 0 := by omega
  have hp6 : p % 6 = 1 ∨ p % 6 = 5 := hp.imp And.left And.left
  clear hp
  constructor
  · rintro ⟨⟨c, rfl⟩, hsq⟩
    have hcp : p ≤ c := Nat.le_of_mul_le_mul_left hsq hp0
    by_cases hcong : c % 6 = p % 6
    · exact Or.inl ⟨(c - p) / 6, by rw [← hmul]; congr 1; omega⟩
    · -- c is coprime to 6 and not congruent to p, so c + p ≡ 0 ≡ p' + p; being ≥ p it is ≥ p'
      have hres : ∀ a b : Fin 6, (a.val = 1 ∨ a.val = 5) → ((a.val * b.val) % 6 = 1 ∨ (a.val * b.val) % 6 = 5) →
          b.val ≠ a.val → (b.val + a.val) % 6 = 0 := by decide
      have hc' : (c + p) % 6 = 0 := by
        rw [Nat.add_mod]
        exact hres ⟨p % 6, Nat.mod_lt p (by decide)⟩ ⟨c % 6, Nat.mod_lt c (by decide)⟩ hp6
          (by rwa [← Nat.mul_mod]) hcong
      refine Or.inr ⟨(c - p') / 6, ?_⟩
      rw [← hmul]; congr 1
      clear hres hm hsq hmul hp6
      omega
  · rintro (⟨k, rfl⟩ | ⟨k, rfl⟩)
    · rw [← hmul]
      exact ⟨Nat.dvd_mul_right _ _, Nat.mul_le_mul_left p (Nat.le_add_right _ _)⟩
    · rw [← hmul]
      exact ⟨Nat.dvd_mul_right _ _, Nat.mul_le_mul_left p (by omega)⟩

/-- the two strides of the number p = id_to_n i (primesieve.c:152-156 and :161-165) cover exactly the multiples p·c,
    c ≥ p, coprime to 6 -/
theorem stride_union (i m : ℕ) (hm : m % 6 = 1 ∨ m % 6 = 5) :
    (id_to_n i ∣ m ∧ id_to_n i * id_to_n i ≤ m) ↔
      (∃ k, m = id_to_n i * id_to_n i + 6 * id_to_n i * k) ∨
      (∃ k, m = id_to_n i * id_to_n (i + 1) + 6 * id_to_n i * k) := by
  rcases Nat.even_or_odd' i with ⟨j, rfl | rfl⟩
  · rw [id_to_n_even, id_to_n_odd]
    exact stride_cover (Or.inl ⟨Nat.mul_add_mod _ _ _, rfl⟩) hm
  · rw [id_to_n_odd, show 2 * j + 1 + 1 = 2 * (j + 1) by ring, id_to_n_even]
    exact stride_cover (Or.inr ⟨Nat.mul_add_mod _ _ _, by ring⟩) hm

theorem rotl_two_pow : ∀ k < 64, ∀ r < 64, rotl (2 ^ k) r = 2 ^ ((k + r) % 64) := by
  intro k hk r hr
  unfold rotl
  rw [Nat.shiftLeft_eq, ← pow_add, Nat.shiftRight_eq_div_pow, show B = 2 ^ 64 from rfl]
  rcases Nat.lt_or_ge (k + r) 64 with h | h
  · rw [Nat.mod_eq_of_lt h, Nat.mod_eq_of_lt (Nat.pow_lt_pow_right (by decide) h),
      Nat.div_eq_of_lt (Nat.pow_lt_pow_right (by decide) (by omega)), Nat.or_zero]
  · obtain ⟨d, hd⟩ : ∃ d, k + r = 64 + d := ⟨k + r - 64, by omega⟩
    rw [hd, pow_add, Nat.mul_mod_right, Nat.zero_or, Nat.add_mod_left, Nat.mod_eq_of_lt (by omega),
      Nat.pow_div (by omega) (by decide)]
    congr 1; omega

theorem two_pow_and_one (k : ℕ) : 2 ^ k &&& 1 = if k = 0 then 1 else 0 := by
  rw [Nat.and_one_is_mod]
  rcases k with _ | k
  · simp
  · simp [Nat.pow_succ]

theorem size_orAt (a : Array ℕ) (i m : ℕ) : (orAt a i m).size = a.size := by
  unfold orAt; exact Array.size_modify

theorem getD_orAt (a : Array ℕ) (i m j : ℕ) :
    (orAt a i m).getD j 0 = if i = j ∧ j < a.size then a.getD j 0 ||| m else a.getD j 0 := by
  unfold orAt
  simp only [Array.getD_eq_getD_getElem?, Array.getElem?_modify]
  by_cases h : i = j
  · subst h
    by_cases h2 : i < a.size
    · simp [h2]
    · simp [h2]
  · simp [h]

theorem sieveBit_orAt_mask (a : Array ℕ) (i m b : ℕ) :
    sieveBit (orAt a i m) b = (sieveBit a b || (decide (i = b / 64 ∧ b / 64 < a.size) && m.testBit (b % 64))) := by
  unfold sieveBit
  rw [getD_orAt]
  split
  · next h => rw [Nat.testBit_or, decide_eq_true h, Bool.true_and]
  · next h => rw [decide_eq_false h, Bool.false_and, Bool.or_false]

theorem sieveBit_orAt (a : Array ℕ) (l b : ℕ) (hl : l / 64 < a.size) :
    sieveBit (orAt a (l / 64) (2 ^ (l % 64))) b = (sieveBit a b || decide (b = l)) := by
  rw [sieveBit_orAt_mask, Nat.testBit_two_pow, ← Bool.decide_and]
  congr 2
  exact propext ⟨fun h => by omega, fun h => by subst h; exact ⟨⟨rfl, hl⟩, rfl⟩⟩

theorem clearAt_eq (a : Array ℕ) (j : ℕ) : clearAt a (j / 64) (2 ^ (j % 64)) = !sieveBit a j := by
  unfold clearAt sieveBit
  rw [Nat.and_two_pow]
  cases h : (a.getD (j / 64) 0).testBit (j % 64)
  · simp
  · simp

/-- every entry of the array is a limb -/
def LimbsA (a : Array ℕ) : Prop := ∀ j, a.getD j 0 < B

theorem limbs_orAt (a : Array ℕ) (i m : ℕ) (hm : m < B) (h : LimbsA a) : LimbsA (orAt a i m) := by
  intro j
  rw [getD_orAt]
  split
  · exact Nat.or_lt_two_pow (h j) hm
  · exact h j

/-- a' is a with exactly the bits b, P b, set in addition; the size is kept -/
def Marks (a a' : Array ℕ) (P : ℕ → Prop) : Prop :=
  a'.size = a.size ∧ LimbsA a' ∧ ∀ b, sieveBit a' b = true ↔ (sieveBit a b = true ∨ P b)

theorem Marks.none {a : Array ℕ} {P : ℕ → Prop} (hl : LimbsA a) (h : ∀ b, ¬ P b) : Marks a a P :=
  ⟨rfl, hl, fun b => ⟨Or.inl, fun hb => hb.resolve_right (h b)⟩⟩

theorem Marks.trans {a a' a'' : Array ℕ} {P Q : ℕ → Prop} (h1 : Marks a a' P) (h2 : Marks a' a'' Q) :
    Marks a a'' (fun b => P b ∨ Q b) :=
  ⟨h2.1.trans h1.1, h2.2.1, fun b => by rw [h2.2.2, h1.2.2, or_assoc]⟩

theorem Marks.congr {a a' : Array ℕ} {P Q : ℕ → Prop} (h : Marks a a' P) (hPQ : ∀ b, P b ↔ Q b) : Marks a a' Q :=
  ⟨h.1, h.2.1, fun b => by rw [h.2.2, hPQ]⟩

/-- `bit_array[l/64] |= 1 << (l%64)` -/
theorem Marks.orAt {a : Array ℕ} (hl : LimbsA a) (l : ℕ) (h : l / 64 < a.size) :
    Marks a (orAt a (l / 64) (2 ^ (l % 64))) (· = l) :=
  ⟨size_orAt _ _ _, limbs_orAt a _ _ (Nat.pow_lt_pow_right (by decide) (Nat.mod_lt _ (by decide))) hl, fun b => by
    rw [sieveBit_orAt a l b h, Bool.or_eq_true, decide_eq_true_eq]⟩

/-- `for ( ; lindex <= bits; lindex += step)` marks exactly lindex + k·step ≤ bits -/
theorem markFor_spec (bits step : ℕ) :
    ∀ fuel (a : Array ℕ) lindex, bits < lindex + fuel * step → bits / 64 < a.size → LimbsA a →
      Marks a (markFor bits step (step % 64) fuel a lindex (2 ^ (lindex % 64)))
        (fun b => b ≤ bits ∧ ∃ k, b = lindex + k * step) := by
  intro fuel
  induction fuel with
  | zero =>
    intro a lindex hf _ hl
    exact Marks.none hl fun b ⟨hb, k, hk⟩ => by omega
  | succ f ih =>
    intro a lindex hf hsz hl
    rw [markFor]
    split
    · next hle =>
      rw [rotl_two_pow _ (Nat.mod_lt _ (by decide)) _ (Nat.mod_lt _ (by decide)), ← Nat.add_mod]
      have hm := Marks.orAt hl lindex (Nat.lt_of_le_of_lt (Nat.div_le_div_right hle) hsz)
      refine (hm.trans (ih _ (lindex + step) (by rw [Nat.succ_mul] at hf; omega) (by rw [hm.1]; exact hsz) hm.2.1)).congr
        fun b => ?_
      constructor
      · rintro (rfl | ⟨hb, k, rfl⟩)
        · exact ⟨hle, 0, by rw [Nat.zero_mul]; rfl⟩
        · exact ⟨hb, k + 1, by rw [Nat.succ_mul]; omega⟩
      · rintro ⟨hb, k, rfl⟩
        rcases k with _ | k
        · exact Or.inl (by rw [Nat.zero_mul]; rfl)
        · exact Or.inr ⟨hb, k, by rw [Nat.succ_mul]; omega⟩
    · next hle => exact Marks.none hl fun b ⟨hb, k, hk⟩ => by omega

end Mpir.Sieve
