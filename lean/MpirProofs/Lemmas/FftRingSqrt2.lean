/- FFT ring layer: mpir_fft_adjust (multiplication by 2^e: rotation, then shift) and the √2 twiddles — mpir_fft_adjust_sqrt2
   and the sqrt2 butterflies.
   √2 ≡ 2^(wn/4)·(2^(wn/2) − 1) modulo p = 2^wn + 1 (wn = 64·n). -/
import MpirProofs.Lemmas.FftRingBfly
namespace Mpir.Fft
open Mpir

/-! ### residues after a rotation or a small shift: `Near`, `Top61` -/

/-- |rval| < 2·B^n: top limb in {−2,…,1} (what the limb rotation and the small shifts leave) -/
def Near (x : List Nat) : Prop :=
  -(2 * (B : Int) ^ (x.length - 1)) < rval x ∧ rval x < 2 * (B : Int) ^ (x.length - 1)

theorem near_snoc (xs : List Nat) (t : Nat) :
    Near (xs ++ [t]) ↔ -(2 * (B : Int) ^ xs.length) < rval (xs ++ [t]) ∧ rval (xs ++ [t]) < 2 * (B : Int) ^ xs.length := by
  unfold Near; simp

theorem near_top (xs : List Nat) (t : Nat) (hx : Limbs (xs ++ [t])) (h : Near (xs ++ [t])) :
    -2 ≤ sint t ∧ sint t ≤ 1 := by
  rw [near_snoc] at h
  exact top_bounds xs t hx (-2) 1 (by linarith [h.1]) (by linarith [h.2])

theorem near_topSmall (xs : List Nat) (t : Nat) (hx : Limbs (xs ++ [t])) (h : Near (xs ++ [t])) :
    TopSmall (xs ++ [t]) := by
  have := near_top xs t hx h
  rw [topSmall_snoc]; omega

theorem mulBx_near (L H : List Nat) (h : Nat) (hx : Limbs (L ++ H ++ [h])) (hL : 1 ≤ L.length)
    (ht : TopSmall (L ++ H ++ [h])) :
    Res (L.length + H.length) (mulBx (L ++ H ++ [h]) H.length) fun y =>
      rval y ≡ rval (L ++ H ++ [h]) * (B : Int) ^ H.length [ZMOD pmod (L.length + H.length)] ∧
      Near y := by
  rw [topSmall_snoc] at ht
  exact (mulBx_spec L H h hx hL (ne_half h (by omega))).mono fun _ _ l _ ⟨c, _, n1, n2⟩ =>
    ⟨c, (near_snoc _ _).mpr (l ▸ ⟨n1, n2⟩)⟩

/-- top limb in [−2^61, 2^61) -/
def Top61 (x : List Nat) : Prop :=
  -2305843009213693952 ≤ sint (top x) ∧ sint (top x) < 2305843009213693952

theorem top61_snoc (xs : List Nat) (h : Nat) :
    Top61 (xs ++ [h]) ↔ -2305843009213693952 ≤ sint h ∧ sint h < 2305843009213693952 := by
  unfold Top61; rw [top_snoc]

theorem mul_2expmod_small (xs : List Nat) (h d : Nat) (hx : Limbs (xs ++ [h])) (hn : 1 ≤ xs.length) (hd : d < 64)
    (ht : Top61 (xs ++ [h])) :
    Res xs.length (mul_2expmod (xs ++ [h]) d) fun y =>
      rval y ≡ rval (xs ++ [h]) * 2 ^ d [ZMOD pmod xs.length] ∧ Top61 y := by
  by_cases hd0 : d = 0
  · subst hd0
    exact ⟨xs, h, by simp [mul_2expmod], rfl, hx, by simp, ht⟩
  · rw [top61_snoc] at ht
    refine (mul_2expmod_spec xs h d hx hn (by omega) (by omega)).mono fun ys g l L ⟨c, b1, b2⟩ =>
      ⟨c, (top61_snoc ys g).mpr ?_⟩
    obtain ⟨q1, q2⟩ := ediv_two_pow_bounds (sint h) 1152921504606846976 (64 - d) (by omega) (by norm_num) (by omega) (by omega)
    have hP := B_le_pow xs.length hn
    rw [← l] at b2 hP
    generalize sint h / 2 ^ (64 - d) = q at *
    have tb := top_bounds ys g L (-1152921504606846978) 1152921504606846977
      (by generalize (B : Int) ^ ys.length = P at *; rw [BZ_eq] at *; linarith)
      (by generalize (B : Int) ^ ys.length = P at *; rw [BZ_eq] at *; linarith)
    omega

theorem mul_2expmod_near (xs : List Nat) (h d : Nat) (hx : Limbs (xs ++ [h])) (hn : 1 ≤ xs.length) (hd : d < 64)
    (hnear : Near (xs ++ [h])) :
    Res xs.length (mul_2expmod (xs ++ [h]) d) fun y =>
      rval y ≡ rval (xs ++ [h]) * 2 ^ d [ZMOD pmod xs.length] ∧ Near y := by
  by_cases hd0 : d = 0
  · subst hd0
    exact ⟨xs, h, by simp [mul_2expmod], rfl, hx, by simp, hnear⟩
  · refine (mul_2expmod_spec xs h d hx hn (by omega) (by omega)).mono fun ys g l _ ⟨c, b1, b2⟩ => ⟨c, ?_⟩
    have tb := near_top xs h hx hnear
    obtain ⟨q1, q2⟩ := ediv_two_pow_bounds (sint h) 1 (64 - d) (by omega) (by norm_num) (by omega) (by omega)
    have hP := B_le_pow xs.length hn
    rw [near_snoc, l]
    generalize (B : Int) ^ xs.length = P at *
    rw [BZ_eq] at b1 b2 hP
    constructor <;> linarith

/-! ### the common tail of the √2 twiddles (adjust_sqrt2.c:66-84) -/

theorem sub_full (A C : List Nat) (h1 h2 : Nat) (hA : Limbs (A ++ [h1])) (hC : Limbs (C ++ [h2]))
    (hl : A.length = C.length) (t1 : TopSmall (A ++ [h1])) (t2 : TopSmall (C ++ [h2])) :
    ∃ us ug, (sub_n (A ++ [h1]) (C ++ [h2])).1 = us ++ [ug] ∧ us.length = A.length ∧ Limbs (us ++ [ug]) ∧
      rval (us ++ [ug]) = rval (A ++ [h1]) - rval (C ++ [h2]) := by
  obtain ⟨_, _, us, ug, _, e2, _, l2, _, ld, _, r2⟩ := sumdiff_full A C h1 h2 hA hC hl t1 t2
  exact ⟨us, ug, e2, l2, ld, r2⟩

theorem half_pow (n : Nat) : (B : Int) ^ (n / 2) * (if n % 2 = 1 then 2 ^ 32 else 1) = 2 ^ (32 * n) := by
  rw [B_pow_two]
  split
  · rw [← pow_add]; congr 1; omega
  · rw [mul_one]; congr 1; omega

/-- the common tail of the √2 twiddles: ±(r·2^(wn/2) − r) -/
theorem sqrt2Tail_spec (xs : List Nat) (h : Nat) (negate : Bool) (hx : Limbs (xs ++ [h])) (hn : 1 ≤ xs.length)
    (ht : TopSmall (xs ++ [h])) :
    ∃ (ys : List Nat) (g : Nat) (T : Int), sqrt2Tail (xs ++ [h]) negate = ys ++ [g] ∧ ys.length = xs.length ∧ Limbs (ys ++ [g]) ∧
      rval (ys ++ [g]) = (if negate then rval (xs ++ [h]) - T else T - rval (xs ++ [h])) ∧
      T ≡ rval (xs ++ [h]) * 2 ^ (32 * xs.length) [ZMOD pmod xs.length] ∧
      -(2 * (B : Int) ^ xs.length) < T ∧ T < 2 * (B : Int) ^ xs.length := by
  obtain ⟨L, H, eLH, lL, lH⟩ := split_at xs (xs.length / 2) (by omega)
  subst eLH
  have hlen : (L ++ H ++ [h]).length - 1 = (L ++ H).length := by simp
  obtain ⟨ms, mg, m1, m2, m3, m4, m5⟩ := mulBx_near L H h hx (by rw [lL]; omega) ht
  rw [lH] at m1
  have hml : ms.length = (L ++ H).length := by rw [m2]; simp
  rw [show L.length + H.length = (L ++ H).length by simp] at m4
  -- the optional half-limb shift
  have hstep : ∃ ts tg, (if (L ++ H).length % 2 = 1 then mul_2expmod (ms ++ [mg]) 32 else ms ++ [mg]) = ts ++ [tg] ∧
      ts.length = (L ++ H).length ∧ Limbs (ts ++ [tg]) ∧ Near (ts ++ [tg]) ∧
      rval (ts ++ [tg]) ≡ rval (L ++ H ++ [h]) * 2 ^ (32 * (L ++ H).length) [ZMOD pmod (L ++ H).length] := by
    have hp := half_pow (L ++ H).length
    by_cases hodd : (L ++ H).length % 2 = 1
    · simp only [hodd, ↓reduceIte] at hp ⊢
      obtain ⟨ts, tg, e, l, Lt, c, nr⟩ := mul_2expmod_near ms mg 32 m3 (by omega) (by norm_num) m5
      refine ⟨ts, tg, e, by rw [l, hml], Lt, nr, ?_⟩
      rw [hml] at c
      refine c.trans ?_
      rw [← hp, ← lH, ← mul_assoc]
      exact m4.mul_right _
    · simp only [hodd, ↓reduceIte] at hp ⊢
      refine ⟨ms, mg, rfl, hml, m3, m5, ?_⟩
      rw [← hp, mul_one, ← lH]; exact m4
  obtain ⟨ts, tg, e, tl, tL, tnear, tc⟩ := hstep
  have tsm := near_topSmall ts tg tL tnear
  rw [near_snoc, tl] at tnear
  unfold sqrt2Tail
  simp only [hlen, m1, e]
  cases negate
  · obtain ⟨us, ug, e2, l2, L2, r2⟩ := sub_full ts (L ++ H) tg h tL hx tl tsm ht
    exact ⟨us, ug, rval (ts ++ [tg]), by simpa using e2, by rw [l2, tl], L2, by simpa using r2, tc, tnear.1, tnear.2⟩
  · obtain ⟨us, ug, e2, l2, L2, r2⟩ := sub_full (L ++ H) ts h tg hx tL tl.symm ht tsm
    exact ⟨us, ug, rval (ts ++ [tg]), by simpa using e2, l2, L2, by simpa using r2, tc, tnear.1, tnear.2⟩

/-! ### mpir_fft_adjust (adjust.c) = the first half of adjust_sqrt2.c -/

theorem near_top61 (xs : List Nat) (t : Nat) (hx : Limbs (xs ++ [t])) (h : Near (xs ++ [t])) : Top61 (xs ++ [t]) := by
  have := near_top xs t hx h
  rw [top61_snoc]; omega

theorem Top61.small {x : List Nat} (h : Top61 x) : TopSmall x := by
  unfold Top61 at h; unfold TopSmall; omega

/-- multiplication by 2^e, e < 64·n: limb rotation by e/64 limbs, then a shift by e%64 bits
    (adjust_sqrt2.c:51-64, the same code as adjust.c:37-51) -/
theorem mulpow_spec (xs : List Nat) (h e : Nat) (hx : Limbs (xs ++ [h])) (he : e < 64 * xs.length)
    (hmin : h ≠ B / 2) :
    Res xs.length (if e / 64 ≠ 0 then mul_2expmod (mulBx (xs ++ [h]) (e / 64)) (e % 64) else mul_2expmod (xs ++ [h]) (e % 64))
      fun y =>
      rval y ≡ rval (xs ++ [h]) * 2 ^ e [ZMOD pmod xs.length] ∧ (Top61 (xs ++ [h]) → Top61 y) := by
  have hn : 1 ≤ xs.length := by omega
  have hd : e % 64 < 64 := Nat.mod_lt _ (by norm_num)
  have hdm := Nat.div_add_mod e 64
  by_cases hX : e / 64 = 0
  · simp only [hX, ne_eq, not_true_eq_false, ↓reduceIte]
    have : e = e % 64 := by omega
    rw [← this]
    by_cases ht : Top61 (xs ++ [h])
    · exact (mul_2expmod_small xs h e hx hn (by omega) ht).mono fun _ _ _ _ p => ⟨p.1, fun _ => p.2⟩
    · exact (mul_2expmod_cong xs h e hx hn (by omega)).mono fun _ _ _ _ p => ⟨p, fun t => absurd t ht⟩
  · simp only [hX, ne_eq, not_false_eq_true, ↓reduceIte]
    obtain ⟨L, H, eLH, lL, lH⟩ := split_at xs (e / 64) (by omega)
    subst eLH
    obtain ⟨ms, mg, m1, m2, m3, m4, _, n1, n2⟩ := mulBx_spec L H h hx (by rw [lL]; omega) hmin
    have m5 : Near (ms ++ [mg]) := (near_snoc _ _).mpr (m2 ▸ ⟨n1, n2⟩)
    rw [lH] at m1
    rw [m1]
    have hml : ms.length = (L ++ H).length := by rw [m2]; simp
    rw [show L.length + H.length = (L ++ H).length by simp] at m4
    obtain ⟨ys, g, h1, h2, h3, h4, h5⟩ := mul_2expmod_near ms mg (e % 64) m3 (by omega) hd m5
    refine ⟨ys, g, h1, by rw [h2, hml], h3, ?_, fun _ => near_top61 ys g h3 h5⟩
    rw [hml] at h4
    refine h4.trans ?_
    rw [two_pow_limbs e, ← mul_assoc, ← lH]
    exact m4.mul_right _

/-- mpir_fft_adjust (adjust.c:31-55) -/
theorem adjust_spec (xs : List Nat) (h i w : Nat) (hx : Limbs (xs ++ [h])) (hiw : i * w < 64 * xs.length)
    (hmin : h ≠ B / 2) :
    Res xs.length (adjust (xs ++ [h]) i w) fun y =>
      rval y ≡ rval (xs ++ [h]) * 2 ^ (i * w) [ZMOD pmod xs.length] :=
  (mulpow_spec xs h (i * w) hx hiw hmin).mono fun _ _ _ _ p => p.1

/-! ### mpir_fft_adjust_sqrt2 (adjust_sqrt2.c) -/

theorem pow_wn (n : Nat) : (2 : Int) ^ (64 * n) ≡ -1 [ZMOD pmod n] := by
  rw [modEq_pmod_iff, ← B_pow_two]; exact ⟨1, by ring⟩

/-- the exponent reduced modulo wn (fft_trunc_sqrt2.c:46-50 and the like): 2^wn ≡ −1 is accounted for by `negate` -/
theorem reduced_exp (b1 n : Nat) : ∃ e, (if b1 ≥ n * 64 then b1 - n * 64 else b1) = e ∧
    ((b1 ≥ n * 64 ∧ e = b1 - 64 * n) ∨ (¬ b1 ≥ n * 64 ∧ e = b1)) := by
  by_cases hneg : b1 ≥ n * 64
  · exact ⟨_, rfl, Or.inl ⟨hneg, by rw [if_pos hneg]; omega⟩⟩
  · exact ⟨_, rfl, Or.inr ⟨hneg, by rw [if_neg hneg]⟩⟩

theorem finish_pos (n b1 : Nat) (X r T : Int) (c : r ≡ X * 2 ^ b1 [ZMOD pmod n]) (tc : T ≡ r * 2 ^ (32 * n) [ZMOD pmod n]) :
    T - r ≡ X * (2 ^ b1 * (2 ^ (32 * n) - 1)) [ZMOD pmod n] := by
  have s1 : T - r ≡ X * 2 ^ b1 * 2 ^ (32 * n) - X * 2 ^ b1 [ZMOD pmod n] := (tc.trans (c.mul_right _)).sub c
  refine s1.trans ?_
  ring_nf; exact Int.ModEq.refl _

theorem finish_neg (n b1 : Nat) (X r T : Int) (hb : 64 * n ≤ b1) (c : r ≡ X * 2 ^ (b1 - 64 * n) [ZMOD pmod n])
    (tc : T ≡ r * 2 ^ (32 * n) [ZMOD pmod n]) :
    r - T ≡ X * (2 ^ b1 * (2 ^ (32 * n) - 1)) [ZMOD pmod n] := by
  have hpow : (2 : Int) ^ b1 = 2 ^ (b1 - 64 * n) * 2 ^ (64 * n) := by
    rw [← pow_add]; congr 1; omega
  have s1 : r - T ≡ X * 2 ^ (b1 - 64 * n) - X * 2 ^ (b1 - 64 * n) * 2 ^ (32 * n) [ZMOD pmod n] :=
    c.sub (tc.trans (c.mul_right _))
  refine s1.trans ?_
  rw [hpow]
  have := (pow_wn n).mul_left (X * 2 ^ (b1 - 64 * n) * (2 ^ (32 * n) - 1))
  refine Int.ModEq.trans ?_ (Int.ModEq.trans this.symm ?_)
  · ring_nf; exact Int.ModEq.refl _
  · ring_nf; exact Int.ModEq.refl _

/-- the tail of a residue with top limb below 2^61 has a small top limb -/
theorem tail_small (rs : List Nat) (rg : Nat) (qs : List Nat) (qg : Nat) (T : Int) (hr : Limbs (rs ++ [rg]))
    (hq : Limbs (qs ++ [qg])) (ql : qs.length = rs.length) (t61 : Top61 (rs ++ [rg]))
    (qv : rval (qs ++ [qg]) = T - rval (rs ++ [rg]) ∨ rval (qs ++ [qg]) = rval (rs ++ [rg]) - T)
    (T1 : -(2 * (B : Int) ^ rs.length) < T) (T2 : T < 2 * (B : Int) ^ rs.length) : TopSmall (qs ++ [qg]) := by
  rw [top61_snoc] at t61
  have rb := rval_bounds rs rg hr (-2305843009213693952) 2305843009213693951 t61.1 (by omega)
  have hP := BZpow_pos rs.length
  rw [← ql] at rb T1 T2 hP
  have tb := top_bounds qs qg hq (-2305843009213693955) 2305843009213693955
    (by rcases qv with h | h <;> rw [h] <;> linarith only [rb.1, rb.2, T1, T2, hP])
    (by rcases qv with h | h <;> rw [h] <;> linarith only [rb.1, rb.2, T1, T2, hP])
  rw [topSmall_snoc]; omega

/-- the tail applied to r ≡ X·2^e, where e is the exponent b1 reduced modulo wn = 64·n and `negate` records the
    reduction: X times the twiddle 2^b1·(2^(wn/2) − 1) -/
theorem sqrt2Tail_twiddle (rs : List Nat) (rg n b1 : Nat) (X : Int) (hL : Limbs (rs ++ [rg])) (hl : rs.length = n)
    (hn : 1 ≤ n) (tsm : TopSmall (rs ++ [rg]))
    (c : rval (rs ++ [rg]) ≡ X * 2 ^ (if b1 ≥ n * 64 then b1 - n * 64 else b1) [ZMOD pmod n]) :
    Res n (sqrt2Tail (rs ++ [rg]) (decide (b1 ≥ n * 64))) fun y =>
      rval y ≡ X * (2 ^ b1 * (2 ^ (32 * n) - 1)) [ZMOD pmod n] ∧
      (Top61 (rs ++ [rg]) → TopSmall y) := by
  subst hl
  by_cases hneg : b1 ≥ rs.length * 64
  · simp only [hneg, decide_true]
    obtain ⟨ys, g, T, e2, l2, L2, r2, tc, T1, T2⟩ := sqrt2Tail_spec rs rg true hL hn tsm
    simp only [↓reduceIte] at r2
    rw [if_pos hneg, Nat.mul_comm] at c
    exact ⟨ys, g, e2, l2, L2, r2 ▸ finish_neg rs.length b1 _ _ T (by omega) c tc,
      fun t61 => tail_small rs rg ys g T hL L2 l2 t61 (Or.inr r2) T1 T2⟩
  · simp only [hneg, decide_false]
    obtain ⟨ys, g, T, e2, l2, L2, r2, tc, T1, T2⟩ := sqrt2Tail_spec rs rg false hL hn tsm
    simp only [Bool.false_eq_true, ↓reduceIte] at r2
    rw [if_neg hneg] at c
    exact ⟨ys, g, e2, l2, L2, r2 ▸ finish_pos rs.length b1 _ _ T c tc,
      fun t61 => tail_small rs rg ys g T hL L2 l2 t61 (Or.inl r2) T1 T2⟩

/-- mpir_fft_adjust_sqrt2: multiplication by 2^(i/2 + wn/4 + i·(w/2))·(2^(wn/2) − 1), wn = 64·n -/
theorem adjust_sqrt2_spec (xs : List Nat) (h i w : Nat) (hx : Limbs (xs ++ [h]))
    (hb : i / 2 + xs.length * 64 / 4 + i * (w / 2) < 2 * (xs.length * 64)) (hn : 1 ≤ xs.length)
    (ht : Top61 (xs ++ [h])) :
    Res xs.length (adjust_sqrt2 (xs ++ [h]) i w) fun y =>
      rval y ≡ rval (xs ++ [h]) * (2 ^ (i / 2 + xs.length * 64 / 4 + i * (w / 2)) * (2 ^ (32 * xs.length) - 1))
        [ZMOD pmod xs.length] := by
  have hlen : (xs ++ [h]).length - 1 = xs.length := by simp
  unfold adjust_sqrt2
  simp only [hlen]
  generalize hb1 : i / 2 + xs.length * 64 / 4 + i * (w / 2) = b1 at *
  obtain ⟨rs, rg, er, l, L, c, tsm⟩ := mulpow_spec xs h (if b1 ≥ xs.length * 64 then b1 - xs.length * 64 else b1) hx
    (by split <;> omega) (ne_half h (by rw [top61_snoc] at ht; omega))
  rw [er]
  obtain ⟨ys, g, e2, l2, L2, r2, _⟩ := sqrt2Tail_twiddle rs rg xs.length b1 _ L l hn (tsm ht).small c
  exact ⟨ys, g, e2, l2, L2, r2⟩

/-! ### the √2 butterflies (fft_trunc_sqrt2.c:34-76, ifft_trunc_sqrt2.c:34-76) -/

/-- top limb in [−2^59, 2^59): the hypothesis of the sqrt2 butterflies (a difference of two such
    residues still has a top limb below 2^61, which a following shift brings back to a few units) -/
def TopTiny (x : List Nat) : Prop :=
  -576460752303423488 ≤ sint (top x) ∧ sint (top x) < 576460752303423488

theorem topTiny_snoc (xs : List Nat) (h : Nat) :
    TopTiny (xs ++ [h]) ↔ -576460752303423488 ≤ sint h ∧ sint h < 576460752303423488 := by
  unfold TopTiny; rw [top_snoc]

theorem TopTiny.top61 {x : List Nat} (h : TopTiny x) : Top61 x := by
  unfold TopTiny at h; unfold Top61; omega

theorem TopTiny.small {x : List Nat} (h : TopTiny x) : TopSmall x := by
  unfold TopTiny at h; unfold TopSmall; omega

/-- mpir_fft_butterfly_sqrt2: (s, t) = (a + b, (a − b)·2^(i/2 + wn/4 + i·(w/2))·(2^(wn/2) − 1)) -/
theorem fft_butterfly_sqrt2_spec (A C : List Nat) (h1 h2 i w : Nat) (hA : Limbs (A ++ [h1])) (hC : Limbs (C ++ [h2]))
    (hl : A.length = C.length) (hn : 1 ≤ A.length)
    (hb : i / 2 + A.length * 64 / 4 + i * (w / 2) < 2 * (A.length * 64))
    (t1 : TopTiny (A ++ [h1])) (t2 : TopTiny (C ++ [h2])) :
    Res A.length (fft_butterfly_sqrt2 (A ++ [h1]) (C ++ [h2]) i w).1
      (fun y => rval y ≡ rval (A ++ [h1]) + rval (C ++ [h2]) [ZMOD pmod A.length]) ∧
    Res A.length (fft_butterfly_sqrt2 (A ++ [h1]) (C ++ [h2]) i w).2
      (fun y => rval y ≡ (rval (A ++ [h1]) - rval (C ++ [h2])) *
        (2 ^ (i / 2 + A.length * 64 / 4 + i * (w / 2)) * (2 ^ (32 * A.length) - 1)) [ZMOD pmod A.length]) := by
  have hlen : (A ++ [h1]).length - 1 = A.length := by simp
  unfold fft_butterfly_sqrt2
  simp only [hlen]
  generalize hb1 : i / 2 + A.length * 64 / 4 + i * (w / 2) = b1 at *
  -- the reduced exponent
  have he64 : (if b1 ≥ A.length * 64 then b1 - A.length * 64 else b1) < 64 * A.length := by split <;> omega
  generalize he : (if b1 ≥ A.length * 64 then b1 - A.length * 64 else b1) = e at he64 ⊢
  have hd : e % 64 < 64 := Nat.mod_lt _ (by norm_num)
  obtain ⟨ss, sg, us, ug, eb, l1, l2, la, ld, r1, r2, t61⟩ :=
    lshB_x0_spec A C h1 h2 (e / 64) hA hC hl (by omega) t1.small t2.small
  rw [topTiny_snoc] at t1 t2
  have t61 := t61 576460752303423488 (by norm_num) t1.1 t1.2 t2.1 t2.2
  obtain ⟨rs, rg, m1, m2, m3, m4, m5⟩ := mul_2expmod_small us ug (e % 64) ld (by omega) hd
    ((top61_snoc _ _).mpr ⟨by omega, by omega⟩)
  have rsm : TopSmall (rs ++ [rg]) := m5.small
  simp only [eb, m1]
  have hr : rval (rs ++ [rg]) ≡ (rval (A ++ [h1]) - rval (C ++ [h2])) * 2 ^ e [ZMOD pmod A.length] := by
    rw [l2] at m4
    refine m4.trans ?_
    rw [two_pow_limbs e, ← mul_assoc]; exact r2.mul_right _
  rw [← he] at hr
  obtain ⟨ts, tg, e2, l3, L3, r3, _⟩ := sqrt2Tail_twiddle rs rg A.length b1 _ m3 (by rw [m2, l2]) hn rsm hr
  rw [e2]
  exact ⟨⟨ss, sg, rfl, l1, la, r1⟩, ts, tg, rfl, l3, L3, r3⟩

/-- undo a division by B^y given as a multiplied congruence: B^y·B^y2 = B^n ≡ −1 -/
theorem unshift (n y y2 : Nat) (hy : y + y2 = n) (t a q : Int)
    (h : t * (B : Int) ^ y ≡ a * (B : Int) ^ y + q [ZMOD pmod n]) :
    t ≡ a - q * (B : Int) ^ y2 [ZMOD pmod n] := by
  rw [modEq_pmod_iff] at h ⊢
  obtain ⟨k, hk⟩ := h
  refine ⟨t - a - k * (B : Int) ^ y2, ?_⟩
  have hP : (B : Int) ^ n = (B : Int) ^ y * (B : Int) ^ y2 := by rw [← pow_add, hy]
  rw [hP] at hk ⊢
  linear_combination (-(B : Int) ^ y2) * hk

theorem mul_2expmod_if (x : List Nat) (d : Nat) : (if d ≠ 0 then mul_2expmod x d else x) = mul_2expmod x d := by
  by_cases h : d = 0
  · subst h; simp [mul_2expmod]
  · simp [h]

/-- the exponent left for the tail when the limb part of the reduced exponent e is taken out of b1: it is reduced to
    e % 64, with the same `negate` -/
theorem tail_exp (b1 n e : Nat) (hn : 1 ≤ n)
    (hcase : (b1 ≥ n * 64 ∧ e = b1 - 64 * n) ∨ (¬ b1 ≥ n * 64 ∧ e = b1)) :
    (b1 - 64 * (e / 64) ≥ n * 64 ↔ b1 ≥ n * 64) ∧
    (if b1 - 64 * (e / 64) ≥ n * 64 then b1 - 64 * (e / 64) - n * 64 else b1 - 64 * (e / 64)) = e % 64 ∧
    b1 = b1 - 64 * (e / 64) + 64 * (e / 64) := by
  refine ⟨by omega, ?_, by omega⟩
  split <;> omega

/-- mpir_ifft_butterfly_sqrt2: (s, t) = (a − b·ω, a + b·ω) with
    ω = 2^(wn − i/2 − i·(w/2) − 1 + wn/4)·(2^(wn/2) − 1), the inverse of the forward twiddle -/
theorem ifft_butterfly_sqrt2_spec (A C : List Nat) (h1 h2 i w : Nat) (hA : Limbs (A ++ [h1])) (hC : Limbs (C ++ [h2]))
    (hl : A.length = C.length) (hn : 1 ≤ A.length)
    (hb : i / 2 + i * (w / 2) + 1 ≤ A.length * 64)
    (t1 : TopTiny (A ++ [h1])) (t2 : TopTiny (C ++ [h2])) :
    Res A.length (ifft_butterfly_sqrt2 (A ++ [h1]) (C ++ [h2]) i w).1
      (fun y => rval y ≡ rval (A ++ [h1]) - rval (C ++ [h2]) *
        (2 ^ (A.length * 64 - i / 2 - i * (w / 2) - 1 + A.length * 64 / 4) * (2 ^ (32 * A.length) - 1))
        [ZMOD pmod A.length]) ∧
    Res A.length (ifft_butterfly_sqrt2 (A ++ [h1]) (C ++ [h2]) i w).2.1
      (fun y => rval y ≡ rval (A ++ [h1]) + rval (C ++ [h2]) *
        (2 ^ (A.length * 64 - i / 2 - i * (w / 2) - 1 + A.length * 64 / 4) * (2 ^ (32 * A.length) - 1))
        [ZMOD pmod A.length]) := by
  have hlen : (A ++ [h1]).length - 1 = A.length := by simp
  unfold ifft_butterfly_sqrt2
  simp only [hlen, mul_2expmod_if]
  generalize hb1 : A.length * 64 - i / 2 - i * (w / 2) - 1 + A.length * 64 / 4 = b1 at *
  have hb1lt : b1 < 2 * (A.length * 64) := by omega
  obtain ⟨e, he, hcase⟩ := reduced_exp b1 A.length
  rw [he]
  have he64 : e < 64 * A.length := by rcases hcase with ⟨_, h⟩ | ⟨_, h⟩ <;> omega
  have hd : e % 64 < 64 := Nat.mod_lt _ (by norm_num)
  have hdm := Nat.div_add_mod e 64
  -- i2·2^d
  obtain ⟨rs, rg, m1, m2, m3, m4, m5⟩ := mul_2expmod_small C h2 (e % 64) hC (by omega) hd t2.top61
  have rsm : TopSmall (rs ++ [rg]) := m5.small
  rw [m1]
  rw [← hl] at m4
  -- the tail sees the exponent without the limb part of e, which butterfly_rshB takes care of
  obtain ⟨hge, hexp, hsum⟩ := tail_exp b1 A.length e hn hcase
  have hpow : (2 : Int) ^ b1 = 2 ^ (b1 - 64 * (e / 64)) * (B : Int) ^ (e / 64) := by
    rw [B_pow_two, ← pow_add, ← hsum]
  rw [show (!decide (¬ b1 ≥ A.length * 64)) = decide (b1 - 64 * (e / 64) ≥ A.length * 64) by
    simp only [decide_not, Bool.not_not]; exact decide_eq_decide.mpr hge.symm]
  rw [← hexp] at m4
  obtain ⟨qs, qg, e3, l3, L3, r3, qsm⟩ := sqrt2Tail_twiddle rs rg A.length _ _ m3 (by rw [m2, hl]) hn rsm m4
  have qsm := qsm m5
  rw [e3]
  obtain ⟨ss, sg, ts, tg, eb, l1, l2, la, lb, r1, r2⟩ :=
    rshB_x0_spec A qs h1 qg (A.length - e / 64) hA L3 l3.symm hn (by omega) t1.small qsm
  have qc : rval (qs ++ [qg]) * (B : Int) ^ (e / 64) ≡
      rval (C ++ [h2]) * (2 ^ b1 * (2 ^ (32 * A.length) - 1)) [ZMOD pmod A.length] := by
    rw [hpow, mul_right_comm ((2 : Int) ^ (b1 - 64 * (e / 64))), ← mul_assoc]
    exact r3.mul_right _
  rw [eb]
  refine ⟨⟨ss, sg, rfl, l1, la, ?_⟩, ts, tg, rfl, l2, lb, ?_⟩
  · have := unshift A.length (A.length - e / 64) (e / 64) (by omega) _ _ _ r1
    exact this.trans ((Int.ModEq.refl _).sub qc)
  · have r2' : rval (ts ++ [tg]) * (B : Int) ^ (A.length - e / 64) ≡
        rval (A ++ [h1]) * (B : Int) ^ (A.length - e / 64) + (-rval (qs ++ [qg])) [ZMOD pmod A.length] := by
      rw [← sub_eq_add_neg]; exact r2
    have := unshift A.length (A.length - e / 64) (e / 64) (by omega) _ _ _ r2'
    rw [neg_mul, sub_neg_eq_add] at this
    exact this.trans ((Int.ModEq.refl _).add qc)

end Mpir.Fft
