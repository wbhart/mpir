/- mpn_gcdext_1 (Euclid variant): the signed-word cofactors never wrap, and the result is
   (gcd, Bezout cofactors) with both cofactors in the mp_limb_signed_t range.
   Also: the executable SPEC helper `xgcd` is a correct extended Euclid. -/
import MpirProofs.Lemmas.Gcd
import Mathlib.Tactic.LinearCombination
import Mathlib.Tactic.NormNum
namespace Mpir.Gcd
open Mpir

theorem wrapS_id (x : Int) (h1 : -(2:Int) ^ 63 ≤ x) (h2 : x < 2 ^ 63) : wrapS x = x := by
  unfold wrapS toSigned
  rw [B_eq]
  push_cast
  have h3 : (0:Int) ≤ x % 18446744073709551616 := Int.emod_nonneg _ (by norm_num)
  have h4 : x % 18446744073709551616 < 18446744073709551616 :=
    Int.emod_lt_of_pos _ (by norm_num)
  split <;> omega

example : wrapS (-9223372036854775808) = -9223372036854775808 := by decide
example : wrapS 9223372036854775807 = 9223372036854775807 := by decide
example : wrapS 9223372036854775808 = -9223372036854775808 := by decide

/-! ### one Euclid step on the cofactor invariants (pure integer arithmetic)

State (a, b, u0, v0, u1, v1) for inputs A, C:
  a = u0 A + v0 C,  b = u1 A + v1 C,  u0 ≥ 0 ≥ v0,  u1 ≤ 0 ≤ v1,
  u0 b - u1 a = C,  v1 a - v0 b = A.
Replacing a by r = a - q b (0 < r < b) and (u0, v0) by (u0 - q u1, v0 - q v1) keeps all of
this, and since b ≥ 2 the new cofactors are bounded by C/2 and A/2. -/

theorem gcdext1_step (A C a b q u0 v0 u1 v1 : Int) (hq : 0 ≤ q)
    (hr0 : 0 < a - q * b) (hrb : a - q * b < b)
    (ha : a = u0 * A + v0 * C) (hb : b = u1 * A + v1 * C)
    (s1 : 0 ≤ u0) (s2 : v0 ≤ 0) (s3 : u1 ≤ 0) (s4 : 0 ≤ v1)
    (d1 : u0 * b - u1 * a = C) (d2 : v1 * a - v0 * b = A)
    (hA : A < 2 ^ 64) (hC : C < 2 ^ 64) :
    a - q * b = (u0 - q * u1) * A + (v0 - q * v1) * C ∧
    0 ≤ u0 - q * u1 ∧ v0 - q * v1 ≤ 0 ∧
    (u0 - q * u1) * b - u1 * (a - q * b) = C ∧
    v1 * (a - q * b) - (v0 - q * v1) * b = A ∧
    u0 - q * u1 < 2 ^ 63 ∧ -(2:Int) ^ 63 ≤ v0 - q * v1 ∧
    wrapS (u0 - q * u1) = u0 - q * u1 ∧ wrapS (v0 - q * v1) = v0 - q * v1 := by
  have e1 : (u0 - q * u1) * b - u1 * (a - q * b) = C := by linear_combination d1
  have e2 : v1 * (a - q * b) - (v0 - q * v1) * b = A := by linear_combination d2
  have hb2 : 2 ≤ b := by omega
  have p1 : q * u1 ≤ 0 := mul_nonpos_of_nonneg_of_nonpos hq s3
  have p2 : 0 ≤ q * v1 := mul_nonneg hq s4
  have n1 : 0 ≤ u0 - q * u1 := by linarith
  have n2 : v0 - q * v1 ≤ 0 := by linarith
  have p3 : u1 * (a - q * b) ≤ 0 := mul_nonpos_of_nonpos_of_nonneg s3 (le_of_lt hr0)
  have p4 : 0 ≤ v1 * (a - q * b) := mul_nonneg s4 (le_of_lt hr0)
  have p5 : (u0 - q * u1) * 2 ≤ (u0 - q * u1) * b := mul_le_mul_of_nonneg_left hb2 n1
  have p6 : (v0 - q * v1) * b ≤ (v0 - q * v1) * 2 := mul_le_mul_of_nonpos_left hb2 n2
  have r1 : u0 - q * u1 < 2 ^ 63 := by norm_num at hC ⊢; linarith
  have r2 : -(2:Int) ^ 63 ≤ v0 - q * v1 := by norm_num at hA ⊢; linarith
  exact ⟨by linear_combination ha - q * hb, n1, n2, e1, e2, r1, r2,
    wrapS_id _ (le_trans (by norm_num) n1) r1, wrapS_id _ r2 (lt_of_le_of_lt n2 (by norm_num))⟩

/-- what mpn_gcdext_1 guarantees beyond the Bezout identity, on inputs A ≠ C -/
def Ext1Bound (A C : Nat) (g : Nat) (u v : Int) : Prop :=
  (0 ≤ u ∧ v ≤ 0 ∧ 2 * (g : Int) * u ≤ C ∧ 2 * (g : Int) * (-v) ≤ A ∧ (2 * (g : Int) * u = C → u = 1)) ∨
  (u ≤ 0 ∧ 0 ≤ v ∧ 2 * (g : Int) * (-u) < C ∧ 2 * (g : Int) * v ≤ A)

theorem sub_div_mul_eq_mod (a b : Nat) : a - a / b * b = a % b := by
  have h1 : a / b * b ≤ a := Nat.div_mul_le_self a b
  have h2 := Nat.div_add_mod a b
  rw [Nat.mul_comm] at h2
  omega

theorem dvd_quot_ge_two {a b : Nat} (hz : a - a / b * b = 0) (hlt : b < a) : 2 ≤ a / b ∧ a = a / b * b :=
  quot_of_mod_zero hlt (sub_div_mul_eq_mod a b ▸ hz)

/-- exit of mpn_gcdext_1 at `divide_by_b` with remainder 0, a = q·b, q ≥ 2: C − 2b|u1| = u0·b + |u1|·b·(q − 2) > 0 and
    A − 2b·v1 = v1·b·(q − 2) + |v0|·b ≥ 0 -/
theorem ext1_exitF (A C a b q u0 v0 u1 v1 : Int) (hq : 2 ≤ q) (hb : 0 < b) (hab : a = q * b)
    (s1 : 1 ≤ u0) (s2 : v0 ≤ 0) (s3 : u1 ≤ 0) (s4 : 1 ≤ v1)
    (d1 : u0 * b - u1 * a = C) (d2 : v1 * a - v0 * b = A) :
    2 * b * (-u1) < C ∧ 2 * b * v1 ≤ A := by
  have t1 : 0 ≤ (-u1) * b * (q - 2) := mul_nonneg (mul_nonneg (neg_nonneg.mpr s3) hb.le) (sub_nonneg.mpr hq)
  have t2 : 0 < u0 * b := mul_pos (zero_lt_one.trans_le s1) hb
  have t3 : 0 ≤ v1 * b * (q - 2) := mul_nonneg (mul_nonneg (zero_le_one.trans s4) hb.le) (sub_nonneg.mpr hq)
  have t4 : 0 ≤ (-v0) * b := mul_nonneg (neg_nonneg.mpr s2) hb.le
  exact ⟨by linear_combination t1 + t2 + d1 + u1 * hab, by linear_combination t3 + t4 + d2 - v1 * hab⟩

/-- the same at `divide_by_a` -/
theorem ext1_exitT (A C a b q u0 v0 u1 v1 : Int) (hq : 2 ≤ q) (ha : 0 < a) (hab : b = q * a)
    (s1 : 1 ≤ u0) (s2 : v0 ≤ 0) (s3 : u1 ≤ 0) (s4 : 1 ≤ v1)
    (d1 : u0 * b - u1 * a = C) (d2 : v1 * a - v0 * b = A) :
    2 * a * u0 ≤ C ∧ 2 * a * (-v0) ≤ A ∧ (2 * a * u0 = C → u1 = 0) := by
  have t1 : 0 ≤ u0 * a * (q - 2) := mul_nonneg (mul_nonneg (zero_le_one.trans s1) ha.le) (sub_nonneg.mpr hq)
  have t2 : 0 ≤ (-u1) * a := mul_nonneg (neg_nonneg.mpr s3) ha.le
  have t3 : 0 ≤ (-v0) * a * (q - 2) := mul_nonneg (mul_nonneg (neg_nonneg.mpr s2) ha.le) (sub_nonneg.mpr hq)
  have t4 : 0 ≤ v1 * a := mul_nonneg (zero_le_one.trans s4) ha.le
  refine ⟨by linear_combination t1 + t2 + d1 - u0 * hab, by linear_combination t3 + t4 + d2 + v0 * hab, fun heq => ?_⟩
  have h0 : (-u1) * a = 0 := le_antisymm (by linear_combination t1 + d1 - heq - u0 * hab) t2
  exact neg_eq_zero.mp ((mul_eq_zero.mp h0).resolve_right ha.ne')

theorem natCast_sub_div_mul (a b : Nat) : ((a - a / b * b : Nat) : Int) = (a : Int) - ((a / b : Nat) : Int) * b := by
  have h : a / b * b ≤ a := Nat.div_mul_le_self a b
  rw [Nat.cast_sub h]; push_cast; rfl

/-- The invariants of `gcdext1_step` in their strict form (u0, v1 ≥ 1): `u0 ≥ 1` is what makes the bound of `Ext1Bound`
    strict at the `divide_by_b` exit. -/
theorem gcdext1Loop_spec (A C : Nat) (hA : A < 2 ^ 64) (hC : C < 2 ^ 64) :
    ∀ (f : Nat) (atB : Bool) (a b : Nat) (u0 v0 u1 v1 : Int),
      0 < a → 0 < b → a + b ≤ f →
      (atB = true → a < b) → (atB = false → b < a) →
      Nat.gcd a b = Nat.gcd A C →
      (a : Int) = u0 * A + v0 * C → (b : Int) = u1 * A + v1 * C →
      1 ≤ u0 → v0 ≤ 0 → u1 ≤ 0 → 1 ≤ v1 → (u1 = 0 → u0 = 1) →
      u0 * b - u1 * a = C → v1 * a - v0 * b = A →
      u0 < 2 ^ 63 → -(2:Int) ^ 63 ≤ v0 → -(2:Int) ^ 63 ≤ u1 → v1 < 2 ^ 63 →
      ∀ r, r = gcdext1Loop f atB a b u0 v0 u1 v1 →
      r.1 = Nat.gcd A C ∧ (A : Int) * r.2.1 + (C : Int) * r.2.2 = Nat.gcd A C ∧
      -(2:Int) ^ 63 ≤ r.2.1 ∧ r.2.1 < 2 ^ 63 ∧ -(2:Int) ^ 63 ≤ r.2.2 ∧ r.2.2 < 2 ^ 63 ∧ Ext1Bound A C r.1 r.2.1 r.2.2
  | 0, atB, a, b, u0, v0, u1, v1 => by intro h1 h2 h3; omega
  | f + 1, false, a, b, u0, v0, u1, v1 => by
    intro ha0 hb0 hf _ hlt hg ea eb s1 s2 s3 s4 sz d1 d2 r1 r2 r3 r4 r hr
    have hlt : b < a := hlt rfl
    have hAi : (A : Int) < 2 ^ 64 := by exact_mod_cast hA
    have hCi : (C : Int) < 2 ^ 64 := by exact_mod_cast hC
    subst hr
    unfold gcdext1Loop
    simp only
    have hmod := sub_div_mul_eq_mod a b
    have hcast := natCast_sub_div_mul a b
    by_cases hz : a - a / b * b = 0
    · rw [if_pos hz]
      have hgb : Nat.gcd a b = b := by
        rw [Nat.gcd_comm]; exact Nat.gcd_eq_left (Nat.dvd_of_mod_eq_zero (by omega))
      obtain ⟨hq2, hab⟩ := dvd_quot_ge_two hz hlt
      obtain ⟨x1, x2⟩ := ext1_exitF A C a b ((a / b : Nat) : Int) u0 v0 u1 v1 (by exact_mod_cast hq2) (by exact_mod_cast hb0)
        (by exact_mod_cast hab) s1 s2 s3 s4 d1 d2
      refine ⟨by rw [← hg, hgb], ?_, r3, lt_of_le_of_lt s3 (by norm_num), le_trans (by norm_num) s4, r4,
        Or.inr ⟨s3, zero_le_one.trans s4, x1, x2⟩⟩
      show (A : Int) * u1 + (C : Int) * v1 = Nat.gcd A C
      rw [← hg, hgb, eb]; ring
    · rw [if_neg hz]
      have hrpos : 0 < a - a / b * b := Nat.pos_of_ne_zero hz
      have hrlt : a - a / b * b < b := by rw [hmod]; exact Nat.mod_lt _ hb0
      have hq : (0:Int) ≤ ((a / b : Nat) : Int) := Int.natCast_nonneg _
      obtain ⟨k1, k2, k3, k4, k5, k6, k7, w1, w2⟩ :=
        gcdext1_step A C a b ((a / b : Nat) : Int) u0 v0 u1 v1 hq
          (by rw [← hcast]; exact_mod_cast hrpos) (by rw [← hcast]; exact_mod_cast hrlt)
          ea eb (zero_le_one.trans s1) s2 s3 (zero_le_one.trans s4) d1 d2 hAi hCi
      rw [w1, w2]
      have p1 : ((a / b : Nat) : Int) * u1 ≤ 0 := mul_nonpos_of_nonneg_of_nonpos hq s3
      refine gcdext1Loop_spec A C hA hC f true (a - a / b * b) b _ _ u1 v1 hrpos hb0
        (by omega) (fun _ => hrlt) (by intro h; cases h) ?_ (by rw [hcast]; exact k1) eb
        (by linear_combination s1 + neg_nonneg.mpr p1) k3 s3 s4 ?_ (by rw [hcast]; exact k4) (by rw [hcast]; exact k5)
        k6 k7 r3 r4 _ rfl
      · rw [hmod, ← hg, Nat.gcd_comm (a % b) b, Nat.gcd_comm a b, Nat.gcd_rec b a]
        exact Nat.gcd_comm _ _
      · intro h0; rw [h0, mul_zero, sub_zero]; exact sz h0
  | f + 1, true, a, b, u0, v0, u1, v1 => by
    intro ha0 hb0 hf hlt _ hg ea eb s1 s2 s3 s4 sz d1 d2 r1 r2 r3 r4 r hr
    have hlt : a < b := hlt rfl
    have hAi : (A : Int) < 2 ^ 64 := by exact_mod_cast hA
    have hCi : (C : Int) < 2 ^ 64 := by exact_mod_cast hC
    subst hr
    unfold gcdext1Loop
    simp only
    have hmod := sub_div_mul_eq_mod b a
    have hcast := natCast_sub_div_mul b a
    by_cases hz : b - b / a * a = 0
    · rw [if_pos hz]
      have hga : Nat.gcd a b = a := Nat.gcd_eq_left (Nat.dvd_of_mod_eq_zero (by omega))
      obtain ⟨hq2, hab⟩ := dvd_quot_ge_two hz hlt
      obtain ⟨x1, x2, x3⟩ := ext1_exitT A C a b ((b / a : Nat) : Int) u0 v0 u1 v1 (by exact_mod_cast hq2) (by exact_mod_cast ha0)
        (by exact_mod_cast hab) s1 s2 s3 s4 d1 d2
      refine ⟨by rw [← hg, hga], ?_, le_trans (by norm_num) (zero_le_one.trans s1), r1, r2, lt_of_le_of_lt s2 (by norm_num),
        Or.inl ⟨zero_le_one.trans s1, s2, x1, x2, fun heq => sz (x3 heq)⟩⟩
      show (A : Int) * u0 + (C : Int) * v0 = Nat.gcd A C
      rw [← hg, hga, ea]; ring
    · rw [if_neg hz]
      have hrpos : 0 < b - b / a * a := Nat.pos_of_ne_zero hz
      have hrlt : b - b / a * a < a := by rw [hmod]; exact Nat.mod_lt _ ha0
      have hq : (0:Int) ≤ ((b / a : Nat) : Int) := Int.natCast_nonneg _
      have hq1 : (1:Int) ≤ ((b / a : Nat) : Int) := by exact_mod_cast Nat.div_pos (le_of_lt hlt) ha0
      -- the mirrored instance: (a,b,u0,v0,u1,v1,A,C) ↦ (b,a,v1,u1,v0,u0,C,A)
      obtain ⟨k1, k2, k3, k4, k5, k6, k7, w2, w1⟩ :=
        gcdext1_step C A b a ((b / a : Nat) : Int) v1 u1 v0 u0 hq
          (by rw [← hcast]; exact_mod_cast hrpos) (by rw [← hcast]; exact_mod_cast hrlt)
          (by rw [eb]; ring) (by rw [ea]; ring) (zero_le_one.trans s4) s3 s2 (zero_le_one.trans s1) d2 d1 hCi hAi
      rw [w1, w2]
      have p1 : ((b / a : Nat) : Int) * v0 ≤ 0 := mul_nonpos_of_nonneg_of_nonpos hq s2
      have p2 : ((b / a : Nat) : Int) * 1 ≤ ((b / a : Nat) : Int) * u0 := mul_le_mul_of_nonneg_left s1 hq
      refine gcdext1Loop_spec A C hA hC f false a (b - b / a * a) u0 v0 _ _ ha0 hrpos
        (by omega) (by intro h; cases h) (fun _ => hrlt) ?_ ea (by rw [hcast, k1]; ring)
        s1 s2 k3 (by linear_combination s4 + neg_nonneg.mpr p1) ?_ (by rw [hcast]; exact k5) (by rw [hcast]; exact k4)
        r1 r2 k7 k6 _ rfl
      · rw [hmod, ← hg, Nat.gcd_comm a (b % a), Nat.gcd_rec a b]
      · -- u1 − q·u0 ≤ −q ≤ −1
        exact fun h0 => absurd h0 (ne_of_lt (by linear_combination s3 + p2 + hq1 + (zero_lt_one : (0 : Int) < 1)))

theorem gcdext_1_ne (a b : Nat) (ha : 0 < a) (hb : 0 < b) (haB : a < B) (hbB : b < B) (hne : a ≠ b) :
    (gcdext_1 a b).1 = Nat.gcd a b ∧
    (a : Int) * (gcdext_1 a b).2.1 + (b : Int) * (gcdext_1 a b).2.2 = Nat.gcd a b ∧
    -(2:Int)^63 ≤ (gcdext_1 a b).2.1 ∧ (gcdext_1 a b).2.1 < 2^63 ∧
    -(2:Int)^63 ≤ (gcdext_1 a b).2.2 ∧ (gcdext_1 a b).2.2 < 2^63 ∧
    Ext1Bound a b (gcdext_1 a b).1 (gcdext_1 a b).2.1 (gcdext_1 a b).2.2 := by
  rw [B_eq] at haB hbB
  exact gcdext1Loop_spec a b (by norm_num; exact haB) (by norm_num; exact hbB)
    (a + b) (decide (a < b)) a b 1 0 0 1 ha hb (le_refl _)
    (by simp) (by simp; omega) rfl (by ring) (by ring)
    (le_refl _) (le_refl _) (le_refl _) (le_refl _) (fun _ => rfl) (by ring) (by ring)
    (by norm_num) (by norm_num) (by norm_num) (by norm_num) _ rfl

theorem gcdext_1_bound (a b : Nat) (ha : 0 < a) (hb : 0 < b) (haB : a < B) (hbB : b < B) (hne : a ≠ b) :
    Ext1Bound a b (gcdext_1 a b).1 (gcdext_1 a b).2.1 (gcdext_1 a b).2.2 :=
  (gcdext_1_ne a b ha hb haB hbB hne).2.2.2.2.2.2

/-- the cofactors fit mp_limb_signed_t, so no intermediate store in the C loop wraps -/
theorem gcdext_1_spec (a b : Nat) (ha : 0 < a) (hb : 0 < b) (haB : a < B) (hbB : b < B) :
    (gcdext_1 a b).1 = Nat.gcd a b ∧
    (a : Int) * (gcdext_1 a b).2.1 + (b : Int) * (gcdext_1 a b).2.2 = Nat.gcd a b ∧
    -(2:Int)^63 ≤ (gcdext_1 a b).2.1 ∧ (gcdext_1 a b).2.1 < 2^63 ∧
    -(2:Int)^63 ≤ (gcdext_1 a b).2.2 ∧ (gcdext_1 a b).2.2 < 2^63 := by
  by_cases hab : a = b
  · -- a = b: one division with quotient 1 and remainder 0
    subst hab
    obtain ⟨f, hf⟩ : ∃ f, a + a = f + 1 := ⟨a + a - 1, by omega⟩
    have e : gcdext_1 a a = (a, 0, 1) := by
      unfold gcdext_1
      rw [hf, show decide (a < a) = false by simp]
      unfold gcdext1Loop
      simp [Nat.div_self ha]
    rw [e, Nat.gcd_self]
    norm_num
  · obtain ⟨h1, h2, h3, h4, h5, h6, _⟩ := gcdext_1_ne a b ha hb haB hbB hab
    exact ⟨h1, h2, h3, h4, h5, h6⟩

example : gcdext_1 240 46 = (2, -9, 47) := by decide
example : gcdext_1 46 240 = (2, 47, -9) := by decide

theorem xgcdAux_spec (a b : Nat) :
    ∀ (f n0 n1 : Nat) (s0 t0 s1 t1 : Int), n1 < f →
      Nat.gcd n0 n1 = Nat.gcd a b →
      (n0 : Int) = (a : Int) * s0 + (b : Int) * t0 →
      (n1 : Int) = (a : Int) * s1 + (b : Int) * t1 →
      (xgcdAux f n0 s0 t0 n1 s1 t1).1 = (Nat.gcd a b : Int) ∧
      (a : Int) * (xgcdAux f n0 s0 t0 n1 s1 t1).2.1
        + (b : Int) * (xgcdAux f n0 s0 t0 n1 s1 t1).2.2 = (Nat.gcd a b : Int)
  | 0, n0, n1, s0, t0, s1, t1 => by intro h; omega
  | f + 1, n0, n1, s0, t0, s1, t1 => by
    intro hf hg e0 e1
    unfold xgcdAux
    by_cases hz : (n1 : Int) = 0
    · rw [if_pos hz]
      have hn : n1 = 0 := by exact_mod_cast hz
      rw [hn, Nat.gcd_zero_right] at hg
      refine ⟨by show (n0 : Int) = _; rw [hg], ?_⟩
      show (a : Int) * s0 + (b : Int) * t0 = _
      rw [← e0, hg]
    · rw [if_neg hz]
      have hn : 0 < n1 := Nat.pos_of_ne_zero (fun h => hz (by rw [h]; rfl))
      have hr : (n0 : Int) - (n0 : Int) / (n1 : Int) * (n1 : Int) = ((n0 % n1 : Nat) : Int) := by
        rw [Int.natCast_mod, Int.emod_def]; ring
      simp only
      rw [hr]
      refine xgcdAux_spec a b f n1 (n0 % n1) s1 t1 _ _ ?_ ?_ e1 ?_
      · have := Nat.mod_lt n0 hn; omega
      · rw [← hg, Nat.gcd_comm n0 n1, Nat.gcd_rec n1 n0, Nat.gcd_comm]
      · rw [← hr, e0, e1]; ring

theorem xgcd_spec (a b : Nat) :
    let r := xgcd a b
    r.1 = Nat.gcd a b ∧ (a : Int) * r.2.1 + (b : Int) * r.2.2 = Nat.gcd a b := by
  intro r
  exact xgcdAux_spec a b (b + 1) a b 1 0 0 1 (Nat.lt_succ_self b) rfl (by ring) (by ring)

example : xgcd 240 46 = (2, -9, 47) := by decide
example : xgcd 0 5 = (5, 0, 1) := by decide

end Mpir.Gcd
