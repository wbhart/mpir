/- mpz_mul on the pointer-level model (Mpir/Model/AliasMul.lean): the mpn_mul_1 arm in place, the basecase shortcut guarded by
   `w != u && w != v`, free + allocate of the destination block with the release postponed when the block is an operand
   (`free_me`), TMP copy of an operand that is the (large enough) destination. -/
import MpirProofs.Lemmas.AliasMemOps
import Mpir.Model.AliasMul
namespace Mpir.AliasMem
open Mpir
open Mpir.DivZ (sizeNat siz sameSign)

theorem Fr.newBlock {s0 s : St} {w : Nat} (f : Fr s0 w s) (n : Nat) : Fr s0 w (s.newBlock w n) := by
  obtain ⟨h1, h2, h3, h4⟩ := f
  have hp : (s.newBlock w n).ptr w = s.next := by simp [St.newBlock, St.setVar, St.malloc, St.ptr]
  refine ⟨fun i hi => ?_, fun p hp hpw => ?_, Nat.le_succ_of_le h3, Or.inr (hp ▸ h3)⟩
  · simp only [St.newBlock, St.setVar, hi, if_false]; exact h1 i hi
  · have e1 : p ≠ s.next := by omega
    simp only [St.newBlock, St.setVar, St.malloc, St.setBlk, e1, if_false]; exact h2 p hp hpw

/-- mpn_mul / mpn_mul_basecase / mpn_sqr into the block of `w`, followed by the size store -/
theorem mul_core_ok {s : St} (h : Inv s) {w : Nat} (hw : w < s.nv) {up vp un vn : Nat} {Ul Vl : List Nat}
    (hlU : s.load up un = .ok Ul) (hlV : s.load vp vn = .ok Vl)
    (hU1 : B ^ (un - 1) ≤ val Ul) (hU2 : val Ul < B ^ un) (hV1 : B ^ (vn - 1) ≤ val Vl) (hV2 : val Vl < B ^ vn)
    (hvn : 1 ≤ vn) (hle : vn ≤ un) (h1 : s.ptr w ≠ up) (h2 : s.ptr w ≠ vp) (ha : un + vn ≤ s.alloc w) (neg : Bool) :
    ∃ r, mpn_mul (s.ptr w) up un vp vn s = .ok r ∧
      Inv (r.2.setSize w (if neg then -((un + vn - (if r.1 = 0 then 1 else 0) : Nat) : Int) else ((un + vn - (if r.1 = 0 then 1 else 0) : Nat) : Int))) ∧
      Upd s (r.2.setSize w (if neg then -((un + vn - (if r.1 = 0 then 1 else 0) : Nat) : Int) else ((un + vn - (if r.1 = 0 then 1 else 0) : Nat) : Int))) w ∧
      (r.2.setSize w (if neg then -((un + vn - (if r.1 = 0 then 1 else 0) : Nat) : Int) else ((un + vn - (if r.1 = 0 then 1 else 0) : Nat) : Int))).value w =
        (if neg then -((val Ul * val Vl : Nat) : Int) else ((val Ul * val Vl : Nat) : Int)) := by
  obtain ⟨bw, hbw, hbwl, hbwL⟩ := h.live w hw
  obtain ⟨hP1, hP2⟩ := mul_size_bounds (by omega) hvn hU1 hU2 hV1 hV2
  have hsz := mul_size hP1 hP2 (by omega)
  unfold mpn_mul
  have hc : ¬ (s.ptr w = up ∨ s.ptr w = vp) := by tauto
  have hs : ¬ ¬ (1 ≤ vn ∧ vn ≤ un) := by omega
  simp only [bind, Except.bind, hc, if_false, hlU, hlV, hs, pure, Except.pure]
  rw [store_blk hbw (by rw [toLimbs_length]; omega)]
  simp only [toLimbs_length]
  refine ⟨_, rfl, ?_⟩
  simp only []
  rw [← hsz]
  have p := put_upd h hw (toLimbs (un + vn) (val Ul * val Vl) ++ bw.drop (un + vn)) (val Ul * val Vl) neg
    (by rw [length_wr' (by omega)]; exact hbwl) (Limbs_wr' (Limbs_toLimbs _ _) hbwL)
    (by rw [hsz]; omega) (val_take_wr _ (by rw [hsz]; omega))
  exact p

theorem mul_sign (a b : Int) (m n : Nat) :
    (if (!decide (sameSign a b)) = true then -((m * n : Nat) : Int) else ((m * n : Nat) : Int)) = sgnv a m * sgnv b n := by
  unfold sameSign sgnv
  by_cases ha : a < 0 <;> by_cases hb : b < 0 <;> simp [ha, hb]

theorem toLimbs_snoc (n P : Nat) (hP : P < B ^ (n + 1)) : toLimbs n P ++ [P / B ^ n] = toLimbs (n + 1) P := by
  rw [Mpir.toLimbs_snoc, Nat.mod_eq_of_lt (Nat.div_lt_of_lt_mul (by rw [← pow_succ]; exact hP))]

/-- `wp[usize] = cy_limb` after mpn_mul_1 (mul.c:73-74) -/
theorem wrAt_carry (n P : Nat) (bw : List Nat) (hP : P < B ^ (n + 1)) :
    wrAt (toLimbs n P ++ bw.drop n) n [P / B ^ n] = toLimbs (n + 1) P ++ bw.drop (n + 1) := by
  unfold wrAt
  rw [List.take_left' (toLimbs_length _ _), toLimbs_snoc n P hP]
  congr 1
  simp only [List.length_cons, List.length_nil, Nat.zero_add]
  rw [List.drop_append, toLimbs_length]
  simp [List.drop_of_length_le, toLimbs_length]

theorem opnd {s : St} (h : Inv s) {u : Nat} (hu : u < s.nv) (hz : s.size u ≠ 0) :
    s.load (s.ptr u) (s.size u).natAbs = .ok (s.limbs u) ∧ B ^ ((s.size u).natAbs - 1) ≤ val (s.limbs u) ∧
      val (s.limbs u) < B ^ (s.size u).natAbs :=
  ⟨h.load_var hu, h.mag_ge hu hz, h.mag_lt hu⟩

theorem mul_value (s : St) (u v : Nat) :
    (if (!decide (sameSign (s.size u) (s.size v))) = true then -((s.mag u * s.mag v : Nat) : Int) else ((s.mag u * s.mag v : Nat) : Int))
      = s.value u * s.value v := by
  rw [mul_sign, value_eq_sgnv, value_eq_sgnv]

/-- mul.c:83-103: the basecase shortcut, entered only when w is neither operand -/
theorem mulSmall_ok {s : St} (h : Inv s) {w u v : Nat} (hw : w < s.nv) (hu : u < s.nv) (hv : v < s.nv)
    (hwu : w ≠ u) (hwv : w ≠ v) (hzu : s.size u ≠ 0) (hzv : s.size v ≠ 0) (neg : Bool) :
    ∃ r, (if (s.size v).natAbs ≤ (s.size u).natAbs then
            mpn_mul ((s.mpzRealloc w ((s.size u).natAbs + (s.size v).natAbs)).ptr w)
              ((s.mpzRealloc w ((s.size u).natAbs + (s.size v).natAbs)).ptr u) (s.size u).natAbs
              ((s.mpzRealloc w ((s.size u).natAbs + (s.size v).natAbs)).ptr v) (s.size v).natAbs
              (s.mpzRealloc w ((s.size u).natAbs + (s.size v).natAbs))
          else
            mpn_mul ((s.mpzRealloc w ((s.size u).natAbs + (s.size v).natAbs)).ptr w)
              ((s.mpzRealloc w ((s.size u).natAbs + (s.size v).natAbs)).ptr v) (s.size v).natAbs
              ((s.mpzRealloc w ((s.size u).natAbs + (s.size v).natAbs)).ptr u) (s.size u).natAbs
              (s.mpzRealloc w ((s.size u).natAbs + (s.size v).natAbs))) = .ok r ∧
      Post s (r.2.setSize w (if neg then -(((s.size u).natAbs + (s.size v).natAbs - (if r.1 = 0 then 1 else 0) : Nat) : Int)
          else (((s.size u).natAbs + (s.size v).natAbs - (if r.1 = 0 then 1 else 0) : Nat) : Int))) w
        (if neg then -((s.mag u * s.mag v : Nat) : Int) else ((s.mag u * s.mag v : Nat) : Int)) := by
  obtain ⟨i1, k1, a1⟩ := realloc_same h hw ((s.size u).natAbs + (s.size v).natAbs)
  have fr1 : Fr s w (s.mpzRealloc w ((s.size u).natAbs + (s.size v).natAbs)) := (Fr.refl s w).realloc _
  generalize s.mpzRealloc w ((s.size u).natAbs + (s.size v).natAbs) = s1 at *
  have hw1 : w < s1.nv := k1.lt hw
  have hu1 : u < s1.nv := k1.lt hu
  have hv1 : v < s1.nv := k1.lt hv
  obtain ⟨lu, u1, u2⟩ := opnd i1 hu1 (by rw [k1.size]; exact hzu)
  obtain ⟨lv, v1, v2⟩ := opnd i1 hv1 (by rw [k1.size]; exact hzv)
  rw [k1.size] at lu u1 u2 lv v1 v2
  have hpu : s1.ptr w ≠ s1.ptr u := fun e => hwu (i1.inj w u hw1 hu1 e)
  have hpv : s1.ptr w ≠ s1.ptr v := fun e => hwv (i1.inj w v hw1 hv1 e)
  have hmu : val (s1.limbs u) = s.mag u := mag_of_value (k1.value hu)
  have hmv : val (s1.limbs v) = s.mag v := mag_of_value (k1.value hv)
  have hv0 : 1 ≤ (s.size v).natAbs := by omega
  have hu0 : 1 ≤ (s.size u).natAbs := by omega
  by_cases hle : (s.size v).natAbs ≤ (s.size u).natAbs
  · rw [if_pos hle]
    obtain ⟨r, hr, ir, ur, vr⟩ := mul_core_ok i1 hw1 lu lv u1 u2 v1 v2 hv0 hle hpu hpv a1 neg
    exact ⟨r, hr, ir, ur.nv.trans k1.nv, fr1.upd ur, by rw [vr, hmu, hmv], fun i => Nat.le_trans (k1.alloc i) (Nat.le_of_eq (ur.alloc i).symm)⟩
  · rw [if_neg hle]
    obtain ⟨r, hr, ir, ur, vr⟩ := mul_core_ok i1 hw1 lv lu v1 v2 u1 u2 hu0 (by omega) hpv hpu (by omega) neg
    rw [Nat.add_comm (s.size v).natAbs] at ir ur vr
    exact ⟨r, hr, ir, ur.nv.trans k1.nv, fr1.upd ur, by rw [vr, hmu, hmv, Nat.mul_comm],
      fun i => Nat.le_trans (k1.alloc i) (Nat.le_of_eq (ur.alloc i).symm)⟩

/-- mul.c:111-152 -/
theorem mulPrep_ok {s : St} (h : Inv s) {w u v : Nat} (hw : w < s.nv) (hu : u < s.nv) (hv : v < s.nv) :
    ∃ wp up vp fm tmp s1, mulPrep .c w u v (s.size u).natAbs (s.size v).natAbs s = .ok (wp, up, vp, fm, tmp, s1) ∧
      Inv s1 ∧ s1.nv = s.nv ∧ wp = s1.ptr w ∧ (s.size u).natAbs + (s.size v).natAbs ≤ s1.alloc w ∧
      s1.load up (s.size u).natAbs = .ok (s.limbs u) ∧ s1.load vp (s.size v).natAbs = .ok (s.limbs v) ∧
      wp ≠ up ∧ wp ≠ vp ∧ (∀ i, i < s.nv → i ≠ w → s1.value i = s.value i) ∧
      (∀ p, p ∈ fm ++ tmp → ∀ i, i < s.nv → s1.ptr i ≠ p) ∧
      Fr s w s1 ∧ (∀ i, s.alloc i ≤ s1.alloc i) ∧ (∀ p, p ∈ fm ++ tmp → p = s.ptr w ∨ s.next ≤ p) := by
  have hlu := h.load_var hu
  have hlv := h.load_var hv
  by_cases hlt : s.alloc w < (s.size u).natAbs + (s.size v).natAbs
  · by_cases hop : s.ptr w = s.ptr u ∨ s.ptr w = s.ptr v
    · -- the block of w is an operand: new block now, the old one is released after the product (free_me)
      obtain ⟨i1, nv1, size1, val1, aV, aO, pV, pO, nx, bO, bN⟩ := newBlock_spec h hw _ hlt
      refine ⟨s.next, s.ptr u, s.ptr v, [s.ptr w], [], s.newBlock w ((s.size u).natAbs + (s.size v).natAbs), ?_, i1, nv1, pV.symm,
        by rw [aV], ?_, ?_, Ne.symm (Nat.ne_of_lt (h.lt u hu)), Ne.symm (Nat.ne_of_lt (h.lt v hv)), val1, ?_,
        (Fr.refl s w).newBlock _, fun i => (by
          by_cases e : i = w
          · rw [e, aV]; omega
          · rw [aO i e]), fun p hp => Or.inl (by simpa using hp)⟩
      · simp [mulPrep, MulVariant.c, hlt, hop, pV, pure, Except.pure]
      · rw [load_eq_of_blk (bO _ (Nat.ne_of_lt (h.lt u hu)))]; exact hlu
      · rw [load_eq_of_blk (bO _ (Nat.ne_of_lt (h.lt v hv)))]; exact hlv
      · intro p hp i hi
        simp at hp; subst hp
        by_cases hiw : i = w
        · rw [hiw, pV]; exact Ne.symm (Nat.ne_of_lt (h.lt w hw))
        · rw [pO i hiw]; exact fun e => hiw (h.inj i w hi hw e)
    · -- w is neither operand: free, then allocate
      have hwu : w ≠ u := fun e => hop (Or.inl (by rw [e]))
      have hwv : w ≠ v := fun e => hop (Or.inr (by rw [e]))
      obtain ⟨i1, nv1, size1, val1, aV, aO, pV, pO, nx, bO⟩ := freshBlock_spec h hw _ hlt
      have hnu : s.ptr u ≠ s.ptr w := fun e => hwu (h.inj u w hu hw e).symm
      have hnv : s.ptr v ≠ s.ptr w := fun e => hwv (h.inj v w hv hw e).symm
      refine ⟨s.next, s.ptr u, s.ptr v, [], [], s.freshBlock w ((s.size u).natAbs + (s.size v).natAbs), ?_, i1, nv1, pV.symm,
        by rw [aV], ?_, ?_, Ne.symm (Nat.ne_of_lt (h.lt u hu)), Ne.symm (Nat.ne_of_lt (h.lt v hv)), val1, by simp,
        (Fr.refl s w).freshBlock _, fun i => (by
          by_cases e : i = w
          · rw [e, aV]; omega
          · rw [aO i e]), fun p hp => by simp at hp⟩
      · simp [mulPrep, MulVariant.c, hlt, hop, free_newBlock, pV, pure, Except.pure]
      · rw [load_eq_of_blk (bO _ (Nat.ne_of_lt (h.lt u hu)) hnu)]; exact hlu
      · rw [load_eq_of_blk (bO _ (Nat.ne_of_lt (h.lt v hv)) hnv)]; exact hlv
  · have ha : (s.size u).natAbs + (s.size v).natAbs ≤ s.alloc w := by omega
    have hls_u := (h.limbs_spec hu).1
    have hls_v := (h.limbs_spec hv).1
    by_cases hwu : s.ptr w = s.ptr u
    · -- w is u (and large enough): TMP copy of u; v keeps pointing to the same limbs as u when it is u too
      have i1 : Inv (s.malloc (s.limbs u)).2 := malloc_inv h _
      have x1 : Ext s (s.malloc (s.limbs u)).2 := malloc_ext h _
      have hnew : (s.malloc (s.limbs u)).2.load s.next (s.size u).natAbs = .ok (s.limbs u) := by
        have := load_of_blk (malloc_blk_new s (s.limbs u)); rwa [hls_u] at this
      refine ⟨s.ptr w, s.next, (if s.ptr w = s.ptr v then s.next else s.ptr v), [], [s.next], (s.malloc (s.limbs u)).2, ?_, i1, x1.nv,
        (x1.ptr w).symm, by rw [x1.alloc]; exact ha, hnew, ?_, Nat.ne_of_lt (h.lt w hw), ?_, fun i hi _ => x1.value h hi, ?_,
        (Fr.refl s w).malloc _, fun i => Nat.le_of_eq (x1.alloc i).symm,
        fun p hp => Or.inr (by simp at hp; omega)⟩
      · have e : s.load (s.ptr w) (s.size u).natAbs = .ok (s.limbs u) := by rw [hwu]; exact hlu
        simp [mulPrep, MulVariant.c, hlt, hwu, St.tmpCopy, bind, Except.bind, hlu, pure, Except.pure, St.malloc]
      · by_cases hwv : s.ptr w = s.ptr v
        · rw [if_pos hwv]
          have : v = u := h.inj v u hv hu (by rw [← hwv, hwu])
          rw [this]; exact hnew
        · rw [if_neg hwv]; exact x1.load hlv
      · by_cases hwv : s.ptr w = s.ptr v
        · rw [if_pos hwv]; exact Nat.ne_of_lt (h.lt w hw)
        · rw [if_neg hwv]; exact hwv
      · intro p hp i hi
        simp at hp; subst hp
        rw [x1.ptr]; exact Nat.ne_of_lt (h.lt i hi)
    · by_cases hwv : s.ptr w = s.ptr v
      · -- w is v: TMP copy of v
        have i1 : Inv (s.malloc (s.limbs v)).2 := malloc_inv h _
        have x1 : Ext s (s.malloc (s.limbs v)).2 := malloc_ext h _
        have hnew : (s.malloc (s.limbs v)).2.load s.next (s.size v).natAbs = .ok (s.limbs v) := by
          have := load_of_blk (malloc_blk_new s (s.limbs v)); rwa [hls_v] at this
        refine ⟨s.ptr w, s.ptr u, s.next, [], [s.next], (s.malloc (s.limbs v)).2, ?_, i1, x1.nv,
          (x1.ptr w).symm, by rw [x1.alloc]; exact ha, x1.load hlu, hnew, hwu, Nat.ne_of_lt (h.lt w hw), fun i hi _ => x1.value h hi, ?_,
          (Fr.refl s w).malloc _, fun i => Nat.le_of_eq (x1.alloc i).symm,
          fun p hp => Or.inr (by simp at hp; omega)⟩
        · have e : s.load (s.ptr w) (s.size v).natAbs = .ok (s.limbs v) := by rw [hwv]; exact hlv
          have hwu' : ¬ s.ptr v = s.ptr u := by rw [← hwv]; exact hwu
          simp [mulPrep, MulVariant.c, hlt, hwu', hwv, St.tmpCopy, bind, Except.bind, hlv, pure, Except.pure, St.malloc]
        · intro p hp i hi
          simp at hp; subst hp
          rw [x1.ptr]; exact Nat.ne_of_lt (h.lt i hi)
      · -- all blocks distinct and w large enough: nothing to do
        refine ⟨s.ptr w, s.ptr u, s.ptr v, [], [], s, ?_, h, rfl, rfl, ha, hlu, hlv, hwu, hwv, fun _ _ _ => rfl, by simp,
          Fr.refl s w, fun _ => Nat.le_refl _, fun p hp => by simp at hp⟩
        simp [mulPrep, MulVariant.c, hlt, hwu, hwv, pure, Except.pure]

theorem foldl_free_ptr (l : List Nat) (X : St) (i : Nat) : (l.foldl St.free X).ptr i = X.ptr i := by
  unfold St.ptr; rw [foldl_free_vars]

/-- mul.c:111-166 -/
theorem mulBig_ok {s : St} (h : Inv s) {w u v : Nat} (hw : w < s.nv) (hu : u < s.nv) (hv : v < s.nv)
    (hzu : s.size u ≠ 0) (hzv : s.size v ≠ 0) (hle : (s.size v).natAbs ≤ (s.size u).natAbs) (neg : Bool) :
    ∃ s', mulBig .c w u v (s.size u).natAbs (s.size v).natAbs neg s = .ok s' ∧
      Post s s' w (if neg then -((s.mag u * s.mag v : Nat) : Int) else ((s.mag u * s.mag v : Nat) : Int)) := by
  obtain ⟨wp, up, vp, fm, tmp, s1, hprep, i1, nv1, hwp, ha, hlU, hlV, h1, h2, hval, hfree, hfr, hal, hmem⟩ :=
    mulPrep_ok h hw hu hv
  subst hwp
  have hw1 : w < s1.nv := by rw [nv1]; exact hw
  obtain ⟨r, hr, ir, ur, vr⟩ := mul_core_ok i1 hw1 hlU hlV (h.mag_ge hu hzu) (h.mag_lt hu) (h.mag_ge hv hzv) (h.mag_lt hv)
    (by omega) hle h1 h2 ha neg
  unfold mulBig
  simp only [bind, Except.bind, pure, Except.pure, hprep, hr]
  generalize r.2.setSize w (if neg = true then -((((s.size u).natAbs + (s.size v).natAbs - if r.1 = 0 then 1 else 0) : Nat) : Int)
      else ((((s.size u).natAbs + (s.size v).natAbs - if r.1 = 0 then 1 else 0) : Nat) : Int)) = X at *
  have nvX : X.nv = s.nv := by rw [ur.nv, nv1]
  obtain ⟨j1, m1, w1⟩ := free_list_inv fm ir (fun p hp i hi => by
    rw [ur.ptr]; exact hfree p (List.mem_append_left _ hp) i (by rw [nvX] at hi; exact hi))
  obtain ⟨j2, m2, w2⟩ := free_list_inv tmp j1 (fun p hp i hi => by
    rw [foldl_free_ptr, ur.ptr]; exact hfree p (List.mem_append_right _ hp) i (by rw [m1, nvX] at hi; exact hi))
  refine ⟨_, rfl, j2, by rw [m2, m1, nvX],
    Fr.free_list tmp (Fr.free_list fm (hfr.upd ur) fun p hp => hmem p (List.mem_append_left _ hp))
      fun p hp => hmem p (List.mem_append_right _ hp), ?_, fun i => ?_⟩
  · rw [w2 w (by rw [m1, nvX]; exact hw), w1 w (by rw [nvX]; exact hw), vr]; rfl
  · show s.alloc i ≤ ((tmp.foldl St.free (fm.foldl St.free X)).vars i).alloc
    rw [foldl_free_vars, foldl_free_vars]
    exact Nat.le_trans (hal i) (Nat.le_of_eq (ur.alloc i).symm)

/-- `cy = mpn_mul_1 (wp, up, n, y); wp[n] = cy; SIZ (w) = ± (n + (cy != 0))` (mul.c:73-76, lcm.c:59-62) when `w` has room
    for `n + 1` limbs; `up` may be `wp` -/
theorem mul1_carry_ok {s : St} (h : Inv s) {w : Nat} (hw : w < s.nv) {up n y : Nat} {U : List Nat}
    (hU : s.load up n = .ok U) (oU : NormOp U n) (hy1 : 1 ≤ y) (hyB : y < B) (ha : n + 1 ≤ s.alloc w) (neg : Bool) :
    ∃ s', (do
        let r ← mpn_mul_1 (s.ptr w) up n y s
        let X ← r.2.storeAt (s.ptr w) n [r.1]
        pure (X.setSize w (if neg then -((n + (if r.1 ≠ 0 then 1 else 0) : Nat) : Int)
          else ((n + (if r.1 ≠ 0 then 1 else 0) : Nat) : Int))) : R St) = .ok s' ∧
      Inv s' ∧ Upd s s' w ∧ s'.value w = if neg then -((val U * y : Nat) : Int) else ((val U * y : Nat) : Int) := by
  obtain ⟨bw, hbw, hbwl, -⟩ := h.live w hw
  have hn1 := oU.pos
  have hP2 : val U * y < B ^ (n + 1) := by
    rw [pow_succ]; exact Nat.mul_lt_mul'' oU.lt hyB
  have hP1 : B ^ (n + 1 - 2) ≤ val U * y := by
    rw [show n + 1 - 2 = n - 1 by omega]
    exact Nat.le_trans oU.ge (Nat.le_mul_of_pos_right _ hy1)
  have hsz := mul_size hP1 hP2 (by omega)
  simp only [Nat.add_sub_cancel] at hsz
  have hn : n + (if val U * y / B ^ n ≠ 0 then 1 else 0) = sizeNat (val U * y) := by
    rw [hsz]; by_cases e : val U * y / B ^ n = 0 <;> simp [e]
  obtain ⟨i1, u1, v1⟩ := put_toLimbs h hw hbw (n + 1) (val U * y)
    (if neg then -(sizeNat (val U * y) : Int) else (sizeNat (val U * y) : Int)) ha hP2 (natAbs_ite_neg _ _)
  refine ⟨_, ?_, i1, u1, v1.trans (sgnv_ofBool neg _ _ DivZ.sizeNat_eq_zero.mp)⟩
  unfold mpn_mul_1
  have hs : ¬ ¬ (1 ≤ n ∧ y < B) := not_not_intro ⟨hn1, hyB⟩
  simp only [bind, Except.bind, hs, if_false, hU, pure, Except.pure]
  rw [store_blk hbw (by rw [toLimbs_length]; omega)]
  simp only [toLimbs_length]
  rw [storeAt_ok (setBlk_blk_self _ _ _) (by simp [toLimbs_length]; omega), setBlk_setBlk,
    wrAt_carry _ _ bw hP2, hn]
  rfl

/-- mul.c:69-78 -/
theorem mulOne_ok {s : St} (h : Inv s) {w u v : Nat} (hw : w < s.nv) (hu : u < s.nv) (hv : v < s.nv)
    (hzu : s.size u ≠ 0) (hv1 : (s.size v).natAbs = 1) (neg : Bool) :
    ∃ s', mulOne w u v (s.size u).natAbs neg s = .ok s' ∧
      Post s s' w (if neg then -((s.mag u * s.mag v : Nat) : Int) else ((s.mag u * s.mag v : Nat) : Int)) := by
  obtain ⟨i1, k, a1⟩ := realloc_same h hw ((s.size u).natAbs + 1)
  have fr1 : Fr s w (s.mpzRealloc w ((s.size u).natAbs + 1)) := (Fr.refl s w).realloc _
  unfold mulOne
  simp only [bind, Except.bind, pure, Except.pure]
  generalize s.mpzRealloc w ((s.size u).natAbs + 1) = s1 at *
  obtain ⟨bv, hbv, hbvl, hbvL⟩ := i1.live v (k.lt hv)
  have hfv := i1.fits v (k.lt hv); rw [k.size, hv1] at hfv
  have hmv : s.mag v = bv.getD 0 0 := by
    rw [← k.mag hv]; exact mag_one_limb hbv (by rw [k.size]; exact hv1) (by omega)
  have hx0 : 1 ≤ bv.getD 0 0 := by
    have := h.mag_ge hv (by omega); rw [hv1, hmv] at this; simpa using this
  rw [limbAt_of_blk hbv (by omega)]; simp only []
  obtain ⟨s', e', i', u', v'⟩ := mul1_carry_ok i1 (k.lt hw) (k.load i1 hu) (h.normOp hu hzu) hx0 (getD_lt hbvL 0) a1 neg
  simp only [bind, Except.bind, pure, Except.pure] at e'
  exact ⟨s', e', Post.of_same_upd k fr1 u' i' (by rw [v', hmv]; rfl)⟩

theorem mpz_mul_post {s : St} (h : Inv s) {w u v : Nat} (hw : w < s.nv) (hu : u < s.nv) (hv : v < s.nv) :
    Ok (mpz_mul w u v s) (fun s' => Post s s' w (s.value u * s.value v)) := by
  rw [← mul_value]
  unfold mpz_mul mpz_mulV
  simp only [MulVariant.c, bind, Except.bind, pure, Except.pure, forall_const]
  by_cases hz : (s.size u).natAbs = 0 ∨ (s.size v).natAbs = 0
  · rw [if_pos hz]
    obtain ⟨i1, u1, v1⟩ := setSize_zero_spec h hw
    have hm0 : s.mag u * s.mag v = 0 := by
      rcases hz with e | e
      · rw [h.mag_zero hu (by omega)]; simp
      · rw [h.mag_zero hv (by omega)]; simp
    exact ⟨_, rfl, Post.of_same_upd (Same.refl s) (Fr.refl s w) u1 i1 (by rw [v1, hm0]; simp)⟩
  · rw [if_neg hz]
    have hzu : s.size u ≠ 0 := by omega
    have hzv : s.size v ≠ 0 := by omega
    by_cases h1 : (s.size v).natAbs = 1
    · rw [if_pos h1]
      exact mulOne_ok h hw hu hv hzu h1 (!decide (sameSign (s.size u) (s.size v)))
    · rw [if_neg h1]
      by_cases hsm : (s.size u).natAbs + (s.size v).natAbs ≤ mulKaratsubaThreshold ∧ w ≠ u ∧ w ≠ v
      · rw [if_pos hsm]
        obtain ⟨r, hr, p⟩ := mulSmall_ok h hw hu hv hsm.2.1 hsm.2.2 hzu hzv (!decide (sameSign (s.size u) (s.size v)))
        rw [hr]; exact ⟨_, rfl, p⟩
      · rw [if_neg hsm]
        by_cases hsw : (s.size u).natAbs < (s.size v).natAbs
        · rw [if_pos hsw, Nat.mul_comm (s.mag u)]
          exact mulBig_ok h hw hv hu hzv hzu (by omega) (!decide (sameSign (s.size u) (s.size v)))
        · rw [if_neg hsw]
          exact mulBig_ok h hw hu hv hzu hzv (by omega) (!decide (sameSign (s.size u) (s.size v)))

theorem mpz_mul_ok {s : St} (h : Inv s) {w u v : Nat} (hw : w < s.nv) (hu : u < s.nv) (hv : v < s.nv) :
    ∃ s', mpz_mul w u v s = .ok s' ∧ Res s s' w (s.value u * s.value v) :=
  (mpz_mul_post h hw hu hv).mono fun _ p => p.res h hw

theorem Vals.mul {n : Nat} {f : Nat → Int} {s : St} (V : Vals n f s) {w u v : Nat} (hw : w < n) (hu : u < n) (hv : v < n) :
    Ok (mpz_mul w u v s) (Vals n (Function.update f w (f u * f v))) := by
  rw [← V.val u hu, ← V.val v hv]
  exact V.step (mpz_mul_ok V.inv (V.lt hw) (V.lt hu) (V.lt hv))

end Mpir.AliasMem
