/- The "numerator less than twice the denominator" branch of mpn_tdiv_qr: its arithmetic on natural numbers, then the branch assembled. -/

import Mathlib.Tactic.Ring
import Mathlib.Tactic.Linarith
import Mathlib.Tactic.LinearCombination
import MpirProofs.Lemmas.TdivQrLt2Steps

/- tdiv_qr.c:155-369 on natural numbers.  Notation.  N, D: dividend and divisor.  W·c = B·Bi with c = 2^cnt, Bi = B^(in-1): the truncation unit, so that
   N = n2·W + nl, D = d2·W + dl with nl, dl < W, where n2 (2qn limbs) and d2 (qn limbs, normalised) are the extracted
   operands.  q1 = ⌊n2/d2⌋, r1 = n2 mod d2 is the approximate quotient; K = B^(qn-1); qt, rt are the top limbs of q1, r1;
   x is the first ignored limb of the normalised divisor (x·Bi ≤ dl·c < (x+1)·Bi) and h = ⌊x·qt/B⌋.
   "q is at most one too large and not too small" is written  q·D ≤ N + D ∧ N < q·D + D. -/

namespace Mpir.TdivQr

/-- the identity behind every step -/
theorem lt2_identity (N D W n2 d2 nl dl q r : Nat) (hN : N = n2 * W + nl) (hD : D = d2 * W + dl) (hq : n2 = q * d2 + r) :
    N + q * dl = q * D + r * W + nl := by
  subst hN hD hq; ring

/-- the estimate is never too small (tdiv_qr.c:171 "This is either the correct quotient, but might be 1 or 2 too large") -/
theorem lt2_upper (N D W n2 d2 nl dl q r : Nat) (hN : N = n2 * W + nl) (hD : D = d2 * W + dl) (hq : n2 = q * d2 + r)
    (hr : r < d2) (hnl : nl < W) : N < q * D + D := by
  have e := lt2_identity N D W n2 d2 nl dl q r hN hD hq
  have h1 : r * W + W ≤ d2 * W := by
    have : (r + 1) * W ≤ d2 * W := Nat.mul_le_mul_right _ hr
    linarith
  have h2 : d2 * W ≤ D := by omega
  have h3 : 0 ≤ q * dl := Nat.zero_le _
  omega

/-- at most 2 too large, because d2 is normalised: 2·d2 ≥ B·K > q1 -/
theorem lt2_lower2 (N D W n2 d2 nl dl q r BK : Nat) (hN : N = n2 * W + nl) (hD : D = d2 * W + dl)
    (hq : n2 = q * d2 + r) (hdl : dl < W) (hqlt : q < BK) (hnorm : BK ≤ 2 * d2) : q * D ≤ N + 2 * D := by
  have e := lt2_identity N D W n2 d2 nl dl q r hN hD hq
  have h1 : q * dl ≤ BK * W := Nat.mul_le_mul (Nat.le_of_lt hqlt) (Nat.le_of_lt hdl)
  have h2 : BK * W ≤ 2 * d2 * W := Nat.mul_le_mul_right _ hnorm
  have h3 : 2 * d2 * W ≤ 2 * D := by rw [hD]; ring_nf; omega
  have h4 : 0 ≤ r * W + nl := Nat.zero_le _
  omega

/-- tdiv_qr.c:300: if the top limb of the partial remainder is below h, the estimate is too large -/
theorem lt2_fire (B K Bi c W nl dl q1 r1 qt rt x h : Nat) (hW : W * c = B * Bi) (hc : 0 < c)
    (hh : h * B ≤ x * qt) (hrt : rt + 1 ≤ h) (hr1 : r1 < (rt + 1) * K) (hq1 : qt * K ≤ q1)
    (hnl : nl < W) (hx : x * Bi ≤ dl * c) : r1 * W + nl < q1 * dl := by
  have h1 : (r1 + 1) * (B * Bi) ≤ (rt + 1) * K * (B * Bi) := Nat.mul_le_mul_right _ hr1
  have h2 : (rt + 1) * K * (B * Bi) ≤ h * K * (B * Bi) := Nat.mul_le_mul_right _ (Nat.mul_le_mul_right _ hrt)
  have h3 : h * B * (K * Bi) ≤ x * qt * (K * Bi) := Nat.mul_le_mul_right _ hh
  have h4 : qt * K * (x * Bi) ≤ q1 * (dl * c) := Nat.mul_le_mul hq1 hx
  have h5 : (r1 * W + nl) * c < (r1 + 1) * (B * Bi) := by
    have : (r1 * W + nl) * c < (r1 * W + W) * c := Nat.mul_lt_mul_of_pos_right (by omega) hc
    calc (r1 * W + nl) * c < (r1 * W + W) * c := this
      _ = (r1 + 1) * (W * c) := by ring
      _ = (r1 + 1) * (B * Bi) := by rw [hW]
  have h6 : (r1 * W + nl) * c < q1 * dl * c := by
    calc (r1 * W + nl) * c < (r1 + 1) * (B * Bi) := h5
      _ ≤ (rt + 1) * K * (B * Bi) := h1
      _ ≤ h * K * (B * Bi) := h2
      _ = h * B * (K * Bi) := by ring
      _ ≤ x * qt * (K * Bi) := h3
      _ = qt * K * (x * Bi) := by ring
      _ ≤ q1 * (dl * c) := h4
      _ = q1 * dl * c := by ring
  exact Nat.lt_of_mul_lt_mul_right h6

/-- tdiv_qr.c:280-281 "it catches all cases where the quotient is 2 too large": if the test does not fire the
    estimate is at most 1 too large -/
theorem lt2_nofire (B K Bi c W dl d2 q1 r1 qt rt x h : Nat) (hW : W * c = B * Bi) (hc : 0 < c)
    (hh : x * qt < (h + 1) * B) (hqt : qt < B) (hxB : x < B) (hrt : h ≤ rt) (hr1 : rt * K ≤ r1)
    (hq1 : q1 < (qt + 1) * K) (hx : dl * c < (x + 1) * Bi) (hd2 : 3 * K ≤ d2) :
    q1 * dl ≤ (r1 + d2) * W + dl := by
  rcases Nat.eq_zero_or_pos q1 with h0 | hpos
  · rw [h0]; omega
  have h1 : (q1 - 1) * (dl * c) ≤ (qt + 1) * K * ((x + 1) * Bi) :=
    Nat.mul_le_mul (by omega) (Nat.le_of_lt hx)
  have h2 : (qt + 1) * (x + 1) ≤ (h + 3) * B := by
    have : (qt + 1) * (x + 1) = x * qt + qt + x + 1 := by ring
    rw [this]
    have : (h + 3) * B = (h + 1) * B + 2 * B := by ring
    omega
  have h3 : (qt + 1) * (x + 1) * (K * Bi) ≤ (h + 3) * B * (K * Bi) := Nat.mul_le_mul_right _ h2
  have h4 : (h + 3) * K ≤ r1 + d2 := by
    have : h * K ≤ rt * K := Nat.mul_le_mul_right _ hrt
    have : (h + 3) * K = h * K + 3 * K := by ring
    omega
  have h5 : (h + 3) * K * (B * Bi) ≤ (r1 + d2) * (B * Bi) := Nat.mul_le_mul_right _ h4
  have h6 : (q1 - 1) * dl * c ≤ (r1 + d2) * W * c := by
    calc (q1 - 1) * dl * c = (q1 - 1) * (dl * c) := by ring
      _ ≤ (qt + 1) * K * ((x + 1) * Bi) := h1
      _ = (qt + 1) * (x + 1) * (K * Bi) := by ring
      _ ≤ (h + 3) * B * (K * Bi) := h3
      _ = (h + 3) * K * (B * Bi) := by ring
      _ ≤ (r1 + d2) * (B * Bi) := h5
      _ = (r1 + d2) * W * c := by rw [← hW]; ring
  have h7 : (q1 - 1) * dl ≤ (r1 + d2) * W := Nat.le_of_mul_le_mul_right h6 hc
  have h8 : q1 * dl = (q1 - 1) * dl + dl := by
    have : q1 = (q1 - 1) + 1 := by omega
    conv_lhs => rw [this]
    ring
  omega

/-- after the decrement with carry (divisor normalised, cnt = 0): the partial remainder without the carry limb does not
    exceed what is still to be subtracted — r1·(B·Bi) ≤ (q1-1)·dl, so ⌊(q1-1)·dl / B^in⌋ ≥ r1 -/
theorem lt2_fire_small (B K Bi dl q1 r1 qt rt x h : Nat) (hB : 0 < B)
    (hh : h * B ≤ x * qt) (hrt : rt + 1 ≤ h) (hr1 : r1 < (rt + 1) * K) (hq1 : qt * K ≤ q1) (hxB : x ≤ B)
    (hx : x * Bi ≤ dl) : r1 * (B * Bi) ≤ (q1 - 1) * dl := by
  have hK : 0 < K := by
    rcases Nat.eq_zero_or_pos K with h0 | h0
    · rw [h0] at hr1; omega
    · exact h0
  have hqt : 1 ≤ qt := by
    rcases Nat.eq_zero_or_pos qt with h0 | h0
    · rw [h0, Nat.mul_zero] at hh
      have : 1 * B ≤ h * B := Nat.mul_le_mul_right _ (by omega)
      omega
    · exact h0
  have hq1K : K ≤ q1 := by
    have : 1 * K ≤ qt * K := Nat.mul_le_mul_right _ hqt
    omega
  -- (q1 - 1)·dl ≥ (qt·K - 1)·x·Bi = qt·x·K·Bi - x·Bi ≥ h·B·K·Bi - B·Bi
  have h1 : (qt * K - 1) * (x * Bi) ≤ (q1 - 1) * dl := Nat.mul_le_mul (by omega) hx
  have h2 : h * B * (K * Bi) ≤ x * qt * (K * Bi) := Nat.mul_le_mul_right _ hh
  have h3 : x * Bi ≤ B * Bi := Nat.mul_le_mul_right _ hxB
  have h4 : (r1 + 1) * (B * Bi) ≤ h * K * (B * Bi) := by
    have : r1 + 1 ≤ h * K := by
      have : (rt + 1) * K ≤ h * K := Nat.mul_le_mul_right _ hrt
      omega
    exact Nat.mul_le_mul_right _ this
  have h5 : (qt * K - 1) * (x * Bi) + x * Bi = x * qt * (K * Bi) := by
    have : qt * K = (qt * K - 1) + 1 := by
      have : 1 ≤ qt * K := Nat.mul_pos hqt hK
      omega
    calc (qt * K - 1) * (x * Bi) + x * Bi = ((qt * K - 1) + 1) * (x * Bi) := by ring
      _ = qt * K * (x * Bi) := by rw [← this]
      _ = x * qt * (K * Bi) := by ring
  have h6 : (r1 + 1) * (B * Bi) = r1 * (B * Bi) + B * Bi := by ring
  have h7 : h * K * (B * Bi) = h * B * (K * Bi) := by ring
  omega

/-- partially used limb (`pe`, weight Bi) and subtraction of q × the low limbs (`fe`) put into the identity `hid`: what
    is left in rp is N − q·D up to the borrows (tdiv_qr.c:316-362, cnt ≠ 0, in > 1) -/
theorem lt2_tail_arith (S Sp md mn dlow nlow S2 Bi Bq q r N D f cA cB : Nat)
    (fe : S + q * dlow = Sp * Bi + nlow + (cA + cB) * (Bq * Bi)) (pe : Sp + q * md = r * S2 + mn + f * Bq)
    (hid : N + q * (md * Bi + dlow) = q * D + r * (S2 * Bi) + (mn * Bi + nlow)) :
    S + q * D = N + (f + cA + cB) * (Bq * Bi) := by
  zify at *
  linear_combination fe + (Bi : Int) * pe - hid

/-- the reconstruction at the end (tdiv_qr.c:363-368): the dn-limb value S left in rp is N − q·D modulo B^dn, t counts
    the borrows; when q is at most one too large this determines quotient and remainder -/
theorem lt2_finish (N D P S q t : Nat) (hDP : D ≤ P) (hS : S < P) (hlo : q * D ≤ N + D) (hhi : N < q * D + D)
    (hrel : S + q * D = N + t * P) :
    (t = 0 ∧ N = q * D + S ∧ S < D) ∨ (t = 1 ∧ 1 ≤ q ∧ N = (q - 1) * D + (S + D - P) ∧ S + D - P < D ∧ P ≤ S + D) := by
  rcases Nat.lt_or_ge N (q * D) with hneg | hpos
  · -- q one too large
    right
    have hq : 1 ≤ q := by
      rcases Nat.eq_zero_or_pos q with h0 | h0
      · rw [h0] at hneg; omega
      · exact h0
    have ht : t = 1 := by
      rcases Nat.lt_or_ge t 1 with h0 | h1
      · have : t = 0 := by omega
        rw [this] at hrel; omega
      · rcases Nat.lt_or_ge t 2 with h2 | h2
        · omega
        · have : 2 * P ≤ t * P := Nat.mul_le_mul_right _ h2
          omega
    subst ht
    have e : q * D = (q - 1) * D + D := by
      have : q = (q - 1) + 1 := by omega
      conv_lhs => rw [this]
      ring
    refine ⟨rfl, hq, ?_, ?_, ?_⟩ <;> omega
  · left
    have ht : t = 0 := by
      rcases Nat.eq_zero_or_pos t with h0 | h0
      · exact h0
      · have : 1 * P ≤ t * P := Nat.mul_le_mul_right _ h0
        omega
    subst ht
    refine ⟨rfl, ?_, ?_⟩ <;> omega

/-! ### the branch assembled (tdiv_qr.c:155-369): after the `n2p[qn - 1] < h` step the quotient is at most one too large and
  never too small (`Lt2Inv`); the rest (partially used limb, subtraction of q × low limbs, the `quotient_too_large` correction)
  makes quotient and remainder exact -/

open Mpir Mpir.DivWord Mpir.SbDiv Mpir.Tdiv

/-- tdiv_qr.c:315-369 as a function of the state after the `n2p[qn - 1] < h` step (the tail of `lt2`) -/
def lt2Tail (n d : List Nat) (in_ cnt qn : Nat) (qp rem : List Nat) (ok0 : Bool) : List Nat × List Nat × Bool :=
  let pt := if cnt ≠ 0 then lt2Partial n d in_ cnt qn qp rem else (rem, 0, true)
  let in2 := if cnt ≠ 0 then in_ - 1 else in_
  let fin :=
    if in2 = 0 then (pt.1, pt.2.1, decide (pt.1.length = d.length))
    else lt2Final n d in2 qn qp pt.1 pt.2.1
  let ok := ok0 && pt.2.2 && fin.2.2
  if fin.2.1 ≠ 0 then ((decr qp).1, (add_n fin.1 d).1, ok) else (qp, fin.1, ok)

/-- the last step (tdiv_qr.c:363-368): rp holds N − q·D modulo B^dn, `tl` ≠ 0 iff a borrow occurred -/
theorem lt2_correct (n d qp rp : List Nat) (tl t : Nat) (ok : Bool) (hd : Limbs d) (hqp : Limbs qp) (hrp : Limbs rp)
    (hlq : qp.length = n.length - d.length + 1) (hlr : rp.length = d.length) (hok : ok = true)
    (hlo : val qp * val d ≤ val n + val d) (hhi : val n < val qp * val d + val d)
    (hrel : val rp + val qp * val d = val n + t * B ^ d.length) (htl : tl = 0 ↔ t = 0) :
    Spec n d (if tl ≠ 0 then ((decr qp).1, (add_n rp d).1, ok) else (qp, rp, ok)) := by
  have hdlt := val_lt d hd
  have hrlt := val_lt rp hrp
  rw [hlr] at hrlt
  subst hok
  rcases lt2_finish (val n) (val d) (B ^ d.length) (val rp) (val qp) t (Nat.le_of_lt hdlt) hrlt hlo hhi hrel with
    ⟨ht, hN, hS⟩ | ⟨ht, hq1, hN, hS, hP⟩
  · rw [if_neg (by rw [ne_eq, not_not]; exact htl.mpr ht)]
    obtain ⟨hQ, hR⟩ := divmod_of_eq (val n) (val d) _ _ hN hS
    exact spec_intro n d _ _ hQ.symm hR.symm hqp hlq hrp hlr
  · rw [if_pos (by intro h; have := htl.mp h; omega)]
    obtain ⟨dv, dl, dlen⟩ := decr_pos qp hqp hq1
    obtain ⟨av, ac, al, an⟩ := addNC_val rp d 0 hrp hd hlr (by omega)
    rw [Nat.add_zero, hlr] at av
    have halt := val_lt _ al
    rw [an, hlr] at halt
    have hc1 : (addNC rp d 0).2 = 1 := by
      rcases Nat.lt_or_ge (addNC rp d 0).2 1 with h0 | h1
      · have : (addNC rp d 0).2 = 0 := by omega
        rw [this, Nat.mul_zero, Nat.add_zero] at av; omega
      · omega
    rw [hc1, Nat.mul_one] at av
    have hqv : val (decr qp).1 = val qp - 1 := by omega
    have hrv : val (add_n rp d).1 = val rp + val d - B ^ d.length := by
      show val (addNC rp d 0).1 = _; omega
    obtain ⟨hQ, hR⟩ := divmod_of_eq (val n) (val d) _ _ hN hS
    exact spec_intro n d _ _ (by rw [hqv]; exact hQ.symm) (by rw [hrv]; exact hR.symm) dl (by rw [dlen]; exact hlq)
      al (by show (addNC rp d 0).1.length = _; rw [an, hlr])

/-- The state (q, r) after the `n2p[qn - 1] < h` step (tdiv_qr.c:276-313); `i = in - 1`, W = 2^(64-c)·B^i is the
    truncation unit, dl and nl the parts of d and n below it.  The quotient is at most one too large and not too small,
    N + q·dl = q·D + r·W + nl, and r has qn limbs, or qn+1 limbs with B^qn ≤ r < 2·B^qn (for c = 0 moreover
    r < ⌊q·dl/B^(i+1)⌋ + B^qn). -/
def Lt2Inv (n d : List Nat) (i c qn : Nat) (q r : List Nat) : Prop :=
  Limbs q ∧ val q < B ^ qn ∧ Limbs r ∧
  val n + val q * (d.getD i 0 % 2 ^ (64 - c) * B ^ i + val (d.take i)) =
    val q * val d + val r * (2 ^ (64 - c) * B ^ i) + (n.getD i 0 % 2 ^ (64 - c) * B ^ i + val (n.take i)) ∧
  val q * val d ≤ val n + val d ∧ val n < val q * val d + val d ∧
  (r.length = qn ∨ (r.length = qn + 1 ∧ B ^ qn ≤ val r ∧ val r < 2 * B ^ qn ∧
    (c = 0 → val r < val q * val (d.take (i + 1)) / B ^ (i + 1) + B ^ qn)))

/-- tdiv_qr.c:315-369 -/
theorem lt2Tail_spec (n d : List Nat) (i c qn : Nat) (qp rem : List Nat) (hn : Limbs n) (hd : Limbs d)
    (hqn : 1 ≤ qn) (hc : c ≤ 63) (hdn : d.length = qn + (i + 1)) (hin : i < n.length)
    (hlq : qp.length = n.length - d.length + 1) (hqq : qn ≤ qp.length) (hinv : Lt2Inv n d i c qn qp rem) :
    Spec n d (lt2Tail n d (i + 1) c qn qp rem true) := by
  obtain ⟨hqp, hq2, hrem, hid, hlo, hhi, hlr⟩ := hinv
  have hq2e : val (qp.take qn) = val qp := val_take_of_lt qp qn hq2
  have hid' : i < d.length := by omega
  unfold lt2Tail
  simp only [Nat.add_sub_cancel]
  by_cases hc0 : c = 0
  · -- divisor normalised: no partially used limb
    subst hc0
    have e1 : (if (0 : Nat) ≠ 0 then lt2Partial n d (i + 1) 0 qn qp rem else (rem, 0, true)) = (rem, 0, true) :=
      if_neg (by simp)
    have e2 : (if (0 : Nat) ≠ 0 then i else i + 1) = i + 1 := if_neg (by simp)
    rw [e1, e2, if_neg (show ¬ (i + 1 = 0) by omega)]
    simp only []
    have hlr' : rem.length = qn ∨ (rem.length = qn + 1 ∧
        val (qp.take qn) * val (d.take (i + 1)) / B ^ (i + 1) + 1 ≤ val rem ∧
        val rem < val (qp.take qn) * val (d.take (i + 1)) / B ^ (i + 1) + B ^ qn) := by
      rcases hlr with h | ⟨h1, h2, _, h4⟩
      · exact Or.inl h
      · refine Or.inr ⟨h1, ?_, by rw [hq2e]; exact h4 rfl⟩
        rw [hq2e]
        have hdl := val_lt _ (Limbs_take hd (i + 1))
        rw [List.length_take, Nat.min_eq_left (by omega)] at hdl
        have : val qp * val (d.take (i + 1)) / B ^ (i + 1) ≤ val qp :=
          Nat.div_le_of_le_mul (by rw [Nat.mul_comm]; exact Nat.mul_le_mul_right _ (Nat.le_of_lt hdl))
        omega
    obtain ⟨cyA, cyB, hA, hB', fe, ftl, fl, flen, fok⟩ := lt2Final_spec n d (i + 1) qn qn qp rem 0 hn hd hqp hrem hqq
      (by omega) hdn (Nat.le_refl _) hqn hlr'
    rw [hq2e] at fe
    have hdB : d.getD i 0 % 2 ^ (64 - 0) = d.getD i 0 := Nat.mod_eq_of_lt (getD_lt hd i)
    have hnB : n.getD i 0 % 2 ^ (64 - 0) = n.getD i 0 := Nat.mod_eq_of_lt (getD_lt hn i)
    rw [hdB, hnB, ← Tdiv.val_take_succ d i, ← Tdiv.val_take_succ n i] at hid
    have hW : (2 : Nat) ^ (64 - 0) * B ^ i = B ^ (i + 1) := by rw [pow_succ, Nat.mul_comm]; rfl
    rw [hW] at hid
    rw [fok]
    apply lt2_correct n d qp _ _ (cyA + cyB) _ hd hqp fl hlq (by rw [flen, hdn]) rfl hlo hhi
    · rw [hdn]; omega
    · rw [ftl, lor3_01 0 cyA cyB (Nat.zero_le _) hA hB', Nat.zero_add]
  · -- divisor not normalised: the partially used limb first
    rw [if_pos hc0, if_pos hc0]
    have hlr' : rem.length = qn ∨ (rem.length = qn + 1 ∧ B ^ qn ≤ val rem ∧ val rem < 2 * B ^ qn) := by
      rcases hlr with h | ⟨h1, h2, h3, _⟩
      · exact Or.inl h
      · exact Or.inr ⟨h1, h2, h3⟩
    obtain ⟨pe, pf, pl, plen, pok⟩ := lt2Partial_spec n d i c qn qp rem hqn (by omega) hc hqp hqq hrem hlr'
    rw [hq2e] at pe
    generalize lt2Partial n d (i + 1) c qn qp rem = pt at *
    rw [pok]
    by_cases hi0 : i = 0
    · subst hi0
      rw [if_pos rfl]
      simp only [pow_zero, Nat.mul_one, List.take_zero, val_nil, Nat.add_zero] at hid
      have hdec : decide (pt.1.length = d.length) = true := decide_eq_true (by rw [plen, hdn])
      simp only [hdec, Bool.and_self]
      apply lt2_correct n d qp _ _ pt.2.1 _ hd hqp pl hlq (by rw [plen, hdn]) rfl hlo hhi
      · rw [hdn, Nat.add_zero]; omega
      · exact Iff.rfl
    · rw [if_neg hi0]
      obtain ⟨cyA, cyB, hA, hB', fe, ftl, fl, flen, fok⟩ := lt2Final_spec n d i qn (qn + 1) qp pt.1 pt.2.1 hn hd hqp pl hqq
        (by omega) (by omega) (by omega) (by omega) (Or.inl plen)
      rw [hq2e] at fe
      rw [fok]
      apply lt2_correct n d qp _ _ (pt.2.1 + cyA + cyB) _ hd hqp fl hlq (by rw [flen, hdn]; omega) rfl hlo hhi
      · rw [show d.length = qn + 1 + i by omega, pow_add]
        rw [pow_add] at fe
        exact lt2_tail_arith _ _ _ _ _ _ _ _ _ _ _ _ _ _ _ _ fe pe hid
      · rw [ftl, lor3_01 pt.2.1 cyA cyB pf hA hB']

/-- tdiv_qr.c:276-313 establishes `Lt2Inv` -/
theorem lt2Step2_inv (n d : List Nat) (i c qn : Nat) (qp0 rem1 d2 : List Nat) (n2v : Nat)
    (hd : Limbs d) (hqp0 : Limbs qp0) (hrem1 : Limbs rem1) (hd2 : Limbs d2) (hqn : 1 ≤ qn) (hc : c ≤ 63)
    (hi : i < d.length) (hlr1 : rem1.length = qn) (hld2 : d2.length = qn)
    (hWn : val n = n2v * (2 ^ (64 - c) * B ^ i) + (n.getD i 0 % 2 ^ (64 - c) * B ^ i + val (n.take i)))
    (hWd : val d = val d2 * (2 ^ (64 - c) * B ^ i) + (d.getD i 0 % 2 ^ (64 - c) * B ^ i + val (d.take i)))
    (hnl : n.getD i 0 % 2 ^ (64 - c) * B ^ i + val (n.take i) < 2 ^ (64 - c) * B ^ i)
    (hdl : d.getD i 0 % 2 ^ (64 - c) * B ^ i + val (d.take i) < 2 ^ (64 - c) * B ^ i)
    (hdiv : n2v = val qp0 * val d2 + val rem1) (hr1 : val rem1 < val d2) (hq1 : val qp0 < B ^ qn)
    (hnorm : B ^ qn ≤ 2 * val d2)
    (hqlo : qp0.getD (qn - 1) 0 * B ^ (qn - 1) ≤ val qp0)
    (hqhi : val qp0 < (qp0.getD (qn - 1) 0 + 1) * B ^ (qn - 1)) (hqtB : qp0.getD (qn - 1) 0 < B) :
    (lt2Step2 d (i + 1) c qn qp0 rem1 d2).1.length = qp0.length ∧
    Lt2Inv n d i c qn (lt2Step2 d (i + 1) c qn qp0 rem1 d2).1 (lt2Step2 d (i + 1) c qn qp0 rem1 d2).2 := by
  unfold Lt2Inv
  obtain ⟨k, hk⟩ := Nat.exists_eq_add_of_le' hqn
  obtain ⟨hxB, hxlo, hxhi⟩ := lt2X_spec d i c hd hi hc
  obtain ⟨hrlo, hrhi⟩ := top_bounds rem1 k hrem1 (by rw [hlr1, hk])
  have hW : 2 ^ (64 - c) * B ^ i * 2 ^ c = B * B ^ i := by
    have := Mpir.B_split c (by omega : c ≤ 64)
    rw [this]; ring
  have hp : 0 < 2 ^ c := by positivity
  have hd2lt := val_lt d2 hd2
  rw [hld2] at hd2lt
  have hPk := Bpow_pos k
  have hBK : B ^ qn = B * B ^ k := by rw [hk, pow_succ]; ring
  have h3K : 3 * B ^ k ≤ val d2 := by
    have h6 : 6 * B ^ k ≤ B * B ^ k := Nat.mul_le_mul_right _ (by decide)
    rw [hBK] at hnorm
    clear * - h6 hnorm
    omega
  -- h = ⌊x·qt/B⌋
  have hh1 : lt2X d (i + 1) c * qp0.getD (qn - 1) 0 / B * B ≤ lt2X d (i + 1) c * qp0.getD (qn - 1) 0 :=
    Nat.div_mul_le_self _ _
  have hh2 : lt2X d (i + 1) c * qp0.getD (qn - 1) 0 < (lt2X d (i + 1) c * qp0.getD (qn - 1) 0 / B + 1) * B := by
    rw [Nat.mul_comm _ B]; exact Nat.lt_mul_div_succ _ B_pos
  have hhe : (umul_ppmm (lt2X d (i + 1) c) (qp0.getD (qn - 1) 0)).1 =
      lt2X d (i + 1) c * qp0.getD (qn - 1) 0 / B := rfl
  have hk1 : qn - 1 = k := by rw [hk]; rfl
  rw [hk1] at hqlo hqhi hqtB hh1 hh2 hhe
  have hid1 := lt2_identity (val n) (val d) _ n2v (val d2) _ _ (val qp0) (val rem1) hWn hWd hdiv
  rcases lt2Step2_spec d (i + 1) c qn qp0 rem1 d2 hqp0 hrem1 hd2 hlr1 hld2 (by rw [hk1]; exact hqlo) with
    ⟨hf, sv, sl, slen, rv, rl, rlen⟩ | ⟨hnf, hst⟩
  · -- the test fires
    rw [hk1, hhe] at hf
    generalize lt2Step2 d (i + 1) c qn qp0 rem1 d2 = st at *
    have hdiv2 : n2v = val st.1 * val d2 + val st.2 := by rw [hdiv, ← sv, rv]; ring
    have hid2 := lt2_identity (val n) (val d) _ n2v (val d2) _ _ (val st.1) (val st.2) hWn hWd hdiv2
    have hfire := lt2_fire B (B ^ k) (B ^ i) (2 ^ c) (2 ^ (64 - c) * B ^ i) _ _ (val qp0) (val rem1)
      (qp0.getD k 0) (rem1.getD k 0) (lt2X d (i + 1) c) _ hW hp hh1 hf hrhi hqlo hnl hxlo
    have hlow := lt2_lower2 (val n) (val d) _ n2v (val d2) _ _ (val qp0) (val rem1) (B ^ qn) hWn hWd hdiv hdl hq1 hnorm
    have hqD : val qp0 * val d = val st.1 * val d + val d := by rw [← sv]; ring
    refine ⟨slen, sl, by rw [← sv] at hq1; exact Nat.lt_of_succ_lt hq1, rl, hid2, ?_, ?_, ?_⟩
    · rw [hqD, Nat.two_mul, ← Nat.add_assoc] at hlow
      exact Nat.le_of_add_le_add_right hlow
    · rw [← hqD]
      apply Nat.lt_of_add_lt_add_right (n := val qp0 * (d.getD i 0 % 2 ^ (64 - c) * B ^ i + val (d.take i)))
      rw [hid1, Nat.add_assoc]
      exact Nat.add_lt_add_left hfire _
    rcases rlen with h | ⟨h1, h2⟩
    · exact Or.inl h
    · refine Or.inr ⟨h1, h2, by rw [rv, Nat.two_mul]; exact Nat.add_lt_add (hr1.trans hd2lt) hd2lt, ?_⟩
      intro hc0
      subst hc0
      rw [pow_zero, Nat.mul_one] at hxlo
      have hsm := lt2_fire_small B (B ^ k) (B ^ i) _ (val qp0) (val rem1) (qp0.getD k 0) (rem1.getD k 0)
        (lt2X d (i + 1) 0) _ B_pos hh1 hf hrhi hqlo (Nat.le_of_lt hxB) hxlo
      have hdB : d.getD i 0 % 2 ^ (64 - 0) = d.getD i 0 := Nat.mod_eq_of_lt (getD_lt hd i)
      rw [hdB, ← Tdiv.val_take_succ d i] at hsm
      rw [← sv, Nat.add_sub_cancel, ← pow_succ'] at hsm
      rw [rv]
      exact Nat.add_lt_add_of_le_of_lt ((Nat.le_div_iff_mul_le (Bpow_pos _)).mpr hsm) hd2lt
  · -- the test does not fire
    rw [hk1, hhe] at hnf
    rw [hst]
    have hnofire := lt2_nofire B (B ^ k) (B ^ i) (2 ^ c) (2 ^ (64 - c) * B ^ i) _ (val d2) (val qp0) (val rem1)
      (qp0.getD k 0) (rem1.getD k 0) (lt2X d (i + 1) c) _ hW hp hh2 hqtB hxB hnf hrlo hqhi hxhi h3K
    have hup := lt2_upper (val n) (val d) _ n2v (val d2) _ _ (val qp0) (val rem1) hWn hWd hdiv hr1 hnl
    refine ⟨rfl, hqp0, hq1, hrem1, hid1, ?_, hup, Or.inl hlr1⟩
    -- q1·D ≤ N + D from q1·dl ≤ (r1 + d2)·W + dl
    have e : (val rem1 + val d2) * (2 ^ (64 - c) * B ^ i) =
        val rem1 * (2 ^ (64 - c) * B ^ i) + val d2 * (2 ^ (64 - c) * B ^ i) := by ring
    show val qp0 * val d ≤ val n + val d
    omega

/-- the quotient limbs of the estimate followed by the limb zeroed at tdiv_qr.c:200 (it lies above them iff adjust = 0) -/
theorem snoc_pad (q : List Nat) (adjust k : Nat) (hq : Limbs q) (hadj01 : adjust = 0 ∨ adjust = 1) (hk : k < q.length) :
    Limbs (q ++ if adjust = 0 then [0] else []) ∧ val (q ++ if adjust = 0 then [0] else []) = val q ∧
    (q ++ if adjust = 0 then [0] else []).length = q.length + 1 - adjust ∧
    (q ++ if adjust = 0 then [0] else []).getD k 0 = q.getD k 0 := by
  have hget : ∀ p : List Nat, (q ++ p).getD k 0 = q.getD k 0 := fun p => by
    simp only [List.getD_eq_getElem?_getD]; rw [List.getElem?_append_left hk]
  rcases hadj01 with rfl | rfl
  · exact ⟨Limbs.snoc hq B_pos, val_snoc_zero q, by simp, hget _⟩
  · exact ⟨by simpa using hq, by simp, by simp, hget _⟩

/-- sizes in the branch (tdiv_qr.c:158-176): qn = nn - dn + adjust quotient limbs, in = dn - qn = i + 1 ignored limbs -/
theorem lt2_sizes (nn dn adjust qn : Nat) (hadj : adjust = 0 ∨ adjust = 1) (hnn : dn ≤ nn) (hlt : nn + adjust < 2 * dn)
    (hqn : nn - dn + adjust = qn) (hq0 : qn ≠ 0) :
    ∃ i, dn - qn = i + 1 ∧ 1 ≤ qn ∧ dn = qn + (i + 1) ∧ nn + adjust = dn + qn ∧ i < nn ∧ i < dn ∧
      qn + 1 - adjust = nn - dn + 1 ∧ qn ≤ nn - dn + 1 ∧ qn - 1 + 1 = qn :=
  ⟨dn - qn - 1, by omega⟩

theorem lt2_spec (T : Thresholds) (n d : List Nat) (hn : Limbs n) (hd : Limbs d) (hdn : 3 ≤ d.length)
    (hnn : d.length ≤ n.length) (htop : d.getD (d.length - 1) 0 ≠ 0) (adjust : Nat)
    (hadj : adjust = if n.getD (n.length - 1) 0 ≥ d.getD (d.length - 1) 0 then 1 else 0)
    (hlt : n.length + adjust < 2 * d.length) : Spec n d (lt2 T n d adjust) := by
  have hadj01 : adjust = 0 ∨ adjust = 1 := by rw [hadj]; split <;> simp
  by_cases hq0 : n.length - d.length + adjust = 0
  · -- qn = 0: the numerator is smaller than the denominator
    have hfit := fit_of_adjust n d hn hd (by omega) hnn htop adjust hadj
    have hm : lt2 T n d adjust = ([0], n.take d.length, true) := by
      unfold lt2; simp only []; rw [if_pos hq0]
    have hnd : n.length = d.length := by omega
    rw [hm, take_all n _ hnd]
    rw [show n.length + adjust - d.length = 0 by omega, pow_zero, Nat.mul_one] at hfit
    refine spec_intro n d _ _ ?_ (Nat.mod_eq_of_lt hfit).symm (Limbs_cons.mpr ⟨B_pos, Limbs_nil⟩) (by simp [hnd]) hn hnd
    rw [Nat.div_eq_of_lt hfit]; simp [val_cons]
  · have hfitT := fit_top n _ hn (by omega) htop adjust hadj
    obtain ⟨qn, hqn⟩ : ∃ qn, n.length - d.length + adjust = qn := ⟨_, rfl⟩
    rw [hqn] at hq0
    obtain ⟨i, hi, hqn1, hdn', hnn', hin, hid, hqlen, hqq, hk1⟩ :=
      lt2_sizes n.length d.length adjust qn hadj01 hnn hlt hqn hq0
    unfold lt2
    simp only []
    rw [hqn, if_neg hq0, hi]
    clear hq0 hlt hnn hdn hadj hqn hi
    obtain ⟨hc63, hd2v, hd2l, hd2len, hd2n, hn2v, hn2l, hn2len, hfitE⟩ :=
      lt2Extract_spec n d hn hd qn i adjust hqn1 hdn' hnn' hadj01 htop hfitT
    generalize lt2Extract n d adjust qn (i + 1) = ex at *
    have hd20 : 0 < val ex.2.1 := Nat.pos_of_ne_zero fun h => by
      rw [h] at hd2n; exact absurd hd2n (Nat.not_le.mpr (Bpow_pos qn))
    clear hfitT hnn'
    obtain ⟨hq1v, hr1v, hq1l, hq1len, hr1l, hr1len, hestok⟩ :=
      lt2Estimate_spec T ex.2.2 ex.2.1 qn hqn1 hn2l hd2l hn2len hd2len hd2n hfitE
    generalize lt2Estimate T ex.2.2 ex.2.1 qn = est at *
    have hdiv : val ex.2.2 = val est.1 * val ex.2.1 + val est.2.1 := by
      rw [hq1v, hr1v, Nat.mul_comm]; exact (Nat.div_add_mod _ _).symm
    have hr1lt : val est.2.1 < val ex.2.1 := by rw [hr1v]; exact Nat.mod_lt _ hd20
    -- qp with the limb zeroed at tdiv_qr.c:200
    obtain ⟨hqp0l, hqp0v, hqp0len, hqp0top⟩ := snoc_pad est.1 adjust (qn - 1) hq1l hadj01 (by rw [hq1len]; omega)
    rw [hq1len, hqlen] at hqp0len
    obtain ⟨hqlo, hqhi⟩ := top_bounds est.1 (qn - 1) hq1l (by rw [hq1len, hk1])
    have hq1lt := val_lt est.1 hq1l
    rw [hq1len] at hq1lt
    rw [← hqp0v, ← hqp0top] at hqlo hqhi
    rw [← hqp0v] at hdiv hq1lt
    obtain ⟨hWd, hWdlt⟩ := split_W d i ex.1 hid hd (Nat.le_succ_of_le hc63)
    obtain ⟨hWn, hWnlt⟩ := split_W n i ex.1 hin hn (Nat.le_succ_of_le hc63)
    rw [← hd2v] at hWd
    rw [← hn2v] at hWn
    obtain ⟨hstlen, hinv⟩ :=
      lt2Step2_inv n d i ex.1 qn (est.1 ++ if adjust = 0 then [0] else []) est.2.1 ex.2.1 (val ex.2.2)
        hd hqp0l hr1l hd2l hqn1 hc63 hid hr1len hd2len hWn hWd hWnlt hWdlt hdiv hr1lt hq1lt hd2n hqlo hqhi
        (by rw [hqp0top]; exact getD_lt hq1l _)
    generalize lt2Step2 d (i + 1) ex.1 qn (est.1 ++ if adjust = 0 then [0] else []) est.2.1 ex.2.1 = st at *
    rw [hestok]
    exact lt2Tail_spec n d i ex.1 qn st.1 st.2 hn hd hqn1 hc63 hdn' hin (by rw [hstlen, hqp0len])
      (by rw [hstlen, hqp0len]; exact hqq) hinv

end Mpir.TdivQr
