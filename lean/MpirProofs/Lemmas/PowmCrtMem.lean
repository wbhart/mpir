/- The CRT path of mpz_powm through the single scratch block (Mpir/Model/PowmCrtMem.lean): the index ranges (`crtOk_true`),
   read over write for the function memory `loadF`/`storeF`, and `powmEvenMemF_eq`: the block computes the limbs of `powmEven`. -/
import MpirProofs.Lemmas.Powm
import Mpir.Model.PowmCrtMem
import MpirProofs.Lemmas.FftRingSplit
namespace Mpir.PowmCrt
open Mpir Mpir.Powm

theorem crtOk_true (n nodd ncnt : Nat) (bi : Nat → Nat) (hmono : ∀ a b, a ≤ b → bi a ≤ bi b)
    (h1 : 1 ≤ nodd) (h2 : 1 ≤ ncnt) (h3 : nodd ≤ n) (h4 : ncnt ≤ n) (h5 : n ≤ nodd + ncnt) :
    crtOk n nodd ncnt (2 * n + max (bi (max ncnt nodd)) (2 * n)) bi = true := by
  have hb : bi ncnt ≤ bi (max ncnt nodd) := hmono _ _ (le_max_left _ _)
  have m1 := le_max_left (bi (max ncnt nodd)) (2 * n)
  have m2 := le_max_right (bi (max ncnt nodd)) (2 * n)
  generalize max (bi (max ncnt nodd)) (2 * n) = M at *
  unfold crtOk inside disjoint
  simp only [Bool.and_eq_true, Bool.or_eq_true, decide_eq_true_eq]
  refine ⟨?_, ?_⟩ <;> repeat (first | omega | (refine ⟨?_, ?_⟩))

/-! ### values through the block -/

theorem loadF_length (mem : Mem) (off len : Nat) : (loadF mem off len).length = len := by simp [loadF]

theorem loadF_storeF_prefix (mem : Mem) (off : Nat) (d : List Nat) (len : Nat) (h : len ≤ d.length) :
    loadF (storeF mem off d) off len = d.take len := by
  apply List.ext_getElem
  · simp [loadF, h]
  · intro i h1 h2
    simp only [loadF, List.length_map, List.length_range] at h1
    simp only [loadF, storeF, List.getElem_map, List.getElem_range, List.getElem_take]
    rw [if_pos (by omega), Nat.add_sub_cancel_left, List.getD_eq_getElem?_getD, List.getElem?_eq_getElem (by omega)]
    rfl

theorem loadF_storeF_same (mem : Mem) (off : Nat) (d : List Nat) : loadF (storeF mem off d) off d.length = d := by
  rw [loadF_storeF_prefix mem off d d.length (le_refl _), List.take_length]

theorem loadF_storeF_disj (mem : Mem) (off : Nat) (d : List Nat) (off2 len2 : Nat)
    (h : off2 + len2 ≤ off ∨ off + d.length ≤ off2) : loadF (storeF mem off d) off2 len2 = loadF mem off2 len2 := by
  unfold loadF
  apply List.map_congr_left
  intro j hj
  simp only [List.mem_range] at hj
  unfold storeF
  rw [if_neg (by omega)]

theorem maskCnt_spec (xp : List Nat) (ncnt cnt : Nat) (hx : Limbs xp) (hl : xp.length = ncnt) (hn : 1 ≤ ncnt) (hc : cnt < 64) :
    val (maskCnt xp ncnt cnt) = val xp % 2 ^ ((ncnt - 1) * 64 + cnt) ∧ (maskCnt xp ncnt cnt).length = ncnt := by
  have e : 64 - (64 - cnt) = cnt := Nat.sub_sub_self hc.le
  have e2 : 64 * ncnt - (64 - cnt) = (ncnt - 1) * 64 + cnt := by omega
  obtain ⟨m1, m2, _⟩ := Fft.mask_top_mod xp ncnt (64 - cnt) hx hl hn (Nat.sub_le _ _)
  rw [e] at m1 m2
  rw [e2] at m1
  exact ⟨m1, m2⟩

/-- the CRT path with every operand going through the single scratch block computes exactly the limbs of the
    value-level `powmEven`, whatever the callees leave in their scratch areas -/
theorem powmEvenMemF_eq (n : Nat) (bp ep modd : List Nat) (nodd ncnt cnt : Nat) (rodd : List Nat) (bi : Nat)
    (junkP junkB : List Nat) (mem0 : Mem) (hrodd : Limbs rodd)
    (h1 : 1 ≤ ncnt) (h2 : ncnt ≤ n) (h4 : n ≤ ncnt + nodd) (h5 : ncnt + nodd ≤ 2 * n) (hcnt : cnt < 64) :
    powmEvenMemF n bp ep modd nodd ncnt cnt rodd bi junkP junkB mem0 = powmEven n bp ep modd nodd ncnt cnt rodd := by
  unfold powmEvenMemF powmEven
  simp only []
  generalize hbpl : (if bp.length < ncnt then bp ++ zeros (ncnt - bp.length) else bp) = bpl
  generalize (ncnt - (if (cnt != 0) = true then 1 else 0)) * 64 + cnt = tt
  generalize (0x1213 >>> ((bpl.headD 0 &&& 7) <<< 1)) &&& 3 = bcnt
  -- stage 1: r2
  generalize hr2 : (if bpl.headD 0 % 2 = 0 then
      if ep.length > 1 then zeros ncnt
      else if (ep.headD 0 * bcnt) % B ≥ tt then zeros ncnt else mpn_powlo bpl ep ncnt
    else mpn_powlo bpl ep ncnt) = r2v
  have hpl : (mpn_powlo bpl ep ncnt).length = ncnt ∧ Limbs (mpn_powlo bpl ep ncnt) := by
    unfold mpn_powlo; exact ⟨toLimbs_length _ _, Limbs_toLimbs _ _⟩
  have hr2l : r2v.length = ncnt ∧ Limbs r2v := by
    rw [← hr2]
    split
    · split
      · exact ⟨zeros_length _, Limbs_zeros _⟩
      · split
        · exact ⟨zeros_length _, Limbs_zeros _⟩
        · exact hpl
    · exact hpl
  have hm1 : ∃ mem1, (if bpl.headD 0 % 2 = 0 ∧ (ep.length > 1 ∨ (ep.headD 0 * bcnt) % B ≥ tt) then storeF mem0 0 (zeros ncnt)
        else storeF (storeF mem0 ncnt (junkP.take (3 * ncnt))) 0 (mpn_powlo bpl ep ncnt)) = mem1 ∧
      loadF mem1 0 ncnt = r2v := by
    by_cases hb0 : bpl.headD 0 % 2 = 0
    · by_cases hen : ep.length > 1
      · refine ⟨_, rfl, ?_⟩
        rw [if_pos ⟨hb0, Or.inl hen⟩, ← hr2, if_pos hb0, if_pos hen]
        have := loadF_storeF_same mem0 0 (zeros ncnt)
        rwa [zeros_length] at this
      · by_cases hbig : (ep.headD 0 * bcnt) % B ≥ tt
        · refine ⟨_, rfl, ?_⟩
          rw [if_pos ⟨hb0, Or.inr hbig⟩, ← hr2, if_pos hb0, if_neg hen, if_pos hbig]
          have := loadF_storeF_same mem0 0 (zeros ncnt)
          rwa [zeros_length] at this
        · refine ⟨_, rfl, ?_⟩
          rw [if_neg (by rintro ⟨_, h | h⟩ <;> contradiction), ← hr2, if_pos hb0, if_neg hen, if_neg hbig]
          have := loadF_storeF_same (storeF mem0 ncnt (junkP.take (3 * ncnt))) 0 (mpn_powlo bpl ep ncnt)
          rwa [hpl.1] at this
    · refine ⟨_, rfl, ?_⟩
      rw [if_neg (by rintro ⟨h, _⟩; contradiction), ← hr2, if_neg hb0]
      have := loadF_storeF_same (storeF mem0 ncnt (junkP.take (3 * ncnt))) 0 (mpn_powlo bpl ep ncnt)
      rwa [hpl.1] at this
  obtain ⟨mem1, hmem1, hl1⟩ := hm1
  rw [hmem1]
  clear hmem1 hr2
  -- stage 2: binvert
  generalize (if nodd < ncnt then modd ++ zeros (ncnt - nodd) else modd) = mpl
  generalize hinv : binvert (val (mpl.take ncnt)) ncnt = oinv
  have hil : (toLimbs ncnt oinv).length = ncnt := toLimbs_length _ _
  have hl2a : loadF (storeF (storeF mem1 (2 * n) (junkB.take bi)) n (toLimbs ncnt oinv)) 0 ncnt = r2v := by
    rw [loadF_storeF_disj _ _ _ _ _ (Or.inl (by omega)), loadF_storeF_disj _ _ _ _ _ (Or.inl (by omega)), hl1]
  have hl2b : loadF (storeF (storeF mem1 (2 * n) (junkB.take bi)) n (toLimbs ncnt oinv)) n ncnt = toLimbs ncnt oinv := by
    have := loadF_storeF_same (storeF mem1 (2 * n) (junkB.take bi)) n (toLimbs ncnt oinv)
    rwa [hil] at this
  generalize storeF (storeF mem1 (2 * n) (junkB.take bi)) n (toLimbs ncnt oinv) = mem2 at *
  rw [hl2a]
  -- stage 3: mpn_sub in place
  have hmin : (rodd.take (min nodd ncnt)).length ≤ r2v.length := by
    rw [List.length_take, hr2l.1]
    exact (Nat.min_le_left _ _).trans (Nat.min_le_right _ _)
  obtain ⟨_, _, sL, sl⟩ := sub_val' r2v (rodd.take (min nodd ncnt)) hr2l.2 (Limbs_take hrodd _) hmin
  rw [hr2l.1] at sl
  generalize (sub r2v (rodd.take (min nodd ncnt))).1 = sres at *
  have hl3a : loadF (storeF mem2 0 sres) 0 ncnt = sres := by
    have := loadF_storeF_same mem2 0 sres; rwa [sl] at this
  have hl3b : loadF (storeF mem2 0 sres) n ncnt = toLimbs ncnt oinv := by
    rw [loadF_storeF_disj _ _ _ _ _ (Or.inr (by omega)), hl2b]
  generalize storeF mem2 0 sres = mem3 at *
  rw [hl3a, hl3b]
  -- stage 4: mullow
  have hP : val (toLimbs ncnt (val (toLimbs ncnt oinv) * val sres)) = (oinv * val sres) % B ^ ncnt := by
    rw [val_toLimbs, val_toLimbs, Nat.mod_mul_mod]
  have hl4 : loadF (storeF mem3 (2 * n) (toLimbs (2 * ncnt) (val (toLimbs ncnt oinv) * val sres))) (2 * n) ncnt =
      toLimbs ncnt (val (toLimbs ncnt oinv) * val sres) := by
    rw [loadF_storeF_prefix _ _ _ _ (by rw [toLimbs_length]; exact Nat.le_mul_of_pos_left ncnt (by decide)),
      toLimbs_take _ _ _ (Nat.le_mul_of_pos_left ncnt (by decide))]
  generalize storeF mem3 (2 * n) (toLimbs (2 * ncnt) (val (toLimbs ncnt oinv) * val sres)) = mem4 at *
  -- stage 5: the mask
  have hx : ∃ mem5, (if (cnt != 0) = true then storeF mem4 (2 * n) (maskCnt (loadF mem4 (2 * n) ncnt) ncnt cnt) else mem4) = mem5 ∧
      val (loadF mem5 (2 * n) ncnt) =
        (if (cnt != 0) = true then (oinv * val sres) % B ^ ncnt % 2 ^ ((ncnt - 1) * 64 + cnt) else (oinv * val sres) % B ^ ncnt) := by
    by_cases hc0 : (cnt != 0) = true
    · refine ⟨_, rfl, ?_⟩
      rw [if_pos hc0, if_pos hc0, hl4]
      obtain ⟨mv, ml⟩ := maskCnt_spec (toLimbs ncnt (val (toLimbs ncnt oinv) * val sres)) ncnt cnt (Limbs_toLimbs _ _)
        (toLimbs_length _ _) h1 hcnt
      have := loadF_storeF_same mem4 (2 * n) (maskCnt (toLimbs ncnt (val (toLimbs ncnt oinv) * val sres)) ncnt cnt)
      rw [ml] at this
      rw [this, mv, hP]
    · refine ⟨_, rfl, ?_⟩
      rw [if_neg hc0, if_neg hc0, hl4, hP]
  obtain ⟨mem5, hmem5, hv5⟩ := hx
  rw [hmem5, hv5]
  -- stage 6: mpn_mul and the final read
  rw [loadF_storeF_prefix _ _ _ _ (by rw [toLimbs_length]; omega)]
end Mpir.PowmCrt
