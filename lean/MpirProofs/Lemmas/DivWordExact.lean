/- Word-level division, 2-adic side: modlimb_invert, and exact (Hensel) division by a limb through the one recurrence `exactQ`:
   mpn_divexact_1, mpn_modexact_1c_odd; mpn_divexact_by3c (its own recurrence). -/
import MpirProofs.Lemmas.DivWord
import MpirProofs.Lemmas.Kernels
namespace Mpir.DivWord
open Mpir

/-! ### modlimb_invert (gmp-impl.h:3087) -/

/-- every entry of modlimb_invert_table is the inverse of 2i+1 modulo 2^8 (kernel-checked over all 128 entries) -/
theorem minv_tab_ok : ∀ i, i < 128 → (Gen.modlimbInvertTab.getD i 0 * (2 * i + 1)) % 256 = 1 := by
  decide +kernel

theorem minvStep_modEq (inv n : Nat) :
    ((minvStep inv n : ℕ) : ℤ) ≡ 2 * inv - inv * inv * n [ZMOD (B : ℤ)] := by
  unfold minvStep
  have hB := B_pos
  have hb : ((inv * inv) % B * n) % B < B := Nat.mod_lt _ hB
  have hle : ((inv * inv) % B * n) % B ≤ (2 * inv) % B + B := by omega
  rw [Int.natCast_mod, Nat.cast_sub hle]
  push_cast
  have h1 : ((2 * (inv:ℤ)) % B + B - ((inv:ℤ) * inv % B * n) % B) % B ≡
      (2 * (inv:ℤ)) % B + B - ((inv:ℤ) * inv % B * n) % B [ZMOD (B:ℤ)] := Int.mod_modEq _ _
  refine h1.trans ?_
  have h2 : (2 * (inv:ℤ)) % B ≡ 2 * inv [ZMOD (B:ℤ)] := Int.mod_modEq _ _
  have h3 : ((inv:ℤ) * inv % B * n) % B ≡ inv * inv * n [ZMOD (B:ℤ)] :=
    (Int.mod_modEq _ _).trans ((Int.mod_modEq _ _).mul_right _)
  have h4 : (2 * (inv:ℤ)) % B + B ≡ 2 * inv [ZMOD (B:ℤ)] := by
    have : (2 * (inv:ℤ)) % B + B ≡ 2 * inv + 0 [ZMOD (B:ℤ)] :=
      h2.add (Int.modEq_iff_dvd.mpr ⟨-1, by ring⟩)
    simpa using this
  exact h4.sub h3

/-- one Newton step doubles the number of correct low bits -/
theorem minvStep_lift (inv n : Nat) (m : ℤ) (hm : m * m ∣ (B : ℤ)) (h : (inv : ℤ) * n ≡ 1 [ZMOD m]) :
    ((minvStep inv n : ℕ) : ℤ) * n ≡ 1 [ZMOD (m * m)] := by
  have h1 := ((minvStep_modEq inv n).of_dvd hm).mul_right (n : ℤ)
  refine h1.trans ?_
  have := newton_step m inv n h
  rwa [show (inv : ℤ) * (2 - n * inv) * n = (2 * inv - inv * inv * n) * n by ring] at this

theorem modlimb_invert_mul (n : Nat) (hodd : n % 2 = 1) : (n * modlimb_invert n) % B = 1 := by
  unfold modlimb_invert
  simp only
  have hidx : (n / 2) &&& 0x7F = (n / 2) % 128 := by
    have : (0x7F : Nat) = 2 ^ 7 - 1 := by norm_num
    rw [this, Nat.and_two_pow_sub_one_eq_mod]
  rw [hidx]
  have hi : (n / 2) % 128 < 128 := Nat.mod_lt _ (by norm_num)
  have ht := minv_tab_ok _ hi
  have hn256 : n % 256 = 2 * ((n / 2) % 128) + 1 := by omega
  generalize Gen.modlimbInvertTab.getD ((n / 2) % 128) 0 = inv0 at *
  have h0 : (inv0 : ℤ) * n ≡ 1 [ZMOD (2 ^ 8 : ℤ)] := by
    have : (inv0 * n) % 256 = 1 := by rw [Nat.mul_mod, hn256, Nat.mod_mul_mod]; exact ht
    have h := congrArg (Nat.cast : ℕ → ℤ) this
    rw [Int.natCast_mod] at h
    push_cast at h
    show ((inv0 : ℤ) * n) % (2 ^ 8) = 1 % (2 ^ 8)
    norm_num at h ⊢; exact h
  have hB : (B : ℤ) = 2 ^ 64 := by rw [B_eq_pow]; norm_num
  have h1 := minvStep_lift inv0 n (2 ^ 8) (by rw [hB]; exact ⟨2 ^ 48, by norm_num⟩) h0
  have e1 : (2 ^ 8 * 2 ^ 8 : ℤ) = 2 ^ 16 := by norm_num
  rw [e1] at h1
  have h2 := minvStep_lift _ n (2 ^ 16) (by rw [hB]; exact ⟨2 ^ 32, by norm_num⟩) h1
  have e2 : (2 ^ 16 * 2 ^ 16 : ℤ) = 2 ^ 32 := by norm_num
  rw [e2] at h2
  have h3 := minvStep_lift _ n (2 ^ 32) (by rw [hB]; exact ⟨1, by norm_num⟩) h2
  have e3 : (2 ^ 32 * 2 ^ 32 : ℤ) = B := by rw [hB]; norm_num
  rw [e3] at h3
  generalize minvStep (minvStep (minvStep inv0 n) n) n = inv3 at *
  rw [Nat.mul_mod, Nat.mod_mod, ← Nat.mul_mod, Nat.mul_comm]
  have : ((inv3 * n : ℕ) : ℤ) % (B : ℤ) = 1 % (B : ℤ) := by push_cast; exact h3
  have h1B : (1 : ℤ) % (B : ℤ) = 1 := by rw [hB]; norm_num
  rw [h1B, ← Int.natCast_mod] at this
  exact_mod_cast this


/-! ### the 2-adic division recurrence `exactQ`: limb step, invariant, uniqueness -/

/-- the quotient-limb step: l = x·inv mod B satisfies l·d = hi·B + x -/
theorem hensel_limb (x d inv : Nat) (hx : x < B) (hinv : (d * inv) % B = 1) :
    ((x * inv) % B) * d = (((x * inv) % B) * d / B) * B + x := by
  have h := Nat.div_add_mod (((x * inv) % B) * d) B
  have : (((x * inv) % B) * d) % B = x := by
    rw [Nat.mul_mod, Nat.mod_mod, ← Nat.mul_mod, Nat.mul_assoc, Nat.mul_comm inv d, Nat.mul_mod, hinv,
      Nat.mul_one, Nat.mod_mod, Nat.mod_eq_of_lt hx]
  rw [this] at h
  rw [Nat.mul_comm (_ / B) B]; exact h.symm

theorem hi_lt (l d : Nat) (hl : l < B) : l * d / B < d ∨ d = 0 := by
  rcases Nat.eq_zero_or_pos d with h | h
  · right; exact h
  · left; rw [Nat.div_lt_iff_lt_mul B_pos, Nat.mul_comm d B]; exact Nat.mul_lt_mul_of_pos_right hl h

/- `divexactOddGo`, `divexactEvenGo`, `modexactGo` here and `hensel11Go` in DivWordHensel.lean run one recurrence and differ
   in how they keep the carry into the next limb (`c + hi(l·d)`, `h + c`, the assembly's `(x, cb, h)`).  `exactQ` keeps it as
   one number `t`; step and invariant are proved for it, each loop has an agreement lemma. -/

/-- quotient limb of the 2-adic division of `x - t` by `d` (`m = d⁻¹ mod B`) -/
def exQ (m x t : Nat) : Nat := ((x + B - t) % B * m) % B
/-- carry into the next limb: the borrow of `x - t` plus the high word of `q·d` -/
def exC (d m x t : Nat) : Nat := (if x < t then 1 else 0) + exQ m x t * d / B

/-- quotient limbs (least significant first) and final carry -/
def exactQ (d m : Nat) : List Nat → Nat → List Nat × Nat
  | [], t => ([], t)
  | x :: xs, t => (exQ m x t :: (exactQ d m xs (exC d m x t)).1, (exactQ d m xs (exC d m x t)).2)

/- Rewrite with these two.  Closing a goal about `exactQ d m (x :: xs) t` by `simp [exactQ]`, `unfold` or up to defeq
   (`exact`, `rwa`) makes the kernel unfold a recursion with `% B` inside: minutes, then "deep recursion detected". -/
theorem exactQ_nil (d m t : Nat) : exactQ d m [] t = ([], t) := rfl
theorem exactQ_cons (d m x : Nat) (xs : List Nat) (t : Nat) : exactQ d m (x :: xs) t =
    (exQ m x t :: (exactQ d m xs (exC d m x t)).1, (exactQ d m xs (exC d m x t)).2) := rfl

/-- one limb: `x + t'·B = q·d + t`, and the new carry is at most `d` whatever `t` was -/
theorem ex_step (d m x t : Nat) (hx : x < B) (ht : t < B) (hd0 : 0 < d) (hinv : (d * m) % B = 1) :
    exQ m x t < B ∧ exC d m x t ≤ d ∧ x + exC d m x t * B = exQ m x t * d + t := by
  unfold exC exQ
  have hy : x + (if x < t then 1 else 0) * B = (x + B - t) % B + t := by
    rw [sub_borrow_lt x t hx ht, Nat.mul_comm]
  have hyB : (x + B - t) % B < B := Nat.mod_lt _ B_pos
  generalize (x + B - t) % B = y at *
  have hq := hensel_limb y d m hyB hinv
  have hqB : (y * m) % B < B := Nat.mod_lt _ B_pos
  have hh := (hi_lt ((y * m) % B) d hqB).resolve_right (by omega)
  generalize (y * m) % B = q at *
  generalize q * d / B = h' at *
  refine ⟨hqB, by split <;> omega, ?_⟩
  rw [hq, Nat.add_mul, ← Nat.add_assoc, hy]; ring

theorem exactQ_spec (d m : Nat) (hd0 : 0 < d) (hdB : d < B) (hinv : (d * m) % B = 1) :
    ∀ (xs : List Nat) (t : Nat), t < B → Limbs xs →
    val xs + (exactQ d m xs t).2 * B ^ xs.length = val (exactQ d m xs t).1 * d + t ∧
      (exactQ d m xs t).2 ≤ max t d ∧ Limbs (exactQ d m xs t).1 ∧ (exactQ d m xs t).1.length = xs.length
  | [], t, _, _ =>
    ⟨by rw [exactQ_nil, val_nil, List.length_nil, pow_zero, Nat.mul_one, Nat.zero_mul], Nat.le_max_left _ _, Limbs_nil, rfl⟩
  | x :: xs, t, ht, hl => by
    have ⟨hx, hxs⟩ := Limbs_cons.mp hl
    obtain ⟨a1, a2, a3⟩ := ex_step d m x t hx ht hd0 hinv
    obtain ⟨e, hc, hL, hlen⟩ := exactQ_spec d m hd0 hdB hinv xs (exC d m x t) (by omega) hxs
    rw [exactQ_cons]
    refine ⟨?_, by rw [Nat.max_eq_right a2] at hc; exact Nat.le_trans hc (Nat.le_max_right _ _), Limbs_cons.mpr ⟨a1, hL⟩,
      by rw [List.length_cons, hlen, List.length_cons]⟩
    rw [val_cons, val_cons, List.length_cons, pow_succ]
    zify at e a3 ⊢
    linear_combination (B : ℤ) * e + a3

theorem exactQ_carry_le (d m : Nat) (hd0 : 0 < d) (hdB : d < B) (hinv : (d * m) % B = 1) (x : Nat) (xs : List Nat)
    (t : Nat) (ht : t < B) (hl : Limbs (x :: xs)) : (exactQ d m (x :: xs) t).2 ≤ d := by
  have ⟨hx, hxs⟩ := Limbs_cons.mp hl
  have a2 := (ex_step d m x t hx ht hd0 hinv).2.1
  have := (exactQ_spec d m hd0 hdB hinv xs (exC d m x t) (by omega) hxs).2.1
  rw [Nat.max_eq_right a2] at this
  rw [exactQ_cons]; exact this

/-- the 2-adic quotient and carry are determined by the invariant: `d` is odd -/
theorem exactQ_unique (d m : Nat) (hodd : d % 2 = 1) (hdB : d < B) (hinv : (d * m) % B = 1) (xs : List Nat) (t Q C : Nat)
    (ht : t < B) (hl : Limbs xs) (hQ : Q < B ^ xs.length) (h : val xs + C * B ^ xs.length = Q * d + t) :
    Q = val (exactQ d m xs t).1 ∧ C = (exactQ d m xs t).2 := by
  obtain ⟨e, _, hL, hlen⟩ := exactQ_spec d m (by omega) hdB hinv xs t ht hl
  have hQ' : val (exactQ d m xs t).1 < B ^ xs.length := hlen ▸ val_lt _ hL
  have hcop : Nat.Coprime (B ^ xs.length) d := B_pow xs.length ▸ coprime_two_pow_odd (64 * xs.length) d hodd
  generalize val (exactQ d m xs t).1 = Q' at *
  generalize (exactQ d m xs t).2 = C' at *
  generalize B ^ xs.length = P at *
  have hsum : Q * d + C' * P = Q' * d + C * P := by omega
  have hm : Q * d ≡ Q' * d [MOD P] := by
    have := congrArg (· % P) hsum
    simp only [Nat.add_mul_mod_self_right] at this
    exact this
  have hQQ := Nat.ModEq.eq_of_lt_of_lt (Nat.ModEq.cancel_right_of_coprime hcop hm) hQ hQ'
  subst hQQ
  exact ⟨rfl, Nat.eq_of_mul_eq_mul_right (by omega : 0 < P) (by omega)⟩

/-- the C's borrow test `l > s` after `l = s - t` is `s < t` -/
theorem borrow_test (s t : Nat) (hs : s < B) (ht : t < B) :
    (if (s + B - t) % B > s then 1 else 0) = if s < t then 1 else 0 := by
  have h1 := sub_borrow s t hs ht
  rw [sub_borrow_lt s t hs ht, boolToNat_decide] at h1
  exact (Nat.eq_of_mul_eq_mul_left B_pos (Nat.add_left_cancel h1)).symm

/-! ### mpn_divexact_1 (divexact_1.c): the odd loop, the even loop, the routine -/

theorem divexactOddGo_cons (d inv l s : Nat) (rest : List Nat) (c : Nat) :
    divexactOddGo d inv l (s :: rest) c =
      (((s + B - (c + (umul_ppmm l d).1) % B) % B * inv) % B) ::
        divexactOddGo d inv (((s + B - (c + (umul_ppmm l d).1) % B) % B * inv) % B) rest
          (if (s + B - (c + (umul_ppmm l d).1) % B) % B > s then 1 else 0) := rfl

/-- the shift == 0 loop of divexact_1.c keeps the carry as `c + hi(l·d)`, `l` the previous quotient limb -/
theorem divexactOddGo_eq_exactQ (d m : Nat) (hdB : d < B) : ∀ (rest : List Nat) (l c : Nat), l < B → c ≤ 1 →
    Limbs rest → divexactOddGo d m l rest c = (exactQ d m rest (c + l * d / B)).1
  | [], _, _, _, _, _ => rfl
  | s :: rest, l, c, hl, hc, hlimbs => by
    have ⟨hs, hrest⟩ := Limbs_cons.mp hlimbs
    have hh : c + l * d / B < B := by
      rcases hi_lt l d hl with h | h
      · omega
      · subst h; simp only [Nat.mul_zero, Nat.zero_div, Nat.add_zero]; have := one_lt_B; omega
    rw [divexactOddGo_cons, umul_ppmm_eq]
    simp only
    rw [Nat.mod_eq_of_lt hh]
    generalize c + l * d / B = t at *
    rw [divexactOddGo_eq_exactQ d m hdB rest _ _ (Nat.mod_lt _ B_pos) (by split <;> omega) hrest,
      borrow_test s t hs hh, exactQ_cons]
    rfl


theorem exact_finish (d N Q cout n : Nat) (hodd : d % 2 = 1) (h : N + cout * B ^ n = d * Q) (hQ : Q < B ^ n)
    (hdvd : d ∣ N) : N = d * Q := by
  have hd0 : 0 < d := by omega
  have h1 : d ∣ cout * B ^ n := by
    have : d ∣ N + cout * B ^ n := by rw [h]; exact Dvd.intro _ rfl
    exact (Nat.dvd_add_right hdvd).mp this
  have hcop : Nat.Coprime d (B ^ n) := B_pow n ▸ (coprime_two_pow_odd (64 * n) d hodd).symm
  have h2 : d ∣ cout := hcop.dvd_of_dvd_mul_right h1
  have hlt : cout < d := by
    have hP : 0 < B ^ n := by have := B_pos; positivity
    have : cout * B ^ n < d * B ^ n := by
      have : d * Q < d * B ^ n := Nat.mul_lt_mul_of_pos_left hQ hd0
      omega
    exact Nat.lt_of_mul_lt_mul_right this
  have : cout = 0 := Nat.eq_zero_of_dvd_of_lt h2 hlt
  rw [this] at h; simpa using h

theorem exactQ_exact (d m : Nat) (hodd : d % 2 = 1) (hdB : d < B) (hinv : (d * m) % B = 1) (xs : List Nat)
    (hl : Limbs xs) (hdvd : d ∣ val xs) :
    val xs = d * val (exactQ d m xs 0).1 ∧ Limbs (exactQ d m xs 0).1 ∧ (exactQ d m xs 0).1.length = xs.length := by
  obtain ⟨e, _, hL, hlen⟩ := exactQ_spec d m (by omega) hdB hinv xs 0 B_pos hl
  rw [Nat.add_zero, Nat.mul_comm (val _) d] at e
  exact ⟨exact_finish d _ _ _ _ hodd e (hlen ▸ val_lt _ hL) hdvd, hL, hlen⟩

theorem ctz_isCtz : IsCtz (· < B) count_trailing_zeros := isCtz_halving ctzGo (fun _ => rfl) (fun _ _ _ => rfl) 64

theorem ctz_spec (x : Nat) (h0 : 0 < x) (hx : x < B) :
    2 ^ count_trailing_zeros x ∣ x ∧ (x / 2 ^ count_trailing_zeros x) % 2 = 1 ∧ count_trailing_zeros x ≤ 63 :=
  ⟨(ctz_isCtz x h0 hx).1, (ctz_isCtz x h0 hx).2, Nat.le_of_lt_succ (ctz_isCtz.lt_of_lt_pow h0 hx hx)⟩


theorem divexactEvenGo_cons (d inv sh s sn : Nat) (rest : List Nat) (c : Nat) :
    divexactEvenGo d inv sh s (sn :: rest) c =
      (((((s >>> sh) ||| ((sn <<< (64 - sh)) % B)) + B - c) % B * inv) % B) ::
        divexactEvenGo d inv sh sn rest
          (((if ((((s >>> sh) ||| ((sn <<< (64 - sh)) % B)) + B - c) % B) > ((s >>> sh) ||| ((sn <<< (64 - sh)) % B))
              then 1 else 0) +
            (((((s >>> sh) ||| ((sn <<< (64 - sh)) % B)) + B - c) % B * inv) % B) * d / B) % B) := rfl

/-- the shift != 0 loop of divexact_1.c is the odd loop run on `mpn_rshift` of the dividend (`rshiftGo`) -/
theorem divexactEvenGo_eq_exactQ (d m sh : Nat) (hd0 : 0 < d) (hdB : d < B) (hinv : (d * m) % B = 1) :
    ∀ (rest : List Nat) (s c : Nat), c < B → Limbs (rshiftGo sh (s :: rest)) →
    divexactEvenGo d m sh s rest c = (exactQ d m (rshiftGo sh (s :: rest)) c).1
  | [], s, c, _, _ => rfl
  | sn :: rest, s, c, hc, hl => by
    have step : rshiftGo sh (s :: sn :: rest) = ((s >>> sh) ||| ((sn <<< (64 - sh)) % B)) :: rshiftGo sh (sn :: rest) := rfl
    rw [step] at hl ⊢
    rw [divexactEvenGo_cons]
    have ⟨hls, hrest⟩ := Limbs_cons.mp hl
    generalize (s >>> sh) ||| ((sn <<< (64 - sh)) % B) = ls at *
    have hc' := (ex_step d m ls c hls hc hd0 hinv).2.1
    rw [exactQ_cons, borrow_test ls c hls hc]
    show exQ m ls c :: divexactEvenGo d m sh sn rest (exC d m ls c % B) = _
    rw [Nat.mod_eq_of_lt (by omega), divexactEvenGo_eq_exactQ d m sh hd0 hdB hinv rest sn _ (by omega) hrest]

theorem divexact_even_branch (s s1 : Nat) (rest : List Nat) (d d' sh inv : Nat) (hs : s < B) (hrest : Limbs (s1 :: rest))
    (hd' : d = 2 ^ sh * d') (hodd : d' % 2 = 1) (hd'B : d' < B) (hinv : (d' * inv) % B = 1)
    (hsh63 : sh ≤ 63) (hdvd : d ∣ val (s :: s1 :: rest)) :
    val (divexactEvenGo d' inv sh s (s1 :: rest) 0) * d = val (s :: s1 :: rest) ∧
      Limbs (divexactEvenGo d' inv sh s (s1 :: rest) 0) ∧
      (divexactEvenGo d' inv sh s (s1 :: rest) 0).length = rest.length + 1 + 1 := by
  have hp : 0 < 2 ^ sh := by positivity
  have hl := Limbs_cons.mpr ⟨hs, hrest⟩
  obtain ⟨_, hL, hlen⟩ := rshiftGo_val sh (by omega) (s1 :: rest) s hl
  have hv := rshiftGo_div sh (by omega) s (s1 :: rest) hl
  obtain ⟨SV, hSV⟩ : 2 ^ sh ∣ val (s :: s1 :: rest) := Dvd.dvd.trans ⟨d', hd'⟩ hdvd
  rw [hSV, Nat.mul_div_cancel_left _ hp] at hv
  have hd'SV : d' ∣ SV := by
    rw [hSV, hd'] at hdvd
    exact Nat.dvd_of_mul_dvd_mul_left hp hdvd
  rw [divexactEvenGo_eq_exactQ d' inv sh (by omega) hd'B hinv (s1 :: rest) s 0 B_pos hL]
  obtain ⟨e, eL, elen⟩ := exactQ_exact d' inv hodd hd'B hinv _ hL (hv ▸ hd'SV)
  rw [hv] at e
  exact ⟨by rw [hSV, e, hd']; ring, eL, by rw [elen, hlen]; rfl⟩

theorem divexact_odd_branch (s s1 : Nat) (rest : List Nat) (d inv : Nat) (hs : s < B) (hrest : Limbs (s1 :: rest))
    (hodd : d % 2 = 1) (hdB : d < B) (hinv : (d * inv) % B = 1) (hdvd : d ∣ val (s :: s1 :: rest)) :
    val (((s * inv) % B) :: divexactOddGo d inv ((s * inv) % B) (s1 :: rest) 0) * d = val (s :: s1 :: rest) ∧
      Limbs (((s * inv) % B) :: divexactOddGo d inv ((s * inv) % B) (s1 :: rest) 0) ∧
      (((s * inv) % B) :: divexactOddGo d inv ((s * inv) % B) (s1 :: rest) 0).length = rest.length + 1 + 1 := by
  -- the first quotient limb, computed before the loop, is the recurrence's first step from carry 0
  have e0 : ((s * inv) % B) :: divexactOddGo d inv ((s * inv) % B) (s1 :: rest) 0 =
      (exactQ d inv (s :: s1 :: rest) 0).1 := by
    have q0 : exQ inv s 0 = (s * inv) % B := by
      unfold exQ; rw [Nat.sub_zero, Nat.add_mod_right, Nat.mod_eq_of_lt hs]
    have c0 : exC d inv s 0 = 0 + (s * inv) % B * d / B := by
      unfold exC; rw [q0, if_neg (Nat.not_lt_zero s)]
    rw [divexactOddGo_eq_exactQ d inv hdB _ _ 0 (Nat.mod_lt _ B_pos) (Nat.zero_le 1) hrest,
      exactQ_cons (x := s), q0, c0]
  obtain ⟨e, eL, elen⟩ := exactQ_exact d inv hodd hdB hinv _ (Limbs_cons.mpr ⟨hs, hrest⟩) hdvd
  rw [e0]
  exact ⟨by rw [Nat.mul_comm]; exact e.symm, eL, elen⟩

theorem divexact_1_spec (n : List Nat) (d : Nat) (hn : Limbs n) (hne : n ≠ []) (hd0 : 0 < d) (hdB : d < B)
    (hdvd : d ∣ val n) :
    val (divexact_1 n d) * d = val n ∧ Limbs (divexact_1 n d) ∧ (divexact_1 n d).length = n.length := by
  cases n with
  | nil => exact absurd rfl hne
  | cons s rest =>
  have ⟨hs, hrest⟩ := Limbs_cons.mp hn
  cases rest with
  | nil =>
    show val [s / d] * d = val [s] ∧ Limbs [s / d] ∧ _
    have hv : ∀ x, val [x] = x := fun x => by rw [val_cons, val_nil, Nat.mul_zero, Nat.add_zero]
    rw [hv, hv] at *
    exact ⟨Nat.div_mul_cancel hdvd, Limbs_cons.mpr ⟨Nat.lt_of_le_of_lt (Nat.div_le_self _ _) hs, Limbs_nil⟩, rfl⟩
  | cons s1 rest =>
  -- the odd part of the divisor and its inverse
  obtain ⟨sh, hsh_def, hshdvd, hodd, hsh63⟩ : ∃ sh, (if d &&& 1 = 0 then count_trailing_zeros d else 0) = sh ∧
      2 ^ sh ∣ d ∧ (d / 2 ^ sh) % 2 = 1 ∧ sh ≤ 63 := by
    have h1 : d &&& 1 = d % 2 := by
      have : (1 : Nat) = 2 ^ 1 - 1 := by norm_num
      rw [this, Nat.and_two_pow_sub_one_eq_mod]
    rw [h1]
    by_cases he : d % 2 = 0
    · obtain ⟨a, b, c⟩ := ctz_spec d hd0 hdB
      exact ⟨_, if_pos he, a, b, c⟩
    · refine ⟨0, if_neg he, ?_, ?_, by omega⟩
      · rw [pow_zero]; exact one_dvd d
      · rw [pow_zero, Nat.div_one]; omega
  have hd' : d = 2 ^ sh * (d / 2 ^ sh) := (Nat.mul_div_cancel' hshdvd).symm
  have hd'B : d / 2 ^ sh < B := Nat.lt_of_le_of_lt (Nat.div_le_self _ _) hdB
  generalize hdd : d / 2 ^ sh = d' at *
  have hinv := modlimb_invert_mul d' hodd
  have hn : (s :: s1 :: rest).length = rest.length + 1 + 1 := rfl
  rw [hn]
  have hunf : divexact_1 (s :: s1 :: rest) d =
      if sh != 0 then divexactEvenGo d' (modlimb_invert d') sh s (s1 :: rest) 0
      else ((s * modlimb_invert d') % B) :: divexactOddGo d' (modlimb_invert d') ((s * modlimb_invert d') % B) (s1 :: rest) 0 := by
    unfold divexact_1
    simp only
    rw [hsh_def, Nat.shiftRight_eq_div_pow, hdd]
  rw [hunf]
  by_cases h0 : sh = 0
  · subst h0
    have hdd' : d = d' := by rw [hd', pow_zero, Nat.one_mul]
    subst hdd'
    simp only [bne_self_eq_false, Bool.false_eq_true, if_false]
    exact divexact_odd_branch s s1 rest d _ hs hrest hodd hdB hinv hdvd
  · have hne0 : (sh != 0) = true := by simpa using h0
    simp only [hne0, if_true]
    exact divexact_even_branch s s1 rest d d' sh _ hs hrest hd' hodd hd'B hinv hsh63 hdvd

/-! ### mpn_divexact_by3c (divexact_by3c.c) -/

/-- the arithmetic of one limb of the division by 3, `m = (B−1)/3`: from `x·m = dx·B + ax`, i.e.
    `x = 3·dx + δ` and `ax + dx = δ·m`, the limb `q = m·r − ax mod B` with borrow `b` satisfies
    `3·q + r = x + B·(r + 3·b − δ)`, and the new accumulator `q − dx − b` is `m·(r + 3·b − δ)` -/
theorem by3_core (dx ax δ r x : Nat) (hδ : δ ≤ 3) (hx : x = 3 * dx + δ)
    (hax : ax + dx = δ * 6148914691236517205) (hxB : x < 18446744073709551616) (hr : r ≤ 2) :
    ∃ r', r' ≤ 2 ∧
      (((6148914691236517205 * r + 18446744073709551616 - ax) % 18446744073709551616 + 18446744073709551616 -
        (dx + (if (6148914691236517205 * r + 18446744073709551616 - ax) % 18446744073709551616 > 6148914691236517205 * r then 1 else 0)) % 18446744073709551616) % 18446744073709551616)
        = 6148914691236517205 * r' ∧
      x + r' * 18446744073709551616 = 3 * ((6148914691236517205 * r + 18446744073709551616 - ax) % 18446744073709551616) + r := by
  have hq : (6148914691236517205 * r + 18446744073709551616 - ax) % 18446744073709551616 < 18446744073709551616 :=
    Nat.mod_lt _ (by norm_num)
  have F := sub_borrow (6148914691236517205 * r) ax (by rw [B_eq]; omega) (by rw [B_eq]; omega)
  rw [boolToNat_decide, B_eq] at F
  generalize (6148914691236517205 * r + 18446744073709551616 - ax) % 18446744073709551616 = q at *
  have hb : (if q > 6148914691236517205 * r then 1 else 0) ≤ 1 := by split <;> omega
  generalize (if q > 6148914691236517205 * r then 1 else 0) = b at *
  obtain ⟨r', hr'⟩ : ∃ r', r' + δ = r + 3 * b := ⟨r + 3 * b - δ, by omega⟩
  refine ⟨r', by omega, ?_, by omega⟩
  rw [Nat.mod_eq_of_lt (show dx + b < 18446744073709551616 by omega),
    show q + 18446744073709551616 - (dx + b) = 6148914691236517205 * r' + 18446744073709551616 by omega,
    Nat.add_mod_right, Nat.mod_eq_of_lt (by omega)]
/-- one limb of the division by 3: with accumulator m·r (r = borrow 0..2) the limb produced is the
    exact-division limb and the new accumulator is m·r' -/
theorem by3_step (x r : Nat) (hx : x < B) (hr : r ≤ 2) :
    ∃ r', r' ≤ 2 ∧
      ((((B - 1) / 3 * r + B - (x * ((B - 1) / 3)) % B) % B + B -
        ((x * ((B - 1) / 3)) / B + (if ((B - 1) / 3 * r + B - (x * ((B - 1) / 3)) % B) % B > (B - 1) / 3 * r then 1 else 0)) % B) % B)
        = (B - 1) / 3 * r' ∧
      x + r' * B = 3 * (((B - 1) / 3 * r + B - (x * ((B - 1) / 3)) % B) % B) + r ∧
      ((B - 1) / 3 * r + B - (x * ((B - 1) / 3)) % B) % B < B := by
  have hm : (B - 1) / 3 = 6148914691236517205 := by rw [B_eq]
  rw [hm]
  simp only [B_eq] at *
  have hdm := Nat.div_add_mod (x * 6148914691236517205) 18446744073709551616
  have hml := Nat.mod_lt (x * 6148914691236517205) (by norm_num : 0 < 18446744073709551616)
  generalize (x * 6148914691236517205) / 18446744073709551616 = dx at *
  generalize (x * 6148914691236517205) % 18446744073709551616 = ax at *
  have hdxlt : dx + (if (6148914691236517205 * r + 18446744073709551616 - ax) % 18446744073709551616 >
      6148914691236517205 * r then 1 else 0) < 18446744073709551616 := by split <;> omega
  obtain ⟨r', h1, h2, h3⟩ := by3_core dx ax (x - 3 * dx) r x (by omega) (by omega) (by omega) hx hr
  exact ⟨r', h1, h2, h3, by omega⟩

theorem divexactBy3Go_cons (m x : Nat) (xs : List Nat) (acc : Nat) :
    divexactBy3Go m (x :: xs) acc =
      (((acc + B - (x * m) % B) % B) ::
        (divexactBy3Go m xs
          (((acc + B - (x * m) % B) % B + B -
            ((x * m) / B + (if (acc + B - (x * m) % B) % B > acc then 1 else 0)) % B) % B)).1,
       (divexactBy3Go m xs
          (((acc + B - (x * m) % B) % B + B -
            ((x * m) / B + (if (acc + B - (x * m) % B) % B > acc then 1 else 0)) % B) % B)).2) := rfl

theorem divexactBy3Go_spec (xs : List Nat) : ∀ r, r ≤ 2 → Limbs xs →
    ∃ r', r' ≤ 2 ∧ (divexactBy3Go ((B - 1) / 3) xs ((B - 1) / 3 * r)).2 = (B - 1) / 3 * r' ∧
      val xs + r' * B ^ xs.length = 3 * val (divexactBy3Go ((B - 1) / 3) xs ((B - 1) / 3 * r)).1 + r ∧
      Limbs (divexactBy3Go ((B - 1) / 3) xs ((B - 1) / 3 * r)).1 ∧
      (divexactBy3Go ((B - 1) / 3) xs ((B - 1) / 3 * r)).1.length = xs.length := by
  induction xs with
  | nil => intro r hr _; exact ⟨r, hr, rfl, by simp [divexactBy3Go], Limbs_nil, rfl⟩
  | cons x xs ih =>
    intro r hr hl
    have ⟨hx, hxs⟩ := Limbs_cons.mp hl
    obtain ⟨r1, hr1, hacc, hval, hq⟩ := by3_step x r hx hr
    rw [divexactBy3Go_cons, hacc]
    obtain ⟨r', hr', e1, e2, e3, e4⟩ := ih r1 hr1 hxs
    refine ⟨r', hr', e1, ?_, Limbs_cons.mpr ⟨hq, e3⟩, by rw [List.length_cons, e4, List.length_cons]⟩
    rw [val_cons, val_cons, List.length_cons, pow_succ]
    generalize ((B - 1) / 3 * r + B - (x * ((B - 1) / 3)) % B) % B = q at *
    zify at e2 hval ⊢
    linear_combination (B : ℤ) * e2 + hval

theorem divexact_by3c_spec (x : List Nat) (c : Nat) (hx : Limbs x) (hc : c ≤ 2) :
    val x + (divexact_by3c x c).2 * B ^ x.length = 3 * val (divexact_by3c x c).1 + c ∧
    (divexact_by3c x c).2 ≤ 2 ∧ Limbs (divexact_by3c x c).1 ∧ (divexact_by3c x c).1.length = x.length := by
  have hm : (B - 1) / 3 = 6148914691236517205 := by rw [B_eq]
  have hc0 : (c * ((B - 1) / 3)) % B = (B - 1) / 3 * c := by
    rw [hm]; simp only [B_eq]; omega
  obtain ⟨r', hr', e1, e2, e3, e4⟩ := divexactBy3Go_spec x c hc hx
  have hunf : divexact_by3c x c = ((divexactBy3Go ((B - 1) / 3) x ((c * ((B - 1) / 3)) % B)).1,
      ((divexactBy3Go ((B - 1) / 3) x ((c * ((B - 1) / 3)) % B)).2 * (B - 3)) % B) := rfl
  rw [hunf, hc0, e1]
  have hret : ((B - 1) / 3 * r' * (B - 3)) % B = r' := by
    rw [hm]; simp only [B_eq]
    have : r' = 0 ∨ r' = 1 ∨ r' = 2 := by omega
    rcases this with rfl | rfl | rfl <;> norm_num
  simp only
  rw [hret]
  exact ⟨e2, hr', e3, e4⟩

/-! ### mpn_modexact_1c_odd (mpn/x86_64/modexact_1c_odd.as) -/

theorem modexactGo_nil (d inv x cb h : Nat) :
    modexactGo d inv [] x cb h = ((modexactStep d inv x cb h).1 + (modexactStep d inv x cb h).2) % B := rfl

theorem modexactGo_cons (d inv s : Nat) (ss : List Nat) (x cb h : Nat) :
    modexactGo d inv (s :: ss) x cb h =
      modexactGo d inv ss ((s + B - (modexactStep d inv x cb h).1) % B)
        (if s < (modexactStep d inv x cb h).1 then 1 else 0) (modexactStep d inv x cb h).2 := by
  unfold modexactGo
  rw [List.foldl_cons]
  rfl

theorem modexactStep_fst (d inv x cb h : Nat) :
    (modexactStep d inv x cb h).1 = cb + (if x < h then 1 else 0) := rfl
theorem modexactStep_snd (d inv x cb h : Nat) :
    (modexactStep d inv x cb h).2 = (((x + B - h) % B * inv) % B * d) / B := rfl

/-- the assembly subtracts in two stages (`s - b` when the limb is loaded, `- h` one trip later) and sums the borrows -/
theorem two_stage_sub (s b h : Nat) (hs : s < B) (hb : b ≤ 1) (ht : b + h < B) :
    ((s + B - b) % B + B - h) % B = (s + B - (b + h)) % B ∧
    (if s < b then 1 else 0) + (if (s + B - b) % B < h then 1 else 0) = if s < b + h then 1 else 0 := by
  simp only [B_eq] at *
  constructor
  · omega
  · split_ifs <;> omega

/-- the assembly keeps `(x, cb, h)` = (current limb minus the previous borrow `b`, the borrow of that subtraction,
    high product); the carry of the recurrence is `b + h` -/
theorem modexactGo_eq_exactQ (d m : Nat) (hd0 : 0 < d) (hdB : d < B) (hinv : (d * m) % B = 1) :
    ∀ (rest : List Nat) (s b h : Nat), s < B → b ≤ 1 → b + h < B → Limbs rest →
    modexactGo d m rest ((s + B - b) % B) (if s < b then 1 else 0) h = (exactQ d m (s :: rest) (b + h)).2 := by
  intro rest
  induction rest with
  | nil =>
    intro s b h hs hb ht _
    obtain ⟨e1, e2⟩ := two_stage_sub s b h hs hb ht
    have hc := (ex_step d m s (b + h) hs ht hd0 hinv).2.1
    rw [modexactGo_nil, modexactStep_fst, modexactStep_snd, e1, e2, exactQ_cons, exactQ_nil]
    exact Nat.mod_eq_of_lt (Nat.lt_of_le_of_lt hc hdB)
  | cons s' rest ih =>
    intro s b h hs hb ht hl
    have ⟨hs', hrest⟩ := Limbs_cons.mp hl
    obtain ⟨e1, e2⟩ := two_stage_sub s b h hs hb ht
    have hc := (ex_step d m s (b + h) hs ht hd0 hinv).2.1
    have hb' : (if s < b + h then 1 else 0) ≤ 1 := by split <;> omega
    rw [modexactGo_cons, modexactStep_fst, modexactStep_snd, e1, e2,
      ih s' _ _ hs' hb' (by show exC d m s (b + h) < B; omega) hrest, exactQ_cons (x := s)]
    rfl

theorem modexact_1c_odd_eq (s : Nat) (ss : List Nat) (d c : Nat) (hl : Limbs (s :: ss)) (hodd : d % 2 = 1) (hdB : d < B)
    (hinv : (d * modlimb_invert d) % B = 1) (hc : c < B) :
    modexact_1c_odd (s :: ss) d c = (exactQ d (modlimb_invert d) (s :: ss) c).2 := by
  have ⟨hs, hss⟩ := Limbs_cons.mp hl
  have := modexactGo_eq_exactQ d _ (by omega) hdB hinv ss s 0 c hs (Nat.zero_le 1) (by omega) hss
  rw [Nat.sub_zero, Nat.add_mod_right, Nat.mod_eq_of_lt hs, if_neg (Nat.not_lt_zero s), Nat.zero_add] at this
  exact this

theorem modexact_1c_odd_spec (a : List Nat) (d c : Nat) (ha : Limbs a) (hne : a ≠ []) (hodd : d % 2 = 1)
    (hdB : d < B) (hc : c < B) :
    ∃ q, val a + modexact_1c_odd a d c * B ^ a.length = q * d + c ∧
      modexact_1c_odd a d c ≤ d ∧ (c < d → modexact_1c_odd a d c < d) := by
  cases a with
  | nil => exact absurd rfl hne
  | cons s ss =>
    have hd0 : 0 < d := by omega
    have hinv := modlimb_invert_mul d hodd
    obtain ⟨e, _, hL, hlen⟩ := exactQ_spec d _ hd0 hdB hinv (s :: ss) c hc ha
    have hcd := exactQ_carry_le d _ hd0 hdB hinv s ss c hc ha
    rw [modexact_1c_odd_eq s ss d c ha hodd hdB hinv hc]
    generalize exactQ d (modlimb_invert d) (s :: ss) c = r at *
    refine ⟨val r.1, e, hcd, fun hcd' => ?_⟩
    -- Q < B^n and c < d force the carry below d
    have hQ := val_lt r.1 hL
    rw [hlen] at hQ
    have h1 : val r.1 * d + c < B ^ (s :: ss).length * d := by
      have : (val r.1 + 1) * d ≤ B ^ (s :: ss).length * d := Nat.mul_le_mul_right _ hQ
      have : (val r.1 + 1) * d = val r.1 * d + d := by ring
      omega
    have h2 : r.2 * B ^ (s :: ss).length < d * B ^ (s :: ss).length := by rw [Nat.mul_comm d]; omega
    exact Nat.lt_of_mul_lt_mul_right h2

end Mpir.DivWord
