/-
  C07 — mpz_gcdext / mpz_invert at the mpz layer.

  From the documented contract of mpn_gcdext (first cofactor only) derive the manual's acceptance
  predicate `gcdextOk` for mpz_gcdext (identity, normalisation of BOTH cofactors, all special cases),
  then the contract of mpz_invert, and uniqueness of the triple described by the manual.
-/
import MpirProofs.Lemmas.GcdSize
import Mathlib.Tactic.LinearCombination
import Mathlib.Tactic.NormNum
import Mathlib.Tactic.Positivity
import Mathlib.Algebra.Order.Ring.Abs
import Mathlib.Algebra.Order.Group.Int
import Mathlib.Algebra.Order.Group.Unbundled.Int
namespace Mpir.Gcd
open Mpir

/-- what the mpz layer assumes of mpn_gcdext: its documented contract on every call satisfying the
    C's ASSERTs (an ≥ n > 0, V's top limb non-zero) -/
def MpnGcdextContract : Prop :=
  ∀ U V : Nat, 0 < V → nlimbs V ≤ nlimbs U →
    mpnGcdextOk U V (mpn_gcdext U (nlimbs U) V (nlimbs V)).1 (mpn_gcdext U (nlimbs U) V (nlimbs V)).2

/-- u, v > 0, u ≠ v, u S + v T = 1, S normalised w.r.t. v  ⇒  T normalised w.r.t. u.
    (No assumption u ≥ v.) -/
theorem cofactor_coprime (u v S T : Int) (hu : 0 < u) (hv : 0 < v) (huv : u ≠ v)
    (hid : u * S + v * T = 1)
    (h1 : v = 2 → S = 1) (h2 : v ≠ 2 → 2 * |S| < v) (h0 : S = 0 ↔ v = 1) :
    (u = 2 → T = 1) ∧ (u ≠ 2 → 2 * |T| < u) ∧ (T = 0 ↔ u = 1) := by
  -- T = 0 when u = 1
  have hT0 : u = 1 → T = 0 := by
    intro h; subst h
    by_cases hv2 : v = 2
    · have := h1 hv2; subst hv2; omega
    · have hS := h2 hv2
      have hv3 : 3 ≤ v := by omega
      by_contra hT
      rcases lt_or_gt_of_ne hT with hT | hT
      · have : v * T ≤ v * (-1) := mul_le_mul_of_nonneg_left (by omega) (by omega)
        cases abs_cases S <;> omega
      · have : v * 1 ≤ v * T := mul_le_mul_of_nonneg_left (by omega) (by omega)
        cases abs_cases S <;> omega
  refine ⟨?_, ?_, ?_, hT0⟩
  · intro h; subst h
    by_cases hv1 : v = 1
    · have := h0.mpr hv1; subst hv1; omega
    by_cases hv2 : v = 2
    · subst hv2; omega
    have hS := h2 hv2
    have hv3 : 3 ≤ v := by omega
    have hT1 : T ≤ 1 := by
      by_contra hT
      have : v * 2 ≤ v * T := mul_le_mul_of_nonneg_left (by omega) (by omega)
      cases abs_cases S <;> omega
    have hT2 : 0 ≤ T := by
      by_contra hT
      have : v * T ≤ v * (-1) := mul_le_mul_of_nonneg_left (by omega) (by omega)
      cases abs_cases S <;> omega
    have : T ≠ 0 := by intro h; subst h; omega
    omega
  · intro hu2
    by_cases hu1 : u = 1
    · rw [hT0 hu1, hu1]; norm_num
    have hu3 : 3 ≤ u := by omega
    by_cases hv1 : v = 1
    · have hS := h0.mpr hv1; subst hv1; subst hS
      have : T = 1 := by omega
      subst this; norm_num; omega
    by_cases hv2 : v = 2
    · have hS := h1 hv2; subst hv2; subst hS
      cases abs_cases T <;> omega
    have hS := h2 hv2
    have hv3 : 3 ≤ v := by omega
    have hS1 : -(v - 1) ≤ 2 * S ∧ 2 * S ≤ v - 1 := by
      cases abs_cases S <;> omega
    have e1 : u * (2 * S) ≤ u * (v - 1) := mul_le_mul_of_nonneg_left hS1.2 (by omega)
    have e2 : u * (-(v - 1)) ≤ u * (2 * S) := mul_le_mul_of_nonneg_left hS1.1 (by omega)
    have hT1 : 2 * T < u := by
      by_contra hT
      have : v * u ≤ v * (2 * T) := mul_le_mul_of_nonneg_left (by omega) (by omega)
      have : u ≤ 2 := by linear_combination e2 + this + 2 * hid
      omega
    have hT2 : -u < 2 * T := by
      by_contra hT
      have : v * (2 * T) ≤ v * (-u) := mul_le_mul_of_nonneg_left (by omega) (by omega)
      have : u ≤ -2 := by linear_combination e1 + this - 2 * hid
      omega
    cases abs_cases T <;> omega
  · intro hT; subst hT
    have : u * S = 1 := by linear_combination hid
    exact Int.eq_one_of_mul_eq_one_right (by omega) this

/-- mpz/gcdext.c after the operand swap. -/
def gcdextCore (a b : Int) : Int × Int × Int :=
  if nlimbs b.natAbs = 0 then
    ((a.natAbs : Int), (if a ≥ 0 then (if nlimbs a.natAbs ≠ 0 then 1 else 0) else -1), 0)
  else
    let r := mpn_gcdext a.natAbs (nlimbs a.natAbs) b.natAbs (nlimbs b.natAbs)
    let s : Int := if a ≥ 0 then r.2 else -r.2
    ((r.1 : Int), s, ((r.1 : Int) - s * a) / b)

theorem mpz_gcdext_eq (a b : Int) :
    mpz_gcdext a b =
      if nlimbs a.natAbs < nlimbs b.natAbs then
        ((gcdextCore b a).1, (gcdextCore b a).2.2, (gcdextCore b a).2.1)
      else gcdextCore a b := by
  by_cases h : nlimbs a.natAbs < nlimbs b.natAbs
  · simp only [mpz_gcdext, gcdextCore, h, decide_true, if_true]
  · simp only [mpz_gcdext, gcdextCore, h, decide_false, Bool.false_eq_true, ↓reduceIte]

/-- From the mpn contract for S (w.r.t. V) and the identity U S + V T = G: the manual's conditions
    on S and the same conditions on T (w.r.t. U).  U < V is allowed. -/
theorem mpn_key (U V G : Nat) (S T : Int) (hU : 0 < U) (hV : 0 < V) (hne : U ≠ V)
    (hok : mpnGcdextOk U V G S) (hid : (U : Int) * S + V * T = G) :
    (((V : Int) = 2 * G → S = 1) ∧ ((V : Int) ≠ 2 * G → 2 * (G : Int) * S.natAbs < V) ∧
      (S = 0 ↔ (G : Int) = V)) ∧
    (((U : Int) = 2 * G → T = 1) ∧ ((U : Int) ≠ 2 * G → 2 * (G : Int) * T.natAbs < U) ∧
      (T = 0 ↔ (G : Int) = U)) := by
  obtain ⟨hG, _, hS, h0⟩ := hok
  have hS : S = 1 ∨ 2 * (G : Int) * S.natAbs < V := by
    rcases hS with hS | hS
    · exact Or.inl hS
    · exact Or.inr (by exact_mod_cast hS)
  have hGU : G ∣ U := hG ▸ Nat.gcd_dvd_left U V
  have hGV : G ∣ V := hG ▸ Nat.gcd_dvd_right U V
  obtain ⟨u, hu⟩ := hGU
  obtain ⟨v, hv⟩ := hGV
  have hGpos : 0 < G := Nat.pos_of_ne_zero (by rintro rfl; simp at hu; omega)
  have hupos : 0 < u := Nat.pos_of_ne_zero (by rintro rfl; simp at hu; omega)
  have hvpos : 0 < v := Nat.pos_of_ne_zero (by rintro rfl; simp at hv; omega)
  have hGi : (0 : Int) < G := by exact_mod_cast hGpos
  have huv : (u : Int) ≠ v := by
    intro h; have : u = v := by exact_mod_cast h
    subst this; exact hne (hu.trans hv.symm)
  have hUi : (U : Int) = G * u := by exact_mod_cast hu
  have hVi : (V : Int) = G * v := by exact_mod_cast hv
  have hid' : (u : Int) * S + v * T = 1 := by
    have : (G : Int) * (u * S + v * T) = G * 1 := by rw [hUi, hVi] at hid; linear_combination hid
    exact mul_left_cancel₀ (ne_of_gt hGi) this
  -- S = 0 ↔ v = 1
  have h0' : S = 0 ↔ (v : Int) = 1 := by
    rw [h0]
    constructor
    · intro hmod
      have hVU : V ∣ U := Nat.dvd_of_mod_eq_zero hmod
      rw [hu, hv] at hVU
      have hvu : v ∣ u := Nat.dvd_of_mul_dvd_mul_left hGpos hVU
      have hvu' : (v : Int) ∣ u := by exact_mod_cast hvu
      have : (v : Int) ∣ 1 := by
        rw [← hid']; exact dvd_add (Dvd.dvd.mul_right hvu' S) (dvd_mul_right _ _)
      exact Int.eq_one_of_dvd_one (by positivity) this
    · intro h1
      have : v = 1 := by exact_mod_cast h1
      subst this
      apply Nat.mod_eq_zero_of_dvd
      rw [hu, hv, Nat.mul_one]; exact Nat.dvd_mul_right _ _
  have habsS : ((S.natAbs : Nat) : Int) = |S| := Int.natCast_natAbs S
  have habsT : ((T.natAbs : Nat) : Int) = |T| := Int.natCast_natAbs T
  have hv2 : (V : Int) = 2 * G ↔ (v : Int) = 2 := by
    rw [hVi]; constructor
    · intro h; exact mul_left_cancel₀ (ne_of_gt hGi) (by linear_combination h)
    · intro h; rw [h]; ring
  have hu2 : (U : Int) = 2 * G ↔ (u : Int) = 2 := by
    rw [hUi]; constructor
    · intro h; exact mul_left_cancel₀ (ne_of_gt hGi) (by linear_combination h)
    · intro h; rw [h]; ring
  have hscale : ∀ (x w : Int), 2 * (G : Int) * x < G * w ↔ 2 * x < w := by
    intro x w
    rw [show 2 * (G : Int) * x = G * (2 * x) by ring]
    exact mul_lt_mul_iff_right₀ hGi
  have h1 : (v : Int) = 2 → S = 1 := by
    intro hv2'
    rcases hS with hS | hS
    · exact hS
    · exfalso
      rw [hVi, hscale, habsS, hv2'] at hS
      have : S = 0 := by cases abs_cases S <;> omega
      have := h0'.mp this
      omega
  have h2 : (v : Int) ≠ 2 → 2 * |S| < v := by
    intro hv2'
    rcases hS with hS | hS
    · have hv1 : (v : Int) ≠ 1 := fun h => by have := h0'.mpr h; omega
      have : (0 : Int) < v := by exact_mod_cast hvpos
      rw [hS]; norm_num; omega
    · rwa [hVi, hscale, habsS] at hS
  obtain ⟨k1, k2, k3⟩ := cofactor_coprime u v S T (by exact_mod_cast hupos) (by exact_mod_cast hvpos)
    huv hid' h1 h2 h0'
  have hG1 : ∀ w : Int, (G : Int) = G * w ↔ w = 1 := by
    intro w; constructor
    · intro h; exact (mul_left_cancel₀ (ne_of_gt hGi) (by linear_combination -h : (G : Int) * w = G * 1))
    · intro h; rw [h, mul_one]
  refine ⟨⟨fun h => h1 (hv2.mp h), fun h => ?_, ?_⟩, ⟨fun h => k1 (hu2.mp h), fun h => ?_, ?_⟩⟩
  · rw [hVi, hscale, habsS]; exact h2 (fun h' => h (hv2.mpr h'))
  · rw [h0', hVi, hG1]
  · rw [hUi, hscale, habsT]; exact k2 (fun h' => h (hu2.mpr h'))
  · rw [k3, hUi, hG1]

theorem sgn_ne_zero {a : Int} (ha : a ≠ 0) : sgn a ≠ 0 := by
  rw [sgn_eq_sign, Ne, Int.sign_eq_zero_iff_zero]; exact ha

theorem sgn_mul_self {a : Int} (ha : a ≠ 0) : sgn a * sgn a = 1 := by
  rw [sgn_eq_sign, ← Int.sign_mul, Int.sign_eq_one_of_pos (mul_self_pos.mpr ha)]

theorem natAbs_sgn_mul {a : Int} (ha : a ≠ 0) (x : Int) : (sgn a * x).natAbs = x.natAbs := by
  rw [sgn_eq_sign, Int.natAbs_mul, Int.natAbs_sign_of_ne_zero ha, Nat.one_mul]

theorem sgn_mul_eq_zero {a : Int} (ha : a ≠ 0) (x : Int) : sgn a * x = 0 ↔ x = 0 := by
  rw [mul_eq_zero]; constructor
  · rintro (h | h)
    · exact absurd h (sgn_ne_zero ha)
    · exact h
  · exact Or.inr

/-- attach the signs: both orders of the operands at once. -/
theorem gcdextOk_assemble (a b : Int) (G : Nat) (S T : Int) (ha : a ≠ 0) (hb : b ≠ 0)
    (hne : a.natAbs ≠ b.natAbs) (hG : G = Nat.gcd a.natAbs b.natAbs)
    (hid : (a.natAbs : Int) * S + b.natAbs * T = G)
    (hkey : (((b.natAbs : Int) = 2 * G → S = 1) ∧
        ((b.natAbs : Int) ≠ 2 * G → 2 * (G : Int) * S.natAbs < b.natAbs) ∧
        (S = 0 ↔ (G : Int) = b.natAbs)) ∧
      (((a.natAbs : Int) = 2 * G → T = 1) ∧
        ((a.natAbs : Int) ≠ 2 * G → 2 * (G : Int) * T.natAbs < a.natAbs) ∧
        (T = 0 ↔ (G : Int) = a.natAbs))) :
    gcdextOk a b G (sgn a * S) (sgn b * T) ∧ gcdextOk b a G (sgn b * T) (sgn a * S) := by
  obtain ⟨⟨s1, s2, s3⟩, ⟨t1, t2, t3⟩⟩ := hkey
  have hida : a * (sgn a * S) + b * (sgn b * T) = G := by
    rw [← hid]
    have e1 := sgn_mul_natAbs a
    have e2 := sgn_mul_natAbs b
    have e1' := sgn_mul_self ha
    have e2' := sgn_mul_self hb
    linear_combination (-(sgn a * S)) * e1 + ((a.natAbs : Int) * S) * e1' +
      (-(sgn b * T)) * e2 + ((b.natAbs : Int) * T) * e2'
  have condS : (if b = 0 ∨ (b.natAbs : Int) = 2 * G then sgn a * S = sgn a
      else 2 * (G : Int) * (sgn a * S).natAbs < b.natAbs) := by
    split
    · next h =>
      rcases h with h | h
      · exact absurd h hb
      · rw [s1 h, mul_one]
    · next h =>
      rw [natAbs_sgn_mul ha]; exact s2 (fun h' => h (Or.inr h'))
  have condT : (if a = 0 ∨ (a.natAbs : Int) = 2 * G then sgn b * T = sgn b
      else 2 * (G : Int) * (sgn b * T).natAbs < a.natAbs) := by
    split
    · next h =>
      rcases h with h | h
      · exact absurd h ha
      · rw [t1 h, mul_one]
    · next h =>
      rw [natAbs_sgn_mul hb]; exact t2 (fun h' => h (Or.inr h'))
  constructor
  · refine ⟨?_, hida, ?_, ?_⟩
    · rw [hG]; rfl
    · rw [if_neg hne]; exact ⟨condS, condT⟩
    · rw [sgn_mul_eq_zero ha, s3]
  · refine ⟨?_, by linear_combination hida, ?_, ?_⟩
    · rw [hG, Nat.gcd_comm]; rfl
    · rw [if_neg (Ne.symm hne)]; exact ⟨condT, condS⟩
    · rw [sgn_mul_eq_zero hb, t3]

theorem natAbs_mul_sgn (a : Int) : a * sgn a = (a.natAbs : Int) := by rw [sgn_eq_sign, Int.mul_sign_self]

/-- general case: both operands non-zero, different magnitudes; both operand orders. -/
theorem gcdextCore_spec_ne (hc : MpnGcdextContract) (a b : Int) (hb : b ≠ 0)
    (hsz : nlimbs b.natAbs ≤ nlimbs a.natAbs) (hne : a.natAbs ≠ b.natAbs) :
    gcdextOk a b (gcdextCore a b).1 (gcdextCore a b).2.1 (gcdextCore a b).2.2 ∧
    gcdextOk b a (gcdextCore a b).1 (gcdextCore a b).2.2 (gcdextCore a b).2.1 := by
  have hV : 0 < b.natAbs := Int.natAbs_pos.mpr hb
  have hnb : nlimbs b.natAbs ≠ 0 := (nlimbs_pos hV).ne'
  have ha : a ≠ 0 := by
    intro h; subst h
    simp only [Int.natAbs_zero, nlimbs_zero] at hsz; omega
  have hU : 0 < a.natAbs := Int.natAbs_pos.mpr ha
  have hok := hc a.natAbs b.natAbs hV hsz
  unfold gcdextCore
  rw [if_neg hnb]
  rcases hr : mpn_gcdext a.natAbs (nlimbs a.natAbs) b.natAbs (nlimbs b.natAbs) with ⟨G, S⟩
  rw [hr] at hok
  simp only [] at hok ⊢
  have hs : (if a ≥ 0 then S else -S) = sgn a * S := by
    rw [sgn_eq_sign]
    rcases lt_or_gt_of_ne ha with h | h
    · rw [if_neg (by omega), Int.sign_eq_neg_one_of_neg h]; ring
    · rw [if_pos (by omega), Int.sign_eq_one_of_pos h]; ring
  rw [hs]
  have e1 := sgn_mul_natAbs a
  have e2 := sgn_mul_natAbs b
  have e1' := sgn_mul_self ha
  have e2' := sgn_mul_self hb
  have hsa : sgn a * S * a = (a.natAbs : Int) * S := by
    linear_combination (-(sgn a * S)) * e1 + ((a.natAbs : Int) * S) * e1'
  have hdvd : b ∣ (G : Int) - sgn a * S * a := by
    rw [hsa]; exact Int.natAbs_dvd.mp (Int.dvd_of_emod_eq_zero hok.2.1)
  have hbt : b * (((G : Int) - sgn a * S * a) / b) = (G : Int) - sgn a * S * a :=
    Int.mul_ediv_cancel' hdvd
  generalize ((G : Int) - sgn a * S * a) / b = t at hbt ⊢
  have hT : sgn b * (sgn b * t) = t := by rw [← mul_assoc, e2', one_mul]
  have hid : (a.natAbs : Int) * S + b.natAbs * (sgn b * t) = G := by
    rw [← hsa]
    linear_combination hbt + t * e2
  have hkey := mpn_key a.natAbs b.natAbs G S (sgn b * t) hU hV hne hok hid
  have := gcdextOk_assemble a b G S (sgn b * t) ha hb hne hok.1 hid hkey
  rw [hT] at this
  exact this

/-- |a| = |b| ≠ 0: S = 0, T = sgn b. -/
theorem gcdextCore_spec_eq (hc : MpnGcdextContract) (a b : Int) (hb : b ≠ 0)
    (heq : a.natAbs = b.natAbs) :
    gcdextOk a b (gcdextCore a b).1 (gcdextCore a b).2.1 (gcdextCore a b).2.2 := by
  have hV : 0 < b.natAbs := Int.natAbs_pos.mpr hb
  have hnb : nlimbs b.natAbs ≠ 0 := (nlimbs_pos hV).ne'
  have hok := hc a.natAbs b.natAbs hV (by rw [heq])
  unfold gcdextCore
  rw [if_neg hnb]
  rcases hr : mpn_gcdext a.natAbs (nlimbs a.natAbs) b.natAbs (nlimbs b.natAbs) with ⟨G, S⟩
  rw [hr] at hok
  simp only [] at hok ⊢
  obtain ⟨hG, _, _, h0⟩ := hok
  have hS : S = 0 := h0.mpr (by rw [heq]; exact Nat.mod_self _)
  subst hS
  rw [heq, Nat.gcd_self] at hG
  subst hG
  have ht : ((b.natAbs : Int) - (if a ≥ 0 then (0 : Int) else -0) * a) / b = sgn b := by
    have : (if a ≥ 0 then (0 : Int) else -0) = 0 := by split <;> rfl
    rw [this, zero_mul, sub_zero, ← natAbs_mul_sgn b]
    exact Int.mul_ediv_cancel_left _ hb
  rw [ht]
  have hs : (if a ≥ 0 then (0 : Int) else -0) = 0 := by split <;> rfl
  rw [hs]
  refine ⟨?_, ?_, ?_, ?_⟩
  · show (b.natAbs : Int) = ((Nat.gcd a.natAbs b.natAbs : Nat) : Int)
    rw [heq, Nat.gcd_self]
  · rw [mul_zero, zero_add]; exact natAbs_mul_sgn b
  · rw [if_pos heq]; exact ⟨rfl, rfl⟩
  · simp

/-- second operand zero (after the swap): both operand orders. -/
theorem gcdextCore_spec_zero (a : Int) :
    gcdextOk a 0 (gcdextCore a 0).1 (gcdextCore a 0).2.1 (gcdextCore a 0).2.2 ∧
    (a ≠ 0 → gcdextOk 0 a (gcdextCore a 0).1 (gcdextCore a 0).2.2 (gcdextCore a 0).2.1) := by
  have hcore : gcdextCore a 0 = ((a.natAbs : Int), sgn a, 0) := by
    unfold gcdextCore
    rw [if_pos (by simp [nlimbs_zero])]
    congr 2
    rw [sgn_eq_sign]
    rcases lt_trichotomy a 0 with h | h | h
    · rw [if_neg (by omega), Int.sign_eq_neg_one_of_neg h]
    · subst h; simp [nlimbs_zero]
    · have : nlimbs a.natAbs ≠ 0 := (nlimbs_pos (Int.natAbs_pos.mpr (by omega))).ne'
      rw [if_pos (by omega), if_pos this, Int.sign_eq_one_of_pos h]
  rw [hcore]
  simp only []
  constructor
  · refine ⟨?_, ?_, ?_, ?_⟩
    · rw [Int.gcd_zero_right]
    · rw [zero_mul, add_zero]; exact natAbs_mul_sgn a
    · by_cases ha : a = 0
      · subst ha; simp [sgn_zero]
      · have hne : a.natAbs ≠ (0 : Int).natAbs := by simpa using ha
        rw [if_neg hne, if_pos (Or.inl rfl)]
        refine ⟨rfl, ?_⟩
        have hpos : (0 : Int) < a.natAbs := by exact_mod_cast Int.natAbs_pos.mpr ha
        rw [if_neg (by rintro (h | h) <;> omega)]
        simpa using hpos
    · by_cases ha : a = 0
      · subst ha; simp [sgn_zero]
      · have := sgn_ne_zero ha
        simp [this, ha]
  · intro ha
    have hpos : (0 : Int) < a.natAbs := by exact_mod_cast Int.natAbs_pos.mpr ha
    refine ⟨?_, ?_, ?_, ?_⟩
    · rw [Int.gcd_zero_left]
    · rw [mul_zero, zero_add]; exact natAbs_mul_sgn a
    · have hne : (0 : Int).natAbs ≠ a.natAbs := by rw [Int.natAbs_zero]; omega
      rw [if_neg hne, if_pos (Or.inl rfl), if_neg (by rintro (h | h) <;> omega)]
      exact ⟨by simpa using hpos, rfl⟩
    · simp

/-- **mpz_gcdext meets the manual's contract** (identity, normalisation of both cofactors, all the
    special cases), given only the documented contract of mpn_gcdext for the first cofactor. -/
theorem mpz_gcdext_spec (hc : MpnGcdextContract) (a b : Int) :
    gcdextOk a b (mpz_gcdext a b).1 (mpz_gcdext a b).2.1 (mpz_gcdext a b).2.2 := by
  rw [mpz_gcdext_eq]
  split
  · next h =>
    simp only []
    have hb : b ≠ 0 := by
      intro hb; subst hb; simp only [Int.natAbs_zero, nlimbs_zero] at h; omega
    have hne : b.natAbs ≠ a.natAbs := by intro e; rw [e] at h; omega
    by_cases ha : a = 0
    · subst ha
      exact (gcdextCore_spec_zero b).2 hb
    · exact (gcdextCore_spec_ne hc b a ha (le_of_lt h) hne).2
  · next h =>
    by_cases hb : b = 0
    · subst hb; exact (gcdextCore_spec_zero a).1
    · by_cases heq : a.natAbs = b.natAbs
      · exact gcdextCore_spec_eq hc a b hb heq
      · exact (gcdextCore_spec_ne hc a b hb (by omega) heq).1

example : gcdextOk 240 46 2 (-9) 47 := by decide
example : gcdextOk (-240) 46 2 9 47 := by decide
example : gcdextOk 46 240 2 47 (-9) := by decide
example : gcdextOk 6 4 2 1 (-1) := by decide
example : gcdextOk 7 (-7) 7 0 (-1) := by decide
example : ¬ gcdextOk 240 46 2 14 (-73) := by decide
example : mpnGcdextOk 240 46 2 (-9) := by decide
-- the executable model on concrete operands (kernel evaluation, no native code)
example : mpz_gcdext 240 46 = (2, -9, 47) := by decide +kernel
example : mpz_gcdext 46 240 = (2, 47, -9) := by decide +kernel
example : mpz_gcdext (-240) 46 = (2, 9, 47) := by decide +kernel
example : mpnGcdextOk 240 46 (mpn_gcdext 240 (nlimbs 240) 46 (nlimbs 46)).1
    (mpn_gcdext 240 (nlimbs 240) 46 (nlimbs 46)).2 := by decide +kernel

theorem mpz_invert_eq (x n : Int) :
    mpz_invert x n =
      if x = 0 ∨ n.natAbs = 1 then none
      else if (mpz_gcdext x n).1 ≠ 1 then none
      else if (mpz_gcdext x n).2.1 < 0 then
        (if n < 0 then some ((mpz_gcdext x n).2.1 - n) else some ((mpz_gcdext x n).2.1 + n))
      else some (mpz_gcdext x n).2.1 := rfl

/-- **mpz_invert**: returns non-zero iff gcd(a, m) = 1, and then the result r satisfies
    0 ≤ r < |m| and a r ≡ 1 (mod m). -/
theorem invert_spec (hc : MpnGcdextContract) (a m : Int) (hm : 1 < m.natAbs) :
    match mpz_invert a m with
    | none => invertOk a m 0 0
    | some r => invertOk a m 1 r := by
  have hnone : Int.gcd a m ≠ 1 → invertOk a m 0 0 := fun h =>
    ⟨⟨fun h' => absurd rfl h', fun h' => absurd h' h⟩, fun h' => absurd rfl h'⟩
  rw [mpz_invert_eq]
  by_cases h : a = 0 ∨ m.natAbs = 1
  · rw [if_pos h]
    show invertOk a m 0 0
    rcases h with h | h
    · subst h
      apply hnone
      rw [Int.gcd_zero_left]; omega
    · omega
  · rw [if_neg h]
    obtain ⟨hg, hid, hcond, _⟩ := mpz_gcdext_spec hc a m
    generalize (mpz_gcdext a m).1 = g at *
    generalize (mpz_gcdext a m).2.1 = s at *
    generalize (mpz_gcdext a m).2.2 = t at *
    by_cases hg1 : g ≠ 1
    · rw [if_pos hg1]
      show invertOk a m 0 0
      apply hnone
      intro h; rw [h] at hg; exact hg1 (by simpa using hg)
    · rw [if_neg hg1]
      have hg1 : g = 1 := not_not.mp hg1
      subst hg1
      have hgcd : Int.gcd a m = 1 := by exact_mod_cast hg.symm
      have hmpos : (1 : Int) < m.natAbs := by exact_mod_cast hm
      -- |s| < |m|
      have hsb : (s.natAbs : Int) < m.natAbs := by
        split at hcond
        · rw [hcond.1]; simp; omega
        · have h1 := hcond.1
          split at h1
          · next hh =>
            rcases hh with hh | hh
            · subst hh; simp at hm
            · rw [h1, hh]; unfold sgn; split
              · simp
              · split <;> simp
          · omega
      have hdiv : ∀ k : Int, (a * (s + k * m) - 1) % m = 0 := by
        intro k
        apply Int.emod_eq_zero_of_dvd
        exact ⟨a * k - t, by linear_combination hid⟩
      have hflag : ((1 : Int) ≠ 0 ↔ Int.gcd a m = 1) := ⟨fun _ => hgcd, fun _ => one_ne_zero⟩
      have hmabs : (m.natAbs : Int) = if m < 0 then -m else m := by split <;> omega
      by_cases hs : s < 0
      · rw [if_pos hs]
        by_cases hneg : m < 0
        · rw [if_pos hneg]
          show invertOk a m 1 (s - m)
          refine ⟨hflag, fun _ => ⟨by omega, by omega, ?_⟩⟩
          have := hdiv (-1); rwa [show s + -1 * m = s - m by ring] at this
        · rw [if_neg hneg]
          show invertOk a m 1 (s + m)
          refine ⟨hflag, fun _ => ⟨by omega, by omega, ?_⟩⟩
          have := hdiv 1; rwa [one_mul] at this
      · rw [if_neg hs]
        show invertOk a m 1 s
        refine ⟨hflag, fun _ => ⟨by omega, by omega, ?_⟩⟩
        have := hdiv 0; rwa [zero_mul, add_zero] at this

example : invertOk 3 7 1 5 := by decide
example : invertOk (-3) (-7) 1 2 := by decide
example : invertOk 6 9 0 0 := by decide
example : ¬ invertOk 3 7 1 12 := by decide
example : mpz_invert 3 7 = some 5 := by decide +kernel
example : mpz_invert (-3) (-7) = some 2 := by decide +kernel
example : mpz_invert 6 9 = none := by decide +kernel

/-! ### uniqueness: the manual's conditions determine the triple -/

theorem gcdextOk_unique (a b g s t g' s' t' : Int) :
    gcdextOk a b g s t → gcdextOk a b g' s' t' → g = g' ∧ s = s' ∧ t = t' := by
  rintro ⟨hg, hid, hc, hz⟩ ⟨hg', hid', hc', hz'⟩
  have hgg : g = g' := hg.trans hg'.symm
  subst hgg
  refine ⟨rfl, ?_⟩
  by_cases heq : a.natAbs = b.natAbs
  · rw [if_pos heq] at hc hc'
    exact ⟨hc.1.trans hc'.1.symm, hc.2.trans hc'.2.symm⟩
  rw [if_neg heq] at hc hc'
  obtain ⟨hs, ht⟩ := hc
  obtain ⟨hs', ht'⟩ := hc'
  have hgnn : 0 ≤ g := by rw [hg]; positivity
  have hss : s = s' := by
    by_cases hcase : b = 0 ∨ (b.natAbs : Int) = 2 * g
    · rw [if_pos hcase] at hs hs'; exact hs.trans hs'.symm
    · rw [if_neg hcase] at hs hs'
      have hb : b ≠ 0 := fun h => hcase (Or.inl h)
      have hgpos : g ≠ 0 := by
        intro h0; rw [h0] at hg
        have : Int.gcd a b = 0 := by exact_mod_cast hg.symm
        exact hb (Int.gcd_eq_zero_iff.mp this).2
      have hdvd : (b.natAbs : Int) ∣ g * (s - s') :=
        Int.natAbs_dvd.mpr ⟨t' * s - t * s', by linear_combination s' * hid - s * hid'⟩
      have habs : |g * (s - s')| < (b.natAbs : Int) := by
        rw [abs_mul, abs_of_nonneg hgnn]
        have h1 : |s - s'| ≤ |s| + |s'| := abs_sub s s'
        have h2 : g * |s - s'| ≤ g * (|s| + |s'|) := mul_le_mul_of_nonneg_left h1 hgnn
        rw [Int.natCast_natAbs] at hs hs'
        have : 2 * (g * |s - s'|) < 2 * (b.natAbs : Int) := by linear_combination 2 * h2 + hs + hs'
        omega
      have := Int.eq_zero_of_abs_lt_dvd hdvd habs
      rcases mul_eq_zero.mp this with h | h
      · exact absurd h hgpos
      · exact sub_eq_zero.mp h
  subst hss
  refine ⟨rfl, ?_⟩
  by_cases hb : b = 0
  · subst hb
    have ha : a ≠ 0 := by intro h; subst h; exact heq rfl
    have hga : g = (a.natAbs : Int) := by rw [hg, Int.gcd_zero_right]
    have hpos : (0 : Int) < a.natAbs := by exact_mod_cast Int.natAbs_pos.mpr ha
    have hcase : ¬ (a = 0 ∨ (a.natAbs : Int) = 2 * g) := by rintro (h | h) <;> omega
    rw [if_neg hcase] at ht ht'
    rw [hga] at ht ht'
    have e1 : t.natAbs = 0 := by
      by_contra h
      have : (1 : Int) ≤ t.natAbs := by omega
      exact absurd ht (not_lt.mpr (by linear_combination 2 * mul_le_mul_of_nonneg_left this hpos.le + hpos.le))
    have e2 : t'.natAbs = 0 := by
      by_contra h
      have : (1 : Int) ≤ t'.natAbs := by omega
      exact absurd ht' (not_lt.mpr (by linear_combination 2 * mul_le_mul_of_nonneg_left this hpos.le + hpos.le))
    rw [Int.natAbs_eq_zero] at e1 e2
    rw [e1, e2]
  · have : b * t = b * t' := by linear_combination hid - hid'
    exact mul_left_cancel₀ hb this

theorem gcdextOk_bounds {a b g c t : Int} (hok : gcdextOk a b g c t) (ha : a ≠ 0) :
    0 < g ∧ g.natAbs ≤ a.natAbs ∧ (c.natAbs ≤ 1 ∨ c.natAbs < b.natAbs) := by
  obtain ⟨hg, _, hcond, _⟩ := hok
  have hgpos : 0 < Int.gcd a b := Int.gcd_pos_of_ne_zero_left b ha
  refine ⟨by rw [hg]; omega, by rw [hg]; exact Nat.gcd_le_left _ (Int.natAbs_pos.mpr ha), ?_⟩
  by_cases heq : a.natAbs = b.natAbs
  · rw [if_pos heq] at hcond; rw [hcond.1]; exact Or.inl (Nat.zero_le 1)
  · rw [if_neg heq] at hcond
    have h1 := hcond.1
    by_cases hb : b = 0 ∨ (b.natAbs : Int) = 2 * g
    · rw [if_pos hb] at h1; left; rw [h1, sgn_eq_sign, Int.natAbs_sign_of_ne_zero ha]
    · rw [if_neg hb] at h1; right
      have h2 := Int.mul_le_mul_of_nonneg_right (show 1 ≤ 2 * g by omega) (Int.natCast_nonneg c.natAbs)
      omega

example : gcdextOk 240 46 2 (-9) 47 ∧ ¬ gcdextOk 240 46 2 14 (-73) := by decide

end Mpir.Gcd
