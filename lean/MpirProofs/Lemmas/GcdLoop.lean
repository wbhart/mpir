/- The relation every loop of mpn_gcd, mpn_gcdext and mpn_hgcd maintains (the loops are in later files): `MRel m x y X Y`,
   (X; Y) = M·(x; y) for a non-negative M of determinant 1; steps compose (`mrel_comp`).  The model's `StepOk`, `CofInv`,
   `Reach` and `lehmerOk` are this relation in other spellings.  At the end `LInv` and `Hgcd2Contract`: what mpn_hgcd2
   (Hgcd2.lean) owes the Lehmer loops (GcdLehmer.lean), and the two values of `pickCofactor`. -/
import MpirProofs.Lemmas.Gcd
import Mathlib.Tactic.LinearCombination
import Mathlib.Tactic.Zify
namespace Mpir.Gcd
open Mpir

/-- M·(x; y) = (X; Y) and det M = 1 -/
def MRel (m : M1) (x y X Y : Nat) : Prop :=
  m.u00 * m.u11 = m.u01 * m.u10 + 1 ∧ X = m.u00 * x + m.u01 * y ∧ Y = m.u10 * x + m.u11 * y

def mmul (m n : M1) : M1 :=
  ⟨m.u00 * n.u00 + m.u01 * n.u10, m.u00 * n.u01 + m.u01 * n.u11,
   m.u10 * n.u00 + m.u11 * n.u10, m.u10 * n.u01 + m.u11 * n.u11⟩

def M1.swap (m : M1) : M1 := ⟨m.u11, m.u10, m.u01, m.u00⟩

def NonId (m : M1) : Prop := m.u01 ≠ 0 ∨ m.u10 ≠ 0

theorem diag_pos_of_det {a b c d : Nat} (h : a * d = b * c + 1) : 1 ≤ a ∧ 1 ≤ d :=
  ⟨Nat.pos_of_ne_zero fun h0 => by simp [h0] at h, Nat.pos_of_ne_zero fun h0 => by simp [h0] at h⟩

end Mpir.Gcd

namespace Mpir.Hgcd
open Mpir Mpir.Gcd

def det1 (m : M1) : Prop := m.u00 * m.u11 = m.u01 * m.u10 + 1

theorem det1_pos {m : M1} (h : det1 m) : 1 ≤ m.u00 ∧ 1 ≤ m.u11 := diag_pos_of_det h

/-- a row only grows under right multiplication by a matrix of determinant 1 -/
theorem row_mul_ge {m : M1} (hd : det1 m) (u0 u1 : Nat) :
    u0 ≤ u0 * m.u00 + u1 * m.u10 ∧ u1 ≤ u0 * m.u01 + u1 * m.u11 := by
  obtain ⟨p0, p1⟩ := det1_pos hd
  exact ⟨le_trans (Nat.le_mul_of_pos_right _ p0) (Nat.le_add_right _ _),
    le_trans (Nat.le_mul_of_pos_right _ p1) (Nat.le_add_left _ _)⟩

theorem det1_mmul {m n : M1} (h1 : det1 m) (h2 : det1 n) : det1 (mmul m n) := by
  unfold det1 mmul at *
  simp only
  zify at h1 h2 ⊢
  linear_combination ((n.u00 : ℤ) * n.u11 - n.u01 * n.u10) * h1 + h2

theorem mmul_assoc (a b c : M1) : mmul (mmul a b) c = mmul a (mmul b c) := by
  simp only [mmul, M1.mk.injEq]
  refine ⟨?_, ?_, ?_, ?_⟩ <;> ring

theorem nonId_mmul {m n : M1} (h : NonId m) (hn : det1 n) : NonId (mmul m n) := by
  obtain ⟨p0, p1⟩ := det1_pos hn
  rcases h with h | h
  · left
    show m.u00 * n.u01 + m.u01 * n.u11 ≠ 0
    have : 0 < m.u01 * n.u11 := Nat.mul_pos (Nat.pos_of_ne_zero h) p1
    omega
  · right
    show m.u10 * n.u00 + m.u11 * n.u10 ≠ 0
    have : 0 < m.u10 * n.u00 := Nat.mul_pos (Nat.pos_of_ne_zero h) p0
    omega

theorem nonId_mmul_right {m n : M1} (hm : det1 m) (h : NonId n) : NonId (mmul m n) := by
  obtain ⟨p0, p1⟩ := det1_pos hm
  rcases h with h | h
  · left
    show m.u00 * n.u01 + m.u01 * n.u11 ≠ 0
    have : 0 < m.u00 * n.u01 := Nat.mul_pos p0 (Nat.pos_of_ne_zero h)
    omega
  · right
    show m.u10 * n.u00 + m.u11 * n.u10 ≠ 0
    have : 0 < m.u11 * n.u10 := Nat.mul_pos p1 (Nat.pos_of_ne_zero h)
    omega

end Mpir.Hgcd

namespace Mpir.Gcd
open Mpir Mpir.Hgcd

theorem mrel_pos {m : M1} {x y X Y : Nat} (h : MRel m x y X Y) : 1 ≤ m.u00 ∧ 1 ≤ m.u11 := diag_pos_of_det h.1

theorem mrel_swap {m : M1} {x y X Y : Nat} (h : MRel m x y X Y) : MRel m.swap y x Y X := by
  obtain ⟨hd, hX, hY⟩ := h
  refine ⟨?_, ?_, ?_⟩
  · show m.u11 * m.u00 = m.u10 * m.u01 + 1
    rw [Nat.mul_comm, hd, Nat.mul_comm]
  · show Y = m.u11 * y + m.u10 * x
    rw [hY, Nat.add_comm]
  · show X = m.u01 * y + m.u00 * x
    rw [hX, Nat.add_comm]

theorem mrel_inverse {m : M1} {x y X Y : Nat} (h : MRel m x y X Y) :
    m.u11 * X = m.u01 * Y + x ∧ m.u00 * Y = m.u10 * X + y := by
  obtain ⟨hd, eX, eY⟩ := h
  constructor
  · rw [eX, eY]; zify at hd ⊢; linear_combination (x : ℤ) * hd
  · rw [eX, eY]; zify at hd ⊢; linear_combination (y : ℤ) * hd

theorem mrel_of_inverse {m : M1} {x y X Y : Nat} (hd : m.u00 * m.u11 = m.u01 * m.u10 + 1)
    (h1 : m.u11 * X = m.u01 * Y + x) (h2 : m.u00 * Y = m.u10 * X + y) : MRel m x y X Y := by
  refine ⟨hd, ?_, ?_⟩ <;> zify at hd h1 h2 ⊢
  · linear_combination (-(X : ℤ)) * hd + (m.u00 : ℤ) * h1 + (m.u01 : ℤ) * h2
  · linear_combination (-(Y : ℤ)) * hd + (m.u10 : ℤ) * h1 + (m.u11 : ℤ) * h2

theorem mrel_le {m : M1} {x y X Y : Nat} (h : MRel m x y X Y) : x ≤ X ∧ y ≤ Y := by
  obtain ⟨h0, h1⟩ := mrel_pos h
  obtain ⟨_, hX, hY⟩ := h
  constructor
  · calc x ≤ m.u00 * x := Nat.le_mul_of_pos_left _ h0
      _ ≤ X := by omega
  · calc y ≤ m.u11 * y := Nat.le_mul_of_pos_left _ h1
      _ ≤ Y := by omega

theorem mrel_row_lt {m : M1} {x y X Y K L : Nat} (h : MRel m x y X Y) (hx : K ≤ x) (hy : K ≤ y)
    (hX : X < L * K) : m.u00 + m.u01 < L := by
  obtain ⟨_, eX, _⟩ := h
  by_contra hc
  have h1 : L * K ≤ (m.u00 + m.u01) * K := Nat.mul_le_mul_right _ (by omega)
  have h2 : m.u00 * K ≤ m.u00 * x := Nat.mul_le_mul_left _ hx
  have h3 : m.u01 * K ≤ m.u01 * y := Nat.mul_le_mul_left _ hy
  rw [Nat.add_mul] at h1
  omega

theorem mrel_entries_lt {m : M1} {x y X Y K L : Nat} (h : MRel m x y X Y) (hx : K ≤ x) (hy : K ≤ y)
    (hX : X < L * K) (hY : Y < L * K) :
    m.u00 + m.u01 < L ∧ m.u10 + m.u11 < L :=
  ⟨mrel_row_lt h hx hy hX, by rw [Nat.add_comm]; exact mrel_row_lt (mrel_swap h) hy hx hY⟩

theorem mrel_comp {m n : M1} {x y X Y X' Y' : Nat} (h1 : MRel m X Y X' Y') (h2 : MRel n x y X Y) :
    MRel (mmul m n) x y X' Y' := by
  obtain ⟨d1, eX', eY'⟩ := h1
  obtain ⟨d2, eX, eY⟩ := h2
  refine ⟨?_, ?_, ?_⟩
  · exact det1_mmul d1 d2
  · show X' = (m.u00 * n.u00 + m.u01 * n.u10) * x + (m.u00 * n.u01 + m.u01 * n.u11) * y
    rw [eX', eX, eY]; ring
  · show Y' = (m.u10 * n.u00 + m.u11 * n.u10) * x + (m.u10 * n.u01 + m.u11 * n.u11) * y
    rw [eY', eX, eY]; ring

theorem mrel_gcd {m : M1} {x y X Y : Nat} (h : MRel m x y X Y) : Nat.gcd X Y = Nat.gcd x y := by
  obtain ⟨i1, i2⟩ := mrel_inverse h
  obtain ⟨_, eX, eY⟩ := h
  apply Nat.dvd_antisymm
  · apply Nat.dvd_gcd
    · exact (Nat.dvd_add_right (Dvd.dvd.mul_left (Nat.gcd_dvd_right X Y) _)).mp
        (i1 ▸ Dvd.dvd.mul_left (Nat.gcd_dvd_left X Y) _)
    · exact (Nat.dvd_add_right (Dvd.dvd.mul_left (Nat.gcd_dvd_left X Y) _)).mp
        (i2 ▸ Dvd.dvd.mul_left (Nat.gcd_dvd_right X Y) _)
  · rw [eX, eY]
    exact Nat.dvd_gcd
      (Nat.dvd_add (Dvd.dvd.mul_left (Nat.gcd_dvd_left _ _) _) (Dvd.dvd.mul_left (Nat.gcd_dvd_right _ _) _))
      (Nat.dvd_add (Dvd.dvd.mul_left (Nat.gcd_dvd_left _ _) _) (Dvd.dvd.mul_left (Nat.gcd_dvd_right _ _) _))

theorem mrel_decreases {E : M1} {x y X Y : Nat} (h : MRel E x y X Y) (hn : NonId E) (hx : 0 < x) (hy : 0 < y) :
    x + y < X + Y := by
  obtain ⟨p0, p1⟩ := mrel_pos h
  obtain ⟨_, eX, eY⟩ := h
  have e1 : x ≤ E.u00 * x := Nat.le_mul_of_pos_left _ p0
  have e2 : y ≤ E.u11 * y := Nat.le_mul_of_pos_left _ p1
  rcases hn with h | h
  · have : y ≤ E.u01 * y := Nat.le_mul_of_pos_left _ (Nat.pos_of_ne_zero h)
    omega
  · have : x ≤ E.u10 * x := Nat.le_mul_of_pos_left _ (Nat.pos_of_ne_zero h)
    omega

end Mpir.Gcd

namespace Mpir.Hgcd
open Mpir Mpir.Gcd

def idM : M1 := ⟨1, 0, 0, 1⟩

/-- the elementary matrix recorded by the hook, `col` its argument d (gcd_subdiv_step.c:52-53): d = 1 ("a multiple of B
    was subtracted from A") is (1 q; 0 1) -/
def elemQ (q col : Nat) : M1 := if col = 0 then ⟨1, 0, q, 1⟩ else ⟨1, q, 0, 1⟩

theorem det1_elemQ (q col : Nat) : det1 (elemQ q col) := by
  unfold elemQ; split <;> simp [det1]

theorem nonId_elemQ {q col : Nat} (hq : 0 < q) : NonId (elemQ q col) := by
  unfold elemQ NonId
  split
  · right; simp; omega
  · left; simp; omega

theorem mmul_id (m : M1) : mmul m idM = m := by
  cases m; simp [mmul, idM]

theorem mrel_id (a b : Nat) : MRel idM a b a b := by
  refine ⟨by simp [idM], ?_, ?_⟩ <;> simp [idM]

theorem mrel_elemQ1 (q x y : Nat) (h : q * y ≤ x) : MRel (elemQ q 1) (x - q * y) y x y := by
  refine ⟨by simp [elemQ], ?_, ?_⟩ <;> simp [elemQ]
  omega

theorem mrel_elemQ0 (q x y : Nat) (h : q * x ≤ y) : MRel (elemQ q 0) x (y - q * x) x y := by
  refine ⟨by simp [elemQ], ?_, ?_⟩ <;> simp [elemQ]
  omega

/-- the view of mpn_gcd_subdiv_step: the caller's current pair is the local pair (la, lb), exchanged when `sw` -/
def LRel (sw : Bool) (E : M1) (la lb a b : Nat) : Prop := if sw then MRel E lb la a b else MRel E la lb a b

/-- lb -= q·la, recorded as hook (q, sw) -/
theorem lrel_sub {sw : Bool} {E : M1} {la lb a b : Nat} (q : Nat) (h : LRel sw E la lb a b) (hq : q * la ≤ lb) :
    LRel sw (mmul E (elemQ q (if sw then 1 else 0))) la (lb - q * la) a b := by
  unfold LRel at *
  cases sw
  · simp only [Bool.false_eq_true, ↓reduceIte] at h ⊢
    exact mrel_comp h (mrel_elemQ0 q la lb hq)
  · simp only [↓reduceIte] at h ⊢
    exact mrel_comp h (mrel_elemQ1 q lb la hq)

theorem lrel_swap {sw : Bool} {E : M1} {la lb a b : Nat} (h : LRel sw E la lb a b) : LRel (!sw) E lb la a b := by
  unfold LRel at *
  cases sw <;> simpa using h

theorem lrel_iff {sw : Bool} {E : M1} {la lb a b : Nat} :
    LRel sw E la lb a b ↔ MRel E (if sw then lb else la) (if sw then la else lb) a b := by
  unfold LRel
  cases sw <;> simp

theorem lrel_out {sw : Bool} {E : M1} {la lb a b : Nat} (h : LRel sw E la lb a b) :
    MRel E (if sw then lb else la) (if sw then la else lb) a b := lrel_iff.mp h

end Mpir.Hgcd

namespace Mpir.Gcd
open Mpir Mpir.Hgcd

/-- cofactor invariant of a reduction state w.r.t. the inputs (A, B): the accumulated matrix
    (v0 v1; u0 u1) has determinant 1 and a = u1·A - v1·B, b = -u0·A + v0·B. -/
def CofInv (A B : Nat) (s : RState) (v0 v1 : Nat) : Prop :=
  v0 * s.u1 = v1 * s.u0 + 1 ∧ (s.a : Int) = s.u1 * A - v1 * B ∧ (s.b : Int) = -(s.u0 * A) + v0 * B

theorem stepOk_iff {m : M1} {s s' : RState} :
    StepOk m s s' ↔ MRel m s'.a s'.b s.a s.b ∧
      s'.u0 = s.u0 * m.u00 + s.u1 * m.u10 ∧ s'.u1 = s.u0 * m.u01 + s.u1 * m.u11 := by
  simp only [StepOk, MRel, and_assoc]

theorem cofInv_iff {A Bv : Nat} {s : RState} {v0 v1 : Nat} :
    CofInv A Bv s v0 v1 ↔ MRel ⟨v0, v1, s.u0, s.u1⟩ s.a s.b A Bv := by
  constructor
  · rintro ⟨hd, ha, hb⟩
    refine ⟨hd, ?_, ?_⟩ <;> zify at hd ⊢
    · linear_combination (-(A : ℤ)) * hd - (v0 : ℤ) * ha - (v1 : ℤ) * hb
    · linear_combination (-(Bv : ℤ)) * hd - (s.u0 : ℤ) * ha - (s.u1 : ℤ) * hb
  · intro h
    obtain ⟨i1, i2⟩ := mrel_inverse h
    refine ⟨h.1, ?_, ?_⟩
    · have : ((s.u1 * A : ℕ) : ℤ) = (v1 * Bv + s.a : ℕ) := by exact_mod_cast i1
      push_cast at this; linarith
    · have : ((v0 * Bv : ℕ) : ℤ) = (s.u0 * A + s.b : ℕ) := by exact_mod_cast i2
      push_cast at this; linarith

theorem cofInv_init (A B : Nat) : CofInv A B ⟨A, B, 0, 1⟩ 1 0 := by
  refine ⟨by simp, by simp, by simp⟩

theorem stepOk_cof {m : M1} {s s' : RState} (h : StepOk m s s') {A B v0 v1 : Nat}
    (hc : CofInv A B s v0 v1) : CofInv A B s' (v0 * m.u00 + v1 * m.u10) (v0 * m.u01 + v1 * m.u11) := by
  obtain ⟨hr, e0, e1⟩ := stepOk_iff.mp h
  rw [cofInv_iff, e0, e1]
  exact mrel_comp (cofInv_iff.mp hc) hr

/-- a chain of steps is one step: the product of the matrices -/
theorem reach_mrel {s s' : RState} (h : Reach s s') :
    ∃ m : M1, MRel m s'.a s'.b s.a s.b ∧
      s'.u0 = s.u0 * m.u00 + s.u1 * m.u10 ∧ s'.u1 = s.u0 * m.u01 + s.u1 * m.u11 := by
  induction h with
  | refl s => exact ⟨idM, mrel_id _ _, by simp [idM], by simp [idM]⟩
  | step m hs _ ih =>
    obtain ⟨n, hr, e0, e1⟩ := ih
    obtain ⟨hm, f0, f1⟩ := stepOk_iff.mp hs
    refine ⟨mmul m n, mrel_comp hm hr, ?_, ?_⟩
    · rw [e0, f0, f1]; simp only [mmul]; ring
    · rw [e1, f0, f1]; simp only [mmul]; ring

theorem reach_inv {s s' : RState} (h : Reach s s') {A B : Nat} :
    Nat.gcd s.a s.b = Nat.gcd s'.a s'.b ∧
    ∀ v0 v1, CofInv A B s v0 v1 → ∃ v0' v1', CofInv A B s' v0' v1' := by
  obtain ⟨m, hr, e0, e1⟩ := reach_mrel h
  exact ⟨mrel_gcd hr, fun v0 v1 hc => ⟨_, _, stepOk_cof (stepOk_iff.mpr ⟨hr, e0, e1⟩) hc⟩⟩

theorem lehmerOk_iff {m : M1} {a b : Nat} :
    lehmerOk m a b ↔ MRel m (m.u11 * a - m.u01 * b) (m.u00 * b - m.u10 * a) a b := by
  constructor
  · rintro ⟨hd, h1, h2⟩
    exact mrel_of_inverse hd (by omega) (by omega)
  · intro h
    obtain ⟨i1, i2⟩ := mrel_inverse h
    exact ⟨h.1, by omega, by omega⟩

/-- loop invariant: both operands positive, within n limbs, and at least one of them uses the top limb
    (the C's `ASSERT (mask > 0)`) -/
def LInv (a b n : Nat) : Prop :=
  0 < a ∧ 0 < b ∧ a < B ^ n ∧ b < B ^ n ∧ (B ^ (n - 1) ≤ a ∨ B ^ (n - 1) ≤ b) ∧ 1 ≤ n

/-- The contract of mpn_hgcd2 as used by the Lehmer loops: whenever it returns a matrix for the
    (normalised) top two limbs of (a, b), M is unimodular, not the identity, M⁻¹(a; b) is positive
    and loses at most one limb.  (Proved for the model of hgcd2.c: `hgcd2_contract` in Hgcd2.lean; the
    correspondence op `mpn_hgcd2` checks it on every call as well.) -/
def Hgcd2Contract : Prop :=
  ∀ (a b n : Nat) (m : M1), LInv a b n → 2 ≤ n →
    hgcd2 (top2 a b n).1 (top2 a b n).2.1 (top2 a b n).2.2.1 (top2 a b n).2.2.2 = some m →
    lehmerOk m a b ∧ (m.u01 ≠ 0 ∨ m.u10 ≠ 0) ∧
    0 < m.u11 * a - m.u01 * b ∧ 0 < m.u00 * b - m.u10 * a ∧
    (B ^ (n - 2) ≤ m.u11 * a - m.u01 * b ∨ B ^ (n - 2) ≤ m.u00 * b - m.u10 * a)

theorem pickCofactor_cases (u0 u1 : Nat) (d : Int) :
    pickCofactor u0 u1 d = -(u0 : Int) ∨ pickCofactor u0 u1 d = u1 := by
  unfold pickCofactor
  dsimp only
  split <;> split <;> simp

end Mpir.Gcd
