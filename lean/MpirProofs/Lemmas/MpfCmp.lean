/- For Props/C13_cmp.lean: `Mpf.cmp` agrees with the second model of mpf/cmp.c in Model/Conv.lean, whose sign theorem C11
   proves; the limb window compared by mpf_eq; the two roundings of mpf_reldiff. -/
import MpirProofs.Lemmas.Mpf
import Mpir.Model.MpfCmp
import MpirProofs.Lemmas.Conv
namespace Mpir.MpfCmp
open Mpir Mpir.Mpf

/-! ### mpf_cmp (cmp.c): the model agrees with `Conv.mpf_cmp` -/

/-- sign of a − b as −1 / 0 / 1 -/
def sgnCmp (a b : ℚ) : Int := if a < b then -1 else if a = b then 0 else 1

theorem sgnCmp_lt {a b : ℚ} (h : a < b) : sgnCmp a b = -1 := by simp [sgnCmp, h]
theorem sgnCmp_eq {a b : ℚ} (h : a = b) : sgnCmp a b = 0 := by simp [sgnCmp, h]
theorem sgnCmp_gt {a b : ℚ} (h : b < a) : sgnCmp a b = 1 := by
  unfold sgnCmp; rw [if_neg (not_lt.mpr (le_of_lt h)), if_neg (ne_of_gt h)]

theorem sgnCmp_swap (a b : ℚ) : sgnCmp b a = - sgnCmp a b := by
  rcases lt_trichotomy a b with h | h | h
  · rw [sgnCmp_lt h, sgnCmp_gt h]; rfl
  · rw [sgnCmp_eq h, sgnCmp_eq h.symm]; rfl
  · rw [sgnCmp_gt h, sgnCmp_lt h]

theorem sgnCmp_of_int {x y s : ℚ} (D : Int) (hs : 0 < s) (h : x - y = D * s) : sgnCmp x y = Conv.sgn D := by
  rcases lt_trichotomy D 0 with hD | hD | hD
  · have : (D : ℚ) * s < 0 := mul_neg_of_neg_of_pos (by exact_mod_cast hD) hs
    rw [sgnCmp_lt (by linarith), Conv.sgn_neg hD]
  · rw [hD, Int.cast_zero, zero_mul] at h
    rw [sgnCmp_eq (by linarith), hD]; rfl
  · have : 0 < (D : ℚ) * s := mul_pos (by exact_mod_cast hD) hs
    rw [sgnCmp_gt (by linarith), Conv.sgn_pos hD]

/-- cmp.c:89-107 on the low-zero-stripped mantissas -/
def cmpLimbs (up vp : List Nat) (usign : Int) : Int :=
  let usize := up.length
  let vsize := vp.length
  if usize > vsize then
    let c := val (up.drop (usize - vsize))
    if c = val vp then usign else if c > val vp then usign else -usign
  else if vsize > usize then
    let c := val (vp.drop (vsize - usize))
    if val up = c then -usign else if val up > c then usign else -usign
  else
    if val up = val vp then 0 else if val up > val vp then usign else -usign

theorem cmp_eq (u v : F) : Mpf.cmp u v =
    if (decide (u.size < 0) != decide (v.size < 0)) = true then (if u.size ≥ 0 then 1 else -1)
    else if u.size = 0 then (if v.size ≠ 0 then -1 else 0)
    else if v.size = 0 then 1
    else if u.exp > v.exp then (if u.size ≥ 0 then 1 else -1)
    else if u.exp < v.exp then -(if u.size ≥ 0 then 1 else -1)
    else cmpLimbs (stripLow u.d) (stripLow v.d) (if u.size ≥ 0 then 1 else -1) := rfl

/-- the view of an operand that Model/Conv.lean takes (no precision) -/
def toConv (u : F) : Conv.F := ⟨u.size, u.exp, u.d⟩

theorem toConv_wf {u : F} (hu : OpWF u) : (toConv u).wf := ⟨hu.len, hu.limbs, fun _ => hu.top_ne, hu.exp_zero⟩

theorem toQ_toConv {u : F} (hu : OpWF u) : toQ u = ((toConv u).mant : ℚ) * (B : ℚ) ^ (toConv u).lowExp := by
  unfold toQ Conv.F.mant Conv.F.lowExp toConv
  dsimp only
  rw [← hu.len]
  by_cases h : u.size < 0 <;> simp [h]

theorem cmp_ite (a b : List Nat) (ha : Limbs a) (hb : Limbs b) (hl : a.length = b.length) (x y z : Int) :
    (if Mpir.cmp a b = 0 then x else if Mpir.cmp a b > 0 then y else z)
      = if val a = val b then x else if val a > val b then y else z := by
  rcases Mpir.cmp_cases a b ha hb hl with ⟨h, l⟩ | ⟨h, l⟩ | ⟨h, l⟩ <;> rw [h]
  · rw [if_neg (by decide), if_neg (by decide), if_neg (by omega), if_neg (by omega)]
  · rw [if_pos rfl, if_pos l]
  · rw [if_neg (by decide), if_pos (by decide), if_neg (by omega), if_pos (by omega)]

theorem cmpLimbs_eq_conv (up vp : List Nat) (hu : Limbs up) (hv : Limbs vp) (s : Int) :
    cmpLimbs up vp s = Conv.mpf_cmp_limbs up vp s := by
  unfold cmpLimbs Conv.mpf_cmp_limbs
  dsimp only
  by_cases h1 : up.length > vp.length
  · rw [if_pos h1, if_pos h1, cmp_ite _ _ (Limbs_drop hu _) hv (by rw [List.length_drop]; omega)]
  · rw [if_neg h1, if_neg h1]
    by_cases h2 : vp.length > up.length
    · rw [if_pos h2, if_pos h2, cmp_ite _ _ hu (Limbs_drop hv _) (by rw [List.length_drop]; omega)]
    · rw [if_neg h2, if_neg h2, cmp_ite _ _ hu hv (by omega)]

theorem cmp_eq_conv (u v : F) (hu : OpWF u) (hv : OpWF v) :
    Mpf.cmp u v = Conv.mpf_cmp (toConv u) (toConv v) := by
  rw [cmp_eq]
  unfold Conv.mpf_cmp Conv.stripLow toConv
  dsimp only
  rw [dropWhile_eq_stripLow, dropWhile_eq_stripLow,
    cmpLimbs_eq_conv _ _ (Limbs_stripLow hu.limbs) (Limbs_stripLow hv.limbs)]
  by_cases hs : (decide (u.size < 0) != decide (v.size < 0)) = true
  · rw [if_pos hs, if_pos hs]
  · rw [if_neg hs, if_neg hs]
    by_cases h0 : u.size = 0
    · rw [if_pos h0, if_pos h0]; by_cases hv0 : v.size ≠ 0 <;> simp [hv0]
    · rw [if_neg h0, if_neg h0]
      by_cases hv0 : v.size = 0
      · rw [if_pos hv0, if_pos hv0, if_pos h0]
      · rw [if_neg hv0, if_neg hv0]

theorem cmp_sgn (u v : F) : Mpf.cmp u v = Conv.sgn (Mpf.cmp u v) := by
  have hs : ∀ c : Int, c = 1 ∨ c = 0 ∨ c = -1 → c = Conv.sgn c := by rintro c (rfl | rfl | rfl) <;> rfl
  apply hs
  -- closure under `ite`, applied leaf by leaf: `split_ifs` over the two nests of tests is slow to check
  have ite : ∀ (P : Int → Prop) (p : Prop) [Decidable p] (a b : Int), P a → P b → P (if p then a else b) := by
    intro P p _ a b ha hb; split <;> assumption
  rw [cmp_eq]
  have hu : (if u.size ≥ 0 then (1 : Int) else -1) = 1 ∨ (if u.size ≥ 0 then (1 : Int) else -1) = -1 := by
    by_cases h : u.size ≥ 0 <;> simp [h]
  generalize (if u.size ≥ 0 then (1 : Int) else -1) = s at hu ⊢
  have hc : cmpLimbs (stripLow u.d) (stripLow v.d) s = s ∨ cmpLimbs (stripLow u.d) (stripLow v.d) s = -s ∨
      cmpLimbs (stripLow u.d) (stripLow v.d) s = 0 := by
    have a : s = s ∨ s = -s ∨ s = 0 := Or.inl rfl
    have b : -s = s ∨ -s = -s ∨ -s = 0 := Or.inr (Or.inl rfl)
    have c : (0 : Int) = s ∨ (0 : Int) = -s ∨ (0 : Int) = 0 := Or.inr (Or.inr rfl)
    unfold cmpLimbs
    dsimp only
    have i := ite (fun c => c = s ∨ c = -s ∨ c = 0)
    exact i _ _ _ (i _ _ _ a (i _ _ _ a b)) (i _ _ _ (i _ _ _ b (i _ _ _ a b)) (i _ _ _ c (i _ _ _ a b)))
  generalize cmpLimbs (stripLow u.d) (stripLow v.d) s = c at hc ⊢
  have p1 : (1 : Int) = 1 ∨ (1 : Int) = 0 ∨ (1 : Int) = -1 := Or.inl rfl
  have p0 : (0 : Int) = 1 ∨ (0 : Int) = 0 ∨ (0 : Int) = -1 := Or.inr (Or.inl rfl)
  have pm : (-1 : Int) = 1 ∨ (-1 : Int) = 0 ∨ (-1 : Int) = -1 := Or.inr (Or.inr rfl)
  have ps : s = 1 ∨ s = 0 ∨ s = -1 := by rcases hu with h | h <;> rw [h] <;> [exact p1; exact pm]
  have pn : -s = 1 ∨ -s = 0 ∨ -s = -1 := by rcases hu with h | h <;> rw [h] <;> [exact pm; exact p1]
  have pc : c = 1 ∨ c = 0 ∨ c = -1 := by rcases hc with h | h | h <;> rw [h] <;> [exact ps; exact pn; exact p0]
  have i := ite (fun c => c = 1 ∨ c = 0 ∨ c = -1)
  exact i _ _ _ ps (i _ _ _ (i _ _ _ pm p0) (i _ _ _ p1 (i _ _ _ ps (i _ _ _ pn pc))))

theorem toQ_pos_of {u : F} (hu : OpWF u) (h : 0 < u.size) : 0 < toQ u := by
  rw [toQ_pos_qv u h]; exact (hu.mant (by omega)).qv_pos _

theorem toQ_neg_of {u : F} (hu : OpWF u) (h : u.size < 0) : toQ u < 0 := by
  rw [toQ_qv, sg_of_neg h]
  have := (hu.mant (by omega)).qv_pos u.exp; linarith

/-! ### mpf_eq (eq.c): the window of limbs compared -/

theorem limbAt_lt {d : List Nat} (hl : Limbs d) (i : Int) : limbAt d i < B := by
  unfold limbAt; split
  · exact Mpir.getD_lt hl _
  · exact B_pos

/-- value of the `m` most significant limbs of `d`, extended with zero limbs below when m > length -/
def window (d : List Nat) : Nat → Nat
  | 0 => 0
  | m + 1 => limbAt d ((d.length : Int) - ((m + 1 : Nat) : Int)) + B * window d m

theorem window_eq (d : List Nat) (hl : Limbs d) : ∀ m, window d m = val d * B ^ m / B ^ d.length
  | 0 => by simp only [window, pow_zero, Nat.mul_one]; exact (Nat.div_eq_of_lt (val_lt d hl)).symm
  | m + 1 => by
    simp only [window]
    rw [window_eq d hl m]
    by_cases h : m + 1 ≤ d.length
    · obtain ⟨j, hj⟩ : ∃ j, d.length = j + (m + 1) := ⟨d.length - (m + 1), by omega⟩
      have e1 : limbAt d ((d.length : Int) - ((m + 1 : Nat) : Int)) = d.getD j 0 := by
        unfold limbAt; rw [if_pos (by omega)]; congr 1; omega
      have e2 : val d * B ^ (m + 1) / B ^ d.length = val d / B ^ j := by
        rw [hj, pow_add B j (m + 1)]; exact Nat.mul_div_mul_right _ _ (Bpow_pos _)
      have e3 : val d * B ^ m / B ^ d.length = val d / B ^ j / B := by
        rw [Nat.div_div_eq_div_mul, hj, show j + (m + 1) = (j + 1) + m by ring, pow_add (n := m), pow_succ]
        exact Nat.mul_div_mul_right _ _ (Bpow_pos _)
      rw [e1, e2, e3, ← val_div_mod hl j]
      exact Nat.mod_add_div _ _
    · have e1 : limbAt d ((d.length : Int) - ((m + 1 : Nat) : Int)) = 0 := by
        unfold limbAt; rw [if_neg (by omega)]
      obtain ⟨j, hj⟩ : ∃ j, m = d.length + j := ⟨m - d.length, by omega⟩
      have e2 : val d * B ^ (m + 1) / B ^ d.length = val d * B ^ (j + 1) := by
        rw [hj, show d.length + j + 1 = (j + 1) + d.length by ring, pow_add, ← Nat.mul_assoc]
        exact Nat.mul_div_cancel _ (Bpow_pos _)
      have e3 : val d * B ^ m / B ^ d.length = val d * B ^ j := by
        rw [hj, show d.length + j = j + d.length by ring, pow_add, ← Nat.mul_assoc]
        exact Nat.mul_div_cancel _ (Bpow_pos _)
      rw [e1, e2, e3, pow_succ]; ring

theorem add_mul_eq_iff {P a b : ℕ} (x y : ℕ) (ha : a < P) (hb : b < P) : a + P * x = b + P * y ↔ a = b ∧ x = y := by
  constructor
  · intro h
    have h1 : (a + P * x) % P = (b + P * y) % P := by rw [h]
    rw [Nat.add_mul_mod_self_left, Nat.add_mul_mod_self_left, Nat.mod_eq_of_lt ha, Nat.mod_eq_of_lt hb] at h1
    subst h1
    have h2 : P * x = P * y := by omega
    exact ⟨rfl, Nat.eq_of_mul_eq_mul_left (by omega) h2⟩
  · rintro ⟨rfl, rfl⟩; rfl

theorem eqLoop_iff (ud vd : List Nat) (hu : Limbs ud) (hv : Limbs vd) :
    ∀ m, eqLoop ud vd m = true ↔ window ud m = window vd m
  | 0 => by simp [eqLoop, window]
  | m + 1 => by
    simp only [eqLoop, window]
    rw [add_mul_eq_iff _ _ (limbAt_lt hu _) (limbAt_lt hv _), ← eqLoop_iff ud vd hu hv m]
    by_cases h : limbAt ud ((ud.length : Int) - ((m + 1 : Nat) : Int)) = limbAt vd ((vd.length : Int) - ((m + 1 : Nat) : Int))
    · simp
    · simp

/-- the bottom limb shifted right by k, the others exactly: equality of the windows divided by 2^k -/
theorem window_shift (a b x y k : ℕ) (ha : a < B) (hb : b < B) (hk : k < 64) :
    (a / 2 ^ k = b / 2 ^ k ∧ x = y) ↔ (a + B * x) / 2 ^ k = (b + B * y) / 2 ^ k := by
  have hB : B = 2 ^ k * 2 ^ (64 - k) := by
    rw [← pow_add, show k + (64 - k) = 64 by omega]; rfl
  have hp : 0 < 2 ^ k := by positivity
  have e : ∀ c z : ℕ, (c + B * z) / 2 ^ k = c / 2 ^ k + 2 ^ (64 - k) * z := by
    intro c z
    rw [hB, Nat.mul_assoc, Nat.add_mul_div_left _ _ hp]
  have lt : ∀ c : ℕ, c < B → c / 2 ^ k < 2 ^ (64 - k) := by
    intro c hc
    rw [Nat.div_lt_iff_lt_mul hp, Nat.mul_comm, ← hB]; exact hc
  rw [e, e]
  exact (add_mul_eq_iff x y (lt a ha) (lt b hb)).symm

/-- the top T = 64n − k bits of the zero-extended mantissa -/
theorem window_div (d : List Nat) (hl : Limbs d) (n k : ℕ) (hk : k ≤ 64 * n) :
    window d n / 2 ^ k = val d * 2 ^ (64 * n - k) / B ^ d.length := by
  rw [window_eq d hl, Nat.div_div_eq_div_mul]
  have : B ^ n = 2 ^ (64 * n - k) * 2 ^ k := by
    rw [← pow_add, show 64 * n - k + k = 64 * n by omega, pow_mul]; rfl
  rw [this, ← Nat.mul_assoc]
  exact Nat.mul_div_mul_right _ _ (by positivity)

theorem log2_val {d : List Nat} (hd : Mant d) :
    Nat.log2 (val d) + 1 = 64 * d.length - clz (topLimb d) ∧ clz (topLimb d) < 64 ∧ 1 ≤ d.length := by
  obtain ⟨n, hn⟩ : ∃ n, d.length = n + 1 := ⟨d.length - 1, by
    have := hd.length_pos; omega⟩
  have hsplit := val_take_top d n hn
  have hl := hd.limbs
  have hlo := val_take_lt hl n
  have htl := getLast?_eq_topLimb d hd.ne
  have ht0 : topLimb d ≠ 0 := by intro h; apply hd.norm; rw [htl, h]
  have htB : topLimb d < B := by
    have : topLimb d ∈ d := by
      have := List.mem_of_getLast? htl; exact this
    exact hl _ this
  have hvpos : val d ≠ 0 := Nat.pos_iff_ne_zero.mp hd.val_pos
  have hl2 : Nat.log2 (topLimb d) < 64 := (Nat.log2_lt ht0).mpr (by rw [B_eq] at htB; norm_num; omega)
  have key : Nat.log2 (val d) = Nat.log2 (topLimb d) + 64 * n := by
    apply le_antisymm
    · have : Nat.log2 (val d) < Nat.log2 (topLimb d) + 64 * n + 1 := by
        rw [Nat.log2_lt hvpos, hsplit]
        have h1 : topLimb d < 2 ^ (Nat.log2 (topLimb d) + 1) := Nat.lt_log2_self
        have h2 : B ^ n = 2 ^ (64 * n) := by rw [pow_mul]; rfl
        calc val (d.take n) + B ^ n * topLimb d < B ^ n * (topLimb d + 1) := by rw [Nat.mul_succ]; omega
          _ ≤ B ^ n * 2 ^ (Nat.log2 (topLimb d) + 1) := Nat.mul_le_mul_left _ h1
          _ = 2 ^ (Nat.log2 (topLimb d) + 64 * n + 1) := by rw [h2, ← pow_add]; congr 1; ring
      omega
    · rw [Nat.le_log2 hvpos, hsplit]
      have h1 : 2 ^ Nat.log2 (topLimb d) ≤ topLimb d := Nat.log2_self_le ht0
      have h2 : B ^ n = 2 ^ (64 * n) := by rw [pow_mul]; rfl
      calc 2 ^ (Nat.log2 (topLimb d) + 64 * n) = B ^ n * 2 ^ Nat.log2 (topLimb d) := by rw [h2, ← pow_add]; congr 1; ring
        _ ≤ B ^ n * topLimb d := Nat.mul_le_mul_left _ h1
        _ ≤ val (d.take n) + B ^ n * topLimb d := Nat.le_add_left _ _
  unfold clz
  refine ⟨by rw [key, hn]; omega, by omega, by omega⟩


theorem eq_unfold (u v : F) (nbits : Nat) : eq u v nbits =
    if (decide (u.size < 0) != decide (v.size < 0)) = true then false
    else if u.size = 0 then decide (v.size = 0)
    else if v.size = 0 then false
    else if u.exp > v.exp then false
    else if v.exp > u.exp then false
    else if clz (topLimb u.d) ≠ clz (topLimb v.d) then false
    else eqTail u.d v.d (if nbits > 64 * max u.d.length v.d.length then 64 * max u.d.length v.d.length else nbits)
      (clz (topLimb u.d)) := rfl

theorem W_eq : W = 18446744073709551616 := by unfold W; norm_num

theorem eqTail_spec (ud vd : List Nat) (hu : Limbs ud) (hv : Limbs vd) (nbits cu : Nat) (hc : cu < 64)
    (hn : nbits + 127 ≤ 2 ^ 64) :
    eqTail ud vd nbits cu = true ↔
      val ud * 2 ^ (nbits + cu) / B ^ ud.length = val vd * 2 ^ (nbits + cu) / B ^ vd.length := by
  unfold eqTail
  have hn1 : (((nbits + cu) % W + 63) % W) / 64 = (nbits + cu + 63) / 64 := by rw [W_eq]; omega
  rw [hn1]
  dsimp only
  obtain ⟨n, hN⟩ : ∃ n, (nbits + cu + 63) / 64 = n := ⟨_, rfl⟩
  rw [hN]
  by_cases n0 : n = 0
  · rw [if_pos n0]
    have : nbits + cu = 0 := by omega
    rw [this, pow_zero, Nat.mul_one, Nat.mul_one, Nat.div_eq_of_lt (val_lt ud hu), Nat.div_eq_of_lt (val_lt vd hv)]
    simp
  · rw [if_neg n0]
    obtain ⟨m, rfl⟩ : ∃ m, n = m + 1 := ⟨n - 1, by omega⟩
    obtain ⟨k, hk⟩ : ∃ k, 64 * (m + 1) = nbits + cu + k := ⟨64 * (m + 1) - (nbits + cu), by omega⟩
    have hk64 : k < 64 := by omega
    have hkk : ((m + 1) * 64 + 2 * W - nbits - cu) % W = k := by rw [W_eq]; omega
    rw [hkk, show m + 1 - 1 = m from rfl]
    have hT : nbits + cu = 64 * (m + 1) - k := by omega
    rw [hT, ← window_div ud hu (m + 1) k (by omega), ← window_div vd hv (m + 1) k (by omega)]
    simp only [window]
    rw [← window_shift _ _ _ _ k (limbAt_lt hu _) (limbAt_lt hv _) hk64, ← eqLoop_iff ud vd hu hv m]
    by_cases h : limbAt ud ((ud.length : Int) - ((m + 1 : Nat) : Int)) / 2 ^ k =
        limbAt vd ((vd.length : Int) - ((m + 1 : Nat) : Int)) / 2 ^ k
    · rw [if_neg (not_not.mpr h)]; exact ⟨fun e => ⟨h, e⟩, fun e => e.2⟩
    · rw [if_pos h]; exact ⟨fun e => absurd e Bool.false_ne_true, fun e => absurd e.1 h⟩

/-- beyond the longer operand both expansions continue with zeros: the comparison of the top T bits does not depend on T -/
theorem topbits_clamp (ud vd : List Nat) (T T' : ℕ) (h1 : 64 * max ud.length vd.length ≤ T') (h2 : T' ≤ T) :
    (val ud * 2 ^ T / B ^ ud.length = val vd * 2 ^ T / B ^ vd.length) ↔
    (val ud * 2 ^ T' / B ^ ud.length = val vd * 2 ^ T' / B ^ vd.length) := by
  have e : ∀ (d : List Nat) (S : ℕ), 64 * d.length ≤ S → val d * 2 ^ S / B ^ d.length = val d * 2 ^ (S - 64 * d.length) := by
    intro d S h
    have hB : B ^ d.length = 2 ^ (64 * d.length) := by rw [pow_mul]; rfl
    have : (2 : ℕ) ^ S = 2 ^ (S - 64 * d.length) * 2 ^ (64 * d.length) := by rw [← pow_add]; congr 1; omega
    rw [hB, this, ← Nat.mul_assoc]; exact Nat.mul_div_cancel _ (by positivity)
  have hu : 64 * ud.length ≤ T' := le_trans (Nat.mul_le_mul_left _ (le_max_left _ _)) h1
  have hv : 64 * vd.length ≤ T' := le_trans (Nat.mul_le_mul_left _ (le_max_right _ _)) h1
  rw [e ud T (by omega), e vd T (by omega), e ud T' hu, e vd T' hv]
  have s : ∀ (d : List Nat), 64 * d.length ≤ T' → 2 ^ (T - 64 * d.length) = 2 ^ (T' - 64 * d.length) * 2 ^ (T - T') := by
    intro d h; rw [← pow_add]; congr 1; omega
  rw [s ud hu, s vd hv, ← Nat.mul_assoc, ← Nat.mul_assoc]
  exact ⟨fun h => Nat.eq_of_mul_eq_mul_right (by positivity) h, fun h => by rw [h]⟩

/-- the first n bits of x counted from its leading 1 bit (zero bits supplied below when x is shorter):
    ⌊x · 2^n / 2^(bit length of x)⌋ -/
def firstBits (x n : Nat) : Nat := x * 2 ^ n / 2 ^ (Nat.log2 x + 1)

theorem firstBits_eq {d : List Nat} (hd : Mant d) (nbits : Nat) :
    firstBits (val d) nbits = val d * 2 ^ (nbits + clz (topLimb d)) / B ^ d.length := by
  obtain ⟨h1, h2, h3⟩ := log2_val hd
  unfold firstBits
  rw [h1]
  have : B ^ d.length = 2 ^ (64 * d.length - clz (topLimb d)) * 2 ^ clz (topLimb d) := by
    rw [← pow_add, show 64 * d.length - clz (topLimb d) + clz (topLimb d) = 64 * d.length by omega, pow_mul]; rfl
  rw [this, pow_add, ← Nat.mul_assoc]
  exact (Nat.mul_div_mul_right _ _ (by positivity)).symm

theorem firstBits_zero (x : Nat) : firstBits x 0 = 0 := by
  unfold firstBits; rw [pow_zero, Nat.mul_one]; exact Nat.div_eq_of_lt Nat.lt_log2_self

/-! ### mpf_reldiff (reldiff.c): two roundings -/

theorem toQ_abs_size (d : F) : toQ { d with size := (d.size.natAbs : Int) } = |toQ d| := by
  rw [abs_toQ, toQ_qv, sg_of_not_neg (by dsimp only; omega), one_mul]

theorem OpWF_abs_size {d : F} (h : WF d) : OpWF { d with size := (d.size.natAbs : Int) } :=
  h.toOpWF.with_size (Int.natAbs_natCast _)

theorem size_zero_of_toQ {d : F} (hd : OpWF d) (h : toQ d = 0) : d.size = 0 :=
  by_contra fun h0 => toQ_ne_zero hd h0 h

/-- two roundings: D ≈ Δ within ed, R ≈ |D|/X within ep -/
theorem reldiff_err (R D Δ X ep ed : ℚ) (hX : X ≠ 0) (hep : 0 < ep)
    (h1 : |D - Δ| < ed * |Δ|) (h2 : |R - |D| / X| < ep * |(|D| / X)|) :
    |R - |Δ| / X| < (ep + ed + ep * ed) * (|Δ| / |X|) := by
  have hXp : 0 < |X| := abs_pos.mpr hX
  have a1 : |(|D| - |Δ|)| < ed * |Δ| := lt_of_le_of_lt (abs_abs_sub_abs_le_abs_sub D Δ) h1
  have a2 : |(|D| / X - |Δ| / X)| = |(|D| - |Δ|)| / |X| := by rw [← sub_div, abs_div]
  have a3 : |(|D| / X)| = |D| / |X| := by rw [abs_div, abs_abs]
  have a4 : |D| < (1 + ed) * |Δ| := by
    have := le_abs_self (|D| - |Δ|); linarith
  have t : |R - |Δ| / X| ≤ |R - |D| / X| + |(|D| / X - |Δ| / X)| := abs_sub_le _ _ _
  have b1 : |(|D| - |Δ|)| / |X| < ed * (|Δ| / |X|) := by
    rw [← mul_div_assoc]; exact div_lt_div_of_pos_right a1 hXp
  have b2 : |D| / |X| < (1 + ed) * (|Δ| / |X|) := by
    rw [← mul_div_assoc]; exact div_lt_div_of_pos_right a4 hXp
  have b3 : ep * (|D| / |X|) < ep * ((1 + ed) * (|Δ| / |X|)) := mul_lt_mul_of_pos_left b2 hep
  rw [a3] at h2; rw [a2] at t
  linarith

theorem reldiff_core (prec : ℕ) (hp : 2 ≤ prec) (x y : F) (hx : OpWF x) (hy : OpWF y) (hx0 : x.size ≠ 0) :
    ∃ r, reldiff prec x y = .ok r ∧ WF r ∧
      (toQ x = toQ y → toQ r = 0) ∧
      (toQ x ≠ toQ y →
        |toQ r - |toQ x - toQ y| / toQ x| <
          (eps prec + eps (prec + x.d.length) + eps prec * eps (prec + x.d.length)) * (|toQ x - toQ y| / |toQ x|)) := by
  unfold reldiff
  rw [if_neg hx0]
  dsimp only
  obtain ⟨wfd, hz, hnz⟩ := (sub_spec (prec + x.d.length) (by omega) x y hx hy false false).1 (by simp) (by simp)
  generalize Mpf.sub (prec + x.d.length) false false x y = d at *
  have hd' := OpWF_abs_size wfd
  have hX : toQ x ≠ 0 := toQ_ne_zero hx hx0
  by_cases he : toQ x = toQ y
  · have hd0 : toQ d = 0 := hz (by rw [he]; ring)
    have hs0 : d.size = 0 := size_zero_of_toQ wfd.toOpWF hd0
    refine ⟨zero prec, ?_, WF_zero prec, fun _ => toQ_zero prec, fun h => absurd he h⟩
    unfold Mpf.div
    rw [if_neg hx0, if_pos (by dsimp only; rw [hs0]; rfl)]
  · have hΔ : toQ x - toQ y ≠ 0 := sub_ne_zero.mpr he
    have h1 := hnz hΔ
    have hed1 := eps_lt_one (prec + x.d.length) (by omega)
    have hD : toQ d ≠ 0 := by
      intro h0
      rw [h0, zero_sub, abs_neg] at h1
      have := abs_pos.mpr hΔ
      nlinarith
    have hds : ({ d with size := (d.size.natAbs : Int) } : F).size ≠ 0 := fun h0 =>
      hD (wfd.toOpWF.toQ_zero (by dsimp only at h0; omega))
    obtain ⟨r, hr, wfr, herr, _⟩ := div_spec prec (by omega) _ x hd' hx hds hx0
    refine ⟨r, hr, wfr, fun h => absurd h he, fun _ => ?_⟩
    rw [toQ_abs_size] at herr
    exact reldiff_err (toQ r) (toQ d) (toQ x - toQ y) (toQ x) _ _ hX (eps_pos _) h1 herr

end Mpir.MpfCmp
