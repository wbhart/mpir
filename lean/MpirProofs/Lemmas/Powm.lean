/- C08 on values (Mpir/Model/Powm.lean; `powm.c` is mpz/powm.c unless written mpn/generic/powm.c): the sliding window for
   any arithmetic (`windowExp_rel`), the fix-up shared by mpz_powm and mpz_powm_ui (`negfix_k`), redc_1, the CRT path, Newton
   inverses, Montgomery form (`IsRedc`, `Mont`), then one section per routine. -/
import MpirProofs.Lemmas.Base
import MpirProofs.Lemmas.Kernels
import MpirProofs.Lemmas.Arith
import MpirProofs.Lemmas.DivWordExact
import Mpir.Model.Powm
import Mathlib.Tactic.Ring
import Mathlib.Tactic.Linarith
import Mathlib.Tactic.IntervalCases
import Mathlib.Algebra.Group.Basic
import Mathlib.Data.Nat.ModEq
import Mathlib.Data.Int.ModEq
import Mathlib.Data.List.Basic
import Mathlib.Data.Nat.GCD.Basic
import Mathlib.Data.Nat.ChineseRemainder
namespace Mpir.Powm
open Mpir

/-! ### scalar code: count_trailing_zeros, getbit, getbits, MPN_SIZEINBASE_2EXP -/

theorem one_lt_B_pow {n : Nat} (hn : 1 ≤ n) : 1 < B ^ n := two_le_Bpow n hn

theorem ctzAux_spec (f x : Nat) (h0 : x ≠ 0) (hlt : x < 2 ^ f) :
    x = 2 ^ ctzAux f x * (x / 2 ^ ctzAux f x) ∧ (x / 2 ^ ctzAux f x) % 2 = 1 :=
  have h := isCtz_halving ctzAux (fun _ => rfl) (fun _ _ _ => rfl) f
  ⟨(h.mul_div (Nat.pos_of_ne_zero h0) hlt).symm, (h x (Nat.pos_of_ne_zero h0) hlt).2⟩

theorem ctz_spec (x : Nat) (h0 : x ≠ 0) (hlt : x < 2 ^ 64) :
    x = 2 ^ ctz x * (x >>> ctz x) ∧ (x >>> ctz x) % 2 = 1 := by
  unfold ctz; simp only [h0, if_false, Nat.shiftRight_eq_div_pow]
  exact ctzAux_spec 64 x h0 hlt

theorem val_drop_getD (p : List Nat) (i : Nat) : val (p.drop i) = p.getD i 0 + B * val (p.drop (i + 1)) := by
  induction p generalizing i with
  | nil => simp
  | cons x xs ih =>
    cases i with
    | zero => simp
    | succ j => simpa using ih j

theorem getD_lt (p : List Nat) (hp : Limbs p) (i : Nat) : p.getD i 0 < B := Mpir.getD_lt hp i

theorem val_shift (p : List Nat) (hp : Limbs p) (j : Nat) :
    val p / 2 ^ j = p.getD (j / 64) 0 / 2 ^ (j % 64) + 2 ^ (64 - j % 64) * val (p.drop (j / 64 + 1)) := by
  have hs : j % 64 ≤ 64 := by omega
  rw [two_pow_split j, ← Nat.div_div_eq_div_mul, ← val_drop_eq_div p hp, val_drop_getD, B_split _ hs, Nat.mul_assoc,
    Nat.add_mul_div_left _ _ (Nat.two_pow_pos _)]

theorem ctz_strip (m0 : Nat) (rest : List Nat) (hm0 : m0 ≠ 0) (hlt : m0 < B) :
    ctz m0 ≤ 63 ∧ 0 < m0 >>> ctz m0 ∧
    val (m0 :: rest) / 2 ^ ctz m0 = (m0 >>> ctz m0) + 2 ^ (64 - ctz m0) * val rest ∧
    val (m0 :: rest) = 2 ^ ctz m0 * (val (m0 :: rest) / 2 ^ ctz m0) ∧
    (val (m0 :: rest) / 2 ^ ctz m0) % 2 = 1 := by
  obtain ⟨hc1, hc2⟩ := ctz_spec m0 hm0 (by rw [← B_eq_pow]; exact hlt)
  have hq : 0 < m0 >>> ctz m0 := by
    rcases Nat.eq_zero_or_pos (m0 >>> ctz m0) with h | h
    · rw [h] at hc2; simp at hc2
    · exact h
  have hc63 : ctz m0 ≤ 63 := by
    by_contra hge
    have h1 : 2 ^ 64 ≤ 2 ^ ctz m0 := Nat.pow_le_pow_right (by decide) (by omega)
    have h2 : 2 ^ ctz m0 ≤ 2 ^ ctz m0 * (m0 >>> ctz m0) := Nat.le_mul_of_pos_right _ hq
    rw [B_eq_pow] at hlt
    generalize 2 ^ ctz m0 * (m0 >>> ctz m0) = prod at *
    omega
  generalize ctz m0 = c at *
  have hpos : 0 < 2 ^ c := Nat.two_pow_pos _
  have hB : B = 2 ^ c * 2 ^ (64 - c) := B_split c (by omega)
  have hdiv : val (m0 :: rest) / 2 ^ c = (m0 >>> c) + 2 ^ (64 - c) * val rest := by
    rw [val_cons, hB, Nat.mul_assoc, Nat.add_mul_div_left _ _ hpos, Nat.shiftRight_eq_div_pow]
  refine ⟨hc63, hq, hdiv, ?_, ?_⟩
  · rw [hdiv, val_cons, Nat.mul_add, ← hc1, ← Nat.mul_assoc, ← hB]
  · have : 2 ^ (64 - c) = 2 * 2 ^ (63 - c) := by rw [← pow_succ']; congr 1; omega
    rw [hdiv, this, Nat.mul_assoc, Nat.add_mul_mod_self_left]; exact hc2

theorem getbit_spec (p : List Nat) (hp : Limbs p) (bi : Nat) :
    getbit p bi = (val p / 2 ^ (bi - 1)) % 2 := by
  unfold getbit
  rw [Nat.and_one_is_mod, Nat.shiftRight_eq_div_pow, val_shift p hp]
  have : 2 ^ (64 - (bi - 1) % 64) = 2 * 2 ^ (63 - (bi - 1) % 64) := by
    rw [← pow_succ']; congr 1; omega
  rw [this, Nat.mul_assoc, Nat.add_mul_mod_self_left]

theorem getbits_spec (p : List Nat) (hp : Limbs p) (bi nbits : Nat) (hn : nbits ≤ 63) :
    getbits p bi nbits = if bi < nbits then val p % 2 ^ bi else (val p / 2 ^ (bi - nbits)) % 2 ^ nbits := by
  unfold getbits
  by_cases hlt : bi < nbits
  · simp only [hlt, if_true]
    rw [Nat.one_shiftLeft, Nat.and_two_pow_sub_one_eq_mod]
    have hb : bi ≤ 64 := by omega
    -- p[0] % 2^bi = val p % 2^bi
    have h0 := val_shift p hp 0
    simp only [Nat.zero_div, Nat.zero_mod, pow_zero, Nat.div_one, Nat.sub_zero, Nat.zero_add] at h0
    rw [h0]
    have : 2 ^ 64 = 2 ^ bi * 2 ^ (64 - bi) := by rw [← pow_add]; congr 1; omega
    rw [this, Nat.mul_assoc, Nat.add_mul_mod_self_left]
  · simp only [hlt, if_false]
    rw [Nat.one_shiftLeft, Nat.and_two_pow_sub_one_eq_mod, val_shift p hp]
    generalize hj : bi - nbits = j
    have hs : j % 64 < 64 := Nat.mod_lt _ (by decide)
    generalize hs' : j % 64 = s at *
    generalize p.getD (j / 64) 0 = x0
    by_cases hc : 64 - s < nbits
    · simp only [hc, if_true]
      rw [val_drop_getD]
      generalize p.getD (j / 64 + 1) 0 = x1
      generalize val (p.drop (j / 64 + 1 + 1)) = rest
      have hB : B = 2 ^ nbits * 2 ^ (64 - nbits) := B_split _ (by omega)
      rw [Nat.shiftRight_eq_div_pow, Nat.shiftLeft_eq]
      -- reduce `% B % 2^nbits`
      have hd : 2 ^ nbits ∣ B := ⟨_, hB⟩
      rw [Nat.mod_mod_of_dvd _ hd]
      have e1 : (x0 / 2 ^ s + x1 * 2 ^ (64 - s) % B) % 2 ^ nbits = (x0 / 2 ^ s + x1 * 2 ^ (64 - s)) % 2 ^ nbits := by
        rw [Nat.add_mod, Nat.mod_mod_of_dvd _ hd, ← Nat.add_mod]
      rw [e1]
      have e2 : 2 ^ (64 - s) * (x1 + B * rest) = x1 * 2 ^ (64 - s) + 2 ^ nbits * (2 ^ (64 - nbits) * 2 ^ (64 - s) * rest) := by
        rw [hB]; ring
      rw [e2, ← Nat.add_assoc, Nat.add_mul_mod_self_left]
    · simp only [hc, if_false]
      have : 2 ^ (64 - s) = 2 ^ nbits * 2 ^ (64 - s - nbits) := by rw [← pow_add]; congr 1; omega
      rw [Nat.shiftRight_eq_div_pow, this, Nat.mul_assoc, Nat.add_mul_mod_self_left]


theorem sizeinbase2_spec (ep : List Nat) (hl : Limbs ep) (hne : ep ≠ []) (htop : ep.getLast hne ≠ 0) :
    1 ≤ sizeinbase2 ep ∧ 2 ^ (sizeinbase2 ep - 1) ≤ val ep ∧ val ep < 2 ^ sizeinbase2 ep := by
  have hn := (normalized_iff_getLast hne).mpr htop
  have hv : val ep ≠ 0 := Nat.ne_of_gt (hn.pos hne)
  have htl : (ep.getLast hne).log2 < 64 := (Nat.log2_lt htop).mpr (hl _ (List.getLast_mem hne))
  have hlen : ep.length - 1 < ep.length := Nat.sub_lt (List.length_pos_iff.mpr hne) Nat.one_pos
  have e1 : ep.getLastD 1 = ep.getLast hne := by
    rw [List.getLastD_eq_getLast?, List.getLast?_eq_some_getLast hne]; rfl
  have e2 : ep.getD (ep.length - 1) 0 = ep.getLast hne := by
    rw [List.getLast_eq_getElem, List.getD_eq_getElem?_getD, List.getElem?_eq_getElem hlen]; rfl
  have hsz : sizeinbase2 ep = (val ep).log2 + 1 := by
    unfold sizeinbase2 clz; rw [log2_val hl hne hn, e1, e2]; omega
  rw [hsz]; exact ⟨Nat.succ_pos _, Nat.log2_self_le hv, Nat.lt_log2_self⟩

/-- One window: the `w'` bits of `e` below bit position `ebi` (1-based, bit `ebi` set) split as
    `2^c · odd`; dropping the `c` low zero bits leaves `E·2^(w'-c) + odd` above position `ebi - w' + c`. -/
theorem window_extract (e ebi w' : Nat) (hw1 : 1 ≤ w') (hw63 : w' ≤ 63) (hle : w' ≤ ebi)
    (hbit : (e / 2 ^ (ebi - 1)) % 2 = 1) (bits : Nat) (hb : bits = (e / 2 ^ (ebi - w')) % 2 ^ w') :
    ctz bits < w' ∧ bits >>> ctz bits < 2 ^ w' ∧ (bits >>> ctz bits) % 2 = 1 ∧
    e / 2 ^ (ebi - w' + ctz bits) = (e / 2 ^ ebi) * 2 ^ (w' - ctz bits) + (bits >>> ctz bits) := by
  have hblt : bits < 2 ^ w' := by rw [hb]; exact Nat.mod_lt _ (Nat.two_pow_pos _)
  have hsplit : 2 ^ w' = 2 ^ (w' - 1) * 2 := by rw [← pow_succ]; congr 1; omega
  -- top bit of the window
  have htopbit : bits / 2 ^ (w' - 1) = 1 := by
    rw [hb, hsplit, Nat.mod_mul_right_div_self, Nat.div_div_eq_div_mul, ← pow_add]
    have : ebi - w' + (w' - 1) = ebi - 1 := by omega
    rw [this, hbit]
  have hbge : 2 ^ (w' - 1) ≤ bits := by
    by_contra hlt
    rw [Nat.div_eq_of_lt (by omega)] at htopbit; omega
  have hb0 : bits ≠ 0 := by have := Nat.two_pow_pos (w' - 1); omega
  have h64 : bits < 2 ^ 64 := lt_of_lt_of_le hblt (Nat.pow_le_pow_right (by decide) (by omega))
  obtain ⟨hc1, hc2⟩ := ctz_spec bits hb0 h64
  generalize ctz bits = c at *
  generalize bits >>> c = od at *
  have hod0 : 0 < od := by omega
  have hclt : c < w' := by
    by_contra hge
    have : 2 ^ w' ≤ 2 ^ c := Nat.pow_le_pow_right (by decide) (by omega)
    have : 2 ^ c ≤ 2 ^ c * od := Nat.le_mul_of_pos_right _ hod0
    omega
  have hodlt : od < 2 ^ w' := by
    have : od ≤ 2 ^ c * od := Nat.le_mul_of_pos_left _ (Nat.two_pow_pos c)
    omega
  refine ⟨hclt, hodlt, hc2, ?_⟩
  -- e / 2^lo = E * 2^w' + bits
  have hE : e / 2 ^ (ebi - w') = (e / 2 ^ ebi) * 2 ^ w' + bits := by
    have h := Nat.div_add_mod (e / 2 ^ (ebi - w')) (2 ^ w')
    rw [Nat.div_div_eq_div_mul, ← pow_add] at h
    have : ebi - w' + w' = ebi := by omega
    rw [this, ← hb] at h
    rw [← h]; ring
  rw [pow_add, ← Nat.div_div_eq_div_mul, hE, hc1]
  have hw : 2 ^ w' = 2 ^ c * 2 ^ (w' - c) := by rw [← pow_add]; congr 1; omega
  rw [hw]
  have : e / 2 ^ ebi * (2 ^ c * 2 ^ (w' - c)) + 2 ^ c * od = 2 ^ c * (e / 2 ^ ebi * 2 ^ (w' - c) + od) := by ring
  rw [this, Nat.mul_div_cancel_left _ (Nat.two_pow_pos c)]


/-! ### the sliding window, for any arithmetic related to exponents by `Rel r k` ("r represents b^k") -/

section Window
variable {α : Type} (sqr : α → α) (mul : α → α → α) (table : Nat → α) (Rel : α → Nat → Prop)

theorem sqrDo_rel (hsqr : ∀ r k, Rel r k → Rel (sqr r) (2 * k)) :
    ∀ (tw : Nat) (r : α) (k : Nat), 1 ≤ tw → Rel r k → Rel (sqrDo sqr tw r) (k * 2 ^ tw)
  | 0, _, _, h, _ => by omega
  | 1, r, k, _, hr => by
    have := hsqr r k hr
    simpa [sqrDo, Nat.mul_comm] using this
  | tw + 2, r, k, _, hr => by
    have := sqrDo_rel hsqr (tw + 1) (sqr r) (2 * k) (by omega) (hsqr r k hr)
    have e : 2 * k * 2 ^ (tw + 1) = k * 2 ^ (tw + 2) := by rw [pow_succ 2 (tw + 1)]; ring
    rw [e] at this
    simpa [sqrDo] using this

/-- what one window contributes, in the shape the model's `let`s have. -/
theorem window_step (ep : List Nat) (hl : Limbs ep) (w ebi : Nat) (hw : 1 ≤ w) (hw63 : w ≤ 63) (hebi : 1 ≤ ebi)
    (hbit : (val ep / 2 ^ (ebi - 1)) % 2 = 1) :
    let expbits := getbits ep ebi w
    let tw := if ebi < w then w - (w - ebi) else w
    let lo := if ebi < w then 0 else ebi - w
    let cnt := ctz expbits
    1 ≤ tw - cnt ∧ lo + cnt < ebi ∧ (expbits >>> cnt) >>> 1 < 2 ^ (w - 1) ∧
    val ep / 2 ^ (lo + cnt) = (val ep / 2 ^ ebi) * 2 ^ (tw - cnt) + (2 * ((expbits >>> cnt) >>> 1) + 1) := by
  intro expbits tw lo cnt
  show 1 ≤ tw - ctz expbits ∧ lo + ctz expbits < ebi ∧ (expbits >>> ctz expbits) >>> 1 < 2 ^ (w - 1) ∧
    val ep / 2 ^ (lo + ctz expbits) =
      (val ep / 2 ^ ebi) * 2 ^ (tw - ctz expbits) + (2 * ((expbits >>> ctz expbits) >>> 1) + 1)
  have hexp : expbits = getbits ep ebi w := rfl
  clear_value expbits
  -- both cases of `getbits` read the `tw = min ebi w` bits above position `lo = ebi − tw`
  have hcases : 1 ≤ tw ∧ tw ≤ w ∧ tw ≤ ebi ∧ lo = ebi - tw ∧ expbits = (val ep / 2 ^ (ebi - tw)) % 2 ^ tw := by
    rw [hexp, getbits_spec ep hl ebi w hw63]
    by_cases hlt : ebi < w
    · have htw : tw = ebi := by simp only [tw, hlt, if_true]; omega
      have hlo : lo = 0 := by simp only [lo, hlt, if_true]
      rw [htw, hlo, if_pos hlt, Nat.sub_self, pow_zero, Nat.div_one]
      exact ⟨hebi, by omega, le_refl _, rfl, rfl⟩
    · have htw : tw = w := by simp only [tw, hlt, if_false]
      have hlo : lo = ebi - w := by simp only [lo, hlt, if_false]
      rw [htw, hlo, if_neg hlt]
      exact ⟨hw, le_refl _, by omega, rfl, rfl⟩
  obtain ⟨htw1, htww, htwe, hlo, hb⟩ := hcases
  clear_value tw lo
  obtain ⟨h1, h2, h3, h4⟩ := window_extract (val ep) ebi tw htw1 (by omega) htwe hbit expbits hb
  rw [hlo]
  refine ⟨by omega, by omega, ?_, ?_⟩
  · rw [Nat.shiftRight_eq_div_pow _ 1, pow_one]
    have : 2 ^ tw ≤ 2 ^ w := Nat.pow_le_pow_right (by decide) htww
    have hw' : 2 ^ w = 2 * 2 ^ (w - 1) := by rw [← pow_succ']; congr 1; omega
    omega
  · rw [h4, Nat.shiftRight_eq_div_pow _ 1, pow_one]; omega

theorem windowLoop_rel (ep : List Nat) (hl : Limbs ep) (w : Nat) (hw : 1 ≤ w) (hw63 : w ≤ 63)
    (hsqr : ∀ r k, Rel r k → Rel (sqr r) (2 * k))
    (hmul : ∀ r k i, i < 2 ^ (w - 1) → Rel r k → Rel (mul r (table i)) (k + (2 * i + 1))) :
    ∀ (fuel : Nat) (r : α) (ebi : Nat), ebi < fuel → Rel r (val ep / 2 ^ ebi) →
      Rel (windowLoop sqr mul table ep w fuel r ebi) (val ep)
  | 0, _, _, h, _ => by omega
  | fuel + 1, r, ebi, hf, hr => by
    unfold windowLoop
    by_cases h0 : ebi = 0
    · simpa [h0] using hr
    · simp only [h0, if_false]
      have hhalf : val ep / 2 ^ ebi = val ep / 2 ^ (ebi - 1) / 2 := by
        rw [Nat.div_div_eq_div_mul, ← pow_succ]; congr 2; omega
      by_cases hb : getbit ep ebi = 0
      · simp only [hb, if_true]
        apply windowLoop_rel ep hl w hw hw63 hsqr hmul fuel _ _ (by omega)
        rw [getbit_spec ep hl] at hb
        have : val ep / 2 ^ (ebi - 1) = 2 * (val ep / 2 ^ ebi) := by omega
        rw [this]; exact hsqr _ _ hr
      · simp only [hb, if_false]
        have hbit : (val ep / 2 ^ (ebi - 1)) % 2 = 1 := by
          rw [getbit_spec ep hl] at hb; omega
        obtain ⟨h1, h2, h3, h4⟩ := window_step ep hl w ebi hw hw63 (by omega) hbit
        apply windowLoop_rel ep hl w hw hw63 hsqr hmul fuel _ _ (by omega)
        rw [h4]
        exact hmul _ _ _ h3 (sqrDo_rel sqr Rel hsqr _ _ _ h1 hr)

/-- first window + INNERLOOP -/
theorem windowExp_rel (ep : List Nat) (hl : Limbs ep) (hne : ep ≠ []) (htop : ep.getLast hne ≠ 0)
    (w : Nat) (hw : 1 ≤ w) (hw63 : w ≤ 63)
    (hsqr : ∀ r k, Rel r k → Rel (sqr r) (2 * k))
    (hmul : ∀ r k i, i < 2 ^ (w - 1) → Rel r k → Rel (mul r (table i)) (k + (2 * i + 1)))
    (htab : ∀ i, i < 2 ^ (w - 1) → Rel (table i) (2 * i + 1)) :
    Rel (windowExp sqr mul table ep (sizeinbase2 ep) w) (val ep) := by
  obtain ⟨hs1, hs2, hs3⟩ := sizeinbase2_spec ep hl hne htop
  generalize sizeinbase2 ep = ebi at *
  have hbit : (val ep / 2 ^ (ebi - 1)) % 2 = 1 := by
    have h2 : 2 ^ ebi = 2 ^ (ebi - 1) * 2 := by rw [← pow_succ]; congr 1; omega
    have : val ep / 2 ^ (ebi - 1) = 1 := by
      apply Nat.div_eq_of_lt_le <;> omega
    rw [this]
  obtain ⟨h1, h2, h3, h4⟩ := window_step ep hl w ebi hw hw63 hs1 hbit
  have hz : val ep / 2 ^ ebi = 0 := Nat.div_eq_of_lt hs3
  rw [hz, Nat.zero_mul, Nat.zero_add] at h4
  unfold windowExp windowInit
  simp only
  apply windowLoop_rel sqr mul table Rel ep hl w hw hw63 hsqr hmul _ _ _ (by omega)
  rw [h4]
  exact htab _ h3

end Window


/-! ### MPN_NORMALIZE and the negative-base fix-up of mpz_powm / mpz_powm_ui (powm.c:270-277, powm_ui.c:258-266) -/

theorem sub_exact (x y : List Nat) (hx : Limbs x) (hy : Limbs y) (hlen : y.length ≤ x.length)
    (hle : val y ≤ val x) :
    val (sub x y).1 = val x - val y ∧ Limbs (sub x y).1 ∧ (sub x y).1.length = x.length := by
  obtain ⟨hv, hc, hl, hn⟩ := sub_val' x y hx hy hlen
  refine ⟨?_, hl, hn⟩
  have hlt := val_lt _ hl
  rw [hn] at hlt
  have hxl := val_lt x hx
  by_cases h0 : (sub x y).2 = 0
  · rw [h0] at hv; omega
  · have h1 : (sub x y).2 = 1 := by omega
    rw [h1] at hv; omega

def Norm (l : List Nat) : Prop := Limbs l ∧ ∀ h : l ≠ [], l.getLast h ≠ 0

theorem Norm.normalized {l : List Nat} (h : Norm l) : Normalized l :=
  if hne : l = [] then hne ▸ normalized_nil else (normalized_iff_getLast hne).mpr (h.2 hne)

theorem Norm.of_normalized {l : List Nat} (hl : Limbs l) (h : Normalized l) : Norm l :=
  ⟨hl, fun hne => (normalized_iff_getLast hne).mp h⟩

theorem Norm_natLimbs (v : Nat) : Norm (natLimbs v) := .of_normalized (Limbs_natLimbs v) (normalized_natLimbs v)

theorem Norm_ge (l : List Nat) (hn : Norm l) (hne : l ≠ []) : B ^ (l.length - 1) ≤ val l := hn.normalized.ge hne

theorem Norm_pos (l : List Nat) (hn : Norm l) (hne : l ≠ []) : 0 < val l :=
  lt_of_lt_of_le (Nat.pow_pos B_pos) (Norm_ge l hn hne)

theorem mpnNormalize_le (p : List Nat) : ∀ n, mpnNormalize p n ≤ n
  | 0 => by simp [mpnNormalize]
  | n + 1 => by
    unfold mpnNormalize
    split
    · exact Nat.le_succ_of_le (mpnNormalize_le p n)
    · exact le_refl _

theorem mpnNormalize_top (p : List Nat) : ∀ n, mpnNormalize p n ≠ 0 → p.getD (mpnNormalize p n - 1) 0 ≠ 0
  | 0 => by simp [mpnNormalize]
  | n + 1 => by
    unfold mpnNormalize
    split
    · exact mpnNormalize_top p n
    · intro _; simpa using ‹¬p.getD n 0 = 0›

theorem mpnNormalize_val (p : List Nat) : ∀ n, val (p.take (mpnNormalize p n)) = val (p.take n)
  | 0 => by simp [mpnNormalize]
  | n + 1 => by
    unfold mpnNormalize
    split
    · rename_i h0
      rw [mpnNormalize_val p n, val_take_succ, h0]; simp
    · rfl

theorem getD_ne_zero_lt (p : List Nat) (i : Nat) (h : p.getD i 0 ≠ 0) : i < p.length := by
  by_contra hge
  rw [List.getD_eq_getElem?_getD, List.getElem?_eq_none (by omega)] at h
  exact h rfl

theorem wf_normalize (rp : List Nat) (n : Nat) : (Res.mk rp (mpnNormalize rp n)).wf = true := by
  unfold Res.wf
  by_cases h0 : mpnNormalize rp n = 0
  · simp [h0]
  · have ht := mpnNormalize_top rp n h0
    have hl := getD_ne_zero_lt rp _ ht
    simp only [Bool.or_eq_true, beq_iff_eq, Bool.and_eq_true, decide_eq_true_eq, bne_iff_ne, ne_eq]
    exact Or.inr ⟨by omega, ht⟩


theorem neg_pow_modEq (r x M : Int) (e : Nat) (h : r ≡ x ^ e [ZMOD M]) :
    (if e % 2 = 1 then -r else r) ≡ (-x) ^ e [ZMOD M] := by
  by_cases hodd : e % 2 = 1
  · rw [if_pos hodd, (Nat.odd_iff.mpr hodd).neg_pow]; exact h.neg
  · rw [if_neg hodd, (Nat.even_iff.mpr (by omega)).neg_pow]; exact h

theorem neg_emod_nat (b m : Nat) (hm : 0 < m) :
    (-(b : Int)) % (m : Int) = if b % m = 0 then 0 else ((m - b % m : Nat) : Int) := by
  have hb : (b : Int) = (m : Int) * ((b / m : Nat) : Int) + ((b % m : Nat) : Int) := by
    exact_mod_cast (Nat.div_add_mod b m).symm
  have hr : b % m < m := Nat.mod_lt _ hm
  generalize b / m = q at *
  generalize b % m = r at *
  by_cases h0 : r = 0
  · subst h0
    simp only [if_true, hb, Nat.cast_zero, add_zero]
    rw [← mul_neg, Int.mul_emod_right]
  · simp only [h0, if_false]
    have e : -(b : Int) = ((m - r : Nat) : Int) + (m : Int) * (-(q : Int) - 1) := by
      rw [hb, Nat.cast_sub (le_of_lt hr)]; ring
    rw [e, Int.add_mul_emod_self_left]
    apply Int.emod_eq_of_lt
    · exact Int.natCast_nonneg _
    · exact_mod_cast (by omega : m - r < m)

theorem val_take_pos_of_getD (p : List Nat) (i : Nat) (h : p.getD i 0 ≠ 0) : 0 < val (p.take (i + 1)) := by
  rw [val_take_succ]
  have : 0 < B ^ i * p.getD i 0 := Nat.mul_pos (Nat.pow_pos B_pos) (Nat.pos_of_ne_zero h)
  omega

theorem normalize_val_full (rp : List Nat) (n : Nat) (h : rp.length = n) :
    val (rp.take (mpnNormalize rp n)) = val rp := by
  rw [mpnNormalize_val, List.take_of_length_le (le_of_eq h)]

theorem negfix_wf (c : Bool) (rp mp : List Nat) (k : Nat) :
    let rn := mpnNormalize rp k
    let p := if (c && rn != 0) = true then ((sub mp (rp.take rn)).1, mpnNormalize (sub mp (rp.take rn)).1 mp.length)
             else (rp, rn)
    (Res.mk p.1 p.2).wf = true := by
  intro rn p
  by_cases hc : (c && rn != 0) = true
  · simp only [p, hc, if_true]; exact wf_normalize _ _
  · simp only [p, hc, Bool.false_eq_true, if_false]; exact wf_normalize _ _

/-- the tail of mpz_powm (powm.c:270-277, `k = n`), of its early path (powm.c:126-135) and of mpz_powm_ui
    (powm_ui.c:258-266, `k = xn`): normalise from `k`, then `m − x` when the result is to be negated. -/
theorem negfix_k (c : Bool) (xp mp : List Nat) (k : Nat) (hL : Limbs xp) (hlen : xp.length = mp.length)
    (hxk : val xp < B ^ k) (hm : Limbs mp) (hlt : val xp < val mp) :
    let rn := mpnNormalize xp k
    let p := if (c && rn != 0) = true then ((sub mp (xp.take rn)).1, mpnNormalize (sub mp (xp.take rn)).1 mp.length)
             else (xp, rn)
    (Res.mk p.1 p.2).wf = true ∧
    ((val (p.1.take p.2) : Nat) : Int) = (if c then -(val xp : Int) else (val xp : Int)) % (val mp : Int) := by
  intro rn p
  have hmpos : 0 < val mp := by omega
  have hnv : val (xp.take rn) = val xp := by
    show val (xp.take (mpnNormalize xp k)) = val xp
    rw [mpnNormalize_val, val_take_eq_mod xp hL, Nat.mod_eq_of_lt hxk]
  by_cases hc : (c && rn != 0) = true
  · have hp : p = ((sub mp (xp.take rn)).1, mpnNormalize (sub mp (xp.take rn)).1 mp.length) := by
      simp only [p, hc, if_true]
    rw [hp]
    simp only [Bool.and_eq_true, bne_iff_ne, ne_eq] at hc
    obtain ⟨hneg, hrn⟩ := hc
    have hle : val (xp.take rn) ≤ val mp := by rw [hnv]; omega
    have hlen' : (xp.take rn).length ≤ mp.length := by
      rw [List.length_take, hlen]; exact Nat.min_le_right _ _
    obtain ⟨sv, sl, sn⟩ := sub_exact mp _ hm (Limbs_take hL _) hlen' hle
    refine ⟨wf_normalize _ _, ?_⟩
    simp only
    rw [normalize_val_full _ _ sn, sv, hnv, hneg]
    simp only [if_true]
    rw [neg_emod_nat _ _ hmpos, Nat.mod_eq_of_lt hlt]
    have hpos : 0 < val (xp.take rn) := by
      have := val_take_pos_of_getD xp _ (mpnNormalize_top xp k hrn)
      have e : mpnNormalize xp k - 1 + 1 = mpnNormalize xp k := by
        have : mpnNormalize xp k ≠ 0 := hrn
        omega
      rwa [e] at this
    rw [hnv] at hpos
    simp only [Nat.ne_of_gt hpos, if_false]
  · have hp : p = (xp, rn) := by simp only [p, hc, Bool.false_eq_true, if_false]
    rw [hp]
    refine ⟨wf_normalize _ _, ?_⟩
    simp only
    rw [hnv]
    cases c with
    | false =>
      simp only [Bool.false_eq_true, if_false]
      rw [Int.emod_eq_of_lt (Int.natCast_nonneg _) (by exact_mod_cast hlt)]
    | true =>
      simp only [Bool.true_and, bne_iff_ne, ne_eq, Decidable.not_not] at hc
      have hz : val (xp.take rn) = 0 := by rw [hc]; rfl
      rw [hnv] at hz
      simp only [if_true]
      rw [hz]; simp

/-! ### the early `b^1 mod m` path (powm.c:118-151) -/

theorem powmE1_correct (bneg : Bool) (bp mp : List Nat) (hb : Norm bp) (hbne : bp ≠ []) (hm : Norm mp)
    (hmne : mp ≠ []) :
    (Res.mk (powmE1 bneg bp mp).1 (powmE1 bneg bp mp).2).wf = true ∧
    ((val ((powmE1 bneg bp mp).1.take (powmE1 bneg bp mp).2) : Nat) : Int)
      = (if bneg then -(val bp : Int) else (val bp : Int)) % (val mp : Int) := by
  have hmpos : 0 < val mp := Norm_pos mp hm hmne
  have hbpos : 0 < val bp := Norm_pos bp hb hbne
  have hmlt := val_lt mp hm.1
  unfold powmE1
  simp only
  by_cases hge : bp.length ≥ mp.length
  · simp only [hge, if_true]
    have hrlt : val bp % val mp < val mp := Nat.mod_lt _ hmpos
    have hrv : val (toLimbs mp.length (val bp % val mp)) = val bp % val mp := val_toLimbs_lt _ _ (lt_trans hrlt hmlt)
    have h := negfix_k bneg (toLimbs mp.length (val bp % val mp)) mp mp.length (Limbs_toLimbs _ _) (toLimbs_length _ _)
      (by rw [hrv]; exact lt_trans hrlt hmlt) hm.1 (by rw [hrv]; exact hrlt)
    simp only [hrv] at h
    refine ⟨h.1, h.2.trans ?_⟩
    have hc : ((val bp % val mp : Nat) : Int) ≡ (val bp : Int) [ZMOD (val mp : Int)] := natCast_mod_modEq _ _
    cases bneg with
    | false => exact hc
    | true => exact hc.neg
  · simp only [hge, if_false]
    have hlt : bp.length < mp.length := by omega
    -- a shorter base in normal form is smaller than the modulus
    have hbm : val bp < val mp := by
      have h1 := val_lt bp hb.1
      have h2 := Norm_ge mp hm hmne
      have h3 : B ^ bp.length ≤ B ^ (mp.length - 1) := Nat.pow_le_pow_right B_pos (by omega)
      omega
    cases bneg with
    | true =>
      simp only [if_true]
      obtain ⟨sv, sl, sn⟩ := sub_exact mp bp hm.1 hb.1 (le_of_lt hlt) (le_of_lt hbm)
      refine ⟨wf_normalize _ _, ?_⟩
      rw [normalize_val_full _ _ sn, sv, neg_emod_nat _ _ hmpos, Nat.mod_eq_of_lt hbm]
      simp only [Nat.ne_of_gt hbpos, if_false]
    | false =>
      simp only [Bool.false_eq_true, if_false]
      have hbl : 0 < bp.length := List.length_pos_of_ne_nil hbne
      refine ⟨?_, ?_⟩
      · unfold Res.wf
        have hlast : (bp ++ zeros (mp.length - bp.length)).getD (bp.length - 1) 0 = bp.getLast hbne := by
          rw [List.getD_eq_getElem?_getD, List.getElem?_append_left (by omega), List.getLast_eq_getElem]
          simp [List.getElem?_eq_getElem (show bp.length - 1 < bp.length by omega)]
        simp only [Bool.or_eq_true, beq_iff_eq, Bool.and_eq_true, decide_eq_true_eq, bne_iff_ne, ne_eq]
        refine Or.inr ⟨by simp, ?_⟩
        rw [hlast]; exact hb.2 hbne
      · rw [List.take_left' rfl]
        rw [Int.emod_eq_of_lt (Int.natCast_nonneg _) (by exact_mod_cast hbm)]


/-! ### the main path by projections (powm.c:153-277); the tests for `|m| = 1` and `b = 0` -/

/-- powm.c:153-277 with the tuple of `stripM` spelt out by projections. -/
theorem powmMain_eq (bneg : Bool) (bp ep mp : List Nat) :
    powmMain bneg bp ep mp =
      (let modd := (stripM mp).1.take (stripM mp).2.1
       let rodd := mpn_powm bp ep modd
       let rp := if ((stripM mp).2.2.1 != 0) = true
         then powmEven mp.length bp ep modd (stripM mp).2.1 (stripM mp).2.2.1 (stripM mp).2.2.2 rodd else rodd
       let rn := mpnNormalize rp mp.length
       if ((decide (ep.headD 0 % 2 = 1) && bneg) && rn != 0) = true
       then ((sub mp (rp.take rn)).1, mpnNormalize (sub mp (rp.take rn)).1 mp.length) else (rp, rn)) := rfl

theorem powmMain_wf (bneg : Bool) (bp ep mp : List Nat) :
    (Res.mk (powmMain bneg bp ep mp).1 (powmMain bneg bp ep mp).2).wf = true := by
  rw [powmMain_eq]
  exact negfix_wf _ _ mp mp.length

/-- `n == 1 && mp[0] == 1` recognises `|m| = 1`. -/
theorem natLimbs_is_one (v : Nat) :
    ((natLimbs v).length != 1 || (natLimbs v).headD 0 != 1) = true ↔ v ≠ 1 := by
  constructor
  · intro h h1
    subst h1
    have : natLimbs 1 = [1] := by
      simpa using (Normalized.eq_natLimbs (l := [1]) (by simp [Limbs, B_eq]) (by simp [Normalized])).symm
    rw [this] at h; simp at h
  · intro h1
    by_contra hc
    simp only [Bool.or_eq_true, bne_iff_ne, ne_eq, not_or, Decidable.not_not] at hc
    obtain ⟨hl, hh⟩ := hc
    have hv := val_natLimbs_eq v
    match hm : natLimbs v, hl, hh with
    | [x], _, hh =>
      rw [hm] at hv
      simp at hh hv
      omega

theorem modInv_zero (m : Nat) (hm : m ≠ 1) : modInv? 0 m = none := by
  have h : xgcdAux 0 1 m 0 = (m, 0) := by rw [xgcdAux.eq_def]
  unfold modInv?
  simp [h, hm]


/-! ### the CRT recombination on values (powm.c:245-264) -/

/-- `N = B^ncnt` is the precision of the power-of-two side, `2^t ∣ N`; `inv·modd ≡ 1 (mod N)`;
    `d ≡ r2 − rodd (mod N)`; `x = (inv·d mod N) mod 2^t`; the result `x·modd + rodd` is `P mod 2^t·modd`
    whenever `rodd = P mod modd` and `r2 ≡ P (mod 2^t)`. -/
theorem crt_value (P modd t N inv r2 rodd d : Nat) (hodd : modd % 2 = 1) (hN : 2 ^ t ∣ N)
    (hinv : (inv * modd) % N = 1 % N) (hrodd : rodd = P % modd) (hr2 : r2 % 2 ^ t = P % 2 ^ t)
    (hd : (d + rodd % N) % N = r2 % N) :
    (inv * d) % N % 2 ^ t * modd + rodd = P % (2 ^ t * modd) := by
  have hmpos : 0 < modd := by omega
  have htpos : 0 < 2 ^ t := Nat.two_pow_pos t
  set x := (inv * d) % N % 2 ^ t with hx
  have hxlt : x < 2 ^ t := Nat.mod_lt _ htpos
  have hrlt : rodd < modd := by rw [hrodd]; exact Nat.mod_lt _ hmpos
  have hlt : x * modd + rodd < 2 ^ t * modd := by
    have : (x + 1) * modd ≤ 2 ^ t * modd := Nat.mul_le_mul_right _ hxlt
    have e : (x + 1) * modd = x * modd + modd := by ring
    omega
  have h1 : x * modd + rodd ≡ P [MOD modd] := by
    unfold Nat.ModEq
    rw [Nat.add_comm, Nat.add_mul_mod_self_right, hrodd, Nat.mod_mod]
  have h2 : x * modd + rodd ≡ P [MOD 2 ^ t] := by
    have hxe : x ≡ inv * d [MOD 2 ^ t] := by
      rw [hx]
      exact (Nat.mod_modEq _ _).trans ((Nat.mod_modEq _ N).of_dvd hN)
    have hinv' : inv * modd ≡ 1 [MOD 2 ^ t] := by
      have : inv * modd ≡ 1 [MOD N] := hinv
      exact this.of_dvd hN
    have hd' : d + rodd ≡ r2 [MOD 2 ^ t] := by
      have h0 : d + rodd % N ≡ r2 [MOD N] := hd
      have h3 : d + rodd % N ≡ d + rodd [MOD N] := Nat.ModEq.add_left d (Nat.mod_modEq _ _)
      exact (h3.symm.trans h0).of_dvd hN
    have hr2' : r2 ≡ P [MOD 2 ^ t] := hr2
    calc x * modd + rodd ≡ inv * d * modd + rodd [MOD 2 ^ t] := (hxe.mul_right modd).add_right rodd
      _ = (inv * modd) * d + rodd := by ring
      _ ≡ 1 * d + rodd [MOD 2 ^ t] := (hinv'.mul_right d).add_right rodd
      _ = d + rodd := by ring
      _ ≡ r2 [MOD 2 ^ t] := hd'
      _ ≡ P [MOD 2 ^ t] := hr2'
  have h3 : x * modd + rodd ≡ P [MOD 2 ^ t * modd] :=
    (Nat.modEq_and_modEq_iff_modEq_mul (coprime_two_pow_odd t modd hodd)).1 ⟨h2, h1⟩
  have h4 : x * modd + rodd ≡ P % (2 ^ t * modd) [MOD 2 ^ t * modd] := h3.trans (Nat.mod_modEq _ _).symm
  exact h4.eq_of_lt_of_lt hlt (Nat.mod_lt _ (Nat.mul_pos htpos hmpos))


theorem add_exact (x y : List Nat) (hx : Limbs x) (hy : Limbs y) (hlen : y.length ≤ x.length)
    (hfit : val x + val y < B ^ x.length) :
    val (add x y).1 = val x + val y ∧ Limbs (add x y).1 ∧ (add x y).1.length = x.length := by
  obtain ⟨hv, hc, hl, hn⟩ := add_val' x y hx hy hlen
  refine ⟨?_, hl, hn⟩
  by_cases h0 : (add x y).2 = 0
  · rw [h0] at hv; omega
  · have h1 : (add x y).2 = 1 := by omega
    rw [h1] at hv; omega


/-! ### mpn_redc_1 (redc_1.c) -/

theorem addmul_1_val (r u : List Nat) (vl : Nat) (hr : Limbs r) (hu : Limbs u) (hl : r.length = u.length) (hv : vl < B) :
    val (addmul_1 r u vl).1 + B ^ r.length * (addmul_1 r u vl).2 = val r + val u * vl ∧
    (addmul_1 r u vl).2 < B ∧ Limbs (addmul_1 r u vl).1 ∧ (addmul_1 r u vl).1.length = r.length := by
  have := addmul1C_val vl hv r u 0 hr hu hl B_pos
  rw [← hl] at this
  simpa [addmul_1] using this


/-- the quotient limb `q = t0·invm mod B` clears the low limb when `invm·m0 ≡ −1 (mod B)`. -/
theorem redc_low_zero (t0 m0 invm : Nat) (hinv : (invm * m0) % B = B - 1) :
    (t0 + m0 * ((t0 * invm) % B)) % B = 0 := by
  have h1 : (1 + invm * m0) % B = 0 := by
    rw [Nat.add_mod, hinv]; simp [B_eq]
  have h2 : (t0 + m0 * ((t0 * invm) % B)) % B = (t0 * (1 + invm * m0)) % B := by
    have : t0 * (1 + invm * m0) = t0 + m0 * (t0 * invm) := by ring
    rw [this, Nat.add_mod, Nat.mul_mod m0 ((t0 * invm) % B), Nat.mod_mod, ← Nat.mul_mod, ← Nat.add_mod]
  rw [h2, Nat.mul_mod, h1]; simp

theorem headD_eq_val_mod (l : List Nat) (hl : Limbs l) : l.headD 0 = val l % B := by
  cases l with
  | nil => simp
  | cons x xs =>
    have := (Limbs_cons.mp hl).1
    simp only [List.headD_cons, val_cons]
    rw [Nat.add_mul_mod_self_left, Nat.mod_eq_of_lt this]

theorem val_of_length_le_one : ∀ (l : List Nat), l.length ≤ 1 → val l = l.headD 0
  | [], _ => rfl
  | [x], _ => by simp
  | _ :: _ :: _, h => by simp at h

/-- one round of mpn_redc_1's loop (also the single round mpn_redc_2 runs first for odd n, redc_2.c:80-84); the carry-out
    `c` is parked in the limb left behind -/
theorem redc1_first (mp : List Nat) (invm : Nat) (hmp : Limbs mp) (hn : 1 ≤ mp.length)
    (hinv : (invm * mp.headD 0) % B = B - 1) (cs t : List Nat) (ht : Limbs t) (hlen : mp.length + 1 ≤ t.length) :
    ∃ q c t', redc1Loop mp mp.length invm 1 cs t = (cs ++ [c], t') ∧ q < B ∧ c < B ∧ Limbs t' ∧
      t'.length + 1 = t.length ∧ val t + q * val mp = B * val t' + B ^ mp.length * c := by
  set n := mp.length with hndef
  set q := (t.headD 0 * invm) % B with hq
  have hqlt : q < B := Nat.mod_lt _ B_pos
  have htake : (t.take n).length = n := by rw [List.length_take]; omega
  obtain ⟨av, ac, aL, an⟩ := addmul_1_val (t.take n) mp q (Limbs_take ht _) hmp htake hqlt
  rw [htake] at av an
  have hsplit := val_take_drop t n (by omega)
  have hr0 : (addmul_1 (t.take n) mp q).1.headD 0 = 0 := by
    rw [headD_eq_val_mod _ aL]
    have h1 : val (addmul_1 (t.take n) mp q).1 % B = (val (t.take n) + val mp * q) % B := by
      rw [← av]
      have : B ^ n = B * B ^ (n - 1) := by rw [← pow_succ']; congr 1; omega
      rw [this, Nat.mul_assoc, Nat.add_mul_mod_self_left]
    rw [h1, Nat.add_mod, ← headD_eq_val_mod _ (Limbs_take ht _), Nat.mul_mod, ← headD_eq_val_mod _ hmp]
    have hth : (t.take n).headD 0 = t.headD 0 := by
      cases t with
      | nil => simp
      | cons x xs =>
        have : n = (n - 1) + 1 := by omega
        rw [this]; simp
    rw [hth, Nat.mod_mod, Nat.add_mod_mod]
    exact redc_low_zero _ _ _ hinv
  generalize hres : addmul_1 (t.take n) mp q = res at *
  obtain ⟨r, c⟩ := res
  simp only at av ac aL an hr0
  have hrt : val r = r.headD 0 + B * val r.tail := by cases r <;> simp
  rw [hr0, Nat.zero_add] at hrt
  refine ⟨q, c, r.tail ++ t.drop n, ?_, hqlt, ac,
    Limbs_append.mpr ⟨fun x hx => aL x (List.mem_of_mem_tail hx), Limbs_drop ht _⟩, ?_, ?_⟩
  · rw [redc1Loop]
    simp only [← hq, hres]
    rw [redc1Loop]
  · rw [List.length_append, List.length_tail, List.length_drop, an]; omega
  · rw [val_append, List.length_tail, an, hsplit, Nat.mul_comm q]
    have hpn : B ^ n = B * B ^ (n - 1) := by rw [← pow_succ']; congr 1; omega
    rw [hpn] at av ⊢
    rw [hrt] at av
    generalize B ^ (n - 1) = Pn at *
    zify at av ⊢
    linear_combination (-1 : Int) * av

theorem redc1Loop_succ (mp : List Nat) (n invm k : Nat) (cs t : List Nat) :
    redc1Loop mp n invm (k + 1) cs t =
      redc1Loop mp n invm k (redc1Loop mp n invm 1 cs t).1 (redc1Loop mp n invm 1 cs t).2 := rfl

/-- after `k` rounds from a window `t` of `n + k` limbs; each round's carry-out is parked in the limb left behind -/
theorem redc1Loop_inv (mp : List Nat) (invm : Nat) (hmp : Limbs mp) (hn : 1 ≤ mp.length)
    (hinv : (invm * mp.headD 0) % B = B - 1) :
    ∀ (k : Nat) (cs t : List Nat), Limbs t → t.length = mp.length + k →
    ∃ Q cn t', redc1Loop mp mp.length invm k cs t = (cs ++ cn, t') ∧ Q < B ^ k ∧ Limbs cn ∧ cn.length = k ∧
      Limbs t' ∧ t'.length = mp.length ∧
      val t + Q * val mp = B ^ k * val t' + B ^ mp.length * val cn := by
  intro k
  induction k with
  | zero =>
    intro cs t ht hlen
    exact ⟨0, [], t, by simp [redc1Loop], by simp, Limbs_nil, rfl, ht, by simpa using hlen, by simp⟩
  | succ k ih =>
    intro cs t ht hlen
    obtain ⟨q, c, t1, h1, hq, hc, ht1L, ht1l, hv1⟩ := redc1_first mp invm hmp hn hinv cs t ht (by omega)
    obtain ⟨Q', cn', t', hloop, hQ', hcnL, hcnn, ht'L, ht'n, hv⟩ := ih (cs ++ [c]) t1 ht1L (by omega)
    refine ⟨q + B * Q', c :: cn', t', ?_, ?_, Limbs_cons.mpr ⟨hc, hcnL⟩, by simp [hcnn], ht'L, ht'n, ?_⟩
    · rw [redc1Loop_succ, h1, hloop, List.append_assoc]; rfl
    · rw [pow_succ']; exact add_mul_lt hq hQ'
    · rw [val_cons, pow_succ']
      generalize B ^ k = Pk at *
      generalize B ^ mp.length = Pn at *
      zify at hv1 hv ⊢
      linear_combination hv1 + (B : Int) * hv

/-- the end of redc_1.c and redc_2.c: add_n of the window and the parked carries, then the conditional subtraction -/
theorem redc_finish (tp mp t' cn : List Nat) (Q : Nat) (hmp : Limbs mp) (htp : Limbs tp)
    (hlen : tp.length = 2 * mp.length) (hQ : Q < B ^ mp.length) (hcnL : Limbs cn) (hcnn : cn.length = mp.length)
    (ht'L : Limbs t') (ht'n : t'.length = mp.length)
    (hv : val tp + Q * val mp = B ^ mp.length * val t' + B ^ mp.length * val cn) :
    ∃ k, k ≤ 1 ∧
      B ^ mp.length * val (if (addNC t' cn 0).2 != 0 then (subNC (addNC t' cn 0).1 mp 0).1 else (addNC t' cn 0).1) +
        k * (B ^ mp.length * val mp) = val tp + Q * val mp ∧
      Limbs (if (addNC t' cn 0).2 != 0 then (subNC (addNC t' cn 0).1 mp 0).1 else (addNC t' cn 0).1) ∧
      (if (addNC t' cn 0).2 != 0 then (subNC (addNC t' cn 0).1 mp 0).1 else (addNC t' cn 0).1).length = mp.length := by
  obtain ⟨av, ac, aL, an⟩ := addNC_val t' cn 0 ht'L hcnL (by omega) (by omega)
  rw [ht'n] at av an
  have hmlt := val_lt mp hmp
  have htlt := val_lt tp htp
  rw [hlen] at htlt
  generalize addNC t' cn 0 = res at *
  obtain ⟨cp, cy⟩ := res
  simp only at av ac aL an ⊢
  set N := B ^ mp.length with hN
  have hNpos : 0 < N := Nat.pow_pos B_pos
  have hT : val tp < N * N := by
    rw [hN, ← pow_add]
    have : mp.length + mp.length = 2 * mp.length := by omega
    rw [this]; exact htlt
  have hS : val t' + val cn < N + val mp := by
    have h1 : N * (val t' + val cn) < N * (N + val mp) := by
      have : Q * val mp ≤ N * val mp := Nat.mul_le_mul_right _ (le_of_lt hQ)
      have e : N * (val t' + val cn) = val tp + Q * val mp := by rw [hv]; ring
      rw [e, Nat.mul_add]; omega
    exact Nat.lt_of_mul_lt_mul_left h1
  by_cases hc : cy = 0
  · subst hc
    have hif : ((0 : Nat) != 0) = false := rfl
    simp only [hif, Bool.false_eq_true, if_false]
    refine ⟨0, by omega, ?_, aL, an⟩
    have : val cp = val t' + val cn := by omega
    rw [this, hv]; ring
  · have hc1 : cy = 1 := by omega
    subst hc1
    have hif : ((1 : Nat) != 0) = true := rfl
    simp only [hif, if_true]
    obtain ⟨sv, sc, sL, sn⟩ := subNC_val cp mp 0 aL hmp an (by omega)
    rw [an] at sv sn
    generalize subNC cp mp 0 = sres at *
    obtain ⟨out, bw⟩ := sres
    simp only at sv sc sL sn ⊢
    have houtlt := val_lt out sL
    rw [sn] at houtlt
    have hcp : val cp < val mp := by omega
    have hbw : bw = 1 := by
      by_contra h
      have : bw = 0 := by omega
      subst this
      omega
    subst hbw
    refine ⟨1, le_refl _, ?_, sL, sn⟩
    have e1 : val out + val mp = val t' + val cn := by omega
    have e2 : N * (val out + val mp) = val tp + Q * val mp := by rw [e1, hv]; ring
    rw [← e2]; ring


theorem redc_1_identity (tp mp : List Nat) (invm : Nat) (hn : 1 ≤ mp.length) (htp : Limbs tp) (hmp : Limbs mp)
    (hlen : tp.length = 2 * mp.length) (hinv : (invm * mp.headD 0) % B = B - 1) :
    ∃ Q k, Q < B ^ mp.length ∧ k ≤ 1 ∧
      B ^ mp.length * val (redc_1 tp mp invm) + k * (B ^ mp.length * val mp) = val tp + Q * val mp ∧
      Limbs (redc_1 tp mp invm) ∧ (redc_1 tp mp invm).length = mp.length := by
  obtain ⟨Q, cn, t', hloop, hQ, hcnL, hcnn, ht'L, ht'n, hv⟩ :=
    redc1Loop_inv mp invm hmp hn hinv mp.length [] tp htp (by omega)
  have hdef : redc_1 tp mp invm =
      if (addNC t' cn 0).2 != 0 then (subNC (addNC t' cn 0).1 mp 0).1 else (addNC t' cn 0).1 := by
    unfold redc_1
    simp only [hloop, List.nil_append, add_n, sub_n]
  rw [hdef]
  obtain ⟨k, hk, he, hL, hlen'⟩ := redc_finish tp mp t' cn Q hmp htp hlen hQ hcnL hcnn ht'L ht'n hv
  exact ⟨Q, k, hQ, hk, he, hL, hlen'⟩


/-! ### the even-modulus part of mpz_powm (powm.c:196-268) -/

theorem zeros_length (k : Nat) : (zeros k).length = k := List.length_replicate
theorem Limbs_zeros (k : Nat) : Limbs (zeros k) := Limbs_replicate_zero k
theorem val_zeros (k : Nat) : val (zeros k) = 0 := val_replicate_zero k

theorem bcnt_spec (b0 : Nat) (hev : b0 % 2 = 0) :
    2 ^ ((0x1213 >>> ((b0 &&& 7) <<< 1)) &&& 3) ∣ b0 := by
  have h7 : b0 &&& 7 = b0 % 8 := Nat.and_two_pow_sub_one_eq_mod b0 3
  rw [h7]
  have h8 : b0 % 8 = 0 ∨ b0 % 8 = 2 ∨ b0 % 8 = 4 ∨ b0 % 8 = 6 := by omega
  rcases h8 with h | h | h | h <;> rw [h] <;> simp <;> omega

theorem pow_mod_two_pow_zero (b e z t : Nat) (hz : 2 ^ z ∣ b) (ht : t ≤ z * e) : b ^ e % 2 ^ t = 0 := by
  apply Nat.mod_eq_zero_of_dvd
  have h1 : (2 ^ z) ^ e ∣ b ^ e := pow_dvd_pow_of_dvd hz e
  rw [← pow_mul] at h1
  exact (Nat.pow_dvd_pow 2 ht).trans h1


/-- number of low zero bits of `m` as powm.c:221 computes it from (ncnt, cnt). -/
def tbits (ncnt cnt : Nat) : Nat := (ncnt - (if cnt != 0 then 1 else 0)) * 64 + cnt

theorem tbits_eq (ncnt cnt : Nat) : tbits ncnt cnt = if cnt = 0 then ncnt * 64 else (ncnt - 1) * 64 + cnt := by
  unfold tbits
  by_cases h : cnt = 0 <;> simp [h]

theorem tbits_le (ncnt cnt : Nat) (hncnt : 1 ≤ ncnt) (hcnt : cnt < 64) : tbits ncnt cnt ≤ ncnt * 64 := by
  rw [tbits_eq]; split <;> omega

theorem tbits_dvd (ncnt cnt : Nat) (hncnt : 1 ≤ ncnt) (hcnt : cnt < 64) : 2 ^ tbits ncnt cnt ∣ B ^ ncnt := by
  rw [B_eq_pow, ← pow_mul]
  apply Nat.pow_dvd_pow
  have := tbits_le ncnt cnt hncnt hcnt; omega

/-- the choice of `r2` in powm.c:212-234 (`mpn_powlo`, or zero when the base is even and the exponent is large enough) -/
theorem r2_choice (bp ep : List Nat) (ncnt cnt : Nat) (hbp : Limbs bp) (hbne : bp ≠ []) (hep : Norm ep) (hepne : ep ≠ [])
    (hncnt : 1 ≤ ncnt) (hcnt : cnt < 64) (hsz : ncnt * 64 < B)
    (hpowlo : ∀ bq, Limbs bq → val (mpn_powlo bq ep ncnt) = val bq ^ val ep % B ^ ncnt) :
    let bpl := if bp.length < ncnt then bp ++ zeros (ncnt - bp.length) else bp
    let r2 := if bpl.headD 0 % 2 = 0 then
        if ep.length > 1 then zeros ncnt
        else
          if (ep.headD 0 * ((0x1213 >>> ((bpl.headD 0 &&& 7) <<< 1)) &&& 3)) % B ≥ tbits ncnt cnt
          then zeros ncnt else mpn_powlo bpl ep ncnt
      else mpn_powlo bpl ep ncnt
    Limbs r2 ∧ r2.length = ncnt ∧ val r2 % 2 ^ tbits ncnt cnt = val bp ^ val ep % 2 ^ tbits ncnt cnt := by
  intro bpl r2
  have hdvd := tbits_dvd ncnt cnt hncnt hcnt
  have hbplL : Limbs bpl := by
    simp only [bpl]; split
    · exact Limbs_append.mpr ⟨hbp, Limbs_zeros _⟩
    · exact hbp
  have hbplv : val bpl = val bp := by
    simp only [bpl]; split
    · exact val_append_zeros _ _
    · rfl
  have hhead : bpl.headD 0 = bp.headD 0 := by
    simp only [bpl]; split
    · cases bp with
      | nil => exact absurd rfl hbne
      | cons x xs => rfl
    · rfl
  have hpl : Limbs (mpn_powlo bpl ep ncnt) ∧ (mpn_powlo bpl ep ncnt).length = ncnt ∧
      val (mpn_powlo bpl ep ncnt) % 2 ^ tbits ncnt cnt = val bp ^ val ep % 2 ^ tbits ncnt cnt := by
    refine ⟨Limbs_toLimbs _ _, toLimbs_length _ _, ?_⟩
    rw [hpowlo bpl hbplL, hbplv, Nat.mod_mod_of_dvd _ hdvd]
  have hzero : 2 ^ tbits ncnt cnt ∣ val bp ^ val ep →
      Limbs (zeros ncnt) ∧ (zeros ncnt).length = ncnt ∧
      val (zeros ncnt) % 2 ^ tbits ncnt cnt = val bp ^ val ep % 2 ^ tbits ncnt cnt := by
    intro h
    refine ⟨Limbs_zeros _, zeros_length _, ?_⟩
    rw [val_zeros, Nat.mod_eq_zero_of_dvd h]; simp
  -- b = b0 + B·rest
  have hb0 : ∀ z, z ≤ 64 → 2 ^ z ∣ bp.headD 0 → 2 ^ z ∣ val bp := by
    intro z hz hd
    cases bp with
    | nil => exact absurd rfl hbne
    | cons x xs =>
      simp only [List.headD_cons] at hd
      rw [val_cons]
      have : 2 ^ z ∣ B := by rw [B_eq_pow]; exact Nat.pow_dvd_pow 2 hz
      exact Nat.dvd_add hd (Dvd.dvd.mul_right this _)
  have htle : tbits ncnt cnt ≤ ncnt * 64 := tbits_le ncnt cnt hncnt hcnt
  simp only [r2]
  by_cases hev : bpl.headD 0 % 2 = 0
  · simp only [hev, if_true]
    by_cases hen : ep.length > 1
    · simp only [hen, if_true]
      apply hzero
      -- e ≥ B > t, and 2 ∣ b
      have h2 : 2 ^ 1 ∣ val bp := hb0 1 (by omega) (by rw [← hhead, pow_one]; exact Nat.dvd_of_mod_eq_zero hev)
      have hge : B ^ (ep.length - 1) ≤ val ep := Norm_ge ep hep hepne
      have hB1 : B ^ 1 ≤ B ^ (ep.length - 1) := Nat.pow_le_pow_right B_pos (by omega)
      have := pow_mod_two_pow_zero (val bp) (val ep) 1 (tbits ncnt cnt) h2 (by rw [pow_one] at hB1; omega)
      exact Nat.dvd_of_mod_eq_zero this
    · simp only [hen, if_false]
      by_cases hge : (ep.headD 0 * ((0x1213 >>> ((bpl.headD 0 &&& 7) <<< 1)) &&& 3)) % B ≥ tbits ncnt cnt
      · simp only [hge, if_true]
        apply hzero
        -- en = 1: e = ep[0]
        have he : val ep = ep.headD 0 := val_of_length_le_one ep (by omega)
        have hz := bcnt_spec (bpl.headD 0) hev
        generalize hzz : ((0x1213 >>> ((bpl.headD 0 &&& 7) <<< 1)) &&& 3) = z at *
        have hz3 : z ≤ 64 := by
          rw [← hzz]
          have : (0x1213 >>> ((bpl.headD 0 &&& 7) <<< 1)) &&& 3 ≤ 3 := Nat.and_le_right
          omega
        have hzb : 2 ^ z ∣ val bp := hb0 z hz3 (by rw [← hhead]; exact hz)
        have hle : (ep.headD 0 * z) % B ≤ ep.headD 0 * z := Nat.mod_le _ _
        have htt : tbits ncnt cnt ≤ z * val ep := by
          rw [he, Nat.mul_comm]; omega
        exact Nat.dvd_of_mod_eq_zero (pow_mod_two_pow_zero _ _ z _ hzb htt)
      · simp only [hge, if_false]
        exact hpl
  · simp only [hev, if_false]
    exact hpl


theorem powmEven_tbits (n : Nat) (bp ep modd : List Nat) (nodd ncnt cnt : Nat) (rodd : List Nat) :
    powmEven n bp ep modd nodd ncnt cnt rodd =
    (let bpl := if bp.length < ncnt then bp ++ zeros (ncnt - bp.length) else bp
     let r2 := if bpl.headD 0 % 2 = 0 then
        if ep.length > 1 then zeros ncnt
        else
          if (ep.headD 0 * ((0x1213 >>> ((bpl.headD 0 &&& 7) <<< 1)) &&& 3)) % B ≥ tbits ncnt cnt
          then zeros ncnt else mpn_powlo bpl ep ncnt
      else mpn_powlo bpl ep ncnt
     let mpl := if nodd < ncnt then modd ++ zeros (ncnt - nodd) else modd
     let odd_inv := binvert (val (mpl.take ncnt)) ncnt
     let d := (sub r2 (rodd.take (min nodd ncnt))).1
     let x := (odd_inv * val d) % B ^ ncnt
     let x := if cnt != 0 then x % 2 ^ ((ncnt - 1) * 64 + cnt) else x
     let yp := toLimbs (ncnt + nodd) (x * val modd)
     (add (yp.take n) rodd).1) := rfl

/-- `m = 2^t · modd` with `t = tbits ncnt cnt`: `ncnt` limbs of which the top one holds `cnt` bits when `cnt ≠ 0`.  The two
    callees mpn_powlo and mpn_binvert enter by their specifications; both shortcuts that skip mpn_powlo are covered. -/
theorem powmEven_correct (n : Nat) (bp ep modd rodd : List Nat) (nodd ncnt cnt : Nat)
    (hbp : Limbs bp) (hbne : bp ≠ []) (hep : Norm ep) (hepne : ep ≠ [])
    (hmodd : Limbs modd) (hml : modd.length = nodd) (hodd : val modd % 2 = 1)
    (hncnt : 1 ≤ ncnt) (hcnt : cnt < 64) (hn1 : nodd ≤ n) (hn2 : n ≤ nodd + ncnt)
    (hfit : 2 ^ tbits ncnt cnt * val modd < B ^ n) (hsz : ncnt * 64 < B)
    (hrodd : rodd = toLimbs nodd (val bp ^ val ep % val modd))
    (hpowlo : ∀ bq, Limbs bq → val (mpn_powlo bq ep ncnt) = val bq ^ val ep % B ^ ncnt)
    (hbinv : ∀ u, u % 2 = 1 → (binvert u ncnt * u) % B ^ ncnt = 1) :
    val (powmEven n bp ep modd nodd ncnt cnt rodd) = val bp ^ val ep % (2 ^ tbits ncnt cnt * val modd) ∧
    Limbs (powmEven n bp ep modd nodd ncnt cnt rodd) ∧ (powmEven n bp ep modd nodd ncnt cnt rodd).length = n := by
  rw [powmEven_tbits]
  obtain ⟨hr2L, hr2n, hr2v⟩ := r2_choice bp ep ncnt cnt hbp hbne hep hepne hncnt hcnt hsz hpowlo
  simp only at hr2L hr2n hr2v ⊢
  generalize (if (if bp.length < ncnt then bp ++ zeros (ncnt - bp.length) else bp).headD 0 % 2 = 0 then _ else _ : List Nat) = r2 at *
  set P := val bp ^ val ep with hP
  set N := B ^ ncnt with hN
  have hNpos : 0 < N := Nat.pow_pos B_pos
  have hdvd := tbits_dvd ncnt cnt hncnt hcnt
  have hmpos : 0 < val modd := by omega
  have hmlt : val modd < B ^ nodd := by rw [← hml]; exact val_lt modd hmodd
  have hroddv : val rodd = P % val modd := by
    rw [hrodd]; exact val_toLimbs_lt _ _ (lt_trans (Nat.mod_lt _ hmpos) hmlt)
  have hroddL : Limbs rodd := by rw [hrodd]; exact Limbs_toLimbs _ _
  have hroddn : rodd.length = nodd := by rw [hrodd]; exact toLimbs_length _ _
  have hy : val (rodd.take (min nodd ncnt)) = val rodd % N := by
    by_cases h : nodd ≤ ncnt
    · rw [Nat.min_eq_left h, List.take_of_length_le (le_of_eq hroddn)]
      have : B ^ nodd ≤ N := Nat.pow_le_pow_right B_pos h
      have h2 := val_lt rodd hroddL
      rw [hroddn] at h2
      rw [Nat.mod_eq_of_lt (by omega)]
    · rw [Nat.min_eq_right (by omega), ← val_take_eq_mod rodd hroddL]
  have hylen : (rodd.take (min nodd ncnt)).length ≤ r2.length := by
    rw [List.length_take, hr2n]; exact le_trans (Nat.min_le_left _ _) (Nat.min_le_right _ _)
  obtain ⟨sv, _, sL, sn⟩ := sub_val' r2 _ hr2L (Limbs_take hroddL _) hylen
  rw [hy, hr2n] at sv
  rw [hr2n] at sn
  generalize (sub r2 (rodd.take (min nodd ncnt))).1 = d at *
  generalize (sub r2 (rodd.take (min nodd ncnt))).2 = bw at *
  have hd : (val d + val rodd % N) % N = val r2 % N := by
    rw [sv, Nat.add_mul_mod_self_left]
  have hmplv : val ((if nodd < ncnt then modd ++ zeros (ncnt - nodd) else modd).take ncnt) = val modd % N := by
    split
    · rename_i h
      rw [List.take_of_length_le (by rw [List.length_append, hml, zeros_length]; omega),
        show val (modd ++ zeros (ncnt - nodd)) = val modd from val_append_zeros _ _]
      have : B ^ nodd ≤ N := Nat.pow_le_pow_right B_pos (le_of_lt h)
      rw [Nat.mod_eq_of_lt (by omega)]
    · rw [← val_take_eq_mod modd hmodd]
  rw [hmplv]
  have hBeven : N % 2 = 0 := by
    rw [hN, B_eq_pow, ← pow_mul]
    have : 64 * ncnt = (64 * ncnt - 1) + 1 := by omega
    rw [this, pow_succ]; simp
  have hmodN : (val modd % N) % 2 = 1 := by
    rw [Nat.mod_mod_of_dvd _ (Nat.dvd_of_mod_eq_zero hBeven)]; exact hodd
  have hinv0 := hbinv (val modd % N) hmodN
  generalize binvert (val modd % N) ncnt = inv at *
  have h1N : 1 < N := one_lt_B_pow hncnt
  have hinv : (inv * val modd) % N = 1 % N := by
    rw [Nat.mod_eq_of_lt h1N, Nat.mul_mod, ← hinv0, Nat.mul_mod inv (val modd % N), Nat.mod_mod]
  have hx : (if (cnt != 0) = true then (inv * val d) % N % 2 ^ ((ncnt - 1) * 64 + cnt) else (inv * val d) % N)
      = (inv * val d) % N % 2 ^ tbits ncnt cnt := by
    rw [tbits_eq]
    by_cases hc : cnt = 0
    · have hNt : N = 2 ^ (ncnt * 64) := by rw [hN, B_eq_pow, ← pow_mul, Nat.mul_comm]
      simp only [hc, bne_self_eq_false, Bool.false_eq_true, if_false, if_true]
      rw [← hNt, Nat.mod_mod]
    · simp [hc]
  rw [hx]
  have hcrt := crt_value P (val modd) (tbits ncnt cnt) N inv (val r2) (val rodd) (val d) hodd hdvd hinv hroddv hr2v hd
  generalize (inv * val d) % N % 2 ^ tbits ncnt cnt = x at *
  have hlt : x * val modd + val rodd < B ^ n := by
    rw [hcrt]
    exact lt_trans (Nat.mod_lt _ (Nat.mul_pos (Nat.two_pow_pos _) hmpos)) hfit
  have hypv : val ((toLimbs (ncnt + nodd) (x * val modd)).take n) = x * val modd := by
    rw [val_take_eq_mod _ (Limbs_toLimbs _ _), val_toLimbs]
    have hle : B ^ n ≤ B ^ (ncnt + nodd) := Nat.pow_le_pow_right B_pos (by omega)
    have hxm : x * val modd < B ^ n := Nat.lt_of_le_of_lt (Nat.le_add_right _ _) hlt
    rw [Nat.mod_eq_of_lt (lt_of_lt_of_le hxm hle), Nat.mod_eq_of_lt hxm]
  have hypn : ((toLimbs (ncnt + nodd) (x * val modd)).take n).length = n := by
    rw [List.length_take, toLimbs_length]; omega
  have hypL : Limbs ((toLimbs (ncnt + nodd) (x * val modd)).take n) := Limbs_take (Limbs_toLimbs _ _) _
  generalize (toLimbs (ncnt + nodd) (x * val modd)).take n = yp at *
  obtain ⟨av, aL, an⟩ := add_exact yp rodd hypL hroddL (by omega) (by rw [hypv, hypn]; exact hlt)
  exact ⟨by rw [av, hypv, hcrt], aL, by rw [an, hypn]⟩



/-! ### modlimb_invert and mpn_binvert on values: Newton steps

The model has the macro `modlimb_invert` (gmp-impl.h:3087) twice; this one agrees with `DivWord.modlimb_invert`, whose
Newton argument is `DivWord.modlimb_invert_mul`. -/

theorem minvStep_eq (inv n : Nat) : minvStep inv n = DivWord.minvStep inv n := by
  unfold minvStep DivWord.minvStep
  have h := Nat.mod_lt (inv * inv % B * n) B_pos
  generalize (inv * inv % B * n) % B = x at *
  rw [Nat.add_sub_assoc h.le, Nat.add_sub_assoc h.le, Nat.mod_add_mod]

theorem minvTab_eq : ∀ i, i < 128 → minvTab i = Gen.modlimbInvertTab.getD i 0 := by decide +kernel

theorem modlimb_invert_eq (n : Nat) : modlimb_invert n = DivWord.modlimb_invert n := by
  unfold modlimb_invert DivWord.modlimb_invert
  simp only [minvStep_eq]
  rw [show (n / 2) &&& 0x7F = (n / 2) % 128 from Nat.and_two_pow_sub_one_eq_mod _ 7,
    minvTab_eq _ (Nat.mod_lt _ (by decide))]
  exact (Nat.mod_eq_of_lt (by unfold DivWord.minvStep; exact Nat.mod_lt _ B_pos)).symm

/-- gmp-impl.h:3087 -/
theorem modlimb_invert_spec (n : Nat) (hodd : n % 2 = 1) : (modlimb_invert n * n) % B = 1 := by
  rw [modlimb_invert_eq, Nat.mul_comm]; exact DivWord.modlimb_invert_mul n hodd

/-- the `Nprim` mpn_powm passes to redc_1: `−m0⁻¹ mod B`. -/
theorem neg_modlimb_invert_spec (m0 : Nat) (hodd : m0 % 2 = 1) :
    (((B - modlimb_invert m0) % B) * m0) % B = B - 1 := by
  have h := modlimb_invert_spec m0 hodd
  have hlt : modlimb_invert m0 % B < B := Nat.mod_lt _ B_pos
  -- work modulo B with x = minv % B
  have hx : (modlimb_invert m0 % B * m0) % B = 1 := by rw [Nat.mul_mod, Nat.mod_mod, ← Nat.mul_mod]; exact h
  have hsub : (B - modlimb_invert m0) % B = (B - modlimb_invert m0 % B) % B := by
    have hminv : modlimb_invert m0 < B := by
      unfold modlimb_invert minvStep; exact Nat.mod_lt _ B_pos
    rw [Nat.mod_eq_of_lt hminv]
  rw [hsub]
  generalize modlimb_invert m0 % B = x at *
  have hx0 : x ≠ 0 := by
    intro h0; subst h0; simp [B_eq] at hx
  rw [Nat.mod_eq_of_lt (show B - x < B by omega)]
  have e : (B - x) * m0 + x * m0 = B * m0 := by rw [← Nat.add_mul]; congr 1; omega
  have h2 : ((B - x) * m0 + x * m0) % B = 0 := by rw [e]; exact Nat.mul_mod_right _ _
  have h3 := Nat.mod_lt ((B - x) * m0) B_pos
  rw [Nat.add_mod, hx] at h2
  have : ((B - x) * m0 % B + 1) % B = 0 := h2
  by_contra hne
  have : (B - x) * m0 % B + 1 < B := by omega
  rw [Nat.mod_eq_of_lt this] at h2; omega


theorem binvStep_modEq (u x P : Nat) (hP : 0 < P) :
    (((x * (2 * P + 2 - (u * x) % P)) % P : Nat) : Int) ≡ (x : Int) * (2 - (u : Int) * x) [ZMOD (P : Int)] := by
  refine (natCast_mod_modEq _ P).trans ?_
  have hlt : (u * x) % P < P := Nat.mod_lt _ hP
  have e : ((x * (2 * P + 2 - (u * x) % P) : Nat) : Int) = (x : Int) * (2 * (P : Int) + 2 - ((u * x % P : Nat) : Int)) := by
    rw [Nat.cast_mul, Nat.cast_sub (by omega)]; push_cast; ring
  rw [e]
  apply Int.ModEq.mul_left
  have h1 : ((u * x % P : Nat) : Int) ≡ (u : Int) * x [ZMOD (P : Int)] := by
    have := natCast_mod_modEq (u * x) P
    push_cast at this ⊢; exact this
  have h2 : 2 * (P : Int) + 2 ≡ 2 [ZMOD (P : Int)] := Int.modEq_iff_dvd.mpr ⟨-2, by ring⟩
  exact h2.sub h1

theorem binvertLoop_spec (u n : Nat) : ∀ (fuel x prec : Nat), 1 ≤ prec → n ≤ prec * 2 ^ fuel →
    (x : Int) * u ≡ 1 [ZMOD ((B ^ prec : Nat) : Int)] →
    ((binvertLoop u n fuel x prec : Nat) : Int) * u ≡ 1 [ZMOD ((B ^ n : Nat) : Int)] := by
  intro fuel
  induction fuel with
  | zero =>
    intro x prec _ hn h
    simp only [pow_zero, Nat.mul_one] at hn
    unfold binvertLoop
    have hd : ((B ^ n : Nat) : Int) ∣ ((B ^ prec : Nat) : Int) := by exact_mod_cast Nat.pow_dvd_pow B hn
    exact ((natCast_mod_modEq x (B ^ n)).mul_right _).trans (h.of_dvd hd)
  | succ f ih =>
    intro x prec hp hn h
    unfold binvertLoop
    by_cases hge : prec ≥ n
    · simp only [hge, if_true]
      have hd : ((B ^ n : Nat) : Int) ∣ ((B ^ prec : Nat) : Int) := by exact_mod_cast Nat.pow_dvd_pow B hge
      exact ((natCast_mod_modEq x (B ^ n)).mul_right _).trans (h.of_dvd hd)
    · simp only [hge, if_false]
      apply ih _ (2 * prec) (by omega) (by rw [pow_succ] at hn; linarith)
      have hPpos : 0 < B ^ (2 * prec) := Nat.pow_pos B_pos
      have h1 := (binvStep_modEq u x (B ^ (2 * prec)) hPpos).mul_right (u : Int)
      have h2 := newton_step _ _ _ h
      have e : ((B ^ (2 * prec) : Nat) : Int) = ((B ^ prec : Nat) : Int) * ((B ^ prec : Nat) : Int) := by
        push_cast; rw [← pow_add]; congr 1; omega
      rw [e] at h1 ⊢
      exact h1.trans h2

theorem binvert_spec (u n : Nat) (hn : 1 ≤ n) (hodd : u % 2 = 1) : (binvert u n * u) % B ^ n = 1 := by
  unfold binvert
  have hBn : B ∣ B ^ n := by
    have : B ^ 1 ∣ B ^ n := Nat.pow_dvd_pow B hn
    simpa using this
  have hu0 : (u % B) % 2 = 1 := by
    rw [Nat.mod_mod_of_dvd _ (by rw [B_eq_pow]; exact Dvd.intro_left (2 ^ 63) rfl)]; exact hodd
  have h0 : ((modlimb_invert (u % B) : Nat) : Int) * ((u % B ^ n : Nat) : Int) ≡ 1 [ZMOD ((B ^ 1 : Nat) : Int)] := by
    have hs := modlimb_invert_spec (u % B) hu0
    have h1 : modlimb_invert (u % B) * (u % B ^ n) ≡ modlimb_invert (u % B) * (u % B) [MOD B] := by
      apply Nat.ModEq.mul_left
      unfold Nat.ModEq
      rw [Nat.mod_mod_of_dvd _ hBn, Nat.mod_mod]
    have h2 : modlimb_invert (u % B) * (u % B) ≡ 1 [MOD B] := by
      unfold Nat.ModEq; rw [hs]; simp [B_eq]
    have := h1.trans h2
    rw [pow_one]
    exact_mod_cast (Int.natCast_modEq_iff.mpr this)
  have hfuel : n ≤ 1 * 2 ^ n := by rw [Nat.one_mul]; exact le_of_lt Nat.lt_two_pow_self
  have h := binvertLoop_spec (u % B ^ n) n n _ 1 (le_refl _) hfuel h0
  have h3 : ((binvertLoop (u % B ^ n) n n (modlimb_invert (u % B)) 1 : Nat) : Int) * (u : Int) ≡ 1 [ZMOD ((B ^ n : Nat) : Int)] :=
    ((natCast_mod_modEq u (B ^ n)).symm.mul_left _).trans h
  have h4 : binvertLoop (u % B ^ n) n n (modlimb_invert (u % B)) 1 * u ≡ 1 [MOD B ^ n] := by
    apply Int.natCast_modEq_iff.mp; push_cast; exact h3
  unfold Nat.ModEq at h4
  rw [h4, Nat.mod_eq_of_lt (one_lt_B_pow hn)]



/-! ### win_size, the table of odd powers, mpn_powlo on values (powlo.c) -/

theorem winScan_bounds : ∀ (ts : List Nat) (eb k : Nat), k ≤ winScan ts eb k ∧ winScan ts eb k ≤ k + ts.length
  | [], _, k => ⟨le_refl _, le_refl _⟩
  | t :: ts, eb, k => by
    rw [winScan]
    split
    · have := winScan_bounds ts eb (k + 1)
      rw [List.length_cons]; omega
    · omega

theorem win_size_bounds (eb : Nat) : 1 ≤ win_size eb ∧ win_size eb ≤ 63 := by
  have := winScan_bounds winTab eb 1
  have hl : winTab.length = 10 := rfl
  rw [hl] at this
  unfold win_size; omega

/-- for exponents `> 1` powlo.c's window size table gives the same width as powm.c's. -/
theorem win_size_lo_eq (eb : Nat) (h : 2 ≤ eb) : win_size_lo eb = win_size eb := by
  unfold win_size_lo win_size
  rw [winScan]
  simp only [show eb > 1 by omega, if_true]

theorem win_size_lo_bounds (eb : Nat) (h : 2 ≤ eb) : 1 ≤ win_size_lo eb ∧ win_size_lo eb ≤ 63 := by
  rw [win_size_lo_eq eb h]; exact win_size_bounds eb

theorem oddPowers_rel {α : Type} (mul : α → α → α) (b2 : α) (Rel : α → Nat → Prop)
    (hstep : ∀ x k, Rel x k → Rel (mul x b2) (k + 2)) (d : α) :
    ∀ (c : Nat) (x : α) (k : Nat), Rel x k → ∀ i, i ≤ c → Rel ((oddPowers mul b2 c x).getD i d) (k + 2 * i) := by
  intro c
  induction c with
  | zero =>
    intro x k hx i hi
    have : i = 0 := by omega
    subst this
    simpa [oddPowers] using hx
  | succ c ih =>
    intro x k hx i hi
    cases i with
    | zero => simpa [oddPowers] using hx
    | succ j =>
      have := ih (mul x b2) (k + 2) (hstep x k hx) j (by omega)
      have e : k + 2 + 2 * j = k + 2 * (j + 1) := by ring
      rw [e] at this
      simpa [oddPowers] using this

/-- table of odd powers + sliding window, for any `mul` that adds exponents -/
theorem windowExp_oddPowers {α : Type} (mul : α → α → α) (Rel : α → Nat → Prop) (d b : α)
    (hmul : ∀ x y j k, Rel x j → Rel y k → Rel (mul x y) (j + k)) (hb : Rel b 1)
    (ep : List Nat) (hl : Limbs ep) (hne : ep ≠ []) (htop : ep.getLast hne ≠ 0) (w : Nat) (hw : 1 ≤ w) (hw63 : w ≤ 63) :
    Rel (windowExp (fun x => mul x x) mul (fun i => (oddPowers mul (mul b b) (2 ^ (w - 1) - 1) b).getD i d)
      ep (sizeinbase2 ep) w) (val ep) := by
  have htab : ∀ i, i < 2 ^ (w - 1) → Rel ((oddPowers mul (mul b b) (2 ^ (w - 1) - 1) b).getD i d) (2 * i + 1) :=
    fun i hi => Nat.add_comm 1 _ ▸ oddPowers_rel mul (mul b b) Rel (fun x k hx => hmul x _ k 2 hx (hmul b b 1 1 hb hb)) d
      (2 ^ (w - 1) - 1) b 1 hb i (by omega)
  exact windowExp_rel (fun x => mul x x) mul _ Rel ep hl hne htop w hw hw63
    (fun r k hr => two_mul k ▸ hmul r r k k hr hr) (fun r k i hi hr => hmul r _ k (2 * i + 1) hr (htab i hi)) htab

theorem sizeinbase2_ge_two (ep : List Nat) (hep : Norm ep) (hne : ep ≠ []) (h2 : 2 ≤ val ep) : 2 ≤ sizeinbase2 ep := by
  obtain ⟨h1, _, h3⟩ := sizeinbase2_spec ep hep.1 hne (hep.2 hne)
  by_contra hlt
  have : sizeinbase2 ep = 1 := by omega
  rw [this] at h3; simp at h3; omega

theorem mpn_powlo_val_spec (bp ep : List Nat) (n : Nat) (hbp : Limbs bp) (hep : Norm ep) (hne : ep ≠ [])
    (h2 : 2 ≤ val ep) : mpn_powlo_val bp ep n = val bp ^ val ep % B ^ n := by
  unfold mpn_powlo_val
  simp only
  obtain ⟨hw1, hw63⟩ := win_size_lo_bounds _ (sizeinbase2_ge_two ep hep hne h2)
  have hres := windowExp_oddPowers (fun x y => (x * y) % B ^ n) (fun x k => x = (val (bp.take n) % B ^ n) ^ k % B ^ n) 0
    (val (bp.take n) % B ^ n) (fun x y j k hx hy => by rw [hx, hy, ← Nat.mul_mod, ← pow_add])
    (by rw [pow_one, Nat.mod_mod]) ep hep.1 hne (hep.2 hne) _ hw1 hw63
  rw [hres, val_take_eq_mod bp hbp, Nat.mod_mod, ← Nat.pow_mod]

theorem mpn_powlo_spec (bp ep : List Nat) (n : Nat) (hbp : Limbs bp) (hep : Norm ep) (hne : ep ≠ [])
    (h2 : 2 ≤ val ep) : val (mpn_powlo bp ep n) = val bp ^ val ep % B ^ n := by
  unfold mpn_powlo
  rw [val_toLimbs, mpn_powlo_val_spec bp ep n hbp hep hne h2, Nat.mod_mod]



/-! ### mpn_redc_n on values (redc_n.c); a residue modulo `M` when 0 has two representations -/

theorem modEq_of_add_mul_eq {a b x y m : Nat} (h : a + x * m = b + y * m) : a ≡ b [MOD m] := by
  have h1 : a + x * m ≡ a [MOD m] := Nat.add_mul_mod_self_right a x m
  have h2 : b + y * m ≡ b [MOD m] := Nat.add_mul_mod_self_right b y m
  exact h1.symm.trans (h ▸ h2)

/-- a residue `Y ≤ M` of `S < 2M` modulo `M` (zero for `S = 0`) is `S` or `S − M`: mulmod_bnm1 in mpn_redc_n and mpn_binvert -/
theorem rep_cases (M Y S : Nat) (hM : 1 ≤ M) (hY : Y ≤ M) (hS : S < 2 * M) (h0 : S = 0 → Y = 0)
    (hc : Y % M = S % M) : ∃ e, e ≤ 1 ∧ Y + e * M = S := by
  by_cases hSM : S < M
  · rw [Nat.mod_eq_of_lt hSM] at hc
    by_cases hYM : Y < M
    · rw [Nat.mod_eq_of_lt hYM] at hc
      exact ⟨0, by omega, by omega⟩
    · have : Y = M := by omega
      rw [this, Nat.mod_self] at hc
      have := h0 hc.symm
      omega
  · have hS2 : S % M = S - M := by
      rw [Nat.mod_eq_sub_mod (by omega), Nat.mod_eq_of_lt (by omega)]
    rw [hS2] at hc
    by_cases hYM : Y < M
    · rw [Nat.mod_eq_of_lt hYM] at hc
      exact ⟨1, le_refl _, by omega⟩
    · have : Y = M := by omega
      rw [this, Nat.mod_self] at hc
      exact ⟨0, by omega, by omega⟩

theorem redc_low (u ip m Bn : Nat) (hip : (ip * m) % Bn = 1 % Bn) : ((u % Bn * ip) % Bn * m) % Bn = u % Bn := by
  rw [Nat.mod_mul_mod, Nat.mul_assoc, Nat.mul_mod, hip, ← Nat.mul_mod, Nat.mul_one, Nat.mod_mod]

theorem redc_n_eq (u m n ip : Nat) (hu : u < B ^ n * B ^ n) :
    redc_n u m n ip =
      if u / B ^ n < (u % B ^ n * ip) % B ^ n * m / B ^ n
      then (u / B ^ n + B ^ n - (u % B ^ n * ip) % B ^ n * m / B ^ n + m) % B ^ n
      else u / B ^ n - (u % B ^ n * ip) % B ^ n * m / B ^ n := by
  unfold redc_n
  simp only [Nat.mod_eq_of_lt (Nat.div_lt_of_lt_mul hu : u / B ^ n < B ^ n)]

/-- the subtraction that ends REDC: `uh`, `yh` are the high halves of `u` and of `x·m`, whose low halves `ul` agree,
    so `uh − yh` (plus `m` on borrow) times `Bn` is `u − x·m` up to a multiple of `m`. -/
theorem redc_sub_spec (Bn m x u uh yh ul : Nat) (hu : Bn * uh + ul = u) (hy : Bn * yh + ul = x * m)
    (huh : uh < Bn) (hyh : yh < m) (hm : m < Bn) :
    (if uh < yh then (uh + Bn - yh + m) % Bn else uh - yh) < Bn ∧
    ((if uh < yh then (uh + Bn - yh + m) % Bn else uh - yh) * Bn ≡ u [MOD m]) ∧
    (uh < m → (if uh < yh then (uh + Bn - yh + m) % Bn else uh - yh) < m) := by
  by_cases hlt : uh < yh
  · rw [if_pos hlt]
    obtain ⟨r, hr⟩ : ∃ r, r + yh = uh + m := ⟨uh + m - yh, by omega⟩
    rw [show uh + Bn - yh + m = r + Bn by omega, Nat.add_mod_right, Nat.mod_eq_of_lt (by omega)]
    refine ⟨by omega, ?_, fun _ => by omega⟩
    have h1 : Bn * (r + yh) = Bn * (uh + m) := by rw [hr]
    rw [Nat.mul_add, Nat.mul_add] at h1
    exact modEq_of_add_mul_eq (x := x) (y := Bn) (by rw [Nat.mul_comm r Bn]; omega)
  · rw [if_neg hlt]
    obtain ⟨r, hr⟩ : ∃ r, r + yh = uh := ⟨uh - yh, by omega⟩
    rw [show uh - yh = r by omega]
    refine ⟨by omega, ?_, fun _ => by omega⟩
    have h1 : Bn * (r + yh) = Bn * uh := by rw [hr]
    rw [Nat.mul_add] at h1
    exact modEq_of_add_mul_eq (x := x) (y := 0) (by rw [Nat.mul_comm r Bn]; omega)

theorem redc_n_spec (u m n ip : Nat) (hm : 0 < m) (hmn : m < B ^ n) (hu : u < B ^ n * B ^ n)
    (hip : (ip * m) % B ^ n = 1 % B ^ n) :
    redc_n u m n ip < B ^ n ∧ (redc_n u m n ip * B ^ n ≡ u [MOD m]) ∧ (u < m * B ^ n → redc_n u m n ip < m) := by
  rw [redc_n_eq u m n ip hu]
  have hBpos : 0 < B ^ n := Nat.pow_pos B_pos
  have hy := Nat.div_add_mod ((u % B ^ n * ip) % B ^ n * m) (B ^ n)
  rw [redc_low u ip m (B ^ n) hip] at hy
  obtain ⟨h1, h2, h3⟩ := redc_sub_spec (B ^ n) m _ u _ _ _ (Nat.div_add_mod u (B ^ n)) hy (Nat.div_lt_of_lt_mul hu)
    (Nat.div_lt_of_lt_mul (Nat.mul_lt_mul_of_pos_right (Nat.mod_lt _ hBpos) hm)) hmn
  exact ⟨h1, h2, fun hlt => h3 (Nat.div_lt_of_lt_mul (by rwa [Nat.mul_comm] at hlt))⟩

theorem val_mod_two (l : List Nat) : val l % 2 = l.headD 0 % 2 := by
  cases l with
  | nil => simp
  | cons x xs =>
    simp only [val_cons, List.headD_cons]
    have : B = 2 * 2 ^ 63 := by rw [B_eq_pow]; rfl
    rw [this, Nat.mul_assoc, Nat.add_mul_mod_self_left]

/-! ### Montgomery form -/

/-- The three facts through which every REDC (redc_1, redc_2, redc_n, on values or on limbs) is used.  `le` is the
    conversion out of Montgomery form; `r = m` does occur. -/
structure IsRedc (N m T r : Nat) : Prop where
  lt : r < N
  modEq : r * N ≡ T [MOD m]
  le : T < N → r ≤ m

theorem IsRedc.of_identity {N m T Q k r : Nat} (hr : r < N) (hQ : Q < N)
    (he : N * r + k * (N * m) = T + Q * m) : IsRedc N m T r := by
  refine ⟨hr, modEq_of_add_mul_eq (x := k * N) (y := Q) (by rw [← he]; ring), fun hT => ?_⟩
  have h1 : N * (r + k * m) < N * (1 + m) := by
    have : Q * m ≤ N * m := Nat.mul_le_mul_right _ hQ.le
    rw [show N * (r + k * m) = T + Q * m by rw [← he]; ring, Nat.mul_add, Nat.mul_one]; omega
  have := Nat.lt_of_mul_lt_mul_left h1
  have : 0 ≤ k * m := Nat.zero_le _
  omega

def Mont (N m b x k : Nat) : Prop := x < N ∧ x ≡ b ^ k * N [MOD m]

/-- `redcify` (mpn/generic/powm.c:139, called at :227) -/
theorem Mont.enter {N m : Nat} (b : Nat) (hm : 0 < m) (hmN : m < N) : Mont N m b ((b * N) % m) 1 :=
  ⟨(Nat.mod_lt _ hm).trans hmN, by rw [pow_one]; exact Nat.mod_modEq _ _⟩

theorem Mont.mul {N m b x y r j k : Nat} (hcop : Nat.gcd m N = 1) (hx : Mont N m b x j) (hy : Mont N m b y k)
    (h : IsRedc N m (x * y) r) : Mont N m b r (j + k) := by
  refine ⟨h.lt, Nat.ModEq.cancel_right_of_coprime hcop (h.modEq.trans ?_)⟩
  rw [show b ^ (j + k) * N * N = (b ^ j * N) * (b ^ k * N) by rw [pow_add]; ring]
  exact hx.2.mul hy.2

/-- mpn/generic/powm.c:559-577: one more REDC of the residue itself, then the canonicalising subtraction. -/
theorem Mont.leave {N m b x r e : Nat} (hcop : Nat.gcd m N = 1) (hx : Mont N m b x e)
    (h : IsRedc N m x r) : (if r ≥ m then r - m else r) = b ^ e % m := by
  have hc : r ≡ b ^ e [MOD m] := Nat.ModEq.cancel_right_of_coprime hcop (h.modEq.trans hx.2)
  have hle := h.le hx.1
  unfold Nat.ModEq at hc
  split
  · rw [← hc, show r = m by omega]; simp
  · rw [← hc, Nat.mod_eq_of_lt (by omega)]

theorem coprime_odd_Bpow (m n : Nat) (hodd : m % 2 = 1) : Nat.gcd m (B ^ n) = 1 := by
  rw [show B ^ n = 2 ^ (64 * n) by rw [B_eq_pow, ← pow_mul]]
  exact (coprime_two_pow_odd _ m hodd).symm

theorem redc_1_isRedc (tp mp : List Nat) (invm : Nat) (hn : 1 ≤ mp.length) (htp : Limbs tp) (hmp : Limbs mp)
    (hlen : tp.length = 2 * mp.length) (hinv : (invm * mp.headD 0) % B = B - 1) :
    Limbs (redc_1 tp mp invm) ∧ (redc_1 tp mp invm).length = mp.length ∧
    IsRedc (B ^ mp.length) (val mp) (val tp) (val (redc_1 tp mp invm)) := by
  obtain ⟨Q, k, hQ, _, he, hL, hlen'⟩ := redc_1_identity tp mp invm hn htp hmp hlen hinv
  exact ⟨hL, hlen', .of_identity (hlen' ▸ val_lt _ hL) hQ he⟩

theorem redc_n_isRedc (u m n ip : Nat) (hm : 0 < m) (hmn : m < B ^ n) (hu : u < B ^ n * B ^ n)
    (hip : (ip * m) % B ^ n = 1 % B ^ n) : IsRedc (B ^ n) m u (redc_n u m n ip) := by
  obtain ⟨h1, h2, h3⟩ := redc_n_spec u m n ip hm hmn hu hip
  exact ⟨h1, h2, fun hT => (h3 (lt_of_lt_of_le hT (Nat.le_mul_of_pos_left _ hm))).le⟩

/-- `mp.headD 1` (the model's default for an empty `mp`) is `mp[0]` here -/
theorem nprim_spec (mp : List Nat) (hn : 1 ≤ mp.length) (hodd : val mp % 2 = 1) :
    (((B - modlimb_invert (mp.headD 1)) % B) * mp.headD 0) % B = B - 1 := by
  have hhd : mp.headD 1 = mp.headD 0 := by
    cases mp with
    | nil => simp at hn
    | cons a l => rfl
  rw [hhd]; exact neg_modlimb_invert_spec _ (by rw [← val_mod_two]; exact hodd)

theorem reducer_isRedc (thr : Nat) (mp : List Nat) (hmp : Limbs mp) (hn : 1 ≤ mp.length) (hodd : val mp % 2 = 1)
    (x : Nat) (hx : x < B ^ mp.length * B ^ mp.length) :
    IsRedc (B ^ mp.length) (val mp) x (reducer thr mp x) := by
  unfold reducer
  simp only
  split
  · have hx2 : x < B ^ (2 * mp.length) := by rwa [two_mul, pow_add]
    have h := (redc_1_isRedc (toLimbs (2 * mp.length) x) mp _ hn (Limbs_toLimbs _ _) hmp (toLimbs_length _ _)
      (nprim_spec mp hn hodd)).2.2
    rwa [val_toLimbs_lt _ _ hx2] at h
  · exact redc_n_isRedc x (val mp) mp.length _ (by omega) (val_lt mp hmp) hx
      (by rw [binvert_spec (val mp) mp.length hn hodd, Nat.mod_eq_of_lt (one_lt_B_pow hn)])

theorem mpn_powm_val_spec (thr : Nat) (bp ep mp : List Nat) (hep : Norm ep) (hne : ep ≠ [])
    (hmp : Limbs mp) (hn : 1 ≤ mp.length) (hodd : val mp % 2 = 1) :
    mpn_powm_val thr bp ep mp = val bp ^ val ep % val mp := by
  have hcop := coprime_odd_Bpow (val mp) mp.length hodd
  have hmlt := val_lt mp hmp
  obtain ⟨hw1, hw63⟩ := win_size_bounds (sizeinbase2 ep)
  have hR := reducer_isRedc thr mp hmp hn hodd
  unfold mpn_powm_val
  simp only
  -- from here on only `hR`, `hcop`, `hmlt` are needed: with `reducer`, `win_size` and `B ^ n` still in the terms,
  -- unification in the call below would unfold them
  generalize win_size (sizeinbase2 ep) = w at *
  generalize reducer thr mp = red at *
  generalize B ^ mp.length = N at *
  generalize val mp = m at *
  have hr := windowExp_oddPowers (fun x y => red (x * y)) (Mont N m (val bp)) 0 ((val bp * N) % m)
    (fun x y j k hx hy => hx.mul hcop hy (hR _ (Nat.mul_lt_mul'' hx.1 hy.1))) (.enter _ (by omega) hmlt)
    ep hep.1 hne (hep.2 hne) w hw1 hw63
  exact hr.leave hcop (hR _ (lt_of_lt_of_le hr.1 (Nat.le_mul_of_pos_left _ (by omega))))


/-! ### stripping the modulus, the main path and all of mpz_powm (powm.c:153-284) -/

theorem rshift_limb (x y cnt : Nat) (hx : x < B) (hc1 : 1 ≤ cnt) (hc : cnt ≤ 63) :
    (x >>> cnt) ||| ((y <<< (64 - cnt)) % B) = x / 2 ^ cnt + 2 ^ (64 - cnt) * (y % 2 ^ cnt) := by
  have hB : B = 2 ^ cnt * 2 ^ (64 - cnt) := B_split cnt (by omega)
  have h1 : (y <<< (64 - cnt)) % B = (y % 2 ^ cnt) <<< (64 - cnt) := by
    rw [Nat.shiftLeft_eq, Nat.shiftLeft_eq, hB, Nat.mul_mod_mul_right]
  have h2 : x >>> cnt < 2 ^ (64 - cnt) := by
    rw [Nat.shiftRight_eq_div_pow]
    apply Nat.div_lt_of_lt_mul
    rw [← hB]; exact hx
  rw [h1, Nat.or_comm, ← Nat.shiftLeft_add_eq_or_of_lt h2, Nat.shiftLeft_eq, Nat.shiftRight_eq_div_pow]
  ring

theorem rshift_val (l : List Nat) (cnt : Nat) (hl : Limbs l) (hc1 : 1 ≤ cnt) (hc : cnt ≤ 63) :
    val (rshift l cnt).1 = val l / 2 ^ cnt ∧ Limbs (rshift l cnt).1 ∧ (rshift l cnt).1.length = l.length := by
  cases l with
  | nil => simp [rshift, rshiftGo, Limbs_nil]
  | cons x xs =>
    obtain ⟨_, _, hL, hn, hv, _⟩ := rshift_val' (x :: xs) cnt hl (Nat.succ_pos _) hc1 hc
    exact ⟨hv, hL, hn⟩


theorem strip_zero_limbs (l : List Nat) :
    val l = B ^ (l.takeWhile (· == 0)).length * val (l.drop (l.takeWhile (· == 0)).length) ∧
    (l.takeWhile (· == 0)).length ≤ l.length ∧
    (∀ x xs, l.drop (l.takeWhile (· == 0)).length = x :: xs → x ≠ 0) := by
  induction l with
  | nil => simp
  | cons a l ih =>
    by_cases ha : a = 0
    · subst ha
      obtain ⟨h1, h2, h3⟩ := ih
      simp only [List.takeWhile_cons, beq_self_eq_true, if_true, List.length_cons, List.drop_succ_cons, val_cons,
        Nat.zero_add, pow_succ]
      refine ⟨?_, by omega, h3⟩
      rw [h1]; ring
    · have : (a == 0) = false := by simpa using ha
      simp only [List.takeWhile_cons, this, Bool.false_eq_true, if_false, List.length_nil, List.drop_zero, pow_zero, Nat.one_mul]
      refine ⟨trivial, Nat.zero_le _, ?_⟩
      intro x xs h; injection h with h1 _; rw [← h1]; exact ha

/-- powm.c:153-171 -/
theorem stripM_spec (mp : List Nat) (hm : Norm mp) (hne : mp ≠ []) :
    let modd := (stripM mp).1.take (stripM mp).2.1
    let nodd := (stripM mp).2.1
    let ncnt := (stripM mp).2.2.1
    let cnt := (stripM mp).2.2.2
    Limbs modd ∧ modd.length = nodd ∧ 1 ≤ nodd ∧ val modd % 2 = 1 ∧ cnt < 64 ∧ nodd ≤ mp.length ∧
    mp.length ≤ nodd + ncnt ∧ ncnt ≤ mp.length ∧
    (ncnt = 0 → val modd = val mp) ∧ (ncnt ≠ 0 → val mp = 2 ^ tbits ncnt cnt * val modd) := by
  obtain ⟨hz1, hz2, hz3⟩ := strip_zero_limbs mp
  have hmpos := Norm_pos mp hm hne
  unfold stripM
  simp only
  generalize hk : (mp.takeWhile (· == 0)).length = k at *
  -- the rest is non-empty with non-zero head
  have hrest : mp.drop k ≠ [] := by
    intro h; rw [h] at hz1; simp at hz1; omega
  obtain ⟨m0, rest, hmr⟩ := List.exists_cons_of_ne_nil hrest
  have hm0 : m0 ≠ 0 := hz3 m0 rest hmr
  have hdL : Limbs (mp.drop k) := Limbs_drop hm.1 _
  have hm0lt : m0 < B := by rw [hmr] at hdL; exact (Limbs_cons.mp hdL).1
  have hdlen : (mp.drop k).length = mp.length - k := List.length_drop
  have hklt : k < mp.length := by
    have : 0 < (mp.drop k).length := List.length_pos_of_ne_nil hrest
    omega
  have hhead : (mp.drop k).headD 1 = m0 := by rw [hmr]; rfl
  rw [hhead]
  by_cases hev : m0 % 2 = 0
  · simp only [hev, if_true]
    obtain ⟨hc63, hq, hnv, hdiv, hnodd⟩ := ctz_strip m0 rest hm0 hm0lt
    rw [← hmr] at hnv hdiv hnodd
    have hcpos : 1 ≤ ctz m0 := by
      by_contra h0
      have h2 := (ctz_spec m0 hm0 (by rw [← B_eq_pow]; exact hm0lt)).2
      rw [show ctz m0 = 0 by omega, Nat.shiftRight_zero] at h2; omega
    generalize ctz m0 = cnt at *
    obtain ⟨rv, rL, rl⟩ := rshift_val (mp.drop k) cnt hdL hcpos hc63
    rw [← rv] at hnv hdiv hnodd
    generalize (rshift (mp.drop k) cnt).1 = newmp at *
    rw [hdlen] at rl
    -- dropping a zero top limb does not change the value
    set nodd0 := mp.length - k with hnodd0
    have htake : val (newmp.take (nodd0 - (if newmp.getD (nodd0 - 1) 0 = 0 then 1 else 0))) = val newmp := by
      split
      · rename_i h0
        have h1 := val_take_succ newmp (nodd0 - 1)
        have e : nodd0 - 1 + 1 = nodd0 := by omega
        rw [e, h0, Nat.mul_zero, Nat.add_zero, List.take_of_length_le (le_of_eq rl)] at h1
        exact h1.symm
      · simp only [Nat.sub_zero]; rw [List.take_of_length_le (le_of_eq rl)]
    have hnz : newmp.getD (nodd0 - 1) 0 = 0 → 2 ≤ nodd0 := by
      intro h0
      by_contra hlt
      have h1 : nodd0 = 1 := by omega
      rw [h1] at h0
      -- newmp[0] = val newmp % B is odd
      have : newmp.getD 0 0 = newmp.headD 0 := by cases newmp <;> rfl
      rw [this] at h0
      have := val_mod_two newmp
      rw [h0] at this; omega
    refine ⟨Limbs_take rL _, ?_, ?_, by rw [htake]; exact hnodd, by omega, ?_, ?_, by omega, by omega, ?_⟩
    · rw [List.length_take, rl]; split <;> omega
    · split
      · rename_i h0; have := hnz h0; omega
      · omega
    · split <;> omega
    · split <;> omega
    · intro _
      rw [htake, hz1, hdiv, tbits_eq]
      have hc0 : cnt ≠ 0 := by omega
      simp only [hc0, if_false, Nat.add_sub_cancel]
      rw [B_eq_pow, ← pow_mul, pow_add, Nat.mul_comm 64 k]; ring
  · simp only [hev, if_false]
    have hodd : m0 % 2 = 1 := by omega
    have htake : (mp.drop k).take (mp.length - k) = mp.drop k := List.take_of_length_le (le_of_eq hdlen)
    rw [htake]
    have hvodd : val (mp.drop k) % 2 = 1 := by rw [val_mod_two, hmr]; exact hodd
    refine ⟨hdL, hdlen, by omega, hvodd, by omega, by omega, by omega, by omega, ?_, ?_⟩
    · intro h0; subst h0; rfl
    · intro _
      rw [hz1, tbits_eq]; simp only [if_true]
      rw [B_eq_pow, ← pow_mul, Nat.mul_comm 64 k]



theorem powmMain_rp (bp ep mp : List Nat) (hb : Limbs bp) (hbne : bp ≠ []) (hep : Norm ep) (hepne : ep ≠ [])
    (h2 : 2 ≤ val ep) (hm : Norm mp) (hmne : mp ≠ []) (hsz : mp.length * 64 < B) :
    let modd := (stripM mp).1.take (stripM mp).2.1
    let rodd := mpn_powm bp ep modd
    let rp := if ((stripM mp).2.2.1 != 0) = true
      then powmEven mp.length bp ep modd (stripM mp).2.1 (stripM mp).2.2.1 (stripM mp).2.2.2 rodd else rodd
    val rp = val bp ^ val ep % val mp ∧ Limbs rp ∧ rp.length = mp.length := by
  obtain ⟨hL, hlen, hn1, hodd, hcnt, hle, hle2, hle3, h0, h1⟩ := stripM_spec mp hm hmne
  simp only at hL hlen hn1 hodd hcnt hle hle2 hle3 h0 h1 ⊢
  have hmpos := Norm_pos mp hm hmne
  generalize (stripM mp).1.take (stripM mp).2.1 = modd at *
  generalize (stripM mp).2.1 = nodd at *
  generalize (stripM mp).2.2.1 = ncnt at *
  generalize (stripM mp).2.2.2 = cnt at *
  have hmoddpos : 0 < val modd := by omega
  have hmoddlt : val modd < B ^ nodd := by rw [← hlen]; exact val_lt modd hL
  have hroddeq : mpn_powm bp ep modd = toLimbs nodd (val bp ^ val ep % val modd) := by
    unfold mpn_powm
    rw [mpn_powm_val_spec _ bp ep modd hep hepne hL (by omega) hodd, hlen]
  by_cases hz : ncnt = 0
  · subst hz
    have : ((0 : Nat) != 0) = false := rfl
    simp only [this, Bool.false_eq_true, if_false]
    have hn : nodd = mp.length := by omega
    rw [hroddeq, val_toLimbs_lt _ _ (lt_trans (Nat.mod_lt _ hmoddpos) hmoddlt), h0 rfl]
    exact ⟨rfl, Limbs_toLimbs _ _, by rw [toLimbs_length, hn]⟩
  · have : (ncnt != 0) = true := by simpa using hz
    simp only [this, if_true]
    have hfit : 2 ^ tbits ncnt cnt * val modd < B ^ mp.length := by rw [← h1 hz]; exact val_lt mp hm.1
    obtain ⟨ev, eL, el⟩ := powmEven_correct mp.length bp ep modd (mpn_powm bp ep modd) nodd ncnt cnt hb hbne hep hepne
      hL hlen hodd (by omega) hcnt hle hle2 hfit (by omega) hroddeq
      (fun bq hbq => mpn_powlo_spec bq ep ncnt hbq hep hepne h2)
      (fun u hu => binvert_spec u ncnt (by omega) hu)
    rw [h1 hz]
    exact ⟨ev, eL, el⟩

theorem powmMain_correct (bneg : Bool) (bp ep mp : List Nat) (hb : Limbs bp) (hbne : bp ≠ []) (hep : Norm ep)
    (hepne : ep ≠ []) (h2 : 2 ≤ val ep) (hm : Norm mp) (hmne : mp ≠ []) (hsz : mp.length * 64 < B) :
    (Res.mk (powmMain bneg bp ep mp).1 (powmMain bneg bp ep mp).2).wf = true ∧
    ((val ((powmMain bneg bp ep mp).1.take (powmMain bneg bp ep mp).2) : Nat) : Int) =
      (if (decide (ep.headD 0 % 2 = 1) && bneg) = true then -((val bp ^ val ep % val mp : Nat) : Int)
       else ((val bp ^ val ep % val mp : Nat) : Int)) % (val mp : Int) := by
  obtain ⟨rv, rL, rl⟩ := powmMain_rp bp ep mp hb hbne hep hepne h2 hm hmne hsz
  have hmpos := Norm_pos mp hm hmne
  rw [powmMain_eq]
  simp only
  generalize (if ((stripM mp).2.2.1 != 0) = true then _ else _ : List Nat) = rp at *
  have hlt : val rp < val mp := by rw [rv]; exact Nat.mod_lt _ hmpos
  have := negfix_k (decide (ep.headD 0 % 2 = 1) && bneg) rp mp mp.length rL rl (by rw [← rl]; exact val_lt rp rL) hm.1 hlt
  simp only at this
  rw [rv] at this
  exact this


theorem norm_val_ge_two (ep : List Nat) (hep : Norm ep) (hne : ep ≠ [])
    (hnot : ¬ (ep.length = 1 ∧ ep.headD 0 = 1)) : 2 ≤ val ep := by
  have hge := Norm_ge ep hep hne
  match ep, hne with
  | [x], _ =>
    have hx : x ≠ 0 := by simpa using hep.2 (by simp)
    simp at hnot ⊢; omega
  | x :: y :: l, _ =>
    simp only [List.length_cons] at hge
    have : B ^ 1 ≤ B ^ (l.length + 1 + 1 - 1) := Nat.pow_le_pow_right B_pos (by omega)
    rw [pow_one] at this
    have hB : 2 ≤ B := by simp [B_eq]
    omega

/-- powm.c:104-284 after the exponent's sign has been dealt with: `(±x)^e mod m` for `e ≥ 1`; the size hypothesis
    is needed only where mpn_powm is reached. -/
theorem powmGo_value (ep mp : List Nat) (bneg : Bool) (x : Nat) (hep : Norm ep) (hepne : ep ≠ [])
    (hm : Norm mp) (hmne : mp ≠ []) (hsz : 2 ≤ val ep → x ≠ 0 → mp.length * 64 < B) :
    (powmGo ep mp bneg (natLimbs x)).value? =
      some ((if bneg then -(x : Int) else (x : Int)) ^ val ep % (val mp : Int)) := by
  have hepos : 0 < val ep := Norm_pos ep hep hepne
  have hmpos : 0 < val mp := Norm_pos mp hm hmne
  unfold powmGo
  by_cases hx : x = 0
  · subst hx
    simp only [natLimbs_zero, List.length_nil, if_true, Res.value?, List.take_nil, val_nil]
    have : (if bneg then -((0 : Nat) : Int) else ((0 : Nat) : Int)) = 0 := by cases bneg <;> simp
    rw [this, zero_pow (Nat.ne_of_gt hepos)]; simp
  · have hbne : natLimbs x ≠ [] := fun h => hx (natLimbs_eq_nil.mp h)
    have hl : (natLimbs x).length ≠ 0 := fun h => hbne (List.length_eq_zero_iff.mp h)
    simp only [hl, if_false]
    have hbN := Norm_natLimbs x
    by_cases he1 : (ep.length = 1 && ep.headD 0 = 1) = true
    · simp only [he1, if_true]
      have hv1 : val ep = 1 := by
        simp only [Bool.and_eq_true, decide_eq_true_eq] at he1
        match ep, he1 with
        | [y], ⟨_, h⟩ => simp at h; simp [h]
      have hv := (powmE1_correct bneg (natLimbs x) mp hbN hbne hm hmne).2
      unfold Res.value?
      simp only [Option.some.injEq]
      rw [hv, val_natLimbs_eq, hv1, pow_one]
    · simp only [he1, Bool.false_eq_true, if_false]
      have h2 : 2 ≤ val ep := norm_val_ge_two ep hep hepne (by simpa using he1)
      have hv := (powmMain_correct bneg (natLimbs x) ep mp hbN.1 hbne hep hepne h2 hm hmne (hsz h2 hx)).2
      unfold Res.value?
      simp only [Option.some.injEq]
      rw [hv, val_natLimbs_eq]
      have hpar : ep.headD 0 % 2 = val ep % 2 := (val_mod_two ep).symm
      have hPm : ((x ^ val ep % val mp : Nat) : Int) ≡ (x : Int) ^ val ep [ZMOD (val mp : Int)] := by
        have := natCast_mod_modEq (x ^ val ep) (val mp)
        push_cast at this ⊢; exact this
      cases bneg with
      | false =>
        simp only [Bool.and_false, Bool.false_eq_true, if_false]
        exact hPm
      | true =>
        simp only [Bool.and_true, decide_eq_true_eq, if_true]
        rw [hpar]
        exact neg_pow_modEq _ _ _ _ hPm



theorem powmE1_Limbs (bneg : Bool) (bp mp : List Nat) (hb : Limbs bp) (hm : Limbs mp) : Limbs (powmE1 bneg bp mp).1 := by
  unfold powmE1
  simp only
  split_ifs
  · exact Limbs_sub mp _ hm
  · exact Limbs_toLimbs _ _
  · exact Limbs_sub mp bp hm
  · exact Limbs_append.mpr ⟨hb, Limbs_zeros _⟩

theorem powmEven_Limbs (n : Nat) (bp ep modd : List Nat) (nodd ncnt cnt : Nat) (rodd : List Nat) :
    Limbs (powmEven n bp ep modd nodd ncnt cnt rodd) := by
  unfold powmEven
  exact Limbs_add _ _ (Limbs_take (Limbs_toLimbs _ _) _)

theorem powmMain_Limbs (bneg : Bool) (bp ep mp : List Nat) (hm : Limbs mp) : Limbs (powmMain bneg bp ep mp).1 := by
  rw [powmMain_eq]
  simp only
  have hrp : Limbs (if ((stripM mp).2.2.1 != 0) = true
      then powmEven mp.length bp ep ((stripM mp).1.take (stripM mp).2.1) (stripM mp).2.1 (stripM mp).2.2.1 (stripM mp).2.2.2
        (mpn_powm bp ep ((stripM mp).1.take (stripM mp).2.1))
      else mpn_powm bp ep ((stripM mp).1.take (stripM mp).2.1)) := by
    split
    · exact powmEven_Limbs _ _ _ _ _ _ _ _
    · exact Limbs_toLimbs _ _
  generalize (if ((stripM mp).2.2.1 != 0) = true then _ else _ : List Nat) = rp at *
  split
  · exact Limbs_sub mp _ hm
  · exact hrp

theorem powmGo_Limbs (ep mp : List Nat) (bneg : Bool) (bp : List Nat) (hb : Limbs bp) (hm : Limbs mp) :
    Limbs (powmGo ep mp bneg bp).limbs := by
  unfold powmGo
  split_ifs
  · exact Limbs_take Limbs_nil _
  · exact Limbs_take (powmE1_Limbs bneg bp mp hb hm) _
  · exact Limbs_take (powmMain_Limbs bneg bp ep mp hm) _

theorem powmGo_wf (ep mp : List Nat) (bneg : Bool) (bp : List Nat) (hbp : Norm bp) (hm : Norm mp) (hmne : mp ≠ []) :
    (powmGo ep mp bneg bp).wf = true := by
  unfold powmGo
  by_cases hb0 : bp.length = 0
  · simp [hb0, Res.wf]
  · simp only [hb0, if_false]
    split_ifs
    · exact (powmE1_correct bneg bp mp hbp (fun h => hb0 (by rw [h]; rfl)) hm hmne).1
    · exact powmMain_wf _ _ _ _

theorem mpz_powm_wf_Limbs (b e m : Int) : (mpz_powm b e m).wf = true ∧ Limbs (mpz_powm b e m).limbs := by
  unfold mpz_powm
  simp only
  by_cases hn : (natLimbs m.natAbs).length = 0
  · simp [hn, Res.wf, Res.limbs, Limbs_nil]
  · have hmne : natLimbs m.natAbs ≠ [] := fun h => hn (by rw [h]; rfl)
    have hgo : ∀ ep bneg x, (powmGo ep (natLimbs m.natAbs) bneg (natLimbs x)).wf = true ∧
        Limbs (powmGo ep (natLimbs m.natAbs) bneg (natLimbs x)).limbs := fun ep bneg x =>
      ⟨powmGo_wf _ _ _ _ (Norm_natLimbs _) (Norm_natLimbs _) hmne,
        powmGo_Limbs _ _ _ _ (Limbs_natLimbs _) (Limbs_natLimbs _)⟩
    simp only [hn, if_false]
    by_cases he : e = 0
    · simp only [he, if_true]
      refine ⟨by split_ifs <;> simp [Res.wf], Limbs_take ?_ _⟩
      intro x hx; simp at hx; rw [hx, B_eq]; decide
    · simp only [he, if_false]
      split
      · cases mpz_invert b m with
        | none => exact ⟨rfl, Limbs_nil⟩
        | some nb => exact hgo _ _ _
      · exact hgo _ _ _

theorem mpz_powm_Limbs (b e m : Int) : Limbs (mpz_powm b e m).limbs := (mpz_powm_wf_Limbs b e m).2

/-- `hsz` (powm.c:221 must not wrap) only where mpn_powm is reached: `|e| ≥ 2` and `b ≠ 0`. -/
theorem mpz_powm_value (b e m : Int) (hsz : 2 ≤ e.natAbs → b ≠ 0 → (natLimbs m.natAbs).length * 64 < B) :
    (mpz_powm b e m).value? = powmSpec b e m := by
  unfold mpz_powm powmSpec
  simp only
  by_cases hm0 : m = 0
  · subst hm0; simp [natLimbs_zero, Res.value?]
  have hmn : m.natAbs ≠ 0 := Int.natAbs_ne_zero.mpr hm0
  have hn : (natLimbs m.natAbs).length ≠ 0 := fun h => hmn ((natLimbs_length_eq_zero _).mp h)
  have hmne : natLimbs m.natAbs ≠ [] := fun h => hmn (natLimbs_eq_nil.mp h)
  simp only [hn, hm0, if_false]
  by_cases he0 : e = 0
  · -- `SIZ(r) = n != 1 || mp[0] != 1; PTR(r)[0] = 1`
    subst he0
    simp only [if_true, le_refl, Int.toNat_zero, pow_zero]
    by_cases h1 : m.natAbs = 1
    · have hc := (natLimbs_is_one m.natAbs).not.mpr (by simpa using h1)
      simp only [Bool.not_eq_true] at hc
      simp only [hc, Bool.false_eq_true, if_false, Res.value?, List.take_zero, val_nil]
      rw [h1]; rfl
    · have hc := (natLimbs_is_one m.natAbs).mpr h1
      have h2 : (1 : Int) % (m.natAbs : Int) = 1 := Int.emod_eq_of_lt (by omega) (by omega)
      simp only [hc, if_true, Res.value?, h2]
      rfl
  have hen : e.natAbs ≠ 0 := Int.natAbs_ne_zero.mpr he0
  have hepne : natLimbs e.natAbs ≠ [] := fun h => hen (natLimbs_eq_nil.mp h)
  have hgo := fun bneg x hx => powmGo_value (natLimbs e.natAbs) (natLimbs m.natAbs) bneg x
    (Norm_natLimbs _) hepne (Norm_natLimbs _) hmne (fun h2 _ => hsz (by rwa [val_natLimbs_eq] at h2) hx)
  simp only [val_natLimbs_eq] at hgo
  simp only [he0, if_false]
  by_cases hneg : e < 0
  · simp only [hneg, if_true, show ¬ (0 ≤ e) by omega, if_false]
    have hee : (-e).toNat = e.natAbs := by omega
    unfold mpz_invert
    by_cases h1 : m.natAbs = 1
    · simp [h1, Res.value?]
    · by_cases hb0 : b = 0
      · subst hb0; simp [h1, modInv_zero _ h1, Res.value?]
      · simp only [hb0, h1, decide_false, Bool.or_self, Bool.false_eq_true, if_false]
        cases hinv : modInv? b m.natAbs with
        | none => rfl
        | some i =>
          simp only
          rw [hgo false i hb0, hee]; simp
  · simp only [hneg, if_false, show 0 ≤ e by omega, if_true]
    have hee : e.toNat = e.natAbs := by omega
    by_cases hb0 : b = 0
    · subst hb0
      simp only [Int.natAbs_zero, natLimbs_zero]
      unfold powmGo
      simp [Res.value?, zero_pow (show e.toNat ≠ 0 by omega)]
    rw [hgo (decide (b < 0)) b.natAbs hb0, hee]
    congr 2
    by_cases hb : b < 0
    · simp only [hb, decide_true, if_true]; congr 1; omega
    · simp only [hb, decide_false, Bool.false_eq_true, if_false]; congr 1; omega


theorem mpz_powm_ui_Limbs (b : Int) (el : Nat) (m : Int) : Limbs (mpz_powm_ui b el m).limbs := by
  have hone : ∀ k, Limbs (([1] : List Nat).take k) := fun k =>
    Limbs_take (by intro x hx; simp at hx; rw [hx, B_eq]; decide) _
  unfold mpz_powm_ui
  split
  · simp only
    split
    · exact Limbs_nil
    · split
      · exact hone _
      · generalize (if (natLimbs b.natAbs).length > (natLimbs m.natAbs).length then _ else _ : Nat × Nat) = bb
        split
        · exact Limbs_take Limbs_nil _
        · generalize puiX _ _ _ _ _ _ = q
          simp only [Res.limbs]
          split
          · exact Limbs_take (Limbs_sub _ _ (Limbs_natLimbs _)) _
          · exact Limbs_take (Limbs_toLimbs _ _) _
  · exact mpz_powm_Limbs b el m


/-! ### mpz_n_pow_ui (n_pow_ui.c) -/

theorem sqrMulLoop_spec (b : Nat) : ∀ (bits : List Bool) (r h : Nat), r = b ^ h →
    sqrMulLoop b bits r = b ^ (bits.foldl (fun a bit => 2 * a + (if bit then 1 else 0)) h)
  | [], r, h, hr => by simpa [sqrMulLoop] using hr
  | bit :: rest, r, h, hr => by
    simp only [sqrMulLoop, List.foldl_cons]
    apply sqrMulLoop_spec b rest
    cases bit with
    | true => simp only [if_true]; rw [hr, ← pow_add, ← pow_succ]; congr 1; omega
    | false => simp only [Bool.false_eq_true, if_false]; rw [hr, ← pow_add]; congr 1; omega

theorem lowerBits_fold (e : Nat) : ∀ (L h : Nat),
    ((List.range L).reverse.map (fun i => e.testBit i)).foldl (fun a bit => 2 * a + (if bit then 1 else 0)) h
      = h * 2 ^ L + e % 2 ^ L
  | 0, h => by simp [Nat.mod_one]
  | L + 1, h => by
    rw [List.range_succ, List.reverse_append, List.reverse_singleton, List.singleton_append, List.map_cons,
      List.foldl_cons, lowerBits_fold e L]
    have hbit : (if e.testBit L = true then 1 else 0) = e / 2 ^ L % 2 := by
      rw [Nat.testBit_eq_decide_div_mod_eq]
      by_cases h1 : e / 2 ^ L % 2 = 1
      · simp [h1]
      · have : e / 2 ^ L % 2 = 0 := by omega
        simp [this]
    rw [hbit, Nat.mod_pow_succ (k := L), pow_succ]; ring

theorem lowerBits_spec (e : Nat) (he : e ≠ 0) :
    (lowerBits e).foldl (fun a bit => 2 * a + (if bit then 1 else 0)) 1 = e := by
  unfold lowerBits
  rw [lowerBits_fold, Nat.one_mul]
  have h1 : 2 ^ e.log2 ≤ e := Nat.log2_self_le he
  have h2 : e < 2 ^ (e.log2 + 1) := Nat.lt_log2_self
  rw [pow_succ] at h2
  have : e % 2 ^ e.log2 = e - 2 ^ e.log2 := by
    rw [Nat.mod_eq_sub_mod h1, Nat.mod_eq_of_lt (by omega)]
  omega

theorem lowerBits_ne_nil (e : Nat) (he : 2 ≤ e) : lowerBits e ≠ [] := by
  have h1 : 1 ≤ e.log2 := by
    by_contra hlt
    have h0 : e.log2 = 0 := by omega
    have := @Nat.lt_log2_self e
    rw [h0] at this; omega
  intro h
  have := congrArg List.length h
  simp [lowerBits] at this; omega

theorem sqrMul_pow (b e : Nat) (he : e ≠ 0) : sqrMulLoop b (lowerBits e) b = b ^ e := by
  rw [sqrMulLoop_spec b (lowerBits e) b 1 (by simp), lowerBits_spec e he]


/-- n_pow_ui.c:206-218: powering inside one limb never wraps and keeps `rl · blimb^e`. -/
theorem smallPow_spec : ∀ (f blimb rl e : Nat), 1 ≤ blimb → blimb < B → rl ≤ blimb → 1 ≤ e → e < 2 ^ f →
    let r := smallPow f blimb rl e
    r.2.1 * r.1 ^ r.2.2 = rl * blimb ^ e ∧ r.1 < B ∧ 1 ≤ r.1 ∧ r.2.1 < B ∧ (r.2.2 = 0 ∨ GMP_NUMB_HALFMAX < r.1)
  | 0, blimb, rl, e, _, _, _, he1, he => by simp at he; omega
  | f + 1, blimb, rl, e, hb1, hbB, hrl, he1, he => by
    unfold smallPow
    by_cases hsm : blimb ≤ GMP_NUMB_HALFMAX
    · simp only [hsm, if_true]
      have hH : GMP_NUMB_HALFMAX = 4294967295 := by unfold GMP_NUMB_HALFMAX; norm_num
      have hsq : blimb * blimb ≤ 4294967295 * 4294967295 := Nat.mul_le_mul (by omega) (by omega)
      have hrb : rl * blimb ≤ blimb * blimb := Nat.mul_le_mul_right _ hrl
      have hsqB : blimb * blimb < B := by simp only [B_eq]; omega
      have hm1 : (rl * blimb) % B = rl * blimb := Nat.mod_eq_of_lt (by omega)
      have hm2 : (blimb * blimb) % B = blimb * blimb := Nat.mod_eq_of_lt hsqB
      have hsplit : blimb ^ e = blimb ^ (e % 2) * (blimb * blimb) ^ (e / 2) := by
        rw [← pow_two, ← pow_mul, ← pow_add]; congr 1; omega
      by_cases he2 : e / 2 = 0
      · simp only [he2, if_true]
        have : e = 1 := by omega
        subst this
        simp only [Nat.one_mod, if_true, hm1, pow_zero, Nat.mul_one, pow_one, true_or, and_true]
        exact ⟨trivial, hbB, hb1, by omega⟩
      · simp only [he2, if_false]
        rw [hm2]
        have hb1' : 1 ≤ blimb * blimb := Nat.mul_pos hb1 hb1
        have hrl' : (if e % 2 = 1 then (rl * blimb) % B else rl) ≤ blimb * blimb := by
          split
          · rw [hm1]; exact hrb
          · exact le_trans hrl (Nat.le_mul_of_pos_left _ hb1)
        have he' : e / 2 < 2 ^ f := by rw [pow_succ] at he; omega
        have ih := smallPow_spec f (blimb * blimb) _ (e / 2) hb1' hsqB hrl' (by omega) he'
        simp only at ih ⊢
        obtain ⟨i1, i2, i3, i4, i5⟩ := ih
        refine ⟨?_, i2, i3, i4, i5⟩
        rw [i1, hsplit]
        by_cases hodd : e % 2 = 1
        · simp only [hodd, if_true, hm1, pow_one]; ring
        · have : e % 2 = 0 := by omega
          simp only [this, show ¬ (0 = 1) by decide, if_false, pow_zero]; ring
    · simp only [hsm, if_false]
      exact ⟨trivial, hbB, hb1, by omega, Or.inr (by omega)⟩


theorem npuOneLimb_spec (blimb e tb : Nat) (hb1 : 1 ≤ blimb) (hbB : blimb < B) (he1 : 1 ≤ e) (heB : e < B)
    (htb : tb < 64) :
    (npuOneLimb blimb e tb).1 * 2 ^ (npuOneLimb blimb e tb).2 = blimb ^ e * 2 ^ tb := by
  have hs := smallPow_spec 64 blimb 1 e hb1 hbB hb1 he1 (by rw [← B_eq_pow]; exact heB)
  simp only at hs
  obtain ⟨h1, h2, h3, h4, h5⟩ := hs
  unfold npuOneLimb
  generalize smallPow 64 blimb 1 e = sp at *
  obtain ⟨bl', rl, e'⟩ := sp
  simp only at h1 h2 h3 h4 h5 ⊢
  rw [Nat.one_mul] at h1
  -- the merge of rtwos_bits into rl
  have hmerge : ∀ p : Nat × Nat,
      p = (if (tb != 0 && rl != 1 && rl >>> (64 - tb) == 0) = true then ((rl <<< tb) % B, 0) else (rl, tb)) →
      p.1 * 2 ^ p.2 = rl * 2 ^ tb := by
    intro p hp
    by_cases hc : (tb != 0 && rl != 1 && rl >>> (64 - tb) == 0) = true
    · rw [if_pos hc] at hp
      simp only [Bool.and_eq_true, bne_iff_ne, ne_eq, beq_iff_eq] at hc
      obtain ⟨⟨htb0, _⟩, hsh⟩ := hc
      rw [Nat.shiftRight_eq_div_pow] at hsh
      have hlt : rl < 2 ^ (64 - tb) := by
        by_contra hge
        have := Nat.div_pos (Nat.le_of_not_lt hge) (Nat.two_pow_pos _)
        omega
      have hfit : rl * 2 ^ tb < B := by
        have : rl * 2 ^ tb < 2 ^ (64 - tb) * 2 ^ tb := Nat.mul_lt_mul_of_pos_right hlt (Nat.two_pow_pos _)
        rw [← pow_add] at this
        have e64 : 64 - tb + tb = 64 := by omega
        rw [e64] at this; rw [B_eq_pow]; exact this
      rw [hp]; simp only [pow_zero, Nat.mul_one]
      rw [Nat.shiftLeft_eq, Nat.mod_eq_of_lt hfit]
    · rw [if_neg hc] at hp; rw [hp]
  generalize hp : (if (tb != 0 && rl != 1 && rl >>> (64 - tb) == 0) = true then ((rl <<< tb) % B, 0) else (rl, tb)) = p
  have hm := hmerge p hp.symm
  obtain ⟨rl', tb'⟩ := p
  simp only at hm ⊢
  by_cases he0 : e' = 0
  · subst he0
    simp only [if_true]
    rw [hm, ← h1]; simp
  · simp only [he0, if_false]
    rw [sqrMul_pow bl' e' he0]
    have : (if (rl' != 1) = true then bl' ^ e' * rl' else bl' ^ e') = bl' ^ e' * rl' := by
      by_cases h : rl' = 1
      · simp [h]
      · simp [h]
    rw [this, Nat.mul_assoc, hm, ← h1]; ring


/-- the three size cases of mpz_n_pow_ui after the twos have been stripped (n_pow_ui.c:204-316, 393-467). -/
def npuCore (bp : List Nat) (btwos e tb : Nat) : Nat × Nat :=
  let blimb := bp.headD 1 >>> btwos
  if bp.length = 1 then npuOneLimb blimb e tb
  else if bp.length = 2 then
    let bsecond := bp.getD 1 0
    let blimb := if btwos != 0 then blimb ||| ((bsecond <<< (64 - btwos)) % B) else blimb
    let bsecond := bsecond >>> btwos
    if bsecond = 0 then npuOneLimb blimb e tb
    else
      let b := blimb + B * bsecond
      (sqrMulLoop b (lowerBits e) b, tb)
  else
    let b := val bp >>> btwos
    (sqrMulLoop b (lowerBits e) b, tb)

theorem n_pow_ui_eq (bneg : Bool) (bp : List Nat) (e : Nat) :
    n_pow_ui bneg bp e =
      if e = 0 then 1 else if bp.length = 0 then 0 else
      (let zl := (bp.takeWhile (· == 0)).length
       let bp' := bp.drop zl
       let btwos := ctz (bp'.headD 1)
       let X := (e * btwos) % B
       let p := npuCore bp' btwos e (X % 64)
       let r := (p.1 <<< p.2) * B ^ (zl * e + X / 64)
       if (bneg && decide (e % 2 = 1)) = true then -(r : Int) else (r : Int)) := rfl

theorem npuCore_spec (bp : List Nat) (btwos e tb : Nat) (hL : Limbs bp) (m0 : Nat) (rest : List Nat)
    (hbp : bp = m0 :: rest) (hm0 : m0 ≠ 0) (hbt : btwos = ctz m0) (he1 : 1 ≤ e) (heB : e < B) (htb : tb < 64) :
    (npuCore bp btwos e tb).1 * 2 ^ (npuCore bp btwos e tb).2 = (val bp / 2 ^ btwos) ^ e * 2 ^ tb ∧
    val bp = 2 ^ btwos * (val bp / 2 ^ btwos) ∧ btwos ≤ 63 := by
  have hm0lt : m0 < B := by rw [hbp] at hL; exact (Limbs_cons.mp hL).1
  obtain ⟨hc63, hq, hdivv, hexact, _⟩ := ctz_strip m0 rest hm0 hm0lt
  rw [← hbp, ← hbt] at hdivv hexact
  rw [← hbt] at hc63 hq
  have hpos : 0 < 2 ^ btwos := Nat.two_pow_pos _
  have hB : B = 2 ^ btwos * 2 ^ (64 - btwos) := B_split btwos (by omega)
  have hqlt : m0 >>> btwos < B := by
    rw [Nat.shiftRight_eq_div_pow]; exact lt_of_le_of_lt (Nat.div_le_self _ _) hm0lt
  refine ⟨?_, hexact, hc63⟩
  have hhead : bp.headD 1 = m0 := by rw [hbp]; rfl
  unfold npuCore
  simp only [hhead]
  by_cases h1 : bp.length = 1
  · simp only [h1, if_true]
    have hrest : rest = [] := by rw [hbp] at h1; simpa using h1
    rw [hdivv, hrest, val_nil, Nat.mul_zero, Nat.add_zero]
    exact npuOneLimb_spec _ e tb hq hqlt he1 heB htb
  · simp only [h1, if_false]
    by_cases h2 : bp.length = 2
    · simp only [h2, if_true]
      obtain ⟨m1, hrest⟩ : ∃ m1, rest = [m1] := by
        rw [hbp] at h2
        match rest, h2 with
        | [y], _ => exact ⟨y, rfl⟩
      have hm1 : bp.getD 1 0 = m1 := by rw [hbp, hrest]; rfl
      have hm1lt : m1 < B := by
        rw [hbp, hrest] at hL; exact (Limbs_cons.mp (Limbs_cons.mp hL).2).1
      rw [hm1]
      have hlt2 : 2 ^ (64 - btwos) * (m1 % 2 ^ btwos) < B := by
        have h2' : m1 % 2 ^ btwos < 2 ^ btwos := Nat.mod_lt _ hpos
        have h3' : 2 ^ (64 - btwos) * (m1 % 2 ^ btwos + 1) ≤ 2 ^ (64 - btwos) * 2 ^ btwos := Nat.mul_le_mul_left _ h2'
        rw [Nat.mul_add, Nat.mul_one, Nat.mul_comm (2 ^ (64 - btwos)) (2 ^ btwos), ← hB] at h3'
        have := Nat.two_pow_pos (64 - btwos)
        omega
      -- the combined low limb
      have hlow : (if (btwos != 0) = true then m0 >>> btwos ||| ((m1 <<< (64 - btwos)) % B) else m0 >>> btwos)
          = m0 / 2 ^ btwos + 2 ^ (64 - btwos) * (m1 % 2 ^ btwos) % B ∧
          (if (btwos != 0) = true then m0 >>> btwos ||| ((m1 <<< (64 - btwos)) % B) else m0 >>> btwos) < B := by
        by_cases hb0 : btwos = 0
        · subst hb0
          simp only [bne_self_eq_false, Bool.false_eq_true, if_false, Nat.shiftRight_zero, pow_zero, Nat.div_one,
            Nat.mod_one, Nat.mul_zero, Nat.zero_mod, Nat.add_zero]
          exact ⟨trivial, hm0lt⟩
        · have hne : (btwos != 0) = true := by simpa using hb0
          simp only [hne, if_true]
          rw [rshift_limb m0 m1 btwos hm0lt (by omega) hc63]
          have h1' : m0 / 2 ^ btwos < 2 ^ (64 - btwos) := by
            apply Nat.div_lt_of_lt_mul; rw [← hB]; exact hm0lt
          have h2' : m1 % 2 ^ btwos < 2 ^ btwos := Nat.mod_lt _ hpos
          have h3' : 2 ^ (64 - btwos) * (m1 % 2 ^ btwos + 1) ≤ 2 ^ (64 - btwos) * 2 ^ btwos := Nat.mul_le_mul_left _ h2'
          rw [Nat.mul_add, Nat.mul_one, Nat.mul_comm (2 ^ (64 - btwos)) (2 ^ btwos), ← hB] at h3'
          rw [Nat.mod_eq_of_lt hlt2]
          exact ⟨rfl, by omega⟩
      obtain ⟨hlv, hllt⟩ := hlow
      generalize (if (btwos != 0) = true then m0 >>> btwos ||| ((m1 <<< (64 - btwos)) % B) else m0 >>> btwos) = bl at *
      -- bodd = bl + B * (m1 >> btwos)
      have hbodd : val bp / 2 ^ btwos = bl + B * (m1 >>> btwos) := by
        rw [hdivv, hrest, val_cons, val_nil, Nat.mul_zero, Nat.add_zero, hlv, Nat.shiftRight_eq_div_pow,
          Nat.shiftRight_eq_div_pow]
        by_cases hb0 : btwos = 0
        · subst hb0; simp [Nat.mod_one, B_eq_pow]
        · rw [Nat.mod_eq_of_lt hlt2]
          have hm := Nat.div_add_mod m1 (2 ^ btwos)
          generalize m1 / 2 ^ btwos = a at *
          generalize m1 % 2 ^ btwos = c at *
          rw [← hm, hB]; ring
      by_cases hs0 : m1 >>> btwos = 0
      · simp only [hs0, if_true]
        rw [hbodd, hs0, Nat.mul_zero, Nat.add_zero]
        have hbl1 : 1 ≤ bl := by
          rw [hlv]
          have : 0 < m0 / 2 ^ btwos := by rw [← Nat.shiftRight_eq_div_pow]; exact hq
          omega
        exact npuOneLimb_spec bl e tb hbl1 hllt he1 heB htb
      · simp only [hs0, if_false]
        rw [sqrMul_pow _ e (by omega), hbodd]
    · simp only [h2, if_false]
      rw [sqrMul_pow _ e (by omega), Nat.shiftRight_eq_div_pow]


/-- `hfeas`: for `|b| ≥ 2` the result has at least `e` bits, so `e` must be below `2^58` for the result to be
    addressable; this is what keeps `rtwos_bits = e * btwos` (unsigned long) from wrapping. -/
theorem n_pow_ui_correct (bneg : Bool) (bp : List Nat) (e : Nat) (hb : Norm bp) (heB : e < B)
    (hfeas : 2 ≤ val bp → e * 64 < B) :
    n_pow_ui bneg bp e = (if bneg then -(val bp : Int) else (val bp : Int)) ^ e := by
  rw [n_pow_ui_eq]
  by_cases he0 : e = 0
  · simp [he0]
  · simp only [he0, if_false]
    by_cases hb0 : bp.length = 0
    · have : bp = [] := List.length_eq_zero_iff.mp hb0
      subst this
      simp only [List.length_nil, if_true, val_nil, Nat.cast_zero, neg_zero, ite_self]
      rw [zero_pow he0]
    · simp only [hb0, if_false]
      have hbne : bp ≠ [] := fun h => hb0 (by rw [h]; rfl)
      have hbpos := Norm_pos bp hb hbne
      obtain ⟨hz1, hz2, hz3⟩ := strip_zero_limbs bp
      generalize hk : (bp.takeWhile (· == 0)).length = zl at *
      have hrest : bp.drop zl ≠ [] := by
        intro h; rw [h] at hz1; simp at hz1; omega
      obtain ⟨m0, rest, hmr⟩ := List.exists_cons_of_ne_nil hrest
      have hm0 : m0 ≠ 0 := hz3 m0 rest hmr
      have hhead : (bp.drop zl).headD 1 = m0 := by rw [hmr]; rfl
      rw [hhead]
      have hX64 : (e * ctz m0) % B % 64 < 64 := Nat.mod_lt _ (by decide)
      obtain ⟨hcore, hexact, hc63⟩ := npuCore_spec (bp.drop zl) (ctz m0) e ((e * ctz m0) % B % 64)
        (Limbs_drop hb.1 _) m0 rest hmr hm0 rfl (by omega) heB hX64
      -- no wrap in e * btwos
      have hnowrap : (e * ctz m0) % B = e * ctz m0 := by
        apply Nat.mod_eq_of_lt
        by_cases hc0 : ctz m0 = 0
        · rw [hc0, Nat.mul_zero]; exact B_pos
        · have h2 : 2 ≤ val bp := by
            have h1 : 2 ^ 1 ≤ 2 ^ ctz m0 := Nat.pow_le_pow_right (by decide) (by omega)
            have hq : 0 < val (bp.drop zl) / 2 ^ ctz m0 := by
              rcases Nat.eq_zero_or_pos (val (bp.drop zl) / 2 ^ ctz m0) with h | h
              · rw [h, Nat.mul_zero] at hexact
                rw [hexact, Nat.mul_zero] at hz1; omega
              · exact h
            have h3 : 2 ^ ctz m0 ≤ 2 ^ ctz m0 * (val (bp.drop zl) / 2 ^ ctz m0) := Nat.le_mul_of_pos_right _ hq
            have h4 : val (bp.drop zl) ≤ B ^ zl * val (bp.drop zl) := Nat.le_mul_of_pos_left _ (Nat.pow_pos B_pos)
            omega
          have := hfeas h2
          have : e * ctz m0 ≤ e * 63 := Nat.mul_le_mul_left _ hc63
          omega
      rw [hnowrap] at hcore ⊢
      generalize npuCore (bp.drop zl) (ctz m0) e (e * ctz m0 % 64) = p at *
      generalize val (bp.drop zl) / 2 ^ ctz m0 = q at *
      have hmag : (p.1 <<< p.2) * B ^ (zl * e + e * ctz m0 / 64) = val bp ^ e := by
        rw [Nat.shiftLeft_eq, hcore, hz1, hexact, mul_pow, mul_pow, ← pow_mul, ← pow_mul, pow_add]
        have h64 : 2 ^ (ctz m0 * e) = 2 ^ (e * ctz m0 % 64) * B ^ (e * ctz m0 / 64) := by
          rw [B_eq_pow, ← pow_mul, ← pow_add]; congr 1
          have := Nat.div_add_mod (e * ctz m0) 64
          rw [Nat.mul_comm (ctz m0) e]; omega
        rw [h64]; ring
      rw [hmag]
      cases bneg with
      | false => simp
      | true =>
        simp only [Bool.true_and, decide_eq_true_eq, if_true]
        by_cases hodd : e % 2 = 1
        · simp only [hodd, if_true]
          rw [(Nat.odd_iff.mpr hodd).neg_pow]; push_cast; rfl
        · simp only [hodd, if_false]
          rw [(Nat.even_iff.mpr (by omega)).neg_pow]; push_cast; rfl



/-! ### mpz_powm_ui for el < 20 (powm_ui.c) -/

/-- `tn = k; tn -= (top limb == 0)`: a value below `B^k` is below `B^(dropTop v k)`. -/
theorem dropTop_spec (v k : Nat) (hv : v < B ^ k) : v < B ^ dropTop v k ∧ dropTop v k ≤ k := by
  unfold dropTop
  by_cases h0 : v / B ^ (k - 1) = 0
  · simp only [h0, if_true]
    exact ⟨(Nat.div_eq_zero_iff_lt (Nat.pow_pos B_pos)).mp h0, by omega⟩
  · simp only [h0, if_false]
    exact ⟨hv, by omega⟩

/-- the state invariant of mpz_powm_ui's loop: `x` fits `xn ≤ mn` limbs and is `≡ b^h (mod ms)`. -/
def PuiInv (ms mn b h x xn : Nat) : Prop := x < B ^ xn ∧ xn ≤ mn ∧ x ≡ b ^ h [MOD ms]

theorem puiReduce_spec (ms mn t tn : Nat) (hms1 : B ^ (mn - 1) ≤ ms) (hms2 : ms < B ^ mn) (hmn : 1 ≤ mn)
    (ht : t < B ^ tn) :
    (puiReduce ms mn t tn).1 < B ^ (puiReduce ms mn t tn).2 ∧ (puiReduce ms mn t tn).2 ≤ mn ∧
    ((puiReduce ms mn t tn).1 ≡ t [MOD ms]) ∧ (puiReduce ms mn t tn).1 < ms := by
  unfold puiReduce
  by_cases h : tn < mn
  · simp only [h, if_true]
    refine ⟨ht, by omega, Nat.ModEq.refl _, ?_⟩
    have : B ^ tn ≤ B ^ (mn - 1) := Nat.pow_le_pow_right B_pos (by omega)
    omega
  · simp only [h, if_false]
    have hpos : 0 < ms := lt_of_lt_of_le (Nat.pow_pos B_pos) hms1
    have := Nat.mod_lt t hpos
    exact ⟨by omega, le_refl _, Nat.mod_modEq _ _, this⟩

theorem puiLoop_spec (ms mn b bn : Nat) (hms1 : B ^ (mn - 1) ≤ ms) (hms2 : ms < B ^ mn) (hmn : 1 ≤ mn)
    (hb : b < B ^ bn) :
    ∀ (bits : List Bool) (x xn h : Nat), PuiInv ms mn b h x xn →
      PuiInv ms mn b (bits.foldl (fun a bit => 2 * a + (if bit then 1 else 0)) h)
        (puiLoop ms mn b bn bits x xn).1 (puiLoop ms mn b bn bits x xn).2 ∧
      (bits ≠ [] → (puiLoop ms mn b bn bits x xn).1 < ms)
  | [], x, xn, h, hI => by simpa [puiLoop] using hI
  | bit :: rest, x, xn, h, hI => by
    obtain ⟨hx, hxn, hc⟩ := hI
    have ht : x * x < B ^ (2 * xn) := by rw [two_mul, pow_add]; exact Nat.mul_lt_mul'' hx hx
    obtain ⟨d1, _⟩ := dropTop_spec (x * x) (2 * xn) ht
    obtain ⟨r1, r2, r3, r4⟩ := puiReduce_spec ms mn (x * x) (dropTop (x * x) (2 * xn)) hms1 hms2 hmn d1
    have hc1 : (puiReduce ms mn (x * x) (dropTop (x * x) (2 * xn))).1 ≡ b ^ (2 * h) [MOD ms] := by
      have : b ^ (2 * h) = b ^ h * b ^ h := by rw [← pow_add]; congr 1; omega
      rw [this]; exact r3.trans (hc.mul hc)
    rw [puiLoop]
    simp only [List.foldl_cons]
    generalize puiReduce ms mn (x * x) (dropTop (x * x) (2 * xn)) = p1 at *
    obtain ⟨x1, xn1⟩ := p1
    simp only at r1 r2 r3 r4 hc1 ⊢
    cases bit with
    | false =>
      simp only [Bool.false_eq_true, if_false, Nat.add_zero]
      obtain ⟨i1, i2⟩ := puiLoop_spec ms mn b bn hms1 hms2 hmn hb rest x1 xn1 (2 * h) ⟨r1, r2, hc1⟩
      refine ⟨i1, fun _ => ?_⟩
      by_cases hr : rest = []
      · subst hr; simpa [puiLoop] using r4
      · exact i2 hr
    | true =>
      simp only [if_true]
      have ht2 : x1 * b < B ^ (xn1 + bn) := by rw [pow_add]; exact Nat.mul_lt_mul'' r1 hb
      obtain ⟨d2, _⟩ := dropTop_spec (x1 * b) (xn1 + bn) ht2
      obtain ⟨s1, s2, s3, s4⟩ := puiReduce_spec ms mn (x1 * b) (dropTop (x1 * b) (xn1 + bn)) hms1 hms2 hmn d2
      have hc2 : (puiReduce ms mn (x1 * b) (dropTop (x1 * b) (xn1 + bn))).1 ≡ b ^ (2 * h + 1) [MOD ms] := by
        rw [pow_succ]; exact s3.trans (hc1.mul_right b)
      generalize puiReduce ms mn (x1 * b) (dropTop (x1 * b) (xn1 + bn)) = p2 at *
      obtain ⟨x2, xn2⟩ := p2
      simp only at s1 s2 s3 s4 hc2 ⊢
      obtain ⟨i1, i2⟩ := puiLoop_spec ms mn b bn hms1 hms2 hmn hb rest x2 xn2 (2 * h + 1) ⟨s1, s2, hc2⟩
      refine ⟨i1, fun _ => ?_⟩
      by_cases hr : rest = []
      · subst hr; simpa [puiLoop] using s4
      · exact i2 hr


theorem shifted_modulus (M : Nat) (hM : M ≠ 0) :
    let mp0 := natLimbs M
    let ms := M <<< clz (mp0.getLastD 1)
    B ^ (mp0.length - 1) ≤ ms ∧ ms < B ^ mp0.length ∧ 1 ≤ mp0.length ∧ clz (mp0.getLastD 1) ≤ 63 ∧ M ≤ ms ∧
    B ^ mp0.length ≤ 2 * ms := by
  intro mp0 ms
  have hN := Norm_natLimbs M
  have hne : mp0 ≠ [] := fun h => hM (natLimbs_eq_nil.mp h)
  have hv : val mp0 = M := val_natLimbs_eq M
  have hge := Norm_ge mp0 hN hne
  obtain ⟨s1, s2, s3⟩ := sizeinbase2_spec mp0 hN.1 hne (hN.2 hne)
  have hlen : 1 ≤ mp0.length := List.length_pos_of_ne_nil hne
  have hclz : clz (mp0.getLastD 1) ≤ 63 := by unfold clz; omega
  have hsz : sizeinbase2 mp0 + clz (mp0.getLastD 1) = mp0.length * 64 := by
    unfold sizeinbase2; omega
  rw [hv] at hge s3
  have hms : ms = M * 2 ^ clz (mp0.getLastD 1) := Nat.shiftLeft_eq _ _
  have hle : M ≤ ms := by rw [hms]; exact Nat.le_mul_of_pos_right _ (Nat.two_pow_pos _)
  rw [hv] at s2
  have hBn : B ^ mp0.length = 2 ^ (mp0.length * 64) := by rw [B_eq_pow, ← pow_mul, Nat.mul_comm 64]
  refine ⟨le_trans hge hle, ?_, hlen, hclz, hle, ?_⟩
  · rw [hms]
    have : M * 2 ^ clz (mp0.getLastD 1) < 2 ^ sizeinbase2 mp0 * 2 ^ clz (mp0.getLastD 1) :=
      Nat.mul_lt_mul_of_pos_right s3 (Nat.two_pow_pos _)
    rw [← pow_add, hsz] at this
    rw [hBn]; exact this
  · rw [hms, hBn]
    have h1 : 2 ^ (sizeinbase2 mp0 - 1) * 2 ^ clz (mp0.getLastD 1) ≤ M * 2 ^ clz (mp0.getLastD 1) :=
      Nat.mul_le_mul_right _ s2
    rw [← pow_add] at h1
    have e : mp0.length * 64 = (sizeinbase2 mp0 - 1 + clz (mp0.getLastD 1)) + 1 := by omega
    rw [e, pow_succ]; omega

theorem puiX_spec (M ms mn zc bv bn el : Nat) (hms : ms = M * 2 ^ zc) (hms1 : B ^ (mn - 1) ≤ ms)
    (hms2 : ms < B ^ mn) (hms3 : B ^ mn ≤ 2 * ms) (hmn : 1 ≤ mn) (hzc : zc ≤ 63) (hbv : bv < B ^ bn) (hbn : bn ≤ mn)
    (hel : 1 ≤ el) :
    (puiX ms mn zc bv bn el).1 < M ∧ (puiX ms mn zc bv bn el).1 < B ^ (puiX ms mn zc bv bn el).2 ∧
    (puiX ms mn zc bv bn el).2 ≤ mn ∧ ((puiX ms mn zc bv bn el).1 ≡ bv ^ el [MOD M]) := by
  have hMdvd : M ∣ ms := ⟨2 ^ zc, hms⟩
  -- the state after the power loop: below ms, ≡ bv^el mod ms
  have hp : ∀ p : Nat × Nat,
      p = (if el = 1 then (if (decide (bn = mn) && decide (bv ≥ ms)) = true then (bv - ms, bn) else (bv, bn))
           else puiLoop ms mn bv bn (lowerBits el) bv bn) →
      p.1 < ms ∧ p.1 < B ^ p.2 ∧ p.2 ≤ mn ∧ (p.1 ≡ bv ^ el [MOD ms]) := by
    intro p hpd
    by_cases h1 : el = 1
    · rw [if_pos h1] at hpd
      subst h1
      rw [pow_one]
      by_cases hc : (decide (bn = mn) && decide (bv ≥ ms)) = true
      · rw [if_pos hc] at hpd; subst hpd
        simp only [Bool.and_eq_true, decide_eq_true_eq] at hc
        obtain ⟨hbm, hge⟩ := hc
        subst hbm
        have h2 : B ^ bn ≤ 2 * ms := hms3
        refine ⟨by simp only; omega, by simp only; omega, le_refl _, ?_⟩
        simp only
        have : bv = (bv - ms) + ms := by omega
        unfold Nat.ModEq
        conv_rhs => rw [this]
        rw [Nat.add_mod_right]
      · rw [if_neg hc] at hpd; subst hpd
        simp only [Bool.and_eq_true, decide_eq_true_eq, not_and, not_le] at hc
        refine ⟨?_, hbv, hbn, Nat.ModEq.refl _⟩
        simp only
        by_cases hbm : bn = mn
        · exact hc hbm
        · have : B ^ bn ≤ B ^ (mn - 1) := Nat.pow_le_pow_right B_pos (by omega)
          omega
    · rw [if_neg h1] at hpd
      have hI : PuiInv ms mn bv 1 bv bn := ⟨hbv, hbn, by rw [pow_one]⟩
      obtain ⟨⟨i1, i2, i3⟩, i4⟩ := puiLoop_spec ms mn bv bn hms1 hms2 hmn hbv (lowerBits el) bv bn 1 hI
      rw [lowerBits_spec el (by omega)] at i3
      have hne : lowerBits el ≠ [] := lowerBits_ne_nil el (by omega)
      rw [hpd]
      exact ⟨i4 hne, i1, i2, i3⟩
  unfold puiX
  simp only
  generalize hpe : (if el = 1 then (if (decide (bn = mn) && decide (bv ≥ ms)) = true then (bv - ms, bn) else (bv, bn))
           else puiLoop ms mn bv bn (lowerBits el) bv bn) = p
  obtain ⟨p1, p2, p3, p4⟩ := hp p hpe.symm
  by_cases hz : zc = 0
  · subst hz
    have : ((0 : Nat) != 0) = false := rfl
    simp only [this, Bool.false_eq_true, if_false]
    have : ms = M := by rw [hms]; simp
    rw [this] at p1 p4
    exact ⟨p1, p2, p3, p4⟩
  · have hzt : (zc != 0) = true := by simpa using hz
    simp only [hzt, if_true]
    rw [Nat.shiftLeft_eq]
    -- t = p.1 · 2^zc fits tn limbs
    have hpos2 : 0 < 2 ^ zc := Nat.two_pow_pos _
    have htn : p.1 * 2 ^ zc < B ^ (p.2 + (if (p.1 * 2 ^ zc / B ^ p.2 != 0) = true then 1 else 0)) := by
      by_cases h0 : p.1 * 2 ^ zc / B ^ p.2 = 0
      · simp only [h0, bne_self_eq_false, Bool.false_eq_true, if_false, Nat.add_zero]
        exact (Nat.div_eq_zero_iff_lt (Nat.pow_pos B_pos)).mp h0
      · have : (p.1 * 2 ^ zc / B ^ p.2 != 0) = true := by simpa using h0
        simp only [this, if_true]
        rw [pow_succ]
        have h2 : 2 ^ zc < B := by rw [B_eq_pow]; exact Nat.pow_lt_pow_right (by decide) (by omega)
        exact Nat.mul_lt_mul'' p2 h2
    obtain ⟨r1, r2, r3, r4⟩ := puiReduce_spec ms mn _ _ hms1 hms2 hmn htn
    generalize puiReduce ms mn (p.1 * 2 ^ zc) (p.2 + (if (p.1 * 2 ^ zc / B ^ p.2 != 0) = true then 1 else 0)) = q at *
    rw [Nat.shiftRight_eq_div_pow]
    -- q.1 ≡ p.1·2^zc (mod M·2^zc) and is a multiple of 2^zc
    have hq : ∃ y, q.1 = y * 2 ^ zc ∧ y < M ∧ y ≡ p.1 [MOD M] := by
      have hd : 2 ^ zc ∣ q.1 := by
        have h1 : (2 ^ zc) ∣ ms := ⟨M, by rw [hms, Nat.mul_comm]⟩
        have h2 : q.1 ≡ p.1 * 2 ^ zc [MOD 2 ^ zc] := r3.of_dvd h1
        have h3 : p.1 * 2 ^ zc ≡ 0 [MOD 2 ^ zc] := by unfold Nat.ModEq; simp
        exact (Nat.modEq_zero_iff_dvd).mp (h2.trans h3)
      obtain ⟨y, hy⟩ := hd
      refine ⟨y, by rw [hy, Nat.mul_comm], ?_, ?_⟩
      · rw [hy, hms, Nat.mul_comm] at r4
        exact Nat.lt_of_mul_lt_mul_right r4
      · rw [hy, hms, Nat.mul_comm (2 ^ zc) y] at r3
        exact Nat.ModEq.mul_right_cancel' (Nat.ne_of_gt hpos2) r3
    obtain ⟨y, hy1, hy2, hy3⟩ := hq
    rw [hy1, Nat.mul_div_cancel _ hpos2]
    refine ⟨hy2, ?_, r2, hy3.trans (p4.of_dvd hMdvd)⟩
    have : y ≤ q.1 := by rw [hy1]; exact Nat.le_mul_of_pos_right _ hpos2
    omega


/-- `mn == 1 && mp[0] == 1` recognises `|m| = 1` (powm_ui.c:134). -/
theorem natLimbs_is_one' (v : Nat) :
    (decide ((natLimbs v).length = 1) && decide ((natLimbs v).headD 0 = 1)) = true ↔ v = 1 := by
  have h := natLimbs_is_one v
  simp only [Bool.or_eq_true, bne_iff_ne, ne_eq] at h
  simp only [Bool.and_eq_true, decide_eq_true_eq]
  constructor
  · intro hc
    by_contra hne
    exact (h.mpr hne).elim (fun h1 => h1 hc.1) (fun h2 => h2 hc.2)
  · intro h1
    by_contra hc
    exact h.mp (not_and_or.mp hc) h1

theorem mpz_powm_ui_small (b : Int) (el : Nat) (m : Int) (h20 : el < 20) :
    (mpz_powm_ui b el m).value? = powmSpec b (el : Int) m ∧ (mpz_powm_ui b el m).wf = true := by
  unfold mpz_powm_ui
  · simp only [h20, if_true]
    by_cases hm0 : m = 0
    · subst hm0; simp [natLimbs_zero, Res.value?, Res.wf, powmSpec]
    · have hmn : m.natAbs ≠ 0 := Int.natAbs_ne_zero.mpr hm0
      have hn : (natLimbs m.natAbs).length ≠ 0 := fun h => hmn ((natLimbs_length_eq_zero _).mp h)
      simp only [hn, if_false]
      have hspec : powmSpec b (el : Int) m = some (b ^ el % (m.natAbs : Int)) := by
        unfold powmSpec; simp [hm0]
      rw [hspec]
      by_cases he0 : el = 0
      · subst he0
        simp only [if_true, pow_zero]
        by_cases h1 : m.natAbs = 1
        · have hc := (natLimbs_is_one' m.natAbs).mpr h1
          simp only [hc, if_true, Res.value?, Res.wf, List.take_zero, val_nil]
          rw [h1]; exact ⟨rfl, rfl⟩
        · have hc := (natLimbs_is_one' m.natAbs).not.mpr h1
          simp only [Bool.not_eq_true] at hc
          have h2 : (1 : Int) % (m.natAbs : Int) = 1 := Int.emod_eq_of_lt (by omega) (by omega)
          simp only [hc, Bool.false_eq_true, if_false, Res.value?, Res.wf, h2]
          exact ⟨rfl, rfl⟩
      · simp only [he0, if_false]
        obtain ⟨s1, s2, s3, s4, s5, s6⟩ := shifted_modulus m.natAbs hmn
        generalize hzc : clz ((natLimbs m.natAbs).getLastD 1) = zc at *
        generalize hms : m.natAbs <<< zc = ms at *
        have hmsM : ms = m.natAbs * 2 ^ zc := by rw [← hms, Nat.shiftLeft_eq]
        have hMdvd : m.natAbs ∣ ms := ⟨2 ^ zc, hmsM⟩
        set mn := (natLimbs m.natAbs).length with hmnd
        have hbb : ∀ bb : Nat × Nat,
            bb = (if (natLimbs b.natAbs).length > mn then (b.natAbs % ms, (natLimbs (b.natAbs % ms)).length)
                  else (b.natAbs, (natLimbs b.natAbs).length)) →
            bb.1 < B ^ bb.2 ∧ bb.2 ≤ mn ∧ (bb.1 ≡ b.natAbs [MOD m.natAbs]) ∧ (bb.2 = 0 → bb.1 = 0) := by
          intro bb hbd
          have hmspos : 0 < ms := lt_of_lt_of_le (Nat.pow_pos B_pos) s1
          by_cases hgt : (natLimbs b.natAbs).length > mn
          · rw [if_pos hgt] at hbd; subst hbd
            simp only
            have hlt := Nat.mod_lt b.natAbs hmspos
            refine ⟨?_, natLimbs_length_le _ _ (lt_trans hlt s2), (Nat.mod_modEq _ _).of_dvd hMdvd, ?_⟩
            · have := val_lt _ (Limbs_natLimbs (b.natAbs % ms))
              rwa [val_natLimbs_eq] at this
            · intro h; exact (natLimbs_length_eq_zero _).mp h
          · rw [if_neg hgt] at hbd; subst hbd
            simp only
            refine ⟨?_, by omega, Nat.ModEq.refl _, fun h => (natLimbs_length_eq_zero _).mp h⟩
            have := val_lt _ (Limbs_natLimbs b.natAbs)
            rwa [val_natLimbs_eq] at this
        generalize hbe : (if (natLimbs b.natAbs).length > mn then (b.natAbs % ms, (natLimbs (b.natAbs % ms)).length)
                  else (b.natAbs, (natLimbs b.natAbs).length)) = bb
        obtain ⟨b1, b2, b3, b4⟩ := hbb bb hbe.symm
        have helpos : 0 < el := Nat.pos_of_ne_zero he0
        by_cases hbn0 : bb.2 = 0
        · simp only [hbn0, if_true, Res.value?, Res.wf, List.take_nil, val_nil]
          refine ⟨?_, by simp⟩
          -- |b| ≡ 0 (mod |m|), hence b^el ≡ 0
          have hz : b.natAbs ≡ 0 [MOD m.natAbs] := by rw [← b4 hbn0]; exact b3.symm
          have hd : (m.natAbs : Int) ∣ b := by
            have := (Nat.modEq_zero_iff_dvd).mp hz
            exact Int.natCast_dvd.mpr this
          have : (m.natAbs : Int) ∣ b ^ el := dvd_pow hd he0
          rw [Int.emod_eq_zero_of_dvd this]; rfl
        · simp only [hbn0, if_false]
          obtain ⟨x1, x2, x3, x4⟩ := puiX_spec m.natAbs ms mn zc bb.1 bb.2 el hmsM s1 s2 s6 s3 s4
            b1 b2 helpos
          generalize puiX ms mn zc bb.1 bb.2 el = q at *
          have hMlt : m.natAbs < B ^ mn := lt_of_le_of_lt s5 s2
          have hxv : val (toLimbs mn q.1) = q.1 := val_toLimbs_lt _ _ (lt_trans x1 hMlt)
          have hnf := negfix_k (decide (el % 2 = 1) && decide (b < 0)) (toLimbs mn q.1) (natLimbs m.natAbs) q.2
            (Limbs_toLimbs _ _) (toLimbs_length _ _) (by rw [hxv]; exact x2) (Limbs_natLimbs _)
            (by rw [hxv, val_natLimbs_eq]; exact x1)
          simp only at hnf
          obtain ⟨hw, hv⟩ := hnf
          refine ⟨?_, hw⟩
          unfold Res.value?
          simp only [Option.some.injEq]
          rw [hv, hxv, val_natLimbs_eq]
          -- q.1 ≡ |b|^el (mod |m|)
          have hq : (q.1 : Int) ≡ (b.natAbs : Int) ^ el [ZMOD (m.natAbs : Int)] := by
            have : q.1 ≡ b.natAbs ^ el [MOD m.natAbs] := x4.trans (b3.pow el)
            have := Int.natCast_modEq_iff.mpr this
            simpa only [Nat.cast_pow] using this
          by_cases hneg : b < 0
          · have hb : b = -(b.natAbs : Int) := by omega
            simp only [hneg, decide_true, Bool.and_true, decide_eq_true_eq]
            rw [hb]
            exact neg_pow_modEq _ _ _ _ hq
          · have hb : b = (b.natAbs : Int) := by omega
            simp only [hneg, decide_false, Bool.and_false, Bool.false_eq_true, if_false]
            rw [hb]; exact hq



/-! ### the inverse of the specification (`modInv?`) -/

theorem xgcdAux_spec (a : Int) (m : Nat) : ∀ (r : Nat) (s : Int) (r' : Nat) (s' : Int),
    (r : Int) ≡ s * a [ZMOD (m : Int)] → (r' : Int) ≡ s' * a [ZMOD (m : Int)] →
    ((xgcdAux r s r' s').1 : Int) ≡ (xgcdAux r s r' s').2 * a [ZMOD (m : Int)] ∧
    (xgcdAux r s r' s').1 = Nat.gcd r r' := by
  intro r
  induction r using Nat.strong_induction_on with
  | _ r ih =>
    intro s r' s' h1 h2
    cases r with
    | zero =>
      rw [xgcdAux.eq_def]
      simp only [Nat.gcd_zero_left]
      exact ⟨h2, trivial⟩
    | succ k =>
      rw [xgcdAux.eq_def]
      simp only
      have hlt : r' % (k + 1) < k + 1 := Nat.mod_lt _ (Nat.succ_pos _)
      have h3 : ((r' % (k + 1) : Nat) : Int) ≡ (s' - ((r' / (k + 1) : Nat) : Int) * s) * a [ZMOD (m : Int)] := by
        have e : ((r' % (k + 1) : Nat) : Int) = (r' : Int) - ((r' / (k + 1) : Nat) : Int) * ((k + 1 : Nat) : Int) := by
          have := Nat.div_add_mod r' (k + 1)
          have h' : ((r' : Nat) : Int) = ((k + 1 : Nat) : Int) * ((r' / (k + 1) : Nat) : Int) + ((r' % (k + 1) : Nat) : Int) := by
            exact_mod_cast this.symm
          rw [h']; ring
        rw [e]
        have : (s' - ((r' / (k + 1) : Nat) : Int) * s) * a = s' * a - ((r' / (k + 1) : Nat) : Int) * (s * a) := by ring
        rw [this]
        exact h2.sub (h1.mul_left _)
      obtain ⟨i1, i2⟩ := ih (r' % (k + 1)) hlt _ (k + 1) s h3 h1
      refine ⟨i1, ?_⟩
      rw [i2, Nat.gcd_rec (k + 1) r']

theorem modInv_eq (a : Int) (m : Nat) :
    modInv? a m = if (xgcdAux (a % (m : Int)).toNat 1 m 0).1 = 1
      then some ((xgcdAux (a % (m : Int)).toNat 1 m 0).2 % (m : Int)).toNat else none := rfl

theorem modInv_xgcd (a : Int) (m : Nat) (hm : 0 < m) :
    ((xgcdAux (a % (m : Int)).toNat 1 m 0).1 : Int) ≡ (xgcdAux (a % (m : Int)).toNat 1 m 0).2 * a [ZMOD (m : Int)] ∧
    (xgcdAux (a % (m : Int)).toNat 1 m 0).1 = Nat.gcd (a % (m : Int)).toNat m := by
  have hmi : (0 : Int) < m := by exact_mod_cast hm
  have h1 : (((a % (m : Int)).toNat : Nat) : Int) ≡ 1 * a [ZMOD (m : Int)] := by
    rw [Int.toNat_of_nonneg (Int.emod_nonneg _ (ne_of_gt hmi)), one_mul]
    exact Int.mod_modEq _ _
  have h2 : ((m : Nat) : Int) ≡ 0 * a [ZMOD (m : Int)] := by
    rw [zero_mul]; exact Int.modEq_zero_iff_dvd.mpr (dvd_refl _)
  exact xgcdAux_spec a m _ 1 m 0 h1 h2

theorem modInv_sound (a : Int) (m : Nat) (hm : 0 < m) (x : Nat) (h : modInv? a m = some x) :
    x < m ∧ (a * x) % (m : Int) = 1 % (m : Int) := by
  rw [modInv_eq] at h
  have hmi : (0 : Int) < m := by exact_mod_cast hm
  obtain ⟨s1, _⟩ := modInv_xgcd a m hm
  generalize xgcdAux (a % (m : Int)).toNat 1 m 0 = res at *
  obtain ⟨g, s⟩ := res
  simp only at h s1
  by_cases hg : g = 1
  · simp only [hg, if_true, Option.some.injEq] at h
    subst h
    have hnn : 0 ≤ s % (m : Int) := Int.emod_nonneg _ (ne_of_gt hmi)
    have hlt : s % (m : Int) < m := Int.emod_lt_of_pos _ hmi
    refine ⟨by omega, ?_⟩
    rw [Int.toNat_of_nonneg hnn]
    have h3 : a * (s % (m : Int)) ≡ a * s [ZMOD (m : Int)] := (Int.mod_modEq _ _).mul_left _
    rw [hg] at s1
    rw [mul_comm a s] at h3
    exact h3.trans (by exact_mod_cast s1.symm)
  · simp [hg] at h

theorem modInv_none (a : Int) (m : Nat) (hm : 0 < m) (h : modInv? a m = none) : Int.gcd a m ≠ 1 := by
  rw [modInv_eq] at h
  have hmi : (0 : Int) < m := by exact_mod_cast hm
  obtain ⟨_, s2⟩ := modInv_xgcd a m hm
  generalize xgcdAux (a % (m : Int)).toNat 1 m 0 = res at *
  obtain ⟨g, s⟩ := res
  simp only at h s2
  by_cases hg : g = 1
  · simp [hg] at h
  · intro hgcd
    apply hg
    rw [s2]
    -- gcd ((a % m).toNat) m = gcd a m
    have hnn : 0 ≤ a % (m : Int) := Int.emod_nonneg _ (ne_of_gt hmi)
    rw [← hgcd, ← Int.gcd_emod a m]
    conv_rhs => rw [← Int.toNat_of_nonneg hnn]
    exact (Int.gcd_natCast_natCast _ _).symm



/-! ### mpn_pow_1 (pow_1.c) -/

def Sz (v k : Nat) : Prop := B ^ (k - 1) ≤ v ∧ v < B ^ k ∧ 1 ≤ k

theorem Sz_iff {v k : Nat} : Sz v k ↔ v ≠ 0 ∧ (natLimbs v).length = k := by
  constructor
  · rintro ⟨h1, h2, h3⟩
    exact ⟨fun h => by subst h; exact absurd h1 (Nat.not_le.mpr (Bpow_pos _)), natLimbs_isSize.eq_of_bounds h3 h1 h2⟩
  · rintro ⟨h0, rfl⟩
    exact ⟨natLimbs_isSize.pow_le h0, natLimbs_isSize.lt_pow v, natLimbs_isSize.pos h0⟩

/-- `tn = k; tn -= (tp[k-1] == 0)` is the limb count -/
theorem dropTop_eq {v k : Nat} (hk : 1 ≤ k) (hlt : v < B ^ k) (hge : 2 ≤ k → B ^ (k - 2) ≤ v) :
    dropTop v k = (natLimbs v).length := (natLimbs_isSize.eq_sub_top hk hlt hge).symm

theorem Sz_dropTop (v k : Nat) (h1 : B ^ (k - 2) ≤ v) (h2 : v < B ^ k) (hk : 2 ≤ k) : Sz v (dropTop v k) :=
  Sz_iff.mpr ⟨fun h => by subst h; exact absurd h1 (Nat.not_le.mpr (Bpow_pos _)),
    (dropTop_eq (by omega) h2 fun _ => h1).symm⟩

theorem Sz_sqr (x xn : Nat) (hx : Sz x xn) : Sz (x * x) (dropTop (x * x) (2 * xn)) := by
  obtain ⟨m1, m2⟩ := mul_size_bounds hx.2.2 hx.2.2 hx.1 hx.2.1 hx.1 hx.2.1
  rw [← two_mul] at m1 m2
  exact Sz_dropTop _ _ m1 m2 (by have := hx.2.2; omega)

theorem pow1Loop_spec (b bn : Nat) (hb : Sz b bn) :
    ∀ (bits : List Bool) (r rn h : Nat), bits ≠ [] → r = b ^ (2 * h) → Sz r rn →
      (pow1Loop b bn bits r rn).1 = b ^ (bits.foldl (fun a bit => 2 * a + (if bit then 1 else 0)) h) ∧
      Sz (pow1Loop b bn bits r rn).1 (pow1Loop b bn bits r rn).2
  | [], _, _, _, hne, _, _ => absurd rfl hne
  | bit :: rest, r, rn, h, _, hr, hs => by
    have hstep : ∀ p : Nat × Nat,
        p = (if bit = true then
              (if bn = 1 then (r * b, rn + (if (r * b / B ^ rn != 0) = true then 1 else 0))
               else (r * b, rn + bn - (if r * b / B ^ (rn + bn - 1) = 0 then 1 else 0)))
             else (r, rn)) →
        p.1 = b ^ (2 * h + (if bit then 1 else 0)) ∧ Sz p.1 p.2 := by
      intro p hp
      cases bit with
      | false =>
        simp only [Bool.false_eq_true, if_false] at hp; subst hp
        exact ⟨by simpa using hr, hs⟩
      | true =>
        simp only [if_true] at hp
        obtain ⟨m1, m2⟩ := mul_size_bounds hs.2.2 hb.2.2 hs.1 hs.2.1 hb.1 hb.2.1
        have hv : r * b = b ^ (2 * h + 1) := by rw [hr, pow_succ]
        obtain ⟨_, _, hrn⟩ := hs
        obtain ⟨_, _, hbn⟩ := hb
        by_cases h1 : bn = 1
        · rw [if_pos h1] at hp; subst hp; subst h1
          refine ⟨hv, ?_⟩
          simp only
          by_cases hc : r * b / B ^ rn = 0
          · have : (r * b / B ^ rn != 0) = false := by simp [hc]
            simp only [this, Bool.false_eq_true, if_false, Nat.add_zero]
            have hlt := (Nat.div_eq_zero_iff_lt (Nat.pow_pos B_pos)).mp hc
            have e : rn + 1 - 2 = rn - 1 := by omega
            rw [e] at m1
            exact ⟨m1, hlt, hrn⟩
          · have : (r * b / B ^ rn != 0) = true := by simpa using hc
            simp only [this, if_true]
            have hge : B ^ rn ≤ r * b := by
              by_contra hlt
              exact hc ((Nat.div_eq_zero_iff_lt (Nat.pow_pos B_pos)).mpr (by omega))
            exact ⟨by simpa using hge, m2, by omega⟩
        · rw [if_neg h1] at hp; subst hp
          exact ⟨hv, Sz_dropTop _ _ m1 m2 (by omega)⟩
    rw [pow1Loop]
    simp only [List.foldl_cons]
    generalize hpe : (if bit = true then
              (if bn = 1 then (r * b, rn + (if (r * b / B ^ rn != 0) = true then 1 else 0))
               else (r * b, rn + bn - (if r * b / B ^ (rn + bn - 1) = 0 then 1 else 0)))
             else (r, rn)) = p
    obtain ⟨p1, p2⟩ := hstep p hpe.symm
    obtain ⟨x, xn⟩ := p
    simp only at p1 p2 ⊢
    cases rest with
    | nil => simpa using ⟨p1, p2⟩
    | cons c cs =>
      simp only
      have hsq : Sz (x * x) (dropTop (x * x) (2 * xn)) := Sz_sqr x xn p2
      have hx2 : x * x = b ^ (2 * (2 * h + (if bit then 1 else 0))) := by
        rw [p1, ← pow_add]; congr 1; omega
      exact pow1Loop_spec b bn hb (c :: cs) (x * x) _ _ (by simp) hx2 hsq

theorem mpn_pow_1_spec (bp : List Nat) (exp : Nat) (hb : Norm bp) (hne : bp ≠ []) :
    val (mpn_pow_1 bp exp) = val bp ^ exp ∧ Limbs (mpn_pow_1 bp exp) ∧
    B ^ ((mpn_pow_1 bp exp).length - 1) ≤ val (mpn_pow_1 bp exp) := by
  unfold mpn_pow_1
  by_cases h0 : exp = 0
  · subst h0; simp [Limbs_cons, Limbs_nil, B_eq]
  · simp only [h0, if_false]
    by_cases h1 : exp = 1
    · subst h1; simp only [if_true, pow_one]
      exact ⟨trivial, hb.1, Norm_ge bp hb hne⟩
    · simp only [h1, if_false]
      have hbs : Sz (val bp) bp.length := ⟨Norm_ge bp hb hne, val_lt bp hb.1, List.length_pos_of_ne_nil hne⟩
      have hsq : Sz (val bp * val bp) (dropTop (val bp * val bp) (2 * bp.length)) := Sz_sqr _ _ hbs
      have hne' : lowerBits exp ≠ [] := lowerBits_ne_nil exp (by omega)
      obtain ⟨l1, l2⟩ := pow1Loop_spec (val bp) bp.length hbs (lowerBits exp) (val bp * val bp) _ 1 hne'
        (by rw [← pow_two]) hsq
      rw [lowerBits_spec exp h0] at l1
      generalize pow1Loop (val bp) bp.length (lowerBits exp) (val bp * val bp) (dropTop (val bp * val bp) (2 * bp.length)) = p at *
      obtain ⟨s1, s2, s3⟩ := l2
      rw [val_toLimbs_lt _ _ s2, toLimbs_length]
      exact ⟨l1, Limbs_toLimbs _ _, s1⟩


end Mpir.Powm
