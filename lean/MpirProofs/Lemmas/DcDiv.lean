/-
  mpn_dc_div_qr_n / mpn_dc_div_qr / mpn_dc_div_q (value-level model Mpir/Model/DcDiv.lean).
  The correction loop keeps  W + cy·B^n = (qh·B^k + q)·D + r  and leaves after ⌊Wt/Dt⌋ - ⌊W/D⌋ add-backs; that number
  is ≤ 4, and ≤ 2 when the quotient block has no high limb.  On this rest the multiply-subtract-correct block,
  mpn_dc_div_qr_n (induction on the recursion fuel), mpn_dc_div_qr (first block, main loop) and mpn_dc_div_q.
-/
import MpirProofs.Lemmas.SbDiv
import Mpir.Model.DcDiv
namespace Mpir.DcDiv
open Mpir

theorem subN_spec (k a b : Nat) (ha : a < B ^ k) (hb : b ≤ B ^ k) :
    (subN k a b).1 + b = a + (subN k a b).2 * B ^ k ∧ (subN k a b).1 < B ^ k ∧ (subN k a b).2 ≤ 1 := by
  unfold subN
  generalize B ^ k = P at *
  split <;> simp <;> omega

theorem addN_spec (k a b : Nat) (ha : a < B ^ k) (hb : b ≤ B ^ k) :
    (addN k a b).1 + (addN k a b).2 * B ^ k = a + b ∧ (addN k a b).1 < B ^ k ∧ (addN k a b).2 ≤ 1 := by
  unfold addN
  generalize B ^ k = P at *
  split <;> simp <;> omega

/-- a borrow or carry c ≤ a taken from the limb variable a (`cy -= …`, `qh -= …` on mp_limb_t) -/
theorem limb_sub {a c : Nat} (hc : c ≤ a) (ha : a < B) : (a + B - c) % B = a - c := by
  rw [show a + B - c = a - c + B by omega, Nat.add_mod_right, Nat.mod_eq_of_lt (by omega)]

/-- `qh -= mpn_sub_1 (qp, qp, k, 1)` on a quotient qh·B^k + q ≥ 1 -/
theorem dec_repr (k q qh : Nat) (hq : q < B ^ k) (hqh : qh ≤ 1) (h1 : 1 ≤ qh * B ^ k + q) :
    ((qh + B - (subN k q 1).2) % B) * B ^ k + (subN k q 1).1 + 1 = qh * B ^ k + q ∧
      (subN k q 1).1 < B ^ k ∧ (qh + B - (subN k q 1).2) % B ≤ 1 := by
  have hB : 1 < B := by rw [B_eq]; omega
  have hP := Bpow_pos k
  unfold subN
  generalize B ^ k = P at *
  by_cases h0 : q < 1
  · have hq0 : q = 0 := by omega
    subst hq0
    have hqh1 : qh = 1 := by
      rcases Nat.eq_zero_or_pos qh with h | h
      · subst h; omega
      · omega
    subst hqh1
    rw [if_pos h0]
    simp only []
    rw [limb_sub (le_refl 1) hB]; omega
  · rw [if_neg h0]
    simp only []
    rw [Nat.sub_zero, Nat.add_mod_right, Nat.mod_eq_of_lt (by omega)]; omega

theorem qh_zero_of_lt {k W D q qh r : Nat} (hid : W = (qh * B ^ k + q) * D + r) (hlt : W < D * B ^ k) : qh = 0 := by
  rcases Nat.eq_zero_or_pos qh with h | h
  · exact h
  · have h1 : B ^ k * D ≤ qh * B ^ k * D := Nat.mul_le_mul_right _ (Nat.le_mul_of_pos_left _ h)
    have h2 : (qh * B ^ k + q) * D = qh * B ^ k * D + q * D := Nat.add_mul ..
    have h3 : D * B ^ k = B ^ k * D := Nat.mul_comm ..
    omega

/-- invariant of `while (cy != 0)`: the true partial remainder is r - cy·B^n, it is below D, and
    W = (qh·B^k + q)·D + (r - cy·B^n) -/
def Inv (k n D W : Nat) (s : Corr) : Prop :=
  s.q < B ^ k ∧ s.qh ≤ 1 ∧ s.r < B ^ n ∧ s.cy ≤ 2 ∧
    W + s.cy * B ^ n = (s.qh * B ^ k + s.q) * D + s.r ∧ s.r < D + s.cy * B ^ n

theorem corrLoop_spec (k n D W : Nat) (hD0 : 0 < D) (hDn : D < B ^ n) :
    ∀ (fuel : Nat) (s : Corr), Inv k n D W s → (s.qh * B ^ k + s.q) - W / D < fuel →
      (corrLoop k n D fuel s).cy = 0 ∧ Inv k n D W (corrLoop k n D fuel s) ∧
        (corrLoop k n D fuel s).adds = s.adds + ((s.qh * B ^ k + s.q) - W / D) := by
  intro fuel
  generalize ht : W / D = t
  induction fuel with
  | zero => intro s _ h; omega
  | succ fuel ih =>
    intro s hI hf
    obtain ⟨hq, hqh, hr, hcy, hW, hlt⟩ := hI
    unfold corrLoop
    by_cases hc0 : s.cy = 0
    · rw [if_pos hc0]
      refine ⟨hc0, ⟨hq, hqh, hr, hcy, hW, hlt⟩, ?_⟩
      rw [hc0, Nat.zero_mul, Nat.add_zero] at hW hlt
      have := (Mpir.DivWord.divmod_of_eq W D _ _ hW hlt).1
      omega
    · rw [if_neg hc0]
      simp only []
      -- the quotient is still too large: decrement it, add D back; the carry of the addition comes off `cy`
      have hPn : B ^ n ≤ s.cy * B ^ n := Nat.le_mul_of_pos_left _ (by omega)
      have hQt : t < s.qh * B ^ k + s.q := by
        rw [← ht]; exact (Nat.div_lt_iff_lt_mul hD0).mpr (by omega)
      obtain ⟨e1, e2, e3⟩ := dec_repr k s.q s.qh hq hqh (by omega)
      obtain ⟨a1, a2, a3⟩ := addN_spec n s.r D hr hDn.le
      have hle : (addN n s.r D).2 ≤ s.cy := by omega
      have hcy' : (s.cy + B - (addN n s.r D).2) % B = s.cy - (addN n s.r D).2 :=
        limb_sub hle (by rw [B_eq]; omega)
      generalize (addN n s.r D).1 = r' at *
      generalize (addN n s.r D).2 = c at *
      generalize (subN k s.q 1).1 = q' at *
      generalize (s.qh + B - (subN k s.q 1).2) % B = qh' at *
      have hsub : (s.cy - c) * B ^ n + c * B ^ n = s.cy * B ^ n := by
        rw [← Nat.add_mul, Nat.sub_add_cancel hle]
      have hmul : (s.qh * B ^ k + s.q) * D = (qh' * B ^ k + q') * D + D := by
        rw [← e1, Nat.succ_mul]
      have hI' : Inv k n D W { q := q', qh := qh', r := r', cy := (s.cy + B - c) % B, adds := s.adds + 1 } := by
        refine ⟨e2, e3, a2, ?_, ?_, ?_⟩
        · show (s.cy + B - c) % B ≤ 2
          rw [hcy']; omega
        · show W + (s.cy + B - c) % B * B ^ n = (qh' * B ^ k + q') * D + r'
          rw [hcy']; omega
        · show r' < D + (s.cy + B - c) % B * B ^ n
          rw [hcy']; omega
      obtain ⟨r1, r2, r3⟩ := ih _ hI' (by show (qh' * B ^ k + q') - t < fuel; clear * - e1 hf hQt; omega)
      refine ⟨r1, r2, ?_⟩
      rw [r3]
      show s.adds + 1 + ((qh' * B ^ k + q') - t) = s.adds + ((s.qh * B ^ k + s.q) - t)
      clear * - e1 hQt
      omega

/-- the heart of the bound: if the estimated block quotient is t+1+i where t is the true one, then i·Dt < t+1
    (Dt: the divisor part the estimate used, Dl < Bm: the neglected part) -/
theorem adds_key (Bm Dt Dl D i t M0 W : Nat) (hD : D = Dt * Bm + Dl) (hDl : Dl < Bm)
    (hW : W + (t + 1 + i) * Dl = (t + 1 + i) * D + M0) (ht1 : W < (t + 1) * D) : i * Dt < t + 1 := by
  subst hD
  have h1 : i * (Dt * Bm) < (t + 1) * Dl := by linear_combination ht1 + hW.symm.le + Nat.zero_le M0
  have h2 : (t + 1) * Dl ≤ (t + 1) * Bm := Nat.mul_le_mul_left _ hDl.le
  have h3 : i * Dt * Bm < (t + 1) * Bm := by rw [Nat.mul_assoc]; omega
  exact Nat.lt_of_mul_lt_mul_right h3

theorem quot_lt_2K (K Bm Dt Dl D W t : Nat) (hD : D = Dt * Bm + Dl) (hnorm : K ≤ 2 * Dt)
    (hW : W < K * K * Bm) (ht : t * D ≤ W) (hK : 0 < K) : t < 2 * K := by
  subst hD
  by_contra hc
  have hc : 2 * K ≤ t := by omega
  have h1 : 2 * K * (Dt * Bm) ≤ t * (Dt * Bm + Dl) :=
    calc 2 * K * (Dt * Bm) ≤ t * (Dt * Bm) := Nat.mul_le_mul_right _ hc
      _ ≤ t * (Dt * Bm + Dl) := Nat.mul_le_mul_left _ (Nat.le_add_right _ _)
  have h2 : K * K * Bm ≤ 2 * K * (Dt * Bm) := by
    linear_combination (K * Bm) * hnorm
  omega

theorem adds_le (K Bm Dt Dl D Qe t M0 W : Nat) (hD : D = Dt * Bm + Dl) (hDl : Dl < Bm) (hnorm : K ≤ 2 * Dt)
    (hK : 0 < K) (hD0 : 0 < D) (hWlt : W < K * K * Bm) (hW : W + Qe * Dl = Qe * D + M0) (ht : t = W / D) :
    Qe - t ≤ 4 ∧ (W < D * K → Qe - t ≤ 2) := by
  have ht0 : t * D ≤ W := by rw [ht]; exact Nat.div_mul_le_self W D
  have ht1 : W < (t + 1) * D := by
    rw [ht, Nat.mul_comm]; exact Nat.lt_mul_div_succ W hD0
  have h2K := quot_lt_2K K Bm Dt Dl D W t hD hnorm hWlt ht0 hK
  have hDt : 0 < Dt := by omega
  by_cases hle : Qe ≤ t + 1
  · exact ⟨by omega, fun _ => by omega⟩
  · obtain ⟨i, hi⟩ : ∃ i, Qe = t + 1 + i := ⟨Qe - t - 1, by omega⟩
    subst hi
    have hk := adds_key Bm Dt Dl D i t M0 W hD hDl hW ht1
    constructor
    · have : i * Dt < 4 * Dt := by omega
      have := Nat.lt_of_mul_lt_mul_right this
      omega
    · intro hWK
      have htK : t < K := by
        have : t * D < K * D := by rw [Nat.mul_comm K D]; omega
        exact Nat.lt_of_mul_lt_mul_right this
      have : i * Dt < 2 * Dt := by omega
      have := Nat.lt_of_mul_lt_mul_right this
      omega

/-- the area and `cy` when the correction loop is entered -/
def pre (k m D Q qh R1 Wl : Nat) : Nat × Nat :=
  let s1 := subN (k + m) (Wl + B ^ m * R1) (Q * (D % B ^ m))
  if qh ≠ 0 then
    let t := subN m (s1.1 / B ^ k) (D % B ^ m)
    (s1.1 % B ^ k + B ^ k * t.1, s1.2 + t.2)
  else s1

theorem mulSubCorr_eq (k m D Q qh R1 Wl : Nat) :
    mulSubCorr k m D Q qh R1 Wl =
      (let c := corrLoop k (k + m) D loopFuel
        { q := Q, qh := qh, r := (pre k m D Q qh R1 Wl).1, cy := (pre k m D Q qh R1 Wl).2, adds := 0 }
       { q := c.q, qh := c.qh, r := c.r, adds := c.adds, ok := c.cy == 0 }) := rfl

theorem pre_spec (k m D Q qh R1 Wl : Nat) (hQ : Q < B ^ k) (hqh : qh ≤ 1)
    (hM0 : Wl + B ^ m * R1 < B ^ (k + m)) :
    (pre k m D Q qh R1 Wl).1 + (qh * B ^ k + Q) * (D % B ^ m) = Wl + B ^ m * R1 + (pre k m D Q qh R1 Wl).2 * B ^ (k + m) ∧
      (pre k m D Q qh R1 Wl).1 < B ^ (k + m) ∧ (pre k m D Q qh R1 Wl).2 ≤ 2 := by
  have hK := Bpow_pos k
  have hDl : D % B ^ m < B ^ m := Nat.mod_lt _ (Bpow_pos m)
  have htp : Q * (D % B ^ m) ≤ B ^ (k + m) := by
    rw [pow_add]; exact Nat.mul_le_mul hQ.le hDl.le
  obtain ⟨a1, a2, a3⟩ := subN_spec (k + m) _ _ hM0 htp
  unfold pre
  simp only []
  generalize subN (k + m) (Wl + B ^ m * R1) (Q * (D % B ^ m)) = s1 at *
  by_cases h0 : qh = 0
  · subst h0
    rw [if_neg (by simp)]
    simp only [Nat.zero_mul, Nat.zero_add]
    exact ⟨a1, a2, by omega⟩
  · have h1 : qh = 1 := by omega
    subst h1
    rw [if_pos (by simp)]
    simp only []
    have hdiv : s1.1 / B ^ k < B ^ m := by
      rw [Nat.div_lt_iff_lt_mul hK, Nat.mul_comm, ← pow_add]; exact a2
    obtain ⟨b1, b2, b3⟩ := subN_spec m _ _ hdiv hDl.le
    rw [pow_add] at a1 ⊢
    refine ⟨?_, add_mul_lt (Nat.mod_lt _ hK) b2, by omega⟩
    -- the two subtractions: Q·Dl from the whole area, Dl from its top m limbs
    linear_combination a1 + B ^ k * b1 + Nat.mod_add_div s1.1 (B ^ k)

/-- The block after a 2k/k division.  Hypotheses: what the division left — (qh·B^k + Q)·Dt + R1 is the divided window
    Wt < B^(2k) with Dt = D / B^m the normalised k-limb top of D, R1 < Dt.  W is the whole window (Wt and the m limbs
    below it).  The block ends with the exact quotient and remainder of W by D after ⌊Wt/Dt⌋ - ⌊W/D⌋ add-backs. -/
theorem mulSubCorr_spec (k m D Q qh R1 Wl W : Nat)
    (hDn : D < B ^ (k + m)) (hnorm : B ^ k ≤ 2 * (D / B ^ m))
    (hQ : Q < B ^ k) (hqh : qh ≤ 1) (hR1 : R1 < D / B ^ m) (hWl : Wl < B ^ m)
    (hWt : (qh * B ^ k + Q) * (D / B ^ m) + R1 < B ^ k * B ^ k)
    (hW : ((qh * B ^ k + Q) * (D / B ^ m) + R1) * B ^ m + Wl = W) (b : Blk) (hb : b = mulSubCorr k m D Q qh R1 Wl) :
    b.ok = true ∧ W = (b.qh * B ^ k + b.q) * D + b.r ∧ b.r < D ∧ b.q < B ^ k ∧ b.qh ≤ 1 ∧
      b.adds = (qh * B ^ k + Q) - W / D ∧ b.adds ≤ 4 ∧ (W < D * B ^ k → b.adds ≤ 2 ∧ b.qh = 0) := by
  subst hb
  have hK := Bpow_pos k
  have hBm := Bpow_pos m
  have hDl : D % B ^ m < B ^ m := Nat.mod_lt _ hBm
  have hDsplit : D = D / B ^ m * B ^ m + D % B ^ m := (Nat.div_add_mod' D (B ^ m)).symm
  have hpre := pre_spec k m D Q qh R1 Wl hQ hqh
  rw [mulSubCorr_eq]
  simp only []
  generalize D / B ^ m = Dt at *
  generalize D % B ^ m = Dl at *
  have hD0 : 0 < D := by
    have : 0 < Dt * B ^ m := Nat.mul_pos (by omega) hBm
    omega
  -- the area np … np+n before the subtraction is below D
  have hM0D : Wl + B ^ m * R1 < D := by
    rw [hDsplit, Nat.mul_comm Dt]; exact Nat.lt_of_lt_of_le (add_mul_lt hWl hR1) (Nat.le_add_right _ _)
  obtain ⟨p1, p2, p3⟩ := hpre (by omega)
  have hWeq : W + (qh * B ^ k + Q) * Dl = (qh * B ^ k + Q) * D + (Wl + B ^ m * R1) := by
    linear_combination hW.symm + (qh * B ^ k + Q) * hDsplit.symm
  have hI : Inv k (k + m) D W { q := Q, qh := qh, r := (pre k m D Q qh R1 Wl).1, cy := (pre k m D Q qh R1 Wl).2, adds := 0 } := by
    refine ⟨hQ, hqh, p2, p3, ?_, ?_⟩
    · show W + (pre k m D Q qh R1 Wl).2 * B ^ (k + m) = (qh * B ^ k + Q) * D + (pre k m D Q qh R1 Wl).1
      omega
    · show (pre k m D Q qh R1 Wl).1 < D + (pre k m D Q qh R1 Wl).2 * B ^ (k + m)
      omega
  have hWlt : W < B ^ k * B ^ k * B ^ m := by
    rw [← hW, Nat.mul_comm _ (B ^ m), Nat.add_comm, Nat.mul_comm _ (B ^ m)]; exact add_mul_lt hWl hWt
  obtain ⟨hb4, hb2⟩ := adds_le (B ^ k) (B ^ m) Dt Dl D (qh * B ^ k + Q) (W / D) (Wl + B ^ m * R1) W
    hDsplit hDl hnorm hK hD0 hWlt hWeq rfl
  obtain ⟨c1, ⟨i1, i2, i3, i4, i5, i6⟩, c3⟩ :=
    corrLoop_spec k (k + m) D W hD0 hDn loopFuel _ hI (by show _ < 6; simp only []; omega)
  simp only [] at c3
  generalize corrLoop k (k + m) D loopFuel { q := Q, qh := qh, r := (pre k m D Q qh R1 Wl).1, cy := (pre k m D Q qh R1 Wl).2, adds := 0 } = c at *
  rw [c1, Nat.zero_mul, Nat.add_zero] at i5 i6
  exact ⟨by simp [c1], i5, i6, i1, i2, by omega, by omega,
    fun hWK => ⟨by have := hb2 hWK; omega, qh_zero_of_lt i5 hWK⟩⟩

/-- what every division routine of the model returns on its domain: exact quotient (with high limb ≤ 1) and remainder,
    all callees inside their domains, no correction loop with more than 4 add-backs -/
def Good (k Nw Dw : Nat) (r : Res) : Prop :=
  r.ok = true ∧ Nw = (r.qh * B ^ k + r.q) * Dw + r.r ∧ r.r < Dw ∧ r.q < B ^ k ∧ r.qh ≤ 1 ∧ r.mx ≤ 4

theorem two_pow (k : Nat) : B ^ (2 * k) = B ^ k * B ^ k := by rw [two_mul, pow_add]

theorem quotrem_spec (k Nw Dw : Nat) (hnorm : B ^ k ≤ 2 * Dw) (hNw : Nw < B ^ k * B ^ k) :
    Nw = (Nw / Dw / B ^ k * B ^ k + Nw / Dw % B ^ k) * Dw + Nw % Dw ∧ Nw % Dw < Dw ∧ Nw / Dw % B ^ k < B ^ k ∧
      Nw / Dw / B ^ k ≤ 1 := by
  have hK := Bpow_pos k
  have hD0 : 0 < Dw := by omega
  have h2 : Nw / Dw < 2 * B ^ k := by
    rw [Nat.div_lt_iff_lt_mul hD0]
    have : B ^ k * B ^ k ≤ 2 * B ^ k * Dw := by linear_combination B ^ k * hnorm
    omega
  refine ⟨?_, Nat.mod_lt _ hD0, Nat.mod_lt _ hK, ?_⟩
  · rw [Nat.div_add_mod' (Nw / Dw) (B ^ k), Nat.div_add_mod' Nw Dw]
  · have : Nw / Dw / B ^ k < 2 := by rw [Nat.div_lt_iff_lt_mul hK]; exact h2
    omega

theorem sbLeaf_spec (k Nw Dw : Nat) (hk : 2 < k) (hnorm : B ^ k ≤ 2 * Dw) (hDw : Dw < B ^ k)
    (hNw : Nw < B ^ k * B ^ k) : Good k Nw Dw (sbLeaf k Nw Dw) ∧ (sbLeaf k Nw Dw).ah = 0 ∧ (sbLeaf k Nw Dw).al = 0 := by
  obtain ⟨h1, h2, h3, h4⟩ := quotrem_spec k Nw Dw hnorm hNw
  refine ⟨⟨?_, h1, h2, h3, h4, by simp [sbLeaf]⟩, rfl, rfl⟩
  have : B ^ k / 2 ≤ Dw := by omega
  simp only [sbLeaf, two_pow, Bool.and_eq_true, decide_eq_true_eq]
  exact ⟨⟨⟨hk, this⟩, hDw⟩, hNw⟩

theorem divrem2Leaf_spec (Nw Dw : Nat) (hnorm : B ^ 2 ≤ 2 * Dw) (hDw : Dw < B ^ 2)
    (hNw : Nw < B ^ 2 * B ^ 2) : Good 2 Nw Dw (divrem2Leaf Nw Dw) := by
  obtain ⟨h1, h2, h3, h4⟩ := quotrem_spec 2 Nw Dw hnorm hNw
  refine ⟨?_, h1, h2, h3, h4, by simp [divrem2Leaf]⟩
  have : B ^ 2 / 2 ≤ Dw := by omega
  have e : B ^ 4 = B ^ 2 * B ^ 2 := by rw [← pow_add]
  simp only [divrem2Leaf, e, Bool.and_eq_true, decide_eq_true_eq]
  exact ⟨⟨this, hDw⟩, hNw⟩

theorem norm_top (k m D : Nat) {N : Nat} (hN : k + m = N) (hk : 1 ≤ k) (hnorm : B ^ N ≤ 2 * D) (hD : D < B ^ N) :
    B ^ k ≤ 2 * (D / B ^ m) ∧ D / B ^ m < B ^ k := by
  subst hN
  have hBm := Bpow_pos m
  constructor
  · obtain ⟨j, hj⟩ : ∃ j, k = j + 1 := ⟨k - 1, by omega⟩
    have he : B ^ k = 2 * (B ^ k / 2) := by
      rw [hj, pow_succ, B_eq]; omega
    rw [pow_add, he] at hnorm
    have : B ^ k / 2 * B ^ m ≤ D := by
      have : 2 * (B ^ k / 2) * B ^ m = 2 * (B ^ k / 2 * B ^ m) := Nat.mul_assoc ..
      omega
    have := (Nat.le_div_iff_mul_le hBm).mpr this
    omega
  · rw [Nat.div_lt_iff_lt_mul hBm, ← pow_add]; exact hD

theorem dcDivQrNF_succ (T fuel n N D : Nat) :
    dcDivQrNF T (fuel + 1) n N D =
      (let lo := n / 2
       let hi := n - lo
       let h := if hi < T then sbLeaf hi (N / B ^ (2 * lo)) (D / B ^ lo)
                else dcDivQrNF T fuel hi (N / B ^ (2 * lo)) (D / B ^ lo)
       let b1 := mulSubCorr hi lo D h.q h.qh h.r (N / B ^ lo % B ^ lo)
       let P := N % B ^ lo + B ^ lo * b1.r
       let l := if lo < T then sbLeaf lo (P / B ^ hi) (D / B ^ hi)
                else dcDivQrNF T fuel lo (P / B ^ hi) (D / B ^ hi)
       let b2 := mulSubCorr lo hi D l.q l.qh l.r (P % B ^ hi)
       { q := b2.q + B ^ lo * b1.q, r := b2.r, qh := b1.qh, ah := b1.adds, al := b2.adds,
         mx := max (max h.mx l.mx) (max b1.adds b2.adds), ok := h.ok && b1.ok && l.ok && b2.ok }) := rfl

theorem dcDivQrNF_spec (T : Nat) (hT : 6 ≤ T) : ∀ (fuel n N D : Nat), 6 ≤ n → n ≤ fuel →
    B ^ n ≤ 2 * D → D < B ^ n → N < B ^ n * B ^ n →
    Good n N D (dcDivQrNF T fuel n N D) ∧ (dcDivQrNF T fuel n N D).al ≤ 2 ∧ (dcDivQrNF T fuel n N D).ah ≤ 4 ∧
      (N < D * B ^ n → (dcDivQrNF T fuel n N D).ah ≤ 2 ∧ (dcDivQrNF T fuel n N D).qh = 0) := by
  intro fuel
  induction fuel with
  | zero => intro n N D h6 hle; omega
  | succ fuel ih =>
    intro n N D h6 hle hnorm hD hN
    rw [dcDivQrNF_succ]
    extract_lets lo hi h b1 P l b2
    have hlo : lo = n / 2 := rfl
    have hhi : hi = n - lo := rfl
    clear_value lo hi
    obtain rfl : n = hi + lo := by omega
    have hKh := Bpow_pos hi
    have hKl := Bpow_pos lo
    -- the high half: 2hi limbs by the hi top limbs of D
    obtain ⟨hnt, hdt⟩ := norm_top hi lo D rfl (by omega) hnorm hD
    have hNhi : N / B ^ (2 * lo) < B ^ hi * B ^ hi := by
      rw [Nat.div_lt_iff_lt_mul (Bpow_pos _), two_pow]
      have e : B ^ hi * B ^ hi * (B ^ lo * B ^ lo) = B ^ (hi + lo) * B ^ (hi + lo) := by rw [pow_add]; ring
      omega
    have Hh : Good hi (N / B ^ (2 * lo)) (D / B ^ lo) h := by
      simp only [h]
      split
      · exact (sbLeaf_spec hi _ _ (by omega) hnt hdt hNhi).1
      · exact (ih hi _ _ (by omega) (by omega) hnt hdt hNhi).1
    clear_value h
    obtain ⟨hok, hid, hr, hq, hqh, hmx⟩ := Hh
    have hwin : ((h.qh * B ^ hi + h.q) * (D / B ^ lo) + h.r) * B ^ lo + N / B ^ lo % B ^ lo = N / B ^ lo := by
      rw [← hid, two_pow, ← Nat.div_div_eq_div_mul]
      exact Nat.div_add_mod' _ _
    obtain ⟨b1ok, b1id, b1r, b1q, b1qh, b1a, b1a4, b1a2⟩ := mulSubCorr_spec hi lo D h.q h.qh h.r _ _ hD hnt hq hqh hr
      (Nat.mod_lt _ hKl) (by rw [← hid]; exact hNhi) hwin b1 rfl
    have hP : P = N % B ^ lo + B ^ lo * b1.r := rfl
    clear_value b1 P
    -- the partial remainder P = {np, n+lo} is below B^lo·D
    have hPlt : P < B ^ lo * D := by rw [hP]; exact add_mul_lt (Nat.mod_lt _ hKl) b1r
    have hNP : N = (b1.qh * B ^ hi + b1.q) * D * B ^ lo + P := by
      rw [hP]; linear_combination (Nat.div_add_mod' N (B ^ lo)).symm + B ^ lo * b1id
    -- the low half: 2lo limbs by the lo top limbs of D
    have hnorm' : B ^ (lo + hi) ≤ 2 * D := by rw [Nat.add_comm]; exact hnorm
    have hD' : D < B ^ (lo + hi) := by rw [Nat.add_comm]; exact hD
    obtain ⟨hnt2, hdt2⟩ := norm_top lo hi D rfl (by omega) hnorm' hD'
    have hNlo : P / B ^ hi < B ^ lo * B ^ lo := by
      rw [Nat.div_lt_iff_lt_mul hKh]
      have : B ^ lo * D < B ^ lo * B ^ (hi + lo) := Nat.mul_lt_mul_of_pos_left hD hKl
      have e : B ^ lo * B ^ (hi + lo) = B ^ lo * B ^ lo * B ^ hi := by rw [pow_add]; ring
      omega
    have Hl : Good lo (P / B ^ hi) (D / B ^ hi) l := by
      simp only [l]
      split
      · exact (sbLeaf_spec lo _ _ (by omega) hnt2 hdt2 hNlo).1
      · exact (ih lo _ _ (by omega) (by omega) hnt2 hdt2 hNlo).1
    clear_value l
    obtain ⟨lok, lid, lr, lq, lqh, lmx⟩ := Hl
    have hwin2 : ((l.qh * B ^ lo + l.q) * (D / B ^ hi) + l.r) * B ^ hi + P % B ^ hi = P := by
      rw [← lid]; exact Nat.div_add_mod' _ _
    obtain ⟨b2ok, b2id, b2r, b2q, b2qh, b2a, b2a4, b2a2⟩ := mulSubCorr_spec lo hi D l.q l.qh l.r _ _ hD' hnt2 lq lqh lr
      (Nat.mod_lt _ hKh) (by rw [← lid]; exact hNlo) hwin2 b2 rfl
    clear_value b2
    obtain ⟨b2a2', b2qh0⟩ := b2a2 (by rw [Nat.mul_comm]; exact hPlt)
    rw [b2qh0, Nat.zero_mul, Nat.zero_add] at b2id
    refine ⟨⟨by simp [hok, b1ok, lok, b2ok], ?_, b2r, ?_, b1qh, max_le (max_le hmx lmx) (max_le b1a4 (b2a2'.trans (by decide)))⟩, b2a2', b1a4, ?_⟩
    · show N = (b1.qh * B ^ (hi + lo) + (b2.q + B ^ lo * b1.q)) * D + b2.r
      rw [pow_add]; linear_combination hNP + b2id
    · show b2.q + B ^ lo * b1.q < B ^ (hi + lo)
      rw [pow_add, Nat.mul_comm (B ^ hi)]; exact add_mul_lt b2q b1q
    · intro hND
      apply b1a2
      rw [Nat.div_lt_iff_lt_mul hKl, Nat.mul_assoc, ← pow_add]; exact hND

theorem dcDivQrN_spec (T n N D : Nat) (hT : 6 ≤ T) (hn : 6 ≤ n) (hnorm : B ^ n ≤ 2 * D) (hD : D < B ^ n)
    (hN : N < B ^ n * B ^ n) :
    Good n N D (dcDivQrN T n N D) ∧ (dcDivQrN T n N D).al ≤ 2 ∧ (dcDivQrN T n N D).ah ≤ 4 ∧
      (N < D * B ^ n → (dcDivQrN T n N D).ah ≤ 2 ∧ (dcDivQrN T n N D).qh = 0) :=
  dcDivQrNF_spec T hT n n N D hn (Nat.le_refl _) hnorm hD hN

theorem reduceQn_spec (dn : Nat) (hdn : 1 ≤ dn) : ∀ (fuel qn j : Nat), dn < qn → qn ≤ fuel →
    1 ≤ (reduceQn dn fuel qn j).1 ∧ (reduceQn dn fuel qn j).1 ≤ dn ∧ j + 1 ≤ (reduceQn dn fuel qn j).2 ∧
      qn + j * dn = (reduceQn dn fuel qn j).1 + (reduceQn dn fuel qn j).2 * dn := by
  intro fuel
  induction fuel with
  | zero => intro qn j h1 h2; omega
  | succ fuel ih =>
    intro qn j h1 h2
    unfold reduceQn
    simp only []
    by_cases hc : qn - dn > dn
    · rw [if_pos hc]
      obtain ⟨a1, a2, a3, a4⟩ := ih (qn - dn) (j + 1) hc (by omega)
      refine ⟨a1, a2, by omega, ?_⟩
      rw [← a4, Nat.add_mul, Nat.one_mul]; omega
    · rw [if_neg hc]
      refine ⟨by simp only []; omega, by simp only []; omega, by simp only []; omega, ?_⟩
      simp only []
      rw [Nat.add_mul, Nat.one_mul]; omega

theorem oneStep_spec (dn W D : Nat) (hnorm : B ^ dn ≤ 2 * D) (hD : D < B ^ dn) (hW : W < B ^ dn * B) :
    Good 1 W D (oneStep W D) ∧ (oneStep W D).ah = 0 ∧ (oneStep W D).al = 0 := by
  have hB := B_pos
  have hD0 : 0 < D := by have := Bpow_pos dn; omega
  have hWB : W / B < B ^ dn := by rw [Nat.div_lt_iff_lt_mul hB]; exact hW
  -- after the conditional subtraction the dn top limbs are below D
  have key : ∀ W1 : Nat, W1 / B < D → W1 = (W1 / D) * D + W1 % D ∧ W1 % D < D ∧ W1 / D < B := by
    intro W1 h
    refine ⟨(Nat.div_add_mod' W1 D).symm, Nat.mod_lt _ hD0, ?_⟩
    rw [Nat.div_lt_iff_lt_mul hD0, Nat.mul_comm]
    exact (Nat.div_lt_iff_lt_mul hB).mp h
  unfold oneStep Good
  simp only [pow_one]
  by_cases hc : W / B ≥ D
  · rw [if_pos hc]
    simp only [if_pos (show (1 : Nat) ≠ 0 by decide)]
    have hBD : B * D ≤ W :=
      calc B * D ≤ B * (W / B) := Nat.mul_le_mul_left _ hc
        _ ≤ W := Nat.mul_div_le _ _
    have h1 : (W - B * D) / B < D := by
      rw [Nat.div_lt_iff_lt_mul hB]
      have : B ^ dn * B ≤ 2 * D * B := Nat.mul_le_mul_right _ hnorm
      have e : 2 * D * B = B * D + D * B := by ring
      omega
    obtain ⟨k1, k2, k3⟩ := key _ h1
    refine ⟨⟨by simp [k3], ?_, k2, k3, by omega, by omega⟩, trivial, trivial⟩
    have e : (1 * B + (W - B * D) / D) * D = B * D + (W - B * D) / D * D := by ring
    omega
  · rw [if_neg hc]
    simp only [if_neg (show ¬ (0 : Nat) ≠ 0 by decide)]
    obtain ⟨k1, k2, k3⟩ := key W (by omega)
    refine ⟨⟨by simp [k3], ?_, k2, k3, by omega, by omega⟩, trivial, trivial⟩
    rw [Nat.zero_mul, Nat.zero_add]; exact k1

/-- the first quotient block of mpn_dc_div_qr (not the qn == 1 sub-case): W = {np-dn, dn+qn} -/
theorem blockQR_spec (T : Nat) (hT : 6 ≤ T) (two : Bool) (qn dn W D : Nat) (hqd : qn ≤ dn)
    (hqn : 3 ≤ qn ∨ (two = true ∧ qn = 2)) (hnorm : B ^ dn ≤ 2 * D) (hD : D < B ^ dn) (hW : W < B ^ dn * B ^ qn) :
    Good qn W D (blockQR T two qn dn W D) ∧ (blockQR T two qn dn W D).al ≤ 2 ∧
      (W < D * B ^ qn → (blockQR T two qn dn W D).ah ≤ 2 ∧ (blockQR T two qn dn W D).qh = 0) := by
  unfold blockQR
  extract_lets m h b
  have hm : m = dn - qn := rfl
  clear_value m
  obtain rfl : dn = qn + m := by omega
  have hKq := Bpow_pos qn
  have hBm := Bpow_pos m
  obtain ⟨hnt, hdt⟩ := norm_top qn m D rfl (by omega) hnorm hD
  have hWt : W / B ^ m < B ^ qn * B ^ qn := by
    rw [Nat.div_lt_iff_lt_mul hBm]
    have e : B ^ (qn + m) * B ^ qn = B ^ qn * B ^ qn * B ^ m := by rw [pow_add]; ring
    omega
  have Hh : Good qn (W / B ^ m) (D / B ^ m) h ∧ h.al ≤ 2 ∧
      (W / B ^ m < D / B ^ m * B ^ qn → h.ah ≤ 2 ∧ h.qh = 0) := by
    simp only [h]
    by_cases h2 : (two && qn == 2) = true
    · rw [if_pos h2]
      obtain rfl : qn = 2 := by
        simp only [Bool.and_eq_true, beq_iff_eq] at h2; exact h2.2
      have G := divrem2Leaf_spec _ _ hnt hdt hWt
      exact ⟨G, by simp [divrem2Leaf], fun hlt => ⟨by simp [divrem2Leaf], qh_zero_of_lt G.2.1 hlt⟩⟩
    · rw [if_neg h2]
      have hq3 : 3 ≤ qn := by
        rcases hqn with h | ⟨ht, hq⟩
        · exact h
        · exfalso; apply h2; simp [ht, hq]
      by_cases hlt : qn < T
      · rw [if_pos hlt]
        obtain ⟨G, ga, gl⟩ := sbLeaf_spec qn _ _ (by omega) hnt hdt hWt
        exact ⟨G, by omega, fun hlt2 => ⟨by omega, qh_zero_of_lt G.2.1 hlt2⟩⟩
      · rw [if_neg hlt]
        obtain ⟨G, gl, _, g2⟩ := dcDivQrN_spec T qn _ _ hT (by omega) hnt hdt hWt
        exact ⟨G, gl, g2⟩
  clear_value h
  obtain ⟨⟨hok, hid, hr, hq, hqh, hmx⟩, hal, hah⟩ := Hh
  by_cases hm0 : m = 0
  · subst hm0
    rw [if_neg (by simp)]
    simp only [pow_zero, Nat.div_one, Nat.add_zero] at *
    exact ⟨⟨hok, hid, hr, hq, hqh, hmx⟩, hal, fun hlt => hah hlt⟩
  · rw [if_pos (by omega)]
    have hwin : ((h.qh * B ^ qn + h.q) * (D / B ^ m) + h.r) * B ^ m + W % B ^ m = W := by
      rw [← hid]; exact Nat.div_add_mod' _ _
    obtain ⟨bok, bid, br, bq, bqh, ba, ba4, ba2⟩ := mulSubCorr_spec qn m D h.q h.qh h.r _ _ hD hnt hq hqh hr
      (Nat.mod_lt _ hBm) (by rw [← hid]; exact hWt) hwin b rfl
    exact ⟨⟨by simp [hok, bok], bid, br, bq, bqh, by simp only []; omega⟩, by simp only []; omega, ba2⟩

theorem mainLoop_succ (T dn N D j : Nat) (acc : Res) :
    mainLoop T dn N D (j + 1) acc =
      (let r := dcDivQrN T dn (N / B ^ (j * dn) % B ^ dn + B ^ dn * acc.r) D
       mainLoop T dn N D j
        { q := r.q + B ^ dn * acc.q, r := r.r, qh := acc.qh, ah := acc.ah, al := max acc.al (max r.ah r.al),
          mx := max acc.mx r.mx, ok := acc.ok && r.ok && r.qh == 0 }) := rfl

/-- the main loop: `acc` is the exact division of the part of N above the j lowest dn-limb blocks -/
theorem mainLoop_spec (T dn N D : Nat) (hT : 6 ≤ T) (hdn : 6 ≤ dn) (hnorm : B ^ dn ≤ 2 * D) (hD : D < B ^ dn) :
    ∀ (j a : Nat) (acc : Res), Good a (N / B ^ (j * dn)) D acc → acc.al ≤ 2 →
      Good (a + j * dn) N D (mainLoop T dn N D j acc) ∧ (mainLoop T dn N D j acc).qh = acc.qh ∧
        (mainLoop T dn N D j acc).ah = acc.ah ∧ (mainLoop T dn N D j acc).al ≤ 2 := by
  intro j
  induction j with
  | zero =>
    intro a acc hG hal
    simp only [Nat.zero_mul, pow_zero, Nat.div_one, Nat.add_zero] at *
    exact ⟨hG, rfl, rfl, hal⟩
  | succ j ih =>
    intro a acc hG hal
    rw [mainLoop_succ]
    extract_lets r
    have hK := Bpow_pos dn
    obtain ⟨aok, aid, ar, aq, aqh, amx⟩ := hG
    have hsplit : N / B ^ (j * dn) = N / B ^ ((j + 1) * dn) * B ^ dn + N / B ^ (j * dn) % B ^ dn := by
      rw [Nat.add_mul, Nat.one_mul, pow_add, ← Nat.div_div_eq_div_mul]
      exact (Nat.div_add_mod' _ _).symm
    have hwin : N / B ^ (j * dn) % B ^ dn + B ^ dn * acc.r < B ^ dn * D := add_mul_lt (Nat.mod_lt _ hK) ar
    obtain ⟨G, gl, _, g2⟩ := dcDivQrN_spec T dn _ D hT hdn hnorm hD
      (Nat.lt_trans hwin (Nat.mul_lt_mul_of_pos_left hD hK))
    obtain ⟨gah, gqh⟩ := g2 (by rw [Nat.mul_comm D]; exact hwin)
    rw [show dcDivQrN T dn (N / B ^ (j * dn) % B ^ dn + B ^ dn * acc.r) D = r from rfl] at G gl gah gqh
    clear_value r
    obtain ⟨rok, rid, rr, rq, rqh, rmx⟩ := G
    rw [gqh, Nat.zero_mul, Nat.zero_add] at rid
    have hG' : Good (a + dn) (N / B ^ (j * dn)) D
        { q := r.q + B ^ dn * acc.q, r := r.r, qh := acc.qh, ah := acc.ah, al := max acc.al (max r.ah r.al),
          mx := max acc.mx r.mx, ok := acc.ok && r.ok && r.qh == 0 } := by
      refine ⟨by simp [aok, rok, gqh], ?_, rr, ?_, aqh, by simp only []; omega⟩
      · show N / B ^ (j * dn) = (acc.qh * B ^ (a + dn) + (r.q + B ^ dn * acc.q)) * D + r.r
        rw [hsplit, pow_add]; linear_combination B ^ dn * aid + rid
      · show r.q + B ^ dn * acc.q < B ^ (a + dn)
        rw [pow_add, Nat.mul_comm (B ^ a)]; exact add_mul_lt rq aq
    obtain ⟨i1, i2, i3, i4⟩ := ih (a + dn) _ hG' (by simp only []; omega)
    have ea : a + dn + j * dn = a + (j + 1) * dn := by rw [Nat.add_mul, Nat.one_mul]; omega
    rw [ea] at i1
    exact ⟨i1, i2, i3, i4⟩

theorem dcDivQr_spec (T nn dn N D : Nat) (hT : 6 ≤ T) (hdn : 6 ≤ dn) (hqn : dn + 3 ≤ nn)
    (hnorm : B ^ dn ≤ 2 * D) (hD : D < B ^ dn) (hN : N < B ^ nn) :
    Good (nn - dn) N D (dcDivQr T nn dn N D) ∧ (dcDivQr T nn dn N D).al ≤ 2 := by
  unfold dcDivQr
  simp only []
  by_cases hc : nn - dn > dn
  · rw [if_pos hc]
    obtain ⟨r1, r2, r3, r4⟩ := reduceQn_spec dn (by omega) (nn - dn) (nn - dn) 0 hc (Nat.le_refl _)
    generalize reduceQn dn (nn - dn) (nn - dn) 0 = rj at *
    obtain ⟨qn0, j⟩ := rj
    simp only [Nat.zero_mul, Nat.add_zero] at r1 r2 r3 r4 ⊢
    have hnn : nn = dn + qn0 + j * dn := by omega
    have hW : N / B ^ (j * dn) < B ^ dn * B ^ qn0 := by
      rw [Nat.div_lt_iff_lt_mul (Bpow_pos _), ← pow_add, ← pow_add, ← hnn]; exact hN
    have Hf : Good qn0 (N / B ^ (j * dn)) D
          (if qn0 = 1 then oneStep (N / B ^ (j * dn)) D else blockQR T true qn0 dn (N / B ^ (j * dn)) D) ∧
        (if qn0 = 1 then oneStep (N / B ^ (j * dn)) D else blockQR T true qn0 dn (N / B ^ (j * dn)) D).al ≤ 2 := by
      by_cases h1 : qn0 = 1
      · rw [if_pos h1]
        subst h1
        rw [pow_one] at hW
        obtain ⟨G, _, gl⟩ := oneStep_spec dn _ D hnorm hD hW
        exact ⟨G, by omega⟩
      · rw [if_neg h1]
        have hq : 3 ≤ qn0 ∨ (true = true ∧ qn0 = 2) := by
          rcases Nat.lt_or_ge qn0 3 with h | h
          · exact Or.inr ⟨rfl, by omega⟩
          · exact Or.inl h
        obtain ⟨G, gl, _⟩ := blockQR_spec T hT true qn0 dn _ D r2 hq hnorm hD hW
        exact ⟨G, gl⟩
    obtain ⟨i1, _, _, i4⟩ := mainLoop_spec T dn N D hT hdn hnorm hD j qn0 _ Hf.1 Hf.2
    have e : nn - dn = qn0 + j * dn := by omega
    rw [e]
    exact ⟨i1, i4⟩
  · rw [if_neg hc]
    have hW : N < B ^ dn * B ^ (nn - dn) := by
      rw [← pow_add, show dn + (nn - dn) = nn by omega]; exact hN
    obtain ⟨G, gl, _⟩ := blockQR_spec T hT false (nn - dn) dn N D (by omega) (Or.inl (by omega)) hnorm hD hW
    exact ⟨G, gl⟩

/-- X = X'·B + w0 is ⌊N·B/D⌋ or one more: what the high part X' can be -/
theorem approx_cases (X' w0 F : Nat) (hw : w0 < B) (h : X' * B + w0 = F ∨ X' * B + w0 = F + 1) :
    (w0 ≠ 0 → F / B = X') ∧ (w0 = 0 → F / B = X' ∨ F / B + 1 = X') := by
  have hB := B_eq
  generalize B = b at *
  subst hB
  omega

theorem floor_shift (N D : Nat) : N * B / D / B = N / D := by
  rw [Nat.div_div_eq_div_mul, Nat.mul_div_mul_right _ _ B_pos]

/-- mpn_dc_div_q given the callee's contract.  (A, ah) = what mpn_dc_divappr_q returned for N·B: ah ≤ 1 and
    ah·B^(qn+1) + A is ⌊N·B/D⌋ or ⌊N·B/D⌋ + 1. -/
theorem dcDivQ_spec (nn dn N D A ah : Nat) (hnn : dn ≤ nn) (hD0 : 0 < D) (hD : D < B ^ dn) (hN : N < B ^ nn)
    (hA : A < B ^ (nn - dn + 1)) (hah : ah ≤ 1)
    (hX : ah * B ^ (nn - dn + 1) + A = N * B / D ∨ ah * B ^ (nn - dn + 1) + A = N * B / D + 1) :
    (dcDivQ nn dn N D A ah).2 * B ^ (nn - dn) + (dcDivQ nn dn N D A ah).1 = N / D ∧
      (dcDivQ nn dn N D A ah).1 < B ^ (nn - dn) ∧ (dcDivQ nn dn N D A ah).2 ≤ 1 := by
  obtain ⟨qn, rfl⟩ : ∃ qn, nn = qn + dn := ⟨nn - dn, by omega⟩
  rw [Nat.add_sub_cancel] at hA hX ⊢
  have hB := B_pos
  have hK := Bpow_pos qn
  -- split the callee's answer into the guard limb and the rest
  have hWlt : A / B < B ^ qn := by
    rw [Nat.div_lt_iff_lt_mul hB, ← pow_succ]; exact hA
  have hXsplit : ah * B ^ (qn + 1) + A = (ah * B ^ qn + A / B) * B + A % B := by
    rw [pow_succ]; linear_combination (Nat.div_add_mod' A B).symm
  rw [hXsplit] at hX
  obtain ⟨c1, c2⟩ := approx_cases _ _ _ (Nat.mod_lt _ hB) hX
  rw [floor_shift] at c1 c2
  unfold dcDivQ
  simp only [Nat.add_sub_cancel]
  generalize A / B = W at *
  generalize ht : N / D = t at *
  by_cases h0 : A % B = 0
  · rw [if_pos h0]
    have hXt := c2 h0
    -- tp (with the carry of the mpn_add_n) is X'·D
    have htp : W * D < B ^ qn * B ^ dn := Nat.mul_lt_mul'' hWlt hD
    have hS : ∀ s : Nat × Nat, s = (if ah ≠ 0 then
          (W * D % B ^ qn + B ^ qn * (addN dn (W * D / B ^ qn) D).1, (addN dn (W * D / B ^ qn) D).2) else (W * D, 0)) →
        s.1 + s.2 * (B ^ qn * B ^ dn) = (ah * B ^ qn + W) * D ∧ s.1 < B ^ qn * B ^ dn ∧ s.2 ≤ 1 := by
      intro s hs
      by_cases ha : ah = 0
      · subst ha
        rw [if_neg (by simp)] at hs
        subst hs
        simp only [Nat.zero_mul, Nat.zero_add, Nat.add_zero]
        exact ⟨trivial, htp, by omega⟩
      · have ha1 : ah = 1 := by omega
        subst ha1
        rw [if_pos (by simp)] at hs
        subst hs
        have hdiv : W * D / B ^ qn < B ^ dn := by
          rw [Nat.div_lt_iff_lt_mul hK, Nat.mul_comm (B ^ dn)]; exact htp
        obtain ⟨a1, a2, a3⟩ := addN_spec dn _ D hdiv hD.le
        refine ⟨?_, add_mul_lt (Nat.mod_lt _ hK) a2, a3⟩
        show W * D % B ^ qn + B ^ qn * (addN dn (W * D / B ^ qn) D).1 + _ = _
        linear_combination B ^ qn * a1 + Nat.mod_add_div (W * D) (B ^ qn)
    obtain ⟨s1, s2, s3⟩ := hS _ rfl
    generalize (if ah ≠ 0 then
          (W * D % B ^ qn + B ^ qn * (addN dn (W * D / B ^ qn) D).1, (addN dn (W * D / B ^ qn) D).2) else (W * D, 0)) = s at *
    rw [pow_add] at hN
    -- the test is X'·D > N, i.e. X' > ⌊N/D⌋
    have htest : (s.2 ≠ 0 ∨ s.1 > N) ↔ t < ah * B ^ qn + W := by
      rw [← ht, Nat.div_lt_iff_lt_mul hD0, ← s1]
      constructor
      · rintro (h | h)
        · have : s.2 = 1 := by omega
          rw [this]; omega
        · omega
      · intro h
        by_cases hs : s.2 = 0
        · right; rw [hs] at h; omega
        · left; exact hs
    by_cases hts : s.2 ≠ 0 ∨ s.1 > N
    · rw [if_pos hts]
      have hgt := htest.mp hts
      obtain ⟨e1, e2, e3⟩ := dec_repr qn W ah hWlt hah (by omega)
      simp only []
      exact ⟨by omega, e2, e3⟩
    · rw [if_neg hts]
      have hle : ¬ t < ah * B ^ qn + W := fun h => hts (htest.mpr h)
      simp only []
      exact ⟨by omega, hWlt, hah⟩
  · rw [if_neg h0]
    simp only []
    exact ⟨(c1 h0).symm, hWlt, hah⟩

/-- the limb vectors of a good value-level result are the value contract `DivZ.mpnDivQr` -/
theorem Good.mpnDivQr {minDn minQn : Nat} {n d : List Nat} {r : Res}
    (hg : Good (n.length - d.length) (val n) (val d) r) (hnorm : DivZ.normalised d = true) (hD : val d < B ^ d.length)
    (hdn : minDn ≤ d.length) (hnn : d.length + minQn ≤ n.length) :
    DivZ.mpnDivQr minDn minQn n d = some (toLimbs (n.length - d.length) r.q, toLimbs d.length r.r, r.qh) := by
  obtain ⟨_, id, hr, hq, _, _⟩ := hg
  have hrv := val_toLimbs_lt d.length r.r (Nat.lt_trans hr hD)
  refine SbDiv.mpnDivQr_eq_some _ _ n d _ _ _ hnorm hdn hnn ?_ (by rw [hrv]; exact hr) (Limbs_toLimbs _ _)
    (toLimbs_length _ _) (Limbs_toLimbs _ _) (toLimbs_length _ _)
  rw [val_toLimbs_lt _ _ hq, hrv]; exact id

/-- the C's normalisation test (high bit of the top limb) on values -/
theorem norm_of_half {n D : Nat} (hn : 1 ≤ n) (h : B ^ n / 2 ≤ D) : B ^ n ≤ 2 * D := by
  obtain ⟨j, hj⟩ : ∃ j, n = j + 1 := ⟨n - 1, by omega⟩
  have he : B ^ n = 2 * (B ^ n / 2) := by rw [hj, pow_succ, B_eq]; omega
  omega

theorem norm_val (d : List Nat) (hd : Limbs d) (hdn : 1 ≤ d.length) (hnorm : B / 2 ≤ d.getD (d.length - 1) 0) :
    B ^ d.length ≤ 2 * val d ∧ val d < B ^ d.length ∧ DivZ.normalised d = true := by
  refine ⟨?_, val_lt d hd, (Tdiv.normalised_iff d hdn).mpr hnorm⟩
  obtain ⟨k, hk⟩ : ∃ k, d.length = k + 1 := ⟨d.length - 1, by omega⟩
  rw [hk, Nat.add_sub_cancel] at hnorm
  rw [hk]; exact (Tdiv.norm_iff_top d k hd hk).mpr hnorm

end Mpir.DcDiv
