/- The specification function `iroot` (Model/Root.lean) and what characterises a floor n-th root; mpz_root / mpz_nthroot /
   mpz_rootrem under the contract of mpn_rootrem; the root-is-1 exit.  (Square roots: Lemmas/Root.lean.) -/
import MpirProofs.Lemmas.Base
import Mpir.Model.Root
import Mathlib.Tactic.Ring
import Mathlib.Tactic.Linarith
import Mathlib.Tactic.NormNum
import Mathlib.Data.Nat.Sqrt
import Mathlib.Algebra.Ring.Parity
namespace Mpir.Root
open Mpir Mpir.Gen.SqrtTabs

theorem bitLen_spec (h : Nat) (hp : 0 < h) : 2 ^ (bitLen h - 1) ≤ h ∧ h < 2 ^ bitLen h ∧ 0 < bitLen h :=
  bitCount_bounds (Nat.ne_of_gt hp)

theorem irootGo_spec (n u : Nat) : ∀ (i t : Nat), t ^ n ≤ u → u < (t + 2 ^ i) ^ n →
    (irootGo n u i t) ^ n ≤ u ∧ u < (irootGo n u i t + 1) ^ n
  | 0, t, h1, h2 => by simpa [irootGo] using ⟨h1, h2⟩
  | i + 1, t, h1, h2 => by
    unfold irootGo
    split
    · next h => exact irootGo_spec n u i _ h (by rw [Nat.add_assoc, ← Nat.two_mul, ← pow_succ']; exact h2)
    · next h => exact irootGo_spec n u i _ h1 (Nat.lt_of_not_le h)

theorem iroot_spec (n u : Nat) (hn : 0 < n) : (iroot n u) ^ n ≤ u ∧ u < (iroot n u + 1) ^ n := by
  unfold iroot
  split
  · next h =>
    split
    · next h0 => subst h0; simp [Nat.ne_of_gt hn]
    · next h0 =>
      refine ⟨by simp; omega, ?_⟩
      calc u < 2 ^ (u.log2 + 1) := Nat.lt_log2_self
        _ ≤ 2 ^ n := Nat.pow_le_pow_right (by norm_num) h
        _ = (1 + 1) ^ n := by norm_num
  · apply irootGo_spec
    · simp [Nat.ne_of_gt hn]
    · rw [Nat.zero_add, ← pow_mul]
      calc u < 2 ^ (u.log2 + 1) := Nat.lt_log2_self
        _ ≤ 2 ^ ((u.log2 / n + 1) * n) := by
            apply Nat.pow_le_pow_right (by norm_num)
            have := Nat.div_add_mod u.log2 n
            have := Nat.mod_lt u.log2 hn
            nlinarith

/-- a floor root `s` of `U` turns the comparison of a candidate's power with `U` into a comparison of the candidate with
    `s`: this is every test the root routines make (`if (U < x^n)`, `while (S^k > R)`). -/
theorem lt_iff_of_root {n U s x : Nat} (h1 : s ^ n ≤ U) (h2 : U < (s + 1) ^ n) : s < x ↔ U < x ^ n :=
  ⟨fun h => Nat.lt_of_lt_of_le h2 (Nat.pow_le_pow_left h n), fun h => by
    by_contra hc
    exact absurd (Nat.lt_of_lt_of_le h (Nat.le_trans (Nat.pow_le_pow_left (Nat.le_of_not_lt hc) n) h1)) (Nat.lt_irrefl _)⟩

theorem le_iff_of_root {n U s x : Nat} (h1 : s ^ n ≤ U) (h2 : U < (s + 1) ^ n) : x ≤ s ↔ x ^ n ≤ U := by
  rw [← Nat.not_lt, ← Nat.not_lt, lt_iff_of_root h1 h2]

theorem le_iroot_iff {n U t : Nat} (hn : 0 < n) : t ≤ iroot n U ↔ t ^ n ≤ U :=
  le_iff_of_root (iroot_spec n U hn).1 (iroot_spec n U hn).2

theorem iroot_lt_iff {n U t : Nat} (hn : 0 < n) : iroot n U < t ↔ U < t ^ n :=
  lt_iff_of_root (iroot_spec n U hn).1 (iroot_spec n U hn).2

theorem iroot_unique (n u t : Nat) (hn : 0 < n) (h1 : t ^ n ≤ u) (h2 : u < (t + 1) ^ n) : t = iroot n u :=
  Nat.le_antisymm ((le_iroot_iff hn).mpr h1) (Nat.le_of_lt_succ ((iroot_lt_iff hn).mpr h2))

theorem iroot_pow (t m : Nat) (hm : 0 < m) : iroot m (t ^ m) = t :=
  (iroot_unique m (t ^ m) t hm (Nat.le_refl _) (Nat.pow_lt_pow_left (Nat.lt_succ_self _) (Nat.ne_of_gt hm))).symm

theorem iroot_one (u : Nat) : iroot 1 u = u := (iroot_unique 1 u u (by norm_num) (by simp) (by simp)).symm

theorem iroot_two (u : Nat) : iroot 2 u = Nat.sqrt u :=
  (iroot_unique 2 u _ (by norm_num) (by rw [pow_two]; exact Nat.sqrt_le u)
    (by rw [pow_two]; exact Nat.lt_succ_sqrt u)).symm

/-- the root of a number with `e + 1` digits in base `β` has `e / k + 1` digits (`β = 2`: the bit count `xnb` the root
    routines compute; `β = B`: the limb count `rootn` mpz_rootrem stores). -/
theorem iroot_window {β k N e : Nat} (hk : 0 < k) (hβ : 0 < β) (h1 : β ^ e ≤ N) (h2 : N < β ^ (e + 1)) :
    β ^ (e / k) ≤ iroot k N ∧ iroot k N < β ^ (e / k + 1) := by
  rw [le_iroot_iff hk, iroot_lt_iff hk, ← pow_mul, ← pow_mul]
  exact ⟨Nat.le_trans (Nat.pow_le_pow_right hβ (Nat.div_mul_le_self e k)) h1,
    Nat.lt_of_lt_of_le h2 (Nat.pow_le_pow_right hβ (by rw [Nat.mul_comm]; exact Nat.lt_mul_div_succ e hk))⟩

/-- the floor root commutes with dropping a k-th power of the base. -/
theorem iroot_div_pow {k β : Nat} (U : Nat) (hk : 0 < k) (hβ : 0 < β) : iroot k (U / β ^ k) = iroot k U / β := by
  obtain ⟨r1, r2⟩ := iroot_spec k U hk
  have hp : 0 < β ^ k := pow_pos hβ k
  refine (iroot_unique k _ _ hk ?_ ?_).symm
  · rw [Nat.le_div_iff_mul_le hp, ← Nat.mul_pow]
    exact Nat.le_trans (Nat.pow_le_pow_left (Nat.div_mul_le_self _ _) k) r1
  · rw [Nat.div_lt_iff_lt_mul hp, ← Nat.mul_pow]
    exact Nat.lt_of_lt_of_le r2 (Nat.pow_le_pow_left (Nat.lt_div_mul_add hβ) k |>.trans (by rw [Nat.add_mul, Nat.one_mul]))

theorem sqrt_window {β N e : Nat} (hβ : 0 < β) (h1 : β ^ e ≤ N) (h2 : N < β ^ (e + 1)) :
    β ^ (e / 2) ≤ Nat.sqrt N ∧ Nat.sqrt N < β ^ (e / 2 + 1) := by
  rw [← iroot_two]; exact iroot_window (by norm_num) hβ h1 h2

theorem irootFast_eq (n u : Nat) : irootFast n u = iroot n u := by
  unfold irootFast
  split
  · next h => subst h; exact (iroot_one u).symm
  · split
    · next h => subst h; exact (iroot_two u).symm
    · rfl

theorem iroot_zero (n : Nat) (hn : 0 < n) : iroot n 0 = 0 := by
  have := (iroot_spec n 0 hn).1
  exact (Nat.pow_eq_zero.mp (Nat.le_zero.mp this)).1

theorem powS_eq (t n : Nat) : powS t n = t ^ n := by
  unfold powS
  split
  · next h => subst h; simp
  · next h =>
    split
    · next h1 =>
      have : t = 0 ∨ t = 1 := by omega
      rcases this with rfl | rfl <;> simp [h]
    · rfl

/-- the contract of mpn_rootrem ({up, un}, k) for `k ≥ 2` on a normalised operand: truncated root; the
    second component is zero exactly for perfect k-th powers, and is the remainder when `remp ≠ NULL`. -/
def RootremSpec : Prop := ∀ a k w, 0 < a → 2 ≤ k →
  (rootrem a (limbCount a) k w).1 = iroot k a ∧
  ((rootrem a (limbCount a) k w).2 = 0 ↔ (iroot k a) ^ k = a) ∧
  (w = true → (rootrem a (limbCount a) k w).2 = a - (iroot k a) ^ k)

/-- `RootremSpec` at one operand/index pair: what the mpz-level theorems need of it, and what is provable (below 2^61 bits). -/
def RootremAt (a k : Nat) : Prop := ∀ w,
  (rootrem a (limbCount a) k w).1 = iroot k a ∧
  ((rootrem a (limbCount a) k w).2 = 0 ↔ (iroot k a) ^ k = a) ∧
  (w = true → (rootrem a (limbCount a) k w).2 = a - (iroot k a) ^ k)

/-- how the callers read the contract: the pair returned, and the C's test `rem == 0` as the exactness flag. -/
theorem RootremAt.result {a k : Nat} (h : RootremAt a k) (w : Bool) :
    ∃ m, rootrem a (limbCount a) k w = (iroot k a, m) ∧ (m == 0) = decide (iroot k a ^ k = a) ∧
      (w = true → m = a - iroot k a ^ k) := by
  obtain ⟨r1, r2, r3⟩ := h w
  generalize rootrem a (limbCount a) k w = res at *
  obtain ⟨r, m⟩ := res
  simp only at r1 r2 r3
  subst r1
  refine ⟨m, rfl, ?_, r3⟩
  by_cases h5 : m = 0
  · simp [h5, r2.mp h5]
  · have h6 : ¬ iroot k a ^ k = a := fun h => h5 (r2.mpr h)
    simp [h5, h6]

theorem rootremSpec_iff : RootremSpec ↔ ∀ a k, 0 < a → 2 ≤ k → RootremAt a k :=
  ⟨fun h a k ha hk w => h a k w ha hk, fun h a k w ha hk => h a k ha hk w⟩

/-- mpz/root.c, nthroot.c, rootrem.c common part: the two exceptions. -/
theorem mpzRootCore_exc (u : Int) (n : Nat) (w : Bool) :
    (u < 0 ∧ n % 2 = 0 → mpzRootCore u n w = .error "sqrtneg") ∧
    (¬(u < 0 ∧ n % 2 = 0) → n = 0 → mpzRootCore u n w = .error "div0") := by
  unfold mpzRootCore
  constructor
  · intro h; rw [if_pos h]
  · intro h h0; rw [if_neg h, if_pos h0]

/-- mpz/root.c, nthroot.c, rootrem.c common part: zero, n = 1, sign of root and remainder, flag — under the contract of
    mpn_rootrem at this operand and index only. -/
theorem mpzRootCore_ok_at (u : Int) (n : Nat) (w : Bool) (hloc : u ≠ 0 → 2 ≤ n → RootremAt u.natAbs n)
    (h1 : ¬(u < 0 ∧ n % 2 = 0)) (h2 : n ≠ 0) :
    ∃ rem : Int, mpzRootCore u n w =
        .ok (u.sign * (iroot n u.natAbs : Nat), rem, decide ((iroot n u.natAbs) ^ n = u.natAbs)) ∧
      (w = true → rem = u.sign * ((u.natAbs - (iroot n u.natAbs) ^ n : Nat) : Int)) := by
  unfold mpzRootCore
  have hn : 0 < n := Nat.pos_of_ne_zero h2
  rw [if_neg h1, if_neg h2]
  by_cases h3 : u = 0
  · subst h3
    exact ⟨0, by simp [iroot_zero n hn, h2], by simp⟩
  · have ha : 0 < u.natAbs := Int.natAbs_pos.mpr h3
    have hsg : (if u < 0 then (-1 : Int) else 1) = u.sign := by
      rcases lt_trichotomy u 0 with h | h | h
      · simp [h, Int.sign_eq_neg_one_of_neg h]
      · exact absurd h h3
      · simp [not_lt.mpr (le_of_lt h), Int.sign_eq_one_of_pos h]
    rw [if_neg h3]
    dsimp only
    by_cases h4 : n = 1
    · subst h4
      exact ⟨0, by simp [hsg, iroot_one], by simp [iroot_one]⟩
    · obtain ⟨m, e, hb, hr⟩ := (hloc h3 (by omega)).result w
      rw [if_neg h4, e]
      exact ⟨u.sign * (m : Int), by simp only [hsg, hb], fun hw => by rw [hr hw]⟩

theorem mpzRootCore_ok (u : Int) (n : Nat) (w : Bool) (hrr : RootremSpec)
    (h1 : ¬(u < 0 ∧ n % 2 = 0)) (h2 : n ≠ 0) :
    ∃ rem : Int, mpzRootCore u n w =
        .ok (u.sign * (iroot n u.natAbs : Nat), rem, decide ((iroot n u.natAbs) ^ n = u.natAbs)) ∧
      (w = true → rem = u.sign * ((u.natAbs - (iroot n u.natAbs) ^ n : Nat) : Int)) :=
  mpzRootCore_ok_at u n w (fun h0 hn => rootremSpec_iff.mp hrr _ n (Int.natAbs_pos.mpr h0) hn) h1 h2

/-- the correction loop `while (S^k > R) S--` reaches the floor root from any candidate that is at most
    `fuel` too large. -/
theorem adjustDown_spec (k R : Nat) (hk : 0 < k) : ∀ (fuel s : Nat), iroot k R ≤ s → s ≤ iroot k R + fuel →
    adjustDown k R fuel s = iroot k R
  | 0, s, h1, h2 => by simp [adjustDown]; omega
  | fuel + 1, s, h1, h2 => by
    rw [adjustDown]
    simp only [gt_iff_lt, ← iroot_lt_iff hk]
    split
    · exact adjustDown_spec k R hk fuel (s - 1) (by omega) (by omega)
    · omega

theorem sign_pow_of_odd (u : Int) (n : Nat) (h : ¬(u < 0 ∧ n % 2 = 0)) (hn : n ≠ 0) : u.sign ^ n = u.sign := by
  rcases lt_trichotomy u 0 with hu | rfl | hu
  · have hodd : Odd n := Nat.odd_iff.mpr (by have := Nat.mod_two_eq_zero_or_one n; omega)
    rw [Int.sign_eq_neg_one_of_neg hu, Odd.neg_one_pow hodd]
  · simp [hn]
  · rw [Int.sign_eq_one_of_pos hu, one_pow]

theorem mpz_root_sign_flag_at (u : Int) (n : Nat) (hloc : u ≠ 0 → 2 ≤ n → RootremAt u.natAbs n) :
    (u < 0 ∧ n % 2 = 0 → mpzRoot u n = .error "sqrtneg" ∧ mpzRootrem u n = .error "sqrtneg") ∧
    (¬(u < 0 ∧ n % 2 = 0) → n = 0 → mpzRoot u n = .error "div0" ∧ mpzRootrem u n = .error "div0") ∧
    (¬(u < 0 ∧ n % 2 = 0) → n ≠ 0 → ∃ (root rem : Int) (flag : Bool),
        mpzRoot u n = .ok (root, flag) ∧ mpzRootrem u n = .ok (root, rem) ∧
        root = u.sign * (iroot n u.natAbs : Nat) ∧
        (flag = true ↔ (iroot n u.natAbs) ^ n = u.natAbs) ∧ (flag = true ↔ root ^ n = u) ∧
        root ^ n + rem = u) := by
  refine ⟨fun h => ?_, fun h h0 => ?_, fun h h0 => ?_⟩
  · simp [mpzRoot, mpzRootrem, (mpzRootCore_exc u n false).1 h, (mpzRootCore_exc u n true).1 h, Except.map]
  · simp [mpzRoot, mpzRootrem, (mpzRootCore_exc u n false).2 h h0, (mpzRootCore_exc u n true).2 h h0,
      Except.map]
  · obtain ⟨r0, e0, -⟩ := mpzRootCore_ok_at u n false hloc h h0
    obtain ⟨r1, e1, hr1⟩ := mpzRootCore_ok_at u n true hloc h h0
    have hr1 := hr1 rfl
    have hn : 0 < n := Nat.pos_of_ne_zero h0
    obtain ⟨s1, -⟩ := iroot_spec n u.natAbs hn
    generalize iroot n u.natAbs = t at *
    -- `(sign u · t)^n = sign u · t^n` and `u = sign u · |u|`: both claims are about magnitudes
    have hpow : (u.sign * (t : Int)) ^ n = u.sign * ((t ^ n : Nat) : Int) := by
      rw [mul_pow, sign_pow_of_odd u n h h0, Nat.cast_pow]
    have hu : u.sign * ((u.natAbs : Nat) : Int) = u := Int.sign_mul_natAbs u
    refine ⟨u.sign * (t : Int), r1, decide (t ^ n = u.natAbs), ?_, ?_, rfl, by simp, ?_, ?_⟩
    · simp [mpzRoot, e0, Except.map]
    · simp [mpzRootrem, e1, Except.map]
    · rw [decide_eq_true_iff, hpow]
      refine ⟨fun e => by rw [e, hu], fun e => ?_⟩
      by_cases hz : u = 0
      · subst hz; simpa using s1
      · exact_mod_cast mul_left_cancel₀ (fun hs => hz (Int.sign_eq_zero_iff_zero.mp hs)) (e.trans hu.symm)
    · rw [hr1, hpow, ← mul_add, ← Nat.cast_add, Nat.add_sub_cancel' s1, hu]

theorem iroot_eq_one (a k : Nat) (ha : 0 < a) (hk : bitLen a ≤ k) (hk0 : 0 < k) : iroot k a = 1 := by
  obtain ⟨_, b2, _⟩ := bitLen_spec a ha
  refine (iroot_unique k a 1 hk0 (by rw [Nat.one_pow]; exact ha) ?_).symm
  calc a < 2 ^ bitLen a := b2
    _ ≤ 2 ^ k := Nat.pow_le_pow_right (by norm_num) hk

theorem xnb_one (a k : Nat) (ha : 0 < a) (hk : bitLen a ≤ k) : (bitLen a - 1) / k + 1 = 1 := by
  obtain ⟨_, _, b3⟩ := bitLen_spec a ha
  rw [Nat.div_eq_of_lt (by omega)]

/-- the root-is-1 exit of mpn_rootrem_internal (rootrem.c:118-138), taken before any temporary is
    allocated. -/
theorem rootremInternal_one (a k : Nat) (ap : Bool) (ha : 0 < a) (hk : bitLen a ≤ k) :
    rootremInternal a k ap = (1, a - 1, false) := by
  unfold rootremInternal
  dsimp only
  rw [if_pos (xnb_one a k ha hk)]

theorem rootremBasecase_one (a k : Nat) (ha : 0 < a) (hk : bitLen a ≤ k) :
    rootremBasecase a k = (1, a - 1) := by
  unfold rootremBasecase
  dsimp only
  rw [if_pos (xnb_one a k ha hk)]

theorem rootrem_one (a un k : Nat) (w : Bool) (ha : 0 < a) (hk : bitLen a ≤ k) (hun : un ≤ k) :
    rootrem a un k w = (1, a - 1) := by
  unfold rootrem
  by_cases h1 : un < rootremThreshold
  · rw [if_pos h1]; exact rootremBasecase_one a k ha hk
  · rw [if_neg h1]
    have h2 : ¬ ((!w && decide (un / k > 2)) = true) := by
      have : un / k ≤ 1 := by
        have hk0 : 0 < k := by have := bitLen_spec a ha; omega
        rw [Nat.div_le_iff_le_mul_add_pred hk0]; omega
      simp; intro _; omega
    rw [if_neg h2, rootremInternal_one a k false ha hk]

theorem limbCount_le_bitLen (a : Nat) (ha : 0 < a) : limbCount a ≤ bitLen a :=
  (natLimbs_length_le_iff a _).mpr (Nat.lt_of_lt_of_le (bitLen_spec a ha).2.1
    (by rw [B_pow]; exact Nat.pow_le_pow_right (by norm_num) (Nat.le_mul_of_pos_left _ (by norm_num))))

theorem rootremAt_huge (a k : Nat) (ha : 0 < a) (hk : bitLen a ≤ k) : RootremAt a k := by
  have hk0 : 0 < k := by have := bitLen_spec a ha; omega
  have h1 := iroot_eq_one a k ha hk hk0
  intro w
  rw [rootrem_one a (limbCount a) k w ha hk (Nat.le_trans (limbCount_le_bitLen a ha) hk), h1]
  refine ⟨rfl, ?_, fun _ => by simp⟩
  simp only [Nat.one_pow]
  omega

theorem mpz_root_huge (u : Int) (n : Nat) (hu : u ≠ 0) (hn : bitLen u.natAbs ≤ n)
    (hs : ¬(u < 0 ∧ n % 2 = 0)) :
    mpzRoot u n = .ok (u.sign, decide (u.natAbs = 1)) ∧ mpzRootrem u n = .ok (u.sign, u - u.sign) := by
  have ha : 0 < u.natAbs := Int.natAbs_pos.mpr hu
  have hn0 : n ≠ 0 := by have := bitLen_spec u.natAbs ha; omega
  obtain ⟨root, rem, flag, e1, e2, hr, hf, -, hsum⟩ :=
    (mpz_root_sign_flag_at u n (fun _ _ => rootremAt_huge u.natAbs n ha hn)).2.2 hs hn0
  rw [iroot_eq_one u.natAbs n ha hn (Nat.pos_of_ne_zero hn0)] at hr hf
  simp only [Nat.cast_one, mul_one] at hr
  subst hr
  have hpow : u.sign ^ n = u.sign := sign_pow_of_odd u n hs hn0
  rw [hpow] at hsum
  have hrem : rem = u - u.sign := by omega
  have hflag : flag = decide (u.natAbs = 1) := by
    simp only [Nat.one_pow] at hf
    by_cases h1 : u.natAbs = 1
    · simp [h1, hf.mpr h1.symm]
    · have : flag ≠ true := fun h => h1 (hf.mp h).symm
      simp [h1, this]
  rw [e1, e2, hrem, hflag]
  exact ⟨rfl, rfl⟩

end Mpir.Root
