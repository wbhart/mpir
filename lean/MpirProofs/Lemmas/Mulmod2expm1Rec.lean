/- mpn_mulmod_2expm1: the recursion (mulmod_2expm1.c:114-291) over any +1 half meeting the assumed contract `P1Spec`, and
   mpn_mulmod_bnm1 over it (:296-338). -/
import MpirProofs.Lemmas.Mulmod2expm1Stages
namespace Mpir.Mm1
open Mpir Mpir.Fft

/-- the contract of mpn_mulmod_2expp1_basecase (what `Fft.mulmod_2expp1_basecase_val` proves of the model of its
    non-FFT branch): the product of the flagged operands modulo `2^b + 1`, fully reduced, `2^b` as return value 1 -/
def P1Spec (pp1 : List Nat → List Nat → Nat → Nat → List Nat × Nat) : Prop :=
  ∀ (yp zp : List Nat) (c b : Nat), 1 ≤ b → Limbs yp → Limbs zp →
    yp.length = (b + 63) / 64 → zp.length = (b + 63) / 64 → val yp < 2 ^ b → val zp < 2 ^ b →
    (pp1 yp zp c b).1.length = (b + 63) / 64 ∧ Limbs (pp1 yp zp c b).1 ∧ (pp1 yp zp c b).2 ≤ 1 ∧
    val (pp1 yp zp c b).1 + 2 ^ b * (pp1 yp zp c b).2 ≤ 2 ^ b ∧
    ((val (pp1 yp zp c b).1 : Int) + 2 ^ b * (pp1 yp zp c b).2 ≡
      flaggedb (c / 2 % 2) b yp * flaggedb (c % 2) b zp [ZMOD 2 ^ b + 1])

theorem flags_split (a b : Nat) (ha : a ≤ 1) (hb : b ≤ 1) : (a * 2 + b) / 2 % 2 = a ∧ (a * 2 + b) % 2 = b := by
  omega

/-- an even bit count `b`: its half `h`, the limbs `m` of `h` and the `k` bits missing in the top one -/
theorem size_even (b : Nat) (hb : 1 ≤ b) (hev : b % 2 = 0) :
    b = 2 * (b / 2) ∧ 1 ≤ b / 2 ∧ 1 ≤ (b / 2 + 63) / 64 ∧ 64 * ((b / 2 + 63) / 64) - b / 2 ≤ 63 ∧
    b / 2 = 64 * ((b / 2 + 63) / 64) - (64 * ((b / 2 + 63) / 64) - b / 2) := by
  omega

theorem two_pow_pred (h : Nat) (hh : 1 ≤ h) :
    2 ^ h = 2 * 2 ^ (h - 1) ∧ 2 ^ (2 * h - 1) = 2 * 2 ^ (h - 1) * 2 ^ (h - 1) := by
  constructor
  · rw [← pow_succ']; congr 1; omega
  · rw [← pow_succ', ← pow_add]; congr 1; omega

theorem mm1F_step (thr : Nat) (pp1 : List Nat → List Nat → Nat → Nat → List Nat × Nat) (fuel : Nat)
    (yp zp : List Nat) (b : Nat) :
    mm1F thr pp1 (fuel + 1) yp zp b =
      if b % 2 = 1 || (b + 63) / 64 < thr then basecase yp zp b
      else
        let n := (b + 63) / 64
        let h := b / 2
        let m := (h + 63) / 64
        let k := 64 * m - h
        let sy := split yp n m k
        let sz := split zp n m k
        let Sr := mm1F thr pp1 fuel sy.1 sz.1 h
        let Dr := pp1 sy.2.1 sz.2.1 (sy.2.2.1 * 2 + sz.2.2.1) h
        let R := recombine Sr.1 Dr.1 Dr.2 m k
        (assemble R.1 R.2 b n m k, sy.2.2.2 && sz.2.2.2 && Sr.2) := by
  rw [mm1F]

theorem mm1F_spec (thr : Nat) (pp1 : List Nat → List Nat → Nat → Nat → List Nat × Nat) (hpp1 : P1Spec pp1) :
    ∀ (fuel b : Nat) (yp zp : List Nat), b ≤ fuel → 1 ≤ b → Limbs yp → Limbs zp →
      yp.length = (b + 63) / 64 → zp.length = (b + 63) / 64 → val yp < 2 ^ b → val zp < 2 ^ b →
      Good b (val yp * val zp) (mm1F thr pp1 fuel yp zp b) := by
  intro fuel
  induction fuel with
  | zero => intro b yp zp h1 h2; omega
  | succ fuel ih =>
    intro b yp zp hbf hb hy hz hly hlz hyb hzb
    rw [mm1F_step]
    by_cases hbase : (b % 2 = 1 || (b + 63) / 64 < thr) = true
    · rw [if_pos hbase]; exact basecase_spec yp zp b hb hyb hzb
    · rw [if_neg hbase]
      have hev : b % 2 = 0 := by
        by_contra hne
        have : b % 2 = 1 := by omega
        simp [this] at hbase
      clear hbase
      simp only
      obtain ⟨e1, e2, e3, e4, e5⟩ := size_even b hb hev
      obtain ⟨h, hhd⟩ : ∃ h, h = b / 2 := ⟨_, rfl⟩
      rw [← hhd] at e1 e2 e3 e4 e5
      have hb2 : b = 2 * h := e1
      have hh1 : 1 ≤ h := e2
      obtain ⟨m, hmd⟩ : ∃ m, m = (h + 63) / 64 := ⟨_, rfl⟩
      rw [← hmd] at e3 e4 e5
      have hm1 : 1 ≤ m := e3
      obtain ⟨k, hkd⟩ : ∃ k, k = 64 * m - h := ⟨_, rfl⟩
      rw [← hkd] at e4 e5
      have hk : k ≤ 63 := e4
      have hhk : h = 64 * m - k := e5
      have hfuel : h ≤ fuel := by omega
      clear e1 e2 e3 e4 e5
      obtain ⟨n, hnd⟩ : ∃ n, n = (b + 63) / 64 := ⟨_, rfl⟩
      rw [← hhd, ← hmd, ← hkd, ← hnd]
      rw [← hnd] at hly hlz
      have hpow : (2 : Nat) ^ b = 2 ^ h * 2 ^ h := by rw [hb2, two_mul, pow_add]
      obtain ⟨H2, hH2d⟩ : ∃ H2, H2 = 2 ^ (h - 1) := ⟨_, rfl⟩
      have hH : 2 ^ h = 2 * H2 := by rw [hH2d]; exact (two_pow_pred h hh1).1
      have hH21 : 1 ≤ H2 := by rw [hH2d]; exact Nat.one_le_two_pow
      have hsy := split_spec yp n m k hm1 hk (by rw [← hhk]; exact hh1) (by rw [← hhk, ← hb2]; exact hnd) hy hly
        (by rw [← hhk, ← hpow]; exact hyb)
      have hsz := split_spec zp n m k hm1 hk (by rw [← hhk]; exact hh1) (by rw [← hhk, ← hb2]; exact hnd) hz hlz
        (by rw [← hhk, ← hpow]; exact hzb)
      rw [← hhk] at hsy hsz
      generalize split yp n m k = sy at *
      generalize split zp n m k = sz at *
      obtain ⟨y1, y2, y3, y4, y5, y6, y7, y8, y9, y10, y11, y12⟩ := hsy
      obtain ⟨z1, z2, z3, z4, z5, z6, z7, z8, z9, z10, z11, z12⟩ := hsz
      have hS := ih h sy.1 sz.1 hfuel hh1 y3 z3 (by rw [y2, hmd]) (by rw [z2, hmd]) y4 z4
      have hD := hpp1 sy.2.1 sz.2.1 (sy.2.2.1 * 2 + sz.2.2.1) h hh1 y8 z8 (by rw [y7, hmd]) (by rw [z7, hmd]) y9 z9
      obtain ⟨hc1, hc2⟩ := flags_split _ _ y10 z10
      rw [hc1, hc2] at hD
      generalize mm1F thr pp1 fuel sy.1 sz.1 h = Sr at *
      generalize pp1 sy.2.1 sz.2.1 (sy.2.2.1 * 2 + sz.2.2.1) h = Dr at *
      obtain ⟨s1, s2, s3, s4, s5, s6⟩ := hS
      obtain ⟨d1, d2, d3, d4, d5⟩ := hD
      rw [← hmd] at s2 d1
      have hR := recombine_spec Sr.1 Dr.1 Dr.2 m k H2 hm1 hk (by rw [← hhk]; exact hH) s3 d2 s2 d1
        (by rw [← hH]; exact s4) d3 (by rw [← hH]; exact d4)
      generalize recombine Sr.1 Dr.1 Dr.2 m k = R at *
      obtain ⟨r1, r2, r3, r4, r5, r6, r7, r8⟩ := hR
      have hA := assemble_spec R.1 R.2 b n m k hm1 hk (by rw [← hhk]; exact hb2) hnd r2 r4 r1 r3
        (by rw [← hhk, hH]; exact r5) (by rw [← hhk, hH]; exact r6)
      rw [← hhk] at hA
      generalize assemble R.1 R.2 b n m k = X at *
      obtain ⟨a1, a2, a3⟩ := hA
      have hP1 : val Sr.1 % (2 * H2 - 1) = (val yp * val zp) % (2 * H2 - 1) := by
        rw [← hH, s5]
        exact Nat.ModEq.mul y5 z5
      have hP2 : ((val Dr.1 + 2 * H2 * Dr.2 : Nat) : Int) ≡ ((val yp * val zp : Nat) : Int) [ZMOD (2 * H2 : Int) + 1] := by
        have e1 : ((val Dr.1 + 2 * H2 * Dr.2 : Nat) : Int) = (val Dr.1 : Int) + 2 ^ h * Dr.2 := by
          rw [← hH]; push_cast; ring
        have e2 : (2 * H2 : Int) + 1 = 2 ^ h + 1 := by
          have := congrArg (fun z : Nat => (z : Int)) hH
          push_cast at this; rw [this]
        rw [e1, e2]
        refine d5.trans ?_
        push_cast
        exact Int.ModEq.mul y11 z11
      have hb1 : 2 ^ (b - 1) = 2 * H2 * H2 := by rw [hb2, hH2d]; exact (two_pow_pred h hh1).2
      have hbb : 2 ^ b = 2 * H2 * (2 * H2) := by rw [hpow, hH]
      have hSP : val Sr.1 = 0 ↔ val yp * val zp = 0 := by
        rw [s6, Nat.mul_eq_zero, Nat.mul_eq_zero, y6, z6]
      rw [hH, hb1] at a3
      have hG := crt_good H2 (val Sr.1) (val Dr.1 + 2 * H2 * Dr.2) (val yp * val zp) (val R.1) (val R.2) (val X) hH21
        hP1 hSP hP2 (by rw [← hH]; exact d4) r5 r6 r7 r8 a3
      rw [← hbb] at hG
      exact ⟨by rw [y1, z1, s1]; rfl, by show X.length = _; rw [a1, hnd], a2, hG⟩

/-- mulmod_2expm1.c:296-338 -/
theorem bnm1_spec (thr : Nat) (pp1 : List Nat → List Nat → Nat → Nat → List Nat × Nat) (hpp1 : P1Spec pp1)
    (rn : Nat) (ap bp : List Nat) (ha : Limbs ap) (hb : Limbs bp)
    (hbn : 0 < bp.length) (hab : bp.length ≤ ap.length) (han : ap.length ≤ rn) :
    (bnm1 thr pp1 rn ap bp).2 = true ∧ Limbs (bnm1 thr pp1 rn ap bp).1 ∧
    (bnm1 thr pp1 rn ap bp).1.length = min rn (ap.length + bp.length) ∧
    val (bnm1 thr pp1 rn ap bp).1 % (B ^ rn - 1) = (val ap * val bp) % (B ^ rn - 1) ∧
    (val (bnm1 thr pp1 rn ap bp).1 = 0 ↔ val ap * val bp = 0) ∧
    (ap.length + bp.length < rn → val (bnm1 thr pp1 rn ap bp).1 = val ap * val bp) := by
  have hrn : 1 ≤ rn := by omega
  have hsz : (rn * 64 + 63) / 64 = rn := by omega
  have hpad : ∀ (l : List Nat), Limbs l → l.length ≤ rn →
      Limbs (if l.length < rn then l ++ List.replicate (rn - l.length) 0 else l) ∧
      (if l.length < rn then l ++ List.replicate (rn - l.length) 0 else l).length = rn ∧
      val (if l.length < rn then l ++ List.replicate (rn - l.length) 0 else l) = val l := by
    intro l hl hln
    by_cases h : l.length < rn
    · rw [if_pos h]
      refine ⟨Limbs_append.mpr ⟨hl, Limbs_replicate_zero _⟩, by simp; omega, ?_⟩
      rw [val_append, val_replicate_zero]; simp
    · rw [if_neg h]; exact ⟨hl, by omega, rfl⟩
  obtain ⟨pa1, pa2, pa3⟩ := hpad ap ha han
  obtain ⟨pb1, pb2, pb3⟩ := hpad bp hb (by omega)
  have hBr : 2 ^ (rn * 64) = B ^ rn := by rw [B_pow, Nat.mul_comm]
  have hav := val_lt ap ha
  have hbv := val_lt bp hb
  have hle : ∀ j, j ≤ rn → B ^ j ≤ B ^ rn := fun j hj => Nat.pow_le_pow_right B_pos hj
  obtain ⟨h1, h2, h3, h4, h5, h6⟩ := mm1F_spec thr pp1 hpp1 (rn * 64) (rn * 64) _ _ (le_refl _) (by omega) pa1 pb1
    (by rw [hsz]; exact pa2) (by rw [hsz]; exact pb2)
    (by rw [pa3, hBr]; exact lt_of_lt_of_le hav (hle _ han))
    (by rw [pb3, hBr]; exact lt_of_lt_of_le hbv (hle _ (by omega)))
  rw [hsz] at h2
  rw [pa3, pb3, hBr] at h5
  rw [pa3, pb3] at h6
  rw [hBr] at h4
  unfold bnm1 mm1
  simp only
  generalize mm1F thr pp1 (rn * 64) (if ap.length < rn then ap ++ List.replicate (rn - ap.length) 0 else ap)
    (if bp.length < rn then bp ++ List.replicate (rn - bp.length) 0 else bp) (rn * 64) = r at *
  by_cases hs : ap.length + bp.length < rn
  · rw [if_pos hs]
    -- the residue is the product itself
    have hP : val ap * val bp < B ^ (ap.length + bp.length) := by rw [pow_add]; exact Nat.mul_lt_mul'' hav hbv
    have hP1 : B ^ (ap.length + bp.length) * B ≤ B ^ rn := by
      rw [← pow_succ]; exact hle _ (by omega)
    have hBg : 2 ≤ B := by rw [B_eq]; norm_num
    have hPlt : val ap * val bp < B ^ rn - 1 := by
      have : B ^ (ap.length + bp.length) * 2 ≤ B ^ (ap.length + bp.length) * B := Nat.mul_le_mul_left _ hBg
      have : 0 < B ^ (ap.length + bp.length) := Bpow_pos _
      omega
    have hre : val r.1 = val ap * val bp := (rep_unique _ _ _ (by omega) h5 h6).2 hPlt
    have htk : val (r.1.take (ap.length + bp.length)) = val ap * val bp := by
      rw [val_take_eq_mod r.1 h3, hre, Nat.mod_eq_of_lt hP]
    refine ⟨h1, Limbs_take h3 _, by rw [List.length_take, h2]; omega, by rw [htk], by rw [htk], fun _ => htk⟩
  · rw [if_neg hs]
    exact ⟨h1, h3, by rw [h2]; omega, h5, h6, fun h => absurd h hs⟩

end Mpir.Mm1
