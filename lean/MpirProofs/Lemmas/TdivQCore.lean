/-
  C02 / mpn_tdiv_q: the value-level core of the second branch of mpn/generic/tdiv_q.c (pure Nat arithmetic).

  Setting.  N, D the operands; P = B^t the weight of the dividend limbs that are dropped; the divisor loses one limb
  more (P·B).  c = 2^cnt is the normalising shift, c·c' = B.  The C hands to the approximate division
      N' = ⌊N/P⌋·c            (tdiv_q.c:208: the dividend is truncated FIRST, then shifted),
      D' = ⌊D·c/(P·B)⌋        (tdiv_q.c:214-215: top limbs shifted, bits of the next limb shifted in),
  D' normalised on qn+1 limbs (B^(qn+1) ≤ 2·D'), and N < D·B^qn (the quotient has at most qn limbs).
  The callee returns Q' with ⌊N'/D'⌋ ≤ Q' ≤ ⌊N'/D'⌋ + E.  Then, with Q = ⌊N/D⌋:
      B·Q ≤ ⌊N'/D'⌋ ≤ B·(Q+1) + 1          (`trunc_lower`, `trunc_upper`)
  i.e. truncating both operands makes the estimate at most "one unit of the guard limb past B·(Q+1)", so
      Q ≤ ⌊Q'/B⌋ ≤ Q+1   and   ⌊Q'/B⌋ = Q+1  ⇒  Q' mod B ≤ E + 1      (`truncated_quotient_budget` in Props/C02_tdivq.lean).
  The test `tp[0] <= 4` of tdiv_q.c:280 is therefore sufficient exactly as long as E + 1 ≤ 4.
-/
import MpirProofs.Lemmas.Base
import Mathlib.Tactic.Ring
import Mathlib.Tactic.Linarith
import Mathlib.Tactic.NormNum
namespace Mpir.TdivQ
open Mpir

/-- (a) the truncated estimate is never too small: B·⌊N/D⌋ ≤ ⌊N'/D'⌋.  Needs c | B (the shift is by whole bits of a
    limb): the dividend is truncated before it is shifted, so its low `cnt` bits are lost. -/
theorem trunc_lower (N D P c c' : Nat) (hP : 0 < P) (hc : c * c' = B)
    (hD' : 0 < D * c / (P * B)) :
    B * (N / D) ≤ N / P * c / (D * c / (P * B)) := by
  have hc0 : 0 < c := by
    rcases Nat.eq_zero_or_pos c with h | h
    · rw [h, Nat.zero_mul] at hc; exact absurd hc.symm (Nat.ne_of_gt B_pos)
    · exact h
  set D' := D * c / (P * B) with hD'def
  set Q := N / D with hQ
  have h1 : D' * (P * B) ≤ D * c := Nat.div_mul_le_self _ _
  have h2 : Q * D ≤ N := Nat.div_mul_le_self _ _
  -- D'·P·c' ≤ D
  have h3 : D' * P * c' ≤ D := by
    have : D' * P * c' * c ≤ D * c := by
      calc D' * P * c' * c = D' * (P * (c * c')) := by ring
        _ = D' * (P * B) := by rw [hc]
        _ ≤ D * c := h1
    exact Nat.le_of_mul_le_mul_right this hc0
  -- Q·D'·c' ≤ N/P
  have h4 : Q * D' * c' ≤ N / P := by
    rw [Nat.le_div_iff_mul_le hP]
    calc Q * D' * c' * P = Q * (D' * P * c') := by ring
      _ ≤ Q * D := Nat.mul_le_mul_left _ h3
      _ ≤ N := h2
  rw [Nat.le_div_iff_mul_le hD']
  calc B * Q * D' = Q * D' * c' * c := by rw [← hc]; ring
    _ ≤ N / P * c := Nat.mul_le_mul_right _ h4

/-- (b) the truncated estimate exceeds B·(⌊N/D⌋+1) by less than 2: N' < D'·(B·(Q+1) + 2).
    The "2" is 2·D'/B^(qn+1)-normalisation times the relative size (Q+1)/B^qn ≤ 1 of the quotient. -/
theorem trunc_upper (N D P c qn : Nat) (hP : 0 < P)
    (hnorm : B ^ (qn + 1) ≤ 2 * (D * c / (P * B))) (hND : N < D * B ^ qn) :
    N / P * c < D * c / (P * B) * (B * (N / D + 1) + 2) := by
  have hD0 : 0 < D := Nat.pos_of_ne_zero fun h => by simp [h] at hND
  have hc0 : 0 < c := Nat.pos_of_ne_zero fun h => by
    have := Nat.pow_pos (n := qn + 1) B_pos
    rw [h, Nat.mul_zero, Nat.zero_div, Nat.mul_zero] at hnorm; omega
  have h1 : N < D * (N / D + 1) := Nat.lt_mul_div_succ N hD0
  have h2 : D * c < P * B * (D * c / (P * B) + 1) := Nat.lt_mul_div_succ (D * c) (Nat.mul_pos hP B_pos)
  have h3 : (N / D + 1) * B * P ≤ 2 * (D * c / (P * B)) * P := by
    apply Nat.mul_le_mul_right
    calc (N / D + 1) * B ≤ B ^ qn * B := Nat.mul_le_mul_right _ (Nat.div_lt_of_lt_mul hND)
      _ ≤ 2 * (D * c / (P * B)) := hnorm
  generalize D * c / (P * B) = D' at *
  generalize N / D = Q at *
  -- N'·P ≤ N·c < (Q+1)·D·c < (Q+1)·(D'+1)·P·B and (Q+1)·B·P ≤ 2·D'·P
  apply Nat.lt_of_mul_lt_mul_right (a := P)
  calc N / P * c * P = N / P * P * c := by ring
    _ ≤ N * c := Nat.mul_le_mul_right _ (Nat.div_mul_le_self _ _)
    _ < D * (Q + 1) * c := Nat.mul_lt_mul_of_pos_right h1 hc0
    _ = (Q + 1) * (D * c) := by ring
    _ ≤ (Q + 1) * (P * B * (D' + 1)) := Nat.mul_le_mul_left _ (Nat.le_of_lt h2)
    _ = D' * (B * (Q + 1)) * P + (Q + 1) * B * P := by ring
    _ ≤ D' * (B * (Q + 1)) * P + 2 * D' * P := Nat.add_le_add_left h3 _
    _ = D' * (B * (Q + 1) + 2) * P := by ring

/-- (c) tdiv_q.c:289: once the candidate Qh is ⌊N/D⌋ or ⌊N/D⌋+1, the comparison `N < D·Qh` decides the decrement -/
theorem cmp_decides (N D Qh : Nat) (hD : 0 < D) (h1 : N / D ≤ Qh) (h2 : Qh ≤ N / D + 1) :
    N < D * Qh ↔ Qh = N / D + 1 := by
  constructor
  · intro h
    rcases Nat.lt_or_ge (N / D) Qh with h3 | h3
    · omega
    · have : Qh = N / D := by omega
      rw [this] at h
      exact absurd h (Nat.not_lt.mpr (Nat.mul_div_le N D))
  · intro h; rw [h]; exact Nat.lt_mul_div_succ N hD

/-- the bits shifted in at tdiv_q.c:215: ⌊D·c/(P·B)⌋ = ⌊D/(P·B)⌋·c + ⌊x/c'⌋ with x = the limb of D of weight P -/
theorem shift_in (D P c c' : Nat) (hP : 0 < P) (hc : c * c' = B) :
    D * c / (P * B) = D / (P * B) * c + (D / P % B) / c' := by
  have hc'0 : 0 < c' := Nat.pos_of_ne_zero fun h => by
    rw [h, Nat.mul_zero] at hc; exact absurd hc.symm (Nat.ne_of_gt B_pos)
  have hc0 : 0 < c := Nat.pos_of_ne_zero fun h => by
    rw [h, Nat.zero_mul] at hc; exact absurd hc.symm (Nat.ne_of_gt B_pos)
  have e1 : D = D / P * P + D % P := (Nat.div_add_mod' D P).symm
  have e2 : D / P = D / (P * B) * B + D / P % B := by
    rw [← Nat.div_div_eq_div_mul]; exact (Nat.div_add_mod' (D / P) B).symm
  have e3 : D / P % B = D / P % B / c' * c' + D / P % B % c' := (Nat.div_add_mod' _ c').symm
  have hl : D % P < P := Nat.mod_lt _ hP
  have hxl : D / P % B % c' < c' := Nat.mod_lt _ hc'0
  generalize D / (P * B) = Dh at *
  generalize D % P = Dl at *
  generalize D / P % B / c' = xh at *
  generalize D / P % B % c' = xl at *
  -- D·c = (Dh·c + xh)·(P·B) + rest, rest < P·B
  have key : D * c = xl * c * P + Dl * c + (Dh * c + xh) * (P * B) := by
    rw [e1, e2, e3, ← hc]; ring
  have hr : xl * c * P + Dl * c < P * B := by
    calc xl * c * P + Dl * c < xl * c * P + P * c := Nat.add_lt_add_left (Nat.mul_lt_mul_of_pos_right hl hc0) _
      _ = (xl + 1) * (c * P) := by ring
      _ ≤ c' * (c * P) := Nat.mul_le_mul_right _ hxl
      _ = P * (c * c') := by ring
      _ = P * B := by rw [hc]
  rw [key, Nat.add_mul_div_right _ _ (Nat.mul_pos hP B_pos), Nat.div_eq_of_lt hr, Nat.zero_add]

/-- no extra limb (N' < B^(2q+1)) and D' normalised on q+1 limbs: the quotient plus any error ≤ 3 still fits q+1 limbs -/
theorem quot_plus_err_fits (N' D' q e : Nat) (hnorm : B ^ (q + 1) ≤ 2 * D') (h1 : N' < B ^ (2 * q + 1)) (he : e ≤ 3) :
    N' / D' + e < B ^ (q + 1) := by
  have hpowN : B ^ (2 * q + 1) = B ^ q * B ^ (q + 1) := by rw [← pow_add]; congr 1; omega
  have h2 : N' < D' * (2 * B ^ q) := by
    have : B ^ q * B ^ (q + 1) ≤ B ^ q * (2 * D') := Nat.mul_le_mul_left _ hnorm
    rw [hpowN] at h1
    calc _ < _ := h1
      _ ≤ _ := this
      _ = _ := by ring
  have h3 : N' / D' < 2 * B ^ q := Nat.div_lt_of_lt_mul h2
  have h4 : 1 ≤ B ^ q := Bpow_pos _
  have h5 : B ^ (q + 1) = B ^ q * B := pow_succ _ _
  have h6 : 5 ≤ B := by simp only [B_eq]; omega
  have h7 : B ^ q * 5 ≤ B ^ q * B := Nat.mul_le_mul_left _ h6
  omega

end Mpir.TdivQ
