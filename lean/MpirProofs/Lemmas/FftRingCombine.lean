/- FFT ring layer: mpir_fft_combine_limbs / mpir_fft_combine_bits — accumulation of Σ c_j·2^(j·bits). -/
import MpirProofs.Lemmas.FftRingSplit
namespace Mpir.Fft
open Mpir

/-! ### adding into a window of the destination -/

theorem onWin_parts (res : List Nat) (off len : Nat) (h : off + len ≤ res.length) :
    res = res.take off ++ sl res off (off + len) ++ res.drop (off + len) ∧
    (res.take off).length = off ∧ (sl res off (off + len)).length = len := by
  refine ⟨?_, by simp; omega, by unfold sl; simp; omega⟩
  unfold sl
  rw [Nat.add_sub_cancel_left, List.append_assoc, ← List.drop_drop, List.take_append_drop, List.take_append_drop]

/-- one accumulation step: `f` adds `T` into any window of `len` limbs, `c` is the carry out of the window -/
theorem win_step (res : List Nat) (off len : Nat) (f : List Nat → List Nat) (T : Nat)
    (hres : Limbs res) (h : off + len ≤ res.length)
    (hf : ∀ w, Limbs w → w.length = len →
      (f w).length = len ∧ Limbs (f w) ∧ ∃ c, val (f w) + B ^ len * c = val w + T) :
    (onWin res off len f).length = res.length ∧ Limbs (onWin res off len f) ∧
    ∃ c, val (onWin res off len f) + B ^ (off + len) * c = val res + B ^ off * T := by
  obtain ⟨hparts, l1, l2⟩ := onWin_parts res off len h
  obtain ⟨fl, fL, c, fc⟩ := hf _ (by unfold sl; exact Limbs_take (Limbs_drop hres _) _) l2
  have hL : Limbs (res.take off) ∧ Limbs (res.drop (off + len)) := ⟨Limbs_take hres _, Limbs_drop hres _⟩
  refine ⟨?_, ?_, c, ?_⟩
  · unfold onWin; rw [List.length_append, List.length_append, fl, l1, List.length_drop]; omega
  · unfold onWin; exact Limbs_append.mpr ⟨Limbs_append.mpr ⟨hL.1, fL⟩, hL.2⟩
  · have e1 : val (onWin res off len f) = val (res.take off) + B ^ off * val (f (sl res off (off + len))) +
        B ^ (off + len) * val (res.drop (off + len)) := by
      unfold onWin; rw [val_append, val_append, List.length_append, l1, fl]
    have e2 : val res = val (res.take off) + B ^ off * val (sl res off (off + len)) +
        B ^ (off + len) * val (res.drop (off + len)) := by
      conv_lhs => rw [hparts]
      rw [val_append, val_append, List.length_append, l1, l2]
    rw [e1, e2, pow_add]
    zify at fc ⊢
    linear_combination (B : Int) ^ off * fc

theorem win_exact (res : List Nat) (off len : Nat) (f : List Nat → List Nat) (T : Nat)
    (hres : Limbs res) (h : off + len ≤ res.length)
    (hf : ∀ w, Limbs w → w.length = len →
      (f w).length = len ∧ Limbs (f w) ∧ ∃ c, val (f w) + B ^ len * c = val w + T)
    (hsmall : val res + B ^ off * T < B ^ (off + len)) :
    (onWin res off len f).length = res.length ∧ Limbs (onWin res off len f) ∧
    val (onWin res off len f) = val res + B ^ off * T := by
  obtain ⟨a, b, c, hc⟩ := win_step res off len f T hres h hf
  exact ⟨a, b, (carry_zero hc hsmall).2⟩

theorem win_end (res : List Nat) (off len : Nat) (f : List Nat → List Nat) (T : Nat)
    (hres : Limbs res) (h : off + len = res.length)
    (hf : ∀ w, Limbs w → w.length = len →
      (f w).length = len ∧ Limbs (f w) ∧ ∃ c, val (f w) + B ^ len * c = val w + T) :
    (onWin res off len f).length = res.length ∧ Limbs (onWin res off len f) ∧
    val (onWin res off len f) ≡ val res + B ^ off * T [MOD B ^ res.length] := by
  obtain ⟨a, b, c, hc⟩ := win_step res off len f T hres (by omega) hf
  refine ⟨a, b, ?_⟩
  rw [h] at hc
  have : val (onWin res off len f) + B ^ res.length * c ≡ val (onWin res off len f) [MOD B ^ res.length] := by
    unfold Nat.ModEq; rw [Nat.add_mul_mod_self_left]
  exact this.symm.trans (by rw [hc])

theorem adder_add_n (w t : List Nat) (n : Nat) (hw : Limbs w) (ht : Limbs t) (hn : w.length = n) (hl : t.length = n) :
    (add_n w t).1.length = n ∧ Limbs (add_n w t).1 ∧ ∃ c, val (add_n w t).1 + B ^ n * c = val w + val t := by
  subst hn
  obtain ⟨a1, _, a3, a4⟩ := addNC_val w t 0 hw ht hl.symm (by omega)
  exact ⟨a4, a3, _, by unfold add_n; omega⟩

theorem adder_add (w y : List Nat) (n : Nat) (hw : Limbs w) (hy : Limbs y) (hn : w.length = n) (hl : y.length ≤ n) :
    (add w y).1.length = n ∧ Limbs (add w y).1 ∧ ∃ c, val (add w y).1 + B ^ n * c = val w + val y := by
  subst hn
  obtain ⟨a1, _, a3, a4⟩ := add_val' w y hw hy hl
  exact ⟨a4, a3, _, a1⟩

/-! ### mpir_fft_combine_bits (combine_bits.c) -/

/-- coefficient buffers of ol+1 proper limbs -/
def CoeffsIn (ol : Nat) (cs : List (List Nat)) : Prop := ∀ c ∈ cs, c.length = ol + 1 ∧ Limbs c
/-- … whose value fits ol limbs (top limb zero): what the first loop needs so that no carry leaves a window -/
def CoeffsSmall (ol : Nat) (cs : List (List Nat)) : Prop := ∀ c ∈ cs, c.length = ol + 1 ∧ Limbs c ∧ val c < B ^ ol

theorem CoeffsSmall.toIn {ol : Nat} {cs : List (List Nat)} (h : CoeffsSmall ol cs) : CoeffsIn ol cs :=
  fun c hc => ⟨(h c hc).1, (h c hc).2.1⟩

theorem advance_spec (coeff topBits ptr shift : Nat) (ht : topBits < 64) (hs : shift < 64) :
    64 * (advance coeff topBits ptr shift).1 + (advance coeff topBits ptr shift).2 =
      64 * ptr + shift + (64 * (coeff - 1) + topBits) ∧
    (advance coeff topBits ptr shift).2 < 64 ∧ ptr ≤ (advance coeff topBits ptr shift).1 := by
  unfold advance; simp only
  split <;> simp only <;> omega

theorem combineBits2_cons (coeff topBits ol : Nat) (c : List Nat) (cs : List (List Nat)) (res : List Nat) (ptr shift : Nat) :
    combineBits2 coeff topBits ol (c :: cs) res ptr shift =
      if ptr < res.length then
        combineBits2 coeff topBits ol cs
          (if shift ≠ 0 then
            onWin res ptr (res.length - ptr) (fun w => (add_n w ((lshift (c.take (ol + 1)) shift).1.take (res.length - ptr))).1)
           else onWin res ptr (res.length - ptr) (fun w => (add_n w (c.take (res.length - ptr))).1))
          (advance coeff topBits ptr shift).1 (advance coeff topBits ptr shift).2
      else res := rfl

/-- a term whose weight is a multiple of the modulus does not change the residue: what happens past the end of
    the destination -/
theorem past_end (v P : Nat) {X n : Nat} (h : n ∣ X) : v ≡ v + X * P [MOD n] :=
  ((Nat.ModEq.refl v).add (Nat.modEq_zero_iff_dvd.mpr (Dvd.dvd.mul_right h P))).symm

/-- a term cut off at the end of the destination -/
theorem trunc_term (p n v : Nat) (h : p ≤ n) : B ^ p * (v % B ^ (n - p)) ≡ B ^ p * v [MOD B ^ n] := by
  have := (Nat.mod_modEq v (B ^ (n - p))).mul_left' (B ^ p)
  rwa [← pow_add, Nat.add_sub_cancel' h] at this

/-- the shifted coefficient `temp` (combine_bits.c:77, :95) -/
theorem lshift_coeff (c : List Nat) (ol shift : Nat) (hc : c.length = ol + 1) (hL : Limbs c) (hs : shift < 64) :
    (lshift (c.take (ol + 1)) shift).1.length = ol + 1 ∧ Limbs (lshift (c.take (ol + 1)) shift).1 ∧
    val (lshift (c.take (ol + 1)) shift).1 ≡ val c * 2 ^ shift [MOD B ^ (ol + 1)] ∧
    (val c < B ^ ol → val (lshift (c.take (ol + 1)) shift).1 = val c * 2 ^ shift) := by
  have e : c.take (ol + 1) = c := List.take_of_length_le (by omega)
  rw [e]
  obtain ⟨lv, lc, ll, ln⟩ := lshiftGo_val shift (by omega) c 0 hL (by positivity)
  unfold lshift
  rw [hc, Nat.add_zero] at lv
  rw [hc] at ln
  generalize (lshiftGo shift c 0).1 = t at *
  generalize (lshiftGo shift c 0).2 = out at *
  refine ⟨ln, ll, ?_, ?_⟩
  · have : val t + B ^ (ol + 1) * out ≡ val t [MOD B ^ (ol + 1)] := by
      unfold Nat.ModEq; rw [Nat.add_mul_mod_self_left]
    rw [lv] at this; exact this.symm
  · intro hsm
    have h2 : 2 ^ shift < B := by
      have : (2 : Nat) ^ shift < 2 ^ 64 := Nat.pow_lt_pow_right (by norm_num) hs
      exact this
    have hlt : val c * 2 ^ shift < B ^ ol * B := Nat.mul_lt_mul'' hsm h2
    rw [pow_succ] at lv
    exact (carry_zero lv hlt).2

theorem combineBits2_spec (coeff topBits ol : Nat) (hc : 1 ≤ coeff) (ht : topBits < 64) :
    ∀ (cs : List (List Nat)) (res : List Nat) (ptr shift : Nat), Limbs res → shift < 64 → CoeffsIn ol cs →
      res.length ≤ ptr + ol + 1 →
      (combineBits2 coeff topBits ol cs res ptr shift).length = res.length ∧
      Limbs (combineBits2 coeff topBits ol cs res ptr shift) ∧
      val (combineBits2 coeff topBits ol cs res ptr shift) ≡
        val res + 2 ^ (64 * ptr + shift) * polyEval (64 * (coeff - 1) + topBits) cs [MOD B ^ res.length]
  | [], res, ptr, shift, hr, _, _, _ => by
    exact ⟨rfl, hr, by simp only [polyEval, Nat.mul_zero, Nat.add_zero]; exact Nat.ModEq.refl _⟩
  | c :: cs, res, ptr, shift, hr, hs, hcs, hwin => by
    rw [combineBits2_cons]
    have ⟨hcl, hcL⟩ := hcs c (List.mem_cons_self ..)
    have hcs' : CoeffsIn ol cs := fun d hd => hcs d (List.mem_cons_of_mem _ hd)
    obtain ⟨av, as, ap⟩ := advance_spec coeff topBits ptr shift ht hs
    by_cases hp : ptr < res.length
    · rw [if_pos hp]
      have hm : ptr + (res.length - ptr) = res.length := by omega
      -- the step, in both forms: the new destination res' with val res' ≡ val res + 2^bitpos · val c
      have hstep : ∃ res', (if shift ≠ 0 then
            onWin res ptr (res.length - ptr) (fun w => (add_n w ((lshift (c.take (ol + 1)) shift).1.take (res.length - ptr))).1)
           else onWin res ptr (res.length - ptr) (fun w => (add_n w (c.take (res.length - ptr))).1)) = res' ∧
          res'.length = res.length ∧ Limbs res' ∧
          val res' ≡ val res + 2 ^ (64 * ptr + shift) * val c [MOD B ^ res.length] := by
        by_cases hs0 : shift = 0
        · subst hs0
          simp only [ne_eq, not_true_eq_false, ↓reduceIte]
          have htl : (c.take (res.length - ptr)).length = res.length - ptr := by simp; omega
          obtain ⟨r1, r2, r3⟩ := win_end res ptr (res.length - ptr)
            (fun w => (add_n w (c.take (res.length - ptr))).1) (val (c.take (res.length - ptr))) hr hm
            (fun w hw hl => adder_add_n w _ _ hw (Limbs_take hcL _) hl htl)
          refine ⟨_, rfl, r1, r2, r3.trans ?_⟩
          apply Nat.ModEq.add_left
          rw [Nat.add_zero, ← B_pow ptr, val_take_eq_mod _ hcL]
          exact trunc_term _ _ _ (le_of_lt hp)
        · simp only [hs0, ne_eq, not_false_eq_true, ↓reduceIte]
          obtain ⟨tl, tL, tv, _⟩ := lshift_coeff c ol shift hcl hcL hs
          have htl : ((lshift (c.take (ol + 1)) shift).1.take (res.length - ptr)).length = res.length - ptr := by
            simp; omega
          obtain ⟨r1, r2, r3⟩ := win_end res ptr (res.length - ptr)
            (fun w => (add_n w ((lshift (c.take (ol + 1)) shift).1.take (res.length - ptr))).1)
            (val ((lshift (c.take (ol + 1)) shift).1.take (res.length - ptr))) hr hm
            (fun w hw hl => adder_add_n w _ _ hw (Limbs_take tL _) hl htl)
          refine ⟨_, rfl, r1, r2, r3.trans ?_⟩
          apply Nat.ModEq.add_left
          rw [val_take_eq_mod _ tL, two_pow_bits, Nat.mul_assoc]
          have hdvd : B ^ (res.length - ptr) ∣ B ^ (ol + 1) := pow_dvd_pow _ (by omega)
          have m1 := (Nat.mod_modEq (val (lshift (c.take (ol + 1)) shift).1) (B ^ (res.length - ptr)))
          have m2 := (m1.trans (tv.of_dvd hdvd)).mul_left' (B ^ ptr)
          rw [← pow_add, hm, Nat.mul_comm (val c)] at m2
          exact m2
      obtain ⟨res', e, l', L', v'⟩ := hstep
      rw [e]
      obtain ⟨i1, i2, i3⟩ := combineBits2_spec coeff topBits ol hc ht cs res' (advance coeff topBits ptr shift).1
        (advance coeff topBits ptr shift).2 L' as hcs' (by rw [l']; omega)
      rw [l'] at i1 i3
      refine ⟨i1, i2, i3.trans ?_⟩
      rw [av, polyEval, pow_add]
      have := v'.add_right (2 ^ (64 * ptr + shift) * 2 ^ (64 * (coeff - 1) + topBits) * polyEval (64 * (coeff - 1) + topBits) cs)
      refine this.trans ?_
      rw [Nat.mul_add, Nat.add_assoc, Nat.mul_assoc]
    · rw [if_neg hp]
      exact ⟨rfl, hr, past_end _ _ (by rw [B_pow]; exact pow_dvd_pow _ (by omega))⟩

theorem combineBits1_cons (coeff topBits ol : Nat) (c : List Nat) (cs : List (List Nat)) (res : List Nat) (ptr shift : Nat) :
    combineBits1 coeff topBits ol (c :: cs) res ptr shift =
      if ptr + ol + 1 < res.length then
        combineBits1 coeff topBits ol cs
          (if shift ≠ 0 then
            onWin res ptr (ol + 1) (fun w => (add_n w (lshift (c.take (ol + 1)) shift).1).1)
           else onWin res ptr (ol + 1) (fun w => (add w (c.take ol)).1))
          (advance coeff topBits ptr shift).1 (advance coeff topBits ptr shift).2
      else combineBits2 coeff topBits ol (c :: cs) res ptr shift := rfl

/-- the sum so far and the new term both lie below 2^(bitpos + 64·ol): no carry leaves the window, and the
    invariant holds again one coefficient further -/
theorem acc_bound (v T ptr shift ol bits : Nat) (hs : shift < 64) (hb : 1 ≤ bits)
    (hv : v < 2 ^ (64 * ptr + shift + 64 * ol)) (hT : T < 2 ^ (64 * ol)) :
    v + 2 ^ (64 * ptr + shift) * T < B ^ (ptr + (ol + 1)) ∧
    v + 2 ^ (64 * ptr + shift) * T < 2 ^ (64 * ptr + shift + bits + 64 * ol) := by
  have h1 : 2 ^ (64 * ptr + shift) * T < 2 ^ (64 * ptr + shift + 64 * ol) := by
    rw [pow_add 2 (64 * ptr + shift) (64 * ol)]; exact Nat.mul_lt_mul_of_pos_left hT (Nat.two_pow_pos _)
  have h2 : v + 2 ^ (64 * ptr + shift) * T < 2 ^ (64 * ptr + shift + 64 * ol + 1) := by
    rw [pow_succ]; linarith
  constructor
  · rw [B_pow]
    exact lt_of_lt_of_le h2 (Nat.pow_le_pow_right (by norm_num) (by omega))
  · exact lt_of_lt_of_le h2 (Nat.pow_le_pow_right (by norm_num) (by omega))

theorem combineBits1_spec (coeff topBits ol : Nat) (hc : 1 ≤ coeff) (ht : topBits < 64)
    (hb : 1 ≤ 64 * (coeff - 1) + topBits) :
    ∀ (cs : List (List Nat)) (res : List Nat) (ptr shift : Nat), Limbs res → shift < 64 → CoeffsSmall ol cs →
      val res < 2 ^ (64 * ptr + shift + 64 * ol) →
      (combineBits1 coeff topBits ol cs res ptr shift).length = res.length ∧
      Limbs (combineBits1 coeff topBits ol cs res ptr shift) ∧
      val (combineBits1 coeff topBits ol cs res ptr shift) ≡
        val res + 2 ^ (64 * ptr + shift) * polyEval (64 * (coeff - 1) + topBits) cs [MOD B ^ res.length]
  | [], res, ptr, shift, hr, _, _, _ => by
    exact ⟨rfl, hr, by simp only [polyEval, Nat.mul_zero, Nat.add_zero]; exact Nat.ModEq.refl _⟩
  | c :: cs, res, ptr, shift, hr, hs, hcs, hinv => by
    rw [combineBits1_cons]
    have ⟨hcl, hcL, hcv⟩ := hcs c (List.mem_cons_self ..)
    have hcs' : CoeffsSmall ol cs := fun d hd => hcs d (List.mem_cons_of_mem _ hd)
    obtain ⟨av, as, ap⟩ := advance_spec coeff topBits ptr shift ht hs
    by_cases hp : ptr + ol + 1 < res.length
    · rw [if_pos hp]
      have hcv' : val c < 2 ^ (64 * ol) := by rw [← B_pow]; exact hcv
      obtain ⟨ab1, ab2⟩ := acc_bound (val res) (val c) ptr shift ol _ hs hb hinv hcv'
      have hstep : ∃ res', (if shift ≠ 0 then
            onWin res ptr (ol + 1) (fun w => (add_n w (lshift (c.take (ol + 1)) shift).1).1)
           else onWin res ptr (ol + 1) (fun w => (add w (c.take ol)).1)) = res' ∧
          res'.length = res.length ∧ Limbs res' ∧
          val res' = val res + 2 ^ (64 * ptr + shift) * val c := by
        by_cases hs0 : shift = 0
        · subst hs0
          simp only [ne_eq, not_true_eq_false, ↓reduceIte]
          have htv : val (c.take ol) = val c := by
            rw [val_take_eq_mod _ hcL]; exact Nat.mod_eq_of_lt hcv
          have e0 : 2 ^ (64 * ptr + 0) = B ^ ptr := by rw [Nat.add_zero, B_pow]
          rw [e0] at ab1 ⊢
          obtain ⟨r1, r2, r3⟩ := win_exact res ptr (ol + 1) (fun w => (add w (c.take ol)).1) (val (c.take ol)) hr
            (by omega)
            (fun w hw hl => adder_add w _ _ hw (Limbs_take hcL _) hl (by simp))
            (by rw [htv]; exact ab1)
          exact ⟨_, rfl, r1, r2, by rw [r3, htv]⟩
        · simp only [hs0, ne_eq, not_false_eq_true, ↓reduceIte]
          obtain ⟨tl, tL, _, tv⟩ := lshift_coeff c ol shift hcl hcL hs
          have tv' := tv hcv
          have e0 : 2 ^ (64 * ptr + shift) * val c = B ^ ptr * val (lshift (c.take (ol + 1)) shift).1 := by
            rw [tv', two_pow_bits]; ring
          rw [e0] at ab1 ⊢
          obtain ⟨r1, r2, r3⟩ := win_exact res ptr (ol + 1) (fun w => (add_n w (lshift (c.take (ol + 1)) shift).1).1)
            (val (lshift (c.take (ol + 1)) shift).1) hr (by omega)
            (fun w hw hl => adder_add_n w _ _ hw tL hl tl)
            ab1
          exact ⟨_, rfl, r1, r2, r3⟩
      obtain ⟨res', e, l', L', v'⟩ := hstep
      rw [e]
      obtain ⟨i1, i2, i3⟩ := combineBits1_spec coeff topBits ol hc ht hb cs res' (advance coeff topBits ptr shift).1
        (advance coeff topBits ptr shift).2 L' as hcs' (by rw [av, v']; exact ab2)
      rw [l'] at i1 i3
      refine ⟨i1, i2, i3.trans ?_⟩
      rw [av, polyEval, pow_add, v', Nat.mul_add, Nat.add_assoc, Nat.mul_assoc]
    · rw [if_neg hp]
      exact combineBits2_spec coeff topBits ol hc ht (c :: cs) res ptr shift hr hs hcs.toIn (by omega)

/-! ### mpir_fft_combine_limbs -/

theorem combineLimbs2_cons (coeff ol : Nat) (c : List Nat) (cs : List (List Nat)) (res : List Nat) (skip : Nat) :
    combineLimbs2 coeff ol (c :: cs) res skip =
      if skip < res.length then
        combineLimbs2 coeff ol cs
          (onWin res skip (res.length - skip) (fun w => (add w (c.take (min (res.length - skip) ol))).1)) (skip + coeff)
      else res := rfl

theorem combineLimbs1_cons (coeff ol : Nat) (c : List Nat) (cs : List (List Nat)) (res : List Nat) (skip : Nat) :
    combineLimbs1 coeff ol (c :: cs) res skip =
      if skip + ol + 1 ≤ res.length then
        combineLimbs1 coeff ol cs (onWin res skip (ol + 1) (fun w => (add w (c.take ol)).1)) (skip + coeff)
      else combineLimbs2 coeff ol (c :: cs) res skip := rfl

theorem combineLimbs2_spec (coeff ol : Nat) :
    ∀ (cs : List (List Nat)) (res : List Nat) (skip : Nat), Limbs res → CoeffsIn ol cs →
      res.length ≤ skip + ol →
      (combineLimbs2 coeff ol cs res skip).length = res.length ∧
      Limbs (combineLimbs2 coeff ol cs res skip) ∧
      val (combineLimbs2 coeff ol cs res skip) ≡
        val res + B ^ skip * polyEval (64 * coeff) cs [MOD B ^ res.length]
  | [], res, skip, hr, _, _ => by
    exact ⟨rfl, hr, by simp only [polyEval, Nat.mul_zero, Nat.add_zero]; exact Nat.ModEq.refl _⟩
  | c :: cs, res, skip, hr, hcs, hwin => by
    rw [combineLimbs2_cons]
    have ⟨hcl, hcL⟩ := hcs c (List.mem_cons_self ..)
    have hcs' : CoeffsIn ol cs := fun d hd => hcs d (List.mem_cons_of_mem _ hd)
    by_cases hp : skip < res.length
    · rw [if_pos hp]
      have hm : skip + (res.length - skip) = res.length := by omega
      have hmin : min (res.length - skip) ol = res.length - skip := by omega
      rw [hmin]
      have htl : (c.take (res.length - skip)).length = res.length - skip := by simp; omega
      obtain ⟨r1, r2, r3⟩ := win_end res skip (res.length - skip)
        (fun w => (add w (c.take (res.length - skip))).1) (val (c.take (res.length - skip))) hr hm
        (fun w hw hl => adder_add w _ _ hw (Limbs_take hcL _) hl (le_of_eq htl))
      obtain ⟨i1, i2, i3⟩ := combineLimbs2_spec coeff ol cs _ (skip + coeff) r2 hcs' (by rw [r1]; omega)
      rw [r1] at i1 i3
      refine ⟨i1, i2, i3.trans ?_⟩
      have hv : val (onWin res skip (res.length - skip) (fun w => (add w (c.take (res.length - skip))).1)) ≡
          val res + B ^ skip * val c [MOD B ^ res.length] := by
        refine r3.trans (Nat.ModEq.add_left _ ?_)
        rw [val_take_eq_mod _ hcL]; exact trunc_term _ _ _ (le_of_lt hp)
      rw [polyEval, pow_add, ← B_pow coeff, Nat.mul_add, ← Nat.add_assoc, ← Nat.mul_assoc]
      exact hv.add_right _
    · rw [if_neg hp]
      exact ⟨rfl, hr, past_end _ _ (pow_dvd_pow _ (by omega))⟩

theorem combineLimbs1_spec (coeff ol : Nat) (hc : 1 ≤ coeff) :
    ∀ (cs : List (List Nat)) (res : List Nat) (skip : Nat), Limbs res → CoeffsSmall ol cs →
      val res < 2 ^ (64 * skip + 0 + 64 * ol) →
      (combineLimbs1 coeff ol cs res skip).length = res.length ∧
      Limbs (combineLimbs1 coeff ol cs res skip) ∧
      val (combineLimbs1 coeff ol cs res skip) ≡
        val res + B ^ skip * polyEval (64 * coeff) cs [MOD B ^ res.length]
  | [], res, skip, hr, _, _ => by
    exact ⟨rfl, hr, by simp only [polyEval, Nat.mul_zero, Nat.add_zero]; exact Nat.ModEq.refl _⟩
  | c :: cs, res, skip, hr, hcs, hinv => by
    rw [combineLimbs1_cons]
    have ⟨hcl, hcL, hcv⟩ := hcs c (List.mem_cons_self ..)
    have hcs' : CoeffsSmall ol cs := fun d hd => hcs d (List.mem_cons_of_mem _ hd)
    by_cases hp : skip + ol + 1 ≤ res.length
    · rw [if_pos hp]
      have hcv' : val c < 2 ^ (64 * ol) := by rw [← B_pow]; exact hcv
      obtain ⟨ab1, ab2⟩ := acc_bound (val res) (val c) skip 0 ol (64 * coeff) (by norm_num) (by omega) hinv hcv'
      have htv : val (c.take ol) = val c := by
        rw [val_take_eq_mod _ hcL]; exact Nat.mod_eq_of_lt hcv
      have e0 : 2 ^ (64 * skip + 0) = B ^ skip := by rw [Nat.add_zero, B_pow]
      rw [e0] at ab1 ab2
      obtain ⟨r1, r2, r3⟩ := win_exact res skip (ol + 1) (fun w => (add w (c.take ol)).1) (val (c.take ol)) hr
        (by omega)
        (fun w hw hl => adder_add w _ _ hw (Limbs_take hcL _) hl (by simp))
        (by rw [htv]; exact ab1)
      rw [htv] at r3
      obtain ⟨i1, i2, i3⟩ := combineLimbs1_spec coeff ol hc cs _ (skip + coeff) r2 hcs'
        (by rw [r3]; refine lt_of_lt_of_eq ab2 ?_; congr 1; ring)
      rw [r1] at i1 i3
      refine ⟨i1, i2, i3.trans ?_⟩
      rw [r3, polyEval, pow_add, ← B_pow coeff, Nat.mul_add, ← Nat.add_assoc, ← Nat.mul_assoc]
    · rw [if_neg hp]
      exact combineLimbs2_spec coeff ol (c :: cs) res skip hr hcs.toIn (by omega)

/-! ### the whole function; split then combine -/

/-- mpir_fft_combine_bits into a zeroed destination: Σ c_j·2^(j·bits) truncated to the destination length,
    for coefficients whose value fits ol limbs -/
theorem combine_bits_spec (res : List Nat) (cs : List (List Nat)) (bits ol : Nat) (hr : Limbs res)
    (hz : val res = 0) (hb : 1 ≤ bits) (hcs : CoeffsSmall ol cs) :
    (combine_bits res cs bits ol).length = res.length ∧ Limbs (combine_bits res cs bits ol) ∧
    val (combine_bits res cs bits ol) = polyEval bits cs % B ^ res.length := by
  have hdm := Nat.div_add_mod bits 64
  have hinv : val res < 2 ^ (64 * 0 + 0 + 64 * ol) := by rw [hz]; exact Nat.two_pow_pos _
  have fin : ∀ R : List Nat, R.length = res.length → Limbs R →
      val R ≡ val res + 1 * polyEval bits cs [MOD B ^ res.length] → val R = polyEval bits cs % B ^ res.length := by
    intro R hl hL hm
    rw [hz, Nat.zero_add, Nat.one_mul] at hm
    have := val_lt R hL; rw [hl] at this
    rw [← Nat.mod_eq_of_lt this]; exact hm
  unfold combine_bits
  by_cases ht : bits % 64 = 0
  · simp only [ht, ↓reduceIte]
    have hbits : bits = 64 * (bits / 64) := by omega
    unfold combine_limbs
    obtain ⟨h1, h2, h3⟩ := combineLimbs1_spec (bits / 64) ol (by omega) cs res 0 hr hcs hinv
    rw [← hbits, pow_zero] at h3
    exact ⟨h1, h2, fin _ h1 h2 h3⟩
  · simp only [ht, ↓reduceIte]
    have hlt : bits % 64 < 64 := Nat.mod_lt _ (by norm_num)
    have hbits : 64 * (bits / 64 + 1 - 1) + bits % 64 = bits := by omega
    obtain ⟨h1, h2, h3⟩ := combineBits1_spec (bits / 64 + 1) (bits % 64) ol (by omega) hlt (by omega) cs res 0 0 hr
      (by norm_num) hcs hinv
    rw [hbits] at h3
    simp only [Nat.mul_zero, Nat.add_zero, pow_zero] at h3
    exact ⟨h1, h2, fin _ h1 h2 h3⟩

theorem val_inj (a b : List Nat) (ha : Limbs a) (hb : Limbs b) (hl : a.length = b.length) (hv : val a = val b) : a = b := by
  rw [← toLimbs_val a ha, ← toLimbs_val b hb, hl, hv]

theorem coeffsSmall_of_OK {bits ol : Nat} {cs : List (List Nat)} (h : CoeffsOK bits ol cs) (hb : bits ≤ 64 * ol) :
    CoeffsSmall ol cs := fun c hc =>
  ⟨(h c hc).1, (h c hc).2.1, lt_of_lt_of_le (h c hc).2.2 (by rw [B_pow]; exact Nat.pow_le_pow_right (by norm_num) hb)⟩

/-- splitting and recombining into a zeroed destination of the same length is the identity -/
theorem split_combine (x : List Nat) (bits ol : Nat) (hx : Limbs x) (hn : 1 ≤ x.length) (hb : 1 ≤ bits)
    (hol : bits ≤ 64 * ol) :
    combine_bits (List.replicate x.length 0) (split_bits x bits ol) bits ol = x := by
  obtain ⟨s1, s2, _⟩ := split_bits_spec x bits ol hx hn hb (by omega)
  have hz : Limbs (List.replicate x.length 0) := Limbs_replicate_zero _
  obtain ⟨c1, c2, c3⟩ := combine_bits_spec (List.replicate x.length 0) (split_bits x bits ol) bits ol hz
    (val_replicate_zero _) hb (coeffsSmall_of_OK s2 hol)
  simp only [List.length_replicate] at c1 c3
  apply val_inj _ _ c2 hx c1
  rw [c3, s1]; exact Nat.mod_eq_of_lt (val_lt x hx)

end Mpir.Fft
