/- What every other file uses about `val`, `Limbs`, `toLimbs`, `natLimbs`, `normalize` and powers of `B`; `Normalized` (top limb
   not zero) and `IsSize` (what each limb-count function of the models satisfies), each stated once for all its spellings. -/
import Mpir.Base
import Mathlib.Tactic.Ring
import Mathlib.Tactic.Linarith
namespace Mpir

/-! ### powers of `B`; a bit position is a limb position and a bit in that limb -/

theorem B_pos : 0 < B := by unfold B; positivity
theorem B_eq : B = 18446744073709551616 := by unfold B; norm_num
theorem B_eq_pow : B = 2 ^ 64 := rfl
theorem one_lt_B : 1 < B := by decide
theorem B_pow (n : Nat) : B ^ n = 2 ^ (64 * n) := by unfold B; rw [← Nat.pow_mul]
theorem Bpow_pos (n : Nat) : 0 < B ^ n := Nat.pow_pos B_pos

theorem two_le_Bpow (k : Nat) (hk : 1 ≤ k) : 2 ≤ B ^ k :=
  le_trans (by decide : 2 ≤ B) (Nat.le_self_pow (Nat.ne_of_gt hk) B)

theorem B_le_Bpow {k : Nat} (hk : 1 ≤ k) : B ≤ B ^ k := Nat.le_self_pow (by omega) B

theorem two_pow_split (i : Nat) : 2 ^ i = B ^ (i / 64) * 2 ^ (i % 64) := by
  rw [B_pow, ← Nat.pow_add]; congr 1; omega

theorem div_two_pow_split (a i : Nat) : a / 2 ^ i = a / B ^ (i / 64) / 2 ^ (i % 64) := by
  rw [Nat.div_div_eq_div_mul, ← two_pow_split]

theorem mod_two_pow_split (a i : Nat) :
    a % 2 ^ i = a % B ^ (i / 64) + B ^ (i / 64) * (a / B ^ (i / 64) % 2 ^ (i % 64)) := by
  rw [two_pow_split i, Nat.mod_mul]

/-! ### `val` and `Limbs` of `[]` and `x :: xs` -/

@[simp] theorem val_nil : val [] = 0 := rfl
@[simp] theorem val_cons (x : Nat) (xs : List Nat) : val (x :: xs) = x + B * val xs := rfl

theorem Limbs_nil : Limbs [] := by intro x hx; cases hx
theorem Limbs_cons {x : Nat} {xs : List Nat} : Limbs (x :: xs) ↔ x < B ∧ Limbs xs := by
  unfold Limbs; simp

/-! ### small arithmetic: a number in two parts `a + m * b` or `a * P + r`, a carry that must be zero, products against powers -/

theorem add_mul_lt {a b m n : Nat} (ha : a < m) (hb : b < n) : a + m * b < m * n :=
  calc a + m * b < m + m * b := Nat.add_lt_add_right ha _
    _ = m * (b + 1) := by rw [Nat.mul_succ, Nat.add_comm]
    _ ≤ m * n := Nat.mul_le_mul_left _ hb

theorem mod_of_split (a P r : Nat) (hr : r < P) : (a * P + r) % P = r := by
  rw [Nat.add_comm, Nat.add_mul_mod_self_right, Nat.mod_eq_of_lt hr]

theorem div_of_split (a P r : Nat) (hr : r < P) : (a * P + r) / P = a := by
  rw [Nat.add_comm, Nat.add_mul_div_right _ _ (Nat.zero_lt_of_lt hr), Nat.div_eq_of_lt hr, Nat.zero_add]

theorem mul_lt_mul_of_pow_bounds {b U V X Y r s p q : Nat} (hb : 0 < b) (hU : U < b ^ r) (hV : V ≤ b ^ s)
    (hX : b ^ p ≤ X) (hY : b ^ q ≤ Y) (h : r + s ≤ p + q) : U * V < X * Y :=
  calc U * V ≤ U * b ^ s := Nat.mul_le_mul_left U hV
    _ < b ^ r * b ^ s := Nat.mul_lt_mul_of_pos_right hU (Nat.pow_pos hb)
    _ = b ^ (r + s) := (pow_add b r s).symm
    _ ≤ b ^ (p + q) := Nat.pow_le_pow_right hb h
    _ = b ^ p * b ^ q := pow_add b _ _
    _ ≤ X * Y := Nat.mul_le_mul hX hY

theorem add_mul_mod_mul (a m b t : Nat) (ha : a < m) : (a + m * b) % (m * t) = a + m * (b % t) := by
  rw [Nat.mod_mul, Nat.add_mul_mod_self_left, Nat.mod_eq_of_lt ha, Nat.add_mul_div_left _ _ (Nat.zero_lt_of_lt ha),
    Nat.div_eq_of_lt ha, Nat.zero_add]

/-- a sum that fits below `P` has no carry out -/
theorem carry_zero {v P cy V : Nat} (h : v + P * cy = V) (hV : V < P) : cy = 0 ∧ v = V := by
  rcases Nat.eq_zero_or_pos cy with h0 | h0
  · rw [h0, Nat.mul_zero, Nat.add_zero] at h; exact ⟨h0, h⟩
  · have := Nat.le_mul_of_pos_right P h0; omega

theorem borrow_zero {a b r P c : Nat} (h : a + b = r + P * c) (ha : a < P) (hb : b ≤ r) : c = 0 ∧ a + b = r := by
  obtain ⟨h0, _⟩ := carry_zero (v := r - b) (P := P) (cy := c) (V := a) (by omega) ha
  subst h0; omega

theorem two_limb_lt {h l : Nat} (hh : h < B) (hl : l < B) : h * B + l < B * B := by
  rw [Nat.add_comm, Nat.mul_comm h]; exact add_mul_lt hl hh

theorem limbMask_and (d : Nat) (hd : d < B) : (B - 1) &&& d = d := by
  rw [Nat.and_comm, show B - 1 = 2 ^ 64 - 1 from rfl, Nat.and_two_pow_sub_one_eq_mod]; exact Nat.mod_eq_of_lt hd

/-! ### `val` and `Limbs` under the list operations -/

theorem val_lt : ∀ (l : List Nat), Limbs l → val l < B ^ l.length
  | [], _ => Nat.one_pos
  | x :: xs, h => by
    have ⟨hx, hxs⟩ := Limbs_cons.mp h
    rw [val_cons, List.length_cons, pow_succ']
    exact add_mul_lt hx (val_lt xs hxs)

theorem val_append (a b : List Nat) : val (a ++ b) = val a + B ^ a.length * val b := by
  induction a with
  | nil => simp
  | cons x xs ih => simp only [List.cons_append, val_cons, ih, List.length_cons, pow_succ]; ring

theorem Limbs_append {a b : List Nat} : Limbs (a ++ b) ↔ Limbs a ∧ Limbs b := by
  unfold Limbs; simp only [List.mem_append]
  constructor
  · intro h; exact ⟨fun x hx => h x (Or.inl hx), fun x hx => h x (Or.inr hx)⟩
  · rintro ⟨h1, h2⟩ x (hx | hx); exact h1 x hx; exact h2 x hx

theorem val_snoc (l : List Nat) (x : Nat) : val (l ++ [x]) = val l + B ^ l.length * x := by
  rw [val_append, val_cons, val_nil, Nat.mul_zero, Nat.add_zero]

theorem Limbs_snoc {xs : List Nat} {t : Nat} : Limbs (xs ++ [t]) ↔ Limbs xs ∧ t < B :=
  Limbs_append.trans (and_congr_right fun _ => Limbs_cons.trans (and_iff_left Limbs_nil))

theorem Limbs.snoc {l : List Nat} {x : Nat} (hl : Limbs l) (hx : x < B) : Limbs (l ++ [x]) := Limbs_snoc.mpr ⟨hl, hx⟩

theorem Limbs_take {l : List Nat} (h : Limbs l) (n : Nat) : Limbs (l.take n) :=
  fun x hx => h x (List.mem_of_mem_take hx)
theorem Limbs_drop {l : List Nat} (h : Limbs l) (n : Nat) : Limbs (l.drop n) :=
  fun x hx => h x (List.mem_of_mem_drop hx)

theorem Limbs_reverse {l : List Nat} (h : Limbs l) : Limbs l.reverse :=
  fun x hx => h x (List.mem_reverse.mp hx)

theorem Limbs_set {l : List Nat} (hl : Limbs l) (i y : Nat) (hy : y < B) : Limbs (l.set i y) := by
  intro x hx
  rcases List.mem_or_eq_of_mem_set hx with h | h
  · exact hl x h
  · exact h ▸ hy

theorem getD_lt {l : List Nat} (hl : Limbs l) (i : Nat) : l.getD i 0 < B := by
  rw [List.getD_eq_getElem?_getD]
  cases h : l[i]? with
  | none => exact B_pos
  | some x => exact hl x (List.mem_of_getElem? h)

theorem val_split (l : List Nat) (n : Nat) : val l = val (l.take n) + B ^ n * val (l.drop n) := by
  conv_lhs => rw [← List.take_append_drop n l]
  rw [val_append, List.length_take]
  rcases Nat.le_total n l.length with h | h
  · rw [Nat.min_eq_left h]
  · rw [List.drop_of_length_le h, val_nil, Nat.mul_zero, Nat.mul_zero]

/-- `val_split` under a hypothesis it does not need -/
theorem val_take_drop (l : List Nat) (n : Nat) (_hn : n ≤ l.length) :
    val l = val (l.take n) + B ^ n * val (l.drop n) := val_split l n

theorem val_take_succ (l : List Nat) (n : Nat) :
    val (l.take (n + 1)) = val (l.take n) + B ^ n * l.getD n 0 := by
  induction l generalizing n with
  | nil => simp
  | cons x xs ih =>
    cases n with
    | zero => simp
    | succ k =>
      simp only [List.take_succ_cons, val_cons, List.getD_cons_succ]
      rw [ih k, pow_succ]; ring

/-! ### the zero vector; `toLimbs` (a number as exactly n limbs) -/

theorem val_replicate_zero : ∀ (k : Nat), val (List.replicate k 0) = 0
  | 0 => rfl
  | k + 1 => by rw [List.replicate_succ, val_cons, val_replicate_zero k, Nat.mul_zero]

theorem Limbs_replicate_zero (k : Nat) : Limbs (List.replicate k 0) :=
  fun _ hx => (List.eq_of_mem_replicate hx).symm ▸ B_pos

theorem toLimbs_length : ∀ (n v : Nat), (toLimbs n v).length = n
  | 0, _ => rfl
  | n + 1, v => congrArg (· + 1) (toLimbs_length n (v / B))

theorem Limbs_toLimbs : ∀ (n v : Nat), Limbs (toLimbs n v)
  | 0, _ => Limbs_nil
  | n + 1, v => Limbs_cons.mpr ⟨Nat.mod_lt _ B_pos, Limbs_toLimbs n (v / B)⟩

theorem val_toLimbs : ∀ (n v : Nat), val (toLimbs n v) = v % B ^ n
  | 0, v => (Nat.mod_one v).symm
  | n + 1, v => by
    rw [toLimbs, val_cons, val_toLimbs n, pow_succ', Nat.mod_mul]

theorem val_toLimbs_lt (n v : Nat) (h : v < B ^ n) : val (toLimbs n v) = v := by
  rw [val_toLimbs, Nat.mod_eq_of_lt h]

theorem toLimbs_val : ∀ (l : List Nat), Limbs l → toLimbs l.length (val l) = l
  | [], _ => rfl
  | x :: xs, h => by
    have ⟨hx, hxs⟩ := Limbs_cons.mp h
    rw [List.length_cons, toLimbs, val_cons, Nat.add_mul_mod_self_left, Nat.mod_eq_of_lt hx,
      Nat.add_mul_div_left _ _ B_pos, Nat.div_eq_of_lt hx, Nat.zero_add, toLimbs_val xs hxs]

theorem eq_toLimbs (l : List Nat) (h : Limbs l) : l = toLimbs l.length (val l) := (toLimbs_val l h).symm

theorem eq_toLimbs_of {l : List Nat} {n x : Nat} (hL : Limbs l) (hn : l.length = n) (hx : val l = x) : l = toLimbs n x := by
  subst hn hx; exact eq_toLimbs l hL

theorem toLimbs_add_high : ∀ (k v h : Nat), toLimbs k (v + B ^ k * h) = toLimbs k v
  | 0, _, _ => rfl
  | k + 1, v, h => by
    show (v + B ^ (k + 1) * h) % B :: toLimbs k ((v + B ^ (k + 1) * h) / B) = v % B :: toLimbs k (v / B)
    rw [show v + B ^ (k + 1) * h = v + B * (B ^ k * h) by rw [pow_succ]; ring, Nat.add_mul_mod_self_left,
      Nat.add_mul_div_left _ _ B_pos, toLimbs_add_high k (v / B) h]

theorem toLimbs_val_add (l : List Nat) (h : Nat) (hl : Limbs l) : toLimbs l.length (val l + B ^ l.length * h) = l := by
  rw [toLimbs_add_high, toLimbs_val l hl]

theorem toLimbs_quot (k q qh : Nat) (hq : q < B ^ k) :
    toLimbs k (qh * B ^ k + q) = toLimbs k q ∧ (qh * B ^ k + q) / B ^ k = qh :=
  ⟨by rw [Nat.add_comm, Nat.mul_comm]; exact toLimbs_add_high _ _ _,
   div_of_split qh _ q hq⟩

/-! ### `natLimbs` (a number as few limbs as possible) -/

theorem natLimbs_zero : natLimbs 0 = [] := by rw [natLimbs]; exact dif_pos rfl

theorem natLimbs_pos (v : Nat) (h : v ≠ 0) : natLimbs v = v % B :: natLimbs (v / B) := by
  rw [natLimbs]; exact dif_neg h

theorem natLimbs_eq_nil {v : Nat} : natLimbs v = [] ↔ v = 0 := by
  refine ⟨fun h => ?_, fun h => h ▸ natLimbs_zero⟩
  by_contra hv
  rw [natLimbs_pos v hv] at h
  exact List.cons_ne_nil _ _ h

theorem natLimbs_length_eq_zero (v : Nat) : (natLimbs v).length = 0 ↔ v = 0 := by
  rw [List.length_eq_zero_iff, natLimbs_eq_nil]

theorem val_natLimbs_eq (v : Nat) : val (natLimbs v) = v := by
  induction v using Nat.strong_induction_on with
  | _ v ih =>
    by_cases h : v = 0
    · rw [h, natLimbs_zero]; rfl
    · rw [natLimbs_pos v h, val_cons, ih _ (Nat.div_lt_self (Nat.pos_of_ne_zero h) one_lt_B)]
      exact Nat.mod_add_div v B

theorem Limbs_natLimbs (v : Nat) : Limbs (natLimbs v) := by
  induction v using Nat.strong_induction_on with
  | _ v ih =>
    by_cases h : v = 0
    · rw [h, natLimbs_zero]; exact Limbs_nil
    · rw [natLimbs_pos v h]
      exact Limbs_cons.mpr ⟨Nat.mod_lt _ B_pos, ih _ (Nat.div_lt_self (Nat.pos_of_ne_zero h) one_lt_B)⟩

theorem natLimbs_length_le : ∀ (v k : Nat), v < B ^ k → (natLimbs v).length ≤ k
  | v, 0, h => by
    rw [Nat.pow_zero, Nat.lt_one_iff] at h
    rw [h, natLimbs_zero]; exact Nat.le_refl 0
  | v, k + 1, h => by
    by_cases hv : v = 0
    · rw [hv, natLimbs_zero]; exact Nat.zero_le _
    · rw [natLimbs_pos v hv, List.length_cons]
      rw [Nat.pow_succ] at h
      exact Nat.succ_le_succ (natLimbs_length_le _ k (Nat.div_lt_of_lt_mul (Nat.mul_comm _ B ▸ h)))

/-! ### `normalize`: dropping the zero limbs at the top -/

/-- a list is what is left of it after a trailing run of `c` is dropped, followed by that run -/
theorem trailing_split {α : Type} (p : α → Bool) (c : α) (hp : ∀ d, p d = true → d = c) (ds : List α) :
    ∃ k, ds = (ds.reverse.dropWhile p).reverse ++ List.replicate k c := by
  refine ⟨(ds.reverse.takeWhile p).length, ?_⟩
  have hrun : ds.reverse.takeWhile p = List.replicate (ds.reverse.takeWhile p).length c :=
    List.eq_replicate_iff.mpr ⟨rfl, fun d hd => hp d (List.all_eq_true.mp List.all_takeWhile d hd)⟩
  have := congrArg List.reverse (List.takeWhile_append_dropWhile (p := p) (l := ds.reverse))
  rw [List.reverse_reverse, List.reverse_append, hrun, List.reverse_replicate] at this
  exact this.symm

theorem normalize_spec (l : List Nat) : ∃ k, l = normalize l ++ List.replicate k 0 :=
  trailing_split (· == 0) 0 (fun _ h => beq_iff_eq.mp h) l

theorem normalize_snoc (l : List Nat) (x : Nat) :
    normalize (l ++ [x]) = if x = 0 then normalize l else l ++ [x] := by
  unfold normalize
  rw [List.reverse_append, List.reverse_singleton, List.singleton_append, List.dropWhile_cons]
  by_cases hx : x = 0 <;> simp [hx]

theorem val_normalize (l : List Nat) : val (normalize l) = val l := by
  obtain ⟨k, hk⟩ := normalize_spec l
  conv_rhs => rw [hk, val_append, val_replicate_zero, Nat.mul_zero, Nat.add_zero]

theorem Limbs_normalize {l : List Nat} (h : Limbs l) : Limbs (normalize l) := by
  obtain ⟨k, hk⟩ := normalize_spec l
  rw [hk] at h
  exact (Limbs_append.mp h).1

theorem normalize_length_le (l : List Nat) : (normalize l).length ≤ l.length := by
  obtain ⟨k, hk⟩ := normalize_spec l
  conv_rhs => rw [hk, List.length_append]
  exact Nat.le_add_right _ _

theorem take_normalize_length (l : List Nat) : l.take (normalize l).length = normalize l := by
  obtain ⟨k, hk⟩ := normalize_spec l
  exact (congrArg (·.take (normalize l).length) hk).trans (List.take_left' rfl)

/-! ### shifts inside a limb -/

theorem B_split (c : Nat) (hc : c ≤ 64) : B = 2 ^ c * 2 ^ (64 - c) := by
  rw [← pow_add, Nat.add_sub_cancel' hc]; rfl

theorem shl_mod_B (x c : Nat) (hc : c ≤ 64) : (x <<< c) % B = 2 ^ c * (x % 2 ^ (64 - c)) := by
  rw [Nat.shiftLeft_eq, B_split c hc, Nat.mul_comm x, Nat.mul_mod_mul_left]

theorem shr_lt (x c : Nat) (hc : c ≤ 64) (hx : x < B) : x >>> (64 - c) < 2 ^ c := by
  rw [Nat.shiftRight_eq_div_pow, Nat.div_lt_iff_lt_mul (Nat.two_pow_pos _), ← B_split c hc]; exact hx

theorem or_shl_mod_B {a W l : Nat} (hl : l ≤ 64) (ha : a < 2 ^ l) :
    a ||| (W <<< l) % B = a + (W % 2 ^ (64 - l)) * 2 ^ l := by
  rw [shl_mod_B W l hl, Nat.or_comm, Nat.mul_comm, ← Nat.shiftLeft_eq, ← Nat.shiftLeft_add_eq_or_of_lt ha,
    Nat.shiftLeft_eq]; ring

/-! ### a vector split at limb `n` (from `val_split` above): no condition on `n`; the piece on the left, the arithmetic on the
right (`take` is `%`, `drop` is `/`) -/

theorem val_take_lt {l : List Nat} (hl : Limbs l) (n : Nat) : val (l.take n) < B ^ n :=
  lt_of_lt_of_le (val_lt _ (Limbs_take hl n))
    (Nat.pow_le_pow_right B_pos (by rw [List.length_take]; exact Nat.min_le_left _ _))

theorem val_take_eq_mod (l : List Nat) (hl : Limbs l) (n : Nat) : val (l.take n) = val l % B ^ n := by
  rw [val_split l n, Nat.add_mul_mod_self_left, Nat.mod_eq_of_lt (val_take_lt hl n)]

theorem val_drop_eq_div (l : List Nat) (hl : Limbs l) (n : Nat) : val (l.drop n) = val l / B ^ n := by
  rw [val_split l n, Nat.add_mul_div_left _ _ (Bpow_pos n), Nat.div_eq_of_lt (val_take_lt hl n), Nat.zero_add]

theorem drop_eq_getD_cons (l : List Nat) (i : Nat) (h : i < l.length) : l.drop i = l.getD i 0 :: l.drop (i + 1) := by
  rw [List.drop_eq_getElem_cons h, List.getD_eq_getElem?_getD, List.getElem?_eq_getElem h]; rfl

theorem split_top1 (l : List Nat) (j : Nat) (h : l.length = j + 1) : l = l.take j ++ [l.getD j 0] := by
  conv_lhs => rw [← List.take_append_drop j l, drop_eq_getD_cons l j (by omega), List.drop_of_length_le (by omega)]

theorem exists_snoc (x : List Nat) (n : Nat) (h : x.length = n + 1) : ∃ xs t, x = xs ++ [t] ∧ xs.length = n :=
  ⟨x.take n, x.getD n 0, split_top1 x n h, by simp [h]⟩

theorem val_split_at (l : List Nat) (i : Nat) (h : i < l.length) :
    val l = val (l.take i) + B ^ i * (l.getD i 0 + B * val (l.drop (i + 1))) := by
  rw [val_split l i, drop_eq_getD_cons l i h, val_cons]

theorem drop_take_of_take_eq {l l' : List Nat} (m off len : Nat) (h : l.take m = l'.take m) (hm : off + len ≤ m) :
    (l.drop off).take len = (l'.drop off).take len := by
  have e : ∀ (x : List Nat), (x.drop off).take len = ((x.take m).drop off).take len := fun x => by
    rw [List.drop_take, List.take_take, Nat.min_eq_left (by omega)]
  rw [e l, e l', h]

theorem val_div_mod {l : List Nat} (hl : Limbs l) (i : Nat) : val l / B ^ i % B = l.getD i 0 := by
  rw [← val_drop_eq_div l hl i]
  cases h : l.drop i with
  | nil =>
    rw [List.drop_eq_nil_iff] at h
    rw [val_nil, List.getD_eq_getElem?_getD, List.getElem?_eq_none h]; rfl
  | cons x xs =>
    have hx : x < B := (Limbs_cons.mp (h ▸ Limbs_drop hl i)).1
    have : l.getD i 0 = x := by
      have := congrArg (fun t => t.getD 0 0) h
      simpa [List.getD_eq_getElem?_getD] using this
    rw [val_cons, Nat.add_mul_mod_self_left, Nat.mod_eq_of_lt hx, this]

/-! ### constant vectors; `toLimbs` under `take`, `drop` and at its top limb -/

theorem val_eq_zero_iff : ∀ (l : List Nat), val l = 0 ↔ ∀ x ∈ l, x = 0
  | [] => by simp
  | x :: xs => by
    rw [val_cons, Nat.add_eq_zero_iff, Nat.mul_eq_zero, val_eq_zero_iff xs]
    simp [Nat.ne_of_gt B_pos]

theorem Limbs_replicate (k v : Nat) (hv : v < B) : Limbs (List.replicate k v) :=
  fun _ hx => (List.eq_of_mem_replicate hx).symm ▸ hv

theorem val_replicate_max : ∀ (k : Nat), val (List.replicate k (B - 1)) + 1 = B ^ k
  | 0 => rfl
  | k + 1 => by
    have hB := B_pos
    rw [List.replicate_succ, val_cons, pow_succ', ← val_replicate_max k, Nat.mul_add]
    omega

theorem val_zeros_append (n : Nat) (l : List Nat) : val (List.replicate n 0 ++ l) = B ^ n * val l := by
  rw [val_append, val_replicate_zero, List.length_replicate, Nat.zero_add]

theorem val_append_zeros (l : List Nat) (n : Nat) : val (l ++ List.replicate n 0) = val l := by
  rw [val_append, val_replicate_zero, Nat.mul_zero, Nat.add_zero]

theorem toLimbs_take : ∀ (n k v : Nat), k ≤ n → (toLimbs n v).take k = toLimbs k v
  | _, 0, _, _ => by rw [List.take_zero]; rfl
  | n + 1, k + 1, v, h => by
    rw [toLimbs, toLimbs, List.take_succ_cons, toLimbs_take n k _ (Nat.le_of_succ_le_succ h)]

theorem toLimbs_drop : ∀ (n j v : Nat), (toLimbs n v).drop j = toLimbs (n - j) (v / B ^ j)
  | n, 0, v => by rw [List.drop_zero, Nat.sub_zero, pow_zero, Nat.div_one]
  | 0, j + 1, v => by rw [Nat.zero_sub]; rfl
  | n + 1, j + 1, v => by
    rw [toLimbs, List.drop_succ_cons, toLimbs_drop n j, Nat.succ_sub_succ, pow_succ', Nat.div_div_eq_div_mul]

theorem toLimbs_snoc : ∀ (k v : Nat), toLimbs (k + 1) v = toLimbs k v ++ [v / B ^ k % B]
  | 0, v => by simp [toLimbs]
  | k + 1, v => by
    rw [toLimbs, toLimbs_snoc k (v / B), Nat.div_div_eq_div_mul, ← pow_succ']; rfl

/-! ### `Normalized`: what `MPN_NORMALIZE` establishes and `SIZ` presupposes

Spelt with `getLast?` because that is what `normalize` and `natLimbs` produce as they stand and because `[]` (the number 0) is
then normalised without a side condition; the other spellings met in the models have a bridge each (`normalized_iff_*`). -/

def Normalized (l : List Nat) : Prop := l.getLast? ≠ some 0

theorem normalized_nil : Normalized [] := by simp [Normalized]

theorem normalized_snoc {l : List Nat} {x : Nat} : Normalized (l ++ [x]) ↔ x ≠ 0 := by simp [Normalized]

theorem normalized_cons_cons {x y : Nat} {ys : List Nat} : Normalized (x :: y :: ys) ↔ Normalized (y :: ys) := by
  unfold Normalized; rw [List.getLast?_cons_cons]

theorem Normalized.tail {x : Nat} {xs : List Nat} (h : Normalized (x :: xs)) : Normalized xs := by
  cases xs with
  | nil => exact normalized_nil
  | cons y ys => exact normalized_cons_cons.mp h

theorem normalized_append {x y : List Nat} (hy : y ≠ []) (h : Normalized y) : Normalized (x ++ y) := by
  unfold Normalized at *
  rw [List.getLast?_append]
  cases hq : y.getLast? with
  | none => exact absurd (List.getLast?_eq_none_iff.mp hq) hy
  | some v => simpa [hq] using h

theorem Normalized.append_drop {l : List Nat} (hn : Normalized l) (x : List Nat) {k : Nat} (hk : k < l.length) :
    Normalized (x ++ l.drop k) := by
  have hd : l.drop k ≠ [] := by
    intro h; have := congrArg List.length h; simp at this; omega
  apply normalized_append hd
  unfold Normalized at *; rwa [List.getLast?_drop, if_neg (by omega)]

theorem normalized_iff_getLast {l : List Nat} (hne : l ≠ []) : Normalized l ↔ l.getLast hne ≠ 0 := by
  unfold Normalized; rw [List.getLast?_eq_some_getLast hne]; simp

theorem normalized_iff_getLast! {l : List Nat} (hne : l ≠ []) : Normalized l ↔ l.getLast! ≠ 0 := by
  rw [normalized_iff_getLast hne, List.getLast!_of_getLast? (List.getLast?_eq_some_getLast hne)]

theorem normalized_iff_getD {l : List Nat} (hne : l ≠ []) : Normalized l ↔ l.getD (l.length - 1) 0 ≠ 0 := by
  have hlt : l.length - 1 < l.length := Nat.sub_lt (List.length_pos_iff.mpr hne) Nat.one_pos
  rw [normalized_iff_getLast hne, List.getLast_eq_getElem, List.getD_eq_getElem?_getD, List.getElem?_eq_getElem hlt]
  rfl

theorem Normalized.ge : ∀ {l : List Nat}, Normalized l → l ≠ [] → B ^ (l.length - 1) ≤ val l
  | [], _, h => absurd rfl h
  | [x], h, _ => by
    have : x ≠ 0 := normalized_snoc (l := []).mp h
    simpa [Nat.one_le_iff_ne_zero] using this
  | x :: y :: ys, h, _ => by
    have ih := Normalized.ge (l := y :: ys) (normalized_cons_cons.mp h) (List.cons_ne_nil _ _)
    simp only [List.length_cons, Nat.add_sub_cancel] at ih ⊢
    rw [val_cons, pow_succ, Nat.mul_comm]
    exact le_trans (Nat.mul_le_mul_left B ih) (Nat.le_add_left _ _)

theorem Normalized.pos {l : List Nat} (h : Normalized l) (hne : l ≠ []) : 0 < val l :=
  lt_of_lt_of_le (Bpow_pos _) (h.ge hne)

theorem Normalized.of_ge {l : List Nat} (hl : Limbs l) (h : l = [] ∨ B ^ (l.length - 1) ≤ val l) : Normalized l := by
  rcases List.eq_nil_or_concat l with rfl | ⟨l', x, rfl⟩
  · exact normalized_nil
  · rw [List.concat_eq_append] at *
    rcases h with h | h
    · simp at h
    · refine normalized_snoc.mpr fun hx => ?_
      have hlt := val_lt l' (Limbs_append.mp hl).1
      rw [hx, val_snoc, List.length_append, List.length_singleton, Nat.add_sub_cancel, Nat.mul_zero,
        Nat.add_zero] at h
      exact absurd hlt (Nat.not_lt.mpr h)

theorem normalized_iff_ge {l : List Nat} (hl : Limbs l) (hne : l ≠ []) :
    Normalized l ↔ B ^ (l.length - 1) ≤ val l :=
  ⟨fun h => h.ge hne, fun h => Normalized.of_ge hl (Or.inr h)⟩

theorem normalized_normalize (l : List Nat) : Normalized (normalize l) := by
  unfold Normalized normalize
  rw [List.getLast?_reverse]
  intro h
  have hm := List.head?_dropWhile_not (· == 0) l.reverse
  rw [h] at hm
  simp at hm

theorem Normalized.eq_natLimbs : ∀ {l : List Nat}, Limbs l → Normalized l → l = natLimbs (val l)
  | [], _, _ => natLimbs_zero.symm
  | x :: xs, hl, h => by
    have ⟨hx, hxs⟩ := Limbs_cons.mp hl
    have hv : val (x :: xs) ≠ 0 := Nat.ne_of_gt (h.pos (List.cons_ne_nil _ _))
    rw [natLimbs_pos _ hv, val_cons, Nat.add_mul_mod_self_left, Nat.mod_eq_of_lt hx,
      Nat.add_mul_div_left _ _ B_pos, Nat.div_eq_of_lt hx, Nat.zero_add, ← Normalized.eq_natLimbs hxs h.tail]

theorem normalize_eq_natLimbs {l : List Nat} (hl : Limbs l) : normalize l = natLimbs (val l) := by
  rw [(normalized_normalize l).eq_natLimbs (Limbs_normalize hl), val_normalize]

theorem normalized_natLimbs (v : Nat) : Normalized (natLimbs v) := by
  have := normalized_normalize (natLimbs v)
  rwa [normalize_eq_natLimbs (Limbs_natLimbs v), val_natLimbs_eq] at this

theorem Normalized.length_le {l : List Nat} (h : Normalized l) (hl : Limbs l) {k : Nat} (hk : val l < B ^ k) :
    l.length ≤ k := by
  rw [h.eq_natLimbs hl]; exact natLimbs_length_le _ _ hk

theorem take_natLimbs_length {l : List Nat} (hl : Limbs l) : l.take (natLimbs (val l)).length = normalize l := by
  rw [← normalize_eq_natLimbs hl]; exact take_normalize_length l

/-! ### the number of limbs of a natural number

The models define it seven times: `DivZ.sizeNat`, `Gcd.nlimbs`, `Numth.limbCount`, `MpfStr.limbLen` (one body), `Mpq.limbs`,
`Rootrem.limbLen` (through the bit length), `Root.limbCount` (`(natLimbs v).length`).  All that is used of any of them follows
from `IsSize f`, which also determines `f`; the `_le_iff` lemmas give it for each body.  The instances are named `*_isSize` and
stand with the lemmas of each function (DivZ, GcdSize, BinSmall, MpfStr, Mpq, Rootrem); `Root.limbCount` needs none of its own, it is
`natLimbs_isSize`. -/

theorem limbCount_le_iff (v k : Nat) : (if v = 0 then 0 else v.log2 / 64 + 1) ≤ k ↔ v < B ^ k := by
  by_cases h : v = 0
  · subst h; simp [B_pow]
  · simp only [h, if_false]
    rw [B_pow, ← Nat.log2_lt h]
    omega

/-- the bit length, as `Mpq.bits`, `Root.bitLen`, `Io.bitLen` and `Conv.bitlen` spell it -/
theorem bitCount_le_iff (v k : Nat) : (if v = 0 then 0 else v.log2 + 1) ≤ k ↔ v < 2 ^ k := by
  by_cases h : v = 0
  · subst h; simp
  · simp only [h, if_false]
    rw [← Nat.log2_lt h]
    omega

theorem limbCount_bits_le_iff (v k : Nat) : ((if v = 0 then 0 else v.log2 + 1) + 63) / 64 ≤ k ↔ v < B ^ k := by
  rw [B_pow, ← bitCount_le_iff]
  omega

theorem bitCount_bounds {v : Nat} (hv : v ≠ 0) :
    2 ^ ((if v = 0 then 0 else v.log2 + 1) - 1) ≤ v ∧ v < 2 ^ (if v = 0 then 0 else v.log2 + 1) ∧
      0 < (if v = 0 then 0 else v.log2 + 1) := by
  rw [if_neg hv]; exact ⟨Nat.log2_self_le hv, Nat.lt_log2_self, Nat.succ_pos _⟩

theorem log2_add_mul {k lo t : Nat} (hlo : lo < 2 ^ k) (ht : t ≠ 0) : (lo + 2 ^ k * t).log2 = k + t.log2 := by
  have hv : lo + 2 ^ k * t ≠ 0 := by
    have := Nat.mul_pos (Nat.two_pow_pos k) (Nat.pos_of_ne_zero ht); omega
  refine (Nat.log2_eq_iff hv).mpr ⟨?_, ?_⟩
  · rw [pow_add]; exact le_trans (Nat.mul_le_mul_left _ (Nat.log2_self_le ht)) (Nat.le_add_left _ _)
  · rw [show k + t.log2 + 1 = k + (t.log2 + 1) by omega, pow_add]
    calc lo + 2 ^ k * t < 2 ^ k * (t + 1) := by rw [Nat.mul_succ]; omega
      _ ≤ 2 ^ k * 2 ^ (t.log2 + 1) := Nat.mul_le_mul_left _ Nat.lt_log2_self

/-- the bit length of a normalised vector is read off its top limb (`mpn_sizeinbase` with base 2, the `count_leading_zeros`
    of mpz_get_d, mpn_get_str, mpn_powm) -/
theorem log2_val {l : List Nat} (hl : Limbs l) (hne : l ≠ []) (hn : Normalized l) :
    (val l).log2 = 64 * (l.length - 1) + (l.getD (l.length - 1) 0).log2 := by
  have hlen : l.length - 1 < l.length := Nat.sub_lt (List.length_pos_iff.mpr hne) Nat.one_pos
  rw [val_split l (l.length - 1), drop_eq_getD_cons l _ hlen, List.drop_of_length_le (by omega), val_cons, val_nil,
    Nat.mul_zero, Nat.add_zero, B_pow]
  exact log2_add_mul (B_pow _ ▸ val_take_lt hl _) ((normalized_iff_getD hne).mp hn)

theorem natLimbs_length_le_iff (v k : Nat) : (natLimbs v).length ≤ k ↔ v < B ^ k := by
  refine ⟨fun h => ?_, natLimbs_length_le v k⟩
  have := val_lt _ (Limbs_natLimbs v)
  rw [val_natLimbs_eq] at this
  exact lt_of_lt_of_le this (Nat.pow_le_pow_right B_pos h)

def IsSize (f : Nat → Nat) : Prop := ∀ v k, f v ≤ k ↔ v < B ^ k

theorem natLimbs_isSize : IsSize fun v => (natLimbs v).length := natLimbs_length_le_iff

namespace IsSize
variable {f : Nat → Nat} (hf : IsSize f)
include hf

theorem lt_pow_iff {v k : Nat} : v < B ^ k ↔ f v ≤ k := (hf v k).symm

theorem pow_le_iff {v k : Nat} : B ^ k ≤ v ↔ k < f v := by
  rw [← Nat.not_lt, hf.lt_pow_iff, Nat.not_le]

theorem div_pow_eq_zero_iff {v k : Nat} : v / B ^ k = 0 ↔ f v ≤ k := by
  rw [Nat.div_eq_zero_iff_lt (Bpow_pos k), hf.lt_pow_iff]

theorem div_pow_ne_zero_iff {v k : Nat} : v / B ^ k ≠ 0 ↔ k < f v := by
  rw [Ne, hf.div_pow_eq_zero_iff, Nat.not_le]

theorem div_pow (x p : Nat) : f (x / B ^ p) = f x - p := by
  refine eq_of_forall_ge_iff fun c => ?_
  rw [hf, Nat.div_lt_iff_lt_mul (Bpow_pos p), ← pow_add, ← hf, Nat.sub_le_iff_le_add]

theorem lt_pow (v : Nat) : v < B ^ f v := (hf v _).mp (Nat.le_refl _)

theorem unique {g : Nat → Nat} (hg : IsSize g) (v : Nat) : f v = g v :=
  Nat.le_antisymm ((hf v _).mpr (hg.lt_pow v)) ((hg v _).mpr (hf.lt_pow v))

theorem eq_natLimbs_length (v : Nat) : f v = (natLimbs v).length := hf.unique natLimbs_isSize v

theorem mono {a b : Nat} (h : a ≤ b) : f a ≤ f b := (hf a _).mpr (lt_of_le_of_lt h (hf.lt_pow b))

theorem lt_of_lt {a b : Nat} (h : f a < f b) : a < b := by
  by_contra hba
  exact absurd (hf.mono (Nat.le_of_not_lt hba)) (Nat.not_le.mpr h)

theorem eq_zero {v : Nat} : f v = 0 ↔ v = 0 := by
  rw [← Nat.le_zero, hf v 0, Nat.pow_zero, Nat.lt_one_iff]

theorem pos {v : Nat} (hv : v ≠ 0) : 0 < f v := Nat.pos_of_ne_zero fun e => hv (hf.eq_zero.mp e)

theorem pow_le {v : Nat} (hv : v ≠ 0) : B ^ (f v - 1) ≤ v :=
  hf.pow_le_iff.mpr (Nat.sub_lt (hf.pos hv) Nat.one_pos)

theorem eq_of_bounds {v k : Nat} (hk : 1 ≤ k) (h1 : B ^ (k - 1) ≤ v) (h2 : v < B ^ k) : f v = k := by
  have a := (hf v k).mpr h2
  have b := hf.pow_le_iff.mp h1
  omega

theorem eq_one {v : Nat} : f v = 1 ↔ v ≠ 0 ∧ v < B := by
  constructor
  · intro h
    exact ⟨fun e => by rw [hf.eq_zero.mpr e] at h; omega, by simpa [h] using hf.lt_pow v⟩
  · rintro ⟨h0, h1⟩
    exact hf.eq_of_bounds (Nat.le_refl 1) (by simpa [Nat.one_le_iff_ne_zero] using h0) (by simpa using h1)

theorem Bpow_mul (k : Nat) {v : Nat} (hv : v ≠ 0) : f (B ^ k * v) = k + f v := by
  have hp := hf.pos hv
  refine hf.eq_of_bounds (by omega) ?_ ?_
  · rw [show k + f v - 1 = k + (f v - 1) by omega, pow_add]; exact Nat.mul_le_mul_left _ (hf.pow_le hv)
  · rw [pow_add]; exact Nat.mul_lt_mul_of_pos_left (hf.lt_pow v) (Bpow_pos k)

theorem add_le (x y : Nat) : f (x + y) ≤ max (f x) (f y) + 1 := by
  rw [hf, pow_succ]
  have hx := lt_of_lt_of_le (hf.lt_pow x) (Nat.pow_le_pow_right B_pos (Nat.le_max_left (f x) (f y)))
  have hy := lt_of_lt_of_le (hf.lt_pow y) (Nat.pow_le_pow_right B_pos (Nat.le_max_right (f x) (f y)))
  have : B ^ max (f x) (f y) * 2 ≤ B ^ max (f x) (f y) * B := Nat.mul_le_mul_left _ (by decide)
  omega

theorem mul_le (x y : Nat) : f (x * y) ≤ f x + f y := by
  rw [hf, pow_add]
  exact Nat.mul_lt_mul'' (hf.lt_pow x) (hf.lt_pow y)

theorem mul_ge {x y : Nat} (hx : x ≠ 0) (hy : y ≠ 0) : f x + f y ≤ f (x * y) + 1 := by
  have h3 : B ^ (f x - 1 + (f y - 1)) ≤ x * y := by
    rw [pow_add]; exact Nat.mul_le_mul (hf.pow_le hx) (hf.pow_le hy)
  have h4 := hf.pow_le_iff.mp h3
  have hx0 := hf.pos hx
  have hy0 := hf.pos hy
  omega

/-- the C's `n -= (p[n-1] == 0)` -/
theorem eq_sub_top {M k : Nat} (hk : 1 ≤ k) (hlt : M < B ^ k) (hge : 2 ≤ k → B ^ (k - 2) ≤ M) :
    f M = k - (if M / B ^ (k - 1) = 0 then 1 else 0) := by
  have hup := hf.lt_pow_iff.mp hlt
  split
  · rename_i h0
    have h1 := hf.div_pow_eq_zero_iff.mp h0
    by_cases hz : k = 1
    · omega
    · have := hf.pow_le_iff.mp (hge (by omega)); omega
  · rename_i h0
    have := hf.div_pow_ne_zero_iff.mp h0; omega

theorem eq_add_carry {M n : Nat} (hlt : M < B ^ (n + 1)) (hge : 1 ≤ n → B ^ (n - 1) ≤ M) :
    f M = n + (if M / B ^ n = 0 then 0 else 1) := by
  have h := hf.eq_sub_top (k := n + 1) (Nat.succ_pos n) hlt (fun h => by simpa using hge (by omega))
  rw [Nat.add_sub_cancel] at h
  rw [h]; split <;> omega

theorem of_normalized {l : List Nat} (hL : Limbs l) (hn : Normalized l) : f (val l) = l.length := by
  rw [hf.eq_natLimbs_length, ← hn.eq_natLimbs hL]

end IsSize

theorem mul_size_bounds {X Y a b : Nat} (ha : 1 ≤ a) (hb : 1 ≤ b) (hX1 : B ^ (a - 1) ≤ X) (hX2 : X < B ^ a)
    (hY1 : B ^ (b - 1) ≤ Y) (hY2 : Y < B ^ b) : B ^ (a + b - 2) ≤ X * Y ∧ X * Y < B ^ (a + b) :=
  ⟨by rw [show a + b - 2 = (a - 1) + (b - 1) by omega, pow_add]; exact Nat.mul_le_mul hX1 hY1,
   by rw [pow_add]; exact Nat.mul_lt_mul'' hX2 hY2⟩

theorem div_size_bounds {N D nl dl : Nat} (hN1 : B ^ (nl - 1) ≤ N) (hN2 : N < B ^ nl) (hD1 : B ^ (dl - 1) ≤ D)
    (hD2 : D < B ^ dl) (hdl : 1 ≤ dl) (hle : dl ≤ nl) :
    N / D < B ^ (nl - dl + 1) ∧ (2 ≤ nl - dl + 1 → B ^ (nl - dl + 1 - 2) ≤ N / D) := by
  have hDpos : 0 < D := Nat.lt_of_lt_of_le (Bpow_pos _) hD1
  refine ⟨?_, fun _ => ?_⟩
  · rw [Nat.div_lt_iff_lt_mul hDpos]
    calc N < B ^ nl := hN2
      _ = B ^ (nl - dl + 1) * B ^ (dl - 1) := by rw [← pow_add]; congr 1; omega
      _ ≤ B ^ (nl - dl + 1) * D := Nat.mul_le_mul_left _ hD1
  · rw [Nat.le_div_iff_mul_le hDpos]
    calc B ^ (nl - dl + 1 - 2) * D ≤ B ^ (nl - dl + 1 - 2) * B ^ dl := Nat.mul_le_mul_left _ (Nat.le_of_lt hD2)
      _ = B ^ (nl - 1) := by rw [← pow_add]; congr 1; omega
      _ ≤ N := hN1

/-! ### stripping low zero limbs: `Conv.stripLow` is this `dropWhile`, `Mpf.stripLow` the same as a recursion, `RadixDc.stripLow`
the same with a counter -/

theorem dropWhile_zero_spec : ∀ (l : List Nat), ∃ k, l = List.replicate k 0 ++ l.dropWhile (· == 0) ∧
    (l.dropWhile (· == 0)).head? ≠ some 0 ∧ k + (l.dropWhile (· == 0)).length = l.length
  | [] => ⟨0, rfl, by simp, rfl⟩
  | x :: xs => by
    by_cases hx : x = 0
    · obtain ⟨k, h1, h2, h3⟩ := dropWhile_zero_spec xs
      subst hx
      refine ⟨k + 1, ?_, ?_, ?_⟩
      · simp only [List.dropWhile_cons, beq_self_eq_true, if_true, List.replicate_succ, List.cons_append]; rw [← h1]
      · simpa only [List.dropWhile_cons, beq_self_eq_true, if_true] using h2
      · simp only [List.dropWhile_cons, beq_self_eq_true, if_true, List.length_cons]; omega
    · have e : (x :: xs).dropWhile (· == 0) = x :: xs := by simp [hx]
      exact ⟨0, by rw [e]; rfl, by rw [e]; simp [hx], by rw [e]; simp⟩

theorem val_dropWhile_zero (l : List Nat) :
    val l = B ^ (l.length - (l.dropWhile (· == 0)).length) * val (l.dropWhile (· == 0)) := by
  obtain ⟨k, h1, -, h3⟩ := dropWhile_zero_spec l
  conv_lhs => rw [h1]
  rw [val_zeros_append, show l.length - (l.dropWhile (· == 0)).length = k by omega]

/-! ### `takeWhile`, for any element type -/

theorem mem_takeWhile {α : Type} {p : α → Bool} : ∀ (l : List α) (x : α), x ∈ l.takeWhile p → p x = true ∧ x ∈ l
  | [], _, h => by simp at h
  | y :: ys, x, h => by
    by_cases hy : p y = true
    · rw [List.takeWhile_cons_of_pos hy] at h
      rcases List.mem_cons.mp h with rfl | h'
      · exact ⟨hy, List.mem_cons_self ..⟩
      · exact ⟨(mem_takeWhile ys x h').1, List.mem_cons_of_mem _ (mem_takeWhile ys x h').2⟩
    · rw [List.takeWhile_cons_of_neg hy] at h; simp at h

theorem takeWhile_all {α : Type} {p : α → Bool} (l : List α) (h : ∀ c ∈ l, p c = true) : l.takeWhile p = l := by
  have := List.takeWhile_append_of_pos (l₂ := []) h
  rwa [List.append_nil, List.takeWhile_nil, List.append_nil] at this

theorem take_takeWhile_length {α : Type} (p : α → Bool) (l : List α) : l.take (l.takeWhile p).length = l.takeWhile p :=
  (congrArg (·.take (l.takeWhile p).length) (List.takeWhile_append_dropWhile (p := p) (l := l)).symm).trans
    (List.take_left' rfl)

theorem drop_takeWhile_length {α : Type} (p : α → Bool) (l : List α) : l.drop (l.takeWhile p).length = l.dropWhile p :=
  (congrArg (·.drop (l.takeWhile p).length) (List.takeWhile_append_dropWhile (p := p) (l := l)).symm).trans
    (List.drop_left' rfl)

/-! ### the magnitude of a sign-and-magnitude value written with `if` -/

theorem natAbs_ite_neg (c : Prop) [Decidable c] (k : Nat) : (if c then -(k : Int) else (k : Int)).natAbs = k := by
  split <;> simp

theorem natAbs_ite_pos (c : Prop) [Decidable c] (k : Nat) : (if c then (k : Int) else -(k : Int)).natAbs = k := by
  split <;> simp

end Mpir
