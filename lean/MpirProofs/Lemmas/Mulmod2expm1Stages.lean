/- mpn_mulmod_2expm1: the stages around the recursive call (recombination, split, final halving), each on its
   whole-limb and its masked path. -/
import MpirProofs.Lemmas.Mulmod2expm1
namespace Mpir.Mm1
open Mpir Mpir.Fft

/-! ### the recombination (mulmod_2expm1.c:229-265) -/

theorem maskK_zero (x : List Nat) (n : Nat) (hx : Limbs x) (hl : x.length = n) (hn : 1 ≤ n) :
    maskK x n 0 = x := mask_noop x hx n hn hl

/-- sum in n limbs, then the `x[n-1] >> (64-k)` test and the mask -/
theorem mask_sum (x : List Nat) (n k cy v : Nat) (hx : Limbs x) (hl : x.length = n) (hn : 1 ≤ n) (hk : k ≤ 63)
    (hv : val x + B ^ n * cy = v) (hv2 : v < 2 * 2 ^ (64 * n - k)) :
    val (maskK x n k) + 2 ^ (64 * n - k) * (if k ≠ 0 && x.getD (n - 1) 0 >>> (64 - k) ≠ 0 then 1 else cy) = v ∧
    (if k ≠ 0 && x.getD (n - 1) 0 >>> (64 - k) ≠ 0 then 1 else cy) ≤ 1 ∧
    (maskK x n k).length = n ∧ Limbs (maskK x n k) ∧ val (maskK x n k) < 2 ^ (64 * n - k) := by
  obtain ⟨m1, m2, m3⟩ := maskK_spec x n k hx hl hn (by omega)
  have hQ : 0 < 2 ^ (64 * n - k) := Nat.two_pow_pos _
  have hd : v / 2 ^ (64 * n - k) < 2 := (Nat.div_lt_iff_lt_mul hQ).mpr hv2
  -- the masked limbs and the flag are remainder and quotient of `v` by `2^(64n−k)`
  have key : val (maskK x n k) = v % 2 ^ (64 * n - k) ∧
      (if k ≠ 0 && x.getD (n - 1) 0 >>> (64 - k) ≠ 0 then 1 else cy) = v / 2 ^ (64 * n - k) := by
    have hxv := val_lt x hx
    rw [hl] at hxv
    by_cases hk0 : k = 0
    · subst hk0
      obtain ⟨d1, d2⟩ := divmod_of v (val x) cy (B ^ n) hv hxv
      rw [m1, Nat.sub_zero, ← B_pow, d1, d2, Nat.mod_eq_of_lt hxv]
      simp
    · have h2Q : 2 * 2 ^ (64 * n - k) ≤ B ^ n := by
        rw [Bn_eq n k hn hk, Nat.mul_comm]; exact Nat.mul_le_mul_left _ (two_le_two_pow k (by omega))
      obtain ⟨hcy0, hv⟩ := carry_zero hv (lt_of_lt_of_le hv2 h2Q)
      rw [top_shr x n k hx hl hn hk, m1, hv]
      refine ⟨rfl, ?_⟩
      rcases Nat.le_one_iff_eq_zero_or_eq_one.mp (Nat.le_of_lt_succ hd) with h | h <;> simp [hk0, h, hcy0]
  rw [key.1, key.2]
  exact ⟨Nat.mod_add_div v _, Nat.le_of_lt_succ hd, m2, m3, Nat.mod_lt _ hQ⟩

/-- difference in n limbs with borrow, then the mask -/
theorem mask_diff (x : List Nat) (n k bw s d : Nat) (hx : Limbs x) (hl : x.length = n) (hn : 1 ≤ n) (hk : k ≤ 63)
    (hbw : bw ≤ 1) (hv : val x + d = s + B ^ n * bw) (hs : s < 2 ^ (64 * n - k)) (hd : d ≤ 2 ^ (64 * n - k)) :
    val (maskK x n k) + d = s + 2 ^ (64 * n - k) * bw ∧
    (maskK x n k).length = n ∧ Limbs (maskK x n k) ∧ val (maskK x n k) < 2 ^ (64 * n - k) := by
  obtain ⟨m1, m2, m3⟩ := maskK_spec x n k hx hl hn (by omega)
  refine ⟨?_, m2, m3, by rw [m1]; exact Nat.mod_lt _ (Nat.two_pow_pos _)⟩
  have hxv := val_lt x hx
  rw [hl, Bn_eq n k hn hk] at hxv
  rw [Bn_eq n k hn hk] at hv
  rw [m1]
  generalize 2 ^ (64 * n - k) = Q at *
  obtain ⟨K, hK⟩ : ∃ K, 2 ^ k = K + 1 := ⟨2 ^ k - 1, by have := Nat.two_pow_pos k; omega⟩
  rw [hK, Nat.mul_succ] at hv hxv
  rcases Nat.le_one_iff_eq_zero_or_eq_one.mp hbw with rfl | rfl
  · rw [Nat.mul_zero, Nat.add_zero] at hv ⊢
    rw [Nat.mod_eq_of_lt (by omega)]; exact hv
  · -- a borrow: `x = (s + Q − d) + Q·(2^k − 1)` with `s < d`
    rw [Nat.mul_one] at hv ⊢
    have hxe : val x = (s + Q - d) + Q * K := by omega
    rw [hxe, Nat.add_mul_mod_self_left, Nat.mod_eq_of_lt (by omega)]
    omega

/-- mulmod_2expm1.c:248-265 -/
def stage23 (S D : List Nat) (c bor m k : Nat) : List Nat × List Nat :=
  let s := sub_1 S bor
  let S2 := maskK s.1 m k
  if s.2 = 0 then
    let a := add_1 D c
    let c2 := if k ≠ 0 && a.1.getD (m - 1) 0 >>> (64 - k) ≠ 0 then 1 else a.2
    (if c2 ≠ 0 then setAt S2 0 (S2.getD 0 0 ||| 1) else S2, maskK a.1 m k)
  else (S2, D)

theorem recombine_eq (S D : List Nat) (c m k : Nat) :
    recombine S D c m k =
      if c = 0 then
        stage23 (maskK (sumdiff_n S D).1 m k) (maskK (sumdiff_n S D).2.1 m k)
          (if k ≠ 0 && (sumdiff_n S D).1.getD (m - 1) 0 >>> (64 - k) ≠ 0 then 1 else (sumdiff_n S D).2.2 / 2)
          ((sumdiff_n S D).2.2 % 2) m k
      else stage23 S S 1 1 m k := by
  unfold recombine stage23
  by_cases hc : c = 0
  · simp only [hc, ↓reduceIte]
  · simp only [hc, ↓reduceIte]

/-- what the recombination delivers for `S` (a residue modulo `H − 1` below `H = 2·H2`) and `Dv ≤ H` (the fully reduced
    residue modulo `H + 1`) -/
def Recombined (m H2 S Dv : Nat) (r : List Nat × List Nat) : Prop :=
  r.1.length = m ∧ Limbs r.1 ∧ r.2.length = m ∧ Limbs r.2 ∧ val r.1 < 2 * H2 ∧ val r.2 < 2 * H2 ∧
  ((val r.1 = 0 ∧ val r.2 = 0) ↔ (S = 0 ∧ Dv = 0)) ∧
  ((val r.1 : Int) + (2 * H2 : Int) * val r.2 ≡ ((S : Int) + Dv) + (2 * H2 : Int) * ((S : Int) - Dv)
    [ZMOD (2 * H2 : Int) * (2 * H2) - 1])

theorem stage23_spec (S1l D1l : List Nat) (c1 bor m k H2 S Dv : Nat) (hm : 1 ≤ m) (hk : k ≤ 63)
    (hH : 2 ^ (64 * m - k) = 2 * H2)
    (hS1 : Limbs S1l) (hD1 : Limbs D1l) (hS1l : S1l.length = m) (hD1l : D1l.length = m)
    (hS1v : val S1l < 2 * H2) (hD1v : val D1l < 2 * H2) (hc1 : c1 ≤ 1) (hbor : bor ≤ 1)
    (hS : S < 2 * H2) (hDv : Dv ≤ 2 * H2)
    (h1 : val S1l + 2 * H2 * c1 = S + Dv) (h2 : val D1l + Dv = S + 2 * H2 * bor) :
    Recombined m H2 S Dv (stage23 S1l D1l c1 bor m k) := by
  obtain ⟨s1, s2, s3, s4⟩ := sub_1_val' S1l bor hS1 (by omega) (bit_lt_B hbor)
  rw [hS1l] at s1 s4
  obtain ⟨d1, d2, d3, d4⟩ := mask_diff (sub_1 S1l bor).1 m k (sub_1 S1l bor).2 (val S1l) bor s3 s4 hm hk s2 s1
    (by rw [hH]; exact hS1v) (by omega)
  rw [hH] at d1 d4
  unfold stage23 Recombined
  simp only []
  generalize sub_1 S1l bor = s at *
  generalize maskK s.1 m k = S2l at *
  clear s1 s3 s4
  rcases Nat.le_one_iff_eq_zero_or_eq_one.mp s2 with hs2 | hs2
  · rw [if_pos hs2]
    rw [hs2, Nat.mul_zero, Nat.add_zero] at d1
    obtain ⟨a1, a2, a3, a4⟩ := add_1_val' D1l c1 hD1 (by omega) (bit_lt_B hc1)
    rw [hD1l] at a1 a4
    obtain ⟨e1, e2, e3, e4, e5⟩ := mask_sum (add_1 D1l c1).1 m k (add_1 D1l c1).2 (val D1l + c1) a3 a4 hm hk a1
      (by rw [hH]; omega)
    rw [hH] at e1 e5
    generalize add_1 D1l c1 = a at *
    generalize (if k ≠ 0 && a.1.getD (m - 1) 0 >>> (64 - k) ≠ 0 then 1 else a.2) = c2 at *
    generalize maskK a.1 m k = D2l at *
    obtain ⟨⟨r1, r2, r3⟩, r4⟩ := recomb_noborrow H2 S Dv (val S1l) c1 (val D1l) bor (val S2l) (val D2l) c2
      hS hDv h1 hS1v hc1 h2 hD1v hbor d1 e1 e2
    -- the carry `c2` goes into bit 0 of the even `S2`
    have hSf : val (if c2 ≠ 0 then setAt S2l 0 (S2l.getD 0 0 ||| 1) else S2l) = val S2l + c2 ∧
        (if c2 ≠ 0 then setAt S2l 0 (S2l.getD 0 0 ||| 1) else S2l).length = m ∧
        Limbs (if c2 ≠ 0 then setAt S2l 0 (S2l.getD 0 0 ||| 1) else S2l) := by
      rcases Nat.le_one_iff_eq_zero_or_eq_one.mp e2 with hc2 | hc2
      · rw [hc2, if_neg (by simp)]
        exact ⟨rfl, d2, d3⟩
      · rw [hc2, if_pos (by simp)]
        obtain ⟨o1, o2, o3⟩ := or_low_limb S2l 1 1 d3 (by omega) (by norm_num)
          (by rw [pow_one]; exact Nat.dvd_of_mod_eq_zero (r2 hc2)) (by norm_num)
        exact ⟨o1, by rw [o2]; exact d2, o3⟩
    obtain ⟨f1, f2, f3⟩ := hSf
    rw [f1]
    exact ⟨f2, f3, e3, e4, r1, e5, r3, r4⟩
  · rw [if_neg (by omega)]
    rw [hs2, Nat.mul_one] at d1
    obtain ⟨r1, r2⟩ := recomb_borrow H2 S Dv (val S1l) c1 (val D1l) bor (val S2l) h1 hc1 h2 hD1v hbor d1 d4
    exact ⟨d2, d3, hD1l, hD1, d4, hD1v, r1, r2⟩

/-- mulmod_2expm1.c:229-265 for `S` below `2^h = 2·H2` and `D + 2^h·c ≤ 2^h` -/
theorem recombine_spec (S D : List Nat) (c m k H2 : Nat) (hm : 1 ≤ m) (hk : k ≤ 63)
    (hH : 2 ^ (64 * m - k) = 2 * H2)
    (hS : Limbs S) (hD : Limbs D) (hSl : S.length = m) (hDl : D.length = m)
    (hSv : val S < 2 * H2) (hc : c ≤ 1) (hDv : val D + 2 * H2 * c ≤ 2 * H2) :
    Recombined m H2 (val S) (val D + 2 * H2 * c) (recombine S D c m k) := by
  rw [recombine_eq]
  rcases Nat.le_one_iff_eq_zero_or_eq_one.mp hc with rfl | rfl
  · rw [if_pos rfl, Nat.mul_zero, Nat.add_zero] at *
    obtain ⟨sa, sd, sc1, sc2, sL1, sL2, sl1, sl2⟩ := sumdiff_spec S D hS hD (by rw [hSl, hDl])
    rw [hSl] at sa sd sl1 sl2
    obtain ⟨e1, e2, e3, e4, e5⟩ := mask_sum (sumdiff_n S D).1 m k ((sumdiff_n S D).2.2 / 2) (val S + val D)
      sL1 sl1 hm hk sa (by rw [hH]; omega)
    obtain ⟨d1, d2, d3, d4⟩ := mask_diff (sumdiff_n S D).2.1 m k ((sumdiff_n S D).2.2 % 2) (val S) (val D)
      sL2 sl2 hm hk sc2 sd (by rw [hH]; exact hSv) (by rw [hH]; exact hDv)
    rw [hH] at e1 e5 d1 d4
    exact stage23_spec _ _ _ _ m k H2 (val S) (val D) hm hk hH e4 d3 e3 d2 e5 d4 e2 sc2 hSv hDv e1 d1
  · -- `D = 2^h` (flag set, limbs zero): the C copies `S` and sets carry and borrow
    rw [if_neg (by simp), Nat.mul_one] at *
    have hD0 : val D = 0 := by omega
    rw [hD0, Nat.zero_add]
    exact stage23_spec S S 1 1 m k H2 (val S) (2 * H2) hm hk hH hS hS hSl hSl hSv hSv (le_refl 1) (le_refl 1)
      hSv (le_refl _) (by omega) (by omega)

/-! ### the split (mulmod_2expm1.c:164-224) -/

/-- the +1 half, modulo `H + 1` (`K = 2^k`); the value `H` is signalled by the carry `f` -/
theorem diff_flag_val (H K yl yh xv bw bv f : Nat) (hK : 1 ≤ K) (hyl : yl < H) (hyh : yh < H) (hbw : bw ≤ 1)
    (hx : xv + yh = yl + H * K * bw) (hxv : xv < H * K) (hb : bv + H * K * f = xv + bw) (hbv : bv < H * K)
    (hf : f ≤ 1) :
    ((if f = 1 then (H : Int) else ((bv % H : Nat) : Int)) ≡ (yl : Int) + H * yh [ZMOD (H : Int) + 1]) ∧
    (yl = 0 → yh = 0 → bv % H = 0 ∧ f = 0) := by
  obtain ⟨K', rfl⟩ : ∃ K', K = K' + 1 := ⟨K - 1, by omega⟩
  rw [Nat.mul_succ] at hx hxv hb hbv
  rcases Nat.le_one_iff_eq_zero_or_eq_one.mp hbw with rfl | rfl
  · -- no borrow: `x = yl − yh < H`, nothing carries
    rw [Nat.mul_zero, Nat.add_zero] at hx
    rw [Nat.add_zero] at hb
    have hf0 := carry_eq_zero hb (by omega)
    subst hf0
    rw [Nat.mul_zero, Nat.add_zero] at hb
    rw [Nat.mod_eq_of_lt (by omega), if_neg (by norm_num)]
    refine ⟨?_, fun _ _ => ⟨by omega, rfl⟩⟩
    apply Int.ModEq.symm
    apply Int.modEq_of_dvd
    have e : (yl : Int) = bv + yh := by omega
    exact ⟨-(yh : Int), by rw [e]; ring⟩
  · rw [Nat.mul_one] at hx
    refine ⟨?_, fun _ _ => by omega⟩
    rcases Nat.le_one_iff_eq_zero_or_eq_one.mp hf with rfl | rfl
    · -- `bv = H·(K − 1) + (H + yl + 1 − yh)` with `yl + 1 < yh`
      rw [Nat.mul_zero, Nat.add_zero] at hb
      have hbe : bv = (H + yl + 1 - yh) + H * K' := by omega
      rw [hbe, Nat.add_mul_mod_self_left, Nat.mod_eq_of_lt (by omega), if_neg (by norm_num)]
      apply Int.ModEq.symm
      apply Int.modEq_of_dvd
      refine ⟨1 - (yh : Int), ?_⟩
      rw [show ((H + yl + 1 - yh : Nat) : Int) = H + yl + 1 - yh by omega]
      ring
    · -- `yh = yl + 1`: the value `−1 ≡ H`
      rw [if_pos rfl]
      have e : (yh : Int) = yl + 1 := by omega
      apply Int.ModEq.symm
      apply Int.modEq_of_dvd
      exact ⟨-(yl : Int), by rw [e]; ring⟩

/-- the −1 half, modulo `H − 1`: the end-around fold -/
theorem sum_fold_val (H K yl yh sv cy av af : Nat) (hH : 2 ≤ H) (hK : 1 ≤ K) (hyl : yl < H) (hyh : yh < H) (hcy : cy ≤ 1)
    (hs : sv + H * K * cy = yl + yh) (hsv : sv < H * K) (ha : av + H * K * af = sv + (yl + yh) / H) :
    af = 0 ∧ av % H = (yl + yh) % H + (yl + yh) / H := by
  obtain ⟨f1, _, _⟩ := fold_val H yl yh hH hyl hyh
  have hdm := Nat.div_add_mod (yl + yh) H
  have hd : (yl + yh) / H ≤ 1 := Nat.le_of_lt_succ ((Nat.div_lt_iff_lt_mul (by omega)).mpr (by omega))
  have hr := Nat.mod_lt (yl + yh) (show 0 < H by omega)
  generalize (yl + yh) / H = d at *
  generalize (yl + yh) % H = r at *
  have hT : H * K = H ∨ 2 * H ≤ H * K := by
    rcases Nat.lt_or_ge K 2 with h | h
    · left; rw [show K = 1 by omega, Nat.mul_one]
    · right; rw [Nat.mul_comm 2]; exact Nat.mul_le_mul_left H h
  -- the second addition stays below `H·K`: either `K = 1` and `sv` is the remainder, or `2·H ≤ H·K`
  obtain ⟨haf, ha⟩ := carry_zero ha (by
    have hHd := bit_mul H d hd
    have hTc := bit_mul (H * K) cy hcy
    omega)
  refine ⟨haf, ?_⟩
  have e : av + H * (K * cy) = (r + d) + H * d := by rw [← Nat.mul_assoc]; omega
  rw [← Nat.add_mul_mod_self_left av H (K * cy), e, Nat.add_mul_mod_self_left, Nat.mod_eq_of_lt f1]

theorem Bm_split (m k : Nat) (hm : 1 ≤ m) (hk : k ≤ 63) : B ^ m = 2 ^ (64 - k) * (2 ^ k * B ^ (m - 1)) := by
  rw [B_pow, B_pow, ← pow_add, ← pow_add]; congr 1; omega

theorem Bpow_pred_mul (m : Nat) (hm : 1 ≤ m) : B ^ (m - 1) * B ^ m = B ^ (2 * m - 1) := by
  rw [← pow_add]; congr 1; omega

theorem sq_split (m k : Nat) (hm : 1 ≤ m) (hk : k ≤ 31) :
    2 ^ (64 * m - k) * 2 ^ (64 * m - k) = 2 ^ (64 - 2 * k) * B ^ (2 * m - 1) ∧ 2 ^ (64 - k) = 2 ^ (64 - 2 * k) * 2 ^ k := by
  constructor
  · rw [B_pow, ← pow_add, ← pow_add]; congr 1; omega
  · rw [← pow_add]; congr 1; omega

/-- mulmod_2expm1.c:172: `mpn_rshift` by `64 − k` of the window `yp[m−1 .. 2m−1)` -/
theorem window_shift (yp : List Nat) (m k : Nat) (hm : 1 ≤ m) (hk1 : 1 ≤ k) (hk : k ≤ 63) (hL : Limbs yp)
    (hl : 2 * m ≤ yp.length + 1) :
    val (rshift ((yp.drop (m - 1)).take m) (64 - k)).1 = val yp / B ^ (m - 1) % B ^ m / 2 ^ (64 - k) ∧
    (rshift ((yp.drop (m - 1)).take m) (64 - k)).1.length = m ∧ Limbs (rshift ((yp.drop (m - 1)).take m) (64 - k)).1 := by
  have hwl : (yp.drop (m - 1)).length = yp.length - (m - 1) := List.length_drop
  have hw := val_drop_eq_div yp hL (m - 1)
  have ht := val_take_eq_mod (yp.drop (m - 1)) (Limbs_drop hL _) m
  have htl : ((yp.drop (m - 1)).take m).length = m := by rw [List.length_take, hwl]; omega
  obtain ⟨r1, r2, r3⟩ := rshift_spec ((yp.drop (m - 1)).take m) (64 - k) (Limbs_take (Limbs_drop hL _) _) (by omega)
    (by omega) (by omega)
  exact ⟨by rw [r1, ht, hw], by rw [r3, htl], r2⟩

/-- mulmod_2expm1.c:172-177 for `n = 2m`: the limb `yp[2m−1]` holds at most `64 − 2k` bits -/
theorem split_hi_long (yp : List Nat) (m k : Nat) (hm : 1 ≤ m) (hk1 : 1 ≤ k) (hk : k ≤ 31) (hL : Limbs yp)
    (hl : yp.length = 2 * m) (hv : val yp < 2 ^ (64 * m - k) * 2 ^ (64 * m - k)) :
    let t0 := (rshift ((yp.drop (m - 1)).take m) (64 - k)).1
    let tpp := setAt t0 (m - 1) (t0.getD (m - 1) 0 ||| ((yp.getD (2 * m - 1) 0 <<< k) % B))
    val tpp = val yp / 2 ^ (64 * m - k) ∧ tpp.length = m ∧ Limbs tpp := by
  obtain ⟨r1, r2, r3⟩ := window_shift yp m k hm hk1 (by omega) hL (by omega)
  have hBm := Bm_split m k hm (by omega)
  have hgoal : val yp / 2 ^ (64 * m - k) = val yp / B ^ (m - 1) / 2 ^ (64 - k) := by
    rw [two_pow_b m k hm (by omega), Nat.div_div_eq_div_mul]
  have hdd : val yp / B ^ (m - 1) / B ^ m = val yp / B ^ (2 * m - 1) := by
    rw [Nat.div_div_eq_div_mul, Bpow_pred_mul m hm]
  have htop : yp.getD (2 * m - 1) 0 = val yp / B ^ (m - 1) / B ^ m := by
    rw [top_limb yp (2 * m) hL hl (by omega), hdd]
  -- the top limb is below `2^(64−2k)`
  have ht2 : (val yp / B ^ (m - 1) / B ^ m + 1) * 2 ^ k ≤ 2 ^ (64 - k) := by
    obtain ⟨q1, q2⟩ := sq_split m k hm hk
    rw [q2, hdd]
    refine Nat.mul_le_mul_right _ ((Nat.div_lt_iff_lt_mul (Bpow_pos _)).mpr ?_)
    rw [← q1]; exact hv
  generalize val yp / B ^ (m - 1) = u at *
  have h64 : 2 ^ (64 - k) ≤ B := by unfold B; exact Nat.pow_le_pow_right (by norm_num) (by omega)
  have hshl : (yp.getD (2 * m - 1) 0 <<< k) % B = u / B ^ m * 2 ^ k := by
    rw [htop, Nat.shiftLeft_eq, Nat.mod_eq_of_lt]
    rw [Nat.add_mul, Nat.one_mul] at ht2
    have := Nat.two_pow_pos k
    omega
  intro t0 tpp
  have hlt : val t0 < B ^ (m - 1) * 2 ^ k := by
    rw [r1, Nat.div_lt_iff_lt_mul (Nat.two_pow_pos _), Nat.mul_comm (B ^ (m - 1)), Nat.mul_comm, ← hBm]
    exact Nat.mod_lt _ (Bpow_pos m)
  obtain ⟨o1, o2, o3⟩ := or_top_limb t0 m k (u / B ^ m) r3 r2 hm hlt (le_trans ht2 h64)
  have htpp : tpp = setAt t0 (m - 1) (t0.getD (m - 1) 0 ||| u / B ^ m * 2 ^ k) := by
    show setAt t0 (m - 1) (t0.getD (m - 1) 0 ||| _) = _
    rw [hshl]
  rw [htpp]
  refine ⟨?_, o2, o3⟩
  rw [o1, r1, hgoal, div_mul_split u (2 ^ (64 - k)) (2 ^ k * B ^ (m - 1)) (Nat.two_pow_pos _), ← hBm]
  ring

/-- mulmod_2expm1.c:172 for `n = 2m − 1`: the window is all there is -/
theorem split_hi_short (yp : List Nat) (m k : Nat) (hm : 1 ≤ m) (hk1 : 1 ≤ k) (hk : k ≤ 63) (hL : Limbs yp)
    (hl : yp.length + 1 = 2 * m) :
    val (rshift ((yp.drop (m - 1)).take m) (64 - k)).1 = val yp / 2 ^ (64 * m - k) ∧
    (rshift ((yp.drop (m - 1)).take m) (64 - k)).1.length = m ∧ Limbs (rshift ((yp.drop (m - 1)).take m) (64 - k)).1 := by
  obtain ⟨r1, r2, r3⟩ := window_shift yp m k hm hk1 hk hL (by omega)
  refine ⟨?_, r2, r3⟩
  have hlt : val yp / B ^ (m - 1) < B ^ m := by
    rw [Nat.div_lt_iff_lt_mul (Bpow_pos _), ← pow_add]
    have := val_lt yp hL
    rwa [show yp.length = m + (m - 1) by omega] at this
  rw [r1, Nat.mod_eq_of_lt hlt, two_pow_b m k hm hk, Nat.div_div_eq_div_mul]

/-- the limbs of `2h` bits for `h = 64m − k`: `2m`, or `2m − 1` when the two missing `k` bits make up half a limb -/
theorem size_double (m k : Nat) (hm : 1 ≤ m) (hk : k ≤ 63) :
    (2 * (64 * m - k) + 63) / 64 = 2 * m ∧ k ≤ 31 ∨ (2 * (64 * m - k) + 63) / 64 + 1 = 2 * m ∧ 32 ≤ k := by
  omega

/-- mulmod_2expm1.c:172-177: the bits from `h = 64m − k` up, as m limbs -/
theorem split_hi_k (yp : List Nat) (n m k : Nat) (hm : 1 ≤ m) (hk1 : 1 ≤ k) (hk : k ≤ 63)
    (hn : n = (2 * (64 * m - k) + 63) / 64) (hL : Limbs yp) (hl : yp.length = n)
    (hv : val yp < 2 ^ (64 * m - k) * 2 ^ (64 * m - k)) :
    let t0 := (rshift ((yp.drop (m - 1)).take m) (64 - k)).1
    let tpp := if n = 2 * m then setAt t0 (m - 1) (t0.getD (m - 1) 0 ||| ((yp.getD (2 * m - 1) 0 <<< k) % B)) else t0
    val tpp = val yp / 2 ^ (64 * m - k) ∧ tpp.length = m ∧ Limbs tpp := by
  intro t0 tpp
  rcases hn ▸ size_double m k hm hk with ⟨h2, hk31⟩ | ⟨h2, _⟩
  · have htpp : tpp = setAt t0 (m - 1) (t0.getD (m - 1) 0 ||| ((yp.getD (2 * m - 1) 0 <<< k) % B)) := if_pos h2
    rw [htpp]
    exact split_hi_long yp m k hm hk1 hk31 hL (hl.trans h2) hv
  · have htpp : tpp = t0 := if_neg (by omega)
    rw [htpp]
    exact split_hi_short yp m k hm hk1 hk hL (by rw [hl]; exact h2)

/-- what `split` delivers for an operand of value `y < 2^(2h)`: `typm` a residue of `y` modulo `2^h − 1` below `2^h`
    (zero only for y = 0), `typp` with its flag the fully reduced residue modulo `2^h + 1` -/
def SplitOk (h m y : Nat) (r : List Nat × List Nat × Nat × Bool) : Prop :=
  r.2.2.2 = true ∧ r.1.length = m ∧ Limbs r.1 ∧ val r.1 < 2 ^ h ∧ val r.1 % (2 ^ h - 1) = y % (2 ^ h - 1) ∧
  (val r.1 = 0 ↔ y = 0) ∧
  r.2.1.length = m ∧ Limbs r.2.1 ∧ val r.2.1 < 2 ^ h ∧ r.2.2.1 ≤ 1 ∧
  (flaggedb r.2.2.1 h r.2.1 ≡ (y : Int) [ZMOD 2 ^ h + 1]) ∧ (y = 0 → val r.2.1 = 0 ∧ r.2.2.1 = 0)

/-- the end of both paths of `split`, in `T = B^m = 2^h·K`: (`sv`, `cy`) and (`av`, `af`) are the sum of the halves before
    and after adding the bit above `h`; (`xv`, `bw`) and (`bv`, `c1`) the difference before and after adding the borrow -/
theorem splitOk_of (h m y K T : Nat) (tpm tpp : List Nat) (c1 sv cy av af xv bw bv : Nat) (hh : 1 ≤ h) (hK : 1 ≤ K)
    (hT : T = 2 ^ h * K) (hy : y < 2 ^ h * 2 ^ h)
    (l1 : tpm.length = m) (L1 : Limbs tpm) (l2 : tpp.length = m) (L2 : Limbs tpp)
    (v1 : val tpm = av % 2 ^ h) (v2 : val tpp = bv % 2 ^ h) (hcy : cy ≤ 1) (hbw : bw ≤ 1) (hc1 : c1 ≤ 1)
    (hs : sv + T * cy = y % 2 ^ h + y / 2 ^ h) (hsv : sv < T)
    (ha : av + T * af = sv + (y % 2 ^ h + y / 2 ^ h) / 2 ^ h)
    (hx : xv + y / 2 ^ h = y % 2 ^ h + T * bw) (hxv : xv < T) (hb : bv + T * c1 = xv + bw) (hbv : bv < T) :
    SplitOk h m y (tpm, tpp, c1, af == 0) := by
  subst hT
  have hH2 := two_le_two_pow h hh
  have hyh : y / 2 ^ h < 2 ^ h := (Nat.div_lt_iff_lt_mul (by omega)).mpr hy
  have hyl : y % 2 ^ h < 2 ^ h := Nat.mod_lt _ (by omega)
  obtain ⟨f1, f2, f3⟩ := fold_val _ _ _ hH2 hyl hyh
  rw [Nat.mod_add_div] at f2 f3
  obtain ⟨g1, g2⟩ := sum_fold_val _ K _ _ sv cy av af hH2 hK hyl hyh hcy hs hsv ha
  obtain ⟨d1, d2⟩ := diff_flag_val _ K _ _ xv bw bv c1 hK hyl hyh hbw hx hxv hb hbv hc1
  rw [← g2, ← v1] at f1 f2 f3
  refine ⟨by rw [g1]; rfl, l1, L1, f1, f2, f3, l2, L2, by rw [v2]; exact Nat.mod_lt _ (by omega), hc1, ?_, ?_⟩
  · show flaggedb c1 h tpp ≡ _ [ZMOD _]
    unfold flaggedb
    rw [v2]
    have e : (y : Int) = ((y % 2 ^ h : Nat) : Int) + ((2 ^ h : Nat) : Int) * ((y / 2 ^ h : Nat) : Int) := by
      exact_mod_cast (Nat.mod_add_div y (2 ^ h)).symm
    rw [e]
    push_cast at d1 ⊢
    exact d1
  · intro hy0
    show val tpp = 0 ∧ c1 = 0
    rw [v2]
    exact d2 (by rw [hy0, Nat.zero_mod]) (by rw [hy0, Nat.zero_div])

theorem split_whole (yp : List Nat) (n m : Nat) :
    split yp n m 0 =
      let s := sumdiff_n (yp.take m) ((yp.drop m).take m)
      let a := add_1 s.1 (s.2.2 / 2)
      let b := add_1 s.2.1 (s.2.2 % 2)
      (a.1, b.1, b.2, a.2 == 0) := by
  unfold split
  simp only [↓reduceIte]

theorem split_masked (yp : List Nat) (n m k : Nat) (hk : k ≠ 0) :
    split yp n m k =
      let t0 := (rshift ((yp.drop (m - 1)).take m) (64 - k)).1
      let tpp := if n = 2 * m then setAt t0 (m - 1) (t0.getD (m - 1) 0 ||| ((yp.getD (2 * m - 1) 0 <<< k) % B)) else t0
      let s := sumdiff_n (maskK (yp.take m) m k) tpp
      let a := add_1 s.1 (s.1.getD (m - 1) 0 >>> (64 - k))
      let b := add_1 s.2.1 s.2.2
      (maskK a.1 m k, maskK b.1 m k, b.2, a.2 == 0) := by
  unfold split
  simp only [hk, ↓reduceIte]

theorem split_spec_whole (yp : List Nat) (m : Nat) (hm : 1 ≤ m) (hL : Limbs yp) (hl : yp.length = 2 * m)
    (hv : val yp < 2 ^ (64 * m) * 2 ^ (64 * m)) : SplitOk (64 * m) m (val yp) (split yp (2 * m) m 0) := by
  rw [split_whole]
  simp only []
  obtain ⟨⟨t1, t2, t3⟩, u1, u2, u3⟩ := halves_spec yp m hL hl
  rw [List.take_of_length_le (le_of_eq u2)]
  obtain ⟨sa, sd, sc1, sc2, sL1, sL2, sl1, sl2⟩ := sumdiff_spec (yp.take m) (yp.drop m) t3 u3 (by rw [t2, u2])
  rw [t2, t1, u1] at sa sd
  rw [t2] at sl1 sl2
  generalize sumdiff_n (yp.take m) (yp.drop m) = s at *
  have hsv := val_lt s.1 sL1; rw [sl1] at hsv
  have hxv := val_lt s.2.1 sL2; rw [sl2] at hxv
  obtain ⟨q1, _⟩ := divmod_of _ _ _ _ sa hsv
  obtain ⟨a1, _, a3, a4⟩ := add_1_val' s.1 (s.2.2 / 2) sL1 (by rw [sl1]; exact hm) (bit_lt_B sc1)
  obtain ⟨b1, b2, b3, b4⟩ := add_1_val' s.2.1 (s.2.2 % 2) sL2 (by rw [sl2]; exact hm) (bit_lt_B sc2)
  rw [sl1] at a1 a4
  rw [sl2] at b1 b4
  generalize add_1 s.1 (s.2.2 / 2) = a at *
  generalize add_1 s.2.1 (s.2.2 % 2) = b at *
  have hav := val_lt a.1 a3; rw [a4] at hav
  have hbv := val_lt b.1 b3; rw [b4] at hbv
  rw [← q1] at a1
  rw [B_pow] at sa sd hsv hxv a1 b1 hav hbv
  exact splitOk_of (64 * m) m (val yp) 1 (2 ^ (64 * m)) a.1 b.1 b.2 (val s.1) (s.2.2 / 2) (val a.1) a.2 (val s.2.1)
    (s.2.2 % 2) (val b.1) (Nat.mul_pos (by norm_num) hm) (le_refl 1) (Nat.mul_one _).symm hv a4 a3 b4 b3
    (Nat.mod_eq_of_lt hav).symm (Nat.mod_eq_of_lt hbv).symm sc1 sc2 b2 sa hsv a1 sd hxv b1 hbv

theorem split_spec_masked (yp : List Nat) (n m k : Nat) (hm : 1 ≤ m) (hk1 : 1 ≤ k) (hk : k ≤ 63)
    (hh1 : 1 ≤ 64 * m - k) (hn : n = (2 * (64 * m - k) + 63) / 64) (hL : Limbs yp) (hl : yp.length = n)
    (hv : val yp < 2 ^ (64 * m - k) * 2 ^ (64 * m - k)) :
    SplitOk (64 * m - k) m (val yp) (split yp n m k) := by
  have hBm := Bn_eq m k hm hk
  obtain ⟨lo1, lo2, lo3⟩ := split_lo_k yp m k hm hk hL (by rw [hl, hn]; omega)
  obtain ⟨hi1, hi2, hi3⟩ := split_hi_k yp n m k hm hk1 hk hn hL hl hv
  rw [split_masked yp n m k (by omega)]
  simp only [] at hi1 hi2 hi3 ⊢
  generalize (if n = 2 * m then setAt (rshift ((yp.drop (m - 1)).take m) (64 - k)).1 (m - 1)
    ((rshift ((yp.drop (m - 1)).take m) (64 - k)).1.getD (m - 1) 0 ||| ((yp.getD (2 * m - 1) 0 <<< k) % B))
    else (rshift ((yp.drop (m - 1)).take m) (64 - k)).1) = tpp at *
  generalize maskK (yp.take m) m k = ylo at *
  clear hn hl hL
  have hyl := Nat.mod_lt (val yp) (Nat.two_pow_pos (64 * m - k))
  have hyh := (Nat.div_lt_iff_lt_mul (Nat.two_pow_pos (64 * m - k))).mpr hv
  obtain ⟨sa, sd, sc1, sc2, sL1, sL2, sl1, sl2⟩ := sumdiff_spec ylo tpp lo3 hi3 (by rw [lo2, hi2])
  rw [lo2, lo1, hi1] at sa sd
  rw [lo2] at sl1 sl2
  generalize sumdiff_n ylo tpp = s at *
  have hsv := val_lt s.1 sL1; rw [sl1] at hsv
  have hxv := val_lt s.2.1 sL2; rw [sl2] at hxv
  -- the sum of the halves is below `2·2^h ≤ B^m`: no carry, and the borrow is all of `s.2.2`
  have hcy0 : s.2.2 / 2 = 0 := by
    have h2H : 2 ^ (64 * m - k) * 2 ≤ B ^ m := by rw [hBm]; exact Nat.mul_le_mul_left _ (two_le_two_pow k hk1)
    exact carry_eq_zero sa (by omega)
  have hs22 : s.2.2 = s.2.2 % 2 := by omega
  have hsv2 : val s.1 = val yp % 2 ^ (64 * m - k) + val yp / 2 ^ (64 * m - k) := by
    rw [hcy0, Nat.mul_zero, Nat.add_zero] at sa; exact sa
  have hc2 : val s.1 / 2 ^ (64 * m - k) < 2 := (Nat.div_lt_iff_lt_mul (Nat.two_pow_pos _)).mpr (by omega)
  rw [top_shr s.1 m k sL1 sl1 hm hk]
  obtain ⟨a1, _, a3, a4⟩ := add_1_val' s.1 _ sL1 (by rw [sl1]; exact hm) (bit_lt_B (Nat.le_of_lt_succ hc2))
  obtain ⟨b1, b2, b3, b4⟩ := add_1_val' s.2.1 s.2.2 sL2 (by rw [sl2]; exact hm) (by rw [hs22]; exact bit_lt_B sc2)
  rw [sl1] at a1 a4
  rw [sl2] at b1 b4
  generalize add_1 s.1 (val s.1 / 2 ^ (64 * m - k)) = a at *
  generalize add_1 s.2.1 s.2.2 = b at *
  rw [show val s.1 / 2 ^ (64 * m - k) =
    (val yp % 2 ^ (64 * m - k) + val yp / 2 ^ (64 * m - k)) / 2 ^ (64 * m - k) by rw [hsv2]] at a1
  rw [hs22] at b1
  obtain ⟨ma1, ma2, ma3⟩ := maskK_spec a.1 m k a3 a4 hm (le_trans hk (by norm_num))
  obtain ⟨mb1, mb2, mb3⟩ := maskK_spec b.1 m k b3 b4 hm (le_trans hk (by norm_num))
  have hbv := val_lt b.1 b3; rw [b4] at hbv
  exact splitOk_of (64 * m - k) m (val yp) (2 ^ k) (B ^ m) _ _ b.2 (val s.1) (s.2.2 / 2) (val a.1) a.2 (val s.2.1)
    (s.2.2 % 2) (val b.1) hh1 Nat.one_le_two_pow hBm hv ma2 ma3 mb2 mb3 ma1 mb1 sc1 sc2 b2 sa hsv a1 sd hxv b1 hbv

theorem split_spec (yp : List Nat) (n m k : Nat) (hm : 1 ≤ m) (hk : k ≤ 63) (hh1 : 1 ≤ 64 * m - k)
    (hn : n = (2 * (64 * m - k) + 63) / 64) (hL : Limbs yp) (hl : yp.length = n)
    (hv : val yp < 2 ^ (64 * m - k) * 2 ^ (64 * m - k)) :
    SplitOk (64 * m - k) m (val yp) (split yp n m k) := by
  rcases Nat.eq_zero_or_pos k with rfl | hk1
  · obtain rfl : n = 2 * m := by omega
    exact split_spec_whole yp m hm hL hl hv
  · exact split_spec_masked yp n m k hm hk1 hk hh1 hn hL hl hv

/-! ### the final halving (mulmod_2expm1.c:267-291) -/

/-- mpn_half (= mpn_rshift1); the bit shifted out is the top bit of the returned limb -/
theorem half_spec (u : List Nat) (hu : Limbs u) (hne : 0 < u.length) :
    val (rshift u 1).1 = val u / 2 ∧ (rshift u 1).2 = (val u % 2) * 2 ^ 63 ∧ Limbs (rshift u 1).1 ∧
    (rshift u 1).1.length = u.length := by
  obtain ⟨x, xs, rfl⟩ := List.exists_cons_of_length_pos hne
  obtain ⟨_, _, h3, h4, h5, h6⟩ := rshift_val' (x :: xs) 1 hu (Nat.succ_pos _) (by omega) (by omega)
  exact ⟨by simpa using h5, by simpa using h6, h3, h4⟩

/-- mulmod_2expm1.c:277-287 with `c = 64 − k − 1` (no shift for `c = 0`) -/
theorem shl_or (D : List Nat) (c v : Nat) (hD : Limbs D) (hne : 0 < D.length) (hc : c ≤ 63) (hv : v < 2 ^ c) :
    val (setAt (if c ≠ 0 then lshift D c else (D, 0)).1 0 ((if c ≠ 0 then lshift D c else (D, 0)).1.getD 0 0 ||| v)) +
      B ^ D.length * (if c ≠ 0 then lshift D c else (D, 0)).2 = val D * 2 ^ c + v ∧
    (setAt (if c ≠ 0 then lshift D c else (D, 0)).1 0 ((if c ≠ 0 then lshift D c else (D, 0)).1.getD 0 0 ||| v)).length =
      D.length ∧
    Limbs (setAt (if c ≠ 0 then lshift D c else (D, 0)).1 0 ((if c ≠ 0 then lshift D c else (D, 0)).1.getD 0 0 ||| v)) ∧
    (if c ≠ 0 then lshift D c else (D, 0)).2 < B := by
  by_cases h0 : c = 0
  · subst h0
    obtain rfl : v = 0 := by rw [pow_zero] at hv; omega
    rw [if_neg (by simp), Nat.or_zero, setAt_self D 0 hne, pow_zero]
    exact ⟨by omega, rfl, hD, B_pos⟩
  · rw [if_pos h0]
    obtain ⟨s1, s2, s3, s4⟩ := lshift_or D c v hD hne (by omega) hv
    exact ⟨s1, s2, s3, lt_of_lt_of_le s4 (by unfold B; exact Nat.pow_le_pow_right (by norm_num) (by omega))⟩
theorem assemble_whole (S D : List Nat) (b n m : Nat) :
    assemble S D b n m 0 =
      setAt (rshift (S ++ D) 1).1 (n - 1) ((rshift (S ++ D) 1).1.getD (n - 1) 0 ||| (rshift (S ++ D) 1).2) := by
  unfold assemble
  simp only [↓reduceIte]

theorem assemble_masked (S D : List Nat) (b n m k : Nat) (hk : k ≠ 0) :
    assemble S D b n m k =
      let r := rshift S 1
      let Dl := if 64 - k - 1 ≠ 0 then lshift D (64 - k - 1) else (D, 0)
      let xp := r.1.take (m - 1) ++ Dl.1
      let xp := setAt xp (m - 1) (xp.getD (m - 1) 0 ||| r.1.getD (m - 1) 0)
      let xp := if 2 * m = n then xp ++ [Dl.2] else xp
      setAt xp (n - 1) (xp.getD (n - 1) 0 ||| (r.2 >>> (64 * n - b))) := by
  unfold assemble
  simp only [hk, ↓reduceIte]

theorem pow_top_whole (m : Nat) (hm : 1 ≤ m) :
    B ^ (2 * m - 1) * 2 ^ 63 = 2 ^ (2 * (64 * m) - 1) ∧ B ^ (2 * m) = 2 * (B ^ (2 * m - 1) * 2 ^ 63) := by
  constructor
  · rw [B_pow, ← pow_add]; congr 1; omega
  · rw [B_pow, B_pow, ← pow_add, ← pow_succ']; congr 1; omega

/-- mulmod_2expm1.c:269-270 -/
theorem assemble_spec_whole (S D : List Nat) (m : Nat) (hm : 1 ≤ m) (hS : Limbs S) (hD : Limbs D)
    (hSl : S.length = m) (hDl : D.length = m) :
    (assemble S D (2 * (64 * m)) (2 * m) m 0).length = 2 * m ∧ Limbs (assemble S D (2 * (64 * m)) (2 * m) m 0) ∧
    val (assemble S D (2 * (64 * m)) (2 * m) m 0) = (val S + 2 ^ (64 * m) * val D) / 2 +
      (val S + 2 ^ (64 * m) * val D) % 2 * 2 ^ (2 * (64 * m) - 1) := by
  rw [assemble_whole]
  have hxl : (S ++ D).length = 2 * m := by rw [List.length_append, hSl, hDl, two_mul]
  have hxL : Limbs (S ++ D) := Limbs_append.mpr ⟨hS, hD⟩
  have hxv : val (S ++ D) = val S + 2 ^ (64 * m) * val D := by rw [val_append, hSl, B_pow]
  obtain ⟨r1, r2, r3, r4⟩ := half_spec (S ++ D) hxL (by rw [hxl]; omega)
  have hW := val_lt _ hxL
  obtain ⟨p1, p2⟩ := pow_top_whole m hm
  rw [hxl] at r4 hW
  rw [hxv] at r1 r2 hW
  rw [p2] at hW
  generalize val S + 2 ^ (64 * m) * val D = W at *
  generalize rshift (S ++ D) 1 = r at *
  rw [r2]
  have hbit : W % 2 < 2 := Nat.mod_lt _ two_pos
  obtain ⟨o1, o2, o3⟩ := or_top_limb r.1 (2 * m) 63 (W % 2) r3 r4 (by omega) (by rw [r1]; omega)
    (by rw [B_eq]; omega)
  refine ⟨o2, o3, ?_⟩
  rw [o1, r1, ← p1]; ring
theorem pow_top (n b j : Nat) (hnb : 64 * n = b + j) (hj : j ≤ 63) (hb : 1 ≤ b) :
    B ^ (n - 1) * 2 ^ (63 - j) = 2 ^ (b - 1) := by
  rw [B_pow, ← pow_add]; congr 1; omega

theorem pow_half (m k : Nat) (hm : 1 ≤ m) (hk : k ≤ 63) :
    2 ^ (64 * m - k) = 2 * (B ^ (m - 1) * 2 ^ (64 - k - 1)) ∧
    2 ^ (2 * (64 * m - k) - 1) = B ^ (m - 1) * 2 ^ (64 - k - 1) * 2 ^ (64 * m - k) := by
  constructor
  · rw [B_pow, ← pow_add, ← pow_succ']; congr 1; omega
  · rw [B_pow, ← pow_add, ← pow_add]; congr 1; omega

theorem shr_bit (e j : Nat) (hj : j ≤ 63) : (e * 2 ^ 63) >>> j = e * 2 ^ (63 - j) := by
  rw [Nat.shiftRight_eq_div_pow, show 2 ^ 63 = 2 ^ (63 - j) * 2 ^ j by rw [← pow_add]; congr 1; omega,
    ← Nat.mul_assoc, Nat.mul_div_cancel _ (Nat.two_pow_pos _)]

theorem size_top (m k : Nat) (hm : 1 ≤ m) (hk1 : 1 ≤ k) (hk : k ≤ 63) :
    (2 * m = (2 * (64 * m - k) + 63) / 64 ∧ 64 * (2 * m) = 2 * (64 * m - k) + 2 * k ∧ k ≤ 31) ∨
    ((2 * (64 * m - k) + 63) / 64 + 1 = 2 * m ∧ 64 * ((2 * (64 * m - k) + 63) / 64) = 2 * (64 * m - k) + (2 * k - 64) ∧
      32 ≤ k) := by
  omega

/-- mulmod_2expm1.c:287-290: `n = 2m` limbs with `Dm` on top, or `n = 2m − 1` when nothing was shifted out -/
theorem assemble_mid (A E : List Nat) (m n Dm X : Nat) (hm : 1 ≤ m) (hAl : A.length = m - 1) (hAL : Limbs A)
    (hEl : E.length = m) (hEL : Limbs E) (hDm : Dm < B) (he : val E + B ^ m * Dm = X)
    (hsz : 2 * m = n ∨ n + 1 = 2 * m ∧ X < B ^ m) :
    ∃ x3, (if 2 * m = n then A ++ E ++ [Dm] else A ++ E) = x3 ∧ x3.length = n ∧ Limbs x3 ∧
      val x3 = val A + B ^ (m - 1) * X := by
  rcases hsz with h2 | ⟨h2, hX⟩
  · refine ⟨_, if_pos h2, by rw [List.length_append, List.length_append, hAl, hEl, List.length_singleton]; omega,
      Limbs_snoc.mpr ⟨Limbs_append.mpr ⟨hAL, hEL⟩, hDm⟩, ?_⟩
    rw [val_snoc, List.length_append, hAl, hEl, val_append, hAl, pow_add, ← he]; ring
  · obtain ⟨h0, he⟩ := carry_zero he hX
    exact ⟨_, if_neg (by omega), by rw [List.length_append, hAl, hEl]; omega, Limbs_append.mpr ⟨hAL, hEL⟩,
      by rw [val_append, hAl, he]⟩

/-- mulmod_2expm1.c:274-292 -/
theorem assemble_spec_masked (S D : List Nat) (m k : Nat) (hm : 1 ≤ m) (hk1 : 1 ≤ k) (hk : k ≤ 63)
    (hS : Limbs S) (hD : Limbs D) (hSl : S.length = m) (hDl : D.length = m)
    (hSv : val S < 2 ^ (64 * m - k)) (hDv : val D < 2 ^ (64 * m - k)) :
    (assemble S D (2 * (64 * m - k)) ((2 * (64 * m - k) + 63) / 64) m k).length = (2 * (64 * m - k) + 63) / 64 ∧
    Limbs (assemble S D (2 * (64 * m - k)) ((2 * (64 * m - k) + 63) / 64) m k) ∧
    val (assemble S D (2 * (64 * m - k)) ((2 * (64 * m - k) + 63) / 64) m k) = (val S + 2 ^ (64 * m - k) * val D) / 2 +
      (val S + 2 ^ (64 * m - k) * val D) % 2 * 2 ^ (2 * (64 * m - k) - 1) := by
  -- sizes: `n` limbs, `j` bits missing in the top one
  obtain ⟨n, j, hn, hnb, hj, hsz⟩ : ∃ n j, n = (2 * (64 * m - k) + 63) / 64 ∧ 64 * n = 2 * (64 * m - k) + j ∧ j ≤ 63 ∧
      (2 * m = n ∧ k ≤ 31 ∨ n + 1 = 2 * m ∧ 32 ≤ k) := by
    rcases size_top m k hm hk1 hk with ⟨h1, h2, h3⟩ | ⟨h1, h2, h3⟩
    · exact ⟨_, 2 * k, rfl, by rw [← h1]; exact h2, by omega, Or.inl ⟨h1, h3⟩⟩
    · exact ⟨_, 2 * k - 64, rfl, h2, by omega, Or.inr ⟨h1, h3⟩⟩
  rw [← hn]
  clear hn
  have hjn : 64 * n - 2 * (64 * m - k) = j := by omega
  have hh1 : 1 ≤ 2 * (64 * m - k) := by omega
  have hn1 : 1 ≤ n := by omega
  rw [assemble_masked S D _ n m k (by omega), hjn]
  simp only []
  obtain ⟨q1, q2⟩ := pow_half m k hm hk
  have htop := pow_top n _ j hnb hj hh1
  rw [q2, q1]
  rw [q1] at hSv hDv
  rw [q2, q1] at htop
  have hTpos : 0 < B ^ (m - 1) * 2 ^ (64 - k - 1) := Nat.mul_pos (Bpow_pos _) (Nat.two_pow_pos _)
  generalize hT : B ^ (m - 1) * 2 ^ (64 - k - 1) = T at *
  clear q1 q2 hh1 hnb hjn
  -- the halved `S`: its top limb `car1` has at most `63 − k` bits
  obtain ⟨r1, r2, r3, r4⟩ := half_spec S hS (by rw [hSl]; exact hm)
  rw [hSl] at r4
  generalize rshift S 1 = r at *
  have hc1 := top_limb r.1 m r3 r4 hm
  have hc1lt : r.1.getD (m - 1) 0 < 2 ^ (64 - k - 1) := by
    rw [hc1, Nat.div_lt_iff_lt_mul (Bpow_pos _), Nat.mul_comm, hT, r1]; omega
  have a1 := val_take_eq_mod r.1 r3 (m - 1)
  have hAl : (r.1.take (m - 1)).length = m - 1 := by rw [List.length_take, r4]; omega
  have hAL : Limbs (r.1.take (m - 1)) := Limbs_take r3 _
  have hsplit : val (r.1.take (m - 1)) + B ^ (m - 1) * r.1.getD (m - 1) 0 = val S / 2 := by
    rw [a1, hc1, Nat.mod_add_div, r1]
  obtain ⟨e1, e2, e3, e4⟩ := shl_or D (64 - k - 1) (r.1.getD (m - 1) 0) hD (by rw [hDl]; exact hm) (by omega) hc1lt
  rw [hDl] at e1
  rw [hDl] at e2
  rw [getD_append_len _ _ _ hAl, setAt_append_len _ _ _ _ hAl]
  generalize r.1.getD (m - 1) 0 = car1 at *
  generalize r.1.take (m - 1) = A at *
  generalize (if 64 - k - 1 ≠ 0 then lshift D (64 - k - 1) else (D, 0)) = Dl at *
  generalize setAt Dl.1 0 (Dl.1.getD 0 0 ||| car1) = E at *
  -- the `n` limbs before the last OR hold `S/2 + 2^(h−1)·D`; for `n = 2m − 1` nothing is shifted out of `D`
  have hfit : 32 ≤ k → val D * 2 ^ (64 - k - 1) + car1 < B ^ m := by
    intro hk32
    have h1 : (val D + 1) * 2 ^ (64 - k - 1) ≤ 2 * T * 2 ^ (64 - k - 1) := Nat.mul_le_mul_right _ hDv
    have h2 : 2 * T * 2 ^ (64 - k - 1) ≤ B ^ m := by
      rw [← hT, B_pow, B_pow, ← pow_add, ← pow_succ', ← pow_add]
      exact Nat.pow_le_pow_right (by norm_num) (by omega)
    rw [Nat.add_mul, Nat.one_mul] at h1
    omega
  have hx3 := assemble_mid A E m n Dl.2 _ hm hAl hAL e2 e3 e4 e1
    (hsz.imp (fun h => h.1) (fun h => ⟨h.1, hfit h.2⟩))
  have hV : val A + B ^ (m - 1) * (val D * 2 ^ (64 - k - 1) + car1) = val S / 2 + T * val D := by
    rw [← hsplit, ← hT]; ring
  rw [hV] at hx3
  obtain ⟨x3, hx3e, x3l, x3L, x3v⟩ := hx3
  rw [hx3e, r2, shr_bit _ j hj]
  have hbit : val S % 2 < 2 := Nat.mod_lt _ two_pos
  have hlt : val x3 < B ^ (n - 1) * 2 ^ (63 - j) := by
    rw [htop, x3v]
    have h1 : T * (val D + 1) ≤ T * (2 * T) := Nat.mul_le_mul_left _ hDv
    rw [Nat.mul_add, Nat.mul_one] at h1
    omega
  obtain ⟨o1, o2, o3⟩ := or_top_limb x3 n (63 - j) (val S % 2) x3L x3l hn1 hlt (by
    have : 2 ^ (63 - j) * 2 ≤ B := by
      rw [← pow_succ]; unfold B; exact Nat.pow_le_pow_right (by norm_num) (by omega)
    rcases Nat.le_one_iff_eq_zero_or_eq_one.mp (Nat.le_of_lt_succ hbit) with h | h <;> rw [h] <;> omega)
  refine ⟨o2, o3, ?_⟩
  rw [o1, x3v, ← Nat.mul_assoc, Nat.mul_comm (B ^ (n - 1)), Nat.mul_assoc, htop, Nat.mul_assoc 2,
    Nat.add_mul_div_left _ _ two_pos, Nat.add_mul_mod_self_left]

/-- mulmod_2expm1.c:267-291 -/
theorem assemble_spec (S D : List Nat) (b n m k : Nat) (hm : 1 ≤ m) (hk : k ≤ 63)
    (hb : b = 2 * (64 * m - k)) (hn : n = (b + 63) / 64) (hS : Limbs S) (hD : Limbs D)
    (hSl : S.length = m) (hDl : D.length = m)
    (hSv : val S < 2 ^ (64 * m - k)) (hDv : val D < 2 ^ (64 * m - k)) :
    (assemble S D b n m k).length = n ∧ Limbs (assemble S D b n m k) ∧
    val (assemble S D b n m k) = (val S + 2 ^ (64 * m - k) * val D) / 2 +
      (val S + 2 ^ (64 * m - k) * val D) % 2 * 2 ^ (b - 1) := by
  subst hb hn
  rcases Nat.eq_zero_or_pos k with rfl | hk1
  · rw [Nat.sub_zero, show (2 * (64 * m) + 63) / 64 = 2 * m by omega]
    exact assemble_spec_whole S D m hm hS hD hSl hDl
  · exact assemble_spec_masked S D m k hm hk1 hk hS hD hSl hDl hSv hDv

end Mpir.Mm1
