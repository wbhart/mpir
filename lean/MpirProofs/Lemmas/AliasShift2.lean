/- mpz_cdiv_q_2exp / mpz_fdiv_q_2exp on the pointer-level model: the skipped low limbs are inspected before the in-place
   shift; the rounding increment may carry into limb wsize (allocated by `MPZ_REALLOC (w, wsize + 1)`). -/
import MpirProofs.Lemmas.AliasMemOps
namespace Mpir.AliasMem
open Mpir
open Mpir.DivZ (sizeNat siz sameSign)

theorem size_succ {Q k : Nat} (h1 : B ^ (k - 1) ≤ Q) (h2 : Q < B ^ k) (hk : 1 ≤ k) :
    sizeNat (Q + 1) = k + (Q + 1) / B ^ k := by
  by_cases hc : Q + 1 = B ^ k
  · rw [hc, Nat.div_self (Bpow_pos _)]
    exact sizeNat_eq (by simp) (Nat.pow_lt_pow_right (by rw [B_eq]; decide) (by omega)) (by omega)
  · have hd : (Q + 1) / B ^ k = 0 := Nat.div_eq_of_lt (by omega)
    rw [hd]
    show sizeNat (Q + 1) = k
    exact sizeNat_eq (by omega) (by omega) hk

/-- the closed form of what cfdiv_q_2exp.c computes (value level) -/
def cfq (x : Int) (cnt : Nat) (dir : Int) : Int :=
  let m := x.natAbs
  if sizeNat m ≤ cnt / 64 then (if x = 0 ∨ ¬ ((x < 0) ↔ (dir < 0)) then 0 else dir)
  else
    let q := m / 2 ^ cnt
    let q' := if ((x < 0) ↔ (dir < 0)) ∧ m % 2 ^ cnt ≠ 0 then q + 1 else q
    if 0 ≤ x then (q' : Int) else -(q' : Int)

theorem succ_lt_Bpow_succ {x k : Nat} (h : x < B ^ k) : x + 1 < B ^ (k + 1) :=
  Nat.lt_of_le_of_lt (Nat.succ_le_of_lt h) (Nat.pow_lt_pow_right (by rw [B_eq]; decide) (Nat.lt_succ_self k))

theorem cfq_of_round {x : Int} {cnt : Nat} {dir : Int} (hnle : ¬ sizeNat x.natAbs ≤ cnt / 64) (M : Nat)
    (hM : M = x.natAbs / 2 ^ cnt + (if ((x < 0) ↔ (dir < 0)) ∧ x.natAbs % 2 ^ cnt ≠ 0 then 1 else 0)) :
    (if 0 ≤ x then (M : Int) else -(M : Int)) = cfq x cnt dir := by
  unfold cfq; simp only []
  rw [if_neg hnle, hM]
  by_cases hc : ((x < 0) ↔ (dir < 0)) ∧ x.natAbs % 2 ^ cnt ≠ 0
  · simp only [if_pos hc]
  · simp only [if_neg hc, Nat.add_zero]

/-- `ha`: when every limb of u is shifted out, `PTR (w)[0] = 1` (cfdiv_q_2exp.c:47) is stored without a realloc -/
theorem cfdiv_q_2exp_post {s : St} (h : Inv s) {w u : Nat} (hw : w < s.nv) (hu : u < s.nv) (cnt : Nat) (dir : Int)
    (hdir : dir = 1 ∨ dir = -1) (ha : 1 ≤ s.alloc w) :
    Ok (cfdiv_q_2expV .c w u cnt dir s) (fun s' => Post s s' w (cfq (s.value u) cnt dir)) := by
  unfold cfdiv_q_2expV
  simp only [Variant.c, bind, Except.bind, pure, Except.pure, and_true, Bool.not_true, Bool.false_eq_true, and_false, if_false]
  have hsn := h.size_natAbs hu
  have hneg := h.size_neg_iff hu
  have hzero := h.size_eq_zero_iff hu
  have hmabs : (s.value u).natAbs = s.mag u := value_natAbs s u
  have hss : sameSign (s.size u) dir ↔ ((s.value u < 0) ↔ (dir < 0)) := by unfold sameSign; rw [hneg]
  by_cases hws : (((s.size u).natAbs : Nat) : Int) - ((cnt / 64 : Nat) : Int) ≤ 0
  · rw [if_pos hws]
    obtain ⟨b, hb, hbl, hbL⟩ := h.live w hw
    rw [storeAt_ok hb (by simp; omega)]; simp only []
    have hcf : cfq (s.value u) cnt dir = (if s.size u = 0 ∨ ¬ sameSign (s.size u) dir then 0 else dir) := by
      unfold cfq; simp only [hmabs]
      rw [if_pos (by rw [← hsn]; omega)]
      by_cases hc : s.value u = 0 ∨ ¬ ((s.value u < 0) ↔ (dir < 0))
      · rw [if_pos hc, if_pos (by rw [hzero, hss]; exact hc)]
      · rw [if_neg hc, if_neg (by rw [hzero, hss]; exact hc)]
    rw [hcf]
    have hone : sizeNat 1 = 1 := by decide
    have hfin : ∀ (m : Nat) (neg : Bool), (m = 0 ∨ m = 1) →
        Post s ((s.setBlk (s.ptr w) (some (wrAt b 0 [1]))).setSize w (if neg then -(sizeNat m : Int) else (sizeNat m : Int))) w
          (if neg then -(m : Int) else (m : Int)) := by
      intro m neg hm
      have p := put_upd h hw (wrAt b 0 [1]) m neg (by rw [wrAt_length (by simp; omega)]; exact hbl)
        (Limbs_wrAt hbL (by intro x hx; simp at hx; rw [hx, B_eq]; decide))
        (by rcases hm with e | e <;> rw [e] <;> simp [DivZ.sizeNat_eq_zero.mpr rfl, hone] <;> omega)
        (by rcases hm with e | e
            · rw [e, DivZ.sizeNat_eq_zero.mpr rfl]; simp
            · rw [e, hone, wrAt_zero]; simp)
      exact Post.of_same_upd (Same.refl s) (Fr.refl s w) p.2.1 p.1 p.2.2
    by_cases hc : s.size u = 0 ∨ ¬ sameSign (s.size u) dir
    · rw [if_pos hc]
      have := hfin 0 false (Or.inl rfl)
      exact ⟨_, rfl, by simpa [DivZ.sizeNat_eq_zero.mpr rfl] using this⟩
    · rw [if_neg hc]
      rcases hdir with e | e
      · have := hfin 1 false (Or.inr rfl)
        rw [e]; exact ⟨_, rfl, by simpa [hone] using this⟩
      · have := hfin 1 true (Or.inr rfl)
        rw [e]; exact ⟨_, rfl, by simpa [hone] using this⟩
  · rw [if_neg hws,
      show (((s.size u).natAbs : Int) - ((cnt / 64 : Nat) : Int)).toNat = (s.size u).natAbs - cnt / 64 by clear * - hws; omega]
    have oU := h.normOp hu (by clear * - hws; omega)
    have o := oU.drop (k := cnt / 64) (by clear * - hws; omega)
    have hHv : val ((s.limbs u).drop (cnt / 64)) = s.mag u / B ^ (cnt / 64) :=
      val_drop_eq_div _ oU.limbs _
    have hLv : val ((s.limbs u).take (cnt / 64)) = s.mag u % B ^ (cnt / 64) :=
      val_take_eq_mod _ oU.limbs _
    have hnle : ¬ sizeNat (s.value u).natAbs ≤ cnt / 64 := by rw [hmabs, ← hsn]; omega
    have hnonneg : (0 ≤ s.value u) ↔ (s.size u ≥ 0) := by clear * - hneg; omega
    obtain ⟨i1, k, a1⟩ := realloc_same h hw ((s.size u).natAbs - cnt / 64 + 1)
    have fr1 : Fr s w (s.mpzRealloc w ((s.size u).natAbs - cnt / 64 + 1)) := (Fr.refl s w).realloc _
    generalize s.mpzRealloc w ((s.size u).natAbs - cnt / 64 + 1) = s1 at *
    obtain ⟨b, hb, hbl, hbL⟩ := i1.live w (k.lt hw)
    have hld : s1.loadAt (s1.ptr u) (cnt / 64) ((s.size u).natAbs - cnt / 64) = .ok ((s.limbs u).drop (cnt / 64)) := by
      have := loadAt_var_off i1 (k.lt hu) (cnt / 64) (by rw [k.size]; omega); rwa [k.size, k.limbs u hu] at this
    have hlow : s1.loadAt (s1.ptr u) 0 (cnt / 64) = .ok ((s.limbs u).take (cnt / 64)) := by
      have := loadAt_var_low i1 (k.lt hu) (cnt / 64) (by rw [k.size]; omega); rwa [k.limbs u hu] at this
    rw [hlow]; simp only []
    rw [hLv]
    clear hlow hLv oU hws hsn
    generalize (s.size u).natAbs - cnt / 64 = m at *
    generalize (s.limbs u).drop (cnt / 64) = H at *
    have hfit : m + 1 ≤ b.length := hbl ▸ a1
    have hH0 : 0 + H.length ≤ b.length := by rw [o.len]; omega
    generalize hrm : decide (sameSign (s.size u) dir) = rmask
    have hrmask : rmask = true ↔ ((s.value u < 0) ↔ (dir < 0)) := by rw [← hrm, decide_eq_true_iff, hss]
    -- the low limbs, inspected before the shift
    have hr0 : (if rmask = true then (Except.ok (decide (s.mag u % B ^ (cnt / 64) ≠ 0)) : R Bool) else Except.ok false) =
        Except.ok (rmask && decide (s.mag u % B ^ (cnt / 64) ≠ 0)) := by cases rmask <;> rfl
    simp only [hr0]
    generalize hround0 : (rmask && decide (s.mag u % B ^ (cnt / 64) ≠ 0)) = round0
    -- what is left once the block of `w` holds `l` (written over `b1`) and `wsize` is its normalised length
    have fin : ∀ (b1 l : List Nat) (wsize M : Nat), b1.length = s1.alloc w → Limbs b1 → l.length ≤ b1.length → Limbs l →
        val l = M → wsize = sizeNat M →
        M = s.mag u / 2 ^ cnt + (if ((s.value u < 0) ↔ (dir < 0)) ∧ s.mag u % 2 ^ cnt ≠ 0 then 1 else 0) →
        ∃ s', (Except.ok ((s1.setBlk (s1.ptr w) (some (wrAt b1 0 l))).setSize w
            (if s.size u ≥ 0 then (wsize : Int) else -(wsize : Int))) : R St) = .ok s' ∧
          Post s s' w (cfq (s.value u) cnt dir) := fun b1 l wsize M h1 h2 hl hL hv hws hM => by
      have r := put_signed i1 k fr1 hw h1 h2 hl hL (wsize := wsize) (by rw [hv]; exact hws) (s.size u ≥ 0)
      rw [hv, (if_congr hnonneg.symm rfl rfl).trans (cfq_of_round hnle M (by rw [hmabs]; exact hM))] at r
      exact ⟨_, rfl, r⟩
    by_cases hc : cnt % 64 = 0
    · have h2cnt : 2 ^ cnt = B ^ (cnt / 64) := by rw [two_pow_split cnt, hc, pow_zero, Nat.mul_one]
      rw [if_neg (not_not_intro hc), mpn_copy_ok true hld hb hH0 rfl]
      simp only [Bool.or_false]
      have hround : round0 = true ↔ (((s.value u < 0) ↔ (dir < 0)) ∧ s.mag u % 2 ^ cnt ≠ 0) := by
        rw [← hround0, Bool.and_eq_true, hrmask, decide_eq_true_iff, h2cnt]
      by_cases hr : round0 = true
      swap
      · simp only [eq_false_of_ne_true hr, Bool.false_eq_true, if_false]
        exact fin b H m (val H) hbl hbL (by rw [o.len]; omega) o.limbs rfl (sizeNat_eq o.ge o.lt o.pos).symm
          (by rw [if_neg (fun e => hr (hround.mpr e)), Nat.add_zero, hHv, h2cnt])
      · simp only [hr, if_true]
        rw [if_pos (Nat.ne_of_gt o.pos)]
        have hload := load_wrAt (s := s1) (p := s1.ptr w) (Nat.le_of_eq o.len.symm) (Nat.zero_add H.length ▸ hH0)
        rw [List.take_of_length_le (Nat.le_of_eq o.len)] at hload
        rw [hload]; simp only []
        rw [storeAt_setBlk (by rw [toLimbs_length, wrAt_length hH0]; omega)]
        simp only []
        exact fin (wrAt b 0 H) (toLimbs (m + 1) (val H + 1)) _ (val H + 1) (by rw [wrAt_length hH0]; exact hbl)
          (Limbs_wrAt hbL o.limbs) (by rw [toLimbs_length, wrAt_length hH0]; exact hfit) (Limbs_toLimbs _ _)
          (val_toLimbs_lt _ _ (succ_lt_Bpow_succ o.lt)) (size_succ o.ge o.lt o.pos).symm
          (by rw [if_pos (hround.mp hr), hHv, h2cnt])
    · rw [if_pos hc, mpn_rshift_ok hld hb (by omega) o.pos hc (Nat.mod_lt _ (by decide)) (by omega)]
      simp only []
      obtain ⟨hQlt, hQsz⟩ := quot_size (D := 2 ^ (cnt % 64)) (dl := 1) o.ge o.lt
        (by rw [Nat.sub_self, pow_zero]; exact Nat.one_le_two_pow) (by rw [pow_one]; exact two_pow_mod_lt cnt)
        (Nat.le_refl 1) o.pos
      rw [Nat.sub_add_cancel o.pos] at hQlt hQsz
      rw [limbAt_toLimbs ((setBlk_blk_self _ _ _).trans (congrArg some (wrAt_zero _ _))) (Nat.sub_lt o.pos Nat.one_pos)]
      simp only []
      rw [hQsz]
      have hq : val H / 2 ^ (cnt % 64) = s.mag u / 2 ^ cnt := by rw [hHv, ← div_two_pow_split]
      generalize val H / 2 ^ (cnt % 64) = Q at *
      have hQsz' : sizeNat Q ≤ m := (DivZ.sizeNat_le_iff _ _).mpr hQlt
      have hQl : (toLimbs m Q).length ≤ b.length := by rw [toLimbs_length]; omega
      have hQ0' : 0 + (toLimbs m Q).length ≤ b.length := by rw [Nat.zero_add]; exact hQl
      have ha1 : 1 ≤ s1.alloc w := Nat.le_trans (Nat.le_add_left 1 m) a1
      generalize hround1 : (rmask && decide (val H % 2 ^ (cnt % 64) * 2 ^ (64 - cnt % 64) ≠ 0)) = round1
      have hround : (round0 || round1) = true ↔ (((s.value u < 0) ↔ (dir < 0)) ∧ s.mag u % 2 ^ cnt ≠ 0) := by
        rw [← hround0, ← hround1, ← Bool.and_or_distrib_left, Bool.and_eq_true, hrmask, Bool.or_eq_true,
          decide_eq_true_iff, decide_eq_true_iff, ← DivZ.low_bits_ne_zero_iff, ← hHv]
        have hp : 0 < 2 ^ (64 - cnt % 64) := Nat.pow_pos (by decide)
        have : val H % 2 ^ (cnt % 64) * 2 ^ (64 - cnt % 64) ≠ 0 ↔ val H % 2 ^ (cnt % 64) ≠ 0 :=
          not_congr ⟨fun h2 => (Nat.mul_eq_zero.mp h2).resolve_right (Nat.ne_of_gt hp), fun h2 => by rw [h2, Nat.zero_mul]⟩
        rw [this]
      have hB1len : (wrAt b 0 (toLimbs m Q)).length = s1.alloc w := by rw [wrAt_length hQ0']; exact hbl
      have hB1L : Limbs (wrAt b 0 (toLimbs m Q)) := Limbs_wrAt hbL (Limbs_toLimbs _ _)
      by_cases hr : (round0 || round1) = true
      swap
      · simp only [eq_false_of_ne_true hr, Bool.false_eq_true, if_false]
        exact fin b (toLimbs m Q) (sizeNat Q) Q hbl hbL hQl (Limbs_toLimbs _ _) (val_toLimbs_lt _ _ hQlt) rfl
          (by rw [if_neg (fun e => hr (hround.mpr e)), Nat.add_zero]; exact hq)
      · simp only [hr, if_true]
        by_cases hQ0 : sizeNat Q = 0
        · rw [if_neg (not_not_intro hQ0), storeAt_setBlk (by rw [hB1len]; exact ha1)]
          simp only []
          exact fin _ [1] 1 1 hB1len hB1L (by rw [hB1len]; exact ha1) (fun x hx => by rw [List.mem_singleton.mp hx, B_eq]; decide)
            (by rw [val_cons, val_nil, Nat.mul_zero, Nat.add_zero]) (by decide)
            (by rw [if_pos (hround.mp hr), ← hq, DivZ.sizeNat_eq_zero.mp hQ0])
        · rw [if_pos hQ0]
          have hload := load_wrAt (s := s1) (p := s1.ptr w) (b := b) (l := toLimbs m Q) (j := sizeNat Q)
            (by rw [toLimbs_length]; exact hQsz') hQl
          rw [toLimbs_take _ _ _ hQsz'] at hload
          rw [hload]; simp only []
          rw [val_toLimbs_lt _ _ (DivZ.lt_B_pow_sizeNat Q), storeAt_setBlk (by rw [toLimbs_length, hB1len]; omega)]
          simp only []
          exact fin _ (toLimbs (sizeNat Q + 1) (Q + 1)) _ (Q + 1) hB1len hB1L (by rw [toLimbs_length, hB1len]; omega)
            (Limbs_toLimbs _ _) (val_toLimbs_lt _ _ (succ_lt_Bpow_succ (DivZ.lt_B_pow_sizeNat Q)))
            (size_succ (pow_le_of_sizeNat (fun e => hQ0 (DivZ.sizeNat_eq_zero.mpr e))) (DivZ.lt_B_pow_sizeNat Q)
              (Nat.pos_of_ne_zero hQ0)).symm
            (by rw [if_pos (hround.mp hr), hq])

theorem cfdiv_q_2exp_ok {s : St} (h : Inv s) {w u : Nat} (hw : w < s.nv) (hu : u < s.nv) (cnt : Nat) (dir : Int)
    (hdir : dir = 1 ∨ dir = -1) (ha : 1 ≤ s.alloc w) :
    ∃ s', cfdiv_q_2expV .c w u cnt dir s = .ok s' ∧ Res s s' w (cfq (s.value u) cnt dir) :=
  (cfdiv_q_2exp_post h hw hu cnt dir hdir ha).mono fun _ p => p.res h hw

theorem cfq_spec (x : Int) (cnt : Nat) (dir : Int) (hdir : dir = 1 ∨ dir = -1) :
    cfq x cnt dir = DivZ.specQ dir x ((2 ^ cnt : Nat) : Int) := by
  rw [DivZ.specQ_round dir hdir.symm x (2 ^ cnt) (Nat.pow_pos (by decide)).ne']
  unfold cfq
  by_cases hle : sizeNat x.natAbs ≤ cnt / 64
  · have hlt : x.natAbs < 2 ^ cnt := DivZ.lt_two_pow_of_size hle
    simp only [hle, if_true, Nat.div_eq_of_lt hlt, Nat.mod_eq_of_lt hlt, Nat.zero_add]
    rcases hdir with e | e <;> subst e <;> by_cases hx : x < 0 <;> by_cases hx0 : x = 0 <;> simp [hx, hx0]
  · simp only [hle, if_false]
    by_cases hc : (x < 0 ↔ dir < 0) ∧ x.natAbs % 2 ^ cnt ≠ 0
    · rw [if_pos hc, if_pos hc]
    · rw [if_neg hc, if_neg hc, Nat.add_zero]

end Mpir.AliasMem
