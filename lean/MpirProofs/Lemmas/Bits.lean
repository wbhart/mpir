/- The C10 models of Mpir/Model/Bits.lean against Mathlib's two's-complement `Int` operations.  Limb-wise operations are
   bitwise on values (`LimbOp`, `zipWith_val`); a result is stated as `Mag l m`, "l is the normalised limb vector of m", and
   turned into `toInt`/`WF` by `Mag.nonneg`/`Mag.neg`; one lemma per C branch of mpz_and/ior/xor/com, setbit/clrbit/combit,
   tstbit, popcount, scan0/scan1 and hamdist. -/
import MpirProofs.Lemmas.Arith
import MpirProofs.Lemmas.Kernels
import Mpir.Model.Bits
import Mathlib.Data.Int.Bitwise
import Mathlib.Data.List.Induction
import Mathlib.Data.Nat.Digits.Defs
namespace Mpir.Bits
open Mpir

/-! ## the Mathlib-free specification is Mathlib's -/

theorem ldiff_eq (m n : Nat) : ldiff m n = Nat.ldiff m n := rfl
theorem land_eq (x y : Int) : land x y = Int.land x y := by cases x <;> cases y <;> rfl
theorem lor_eq (x y : Int) : lor x y = Int.lor x y := by cases x <;> cases y <;> rfl
theorem lxor_eq (x y : Int) : lxor x y = Int.xor x y := by cases x <;> cases y <;> rfl
theorem lnot_eq (x : Int) : lnot x = Int.lnot x := by cases x <;> rfl
theorem lnot_eq' (x : Int) : lnot x = ~~~x := by cases x <;> rfl
theorem testBit_eq (x : Int) (i : Nat) : testBit x i = Int.testBit x i := by cases x <;> rfl

/-- the limb operation `g` is the bitwise operation with bit function `f` -/
def LimbOp (g : Nat → Nat → Nat) (f : Bool → Bool → Bool) : Prop :=
  f false false = false ∧ ∀ a b, a < B → b < B → g a b = Nat.bitwise f a b

theorem zipWith_eqlen {g f} (h : LimbOp g f) : ∀ (u v : List Nat), u.length = v.length → Limbs u → Limbs v →
    val (List.zipWith g u v) = Nat.bitwise f (val u) (val v) ∧ Limbs (List.zipWith g u v)
  | [], [], _, _, _ => by simp [Limbs_nil]
  | [], _ :: _, hl, _, _ => by simp at hl
  | _ :: _, [], hl, _, _ => by simp at hl
  | x :: xs, y :: ys, hl, hu, hv => by
    have ⟨hx, hxs⟩ := Limbs_cons.mp hu
    have ⟨hy, hys⟩ := Limbs_cons.mp hv
    have ⟨ih1, ih2⟩ := zipWith_eqlen h xs ys (by simpa using hl) hxs hys
    have hlt : Nat.bitwise f x y < B := by
      unfold B at *; exact Nat.bitwise_lt_two_pow hx hy
    constructor
    · simp only [List.zipWith_cons_cons, val_cons, ih1, h.2 x y hx hy]
      have := bitwise_split f h.1 64 x y (val xs) (val ys) (by unfold B at hx; exact hx) (by unfold B at hy; exact hy)
      unfold B; rw [this]
    · simp only [List.zipWith_cons_cons]
      exact Limbs_cons.mpr ⟨by rw [h.2 x y hx hy]; exact hlt, ih2⟩

theorem length_zipWith' (g : Nat → Nat → Nat) (u v : List Nat) :
    (List.zipWith g u v).length = min u.length v.length := by simp

theorem zipWith_take_min (g : Nat → Nat → Nat) (u v : List Nat) :
    List.zipWith g u v = List.zipWith g (u.take (min u.length v.length)) (v.take (min u.length v.length)) := by
  rw [← List.take_zipWith]; rw [List.take_of_length_le]; simp

theorem zipWith_val {g f} (h : LimbOp g f) (u v : List Nat) (hu : Limbs u) (hv : Limbs v) :
    Nat.bitwise f (val u) (val v) = val (List.zipWith g u v) +
      B ^ (min u.length v.length) * Nat.bitwise f (val (u.drop v.length)) (val (v.drop u.length)) ∧
    Limbs (List.zipWith g u v) := by
  set n := min u.length v.length with hn
  have hnu : n ≤ u.length := Nat.min_le_left _ _
  have hnv : n ≤ v.length := Nat.min_le_right _ _
  have e := zipWith_eqlen h (u.take n) (v.take n) (by simp [hnu, hnv])
    (Limbs_take hu n) (Limbs_take hv n)
  rw [← zipWith_take_min g u v] at e
  refine ⟨?_, e.2⟩
  have du : val (u.drop v.length) = val (u.drop n) := by
    by_cases hc : u.length ≤ v.length
    · have : n = u.length := by omega
      rw [this, List.drop_of_length_le hc, List.drop_of_length_le (le_refl _)]
    · have : n = v.length := by omega
      rw [this]
  have dv : val (v.drop u.length) = val (v.drop n) := by
    by_cases hc : v.length ≤ u.length
    · have : n = v.length := by omega
      rw [this, List.drop_of_length_le hc, List.drop_of_length_le (le_refl _)]
    · have : n = u.length := by omega
      rw [this]
  rw [du, dv, e.1]
  conv_lhs => rw [val_take_drop u n hnu, val_take_drop v n hnv]
  have l1 := val_lt _ (Limbs_take hu n); have l2 := val_lt _ (Limbs_take hv n)
  rw [List.length_take, Nat.min_eq_left hnu] at l1
  rw [List.length_take, Nat.min_eq_left hnv] at l2
  rw [B_pow] at *
  exact bitwise_split f h.1 (64 * n) _ _ _ _ l1 l2

theorem limbop_and : ∀ a b : Nat, (a &&& b) = Nat.bitwise and a b := fun _ _ => rfl
theorem limbop_or : ∀ a b : Nat, (a ||| b) = Nat.bitwise or a b := fun _ _ => rfl
theorem limbop_xor : ∀ a b : Nat, (a ^^^ b) = Nat.bitwise bne a b := fun _ _ => rfl

theorem testBit_lnotL (b : Nat) (hb : b < B) (i : Nat) : (lnotL b).testBit i = (decide (i < 64) && !b.testBit i) := by
  unfold lnotL B
  have : 2 ^ 64 - 1 - b = 2 ^ 64 - (b + 1) := by omega
  rw [this]; exact Nat.testBit_two_pow_sub_succ (by unfold B at hb; exact hb) i

theorem testBit_limb_high {a : Nat} (ha : a < B) {i : Nat} (hi : 64 ≤ i) : a.testBit i = false :=
  Nat.testBit_lt_two_pow (lt_of_lt_of_le ha (Nat.pow_le_pow_right (by decide) hi))

theorem limbop_andn (a b : Nat) (ha : a < B) (hb : b < B) : a &&& lnotL b = ldiff a b := by
  apply Nat.eq_of_testBit_eq; intro i
  rw [Nat.testBit_and, testBit_lnotL b hb, ldiff, Nat.testBit_bitwise rfl]
  by_cases hi : i < 64
  · simp [hi]
  · simp [hi, testBit_limb_high ha (by omega : 64 ≤ i)]

/-! `incr`, `addLimb`, `decr`, `subLimb` are the kernels `Mpir.incr`, `add_1`, `decr`, `sub_1` of
    Mpir/Model/Kernels.lean written out again for the mpz models; their value lemmas are those of the kernels. -/

theorem incr_eq : ∀ u : List Nat, incr u = Mpir.incr u
  | [] => rfl
  | x :: xs => by rw [incr, Mpir.incr, incr_eq xs]

theorem decr_eq : ∀ u : List Nat, decr u = Mpir.decr u
  | [] => rfl
  | x :: xs => by rw [decr, Mpir.decr, decr_eq xs]

theorem addLimb_eq : ∀ (u : List Nat) (v : Nat), addLimb u v = Mpir.add_1 u v
  | [], _ => rfl
  | x :: xs, v => by rw [addLimb, Mpir.add_1, incr_eq xs]

theorem subLimb_eq : ∀ (u : List Nat) (v : Nat), subLimb u v = Mpir.sub_1 u v
  | [], _ => rfl
  | x :: xs, v => by rw [subLimb, Mpir.sub_1, decr_eq xs]

theorem decr_val : ∀ (u : List Nat), Limbs u →
    val (decr u).1 + 1 = val u + B ^ u.length * (decr u).2 ∧ (decr u).2 ≤ 1 ∧ Limbs (decr u).1 ∧
    (decr u).1.length = u.length := by
  intro u hu; rw [decr_eq]; exact Mpir.decr_val u hu

theorem subLimb_val (x : Nat) (xs : List Nat) (v : Nat) (hu : Limbs (x :: xs)) (hv : v < B) :
    val (subLimb (x :: xs) v).1 + v = val (x :: xs) + B ^ (xs.length + 1) * (subLimb (x :: xs) v).2 ∧
    (subLimb (x :: xs) v).2 ≤ 1 ∧ Limbs (subLimb (x :: xs) v).1 ∧
    (subLimb (x :: xs) v).1.length = xs.length + 1 := by
  rw [subLimb_eq]; exact Mpir.sub_1_val' (x :: xs) v hu (Nat.succ_pos _) hv

theorem incr_val : ∀ (u : List Nat), Limbs u →
    val (incr u).1 + B ^ u.length * (incr u).2 = val u + 1 ∧ (incr u).2 ≤ 1 ∧ Limbs (incr u).1 ∧
    (incr u).1.length = u.length := by
  intro u hu; rw [incr_eq]; exact Mpir.incr_val u hu

theorem addLimb_val (x : Nat) (xs : List Nat) (v : Nat) (hu : Limbs (x :: xs)) (hv : v < B) :
    val (addLimb (x :: xs) v).1 + B ^ (xs.length + 1) * (addLimb (x :: xs) v).2 = val (x :: xs) + v ∧
    (addLimb (x :: xs) v).2 ≤ 1 ∧ Limbs (addLimb (x :: xs) v).1 ∧
    (addLimb (x :: xs) v).1.length = xs.length + 1 := by
  rw [addLimb_eq]; exact Mpir.add_1_val' (x :: xs) v hu (Nat.succ_pos _) hv

theorem incr_len (u : List Nat) : (incr u).1.length = u.length := by rw [incr_eq]; exact Mpir.incr_length u
theorem decr_len (u : List Nat) : (decr u).1.length = u.length := by rw [decr_eq]; exact Mpir.decr_length u
theorem addLimb_len (u : List Nat) (v : Nat) : (addLimb u v).1.length = u.length := by
  rw [addLimb_eq]; exact Mpir.add_1_length u v
theorem subLimb_len (u : List Nat) (v : Nat) : (subLimb u v).1.length = u.length := by
  rw [subLimb_eq]; exact Mpir.sub_1_length u v

theorem addOneGrow_len_le (r : List Nat) : (addOneGrow r).length ≤ r.length + 1 := by
  unfold addOneGrow
  have := addLimb_len r 1
  split
  split <;> simp_all

theorem xorCat_len (a b : List Nat) : (xorCat a b).length = max a.length b.length := by
  unfold xorCat xor_n
  split <;> simp <;> omega

theorem dropTopZero_len_le (l : List Nat) : (dropTopZero l).length ≤ l.length := by
  unfold dropTopZero; split <;> simp

/-! ### limbs and carries of `__GMPN_AORS_1` (no bound on the limb added: the low limb is reduced) -/

theorem incr_limbs (u : List Nat) (h : Limbs u) : Limbs (incr u).1 := (incr_val u h).2.2.1
theorem decr_limbs (u : List Nat) (h : Limbs u) : Limbs (decr u).1 := (decr_val u h).2.2.1

theorem subLimb_limbs (u : List Nat) (v : Nat) (h : Limbs u) : Limbs (subLimb u v).1 := by
  cases u with
  | nil => simp [subLimb, Limbs]
  | cons x xs =>
    have ⟨hx, hxs⟩ := Limbs_cons.mp h
    unfold subLimb; dsimp only
    split
    · exact Limbs_cons.mpr ⟨Nat.mod_lt _ B_pos, decr_limbs xs hxs⟩
    · exact Limbs_cons.mpr ⟨Nat.mod_lt _ B_pos, hxs⟩

theorem incr_cy : ∀ u : List Nat, (incr u).2 ≤ 1
  | [] => by simp [incr]
  | x :: xs => by
    unfold incr; dsimp only
    split
    · exact incr_cy xs
    · simp

theorem addLimb_limbs (u : List Nat) (v : Nat) (h : Limbs u) : Limbs (addLimb u v).1 := by
  cases u with
  | nil => simp [addLimb, Limbs]
  | cons x xs =>
    have ⟨hx, hxs⟩ := Limbs_cons.mp h
    unfold addLimb; dsimp only
    split
    · exact Limbs_cons.mpr ⟨Nat.mod_lt _ B_pos, incr_limbs xs hxs⟩
    · exact Limbs_cons.mpr ⟨Nat.mod_lt _ B_pos, hxs⟩

theorem addLimb_cy (u : List Nat) (v : Nat) (hne : u ≠ []) : (addLimb u v).2 ≤ 1 := by
  cases u with
  | nil => exact absurd rfl hne
  | cons x xs =>
    unfold addLimb; dsimp only
    split
    · exact incr_cy xs
    · simp

theorem scanTop_eq (l : List Nat) : scanTop l = (normalize l).length := by
  unfold scanTop normalize; simp

theorem take_scanTop (l : List Nat) : l.take (scanTop l) = normalize l := by
  obtain ⟨k, hk⟩ := normalize_spec l
  rw [scanTop_eq]; exact (congrArg (List.take _) hk).trans (List.take_left' rfl)

theorem scanTop_le (l : List Nat) : scanTop l ≤ l.length := by
  rw [scanTop_eq]; exact normalize_length_le l

theorem ne_nil_of_val_pos {l : List Nat} (h : 1 ≤ val l) : l ≠ [] := by
  intro h2; rw [h2] at h; simp at h

/-! ### magnitudes: `+ 1` with growth, the top-limb drop, signed results -/

/-- `l` is the normalised limb vector of `m` -/
def Mag (l : List Nat) (m : Nat) : Prop := val l = m ∧ Limbs l ∧ Normalized l

theorem Mag.cast {l : List Nat} {m n : Nat} (h : Mag l m) (e : m = n) : Mag l n := e ▸ h

theorem Mag.ne_nil {l : List Nat} {m : Nat} (h : Mag l (m + 1)) : l ≠ [] :=
  ne_nil_of_val_pos (by rw [h.1]; omega)

theorem Mag.normalize {l : List Nat} (h : Limbs l) : Mag (normalize l) (val l) :=
  ⟨val_normalize l, Limbs_normalize h, normalized_normalize l⟩

theorem Mag.one : Mag [1] 1 := ⟨rfl, Limbs_cons.mpr ⟨one_lt_B, Limbs_nil⟩, by simp [Normalized]⟩

/-- `+ 1` with growth by a carry limb.  The result is normalised as soon as its value reaches the top limb of `r`
    (the "some analysis shows that we surely would get carry into the zero-limb" remark of and.c:88-91), in
    particular when `r` is. -/
theorem addOneGrow_spec (r : List Nat) (hr : Limbs r) (hne : r ≠ []) :
    val (addOneGrow r) = val r + 1 ∧ Limbs (addOneGrow r) ∧
    (B ^ (r.length - 1) ≤ val r + 1 → Normalized (addOneGrow r)) := by
  match r, hne with
  | x :: xs, _ =>
    obtain ⟨a1, a2, a3, a4⟩ := addLimb_val x xs 1 hr one_lt_B
    unfold addOneGrow
    generalize addLimb (x :: xs) 1 = res at *
    obtain ⟨s, cy⟩ := res
    simp only at a1 a2 a3 a4 ⊢
    have hs : s ≠ [] := by intro h; rw [h] at a4; simp at a4
    have hns := normalized_iff_ge a3 hs
    rw [a4] at hns
    simp only [List.length_cons, Nat.add_sub_cancel] at hns ⊢
    by_cases hc : cy = 0
    · subst hc
      rw [Nat.mul_zero, Nat.add_zero] at a1
      simp only [ne_eq, not_true_eq_false, if_false]
      exact ⟨a1, a3, fun h => by rw [hns, a1]; exact h⟩
    · have hc1 : cy = 1 := by omega
      subst hc1
      rw [Nat.mul_one] at a1
      simp only [ne_eq, one_ne_zero, not_false_eq_true, if_true]
      exact ⟨by rw [val_snoc, a4, Nat.mul_one]; exact a1,
        Limbs_append.mpr ⟨a3, by intro y hy; simp at hy; rw [hy]; exact one_lt_B⟩, fun _ => by simp [Normalized]⟩

theorem Mag.addOneGrow {r : List Nat} {m : Nat} (h : Mag r m) (hne : r ≠ []) : Mag (addOneGrow r) (m + 1) :=
  have ⟨g1, g2, g3⟩ := addOneGrow_spec r h.2.1 hne
  ⟨h.1 ▸ g1, g2, g3 (Nat.le_succ_of_le (h.2.2.ge hne))⟩

/-- `size -= (ptr[size-1] == 0)` normalises as soon as the value reaches the limb below the top one -/
theorem dropTopZero_spec (l : List Nat) (hl : Limbs l) (hge : 2 ≤ l.length → B ^ (l.length - 2) ≤ val l) :
    Mag (dropTopZero l) (val l) := by
  induction l using List.reverseRecOn with
  | nil => simp [dropTopZero, Mag, Limbs_nil, normalized_nil]
  | append_singleton l x _ =>
    have hll := (Limbs_append.mp hl).1
    unfold dropTopZero
    by_cases hx : x = 0
    · subst hx
      simp only [List.getLast?_append, List.getLast?_singleton, Option.some_or, if_true,
        List.dropLast_concat]
      refine ⟨by rw [val_snoc]; simp, hll, ?_⟩
      by_cases hl0 : l = []
      · subst hl0; exact normalized_nil
      · rw [normalized_iff_ge hll hl0]
        have hlen : 1 ≤ l.length := List.length_pos_iff.mpr hl0
        have := hge (by simp; omega)
        simpa [val_snoc] using this
    · have : ¬ ((l ++ [x]).getLast? = some 0) := by simp [hx]
      rw [if_neg this]
      exact ⟨rfl, hl, by simp [Normalized, hx]⟩

theorem limbOp_and : LimbOp (fun a b => a &&& b) and := ⟨rfl, fun _ _ _ _ => rfl⟩
theorem limbOp_or : LimbOp (fun a b => a ||| b) or := ⟨rfl, fun _ _ _ _ => rfl⟩
theorem limbOp_xor : LimbOp (fun a b => a ^^^ b) bne := ⟨rfl, fun _ _ _ _ => rfl⟩
theorem limbOp_andn : LimbOp (fun a b => a &&& lnotL b) (fun a b => a && !b) :=
  ⟨rfl, fun a b ha hb => limbop_andn a b ha hb⟩

theorem zip_long_left {g f} (h : LimbOp g f) (hf : f true false = true) (u v : List Nat)
    (hu : Limbs u) (hv : Limbs v) (hl : v.length ≤ u.length) :
    val (List.zipWith g u v ++ u.drop v.length) = Nat.bitwise f (val u) (val v) ∧
    Limbs (List.zipWith g u v ++ u.drop v.length) ∧
    (List.zipWith g u v ++ u.drop v.length).length = u.length := by
  obtain ⟨e, l⟩ := zipWith_val h u v hu hv
  refine ⟨?_, Limbs_append.mpr ⟨l, Limbs_drop hu _⟩, by simp; omega⟩
  rw [e, val_append, List.drop_of_length_le hl, val_nil, Nat.bitwise_zero_right, if_pos hf]
  simp

theorem zip_long_right {g f} (h : LimbOp g f) (hf : f false true = true) (u v : List Nat)
    (hu : Limbs u) (hv : Limbs v) (hl : u.length ≤ v.length) :
    val (List.zipWith g u v ++ v.drop u.length) = Nat.bitwise f (val u) (val v) ∧
    Limbs (List.zipWith g u v ++ v.drop u.length) ∧
    (List.zipWith g u v ++ v.drop u.length).length = v.length := by
  obtain ⟨e, l⟩ := zipWith_val h u v hu hv
  refine ⟨?_, Limbs_append.mpr ⟨l, Limbs_drop hv _⟩, by simp; omega⟩
  rw [e, val_append, List.drop_of_length_le hl, val_nil, Nat.bitwise_zero_left, if_pos hf]
  simp

theorem zip_short_left {g f} (h : LimbOp g f) (hf : f false true = false) (u v : List Nat)
    (hu : Limbs u) (hv : Limbs v) (hl : u.length ≤ v.length) :
    val (List.zipWith g u v) = Nat.bitwise f (val u) (val v) ∧ Limbs (List.zipWith g u v) := by
  obtain ⟨e, l⟩ := zipWith_val h u v hu hv
  refine ⟨?_, l⟩
  rw [e, List.drop_of_length_le hl, val_nil, Nat.bitwise_zero_left, hf]; simp

theorem zip_short_right {g f} (h : LimbOp g f) (hf : f true false = false) (u v : List Nat)
    (hu : Limbs u) (hv : Limbs v) (hl : v.length ≤ u.length) :
    val (List.zipWith g u v) = Nat.bitwise f (val u) (val v) ∧ Limbs (List.zipWith g u v) := by
  obtain ⟨e, l⟩ := zipWith_val h u v hu hv
  refine ⟨?_, l⟩
  rw [e, List.drop_of_length_le hl, val_nil, Nat.bitwise_zero_right, hf]; simp

/-- op on the overlap, copy the tail of the longer operand (and.c:115-130, ior.c:48-81, xor.c:48-81/126-141/182-195);
    `c` is whichever size test the C uses -/
theorem zipCat_spec {g f} (h : LimbOp g f) (h10 : f true false = true) (h01 : f false true = true)
    (a b : List Nat) (ha : Limbs a) (hb : Limbs b) (c : Prop) [Decidable c]
    (hc : c → b.length ≤ a.length) (hnc : ¬ c → a.length ≤ b.length) :
    ∃ r, (if c then List.zipWith g a b ++ a.drop b.length else List.zipWith g a b ++ b.drop a.length) = r ∧
      val r = Nat.bitwise f (val a) (val b) ∧ Limbs r ∧ r.length = max a.length b.length := by
  by_cases hcc : c
  · rw [if_pos hcc]
    obtain ⟨e, l, len⟩ := zip_long_left h h10 a b ha hb (hc hcc)
    exact ⟨_, rfl, e, l, by rw [len, Nat.max_eq_left (hc hcc)]⟩
  · rw [if_neg hcc]
    obtain ⟨e, l, len⟩ := zip_long_right h h01 a b ha hb (hnc hcc)
    exact ⟨_, rfl, e, l, by rw [len, Nat.max_eq_right (hnc hcc)]⟩

/-- the longer of two normalised operands bounds the result from below -/
theorem pow_max_le {a b : List Nat} (hna : Normalized a) (hnb : Normalized b) {m : Nat}
    (h1 : val a ≤ m) (h2 : val b ≤ m) (hne : 1 ≤ max a.length b.length) :
    B ^ (max a.length b.length - 1) ≤ m := by
  rcases Nat.le_total a.length b.length with h | h
  · rw [Nat.max_eq_right h] at hne ⊢
    exact le_trans (hnb.ge (List.ne_nil_of_length_pos hne)) h2
  · rw [Nat.max_eq_left h] at hne ⊢
    exact le_trans (hna.ge (List.ne_nil_of_length_pos hne)) h1

theorem and_n_val_any (u v : List Nat) (hu : Limbs u) (hv : Limbs v) :
    val (and_n u v) = val u &&& val v ∧ Limbs (and_n u v) := by
  by_cases hl : u.length ≤ v.length
  · exact zip_short_left limbOp_and rfl u v hu hv hl
  · exact zip_short_right limbOp_and rfl u v hu hv (by omega)

theorem subLimb_noborrow (u : List Nat) (hu : Limbs u) (v : Nat) (hv : v < B) (hne : u ≠ []) (hge : v ≤ val u) :
    val (subLimb u v).1 = val u - v ∧ Limbs (subLimb u v).1 ∧ (subLimb u v).1.length = u.length := by
  match u, hne with
  | x :: xs, _ =>
    obtain ⟨a1, a2, a3, a4⟩ := subLimb_val x xs v hu hv
    have hlt := val_lt _ a3
    rw [a4] at hlt
    refine ⟨?_, a3, by simpa using a4⟩
    generalize (subLimb (x :: xs) v).2 = c at *
    generalize val (subLimb (x :: xs) v).1 = r at *
    generalize val (x :: xs) = vu at *
    have hc : c = 0 := by
      by_contra hc
      have : c = 1 := by omega
      subst this
      rw [Nat.mul_one] at a1
      generalize B ^ (xs.length + 1) = p at *
      omega
    subst hc; rw [Nat.mul_zero] at a1; omega

theorem subOne_val (u : List Nat) (hu : Limbs u) (h1 : 1 ≤ val u) :
    val (subLimb u 1).1 = val u - 1 ∧ Limbs (subLimb u 1).1 ∧ (subLimb u 1).1.length = u.length :=
  subLimb_noborrow u hu 1 one_lt_B (ne_nil_of_val_pos h1) h1

theorem and_n_take (a b : List Nat) (n : Nat) : and_n (a.take n) (b.take n) = (and_n a b).take n := by
  unfold and_n; rw [List.take_zipWith]
theorem andn_n_take (a b : List Nat) (n : Nat) : andn_n (a.take n) (b.take n) = (andn_n a b).take n := by
  unfold andn_n; rw [List.take_zipWith]

theorem toInt_nonneg (z : Z) (h : z.neg = false) : z.toInt = Int.ofNat (val z.mag) := by
  unfold Z.toInt; simp [h]

theorem toInt_neg (z : Z) (h : z.neg = true) (h1 : 1 ≤ val z.mag) :
    z.toInt = Int.negSucc (val z.mag - 1) := by
  unfold Z.toInt; simp only [h, if_true]
  obtain ⟨k, hk⟩ : ∃ k, val z.mag = k + 1 := ⟨val z.mag - 1, by omega⟩
  rw [hk]; rfl

theorem Z.WF.limbs {z : Z} (h : z.WF) : Limbs z.mag := h.1
theorem Z.WF.norm {z : Z} (h : z.WF) : Normalized z.mag := h.2.1
theorem Z.WF.pos {z : Z} (h : z.WF) (hn : z.neg = true) : 1 ≤ val z.mag :=
  Normalized.pos h.2.1 (h.2.2 hn)
theorem Z.WF.view {z : Z} (h : z.WF) :
    (z.neg = false ∧ z.toInt = Int.ofNat (val z.mag)) ∨
    (z.neg = true ∧ 1 ≤ val z.mag ∧ z.toInt = Int.negSucc (val z.mag - 1)) := by
  cases hn : z.neg
  · exact Or.inl ⟨rfl, toInt_nonneg z hn⟩
  · exact Or.inr ⟨rfl, h.pos hn, toInt_neg z hn (h.pos hn)⟩
theorem Z.WF.mag {z : Z} (h : z.WF) : Mag z.mag (val z.mag) := ⟨rfl, h.1, h.2.1⟩

theorem Mag.nonneg {l : List Nat} {m : Nat} (h : Mag l m) :
    (Z.mk false l).toInt = Int.ofNat m ∧ (Z.mk false l).WF :=
  ⟨by rw [toInt_nonneg _ rfl]; exact congrArg Int.ofNat h.1, h.2.1, h.2.2, fun h => by cases h⟩

/-- shape of a negative result: the magnitude is (the bits of |x| - 1 after the operation) + 1 -/
theorem Mag.neg {l : List Nat} {m : Nat} (h : Mag l (m + 1)) :
    (Z.mk true l).toInt = Int.negSucc m ∧ (Z.mk true l).WF := by
  refine ⟨?_, h.2.1, h.2.2, fun _ => h.ne_nil⟩
  rw [toInt_neg _ rfl (by show 1 ≤ val l; rw [h.1]; omega)]
  show Int.negSucc (val l - 1) = _
  rw [h.1]; rfl

theorem Mag.nonneg_of {r : Z} {m : Nat} (h : Mag r.mag m) (hn : r.neg = false) : r.toInt = Int.ofNat m ∧ r.WF := by
  cases r; cases hn; exact h.nonneg

theorem Mag.neg_of {r : Z} {m : Nat} (h : Mag r.mag (m + 1)) (hn : r.neg = true) : r.toInt = Int.negSucc m ∧ r.WF := by
  cases r; cases hn; exact h.neg

/-! ### mpz_and, mpz_ior, mpz_xor, mpz_com: one lemma per sign pattern -/

theorem andPP_spec (a b : List Nat) (ha : Limbs a) (hb : Limbs b) : Mag (andPP a b).mag (val a &&& val b) := by
  unfold andPP
  simp only [and_n_take, take_scanTop]
  obtain ⟨e, l⟩ := and_n_val_any a b ha hb
  exact (Mag.normalize l).cast e

theorem andPN_spec (a b : List Nat) (ha : Limbs a) (hna : Normalized a) (hb : Limbs b) (h1 : 1 ≤ val b) :
    (andPN a b).neg = false ∧ Mag (andPN a b).mag (ldiff (val a) (val b - 1)) := by
  obtain ⟨s1, s2, s3⟩ := subOne_val b hb h1
  unfold andPN
  by_cases hl : a.length > b.length
  · simp only [hl, if_true]
    have := zip_long_left limbOp_andn rfl a (subLimb b 1).1 ha s2 (by omega)
    rw [s3, s1] at this
    exact ⟨trivial, this.1, this.2.1, hna.append_drop _ hl⟩
  · simp only [hl, if_false]
    simp only [andn_n_take, take_scanTop]
    have := zip_short_left limbOp_andn rfl a (subLimb b 1).1 ha s2 (by omega)
    rw [s1] at this
    exact ⟨trivial, (Mag.normalize this.2).cast this.1⟩

theorem andNN_spec (a b : List Nat) (ha : Limbs a) (hna : Normalized a) (hb : Limbs b) (hnb : Normalized b)
    (ha1 : 1 ≤ val a) (hb1 : 1 ≤ val b) :
    Mag (andNN a b).mag (((val a - 1) ||| (val b - 1)) + 1) := by
  obtain ⟨s1, s2, s3⟩ := subOne_val a ha ha1
  obtain ⟨t1, t2, t3⟩ := subOne_val b hb hb1
  have alen : 1 ≤ a.length := List.length_pos_iff.mpr (ne_nil_of_val_pos ha1)
  obtain ⟨r, hr, rv, rl, rlen⟩ := zipCat_spec limbOp_or rfl rfl _ _ s2 t2 (a.length ≥ b.length)
    (by rw [s3, t3]; exact id) (by rw [s3, t3]; omega)
  rw [s3, t3] at hr rlen
  rw [s1, t1] at rv
  change val r = (val a - 1) ||| (val b - 1) at rv
  unfold andNN ior_n
  simp only
  rw [hr]
  have hmax : 1 ≤ max a.length b.length := le_trans alen (Nat.le_max_left _ _)
  obtain ⟨g1, g2, g3⟩ := addOneGrow_spec r rl (List.ne_nil_of_length_pos (by rw [rlen]; exact hmax))
  refine ⟨by rw [g1, rv], g2, g3 ?_⟩
  rw [rv, rlen]
  have o1 : val a - 1 ≤ (val a - 1) ||| (val b - 1) := Nat.left_le_or
  have o2 : val b - 1 ≤ (val a - 1) ||| (val b - 1) := Nat.right_le_or
  exact pow_max_le hna hnb (by omega) (by omega) hmax

theorem mpz_and_land (a b : Z) (ha : a.WF) (hb : b.WF) :
    (mpz_and a b).toInt = land a.toInt b.toInt ∧ (mpz_and a b).WF := by
  rcases ha.view with ⟨na, ea⟩ | ⟨na, pa, ea⟩ <;> rcases hb.view with ⟨nb, eb⟩ | ⟨nb, pb, eb⟩ <;>
    rw [ea, eb] <;> simp only [mpz_and, na, nb, Bool.not_false, Bool.not_true, Bool.false_eq_true, ↓reduceIte]
  · exact (andPP_spec a.mag b.mag ha.limbs hb.limbs).nonneg
  · have h := andPN_spec a.mag b.mag ha.limbs ha.norm hb.limbs pb
    exact h.2.nonneg_of h.1
  · have h := andPN_spec b.mag a.mag hb.limbs hb.norm ha.limbs pa
    exact h.2.nonneg_of h.1
  · exact (andNN_spec a.mag b.mag ha.limbs ha.norm hb.limbs hb.norm pa pb).neg

theorem iorPP_spec (a b : List Nat) (ha : Limbs a) (hna : Normalized a) (hb : Limbs b) (hnb : Normalized b) :
    (iorPP a b).neg = false ∧ Mag (iorPP a b).mag (val a ||| val b) := by
  obtain ⟨r, hr, e, l, len⟩ := zipCat_spec limbOp_or rfl rfl a b ha hb (a.length ≥ b.length) id (by omega)
  unfold iorPP ior_n
  rw [← apply_ite (Z.mk false), hr]
  refine ⟨rfl, e, l, Normalized.of_ge l ?_⟩
  by_cases hr0 : r = []
  · exact Or.inl hr0
  · right; rw [len, e]
    exact pow_max_le hna hnb Nat.left_le_or Nat.right_le_or (len ▸ List.length_pos_iff.mpr hr0)

theorem mul_pred (p A : Nat) (hp : 0 < p) (hA : 1 ≤ A) : p * A - 1 = (p - 1) + p * (A - 1) := by
  obtain ⟨w, rfl⟩ : ∃ w, A = w + 1 := ⟨A - 1, by omega⟩
  rw [Nat.mul_succ, Nat.add_sub_cancel]
  generalize p * w = t
  omega

theorem pred_mod (r lo p c hi : Nat) (hr : r < p) (hlo : lo < p) (hc : c ≤ 1) (h : r + 1 = lo + p * c)
    (h1 : 1 ≤ lo + p * hi) : r = (lo + p * hi - 1) % p := by
  rcases Nat.le_one_iff_eq_zero_or_eq_one.mp hc with rfl | rfl
  · -- no borrow: the low part was not zero
    rw [show lo + p * hi - 1 = (lo - 1) + p * hi by omega, Nat.add_mul_mod_self_left,
      Nat.mod_eq_of_lt (by omega)]
    omega
  · -- borrow: the low part was zero and becomes `p - 1`
    have hlo0 : lo = 0 := by omega
    subst hlo0
    rw [Nat.zero_add] at h1 ⊢
    have hhi : 1 ≤ hi := Nat.pos_of_ne_zero (fun h0 => by rw [h0] at h1; simp at h1)
    rw [mul_pred p hi (by omega) hhi, Nat.add_mul_mod_self_left, Nat.mod_eq_of_lt (by omega)]
    omega

/-- the low `n` limbs of `val a - 1`, as computed by the truncated `mpn_sub_1` of ior.c:110-116 -/
theorem subOne_trunc (a : List Nat) (ha : Limbs a) (h1 : 1 ≤ val a) (n : Nat) (hn1 : 1 ≤ n) (hn : n ≤ a.length) :
    val (subLimb (a.take n) 1).1 = (val a - 1) % B ^ n ∧ Limbs (subLimb (a.take n) 1).1 ∧
    (subLimb (a.take n) 1).1.length = n := by
  have hlen : (a.take n).length = n := by simp [hn]
  have hlt := val_lt _ (Limbs_take ha n)
  rw [hlen] at hlt
  have hsplit := val_take_drop a n hn
  match hm : a.take n, hlen with
  | [], h0 => simp at h0; omega
  | x :: xs, hlen' =>
    rw [hm] at hlt hsplit
    obtain ⟨a1, a2, a3, a4⟩ := subLimb_val x xs 1 (hm ▸ Limbs_take ha n) one_lt_B
    have hrl := val_lt _ a3
    simp only [List.length_cons] at hlen'
    rw [a4, hlen'] at hrl
    rw [hlen'] at a1
    rw [hsplit] at h1 ⊢
    exact ⟨pred_mod _ _ _ _ _ hrl hlt a2 a1 h1, a3, by rw [a4]; exact hlen'⟩

/-- ior.c:128-150 / 200-232: size scan, `+ 1` with growth, or the literal 1 when everything is zero -/
theorem growScan_spec (X : List Nat) (hX : Limbs X) :
    Mag (if scanTop X ≠ 0 then addOneGrow (X.take (scanTop X)) else [1]) (val X + 1) := by
  rw [take_scanTop, scanTop_eq]
  have hm := Mag.normalize hX
  by_cases h0 : (normalize X).length ≠ 0
  · rw [if_pos h0]; exact hm.addOneGrow (fun h => h0 (h ▸ rfl))
  · have hnil : normalize X = [] := List.eq_nil_of_length_eq_zero (by omega)
    rw [if_neg h0, ← hm.1, hnil]
    exact Mag.one

theorem and_lt_of_left {m n p : Nat} (h : m < p) : m &&& n < p := lt_of_le_of_lt Nat.and_le_left h
theorem and_lt_of_right {m n p : Nat} (h : n < p) : m &&& n < p := lt_of_le_of_lt Nat.and_le_right h

theorem iorNN_spec (a b : List Nat) (ha : Limbs a) (hb : Limbs b) (ha1 : 1 ≤ val a) (hb1 : 1 ≤ val b) :
    (iorNN a b).neg = true ∧ Mag (iorNN a b).mag (((val a - 1) &&& (val b - 1)) + 1) := by
  have alen : 1 ≤ a.length := List.length_pos_iff.mpr (ne_nil_of_val_pos ha1)
  have blen : 1 ≤ b.length := List.length_pos_iff.mpr (ne_nil_of_val_pos hb1)
  unfold iorNN
  simp only [and_n_take, ← apply_ite (Z.mk true)]
  generalize hn : min a.length b.length = n
  obtain ⟨s1, s2, s3⟩ := subOne_trunc a ha ha1 n (by omega) (by omega)
  obtain ⟨t1, t2, t3⟩ := subOne_trunc b hb hb1 n (by omega) (by omega)
  obtain ⟨e, l⟩ := zipWith_eqlen limbOp_and _ _ (s3.trans t3.symm) s2 t2
  refine ⟨trivial, (growScan_spec _ l).cast (congrArg (· + 1) (e.trans ?_))⟩
  -- only the low `n` limbs were decremented: `(x - 1) % B^n`; the `and` is below `B^n` anyway
  rw [s1, t1]
  show (val a - 1) % B ^ n &&& (val b - 1) % B ^ n = _
  rw [B_pow, ← Nat.and_mod_two_pow, ← B_pow]
  apply Nat.mod_eq_of_lt
  have la := val_lt a ha; have lb := val_lt b hb
  by_cases hl : a.length ≤ b.length
  · rw [show n = a.length by omega]; exact and_lt_of_left (by omega)
  · rw [show n = b.length by omega]; exact and_lt_of_right (by omega)

/-- `|op2| - 1` with its top limb dropped when it became zero (ior.c:180-183, com.c:80-81) -/
theorem Mag.subOneDrop {b : List Nat} {m : Nat} (h : Mag b m) (h1 : 1 ≤ m) :
    Mag (dropTopZero (subLimb b 1).1) (m - 1) := by
  obtain ⟨hv, hb, hnb⟩ := h
  subst hv
  obtain ⟨s1, s2, s3⟩ := subOne_val b hb h1
  have gb := hnb.ge (ne_nil_of_val_pos h1)
  refine (dropTopZero_spec _ s2 (fun h2 => ?_)).cast s1
  rw [s3] at h2 ⊢
  have e : B ^ (b.length - 1) = B * B ^ (b.length - 2) := by rw [← pow_succ']; congr 1; omega
  have hpos := Bpow_pos (b.length - 2)
  rw [s1]
  generalize B ^ (b.length - 2) = q at *
  rw [e, B_eq] at gb; omega

theorem iorPN_spec (a b : List Nat) (ha : Limbs a) (hb : Limbs b) (hnb : Normalized b) (hb1 : 1 ≤ val b) :
    (iorPN a b).neg = true ∧ Mag (iorPN a b).mag (ldiff (val b - 1) (val a) + 1) := by
  obtain ⟨d1, d2, d3⟩ := Mag.subOneDrop ⟨rfl, hb, hnb⟩ hb1
  unfold iorPN
  simp only
  generalize dropTopZero (subLimb b 1).1 = o2 at *
  by_cases hl : a.length ≥ o2.length
  · rw [if_pos hl]
    obtain ⟨e, l⟩ := zip_short_left limbOp_andn rfl o2 a d2 ha hl
    simp only [andn_n_take, ← apply_ite (Z.mk true)]
    exact ⟨trivial, (growScan_spec (andn_n o2 a) l).cast (by rw [← d1]; exact congrArg (· + 1) e)⟩
  · rw [if_neg hl]
    obtain ⟨e, l, len⟩ := zip_long_left limbOp_andn rfl o2 a d2 ha (by omega)
    have hne : andn_n o2 a ++ o2.drop a.length ≠ [] := by
      intro h; have := congrArg List.length h; simp at this; omega
    exact ⟨rfl, (Mag.addOneGrow ⟨e, l, d3.append_drop _ (by omega)⟩ hne).cast (by rw [d1]; rfl)⟩

theorem mpz_ior_lor (a b : Z) (ha : a.WF) (hb : b.WF) :
    (mpz_ior a b).toInt = lor a.toInt b.toInt ∧ (mpz_ior a b).WF := by
  rcases ha.view with ⟨na, ea⟩ | ⟨na, pa, ea⟩ <;> rcases hb.view with ⟨nb, eb⟩ | ⟨nb, pb, eb⟩ <;>
    rw [ea, eb] <;> simp only [mpz_ior, na, nb, Bool.not_false, Bool.not_true, Bool.false_eq_true, ↓reduceIte]
  · have h := iorPP_spec a.mag b.mag ha.limbs ha.norm hb.limbs hb.norm
    exact h.2.nonneg_of h.1
  · have h := iorPN_spec a.mag b.mag ha.limbs hb.limbs hb.norm pb
    exact h.2.neg_of h.1
  · have h := iorPN_spec b.mag a.mag hb.limbs ha.limbs ha.norm pa
    exact h.2.neg_of h.1
  · have h := iorNN_spec a.mag b.mag ha.limbs hb.limbs pa pb
    exact h.2.neg_of h.1

theorem xorCat_spec (a b : List Nat) (ha : Limbs a) (hb : Limbs b) :
    val (xorCat a b) = val a ^^^ val b ∧ Limbs (xorCat a b) ∧ (xorCat a b).length = max a.length b.length := by
  obtain ⟨r, hr, h⟩ := zipCat_spec limbOp_xor rfl rfl a b ha hb (a.length > b.length) (by omega) (by omega)
  unfold xorCat xor_n; rw [hr]; exact h

theorem xorPP_spec (a b : List Nat) (ha : Limbs a) (hb : Limbs b) : Mag (xorPP a b).mag (val a ^^^ val b) :=
  have ⟨e, l, _⟩ := xorCat_spec a b ha hb
  (Mag.normalize l).cast e

theorem xorNN_spec (a b : List Nat) (ha : Limbs a) (hb : Limbs b) (ha1 : 1 ≤ val a) (hb1 : 1 ≤ val b) :
    Mag (xorNN a b).mag ((val a - 1) ^^^ (val b - 1)) := by
  obtain ⟨s1, s2, _⟩ := subOne_val a ha ha1
  obtain ⟨t1, t2, _⟩ := subOne_val b hb hb1
  obtain ⟨e, l, _⟩ := xorCat_spec _ _ s2 t2
  exact (Mag.normalize l).cast (by rw [e, s1, t1])

theorem xorPN_spec (a b : List Nat) (ha : Limbs a) (hb : Limbs b) (hb1 : 1 ≤ val b) :
    Mag (xorPN a b).mag ((val a ^^^ (val b - 1)) + 1) := by
  obtain ⟨t1, t2, t3⟩ := subOne_val b hb hb1
  obtain ⟨e, l, len⟩ := xorCat_spec a _ ha t2
  have hne : xorCat a (subLimb b 1).1 ≠ [] := by
    intro h; have h2 := congrArg List.length h
    rw [len, t3, List.length_nil] at h2
    have : 1 ≤ b.length := List.length_pos_iff.mpr (ne_nil_of_val_pos hb1)
    omega
  obtain ⟨g1, g2, _⟩ := addOneGrow_spec _ l hne
  exact (Mag.normalize g2).cast (by rw [g1, e, t1])

theorem mpz_xor_lxor (a b : Z) (ha : a.WF) (hb : b.WF) :
    (mpz_xor a b).toInt = lxor a.toInt b.toInt ∧ (mpz_xor a b).WF := by
  rcases ha.view with ⟨na, ea⟩ | ⟨na, pa, ea⟩ <;> rcases hb.view with ⟨nb, eb⟩ | ⟨nb, pb, eb⟩ <;>
    rw [ea, eb] <;> simp only [mpz_xor, na, nb, Bool.not_false, Bool.not_true, Bool.false_eq_true, ↓reduceIte]
  · exact (xorPP_spec a.mag b.mag ha.limbs hb.limbs).nonneg
  · exact (xorPN_spec a.mag b.mag ha.limbs hb.limbs pb).neg
  · exact ((xorPN_spec b.mag a.mag hb.limbs ha.limbs pa).cast (by rw [Nat.xor_comm])).neg
  · exact (xorNN_spec a.mag b.mag ha.limbs hb.limbs pa pb).nonneg

theorem mpz_com_lnot (a : Z) (ha : a.WF) : (mpz_com a).toInt = lnot a.toInt ∧ (mpz_com a).WF := by
  unfold mpz_com
  cases hna : a.neg <;> simp only [Bool.not_false, Bool.not_true, Bool.false_eq_true, ↓reduceIte]
  · rw [toInt_nonneg a hna]
    by_cases h0 : a.mag.length = 0
    · rw [if_pos h0, List.eq_nil_of_length_eq_zero h0]
      exact Mag.one.neg
    · rw [if_neg h0]
      exact (ha.mag.addOneGrow (fun h => h0 (h ▸ rfl))).neg
  · rw [toInt_neg a hna (ha.pos hna)]
    exact (ha.mag.subOneDrop (ha.pos hna)).nonneg

/-! ### the complemented kernels (com_n, nand_n, nior_n, xnor_n, iorn_n) -/

theorem com_n_val : ∀ (u : List Nat), Limbs u →
    val (com_n u) = B ^ u.length - 1 - val u ∧ Limbs (com_n u) ∧ (com_n u).length = u.length := by
  intro u hu
  obtain ⟨e, l, n⟩ := Mpir.com_n_val' u hu
  exact ⟨Nat.eq_sub_of_add_eq (Nat.eq_sub_of_add_eq e), l, n⟩

theorem limb_iorn (a b : Nat) (ha : a < B) (hb : b < B) : a ||| lnotL b = lnotL (b &&& lnotL a) := by
  apply Nat.eq_of_testBit_eq; intro i
  have hlt : b &&& lnotL a < B := lt_of_le_of_lt Nat.and_le_left hb
  rw [Nat.testBit_or, testBit_lnotL b hb, testBit_lnotL _ hlt, Nat.testBit_and, testBit_lnotL a ha]
  by_cases hi : i < 64
  · simp [hi]; cases a.testBit i <;> cases b.testBit i <;> rfl
  · simp [hi, testBit_limb_high ha (by omega : 64 ≤ i)]

theorem zipWith_congr_limbs (g g' : Nat → Nat → Nat) (h : ∀ a b, a < B → b < B → g a b = g' a b) :
    ∀ (u v : List Nat), Limbs u → Limbs v → List.zipWith g u v = List.zipWith g' u v
  | [], _, _, _ => by simp
  | _ :: _, [], _, _ => by simp
  | x :: xs, y :: ys, hu, hv => by
    have ⟨hx, hxs⟩ := Limbs_cons.mp hu
    have ⟨hy, hys⟩ := Limbs_cons.mp hv
    simp only [List.zipWith_cons_cons, h x y hx hy, zipWith_congr_limbs g g' h xs ys hxs hys]

theorem nand_n_eq (u v : List Nat) : nand_n u v = com_n (and_n u v) := by
  unfold nand_n com_n and_n; rw [List.map_zipWith]
theorem nior_n_eq (u v : List Nat) : nior_n u v = com_n (ior_n u v) := by
  unfold nior_n com_n ior_n; rw [List.map_zipWith]
theorem xnor_n_eq (u v : List Nat) : xnor_n u v = com_n (xor_n u v) := by
  unfold xnor_n com_n xor_n; rw [List.map_zipWith]
theorem iorn_n_eq (u v : List Nat) (hu : Limbs u) (hv : Limbs v) : iorn_n u v = com_n (andn_n v u) := by
  unfold iorn_n com_n andn_n
  rw [List.map_zipWith, zipWith_congr_limbs _ _ limb_iorn u v hu hv, List.zipWith_comm]
theorem lnot_eq_neg (x : Int) : lnot x = -x - 1 := by
  cases x with
  | ofNat n => show Int.negSucc n = -(Int.ofNat n) - 1; rw [Int.negSucc_eq]; simp; omega
  | negSucc n => show Int.ofNat n = -(Int.negSucc n) - 1; rw [Int.negSucc_eq]; simp

/-! ### bits of a limb vector; mpz_tstbit -/

theorem testBit_limbAt (y i : Nat) : y.testBit i = (y / B ^ (i / 64) % B).testBit (i % 64) := by
  rw [B_pow]; unfold B
  rw [Nat.testBit_mod_two_pow, Nat.testBit_div_two_pow]
  have h1 : i % 64 < 64 := Nat.mod_lt _ (by decide)
  have h2 : i % 64 + 64 * (i / 64) = i := by omega
  simp [h1, h2]

theorem split_facts (mag : List Nat) (hl : Limbs mag) (li : Nat) (h : li < mag.length) :
    val mag = val (mag.take li) + B ^ li * (mag.getD li 0 + B * val (mag.drop (li + 1))) ∧
    val (mag.take li) < B ^ li ∧ mag.getD li 0 < B := by
  have hlo := val_lt _ (Limbs_take hl li)
  rw [List.length_take, Nat.min_eq_left (by omega)] at hlo
  exact ⟨val_split_at mag li h, hlo, getD_lt hl li⟩

theorem testBit_val (l : List Nat) (hl : Limbs l) (i : Nat) :
    (val l).testBit i = (l.getD (i / 64) 0).testBit (i % 64) := by
  rw [testBit_limbAt, val_div_mod hl]

theorem val_eq_zero_iff (l : List Nat) : val l = 0 ↔ l.any (· != 0) = false := by
  rw [Mpir.val_eq_zero_iff, ← Bool.not_eq_true, List.any_eq_true]
  simp

theorem lnot_ones (d : Nat) (hd : d < B) : lnotL ((negL d + B - 1) % B) = d := by
  unfold lnotL negL; rw [B_eq] at *; omega
theorem lnot_neg_pos (d : Nat) (hd : d < B) (h1 : 1 ≤ d) : lnotL (negL d) = d - 1 := by
  unfold lnotL negL; rw [B_eq] at *; omega
theorem twosLimb_lt (mag : List Nat) (li : Nat) : twosLimb mag li < B := by
  unfold twosLimb negL; simp only; have := B_pos
  split <;> exact Nat.mod_lt _ this

/-- limb `li` of `|x| - 1` is the complement of the two's-complement limb the C computes
    (tstbit.c:54-67): `-limb` below/at the lowest non-zero limb, `~limb` above it -/
theorem limbAt_pred (mag : List Nat) (hl : Limbs mag) (h1 : 1 ≤ val mag) (li : Nat) (h : li < mag.length) :
    (val mag - 1) / B ^ li % B = lnotL (twosLimb mag li) := by
  obtain ⟨hs, hlo, hd⟩ := split_facts mag hl li h
  have hp := Bpow_pos li
  have hz := val_eq_zero_iff (mag.take li)
  unfold twosLimb
  simp only
  generalize mag.getD li 0 = d at *
  generalize val (mag.drop (li + 1)) = hi at *
  generalize val (mag.take li) = lo at *
  generalize B ^ li = p at *
  rw [hs] at h1 ⊢
  by_cases hany : (mag.take li).any (· != 0) = true
  · -- a non-zero limb below: the `- 1` stays below limb `li`
    rw [if_pos hany, lnot_ones d hd]
    have hlo1 : 1 ≤ lo := Nat.pos_of_ne_zero (fun h0 => by rw [hz.mp h0] at hany; cases hany)
    rw [show lo + p * (d + B * hi) - 1 = (lo - 1) + p * (d + B * hi) by omega,
      Nat.add_mul_div_left _ _ hp, Nat.div_eq_of_lt (by omega), Nat.zero_add,
      Nat.add_mul_mod_self_left, Nat.mod_eq_of_lt hd]
  · -- all limbs below are zero: they become ones, and limb `li` is that of `d + B * hi - 1`
    rw [if_neg hany]
    have hlo0 : lo = 0 := hz.mpr (by simpa using hany)
    subst hlo0
    rw [Nat.zero_add] at h1 ⊢
    have hw : 1 ≤ d + B * hi := Nat.pos_of_ne_zero (fun h0 => by rw [h0] at h1; simp at h1)
    rw [mul_pred p _ hp hw, Nat.add_mul_div_left _ _ hp, Nat.div_eq_of_lt (by omega), Nat.zero_add]
    unfold lnotL negL
    clear * - hd hw
    rw [B_eq] at *
    omega

theorem testBit_pred (mag : List Nat) (hl : Limbs mag) (h1 : 1 ≤ val mag) (i : Nat) (h : i / 64 < mag.length) :
    (val mag - 1).testBit i = !(twosLimb mag (i / 64)).testBit (i % 64) := by
  rw [testBit_limbAt, limbAt_pred mag hl h1 _ h, testBit_lnotL _ (twosLimb_lt _ _)]
  have : i % 64 < 64 := Nat.mod_lt _ (by decide)
  simp [this]

theorem val_lt_two_pow_of_short (mag : List Nat) (hl : Limbs mag) (i : Nat) (h : mag.length ≤ i / 64) :
    val mag < 2 ^ i := by
  have := val_lt mag hl
  rw [B_pow] at this
  exact lt_of_lt_of_le this (Nat.pow_le_pow_right (by decide) (by omega))

theorem testBit_high (l : List Nat) (hl : Limbs l) (i : Nat) (h : l.length ≤ i / 64) (v : Nat) (hv : v ≤ val l) :
    v.testBit i = false :=
  Nat.testBit_lt_two_pow (lt_of_le_of_lt hv (val_lt_two_pow_of_short l hl i h))

theorem mpz_tstbit_testBit (u : Z) (hu : u.WF) (i : Nat) :
    mpz_tstbit u i = if testBit u.toInt i then 1 else 0 := by
  unfold mpz_tstbit
  simp only
  cases hn : u.neg
  · rw [toInt_nonneg u hn]
    change _ = if (val u.mag).testBit i then 1 else 0
    by_cases hli : i / 64 ≥ u.mag.length
    · rw [if_pos hli, testBit_high u.mag hu.limbs i hli _ (le_refl _)]
    · rw [if_neg hli, testBit_val u.mag hu.limbs, shr_mod2]; simp
  · rw [toInt_neg u hn (hu.pos hn)]
    change _ = if !(val u.mag - 1).testBit i then 1 else 0
    by_cases hli : i / 64 ≥ u.mag.length
    · rw [if_pos hli, testBit_high u.mag hu.limbs i hli _ (Nat.sub_le _ _)]; simp
    · rw [if_neg hli, testBit_pred u.mag hu.limbs (hu.pos hn) i (by omega), shr_mod2]; simp

/-! ### a bitwise operation with one bit acts on one limb -/

theorem ldiff_two_pow_of_set {y r : Nat} (h : y.testBit r = true) : ldiff y (2 ^ r) = y - 2 ^ r := by
  have := bitwise_two_pow_add (fun a b => a && !b) rfl rfl y r
  rw [bitAt_of_set h, show Nat.bitwise (fun a b => a && !b) 1 1 = 0 by simp [Nat.bitwise], Nat.mul_zero, Nat.add_zero, Nat.mul_one] at this
  exact Nat.eq_sub_of_add_eq this

theorem ldiff_two_pow_of_clear {y r : Nat} (h : y.testBit r = false) : ldiff y (2 ^ r) = y := by
  have := bitwise_two_pow_add (fun a b => a && !b) rfl rfl y r
  rwa [bitAt_of_clear h, show Nat.bitwise (fun a b => a && !b) 0 1 = 0 by simp, Nat.mul_zero, Nat.add_zero, Nat.add_zero] at this

theorem bit_lt_B (i : Nat) : 2 ^ (i % 64) < B := by
  unfold B; exact Nat.pow_lt_pow_right (by decide) (Nat.mod_lt _ (by decide))

theorem or_lt_B {a b : Nat} (ha : a < B) (hb : b < B) : a ||| b < B := Nat.or_lt_two_pow ha hb

theorem two_bit_le_B (i : Nat) : 2 * 2 ^ (i % 64) ≤ B := by
  unfold B
  have : i % 64 + 1 ≤ 64 := by have := Nat.mod_lt i (by decide : 0 < 64); omega
  calc 2 * 2 ^ (i % 64) = 2 ^ (i % 64 + 1) := by rw [pow_succ]; ring
    _ ≤ 2 ^ 64 := Nat.pow_le_pow_right (by decide) this

theorem set_eq_split (l : List Nat) (li : Nat) (y : Nat) (h : li < l.length) :
    l.set li y = l.take li ++ y :: l.drop (li + 1) := by
  rw [List.set_eq_take_append_cons_drop, if_pos h]

theorem val_set (l : List Nat) (li y : Nat) (h : li < l.length) :
    val (l.set li y) = val (l.take li) + B ^ li * (y + B * val (l.drop (li + 1))) := by
  rw [set_eq_split l li y h, val_append, List.length_take, Nat.min_eq_left (by omega), val_cons]

theorem norm_set {l : List Nat} (hn : Normalized l) (li y : Nat) (h : li < l.length)
    (hy : li + 1 = l.length → y ≠ 0) : Normalized (l.set li y) := by
  rw [set_eq_split l li y h]
  by_cases ht : li + 1 = l.length
  · have : l.drop (li + 1) = [] := List.drop_of_length_le (by omega)
    rw [this]; unfold Normalized; simp [hy ht]
  · rw [show l.take li ++ y :: l.drop (li + 1) = (l.take li ++ [y]) ++ l.drop (li + 1) by simp]
    exact hn.append_drop _ (by omega)

theorem bitwise_limb_at (f : Bool → Bool → Bool) (hf : f false false = false) (hf1 : f true false = true)
    (li lo d e hi : Nat) (hlo : lo < B ^ li) (hd : d < B) (he : e < B) :
    Nat.bitwise f (lo + B ^ li * (d + B * hi)) (B ^ li * e) =
      lo + B ^ li * (Nat.bitwise f d e + B * hi) := by
  have s1 := bitwise_split f hf (64 * li) lo 0 (d + B * hi) e (by rw [← B_pow]; exact hlo) (Nat.two_pow_pos _)
  rw [← B_pow, Nat.bitwise_zero_right, if_pos hf1, Nat.zero_add] at s1
  have s2 := bitwise_split f hf 64 d e hi 0 (by unfold B at hd; exact hd) (by unfold B at he; exact he)
  rw [Nat.bitwise_zero_right, if_pos hf1, Nat.mul_zero, Nat.add_zero] at s2
  change Nat.bitwise f (d + B * hi) e = Nat.bitwise f d e + B * hi at s2
  rw [s1, s2]

theorem zeroBound_spec : ∀ (l : List Nat), 1 ≤ val l →
    zeroBound l < l.length ∧ l.getD (zeroBound l) 0 ≠ 0 ∧
    (∀ k, k ≤ zeroBound l → val (l.take k) = 0) ∧ (∀ k, zeroBound l < k → 1 ≤ val (l.take k))
  | [], h => by simp at h
  | x :: xs, h => by
    unfold zeroBound
    by_cases hx : x = 0
    · subst hx
      have hB := B_pos
      have h' : 1 ≤ val xs := by
        rcases Nat.eq_zero_or_pos (val xs) with h0 | h0
        · simp [h0] at h
        · exact h0
      obtain ⟨i1, i2, i3, i4⟩ := zeroBound_spec xs h'
      unfold zeroBound at i1 i2 i3 i4
      simp only [List.takeWhile_cons, beq_self_eq_true, if_true, List.length_cons]
      refine ⟨by omega, by simpa using i2, ?_, ?_⟩
      · intro k hk
        cases k with
        | zero => rfl
        | succ k => simp [i3 k (by omega)]
      · intro k hk
        cases k with
        | zero => omega
        | succ k =>
          have := i4 k (by omega)
          simp only [List.take_succ_cons, val_cons, Nat.zero_add]
          exact Nat.mul_pos hB this
    · have : (x == 0) = false := by simp [hx]
      simp only [List.takeWhile_cons, this, Bool.false_eq_true, if_false, List.length_nil, List.length_cons]
      refine ⟨by omega, by simpa using hx, ?_, ?_⟩
      · intro k hk; have : k = 0 := by omega
        subst this; rfl
      · intro k hk
        cases k with
        | zero => omega
        | succ k => simp only [List.take_succ_cons, val_cons]; omega

theorem limb_below_zb (mag : List Nat) (h1 : 1 ≤ val mag) (k : Nat) (hk : k < zeroBound mag) :
    mag.getD k 0 = 0 := by
  obtain ⟨z1, _, z3, _⟩ := zeroBound_spec mag h1
  have e1 := z3 (k + 1) (by omega)
  have hkl : k < mag.length := by omega
  rw [List.take_add_one, val_append] at e1
  have hp := Bpow_pos (mag.take k).length
  have : val (mag[k]?).toList = 0 := by
    rcases Nat.eq_zero_or_pos (val (mag[k]?).toList) with h0 | h0
    · exact h0
    · have := Nat.mul_pos hp h0; omega
  rw [List.getD_eq_getElem?_getD, List.getElem?_eq_getElem hkl] at *
  simpa using this

theorem ne_nil_of_lt {l : List Nat} {k : Nat} (h : k < l.length) : l ≠ [] := by
  intro h2; rw [h2] at h; simp at h

/-- a bitwise operation with the single bit `2 ^ i` acts on limb `i / 64` alone, also on `val mag - c` as long as
    the limbs below absorb `c`; `c = 1`: a negative number above its lowest non-zero limb. -/
theorem bitwise_bit_in (f : Bool → Bool → Bool) (hf : f false false = false) (hf1 : f true false = true)
    (mag : List Nat) (hl : Limbs mag) (i : Nat) (h : i / 64 < mag.length) (c : Nat)
    (hc : c ≤ val (mag.take (i / 64))) :
    val (mag.set (i / 64) (Nat.bitwise f (mag.getD (i / 64) 0) (2 ^ (i % 64)))) =
      Nat.bitwise f (val mag - c) (2 ^ i) + c := by
  obtain ⟨hs, hlo, hd⟩ := split_facts mag hl (i / 64) h
  have key := bitwise_limb_at f hf hf1 (i / 64) (val (mag.take (i / 64)) - c) (mag.getD (i / 64) 0)
    (2 ^ (i % 64)) (val (mag.drop (i / 64 + 1))) (by omega) hd (bit_lt_B i)
  have e1 : val mag - c = (val (mag.take (i / 64)) - c) +
      B ^ (i / 64) * (mag.getD (i / 64) 0 + B * val (mag.drop (i / 64 + 1))) := by
    rw [hs]
    generalize B ^ (i / 64) * (mag.getD (i / 64) 0 + B * val (mag.drop (i / 64 + 1))) = t
    omega
  rw [val_set _ _ _ h, e1, two_pow_split i, key]
  generalize B ^ (i / 64) * _ = t
  omega

theorem pred_at_zb (p d hi : Nat) (hp : 0 < p) (hd : 1 ≤ d) :
    p * (d + B * hi) - 1 = (p - 1) + p * ((d - 1) + B * hi) := by
  rw [mul_pred p _ hp (by omega), show d + B * hi - 1 = (d - 1) + B * hi by omega]

theorem zb_facts (mag : List Nat) (h1 : 1 ≤ val mag) (li : Nat) (hzb : li = zeroBound mag) :
    li < mag.length ∧ mag.getD li 0 ≠ 0 ∧ val (mag.take li) = 0 := by
  obtain ⟨z1, z2, z3, _⟩ := zeroBound_spec mag h1
  rw [← hzb] at z1 z2
  exact ⟨z1, z2, z3 li (by omega)⟩

/-- the same when limb `i / 64` is the lowest non-zero limb `d` of `|x|`: the limbs of `|x| - 1` below are all ones,
    the limb itself is `d - 1`, so the `+ 1` back to the magnitude lands in that limb. -/
theorem bitwise_bit_at_zb (f : Bool → Bool → Bool) (hf : f false false = false) (hf1 : f true false = true)
    (mag : List Nat) (hl : Limbs mag) (h1 : 1 ≤ val mag) (i : Nat) (hzb : i / 64 = zeroBound mag) :
    Nat.bitwise f (val mag - 1) (2 ^ i) + 1 = B ^ (i / 64) *
      ((Nat.bitwise f (mag.getD (i / 64) 0 - 1) (2 ^ (i % 64)) + 1) + B * val (mag.drop (i / 64 + 1))) := by
  obtain ⟨z1, z2, z3⟩ := zb_facts mag h1 _ hzb
  obtain ⟨hs, _, hd⟩ := split_facts mag hl (i / 64) z1
  have hp := Bpow_pos (i / 64)
  rw [z3, Nat.zero_add] at hs
  have key := bitwise_limb_at f hf hf1 (i / 64) (B ^ (i / 64) - 1) (mag.getD (i / 64) 0 - 1) (2 ^ (i % 64))
    (val (mag.drop (i / 64 + 1))) (by omega) (by omega) (bit_lt_B i)
  rw [hs, pred_at_zb _ _ _ hp (Nat.pos_of_ne_zero z2), two_pow_split i, key]
  generalize Nat.bitwise f (mag.getD (i / 64) 0 - 1) (2 ^ (i % 64)) = e
  generalize val (mag.drop (i / 64 + 1)) = hi
  generalize B ^ (i / 64) = p at *
  have : p * (e + 1 + B * hi) = p * (e + B * hi) + p := by ring
  rw [this]; omega

/-- setting bit `i` inside the operand (setbit.c:36-40 on `x ≥ 0`, `c = 0`; clrbit.c:71-74 on the magnitude of
    `x < 0` above its lowest non-zero limb, `c = 1`) -/
theorem set_bit_in (mag : List Nat) (i : Nat) (hl : Limbs mag) (hn : Normalized mag) (h : i / 64 < mag.length)
    (c : Nat) (hc : c ≤ val (mag.take (i / 64))) :
    Mag (mag.set (i / 64) (mag.getD (i / 64) 0 ||| 2 ^ (i % 64))) (((val mag - c) ||| 2 ^ i) + c) := by
  have hor := or_lt_B (getD_lt hl (i / 64)) (bit_lt_B i)
  refine ⟨bitwise_bit_in or rfl rfl mag hl i h c hc, Limbs_set hl _ _ hor, norm_set hn _ _ h (fun _ h0 => ?_)⟩
  exact Nat.ne_of_gt (Nat.two_pow_pos (i % 64)) (Nat.or_eq_zero_iff.mp h0).2

/-- clearing bit `i` inside the operand (clrbit.c:35-50 on `x ≥ 0`, `c = 0`; setbit.c:69-87 on the magnitude of
    `x < 0` above its lowest non-zero limb, `c = 1`): the result is normalised again when the high limb vanished -/
theorem clear_bit_in (mag : List Nat) (i : Nat) (hl : Limbs mag) (hn : Normalized mag) (h : i / 64 < mag.length)
    (c : Nat) (hc : c ≤ val (mag.take (i / 64))) (res : List Nat)
    (hres : (res = mag.set (i / 64) (mag.getD (i / 64) 0 &&& lnotL (2 ^ (i % 64))) ∧
        (i / 64 + 1 = mag.length → mag.getD (i / 64) 0 &&& lnotL (2 ^ (i % 64)) ≠ 0)) ∨
      res = normalize (mag.set (i / 64) (mag.getD (i / 64) 0 &&& lnotL (2 ^ (i % 64))))) :
    Mag res (ldiff (val mag - c) (2 ^ i) + c) := by
  have hd := getD_lt hl (i / 64)
  have hv : val (mag.set (i / 64) (mag.getD (i / 64) 0 &&& lnotL (2 ^ (i % 64)))) =
      ldiff (val mag - c) (2 ^ i) + c := by
    rw [limbop_andn _ _ hd (bit_lt_B i)]
    exact bitwise_bit_in (fun a b => a && !b) rfl rfl mag hl i h c hc
  have hl' := Limbs_set hl (i / 64) _ (and_lt_of_left (n := lnotL (2 ^ (i % 64))) hd)
  rcases hres with ⟨hr, hres2⟩ | hr
  · rw [hr]; exact ⟨hv, hl', norm_set hn _ _ h hres2⟩
  · rw [hr]; exact (Mag.normalize hl').cast hv

/-- setbit.c:41-50 / clrbit.c:75-85: zero-extend to limb `li` and store the bit there -/
theorem extend_bit (mag : List Nat) (i : Nat) (hl : Limbs mag) (h : mag.length ≤ i / 64) :
    Mag (mag ++ List.replicate (i / 64 - mag.length) 0 ++ [2 ^ (i % 64)]) (val mag + 2 ^ i) := by
  refine ⟨?_, ?_, ?_⟩
  · rw [val_snoc, val_append, val_replicate_zero, List.length_append, List.length_replicate,
      Nat.mul_zero, Nat.add_zero, two_pow_split i]
    congr 3; omega
  · apply Limbs_append.mpr ⟨Limbs_append.mpr ⟨hl, Limbs_replicate_zero _⟩, ?_⟩
    intro x hx; simp at hx; rw [hx]; exact bit_lt_B i
  · unfold Normalized; simp

theorem testBit_pred_low (mag : List Nat) (hl : Limbs mag) (h1 : 1 ≤ val mag) (i : Nat)
    (h : i / 64 < zeroBound mag) : (val mag - 1).testBit i = true := by
  obtain ⟨z1, z2, z3, z4⟩ := zeroBound_spec mag h1
  have hli : i / 64 < mag.length := by omega
  rw [testBit_pred mag hl h1 i hli]
  unfold twosLimb
  simp only
  have hany : (mag.take (i / 64)).any (· != 0) = false := (val_eq_zero_iff _).mp (z3 _ (by omega))
  rw [hany, limb_below_zb mag h1 _ h]; simp [negL]

theorem ldiff_le (y z : Nat) : ldiff y z ≤ y := by
  apply Nat.le_of_testBit; intro i h
  rw [ldiff, Nat.testBit_bitwise rfl] at h
  simp at h; exact h.1

/-! ### the size of a result: what and.c, ior.c, xor.c request is enough -/

theorem Mag.length_le {l : List Nat} {m k : Nat} (h : Mag l m) (hk : m < B ^ k) : l.length ≤ k :=
  h.2.2.length_le h.2.1 (h.1 ▸ hk)

theorem andNN_len (a b : List Nat) : (andNN a b).mag.length ≤ 1 + max a.length b.length := by
  unfold andNN
  refine Nat.le_trans (addOneGrow_len_le _) ?_
  split <;> simp only [ior_n, List.length_append, List.length_zipWith, List.length_drop, subLimb_len] <;> omega

theorem iorPP_len (a b : List Nat) : (iorPP a b).mag.length ≤ max a.length b.length := by
  unfold iorPP
  split <;> simp only [ior_n, List.length_append, List.length_zipWith, List.length_drop] <;> omega

theorem iorNN_len (a b : List Nat) (ha : Limbs a) (hb : Limbs b) (ha1 : 1 ≤ val a) (hb1 : 1 ≤ val b) :
    (iorNN a b).mag.length ≤ min a.length b.length := by
  have hm := (iorNN_spec a b ha hb ha1 hb1).2
  have la := val_lt a ha
  have lb := val_lt b hb
  have h1 : (val a - 1) &&& (val b - 1) ≤ val a - 1 := Nat.and_le_left
  have h2 : (val a - 1) &&& (val b - 1) ≤ val b - 1 := Nat.and_le_right
  exact Nat.le_min.mpr ⟨hm.length_le (by omega), hm.length_le (by omega)⟩

theorem iorPN_len (a b : List Nat) (ha : Limbs a) (hb : Limbs b) (hnb : Normalized b) (hb1 : 1 ≤ val b) :
    (iorPN a b).mag.length ≤ b.length := by
  have hm := (iorPN_spec a b ha hb hnb hb1).2
  have lb := val_lt b hb
  have h1 := ldiff_le (val b - 1) (val a)
  exact hm.length_le (by omega)

/-- and.c: the request `1 + MAX` of the negative-negative case bounds the result; in the other cases the request is the
    length of the result -/
theorem mpz_and_len (x y : Z) :
    (mpz_and x y).mag.length ≤
      (if x.neg && y.neg then 1 + max x.mag.length y.mag.length else (mpz_and x y).mag.length) := by
  split
  · rename_i h
    have hx : x.neg = true := by cases hx : x.neg <;> simp_all
    have hy : y.neg = true := by cases hy : y.neg <;> simp_all
    have e : mpz_and x y = andNN x.mag y.mag := by unfold mpz_and; simp [hx, hy]
    rw [e]; exact andNN_len _ _
  · exact Nat.le_refl _

/-- xor.c: `MAX`, plus one limb when the signs differ -/
theorem mpz_xor_len (x y : Z) :
    (mpz_xor x y).mag.length ≤ max x.mag.length y.mag.length + (if x.neg = y.neg then 0 else 1) := by
  unfold mpz_xor xorPP xorNN xorPN
  cases hx : x.neg <;> cases hy : y.neg <;>
    simp only [Bool.not_false, Bool.not_true, Bool.false_eq_true, if_true, if_false, reduceCtorEq, Nat.add_zero]
  · exact Nat.le_trans (normalize_length_le _) (Nat.le_of_eq (xorCat_len _ _))
  · refine Nat.le_trans (normalize_length_le _) (Nat.le_trans (addOneGrow_len_le _) ?_)
    rw [xorCat_len, subLimb_len]
  · refine Nat.le_trans (normalize_length_le _) (Nat.le_trans (addOneGrow_len_le _) ?_)
    rw [xorCat_len, subLimb_len, Nat.max_comm]
  · refine Nat.le_trans (normalize_length_le _) ?_
    rw [xorCat_len, subLimb_len, subLimb_len]

/-- ior.c: `MAX` for ++, `MIN` for --, the size of the negative operand for +- (never a `+ 1`) -/
theorem mpz_ior_len (x y : Z) (hx : x.WF) (hy : y.WF) :
    (mpz_ior x y).mag.length ≤
      (if x.neg then (if y.neg then min x.mag.length y.mag.length else x.mag.length)
       else (if y.neg then y.mag.length else max x.mag.length y.mag.length)) := by
  unfold mpz_ior
  cases hxn : x.neg <;> cases hyn : y.neg <;>
    simp only [Bool.not_false, Bool.not_true, Bool.false_eq_true, if_true, if_false]
  · exact iorPP_len _ _
  · exact iorPN_len _ _ hx.limbs hy.limbs hy.norm (hy.pos hyn)
  · exact iorPN_len _ _ hy.limbs hx.limbs hx.norm (hx.pos hxn)
  · exact iorNN_len _ _ hx.limbs hy.limbs (hx.pos hxn) (hy.pos hyn)

/-! ### mpz_setbit, mpz_clrbit, mpz_combit on negative operands -/

theorem pred_mod_B (d : Nat) (hd : d < B) (h0 : d ≠ 0) : (d + B - 1) % B = d - 1 := by
  rw [B_eq] at *; omega

/-- setbit on a negative number at its lowest non-zero limb (setbit.c:88-110); the carry branch is dead:
    clearing a bit of `limb - 1` and adding 1 cannot wrap. -/
theorem setbit_neg_at (mag : List Nat) (i : Nat) (hl : Limbs mag) (hn : Normalized mag) (h1 : 1 ≤ val mag)
    (hzb : i / 64 = zeroBound mag) :
    ((((mag.getD (i / 64) 0 + B - 1) % B) &&& lnotL (2 ^ (i % 64))) + 1) % B ≠ 0 ∧
    Mag (mag.set (i / 64) (((((mag.getD (i / 64) 0 + B - 1) % B) &&& lnotL (2 ^ (i % 64))) + 1) % B))
      (ldiff (val mag - 1) (2 ^ i) + 1) := by
  obtain ⟨z1, z2, z3⟩ := zb_facts mag h1 _ hzb
  have key := bitwise_bit_at_zb (fun a b => a && !b) rfl rfl mag hl h1 i hzb
  have hd := getD_lt hl (i / 64)
  generalize mag.getD (i / 64) 0 = d at *
  have hle : ldiff (d - 1) (2 ^ (i % 64)) ≤ d - 1 := ldiff_le _ _
  rw [pred_mod_B d hd z2, limbop_andn (d - 1) _ (by omega) (bit_lt_B i), Nat.mod_eq_of_lt (by omega)]
  refine ⟨Nat.succ_ne_zero _, ?_, Limbs_set hl _ _ (by omega), norm_set hn _ _ z1 (fun _ => Nat.succ_ne_zero _)⟩
  rw [val_set _ _ _ z1, z3, Nat.zero_add]; exact key.symm

/-- setbit on a negative number beyond its length: the bit is already 1 (sign extension) -/
theorem setbit_neg_beyond (mag : List Nat) (i : Nat) (hl : Limbs mag) (h1 : 1 ≤ val mag)
    (h : mag.length ≤ i / 64) : val mag = ldiff (val mag - 1) (2 ^ i) + 1 := by
  have := testBit_high mag hl i h (val mag - 1) (Nat.sub_le _ _)
  rw [ldiff_two_pow_of_clear this]; omega

theorem addLimb_spec (u : List Nat) (hu : Limbs u) (v : Nat) (hv : v < B) (hne : u ≠ []) :
    val (addLimb u v).1 + B ^ u.length * (addLimb u v).2 = val u + v ∧ (addLimb u v).2 ≤ 1 ∧
    Limbs (addLimb u v).1 ∧ (addLimb u v).1.length = u.length := by
  match u, hne with
  | x :: xs, _ => simpa using addLimb_val x xs v hu hv

/-- `mpn_sub_1` / `mpn_decr_u` from limb `i / 64` on, without borrow out (setbit.c:111-117, combit.c:75-77) -/
theorem sub_bit_spec (dp : List Nat) (i : Nat) (hl : Limbs dp) (h : i / 64 < dp.length) (hge : 2 ^ i ≤ val dp) :
    val (dp.take (i / 64) ++ (subLimb (dp.drop (i / 64)) (2 ^ (i % 64))).1) = val dp - 2 ^ i ∧
    Limbs (dp.take (i / 64) ++ (subLimb (dp.drop (i / 64)) (2 ^ (i % 64))).1) ∧
    (dp.take (i / 64) ++ (subLimb (dp.drop (i / 64)) (2 ^ (i % 64))).1).length = dp.length := by
  have hdne : dp.drop (i / 64) ≠ [] := by
    intro h2; have := congrArg List.length h2; simp at this; omega
  have hsplit := val_take_drop dp (i / 64) (by omega)
  have hlo := val_lt _ (Limbs_take hl (i / 64))
  rw [List.length_take, Nat.min_eq_left (by omega)] at hlo
  have hW : 2 ^ (i % 64) ≤ val (dp.drop (i / 64)) := by
    by_contra hlt
    have := Nat.mul_le_mul_left (B ^ (i / 64)) (Nat.not_le.mp hlt)
    rw [← two_pow_split i, Nat.mul_succ] at this
    omega
  obtain ⟨s1, s2, s3⟩ := subLimb_noborrow (dp.drop (i / 64)) (Limbs_drop hl _) _ (bit_lt_B i) hdne hW
  refine ⟨?_, Limbs_append.mpr ⟨Limbs_take hl _, s2⟩, by
    rw [List.length_append, s3, List.length_take, List.length_drop]; omega⟩
  rw [val_append, s1, List.length_take, Nat.min_eq_left (by omega), Nat.mul_sub, ← two_pow_split i]
  have : 2 ^ i ≤ B ^ (i / 64) * val (dp.drop (i / 64)) := by
    rw [two_pow_split i]; exact Nat.mul_le_mul_left _ hW
  omega

theorem sub_half_le (P Q t V : Nat) (h1 : P ≤ V) (h2 : 2 * t ≤ P) (h3 : P = B * Q) : Q ≤ V - t := by
  rw [B_eq] at h3; omega

/-- setbit on a negative number below its lowest non-zero limb (setbit.c:111-117): the magnitude
    decreases by 2^i; at most the top limb becomes zero. -/
theorem setbit_neg_below (mag : List Nat) (i : Nat) (hl : Limbs mag) (hn : Normalized mag) (h1 : 1 ≤ val mag)
    (hzb : i / 64 < zeroBound mag) :
    Mag (dropTopZero (mag.take (i / 64) ++ (subLimb (mag.drop (i / 64)) (2 ^ (i % 64))).1))
      (ldiff (val mag - 1) (2 ^ i) + 1) := by
  have z1 := (zeroBound_spec mag h1).1
  have hli : i / 64 < mag.length := lt_trans hzb z1
  have htb := testBit_pred_low mag hl h1 i hzb
  have hge := Nat.ge_two_pow_of_testBit htb
  obtain ⟨v, l, hlen⟩ := sub_bit_spec mag i hl hli (by omega)
  refine (dropTopZero_spec _ l (fun h2 => ?_)).cast (by rw [v, ldiff_two_pow_of_set htb]; omega)
  rw [hlen] at h2 ⊢
  rw [v]
  have gb := hn.ge (ne_nil_of_lt hli)
  -- 2 * 2^i ≤ B^(n-1) = B * B^(n-2)
  have e1 : 2 * 2 ^ i ≤ B ^ (mag.length - 1) := by
    rw [two_pow_split i]
    calc 2 * (B ^ (i / 64) * 2 ^ (i % 64)) = B ^ (i / 64) * (2 * 2 ^ (i % 64)) := by ring
      _ ≤ B ^ (i / 64) * B := Nat.mul_le_mul_left _ (two_bit_le_B i)
      _ = B ^ (i / 64 + 1) := by rw [pow_succ]
      _ ≤ B ^ (mag.length - 1) := Nat.pow_le_pow_right B_pos (by omega)
  have e2 : B ^ (mag.length - 1) = B * B ^ (mag.length - 2) := by
    rw [← pow_succ']; congr 1; omega
  exact sub_half_le _ _ _ _ gb e1 e2

theorem lor_pos (x k : Nat) : lor (Int.ofNat x) (Int.ofNat k) = Int.ofNat (x ||| k) := rfl
theorem lor_neg (m k : Nat) : lor (Int.negSucc m) (Int.ofNat k) = Int.negSucc (ldiff m k) := rfl

theorem mpz_setbit_lor (d : Z) (hd : d.WF) (i : Nat) :
    (mpz_setbit d i).toInt = lor d.toInt (Int.ofNat (2 ^ i)) ∧ (mpz_setbit d i).WF := by
  unfold mpz_setbit
  simp only
  cases hn : d.neg
  · simp only [Bool.not_false, ↓reduceIte]
    rw [toInt_nonneg d hn, lor_pos]
    by_cases hli : i / 64 < d.mag.length
    · rw [if_pos hli]
      exact (set_bit_in d.mag i hd.limbs hd.norm hli 0 (Nat.zero_le _)).nonneg
    · rw [if_neg hli, Nat.or_two_pow_eq_add_of_lt (val_lt_two_pow_of_short d.mag hd.limbs i (by omega))]
      exact (extend_bit d.mag i hd.limbs (by omega)).nonneg
  · simp only [Bool.not_true, Bool.false_eq_true, ↓reduceIte]
    have h1 := hd.pos hn
    rw [toInt_neg d hn h1, lor_neg]
    by_cases hgt : i / 64 > zeroBound d.mag
    · rw [if_pos hgt]
      by_cases hli : i / 64 < d.mag.length
      · rw [if_pos hli]
        have hlo := (zeroBound_spec d.mag h1).2.2.2 _ hgt
        split
        · exact (clear_bit_in d.mag i hd.limbs hd.norm hli 1 hlo _ (Or.inr rfl)).neg
        · rename_i hc
          exact (clear_bit_in d.mag i hd.limbs hd.norm hli 1 hlo _
            (Or.inl ⟨rfl, fun ht h0 => hc ⟨h0, by omega⟩⟩)).neg
      · rw [if_neg hli]
        exact (hd.mag.cast (setbit_neg_beyond d.mag i hd.limbs h1 (by omega))).neg_of hn
    · rw [if_neg hgt]
      by_cases heq : i / 64 = zeroBound d.mag
      · rw [if_pos heq]
        obtain ⟨x0, m⟩ := setbit_neg_at d.mag i hd.limbs hd.norm h1 heq
        rw [if_neg x0]
        exact m.neg
      · rw [if_neg heq]
        exact (setbit_neg_below d.mag i hd.limbs hd.norm h1 (by omega)).neg

theorem land_lnot_pos (x k : Nat) : land (Int.ofNat x) (lnot (Int.ofNat k)) = Int.ofNat (ldiff x k) := rfl
theorem land_lnot_neg (m k : Nat) : land (Int.negSucc m) (lnot (Int.ofNat k)) = Int.negSucc (m ||| k) := rfl

/-- the carry loop of clrbit.c:92-110 (also setbit.c:92-109): the limb at `li` is 0 after the `+1` -/
theorem carryAbove_spec (m : List Nat) (li : Nat) (hl : Limbs m) (h : li < m.length) (h0 : m.getD li 0 = 0) :
    val (carryAbove m li) = val (m.take li) + B ^ li * (B * (val (m.drop (li + 1)) + 1)) ∧
    Limbs (carryAbove m li) ∧
    (carryAbove m li).length ≥ m.length ∧
    ((carryAbove m li).length = m.length ∨ (carryAbove m li).getLast? = some 1) := by
  obtain ⟨i1, i2, i3, i4⟩ := incr_val (m.drop (li + 1)) (Limbs_drop hl _)
  unfold carryAbove
  generalize incr (m.drop (li + 1)) = res at *
  obtain ⟨r, c⟩ := res
  simp only at i1 i2 i3 i4 ⊢
  have htake : m.take (li + 1) = m.take li ++ [0] := by
    rw [List.take_add_one]; congr 1
    rw [List.getD_eq_getElem?_getD, List.getElem?_eq_getElem h] at h0
    rw [List.getElem?_eq_getElem h]; simp at h0 ⊢; exact h0
  have hlen : (m.take li).length = li := by rw [List.length_take]; omega
  by_cases hc : c = 0
  · subst hc
    rw [Nat.mul_zero, Nat.add_zero] at i1
    simp only [ne_eq, not_true_eq_false, if_false]
    refine ⟨?_, Limbs_append.mpr ⟨Limbs_take hl _, i3⟩, ?_, Or.inl ?_⟩
    · rw [htake, List.append_assoc, val_append, hlen, List.singleton_append, val_cons, i1]; ring
    · rw [List.length_append, i4, List.length_take, List.length_drop]; omega
    · rw [List.length_append, i4, List.length_take, List.length_drop]; omega
  · have hc1 : c = 1 := by omega
    subst hc1
    rw [Nat.mul_one] at i1
    simp only [ne_eq, one_ne_zero, not_false_eq_true, if_true]
    refine ⟨?_, Limbs_append.mpr ⟨Limbs_take hl _, Limbs_append.mpr ⟨i3, ?_⟩⟩, ?_, Or.inr ?_⟩
    · rw [htake, List.append_assoc, val_append, hlen, List.singleton_append, val_cons, val_snoc, i4,
        Nat.mul_one, i1]; ring
    · intro y hy; simp at hy; rw [hy]; exact one_lt_B
    · simp only [List.length_append, i4, List.length_take, List.length_drop, List.length_singleton]; omega
    · simp [List.getLast?_append]

/-- clrbit on a negative number at its lowest non-zero limb (clrbit.c:87-111) -/
theorem clrbit_neg_at (mag : List Nat) (i : Nat) (hl : Limbs mag) (hn : Normalized mag) (h1 : 1 ≤ val mag)
    (hzb : i / 64 = zeroBound mag) (x : Nat)
    (hx : x = ((((mag.getD (i / 64) 0 + B - 1) % B) ||| 2 ^ (i % 64)) + 1) % B) (res : List Nat)
    (hres : res = if x = 0 then carryAbove (mag.set (i / 64) x) (i / 64) else mag.set (i / 64) x) :
    Mag res (((val mag - 1) ||| 2 ^ i) + 1) := by
  obtain ⟨z1, z2, z3⟩ := zb_facts mag h1 _ hzb
  have htarget : ((val mag - 1) ||| 2 ^ i) + 1 = B ^ (i / 64) *
      ((((mag.getD (i / 64) 0 - 1) ||| 2 ^ (i % 64)) + 1) + B * val (mag.drop (i / 64 + 1))) :=
    bitwise_bit_at_zb or rfl rfl mag hl h1 i hzb
  have hd := getD_lt hl (i / 64)
  generalize mag.getD (i / 64) 0 = d at *
  rw [pred_mod_B d hd z2] at hx
  have hy : (d - 1) ||| 2 ^ (i % 64) < B := or_lt_B (by omega) (bit_lt_B i)
  have hge : val mag ≤ ((val mag - 1) ||| 2 ^ i) + 1 := by
    have : val mag - 1 ≤ (val mag - 1) ||| 2 ^ i := Nat.left_le_or
    omega
  have gb := hn.ge (ne_nil_of_lt z1)
  have hxlt : x < B := by rw [hx]; exact Nat.mod_lt _ B_pos
  have hlm := Limbs_set hl (i / 64) x hxlt
  by_cases hx0 : x = 0
  · rw [if_pos hx0] at hres
    have hyB : ((d - 1) ||| 2 ^ (i % 64)) + 1 = B := by
      by_contra hne
      rw [Nat.mod_eq_of_lt (by omega)] at hx; omega
    have hg0 : (mag.set (i / 64) x).getD (i / 64) 0 = 0 := by
      rw [List.getD_eq_getElem?_getD, List.getElem?_set_self (by simpa using z1)]; simpa using hx0
    obtain ⟨c1, c2, c3, c4⟩ := carryAbove_spec (mag.set (i / 64) x) (i / 64) hlm (by simpa using z1) hg0
    have hval : val res = ((val mag - 1) ||| 2 ^ i) + 1 := by
      rw [hres, c1, htarget, hyB, List.take_set_of_le (le_refl _), List.drop_set_of_lt (by omega), z3]
      ring
    have hl' : Limbs res := by rw [hres]; exact c2
    have hne : res ≠ [] := ne_nil_of_val_pos (by rw [hval]; omega)
    refine ⟨hval, hl', ?_⟩
    rcases c4 with c4 | c4
    · rw [normalized_iff_ge hl' hne, hval, hres, c4, List.length_set]
      exact le_trans gb hge
    · rw [hres]; unfold Normalized; rw [c4]; simp
  · rw [if_neg hx0] at hres
    have hyB : ((d - 1) ||| 2 ^ (i % 64)) + 1 < B := by
      by_contra hne
      have : ((d - 1) ||| 2 ^ (i % 64)) + 1 = B := by omega
      rw [this, Nat.mod_self] at hx; exact hx0 hx
    rw [Nat.mod_eq_of_lt hyB] at hx
    rw [hres]
    exact ⟨by rw [val_set _ _ _ z1, z3, Nat.zero_add, htarget, hx], hlm, norm_set hn _ _ z1 (fun _ => hx0)⟩

theorem mpz_clrbit_land (d : Z) (hd : d.WF) (i : Nat) :
    (mpz_clrbit d i).toInt = land d.toInt (lnot (Int.ofNat (2 ^ i))) ∧ (mpz_clrbit d i).WF := by
  unfold mpz_clrbit
  simp only
  cases hn : d.neg
  · simp only [Bool.not_false, ↓reduceIte]
    rw [toInt_nonneg d hn, land_lnot_pos]
    by_cases hli : i / 64 < d.mag.length
    · rw [if_pos hli]
      split
      · exact (clear_bit_in d.mag i hd.limbs hd.norm hli 0 (Nat.zero_le _) _ (Or.inr rfl)).nonneg
      · rename_i hc
        exact (clear_bit_in d.mag i hd.limbs hd.norm hli 0 (Nat.zero_le _) _
          (Or.inl ⟨rfl, fun ht h0 => hc ⟨h0, by omega⟩⟩)).nonneg
    · rw [if_neg hli, ldiff_two_pow_of_clear (testBit_high d.mag hd.limbs i (by omega) _ (le_refl _))]
      exact hd.mag.nonneg_of hn
  · simp only [Bool.not_true, Bool.false_eq_true, ↓reduceIte]
    have h1 := hd.pos hn
    rw [toInt_neg d hn h1, land_lnot_neg]
    by_cases hgt : i / 64 > zeroBound d.mag
    · rw [if_pos hgt]
      by_cases hli : i / 64 < d.mag.length
      · rw [if_pos hli]
        exact (set_bit_in d.mag i hd.limbs hd.norm hli 1 ((zeroBound_spec d.mag h1).2.2.2 _ hgt)).neg
      · rw [if_neg hli]
        have hlt : val d.mag - 1 < 2 ^ i :=
          lt_of_le_of_lt (Nat.sub_le _ _) (val_lt_two_pow_of_short d.mag hd.limbs i (by omega))
        rw [Nat.or_two_pow_eq_add_of_lt hlt]
        exact ((extend_bit d.mag i hd.limbs (by omega)).cast (by omega)).neg
    · rw [if_neg hgt]
      by_cases heq : i / 64 = zeroBound d.mag
      · rw [if_pos heq]
        have := clrbit_neg_at d.mag i hd.limbs hd.norm h1 heq _ rfl _ rfl
        split <;> rename_i hx0
        · rw [if_pos hx0] at this; exact this.neg
        · rw [if_neg hx0] at this; exact this.neg
      · rw [if_neg heq, or_two_pow_of_set (testBit_pred_low d.mag hd.limbs h1 i (by omega))]
        exact (hd.mag.cast (by omega)).neg_of hn

theorem lxor_pos (x k : Nat) : lxor (Int.ofNat x) (Int.ofNat k) = Int.ofNat (x ^^^ k) := rfl
theorem lxor_neg (m k : Nat) : lxor (Int.negSucc m) (Int.ofNat k) = Int.negSucc (m ^^^ k) := rfl

/-- combit.c:34-41: zero-extend so that limb `li` exists -/
theorem pad_spec (mag : List Nat) (hl : Limbs mag) (li : Nat) :
    val (if li ≥ mag.length then mag ++ List.replicate (li + 1 - mag.length) 0 else mag) = val mag ∧
    Limbs (if li ≥ mag.length then mag ++ List.replicate (li + 1 - mag.length) 0 else mag) ∧
    li < (if li ≥ mag.length then mag ++ List.replicate (li + 1 - mag.length) 0 else mag).length := by
  by_cases h : li ≥ mag.length
  · rw [if_pos h]
    refine ⟨by rw [val_append, val_replicate_zero]; simp, Limbs_append.mpr ⟨hl, Limbs_replicate_zero _⟩, ?_⟩
    rw [List.length_append, List.length_replicate]; omega
  · rw [if_neg h]; exact ⟨rfl, hl, by omega⟩

theorem combit_pos (dp : List Nat) (i : Nat) (hl : Limbs dp) (h : i / 64 < dp.length) :
    Mag (normalize (dp.set (i / 64) (dp.getD (i / 64) 0 ^^^ 2 ^ (i % 64)))) (val dp ^^^ 2 ^ i) :=
  (Mag.normalize (Limbs_set hl _ _ (Nat.xor_lt_two_pow (getD_lt hl _) (bit_lt_B i)))).cast
    (bitwise_bit_in bne rfl rfl dp hl i h 0 (Nat.zero_le _))

/-- combit.c:62-74: clearing the two's-complement bit increases the magnitude by 2^i -/
theorem combit_neg_add (dp : List Nat) (i : Nat) (hl : Limbs dp) (h : i / 64 < dp.length) :
    Mag (normalize (dp.take (i / 64) ++ (addLimb (dp.drop (i / 64)) (2 ^ (i % 64))).1 ++
      [(addLimb (dp.drop (i / 64)) (2 ^ (i % 64))).2])) (val dp + 2 ^ i) := by
  have hdne : dp.drop (i / 64) ≠ [] := by
    intro h2; have := congrArg List.length h2; simp at this; omega
  obtain ⟨a1, a2, a3, a4⟩ := addLimb_spec (dp.drop (i / 64)) (Limbs_drop hl _) _ (bit_lt_B i) hdne
  refine (Mag.normalize (Limbs_append.mpr ⟨Limbs_append.mpr ⟨Limbs_take hl _, a3⟩, ?_⟩)).cast ?_
  · intro y hy; simp at hy; rw [hy]; exact lt_of_le_of_lt a2 one_lt_B
  · rw [List.append_assoc, val_append, val_snoc, a4, a1, List.length_take, Nat.min_eq_left (by omega)]
    conv_rhs => rw [val_take_drop dp (i / 64) (by omega), two_pow_split i]
    ring

/-- combit.c:75-77: setting the two's-complement bit decreases the magnitude by 2^i (no borrow out) -/
theorem combit_neg_sub (dp : List Nat) (i : Nat) (hl : Limbs dp) (h : i / 64 < dp.length)
    (hge : 2 ^ i ≤ val dp) :
    Mag (normalize (dp.take (i / 64) ++ (subLimb (dp.drop (i / 64)) (2 ^ (i % 64))).1)) (val dp - 2 ^ i) :=
  have ⟨v, l, _⟩ := sub_bit_spec dp i hl h hge
  (Mag.normalize l).cast v

theorem mpz_combit_lxor (d : Z) (hd : d.WF) (i : Nat) :
    (mpz_combit d i).toInt = lxor d.toInt (Int.ofNat (2 ^ i)) ∧ (mpz_combit d i).WF := by
  unfold mpz_combit
  simp only
  obtain ⟨p1, p2, p3⟩ := pad_spec d.mag hd.limbs (i / 64)
  generalize (if i / 64 ≥ d.mag.length then d.mag ++ List.replicate (i / 64 + 1 - d.mag.length) 0 else d.mag) = dp at *
  cases hn : d.neg
  · simp only [Bool.not_false, ↓reduceIte]
    rw [toInt_nonneg d hn, lxor_pos, ← p1]
    exact (combit_pos dp i p2 p3).nonneg
  · simp only [Bool.not_true, Bool.false_eq_true, ↓reduceIte]
    have h1 := hd.pos hn
    rw [toInt_neg d hn h1, lxor_neg]
    have htb := testBit_pred dp p2 (by omega) i p3
    rw [p1] at htb
    by_cases hx : twosLimb dp (i / 64) &&& 2 ^ (i % 64) ≠ 0
    · rw [if_pos hx]
      rw [(and_bit_ne_zero _ _).mp hx] at htb
      refine ((combit_neg_add dp i p2 p3).cast ?_).neg
      rw [p1, xor_two_pow_of_clear (by simpa using htb)]; omega
    · rw [if_neg hx]
      rw [Bool.eq_false_iff.mpr (mt (and_bit_ne_zero _ _).mpr hx)] at htb
      have htb' : (val d.mag - 1).testBit i = true := by simpa using htb
      have hge := Nat.ge_two_pow_of_testBit htb'
      refine ((combit_neg_sub dp i p2 p3 (by omega)).cast ?_).neg
      rw [p1, xor_two_pow_of_set htb']; omega

theorem ofNat_two_pow (i : Nat) : Int.ofNat (2 ^ i) = (2 : Int) ^ i := by
  change ((2 ^ i : Nat) : Int) = _; push_cast; rfl

/-! ### popcount -/

theorem popcount_zero : popcount 0 = 0 := by rw [popcount]; simp
theorem popcount_step (n : Nat) : popcount n = n % 2 + popcount (n / 2) := by
  by_cases h : n = 0
  · subst h; simp [popcount_zero]
  · rw [popcount, dif_neg h]

theorem popcount_eq_digits (n : Nat) : popcount n = (Nat.digits 2 n).sum := by
  induction n using Nat.strongRecOn with
  | ind n ih =>
    by_cases h : n = 0
    · subst h; simp [popcount_zero]
    · rw [popcount_step, Nat.digits_def' (by decide) (Nat.pos_of_ne_zero h), List.sum_cons,
        ih (n / 2) (Nat.div_lt_self (Nat.pos_of_ne_zero h) (by decide))]

theorem popcount_split (k : Nat) : ∀ (x v : Nat), x < 2 ^ k → popcount (x + 2 ^ k * v) = popcount x + popcount v := by
  induction k with
  | zero => intro x v hx; have : x = 0 := by simpa using hx
            subst this; simp [popcount_zero]
  | succ k ih =>
    intro x v hx
    have e0 : 2 ^ (k + 1) * v = 2 * (2 ^ k * v) := by rw [pow_succ]; ring
    have e1 : (x + 2 ^ (k + 1) * v) % 2 = x % 2 := by
      rw [e0, Nat.add_mul_mod_self_left]
    have e2 : (x + 2 ^ (k + 1) * v) / 2 = x / 2 + 2 ^ k * v := by
      rw [e0, Nat.add_mul_div_left _ _ (by decide : 0 < 2)]
    have hx2 : x / 2 < 2 ^ k := by rw [pow_succ] at hx; omega
    rw [popcount_step, e1, e2, ih _ _ hx2, popcount_step x]; omega

theorem popcAux_eq (k : Nat) : ∀ x, popcAux k x = popcount (x % 2 ^ k) := by
  induction k with
  | zero => intro x; simp [popcAux, Nat.mod_one, popcount_zero]
  | succ k ih =>
    intro x
    have e1 : (x % 2 ^ (k + 1)) % 2 = x % 2 := by
      rw [pow_succ']; exact Nat.mod_mod_of_dvd _ (Dvd.intro _ rfl)
    have e2 : (x % 2 ^ (k + 1)) / 2 = (x / 2) % 2 ^ k := by
      rw [pow_succ']; exact Nat.mod_mul_right_div_self _ _ _
    rw [popcAux, ih, popcount_step (x % 2 ^ (k + 1)), e1, e2]

theorem popc_eq (x : Nat) (hx : x < B) : popc x = popcount x := by
  unfold popc; rw [popcAux_eq, Nat.mod_eq_of_lt (by unfold B at hx; exact hx)]

theorem mpn_popcount_eq : ∀ (u : List Nat), Limbs u → mpn_popcount u = popcount (val u)
  | [], _ => by simp [mpn_popcount, popcount_zero]
  | x :: xs, hu => by
    have ⟨hx, hxs⟩ := Limbs_cons.mp hu
    have ih := mpn_popcount_eq xs hxs
    unfold mpn_popcount at *
    rw [List.map_cons, List.sum_cons, ih, popc_eq x hx, val_cons]
    unfold B at *
    rw [popcount_split 64 x (val xs) hx]

theorem xor_n_val (u v : List Nat) (hu : Limbs u) (hv : Limbs v) (hl : u.length = v.length) :
    val (xor_n u v) = val u ^^^ val v ∧ Limbs (xor_n u v) ∧ (xor_n u v).length = u.length := by
  obtain ⟨e, l⟩ := zipWith_eqlen limbOp_xor u v hl hu hv
  exact ⟨e, l, by simp [xor_n, hl]⟩

theorem mpn_popcount_digits (u : List Nat) (hu : Limbs u) : mpn_popcount u = (Nat.digits 2 (val u)).sum := by
  rw [mpn_popcount_eq u hu, popcount_eq_digits]

theorem mpn_hamdist_digits (u v : List Nat) (hu : Limbs u) (hv : Limbs v) (hl : u.length = v.length) :
    mpn_hamdist u v = (Nat.digits 2 (val u ^^^ val v)).sum := by
  obtain ⟨e, l, _⟩ := xor_n_val u v hu hv hl
  rw [← e, ← mpn_popcount_digits _ l]; rfl

theorem mpn_popcount_append (u v : List Nat) : mpn_popcount (u ++ v) = mpn_popcount u + mpn_popcount v := by
  unfold mpn_popcount; simp

/-- the C's `if (n != 0)` guard around a popcount call -/
theorem add_popcount_guard (c : Nat) (l : List Nat) :
    (if l.length ≠ 0 then c + mpn_popcount l else c) = c + mpn_popcount l := by
  cases l <;> simp [mpn_popcount]

theorem mpz_popcount_eq (u : Z) (hu : u.WF) :
    mpz_popcount u = if u.toInt < 0 then BITCNT_MAX else popcount u.toInt.toNat := by
  unfold mpz_popcount
  cases hn : u.neg
  · simp only [Bool.false_eq_true, ↓reduceIte]
    rw [toInt_nonneg u hn]
    have : ¬ (Int.ofNat (val u.mag) < 0) := by simp
    rw [if_neg this]
    by_cases h0 : u.mag.length > 0
    · rw [if_pos h0, mpn_popcount_eq u.mag hu.limbs]; rfl
    · rw [if_neg h0]
      have : u.mag = [] := List.eq_nil_of_length_eq_zero (by omega)
      rw [this]; simp [popcount_zero]
  · simp only [↓reduceIte]
    rw [toInt_neg u hn (hu.pos hn)]
    have : Int.negSucc (val u.mag - 1) < 0 := Int.negSucc_lt_zero _
    rw [if_pos this]

/-! ### count_trailing_zeros, the limb skips, mpn_scan0/1 and mpz_scan0/1 -/

theorem ctz_isCtz : IsCtz (· < B) ctz := isCtz_halving ctzAux (fun _ => rfl) (fun _ _ _ => rfl) 64

theorem ctz_spec (x : Nat) (h0 : x ≠ 0) (hx : x < B) :
    ctz x < 64 ∧ x.testBit (ctz x) = true ∧ ∀ t, t < ctz x → x.testBit t = false :=
  ⟨ctz_isCtz.lt_of_lt_pow (Nat.pos_of_ne_zero h0) hx hx, ctz_isCtz.testBit (Nat.pos_of_ne_zero h0) hx⟩

theorem testBit_maskHi (k t : Nat) (hk : k ≤ 64) : (maskHi k).testBit t = (decide (k ≤ t) && decide (t < 64)) := by
  unfold maskHi B
  have e : 2 ^ 64 - 2 ^ k = 2 ^ k * (2 ^ (64 - k) - 1) := by
    rw [Nat.mul_sub, ← pow_add, Nat.mul_one]; congr 2; omega
  rw [e, Nat.testBit_two_pow_mul, Nat.testBit_two_pow_sub_one]
  by_cases h1 : k ≤ t <;> by_cases h2 : t < 64 <;> simp [h1, h2] <;> omega

theorem testBit_maskLo (k t : Nat) : (maskLo k).testBit t = decide (t < k) := by
  unfold maskLo; exact Nat.testBit_two_pow_sub_one k t

theorem maskHi_lt (k : Nat) : maskHi k < B := by
  unfold maskHi; have := Nat.two_pow_pos k; have := B_pos; omega

theorem maskLo_lt (k : Nat) (hk : k ≤ 64) : maskLo k < B := by
  unfold maskLo B
  have : 2 ^ k ≤ 2 ^ 64 := Nat.pow_le_pow_right (by decide) hk
  have := Nat.two_pow_pos k; omega

theorem skipZero_spec : ∀ (l : List Nat) (i0 : Nat),
    (skipZero l i0 = none ∧ ∀ j, l.getD j 0 = 0) ∨
    ∃ k x, skipZero l i0 = some (i0 + k, x) ∧ k < l.length ∧ l.getD k 0 = x ∧ x ≠ 0 ∧
      ∀ j, j < k → l.getD j 0 = 0
  | [], i0 => Or.inl ⟨rfl, fun j => by simp⟩
  | x :: xs, i0 => by
    rw [skipZero]
    by_cases hx : x = 0
    · rw [if_pos hx]
      rcases skipZero_spec xs (i0 + 1) with ⟨h, hz⟩ | ⟨k, y, h, e2, e3, e4, e5⟩
      · refine Or.inl ⟨h, fun j => ?_⟩
        cases j with
        | zero => simpa using hx
        | succ j => simpa using hz j
      · refine Or.inr ⟨k + 1, y, by rw [h, Nat.add_assoc, Nat.add_comm 1 k], by simpa using e2, by simpa using e3, e4,
          fun j hj => ?_⟩
        cases j with
        | zero => simpa using hx
        | succ j => simpa using e5 j (by omega)
    · rw [if_neg hx]
      exact Or.inr ⟨0, x, rfl, by simp, by simp, hx, fun j hj => by omega⟩

theorem skipZero_eq_some : ∀ (L : List Nat) (p k : Nat), (∀ j, j < k → L.getD j 0 = 0) → L.getD k 0 ≠ 0 →
    skipZero L p = some (p + k, L.getD k 0)
  | [], _, _, _, h => absurd rfl h
  | x :: xs, p, 0, _, h => by rw [skipZero, if_neg (by simpa using h)]; rfl
  | x :: xs, p, k + 1, h0, h => by
    have hx : x = 0 := by simpa using h0 0 (by omega)
    rw [skipZero, if_pos hx, skipZero_eq_some xs (p + 1) k (fun j hj => by simpa using h0 (j + 1) (by omega))
      (by simpa using h), List.getD_cons_succ, Nat.add_assoc, Nat.add_comm 1 k]

/-- bit `j` of a limb list whose first limb sits at limb index `p` (zero outside the list) -/
def limbBit (L : List Nat) (p j : Nat) : Bool := (L.getD (j / 64 - p) 0).testBit (j % 64)

theorem limbBit_first (x : List Nat) (l : Nat) (p j : Nat) (h : j / 64 = p) :
    limbBit (l :: x) p j = l.testBit (j % 64) := by
  unfold limbBit; rw [h, Nat.sub_self]; rfl

theorem limbBit_rest (x : List Nat) (l : Nat) (p j : Nat) (h : p < j / 64) :
    limbBit (l :: x) p j = (x.getD (j / 64 - (p + 1)) 0).testBit (j % 64) := by
  unfold limbBit
  have : j / 64 - p = (j / 64 - (p + 1)) + 1 := by omega
  rw [this]; rfl

theorem skipZero_cons_eq_seekOne (x : Nat) (rest : List Nat) (w start : Nat) :
    (skipZero ((x &&& maskHi (start % 64)) :: rest) w).map (fun (p : Nat × Nat) => p.1 * 64 + ctz p.2) =
    seekOne x rest w start := by
  unfold seekOne
  rw [skipZero]
  simp only
  by_cases hm : x &&& maskHi (start % 64) = 0
  · rw [if_pos hm, if_pos hm]
    by_cases hr : rest.length = 0
    · rw [if_pos hr]
      have : rest = [] := List.eq_nil_of_length_eq_zero hr
      rw [this]; simp [skipZero]
    · rw [if_neg hr]
  · rw [if_neg hm, if_neg hm]; rfl

theorem bitpos (z c : Nat) (hc : c < 64) : (z * 64 + c) / 64 = z ∧ (z * 64 + c) % 64 = c := by omega

theorem skipZero_ctz_spec (L : List Nat) (hL : Limbs L) (p : Nat) :
    match (skipZero L p).map (fun (q : Nat × Nat) => q.1 * 64 + ctz q.2) with
    | some r => p * 64 ≤ r ∧ limbBit L p r = true ∧ (∀ j, p * 64 ≤ j → j < r → limbBit L p j = false) ∧
        r / 64 < p + L.length
    | none => ∀ j, limbBit L p j = false := by
  rcases skipZero_spec L p with ⟨hs, hsz⟩ | ⟨k, l, hs, e2, e3, e4, e5⟩
  · rw [hs]
    intro j; unfold limbBit; rw [hsz]; exact Nat.zero_testBit _
  · obtain ⟨i, e1⟩ : ∃ i, i = p + k := ⟨_, rfl⟩
    rw [hs, ← e1]
    show p * 64 ≤ i * 64 + ctz l ∧ limbBit L p (i * 64 + ctz l) = true ∧
      (∀ j, p * 64 ≤ j → j < i * 64 + ctz l → limbBit L p j = false) ∧ (i * 64 + ctz l) / 64 < p + L.length
    obtain ⟨c1, c2, c3⟩ := ctz_spec l e4 (e3 ▸ getD_lt hL k)
    obtain ⟨hq, hr64'⟩ := bitpos i (ctz l) c1
    have hr64 : (i * 64 + ctz l) / 64 - p = k := by rw [hq, e1, Nat.add_sub_cancel_left]
    refine ⟨by omega, ?_, fun j hj hjr => ?_, by omega⟩
    · unfold limbBit; rw [hr64, hr64', e3]; exact c2
    · unfold limbBit
      by_cases hjk : j / 64 - p < k
      · rw [e5 _ hjk]; exact Nat.zero_testBit _
      · rw [show j / 64 - p = k by omega, e3]; exact c3 _ (by omega)

theorem limbBit_maskHi (limb : Nat) (rest : List Nat) (p start j : Nat) (hp : start / 64 = p)
    (hj : p * 64 ≤ j) :
    limbBit ((limb &&& maskHi (start % 64)) :: rest) p j = (decide (start ≤ j) && limbBit (limb :: rest) p j) := by
  have hs64 : start % 64 < 64 := Nat.mod_lt _ (by decide)
  have hj64 : j % 64 < 64 := Nat.mod_lt _ (by decide)
  by_cases hjp : j / 64 = p
  · rw [limbBit_first _ _ _ _ hjp, limbBit_first _ _ _ _ hjp, Nat.testBit_and, testBit_maskHi _ _ (by omega),
      decide_eq_true hj64, Bool.and_true, Bool.and_comm]
    congr 1
    exact decide_eq_decide.mpr (by omega)
  · rw [limbBit_rest _ _ _ _ (by omega), limbBit_rest _ _ _ _ (by omega), decide_eq_true (by omega), Bool.true_and]

/-- scan1.c:51-72 / scan0.c:92-113: the first one bit of `limb :: rest` from `start` on, or none.  The callers
    see the list through some `P` (the bits of an integer, possibly inverted: `b = false`). -/
theorem seekOne_first (limb : Nat) (rest : List Nat) (p start : Nat) (hl : Limbs (limb :: rest))
    (hp : start / 64 = p) (P : Nat → Bool) (b : Bool)
    (hP : ∀ j, start ≤ j → limbBit (limb :: rest) p j = (P j == b)) :
    (∃ r, seekOne limb rest p start = some r ∧ start ≤ r ∧ P r = b ∧ (∀ j, start ≤ j → j < r → P j = !b) ∧
      r / 64 < p + 1 + rest.length) ∨
    (seekOne limb rest p start = none ∧ ∀ j, start ≤ j → P j = !b) := by
  have ⟨hlimb, hrest⟩ := Limbs_cons.mp hl
  have hm : ∀ j, start ≤ j → limbBit ((limb &&& maskHi (start % 64)) :: rest) p j = (P j == b) := by
    intro j hj
    rw [limbBit_maskHi limb rest p start j hp (by omega), decide_eq_true hj, Bool.true_and, hP j hj]
  have hs := skipZero_ctz_spec ((limb &&& maskHi (start % 64)) :: rest)
    (Limbs_cons.mpr ⟨lt_of_le_of_lt Nat.and_le_left hlimb, hrest⟩) p
  rw [skipZero_cons_eq_seekOne] at hs
  cases hso : seekOne limb rest p start with
  | none =>
    rw [hso] at hs
    exact Or.inr ⟨rfl, fun j hj => Bool.eq_not.mpr (ne_of_beq_false ((hm j hj).symm.trans (hs j)))⟩
  | some r =>
    rw [hso] at hs
    obtain ⟨s1, s2, s3, s4⟩ := hs
    have hr : start ≤ r := by
      rw [limbBit_maskHi limb rest p start r hp s1, Bool.and_eq_true, decide_eq_true_eq] at s2
      exact s2.1
    exact Or.inl ⟨r, rfl, hr, eq_of_beq ((hm r hr).symm.trans s2),
      fun j hj hjr => Bool.eq_not.mpr (ne_of_beq_false ((hm j hj).symm.trans (s3 j (by omega) hjr))),
      by rw [List.length_cons] at s4; omega⟩

theorem testBit_ones (t : Nat) : (B - 1).testBit t = decide (t < 64) := by
  unfold B; exact Nat.testBit_two_pow_sub_one 64 t

theorem com_n_getD (l : List Nat) (k : Nat) (h : k < l.length) : (com_n l).getD k 0 = lnotL (l.getD k 0) := by
  unfold com_n
  rw [List.getD_eq_getElem?_getD, List.getD_eq_getElem?_getD, List.getElem?_map,
    List.getElem?_eq_getElem h]; rfl

theorem Limbs_com_n (l : List Nat) : Limbs (com_n l) := by
  intro x hx; unfold com_n at hx
  obtain ⟨y, _, rfl⟩ := List.mem_map.mp hx
  unfold lnotL; have := B_pos; omega

theorem lnotL_eq_zero {y : Nat} (hy : y < B) : lnotL y = 0 ↔ y = B - 1 := by unfold lnotL; omega

theorem lnotL_or_maskLo (limb s : Nat) (hlimb : limb < B) (hs : s ≤ 64) :
    lnotL (limb ||| maskLo s) = lnotL limb &&& maskHi s := by
  have hor : limb ||| maskLo s < B := by
    unfold B at *; exact Nat.or_lt_two_pow hlimb (maskLo_lt s hs)
  apply Nat.eq_of_testBit_eq; intro t
  rw [testBit_lnotL _ hor, Nat.testBit_or, testBit_maskLo, Nat.testBit_and, testBit_lnotL _ hlimb,
    testBit_maskHi _ _ hs]
  by_cases h1 : t < 64 <;> by_cases h2 : t < s <;> simp [h1, h2, Nat.le_of_not_lt]

theorem skipZero_com_n : ∀ (L : List Nat) (p : Nat), Limbs L →
    skipZero (com_n L) p = (skipOnes L p).map (fun q => (q.1, lnotL q.2))
  | [], _, _ => rfl
  | x :: xs, p, hL => by
    have ⟨hx, hxs⟩ := Limbs_cons.mp hL
    rw [show com_n (x :: xs) = lnotL x :: com_n xs from rfl, skipZero, skipOnes, skipZero_com_n xs (p + 1) hxs]
    by_cases h : x = B - 1
    · rw [if_pos h, if_pos ((lnotL_eq_zero hx).mpr h)]
    · rw [if_neg h, if_neg (mt (lnotL_eq_zero hx).mp h)]; rfl

/-- seeking a zero bit is seeking a one bit in the complemented limbs (what mpn_scan0 and scan0.c:56-65 do) -/
theorem seekZero_eq (limb : Nat) (rest : List Nat) (p start n : Nat) (hl : Limbs (limb :: rest)) :
    seekZero limb rest p start n = (seekOne (lnotL limb) (com_n rest) p start).getD (n * 64) := by
  have ⟨hlimb, hrest⟩ := Limbs_cons.mp hl
  have hs64 : start % 64 < 64 := Nat.mod_lt _ (by decide)
  have hor : limb ||| maskLo (start % 64) < B := by
    unfold B at *; exact Nat.or_lt_two_pow hlimb (maskLo_lt _ (by omega))
  rw [← skipZero_cons_eq_seekOne, ← lnotL_or_maskLo limb _ hlimb (by omega)]
  rw [show lnotL (limb ||| maskLo (start % 64)) :: com_n rest = com_n ((limb ||| maskLo (start % 64)) :: rest) from rfl,
    skipZero_com_n _ p (Limbs_cons.mpr ⟨hor, hrest⟩), seekZero]
  cases skipOnes ((limb ||| maskLo (start % 64)) :: rest) p <;> rfl

theorem limbBit_com_n (L : List Nat) (hL : Limbs L) (p j : Nat) (h : j / 64 - p < L.length) :
    limbBit (com_n L) p j = !limbBit L p j := by
  unfold limbBit
  rw [com_n_getD _ _ h, testBit_lnotL _ (getD_lt hL _), decide_eq_true (Nat.mod_lt _ (by decide)), Bool.true_and]

/-- scan0.c:56-65 / scan1.c:113-130 -/
theorem seekZero_spec (limb : Nat) (rest : List Nat) (p start : Nat) (hl : Limbs (limb :: rest))
    (hp : start / 64 = p) :
    start ≤ seekZero limb rest p start (p + 1 + rest.length) ∧
    limbBit (limb :: rest) p (seekZero limb rest p start (p + 1 + rest.length)) = false ∧
    (∀ j, start ≤ j → j < seekZero limb rest p start (p + 1 + rest.length) →
      limbBit (limb :: rest) p j = true) ∧
    seekZero limb rest p start (p + 1 + rest.length) ≤ (p + 1 + rest.length) * 64 := by
  have hlen : (com_n rest).length = rest.length := List.length_map _
  have hc : ∀ j, j / 64 < p + 1 + rest.length → limbBit (limb :: rest) p j = !limbBit (lnotL limb :: com_n rest) p j := by
    intro j hj
    rw [show lnotL limb :: com_n rest = com_n (limb :: rest) from rfl,
      limbBit_com_n _ hl p j (by rw [List.length_cons]; omega), Bool.not_not]
  rw [seekZero_eq limb rest p start _ hl]
  rcases seekOne_first (lnotL limb) (com_n rest) p start (Limbs_com_n (limb :: rest)) hp _ true
      (fun _ _ => (beq_true _).symm) with ⟨r, hso, s1, s2, s3, s4⟩ | ⟨hso, hs⟩
  · rw [hlen] at s4
    rw [hso, Option.getD_some]
    exact ⟨s1, by rw [hc r s4, s2]; rfl, fun j h1 h2 => by rw [hc j (by omega), s3 j h1 h2]; rfl, by omega⟩
  · rw [hso, Option.getD_none]
    refine ⟨by omega, ?_, fun j h1 h2 => by rw [hc j (by omega), hs j h1]; rfl, le_refl _⟩
    unfold limbBit
    rw [Nat.mul_div_cancel _ (by decide), List.getD_eq_getElem?_getD,
      List.getElem?_eq_none (by rw [List.length_cons]; omega)]
    exact Nat.zero_testBit _

/-- limb `k` of the infinite two's-complement expansion of `u` -/
def E (u : Z) (k : Nat) : Nat :=
  if u.neg then (if k < u.mag.length then twosLimb u.mag k else B - 1) else u.mag.getD k 0

theorem testBit_E (u : Z) (hu : u.WF) (j : Nat) : testBit u.toInt j = (E u (j / 64)).testBit (j % 64) := by
  unfold E
  have h64 : j % 64 < 64 := Nat.mod_lt _ (by decide)
  cases hn : u.neg
  · rw [toInt_nonneg u hn]; simp only [Bool.false_eq_true, ↓reduceIte]
    exact testBit_val u.mag hu.limbs j
  · rw [toInt_neg u hn (hu.pos hn)]; simp only [↓reduceIte]
    change (!(val u.mag - 1).testBit j) = _
    by_cases hk : j / 64 < u.mag.length
    · rw [if_pos hk, testBit_pred u.mag hu.limbs (hu.pos hn) j hk]; simp
    · rw [if_neg hk, testBit_high u.mag hu.limbs j (by omega) _ (Nat.sub_le _ _), testBit_ones]; simp [h64]

theorem val_take_eq_zero_iff (mag : List Nat) (h1 : 1 ≤ val mag) (k : Nat) :
    val (mag.take k) = 0 ↔ k ≤ zeroBound mag := by
  obtain ⟨_, _, z3, z4⟩ := zeroBound_spec mag h1
  exact ⟨fun h => by by_contra hk; have := z4 k (by omega); omega, z3 k⟩

theorem any_take_iff (mag : List Nat) (h1 : 1 ≤ val mag) (k : Nat) :
    (mag.take k).any (· != 0) = true ↔ zeroBound mag < k := by
  rw [← Nat.not_le, ← val_take_eq_zero_iff mag h1 k, val_eq_zero_iff]; simp

theorem lnotL_lnotL (y : Nat) (hy : y < B) : lnotL (lnotL y) = y := by unfold lnotL; omega

/-- above the lowest non-zero limb the expansion is the one's complement of the magnitude limb
    (also beyond the operand: `~0`) -/
theorem E_above (u : Z) (hu : u.WF) (hn : u.neg = true) (k : Nat) (hk : zeroBound u.mag < k) :
    E u k = lnotL (u.mag.getD k 0) := by
  unfold E; rw [hn]; simp only [↓reduceIte]
  by_cases hkn : k < u.mag.length
  · rw [if_pos hkn]; unfold twosLimb; simp only
    rw [(any_take_iff u.mag (hu.pos hn) k).mpr hk, if_pos rfl]
    have hd := getD_lt hu.limbs k
    have := lnot_ones _ hd
    rw [← this, lnotL_lnotL _ (Nat.mod_lt _ B_pos), this]
  · rw [if_neg hkn, List.getD_eq_getElem?_getD, List.getElem?_eq_none (by omega)]; rfl

/-- at or below the lowest non-zero limb it is the two's complement `-limb` -/
theorem E_at (u : Z) (hu : u.WF) (hn : u.neg = true) (k : Nat) (hk : k ≤ zeroBound u.mag) :
    E u k = negL (u.mag.getD k 0) := by
  obtain ⟨z1, _, _, _⟩ := zeroBound_spec u.mag (hu.pos hn)
  unfold E; rw [hn]; simp only [↓reduceIte]
  rw [if_pos (by omega)]; unfold twosLimb; simp only
  have : ¬ ((u.mag.take k).any (· != 0) = true) := by
    rw [any_take_iff u.mag (hu.pos hn) k]; omega
  rw [if_neg this]

def FirstBit (x : Int) (b : Bool) (start r : Nat) : Prop :=
  start ≤ r ∧ testBit x r = b ∧ ∀ j, start ≤ j → j < r → testBit x j = !b

theorem limbBit_drop (mag : List Nat) (sl j : Nat) (h : sl ≤ j / 64) :
    limbBit (mag.getD sl 0 :: mag.drop (sl + 1)) sl j = (mag.getD (j / 64) 0).testBit (j % 64) := by
  unfold limbBit
  congr 1
  by_cases he : j / 64 = sl
  · rw [he, Nat.sub_self]; rfl
  · have : j / 64 - sl = (j / 64 - (sl + 1)) + 1 := by omega
    rw [this, List.getD_cons_succ, List.getD_eq_getElem?_getD, List.getElem?_drop,
      List.getD_eq_getElem?_getD]
    congr 2; omega

/-- for a negative operand, at or above its lowest non-zero limb, the expansion is the complement of the limb
    list `c :: mag.drop (sl+1)` where `c` is the adjusted limb the C works with -/
theorem inverted_view (u : Z) (hu : u.WF) (hn : u.neg = true) (sl start : Nat) (hsl : start / 64 = sl)
    (hzb : zeroBound u.mag ≤ sl) (c : Nat) (hc : c < B) (hE : E u sl = lnotL c) (j : Nat) (hj : start ≤ j) :
    testBit u.toInt j = !limbBit (c :: u.mag.drop (sl + 1)) sl j := by
  have h64 : j % 64 < 64 := Nat.mod_lt _ (by decide)
  rw [testBit_E u hu]
  by_cases hjs : j / 64 = sl
  · rw [limbBit_first _ _ _ _ hjs, hjs, hE, testBit_lnotL c hc]; simp [h64]
  · have hgt : sl < j / 64 := by omega
    rw [limbBit_rest _ _ _ _ hgt, E_above u hu hn _ (by omega), testBit_lnotL _ (getD_lt hu.limbs _)]
    rw [List.getD_eq_getElem?_getD (l := u.mag.drop (sl + 1)), List.getElem?_drop, List.getD_eq_getElem?_getD]
    have : sl + 1 + (j / 64 - (sl + 1)) = j / 64 := by omega
    rw [this]; simp [h64]

theorem Limbs_view (mag : List Nat) (hl : Limbs mag) (c sl : Nat) (hc : c < B) :
    Limbs (c :: mag.drop (sl + 1)) := Limbs_cons.mpr ⟨hc, Limbs_drop hl _⟩

theorem view_len (mag : List Nat) (sl : Nat) (h : sl < mag.length) :
    sl + 1 + (mag.drop (sl + 1)).length = mag.length := by rw [List.length_drop]; omega

theorem scan1_inverted (u : Z) (hu : u.WF) (hn : u.neg = true) (sl start : Nat) (hsl : start / 64 = sl)
    (hlt : sl < u.mag.length) (hzb : zeroBound u.mag ≤ sl) (c : Nat) (hc : c < B) (hE : E u sl = lnotL c) :
    FirstBit u.toInt true start (seekZero c (u.mag.drop (sl + 1)) sl start u.mag.length) := by
  obtain ⟨s1, s2, s3, _⟩ := seekZero_spec c (u.mag.drop (sl + 1)) sl start (Limbs_view u.mag hu.limbs c sl hc) hsl
  rw [view_len u.mag sl hlt] at s1 s2 s3
  have hv := inverted_view u hu hn sl start hsl hzb c hc hE
  refine ⟨s1, by rw [hv _ s1, s2]; rfl, fun j h1 h2 => by rw [hv _ h1, s3 j h1 h2]⟩

theorem scan0_inverted (u : Z) (hu : u.WF) (hn : u.neg = true) (sl start : Nat) (hsl : start / 64 = sl)
    (hzb : zeroBound u.mag ≤ sl) (c : Nat) (hc : c < B) (hE : E u sl = lnotL c) :
    FirstBit u.toInt false start ((seekOne c (u.mag.drop (sl + 1)) sl start).getD BITCNT_MAX) ∨
    ((seekOne c (u.mag.drop (sl + 1)) sl start).getD BITCNT_MAX = BITCNT_MAX ∧
      ∀ j, start ≤ j → testBit u.toInt j = true) := by
  have hv := inverted_view u hu hn sl start hsl hzb c hc hE
  rcases seekOne_first c (u.mag.drop (sl + 1)) sl start (Limbs_view u.mag hu.limbs c sl hc) hsl
      (testBit u.toInt) false (fun j hj => by rw [hv j hj]; cases limbBit _ sl j <;> rfl) with
    ⟨r, hso, s1, s2, s3, _⟩ | ⟨hso, hs⟩
  · rw [hso]; exact Or.inl ⟨s1, s2, s3⟩
  · rw [hso]; exact Or.inr ⟨rfl, hs⟩
theorem E_nonneg (u : Z) (hn : u.neg = false) (k : Nat) : E u k = u.mag.getD k 0 := by
  unfold E; rw [hn]; simp

theorem negL_eq_lnot (d : Nat) (hd : d < B) (h1 : d ≠ 0) : negL d = lnotL ((d + B - 1) % B) := by
  rw [pred_mod_B d hd h1]
  have := lnot_neg_pos d hd (by omega)
  rw [← this, lnotL_lnotL _ (by unfold negL; exact Nat.mod_lt _ B_pos)]

theorem negL_pos (d : Nat) (hd : d < B) (h1 : d ≠ 0) : negL d ≠ 0 ∧ negL d < B := by
  unfold negL; rw [B_eq] at *; omega

theorem testBit_beyond (u : Z) (hu : u.WF) (j : Nat) (h : u.mag.length ≤ j / 64) : testBit u.toInt j = u.neg := by
  rw [testBit_E u hu]
  cases hn : u.neg
  · rw [E_nonneg u hn, List.getD_eq_getElem?_getD, List.getElem?_eq_none h]; exact Nat.zero_testBit _
  · unfold E; rw [hn, if_pos rfl, if_neg (by omega), testBit_ones]
    exact decide_eq_true (Nat.mod_lt _ (by decide))

theorem mpz_scan1_cases (u : Z) (hu : u.WF) (start : Nat) :
    FirstBit u.toInt true start (mpz_scan1 u start) ∨
    (mpz_scan1 u start = BITCNT_MAX ∧ ∀ j, start ≤ j → testBit u.toInt j = false) := by
  unfold mpz_scan1
  simp only
  by_cases hsl : start / 64 ≥ u.mag.length
  · rw [if_pos hsl]
    cases hn : u.neg
    · right
      simp only [Bool.not_false, ↓reduceIte, true_and]
      intro j hj
      rw [testBit_beyond u hu j (by omega), hn]
    · left
      simp only [Bool.not_true, Bool.false_eq_true, ↓reduceIte]
      exact ⟨le_refl _, by rw [testBit_beyond u hu start hsl, hn], fun j h1 h2 => by omega⟩
  · rw [if_neg hsl]
    have hlt : start / 64 < u.mag.length := by omega
    cases hn : u.neg
    · simp only [Bool.not_false, ↓reduceIte]
      rcases seekOne_first (u.mag.getD (start / 64) 0) (u.mag.drop (start / 64 + 1)) (start / 64) start
          (Limbs_view u.mag hu.limbs _ _ (getD_lt hu.limbs _)) rfl (testBit u.toInt) true
          (fun j hj => by rw [beq_true, testBit_E u hu, E_nonneg u hn, limbBit_drop u.mag _ j (by omega)]) with
        ⟨r, hso, s1, s2, s3, _⟩ | ⟨hso, hs⟩
      · rw [hso]; exact Or.inl ⟨s1, s2, s3⟩
      · rw [hso]; exact Or.inr ⟨rfl, hs⟩
    · left
      simp only [Bool.not_true, Bool.false_eq_true, ↓reduceIte]
      have h1 := hu.pos hn
      obtain ⟨z1, z2, z3, z4⟩ := zeroBound_spec u.mag h1
      by_cases hany : (u.mag.take (start / 64)).any (· != 0) = true
      · rw [if_pos hany]
        have hzb := (any_take_iff u.mag h1 _).mp hany
        exact scan1_inverted u hu hn _ start rfl hlt (by omega) _ (getD_lt hu.limbs _)
          (E_above u hu hn _ hzb)
      · rw [if_neg hany]
        have hzb : start / 64 ≤ zeroBound u.mag := by
          by_contra h; exact hany ((any_take_iff u.mag h1 _).mpr (by omega))
        by_cases hl0 : u.mag.getD (start / 64) 0 = 0
        · rw [if_pos hl0]
          have hzb' : start / 64 < zeroBound u.mag := by
            rcases Nat.lt_or_ge (start / 64) (zeroBound u.mag) with h | h
            · exact h
            · have : start / 64 = zeroBound u.mag := by omega
              rw [this] at hl0; exact absurd hl0 z2
          have hget : ∀ k, (u.mag.drop (start / 64 + 1)).getD k 0 = u.mag.getD (start / 64 + 1 + k) 0 := by
            intro k
            rw [List.getD_eq_getElem?_getD, List.getElem?_drop, List.getD_eq_getElem?_getD]
          have e : start / 64 + 1 + (zeroBound u.mag - (start / 64 + 1)) = zeroBound u.mag := by omega
          -- the zero limbs end at the lowest non-zero limb `l`, whose two's complement `-l` has the first one bit
          have hsk := skipZero_eq_some (u.mag.drop (start / 64 + 1)) (start / 64 + 1)
            (zeroBound u.mag - (start / 64 + 1))
            (fun j hj => by rw [hget]; exact limb_below_zb u.mag h1 _ (by omega)) (by rw [hget, e]; exact z2)
          rw [hget, e] at hsk
          rw [hsk]
          simp only
          have hEi := E_at u hu hn _ (le_refl (zeroBound u.mag))
          obtain ⟨n1, n2⟩ := negL_pos _ (getD_lt hu.limbs (zeroBound u.mag)) z2
          generalize u.mag.getD (zeroBound u.mag) 0 = l at *
          obtain ⟨c1, c2, c3⟩ := ctz_spec (negL l) n1 n2
          obtain ⟨hr64, hr64'⟩ := bitpos (zeroBound u.mag) (ctz (negL l)) c1
          refine ⟨by omega, by rw [testBit_E u hu, hr64, hr64', hEi]; exact c2, fun j hj1 hj2 => ?_⟩
          rw [testBit_E u hu]
          by_cases hji : j / 64 = zeroBound u.mag
          · rw [hji, hEi]; exact c3 _ (by omega)
          · rw [E_at u hu hn _ (by omega), limb_below_zb u.mag h1 _ (by omega)]; simp [negL]
        · rw [if_neg hl0]
          have hzbe : start / 64 = zeroBound u.mag := by
            by_contra hne
            exact hl0 (limb_below_zb u.mag h1 _ (by omega))
          have hd := getD_lt hu.limbs (start / 64)
          exact scan1_inverted u hu hn _ start rfl hlt (by omega) _ (Nat.mod_lt _ B_pos)
            (by rw [E_at u hu hn _ hzb]; exact negL_eq_lnot _ hd hl0)

theorem mpz_scan0_cases (u : Z) (hu : u.WF) (start : Nat) :
    FirstBit u.toInt false start (mpz_scan0 u start) ∨
    (mpz_scan0 u start = BITCNT_MAX ∧ ∀ j, start ≤ j → testBit u.toInt j = true) := by
  unfold mpz_scan0
  simp only
  have h64 : start % 64 < 64 := Nat.mod_lt _ (by decide)
  by_cases hsl : start / 64 ≥ u.mag.length
  · rw [if_pos hsl]
    cases hn : u.neg
    · left
      simp only [Bool.not_false, ↓reduceIte]
      exact ⟨le_refl _, by rw [testBit_beyond u hu start hsl, hn], fun j h1 h2 => by omega⟩
    · right
      simp only [Bool.not_true, Bool.false_eq_true, ↓reduceIte, true_and]
      intro j hj
      rw [testBit_beyond u hu j (by omega), hn]
  · rw [if_neg hsl]
    have hlt : start / 64 < u.mag.length := by omega
    cases hn : u.neg
    · left
      simp only [Bool.not_false, ↓reduceIte]
      obtain ⟨s1, s2, s3, _⟩ := seekZero_spec (u.mag.getD (start / 64) 0) (u.mag.drop (start / 64 + 1))
        (start / 64) start (Limbs_view u.mag hu.limbs _ _ (getD_lt hu.limbs _)) rfl
      rw [view_len u.mag _ hlt] at s1 s2 s3
      have hv : ∀ j, start ≤ j → testBit u.toInt j =
          limbBit (u.mag.getD (start / 64) 0 :: u.mag.drop (start / 64 + 1)) (start / 64) j := by
        intro j hj
        rw [testBit_E u hu, E_nonneg u hn, limbBit_drop u.mag _ j (by omega)]
      exact ⟨s1, by rw [hv _ s1, s2], fun j h1 h2 => by rw [hv _ h1, s3 j h1 h2]; rfl⟩
    · simp only [Bool.not_true, Bool.false_eq_true, ↓reduceIte]
      have h1 := hu.pos hn
      obtain ⟨z1, z2, z3, z4⟩ := zeroBound_spec u.mag h1
      have hd := getD_lt hu.limbs (start / 64)
      by_cases hany : (u.mag.take (start / 64)).any (· != 0) = true
      · rw [if_pos hany]
        have hzb := (any_take_iff u.mag h1 _).mp hany
        exact scan0_inverted u hu hn _ start rfl (by omega) _ hd (E_above u hu hn _ hzb)
      · rw [if_neg hany]
        have hzb : start / 64 ≤ zeroBound u.mag := by
          by_contra h; exact hany ((any_take_iff u.mag h1 _).mpr (by omega))
        have hcB : (u.mag.getD (start / 64) 0 + B - 1) % B < B := Nat.mod_lt _ B_pos
        by_cases hzbe : start / 64 = zeroBound u.mag
        · have hl0 : u.mag.getD (start / 64) 0 ≠ 0 := by rw [hzbe]; exact z2
          exact scan0_inverted u hu hn _ start rfl (by omega) _ hcB
            (by rw [E_at u hu hn _ hzb]; exact negL_eq_lnot _ hd hl0)
        · -- below the lowest non-zero limb: the limb is 0, `limb - 1` is all ones, the answer is `start`
          have hl0 := limb_below_zb u.mag h1 (start / 64) (by omega)
          have hc1 : (u.mag.getD (start / 64) 0 + B - 1) % B = B - 1 := by
            rw [hl0, Nat.zero_add, Nat.mod_eq_of_lt (by have := B_pos; omega)]
          have hbit : limbBit ((u.mag.getD (start / 64) 0 + B - 1) % B :: u.mag.drop (start / 64 + 1))
              (start / 64) start = true := by
            rw [limbBit_first _ _ _ _ rfl, hc1, testBit_ones]; simp [h64]
          left
          rcases seekOne_first ((u.mag.getD (start / 64) 0 + B - 1) % B) (u.mag.drop (start / 64 + 1))
              (start / 64) start (Limbs_view u.mag hu.limbs _ _ hcB) rfl _ true (fun _ _ => (beq_true _).symm) with
            ⟨r, hso, s1, _, s3, _⟩ | ⟨hso, hs⟩
          · have hr : r = start := by
              by_contra hne
              cases hbit.symm.trans (s3 start (le_refl _) (by omega))
            rw [hso, Option.getD_some, hr]
            refine ⟨le_refl _, ?_, fun j h1 h2 => by omega⟩
            rw [testBit_E u hu, E_at u hu hn _ hzb, hl0]; simp [negL]
          · cases hbit.symm.trans (hs start (le_refl _))

theorem first_or_max {x : Int} {b : Bool} {start r : Nat}
    (h : FirstBit x b start r ∨ (r = BITCNT_MAX ∧ ∀ j, start ≤ j → testBit x j = !b)) :
    ((∃ j, start ≤ j ∧ Int.testBit x j = b) →
      start ≤ r ∧ Int.testBit x r = b ∧ ∀ j, start ≤ j → j < r → Int.testBit x j = !b) ∧
    ((∀ j, start ≤ j → Int.testBit x j = !b) → r = BITCNT_MAX) := by
  simp only [← testBit_eq]
  constructor
  · rintro ⟨j, hj, hb⟩
    rcases h with h | ⟨_, h⟩
    · exact h
    · have := h j hj; rw [hb] at this; cases b <;> cases this
  · intro hall
    rcases h with ⟨h1, h2, _⟩ | ⟨h, _⟩
    · have := hall r h1; rw [h2] at this; cases b <;> cases this
    · exact h

theorem mpn_scan1_correct (u : List Nat) (hu : Limbs u) (start : Nat)
    (hpre : ∃ j, start ≤ j ∧ (val u).testBit j = true) :
    ∃ r, mpn_scan1 u start = some r ∧ start ≤ r ∧ (val u).testBit r = true ∧
      ∀ j, start ≤ j → j < r → (val u).testBit j = false := by
  obtain ⟨j0, hj0, hb0⟩ := hpre
  have hw : start / 64 < u.length := by
    by_contra h
    rw [testBit_high u hu j0 (by omega) _ (le_refl _)] at hb0; cases hb0
  unfold mpn_scan1
  simp only
  rw [drop_eq_getD_cons u _ hw]
  simp only
  have heq := skipZero_cons_eq_seekOne (u.getD (start / 64) 0) (u.drop (start / 64 + 1)) (start / 64) start
  rw [show (fun (x : Nat × Nat) => match x with | (i, l) => i * 64 + ctz l) =
      (fun (p : Nat × Nat) => p.1 * 64 + ctz p.2) from rfl, heq]
  rcases seekOne_first (u.getD (start / 64) 0) (u.drop (start / 64 + 1)) (start / 64) start
      (Limbs_view u hu _ _ (getD_lt hu _)) rfl (val u).testBit true
      (fun j hj => by rw [beq_true, testBit_val u hu, limbBit_drop u _ j (by omega)]) with
    ⟨r, hso, s1, s2, s3, _⟩ | ⟨hso, hs⟩
  · exact ⟨r, hso, s1, s2, s3⟩
  · cases hb0.symm.trans (hs j0 hj0)

theorem mpn_scan0_correct (u : List Nat) (hu : Limbs u) (start : Nat)
    (hpre : ∃ j, start ≤ j ∧ j / 64 < u.length ∧ (val u).testBit j = false) :
    ∃ r, mpn_scan0 u start = some r ∧ start ≤ r ∧ r / 64 < u.length ∧ (val u).testBit r = false ∧
      ∀ j, start ≤ j → j < r → (val u).testBit j = true := by
  obtain ⟨j0, hj0, hk0, hb0⟩ := hpre
  have hw : start / 64 < u.length := by omega
  unfold mpn_scan0
  simp only
  rw [drop_eq_getD_cons u _ hw]
  simp only
  have hlen : start / 64 + 1 + (com_n (u.drop (start / 64 + 1))).length = u.length := by
    unfold com_n; rw [List.length_map, List.length_drop]; omega
  have hview := Limbs_view u hu _ (start / 64) (getD_lt hu (start / 64))
  have hv : ∀ j, start ≤ j → j / 64 < u.length → (val u).testBit j =
      !limbBit (lnotL (u.getD (start / 64) 0) :: com_n (u.drop (start / 64 + 1))) (start / 64) j := by
    intro j hj hjl
    rw [testBit_val u hu, ← limbBit_drop u (start / 64) j (by omega),
      show lnotL (u.getD (start / 64) 0) :: com_n (u.drop (start / 64 + 1)) =
        com_n (u.getD (start / 64) 0 :: u.drop (start / 64 + 1)) from rfl,
      limbBit_com_n _ hview _ j (by rw [List.length_cons, List.length_drop]; omega), Bool.not_not]
  have heq := skipZero_cons_eq_seekOne (lnotL (u.getD (start / 64) 0)) (com_n (u.drop (start / 64 + 1)))
    (start / 64) start
  rw [show (fun (x : Nat × Nat) => match x with | (i, l) => i * 64 + ctz l) =
      (fun (p : Nat × Nat) => p.1 * 64 + ctz p.2) from rfl, heq]
  rcases seekOne_first (lnotL (u.getD (start / 64) 0)) (com_n (u.drop (start / 64 + 1))) (start / 64) start
      (Limbs_com_n (_ :: _)) rfl _ true (fun _ _ => (beq_true _).symm) with
    ⟨r, hso, s1, s2, s3, s4⟩ | ⟨hso, hs⟩
  · rw [hlen] at s4
    exact ⟨r, hso, s1, s4, by rw [hv _ s1 s4, s2]; rfl,
      fun j h1 h2 => by rw [hv _ h1 (by omega), s3 j h1 h2]; rfl⟩
  · rw [hv j0 hj0 hk0, hs j0 hj0] at hb0; cases hb0

/-! ### mpz_hamdist -/

theorem xor_split (k x y p q : Nat) (hx : x < 2 ^ k) (hy : y < 2 ^ k) :
    (x + 2 ^ k * p) ^^^ (y + 2 ^ k * q) = (x ^^^ y) + 2 ^ k * (p ^^^ q) :=
  bitwise_split bne rfl k x y p q hx hy

theorem popcount_xor_split (k x y p q : Nat) (hx : x < 2 ^ k) (hy : y < 2 ^ k) :
    popcount ((x + 2 ^ k * p) ^^^ (y + 2 ^ k * q)) = popcount (x ^^^ y) + popcount (p ^^^ q) := by
  rw [xor_split k x y p q hx hy, popcount_split k _ _ (Nat.xor_lt_two_pow hx hy)]

theorem popcount_xor_split_B (x y p q : Nat) (hx : x < B) (hy : y < B) :
    popcount ((x + B * p) ^^^ (y + B * q)) = popcount (x ^^^ y) + popcount (p ^^^ q) := by
  unfold B at *; exact popcount_xor_split 64 x y p q hx hy

theorem popcount_compl (k : Nat) : ∀ x, x < 2 ^ k → popcount (x ^^^ (2 ^ k - 1)) + popcount x = k := by
  induction k with
  | zero => intro x hx; have : x = 0 := by simpa using hx
            subst this; simp [popcount_zero]
  | succ k ih =>
    intro x hx
    have hpos := Nat.two_pow_pos k
    rw [pow_succ] at hx ⊢
    have e1 : (2 ^ k * 2 - 1) / 2 = 2 ^ k - 1 := by omega
    rw [popcount_step (x ^^^ _), popcount_step x, Nat.xor_div_two, Nat.xor_mod_two_eq, e1]
    have := ih (x / 2) (by omega)
    omega

theorem lnotL_eq_xor (y : Nat) (hy : y < B) : lnotL y = y ^^^ (B - 1) := by
  apply Nat.eq_of_testBit_eq; intro i
  rw [testBit_lnotL y hy, Nat.testBit_xor, testBit_ones]
  by_cases hi : i < 64
  · simp [hi]
  · simp [hi, testBit_limb_high hy (by omega : 64 ≤ i)]

theorem lnotL_xor_lnotL (p q : Nat) (hp : p < B) (hq : q < B) : lnotL p ^^^ lnotL q = p ^^^ q := by
  rw [lnotL_eq_xor p hp, lnotL_eq_xor q hq]
  rw [Nat.xor_assoc, Nat.xor_comm q, ← Nat.xor_assoc (B - 1), Nat.xor_self, Nat.zero_xor]

theorem negL_eq_lnot' (d : Nat) (hd : d < B) (h1 : d ≠ 0) : negL d = lnotL (d - 1) := by
  rw [negL_eq_lnot d hd h1, pred_mod_B d hd h1]

/-- hamdist.c:137-162 -/
theorem hamTail_eq (up vp : List Nat) (hu : Limbs up) (hv : Limbs vp) :
    hamTail up vp = popcount (val up ^^^ val vp) := by
  unfold hamTail
  simp only
  have hx := zipWith_val limbOp_xor up vp hu hv
  change val up ^^^ val vp = val (xor_n up vp) + _ * (_ ^^^ _) ∧ Limbs (xor_n up vp) at hx
  obtain ⟨e, l⟩ := hx
  have hlen : (xor_n up vp).length = min up.length vp.length := by simp [xor_n]
  have hlt := val_lt _ l
  rw [hlen, B_pow] at hlt
  rw [e, B_pow, popcount_split _ _ _ hlt, ← mpn_popcount_eq _ l]
  have hham : mpn_hamdist (up.take (min up.length vp.length)) (vp.take (min up.length vp.length)) =
      mpn_popcount (xor_n up vp) := by
    unfold mpn_hamdist mpn_popcount xor_n
    rw [← zipWith_take_min]
  have hc : (if min up.length vp.length ≠ 0 then
      mpn_hamdist (up.take (min up.length vp.length)) (vp.take (min up.length vp.length)) else 0) =
      mpn_popcount (xor_n up vp) := by
    by_cases h0 : min up.length vp.length ≠ 0
    · rw [if_pos h0, hham]
    · rw [if_neg h0]
      have : xor_n up vp = [] := List.eq_nil_of_length_eq_zero (by rw [hlen]; omega)
      rw [this]; rfl
  rw [hc]
  by_cases hl : up.length ≤ vp.length
  · have hmin : min up.length vp.length = up.length := by omega
    have hdu : up.drop vp.length = [] := List.drop_of_length_le hl
    rw [hmin, List.drop_of_length_le (le_refl up.length), hdu]
    simp only [List.length_nil, ne_eq, not_true_eq_false, if_false, val_nil, Nat.zero_xor]
    rw [add_popcount_guard, mpn_popcount_eq _ (Limbs_drop hv _)]
  · have hmin : min up.length vp.length = vp.length := by omega
    have hdv : vp.drop up.length = [] := List.drop_of_length_le (by omega)
    rw [hmin, hdv]
    simp only [val_nil, Nat.xor_zero]
    have hu0 : (up.drop vp.length).length ≠ 0 := by rw [List.length_drop]; omega
    rw [if_pos hu0, mpn_popcount_eq _ (Limbs_drop hu _)]

theorem val_take_zero : ∀ (l : List Nat) (k : Nat), (∀ j, j < k → l.getD j 0 = 0) → val (l.take k) = 0
  | [], k, _ => by simp
  | x :: xs, 0, _ => by simp
  | x :: xs, k + 1, h => by
    have h0 : x = 0 := by simpa using h 0 (by omega)
    have ih := val_take_zero xs k (fun j hj => by simpa using h (j + 1) (by omega))
    simp [h0, ih]

theorem val_zero_of_all_zero (l : List Nat) (h : ∀ j, l.getD j 0 = 0) : val l = 0 := by
  have := val_take_zero l l.length (fun j _ => h j)
  rwa [List.take_length] at this

/-- split of `up` at the `k` limbs that face the low zero limbs of `v` (hamdist.c:114-123) -/
theorem split_min (up : List Nat) (hu : Limbs up) (k : Nat) :
    val up = val (up.take (min k up.length)) + B ^ k * val (up.drop (min k up.length)) ∧
    val (up.take (min k up.length)) < B ^ k := by
  by_cases hk : k ≤ up.length
  · rw [Nat.min_eq_left hk]
    have hlt := val_lt _ (Limbs_take hu k)
    rw [List.length_take, Nat.min_eq_left hk] at hlt
    exact ⟨val_take_drop up k hk, hlt⟩
  · rw [Nat.min_eq_right (by omega), List.take_length, List.drop_of_length_le (le_refl _)]
    have hlt := val_lt _ hu
    have : B ^ up.length ≤ B ^ k := Nat.pow_le_pow_right B_pos (by omega)
    exact ⟨by simp, lt_of_lt_of_le hlt this⟩

theorem popc_xor_limbs (p q : Nat) (hp : p < B) (hq : q < B) : popc (p ^^^ q) = popcount (p ^^^ q) :=
  popc_eq _ (by unfold B at *; exact Nat.xor_lt_two_pow hp hq)

theorem pred_low_zero (A : Nat) (h : 1 ≤ A) : 0 + B * A - 1 = (B - 1) + B * (A - 1) := by
  rw [Nat.zero_add]; exact mul_pred B A B_pos h

theorem hamBody_eq (ul vl : Nat) (up vp : List Nat) (hul : ul < B) (hul0 : ul ≠ 0) (hvl : vl < B)
    (hu : Limbs up) (hv : Limbs vp) (h1 : 1 ≤ vl + B * val vp) :
    hamBody ul vl up vp = popcount ((ul + B * val up - 1) ^^^ (vl + B * val vp - 1)) := by
  have hul1 : ul - 1 < B := by omega
  have eU : ul + B * val up - 1 = (ul - 1) + B * val up := by omega
  unfold hamBody
  simp only
  by_cases hv0 : vl = 0
  · subst hv0
    have hneg0 : negL 0 = 0 := by simp [negL]
    rw [hneg0, if_pos rfl, Nat.xor_zero]
    have hBv : 1 ≤ val vp := by
      rcases Nat.eq_zero_or_pos (val vp) with h | h
      · rw [h] at h1; simp at h1
      · exact h
    rcases skipZero_spec vp 0 with ⟨_, hsz⟩ | ⟨i, vl1, hs, e2, e3, e4, e5⟩
    · rw [val_zero_of_all_zero vp hsz] at hBv; omega
    · rw [hs, Nat.zero_add]
      simp only
      have hvl1 : vl1 < B := by rw [← e3]; exact getD_lt hv i
      have hvp : val vp = B ^ i * (vl1 + B * val (vp.drop (i + 1))) := by
        rw [val_split_at vp i e2, val_take_zero vp i e5, e3, Nat.zero_add]
      obtain ⟨hA, hAlo⟩ := split_min up hu i
      have hp := Bpow_pos i
      -- the count after the subtraction
      have hsub : (if min i up.length ≠ 0 then popc (negL ul) + i * 64 - mpn_popcount (up.take (min i up.length))
          else popc (negL ul) + i * 64) = popc (negL ul) + i * 64 - popcount (val (up.take (min i up.length))) := by
        by_cases hm : min i up.length ≠ 0
        · rw [if_pos hm, mpn_popcount_eq _ (Limbs_take hu _)]
        · rw [if_neg hm]
          have : min i up.length = 0 := by omega
          rw [this]; simp [popcount_zero]
      rw [hsub]
      rw [eU, pred_low_zero _ hBv, popcount_xor_split_B _ _ _ _ hul1 (by have := B_pos; omega)]
      have ec0 : popc (negL ul) = popcount ((ul - 1) ^^^ (B - 1)) := by
        rw [negL_eq_lnot' ul hul hul0, lnotL_eq_xor _ hul1]
        exact popc_xor_limbs _ _ hul1 (by have := B_pos; omega)
      rw [ec0]
      -- the part above limb 0
      have eBv : val vp - 1 = (B ^ i - 1) + B ^ i * ((vl1 - 1) + B * val (vp.drop (i + 1))) := by
        rw [hvp]; exact pred_at_zb _ _ _ hp (Nat.pos_of_ne_zero e4)
      have hsplit : popcount (val up ^^^ (val vp - 1)) =
          popcount (val (up.take (min i up.length)) ^^^ (B ^ i - 1)) +
          popcount (val (up.drop (min i up.length)) ^^^ ((vl1 - 1) + B * val (vp.drop (i + 1)))) := by
        conv_lhs => rw [hA, eBv]
        rw [B_pow] at hAlo hp ⊢
        exact popcount_xor_split _ _ _ _ _ hAlo (by omega)
      have hcompl := popcount_compl (64 * i) (val (up.take (min i up.length))) (by rw [← B_pow]; exact hAlo)
      rw [← B_pow] at hcompl
      rw [hsplit]
      -- the limb facing the first non-zero limb of v, and the tails
      have hdl := Limbs_drop hu (min i up.length)
      clear hsplit hsub ec0 eBv hA hAlo hvp hs e5 eU
      generalize popcount ((ul - 1) ^^^ (B - 1)) = c0
      generalize popcount (val (up.take (min i up.length))) = pa at hcompl ⊢
      generalize popcount (val (up.take (min i up.length)) ^^^ (B ^ i - 1)) = pc at hcompl ⊢
      generalize up.drop (min i up.length) = dl at hdl ⊢
      cases dl with
      | nil =>
        simp only [val_nil, Nat.zero_xor]
        rw [hamTail_eq [] _ Limbs_nil (Limbs_drop hv _), val_nil, Nat.zero_xor, popc_eq _ (by omega)]
        have : popcount (vl1 - 1 + B * val (vp.drop (i + 1))) =
            popcount (vl1 - 1) + popcount (val (vp.drop (i + 1))) := by
          unfold B at *; exact popcount_split 64 _ _ (by omega)
        rw [this]
        clear * - hcompl
        omega
      | cons x xs =>
        have ⟨hx, hxs⟩ := Limbs_cons.mp hdl
        simp only [val_cons]
        rw [hamTail_eq xs _ hxs (Limbs_drop hv _), popcount_xor_split_B _ _ _ _ hx (by omega),
          popc_xor_limbs _ _ (by omega) hx, Nat.xor_comm x]
        clear * - hcompl
        omega
  · have hnv : negL vl ≠ 0 := (negL_pos vl hvl hv0).1
    rw [if_neg hnv]
    have hvl1 : vl - 1 < B := by omega
    have eV : vl + B * val vp - 1 = (vl - 1) + B * val vp := by omega
    rw [eU, eV, popcount_xor_split_B _ _ _ _ hul1 hvl1, hamTail_eq up vp hu hv,
      negL_eq_lnot' ul hul hul0, negL_eq_lnot' vl hvl hv0, lnotL_xor_lnotL _ _ hul1 hvl1,
      popc_xor_limbs _ _ hul1 hvl1]
theorem hamLong_eq (up vp : List Nat) (hu : Limbs up) (hv : Limbs vp) (hl : vp.length ≤ up.length) :
    hamLong up vp = popcount (val up ^^^ val vp) := by
  obtain ⟨e, l, _⟩ := zip_long_left limbOp_xor rfl up vp hu hv hl
  change val (xor_n up vp ++ _) = _ ^^^ _ at e
  have l' : Limbs (xor_n up vp ++ up.drop vp.length) := l
  rw [← e, ← mpn_popcount_eq _ l', mpn_popcount_append]
  unfold hamLong
  simp only
  rw [add_popcount_guard]
  congr 1
  cases vp with
  | nil => simp [xor_n, mpn_popcount]
  | cons y ys => rw [if_pos (by simp)]; rfl

theorem pos_of_mul_pos {A : Nat} (h : 1 ≤ 0 + B * A) : 1 ≤ A := by
  rcases Nat.eq_zero_or_pos A with h0 | h0
  · subst h0; simp at h
  · exact h0

theorem hamSkip_spec : ∀ (u v : List Nat), Limbs u → Limbs v → 1 ≤ val u → 1 ≤ val v →
    ∃ ul vl up vp, hamSkip u v = some (ul, vl, up, vp) ∧ ul ≠ 0 ∧ ul < B ∧ vl < B ∧ Limbs up ∧ Limbs vp ∧
      1 ≤ vl + B * val vp ∧
      popcount ((val u - 1) ^^^ (val v - 1)) = popcount ((ul + B * val up - 1) ^^^ (vl + B * val vp - 1))
  | [], _, _, _, h, _ => by simp at h
  | _ :: _, [], _, _, _, h => by simp at h
  | x :: xs, y :: ys, hu, hv, h1, h2 => by
    have ⟨hx, hxs⟩ := Limbs_cons.mp hu
    have ⟨hy, hys⟩ := Limbs_cons.mp hv
    unfold hamSkip
    by_cases hx0 : x ≠ 0
    · rw [if_pos hx0]
      exact ⟨x, y, xs, ys, rfl, hx0, hx, hy, hxs, hys, h2, rfl⟩
    · rw [if_neg hx0]
      have hx0' : x = 0 := by simpa using hx0
      by_cases hy0 : y ≠ 0
      · rw [if_pos hy0]
        refine ⟨y, 0, ys, xs, rfl, hy0, hy, B_pos, hys, hxs, by rw [← hx0']; exact h1, ?_⟩
        rw [Nat.xor_comm]; simp only [val_cons, hx0']
      · rw [if_neg hy0]
        have hy0' : y = 0 := by simpa using hy0
        subst hx0' hy0'
        simp only [val_cons] at h1 h2 ⊢
        have hA := pos_of_mul_pos h1
        have hC := pos_of_mul_pos h2
        obtain ⟨ul, vl, up, vp, e, r1, r2, r3, r4, r5, r6, r7⟩ := hamSkip_spec xs ys hxs hys hA hC
        refine ⟨ul, vl, up, vp, e, r1, r2, r3, r4, r5, r6, ?_⟩
        rw [← r7]
        have hB := B_pos
        rw [pred_low_zero _ hA, pred_low_zero _ hC, popcount_xor_split_B _ _ _ _ (by omega) (by omega),
          Nat.xor_self, popcount_zero, Nat.zero_add]

theorem decide_ofNat_neg (n : Nat) : decide (Int.ofNat n < 0) = false := decide_eq_false (by simp)
theorem decide_negSucc_neg (n : Nat) : decide (Int.negSucc n < 0) = true := decide_eq_true (Int.negSucc_lt_zero n)

theorem mpz_hamdist_eq (u v : Z) (hu : u.WF) (hv : v.WF) :
    mpz_hamdist u v = specHamdist u.toInt v.toInt := by
  unfold mpz_hamdist specHamdist
  cases hnu : u.neg <;> cases hnv : v.neg <;>
    simp only [Bool.not_false, Bool.not_true, Bool.false_eq_true, ↓reduceIte]
  · rw [toInt_nonneg u hnu, toInt_nonneg v hnv, decide_ofNat_neg, decide_ofNat_neg,
      if_neg (show ¬ (false ≠ false) from fun h => h rfl)]
    change _ = popcount (val u.mag ^^^ val v.mag)
    by_cases hl : u.mag.length < v.mag.length
    · rw [if_pos hl, hamLong_eq v.mag u.mag hv.limbs hu.limbs (by omega), Nat.xor_comm]
    · rw [if_neg hl, hamLong_eq u.mag v.mag hu.limbs hv.limbs (by omega)]
  · rw [toInt_nonneg u hnu, toInt_neg v hnv (hv.pos hnv), decide_ofNat_neg, decide_negSucc_neg, if_pos (by decide)]
  · rw [toInt_neg u hnu (hu.pos hnu), toInt_nonneg v hnv, decide_ofNat_neg, decide_negSucc_neg, if_pos (by decide)]
  · rw [toInt_neg u hnu (hu.pos hnu), toInt_neg v hnv (hv.pos hnv), decide_negSucc_neg, decide_negSucc_neg,
      if_neg (show ¬ (true ≠ true) from fun h => h rfl)]
    change _ = popcount ((val u.mag - 1) ^^^ (val v.mag - 1))
    obtain ⟨ul, vl, up, vp, e, r1, r2, r3, r4, r5, r6, r7⟩ :=
      hamSkip_spec u.mag v.mag hu.limbs hv.limbs (hu.pos hnu) (hv.pos hnv)
    unfold hamNN
    rw [e]; simp only
    rw [hamBody_eq ul vl up vp r2 r1 r3 r4 r5 r6, r7]

/-! ### every integer has a well-formed representation -/

theorem mag_iff {l : List Nat} {m : Nat} : Mag l m ↔ l = natLimbs m :=
  ⟨fun h => h.1 ▸ h.2.2.eq_natLimbs h.2.1,
    fun h => h ▸ ⟨val_natLimbs_eq m, Limbs_natLimbs m, normalized_natLimbs m⟩⟩

theorem natLimbs_spec (v : Nat) : Mag (natLimbs v) v := mag_iff.mpr rfl

/-- every integer is represented by a well-formed `Z` (what the driver feeds the models) -/
theorem ofInt_spec (x : Int) : (Z.ofInt x).toInt = x ∧ (Z.ofInt x).WF := by
  unfold Z.ofInt
  cases x with
  | ofNat n => exact (natLimbs_spec n).nonneg
  | negSucc n => rw [decide_negSucc_neg]; exact ((natLimbs_spec _).cast (Int.natAbs_negSucc n)).neg

end Mpir.Bits
