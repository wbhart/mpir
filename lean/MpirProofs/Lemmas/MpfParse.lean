/- Lemmas for the grammar of mpf_set_str's input (C13, part c13_parse): the left-to-right recogniser
   `MpfParse.recog` and the scanner model `MpfStr.parse` are the same function. -/
import Mpir.Model.MpfParse
import Mathlib.Tactic.Ring
import Mathlib.Tactic.Linarith
namespace Mpir.MpfParse
open Mpir Mpir.MpfStr

theorem dv_lo (b : Nat) (h : ¬ 36 < b) (c : Nat) : dv b c = Radix.digitValue 0 c := by simp [dv, h]
theorem dv_hi (b : Nat) (h : 36 < b) (c : Nat) : dv b c = Radix.digitValue 224 c := by simp [dv, h]

/-- NUL, white space, `+`, `-`, `.` and `@` have no digit value under either alphabet; `e` and `E` are the digit 14 up
    to base 36 -/
theorem tab_at : (∀ c ∈ [0, 9, 10, 11, 12, 13, 32, 43, 45, 46, 64],
      Radix.digitValue 0 c = 255 ∧ Radix.digitValue 224 c = 255) ∧
    Radix.digitValue 0 101 = 14 ∧ Radix.digitValue 0 69 = 14 := by decide +kernel

theorem not_dig (b r c : Nat) (hr : r ≤ 62) (hc : c ∈ [0, 9, 10, 11, 12, 13, 32, 43, 45, 46, 64]) : ¬ dv b c < r := by
  obtain ⟨h1, h2⟩ := tab_at.1 c hc
  by_cases h : 36 < b
  · rw [dv_hi b h, h2]; omega
  · rw [dv_lo b h, h1]; omega

theorem dv_point (b : Nat) (hb : b ≤ 62) : ¬ dv b 46 < b := not_dig b b 46 hb (by simp)

theorem marker_facts (b k : Nat) (hb : b ≤ 62) (hk : isMarker b k = true) :
    Radix.isSpace k = false ∧ k ≠ 46 ∧ ¬ dv b k < b := by
  simp only [isMarker, Bool.or_eq_true, Bool.and_eq_true, beq_iff_eq, decide_eq_true_eq] at hk
  rcases hk with rfl | ⟨h10, rfl | rfl⟩
  · exact ⟨by decide, by decide, not_dig b b 64 hb (by simp)⟩
  · refine ⟨by decide, by decide, ?_⟩
    rw [dv_lo b (by omega), tab_at.2.1]; omega
  · refine ⟨by decide, by decide, ?_⟩
    rw [dv_lo b (by omega), tab_at.2.2]; omega

theorem splitLast_none (b : Nat) (l : List Nat) (h : ∀ x ∈ l, isMarker b x = false) : splitLast b l = none := by
  induction l with
  | nil => rfl
  | cons c cs ih =>
    have h1 := ih (fun x hx => h x (List.mem_cons_of_mem _ hx))
    have h2 := h c (List.mem_cons_self ..)
    simp [splitLast, h1, h2]

theorem splitLast_append (b : Nat) (l1 l2 m e : List Nat) (h : splitLast b l2 = some (m, e)) :
    splitLast b (l1 ++ l2) = some (l1 ++ m, e) := by
  induction l1 with
  | nil => simpa using h
  | cons c cs ih => simp [splitLast, ih]

theorem splitLast_some_of_marker (b : Nat) (l : List Nat) (h : ∃ x ∈ l, isMarker b x = true) :
    ∃ m e, splitLast b l = some (m, e) := by
  induction l with
  | nil => simp at h
  | cons c cs ih =>
    cases hs : splitLast b cs with
    | some p => exact ⟨c :: p.1, p.2, by simp [splitLast, hs]⟩
    | none =>
      by_cases hc : isMarker b c = true
      · exact ⟨[], cs, by simp [splitLast, hs, hc]⟩
      · exfalso
        obtain ⟨x, hx, hm⟩ := h
        rcases List.mem_cons.1 hx with rfl | hx
        · exact hc hm
        · obtain ⟨m, e, he⟩ := ih ⟨x, hx, hm⟩
          rw [hs] at he; cases he

theorem scanMant_marker (b k : Nat) (hb : b ≤ 62) (hk : isMarker b k = true) (m : List Nat) (hm : k ∈ m) :
    scanMant (dv b) b m = none := by
  induction m with
  | nil => simp at hm
  | cons c cs ih =>
    rcases List.mem_cons.1 hm with rfl | h
    · obtain ⟨h1, h2, h3⟩ := marker_facts b k hb hk
      cases hs : scanMant (dv b) b cs with
      | none => simp [scanMant, hs]
      | some p => simp [scanMant, hs, h1, h2, h3]
    · simp [scanMant, ih h]

theorem mantText_point (b : Nat) (hb : b ≤ 62) (t : List Nat) :
    mantText b (46 :: t) =
      (match mantText b t with
       | none => none
       | some (_, some _) => none
       | some (ds, none) => some (ds, some ds.length)) := by
  have hp : isDig b b 46 = false := by simpa [isDig] using dv_point b hb
  have ht := List.takeWhile_append_dropWhile (p := (· != 46)) (l := t)
  simp only [mantText, bne_self_eq_false, List.takeWhile_cons_of_neg, List.dropWhile_cons_of_neg,
    Bool.false_eq_true, not_false_eq_true, List.all_nil, Bool.true_and, List.nil_append]
  cases hd : t.dropWhile (· != 46) with
  | nil =>
    rw [hd, List.append_nil] at ht
    rw [ht]
    by_cases ha : t.all (isDig b b) = true <;> simp [ha]
  | cons x fp =>
    have hx : x = 46 := by
      have := @List.head_dropWhile_not _ (· != 46) t (by rw [hd]; simp)
      simpa [hd] using this
    subst hx
    have hall : t.all (isDig b b) = false := by
      rw [← ht, hd]; simp [hp]
    rw [hall]
    by_cases ha : ((t.takeWhile (· != 46)).all (isDig b b) && fp.all (isDig b b)) = true <;> simp [ha]

theorem mantText_digit (b c : Nat) (hc : c ≠ 46) (t : List Nat) :
    mantText b (c :: t) =
      (match mantText b t with
       | none => none
       | some (ds, dot) => if dv b c < b then some (dv b c :: ds, dot) else none) := by
  have h1 : (c != 46) = true := by simpa using hc
  simp only [mantText, h1, List.takeWhile_cons_of_pos, List.dropWhile_cons_of_pos, List.all_cons, List.map_cons,
    List.cons_append]
  cases hd : t.dropWhile (· != 46) with
  | nil =>
    by_cases hcd : dv b c < b <;> by_cases ha : (t.takeWhile (· != 46)).all (isDig b b) = true <;>
      simp [isDig, hcd, ha]
  | cons x fp =>
    by_cases hcd : dv b c < b <;>
      by_cases ha : ((t.takeWhile (· != 46)).all (isDig b b) && fp.all (isDig b b)) = true <;>
      simp [isDig, hcd, ha]

theorem scanMant_eq (b : Nat) (hb : b ≤ 62) (m : List Nat) : scanMant (dv b) b m = mantissa b m := by
  induction m with
  | nil => simp [scanMant, mantissa, mantText]
  | cons c cs ih =>
    unfold mantissa at ih ⊢
    by_cases hs : Radix.isSpace c = true
    · simp only [scanMant, ih, hs, if_true, List.filter_cons, Bool.not_true, Bool.false_eq_true, if_false]
      cases mantText b (cs.filter fun c => !Radix.isSpace c) with
      | none => rfl
      | some p => rfl
    · have hs' : Radix.isSpace c = false := by simpa using hs
      simp only [scanMant, ih, hs', List.filter_cons, Bool.not_false, if_true, Bool.false_eq_true, if_false]
      by_cases h46 : c = 46
      · subst h46
        rw [mantText_point b hb]
        cases mantText b (cs.filter fun c => !Radix.isSpace c) with
        | none => rfl
        | some p =>
          obtain ⟨ds, dot⟩ := p
          cases dot <;> simp
      · rw [mantText_digit b c h46]
        cases mantText b (cs.filter fun c => !Radix.isSpace c) with
        | none => rfl
        | some p => simp [h46]

theorem scanExp_eq (b eb : Nat) (e : List Nat) : scanExp (dv b) eb e = exponent b eb e := by
  have hfun : isDig b eb = fun c => decide (dv b c < eb) := by funext c; rfl
  unfold scanExp exponent
  rw [hfun]
  split
  rename_i x sgn t heq
  split at heq
  · simp only [Prod.mk.injEq] at heq
    obtain ⟨rfl, rfl⟩ := heq
    simp [List.isEmpty_iff]
  · simp only [Prod.mk.injEq] at heq
    obtain ⟨rfl, rfl⟩ := heq
    simp [List.isEmpty_iff]
  · rename_i h1 h2
    simp only [Prod.mk.injEq] at heq
    obtain ⟨rfl, rfl⟩ := heq
    have hh : (e.head? == some 43 || e.head? == some 45) = false := by
      rcases e with _ | ⟨c, r⟩
      · simp
      · have : c ≠ 43 := fun h => h1 r (by rw [h])
        have : c ≠ 45 := fun h => h2 r (by rw [h])
        simp [*]
    have h45 : (e.head? == some 45) = false := by
      simp only [Bool.or_eq_false_iff] at hh; exact hh.2
    have h43 : (e.head? == some 43) = false := by
      simp only [Bool.or_eq_false_iff] at hh; exact hh.1
    have h43' : ¬ e.head? = some 43 := by simpa using h43
    simp [h43', h45, List.isEmpty_iff]

/-- how the scanner's right-to-left marker search relates to cutting at the first marker -/
theorem split_cases (b : Nat) (rest : List Nat) :
    (rest.dropWhile (fun x => !isMarker b x) = [] ∧ rest.takeWhile (fun x => !isMarker b x) = rest ∧
        splitLast b rest = none) ∨
    (∃ k e, rest.dropWhile (fun x => !isMarker b x) = k :: e ∧ e.any (isMarker b) = false ∧
        splitLast b rest = some (rest.takeWhile (fun x => !isMarker b x), e)) ∨
    (∃ k e m e', rest.dropWhile (fun x => !isMarker b x) = k :: e ∧ e.any (isMarker b) = true ∧
        isMarker b k = true ∧ splitLast b rest = some (m, e') ∧ k ∈ m) := by
  have hd := List.takeWhile_append_dropWhile (p := fun x => !isMarker b x) (l := rest)
  cases hdw : rest.dropWhile (fun x => !isMarker b x) with
  | nil =>
    left
    rw [hdw, List.append_nil] at hd
    refine ⟨rfl, hd, splitLast_none b rest ?_⟩
    intro x hx
    rw [← hd] at hx
    simpa using List.all_eq_true.mp List.all_takeWhile x hx
  | cons k e =>
    right
    have hk : isMarker b k = true := by
      have := @List.head_dropWhile_not _ (fun x => !isMarker b x) rest (by rw [hdw]; simp)
      simpa [hdw] using this
    rw [hdw] at hd
    by_cases hany : e.any (isMarker b) = true
    · right
      obtain ⟨m2, e2, h2⟩ := splitLast_some_of_marker b e (by simpa using hany)
      have h3 : splitLast b (k :: e) = some (k :: m2, e2) := by simp [splitLast, h2]
      have h4 := splitLast_append b (rest.takeWhile (fun x => !isMarker b x)) (k :: e) _ _ h3
      rw [hd] at h4
      exact ⟨k, e, _, e2, rfl, hany, hk, h4, by simp⟩
    · left
      have hany' : e.any (isMarker b) = false := by simpa using hany
      have h3 : splitLast b (k :: e) = some ([], e) := by
        simp [splitLast, splitLast_none b e (by simpa using hany'), hk]
      have h4 := splitLast_append b (rest.takeWhile (fun x => !isMarker b x)) (k :: e) _ _ h3
      rw [hd, List.append_nil] at h4
      exact ⟨k, e, rfl, hany', h4⟩

theorem start_test (b c : Nat) (rest : List Nat) :
    (!(isDig b b c || (c == 46 && isDig b b (rest.headD 0)))) = false ↔
      (dv b c < b ∨ (c = 46 ∧ dv b (rest.headD 0) < b)) := by
  by_cases h : dv b c < b <;> simp [isDig, h]

/-- set_str.c:238-304, 352-376 (scanner model) = `body` (grammar) -/
theorem parseBody_eq (neg : Bool) (b eb : Nat) (hb : b ≤ 62) (s : List Nat) :
    parseBody neg b eb s = body neg b eb s := by
  cases s with
  | nil => rfl
  | cons c rest =>
    have hdv : Radix.digitValue (if 36 < b then 224 else 0) = dv b := rfl
    unfold parseBody body
    simp only [hdv]
    by_cases h0 : (dv b c < b ∨ (c = 46 ∧ dv b (rest.headD 0) < b))
    · simp only [h0, not_true_eq_false, if_false, (start_test b c rest).2 h0, Bool.false_eq_true]
      rcases split_cases b rest with ⟨h1, h2, h3⟩ | ⟨k, e, h1, h2, h3⟩ | ⟨k, e, m, e', h1, h2, hk, h3, h4⟩
      · simp only [h1, h2, h3, scanMant_eq b hb]
        cases mantissa b (c :: rest) with
        | none => rfl
        | some p => simp
      · simp only [h1, h2, h3, scanMant_eq b hb, scanExp_eq]
        cases mantissa b (c :: rest.takeWhile (fun x => !isMarker b x)) with
        | none => rfl
        | some p =>
          simp only [Bool.false_eq_true, if_false]
          split
          · rfl
          · cases exponent b eb e <;> rfl
      · simp only [h1, h2, h3, scanMant_marker b k hb hk (c :: m) (List.mem_cons_of_mem _ h4)]
        cases mantissa b (c :: rest.takeWhile (fun x => !isMarker b x)) with
        | none => rfl
        | some p => simp
    · have h0' : (!(isDig b b c || (c == 46 && isDig b b (rest.headD 0)))) = true := by
        rw [← Bool.not_eq_false, start_test]; exact h0
      simp only [h0, not_false_eq_true, if_true, h0']

theorem baseOf_eq (base : Int) : baseOf base = (if base = 0 then 10 else base.natAbs) := by
  unfold baseOf; split_ifs <;> omega

theorem expBaseOf_eq (base : Int) :
    expBaseOf base = (if base ≤ 0 then 10 else (if base = 0 then 10 else base.natAbs)) := by
  unfold expBaseOf; split_ifs <;> omega

end Mpir.MpfParse
