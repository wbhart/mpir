/- Refinement proof for the size-aware model of mpz_mul_ui (mpz/mul_i.h; Mpir/Model/AllocSafeMpz2.lean). -/
import MpirProofs.Lemmas.AllocSafeMpz
namespace Mpir.AllocSafe
open Mpir
open Mpir.Mpz (sgn Norm natAbs_sgn)

theorem mul_ui_refines (s : St) (w u : Nat) (v : Nat) (hs : s.ok = true) (hw : OWF (s.h w)) (hu : OWF (s.h u))
    (hv : v < B) :
    Refines s (mul_ui 1 s w u v) w (Mpz.mul_ui (view (s.h w)) (view (s.h u)) v) := by
  unfold mul_ui Mpz.mul_ui Mpz.mul_i
  simp only [St.SIZ]
  have e1 : (view (s.h u)).size = (s.h u).size := rfl
  rw [e1]
  by_cases h0 : ((s.h u).size == 0 || v == 0) = true
  · simp only [h0, if_true]
    refine ⟨by simpa using hs, by simp [view], by simpa using hw.1, fun x hx => setSize_other _ _ _ hx⟩
  · simp only [h0, Bool.false_eq_true, if_false]
    have G := MPZ_REALLOC_grown s w ((s.h u).size.natAbs + 1) hw
    obtain ⟨ea, oka⟩ := grown_rd G u (s.h u).size.natAbs hu (Nat.le_refl _)
    have hul := view_d_length hu
    rw [List.take_of_length_le (by omega)] at ea
    obtain ⟨_, mc, ml, mn⟩ := mul_1_val' (view (s.h u)).d v (view_limbs hu) hv
    have halloc : (Mpz.grow (view (s.h w)) ((s.h u).size.natAbs + 1)).alloc =
      ((MPZ_REALLOC s w ((s.h u).size.natAbs + 1)).h w).buf.alloc := G.alloc.symm
    rw [halloc]
    refine Refines.of_grown G ?_
    simp only [mpn_mul_1, ea, oka]
    have T := tail_carry (MPZ_REALLOC s w ((s.h u).size.natAbs + 1)) w (Mpir.mul_1 (view (s.h u)).d v).1
      (Mpir.mul_1 (view (s.h u)).d v).2
      ((s.h u).size.natAbs + (if (Mpir.mul_1 (view (s.h u)).d v).2 != 0 then 1 else 0)) (decide ((s.h u).size < 0)) true
      (by rw [G.ok]; exact hs) rfl (G.bwf w hw.1) ml mc (by rw [mn, hul]; exact G.room) (by rw [mn, hul]; split <;> omega)
    simp only [mn, hul] at T
    have e : ∀ b : Bool, (b != false) = b := by decide
    simp only [e]
    exact T

end Mpir.AllocSafe
