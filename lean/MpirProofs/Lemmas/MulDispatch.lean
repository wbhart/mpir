/- The GENERATED call skeletons of mpn_mul / mpn_mul_n / mpn_sqr (Mpir/Gen/MulDispatch.lean): every recorded call is inside its
   callee's domain; what a recorded call computes (`callValue_eq`). -/
import Mpir.Model.MulLoops
import MpirProofs.Lemmas.MulAlgo
namespace Mpir.MulDispatch
open Mpir.Skel Mpir.Gen Mpir.Gen.MulDispatch

/-! ### three conjuncts of `Valid` by name -/
theorem Valid.kara_ge {P : Params} (h : Valid P) : 3 ≤ P.MUL_KARATSUBA_THRESHOLD := h.1

theorem Valid.basecase_max_pos {P : Params} (h : Valid P) : 1 ≤ P.MUL_BASECASE_MAX_UN := h.2.2.2.1

theorem Valid.sqr_kara_ge {P : Params} (h : Valid P) : 3 ≤ P.SQR_KARATSUBA_THRESHOLD := h.2.2.2.2.2.2.2.2.2.2.2.1

/-! ### traces whose calls are all inside their domains (`AllOk`); the tree's own parameters are `Valid` -/

theorem cdiv_nonneg {a b : Int} (ha : 0 ≤ a) : cdiv a b = a / b := by
  unfold cdiv; exact Int.tdiv_eq_ediv_of_nonneg ha

theorem AllOk_nil (P : Params) : AllOk P [] := by intro e he; cases he

theorem AllOk_cons {P : Params} {e : Ev} {tr : List Ev} : AllOk P (e :: tr) ↔ domainOk P e = true ∧ AllOk P tr := by
  unfold AllOk; simp

theorem params_valid : Valid params := by decide

/-- the only use the dispatch proofs make of `ABOVE_THRESHOLD`; a failed test bounds nothing (the threshold may be
    MP_SIZE_T_MAX) -/
theorem above_le {M s t : Int} (h : Above M s t) (ht : 0 < t) : t ≤ s := by
  rcases h with h | ⟨-, h⟩ <;> omega

theorem good_ret {P : Params} {top b off : Int} {tr : List Ev} (hb : b = 1) (ho : off = top) (h : AllOk P tr) :
    Good P top (.ret tr (.ptr b off)) := ⟨hb, ho, h⟩

theorem domainOk_eq (P : Params) (e : Ev) {name : String} {sizes : List Int} (h : e.name = name) (hs : sizeArgs e = sizes) :
    domainOk P e = domainOk P ⟨name, sizes.map .sz⟩ := by
  have : sizeArgs ⟨name, sizes.map .sz⟩ = sizes := by
    clear hs
    induction sizes with
    | nil => rfl
    | cons v l ih => simpa [sizeArgs, List.filterMap_cons] using ih
  unfold domainOk
  rw [h, hs, this]

/-! ### one more recorded call: `domainOk` read off for one shape of call (the `decide` of the callee's row) -/
section
variable {P : Params} {tr : List Ev} (h : AllOk P tr) {a a' b b' c c' d d' m n : Int}
include h

/-- bookkeeping events (TMP_MARK, TMP_FREE, mpn_incr_u, …) have no size argument: no row applies -/
theorem AllOk.nosize {e : Ev} (he : sizeArgs e = []) : AllOk P (e :: tr) := by
  refine AllOk_cons.2 ⟨?_, h⟩
  unfold domainOk
  rw [he]
  split <;> first | rfl | contradiction

theorem AllOk.assert {p : Prop} [Decidable p] (hp : p) : AllOk P (⟨"ASSERT", [.sz (if p then 1 else 0)]⟩ :: tr) :=
  AllOk_cons.2 ⟨decide_eq_true (if_pos hp), h⟩

theorem AllOk.assert_always {p : Prop} [Decidable p] (hp : p) :
    AllOk P (⟨"ASSERT_ALWAYS", [.sz (if p then 1 else 0)]⟩ :: tr) :=
  AllOk_cons.2 ⟨decide_eq_true (if_pos hp), h⟩

theorem AllOk.array_tp : AllOk P (⟨"array:tp", [.sz n]⟩ :: tr) := AllOk_cons.2 ⟨rfl, h⟩

theorem AllOk.array_ws : AllOk P (⟨"array:ws", [.sz n]⟩ :: tr) := AllOk_cons.2 ⟨rfl, h⟩

theorem AllOk.alloc : AllOk P (⟨"TMP_ALLOC_LIMBS", [.sz n]⟩ :: tr) := AllOk_cons.2 ⟨rfl, h⟩

theorem AllOk.salloc : AllOk P (⟨"TMP_SALLOC_LIMBS", [.sz n]⟩ :: tr) := AllOk_cons.2 ⟨rfl, h⟩

theorem AllOk.copy (hd : n ≥ 0) : AllOk P (⟨"MPN_COPY", [.ptr a a', .ptr b b', .sz n]⟩ :: tr) :=
  AllOk_cons.2 ⟨decide_eq_true hd, h⟩

theorem AllOk.add_n (hd : n ≥ 1) : AllOk P (⟨"mpn_add_n", [.ptr a a', .ptr b b', .ptr c c', .sz n]⟩ :: tr) :=
  AllOk_cons.2 ⟨decide_eq_true hd, h⟩

theorem AllOk.add_1 (hd : n ≥ 1) : AllOk P (⟨"mpn_add_1", [.ptr a a', .ptr b b', .sz n, .data]⟩ :: tr) :=
  AllOk_cons.2 ⟨decide_eq_true hd, h⟩

theorem AllOk.sqr (hd : n ≥ 1) : AllOk P (⟨"mpn_sqr", [.ptr a a', .ptr b b', .sz n]⟩ :: tr) :=
  AllOk_cons.2 ⟨decide_eq_true hd, h⟩

theorem AllOk.mul_n (hd : n ≥ 1) : AllOk P (⟨"mpn_mul_n", [.ptr a a', .ptr b b', .ptr c c', .sz n]⟩ :: tr) :=
  AllOk_cons.2 ⟨decide_eq_true hd, h⟩

theorem AllOk.mul_basecase (hd : m ≥ n ∧ n ≥ 1) :
    AllOk P (⟨"mpn_mul_basecase", [.ptr a a', .ptr b b', .sz m, .ptr c c', .sz n]⟩ :: tr) :=
  AllOk_cons.2 ⟨decide_eq_true hd, h⟩

theorem AllOk.fft (hd : m ≥ 1 ∧ n ≥ 1) :
    AllOk P (⟨"mpn_mul_fft_main", [.ptr a a', .ptr b b', .sz m, .ptr c c', .sz n]⟩ :: tr) :=
  AllOk_cons.2 ⟨decide_eq_true hd, h⟩

theorem AllOk.toom8h (hd : m ≥ n ∧ n ≥ 86 ∧ 4 * m ≤ 13 * n) :
    AllOk P (⟨"mpn_toom8h_mul", [.ptr a a', .ptr b b', .sz m, .ptr c c', .sz n]⟩ :: tr) :=
  AllOk_cons.2 ⟨decide_eq_true hd, h⟩

theorem AllOk.toom4 (hd : m ≥ n ∧ n > 3 * ((m + 3) / 4) ∧ m ≥ 3 * ((m + 3) / 4)) :
    AllOk P (⟨"mpn_toom4_mul", [.ptr a a', .ptr b b', .sz m, .ptr c c', .sz n]⟩ :: tr) :=
  AllOk_cons.2 ⟨decide_eq_true hd, h⟩

theorem AllOk.toom53 (hd : m ≥ n ∧ n > 2 * ((m + 4) / 5) ∧ n ≤ 3 * ((m + 4) / 5) ∧ m ≥ 4 * ((m + 4) / 5)) :
    AllOk P (⟨"mpn_toom53_mul", [.ptr a a', .ptr b b', .sz m, .ptr c c', .sz n]⟩ :: tr) :=
  AllOk_cons.2 ⟨decide_eq_true hd, h⟩

theorem AllOk.toom42 (hd : m ≥ 20 ∧ n > (m + 3) / 4 ∧ n ≤ 2 * ((m + 3) / 4)) :
    AllOk P (⟨"mpn_toom42_mul", [.ptr a a', .ptr b b', .sz m, .ptr c c', .sz n, .ptr d d']⟩ :: tr) :=
  AllOk_cons.2 ⟨decide_eq_true hd, h⟩

theorem AllOk.toom3 (hd : m ≥ 20 ∧ m ≥ n ∧ n > 2 * ((m + 2) / 3)) :
    AllOk P (⟨"mpn_toom3_mul", [.ptr a a', .ptr b b', .sz m, .ptr c c', .sz n, .ptr d d']⟩ :: tr) :=
  AllOk_cons.2 ⟨decide_eq_true hd, h⟩

theorem AllOk.toom32 (hd : m ≥ 20 ∧ n > (m + 2) / 3 ∧ n ≤ 2 * ((m + 2) / 3)) :
    AllOk P (⟨"mpn_toom32_mul", [.ptr a a', .ptr b b', .sz m, .ptr c c', .sz n, .ptr d d']⟩ :: tr) :=
  AllOk_cons.2 ⟨decide_eq_true hd, h⟩

theorem AllOk.sqr_basecase (hd : n ≥ 1) : AllOk P (⟨"mpn_sqr_basecase", [.ptr a a', .ptr b b', .sz n]⟩ :: tr) :=
  AllOk_cons.2 ⟨decide_eq_true hd, h⟩

theorem AllOk.kara_mul_n (hd : n ≥ P.MPN_KARA_MUL_N_MINSIZE ∧ n ≥ 2) :
    AllOk P (⟨"mpn_kara_mul_n", [.ptr a a', .ptr b b', .ptr c c', .sz n, .ptr d d']⟩ :: tr) :=
  AllOk_cons.2 ⟨decide_eq_true hd, h⟩

theorem AllOk.kara_sqr_n (hd : n ≥ P.MPN_KARA_SQR_N_MINSIZE ∧ n ≥ 2) :
    AllOk P (⟨"mpn_kara_sqr_n", [.ptr a a', .ptr b b', .sz n, .ptr c c']⟩ :: tr) :=
  AllOk_cons.2 ⟨decide_eq_true hd, h⟩

theorem AllOk.toom3_mul_n (hd : n ≥ 17) :
    AllOk P (⟨"mpn_toom3_mul_n", [.ptr a a', .ptr b b', .ptr c c', .sz n, .ptr d d']⟩ :: tr) :=
  AllOk_cons.2 ⟨decide_eq_true hd, h⟩

theorem AllOk.toom3_sqr_n (hd : n ≥ 17) :
    AllOk P (⟨"mpn_toom3_sqr_n", [.ptr a a', .ptr b b', .sz n, .ptr c c']⟩ :: tr) :=
  AllOk_cons.2 ⟨decide_eq_true hd, h⟩

theorem AllOk.toom4_mul_n (hd : n ≥ P.MPN_TOOM4_MUL_N_MINSIZE) :
    AllOk P (⟨"mpn_toom4_mul_n", [.ptr a a', .ptr b b', .ptr c c', .sz n]⟩ :: tr) :=
  AllOk_cons.2 ⟨decide_eq_true hd, h⟩

theorem AllOk.toom4_sqr_n (hd : n ≥ P.MPN_TOOM4_SQR_N_MINSIZE) :
    AllOk P (⟨"mpn_toom4_sqr_n", [.ptr a a', .ptr b b', .sz n]⟩ :: tr) :=
  AllOk_cons.2 ⟨decide_eq_true hd, h⟩

theorem AllOk.toom8_sqr_n (hd : n ≥ P.MPN_TOOM8_SQR_N_MINSIZE) :
    AllOk P (⟨"mpn_toom8_sqr_n", [.ptr a a', .ptr b b', .sz n]⟩ :: tr) :=
  AllOk_cons.2 ⟨decide_eq_true hd, h⟩

end

/-! ### the three skeletons: mpn_mul with its two loops, mpn_mul_n, mpn_sqr -/

/-- one `if` of the generated code: its test reaches the proof as a hypothesis and is not restated -/
theorem GoodVoid.ite {P : Params} {c : Prop} [Decidable c] {a b : Res} (ha : c → GoodVoid P a) (hb : ¬c → GoodVoid P b) :
    GoodVoid P (if c then a else b) := iteInduction ha hb

theorem Good.ite {P : Params} {top : Int} {c : Prop} [Decidable c] {a b : Res} (ha : c → Good P top a)
    (hb : ¬c → Good P top b) : Good P top (if c then a else b) := iteInduction ha hb

/-- chunk loop of mul.c:117-126: the code after it must be good for every state the loop can leave
    (1 ≤ un ≤ MUL_BASECASE_MAX_UN, prodp + un unchanged); fuel `un` suffices -/
theorem loop2_spec (P : Params) (hP : Valid P) (top S : Int)
    (kexit : List Ev → Int → Int → Int → Int → Int → Int → Int → Int → Int → Int → Int → Int → Res)
    (pb ub vb vo vn l k tB tO : Int) (hvn : 1 ≤ vn) (hvk : vn < P.MUL_KARATSUBA_THRESHOLD)
    (hk : ∀ tr po uo un, AllOk P tr → 1 ≤ un → un ≤ P.MUL_BASECASE_MAX_UN → po + un = S →
        Good P top (kexit tr pb po ub uo un vb vo vn l k tB tO)) :
    ∀ (fuel : Nat) (tr : List Ev) (po uo un : Int), AllOk P tr → 1 ≤ un → un ≤ fuel → po + un = S →
      Good P top (mpn_mul_loop2 P kexit fuel tr pb po ub uo un vb vo vn l k tB tO) := by
  obtain ⟨_, _, _, hmax, hkm, _⟩ := hP
  intro fuel
  induction fuel with
  | zero => intro tr po uo un _ h1 h2; simp at h2; omega
  | succ f ih =>
    intro tr po uo un htr h1 h2 hS
    unfold mpn_mul_loop2
    push_cast at h2
    exact .ite (fun hc => ih _ _ _ _ ((((htr.mul_basecase (by omega)).add_n (by omega)).nosize rfl).copy (by omega))
        (by omega) (by omega) (by omega)) fun hc => hk tr po uo un htr h1 (by omega) hS

/-- slide loop of mul.c:232-258 (mpn_mul_n on vn-limb pieces, accumulate, advance, swap).
    Invariant: 0 ≤ vn ≤ un, 1 ≤ l, prodp + un + vn unchanged; measure un + vn. -/
theorem loop7_spec (P : Params) (hP : Valid P) (top S : Int)
    (kexit : List Ev → Int → Int → Int → Int → Int → Int → Int → Int → Int → Int → Int → Int → Res)
    (pb k wb wo : Int)
    (hk : ∀ tr po ub uo un vb vo vn l, AllOk P tr → 0 ≤ vn → vn ≤ un → 1 ≤ l → vn < P.MUL_KARATSUBA_THRESHOLD →
        po + un + vn = S → Good P top (kexit tr pb po ub uo un vb vo vn l k wb wo)) :
    ∀ (fuel : Nat) (tr : List Ev) (po ub uo un vb vo vn l : Int), AllOk P tr → 0 ≤ vn → vn ≤ un → 1 ≤ l →
      un + vn < fuel → po + un + vn = S →
      Good P top (mpn_mul_loop7 P kexit fuel tr pb po ub uo un vb vo vn l k wb wo) := by
  obtain ⟨hk2, _⟩ := hP
  intro fuel
  induction fuel with
  | zero =>
    intro tr po ub uo un vb vo vn l htr h0 h1 hl h2 hS
    simp at h2; omega
  | succ f ih =>
    intro tr po ub uo un vb vo vn l htr h0 h1 hl h2 hS
    unfold mpn_mul_loop7
    push_cast at h2
    refine .ite (fun hc => ?_) fun hc => hk tr po ub uo un vb vo vn l htr h0 h1 hl (by omega) hS
    -- `k8`, the code after the accumulation: advance by vn limbs, swap if the rest of u is the shorter operand
    have hk8 : ∀ tr l, AllOk P tr → vn < l →
        Good P top (if un - vn < vn then
          mpn_mul_loop7 P kexit f tr pb (po + vn) vb vo vn ub (uo + vn) (un - vn) (l - vn) k wb wo
        else mpn_mul_loop7 P kexit f tr pb (po + vn) ub (uo + vn) (un - vn) vb vo vn (l - vn) k wb wo) := fun tr l htr hl =>
      .ite (fun _ => ih _ _ _ _ _ _ _ _ _ htr (by omega) (by omega) (by omega) (by omega) (by omega))
        fun _ => ih _ _ _ _ _ _ _ _ _ htr (by omega) (by omega) (by omega) (by omega) (by omega)
    have hvn : vn ≥ 1 := by omega
    refine .ite (fun h3 => .ite (fun h4 => ?_) fun h4 => ?_) fun h3 => ?_
    · exact hk8 _ _ (((htr.mul_n hvn).add_n (by omega)).add_1 (by omega)) (by omega)
    · exact hk8 _ _ ((htr.mul_n hvn).add_n (by omega)) (by omega)
    · exact hk8 _ _ (((htr.mul_n hvn).add_n (by omega)).add_1 (by omega)) (by omega)

/-- `mpn_mul` (mul.c): fuel `un + 1` covers both loops -/
theorem mul_ok (P : Params) (hP : Valid P) (fuel : Nat) (un vn ub uo vb vo : Int) (hv : 1 ≤ vn) (hu : vn ≤ un)
    (hf : un < fuel) :
    Good P (un + vn - 1) (mpn_mul P fuel [] 1 0 ub uo un vb vo vn) := by
  obtain ⟨hk2, -, hklim, hmax, hkm, ht3, -, ht4, -, -⟩ := id hP
  have h0 := ((AllOk_nil P).assert hu).assert hv
  unfold mpn_mul
  simp only []
  have e1 : cdiv (un + 3) 4 = (un + 3) / 4 := cdiv_nonneg (by omega)
  have e2 : cdiv (un + 4) 5 = (un + 4) / 5 := cdiv_nonneg (by omega)
  have e3 : cdiv (un + 2) 3 = (un + 2) / 3 := cdiv_nonneg (by omega)
  have e4 : cdiv (9 * ((un + 3) / 4)) 4 = (9 * ((un + 3) / 4)) / 4 := cdiv_nonneg (by omega)
  rw [e1, e2, e3, e4]
  clear e1 e2 e3 e4
  -- the slide loop is reached from two places (swapped operands or not), with the same code after it
  generalize hL : mpn_mul_loop7 P _ = slide
  have hslide : ∀ tr ub uo un' vb vo vn', AllOk P tr → 0 ≤ vn' → vn' ≤ un' → un' + vn' = un →
      Good P (un + vn - 1) (slide fuel tr 1 (0 + vn) ub uo un' vb vo vn' vn ((un + 3) / 4) 105 0) := by
    intro tr ub uo un' vb vo vn' htr g0 g1 g2
    rw [← hL]
    refine loop7_spec P hP _ (un + vn) _ 1 _ 105 0 ?_ fuel _ _ _ _ _ _ _ _ _ htr g0 g1 hv (by omega) (by omega)
    intro tr po ub uo un' vb vo vn' l htr g0 g1 g2 g3 g4
    refine .ite (fun h12 => ?_) fun _ => good_ret rfl (by omega) (htr.nosize rfl)
    have hb : un' ≥ vn' ∧ vn' ≥ 1 := by omega
    refine .ite (fun h13 => .ite (fun h14 => ?_) fun h14 => ?_) fun h13 => ?_
    · exact good_ret rfl (by omega) ((((htr.mul_basecase hb).add_n (by omega)).add_1 (by omega)).nosize rfl)
    · exact good_ret rfl (by omega) (((htr.mul_basecase hb).add_n (by omega)).nosize rfl)
    · exact good_ret rfl (by omega) ((((htr.mul_basecase hb).add_n (by omega)).add_1 (by omega)).nosize rfl)
  clear hL
  refine .ite (fun h1 => .ite (fun h2 => good_ret rfl (by omega) (h0.sqr (by omega)))
    fun h2 => good_ret rfl (by omega) (h0.mul_n (by omega))) fun h1 => ?_
  -- the tail `k4` of the C (Toom-3 family, or mpn_mul_n and the slide loop) is reached from two places
  generalize hT : (ite (Above P.MP_SIZE_T_MAX (un + vn) (2 * P.MUL_TOOM3_THRESHOLD) ∧ vn > (un + 3) / 4) _ _ : Res) = tail
  have htail : Good P (un + vn - 1) tail := by
    rw [← hT]
    clear hT tail
    refine .ite (fun h8 => ?_) fun h8 => ?_
    · have h8' := above_le h8.1 (by omega)
      refine .ite (fun h9 => ?_) fun h9 => .ite (fun h10 => ?_) fun h10 => ?_
      · exact good_ret rfl (by omega) (((h0.nosize rfl).alloc.toom42 (by omega)).nosize rfl)
      · exact good_ret rfl (by omega) (((h0.nosize rfl).alloc.toom3 (by omega)).nosize rfl)
      · exact good_ret rfl (by omega) (((h0.nosize rfl).alloc.toom32 (by omega)).nosize rfl)
    · rw [if_pos h1]
      refine .ite (fun h11 => ?_) fun h11 => ?_
      · exact hslide _ _ _ _ _ _ _ ((h0.mul_n hv).nosize rfl).alloc (by omega) (by omega) (by omega)
      · exact hslide _ _ _ _ _ _ _ ((h0.mul_n hv).nosize rfl).alloc (by omega) (by omega) (by omega)
  clear hslide hT
  refine .ite (fun h2 => .ite (fun h3 => good_ret rfl (by omega) (h0.mul_basecase (by omega))) fun h3 => ?_) fun h2 => ?_
  · refine loop2_spec P hP _ un _ 1 _ _ _ _ _ _ _ _ hv h2 ?_ fuel _ _ _ _
      (((h0.array_tp.assert hklim).mul_basecase (by omega)).copy (by omega))
      (by omega) (by omega) (by omega)
    intro tr po uo' un' htr g1 g2 g3
    refine .ite (fun h4 => ?_) fun h4 => ?_
    · exact good_ret rfl (by omega) (((htr.mul_basecase (by omega)).add_n (by omega)).nosize rfl)
    · exact good_ret rfl (by omega)
        ((((htr.assert_always (by omega)).mul_basecase (by omega)).add_n (by omega)).nosize rfl)
  refine .ite (fun h3 => good_ret rfl (by omega) (h0.fft (by omega))) fun h3 => ?_
  refine .ite (fun h4 => good_ret rfl (by omega) (h0.toom8h (by omega))) fun h4 => ?_
  refine .ite (fun h5 => ?_) fun _ => htail
  have h5' := above_le h5 (by omega)
  refine .ite (fun h6 => good_ret rfl (by omega) (h0.toom4 (by omega))) fun h6 => ?_
  exact .ite (fun h7 => good_ret rfl (by omega) (h0.toom53 (by omega))) fun _ => htail

/-- skeleton of `mpn_mul_n` (mul_n.c:282-330) -/
theorem mul_n_ok (P : Params) (hP : Valid P) (fuel : Nat) (n ab ao bb bo : Int) (hn : 1 ≤ n) :
    GoodVoid P (mpn_mul_n P fuel [] 1 0 ab ao bb bo n) := by
  obtain ⟨hk2, hkmin, -, -, -, ht3, ht3l, ht4, ht4m, ht8, -⟩ := hP
  have h0 := (AllOk_nil P).assert hn
  unfold mpn_mul_n
  refine .ite (fun _ => h0.mul_basecase (by omega)) fun h1 => ?_
  have h1 := above_le (not_not.1 h1) (by omega)
  refine .ite (fun _ => (h0.array_ws.assert ht3l).kara_mul_n (by omega)) fun h2 => ?_
  have h2 := above_le (not_not.1 h2) (by omega)
  refine .ite (fun _ => ((h0.nosize rfl).salloc.toom3_mul_n (by omega)).nosize rfl) fun h3 => ?_
  have h3 := above_le (not_not.1 h3) (by omega)
  refine .ite (fun _ => h0.toom4_mul_n (by omega)) fun h4 => ?_
  have h4 := above_le (not_not.1 h4) (by omega)
  exact .ite (fun _ => h0.toom8h (by omega)) fun h5 => h0.fft (by omega)

/-- skeleton of `mpn_sqr` (mul_n.c:332-387) -/
theorem sqr_ok (P : Params) (hP : Valid P) (fuel : Nat) (n ab ao : Int) (hn : 1 ≤ n) :
    GoodVoid P (mpn_sqr P fuel [] 1 0 ab ao n) := by
  obtain ⟨-, -, -, -, -, -, -, -, -, -, -, hs2, hsmin, hs3, hs3l, hs4m, hs4, hs8m, hs8, -⟩ := hP
  have h0 := (AllOk_nil P).assert hn
  unfold mpn_sqr
  refine .ite (fun _ => h0.mul_basecase (by omega)) fun _ => ?_
  refine .ite (fun _ => h0.sqr_basecase (by omega)) fun h2 => ?_
  have h2 := above_le (not_not.1 h2) (by omega)
  refine .ite (fun _ => (h0.array_ws.assert hs3l).kara_sqr_n (by omega)) fun h3 => ?_
  have h3 := above_le (not_not.1 h3) (by omega)
  refine .ite (fun _ => ((h0.nosize rfl).salloc.toom3_sqr_n (by omega)).nosize rfl) fun h4 => ?_
  have h4 := above_le (not_not.1 h4) (by omega)
  refine .ite (fun _ => h0.toom4_sqr_n (by omega)) fun h5 => ?_
  have h5 := above_le (not_not.1 h5) (by omega)
  exact .ite (fun _ => h0.toom8_sqr_n (by omega)) fun _ => h0.fft (by omega)

/-! ### what the skeletons' product calls are: inside their domains, and with the value `callValue` gives them -/

theorem GoodVoid.domain {P : Params} {r : Res} (g : GoodVoid P r) {e : Ev} (he : e ∈ products r) :
    domainOk P e = true := by
  have hm := (List.mem_filter.mp he).1
  cases r with
  | void tr => exact g e (by simpa [Res.trace] using hm)
  | ret tr v => exact g.elim
  | nofuel tr => exact g.elim

theorem Good.domain {P : Params} {top : Int} {r : Res} (g : Good P top r) {e : Ev} (he : e ∈ products r) :
    domainOk P e = true := by
  have hm := (List.mem_filter.mp he).1
  match r, g, hm with
  | .ret tr (.ptr b off), g, hm => exact g.2.2 e (by simpa [Res.trace] using hm)

/-- a recorded call inside its domain computes the product if `callValue` models its callee, and nothing otherwise -/
theorem callValue_eq (P : Params) (hP : Valid P) (e : Ev) (hd : domainOk P e = true) (u v : Nat) :
    callValue P e u v = if MulLoops.modelled1 e = true then some (u * v) else none := by
  have t3 := MulAlgo.toom3_mul_eq _ (fun _ _ => rfl : ∀ x y : Nat, (· * ·) x y = x * y)
  have t4 := MulAlgo.toom4_mul_eq _ (fun _ _ => rfl : ∀ x y : Nat, (· * ·) x y = x * y)
  unfold callValue MulLoops.modelled1
  generalize hargs : sizeArgs e = sz
  rcases sz with _ | ⟨n, _ | ⟨m, _ | ⟨k, l⟩⟩⟩
  · rfl
  · simp only [Bool.or_eq_true, decide_eq_true_eq]
    by_cases h1 : e.name = "mpn_kara_mul_n"
    · have hn := of_decide_eq_true ((domainOk_eq P e h1 hargs).symm.trans hd)
      rw [if_pos h1, if_pos (.inl (.inl h1)), MulAlgo.kara_mul_n_eq _ (by have := hP.kara_ge; omega) _ (by omega)]
    by_cases h2 : e.name = "mpn_toom3_mul_n"
    · rw [if_neg h1, if_pos h2, if_pos (.inl (.inr h2)), MulAlgo.toom3_mul_n, t3]
    by_cases h3 : e.name = "mpn_toom4_mul_n"
    · rw [if_neg h1, if_neg h2, if_pos h3, if_pos (.inr h3), MulAlgo.toom4_mul_n, t4]
    rw [if_neg h1, if_neg h2, if_neg h3, if_neg (by simp only [h1, h2, h3, or_self, not_false_eq_true])]
  · simp only [Bool.or_eq_true, decide_eq_true_eq]
    by_cases h1 : e.name = "mpn_toom3_mul"
    · rw [if_pos h1, if_pos (by rw [h1]; decide), t3]
    by_cases h2 : e.name = "mpn_toom42_mul"
    · rw [if_neg h1, if_pos h2, if_pos (by rw [h2]; decide), MulAlgo.toom42_mul_eq _ (fun _ _ => rfl)]
    by_cases h3 : e.name = "mpn_toom32_mul"
    · rw [if_neg h1, if_neg h2, if_pos h3, if_pos (by rw [h3]; decide), MulAlgo.toom32_mul_eq _ (fun _ _ => rfl)]
    by_cases h4 : e.name = "mpn_toom4_mul"
    · rw [if_neg h1, if_neg h2, if_neg h3, if_pos h4, if_pos (by rw [h4]; decide), t4]
    by_cases h5 : e.name = "mpn_toom53_mul"
    · rw [if_neg h1, if_neg h2, if_neg h3, if_neg h4, if_pos h5, if_pos (by rw [h5]; decide),
        MulAlgo.toom53_mul_eq _ (fun _ _ => rfl)]
    rw [if_neg h1, if_neg h2, if_neg h3, if_neg h4, if_neg h5,
      if_neg (by simp only [h1, h2, h3, h4, h5, or_self, not_false_eq_true])]
  · rfl

end Mpir.MulDispatch
