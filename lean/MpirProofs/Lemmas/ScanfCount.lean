/-
  C18, scanf side: a format as a list of directives (`Dir`, `render`), what `__gmp_doscan` (scanf/doscan.c:466-718) does with
  one (`stepDir`: the field reader `gmpscan`, and an ORACLE for the conversions handed to the C library, doscan.c:533-585) and
  with all (`runDirs`); `scanRun_dirs`: the character-level model on the rendered format is `runDirs` with `libcOracle`.
-/
import MpirProofs.Lemmas.Scanf
namespace Mpir.Scanf
open Mpir.Printf

/-- what the C library does with one standard conversion on the input: the standard's contract is the TYPE — it
    either converts (value unless suppressed, characters consumed, input left), or reports a matching failure, or an
    input failure (C99 7.19.6.2p4, p9, p10, p16) -/
abbrev Oracle := SP → Char → List Char → Option LibcRes

/-- the part of `doLibc` that is the C library -/
def libcOracle : Oracle := fun sp conv inp =>
  if conv = 'd' then some (libcScanInt true 10 sp.p.width inp)
  else if conv = 'u' then some (libcScanInt false 10 sp.p.width inp)
  else if conv = 'i' then some (libcScanInt true 0 sp.p.width inp)
  else if conv = 'o' then some (libcScanInt false 8 sp.p.width inp)
  else if conv = 'x' ∨ conv = 'X' then some (libcScanInt false 16 sp.p.width inp)
  else if conv = 's' then
    let (nw, inp1) := skipWhite inp
    match inp1 with
    | [] => some (.eof [])
    | _ =>
      let (w, rest) := takeWhileN (fun c => !isSpace c) (if sp.p.width = 0 then 1000000 else sp.p.width) inp1
      some (.ok (some (.str w)) (nw + w.length) rest)
  else if conv = 'c' then
    let n := if sp.p.width = 0 then 1 else sp.p.width
    if inp.isEmpty then some (.eof [])
    else some (.ok (some (.str (inp.take n))) (min n inp.length) (inp.drop n))
  else none

/-- doscan.c:533-585 around the C library's answer: count the field unless suppressed -/
def doLibcG (O : Oracle) (sp : SP) (conv : Char) (st : SS) : Option (Sum ScanResult SS) :=
  match O sp conv st.inp with
  | none => none
  | some (.eof rest) => some (.inl (eofS { st with inp := rest }))
  | some (.fail rest) => some (.inl (finishS { st with inp := rest }))
  | some (.ok v chars rest) =>
    let st := { st with inp := rest, chars := st.chars + chars }
    if sp.p.ignore then some (.inr st)
    else match v with
      | some o => some (.inr { st with fields := st.fields + 1, outs := st.outs ++ [o] })
      | none => some (.inr st)

theorem doLibc_eq (sp : SP) (conv : Char) (st : SS) : doLibc sp conv st = doLibcG libcOracle sp conv st := by
  rfl

/-! ### directives -/

inductive Dir where
  | white (c : Char)                                  -- a white-space character of the format
  | lit (c : Char)                                    -- an ordinary character
  | pct                                               -- `%%`
  | count (star : Bool)                               -- `%n`, `%*n`
  | mpir (star : Bool) (wd : List Char) (T c : Char) (b : Nat)    -- `%[*][width]Z<c>`, `%[*][width]Q<c>`
  | libc (star : Bool) (wd : List Char) (c : Char)    -- `%[*][width]<c>`, c one of d u i o x X s c
  deriving Repr

def libcBase (c : Char) : Nat :=
  if c = 'd' ∨ c = 'u' then 10 else if c = 'o' then 8 else if c = 'x' ∨ c = 'X' then 16 else 0

def Dir.WF : Dir → Prop
  | .white c => isSpace c = true
  | .lit c => isSpace c = false ∧ c ≠ '%'
  | .pct => True
  | .count _ => True
  | .mpir _ wd T c b => (T = 'Z' ∨ T = 'Q') ∧ ConvChar c b ∧ ∀ x ∈ wd, isDigit x = true
  | .libc _ wd c => c ∈ ['d', 'u', 'i', 'o', 'x', 'X', 's', 'c'] ∧ ∀ x ∈ wd, isDigit x = true

def starChars (star : Bool) : List Char := if star then ['*'] else []

def Dir.render : Dir → List Char
  | .white c => [c]
  | .lit c => [c]
  | .pct => ['%', '%']
  | .count star => '%' :: (starChars star ++ ['n'])
  | .mpir star wd T c _ => '%' :: (starChars star ++ (wd ++ [T, c]))
  | .libc star wd c => '%' :: (starChars star ++ (wd ++ [c]))

/-- the field width a digit string denotes (doscan.c:702-716) -/
def widthOf (wd : List Char) : Nat := wd.foldl (fun a c => a * 10 + digitVal c) 0

inductive Outcome where
  | cont (st : SS) (assigned : Bool)   -- completed; `assigned` = a field was assigned and counted
  | matchFail (st : SS)                -- matching failure: the scan stops
  | inputFail (st : SS)                -- input failure: the scan stops
  | unsupported                        -- outside the modelled subset

def stepDir (O : Oracle) : Dir → SS → Outcome
  | .white _, st =>
    let (nw, inp) := skipWhite st.inp
    .cont { st with inp := inp, chars := st.chars + nw } false
  | .lit c, st =>
    (match st.inp with
     | x :: rest => if x = c then .cont { st with inp := rest, chars := st.chars + 1 } false else .matchFail st
     | [] => .inputFail st)
  | .pct, st =>
    (match st.inp with
     | x :: rest => if x = '%' then .cont { st with inp := rest, chars := st.chars + 1 } false else .matchFail st
     | [] => .inputFail st)
  | .count star, st =>
    if star then .cont st false else .cont { st with outs := st.outs ++ [.int st.chars] } false
  | .mpir star wd T _ b, st =>
    let (nw, inp) := skipWhite st.inp
    let st1 := { st with inp := inp, chars := st.chars + nw }
    let r := gmpscan { base := b, ignore := star, type := T, width := widthOf wd } st1.inp
    if r.ret = -2 then .inputFail st1
    else if r.ret = -1 then .matchFail { st1 with inp := r.rest }
    else
      let st2 := { st1 with inp := r.rest, chars := st1.chars + r.ret.toNat }
      if star then .cont st2 false
      else .cont { st2 with fields := st2.fields + 1, outs := st2.outs ++ valOuts r.val } true
  | .libc star wd c, st =>
    (match O { p := { base := libcBase c, ignore := star, width := widthOf wd } } c st.inp with
     | none => .unsupported
     | some (.eof rest) => .inputFail { st with inp := rest }
     | some (.fail rest) => .matchFail { st with inp := rest }
     | some (.ok v chars rest) =>
       let st2 := { st with inp := rest, chars := st.chars + chars }
       if star then .cont st2 false
       else match v with
         | some o => .cont { st2 with fields := st2.fields + 1, outs := st2.outs ++ [o] } true
         | none => .cont st2 false)

def runDirs (O : Oracle) : List Dir → SS → Option ScanResult
  | [], st => some (finishS st)
  | d :: ds, st =>
    match stepDir O d st with
    | .cont st' _ => runDirs O ds st'
    | .matchFail st' => some (finishS st')
    | .inputFail st' => some (eofS st')
    | .unsupported => none

/-- the count, told without the `fields` variable: (number of assigned fields, stopped by an input failure) -/
def countDirs (O : Oracle) : List Dir → SS → Nat → Option (Nat × Bool)
  | [], _, k => some (k, false)
  | d :: ds, st, k =>
    match stepDir O d st with
    | .cont st' a => countDirs O ds st' (k + (if a then 1 else 0))
    | .matchFail _ => some (k, false)
    | .inputFail _ => some (k, true)
    | .unsupported => none

theorem stepDir_fields (O : Oracle) (d : Dir) (st : SS) :
    match stepDir O d st with
    | .cont st' a => st'.fields = st.fields + (if a then 1 else 0)
    | .matchFail st' | .inputFail st' => st'.fields = st.fields
    | .unsupported => True := by
  have z : st.fields = st.fields + 0 := (Int.add_zero _).symm
  cases d with
  | white c => exact z
  | lit c =>
    simp only [stepDir]
    cases st.inp with
    | nil => rfl
    | cons x rest =>
      by_cases hx : x = c
      · simp only [hx, if_true]; exact z
      · simp only [hx, if_false]
  | pct =>
    simp only [stepDir]
    cases st.inp with
    | nil => rfl
    | cons x rest =>
      by_cases hx : x = '%'
      · simp only [hx, if_true]; exact z
      · simp only [hx, if_false]
  | count star => cases star <;> exact z
  | mpir star wd T c b =>
    simp only [stepDir]
    by_cases h2 : (gmpscan { base := b, ignore := star, type := T, width := widthOf wd } (skipWhite st.inp).2).ret = -2
    · rw [if_pos h2]
    · rw [if_neg h2]
      by_cases h1 : (gmpscan { base := b, ignore := star, type := T, width := widthOf wd } (skipWhite st.inp).2).ret = -1
      · rw [if_pos h1]
      · rw [if_neg h1]
        cases star
        · rfl
        · exact z
  | libc star wd c =>
    simp only [stepDir]
    rcases O { p := { base := libcBase c, ignore := star, width := widthOf wd } } c st.inp with _ | (⟨v, n, rest⟩ | rest | rest)
    · trivial
    · cases star
      · cases v
        · exact z
        · rfl
      · exact z
    · rfl
    · rfl

theorem runDirs_count (O : Oracle) : ∀ (dirs : List Dir) (st : SS) (k : Nat) (r : ScanResult), st.fields = (k : Int) →
    runDirs O dirs st = some r →
    ∃ k' e, countDirs O dirs st k = some (k', e) ∧ k ≤ k' ∧
      r.fields = (if e = true ∧ k' = 0 then -1 else (k' : Int)) := by
  intro dirs
  induction dirs with
  | nil =>
    intro st k r hk hr
    simp only [runDirs, Option.some.injEq] at hr
    refine ⟨k, false, rfl, Nat.le_refl _, ?_⟩
    rw [← hr]; simp [finishS, hk]
  | cons d ds ih =>
    intro st k r hk hr
    have hf := stepDir_fields O d st
    simp only [runDirs] at hr
    simp only [countDirs]
    cases hs : stepDir O d st with
    | cont st' a =>
      rw [hs] at hr hf
      simp only at hr hf
      obtain ⟨k', e, h1, h2, h3⟩ := ih st' (k + (if a then 1 else 0)) r (by rw [hf, hk]; cases a <;> simp) hr
      exact ⟨k', e, h1, by omega, h3⟩
    | matchFail st' =>
      rw [hs] at hr hf
      simp only [Option.some.injEq] at hr hf
      refine ⟨k, false, rfl, Nat.le_refl _, ?_⟩
      rw [← hr]; simp [finishS, hf, hk]
    | inputFail st' =>
      rw [hs] at hr hf
      simp only [Option.some.injEq] at hr hf
      refine ⟨k, true, rfl, Nat.le_refl _, ?_⟩
      rw [← hr]; simp only [eofS, hf, hk]
      by_cases h0 : k = 0
      · simp [h0]
      · have : ¬ ((k : Int) = 0) := by omega
        simp [h0, this]
    | unsupported => rw [hs] at hr; cases hr

/-! ### the character-level model on a rendered directive -/

theorem isDigit_range (x : Char) (h : isDigit x = true) : 48 ≤ x.toNat ∧ x.toNat ≤ 57 := by
  obtain ⟨l0, l9, -⟩ := lits
  simp only [isDigit, cle, l0, l9, Bool.and_eq_true, decide_eq_true_eq] at h
  exact h

theorem isDigit_ne (x d : Char) (h : isDigit x = true) (hd : d.toNat < 48 ∨ 57 < d.toNat) : x ≠ d := by
  have := isDigit_range x h
  intro hx; rw [hx] at this; omega

theorem scanRun_inNum (f : Char) (fs : List Char) (sp : SP) (st : SS) (hf : isDigit f = false) :
    scanRun (f :: fs) (.spec sp) st = scanRun (f :: fs) (.spec { sp with inNum := false }) st := by
  conv_lhs => rw [scanRun]
  conv_rhs => rw [scanRun]
  simp [hf]

theorem scanRun_digits (wd fs : List Char) (st : SS) (hwd : ∀ x ∈ wd, isDigit x = true) : ∀ (sp : SP), sp.inNum = true →
    scanRun (wd ++ fs) (.spec sp) st =
      scanRun fs (.spec { sp with p := { sp.p with width := wd.foldl (fun a c => a * 10 + digitVal c) sp.p.width } }) st := by
  induction wd with
  | nil => intro sp _; rfl
  | cons x t ih =>
    intro sp hn
    have hx := hwd x List.mem_cons_self
    rw [List.cons_append, scanRun]
    simp only [hn, hx, and_self, if_true]
    exact (ih (fun y hy => hwd y (List.mem_cons_of_mem _ hy)) _ rfl).trans rfl

theorem scanRun_digit1 (x : Char) (fs : List Char) (sp : SP) (st : SS) (hx : isDigit x = true) (hn : sp.inNum = false) :
    scanRun (x :: fs) (.spec sp) st =
      scanRun fs (.spec { sp with inNum := true, p := { sp.p with width := digitVal x } }) st := by
  have e : ∀ d : Char, (d.toNat < 48 ∨ 57 < d.toNat) → x ≠ d := fun d hd => isDigit_ne x d hx hd
  rw [scanRun]
  simp only [hn, Bool.false_eq_true, false_and, if_false, e '%' (by decide), e 'c' (by decide), e 's' (by decide),
    e 'd' (by decide), e 'u' (by decide), e 'i' (by decide), e 'o' (by decide), e 'x' (by decide), e 'X' (by decide),
    e 'n' (by decide), e 'F' (by decide), e 'j' (by decide), e 'L' (by decide), e 'q' (by decide), e 'Q' (by decide),
    e 't' (by decide), e 'z' (by decide), e 'Z' (by decide), e 'h' (by decide), e 'l' (by decide), or_self, hx, if_true]

/-- the field width (doscan.c:702-716), possibly absent, followed by a character that is no digit -/
theorem scanRun_width (wd : List Char) (f : Char) (fs : List Char) (sp : SP) (st : SS) (hwd : ∀ x ∈ wd, isDigit x = true)
    (hn : sp.inNum = false) (hw : sp.p.width = 0) (hf : isDigit f = false) :
    scanRun (wd ++ f :: fs) (.spec sp) st =
      scanRun (f :: fs) (.spec { sp with p := { sp.p with width := widthOf wd } }) st := by
  cases wd with
  | nil =>
    obtain ⟨p, inNum⟩ := sp
    obtain ⟨b, i, ty, wdt⟩ := p
    simp only at hw hn
    subst hw hn
    rfl
  | cons x t =>
    have hx := hwd x List.mem_cons_self
    rw [List.cons_append, scanRun_digit1 x _ sp st hx hn,
      scanRun_digits t (f :: fs) st (fun y hy => hwd y (List.mem_cons_of_mem _ hy)) _ rfl, scanRun_inNum f fs _ st hf]
    have : widthOf (x :: t) = t.foldl (fun a c => a * 10 + digitVal c) (digitVal x) := by simp [widthOf]
    rw [this]
    obtain ⟨p, inNum⟩ := sp
    simp only at hn
    subst hn
    rfl

theorem scanRun_starChars (star : Bool) (fs : List Char) (sp : SP) (st : SS) (hn : sp.inNum = false) (hi : sp.p.ignore = false) :
    scanRun (starChars star ++ fs) (.spec sp) st = scanRun fs (.spec { sp with p := { sp.p with ignore := star } }) st := by
  cases star with
  | true => show scanRun ('*' :: fs) (.spec sp) st = _; rw [scanRun]; simp (decide := true) [hn]
  | false =>
    obtain ⟨p, inNum⟩ := sp
    obtain ⟨b, i, ty, wdt⟩ := p
    simp only at hi
    subst hi
    rfl

def contWith (fs : List Char) : Outcome → Option ScanResult
  | .cont st' _ => scanRun fs .text st'
  | .matchFail st' => some (finishS st')
  | .inputFail st' => some (eofS st')
  | .unsupported => none

theorem scanRun_pctpct (fs : List Char) (st : SS) :
    scanRun ('%' :: fs) (.spec {}) st =
      (match st.inp with
       | c :: rest => if c = '%' then scanRun fs .text { st with inp := rest, chars := st.chars + 1 } else some (finishS st)
       | [] => some (eofS st)) := by
  rw [scanRun]; simp (decide := true)
  rfl

theorem scanRun_nG (fs : List Char) (sp : SP) (st : SS) (hn : sp.inNum = false) (hty : sp.p.type = '\x00') :
    scanRun ('n' :: fs) (.spec sp) st =
      if sp.p.ignore then scanRun fs .text st else scanRun fs .text { st with outs := st.outs ++ [.int st.chars] } := by
  rw [scanRun]; simp (decide := true) [hn, hty]

theorem scanRun_dir_mpir (star : Bool) (wd : List Char) (T c : Char) (b : Nat) (hT : T = 'Z' ∨ T = 'Q') (hc : ConvChar c b)
    (hwd : ∀ x ∈ wd, isDigit x = true) (fs : List Char) (st : SS) :
    scanRun ((Dir.mpir star wd T c b).render ++ fs) .text st = contWith fs (stepDir libcOracle (.mpir star wd T c b) st) := by
  have hTd : isDigit T = false := by rcases hT with h | h <;> subst h <;> decide
  show scanRun ('%' :: (starChars star ++ (wd ++ [T, c])) ++ fs) .text st = _
  have e : '%' :: (starChars star ++ (wd ++ [T, c])) ++ fs = '%' :: (starChars star ++ (wd ++ T :: (c :: fs))) := by simp
  rw [e, scanRun_pct, scanRun_starChars star _ _ st rfl rfl, scanRun_width wd T _ _ st hwd rfl rfl hTd,
    scanRun_type T hT _ _ st rfl, scanRun_conv c b hc fs _ st rfl (by simpa using hT)]
  simp only [doNumeric, stepDir]
  generalize hr : gmpscan { base := b, ignore := star, type := T, width := widthOf wd } (skipWhite st.inp).2 = r
  by_cases e2 : r.ret = -2
  · simp [e2, hr, contWith]
  · by_cases e1 : r.ret = -1
    · simp [e2, e1, hr, contWith]
    · cases star <;> cases hv : r.val <;> simp [e2, e1, hr, hv, contWith, valOuts]

theorem scanRun_libc_conv (c : Char) (hc : c ∈ ['d', 'u', 'i', 'o', 'x', 'X', 's', 'c']) (fs : List Char) (sp : SP) (st : SS)
    (hn : sp.inNum = false) (hty : sp.p.type = '\x00') (hb : sp.p.base = 0) :
    scanRun (c :: fs) (.spec sp) st =
      (match doLibcG libcOracle { sp with p := { sp.p with base := libcBase c } } c st with
       | some (.inl r) => some r
       | some (.inr st) => scanRun fs .text st
       | none => none) := by
  obtain ⟨p, inNum⟩ := sp
  obtain ⟨b, i, ty, wdt⟩ := p
  simp only at hn hty hb
  subst hn hty hb
  simp only [List.mem_cons, List.not_mem_nil, or_false] at hc
  rcases hc with h | h | h | h | h | h | h | h <;> subst h <;>
  · rw [scanRun]; simp (decide := true) [doLibc_eq, libcBase]; rfl

theorem scanRun_dir_libc (star : Bool) (wd : List Char) (c : Char) (hc : c ∈ ['d', 'u', 'i', 'o', 'x', 'X', 's', 'c'])
    (hwd : ∀ x ∈ wd, isDigit x = true) (fs : List Char) (st : SS) :
    scanRun ((Dir.libc star wd c).render ++ fs) .text st = contWith fs (stepDir libcOracle (.libc star wd c) st) := by
  have hcd : isDigit c = false := by
    simp only [List.mem_cons, List.not_mem_nil, or_false] at hc
    rcases hc with h | h | h | h | h | h | h | h <;> subst h <;> decide
  show scanRun ('%' :: (starChars star ++ (wd ++ [c])) ++ fs) .text st = _
  have e : '%' :: (starChars star ++ (wd ++ [c])) ++ fs = '%' :: (starChars star ++ (wd ++ c :: fs)) := by simp
  rw [e, scanRun_pct, scanRun_starChars star _ _ st rfl rfl, scanRun_width wd c _ _ st hwd rfl rfl hcd,
    scanRun_libc_conv c hc fs _ st rfl rfl rfl]
  simp only [doLibcG, stepDir]
  generalize libcOracle { p := { base := libcBase c, ignore := star, width := widthOf wd } } c st.inp = res
  cases res with
  | none => simp [contWith]
  | some r =>
    cases r with
    | eof rest => simp [contWith]
    | fail rest => simp [contWith]
    | ok v chars rest => cases star <;> cases v <;> simp [contWith]

theorem scanRun_dir (d : Dir) (hd : d.WF) (fs : List Char) (st : SS) :
    scanRun (d.render ++ fs) .text st = contWith fs (stepDir libcOracle d st) := by
  cases d with
  | white c =>
    have hc : isSpace c = true := hd
    show scanRun (c :: fs) .text st = _
    rw [scanRun]; simp [hc, stepDir, contWith]
  | lit c =>
    obtain ⟨h1, h2⟩ : isSpace c = false ∧ c ≠ '%' := hd
    show scanRun (c :: fs) .text st = _
    rw [scanRun]; simp only [h1, Bool.false_eq_true, if_false, h2, stepDir]
    cases st.inp with
    | nil => simp [contWith]
    | cons x r => simp only; split <;> simp [contWith]
  | pct =>
    show scanRun ('%' :: '%' :: fs) .text st = _
    rw [scanRun_pct, scanRun_pctpct]
    simp only [stepDir]
    cases st.inp with
    | nil => simp [contWith]
    | cons x r => by_cases hx : x = '%' <;> simp [hx, contWith]
  | count star =>
    show scanRun ('%' :: (starChars star ++ ['n']) ++ fs) .text st = _
    have e : '%' :: (starChars star ++ ['n']) ++ fs = '%' :: (starChars star ++ 'n' :: fs) := by simp
    rw [e, scanRun_pct, scanRun_starChars star _ _ st rfl rfl, scanRun_nG _ _ _ rfl rfl]
    cases star <;> simp [stepDir, contWith]
  | mpir star wd T c b =>
    obtain ⟨hT, hc, hwd⟩ := hd
    exact scanRun_dir_mpir star wd T c b hT hc hwd fs st
  | libc star wd c =>
    obtain ⟨hc, hwd⟩ := hd
    exact scanRun_dir_libc star wd c hc hwd fs st

theorem scanRun_dirs : ∀ (dirs : List Dir), (∀ d ∈ dirs, d.WF) → ∀ st,
    scanRun (dirs.flatMap Dir.render) .text st = runDirs libcOracle dirs st := by
  intro dirs
  induction dirs with
  | nil => intro _ st; simp [scanRun, runDirs]
  | cons d ds ih =>
    intro h st
    rw [List.flatMap_cons, scanRun_dir d (h d List.mem_cons_self)]
    simp only [runDirs]
    cases stepDir libcOracle d st with
    | cont st' a => simp only [contWith]; exact ih (fun x hx => h x (List.mem_cons_of_mem _ hx)) st'
    | matchFail st' => rfl
    | inputFail st' => rfl
    | unsupported => rfl

/-! ### one MPIR conversion followed by `%n` -/

theorem doscan_mpir_n (star : Bool) (T c : Char) (b : Nat) (hT : T = 'Z' ∨ T = 'Q') (hc : ConvChar c b) (inp : List Char) :
    doscan ('%' :: (starChars star ++ [T, c, '%', 'n'])) inp =
      runDirs libcOracle [.mpir star [] T c b, .count false] { inp := inp } := by
  have h := scanRun_dirs [.mpir star [] T c b, .count false]
    (by intro d hd; simp only [List.mem_cons, List.not_mem_nil, or_false] at hd
        rcases hd with rfl | rfl
        · exact ⟨hT, hc, by simp⟩
        · trivial) { inp := inp }
  rw [← h]; unfold doscan
  cases star <;> simp [Dir.render, starChars]

theorem doscan_Tn (T c : Char) (b : Nat) (hT : T = 'Z' ∨ T = 'Q') (hc : ConvChar c b) (inp : List Char) :
    doscan ['%', T, c, '%', 'n'] inp =
      (if (gmpscan { base := b, type := T } (skipWhite inp).2).ret = -2 then
        some { fields := -1, outs := [], rest := (skipWhite inp).2 }
      else if (gmpscan { base := b, type := T } (skipWhite inp).2).ret = -1 then
        some { fields := 0, outs := [], rest := (gmpscan { base := b, type := T } (skipWhite inp).2).rest }
      else
        some { fields := 1,
               outs := valOuts (gmpscan { base := b, type := T } (skipWhite inp).2).val ++
                 [.int (((skipWhite inp).1 + (gmpscan { base := b, type := T } (skipWhite inp).2).ret.toNat : Nat) : Int)],
               rest := (gmpscan { base := b, type := T } (skipWhite inp).2).rest }) := by
  have h := doscan_mpir_n false T c b hT hc inp
  simp only [starChars, Bool.false_eq_true, if_false, List.nil_append] at h
  rw [h]
  simp only [runDirs, stepDir, widthOf, List.foldl_nil]
  by_cases e2 : (gmpscan { base := b, type := T } (skipWhite inp).2).ret = -2
  · simp [e2, eofS]
  · by_cases e1 : (gmpscan { base := b, type := T } (skipWhite inp).2).ret = -1
    · simp [e2, e1, finishS]
    · simp [e2, e1, finishS, runDirs, stepDir]

end Mpir.Scanf
