/- The "numerator less than twice the denominator" branch of mpn_tdiv_qr at limb level: the extraction, then the steps after it. -/

import MpirProofs.Lemmas.TdivQrBase

namespace Mpir.TdivQr
open Mpir Mpir.DivWord Mpir.SbDiv Mpir.Tdiv

/-! ### tdiv_qr.c:199-247: the extraction of the normalised top parts of divisor and numerator -/

/-- a vector cut at bit 64-c of limb i: the part above, shifted left by c, times the unit W = 2^(64-c)·B^i, plus the
    part below, which is smaller than W -/
theorem split_W (a : List Nat) (i c : Nat) (hi : i < a.length) (ha : Limbs a) (hc : c ≤ 64) :
    val a = (val (a.drop (i + 1)) * 2 ^ c + a.getD i 0 >>> (64 - c)) * (2 ^ (64 - c) * B ^ i) +
      (a.getD i 0 % 2 ^ (64 - c) * B ^ i + val (a.take i)) ∧
    a.getD i 0 % 2 ^ (64 - c) * B ^ i + val (a.take i) < 2 ^ (64 - c) * B ^ i := by
  have hs := val_split_at a i hi
  have hB := Mpir.B_split c hc
  have hdm := Nat.div_add_mod (a.getD i 0) (2 ^ (64 - c))
  have hlt := val_lt (a.take i) (Limbs_take ha i)
  rw [List.length_take, Nat.min_eq_left (by omega)] at hlt
  have hm : a.getD i 0 % 2 ^ (64 - c) < 2 ^ (64 - c) := Nat.mod_lt _ (by positivity)
  constructor
  · rw [Nat.shiftRight_eq_div_pow, hs]
    generalize a.getD i 0 / 2 ^ (64 - c) = hi' at *
    generalize a.getD i 0 % 2 ^ (64 - c) = lo' at *
    generalize val (a.drop (i + 1)) = up at *
    generalize val (a.take i) = low at *
    generalize a.getD i 0 = x at *
    rw [← hdm, hB]; ring
  · have : (a.getD i 0 % 2 ^ (64 - c) + 1) * B ^ i ≤ 2 ^ (64 - c) * B ^ i := Nat.mul_le_mul_right _ hm
    have e : (a.getD i 0 % 2 ^ (64 - c) + 1) * B ^ i = a.getD i 0 % 2 ^ (64 - c) * B ^ i + B ^ i := by ring
    omega

/-- `d2p[0] |= v` after mpn_lshift is mpn_lshift with v shifted in at the bottom (tdiv_qr.c:220-221, :232, :321-322) -/
theorem orLow_lshift (u : List Nat) (c v : Nat) (hne : u ≠ []) :
    orLow (lshift u c).1 v = (lshiftGo c u v).1 ∧ (lshift u c).2 = (lshiftGo c u v).2 := by
  match u, hne with
  | x :: xs, _ => simp [lshift, lshiftGo, orLow]

theorem orLow_lshift_val (u : List Nat) (c v : Nat) (hne : u ≠ []) (hu : Limbs u) (hc : c ≤ 64) (hv : v < 2 ^ c) :
    val (orLow (lshift u c).1 v) + B ^ u.length * (lshift u c).2 = val u * 2 ^ c + v ∧
    (lshift u c).2 < 2 ^ c ∧ Limbs (orLow (lshift u c).1 v) ∧ (orLow (lshift u c).1 v).length = u.length := by
  obtain ⟨e1, e2⟩ := orLow_lshift u c v hne
  rw [e1, e2]
  exact lshiftGo_val c hc u v hu hv

/-- `(lshift (x :: us)).1 ++ [cy]` without its lowest limb (tdiv_qr.c:227-228 `n2p[2 * qn] = cy; n2p++`) -/
theorem drop_one_lshift (x : Nat) (us : List Nat) (c : Nat) (hx : x < B) (hu : Limbs us) (hc : c ≤ 64) :
    val (((lshift (x :: us) c).1 ++ [(lshift (x :: us) c).2]).drop 1) = val us * 2 ^ c + x >>> (64 - c) ∧
    Limbs (((lshift (x :: us) c).1 ++ [(lshift (x :: us) c).2]).drop 1) ∧
    (((lshift (x :: us) c).1 ++ [(lshift (x :: us) c).2]).drop 1).length = us.length + 1 := by
  have e : ((lshift (x :: us) c).1 ++ [(lshift (x :: us) c).2]).drop 1 =
      (lshiftGo c us (x >>> (64 - c))).1 ++ [(lshiftGo c us (x >>> (64 - c))).2] := by
    simp [lshift, lshiftGo]
  obtain ⟨hv, hcy, hl, hlen⟩ := lshiftGo_val c hc us (x >>> (64 - c)) hu (shr_lt x c hc hx)
  have h2 : (2 : Nat) ^ c ≤ B := by
    have := Mpir.B_split c hc
    have hp : 0 < 2 ^ (64 - c) := by positivity
    rw [this]; exact Nat.le_mul_of_pos_right _ hp
  rw [e]
  refine ⟨?_, Limbs.snoc hl (by omega), by simp [hlen]⟩
  rw [val_snoc, hlen]; exact hv

theorem shr_64 (x : Nat) (hx : x < B) : x >>> 64 = 0 := by
  rw [Nat.shiftRight_eq_div_pow]; exact Nat.div_eq_of_lt hx

/-- what the extraction step delivers, `i = in - 1`: the divisor and the numerator cut at bit 64-cnt of limb i (see
    `split_W`), the divisor part normalised, and the numerator part below divisor part · B^qn -/
def ExtractSpec (n d : List Nat) (qn i : Nat) (ex : Nat × List Nat × List Nat) : Prop :=
  ex.1 ≤ 63 ∧
  val ex.2.1 = val (d.drop (i + 1)) * 2 ^ ex.1 + d.getD i 0 >>> (64 - ex.1) ∧
  Limbs ex.2.1 ∧ ex.2.1.length = qn ∧ B ^ qn ≤ 2 * val ex.2.1 ∧
  val ex.2.2 = val (n.drop (i + 1)) * 2 ^ ex.1 + n.getD i 0 >>> (64 - ex.1) ∧
  Limbs ex.2.2 ∧ ex.2.2.length = 2 * qn ∧ val ex.2.2 < val ex.2.1 * B ^ qn

/-- Vn, Vd: the parts of n, d above the cut, W·c = B^(i+1), K = B^(qn-1) -/
theorem extract_fit (N Vn Vd dtop W c K Bq : Nat) (hN : Vn * W ≤ N)
    (hfit : N < dtop * (K * Bq * (W * c))) (hd : dtop * c * K ≤ Vd) : Vn < Vd * Bq := by
  apply Nat.lt_of_mul_lt_mul_right (a := W)
  calc Vn * W ≤ N := hN
    _ < dtop * (K * Bq * (W * c)) := hfit
    _ = dtop * c * K * (Bq * W) := by ring
    _ ≤ Vd * (Bq * W) := Nat.mul_le_mul_right _ hd
    _ = Vd * Bq * W := by ring

/-- the numerator limbs of tdiv_qr.c:224-232 (`c ≠ 0`) and :241-246 (`c = 0`, plain copies): with or without the extra
    limb, 2qn limbs holding the part of n above bit 64-c of limb i; they fit because of what `adjust` tested.
    Vd: the value of the extracted divisor, qn = k + 1. -/
theorem extract_num (n : List Nat) (dtop Vd i c k adjust : Nat) (hn : Limbs n) (hc : c ≤ 63) (hin : i < n.length)
    (hadj01 : adjust = 0 ∨ adjust = 1) (hlen : n.length + adjust = i + 1 + 2 * (k + 1))
    (hfit : val n < dtop * B ^ (n.length + adjust - 1)) (hd2 : dtop * 2 ^ c * B ^ k ≤ Vd) (hd2lt : Vd < B ^ (k + 1))
    (n2p : List Nat)
    (h : n2p = if adjust ≠ 0 then
          ((lshift (n.drop (n.length - 2 * (k + 1))) c).1 ++ [(lshift (n.drop (n.length - 2 * (k + 1))) c).2]).drop 1
        else orLow (lshift (n.drop (n.length - 2 * (k + 1))) c).1
          (n.getD (n.length - 2 * (k + 1) - 1) 0 >>> (64 - c))) :
    val n2p = val (n.drop (i + 1)) * 2 ^ c + n.getD i 0 >>> (64 - c) ∧ Limbs n2p ∧ n2p.length = 2 * (k + 1) ∧
    val n2p < Vd * B ^ (k + 1) := by
  have hnl : Limbs (n.drop (i + 1)) := Limbs_drop hn _
  have hni : n.getD i 0 < B := getD_lt hn i
  have hf : val (n.drop (i + 1)) * 2 ^ c + n.getD i 0 >>> (64 - c) < Vd * B ^ (k + 1) := by
    obtain ⟨hWn, _⟩ := split_W n i c hin hn (Nat.le_succ_of_le hc)
    have hWc : 2 ^ (64 - c) * B ^ i * 2 ^ c = B ^ (i + 1) := by rw [pow_succ, Mpir.B_split c (Nat.le_succ_of_le hc)]; ring
    rw [show n.length + adjust - 1 = k + (k + 1) + (i + 1) by clear * - hlen; omega, pow_add, pow_add, ← hWc] at hfit
    exact extract_fit (val n) _ Vd dtop (2 ^ (64 - c) * B ^ i) (2 ^ c) (B ^ k) (B ^ (k + 1)) (by omega) hfit hd2
  have hlt : val (n.drop (i + 1)) * 2 ^ c + n.getD i 0 >>> (64 - c) < B ^ (2 * (k + 1)) := by
    calc _ < Vd * B ^ (k + 1) := hf
      _ ≤ B ^ (k + 1) * B ^ (k + 1) := Nat.mul_le_mul_right _ (Nat.le_of_lt hd2lt)
      _ = B ^ (2 * (k + 1)) := by rw [← pow_add]; congr 1; omega
  suffices hs : val n2p = val (n.drop (i + 1)) * 2 ^ c + n.getD i 0 >>> (64 - c) ∧ Limbs n2p ∧
      n2p.length = 2 * (k + 1) from ⟨hs.1, hs.2.1, hs.2.2, by rw [hs.1]; exact hf⟩
  clear hf hfit hd2 hd2lt
  rcases hadj01 with rfl | rfl
  · have e : n.length - 2 * (k + 1) = i + 1 := by clear * - hlen; omega
    have hlen' : (n.drop (i + 1)).length = 2 * (k + 1) := by rw [List.length_drop]; clear * - hlen; omega
    rw [e, Nat.add_sub_cancel, if_neg (by decide)] at h
    subst h
    obtain ⟨nv, _, nl, nlen⟩ := orLow_lshift_val (n.drop (i + 1)) c (n.getD i 0 >>> (64 - c))
      (by intro h0; rw [h0] at hlen'; simp at hlen') hnl (by omega) (shr_lt _ c (by omega) hni)
    rw [hlen'] at nv nlen
    exact ⟨(carry_zero nv hlt).2, nl, nlen⟩
  · have e : n.length - 2 * (k + 1) = i := by clear * - hlen; omega
    have hlen' : (n.drop (i + 1)).length + 1 = 2 * (k + 1) := by rw [List.length_drop]; clear * - hlen; omega
    rw [e, if_pos (by decide), drop_eq_getD_cons n i hin] at h
    subst h
    obtain ⟨nv, nl, nlen⟩ := drop_one_lshift _ _ c hni hnl (by omega)
    exact ⟨nv, nl, by rw [nlen, hlen']⟩

theorem lt2Extract_spec (n d : List Nat) (hn : Limbs n) (hd : Limbs d) (qn i adjust : Nat) (hqn : 1 ≤ qn)
    (hdn : d.length = qn + (i + 1)) (hnn : n.length + adjust = d.length + qn) (hadj01 : adjust = 0 ∨ adjust = 1)
    (htop : d.getD (d.length - 1) 0 ≠ 0)
    (hfit : val n < d.getD (d.length - 1) 0 * B ^ (n.length + adjust - 1)) :
    ExtractSpec n d qn i (lt2Extract n d adjust qn (i + 1)) := by
  have htB : d.getD (d.length - 1) 0 < B := getD_lt hd _
  obtain ⟨k, rfl⟩ := Nat.exists_eq_add_of_le' hqn
  have hud : (d.drop (i + 1)).length = k + 1 := by rw [List.length_drop, hdn, Nat.add_sub_cancel]
  have hudtop : (d.drop (i + 1)).getD k 0 = d.getD (d.length - 1) 0 := by
    rw [getD_drop]; congr 1; clear * - hdn; omega
  have hudl : Limbs (d.drop (i + 1)) := Limbs_drop hd _
  have hin : i < n.length := by clear * - hdn hnn hadj01; omega
  have hdlimb : d.getD i 0 < B := getD_lt hd i
  unfold lt2Extract ExtractSpec
  simp only [Nat.add_sub_cancel]
  by_cases hlt : d.getD (d.length - 1) 0 < B / 2
  · rw [if_pos ((highbit_zero _ htB).mpr hlt)]
    simp only []
    obtain ⟨hc63, hclo, hchi⟩ := clz_spec _ htop htB
    generalize count_leading_zeros (d.getD (d.length - 1) 0) = c at *
    rw [(orLow_lshift (d.drop (i + 1)) c (d.getD i 0 >>> (64 - c)) (by intro h0; rw [h0] at hud; simp at hud)).1]
    rw [← hudtop] at hclo hchi
    obtain ⟨dv, dl, dlen, _, dnorm, dge⟩ := lshiftGo_norm (d.drop (i + 1)) k c _ hudl hud (by omega)
      (shr_lt _ c (by omega) hdlimb) hclo hchi
    rw [hudtop] at dge
    have hdlt := val_lt _ dl
    rw [dlen] at hdlt
    obtain ⟨nv, nl, nlen, nfit⟩ := extract_num n _ _ i c k adjust hn hc63 hin hadj01 (by omega) hfit dge hdlt _ rfl
    exact ⟨hc63, dv, dl, dlen, dnorm, nv, nl, nlen, nfit⟩
  · rw [if_neg (fun h => hlt ((highbit_zero _ htB).mp h))]
    simp only []
    obtain ⟨hub1, _⟩ := top_bounds (d.drop (i + 1)) k hudl hud
    rw [hudtop] at hub1
    have hdlt := val_lt _ hudl
    rw [hud] at hdlt
    -- the copies are shifts by 0
    obtain ⟨nv, nl, nlen, nfit⟩ := extract_num n _ _ i 0 k adjust hn (by omega) hin hadj01 (by omega) hfit
      (by rw [pow_zero, Nat.mul_one]; exact hub1) hdlt
      (if adjust ≠ 0 then (n.drop (n.length - 2 * (k + 1)) ++ [0]).drop 1 else n.drop (n.length - 2 * (k + 1)))
      (by rw [lshift_zero _ (Limbs_drop hn _), Nat.sub_zero, shr_64 _ (getD_lt hn _)]
          cases n.drop (n.length - 2 * (k + 1)) <;> simp [orLow])
    refine ⟨by omega, ?_, hudl, hud, (norm_iff_top _ k hudl hud).mpr (by rw [hudtop]; omega), nv, nl, nlen, nfit⟩
    rw [Nat.sub_zero, shr_64 _ hdlimb]; simp

/-! ### tdiv_qr.c:250-274: the approximate quotient -/

theorem lt2Estimate_spec (T : Thresholds) (n2 d2 : List Nat) (qn : Nat) (hqn : 1 ≤ qn) (hn2 : Limbs n2) (hd2 : Limbs d2)
    (hln : n2.length = 2 * qn) (hld : d2.length = qn) (hnorm : B ^ qn ≤ 2 * val d2) (hfit : val n2 < val d2 * B ^ qn) :
    val (lt2Estimate T n2 d2 qn).1 = val n2 / val d2 ∧ val (lt2Estimate T n2 d2 qn).2.1 = val n2 % val d2 ∧
    Limbs (lt2Estimate T n2 d2 qn).1 ∧ (lt2Estimate T n2 d2 qn).1.length = qn ∧
    Limbs (lt2Estimate T n2 d2 qn).2.1 ∧ (lt2Estimate T n2 d2 qn).2.1.length = qn ∧
    (lt2Estimate T n2 d2 qn).2.2 = true := by
  have hd0 : 0 < val d2 := by have := Bpow_pos qn; omega
  have hfit' : val n2 < val d2 * B ^ (n2.length - d2.length) := by
    rw [hln, hld]; have : 2 * qn - qn = qn := by omega
    rw [this]; exact hfit
  have hgen : ∀ res : List Nat × List Nat × Nat, res = divQrSpec n2 d2 →
      val res.1 = val n2 / val d2 ∧ val res.2.1 = val n2 % val d2 ∧ Limbs res.1 ∧ res.1.length = qn ∧
      Limbs res.2.1 ∧ res.2.1.length = qn ∧ (res.2.2 == 0) = true := by
    intro res hres
    obtain ⟨_, hr, _, hq3, hq4, hr3, hr4⟩ := divQrSpec_spec n2 d2 hd2 hd0
    obtain ⟨h0, hq⟩ := divQrSpec_fit n2 d2 hd2 hd0 hfit'
    rw [hres]
    exact ⟨hq, hr, hq3, by rw [hq4, hln, hld]; omega, hr3, by rw [hr4, hld], by rw [h0]; rfl⟩
  unfold lt2Estimate
  by_cases h1 : qn = 1
  · rw [if_pos h1]
    subst h1
    have e2 := list_len2 n2 hln
    have e1 := list_len1 d2 hld
    have hv2 : val n2 = n2.getD 1 0 * B + n2.getD 0 0 := by
      conv_lhs => rw [e2]
      simp [val_cons]; ring
    have hv1 : val d2 = d2.getD 0 0 := by
      conv_lhs => rw [e1]
      simp [val_cons]
    have hlt : n2.getD 1 0 < d2.getD 0 0 := by
      rw [hv2, hv1, pow_one] at hfit
      by_contra hc
      have : d2.getD 0 0 * B ≤ n2.getD 1 0 * B := Nat.mul_le_mul_right _ (by omega)
      omega
    have hn0 : n2.getD 0 0 < B := getD_lt hn2 0
    rw [udiv_qrnnd_eq _ _ _ hlt hn0]
    have hqB : (n2.getD 1 0 * B + n2.getD 0 0) / d2.getD 0 0 < B := udiv_qrnnd_lt _ _ _ hlt hn0
    have hrB : (n2.getD 1 0 * B + n2.getD 0 0) % d2.getD 0 0 < B :=
      Nat.lt_trans (Nat.mod_lt _ (by omega)) (getD_lt hd2 0)
    refine ⟨?_, ?_, Limbs_cons.mpr ⟨hqB, Limbs_nil⟩, rfl, Limbs_cons.mpr ⟨hrB, Limbs_nil⟩, rfl, rfl⟩
    · show val [(n2.getD 1 0 * B + n2.getD 0 0) / d2.getD 0 0] = _
      rw [hv2, hv1]; simp [val_cons]
    · show val [(n2.getD 1 0 * B + n2.getD 0 0) % d2.getD 0 0] = _
      rw [hv2, hv1]; simp [val_cons]
  · rw [if_neg h1]
    by_cases h2 : qn = 2
    · rw [if_pos h2, divrem_2_zero n2 d2 (by rw [hld, h2])]
      obtain ⟨a, b, c, d, e, f, _⟩ := hgen _ rfl
      exact ⟨a, b, c, d, e, f, rfl⟩
    · rw [if_neg h2]
      obtain ⟨k, hk⟩ : ∃ k, qn = k + 1 := ⟨qn - 1, by omega⟩
      rw [callDivQr_eq _ n2 d2 hn2 hd2 (by omega) (by omega)
        (by rw [hld, hk, Nat.add_sub_cancel]; exact (norm_iff_top d2 k hd2 (by rw [hld, hk])).mp (by rw [← hk]; exact hnorm))]
      exact hgen _ rfl

/-! ### tdiv_qr.c:276-313: the first ignored divisor limb (:286-292) -/

theorem mask_eq_mod (x c : Nat) (hc : c ≤ 64) : x &&& ((B - 1) >>> c) = x % 2 ^ (64 - c) := by
  have hB := Mpir.B_split c hc
  have hp : 0 < 2 ^ c := by positivity
  have hq : 0 < 2 ^ (64 - c) := by positivity
  obtain ⟨p, hp'⟩ : ∃ p, 2 ^ (64 - c) = p + 1 := ⟨2 ^ (64 - c) - 1, by omega⟩
  have : (B - 1) >>> c = 2 ^ (64 - c) - 1 := by
    rw [Nat.shiftRight_eq_div_pow, hp', Nat.add_sub_cancel]
    rw [hp'] at hB
    generalize 2 ^ c = Q at *
    have e : Q * (p + 1) = p * Q + Q := by ring
    apply Nat.div_eq_of_lt_le
    · rw [hB, e]; omega
    · rw [hB, e, Nat.add_mul, Nat.one_mul]; omega
  rw [this, Nat.and_two_pow_sub_one_eq_mod]

/-- x is the top limb of the ignored part of the normalised divisor:
    x·B^i ≤ dl·2^c < (x+1)·B^i for dl = (d[i] mod 2^(64-c))·B^i + (the i limbs below) -/
theorem lt2X_spec (d : List Nat) (i c : Nat) (hd : Limbs d) (hi : i < d.length) (hc : c ≤ 63) :
    lt2X d (i + 1) c < B ∧
    lt2X d (i + 1) c * B ^ i ≤ (d.getD i 0 % 2 ^ (64 - c) * B ^ i + val (d.take i)) * 2 ^ c ∧
    (d.getD i 0 % 2 ^ (64 - c) * B ^ i + val (d.take i)) * 2 ^ c < (lt2X d (i + 1) c + 1) * B ^ i := by
  have hc64 : c ≤ 64 := by omega
  have hBs := Mpir.B_split c hc64
  have hp : 0 < 2 ^ c := by positivity
  -- the limb below, as far as it is shifted in
  obtain ⟨lo, hlo, hlolt, hlow⟩ : ∃ lo, (((if i + 1 < 2 then 0 else d.getD (i + 1 - 2) 0) >>> 1) >>> (63 - c)) = lo ∧
      lo < 2 ^ c ∧ lo * B ^ i ≤ val (d.take i) * 2 ^ c ∧ val (d.take i) * 2 ^ c < (lo + 1) * B ^ i := by
    refine ⟨_, rfl, ?_, ?_⟩
    · rw [← Nat.shiftRight_add, show 1 + (63 - c) = 64 - c by omega]
      apply shr_lt _ c hc64
      split
      · exact B_pos
      · exact getD_lt hd _
    · rw [← Nat.shiftRight_add, show 1 + (63 - c) = 64 - c by omega]
      rcases Nat.eq_zero_or_pos i with h0 | hpos
      · subst h0
        simp
      · obtain ⟨j, hj⟩ : ∃ j, i = j + 1 := ⟨i - 1, by omega⟩
        subst hj
        rw [if_neg (by omega), show j + 1 + 1 - 2 = j by omega]
        have hlt : j < (d.take (j + 1)).length := by rw [List.length_take]; omega
        obtain ⟨hW, hWlt⟩ := split_W (d.take (j + 1)) j c hlt (Limbs_take hd _) hc64
        have hdr : (d.take (j + 1)).drop (j + 1) = [] := by
          apply List.drop_eq_nil_of_le; rw [List.length_take]; omega
        have hg := getD_take_succ d j
        rw [hdr, hg] at hW
        rw [hg] at hWlt
        simp only [val_nil, Nat.zero_mul, Nat.zero_add] at hW
        generalize d.getD j 0 % 2 ^ (64 - c) * B ^ j + val ((d.take (j + 1)).take j) = low at *
        generalize d.getD j 0 >>> (64 - c) = lo at *
        rw [hW, pow_succ]
        have e1 : (lo * (2 ^ (64 - c) * B ^ j) + low) * 2 ^ c = lo * (B ^ j * B) + low * 2 ^ c := by
          rw [hBs]; ring
        have e2 : low * 2 ^ c < B ^ j * B := by
          calc low * 2 ^ c < 2 ^ (64 - c) * B ^ j * 2 ^ c := Nat.mul_lt_mul_of_pos_right hWlt hp
            _ = B ^ j * B := by rw [hBs]; ring
        rw [e1]
        constructor
        · omega
        · have : (lo + 1) * (B ^ j * B) = lo * (B ^ j * B) + B ^ j * B := by ring
          omega
  have hx : lt2X d (i + 1) c = ((d.getD i 0 <<< c) % B) ||| lo := by
    unfold lt2X
    simp only [Nat.add_sub_cancel]
    rw [hlo]
  obtain ⟨e, hxB⟩ := lshift_limb (d.getD i 0) lo c hc64 hlolt
  rw [← hx] at e hxB
  have hdm := Nat.div_add_mod (d.getD i 0) (2 ^ (64 - c))
  rw [Nat.shiftRight_eq_div_pow] at e
  -- x = m·2^c + lo
  have hxv : lt2X d (i + 1) c = d.getD i 0 % 2 ^ (64 - c) * 2 ^ c + lo := by
    have : d.getD i 0 * 2 ^ c = B * (d.getD i 0 / 2 ^ (64 - c)) + d.getD i 0 % 2 ^ (64 - c) * 2 ^ c := by
      conv_lhs => rw [← hdm]
      rw [hBs]; ring
    omega
  refine ⟨hxB, ?_, ?_⟩
  · rw [hxv]
    have : (d.getD i 0 % 2 ^ (64 - c) * B ^ i + val (d.take i)) * 2 ^ c =
        d.getD i 0 % 2 ^ (64 - c) * 2 ^ c * B ^ i + val (d.take i) * 2 ^ c := by ring
    rw [this, Nat.add_mul]; omega
  · rw [hxv]
    have : (d.getD i 0 % 2 ^ (64 - c) * B ^ i + val (d.take i)) * 2 ^ c =
        d.getD i 0 % 2 ^ (64 - c) * 2 ^ c * B ^ i + val (d.take i) * 2 ^ c := by ring
    have e3 : (d.getD i 0 % 2 ^ (64 - c) * 2 ^ c + lo + 1) * B ^ i =
        d.getD i 0 % 2 ^ (64 - c) * 2 ^ c * B ^ i + (lo + 1) * B ^ i := by ring
    rw [this, e3]; omega

/-! ### tdiv_qr.c:276-313: the test against it -/

theorem lt2Step2_spec (d : List Nat) (in_ c qn : Nat) (qp rem d2 : List Nat) (hqp : Limbs qp)
    (hrem : Limbs rem) (hd2 : Limbs d2) (hlr : rem.length = qn) (hld : d2.length = qn)
    (hqlo : qp.getD (qn - 1) 0 * B ^ (qn - 1) ≤ val qp) :
    (rem.getD (qn - 1) 0 < (umul_ppmm (lt2X d in_ c) (qp.getD (qn - 1) 0)).1 ∧
      val (lt2Step2 d in_ c qn qp rem d2).1 + 1 = val qp ∧ Limbs (lt2Step2 d in_ c qn qp rem d2).1 ∧
      (lt2Step2 d in_ c qn qp rem d2).1.length = qp.length ∧
      val (lt2Step2 d in_ c qn qp rem d2).2 = val rem + val d2 ∧ Limbs (lt2Step2 d in_ c qn qp rem d2).2 ∧
      ((lt2Step2 d in_ c qn qp rem d2).2.length = qn ∨
       ((lt2Step2 d in_ c qn qp rem d2).2.length = qn + 1 ∧ B ^ qn ≤ val (lt2Step2 d in_ c qn qp rem d2).2))) ∨
    ((umul_ppmm (lt2X d in_ c) (qp.getD (qn - 1) 0)).1 ≤ rem.getD (qn - 1) 0 ∧
      lt2Step2 d in_ c qn qp rem d2 = (qp, rem)) := by
  unfold lt2Step2
  simp only []
  by_cases hf : rem.getD (qn - 1) 0 < (umul_ppmm (lt2X d in_ c) (qp.getD (qn - 1) 0)).1
  · left
    rw [if_pos hf]
    refine ⟨hf, ?_⟩
    -- the quotient is at least 1
    have hq1 : 1 ≤ val qp := by
      have h1 : 1 ≤ lt2X d in_ c * qp.getD (qn - 1) 0 / B := by
        have : (umul_ppmm (lt2X d in_ c) (qp.getD (qn - 1) 0)).1 = lt2X d in_ c * qp.getD (qn - 1) 0 / B := rfl
        omega
      have h2 : 0 < lt2X d in_ c * qp.getD (qn - 1) 0 := by
        rcases Nat.eq_zero_or_pos (lt2X d in_ c * qp.getD (qn - 1) 0) with h0 | h0
        · rw [h0] at h1; simp at h1
        · exact h0
      have h3 : 0 < qp.getD (qn - 1) 0 := Nat.pos_of_mul_pos_left h2
      have : 1 * B ^ (qn - 1) ≤ qp.getD (qn - 1) 0 * B ^ (qn - 1) := Nat.mul_le_mul_right _ h3
      have := Bpow_pos (qn - 1)
      omega
    obtain ⟨dv, dl, dn⟩ := decr_pos qp hqp hq1
    obtain ⟨av, ac, al, an⟩ := addNC_val rem d2 0 hrem hd2 (by rw [hlr, hld]) (by omega)
    rw [Nat.add_zero, hlr] at av
    rw [hlr] at an
    by_cases hcy : (add_n rem d2).2 ≠ 0
    · rw [if_pos hcy]
      have hc1 : (addNC rem d2 0).2 = 1 := by
        have : (add_n rem d2).2 = (addNC rem d2 0).2 := rfl
        omega
      refine ⟨dv, dl, dn, ?_, Limbs.snoc al (by show (addNC rem d2 0).2 < B; rw [hc1]; decide), Or.inr ⟨?_, ?_⟩⟩
      · show val ((addNC rem d2 0).1 ++ [(addNC rem d2 0).2]) = _
        rw [val_snoc, an]; exact av
      · show ((addNC rem d2 0).1 ++ [(addNC rem d2 0).2]).length = _
        simp [an]
      · show B ^ qn ≤ val ((addNC rem d2 0).1 ++ [(addNC rem d2 0).2])
        rw [val_snoc, an, hc1]; omega
    · rw [if_neg hcy]
      have hc0 : (addNC rem d2 0).2 = 0 := by
        have : (add_n rem d2).2 = (addNC rem d2 0).2 := rfl
        omega
      rw [hc0, Nat.mul_zero, Nat.add_zero] at av
      exact ⟨dv, dl, dn, av, al, Or.inl an⟩
  · right
    rw [if_neg hf]
    exact ⟨by omega, rfl⟩

theorem take_all (l : List Nat) (k : Nat) (h : l.length = k) : l.take k = l := by
  rw [← h]; exact List.take_length

theorem val_take_of_lt (l : List Nat) (k : Nat) (h : val l < B ^ k) : val (l.take k) = val l :=
  (carry_zero (val_split l k).symm h).2

/-! ### tdiv_qr.c:316-339: the partially used limb (cnt ≠ 0) -/

/-- `top - borrow` modulo B on the limb of weight P: a borrow out of it counts B·P -/
theorem sub_top_mod (P t b : Nat) (ht : t < B) (hb : b < B) :
    P * ((t + B - b) % B) + P * b = P * t + (if t < b then 1 else 0) * (P * B) := by
  by_cases h : t < b
  · rw [if_pos h, Nat.mod_eq_of_lt (by omega), Nat.one_mul, ← Nat.mul_add, ← Nat.mul_add]
    congr 1; omega
  · rw [if_neg h, Nat.zero_mul, Nat.add_zero, show t + B - b = t - b + B by omega, Nat.add_mod_right,
      Nat.mod_eq_of_lt (by omega), ← Nat.mul_add]
    congr 1; omega

/-- when the partial remainder R carries a limb of its own (P ≤ R), the top limb t of R·S + mn is at least S and the
    borrow s2 of the submul_1 at most S: the ASSERT_ALWAYS of tdiv_qr.c:328 -/
theorem partial_top_ge (P S R mn Y Lq t s1 s2 : Nat) (hR : P ≤ R) (hX : Lq + P * t = R * S + mn) (hLq : Lq < P)
    (hs : s1 + Y = Lq + P * s2) (hs1 : s1 < P) (hY : Y < P * S) : s2 ≤ t := by
  have h1 : S ≤ t := by
    by_contra h
    have a1 := Nat.mul_le_mul_left P (show t + 1 ≤ S by omega)
    have a2 := Nat.mul_le_mul_right S hR
    rw [Nat.mul_succ] at a1; omega
  have h2 : s2 ≤ S := by
    by_contra h
    have a1 := Nat.mul_le_mul_left P (show S + 1 ≤ s2 by omega)
    rw [Nat.mul_succ] at a1; omega
  omega

/-- The partially used limbs: with s = 64 - cnt, m_n = n[in-1] mod 2^s, m_d = d[in-1] mod 2^s the new partial remainder
    is P = r·2^s + m_n − q·m_d, stored on qn+1 limbs as P + f·B^(qn+1), f = quotient_too_large; the ASSERT_ALWAYS holds. -/
theorem lt2Partial_spec (n d : List Nat) (i c qn : Nat) (qp rem : List Nat) (hqn : 1 ≤ qn) (hc1 : 1 ≤ c) (hc : c ≤ 63)
    (hqp : Limbs qp) (hlq : qn ≤ qp.length) (hrem : Limbs rem)
    (hlr : rem.length = qn ∨ (rem.length = qn + 1 ∧ B ^ qn ≤ val rem ∧ val rem < 2 * B ^ qn)) :
    val (lt2Partial n d (i + 1) c qn qp rem).1 + val (qp.take qn) * (d.getD i 0 % 2 ^ (64 - c)) =
      val rem * 2 ^ (64 - c) + n.getD i 0 % 2 ^ (64 - c) + (lt2Partial n d (i + 1) c qn qp rem).2.1 * B ^ (qn + 1) ∧
    (lt2Partial n d (i + 1) c qn qp rem).2.1 ≤ 1 ∧ Limbs (lt2Partial n d (i + 1) c qn qp rem).1 ∧
    (lt2Partial n d (i + 1) c qn qp rem).1.length = qn + 1 ∧ (lt2Partial n d (i + 1) c qn qp rem).2.2 = true := by
  have hmn : n.getD i 0 % 2 ^ (64 - c) < 2 ^ (64 - c) := Nat.mod_lt _ (by positivity)
  have hmd : d.getD i 0 % 2 ^ (64 - c) < 2 ^ (64 - c) := Nat.mod_lt _ (by positivity)
  have h2B : (2 : Nat) ^ (64 - c) * 2 ≤ B := by
    rw [Mpir.B_split (64 - c) (by omega), show 64 - (64 - c) = c by omega]
    exact Nat.mul_le_mul_left _ (Nat.pow_le_pow_right (by decide) hc1 : 2 ^ 1 ≤ 2 ^ c)
  have hqr : qn ≤ rem.length := by rcases hlr with h | ⟨h, -⟩ <;> omega
  have hrne : rem ≠ [] := fun h => by rw [h] at hqr; exact absurd hqr (Nat.not_le.mpr hqn)
  unfold lt2Partial
  simp only [Nat.add_sub_cancel, mask_eq_mod _ c (by omega : c ≤ 64)]
  obtain ⟨lv, lcy, ll, llen⟩ := orLow_lshift_val rem (64 - c) (n.getD i 0 % 2 ^ (64 - c)) hrne hrem (by omega) hmn
  generalize orLow (lshift rem (64 - c)).1 (n.getD i 0 % 2 ^ (64 - c)) = l at *
  generalize (lshift rem (64 - c)).2 = cy1 at *
  have hqt : (qp.take qn).length = qn := List.length_take_of_le hlq
  have hlt : (l.take qn).length = qn := List.length_take_of_le (by rw [llen]; exact hqr)
  obtain ⟨sv, scy, sl, slen⟩ := submul1C_val (d.getD i 0 % 2 ^ (64 - c)) (by omega) (l.take qn) (qp.take qn) 0
    (Limbs_take ll _) (Limbs_take hqp _) (by rw [hlt, hqt]) B_pos
  rw [Nat.add_zero, hqt] at sv
  rw [hqt] at slen
  rw [show submul_1 (l.take qn) (qp.take qn) (d.getD i 0 % 2 ^ (64 - c)) =
      submul1C (l.take qn) (qp.take qn) (d.getD i 0 % 2 ^ (64 - c)) 0 from rfl]
  generalize submul1C (l.take qn) (qp.take qn) (d.getD i 0 % 2 ^ (64 - c)) 0 = sm at *
  have hq2lt := val_lt _ (Limbs_take hqp qn)
  rw [hqt] at hq2lt
  have hs1lt := val_lt _ sl
  rw [slen] at hs1lt
  have hLqlt := val_lt _ (Limbs_take ll qn)
  rw [hlt] at hLqlt
  generalize val (qp.take qn) = q2 at *
  generalize d.getD i 0 % 2 ^ (64 - c) = md at *
  generalize n.getD i 0 % 2 ^ (64 - c) = mn at *
  generalize (2 : Nat) ^ (64 - c) = S at *
  clear hqt hrne hqp hlq hrem
  rcases hlr with hlr | ⟨hlr, hrlo, hrhi⟩
  · -- rn = qn: the shifted-out bits against the borrow of submul_1
    rw [if_neg (by rw [hlr]; simp)]
    rw [take_all l qn (by rw [llen, hlr])] at sv
    rw [hlr] at lv
    have hst := sub_top_mod (B ^ qn) cy1 sm.2 (by omega) scy
    refine ⟨?_, by dsimp only; split <;> omega, Limbs.snoc sl (Nat.mod_lt _ B_pos), by rw [List.length_append, slen]; rfl, rfl⟩
    rw [val_snoc, slen, pow_succ]
    dsimp only
    omega
  · -- rn = qn + 1: nothing is shifted out and the top limb absorbs the borrow
    rw [if_pos (by rw [hlr]; omega)]
    rw [hlr] at lv llen
    have etop := val_take_top l qn llen
    have hbound : val rem * S + mn < B ^ (qn + 1) := by
      calc val rem * S + mn < (val rem + 1) * S := by rw [Nat.add_mul, Nat.one_mul]; omega
        _ ≤ 2 * B ^ qn * S := Nat.mul_le_mul_right _ hrhi
        _ = B ^ qn * (S * 2) := by ring
        _ ≤ B ^ qn * B := Nat.mul_le_mul_left _ h2B
    obtain ⟨_, lv⟩ := carry_zero lv hbound
    have hY : q2 * md < B ^ qn * S := Nat.mul_lt_mul'' hq2lt hmd
    have hge := partial_top_ge (B ^ qn) S (val rem) mn (q2 * md) _ (l.getD qn 0) _ sm.2 hrlo (by rw [etop, lv]) hLqlt
      sv hs1lt hY
    have hst := sub_top_mod (B ^ qn) (l.getD qn 0) sm.2 (getD_lt ll qn) scy
    rw [if_neg (by omega), Nat.zero_mul, Nat.add_zero] at hst
    refine ⟨?_, Nat.zero_le _, Limbs.snoc sl (Nat.mod_lt _ B_pos), by rw [List.length_append, slen]; rfl, decide_eq_true hge⟩
    rw [val_snoc, slen, Nat.zero_mul, Nat.add_zero]
    omega

/-! ### tdiv_qr.c:342-362: the subtraction of q × (ignored low limbs of d) (in ≠ 0) -/

/-- `quotient_too_large |= cy` on three flags -/
theorem lor3_01 (f a b : Nat) (hf : f ≤ 1) (ha : a ≤ 1) (hb : b ≤ 1) : f ||| a ||| b = 0 ↔ f + a + b = 0 := by
  interval_cases f <;> interval_cases a <;> interval_cases b <;> decide

/-- the three subtractions of tdiv_qr.c:357-361 put together: a1, a2 the low and high part of rp, a3 the partial
    remainder after mpn_sub, tl + Pi·th the product, l2, cA, cB the three borrows -/
theorem final_arith (Pi Pm a1 a2 a3 tl th nl R l2 cA cB : Nat) (lv : a1 + tl = nl + Pi * l2)
    (s1v : a2 + l2 = a3 + Pm * cB) (sv : a3 + th = R + Pm * cA) :
    a1 + Pi * a2 + (tl + Pi * th) = R * Pi + nl + (cA + cB) * (Pm * Pi) := by
  zify at *
  linear_combination lv + (Pi : Int) * s1v + (Pi : Int) * sv

/-- Subtraction of tp = q × (the `in2` ignored low limbs of d).  m = dn - in2 limbs of rp lie above rp + in2; the partial
    remainder `rem` has m limbs, or (divisor normalised, carry out of the add-back) m+1 limbs with value in
    [tph + 1, tph + B^m) — then mpn_sub_1, called with m+1 limbs, never gets to the limb rp[dn].
    Result: rp + q·dlow = rem·B^in2 + nlow + (cyA + cyB)·B^dn and quotient_too_large |= cyA | cyB. -/
theorem lt2Final_spec (n d : List Nat) (in2 qn m : Nat) (qp rem : List Nat) (f : Nat) (hn : Limbs n) (hd : Limbs d)
    (hqp : Limbs qp) (hrem : Limbs rem) (hlq : qn ≤ qp.length) (hinn : in2 ≤ n.length)
    (hdn : d.length = m + in2) (hqm : qn ≤ m) (hm : 1 ≤ m)
    (hlr : rem.length = m ∨ (rem.length = m + 1 ∧
      val (qp.take qn) * val (d.take in2) / B ^ in2 + 1 ≤ val rem ∧
      val rem < val (qp.take qn) * val (d.take in2) / B ^ in2 + B ^ m)) :
    ∃ cyA cyB, cyA ≤ 1 ∧ cyB ≤ 1 ∧
      val (lt2Final n d in2 qn qp rem f).1 + val (qp.take qn) * val (d.take in2) =
        val rem * B ^ in2 + val (n.take in2) + (cyA + cyB) * B ^ (m + in2) ∧
      (lt2Final n d in2 qn qp rem f).2.1 = (f ||| cyA) ||| cyB ∧
      Limbs (lt2Final n d in2 qn qp rem f).1 ∧ (lt2Final n d in2 qn qp rem f).1.length = m + in2 ∧
      (lt2Final n d in2 qn qp rem f).2.2 = true := by
  have hmr : m ≤ rem.length := by rcases hlr with h | ⟨h, -⟩ <;> omega
  have hqt : (qp.take qn).length = qn := List.length_take_of_le hlq
  have hdt : (d.take in2).length = in2 := List.length_take_of_le (by rw [hdn]; exact Nat.le_add_left _ _)
  have hnt : (n.take in2).length = in2 := List.length_take_of_le hinn
  have htplt : val (qp.take qn) * val (d.take in2) < B ^ (qn + in2) := by
    have h1 := val_lt _ (Limbs_take hqp qn)
    have h2 := val_lt _ (Limbs_take hd in2)
    rw [hqt] at h1
    rw [hdt] at h2
    rw [pow_add]
    exact Nat.mul_lt_mul'' h1 h2
  have t1 := val_toLimbs_lt (qn + in2) _ htplt
  have t2 := toLimbs_length (qn + in2) (val (qp.take qn) * val (d.take in2))
  have t3 := Limbs_toLimbs (qn + in2) (val (qp.take qn) * val (d.take in2))
  unfold lt2Final
  simp only []
  generalize toLimbs (qn + in2) (val (qp.take qn) * val (d.take in2)) = tp at *
  have htd : (tp.drop in2).length = qn := by rw [List.length_drop, t2, Nat.add_sub_cancel]
  have htt : (tp.take in2).length = in2 := List.length_take_of_le (by rw [t2]; exact Nat.le_add_left _ _)
  have hsplit := val_take_drop tp in2 (by rw [t2]; exact Nat.le_add_left _ _)
  have htllt := val_lt _ (Limbs_take t3 in2)
  rw [htt] at htllt
  have htph : val (qp.take qn) * val (d.take in2) / B ^ in2 = val (tp.drop in2) := by
    rw [← t1, hsplit, Nat.add_mul_div_left _ _ (Bpow_pos in2), Nat.div_eq_of_lt htllt, Nat.zero_add]
  rw [htph] at hlr
  rw [← t1, hsplit]
  clear htph htplt t1 hsplit hqt hdt hqp hd hlq
  -- mpn_sub
  obtain ⟨sv, sc, sl, slen⟩ := sub_val' rem (tp.drop in2) hrem (Limbs_drop t3 _)
    (by rw [htd]; exact hqm.trans hmr)
  generalize Mpir.sub rem (tp.drop in2) = s at *
  -- mpn_sub_n on the low limbs
  obtain ⟨lv, lc, ll, llen⟩ := subNC_val (n.take in2) (tp.take in2) 0 (Limbs_take hn _) (Limbs_take t3 _)
    (by rw [hnt, htt]) (Nat.zero_le 1)
  rw [Nat.add_zero, hnt] at lv
  rw [hnt] at llen
  rw [show sub_n (n.take in2) (tp.take in2) = subNC (n.take in2) (tp.take in2) 0 from rfl,
    show d.length - in2 = m by rw [hdn, Nat.add_sub_cancel]]
  generalize subNC (n.take in2) (tp.take in2) 0 = lo at *
  -- mpn_sub_1 on the limbs above
  have hhl : (s.1.take m).length = m := List.length_take_of_le (by rw [slen]; exact hmr)
  obtain ⟨x, xs, hx⟩ : ∃ x xs, s.1.take m = x :: xs := by
    match hh : s.1.take m with
    | [] => rw [hh] at hhl; simp at hhl; omega
    | x :: xs => exact ⟨x, xs, rfl⟩
  obtain ⟨s1v, s1c, s1l, s1len⟩ := sub_1_val' (x :: xs) lo.2 (hx ▸ Limbs_take sl m) (Nat.succ_pos _) (lt_B_of_le_one lc)
  simp only [List.length_cons] at s1v s1len
  have hxsl : xs.length + 1 = m := by rw [← hhl, hx]; rfl
  rw [← hx] at s1v s1c s1l s1len
  rw [hxsl] at s1v s1len
  generalize sub_1 (s.1.take m) lo.2 = s1 at *
  clear hx hxsl hhl htd htt hnt t2 t3 hn hrem
  rw [val_append, llen, pow_add]
  rcases hlr with hlr | ⟨hlr, hrlo, hrhi⟩
  · -- rn = m
    rw [take_all s.1 m (by rw [slen, hlr])] at s1v
    rw [hlr] at sv
    refine ⟨s.2, s1.2, sc, s1c, final_arith _ _ _ _ _ _ _ _ _ _ _ _ lv s1v sv, ?_, Limbs_append.mpr ⟨ll, s1l⟩,
      by rw [List.length_append, llen, s1len]; omega, ?_⟩
    · rw [if_neg (by omega)]
    · simp [hlr]
  · -- rn = m + 1: no borrow leaves the m limbs
    rw [hlr] at sv
    have hslt := val_lt _ sl
    rw [slen, hlr] at hslt
    obtain ⟨hs20, sv⟩ := borrow_zero sv hslt (by omega)
    rw [val_take_of_lt s.1 m (by omega)] at s1v
    have hs1lt := val_lt _ s1l
    rw [s1len] at hs1lt
    obtain ⟨hs120, s1v⟩ := borrow_zero s1v hs1lt (by omega)
    refine ⟨0, 0, Nat.zero_le _, Nat.zero_le _,
      final_arith _ _ _ _ _ _ _ _ _ _ 0 0 lv (by rw [Nat.mul_zero]; exact s1v) (by rw [Nat.mul_zero]; exact sv), ?_,
      Limbs_append.mpr ⟨ll, s1l⟩, by rw [List.length_append, llen, s1len]; omega, ?_⟩
    · rw [if_pos (by omega), hs20]
    · simp [hlr, hs120]

end Mpir.TdivQr
