/- The value-level FFT transforms of Mpir/Model/FftX.lean: the radix-2 transform as a bit-reversed DFT, its inverse, the
   truncated transforms.  The models compute with exact integers; everything is stated through a ring homomorphism
   `f : ℤ →+* S` with `f 2 ^ wn = -1` (for the end results S = ZMod (2^wn + 1)). -/
import Mpir.Model.FftX
import Mathlib.Tactic.Ring
import Mathlib.Tactic.NormNum
import Mathlib.Tactic.LinearCombination
import Mathlib.Tactic.IntervalCases
import Mathlib.Algebra.BigOperators.Intervals
import Mathlib.Algebra.Ring.Hom.Defs
import Mathlib.Tactic.SplitIfs

namespace Mpir.FftX
open Mpir Finset

theorem el_nil (i : Nat) : el [] i = 0 := by simp [el]

theorem el_cons_zero (a : Int) (l : List Int) : el (a :: l) 0 = a := rfl
theorem el_cons_succ (a : Int) (l : List Int) (i : Nat) : el (a :: l) (i + 1) = el l i := rfl

theorem el_range_map (g : Nat → Int) (n i : Nat) (h : i < n) : el ((List.range n).map g) i = g i := by
  simp [el, List.getD_eq_getElem?_getD, h]

theorem el_range_map_ge (g : Nat → Int) (n i : Nat) (h : n ≤ i) : el ((List.range n).map g) i = 0 := by
  simp [el, List.getD_eq_getElem?_getD, h]

theorem length_fsts (n : Nat) (f : Nat → Int × Int) : (fsts n f).length = n := by simp [fsts]
theorem length_snds (n : Nat) (f : Nat → Int × Int) : (snds n f).length = n := by simp [snds]

theorem el_fsts (n : Nat) (f : Nat → Int × Int) (i : Nat) (h : i < n) : el (fsts n f) i = (f i).1 :=
  el_range_map _ n i h
theorem el_snds (n : Nat) (f : Nat → Int × Int) (i : Nat) (h : i < n) : el (snds n f) i = (f i).2 :=
  el_range_map _ n i h

theorem el_append_left (a b : List Int) (i : Nat) (h : i < a.length) : el (a ++ b) i = el a i := by
  simp [el, List.getD_eq_getElem?_getD, List.getElem?_append_left h]

theorem el_append_right (a b : List Int) (i : Nat) : el (a ++ b) (a.length + i) = el b i := by
  simp [el, List.getD_eq_getElem?_getD, List.getElem?_append_right]

theorem el_append_right' (a b : List Int) (n i : Nat) (hn : a.length = n) : el (a ++ b) (n + i) = el b i := by
  subst hn; exact el_append_right a b i

theorem el_take (xs : List Int) (n i : Nat) (h : i < n) : el (xs.take n) i = el xs i := by
  simp [el, List.getD_eq_getElem?_getD, h]

theorem el_take_ge (xs : List Int) (n i : Nat) (h : n ≤ i) : el (xs.take n) i = 0 := by
  simp [el, List.getD_eq_getElem?_getD, Nat.not_lt.mpr h]

theorem el_drop (xs : List Int) (n i : Nat) : el (xs.drop n) i = el xs (n + i) := by
  simp [el, List.getD_eq_getElem?_getD]

theorem fsts_congr (n : Nat) (f g : Nat → Int × Int) (h : ∀ i < n, (f i).1 = (g i).1) : fsts n f = fsts n g := by
  unfold fsts; apply List.map_congr_left; intro i hi; exact h i (List.mem_range.mp hi)
theorem snds_congr (n : Nat) (f g : Nat → Int × Int) (h : ∀ i < n, (f i).2 = (g i).2) : snds n f = snds n g := by
  unfold snds; apply List.map_congr_left; intro i hi; exact h i (List.mem_range.mp hi)

theorem el_loop_lo (n : Nat) (h : Nat → Int × Int) (i : Nat) (hi : i < n) : el (fsts n h ++ snds n h) i = (h i).1 := by
  rw [el_append_left _ _ _ (by rw [length_fsts]; exact hi), el_fsts _ _ _ hi]
theorem el_loop_hi (n : Nat) (h : Nat → Int × Int) (i : Nat) (hi : i < n) :
    el (fsts n h ++ snds n h) (n + i) = (h i).2 := by
  rw [el_append_right' _ _ _ _ (length_fsts _ _), el_snds _ _ _ hi]

theorem lt_two_mul_cases {n j : Nat} (hj : j < 2 * n) {P : Nat → Prop} (h1 : ∀ i < n, P i) (h2 : ∀ i < n, P (n + i)) :
    P j := by
  by_cases h : j < n
  · exact h1 j h
  · have := h2 (j - n) (by omega)
    rwa [Nat.add_sub_cancel' (by omega)] at this

theorem pow_succ_mul (d w : Nat) : 2 ^ d * (2 * w) = 2 ^ (d + 1) * w := by rw [pow_succ]; ring

/-! ### one decimation-in-frequency layer (fft_radix2.c:64-70) -/

def difSums (n w : Nat) (xs : List Int) : List Int := fsts n fun i => bfly (el xs i) (el xs (n + i)) i w
def difDiffs (n w : Nat) (xs : List Int) : List Int := snds n fun i => bfly (el xs i) (el xs (n + i)) i w

theorem el_difSums (n w : Nat) (xs : List Int) (i : Nat) (h : i < n) : el (difSums n w xs) i = el xs i + el xs (n + i) :=
  el_fsts _ _ _ h
theorem el_difDiffs (n w : Nat) (xs : List Int) (i : Nat) (h : i < n) :
    el (difDiffs n w xs) i = (el xs i - el xs (n + i)) * 2 ^ (i * w) := el_snds _ _ _ h

theorem fft_radix2_zero (w : Nat) (xs : List Int) :
    fft_radix2 0 w xs = [el xs 0 + el xs 1, (el xs 0 - el xs 1) * 2 ^ (0 * w)] := by
  simp [fft_radix2, fsts, snds, bfly, List.range_succ]

theorem fft_radix2_succ (d w : Nat) (xs : List Int) : fft_radix2 (d + 1) w xs =
    fft_radix2 d (2 * w) (difSums (2 ^ (d + 1)) w xs) ++ fft_radix2 d (2 * w) (difDiffs (2 ^ (d + 1)) w xs) := rfl

theorem length_fft_radix2 (d w : Nat) (xs : List Int) : (fft_radix2 d w xs).length = 2 ^ (d + 1) := by
  induction d generalizing w xs with
  | zero => simp [fft_radix2, length_fsts, length_snds]
  | succ d ih => rw [fft_radix2_succ, List.length_append, ih, ih]; ring

theorem el_fft_radix2_low (d w : Nat) (xs : List Int) (k : Nat) (hk : k < 2 ^ (d + 1)) :
    el (fft_radix2 (d + 1) w xs) k = el (fft_radix2 d (2 * w) (difSums (2 ^ (d + 1)) w xs)) k := by
  rw [fft_radix2_succ, el_append_left _ _ _ (by rw [length_fft_radix2]; exact hk)]

theorem el_fft_radix2_high (d w : Nat) (xs : List Int) (k : Nat) :
    el (fft_radix2 (d + 1) w xs) (2 ^ (d + 1) + k) = el (fft_radix2 d (2 * w) (difDiffs (2 ^ (d + 1)) w xs)) k := by
  rw [fft_radix2_succ, el_append_right' _ _ _ _ (length_fft_radix2 _ _ _)]

theorem length_ifft_radix2 (d w : Nat) (xs : List Int) : (ifft_radix2 d w xs).length = 2 ^ (d + 1) := by
  cases d with
  | zero => simp [ifft_radix2, length_fsts, length_snds]
  | succ d => simp only [ifft_radix2, List.length_append, length_fsts, length_snds]; ring

/-! ### bit reversal: `rev b k` reverses the low `b` bits of `k < 2^b` (top bit first) -/

def rev : Nat → Nat → Nat
  | 0, _ => 0
  | b + 1, k => if k < 2 ^ b then 2 * rev b k else 2 * rev b (k - 2 ^ b) + 1

theorem rev_lo (b k : Nat) (h : k < 2 ^ b) : rev (b + 1) k = 2 * rev b k := by rw [rev, if_pos h]
theorem rev_hi (b k : Nat) : rev (b + 1) (2 ^ b + k) = 2 * rev b k + 1 := by
  rw [rev, if_neg (by omega), Nat.add_sub_cancel_left]

theorem rev_lt (b k : Nat) : rev b k < 2 ^ b := by
  induction b generalizing k with
  | zero => simp [rev]
  | succ b ih =>
    unfold rev; split
    · have := ih k; rw [pow_succ]; omega
    · have := ih (k - 2 ^ b); rw [pow_succ]; omega

/-- peeling the lowest bit instead -/
theorem rev_low (b m e : Nat) (hm : m < 2 ^ b) (he : e < 2) : rev (b + 1) (2 * m + e) = rev b m + e * 2 ^ b := by
  induction b generalizing m e with
  | zero =>
    have : m = 0 := by simpa using hm
    subst this
    interval_cases e <;> simp [rev]
  | succ b ih =>
    rw [pow_succ'] at hm
    by_cases h : m < 2 ^ b
    · rw [rev_lo _ _ (by rw [pow_succ']; omega), ih m e h he, rev_lo _ _ h, pow_succ']; ring
    · obtain ⟨m', rfl⟩ : ∃ m', m = 2 ^ b + m' := ⟨m - 2 ^ b, by omega⟩
      rw [show 2 * (2 ^ b + m') + e = 2 ^ (b + 1) + (2 * m' + e) by rw [pow_succ']; ring, rev_hi, rev_hi,
        ih m' e (by omega) he, pow_succ']; ring

theorem rev_rev (b k : Nat) (hk : k < 2 ^ b) : rev b (rev b k) = k := by
  induction b generalizing k with
  | zero => simp [rev]; simp at hk; omega
  | succ b ih =>
    rw [pow_succ'] at hk
    apply lt_two_mul_cases hk <;> intro i hi
    · have := rev_low b (rev b i) 0 (rev_lt b i) (by norm_num)
      rw [rev_lo _ _ hi, ← Nat.add_zero (2 * rev b i), this, ih i hi]; simp
    · rw [rev_hi, rev_low b (rev b i) 1 (rev_lt b _) (by norm_num), ih _ hi]; ring

section ring
variable {S : Type} [CommRing S]

theorem neg_one_pow_two_mul (r : Nat) : ((-1 : S)) ^ (2 * r) = 1 := by rw [pow_mul]; simp
theorem neg_one_pow_two_mul_add_one (r : Nat) : ((-1 : S)) ^ (2 * r + 1) = -1 := by
  rw [pow_succ, neg_one_pow_two_mul]; simp

/-! ### the DFT reading of one layer -/

theorem dif_even (z : S) (n : Nat) (hz : z ^ n = -1) (a : Nat → S) (r : Nat) :
    ∑ j ∈ range n, (a j + a (n + j)) * (z ^ 2) ^ (r * j) = ∑ j ∈ range (2 * n), a j * z ^ (2 * r * j) := by
  rw [two_mul n, sum_range_add, ← sum_add_distrib]
  apply sum_congr rfl; intro j _
  have e1 : z ^ (2 * r * (n + j)) = (z ^ n) ^ (2 * r) * z ^ (2 * r * j) := by
    rw [← pow_mul, ← pow_add]; congr 1; ring
  have e2 : (z ^ 2) ^ (r * j) = z ^ (2 * r * j) := by rw [← pow_mul]; congr 1; ring
  rw [e1, e2, hz, neg_one_pow_two_mul]; ring

theorem dif_odd (z : S) (n : Nat) (hz : z ^ n = -1) (a : Nat → S) (r : Nat) :
    ∑ j ∈ range n, ((a j - a (n + j)) * z ^ j) * (z ^ 2) ^ (r * j) =
      ∑ j ∈ range (2 * n), a j * z ^ ((2 * r + 1) * j) := by
  rw [two_mul n, sum_range_add, ← sum_add_distrib]
  apply sum_congr rfl; intro j _
  have e1 : z ^ ((2 * r + 1) * (n + j)) = (z ^ n) ^ (2 * r + 1) * z ^ ((2 * r + 1) * j) := by
    rw [← pow_mul, ← pow_add]; congr 1; ring
  have e2 : z ^ j * (z ^ 2) ^ (r * j) = z ^ ((2 * r + 1) * j) := by
    rw [← pow_mul, ← pow_add]; congr 1; ring
  rw [e1, hz, neg_one_pow_two_mul_add_one, mul_assoc, e2]; ring

variable (f : ℤ →+* S)

theorem map_two_pow (e : Nat) : f ((2 : ℤ) ^ e) = f 2 ^ e := by rw [map_pow]

theorem f_difSums (n w : Nat) (xs : List Int) (i : Nat) (h : i < n) :
    f (el (difSums n w xs) i) = f (el xs i) + f (el xs (n + i)) := by rw [el_difSums _ _ _ _ h, map_add]
theorem f_difDiffs (n w : Nat) (xs : List Int) (i : Nat) (h : i < n) :
    f (el (difDiffs n w xs) i) = (f (el xs i) - f (el xs (n + i))) * f 2 ^ (i * w) := by
  rw [el_difDiffs _ _ _ _ h, map_mul, map_sub, map_pow]

/-- `F` on 2n points is one decimation-in-frequency layer with twiddles τ_i, then `FL` on the sums and `FR` on the twisted
    differences: all that the DFT readings and the inverse transforms use of a forward transform -/
def DifLayer (n : Nat) (τ : Nat → S) (F FL FR : List Int → List Int) : Prop :=
  ∀ xs, ∃ sx dx : List Int,
    (∀ k < n, el (F xs) k = el (FL sx) k ∧ f (el sx k) = f (el xs k) + f (el xs (n + k)) ∧
      f (el dx k) = (f (el xs k) - f (el xs (n + k))) * τ k) ∧
    ∀ k, el (F xs) (n + k) = el (FR dx) k

theorem difLayer_radix2 (d w : Nat) : DifLayer f (2 ^ (d + 1)) (fun i => f 2 ^ (i * w)) (fft_radix2 (d + 1) w)
    (fft_radix2 d (2 * w)) (fft_radix2 d (2 * w)) :=
  fun xs => ⟨_, _, fun k hk => ⟨el_fft_radix2_low d w xs k hk, f_difSums f _ _ _ k hk, f_difDiffs f _ _ _ k hk⟩,
    el_fft_radix2_high d w xs⟩

variable {f} in
theorem DifLayer.dft {d : Nat} {z : S} {τ : Nat → S} {F FL FR : List Int → List Int}
    (hF : DifLayer f (2 ^ (d + 1)) τ F FL FR) (hτ : ∀ j, τ j = z ^ j) (hz : z ^ 2 ^ (d + 1) = -1)
    (hL : ∀ xs, ∀ i < 2 ^ (d + 1), f (el (FL xs) i) = ∑ j ∈ range (2 ^ (d + 1)), f (el xs j) * (z ^ 2) ^ (rev (d + 1) i * j))
    (hR : ∀ xs, ∀ i < 2 ^ (d + 1), f (el (FR xs) i) = ∑ j ∈ range (2 ^ (d + 1)), f (el xs j) * (z ^ 2) ^ (rev (d + 1) i * j))
    (xs : List Int) (k : Nat) (hk : k < 2 ^ (d + 1 + 1)) :
    f (el (F xs) k) = ∑ j ∈ range (2 ^ (d + 1 + 1)), f (el xs j) * z ^ (rev (d + 1 + 1) k * j) := by
  obtain ⟨sx, dx, hA, hB⟩ := hF xs
  rw [pow_succ' 2 (d + 1)] at hk ⊢
  apply lt_two_mul_cases hk <;> intro i hi
  · rw [(hA i hi).1, hL sx i hi, rev_lo _ _ hi, ← dif_even z _ hz fun j => f (el xs j)]
    exact sum_congr rfl fun j hj => by rw [(hA j (mem_range.mp hj)).2.1]
  · rw [hB i, hR dx i hi, rev_hi, ← dif_odd z _ hz fun j => f (el xs j)]
    exact sum_congr rfl fun j hj => by rw [(hA j (mem_range.mp hj)).2.2, hτ]

theorem fft_radix2_dft (d w : Nat) (xs : List Int) (hz : f 2 ^ (2 ^ d * w) = -1) (k : Nat) (hk : k < 2 ^ (d + 1)) :
    f (el (fft_radix2 d w xs) k) =
      ∑ j ∈ range (2 ^ (d + 1)), f (el xs j) * (f 2 ^ w) ^ (rev (d + 1) k * j) := by
  induction d generalizing w xs k with
  | zero =>
    simp only [Nat.pow_zero, Nat.one_mul, Nat.zero_add, Nat.pow_one] at hz hk ⊢
    rw [fft_radix2_zero]
    interval_cases k
    · simp [el, rev, sum_range_succ]
    · simp only [el, rev, sum_range_succ, sum_range_zero]
      simp only [List.getD_cons_succ, List.getD_cons_zero, Nat.zero_mul, pow_zero, mul_one, map_sub,
        Nat.lt_irrefl, if_false, Nat.mul_zero, pow_one, zero_add, hz]
      ring
  | succ d ih =>
    have hz' : f 2 ^ (2 ^ d * (2 * w)) = -1 := by rw [pow_succ_mul]; exact hz
    have e2 : f 2 ^ (2 * w) = (f 2 ^ w) ^ 2 := by rw [← pow_mul, mul_comm]
    exact (difLayer_radix2 f d w).dft (z := f 2 ^ w) (fun j => by rw [← pow_mul, mul_comm])
      (by rw [← pow_mul, mul_comm]; exact hz) (fun xs i hi => by rw [← e2]; exact ih _ _ hz' i hi)
      (fun xs i hi => by rw [← e2]; exact ih _ _ hz' i hi) xs k hk

theorem wnOf_eq (n w : Nat) (h : 64 ∣ n * w) : wnOf n w = n * w := by
  unfold wnOf; rw [Nat.mul_comm w n]; exact Nat.div_mul_cancel h

theorem pow_mul_pow_sub_eq_one (u : S) (m e : Nat) (hu : u ^ m = 1) (he : e ≤ m) : u ^ e * u ^ (m - e) = 1 := by
  rw [← pow_add, Nat.add_sub_cancel' he, hu]

/-! ### the inverse radix-2 transform: `Recovers` (ifft_radix2.c) -/

theorem ibfly_val (wn : Nat) (a b : Int) (i w : Nat) (c X Y : S) (hu : f 2 ^ (2 * wn) = 1) (he : i * w ≤ 2 * wn)
    (ha : f a = c * (X + Y)) (hb : f b = c * ((X - Y) * f 2 ^ (i * w))) :
    f (ibfly wn a b i w).1 = 2 * c * X ∧ f (ibfly wn a b i w).2 = 2 * c * Y := by
  have e := pow_mul_pow_sub_eq_one (f 2) (2 * wn) (i * w) hu he
  simp only [ibfly, map_add, map_sub, map_mul, map_pow, ha, hb]
  constructor
  · linear_combination (c * (X - Y)) * e
  · linear_combination (-(c * (X - Y))) * e

/-- `I` solves the truncated inverse problem for `F` on `N` points: from c times the first `t` values of `F xs` and, from `t`
    on, s times the coefficients themselves, it returns s times the first `t` coefficients (`t = N`: `I` inverts `F`) -/
def Recovers (t N : Nat) (c s : S) (F I : List Int → List Int) : Prop :=
  ∀ xs ys : List Int, (∀ k < t, f (el ys k) = c * f (el (F xs) k)) →
    (∀ j, t ≤ j → j < N → f (el ys j) = s * f (el xs j)) → ∀ j < t, f (el (I ys) j) = s * f (el xs j)

variable {f}

/-- the model instances (`recovers_*`) are stated for every common factor c, with s = c·2^(d+1); this reads one at c = 1 -/
theorem Recovers.one {t N : Nat} {s : S} {F I : List Int → List Int} (h : Recovers f t N 1 (1 * s) F I)
    (xs ys : List Int) (h1 : ∀ k < t, f (el ys k) = f (el (F xs) k))
    (h2 : ∀ j, t ≤ j → j < N → f (el ys j) = s * f (el xs j)) (j : Nat) (hj : j < t) :
    f (el (I ys) j) = s * f (el xs j) := by
  rw [one_mul] at h
  exact h xs ys (fun k hk => by rw [one_mul]; exact h1 k hk) h2 j hj

theorem Recovers.full {N : Nat} {c s : S} {F I : List Int → List Int} (h : Recovers f N N c s F I) (xs ys : List Int)
    (h1 : ∀ k < N, f (el ys k) = c * f (el (F xs) k)) (j : Nat) (hj : j < N) : f (el (I ys) j) = s * f (el xs j) :=
  h xs ys h1 (fun _ a b => absurd b (Nat.not_lt.mpr a)) j hj

theorem Recovers.inverts {N : Nat} {s : S} {F I : List Int → List Int} (h : Recovers f N N 1 (1 * s) F I) (xs ys : List Int)
    (h1 : ∀ k < N, f (el ys k) = f (el (F xs) k)) (j : Nat) (hj : j < N) : f (el (I ys) j) = s * f (el xs j) :=
  h.one xs ys h1 (fun _ a b => absurd b (Nat.not_lt.mpr a)) j hj

/-- ifft_radix2.c:64-73 (and the twiddled variant) over any two half-size inverses -/
theorem Recovers.radix2 {n w wn : Nat} {c s : S} {F FL FR IL IR : List Int → List Int}
    (hu : f 2 ^ (2 * wn) = 1) (hnw : n * w ≤ 2 * wn) (hF : DifLayer f n (fun i => f 2 ^ (i * w)) F FL FR)
    (hlL : ∀ ys, (IL ys).length = n) (hIL : Recovers f n n c s FL IL) (hIR : Recovers f n n c s FR IR) :
    Recovers f (2 * n) (2 * n) c (2 * s) F fun ys =>
      let zs := IL (ys.take n) ++ IR (ys.drop n)
      let h := fun i => ibfly wn (el zs i) (el zs (n + i)) i w
      fsts n h ++ snds n h := by
  intro xs ys h1 _ j hj
  obtain ⟨sx, dx, hA, hB⟩ := hF xs
  have key := fun i (hi : i < n) => ibfly_val f wn _ _ i w s (f (el xs i)) (f (el xs (n + i))) hu
    (le_trans (Nat.mul_le_mul_right w (le_of_lt hi)) hnw)
    (show f (el (IL (ys.take n) ++ IR (ys.drop n)) i) = _ by
      rw [el_append_left _ _ _ (by rw [hlL]; exact hi), ← (hA i hi).2.1]
      exact hIL.full sx _ (fun k hk => by rw [el_take _ _ _ hk, h1 k (by omega), (hA k hk).1]) i hi)
    (show f (el (IL (ys.take n) ++ IR (ys.drop n)) (n + i)) = _ by
      rw [el_append_right' _ _ _ _ (hlL _), ← (hA i hi).2.2]
      exact hIR.full dx _ (fun k hk => by rw [el_drop, h1 _ (by omega), hB k]) i hi)
  apply lt_two_mul_cases hj <;> intro i hi
  · rw [el_loop_lo _ _ _ hi, (key i hi).1]
  · rw [el_loop_hi _ _ _ hi, (key i hi).2]

theorem layer_side (d w : Nat) (hd : 64 ∣ 2 ^ (d + 1) * w) (hu : f 2 ^ (2 * (2 ^ (d + 1) * w)) = 1) :
    f 2 ^ (2 * wnOf (2 ^ (d + 1)) w) = 1 ∧ (1 ≤ w → 1 ≤ wnOf (2 ^ (d + 1)) w) ∧
      2 ^ (d + 1) * w ≤ 2 * wnOf (2 ^ (d + 1)) w ∧ 64 ∣ 2 ^ d * (2 * w) ∧ f 2 ^ (2 * (2 ^ d * (2 * w))) = 1 := by
  rw [wnOf_eq _ _ hd, pow_succ_mul]
  exact ⟨hu, fun hw => Nat.mul_pos (Nat.two_pow_pos _) hw, Nat.le_mul_of_pos_left _ two_pos, hd, hu⟩

theorem recovers_ifft_radix2 (d w : Nat) (hd : 64 ∣ 2 ^ d * w) (hu : f 2 ^ (2 * (2 ^ d * w)) = 1) (c : S) :
    Recovers f (2 ^ (d + 1)) (2 ^ (d + 1)) c (c * 2 ^ (d + 1)) (fft_radix2 d w) (ifft_radix2 d w) := by
  induction d generalizing w with
  | zero =>
    intro xs ys h _ j hj
    simp only [Nat.pow_zero, Nat.one_mul, Nat.zero_add, Nat.pow_one] at hd hu hj h ⊢
    have ew : wnOf 1 w = w := by rw [wnOf_eq 1 w (by simpa using hd)]; simp
    have e' : ifft_radix2 0 w ys = [(ibfly w (el ys 0) (el ys 1) 0 w).1, (ibfly w (el ys 0) (el ys 1) 0 w).2] := by
      simp [ifft_radix2, fsts, snds, List.range_succ, ew]
    have h0 := h 0 (by norm_num); have h1 := h 1 (by norm_num)
    rw [fft_radix2_zero] at h0 h1
    have hb := ibfly_val f w (el ys 0) (el ys 1) 0 w c (f (el xs 0)) (f (el xs 1)) hu (by omega)
      (by rw [h0]; simp [el]) (by rw [h1]; simp [el])
    rw [e']
    interval_cases j
    · rw [el_cons_zero, hb.1]; ring
    · rw [show ∀ a b : Int, el [a, b] 1 = b from fun _ _ => rfl, hb.2]; ring
  | succ d ih =>
    obtain ⟨a1, _, a3, a4, a5⟩ := layer_side d w hd hu
    rw [pow_succ' 2 (d + 1), pow_succ' (2 : S) (d + 1), mul_left_comm]
    exact Recovers.radix2 a1 a3 (difLayer_radix2 f d w) (length_ifft_radix2 d _) (ih _ a4 a5) (ih _ a4 a5)

end ring

/-! ### the truncated transforms: each layer of the C is one theorem over arbitrary half-size routines whose conclusion carries
    the body of the model's equation for depth d + 1, so the plain, twiddled and √2 models are instances by unfolding -/

/-- the C's requirement on `trunc` for a transform of 2n = 2^(d+1) coefficients -/
def TruncOk (d trunc : Nat) : Prop := trunc % 2 = 0 ∧ 2 ≤ trunc ∧ trunc ≤ 2 ^ (d + 1)

theorem truncOk_zero {t : Nat} (h : TruncOk 0 t) : t = 2 := by
  obtain ⟨_, h2, h3⟩ := h; simp at h3; omega

theorem truncOk_low {d t : Nat} (h : TruncOk (d + 1) t) (h1 : t ≤ 2 ^ (d + 1)) : TruncOk d t :=
  ⟨h.1, h.2.1, h1⟩

theorem truncOk_high {d t : Nat} (h : TruncOk (d + 1) t) (h1 : ¬ t ≤ 2 ^ (d + 1)) :
    TruncOk d (t - 2 ^ (d + 1)) := by
  obtain ⟨a, b, c⟩ := h
  have hp := pow_succ' 2 (d + 1)
  have hq := pow_succ' 2 d
  exact ⟨by omega, by omega, by omega⟩

theorem fft_radix2_congr (d w : Nat) (xs ys : List Int) (h : ∀ i < 2 ^ (d + 1), el xs i = el ys i) :
    fft_radix2 d w xs = fft_radix2 d w ys := by
  induction d generalizing w xs ys with
  | zero => rw [fft_radix2_zero, fft_radix2_zero, h 0 (by norm_num), h 1 (by norm_num)]
  | succ d ih =>
    have hp := pow_succ' 2 (d + 1)
    rw [fft_radix2_succ, fft_radix2_succ]
    congr 1 <;> apply ih <;> intro i hi
    · rw [el_difSums _ _ _ _ hi, el_difSums _ _ _ _ hi, h i (by omega), h _ (by omega)]
    · rw [el_difDiffs _ _ _ _ hi, el_difDiffs _ _ _ _ hi, h i (by omega), h _ (by omega)]

theorem sums_eq_difSums (n w : Nat) (xs : List Int) :
    ((List.range n).map fun i => el xs i + el xs (i + n)) = difSums n w xs := by
  unfold difSums fsts; apply List.map_congr_left; intro i _; simp [bfly, Nat.add_comm]

/-- on inputs of `N` entries `T` returns `N` entries; it always returns at least `t`, the first `t` of them those of `F` -/
def Prefix (t N : Nat) (F T : List Int → List Int) : Prop :=
  ∀ xs, (xs.length = N → (T xs).length = N) ∧ t ≤ (T xs).length ∧ ∀ k < t, el (T xs) k = el (F xs) k

/-- fft_trunc.c:40-59 (and the twiddled variant) over any half-size transforms -/
theorem Prefix.trunc1 {n w t : Nat} {F FL FR TL TR : List Int → List Int}
    (hF : ∀ xs, F xs = FL (difSums n w xs) ++ FR (difDiffs n w xs))
    (hl : ∀ xs, (FL xs).length = n) (hr : ∀ xs, (FR xs).length = n)
    (hL : t ≤ n → Prefix t n FL TL) (hR : ¬ t ≤ n → Prefix (t - n) n FR TR) :
    Prefix t (2 * n) F fun xs =>
      if t = 2 * n then F xs
      else if t ≤ n then
        let s := (List.range n).map fun i => el xs i + el xs (i + n)
        TL s ++ xs.drop n
      else
        let f := fun i => bfly (el xs i) (el xs (n + i)) i w
        FL (fsts n f) ++ TR (snds n f) := by
  intro xs
  have hlen : (F xs).length = 2 * n := by rw [hF, List.length_append, hl, hr, two_mul]
  by_cases c1 : t = 2 * n
  · beta_reduce; rw [if_pos c1]; exact ⟨fun _ => hlen, by omega, fun _ _ => rfl⟩
  simp only [if_neg c1]
  by_cases c2 : t ≤ n
  · simp only [if_pos c2, sums_eq_difSums n w xs]
    obtain ⟨h0, h1, h2⟩ := hL c2 (difSums n w xs)
    refine ⟨fun hx => by rw [List.length_append, h0 (length_fsts _ _), List.length_drop, hx]; omega,
      by rw [List.length_append]; omega, fun k hk => ?_⟩
    rw [el_append_left _ _ _ (by omega), h2 k hk, hF, el_append_left _ _ _ (by rw [hl]; omega)]
  · simp only [if_neg c2]
    obtain ⟨h0, h1, h2⟩ := hR c2 (difDiffs n w xs)
    refine ⟨fun _ => by have e := h0 (length_snds _ _); unfold difDiffs at e; rw [List.length_append, hl, e, two_mul],
      by rw [List.length_append, hl]; unfold difDiffs at h1; omega, fun k hk => ?_⟩
    rw [hF]
    by_cases hkn : k < n
    · rw [el_append_left _ _ _ (by rw [hl]; exact hkn), el_append_left _ _ _ (by rw [hl]; exact hkn)]; rfl
    · obtain ⟨i, rfl⟩ : ∃ i, k = n + i := ⟨k - n, by omega⟩
      rw [el_append_right' _ _ _ _ (hl _), el_append_right' _ _ _ _ (hl _)]
      exact h2 i (by omega)

theorem prefix_fft_trunc1 (d w t : Nat) (ht : TruncOk d t) : Prefix t (2 ^ (d + 1)) (fft_radix2 d w) (fft_trunc1 d w t) := by
  induction d generalizing w t with
  | zero =>
    cases truncOk_zero ht
    exact fun xs => ⟨fun _ => by simp [fft_trunc1, length_fft_radix2], by simp [fft_trunc1, length_fft_radix2],
      fun k _ => by simp [fft_trunc1]⟩
  | succ d ih =>
    rw [pow_succ' 2 (d + 1)]
    exact Prefix.trunc1 (fft_radix2_succ d w) (length_fft_radix2 d _) (length_fft_radix2 d _)
      (fun h => ih _ _ (truncOk_low ht h)) (fun h => ih _ _ (truncOk_high ht h))

/-- `Prefix` for inputs that vanish from `t` on -/
def Prefix0 (t : Nat) (F T : List Int → List Int) : Prop :=
  ∀ xs, (∀ j, t ≤ j → el xs j = 0) → t ≤ (T xs).length ∧ ∀ k < t, el (T xs) k = el (F xs) k

/-- the top layer of the forward transforms whose inputs vanish from n + m on (fft_trunc.c:75-87, fft_trunc_sqrt2.c:90-115), over the
    butterflies `Bf` and the twiddle multiplication `Tw` of the caller: beyond m the second operand of the butterfly is zero,
    and the butterfly is what the C computes -/
theorem Prefix0.zeroHigh {n m : Nat} {F FL FR TR : List Int → List Int} (Bf : Nat → Int → Int → Int × Int)
    (Tw : Nat → Int → Int) (hB : ∀ i a, Bf i a 0 = (a, Tw i a))
    (hF : ∀ xs, F xs = FL (fsts n fun i => Bf i (el xs i) (el xs (n + i))) ++
      FR (snds n fun i => Bf i (el xs i) (el xs (n + i))))
    (hl : ∀ xs, (FL xs).length = n) (hR : Prefix m n FR TR) :
    Prefix0 (n + m) F fun xs =>
      let f := fun i => if i < m then Bf i (el xs i) (el xs (n + i)) else (el xs i, Tw i (el xs i))
      FL (fsts n f) ++ TR (snds n f) := by
  intro xs hz
  have e : ∀ i < n, (if i < m then Bf i (el xs i) (el xs (n + i)) else (el xs i, Tw i (el xs i))) =
      Bf i (el xs i) (el xs (n + i)) := fun i hi => by
    by_cases hc : i < m
    · rw [if_pos hc]
    · rw [if_neg hc, hz (n + i) (by omega), hB]
  dsimp only
  rw [fsts_congr n _ _ fun i hi => by rw [e i hi], snds_congr n _ _ fun i hi => by rw [e i hi], hF]
  obtain ⟨_, h1, h2⟩ := hR (snds n fun i => Bf i (el xs i) (el xs (n + i)))
  refine ⟨by rw [List.length_append, hl]; omega, fun k hk => ?_⟩
  by_cases hkn : k < n
  · rw [el_append_left _ _ _ (by rw [hl]; exact hkn), el_append_left _ _ _ (by rw [hl]; exact hkn)]
  · obtain ⟨i, rfl⟩ : ∃ i, k = n + i := ⟨k - n, by omega⟩
    rw [el_append_right' _ _ _ _ (hl _), el_append_right' _ _ _ _ (hl _)]
    exact h2 i (by omega)

/-- fft_trunc.c:63-89 over any half-size transforms -/
theorem Prefix0.trunc {n w t : Nat} {F FL FR T0L TR : List Int → List Int}
    (hF : ∀ xs, F xs = FL (difSums n w xs) ++ FR (difDiffs n w xs)) (hl : ∀ xs, (FL xs).length = n)
    (hr : ∀ xs, (FR xs).length = n) (hc : ∀ xs ys, (∀ i < n, el xs i = el ys i) → FL xs = FL ys)
    (hL : t ≤ n → Prefix0 t FL T0L) (hR : ¬ t ≤ n → Prefix (t - n) n FR TR) :
    Prefix0 t F fun xs =>
      if t = 2 * n then F xs
      else if t ≤ n then T0L (xs.take n) ++ xs.drop n
      else
        let f := fun i => if i < t - n then bfly (el xs i) (el xs (n + i)) i w else (el xs i, adj (el xs i) i w)
        FL (fsts n f) ++ TR (snds n f) := by
  intro xs hz
  by_cases c1 : t = 2 * n
  · beta_reduce; rw [if_pos c1]; exact ⟨by rw [hF, List.length_append, hl, hr]; omega, fun _ _ => rfl⟩
  by_cases c2 : t ≤ n
  · simp only [if_neg c1, if_pos c2]
    obtain ⟨h1, h2⟩ := hL c2 (xs.take n) fun j hj => by
      by_cases hjn : j < n
      · rw [el_take _ _ _ hjn]; exact hz j hj
      · exact el_take_ge _ _ _ (by omega)
    refine ⟨by rw [List.length_append]; omega, fun k hk => ?_⟩
    rw [el_append_left _ _ _ (by omega), h2 k hk, hF, el_append_left _ _ _ (by rw [hl]; omega),
      hc (xs.take n) (difSums n w xs) fun i hi => by
        rw [el_take _ _ _ hi, el_difSums _ _ _ _ hi, hz (n + i) (by omega), add_zero]]
  · obtain ⟨h1, h2⟩ := Prefix0.zeroHigh (m := t - n) (fun i a b => bfly a b i w) (fun i a => adj a i w)
      (fun i a => by simp [bfly, adj]) hF hl (hR c2) xs fun j hj => hz j (by omega)
    dsimp only at h1 h2
    simp only [if_neg c1, if_neg c2]
    exact ⟨by omega, fun k hk => h2 k (by omega)⟩

theorem prefix0_fft_trunc (d w t : Nat) (ht : TruncOk d t) : Prefix0 t (fft_radix2 d w) (fft_trunc d w t) := by
  induction d generalizing w t with
  | zero =>
    cases truncOk_zero ht
    exact fun xs _ => ⟨by simp [fft_trunc, length_fft_radix2], fun k _ => by simp [fft_trunc]⟩
  | succ d ih =>
    exact Prefix0.trunc (fft_radix2_succ d w) (length_fft_radix2 d _) (length_fft_radix2 d _)
      (fft_radix2_congr d _) (fun h => ih _ _ (truncOk_low ht h))
      (fun h => prefix_fft_trunc1 d _ _ (truncOk_high ht h))

section ring
variable {S : Type} [CommRing S] (f : ℤ →+* S)

theorem two_mul_half (m : Nat) (hm : 1 ≤ m) (hu : f 2 ^ m = 1) : 2 * f 2 ^ (m - 1) = 1 := by
  have : (2 : S) = f 2 := by simp
  rw [this, ← pow_succ', Nat.sub_add_cancel hm, hu]

/-- ifft_trunc.c:43-47: beyond `trunc` the sums are recomputed from the given coefficients -/
theorem trunc_low_in (wn : Nat) (hwn : 1 ≤ wn) (hu : f 2 ^ (2 * wn) = 1) (c X Y : S) (a b : Int)
    (ha : f a = 2 * c * X) (hb : f b = 2 * c * Y) : f (half wn (a + b)) = c * (X + Y) := by
  have e2 := two_mul_half f (2 * wn) (by omega) hu
  simp only [half, map_mul, map_add, map_pow, ha, hb]
  linear_combination (c * (X + Y)) * e2

/-- the last loop of the layer `n < trunc < 2n` (ifft_trunc.c:75-81, :109-118 and the like), m = trunc − n, over the twiddles
    t_i and inverse butterflies `ib` of the caller -/
theorem high_layer (n m : Nat) (hm : m ≤ n) (c : S) (X Y : Nat → S) (first second : List Int) (t : Nat → S)
    (ib : Nat → Int → Int → Int × Int) (p : Nat → Int)
    (hib : ∀ i < m, ∀ (a b : Int) (X Y : S), f a = c * (X + Y) → f b = c * ((X - Y) * t i) →
      f (ib i a b).1 = 2 * c * X ∧ f (ib i a b).2 = 2 * c * Y)
    (hF : ∀ i < m, f (el first i) = c * (X i + Y i)) (hS : ∀ i < m, f (el second i) = c * ((X i - Y i) * t i))
    (hp : ∀ i, m ≤ i → i < n → f (p i) = 2 * c * X i) :
    (∀ i < n, f (el (fsts n fun i => if i < m then ib i (el first i) (el second i) else (p i, el second i)) i) =
      2 * c * X i) ∧
    ∀ i < m, f (el (snds n fun i => if i < m then ib i (el first i) (el second i) else (p i, el second i)) i) =
      2 * c * Y i := by
  have key := fun i (hi : i < m) => hib i hi _ _ _ _ (hF i hi) (hS i hi)
  refine ⟨fun i hi => ?_, fun i hi => by rw [el_snds _ _ _ (by omega), if_pos hi, (key i hi).2]⟩
  rw [el_fsts _ _ _ hi]
  by_cases him : i < m
  · rw [if_pos him, (key i him).1]
  · rw [if_neg him, hp i (by omega) hi]

/-- the middle loop of that layer (ifft_trunc.c:65-71) -/
theorem trunc1_mid (n w m : Nat) (c : S) (xs ys first : List Int)
    (hF : ∀ i < n, f (el first i) = c * (f (el xs i) + f (el xs (n + i))))
    (h2 : ∀ i, m ≤ i → i < n → f (el ys (i + n)) = 2 * c * f (el xs (n + i))) (i : Nat) (hi : i < n) :
    f (el (fsts n fun i => if m ≤ i then (el first i + (el first i - el ys (i + n)), adj (el first i - el ys (i + n)) i w)
        else (el first i, el ys (i + n))) i) =
      (if m ≤ i then 2 * c * f (el xs i) else c * (f (el xs i) + f (el xs (n + i)))) ∧
    f (el (snds n fun i => if m ≤ i then (el first i + (el first i - el ys (i + n)), adj (el first i - el ys (i + n)) i w)
        else (el first i, el ys (i + n))) i) =
      if m ≤ i then c * ((f (el xs i) - f (el xs (n + i))) * f 2 ^ (i * w)) else f (el ys (i + n)) := by
  rw [el_fsts _ _ _ hi, el_snds _ _ _ hi]
  split_ifs with h
  · simp only [adj, map_add, map_mul, map_sub, map_pow]
    rw [hF i hi, h2 i h hi]; constructor <;> ring
  · exact ⟨hF i hi, rfl⟩

variable {f}

theorem el_loop_split (n m : Nat) (h : Nat → Int × Int) (Z : Nat → S) (H : (∀ i < n, f (el (fsts n h) i) = Z i) ∧
    ∀ i < m, f (el (snds n h) i) = Z (n + i)) (j : Nat) (hj : j < n + m) : f (el (fsts n h ++ snds n h) j) = Z j := by
  by_cases hjn : j < n
  · rw [el_append_left _ _ _ (by rw [length_fsts]; exact hjn), H.1 j hjn]
  · obtain ⟨i, rfl⟩ : ∃ i, j = n + i := ⟨j - n, by omega⟩
    rw [el_append_right' _ _ _ _ (length_fsts _ _), H.2 i (by omega)]

/-- ifft_trunc.c:33-84 (and the twiddled variant) over any half-size inverses: `IL` full, `ILt`, `IRt` truncated -/
theorem Recovers.trunc1 {n w wn t : Nat} {c s : S} {F FL FR I IL ILt IRt : List Int → List Int}
    (hu : f 2 ^ (2 * wn) = 1) (hwn : 1 ≤ wn) (hnw : n * w ≤ 2 * wn) (hF : DifLayer f n (fun i => f 2 ^ (i * w)) F FL FR) (ht : t ≤ 2 * n)
    (hI : Recovers f (2 * n) (2 * n) c (2 * s) F I)
    (hIL : Recovers f n n c s FL IL) (hILt : t ≤ n → Recovers f t n c s FL ILt)
    (hIRt : ¬ t ≤ n → Recovers f (t - n) n c s FR IRt) :
    Recovers f t (2 * n) c (2 * s) F fun xs =>
      if t = 2 * n then I xs
      else if t ≤ n then
        let first := (List.range n).map fun i => if t ≤ i then half wn (el xs i + el xs (i + n)) else el xs i
        let first := ILt first
        (List.range n).map (fun i => if i < t then 2 * el first i - el xs (n + i) else el first i) ++ xs.drop n
      else
        let first := IL (xs.take n)
        let g := fun i =>
          if t - n ≤ i then
            let v := el first i - el xs (i + n)
            (el first i + v, adj v i w)
          else (el first i, el xs (i + n))
        let first := fsts n g
        let second := IRt (snds n g)
        let h := fun i => if i < t - n then ibfly wn (el first i) (el second i) i w else (el first i, el second i)
        fsts n h ++ snds n h := by
  intro xs ys h1 h2 j hj
  obtain ⟨sx, dx, hA, hB⟩ := hF xs
  by_cases c1 : t = 2 * n
  · subst c1; simp only [if_true]; exact hI xs ys h1 h2 j hj
  simp only [if_neg c1]
  by_cases c2 : t ≤ n
  · have hjn : j < n := by omega
    simp only [if_pos c2]
    rw [el_append_left _ _ _ (by simp; exact hjn), el_range_map _ _ _ hjn, if_pos hj, map_sub, map_mul,
      hILt c2 sx _ ?_ ?_ j hj, (hA j hjn).2.1, h2 (n + j) (by omega) (by omega)]
    · simp; ring
    · intro k hk
      rw [el_range_map _ _ _ (by omega), if_neg (by omega), h1 k hk, (hA k (by omega)).1]
    · intro i hi1 hi2
      rw [el_range_map _ _ _ hi2, if_pos hi1, (hA i hi2).2.1, Nat.add_comm i]
      exact trunc_low_in f _ hwn hu _ _ _ _ _ (h2 i (by omega) (by omega)) (h2 _ (by omega) (by omega))
  · simp only [if_neg c2]
    have F1 : ∀ i < n, f (el (IL (ys.take n)) i) = s * (f (el xs i) + f (el xs (n + i))) := fun i hi => by
      rw [hIL.full sx _ (fun k hk => by rw [el_take _ _ _ hk, h1 k (by omega), (hA k hk).1]) i hi, (hA i hi).2.1]
    have H2 : ∀ i, t - n ≤ i → i < n → f (el ys (i + n)) = 2 * s * f (el xs (n + i)) := fun i hi1 hi2 => by
      rw [h2 _ (by omega) (by omega), Nat.add_comm i]
    have M := trunc1_mid f n w (t - n) _ xs ys _ F1 H2
    refine el_loop_split _ (t - n) _ (fun j => 2 * s * f (el xs j)) (high_layer f _ _ (by omega) _ (fun i => f (el xs i))
      (fun i => f (el xs (n + i))) _ _ (fun i => f 2 ^ (i * w)) (fun i a b => ibfly _ a b i w) _
      (fun i hi a b X Y ha hb => ibfly_val f _ a b i w _ X Y hu
        (le_trans (Nat.mul_le_mul_right w (by omega)) hnw) ha hb)
      (fun i hi => by rw [(M i (by omega)).1, if_neg (by omega)]) (fun i hi => ?_)
      (fun i hi1 hi2 => by rw [(M i hi2).1, if_pos hi1])) j (by omega)
    rw [← (hA i (by omega)).2.2]
    refine hIRt c2 _ _ (fun k hk => ?_) (fun i hi1 hi2 => ?_) i hi
    · rw [(M k (by omega)).2, if_neg (by omega), h1 _ (by omega), Nat.add_comm k, hB k]
    · rw [(M i hi2).2, if_pos hi1, (hA i hi2).2.2]

/-- the layer of the transforms whose coefficients vanish from `trunc` on (ifft_trunc.c:102-118, ifft_trunc_sqrt2.c:92-121,
    one column of ifft_mfa_trunc_sqrt2.c:207-260), over the twiddle multiplication `tw` and inverse butterflies `ib` of the caller -/
theorem zeroHigh_layer (n m : Nat) (hm : m ≤ n) (c s : S) (X Y τ : Nat → S) (D first : List Int) (g : Nat → Int)
    (tw : Nat → Int → Int) (ib : Nat → Int → Int → Int × Int) {FR IRt : List Int → List Int}
    (hIRt : Recovers f m n c s FR IRt)
    (hD : ∀ i < n, f (el D i) = (X i - Y i) * τ i)
    (hY : ∀ i, m ≤ i → i < n → Y i = 0)
    (htw : ∀ i, m ≤ i → i < n → ∀ a, f (tw i a) = f a * τ i)
    (hib : ∀ i < m, ∀ (a b : Int) (X Y : S), f a = s * (X + Y) → f b = s * ((X - Y) * τ i) →
      f (ib i a b).1 = 2 * s * X ∧ f (ib i a b).2 = 2 * s * Y)
    (hF : ∀ i < n, f (el first i) = s * (X i + Y i))
    (hG : ∀ k < m, f (g k) = c * f (el (FR D) k)) :
    (∀ i < n, f (el (fsts n fun i => if i < m then
        ib i (el first i) (el (IRt ((List.range n).map fun i => if m ≤ i then tw i (el first i) else g i)) i)
        else (2 * el first i, el (IRt ((List.range n).map fun i => if m ≤ i then tw i (el first i) else g i)) i)) i) =
      2 * s * X i) ∧
    ∀ i < m, f (el (snds n fun i => if i < m then
        ib i (el first i) (el (IRt ((List.range n).map fun i => if m ≤ i then tw i (el first i) else g i)) i)
        else (2 * el first i, el (IRt ((List.range n).map fun i => if m ≤ i then tw i (el first i) else g i)) i)) i) =
      2 * s * Y i := by
  have S2 : ∀ i < m, f (el (IRt ((List.range n).map fun i => if m ≤ i then tw i (el first i) else g i)) i) =
      s * ((X i - Y i) * τ i) := fun i hi => by
    rw [← hD i (by omega)]
    exact hIRt D _ (fun k hk => by rw [el_range_map _ _ _ (by omega), if_neg (by omega), hG k hk])
      (fun j h1 h2 => by rw [el_range_map _ _ _ h2, if_pos h1, htw j h1 h2, hF j h2, hD j h2, hY j h1 h2]; ring) i hi
  exact high_layer f n m hm s X Y first _ τ ib (fun i => 2 * el first i) hib (fun i hi => hF i (by omega)) S2
    (fun i h1 h2 => by rw [map_mul, hF i h2, hY i h1 h2]; simp; ring)

/-- `Recovers` for coefficient vectors that vanish from `t` on: nothing is asked of the input there -/
def Recovers0 (f : ℤ →+* S) (t N : Nat) (c s : S) (F I : List Int → List Int) : Prop :=
  ∀ xs ys : List Int, (∀ k < t, f (el ys k) = c * f (el (F xs) k)) →
    (∀ j, t ≤ j → j < N → f (el xs j) = 0) → ∀ j < t, f (el (I ys) j) = s * f (el xs j)

theorem Recovers0.one {t N : Nat} {s : S} {F I : List Int → List Int} (h : Recovers0 f t N 1 (1 * s) F I)
    (xs ys : List Int) (h1 : ∀ k < t, f (el ys k) = f (el (F xs) k))
    (h0 : ∀ j, t ≤ j → j < N → f (el xs j) = 0) (j : Nat) (hj : j < t) : f (el (I ys) j) = s * f (el xs j) := by
  rw [one_mul] at h
  exact h xs ys (fun k hk => by rw [one_mul]; exact h1 k hk) h0 j hj

theorem Recovers0.zeroHigh {n m : Nat} {c s : S} {τ : Nat → S} {F FL FR IL IRt : List Int → List Int}
    (tw : Nat → Int → Int) (ib : Nat → Int → Int → Int × Int) (hm : m ≤ n) (hF : DifLayer f n τ F FL FR)
    (htw : ∀ i, m ≤ i → i < n → ∀ a, f (tw i a) = f a * τ i)
    (hib : ∀ i < m, ∀ (a b : Int) (X Y : S), f a = s * (X + Y) → f b = s * ((X - Y) * τ i) →
      f (ib i a b).1 = 2 * s * X ∧ f (ib i a b).2 = 2 * s * Y)
    (hIL : Recovers f n n c s FL IL) (hIRt : Recovers f m n c s FR IRt) :
    Recovers0 f (n + m) (2 * n) c (2 * s) F fun xs =>
      let first := IL (xs.take n)
      let second := IRt ((List.range n).map fun i => if m ≤ i then tw i (el first i) else el xs (i + n))
      let h := fun i => if i < m then ib i (el first i) (el second i) else (2 * el first i, el second i)
      fsts n h ++ snds n h := by
  intro xs ys h1 h0 j hj
  obtain ⟨sx, dx, hA, hB⟩ := hF xs
  exact el_loop_split _ m _ (fun j => 2 * s * f (el xs j))
    (zeroHigh_layer _ _ hm c _ (fun i => f (el xs i)) (fun i => f (el xs (n + i))) τ dx _ (fun i => el ys (i + n))
      tw ib hIRt (fun i hi => (hA i hi).2.2) (fun i hi1 hi2 => h0 _ (by omega) (by omega)) htw hib
      (fun i hi => by
        rw [hIL.full sx _ (fun k hk => by rw [el_take _ _ _ hk, h1 k (by omega), (hA k hk).1]) i hi, (hA i hi).2.1])
      (fun k hk => by rw [h1 _ (by omega), Nat.add_comm k, hB k])) j hj

/-- ifft_trunc.c:92-118 over any half-size inverses -/
theorem Recovers0.trunc {n w wn t : Nat} {c s : S} {F FL FR I IL IL0 IRt : List Int → List Int}
    (hu : f 2 ^ (2 * wn) = 1) (hnw : n * w ≤ 2 * wn) (hF : DifLayer f n (fun i => f 2 ^ (i * w)) F FL FR) (ht : t ≤ 2 * n)
    (hI : Recovers f (2 * n) (2 * n) c (2 * s) F I)
    (hIL : Recovers f n n c s FL IL) (hIL0 : t ≤ n → Recovers0 f t n c s FL IL0)
    (hIRt : ¬ t ≤ n → Recovers f (t - n) n c s FR IRt) :
    Recovers0 f t (2 * n) c (2 * s) F fun xs =>
      if t = 2 * n then I xs
      else if t ≤ n then
        let first := IL0 (xs.take n)
        (List.range n).map (fun i => if i < t then 2 * el first i else el first i) ++ xs.drop n
      else
        let first := IL (xs.take n)
        let second := (List.range n).map fun i => if t - n ≤ i then adj (el first i) i w else el xs (i + n)
        let second := IRt second
        let h := fun i => if i < t - n then ibfly wn (el first i) (el second i) i w else (2 * el first i, el second i)
        fsts n h ++ snds n h := by
  intro xs ys h1 h0 j hj
  obtain ⟨sx, dx, hA, hB⟩ := hF xs
  by_cases c1 : t = 2 * n
  · subst c1; simp only [if_true]; exact hI.full xs ys h1 j hj
  simp only [if_neg c1]
  by_cases c2 : t ≤ n
  · have hjn : j < n := by omega
    simp only [if_pos c2]
    rw [el_append_left _ _ _ (by simp; exact hjn), el_range_map _ _ _ hjn, if_pos hj, map_mul,
      hIL0 c2 sx _ ?_ ?_ j hj, (hA j hjn).2.1, h0 (n + j) (by omega) (by omega)]
    · simp; ring
    · intro k hk
      rw [el_take _ _ _ (by omega), h1 k hk, (hA k (by omega)).1]
    · intro i hi1 hi2
      rw [(hA i hi2).2.1, h0 i (by omega) (by omega), h0 (n + i) (by omega) (by omega)]; ring
  · simp only [if_neg c2]
    have e : n + (t - n) = t := by omega
    exact Recovers0.zeroHigh (fun i a => adj a i w) (fun i a b => ibfly wn a b i w) (by omega) hF
      (fun i _ _ a => by simp only [adj, map_mul, map_pow])
      (fun i hi a b X Y ha hb => ibfly_val f _ a b i w _ X Y hu (le_trans (Nat.mul_le_mul_right w (by omega)) hnw) ha hb)
      hIL (hIRt c2) xs ys (fun k hk => h1 k (by omega)) (fun j a b => h0 j (by omega) b) j (by omega)

theorem recovers_ifft_trunc1 (d w t : Nat) (ht : TruncOk d t) (hd : 64 ∣ 2 ^ d * w) (hw : 1 ≤ w)
    (hu : f 2 ^ (2 * (2 ^ d * w)) = 1) (c : S) :
    Recovers f t (2 ^ (d + 1)) c (c * 2 ^ (d + 1)) (fft_radix2 d w) (ifft_trunc1 d w t) := by
  induction d generalizing w t with
  | zero =>
    cases truncOk_zero ht
    exact recovers_ifft_radix2 0 w hd hu c
  | succ d ih =>
    obtain ⟨a1, a2, a3, a4, a5⟩ := layer_side d w hd hu
    have R1 := recovers_ifft_radix2 (d + 1) w hd hu c
    rw [pow_succ' 2 (d + 1), pow_succ' (2 : S) (d + 1), mul_left_comm] at R1 ⊢
    exact Recovers.trunc1 a1 (a2 hw) a3 (difLayer_radix2 f d w) (pow_succ' 2 (d + 1) ▸ ht.2.2) R1
      (recovers_ifft_radix2 d _ a4 a5 c)
      (fun h => ih _ _ (truncOk_low ht h) a4 (by omega) a5) (fun h => ih _ _ (truncOk_high ht h) a4 (by omega) a5)

theorem recovers0_ifft_trunc (d w t : Nat) (ht : TruncOk d t) (hd : 64 ∣ 2 ^ d * w) (hw : 1 ≤ w)
    (hu : f 2 ^ (2 * (2 ^ d * w)) = 1) (c : S) :
    Recovers0 f t (2 ^ (d + 1)) c (c * 2 ^ (d + 1)) (fft_radix2 d w) (ifft_trunc d w t) := by
  induction d generalizing w t with
  | zero =>
    cases truncOk_zero ht
    exact fun xs ys h1 _ => (recovers_ifft_radix2 0 w hd hu c).full xs ys h1
  | succ d ih =>
    obtain ⟨a1, a2, a3, a4, a5⟩ := layer_side d w hd hu
    have R1 := recovers_ifft_radix2 (d + 1) w hd hu c
    rw [pow_succ' 2 (d + 1), pow_succ' (2 : S) (d + 1), mul_left_comm] at R1 ⊢
    exact Recovers0.trunc a1 a3 (difLayer_radix2 f d w) (pow_succ' 2 (d + 1) ▸ ht.2.2) R1 (recovers_ifft_radix2 d _ a4 a5 c)
      (fun h => ih _ _ (truncOk_low ht h) a4 (by omega) a5)
      (fun h => recovers_ifft_trunc1 d _ _ (truncOk_high ht h) a4 (by omega) a5 c)

end ring

end Mpir.FftX
