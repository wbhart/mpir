/- The size field M->n of an hgcd matrix.  "Some entry uses limb M->n − 1" (`NormD`, the C's ASSERT in
   mpn_hgcd_matrix_mul) is preserved by every step (a clause of the step specifications); with the contract of mpn_hgcd
   (entries < B^(n−s) because det = 1 and (a; b) = M·(a'; b') with a', b' ≥ B^s) it gives `M->n ≤ (n − 1)/2`, the C's
   ASSERT at gcdext.c:296/:346.  NOT covered: mpn_hgcd_matrix_mul keeps the invariant only by the argument of its comment
   (the product of the two matrices has normalised size ≥ M->n + M1->n − 2), see `HgNorm`; that step under a balance
   hypothesis is `matMul_norm` (HgcdMulSize.lean). -/
import MpirProofs.Lemmas.HgcdRec2
namespace Mpir.Hgcd
open Mpir Mpir.Gcd

theorem matInit_norm (n : Nat) : (matInit n).NormD := by
  left; show B ^ (1 - 1) ≤ 1; simp

/-- `ASSERT (M.n <= (n - p - 1)/2)` (gcdext.c:296, :346) and "Constructs matrix M with elements of size at most
    (n+1)/2 − 1" (hgcd.c): the entries are below B^(n − n/2 − 1), and the size field is tight -/
theorem mn_le_of_norm {n a b : Nat} {M : HM} {r : StepRes} (hpre : HPre n a b M) (hpost : HPost n a b M r)
    (hret : r.ret ≠ 0) (hN : r.M.NormD) : r.M.n ≤ (n - 1) / 2 := by
  obtain ⟨⟨hrel, _, _, hle, hsucc⟩, _⟩ := hpost
  obtain ⟨_, hx, hy, hxB, _⟩ := hsucc hret
  have := mrel_size4_le hrel hx hy hpre.2.2.1 hpre.2.2.2.1
  have := (pow_lt_of hx hxB).trans_le hle
  rw [normD_iff] at hN
  omega

/-- the size field of the matrix on success is tight (the C's ASSERT in mpn_hgcd_matrix_mul) -/
def HgNorm (hg : Nat → Nat → Nat → HM → StepRes) (R : Nat) : Prop :=
  ∀ n a b, n < R → HPre n a b (matInit n) → (hg n a b (matInit n)).ret ≠ 0 → (hg n a b (matInit n)).M.NormD

/-- at or below HGCD_THRESHOLD limbs there is no recursion and no mpn_hgcd_matrix_mul -/
theorem hgcd_norm_base (thr : Thr) (ns : Nat → Nat) (n a b : Nat) (hle : n ≤ thr.hgcd) (hpre : HPre n a b (matInit n)) :
    (hgcd thr ns n a b (matInit n)).M.NormD := by
  show (hgcdBody thr (fns thr ns (2 * n + 1)) n a b (matInit n)).M.NormD
  unfold hgcdBody
  by_cases h2 : n ≤ n / 2 + 1
  · rw [if_pos h2]; exact matInit_norm n
  · rw [if_neg h2, if_neg (by omega)]
    obtain ⟨hid, hMok, ha, hb, ht⟩ := hpre
    have hacc0 : Acc (n / 2 + 1) a b (matInit n).alloc n a b (matInit n) false :=
      ⟨by rw [hid]; exact mrel_id a b, hMok, rfl, ha, hb, ht, by omega, fun hc => absurd hc (by simp)⟩
    exact (hgcdFin_spec (n / 2 + 1) a b _ n a b (matInit n) false (by omega) hacc0).2.2 (matInit_norm n)

end Mpir.Hgcd
