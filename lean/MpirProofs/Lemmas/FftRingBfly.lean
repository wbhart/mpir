/- FFT ring layer: mpn_sumdiff_n on whole residues, the limb-shift butterflies with x = 0, and the radix-2 butterflies built on them. -/
import MpirProofs.Lemmas.FftRingShift
namespace Mpir.Fft
open Mpir

/-! ### top limbs small enough to add -/

/-- the signed top limb lies strictly between ±2^62: sums and differences of two such limbs do not overflow -/
def TopSmall (x : List Nat) : Prop :=
  -4611686018427387904 < sint (top x) ∧ sint (top x) < 4611686018427387904

theorem topSmall_snoc (xs : List Nat) (h : Nat) :
    TopSmall (xs ++ [h]) ↔ -4611686018427387904 < sint h ∧ sint h < 4611686018427387904 := by
  unfold TopSmall; rw [top_snoc]

theorem topSmall_rval (xs : List Nat) (h : Nat) (hx : Limbs (xs ++ [h])) (ht : TopSmall (xs ++ [h])) :
    -(4611686018427387904 * (B : Int) ^ xs.length) ≤ rval (xs ++ [h]) ∧
    rval (xs ++ [h]) < 4611686018427387904 * (B : Int) ^ xs.length := by
  rw [topSmall_snoc] at ht
  have := rval_bounds xs h hx (-4611686018427387904) 4611686018427387903 (by omega) (by omega)
  constructor <;> linarith

theorem sint_of_congr (c : Nat) (hc : c < B) (z k : Int) (h : (c : Int) = z + k * (B : Int))
    (h1 : -9223372036854775808 ≤ z) (h2 : z < 9223372036854775808) : sint c = z := by
  have hr := sint_range c hc
  have he := sint_eq c
  rw [BZ_eq] at h he
  refine eq_of_half_range 18446744073709551616 _ _ (k - if c < B / 2 then 0 else 1) ?_
    (by omega) (by omega) (by omega) (by omega)
  linarith

theorem sint_ladd (a b : Nat)
    (h1 : -9223372036854775808 ≤ sint a + sint b) (h2 : sint a + sint b < 9223372036854775808) :
    sint (ladd a b) = sint a + sint b := by
  obtain ⟨q, hq⟩ : ∃ q, a + b = ladd a b + B * q := ⟨(a + b) / B, (Nat.mod_add_div _ _).symm⟩
  zify at hq
  refine sint_of_congr _ (ladd_lt a b) _
    ((if a < B / 2 then 0 else 1) + (if b < B / 2 then 0 else 1) - q) ?_ h1 h2
  linear_combination sint_eq a + sint_eq b - hq

theorem sint_lsub (a b : Nat) (hb : b < B)
    (h1 : -9223372036854775808 ≤ sint a - sint b) (h2 : sint a - sint b < 9223372036854775808) :
    sint (lsub a b) = sint a - sint b := by
  have hle : b ≤ a + B := by omega
  obtain ⟨q, hq⟩ : ∃ q, a + B - b = lsub a b + B * q := ⟨(a + B - b) / B, (Nat.mod_add_div _ _).symm⟩
  zify [hle] at hq
  refine sint_of_congr _ (lsub_lt a b) _
    ((if a < B / 2 then 0 else 1) - (if b < B / 2 then 0 else 1) - q + 1) ?_ h1 h2
  linear_combination sint_eq a - sint_eq b - hq

theorem sint_bit (b : Nat) (hb : b ≤ 1) : sint b = b := by
  rw [sint_def]; split <;> omega

theorem sint_lneg_bit (b : Nat) (hb : b ≤ 1) : sint (lneg b) = -(b : Int) := by
  have : b < B := by have := B_eq; omega
  rw [sint_lneg b this (by have := B_eq; omega), sint_bit b hb]

theorem sint_half : sint (B / 2) = -9223372036854775808 := by
  rw [sint_def]; simp only [B_eq]; norm_num

theorem ne_half (c : Nat) (h : -9223372036854775808 < sint c) : c ≠ B / 2 := by
  intro hc; rw [hc, sint_half] at h; omega

/-- `-(b) + (h2 - h1)` (butterfly_lshB.c:56) -/
theorem sint_u (h1 h2 b : Nat) (hh1 : h1 < B) (hb : b ≤ 1)
    (t1 : -4611686018427387904 < sint h1 ∧ sint h1 < 4611686018427387904)
    (t2 : -4611686018427387904 < sint h2 ∧ sint h2 < 4611686018427387904) :
    sint (ladd (lneg b) (lsub h2 h1)) = -(b : Int) + (sint h2 - sint h1) := by
  have x1 := sint_lneg_bit b hb
  have x2 := sint_lsub h2 h1 hh1 (by omega) (by omega)
  rw [sint_ladd _ _ (by omega) (by omega), x1, x2]

/-- `-(h1 + h2)` (butterfly_lshB.c:58) -/
theorem sint_t (h1 h2 : Nat)
    (t1 : -4611686018427387904 < sint h1 ∧ sint h1 < 4611686018427387904)
    (t2 : -4611686018427387904 < sint h2 ∧ sint h2 < 4611686018427387904) :
    sint (lneg (ladd h1 h2)) = -(sint h1 + sint h2) := by
  have x1 := sint_ladd h1 h2 (by omega) (by omega)
  rw [sint_lneg _ (ladd_lt _ _) (ne_half _ (by omega)), x1]

theorem fits_sum (P a b : Int)
    (ha1 : -(4611686018427387904 * P) ≤ a) (ha2 : a < 4611686018427387904 * P)
    (hb1 : -(4611686018427387904 * P) ≤ b) (hb2 : b < 4611686018427387904 * P) :
    (-(P * (B : Int)) ≤ 2 * (a + b) ∧ 2 * (a + b) < P * (B : Int)) ∧
    (-(P * (B : Int)) ≤ 2 * (a - b) ∧ 2 * (a - b) < P * (B : Int)) := by
  rw [BZ_eq]; refine ⟨⟨?_, ?_⟩, ?_, ?_⟩ <;> linarith

/-! ### mpir_butterfly_lshB, x = 0 (butterfly_lshB.c:47-59) -/

/-- sumdiff over the whole residues (butterfly_lshB.c:47, butterfly_rshB.c:43): exact sum and difference -/
theorem sumdiff_full (A C : List Nat) (h1 h2 : Nat) (hA : Limbs (A ++ [h1])) (hC : Limbs (C ++ [h2]))
    (hl : A.length = C.length) (t1 : TopSmall (A ++ [h1])) (t2 : TopSmall (C ++ [h2])) :
    ∃ ts tg us ug, (sumdiff_n (A ++ [h1]) (C ++ [h2])).1 = ts ++ [tg] ∧
      (sumdiff_n (A ++ [h1]) (C ++ [h2])).2.1 = us ++ [ug] ∧
      ts.length = A.length ∧ us.length = A.length ∧ Limbs (ts ++ [tg]) ∧ Limbs (us ++ [ug]) ∧
      rval (ts ++ [tg]) = rval (A ++ [h1]) + rval (C ++ [h2]) ∧
      rval (us ++ [ug]) = rval (A ++ [h1]) - rval (C ++ [h2]) := by
  obtain ⟨sa, sd, _, _, la, ld, na, nd⟩ := sumdiff_spec (A ++ [h1]) (C ++ [h2]) hA hC (by simp [hl])
  simp only [List.length_append, List.length_cons, List.length_nil] at sa sd na nd
  generalize (sumdiff_n (A ++ [h1]) (C ++ [h2])).2.2 / 2 = c1 at *
  generalize (sumdiff_n (A ++ [h1]) (C ++ [h2])).2.2 % 2 = c2 at *
  obtain ⟨ts, tg, e1, l1⟩ := exists_snoc _ A.length na
  obtain ⟨us, ug, e2, l2⟩ := exists_snoc _ A.length nd
  rw [e1] at sa la; rw [e2] at sd ld
  have r1 := rval_eq_val A h1
  have r2 := rval_eq_val C h2
  have b1 := topSmall_rval A h1 hA t1
  have b2 := topSmall_rval C h2 hC t2
  rw [← hl] at r2 b2
  have hf := fits_sum _ _ _ b1.1 b1.2 b2.1 b2.2
  have sa' := congrArg (fun z : Nat => (z : Int)) sa
  have sd' := congrArg (fun z : Nat => (z : Int)) sd
  push_cast at sa' sd'
  refine ⟨ts, tg, us, ug, e1, e2, l1, l2, la, ld, ?_, ?_⟩
  · refine rval_of_fits ts tg la l1 _
      ((if h1 < B / 2 then 0 else 1) + (if h2 < B / 2 then 0 else 1) - (c1 : Int)) ?_ hf.1
    rw [r1, r2]; linear_combination sa'
  · refine rval_of_fits us ug ld l2 _
      ((if h1 < B / 2 then 0 else 1) - (if h2 < B / 2 then 0 else 1) + (c2 : Int)) ?_ hf.2
    rw [r1, r2]; linear_combination sd'

theorem sl_prefix (a b : List Nat) : sl (a ++ b) 0 a.length = a := by unfold sl; simp

theorem lshB_x0_unfold (i1 i2 : List Nat) (y : Nat) (hy : y ≠ 0) :
    butterfly_lshB i1 i2 0 y =
      let limbs := i1.length - 1
      let sd1 := sumdiff_n (sl i1 0 (limbs - y)) (sl i2 0 (limbs - y))
      let sd2 := sumdiff_n (sl i2 (limbs - y) limbs) (sl i1 (limbs - y) limbs)
      (addmod1 (sd1.1 ++ (add_1 (sd2.1 ++ [sd2.2.2 / 2]) (sd1.2.2 / 2)).1) (lneg (ladd (top i1) (top i2))),
       sd2.2.1 ++ addmod1 (sd1.2.1 ++ [lneg (sd1.2.2 % 2)]) (ladd (lneg (sd2.2.2 % 2)) (lsub (top i2) (top i1)))) := by
  unfold butterfly_lshB
  simp only [hy, ↓reduceIte]

theorem fits_t (P v s : Int) (hP : (B : Int) ≤ P) (hv0 : 0 ≤ v) (hv1 : v < 2 * P)
    (hs1 : -9223372036854775808 ≤ s) (hs2 : s < 9223372036854775808) :
    -(P * (B : Int)) ≤ 2 * (v - s) ∧ 2 * (v - s) < P * (B : Int) := by
  rw [BZ_eq] at *; constructor <;> linarith

/-- butterfly_lshB.c:50-59 (x = 0, 0 < y < limbs): t = i1 + i2, u = (i1 - i2)·B^y -/
theorem lshB_x0_y_spec (A1 A2 C1 C2 : List Nat) (h1 h2 : Nat)
    (hA : Limbs (A1 ++ A2 ++ [h1])) (hC : Limbs (C1 ++ C2 ++ [h2]))
    (hl1 : A1.length = C1.length) (hl2 : A2.length = C2.length) (hm : 1 ≤ A1.length) (hy : 1 ≤ A2.length)
    (t1 : TopSmall (A1 ++ A2 ++ [h1])) (t2 : TopSmall (C1 ++ C2 ++ [h2])) :
    ∃ ts tg us ug, butterfly_lshB (A1 ++ A2 ++ [h1]) (C1 ++ C2 ++ [h2]) 0 A2.length = (ts ++ [tg], us ++ [ug]) ∧
      ts.length = A1.length + A2.length ∧ us.length = A1.length + A2.length ∧
      Limbs (ts ++ [tg]) ∧ Limbs (us ++ [ug]) ∧
      rval (ts ++ [tg]) = (val (A1 ++ A2) : Int) + val (C1 ++ C2) - (sint h1 + sint h2) ∧
      rval (us ++ [ug]) = (B : Int) ^ A2.length * ((val A1 : Int) - val C1) - ((val A2 : Int) - val C2)
        - (B : Int) ^ A2.length * (sint h1 - sint h2) ∧
      -(2 * (B : Int) ^ (A1.length + A2.length)) < rval (us ++ [ug]) ∧
      rval (us ++ [ug]) < 2 * (B : Int) ^ (A1.length + A2.length) := by
  have ⟨hA12, hh1⟩ := Limbs_snoc.mp hA
  have ⟨hC12, hh2⟩ := Limbs_snoc.mp hC
  have ⟨hA1, hA2⟩ := Limbs_append.mp hA12
  have ⟨hC1, hC2⟩ := Limbs_append.mp hC12
  rw [topSmall_snoc] at t1 t2
  rw [lshB_x0_unfold _ _ _ (by omega)]
  have hlen : (A1 ++ A2 ++ [h1]).length - 1 = A1.length + A2.length := by simp
  simp only [hlen, Nat.add_sub_cancel, top_snoc]
  have e1 : sl (A1 ++ A2 ++ [h1]) 0 A1.length = A1 := by rw [List.append_assoc]; exact sl_prefix _ _
  have e2 : sl (C1 ++ C2 ++ [h2]) 0 A1.length = C1 := by rw [List.append_assoc, hl1]; exact sl_prefix _ _
  have e3 : sl (A1 ++ A2 ++ [h1]) A1.length (A1.length + A2.length) = A2 := sl_mid _ _ _
  have e4 : sl (C1 ++ C2 ++ [h2]) A1.length (A1.length + A2.length) = C2 := by rw [hl1, hl2]; exact sl_mid _ _ _
  rw [e1, e2, e3, e4]
  obtain ⟨sa1, sd1, ca1, cb1, la1, ld1, na1, nd1⟩ := sumdiff_spec A1 C1 hA1 hC1 hl1
  obtain ⟨sa2, sd2, ca2, cb2, la2, ld2, na2, nd2⟩ := sumdiff_spec C2 A2 hC2 hA2 hl2.symm
  generalize (sumdiff_n A1 C1).2.2 / 2 = a1 at *
  generalize (sumdiff_n A1 C1).2.2 % 2 = b1 at *
  generalize (sumdiff_n C2 A2).2.2 / 2 = a2 at *
  generalize (sumdiff_n C2 A2).2.2 % 2 = b2 at *
  generalize (sumdiff_n A1 C1).1 = tA at *
  generalize (sumdiff_n A1 C1).2.1 = uB at *
  generalize (sumdiff_n C2 A2).1 = tC at *
  generalize (sumdiff_n C2 A2).2.1 = uD at *
  have hB := B_eq
  -- add_1 on tC ++ [a2]
  have hlc : Limbs (tC ++ [a2]) := Limbs_snoc.mpr ⟨la2, by omega⟩
  obtain ⟨av, _, al, an⟩ := add_1_val' (tC ++ [a2]) a1 hlc (by simp) (by omega)
  generalize (add_1 (tC ++ [a2]) a1).1 = tCt at *
  generalize (add_1 (tC ++ [a2]) a1).2 = cc at *
  have s_u := sint_u h1 h2 b2 hh1 cb2 t1 t2
  have s_t := sint_t h1 h2 t1 t2
  -- the two addmod1
  have hlu : Limbs (uB ++ [lneg b1]) := Limbs_snoc.mpr ⟨ld1, lneg_lt _⟩
  obtain ⟨⟨k1, hk1⟩, ul, un⟩ := addmod1_spec' (uB ++ [lneg b1]) _ hlu (by simp) (ladd_lt (lneg b2) (lsub h2 h1))
  have hlt : Limbs (tA ++ tCt) := Limbs_append.mpr ⟨la1, al⟩
  obtain ⟨⟨k2, hk2⟩, tl, tn⟩ := addmod1_spec' (tA ++ tCt) _ hlt (by simp [an]) (lneg_lt (ladd h1 h2))
  rw [s_u] at hk1; rw [s_t] at hk2
  generalize addmod1 (uB ++ [lneg b1]) (ladd (lneg b2) (lsub h2 h1)) = uwin at *
  generalize addmod1 (tA ++ tCt) (lneg (ladd h1 h2)) = t at *
  simp only [List.length_append, List.length_cons, List.length_nil] at an un tn na1 nd1 na2 nd2
  obtain ⟨ts, tg, et, lt'⟩ := exists_snoc t (A1.length + A2.length) (by rw [tn, na1, an, na2]; omega)
  obtain ⟨us, ug, eu, lu'⟩ := exists_snoc (uD ++ uwin) (A1.length + A2.length) (by simp [nd2, un, nd1]; omega)
  have hLt : Limbs (ts ++ [tg]) := et ▸ tl
  have hLu : Limbs (us ++ [ug]) := eu ▸ Limbs_append.mpr ⟨ld2, ul⟩
  refine ⟨ts, tg, us, ug, by rw [et, eu], lt', lu', hLt, hLu, ?_, ?_⟩
  · -- t
    have hk2' := hk2
    have sa1' := congrArg (fun z : Nat => (z : Int)) sa1
    have sa2' := congrArg (fun z : Nat => (z : Int)) sa2
    have av' := congrArg (fun z : Nat => (z : Int)) av
    simp only [List.length_append, List.length_cons, List.length_nil, val_append, val_cons, val_nil, na1, na2, an, ← hl2] at hk2' av' sa2'
    push_cast at sa1' sa2' av' hk2'
    have hv0 : (0 : Int) ≤ (val (A1 ++ A2) : Int) + val (C1 ++ C2) := add_nonneg (Nat.cast_nonneg _) (Nat.cast_nonneg _)
    have hvA := valZ_lt _ hA12
    have hvC := valZ_lt _ hC12
    simp only [List.length_append, ← hl1, ← hl2] at hvA hvC
    have hP := B_le_pow (A1.length + A2.length) (le_trans hm (Nat.le_add_right _ _))
    have hf := fits_t _ _ (sint h1 + sint h2) hP hv0 (by linarith only [hvA, hvC]) (by linarith only [t1.1, t2.1]) (by linarith only [t1.2, t2.2])
    refine rval_of_fits ts tg hLt lt' _ (k2 - cc) ?_ hf
    rw [← et, val_append A1 A2, val_append C1 C2, ← hl1]; push_cast
    linear_combination hk2' + sa1' + (B : Int) ^ A1.length * av' + (B : Int) ^ A1.length * sa2'
  · -- u
    have hk1' := hk1
    have sd1' := congrArg (fun z : Nat => (z : Int)) sd1
    have sd2' := congrArg (fun z : Nat => (z : Int)) sd2
    have hsp := sint_eq (lneg b1)
    rw [sint_lneg_bit b1 cb1] at hsp
    simp only [List.length_append, List.length_cons, List.length_nil, val_snoc, nd1, ← hl2] at hk1' sd2'
    push_cast at sd1' sd2' hk1'
    have hvu : (val (us ++ [ug]) : Int) = val uD + (B : Int) ^ A2.length * val uwin := by
      rw [← eu, val_append, nd2, ← hl2]; push_cast; ring
    have hA1v := valZ_lt _ hA1
    have hC1v := valZ_lt _ hC1
    have hA2v := valZ_lt _ hA2
    have hC2v := valZ_lt _ hC2
    rw [← hl1] at hC1v; rw [← hl2] at hC2v
    have hX := BZpow_pos A2.length
    have hPX : (B : Int) ^ (A1.length + A2.length) = (B : Int) ^ A2.length * (B : Int) ^ A1.length := by
      rw [← pow_add]; congr 1; omega
    have hBL := B_le_pow A1.length hm
    have p0A : (0 : Int) ≤ val A1 := Nat.cast_nonneg _
    have p0C : (0 : Int) ≤ val C1 := Nat.cast_nonneg _
    have p0A2 : (0 : Int) ≤ val A2 := Nat.cast_nonneg _
    have p0C2 : (0 : Int) ≤ val C2 := Nat.cast_nonneg _
    have hf := fits_rot ((B : Int) ^ (A1.length + A2.length)) ((B : Int) ^ A2.length)
      ((B : Int) ^ A2.length * ((val A1 : Int) - val C1)) ((val A2 : Int) - val C2) (sint h1 - sint h2)
      (by rw [hPX]; exact mul_le_mul_of_nonneg_left hBL (le_of_lt hX)) hX
      (by rw [hPX, ← mul_neg]; exact mul_lt_mul_of_pos_left (by linarith only [hC1v, p0A]) hX)
      (by rw [hPX]; exact mul_lt_mul_of_pos_left (by linarith only [hA1v, p0C]) hX)
      (by linarith only [hC2v, p0A2]) (by linarith only [hA2v, p0C2])
      (by linarith only [t1.1, t2.2]) (by linarith only [t1.2, t2.1])
    have hru : rval (us ++ [ug]) = (B : Int) ^ A2.length * ((val A1 : Int) - val C1) - ((val A2 : Int) - val C2)
        - (B : Int) ^ A2.length * (sint h1 - sint h2) := by
      refine rval_of_fits us ug hLu lu' _ ((if lneg b1 < B / 2 then 0 else 1) + k1) ?_ hf.1
      rw [hvu]
      linear_combination sd2' + (B : Int) ^ A2.length * hk1' + (B : Int) ^ A2.length * sd1' +
        ((B : Int) ^ A2.length * (B : Int) ^ A1.length) * hsp
    exact ⟨hru, hru ▸ hf.2.1, hru ▸ hf.2.2⟩

/-! ### mpir_butterfly_rshB, x = 0 (butterfly_rshB.c:43-54) -/

theorem sint_bit_add (a h : Nat) (ha : a ≤ 1)
    (t : -4611686018427387904 < sint h ∧ sint h < 4611686018427387904) : sint (ladd a h) = (a : Int) + sint h := by
  have x := sint_bit a ha
  rw [sint_ladd a h (by omega) (by omega), x]

theorem sint_sub_bit (h b : Nat) (hb : b ≤ 1)
    (t : -4611686018427387904 < sint h ∧ sint h < 4611686018427387904) : sint (lsub h b) = sint h - (b : Int) := by
  have x := sint_bit b hb
  rw [sint_lsub h b (by have := B_eq; omega) (by omega) (by omega), x]

theorem sint_negbit_sub (b h : Nat) (hb : b ≤ 1) (hh : h < B)
    (t : -4611686018427387904 < sint h ∧ sint h < 4611686018427387904) :
    sint (lsub (lneg b) h) = -(b : Int) - sint h := by
  have x := sint_lneg_bit b hb
  rw [sint_lsub _ h hh (by omega) (by omega), x]

theorem rshB_x0_unfold (i1 i2 : List Nat) (y : Nat) (hy : y ≠ 0) :
    butterfly_rshB i1 i2 0 y =
      let limbs := i1.length - 1
      let sd1 := sumdiff_n (sl i1 0 (limbs - y)) (sl i2 y limbs)
      let sd2 := sumdiff_n (sl i1 (limbs - y) limbs) (sl i2 0 y)
      (sd1.1 ++ addmod1 (sd2.2.1 ++ [lsub (top i1) (sd2.2.2 % 2)]) (ladd (sd1.2.2 / 2) (top i2)),
       sd1.2.1 ++ addmod1 (sd2.1 ++ [ladd (sd2.2.2 / 2) (top i1)]) (lsub (lneg (sd1.2.2 % 2)) (top i2)), i1, i2) := by
  unfold butterfly_rshB
  simp only [hy, ↓reduceIte]

theorem fits_rsh (P X a c v s : Int) (hX : X * (B : Int) ≤ P) (hX0 : 0 < X)
    (ha1 : -(4611686018427387904 * P) ≤ a) (ha2 : a < 4611686018427387904 * P)
    (hc0 : 0 ≤ c) (hc1 : c < X) (hv0 : 0 ≤ v) (hv1 : v < P)
    (hs1 : -4611686018427387904 < s) (hs2 : s < 4611686018427387904) :
    (-(P * (B : Int)) ≤ 2 * (a + (c - v + X * s)) ∧ 2 * (a + (c - v + X * s)) < P * (B : Int)) ∧
    (-(P * (B : Int)) ≤ 2 * (a - (c - v + X * s)) ∧ 2 * (a - (c - v + X * s)) < P * (B : Int)) := by
  rw [BZ_eq] at *
  have h1 : X * (-4611686018427387903) ≤ X * s := mul_le_mul_of_nonneg_left (by omega) (le_of_lt hX0)
  have h2 : X * s ≤ X * 4611686018427387903 := mul_le_mul_of_nonneg_left (by omega) (le_of_lt hX0)
  refine ⟨⟨?_, ?_⟩, ?_, ?_⟩ <;> linarith

/-- butterfly_rshB.c:47-54 (x = 0, y > 0): t = i1 + i2/B^y, u = i1 - i2/B^y, with
    i2/B^y ≡ W = C2 - B^m·C1 + B^m·h2 for i2 = C1 ++ C2 ++ [h2], |C1| = y, |C2| = m -/
theorem rshB_x0_y_spec (A1 A2 C1 C2 : List Nat) (h1 h2 : Nat)
    (hA : Limbs (A1 ++ A2 ++ [h1])) (hC : Limbs (C1 ++ C2 ++ [h2]))
    (hl1 : A1.length = C2.length) (hl2 : A2.length = C1.length) (hy : 1 ≤ A2.length)
    (t1 : TopSmall (A1 ++ A2 ++ [h1])) (t2 : TopSmall (C1 ++ C2 ++ [h2])) :
    ∃ ts tg us ug, butterfly_rshB (A1 ++ A2 ++ [h1]) (C1 ++ C2 ++ [h2]) 0 A2.length =
        (ts ++ [tg], us ++ [ug], A1 ++ A2 ++ [h1], C1 ++ C2 ++ [h2]) ∧
      ts.length = A1.length + A2.length ∧ us.length = A1.length + A2.length ∧
      Limbs (ts ++ [tg]) ∧ Limbs (us ++ [ug]) ∧
      rval (ts ++ [tg]) = rval (A1 ++ A2 ++ [h1]) +
        ((val C2 : Int) - (B : Int) ^ A1.length * val C1 + (B : Int) ^ A1.length * sint h2) ∧
      rval (us ++ [ug]) = rval (A1 ++ A2 ++ [h1]) -
        ((val C2 : Int) - (B : Int) ^ A1.length * val C1 + (B : Int) ^ A1.length * sint h2) := by
  have ⟨hA12, hh1⟩ := Limbs_snoc.mp hA
  have ⟨hC12, hh2⟩ := Limbs_snoc.mp hC
  have ⟨hA1, hA2⟩ := Limbs_append.mp hA12
  have ⟨hC1, hC2⟩ := Limbs_append.mp hC12
  have bA := topSmall_rval _ _ hA t1
  rw [topSmall_snoc] at t1 t2
  rw [rshB_x0_unfold _ _ _ (by omega)]
  have hlen : (A1 ++ A2 ++ [h1]).length - 1 = A1.length + A2.length := by simp
  simp only [hlen, Nat.add_sub_cancel, top_snoc]
  have e1 : sl (A1 ++ A2 ++ [h1]) 0 A1.length = A1 := by rw [List.append_assoc]; exact sl_prefix _ _
  have e2 : sl (C1 ++ C2 ++ [h2]) A2.length (A1.length + A2.length) = C2 := by
    rw [hl1, hl2, Nat.add_comm]; exact sl_mid _ _ _
  have e3 : sl (A1 ++ A2 ++ [h1]) A1.length (A1.length + A2.length) = A2 := sl_mid _ _ _
  have e4 : sl (C1 ++ C2 ++ [h2]) 0 A2.length = C1 := by rw [List.append_assoc, hl2]; exact sl_prefix _ _
  rw [e1, e2, e3, e4]
  obtain ⟨sa1, sd1, ca1, cb1, la1, ld1, na1, nd1⟩ := sumdiff_spec A1 C2 hA1 hC2 hl1
  obtain ⟨sa2, sd2, ca2, cb2, la2, ld2, na2, nd2⟩ := sumdiff_spec A2 C1 hA2 hC1 hl2
  generalize (sumdiff_n A1 C2).2.2 / 2 = a1 at *
  generalize (sumdiff_n A1 C2).2.2 % 2 = b1 at *
  generalize (sumdiff_n A2 C1).2.2 / 2 = a2 at *
  generalize (sumdiff_n A2 C1).2.2 % 2 = b2 at *
  generalize (sumdiff_n A1 C2).1 = tt1 at *
  generalize (sumdiff_n A1 C2).2.1 = u1 at *
  generalize (sumdiff_n A2 C1).1 = u2 at *
  generalize (sumdiff_n A2 C1).2.1 = tt2 at *
  have s_tt := sint_sub_bit h1 b2 cb2 t1
  have s_ut := sint_bit_add a2 h1 ca2 t1
  have s_ct := sint_bit_add a1 h2 ca1 t2
  have s_cu := sint_negbit_sub b1 h2 cb1 hh2 t2
  have hlt : Limbs (tt2 ++ [lsub h1 b2]) := Limbs_snoc.mpr ⟨ld2, lsub_lt _ _⟩
  have hlu : Limbs (u2 ++ [ladd a2 h1]) := Limbs_snoc.mpr ⟨la2, ladd_lt _ _⟩
  obtain ⟨⟨k1, hk1⟩, tl, tn⟩ := addmod1_spec' (tt2 ++ [lsub h1 b2]) _ hlt (by simp) (ladd_lt a1 h2)
  obtain ⟨⟨k2, hk2⟩, ul, un⟩ := addmod1_spec' (u2 ++ [ladd a2 h1]) _ hlu (by simp) (lsub_lt (lneg b1) h2)
  rw [s_ct] at hk1; rw [s_cu] at hk2
  have sp_t := sint_eq (lsub h1 b2)
  have sp_u := sint_eq (ladd a2 h1)
  rw [s_tt] at sp_t; rw [s_ut] at sp_u
  generalize addmod1 (tt2 ++ [lsub h1 b2]) (ladd a1 h2) = twin at *
  generalize addmod1 (u2 ++ [ladd a2 h1]) (lsub (lneg b1) h2) = uwin at *
  simp only [List.length_append, List.length_cons, List.length_nil] at tn un na1 nd1 na2 nd2
  obtain ⟨ts, tg, et, lt'⟩ := exists_snoc (tt1 ++ twin) (A1.length + A2.length) (by simp [na1, tn, nd2]; omega)
  obtain ⟨us, ug, eu, lu'⟩ := exists_snoc (u1 ++ uwin) (A1.length + A2.length) (by simp [nd1, un, na2]; omega)
  have hLt : Limbs (ts ++ [tg]) := et ▸ Limbs_append.mpr ⟨la1, tl⟩
  have hLu : Limbs (us ++ [ug]) := eu ▸ Limbs_append.mpr ⟨ld1, ul⟩
  have sa1' := congrArg (fun z : Nat => (z : Int)) sa1
  have sd1' := congrArg (fun z : Nat => (z : Int)) sd1
  have sa2' := congrArg (fun z : Nat => (z : Int)) sa2
  have sd2' := congrArg (fun z : Nat => (z : Int)) sd2
  simp only [List.length_append, List.length_cons, List.length_nil, val_append, val_cons, val_nil, na2, nd2] at hk1 hk2
  push_cast at sa1' sd1' sa2' sd2' hk1 hk2
  have hC1v := valZ_lt _ hC1
  have hC2v := valZ_lt _ hC2
  rw [← hl1] at hC2v; rw [← hl2] at hC1v
  have hX := BZpow_pos A1.length
  have hPX : (B : Int) ^ (A1.length + A2.length) = (B : Int) ^ A1.length * (B : Int) ^ A2.length := by
    rw [← pow_add]
  have hBL := B_le_pow A2.length hy
  have p0C1 : (0 : Int) ≤ val C1 := Nat.cast_nonneg _
  have p0C2 : (0 : Int) ≤ val C2 := Nat.cast_nonneg _
  have hlen2 : (A1 ++ A2).length = A1.length + A2.length := by simp
  rw [hlen2] at bA
  have hf := fits_rsh ((B : Int) ^ (A1.length + A2.length)) ((B : Int) ^ A1.length)
    (rval (A1 ++ A2 ++ [h1])) (val C2) ((B : Int) ^ A1.length * val C1) (sint h2)
    (by rw [hPX]; exact mul_le_mul_of_nonneg_left hBL (le_of_lt hX)) hX bA.1 bA.2 p0C2 hC2v
    (mul_nonneg (le_of_lt hX) p0C1) (by rw [hPX]; exact mul_lt_mul_of_pos_left hC1v hX) t2.1 t2.2
  have hra : rval (A1 ++ A2 ++ [h1]) = (val A1 : Int) + (B : Int) ^ A1.length * val A2 +
      (B : Int) ^ A1.length * (B : Int) ^ A2.length * sint h1 := by
    rw [rval_snoc, val_append, hlen2, hPX]; push_cast; ring
  refine ⟨ts, tg, us, ug, by rw [et, eu], lt', lu', hLt, hLu, ?_, ?_⟩
  · refine rval_of_fits ts tg hLt lt' _ ((if lsub h1 b2 < B / 2 then 0 else 1) + k1) ?_ hf.1
    rw [← et, val_append, na1, hra]; push_cast
    linear_combination sa1' + (B : Int) ^ A1.length * hk1 + (B : Int) ^ A1.length * sd2' +
      ((B : Int) ^ A1.length * (B : Int) ^ A2.length) * sp_t
  · refine rval_of_fits us ug hLu lu' _ ((if ladd a2 h1 < B / 2 then 0 else 1) + k2) ?_ hf.2
    rw [← eu, val_append, nd1, hra]; push_cast
    linear_combination sd1' + (B : Int) ^ A1.length * hk2 + (B : Int) ^ A1.length * sa2' +
      ((B : Int) ^ A1.length * (B : Int) ^ A2.length) * sp_u

/-! ### every y: the butterflies of fft_radix2.c / ifft_radix2.c -/

theorem lshB_00 (i1 i2 : List Nat) :
    butterfly_lshB i1 i2 0 0 = ((sumdiff_n i1 i2).1, (sumdiff_n i1 i2).2.1) := by
  unfold butterfly_lshB; simp only [↓reduceIte]

theorem rshB_00 (i1 i2 : List Nat) :
    butterfly_rshB i1 i2 0 0 = ((sumdiff_n i1 i2).1, (sumdiff_n i1 i2).2.1, i1, i2) := by
  unfold butterfly_rshB; simp only [↓reduceIte]

theorem split_at (A : List Nat) (y : Nat) (hy : y ≤ A.length) :
    ∃ A1 A2, A = A1 ++ A2 ∧ A1.length = A.length - y ∧ A2.length = y :=
  ⟨A.take (A.length - y), A.drop (A.length - y), (List.take_append_drop _ _).symm, by simp, by simp; omega⟩

/-- butterfly_lshB with x = 0: (t, u) = (i1 + i2, (i1 − i2)·B^y); top limbs in [−M, M) give a top limb of u in [−2M, 2M) -/
theorem lshB_x0_spec (A C : List Nat) (h1 h2 y : Nat) (hA : Limbs (A ++ [h1])) (hC : Limbs (C ++ [h2]))
    (hl : A.length = C.length) (hy : y < A.length)
    (t1 : TopSmall (A ++ [h1])) (t2 : TopSmall (C ++ [h2])) :
    ∃ ts tg us ug, butterfly_lshB (A ++ [h1]) (C ++ [h2]) 0 y = (ts ++ [tg], us ++ [ug]) ∧
      ts.length = A.length ∧ us.length = A.length ∧ Limbs (ts ++ [tg]) ∧ Limbs (us ++ [ug]) ∧
      rval (ts ++ [tg]) ≡ rval (A ++ [h1]) + rval (C ++ [h2]) [ZMOD pmod A.length] ∧
      rval (us ++ [ug]) ≡ (rval (A ++ [h1]) - rval (C ++ [h2])) * (B : Int) ^ y [ZMOD pmod A.length] ∧
      ∀ M : Int, 1 ≤ M → -M ≤ sint h1 → sint h1 < M → -M ≤ sint h2 → sint h2 < M →
        -(2 * M) ≤ sint ug ∧ sint ug < 2 * M := by
  by_cases hy0 : y = 0
  · subst hy0
    obtain ⟨ts, tg, us, ug, e1, e2, l1, l2, la, ld, r1, r2⟩ := sumdiff_full A C h1 h2 hA hC hl t1 t2
    refine ⟨ts, tg, us, ug, by rw [lshB_00, e1, e2], l1, l2, la, ld, by rw [r1], by rw [r2]; simp,
      fun M _ a1 a2 c1 c2 => ?_⟩
    have b1 := rval_bounds A h1 hA (-M) (M - 1) a1 (by omega)
    have b2 := rval_bounds C h2 hC (-M) (M - 1) c1 (by omega)
    rw [← hl, ← l2] at b2; rw [← l2] at b1
    have tb := top_bounds us ug ld (-(2 * M)) (2 * M - 1) (by rw [r2]; linarith only [b1.1, b2.2]) (by rw [r2]; linarith only [b1.2, b2.1])
    omega
  · obtain ⟨A1, A2, eA, lA1, lA2⟩ := split_at A y (by omega)
    obtain ⟨C1, C2, eC, lC1, lC2⟩ := split_at C y (by omega)
    subst eA eC
    simp only [List.length_append] at hl hy lA1 lC1
    have hl1 : A1.length = C1.length := by omega
    have hl2 : A2.length = C2.length := by omega
    obtain ⟨ts, tg, us, ug, e, l1, l2, la, ld, r1, r2, n1, n2⟩ :=
      lshB_x0_y_spec A1 A2 C1 C2 h1 h2 hA hC hl1 hl2 (by omega) (by omega) t1 t2
    rw [lA2] at e
    refine ⟨ts, tg, us, ug, e, by simp [l1], by simp [l2], la, ld, ?_, ?_, fun M hM _ _ _ _ => ?_⟩
    · rw [modEq_pmod_iff]; refine ⟨-(sint h1 + sint h2), ?_⟩
      rw [r1, rval_snoc, rval_snoc]; simp only [List.length_append, ← hl1, ← hl2]; ring
    · rw [modEq_pmod_iff]
      refine ⟨-(((val A2 : Int) - val C2) + (B : Int) ^ A2.length * (sint h1 - sint h2)), ?_⟩
      rw [r2, rval_snoc, rval_snoc, val_append, val_append]
      simp only [List.length_append, ← hl1, ← hl2, ← lA2]; push_cast
      rw [pow_add]; ring
    · rw [← l2] at n1 n2
      have tb := top_bounds us ug ld (-2) 1 (by linarith only [n1]) (by linarith only [n2])
      omega

/-- mpir_fft_butterfly: (s, t) = (a + b, (a - b)·2^(i·w)) -/
theorem fft_butterfly_spec (A C : List Nat) (h1 h2 i w : Nat) (hA : Limbs (A ++ [h1])) (hC : Limbs (C ++ [h2]))
    (hl : A.length = C.length) (hiw : i * w < 64 * A.length)
    (t1 : TopSmall (A ++ [h1])) (t2 : TopSmall (C ++ [h2])) :
    Res A.length (fft_butterfly (A ++ [h1]) (C ++ [h2]) i w).1
      (fun y => rval y ≡ rval (A ++ [h1]) + rval (C ++ [h2]) [ZMOD pmod A.length]) ∧
    Res A.length (fft_butterfly (A ++ [h1]) (C ++ [h2]) i w).2
      (fun y => rval y ≡ (rval (A ++ [h1]) - rval (C ++ [h2])) * 2 ^ (i * w) [ZMOD pmod A.length]) := by
  have hd : i * w % 64 < 64 := Nat.mod_lt _ (by norm_num)
  obtain ⟨ss, sg, us, ug, e, l1, l2, la, ld, r1, r2, _⟩ :=
    lshB_x0_spec A C h1 h2 (i * w / 64) hA hC hl (by omega) t1 t2
  obtain ⟨ts, tg, m1, m2, m3, m4⟩ := mul_2expmod_cong us ug (i * w % 64) ld (by omega) hd
  have E : fft_butterfly (A ++ [h1]) (C ++ [h2]) i w = (ss ++ [sg], ts ++ [tg]) := by
    unfold fft_butterfly; simp only [e, m1]
  rw [E]
  refine ⟨⟨ss, sg, rfl, l1, la, r1⟩, ts, tg, rfl, by rw [m2, l2], m3, ?_⟩
  rw [l2] at m4
  refine m4.trans ?_
  rw [two_pow_limbs (i * w), ← mul_assoc]
  exact Int.ModEq.mul_right _ r2

/-- div_2expmod for every d < 64 (d = 0 copies); small top limbs stay small -/
theorem div_2expmod_cong (xs : List Nat) (h d : Nat) (hx : Limbs (xs ++ [h])) (hn : 1 ≤ xs.length) (hd : d < 64)
    (ht : TopSmall (xs ++ [h])) :
    Res xs.length (div_2expmod (xs ++ [h]) d) fun y =>
      rval y * 2 ^ d ≡ rval (xs ++ [h]) [ZMOD pmod xs.length] ∧ TopSmall y := by
  by_cases hd0 : d = 0
  · subst hd0
    refine ⟨xs, h, by simp [div_2expmod], rfl, hx, by simp, ht⟩
  · refine (div_2expmod_spec xs h d hx hn (by omega) (by omega)).mono fun ys g h2 h3 ⟨h4, h5, h6⟩ => ⟨h4, ?_⟩
    rw [topSmall_snoc] at ht ⊢
    have ⟨_, hh⟩ := Limbs_snoc.mp hx
    obtain ⟨b1, b2⟩ := ediv_two_pow_bounds (sint h) 2305843009213693952 d (by omega) (by norm_num) (by omega) (by omega)
    rw [← h2] at h5 h6
    have tb := top_bounds ys g h3 (sint h / 2 ^ d - 1) (sint h / 2 ^ d) (le_of_lt h5) h6
    omega

theorem split_at' (C : List Nat) (y : Nat) (hy : y ≤ C.length) :
    ∃ C1 C2, C = C1 ++ C2 ∧ C1.length = y ∧ C2.length = C.length - y :=
  ⟨C.take y, C.drop y, (List.take_append_drop _ _).symm, by simp; omega, by simp⟩

theorem rshB_x0_spec (A C : List Nat) (h1 h2 y : Nat) (hA : Limbs (A ++ [h1])) (hC : Limbs (C ++ [h2]))
    (hl : A.length = C.length) (hn : 1 ≤ A.length) (hy : y ≤ A.length)
    (t1 : TopSmall (A ++ [h1])) (t2 : TopSmall (C ++ [h2])) :
    ∃ ts tg us ug, butterfly_rshB (A ++ [h1]) (C ++ [h2]) 0 y = (ts ++ [tg], us ++ [ug], A ++ [h1], C ++ [h2]) ∧
      ts.length = A.length ∧ us.length = A.length ∧ Limbs (ts ++ [tg]) ∧ Limbs (us ++ [ug]) ∧
      rval (ts ++ [tg]) * (B : Int) ^ y ≡ rval (A ++ [h1]) * (B : Int) ^ y + rval (C ++ [h2]) [ZMOD pmod A.length] ∧
      rval (us ++ [ug]) * (B : Int) ^ y ≡ rval (A ++ [h1]) * (B : Int) ^ y - rval (C ++ [h2]) [ZMOD pmod A.length] := by
  by_cases hy0 : y = 0
  · subst hy0
    obtain ⟨ts, tg, us, ug, e1, e2, l1, l2, la, ld, r1, r2⟩ := sumdiff_full A C h1 h2 hA hC hl t1 t2
    refine ⟨ts, tg, us, ug, by rw [rshB_00, e1, e2], l1, l2, la, ld, by rw [r1]; simp, by rw [r2]; simp⟩
  · obtain ⟨A1, A2, eA, lA1, lA2⟩ := split_at A y hy
    obtain ⟨C1, C2, eC, lC1, lC2⟩ := split_at' C y (by omega)
    subst eA eC
    simp only [List.length_append] at hl hy lA1 lC2 hn
    have hl1 : A1.length = C2.length := by omega
    have hl2 : A2.length = C1.length := by omega
    obtain ⟨ts, tg, us, ug, e, l1, l2, la, ld, r1, r2⟩ :=
      rshB_x0_y_spec A1 A2 C1 C2 h1 h2 hA hC hl1 hl2 (by omega) t1 t2
    rw [lA2] at e
    refine ⟨ts, tg, us, ug, e, by simp [l1], by simp [l2], la, ld, ?_, ?_⟩
    · rw [modEq_pmod_iff]; refine ⟨-(val C1 : Int), ?_⟩
      rw [r1, rval_snoc (C1 ++ C2), val_append]
      simp only [List.length_append, ← hl1, ← hl2, ← lA2]; push_cast
      rw [pow_add]; ring
    · rw [modEq_pmod_iff]; refine ⟨(val C1 : Int), ?_⟩
      rw [r2, rval_snoc (C1 ++ C2), val_append]
      simp only [List.length_append, ← hl1, ← hl2, ← lA2]; push_cast
      rw [pow_add]; ring

/-- mpir_ifft_butterfly: (s, t) = (a + b/2^(i·w), a - b/2^(i·w)) -/
theorem ifft_butterfly_spec (A C : List Nat) (h1 h2 i w : Nat) (hA : Limbs (A ++ [h1])) (hC : Limbs (C ++ [h2]))
    (hl : A.length = C.length) (hiw : i * w < 64 * A.length)
    (t1 : TopSmall (A ++ [h1])) (t2 : TopSmall (C ++ [h2])) :
    Res A.length (ifft_butterfly (A ++ [h1]) (C ++ [h2]) i w).1
      (fun y => rval y * 2 ^ (i * w) ≡ rval (A ++ [h1]) * 2 ^ (i * w) + rval (C ++ [h2]) [ZMOD pmod A.length]) ∧
    Res A.length (ifft_butterfly (A ++ [h1]) (C ++ [h2]) i w).2.1
      (fun y => rval y * 2 ^ (i * w) ≡ rval (A ++ [h1]) * 2 ^ (i * w) - rval (C ++ [h2]) [ZMOD pmod A.length]) := by
  have hd : i * w % 64 < 64 := Nat.mod_lt _ (by norm_num)
  have hn : 1 ≤ A.length := by omega
  obtain ⟨ds, dg, d1, d2, d3, d4, d5⟩ := div_2expmod_cong C h2 (i * w % 64) hC (by omega) hd t2
  obtain ⟨ss, sg, ts, tg, e, l1, l2, la, ld, r1, r2⟩ :=
    rshB_x0_spec A ds h1 dg (i * w / 64) hA d3 (by omega) hn (by omega) t1 d5
  have E : ifft_butterfly (A ++ [h1]) (C ++ [h2]) i w = (ss ++ [sg], ts ++ [tg], ds ++ [dg]) := by
    unfold ifft_butterfly; simp only [d1, e]
  rw [E]
  refine ⟨⟨ss, sg, rfl, l1, la, ?_⟩, ts, tg, rfl, l2, ld, ?_⟩
  all_goals
    rw [← hl] at d4
    rw [two_pow_limbs (i * w), ← mul_assoc, ← mul_assoc]
  · have step1 := r1.mul_right (2 ^ (i * w % 64))
    rw [add_mul] at step1
    exact step1.trans ((Int.ModEq.refl _).add d4)
  · have step1 := r2.mul_right (2 ^ (i * w % 64))
    rw [sub_mul] at step1
    exact step1.trans ((Int.ModEq.refl _).sub d4)

end Mpir.Fft
