/- mpn_sb_div_q: the fix-up code in two steps, then the final arithmetic, the function put together, and the case nn = dn. -/

import MpirProofs.Lemmas.SbDivQTop
import MpirProofs.Lemmas.SbDivQExact

/-
  The fix-up code sb_div_q.c:194-291 computes the sign of N - Q'·D exactly.  The remainder is kept as memory limbs (r1 / mem), the limb y above them and the counter x above y; every subtraction
  that borrows out of y (or out of the memory) decrements x, and a borrow with x = 0 means the remainder is negative.
-/

namespace Mpir.SbDivQ
open Mpir Mpir.DivWord Mpir.SbDiv

/-- what the loop sb_div_q.c:230-246 subtracts in the iterations i < cnt (in units of the position of np - dn) -/
def triSum (q dp : List Nat) (k : Nat) : Nat → Nat
  | 0 => 0
  | i + 1 => q.getD i 0 * (B ^ i * val (dp.take (k - i))) + triSum q dp k i

theorem getD_mul_le_val : ∀ (l : List Nat) (i : Nat), B ^ i * l.getD i 0 ≤ val l
  | [], i => by simp
  | x :: xs, 0 => by simp
  | x :: xs, i + 1 => by
    have ih := getD_mul_le_val xs i
    rw [List.getD_cons_succ, val_cons, pow_succ]
    nlinarith [Nat.zero_le x]

theorem tri_step (r1 u : List Nat) (i k v y : Nat) (hr1 : Limbs r1) (hu : Limbs u) (hr1l : r1.length = k) (hi : i ≤ k)
    (hul : u.length = k - i) (hv : v < B) :
    ∃ seg cy, submul_1 (r1.drop i) u v = (seg, cy) ∧
      Limbs (r1.take i ++ seg) ∧ (r1.take i ++ seg).length = k ∧ cy < B ∧
      val (r1.take i ++ seg) + B ^ i * (val u * v) = val r1 + B ^ k * cy ∧
      (y < cy → val r1 + B ^ k * y < v * (B ^ i * val u)) := by
  obtain ⟨seg, cy, e, h1, hc, hrl, hrn⟩ := submul_1_spec v (Limbs_drop hr1 i) hu
    (by rw [List.length_drop, hr1l, hul]) hv
  have htl : (r1.take i).length = i := by rw [List.length_take, hr1l]; omega
  have hpow : B ^ k = B ^ i * B ^ (k - i) := by rw [← pow_add]; congr 1; omega
  have hL : Limbs (r1.take i ++ seg) := Limbs_append.mpr ⟨Limbs_take hr1 _, hrl⟩
  have hlen : (r1.take i ++ seg).length = k := by rw [List.length_append, htl, hrn, hul]; omega
  have key : val (r1.take i ++ seg) + B ^ i * (val u * v) = val r1 + B ^ k * cy := by
    rw [hul] at h1
    rw [val_append, htl, val_take_drop r1 i (by omega), hpow]
    linear_combination B ^ i * h1
  refine ⟨seg, cy, e, hL, hlen, hc, key, fun hlt => ?_⟩
  have h2 := val_lt _ hL
  have h3 : B ^ k * (y + 1) ≤ B ^ k * cy := Nat.mul_le_mul_left _ hlt
  rw [hlen] at h2
  rw [Nat.mul_succ] at h3
  rw [show v * (B ^ i * val u) = B ^ i * (val u * v) by ring]
  omega

theorem tri_iter (q dp : List Nat) (k qh : Nat) (hq : Limbs q) (hdp : Limbs dp) (hdpl : dp.length = k + 2)
    (i : Nat) (r1 : List Nat) (x y : Nat) (hi : i + 1 ≤ k) (hr1 : Limbs r1) (hr1l : r1.length = k) (hy : y < B) :
    (dqTri q dp (k + 2) qh (i + 1) r1 x y = .inl (dqExit1 q qh) ∧
      val r1 + B ^ k * y + B ^ (k + 1) * x < q.getD i 0 * (B ^ i * val (dp.take (k - i))) ∧ 0 < val q) ∨
    (∃ r1' x' y', dqTri q dp (k + 2) qh (i + 1) r1 x y = dqTri q dp (k + 2) qh i r1' x' y' ∧
      Limbs r1' ∧ r1'.length = k ∧ y' < B ∧
      val r1' + B ^ k * y' + B ^ (k + 1) * x' + q.getD i 0 * (B ^ i * val (dp.take (k - i)))
        = val r1 + B ^ k * y + B ^ (k + 1) * x) := by
  obtain ⟨seg, cy, e, t1, t2, t3, t4, t5⟩ := tri_step r1 (dp.take (k - i)) i k (q.getD i 0) y hr1 (Limbs_take hdp _) hr1l
    (by omega) (by rw [List.length_take, hdpl]; omega) (getD_lt hq i)
  rw [dqTri, show k + 2 - i - 2 = k - i by omega, e]
  simp only []
  rw [show B ^ i * (val (dp.take (k - i)) * q.getD i 0) = q.getD i 0 * (B ^ i * val (dp.take (k - i))) by ring] at t4
  rw [pow_succ]
  have hAi0 : q.getD i 0 = 0 → q.getD i 0 * (B ^ i * val (dp.take (k - i))) = 0 := fun h => by rw [h, Nat.zero_mul]
  generalize q.getD i 0 * (B ^ i * val (dp.take (k - i))) = Ai at *
  by_cases hlt : y < cy
  · rw [if_pos hlt]
    by_cases hx : x = 0
    · subst hx
      rw [if_pos rfl]
      refine Or.inl ⟨rfl, by rw [Nat.mul_zero, Nat.add_zero]; exact t5 hlt, ?_⟩
      -- some limb of q is non-zero since A_i > 0
      have hle := getD_mul_le_val q i
      have hpos : 0 < q.getD i 0 := Nat.pos_of_ne_zero (by
        intro h0
        have := t5 hlt
        rw [hAi0 h0] at this
        omega)
      have : 0 < B ^ i * q.getD i 0 := Nat.mul_pos (Nat.pow_pos B_pos) hpos
      omega
    · rw [if_neg hx, Nat.mod_eq_of_lt (by omega)]
      refine Or.inr ⟨_, _, _, rfl, t1, t2, by omega, ?_⟩
      obtain ⟨x', rfl⟩ : ∃ x', x = x' + 1 := ⟨x - 1, by omega⟩
      have e1 : B ^ k * (y + B - cy) + B ^ k * cy = B ^ k * y + B ^ k * B := by
        rw [← Nat.mul_add, ← Nat.mul_add, Nat.sub_add_cancel (by omega)]
      rw [Nat.add_sub_cancel, Nat.mul_succ]
      omega
  · rw [if_neg hlt]
    refine Or.inr ⟨_, _, _, rfl, t1, t2, by omega, ?_⟩
    have e1 : B ^ k * (y - cy) + B ^ k * cy = B ^ k * y := by rw [← Nat.mul_add, Nat.sub_add_cancel (by omega)]
    omega

/-- sb_div_q.c:230-246 -/
theorem dqTri_spec (q dp : List Nat) (k qh : Nat) (hq : Limbs q) (hdp : Limbs dp) (hdpl : dp.length = k + 2)
    (cnt : Nat) : ∀ (r1 : List Nat) (x y : Nat), cnt ≤ k → Limbs r1 → r1.length = k → y < B →
      (∀ r1' x' y', dqTri q dp (k + 2) qh cnt r1 x y = .inr (r1', x', y') →
        Limbs r1' ∧ r1'.length = k ∧ y' < B ∧
        val r1' + B ^ k * y' + B ^ (k + 1) * x' + triSum q dp k cnt = val r1 + B ^ k * y + B ^ (k + 1) * x) ∧
      (∀ res, dqTri q dp (k + 2) qh cnt r1 x y = .inl res →
        res = dqExit1 q qh ∧ val r1 + B ^ k * y + B ^ (k + 1) * x < triSum q dp k cnt ∧ 0 < val q) := by
  induction cnt with
  | zero =>
    intro r1 x y _ hr1 hr1l hy
    rw [dqTri]
    exact ⟨fun r1' x' y' h => by cases h; exact ⟨hr1, hr1l, hy, by simp [triSum]⟩, fun res h => by cases h⟩
  | succ i ih =>
    intro r1 x y hcnt hr1 hr1l hy
    have eA : triSum q dp k (i + 1) = q.getD i 0 * (B ^ i * val (dp.take (k - i))) + triSum q dp k i := rfl
    rcases tri_iter q dp k qh hq hdp hdpl i r1 x y hcnt hr1 hr1l hy with ⟨e, hlt, hpos⟩ | ⟨r1n, xn, yn, e, hl, hn, hyn, hval⟩
    · rw [e]
      constructor
      · intro r1' x' y' h; cases h
      · intro res h
        injection h with h'
        exact ⟨h'.symm, by rw [eA]; omega, hpos⟩
    · rw [e]
      obtain ⟨ih1, ih2⟩ := ih r1n xn yn (by omega) hl hn hyn
      constructor
      · intro r1' x' y' h
        obtain ⟨a1, a2, a3, a4⟩ := ih1 r1' x' y' h
        exact ⟨a1, a2, a3, by rw [eA]; omega⟩
      · intro res h
        obtain ⟨a1, a2, a3⟩ := ih2 res h
        exact ⟨a1, by rw [eA]; omega, a3⟩

/-! ### "Compensate for ignored dividend and divisor tails" (sb_div_q.c:251-290) -/

/-- what the loop sb_div_q.c:276-289 subtracts in the iterations i < cnt -/
def tailSum (q dp0 : List Nat) : Nat → Nat
  | 0 => 0
  | i + 1 => val q * (B ^ i * dp0.getD i 0) + tailSum q dp0 i

theorem tailSum_eq (q dp0 : List Nat) : ∀ s, s ≤ dp0.length → tailSum q dp0 s = val q * val (dp0.take s)
  | 0, _ => by simp [tailSum]
  | s + 1, h => by
    have ih := tailSum_eq q dp0 s (by omega)
    have hv := val_take_top (dp0.take (s + 1)) s (by rw [List.length_take]; omega)
    have e1 : (dp0.take (s + 1)).take s = dp0.take s := by rw [List.take_take]; congr 1; omega
    have e2 : (dp0.take (s + 1)).getD s 0 = dp0.getD s 0 := by
      simp [List.getD_eq_getElem?_getD]
    rw [e1, e2] at hv
    rw [tailSum, ih, ← hv]; ring

theorem tail_step (q mem : List Nat) (i v : Nat) (hq : Limbs q) (hm : Limbs mem) (hi : i + q.length < mem.length)
    (hv : v < B) :
    ∃ seg cy rs b, submul_1 ((mem.drop i).take q.length) q v = (seg, cy) ∧
      sub_1 (mem.drop (q.length + i)) cy = (rs, b) ∧
      Limbs (mem.take i ++ seg ++ rs) ∧ (mem.take i ++ seg ++ rs).length = mem.length ∧ b ≤ 1 ∧
      val (mem.take i ++ seg ++ rs) + val q * (B ^ i * v) = val mem + B ^ mem.length * b := by
  obtain ⟨seg, cy, e1, h1, hc, hrl, hrn⟩ := submul_1_spec v (Limbs_take (Limbs_drop hm i) q.length) hq
    (by rw [List.length_take, List.length_drop]; omega) hv
  have hrestl : (mem.drop (q.length + i)).length = mem.length - (q.length + i) := List.length_drop
  obtain ⟨s1, s2, s3, s4⟩ := sub_1_val' (mem.drop (q.length + i)) cy (Limbs_drop hm _) (by rw [hrestl]; omega) hc
  obtain ⟨rs, b, e2⟩ : ∃ rs b, sub_1 (mem.drop (q.length + i)) cy = (rs, b) := ⟨_, _, rfl⟩
  rw [e2] at s1 s2 s3 s4
  simp only [] at s1 s2 s3 s4
  have htl : (mem.take i).length = i := by rw [List.length_take]; omega
  have hv1 := val_take_drop mem i (by omega)
  have hv2 := val_take_drop (mem.drop i) q.length (by rw [List.length_drop]; omega)
  rw [List.drop_drop, Nat.add_comm i] at hv2
  have hpow : B ^ mem.length = B ^ i * (B ^ q.length * B ^ (mem.length - (q.length + i))) := by
    rw [← pow_add, ← pow_add]; congr 1; omega
  refine ⟨seg, cy, rs, b, e1, e2, Limbs_append.mpr ⟨Limbs_append.mpr ⟨Limbs_take hm _, hrl⟩, s3⟩, ?_, s2, ?_⟩
  · rw [List.length_append, List.length_append, htl, hrn, s4, hrestl]; omega
  · rw [hrestl] at s1
    rw [val_append, val_append, List.length_append, htl, hrn, hv1, hv2, hpow, pow_add]
    linear_combination B ^ i * h1 + B ^ i * B ^ q.length * s1

/-- sb_div_q.c:276-289 -/
theorem dqTail_spec (q dp0 : List Nat) (qh M : Nat) (hq : Limbs q) (hdp0 : Limbs dp0) (cnt : Nat) :
    ∀ (mem : List Nat) (x : Nat), cnt + q.length ≤ M → Limbs mem → mem.length = M →
      (tailSum q dp0 cnt ≤ val mem + B ^ M * x → dqTail q dp0 qh cnt mem x = (q, qh)) ∧
      (val mem + B ^ M * x < tailSum q dp0 cnt → dqTail q dp0 qh cnt mem x = ((sub_1 q 1).1, qh) ∧ 0 < val q) := by
  induction cnt with
  | zero =>
    intro mem x _ _ _
    exact ⟨fun _ => rfl, fun h => by simp [tailSum] at h⟩
  | succ i ih =>
    intro mem x hc hm hml
    obtain ⟨seg, cy, rs, b, e1, e2, t1, t2, t3, t4⟩ :=
      tail_step q mem i (dp0.getD i 0) hq hm (by omega) (getD_lt hdp0 i)
    rw [dqTail, e1]
    simp only []
    rw [e2]
    simp only []
    rw [show tailSum q dp0 (i + 1) = val q * (B ^ i * dp0.getD i 0) + tailSum q dp0 i from rfl]
    rw [hml] at t2 t4
    have hm' := val_lt _ t1
    rw [t2] at hm'
    have hAi0 : val q = 0 → val q * (B ^ i * dp0.getD i 0) = 0 := by intro h; rw [h, Nat.zero_mul]
    generalize val q * (B ^ i * dp0.getD i 0) = Ai at *
    generalize mem.take i ++ seg ++ rs = mem' at *
    by_cases hb : b ≠ 0
    · obtain rfl : b = 1 := by omega
      rw [if_pos hb]
      rw [Nat.mul_one] at t4
      by_cases hx : x = 0
      · subst hx
        rw [if_pos rfl, Nat.mul_zero, Nat.add_zero]
        refine ⟨fun h => by omega, fun _ => ⟨rfl, Nat.pos_of_ne_zero fun h0 => ?_⟩⟩
        have := hAi0 h0
        omega
      · obtain ⟨x', rfl⟩ : ∃ x', x = x' + 1 := ⟨x - 1, by omega⟩
        obtain ⟨ih1, ih2⟩ := ih mem' x' (by omega) t1 t2
        rw [if_neg hx, Nat.add_sub_cancel, Nat.mul_succ]
        exact ⟨fun h => ih1 (by omega), fun h => ih2 (by omega)⟩
    · obtain rfl : b = 0 := by omega
      obtain ⟨ih1, ih2⟩ := ih mem' x (by omega) t1 t2
      rw [if_neg hb]
      rw [Nat.mul_zero, Nat.add_zero] at t4
      exact ⟨fun h => ih1 (by omega), fun h => ih2 (by omega)⟩

theorem decr_quot (q : List Nat) (hq : Limbs q) (hql : 0 < q.length) :
    Limbs (sub_1 q 1).1 ∧ (sub_1 q 1).1.length = q.length ∧ (sub_1 q 1).2 ≤ 1 ∧
    val (sub_1 q 1).1 + 1 = val q + B ^ q.length * (sub_1 q 1).2 ∧ (0 < val q → (sub_1 q 1).2 = 0) := by
  obtain ⟨s1, s2, s3, s4⟩ := sub_1_val' q 1 hq hql (by simp only [B_eq]; omega)
  refine ⟨s3, s4, s2, s1, ?_⟩
  intro hpos
  have hlt := val_lt _ s3
  rw [s4] at hlt
  exact (borrow_zero s1 hlt hpos).1

theorem dqExit1_ok (q : List Nat) (qh : Nat) (hq : Limbs q) (hql : 0 < q.length) (hpos : 0 < val q) :
    dqExit1 q qh = some ((sub_1 q 1).1, qh) ∧ val (sub_1 q 1).1 + 1 = val q := by
  obtain ⟨_, _, _, h4, h5⟩ := decr_quot q hq hql
  have h0 := h5 hpos
  unfold dqExit1
  simp only [h0, ne_eq, not_true_eq_false, if_false]
  rw [h0, Nat.mul_zero, Nat.add_zero] at h4
  exact ⟨trivial, h4⟩

/-
  The whole fix-up decides the sign of G - A: G = (dividend limbs below the final window, y, x), A = what triangularization
  and tails ignored.  What the triangularization loop subtracts (`triSum`) is the part of Q·V that the truncated product of
  the loop invariant leaves out (`triSum_tS`).
-/

open Mpir.DcDivappr

/-- the first part of the tails code (sb_div_q.c:258-271): subtract qh·D_low at position qn -/
theorem tail_qh (mem dlow : List Nat) (qn : Nat) (hm : Limbs mem) (hd : Limbs dlow) (hl : mem.length = qn + dlow.length) :
    ∃ r b, sub_n (mem.drop qn) dlow = (r, b) ∧
      Limbs (mem.take qn ++ r) ∧ (mem.take qn ++ r).length = mem.length ∧ b ≤ 1 ∧
      val (mem.take qn ++ r) + B ^ qn * val dlow = val mem + B ^ mem.length * b := by
  have hdl : (mem.drop qn).length = dlow.length := by rw [List.length_drop, hl]; omega
  obtain ⟨r, b, e, sv, sc, sl, sn⟩ := sub_n_spec (Limbs_drop hm qn) hd hdl
  have htl : (mem.take qn).length = qn := by rw [List.length_take, hl]; omega
  refine ⟨r, b, e, Limbs_append.mpr ⟨Limbs_take hm _, sl⟩, by rw [List.length_append, htl, sn, hdl, hl], sc, ?_⟩
  rw [hdl] at sv
  rw [val_append, htl, val_take_drop mem qn (by omega), hl, pow_add]
  linear_combination B ^ qn * sv

/-- the part of `dqFixup` after the triangularization loop when qn + 1 < dn (sb_div_q.c:251-290) -/
def fixTails (q dp0 mem : List Nat) (qh x sft : Nat) : DqRes :=
  let qn := q.length
  let sb := sub_n (mem.drop qn) (dp0.take sft)
  let bor := if qh ≠ 0 then sb.2 else 0
  let mem := if qh ≠ 0 then mem.take qn ++ sb.1 else mem
  if bor ≠ 0 ∧ x = 0 then
    let cy := if qn ≠ 0 then (sub_1 q 1).2 else bor
    some (if qn ≠ 0 then (sub_1 q 1).1 else q, (qh + B - cy) % B)
  else
    let x := if bor ≠ 0 then x - 1 else x
    if qn = 0 then some (q, qh)
    else some (dqTail q dp0 qh sft mem x)

theorem dqFixup_eq (q dp dp0 lowN : List Nat) (qh x y : Nat) :
    dqFixup q dp dp0 lowN qh x y =
      match dqTri q dp dp.length qh (dp.length - 2) (lowN.drop (dp0.length - dp.length)) x y with
      | .inl r => r
      | .inr (r1, x, y) =>
        if q.length + 1 < dp0.length then
          fixTails q dp0 (lowN.take (dp0.length - dp.length) ++ r1 ++ [y]) qh x (dp0.length - dp.length)
        else some (q, qh) := rfl

theorem fixTails_spec (q dp0 mem : List Nat) (qh x s : Nat) (hq : Limbs q) (hdp0 : Limbs dp0) (hm : Limbs mem)
    (hml : mem.length = q.length + s) (hs : s ≤ dp0.length) (hqn : 0 < q.length) (hqh : qh ≤ 1) :
    ((qh * B ^ q.length + val q) * val (dp0.take s) ≤ val mem + B ^ (q.length + s) * x →
      fixTails q dp0 mem qh x s = some (q, qh)) ∧
    (val mem + B ^ (q.length + s) * x < (qh * B ^ q.length + val q) * val (dp0.take s) →
      ∃ q' qh', fixTails q dp0 mem qh x s = some (q', qh') ∧ q'.length = q.length ∧ Limbs q' ∧ qh' ≤ 1 ∧
        qh' * B ^ q.length + val q' + 1 = qh * B ^ q.length + val q) := by
  have hB := B_pos
  have hdl : Limbs (dp0.take s) := Limbs_take hdp0 _
  have hdll : (dp0.take s).length = s := by rw [List.length_take]; omega
  have hts := tailSum_eq q dp0 s hs
  obtain ⟨dq1, dq2, dq3, dq4, dq5⟩ := decr_quot q hq hqn
  have hqne : q.length ≠ 0 := by omega
  unfold fixTails
  simp only []
  rcases Nat.eq_zero_or_pos qh with h0 | h1
  · subst h0
    simp only [ne_eq, not_true_eq_false, if_false, false_and, hqne]
    obtain ⟨t1, t2⟩ := dqTail_spec q dp0 0 (q.length + s) hq hdp0 s mem x (by omega) hm hml
    rw [hts] at t1 t2
    simp only [Nat.zero_mul, Nat.zero_add]
    constructor
    · intro h; rw [t1 h]
    · intro h
      obtain ⟨e, hpos⟩ := t2 h
      rw [e]
      have hb := dq5 hpos
      rw [hb, Nat.mul_zero, Nat.add_zero] at dq4
      exact ⟨_, _, rfl, dq2, dq1, by omega, by omega⟩
  · have hqh1 : qh = 1 := by omega
    subst hqh1
    obtain ⟨sr, b, esb, u1, u2, u3, u4⟩ := tail_qh mem (dp0.take s) q.length hm hdl (by rw [hml, hdll])
    rw [esb]
    simp only [ne_eq, Nat.one_ne_zero, not_false_eq_true, if_true, hqne, if_false, Nat.one_mul]
    rw [hml] at u2 u4
    have hm2 := val_lt _ u1
    rw [u2] at hm2
    generalize mem.take q.length ++ sr = mem2 at *
    rw [Nat.add_mul]
    generalize B ^ q.length * val (dp0.take s) = A1 at *
    by_cases hex : ¬b = 0 ∧ x = 0
    · obtain ⟨hb, rfl⟩ := hex
      obtain rfl : b = 1 := by omega
      rw [if_pos ⟨hb, rfl⟩, Nat.mul_zero, Nat.add_zero]
      rw [Nat.mul_one] at u4
      refine ⟨fun h => by omega, fun _ => ?_⟩
      -- the borrow of the decrement goes into qh
      rcases Nat.eq_zero_or_pos (sub_1 q 1).2 with h | h
      · rw [h] at dq4 ⊢
        rw [Nat.sub_zero, Nat.add_mod_right, Nat.mod_eq_of_lt (by rw [B_eq]; omega)]
        exact ⟨_, _, rfl, dq2, dq1, le_refl _, by omega⟩
      · obtain h1 : (sub_1 q 1).2 = 1 := by omega
        rw [h1] at dq4 ⊢
        rw [Nat.add_sub_cancel_left, Nat.mod_self]
        exact ⟨_, _, rfl, dq2, dq1, Nat.zero_le _, by omega⟩
    · obtain ⟨t1, t2⟩ := dqTail_spec q dp0 1 (q.length + s) hq hdp0 s mem2 (if ¬b = 0 then x - 1 else x) (by omega)
        u1 u2
      rw [hts] at t1 t2
      have hG : val mem2 + B ^ (q.length + s) * (if ¬b = 0 then x - 1 else x) + A1
          = val mem + B ^ (q.length + s) * x := by
        by_cases hb : b = 0
        · subst hb
          rw [if_neg (by simp)]
          omega
        · obtain rfl : b = 1 := by omega
          obtain ⟨x', rfl⟩ : ∃ x', x = x' + 1 := ⟨x - 1, by have : x ≠ 0 := fun hx => hex ⟨hb, hx⟩; omega⟩
          rw [if_pos hb, Nat.add_sub_cancel, Nat.mul_succ]
          omega
      rw [if_neg hex]
      refine ⟨fun h => by rw [t1 (by omega)], fun h => ?_⟩
      obtain ⟨e, hpos⟩ := t2 (by omega)
      have hb := dq5 hpos
      rw [hb, Nat.mul_zero, Nat.add_zero] at dq4
      rw [e]
      exact ⟨_, _, rfl, dq2, dq1, by omega, by omega⟩

theorem dqFixup_spec (q dp0 lowN : List Nat) (qh x y s k : Nat) (hdp0l : dp0.length = s + k + 2)
    (hlow : lowN.length = s + k) (hq : Limbs q) (hdp0 : Limbs dp0) (hlowl : Limbs lowN) (hy : y < B) (hqh : qh ≤ 1)
    (hqn : k + 1 ≤ q.length) (hcase : s = 0 ∨ q.length = k + 1) :
    (B ^ s * triSum q (dp0.drop s) k k + (qh * B ^ q.length + val q) * val (dp0.take s)
        ≤ val lowN + B ^ (s + k) * y + B ^ (s + k + 1) * x →
      dqFixup q (dp0.drop s) dp0 lowN qh x y = some (q, qh)) ∧
    (val lowN + B ^ (s + k) * y + B ^ (s + k + 1) * x
        < B ^ s * triSum q (dp0.drop s) k k + (qh * B ^ q.length + val q) * val (dp0.take s) →
      ∃ q' qh', dqFixup q (dp0.drop s) dp0 lowN qh x y = some (q', qh') ∧ q'.length = q.length ∧ Limbs q' ∧ qh' ≤ 1 ∧
        qh' * B ^ q.length + val q' + 1 = qh * B ^ q.length + val q) := by
  have hB := B_pos
  have hdpl : (dp0.drop s).length = k + 2 := by rw [List.length_drop, hdp0l]; omega
  have hdp : Limbs (dp0.drop s) := Limbs_drop hdp0 _
  have hr1 : Limbs (lowN.drop s) := Limbs_drop hlowl _
  have hr1l : (lowN.drop s).length = k := by rw [List.length_drop, hlow]; omega
  have hll : Limbs (lowN.take s) := Limbs_take hlowl _
  have hlll : (lowN.take s).length = s := by rw [List.length_take, hlow]; omega
  have hvl := val_take_drop lowN s (by omega)
  have hlt := val_lt _ hll
  rw [hlll] at hlt
  obtain ⟨tr1, tr2⟩ := dqTri_spec q (dp0.drop s) k qh hq hdp hdpl k (lowN.drop s) x y (le_refl _) hr1 hr1l hy
  rw [dqFixup_eq, hdpl, hdp0l, show s + k + 2 - (k + 2) = s by omega, show k + 2 - 2 = k from rfl]
  have hp1 : B ^ (s + k) = B ^ s * B ^ k := pow_add _ _ _
  have hp2 : B ^ (s + k + 1) = B ^ s * B ^ (k + 1) := by rw [show s + k + 1 = s + (k + 1) by omega, pow_add]
  rw [hvl, hp1, hp2]
  generalize triSum q (dp0.drop s) k k = T at *
  cases htri : dqTri q (dp0.drop s) (k + 2) qh k (lowN.drop s) x y with
  | inl res =>
    obtain ⟨e1, e2, e3⟩ := tr2 res htri
    simp only []
    obtain ⟨x1, x2⟩ := dqExit1_ok q qh hq (by omega) e3
    have hlt2 : val (lowN.take s) + B ^ s * val (lowN.drop s) + B ^ s * B ^ k * y + B ^ s * B ^ (k + 1) * x
        < B ^ s * T := by
      have h : B ^ s * (val (lowN.drop s) + B ^ k * y + B ^ (k + 1) * x + 1) ≤ B ^ s * T := Nat.mul_le_mul_left _ e2
      have e : B ^ s * (val (lowN.drop s) + B ^ k * y + B ^ (k + 1) * x + 1)
          = B ^ s * val (lowN.drop s) + B ^ s * B ^ k * y + B ^ s * B ^ (k + 1) * x + B ^ s := by ring
      omega
    obtain ⟨d1, d2, -⟩ := decr_quot q hq (by omega)
    exact ⟨fun h => by omega, fun _ => ⟨_, _, by rw [e1, x1], d2, d1, hqh, by omega⟩⟩
  | inr p =>
    obtain ⟨r1', x', y'⟩ := p
    obtain ⟨a1, a2, a3, a4⟩ := tr1 r1' x' y' htri
    simp only []
    have hG : val (lowN.take s) + B ^ s * val (lowN.drop s) + B ^ s * B ^ k * y + B ^ s * B ^ (k + 1) * x
        = val (lowN.take s) + B ^ s * val r1' + B ^ s * B ^ k * y' + B ^ s * B ^ (k + 1) * x' + B ^ s * T := by
      linear_combination B ^ s * a4.symm
    rw [hG]
    by_cases hc : q.length + 1 < s + k + 2
    · rw [if_pos hc]
      have hql : q.length = k + 1 := by omega
      have hmem : Limbs (lowN.take s ++ r1' ++ [y']) := Limbs.snoc (Limbs_append.mpr ⟨hll, a1⟩) a3
      have hmeml : (lowN.take s ++ r1' ++ [y']).length = q.length + s := by
        simp [hlll, a2, hql]; omega
      obtain ⟨f1, f2⟩ := fixTails_spec q dp0 (lowN.take s ++ r1' ++ [y']) qh x' s hq hdp0 hmem hmeml (by omega)
        (by omega) hqh
      have hvm : val (lowN.take s ++ r1' ++ [y']) + B ^ (q.length + s) * x'
          = val (lowN.take s) + B ^ s * val r1' + B ^ s * B ^ k * y' + B ^ s * B ^ (k + 1) * x' := by
        rw [val_append, val_append, List.length_append, hlll, a2, hql, val_cons, val_nil, Nat.mul_zero, Nat.add_zero,
          show k + 1 + s = s + k + 1 by omega, hp2, pow_add]
      rw [hvm] at f1 f2
      exact ⟨fun h => f1 (by omega), fun h => f2 (by omega)⟩
    · rw [if_neg hc]
      obtain rfl : s = 0 := by omega
      refine ⟨fun _ => rfl, fun h => ?_⟩
      simp only [List.take_zero, val_nil, Nat.mul_zero, Nat.add_zero] at h
      omega

theorem triSum_cons (q dp' : List Nat) (c j : Nat) : ∀ cnt, cnt ≤ j + 1 →
    triSum q (c :: dp') (j + 1) cnt = c * val (q.take cnt) + B * triSum q dp' j cnt
  | 0, _ => by simp [triSum]
  | i + 1, h => by
    have ih := triSum_cons q dp' c j i (by omega)
    have e : (c :: dp').take (j + 1 - i) = c :: dp'.take (j - i) := by
      rw [show j + 1 - i = (j - i) + 1 by omega]; rfl
    rw [triSum, ih, triSum, e, val_cons, val_take_succ]
    ring

theorem triSum_last (q dp' : List Nat) (j : Nat) : triSum q dp' j (j + 1) = triSum q dp' j j := by
  rw [triSum, Nat.sub_self]; simp

theorem triSum_congr (q q' dp : List Nat) (k : Nat) : ∀ cnt, (∀ i, i < cnt → q.getD i 0 = q'.getD i 0) →
    triSum q dp k cnt = triSum q' dp k cnt
  | 0, _ => rfl
  | i + 1, h => by
    rw [triSum, triSum, h i (by omega), triSum_congr q q' dp k i (fun t ht => h t (by omega))]

/-- what the triangularization loop subtracts is the part of Q·V that the truncated product leaves out -/
theorem triSum_tS : ∀ (j : Nat) (ql dp : List Nat), ql.length = j + 1 → dp.length = j + 2 → Limbs ql → Limbs dp →
    B ^ j * tS (val dp) (val ql) (j + 1) + triSum ql dp j j = val ql * val dp
  | 0, ql, dp, hq, _, _, _ => by
    match ql, hq with
    | [q0], _ => simp [triSum, tS_one]
  | j + 1, ql, dp, hq, hd, hql, hdp => by
    match dp, hd with
    | c :: dp', hd' =>
      have hsplit := split_top1 ql (j + 1) hq
      have hl' : (ql.take (j + 1)).length = j + 1 := by rw [List.length_take, hq]; omega
      have ih := triSum_tS j (ql.take (j + 1)) dp' hl' (by simpa using hd') (Limbs_take hql _) (Limbs_cons.mp hdp).2
      have e2 : triSum (ql.take (j + 1)) dp' j j = triSum ql dp' j j := by
        apply triSum_congr
        intro i hi
        rw [List.getD_eq_getElem?_getD, List.getD_eq_getElem?_getD, List.getElem?_take, if_pos (by omega)]
      have hv : val ql = val (ql.take (j + 1)) + B ^ (j + 1) * ql.getD (j + 1) 0 := by
        conv_lhs => rw [hsplit]
        rw [val_snoc, hl']
      have hQ' := val_lt _ (Limbs_take hql (j + 1))
      rw [hl'] at hQ'
      have hc := (Limbs_cons.mp hdp).1
      have eVd : val (c :: dp') / B = val dp' := by
        rw [val_cons, Nat.add_comm, Nat.mul_comm]; exact div_of_split _ _ _ hc
      rw [triSum_cons ql dp' c j (j + 1) (le_refl _), triSum_last, ← e2, hv, tS_top _ _ _ _ hQ', eVd, val_cons,
        pow_succ]
      linear_combination B * ih

theorem triSum_le (j : Nat) (ql dp : List Nat) (hq : ql.length = j + 1) (hd : dp.length = j + 2) (hql : Limbs ql)
    (hdp : Limbs dp) : triSum ql dp j j ≤ j * B ^ (j + 1) := by
  have h1 := triSum_tS j ql dp hq hd hql hdp
  have hQ := val_lt ql hql
  rw [hq] at hQ
  have h2 := (tS_bounds (j + 1) (val dp) (val ql) hQ).2
  apply Nat.le_of_mul_le_mul_left _ B_pos
  rw [← h1, Nat.add_sub_cancel, pow_succ (n := j + 1), pow_succ] at h2
  rw [pow_succ]
  linear_combination h2

/-! ### the final arithmetic, then the whole function; the case nn = dn last -/

/-- `flag = 0` at the end: the bounds of the loop invariant pin the quotient down -/
theorem exact_of_bounds (N D V Dlow Nlow X Q S Bk k : Nat) (hN : N = Nlow + S * Bk * X)
    (hNlow : Nlow < S * Bk) (hD : D = Dlow + S * V)
    (c1 : Bk * (X + 1) ≤ (Q + 1) * V) (c2 : Q * V + V ≤ Bk * X + (k + 1) * (Bk * B))
    (hV : Bk * B * B ≤ 2 * V) (hQD : Q * Dlow ≤ 2 * (S * (Bk * B))) (hk : 2 * (k + 3) ≤ B) :
    Q = N / D := by
  have low := up_full N D V Dlow Nlow X Q S Bk hN hNlow hD c1
  have high : Q * D ≤ N := by
    have a : S * (Q * V + V) ≤ S * (Bk * X + (k + 1) * (Bk * B)) := Nat.mul_le_mul_left _ c2
    have h := SV_ge V S Bk k hV hk
    have e1 : S * (Q * V + V) = S * (Q * V) + S * V := by ring
    have e2 : S * (Bk * X + (k + 1) * (Bk * B)) = S * Bk * X + (k + 1) * (S * (Bk * B)) := by ring
    have e3 : Q * (Dlow + S * V) = Q * Dlow + S * (Q * V) := by ring
    have e4 : (k + 3) * (S * (Bk * B)) = (k + 1) * (S * (Bk * B)) + 2 * (S * (Bk * B)) := by ring
    subst hN hD
    omega
  exact (Nat.div_eq_of_lt_le high low).symm

/-- `flag = ~0` at the end: the sign of G - A decides between Q and Q - 1 -/
theorem fix_decide (N D Q G A : Nat) (hID : N + A = Q * D + G) (up : N < (Q + 1) * D) (hA : A ≤ D) :
    (A ≤ G → Q = N / D) ∧ (G < A → Q = N / D + 1) := by
  constructor
  · intro h
    exact (Nat.div_eq_of_lt_le (by omega) up).symm
  · intro h
    obtain ⟨Q', rfl⟩ : ∃ Q', Q = Q' + 1 := ⟨Q - 1, by
      have : Q ≠ 0 := by rintro rfl; omega
      omega⟩
    rw [Nat.add_mul, Nat.one_mul] at hID up
    rw [Nat.div_eq_of_lt_le (k := Q') (by omega) (by rw [Nat.add_mul, Nat.one_mul]; omega)]

/-- the bookkeeping identity N + A = Q'·D + G from the identity of the truncating loop (W = Ts + R, Ts the truncated product
    of Qb and V) and what that product leaves out (T) -/
theorem fix_identity (N D V Dlow Nlow X W Qb Qhi R T Ts S Bk : Nat) (hN : N = Nlow + S * Bk * X) (hD : D = Dlow + S * V)
    (hX : X = W + B * (Qhi * V)) (hW : W = Ts + R) (hT : Bk * Ts + T = Qb * V) :
    N + (S * T + (Qb + B * Bk * Qhi) * Dlow) = (Qb + B * Bk * Qhi) * D + (Nlow + S * Bk * R) := by
  subst hN hD hX hW
  linear_combination S * hT

theorem dqCore_eq (nlow mid hi dlo dp0 : List Nat) (x d0 d1 dinv : Nat) (hhi : hi.length = dlo.length + 2)
    (hnl : nlow.length = dp0.length - 2) :
    dqCore (nlow ++ x :: (mid ++ hi)) (dlo ++ [d0, d1]) dp0 (mid.length + dlo.length + 1) dinv =
      (let qh := if cmp hi (dlo ++ [d0, d1]) ≥ 0 then 1 else 0
       let hi' := if qh ≠ 0 then (sub_n hi (dlo ++ [d0, d1])).1 else hi
       let sA := dqLoopA (dlo ++ [d0, d1]) d1 d0 dinv mid.reverse (hi'.take (dlo.length + 1))
         (hi'.getD (dlo.length + 1) 0) []
       let sB := dqLoopB d1 d0 dinv dlo.length (dlo ++ [d0, d1]) (x :: sA.2.1) sA.2.2 true sA.1
       if sB.2.2.1 < andFlag dp0.length sB.2.2.2 then
         dqFixup sB.1 (dlo ++ [d0, d1]) dp0 nlow qh sB.2.2.1 (sB.2.1.getD 0 0)
       else some (sB.1, qh)) := by
  have e0 : (dlo ++ [d0, d1]).length = dlo.length + 2 := by simp
  have e1 : (nlow ++ x :: (mid ++ hi)).length - (dlo.length + 2) = (nlow ++ x :: mid).length := by
    simp [hhi]; omega
  have e2 : nlow ++ x :: (mid ++ hi) = (nlow ++ x :: mid) ++ hi := by simp
  have e3 : (nlow ++ x :: (mid ++ hi)).take (dp0.length - 2) = nlow := by
    rw [← hnl]; exact List.take_left' rfl
  unfold dqCore
  simp only [e0, e1, e3]
  rw [e2, List.drop_left' rfl, List.take_left' rfl]
  simp only [show dlo.length + 2 - 1 = dlo.length + 1 from rfl, show dlo.length + 2 - 2 = dlo.length from rfl,
    getD_top0, getD_top1, show mid.length + dlo.length + 1 + 1 - (dlo.length + 2) = mid.length by omega,
    rev_take_mid, rev_getD_mid, show ¬ (dlo.length + 2 < 2) by omega, if_false]

/-- everything the loops ignored (triangularization error T, quotient times ignored divisor limbs) is at most k+2 units -/
theorem A_le (T Q Dlow S Bk k : Nat) (hT : T ≤ k * (Bk * B)) (hQD : Q * Dlow ≤ 2 * (S * (Bk * B))) :
    S * T + Q * Dlow ≤ (k + 2) * (S * (Bk * B)) := by
  have h : S * T ≤ S * (k * (Bk * B)) := Nat.mul_le_mul_left _ hT
  have e1 : S * (k * (Bk * B)) = k * (S * (Bk * B)) := by ring
  rw [Nat.add_mul]
  omega

/-- the test `n1 < dn` (sb_div_q.c:194): a top remainder limb of at least k+2 outweighs everything ignored -/
theorem G_ge (A Nlow S Bk r0 r1 k : Nat) (hA : A ≤ (k + 2) * (S * (Bk * B))) (hr : k + 2 ≤ r1) :
    A ≤ Nlow + S * Bk * (r0 + B * r1) := by
  have h : (k + 2) * (S * (Bk * B)) ≤ r1 * (S * (Bk * B)) := Nat.mul_le_mul_right _ hr
  have e : S * Bk * (r0 + B * r1) = S * Bk * r0 + r1 * (S * (Bk * B)) := by ring
  omega

theorem dqCore_explicit (nlow mid hi dlo dp0 : List Nat) (x d0 d1 s : Nat) (hhi : hi.length = dlo.length + 2)
    (hdp : dp0.drop s = dlo ++ [d0, d1]) (hdp0l : dp0.length = s + dlo.length + 2)
    (hnl : nlow.length = s + dlo.length) (hnlow : Limbs nlow)
    (hmid : Limbs mid) (hhil : Limbs hi) (hx : x < B) (hdp0 : Limbs dp0) (hD : NormDiv dlo d0 d1)
    (hcase : s = 0 ∨ mid.length = 0) (hsize : 2 * dp0.length + 2 ≤ B) :
    ∃ q qh, dqCore (nlow ++ x :: (mid ++ hi)) (dlo ++ [d0, d1]) dp0 (mid.length + dlo.length + 1) (invert_pi1 d1 d0)
        = some (q, qh) ∧
      q.length = mid.length + dlo.length + 1 ∧ Limbs q ∧ qh ≤ 1 ∧
      qh * B ^ (mid.length + dlo.length + 1) + val q = val (nlow ++ x :: (mid ++ hi)) / val dp0 := by
  have hd := hD.limbs
  have hdl : (dlo ++ [d0, d1]).length = dlo.length + 2 := by simp
  have hk3 : 2 * (dlo.length + 3) ≤ B := by omega
  obtain ⟨qh, hi', e1, e2, hqh, hv, hlt, hl', hll'⟩ :=
    sb_init hi (dlo ++ [d0, d1]) hhil hd (by rw [hdl]; exact hhi) (by rw [hdl]; exact norm_pow dlo d0 d1 hd hD.norm)
  rw [hdl] at hll'
  have hsp := val_take_top hi' (dlo.length + 1) hll'
  obtain ⟨qlA, wA, n1A, elA, hqlAl, hqlA, h3, h4, hwA, hwAl, hn1A⟩ :=
    exactLoop_sb dlo d0 d1 hD _ (dqLoopA (dlo ++ [d0, d1]) d1 d0 (invert_pi1 d1 d0)) (fun _ _ _ => rfl)
      (fun _ _ _ _ _ => rfl) (dqStepA_eq_sb dlo d0 d1 hD) mid.reverse (hi'.take (dlo.length + 1))
      (hi'.getD (dlo.length + 1) 0) [] (Limbs_reverse hmid) (Limbs_take hl' _)
      (by rw [List.length_take, hll']; omega) (getD_lt hl' _) (by rw [hsp]; exact hlt)
  rw [hsp, List.reverse_reverse, List.length_reverse] at h3
  rw [List.length_reverse] at hqlAl
  obtain ⟨qlB, np01, n1f, fl, elB, hqlBl, hqlB, up, hT, hF⟩ :=
    dqLoopB_spec d0 d1 dlo.length dlo (x :: wA) n1A qlA 1 0 0 0 _ _ _ rfl (by simp [hwAl])
      hD (Limbs_cons.mpr ⟨hx, hwA⟩) hn1A Nat.one_pos rfl rfl rfl (by
        rw [Nat.one_mul, Nat.mul_one, Nat.add_zero, Nat.add_zero, val_push]
        exact push_lt hx h4) (by simp)
  simp only [Nat.add_zero, Nat.mul_one, Nat.mul_zero, Nat.zero_add] at up hF
  rw [dqCore_eq _ _ _ _ _ _ _ _ _ hhi (by rw [hnl, hdp0l]; omega)]
  simp only []
  rw [e1, e2, elA]
  simp only [List.append_nil]
  rw [elB]
  simp only []
  have hq : Limbs (qlB ++ qlA) := Limbs_append.mpr ⟨hqlB, hqlA⟩
  have hql : (qlB ++ qlA).length = mid.length + dlo.length + 1 := by simp [hqlBl, hqlAl]; omega
  have hvq : qh * B ^ (mid.length + dlo.length + 1) + val (qlB ++ qlA)
      = val qlB + B * B ^ dlo.length * (val qlA + B ^ mid.length * qh) := by
    rw [val_append, hqlBl, show mid.length + dlo.length + 1 = mid.length + (dlo.length + 1) from rfl, pow_add,
      pow_succ (n := dlo.length)]
    ring
  have hX : x + B * (val mid + B ^ mid.length * val hi)
      = (val (x :: wA) + B ^ (dlo.length + 2) * n1A)
        + B * ((val qlA + B ^ mid.length * qh) * val (dlo ++ [d0, d1])) := by
    rw [hv, val_push]; linear_combination B * h3
  obtain ⟨eN, hNlow, hvd, hDlow, hVn⟩ := pieces_val s nlow mid hi dlo dp0 x d0 d1 hdp hdp0l hnl hnlow hdp0 hD.norm
  have hQlt := val_lt _ hq
  rw [hql] at hQlt
  have hQD := quot_low_le s _ _ qh _ _ hcase hqh hQlt hDlow
  rw [hvq] at hQD
  rw [eN]
  generalize x + B * (val mid + B ^ mid.length * val hi) = X at hX eN ⊢
  generalize val (x :: wA) + B ^ (dlo.length + 2) * n1A = W at hX up hT hF
  have u2 := top_upper (B ^ dlo.length) _ _ (val qlB) (val qlA + B ^ mid.length * qh) _ up hX
  cases fl with
  | false =>
    have lo := hF rfl
    simp only [andFlag, Bool.false_eq_true, if_false, Nat.not_lt_zero]
    refine ⟨qlB ++ qlA, qh, rfl, hql, hq, hqh, ?_⟩
    rw [hvq]
    exact exact_of_bounds _ _ _ _ _ _ _ (B ^ s) (B ^ dlo.length) dlo.length rfl hNlow hvd u2
      (top_lower _ _ _ _ _ _ _ _ lo hX) hVn hQD hk3
  | true =>
    obtain ⟨r0, r1, rfl, rfl, hr0, hr1, f1⟩ := hT rfl
    simp only [andFlag, if_true, List.getD_cons_zero]
    have hTle := triSum_le dlo.length qlB (dlo ++ [d0, d1]) hqlBl hdl hqlB hd
    have hID := fix_identity _ (val dp0) (val (dlo ++ [d0, d1])) (val (dp0.take s)) (val nlow)
      _ _ (val qlB) (val qlA + B ^ mid.length * qh) (r0 + B * n1f) (triSum qlB (dlo ++ [d0, d1]) dlo.length dlo.length) _
      (B ^ s) (B ^ dlo.length) rfl hvd hX f1 (triSum_tS dlo.length qlB (dlo ++ [d0, d1]) hqlBl hdl hqlB hd)
    have hup := up_full _ _ _ _ _ _ (val qlB + B * B ^ dlo.length * (val qlA + B ^ mid.length * qh)) (B ^ s)
      (B ^ dlo.length) rfl hNlow hvd u2
    have hAle := A_le (triSum qlB (dlo ++ [d0, d1]) dlo.length dlo.length)
      (val qlB + B * B ^ dlo.length * (val qlA + B ^ mid.length * qh)) (val (dp0.take s)) (B ^ s) (B ^ dlo.length) dlo.length
      (hTle.trans_eq (by rw [pow_succ])) hQD
    have hSV := SV_ge (val (dlo ++ [d0, d1])) (B ^ s) (B ^ dlo.length) dlo.length hVn hk3
    have hAle' := hAle
    rw [Nat.add_mul dlo.length] at hSV hAle'
    obtain ⟨fd1, fd2⟩ := fix_decide _ _ _ _ _ hID hup (by omega)
    have etri : triSum (qlB ++ qlA) (dp0.drop s) dlo.length dlo.length
        = triSum qlB (dlo ++ [d0, d1]) dlo.length dlo.length := by
      rw [hdp]
      exact triSum_congr _ _ _ _ _ fun i hi => List.getD_append qlB qlA 0 i (by omega)
    have eG : val nlow + B ^ (s + dlo.length) * r0 + B ^ (s + dlo.length + 1) * n1f
        = val nlow + B ^ s * B ^ dlo.length * (r0 + B * n1f) := by
      rw [pow_succ, pow_add]; ring
    by_cases hfix : n1f < dp0.length
    · obtain ⟨g1, g2⟩ := dqFixup_spec (qlB ++ qlA) dp0 nlow qh n1f r0 s dlo.length hdp0l hnl hq hdp0 hnlow hr0 hqh
        (by rw [hql]; omega) (hcase.imp id fun h => by rw [hql, h]; omega)
      rw [etri, hql, hvq, eG, hdp] at g1 g2
      rw [if_pos hfix]
      by_cases hAG : B ^ s * triSum qlB (dlo ++ [d0, d1]) dlo.length dlo.length
          + (val qlB + B * B ^ dlo.length * (val qlA + B ^ mid.length * qh)) * val (dp0.take s)
          ≤ val nlow + B ^ s * B ^ dlo.length * (r0 + B * n1f)
      · rw [g1 hAG]
        exact ⟨_, _, rfl, hql, hq, hqh, by rw [hvq]; exact fd1 hAG⟩
      · obtain ⟨q', qh', e, hq'l, hq', hqh', hval⟩ := g2 (by omega)
        have := fd2 (by omega)
        rw [e]
        exact ⟨q', qh', rfl, hq'l, hq', hqh', by omega⟩
    · rw [if_neg hfix]
      exact ⟨_, _, rfl, hql, hq, hqh, by
        rw [hvq]; exact fd1 (G_ge _ (val nlow) (B ^ s) (B ^ dlo.length) r0 n1f dlo.length hAle (by omega))⟩

theorem sb_div_q_spec (n d : List Nat) (dinv : Nat) (hdn : 3 ≤ d.length) (hnn : d.length < n.length)
    (hnorm : B / 2 ≤ d.getD (d.length - 1) 0) (hn : Limbs n) (hd : Limbs d)
    (hdinv : dinv = invert_pi1 (d.getD (d.length - 1) 0) (d.getD (d.length - 2) 0))
    (hsize : 2 * d.length + 2 ≤ B) :
    ∃ q qh, sb_div_q n d dinv = some (q, qh) ∧ q.length = n.length - d.length ∧ Limbs q ∧ qh ≤ 1 ∧
      qh * B ^ (n.length - d.length) + val q = val n / val d := by
  obtain ⟨s, dlo, d0, d1, nlow, x, mid, hi, ecut, edp, hdl, e_d1, e_d0, en, hnlowl, hhil, hqn, hcase, hdlo, hd0, hd1,
    hnlow, hx, hmid, hhi⟩ := cut_spec n d hdn hnn hn hd
  rw [e_d1] at hnorm
  rw [e_d1, e_d0] at hdinv
  subst hdinv
  obtain ⟨q, qh, e, hql, hq, hqh, hval⟩ := dqCore_explicit nlow mid hi dlo d x d0 d1 s hhil edp hdl hnlowl hnlow hmid
    hhi hx hd ⟨hdlo, hd0, hd1, hnorm⟩ hcase hsize
  unfold sb_div_q
  simp only []
  rw [ecut, hqn]
  exact ⟨q, qh, by rw [en]; exact e, hql, hq, hqh, by rw [en]; exact hval⟩

/-- the model of mpn_sb_div_q for nn = dn: the divisor is cut to its top limb dt, every loop is skipped, and the test
    `n1 < dn` with the "ignored tails" code decides qh (sb_div_q.c:59-67, 194, 251-274) -/
theorem sb_div_q_eq0 (nl dl : List Nat) (nt dt dinv : Nat) (hl : nl.length = dl.length) (h2 : 2 ≤ dl.length) :
    sb_div_q (nl ++ [nt]) (dl ++ [dt]) dinv =
      (let qh := if cmp [nt] [dt] ≥ 0 then 1 else 0
       let hi' := if qh ≠ 0 then (sub_n [nt] [dt]).1 else [nt]
       let n1 := hi'.getD 0 0
       if n1 < dl.length + 1 then
         (let sb := sub_n nl dl
          let bor := if qh ≠ 0 then sb.2 else 0
          if bor ≠ 0 ∧ n1 = 0 then some ([], (qh + B - bor) % B) else some ([], qh))
       else some ([], qh)) := by
  have e3 : nl.take (dl.length - 1) ++ [nl.getD (dl.length - 1) 0] = nl := (split_top1 nl _ (by omega)).symm
  have e4 : (nl.take (dl.length - 1)).drop dl.length = [] := by
    apply List.drop_eq_nil_of_le; rw [List.length_take]; omega
  have e5 : (nl.take (dl.length - 1)).take dl.length = nl.take (dl.length - 1) := by
    apply List.take_of_length_le; rw [List.length_take]; omega
  have e6 : (nl ++ [nt]).take (dl.length - 1) = nl.take (dl.length - 1) := by
    rw [List.take_append_of_le_length (by omega)]
  have e7 : (nl ++ [nt]).getD (dl.length - 1) 0 = nl.getD (dl.length - 1) 0 := by
    rw [List.getD_eq_getElem?_getD, List.getD_eq_getElem?_getD, List.getElem?_append_left (by omega)]
  unfold sb_div_q dqCore
  simp only [List.length_append, List.length_cons, List.length_nil, hl, Nat.sub_self, Nat.zero_add,
    show 0 + 1 < dl.length + 1 by omega, if_true, show dl.length + 1 - (0 + 1) = dl.length by omega,
    List.drop_left' rfl, List.drop_left' hl, show 0 + 1 - 1 = 0 from rfl, show (0 + 1 < 2) by omega, List.take_zero,
    dqLoopA, andFlag, show dl.length + 1 - 2 = dl.length - 1 by omega, e6, e7]
  rw [dqFixup_eq]
  simp only [List.length_cons, List.length_nil, show 0 + 1 - 2 = 0 from rfl, dqTri, List.length_append,
    show dl.length + 1 - (0 + 1) = dl.length by omega, show 0 + 1 < dl.length + 1 by omega, if_true,
    fixTails, ne_eq, not_true_eq_false, if_false, List.drop_zero, List.getD_cons_zero]
  rw [e4, e5, List.append_nil, e3, take_snoc]

/-- N and D of equal length, D normalised: ⌊N/D⌋ from the top limbs nt, dt and the order of the parts below them -/
theorem quot_top (P Nl Dl nt dt : Nat) (hNl : Nl < P) (hDl : Dl < P) (hnt : nt < B) (hnorm : B ≤ 2 * dt) :
    (nt < dt ∨ (nt = dt ∧ Nl < Dl) → (Nl + P * nt) / (Dl + P * dt) = 0) ∧
    (dt < nt ∨ (dt = nt ∧ Dl ≤ Nl) → (Nl + P * nt) / (Dl + P * dt) = 1) := by
  constructor
  · intro h
    exact Nat.div_eq_of_lt ((lex_lt_iff hNl hDl).mpr h)
  · intro h
    have h1 := (lex_le_iff hDl hNl).mpr h
    have h2 : P * (nt + 1) ≤ P * (2 * dt) := Nat.mul_le_mul_left _ (by omega)
    rw [Nat.mul_succ, Nat.mul_left_comm] at h2
    exact Nat.div_eq_of_lt_le (by omega) (by omega)

theorem sb_div_q_spec0 (n d : List Nat) (dinv : Nat) (hdn : 3 ≤ d.length) (hnn : n.length = d.length)
    (hnorm : B / 2 ≤ d.getD (d.length - 1) 0) (hn : Limbs n) (hd : Limbs d) :
    ∃ qh, sb_div_q n d dinv = some ([], qh) ∧ qh ≤ 1 ∧ qh = val n / val d := by
  obtain ⟨m, hm⟩ : ∃ m, d.length = m + 1 := ⟨d.length - 1, by omega⟩
  rw [hm, Nat.add_sub_cancel] at hnorm
  obtain ⟨dl, dt, rfl, hdl, hdlL, hdt⟩ := exists_top1 hm hd
  obtain ⟨nl, nt, rfl, hnl, hnlL, hnt⟩ := exists_top1 (hnn.trans hm) hn
  rw [← hdl, getD_snoc] at hnorm
  have hdr := val_lt _ hdlL
  have hnr := val_lt _ hnlL
  rw [hnl, ← hdl] at hnr
  obtain ⟨k0, k1⟩ := quot_top (B ^ dl.length) _ _ _ _ hnr hdr hnt (two_mul_ge_B hnorm)
  have hL1 : ∀ {z : Nat}, z < B → Limbs [z] := fun hz y hy => by simp at hy; subst hy; exact hz
  have hc := cmp_ge_iff [nt] [dt] (hL1 hnt) (hL1 hdt) rfl
  simp only [val_cons, val_nil, Nat.mul_zero, Nat.add_zero] at hc
  rw [sb_div_q_eq0 nl dl nt dt dinv (hnl.trans hdl.symm) (by omega), val_snoc, val_snoc, hnl, ← hdl]
  simp only []
  by_cases hge : cmp [nt] [dt] ≥ 0
  · have hle := hc.mp hge
    obtain ⟨r, c, es, sv, sc, sl, sn⟩ := sub_n_spec (hL1 hnt) (hL1 hdt) rfl
    obtain ⟨r0, rfl⟩ : ∃ r0, r = [r0] := by
      match r, sn with
      | [r0], _ => exact ⟨r0, rfl⟩
    simp only [val_cons, val_nil, Nat.mul_zero, Nat.add_zero, List.length_cons, List.length_nil, Nat.zero_add, pow_one]
      at sv
    obtain rfl : c = 0 := (borrow_zero sv (sl r0 (by simp)) hle).1
    obtain ⟨tr, bor, et, tv, tc, tl, tn⟩ := sub_n_spec hnlL hdlL (hnl.trans hdl.symm)
    have htr := val_lt _ tl
    rw [tn] at htr
    rw [hnl, ← hdl] at tv htr
    rw [if_pos hge, es, et]
    simp only [ne_eq, Nat.one_ne_zero, not_false_eq_true, if_true, List.getD_cons_zero]
    by_cases hfx : r0 < dl.length + 1
    · rw [if_pos hfx]
      by_cases hex : ¬bor = 0 ∧ r0 = 0
      · obtain ⟨hb, rfl⟩ := hex
        obtain rfl : bor = 1 := by omega
        rw [if_pos ⟨hb, rfl⟩, Nat.add_sub_cancel_left, Nat.mod_self]
        exact ⟨_, rfl, Nat.zero_le _, (k0 (Or.inr ⟨by omega, by omega⟩)).symm⟩
      · rw [if_neg hex]
        refine ⟨1, rfl, le_refl _, (k1 ?_).symm⟩
        by_cases hb : bor = 0
        · subst hb; omega
        · exact Or.inl (by omega)
    · rw [if_neg hfx]
      exact ⟨1, rfl, le_refl _, (k1 (Or.inl (by omega))).symm⟩
  · have hlt : nt < dt := by
      by_contra h
      exact hge (hc.mpr (by omega))
    rw [if_neg hge]
    simp only [ne_eq, not_true_eq_false, if_false, false_and, List.getD_cons_zero]
    split <;> exact ⟨0, rfl, Nat.zero_le _, (k0 (Or.inl hlt)).symm⟩

end Mpir.SbDivQ
