/- Helper lemmas for Mpir/Model/Toom8.lean: homogeneous evaluation of coefficient lists, existence of the product
   polynomial, the evaluation helpers (values and sign flags), toom_couple_handling. -/
import MpirProofs.Lemmas.Base
import Mpir.Model.Toom8
import Mathlib.Tactic.Ring
import Mathlib.Tactic.Linarith
namespace Mpir.Toom8

/-! ### homogeneous evaluation of coefficient lists; the product polynomial -/

/-- homogeneous evaluation Σ c_i x^i y^(d−i), d = length − 1: the value at the projective point (x : y) -/
def evalH (x y : Int) : List Int → Int
  | [] => 0
  | c :: cs => c * y ^ cs.length + x * evalH x y cs

/-- the blocks of an operand as integer coefficients -/
def toZ (xs : List Nat) : List Int := xs.map (fun (x : Nat) => (x : Int))

@[simp] theorem toZ_nil : toZ [] = [] := rfl
@[simp] theorem toZ_cons (x : Nat) (xs : List Nat) : toZ (x :: xs) = (x : Int) :: toZ xs := rfl
@[simp] theorem toZ_length (xs : List Nat) : (toZ xs).length = xs.length := by simp [toZ]

theorem evalH_map_mul (a x y : Int) (l : List Int) : evalH x y (l.map (a * ·)) = a * evalH x y l := by
  induction l with
  | nil => simp [evalH]
  | cons c cs ih => simp only [List.map_cons, evalH, List.length_map, ih]; ring

theorem evalH_append_zeros (x y : Int) (l : List Int) (m : Nat) :
    evalH x y (l ++ List.replicate m 0) = y ^ m * evalH x y l := by
  induction l with
  | nil =>
    simp only [List.nil_append, evalH, mul_zero]
    induction m with
    | zero => simp [evalH]
    | succ m ih => simp only [List.replicate_succ, evalH, ih]; ring
  | cons c cs ih =>
    simp only [List.cons_append, evalH, ih, List.length_append, List.length_replicate, pow_add]; ring

theorem evalH_zipWith_add (x y : Int) : ∀ (l1 l2 : List Int), l1.length = l2.length →
    evalH x y (List.zipWith (· + ·) l1 l2) = evalH x y l1 + evalH x y l2
  | [], [], _ => by simp [evalH]
  | [], _ :: _, h => by simp at h
  | _ :: _, [], h => by simp at h
  | a :: l1, b :: l2, h => by
    have h' : l1.length = l2.length := by simpa using h
    simp only [List.zipWith_cons_cons, evalH, evalH_zipWith_add x y l1 l2 h', List.length_zipWith, h', Nat.min_self]
    ring

theorem exists_prod : ∀ (as bs : List Int), as ≠ [] → bs ≠ [] →
    ∃ cs : List Int, cs.length + 1 = as.length + bs.length ∧ ∀ x y, evalH x y cs = evalH x y as * evalH x y bs
  | [], _, h, _ => absurd rfl h
  | [a], bs, _, _ => by
    refine ⟨bs.map (a * ·), by simp; omega, fun x y => ?_⟩
    rw [evalH_map_mul]; simp [evalH]
  | a :: a' :: as, bs, _, hb => by
    obtain ⟨cs', hl, he⟩ := exists_prod (a' :: as) bs (by simp) hb
    refine ⟨List.zipWith (· + ·) (bs.map (a * ·) ++ List.replicate (a' :: as).length 0) (0 :: cs'), ?_, fun x y => ?_⟩
    · simp only [List.length_zipWith, List.length_append, List.length_map, List.length_replicate, List.length_cons] at hl ⊢
      omega
    · rw [evalH_zipWith_add _ _ _ _ (by
        simp only [List.length_append, List.length_map, List.length_replicate, List.length_cons] at hl ⊢; omega)]
      rw [evalH_append_zeros, evalH_map_mul]
      simp only [evalH, he, zero_mul, zero_add]
      simp only [List.length_cons]
      ring

theorem evalH_append (x y : Int) (l1 l2 : List Int) :
    evalH x y (l1 ++ l2) = y ^ l2.length * evalH x y l1 + x ^ l1.length * evalH x y l2 := by
  induction l1 with
  | nil => simp [evalH]
  | cons c cs ih => simp only [List.cons_append, evalH, ih, List.length_append, List.length_cons, pow_add, pow_succ]; ring

/-! ### coefficient lists as a head, pairs (a_j, b_j), and for odd degree a last coefficient -/

/-- the pairs (a_j, b_j) written out as the list a_0, b_0, a_1, b_1, … -/
def flat : List (Int × Int) → List Int
  | [] => []
  | p :: ps => p.1 :: p.2 :: flat ps

theorem flat_length (ps : List (Int × Int)) : (flat ps).length = 2 * ps.length := by
  induction ps with
  | nil => rfl
  | cons p ps ih => simp only [flat, List.length_cons, ih]; ring

theorem evalH_flat (x y : Int) (ps : List (Int × Int)) :
    evalH x y (flat ps) = y * evalH (x ^ 2) (y ^ 2) (ps.map Prod.fst) + x * evalH (x ^ 2) (y ^ 2) (ps.map Prod.snd) := by
  induction ps with
  | nil => simp [flat, evalH]
  | cons p ps ih =>
    simp only [flat, evalH, List.map_cons, List.length_cons, List.length_map, flat_length, ih, pow_succ, pow_mul]
    ring

theorem evalH_pairs (W x y : Int) (ps : List (Int × Int)) :
    evalH x y (ps.map fun p => p.1 + W * p.2) = evalH x y (ps.map Prod.fst) + W * evalH x y (ps.map Prod.snd) := by
  induction ps with
  | nil => simp [evalH]
  | cons p ps ih => simp only [List.map_cons, evalH, List.length_map, ih]; ring

theorem exists_flat : ∀ (l : List Int) (m : Nat), l.length = 2 * m → ∃ ps, ps.length = m ∧ l = flat ps
  | [], m, h => ⟨[], by simp only [List.length_nil] at h ⊢; omega, rfl⟩
  | [_], m, h => by simp only [List.length_cons, List.length_nil] at h; omega
  | a :: b :: l, m, h => by
    obtain ⟨ps, hp, rfl⟩ := exists_flat l (m - 1) (by simp only [List.length_cons] at h; omega)
    exact ⟨(a, b) :: ps, by simp only [List.length_cons] at h ⊢; omega, rfl⟩

/-- `even`/`odd` in the names below is the degree: 2m + 1 coefficients c0, (a_j, b_j) here, 2m + 2 (a last coefficient c) in `_odd` -/
theorem exists_paired_even : ∀ (cs : List Int) (m : Nat), cs.length = 2 * m + 1 → ∃ c0 ps, ps.length = m ∧ cs = c0 :: flat ps
  | [], _, h => by simp at h
  | c0 :: l, m, h => by
    obtain ⟨ps, hp, rfl⟩ := exists_flat l m (by simpa using h)
    exact ⟨c0, ps, hp, rfl⟩

theorem exists_paired_odd (cs : List Int) (m : Nat) (h : cs.length = 2 * m + 2) :
    ∃ c0 ps c, ps.length = m ∧ cs = c0 :: (flat ps ++ [c]) := by
  have hne : cs ≠ [] := by intro h0; simp [h0] at h
  obtain ⟨c0, ps, hp, he⟩ := exists_paired_even cs.dropLast m (by rw [List.length_dropLast, h]; rfl)
  refine ⟨c0, ps, cs.getLast hne, hp, ?_⟩
  rw [← List.cons_append, ← he, List.dropLast_concat_getLast]

theorem evalH_paired_odd (x y c0 c : Int) (ps : List (Int × Int)) :
    evalH x y (c0 :: (flat ps ++ [c])) = c0 * y ^ (2 * ps.length + 1) + x ^ (2 * ps.length + 1) * c +
      x * y * (y * evalH (x ^ 2) (y ^ 2) (ps.map Prod.fst) + x * evalH (x ^ 2) (y ^ 2) (ps.map Prod.snd)) := by
  simp only [evalH, evalH_append, evalH_flat, List.length_append, List.length_cons, List.length_nil, flat_length]
  ring

theorem evalH_paired_even (x y c0 : Int) (ps : List (Int × Int)) :
    evalH x y (c0 :: flat ps) = c0 * y ^ (2 * ps.length) +
      x * (y * evalH (x ^ 2) (y ^ 2) (ps.map Prod.fst) + x * evalH (x ^ 2) (y ^ 2) (ps.map Prod.snd)) := by
  simp only [evalH, evalH_flat, flat_length]

/-! ### the points 0 and ∞; an operand is its blocks evaluated at W -/

theorem evalH_zero_one (c : Int) (cs : List Int) : evalH 0 1 (c :: cs) = c := by simp [evalH]

theorem evalH_one_zero : ∀ (l : List Int), evalH 1 0 l = l.getLastD 0
  | [] => by simp [evalH]
  | [c] => by simp [evalH]
  | c :: c' :: cs => by
    have := evalH_one_zero (c' :: cs)
    simp only [evalH, List.length_cons, one_mul] at this ⊢
    rw [this]; simp

theorem toZ_getLastD (xs : List Nat) : (toZ xs).getLastD 0 = ((xs.getLastD 0 : Nat) : Int) := by
  induction xs with
  | nil => simp
  | cons x xs ih =>
    cases xs with
    | nil => simp
    | cons y ys => simpa using ih

theorem toZ_head (xs : List Nat) (h : xs ≠ []) : evalH 0 1 (toZ xs) = ((xs.getD 0 0 : Nat) : Int) := by
  cases xs with
  | nil => exact absurd rfl h
  | cons x xs => simp [evalH]

theorem blocks_eval (W : Nat) : ∀ (k x : Nat), evalH (W : Int) 1 (toZ (blocks x W k)) = x
  | 0, x => by simp [blocks, evalH]
  | k + 1, x => by
    have := blocks_eval W k (x / W)
    simp only [blocks, toZ_cons, evalH, this, one_pow, mul_one]
    have h := Nat.mod_add_div x W
    exact_mod_cast h

theorem blocks_length (W : Nat) : ∀ (k x : Nat), (blocks x W k).length = k + 1
  | 0, _ => rfl
  | k + 1, x => by simp [blocks, blocks_length W k]

/-! ### the evaluation helpers (toom_eval_pm1.c, toom_eval_pm2.c, toom_eval_pm2exp.c, toom_eval_pm2rexp.c, toom_eval_dgr3_pm1.c) -/

/-- Σ σ^i · x_i · w_i over the blocks from index `i` on: for σ = 1 the sum, for σ = −1 the difference of the two accumulators
    of `evenOdd` -/
def wsum (σ : Int) (w : Nat → Nat) : List Nat → Nat → Int
  | [], _ => 0
  | x :: xs, i => σ ^ i * ((x * w i : Nat) : Int) + wsum σ w xs (i + 1)

theorem neg_one_pow_nat (i : Nat) : (-1 : Int) ^ i = if i % 2 = 0 then 1 else -1 := by
  induction i with
  | zero => simp
  | succ i ih =>
    rw [pow_succ, ih]
    by_cases h : i % 2 = 0
    · have : ¬ (i + 1) % 2 = 0 := by omega
      simp [h, this]
    · have : (i + 1) % 2 = 0 := by omega
      simp [h, this]

theorem evenOdd_sum (w : Nat → Nat) : ∀ (xs : List Nat) (i : Nat),
    (((evenOdd w xs i).1 + (evenOdd w xs i).2 : Nat) : Int) = wsum 1 w xs i
  | [], _ => by simp [evenOdd, wsum]
  | x :: xs, i => by
    have ih := evenOdd_sum w xs (i + 1)
    simp only [evenOdd, wsum, one_pow, one_mul]
    split <;> (simp only []; rw [← ih]; push_cast; ring)

theorem evenOdd_diff (w : Nat → Nat) : ∀ (xs : List Nat) (i : Nat),
    ((evenOdd w xs i).1 : Int) - ((evenOdd w xs i).2 : Int) = wsum (-1) w xs i
  | [], _ => by simp [evenOdd, wsum]
  | x :: xs, i => by
    have ih := evenOdd_diff w xs (i + 1)
    simp only [evenOdd, wsum, neg_one_pow_nat]
    split <;> (simp only []; rw [← ih]; push_cast; ring)

/-- weights t^i: the accumulators hold the even and odd part of x(t) -/
theorem wsum_fwd (σ : Int) (t : Nat) (w : Nat → Nat) (hw : ∀ i, w i = t ^ i) : ∀ (xs : List Nat) (i : Nat),
    wsum σ w xs i = (σ * t) ^ i * evalH (σ * t) 1 (toZ xs)
  | [], _ => by simp [wsum, evalH]
  | x :: xs, i => by
    simp only [wsum, wsum_fwd σ t w hw xs (i + 1), toZ_cons, evalH, hw, one_pow, mul_one]
    push_cast; ring

/-- weights t^(q−i): the accumulators hold the even and odd part of t^q·x(1/t) -/
theorem wsum_rev (σ : Int) (t q : Nat) (w : Nat → Nat) (hw : ∀ i, w i = t ^ (q - i)) : ∀ (xs : List Nat) (i : Nat),
    i + xs.length = q + 1 → wsum σ w xs i = σ ^ i * evalH σ t (toZ xs)
  | [], _, _ => by simp [wsum, evalH]
  | x :: xs, i, h => by
    have hl : q - i = xs.length := by simp only [List.length_cons] at h; omega
    have := wsum_rev σ t q w hw xs (i + 1) (by simp only [List.length_cons] at h; omega)
    simp only [wsum, this, toZ_cons, evalH, hw, hl, toZ_length]
    push_cast; ring

/-- what an evaluation helper returns: `plus` is the value P at the point, `minus` with the flag `neg` the value M at the
    opposite point -/
structure EvalSpec (e : Eval) (P M : Int) : Prop where
  plus : (e.plus : Int) = P
  minus : (if e.neg = true then -(e.minus : Int) else (e.minus : Int)) = M

theorem spec_of_evenOdd (e1 e2 : Nat) :
    EvalSpec ⟨e1 + e2, (if decide (e1 < e2) = true then e2 - e1 else e1 - e2), decide (e1 < e2)⟩
      ((e1 + e2 : Nat) : Int) ((e1 : Int) - e2) := by
  constructor
  · rfl
  · by_cases h : e1 < e2 <;> simp only [h, decide_true, decide_false, if_true, if_false, Bool.false_eq_true] <;> omega

/-- the tail the `evenOdd` helpers share: sum and difference of the two accumulators, whatever the weights -/
theorem evenOdd_evalSpec (w : Nat → Nat) (xs : List Nat) {P M : Int}
    (hs : wsum 1 w xs 0 = P) (hd : wsum (-1) w xs 0 = M) :
    EvalSpec ⟨(evenOdd w xs 0).1 + (evenOdd w xs 0).2,
      (if decide ((evenOdd w xs 0).1 < (evenOdd w xs 0).2) = true then (evenOdd w xs 0).2 - (evenOdd w xs 0).1
        else (evenOdd w xs 0).1 - (evenOdd w xs 0).2), decide ((evenOdd w xs 0).1 < (evenOdd w xs 0).2)⟩ P M := by
  have := spec_of_evenOdd (evenOdd w xs 0).1 (evenOdd w xs 0).2
  rwa [evenOdd_sum, evenOdd_diff, hs, hd] at this

theorem evalPm2exp_spec (xs : List Nat) (sh : Nat) :
    EvalSpec (evalPm2exp xs sh) (evalH (2 ^ sh) 1 (toZ xs)) (evalH (-(2 ^ sh)) 1 (toZ xs)) := by
  have hw : ∀ i, (fun i => 2 ^ (i * sh)) i = (2 ^ sh) ^ i := fun i => by simp only []; rw [← pow_mul, Nat.mul_comm]
  exact evenOdd_evalSpec _ xs (by rw [wsum_fwd 1 (2 ^ sh) _ hw]; simp) (by rw [wsum_fwd (-1) (2 ^ sh) _ hw]; simp)

theorem evalPm1_spec (xs : List Nat) :
    EvalSpec (evalPm1 xs) (evalH 1 1 (toZ xs)) (evalH (-1) 1 (toZ xs)) := by
  have hw : ∀ i, (fun _ : Nat => 1) i = 1 ^ i := fun i => by simp
  have := evenOdd_evalSpec (fun _ => 1) xs (P := evalH 1 1 (toZ xs)) (M := evalH (-1) 1 (toZ xs))
    (by rw [wsum_fwd 1 1 _ hw]; simp) (by rw [wsum_fwd (-1) 1 _ hw]; simp)
  simpa [evalPm1, gt_iff_lt] using this

theorem evalDgr3Pm1_spec (xs : List Nat) (h : xs.length = 4) :
    EvalSpec (evalDgr3Pm1 xs) (evalH 1 1 (toZ xs)) (evalH (-1) 1 (toZ xs)) := by
  rcases xs with _ | ⟨x0, _ | ⟨x1, _ | ⟨x2, _ | ⟨x3, _ | ⟨x4, xs⟩⟩⟩⟩⟩ <;> simp at h
  have := spec_of_evenOdd (x0 + x2) (x1 + x3)
  unfold evalDgr3Pm1
  simp only [List.getD_cons_zero, List.getD_cons_succ, toZ_cons, toZ_nil, evalH, List.length_cons, List.length_nil]
  constructor
  · have := this.plus; simp only [] at this ⊢; push_cast at this ⊢; linarith
  · have := this.minus; simp only [] at this ⊢; rw [this]; push_cast; ring

theorem evalPm2rexp_spec (xs : List Nat) (s : Nat) (h : xs ≠ []) :
    EvalSpec (evalPm2rexp xs s) (evalH 1 (2 ^ s) (toZ xs)) (evalH (-1) (2 ^ s) (toZ xs)) := by
  have hl : 0 + xs.length = (xs.length - 1) + 1 := by
    cases xs with
    | nil => exact absurd rfl h
    | cons x xs => simp
  have hw : ∀ i, (fun i => 2 ^ (s * (xs.length - 1 - i))) i = (2 ^ s) ^ (xs.length - 1 - i) := fun i => by
    simp only []; rw [← pow_mul]
  exact evenOdd_evalSpec _ xs (by rw [wsum_rev 1 (2 ^ s) (xs.length - 1) _ hw xs 0 hl]; simp)
    (by rw [wsum_rev (-1) (2 ^ s) (xs.length - 1) _ hw xs 0 hl]; simp)

theorem evalPm2_spec (xs : List Nat) :
    EvalSpec (evalPm2 xs) (evalH 2 1 (toZ xs)) (evalH (-2) 1 (toZ xs)) := by
  have hw : ∀ i, (fun i => 2 ^ i) i = 2 ^ i := fun i => rfl
  have hs := evenOdd_sum (fun i => 2 ^ i) xs 0
  have hd := evenOdd_diff (fun i => 2 ^ i) xs 0
  rw [wsum_fwd 1 2 _ hw] at hs
  rw [wsum_fwd (-1) 2 _ hw] at hd
  simp only [pow_zero, one_mul, Nat.cast_ofNat] at hs hd
  rw [show (-1 : Int) * 2 = -2 by norm_num] at hd
  unfold evalPm2
  simp only []
  generalize (evenOdd (fun i => 2 ^ i) xs 0).1 = e1 at *
  generalize (evenOdd (fun i => 2 ^ i) xs 0).2 = e2 at *
  rw [← hs, ← hd]
  by_cases hk : (xs.length - 1 - 1) % 2 = 1
  · simp only [hk, if_true]
    exact spec_of_evenOdd e1 e2
  · simp only [hk, if_false]
    constructor
    · simp only []; push_cast; ring
    · by_cases h : e2 < e1 <;> simp only [h, decide_true, decide_false, if_true, if_false, Bool.false_eq_true,
        Bool.not_true, Bool.not_false] <;> omega

/-! ### toom_couple_handling, and one point of the interpolation input -/

/-- what toom_couple_handling computes from f(x) and the signed f(−x) -/
def coupleVal (FP FM W : Int) (ps ns : Nat) : Int :=
  (FP - (FP + FM) / 2) / 2 ^ ps + W * ((FP + FM) / 2 / 2 ^ ns)

theorem coupleHandling_val (pp np : Int) (nsign : Bool) (W : Int) (ps ns : Nat) :
    (coupleHandling pp np nsign W ps ns).val = coupleVal pp (if nsign = true then -np else np) W ps ns := by
  unfold coupleHandling coupleVal
  cases nsign <;> simp [sub_eq_add_neg]

theorem xor_signed (na nb : Bool) (ma mb : Nat) :
    (if (na != nb) = true then -(((ma * mb : Nat)) : Int) else ((ma * mb : Nat) : Int))
      = (if na = true then -(ma : Int) else ma) * (if nb = true then -(mb : Int) else mb) := by
  cases na <;> cases nb <;> simp

theorem point_val (ea eb : Eval) (Pa Ma Pb Mb : Int) (ha : EvalSpec ea Pa Ma) (hb : EvalSpec eb Pb Mb)
    (W : Int) (ps ns : Nat) :
    (point (· * ·) ea eb W ps ns).val = coupleVal (Pa * Pb) (Ma * Mb) W ps ns := by
  unfold point
  simp only []
  rw [coupleHandling_val, xor_signed, ha.minus, hb.minus]
  push_cast
  rw [ha.plus, hb.plus]

/-- the squaring point is the multiplication point with both evaluations equal: the sign `e.neg ^ e.neg` is 0 -/
theorem pointSqr_eq_point (e : Eval) (W : Int) (ps ns : Nat) :
    pointSqr (fun x => x * x) e W ps ns = point (· * ·) e e W ps ns := by
  simp only [pointSqr, point, bne_self_eq_false]

theorem evalH_paired_even_at (W c0 : Int) (ps : List (Int × Int)) :
    evalH W 1 (c0 :: flat ps) = c0 + W * evalH (W ^ 2) 1 (ps.map fun p => p.1 + W * p.2) := by
  simp only [evalH_paired_even, evalH_pairs, one_pow, mul_one, one_mul]

theorem evalH_paired_odd_at (W c0 c : Int) (ps : List (Int × Int)) :
    evalH W 1 (c0 :: (flat ps ++ [c])) =
      c0 + W * evalH (W ^ 2) 1 (ps.map fun p => p.1 + W * p.2) + W ^ (2 * ps.length + 1) * c := by
  simp only [evalH_paired_odd, evalH_pairs, one_pow, mul_one, one_mul]
  ring

theorem coupleVal_even_odd (E O W : Int) (ps ns : Nat) :
    coupleVal (E + O) (E - O) W ps ns = O / 2 ^ ps + W * (E / 2 ^ ns) := by
  unfold coupleVal
  rw [show E + O + (E - O) = 2 * E by ring, Int.mul_ediv_cancel_left _ (by norm_num), show E + O - E = O by ring]

/-- points (±t : 1), t = 2^k, of a form with 2m + 2 coefficients; shifts k and 2k (toom8h_mul.c:183-194, :214-218) -/
theorem couple_fwd (c0 c W t : Int) (ps : List (Int × Int)) (k : Nat) (ht : t = 2 ^ k) :
    coupleVal (evalH t 1 (c0 :: (flat ps ++ [c]))) (evalH (-t) 1 (c0 :: (flat ps ++ [c]))) W k (2 * k)
      = evalH (t ^ 2) 1 (ps.map fun p => p.1 + W * p.2) + c * (t ^ 2) ^ ps.length + W * (c0 / t ^ 2) := by
  have ht0 : t ≠ 0 := ht ▸ pow_ne_zero _ (by norm_num)
  have h2 : (2 : Int) ^ (2 * k) = t ^ 2 := by rw [ht, pow_mul']
  simp only [evalH_paired_odd, evalH_pairs, neg_sq, one_pow, mul_one, one_mul]
  generalize evalH (t ^ 2) 1 (ps.map Prod.fst) = A
  generalize evalH (t ^ 2) 1 (ps.map Prod.snd) = B
  rw [show c0 + t ^ (2 * ps.length + 1) * c + t * (A + t * B)
        = (c0 + t ^ 2 * B) + t * (A + c * (t ^ 2) ^ ps.length) by rw [pow_succ, pow_mul]; ring,
    show c0 + (-t) ^ (2 * ps.length + 1) * c + -t * (A + -t * B)
        = (c0 + t ^ 2 * B) - t * (A + c * (t ^ 2) ^ ps.length) by rw [pow_succ, pow_mul, neg_sq]; ring,
    coupleVal_even_odd, ← ht, h2, Int.mul_ediv_cancel_left _ ht0, Int.add_mul_ediv_left _ _ (pow_ne_zero 2 ht0)]
  ring

/-- points (±1 : t), t = 2^k, of a form with 2m + 2 coefficients; shifts 2k and k (toom8h_mul.c:169-180, :197-201) -/
theorem couple_rev (c0 c W t : Int) (ps : List (Int × Int)) (k : Nat) (ht : t = 2 ^ k) :
    coupleVal (evalH 1 t (c0 :: (flat ps ++ [c]))) (evalH (-1) t (c0 :: (flat ps ++ [c]))) W (2 * k) k
      = evalH 1 (t ^ 2) (ps.map fun p => p.1 + W * p.2) + c / t ^ 2 + W * (c0 * (t ^ 2) ^ ps.length) := by
  have ht0 : t ≠ 0 := ht ▸ pow_ne_zero _ (by norm_num)
  have h2 : (2 : Int) ^ (2 * k) = t ^ 2 := by rw [ht, pow_mul']
  simp only [evalH_paired_odd, evalH_pairs, neg_sq, one_pow, one_mul]
  generalize evalH 1 (t ^ 2) (ps.map Prod.fst) = A
  generalize evalH 1 (t ^ 2) (ps.map Prod.snd) = B
  rw [show c0 * t ^ (2 * ps.length + 1) + c + t * (t * A + B)
        = t * (c0 * (t ^ 2) ^ ps.length + B) + (c + t ^ 2 * A) by rw [pow_succ, pow_mul]; ring,
    show c0 * t ^ (2 * ps.length + 1) + (-1) ^ (2 * ps.length + 1) * c + -1 * t * (t * A + -1 * B)
        = t * (c0 * (t ^ 2) ^ ps.length + B) - (c + t ^ 2 * A) by rw [Odd.neg_one_pow (odd_two_mul_add_one _), pow_succ, pow_mul]; ring,
    coupleVal_even_odd, ← ht, h2, Int.mul_ediv_cancel_left _ ht0, Int.add_mul_ediv_left _ _ (pow_ne_zero 2 ht0)]
  ring

/-- the same points for 2m + 1 coefficients (no leading c): the shifts are k and 0 resp. k and 2k -/
theorem couple_rev_even (c0 W t : Int) (ps : List (Int × Int)) (k : Nat) (ht : t = 2 ^ k) :
    coupleVal (evalH 1 t (c0 :: flat ps)) (evalH (-1) t (c0 :: flat ps)) W k 0
      = evalH 1 (t ^ 2) (ps.map fun p => p.1 + W * p.2) + W * (c0 * (t ^ 2) ^ ps.length) := by
  have ht0 : t ≠ 0 := ht ▸ pow_ne_zero _ (by norm_num)
  simp only [evalH_paired_even, evalH_pairs, neg_sq, one_pow, one_mul]
  generalize evalH 1 (t ^ 2) (ps.map Prod.fst) = A
  generalize evalH 1 (t ^ 2) (ps.map Prod.snd) = B
  rw [show c0 * t ^ (2 * ps.length) + (t * A + B) = (c0 * (t ^ 2) ^ ps.length + B) + t * A by rw [pow_mul]; ring,
    show c0 * t ^ (2 * ps.length) + -1 * (t * A + -1 * B) = (c0 * (t ^ 2) ^ ps.length + B) - t * A by rw [pow_mul]; ring,
    coupleVal_even_odd, ← ht, Int.mul_ediv_cancel_left _ ht0, pow_zero, Int.ediv_one]
  ring

/-- forward points have y = 1: a zero leading coefficient changes nothing -/
theorem couple_fwd_even (c0 W t : Int) (ps : List (Int × Int)) (k : Nat) (ht : t = 2 ^ k) :
    coupleVal (evalH t 1 (c0 :: flat ps)) (evalH (-t) 1 (c0 :: flat ps)) W k (2 * k)
      = evalH (t ^ 2) 1 (ps.map fun p => p.1 + W * p.2) + W * (c0 / t ^ 2) := by
  have h := couple_fwd c0 0 W t ps k ht
  have e : ∀ x : Int, evalH x 1 (c0 :: (flat ps ++ [0])) = evalH x 1 (c0 :: flat ps) := fun x => by
    simpa only [List.replicate_one, List.cons_append, one_pow, one_mul] using evalH_append_zeros x 1 (c0 :: flat ps) 1
  rwa [e, e, zero_mul, add_zero] at h

end Mpir.Toom8
