/- The value-level model `Mpir.Root.rootrem` (Model/Root.lean, the one the mpz layer calls) satisfies the contract of
   mpn_rootrem (`RootremAt`).  Every loop and routine of mpn_rootrem is proved for the `Option`-valued mirror and for the
   value-level model in one statement (`rootrem_ok` and the lemmas before it); what is left here is that the two models
   are called with the same limb count. -/
import MpirProofs.Lemmas.RootremTop
namespace Mpir.Rootrem
open Mpir Mpir.Root Mpir.Gen.SqrtTabs

theorem limbCount_eq (a : Nat) : limbCount a = limbLen a :=
  IsSize.unique (f := limbCount) natLimbs_length_le_iff limbLen_isSize a

/-- THE CONTRACT OF mpn_rootrem (`RootremAt`, the hypothesis of the mpz-level theorems) holds for every operand of at
    most 2^61 bits and every index `k ≥ 2` (indices `≥ 2^64` do not occur in the C; the model answers root 1 there). -/
theorem rootremAt_holds (a k : Nat) (ha : 0 < a) (hk : 2 ≤ k) (hsz : bitLen a ≤ 2 ^ 61) : RootremAt a k := by
  by_cases hkB : k < B
  · intro w
    obtain ⟨R, -, e, p1, p2⟩ := rootrem_ok a k w ha hk hkB hsz
    rw [limbCount_eq, e]
    exact ⟨rfl, p2, p1⟩
  · exact rootremAt_huge a k ha (by
      have : (2:Nat) ^ 61 ≤ B := by unfold B; norm_num
      omega)

/-- every call of mpz_root made by mpz/perfpow.c is on a divisor of `|u|`: the contract holds there. -/
theorem rootremAt_dvd (u : Int) (h0 : u ≠ 0) (hsz : bitLen u.natAbs ≤ 2 ^ 61) (a k : Nat) (ha : 0 < a) (hk : 2 ≤ k)
    (hd : a ∣ u.natAbs) : RootremAt a k :=
  rootremAt_holds a k ha hk (Nat.le_trans (bitLen_mono (Nat.le_of_dvd (Int.natAbs_pos.mpr h0) hd)) hsz)

end Mpir.Rootrem
