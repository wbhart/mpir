/- hgcd_matrix_apply (hgcd_reduce.c): the products are taken modulo B^modn - 1 (mpn_mulmod_bnm1) after folding the
   operands with an end-around carry; the difference with end-around borrow is nevertheless the EXACT entry of
   M⁻¹(a; b), because that entry is positive and shorter than modn limbs. -/
import MpirProofs.Lemmas.HgcdMatrix
import Mathlib.Data.Nat.ModEq
namespace Mpir.Hgcd
open Mpir Mpir.Gcd

theorem modEq_P (P : Nat) (hP : 2 ≤ P) : P ≡ 1 [MOD P - 1] := by
  have : P = 1 + (P - 1) := by omega
  conv_lhs => rw [this]
  exact Nat.add_modEq_right

/-- the fold `cy = mpn_add (ap, ap, modn, ap + modn, n - modn); MPN_INCR_U (ap, modn, cy)` (n ≤ 2·modn): the
    result fits modn limbs and is congruent to a modulo B^modn - 1 -/
theorem foldBnm1_spec (a modn : Nat) (hm : 1 ≤ modn) (ha : a < B ^ modn * B ^ modn) :
    foldBnm1 a modn < B ^ modn ∧ foldBnm1 a modn ≡ a [MOD B ^ modn - 1] := by
  have hP := two_le_Bpow modn hm
  unfold foldBnm1
  simp only
  generalize B ^ modn = P at *
  have hlo : a % P < P := Nat.mod_lt _ (by omega)
  have hhi : a / P < P := Nat.div_lt_of_lt_mul ha
  have hda : a = a % P + P * (a / P) := (Nat.mod_add_div a P).symm
  generalize a % P = lo at *
  generalize a / P = hi at *
  have h1 : P ≡ 1 [MOD P - 1] := modEq_P P hP
  have hcong : lo + hi ≡ a [MOD P - 1] := by
    rw [hda]
    have : P * hi ≡ 1 * hi [MOD P - 1] := Nat.ModEq.mul_right hi h1
    rw [Nat.one_mul] at this
    exact Nat.ModEq.add_left lo this.symm
  by_cases hlt : lo + hi < P
  · have e1 : (lo + hi) % P = lo + hi := Nat.mod_eq_of_lt hlt
    have e2 : (lo + hi) / P = 0 := Nat.div_eq_of_lt hlt
    rw [e1, e2, Nat.add_zero, e1]
    exact ⟨hlt, hcong⟩
  · have e2 : (lo + hi) / P = 1 := by
      apply Nat.div_eq_of_lt_le <;> omega
    have e1 : (lo + hi) % P = lo + hi - P := by
      have := Nat.div_add_mod (lo + hi) P
      rw [e2] at this; omega
    rw [e1, e2]
    have hlt2 : lo + hi - P + 1 < P := by omega
    rw [Nat.mod_eq_of_lt hlt2]
    refine ⟨hlt2, ?_⟩
    have : lo + hi = (lo + hi - P + 1) + (P - 1) := by omega
    have hc2 : lo + hi - P + 1 ≡ lo + hi [MOD P - 1] := by
      conv_rhs => rw [this]
      exact Nat.add_modEq_right.symm
    exact hc2.trans hcong

/-- **wrap-around exactness**: t, s are ANY representatives (below B^modn) of X, Y modulo B^modn - 1 — what
    mpn_mulmod_bnm1 leaves for the two products —, X - Y = x with 0 < x < B^modn - 1.  Then
    `cy = mpn_sub_n (tp, tp, sp, modn); MPN_DECR_U (tp, modn, cy)` produces x itself. -/
theorem wrap_exact (t s modn X Y x : Nat) (hm : 1 ≤ modn) (ht : t < B ^ modn) (hs : s < B ^ modn)
    (hX : t ≡ X [MOD B ^ modn - 1]) (hY : s ≡ Y [MOD B ^ modn - 1]) (hx : X = Y + x) (hx0 : 0 < x)
    (hxP : x < B ^ modn - 1) : subBnm1 t s modn = x := by
  have hP := two_le_Bpow modn hm
  unfold subBnm1
  generalize B ^ modn = P at *
  have h1 : P ≡ 1 [MOD P - 1] := modEq_P P hP
  -- the result r satisfies r + s ≡ t and r ≤ P - 1
  have key : ∀ r, r + s ≡ t [MOD P - 1] → r ≤ P - 1 → r = x := by
    intro r hr hle
    have h2 : r + s ≡ x + s [MOD P - 1] := by
      have : t ≡ Y + x [MOD P - 1] := by rw [← hx]; exact hX
      have h3 : Y + x ≡ s + x [MOD P - 1] := Nat.ModEq.add_right x hY.symm
      rw [Nat.add_comm s x] at h3
      exact hr.trans (this.trans h3)
    have h4 : r ≡ x [MOD P - 1] := Nat.ModEq.add_right_cancel' s h2
    by_cases hrP : r = P - 1
    · exfalso
      rw [hrP] at h4
      have : (P - 1) % (P - 1) = x % (P - 1) := h4
      rw [Nat.mod_self, Nat.mod_eq_of_lt hxP] at this
      omega
    · have : r % (P - 1) = x % (P - 1) := h4
      rw [Nat.mod_eq_of_lt (by omega), Nat.mod_eq_of_lt hxP] at this
      exact this
  split
  · rename_i hle
    apply key
    · rw [Nat.sub_add_cancel hle]
    · omega
  · rename_i hle
    have e : t + P - s + P - 1 = (t + P - s - 1) + P := by omega
    rw [e, Nat.add_mod_right, Nat.mod_eq_of_lt (by omega)]
    apply key
    · have : t + P - s - 1 + s = t + (P - 1) := by omega
      rw [this]
      exact Nat.add_modEq_right
    · omega

end Mpir.Hgcd
