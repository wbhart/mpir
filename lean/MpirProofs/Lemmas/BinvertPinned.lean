/- mpn_mulmod_bnm1_next_size of the pinned build adds less than ⌈k/2⌉ limbs (what mpn_binvert needs of it); the value
   mpn_binvert returns is the one of the value-level model Powm.binvert (uniqueness of the inverse). -/
import MpirProofs.Lemmas.NextSize
import MpirProofs.Lemmas.Binvert
namespace Mpir.Binvert
open Mpir Mpir.Hgcd Mpir.Mm1 Mpir.Powm

local macro "clogE " x:term:max : term => `(if $x ≤ 2 then 1 else ($x - 1).log2 + 1)

/-- when the first granule divides the second (depth ≥ 7) the two roundings are ONE rounding to `2^(2D−6)` limbs -/
theorem adjCore_nested (L D : Nat) (hD : 7 ≤ D) : adjCore L D ≤ L + 2 ^ (D * 2 - 6) - 1 := by
  unfold adjCore
  have hTP : 2 ^ (D * 2) = 2 ^ (D * 2 - 6) * 64 := by
    rw [show (64 : Nat) = 2 ^ 6 from rfl, ← pow_add]; congr 1; omega
  obtain ⟨c1, c2⟩ := ceil_bounds L (2 ^ (D * 2 - 6)) (Nat.two_pow_pos _)
  -- `M`, the rounding of `L` to the coarser granule, is a multiple of both granules
  generalize hM : 2 ^ (D * 2 - 6) * ((L + 2 ^ (D * 2 - 6) - 1) / 2 ^ (D * 2 - 6)) = M at c1 c2
  have hPM : 2 ^ (D * 2 - 6) ∣ M := hM ▸ Dvd.intro _ rfl
  have h1 := ceil_le_of_dvd L M (2 ^ (D + 1)) (Nat.two_pow_pos _) c1
    ((pow_dvd_pow 2 (by omega)).trans hPM)
  have hTM : 2 ^ (D * 2) ∣ M * 64 := by rw [hTP]; exact Nat.mul_dvd_mul_right hPM 64
  have h2 := ceil_le_of_dvd _ (M * 64) (2 ^ (D * 2)) (Nat.two_pow_pos _) (Nat.mul_le_mul_right 64 h1) hTM
  exact (Nat.div_le_of_le_mul (Nat.mul_comm M 64 ▸ h2)).trans c2

/-- the depth of the pinned MULMOD_TAB is either small against `j`, or at least 7 with a granule of at most `2^(j−2)` limbs -/
theorem depthOf_cases (j : Nat) (hj : 8 ≤ j) :
    (depthOf j + 1 ≤ j - 3 ∧ depthOf j * 2 ≤ (j - 4) + 6) ∨ (7 ≤ depthOf j ∧ depthOf j * 2 - 6 ≤ j - 2) := by
  have hd := depthOf_le' j hj
  split_ifs at hd <;> omega

theorem two_pow_sub_chain (j : Nat) (hj : 4 ≤ j) :
    2 ^ (j - 3) = 2 * 2 ^ (j - 4) ∧ 2 ^ (j - 2) = 4 * 2 ^ (j - 4) ∧ 2 ^ (j - 1) = 8 * 2 ^ (j - 4) := by
  obtain ⟨k, rfl⟩ : ∃ k, j = k + 4 := ⟨j - 4, by omega⟩
  refine ⟨?_, ?_, ?_⟩
  · rw [Nat.add_sub_cancel, Nat.add_sub_assoc (by decide), pow_add, Nat.mul_comm]
    rfl
  · rw [Nat.add_sub_cancel, Nat.add_sub_assoc (by decide), pow_add, Nat.mul_comm]
    rfl
  · rw [Nat.add_sub_cancel, Nat.add_sub_assoc (by decide), pow_add, Nat.mul_comm]
    rfl

/-- mpir_fft_adjust_limbs above the cutoff, pinned constants: the rounding adds less than half -/
theorem adjust_tight (L : Nat) (hL : 128 < L) : 2 * fftAdjustLimbs 128 19 tab19 L + 2 ≤ 3 * L := by
  obtain ⟨j, hj8, c1, -, e⟩ := adjust_eq L hL
  rw [e]
  clear e
  obtain ⟨p3, p2, p1⟩ := two_pow_sub_chain j (by omega)
  rcases depthOf_cases j hj8 with ⟨d1, d2⟩ | ⟨d1, d2⟩
  · -- both granules are at most 2^(j-3), 2^(j-4) limbs
    have q1 : 2 ^ (depthOf j + 1) ≤ 2 ^ (j - 3) := Nat.pow_le_pow_right (by norm_num) d1
    have q2 : 2 ^ (depthOf j * 2) ≤ 2 ^ ((j - 4) + 6) := Nat.pow_le_pow_right (by norm_num) d2
    have q3 : 2 ^ ((j - 4) + 6) = 64 * 2 ^ (j - 4) := by rw [pow_add, Nat.mul_comm]; rfl
    have := adjCore_add_le L (depthOf j) (2 ^ (j - 4)) (q3 ▸ q2)
    omega
  · -- one rounding to 2^(2D-6) ≤ 2^(j-2) limbs
    have hn := adjCore_nested L (depthOf j) d1
    have q1 : 2 ^ (depthOf j * 2 - 6) ≤ 2 ^ (j - 2) := Nat.pow_le_pow_right (by norm_num) d2
    omega

/-- next_size adds less than `⌈k/2⌉` limbs, so the `mpn_sub_1` of mpn_binvert always has a positive size and `newrn + rn > m` -/
theorem bnm1NextSize_gap (k : Nat) (hk : 1 ≤ k) :
    k ≤ bnm1NextSize 128 19 tab19 k ∧ bnm1NextSize 128 19 tab19 k - k < (k + 1) / 2 := by
  refine ⟨(bnm1NextSize_bounds k hk).1, ?_⟩
  unfold bnm1NextSize
  by_cases h : k ≤ 2 * 128
  · rw [if_pos h]; omega
  · rw [if_neg h]
    have := adjust_tight ((k + 1) / 2) (by omega)
    omega


/-! ### uniqueness of the inverse -/

theorem binvertLoop_lt (u n : Nat) : ∀ (f x prec : Nat), binvertLoop u n f x prec < B ^ n
  | 0, x, prec => by unfold binvertLoop; exact Nat.mod_lt _ (Nat.pow_pos B_pos)
  | f + 1, x, prec => by
    unfold binvertLoop
    split
    · exact Nat.mod_lt _ (Nat.pow_pos B_pos)
    · exact binvertLoop_lt u n f _ _

theorem inverse_unique (M r b U : Nat) (hr : r < M) (hb : b < M) (h1 : (r * U) % M = 1) (h2 : (b * U) % M = 1) : r = b := by
  have hM : 1 < M := by
    rcases Nat.lt_or_ge 1 M with h | h
    · exact h
    · interval_cases M
      · omega
      · rw [Nat.mod_one] at h1; omega
  have e1 : r * U ≡ 1 [MOD M] := by unfold Nat.ModEq; rw [h1, Nat.mod_eq_of_lt hM]
  have e2 : b * U ≡ 1 [MOD M] := by unfold Nat.ModEq; rw [h2, Nat.mod_eq_of_lt hM]
  have e3 : r * (b * U) ≡ r * 1 [MOD M] := Nat.ModEq.mul_left r e2
  have e4 : b * (r * U) ≡ b * 1 [MOD M] := Nat.ModEq.mul_left b e1
  have e5 : r * (b * U) = b * (r * U) := by ring
  rw [e5] at e3
  have e6 : r ≡ b [MOD M] := by
    have := e3.symm.trans e4
    simpa using this
  unfold Nat.ModEq at e6
  rwa [Nat.mod_eq_of_lt hr, Nat.mod_eq_of_lt hb] at e6

end Mpir.Binvert
