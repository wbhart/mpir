/- The mpq model (Mpir/Model/Mpq.lean) against Mathlib's ℚ, for C12 and the mpq part of C11.
   Arithmetic: each function stores one pair, computed from its operands' original values, into its
   destination whatever the alias pattern (`*_eq`), and that pair is the exact result in canonical form
   (`*Val_spec`).  Comparison: the C result has the sign of the cross-product difference (`*_sign`). -/
import MpirProofs.Lemmas.Arith
import Mpir.Model.Mpq
import MpirProofs.Lemmas.Base
import Mathlib.Data.Int.GCD
import Mathlib.RingTheory.Coprime.Lemmas
import Mathlib.Data.Rat.Defs
import Mathlib.Algebra.Order.Field.Rat
import Mathlib.Tactic.FieldSimp
import Mathlib.Tactic.Ring
import Mathlib.Tactic.Linarith
import Mathlib.Tactic.LinearCombination
import Mathlib.Tactic.Positivity
namespace Mpir.Mpq

def Q.toRat (q : Q) : ℚ := (q.num : ℚ) / (q.den : ℚ)

/-- canonical form: positive denominator, numerator and denominator coprime (so zero is 0/1) -/
def Canonical (q : Q) : Prop := 0 < q.den ∧ Int.gcd q.num q.den = 1

instance : DecidablePred Canonical := fun q => by unfold Canonical; infer_instance

def upd (h : Heap) (i : Nat) (q : Q) : Heap := fun j => if j = i then q else h j

@[simp] theorem upd_self (h : Heap) (i : Nat) (q : Q) : upd h i q i = q := by simp [upd]
@[simp] theorem upd_upd (h : Heap) (i : Nat) (p q : Q) : upd (upd h i p) i q = upd h i q := by
  funext j; unfold upd; split <;> rfl
theorem upd_other (h : Heap) (i j : Nat) (q : Q) (hj : j ≠ i) : upd h i q j = h j := by simp [upd, hj]

@[simp] theorem setNum_den (h : Heap) (i j : Nat) (v : Int) : (setNum h i v j).den = (h j).den := by
  unfold setNum; split <;> rfl
@[simp] theorem setDen_num (h : Heap) (i j : Nat) (v : Int) : (setDen h i v j).num = (h j).num := by
  unfold setDen; split <;> rfl
@[simp] theorem setNum_num_self (h : Heap) (i : Nat) (v : Int) : (setNum h i v i).num = v := by
  simp [setNum]
@[simp] theorem setDen_den_self (h : Heap) (i : Nat) (v : Int) : (setDen h i v i).den = v := by
  simp [setDen]
theorem setNum_num (h : Heap) (i j : Nat) (v : Int) :
    (setNum h i v j).num = if j = i then v else (h j).num := by
  unfold setNum; split <;> rfl
theorem setDen_den (h : Heap) (i j : Nat) (v : Int) :
    (setDen h i v j).den = if j = i then v else (h j).den := by
  unfold setDen; split <;> rfl

theorem setNum_eq_upd (h : Heap) (i : Nat) (x : Int) : setNum h i x = upd h i ⟨x, (h i).den⟩ := by
  funext j; unfold setNum upd; split <;> simp_all
theorem setDen_setNum (h : Heap) (i : Nat) (x y : Int) : setDen (setNum h i x) i y = upd h i ⟨x, y⟩ := by
  funext j; unfold setDen setNum upd; split <;> simp_all
theorem setNum_setDen (h : Heap) (i : Nat) (x y : Int) : setNum (setDen h i y) i x = upd h i ⟨x, y⟩ := by
  funext j; unfold setDen setNum upd; split <;> simp_all
theorem setNum_upd (h : Heap) (i : Nat) (q : Q) (x : Int) : setNum (upd h i q) i x = upd h i ⟨x, q.den⟩ := by
  funext j; unfold setNum upd; split <;> simp_all
theorem setDen_upd (h : Heap) (i : Nat) (q : Q) (y : Int) : setDen (upd h i q) i y = upd h i ⟨q.num, y⟩ := by
  funext j; unfold setDen upd; split <;> simp_all

/-- what every arithmetic function has to establish -/
theorem upd_spec {h : Heap} {i : Nat} {r : Q} {x : ℚ} (hr : r.toRat = x ∧ Canonical r) :
    (upd h i r i).toRat = x ∧ Canonical (upd h i r i) ∧ ∀ j, j ≠ i → upd h i r j = h j := by
  rw [upd_self]; exact ⟨hr.1, hr.2, fun j hj => upd_other h i j r hj⟩

theorem guarded_upd_spec {h : Heap} {i : Nat} {r : Q} {x : ℚ} {c : Prop} [Decidable c]
    (hr : ¬ c → r.toRat = x ∧ Canonical r) :
    (c → (if c then none else some (upd h i r)) = none) ∧
    (¬ c → ∃ h', (if c then none else some (upd h i r)) = some h' ∧
      (h' i).toRat = x ∧ Canonical (h' i) ∧ ∀ j, j ≠ i → h' j = h j) :=
  ⟨fun hc => if_pos hc, fun hc => ⟨_, if_neg hc, upd_spec (hr hc)⟩⟩

/-! ### gcd, coprimality, pairs in lowest terms -/

theorem canonical_iff (q : Q) : Canonical q ↔ 0 < q.den ∧ IsCoprime q.num q.den := by
  unfold Canonical; rw [Int.isCoprime_iff_gcd_eq_one]

theorem zgcd_nonneg (a b : ℤ) : 0 ≤ zgcd a b := by unfold zgcd; positivity

theorem zgcd_pos_of_right {a b : ℤ} (hb : b ≠ 0) : 0 < zgcd a b := by
  unfold zgcd; exact_mod_cast Int.gcd_pos_of_ne_zero_right a hb

theorem zgcd_pos_of_left {a b : ℤ} (ha : a ≠ 0) : 0 < zgcd a b := by
  unfold zgcd; exact_mod_cast Int.gcd_pos_of_ne_zero_left b ha

theorem zgcd_decomp {a b : ℤ} (h : 0 < zgcd a b) :
    ∃ x y, a = x * zgcd a b ∧ b = y * zgcd a b ∧ IsCoprime x y ∧
      divexact a (zgcd a b) = x ∧ divexact b (zgcd a b) = y := by
  unfold zgcd divexact at *
  have hp : 0 < Int.gcd a b := by exact_mod_cast h
  refine ⟨a / (Int.gcd a b : ℤ), b / (Int.gcd a b : ℤ), ?_, ?_, ?_, rfl, rfl⟩
  · exact (Int.ediv_mul_cancel (Int.gcd_dvd_left a b)).symm
  · exact (Int.ediv_mul_cancel (Int.gcd_dvd_right a b)).symm
  · exact Int.isCoprime_iff_gcd_eq_one.mpr (Int.gcd_div_gcd_div_gcd hp)

theorem divexact_mul_cancel {x g : ℤ} (hg : g ≠ 0) : divexact (x * g) g = x := by
  unfold divexact; exact Int.mul_ediv_cancel x hg

theorem zgcd_one_right (a : ℤ) : zgcd a 1 = 1 := by unfold zgcd; simp

theorem divexact_one (a : ℤ) : divexact a 1 = a := by unfold divexact; simp

theorem isCoprime_of_odd {r : ℤ} (h : r % 2 = 1) : IsCoprime (2 : ℤ) r :=
  ⟨-(r / 2), 1, by omega⟩

theorem toRat_eq_iff {a b : Q} (ha : a.den ≠ 0) (hb : b.den ≠ 0) :
    a.toRat = b.toRat ↔ a.num * b.den = b.num * a.den := by
  unfold Q.toRat
  have ha' : (a.den : ℚ) ≠ 0 := by exact_mod_cast ha
  have hb' : (b.den : ℚ) ≠ 0 := by exact_mod_cast hb
  rw [div_eq_div_iff ha' hb']
  exact_mod_cast Iff.rfl

theorem toRat_of_cross {r : Q} {S D : ℤ} (hD : D ≠ 0) (hr : r.den ≠ 0) (h : r.num * D = S * r.den) :
    r.toRat = (S : ℚ) / D :=
  (toRat_eq_iff (b := ⟨S, D⟩) hr hD).mpr h

/-- the common last step of the arithmetic functions -/
theorem canonical_of_cross {r : Q} {S D : ℤ} (hD : D ≠ 0) (hr : 0 < r.den) (hc : IsCoprime r.num r.den)
    (h : r.num * D = S * r.den) : r.toRat = (S : ℚ) / D ∧ Canonical r :=
  ⟨toRat_of_cross hD hr.ne' h, (canonical_iff r).mpr ⟨hr, hc⟩⟩

theorem neg_spec {n d : ℤ} {x : ℚ} (h : (⟨n, d⟩ : Q).toRat = x ∧ Canonical ⟨n, d⟩) :
    (⟨-n, d⟩ : Q).toRat = -x ∧ Canonical ⟨-n, d⟩ := by
  obtain ⟨hv, hc⟩ := h
  rw [canonical_iff] at hc ⊢
  refine ⟨?_, hc.1, hc.2.neg_left⟩
  rw [← hv]; unfold Q.toRat; push_cast; exact neg_div _ _

/-- a sign bit applied to the numerator (mpq_set_f, mpq_set_d) -/
theorem sgn_spec (neg : Bool) {n d : ℤ} {x : ℚ} (h : (⟨n, d⟩ : Q).toRat = x ∧ Canonical ⟨n, d⟩) :
    (⟨if neg then -n else n, d⟩ : Q).toRat = (if neg then -1 else 1) * x ∧
    Canonical ⟨if neg then -n else n, d⟩ := by
  cases neg
  · rw [if_neg Bool.false_ne_true, if_neg Bool.false_ne_true, one_mul]; exact h
  · rw [if_pos rfl, if_pos rfl, neg_one_mul]; exact neg_spec h

theorem int_spec (z : ℤ) : (⟨z, 1⟩ : Q).toRat = z ∧ Canonical ⟨z, 1⟩ :=
  ⟨by unfold Q.toRat; rw [Int.cast_one, div_one], one_pos, Int.gcd_one_right z⟩

/-- what mpq_set_si / mpq_set_ui store: `n / d` as given, except that `0 / d` becomes `0 / 1` -/
theorem pair_spec (n : ℤ) {d : ℤ} (hd : 0 < d) :
    (if n = 0 then (⟨0, 1⟩ : Q) else ⟨n, d⟩).toRat = (n : ℚ) / d ∧
    (Int.gcd n d = 1 → Canonical (if n = 0 then ⟨0, 1⟩ else ⟨n, d⟩)) := by
  split_ifs with h0
  · subst h0; exact ⟨by simp [Q.toRat], fun _ => (int_spec 0).2⟩
  · exact ⟨rfl, fun hc => ⟨hd, hc⟩⟩

/-- the sign move of div.c:65-69, inv.c:35-39 and canonicalize.c:49-53 -/
def signNorm (q : Q) : Q := if q.den < 0 then ⟨-q.num, -q.den⟩ else q

theorem signNorm_spec {q : Q} (h0 : q.den ≠ 0) (hc : IsCoprime q.num q.den) :
    (signNorm q).toRat = q.toRat ∧ Canonical (signNorm q) := by
  unfold signNorm
  split_ifs with hneg
  · refine ⟨?_, (canonical_iff _).mpr ⟨neg_pos.mpr hneg, hc.neg_neg⟩⟩
    unfold Q.toRat; push_cast; exact neg_div_neg_eq _ _
  · exact ⟨rfl, (canonical_iff q).mpr ⟨lt_of_le_of_ne (not_lt.mp hneg) h0.symm, hc⟩⟩

/-! ### mpq_add, mpq_sub (aors.c) -/

/-- the pair `mpq_aors` computes from the values of its two operands.  The two `gcd = 1` shortcuts of
    aors.c:69 and :80 are left out: they skip divisions by 1. -/
def aorsVal (sub : Bool) (a b : Q) : Q :=
  let f : Int → Int → Int := fun x y => if sub then x - y else x + y
  let gcd := zgcd a.den b.den
  let t := f (a.num * divexact b.den gcd) (b.num * divexact a.den gcd)
  ⟨divexact t (zgcd t gcd), divexact b.den (zgcd t gcd) * divexact a.den gcd⟩

theorem aors_eq (sub : Bool) (rop op1 op2 : Nat) (h : Heap) :
    aors sub rop op1 op2 h = upd h rop (aorsVal sub (h op1) (h op2)) := by
  unfold aors aorsVal
  cases sub
  all_goals
    simp only [Bool.false_eq_true, if_false, if_true, setNum_den, setDen_setNum]
    split_ifs with h1 h2
    · rw [h2, divexact_one, divexact_one]
    · rfl
    · rw [not_not.mp h1, zgcd_one_right, divexact_one, divexact_one, divexact_one,
        mul_comm (h op2).den]

/-- Henrici / Knuth 4.5.1 addition with the two gcds of mpq/aors.c -/
theorem aorsVal_add_spec {a b : Q} (ha : Canonical a) (hb : Canonical b) :
    (aorsVal false a b).toRat = a.toRat + b.toRat ∧ Canonical (aorsVal false a b) := by
  rw [canonical_iff] at ha hb
  obtain ⟨n1, d1⟩ := a; obtain ⟨n2, d2⟩ := b
  obtain ⟨hd1, c1⟩ := ha; obtain ⟨hd2, c2⟩ := hb
  simp only [] at hd1 c1 hd2 c2
  have x1 : (d1 : ℚ) ≠ 0 := by exact_mod_cast hd1.ne'
  have x2 : (d2 : ℚ) ≠ 0 := by exact_mod_cast hd2.ne'
  have hsum : (⟨n1, d1⟩ : Q).toRat + (⟨n2, d2⟩ : Q).toRat
      = ((n1 * d2 + d1 * n2 : ℤ) : ℚ) / ((d1 * d2 : ℤ) : ℚ) := by
    unfold Q.toRat; push_cast; exact div_add_div _ _ x1 x2
  rw [hsum]
  unfold aorsVal
  simp only [Bool.false_eq_true, if_false]
  -- d1 = a1 g, d2 = a2 g, t = n1 a2 + n2 a1 = t' g', g = g'' g'
  have hg : 0 < zgcd d1 d2 := zgcd_pos_of_right hd2.ne'
  obtain ⟨a1, a2, e1, e2, ca, q1, q2⟩ := zgcd_decomp hg
  rw [q1, q2]
  have hg' : 0 < zgcd (n1 * a2 + n2 * a1) (zgcd d1 d2) := zgcd_pos_of_right hg.ne'
  obtain ⟨t', g'', et, eg, ct, qt, -⟩ := zgcd_decomp hg'
  rw [qt]
  generalize zgcd (n1 * a2 + n2 * a1) (zgcd d1 d2) = g' at *
  generalize zgcd d1 d2 = g at *
  have hq2 : divexact d2 g' = a2 * g'' := by
    rw [e2, eg, ← mul_assoc]; exact divexact_mul_cancel hg'.ne'
  rw [hq2]
  have ha1 : 0 < a1 := (mul_pos_iff_of_pos_right hg).mp (e1 ▸ hd1)
  have ha2 : 0 < a2 := (mul_pos_iff_of_pos_right hg).mp (e2 ▸ hd2)
  have hg'' : 0 < g'' := (mul_pos_iff_of_pos_right hg').mp (eg ▸ hg)
  apply canonical_of_cross (mul_pos hd1 hd2).ne'
  · show 0 < a2 * g'' * a1
    positivity
  · show IsCoprime t' (a2 * g'' * a1)
    have cn1 : IsCoprime n1 a1 := by rw [e1] at c1; exact c1.of_mul_right_left
    have cn2 : IsCoprime n2 a2 := by rw [e2] at c2; exact c2.of_mul_right_left
    have ct1 : IsCoprime (n1 * a2 + n2 * a1) a1 :=
      IsCoprime.add_mul_right_left (IsCoprime.mul_left cn1 ca.symm) n2
    have ct2 : IsCoprime (n1 * a2 + n2 * a1) a2 := by
      rw [add_comm]; exact IsCoprime.add_mul_right_left (IsCoprime.mul_left cn2 ca) n1
    have dt : t' ∣ n1 * a2 + n2 * a1 := ⟨g', et⟩
    exact IsCoprime.mul_right (IsCoprime.mul_right (ct2.of_isCoprime_of_dvd_left dt) ct)
      (ct1.of_isCoprime_of_dvd_left dt)
  · show t' * (d1 * d2) = (n1 * d2 + d1 * n2) * (a2 * g'' * a1)
    rw [e1, e2]
    linear_combination (-(g'' * a1 * a2 * g)) * et + (t' * a1 * a2 * g) * eg

theorem aorsVal_sub_eq (a b : Q) : aorsVal true a b = aorsVal false a ⟨-b.num, b.den⟩ := by
  unfold aorsVal
  simp only [Bool.false_eq_true, if_false, if_true, neg_mul, sub_eq_add_neg]

theorem aorsVal_spec (sub : Bool) {a b : Q} (ha : Canonical a) (hb : Canonical b) :
    (aorsVal sub a b).toRat = (if sub then a.toRat - b.toRat else a.toRat + b.toRat) ∧
    Canonical (aorsVal sub a b) := by
  cases sub
  · exact aorsVal_add_spec ha hb
  · obtain ⟨hv, hc⟩ := neg_spec (n := b.num) (d := b.den) ⟨rfl, hb⟩
    rw [aorsVal_sub_eq, if_pos rfl, sub_eq_add_neg, ← hv]
    exact aorsVal_add_spec ha hc

/-! ### mpq_mul, mpq_div, mpq_inv -/

def mulVal (same : Bool) (a b : Q) : Q :=
  if same then ⟨a.num * a.num, a.den * a.den⟩
  else
    let gcd1 := zgcd a.num b.den
    let gcd2 := zgcd b.num a.den
    ⟨divexact a.num gcd1 * divexact b.num gcd2, divexact b.den gcd1 * divexact a.den gcd2⟩

theorem mul_eq (prod op1 op2 : Nat) (h : Heap) :
    mul prod op1 op2 h = upd h prod (mulVal (op1 = op2) (h op1) (h op2)) := by
  unfold mul mulVal
  simp only [setNum_den, setDen_setNum]
  split_ifs <;> simp_all

/-- cross-cancellation of mpq/mul.c:51-62.  The sign of the denominators is left open so that mpq_div can use
    it on `a` and `den b / num b`. -/
theorem mulVal_reduced {a b : Q} (ha : a.den ≠ 0) (ca : IsCoprime a.num a.den)
    (hb : b.den ≠ 0) (cb : IsCoprime b.num b.den) :
    (mulVal false a b).toRat = a.toRat * b.toRat ∧
    IsCoprime (mulVal false a b).num (mulVal false a b).den ∧ (mulVal false a b).den ≠ 0 ∧
    (0 < a.den → 0 < b.den → 0 < (mulVal false a b).den) := by
  obtain ⟨n1, d1⟩ := a; obtain ⟨n2, d2⟩ := b
  simp only [] at ha ca hb cb
  unfold mulVal
  simp only [Bool.false_eq_true, if_false]
  have hg1 : 0 < zgcd n1 d2 := zgcd_pos_of_right hb
  have hg2 : 0 < zgcd n2 d1 := zgcd_pos_of_right ha
  obtain ⟨x, y, ex, ey, cxy, qx, qy⟩ := zgcd_decomp hg1
  obtain ⟨u, w, eu, ew, cuw, qu, qw⟩ := zgcd_decomp hg2
  rw [qx, qy, qu, qw]
  generalize zgcd n1 d2 = g1 at *
  generalize zgcd n2 d1 = g2 at *
  subst ex ey eu ew
  have hy : y ≠ 0 := left_ne_zero_of_mul hb
  have hw : w ≠ 0 := left_ne_zero_of_mul ha
  refine ⟨?_, ?_, mul_ne_zero hy hw, fun p1 p2 => ?_⟩
  · rw [toRat_of_cross (r := ⟨x * u, y * w⟩) (S := x * g1 * (u * g2)) (D := w * g2 * (y * g1))
      (mul_ne_zero ha hb) (mul_ne_zero hy hw) (by show x * u * (w * g2 * (y * g1)) = _; ring)]
    unfold Q.toRat; push_cast; exact (div_mul_div_comm _ _ _ _).symm
  · have cxw : IsCoprime x w := (ca.of_mul_left_left).of_mul_right_left
    have cuy : IsCoprime u y := (cb.of_mul_left_left).of_mul_right_left
    exact IsCoprime.mul_left (IsCoprime.mul_right cxy cxw) (IsCoprime.mul_right cuy cuw)
  · exact mul_pos ((mul_pos_iff_of_pos_right hg1).mp p2) ((mul_pos_iff_of_pos_right hg2).mp p1)

/-- the product for both paths of mul.c: `same` (the squaring shortcut :33-39) may only be set for
    equal operands -/
theorem mulVal_spec (same : Bool) {a b : Q} (ha : Canonical a) (hb : Canonical b)
    (hs : same = true → a = b) :
    (mulVal same a b).toRat = a.toRat * b.toRat ∧ Canonical (mulVal same a b) := by
  rw [canonical_iff] at ha hb
  cases same
  · obtain ⟨v, c, -, p⟩ := mulVal_reduced ha.1.ne' ha.2 hb.1.ne' hb.2
    exact ⟨v, (canonical_iff _).mpr ⟨p ha.1 hb.1, c⟩⟩
  · rw [← hs rfl]
    refine ⟨?_, (canonical_iff _).mpr ⟨mul_pos ha.1 ha.1, ?_⟩⟩
    · show (⟨a.num * a.num, a.den * a.den⟩ : Q).toRat = _
      unfold Q.toRat; push_cast; exact (div_mul_div_comm _ _ _ _).symm
    · exact IsCoprime.mul_left (IsCoprime.mul_right ha.2 ha.2) (IsCoprime.mul_right ha.2 ha.2)

def divVal (a b : Q) : Q := signNorm (mulVal false a ⟨b.den, b.num⟩)

theorem div_eq (quot op1 op2 : Nat) (h : Heap) :
    div quot op1 op2 h = if (h op2).num = 0 then none else some (upd h quot (divVal (h op1) (h op2))) := by
  unfold div divVal signNorm mulVal
  simp only [Bool.false_eq_true, if_false, setNum_setDen, upd_self, setDen_upd, setNum_upd]
  split_ifs <;> rfl

theorem toRat_swap (n d : ℤ) : (⟨d, n⟩ : Q).toRat = ((⟨n, d⟩ : Q).toRat)⁻¹ := (inv_div _ _).symm

theorem divVal_spec {a b : Q} (ha : Canonical a) (hb : Canonical b) (hb0 : b.num ≠ 0) :
    (divVal a b).toRat = a.toRat / b.toRat ∧ Canonical (divVal a b) := by
  rw [canonical_iff] at ha hb
  obtain ⟨v, c, h0, -⟩ := mulVal_reduced (b := ⟨b.den, b.num⟩) ha.1.ne' ha.2 hb0 hb.2.symm
  rw [div_eq_mul_inv, ← toRat_swap, ← v]
  exact signNorm_spec h0 c

def invVal (a : Q) : Q := signNorm ⟨a.den, a.num⟩

theorem inv_eq (dest src : Nat) (h : Heap) :
    inv dest src h = if (h src).num = 0 then none else some (upd h dest (invVal (h src))) := by
  unfold inv invVal signNorm
  have hs : ∀ x : ℤ, x.sign * (x.natAbs : ℤ) = x := Int.sign_mul_natAbs
  have hs' : ∀ x : ℤ, -x.sign * (x.natAbs : ℤ) = -x := fun x => by rw [neg_mul, hs]
  simp only [Int.sign_eq_zero_iff_zero, Int.sign_neg_iff]
  by_cases h0 : (h src).num = 0
  · rw [if_pos h0, if_pos h0]
  · rw [if_neg h0, if_neg h0]
    by_cases hd : dest = src
    · subst hd
      simp only [↓reduceIte]
      split_ifs <;> simp only [hs, hs', setDen_setNum]
    · have hd' : ¬ src = dest := fun e => hd e.symm
      simp only [hd, ↓reduceIte]
      split_ifs <;> simp only [hd', if_false, hs, hs', setDen_setNum, setNum_num]

theorem invVal_spec {a : Q} (ha : Canonical a) (h0 : a.num ≠ 0) :
    (invVal a).toRat = (a.toRat)⁻¹ ∧ Canonical (invVal a) := by
  rw [canonical_iff] at ha
  rw [← toRat_swap]
  exact signNorm_spec h0 ha.2.symm

/-! ### mpq_neg, mpq_abs, the setters, mpq_swap -/

theorem neg_eq (dst src : Nat) (h : Heap) :
    neg dst src h = upd h dst ⟨-(h src).num, (h src).den⟩ := by
  unfold neg
  by_cases hd : src = dst
  · subst hd; simp only [ne_eq, not_true_eq_false, if_false, setNum_eq_upd]
  · simp only [ne_eq, hd, not_false_eq_true, if_true, setNum_setDen]

theorem abs_eq (dst src : Nat) (h : Heap) :
    Mpq.abs dst src h = upd h dst ⟨|(h src).num|, (h src).den⟩ := by
  unfold Mpq.abs
  simp only [Int.natCast_natAbs]
  by_cases hd : dst = src
  · subst hd; simp only [ne_eq, not_true_eq_false, if_false, setNum_eq_upd]
  · simp only [ne_eq, hd, not_false_eq_true, if_true, setNum_setDen]

theorem set_eq (dest src : Nat) (h : Heap) : set dest src h = upd h dest (h src) := by
  unfold set; simp [setDen_setNum]

theorem set_z_eq (dest : Nat) (z : Int) (h : Heap) : set_z dest z h = upd h dest ⟨z, 1⟩ := by
  unfold set_z; simp [setDen_setNum]

theorem set_si_eq (dest : Nat) (n : Int) (d : Nat) (h : Heap) :
    set_si dest n d h = upd h dest (if n = 0 then ⟨0, 1⟩ else ⟨n, d⟩) := by
  unfold set_si; split_ifs <;> simp [setDen_setNum]

theorem set_ui_eq (dest : Nat) (n d : Nat) (h : Heap) :
    set_ui dest n d h = upd h dest (if (n : ℤ) = 0 then ⟨0, 1⟩ else ⟨n, d⟩) := by
  unfold set_ui; simp only [Int.natCast_eq_zero]; split_ifs <;> simp [setDen_setNum]

theorem swap_eq (u v : Nat) (h : Heap) :
    swap u v h = fun j => if j = u then h v else if j = v then h u else h j := by
  unfold swap
  funext j
  rcases eq_or_ne u v with rfl | h3
  · by_cases h1 : j = u <;> simp_all [setNum, setDen]
  · have h3' : v ≠ u := h3.symm
    by_cases h1 : j = u <;> by_cases h2 : j = v <;> simp_all [setNum, setDen]

/-! ### mpq_canonicalize -/

/-- the pair `mpq_canonicalize` computes; the `gcd = 1` shortcut of canonicalize.c:43 is left out -/
def canonVal (a : Q) : Q :=
  signNorm ⟨divexact a.num (zgcd a.num a.den), divexact a.den (zgcd a.num a.den)⟩

theorem canonicalize_eq (op : Nat) (h : Heap) :
    canonicalize op h = if (h op).den = 0 then none else some (upd h op (canonVal (h op))) := by
  unfold canonicalize canonVal signNorm
  have hid : upd h op (h op) = h := by funext j; unfold upd; split <;> simp_all
  by_cases h0 : (h op).den = 0
  · rw [if_pos h0, if_pos h0]
  · simp only [h0, if_false, setNum_den, setDen_setNum]
    by_cases hg : zgcd (h op).num (h op).den = 1
    · simp only [hg, ne_eq, not_true_eq_false, if_false, divexact_one]
      split_ifs
      · rfl
      · rw [hid]
    · simp only [hg, ne_eq, not_false_eq_true, if_true, upd_self, upd_upd]
      split_ifs <;> rfl

theorem canonVal_spec {a : Q} (h0 : a.den ≠ 0) :
    (canonVal a).toRat = a.toRat ∧ Canonical (canonVal a) := by
  obtain ⟨x, y, ex, ey, cxy, qx, qy⟩ := zgcd_decomp (zgcd_pos_of_right (a := a.num) h0)
  unfold canonVal
  rw [qx, qy]
  have hy : y ≠ 0 := fun e => h0 (by rw [ey, e, zero_mul])
  have hv : (⟨x, y⟩ : Q).toRat = a.toRat := by
    rw [toRat_eq_iff hy h0]
    show x * a.den = a.num * y
    conv_lhs => rw [ey]
    conv_rhs => rw [ex]
    ring
  rw [← hv]
  exact signNorm_spec hy cxy

/-! ### uniqueness of the canonical form (mpq_equal) -/

theorem canonical_unique {a b : Q} (ha : Canonical a) (hb : Canonical b)
    (h : a.num * b.den = b.num * a.den) : a = b := by
  rw [canonical_iff] at ha hb
  obtain ⟨hd1, c1⟩ := ha; obtain ⟨hd2, c2⟩ := hb
  have d12 : a.den ∣ b.den := c1.symm.dvd_of_dvd_mul_left ⟨b.num, by rw [h]; ring⟩
  have d21 : b.den ∣ a.den := c2.symm.dvd_of_dvd_mul_left ⟨a.num, by rw [← h]; ring⟩
  have hden : a.den = b.den := Int.dvd_antisymm hd1.le hd2.le d12 d21
  have hnum : a.num = b.num := by
    rw [hden] at h; exact mul_right_cancel₀ hd2.ne' h
  cases a; cases b; simp_all

theorem equal_eq (op1 op2 : Nat) (h : Heap) :
    equal op1 op2 h = if h op1 = h op2 then 1 else 0 := by
  unfold equal
  by_cases e : h op1 = h op2
  · simp [e]
  · have : ¬ ((h op1).num = (h op2).num ∧ (h op1).den = (h op2).den) := fun ⟨e1, e2⟩ => e (by
      cases hx : h op1; cases hy : h op2; simp_all)
    rw [if_neg e]
    split_ifs with h1 h2
    · rfl
    · rfl
    · exact absurd ⟨not_not.mp h1, not_not.mp h2⟩ this

/-! ### mpq_mul_2exp, mpq_div_2exp (md_2exp.c) -/

theorem ctz_isCtz : IsCtz (fun _ => True) ctz :=
  isCtz_of_halving_eq ctz fun x hx => by rw [ctz, dif_neg (by omega), Nat.add_comm]

theorem ctz_spec (x : Nat) (hx : x ≠ 0) : ∃ k, x = 2 ^ ctz x * (2 * k + 1) := by
  obtain ⟨hd, ho⟩ := ctz_isCtz x (Nat.pos_of_ne_zero hx) trivial
  exact ⟨x / 2 ^ ctz x / 2, by rw [show 2 * (x / 2 ^ ctz x / 2) + 1 = x / 2 ^ ctz x by omega, Nat.mul_div_cancel' hd]⟩

theorem low_limb_ctz {m : Nat} (hz : m % B ≠ 0) :
    ∃ o, m = 2 ^ ctz (m % B) * o ∧ o % 2 = 1 ∧ ctz (m % B) < 64 := by
  have hm : 0 < m := Nat.pos_of_ne_zero fun e => hz (by rw [e, Nat.zero_mod])
  have e : ctz (m % B) = ctz m := ctz_isCtz.low (n := 64) hz trivial trivial
  have hlt : ctz (m % B) < 64 := ctz_isCtz.lt_of_lt_pow (Nat.pos_of_ne_zero hz) trivial (Nat.mod_lt _ B_pos)
  rw [e] at hlt ⊢
  exact ⟨m / 2 ^ ctz m, (ctz_isCtz.mul_div hm trivial).symm, (ctz_isCtz m hm trivial).2, hlt⟩

theorem skipLimbs_spec (m n : Nat) :
    (skipLimbs m n).2 ≤ n ∧ (skipLimbs m n).1 * 2 ^ (n - (skipLimbs m n).2) = m ∧
    ¬ ((skipLimbs m n).2 ≥ 64 ∧ (skipLimbs m n).1 % B = 0) := by
  induction n using Nat.strong_induction_on generalizing m with
  | _ n ih =>
    rw [skipLimbs]
    split_ifs with hc
    · obtain ⟨i1, i2, i3⟩ := ih (n - 64) (by omega) (m / B)
      refine ⟨by omega, ?_, i3⟩
      generalize (skipLimbs (m / B) (n - 64)).1 = m' at *
      generalize (skipLimbs (m / B) (n - 64)).2 = n' at *
      have : n - n' = (n - 64 - n') + 64 := by omega
      rw [this, pow_add, ← mul_assoc, i2, ← B_eq_pow, Nat.div_mul_cancel (Nat.dvd_of_mod_eq_zero hc.2)]
    · exact ⟨le_refl _, by simp, hc⟩

/-- what every branch of `mordR` returns (`m1`, `n1`: magnitude and bits left after the limb skip) -/
theorem shifted_spec {r : ℤ} {m1 n1 n s : ℕ} (h1 : n1 ≤ n) (h2 : m1 * 2 ^ (n - n1) = r.natAbs)
    (hs : s ≤ n1) (hd : 2 ^ s ∣ m1) (ho : n1 - s = 0 ∨ m1 / 2 ^ s % 2 = 1) :
    n1 - s ≤ n ∧
    (if r ≥ 0 then ((m1 / 2 ^ s : ℕ) : ℤ) else -((m1 / 2 ^ s : ℕ) : ℤ)) * 2 ^ (n - (n1 - s)) = r ∧
    (n1 - s = 0 ∨ (if r ≥ 0 then ((m1 / 2 ^ s : ℕ) : ℤ) else -((m1 / 2 ^ s : ℕ) : ℤ)) % 2 = 1) := by
  obtain ⟨q, rfl⟩ := hd
  rw [Nat.mul_div_cancel_left q (by positivity)] at ho ⊢
  have hq : (q : ℤ) * 2 ^ (n - (n1 - s)) = r.natAbs := by
    rw [show n - (n1 - s) = s + (n - n1) by omega, pow_add, ← h2]; push_cast; ring
  refine ⟨by omega, ?_, ho.imp id fun h => ?_⟩
  · split_ifs with hr
    · rw [hq, Int.natAbs_of_nonneg hr]
    · rw [neg_mul, hq, Int.ofNat_natAbs_of_nonpos (le_of_not_ge hr), neg_neg]
  · have h' : (q : ℤ) % 2 = 1 := by exact_mod_cast h
    split_ifs
    · exact h'
    · rw [Int.neg_emod_two]; exact h'

theorem mordR_spec (r : Int) (n : Nat) :
    (mordR r n).2 ≤ n ∧ (mordR r n).1 * 2 ^ (n - (mordR r n).2) = r ∧
    ((mordR r n).2 = 0 ∨ (mordR r n).1 % 2 = 1) := by
  have hs := skipLimbs_spec r.natAbs n
  unfold mordR
  generalize skipLimbs r.natAbs n = p at hs ⊢
  obtain ⟨m1, n1⟩ := p
  obtain ⟨s1, s2, s3⟩ := hs
  simp only [] at s1 s2 s3 ⊢
  by_cases hA : m1 % B % 2 = 1 ∨ n1 = 0
  · -- no shift
    rw [if_pos hA]
    have hmod : m1 % B % 2 = m1 % 2 := Nat.mod_mod_of_dvd m1 ⟨2 ^ 63, by rw [B_eq_pow]; norm_num⟩
    have := shifted_spec (s := 0) s1 s2 (Nat.zero_le _) (one_dvd _)
      (by rw [pow_zero, Nat.div_one, Nat.sub_zero, ← hmod]; exact hA.symm)
    simpa only [pow_zero, Nat.div_one, Nat.sub_zero] using this
  rw [if_neg hA]
  by_cases hz : m1 % B = 0
  · -- low limb zero: fewer than 64 bits are left, all of them are shifted out
    simp only [hz, if_true]
    have hn1 : n1 < 64 := by
      by_contra hge; exact s3 ⟨by omega, hz⟩
    exact shifted_spec s1 s2 le_rfl
      ((Nat.pow_dvd_pow 2 hn1.le).trans (Nat.dvd_of_mod_eq_zero hz)) (Or.inl (Nat.sub_self _))
  · -- low limb non-zero: shift by its trailing zeros, or by all that is left
    simp only [hz, if_false]
    obtain ⟨o, ho, hodd, -⟩ := low_limb_ctz hz
    generalize ctz (m1 % B) = c at *
    refine shifted_spec s1 s2 (min_le_right _ _) ?_ ?_
    · rw [ho]; exact Dvd.dvd.mul_right (Nat.pow_dvd_pow 2 (min_le_left _ _)) o
    · rcases Nat.le_total c n1 with hcn | hcn
      · right; rw [min_eq_left hcn, ho, Nat.mul_div_cancel_left o (by positivity)]; exact hodd
      · left; rw [min_eq_right hcn]; exact Nat.sub_self _

/-- the arithmetic common to mpq_mul_2exp (`x / y` the operand) and mpq_div_2exp (`y / x`) -/
theorem mordR_coprime {x y : ℤ} (c : IsCoprime x y) (n : ℕ) :
    IsCoprime (x * 2 ^ (mordR y n).2) (mordR y n).1 ∧
    x * 2 ^ (mordR y n).2 * y = x * 2 ^ n * (mordR y n).1 := by
  obtain ⟨s1, s2, s3⟩ := mordR_spec y n
  generalize (mordR y n).1 = r at *
  generalize (mordR y n).2 = n' at *
  constructor
  · refine IsCoprime.mul_left (c.of_isCoprime_of_dvd_right ⟨2 ^ (n - n'), s2.symm⟩) ?_
    rcases s3 with h | h
    · subst h; simpa using isCoprime_one_left
    · exact (isCoprime_of_odd h).pow_left
  · have e : (2 : ℤ) ^ n = 2 ^ n' * 2 ^ (n - n') := by rw [← pow_add]; congr 1; omega
    rw [e, ← s2]; ring

def mul2expVal (a : Q) (n : Nat) : Q := ⟨a.num * 2 ^ (mordR a.den n).2, (mordR a.den n).1⟩

def div2expVal (a : Q) (n : Nat) : Q :=
  if a.num = 0 then ⟨0, 1⟩ else ⟨(mordR a.num n).1, a.den * 2 ^ (mordR a.num n).2⟩

theorem mul_2exp_eq (dst src n : Nat) (h : Heap) :
    mul_2exp dst src n h = upd h dst (mul2expVal (h src) n) := by
  unfold mul_2exp mord_2exp mul2expVal
  rcases mordR (h src).den n with ⟨r, n'⟩
  simp only [setDen_num, setNum_setDen]
  split_ifs with h0
  · rfl
  · rw [not_not.mp h0, pow_zero, mul_one]

theorem div_2exp_eq (dst src n : Nat) (h : Heap) :
    div_2exp dst src n h = upd h dst (div2expVal (h src) n) := by
  unfold div_2exp mord_2exp div2expVal
  split_ifs with hz
  · rw [setDen_setNum]
  · rcases mordR (h src).num n with ⟨r, n'⟩
    simp only [setNum_den, setDen_setNum]
    split_ifs with h0
    · rfl
    · rw [not_not.mp h0, pow_zero, mul_one]

theorem mul2expVal_spec {a : Q} (ha : Canonical a) (n : Nat) :
    (mul2expVal a n).toRat = a.toRat * 2 ^ n ∧ Canonical (mul2expVal a n) := by
  rw [canonical_iff] at ha
  obtain ⟨c, hx⟩ := mordR_coprime ha.2 n
  obtain ⟨-, s2, -⟩ := mordR_spec a.den n
  have hr : 0 < (mordR a.den n).1 :=
    (mul_pos_iff_of_pos_right (by positivity)).mp (lt_of_lt_of_eq ha.1 s2.symm)
  have hv : a.toRat * 2 ^ n = ((a.num * 2 ^ n : ℤ) : ℚ) / (a.den : ℚ) := by
    unfold Q.toRat; push_cast; exact div_mul_eq_mul_div _ _ _
  rw [hv]
  exact canonical_of_cross (r := mul2expVal a n) ha.1.ne' hr c hx

theorem div2expVal_spec {a : Q} (ha : Canonical a) (n : Nat) :
    (div2expVal a n).toRat = a.toRat / 2 ^ n ∧ Canonical (div2expVal a n) := by
  rw [canonical_iff] at ha
  have hv : a.toRat / 2 ^ n = ((a.num : ℤ) : ℚ) / ((a.den * 2 ^ n : ℤ) : ℚ) := by
    unfold Q.toRat; push_cast; exact div_div _ _ _
  rw [hv]
  have hD : 0 < a.den * 2 ^ n := by have := ha.1; positivity
  unfold div2expVal
  split_ifs with hz
  · exact canonical_of_cross (r := ⟨0, 1⟩) hD.ne' one_pos isCoprime_one_right
      (by rw [hz, mul_one, zero_mul])
  · obtain ⟨c, hx⟩ := mordR_coprime ha.2.symm n
    refine canonical_of_cross hD.ne' (by have := ha.1; positivity) c.symm ?_
    show (mordR a.num n).1 * (a.den * 2 ^ n) = a.num * (a.den * 2 ^ (mordR a.num n).2)
    linear_combination -hx

/-! ### limb and bit counts (mpq_cmp pre-checks) -/

theorem bits_zero : bits 0 = 0 := by simp [bits]
theorem limbs_isSize : IsSize limbs := limbCount_bits_le_iff

theorem bits_pos {x : Nat} (hx : x ≠ 0) : 1 ≤ bits x := (bitCount_bounds hx).2.2

theorem bits_lb {x : Nat} (hx : x ≠ 0) : 2 ^ (bits x - 1) ≤ x := (bitCount_bounds hx).1

theorem bits_ub (x : Nat) : x < 2 ^ bits x := (bitCount_le_iff x (bits x)).mp (le_refl (bits x))

theorem bits_le_limbs (x : Nat) : bits x ≤ 64 * limbs x := by unfold limbs; omega

/-- count comparison => product comparison, for base `b` (2 for bit counts, B for limb counts) -/
theorem prod_lt_of_counts {b U V X Y r s p q : Nat} (hb : 0 < b)
    (hU : U < b ^ r) (hV : V ≤ b ^ s) (hX : b ^ (p - 1) ≤ X) (hY : b ^ (q - 1) ≤ Y)
    (hp : 1 ≤ p) (hq : 1 ≤ q) (h : r + s + 2 ≤ p + q) : U * V < X * Y :=
  mul_lt_mul_of_pow_bounds hb hU hV hX hY (by omega)

/-- the size pre-checks of cmp.c:82-87 and :102-105 for a count `cnt` in base `b` (`limbs` in base `B`,
    `bits` in base 2).  `i` is `op2_is_int`: it sharpens the test by one when the factor `V` is 1. -/
theorem count_lt {b : ℕ} {cnt : ℕ → ℕ} (hb : 0 < b) (ub : ∀ x, x < b ^ cnt x)
    (lb : ∀ x, x ≠ 0 → b ^ (cnt x - 1) ≤ x) (pos : ∀ x, x ≠ 0 → 1 ≤ cnt x) (one : cnt 1 = 1)
    {U V X Y : ℕ} {i : ℤ} (hX : X ≠ 0) (hY : Y ≠ 0) (hi : i = 0 ∨ (i = 1 ∧ V = 1))
    (h : (cnt U : ℤ) + cnt V + 1 < cnt X + cnt Y + i) : U * V < X * Y := by
  rcases hi with rfl | ⟨rfl, rfl⟩
  · exact prod_lt_of_counts hb (ub U) (ub V).le (lb X hX) (lb Y hY) (pos X hX) (pos Y hY) (by omega)
  · exact prod_lt_of_counts (s := 0) hb (ub U) (by simp) (lb X hX) (lb Y hY) (pos X hX) (pos Y hY)
      (by omega)

theorem limbs_count_lt {U V X Y : ℕ} {i : ℤ} (hX : X ≠ 0) (hY : Y ≠ 0) (hi : i = 0 ∨ (i = 1 ∧ V = 1))
    (h : (limbs U : ℤ) + limbs V + 1 < limbs X + limbs Y + i) : U * V < X * Y :=
  count_lt B_pos limbs_isSize.lt_pow (fun _ => limbs_isSize.pow_le) (fun _ => limbs_isSize.pos) (by decide) hX hY hi h

theorem bits_count_lt {U V X Y : ℕ} {i : ℤ} (hX : X ≠ 0) (hY : Y ≠ 0) (hi : i = 0 ∨ (i = 1 ∧ V = 1))
    (h : (bits U : ℤ) + bits V + 1 < bits X + bits Y + i) : U * V < X * Y :=
  count_lt (by norm_num) bits_ub (fun _ => bits_lb) (fun _ => bits_pos) (by decide) hX hY hi h

theorem size_eq_zero {z : ℤ} : size z = 0 ↔ z = 0 := by
  unfold size
  split_ifs with h
  · have : limbs z.natAbs ≠ 0 := by rw [Ne, limbs_isSize.eq_zero]; omega
    constructor <;> intro h' <;> omega
  · rw [show ((limbs z.natAbs : ℕ) : ℤ) = 0 ↔ limbs z.natAbs = 0 by omega, limbs_isSize.eq_zero]; omega

theorem size_neg_iff {z : ℤ} : size z < 0 ↔ z < 0 := by
  unfold size
  split_ifs with h
  · have : limbs z.natAbs ≠ 0 := by rw [Ne, limbs_isSize.eq_zero]; omega
    constructor <;> intro _ <;> omega
  · constructor <;> intro h' <;> omega

theorem size_natAbs (z : ℤ) : (size z).natAbs = limbs z.natAbs := by
  unfold size; split_ifs <;> omega

theorem size_of_pos {z : ℤ} (h : 0 < z) : size z = (limbs z.natAbs : ℕ) := by
  unfold size; rw [if_neg (by omega)]

theorem size_of_neg {z : ℤ} (h : z < 0) : size z = -((limbs z.natAbs : ℕ) : ℤ) := by
  unfold size; rw [if_pos h]

theorem sign_size (z : ℤ) : Int.sign (size z) = Int.sign z := by
  rcases lt_trichotomy z 0 with h | h | h
  · rw [Int.sign_eq_neg_one_of_neg (size_neg_iff.mpr h), Int.sign_eq_neg_one_of_neg h]
  · subst h; rw [size_eq_zero.mpr rfl]
  · have h2 : ¬ size z < 0 := fun hh => by have := size_neg_iff.mp hh; omega
    have h3 : size z ≠ 0 := fun hh => by have := size_eq_zero.mp hh; omega
    rw [Int.sign_eq_one_of_pos (by omega), Int.sign_eq_one_of_pos h]

/-- cmp.c:94-100: limb counts times 64 less the leading zeros of the top limbs are the bit counts -/
theorem bits_sum (x y : Nat) :
    (((limbs x : ℕ) : ℤ) + ((limbs y : ℕ) : ℤ)) * 64 - ((clzTop x : ℕ) : ℤ) - ((clzTop y : ℕ) : ℤ)
      = (bits x : ℤ) + (bits y : ℤ) := by
  unfold clzTop; have := bits_le_limbs x; have := bits_le_limbs y; omega

theorem sign_sub_of_lt {a b : ℕ} (h : b < a) : Int.sign ((a : ℤ) - (b : ℤ)) = 1 :=
  Int.sign_eq_one_of_pos (sub_pos.mpr (Int.ofNat_lt.mpr h))

theorem sign_sub_of_gt {a b : ℕ} (h : a < b) : Int.sign ((a : ℤ) - (b : ℤ)) = -1 :=
  Int.sign_eq_neg_one_of_neg (sub_neg.mpr (Int.ofNat_lt.mpr h))

theorem sign_cmpNat (a b : Nat) : Int.sign (cmpNat a b) = Int.sign ((a : ℤ) - (b : ℤ)) := by
  unfold cmpNat
  split_ifs with h1 h2
  · rw [sign_sub_of_gt h1]; rfl
  · rw [sign_sub_of_lt h2]; rfl
  · rw [Nat.le_antisymm (not_lt.mp h2) (not_lt.mp h1), sub_self]

/-! ### mpq_cmp, mpq_cmp_ui, mpq_cmp_si -/

theorem sign_limb_diff {x y : Nat} (h : (limbs x : ℤ) - (limbs y : ℤ) ≠ 0) :
    Int.sign ((limbs x : ℤ) - (limbs y : ℤ)) = Int.sign ((x : ℤ) - (y : ℤ)) := by
  rcases lt_trichotomy (limbs x) (limbs y) with h1 | h1 | h1
  · rw [sign_sub_of_gt h1, sign_sub_of_gt (limbs_isSize.lt_of_lt h1)]
  · rw [h1, sub_self] at h; exact absurd rfl h
  · rw [sign_sub_of_lt h1, sign_sub_of_lt (limbs_isSize.lt_of_lt h1)]

/-- the final comparison of cmp.c:141-142 and cmp_ui.c:88-89: limb counts first, then `mpn_cmp` -/
theorem sign_cmpSized (x y : Nat) :
    Int.sign (if ((limbs x : ℕ) : ℤ) - ((limbs y : ℕ) : ℤ) ≠ 0 then ((limbs x : ℕ) : ℤ) - ((limbs y : ℕ) : ℤ)
      else cmpNat x y) = Int.sign ((x : ℤ) - (y : ℤ)) := by
  split_ifs with h
  · exact sign_limb_diff h
  · exact sign_cmpNat x y

/-- one test of a cascade of early returns (`split_ifs` on the whole cascade is slow to check) -/
theorem sign_ite_eq {c : Prop} [Decidable c] {a b t : ℤ} (ha : c → Int.sign a = t)
    (hb : ¬ c → Int.sign b = t) : Int.sign (if c then a else b) = t := by
  by_cases h : c
  · rw [if_pos h]; exact ha h
  · rw [if_neg h]; exact hb h

theorem sign_ite_neg {s : ℤ} (hs : s ≠ 0) (c : ℤ) :
    Int.sign (if s < 0 then -c else c) = Int.sign s * Int.sign c := by
  split_ifs with h
  · rw [Int.sign_neg, Int.sign_eq_neg_one_of_neg h, neg_one_mul]
  · rw [Int.sign_eq_one_of_pos (a := s) (by omega), one_mul]

theorem cmpCross_sign (s : ℤ) (hs : s ≠ 0) (n1 d1 n2 d2 : Nat) :
    Int.sign (cmpCross s n1 d1 n2 d2) = Int.sign s * Int.sign (((n1 * d2 : ℕ) : ℤ) - ((n2 * d1 : ℕ) : ℤ)) := by
  unfold cmpCross
  simp only []
  rw [sign_ite_neg hs, sign_cmpSized]

theorem cmpPre_sign (s : ℤ) (hs : s ≠ 0) (n1 d1 n2 d2 : Nat) (i : ℤ)
    (hn1 : n1 ≠ 0) (hd1 : d1 ≠ 0) (hn2 : n2 ≠ 0) (hd2 : d2 ≠ 0)
    (hi : (i = 0) ∨ (i = 1 ∧ d2 = 1)) :
    Int.sign (cmpPre s n1 d1 n2 d2 i) = Int.sign s * Int.sign (((n1 * d2 : ℕ) : ℤ) - ((n2 * d1 : ℕ) : ℤ)) := by
  have gt_case (h : n2 * d1 < n1 * d2) :
      Int.sign s = Int.sign s * Int.sign (((n1 * d2 : ℕ) : ℤ) - ((n2 * d1 : ℕ) : ℤ)) := by
    rw [sign_sub_of_lt h, mul_one]
  have lt_case (h : n1 * d2 < n2 * d1) :
      Int.sign (-s) = Int.sign s * Int.sign (((n1 * d2 : ℕ) : ℤ) - ((n2 * d1 : ℕ) : ℤ)) := by
    rw [Int.sign_neg, sign_sub_of_gt h, mul_neg_one]
  unfold cmpPre
  simp only [bits_sum]
  refine sign_ite_eq (fun c1 => gt_case (limbs_count_lt (i := 0) hn1 hd2 (Or.inl rfl)
    (by rw [add_zero]; exact c1))) fun _ => ?_
  refine sign_ite_eq (fun c2 => lt_case (limbs_count_lt hn2 hd1 hi c2)) fun _ => ?_
  refine sign_ite_eq (fun c3 => gt_case (bits_count_lt (i := 0) hn1 hd2 (Or.inl rfl)
    (by rw [add_zero]; exact c3))) fun _ => ?_
  refine sign_ite_eq (fun c4 => lt_case (bits_count_lt hn2 hd1 hi c4)) fun _ => ?_
  exact cmpCross_sign s hs n1 d1 n2 d2

theorem cross_same_sign {n1 d1 n2 d2 : ℤ} (hd1 : 0 < d1) (hd2 : 0 < d2)
    (h : (n1 < 0 ∧ n2 < 0) ∨ (0 < n1 ∧ 0 < n2)) :
    n1 * d2 - n2 * d1 =
      Int.sign n1 * (((n1.natAbs * d2.natAbs : ℕ) : ℤ) - ((n2.natAbs * d1.natAbs : ℕ) : ℤ)) := by
  rw [Nat.cast_mul, Nat.cast_mul, Int.natAbs_of_nonneg hd1.le, Int.natAbs_of_nonneg hd2.le]
  rcases h with ⟨a, b⟩ | ⟨a, b⟩
  · rw [Int.sign_eq_neg_one_of_neg a, Int.ofNat_natAbs_of_nonpos a.le, Int.ofNat_natAbs_of_nonpos b.le]
    ring
  · rw [Int.sign_eq_one_of_pos a, Int.natAbs_of_nonneg a.le, Int.natAbs_of_nonneg b.le]
    ring

/-- the both-integers path cmp.c:60-70 for numerators of the same sign -/
theorem cmpInt_sign {n1 n2 : ℤ} (same : (n1 < 0 ∧ n2 < 0) ∨ (0 < n1 ∧ 0 < n2)) :
    Int.sign (if size n1 ≠ size n2 then size n1 - size n2
      else if size n1 > 0 then cmpNat n1.natAbs n2.natAbs else -cmpNat n1.natAbs n2.natAbs)
      = Int.sign (n1 - n2) := by
  rcases same with ⟨a, b⟩ | ⟨a, b⟩
  · rw [size_of_neg a, size_of_neg b,
      show n1 - n2 = (n2.natAbs : ℤ) - (n1.natAbs : ℤ) by
        rw [Int.ofNat_natAbs_of_nonpos a.le, Int.ofNat_natAbs_of_nonpos b.le, neg_sub_neg]]
    split_ifs with hsz hp
    · rw [neg_sub_neg, sign_limb_diff fun h => hsz (by rw [sub_eq_zero.mp h])]
    · exact absurd hp (not_lt.mpr (neg_nonpos.mpr (Int.natCast_nonneg _)))
    · rw [Int.sign_neg, sign_cmpNat, ← Int.sign_neg, neg_sub]
  · rw [size_of_pos a, size_of_pos b, ← Int.natAbs_of_nonneg a.le, ← Int.natAbs_of_nonneg b.le,
      Int.natAbs_natCast, Int.natAbs_natCast]
    split_ifs with hsz hp
    · exact sign_limb_diff fun h => hsz (sub_eq_zero.mp h)
    · exact sign_cmpNat _ _
    · exact absurd (Int.natCast_pos.mpr (limbs_isSize.pos (Int.natAbs_ne_zero.mpr a.ne'))) hp

theorem cmpNumDen_sign {n1 d1 n2 d2 : ℤ} (hd1 : 0 < d1) (hd2 : 0 < d2) :
    Int.sign (cmpNumDen n1 d1 n2 d2) = Int.sign (n1 * d2 - n2 * d1) := by
  unfold cmpNumDen
  simp only [size_eq_zero]
  -- a zero numerator: the sign of the other one decides
  refine sign_ite_eq (fun z1 => ?_) fun z1 => ?_
  · rw [Int.sign_neg, sign_size, z1, zero_mul, zero_sub, Int.sign_neg, Int.sign_mul,
      Int.sign_eq_one_of_pos hd1, mul_one]
  refine sign_ite_eq (fun z2 => ?_) fun z2 => ?_
  · rw [sign_size, z2, zero_mul, sub_zero, Int.sign_mul, Int.sign_eq_one_of_pos hd2, mul_one]
  -- numerators of different sign
  refine sign_ite_eq (fun sd => ?_) fun sd => ?_
  · rw [sign_size]
    simp only [size_neg_iff, ne_eq, decide_eq_decide] at sd
    rcases lt_or_gt_of_ne z1 with a | a
    · have b : 0 < n2 := (lt_or_gt_of_ne z2).resolve_left fun b => sd (iff_of_true a b)
      have h1 := mul_neg_of_neg_of_pos a hd2
      have h2 := mul_pos b hd1
      rw [Int.sign_eq_neg_one_of_neg a, Int.sign_eq_neg_one_of_neg (by omega)]
    · have b : n2 < 0 := (lt_or_gt_of_ne z2).resolve_right fun b =>
        sd (iff_of_false (not_lt.mpr a.le) (not_lt.mpr (le_of_lt b)))
      have h1 := mul_pos a hd2
      have h2 := mul_neg_of_neg_of_pos b hd1
      rw [Int.sign_eq_one_of_pos a, Int.sign_eq_one_of_pos (by omega)]
  have same : (n1 < 0 ∧ n2 < 0) ∨ (0 < n1 ∧ 0 < n2) := by
    simp only [size_neg_iff, ne_eq, decide_eq_decide, not_not] at sd
    rcases lt_or_gt_of_ne z1 with a | a
    · exact Or.inl ⟨a, sd.mp a⟩
    · exact Or.inr ⟨a, (lt_or_gt_of_ne z2).resolve_left fun b => absurd (sd.mpr b) (not_lt.mpr a.le)⟩
  have hs0 : size n1 ≠ 0 := fun h => z1 (size_eq_zero.mp h)
  have pre : ∀ i : ℤ, (i = 0 ∨ (i = 1 ∧ d2.natAbs = 1)) →
      Int.sign (cmpPre (size n1) n1.natAbs d1.natAbs n2.natAbs d2.natAbs i) = Int.sign (n1 * d2 - n2 * d1) := by
    intro i hi
    rw [cmpPre_sign (size n1) hs0 _ _ _ _ i (Int.natAbs_ne_zero.mpr z1) (Int.natAbs_ne_zero.mpr hd1.ne')
        (Int.natAbs_ne_zero.mpr z2) (Int.natAbs_ne_zero.mpr hd2.ne') hi,
      cross_same_sign hd1 hd2 same, Int.sign_mul, Int.sign_sign, sign_size]
  by_cases hi : d2 = 1
  · subst hi
    simp only [if_true, true_and]
    by_cases hd : d1 = 1
    · rw [if_pos hd, hd, mul_one, mul_one]
      exact cmpInt_sign same
    · rw [if_neg hd]
      exact pre 1 (Or.inr ⟨rfl, rfl⟩)
  · simp only [hi, if_false]
    rw [if_neg (by omega)]
    exact pre 0 (Or.inl rfl)

theorem some_sign_ite {c : Prop} [Decidable c] {a t : ℤ} {r : Option ℤ} (ha : c → Int.sign a = t)
    (hb : ¬ c → ∃ x, r = some x ∧ Int.sign x = t) :
    ∃ x, (if c then some a else r) = some x ∧ Int.sign x = t := by
  by_cases h : c
  · exact ⟨a, if_pos h, ha h⟩
  · rw [if_neg h]; exact hb h

theorem cmpUiVal_sign {n1 d1 : ℤ} {num2 den2 : Nat} (hd1 : 0 < d1) (hden2 : den2 ≠ 0)
    (hb1 : num2 < B) (hb2 : den2 < B) :
    ∃ c, cmpUiVal n1 d1 num2 den2 = some c ∧
      Int.sign c = Int.sign (n1 * (den2 : ℤ) - (num2 : ℤ) * d1) := by
  have hden2' : (0 : ℤ) < (den2 : ℤ) := Int.natCast_pos.mpr (Nat.pos_of_ne_zero hden2)
  unfold cmpUiVal
  simp only [size_eq_zero, size_neg_iff]
  rw [if_neg hden2]
  -- the sign shortcuts: op1 zero, op1 negative, num2 zero
  refine some_sign_ite (fun z1 => ?_) fun z1 => ?_
  · rw [z1, zero_mul, zero_sub, Int.sign_neg]
    by_cases hz : num2 = 0
    · rw [if_neg (not_not.mpr hz), hz]; simp
    · rw [if_pos hz, Int.sign_eq_one_of_pos (mul_pos (Int.natCast_pos.mpr (Nat.pos_of_ne_zero hz)) hd1)]
      rfl
  refine some_sign_ite (fun neg1 => ?_) fun neg1 => ?_
  · have h1 : n1 * (den2 : ℤ) < 0 := mul_neg_of_neg_of_pos neg1 hden2'
    have h2 : 0 ≤ (num2 : ℤ) * d1 := mul_nonneg (Int.natCast_nonneg _) hd1.le
    rw [sign_size, Int.sign_eq_neg_one_of_neg neg1, Int.sign_eq_neg_one_of_neg (sub_neg.mpr (h1.trans_le h2))]
  have pos1 : 0 < n1 := lt_of_le_of_ne (not_lt.mp neg1) (Ne.symm z1)
  refine some_sign_ite (fun z2 => ?_) fun z2 => ?_
  · rw [z2, Nat.cast_zero, zero_mul, sub_zero, sign_size, Int.sign_eq_one_of_pos pos1,
      Int.sign_eq_one_of_pos (mul_pos pos1 hden2')]
  -- both positive: limb counts, then the cross products of the magnitudes
  have hn : n1.natAbs ≠ 0 := Int.natAbs_ne_zero.mpr z1
  have hdn : d1.natAbs ≠ 0 := Int.natAbs_ne_zero.mpr hd1.ne'
  have hgoal : n1 * (den2 : ℤ) - (num2 : ℤ) * d1
      = ((n1.natAbs * den2 : ℕ) : ℤ) - ((d1.natAbs * num2 : ℕ) : ℤ) := by
    rw [Nat.cast_mul, Nat.cast_mul, Int.natAbs_of_nonneg pos1.le, Int.natAbs_of_nonneg hd1.le]
    ring
  rw [size_of_pos pos1, size_of_pos hd1, hgoal]
  have ln := limbs_isSize.pos hn
  have one_le : ∀ x : ℕ, x ≠ 0 → B ^ (1 - 1) ≤ x := fun x hx => Nat.pos_of_ne_zero hx
  refine some_sign_ite (fun c1 => ?_) fun _ => ?_
  · have h : d1.natAbs * num2 < n1.natAbs * den2 := by
      rw [Nat.mul_comm d1.natAbs]
      exact prod_lt_of_counts (r := 1) B_pos (by simpa using hb1) (limbs_isSize.lt_pow _).le (limbs_isSize.pow_le hn)
        (one_le _ hden2) ln (le_refl 1) (by omega)
    rw [Int.sign_eq_one_of_pos (Int.natCast_pos.mpr ln), sign_sub_of_lt h]
  refine some_sign_ite (fun c2 => ?_) fun _ => ?_
  · have h : n1.natAbs * den2 < d1.natAbs * num2 :=
      prod_lt_of_counts (s := 1) B_pos (limbs_isSize.lt_pow _) (by simpa using hb2.le) (limbs_isSize.pow_le hdn) (one_le _ z2)
        (limbs_isSize.pos hdn) (le_refl 1) (by omega)
    rw [Int.sign_neg, Int.sign_eq_one_of_pos (Int.natCast_pos.mpr ln), sign_sub_of_gt h]
  exact ⟨_, rfl, sign_cmpSized _ _⟩

theorem tri_of_sign {c : ℤ} {a : Q} {n d : ℤ} (ha : 0 < a.den) (hd : 0 < d)
    (h : Int.sign c = Int.sign (a.num * d - n * a.den)) :
    (c < 0 ↔ a.toRat < (n : ℚ) / d) ∧ (c = 0 ↔ a.toRat = (n : ℚ) / d) ∧
    (0 < c ↔ (n : ℚ) / d < a.toRat) := by
  unfold Q.toRat
  have x1 : (0 : ℚ) < a.den := by exact_mod_cast ha
  have x2 : (0 : ℚ) < d := by exact_mod_cast hd
  refine ⟨?_, ?_, ?_⟩
  · rw [div_lt_div_iff₀ x1 x2, ← Int.sign_eq_neg_one_iff_neg, h, Int.sign_eq_neg_one_iff_neg, sub_neg]
    exact_mod_cast Iff.rfl
  · rw [div_eq_div_iff x1.ne' x2.ne', ← Int.sign_eq_zero_iff_zero, h, Int.sign_eq_zero_iff_zero,
      sub_eq_zero]
    exact_mod_cast Iff.rfl
  · rw [div_lt_div_iff₀ x2 x1, ← Int.sign_eq_one_iff_pos, h, Int.sign_eq_one_iff_pos, sub_pos]
    exact_mod_cast Iff.rfl

theorem cmp_si_sign {n1 d1 n : ℤ} {d : Nat} (h : Heap) (q : Nat) (hq : h q = ⟨n1, d1⟩)
    (hd1 : 0 < d1) (hd : d ≠ 0) (hb : d < B) (hn : n.natAbs < B) :
    ∃ c, cmp_si q n d h = some c ∧ Int.sign c = Int.sign (n1 * (d : ℤ) - n * d1) := by
  unfold cmp_si
  rw [hq]
  simp only []
  have hd' : (0 : ℤ) < (d : ℤ) := Int.natCast_pos.mpr (Nat.pos_of_ne_zero hd)
  by_cases p1 : n1 ≥ 0
  · rw [if_pos p1]
    by_cases p2 : n ≥ 0
    · rw [if_pos p2]
      obtain ⟨c, hc, hs⟩ := cmpUiVal_sign (n1 := n1) hd1 hd hn hb
      exact ⟨c, hc, by rw [hs, Int.natAbs_of_nonneg p2]⟩
    · rw [if_neg p2]
      refine ⟨1, rfl, ?_⟩
      have h1 : 0 ≤ n1 * (d : ℤ) := mul_nonneg p1 hd'.le
      have h2 : n * d1 < 0 := mul_neg_of_neg_of_pos (not_le.mp p2) hd1
      exact (Int.sign_eq_one_of_pos (sub_pos.mpr (h2.trans_le h1))).symm
  · rw [if_neg p1]
    by_cases p2 : n ≥ 0
    · rw [if_pos p2]
      refine ⟨-1, rfl, ?_⟩
      have h1 : n1 * (d : ℤ) < 0 := mul_neg_of_neg_of_pos (not_le.mp p1) hd'
      have h2 : 0 ≤ n * d1 := mul_nonneg p2 hd1.le
      exact (Int.sign_eq_neg_one_of_neg (sub_neg.mpr (h1.trans_le h2))).symm
    · rw [if_neg p2]
      obtain ⟨c, hc, hs⟩ := cmpUiVal_sign (n1 := (n1.natAbs : ℤ)) hd1 hd hn hb
      refine ⟨-c, by rw [hc]; rfl, ?_⟩
      rw [Int.sign_neg, hs, ← Int.sign_neg, Int.ofNat_natAbs_of_nonpos (le_of_not_ge p1),
        Int.ofNat_natAbs_of_nonpos (le_of_not_ge p2)]
      congr 1; ring

end Mpir.Mpq
