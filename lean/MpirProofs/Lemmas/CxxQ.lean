/- Lemmas for C20, mpq part: canonical mpq objects on the heap, the mpq function objects of mpirxx.h compute
   their operator for every alias pattern and built-in value (`fnBinQ_spec`). -/
import MpirProofs.Lemmas.Cxx
import Mathlib.Tactic.FieldSimp
namespace Mpir.Cxx

/-! ### canonical objects, `setQ`, the mpq functions on them -/

theorem Canon_setQ (h : Heap) (p : Nat) (r : Rat) : Canon (h.setQ p r) p := by
  unfold Canon Heap.setQ
  simp only [Heap.set, ZLoc.den.injEq, ZLoc.num.injEq, reduceCtorEq, if_true, if_false]
  refine ⟨by have := r.den_pos; simp only [Int.ofNat_eq_natCast]; omega, ?_⟩
  simpa using r.reduced
theorem qval_setQ (h : Heap) (p : Nat) (r : Rat) : qval (h.setQ p r) p = r := by
  unfold qval Heap.setQ
  simp only [Heap.set, ZLoc.den.injEq, ZLoc.num.injEq, reduceCtorEq, if_true, if_false]
  exact Rat.num_divInt_den r
theorem setQ_get_ne (h : Heap) (p : Nat) (r : Rat) (l : ZLoc) (h1 : l ≠ .num p) (h2 : l ≠ .den p) :
    (h.setQ p r) l = h l := by
  unfold Heap.setQ
  rw [Heap.set_get_ne _ _ _ _ h2, Heap.set_get_ne _ _ _ _ h1]

theorem setQ_fields (h : Heap) (p : Nat) {N D : Int} (hD : 0 < D) (hc : Nat.Coprime N.natAbs D.natAbs) :
    (h.set (.num p) N).set (.den p) D = h.setQ p (Rat.divInt N D) := by
  unfold Heap.setQ
  rw [Rat.divInt_eq_div, Rat.num_div_eq_of_coprime hD hc]
  have := Rat.den_div_eq_of_coprime hD hc
  simp only [Int.ofNat_eq_natCast, this]
theorem setQ_self {h : Heap} {i : Nat} (hc : Canon h i) : h.setQ i (qval h i) = h := by
  have := qval_num_den hc
  unfold Heap.setQ
  simp only [Int.ofNat_eq_natCast, this.1, this.2]
  rw [Heap.set_self, Heap.set_self]

/-- the field-by-field result of `q = r ± m` (`m` an integer): numerator `num r + den r * m`, same denominator -/
theorem poke_add {h : Heap} {r : Nat} (p : Nat) (m : Int) (hc : Canon h r) :
    (h.set (.num p) (h (.num r) + h (.den r) * m)).set (.den p) (h (.den r)) = h.setQ p (qval h r + (m : Rat)) := by
  have hd := hc.1
  have hcop : Nat.Coprime (h (.num r) + h (.den r) * m).natAbs (h (.den r)).natAbs := by
    have : Int.gcd (h (.num r) + h (.den r) * m) (h (.den r)) = 1 := by
      rw [Int.gcd_add_mul_left_left]; exact hc.2
    exact this
  rw [setQ_fields h p hd hcop]
  congr 1
  unfold qval
  rw [Rat.divInt_eq_div, Rat.divInt_eq_div]
  have hd' : ((h (.den r) : Int) : ℚ) ≠ 0 := by exact_mod_cast hd.ne'
  push_cast; field_simp

theorem copyQ_eq {h : Heap} {r : Nat} (p : Nat) (hc : Canon h r) : copyQ p r h = some (h.setQ p (qval h r)) := by
  unfold copyQ
  by_cases hpr : p = r
  · subst hpr; simp [setQ_self hc]
  · simp only [hpr, ne_eq, not_false_eq_true, if_true, mpq_set]
    have := qval_num_den hc
    unfold Heap.setQ
    simp only [Int.ofNat_eq_natCast, this.1, this.2]

theorem mpq_neg_eq {h : Heap} {r : Nat} (p : Nat) (hc : Canon h r) : mpq_neg p r h = h.setQ p (-(qval h r)) := by
  unfold mpq_neg
  have hcop : Nat.Coprime (-(h (.num r))).natAbs (h (.den r)).natAbs := by simpa using hc.2
  rw [setQ_fields h p hc.1 hcop]
  congr 1
  unfold qval; rw [Rat.neg_divInt]

theorem mpq_abs_eq {h : Heap} {r : Nat} (p : Nat) (hc : Canon h r) : mpq_abs p r h = h.setQ p (qabs (qval h r)) := by
  unfold mpq_abs
  have hcop : Nat.Coprime (zabs (h (.num r))).natAbs (h (.den r)).natAbs := by
    unfold zabs; split <;> simpa using hc.2
  rw [setQ_fields h p hc.1 hcop]
  congr 1
  have hn : (qval h r < 0) ↔ h (.num r) < 0 := by rw [← (qval_num_den hc).1]; exact Rat.num_neg.symm
  unfold qabs zabs
  by_cases hlt : h (.num r) < 0
  · simp only [hlt, if_true, hn.mpr hlt]; unfold qval; rw [Rat.neg_divInt]
  · simp only [hlt, if_false, mt hn.mp hlt]; rfl

theorem mpq_set_z_eq (h : Heap) (p : Nat) (z : ZLoc) : mpq_set_z p z h = h.setQ p ((h z : Int) : Rat) := by
  unfold mpq_set_z Heap.setQ
  simp

theorem setQ_setQ (h : Heap) (p : Nat) (a b : Rat) : (h.setQ p a).setQ p b = h.setQ p b := by
  apply Heap.ext'; intro l
  unfold Heap.setQ
  simp only [Heap.set]
  split <;> [rfl; (split <;> rfl)]

theorem neg_after_setQ (h : Heap) (p : Nat) (x : Rat) : mpq_neg p p (h.setQ p x) = h.setQ p (-x) := by
  rw [mpq_neg_eq p (Canon_setQ h p x), qval_setQ, setQ_setQ]

/-- `q_p = q_p + m` in place (`mpz_addmul` / `mpz_submul` on the numerator): `N` is the numerator computed -/
theorem poke_alias {h : Heap} {p : Nat} (m N : Int) (hc : Canon h p) (hN : N = h (.num p) + h (.den p) * m) :
    h.set (.num p) N = h.setQ p (qval h p + (m : Rat)) := by
  have e : h (.den p) = (h.set (.num p) N) (.den p) := by rw [Heap.set_get_ne]; simp
  rw [← poke_add p m hc, ← hN, e, Heap.set_self]

/-- `q_p = q_r + m` for `p ≠ r`: `X = den r * m` into `num p`, then `num p = f X (num r)`, then the denominator copied -/
theorem poke_other {h : Heap} {r : Nat} (p : Nat) (hpr : p ≠ r) (m X : Int) (f : Int → Int → Int) (hc : Canon h r)
    (hN : f X (h (.num r)) = h (.num r) + h (.den r) * m) :
    mpz_set (.den p) (.den r) ((h.set (.num p) X).set (.num p) (f ((h.set (.num p) X) (.num p)) ((h.set (.num p) X) (.num r))))
      = h.setQ p (qval h r + (m : Rat)) := by
  have h1 : (ZLoc.num r) ≠ ZLoc.num p := by intro e; injection e with e; exact hpr e.symm
  unfold mpz_set
  rw [Heap.set_set, Heap.set_get, Heap.set_get_ne _ _ _ _ h1, Heap.set_get_ne _ _ (.den r) _ (by simp), hN, poke_add p m hc]

/-! ### the `eval` members of the mpq function objects with one built-in or mpz argument -/

theorem Plus.q_z_spec (p r : Nat) (z : ZLoc) (h : Heap) (hc : Canon h r) :
    Plus.q_z p r z h = some (h.setQ p (qval h r + ((h z : Int) : Rat))) := by
  unfold Plus.q_z
  split
  · rename_i hpr; subst hpr; exact congrArg some (poke_alias (h z) _ hc rfl)
  · rename_i hpr; exact congrArg some (poke_other p hpr (h z) (h (.den r) * h z) (· + ·) hc (by ring))

theorem Plus.q_ui_spec (cst : Bool) (p r : Nat) (l : Nat) (h : Heap) (hc : Canon h r) :
    Plus.q_ui cst p r l h = some (h.setQ p (qval h r + ((Int.ofNat l : Int) : Rat))) := by
  unfold Plus.q_ui
  split
  · rename_i hcst; simp only [Bool.and_eq_true, beq_iff_eq] at hcst
    rw [copyQ_eq p hc, hcst.2]; simp
  · split
    · rename_i hpr; subst hpr; exact congrArg some (poke_alias (Int.ofNat l) _ hc rfl)
    · rename_i hpr; exact congrArg some (poke_other p hpr (Int.ofNat l) (h (.den r) * Int.ofNat l) (· + ·) hc (by ring))

theorem Minus.q_z_spec (p r : Nat) (z : ZLoc) (h : Heap) (hc : Canon h r) :
    Minus.q_z p r z h = some (h.setQ p (qval h r - ((h z : Int) : Rat))) := by
  have e : qval h r - ((h z : Int) : Rat) = qval h r + ((-(h z) : Int) : Rat) := by push_cast; ring
  unfold Minus.q_z
  rw [e]
  split
  · rename_i hpr; subst hpr; exact congrArg some (poke_alias (-(h z)) _ hc (by ring))
  · rename_i hpr
    exact congrArg some (poke_other p hpr (-(h z)) (h (.den r) * h z) (fun a b => b - a) hc (by ring))

theorem Minus.q_ui_spec (cst : Bool) (p r : Nat) (l : Nat) (h : Heap) (hc : Canon h r) :
    Minus.q_ui cst p r l h = some (h.setQ p (qval h r - ((Int.ofNat l : Int) : Rat))) := by
  have e : qval h r - ((Int.ofNat l : Int) : Rat) = qval h r + ((-(Int.ofNat l) : Int) : Rat) := by push_cast; ring
  unfold Minus.q_ui
  split
  · rename_i hcst; simp only [Bool.and_eq_true, beq_iff_eq] at hcst
    rw [copyQ_eq p hc, hcst.2]; simp
  · rw [e]
    split
    · rename_i hpr; subst hpr; exact congrArg some (poke_alias (-(Int.ofNat l)) _ hc (by ring))
    · rename_i hpr
      exact congrArg some (poke_other p hpr (-(Int.ofNat l)) (h (.den r) * Int.ofNat l) (fun a b => b - a) hc (by ring))

theorem Plus.q_si_spec (cst : Bool) (p r : Nat) (l : Int) (h : Heap) (hc : Canon h r) (hr : SiRange l) :
    Plus.q_si cst p r l h = some (h.setQ p (qval h r + (l : Rat))) := by
  unfold Plus.q_si
  split
  · rw [Plus.q_ui_spec _ _ _ _ _ hc, toUi_of_nonneg hr (by omega)]
  · rw [Minus.q_ui_spec _ _ _ _ _ hc, negUi_eq hr (by omega)]; congr 2; push_cast; ring

theorem Minus.q_si_spec (cst : Bool) (p r : Nat) (l : Int) (h : Heap) (hc : Canon h r) (hr : SiRange l) :
    Minus.q_si cst p r l h = some (h.setQ p (qval h r - (l : Rat))) := by
  unfold Minus.q_si
  split
  · rw [Minus.q_ui_spec _ _ _ _ _ hc, toUi_of_nonneg hr (by omega)]
  · rw [Plus.q_ui_spec _ _ _ _ _ hc, negUi_eq hr (by omega)]; congr 2; push_cast; ring

theorem Lshift.q_spec (cst : Bool) (p r n : Nat) (h : Heap) (hc : Canon h r) :
    Lshift.q cst p r n h = some (h.setQ p (qshl (qval h r) n)) := by
  unfold Lshift.q
  split
  · rename_i hcst; simp only [Bool.and_eq_true, beq_iff_eq] at hcst
    rw [copyQ_eq p hc, hcst.2]; simp [qshl]
  · rfl

theorem Rshift.q_spec (cst : Bool) (p r n : Nat) (h : Heap) (hc : Canon h r) :
    Rshift.q cst p r n h = some (h.setQ p (qshr (qval h r) n)) := by
  unfold Rshift.q
  split
  · rename_i hcst; simp only [Bool.and_eq_true, beq_iff_eq] at hcst
    rw [copyQ_eq p hc, hcst.2]; simp [qshr]
  · rfl

theorem two_pow_ctz_rat {l : Nat} (ht : pow2Test l = true) (h0 : l ≠ 0) (hr : UiRange l) :
    (((2 : Int) ^ ctz l : Int) : Rat) = ((Int.ofNat l : Int) : Rat) := by
  have := pow2Test_ctz ht h0 hr
  have e : ((2 : Int) ^ ctz l) = Int.ofNat (2 ^ ctz l) := by simp
  rw [e, this]

theorem Multiplies.q_ui_spec (cst : Bool) (p r : Nat) (l : Nat) (h : Heap) (hc : Canon h r) (hr : UiRange l) :
    Multiplies.q_ui cst p r l h = some (h.setQ p (qval h r * ((Int.ofNat l : Int) : Rat))) := by
  unfold Multiplies.q_ui
  split
  · rename_i hcst; simp only [Bool.and_eq_true] at hcst
    split
    · rename_i h0; subst h0
      simp only [mpq_set_ui, Heap.setQ]
      simp
    · rename_i h0
      rw [Lshift.q_spec _ _ _ _ _ hc]; unfold qshl; rw [two_pow_ctz_rat hcst.2 h0 hr]
  · rfl

theorem tmpqSi_eq {l : Int} (hr : SiRange l) : tmpqSi l = (l : Rat) := by
  unfold tmpqSi; rw [tmpzSi_eq hr]

theorem Multiplies.q_si_spec (cst : Bool) (p r : Nat) (l : Int) (h : Heap) (hc : Canon h r) (hr : SiRange l) :
    Multiplies.q_si cst p r l h = some (h.setQ p (qval h r * (l : Rat))) := by
  unfold Multiplies.q_si
  split
  · split
    · rw [Multiplies.q_ui_spec _ _ _ _ _ hc (toUi_range hr (by omega)), toUi_of_nonneg hr (by omega)]
    · rw [Multiplies.q_ui_spec _ _ _ _ _ hc (negUi_range hr (by omega)), negUi_eq hr (by omega)]
      simp only [Option.map_some, neg_after_setQ]
      congr 2; push_cast; ring
  · simp only [mpq_opT, tmpqSi_eq hr]

theorem Divides.q_ui_spec (cst : Bool) (p r : Nat) (l : Nat) (h : Heap) (hc : Canon h r) (hr : UiRange l) :
    Divides.q_ui cst p r l h = if l = 0 then none else some (h.setQ p (qval h r / ((Int.ofNat l : Int) : Rat))) := by
  unfold Divides.q_ui
  split
  · rename_i hcst; simp only [Bool.and_eq_true, bne_iff_ne, ne_eq] at hcst
    rw [if_neg hcst.2, Rshift.q_spec _ _ _ _ _ hc]; unfold qshr; rw [two_pow_ctz_rat hcst.1.2 hcst.2 hr]
  · unfold Divides.divT
    by_cases h0 : l = 0
    · subst h0; simp
    · have : ((Int.ofNat l : Int) : Rat) ≠ 0 := by simpa using h0
      simp only [this, h0, if_false]; rfl

theorem Divides.q_si_spec (cst : Bool) (p r : Nat) (l : Int) (h : Heap) (hc : Canon h r) (hr : SiRange l) :
    Divides.q_si cst p r l h = if l = 0 then none else some (h.setQ p (qval h r / (l : Rat))) := by
  unfold Divides.q_si
  split
  · split
    · have e := toUi_of_nonneg hr (by omega)
      rw [Divides.q_ui_spec _ _ _ _ _ hc (toUi_range hr (by omega)), e]
      by_cases h0 : l = 0
      · have : toUi l = 0 := by simp only [Int.ofNat_eq_natCast] at e; omega
        rw [if_pos this, if_pos h0]
      · have : toUi l ≠ 0 := by simp only [Int.ofNat_eq_natCast] at e; omega
        rw [if_neg this, if_neg h0]
    · have e := negUi_eq hr (by omega)
      rw [Divides.q_ui_spec _ _ _ _ _ hc (negUi_range hr (by omega)), e]
      have : negUi l ≠ 0 := by simp only [Int.ofNat_eq_natCast] at e; omega
      have h0 : l ≠ 0 := by omega
      simp only [this, h0, if_false, Option.map_some, neg_after_setQ]
      congr 2; push_cast; rw [div_neg, neg_neg]
  · unfold Divides.divT
    rw [tmpqSi_eq hr]
    by_cases h0 : l = 0
    · subst h0; simp
    · have : (l : Rat) ≠ 0 := by exact_mod_cast h0
      simp only [this, h0, if_false]; rfl

/-! ### the binary objects on mpq, every operand form -/

def argR (h : Heap) : QArg → Option Rat
  | .q i => some (qval h i)
  | .z l => some ((h l : Int) : Rat)
  | .bi c => biRat c

def QArg.canon (h : Heap) : QArg → Prop
  | .q i => Canon h i
  | _ => True

def QArg.ok : QArg → Prop
  | .bi c => c.ok = true
  | _ => True

/-- the overload exists (the expression compiles) -/
def fnQdefined (o : Bin) : QArg → QArg → Prop
  | .q _, .q _ | .q _, .bi _ | .bi _, .q _ => o.qOk = true
  | .q _, .z _ | .z _, .q _ => isAddSub o = true
  | _, _ => False

theorem fnBinQ_spec (cst : Bool) (o : Bin) (p : Nat) (a b : QArg) (h : Heap)
    (hd : fnQdefined o a b) (ca : a.canon h) (cb : b.canon h) (oka : a.ok) (okb : b.ok) :
    fnBinQ cst o p a b h =
      ((argR h a).bind fun x => (argR h b).bind fun y => binQ o x y).map (fun r => h.setQ p r) := by
  cases a with
  | q r =>
    cases b with
    | q s =>
      cases o
      case add | sub | mul => rfl
      case div => exact (map_ite_none (fun x => h.setQ p x) (qval h s = 0) (qval h r / qval h s)).symm
      all_goals cases hd
    | z i =>
      cases o
      case add => exact Plus.q_z_spec p r i h ca
      case sub => exact Minus.q_z_spec p r i h ca
      all_goals cases hd
    | bi c =>
      cases c with
      | ui l =>
        have hr := bi_ok_ui okb
        cases o
        case add => exact Plus.q_ui_spec cst p r l h ca
        case sub => exact Minus.q_ui_spec cst p r l h ca
        case mul => exact Multiplies.q_ui_spec cst p r l h ca hr
        case div =>
          simp only [fnBinQ, argR, biRat, binQ, Option.bind_some, map_ite_none, Divides.q_ui_spec cst p r l h ca hr,
            Int.ofNat_eq_natCast, Int.cast_natCast, Nat.cast_eq_zero]
        all_goals cases hd
      | si l =>
        have hr := bi_ok_si okb
        cases o
        case add => exact Plus.q_si_spec cst p r l h ca hr
        case sub => exact Minus.q_si_spec cst p r l h ca hr
        case mul => exact Multiplies.q_si_spec cst p r l h ca hr
        case div =>
          simp only [fnBinQ, argR, biRat, binQ, Option.bind_some, map_ite_none, Divides.q_si_spec cst p r l h ca hr,
            Int.cast_eq_zero]
        all_goals cases hd
      | d d =>
        cases o
        case add | sub | mul => show (dval d).map _ = ((dval d).bind _).map _; cases dval d <;> rfl
        case div =>
          show (dval d).bind _ = ((dval d).bind _).map _
          cases dval d with
          | none => rfl
          | some t => exact (map_ite_none (fun x => h.setQ p x) (t = 0) _).symm
        all_goals cases hd
  | z i =>
    cases b with
    | q r =>
      cases o
      case add =>
        show Plus.q_z p r i h = _
        rw [Plus.q_z_spec p r i h cb, add_comm]; rfl
      case sub =>
        show (Minus.q_z p r i h).map (mpq_neg p p) = _
        rw [Minus.q_z_spec p r i h cb, Option.map_some, neg_after_setQ, neg_sub]; rfl
      all_goals cases hd
    | z j => cases hd
    | bi c => cases hd
  | bi c =>
    cases b with
    | bi c' => cases hd
    | z j => cases hd
    | q r =>
      -- `l - q` is `-(q - l)`; `l / q` is `mpq_div(temp, q)`; `+` and `*` call the overload for the built-in on the right
      have tdiv : ∀ t : Rat, Divides.tDiv p t r h = (binQ .div t (qval h r)).map (fun x => h.setQ p x) :=
        fun t => (map_ite_none (fun x => h.setQ p x) (qval h r = 0) (t / qval h r)).symm
      cases c with
      | ui l =>
        have hr := bi_ok_ui oka
        cases o
        case add =>
          show Plus.q_ui cst p r l h = _
          rw [Plus.q_ui_spec cst p r l h cb, add_comm]; rfl
        case sub =>
          show (Minus.q_ui cst p r l h).map (mpq_neg p p) = _
          rw [Minus.q_ui_spec cst p r l h cb, Option.map_some, neg_after_setQ, neg_sub]; rfl
        case mul =>
          show Multiplies.q_ui cst p r l h = _
          rw [Multiplies.q_ui_spec cst p r l h cb hr, mul_comm]; rfl
        case div => exact tdiv _
        all_goals cases hd
      | si l =>
        have hr := bi_ok_si oka
        cases o
        case add =>
          show Plus.q_si cst p r l h = _
          rw [Plus.q_si_spec cst p r l h cb hr, add_comm]; rfl
        case sub =>
          show (Minus.q_si cst p r l h).map (mpq_neg p p) = _
          rw [Minus.q_si_spec cst p r l h cb hr, Option.map_some, neg_after_setQ, neg_sub]; rfl
        case mul =>
          show Multiplies.q_si cst p r l h = _
          rw [Multiplies.q_si_spec cst p r l h cb hr, mul_comm]; rfl
        case div =>
          show Divides.tDiv p (tmpqSi l) r h = _
          rw [tmpqSi_eq hr]; exact tdiv _
        all_goals cases hd
      | d d =>
        cases o
        case add =>
          show (dval d).map _ = ((dval d).bind _).map _
          cases dval d with
          | none => rfl
          | some t => exact congrArg (fun x => some (h.setQ p x)) (add_comm (qval h r) t)
        case sub => show (dval d).map _ = ((dval d).bind _).map _; cases dval d <;> rfl
        case mul =>
          show (dval d).map _ = ((dval d).bind _).map _
          cases dval d with
          | none => rfl
          | some t => exact congrArg (fun x => some (h.setQ p x)) (mul_comm (qval h r) t)
        case div =>
          show (dval d).bind _ = ((dval d).bind _).map _
          cases dval d with
          | none => rfl
          | some t => exact tdiv t
        all_goals cases hd

end Mpir.Cxx
