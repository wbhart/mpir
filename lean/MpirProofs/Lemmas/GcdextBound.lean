/- The cofactor bound of mpn_gcdext at value level.

   From the invariant of the reduction (`CofOk`: a = u1·A − v1·V, b = −u0·A + v0·V, det 1) follows
   V = u0·a + u1·b, hence "|u0|, |u1| ≤ V / min(a, b)" (comment at gcdext.c:393); every exit of
   mpn_gcdext_lehmer_n then yields 2·G·|S| < V, or S = 1 and V = 2G.  Also the front end of mpn_gcdext
   (initial division, zero-remainder exit) and the passage from the bound to the manual's contract. -/
import MpirProofs.Lemmas.GcdLehmer
import MpirProofs.Lemmas.GcdExt1
import Mathlib.Tactic.Linarith
namespace Mpir.Gcdext
open Mpir Mpir.Gcd

/-- the normalisation of the first cofactor that the code actually achieves (it implies the manual's
    "S = 1 or |S| < V/(2G)" and, with the identity, "S = 0 ↔ V ∣ U") -/
def CofBound (V G : Nat) (S : Int) : Prop := 2 * G * S.natAbs < V ∨ (S = 1 ∧ V = 2 * G)

/-- the identity V ∣ G − U·S depends on U modulo V only (mpn_gcdext divides U by V first) -/
theorem ident_of_add_mul {U A V q G : Nat} {S : Int} (hU : U = A + V * q) (h : ((G : Int) - A * S) % V = 0) :
    ((G : Int) - U * S) % V = 0 := by
  obtain ⟨t, ht⟩ := Int.dvd_of_emod_eq_zero h
  apply Int.emod_eq_zero_of_dvd
  refine ⟨t - q * S, ?_⟩
  rw [hU]; push_cast
  linear_combination ht

theorem cofBound_natAbs_lt {V G : Nat} {S : Int} (h : CofBound V G S) (hG : 0 < G) : S.natAbs < V := by
  rcases h with h | ⟨h, hV⟩
  · exact lt_of_le_of_lt (Nat.le_mul_of_pos_left _ (by omega)) h
  · rw [h, hV]; simp; omega

theorem cofBound_contract (U V G : Nat) (S : Int) (hV : 0 < V) (hG : G = Nat.gcd U V)
    (hid : ((G : Int) - U * S) % V = 0) (hb : CofBound V G S) : mpnGcdextOk U V G S := by
  have hGV : G ∣ V := by rw [hG]; exact Nat.gcd_dvd_right _ _
  have hGpos : 0 < G := by rw [hG]; exact Nat.gcd_pos_of_pos_right _ hV
  refine ⟨hG, hid, ?_, ?_, ?_⟩
  · rcases hb with h | ⟨h, _⟩
    · exact Or.inr h
    · exact Or.inl h
  · intro hS
    rw [hS] at hid
    simp only [mul_zero, sub_zero] at hid
    have hVG : V ∣ G := by
      have := Int.dvd_of_emod_eq_zero hid
      exact_mod_cast this
    have hGe : G = V := Nat.dvd_antisymm hGV hVG
    rw [hGe] at hG
    have : V ∣ U := by rw [hG]; exact Nat.gcd_dvd_left _ _
    exact Nat.mod_eq_zero_of_dvd this
  · intro hUV
    have hVU : V ∣ U := Nat.dvd_of_mod_eq_zero hUV
    have hGe : G = V := by rw [hG]; exact Nat.gcd_eq_right hVU
    rcases hb with h | ⟨_, h⟩
    · rw [hGe] at h
      by_contra hS
      have : 1 ≤ S.natAbs := Int.natAbs_pos.mpr hS
      have : 2 * V * 1 ≤ 2 * V * S.natAbs := Nat.mul_le_mul_left _ this
      omega
    · omega

/-! ### the front end of mpn_gcdext (gcdext.c:251-261): a longer U is divided by V first, a zero remainder ends the call -/

theorem reduced_operand {U V : Nat} (hV : 0 < V) (hle : nlimbs V ≤ nlimbs U) :
    ∀ A, A = (if nlimbs U > nlimbs V then U % V else U) →
    (nlimbs U > nlimbs V ∧ A = 0) ∧ V ∣ U ∨ ¬ (nlimbs U > nlimbs V ∧ A = 0) ∧ LInv A V (nlimbs V) ∧ ∃ q, U = A + V * q := by
  rintro A rfl
  obtain ⟨l1, l2⟩ := linv_operands hV hle
  by_cases hgt : nlimbs U > nlimbs V
  · rw [if_pos hgt]
    by_cases hz : U % V = 0
    · exact Or.inl ⟨⟨hgt, hz⟩, Nat.dvd_of_mod_eq_zero hz⟩
    · exact Or.inr ⟨fun h => hz h.2, l1 hz, U / V, (Nat.mod_add_div U V).symm⟩
  · rw [if_neg hgt]
    exact Or.inr ⟨fun h => hgt h.1, l2 hgt, 0, by simp⟩

theorem contract_of_dvd {U V : Nat} (hV : 0 < V) (h : V ∣ U) : mpnGcdextOk U V V 0 ∧ CofBound V V 0 :=
  ⟨⟨(Nat.gcd_eq_right h).symm, by simp, Or.inr (by simpa using hV), by simp [Nat.mod_eq_zero_of_dvd h]⟩,
    Or.inl (by simpa using hV)⟩

theorem gcd_of_reduced {U A V q : Nat} (hU : U = A + V * q) : Nat.gcd A V = Nat.gcd U V := by
  rw [hU, Nat.gcd_comm, Nat.gcd_comm (A + V * q) V, Nat.gcd_add_mul_left_right]

/-- a result for the operand after the initial division is a result for the operand before it -/
theorem contract_of_reduced {U A V q G : Nat} {S : Int} (hV : 0 < V) (hU : U = A + V * q) (hG : G = Nat.gcd A V)
    (hid : ((G : Int) - A * S) % V = 0) (hb : CofBound V G S) :
    G = Nat.gcd U V ∧ ((G : Int) - U * S) % V = 0 ∧ mpnGcdextOk U V G S := by
  have hG' : G = Nat.gcd U V := hG.trans (gcd_of_reduced hU)
  have hid' := ident_of_add_mul hU hid
  exact ⟨hG', hid', cofBound_contract U V G S hV hG' hid' hb⟩

theorem cofOk_sum {A Bv a b u0 u1 : Nat} (h : CofOk A Bv a b u0 u1) :
    u0 * a + u1 * b = Bv ∧ 1 ≤ u1 ∧ (u0 = 0 → u1 = 1) ∧ (u0 = u1 → u1 = 1) := by
  obtain ⟨v0, v1, hd, _, eB⟩ := h
  simp only at hd eB
  refine ⟨eB.symm, (diag_pos_of_det hd).2, fun h0 => ?_, fun h0 => ?_⟩
  · subst h0; exact Nat.eq_one_of_mul_eq_one_left (by simpa using hd)
  · subst h0
    have : (v0 - v1) * u0 = 1 := by rw [Nat.sub_mul]; omega
    exact Nat.eq_one_of_mul_eq_one_left this

theorem bound_core (x y q V : Nat) (hV : V = y + q * x) (hq : 2 ≤ q) (hx : 1 ≤ x) : 2 * x < V ∨ (y = 0 ∧ q = 2) := by
  by_cases h2 : q = 2
  · subst h2; omega
  · have : 3 * x ≤ q * x := Nat.mul_le_mul_right _ (by omega)
    omega

/-- exit with the gcd at a, b = q·a (q ≥ 2): the cofactor is +u1 -/
theorem exit_d0 {A Bv a b u0 u1 q : Nat} (h : CofOk A Bv a b u0 u1) (ha : 0 < a) (hb : b = q * a) (hq : 2 ≤ q) :
    CofBound Bv a (u1 : Int) := by
  obtain ⟨hs, h1, hz, _⟩ := cofOk_sum h
  unfold CofBound
  rw [Int.natAbs_natCast]
  have hx : 1 ≤ u1 * a := Nat.mul_pos h1 ha
  have hV : Bv = u0 * a + q * (u1 * a) := by rw [← hs, hb]; ring
  rcases bound_core (u1 * a) (u0 * a) q Bv hV hq hx with hlt | ⟨hy, hq2⟩
  · left; calc 2 * a * u1 = 2 * (u1 * a) := by ring
      _ < Bv := hlt
  · right
    have hu0 : u0 = 0 := by
      rcases Nat.mul_eq_zero.mp hy with h | h
      · exact h
      · omega
    have hu1 := hz hu0
    refine ⟨by simp [hu1], ?_⟩
    rw [hV, hy, hq2, hu1]; ring

/-- exit with the gcd at b, a = q·b (q ≥ 2): the cofactor is -u0 -/
theorem exit_d1 {A Bv a b u0 u1 q : Nat} (h : CofOk A Bv a b u0 u1) (hb0 : 0 < b) (ha : a = q * b) (hq : 2 ≤ q) :
    CofBound Bv b (-(u0 : Int)) := by
  obtain ⟨hs, h1, _, _⟩ := cofOk_sum h
  unfold CofBound
  left
  rw [Int.natAbs_neg, Int.natAbs_natCast]
  have hx : 1 ≤ u1 * b := Nat.mul_pos h1 hb0
  have hV : Bv = u1 * b + q * (u0 * b) := by rw [← hs, ha]; ring
  have : 2 * (u0 * b) ≤ q * (u0 * b) := Nat.mul_le_mul_right _ hq
  calc 2 * b * u0 = 2 * (u0 * b) := by ring
    _ < Bv := by omega

/-- exit with a = b: the smaller of +u1, -u0 (u1 on a tie) -/
theorem exit_eq {A Bv a u0 u1 : Nat} (h : CofOk A Bv a a u0 u1) (ha : 0 < a) :
    CofBound Bv a (pickCofactor u0 u1 (-1)) := by
  obtain ⟨hs, h1, _, he⟩ := cofOk_sum h
  unfold CofBound pickCofactor
  simp only [show ((-1 : Int) < 0) from by decide, if_true]
  have hV : Bv = (u0 + u1) * a := by rw [← hs]; ring
  by_cases hlt : u0 < u1
  · simp only [hlt, decide_true, if_true]
    left
    rw [Int.natAbs_neg, Int.natAbs_natCast, hV]
    calc 2 * a * u0 = (u0 + u0) * a := by ring
      _ < (u0 + u1) * a := Nat.mul_lt_mul_of_pos_right (by omega) ha
  · simp only [hlt, decide_false, Bool.false_eq_true, if_false]
    rw [Int.natAbs_natCast]
    by_cases heq : u0 = u1
    · right
      have := he heq
      refine ⟨by simp [this], ?_⟩
      rw [hV, heq, this]
    · left
      rw [hV]
      calc 2 * a * u1 = (u1 + u1) * a := by ring
        _ < (u0 + u1) * a := Nat.mul_lt_mul_of_pos_right (by omega) ha

end Mpir.Gcdext
