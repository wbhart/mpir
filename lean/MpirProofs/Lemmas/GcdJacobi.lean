/- jacobi_base (mpn_jacobi_base, JACOBI_BASE_METHOD 1) computes the Jacobi symbol; the executable
   `kronecker` equals the mathematical `kronSym`. -/
import MpirProofs.Lemmas.Gcd
import MpirProofs.Lemmas.GcdKronDef
import Mathlib.NumberTheory.LegendreSymbol.JacobiSymbol
import Mathlib.Data.Nat.Bitwise
import Mathlib.Tactic.Ring
import Mathlib.Tactic.Linarith
import Mathlib.Tactic.IntervalCases
import Mathlib.Tactic.NormNum
namespace Mpir.Gcd
open Mpir

theorem and_two_eq (x : Nat) : x &&& 2 = if x.testBit 1 then 2 else 0 := by
  have h := Nat.and_two_pow x 1
  simp only [pow_one] at h
  rw [h]; cases x.testBit 1 <;> simp

theorem bit1ToPN_eq (x : Nat) : bit1ToPN x = if x.testBit 1 then -1 else 1 := by
  unfold bit1ToPN
  rw [and_two_eq]; cases x.testBit 1 <;> simp

theorem testBit_one_eq (x : Nat) : x.testBit 1 = decide (x / 2 % 2 = 1) := by
  have := Nat.testBit_eq_decide_div_mod_eq (x := x) (i := 1)
  simpa using this

theorem bit1ToPN_xor (x y : Nat) : bit1ToPN (x ^^^ y) = bit1ToPN x * bit1ToPN y := by
  simp only [bit1ToPN_eq, Nat.testBit_xor]
  cases x.testBit 1 <;> cases y.testBit 1 <;> simp


/-- (2/b) for odd b, by bits 1 and 2 of b. -/
theorem jacobi_two_eq (b : Nat) (hb : b % 2 = 1) :
    jacobiSym 2 b = if (b / 4 % 2 + b / 2 % 2) % 2 = 1 then -1 else 1 := by
  rw [jacobiSym.at_two (Nat.odd_iff.mpr hb), ZMod.χ₈_nat_eq_if_mod_eight]
  have : b % 8 = 1 ∨ b % 8 = 3 ∨ b % 8 = 5 ∨ b % 8 = 7 := by omega
  split_ifs <;> omega

theorem twosBit1_testBit (t b : Nat) :
    (twosBit1 t b).testBit 1 = (decide (t % 2 = 1) && decide ((b / 4 % 2 + b / 2 % 2) % 2 = 1)) := by
  unfold twosBit1
  rw [Nat.testBit_and, Nat.testBit_shiftLeft, Nat.testBit_xor, Nat.testBit_shiftRight]
  have h0 : t.testBit 0 = decide (t % 2 = 1) := by
    have := Nat.testBit_eq_decide_div_mod_eq (x := t) (i := 0); simpa only [pow_zero, Nat.div_one] using this
  have h1 : b.testBit 1 = decide (b / 2 % 2 = 1) := testBit_one_eq b
  have h2 : b.testBit 2 = decide (b / 4 % 2 = 1) := by
    have := Nat.testBit_eq_decide_div_mod_eq (x := b) (i := 2); simpa using this
  simp only [ge_iff_le, le_refl, decide_true, Bool.true_and, Nat.sub_self, h0, h1, h2]
  have e1 : b / 2 % 2 = 0 ∨ b / 2 % 2 = 1 := by omega
  have e2 : b / 4 % 2 = 0 ∨ b / 4 % 2 = 1 := by omega
  rcases e1 with e1 | e1 <;> rcases e2 with e2 | e2 <;> simp [e1, e2]

/-- JACOBI_TWOS_U_BIT1: the sign of (2/b)^twos. -/
theorem bit1ToPN_twosBit1 (t b : Nat) (hb : b % 2 = 1) :
    bit1ToPN (twosBit1 t b) = jacobiSym 2 b ^ t := by
  rw [bit1ToPN_eq, twosBit1_testBit, jacobi_two_eq b hb]
  by_cases hc : (b / 4 % 2 + b / 2 % 2) % 2 = 1
  · rw [if_pos hc]
    rcases Nat.even_or_odd t with ht | ht
    · have : t % 2 ≠ 1 := by rcases ht with ⟨k, rfl⟩; omega
      simp only [hc, this, ht.neg_one_pow, decide_false, decide_true, Bool.false_and]; rfl
    · have : t % 2 = 1 := Nat.odd_iff.mp ht
      simp only [hc, this, ht.neg_one_pow, decide_true, Bool.true_and]; rfl
  · rw [if_neg hc]
    simp only [hc, decide_false, Bool.and_false, one_pow]; rfl

/-- JACOBI_RECIP_UU_BIT1: quadratic reciprocity for odd a, b. -/
theorem jacobi_recip (a b : Nat) (ha : a % 2 = 1) (hb : b % 2 = 1) :
    jacobiSym a b = bit1ToPN (a &&& b) * jacobiSym b a := by
  rw [← jacobiSym.quadratic_reciprocity_if ha hb, bit1ToPN_eq, Nat.testBit_and,
    testBit_one_eq, testBit_one_eq]
  have ea : a % 4 = 3 ↔ a / 2 % 2 = 1 := by omega
  have eb : b % 4 = 3 ↔ b / 2 % 2 = 1 := by omega
  by_cases h1 : a / 2 % 2 = 1 <;> by_cases h2 : b / 2 % 2 = 1 <;> simp [ea, eb, h1, h2]

/-- PROCESS_TWOS_ANY: stripping the factors of two from x > 0. -/
theorem jacobi_strip (x b : Nat) (hx : 0 < x) (hb : b % 2 = 1) :
    jacobiSym x b = bit1ToPN (twosBit1 (ctz x) b) * jacobiSym ((x >>> ctz x : Nat) : ℤ) b := by
  rw [bit1ToPN_twosBit1 _ _ hb, ← jacobiSym.pow_left, ← jacobiSym.mul_left]
  congr 1
  have := ctz_mul x hx
  exact_mod_cast this.symm

theorem shiftRight_ctz_le (x : Nat) (hx : 0 < x) : x >>> ctz x ≤ x := by
  have := ctz_mul x hx
  calc x >>> ctz x ≤ 2 ^ ctz x * (x >>> ctz x) := Nat.le_mul_of_pos_left _ (by positivity)
    _ = x := this


theorem jacobi_self (b : Nat) (hb1 : 1 < b) : jacobiSym b b = 0 := by
  rw [jacobiSym.mod_left, Int.emod_self]; exact jacobiSym.zero_left hb1

theorem jacobiBaseLoop_spec : ∀ (f a b bit : Nat), a % 2 = 1 → b % 2 = 1 → 1 < b → b ≤ a →
    a + b ≤ f → jacobiBaseLoop f a b bit = bit1ToPN bit * jacobiSym a b
  | 0, a, b, bit, _, _, hb1, _, hf => by omega
  | f + 1, a, b, bit, ha, hb, hb1, hab, hf => by
    rw [jacobiBaseLoop]
    dsimp only
    by_cases h0 : a - b = 0
    · have : a = b := by omega
      subst this
      rw [if_pos h0, jacobi_self _ hb1, mul_zero]
    rw [if_neg h0]
    have hx : 0 < a - b := Nat.pos_of_ne_zero h0
    -- J(a | b) = J(a - b | b)
    have e1 : jacobiSym a b = jacobiSym ((a - b : Nat) : ℤ) b := by
      apply jacobiSym.mod_left'
      rw [Nat.cast_sub hab, Int.sub_emod, Int.emod_self, sub_zero, Int.emod_emod_of_dvd _ (dvd_refl _)]
    have e2 := jacobi_strip (a - b) b hx hb
    have hyo := ctz_odd (a - b) hx
    have hyle := shiftRight_ctz_le (a - b) hx
    generalize (a - b) >>> ctz (a - b) = y at *
    generalize twosBit1 (ctz (a - b)) b = tb at *
    rw [e1, e2, bit1ToPN_xor]
    by_cases hy1 : y = 1
    · rw [if_pos hy1, hy1]; simp
    rw [if_neg hy1]
    by_cases hyb : y ≥ b
    · rw [if_pos hyb, jacobiBaseLoop_spec f y b _ hyo hb hb1 hyb (by omega), bit1ToPN_xor]
      ring
    · rw [if_neg hyb, jacobiBaseLoop_spec f b y _ hb hyo (by omega) (by omega) (by omega),
        bit1ToPN_xor, bit1ToPN_xor, jacobi_recip y b hyo hb]
      ring

theorem jacobi_base_spec (a b bit : Nat) (hb : b % 2 = 1) (hb1 : 1 < b) :
    jacobi_base a b bit = bit1ToPN bit * jacobiSym a b := by
  unfold jacobi_base
  by_cases h0 : a = 0
  · subst h0
    rw [if_pos rfl, Nat.cast_zero, jacobiSym.zero_left hb1, mul_zero]
  rw [if_neg h0]
  dsimp only
  have hx : 0 < a := Nat.pos_of_ne_zero h0
  have e2 := jacobi_strip a b hx hb
  have hyo := ctz_odd a hx
  generalize a >>> ctz a = y at *
  generalize twosBit1 (ctz a) b = tb at *
  rw [e2, bit1ToPN_xor]
  by_cases hy1 : y = 1
  · rw [if_pos hy1, hy1]; simp
  rw [if_neg hy1]
  by_cases hyb : y ≥ b
  · rw [if_pos hyb, jacobiBaseLoop_spec _ y b _ hyo hb hb1 hyb (le_refl _), bit1ToPN_xor]
    ring
  · rw [if_neg hyb, jacobiBaseLoop_spec _ b y _ hb hyo (by omega) (by omega) (by omega),
      bit1ToPN_xor, bit1ToPN_xor, jacobi_recip y b hyo hb]
    ring


/-- non-vacuity: a concrete run of the model, and the spec instantiated on it. -/
example : jacobi_base 1001 9907 0 = -1 := by decide +kernel
example : jacobi_base 1001 9907 2 = 1 := by decide +kernel
example : jacobi_base 30 45 0 = 0 := by decide +kernel
example : jacobiSym 1001 9907 = -1 := by
  have h := jacobi_base_spec 1001 9907 0 (by norm_num) (by norm_num)
  have h1 : jacobi_base 1001 9907 0 = -1 := by decide +kernel
  have h2 : bit1ToPN 0 = 1 := by decide
  rw [h1, h2, one_mul] at h
  exact_mod_cast h.symm

theorem stripTwosAux_spec : ∀ (f : Nat) (x : ℤ) (v : Nat), x ≠ 0 → x.natAbs ≤ f →
    ∃ (c : Nat) (x' : ℤ), stripTwosAux f x v = (x', v + c) ∧ x = 2 ^ c * x' ∧ x' % 2 = 1
  | 0, x, v, hx, hf => by omega
  | f + 1, x, v, hx, hf => by
    rw [stripTwosAux]
    by_cases h : x % 2 = 0 ∧ x ≠ 0
    · rw [if_pos h]
      obtain ⟨c, x', h1, h2, h3⟩ := stripTwosAux_spec f (x / 2) (v + 1) (by omega) (by omega)
      refine ⟨c + 1, x', ?_, ?_, h3⟩
      · rw [h1, Nat.add_assoc, Nat.add_comm 1 c]
      · have : x = 2 * (x / 2) := by omega
        rw [pow_succ, mul_comm (2 ^ c) 2, mul_assoc, ← h2]; exact this
    · rw [if_neg h]
      exact ⟨0, x, rfl, by simp, by omega⟩

theorem stripTwos_spec (x : ℤ) (hx : x ≠ 0) :
    ∃ (c : Nat) (x' : ℤ), stripTwos x = (x', c) ∧ x = 2 ^ c * x' ∧ x' % 2 = 1 := by
  obtain ⟨c, x', h1, h2, h3⟩ := stripTwosAux_spec x.natAbs x 0 hx (le_refl _)
  exact ⟨c, x', by rw [stripTwos, h1, Nat.zero_add], h2, h3⟩

theorem kron2_eq_chi8 (a : ℤ) : kron2 a = ZMod.χ₈ a := by
  rw [ZMod.χ₈_int_eq_if_mod_eight]
  unfold kron2
  dsimp only
  rw [Int.emod_emod_of_dvd a (by norm_num : (2 : ℤ) ∣ 8)]

theorem kron2_nat_odd (b : Nat) (hb : b % 2 = 1) : kron2 (b : ℤ) = jacobiSym 2 b := by
  rw [kron2_eq_chi8, jacobiSym.at_two (Nat.odd_iff.mpr hb)]; simp

theorem kron2_odd (a : ℤ) (ha : a % 2 = 1) : kron2 a = 1 ∨ kron2 a = -1 := by
  unfold kron2
  dsimp only
  rw [Int.emod_emod_of_dvd a (by norm_num : (2 : ℤ) ∣ 8)]
  split_ifs <;> simp_all

theorem kron2_even (a : ℤ) (ha : a % 2 = 0) : kron2 a = 0 := by
  unfold kron2
  dsimp only
  rw [Int.emod_emod_of_dvd a (by norm_num : (2 : ℤ) ∣ 8), if_pos ha]

theorem pm_one_pow (s : ℤ) (hs : s = 1 ∨ s = -1) (c : Nat) :
    s ^ c = if c % 2 = 1 then s else 1 := by
  rcases Nat.even_or_odd c with hc | hc
  · have : c % 2 ≠ 1 := by rcases hc with ⟨k, rfl⟩; omega
    rw [if_neg this]
    rcases hs with rfl | rfl
    · simp
    · exact hc.neg_one_pow
  · rw [if_pos (Nat.odd_iff.mp hc)]
    rcases hs with rfl | rfl
    · simp
    · exact hc.neg_one_pow

/-- reciprocity with a possibly negative odd numerator (Cohen 1.4.10 step 4). -/
theorem jacobi_recip_int (a : ℤ) (b : Nat) (ha : a % 2 = 1) (hb : b % 2 = 1) :
    jacobiSym a b = (if a % 4 = 3 ∧ (b : ℤ) % 4 = 3 then -1 else 1) * jacobiSym b a.natAbs := by
  have hno : a.natAbs % 2 = 1 := by omega
  rcases le_or_gt 0 a with h | h
  · obtain ⟨n, rfl⟩ := Int.eq_ofNat_of_zero_le h
    rw [Int.natAbs_natCast] at *
    rw [← jacobiSym.quadratic_reciprocity_if hno hb]
    have e1 : (n : ℤ) % 4 = 3 ↔ n % 4 = 3 := by omega
    have e2 : (b : ℤ) % 4 = 3 ↔ b % 4 = 3 := by omega
    simp only [e1, e2]
    split_ifs <;> simp
  · have hn : a = -((a.natAbs : Nat) : ℤ) := by omega
    generalize a.natAbs = n at *
    subst hn
    rw [jacobiSym.neg _ (Nat.odd_iff.mpr hb), ZMod.χ₄_nat_eq_if_mod_four,
      ← jacobiSym.quadratic_reciprocity_if hno hb]
    have e1 : (-(n : ℤ)) % 4 = 3 ↔ n % 4 = 1 := by omega
    have e2 : (b : ℤ) % 4 = 3 ↔ b % 4 = 3 := by omega
    simp only [e1, e2]
    have hn4 : n % 4 = 1 ∨ n % 4 = 3 := by omega
    have hb4 : b % 4 = 1 ∨ b % 4 = 3 := by omega
    rcases hn4 with hn4 | hn4 <;> rcases hb4 with hb4 | hb4 <;> simp [hn4, hb4, hb]

/-- Cohen 1.4.10 steps 3-4: for odd positive b and any integer a, `kronLoop` returns k·(a/b). -/
theorem kronLoop_spec : ∀ (f : Nat) (a : ℤ) (b : Nat) (k : ℤ), b % 2 = 1 → a.natAbs + 1 ≤ f →
    kronLoop f a (b : ℤ) k = k * jacobiSym a b
  | 0, a, b, k, hb, hf => by omega
  | f + 1, a, b, k, hb, hf => by
    rw [kronLoop]
    by_cases ha0 : a = 0
    · subst ha0
      rw [if_pos rfl]
      by_cases hb1 : 1 < b
      · rw [if_pos (by exact_mod_cast hb1), jacobiSym.zero_left hb1, mul_zero]
      · have : b = 1 := by omega
        subst this
        rw [if_neg (by norm_num), jacobiSym.one_right, mul_one]
    rw [if_neg ha0]
    obtain ⟨c, a', hs, hmul, hodd⟩ := stripTwos_spec a ha0
    rw [hs]
    dsimp only
    have hro : a'.natAbs % 2 = 1 := by omega
    have hrpos : (0 : ℤ) < (a'.natAbs : ℤ) := by omega
    have hrle : a'.natAbs ≤ a.natAbs := by
      rw [hmul, Int.natAbs_mul, Int.natAbs_pow]
      exact Nat.le_mul_of_pos_left _ (by positivity)
    have hlt := Int.emod_lt_of_pos (b : ℤ) hrpos
    have hnn := Int.emod_nonneg (b : ℤ) (ne_of_gt hrpos)
    rw [kronLoop_spec f _ a'.natAbs _ hro (by omega), ← jacobiSym.mod_left]
    have hs2 : kron2 (b : ℤ) = 1 ∨ kron2 (b : ℤ) = -1 := kron2_odd _ (by omega)
    have e : jacobiSym a b = (if c % 2 = 1 then kron2 (b : ℤ) else 1) *
        ((if a' % 4 = 3 ∧ (b : ℤ) % 4 = 3 then -1 else 1) * jacobiSym b a'.natAbs) := by
      rw [hmul, jacobiSym.mul_left, jacobiSym.pow_left, ← kron2_nat_odd b hb,
        pm_one_pow _ hs2, jacobi_recip_int a' b hodd hb]
    rw [e]
    split_ifs <;> ring

theorem kronecker_eq_kronSym (a b : ℤ) : kronecker a b = kronSym a b := by
  unfold kronecker kronSym
  by_cases hb0 : b = 0
  · rw [if_pos hb0, if_pos hb0]
  rw [if_neg hb0, if_neg hb0]
  obtain ⟨c, b', hs, hmul, hodd⟩ := stripTwos_spec b hb0
  have hro : b'.natAbs % 2 = 1 := by omega
  have hnat : b.natAbs = 2 ^ c * b'.natAbs := by
    rw [hmul, Int.natAbs_mul, Int.natAbs_pow]; rfl
  have hpv : padicValNat 2 b.natAbs = c := by
    rw [hnat, padicValNat.mul (by positivity) (by omega), padicValNat.prime_pow,
      padicValNat.eq_zero_of_not_dvd (by omega), Nat.add_zero]
  have hdiv : b.natAbs / 2 ^ c = b'.natAbs := by
    rw [hnat, Nat.mul_div_cancel_left _ (by positivity)]
  rw [hpv, hdiv]
  have hc0 : b % 2 = 1 → c = 0 := by
    intro h
    rcases Nat.eq_zero_or_pos c with h0 | h0
    · exact h0
    · exfalso
      obtain ⟨d, rfl⟩ : ∃ d, c = d + 1 := ⟨c - 1, by omega⟩
      rw [pow_succ, mul_assoc] at hmul
      generalize (2 : ℤ) ^ d = p at hmul
      have : b % 2 = 0 := by
        rw [hmul, mul_comm p, mul_assoc]; exact Int.mul_emod_right _ _
      omega
  by_cases hee : a % 2 = 0 ∧ b % 2 = 0
  · rw [if_pos hee, kron2_even a hee.1]
    have : c ≠ 0 := by
      intro h0; subst h0
      rw [pow_zero, one_mul] at hmul; subst hmul; omega
    rw [zero_pow this]; simp
  rw [if_neg hee, hs]
  dsimp only
  rw [kronLoop_spec _ a b'.natAbs _ hro (by omega)]
  have hp : (0 : ℤ) < 2 ^ c := by positivity
  have hneg : b' < 0 ↔ b < 0 := by
    constructor
    · intro h; rw [hmul]; exact mul_neg_of_pos_of_neg hp h
    · intro h
      by_contra hcon
      have : 0 ≤ b := by rw [hmul]; exact mul_nonneg hp.le (not_lt.mp hcon)
      omega
  have hk : (if c % 2 = 0 then 1 else kron2 a) = kron2 a ^ c := by
    by_cases ha : a % 2 = 1
    · rw [pm_one_pow _ (kron2_odd a ha)]
      have : c % 2 = 0 ∨ c % 2 = 1 := by omega
      rcases this with h | h <;> simp [h]
    · have : c = 0 := hc0 (by omega)
      subst this; simp
  rw [hk]
  simp only [hneg]
  split_ifs <;> ring

/-- non-vacuity: negative numerator, even and negative denominators. -/
example : kronecker (-15) 28 = -1 := by decide +kernel
example : kronecker (-7) (-22) = -1 := by decide +kernel
example : kronecker 1001 9907 = -1 := by decide +kernel
example : kronSym (-15) 28 = -1 := by rw [← kronecker_eq_kronSym]; decide +kernel
example : kronSym (-7) (-22) = -1 := by rw [← kronecker_eq_kronSym]; decide +kernel

theorem jacobi_base_eq_kronecker (a b bit : Nat) (hb : b % 2 = 1) (hb1 : 1 < b) :
    jacobi_base a b bit = bit1ToPN bit * kronecker a b := by
  rw [jacobi_base_spec a b bit hb hb1, kronecker_eq_kronSym]
  unfold kronSym
  have hb0 : (b : ℤ) ≠ 0 := by omega
  have hpv : padicValNat 2 b = 0 := padicValNat.eq_zero_of_not_dvd (by omega)
  rw [if_neg hb0, Int.natAbs_natCast, hpv, pow_zero, pow_zero, Nat.div_one,
    if_neg (by omega), one_mul, one_mul]

end Mpir.Gcd
