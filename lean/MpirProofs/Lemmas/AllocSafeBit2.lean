/- Refinement proof for the size-aware model of mpz/combit.c (Mpir/Model/AllocSafeMpz3.lean): extension to
   `limb_index + 1` limbs, then the three arithmetic branches; the negative "clearing" branch reallocates to
   `dsize + 1` AFTER the extension has been written (a second block replacement) and stores the carry limb there. -/
import MpirProofs.Lemmas.AllocSafeBit
namespace Mpir.AllocSafe
open Mpir
open Mpir.Mpz (sgn natAbs_sgn)
open Mpir.Bits (addLimb_len subLimb_len subLimb_limbs addLimb_limbs addLimb_cy)

/-- combit.c:43-81 on the (extended) limbs `dp` -/
def combitZ (neg : Bool) (dp : List Nat) (li bit : Nat) : Bits.Z :=
  if !neg then ⟨false, normalize (dp.set li (dp.getD li 0 ^^^ bit))⟩
  else if Bits.twosLimb dp li &&& bit ≠ 0 then
    ⟨true, normalize (dp.take li ++ (Bits.addLimb (dp.drop li) bit).1 ++ [(Bits.addLimb (dp.drop li) bit).2])⟩
  else ⟨true, normalize (dp.take li ++ (Bits.subLimb (dp.drop li) bit).1)⟩

/-- the limbs after combit.c:34-41 -/
def combitPad (d : List Nat) (li : Nat) : List Nat :=
  if li ≥ d.length then d ++ List.replicate (li + 1 - d.length) 0 else d

theorem mpz_combit_eq (z : Bits.Z) (i : Nat) :
    Bits.mpz_combit z i = combitZ z.neg (combitPad z.mag (i / 64)) (i / 64) (2 ^ (i % 64)) := by
  unfold Bits.mpz_combit combitZ combitPad
  rw [show Bits.addLimb (List.drop (i / 64) (if i / 64 ≥ z.mag.length then z.mag ++ List.replicate (i / 64 + 1 - z.mag.length) 0 else z.mag)) (2 ^ (i % 64)) =
    ((Bits.addLimb (List.drop (i / 64) (if i / 64 ≥ z.mag.length then z.mag ++ List.replicate (i / 64 + 1 - z.mag.length) 0 else z.mag)) (2 ^ (i % 64))).1,
     (Bits.addLimb (List.drop (i / 64) (if i / 64 ≥ z.mag.length then z.mag ++ List.replicate (i / 64 + 1 - z.mag.length) 0 else z.mag)) (2 ^ (i % 64))).2) from rfl]

theorem combit_body_spec {sb sc : St} {d : Nat} {P : List Nat} (W : Wrote sb sc d P) (li bit : Nat)
    (hli : li < P.length) (hbit : bit < B) (hL : Limbs P) (neg : Bool) (hneg : (sc.h d).size ≥ 0 ↔ neg = false)
    (hsz : (sc.h d).size.natAbs ≤ (sb.h d).buf.alloc)
    (h1a : 1 ≤ (sb.h d).buf.alloc) :
    Refines sb (combit_body 1 sc d li bit P.length) d
      (ofZ (if neg = true ∧ Bits.twosLimb P li &&& bit ≠ 0 then max (sb.h d).buf.alloc (P.length + 1) else (sb.h d).buf.alloc)
        (combitZ neg P li bit)) := by
  have hp : sc.PTR d = sb.PTR d := by simp [St.PTR, W.gen]
  unfold combit_body combitZ
  simp only [St.SIZ, hp, W.load li hli]
  cases neg
  · have hpos : (sc.h d).size ≥ 0 := hneg.mpr rfl
    simp only [hpos, if_true, Bool.false_eq_true, false_and, if_false, Bool.not_false]
    have E := (W.store_set li (P.getD li 0 ^^^ bit) hli (xor_lt (getD_lt hL _) hbit)).fin_norm false
    rw [List.length_set] at E
    simpa [sgn, ofZ] using E
  · have hpos : ¬ (sc.h d).size ≥ 0 := fun h => by have := hneg.mp h; cases this
    simp only [hpos, if_false, true_and, Bool.not_true, Bool.false_eq_true]
    obtain ⟨elow, oklow⟩ := W.rd li (by omega)
    simp only [elow, oklow, chk_true]
    rw [show (if (P.take li).any (· != 0) = true then (Bits.negL (P.getD li 0) + B - 1) % B else Bits.negL (P.getD li 0))
        = Bits.twosLimb P li from rfl]
    by_cases hx : Bits.twosLimb P li &&& bit = 0
    · simp only [if_false, hx, ne_eq, not_true_eq_false]
      obtain ⟨e, ok⟩ := W.rd_off li (P.length - li) (by omega)
      rw [List.take_of_length_le (by simp)] at e
      simp only [e, ok, chk_true]
      have hsl := subLimb_len (P.drop li) bit
      have E := (W.wr_tail li (Bits.subLimb (P.drop li) bit).1 (subLimb_limbs _ _ (Limbs_drop hL _))
        (by rw [hsl]; simp; omega)).fin_norm true
      have hMl : (P.take li ++ (Bits.subLimb (P.drop li) bit).1).length = P.length := by simp [hsl]; omega
      rwa [hMl] at E
    · have hx' : (Bits.twosLimb P li &&& bit != 0) = true := by simp [hx]
      simp only [hx', if_true, hx, ne_eq, not_false_eq_true]
      obtain ⟨W3, ha, _, hfr, _⟩ := W.realloc (P.length + 1) (by rw [W.alloc]; exact hsz) h1a
      generalize MPZ_REALLOC sc d (P.length + 1) = s3 at *
      obtain ⟨e, ok⟩ := W3.rd_off li (P.length - li) (by omega)
      rw [List.take_of_length_le (by simp)] at e
      simp only [e, ok, chk_true]
      have hne : P.drop li ≠ [] := by intro h; have := congrArg List.length h; simp at this; omega
      have hal := addLimb_len (P.drop li) bit
      have hac := addLimb_cy (P.drop li) bit hne
      have W4 := W3.wr_tail li (Bits.addLimb (P.drop li) bit).1 (addLimb_limbs _ _ (Limbs_drop hL _))
        (by rw [hal]; simp; omega)
      generalize (Bits.addLimb (P.drop li) bit).1 = r at *
      generalize (Bits.addLimb (P.drop li) bit).2 = c at *
      have hXl : (P.take li ++ r).length = P.length := by simp [hal]; omega
      have W5 := W4.append [c] (limb_singleton (by unfold B; omega)) (by rw [ha, hXl]; simp)
      rw [hXl] at W5
      refine Refines.rebase ?_ hfr
      rw [← ha]
      by_cases hc : c = 0
      · subst hc
        rw [normalize_snoc, if_pos rfl]
        have W6 := W5.take P.length
        rw [List.take_append_of_le_length (by omega), List.take_of_length_le (by omega)] at W6
        have E := W6.fin_norm true
        rw [hXl] at E
        simpa [St.store, ofZ] using E
      · have hc1 : c = 1 := by omega
        subst hc1
        have hl2 : (P.take li ++ r ++ [1]).length = P.length + 1 := by simp [hal]; omega
        have E := W5.fin_norm true
        rw [hl2] at E
        simpa [St.store, ofZ] using E

/-- value-level result of mpz_combit with the allocation the C leaves: `limb_index + 1` limbs when the bit lies above
    the number, and `dsize + 1` whenever the negative "clearing" branch is taken (whether or not the carry comes) -/
def Spec.combit (w : Mpz.Mpz) (i : Nat) : Mpz.Mpz :=
  let li := i / 64
  let dp := combitPad w.d li
  let a1 := if li ≥ w.size.natAbs then max w.alloc (li + 1) else w.alloc
  let a2 := if w.size < 0 ∧ Bits.twosLimb dp li &&& 2 ^ (i % 64) ≠ 0 then max a1 (dp.length + 1) else a1
  ofZ a2 (Bits.mpz_combit (zOf w) i)

theorem combit_refines (s : St) (d i : Nat) (hs : s.ok = true) (hd : OWF (s.h d)) :
    Refines s (combit 1 s d i) d (Spec.combit (view (s.h d)) i) := by
  have O := Opnd.of_owf hd
  have W0 := O.wrote hs
  have hD := O.len
  have hfit := view_fit hd
  unfold Spec.combit
  rw [mpz_combit_eq, zOf_view O]
  dsimp only [view_size, view_alloc]
  generalize (view (s.h d)).d = D at *
  have hbit := Bits.bit_lt_B i
  have hnegiff : ∀ sc : St, (sc.h d).size = (s.h d).size →
      ((sc.h d).size ≥ 0 ↔ decide ((s.h d).size < 0) = false) := by
    intro sc h; rw [h]; simp
  unfold combit
  simp only [St.ABSIZ]
  by_cases hge : i / 64 ≥ (s.h d).size.natAbs
  · have hge' : i / 64 ≥ D.length := by omega
    simp only [hge, if_true]
    have hpad : combitPad D (i / 64) = D ++ List.replicate (i / 64 + 1 - D.length) 0 := by
      unfold combitPad; rw [if_pos hge']
    rw [hpad]
    obtain ⟨W3, ha, hsize3, hfr, _⟩ := W0.realloc (i / 64 + 1) hfit hd.alloc_pos
    generalize MPZ_REALLOC s d (i / 64 + 1) = s3 at *
    have W4 := W3.append (List.replicate (i / 64 + 1 - D.length) 0) (Limbs_replicate_zero _) (by rw [ha]; simp; omega)
    have hPl : (D ++ List.replicate (i / 64 + 1 - D.length) 0).length = i / 64 + 1 := by simp; omega
    have hsz4 : ((s3.wr ((s3.PTR d).add D.length) (List.replicate (i / 64 + 1 - D.length) 0)).h d).size = (s.h d).size := by
      simp only [wr_size]; exact hsize3
    have E := combit_body_spec W4 (i / 64) (2 ^ (i % 64)) (by rw [hPl]; omega) hbit
      (Limbs_append.mpr ⟨O.limbs, Limbs_replicate_zero _⟩) (decide ((s.h d).size < 0)) (hnegiff _ hsz4)
      (by rw [hsz4, ha]; omega) (by rw [ha]; omega)
    rw [hPl, ha] at E
    simp only [decide_eq_true_eq] at E
    rw [hPl, ← hD]
    exact E.rebase hfr
  · have hge' : ¬ i / 64 ≥ D.length := by omega
    simp only [hge, if_false]
    have hpad : combitPad D (i / 64) = D := by unfold combitPad; rw [if_neg hge']
    rw [hpad]
    have E := combit_body_spec W0 (i / 64) (2 ^ (i % 64)) (by omega) hbit O.limbs (decide ((s.h d).size < 0)) (hnegiff _ rfl)
      hfit hd.alloc_pos
    simp only [decide_eq_true_eq] at E
    rw [← hD]
    exact E

theorem combit_need_le (w : Mpz.Mpz) (hw : Mpz.WF w) (i : Nat) :
    (Bits.mpz_combit (zOf w) i).mag.length ≤
      (if w.size < 0 ∧ Bits.twosLimb (combitPad w.d (i / 64)) (i / 64) &&& 2 ^ (i % 64) ≠ 0 then
        max (if i / 64 ≥ w.size.natAbs then max w.alloc (i / 64 + 1) else w.alloc) ((combitPad w.d (i / 64)).length + 1)
       else (if i / 64 ≥ w.size.natAbs then max w.alloc (i / 64 + 1) else w.alloc)) := by
  obtain ⟨_, hfit, hl, _, _⟩ := hw
  rw [mpz_combit_eq]
  have hzof : zOf w = ⟨decide (w.size < 0), w.d⟩ := rfl
  rw [hzof]
  dsimp only
  have hPl : (combitPad w.d (i / 64)).length ≤ (if i / 64 ≥ w.size.natAbs then max w.alloc (i / 64 + 1) else w.alloc) := by
    unfold combitPad
    by_cases h : i / 64 ≥ w.d.length
    · have h' : i / 64 ≥ w.size.natAbs := by omega
      rw [if_pos h, if_pos h']; simp; omega
    · have h' : ¬ i / 64 ≥ w.size.natAbs := by omega
      rw [if_neg h, if_neg h']; omega
  generalize combitPad w.d (i / 64) = P at *
  generalize (if i / 64 ≥ w.size.natAbs then max w.alloc (i / 64 + 1) else w.alloc) = a1 at *
  unfold combitZ
  by_cases hn : w.size < 0
  · simp only [hn, decide_true, Bool.not_true, Bool.false_eq_true, if_false, true_and]
    by_cases hx : Bits.twosLimb P (i / 64) &&& 2 ^ (i % 64) ≠ 0
    · simp only [hx, ne_eq, not_false_eq_true, if_true]
      refine Nat.le_trans (normalize_length_le _) ?_
      simp [addLimb_len]; omega
    · simp only [hx, if_false]
      refine Nat.le_trans (normalize_length_le _) ?_
      simp [subLimb_len]; omega
  · simp only [hn, decide_false, Bool.not_false, if_true, false_and, if_false]
    refine Nat.le_trans (normalize_length_le _) ?_
    simp; omega

end Mpir.AllocSafe
