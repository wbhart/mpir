/-
  C16 part binsmall: the dispatcher mpz_bin_uiui (mpz/bin_uiui.c:708-742) — every branch returns binomial (n, k).
-/
import MpirProofs.Lemmas.BinBdiv
import MpirProofs.Lemmas.Goet
namespace Mpir.Numth
open Mpir Mpir.Gen.NumthTabs Mpir.Sieve Nat

theorem bin_dispatch_consts : ODD_FACTORIAL_TABLE_LIMIT = 25 ∧ ODD_CENTRAL_BINOMIAL_TABLE_LIMIT = 35 ∧
    ODD_FACTORIAL_EXTTABLE_LIMIT = 67 ∧ BIN_UIUI_RECURSIVE_SMALLDC = 1 ∧ BIN_UIUI_ENABLE_SMALLDC = 1 := by decide

/-- after `k = MIN (k, n - k)` -/
theorem mpz_bin_uiui_reduced (n k : ℕ) (hn : n < B) (h2k : 2 * k ≤ n) :
    (match (if k < 2 then (BinAlg.tiny, k)
      else if n ≤ ODD_FACTORIAL_EXTTABLE_LIMIT then (BinAlg.bc, k)
      else if k ≤ ODD_FACTORIAL_TABLE_LIMIT then (BinAlg.smallk, k)
      else if BIN_UIUI_ENABLE_SMALLDC ≠ 0 ∧
          k ≤ (if BIN_UIUI_RECURSIVE_SMALLDC ≠ 0 then ODD_CENTRAL_BINOMIAL_TABLE_LIMIT else ODD_FACTORIAL_TABLE_LIMIT) * 2 then (BinAlg.smallkdc, k)
      else if aboveThreshold k BIN_GOETGHELUCK_THRESHOLD ∧ k > n / 16 then (BinAlg.goetgheluck, k)
      else (BinAlg.bdiv, k)) with
    | (.zero, _) => some 0
    | (.tiny, k) => some (if k ≠ 0 then n else 1)
    | (.bc, k) => some (bc_bin_uiui n k)
    | (.smallk, k) => some (smallk_bin_uiui n k)
    | (.smallkdc, k) => some (smallkdc_bin_uiui 8 n k)
    | (.goetgheluck, k) => some (goetgheluck_bin_uiui n k)
    | (.bdiv, k) => bdiv_bin_uiui n k) = some (n.choose k) := by
  obtain ⟨c1, c2, c3, c4, c5⟩ := bin_dispatch_consts
  by_cases h2 : k < 2
  · rw [if_pos h2]
    simp only
    have : k = 0 ∨ k = 1 := by omega
    rcases this with rfl | rfl <;> simp
  rw [if_neg h2]
  by_cases h3 : n ≤ ODD_FACTORIAL_EXTTABLE_LIMIT
  · rw [if_pos h3]
    simp only
    rw [bc_bin_uiui_binom n (by omega) k (by omega) (by omega) (by omega), binom_eq_choose]
  rw [if_neg h3]
  by_cases h4 : k ≤ ODD_FACTORIAL_TABLE_LIMIT
  · rw [if_pos h4]
    simp only
    rw [smallk_bin_uiui_eq n k (by omega) h4 (by omega) hn]
  rw [if_neg h4]
  by_cases h5 : BIN_UIUI_ENABLE_SMALLDC ≠ 0 ∧
      k ≤ (if BIN_UIUI_RECURSIVE_SMALLDC ≠ 0 then ODD_CENTRAL_BINOMIAL_TABLE_LIMIT else ODD_FACTORIAL_TABLE_LIMIT) * 2
  · rw [if_pos h5]
    simp only
    have h5' : k ≤ 2 * ODD_CENTRAL_BINOMIAL_TABLE_LIMIT := by
      have := h5.2
      rw [c4] at this
      simp only [Nat.one_ne_zero, ne_eq, not_false_eq_true, if_true] at this
      omega
    -- 8 is the recursion allowance `binDispatch` hands to `smallkdc_bin_uiui`; `smallkdc_bin_uiui_eq` needs k ≤ 25·2^8, here k ≤ 70
    rw [smallkdc_bin_uiui_eq 8 n k (by omega) h5' (by rw [c2] at h5'; omega) h2k hn]
  rw [if_neg h5]
  by_cases h6 : aboveThreshold k BIN_GOETGHELUCK_THRESHOLD = true ∧ k > n / 16
  · rw [if_pos h6]
    simp only
    rw [goetgheluck_eq_choose n k (by omega) hn h2k (by rw [nb_eq, nb_eq]; omega)]
  · rw [if_neg h6]
    simp only
    exact bdiv_bin_uiui_eq n k (by omega) h2k hn

theorem mpz_bin_uiui_eq (n k0 : ℕ) (hn : n < B) : mpz_bin_uiui n k0 = some (n.choose k0) := by
  unfold mpz_bin_uiui binDispatch
  by_cases h1 : n < k0
  · simp [h1, Nat.choose_eq_zero_of_lt h1]
  · rw [if_neg h1]
    have hk0 : k0 ≤ n := by omega
    have hsym : n.choose (min k0 (n - k0)) = n.choose k0 := by
      rcases Nat.le_total k0 (n - k0) with h | h
      · rw [Nat.min_eq_left h]
      · rw [Nat.min_eq_right h, Nat.choose_symm hk0]
    rw [← hsym]
    have h2k : 2 * min k0 (n - k0) ≤ n := by
      have hm1 : min k0 (n - k0) ≤ k0 := Nat.min_le_left _ _
      have hm2 : min k0 (n - k0) ≤ n - k0 := Nat.min_le_right _ _
      omega
    exact mpz_bin_uiui_reduced n (min k0 (n - k0)) hn h2k

end Mpir.Numth
