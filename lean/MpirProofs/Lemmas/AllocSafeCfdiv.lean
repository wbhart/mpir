/- mpz_cfdiv_q_2exp (Mpir/Model/AllocSafeMpz3.lean): the rounding tail (`roundTail_spec`: with `wsize + 1` limbs of room the
   `mpn_add_1` + carry store of cfdiv_q_2exp.c:74-89 stays inside), the refinement proof (the `tdiv_q_2exp` pattern composed with
   it), and the value of the list-level result `Spec.cfdiv_q_2exp`: ⌈u / 2^cnt⌉ (dir = 1) resp. ⌊u / 2^cnt⌋ (dir = -1). -/

import MpirProofs.Lemmas.AllocSafeMpz
import Mpir.Model.AllocSafeMpz3
import MpirProofs.Lemmas.AllocSafeSpec
import MpirProofs.Lemmas.DivZ
import MpirProofs.Lemmas.Bits

section
namespace Mpir.AllocSafe
open Mpir
open Mpir.Mpz (sgn natAbs_sgn)

/-- cfdiv_q_2exp.c:74-89 on the list -/
def Spec.roundZ (T : List Nat) (round : Bool) : List Nat :=
  if round then
    if T.length != 0 then ((Mpir.add_1 T 1).1 ++ [(Mpir.add_1 T 1).2]).take (T.length + (Mpir.add_1 T 1).2)
    else [1]
  else T

/-- value-level result of mpz_cdiv_q_2exp / mpz_fdiv_q_2exp with the allocation -/
def Spec.cfdiv_q_2exp (w u : Mpz.Mpz) (cnt : Nat) (dir : Int) : Mpz.Mpz :=
  let k := cnt / 64
  if u.size.natAbs ≤ k then
    ⟨w.alloc, (if u.size == 0 || (decide (u.size < 0) != decide (dir < 0)) then 0 else dir),
      [1].take (if u.size == 0 || (decide (u.size < 0) != decide (dir < 0)) then (0 : Int) else dir).natAbs⟩
  else
    let n := u.size.natAbs - k
    let a := (Mpz.grow w (n + 1)).alloc
    let rmask := decide (u.size < 0) == decide (dir < 0)
    let round0 := rmask && (u.d.take k).any (· != 0)
    if cnt % 64 != 0 then
      let r := Mpir.rshift (u.d.drop k) (cnt % 64)
      let T := r.1.take (n - (if r.1.getD (n - 1) 0 == 0 then 1 else 0))
      ⟨a, sgn (u.size < 0) (Spec.roundZ T (round0 || (rmask && r.2 != 0))).length, Spec.roundZ T (round0 || (rmask && r.2 != 0))⟩
    else
      ⟨a, sgn (u.size < 0) (Spec.roundZ (u.d.drop k) round0).length, Spec.roundZ (u.d.drop k) round0⟩

theorem roundTail_spec {s1 s2 : St} {w : Nat} {T : List Nat} (W : Wrote s1 s2 w T) (round : Bool)
    (hfit : T.length + 1 ≤ (s1.h w).buf.alloc) :
    (roundTail s2 (s1.PTR w) T.length round).2 = (Spec.roundZ T round).length ∧
    Wrote s1 (roundTail s2 (s1.PTR w) T.length round).1 w (Spec.roundZ T round) := by
  unfold roundTail Spec.roundZ
  cases round
  · simp only [Bool.false_eq_true, if_false]; exact ⟨trivial, W⟩
  · simp only [if_true]
    by_cases h0 : T.length = 0
    · have hT : T = [] := List.length_eq_zero_iff.mp h0
      subst hT
      simp only [List.length_nil, bne_self_eq_false, Bool.false_eq_true, if_false]
      have W1 := W.wr 0 [1] (limb_singleton (by unfold B; omega)) (by simp) (by simp; omega)
      exact ⟨rfl, by simpa [St.store] using W1⟩
    · have h0' : (T.length != 0) = true := by simpa using h0
      simp only [h0', if_true]
      have hne : T ≠ [] := by intro h; rw [h] at h0; simp at h0
      obtain ⟨e, ok⟩ := W.rd T.length (Nat.le_refl _)
      rw [List.take_length] at e
      obtain ⟨_, ac, al, an⟩ := add_1_val' T 1 W.limbs (List.length_pos_iff.mpr hne) (by unfold B; omega)
      simp only [mpn_add_1, e, ok]
      have W1 := (W.chk true rfl).wr 0 (Mpir.add_1 T 1).1 al (by omega) (by omega)
      simp only [add_zero_ptr, List.take_zero, List.nil_append, Nat.zero_add, an, List.drop_length, List.append_nil] at W1
      have W2 := W1.append [(Mpir.add_1 T 1).2] (limb_singleton (by unfold B; omega)) (by rw [an]; simpa using hfit)
      rw [an] at W2
      have W3 := W2.take (T.length + (Mpir.add_1 T 1).2)
      refine ⟨?_, by simpa [St.store] using W3⟩
      simp [an]; omega

end Mpir.AllocSafe
end

section
namespace Mpir.AllocSafe
open Mpir
open Mpir.Mpz (sgn natAbs_sgn Norm WF toInt mk_spec grow_alloc WF_iff)

/-- cfdiv_q_2exp.c:74-90 after `T` has been written: the rounding tail and the size store -/
theorem roundTail_refines {s1 s2 : St} {w : Nat} {T : List Nat} (W : Wrote s1 s2 w T) (round neg : Bool)
    (hfit : T.length + 1 ≤ (s1.h w).buf.alloc) :
    Refines s1 ((roundTail s2 (s1.PTR w) T.length round).1.setSize w
        (sgn neg (roundTail s2 (s1.PTR w) T.length round).2)) w
      ⟨(s1.h w).buf.alloc, sgn neg (Spec.roundZ T round).length, Spec.roundZ T round⟩ := by
  obtain ⟨e2, W2⟩ := roundTail_spec W round hfit
  rw [e2]
  have R := (W2.setSize (sgn neg (Spec.roundZ T round).length)).refines (sgn neg (Spec.roundZ T round).length)
    (by simp) (by rw [natAbs_sgn])
  rw [natAbs_sgn, List.take_length] at R
  exact R

theorem cfdiv_q_2exp_refines (s : St) (w u : Nat) (cnt : Nat) (dir : Int) (hdir : dir.natAbs ≤ 1) (hs : s.ok = true)
    (hw : OWF (s.h w)) (hu : OWF (s.h u)) :
    Refines s (cfdiv_q_2exp 1 s w u cnt dir) w (Spec.cfdiv_q_2exp (view (s.h w)) (view (s.h u)) cnt dir) := by
  unfold cfdiv_q_2exp Spec.cfdiv_q_2exp
  rw [show s.SIZ u = (s.h u).size from rfl]
  have e1 : (view (s.h u)).size = (s.h u).size := rfl
  rw [e1]
  have hul := view_d_length hu
  by_cases hle : (s.h u).size.natAbs ≤ cnt / 64
  · simp only [hle, ↓reduceIte]
    have key : ∀ z : Int, z.natAbs ≤ 1 →
        Refines s ((s.store (s.PTR w) 0 1).setSize w z) w ⟨(view (s.h w)).alloc, z, [1].take z.natAbs⟩ := by
      intro z hz
      have T := (Wrote.fresh s w [1] true hs rfl hw.1 (limb_singleton (by unfold B; omega)) hw.alloc_pos).fin z (by simpa using hz)
      have ea2 : (view (s.h w)).alloc = (s.h w).buf.alloc := rfl
      rw [ea2]
      simpa [St.store, St.chk] using T
    apply key
    split
    · simp
    · exact hdir
  · simp only [hle, ↓reduceIte]
    have G := MPZ_REALLOC_grown s w ((s.h u).size.natAbs - cnt / 64 + 1) hw
    obtain ⟨elow, oklow⟩ := grown_rd G u (cnt / 64) hu (by omega)
    obtain ⟨W0, Wc⟩ := G.shift_down hs hw hu (Nat.lt_of_not_le hle) (Nat.le_succ _)
    have hroom := G.room
    rw [← G.alloc]
    refine Refines.of_grown G ?_
    simp only [elow, oklow, chk_true, ite_self]
    by_cases h0 : cnt % 64 = 0
    · simp only [h0, bne_self_eq_false, Bool.false_eq_true, if_false]
      have R := roundTail_refines W0
        ((decide ((s.h u).size < 0) == decide (dir < 0)) && ((view (s.h u)).d.take (cnt / 64)).any (· != 0))
        (decide ((s.h u).size < 0)) (by rw [List.length_drop, hul]; omega)
      rwa [List.length_drop, hul] at R
    · have h0' : (cnt % 64 != 0) = true := by simpa using h0
      obtain ⟨s2, e, W, rn⟩ := Wc (cnt % 64) (by omega) (by omega)
      simp only [h0', if_true, e]
      generalize Mpir.rshift ((view (s.h u)).d.drop (cnt / 64)) (cnt % 64) = r at *
      have hld := W.load ((s.h u).size.natAbs - cnt / 64 - 1) (by omega)
      simp only [hld]
      have W2 := W.take ((s.h u).size.natAbs - cnt / 64 -
        (if r.1.getD ((s.h u).size.natAbs - cnt / 64 - 1) 0 == 0 then 1 else 0))
      have hTl : (r.1.take ((s.h u).size.natAbs - cnt / 64 -
          (if r.1.getD ((s.h u).size.natAbs - cnt / 64 - 1) 0 == 0 then 1 else 0))).length =
          (s.h u).size.natAbs - cnt / 64 - (if r.1.getD ((s.h u).size.natAbs - cnt / 64 - 1) 0 == 0 then 1 else 0) := by
        rw [List.length_take, rn]; split <;> omega
      have R := roundTail_refines W2
        ((decide ((s.h u).size < 0) == decide (dir < 0)) && ((view (s.h u)).d.take (cnt / 64)).any (· != 0) ||
          ((decide ((s.h u).size < 0) == decide (dir < 0)) && r.2 != 0))
        (decide ((s.h u).size < 0)) (by rw [hTl]; split <;> omega)
      rw [hTl] at R
      exact R

theorem Norm_one : Norm [1] := ⟨limb_singleton (by unfold B; omega), by simp⟩

theorem Spec.roundZ_spec (T : List Nat) (hT : Norm T) (round : Bool) :
    Norm (Spec.roundZ T round) ∧ val (Spec.roundZ T round) = val T + (if round then 1 else 0) ∧
    (Spec.roundZ T round).length ≤ T.length + 1 := by
  unfold Spec.roundZ
  cases round
  · simp only [Bool.false_eq_true, if_false]; exact ⟨hT, by omega, by omega⟩
  · simp only [if_true]
    by_cases h0 : T.length = 0
    · have hT0 : T = [] := List.length_eq_zero_iff.mp h0
      subst hT0
      simp only [List.length_nil, bne_self_eq_false, Bool.false_eq_true, if_false]
      exact ⟨Norm_one, by simp, by simp⟩
    · have h0' : (T.length != 0) = true := by simpa using h0
      simp only [h0', if_true]
      have hne : T ≠ [] := by intro h; rw [h] at h0; simp at h0
      obtain ⟨av, ac, al, an⟩ := add_1_val' T 1 hT.1 (List.length_pos_iff.mpr hne) (by unfold B; omega)
      have hlow := hT.lower hne
      by_cases hcy : (Mpir.add_1 T 1).2 = 0
      · rw [hcy] at av ⊢
        rw [Nat.add_zero, List.take_append_of_le_length (by omega), List.take_of_length_le (by omega)]
        refine ⟨Norm.of_lower al (Or.inr (by rw [an]; omega)), by omega, by omega⟩
      · have h1 : (Mpir.add_1 T 1).2 = 1 := by omega
        rw [h1] at av ⊢
        rw [List.take_of_length_le (by simp [an])]
        refine ⟨⟨Limbs_append.mpr ⟨al, limb_singleton (by unfold B; omega)⟩, by simp⟩, ?_, by simp [an]⟩
        rw [val_append, an]; simp only [val_cons, val_nil]; omega

/-- the C's rule "magnitude quotient, plus one when the signs of u and dir agree and a one bit was shifted out" is the
    floor (dir = -1) resp. ceiling (dir = 1) quotient -/
theorem specQ_signmag (dir : Int) (hdir : dir = -1 ∨ dir = 1) (neg : Prop) [Decidable neg] (m cnt : Nat) (hm : neg → 0 < m) :
    DivZ.specQ dir (if neg then -(m : Int) else (m : Int)) ((2 ^ cnt : Nat) : Int) =
      (if neg then -((m / 2 ^ cnt + (if (neg ↔ dir < 0) ∧ m % 2 ^ cnt ≠ 0 then 1 else 0) : Nat) : Int)
       else ((m / 2 ^ cnt + (if (neg ↔ dir < 0) ∧ m % 2 ^ cnt ≠ 0 then 1 else 0) : Nat) : Int)) :=
  DivZ.specQ_signmag dir hdir neg m (2 ^ cnt) (Nat.pow_pos (by decide)).ne' hm

theorem Spec.cfdiv_q_2exp_spec (w u : Mpz.Mpz) (cnt : Nat) (dir : Int) (hdir : dir = -1 ∨ dir = 1) (hw : 1 ≤ w.alloc)
    (hu : WF u) :
    WF (Spec.cfdiv_q_2exp w u cnt dir) ∧
    toInt (Spec.cfdiv_q_2exp w u cnt dir) = DivZ.specQ dir (toInt u) ((2 ^ cnt : Nat) : Int) := by
  obtain ⟨_, _, hul, hun⟩ := (WF_iff u).mp hu
  have hcnt := two_pow_split cnt
  have hmpos : u.size < 0 → 0 < val u.d := by
    intro h
    exact hun.pos (by intro h0; rw [h0] at hul; simp at hul; omega)
  have hdneg : dir < 0 ↔ dir = -1 := by rcases hdir with e | e <;> subst e <;> simp
  rw [Mpz.toInt_eq u]
  unfold Mpz.sval
  rw [specQ_signmag dir hdir (u.size < 0) (val u.d) cnt hmpos]
  unfold Spec.cfdiv_q_2exp
  dsimp only
  by_cases hle : u.size.natAbs ≤ cnt / 64
  · rw [if_pos hle]
    have hlt : val u.d < 2 ^ cnt := val_lt_two_pow hun.1 (by omega)
    rw [Nat.div_eq_of_lt hlt, Nat.mod_eq_of_lt hlt]
    by_cases h0 : u.size = 0
    · have hd : u.d = [] := List.length_eq_zero_iff.mp (by rw [hul, h0]; rfl)
      simp only [h0, beq_self_eq_true, Bool.true_or, if_true, hd]
      exact ⟨(WF_iff _).mpr ⟨hw, by simp, by simp, Mpz.Norm_nil⟩, by simp [toInt]⟩
    · have hne : u.d ≠ [] := by intro h; rw [h] at hul; simp at hul; omega
      have hpos := hun.pos hne
      have h0' : (u.size == 0) = false := by simpa using h0
      simp only [h0', Bool.false_or]
      by_cases hsg : (u.size < 0 ↔ dir < 0)
      · have hb : (decide (u.size < 0) != decide (dir < 0)) = false := by simp [hsg]
        simp only [hb, Bool.false_eq_true, if_false]
        have hda : dir.natAbs = 1 := by rcases hdir with e | e <;> subst e <;> rfl
        rw [hda, List.take_of_length_le (by simp)]
        refine ⟨(WF_iff _).mpr ⟨hw, by simp [hda]; omega, by simp [hda], Norm_one⟩, ?_⟩
        have hc : (u.size < 0 ↔ dir < 0) ∧ val u.d ≠ 0 := ⟨hsg, by omega⟩
        simp only [hc, toInt]
        by_cases hn : u.size < 0
        · have : dir = -1 := hdneg.mp (hsg.mp hn)
          simp [this]; omega
        · have : dir = 1 := by
            rcases hdir with e | e
            · exact absurd (hsg.mpr (by omega)) hn
            · exact e
          simp [this]; omega
      · have hb : (decide (u.size < 0) != decide (dir < 0)) = true := by simp [hsg]
        simp only [hb, if_true]
        refine ⟨(WF_iff _).mpr ⟨hw, by simp, by simp, Mpz.Norm_nil⟩, ?_⟩
        simp [toInt, hsg]
  · rw [if_neg hle]
    obtain ⟨ga1, ga2⟩ := grow_alloc w (u.size.natAbs - cnt / 64 + 1)
    have hND := Norm_drop hun (cnt / 64) (by omega)
    have hdl : (u.d.drop (cnt / 64)).length = u.size.natAbs - cnt / 64 := by simp; omega
    have hvd := val_drop_eq_div u.d hun.1 (cnt / 64)
    have hne : u.d.drop (cnt / 64) ≠ [] := by intro h; rw [h] at hdl; simp at hdl; omega
    have hvt : val (u.d.take (cnt / 64)) = val u.d % B ^ (cnt / 64) := by
      have h := val_take_drop u.d (cnt / 64) (by omega)
      have hlt : val (u.d.take (cnt / 64)) < B ^ (cnt / 64) := by
        have := val_lt (u.d.take (cnt / 64)) (Limbs_take hun.1 _)
        rwa [List.length_take, Nat.min_eq_left (by omega)] at this
      rw [h, Nat.add_mul_mod_self_left, Nat.mod_eq_of_lt hlt]
    have hany : ((u.d.take (cnt / 64)).any (· != 0) = true) ↔ val u.d % B ^ (cnt / 64) ≠ 0 := by
      rw [← hvt]
      have := Bits.val_eq_zero_iff (u.d.take (cnt / 64))
      constructor
      · intro h hz; rw [this.mp hz] at h; cases h
      · intro h
        by_contra hc
        exact h (this.mpr (by simpa using hc))
    have hrm : ((decide (u.size < 0) == decide (dir < 0)) = true) ↔ (u.size < 0 ↔ dir < 0) := by simp
    have fin : ∀ (T : List Nat) (rnd : Bool), Norm T → T.length ≤ u.size.natAbs - cnt / 64 →
        val T = val u.d / 2 ^ cnt → (rnd = true ↔ ((u.size < 0 ↔ dir < 0) ∧ val u.d % 2 ^ cnt ≠ 0)) →
        WF ⟨(Mpz.grow w (u.size.natAbs - cnt / 64 + 1)).alloc, sgn (u.size < 0) (Spec.roundZ T rnd).length, Spec.roundZ T rnd⟩ ∧
        toInt ⟨(Mpz.grow w (u.size.natAbs - cnt / 64 + 1)).alloc, sgn (u.size < 0) (Spec.roundZ T rnd).length, Spec.roundZ T rnd⟩ =
          (if u.size < 0 then
            -((val u.d / 2 ^ cnt + (if (u.size < 0 ↔ dir < 0) ∧ val u.d % 2 ^ cnt ≠ 0 then 1 else 0) : Nat) : Int)
           else ((val u.d / 2 ^ cnt + (if (u.size < 0 ↔ dir < 0) ∧ val u.d % 2 ^ cnt ≠ 0 then 1 else 0) : Nat) : Int)) := by
      intro T rnd hT hTl hTv hr
      obtain ⟨rN, rv, rl⟩ := Spec.roundZ_spec T hT rnd
      obtain ⟨wf, ti⟩ := mk_spec (Mpz.grow w (u.size.natAbs - cnt / 64 + 1)).alloc _ (decide (u.size < 0)) _ rfl rN
        (by omega) (by omega)
      refine ⟨wf, ?_⟩
      rw [ti, rv, hTv]
      have e : (if rnd = true then 1 else 0) = (if (u.size < 0 ↔ dir < 0) ∧ val u.d % 2 ^ cnt ≠ 0 then 1 else 0) := by
        by_cases h : rnd = true
        · rw [if_pos h, if_pos (hr.mp h)]
        · rw [if_neg h, if_neg (fun hc => h (hr.mpr hc))]
      rw [e]; simp
    by_cases h0 : cnt % 64 = 0
    · have h0' : (cnt % 64 != 0) = false := by simp [h0]
      rw [h0']; simp only [Bool.false_eq_true, if_false]
      have h2 : (2 : Nat) ^ cnt = B ^ (cnt / 64) := by rw [hcnt, h0]; simp
      refine fin _ _ hND (by omega) (by rw [hvd, h2]) ?_
      rw [Bool.and_eq_true, hrm, hany, h2]
    · have h0' : (cnt % 64 != 0) = true := by simp [h0]
      rw [h0']; simp only [if_true]
      obtain ⟨tn, tv, tl, _, _, hout, htop⟩ := rshift_strip _ (cnt % 64) hND hne h0 (Nat.mod_lt _ (by omega))
      rw [htop, hdl] at tn tv tl
      rw [hvd] at hout
      refine fin _ _ tn (by rw [tl]; omega) (by rw [tv, hvd, hcnt, Nat.div_div_eq_div_mul]) ?_
      rw [← DivZ.low_bits_ne_zero_iff]
      rw [Bool.or_eq_true, Bool.and_eq_true, Bool.and_eq_true, hrm, hany, hout]
      exact and_or_left.symm

end Mpir.AllocSafe
end
