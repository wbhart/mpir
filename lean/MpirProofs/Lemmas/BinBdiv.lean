/-
  Lemmas for C16 part binsmall: mpz_bdiv_bin_uiui (mpz/bin_uiui.c:242-358) — the divisor / dividend accumulation loops,
  the size bookkeeping `nn += (np[nn-1] >= kp[kn-1]); nn -= kn`, the exact 2-adic division (mpn_sb_bdiv_q replaced by its
  meaning N·D⁻¹ mod B^nn) and the final shift.
-/
import MpirProofs.Lemmas.BinSmall
import Mathlib.Data.Nat.Choose.Factorization
namespace Mpir.Numth
open Mpir Mpir.Gen.NumthTabs Nat

theorem mulfunc_lt (w m : ℕ) (hw1 : 1 ≤ w) (hw8 : w ≤ 8) (hm : m < B) : mulfunc w m < B := by
  have hB := B_pos
  interval_cases w <;> first | exact hm | exact Nat.mod_lt _ hB

theorem chunk_spec (w m : ℕ) (hw1 : 1 ≤ w) (hw8 : w ≤ 8) (hm : 1 ≤ m) (hfit : (m + w - 1) ^ w < B) :
    (mulfunc w m >>> ctz (mulfunc w m)) * 2 ^ (tcnt (w - 1) + ctz (mulfunc w m)) = m.ascFactorial w ∧
    (mulfunc w m >>> ctz (mulfunc w m)) % 2 = 1 ∧ mulfunc w m >>> ctz (mulfunc w m) < B := by
  have hs := mulfunc_spec w m hw1 hw8 hfit
  have hmB : m < B := by simpa using chunk_fit (show m ≤ m + w - 1 by omega) hw1 hfit
  have hlt := mulfunc_lt w m hw1 hw8 hmB
  have hpos : 0 < m.ascFactorial w := by
    have := Nat.ascFactorial_pos (m - 1) w
    rwa [Nat.sub_add_cancel hm] at this
  have hne : mulfunc w m ≠ 0 := by
    intro h; rw [h] at hs; omega
  generalize mulfunc w m = raw at *
  obtain ⟨e1, e2⟩ := ctzAux_spec 64 raw hne (by rw [B_eq] at hlt; norm_num; exact hlt)
  unfold ctz
  refine ⟨?_, e2, lt_of_le_of_lt ?_ hlt⟩
  · rw [← hs, add_comm (tcnt (w - 1)), pow_add, ← mul_assoc, ← e1]
  · rw [Nat.shiftRight_eq_div_pow]; exact Nat.div_le_self _ _

theorem odd_mul_odd {a b : ℕ} (ha : a % 2 = 1) (hb : b % 2 = 1) : a * b % 2 = 1 := by
  rw [Nat.mul_mod, ha, hb]

/-- `cy = mpn_mul_1 (p, p, nn, x); p[nn] = cy; nn += cy != 0` keeps `p < B^nn` (all that holds of the dividend, whose top limb
    may be zero after a division) -/
theorem size_step_hi {p x nn : ℕ} (hhi : p < B ^ nn) (hx : x < B) :
    p * x < B ^ (nn + (if p * x / B ^ nn ≠ 0 then 1 else 0)) := by
  have hBn : 0 < B ^ nn := Nat.pow_pos B_pos
  have hup : p * x < B ^ (nn + 1) := by
    rw [pow_succ]
    rcases Nat.eq_zero_or_pos x with h0 | h0
    · subst h0; rw [Nat.mul_zero, ← pow_succ]; exact Nat.pow_pos B_pos
    · exact Nat.mul_lt_mul'' hhi hx
  by_cases h : p * x / B ^ nn ≠ 0
  · simp only [if_pos h]; exact hup
  · simp only [if_neg h, Nat.add_zero]
    have : p * x / B ^ nn = 0 := of_not_not h
    rcases Nat.div_eq_zero_iff.mp this with h' | h'
    · omega
    · exact h'

/-- the same step keeps `B^(nn-1) ≤ p` as well (the divisor, whose top limb is never zero) -/
theorem size_step {p x nn : ℕ} (h1 : 1 ≤ nn) (hlo : B ^ (nn - 1) ≤ p) (hhi : p < B ^ nn) (hx1 : 1 ≤ x) (hx : x < B) :
    1 ≤ nn + (if p * x / B ^ nn ≠ 0 then 1 else 0) ∧
    B ^ (nn + (if p * x / B ^ nn ≠ 0 then 1 else 0) - 1) ≤ p * x ∧ p * x < B ^ (nn + (if p * x / B ^ nn ≠ 0 then 1 else 0)) := by
  refine ⟨Nat.le_add_right_of_le h1, ?_, size_step_hi hhi hx⟩
  split
  · rename_i h
    rw [Nat.add_sub_cancel]
    by_contra hc
    exact h (Nat.div_eq_of_lt (Nat.lt_of_not_le hc))
  · exact le_trans hlo (Nat.le_mul_of_pos_right p hx1)

/-! ## the divisor loop (bin_uiui.c:292-304) -/

/-- `t = k - j + 1` (bin_uiui.c:289, :302) in limb arithmetic -/
theorem factors_left {k j : ℕ} (hj : j ≤ k + 1) (hk : k + 1 < B) : (k + B - j + 1) % B = k + 1 - j := by
  rw [show k + B - j + 1 = (k + 1 - j) + B by omega, Nat.add_mod_right, Nat.mod_eq_of_lt (by omega)]

/-- `kmax = MIN (kmax, t)`: the next chunk ends at k, and an empty chunk means all k factors are done -/
theorem kmax_min {k j m : ℕ} (hj : j ≤ k + 1) (hm : 1 ≤ m) :
    j + min m (k + 1 - j) ≤ k + 1 ∧ (min m (k + 1 - j) = 0 → j = k + 1) := by
  omega

/-- invariant of the divisor loop: O0·kp·2^j2 = (j−1)!, kp odd with exactly kn limbs, the next chunk j … j+kmax−1 within 1 … k -/
def KInv (k W O0 kp kn j j2 kmax : ℕ) : Prop :=
  O0 * kp * 2 ^ j2 = (j - 1)! ∧ kp % 2 = 1 ∧ 1 ≤ kn ∧ B ^ (kn - 1) ≤ kp ∧ kp < B ^ kn ∧ 1 ≤ j ∧ j + kmax ≤ k + 1 ∧
    kmax ≤ W ∧ (kmax = 0 → j = k + 1)

theorem bdivK_spec (k W O0 : ℕ) (hW8 : W ≤ 8) (hWfit : k ^ W < B) (hkB : k + 1 < B) :
    ∀ fuel kp kn j j2 kmax, KInv k W O0 kp kn j j2 kmax →
      KInv k W O0 (bdivK k fuel kp kn j j2 kmax).1 (bdivK k fuel kp kn j j2 kmax).2.1 (bdivK k fuel kp kn j j2 kmax).2.2.1
        (bdivK k fuel kp kn j j2 kmax).2.2.2.1 (bdivK k fuel kp kn j j2 kmax).2.2.2.2 ∧
      j ≤ (bdivK k fuel kp kn j j2 kmax).2.2.1 := by
  intro fuel
  induction fuel with
  | zero => intro kp kn j j2 kmax h; exact ⟨h, le_refl _⟩
  | succ fuel ih =>
    intro kp kn j j2 kmax h
    unfold bdivK
    by_cases hc : kmax ≠ 0 ∧ kn < SOME_THRESHOLD
    · rw [if_pos hc]
      simp only [Nat.add_assoc j2]
      obtain ⟨i1, i2, i3, i4, i5, i6, i7, i8, i9⟩ := h
      have hkm1 : 1 ≤ kmax := by omega
      have hfit : (j + kmax - 1) ^ kmax < B :=
        chunk_fit (by omega) i8 hWfit
      obtain ⟨c1, c2, c3⟩ := chunk_spec kmax j hkm1 (by omega) i6 hfit
      rw [Nat.mod_eq_of_lt (show j + kmax < B by omega), factors_left i7 hkB]
      generalize mulfunc kmax j >>> ctz (mulfunc kmax j) = o at c1 c2 c3 ⊢
      generalize tcnt (kmax - 1) + ctz (mulfunc kmax j) = tw at c1 ⊢
      have ho1 : 1 ≤ o := by omega
      obtain ⟨s1, s2, s3⟩ := size_step i3 i4 i5 ho1 c3
      have := ih (kp * o) (kn + (if kp * o / B ^ kn ≠ 0 then 1 else 0)) (j + kmax) (j2 + tw)
        (min kmax (k + 1 - (j + kmax))) ⟨by
          rw [pow_add, show O0 * (kp * o) * (2 ^ j2 * 2 ^ tw) = O0 * kp * 2 ^ j2 * (o * 2 ^ tw) by ring, i1, c1,
            Nat.factorial_mul_ascFactorial' j kmax (by omega)], odd_mul_odd i2 c2, s1, s2, s3, by omega,
          (kmax_min i7 hkm1).1, le_trans (Nat.min_le_left _ _) i8, (kmax_min i7 hkm1).2⟩
      exact ⟨this.1, by omega⟩
    · rw [if_neg hc]
      exact ⟨h, le_refl _⟩

/-! ## the dividend loop (bin_uiui.c:307-319) -/

theorem bdivN_step {n nmax : ℕ} (h1 : 1 ≤ nmax) (h8 : nmax ≤ 8) (hfit : n ^ nmax < B)
    (fuel numfac np nn i i2 : ℕ) (h0 : numfac ≠ 0) (hi1 : 1 ≤ i) (hin : i + numfac ≤ n + 1) :
    ∃ w o tw, 1 ≤ w ∧ w ≤ numfac ∧ o * 2 ^ tw = i.ascFactorial w ∧ o % 2 = 1 ∧ o < B ∧
      bdivN nmax (fuel + 1) numfac np nn i i2 =
        bdivN nmax fuel (numfac - w) (np * o) (nn + (if np * o / B ^ nn ≠ 0 then 1 else 0)) ((i + w) % B) (i2 + tw) := by
  have hw1 : 1 ≤ min nmax numfac := by simp only [Nat.le_min]; omega
  have hwf : min nmax numfac ≤ numfac := Nat.min_le_right _ _
  obtain ⟨c1, c2, c3⟩ := chunk_spec (min nmax numfac) i hw1 (le_trans (Nat.min_le_left _ _) h8) hi1
    (chunk_fit (by omega) (Nat.min_le_left _ _) hfit)
  refine ⟨_, _, _, hw1, hwf, c1, c2, c3, ?_⟩
  conv_lhs => unfold bdivN
  simp only [h0, if_false, Nat.add_assoc i2]

theorem bdivN_spec (n a O0 nmax : ℕ) (ha : 1 ≤ a) (hn : n < B) (h1 : 1 ≤ nmax) (h8 : nmax ≤ 8) (hfit : n ^ nmax < B) :
    ∀ fuel numfac np nn i i2 c, numfac ≤ fuel → i = (a + c) % B → O0 * np * 2 ^ i2 = a.ascFactorial c → np % 2 = 1 →
      1 ≤ nn → np < B ^ nn → a + c + numfac ≤ n + 1 →
      (bdivN nmax fuel numfac np nn i i2).2.2.1 = (a + c + numfac) % B ∧
      O0 * (bdivN nmax fuel numfac np nn i i2).1 * 2 ^ (bdivN nmax fuel numfac np nn i i2).2.2.2 = a.ascFactorial (c + numfac) ∧
      (bdivN nmax fuel numfac np nn i i2).1 % 2 = 1 ∧ 1 ≤ (bdivN nmax fuel numfac np nn i i2).2.1 ∧
      (bdivN nmax fuel numfac np nn i i2).1 < B ^ (bdivN nmax fuel numfac np nn i i2).2.1 := by
  intro fuel
  induction fuel with
  | zero =>
    intro numfac np nn i i2 c g1 g2 g3 g4 g5 g6 _
    have : numfac = 0 := by omega
    subst this
    simp only [bdivN, Nat.add_zero]
    exact ⟨g2, g3, g4, g5, g6⟩
  | succ fuel ih =>
    intro numfac np nn i i2 c g1 g2 g3 g4 g5 g6 g7
    by_cases h0 : numfac = 0
    · subst h0; simp only [bdivN, if_true, Nat.add_zero]; exact ⟨g2, g3, g4, g5, g6⟩
    · have hi : i = a + c := by rw [g2, Nat.mod_eq_of_lt (by omega)]
      obtain ⟨w, o, tw, hw1, hwf, c1, c2, c3, e⟩ := bdivN_step h1 h8 hfit fuel numfac np nn i i2 h0 (by omega) (by omega)
      rw [e]
      have := ih (numfac - w) (np * o) (nn + (if np * o / B ^ nn ≠ 0 then 1 else 0)) ((i + w) % B) (i2 + tw) (c + w)
        (by omega) (by rw [hi]; congr 1; omega)
        (by rw [pow_add, show O0 * (np * o) * (2 ^ i2 * 2 ^ tw) = O0 * np * 2 ^ i2 * (o * 2 ^ tw) by ring, g3, c1, hi,
              Nat.ascFactorial_mul_ascFactorial])
        (odd_mul_odd g4 c2) (by omega) (size_step_hi g6 c3) (by omega)
      rw [show a + (c + w) + (numfac - w) = a + c + numfac by omega, show c + w + (numfac - w) = c + numfac by omega] at this
      exact this

/-! ## the quotient size `nn += (np[nn-1] >= kp[kn-1]); nn -= kn` -/

theorem quot_size {N D Q nn kn : ℕ} (h : N = D * Q) (hQ : 1 ≤ Q) (hN : N < B ^ nn) (hnn : 1 ≤ nn) (hkn : 1 ≤ kn)
    (hDlo : B ^ (kn - 1) ≤ D) (hDhi : D < B ^ kn) :
    kn < nn + (if topLimb N nn ≥ topLimb D kn then 1 else 0) ∧
    Q < B ^ (nn + (if topLimb N nn ≥ topLimb D kn then 1 else 0) - kn) := by
  have hB := B_pos
  have hBk : 0 < B ^ (kn - 1) := Nat.pow_pos B_pos
  have hDN : D ≤ N := by rw [h]; exact Nat.le_mul_of_pos_right D hQ
  have hkn_le : kn ≤ nn := by
    have : B ^ (kn - 1) < B ^ nn := lt_of_le_of_lt (le_trans hDlo hDN) hN
    have := (Nat.pow_lt_pow_iff_right (by rw [B_eq]; norm_num : 1 < B)).mp this
    omega
  have htD : topLimb D kn = D / B ^ (kn - 1) := by
    unfold topLimb
    apply Nat.mod_eq_of_lt
    apply Nat.div_lt_of_lt_mul
    rw [← pow_succ]; rwa [Nat.sub_add_cancel hkn]
  have htN : topLimb N nn = N / B ^ (nn - 1) := by
    unfold topLimb
    apply Nat.mod_eq_of_lt
    apply Nat.div_lt_of_lt_mul
    rw [← pow_succ]; rwa [Nat.sub_add_cancel hnn]
  rw [htD, htN]
  by_cases hc : N / B ^ (nn - 1) ≥ D / B ^ (kn - 1)
  · simp only [hc, if_true]
    refine ⟨by omega, ?_⟩
    -- B^(kn-1)·Q ≤ D·Q = N < B^nn
    have h1 : B ^ (kn - 1) * Q < B ^ (kn - 1) * B ^ (nn + 1 - kn) := by
      rw [← pow_add, show kn - 1 + (nn + 1 - kn) = nn by omega]
      exact lt_of_le_of_lt (by rw [h]; exact Nat.mul_le_mul_right Q hDlo) hN
    exact Nat.lt_of_mul_lt_mul_left h1
  · simp only [hc, if_false, Nat.add_zero]
    have hlt : N / B ^ (nn - 1) < D / B ^ (kn - 1) := by omega
    -- N < (tN + 1)·B^(nn-1) ≤ tD·B^(nn-1),  tD·B^(kn-1) ≤ D
    have hBn : 0 < B ^ (nn - 1) := Nat.pow_pos B_pos
    have h1 : N < (N / B ^ (nn - 1) + 1) * B ^ (nn - 1) := by
      have := Nat.div_add_mod N (B ^ (nn - 1))
      have := Nat.mod_lt N hBn
      rw [Nat.add_mul, Nat.one_mul, mul_comm]; omega
    have h2 : N < D / B ^ (kn - 1) * B ^ (nn - 1) :=
      lt_of_lt_of_le h1 (Nat.mul_le_mul_right _ (by omega))
    have h3 : D / B ^ (kn - 1) * B ^ (kn - 1) ≤ D := Nat.div_mul_le_self D _
    have h4 : D / B ^ (kn - 1) * B ^ (kn - 1) * Q ≤ N := by rw [h]; exact Nat.mul_le_mul_right Q h3
    have htpos : 0 < D / B ^ (kn - 1) := Nat.div_pos hDlo hBk
    have h5 : D / B ^ (kn - 1) * (B ^ (kn - 1) * Q) < D / B ^ (kn - 1) * B ^ (nn - 1) := by
      rw [← mul_assoc]; omega
    have h6 : B ^ (kn - 1) * Q < B ^ (nn - 1) := Nat.lt_of_mul_lt_mul_left h5
    have h7 : B ^ (kn - 1) < B ^ (nn - 1) := lt_of_le_of_lt (Nat.le_mul_of_pos_right _ hQ) h6
    have h8 := (Nat.pow_lt_pow_iff_right (by rw [B_eq]; norm_num : 1 < B)).mp h7
    refine ⟨by omega, ?_⟩
    have h9 : B ^ (kn - 1) * Q < B ^ (kn - 1) * B ^ (nn - kn) := by
      rw [← pow_add, show kn - 1 + (nn - kn) = nn - 1 by omega]; exact h6
    exact Nat.lt_of_mul_lt_mul_left h9

/-! ## the divisor inverse of mpn_sb_bdiv_q: `invPow2` (Newton / Hensel lifting) -/

/-- one pass of `invNewton` in limb arithmetic is a Newton step: g correct bits become min (2g, bits) -/
theorem inv_step (d x bits g : ℕ) (h : (x : ℤ) * d ≡ 1 [ZMOD 2 ^ g]) :
    ((x * (2 * 2 ^ bits + 2 - d * x % 2 ^ bits) % 2 ^ bits : ℕ) : ℤ) * d ≡ 1 [ZMOD 2 ^ min (2 * g) bits] := by
  have hr : d * x % 2 ^ bits ≤ 2 * 2 ^ bits + 2 := by have := Nat.mod_lt (d * x) (Nat.two_pow_pos bits); omega
  have h1 : ((x * (2 * 2 ^ bits + 2 - d * x % 2 ^ bits) % 2 ^ bits : ℕ) : ℤ) ≡ x * (2 - d * x) [ZMOD 2 ^ bits] := by
    push_cast [Nat.cast_sub hr]
    refine (Int.mod_modEq _ _).trans (Int.ModEq.mul_left _ ?_)
    calc (2 * 2 ^ bits + 2 - (d : ℤ) * x % 2 ^ bits) ≡ 2 * 2 ^ bits + 2 - d * x [ZMOD 2 ^ bits] :=
          Int.ModEq.sub_left _ (Int.mod_modEq _ _)
      _ ≡ 2 - d * x [ZMOD 2 ^ bits] := by
        rw [show (2 * 2 ^ bits + 2 - (d : ℤ) * x) = (2 - d * x) + 2 ^ bits * 2 by ring]; exact Int.modEq_add_fac_self
  have h2 := newton_step (2 ^ g) x d h
  rw [← pow_add, ← two_mul] at h2
  exact ((h1.of_dvd (pow_dvd_pow 2 (Nat.min_le_right _ _))).mul_right _).trans (h2.of_dvd (pow_dvd_pow 2 (Nat.min_le_left _ _)))

theorem invNewton_spec (d bits : ℕ) : ∀ (fuel x e : ℕ), (x : ℤ) * d ≡ 1 [ZMOD 2 ^ min e bits] →
    (invNewton d (2 ^ bits) fuel x : ℤ) * d ≡ 1 [ZMOD 2 ^ min (e * 2 ^ fuel) bits] := by
  intro fuel
  induction fuel with
  | zero => intro x e h; simpa [invNewton] using h
  | succ fuel ih =>
    intro x e h
    rw [invNewton, show e * 2 ^ (fuel + 1) = 2 * e * 2 ^ fuel by rw [pow_succ]; ring]
    refine ih _ (2 * e) ?_
    rw [show min (2 * e) bits = min (2 * min e bits) bits by omega]
    exact inv_step d x bits _ h

theorem invPow2_spec (d bits : ℕ) (hd : d % 2 = 1) (hb : 1 ≤ bits) : d * invPow2 d bits % 2 ^ bits = 1 := by
  have h0 : ((1 : ℕ) : ℤ) * d ≡ 1 [ZMOD 2 ^ min 1 bits] := by
    rw [Nat.min_eq_left hb]; simp only [Int.ModEq]; omega
  have h := invNewton_spec d bits (bits.log2 + 2) 1 1 h0
  have hlt : bits < 2 ^ (bits.log2 + 2) := by have := @Nat.lt_log2_self bits; rw [pow_succ]; omega
  rw [Nat.min_eq_right (by omega)] at h
  have h' : invPow2 d bits * d ≡ 1 [MOD 2 ^ bits] := Int.natCast_modEq_iff.1 (by unfold invPow2; push_cast; exact h)
  rw [Nat.mul_comm, h', Nat.mod_eq_of_lt (Nat.one_lt_two_pow (by omega))]

/-- mpn_sb_bdiv_q (np, wp, np, nn, kp, MIN (kn, nn), dinv) when the division is exact and the quotient fits nn limbs -/
theorem bdiv_value (N D Q nn : ℕ) (h : N = D * Q) (hD : D % 2 = 1) (hnn : 1 ≤ nn) (hQ : Q < B ^ nn) :
    (N % B ^ nn) * invPow2 (D % B ^ nn) (64 * nn) % B ^ nn = Q := by
  have hmd : B ^ nn = 2 ^ (64 * nn) := by rw [show B = 2 ^ 64 by rw [B_eq]; norm_num, ← pow_mul]
  have h2 : 2 ∣ B ^ nn := by rw [hmd]; exact dvd_pow_self 2 (by omega)
  have hd : (D % B ^ nn) % 2 = 1 := by rw [Nat.mod_mod_of_dvd D h2]; exact hD
  have hinv := invPow2_spec (D % B ^ nn) (64 * nn) hd (by omega)
  rw [← hmd] at hinv
  generalize invPow2 (D % B ^ nn) (64 * nn) = inv at hinv ⊢
  rw [Nat.mod_mul_mod] at hinv
  rw [Nat.mod_mul_mod, h, show D * Q * inv = Q * (D * inv) by ring, Nat.mul_mod, hinv, Nat.mul_one, Nat.mod_mod,
    Nat.mod_eq_of_lt hQ]

/-! ## the outer loop (bin_uiui.c:285-340) -/

/-- invariant of the outer loop: divisor side jjj·2^j2cnt and dividend side np·2^i2cnt against the same odd O0, counters in range -/
def LInv (k a W : ℕ) (st : BdivSt) : Prop :=
  ∃ O0, O0 * st.jjj * 2 ^ st.j2cnt = (st.j - 1)! ∧ O0 * st.np * 2 ^ st.i2cnt = a.ascFactorial (st.numfac - 1) ∧
    st.jjj % 2 = 1 ∧ st.jjj < B ∧ st.np % 2 = 1 ∧ 1 ≤ st.nn ∧ st.np < B ^ st.nn ∧ st.i = (a + (st.numfac - 1)) % B ∧
    1 ≤ st.numfac ∧ st.numfac ≤ st.j ∧ st.j ≤ k + 1 ∧ 1 ≤ st.kmax ∧ st.kmax ≤ W

/-- what the loop returns: no ASSERT failed, and the odd number np with the two counts of twos is binomial (n, k) -/
def BdivPost (n k : ℕ) (r : BdivSt) : Prop :=
  r.ok = true ∧ r.np * 2 ^ r.i2cnt = 2 ^ r.j2cnt * n.choose k ∧ r.np % 2 = 1

theorem odd_of_mul_odd {a b : ℕ} (h : a * b % 2 = 1) : b % 2 = 1 := by
  rw [Nat.mul_mod] at h
  rcases Nat.mod_two_eq_zero_or_one b with hb | hb
  · rw [hb] at h; simp at h
  · exact hb

theorem bdivK_kn (k : ℕ) : ∀ fuel kp kn j j2 kmax, kn ≤ SOME_THRESHOLD → (bdivK k fuel kp kn j j2 kmax).2.1 ≤ SOME_THRESHOLD := by
  intro fuel
  induction fuel with
  | zero => intro kp kn j j2 kmax h; exact h
  | succ fuel ih =>
    intro kp kn j j2 kmax h
    unfold bdivK
    by_cases hc : kmax ≠ 0 ∧ kn < SOME_THRESHOLD
    · rw [if_pos hc]
      apply ih
      split <;> omega
    · rw [if_neg hc]; exact h

theorem bdivN_size (n a nmax : ℕ) (ha : 1 ≤ a) (hn : n < B) (h1 : 1 ≤ nmax) (h8 : nmax ≤ 8) (hfit : n ^ nmax < B) :
    ∀ fuel numfac np nn i i2 c, numfac ≤ fuel → i = (a + c) % B → a + c + numfac ≤ n + 1 → B ^ nn ≤ np * B ^ 2 →
      (bdivN nmax fuel numfac np nn i i2).2.1 ≤ nn + numfac ∧
      B ^ (bdivN nmax fuel numfac np nn i i2).2.1 ≤ (bdivN nmax fuel numfac np nn i i2).1 * B ^ 2 := by
  intro fuel
  induction fuel with
  | zero =>
    intro numfac np nn i i2 c g1 _ _ g4
    simp only [bdivN]; exact ⟨by omega, g4⟩
  | succ fuel ih =>
    intro numfac np nn i i2 c g1 g2 g3 g4
    by_cases h0 : numfac = 0
    · subst h0; simp only [bdivN, if_true]; exact ⟨by omega, g4⟩
    · have hi : i = a + c := by rw [g2, Nat.mod_eq_of_lt (by omega)]
      obtain ⟨w, o, tw, hw1, hwf, _, c2, _, e⟩ := bdivN_step h1 h8 hfit fuel numfac np nn i i2 h0 (by omega) (by omega)
      rw [e]
      have ho : 1 ≤ o := by omega
      have hB2 : 0 < B ^ 2 := Nat.pow_pos B_pos
      have hstep : B ^ (nn + (if np * o / B ^ nn ≠ 0 then 1 else 0)) ≤ np * o * B ^ 2 := by
        by_cases h : np * o / B ^ nn ≠ 0
        · rw [if_pos h]
          have hge : B ^ nn ≤ np * o := by
            by_contra hc
            exact h (Nat.div_eq_of_lt (by omega))
          calc B ^ (nn + 1) = B ^ nn * B := pow_succ _ _
            _ ≤ B ^ nn * B ^ 2 := Nat.mul_le_mul_left _ (by rw [pow_two]; exact Nat.le_mul_of_pos_right B B_pos)
            _ ≤ np * o * B ^ 2 := Nat.mul_le_mul_right _ hge
        · rw [if_neg h, Nat.add_zero]
          calc B ^ nn ≤ np * B ^ 2 := g4
            _ ≤ np * o * B ^ 2 := Nat.mul_le_mul_right _ (Nat.le_mul_of_pos_right np ho)
      have := ih (numfac - w) (np * o) (nn + (if np * o / B ^ nn ≠ 0 then 1 else 0)) ((i + w) % B) (i2 + tw) (c + w)
        (by omega) (by rw [hi]; congr 1; omega) (by omega) hstep
      refine ⟨le_trans this.1 ?_, this.2⟩
      split <;> omega

/-- the first chunk multiplies np = 1: no new limb -/
theorem bdivN_size_first (n a nmax : ℕ) (ha : 1 ≤ a) (hn : n < B) (h1 : 1 ≤ nmax) (h8 : nmax ≤ 8) (hfit : n ^ nmax < B)
    (fuel numfac i i2 c : ℕ) (g1 : numfac ≤ fuel) (g0 : 1 ≤ numfac) (g2 : i = (a + c) % B) (g3 : a + c + numfac ≤ n + 1) :
    (bdivN nmax fuel numfac 1 1 i i2).2.1 ≤ numfac := by
  obtain ⟨fuel, rfl⟩ : ∃ f, fuel = f + 1 := ⟨fuel - 1, by omega⟩
  have hi : i = a + c := by rw [g2, Nat.mod_eq_of_lt (by omega)]
  obtain ⟨w, o, tw, hw1, hwf, _, c2, c3, e⟩ := bdivN_step h1 h8 hfit fuel numfac 1 1 i i2 (by omega) (by omega) (by omega)
  rw [e]
  have hz : 1 * o / B ^ 1 = 0 := by rw [Nat.one_mul, pow_one]; exact Nat.div_eq_of_lt c3
  rw [hz]
  simp only [ne_eq, not_true_eq_false, if_false, Nat.add_zero]
  have := (bdivN_size n a nmax ha hn h1 h8 hfit fuel (numfac - w) (1 * o) 1 ((i + w) % B) (i2 + tw) (c + w) (by omega)
    (by rw [hi]; congr 1; omega) (by omega) (by
      rw [pow_one, Nat.one_mul, pow_two]
      calc B ≤ 1 * (B * B) := by rw [Nat.one_mul]; exact Nat.le_mul_of_pos_right B B_pos
        _ ≤ o * (B * B) := Nat.mul_le_mul_right _ (by omega))).1
  omega

theorem quot_denorm {N D Q nn kn : ℕ} (h : N = D * Q) (hnn : 1 ≤ nn) (hkn : 1 ≤ kn)
    (hDlo : B ^ (kn - 1) ≤ D) (hDhi : D < B ^ kn)
    (hden : B ^ nn ≤ N * B ^ 2) (hsz : kn < nn + (if topLimb N nn ≥ topLimb D kn then 1 else 0)) :
    B ^ (nn + (if topLimb N nn ≥ topLimb D kn then 1 else 0) - kn) ≤ Q * B ^ 2 := by
  have hBk : 0 < B ^ kn := Nat.pow_pos B_pos
  have hcancel : ∀ e, B ^ e * B ^ kn ≤ Q * B ^ 2 * B ^ kn → B ^ e ≤ Q * B ^ 2 := fun e he => Nat.le_of_mul_le_mul_right he hBk
  have hQD : Q * D ≤ Q * B ^ kn := Nat.mul_le_mul_left Q (le_of_lt hDhi)
  by_cases hc : topLimb N nn ≥ topLimb D kn
  · rw [if_pos hc] at hsz ⊢
    -- top limb of N is at least that of D ≥ 1, so N ≥ B^(nn-1)
    have htD : 1 ≤ topLimb D kn := by
      unfold topLimb
      have hlt : D / B ^ (kn - 1) < B := by
        apply Nat.div_lt_of_lt_mul; rw [← pow_succ]; rwa [Nat.sub_add_cancel hkn]
      rw [Nat.mod_eq_of_lt hlt]
      exact Nat.div_pos hDlo (Nat.pow_pos B_pos)
    have hNlo : B ^ (nn - 1) ≤ N := by
      by_contra hlt
      have : N / B ^ (nn - 1) = 0 := Nat.div_eq_of_lt (by omega)
      have : topLimb N nn = 0 := by unfold topLimb; rw [this, Nat.zero_mod]
      omega
    apply hcancel
    rw [← pow_add, show nn + 1 - kn + kn = nn - 1 + 2 by omega, pow_add]
    calc B ^ (nn - 1) * B ^ 2 ≤ N * B ^ 2 := Nat.mul_le_mul_right _ hNlo
      _ = Q * D * B ^ 2 := by rw [h]; ring
      _ ≤ Q * B ^ kn * B ^ 2 := Nat.mul_le_mul_right _ hQD
      _ = Q * B ^ 2 * B ^ kn := by ring
  · rw [if_neg hc] at hsz ⊢
    apply hcancel
    rw [← pow_add, show nn + 0 - kn + kn = nn by omega]
    calc B ^ nn ≤ N * B ^ 2 := hden
      _ = Q * D * B ^ 2 := by rw [h]; ring
      _ ≤ Q * B ^ kn * B ^ 2 := Nat.mul_le_mul_right _ hQD
      _ = Q * B ^ 2 * B ^ kn := by ring

theorem quot_exists {O0 kp np' j2' i2' a c : ℕ} (hO0 : 0 < O0) (k1 : O0 * kp * 2 ^ j2' = c !)
    (n2 : O0 * np' * 2 ^ i2' = a.ascFactorial c) (k2 : kp % 2 = 1) (n3 : np' % 2 = 1) :
    ∃ Q, np' = kp * Q ∧ Q * 2 ^ i2' = 2 ^ j2' * (a + c - 1).choose c ∧ Q % 2 = 1 ∧ Q ≤ (a + c - 1).choose c := by
  have hkp : 0 < kp := by omega
  have hmain : np' * 2 ^ i2' = kp * (2 ^ j2' * (a + c - 1).choose c) := by
    have e := Nat.ascFactorial_eq_factorial_mul_choose' a c
    rw [← k1] at e
    rw [e] at n2
    have : O0 * (np' * 2 ^ i2') = O0 * (kp * (2 ^ j2' * (a + c - 1).choose c)) := by rw [← mul_assoc, n2]; ring
    exact Nat.eq_of_mul_eq_mul_left hO0 this
  have hcop : Nat.Coprime kp (2 ^ i2') := by
    apply Nat.Coprime.pow_right
    rw [Nat.coprime_comm, Nat.Prime.coprime_iff_not_dvd Nat.prime_two]
    omega
  obtain ⟨Q, hQ⟩ := hcop.dvd_of_dvd_mul_right ⟨_, hmain⟩
  have hQC : Q * 2 ^ i2' = 2 ^ j2' * (a + c - 1).choose c := by
    rw [hQ, mul_assoc] at hmain
    exact Nat.eq_of_mul_eq_mul_left hkp hmain
  have hQodd : Q % 2 = 1 := odd_of_mul_odd (hQ ▸ n3)
  refine ⟨Q, hQ, hQC, hQodd, ?_⟩
  have hcop2 : Nat.Coprime Q (2 ^ j2') := by
    apply Nat.Coprime.pow_right
    rw [Nat.coprime_comm, Nat.Prime.coprime_iff_not_dvd Nat.prime_two]
    omega
  have hd : Q ∣ (a + c - 1).choose c := hcop2.dvd_of_dvd_mul_left ⟨_, hQC.symm⟩
  have hpos : 0 < (a + c - 1).choose c := by
    rcases Nat.eq_zero_or_pos ((a + c - 1).choose c) with h0 | h0
    · rw [h0, Nat.mul_zero] at hQC
      have : 0 < Q * 2 ^ i2' := Nat.mul_pos (by omega) (by positivity)
      omega
    · exact h0
  exact Nat.le_of_dvd hpos hd

theorem some_threshold_eq : SOME_THRESHOLD = 20 := by decide

/-- `ASSERT (nn < alloc)` (bin_uiui.c:321): the dividend np = kp·Q has at most k limbs (one per factor) and, since
    kp has at most SOME_THRESHOLD limbs, Q ≤ binomial (m, c) < 2^n and np may carry one zero limb beyond its size,
    at most 1 + n/64 + 21 -/
theorem scratch_suffices {n k m c nn kn np kp Q : ℕ} (hnn : nn ≤ k) (hQ : np = kp * Q) (hQle : Q ≤ m.choose c) (hm : m ≤ n)
    (hkp : kp < B ^ kn) (hkn : kn ≤ SOME_THRESHOLD) (hden : B ^ nn ≤ np * B ^ 2) :
    nn < min (SOME_THRESHOLD - 1 + max (3 * (1 + n / 64) / 2) SOME_THRESHOLD) k + 1 := by
  rw [some_threshold_eq] at hkn ⊢
  have hQlt : Q < B ^ (1 + n / 64) := by
    have h2 : 2 ^ m < 2 ^ (64 * (1 + n / 64)) := Nat.pow_lt_pow_right (by omega) (by omega)
    rw [show B = 2 ^ 64 from rfl, ← pow_mul]
    exact lt_of_le_of_lt (le_trans hQle (Nat.choose_le_two_pow _ _)) h2
  have hnp : np < B ^ 20 * B ^ (1 + n / 64) := by
    rw [hQ]; exact Nat.mul_lt_mul'' (lt_of_lt_of_le hkp (Nat.pow_le_pow_right B_pos hkn)) hQlt
  have : B ^ nn < B ^ (1 + n / 64 + 22) := by
    calc B ^ nn ≤ np * B ^ 2 := hden
      _ < B ^ 20 * B ^ (1 + n / 64) * B ^ 2 := Nat.mul_lt_mul_of_pos_right hnp (Nat.pow_pos B_pos)
      _ = B ^ (1 + n / 64 + 22) := by rw [← pow_add, ← pow_add]; congr 1; omega
  have := (Nat.pow_lt_pow_iff_right (show 1 < B by decide)).mp this
  omega

/-- the counting of one pass of the outer loop: `numfac = j - numfac` dividend factors bring both sides to j' − 1 factors -/
theorem pass_counts {n k numfac nn j j' kmax' : ℕ} (h2k : 2 * k ≤ n) (l9 : 1 ≤ numfac) (l10 : numfac ≤ j)
    (hjle : j ≤ j') (k7 : j' + kmax' ≤ k + 1) (k9 : kmax' = 0 → j' = k + 1) :
    1 ≤ n - k + 1 ∧ j' - numfac ≤ k ∧ n - k + 1 + (numfac - 1) + (j' - numfac) ≤ n + 1 ∧
      numfac - 1 + (j' - numfac) = j' - 1 ∧ n - k + 1 + (j' - 1) - 1 ≤ n ∧
      n - k + 1 + (numfac - 1) + (j' - numfac) = n - k + 1 + (j' - 1) ∧ (nn + 1 ≤ numfac → nn + (j' - numfac) + 1 ≤ j') ∧
      (numfac = 1 → 2 ≤ j → 1 ≤ j' - numfac ∧ j' - numfac + 1 ≤ j') ∧ (kmax' = 0 → n - k + 1 + (j' - 1) - 1 = n ∧ j' - 1 = k) := by
  omega

theorem pass_next {k j j' kmax' W fuel : ℕ} (h0 : kmax' ≠ 0) (k7 : j' + kmax' ≤ k + 1) (k8 : kmax' ≤ W) (hW : W ≤ 8)
    (hk : k + 1 < B) (hjle : j ≤ j') (hf : k + 1 - j < fuel + 1) :
    1 ≤ kmax' ∧ kmax' ≤ 8 ∧ j' + kmax' - 1 ≤ k ∧ j' + kmax' < B ∧ k + 1 - (j' + kmax') < fuel := by
  omega

theorem pass_limbs {nn inc kn j' : ℕ} (s1 : kn < nn + inc) (hS1 : nn + 1 ≤ j') (hinc : inc ≤ 1) (k3 : 1 ≤ kn) :
    1 ≤ nn + inc - kn ∧ nn + inc - kn + 1 ≤ j' := by
  omega

/-- the size bookkeeping of the outer loop: no ASSERT failed, np has at most two zero top limbs, nn below the factor count -/
def LInv2 (st : BdivSt) : Prop :=
  st.ok = true ∧ B ^ st.nn ≤ st.np * B ^ 2 ∧ (st.nn + 1 ≤ st.numfac ∨ (st.np = 1 ∧ st.nn = 1 ∧ st.numfac = 1 ∧ 2 ≤ st.j))

/-- every `ASSERT (nn < alloc)` of bin_uiui.c:321 holds, the quotient is never empty, the loop ends within k passes -/
theorem bdivLoop_spec (n k : ℕ) (hk1 : 1 ≤ k) (h2k : 2 * k ≤ n) (hn : n < B) :
    ∀ fuel st, LInv k (n - k + 1) (log_n_max k) st → LInv2 st → k + 1 - st.j < fuel →
      BdivPost n k (bdivLoop k (log_n_max n) (min (SOME_THRESHOLD - 1 + max (3 * (1 + n / 64) / 2) SOME_THRESHOLD) k + 1) fuel st) := by
  obtain ⟨hWk1, hWk8, hWkfit⟩ := log_n_max_spec k (by omega)
  obtain ⟨hWn1, hWn8, hWnfit⟩ := log_n_max_spec n hn
  intro fuel
  induction fuel with
  | zero => intro st _ _ hf; omega
  | succ fuel ih =>
    intro st hinv hinv2 hfuel
    obtain ⟨O0, l1, l2, l3, l4, l5, l6, l7, l8, l9, l10, l11, l12, l13⟩ := hinv
    obtain ⟨m1, m2, m3⟩ := hinv2
    unfold bdivLoop
    simp only [factors_left l11 (show k + 1 < B by omega)]
    have hK := bdivK_spec k (log_n_max k) O0 hWk8 hWkfit (by omega) k st.jjj 1 st.j st.j2cnt (min st.kmax (k + 1 - st.j))
      ⟨l1, l3, le_refl 1, by simp; omega, by simpa using l4, by omega, (kmax_min l11 l12).1,
        le_trans (Nat.min_le_left _ _) l13, (kmax_min l11 l12).2⟩
    have hKn := bdivK_kn k k st.jjj 1 st.j st.j2cnt (min st.kmax (k + 1 - st.j)) (by decide)
    generalize bdivK k k st.jjj 1 st.j st.j2cnt (min st.kmax (k + 1 - st.j)) = rK at hK hKn ⊢
    obtain ⟨kp, kn, j', j2', kmax'⟩ := rK
    simp only at hK hKn ⊢
    obtain ⟨⟨k1, k2, k3, k4, k5, k6, k7, k8, k9⟩, hjle⟩ := hK
    -- the linear arithmetic of the pass, in one place
    have ar := pass_counts (nn := st.nn) h2k l9 l10 hjle k7 k9
    obtain ⟨a1, a2, a3, a4, a5, a6, a7, a8, a9⟩ := ar
    have hN := bdivN_spec n (n - k + 1) O0 (log_n_max n) a1 hn hWn1 hWn8 hWnfit k (j' - st.numfac) st.np st.nn st.i
      st.i2cnt (st.numfac - 1) a2 l8 l2 l5 l6 l7 a3
    have hS := bdivN_size n (n - k + 1) (log_n_max n) a1 hn hWn1 hWn8 hWnfit k (j' - st.numfac) st.np st.nn st.i
      st.i2cnt (st.numfac - 1) a2 l8 a3 m2
    have hS1 : (bdivN (log_n_max n) k (j' - st.numfac) st.np st.nn st.i st.i2cnt).2.1 + 1 ≤ j' := by
      rcases m3 with m3 | ⟨m3a, m3b, m3c, m3d⟩
      · exact le_trans (Nat.add_le_add_right hS.1 1) (a7 m3)
      · rw [m3a, m3b]
        exact le_trans (Nat.add_le_add_right (bdivN_size_first n (n - k + 1) (log_n_max n) a1 hn hWn1 hWn8 hWnfit k
          (j' - st.numfac) st.i st.i2cnt (st.numfac - 1) a2 (a8 m3c m3d).1 l8 a3) 1) (a8 m3c m3d).2
    clear m3 l8 a7 a8 a3
    generalize bdivN (log_n_max n) k (j' - st.numfac) st.np st.nn st.i st.i2cnt = rN at hN hS hS1 ⊢
    obtain ⟨np', nn', i', i2'⟩ := rN
    simp only at hN hS hS1 ⊢
    obtain ⟨n1, n2, n3, n4, n5⟩ := hN
    obtain ⟨_, hden⟩ := hS
    rw [a4] at n2
    rw [a6] at n1
    have hO0 : 0 < O0 := by
      rcases Nat.eq_zero_or_pos O0 with h | h
      · rw [h] at l1; simp at l1; exact absurd l1.symm (Nat.factorial_ne_zero _)
      · exact h
    obtain ⟨Q, hQ, hQC, hQodd, hQle⟩ := quot_exists hO0 k1 n2 k2 n3
    obtain ⟨s1, s2⟩ := quot_size hQ (show 1 ≤ Q by omega) n5 n4 k3 k4 k5
    have hden2 := quot_denorm hQ n4 k3 k4 k5 hden s1
    have halloc := scratch_suffices (n := n) (k := k) (show nn' ≤ k by omega) hQ hQle a5 k5 hKn hden
    have hinc : (if topLimb np' nn' ≥ topLimb kp kn then 1 else 0) ≤ 1 := by split <;> omega
    generalize (if topLimb np' nn' ≥ topLimb kp kn then 1 else 0) = inc at s1 s2 hden2 hinc ⊢
    obtain ⟨b1, b2⟩ := pass_limbs s1 hS1 hinc k3
    rw [bdiv_value np' kp Q (nn' + inc - kn) hQ k2 b1 s2]
    have hok : (st.ok && decide (nn' < min (SOME_THRESHOLD - 1 + max (3 * (1 + n / 64) / 2) SOME_THRESHOLD) k + 1) &&
        decide (kn < nn' + inc)) = true := by
      simp only [Bool.and_eq_true, decide_eq_true_eq]; exact ⟨⟨m1, halloc⟩, s1⟩
    by_cases hk0 : kmax' = 0
    · rw [if_pos hk0]
      rw [(a9 hk0).1, (a9 hk0).2] at hQC
      exact ⟨hok, hQC, hQodd⟩
    · rw [if_neg hk0]
      obtain ⟨hkm1, hkm8, hjk, hjB, hfu⟩ := pass_next hk0 k7 k8 hWk8 (show k + 1 < B by omega) hjle hfuel
      obtain ⟨c1, c2, c3⟩ := chunk_spec kmax' j' hkm1 hkm8 k6 (chunk_fit hjk k8 hWkfit)
      apply ih
      · refine ⟨O0 * kp, ?_, ?_, c2, c3, hQodd, b1, s2, ?_, k6, ?_, ?_, hkm1, k8⟩
        · simp only
          rw [Nat.mod_eq_of_lt hjB, Nat.add_assoc j2', pow_add,
            show O0 * kp * (mulfunc kmax' j' >>> ctz (mulfunc kmax' j')) * (2 ^ j2' * 2 ^ (tcnt (kmax' - 1) + ctz (mulfunc kmax' j'))) =
              O0 * kp * 2 ^ j2' * ((mulfunc kmax' j' >>> ctz (mulfunc kmax' j')) * 2 ^ (tcnt (kmax' - 1) + ctz (mulfunc kmax' j'))) by ring,
            k1, c1, Nat.factorial_mul_ascFactorial' j' kmax' k6]
        · simp only
          rw [← n2, hQ]; ring
        · exact n1
        · show j' ≤ (j' + kmax') % B
          rw [Nat.mod_eq_of_lt hjB]; exact Nat.le_add_right _ _
        · show (j' + kmax') % B ≤ k + 1
          rw [Nat.mod_eq_of_lt hjB]; exact k7
      · exact ⟨hok, hden2, Or.inl b2⟩
      · show k + 1 - (j' + kmax') % B < fuel
        rw [Nat.mod_eq_of_lt hjB]; exact hfu

/-! ## `ASSERT (cnt < GMP_NUMB_BITS)` (bin_uiui.c:346): binomial (n, k) has fewer than 64 factors of two when n < 2^64 -/

theorem choose_not_dvd_two_pow_64 (n k : ℕ) (hn : n < B) (hk : k ≤ n) : ¬ 2 ^ 64 ∣ n.choose k := fun h =>
  absurd (((Nat.prime_two.pow_dvd_iff_le_factorization (Nat.choose_pos hk).ne').1 h).trans Nat.factorization_choose_le_log)
    (Nat.not_le.2 (Nat.log_lt_of_lt_pow' (by decide) hn))

/-! ## mpz_bdiv_bin_uiui as a whole: the set-up, the outer loop, the final shift -/

theorem bdiv_init_consts : ODD_FACTORIAL_TABLE_MAX * 2 ^ fac2cntTab (ODD_FACTORIAL_TABLE_LIMIT / 2 - 1) = (ODD_FACTORIAL_TABLE_LIMIT)! ∧
    ODD_FACTORIAL_TABLE_MAX % 2 = 1 ∧ ODD_FACTORIAL_TABLE_MAX < B ∧ ODD_FACTORIAL_TABLE_LIMIT = 25 := by
  decide +kernel

/-- the state in which the `while (1)` loop of mpz_bdiv_bin_uiui ends -/
def bdivFinal (n k : ℕ) : BdivSt :=
  bdivLoop k (log_n_max n) (min (SOME_THRESHOLD - 1 + max (3 * (1 + n / 64) / 2) SOME_THRESHOLD) k + 1) k
    { np := 1, nn := 1, i := n - k + 1, i2cnt := 0, j := ODD_FACTORIAL_TABLE_LIMIT + 1, jjj := ODD_FACTORIAL_TABLE_MAX,
      j2cnt := fac2cntTab (ODD_FACTORIAL_TABLE_LIMIT / 2 - 1), kmax := log_n_max k, numfac := 1, ok := true }

theorem bdiv_bin_uiui_unfold (n k : ℕ) : bdiv_bin_uiui n k =
    if !(bdivFinal n k).ok then none else some ((bdivFinal n k).np <<< ((bdivFinal n k).i2cnt - (bdivFinal n k).j2cnt)) := rfl

/-- bin_uiui.c:263-283 sets up the invariants -/
theorem bdivFinal_spec (n k : ℕ) (hk : ODD_FACTORIAL_TABLE_LIMIT < k) (h2k : 2 * k ≤ n) (hn : n < B) : BdivPost n k (bdivFinal n k) := by
  obtain ⟨b1, b2, b3, b4⟩ := bdiv_init_consts
  obtain ⟨hWk1, hWk8, _⟩ := log_n_max_spec k (by omega)
  exact bdivLoop_spec n k (by omega) h2k hn k _
    ⟨1, by simp only [Nat.one_mul, Nat.add_sub_cancel]; exact b1, by simp, b2, b3, by simp, le_refl 1,
      by simp [B_eq], by simp only [Nat.sub_self, Nat.add_zero]; rw [Nat.mod_eq_of_lt (by omega)], le_refl 1,
      by simp only; omega, by simp only; omega, hWk1, le_refl _⟩
    ⟨rfl, by simp only [pow_one, Nat.one_mul, pow_two]; exact Nat.le_mul_of_pos_right B B_pos, Or.inr ⟨rfl, rfl, rfl, by simp only; omega⟩⟩
    (by simp only; omega)

/-- `cnt = i2cnt - j2cnt` (bin_uiui.c:343) does not wrap and satisfies `ASSERT (cnt < GMP_NUMB_BITS)` -/
theorem bdivFinal_shift (n k : ℕ) (hk : ODD_FACTORIAL_TABLE_LIMIT < k) (h2k : 2 * k ≤ n) (hn : n < B) :
    (bdivFinal n k).j2cnt ≤ (bdivFinal n k).i2cnt ∧ (bdivFinal n k).i2cnt - (bdivFinal n k).j2cnt < 64 ∧
    (bdivFinal n k).np * 2 ^ ((bdivFinal n k).i2cnt - (bdivFinal n k).j2cnt) = n.choose k := by
  obtain ⟨_, e1, e2⟩ := bdivFinal_spec n k hk h2k hn
  generalize bdivFinal n k = r at e1 e2 ⊢
  have hle : r.j2cnt ≤ r.i2cnt := by
    have hd : 2 ^ r.j2cnt ∣ r.np * 2 ^ r.i2cnt := ⟨_, e1⟩
    have hcop : Nat.Coprime (2 ^ r.j2cnt) r.np := by
      apply Nat.Coprime.pow_left
      rw [Nat.Prime.coprime_iff_not_dvd Nat.prime_two]; omega
    exact (Nat.pow_dvd_pow_iff_le_right (by omega)).mp (hcop.dvd_of_dvd_mul_left hd)
  have hC : r.np * 2 ^ (r.i2cnt - r.j2cnt) = n.choose k := by
    have : r.np * 2 ^ (r.i2cnt - r.j2cnt) * 2 ^ r.j2cnt = n.choose k * 2 ^ r.j2cnt := by
      rw [mul_assoc, ← pow_add, Nat.sub_add_cancel hle, e1, mul_comm]
    exact Nat.eq_of_mul_eq_mul_right (by positivity) this
  refine ⟨hle, ?_, hC⟩
  by_contra hge
  apply choose_not_dvd_two_pow_64 n k hn (by omega)
  rw [← hC]
  exact Dvd.dvd.mul_left (Nat.pow_dvd_pow 2 (by omega)) _

theorem bdiv_shift_count (n k : ℕ) (hk : ODD_FACTORIAL_TABLE_LIMIT < k) (h2k : 2 * k ≤ n) (hn : n < B) :
    (bdivFinal n k).j2cnt ≤ (bdivFinal n k).i2cnt ∧ (bdivFinal n k).i2cnt - (bdivFinal n k).j2cnt < 64 :=
  ⟨(bdivFinal_shift n k hk h2k hn).1, (bdivFinal_shift n k hk h2k hn).2.1⟩

theorem bdiv_bin_uiui_eq (n k : ℕ) (hk : ODD_FACTORIAL_TABLE_LIMIT < k) (h2k : 2 * k ≤ n) (hn : n < B) :
    bdiv_bin_uiui n k = some (n.choose k) := by
  rw [bdiv_bin_uiui_unfold, (bdivFinal_spec n k hk h2k hn).1, Nat.shiftLeft_eq, (bdivFinal_shift n k hk h2k hn).2.2]
  rfl

end Mpir.Numth
