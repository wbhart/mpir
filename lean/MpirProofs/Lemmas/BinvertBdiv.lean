/- mpn_dc_bdiv_qr_n at value level (Mpir/Model/BinvertBdiv.lean): the recursion keeps N + rh·B^2n = Q·D + R·B^n. -/
import MpirProofs.Lemmas.Powm
import MpirProofs.Lemmas.Arith
import Mpir.Model.BinvertBdiv
import Mathlib.Tactic.LinearCombination
namespace Mpir.Binvert
open Mpir Mpir.Powm

/-- the contract of the mpn_*_bdiv_qr family on `(Q, R, rh)` -/
def QrOk (N D n : Nat) (r : Nat × Nat × Nat) : Prop :=
  r.1 < B ^ n ∧ r.2.1 < B ^ n ∧ r.2.2 ≤ 1 ∧ N + r.2.2 * B ^ (2 * n) = r.1 * D + r.2.1 * B ^ n

/-- the contract assumed of mpn_sb_bdiv_qr (.., 2n, .., n, ..): every n ≥ 1, N < B^2n, odd D < B^n -/
def SbSpec (sb : Nat → Nat → Nat → Nat × Nat × Nat) : Prop :=
  ∀ N D n, 1 ≤ n → N < B ^ (2 * n) → D < B ^ n → D % 2 = 1 → QrOk N D n (sb N D n)

theorem belowThr_false (size thr : Nat) (h : belowThr size thr = false) (ht : 1 ≤ thr) : thr ≤ size := by
  unfold belowThr at h
  have : (thr == 0) = false := by simp; omega
  simp [this] at h; exact h

theorem mod_two_of_mod_pow (D k : Nat) (hk : 1 ≤ k) (h : D % 2 = 1) : (D % B ^ k) % 2 = 1 := by
  have : 2 ∣ B ^ k := dvd_trans (by rw [B_eq]; norm_num) (dvd_pow_self B (by omega))
  rw [Nat.mod_mod_of_dvd _ this]; exact h

theorem mul_add_le (u v c P Q : Nat) (hu : u < P) (hv : v < Q) (hc : c ≤ 1) : u * v + c * P ≤ P * Q :=
  calc u * v + c * P ≤ P * v + 1 * P := Nat.add_le_add (Nat.mul_le_mul_right v hu.le) (Nat.mul_le_mul_right P hc)
    _ = P * (v + 1) := by rw [Nat.mul_add, Nat.mul_one, Nat.one_mul]
    _ ≤ P * Q := Nat.mul_le_mul_left P hv

theorem borrow_le_one (N c X QD RB : Nat) (h : N + c * X = QD + RB) (h1 : QD < X) (h2 : RB < X) : c ≤ 1 := by
  by_contra hc
  have : 2 * X ≤ c * X := Nat.mul_le_mul_right _ (by omega)
  omega

/-- one level of mpn_dc_bdiv_qr_n over arbitrary moduli `L`, `H` in place of `B^lo`, `B^hi`: `M`, `R` are what the two
    subtractions store, `rh`, `rh2` their borrows -/
theorem qr_step_nat (L H N D qa ra ca qb rb cb M rh R rh2 : Nat) (hL : 0 < L) (hH : 0 < H)
    (hN : N < L * L * (H * H)) (hD : D < L * H)
    (a1 : qa < L) (a2 : ra < L) (a3 : ca ≤ 1) (a4 : N % (L * L) + ca * (L * L) = qa * (D % L) + ra * L)
    (hM : M = (ra + L * (N / (L * L)) + L * (H * H) - (D / L * qa + ca * L)) % (L * (H * H)))
    (hrh : rh = if ra + L * (N / (L * L)) < D / L * qa + ca * L then 1 else 0)
    (b1 : qb < H) (b2 : rb < H) (b3 : cb ≤ 1) (b4 : M % (H * H) + cb * (H * H) = qb * (D % H) + rb * H)
    (hR : R = (rb + H * (M / (H * H)) + L * H - (qb * (D / H) + cb * H)) % (L * H))
    (hrh2 : rh2 = if rb + H * (M / (H * H)) < qb * (D / H) + cb * H then 1 else 0) :
    qa + L * qb < L * H ∧ R < L * H ∧ rh + rh2 ≤ 1 ∧
      N + (rh + rh2) * (L * L * (H * H)) = (qa + L * qb) * D + R * (L * H) := by
  have hHH : 0 < H * H := Nat.mul_pos hH hH
  have hNd := Nat.mod_add_div N (L * L)
  have hDd := Nat.mod_add_div D L
  have hNb : N / (L * L) < H * H := Nat.div_lt_of_lt_mul hN
  have hDh : D / L < H := Nat.div_lt_of_lt_mul hD
  generalize N % (L * L) = Na at *
  generalize N / (L * L) = Nb at *
  generalize D % L = Dl at *
  generalize D / L = Dh at *
  have hMlt : ra + L * Nb < L * (H * H) := add_mul_lt a2 hNb
  have htp : Dh * qa + ca * L ≤ L * (H * H) := by
    have t1 := mul_add_le qa Dh ca L H a1 hDh a3
    have t2 : L * H ≤ L * (H * H) := Nat.mul_le_mul_left _ (Nat.le_mul_of_pos_left _ hH)
    rw [Nat.mul_comm Dh]
    omega
  have hM' := sub_mod_borrow _ _ _ hMlt htp
  rw [← hM, ← hrh] at hM'
  have hM'lt : M < L * (H * H) := hM ▸ Nat.mod_lt _ (Nat.mul_pos hL hHH)
  clear hM hrh
  have hMd := Nat.mod_add_div M (H * H)
  have hDd2 := Nat.mod_add_div D H
  have hMb : M / (H * H) < L := Nat.div_lt_of_lt_mul (by rw [Nat.mul_comm]; exact hM'lt)
  have hDt : D / H < L := Nat.div_lt_of_lt_mul (by rw [Nat.mul_comm]; exact hD)
  generalize M % (H * H) = Ma at *
  generalize M / (H * H) = Mb at *
  generalize D % H = D2 at *
  generalize D / H = Dt at *
  have hRn : rb + H * Mb < L * H := by rw [Nat.mul_comm L]; exact add_mul_lt b2 hMb
  have htp2 : qb * Dt + cb * H ≤ L * H := by rw [Nat.mul_comm L]; exact mul_add_le qb Dt cb H L b1 hDt b3
  have hR' := sub_mod_borrow _ _ _ hRn htp2
  rw [← hR, ← hrh2] at hR'
  have hRlt : R < L * H := hR ▸ Nat.mod_lt _ (Nat.mul_pos hL hH)
  have hQ : qa + L * qb < L * H := add_mul_lt a1 b1
  have key : N + (rh + rh2) * (L * L * (H * H)) = (qa + L * qb) * D + R * (L * H) := by
    zify at hNd hDd hMd hDd2 a4 b4 ⊢
    push_cast at hM' hR'
    linear_combination -hNd + (qa : ℤ) * hDd + ((L : ℤ) * qb) * hDd2 + a4 - (L : ℤ) * hM' - (L : ℤ) * hMd + (L : ℤ) * b4
      - ((L : ℤ) * H) * hR'
  refine ⟨hQ, hRlt, ?_, key⟩
  have q1 : (qa + L * qb) * D < L * H * (L * H) := Nat.mul_lt_mul'' hQ hD
  have q2 : R * (L * H) < L * H * (L * H) := Nat.mul_lt_mul_of_pos_right hRlt (Nat.mul_pos hL hH)
  rw [show L * L * (H * H) = L * H * (L * H) by ring] at key
  exact borrow_le_one _ _ _ _ _ key q1 q2

theorem qr_step (N D n lo hi : Nat) (a b : Nat × Nat × Nat) (hnn : n = lo + hi)
    (hN : N < B ^ (2 * n)) (hD : D < B ^ n)
    (hA : QrOk (N % B ^ (2 * lo)) (D % B ^ lo) lo a)
    (hBq : QrOk (((a.2.1 + B ^ lo * (N / B ^ (2 * lo)) + B ^ (n + hi) - ((D / B ^ lo) * a.1 + a.2.2 * B ^ lo)) % B ^ (n + hi))
      % B ^ (2 * hi)) (D % B ^ hi) hi b) :
    QrOk N D n (a.1 + B ^ lo * b.1,
      (b.2.1 + B ^ hi * (((a.2.1 + B ^ lo * (N / B ^ (2 * lo)) + B ^ (n + hi) - ((D / B ^ lo) * a.1 + a.2.2 * B ^ lo)) % B ^ (n + hi))
        / B ^ (2 * hi)) + B ^ n - (b.1 * (D / B ^ hi) + b.2.2 * B ^ hi)) % B ^ n,
      (if a.2.1 + B ^ lo * (N / B ^ (2 * lo)) < (D / B ^ lo) * a.1 + a.2.2 * B ^ lo then 1 else 0) +
      (if b.2.1 + B ^ hi * (((a.2.1 + B ^ lo * (N / B ^ (2 * lo)) + B ^ (n + hi) - ((D / B ^ lo) * a.1 + a.2.2 * B ^ lo)) % B ^ (n + hi))
        / B ^ (2 * hi)) < b.1 * (D / B ^ hi) + b.2.2 * B ^ hi then 1 else 0)) := by
  have hBn : B ^ n = B ^ lo * B ^ hi := by rw [hnn, pow_add]
  have hB2n : B ^ (2 * n) = B ^ lo * B ^ lo * (B ^ hi * B ^ hi) := by
    rw [hnn, Nat.mul_add, pow_add, two_mul, two_mul, pow_add, pow_add]
  have hBnh : B ^ (n + hi) = B ^ lo * (B ^ hi * B ^ hi) := by rw [hnn, Nat.add_assoc, pow_add, pow_add]
  have h2lo : B ^ (2 * lo) = B ^ lo * B ^ lo := by rw [two_mul, pow_add]
  have h2hi : B ^ (2 * hi) = B ^ hi * B ^ hi := by rw [two_mul, pow_add]
  unfold QrOk at hA hBq ⊢
  simp only [hBn, hB2n, hBnh, h2lo, h2hi] at hN hD hA hBq ⊢
  obtain ⟨a1, a2, a3, a4⟩ := hA
  obtain ⟨b1, b2, b3, b4⟩ := hBq
  exact qr_step_nat (B ^ lo) (B ^ hi) N D a.1 a.2.1 a.2.2 b.1 b.2.1 b.2.2 _ _ _ _ (Nat.pow_pos B_pos) (Nat.pow_pos B_pos)
    hN hD a1 a2 a3 a4 rfl rfl b1 b2 b3 b4 rfl rfl

theorem dcBdivQrN_spec (thr : Nat) (hthr : 2 ≤ thr) (sb : Nat → Nat → Nat → Nat × Nat × Nat) (hsb : SbSpec sb) (f : Nat) :
    ∀ (N D n : Nat), 2 ≤ n → N < B ^ (2 * n) → D < B ^ n → D % 2 = 1 → QrOk N D n (dcBdivQrN thr sb f N D n) := by
  induction f with
  | zero =>
    intro N D n hn hN hD hodd
    exact hsb N D n (by omega) hN hD hodd
  | succ f ih =>
    intro N D n hn hN hD hodd
    have hlo : 1 ≤ n / 2 := by omega
    have hhi : 1 ≤ n - n / 2 := by omega
    have sub : ∀ (N' k : Nat), 1 ≤ k → N' < B ^ (2 * k) →
        QrOk N' (D % B ^ k) k (if belowThr k thr then sb N' (D % B ^ k) k else dcBdivQrN thr sb f N' (D % B ^ k) k) := by
      intro N' k hk hN'
      have i2 : D % B ^ k < B ^ k := Nat.mod_lt _ (Nat.pow_pos B_pos)
      have i3 := mod_two_of_mod_pow D k hk hodd
      by_cases hb : belowThr k thr = true
      · rw [if_pos hb]; exact hsb _ _ _ hk hN' i2 i3
      · rw [if_neg hb]
        have := belowThr_false k thr (by simpa using hb) (by omega)
        exact ih _ _ k (by omega) hN' i2 i3
    rw [dcBdivQrN]
    exact qr_step N D n (n / 2) (n - n / 2) _ _ (by omega) hN hD
      (sub _ _ hlo (Nat.mod_lt _ (Nat.pow_pos B_pos))) (sub _ _ hhi (Nat.mod_lt _ (Nat.pow_pos B_pos)))

theorem bdiv_qr_of_modEq (M N D Q : Nat) (r : Nat × Nat × Nat) (hM : 0 < M) (hN : N < M * M) (hD : D < M) (hQ : Q < M)
    (hQD : Q * D ≡ N [MOD M])
    (hr : r = if Q * D ≤ N then (Q, (N - Q * D) / M, 0) else (Q, M - (Q * D - N) / M, 1)) :
    r.1 < M ∧ r.2.1 < M ∧ r.2.2 ≤ 1 ∧ N + r.2.2 * (M * M) = r.1 * D + r.2.1 * M := by
  have hQDlt : Q * D < M * M := Nat.mul_lt_mul'' hQ hD
  subst hr
  by_cases hle : Q * D ≤ N
  · rw [if_pos hle]
    obtain ⟨e, he⟩ := (Nat.modEq_iff_dvd' hle).mp hQD
    rw [he, Nat.mul_div_cancel_left _ hM]
    dsimp only
    have helt : e < M := by
      by_contra hc
      have := Nat.mul_le_mul_left M (Nat.le_of_not_lt hc)
      omega
    refine ⟨hQ, helt, Nat.zero_le _, ?_⟩
    rw [Nat.mul_comm e]
    omega
  · rw [if_neg hle]
    obtain ⟨e, he⟩ := (Nat.modEq_iff_dvd' (Nat.le_of_not_le hle)).mp hQD.symm
    rw [he, Nat.mul_div_cancel_left _ hM]
    dsimp only
    have he1 : 1 ≤ e := by
      rcases Nat.eq_zero_or_pos e with h | h
      · subst h; omega
      · exact h
    have helt : e ≤ M := by
      by_contra hc
      have := Nat.mul_le_mul_left M (Nat.le_of_not_le hc)
      omega
    refine ⟨hQ, by omega, le_refl _, ?_⟩
    rw [Nat.sub_mul, Nat.mul_comm e]
    omega

theorem sbSpec_val : SbSpec sbBdivQrVal := by
  intro N D n hn hN hD hodd
  have hb : binvert D n * D ≡ 1 [MOD B ^ n] := by
    unfold Nat.ModEq
    rw [binvert_spec D n hn hodd, Nat.mod_eq_of_lt (one_lt_B_pow hn)]
  have hQD : (N * binvert D n) % B ^ n * D ≡ N [MOD B ^ n] := by
    have h := hb.mul_left N
    rw [← Nat.mul_assoc, Nat.mul_one] at h
    exact ((Nat.mod_modEq (N * binvert D n) (B ^ n)).mul_right D).trans h
  unfold QrOk
  rw [two_mul, pow_add] at hN ⊢
  exact bdiv_qr_of_modEq (B ^ n) N D _ _ (Nat.pow_pos B_pos) hN hD (Nat.mod_lt _ (Nat.pow_pos B_pos)) hQD rfl

end Mpir.Binvert
