/- mpz_remove (model in Mpir/Model/Numth.lean): the squaring phase and the walk back down. -/
import MpirProofs.Lemmas.Numth
namespace Mpir.Numth
open Mpir Mpir.Gen.NumthTabs

/-- [F^(2^(p-1)), ..., F^2, F^1]: the powers the second phase of mpz_remove walks through -/
def downList (F : ℕ) : ℕ → List ℕ
  | 0 => []
  | p + 1 => F ^ 2 ^ p :: downList F p

/-- fpow[p], ..., fpow[0] -/
def powList (F p : ℕ) : List ℕ := F ^ 2 ^ p :: downList F p

theorem removeUp_spec (F a : ℕ) (hF : 2 ≤ F) : ∀ fuel dest p, 1 ≤ dest → a = dest * F ^ (2 ^ p - 1) →
    a < 2 ^ (2 ^ (fuel + p) - 1) →
    ∃ dest' p', removeUp fuel dest (powList F p) p = (dest', powList F p', p') ∧ 1 ≤ dest' ∧
      a = dest' * F ^ (2 ^ p' - 1) ∧ ¬ F ^ 2 ^ p' ∣ dest' := by
  intro fuel
  induction fuel with
  | zero =>
    intro dest p hd ha hlt
    exfalso
    simp only [Nat.zero_add] at hlt
    have h1 : 2 ^ (2 ^ p - 1) ≤ F ^ (2 ^ p - 1) := Nat.pow_le_pow_left hF _
    have h2 : F ^ (2 ^ p - 1) ≤ dest * F ^ (2 ^ p - 1) := Nat.le_mul_of_pos_left _ hd
    omega
  | succ fuel ih =>
    intro dest p hd ha hlt
    rw [powList, removeUp]
    by_cases hdiv : dest % F ^ 2 ^ p ≠ 0
    · simp only [hdiv, ne_eq, not_false_eq_true, if_true]
      exact ⟨dest, p, rfl, hd, ha, fun h => hdiv (Nat.mod_eq_zero_of_dvd h)⟩
    · simp only [hdiv, if_false]
      have hdvd : F ^ 2 ^ p ∣ dest := Nat.dvd_of_mod_eq_zero (by simpa using hdiv)
      have hFpos : 0 < F ^ 2 ^ p := Nat.pow_pos (by omega)
      have hd' : 1 ≤ dest / F ^ 2 ^ p := Nat.div_pos (Nat.le_of_dvd hd hdvd) hFpos
      have hsq : F ^ 2 ^ p * F ^ 2 ^ p = F ^ 2 ^ (p + 1) := by rw [← pow_add, pow_succ]; congr 1; ring
      have ha' : a = dest / F ^ 2 ^ p * F ^ (2 ^ (p + 1) - 1) := by
        have hpos : 1 ≤ 2 ^ p := Nat.one_le_two_pow
        rw [show 2 ^ (p + 1) - 1 = 2 ^ p + (2 ^ p - 1) by rw [pow_succ]; omega, pow_add, ← mul_assoc,
          Nat.div_mul_cancel hdvd]
        exact ha
      have := ih (dest / F ^ 2 ^ p) (p + 1) hd' ha' (by rw [show fuel + (p + 1) = fuel + 1 + p by ring]; exact hlt)
      rw [powList] at this
      rw [hsq]; exact this

theorem removeDown_spec (F : ℕ) (hF : 2 ≤ F) : ∀ p dest pwr, 1 ≤ dest → ¬ F ^ 2 ^ p ∣ dest →
    dest * F ^ pwr = (removeDown (downList F p) p dest pwr).1 * F ^ (removeDown (downList F p) p dest pwr).2 ∧
    ¬ F ∣ (removeDown (downList F p) p dest pwr).1 := by
  intro p
  induction p with
  | zero => intro dest pwr _ h; simpa [downList, removeDown] using h
  | succ p ih =>
    intro dest pwr hd hnd
    rw [downList, removeDown]
    simp only [Nat.add_sub_cancel]
    have hFpos : 0 < F ^ 2 ^ p := Nat.pow_pos (by omega)
    by_cases hdiv : dest % F ^ 2 ^ p = 0
    · simp only [hdiv, if_true]
      have hdvd : F ^ 2 ^ p ∣ dest := Nat.dvd_of_mod_eq_zero hdiv
      have hd' : 1 ≤ dest / F ^ 2 ^ p := Nat.div_pos (Nat.le_of_dvd hd hdvd) hFpos
      have hnd' : ¬ F ^ 2 ^ p ∣ dest / F ^ 2 ^ p := by
        intro h
        apply hnd
        have : F ^ 2 ^ p * F ^ 2 ^ p ∣ dest := by
          rw [← Nat.div_mul_cancel hdvd]; exact Nat.mul_dvd_mul_right h _
        rwa [← pow_add, show 2 ^ p + 2 ^ p = 2 ^ (p + 1) by rw [pow_succ]; ring] at this
      obtain ⟨h1, h2⟩ := ih (dest / F ^ 2 ^ p) (pwr + 2 ^ p) hd' hnd'
      refine ⟨?_, h2⟩
      rw [← h1, pow_add]
      conv_lhs => rw [← Nat.div_mul_cancel hdvd]
      ring
    · simp only [hdiv, if_false]
      exact ih dest pwr hd (fun h => hdiv (Nat.mod_eq_zero_of_dvd h))

/-- the two phases of mpz_remove on naturals: r is what the first returns, q what the second returns -/
theorem mpz_remove_nat (a F : ℕ) (ha : a ≠ 0) (hF : 3 ≤ F) : ∀ r, removeUp (a.log2 + 2) a [F] 0 = r →
    ∀ q, removeDown (r.2.1.drop 1) r.2.2 r.1 (2 ^ r.2.2 - 1) = q → a = q.1 * F ^ q.2 ∧ ¬ F ∣ q.1 := by
  rintro _ rfl _ rfl
  have hlt : a < 2 ^ (2 ^ (a.log2 + 2 + 0) - 1) := by
    have h1 : a < 2 ^ (a.log2 + 1) := Nat.lt_log2_self
    have h2 : a.log2 + 1 ≤ 2 ^ (a.log2 + 2 + 0) - 1 := by
      have : a.log2 + 2 < 2 ^ (a.log2 + 2) := Nat.lt_two_pow_self
      simp only [Nat.add_zero]; omega
    exact lt_of_lt_of_le h1 (Nat.pow_le_pow_right (by norm_num) h2)
  have hinit : [F] = powList F 0 := by simp [powList, downList]
  obtain ⟨dest', p', e, hd, ha', hnd⟩ := removeUp_spec F a (by omega) (a.log2 + 2) a 0 (by omega) (by simp) hlt
  rw [hinit, e]
  simp only [powList, List.drop_one, List.tail_cons]
  obtain ⟨h1, h2⟩ := removeDown_spec F (by omega) p' dest' (2 ^ p' - 1) hd hnd
  exact ⟨by rw [← h1]; exact ha', h2⟩

theorem signed_factor (x : ℤ) (d F w : ℕ) (ha : x.natAbs = d * F ^ w) (hnd : ¬ F ∣ d) :
    x = (if x < 0 then -(Int.ofNat d) else Int.ofNat d) * (F : ℤ) ^ w ∧
    ¬ (F : ℤ) ∣ (if x < 0 then -(Int.ofNat d) else Int.ofNat d) := by
  have hnd' : ¬ (F : ℤ) ∣ (d : ℤ) := fun h => hnd (Int.natCast_dvd_natCast.mp h)
  by_cases hx : x < 0
  · simp only [hx, if_true, Int.ofNat_eq_natCast]
    refine ⟨?_, fun h => hnd' ((dvd_neg).mp h)⟩
    have : x = -(x.natAbs : ℤ) := by omega
    rw [this, ha]; push_cast; ring
  · simp only [hx, if_false, Int.ofNat_eq_natCast]
    refine ⟨?_, hnd'⟩
    have : x = (x.natAbs : ℤ) := by omega
    rw [this, ha]; push_cast; ring

end Mpir.Numth
