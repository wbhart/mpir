/-
  C01 (the squaring variants) — the squaring-specific C of mpn_kara_sqr_n, mpn_toom3_sqr_n, mpn_toom4_sqr_n
  (value-level models in Mpir/Model/SqrAlgo.lean, mirrored statement by statement; run against the real functions on
  every check, ops sqrx_*).  Property theorems only; lemmas in MpirProofs/Lemmas/SqrAlgo.lean.

    kara_sqr_n_val          mpn_kara_sqr_n = x², every n ≥ 2 and every threshold pair (recursion modelled)
    toom3_sqr_n_is_mul_n    the evaluation / interpolation sequence of mpn_toom3_sqr_n is that of mpn_toom3_mul_n with b = a
    toom3_sqr_n_val         … hence = a²
    toom4_sqr_n_is_mul_n    the same for mpn_toom4_sqr_n / mpn_toom4_mul_n
    toom4_sqr_n_val         … hence = a²
  Statements of the C that differ from the multiplication functions and are covered by the run only (limb level): the
  single-operand evaluation code (toom3_mul_n.c:287-342 reuses c / t2 for a0+a2 and a0+a1+a2; toom4_mul_n.c:769-794 with the
  tc4_* helpers on signed lengths), the saved limb vinf0 / r30, r31 around the recursive squarings, the scratch layout
  (trec = t + 4k + 3), TOOM3_SQR_REC / SQR_TC4 dispatch to mpn_sqr_basecase (assembly) and the interpolation functions
  at limb level (shared with the multiplications).
-/
import MpirProofs.Lemmas.SqrAlgo
namespace Mpir.SqrAlgo
open Mpir Mpir.MulAlgo

/-- mpn_kara_sqr_n (mul_n.c:226-280): |xh − xl|, three squares (mpn_mul_basecase below T1 = SQR_BASECASE_THRESHOLD,
    mpn_sqr_basecase below T2 = SQR_KARATSUBA_THRESHOLD, else recursively), mpn_karasub: the square, for every n ≥ 2,
    every x, every T1 and every T2 ≥ 3 (so that the halves of a recursive call are again ≥ 2 limbs). -/
theorem kara_sqr_n_val (T1 T2 : Nat) (hT : 3 ≤ T2) (n : Nat) (hn : 2 ≤ n) (x : Nat) :
    kara_sqr_n T1 T2 x n = some (x * x) := by
  rw [kara_sqr_n_eq_mul]; exact kara_mul_n_eq _ (le_max_of_le_right hT) n hn x x

-- non-vacuity: odd size, xh < xl at the top level, thresholds 0 / 3 force a recursion at n = 7
example : kara_sqr_n 0 3 (5 + B * 7 + B ^ 2 * 1 + B ^ 6 * 2) 7 = some ((5 + B * 7 + B ^ 2 * 1 + B ^ 6 * 2) * (5 + B * 7 + B ^ 2 * 1 + B ^ 6 * 2)) :=
  kara_sqr_n_val 0 3 (by decide) 7 (by decide) _
example : kara_sqr_n 0 3 0 1 = none := by rw [kara_sqr_n]; simp

/-- mpn_toom3_sqr_n (toom3_mul_n.c:253-404) computes exactly the values mpn_toom3_mul_n computes for b = a: the same five
    evaluation points formed the same way, and the constant sign 1 it hands to mpn_toom3_interpolate is equivalent to the
    product sa·sa of the multiplication (the interpolation only tests `sa < 0`). -/
theorem toom3_sqr_n_is_mul_n (sqr : Nat → Nat) (hsqr : ∀ x, sqr x = x * x) (a n : Nat) :
    toom3_sqr_n sqr a n = toom3_mul_n (fun x y => x * y) a a n := toom3_sqr_n_eq_mul sqr hsqr a n

/-- … and therefore returns the square (for every a and n; the C's domain is n ≥ 17). -/
theorem toom3_sqr_n_val (sqr : Nat → Nat) (hsqr : ∀ x, sqr x = x * x) (a n : Nat) : toom3_sqr_n sqr a n = a * a := by
  rw [toom3_sqr_n_is_mul_n sqr hsqr]; exact toom3_mul_eq _ (fun _ _ => rfl) a n a n

example : toom3_sqr_n (fun x => x * x) (3 + B * 5 + B ^ 2 * 7) 3 = (3 + B * 5 + B ^ 2 * 7) * (3 + B * 5 + B ^ 2 * 7) :=
  toom3_sqr_n_val _ (fun _ => rfl) _ _
-- a1 > a0 + a2: the |a0 − a1 + a2| branch
example : toom3_sqr_n (fun x => x * x) (1 + B * (B - 1) + B ^ 2 * 2) 3 = (1 + B * (B - 1) + B ^ 2 * 2) * (1 + B * (B - 1) + B ^ 2 * 2) := by
  decide +kernel

/-- mpn_toom4_sqr_n (toom4_mul_n.c:743-826) computes exactly the values mpn_toom4_mul_n computes for b = a (n ≥ 1): the
    evaluation points are the same sums written in another order, the values at −1 and −1/2 are squares of magnitudes and
    the signs n4, n6 handed to mpn_toom4_interpolate are non-negative — what the multiplication's `n4 ^ n5` gives for
    equal operands. -/
theorem toom4_sqr_n_is_mul_n (sqr : Nat → Nat) (hsqr : ∀ x, sqr x = x * x) (a n : Nat) (hn : 1 ≤ n) :
    toom4_sqr_n sqr a n = toom4_mul_n (fun x y => x * y) a a n := toom4_sqr_n_eq_mul sqr hsqr a n hn

/-- … and therefore returns the square. -/
theorem toom4_sqr_n_val (sqr : Nat → Nat) (hsqr : ∀ x, sqr x = x * x) (a n : Nat) (hn : 1 ≤ n) :
    toom4_sqr_n sqr a n = a * a := by
  rw [toom4_sqr_n_is_mul_n sqr hsqr a n hn]; exact toom4_mul_eq _ (fun _ _ => rfl) a n a n

-- non-vacuity: a1 + a3 > a0 + a2 (negative value at −1) and 4 a1 + a3 > 8 a0 + 2 a2 (negative value at −1/2)
example : toom4_sqr_n (fun x => x * x) (1 + B * 9 + B ^ 2 * 3 + B ^ 3 * 4) 4 =
    (1 + B * 9 + B ^ 2 * 3 + B ^ 3 * 4) * (1 + B * 9 + B ^ 2 * 3 + B ^ 3 * 4) := by decide +kernel

end Mpir.SqrAlgo
