/-
  C01 (algorithm layer) — every multiplication algorithm returns exactly the mathematical product, and the
  size dispatch never leaves an algorithm's domain.  Property theorems only; lemmas are in
  MpirProofs/Lemmas/{MulAlgo,MulDispatch,FftParams}.lean.

  What the theorems are about:
  * `Mpir.MulAlgo.*`        hand-written value-level models of the C algorithms (Mpir/Model/MulAlgo.lean), each run
                            against the real entry point on every check (op `mpn_<algo>`, answer `!model` on mismatch);
  * `Mpir.Gen.MulDispatch.*` call skeletons TRANSLATED from mul.c / mul_n.c on every check (tools/gen_mul_dispatch.py);
  * `Mpir.Gen.params`       thresholds and tables EXTRACTED from the build's headers on every check (tools/gen_params.py);
  * `Mpir.FftParams.*`      hand-written mirror of the integer code of fft/mul_fft_main.c.
-/
import MpirProofs.Lemmas.MulAlgo
import MpirProofs.Lemmas.MulDispatch
import MpirProofs.Lemmas.FftParams

namespace Mpir.MulAlgo

/-- mpn_kara_mul_n (mul_n.c:143-223): for every recursion threshold T ≥ 3, every n ≥ 2 and ALL operand values, the
    model — |xh−xl|, |yh−yl|, the `suboradd` sign logic, karasub/karaadd recombination, and the recursion on
    n/2 and n−n/2 — returns x·y.  (T ≥ 3 is needed: with T = 2 the C recurses into n = 1, whose halves are empty.) -/
theorem kara_mul_n_val (T : Nat) (hT : 3 ≤ T) (n : Nat) (hn : 2 ≤ n) (x y : Nat) :
    kara_mul_n T x y n = some (x * y) := kara_mul_n_eq T hT n hn x y

-- non-vacuity: an odd size with xh < xl and yh > yl (karaadd path), threshold 3 forces a recursion at n = 7
example : kara_mul_n 3 (5 + B * 7 + B ^ 2 * 1 + B ^ 3 * 0 + B ^ 4 * 0 + B ^ 5 * 0 + B ^ 6 * 0)
                       (1 + B ^ 3 * 9 + B ^ 6 * 2) 7
    = some ((5 + B * 7 + B ^ 2 * 1 + B ^ 3 * 0 + B ^ 4 * 0 + B ^ 5 * 0 + B ^ 6 * 0) * (1 + B ^ 3 * 9 + B ^ 6 * 2)) :=
  kara_mul_n_val 3 (by decide) 7 (by decide) _ _
example : kara_mul_n 3 0 0 1 = none := by rw [kara_mul_n]; simp      -- outside the domain the model refuses, it does not default

/-- mpn_toom3_interpolate (toom3_mul.c:69-187): for ALL integer coefficient vectors (c0..c4), the C's sequence
    (v2−vm1, /3, (v1−vm1)/2, v1−v0−vinf, −5·vinf, (v2−v1)/2, v1−vm1, vm1−v2) applied to the five evaluation
    values returns the coefficients, and each of the three exact divisions is applied to a multiple of its divisor.
    `vm1`/`sa` are the magnitude and sign as the C passes them. -/
theorem toom3_interp_exact (c0 c1 c2 c3 c4 vm1 sa : Int)
    (hs : (if sa < 0 then -vm1 else vm1) = c0 - c1 + c2 - c3 + c4) :
    (toom3Interp c0 (c0 + c1 + c2 + c3 + c4) (c0 + 2 * c1 + 4 * c2 + 8 * c3 + 16 * c4) vm1 c4 sa).coeffs
      = [c0, c1, c2, c3, c4] ∧
    ∀ p ∈ (toom3Interp c0 (c0 + c1 + c2 + c3 + c4) (c0 + 2 * c1 + 4 * c2 + 8 * c3 + 16 * c4) vm1 c4 sa).divs, p.2 ∣ p.1 :=
  toom3Interp_spec c0 c1 c2 c3 c4 vm1 sa hs

-- non-vacuity: (1 + 2x + 3x²)(4 + 5x + 6x²) = 4 + 13x + 28x² + 27x³ + 18x⁴; p(-1) = 10
example : (toom3Interp 4 90 (4 + 26 + 112 + 216 + 288) 10 18 1).coeffs = [4, 13, 28, 27, 18] := by decide
example : (toom3Interp 4 90 (4 + 26 + 112 + 216 + 288) 10 18 1).divs = [(636, 3), (80, 2), (54, 2)] := by decide

/-- mpn_toom3_mul / mpn_toom3_mul_n (toom3_mul.c:244-414, toom3_mul_n.c:79-251): splitting at B^k, the five
    evaluations with their signs, the pointwise products (callee = exact product) and the interpolation give a·b
    for ALL operand values and ALL sizes. -/
theorem toom3_mul_val (mul : Nat → Nat → Nat) (hmul : ∀ x y, mul x y = x * y) (a an b bn : Nat) :
    toom3_mul mul a an b bn = a * b := toom3_mul_eq mul hmul a an b bn

example : toom3_mul (· * ·) (3 + B * 5 + B ^ 2 * 7) 3 (11 + B * 2 + B ^ 2 * 1) 3
    = (3 + B * 5 + B ^ 2 * 7) * (11 + B * 2 + B ^ 2 * 1) := toom3_mul_val _ (fun _ _ => rfl) _ _ _ _

/-- mpn_toom42_mul (toom3_mul.c:416-608): 4×2 blocks, same five points and interpolation. -/
theorem toom42_exact (mul : Nat → Nat → Nat) (hmul : ∀ x y, mul x y = x * y) (a an b bn : Nat) :
    toom42_mul mul a an b bn = a * b := toom42_mul_eq mul hmul a an b bn

example : toom42_mul (· * ·) (1 + B * 2 + B ^ 2 * 3 + B ^ 3 * 4) 4 (9 + B * 1) 2
    = (1 + B * 2 + B ^ 2 * 3 + B ^ 3 * 4) * (9 + B * 1) := toom42_exact _ (fun _ _ => rfl) _ _ _ _

/-- mpn_toom32_mul (toom3_mul.c:617-812): 3×2 blocks, points 0, ∞, −1, 1, interpolation inline
    ((v1 ± vm1)/2 exact). -/
theorem toom32_exact (mul : Nat → Nat → Nat) (hmul : ∀ x y, mul x y = x * y) (a an b bn : Nat) :
    toom32_mul mul a an b bn = a * b := toom32_mul_eq mul hmul a an b bn

example : toom32_mul (· * ·) (1 + B * 20 + B ^ 2 * 3) 3 (9 + B * 1) 2
    = (1 + B * 20 + B ^ 2 * 3) * (9 + B * 1) := toom32_exact _ (fun _ _ => rfl) _ _ _ _

/-- mpn_toom4_interpolate (toom4_mul_n.c:852-976): for ALL integer coefficient vectors (c0..c6) the C's 25-step
    sequence returns the coefficients; each of the eight exact divisions (by 2, 8, 3, 2, 3, 3, 15, 4) is applied to a
    multiple of its divisor; and the three values shifted LOGICALLY (mpn_rshift at :925, :937, :956) are
    non-negative as soon as c1, c2, c5 ≥ 0 (they are 24·c2, 18·(c1+c5), 4·c1). -/
theorem toom4_interp_exact (c0 c1 c2 c3 c4 c5 c6 r4 r6 : Int) (n4 n6 : Bool)
    (h4 : (if n4 then -r4 else r4) = c0 - c1 + c2 - c3 + c4 - c5 + c6)
    (h6 : (if n6 then -r6 else r6) = 64 * c0 - 32 * c1 + 16 * c2 - 8 * c3 + 4 * c4 - 2 * c5 + c6) :
    let r := toom4Interp c6 (c0 + 2 * c1 + 4 * c2 + 8 * c3 + 16 * c4 + 32 * c5 + 64 * c6) (c0 + c1 + c2 + c3 + c4 + c5 + c6) r4
        (64 * c0 + 32 * c1 + 16 * c2 + 8 * c3 + 4 * c4 + 2 * c5 + c6) r6 c0 n4 n6
    r.coeffs = [c0, c1, c2, c3, c4, c5, c6] ∧ (∀ p ∈ r.divs, p.2 ∣ p.1) ∧
    (0 ≤ c1 → 0 ≤ c2 → 0 ≤ c5 → ∀ p ∈ r.shifts, 0 ≤ p.1) :=
  toom4Interp_spec c0 c1 c2 c3 c4 c5 c6 r4 r6 n4 n6 h4 h6

-- non-vacuity: p(x) = 1 + 2x + 3x² + 4x³ + 5x⁴ + 6x⁵ + 7x⁶: p(1) = 28, p(-1) = 4, p(2) = 769,
-- 64 p(1/2) = 64+64+48+32+20+12+7 = 247, 64 p(-1/2) = 64-64+48-32+20-12+7 = 31
example : (toom4Interp 7 769 28 4 247 31 1 false false).coeffs = [1, 2, 3, 4, 5, 6, 7] := by decide

/-- mpn_toom4_mul / mpn_toom4_mul_n (toom4_mul.c:128-306, toom4_mul_n.c:560-735). -/
theorem toom4_mul_val (mul : Nat → Nat → Nat) (hmul : ∀ x y, mul x y = x * y) (a un b vn : Nat) :
    toom4_mul mul a un b vn = a * b := toom4_mul_eq mul hmul a un b vn

example : toom4_mul (· * ·) (1 + B * 2 + B ^ 2 * 3 + B ^ 3 * 4) 4 (9 + B * 1 + B ^ 2 * 0 + B ^ 3 * 77) 4
    = (1 + B * 2 + B ^ 2 * 3 + B ^ 3 * 4) * (9 + B * 1 + B ^ 2 * 0 + B ^ 3 * 77) := toom4_mul_val _ (fun _ _ => rfl) _ _ _ _

/-- mpn_toom53_mul (toom4_mul.c:314-435): 5×3 blocks, the same seven points and interpolation. -/
theorem toom53_exact (mul : Nat → Nat → Nat) (hmul : ∀ x y, mul x y = x * y) (a un b vn : Nat) :
    toom53_mul mul a un b vn = a * b := toom53_mul_eq mul hmul a un b vn

example : toom53_mul (· * ·) (1 + B * 2 + B ^ 2 * 3 + B ^ 3 * 4 + B ^ 4 * 5) 5 (9 + B * 1 + B ^ 2 * 6) 3
    = (1 + B * 2 + B ^ 2 * 3 + B ^ 3 * 4 + B ^ 4 * 5) * (9 + B * 1 + B ^ 2 * 6) := toom53_exact _ (fun _ _ => rfl) _ _ _ _

/-- The evaluation values fit the 2k+1 limbs the C gives them, with the top-limb bounds it asserts
    (toom3_mul_n.c:126-135 `ASSERT(c2[k+k] < 9)`, :152-161 `ASSERT(t[k+k] < 4)`, :199-208 `ASSERT(v2[k+k] < 49)`),
    for all blocks below t = B^k. -/
theorem toom3_eval_fits (t a0 a1 a2 b0 b1 b2 : Nat) (ha0 : a0 < t) (ha1 : a1 < t) (ha2 : a2 < t)
    (hb0 : b0 < t) (hb1 : b1 < t) (hb2 : b2 < t) :
    (a0 + a2 + a1) * (b0 + b2 + b1) < 9 * t ^ 2 ∧
    absDiff (a0 + a2) a1 * absDiff (b0 + b2) b1 < 4 * t ^ 2 ∧
    ((2 * a2 + a1) * 2 + a0) * ((2 * b2 + b1) * 2 + b0) < 49 * t ^ 2 := by
  have h1 : a0 + a2 + a1 < 3 * t := by omega
  have h2 : b0 + b2 + b1 < 3 * t := by omega
  have h3 : absDiff (a0 + a2) a1 < 2 * t := by unfold absDiff; split <;> omega
  have h4 : absDiff (b0 + b2) b1 < 2 * t := by unfold absDiff; split <;> omega
  have h5 : (2 * a2 + a1) * 2 + a0 < 7 * t := by omega
  have h6 : (2 * b2 + b1) * 2 + b0 < 7 * t := by omega
  refine ⟨?_, ?_, ?_⟩
  · calc (a0 + a2 + a1) * (b0 + b2 + b1) < (3 * t) * (3 * t) := Nat.mul_lt_mul'' h1 h2
      _ = 9 * t ^ 2 := by ring
  · calc absDiff (a0 + a2) a1 * absDiff (b0 + b2) b1 < (2 * t) * (2 * t) := Nat.mul_lt_mul'' h3 h4
      _ = 4 * t ^ 2 := by ring
  · calc ((2 * a2 + a1) * 2 + a0) * ((2 * b2 + b1) * 2 + b0) < (7 * t) * (7 * t) := Nat.mul_lt_mul'' h5 h6
      _ = 49 * t ^ 2 := by ring

-- non-vacuity and tightness: all-ones blocks reach top limb 8 = 9 - 1 in v1
example : ((B - 1) + (B - 1) + (B - 1)) * ((B - 1) + (B - 1) + (B - 1)) / B ^ 2 = 8 := by decide

-- the Toom-4.2 assertion `c2[k+k] < 6` (toom3_mul.c:472) is NOT a consequence of the size preconditions:
-- with full blocks the top limb of v1 is 7 (see `toom42_eval_bounds`: the true bound is 8·B^2k)
example : ((B - 1) + (B - 1) + ((B - 1) + (B - 1))) * ((B - 1) + (B - 1)) / B ^ 2 = 7 := by decide

end Mpir.MulAlgo

namespace Mpir.MulDispatch
open Mpir.Skel Mpir.Gen Mpir.Gen.MulDispatch

/-- The thresholds and limits extracted from the tree under check satisfy what the dispatch code assumes. -/
theorem params_are_valid : Valid params := params_valid

/-- mpn_mul (GENERATED skeleton of mul.c:52-280), for EVERY parameter record satisfying `Valid` and all
    un ≥ vn ≥ 1, whichever pointers are passed (up == vp or not): every path terminates with `un + 1` units of
    fuel (both loops), returns the limb `prodp[un + vn - 1]` of the ORIGINAL prodp, and every call it makes —
    basecase (also each chunk of the un > MUL_BASECASE_MAX_UN loop, and the swapped call at mul.c:134), FFT, toom8h,
    toom4, toom53, toom42, toom3, toom32, mpn_mul_n / mpn_sqr, every mpn_add_n / mpn_add_1 of the slide loop, the
    ASSERTs — is inside the callee's size domain (`domainOk`). -/
theorem mul_dispatch_safe (P : Params) (hP : Valid P) (un vn ub uo vb vo : Int) (hv : 1 ≤ vn) (hu : vn ≤ un) :
    Good P (un + vn - 1) (mpn_mul P (un + 1).toNat [] 1 0 ub uo un vb vo vn) :=
  mul_ok P hP _ un vn ub uo vb vo hv hu (by omega)

-- non-vacuity: the tree's parameters, a size in the slide loop (17 ≤ vn ≤ ceil(un/4)) and one in the chunk loop
example : Good params (200 + 20 - 1) (mpn_mul params 201 [] 1 0 2 0 200 3 0 20) :=
  mul_dispatch_safe params params_valid 200 20 2 0 3 0 (by decide) (by decide)
example : ((runMul params false 1300 7).trace.filter isProduct).length = 3 := by decide
example : dispatch params false 200 60 = Algo.toom42 ∧ dispatch params false 200 110 = Algo.toom32
    ∧ dispatch params false 200 180 = Algo.toom4 ∧ dispatch params false 300 140 = Algo.toom42 := by decide

/-- mpn_mul_n (generated skeleton of mul_n.c:282-330): for all n ≥ 1 the selected algorithm is called inside its
    domain (kara n ≥ 2, toom3 n ≥ 17, toom4 n ≥ MPN_TOOM4_MUL_N_MINSIZE, toom8h n ≥ 86, fft n ≥ 1). -/
theorem mul_n_dispatch_safe (P : Params) (hP : Valid P) (n ab ao bb bo : Int) (hn : 1 ≤ n) :
    GoodVoid P (mpn_mul_n P 0 [] 1 0 ab ao bb bo n) := mul_n_ok P hP 0 n ab ao bb bo hn

example : dispatchN params 16 = Algo.basecase ∧ dispatchN params 17 = Algo.kara ∧ dispatchN params 98 = Algo.toom3n
    ∧ dispatchN params 148 = Algo.toom4n ∧ dispatchN params 238 = Algo.toom8h ∧ dispatchN params 3520 = Algo.fft := by decide

/-- mpn_sqr (generated skeleton of mul_n.c:332-387). -/
theorem sqr_dispatch_safe (P : Params) (hP : Valid P) (n ab ao : Int) (hn : 1 ≤ n) :
    GoodVoid P (mpn_sqr P 0 [] 1 0 ab ao n) := sqr_ok P hP 0 n ab ao hn

example : dispatchSqr params 23 = Algo.sqrBasecase ∧ dispatchSqr params 24 = Algo.karaSqr
    ∧ dispatchSqr params 2016 = Algo.fft := by decide

/-- PARTIAL composition (the full statement is: "the limbs mpn_mul stores are toLimbs (un+vn) (u·v)").
    Proved: every call recorded by the skeletons that has a value-level model (Karatsuba, Toom-3 balanced and
    unbalanced, Toom-4.2, Toom-3.2, Toom-4 balanced and unbalanced, Toom-5.3), made at sizes inside its domain —
    which `mul_dispatch_safe` establishes for every call mpn_mul makes — returns the exact product of its operands.
    Missing for the full statement: the value-level accumulation of the chunk loop (mul.c:112-137) and of the slide
    loop (mul.c:210-277); toom8h / toom8 squaring / the 16-point interpolation; the FFT transforms (only the
    parameter selection is proved, see `fft_params_sound_partial`); the squaring variants kara_sqr/toom3_sqr/toom4_sqr
    (same evaluation/interpolation sequence with b = a, not separately modelled); limb-level carries. -/
theorem mpn_mul_val_partial (P : Params) (hP : Valid P) (e : Ev) (hd : domainOk P e = true) (u v r : Nat)
    (hr : callValue P e u v = some r) : r = u * v := by
  rw [callValue_eq P hP e hd] at hr
  split at hr
  · exact (Option.some.inj hr).symm
  · cases hr

-- non-vacuity: the Toom-4.2 call mpn_mul makes for (200, 60)
example : callValue params ⟨"mpn_toom42_mul", [.ptr 1 0, .ptr 2 0, .sz 200, .ptr 3 0, .sz 60, .ptr 102 0]⟩ 12345 678
    = some (12345 * 678) := by
  rw [callValue_eq params params_valid _ (by decide), if_pos (by decide)]

end Mpir.MulDispatch

namespace Mpir.FftParams

/-- PARTIAL CORRECTNESS of the parameter selection of mpn_mul_fft_main (fft/mul_fft_main.c:40-102), for every
    table whose entries are offsets ≤ 4 and ALL n1, n2 ≥ 1: whenever the model returns a choice, the parameters
    handed to mpn_mul_trunc_sqrt2 / mpn_mul_mfa_trunc_sqrt2 satisfy what those functions need:
    64 | n·w (coefficients are whole limbs), bits ≥ 1, depth+1 ≤ n·w (no unsigned wrap), j1 + j2 − 1 ≤ 4n (the
    product fits the transform length), 2·bits + depth + 1 ≤ n·w (no coefficient wraps mod 2^(nw)+1).
    Covers the FFT_TAB adjustment with its rounding argument (all 50 (depth, w, off) cases), the "smaller w" loop
    (any number of iterations) and the depth ≥ 11 MFA branch including depth−−, w·=3.
    `_partial`: says nothing when the model returns `none`; `fft_params_sound` below closes that gap. -/
theorem fft_params_sound_partial (tab : List (List Int))
    (htab : ∀ d w, 6 ≤ d → d < 11 → (w = 1 ∨ w = 2) → tabGet tab d w ≤ 4)
    (n1 n2 : Nat) (hn1 : 1 ≤ n1) (hn2 : 1 ≤ n2) (c : Choice) (h : fftParams tab n1 n2 = some c) :
    Sound n1 n2 c := sound_of_fftParams tab htab n1 n2 hn1 hn2 c h

/-- TOTAL correctness of the parameter selection: for every admissible table and ALL n1, n2 ≥ 1 the first loop
    of mul_fft_main.c:55-68 terminates (within the model's fuel 2·(log2(n1+n2)+8): the exit test holds at the
    latest when (2^depth)² ≥ 64·(n1+n2)), and the parameters passed on are sound. -/
theorem fft_params_sound (tab : List (List Int))
    (htab : ∀ d w, 6 ≤ d → d < 11 → (w = 1 ∨ w = 2) → tabGet tab d w ≤ 4)
    (n1 n2 : Nat) (hn1 : 1 ≤ n1) (hn2 : 1 ≤ n2) :
    ∃ c, fftParams tab n1 n2 = some c ∧ Sound n1 n2 c := fftParams_sound tab htab n1 n2 hn1 hn2

/-- the table extracted from the tree under check is admissible -/
theorem fftTab_admissible : ∀ d w, 6 ≤ d → d < 11 → (w = 1 ∨ w = 2) → tabGet Mpir.Gen.params.FFT_TAB d w ≤ 4 :=
  fftTab_le_four

-- non-vacuity: the model does return choices (small, threshold-sized, MFA-sized operands), and they are sound
example : fftParams Mpir.Gen.params.FFT_TAB 1 1 = some ⟨false, 2, 32⟩ := by decide
example : fftParams Mpir.Gen.params.FFT_TAB 3520 3520 = some ⟨false, 7, 14⟩ := by decide
example : ∃ c, fftParams Mpir.Gen.params.FFT_TAB 100000 50000 = some c ∧ Sound 100000 50000 c :=
  fft_params_sound _ fftTab_admissible 100000 50000 (by decide) (by decide)
example : Sound 3520 3520 ⟨false, 7, 14⟩ :=
  fft_params_sound_partial _ fftTab_admissible 3520 3520 (by decide) (by decide) _ (by decide)

end Mpir.FftParams
