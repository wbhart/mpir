/-
  C18 — formatted output follows C printf semantics extended to the MPIR types.
  Property theorems only; helper lemmas live in MpirProofs/Lemmas/Printf.lean.  Every theorem is about the
  executable model in Mpir/Model/Printf.lean, which the correspondence check runs against the real
  gmp_*printf functions (and glibc's snprintf) on every run.
-/
import MpirProofs.Lemmas.Printf
namespace Mpir.Printf

/-- gmp_snprintf / gmp_vsnprintf (bounded writer of printf/snprntffuns.c), for every buffer size and every
    sequence of output callbacks: at most `size` bytes are stored (terminator included), the return value
    is the full length of the untruncated output, and the text stored is its first `size-1` bytes. -/
theorem snprintf_bound (size : Nat) (cs : List Call) :
    (snRun size cs).stored ≤ size ∧
    (snRun size cs).ret = (callsBytes cs).length ∧
    (snRun size cs).text = (callsBytes cs).take (size - 1) := by
  obtain ⟨h1, h2, h3⟩ := snCalls_spec cs { size := size } 0
  simp only [snRun]
  refine ⟨?_, by simpa using h1, by simpa using h2⟩
  simp only [h2, h3, List.nil_append, List.length_take]
  split <;> omega

-- non-vacuity: "-12" ++ padding into a 4-byte buffer: 3 bytes + terminator stored, 6 returned
example : snRun 4 [.reps '-' 1, .memory ['1', '2'], .reps ' ' 3] = { ret := 6, text := ['-', '1', '2'], stored := 4 } := by
  decide
example : snRun 0 [.memory ['1', '2']] = { ret := 2, text := [], stored := 0 } := by decide

/-- `doprnti_big_layout`: for every value of every size (in particular beyond every C integer type), every list
    of flag characters in any order, every width and precision form, every integer conversion: the bytes
    produced for `%<flags><width><prec>Z<conv>` are the C99 padding, sign and prefix rules (`layoutCore`)
    placed around the mpz_get_str digits of |v|, with o/x/X signed as the manual says.
    Outside: an empty precision `.` (documented: "not given") and `#` with precision 0 on the value 0 in
    base 16 (prints the bare prefix). -/
theorem doprnti_big_layout (fl : List Char) (w : WidthArg) (p : PrecArg) (conv : Conv) (v : Int)
    (hp : p ≠ .dot) (hx : ¬ ('#' ∈ fl ∧ cPrec p = some 0 ∧ v = 0 ∧ conv.base = 16)) :
    layoutModel fl w p conv v =
      layoutCore (cFlags fl w) (cWidth w) (cPrec p) conv.base conv.upper
        (signChars (cFlags fl w) (decide (v < 0))) v.natAbs :=
  layoutModel_eq_spec fl w p conv v hp hx

-- non-vacuity: −10^40 in hex with `#`, `+`, zero padding to 40 columns
example : String.ofList (layoutModel ['#', '+', '0'] (.num 40) .none .x (-(10 : Int) ^ 40)) =
    "-0x0001d6329f1c35ca4bfabb9f5610000000000" := by decide +kernel
example : String.ofList (layoutModel [' ', '-'] (.star (-12)) (.num 5) .o (2 ^ 64)) =
    " 2000000000000000000000" := by decide +kernel

/-- `doprnti_eq_c99`: for every value that fits a `long`, every list of flag characters (any order, repeats),
    every width form {none, number, `*` with any int incl. negative}, every precision form {none, number,
    `*` with any int incl. negative} and every conversion d i o x X to which C gives a meaning, outside the
    documented deviations (`Comparable`): the bytes of `gmp_printf ("%…Z<conv>", v)` are exactly the bytes
    ISO C99 prescribes for `printf ("%…l<conv>", (long) v)`. -/
theorem doprnti_eq_c99 (fl : List Char) (w : WidthArg) (p : PrecArg) (conv : Conv) (v : Int)
    (hv : -(2 ^ 63 : Int) ≤ v ∧ v < 2 ^ 63) (hc : Comparable fl p conv v) :
    layoutModel fl w p conv v = cprintfIntL (cFlags fl w) (cWidth w) (cPrec p) conv v := by
  obtain ⟨hu, hp, hs, hx⟩ := hc
  rw [layoutModel_eq_spec fl w p conv v hp hx]
  unfold gmpLayoutSpec cprintfIntL cFormatInt cFormatCore
  cases hsg : conv.signed with
  | true =>
    have hw : ((v + 2 ^ (64 - 1)) % 2 ^ 64) - 2 ^ (64 - 1) = v := by omega
    simp only [hw, if_true]
  | false =>
    rcases hs with hs | ⟨h0, hplus, hspace⟩
    · rw [hsg] at hs; cases hs
    · have hm : (v % 2 ^ 64).toNat = v.natAbs := by omega
      have hneg : ¬ v < 0 := by omega
      simp only [hm, Bool.false_eq_true, if_false, signChars, hneg, decide_false, cFlags]
      simp [hplus, hspace]

/-- the same statement for the `String` the specification function `cprintfInt` returns -/
theorem doprnti_eq_c99_string (fl : List Char) (w : WidthArg) (p : PrecArg) (conv : Conv) (v : Int)
    (hv : -(2 ^ 63 : Int) ≤ v ∧ v < 2 ^ 63) (hc : Comparable fl p conv v) :
    String.ofList (layoutModel fl w p conv v) = cprintfInt (cFlags fl w) (cWidth w) (cPrec p) conv v := by
  rw [doprnti_eq_c99 fl w p conv v hv hc]; rfl

-- non-vacuity: the hypotheses hold and both sides are the expected text
example : Comparable ['-', '0'] .none .d 1 := by decide
example : String.ofList (layoutModel ['-', '0'] (.num 5) .none .d 1) = "1    " ∧
    cprintfInt (cFlags ['-', '0'] (.num 5)) 5 none .d 1 = "1    " := by decide +kernel
example : cprintfInt { hash := true } 0 (some 5) .o 1 = "00001" ∧ cprintfInt { zero := true } 5 (some 3) .d 1 = "  001" ∧
    cprintfInt { plus := true, space := true } 0 none .d 0 = "+0" ∧
    cprintfInt {} 0 none .x (-1) = "ffffffffffffffff" := by decide +kernel
-- what the code did before commits 802f527, bbc62f3, 214972f, 68441a0 (the five defect classes found here):
example : String.ofList (layoutModelG true ['-', '0'] (.num 5) .none .d 1) = "10000" := by decide +kernel       -- D1 "%-05Zd"
example : String.ofList (layoutModelG true ['0'] (.num 5) (.num 3) .d 1) = "00001" := by decide +kernel         -- D2 "%05.3Zd"
example : String.ofList (layoutModelG true ['#'] .none (.num 5) .o 1) = "000001" := by decide +kernel           -- D3 "%#.5Zo"
example : String.ofList (layoutModelG true ['+', ' '] .none .none .d 0) = " 0" := by decide +kernel              -- D4 "%+ Zd"
example : String.ofList (layoutModelG true [] .none (.star (-1)) .d 0) = "" := by decide +kernel                 -- D5 "%.*Zd", -1
-- the documented deviations really are outside the C comparison
example : String.ofList (layoutModel ['+'] .none .none .x 1) = "+1" ∧ cprintfInt { plus := true } 0 none .x 1 = "1" := by
  decide +kernel
example : String.ofList (layoutModel ['#'] .none (.num 0) .x 0) = "0x" ∧ cprintfInt { hash := true } 0 (some 0) .x 0 = "" := by
  decide +kernel
example : String.ofList (layoutModel [] .none .dot .d 0) = "0" ∧ cprintfInt {} 0 (some 0) .d 0 = "" := by decide +kernel

/-- `asprintf_block`: gmp_asprintf / gmp_vasprintf, for every sequence of output callbacks (pieces formatted
    by the C library, MPIR digit strings, padding runs of any length): the growth loop terminates, no store
    goes outside the current allocation (`ok`), the text is the whole output, and the block handed to the
    caller has exactly length+1 bytes. -/
theorem asprintf_block (cs : List Call) :
    ∃ r, asRun cs = some r ∧ r.block = r.ret + 1 ∧ r.ret = (callsBytes cs).length ∧
      r.text = callsBytes cs ∧ r.ok = true :=
  ⟨_, asRun_eq cs, rfl, rfl, rfl, rfl⟩

-- non-vacuity: a 300-byte padding run forces the 256-byte buffer to grow (to 2*300) and shrink to 301
example : (asRun [.reps ' ' 300]).map (fun r => (r.ret, r.block, r.ok)) = some (300, 301, true) := by decide +kernel
example : (asCalls {} [.reps ' ' 300]).map (fun d => d.reallocs) = some [(256, 600)] := by decide +kernel
-- a libc piece of exactly 511 bytes returns space-1 and makes vasprintf.c's loop go round again (space *= 2);
-- a longer one takes the `space = ret+2` exit
example : (asCalls {} [.format (List.replicate 511 'x')]).map (fun d => (d.alloc, d.ok)) = some (2048, true) := by
  decide +kernel
example : (asCalls {} [.format (List.replicate 600 'x')]).map (fun d => (d.alloc, d.ok)) = some (1204, true) := by
  decide +kernel

/-- `parser_total_partial`: "standard conversions mixed into the format are unaffected", in the part that is
    proved: a format string in which none of the characters `Z Q N M F n a A e E f g G` occurs (no MPIR type,
    no `%n`, no float conversion), whatever else it contains (flags, `*`, every length modifier, `%%`, `'`,
    unknown conversion characters), is consumed to its end and handed to the C library in one piece,
    unchanged, with the original argument list; nothing else is written and nothing is stored.
    FULL STATEMENT (not proved here, covered by the correspondence run on mixed formats only): for every
    format string the calls are the maximal pieces between MPIR conversions, each piece unchanged (with `M`
    replaced by `ll`) and given the arguments not yet consumed, interleaved with the MPIR conversions'
    own output; `%n` stores the running total. -/
theorem parser_total_partial (fmt : List Char) (args : List Arg) (h : ∀ c ∈ fmt, c ∉ mpirChars)
    (r : DoprntResult) (hr : doprnt fmt args = some r) :
    r.stores = [] ∧
    ((fmt = [] ∧ r.calls = [] ∧ r.retval = 0) ∨
     ∃ out, libcFormat fmt args = some out ∧ r.calls = [.format out] ∧ r.retval = out.length) := by
  unfold doprnt doprntG at hr
  cases hrun : run false fmt .text { ap := args, lastAp := args } with
  | none => rw [hrun] at hr; cases hr
  | some st =>
    rw [hrun] at hr
    simp only [Option.some.injEq] at hr
    subst hr
    have := run_forward args fmt .text { ap := args, lastAp := args } h trivial rfl rfl rfl rfl st hrun
    simpa using this

-- non-vacuity: a format with flags, `*`, length modifiers and %% is forwarded whole
example : (doprnt "a%-*ld|%#hhx%%%5s".toList [.int 6, .int (-42), .int 511, .str "xy".toList]).map (fun r => r.calls) =
    some [.format "a-42   |0xff%   xy".toList] := by decide +kernel
-- and with an MPIR conversion in the middle the two outer pieces go to the C library with the right arguments
example : (doprnt "%d<%Zx>%s".toList [.int 7, .mpz 255, .str "z".toList]).map (fun r => r.calls) =
    some [.format ['7', '<'], .memory ['f', 'f'], .format ['>', 'z']] := by decide +kernel

/-- `doprnti_big_layout_length`: consequences of `doprnti_big_layout` for values of any size: the output is
    max (width, sign + prefix + precision zeros + digits) bytes long, and when the width does not exceed
    that, it is exactly the sign followed by prefix, zeros and the mpz_get_str digits (no padding at all). -/
theorem doprnti_big_layout_length (fl : List Char) (w : WidthArg) (p : PrecArg) (conv : Conv) (v : Int)
    (hp : p ≠ .dot) (hx : ¬ ('#' ∈ fl ∧ cPrec p = some 0 ∧ v = 0 ∧ conv.base = 16)) :
    let sign := signChars (cFlags fl w) (decide (v < 0))
    let body := layoutBody (cFlags fl w) (cPrec p) conv.base conv.upper v.natAbs
    (layoutModel fl w p conv v).length = max (cWidth w) (sign.length + body.length) ∧
    (cWidth w ≤ sign.length + body.length → layoutModel fl w p conv v = sign ++ body) := by
  rw [doprnti_big_layout fl w p conv v hp hx]
  exact layoutCore_length _ _ _ _ _ _ _

-- non-vacuity: 2^64 with width 5 is the 20 digits alone; with width 25 it is 25 bytes
example : (layoutModel [] (.num 5) .none .d (2 ^ 64)).length = 20 ∧ (layoutModel ['-'] (.num 25) .none .d (2 ^ 64)).length = 25 := by
  decide +kernel

end Mpir.Printf

namespace Mpir.Scanf
open Mpir.Printf

/-- `scan_print_roundtrip_partial`: the conversion at the bottom of gmp_sscanf("%Zd") (mpz_set_str, base 10) gives
    back every integer from the digit string at the bottom of gmp_printf("%Zd") (mpz_get_str), for all values.
    FULL STATEMENT (not proved; exercised by the `gmp_print_scan_Z/Q` ops over the whole flag/width/precision grid):
    for every v and every print format % flags width prec Z conv with at least one digit printed,
    `doscan "%Z<conv'>" (callsBytes (doprnt fmt [v]))` returns count 1 and the value v, where conv' is the matching
    read conversion (d for d/i, o for o, x for x/X without `#`, i for `#` forms); the same for Q. -/
theorem scan_print_roundtrip_partial (v : Int) : setStr (mpzGetStr 10 v) 10 = some v :=
  setStr_getStr10 v

-- non-vacuity, through the whole model: print with flags and width, scan the text back
example : ((doprnt "%+-12Zd|".toList [.mpz (-(10 : Int) ^ 5)]).bind
    (fun r => doscan "%Zd".toList (callsBytes r.calls))).map (fun s => (s.fields, s.rest)) =
    some (1, "     |".toList) := by decide +kernel
example : (doscan "%Zi %Qi%n".toList "-0x1f 0x10/0x11;".toList).map (fun s => s.fields) = some 2 := by decide +kernel
-- the scanner takes no 0x prefix in a fixed base (observation S1): "%Zx" stops after the 0
example : (gmpscan { base := 16, type := 'Z' } "0x1f".toList).ret = 1 := by decide +kernel

end Mpir.Scanf

