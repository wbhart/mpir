/-
  C20 — C++ class expressions equal the C functions.

  Model (lean/Mpir/Model/Cxx.lean): `evalTmp` = every sub-expression into its own temporary with the C
  function (exact Int / canonical Rat arithmetic); `evalZ` / `evalQ` / `execAssign` = what mpirxx.h does:
  the `__gmp_expr<…>::eval(p)` specialisation chosen by the operand shapes (when a temporary is
  introduced because `p` aliases an operand, the mpz±mpq special cases, conversions evaluated into the
  numerator field) on top of the function objects `__gmp_binary_*`/`__gmp_unary_*` transcribed overload by
  overload (ui / si / double fast paths, `__builtin_constant_p` as an arbitrary Boolean).

  `fnobj_spec_z`, `fnobj_spec_q`   every modelled function object computes its operator, for every alias
                                   pattern of its pointer arguments and every built-in value in range.
  `expr_eval_correct_partial`      `target = e` / `target op= r` through the templates = `assign target
                                   (evalTmp env e)`, by induction over the tree (lemmas `evalZ_correct`,
                                   `evalQ_correct`), for mpz and mpq targets and mixed mpz/mpq trees.
  `cmp_eval_correct_partial`, `sgn_eval_correct_partial`   comparisons / `cmp` / `sgn` on mpz and mpq operands.
  Not covered by theorems (correspondence only): mpf_class, increments, constructors from strings/numbers, I/O.
-/
import MpirProofs.Lemmas.CxxCmp
namespace Mpir.Cxx

/-- **fnobj_spec** for the binary mpz function objects (see `fnBinZ_spec` for the proof). -/
theorem fnobj_spec_z (cst : Bool) (o : Bin) (p : ZLoc) (a b : ZArg) (h : Heap)
    (ha : a.ok) (hb : b.ok) (hab : ¬(a.isBi = true ∧ b.isBi = true)) :
    fnBinZ cst o p a b h =
      ((argZ h a).bind fun x => (argZ h b).bind fun y => binZ o x y).map (fun r => h.set p r) :=
  fnBinZ_spec cst o p a b h ha hb hab

-- non-vacuity: `z = LONG_MIN - z` with z = 5 aliased to the destination, and `LONG_MIN / z` with z = -1
example : (fnBinZ false .sub (.v 0) (.bi (.si LONG_MIN)) (.loc (.v 0)) ⟨fun _ => 5⟩).map (· (.v 0)) = some (-9223372036854775813) := by
  decide
example : (fnBinZ true .div (.v 1) (.bi (.si LONG_MIN)) (.loc (.v 0)) ⟨fun _ => -1⟩).map (· (.v 1)) = some 9223372036854775808 := by
  decide

/-- **fnobj_spec** for the binary mpq function objects (`__gmp_binary_plus/minus/multiplies/divides` with
    mpq, mpz (for ±), ui, si and double operands on either side): for canonical operands, every alias
    pattern of destination and operands, every built-in value in range and both answers of
    `__builtin_constant_p`, the object stores the canonical `a op b` into `p` and changes nothing else,
    or raises exactly when the C function on temporaries raises.  This includes the overloads that poke
    numerator and denominator separately (`q ± ui/si/z`: `num ± den*l`, no canonicalisation needed). -/
theorem fnobj_spec_q (cst : Bool) (o : Bin) (p : Nat) (a b : QArg) (h : Heap)
    (hd : fnQdefined o a b) (ca : a.canon h) (cb : b.canon h) (oka : a.ok) (okb : b.ok) :
    fnBinQ cst o p a b h =
      ((argR h a).bind fun x => (argR h b).bind fun y => binQ o x y).map (fun r => h.setQ p r) :=
  fnBinQ_spec cst o p a b h hd ca cb oka okb

-- non-vacuity: `q0 = 5 - q0` with q0 = 7/3 (destination aliased, the `eval(q, r, l); mpq_neg(q, q)` path) gives 8/3
example : (fnBinQ false .sub 0 (.bi (.si 5)) (.q 0) ⟨fun l => match l with | .num 0 => 7 | .den 0 => 3 | _ => 1⟩).map
    (fun h => (h (.num 0), h (.den 0))) = some (8, 3) := by decide

/-- **expr_eval_correct** (`_partial`: the mpz and mpq fragment of the property; mpf_class expressions are
    compared implementation-vs-implementation by the correspondence run only).
    A whole assignment `target = e;` — target an `mpz_class` or `mpq_class` variable that may occur anywhere
    in `e`; `e` any well-typed tree over mpz/mpq variables, sub-expressions and built-ins on either side, of
    either type (so the conversions `mpz_set_q` / `mpq_set_z` at the assignment are included) — as evaluated by
    mpirxx.h's templates (`execAssign`), for both answers of `__builtin_constant_p`: it raises iff evaluation
    into temporaries raises, and otherwise the heap denotes exactly `assign target (evalTmp env e)`: the
    target holds the (converted, canonical) value, every other mpz and mpq variable is unchanged.
    Compound assignments `target op= r` are the same theorem applied to `expand op target r`, which is the
    tree mpirxx.h's operator builds (mpirxx.h:3171–3189) — except `mpz_class op= mpq-typed`, where the
    operator converts the operand first (the known finding `compound-mixed-type`; `Stmt.wt` excludes it). -/
theorem expr_eval_correct_partial (cst : Bool) (K : Nat) (t : Ty) (i : Nat) (e : E) (h : Heap)
    (hwt : e.wt = true) (hi : i < K) (hz : e.zbelow K) (hq : e.qbelow K) (hc : e.canon h) :
    match evalTmp h.abs e with
    | none => execAssign cst K t i e h = none
    | some v => ∃ h', execAssign cst K t i e h = some h' ∧
        (∀ j, j < K → h'.abs.z j = (assign h.abs t i v).z j) ∧
        (∀ j, j < K → h'.abs.q j = (assign h.abs t i v).q j) ∧
        (∀ j, j < K → Canon h j → Canon h' j) ∧ (t = .q → Canon h' i) :=
  execAssign_correct cst K t i e h hwt hi hz hq hc

-- non-vacuity: `z0 = z1 - z0 * 3` (target inside the tree) with z0 = 5, z1 = 7 gives -8; the strategy really
-- introduces a temporary for `z0 = z0 - (z1 * z0)`; an exception of the temporaries semantics is an exception here.
example : (evalZ false 4 (.v 0) (.bin .sub (.zv 1) (.binR .mul (.zv 0) (.si 3)))
    ⟨fun l => match l with | .v 0 => 5 | .v 1 => 7 | _ => 1⟩).map (· (.v 0)) = some (-8) := by decide
example : (evalZ false 4 (.v 0) (.bin .sub (.zv 0) (.bin .mul (.zv 1) (.zv 0)))
    ⟨fun l => match l with | .v 0 => 5 | .v 1 => 7 | _ => 1⟩).map (fun h => (h (.v 0), h (.v 4))) = some (-30, 35) := by decide
example : evalZ true 4 (.v 0) (.bin .div (.zv 1) (.bin .sub (.zv 0) (.zv 0))) ⟨fun _ => 3⟩ = none := by decide
-- `q0 = z0 - q0 * 2` with q0 = 1/2, z0 = 3 (mixed mpz/mpq special case, destination aliased) gives 2/1
example : (execAssign false 4 .q 0 (.bin .sub (.zv 0) (.binR .mul (.qv 0) (.si 2)))
    ⟨fun l => match l with | .v 0 => 3 | .num 0 => 1 | .den 0 => 2 | _ => 1⟩).map (fun h => (h (.num 0), h (.den 0))) = some (2, 1) := by decide +kernel
-- `z1 = q0 * q0` with q0 = -7/2: 49/4 truncates to 12
example : (execAssign true 4 .z 1 (.bin .mul (.qv 0) (.qv 0))
    ⟨fun l => match l with | .num 0 => -7 | .den 0 => 2 | _ => 1⟩).map (· (.v 1)) = some 12 := by decide +kernel

/-! ### comparisons, `cmp`, `sgn` -/

/-- **Comparisons equal the C comparison of the temporaries** (`== != < <= > >=`, `cmp`; `_partial`: mpz and mpq
    operands, sub-expressions and built-ins on either side — mpf is correspondence-only): the `const&` binding
    strategy of mpirxx.h:3091–3118 (no temporary for an operand that already is an object of the comparison type,
    one temporary per other operand, an mpz operand of a mixed comparison converted to mpq) followed by the
    `__gmp_binary_equal/less/greater/__gmp_cmp_function` overload gives exactly `execTmp (.cmp o a b)` — the
    comparison of the exact values — and raises exactly when an operand raises. -/
theorem cmp_eval_correct_partial (cst : Bool) (K : Nat) (o : Cmp) (a b : Opnd) (h : Heap)
    (ha : a.ok K h) (hb : b.ok K h) (hab : ¬(∃ c c', a = .bi c ∧ b = .bi c')) :
    (execCmp cst K o a b h).map Res.int = execTmp h.abs (.cmp o a b) := by
  unfold execCmp
  by_cases hz : (a.isZ && b.isZ) = true
  · rw [if_pos hz]
    simp only [Bool.and_eq_true] at hz
    exact execCmpZ_correct cst K o a b h (Opnd.zOk_of_ok ha hz.1) (Opnd.zOk_of_ok hb hz.2) hab
  · rw [if_neg hz]
    exact execCmpQ_correct cst K o a b h ha hb hab

/-- **`sgn(e)` is the sign of the temporary** (`_partial`: mpz and mpq). -/
theorem sgn_eval_correct_partial (cst : Bool) (K : Nat) (a : E) (h : Heap)
    (hwt : a.wt = true) (hz : a.zbelow K) (hq : a.qbelow K) (hc : a.canon h) :
    (execSgn cst K a h).map Res.int = execTmp h.abs (.sgn a) :=
  execSgn_correct cst K a h hwt hz hq hc

-- non-vacuity: `(z0 + z1) < 2.5` with z0 = 1, z1 = 1 is true (mpz_cmp_d does not truncate the double); `-3 > z0 * z1`
example : execCmpZ false 4 .lt (.ex (.bin .add (.zv 0) (.zv 1))) (.bi (.d 0x4004000000000000)) ⟨fun _ => 1⟩ = some 1 := by decide
example : execCmpZ true 4 .gt (.bi (.si (-3))) (.ex (.bin .mul (.zv 0) (.zv 1))) ⟨fun l => if l = .v 0 then -2 else 2⟩ = some 1 := by decide

-- `q0 * 2 >= z0` with q0 = 3/2, z0 = 3 (mixed: the mpz operand is converted to an mpq temporary)
example : execCmp false 4 .ge (.ex (.binR .mul (.qv 0) (.si 2))) (.ex (.zv 0))
    ⟨fun l => match l with | .v 0 => 3 | .num 0 => 3 | .den 0 => 2 | _ => 1⟩ = some 1 := by decide +kernel
example : execSgn false 4 (.bin .sub (.qv 0) (.zv 0)) ⟨fun l => match l with | .v 0 => 3 | .num 0 => 3 | .den 0 => 2 | _ => 1⟩ = some (-1) := by
  decide +kernel

end Mpir.Cxx
