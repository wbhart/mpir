/-
  C18, part `c18_obstack` — the obstack member of the printf family produces the same text and the same count as the
  other members.  Property theorems only; helper lemmas live in MpirProofs/Lemmas/Obstack.lean.

  `gmp_obstack_printf` / `gmp_obstack_vprintf` (printf/obprintf.c, obvprintf.c) are `__gmp_doprnt` run with the callback
  table `__gmp_obstack_printf_funs` of printf/obprntffuns.c.  The model (lean/Mpir/Model/Obstack.lean) runs the SAME call
  sequence `Printf.doprnt` computes for gmp_asprintf / gmp_snprintf through `obMemory` (obstack_grow), `obReps`
  (obstack_blank, then memset at next_free - reps, next_free read after the blank) and `obFormat` (glibc's obstack_vprintf)
  on a model of the obstack in which the object moves to a new chunk whenever the room runs out and a byte is
  uninitialised until stored.  The theorems hold for EVERY chunk geometry (any chunk size, any room left, any earlier
  content), so in particular wherever inside a padding run, a digit string or a C-library piece the move happens.

  The correspondence run (ops gmp_obstack_seq / vseq / mix / vmix, harness/ops_obstack.c) compares the bytes of the whole
  object, the sum of the return values and, for formats made of MPIR conversions only, the number of chunks allocated and
  freed, with this model, on the plain and on the AddressSanitizer build.
-/
import MpirProofs.Lemmas.Obstack
import MpirProofs.Props.C18
namespace Mpir.Obstack
open Mpir.Printf

/-- `obstack_funs_refine`: the refinement lemma over the `funs` table.  For every obstack state (any chunk size, any
    room left in the current chunk, any bytes already in the growing object, initialised or not) and every sequence of
    output callbacks (`format` pieces of the C library, `memory` digit strings, `reps` padding runs of any length,
    including 0): after `__gmp_doprnt` has run them through gmp_obstack_memory / gmp_obstack_reps / obstack_vprintf
    the object is the old object followed by exactly the bytes of the calls, every one of them stored (no byte left as
    obstack_blank made it); the value accumulated is the number of those bytes; no store went beyond the chunk limit
    (`ok`) or through a pointer outside the object (`stale`), however often the object was moved. -/
theorem obstack_funs_refine (o : Ob) (cs : List Call) (ret : Nat) :
    (obCalls o cs ret).1.obj = o.obj ++ (callsBytes cs).map some ∧
    (obCalls o cs ret).2 = ret + (callsBytes cs).length ∧
    (obCalls o cs ret).1.ok = o.ok ∧ (obCalls o cs ret).1.stale = o.stale := by
  obtain ⟨h, e⟩ := obCalls_spec cs o ret
  exact ⟨h.obj, e, h.ok, h.stale⟩

-- non-vacuity: 60 blanks and three digits into a fresh 64-byte chunk (48 bytes of room): the padding run crosses the
-- chunk end, the object is moved once (chunk 0 freed), all 63 bytes are stored
example : let r := obCalls (init 64 0) [.reps ' ' 60, .memory ['1', '2', '3']] 0
    (r.2, r.1.text == List.replicate 60 ' ' ++ ['1', '2', '3'], r.1.initialised, r.1.cur, r.1.freed, r.1.ok, r.1.stale) =
    (63, true, true, 1, [0], true, 0) := by decide +kernel
-- the digits cross: 40 blanks fit, the 20 digits do not
example : let r := obCalls (init 64 0) [.reps ' ' 40, .memory (List.replicate 20 '7')] 0
    (r.2, r.1.initialised, r.1.cur, r.1.room) = (60, true, 1, 40 + 20 + 15 + 40 / 8 + 100 - 16 - 40 - 20) := by decide +kernel

/-- `obstack_eq_asprintf`: for every call sequence the obstack member appends the very text gmp_asprintf would hand back
    for it and returns the same count (also what gmp_snprintf returns for any buffer size), whatever object `t` was
    already being grown and whatever the chunk geometry; the appended bytes are all initialised. -/
theorem obstack_eq_asprintf (o : Ob) (t : List Char) (ho : o.obj = t.map some) (cs : List Call) :
    ∃ r, asRun cs = some r ∧
      (obCalls o cs 0).1.text = t ++ r.text ∧ (obCalls o cs 0).2 = r.ret ∧
      (∀ size, (snRun size cs).ret = (obCalls o cs 0).2) ∧
      (obCalls o cs 0).1.initialised = true ∧ (obCalls o cs 0).1.ok = o.ok ∧ (obCalls o cs 0).1.stale = o.stale := by
  obtain ⟨a, b, c, d⟩ := obstack_funs_refine o cs 0
  have hobj : (obCalls o cs 0).1.obj = (t ++ callsBytes cs).map some := by rw [a, ho]; simp
  obtain ⟨ht, hi⟩ := text_of_some _ _ hobj
  refine ⟨_, asRun_eq cs, by rw [ht], by rw [b]; simp, ?_, hi, c, d⟩
  intro size
  rw [(snprintf_bound size cs).2.1, b]; simp

-- non-vacuity through the whole model: "%60Zd|" of 7 appended to an object that already holds "ab", 64-byte chunks
example : (doprnt "%60Zd|".toList [.mpz 7]).map (fun r =>
      let ob := obCalls (grow (init 64 0) ['a', 'b']) r.calls 0
      (some (ob.1.text.drop 2) == (asRun r.calls).map (·.text), ob.2, r.retval, ob.1.cur, ob.1.initialised)) =
    some (true, 61, 61, 1, true) := by decide +kernel

/-- `obstack_printf_seq`: any number of gmp_obstack_printf / gmp_obstack_vprintf calls appending to ONE object (what the
    ops gmp_obstack_seq / gmp_obstack_mix do): the object ends as the old object followed by the gmp_asprintf texts of the
    calls in order, the sum of the return values is the sum of gmp_asprintf's, every byte is initialised, no store went
    outside — for every chunk geometry and every list of call sequences. -/
theorem obstack_printf_seq (o : Ob) (t : List Char) (ho : o.obj = t.map some) (css : List (List Call)) :
    ∃ rs : List AsResult, css.map asRun = rs.map some ∧
      (obSeq o css 0).1.text = t ++ rs.flatMap (·.text) ∧ (obSeq o css 0).2 = (rs.map (·.ret)).sum ∧
      (obSeq o css 0).1.initialised = true ∧ (obSeq o css 0).1.ok = o.ok ∧ (obSeq o css 0).1.stale = o.stale := by
  obtain ⟨rs, h1, h2, h3⟩ : ∃ rs : List AsResult, css.map asRun = rs.map some ∧
      rs.flatMap (·.text) = css.flatMap callsBytes ∧
      (rs.map (·.ret)).sum = (css.map (fun cs => (callsBytes cs).length)).sum :=
    ⟨css.map fun cs => { ret := (callsBytes cs).length, text := callsBytes cs, block := (callsBytes cs).length + 1, ok := true },
      by simp [asRun_eq, Function.comp_def], by simp [List.flatMap_map], by simp [Function.comp_def]⟩
  obtain ⟨h, d⟩ := obSeq_spec css o 0
  have hobj : (obSeq o css 0).1.obj = (t ++ css.flatMap callsBytes).map some := by rw [h.obj, ho]; simp
  obtain ⟨ht, hi⟩ := text_of_some _ _ hobj
  exact ⟨rs, h1, by rw [ht, h2], by rw [d, h3]; simp, hi, h.ok, h.stale⟩

-- non-vacuity: three calls, the second one's padding crosses the first chunk, the third one's the second chunk
example : let r := obSeq (init 64 0) [[.memory ['x'], .reps '0' 30], [.reps ' ' 40, .format ['<', '>']], [.reps '-' 200]] 0
    (r.2, r.1.text.length, r.1.initialised, r.1.cur, r.1.freed, r.1.stale) = (273, 273, true, 2, [0, 1], 0) := by decide +kernel

/-- `obstack_doprnt_count`: for every format string and argument list the model of `__gmp_doprnt` covers:
    gmp_obstack_printf (ob, fmt, …) appends exactly the bytes `__gmp_doprnt` produces and returns exactly `__gmp_doprnt`'s
    own total — the number of bytes appended, the value gmp_asprintf, gmp_sprintf and (for any size) gmp_snprintf return
    for the same format and arguments. -/
theorem obstack_doprnt_count (fmt : List Char) (args : List Arg) (r : DoprntResult) (h : doprnt fmt args = some r) (o : Ob) :
    (obCalls o r.calls 0).1.obj = o.obj ++ (callsBytes r.calls).map some ∧
    (obCalls o r.calls 0).2 = r.retval ∧ r.retval = (callsBytes r.calls).length ∧
    (∀ size, (snRun size r.calls).ret = r.retval) ∧
    (asRun r.calls).map (·.ret) = some r.retval := by
  have hc := doprnt_counted false fmt args r h
  obtain ⟨a, b, _, _⟩ := obstack_funs_refine o r.calls 0
  refine ⟨a, by rw [b, hc]; simp, hc, ?_, by rw [asRun_eq]; simp [hc]⟩
  intro size
  rw [(snprintf_bound size r.calls).2.1, hc]

-- non-vacuity: a mixed format; the count is that of the bytes, `%n` in the middle sees the running total
example : (doprnt "%-8Zd|%s%n|%#Qx".toList [.mpz (-5), .str "ab".toList, .cell, .mpq 255 16]).map (fun r =>
      (r.retval, (obCalls (init 64 0) r.calls 0).2, String.ofList (obCalls (init 64 0) r.calls 0).1.text, r.stores.length)) =
    some (21, 21, "-5      |ab|0xff/0x10", 1) := by decide +kernel

/-- `obstack_reps_stale_differs`: what the model (and so the correspondence run) distinguishes.  The variant of
    gmp_obstack_reps that takes the pointer BEFORE obstack_blank (`obRepsStale`, not the code) is indistinguishable from
    the code exactly as long as the padding run fits the current chunk; as soon as the run makes `_obstack_newchunk` move
    the object, all `n` bytes go through a pointer into the old chunk (`stale`) and the object's `n` new bytes stay
    uninitialised — while the code (`obReps`) stores them in the object in both cases (`obstack_funs_refine`). -/
theorem obstack_reps_stale_differs (o : Ob) (c : Char) (n : Nat) :
    (n ≤ o.room → obRepsStale o c n = obReps o c n) ∧
    (o.room < n → (obRepsStale o c n).1.obj = o.obj ++ List.replicate n none ∧
                  (obRepsStale o c n).1.stale = o.stale + n) := by
  obtain ⟨⟨h1, _, h3⟩, h5⟩ := blank_spec o n
  constructor
  · intro hn
    have hcur : (blank o n).cur = o.cur := h5.mpr hn
    have hp : ({ chunk := o.cur, off := o.obj.length } : Ptr) =
        { chunk := (blank o n).cur, off := (blank o n).obj.length - n } := by
      simp [hcur, h1]
    simp only [obRepsStale, obReps, nextFree, hp]
  · intro hn
    have hcur : ¬ (blank o n).cur = o.cur := fun h => by have := h5.mp h; omega
    have hne : ¬ ((nextFree o).chunk = (blank o n).cur ∧ (nextFree o).off + n ≤ (blank o n).obj.length) := by
      intro h; exact hcur h.1.symm
    have e : obRepsStale o c n = (memset (blank o n) (nextFree o) c n, n) := rfl
    rw [e]
    unfold memset
    rw [if_neg hne]
    exact ⟨h1, by simp only [h3]⟩

-- non-vacuity: 60 blanks into 48 bytes of room — the code stores 60 bytes in the moved object, the variant stores 60
-- bytes into the released chunk and leaves 60 uninitialised bytes (0xEE in the harness) in the object
example : ((obReps (init 64 0) ' ' 60).1.initialised, (obReps (init 64 0) ' ' 60).1.stale,
           (obRepsStale (init 64 0) ' ' 60).1.initialised, (obRepsStale (init 64 0) ' ' 60).1.stale,
           (obRepsStale (init 64 0) ' ' 60).1.freed) = (true, 0, false, 60, [0]) := by decide +kernel
example : (obRepsStale (init 64 0) ' ' 48).1.text = (obReps (init 64 0) ' ' 48).1.text ∧
          (obRepsStale (init 64 0) ' ' 48).1.stale = 0 := by decide +kernel

end Mpir.Obstack
