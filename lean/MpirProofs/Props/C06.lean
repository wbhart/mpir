/-
  C06 — radix conversion is exact in every base and round-trips.
  Property theorems only; helper lemmas live in MpirProofs/Lemmas/Radix.lean (digit strings and alphabets:
  Lemmas/RadixDigits.lean); the table theorems (`bases_table_ok`, `digitValueTab_eq`, `digit_tab_ok`,
  `sizeinbase_table_ok`) stand in MpirProofs/Lemmas/RadixTab.lean, where the other parts of C06 and C17 reach them.
  The tables (`Mpir.Gen.mpBases`, `mpBases10`, `digitValueTab`) are regenerated from mpn/generic/mp_bases.c,
  gmp-impl.h and mp_dv_tab.c on every check; the models are in Mpir/Model/Radix.lean and are run against the
  real library on every check.
-/
import MpirProofs.Lemmas.RadixTab
namespace Mpir.Radix
open Mpir

-- non-vacuity: the base-10 entry
example : charsPerLimb 10 = 19 ∧ bigBase 10 = 10 ^ 19 ∧ bigBaseInv 10 = 0xd83c94fb6d2ac34a ∧ pow2P 10 = false := by
  decide +kernel
example : bigBase 32 = 5 ∧ charsPerLimb 32 = 12 ∧ pow2P 32 = true := by decide +kernel

example : digitValue 0 'z'.toNat = 35 ∧ digitValue 224 'z'.toNat = 61 ∧ digitValue 224 'Z'.toNat = 35 ∧
    digitValue 0 ' '.toNat = 255 := by decide +kernel

/-- mpn_sb_get_str (the basecase conversion: divide by big_base with one fraction limb, then develop
    chars_per_limb digits by repeated multiplication, with the base-10 special case) produces exactly the
    digits of the operand, most significant first, without leading zeros — for every base 3..62 that is not
    a power of two and every operand with a non-zero most significant limb. -/
theorem sb_get_str_digits (b : Nat) (hb : 2 ≤ b) (hb62 : b ≤ 62) (hnp : pow2P b = false)
    (up : List Nat) (hu : Limbs up) (hne : up ≠ []) (htop : up.getLast! ≠ 0) :
    sb_get_str b up = digitsOf b (val up) :=
  sb_get_str_of_table hb hb62 ((bases_table_ok.1 b (by omega) hb).1 hnp) bases_table_ok.2.1 up hu hne htop

example : sb_get_str 7 [5, 1] = digitsOf 7 (5 + 2 ^ 64) := by decide +kernel
example : sb_get_str 10 [0xffffffffffffffff, 0xffffffffffffffff] = digitsOf 10 (2 ^ 128 - 1) := by decide +kernel

/-- mpn_get_str for a power-of-two base (2, 4, 8, 16, 32): the bit-extraction loop, which walks the limbs
    from the most significant end and assembles the digits that straddle a limb boundary from two limbs,
    produces exactly the digits of the operand, most significant first, without a leading zero. -/
theorem get_str_pow2_digits (b : Nat) (hb : 2 ≤ b) (hb62 : b ≤ 62) (hp : pow2P b = true)
    (up : List Nat) (hu : Limbs up) (hne : up ≠ []) (htop : up.getLast! ≠ 0) :
    get_str_pow2 b up = digitsOf b (val up) := by
  have hok := (bases_table_ok.1 b (by omega) hb).2 hp
  exact get_str_pow2_of_table hb hok (bigBase_le_64 hb62 hok) up hu hne htop

example : get_str_pow2 8 [0xfedcba9876543210, 0x1f] = digitsOf 8 (0xfedcba9876543210 + 2 ^ 64 * 0x1f) := by
  decide +kernel
example : get_str_pow2 32 [1, 0, 1] = digitsOf 32 (1 + 2 ^ 128) := by decide +kernel

/-- mpn_bc_set_str (Horner evaluation in chunks of chars_per_limb digits: each chunk is accumulated in one
    limb, then `rp = rp·big_base + chunk` by mpn_mul_1 and mpn_add_1; the last chunk uses base^(its length))
    returns exactly the value of the digit string, as proper limbs — every base 3..62 that is not a power
    of two, every non-empty string of digits below the base. -/
theorem bc_set_str_val (b : Nat) (hb : 2 ≤ b) (hb62 : b ≤ 62) (hnp : pow2P b = false)
    (str : List Nat) (hne : str ≠ []) (hd : ∀ d ∈ str, d < b) :
    val (bc_set_str b str) = ofDigits b str ∧ Limbs (bc_set_str b str) := by
  obtain ⟨h1, h2, _⟩ := bc_set_str_full hb hb62 ((bases_table_ok.1 b (by omega) hb).1 hnp) str hne hd
  exact ⟨h1, h2⟩

example : val (bc_set_str 10 ([1] ++ List.replicate 19 0 ++ [7])) = 10 ^ 20 + 7 := by decide +kernel
example : bc_set_str 7 [6, 6, 6] = [342] := by decide +kernel

/-- mpn_set_str for a power-of-two base (digits packed from the least significant end, a digit that
    straddles a limb boundary is split over two limbs) returns exactly the value of the digit string. -/
theorem set_str_pow2_val (b : Nat) (hb : 2 ≤ b) (hb62 : b ≤ 62) (hp : pow2P b = true)
    (str : List Nat) (hd : ∀ d ∈ str, d < b) :
    val (set_str_pow2 b str) = ofDigits b str ∧ Limbs (set_str_pow2 b str) := by
  have hok := (bases_table_ok.1 b (by omega) hb).2 hp
  exact set_str_pow2_of_table hok (bigBase_le_64 hb62 hok) str hd

example : set_str_pow2 8 (List.replicate 22 7) = [2 ^ 64 - 1, 3] := by decide +kernel

/-- mpz_set_str accepts exactly the language of `parseSpec` and returns exactly its value: for every byte
    string and every base except the undocumented base 1 (bases above 62 and negative bases are rejected by
    both).  The model goes through the digit table, the leading-zero skipping, and mpn_set_str at limb level
    (power-of-two packing / basecase Horner; divide-and-conquer at specification level); the specification
    is the declarative `parseSpec` (white space, sign, base-0 prefixes, case rule, embedded white space).
    (For base 1 the C accepts strings of `0` characters and returns 0; the manual does not define base 1.) -/
theorem mpz_set_str_eq_parse (base : Int) (hb1 : base ≠ 1) (s : List Nat) (hs : ∀ c ∈ s, c < 256) :
    mpz_set_str base s = parseSpec base s :=
  mpz_set_str_eq_parse_of digit_tab_ok.2 bases_table_ok.1 base hb1 s hs

example : mpz_set_str 0 ("  -0x1F f".toUTF8.toList.map (·.toNat)) = some (-511) := by decide +kernel
example : parseSpec 0 ("  -0x1F f".toUTF8.toList.map (·.toNat)) = some (-511) := by decide +kernel
example : parseSpec 10 ("- 5".toUTF8.toList.map (·.toNat)) = none := by decide +kernel
example : parseSpec 0 ("0x".toUTF8.toList.map (·.toNat)) = some 0 := by decide +kernel
example : parseSpec 63 ("1".toUTF8.toList.map (·.toNat)) = none := by decide +kernel
example : parseSpec 62 ("zZ".toUTF8.toList.map (·.toNat)) = some (61 * 62 + 35) := by decide +kernel
example : parseSpec 36 ("zZ".toUTF8.toList.map (·.toNat)) = some (35 * 36 + 35) := by decide +kernel

/-- mpz_get_str (and the digits mpz_out_str writes) for every legal base 2..62, -2..-36 and every integer:
    exactly an optional `-` followed by the digits of |x| in the documented alphabet, most significant
    first, no leading zero, `"0"` for zero.  (mpn_get_str: basecase and power-of-two paths as modelled from
    the C; the divide-and-conquer path, ≥ GET_STR_PRECOMPUTE_THRESHOLD limbs, is taken at specification level.) -/
theorem mpz_get_str_spec (base : Int) (hb : LegalOutBase base) (x : Int) :
    mpz_get_str base x = some (getStrSpec base x) :=
  mpz_get_str_spec_of bases_table_ok.1 bases_table_ok.2.1 base hb x

example : mpz_get_str (-16) (-255) = some [45, 70, 70] := by decide +kernel
example : getStrSpec 62 (61 * 62 + 35) = [122, 90] := by decide +kernel

/-- Round trip: for every legal output base and every integer, what mpz_get_str writes is accepted by
    mpz_set_str in base |base| and converts back to exactly the same integer — stated both for the
    specification (`parseSpec (getStrSpec …)`) and for the two models. -/
theorem roundtrip (base : Int) (hb : LegalOutBase base) (x : Int) :
    parseSpec (base.natAbs : Int) (getStrSpec base x) = some x ∧
    ∃ s, mpz_get_str base x = some s ∧ mpz_set_str (base.natAbs : Int) s = some x := by
  have h1 := parse_getStrSpec base hb x
  refine ⟨h1, getStrSpec base x, mpz_get_str_spec base hb x, ?_⟩
  have hb2 := hb.natAbs_bounds.1
  rw [mpz_set_str_eq_parse _ (by omega) _ (getStrSpec_bytes base hb x)]
  exact h1

example : mpz_get_str (-36) (-1295) = some [45, 90, 90] ∧ mpz_set_str 36 [45, 90, 90] = some (-1295) := by
  decide +kernel

/-- mpz_sizeinbase is exact for powers of two (2, 4, 8, 16, 32): the digit count of |x|, and 1 for x = 0. -/
theorem sizeinbase_pow2_exact (b : Nat) (hb : 2 ≤ b) (hb62 : b ≤ 62) (hp : pow2P b = true) (x : Int) :
    mpz_sizeinbase x b = if x = 0 then 1 else (digitsOf b x.natAbs).length :=
  sizeinbase_pow2_of_table ((bases_table_ok.1 b (by omega) hb).2 hp) hp x

example : mpz_sizeinbase (2 ^ 64) 16 = 17 ∧ mpz_sizeinbase (2 ^ 64 - 1) 16 = 16 ∧ mpz_sizeinbase 0 8 = 1 := by
  decide +kernel

-- non-vacuity: the base-10 certificate, spelled out: 3774669/12539179 > log10(2) and the Farey neighbour below c
example : sibHint 10 = (97879, 325147, 1936274, 6432163, 3774669, 12539179) ∧ 3774669 * 6432163 = 1936274 * 12539179 + 1 ∧
    2 ^ 24 < 6432163 + 12539179 := by decide +kernel

-- exact (1000, 10, 7) and one too large (999, 64, 8, 9)
example : mpz_sizeinbase 1000 10 = 4 ∧ mpz_sizeinbase 10 10 = 2 ∧ mpz_sizeinbase 7 10 = 1 ∧
    mpz_sizeinbase 999 10 = 4 ∧ mpz_sizeinbase 64 10 = 3 ∧ mpz_sizeinbase 8 10 = 2 ∧ mpz_sizeinbase 9 10 = 2 := by
  decide +kernel

example : (getStrSpec (-10) (-999)).length + 1 = 5 ∧ mpz_sizeinbase (-999) 10 + 2 = 6 := by decide +kernel

end Mpir.Radix
