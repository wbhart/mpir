/-
  C07 — the cofactor layer: mpn_gcdext_1's cofactor sizes, mpn_gcdext_hook, mpn_gcdext_lehmer_n, and the
  contract of mpn_gcdext below GCDEXT_DC_THRESHOLD; consequences for mpz_gcdext / mpz_invert.
  Property theorems only (helper lemmas: MpirProofs/Lemmas/Gcdext*.lean).  They are about the sized models of
  Mpir/Model/Gcdext.lean (compared with the real functions on {gp, gn}, *usize, {up, |*usize|} by the ops of
  harness/ops_gcdext.c) and the value-level models of Mpir/Model/Gcd.lean.
  `CofBound V G S` = 2·G·|S| < V ∨ (S = 1 ∧ V = 2G): what the code achieves; it implies the manual's
  "S = 1 or |S| < V/(2G)" and, with the identity, "S = 0 ↔ V ∣ U" (`cofBound_contract`).
-/
import MpirProofs.Lemmas.GcdextLehmer2
import MpirProofs.Lemmas.GcdExtZ
namespace Mpir.C07x
open Mpir Mpir.Gcd Mpir.Hgcd Mpir.Gcdext

/-- mpn_gcdext_1 (a, b) on two DIFFERENT non-zero limbs, beyond the identity `gcdext_1_spec`: the cofactors
    have opposite signs (or one is zero), 2·g·|u| ≤ b and 2·g·|v| ≤ a, and 2·g·|u| = b only for u = 1
    (comment at gcdext.c:401 "|u| <= b, |v| <= a" sharpened by the factor 2g). -/
theorem gcdext_1_bounds (a b : Nat) (ha : 0 < a) (hb : 0 < b) (haB : a < B) (hbB : b < B) (hne : a ≠ b) :
    let g : Int := (gcdext_1 a b).1; let u := (gcdext_1 a b).2.1; let v := (gcdext_1 a b).2.2
    (0 ≤ u ∧ v ≤ 0 ∧ 2 * g * u ≤ b ∧ 2 * g * (-v) ≤ a ∧ (2 * g * u = b → u = 1)) ∨
    (u ≤ 0 ∧ 0 ≤ v ∧ 2 * g * (-u) < b ∧ 2 * g * v ≤ a) :=
  gcdext_1_bound a b ha hb haB hbB hne

example : gcdext_1 5 2 = (1, 1, -2) := by decide
example : gcdext_1 (2 ^ 64 - 59) (2 ^ 63 + 7) = (1, -1137128059338260032, 2274256118676520055) := by decide +kernel

/-- mpn_gcdext_hook.  (1) gp == NULL, quotient q in direction d: when the cofactor buffers hold u0, u1 in
    exactly un limbs (`SzInv`) and the updated values still fit N = ualloc − 1 limbs, the new buffers hold
    exactly u0 + q·u1 resp. u1 + q·u0 (one-limb q through mpn_add_n / mpn_addmul_1, multi-limb q through
    mpn_mul + mpn_add, u1 = 0: nothing), the new `un` is again exact (so `MPN_CMP (c, u0, u1, un)` compares the
    values), and neither `u0[un] = cy` nor the product in ctx->tp went outside a ualloc-limb buffer.
    (2) gp != NULL: the returned cofactor is +u1 (d = 0), −u0 (d = 1), or for d = −1 the smaller of the two
    with +u1 on a tie; {up, |*usize|} is normalised and the sign of *usize is the sign of the cofactor. -/
theorem gcdext_hook_correct (N : Nat) (c : Ctx) (hs : SzInv c) :
    (∀ q d, (hookQ (c.u0, c.u1) (q, d)).1 < B ^ N → (hookQ (c.u0, c.u1) (q, d)).2 < B ^ N →
      (hookQS (N + 1) c (q, d)).u0 = (if d then c.u0 else c.u0 + q * c.u1) ∧
      (hookQS (N + 1) c (q, d)).u1 = (if d then c.u1 + q * c.u0 else c.u1) ∧ SzInv (hookQS (N + 1) c (q, d))) ∧
    (∀ g d, FinOk (hookG c g (nlimbs g) d) g (pickCofactor c.u0 c.u1 d) ∧
      (hookG c g (nlimbs g) d).S = pickCofactor c.u0 c.u1 d) := by
  obtain ⟨hun, hn, hok⟩ := (szInv_iff c).mp hs
  refine ⟨fun q d h0 h1 => ?_, fun g d => ⟨hookG_spec c g d hok, (finOk_usize (hookG_spec c g d hok)).1⟩⟩
  rw [nlimbs_isSize.lt_pow_iff] at h0 h1
  have hge := hookQ_ge (c.u0, c.u1) (q, d)
  rw [hookQS_eq N c (q, d) hun hn _ rfl h0 h1, szInv_iff]
  refine ⟨?_, ?_, rfl, hn.trans (hun ▸ max_le_max (nlimbs_isSize.mono hge.1) (nlimbs_isSize.mono hge.2)), hok⟩ <;>
    cases d <;> rfl

-- non-vacuity: a two-limb quotient added into a one-limb cofactor (un 1 → 3), and the tie of the d = -1 exit
example : hookQS 5 ⟨7, B - 1, 1, true⟩ (B + 3, false) = ⟨7 + (B + 3) * (B - 1), B - 1, 3, true⟩ := by decide +kernel
example : (hookG ⟨1, 1, 1, true⟩ 5 1 (-1)).usize = 1 ∧ (hookG ⟨2, 3, 1, true⟩ 5 1 (-1)).usize = -1 := by decide +kernel

/-- **mpn_gcdext_lehmer_n** (gp, up, usize, ap, bp, n) — sized model `lehmerNS`: the loop of mpn_hgcd2 steps
    with mpn_matrix22_mul1_inverse_vector on (a, b) and mpn_hgcd_mul_matrix1_vector on (u0, u1), the
    mpn_gcd_subdiv_step fallback with mpn_gcdext_hook, the exits through the hook, a = b, and mpn_gcdext_1 with
    the `negate` combination — for ALL a, b > 0 below B^n with one of them using limb n−1 (the C's ASSERT):
    g = gcd(a, b) in gn = nlimbs g limbs; b ∣ g − S·a for the returned S = ±{up, |usize|};
    2·g·|S| < b, or S = 1 and b = 2g; {up, |usize|} is normalised, usize < 0 iff S < 0; no store went outside
    the (n+1)-limb cofactor buffers or n limbs of up (`ok`); and (g, S) is what the value-level model
    `Mpir.Gcd.gcdext_lehmer_n` returns. -/
theorem mpn_gcdext_lehmer_n_correct (a b n : Nat) (ha : 0 < a) (hb : 0 < b) (haB : a < B ^ n) (hbB : b < B ^ n)
    (ht : B ^ (n - 1) ≤ a ∨ B ^ (n - 1) ≤ b) (hn : 1 ≤ n) :
    let r := lehmerNS a b n
    r.g = Nat.gcd a b ∧ r.gn = nlimbs (Nat.gcd a b) ∧ r.ok = true ∧
    ((Nat.gcd a b : Int) - a * r.S) % b = 0 ∧ CofBound b (Nat.gcd a b) r.S ∧
    r.up = r.S.natAbs ∧ r.usize.natAbs = nlimbs r.up ∧ (r.usize < 0 ↔ r.S < 0) ∧
    (r.g, r.S) = gcdext_lehmer_n a b n := by
  intro r
  obtain ⟨g, S, hF, hg, ⟨t, ht'⟩, hbnd, hval⟩ := lehmerNS_spec Mpir.Gcd.hgcd2_contract a b n ⟨ha, hb, haB, hbB, ht, hn⟩
  obtain ⟨hS, hus, hsg⟩ := finOk_usize hF
  obtain ⟨q1, q2, q3, q4, _⟩ := hF
  subst hg
  rw [hS]
  refine ⟨q1, by rw [q2], q3, ?_, hbnd, q4, hus, hsg, by rw [q1]; exact hval⟩
  apply Int.emod_eq_zero_of_dvd
  exact ⟨t, by rw [← ht']; ring⟩

-- non-vacuity: three limbs (hgcd2 steps, then the single-limb endgame with negate = 1); b = 2g; a = b
example : lehmerNS (3 ^ 100 * 7) (5 ^ 60 * 7) 3 = ⟨7, 1, -3, 178542298016104659201242269581302973131374, true⟩ := by decide +kernel
example : lehmerNS (3 * (2 ^ 70 + 1)) (2 * (2 ^ 70 + 1)) 2 = ⟨2 ^ 70 + 1, 2, 1, 1, true⟩ := by decide +kernel
example : lehmerNS (2 ^ 70) (2 ^ 70) 2 = ⟨2 ^ 70, 2, 0, 0, true⟩ := by decide +kernel

/-- the same for the value-level model used by `Mpir.Gcd.mpn_gcdext` / `mpz_gcdext`: identity AND bound. -/
theorem gcdext_lehmer_n_value_correct (a b n : Nat) (ha : 0 < a) (hb : 0 < b) (haB : a < B ^ n) (hbB : b < B ^ n)
    (ht : B ^ (n - 1) ≤ a ∨ B ^ (n - 1) ≤ b) (hn : 1 ≤ n) :
    (gcdext_lehmer_n a b n).1 = Nat.gcd a b ∧
    ((Nat.gcd a b : Int) - a * (gcdext_lehmer_n a b n).2) % b = 0 ∧
    CofBound b (Nat.gcd a b) (gcdext_lehmer_n a b n).2 := by
  obtain ⟨r1, _, _, r4, r5, _, _, _, r9⟩ := mpn_gcdext_lehmer_n_correct a b n ha hb haB hbB ht hn
  rw [← r9]
  exact ⟨r1, r4, r5⟩

/-- the normalisation the code achieves gives the manual's contract of mpn_gcdext -/
theorem cofBound_contract (U V G : Nat) (S : Int) (hV : 0 < V) (hG : G = Nat.gcd U V)
    (hid : ((G : Int) - U * S) % V = 0) (hb : CofBound V G S) : mpnGcdextOk U V G S :=
  Mpir.Gcdext.cofBound_contract U V G S hV hG hid hb

/-- PARTIAL (full statement: `MpnGcdextContract`, the same for every n; missing: n ≥ GCDEXT_DC_THRESHOLD, where
    `Mpir.Gcd.mpn_gcdext` returns the canonical cofactor by definition and the divide-and-conquer model
    `Mpir.Gcdext.mpnGcdextS` — dcFirst/dcLoop/dcFinish with hgcd_mul_matrix_vector and compute_v — is tied by the
    differential run and the predicate op only; its proof from `mpn_hgcd_correct_partial` is not done).
    **The contract of mpn_gcdext below GCDEXT_DC_THRESHOLD**, for every call satisfying the C's ASSERTs
    (an ≥ n > 0, bp[n-1] ≠ 0): G = gcd(U, V), V ∣ G − U·S, S = 1 or 2·G·|S| < V, S = 0 ↔ V ∣ U — for the
    value-level model AND for the sized model (initial mpn_tdiv_qr, zero remainder exit, mpn_gcdext_lehmer_n),
    which agree; the sized result is normalised and no store leaves a buffer. -/
theorem mpn_gcdext_contract_partial (hg : Nat → Nat → Nat → HM → StepRes) (U V : Nat) (hV0 : 0 < V)
    (hle : nlimbs V ≤ nlimbs U) (hlt : nlimbs V < GCDEXT_DC_THRESHOLD) :
    mpnGcdextOk U V (mpn_gcdext U (nlimbs U) V (nlimbs V)).1 (mpn_gcdext U (nlimbs U) V (nlimbs V)).2 ∧
    (let r := mpnGcdextS hg GCDEXT_DC_THRESHOLD U (nlimbs U) V (nlimbs V)
     (r.g, r.S) = mpn_gcdext U (nlimbs U) V (nlimbs V) ∧ r.ok = true ∧ r.gn = nlimbs r.g ∧
       r.usize.natAbs = nlimbs r.up ∧ (r.usize < 0 ↔ r.S < 0)) :=
  mpnGcdext_lehmer_spec hgcd2_contract hg U V hV0 hle hlt

example : mpnGcdextS (fun _ a b M => ⟨0, a, b, M⟩) GCDEXT_DC_THRESHOLD (3 ^ 50 * 7 ^ 30) 3 (3 ^ 45 * 5 ^ 20) 2
    = ⟨3 ^ 45, 2, 1, 14541962523518, true⟩ := by decide +kernel
example : mpnGcdextOk 240 46 2 (-9) ∧ ¬ mpnGcdextOk 240 46 2 14 := by decide

/-- what remains of `MpnGcdextContract`: the divide-and-conquer range -/
def MpnGcdextContractDC : Prop :=
  ∀ U V : Nat, 0 < V → nlimbs V ≤ nlimbs U → GCDEXT_DC_THRESHOLD ≤ nlimbs V →
    mpnGcdextOk U V (mpn_gcdext U (nlimbs U) V (nlimbs V)).1 (mpn_gcdext U (nlimbs U) V (nlimbs V)).2

theorem mpnGcdextContract_of_dc (hdc : MpnGcdextContractDC) : MpnGcdextContract := by
  intro U V hV hle
  by_cases hlt : nlimbs V < GCDEXT_DC_THRESHOLD
  · exact (mpn_gcdext_contract_partial (fun _ a b M => ⟨0, a, b, M⟩) U V hV hle hlt).1
  · exact hdc U V hV hle (by omega)

/-- PARTIAL (full statement: without `hdc`).  mpz_gcdext meets the manual's full contract `gcdextOk` — g = gcd ≥ 0,
    a·s + b·t = g, |s| < |b|/(2g), |t| < |a|/(2g) with all the documented special cases — for all a, b, where the
    contract of mpn_gcdext is now PROVED for every call with fewer than GCDEXT_DC_THRESHOLD (342) limbs in the
    smaller operand; `hdc` is the contract on the remaining range only (there the model is the canonical cofactor,
    tied by the run).  `Mpir.C07.mpz_gcdext_spec` is the form with the whole contract as hypothesis. -/
theorem mpz_gcdext_correct_partial (hdc : MpnGcdextContractDC) (a b : Int) :
    gcdextOk a b (mpz_gcdext a b).1 (mpz_gcdext a b).2.1 (mpz_gcdext a b).2.2 :=
  Mpir.Gcd.mpz_gcdext_spec (mpnGcdextContract_of_dc hdc) a b

example : mpz_gcdext (-(3 ^ 100 * 7)) (5 ^ 60 * 14) = (7, -688819439972298888004719971114650396009251, -204644751812698827570619471103382862379195346745) := by
  decide +kernel

/-- PARTIAL in the same sense.  mpz_invert for |m| > 1: non-zero return iff gcd(a, m) = 1, then 0 ≤ r < |m| and
    a·r ≡ 1 (mod m). -/
theorem mpz_invert_correct_partial (hdc : MpnGcdextContractDC) (a m : Int) (hm : 1 < m.natAbs) :
    match mpz_invert a m with
    | none => invertOk a m 0 0
    | some r => invertOk a m 1 r :=
  Mpir.Gcd.invert_spec (mpnGcdextContract_of_dc hdc) a m hm

example : mpz_invert (-3) (-7) = some 2 := by decide +kernel

end Mpir.C07x
