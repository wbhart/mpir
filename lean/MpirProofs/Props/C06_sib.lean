/-
  C06 — mpz_sizeinbase / MPN_SIZEINBASE for bases that are not powers of two.
  Property theorems only; helper lemmas in MpirProofs/Lemmas/RadixSib.lean.  Model: `Mpir.Radix.sizeinbase`
  (gmp-impl.h:2699 MPN_SIZEINBASE, the binary64 product as exact product + round-to-nearest-even), table
  `Mpir.Gen.mpBases` regenerated from mpn/generic/mp_bases.c on every check.

  Result.  With r = mpz_sizeinbase (x, b), d = number of digits of |x|, t = bit count of |x|:
    * d ≤ r ("never too small", what the buffers of mpz_get_str / mpz_out_str rely on) holds for EVERY base and
      every t ≤ 2^53 + 20 and fails at t = 2^53 + 21 (base 30, x = 2^t - 1): exact threshold;
    * r ≤ d + 1 holds for every base and every t ≤ 2 626 805 675 765 606 (≈ 2^51.22) and fails at
      t = 2 626 805 754 981 986 (base 3, x = 2^(t-1)): the C's answer is then d + 2.
  An mpz_t has at most 2^31 - 1 limbs (`int _mp_size`, mpir.h:246), i.e. t < 2^37, and no x86-64 address space
  holds 2^51 bits: for every operand the C can represent both claims hold (`sizeinbase_bound`, `get_str_fits`).
  With a 53-bit constant neither claim can hold for unboundedly large operands.

  For the source as pinned the first claim was false: with the table constant BELOW log 2 / log b the answer is one
  too small, first at x = 58^3700209 (21 675 754 bits), see corpus/C06/sizeinbase_too_small.ops; repaired in /repo
  by making every constant an upper bound (e2aa8a0).
-/
import MpirProofs.Lemmas.RadixTab
import MpirProofs.Lemmas.RadixSib
namespace Mpir.Radix
open Mpir

/-- The certificates for the regenerated `chars_per_bit_exactly` column, every base 3..62 that is not a power
    of two, with c = M/2^k the binary64 constant (kernel-checked with 256-bit truncated powers, `powLo`/`powHi`):
    `2^(2^k) < b^M` (c is ABOVE log_b 2 — the point of the table repair e2aa8a0), `b^p ≤ 2^(2^128)` for the hint
    p = ⌊2^128·log_b 2⌋, the error budget `T·(c - p/2^128) + half ulp ≤ 1 - p/2^128` at T = `sibT2`, and claim A
    at the 21 bit counts 2^53 .. 2^53+20 one by one. -/
theorem sizeinbase_table_ok2 : ∀ b < 63, 2 ≤ b → pow2P b = false → SibOk2 b := by decide +kernel

-- non-vacuity: base 10: c = 0x134413509f79ff·2^-54 > log10 2 and the 128-bit lower bound of log10 2
example : dM 10 = 0x134413509f79ff ∧ dk 10 = 54 ∧ sibP 10 = 102435199438739363750012109250103232700 := by decide +kernel
example : powGt 256 10 53 0x134413509f79ff (2 ^ 54) = true := by decide +kernel
example : powLe 256 10 128 102435199438739363750012109250103232700 (2 ^ 128) = true := by decide +kernel
example : powLe 256 10 128 102435199438739363750012109250103232701 (2 ^ 128) = false := by decide +kernel

/-- MPN_SIZEINBASE (mpn level), every base 3..62 that is not a power of two, every normalised operand of at most
    `sibT2` = 2 626 805 675 765 606 bits: the digit count or one more. -/
theorem mpn_sizeinbase_bound (b : Nat) (hb : 2 ≤ b) (hb62 : b ≤ 62) (hnp : pow2P b = false)
    (up : List Nat) (hu : Limbs up) (hne : up ≠ []) (htop : up.getLast! ≠ 0) (hbits : val up < 2 ^ sibT2) :
    sizeinbase up b = (digitsOf b (val up)).length ∨ sizeinbase up b = (digitsOf b (val up)).length + 1 :=
  sizeinbase_bound_of2 hb hnp (sizeinbase_table_ok2 b (by omega) hb hnp) hu hne htop hbits

example : sizeinbase [0, 0, 1] 10 = 39 ∧ (digitsOf 10 (val [0, 0, 1])).length = 39 ∧
    sizeinbase [B - 1, B - 1] 10 = 39 ∧ (digitsOf 10 (val [B - 1, B - 1])).length = 39 ∧
    sizeinbase [0, 8] 10 = 21 ∧ (digitsOf 10 (val [0, 8])).length = 21 ∧
    sizeinbase [1, 5] 10 = 21 ∧ (digitsOf 10 (val [1, 5])).length = 20 := by decide +kernel

/-- mpz_sizeinbase, every base 3..62 that is not a power of two, every x ≠ 0 of at most `sibT2` bits: exact or one
    too large. -/
theorem sizeinbase_bound_bits (b : Nat) (hb : 2 ≤ b) (hb62 : b ≤ 62) (hnp : pow2P b = false)
    (x : Int) (hx : x ≠ 0) (hbits : x.natAbs < 2 ^ sibT2) :
    mpz_sizeinbase x b = (digitsOf b x.natAbs).length ∨ mpz_sizeinbase x b = (digitsOf b x.natAbs).length + 1 := by
  have hxn : x.natAbs ≠ 0 := by omega
  obtain ⟨t1, t2⟩ := natLimbs_top _ hxn
  have := mpn_sizeinbase_bound b hb hb62 hnp _ (Limbs_natLimbs _) t1 t2 (by rw [val_natLimbs_eq]; exact hbits)
  rw [val_natLimbs_eq] at this
  exact this

/-- what an `mpz_t` can hold: `_mp_size` is an `int` (mpir.h:246), so |x| has at most 2^31 - 1 limbs -/
def MpzFits (x : Int) : Prop := x.natAbs < 2 ^ (64 * (2 ^ 31 - 1))

/-- sizeinbase_bound — THE FULL STATEMENT for the C's types: for every base 3..62 that is not a power of two and
    every non-zero integer an mpz_t can represent, mpz_sizeinbase is the digit count of |x| or one more. -/
theorem sizeinbase_bound (b : Nat) (hb : 2 ≤ b) (hb62 : b ≤ 62) (hnp : pow2P b = false)
    (x : Int) (hx : x ≠ 0) (hfit : MpzFits x) :
    mpz_sizeinbase x b = (digitsOf b x.natAbs).length ∨ mpz_sizeinbase x b = (digitsOf b x.natAbs).length + 1 :=
  sizeinbase_bound_bits b hb hb62 hnp x hx
    (lt_of_lt_of_le hfit (Nat.pow_le_pow_right (by omega) (by unfold sibT2; norm_num)))

example : MpzFits (-(10 ^ 30)) ∧ mpz_sizeinbase (-(10 ^ 30)) 10 = 31 ∧ (digitsOf 10 (10 ^ 30)).length = 31 ∧
    mpz_sizeinbase (10 ^ 30 - 1) 10 = 31 ∧ (digitsOf 10 (10 ^ 30 - 1)).length = 30 := by
  refine ⟨?_, by decide +kernel⟩
  unfold MpzFits
  calc (-(10 ^ 30 : Int)).natAbs < 2 ^ 100 := by norm_num
    _ ≤ 2 ^ (64 * (2 ^ 31 - 1)) := Nat.pow_le_pow_right (by omega) (by norm_num)

/-- Never too small, the exact range: for every base 3..62 that is not a power of two and every x ≠ 0 of at most
    `sibTA` = 2^53 + 20 bits, mpz_sizeinbase is at least the digit count. -/
theorem sizeinbase_ge (b : Nat) (hb : 2 ≤ b) (hb62 : b ≤ 62) (hnp : pow2P b = false)
    (x : Int) (hx : x ≠ 0) (hbits : x.natAbs < 2 ^ sibTA) :
    (digitsOf b x.natAbs).length ≤ mpz_sizeinbase x b := by
  have hxn : x.natAbs ≠ 0 := by omega
  obtain ⟨t1, t2⟩ := natLimbs_top _ hxn
  have := sizeinbase_ge_of2 hb hnp (sizeinbase_table_ok2 b (by omega) hb hnp) (Limbs_natLimbs _) t1 t2
    (by rw [val_natLimbs_eq]; exact hbits)
  rw [val_natLimbs_eq] at this
  exact this

/-- mpz_sizeinbase of a positive x with `2^(t-1) ≤ x < 2^t` is `sizeinbaseBits t` -/
theorem mpz_sizeinbase_of_bits {x t : Nat} (ht : 1 ≤ t) (hlo : 2 ^ (t - 1) ≤ x) (hhi : x < 2 ^ t) (b : Nat) :
    mpz_sizeinbase (x : Int) b = sizeinbaseBits t b := by
  have hxn : x ≠ 0 := by have := Nat.pow_pos (n := t - 1) (show 0 < 2 by omega); omega
  obtain ⟨t1, t2⟩ := natLimbs_top _ hxn
  obtain ⟨t', ht1, hlo', hhi', heq⟩ := sizeinbase_eq_bits (Limbs_natLimbs _) t1 t2 b
  rw [val_natLimbs_eq] at hlo' hhi'
  have e : t' = t := by
    have a1 : t' - 1 < t := (Nat.pow_lt_pow_iff_right (by omega : 1 < 2)).mp (lt_of_le_of_lt hlo' hhi)
    have a2 : t - 1 < t' := (Nat.pow_lt_pow_iff_right (by omega : 1 < 2)).mp (lt_of_le_of_lt hlo hhi')
    omega
  unfold mpz_sizeinbase
  rw [Int.natAbs_natCast, heq, e]

/-- `sibTA + 1` -/
def sibTA1 : Nat := 2 ^ 53 + 21

theorem bits_of_pow_pred {t : Nat} (ht : 1 ≤ t) : 2 ^ (t - 1) ≤ 2 ^ t - 1 ∧ 2 ^ t - 1 < 2 ^ t := by
  obtain ⟨s, rfl⟩ : ∃ s, t = s + 1 := ⟨t - 1, by omega⟩
  have := Nat.pow_pos (n := s) (show 0 < 2 by omega)
  simp only [Nat.add_sub_cancel, pow_succ]
  omega

/-- the model's answer at 2^53 + 21 bits, base 30 -/
def sibRA : Nat := 1835622596273517
/-- ⌊(sibTB - 1)·log_3 2⌋ -/
def sibRB : Nat := 1657329907670869

/-- Sharpness of `sizeinbase_ge`: at 2^53 + 21 bits the claim fails.  For x = 2^(2^53+21) - 1 (`sibTA1 = sibTA + 1` bits) and base 30 the
    model of the C returns `sibRA` = 1 835 622 596 273 517 while x has 1 835 622 596 273 518 digits: the double
    `(double) totbits` has already lost the low bit, the product is rounded down.  (A 1 PiB operand: not
    addressable, no run against the library is possible.  For -x the string of mpz_get_str then needs one byte
    more than `mpz_sizeinbase + 2`: `get_str_fits` below is sharp as well.) -/
theorem sizeinbase_too_small_above :
    mpz_sizeinbase ((2 ^ sibTA1 - 1 : Nat) : Int) 30 = sibRA ∧
    (digitsOf 30 (2 ^ sibTA1 - 1)).length = sibRA + 1 := by
  have h1 : 1 ≤ sibTA1 := by unfold sibTA1; omega
  constructor
  · rw [mpz_sizeinbase_of_bits (t := sibTA1) h1 (bits_of_pow_pred h1).1 (bits_of_pow_pred h1).2]
    decide +kernel
  · have a1 : 30 ^ sibRA < 2 ^ sibTA1 := powLt_sound (P := 256) (f := 54) (by decide +kernel)
    have a2 : 2 ^ sibTA1 < 30 ^ (sibRA + 1) := powGt_sound (P := 256) (f := 54) (by decide +kernel)
    exact digits_of_bracket (n := sibRA) (by omega : 2 ≤ 30) (Nat.le_sub_one_of_lt a1)
      (lt_of_le_of_lt (Nat.sub_le _ _) a2)

/-- first bit count at which "at most one too large" fails -/
def sibTB : Nat := 2626805754981986

/-- Beyond `sibT2` the second half is false: for x = 2^(sibTB - 1) (a number of sibTB = 2 626 805 754 981 986 bits,
    ≈ 2^51.22 bits = 300 TiB) and base 3 the model of the C returns the digit count (`sibRB + 1` = 1 657 329 907 670 870) plus TWO — the product
    `totbits · chars_per_bit_exactly`, with the constant 0.84 ulp above log_3 2 and the result rounded to a
    multiple of 1/4, has drifted by more than 1 - log_3 2.  Between `sibT2` and `sibTB` (79 216 380 bit counts,
    base 3 only) the claim is true but not covered by `sizeinbase_bound_bits` (see the part module). -/
theorem sizeinbase_two_too_large_above :
    mpz_sizeinbase ((2 ^ (sibTB - 1) : Nat) : Int) 3 = sibRB + 3 ∧
    (digitsOf 3 (2 ^ (sibTB - 1))).length = sibRB + 1 := by
  have h1 : 1 ≤ sibTB := by decide
  constructor
  · rw [mpz_sizeinbase_of_bits (t := sibTB) h1 (le_refl _) (Nat.pow_lt_pow_right (by omega) (by omega))]
    decide +kernel
  · have a1 : 3 ^ sibRB ≤ 2 ^ (sibTB - 1) := powLe_sound (P := 256) (f := 54) (by decide +kernel)
    have a2 : 2 ^ (sibTB - 1) < 3 ^ (sibRB + 1) := powGt_sound (P := 256) (f := 54) (by decide +kernel)
    exact digits_of_bracket (n := sibRB) (by omega : 2 ≤ 3) a1 a2

/-- Buffer clause, the exact range: for every legal base and every x of at most 2^53 + 20 bits — in particular
    every x an mpz_t can hold — the string mpz_get_str produces, with its terminating NUL, fits in
    `mpz_sizeinbase (x, |base|) + 2` bytes. -/
theorem get_str_fits (base : Int) (hb : LegalOutBase base) (x : Int) (hbits : x.natAbs < 2 ^ sibTA) :
    (getStrSpec base x).length + 1 ≤ mpz_sizeinbase x base.natAbs + 2 := by
  have hb2 := hb.natAbs_bounds
  unfold getStrSpec
  simp only [List.length_append, List.length_map]
  by_cases hx : x = 0
  · subst hx; simp [mpz_sizeinbase, sizeinbase, natLimbs_zero]
  · have hsign : (if x < 0 then [45] else ([] : List Nat)).length ≤ 1 := by split <;> simp
    simp only [hx, if_false]
    cases hp : pow2P base.natAbs with
    | true =>
      have := sizeinbase_pow2_of_table ((bases_table_ok.1 _ (by omega) hb2.1).2 hp) hp x
      simp only [hx, if_false] at this
      omega
    | false =>
      have := sizeinbase_ge _ hb2.1 hb2.2 hp x hx hbits
      omega

theorem get_str_fits_mpz (base : Int) (hb : LegalOutBase base) (x : Int) (hfit : MpzFits x) :
    (getStrSpec base x).length + 1 ≤ mpz_sizeinbase x base.natAbs + 2 :=
  get_str_fits base hb x (lt_of_lt_of_le hfit (Nat.pow_le_pow_right (by omega) (by unfold sibTA; norm_num)))

example : (getStrSpec (-10) (-1000)).length + 1 = 6 ∧ mpz_sizeinbase (-1000) 10 + 2 = 6 := by decide +kernel

/-- `sizeinbase_bound_bits` for |x| < 2^sibT, sibT = 2^24 bits (2 MiB operands, about 5 million decimal digits) -/
theorem sizeinbase_bound_partial (b : Nat) (hb : 2 ≤ b) (hb62 : b ≤ 62) (hnp : pow2P b = false)
    (x : Int) (hx : x ≠ 0) (hbits : x.natAbs < 2 ^ sibT) :
    mpz_sizeinbase x b = (digitsOf b x.natAbs).length ∨ mpz_sizeinbase x b = (digitsOf b x.natAbs).length + 1 :=
  sizeinbase_bound_bits b hb hb62 hnp x hx
    (lt_of_lt_of_le hbits (Nat.pow_le_pow_right (by omega) (by unfold sibT sibT2; norm_num)))

/-- `get_str_fits` for |x| < 2^(2^24) -/
theorem get_str_fits_partial (base : Int) (hb : LegalOutBase base) (x : Int) (hbits : x.natAbs < 2 ^ sibT) :
    (getStrSpec base x).length + 1 ≤ mpz_sizeinbase x base.natAbs + 2 :=
  get_str_fits base hb x (lt_of_lt_of_le hbits (Nat.pow_le_pow_right (by omega) (by unfold sibT sibTA; norm_num)))

end Mpir.Radix
