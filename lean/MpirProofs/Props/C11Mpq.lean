/-
  C11 (mpq part) — mpq_cmp, mpq_cmp_z, mpq_cmp_ui, mpq_cmp_si give the sign of the exact difference.
  Property theorems only; helper lemmas live in MpirProofs/Lemmas/Mpq.lean.

  The theorems are about the executable model in Mpir/Model/Mpq.lean (`cmpNumDen`, `cmpPre`, `cmpCross`,
  `cmpUiVal`, `cmp_si`), which mirrors mpq/cmp.c, cmp_ui.c, cmp_si.c branch by branch — including the
  limb-count and bit-count pre-checks that answer without cross-multiplying — and is run against the
  real functions by the correspondence check.  The only precondition is the one the C code ASSERTs:
  positive denominators.  `mpq_equal` is in Props/C12.lean (`mpq_equal_iff`).
-/
import MpirProofs.Lemmas.Mpq
import MpirProofs.Lemmas.MpqConv
namespace Mpir.Mpq

/-- mpq_cmp: negative / zero / positive exactly when op1 < / = / > op2 as rational numbers — for any
    two variables (also the same one), through every path: zero and sign shortcuts, the both-integers
    path, the limb-count pre-check, the bit-count pre-check and the cross-multiplication. -/
theorem mpq_cmp_spec (op1 op2 : Nat) (h : Heap) (h1 : 0 < (h op1).den) (h2 : 0 < (h op2).den) :
    (cmp op1 op2 h < 0 ↔ (h op1).toRat < (h op2).toRat) ∧
    (cmp op1 op2 h = 0 ↔ (h op1).toRat = (h op2).toRat) ∧
    (0 < cmp op1 op2 h ↔ (h op2).toRat < (h op1).toRat) := by
  exact tri_of_sign h1 h2 (cmpNumDen_sign h1 h2)

-- non-vacuity: 1/3 < 1/2 (cross product), 2^200/3 > 5/7 (limb-count pre-check), equal operands
example : cmp 1 2 (fun i => if i = 1 then ⟨1, 3⟩ else ⟨1, 2⟩) < 0 := by decide +kernel
example : 0 < cmp 1 2 (fun i => if i = 1 then ⟨2 ^ 200, 3⟩ else ⟨5, 7⟩) := by decide +kernel
example : cmp 1 1 (fun _ => ⟨-5, 7⟩) = 0 := by decide +kernel

/-- the size pre-checks of mpq_cmp are sound on their own: whenever the limb-count or the bit-count
    test answers, the answer has the sign of the cross-product difference (statement about the
    magnitudes, `s` = the non-zero signed size of num1, `i` = op2_is_int). -/
theorem mpq_cmp_prechecks_sound (s : ℤ) (hs : s ≠ 0) (n1 d1 n2 d2 : Nat) (i : ℤ)
    (hn1 : n1 ≠ 0) (hd1 : d1 ≠ 0) (hn2 : n2 ≠ 0) (hd2 : d2 ≠ 0) (hi : i = 0 ∨ (i = 1 ∧ d2 = 1)) :
    Int.sign (cmpPre s n1 d1 n2 d2 i) =
      (if s < 0 then -1 else 1) * Int.sign (((n1 * d2 : ℕ) : ℤ) - ((n2 * d1 : ℕ) : ℤ)) := by
  have hsg : (if s < 0 then -1 else 1) = Int.sign s := by
    split_ifs with h
    · exact (Int.sign_eq_neg_one_of_neg h).symm
    · exact (Int.sign_eq_one_of_pos (by omega)).symm
  rw [hsg]
  exact cmpPre_sign s hs n1 d1 n2 d2 i hn1 hd1 hn2 hd2 hi

-- non-vacuity: the limb-count test decides (3 limbs x 1 limb against 1 limb x 1 limb)
example : cmpPre 3 (2 ^ 130) 3 5 7 0 = 3 := by decide +kernel

/-- mpq_cmp_z: comparison with an integer. -/
theorem mpq_cmp_z_spec (n1 d1 z : Int) (h1 : 0 < d1) :
    (cmpNumDen n1 d1 z 1 < 0 ↔ (⟨n1, d1⟩ : Q).toRat < z) ∧
    (cmpNumDen n1 d1 z 1 = 0 ↔ (⟨n1, d1⟩ : Q).toRat = z) ∧
    (0 < cmpNumDen n1 d1 z 1 ↔ (z : ℚ) < (⟨n1, d1⟩ : Q).toRat) := by
  have := tri_of_sign (a := ⟨n1, d1⟩) h1 one_pos (cmpNumDen_sign (n2 := z) h1 one_pos)
  rwa [Int.cast_one, div_one] at this

example : cmpNumDen 7 2 3 1 > 0 ∧ cmpNumDen 7 2 4 1 < 0 := by decide +kernel

/-- mpq_cmp_ui (num2, den2 C unsigned longs): den2 = 0 raises DIVIDE_BY_ZERO, otherwise the result
    is negative / zero / positive exactly when op1 < / = / > num2/den2 (num2/den2 need not be
    canonical). -/
theorem mpq_cmp_ui_spec (op1 : Nat) (num2 den2 : Nat) (h : Heap) (h1 : 0 < (h op1).den)
    (hb1 : num2 < B) (hb2 : den2 < B) :
    (den2 = 0 → cmp_ui op1 num2 den2 h = none) ∧
    (den2 ≠ 0 → ∃ c, cmp_ui op1 num2 den2 h = some c ∧
      (c < 0 ↔ (h op1).toRat < (num2 : ℚ) / den2) ∧
      (c = 0 ↔ (h op1).toRat = (num2 : ℚ) / den2) ∧
      (0 < c ↔ (num2 : ℚ) / den2 < (h op1).toRat)) := by
  refine ⟨fun h0 => by unfold cmp_ui cmpUiVal; simp [h0], fun h0 => ?_⟩
  obtain ⟨c, hc, hs⟩ := cmpUiVal_sign (n1 := (h op1).num) h1 h0 hb1 hb2
  have := tri_of_sign (a := h op1) h1 (by omega) hs
  rw [Int.cast_natCast, Int.cast_natCast] at this
  exact ⟨c, hc, this⟩

example : (cmp_ui 1 6 4 (fun _ => ⟨3, 2⟩)).map Int.sign = some 0 := by decide +kernel
example : (cmp_ui 1 1 0 (fun _ => ⟨3, 2⟩)).isNone = true := by decide +kernel

/-- mpq_cmp_si (n a C long, d a C unsigned long, d ≠ 0): sign of q - n/d, including n = LONG_MIN. -/
theorem mpq_cmp_si_spec (q : Nat) (n : Int) (d : Nat) (h : Heap) (h1 : 0 < (h q).den)
    (hn : -(2 ^ 63) ≤ n ∧ n < 2 ^ 63) (hb : d < B) (hd : d ≠ 0) :
    ∃ c, cmp_si q n d h = some c ∧
      (c < 0 ↔ (h q).toRat < (n : ℚ) / d) ∧
      (c = 0 ↔ (h q).toRat = (n : ℚ) / d) ∧
      (0 < c ↔ (n : ℚ) / d < (h q).toRat) := by
  have hn' : n.natAbs < B := by rw [B_eq_pow]; omega
  obtain ⟨c, hc, hs⟩ := cmp_si_sign (n1 := (h q).num) (d1 := (h q).den) h q rfl h1 hd hb hn'
  have := tri_of_sign (a := h q) h1 (by omega) hs
  rw [Int.cast_natCast] at this
  exact ⟨c, hc, this⟩

example : (cmp_si 1 (-(2 ^ 63)) 1 (fun _ => ⟨-(2 ^ 63), 1⟩)).map Int.sign = some 0 := by decide +kernel
example : (cmp_si 1 (-7) 2 (fun _ => ⟨-10, 3⟩)).map Int.sign = some 1 := by decide +kernel

/-- mpq_get_d: zero gives +0.0; for a non-zero operand with positive denominator the result is the
    double obtained by truncating |n/d| toward zero (`truncDbl`: 53 significant bits for normal results,
    multiples of 2^-1074 in the denormal range, infinity when the leading bit has exponent ≥ 1024, +0.0
    below the smallest denormal), with the sign of the numerator.  `E` is the exponent of the leading
    bit of |n/d|; it is unique, so quantifying over it is no restriction.  Covers both the zero-padding
    and the limb-chopping path of get_d.c and the truncating division. -/
theorem mpq_get_d_spec (src : Nat) (h : Heap) (hd : 0 < (h src).den) :
    ((h src).num = 0 → get_d src h = 0) ∧
    ((h src).num ≠ 0 → ∀ E : ℤ, (2 : ℚ) ^ E ≤ |(h src).toRat| → |(h src).toRat| < (2 : ℚ) ^ (E + 1) →
      get_d src h = truncDbl (if (h src).num < 0 then 2 ^ 63 else 0) |(h src).toRat| E) := by
  rw [get_d_eq]
  refine ⟨fun h0 => by simp [h0], fun h0 E hE1 hE2 => ?_⟩
  rw [if_neg h0]
  have hn : (h src).num.natAbs ≠ 0 := by omega
  have hdn : (h src).den.natAbs ≠ 0 := by omega
  obtain ⟨q1, q2⟩ := getDQuot_spec hn hdn
  have habs : |(h src).toRat| = ((h src).num.natAbs : ℚ) / ((h src).den.natAbs : ℚ) := by
    unfold Q.toRat
    rw [abs_div, Nat.cast_natAbs, Nat.cast_natAbs, Int.cast_abs, Int.cast_abs]
  have hx : 0 < |(h src).toRat| := by
    rw [habs]; have : (0 : ℚ) < ((h src).num.natAbs : ℚ) := by exact_mod_cast Nat.pos_of_ne_zero hn
    have : (0 : ℚ) < ((h src).den.natAbs : ℚ) := by exact_mod_cast Nat.pos_of_ne_zero hdn
    positivity
  rw [← habs] at q1
  have := getDBits_trunc (decide ((h src).num < 0)) _ _ _ E hx q1 q2 hE1 hE2
  simpa using this

-- non-vacuity: 1/3 -> 0x3FD5555555555555 (truncated, not rounded), -1/3, overflow to +inf, a denormal,
-- underflow to +0.0; and the hypotheses of the theorem are satisfiable (E = -2 for 1/3)
example : get_d 1 (fun _ => ⟨1, 3⟩) = 0x3FD5555555555555 := by decide +kernel
example : get_d 1 (fun _ => ⟨-1, 3⟩) = 0xBFD5555555555555 := by decide +kernel
example : get_d 1 (fun _ => ⟨2 ^ 1024, 1⟩) = 0x7FF0000000000000 := by decide +kernel
example : get_d 1 (fun _ => ⟨3, 2 ^ 1074⟩) = 3 := by decide +kernel
example : get_d 1 (fun _ => ⟨-1, 2 ^ 1080⟩) = 0 := by decide +kernel
example : truncDbl 0 (1 / 3) (-2) = 0x3FD5555555555555 := by
  unfold truncDbl
  have h : ⌊(1 / 3 : ℚ) * (2 : ℚ) ^ ((52 : ℤ) - (-2))⌋₊ = 2 ^ 54 / 3 := by
    rw [← Nat.floor_div_eq_div (K := ℚ)]
    congr 1; norm_num
  norm_num [h]
  decide
example : (2 : ℚ) ^ (-2 : ℤ) ≤ |(⟨1, 3⟩ : Q).toRat| ∧ |(⟨1, 3⟩ : Q).toRat| < (2 : ℚ) ^ ((-2 : ℤ) + 1) := by
  norm_num [Q.toRat, abs_of_pos]

end Mpir.Mpq
