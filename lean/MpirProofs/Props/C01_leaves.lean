/-
  C01 (leaves) — the multiplication leaf kernels mul_1, addmul_1, submul_1 and mul_basecase compute the
  exact limb-vector function, for every length and every limb content.
  Property theorems only; helper lemmas live in MpirProofs/Lemmas/Kernels.lean.
  Every theorem is about the executable models in Mpir/Model/Kernels.lean (mirrors of
  mpn/generic/{mul_1,addmul_1,submul_1,mul_basecase}.c), which the correspondence check runs against
  the real mpn_* functions on every run.  `umul_ppmm` (the 64×64→128 multiply) is the trusted primitive.
-/
import MpirProofs.Lemmas.Kernels
namespace Mpir

/-- mpn_mul_1 (C domain n ≥ 1; the identity also holds for n = 0): result + B^n·ret = u·v, the
    returned carry limb is a proper limb, result limbs proper, n limbs. -/
theorem mul_1_val (u : List Nat) (v : Nat) (hu : Limbs u) (hv : v < B) :
    val (mul_1 u v).1 + B ^ u.length * (mul_1 u v).2 = val u * v ∧
    (mul_1 u v).2 < B ∧ Limbs (mul_1 u v).1 ∧ (mul_1 u v).1.length = u.length :=
  mul_1_val' u v hu hv

-- non-vacuity: (B²−1)·(B−1) = B³ − B² − B + 1
example : mul_1 [B - 1, B - 1] (B - 1) = ([1, B - 1], B - 2) := by decide

/-- mpn_addmul_1: result + B^n·ret = r + u·v, returned carry limb < B, n limbs. -/
theorem addmul_1_val (r u : List Nat) (v : Nat) (hr : Limbs r) (hu : Limbs u)
    (hl : r.length = u.length) (hv : v < B) :
    val (addmul_1 r u v).1 + B ^ u.length * (addmul_1 r u v).2 = val r + val u * v ∧
    (addmul_1 r u v).2 < B ∧ Limbs (addmul_1 r u v).1 ∧ (addmul_1 r u v).1.length = u.length :=
  addmul_1_val' r u v hr hu hv hl

-- non-vacuity: the extreme case r = u = B²−1, v = B−1 gives carry limb B−1
example : addmul_1 [B - 1, B - 1] [B - 1, B - 1] (B - 1) = ([0, B - 1], B - 1) := by decide

/-- mpn_submul_1: result + u·v = r + B^n·ret, returned borrow limb < B, n limbs. -/
theorem submul_1_val (r u : List Nat) (v : Nat) (hr : Limbs r) (hu : Limbs u)
    (hl : r.length = u.length) (hv : v < B) :
    val (submul_1 r u v).1 + val u * v = val r + B ^ u.length * (submul_1 r u v).2 ∧
    (submul_1 r u v).2 < B ∧ Limbs (submul_1 r u v).1 ∧ (submul_1 r u v).1.length = u.length :=
  submul_1_val' r u v hr hu hv hl

-- non-vacuity: 0 − (B²−1)(B−1) needs the maximal borrow limb B−1
example : submul_1 [0, 0] [B - 1, B - 1] (B - 1) = ([B - 1, 0], B - 1) := by decide
example : submul_1 [5, 7] [2, 3] 2 = ([1, 1], 0) := by decide

/-- mpn_mul_basecase (the C asserts un ≥ vn ≥ 1; the model identity needs only vn ≥ 1): the un+vn
    result limbs are exactly the product, all proper limbs. -/
theorem mul_basecase_val (u v : List Nat) (hu : Limbs u) (hv : Limbs v)
    (hun : v.length ≤ u.length) (hvn : 1 ≤ v.length) :
    val (mul_basecase u v) = val u * val v ∧ Limbs (mul_basecase u v) ∧
    (mul_basecase u v).length = u.length + v.length := by
  exact mul_basecase_val' u v hu hv hvn

-- non-vacuity: (B²−1)² = B⁴ − 2B² + 1
example : mul_basecase [B - 1, B - 1] [B - 1, B - 1] = [1, 0, B - 2, B - 1] := by decide
example : mul_basecase [3, 5, 7] [2, 4] = [6, 22, 34, 28, 0] := by decide

end Mpir
