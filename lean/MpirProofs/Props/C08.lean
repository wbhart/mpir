/-
  C08 — powers and modular powers.  Property theorems only; helper lemmas live in
  MpirProofs/Lemmas/Powm.lean.  Every theorem is about the executable models in Mpir/Model/Powm.lean,
  which the correspondence check runs against the rebuilt library (ops in Mpir/Ops/Powm.lean).
-/
import MpirProofs.Lemmas.Powm
namespace Mpir.Powm
open Mpir

/-- The sliding-window recoding of mpn_powm / mpn_powlo (first window, INNERLOOP, `getbits`, `getbit`,
    trailing-zero stripping) computes `b^e` in any monoid, for every window size the C can use
    (`getbits` shifts a limb by `nbits`, so `1 ≤ w ≤ 63`; `win_size` returns 1..10) and every
    exponent `{ep,en}` in normal form (`ep[en-1] ≠ 0`, what MPN_SIZEINBASE_2EXP asserts).
    The table is the one the C precomputes: entry `i` holds `b^(2i+1)`. -/
theorem window_exp_correct {M : Type} [Monoid M] (b : M) (ep : List Nat) (w : Nat)
    (hw : 1 ≤ w) (hw63 : w ≤ 63) (hl : Limbs ep) (hne : ep ≠ []) (htop : ep.getLast hne ≠ 0) :
    windowExp (fun x => x * x) (fun x y => x * y) (fun i => b ^ (2 * i + 1)) ep (sizeinbase2 ep) w
      = b ^ val ep := by
  apply windowExp_rel (fun x => x * x) (fun x y => x * y) (fun i => b ^ (2 * i + 1))
    (fun (r : M) (k : Nat) => r = b ^ k) ep hl hne htop w hw hw63
  · intro r k hr; rw [hr, ← pow_add]; congr 1; omega
  · intro r k i _ hr; rw [hr, ← pow_add]
  · intro i _; rfl

-- non-vacuity: 3^181 in (ℕ, ·) with window 4 (181 = 0b10110101: windows 1011, 0101 → 101);
-- a two-limb exponent has 65 bits and gets window size 3
example : windowExp (fun x => x * x) (fun x y => x * y) (fun i => 3 ^ (2 * i + 1)) [181] (sizeinbase2 [181]) 4
    = 3 ^ 181 := by decide +kernel
example : (sizeinbase2 [181, 1], win_size 65) = (65, 3) := by decide


/-- powm.c:118-151, the early `b^1 mod m` path (the path of the defect fixed by a1bb758): for every base
    and modulus in normal form, every sign of the base, `bn ≥ n` or `bn < n`, the result `{rp, rn}` is well
    formed (no zero top limb — with the old `rn -= (rp[rn-1] == 0)` this is false) and equals `(±b) mod m`. -/
theorem powmE1_spec (bneg : Bool) (bp mp : List Nat) (hb : Norm bp) (hbne : bp ≠ []) (hm : Norm mp)
    (hmne : mp ≠ []) :
    (Res.mk (powmE1 bneg bp mp).1 (powmE1 bneg bp mp).2).wf = true ∧
    ((val ((powmE1 bneg bp mp).1.take (powmE1 bneg bp mp).2) : Nat) : Int)
      = (if bneg then -(val bp : Int) else (val bp : Int)) % (val mp : Int) :=
  powmE1_correct bneg bp mp hb hbne hm hmne

-- non-vacuity: the witness of the fixed defect, m = 2^128 (3 limbs), b = -(2^128 - 1) (2 limbs): size 1, value 1
example : powmE1 true [B - 1, B - 1] [0, 0, 1] = ([1, 0, 0], 1) := by decide +kernel
-- the code before a1bb758 (`rn = n; rn -= (rp[rn - 1] == 0);`) on the same witness: size 2 over a zero top limb
example : (Res.mk (sub [0, 0, 1] [B - 1, B - 1]).1
    (3 - (if (sub [0, 0, 1] [B - 1, B - 1]).1.getD 2 0 = 0 then 1 else 0))).wf = false := by decide +kernel

/-- Result well-formedness of mpz_powm on **every** path (m = 0, e = 0, negative e, b = 0, the early
    b^1 path, odd and even moduli, negative-base fix-up): `SIZ(r) = 0` or the top limb `PTR(r)[SIZ(r)-1]`
    is non-zero.  For all `b`, `e`, `m`. -/
theorem mpz_powm_wf (b e m : Int) : (mpz_powm b e m).wf = true := (mpz_powm_wf_Limbs b e m).1

-- non-vacuity: results with high zero limbs before normalisation
example : (mpz_powm (-(2 ^ 128 - 1)) 1 (2 ^ 128)) = .mk [1, 0, 0] 1 := by decide +kernel
example : (mpz_powm 3 5 7).limbs = [5] := by decide +kernel

/-- `mpz_powm` agrees with the specification, and is well formed, on the paths that do not call
    mpn_powm: `m = 0` (exception), `e = 0` (`1 mod m`, 0 for `m = ±1`), `e = 1` and `e = -1` (the early
    path, after `mpz_invert` for `-1`; exception if not invertible), `b = 0`.
    All signs of `b` and `m`, all sizes. -/
theorem mpz_powm_small_paths_spec (b e m : Int) (h : m = 0 ∨ e = 0 ∨ e = 1 ∨ e = -1 ∨ (b = 0 ∧ 0 ≤ e)) :
    (mpz_powm b e m).value? = powmSpec b e m ∧ (mpz_powm b e m).wf = true := by
  refine ⟨mpz_powm_value b e m ?_, mpz_powm_wf b e m⟩
  rcases h with rfl | rfl | rfl | rfl | ⟨rfl, _⟩
  · intro _ _; simpa [natLimbs_zero] using B_pos
  · intro h; simp at h
  · intro h; simp at h
  · intro h; simp at h
  · intro _ h; exact absurd rfl h

-- non-vacuity: each listed path with concrete values
example : powmSpec 3 0 (-1) = some 0 ∧ powmSpec 3 (-1) 7 = some 5 ∧ powmSpec 3 (-5) 6 = none ∧
    powmSpec (-3) 5 (-8) = some 5 ∧ powmSpec 5 3 0 = none := by decide +kernel
example : (mpz_powm 3 (-1) 7).value? = some 5 ∧ (mpz_powm 2 (-1) 6) = .div0 ∧ (mpz_powm (-10) 1 7).value? = some 4 := by
  decide +kernel


/-- powm.c:196-268 — CRT recombination for an even modulus `m = 2^t · modd`, `modd` odd, `t ≥ 1` low zero
    bits given as `ncnt` limbs of which the top one holds `cnt` bits when `cnt ≠ 0`
    (`t = tbits ncnt cnt`, any 2-adic valuation including whole zero limbs).
    From the odd-part result `rodd = b^e mod modd` (mpn_powm's output) the code computes
    `r2 = b^e mod 2^t` (mpn_powlo, or 0 through one of the two even-base shortcuts),
    `x = (r2 − rodd)·modd⁻¹ mod 2^t` (mpn_binvert, mpn_sub, mpn_mullow_n, mask) and `rp = x·modd + rodd`.
    The theorem: `rp[0..n)` holds exactly `b^e mod m`, with `n` proper limbs — for every base (odd,
    even, shorter or longer than `ncnt` limbs) and every normalised exponent.
    The two callees are discharged by their own theorems (`powlo_spec`, `binvert_correct` below). -/
theorem even_modulus_crt (n : Nat) (bp ep modd rodd : List Nat) (nodd ncnt cnt : Nat)
    (hbp : Limbs bp) (hbne : bp ≠ []) (hep : Norm ep) (hepne : ep ≠ []) (h2 : 2 ≤ val ep)
    (hmodd : Limbs modd) (hml : modd.length = nodd) (hodd : val modd % 2 = 1)
    (hncnt : 1 ≤ ncnt) (hcnt : cnt < 64) (hn1 : nodd ≤ n) (hn2 : n ≤ nodd + ncnt)
    (hfit : 2 ^ tbits ncnt cnt * val modd < B ^ n) (hsz : ncnt * 64 < B)
    (hrodd : rodd = toLimbs nodd (val bp ^ val ep % val modd)) :
    val (powmEven n bp ep modd nodd ncnt cnt rodd) = val bp ^ val ep % (2 ^ tbits ncnt cnt * val modd) ∧
    Limbs (powmEven n bp ep modd nodd ncnt cnt rodd) ∧ (powmEven n bp ep modd nodd ncnt cnt rodd).length = n :=
  powmEven_correct n bp ep modd rodd nodd ncnt cnt hbp hbne hep hepne hmodd hml hodd hncnt hcnt hn1 hn2 hfit hsz
    hrodd (fun bq hbq => mpn_powlo_spec bq ep ncnt hbq hep hepne h2) (fun u hu => binvert_spec u ncnt hncnt hu)

-- non-vacuity: m = 12 = 2^2·3, b = 5, e = 3: 125 mod 12 = 5;  m = 2^64·3 (whole zero limb), b = 7, e = 2
example : powmEven 1 [5] [3] [3] 1 1 2 (toLimbs 1 (5 ^ 3 % 3)) = [5 ^ 3 % 12] := by decide +kernel
example : powmEven 2 [7] [2] [3] 1 1 0 (toLimbs 1 (7 ^ 2 % 3)) = [49, 0] ∧ tbits 1 0 = 64 := by decide +kernel


/-- mpn_redc_1 (mpn/generic/redc_1.c), limb-level model: the loop of `addmul_1` with `q = tp[0]·Nprim`,
    the parked carries, `mpn_add_n` and the conditional `mpn_sub_n`.
    For every `n ≥ 1`, every `tp` of `2n` limbs, every modulus with `Nprim·m[0] ≡ −1 (mod B)` (so `m` is odd):
    * the result has `n` proper limbs (`< B^n`);
    * `result · B^n ≡ T (mod m)`, i.e. `result ≡ T·B^{-n}`; more exactly `B^n·r + k·B^n·m = T + Q·m` with
      `Q < B^n`, `k ∈ {0,1}`;
    * if `T < B^n` (the conversion out of Montgomery form at the end of mpn_powm) then `result ≤ m`.
    Note: DESIGN.md states `result < m`; that is *not* a property of MPIR's redc_1 — it subtracts `m` only
    on a carry out of `B^n`, so for `T < m·B^n` the result lies in `[0, B^n)` and may be `≥ m` (example
    below).  mpn_powm only needs residues below `B^n` and canonicalises once at the end. -/
theorem redc_1_spec (tp mp : List Nat) (invm : Nat) (hn : 1 ≤ mp.length) (htp : Limbs tp) (hmp : Limbs mp)
    (hlen : tp.length = 2 * mp.length) (hinv : (invm * mp.headD 0) % B = B - 1) :
    Limbs (redc_1 tp mp invm) ∧ (redc_1 tp mp invm).length = mp.length ∧
    val (redc_1 tp mp invm) < B ^ mp.length ∧
    (val (redc_1 tp mp invm) * B ^ mp.length ≡ val tp [MOD val mp]) ∧
    (∃ Q k, Q < B ^ mp.length ∧ k ≤ 1 ∧
      B ^ mp.length * val (redc_1 tp mp invm) + k * (B ^ mp.length * val mp) = val tp + Q * val mp) ∧
    (val tp < B ^ mp.length → val (redc_1 tp mp invm) ≤ val mp) := by
  obtain ⟨Q, k, hQ, hk, he, hL, hlen'⟩ := redc_1_identity tp mp invm hn htp hmp hlen hinv
  have h := IsRedc.of_identity (hlen' ▸ val_lt _ hL) hQ he
  exact ⟨hL, hlen', h.lt, h.modEq, ⟨Q, k, hQ, hk, he⟩, h.le⟩

-- non-vacuity: m = 3, Nprim = −3⁻¹ = 0x5555555555555555, T = 2·B + 1 < m·B: the result is 3 = m, not < m
example : redc_1 [1, 2] [3] 0x5555555555555555 = [3] ∧ (0x5555555555555555 * 3) % B = B - 1 := by decide +kernel
-- a carry out of B^n: T = B^2 − 1, m = B − 1 (Nprim = 1)
example : redc_1 [B - 1, B - 1] [B - 1] 1 = [B - 1] := by decide +kernel


/-- **mpz_powm** (mpz/powm.c).  For every base `b` (negative, zero, shorter or longer than the modulus),
    every exponent `e` (zero, one, any length and bit pattern; negative when `b` is invertible) and every
    modulus `m ≠ 0` (odd, even with any 2-adic valuation, a power of two, `±1`):
    the model returns exactly `powmSpec b e m` — `b^e mod |m|` in `[0,|m|)`, the division-by-zero exception
    for `m = 0` or a non-invertible base with `e < 0` — and the result object is well formed on every path.
    `hsz`: the modulus has fewer than `2^58` limbs (`SIZ` is a 32-bit `int`), so the bit count `t` of
    powm.c:221 cannot wrap. -/
theorem mpz_powm_spec (b e m : Int) (hsz : (natLimbs m.natAbs).length * 64 < B) :
    (mpz_powm b e m).value? = powmSpec b e m ∧ (mpz_powm b e m).wf = true :=
  ⟨mpz_powm_value b e m (fun _ _ => hsz), mpz_powm_wf b e m⟩

-- non-vacuity: odd modulus through REDC; even modulus through powlo + CRT; power of two; negative base
example : (mpz_powm 3 200 1000001).value? = some (3 ^ 200 % 1000001) := by decide +kernel
example : (mpz_powm (-7) 13 (12 * 2 ^ 70)).value? = powmSpec (-7) 13 (12 * 2 ^ 70) ∧
    (mpz_powm 5 1000 (2 ^ 130)).value? = some (5 ^ 1000 % 2 ^ 130) ∧
    (mpz_powm 3 (-7) (2 ^ 64 + 13)).value? = powmSpec 3 (-7) (2 ^ 64 + 13) := by decide +kernel

/-- mpn_powm (mpn/generic/powm.c): conversion to Montgomery form, table of odd powers, sliding window
    with `win_size`/`getbits`, REDC by `redc_1` (limb level) or `redc_n`, final conversion and canonicalising
    subtraction.  For every odd modulus of `n ≥ 1` limbs, every base, every exponent in normal form and every
    value of the REDC threshold: the `n` result limbs are `b^e mod m`. -/
theorem mpn_powm_spec (thr : Nat) (bp ep mp : List Nat) (hep : Norm ep) (hne : ep ≠ [])
    (hmp : Limbs mp) (hn : 1 ≤ mp.length) (hodd : val mp % 2 = 1) :
    mpn_powm_val thr bp ep mp = val bp ^ val ep % val mp ∧
    val (toLimbs mp.length (mpn_powm_val thr bp ep mp)) = val bp ^ val ep % val mp := by
  have h := mpn_powm_val_spec thr bp ep mp hep hne hmp hn hodd
  refine ⟨h, ?_⟩
  rw [h, val_toLimbs_lt]
  exact lt_trans (Nat.mod_lt _ (by omega)) (val_lt mp hmp)

example : mpn_powm [3, 4, 5] [77] [7, 9] = toLimbs 2 (val [3, 4, 5] ^ 77 % val [7, 9]) := by decide +kernel

/-- mpn_powlo: `b^e mod B^n` for every `n`, base and exponent `> 1` in normal form. -/
theorem powlo_spec (bp ep : List Nat) (n : Nat) (hbp : Limbs bp) (hep : Norm ep) (hne : ep ≠ [])
    (h2 : 2 ≤ val ep) : val (mpn_powlo bp ep n) = val bp ^ val ep % B ^ n :=
  mpn_powlo_spec bp ep n hbp hep hne h2

example : mpn_powlo [3, 4, 5] [77] 2 = toLimbs 2 (val [3, 4, 5] ^ 77) := by decide +kernel

/-- mpn_binvert (value level) and modlimb_invert: the inverse of an odd number modulo `B^n` / `B`. -/
theorem binvert_correct (u n : Nat) (hn : 1 ≤ n) (hodd : u % 2 = 1) :
    (binvert u n * u) % B ^ n = 1 ∧ (modlimb_invert u * u) % B = 1 :=
  ⟨binvert_spec u n hn hodd, modlimb_invert_spec u hodd⟩

example : binvert 3 2 = 0xaaaaaaaaaaaaaaaaaaaaaaaaaaaaaaab := by decide +kernel


/-- mpz_pow_ui / mpz_ui_pow_ui (mpz/n_pow_ui.c, value-level model: stripping of low zero limbs and bits,
    powering inside one limb while it fits, merging of the left-over shift, the one-limb / two-limb /
    many-limb square-and-multiply loops, final shift): the exact power for every base and exponent,
    `0^0 = 1`, sign `(−)^e`.
    `hfeas`: for `|b| ≥ 2` the result has at least `e` bits; `e < 2^58` keeps `rtwos_bits = e * btwos`
    (unsigned long arithmetic in the C) from wrapping — beyond that the result is not addressable anyway. -/
theorem n_pow_ui_spec (b : Int) (e : Nat) (heB : e < B) (hfeas : 2 ≤ b.natAbs → e * 64 < B) :
    mpz_pow_ui b e = powSpec b e ∧ (0 ≤ b → mpz_ui_pow_ui b.toNat e = powSpec b e) ∧ mpz_pow_ui 0 0 = 1 := by
  have h1 : mpz_pow_ui b e = powSpec b e := by
    unfold mpz_pow_ui powSpec
    rw [n_pow_ui_correct _ _ e (Norm_natLimbs _) heB (by rw [val_natLimbs_eq]; exact hfeas), val_natLimbs_eq]
    congr 1
    by_cases hb : b < 0
    · simp only [hb, decide_true, if_true]; omega
    · simp only [hb, decide_false, Bool.false_eq_true, if_false]; omega
  refine ⟨h1, ?_, by decide⟩
  intro hb0
  unfold mpz_ui_pow_ui powSpec
  rw [n_pow_ui_correct _ _ e (Norm_natLimbs _) heB (by rw [val_natLimbs_eq]; intro h; exact hfeas (by omega)), val_natLimbs_eq]
  simp only [Bool.false_eq_true, if_false]
  congr 1; omega

-- non-vacuity: 0^0, a negative base with low zero limbs and bits, a two-limb base that shrinks to one limb
example : mpz_pow_ui 0 0 = 1 ∧ mpz_ui_pow_ui 0 0 = 1 ∧ mpz_pow_ui 0 5 = 0 := by decide +kernel
example : mpz_pow_ui (-(3 * 2 ^ 70)) 3 = (-(3 * 2 ^ 70)) ^ 3 ∧ mpz_pow_ui (5 * 2 ^ 62) 7 = (5 * 2 ^ 62) ^ 7 ∧
    mpz_ui_pow_ui (2 ^ 64 - 1) 3 = (2 ^ 64 - 1) ^ 3 := by decide +kernel


/-- **mpz_powm_ui** (mpz/powm_ui.c): for `el < 20` the old binary algorithm on the modulus shifted to
    normal form (reduction of a long base, the single conditional subtraction for `el = 1`, square /
    multiply with a reduction whenever the product has `mn` limbs, final reduction by the unshifted modulus,
    negative-base fix-up); for `el ≥ 20` the deflection to mpz_powm.  For every base, every `el` and every
    modulus: `b^el mod |m|` in `[0,|m|)`, the exception for `m = 0`, and a well-formed result. -/
theorem powm_ui_spec (b : Int) (el : Nat) (m : Int) (hsz : (natLimbs m.natAbs).length * 64 < B) :
    (mpz_powm_ui b el m).value? = powmSpec b (el : Int) m ∧ (mpz_powm_ui b el m).wf = true := by
  by_cases h20 : el < 20
  · exact mpz_powm_ui_small b el m h20
  · have : mpz_powm_ui b el m = mpz_powm b (el : Int) m := by
      unfold mpz_powm_ui; simp only [h20, if_false]
    rw [this]; exact mpz_powm_spec b el m hsz

-- non-vacuity: both sides of the `el = 20` switch, a modulus that needs shifting, a long negative base
example : (mpz_powm_ui (-(2 ^ 200 + 12345)) 19 (2 ^ 70 + 3)).value? = powmSpec (-(2 ^ 200 + 12345)) 19 (2 ^ 70 + 3) ∧
    (mpz_powm_ui 7 20 (3 * 2 ^ 65)).value? = some (7 ^ 20 % (3 * 2 ^ 65)) ∧
    (mpz_powm_ui (2 ^ 64 - 1) 1 (2 ^ 63 + 1)).value? = some ((2 ^ 64 - 1) % (2 ^ 63 + 1)) := by decide +kernel


/-- What `powmSpec` means (so that the theorems above say what C08 says): `none` for `m = 0`;
    `b^e mod |m|` in `[0,|m|)` for `e ≥ 0`; for `e < 0` and `|m| > 1` a value `r ∈ [0,|m|)` with
    `r · b^(−e) ≡ 1 (mod |m|)` when it exists, and `none` only if `gcd(b, m) ≠ 1`. -/
theorem powmSpec_char (b e m : Int) :
    (m = 0 → powmSpec b e m = none) ∧
    (m ≠ 0 → 0 ≤ e → powmSpec b e m = some (b ^ e.toNat % (m.natAbs : Int)) ∧
        0 ≤ b ^ e.toNat % (m.natAbs : Int) ∧ b ^ e.toNat % (m.natAbs : Int) < m.natAbs) ∧
    (1 < m.natAbs → e < 0 → ∀ r, powmSpec b e m = some r →
        0 ≤ r ∧ r < m.natAbs ∧ (r * b ^ (-e).toNat) % (m.natAbs : Int) = 1) ∧
    (1 < m.natAbs → e < 0 → powmSpec b e m = none → Int.gcd b m ≠ 1) := by
  refine ⟨fun h => by simp [powmSpec, h], ?_, ?_, ?_⟩
  · intro hm he
    have hpos : (0 : Int) < m.natAbs := by
      have := Int.natAbs_pos.mpr hm; exact_mod_cast this
    exact ⟨by simp [powmSpec, hm, he], Int.emod_nonneg _ (ne_of_gt hpos), Int.emod_lt_of_pos _ hpos⟩
  · intro hm he r hr
    have hm0 : m ≠ 0 := by intro h; rw [h] at hm; simp at hm
    have hpos : (0 : Int) < m.natAbs := by omega
    unfold powmSpec at hr
    simp only [hm0, if_false, show ¬ (0 ≤ e) by omega, show m.natAbs ≠ 1 by omega] at hr
    cases hinv : modInv? b m.natAbs with
    | none => rw [hinv] at hr; simp at hr
    | some i =>
      rw [hinv] at hr
      simp only [Option.some.injEq] at hr
      obtain ⟨_, hi⟩ := modInv_sound b m.natAbs (by omega) i hinv
      subst hr
      refine ⟨Int.emod_nonneg _ (ne_of_gt hpos), Int.emod_lt_of_pos _ hpos, ?_⟩
      have h1 : (i : Int) ^ (-e).toNat % (m.natAbs : Int) * b ^ (-e).toNat ≡ ((i : Int) * b) ^ (-e).toNat [ZMOD (m.natAbs : Int)] := by
        rw [mul_pow]; exact (Int.mod_modEq _ _).mul_right _
      have h2 : (i : Int) * b ≡ 1 [ZMOD (m.natAbs : Int)] := by
        have : b * (i : Int) ≡ 1 [ZMOD (m.natAbs : Int)] := hi
        rwa [mul_comm] at this
      have h3 := h1.trans (h2.pow _)
      rw [one_pow] at h3
      have : (1 : Int) % (m.natAbs : Int) = 1 := Int.emod_eq_of_lt (by omega) (by omega)
      rw [← this]; exact h3
  · intro hm he hn
    have hm0 : m ≠ 0 := by intro h; rw [h] at hm; simp at hm
    unfold powmSpec at hn
    simp only [hm0, if_false, show ¬ (0 ≤ e) by omega, show m.natAbs ≠ 1 by omega] at hn
    cases hinv : modInv? b m.natAbs with
    | none =>
      exact modInv_none b m.natAbs (by omega) hinv
    | some i => rw [hinv] at hn; simp at hn

example : powmSpec 3 (-2) 7 = some 4 ∧ (4 * 3 ^ 2) % 7 = 1 := by decide +kernel


/-- mpn_pow_1 (mpn/generic/pow_1.c, value-level model with the C's size bookkeeping): for every base in
    normal form and every exponent the `rn` returned limbs hold `b^exp` exactly and `rn` is the normalised
    size (`B^(rn-1) ≤ value`). -/
theorem pow_1_spec (bp : List Nat) (exp : Nat) (hb : Norm bp) (hne : bp ≠ []) :
    val (mpn_pow_1 bp exp) = val bp ^ exp ∧ Limbs (mpn_pow_1 bp exp) ∧
    B ^ ((mpn_pow_1 bp exp).length - 1) ≤ val (mpn_pow_1 bp exp) :=
  mpn_pow_1_spec bp exp hb hne

example : mpn_pow_1 [3, 4] 5 = toLimbs 6 (val [3, 4] ^ 5) ∧ mpn_pow_1 [3] 0 = [1] := by decide +kernel

end Mpir.Powm
