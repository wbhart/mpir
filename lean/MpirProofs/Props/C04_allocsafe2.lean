/-
  C04, object-layer memory safety as theorems (same statement shape `Safe` as C04_allocsafe.lean:
  `ok = true`, destination well formed, every other variable untouched, value-level view = the list-level result;
  plus the integer identity).  Property theorems only; helper lemmas live in MpirProofs/Lemmas/AllocSafeSpec.lean
  (value identities of `Spec.com`, `Spec.tdiv_q_2exp`), AllocSafeLogic.lean (read operands incl. temporary space, the `Wrote`
  rules of the logical kernels; mpz/and.c, mpz/xor.c, mpz/ior.c in the ++ case), AllocSafeMul.lean (mpz/mul_i.h).

  Models: Mpir/Model/AllocSafeMpz.lean (com, tdiv_q_2exp), Mpir/Model/AllocSafeMpz2.lean (and, ior, xor, mul_ui).
  Tied by ops `as_com`, `as_tdiv_q_2exp` (part c04_allocsafe) and `as2_and`, `as2_ior`, `as2_xor`, `as2_mul_ui`
  (harness/ops_allocsafe2.c; ALLOC SIZ value compared exactly) and pins on every C file mirrored.
  mpz_ior: here the case of two non-negative operands; every sign case in C04_allocsafe3.lean.
-/
import MpirProofs.Lemmas.AllocSafeBit
import MpirProofs.Lemmas.AllocSafeMul
import MpirProofs.Lemmas.AllocSafeSpec
import MpirProofs.Lemmas.MpzMul
import MpirProofs.Props.C04_allocsafe
namespace Mpir.AllocSafe
open Mpir

/-- mpz_com (mpz/com.c), complete: `size + 1` limbs cover the carry store of the non-negative case, `size` limbs the
    negative case incl. the read of `dst_ptr[size - 1]`; for every alias pattern and allocation; `~u = -u - 1`. -/
theorem mpz_com_alloc_safe (s : St) (w u : Nat) (hs : s.ok = true) (hw : OWF (s.h w)) (hu : OWF (s.h u)) :
    Safe s (mpz_com s w u) w (Spec.com (view (s.h w)) (view (s.h u))) ∧
    Mpz.toInt (view ((mpz_com s w u).h w)) = -Mpz.toInt (view (s.h u)) - 1 := by
  have E := Spec.com_spec (view (s.h w)) (view (s.h u)) hu.2
  exact (com_refines s w u hs hw hu).safe_val E.1 E.2

-- ~(B^2-1) = -B^2 in place (2 → 3 limbs); ~(-(B^2)) = B^2 - 1 shrinks by a limb
example : (mpz_com ex 1 1).ok = true ∧ Mpz.toInt (view ((mpz_com ex 1 1).h 1)) = -(B ^ 2 : Int) := by decide
example : view ((mpz_com ⟨fun _ => ⟨-3, 0, ⟨3, [0, 0, 1]⟩⟩, true⟩ 0 1).h 0) = ⟨3, 2, [B - 1, B - 1]⟩ := by decide

/-- mpz_tdiv_q_2exp (mpz/tdiv_q_2exp.c), complete: the source is read at `up + limb_cnt` for `|usize| - limb_cnt` limbs,
    `wp[wsize - 1]` is inside what was just written; quotient truncated towards zero. -/
theorem mpz_tdiv_q_2exp_alloc_safe (s : St) (w u : Nat) (cnt : Nat) (hs : s.ok = true)
    (hw : OWF (s.h w)) (hu : OWF (s.h u)) :
    Safe s (mpz_tdiv_q_2exp s w u cnt) w (Spec.tdiv_q_2exp (view (s.h w)) (view (s.h u)) cnt) ∧
    Mpz.toInt (view ((mpz_tdiv_q_2exp s w u cnt).h w)) = Int.tdiv (Mpz.toInt (view (s.h u))) (2 ^ cnt) := by
  have E := Spec.tdiv_q_2exp_spec (view (s.h w)) (view (s.h u)) cnt hw.alloc_pos hu.2
  exact (tdiv_q_2exp_refines s w u cnt hs hw hu).safe_val E.1 E.2

-- -(B^2-1) >> 65 = -(2^63 - 1) (truncation, not floor)
example : view ((mpz_tdiv_q_2exp ⟨fun _ => ⟨-2, 0, ⟨2, [B - 1, B - 1]⟩⟩, true⟩ 0 1 65).h 0) = ⟨2, -1, [2 ^ 63 - 1]⟩ := by
  decide

/-- mpz_and (mpz/and.c), every sign case and alias pattern: the exact-size reallocations of the ++ and +- cases
    (after the scan for the result size), `1 + MAX` limbs for the -- case whose `+ 1` may carry into a new top limb,
    operands decremented into temporary space, the pointers re-read after `_mpz_realloc` (`res == op1` / `res == op2`);
    the result is the two's-complement AND. -/
theorem mpz_and_alloc_safe (s : St) (w u v : Nat) (hs : s.ok = true)
    (hw : OWF (s.h w)) (hu : OWF (s.h u)) (hv : OWF (s.h v)) :
    Safe s (mpz_and s w u v) w (Spec.and (view (s.h w)) (view (s.h u)) (view (s.h v))) ∧
    Mpz.toInt (view ((mpz_and s w u v).h w)) = Int.land (Mpz.toInt (view (s.h u))) (Mpz.toInt (view (s.h v))) := by
  have := Refines.safe_ofZ (and_refines s w u v hs hw hu hv)
    (Bits.mpz_and_land (zOf (view (s.h u))) (zOf (view (s.h v))) (zOf_WF hu.2) (zOf_WF hv.2))
    (by
      split
      · rename_i h
        exact Nat.le_trans (and_need_le _ _ hu.2 hv.2 h.1 h.2) (Mpz.grow_alloc _ _).1
      · exact (Mpz.grow_alloc _ _).1)
    (Nat.le_trans hw.alloc_pos (Mpz.grow_alloc (view (s.h w)) _).2)
  rwa [zOf_toInt, zOf_toInt, Bits.land_eq] at this

/-- heap for the examples: 0 = destination (one limb, value 0), 1 = -(B), 2 = -(B^2-1), 3 = B^2 - 1 (exact blocks) -/
def ex2 : St := ⟨fun i => if i = 0 then ⟨0, 0, ⟨1, [junk]⟩⟩ else if i = 1 then ⟨-2, 0, ⟨2, [0, 1]⟩⟩
                  else if i = 2 then ⟨-2, 0, ⟨2, [B - 1, B - 1]⟩⟩ else ⟨2, 0, ⟨2, [B - 1, B - 1]⟩⟩, true⟩

-- -(B) & -(B^2-1) = -(B^2): one limb longer than both operands; into the one-limb destination and in place
example : (mpz_and ex2 0 1 2).ok = true ∧ view ((mpz_and ex2 0 1 2).h 0) = ⟨3, -3, [0, 0, 1]⟩ := by decide
example : (mpz_and ex2 1 1 2).ok = true ∧ view ((mpz_and ex2 1 1 2).h 1) = ⟨3, -3, [0, 0, 1]⟩ := by decide
-- (B^2-1) & -(B) = B^2 - B, res == op1 (in place, nothing to grow) and res == op2 after the swap
example : (mpz_and ex2 3 3 1).ok = true ∧ view ((mpz_and ex2 3 3 1).h 3) = ⟨2, 2, [0, B - 1]⟩ := by decide
example : (mpz_and ex2 1 1 3).ok = true ∧ view ((mpz_and ex2 1 1 3).h 1) = ⟨2, 2, [0, B - 1]⟩ := by decide
-- negative: `res_alloc = MAX (op1_size, op2_size)` without the `1 +` — the carry store `res_ptr[res_size] = cy` is outside
example : (and_ true 0 ex2 0 1 2).ok = false := by decide
-- a variant that does NOT re-read op1_ptr / op2_ptr after `_mpz_realloc` (and.c:60-61, 229, 256) is not caught, and for a
-- reason: whenever res is one of the operands its block already has room for the result of these cases, so the block is
-- only ever replaced when res is a distinct variable or the other operand (the re-reads are defensive).  Here res == op2 = -4
-- in a one-limb block, op1 = B^2 - 1: res grows to two limbs, the stale `op1_ptr` still points into op1's live block:
example : (and_ false 1 ⟨fun i => if i = 1 then ⟨-1, 0, ⟨1, [4]⟩⟩ else ⟨2, 0, ⟨2, [B - 1, B - 1]⟩⟩, true⟩ 1 2 1).ok = true ∧
    view ((and_ false 1 ⟨fun i => if i = 1 then ⟨-1, 0, ⟨1, [4]⟩⟩ else ⟨2, 0, ⟨2, [B - 1, B - 1]⟩⟩, true⟩ 1 2 1).h 1)
      = ⟨2, 2, [B - 4, B - 1]⟩ := by decide

/-- mpz_xor (mpz/xor.c), every sign case and alias pattern: `MAX (sizes)` limbs for ++ and --, `MAX (sizes) + 1` for +-
    (the `+ 1` of `-(x) = ~x + 1` may carry into a new top limb), operands decremented into temporary space, the
    `if (res_ptr != op1_ptr) MPN_COPY` of the in-place ++ case, the pointers re-read after `_mpz_realloc`; MPN_NORMALIZE
    reads only what was written; the result is the two's-complement XOR. -/
theorem mpz_xor_alloc_safe (s : St) (w u v : Nat) (hs : s.ok = true)
    (hw : OWF (s.h w)) (hu : OWF (s.h u)) (hv : OWF (s.h v)) :
    Safe s (mpz_xor s w u v) w (Spec.xor (view (s.h w)) (view (s.h u)) (view (s.h v))) ∧
    Mpz.toInt (view ((mpz_xor s w u v).h w)) = Int.xor (Mpz.toInt (view (s.h u))) (Mpz.toInt (view (s.h v))) := by
  have := Refines.safe_ofZ (xor_refines s w u v hs hw hu hv)
    (Bits.mpz_xor_lxor (zOf (view (s.h u))) (zOf (view (s.h v))) (zOf_WF hu.2) (zOf_WF hv.2))
    (Nat.le_trans (xor_need_le _ _ hu.2 hv.2) (Mpz.grow_alloc _ _).1)
    (Nat.le_trans hw.alloc_pos (Mpz.grow_alloc (view (s.h w)) _).2)
  rwa [zOf_toInt, zOf_toInt, Bits.lxor_eq] at this

-- (B^2-1) ^ -(B) in place on op1 and on op2 (one-limb-longer allocation); -(B) ^ -(B^2-1) = (B-1) ^ (B^2-2) = B^2 - B + 1
example : (mpz_xor ex2 3 3 1).ok = true ∧ Mpz.toInt (view ((mpz_xor ex2 3 3 1).h 3)) = Int.xor (B ^ 2 - 1) (-(B : Int)) := by decide
example : (mpz_xor ex2 1 3 1).ok = true ∧ (mpz_xor ex2 1 3 1).ALLOC 1 = 3 := by decide
example : (mpz_xor ex2 0 1 2).ok = true ∧ view ((mpz_xor ex2 0 1 2).h 0) = ⟨2, 2, [1, B - 1]⟩ := by decide
-- (B^2-1) ^ -1 = -(B^2): the +- case carries into a third limb
example : view ((mpz_xor ⟨fun i => if i = 0 then ⟨2, 0, ⟨2, [B - 1, B - 1]⟩⟩ else ⟨-1, 0, ⟨1, [1]⟩⟩, true⟩ 0 0 1).h 0)
    = ⟨3, -3, [0, 0, 1]⟩ := by decide
-- negative: `res_alloc = MAX (op1_size, op2_size)` without the `+ 1` in the +- case — the carry store is outside the block
example : (xor_ true 0 ⟨fun i => if i = 0 then ⟨2, 0, ⟨2, [B - 1, B - 1]⟩⟩ else ⟨-1, 0, ⟨1, [1]⟩⟩, true⟩ 0 0 1).ok = false := by
  decide

/-- mpz_ior (mpz/ior.c), both operands non-negative (ior.c:46-85: `_mpz_realloc (res, MAX size)`, the
    `if (res_ptr != op1_ptr) MPN_COPY` of the in-place case, the pointers re-read after the realloc).  Every sign case, with
    the allocation of the other cases (`MIN` limbs for --, `op2_size` for +-) in place of `max`: `mpz_ior_alloc_safe`
    (C04_allocsafe3.lean). -/
theorem mpz_ior_alloc_safe_partial (s : St) (w u v : Nat) (hs : s.ok = true)
    (hw : OWF (s.h w)) (hu : OWF (s.h u)) (hv : OWF (s.h v)) (h1 : 0 ≤ (s.h u).size) (h2 : 0 ≤ (s.h v).size) :
    Safe s (mpz_ior s w u v) w
      (ofZ (Mpz.grow (view (s.h w)) (max (s.h u).size.natAbs (s.h v).size.natAbs)).alloc
        (Bits.mpz_ior (zOf (view (s.h u))) (zOf (view (s.h v))))) ∧
    Mpz.toInt (view ((mpz_ior s w u v).h w)) = Int.lor (Mpz.toInt (view (s.h u))) (Mpz.toInt (view (s.h v))) := by
  have := ior_safe s w u v hs hw hu hv
  rwa [Spec.ior, view_size, view_size, if_neg (Int.not_lt.mpr h1), if_neg (Int.not_lt.mpr h2)] at this

-- (B^2-1) | 1 in place on the longer operand (no copy: `res_ptr == op1_ptr`) and on the shorter one (block grown 1 → 2)
example : (mpz_ior ex 1 1 2).ok = true ∧ view ((mpz_ior ex 1 1 2).h 1) = ⟨2, 2, [B - 1, B - 1]⟩ := by decide
example : (mpz_ior ex 2 1 2).ok = true ∧ view ((mpz_ior ex 2 1 2).h 2) = ⟨2, 2, [B - 1, B - 1]⟩ := by decide
-- negative: op2_ptr NOT re-read after `_mpz_realloc` with res == op2 (the shorter operand, whose block is replaced)
example : (ior_ false ex 2 1 2).ok = false := by decide

/-- mpz_mul_ui (mpz/mul_i.h): `MPZ_REALLOC (prod, size + 1)` covers `pp[size] = cy`, also in place; exact product. -/
theorem mpz_mul_ui_alloc_safe (s : St) (w u : Nat) (v : Nat) (hs : s.ok = true)
    (hw : OWF (s.h w)) (hu : OWF (s.h u)) (hv : v < B) :
    Safe s (mpz_mul_ui s w u v) w (Mpz.mul_ui (view (s.h w)) (view (s.h u)) v) ∧
    Mpz.toInt (view ((mpz_mul_ui s w u v).h w)) = Mpz.toInt (view (s.h u)) * (v : Int) := by
  have E := Mpz.mul_i_spec (view (s.h w)) (view (s.h u)) v false hw.alloc_pos hu.2 hv
  exact (mul_ui_refines s w u v hs hw hu hv).safe_val E.1 (by simpa [Mpz.mul_ui] using E.2)

-- (B^2-1) * (B-1) in place: block grown 2 → 3, high product limb stored at index 2
example : (mpz_mul_ui ex 1 1 (B - 1)).ok = true ∧
    view ((mpz_mul_ui ex 1 1 (B - 1)).h 1) = ⟨3, 3, [1, B - 1, B - 2]⟩ := by decide
-- negative: `MPZ_REALLOC (prod, size)` — `pp[size] = cy` is outside the block
example : (mul_ui 0 ex 1 1 (B - 1)).ok = false := by decide

end Mpir.AllocSafe
