/-
  C02 (multi-limb layer) — mpn_sb_divappr_q: the approximate schoolbook quotient is ⌊N/D⌋ or ⌊N/D⌋ + 1
  ("The quotient returned is either correct, or one too large", sb_divappr_q.c:1-3), and mpn_sb_div_q: the quotient is exactly
  ⌊N/D⌋, including the final correction code — for ALL lengths and limb contents.
  Property theorems only; helper lemmas live in MpirProofs/Lemmas/SbDivQLoop.lean, SbDivQTop.lean (divappr) and
  SbDivQExact.lean (steps and loops), SbDivQExactTop.lean (fix-up, div_q).
  What mpn_sb_divappr_q leaves behind in np (needed by mpn_dc_divappr_q) is part of `sb_divappr_q_callSpec` (SbDivQTop.lean).
  The theorems are about the executable limb-for-limb models Mpir/Model/SbDivQ.lean of mpn/generic/sb_divappr_q.c and
  mpn/generic/sb_div_q.c, which the correspondence check runs against the real functions (ops `sb_divappr_q`, `sb_div_q`,
  outputs compared verbatim) on every run.
  Ingredients: udiv_qr_3by2 / invert_pi1 (C02_word), submul_1, add_n, sub_n, cmp (Kernels), the arithmetic cores of C02_sb.
-/
import MpirProofs.Lemmas.SbDivQTop
import MpirProofs.Lemmas.SbDivQExactTop
namespace Mpir.SbDivQ
open Mpir Mpir.DivWord Mpir.SbDiv

/-- mpn_sb_divappr_q (qp, np, nn, dp, dn, dinv), sb_divappr_q.c:48-245.  Preconditions = the C's ASSERTs (dn > 2, high bit
    of dp[dn-1] set), nn > dn (the ASSERT says nn ≥ dn, but the code stores qp[0] unconditionally: every caller passes
    nn > dn), dinv = mpir_invert_pi1 (dp[dn-1], dp[dn-2]), and 2·dn + 2 ≤ 2^64 (sizes are mp_size_t; the accumulated
    truncation error is below (dn+1)·B^(dn-1), which has to stay below D ≥ B^dn/2).
    The nn-dn quotient limbs q and the returned high limb qh satisfy qh·B^(nn-dn) + q ∈ {⌊N/D⌋, ⌊N/D⌋ + 1}; qh is 0 or 1.
    Covers every path: the cut of the divisor to qn+1 limbs, initial compare/subtract, the exact first loop (3/2 estimate,
    borrow out of submul_1/sub_333, add-back, the cy == d1 && n1 == d0 branch with cy2), the truncating loop with its
    "truncation ruins normalisation" exits through __divappr_helper (remaining limbs all ones), the q = B-1 steps, and
    the three-way code of the last limb. -/
theorem sb_divappr_q_contract (n d : List Nat) (dinv : Nat) (hdn : 3 ≤ d.length) (hnn : d.length < n.length)
    (hnorm : B / 2 ≤ d.getD (d.length - 1) 0) (hn : Limbs n) (hd : Limbs d)
    (hdinv : dinv = invert_pi1 (d.getD (d.length - 1) 0) (d.getD (d.length - 2) 0))
    (hsize : 2 * d.length + 2 ≤ B) :
    let (q, _, qh) := sb_divappr_q n d dinv
    q.length = n.length - d.length ∧ Limbs q ∧ qh ≤ 1 ∧
      (qh * B ^ (n.length - d.length) + val q = val n / val d ∨
       qh * B ^ (n.length - d.length) + val q = val n / val d + 1) := by
  obtain ⟨q, r3, qh, e, h⟩ := sb_divappr_q_spec n d dinv hdn hnn hnorm hn hd hdinv hsize
  rw [e]; exact h

/-- the predicate `DivZ.divapprOk` with which the driver judges the real mpn_sb_divappr_q (predicate op `mpn_sb_divappr_q`)
    holds of the limb-level model: on the domain of the function the model can never be rejected by it -/
theorem sb_divappr_q_ok (n d : List Nat) (dinv : Nat) (hdn : 3 ≤ d.length) (hnn : d.length < n.length)
    (hnorm : B / 2 ≤ d.getD (d.length - 1) 0) (hn : Limbs n) (hd : Limbs d)
    (hdinv : dinv = invert_pi1 (d.getD (d.length - 1) 0) (d.getD (d.length - 2) 0))
    (hsize : 2 * d.length + 2 ≤ B) :
    DivZ.divapprOk n d (sb_divappr_q n d dinv).1 (sb_divappr_q n d dinv).2.2 = true := by
  obtain ⟨q, r3, qh, e, hl, _, _, h⟩ := sb_divappr_q_spec n d dinv hdn hnn hnorm hn hd hdinv hsize
  rw [e]
  exact (SbDiv.divapprOk_iff n d q qh).mpr ⟨hl, h⟩

/-- the `else if (np[1] >= d0)` arm of the last limb's code (sb_divappr_q.c:208-221) is dead: it is entered only when
    cy ≥ d1 and not (cy > d1 or (cy == d1 and np[1] ≥ d0)), which forces np[1] < d0 -/
theorem daFinal_dead (d1 d0 n1 cy : Nat) (h1 : cy ≥ d1) (h2 : ¬ (cy > d1 ∨ (cy = d1 ∧ n1 ≥ d0))) : ¬ n1 ≥ d0 := by
  omega

/-! Non-vacuity (values cross-checked with the real function by the directed ops of tools/props/c02_sbq.py). -/

-- the quotient is one too large: ⌊N/D⌋ = 0x12, returned 0x13 (dn is cut to qn+1 = 2 limbs, the ignored low limb of D is B-1)
example : sb_divappr_q [0xffffffffffffffff, 1, 0x8000000000000000, 9] [0xffffffffffffffff, 0, 0x8000000000000000]
      (invert_pi1 0x8000000000000000 0) = ([0x13], [1, 0, 0], 0) ∧
    val [0xffffffffffffffff, 1, 0x8000000000000000, 9] / val [0xffffffffffffffff, 0, 0x8000000000000000] = 0x12 := by
  decide

-- add-back in the truncating loop, then "truncation ruins normalisation" at the last limb: q0 = B-1 through __divappr_helper; exact
example : sb_divappr_q [9, 0x13, 0x1c, 0, 2] [5, 7, 0x8000000000000000] (invert_pi1 0x8000000000000000 7)
      = ([0xffffffffffffffff, 3], [0xb, 0x8000000000000000, 0], 0) ∧
    val [9, 0x13, 0x1c, 0, 2] / val [5, 7, 0x8000000000000000] = 3 * B + (B - 1) := by
  decide

-- saturation inside the truncating loop (two limbs set to B-1 at once), dn = 4
example : sb_divappr_q [9, 9, 0x13, 0x18, 0x1c, 0, 2] [5, 6, 7, 0x8000000000000000] (invert_pi1 0x8000000000000000 7)
      = ([0xffffffffffffffff, 0xffffffffffffffff, 3], [0x11, 0x8000000000000000, 0], 0) := by
  decide

-- add-back in the first (exact) loop, nn - dn = dn
example : sb_divappr_q [0x8000000000000000, 0, 0x8000000000000000, 0, 0, 9] [0xffffffffffffffff, 0, 0x8000000000000000]
      (invert_pi1 0x8000000000000000 0) = ([0xffffffffffffffdd, 0xffffffffffffffff, 0x11], [0xffffffffffffffff, 0x12, 0], 0) := by
  decide

-- the q = B-1 step of the truncating loop (cy == d1, n1 ≥ d0) and qh = 0
example : sb_divappr_q [3, 0xfffffffffffffffe, 0x8000000000000000, 1, 0x8000000000000000] [0xffffffffffffffff, 1, 0x8000000000000000]
      (invert_pi1 0x8000000000000000 1) = ([0xffffffffffffffff, 0xffffffffffffffff], [0xfffffffffffffffe, 2, 0], 0) := by
  decide

-- qh = 1 with an add-back in the truncating loop
example : sb_divappr_q [9, 0, 2, 2, 0xfffffffffffffffe] [5, 1, 0x8000000000000000] (invert_pi1 0x8000000000000000 1)
      = ([0xffffffffffffffff, 0xfffffffffffffffb], [0x1a, 0x7ffffffffffffffc, 0], 1) := by
  decide

/-! ## mpn_sb_div_q -/

/-- mpn_sb_div_q (qp, np, nn, dp, dn, dinv), sb_div_q.c:36-301.  Preconditions = the C's ASSERTs (dn > 2, nn ≥ dn, high bit of
    dp[dn-1] set), dinv = mpir_invert_pi1 (dp[dn-1], dp[dn-2]), and 2·dn + 2 ≤ 2^64 (sizes are mp_size_t; the test
    `n1 < dn` at :202 is sound only while the ignored parts stay below dn·B^(dn-1) ≤ D).
    The model returns `some` (no ASSERT_ALWAYS of the C can fire), the nn-dn quotient limbs q and qh ∈ {0,1} with
    qh·B^(nn-dn) + q = ⌊N/D⌋ exactly.  Covers every path: the cut of the divisor to qn+1 limbs, the exact first loop, the
    truncating loop (ordinary 3/2 steps with add-back; the q = B-1 steps with exact / add-back / `flag = 0` outcome,
    after which every limb is B-1 and the fix-up is skipped), the last limb, the test `n1 < dn`, and the fix-up code:
    triangularization compensation with its early exit, compensation for the ignored divisor and dividend tails (qh·D_low
    and q·D_low) with their three exits and the borrow into qh. -/
theorem sb_div_q_exact (n d : List Nat) (dinv : Nat) (hdn : 3 ≤ d.length) (hnn : d.length ≤ n.length)
    (hnorm : B / 2 ≤ d.getD (d.length - 1) 0) (hn : Limbs n) (hd : Limbs d)
    (hdinv : dinv = invert_pi1 (d.getD (d.length - 1) 0) (d.getD (d.length - 2) 0))
    (hsize : 2 * d.length + 2 ≤ B) :
    ∃ q qh, sb_div_q n d dinv = some (q, qh) ∧ q.length = n.length - d.length ∧ Limbs q ∧ qh ≤ 1 ∧
      qh * B ^ (n.length - d.length) + val q = val n / val d := by
  rcases Nat.lt_or_ge d.length n.length with h | h
  · exact sb_div_q_spec n d dinv hdn h hnorm hn hd hdinv hsize
  · have hl : n.length = d.length := by omega
    obtain ⟨qh, e, hqh, hv⟩ := sb_div_q_spec0 n d dinv hdn hl hnorm hn hd
    refine ⟨[], qh, e, by simp [hl], Limbs_nil, hqh, ?_⟩
    rw [hl, Nat.sub_self, pow_zero, Nat.mul_one, val_nil, Nat.add_zero]; exact hv

/-! Non-vacuity (values cross-checked with the real function by the directed ops of tools/props/c02_sbq.py). -/

-- fix-up, "ignored tails" part: the borrow of qh·D_low with x = 0 decrements B^1 + 0 to 0·B + (B-1)
example : sb_div_q [0xffffffffffffffff, 4, 0, 0, 0x8000000000000001] [5, 0, 0, 0x8000000000000001]
      (invert_pi1 0x8000000000000001 0) = some ([0xffffffffffffffff], 0) ∧
    val [0xffffffffffffffff, 4, 0, 0, 0x8000000000000001] / val [5, 0, 0, 0x8000000000000001] = B - 1 := by
  decide

-- q = B-1 steps with exact borrow (n1 == cy), truncating loop
example : sb_div_q [0xfffffffffffffffc, 0, 0x8000000000000003, 0xfffffffffffffffe, 0x8000000000000001]
      [5, 0xffffffffffffffff, 0x8000000000000001] (invert_pi1 0x8000000000000001 0xffffffffffffffff)
    = some ([0xffffffffffffffff, 0xffffffffffffffff], 0) := by
  decide

-- q = B-1 step with add-back (q = B-2) in the truncating loop, first loop before it
example : sb_div_q [0xffffffffffffffff, 9, 0xfffffffffffffffe, 9, 3, 2] [5, 0xffffffffffffffff, 0x8000000000000000]
      (invert_pi1 0x8000000000000000 0xffffffffffffffff) = some ([0x1f, 0xfffffffffffffffe, 3], 0) := by
  decide

-- fix-up: early exit of the triangularization loop (quotient B^2 + 1 decremented to B^2)
example : sb_div_q [0xffffffffffffffff, 0, 5, 0x8000000000000002, 5, 0x8000000000000001] [0, 1, 5, 0x8000000000000001]
      (invert_pi1 0x8000000000000001 5) = some ([0, 0], 1) := by
  decide

-- fix-up: exit of the tail loop (q·D_low borrows with x = 0)
example : sb_div_q [0xfffffffffffffffe, 4, 6, 0x8000000000000001, 0x8000000000000001] [0xffffffffffffffff, 5, 0, 0x8000000000000001]
      (invert_pi1 0x8000000000000001 0) = some ([0], 1) := by
  decide

-- `flag = 0`: the window exceeds (B-1)·d by B^len, all remaining limbs B-1, no fix-up
example : sb_div_q [0xffffffffffffffff, 0xffffffffffffffff, 4, 0xffffffffffffffff, 0xffffffffffffffff]
      [5, 0xffffffffffffffff, 0xffffffffffffffff] (invert_pi1 0xffffffffffffffff 0xffffffffffffffff)
    = some ([0xffffffffffffffff, 0xffffffffffffffff], 0) := by
  decide

-- nn = dn: qh decided by the fix-up alone (N = D - 1 gives 0, N = D gives 1)
example : sb_div_q [4, 7, 0x8000000000000000] [5, 7, 0x8000000000000000] (invert_pi1 0x8000000000000000 7) = some ([], 0) ∧
    sb_div_q [5, 7, 0x8000000000000000] [5, 7, 0x8000000000000000] (invert_pi1 0x8000000000000000 7) = some ([], 1) := by
  decide

end Mpir.SbDivQ
