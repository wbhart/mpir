/-
  C01 (combining loops of mpn_mul) — the way mpn_mul (/repo/mpn/generic/mul.c) COMBINES partial products gives u·v.
  Property theorems only; the lemmas are in MpirProofs/Lemmas/MulLoops.lean, the models in Mpir/Model/MulLoops.lean
  (limb level: `mul_basecase`, `add_n`, `add_1`/`incr` of Mpir/Model/Kernels.lean; run against the real mpn_mul on every
  check through the ops `mpn_mul_chunkmodel` and `mpn_mul_model`).

  (A) chunk loop, mul.c:108-137          `chunk_addback_safe`, `chunk_prefix_exact`, `mul_chunked_basecase_exact`
  (B) slide loop, mul.c:210-277          `slide_accum_exact`, `mul_slide_loop_exact`, `basecase_is_MulNExact`
  (C) mpn_mul over the GENERATED skeleton `mpn_mul_n_model_exact`, `mpn_mul_val_partial2`
-/
import MpirProofs.Lemmas.MulLoops

namespace Mpir.MulLoops
open Mpir Mpir.Skel Mpir.Gen Mpir.MulDispatch

/-! ### (A) the long-by-short schoolbook path -/

/-- THE `/* safe? */` OF mul.c:121 AND :137 — yes.  For EVERY chunk `c` of at least one limb, every `v` of at least
    one limb and EVERY content of the saved triangle `tp` (vn limbs), in either operand order of the
    mpn_mul_basecase call (:119/:129 and :134), `cy = mpn_add_n (prodp, prodp, tp, vn); mpn_incr_u (prodp + vn, cy)`
    stops inside the |c| + vn limbs of the chunk product (the model answers `none` otherwise), which then hold
    c·v + tp exactly.  Reason: c·v + tp ≤ (B^|c| − 1)(B^vn − 1) + B^vn − 1 = B^(|c|+vn) − B^|c|. -/
theorem chunk_addback_safe (c v tp : List Nat) (hc : Limbs c) (hv : Limbs v) (ht : Limbs tp)
    (hc1 : 1 ≤ c.length) (hv1 : 1 ≤ v.length) (htl : tp.length = v.length) :
    (∃ r, addBack (mul_basecase c v) tp = some r ∧ val r = val c * val v + val tp ∧ Limbs r ∧
      r.length = c.length + v.length) ∧
    (∃ r, addBack (mul_basecase v c) tp = some r ∧ val r = val c * val v + val tp ∧ Limbs r ∧
      r.length = c.length + v.length) :=
  ⟨addBack_chunk c v tp hc hv ht hc1 hv1 htl, addBack_chunk_swapped c v tp hc hv ht hc1 htl⟩

-- non-vacuity: the carry out of the low limb meets two all-ones limbs and ripples into the top limb
example : addBack (mul_basecase [1, 1, 1] [B - 1]) [B - 2] = some [B - 3, 0, 0, 1] := by decide +kernel
-- the model does refuse a carry that leaves the product (a product that is not a product: all ones)
example : addBack [B - 1, B - 1, B - 1] [1] = none := by decide +kernel

/-- After EVERY chunk (k = 0, 1, …, as long as more than M limbs of u are left, i.e. at every head of the loop
    mul.c:117) the limbs below `prodp` together with the saved triangle are exactly (low (k+1)·M limbs of u)·v:
    no mpn_incr_u left its chunk on the way (`chunkAfter … = some`), and nothing was lost. -/
theorem chunk_prefix_exact (M : Nat) (hM : 1 ≤ M) (u v : List Nat) (hu : Limbs u) (hv : Limbs v) (hv1 : 1 ≤ v.length)
    (k : Nat) (hk : (k + 1) * M < u.length) :
    ∃ s, chunkAfter M u v k = some s ∧ s.done.length = (k + 1) * M ∧ s.tp.length = v.length ∧
      s.up = u.drop ((k + 1) * M) ∧
      val s.done + B ^ ((k + 1) * M) * val s.tp = val (u.take ((k + 1) * M)) * val v := by
  obtain ⟨s, h1, h2, h3⟩ := chunkAfter_inv M hM u v hu hv hv1 k hk
  exact ⟨s, h1, h3, h2.tp_len, h3 ▸ h2.up_eq, h3 ▸ h2.value⟩

example : ∃ s, chunkAfter 2 [1, 2, 3, 4, 5, 6, 7] [B - 1, 9] 1 = some s ∧ s.done.length = 4 ∧ s.tp.length = 2 ∧
    s.up = [5, 6, 7] ∧ val s.done + B ^ 4 * val s.tp = val [1, 2, 3, 4] * val [B - 1, 9] :=
  chunk_prefix_exact 2 (by decide) _ _ (by decide) (by decide) (by decide) 1 (by decide)

/-- mul.c:80-138 (`vn < MUL_KARATSUBA_THRESHOLD`, `un > MUL_BASECASE_MAX_UN`): for EVERY chunk size M ≥ 1, all
    un > M (any number of chunks, any size 1 … M of the last piece, including the swapped call :134 when it is not
    longer than v), all vn ≥ 1 and ALL limb contents, the limb-level model — mpn_mul_basecase per chunk, MPN_COPY
    of the high triangle, mpn_add_n + mpn_incr_u to add it back — terminates without any mpn_incr_u leaving its
    chunk product and stores exactly the un + vn limbs of u·v.
    (The C additionally has vn < MUL_KARATSUBA_THRESHOLD ≤ M + 1, which makes tp[] large enough and the chunk the
    longer operand — `mul_dispatch_safe`; the value argument does not need it.) -/
theorem mul_chunked_basecase_exact (M : Nat) (hM : 1 ≤ M) (u v : List Nat) (hu : Limbs u) (hv : Limbs v)
    (hv1 : 1 ≤ v.length) (hun : M < u.length) :
    mulChunked M u v = some (toLimbs (u.length + v.length) (val u * val v)) :=
  (mulChunked_exact M hM u v hu hv hv1 hun).eq

-- non-vacuity: three chunks of two limbs and a last piece of one limb (the swapped call), all ones
example : mulChunked 2 [B - 1, B - 1, B - 1, B - 1, B - 1, B - 1, B - 1] [B - 1, B - 1]
    = some (toLimbs 9 (val [B - 1, B - 1, B - 1, B - 1, B - 1, B - 1, B - 1] * val [B - 1, B - 1])) :=
  mul_chunked_basecase_exact 2 (by decide) _ _ (by decide) (by decide) (by decide) (by decide)
example : mulChunked 2 [B - 1, B - 1, B - 1, B - 1, B - 1, B - 1, B - 1] [B - 1, B - 1]
    = some [1, 0, B - 1, B - 1, B - 1, B - 1, B - 1, B - 2, B - 1] := by decide +kernel
example : mulChunked 2 [1, 2] [3] = none := by decide +kernel             -- un ≤ M: not this path (mul.c:80)

/-! ### (B) the slide loop -/

/-- One accumulation of the slide loop (mul.c:235-248, and :263-273 for the last piece): in all three branches
    (l < m, l = m, l > m) the window together with the pending carry `t` (weight B^l before, B^max(l,m) after) grows by
    exactly the m-limb product added — provided `t += carry` does not wrap, i.e. t ≤ B − 2. -/
theorem slide_accum_exact (w ws : List Nat) (t : Nat) (hw : Limbs w) (hws : Limbs ws) (ht : t + 1 < B) :
    val (accum w ws t).1 + B ^ (accum w ws t).1.length * (accum w ws t).2 = val w + B ^ w.length * t + val ws ∧
    (accum w ws t).1.length = max w.length ws.length ∧ Limbs (accum w ws t).1 :=
  accum_spec w ws t hw hws ht

example : accum [B - 1, B - 1, 5] [1, 0] 1 = ([0, 0, 6], 1) := by decide +kernel          -- l > m: carry c ripples, t stays
example : accum [B - 1] [1, B - 1, B - 1] 1 = ([0, 1, 0], 1) := by decide +kernel         -- l < m: t and the carry are added at ws + l

/-- mul.c:210-277 for very unbalanced operands (reached with un > vn ≥ MUL_KARATSUBA_THRESHOLD = kt): for EVERY
    callee `mulN` that returns the exact 2n-limb product on n-limb operands, kt ≤ n ≤ vn (`MulNExact`: that is what
    mpn_mul_n is assumed to do; `mpn_mul_n_model_exact` discharges it for basecase/Karatsuba/Toom-3/Toom-4 sizes),
    all sizes and ALL limb contents, the limb-level model of the loop — mpn_mul_n on vn-limb pieces, mpn_add_n /
    mpn_add_1 into the sliding window with the bookkeeping of `l` and `t`, MPN_SRCPTR_SWAP whenever the rest of u is
    shorter than v (any number of swaps: the sizes follow a subtractive Euclidean scheme), last piece by
    mpn_mul_basecase, final `t` dropped (:276) — stores exactly the un + vn limbs of u·v.
    Proved on the way (`SlideInv`): at every loop head vn ≤ l ≤ un and w + t·B^l < B^l + B^vn, hence t ≤ 1 — the
    `t += …` of :237/:247 never wraps, no carry is ever lost, and the dropped final `t` is 0. -/
theorem mul_slide_loop_exact (kt : Nat) (hkt : 1 ≤ kt) (mulN : List Nat → List Nat → Option (List Nat))
    (u v : List Nat) (hu : Limbs u) (hv : Limbs v) (hvk : kt ≤ v.length) (huv : v.length < u.length)
    (hmul : MulNExact kt v.length mulN) :
    mulSlide kt mulN u v = some (toLimbs (u.length + v.length) (val u * val v)) :=
  (mulSlide_exact kt hkt mulN u v hu hv hvk huv hmul).eq

/-- non-vacuity of the oracle assumption: the limb-level basecase is such a callee, for all sizes -/
theorem basecase_is_MulNExact (kt N : Nat) (hkt : 1 ≤ kt) : MulNExact kt N (fun a b => some (mul_basecase a b)) := by
  intro a b ha hb hl h1 _
  obtain ⟨pv, pL, pn⟩ := mul_basecase_val' a b ha hb (by omega)
  exact ⟨_, rfl, pv, pL, by omega⟩

-- 7 × 3 limbs with threshold 2: pieces of 3, 3, then a swap (1 < 3): 3 × 1 with vn = 1 < kt by the basecase
example : mulSlide 2 (fun a b => some (mul_basecase a b)) [B - 1, B - 1, B - 1, B - 1, B - 1, B - 1, B - 1] [B - 1, B - 1, B - 1]
    = some (toLimbs 10 (val [B - 1, B - 1, B - 1, B - 1, B - 1, B - 1, B - 1] * val [B - 1, B - 1, B - 1])) :=
  mul_slide_loop_exact 2 (by decide) _ _ _ (by decide) (by decide) (by decide) (by decide)
    (basecase_is_MulNExact 2 3 (by decide))
example : mulSlide 2 (fun a b => some (mul_basecase a b)) [B - 1, B - 1, B - 1, B - 1, B - 1, B - 1, B - 1] [B - 1, B - 1, B - 1]
    = some [1, 0, 0, B - 1, B - 1, B - 1, B - 1, B - 2, B - 1, B - 1] := by decide +kernel
-- a callee that is wrong in one limb makes the model wrong too (the theorem is not true "for free")
example : mulSlide 2 (fun a b => some ((mul_basecase a b).set 0 7)) [1, 2, 3, 4, 5] [6, 7]
    ≠ some (toLimbs 7 (val [1, 2, 3, 4, 5] * val [6, 7])) := by decide +kernel

/-! ### (C) composition over the generated skeleton -/

/-- mpn_mul_n (rp, a, b, n), a ≠ b, modelled over the GENERATED skeleton of mul_n.c:282-330: at every size n ≥ 1 whose
    skeleton trace makes one product call, to mpn_mul_basecase (limb-level model) or to Karatsuba / Toom-3 / Toom-4
    (value-level models, `callValue`), the model returns the exact 2n limbs.  Uses `mul_n_dispatch_safe` (the call is
    inside its callee's domain) and `mpn_mul_val_partial` (such a call returns the exact product). -/
theorem mpn_mul_n_model_exact (P : Params) (hP : Valid P) (a b : List Nat) (ha : Limbs a) (hb : Limbs b)
    (hl : a.length = b.length) (h1 : 1 ≤ a.length) (hc : coveredN P a.length = true) :
    mulNModel P a b = some (toLimbs (2 * a.length) (val a * val b)) :=
  (mulNModel_exact P hP a b ha hb hl h1 hc).eq

example : coveredN params 16 = true ∧ coveredN params 17 = true ∧ coveredN params 100 = true
    ∧ coveredN params 237 = true ∧ coveredN params 238 = false := by decide +kernel

/-- PARTIAL composition, second step (full statement: "for all un ≥ vn ≥ 1 the limbs mpn_mul stores are
    toLimbs (un+vn) (u·v)").
    Proved: for EVERY parameter record satisfying `Valid`, all operands u, v (distinct objects) with un ≥ vn ≥ 1 and
    `covered P un vn` — i.e. the trace of the GENERATED skeleton of mpn_mul for (un, vn) consists of
      * one mpn_mul_basecase call (mul.c:81), or the chunk loop of mpn_mul_basecase calls (:112-137), or
      * one call to mpn_mul_n (:73) / mpn_toom4_mul / mpn_toom53_mul / mpn_toom42_mul / mpn_toom3_mul / mpn_toom32_mul
        whose selected algorithm has a value-level model, or
      * the slide loop (:210-277) with every mpn_mul_n size it can use (MUL_KARATSUBA_THRESHOLD ≤ n ≤ vn) selecting
        basecase / Karatsuba / Toom-3 / Toom-4 —
    the model of mpn_mul (`mpnMulModel`: the combining loops at limb level, leaf products by the limb-level
    basecase, Karatsuba/Toom calls by their value-level models) returns exactly toLimbs (un+vn) (val u · val v).
    This closes the gap "chunk/slide loop accumulation" of `mpn_mul_val_partial`.
    STILL ASSUMED / not covered (the model answers `none` there, `covered` is false): mpn_toom8h_mul (mul.c:157 and
    inside mpn_mul_n for n ≥ MUL_TOOM8H_THRESHOLD), mpn_mul_fft_main (mul.c:145 and inside mpn_mul_n), the squaring
    path up == vp (mpn_sqr, :68); and, inside the covered callees, the limb-level carry/buffer bookkeeping of
    Karatsuba/Toom (their models are value level: evaluation/interpolation sequences over ℤ). -/
theorem mpn_mul_val_partial2 (P : Params) (hP : Valid P) (u v : List Nat) (hu : Limbs u) (hv : Limbs v)
    (hv1 : 1 ≤ v.length) (huv : v.length ≤ u.length) (hc : covered P u.length v.length = true) :
    mpnMulModel P u v = some (toLimbs (u.length + v.length) (val u * val v)) :=
  (mpnMulModel_exact P hP u v hu hv hv1 huv hc).eq

-- non-vacuity with the tree's own parameters: chunk loop (3 and 6 products), slide loop without and with swaps,
-- single Toom calls, balanced sizes; and the sizes that stay uncovered
example : covered params 1300 7 = true ∧ covered params 2501 16 = true ∧ covered params 501 1 = true := by decide +kernel
example : covered params 200 20 = true ∧ covered params 213 20 = true := by decide +kernel
set_option maxRecDepth 8000 in
example : covered params 1000 237 = true := by decide +kernel
example : covered params 200 60 = true ∧ covered params 200 180 = true ∧ covered params 100 100 = true
    ∧ covered params 30 5 = true := by decide +kernel
example : covered params 1000 238 = false ∧ covered params 300 300 = false ∧ covered params 4000 3000 = false := by decide +kernel
example (u v : List Nat) (hu : Limbs u) (hv : Limbs v) (h1 : u.length = 213) (h2 : v.length = 20) :
    mpnMulModel params u v = some (toLimbs 233 (val u * val v)) := by
  have := mpn_mul_val_partial2 params params_valid u v hu hv (by omega) (by omega) (by rw [h1, h2]; decide +kernel)
  rwa [h1, h2] at this

end Mpir.MulLoops
