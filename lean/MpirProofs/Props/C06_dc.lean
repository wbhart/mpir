/-
  C06 — radix conversion, the divide-and-conquer conversions and the stream functions.
  Property theorems only; helper lemmas live in MpirProofs/Lemmas/RadixDc*.lean and RadixIo.lean.
  The models are in Mpir/Model/RadixDc.lean (dc conversions, power tables; run against the real
  mpn_get_str / mpn_set_str / mpn_set_str_compute_powtab on every check) and Mpir/Model/Radix.lean (streams).
  Every threshold is a parameter of the models; the theorems hold for all thresholds at or above the minima
  of tune/tuneup.c (GET_STR_DC_THRESHOLD ≥ 4, SET_STR_DC_THRESHOLD ≥ 100 ≤ SET_STR_PRECOMPUTE_THRESHOLD).
-/
import MpirProofs.Lemmas.RadixTab
import MpirProofs.Lemmas.RadixDc
import MpirProofs.Lemmas.RadixDcSet
import MpirProofs.Lemmas.RadixIo
namespace Mpir.RadixDc
open Mpir Mpir.Radix

/-- Per-base facts used by the dc theorems, for every base 3..62 that is not a power of two (small numbers,
    kernel-checked): the regenerated `chars_per_bit_exactly` is at least `(u2/v2)(1 - 2^-38)` for the upper
    Farey neighbour `u2/v2 > log_b 2` of the sizeinbase certificate and `64·u2 ≥ chars_per_limb·v2` (`XnOk`:
    the power table of mpn_get_str is large enough); `big_base & -big_base` is a power of two dividing big_base
    and B with an odd cofactor coprime to B (`SetBaseOk`: the strip loop of mpn_set_str_compute_powtab keeps
    every power divisible by big_base). -/
theorem dc_tables_ok : ∀ b < 63, 2 ≤ b → pow2P b = false → XnOk b ∧ SetBaseOk b := by decide +kernel

example : lowBit (bigBase 10) = 2 ^ 19 ∧ bigBase 10 / lowBit (bigBase 10) = 5 ^ 19 := by decide +kernel

/-- The thresholds of the build (regenerated from gmp-mparam.h / gmp-impl.h on every check) respect the
    minima the theorems below need. -/
theorem dc_thresholds_ok : 4 ≤ Gen.getStrDcThreshold ∧ 100 ≤ Gen.setStrDcThreshold ∧
    Gen.setStrDcThreshold ≤ Gen.setStrPrecomputeThreshold := by decide

/-- The table of powers mpn_get_str builds (get_str.c:403-498: exptab by repeated rounded-up halving of `xn`,
    squarings with the optional multiplication by big_base, the final multiplication of entries 1.., low zero
    limbs stripped into `shift`), for every base 3..62 that is not a power of two and EVERY size un: entry `i`
    is exactly `big_base^e_i`, `e = 1 :: [exptab[n_pows-1], …, exptab[1]]` (`getExps`), stored as
    `val p · B^shift` with `p` normalised, and `digits_in_base = chars_per_limb · e_i`. -/
theorem powtab_ok (b : Nat) (hb : 2 ≤ b) (hb62 : b ≤ 62) (hnp : pow2P b = false) (un : Nat) :
    List.Forall₂ (fun pw e => val pw.p * B ^ pw.shift = bigBase b ^ e ∧ pw.dib = charsPerLimb b * e ∧
        Limbs pw.p ∧ pw.p ≠ [] ∧ pw.p.getLast! ≠ 0)
      (getPowtab b un) (getExps (xnOf b un)) := by
  have hok := (bases_table_ok.1 b (by omega) hb).1 hnp
  have h := getPowtabX_ok (cpl := charsPerLimb b) hb hok.2.1 (xnOf b un)
  unfold getPowtab
  rw [hok.1]
  exact h.imp (fun {pw e} h => ⟨h.value, h.dib, h.limbs, h.ne, h.top⟩)

-- non-vacuity: base 10, 16 limbs: xn = 17, exptab = 17, 9, 5, 3, 2, (1): powers big_base^1,2,3,5,9
example : xnOf 10 16 = 17 ∧ getExps 17 = [1, 2, 3, 5, 9] ∧
    (getPowtab 10 16).map (fun pw => (pw.p.length, pw.shift, pw.dib)) =
      [(1, 0, 19), (2, 0, 38), (3, 0, 57), (4, 1, 95), (7, 2, 171)] := by decide +kernel

/-- The table mpn_set_str_compute_powtab builds (set_str.c:127: squarings from the top index down, exact
    division by big_base when bit `pi+1` of `un-1` is clear, low zero limbs stripped while the rest stays
    divisible by big_base), for every base 3..62 that is not a power of two and every un ≥ 2: entry `pi`,
    `pi = 0 … ⌊log2 (un-1)⌋`, is exactly `big_base^(((un-1) >> (pi+1)) + 1)` — in particular the exact
    divisions are exact — with `digits_in_base = chars_per_limb` times that exponent. -/
theorem set_powtab_ok (b : Nat) (hb : 2 ≤ b) (hb62 : b ≤ 62) (hnp : pow2P b = false) (un : Nat) (hun : 2 ≤ un) :
    List.Forall₂ (fun pw e => val pw.p * B ^ pw.shift = bigBase b ^ e ∧ pw.dib = charsPerLimb b * e ∧
        Limbs pw.p ∧ pw.p ≠ [] ∧ pw.p.getLast! ≠ 0)
      (setPowtab b un) ((List.range (Nat.log2 (un - 1) + 1)).map (fun pi => ((un - 1) >>> (pi + 1)) + 1)) := by
  have hok := (bases_table_ok.1 b (by omega) hb).1 hnp
  rw [List.range_eq_range']
  exact (GetTabOk.forall₂ _ _ (setPowtab_ok hb hok (dc_tables_ok b (by omega) hb hnp).2 un hun)).imp
    (fun {pw e} h => ⟨hok.1 ▸ h.value, h.dib, h.limbs, h.ne, h.top⟩)

example : (setPowtab 10 106).map (fun pw => (pw.p.length, pw.shift, pw.dib)) =
    [(38, 15, 1007), (20, 7, 513), (11, 3, 266), (6, 1, 133), (4, 0, 76), (2, 0, 38), (1, 0, 19)] ∧
    (List.range (Nat.log2 105 + 1)).map (fun pi => (105 >>> (pi + 1)) + 1) = [53, 27, 14, 7, 4, 2, 1] := by
  decide +kernel

/-- mpn_dc_get_str, for every base 3..62 that is not a power of two, every GET_STR_DC_THRESHOLD ≥ 3 and every
    table of exact powers (`GetTabOk`: current entry first, entry 0 = big_base, each exponent at most twice the
    next lower one — what `powtab_ok` establishes for the table of mpn_get_str): for every operand {up, un}
    (high zero limbs allowed) within the capacity of the current entry, `u < P²·B^(T-3)` and
    `un ≤ 2(n + shift) + T - 3`, with LEN = 0 and a normalised operand, or LEN ≠ 0, `u < b^LEN` and
    `B^(un-1) ≤ b^LEN`: the recursion never leaves the table (`powtab - 1` below entry 0) and writes exactly
    the digits of `u` — without leading zeros for LEN = 0, zero-padded to exactly LEN digits otherwise
    (uniqueness of the base-b representation: `u = q·P + r`, `r < P = b^digits_in_base`). -/
theorem dc_get_str_digits (b : Nat) (hb : 2 ≤ b) (hb62 : b ≤ 62) (hnp : pow2P b = false) (T : Nat) (hT : 3 ≤ T)
    (pw : Pow) (rest : List Pow) (e : Nat) (es : List Nat)
    (htab : GetTabOk b (charsPerLimb b) (pw :: rest) (e :: es))
    (len : Nat) (u : List Nat) (hu : Limbs u)
    (hcap1 : u.length ≤ 2 * (pw.p.length + pw.shift) + (T - 3))
    (hcap2 : val u < (bigBase b ^ e) ^ 2 * B ^ (T - 3))
    (h0 : len = 0 → u ≠ [] ∧ u.getLast! ≠ 0)
    (h1 : len ≠ 0 → val u < b ^ len ∧ B ^ (u.length - 1) ≤ b ^ len) :
    dcGetStr T b (pw :: rest) len u = some (if len = 0 then digitsOf b (val u) else fixedDigits b len (val u)) := by
  have hok := (bases_table_ok.1 b (by omega) hb).1 hnp
  rw [hok.1] at hcap2
  rw [dcGetStr_pad hb (hok.cpl_pos hb62) hok.2.1 hT
    (fun u h1 h2 => sb_get_str_pad hb hb62 hok bases_table_ok.2.1 u h1 h2) rest es pw e htab len u hu hcap1 hcap2
    (fun hl => (h1 hl).1)]
  · by_cases hl : len = 0
    · rw [if_pos hl, hl, padDigits_of_le (Nat.zero_le _)]
    · rw [if_neg hl, fixedDigits_eq_pad hb (h1 hl).1]
  · rw [padDigits_length]
    by_cases hl : len = 0
    · obtain ⟨a, c⟩ := h0 hl
      exact le_trans (val_ge_of_top a c) (le_trans (Nat.le_of_lt (lt_pow_digitsOf_length hb _))
        (Nat.pow_le_pow_right (by omega) (Nat.le_max_right _ _)))
    · exact le_trans (h1 hl).2 (Nat.pow_le_pow_right (by omega) (Nat.le_max_left _ _))

-- non-vacuity: base 7 (big_base = 7^22), threshold 3, the table [big_base^2, big_base]; a 4-limb operand with a
-- long zero run in the low part, LEN = 0; and a zero remainder padded to 44 digits
example : dcGetStr 3 7 [⟨natLimbs (7 ^ 44), 0, 44⟩, ⟨[7 ^ 22], 0, 22⟩] 0 (natLimbs (5 * 7 ^ 70 + 3))
    = some (digitsOf 7 (5 * 7 ^ 70 + 3)) := by decide +kernel
example : dcGetStr 3 7 [⟨natLimbs (7 ^ 44), 0, 44⟩, ⟨[7 ^ 22], 0, 22⟩] 44 [6, 0, 0] = some (fixedDigits 7 44 6) := by
  decide +kernel

/-- mpn_dc_set_str, for every base 3..62 that is not a power of two, every SET_STR_DC_THRESHOLD above
    chars_per_limb and every table of exact powers (`GetTabOk`: current entry first, the last entry = big_base,
    each exponent at most twice the next one — what `set_powtab_ok` establishes): for every non-empty string of
    digits below the base with at most `2·digits_in_base` digits at the current entry, the recursion never
    leaves the table (`powtab + 1` above the top entry), and the limbs returned (size `hn + n + shift`, minus
    one when the top limb is zero) have exactly the value of the digit string. -/
theorem dc_set_str_val (b : Nat) (hb : 2 ≤ b) (hb62 : b ≤ 62) (hnp : pow2P b = false) (T : Nat)
    (hT : charsPerLimb b < T) (pw : Pow) (rest : List Pow) (e : Nat) (es : List Nat)
    (htab : GetTabOk b (charsPerLimb b) (pw :: rest) (e :: es))
    (str : List Nat) (hne : str ≠ []) (hd : ∀ d ∈ str, d < b) (hlen : str.length ≤ 2 * (charsPerLimb b * e)) :
    ∃ r, dcSetStr T b (pw :: rest) str = some r ∧ val r = ofDigits b str ∧ Limbs r := by
  have hok := (bases_table_ok.1 b (by omega) hb).1 hnp
  obtain ⟨r, r1, r2, r3, _⟩ := dcSetStr_ok hb (hok.cpl_pos hb62) hT
    (fun s h1 h2 => bc_set_str_full hb hb62 hok s h1 h2) rest es pw e htab str hne hd hlen
  exact ⟨r, r1, r2, r3⟩

-- non-vacuity: base 10, threshold 20, three levels; 100 zero digits and a 7: the result keeps two high zero limbs
example : dcSetStr 20 10 [⟨natLimbs (10 ^ 76), 0, 76⟩, ⟨natLimbs (10 ^ 38), 0, 38⟩, ⟨[10 ^ 19], 0, 19⟩]
    (List.replicate 100 0 ++ [7]) = some [7, 0, 0] := by decide +kernel
example : (dcSetStr 20 10 [⟨natLimbs (10 ^ 38), 0, 38⟩, ⟨[10 ^ 19], 0, 19⟩] (List.replicate 40 0 ++ List.replicate 30 7)).map val
    = some (ofDigits 10 (List.replicate 30 7)) := by decide +kernel

/- FULL STATEMENT: for every base 2..62 and every operand with a non-zero top limb, mpn_get_str writes
   exactly the digits of the operand.  It cannot be proved for unbounded sizes: the number of table entries
   comes from `xn = 1 + un·(chars_per_bit_exactly·64)/chars_per_limb` evaluated in binary64, and for
   un near 2^53 the rounding errors exceed the slack of the algorithm (GET_STR_DC_THRESHOLD - 3 limbs).  What
   is proved is the statement for operands of up to 2^36 limbs (2^42 bits, 512 GiB): -/
/-- mpn_get_str_spec (partial: un ≤ 2^36 limbs), all sizes below that bound, every base 2..62, every pair of
    thresholds with GET_STR_DC_THRESHOLD ≥ 4: power-of-two path, basecase below
    GET_STR_PRECOMPUTE_THRESHOLD, and above it the power table + mpn_dc_get_str — the model never leaves its
    table and produces exactly the digits of the operand, most significant first, without a leading zero.
    (GET_STR_DC_THRESHOLD ≤ GET_STR_PRECOMPUTE_THRESHOLD, which tuneup also enforces, is needed only for the
    size of the basecase's stack buffers, not for the value.) -/
theorem mpn_get_str_spec_partial (b : Nat) (hb : 2 ≤ b) (hb62 : b ≤ 62) (dcT preT : Nat) (hT : 4 ≤ dcT)
    (up : List Nat) (hu : Limbs up) (hne : up ≠ []) (htop : up.getLast! ≠ 0) (hsize : up.length ≤ 2 ^ 36) :
    mpn_get_str_dc dcT preT b up = some (digitsOf b (val up)) :=
  mpn_get_str_dc_of_table hb hb62
    (fun hnp => ⟨(bases_table_ok.1 b (by omega) hb).1 hnp, (dc_tables_ok b (by omega) hb hnp).1,
      (sizeinbase_table_ok b (by omega) hb hnp).2.2.1⟩)
    (bases_table_ok.1 b (by omega) hb).2 bases_table_ok.2.1 dcT preT hT up hu hne htop hsize

-- non-vacuity: thresholds 4 and 5, a 7-limb operand: three table entries, two levels of division
example : mpn_get_str_dc 4 5 10 (natLimbs (10 ^ 120 + 7)) = some (digitsOf 10 (10 ^ 120 + 7)) := by decide +kernel
example : (getPowtab 10 7).length = 3 ∧ (natLimbs (10 ^ 120 + 7)).length = 7 := by decide +kernel

/-- With the thresholds of the build: the full model of mpn_get_str agrees with the digits, hence with the
    model `Radix.mpn_get_str` (divide-and-conquer at specification level) that `mpz_get_str_spec`, `roundtrip`
    and the stream theorems are stated about. -/
theorem mpn_get_str_full_spec_partial (b : Nat) (hb : 2 ≤ b) (hb62 : b ≤ 62)
    (up : List Nat) (hu : Limbs up) (hne : up ≠ []) (htop : up.getLast! ≠ 0) (hsize : up.length ≤ 2 ^ 36) :
    mpn_get_str_full b up = some (digitsOf b (val up)) ∧ mpn_get_str_full b up = some (Radix.mpn_get_str b up) := by
  have h := mpn_get_str_spec_partial b hb hb62 _ Gen.getStrPrecomputeThreshold dc_thresholds_ok.1 up hu hne htop hsize
  refine ⟨h, ?_⟩
  rw [mpn_get_str_full, h, mpn_get_str_of_table hb hb62 (bases_table_ok.1 b (by omega) hb).1
    (bases_table_ok.1 b (by omega) hb).2 bases_table_ok.2.1 up hu hne htop]

example : mpn_get_str_full 10 (natLimbs (10 ^ 400 + 12345)) = some (digitsOf 10 (10 ^ 400 + 12345)) := by
  decide +kernel

/-- mpn_set_str_spec, ALL sizes: every base 2..62, every non-empty string of digits below the base, every pair
    of thresholds with SET_STR_DC_THRESHOLD ≥ 100 and SET_STR_PRECOMPUTE_THRESHOLD ≥ SET_STR_DC_THRESHOLD (the
    minima of tune/tuneup.c): power-of-two path, basecase below the precompute threshold, and above it
    mpn_set_str_compute_powtab + mpn_dc_set_str — the model never leaves its table and the limbs returned have
    exactly the value of the digit string (high zero limbs are possible when the string starts with zeros). -/
theorem mpn_set_str_spec (b : Nat) (hb : 2 ≤ b) (hb62 : b ≤ 62) (dcT preT : Nat) (hdc : 100 ≤ dcT) (hpre : dcT ≤ preT)
    (str : List Nat) (hne : str ≠ []) (hd : ∀ d ∈ str, d < b) :
    ∃ r, mpn_set_str_dc dcT preT b str = some r ∧ val r = ofDigits b str ∧ Limbs r :=
  mpn_set_str_dc_of_table hb hb62
    (fun hnp => ⟨(bases_table_ok.1 b (by omega) hb).1 hnp, (dc_tables_ok b (by omega) hb hnp).2⟩)
    (bases_table_ok.1 b (by omega) hb).2 dcT preT hdc hpre str hne hd

/-- With the thresholds of the build: the value agrees with `Radix.mpn_set_str` (divide-and-conquer at
    specification level), the model `mpz_set_str_eq_parse` and the stream theorems are stated about. -/
theorem mpn_set_str_full_spec (b : Nat) (hb : 2 ≤ b) (hb62 : b ≤ 62) (str : List Nat) (hne : str ≠ [])
    (hd : ∀ d ∈ str, d < b) :
    ∃ r, mpn_set_str_full b str = some r ∧ val r = ofDigits b str ∧ Limbs r ∧ val r = val (Radix.mpn_set_str b str) := by
  obtain ⟨r, r1, r2, r3⟩ := mpn_set_str_spec b hb hb62 _ _ dc_thresholds_ok.2.1 dc_thresholds_ok.2.2 str hne hd
  refine ⟨r, r1, r2, r3, ?_⟩
  rw [r2, mpn_set_str_val_of_table hb hb62 (bases_table_ok.1 b (by omega) hb).1 (bases_table_ok.1 b (by omega) hb).2
    str hne hd]

-- non-vacuity: thresholds 100 / 100, 150 decimal digits: table of 3 entries, one split, basecase below
example : (mpn_set_str_dc 100 100 10 (digitsOf 10 (10 ^ 149 + 77))).map val = some (10 ^ 149 + 77) := by
  decide +kernel

end Mpir.RadixDc

/-! ## Stream functions -/
namespace Mpir.Radix
open Mpir

/-- mpz_out_str, every legal base (2..62, -2..-36, and 0 meaning 10) and every integer: the bytes written are
    exactly `getStrSpec` — an optional `-`, then the digits of |x| in the documented alphabet, most significant
    first, no leading zero, `"0"` for zero (the same string mpz_get_str produces) — and the return value is
    the number of bytes written. -/
theorem mpz_out_str_spec (base : Int) (hb : LegalOutBase (outBase base)) (x : Int) :
    mpz_out_str base x = (getStrSpec (outBase base) x, (getStrSpec (outBase base) x).length) :=
  mpz_out_str_spec_of bases_table_ok.1 bases_table_ok.2.1 base hb x

example : mpz_out_str (-16) (-255) = ([45, 70, 70], 3) ∧ mpz_out_str 0 1234 = ([49, 50, 51, 52], 4) ∧
    outBase 0 = 10 ∧ mpz_out_str 62 0 = ([48], 1) := by decide +kernel

/-- mpz_inp_str, requested base 0 or 2..62, any byte stream `s`: it skips the leading white space, then
    consumes exactly `inpTok` of what follows — an optional `-`, for base 0 the prefix `0x`/`0X`/`0b`/`0B`/`0`,
    and the longest run of characters that are digits of the base — and pushes the next character back.
    When the first character after the sign is not a digit (a decimal digit for base 0), or the stream ends
    there, it returns 0 and stores nothing.  Otherwise the value stored is `parseSpec` of the consumed text
    (so it agrees with mpz_set_str on that text), the return value is the number of bytes consumed including
    the white space, and that is also the stream position afterwards. -/
theorem mpz_inp_str_spec (rb : Nat) (hrb : rb = 0 ∨ 2 ≤ rb) (hrb62 : rb ≤ 62) (s : List Nat) (hs : ∀ c ∈ s, c < 256) :
    match inpTok rb (s.dropWhile isSpace) with
    | none => (mpz_inp_str (rb : Int) s).ret = 0 ∧ (mpz_inp_str (rb : Int) s).value = none
    | some tok => mpz_inp_str (rb : Int) s =
          ⟨(s.takeWhile isSpace).length + tok.length, parseSpec (rb : Int) tok, (s.takeWhile isSpace).length + tok.length⟩ ∧
        (parseSpec (rb : Int) tok).isSome = true ∧ tok = (s.dropWhile isSpace).take tok.length :=
  mpz_inp_str_spec_of digit_tab_ok.2 bases_table_ok.1 rb hrb hrb62 s hs

-- non-vacuity: "  -0x1Fg" in base 0: white space 2, token "-0x1F", value -31, 7 bytes consumed, `g` pushed back;
-- "12 3" in base 10 stops at the blank; " -" and "z" in base 10 have no digits; "0x" in base 0 is 0 (2 bytes)
example : inpTok 0 ("-0x1Fg".toUTF8.toList.map (·.toNat)) = some ("-0x1F".toUTF8.toList.map (·.toNat)) ∧
    mpz_inp_str 0 ("  -0x1Fg".toUTF8.toList.map (·.toNat)) == ⟨7, some (-31), 7⟩ ∧
    mpz_inp_str 10 ("12 3".toUTF8.toList.map (·.toNat)) == ⟨2, some 12, 2⟩ ∧
    (mpz_inp_str 10 (" -".toUTF8.toList.map (·.toNat))).ret = 0 ∧
    inpTok 10 ("z".toUTF8.toList.map (·.toNat)) = none ∧
    mpz_inp_str 0 ("0xg".toUTF8.toList.map (·.toNat)) == ⟨2, some 0, 2⟩ ∧
    mpz_inp_str 0 ("089".toUTF8.toList.map (·.toNat)) == ⟨1, some 0, 1⟩ := by decide +kernel

/-- Round trip through a stream: for every legal output base, every integer and every continuation `rest` of
    the stream that does not start with a digit of that base (end of stream, white space, `/`, …), mpz_inp_str
    in base |base| reads back exactly the bytes mpz_out_str wrote — it returns their number and leaves the
    stream there — and stores exactly the same integer. -/
theorem inp_out_roundtrip (base : Int) (hb : LegalOutBase base) (x : Int) (rest : List Nat)
    (hrest : ∀ c ∈ rest, c < 256) (hnd : NoDigitAhead base.natAbs rest) :
    mpz_inp_str (base.natAbs : Int) ((mpz_out_str base x).1 ++ rest) =
      ⟨(mpz_out_str base x).2, some x, (mpz_out_str base x).2⟩ :=
  inp_out_roundtrip_of digit_tab_ok.2 bases_table_ok.1 bases_table_ok.2.1 base hb x rest hrest hnd

example : mpz_inp_str 36 ((mpz_out_str (-36) (-1295)).1 ++ [10, 55]) == ⟨3, some (-1295), 3⟩ ∧
    NoDigitAhead 36 [10, 55] := by decide +kernel
-- the hypothesis is needed: a following digit would be read as part of the number
example : mpz_inp_str 10 ((mpz_out_str 10 12).1 ++ [55]) == ⟨3, some 127, 3⟩ := by decide +kernel

/-- mpq_out_str, every legal base and every numerator/denominator pair: numerator, then `/` and the
    denominator unless the denominator is 1, each part written like mpz_out_str; return value = bytes written. -/
theorem mpq_out_str_spec (base : Int) (hb : LegalOutBase (outBase base)) (n d : Int) :
    mpq_out_str base n d =
      (if d = 1 then getStrSpec (outBase base) n else getStrSpec (outBase base) n ++ [47] ++ getStrSpec (outBase base) d,
       (if d = 1 then getStrSpec (outBase base) n
        else getStrSpec (outBase base) n ++ [47] ++ getStrSpec (outBase base) d).length) :=
  mpq_out_str_spec_of bases_table_ok.1 bases_table_ok.2.1 base hb n d

example : mpq_out_str 10 (-3) 4 = ([45, 51, 47, 52], 4) ∧ mpq_out_str 16 255 1 = ([102, 102], 2) := by decide +kernel

/-- mpq_inp_str, requested base 0 or 2..62, any byte stream: the numerator is read exactly like mpz_inp_str
    (white space, token, `parseSpec` value); if the next character is `/` the denominator token follows
    immediately (no white space is skipped) and is read the same way, otherwise the denominator is 1 and that
    character is pushed back.  The two parts are stored exactly as read — nothing is canonicalised, which is
    why the manual requires the caller to call mpq_canonicalize.  The return value is the number of bytes
    consumed, and 0 (nothing stored) when either part has no digit. -/
theorem mpq_inp_str_spec (rb : Nat) (hrb : rb = 0 ∨ 2 ≤ rb) (hrb62 : rb ≤ 62) (s : List Nat) (hs : ∀ c ∈ s, c < 256) :
    match inpTok rb (s.dropWhile isSpace) with
    | none => (mpq_inp_str (rb : Int) s).1 = 0 ∧ (mpq_inp_str (rb : Int) s).2.1 = none
    | some tn =>
      ∃ vn, parseSpec (rb : Int) tn = some vn ∧
      if s[(s.takeWhile isSpace).length + tn.length]? = some 47 then
        match inpTok rb (s.drop ((s.takeWhile isSpace).length + tn.length + 1)) with
        | none => (mpq_inp_str (rb : Int) s).1 = 0 ∧ (mpq_inp_str (rb : Int) s).2.1 = none
        | some td => ∃ vd, parseSpec (rb : Int) td = some vd ∧
            td = (s.drop ((s.takeWhile isSpace).length + tn.length + 1)).take td.length ∧
            mpq_inp_str (rb : Int) s =
              ((s.takeWhile isSpace).length + tn.length + 1 + td.length, some (vn, vd),
               (s.takeWhile isSpace).length + tn.length + 1 + td.length)
      else mpq_inp_str (rb : Int) s =
        ((s.takeWhile isSpace).length + tn.length, some (vn, 1), (s.takeWhile isSpace).length + tn.length) :=
  mpq_inp_str_spec_of digit_tab_ok.2 bases_table_ok.1 rb hrb hrb62 s hs

-- " 6/-4x": not canonicalised (6, -4), 5 bytes; "6/ 4": no white space after `/`, returns 0; "6 /4": stops after 6
example : mpq_inp_str 10 (" 6/-4x".toUTF8.toList.map (·.toNat)) = (5, some (6, -4), 5) ∧
    (mpq_inp_str 10 ("6/ 4".toUTF8.toList.map (·.toNat))).1 = 0 ∧
    mpq_inp_str 10 ("6 /4".toUTF8.toList.map (·.toNat)) = (1, some (6, 1), 1) := by decide +kernel

/-- Round trip for rationals: for every legal output base, every numerator/denominator pair (canonical or
    not) and every continuation `rest` that does not start with a digit of the base — nor with `/` when the
    denominator is 1 and therefore not written — mpq_inp_str in base |base| consumes exactly the bytes
    mpq_out_str wrote and stores exactly the same numerator and denominator. -/
theorem mpq_inp_out_roundtrip (base : Int) (hb : LegalOutBase base) (n d : Int) (rest : List Nat)
    (hrest : ∀ c ∈ rest, c < 256) (hnd : NoDigitAhead base.natAbs rest) (h47 : d = 1 → rest.head? ≠ some 47) :
    mpq_inp_str (base.natAbs : Int) ((mpq_out_str base n d).1 ++ rest) =
      ((mpq_out_str base n d).2, some (n, d), (mpq_out_str base n d).2) :=
  mpq_inp_out_roundtrip_of digit_tab_ok.2 bases_table_ok.1 bases_table_ok.2.1 base hb n d rest hrest hnd h47

example : mpq_inp_str 16 ((mpq_out_str (-16) (-255) 16).1 ++ [32]) = (6, some (-255, 16), 6) ∧
    (mpq_out_str (-16) (-255) 16).1 = [45, 70, 70, 47, 49, 48] := by decide +kernel

end Mpir.Radix
