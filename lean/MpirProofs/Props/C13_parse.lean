/- Property C13, part c13_parse: the input language of mpf_set_str as a grammar.
   `MpfParse.recog` (Model/MpfParse.lean) describes the language left to right:
       space* '-'? mant [ marker ( junk | expo junk ) ]
   independently of the scanner model `MpfStr.parse`, which mirrors set_str.c (marker searched from the right, then
   the mantissa loop).  The theorems say that the two coincide on EVERY byte string and EVERY value of `base`
   (legal ones: 2..62, -62..-2 and 0 = 10; all others are rejected by both). -/
import MpirProofs.Lemmas.MpfParseLang
namespace Mpir.MpfParse
open Mpir Mpir.MpfStr

private def str (s : String) : List Nat := s.toList.map Char.toNat

/-- **Scanner model = grammar**, as functions: for every byte string and every base the scanner model of
    mpf_set_str's reading (set_str.c:207-304, 352-376) rejects exactly when the grammar does, and otherwise both
    yield the same sign, digit base, mantissa digits, fraction length and written exponent. -/
theorem parse_eq_recog (base : Int) (s : List Nat) : parse base s = recog base s := by
  unfold parse recog cstr
  rw [baseOf_eq, expBaseOf_eq]
  dsimp only
  generalize (if base = 0 then 10 else base.natAbs) = b
  generalize (if base ≤ 0 then 10 else b) = eb
  by_cases hr : b < 2 ∨ 62 < b
  · have hr' : (decide (b < 2) || decide (62 < b)) = true := by simpa using hr
    simp [hr, hr']
  · have hr' : (decide (b < 2) || decide (62 < b)) = false := by simpa using hr
    have hb : b ≤ 62 := by omega
    simp only [hr, if_false, hr', Bool.false_eq_true]
    cases hs : (s.takeWhile (· != 0)).dropWhile Radix.isSpace with
    | nil => simp [parseBody_eq _ _ _ hb]
    | cons c r =>
      by_cases hc : c = 45
      · subst hc; simp [parseBody_eq _ _ _ hb]
      · have hc' : (c == 45) = false := by simpa using hc
        simp [hc, hc', parseBody_eq _ _ _ hb]

example : recog 10 (str " -12.50e-3xyz") = some ⟨true, 10, [1, 2, 5, 0], 2, -3⟩ := by decide +kernel
example : parse 10 (str " -12.50e-3xyz") = some ⟨true, 10, [1, 2, 5, 0], 2, -3⟩ := by decide +kernel

/-- **parse_iff.**  The model of mpf_set_str returns 0 (accepts) if and only if the string is in the grammar — for
    every string, every base (in particular 2..62 and -62..-2), every destination. -/
theorem parse_iff (prec : Nat) (dst : Mpf.F) (base : Int) (s : List Nat) :
    (set_str prec dst base s).1 = 0 ↔ accepts base s = true := by
  unfold set_str accepts
  rw [parse_eq_recog]
  cases recog base s <;> simp

-- in the language: trailing junk after the exponent, unread exponent after a zero mantissa, interior white space
example : accepts 10 (str "1e5xyz") = true ∧ accepts 10 (str "0e+") = true ∧ accepts (-16) (str "f F.8@-10") = true ∧
    accepts 62 (str "zZ.9@A") = true ∧ accepts 0 (str "\t.5") = true := by decide +kernel
-- not in the language: a second marker, white space after the sign / after an initial point / in the exponent,
-- '+' before the mantissa, two points, digit >= base, marker without digits, base out of range
example : accepts 10 (str "1e5xe") = false ∧ accepts 10 (str "- 5") = false ∧ accepts 10 (str ". 5") = false ∧
    accepts 10 (str "1e 5") = false ∧ accepts 10 (str "+5") = false ∧ accepts 10 (str "1.2.3") = false ∧
    accepts 8 (str "8") = false ∧ accepts 36 (str "1@") = false ∧ accepts 63 (str "1") = false ∧
    accepts 1 (str "1") = false ∧ accepts 10 (str "") = false := by decide +kernel
example : (set_str 2 ⟨2, 2, -3, [5, 7]⟩ 10 (str "1e5xe")).1 = -1 := by decide +kernel

/-- **parse_value.**  For a string of the grammar, what the scanner extracts — sign, mantissa digits, number of
    digits after the point, exponent — is what the grammar's derivation denotes, and the model of mpf_set_str
    stores the conversion of exactly that (`MpfStr.convert`, whose accuracy is `mpf_set_str_correct`). -/
theorem parse_value (prec : Nat) (dst : Mpf.F) (base : Int) (s : List Nat) (p : Parsed)
    (h : recog base s = some p) :
    parse base s = some p ∧ set_str prec dst base s = (0, convert prec p) := by
  have h' : parse base s = some p := by rw [parse_eq_recog]; exact h
  exact ⟨h', by simp [set_str, h']⟩

example : recog (-16) (str " -fF.8@-10") = some ⟨true, 16, [15, 15, 8], 1, -10⟩ := by decide +kernel
example : recog 37 (str "aA. 0 @+1a") = some ⟨false, 37, [36, 10, 0], 1, 1 * 37 + 36⟩ := by decide +kernel

/-- **The recogniser is sound and complete for the inductive grammar** `Lang` (Model/MpfParse.lean: productions for
    leading white space, sign, mantissa `Mant` with optional point and interspersed white space beginning with a digit
    or point-digit, marker, exponent `Expo` with optional sign and longest digit run, ignored tail without marker, and
    the zero-mantissa rule): for every base and every byte string `s0`, `recog` yields `p` if and only if the C
    string (`s0` up to its first NUL) derives `p`. -/
theorem recog_iff_lang (base : Int) (s0 : List Nat) (p : Parsed) :
    recog base s0 = some p ↔ Lang base (cstr s0) p := by
  rw [recog_eq_recogS]; exact recogS_iff base (cstr s0) p

/-- **parse_iff_lang.**  The scanner model of mpf_set_str (set_str.c:207-304, 352-376) extracts `p` from `s0` if and
    only if the grammar derives `p` from the C string; in particular the model returns 0 exactly on the strings
    that have a derivation. -/
theorem parse_iff_lang (base : Int) (s0 : List Nat) (p : Parsed) :
    parse base s0 = some p ↔ Lang base (cstr s0) p := by
  rw [parse_eq_recog]; exact recog_iff_lang base s0 p

/-- acceptance: `mpf_set_str` (model) returns 0 iff the C string has a derivation in the grammar -/
theorem set_str_accepts_iff_lang (prec : Nat) (dst : Mpf.F) (base : Int) (s0 : List Nat) :
    (set_str prec dst base s0).1 = 0 ↔ ∃ p, Lang base (cstr s0) p := by
  unfold set_str
  cases h : parse base s0 with
  | none =>
    simp only [show ((-1 : Int) = 0) = False by decide, false_iff]
    rintro ⟨p, hp⟩
    rw [← parse_iff_lang, h] at hp; cases hp
  | some p => exact ⟨fun _ => ⟨p, (parse_iff_lang base s0 p).1 h⟩, fun _ => rfl⟩

-- a derivation exists (non-vacuity), and an explicit one built from the productions
example : Lang 10 (str " -12.50e-3xyz") ⟨true, 10, [1, 2, 5, 0], 2, -3⟩ :=
  (recog_iff_lang 10 (str " -12.50e-3xyz") _).1 (by decide +kernel)
example : Lang 10 ([32] ++ 45 :: ([49, 46] ++ 101 :: 45 :: ([51] ++ [120]))) ⟨true, 10, [1], 0, -3⟩ :=
  Lang.neg (by decide) (by decide) (by decide)
    (Body.expo (m := [49, 46]) (ds := [1]) (pt := some 0) (Or.inl ⟨49, [46], rfl, by decide +kernel⟩)
      (Mant.digit (c := 49) (by decide +kernel) (Mant.point Mant.nil)) (by decide) (by decide)
      (by unfold NoMarker; decide +kernel) (Expo.minus (run := [51]) (tail := [120]) (by decide) (by decide +kernel) (by decide +kernel)))
example : ¬ ∃ p, Lang 10 (str "1e5xe") p := by
  rintro ⟨p, hp⟩
  have := (recog_iff_lang 10 (str "1e5xe") p).2 hp
  have hn : recog 10 (str "1e5xe") = none := by decide +kernel
  rw [hn] at this; cases this

end Mpir.MpfParse
