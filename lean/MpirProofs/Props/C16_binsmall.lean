/-
  C16, part binsmall — the small-k, divide-and-conquer and bdiv binomial algorithms of mpz/bin_uiui.c, the dispatcher
  mpz_bin_uiui for every argument, and mpz_mfac_uiui.  Property theorems only; lemmas in MpirProofs/Lemmas/BinSmall.lean,
  BinBdiv.lean, BinTop.lean, Mfac.lean.  The models are those of Mpir/Model/Numth.lean (compared with the C by the ops
  smallk_bin_uiui, smallkdc_bin_uiui, bdiv_bin_uiui, bin_uiui_sel, mpz_mfac_uiui, bin_mulfunc,
  hensel_rsh_preinv, bin_alg_assert); the tables are the regenerated ones of Mpir/Gen/NumthTabs.lean.
-/
import MpirProofs.Lemmas.BinTop
import MpirProofs.Lemmas.Mfac
import MpirProofs.Props.C16_sieve
namespace Mpir.Numth
open Mpir Mpir.Gen.NumthTabs Nat

/-! ## mul1 … mul8, tcnttab, MAXFACS -/

/-- The eight identities of `mulfunc[] = {mul1,…,mul8}` (bin_uiui.c:131-203) with `tcnttab[]` (:207): in limb arithmetic,
    mulW (m) · 2^tcnttab[W−1] = m (m+1) ⋯ (m+W−1), provided (m+W−1)^W < 2^64 (the `M_i` bound: every partial product in
    the function body is a product of at most W numbers ≤ m+W−1, so none wraps, and every `>> 1` / `>> 3` is exact). -/
theorem mulfunc_identities (w m : ℕ) (hw1 : 1 ≤ w) (hw8 : w ≤ 8) (hfit : (m + w - 1) ^ w < B) :
    mulfunc w m * 2 ^ tcnt (w - 1) = m.ascFactorial w := mulfunc_spec w m hw1 hw8 hfit
example : mulfunc 8 248 = 248 * 249 * 250 * 251 * 252 * 253 * 254 * 255 / 64 ∧ (248 + 8 - 1) ^ 8 < B ∧ tcnt 7 = 6 ∧
    mulfunc 2 4294967294 = 4294967295 * 2147483647 := by decide +kernel

/-- `MAXFACS (nmax, n)` = log_n_max (n) (gmp-impl.h, table `__gmp_limbroots_table`): 1 ≤ nmax ≤ 8 = numberof (mulfunc) and
    n^nmax < 2^64 — which is the hypothesis of `mulfunc_identities` for every chunk of factors ≤ n. -/
theorem maxfacs_spec (n : ℕ) (hn : n < B) : 1 ≤ log_n_max n ∧ log_n_max n ≤ 8 ∧ n ^ log_n_max n < B :=
  log_n_max_spec n hn
example : log_n_max 255 = 8 ∧ log_n_max 256 = 7 ∧ log_n_max 4294967295 = 2 ∧ log_n_max 4294967296 = 1 := by decide +kernel

/-- `facinv[]`, `__gmp_oddfac_table`, `__gmp_fac2cnt_table` as used by mpz_smallk_bin_uiui (:399-400), every 2 ≤ k ≤
    ODD_FACTORIAL_TABLE_LIMIT: k! = 2^fac2cnt[k/2−1] · oddfac[k], oddfac[k] is a limb and facinv[k−2] is its inverse mod 2^64
    (a wrong table entry in the source breaks this theorem: the tables are regenerated on every run). -/
theorem smallk_tables_ok : ∀ k < ODD_FACTORIAL_TABLE_LIMIT + 1, 2 ≤ k →
    k ! = 2 ^ fac2cntTab (k / 2 - 1) * oddfacTab k ∧ oddfacTab k < B ∧ oddfacTab k * facinvTab (k - 2) % B = 1 :=
  smallk_tables
example : Nat.factorial 25 = 2 ^ 22 * oddfacTab 25 ∧ fac2cntTab 11 = 22 ∧ oddfacTab 25 * facinvTab 23 % B = 1 := by decide +kernel

/-- The twos removed on the fly (`i2cnt`, sums of tcnttab[]) never exceed the twos of k!: the shift count
    `__gmp_fac2cnt_table[k / 2 - 1] - i2cnt` passed to mpn_divrem_hensel_rsh_qr_1_preinv is ≥ 0, for every chunk size
    1 … 8 and every 2 ≤ k ≤ ODD_FACTORIAL_TABLE_LIMIT. -/
theorem smallk_shift_nonneg : ∀ nm < 9, 1 ≤ nm → ∀ k < ODD_FACTORIAL_TABLE_LIMIT + 1, 2 ≤ k →
    (smallkLoop k (min nm k) (k - min nm k) 0 0 (tcnt (min nm k - 1))).2 ≤ fac2cntTab (k / 2 - 1) := smallk_i2_le
example : (smallkLoop 24 8 16 0 0 (tcnt 7)).2 = 18 ∧ fac2cntTab 11 = 22 := by decide +kernel

/-! ## exact division by an odd limb -/

/-- mpn_divrem_hensel_rsh_qr_1_preinv (qp, xp, n, d, m, s) (mpn/generic/divrem_hensel_rsh_qr_1.c:26-80) with d·m ≡ 1 mod 2^64:
    when the n-limb number x shifted right by s is an exact multiple d·T, the n quotient limbs are T (Hensel division:
    invariant x mod B^j + (h + c)·B^j = q·d after j limbs, no borrow is lost). -/
theorem hensel_rsh_exact_division (x n d m s T : ℕ) (hx : x < B ^ n) (hd : d < B) (hdm : d * m % B = 1)
    (hT : x >>> s = d * T) : henselRshDiv x n d m s = T := henselRshDiv_exact x n d m s T hx hd hdm hT
example : henselRshDiv (3 * (2 ^ 100 + 12345) * 2 ^ 5) 2 3 0xaaaaaaaaaaaaaaab 5 = 2 ^ 100 + 12345 := by decide +kernel

/-! ## the three algorithms -/

/-- **mpz_smallk_bin_uiui (r, n, k) = binomial (n, k)** for every 2 ≤ k ≤ ODD_FACTORIAL_TABLE_LIMIT (= 25) and every
    k ≤ n < 2^64 (the dispatcher sends 2 ≤ k ≤ 25, n > 67, 2k ≤ n): chunks by mulfunc[nmax−1] with nmax = MIN (log_n_max n, k,
    remaining), accumulation by mpn_mul_1, `i2cnt` twos, then exact Hensel division by the odd part of k! through `facinv[k−2]`
    after the shift by fac2cnt − i2cnt. -/
theorem smallk_bin_uiui_spec (n k : ℕ) (hk2 : 2 ≤ k) (hk : k ≤ ODD_FACTORIAL_TABLE_LIMIT) (hkn : k ≤ n) (hn : n < B) :
    smallk_bin_uiui n k = n.choose k := smallk_bin_uiui_eq n k hk2 hk hkn hn
example : smallk_bin_uiui 100 25 = 242519269720337121015504 ∧
    smallk_bin_uiui (2 ^ 64 - 1) 3 = 1046183622564446793632349203613672605920836997447371718655 := by decide +kernel

/-- **mpz_smallkdc_bin_uiui (r, n, k) = binomial (n, k)** for ODD_FACTORIAL_TABLE_LIMIT < k ≤ 2·ODD_CENTRAL_BINOMIAL_TABLE_LIMIT
    (26 … 70) and 2k ≤ n < 2^64: bin (n,k) = bin (n,hk) · bin (n−hk, k−hk) / bin (k,hk), hk = k>>1, recursively (one more level
    for k > 50), `bc_bin_uiui` when n−hk ≤ ODD_FACTORIAL_EXTTABLE_LIMIT, exact division by the odd central binomial `bin2kk[]`
    through `bin2kkinv[]` with shift `fac2bin[] − (k != hk)`. -/
theorem smallkdc_bin_uiui_spec (n k : ℕ) (hk : ODD_FACTORIAL_TABLE_LIMIT < k) (hk2 : k ≤ 2 * ODD_CENTRAL_BINOMIAL_TABLE_LIMIT)
    (h2k : 2 * k ≤ n) (hn : n < B) : smallkdc_bin_uiui 8 n k = n.choose k :=
  smallkdc_bin_uiui_eq 8 n k hk hk2 (by have : ODD_CENTRAL_BINOMIAL_TABLE_LIMIT = 35 := by decide
                                        omega) h2k hn
example : smallkdc_bin_uiui 8 1000 60 =
    19742748621859838806445290867590842097270339314978449118678002674641952503075171748033908989976400 := by decide +kernel

/-- the divisor inverse used by the exact 2-adic division (meaning of mpn_sb_bdiv_q's `dinv` iteration): d · invPow2 d bits ≡ 1 -/
theorem bdiv_inverse_spec (d bits : ℕ) (hd : d % 2 = 1) (hb : 1 ≤ bits) : d * invPow2 d bits % 2 ^ bits = 1 :=
  invPow2_spec d bits hd hb
example : 12345 * invPow2 12345 128 % 2 ^ 128 = 1 := by decide +kernel

/-- `nn += (np[nn - 1] >= kp[kn - 1]); nn -= kn;` (bin_uiui.c:324-325): when N = D·Q exactly, N has at most nn limbs and D
    exactly kn, the quotient is not empty and fits the nn + (top limb test) − kn limbs that mpn_sb_bdiv_q is asked for. -/
theorem bdiv_quotient_fits {N D Q nn kn : ℕ} (h : N = D * Q) (hQ : 1 ≤ Q) (hN : N < B ^ nn) (hnn : 1 ≤ nn) (hkn : 1 ≤ kn)
    (hDlo : B ^ (kn - 1) ≤ D) (hDhi : D < B ^ kn) :
    kn < nn + (if topLimb N nn ≥ topLimb D kn then 1 else 0) ∧
    Q < B ^ (nn + (if topLimb N nn ≥ topLimb D kn then 1 else 0) - kn) := quot_size h hQ hN hnn hkn hDlo hDhi
example : topLimb (5 * B + 7) 2 = 5 ∧ topLimb 9 1 = 9 ∧ (5 * B + 7) / 9 < B ^ (2 + 0 - 1) := by decide +kernel

/-- **mpz_bdiv_bin_uiui (r, n, k) = binomial (n, k)** for every k > ODD_FACTORIAL_TABLE_LIMIT and 2k ≤ n < 2^64 (the C's
    `ASSERT (k > ODD_FACTORIAL_TABLE_LIMIT)`; the dispatcher sends k > 70).  `some`: in the model every `ASSERT (nn < alloc)`
    (:321 — the allocation marked "FIXME: This allocation might be insufficient" IS sufficient: nn ≤ k and
    nn ≤ 1 + n/64 + 21), the quotient size bookkeeping and the loop bound hold; every partial division is exact because the
    same number of factors is accumulated on both sides and the divisor is odd; the final count i2cnt − j2cnt is ≥ 0. -/
theorem bdiv_bin_uiui_spec (n k : ℕ) (hk : ODD_FACTORIAL_TABLE_LIMIT < k) (h2k : 2 * k ≤ n) (hn : n < B) :
    bdiv_bin_uiui n k = some (n.choose k) := bdiv_bin_uiui_eq n k hk h2k hn
example : bdiv_bin_uiui 300 71 = some 10668045122007095756693423430548958571449389457293007580530849586524000 ∧
    (bdiv_bin_uiui (2 ^ 40) 80).map (· % 10 ^ 9) = some 292441600 := by decide +kernel

/-- binomial (n, k) has fewer than 64 factors of two for n < 2^64 (Kummer: adding k and n−k below 2^64 carries at most 63 times) -/
theorem choose_two_adic_lt_limb (n k : ℕ) (hn : n < B) (hk : k ≤ n) : ¬ 2 ^ 64 ∣ n.choose k :=
  choose_not_dvd_two_pow_64 n k hn hk
example : 2 ^ 63 ∣ Nat.choose (2 ^ 64 - 2 ^ 63) 1 ∧ popcount (2 ^ 63 - 1) + popcount 1 - popcount (2 ^ 63) = 63 := by
  constructor
  · simp
  · decide +kernel

/-- `cnt = i2cnt - j2cnt` (bin_uiui.c:343) in the state where the loop of mpz_bdiv_bin_uiui ends: the subtraction does not
    wrap and `ASSERT (cnt < GMP_NUMB_BITS)` ("can happen, but not for intended use") holds for EVERY k > 25, 2k ≤ n < 2^64,
    so mpn_lshift gets a legal count. -/
theorem bdiv_shift_count_spec (n k : ℕ) (hk : ODD_FACTORIAL_TABLE_LIMIT < k) (h2k : 2 * k ≤ n) (hn : n < B) :
    bdiv_bin_uiui n k = (if !(bdivFinal n k).ok then none
      else some ((bdivFinal n k).np <<< ((bdivFinal n k).i2cnt - (bdivFinal n k).j2cnt))) ∧
    (bdivFinal n k).j2cnt ≤ (bdivFinal n k).i2cnt ∧ (bdivFinal n k).i2cnt - (bdivFinal n k).j2cnt < 64 :=
  ⟨bdiv_bin_uiui_unfold n k, bdiv_shift_count n k hk h2k hn⟩
example : (bdivFinal 256 128).i2cnt - (bdivFinal 256 128).j2cnt = 1 ∧ (bdivFinal 300 71).ok = true := by decide +kernel

/-! ## the dispatcher -/

/-- **mpz_bin_uiui (r, n, k) = binomial (n, k) for every n < 2^64 and every k** (k > n gives 0; k is replaced by MIN (k, n−k);
    k < 2; bc_bin_uiui for n ≤ 67; smallk for k ≤ 25; smallkdc for k ≤ 70; Goetgheluck for k ≥ 1000, k > n/16; bdiv otherwise). -/
theorem mpz_bin_uiui_spec (n k : ℕ) (hn : n < B) : mpz_bin_uiui n k = some (n.choose k) := mpz_bin_uiui_eq n k hn
example : mpz_bin_uiui 200 100 = some 90548514656103281165404177077484163874504589675413336841320 ∧
    binDispatch 200 100 = (.bdiv, 100) ∧ binDispatch 200 150 = (.smallkdc, 50) ∧ mpz_bin_uiui 5 7 = some 0 := by decide +kernel

/-! ## multifactorial -/

/-- (g·n)!^(g·m) = g^⌈n/m⌉ · n!^(m): the reduction by g = gcd (n, m) of mfac_uiui.c:57-59 and the exponents `sn` -/
theorem mfac_gcd_reduction (g m : ℕ) (hg : 1 ≤ g) (hm : 1 ≤ m) (n : ℕ) :
    multiFactorial (g * n) (g * m) = g ^ ((n + m - 1) / m) * multiFactorial n m := mf_scale g m hg hm n
example : multiFactorial 120 36 = 12 ^ 4 * multiFactorial 10 3 ∧ multiFactorial 10 3 = 10 * 7 * 4 * 1 := by decide +kernel

/-- **mpz_mfac_uiui (x, n, m) = n!^(m) = n (n−m) (n−2m) ⋯** for every n < 2^64 and every 1 ≤ m < 2^64 (`ASSERT (m != 0)`):
    the early exit n < 3 ∨ n−3 < m−1, g = gcd (n, m) (Euclid needs < 200 steps below 2^64), m/g = 1 → g^n · n! (g > 2),
    (2n)!! (g = 2), n!; m/g = 2 → g^(n/2+1) · n!! or n!!; otherwise the product loop with FACTOR_LIST_STORE
    (max_prod = GMP_NUMB_MAX / (n−m): no limb product wraps; the last factor is never 0 because gcd = 1) times g^(n/m+1). -/
theorem mfac_uiui_spec (n m : ℕ) (hm : 1 ≤ m) (hn : n < B) (hmB : m < B) : mpz_mfac_uiui n m = multiFactorial n m :=
  mpz_mfac_uiui_eq (fun x hx => fac_ui_spec x hx) (fun x hx => two_fac_ui_spec x hx) n m hm hn hmB
example : mpz_mfac_uiui 120 36 = 5806080 ∧ mpz_mfac_uiui 99 6 = 817800727933873464057151875 ∧
    mpz_mfac_uiui 7 (2 ^ 64 - 1) = 7 := by decide +kernel

end Mpir.Numth
