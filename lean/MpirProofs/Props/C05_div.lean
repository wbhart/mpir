/-
  C05 (aliasing) — mpz division on the POINTER-LEVEL model (Mpir/Model/AliasMem.lean).
  Property theorems only; the proofs are in MpirProofs/Lemmas/AliasMem.lean, AliasDiv.lean and, for the `_ui` functions,
  AliasUi.lean, AliasUi2.lean.

  The model keeps an `mpz_t` as a header {alloc, size, ptr} plus a numbered limb block; `MPZ_REALLOC` moves the
  block and frees the old one, `TMP_ALLOC` hands out fresh blocks, the mpn entry points refuse operand overlaps
  their contract forbids, and every model function performs the header reads, reallocs, pointer fetches, temporary
  copies, mpn call and size stores in the order of the C file.  So the statements below are NOT vacuous with respect
  to aliasing: the negative examples at the end show that the same functions with one of the C's precautions removed
  (the temporary copy of the denominator / numerator, the pointer fetch after the realloc, `SIZ (quot) = 0` after
  the copy to rem, `temp_divisor`) break them on a concrete input.

  Shape of every theorem: for EVERY state satisfying the object invariant `Inv` (live distinct blocks of ALLOC limbs,
  normalised sizes), EVERY choice of variable ids the manual allows (all coincidences of outputs with inputs, of the
  two inputs, and for the two-output functions only `q ≠ r`), and a non-zero divisor: the call succeeds (no stale
  read, no forbidden overlap, no write past a block), `Inv` holds again, the output variables hold exactly the
  specified quotient / remainder OF THE VALUES BEFORE THE CALL, and every other variable keeps its value.  The
  `…_alias` corollaries put this in the words of the property: the aliased call leaves in its outputs what the call
  with distinct fresh output variables leaves in those.
-/
import MpirProofs.Lemmas.AliasDiv
import MpirProofs.Lemmas.AliasUi2
namespace Mpir.AliasMem
open Mpir

/-- the state used by the examples: variables 0..3 hold 2^200+12345, -(2^70+3), 7, 0 in exact-size blocks
    (4, 2, 1, 1 limbs) -/
def exSt : St := ofInts [2 ^ 200 + 12345, -(2 ^ 70 + 3), 7, 0]

/-- every state built by `ofInts` (what the driver and the harness start from) satisfies the invariant, and holds
    the given values: the hypotheses `Inv s` below are satisfiable, e.g. by `exSt` -/
theorem ofInts_ok (zs : List Int) : Inv (ofInts zs) ∧ ∀ i, i < zs.length → (ofInts zs).value i = zs.getD i 0 :=
  ⟨ofInts_inv zs, ofInts_value zs⟩

/-- what an example looks at: value, ALLOC, PTR of the first `k` variables, or the error -/
def look (r : R St) (k : Nat) : Except String (List (Int × Nat × Nat)) := r.map (·.view k)

/-! ## truncating division -/

/-- mpz_tdiv_qr (mpz/tdiv_qr.c), all alias patterns with q ≠ r: q = n, q = d, r = n, r = d, n = d and any
    combination (q = n ∧ r = d, q = d ∧ r = n, n = d = q, …). -/
theorem tdiv_qr_ptr_spec {s : St} (h : Inv s) {q r n d : Nat} (hq : q < s.nv) (hr : r < s.nv) (hn : n < s.nv)
    (hd : d < s.nv) (hqr : q ≠ r) (hd0 : s.value d ≠ 0) :
    ∃ s', tdiv_qr q r n d s = .ok s' ∧ Inv s' ∧ s'.nv = s.nv ∧
      s'.value q = DivZ.tdivQ (s.value n) (s.value d) ∧ s'.value r = DivZ.tdivR (s.value n) (s.value d) ∧
      ∀ i, i < s.nv → i ≠ q → i ≠ r → s'.value i = s.value i :=
  tdiv_qr_ok h hq hr hn hd hqr hd0

/-- … in the words of the property: outputs aliased to inputs in any permitted way (`q r`) against distinct
    output variables `q' r'` that are not inputs. -/
theorem tdiv_qr_alias {s : St} (h : Inv s) {q r n d q' r' : Nat} (hq : q < s.nv) (hr : r < s.nv) (hn : n < s.nv)
    (hd : d < s.nv) (hq' : q' < s.nv) (hr' : r' < s.nv) (hqr : q ≠ r) (hqr' : q' ≠ r') (hd0 : s.value d ≠ 0) :
    ∃ sa sd, tdiv_qr q r n d s = .ok sa ∧ tdiv_qr q' r' n d s = .ok sd ∧
      sa.value q = sd.value q' ∧ sa.value r = sd.value r' ∧
      ∀ i, i < s.nv → i ≠ q → i ≠ r → sa.value i = s.value i := by
  obtain ⟨sa, ea, _, _, aq, ar, ao⟩ := tdiv_qr_ok h hq hr hn hd hqr hd0
  obtain ⟨sd, ed, _, _, dq, dr, _⟩ := tdiv_qr_ok h hq' hr' hn hd hqr' hd0
  exact ⟨sa, sd, ea, ed, by rw [aq, dq], by rw [ar, dr], ao⟩

-- non-vacuity: q = n and r = d at once (both temporaries are made, quot keeps its 4-limb block, nothing moves);
-- q = d: the 2-limb block of d is too small for the 3-limb quotient, it moves (block 5; rem was moved first, block 4) — after the move the
-- denominator is read through the NEW pointer and then copied to scratch
example : look (tdiv_qr 0 1 0 1 exSt) 2 =
    .ok [(-1361129467683753853850039665213252304896, 4, 0), (10376293541461635129, 2, 1)] := by decide +kernel
example : look (tdiv_qr 1 3 0 1 exSt) 4 = .ok [(2 ^ 200 + 12345, 4, 0), (-1361129467683753853850039665213252304896, 3, 5),
    (7, 1, 2), (10376293541461635129, 2, 4)] := by decide +kernel

/-- mpz_tdiv_q (mpz/tdiv_q.c) and mpz_tdiv_r (mpz/tdiv_r.c): any coincidence of the output with n, d (and n = d). -/
theorem tdiv_q_ptr_spec {s : St} (h : Inv s) {q n d : Nat} (hq : q < s.nv) (hn : n < s.nv) (hd : d < s.nv)
    (hd0 : s.value d ≠ 0) :
    ∃ s', tdiv_q q n d s = .ok s' ∧ Inv s' ∧ s'.nv = s.nv ∧ s'.value q = DivZ.tdivQ (s.value n) (s.value d) ∧
      ∀ i, i < s.nv → i ≠ q → s'.value i = s.value i :=
  tdiv_q_ok h hq hn hd hd0

theorem tdiv_r_ptr_spec {s : St} (h : Inv s) {r n d : Nat} (hr : r < s.nv) (hn : n < s.nv) (hd : d < s.nv)
    (hd0 : s.value d ≠ 0) :
    ∃ s', tdiv_r r n d s = .ok s' ∧ Inv s' ∧ s'.nv = s.nv ∧ s'.value r = DivZ.tdivR (s.value n) (s.value d) ∧
      ∀ i, i < s.nv → i ≠ r → s'.value i = s.value i :=
  tdiv_r_ok h hr hn hd hd0

example : look (tdiv_q 1 0 1 exSt) 2 = .ok [(2 ^ 200 + 12345, 4, 0), (-1361129467683753853850039665213252304896, 3, 4)] := by
  decide +kernel
example : look (tdiv_r 0 0 1 exSt) 2 = .ok [(10376293541461635129, 4, 0), (-(2 ^ 70 + 3), 2, 1)] := by decide +kernel

/-! ## floor and ceiling division, mpz_mod -/

/-- mpz_fdiv_qr (`ceil = false`, mpz/fdiv_qr.c) and mpz_cdiv_qr (`ceil = true`, mpz/cdiv_qr.c): all alias patterns
    with q ≠ r, including the divisor being the q or the r variable (`temp_divisor`). -/
theorem cfdiv_qr_ptr_spec (ceil : Bool) {s : St} (h : Inv s) {q r n d : Nat} (hq : q < s.nv) (hr : r < s.nv)
    (hn : n < s.nv) (hd : d < s.nv) (hqr : q ≠ r) (hd0 : s.value d ≠ 0) :
    ∃ s', (if ceil then cdiv_qr q r n d s else fdiv_qr q r n d s) = .ok s' ∧ Inv s' ∧ s'.nv = s.nv ∧
      s'.value q = (if ceil then DivZ.cdivQ (s.value n) (s.value d) else DivZ.fdivQ (s.value n) (s.value d)) ∧
      s'.value r = (if ceil then DivZ.cdivR (s.value n) (s.value d) else DivZ.fdivR (s.value n) (s.value d)) ∧
      ∀ i, i < s.nv → i ≠ q → i ≠ r → s'.value i = s.value i := by
  have := cfdiv_qr_ok ceil h hq hr hn hd hqr hd0
  cases ceil <;> exact this

theorem cfdiv_qr_alias (ceil : Bool) {s : St} (h : Inv s) {q r n d q' r' : Nat} (hq : q < s.nv) (hr : r < s.nv)
    (hn : n < s.nv) (hd : d < s.nv) (hq' : q' < s.nv) (hr' : r' < s.nv) (hqr : q ≠ r) (hqr' : q' ≠ r')
    (hd0 : s.value d ≠ 0) :
    ∃ sa sd, cfdiv_qrV .c ceil q r n d s = .ok sa ∧ cfdiv_qrV .c ceil q' r' n d s = .ok sd ∧
      sa.value q = sd.value q' ∧ sa.value r = sd.value r' ∧
      ∀ i, i < s.nv → i ≠ q → i ≠ r → sa.value i = s.value i := by
  obtain ⟨sa, ea, _, _, aq, ar, ao⟩ := cfdiv_qr_ok ceil h hq hr hn hd hqr hd0
  obtain ⟨sd, ed, _, _, dq, dr, _⟩ := cfdiv_qr_ok ceil h hq' hr' hn hd hqr' hd0
  exact ⟨sa, sd, ea, ed, by rw [aq, dq], by rw [ar, dr], ao⟩

-- non-vacuity: floor with r = d (the divisor is copied to temp_divisor, the adjustment `rem += divisor` uses the copy)
example : look (fdiv_qr 2 1 0 1 exSt) 3 = .ok [(2 ^ 200 + 12345, 4, 0), (-1170215327175949668298, 3, 7),
    (-1361129467683753853850039665213252304897, 4, 6)] := by decide +kernel
example : Int.fdiv (2 ^ 200 + 12345) (-(2 ^ 70 + 3)) = -1361129467683753853850039665213252304897 ∧
    Int.fmod (2 ^ 200 + 12345) (-(2 ^ 70 + 3)) = -1170215327175949668298 := by decide +kernel

/-- mpz_fdiv_q / mpz_cdiv_q (fdiv_q.c, cdiv_q.c: the remainder is a local `MPZ_TMP_INIT` variable). -/
theorem cfdiv_q_ptr_spec (ceil : Bool) {s : St} (h : Inv s) {q n d : Nat} (hq : q < s.nv) (hn : n < s.nv)
    (hd : d < s.nv) (hd0 : s.value d ≠ 0) :
    ∃ s', (if ceil then cdiv_q q n d s else fdiv_q q n d s) = .ok s' ∧ Inv s' ∧ s'.nv = s.nv ∧
      s'.value q = (if ceil then DivZ.cdivQ (s.value n) (s.value d) else DivZ.fdivQ (s.value n) (s.value d)) ∧
      ∀ i, i < s.nv → i ≠ q → s'.value i = s.value i := by
  have := cfdiv_q_ok ceil h hq hn hd hd0
  cases ceil <;> exact this

/-- mpz_fdiv_r / mpz_cdiv_r (fdiv_r.c, cdiv_r.c): `dividend->_mp_size` is read AFTER the division — when r is the
    dividend variable that is the size of the preliminary remainder, and the result is still right. -/
theorem cfdiv_r_ptr_spec (ceil : Bool) {s : St} (h : Inv s) {r n d : Nat} (hr : r < s.nv) (hn : n < s.nv)
    (hd : d < s.nv) (hd0 : s.value d ≠ 0) :
    ∃ s', (if ceil then cdiv_r r n d s else fdiv_r r n d s) = .ok s' ∧ Inv s' ∧ s'.nv = s.nv ∧
      s'.value r = (if ceil then DivZ.cdivR (s.value n) (s.value d) else DivZ.fdivR (s.value n) (s.value d)) ∧
      ∀ i, i < s.nv → i ≠ r → s'.value i = s.value i := by
  have := cfdiv_r_ok ceil h hr hn hd hd0
  cases ceil <;> exact this

/-- mpz_mod (mod.c): the non-negative remainder, r = n, r = d, n = d allowed. -/
theorem mod_ptr_spec {s : St} (h : Inv s) {r n d : Nat} (hr : r < s.nv) (hn : n < s.nv) (hd : d < s.nv)
    (hd0 : s.value d ≠ 0) :
    ∃ s', AliasMem.mod r n d s = .ok s' ∧ Inv s' ∧ s'.nv = s.nv ∧ s'.value r = s.value n % s.value d ∧
      ∀ i, i < s.nv → i ≠ r → s'.value i = s.value i :=
  mod_ok h hr hn hd hd0

example : look (cdiv_q 0 0 1 exSt) 1 = .ok [(-1361129467683753853850039665213252304896, 4, 0)] := by decide +kernel
example : look (fdiv_r 0 0 1 exSt) 1 = .ok [(-1170215327175949668298, 4, 0)] := by decide +kernel
example : look (AliasMem.mod 1 0 1 exSt) 2 = .ok [(2 ^ 200 + 12345, 4, 0), (10376293541461635129, 2, 1)] := by decide +kernel

/-! ## mpz_divexact, the `_ui` divisions -/

/-- mpz_divexact (mpz/divexact.c): q = n, q = d (quotient built in TMP space and copied back before TMP_FREE),
    n = d; `d ∣ n` is the documented precondition (the model's mpn_divexact stores N / D whatever N is). -/
theorem divexact_ptr_spec {s : St} (h : Inv s) {q n d : Nat} (hq : q < s.nv) (hn : n < s.nv) (hd : d < s.nv)
    (hd0 : s.value d ≠ 0) (_hdvd : s.value d ∣ s.value n) :
    ∃ s', divexact q n d s = .ok s' ∧ Inv s' ∧ s'.nv = s.nv ∧ s'.value q = DivZ.divexactS (s.value n) (s.value d) ∧
      ∀ i, i < s.nv → i ≠ q → s'.value i = s.value i :=
  divexact_ok h hq hn hd hd0

example : look (divexact 0 0 1 (ofInts [-(2 ^ 70 + 3) * (2 ^ 130 + 1), 2 ^ 70 + 3])) 2 =
    .ok [(-(2 ^ 130 + 1), 4, 0), (2 ^ 70 + 3, 2, 1)] := by decide +kernel
example : look (divexact 1 0 1 (ofInts [-(2 ^ 70 + 3) * (2 ^ 130 + 1), 2 ^ 70 + 3])) 2 =
    .ok [(-(2 ^ 70 + 3) * (2 ^ 130 + 1), 4, 0), (-(2 ^ 130 + 1), 3, 2)] := by decide +kernel

/-- mpz_tdiv_q_ui / mpz_fdiv_q_ui / mpz_cdiv_q_ui (`dir` = 0 / -1 / 1; tdiv_q_ui.c, fdiv_q_ui.c, cdiv_q_ui.c), q = n allowed
    (mpn_divrem_1 forms the quotient in place): the stored quotient is the one of the family, the return value is |r|. -/
theorem div_q_ui_ptr_spec (dir : Int) (hdir : dir = 0 ∨ dir = -1 ∨ dir = 1) {s : St} (h : Inv s) {q n : Nat}
    (hq : q < s.nv) (hn : n < s.nv) (d : Nat) (hd0 : d ≠ 0) (hdB : d < B) :
    ∃ s', div_q_ui dir q n d s = .ok (DivZ.uiRet (DivZ.specR dir (s.value n) d), s') ∧ Inv s' ∧ s'.nv = s.nv ∧
      s'.value q = DivZ.specQ dir (s.value n) d ∧ ∀ i, i < s.nv → i ≠ q → s'.value i = s.value i :=
  div_q_ui_ok dir hdir h hq hn d hd0 hdB

example : (div_q_ui (-1) 1 1 7 exSt).map (fun p => (p.1, p.2.view 2)) =
    .ok (2, [(2 ^ 200 + 12345, 4, 0), (-168655945816773043347, 2, 1)]) := by decide +kernel
example : Int.fdiv (-(2 ^ 70 + 3)) 7 = -168655945816773043347 ∧ Int.fmod (-(2 ^ 70 + 3)) 7 = 2 := by decide +kernel

/-- mpz_{t,f,c}div_r_ui (r = n allowed; `PTR (rem)[0] = rl` is stored without a realloc: `1 ≤ ALLOC (r)` is MPIR's object
    invariant) and mpz_{t,f,c}div_qr_ui (q ≠ r; q = n or r = n allowed). -/
theorem div_r_ui_ptr_spec (dir : Int) (hdir : dir = 0 ∨ dir = -1 ∨ dir = 1) {s : St} (h : Inv s) {r n : Nat}
    (hr : r < s.nv) (hn : n < s.nv) (d : Nat) (hd0 : d ≠ 0) (hdB : d < B) (ha : 1 ≤ s.alloc r) :
    ∃ s', div_r_ui dir r n d s = .ok (DivZ.uiRet (DivZ.specR dir (s.value n) d), s') ∧ Inv s' ∧ s'.nv = s.nv ∧
      s'.value r = DivZ.specR dir (s.value n) d ∧ ∀ i, i < s.nv → i ≠ r → s'.value i = s.value i :=
  div_r_ui_ok dir hdir h hr hn d hd0 hdB ha

theorem div_qr_ui_ptr_spec (dir : Int) (hdir : dir = 0 ∨ dir = -1 ∨ dir = 1) {s : St} (h : Inv s) {q r n : Nat}
    (hq : q < s.nv) (hr : r < s.nv) (hn : n < s.nv) (hqr : q ≠ r) (d : Nat) (hd0 : d ≠ 0) (hdB : d < B)
    (ha : 1 ≤ s.alloc r) :
    ∃ s', div_qr_ui dir q r n d s = .ok (DivZ.uiRet (DivZ.specR dir (s.value n) d), s') ∧ Inv s' ∧ s'.nv = s.nv ∧
      s'.value q = DivZ.specQ dir (s.value n) d ∧ s'.value r = DivZ.specR dir (s.value n) d ∧
      ∀ i, i < s.nv → i ≠ q → i ≠ r → s'.value i = s.value i :=
  div_qr_ui_ok dir hdir h hq hr hn hqr d hd0 hdB ha

/-- mpz_divexact_ui (dive_ui.c), dst = src allowed; `d ∣ src` is the documented precondition. -/
theorem divexact_ui_ptr_spec {s : St} (h : Inv s) {q n : Nat} (hq : q < s.nv) (hn : n < s.nv) (d : Nat) (hd0 : d ≠ 0)
    (hdB : d < B) (_hdvd : (d : Int) ∣ s.value n) :
    ∃ s', divexact_ui q n d s = .ok s' ∧ Inv s' ∧ s'.nv = s.nv ∧ s'.value q = DivZ.divexactS (s.value n) d ∧
      ∀ i, i < s.nv → i ≠ q → s'.value i = s.value i := by
  obtain ⟨s', e, hres⟩ := div_q_ui_ok 0 (Or.inl rfl) h hq hn d hd0 hdB
  refine ⟨s', ?_, ?_⟩
  · unfold divexact_ui; simp only [bind, Except.bind, e, pure, Except.pure]
  · have : DivZ.specQ 0 (s.value n) d = DivZ.divexactS (s.value n) d := by simp [DivZ.specQ, DivZ.divexactS]
    rw [this] at hres; exact hres

example : (divexact_ui 0 0 7 (ofInts [-(2 ^ 130 + 1) * 7])).map (·.view 1) = .ok [(-(2 ^ 130 + 1), 3, 0)] := by decide +kernel

-- r = n: the remainder limb lands on limb 0 of the operand; ceiling: r = -6, returned 6
example : (div_r_ui 1 0 0 7 exSt).map (fun p => (p.1, p.2.view 1)) = .ok (6, [(-6, 4, 0)]) := by decide +kernel
-- q = n in place, r separate, floor of a negative dividend
example : (div_qr_ui (-1) 1 2 1 7 exSt).map (fun p => (p.1, p.2.view 3)) =
    .ok (2, [(2 ^ 200 + 12345, 4, 0), (-168655945816773043347, 2, 1), (2, 1, 2)]) := by decide +kernel

/-! ## the aliased call against the call with a distinct output -/

/-- one statement for the three-argument functions: the aliased call leaves in `w` what the call with a distinct
    output variable `w'` leaves in `w'`. -/
theorem alias3 {f : Nat → Nat → Nat → St → R St} {F : Int → Int → Int} {s : St}
    (spec : ∀ w, w < s.nv → ∃ s', f w n d s = .ok s' ∧ Res s s' w (F (s.value n) (s.value d)))
    {w w' : Nat} (hw : w < s.nv) (hw' : w' < s.nv) :
    ∃ sa sd, f w n d s = .ok sa ∧ f w' n d s = .ok sd ∧ sa.value w = sd.value w' ∧
      ∀ i, i < s.nv → i ≠ w → sa.value i = s.value i := by
  obtain ⟨sa, ea, _, _, va, oa⟩ := spec w hw
  obtain ⟨sd, ed, _, _, vd, _⟩ := spec w' hw'
  exact ⟨sa, sd, ea, ed, by rw [va, vd], oa⟩

theorem div3_alias {s : St} (h : Inv s) {w w' n d : Nat} (hw : w < s.nv) (hw' : w' < s.nv) (hn : n < s.nv)
    (hd : d < s.nv) (hd0 : s.value d ≠ 0) (f : Nat → Nat → Nat → St → R St)
    (hf : f = tdiv_q ∨ f = tdiv_r ∨ f = fdiv_q ∨ f = cdiv_q ∨ f = fdiv_r ∨ f = cdiv_r ∨ f = AliasMem.mod ∨ f = divexact) :
    ∃ sa sd, f w n d s = .ok sa ∧ f w' n d s = .ok sd ∧ sa.value w = sd.value w' ∧
      ∀ i, i < s.nv → i ≠ w → sa.value i = s.value i := by
  rcases hf with e | e | e | e | e | e | e | e <;> subst e
  · exact alias3 (fun w hw => tdiv_q_ok h hw hn hd hd0) hw hw'
  · exact alias3 (fun w hw => tdiv_r_ok h hw hn hd hd0) hw hw'
  · exact alias3 (fun w hw => cfdiv_q_ok false h hw hn hd hd0) hw hw'
  · exact alias3 (fun w hw => cfdiv_q_ok true h hw hn hd hd0) hw hw'
  · exact alias3 (fun w hw => cfdiv_r_ok false h hw hn hd hd0) hw hw'
  · exact alias3 (fun w hw => cfdiv_r_ok true h hw hn hd hd0) hw hw'
  · exact alias3 (fun w hw => mod_ok h hw hn hd hd0) hw hw'
  · exact alias3 (fun w hw => divexact_ok h hw hn hd hd0) hw hw'

/-! ## negative examples: the model can exhibit the aliasing bugs the C guards against -/

def errOf (r : R St) : String := match r with | .error e => e | .ok _ => "ok"

-- without the temporary copy of the denominator (tdiv_qr.c:77-83), q = d: mpn_tdiv_qr gets overlapping operands
example : errOf (tdiv_qrV { copyDen := false } 1 3 0 1 exSt) = "ub:mpn_tdiv_qr operands overlap" := by decide +kernel
-- without the temporary copy of the numerator (tdiv_qr.c:86-92), q = n
example : errOf (tdiv_qrV { copyNum := false } 0 3 0 1 exSt) = "ub:mpn_tdiv_qr operands overlap" := by decide +kernel
example : errOf (tdiv_qV { copyNum := false } 0 0 1 exSt) = "ub:mpn_tdiv_q operands overlap" := by decide +kernel
example : errOf (tdiv_rV { copyDen := false } 1 0 1 exSt) = "ub:mpn_tdiv_qr operands overlap" := by decide +kernel
-- with `dp = PTR (den)` fetched BEFORE `MPZ_REALLOC (quot, ql)` and q = d (the block of d moves): stale pointer
example : errOf (tdiv_qrV { ptrAfterRealloc := false } 1 2 0 1 exSt) = "ub:read of a freed block" := by decide +kernel
-- with `SIZ (quot) = 0` BEFORE the copy of num to rem (tdiv_qr.c:57-59 the other way round) and q = n, |n| < |d|:
-- no error, but rem receives 0 instead of n — the statement of `tdiv_qr_ptr_spec` fails on this input
example : look (tdiv_qrV { quotSizeLast := false } 1 3 1 0 exSt) 4 =
    .ok [(2 ^ 200 + 12345, 4, 0), (0, 2, 1), (7, 1, 2), (0, 4, 4)] := by decide +kernel
example : look (tdiv_qr 1 3 1 0 exSt) 4 =
    .ok [(2 ^ 200 + 12345, 4, 0), (0, 2, 1), (7, 1, 2), (-(2 ^ 70 + 3), 4, 4)] := by decide +kernel
-- fdiv_qr without temp_divisor (fdiv_qr.c:39-44), r = d: `rem += divisor` adds the preliminary remainder to itself
example : look (cfdiv_qrV { fdivCopy := false } false 2 1 0 1 exSt) 2 =
    .ok [(2 ^ 200 + 12345, 4, 0), (20752587082923270258, 2, 1)] := by decide +kernel
-- mpz_divexact with the quotient written straight into quot although quot is den (divexact.c:68-69 removed)
example : errOf (divexactV { divexactTmp := false } 1 0 1 (ofInts [-(2 ^ 70 + 3) * (2 ^ 130 + 1), 2 ^ 70 + 3])) =
    "ub:mpn_divexact operands overlap" := by decide +kernel
-- mpz_divexact copying the scratch quotient back after TMP_FREE (divexact.c:79-82 the other way round), q = n
example : errOf (divexactV { copyBeforeFree := false } 0 0 1 (ofInts [-(2 ^ 70 + 3) * (2 ^ 130 + 1), 2 ^ 70 + 3])) =
    "ub:read of a freed block" := by decide +kernel

end Mpir.AliasMem
