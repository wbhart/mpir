/-
  C18, scanf side — gmp_sscanf / gmp_fscanf read back what the output functions print, and the field reader of
  scanf/doscan.c.  Property theorems only; helper lemmas are in MpirProofs/Lemmas/Scanf.lean, ScanfCount.lean, ScanfI.lean,
  ScanfQ.lean (`layoutModelQ_roundtrip`: the round trip for `%Z` and `%Q` text under any scan conversion).  Every theorem is
  about the executable models Mpir/Model/Printf.lean (`layoutModel` = bytes of gmp_printf ("%<flags><width><prec>Z<conv>"))
  and Mpir/Model/Scanf.lean (`doscan` = __gmp_doscan, `gmpscan` = its field reader), which the correspondence run
  compares with the real functions on every check (ops gmp_print_scan_*, gmp_rt_*, gmp_sscanf, gmp_fscanf).
-/
import MpirProofs.Lemmas.ScanfQ
namespace Mpir.Scanf
open Mpir.Printf

/-- view of a scan result for the examples: count, assigned numbers in order (a rational as two), input left -/
def Out.nums : Out → List Int
  | .int v => [v] | .z v => [v] | .q n d => [n, d] | .str s => s.map (fun c => (c.toNat : Int))
def view (r : Option ScanResult) : Option (Int × List Int × String) :=
  r.map (fun r => (r.fields, r.outs.flatMap Out.nums, String.ofList r.rest))

/-- `print_scan_roundtrip_Z`: for EVERY mpz value `v`, every list of flag characters `- + space # 0` in any order,
    every width form (none, number, `*` with any int), every precision form (none, number, `*` with any int; the empty
    precision `.` is outside, as in `doprnti_big_layout`) and every conversion d i u o x X:
    `gmp_sscanf (text, "%Z<c>%n", x, &n)` applied to the text printed by `gmp_printf ("%<flags><width><prec>Z<conv>", v)`
    with the matching conversion c (d for d/i, else the same letter) returns 1, assigns exactly `v`, and `%n` is the
    length of the text up to the trailing blanks that left adjustment (`-`) adds; those `t` blanks are all that is left
    unread, and there are none without `-`.  Width padding in front and a space flag are skipped as white space, a `+`
    is accepted, precision zeros and `0`-flag zeros are read as leading zeros.
    The documented exceptions, exactly:
    * `hdig`: at least one digit must have been printed: the value 0 with precision 0 prints no digit (unless `#` with o
      prints the single "0"), so there is nothing to read;
    * `hx`: `%Zx`/`%ZX` do not accept a `0x`/`0X` prefix, so `#` on a non-zero value with x/X is excluded here (such text
      is read back by `%Zi`: `print_scan_roundtrip_Zi`);
    * `hlen`: the scanner counts characters in an `int` and stops a field at INT_MAX-1 characters (doscan.c:230). -/
theorem print_scan_roundtrip_Z (fl : List Char) (w : WidthArg) (p : PrecArg) (conv : Conv) (v : Int)
    (hp : p ≠ .dot)
    (hdig : ¬ (v = 0 ∧ cPrec p = some 0 ∧ ¬ ('#' ∈ fl ∧ conv = .o)))
    (hx : ¬ ('#' ∈ fl ∧ conv.base = 16 ∧ v ≠ 0))
    (hlen : (layoutModel fl w p conv v).length ≤ 2147483646) :
    ∃ t, doscan ['%', 'Z', readConv conv, '%', 'n'] (layoutModel fl w p conv v) =
        some { fields := 1, outs := [.z v, .int (((layoutModel fl w p conv v).length - t : Nat) : Int)],
               rest := List.replicate t ' ' } ∧
      t ≤ (layoutModel fl w p conv v).length ∧ ((cFlags fl w).minus = false → t = 0) := by
  rw [layoutModel_eq_Q] at hlen ⊢
  obtain ⟨t, h1, h2, h3⟩ := layoutModelQ_roundtrip 'Z' (readConv conv) conv.base (readConv_convChar conv) fl w p conv v 1
    Int.one_pos (Or.inr ⟨rfl, rfl⟩)
    (fun k R hR hk8 _ => q_num_key fl p conv v k R hR (by rwa [← cPrec_zero_iff p hp]) hx hk8) (fun h => absurd rfl h) hlen
  exact ⟨t, h1, h2, fun hm => h3 (fun hl => by rw [(cFlags_minus fl w).mpr hl] at hm; cases hm)⟩

-- non-vacuity: values printed with sign, zero and blank padding and read back; every hypothesis is satisfiable
example : view (doscan "%Zd%n".toList (layoutModel ['+'] (.num 9) (.num 5) .d (-255))) = some (1, [-255, 9], "") := by
  decide +kernel
example : String.ofList (layoutModel ['-', ' '] (.num 9) (.num 5) .X 255) = " 000FF   " ∧
    view (doscan "%ZX%n".toList (layoutModel ['-', ' '] (.num 9) (.num 5) .X 255)) = some (1, [255, 6], "   ") := by
  decide +kernel
-- `#` with o and precision 0 on the value 0 prints "0" and is read back
example : view (doscan "%Zo%n".toList (layoutModel ['#'] .none (.num 0) .o 0)) = some (1, [0, 1], "") := by decide +kernel
-- the exceptions are real: nothing printed (EOF) / `0x` not accepted by %Zx (value 0 assigned, stops at the x)
example : layoutModel [] .none (.num 0) .d 0 = [] ∧
    view (doscan "%Zd%n".toList (layoutModel [] .none (.num 0) .d 0)) = some (-1, [], "") := by decide +kernel
example : String.ofList (layoutModel ['#'] .none .none .x 255) = "0xff" ∧
    view (doscan "%Zx%n".toList (layoutModel ['#'] .none .none .x 255)) = some (1, [0, 1], "xff") := by decide +kernel

/-! ## The field reader -/

/-- `scan_field_Z_fixed` (items (a) and (b) for `%Zd %Zu %Zo %Zx %ZX`, every width, every non-empty input — `gmpscan` is
    entered with white space already skipped and returns −2 = EOF on empty input):
    let `k` = 1 if the input starts with `-` or `+`, and `ds = fieldDigits p inp` the LONGEST run of digits of the base
    after that sign inside the first `width` characters (all of the input — up to INT_MAX−1 — without a width).  Then
    * no digit: the field is invalid (−1; the sign stays consumed — only one character can be pushed back);
    * otherwise the count of characters is `k + |ds|`, the value assigned is ±(value of `ds` in the base) — the value of
      the longest valid prefix under the width limit —, and nothing is assigned under `*`;
    * the input left is exactly the input without those `k + |ds|` characters: the consumed characters are a prefix of
      the input, and the one character looked at beyond the field is pushed back. -/
theorem scan_field_Z_fixed (p : ScanParams) (hty : p.type = 'Z') (hb : p.base = 8 ∨ p.base = 10 ∨ p.base = 16)
    (inp : List Char) (hne : inp ≠ []) :
    (gmpscan p inp).rest = inp.drop (signLen inp + (fieldDigits p inp).length) ∧
    (fieldDigits p inp = [] → (gmpscan p inp).ret = -1 ∧ (gmpscan p inp).val = .none) ∧
    (fieldDigits p inp ≠ [] → (gmpscan p inp).ret = ((signLen inp + (fieldDigits p inp).length : Nat) : Int) ∧
      (gmpscan p inp).val = if p.ignore then .none
              else .z (if inp.head? = some '-' then -(strVal p.base (fieldDigits p inp) : Int)
                       else (strVal p.base (fieldDigits p inp) : Int))) :=
  gmpscan_fieldDigits p hty hb inp hne

-- non-vacuity: a width that cuts the digits, a sign eaten by an invalid field, a sign alone under width 1
example : (gmpscan { base := 10, type := 'Z', width := 3 } "-1234".toList).ret = 3 ∧
    (gmpscan { base := 10, type := 'Z', width := 3 } "-1234".toList).rest = "34".toList := by decide +kernel
example : (gmpscan { base := 10, type := 'Z' } "-x".toList).ret = -1 ∧
    (gmpscan { base := 10, type := 'Z' } "-x".toList).rest = "x".toList := by decide +kernel
example : (gmpscan { base := 16, type := 'Z', width := 1 } "+7".toList).ret = -1 ∧
    (gmpscan { base := 16, type := 'Z', width := 1 } "+7".toList).rest = "7".toList := by decide +kernel

/-! ## The count returned -/

/-- `scan_count_single_partial` (item (c) for one MPIR conversion, `T` = Z or Q, any of d u i o x X, with or without
    assignment suppression `*`, followed by `%n`): the value returned by gmp_sscanf/gmp_fscanf is
    * EOF (−1) exactly when the input ended (after optional white space) before the field began;
    * otherwise the number of assigned fields: 1 exactly when the field was valid and not suppressed; 0 for an invalid
      field, and 0 for a valid suppressed one (`%*Z` is not counted), in which case `%n` still reports the characters
      consumed and nothing else is stored.
    PARTIAL: the full statement quantifies over every format string (several conversions, literals and white-space
    directives between them: the count is the number of assigned fields so far, EOF only if that number is 0 when the
    input ends); that general form is exercised by the correspondence run (ops gmp_sscanf/gmp_fscanf on generated
    multi-conversion formats), not proved. -/
theorem scan_count_single_partial (T c : Char) (b : Nat) (hT : T = 'Z' ∨ T = 'Q') (hc : ConvChar c b) (star : Bool)
    (inp : List Char) :
    ∃ r, doscan ('%' :: ((if star then ['*'] else []) ++ [T, c, '%', 'n'])) inp = some r ∧
      (r.fields = -1 ↔ (skipWhite inp).2 = []) ∧
      (r.fields = 1 ↔ star = false ∧ 0 ≤ (gmpscan { base := b, type := T, ignore := star } (skipWhite inp).2).ret) ∧
      (r.fields = -1 ∨ r.fields = 0 ∨ r.fields = 1) ∧
      (star = true → 0 ≤ (gmpscan { base := b, type := T, ignore := star } (skipWhite inp).2).ret →
        r.fields = 0 ∧ r.outs = [.int (((skipWhite inp).1 +
          (gmpscan { base := b, type := T, ignore := star } (skipWhite inp).2).ret.toNat : Nat) : Int)]) := by
  rw [show (if star then ['*'] else []) = starChars star from rfl, doscan_mpir_n star T c b hT hc inp]
  simp only [runDirs, stepDir, widthOf, List.foldl_nil]
  rcases gmpscan_ret { base := b, type := T, ignore := star } (skipWhite inp).2 with ⟨h, he⟩ | ⟨he, h | h⟩
  · simp only [h, if_true]; simp [he, eofS]
  · simp only [h, show ¬ ((-1 : Int) = -2) by omega, if_false, if_true]; simp [he, finishS]
  · have h2 : ¬ (gmpscan { base := b, type := T, ignore := star } (skipWhite inp).2).ret = -2 := by omega
    have h1 : ¬ (gmpscan { base := b, type := T, ignore := star } (skipWhite inp).2).ret = -1 := by omega
    simp only [h1, h2, if_false]; cases star <;> simp [h, he, finishS]

-- non-vacuity: EOF before the field, invalid field, valid field, suppressed field with %n
example : view (doscan "%Zd%n".toList "  ".toList) = some (-1, [], "") ∧
    view (doscan "%Zd%n".toList " x".toList) = some (0, [], "x") ∧
    view (doscan "%Zd%n".toList " 12x".toList) = some (1, [12, 3], "x") ∧
    view (doscan "%*Zd%n".toList " 12x".toList) = some (0, [3], "x") := by decide +kernel

end Mpir.Scanf

/-! ## `%F`: where MPIR's layout deviates from C99 — pinned on the model here, and on the real library by
    corpus/C18/f_deviations.ops (the same lines run through gmp_snprintf and the model on every check).
    No layout theorem for doprntf.c is proved in this file; these are `example`s only. -/
namespace Mpir.Printf

/-- bytes of `gmp_printf (fmt, f)` for one mpf argument given as (_mp_prec, sign, limbs, _mp_exp) -/
def fText (fmt : String) (prec : Nat) (neg : Bool) (limbs : List Nat) (exp : Int) : Option String :=
  (doprnt fmt.toList [.mpf prec neg limbs exp]).map (fun r => String.ofList (callsBytes r.calls))

-- D-F1  `%#.3Fg` of 0.5: the "0" before the point is counted as a significant digit (doprntf.c:281-292 adds
--       intlen+intzeros for GENERAL): "0.50" (C99 / glibc: "0.500"); "%#Fg": "0.50000" (glibc "0.500000")
example : fText "%#.3Fg" 2 false [0x8000000000000000] 0 = some "0.50" := by decide +kernel
example : fText "%#Fg" 2 false [0x8000000000000000] 0 = some "0.50000" := by decide +kernel
--       ... values ≥ 1 and values with zeros after the point are as in C: 1.5 -> "1.50", 0.0625 -> "0.0625"
example : fText "%#.3Fg" 2 false [0x8000000000000000, 1] 1 = some "1.50" := by decide +kernel
example : fText "%#.3Fg" 2 false [0x1000000000000000] 0 = some "0.0625" := by decide +kernel
-- D-F2  double rounding: for `%.2Ff` doprntf.c:93-103 asks mpf_get_str for prec+2 = 4 digits; 0.1249999999 (here
--       0x1fffffff920c8098 / 2^64) comes back already rounded to "125", and doprntf.c:140-215 rounds that again:
--       "0.13" (C99 / glibc on the exact value: "0.12"); with one more digit of precision the text is "0.125"
example : fText "%.2Ff" 2 false [0x1fffffff920c8098] 0 = some "0.13" ∧ fText "%.3Ff" 2 false [0x1fffffff920c8098] 0 = some "0.125" := by
  decide +kernel
-- D-F3  exact ties are rounded away from zero (glibc: to even in the default rounding mode): 2.5 -> "3", 12.5 -> "13"
example : fText "%.0Ff" 2 false [0x8000000000000000, 2] 1 = some "3" ∧ fText "%.0Ff" 2 false [0x8000000000000000, 12] 1 = some "13" := by
  decide +kernel
-- agreement cases around them: sign, zero padding after the sign, `#` keeps the point
example : fText "%+010.2Ff" 2 true [0x4000000000000000, 1] 1 = some "-000001.25" ∧
    fText "%#.0Ff" 2 false [0x8000000000000000, 2] 1 = some "3." ∧ fText "%.0Fe" 2 false [0x8000000000000000, 7] 1 = some "8e+00" := by
  decide +kernel

end Mpir.Printf
