/-
  C13 — mpf results are accurate to the destination precision, exact if representable, and well formed.
  Property theorems only; helper lemmas live in MpirProofs/Lemmas/MpfLimbs, MpfBase, MpfOps, MpfSub, Mpf.
  Every theorem is about the executable bit-exact model Mpir/Model/Mpf.lean, which the correspondence
  check runs against the real mpf_* functions on every run (limbs, size and exponent compared).

  Notation: `toQ f` = ± val d · B^(exp − |size|) ∈ ℚ; `eps prec` = 2^(2−p), p = 64·prec − 64 =
  `PREC_TO_BITS prec` (what mpf_get_prec returns); `OpWF u` = the operand rules (proper limbs, |size|
  limbs, top limb ≠ 0, zero has exponent 0; an operand may be longer than its own prec+1);
  `WF r` = the format rules for a result of precision r.prec.
-/
import MpirProofs.Lemmas.Mpf
namespace Mpir.Mpf
open Mpir

/-- `__GMPF_PREC_TO_BITS (__GMPF_BITS_TO_PREC n) ≥ n`: the precision mpf_get_prec reports is at least
    the requested one. -/
theorem prec_roundtrip (n : Nat) : PREC_TO_BITS (BITS_TO_PREC n) ≥ n := by
  unfold PREC_TO_BITS BITS_TO_PREC; omega

example : BITS_TO_PREC 65 = 3 ∧ PREC_TO_BITS 3 = 128 := by decide

/-- every precision produced by mpf_init2 / mpf_set_prec is at least 2 limbs -/
theorem prec_ge_two (n : Nat) : 2 ≤ BITS_TO_PREC n := by unfold BITS_TO_PREC; omega

example : BITS_TO_PREC 0 = 2 := by decide

/-! ### exact functions: neg, abs, set -/

/-- mpf_set: the value is copied exactly when it has at most prec+1 limbs. -/
theorem set_exact (prec : Nat) (u : F) (hlen : u.d.length ≤ prec + 1) :
    toQ (set prec u) = toQ u := by
  unfold set
  simp only [top_of_le hlen]
  rw [toQ_mk_sg, toQ_qv]

/-- mpf_neg, any aliasing. -/
theorem neg_exact (prec : Nat) (rIsU : Bool) (u : F) (hu : OpWF u) (hlen : u.d.length ≤ prec + 1) :
    toQ (neg prec rIsU u) = - toQ u := by
  cases rIsU
  · rw [neg_eq_set, set_exact prec {u with size := -u.size} hlen, toQ_neg_size u hu]
  · exact toQ_neg_size u hu

/-- mpf_abs, any aliasing. -/
theorem abs_exact (prec : Nat) (rIsU : Bool) (u : F) (hlen : u.d.length ≤ prec + 1) :
    toQ (Mpf.abs prec rIsU u) = |toQ u| := by
  rw [abs_toQ]
  unfold Mpf.abs
  cases rIsU
  · simp only [Bool.false_eq_true, if_false, top_of_le hlen]
    exact toQ_pos_mk prec u.exp u.d _ rfl
  · simp only [if_true]
    unfold toQ qv
    simp

-- non-vacuity
example : toQ (neg 2 false ⟨2, 2, 1, [3, 5]⟩) = -(5 + 3 / (B : ℚ)) := by
  rw [neg_exact 2 false _ (by decide) (by decide)]
  have := Bq_ne
  simp [toQ, val]; field_simp; ring
example : set 2 ⟨9, -4, 7, [1, 2, 3, 4]⟩ = ⟨2, -3, 7, [2, 3, 4]⟩ := by decide
example : Mpf.abs 2 true ⟨2, -2, 1, [3, 5]⟩ = ⟨2, 2, 1, [3, 5]⟩ := by decide


/-! ### exact functions: mul_2exp, div_2exp -/

/-- mpf_mul_2exp is exact on a stored value of at most prec limbs (prec+1 when the shift is a whole number
    of limbs).  (A (prec+1)-limb value shifted by a non-multiple of 64 loses its lowest limb: mul_2exp.c:102.) -/
theorem mul_2exp_exact (prec : Nat) (u : F) (e : Nat) (hu : OpWF u)
    (hlen : if e % 64 = 0 then u.d.length ≤ prec + 1 else u.d.length ≤ prec) :
    toQ (mul_2exp prec u e) = toQ u * 2 ^ e := by
  by_cases h0 : u.size = 0
  · unfold mul_2exp; rw [if_pos h0, toQ_zero, hu.toQ_zero h0]; simp
  rw [mul_2exp_eq prec u e h0, shifted_toQ prec u hu h0 _ _ (fun _ => Nat.mod_lt _ (by norm_num)) _ hlen, ← zpow_natCast]
  congr 2; split <;> push_cast <;> omega

/-- mpf_div_2exp, same conditions. -/
theorem div_2exp_exact (prec : Nat) (u : F) (e : Nat) (hu : OpWF u)
    (hlen : if e % 64 = 0 then u.d.length ≤ prec + 1 else u.d.length ≤ prec) :
    toQ (div_2exp prec u e) = toQ u / 2 ^ e := by
  by_cases h0 : u.size = 0
  · unfold div_2exp; rw [if_pos h0, toQ_zero, hu.toQ_zero h0]; simp
  rw [div_2exp_eq prec u e h0, shifted_toQ prec u hu h0 _ _ (fun h => by omega) _ hlen, div_eq_mul_inv, ← zpow_natCast,
    ← zpow_neg]
  congr 2; split <;> push_cast <;> omega

-- non-vacuity: 1.5 * 2^3 = 12 and 12 / 2^67 (sub-limb shift with a carry-out limb)
example : mul_2exp 2 ⟨2, 2, 1, [B / 2, 1]⟩ 3 = ⟨2, 2, 1, [0, 12]⟩ := by decide
example : div_2exp 2 ⟨2, 1, 1, [12]⟩ 67 = ⟨2, 2, 0, [B / 2, 1]⟩ := by decide


/-- mpf_mul_2exp / mpf_div_2exp with an operand of any length: the operand is first cut to prec limbs (prec+1 for a
    whole-limb shift), then shifted exactly; the result is within the error bound. -/
theorem mpf_mul_div_2exp_err (prec : Nat) (hp : 1 ≤ prec) (u : F) (e : Nat) (hu : OpWF u) (h0 : u.size ≠ 0) :
    |toQ (mul_2exp prec u e) - toQ u * 2 ^ e| < eps prec * |toQ u * 2 ^ e| ∧
    |toQ (div_2exp prec u e) - toQ u / 2 ^ e| < eps prec * |toQ u / 2 ^ e| := by
  set n := (if e % 64 = 0 then prec + 1 else prec) with hn
  have hpn : prec ≤ n := by rw [hn]; split <;> omega
  obtain ⟨t1, t2, t3, t4, t5⟩ := truncOp_spec n prec hp hpn u hu h0
  obtain ⟨m1, m2⟩ := mul_2exp_trunc prec u e n hn h0 t2 t3
  have hlen : if e % 64 = 0 then (truncOp n u).d.length ≤ prec + 1 else (truncOp n u).d.length ≤ prec := by
    by_cases h : e % 64 = 0
    · rw [if_pos h]; have : n = prec + 1 := by rw [hn, if_pos h]
      omega
    · rw [if_neg h]; have : n = prec := by rw [hn, if_neg h]
      omega
  have h2 : (0 : ℚ) < (2 : ℚ) ^ e := by positivity
  constructor
  · rw [← m1, mul_2exp_exact prec _ e t1 hlen, ← sub_mul, abs_mul, abs_mul, abs_of_pos h2, ← mul_assoc]
    exact mul_lt_mul_of_pos_right t5 h2
  · rw [← m2, div_2exp_exact prec _ e t1 hlen, ← sub_div, abs_div, abs_div, abs_of_pos h2, ← mul_div_assoc]
    exact div_lt_div_of_pos_right t5 h2

-- a 4-limb operand shifted into a 2-limb destination: cut to 2 limbs first
example : mul_2exp 2 ⟨3, 4, 1, [7, 8, 9, 1]⟩ 1 = ⟨2, 2, 1, [18, 2]⟩ := by decide

/-! ### exact functions: floor, ceil, trunc, integer_p

`hfit`: the integer part (min(|size|, exp) limbs) fits in the destination's prec+1 limbs; otherwise
ceilfloor.c / trunc.c keep only the top prec+1 limbs of it. -/

/-- mpf_floor returns exactly ⌊u⌋. -/
theorem floor_spec (prec : Nat) (u : F) (hu : OpWF u) (hfit : min u.d.length u.exp.toNat ≤ prec + 1) :
    toQ (floor prec u) = (⌊toQ u⌋ : ℤ) := by
  by_cases h0 : u.size = 0
  · unfold floor ceilOrFloor; rw [if_pos h0, toQ_zero, hu.toQ_zero h0]; simp
  obtain ⟨I, f, f0, f1, hq, _, hr, _⟩ := round_decomp prec u hu h0 hfit (-1) (Or.inr rfl)
  unfold floor; rw [hr, hq]
  by_cases hs : u.size < 0
  · rw [sg_of_neg hs, neg_one_mul, neg_one_mul, Int.floor_neg, ceil_nat_add I f f0 f1]
    by_cases hf : f = 0 <;> simp [hs, hf]
  · rw [sg_of_not_neg hs, one_mul, one_mul, floor_nat_add I f f0 f1]; simp [hs]

/-- mpf_ceil returns exactly ⌈u⌉. -/
theorem ceil_spec (prec : Nat) (u : F) (hu : OpWF u) (hfit : min u.d.length u.exp.toNat ≤ prec + 1) :
    toQ (ceil prec u) = (⌈toQ u⌉ : ℤ) := by
  by_cases h0 : u.size = 0
  · unfold ceil ceilOrFloor; rw [if_pos h0, toQ_zero, hu.toQ_zero h0]; simp
  obtain ⟨I, f, f0, f1, hq, _, hr, _⟩ := round_decomp prec u hu h0 hfit 1 (Or.inl rfl)
  unfold ceil; rw [hr, hq]
  by_cases hs : u.size < 0
  · rw [sg_of_neg hs, neg_one_mul, neg_one_mul, Int.ceil_neg, floor_nat_add I f f0 f1]; simp [hs]
  · rw [sg_of_not_neg hs, one_mul, one_mul, ceil_nat_add I f f0 f1]
    by_cases hf : f = 0 <;> simp [hs, hf]

/-- mpf_trunc rounds towards zero: ⌊u⌋ for u ≥ 0, ⌈u⌉ for u < 0. -/
theorem trunc_spec (prec : Nat) (u : F) (hu : OpWF u) (hfit : min u.d.length u.exp.toNat ≤ prec + 1) :
    toQ (trunc prec u) = if 0 ≤ toQ u then ((⌊toQ u⌋ : ℤ) : ℚ) else ((⌈toQ u⌉ : ℤ) : ℚ) := by
  by_cases h0 : u.size = 0
  · unfold trunc; rw [if_pos (Or.inl h0), toQ_zero, hu.toQ_zero h0]; simp
  obtain ⟨I, f, f0, f1, hq, ht, _, _⟩ := round_decomp prec u hu h0 hfit 1 (Or.inl rfl)
  rw [ht, hq]
  have hnn : (0 : ℚ) ≤ (I : ℚ) + f := by positivity
  by_cases hs : u.size < 0
  · rw [sg_of_neg hs, neg_one_mul, neg_one_mul, Int.ceil_neg, Int.floor_neg, floor_nat_add I f f0 f1, ceil_nat_add I f f0 f1]
    by_cases hz : (0 : ℚ) ≤ -((I : ℚ) + f)
    · have hIf : (I : ℚ) + f = 0 := by linarith
      have hf : f = 0 := by
        have : (0 : ℚ) ≤ (I : ℚ) := by positivity
        linarith
      rw [if_pos hz]; simp [hf]
    · rw [if_neg hz]; simp
  · rw [sg_of_not_neg hs, one_mul, one_mul, if_pos hnn, floor_nat_add I f f0 f1]; simp

/-- mpf_integer_p answers whether the stored value is an integer (no condition on lengths). -/
theorem integer_p_iff (u : F) (hu : OpWF u) : integer_p u = true ↔ ∃ z : ℤ, toQ u = z := by
  by_cases h0 : u.size = 0
  · unfold integer_p; rw [if_pos h0, hu.toQ_zero h0]
    exact ⟨fun _ => ⟨0, by simp⟩, fun _ => rfl⟩
  obtain ⟨I, f, f0, f1, hq, _, _, hi⟩ := round_decomp (u.d.length) u hu h0 (by omega) 1 (Or.inl rfl)
  rw [hi, hq]
  have hsg := sg_cases u
  constructor
  · intro hf; subst hf
    rcases hsg with h | h <;> rw [h]
    · exact ⟨I, by simp⟩
    · exact ⟨-I, by simp⟩
  · rintro ⟨z, hz⟩
    -- f = ±z - I is an integer in [0,1)
    have hfz : ∃ w : ℤ, f = w := by
      rcases hsg with h | h <;> rw [h] at hz
      · exact ⟨z - I, by push_cast; linarith⟩
      · exact ⟨-z - I, by push_cast; linarith⟩
    obtain ⟨w, hw⟩ := hfz
    rw [hw] at f0 f1 ⊢
    have h1 : (0 : ℤ) ≤ w := by exact_mod_cast f0
    have h2 : w < 1 := by exact_mod_cast f1
    have : w = 0 := by omega
    simp [this]

-- non-vacuity: floor(-5.xx) = -6 ; ceil(…ff.3) carries into a new limb ; 5.0 with a low zero limb is an integer
example : floor 2 ⟨2, -2, 1, [3, 5]⟩ = ⟨2, -1, 1, [6]⟩ := by decide
example : ceil 2 ⟨2, 2, 1, [3, B - 1]⟩ = ⟨2, 1, 2, [1]⟩ := by decide
example : trunc 2 ⟨2, -2, 1, [3, 5]⟩ = ⟨2, -1, 1, [5]⟩ := by decide
example : integer_p ⟨2, 2, 1, [0, 5]⟩ = true ∧ integer_p ⟨2, 2, 1, [3, 5]⟩ = false := by decide


/-! ### mpf_mul -/

/-- mpf_mul: the result satisfies the format rules. -/
theorem mpf_mul_wf (prec : Nat) (u v : F) (hu : OpWF u) (hv : OpWF v) (hp : 2 ≤ prec) :
    WF (mul prec u v) :=
  mul_wf prec u v hu hv (by omega)

/-- mpf_mul with a zero operand is exactly zero. -/
theorem mpf_mul_zero (prec : Nat) (u v : F) (hu : OpWF u) (hv : OpWF v) (h : u.size = 0 ∨ v.size = 0) :
    toQ (mul prec u v) = toQ u * toQ v := by
  rcases h with h | h
  · unfold mul; rw [hu.toQ_zero h, hu.d_nil h]; simp [top, toQ_zero]
  · unfold mul; rw [hv.toQ_zero h, hv.d_nil h]; simp [top, toQ_zero]

/-- mpf_mul: |r − u·v| < 2^(2−p)·|u·v| for all operand lengths and precisions (p = 64·prec − 64). -/
theorem mpf_mul_err (prec : Nat) (u v : F) (hu : OpWF u) (hv : OpWF v) (hp : 2 ≤ prec)
    (hu0 : u.size ≠ 0) (hv0 : v.size ≠ 0) :
    |toQ (mul prec u v) - toQ u * toQ v| < eps prec * |toQ u * toQ v| :=
  mul_err prec u v hu hv (by omega) hu0 hv0

/-- mpf_mul is exact whenever both operands and the exact product fit in p bits. -/
theorem mpf_mul_exact_if_fits (prec : Nat) (u v : F) (hu : OpWF u) (hv : OpWF v) (hp : 2 ≤ prec)
    (fu : Fits (toQ u) (PREC_TO_BITS prec)) (fv : Fits (toQ v) (PREC_TO_BITS prec))
    (fe : Fits (toQ u * toQ v) (PREC_TO_BITS prec)) :
    toQ (mul prec u v) = toQ u * toQ v := by
  by_cases hu0 : u.size = 0
  · exact mpf_mul_zero prec u v hu hv (Or.inl hu0)
  by_cases hv0 : v.size = 0
  · exact mpf_mul_zero prec u v hu hv (Or.inr hv0)
  exact mul_exact prec u v hu hv (by omega) hu0 hv0 fu fv fe

-- non-vacuity: 3-limb by 2-limb product truncated to prec+1 = 3 limbs; and an exact product
example : mul 2 ⟨3, 3, 1, [7, 8, 9]⟩ ⟨2, -2, 0, [5, 6]⟩ = ⟨2, -3, 0, [40, 93, 54]⟩ := by decide
example : toQ (mul 2 ⟨2, 1, 1, [3]⟩ ⟨2, 1, 1, [5]⟩) = 15 := by
  rw [show mul 2 ⟨2, 1, 1, [3]⟩ ⟨2, 1, 1, [5]⟩ = ⟨2, 1, 1, [15]⟩ by decide]; simp [toQ, val]


/-! ### mpf_set_ui, mpf_set_si, mpf_set_z -/

/-- mpf_set_ui is exact and well formed (v < 2^64). -/
theorem set_ui_exact (prec : Nat) (v : Nat) (hv : v < B) :
    toQ (set_ui prec v) = v ∧ WF (set_ui prec v) := set_ui_exact' prec v hv

/-- mpf_set_si is exact and well formed (|v| ≤ 2^63). -/
theorem set_si_exact (prec : Nat) (v : Int) (hv : v.natAbs < B) :
    toQ (set_si prec v) = v ∧ WF (set_si prec v) :=
  set_si_spec prec v hv

/-- mpf_set_z: format rules, error bound, exactness. -/
theorem set_z_spec (prec : Nat) (z : Int) (hp : 1 ≤ prec) :
    WF (set_z prec z) ∧
    (z ≠ 0 → |toQ (set_z prec z) - z| < eps prec * |(z : ℚ)|) ∧
    (Fits (z : ℚ) (PREC_TO_BITS prec) → toQ (set_z prec z) = z) :=
  set_z_spec' prec z hp

example : toQ (set_z 2 (-7)) = ((-7 : ℤ) : ℚ) :=
  (set_z_spec 2 (-7) (by norm_num)).2.2 ⟨-7, 0, by norm_num, by norm_num [PREC_TO_BITS]⟩
example : set_si 2 (-5) = ⟨2, -1, 1, [5]⟩ := by decide
example : set_ui 3 7 = ⟨3, 1, 1, [7]⟩ := by decide


/-! ### mpf_set / mpf_neg for operands of any length (truncation to prec+1 limbs) -/

/-- mpf_set with an operand of any length: format rules; error < 2^(2−p)·|u|; exact if u fits in p bits. -/
theorem mpf_set_spec (prec : ℕ) (hp : 1 ≤ prec) (u : F) (hu : OpWF u) :
    WF (set prec u) ∧
    (u.size ≠ 0 → |toQ (set prec u) - toQ u| < eps prec * |toQ u|) ∧
    (Fits (toQ u) (PREC_TO_BITS prec) → toQ (set prec u) = toQ u) := set_spec prec hp u hu

/-- mpf_neg into a different variable, operand of any length. -/
theorem mpf_neg_spec (prec : ℕ) (hp : 1 ≤ prec) (u : F) (hu : OpWF u) :
    WF (neg prec false u) ∧
    (u.size ≠ 0 → |toQ (neg prec false u) - (- toQ u)| < eps prec * |toQ u|) ∧
    (Fits (toQ u) (PREC_TO_BITS prec) → toQ (neg prec false u) = - toQ u) := by
  obtain ⟨h1, h2, h3⟩ := set_spec prec hp _ (OpWF_neg_size u hu)
  rw [neg_eq_set]
  rw [toQ_neg_size u hu] at h2 h3
  refine ⟨h1, fun h => ?_, fun hf => h3 (fits_neg hf)⟩
  have := h2 (by simpa using h)
  rwa [abs_neg] at this

example : set 2 ⟨9, 4, 7, [1, 2, 3, 4]⟩ = ⟨2, 3, 7, [2, 3, 4]⟩ := by decide

/-! ### mpf_add -/

/-- mpf_add of two non-zero operands of the same sign (add.c:66-174): format rules and error bound, for all
    precisions, lengths and exponent differences. -/
theorem mpf_add_same_sign (prec : ℕ) (hp : 1 ≤ prec) (u v : F) (hu : OpWF u) (hv : OpWF v)
    (hu0 : u.size ≠ 0) (hv0 : v.size ≠ 0) (hs : (u.size < 0) ↔ (v.size < 0)) (rIsU rIsV : Bool) :
    WF (add prec rIsU rIsV u v) ∧
    |toQ (add prec rIsU rIsV u v) - (toQ u + toQ v)| < eps prec * |toQ u + toQ v| := by
  rw [add_of_same_sign prec rIsU rIsV hu0 hv0 hs]; exact ⟨(addSame_ok prec hp u v hu hv hu0 hv0 hs).1, (addSame_ok prec hp u v hu hv hu0 hv0 hs).2.1⟩

/-- ... and the sum is exact when both operands and the exact sum fit in p bits. -/
theorem mpf_add_same_sign_exact_if_fits (prec : ℕ) (hp : 1 ≤ prec) (u v : F) (hu : OpWF u) (hv : OpWF v)
    (hu0 : u.size ≠ 0) (hv0 : v.size ≠ 0) (hs : (u.size < 0) ↔ (v.size < 0)) (rIsU rIsV : Bool)
    (fu : Fits (toQ u) (PREC_TO_BITS prec)) (fv : Fits (toQ v) (PREC_TO_BITS prec))
    (fe : Fits (toQ u + toQ v) (PREC_TO_BITS prec)) :
    toQ (add prec rIsU rIsV u v) = toQ u + toQ v := by
  rw [add_of_same_sign prec rIsU rIsV hu0 hv0 hs]; exact (addSame_ok prec hp u v hu hv hu0 hv0 hs).2.2 fu fv fe

/-- mpf_add with a zero operand, result in a distinct variable: the other operand is copied (mpf_set). -/
theorem mpf_add_zero (prec : ℕ) (hp : 1 ≤ prec) (u v : F) (hu : OpWF u) (hv : OpWF v) (hz : u.size = 0 ∨ v.size = 0) :
    WF (add prec false false u v) ∧
    (toQ u + toQ v ≠ 0 → |toQ (add prec false false u v) - (toQ u + toQ v)| < eps prec * |toQ u + toQ v|) ∧
    (Fits (toQ u + toQ v) (PREC_TO_BITS prec) → toQ (add prec false false u v) = toQ u + toQ v) := by
  by_cases hu0 : u.size = 0
  · have : add prec false false u v = set prec v := by unfold add; rw [if_pos hu0]; rfl
    rw [this, hu.toQ_zero hu0, zero_add]
    obtain ⟨h1, h2, h3⟩ := set_spec prec hp v hv
    refine ⟨h1, fun h => h2 (fun hv0 => h (hv.toQ_zero hv0)), h3⟩
  · have hv0 : v.size = 0 := hz.resolve_left hu0
    have : add prec false false u v = set prec u := by unfold add; rw [if_neg hu0, if_pos hv0]; rfl
    rw [this, hv.toQ_zero hv0, add_zero]
    obtain ⟨h1, h2, h3⟩ := set_spec prec hp u hu
    exact ⟨h1, fun _ => h2 hu0, h3⟩

-- non-vacuity: partial overlap with a carry out of the top limb; v below the window is dropped
example : add 2 false false ⟨2, 2, 1, [B - 1, B - 1]⟩ ⟨2, 1, 0, [1]⟩ = ⟨2, 3, 2, [0, 0, 1]⟩ := by decide
example : add 2 false false ⟨2, 2, 5, [7, 9]⟩ ⟨2, 1, 3, [4]⟩ = ⟨2, 2, 5, [7, 9]⟩ := by decide


/-! ### mpf_div, mpf_div_ui, mpf_ui_div, mpf_set_q

The quotient is the truncated integer quotient of a dividend padded / chopped so that it has prec+1 limbs
(div.c:92-103); it is within one unit of its last limb, and at least B^(prec−1). -/

/-- mpf_div of non-zero operands: returns normally; format rules; error < 2^(2−p)·|u/v|; exact if u/v fits in p bits. -/
theorem mpf_div_err (prec : ℕ) (hp : 1 ≤ prec) (u v : F) (hu : OpWF u) (hv : OpWF v)
    (hu0 : u.size ≠ 0) (hv0 : v.size ≠ 0) :
    ∃ r, div prec u v = .ok r ∧ WF r ∧
      |toQ r - toQ u / toQ v| < eps prec * |toQ u / toQ v| ∧
      (Fits (toQ u / toQ v) (PREC_TO_BITS prec) → toQ r = toQ u / toQ v) :=
  div_spec prec hp u v hu hv hu0 hv0

/-- division by zero raises; a zero dividend gives an exact, well-formed zero -/
theorem mpf_div_zero (prec : ℕ) (u v : F) :
    (v.size = 0 → div prec u v = .div0) ∧ (v.size ≠ 0 → u.size = 0 → div prec u v = .ok (zero prec)) :=
  div_zero prec u v

/-- mpf_div_ui (0 < w < 2^64). -/
theorem mpf_div_ui_err (prec : ℕ) (hp : 1 ≤ prec) (u : F) (w : ℕ) (hu : OpWF u) (hu0 : u.size ≠ 0)
    (hw0 : w ≠ 0) (hwB : w < B) :
    ∃ r, div_ui prec u w = .ok r ∧ WF r ∧
      |toQ r - toQ u / w| < eps prec * |toQ u / w| ∧
      (Fits (toQ u / w) (PREC_TO_BITS prec) → toQ r = toQ u / w) :=
  div_ui_spec prec hp u w hu hu0 hw0 hwB

/-- mpf_ui_div (0 < w < 2^64, v ≠ 0). -/
theorem mpf_ui_div_err (prec : ℕ) (hp : 1 ≤ prec) (w : ℕ) (v : F) (hv : OpWF v) (hv0 : v.size ≠ 0)
    (hw0 : w ≠ 0) (hwB : w < B) :
    ∃ r, ui_div prec w v = .ok r ∧ WF r ∧
      |toQ r - w / toQ v| < eps prec * |w / toQ v| ∧
      (Fits (w / toQ v) (PREC_TO_BITS prec) → toQ r = w / toQ v) :=
  ui_div_spec prec hp w v hv hv0 hw0 hwB

/-- mpf_set_q (num ≠ 0, den > 0; the fraction need not be in lowest terms). -/
theorem mpf_set_q_err (prec : ℕ) (hp : 1 ≤ prec) (num : ℤ) (den : ℕ) (hn : num ≠ 0) (hd : den ≠ 0) :
    WF (set_q prec num den) ∧
    |toQ (set_q prec num den) - (num : ℚ) / den| < eps prec * |(num : ℚ) / den| ∧
    (Fits ((num : ℚ) / den) (PREC_TO_BITS prec) → toQ (set_q prec num den) = (num : ℚ) / den) :=
  set_q_spec prec hp num den hn hd

-- non-vacuity: 5 / -7 with a 2-limb precision; 1/3
example : div 2 ⟨2, 1, 1, [5]⟩ ⟨2, -1, 1, [7]⟩ = .ok ⟨2, -2, 0, [0x6db6db6db6db6db6, 0xb6db6db6db6db6db]⟩ := by decide
example : ui_div 2 1 ⟨2, 1, 1, [3]⟩ = .ok ⟨2, 2, 0, [0x5555555555555555, 0x5555555555555555]⟩ := by decide
example : div 2 ⟨2, 1, 1, [5]⟩ ⟨2, 0, 0, []⟩ = .div0 := by decide


/-! ### mpf_sqrt, mpf_sqrt_ui

No square root function on ℚ: the bound is stated in squared form.  `r ≤ √u < r·(1 + 2^(−p))` is
`r² ≤ u < (r·(1 + 1/B^(prec−1)))²` with r > 0, which implies |r − √u| < 2^(−p)·√u < 2^(2−p)·√u. -/

/-- mpf_sqrt of a positive operand: returns normally; format rules; r ≤ √u < r·(1 + 2^(−p));
    and r is the exact root whenever u has a root that fits in p bits. -/
theorem mpf_sqrt_err (prec : ℕ) (hp : 1 ≤ prec) (u : F) (hu : OpWF u) (hpos : 0 < u.size) :
    ∃ r, sqrt prec u = .ok r ∧ WF r ∧ 0 < toQ r ∧ (toQ r) ^ 2 ≤ toQ u ∧
      toQ u < (toQ r * (1 + 1 / (B : ℚ) ^ (prec - 1))) ^ 2 ∧
      (∀ x : ℚ, 0 ≤ x → x ^ 2 = toQ u → Fits x (PREC_TO_BITS prec) → toQ r = x) :=
  sqrt_spec prec hp u hu hpos

/-- square root of a negative operand raises; of zero it is a well-formed zero -/
theorem mpf_sqrt_neg_zero (prec : ℕ) (u : F) :
    (u.size < 0 → sqrt prec u = .sqrtneg) ∧ (u.size = 0 → sqrt prec u = .ok (zero prec)) :=
  sqrt_neg_zero prec u

/-- mpf_sqrt_ui (0 < w < 2^64). -/
theorem mpf_sqrt_ui_err (prec : ℕ) (hp : 1 ≤ prec) (w : ℕ) (hw0 : w ≠ 0) (hwB : w < B) :
    WF (sqrt_ui prec w) ∧ 0 < toQ (sqrt_ui prec w) ∧ (toQ (sqrt_ui prec w)) ^ 2 ≤ w ∧
      (w : ℚ) < (toQ (sqrt_ui prec w) * (1 + 1 / (B : ℚ) ^ (prec - 1))) ^ 2 ∧
      (∀ x : ℚ, 0 ≤ x → x ^ 2 = w → Fits x (PREC_TO_BITS prec) → toQ (sqrt_ui prec w) = x) := by
  obtain ⟨r, h1, h2, h3, h4, h5, h6⟩ := sqrt_spec prec hp (ofLimb w) (OpWF_ofLimb w hw0 hwB) (by simp [ofLimb])
  rw [sqrt_ui_eq_sqrt prec hp w hw0] at h1
  injection h1 with h1
  subst h1
  rw [toQ_ofLimb] at h4 h5 h6
  exact ⟨h2, h3, h4, h5, h6⟩

-- non-vacuity: √5 to 2 limbs, √4 exactly, negative operand
example : ∃ r, sqrt 2 ⟨2, 1, 1, [5]⟩ = .ok r ∧ WF r ∧ (toQ r) ^ 2 ≤ 5 := by
  obtain ⟨r, h1, h2, _, h4, _⟩ := mpf_sqrt_err 2 (by norm_num) ⟨2, 1, 1, [5]⟩ (by decide) (by decide)
  exact ⟨r, h1, h2, by simpa [toQ, val] using h4⟩
example : toQ (sqrt_ui 2 4) = 2 :=
  (mpf_sqrt_ui_err 2 (by norm_num) 4 (by norm_num) (by rw [B_eq]; norm_num)).2.2.2.2 2 (by norm_num) (by norm_num)
    ⟨1, 1, by norm_num, by norm_num [PREC_TO_BITS]⟩
example : sqrt 3 ⟨2, -1, 1, [5]⟩ = .sqrtneg := by decide


/-! ### mpf_sub and mpf_add in full: all sign combinations, zero operands, aliasing, every geometric case

`Accurate prec r E` (Lemmas/MpfBase.lean) = `WF r ∧ (E = 0 → toQ r = 0) ∧ (E ≠ 0 → |toQ r − E| < eps prec · |E|)`.

The proof of `mpf_sub_err` follows sub.c branch by branch: operands ordered by exponent; ediff = 0 with the
leading-equal-limbs scan (`scan_spec`), one operand exhausted (`cancellation_ok`), the x+1|000… − x|fff… path with
its implicit leading one (`subClose_spec`: the scan re-aligns on the first limb pair that is not 000/fff, so at most
one limb of the prec kept is lost), `general_case` when the operands are at least B^(e−2) apart (`subGeneral_ok`);
ediff = 1 with the 1|000… − 0|fff… test (`subOne_ok`); ediff ≥ 2.

`hau`/`hav`: if the destination is the same variable as a zero-partner operand the value is left in place, so it
must already fit the destination (it does unless mpf_set_prec_raw lowered the precision below the stored size). -/

/-- mpf_sub: format rules and |r − (u−v)| < 2^(2−p)·|u−v| (r = 0 when u = v), no restriction on the operands. -/
theorem mpf_sub_err (prec : ℕ) (hp : 2 ≤ prec) (u v : F) (hu : OpWF u) (hv : OpWF v) (rIsU rIsV : Bool)
    (hau : rIsU = true → u.d.length ≤ prec + 1) (hav : rIsV = true → v.d.length ≤ prec + 1) :
    WF (sub prec rIsU rIsV u v) ∧ (toQ u - toQ v = 0 → toQ (sub prec rIsU rIsV u v) = 0) ∧
    (toQ u - toQ v ≠ 0 → |toQ (sub prec rIsU rIsV u v) - (toQ u - toQ v)| < eps prec * |toQ u - toQ v|) :=
  (sub_spec prec hp u v hu hv rIsU rIsV).1 hau hav

/-- mpf_add: the same for u + v (operands of opposite sign go through the subtraction code). -/
theorem mpf_add_err (prec : ℕ) (hp : 2 ≤ prec) (u v : F) (hu : OpWF u) (hv : OpWF v) (rIsU rIsV : Bool)
    (hau : rIsU = true → u.d.length ≤ prec + 1) (hav : rIsV = true → v.d.length ≤ prec + 1) :
    WF (add prec rIsU rIsV u v) ∧ (toQ u + toQ v = 0 → toQ (add prec rIsU rIsV u v) = 0) ∧
    (toQ u + toQ v ≠ 0 → |toQ (add prec rIsU rIsV u v) - (toQ u + toQ v)| < eps prec * |toQ u + toQ v|) :=
  (add_spec prec hp u v hu hv rIsU rIsV).1 hau hav

/-- mpf_sub is exact whenever both operands and the exact difference fit in p bits.
    (Window argument: the result and the exact value are both multiples of the unit of the precision window and
    less than one unit apart — `Cut.exact`.) -/
theorem mpf_sub_exact_if_fits (prec : ℕ) (hp : 2 ≤ prec) (u v : F) (hu : OpWF u) (hv : OpWF v) (rIsU rIsV : Bool)
    (fu : Fits (toQ u) (PREC_TO_BITS prec)) (fv : Fits (toQ v) (PREC_TO_BITS prec))
    (fe : Fits (toQ u - toQ v) (PREC_TO_BITS prec)) :
    toQ (sub prec rIsU rIsV u v) = toQ u - toQ v :=
  (sub_spec prec hp u v hu hv rIsU rIsV).2 fu fv fe

/-- mpf_add is exact whenever both operands and the exact sum fit in p bits (all sign combinations). -/
theorem mpf_add_exact_if_fits (prec : ℕ) (hp : 2 ≤ prec) (u v : F) (hu : OpWF u) (hv : OpWF v) (rIsU rIsV : Bool)
    (fu : Fits (toQ u) (PREC_TO_BITS prec)) (fv : Fits (toQ v) (PREC_TO_BITS prec))
    (fe : Fits (toQ u + toQ v) (PREC_TO_BITS prec)) :
    toQ (add prec rIsU rIsV u v) = toQ u + toQ v :=
  (add_spec prec hp u v hu hv rIsU rIsV).2 fu fv fe

-- non-vacuity of the `Fits` hypotheses: 3 + 5 at two limbs of precision
example : toQ (add 2 false false ⟨2, 1, 1, [3]⟩ ⟨2, 1, 1, [5]⟩) = toQ ⟨2, 1, 1, [3]⟩ + toQ ⟨2, 1, 1, [5]⟩ :=
  mpf_add_exact_if_fits 2 (le_refl _) _ _ (by decide) (by decide) false false
    ⟨3, 0, by simp [toQ, val], by norm_num [PREC_TO_BITS]⟩ ⟨5, 0, by simp [toQ, val], by norm_num [PREC_TO_BITS]⟩
    ⟨8, 0, by simp [toQ, val]; norm_num, by norm_num [PREC_TO_BITS]⟩
example : toQ (sub 2 false false ⟨2, 1, 1, [3]⟩ ⟨2, 1, 1, [5]⟩) = toQ ⟨2, 1, 1, [3]⟩ - toQ ⟨2, 1, 1, [5]⟩ :=
  mpf_sub_exact_if_fits 2 (le_refl _) _ _ (by decide) (by decide) false false
    ⟨3, 0, by simp [toQ, val], by norm_num [PREC_TO_BITS]⟩ ⟨5, 0, by simp [toQ, val], by norm_num [PREC_TO_BITS]⟩
    ⟨-2, 0, by simp [toQ, val]; norm_num, by norm_num [PREC_TO_BITS]⟩

/-- mpf_sub_ui (w < 2^64). -/
theorem mpf_sub_ui_err (prec : ℕ) (hp : 2 ≤ prec) (u : F) (w : ℕ) (hu : OpWF u) (hw : w < B) (rIsU : Bool)
    (hau : rIsU = true → u.d.length ≤ prec + 1) :
    Accurate prec (sub_ui prec rIsU u w) (toQ u - w) :=
  sub_ui_accurate prec hp u w hu hw rIsU hau

/-- mpf_ui_sub (w < 2^64) — since ea17729 a wrapper over mpf_sub. -/
theorem mpf_ui_sub_err (prec : ℕ) (hp : 2 ≤ prec) (w : ℕ) (v : F) (hv : OpWF v) (hw : w < B) (rIsV : Bool)
    (hav : rIsV = true → v.d.length ≤ prec + 1) :
    Accurate prec (ui_sub prec rIsV w v) (w - toQ v) :=
  ui_sub_accurate prec hp w v hv hw rIsV hav

-- non-vacuity: x+1|000 − x|fff across one limb boundary with tails; equal operands; the former ui_sub failure
example : sub 2 false false ⟨3, 3, 1, [5, 0, 8]⟩ ⟨3, 3, 1, [9, B - 1, 7]⟩ = ⟨2, 1, -1, [B - 4]⟩ := by decide
example : sub 2 false false ⟨2, 2, 1, [3, 5]⟩ ⟨2, 2, 1, [3, 5]⟩ = ⟨2, 0, 0, []⟩ := by decide
example : ui_sub 3 false 2 ⟨4, 4, 1, [B - 1, B - 1, B - 1, 1]⟩ = ⟨3, 1, -2, [1]⟩ := by decide


/-! ### mpf_add_ui -/

/-- mpf_add_ui (w < 2^64), its own code path add_ui.c: u ≷ 0, v = 0, v below the precision, gap between u and v,
    overlap with carry, u < 1 — format rules and error bound in every case. -/
theorem mpf_add_ui_err (prec : ℕ) (hp : 2 ≤ prec) (u : F) (w : ℕ) (hu : OpWF u) (hw : w < B) (rIsU : Bool)
    (hau : rIsU = true → u.d.length ≤ prec + 1) :
    Accurate prec (add_ui prec rIsU u w) (toQ u + w) :=
  add_ui_accurate prec hp u w hu hw rIsU hau

example : add_ui 2 false ⟨2, 2, 1, [3, 5]⟩ (B - 1) = ⟨2, 3, 2, [3, 4, 1]⟩ := by decide

/-! ### mpf_mul_ui, mpf_set_d -/

/-- mpf_mul_ui (w < 2^64): format rules, error bound, and exact when u has at most prec limbs
    (the carry-in scan of mul_ui.c makes the kept limbs those of the full product). -/
theorem mpf_mul_ui_err (prec : ℕ) (hp : 1 ≤ prec) (u : F) (w : ℕ) (hu : OpWF u) (hw : w < B) :
    Accurate prec (mul_ui prec u w) (toQ u * w) ∧ (u.d.length ≤ prec → toQ (mul_ui prec u w) = toQ u * w) :=
  mul_ui_spec prec hp u w hu hw

example : mul_ui 2 ⟨2, 3, 1, [3, 5, B - 1]⟩ (B - 1) = ⟨2, 3, 2, [B - 3, 5, B - 2]⟩ := by decide

/-- mpf_set_d on a normal double is exact and well formed.
    PARTIAL (`_partial`): the full statement also covers denormals (the normalisation loop of
    extract-dbl.c:66-77); those are covered by the correspondence run only (every shift count, smallest and
    largest denormal).  Zero and NaN/Inf are the two theorems below. -/
theorem mpf_set_d_exact_partial (prec : ℕ) (hp : 1 ≤ prec) (bits sign bexp man : ℕ)
    (h1 : bits / 2 ^ 63 % 2 = sign) (h2 : bits / 2 ^ 52 % 2 ^ 11 = bexp) (h3 : bits % 2 ^ 52 = man)
    (hb1 : 1 ≤ bexp) (hb2 : bexp ≤ 2046) :
    ∃ r, set_d prec bits = .ok r ∧ WF r ∧
      toQ r = (if sign = 1 then -1 else 1) * ((2 ^ 52 + man : ℕ) : ℚ) * (2 : ℚ) ^ ((bexp : ℤ) - 1075) :=
  set_d_normal prec hp bits sign bexp man h1 h2 h3 hb1 hb2

/-- ±0.0 gives a well-formed zero; NaN and ±Inf raise (set_d.c:37-39). -/
theorem mpf_set_d_special (prec : ℕ) (bits : ℕ) :
    (bits / 2 ^ 52 % 2 ^ 11 = 0x7FF → set_d prec bits = .invalid) ∧
    (bits / 2 ^ 52 % 2 ^ 11 = 0 → bits % 2 ^ 52 = 0 → set_d prec bits = .ok (zero prec)) := by
  unfold set_d
  refine ⟨fun h => by dsimp only; rw [if_pos h], fun h1 h2 => ?_⟩
  dsimp only
  rw [if_neg (by rw [h1]; norm_num), if_pos ⟨h1, h2⟩]

example : set_d 2 0x3ff8000000000000 = .ok ⟨2, 2, 1, [B / 2, 1]⟩ := by decide
example : set_d 2 0x7ff0000000000000 = .invalid ∧ set_d 2 (2 ^ 63) = .ok (zero 2) := by decide

/-! ### wf_preserved: every modelled operation returns a well-formed result

mul, add, sub, div, div_ui, ui_div, set_q, sqrt, sqrt_ui, set, set_z, set_ui, set_si, mul_ui, sub_ui, ui_sub: the
`WF` component of the theorems above.  The remaining ones: -/

theorem wf_preserved (prec : ℕ) (hp : 1 ≤ prec) (u : F) (hu : OpWF u) (rIsU : Bool)
    (hau : rIsU = true → u.d.length ≤ prec + 1) (e : ℕ) :
    WF (neg prec rIsU u) ∧ WF (Mpf.abs prec rIsU u) ∧ WF (floor prec u) ∧ WF (ceil prec u) ∧ WF (trunc prec u) ∧
    WF (mul_2exp prec u e) ∧ WF (div_2exp prec u e) :=
  ⟨neg_wf prec rIsU u hu hau, abs_wf prec rIsU u hu hau, floor_wf prec u hu, ceil_wf prec u hu, trunc_wf prec u hu,
    mul_2exp_wf prec hp u e hu, div_2exp_wf prec hp u e hu⟩

example : WF (mul_2exp 2 ⟨2, 3, 1, [1, 2, B - 1]⟩ 63) := by decide


/-! ### precision changes: mpf_init2, mpf_set_prec, mpf_set_prec_raw, mpf_get_prec -/

/-- mpf_init2 (n): a well-formed zero whose reported precision is at least n bits. -/
theorem init2_spec (n : ℕ) : WF (init2 n) ∧ toQ (init2 n) = 0 ∧ get_prec (init2 n) ≥ n :=
  ⟨WF_zero _, toQ_zero _, prec_roundtrip n⟩

/-- mpf_set_prec keeps the variable well formed at the new precision (BITS_TO_PREC bits ≥ 2 limbs); the value is
    unchanged when it has at most newprec+1 limbs, otherwise truncated within the error bound of the new precision. -/
theorem set_prec_spec (x : F) (bits : ℕ) (hx : WF x) :
    WF (set_prec x bits) ∧ (set_prec x bits).prec = BITS_TO_PREC bits ∧ get_prec (set_prec x bits) ≥ bits ∧
    (x.d.length ≤ BITS_TO_PREC bits + 1 → toQ (set_prec x bits) = toQ x) ∧
    (x.size ≠ 0 → |toQ (set_prec x bits) - toQ x| < eps (BITS_TO_PREC bits) * |toQ x|) := by
  have hp2 := prec_ge_two bits
  have hrt := prec_roundtrip bits
  unfold set_prec
  by_cases h : BITS_TO_PREC bits = x.prec
  · simp only [h, if_true]
    refine ⟨hx, trivial, by unfold get_prec; rw [← h]; exact hrt, fun _ => trivial, fun h0 => ?_⟩
    rw [sub_self, abs_zero]
    exact mul_pos (eps_pos _) (abs_pos.mpr (toQ_ne_zero hx.toOpWF h0))
  · simp only [h, if_false]
    obtain ⟨s1, s2, _⟩ := set_spec (BITS_TO_PREC bits) (by omega) x hx.toOpWF
    have e : (⟨BITS_TO_PREC bits, if x.size ≥ 0 then ((top (BITS_TO_PREC bits + 1) x.d).length : ℤ)
        else -((top (BITS_TO_PREC bits + 1) x.d).length : ℤ), x.exp, top (BITS_TO_PREC bits + 1) x.d⟩ : F)
        = set (BITS_TO_PREC bits) x := rfl
    rw [e]
    exact ⟨s1, trivial, hrt, fun hl => set_exact _ x hl, s2⟩

/-- mpf_set_prec_raw never changes the value; the variable stays well formed as long as the stored size fits the
    new precision (it always does when the precision is restored to the original one). -/
theorem set_prec_raw_spec (x : F) (bits : ℕ) (hx : WF x) :
    toQ (set_prec_raw x bits) = toQ x ∧ (x.d.length ≤ BITS_TO_PREC bits + 1 → WF (set_prec_raw x bits)) :=
  ⟨rfl, fun h => hx.toOpWF.wf_with_size rfl h⟩

example : (set_prec ⟨4, 5, 3, [1, 2, 3, 4, 5]⟩ 64).d = [3, 4, 5] := by decide
example : WF (set_prec_raw ⟨4, 3, 3, [1, 2, 3]⟩ 64) ∧ ¬ WF (set_prec_raw ⟨4, 5, 3, [1, 2, 3, 4, 5]⟩ 64) := by decide
example : get_prec (init2 65) = 128 := by decide

end Mpir.Mpf
