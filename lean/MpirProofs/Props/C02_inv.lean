/-
  C02 (multi-limb layer) — division with a precomputed Newton inverse (mpn/generic/invert.c, inv_div_qr_n.c).
  Helper lemmas live in MpirProofs/Lemmas/InvDiv.lean.  The theorems are about the executable
  value-level model Mpir/Model/InvDiv.lean, which the correspondence check runs against the real functions
  (ops `inv_is_invert`, `inv_invert`, `inv_div_qr_n`, `inv_div_qr_n_auto`) on every run.
-/
import MpirProofs.Lemmas.InvDiv
namespace Mpir.InvDiv
open Mpir

/-- mpn_is_invert (xp, ap, n), invert.c:37-66, decides exactly the contract written in the header comment of mpn_invert
    (invert.c:68-77): with X = B^n + {xp, n},  A·X < B^(2n) ≤ A·(X+1).  (A ≠ 0; for A = 0 the C returns 1.) -/
theorem isInvert_iff (n X A : Nat) (hA : 0 < A) :
    isInvert n X A = true ↔ (B ^ n + X) * A < B ^ (2 * n) ∧ B ^ (2 * n) ≤ (B ^ n + X + 1) * A := by
  have hT : X * A + B ^ n * A = (B ^ n + X) * A := by ring
  have hT1 : (B ^ n + X + 1) * A = (B ^ n + X) * A + A := by ring
  have hpos : 0 < (B ^ n + X) * A := Nat.mul_pos (by have := Nat.pow_pos (n := n) B_pos; omega) hA
  unfold isInvert
  simp only [hT, hT1]
  generalize (B ^ n + X) * A = T at *
  generalize B ^ (2 * n) = E at *
  by_cases h : E ≤ T
  · simp [h]
  · have hm : (E - T) % E = E - T := Nat.mod_eq_of_lt (by omega)
    simp only [h, if_false, hm, decide_eq_true_eq]; omega

example : isInvert 1 1 (B - 1) = true ∧ isInvert 1 2 (B - 1) = false ∧ isInvert 1 0 (B - 1) = false := by decide

/-- inv_div_qr_n.c:45-49 (`if (mpn_cmp (np + dn, dp, dn) >= 0) { ret2 = 1; mpn_sub_n (np + dn, np + dn, dp, dn); }`):
    for a normalised D and any 2dn-limb N the area afterwards is N - ret2·D·B^dn, which is below D·B^dn. -/
theorem reduceTop_exact (dn N D : Nat) (hnorm : B ^ dn ≤ 2 * D) (hN : N < B ^ dn * B ^ dn) :
    let ret2 := if D ≤ N / B ^ dn then 1 else 0
    reduceTop dn N D = (N - ret2 * (D * B ^ dn), ret2) ∧ N - ret2 * (D * B ^ dn) < D * B ^ dn ∧
      ret2 * (D * B ^ dn) ≤ N := by
  have hP : 0 < B ^ dn := Nat.pow_pos B_pos
  have hdm := Nat.mod_add_div N (B ^ dn)
  have hml := Nat.mod_lt N hP
  have hh : N / B ^ dn < B ^ dn := Nat.div_lt_of_lt_mul hN
  unfold reduceTop
  by_cases h : D ≤ N / B ^ dn
  · simp only [h, if_true, subN_ge _ _ _ h, Nat.one_mul]
    obtain ⟨k, hk⟩ : ∃ k, N / B ^ dn = D + k := ⟨N / B ^ dn - D, by omega⟩
    rw [hk] at hdm hh ⊢
    rw [Nat.add_sub_cancel_left]
    have e1 : B ^ dn * (D + k) = D * B ^ dn + B ^ dn * k := by ring
    have e3 : B ^ dn * (k + 1) ≤ B ^ dn * D := Nat.mul_le_mul_left _ (by omega)
    have e4 : B ^ dn * (k + 1) = B ^ dn * k + B ^ dn := by ring
    have e5 : D * B ^ dn = B ^ dn * D := Nat.mul_comm ..
    generalize B ^ dn * k = x at *
    generalize B ^ dn * D = y at *
    generalize D * B ^ dn = z at *
    generalize N % B ^ dn = l at *
    refine ⟨?_, ?_, ?_⟩
    · congr 1; omega
    · omega
    · omega
  · simp only [h, if_false, Nat.zero_mul, Nat.sub_zero, Nat.zero_le, and_true, true_and]
    have e3 : B ^ dn * (N / B ^ dn + 1) ≤ B ^ dn * D := Nat.mul_le_mul_left _ (by omega)
    have e4 : B ^ dn * (N / B ^ dn + 1) = B ^ dn * (N / B ^ dn) + B ^ dn := by ring
    have e5 : D * B ^ dn = B ^ dn * D := Nat.mul_comm ..
    generalize N % B ^ dn = l at *
    generalize N / B ^ dn = hh' at *
    omega

example : reduceTop 1 (B * (B - 1) + 5) (B - 2) = (B * 1 + 5, 1) := by decide

/-- The quotient estimate of mpn_inv_div_qr_n, inv_div_qr_n.c:51-73, for dn = j+1 limbs, on the reduced dividend
    N1 < D·B^dn with X = B^dn + inv, D·X ≤ B^(2dn): the limb code (mpn_mul, add_ssaaaa, two additions, the `ret`
    bookkeeping and its two ASSERTs) computes max(⌊W·X/B^(dn+1)⌋ - 1, 0), W = ⌊N1/B^(dn-1)⌋, with ret = 0 and both
    ASSERT (ret == 0) true; in particular the branch `ret == 1` of :63-67 is dead. -/
theorem estimate_exact (j N1 D inv : Nat) (hN1 : N1 < D * B ^ (j+1))
    (hDX : D * (B ^ (j+1) + inv) ≤ B ^ j * B ^ (j+2)) :
    estimate (j+1) N1 inv = ((N1 / B ^ j) * (B ^ (j+1) + inv) / B ^ (j+2) - 1, 0, true) := by
  have hP : 0 < B ^ j := Nat.pow_pos B_pos
  have hBd : B ^ (j+1) = B ^ j * B := pow_succ ..
  have hE : B ^ (j+2) = B ^ j * B * B := by rw [pow_succ, pow_succ]
  have hqfD := est_le (B ^ j) (B ^ (j+2)) D (B ^ (j+1) + inv) (N1 / B ^ j) N1 _ (Nat.pow_pos B_pos) hDX
    (Nat.div_mul_le_self _ _) (Nat.div_mul_le_self _ _)
  generalize hqf : (N1 / B ^ j) * (B ^ (j+1) + inv) / B ^ (j+2) = qf at *
  have hqlt : qf < B ^ (j+1) := by
    by_contra h
    have : D * B ^ (j+1) ≤ qf * D := by rw [Nat.mul_comm]; exact Nat.mul_le_mul_right _ (by omega)
    omega
  -- decomposition of qf
  have hdec : qf = (N1 / B ^ j * inv / B ^ (j+1)) / B + N1 / B ^ (j+1)
      + (N1 / B ^ j % B + N1 / B ^ j * inv / B ^ (j+1) % B) / B := by
    rw [← hqf, hE, hBd, ← Nat.div_div_eq_div_mul, ← Nat.div_div_eq_div_mul N1]
    have : N1 / B ^ j * (B ^ j * B + inv) = N1 / B ^ j * inv + N1 / B ^ j * (B ^ j * B) := by ring
    rw [this, Nat.add_mul_div_right _ _ (Nat.mul_pos hP B_pos)]
    exact add_div_B _ _
  have htp : N1 / B ^ j * inv / B ^ (j+2) = (N1 / B ^ j * inv / B ^ (j+1)) / B := by
    rw [hE, ← hBd, Nat.div_div_eq_div_mul]
  rw [estimate_eq]
  simp only [Nat.add_sub_cancel, show j + 1 + 1 = j + 2 from rfl, htp]
  generalize N1 / B ^ j * inv / B ^ (j+1) = t at hdec ⊢
  generalize N1 / B ^ (j+1) = h at hdec ⊢
  generalize (N1 / B ^ j % B + t % B) / B = c at hdec ⊢
  rw [Nat.mod_eq_of_lt (show t / B < B ^ (j+1) by omega), addN_small (j+1) (t / B) h (by omega),
    addN_small (j+1) (t / B + h) c (by omega), ← hdec]
  exact estimateFinish_zero _ _ hqlt

example : estimate 1 (5 * (B - 1) + 7) 1 = (4, 0, true) := by decide

/-- The inequalities of the comment inv_div_qr_n.c:57-62 in integer form: with P = B^(dn-1), E = B^(dn+1),
    D·X ≤ P·E ≤ D·(X+1), W = ⌊N1/P⌋ < E, X + 1 ≤ E, the estimate qf = ⌊W·X/E⌋ satisfies qf·D ≤ N1 < (qf+3)·D: after the
    unconditional decrement of :69 at most 3 rounds of the final loop are needed and N1 - q·D < 4·D < B^(dn+1). -/
theorem estimate_bounds (P E D X W N1 qf : Nat) (hE : 0 < E) (hD : 0 < D) (hDX : D * X ≤ P * E)
    (hXD : P * E ≤ D * (X + 1)) (hW : W * P ≤ N1) (hW' : N1 < (W + 1) * P) (hqf : qf * E ≤ W * X)
    (hqf' : W * X < (qf + 1) * E) (hWE : W < E) (hXE : X + 1 ≤ E) :
    qf * D ≤ N1 ∧ N1 < (qf + 3) * D :=
  ⟨est_le P E D X W N1 qf hE hDX hW hqf, est_ge P E D X W N1 qf hD hXD hW' hqf' hWE hXE⟩

example : (3 : Nat) * 7 ≤ 25 ∧ 25 < (3 + 3) * 7 := by decide

/-- The final loop of mpn_inv_div_qr_n, inv_div_qr_n.c:99-103, started on an area r < B^(dn+1) with enough fuel and room
    in the quotient: it ends with q + ⌊r/D⌋, r mod D, after exactly ⌊r/D⌋ rounds, and `ret` is unchanged. -/
theorem finalLoop_exact (dn D : Nat) (hD0 : 0 < D) (hD : D < B ^ dn) (fuel : Nat) (s : Loop) (hret : s.ret < B)
    (hr : s.r < B ^ (dn + 1)) (hf : s.r / D ≤ fuel) (hq : s.q + s.r / D < B ^ dn) :
    corrLoop dn D fuel s = { q := s.q + s.r / D, ret := s.ret, r := s.r % D, adds := s.adds + s.r / D } := by
  induction fuel generalizing s with
  | zero =>
    have h0 : s.r / D = 0 := Nat.le_zero.mp hf
    have : s.r < D := by
      rcases Nat.lt_or_ge s.r D with h | h
      · exact h
      · have := Nat.div_pos h hD0; omega
    simp [corrLoop, h0, Nat.mod_eq_of_lt this]
  | succ fuel ih =>
    unfold corrLoop
    by_cases hc : D ≤ s.r
    · rw [if_pos ((loopCond_iff dn D s.r hD hr).mpr hc)]
      have hdiv : s.r / D = (s.r - D) / D + 1 := by
        conv_lhs => rw [show s.r = (s.r - D) + D by omega]
        exact Nat.add_div_right _ hD0
      have hmod : s.r % D = (s.r - D) % D := by
        conv_lhs => rw [show s.r = (s.r - D) + D by omega]
        exact Nat.add_mod_right _ _
      have hnew := loopStep_val dn D s.r hD hr hc
      have hg := Nat.zero_le ((s.r - D) / D)
      have hq1 : s.q + 1 < B ^ dn := by omega
      dsimp only
      rw [addN_small _ _ _ hq1, hnew]
      rw [ih _ (by simp; exact Nat.mod_lt _ B_pos) (by simp; omega) (by simp; omega) (by simp; omega)]
      simp only [Loop.mk.injEq, Nat.add_zero, Nat.mod_eq_of_lt hret]
      refine ⟨by omega, trivial, hmod.symm, by omega⟩
    · have hlt : s.r < D := by omega
      have hnc : loopCond dn D s.r = false := by
        rcases hb : loopCond dn D s.r with _ | _
        · rfl
        · exact absurd ((loopCond_iff dn D s.r hD hr).mp hb) hc
      rw [hnc]
      simp [Nat.div_eq_of_lt hlt, Nat.mod_eq_of_lt hlt]

example : corrLoop 1 (B - 1) 8 { q := 4, ret := 0, r := 2 * (B - 1) + 3, adds := 0 } = { q := 6, ret := 0, r := 3, adds := 2 } := by decide

end Mpir.InvDiv
