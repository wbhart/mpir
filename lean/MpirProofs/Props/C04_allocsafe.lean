/-
  C04, object-layer memory safety as theorems.  Property theorems only; helper lemmas live in
  MpirProofs/Lemmas/AllocSafe.lean (the core) and MpirProofs/Lemmas/AllocSafeMpz.lean.

  The theorems are about the SIZE-AWARE models of Mpir/Model/AllocSafeMpz.lean (mirror of the allocation
  logic and the write pattern of the C, on the memory model of Mpir/Model/AllocSafe.lean: blocks with
  their allocated length, every load/store checked against it, pointers that dangle after `_mpz_realloc`).
  `<fn>_alloc_safe` says, for all heaps and all variable ids `w u v` (equal ids = the same variable, so
  every alias pattern is an instance) whose objects are well formed (`OWF`: the block has `alloc` limbs,
  |size| ≤ alloc, top limb non-zero — any alloc ≥ |size|):
    * `ok = true`: no load or store outside a block or through a stale pointer,
    * the destination is well formed again, every other variable is untouched,
    * the destination's value-level view equals the existing value-level model (Mpir/Model/Mpz.lean) — hence
      the arithmetic result by the C03/C01 theorems.
  Tied by ops `as_*` (harness/ops_allocsafe.c: the real function on objects of the given allocations; the
  model's `alloc' size' value` compared exactly) and pins on every C file mirrored.
-/
import MpirProofs.Lemmas.AllocSafeMpz
import MpirProofs.Lemmas.Mpz
namespace Mpir.AllocSafe
open Mpir

/-- a small heap for the examples: w = 0 (one limb allocated, value 0), u = 1 (B^2 - 1, exact block),
    v = 2 (the value 1) -/
def ex : St := ⟨fun i => if i = 0 then ⟨0, 0, ⟨1, [junk]⟩⟩ else if i = 1 then ⟨2, 0, ⟨2, [B - 1, B - 1]⟩⟩
                 else ⟨1, 0, ⟨1, [1]⟩⟩, true⟩

/-- mpz_add (mpz/aors.h): `MPZ_REALLOC (w, |usize| + 1)` makes room for everything the three cases write,
    for every alias pattern; exact sum. -/
theorem mpz_add_alloc_safe (s : St) (w u v : Nat) (hs : s.ok = true)
    (hw : OWF (s.h w)) (hu : OWF (s.h u)) (hv : OWF (s.h v)) :
    Safe s (mpz_add s w u v) w (Mpz.add (view (s.h w)) (view (s.h u)) (view (s.h v))) ∧
    Mpz.toInt (view ((mpz_add s w u v).h w)) = Mpz.toInt (view (s.h u)) + Mpz.toInt (view (s.h v)) :=
  add_safe s w u v hs hw hu hv

-- non-vacuity: (B^2-1) + 1 carries into a third limb, destination grown 1 → 3; in place (w = u) 2 → 3
example : (mpz_add ex 0 1 2).ok = true ∧ view ((mpz_add ex 0 1 2).h 0) = ⟨3, 3, [0, 0, 1]⟩ := by decide
example : (mpz_add ex 1 1 2).ok = true ∧ view ((mpz_add ex 1 1 2).h 1) = ⟨3, 3, [0, 0, 1]⟩ := by decide
-- negative: `MPZ_REALLOC (w, usize)` without the +1 — the carry store `wp[abs_usize] = cy` is outside the block
example : (aors false 0 false ex 0 1 2).ok = false := by decide
-- negative: `up = PTR (u)` read BEFORE the realloc (aors.h:70 "These must be after realloc"), w = u: stale pointer
example : (aors true 1 false ex 1 1 2).ok = false := by decide
-- … and the same wrong variant is harmless when nothing has to grow or nothing is aliased
example : (aors true 1 false ex 0 1 2).ok = true := by decide

/-- mpz_sub (mpz/aors.h with VARIATION = -). -/
theorem mpz_sub_alloc_safe (s : St) (w u v : Nat) (hs : s.ok = true)
    (hw : OWF (s.h w)) (hu : OWF (s.h u)) (hv : OWF (s.h v)) :
    Safe s (mpz_sub s w u v) w (Mpz.sub (view (s.h w)) (view (s.h u)) (view (s.h v))) ∧
    Mpz.toInt (view ((mpz_sub s w u v).h w)) = Mpz.toInt (view (s.h u)) - Mpz.toInt (view (s.h v)) :=
  sub_safe s w u v hs hw hu hv

-- 1 - (B^2-1) = -(B^2-2): two limbs into a one-limb destination; u - u = 0 in place
example : (mpz_sub ex 0 2 1).ok = true ∧ view ((mpz_sub ex 0 2 1).h 0) = ⟨3, -2, [B - 2, B - 1]⟩ := by decide
example : (mpz_sub ex 1 1 1).ok = true ∧ view ((mpz_sub ex 1 1 1).h 1) = ⟨3, 0, []⟩ := by decide

/-- mpz_add_ui (mpz/aors_ui.h): `MPZ_REALLOC (w, |usize| + 1)` covers the carry store, the one-limb cases and
    `wp[abs_usize - 1]`; exact sum. -/
theorem mpz_add_ui_alloc_safe (s : St) (w u : Nat) (v : Nat) (hs : s.ok = true)
    (hw : OWF (s.h w)) (hu : OWF (s.h u)) (hv : v < B) :
    Safe s (mpz_add_ui s w u v) w (Mpz.add_ui (view (s.h w)) (view (s.h u)) v) ∧
    Mpz.toInt (view ((mpz_add_ui s w u v).h w)) = Mpz.toInt (view (s.h u)) + (v : Int) := by
  have E := Mpz.aors_ui_spec false (view (s.h w)) (view (s.h u)) v hu.2 hv
  exact (aors_ui_refines false s w u v hs hw hu hv).safe_val E.1 (by simpa [Mpz.add_ui] using E.2)

-- (B^2-1) + 1 in place: block grown 2 → 3, carry limb stored at index 2
example : (mpz_add_ui ex 1 1 1).ok = true ∧ view ((mpz_add_ui ex 1 1 1).h 1) = ⟨3, 3, [0, 0, 1]⟩ := by decide
-- negative: `MPZ_REALLOC (w, abs_usize)` — the carry store falls outside
example : (aors_ui 0 false ex 1 1 1).ok = false := by decide

/-- mpz_sub_ui (mpz/aors_ui.h). -/
theorem mpz_sub_ui_alloc_safe (s : St) (w u : Nat) (v : Nat) (hs : s.ok = true)
    (hw : OWF (s.h w)) (hu : OWF (s.h u)) (hv : v < B) :
    Safe s (mpz_sub_ui s w u v) w (Mpz.sub_ui (view (s.h w)) (view (s.h u)) v) ∧
    Mpz.toInt (view ((mpz_sub_ui s w u v).h w)) = Mpz.toInt (view (s.h u)) - (v : Int) := by
  have E := Mpz.aors_ui_spec true (view (s.h w)) (view (s.h u)) v hu.2 hv
  exact (aors_ui_refines true s w u v hs hw hu hv).safe_val E.1 (by simpa [Mpz.sub_ui, Int.sub_eq_add_neg] using E.2)

-- 1 - 5 = -4 (the `abs_usize == 1 && up[0] < vval` case); 0 - 7 into the one-limb destination
example : (mpz_sub_ui ex 0 2 5).ok = true ∧ view ((mpz_sub_ui ex 0 2 5).h 0) = ⟨2, -1, [4]⟩ := by decide
example : (mpz_sub_ui ex 0 0 7).ok = true ∧ view ((mpz_sub_ui ex 0 0 7).h 0) = ⟨1, -1, [7]⟩ := by decide

/-- mpz_set (mpz/set.c). -/
theorem mpz_set_alloc_safe (s : St) (w u : Nat) (hs : s.ok = true) (hw : OWF (s.h w)) (hu : OWF (s.h u)) :
    Safe s (mpz_set s w u) w (Mpz.set (view (s.h w)) (view (s.h u))) ∧
    Mpz.toInt (view ((mpz_set s w u).h w)) = Mpz.toInt (view (s.h u)) :=
  set_safe s w u hs hw hu

example : (mpz_set ex 0 1).ok = true ∧ view ((mpz_set ex 0 1).h 0) = ⟨2, 2, [B - 1, B - 1]⟩ := by decide

/-- mpz_neg (mpz/neg.c): `u != w` is the comparison of the variables. -/
theorem mpz_neg_alloc_safe (s : St) (w u : Nat) (hs : s.ok = true) (hw : OWF (s.h w)) (hu : OWF (s.h u)) :
    Safe s (mpz_neg s w u) w (Mpz.neg (decide (u = w)) (view (s.h w)) (view (s.h u))) ∧
    Mpz.toInt (view ((mpz_neg s w u).h w)) = -Mpz.toInt (view (s.h u)) := by
  have E := Mpz.neg_spec (decide (u = w)) (view (s.h w)) (view (s.h u)) hw.alloc_pos hu.2
    (by intro h; have : u = w := by simpa using h
        rw [this])
  exact (neg_refines s w u hs hw hu).safe_val E.1 E.2

example : (mpz_neg ex 0 1).ok = true ∧ view ((mpz_neg ex 0 1).h 0) = ⟨2, -2, [B - 1, B - 1]⟩ := by decide
example : (mpz_neg ex 1 1).ok = true ∧ view ((mpz_neg ex 1 1).h 1) = ⟨2, -2, [B - 1, B - 1]⟩ := by decide

/-- mpz_abs (mpz/abs.c). -/
theorem mpz_abs_alloc_safe (s : St) (w u : Nat) (hs : s.ok = true) (hw : OWF (s.h w)) (hu : OWF (s.h u)) :
    Safe s (mpz_abs s w u) w (Mpz.abs (decide (u = w)) (view (s.h w)) (view (s.h u))) ∧
    Mpz.toInt (view ((mpz_abs s w u).h w)) = ((Mpz.toInt (view (s.h u))).natAbs : Int) := by
  have E := Mpz.abs_spec (decide (u = w)) (view (s.h w)) (view (s.h u)) hw.alloc_pos hu.2
    (by intro h; have : u = w := by simpa using h
        rw [this])
  exact (abs_refines s w u hs hw hu).safe_val E.1 E.2

example : (mpz_abs ex 0 1).ok = true ∧ view ((mpz_abs ex 0 1).h 0) = ⟨2, 2, [B - 1, B - 1]⟩ := by decide

/-- mpz_set_ui (mpz/set_ui.c): the store `dest->_mp_d[0] = val` is not preceded by any realloc; it is safe
    because a well-formed object has at least one limb ("never allocate zero space", realloc.c:31). -/
theorem mpz_set_ui_alloc_safe (s : St) (w : Nat) (val : Nat) (hs : s.ok = true) (hw : OWF (s.h w)) (hv : val < B) :
    Safe s (mpz_set_ui s w val) w ⟨(s.h w).buf.alloc, (if val != 0 then 1 else 0 : Nat), [val].take (if val != 0 then 1 else 0)⟩ ∧
    Mpz.toInt (view ((mpz_set_ui s w val).h w)) = (val : Int) := by
  simpa [mpz_set_ui, Mpz.sgn] using set1_safe s w val false hs hw hv

-- a one-limb destination that held a two-limb-allocated value; and the WRONG world: a zero-limb block
example : (mpz_set_ui ex 1 5).ok = true ∧ view ((mpz_set_ui ex 1 5).h 1) = ⟨2, 1, [5]⟩ := by decide
example : (mpz_set_ui ⟨fun _ => ⟨0, 0, ⟨0, []⟩⟩, true⟩ 0 5).ok = false := by decide

/-- mpz_set_si (mpz/set_si.c), `val` in the range of `long`. -/
theorem mpz_set_si_alloc_safe (s : St) (w : Nat) (val : Int) (hs : s.ok = true) (hw : OWF (s.h w))
    (hv : val.natAbs < B) :
    Safe s (mpz_set_si s w val) w
      ⟨(s.h w).buf.alloc, Mpz.sgn (decide (val < 0)) (if val.natAbs != 0 then 1 else 0),
        [val.natAbs].take (if val.natAbs != 0 then 1 else 0)⟩ ∧
    Mpz.toInt (view ((mpz_set_si s w val).h w)) = val := by
  have hmod : val.natAbs % B = val.natAbs := Nat.mod_eq_of_lt hv
  have h := set1_safe s w val.natAbs (decide (val < 0)) hs hw hv
  have e : (if decide (val < 0) = true then -(val.natAbs : Int) else val.natAbs) = val := by
    simp only [decide_eq_true_eq]; split <;> omega
  rw [e] at h
  simpa [mpz_set_si, hmod] using h

example : view ((mpz_set_si ex 1 (-5)).h 1) = ⟨2, -1, [5]⟩ ∧ (mpz_set_si ex 1 (-5)).ok = true := by decide

/-- mpz_mul_2exp (mpz/mul_2exp.c): `MPZ_REALLOC (w, |usize| + limb_cnt + 1)` covers the shifted limbs written at
    `wp + limb_cnt`, the limb shifted out stored at `wp[|usize| + limb_cnt]`, and the zeroed low limbs — also in
    place (`MPN_ZERO` after the shift, "not to lose for U == W"); exact product. -/
theorem mpz_mul_2exp_alloc_safe (s : St) (w u : Nat) (cnt : Nat) (hs : s.ok = true)
    (hw : OWF (s.h w)) (hu : OWF (s.h u)) :
    Safe s (mpz_mul_2exp s w u cnt) w (Mpz.mul_2exp (view (s.h w)) (view (s.h u)) cnt) ∧
    Mpz.toInt (view ((mpz_mul_2exp s w u cnt).h w)) = Mpz.toInt (view (s.h u)) * 2 ^ cnt := by
  have E := Mpz.mul_2exp_spec (view (s.h w)) (view (s.h u)) cnt hw.alloc_pos hu.2
  exact (mul_2exp_refines s w u cnt hs hw hu).safe_val E.1 E.2

-- (B^2-1) << 65 in place: block grown 2 → 4, one zero limb below, the bit shifted out in a new top limb
example : (mpz_mul_2exp ex 1 1 65).ok = true ∧
    view ((mpz_mul_2exp ex 1 1 65).h 1) = ⟨4, 4, [0, B - 2, B - 1, 1]⟩ := by decide
-- negative: `wsize = abs_usize + limb_cnt` without the +1 — `wp[wsize] = wlimb` is outside the block
example : (mul_2exp 0 ex 1 1 65).ok = false := by decide
-- … which goes unnoticed whenever no bit is shifted out of the top limb
example : (mul_2exp 0 ex 0 2 65).ok = true := by decide

/-- mpz_com (mpz/com.c), the memory half: no bad access for every alias pattern and allocation (`size + 1` limbs
    cover the carry store of the non-negative case, `size` limbs the negative case incl. the read of
    `dst_ptr[size - 1]`), nothing else touched, and the destination equals the list-level result `Spec.com`
    (Mpir/Model/AllocSafeMpz.lean).  With `Mpz.WF (Spec.com ..)` and the value `-u - 1`: `mpz_com_alloc_safe`
    (C04_allocsafe2.lean). -/
theorem mpz_com_alloc_safe_partial (s : St) (w u : Nat) (hs : s.ok = true) (hw : OWF (s.h w)) (hu : OWF (s.h u)) :
    (mpz_com s w u).ok = true ∧ BWF ((mpz_com s w u).h w).buf ∧ (∀ x, x ≠ w → (mpz_com s w u).h x = s.h x) ∧
    view ((mpz_com s w u).h w) = Spec.com (view (s.h w)) (view (s.h u)) := by
  have R := com_refines s w u hs hw hu
  exact ⟨R.ok, R.bwf, R.frame, R.view⟩

-- ~(B^2-1) = -B^2 in place: three limbs in a block grown 2 → 3; ~0 = -1 into the one-limb destination
example : (mpz_com ex 1 1).ok = true ∧ view ((mpz_com ex 1 1).h 1) = ⟨3, -3, [0, 0, 1]⟩ := by decide
example : (mpz_com ex 0 0).ok = true ∧ view ((mpz_com ex 0 0).h 0) = ⟨1, -1, [1]⟩ := by decide
-- negative: `_mpz_realloc (dst, size)` without the +1
example : (com 0 ex 1 1).ok = false := by decide

/-- mpz_tdiv_q_2exp (mpz/tdiv_q_2exp.c), the memory half: no bad access (the source is read at
    `up + limb_cnt` for `wsize = |usize| - limb_cnt` limbs — inside the operand; `wp[wsize - 1]` is inside what was
    just written), nothing else touched, destination = the list-level result `Spec.tdiv_q_2exp`.  With
    `Mpz.WF (Spec.tdiv_q_2exp ..)` and `toInt = Int.tdiv (toInt u) (2 ^ cnt)`: `mpz_tdiv_q_2exp_alloc_safe`
    (C04_allocsafe2.lean). -/
theorem mpz_tdiv_q_2exp_alloc_safe_partial (s : St) (w u : Nat) (cnt : Nat) (hs : s.ok = true)
    (hw : OWF (s.h w)) (hu : OWF (s.h u)) :
    (mpz_tdiv_q_2exp s w u cnt).ok = true ∧ BWF ((mpz_tdiv_q_2exp s w u cnt).h w).buf ∧
    (∀ x, x ≠ w → (mpz_tdiv_q_2exp s w u cnt).h x = s.h x) ∧
    view ((mpz_tdiv_q_2exp s w u cnt).h w) = Spec.tdiv_q_2exp (view (s.h w)) (view (s.h u)) cnt := by
  have R := tdiv_q_2exp_refines s w u cnt hs hw hu
  exact ⟨R.ok, R.bwf, R.frame, R.view⟩

-- (B^2-1) >> 65 = 2^63 - 1 into the one-limb destination, and in place
example : (mpz_tdiv_q_2exp ex 0 1 65).ok = true ∧ view ((mpz_tdiv_q_2exp ex 0 1 65).h 0) = ⟨1, 1, [2 ^ 63 - 1]⟩ := by decide
example : (mpz_tdiv_q_2exp ex 1 1 64).ok = true ∧ view ((mpz_tdiv_q_2exp ex 1 1 64).h 1) = ⟨2, 1, [B - 1]⟩ := by decide

end Mpir.AllocSafe
