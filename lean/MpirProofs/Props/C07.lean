/-
  C07 — GCD, extended GCD, LCM, modular inverse, Jacobi/Kronecker.
  Property theorems only; helper lemmas live in MpirProofs/Lemmas/Gcd*.lean.  Every theorem is about the
  executable models in Mpir/Model/Gcd.lean, which the correspondence check runs against the real library.
-/
import MpirProofs.Lemmas.GcdLoop
import MpirProofs.Lemmas.GcdMpz
import MpirProofs.Lemmas.GcdExt1
import MpirProofs.Lemmas.GcdExtZ
import MpirProofs.Lemmas.GcdJacobi
import MpirProofs.Lemmas.GcdKronW
import MpirProofs.Lemmas.GcdLehmer
import MpirProofs.Lemmas.GcdDiv
import MpirProofs.Lemmas.Hgcd2
import MpirProofs.Lemmas.GcdextLehmer2
namespace Mpir.C07
open Mpir Mpir.Gcd

/-! ## The reduction invariant (backbone of mpn_gcd, mpn_gcdext, mpn_hgcd, Lehmer steps) -/

/-- One step by a non-negative matrix of determinant 1 — (a, b) = M·(a', b'), cofactor row multiplied
    by M — preserves the gcd and carries the cofactor relation a = u1·A - v1·B, b = -u0·A + v0·B
    (with v0·u1 - v1·u0 = 1) over to the new state. -/
theorem red_preserves (m : M1) (s s' : RState) (h : StepOk m s s') :
    Nat.gcd s.a s.b = Nat.gcd s'.a s'.b ∧
    ∀ A B v0 v1, CofInv A B s v0 v1 → CofInv A B s' (v0 * m.u00 + v1 * m.u10) (v0 * m.u01 + v1 * m.u11) :=
  ⟨mrel_gcd (stepOk_iff.mp h).1, fun _ _ _ _ hc => stepOk_cof h hc⟩

-- non-vacuity: the division step 240 = 5·46 + 10 as the matrix (1 5; 0 1)
example : StepOk ⟨1, 5, 0, 1⟩ ⟨240, 46, 0, 1⟩ ⟨10, 46, 0, 1⟩ := by decide
example : Nat.gcd 240 46 = Nat.gcd 10 46 := (red_preserves ⟨1, 5, 0, 1⟩ ⟨240, 46, 0, 1⟩ ⟨10, 46, 0, 1⟩ (by decide)).1

/-- the relation "s' is obtained from s by a proper step": M ≠ identity and both new entries positive
    (what hgcd2 and the subtract/divide steps produce). -/
def ProperStep (s' s : RState) : Prop :=
  ∃ m, StepOk m s s' ∧ (m.u01 ≠ 0 ∨ m.u10 ≠ 0) ∧ 0 < s'.a ∧ 0 < s'.b

/-- ANY sequence of steps satisfying the step contract, started from (A, B) with cofactors (0, 1),
    keeps gcd(a, b) = gcd(A, B) and the cofactor relation; hence when it stops at b = 0, a = 0 or
    a = b the surviving value is the gcd and the cofactor the C returns (+u1, -u0, or the one
    `pickCofactor` selects) is a valid first Bezout coefficient. -/
theorem gcd_loop_correct (A B : Nat) (s : RState) (h : Reach ⟨A, B, 0, 1⟩ s) :
    Nat.gcd s.a s.b = Nat.gcd A B ∧
    (∃ v0 v1, CofInv A B s v0 v1) ∧
    (s.b = 0 → s.a = Nat.gcd A B ∧ ∃ t : Int, (A : Int) * s.u1 + B * t = Nat.gcd A B) ∧
    (s.a = 0 → s.b = Nat.gcd A B ∧ ∃ t : Int, (A : Int) * (-(s.u0 : Int)) + B * t = Nat.gcd A B) ∧
    (s.a = s.b → s.a = Nat.gcd A B ∧
        ∀ d, ∃ t : Int, (A : Int) * pickCofactor s.u0 s.u1 d + B * t = Nat.gcd A B) := by
  obtain ⟨hg, hc⟩ := reach_inv h (A := A) (B := B)
  obtain ⟨v0, v1, hd, ca, cb⟩ := hc 1 0 (cofInv_init A B)
  simp only at hg
  have ea : ∃ t : Int, (A : Int) * s.u1 + B * t = s.a := ⟨-(v1 : Int), by rw [ca]; ring⟩
  have eb : ∃ t : Int, (A : Int) * (-(s.u0 : Int)) + B * t = s.b := ⟨(v0 : Int), by rw [cb]; ring⟩
  refine ⟨hg.symm, ⟨v0, v1, hd, ca, cb⟩, ?_, ?_, ?_⟩
  · intro hb0
    have : s.a = Nat.gcd A B := by rw [hg, hb0, Nat.gcd_zero_right]
    exact ⟨this, by rw [← this]; exact ea⟩
  · intro ha0
    have : s.b = Nat.gcd A B := by rw [hg, ha0, Nat.gcd_zero_left]
    exact ⟨this, by rw [← this]; exact eb⟩
  · intro hab
    have : s.a = Nat.gcd A B := by rw [hg, ← hab, Nat.gcd_self]
    refine ⟨this, fun d => ?_⟩
    rcases pickCofactor_cases s.u0 s.u1 d with e | e <;> rw [e]
    · rw [← this, hab]; exact eb
    · rw [← this]; exact ea

-- non-vacuity: two division steps of the Euclidean algorithm on (240, 46) as contract steps
example : Reach ⟨240, 46, 0, 1⟩ ⟨10, 6, 4, 1⟩ :=
  .step (s' := ⟨10, 46, 0, 1⟩) ⟨1, 5, 0, 1⟩ (by decide) (.step (s' := ⟨10, 6, 4, 1⟩) ⟨1, 0, 4, 1⟩ (by decide) (.refl _))

/-- the measure a + b strictly decreases along proper steps, so every step sequence is finite. -/
theorem gcd_loop_terminates : WellFounded ProperStep := by
  apply Subrelation.wf (r := InvImage (· < ·) (fun s : RState => s.a + s.b))
  · intro s' s ⟨m, h, hne, ha, hb⟩
    exact mrel_decreases (stepOk_iff.mp h).1 hne ha hb
  · exact InvImage.wf _ Nat.lt_wfRel.wf

example : ProperStep ⟨10, 46, 0, 1⟩ ⟨240, 46, 0, 1⟩ := ⟨⟨1, 5, 0, 1⟩, by decide, by decide, by decide, by decide⟩

/-- PARTIAL (full statement: `MpnGcdContract` holds outright).  The executable value-level model of
    mpn_gcd — initial division, the Lehmer loop (mpn_hgcd2 on the top two limbs, else
    mpn_gcd_subdiv_step), the n ≤ 2 endgame with gcd_2 and mpn_gcd_1 — returns gcd(U, V) on every call
    satisfying the C's ASSERTs, ASSUMING the contract of mpn_hgcd2 (`Hgcd2Contract`: a returned matrix
    is unimodular, not the identity, M⁻¹(a; b) is positive and loses at most one limb).  What is
    missing here: a proof of `Hgcd2Contract` for the translated hgcd2 (the Lehmer/Jebelean condition) — that is
    `hgcd2_contract`, see `mpn_gcd_correct` below; this is the statement relative to the contract.  Every executable
    step is shown to be an instance of the abstract step contract, and fuel U + V + 1 is proved sufficient (termination). -/
theorem mpn_gcd_correct_partial (hh : Hgcd2Contract) : MpnGcdContract := mpn_gcd_of_hgcd2 hh

example : mpn_gcd (3 ^ 50 * 7 ^ 30) 3 (3 ^ 45 * 5 ^ 20) 2 = 3 ^ 45 := by decide +kernel
example : (subdivStep 240 46).a = 10 ∧ (subdivStep 240 46).b = 46 := by decide +kernel

/-- PARTIAL (full statement: `MpnGcdextContract`, i.e. additionally the normalisation S = 1 ∨
    2·G·|S| < V, S = 0 ↔ V ∣ U, and all sizes).  The executable value-level model of mpn_gcdext below
    GCDEXT_DC_THRESHOLD — initial division, mpn_gcdext_lehmer_n with the cofactor hooks of
    mpn_gcd_subdiv_step, the mpn_hgcd_mul_matrix1_vector updates, the final mpn_gcdext_1 combination
    S = u·u1 - v·u0 and the "smaller cofactor" choices — returns G = gcd(U, V) and a cofactor with
    V ∣ G - U·S, ASSUMING the hgcd2 contract (discharged in `mpn_gcdext_identity` below).  Missing: the size bound of the cofactor (needs the
    |u0|, |u1| ≤ B/min(a, b) analysis) and the mpn_hgcd range. -/
theorem mpn_gcdext_identity_partial (hh : Hgcd2Contract) (U V : Nat) (hV0 : 0 < V)
    (hle : nlimbs V ≤ nlimbs U) (hlt : nlimbs V < GCDEXT_DC_THRESHOLD) :
    (mpn_gcdext U (nlimbs U) V (nlimbs V)).1 = Nat.gcd U V ∧
    (((mpn_gcdext U (nlimbs U) V (nlimbs V)).1 : Int) - U * (mpn_gcdext U (nlimbs U) V (nlimbs V)).2) % V = 0 :=
  -- the lemma also speaks of the sized model over an arbitrary mpn_hgcd `hg`; that half is not used here
  let h := (Mpir.Gcdext.mpnGcdext_lehmer_spec hh (fun _ a b M => ⟨0, a, b, M⟩) U V hV0 hle hlt).1
  ⟨h.1, h.2.1⟩

example : mpn_gcdext 240 1 46 1 = (2, -9) := by decide +kernel
example : mpn_gcdext (3 ^ 50 * 7 ^ 30) 3 (3 ^ 45 * 5 ^ 20) 2 = (3 ^ 45, 14541962523518) := by decide +kernel

/-! ## mpn_hgcd2 and the unconditional Lehmer theorems -/

/-- mpn_hgcd2 on the 128-bit inputs (ah, al), (bh, bl) (model `hgcd2`: initial subtraction, the double
    precision loop with `div2`, the switch to single precision on the top 64 of 96 bits, the single
    precision loop with `div1`, every `goto done` / `break`): whenever it returns 1, the matrix M has
    determinant 1, is not the identity, its row sums are below 2^63 (entries fit GMP_LIMB_BITS - 1
    bits; in particular no `u += q * u'` ever wrapped), and M·(x; y) = (A; B) holds EXACTLY over the
    naturals for some x, y ≥ 3·2^63 — so x = u11·A - u01·B and y = u00·B - u10·A are non-negative
    although the single precision loop only saw truncated values.
    No termination argument is needed: the invariant holds at each of the four program points. -/
theorem hgcd2_exact (ah al bh bl : Nat) (m : M1) (hah : ah < B) (hal : al < B) (hbh : bh < B) (hbl : bl < B)
    (h : hgcd2 ah al bh bl = some m) :
    m.u00 * m.u11 = m.u01 * m.u10 + 1 ∧ (m.u01 ≠ 0 ∨ m.u10 ≠ 0) ∧
    m.u00 + m.u01 < 2 ^ 63 ∧ m.u10 + m.u11 < 2 ^ 63 ∧
    ∃ x y, ah * B + al = m.u00 * x + m.u01 * y ∧ bh * B + bl = m.u10 * x + m.u11 * y ∧
      3 * 2 ^ 63 ≤ x ∧ 3 * 2 ^ 63 ≤ y := by
  obtain ⟨x, y, ⟨hd, eX, eY⟩, hx, hy, hn, e1, e2⟩ := hgcd2_post ah al bh bl m hah hal hbh hbl h
  exact ⟨hd, hn, e1, e2, x, y, eX, eY, hx, hy⟩

-- non-vacuity: a call that runs through both the double and the single precision loop
example : hgcd2 (2 ^ 63 + 5) 12345 (2 ^ 62 + 77) 999
    = some ⟨804723734759141517, 619018257507031936, 402361867379570765, 309509128753515973⟩ := by decide +kernel
example : hgcd2 1 0 5 0 = none := by decide +kernel

/-- The contract of mpn_hgcd2 that the Lehmer loops rely on (the Lehmer–Jebelean condition): for ANY
    a, b < B^n (n ≥ 2, one of them with a non-zero top limb), if hgcd2 applied to the top two limbs
    after the common normalising shift (`top2`: MPN_EXTRACT_NUMB of the top two/three limbs) returns M,
    then det M = 1, M ≠ I, both components of M⁻¹(a; b) are positive, and they still have at least
    n - 1 limbs — whatever the lower limbs of a and b are. -/
theorem hgcd2_contract : Hgcd2Contract := Mpir.Gcd.hgcd2_contract

-- non-vacuity: a three-limb pair on which the Lehmer loop's hgcd2 call succeeds
example : LInv (3 ^ 100) (5 ^ 60) 3 ∧
    hgcd2 (top2 (3 ^ 100) (5 ^ 60) 3).1 (top2 (3 ^ 100) (5 ^ 60) 3).2.1 (top2 (3 ^ 100) (5 ^ 60) 3).2.2.1
      (top2 (3 ^ 100) (5 ^ 60) 3).2.2.2
      = some ⟨2758966339248604022, 736192108336833281, 4643240620319, 1238984707120⟩ :=
  ⟨by unfold LInv; decide +kernel, by decide +kernel⟩

/-- mpn_gcd (value-level executable model: initial division, the Lehmer loop with mpn_hgcd2 on the top
    two limbs or else mpn_gcd_subdiv_step, the n ≤ 2 endgame with gcd_2 and mpn_gcd_1) returns
    gcd(U, V) on every call satisfying the C's ASSERTs (usize ≥ n > 0, V odd with non-zero top limb).
    Unconditional: the hgcd2 contract is proved (`hgcd2_contract`), fuel U + V + 1 is proved
    sufficient. -/
theorem mpn_gcd_correct : MpnGcdContract := mpn_gcd_of_hgcd2 Mpir.Gcd.hgcd2_contract

example : mpn_gcd (3 ^ 100 * 7) 3 (5 ^ 60 * 7) 3 = 7 := by decide +kernel

/-- PARTIAL w.r.t. `MpnGcdextContract` (still missing: the normalisation S = 1 ∨ 2·G·|S| < V,
    S = 0 ↔ V ∣ U, and the mpn_hgcd range n ≥ GCDEXT_DC_THRESHOLD), but without assuming anything
    about mpn_hgcd2: the executable model of mpn_gcdext below GCDEXT_DC_THRESHOLD returns G = gcd(U, V)
    and a cofactor S with V ∣ G - U·S. -/
theorem mpn_gcdext_identity (U V : Nat) (hV0 : 0 < V)
    (hle : nlimbs V ≤ nlimbs U) (hlt : nlimbs V < GCDEXT_DC_THRESHOLD) :
    (mpn_gcdext U (nlimbs U) V (nlimbs V)).1 = Nat.gcd U V ∧
    (((mpn_gcdext U (nlimbs U) V (nlimbs V)).1 : Int) - U * (mpn_gcdext U (nlimbs U) V (nlimbs V)).2) % V = 0 :=
  mpn_gcdext_identity_partial Mpir.Gcd.hgcd2_contract U V hV0 hle hlt

example : mpn_gcdext (3 ^ 100 * 7) 3 (5 ^ 60 * 7) 3 = (7, -178542298016104659201242269581302973131374) := by
  decide +kernel

/-- mpz_gcd, mpz_lcm, mpz_lcm_ui for all integers, with no remaining contract hypothesis (the
    mpn_gcd contract is `mpn_gcd_correct`). -/
theorem mpz_gcd_lcm_correct (u v : Int) (w : Nat) (hw : w < B) :
    mpz_gcd u v = (Int.gcd u v : Nat) ∧ mpz_lcm u v = lcmSpec u v ∧ mpz_lcm_ui u w = lcmSpec u w :=
  ⟨mpz_gcd_correct mpn_gcd_correct u v, mpz_lcm_correct mpn_gcd_correct u v, mpz_lcm_ui_correct u w hw⟩

example : mpz_gcd (-(3 ^ 100 * 7)) (5 ^ 60 * 14) = 7 := by decide +kernel

/-! ## Single-limb functions -/

/-- mpn_gcd_1 (strip twos, modexact reduction for several limbs, `u %= v` shortcut, binary loop on
    (u-1)/2, (v-1)/2 with the mask tricks of GCD_1_METHOD 2): the model returns gcd({up,n}, vlimb) for
    every input of its domain (n ≥ 1 limbs, value ≠ 0, vlimb ≠ 0).  Termination: the loop's fuel
    u + v is proved sufficient (`gcd1Loop_spec`). -/
theorem gcd_1_spec (up : List Nat) (v : Nat) (hl : Limbs up) (hu : val up ≠ 0) (hv0 : 0 < v) (hvB : v < B) :
    gcd_1 up v = Nat.gcd (val up) v :=
  gcd_1_correct up v hl hu hv0 hvB

example : gcd_1 [12, 5] 18 = 2 := by decide +kernel
example : gcd_1 [12 * 3 ^ 20] (18 * 3 ^ 21) = 6 * 3 ^ 20 := by decide +kernel

/-- mpn_gcdext_1 (Euclid variant with signed single-word cofactors): g = gcd, a·s + b·t = g, and the
    two's-complement stores never wrap (all cofactors stay in [-2^63, 2^63)). -/
theorem gcdext_1_spec (a b : Nat) (ha : 0 < a) (hb : 0 < b) (haB : a < B) (hbB : b < B) :
    (gcdext_1 a b).1 = Nat.gcd a b ∧
    (a : Int) * (gcdext_1 a b).2.1 + (b : Int) * (gcdext_1 a b).2.2 = Nat.gcd a b ∧
    -(2:Int)^63 ≤ (gcdext_1 a b).2.1 ∧ (gcdext_1 a b).2.1 < 2^63 ∧
    -(2:Int)^63 ≤ (gcdext_1 a b).2.2 ∧ (gcdext_1 a b).2.2 < 2^63 :=
  Mpir.Gcd.gcdext_1_spec a b ha hb haB hbB

example : gcdext_1 240 46 = (2, -9, 47) := by decide

/-- div1 and div2 of hgcd2.c (shift-subtract division tuned for small quotients, both the
    "numerator has its top bit set" and the "double the divisor while it fits" branches): quotient and
    remainder of the true division, for every single-limb n, d ≠ 0 resp. two-limb n and d ≥ B. -/
theorem div1_div2_spec :
    (∀ n d : Nat, n < B → 0 < d → d < B → (div1 n d).1 = n / d ∧ (div1 n d).2 = n % d) ∧
    (∀ n d : Nat, n < B * B → B ≤ d → d < B * B → (div2 n d).1 = n / d ∧ (div2 n d).2 = n % d) :=
  ⟨fun n d hn h0 _ => div1_spec n d hn h0, fun n d hn h0 hd => div2_spec n d hn h0 hd⟩

example : div1 (B - 1) 3 = (6148914691236517205, 0) := by decide +kernel
example : div2 (2 ^ 127 - 1) (3 * B + 5) = (3074457345618258602, 21521201419327810221) := by decide +kernel

/-! ## mpz wrappers -/

/-- mpz_gcd (zero operands, single-limb shortcut through mpn_gcd_1, stripping of common low zero
    limbs and bits, operand ordering for mpn_gcd, shifting back): the non-negative gcd for all signs,
    given the mpn_gcd contract `MpnGcdContract` (mpn_gcd = gcd whenever usize ≥ n > 0, V odd). -/
theorem mpz_gcd_spec (hc : MpnGcdContract) (u v : Int) : mpz_gcd u v = (Int.gcd u v : Nat) :=
  mpz_gcd_correct hc u v

/-- mpz_gcd_ui: the value stored is the gcd; the return value is the gcd if it fits an unsigned
    long and 0 otherwise (only possible for v = 0).  No mpn contract needed (only mpn_gcd_1). -/
theorem mpz_gcd_ui_spec (u : Int) (v : Nat) (hv : v < B) :
    (mpz_gcd_ui u v).1 = (Int.gcd u v : Nat) ∧
    (mpz_gcd_ui u v).2 = (if Int.gcd u v < B then Int.gcd u v else 0) :=
  mpz_gcd_ui_correct u v hv

example : mpz_gcd_ui (-(2 ^ 70)) 0 = (2 ^ 70, 0) := by decide +kernel
example : mpz_gcd_ui (-(12 : Int)) 18 = (6, 6) := by decide +kernel

/-- mpz_lcm and mpz_lcm_ui: |a·b| / gcd(a, b), zero if either operand is zero, never negative. -/
theorem lcm_spec (hc : MpnGcdContract) (u v : Int) (w : Nat) (hw : w < B) :
    mpz_lcm u v = lcmSpec u v ∧ mpz_lcm_ui u w = lcmSpec u w ∧ 0 ≤ lcmSpec u v :=
  ⟨mpz_lcm_correct hc u v, mpz_lcm_ui_correct u w hw, by unfold lcmSpec; split <;> first | exact le_refl 0 | exact Int.natCast_nonneg _⟩

example : mpz_lcm_ui (-12) 18 = 36 := by decide +kernel
example : lcmSpec (-12) 18 = 36 := by decide

/-- mpz_gcdext (operand swap by limb count, zero operand, sign fix of the first cofactor, second
    cofactor by (g - a·s)/b, exchange of the outputs after a swap): for all a, b the triple satisfies
    the manual's full contract `gcdextOk` — g = gcd ≥ 0, a·s + b·t = g, |s| < |b|/(2g), |t| < |a|/(2g)
    with the special cases |a| = |b|, b ∣ a, |b| = 2g, |a| = 2g, zero operands, and s = 0 ↔ g = |b| —
    given only the documented contract of mpn_gcdext for its single cofactor (`MpnGcdextContract`,
    on calls satisfying the C's ASSERTs).  The normalisation of the second cofactor is derived. -/
theorem mpz_gcdext_spec (hc : MpnGcdextContract) (a b : Int) :
    gcdextOk a b (mpz_gcdext a b).1 (mpz_gcdext a b).2.1 (mpz_gcdext a b).2.2 :=
  Mpir.Gcd.mpz_gcdext_spec hc a b

example : mpz_gcdext 240 46 = (2, -9, 47) := by decide +kernel
example : gcdextOk 240 46 2 (-9) 47 := by decide
example : ¬ gcdextOk 240 46 2 14 (-73) := by decide

/-- the manual's conditions determine (g, s, t) uniquely ("these relations define s and t uniquely"). -/
theorem gcdext_unique (a b g s t g' s' t' : Int) :
    gcdextOk a b g s t → gcdextOk a b g' s' t' → g = g' ∧ s = s' ∧ t = t' :=
  gcdextOk_unique a b g s t g' s' t'

/-- mpz_invert for a modulus of absolute value above 1: returns non-zero iff gcd(a, m) = 1, and then
    the result r satisfies 0 ≤ r < |m| and a·r ≡ 1 (mod m); for every sign of a and m. -/
theorem invert_spec (hc : MpnGcdextContract) (a m : Int) (hm : 1 < m.natAbs) :
    match mpz_invert a m with
    | none => invertOk a m 0 0
    | some r => invertOk a m 1 r :=
  Mpir.Gcd.invert_spec hc a m hm

example : mpz_invert (-3) (-7) = some 2 := by decide +kernel
example : mpz_invert 6 9 = none := by decide +kernel

/-! ## Jacobi / Kronecker -/

/-- mpn_jacobi_base (JACOBI_BASE_METHOD 1): for odd b > 1 the model returns the Jacobi symbol
    (Mathlib's `jacobiSym`), negated iff bit 1 of the incoming `result_bit1` is set. -/
theorem jacobi_base_spec (a b bit : Nat) (hb : b % 2 = 1) (hb1 : 1 < b) :
    jacobi_base a b bit = bit1ToPN bit * jacobiSym a b :=
  Mpir.Gcd.jacobi_base_spec a b bit hb hb1

example : jacobi_base 1001 9907 0 = -1 := by decide +kernel

/-- the executable reference `kronecker` (Cohen 1.4.10) used by the driver as specification equals
    the mathematical Kronecker symbol built from Mathlib's Jacobi symbol, for all integers. -/
theorem kronecker_spec (a b : ℤ) : kronecker a b = kronSym a b := kronecker_eq_kronSym a b

example : kronecker (-15) 28 = -1 := by decide +kernel

/-- mpz_kronecker_ui, mpz_kronecker_si, mpz_ui_kronecker, mpz_si_kronecker (removal of twos with the
    (2/a) rule, sign rules for negative operands, zero cases, stripping of low zero limbs of b, the
    b = 2^63·B^k special case, reduction by mpn_modexact_1_odd with its (-1/b) correction, reciprocity
    when the small operand is on top): each model returns the Kronecker symbol `kronSym` for every
    sign, parity and zero combination — no word-size restriction is needed. -/
theorem kronecker_wrappers_spec :
    (∀ (a : ℤ) (b : Nat), mpz_kronecker_ui a b = kronSym a b) ∧
    (∀ a b : ℤ, mpz_kronecker_si a b = kronSym a b) ∧
    (∀ (a : Nat) (b : ℤ), mpz_ui_kronecker a b = kronSym a b) ∧
    (∀ a b : ℤ, mpz_si_kronecker a b = kronSym a b) :=
  Mpir.Gcd.kronecker_wrappers_spec

example : mpz_kronecker_si (-(2 ^ 70 + 7)) (-24) = -1 := by decide +kernel
example : mpz_ui_kronecker 21 (-(2 ^ 64 * 2 ^ 63)) = -1 := by decide +kernel

/-- mpz_jacobi = mpz_legendre = mpz_kronecker (zero operands, common factor two, signs, low zero
    limbs, the shifted low limb `blow`, operand swap by generalised reciprocity, single-limb branch
    through modexact + mpn_jacobi_base, general branch through mpn_jacobi_n): the model returns the
    Kronecker symbol for all integers a, b.  (mpn_jacobi_n itself is modelled by its specification.) -/
theorem mpz_jacobi_spec (a b : ℤ) : mpz_jacobi a b = kronSym a b := Mpir.Gcd.mpz_jacobi_spec a b

example : mpz_jacobi (2 ^ 63 * 2 ^ 64 * 7) (-(2 ^ 130 + 3)) = -1 := by decide +kernel

end Mpir.C07
