/-
  C16, part sieve — the prime sieve of primesieve.c and the functions built on it.  Property theorems only;
  helper lemmas live in MpirProofs/Lemmas/Sieve*.lean, Swing*.lean, Goet.lean, Primorial.lean, NextPrime.lean,
  BinTop.lean.  The theorems are about the executable models of Mpir/Model/Sieve.lean (statement-by-statement
  mirrors of the C, compared with the real library on every run through the ops of harness/ops_sieve.c).
-/
import MpirProofs.Lemmas.SieveTop
import MpirProofs.Lemmas.SwingAsm
import MpirProofs.Lemmas.Goet
import MpirProofs.Lemmas.Primorial
import MpirProofs.Lemmas.NextPrime
import MpirProofs.Lemmas.SieveUse
import MpirProofs.Lemmas.BinTop
namespace Mpir.Sieve
open Mpir Mpir.Numth

/-! ## The bit ↔ number maps -/

/-- `id_to_n` / `n_to_bit` (primesieve.c:75, :79): bit i stands for id_to_n (i+1), the (i+1)-st number ≥ 5 coprime
    to 6; these numbers are strictly increasing, every number ≥ 5 coprime to 6 occurs, `n_to_bit` inverts the
    enumeration, and the bits of the sieve of n (0 … n_to_bit n) are exactly those whose number is ≤ n. -/
theorem sieve_index_maps :
    (∀ i, id_to_n (i + 1) % 6 = 1 ∨ id_to_n (i + 1) % 6 = 5) ∧ (∀ i, 5 ≤ id_to_n (i + 1)) ∧
    (∀ i j, i < j → id_to_n (i + 1) < id_to_n (j + 1)) ∧
    (∀ i, i < B / 4 → n_to_bit (id_to_n (i + 1)) = i) ∧
    (∀ m, 5 ≤ m → m < B → (m % 6 = 1 ∨ m % 6 = 5) → id_to_n (n_to_bit m + 1) = m) ∧
    (∀ n i, 5 ≤ n → n < B → (i ≤ n_to_bit n ↔ id_to_n (i + 1) ≤ n)) := by
  refine ⟨fun i => ?_, fun i => ?_, fun i j h => ?_, fun i hi => ?_, fun m h5 hB h6 => ?_, fun n i h5 hB => ?_⟩
  · rw [← bit_to_n_eq_id]; exact bit_to_n_mod6 i
  · rw [← bit_to_n_eq_id]; exact bit_to_n_ge i
  · rw [← bit_to_n_eq_id, ← bit_to_n_eq_id]; exact bit_to_n_lt h
  · rw [← bit_to_n_eq_id, n_to_bit_eq_nb _ (bit_to_n_ge i) (by rw [bit_to_n_eq, B_eq]; rw [B_eq] at hi; omega), nb_bit_to_n]
  · rw [← bit_to_n_eq_id, n_to_bit_eq_nb m h5 hB, bit_to_n_nb m h5 h6]
  · rw [← bit_to_n_eq_id, n_to_bit_eq_nb n h5 hB, le_nb_iff i n h5]
example : id_to_n 1 = 5 ∧ id_to_n 2 = 7 ∧ id_to_n 3 = 11 ∧ id_to_n 8 = 25 ∧ n_to_bit 25 = 7 ∧ n_to_bit 26 = 7 ∧
    n_to_bit 28 = 7 ∧ n_to_bit 29 = 8 := by decide

/-! ## gmp_primesieve -/

/-- **gmp_primesieve** (model of primesieve.c:250-276 with `first_block_primesieve` :109-172 — seed limb, padding,
    the outer `do … while (1)` with its `break`, the two stride loops with the rotating mask — and, above
    2·BLOCK_SIZE limbs, `block_resieve` :174-230 over consecutive blocks, including the `continue` that leaves
    `__mask`/`__index` behind `__i`): for EVERY n with 4 < n < 2^64 (the C's `ASSERT (n > 4)`; n is a limb)
    * the loops never read beyond the array (`some`), the result has primesieve_size(n) = n_to_bit(n)/64 + 1 limbs;
    * bit i, 0 ≤ i ≤ n_to_bit n, is 0 exactly when id_to_n (i+1) is prime — all block boundaries included;
    * the remaining bits of the last limb are 1;
    * the returned count is π(n) − 2, the number of primes in [4, n]. -/
theorem gmp_primesieve_spec (n : ℕ) (h4 : 4 < n) (hn : n < B) :
    ∃ a c, gmp_primesieve n = some (a, c) ∧
      a.size = n_to_bit n / 64 + 1 ∧ (∀ x ∈ a, x < B) ∧
      (∀ i ≤ n_to_bit n, (sieveBit a i = false ↔ (id_to_n (i + 1)).Prime)) ∧
      (∀ i, n_to_bit n < i → i < 64 * a.size → sieveBit a i = true) ∧
      c = Nat.primeCounting n - 2 := by
  obtain ⟨a, e, hs, hl, hb, hp⟩ := gmp_primesieve_struct n h4 hn
  rw [n_to_bit_eq_nb n (by omega) hn]
  refine ⟨a, _, e, hs, fun x hx => ?_, fun i hi => ?_, hp, sieve_count a n (by omega) hs hl hb hp⟩
  · obtain ⟨i, hi, rfl⟩ := Array.getElem_of_mem hx
    have := hl i
    rwa [Array.getD_eq_getD_getElem?, Array.getElem?_eq_getElem hi, Option.getD_some] at this
  · rw [← bit_to_n_eq_id, ← Bool.not_eq_true, hb i hi, not_not]; rfl
example : gmp_primesieve 100 = some (#[0x3294C9E069128480 ||| (0xffffffffffffffff <<< 32) % B], 23) ∧ Nat.primeCounting 100 = 25 := by
  constructor
  · decide +kernel
  · decide +kernel

/-- the executable primality test used by the older C16 models in place of the sieve (`isPrimeTD (bit_to_n b)`,
    Mpir/Model/Numth.lean `sieveWalk`) is what the sieve array says: replacing gmp_primesieve by its meaning there
    is justified for every n. -/
theorem sieve_bit_eq_isPrimeTD (n : ℕ) (h4 : 4 < n) (hn : n < B) :
    ∃ a c, gmp_primesieve n = some (a, c) ∧ ∀ b ≤ n_to_bit n, sieveBit a b = !isPrimeTD (bit_to_n b) := by
  obtain ⟨a, c, e, hex⟩ := gmp_primesieve_exactOn n h4 hn
  exact ⟨a, c, e, fun b hb => hex b (Nat.zero_le _) (by rwa [n_to_bit_eq_nb n (by omega) hn] at hb)⟩
example : (gmp_primesieve 1000).map (fun r => (sieveBit r.1 7, sieveBit r.1 8, r.2)) = some (true, false, 166) := by
  decide +kernel

/-! ## The building blocks, for every argument -/

/-- first_block_primesieve alone: for every 4 < n < 2^64 the `limbs` limbs written describe the primes up to n. -/
theorem first_block_primesieve_spec (n : ℕ) (h4 : 4 < n) (hn : n < B) :
    ∃ a, first_block_primesieve n = some a ∧ a.size = n_to_bit n / 64 + 1 ∧
      (∀ i ≤ n_to_bit n, (sieveBit a i = true ↔ ¬ (id_to_n (i + 1)).Prime)) ∧
      (∀ i, n_to_bit n < i → i < 64 * a.size → sieveBit a i = true) := by
  obtain ⟨a, e, hs, _, hf, hp⟩ := first_block_spec n h4 hn
  rw [n_to_bit_eq_nb n (by omega) hn]
  exact ⟨a, e, hs, fun i hi => by rw [← bit_to_n_eq_id]; exact hf i hi, hp⟩
example : first_block_primesieve 203 = some #[0x3294C9E069128480, 0xfffffffffffffffc] := by decide +kernel

/-- block_resieve for ANY window: `limbs` limbs standing for the bits offset … offset + 64·limbs − 1, given a
    sieve whose bits 0 … sieve_bits are right and reach far enough (the square of the first number after them
    exceeds the top of the window — in gmp_primesieve: sieve_bits = offset − 1 and offset ≥ 64·BLOCK_SIZE).
    Every bit of the block is 1 exactly for the composites; holds whether the loop ends by `break`, by the
    `continue` path or by exhausting the sieve. -/
theorem block_resieve_spec' (limbs offset sieve_bits : ℕ) (sieve : Array ℕ) (hlimbs : 0 < limbs)
    (hsieve : ∀ j ≤ sieve_bits, (sieveBit sieve j = true ↔ ¬ (id_to_n (j + 1)).Prime))
    (hreach : id_to_n (limbs * 64 + offset) < id_to_n (sieve_bits + 2) * id_to_n (sieve_bits + 2)) :
    (block_resieve limbs offset sieve sieve_bits).size = limbs ∧
    ∀ b < 64 * limbs, (sieveBit (block_resieve limbs offset sieve sieve_bits) b = true ↔ ¬ (id_to_n (b + offset + 1)).Prime) := by
  have hsv : ∀ j ≤ sieve_bits, (sieveBit sieve j = true ↔ ¬ (bit_to_n j).Prime) := by
    intro j hj; rw [bit_to_n_eq_id]; exact hsieve j hj
  have hH : bit_to_n (limbs * 64 - 1 + offset) < bit_to_n (sieve_bits + 1) * bit_to_n (sieve_bits + 1) := by
    rw [bit_to_n_eq_id, bit_to_n_eq_id]
    have : limbs * 64 - 1 + offset + 1 = limbs * 64 + offset := by omega
    rw [this]; exact hreach
  obtain ⟨hs, _, hf⟩ := block_resieve_spec limbs offset sieve_bits sieve hlimbs hsv hH
  exact ⟨hs, fun b hb => by rw [← bit_to_n_eq_id]; exact hf b (by omega)⟩
/-- the `continue` path: the window (bits 5 … 68) ends at the number 209 with 13² = 169 ≤ 209 < 13·17 = 221 -/
example : block_resieve 1 5 #[0x3294C9E069128480] 4 = #[16254799813374678052] ∧
    nextIndex 4 > 63 + 5 ∧ sqIndex 4 (id_to_n 4) ≤ 63 + 5 ∧ id_to_n 4 = 13 ∧ id_to_n (63 + 5 + 1) = 209 := by decide +kernel

end Mpir.Sieve

namespace Mpir.Numth
open Mpir Mpir.Gen.NumthTabs Mpir.Sieve
open Nat

/-! ## The prime-swing factorial (mpz/oddfac_1.c) -/

/-- **Exponent of a prime in the swing number.**  With n≀ = n! / ⌊n/2⌋!² (so n! = n≀ · ⌊n/2⌋!²), for every prime p
    and every n < 2^64: v_p(n!) = 2·v_p(⌊n/2⌋!) + Σ_{k=1}^{64} (⌊n/p^k⌋ mod 2), and the sum is what the loop of
    SWING_A_PRIME (oddfac_1.c:164-175, `do { q /= p; if (q & 1) prod *= p; } while (q >= p)`) accumulates:
    `swingPowers` returns prod · p^(that sum) as long as the limb product does not wrap. -/
theorem swing_exponent (p n : ℕ) (hp : p.Prime) (hn : n < B) :
    padicValNat p n ! = 2 * padicValNat p (n / 2)! + ∑ k ∈ Finset.Ico 1 65, (n / p ^ k) % 2 ∧
    ∀ pr, pr * p ^ (∑ k ∈ Finset.Ico 1 65, (n / p ^ k) % 2) < B →
      swingPowers p 64 n pr = pr * p ^ (∑ k ∈ Finset.Ico 1 65, (n / p ^ k) % 2) := by
  have : Fact p.Prime := ⟨hp⟩
  rw [← swExp_eq_sum p 64 n]
  exact ⟨legendre_swing p 64 n hn, fun pr h => swingPowers_eq p hp.pos 64 n pr h⟩
example : swingPowers 3 64 100 1 = 3 ^ 4 ∧ swingPowers 5 64 100 7 = 7 ∧ swingPowers 7 64 100 1 = 1 ∧
    swingPowers 3 64 1000 1 = 3 ^ 4 ∧ (1000 / 3) % 2 + (1000 / 9) % 2 + (1000 / 27) % 2 + (1000 / 81) % 2 + (1000 / 243) % 2 + (1000 / 729) % 2 = 4 := by
  decide +kernel

/-- **The three prime ranges** mpz_2multiswing_1 treats separately (n even there): writing e for the swing
    exponent Σ_k (⌊n/p^k⌋ mod 2),
    * n/p < p (in particular limb_apprsqrt n < p, since n ≤ limb_apprsqrt(n)²): e = ⌊n/p⌋ mod 2 — SH_SWING_A_PRIME;
    * n/3 < p ≤ n/2: e = 0 — these primes are skipped;   * n/2 < p ≤ n: e = 1 — stored unconditionally;
    and `x ≤ limb_apprsqrt(x)² < 9x/4` (the comment of oddfac_1.c:133-134), `s ≤ n_to_bit (n/3)` (the ASSERT :232). -/
theorem swing_prime_ranges (p n : ℕ) (hp : 3 ≤ p) :
    (n / p < p → swExp p 64 n = (n / p) % 2) ∧
    (n / 3 < p → p ≤ n / 2 → swExp p 64 n = 0) ∧
    (n / 2 < p → p ≤ n → swExp p 64 n = 1) ∧
    (25 ≤ n → n ≤ limb_apprsqrt n * limb_apprsqrt n ∧ 4 * (limb_apprsqrt n * limb_apprsqrt n) < 9 * n ∧
      nb (limb_apprsqrt n) + 1 ≤ nb (n / 3)) :=
  ⟨swExp_of_div_lt (by decide), swExp_mid hp, swExp_top (by omega),
    fun h => ⟨(apprsqrt_bounds n h).1, (apprsqrt_bounds n h).2, swing_ranges n h⟩⟩
example : swExp 3 64 1000 = 4 ∧ swExp 37 64 1000 = 1 ∧ (1000 / 37) % 2 = 1 ∧ swExp 401 64 1000 = 0 ∧ swExp 997 64 1000 = 1 ∧
    limb_apprsqrt 1000 = 32 := by decide +kernel

/-- **FACTOR_LIST_STORE never overflows a limb** with the constants of mpz_2multiswing_1 (n even, ≥ 26):
    max_prod = GMP_NUMB_MAX/(n−1); a running product ≤ max_prod times an odd prime p ≤ n, times 3·(a prime ≤ n/3)
    with l_max_prod = 3·max_prod, or times the whole prime power p^e of SWING_A_PRIME, stays below 2^64. -/
theorem swing_products_fit (n : ℕ) (h26 : 26 ≤ n) (he : n % 2 = 0) (hn : n < B) (prod p : ℕ) (hp : p.Prime) (hp2 : p ≠ 2) :
    (prod ≤ (B - 1) / (n - 1) → p ≤ n → prod * p < B) ∧
    ((B - 1) / (n - 1) * 3 < B ∧ (prod ≤ (B - 1) / (n - 1) * 3 → p ≤ n / 3 → prod * p < B)) ∧
    (prod ≤ (B - 1) / (n - 1) → prod * p ^ swExp p 64 n < B) := by
  -- everything is compared with max_prod · (n − 1) ≤ GMP_NUMB_MAX; an odd p ≤ n (n even) is ≤ n − 1, and so is 3p for p ≤ n/3
  have _ := hn  -- not needed
  have hM : (B - 1) / (n - 1) * (n - 1) < B := limb_div_mul_lt (Nat.le_refl _)
  have hodd : p % 2 = 1 := Nat.odd_iff.1 (hp.odd_of_ne_two hp2)
  have hsw := pow_swExp_le_pred p n hp hp2 (by omega) he
  generalize (B - 1) / (n - 1) = M at *
  refine ⟨fun h1 h2 => ?_, ⟨?_, fun h1 h2 => ?_⟩, fun h1 => ?_⟩
  · exact Nat.lt_of_le_of_lt (Nat.mul_le_mul h1 (by omega)) hM
  · exact Nat.lt_of_le_of_lt (Nat.mul_le_mul_left M (by omega)) hM
  · calc prod * p ≤ M * 3 * p := Nat.mul_le_mul_right _ h1
      _ = M * (3 * p) := Nat.mul_assoc _ _ _
      _ ≤ M * (n - 1) := Nat.mul_le_mul_left _ (by omega)
      _ < B := hM
  · exact Nat.lt_of_le_of_lt (Nat.mul_le_mul h1 hsw) hM
example : (B - 1) / 999 * 3 < B ∧ 3 ^ swExp 3 64 1000 ≤ 999 := by decide +kernel

/-- **mpz_2multiswing_1** (model of oddfac_1.c:199-262: the factor n for odd n, SWING_A_PRIME for 3 and for the
    sieve's primes up to limb_apprsqrt n, SH_SWING_A_PRIME up to n/3, plain FACTOR_LIST_STORE on (n/2, n],
    every limb product proved not to wrap, mpz_prodlimbs as the product of the list): for EVERY 26 ≤ n < 2^64
    (the C's `ASSERT (n >= 26)`) the result is the odd part of the swing number n! / ⌊n/2⌋!². -/
theorem multiswing_spec (n : ℕ) (h26 : 26 ≤ n) (hn : n < B) :
    mpz_2multiswing_1 n * oddPart ((n / 2)!) ^ 2 = oddPart (n !) ∧ mpz_2multiswing_1 n % 2 = 1 := by
  have h := mpz_2multiswing_1_spec n h26 hn
  refine ⟨h, ?_⟩
  have ho := (oddPart_spec (n !) (Nat.factorial_ne_zero n)).1
  rw [← h, Nat.mul_mod] at ho
  rcases Nat.mod_two_eq_zero_or_one (mpz_2multiswing_1 n) with h0 | h0
  · rw [h0] at ho; simp at ho
  · exact h0
example : mpz_2multiswing_1 26 = 5 ^ 2 * 7 * 17 * 19 * 23 ∧ mpz_2multiswing_1 27 = 27 * (5 ^ 2 * 7 * 17 * 19 * 23) := by decide +kernel

/-- **mpz_oddfac_1** for EVERY n < 2^64: flag = 0 gives the odd part of n! (tables, limb-product basecase, then the
    divide-swing-conquer recursion n! = ⌊n/2⌋!² · n≀ with the sieve-based swing factors). -/
theorem oddfac_1_spec (n : ℕ) (hn : n < B) : mpz_oddfac_1 n 0 = oddPart (n !) := mpz_oddfac_1_eq n hn
example : mpz_oddfac_1 2000 0 * 2 ^ (2000 - popcount 2000) = Nat.factorial 2000 := by
  rw [oddfac_1_spec 2000 (by decide), Nat.mul_comm]
  exact (factorial_two_adic 2000 (by decide)).symm

/-- **mpz_fac_ui n = n!** for EVERY n < 2^64 (closes `fac_ui_spec_partial` of C16: no hypothesis left). -/
theorem fac_ui_spec (n : ℕ) (hn : n < B) : mpz_fac_ui n = n ! :=
  mpz_fac_ui_eq n hn (fun _ _ => mpz_oddfac_1_eq n hn)
example : mpz_fac_ui 1800 = Nat.factorial 1800 := fac_ui_spec 1800 (by decide)

/-- **mpz_2fac_ui n = n‼** for EVERY n < 2^64; for odd n ≥ FAC_2DSC_THRESHOLD this is mpz_oddfac_1 with flag = 1
    (the last squaring of the divide-swing-conquer loop skipped). -/
theorem two_fac_ui_spec (n : ℕ) (hn : n < B) : mpz_2fac_ui n = n‼ :=
  mpz_2fac_ui_eq n hn (swingOK n hn)
example : mpz_2fac_ui 1801 = doubleFactorial 1801 ∧ mpz_2fac_ui 1801 = mpz_oddfac_1 1801 1 := by
  refine ⟨by rw [doubleFactorial_eq]; exact two_fac_ui_spec 1801 (by decide), ?_⟩
  rw [mpz_2fac_ui, if_neg (by decide), if_neg (by decide), if_neg (by decide)]

/-! ## Goetgheluck's binomial (mpz/bin_uiui.c:585-702) -/

/-- **Kummer's theorem in the form COUNT_A_PRIME computes it.**  For a prime p, k ≤ n < 2^64:
    v_p(n!) = v_p(k!) + v_p((n−k)!) + (number of borrows subtracting k from n in base p), where the borrows are
    counted by the chain `mb += b % p; b /= p; ma = a % p; a /= p; if (ma < mb) {mb = 1; count} else mb = 0;
    while (a >= p)` (`kumExp`); hence v_p(binomial(n,k)) = kumExp p 64 n k 0, and the loop of COUNT_A_PRIME
    (`countPowers`) multiplies prod by p^(that number) as long as the limb product does not wrap — which it
    cannot for prod ≤ max_prod = GMP_NUMB_MAX/n since p^(borrows) ≤ n. -/
theorem kummer_borrow_chain (p n k : ℕ) (hp : p.Prime) (hn : n < B) (hk : k ≤ n) :
    padicValNat p (n.choose k) = kumExp p 64 n k 0 ∧
    (1 ≤ n → p ^ kumExp p 64 n k 0 ≤ n) ∧
    ∀ pr, pr * p ^ kumExp p 64 n k 0 < B → countPowers p 64 n k 0 pr = pr * p ^ kumExp p 64 n k 0 :=
  have : Fact p.Prime := ⟨hp⟩
  ⟨padicValNat_choose_eq_kumExp p n k hn hk, fun h1 => pow_kumExp_le p hp.two_le 64 n k 0 (by omega) (by omega) h1,
    fun pr h => countPowers_eq p hp.pos 64 n k 0 pr h⟩
example : kumExp 7 64 100 50 0 = 0 ∧ kumExp 3 64 100 50 0 = 4 ∧ kumExp 5 64 1000 320 0 = 2 ∧
    countPowers 3 64 100 50 0 5 = 5 * 3 ^ 4 ∧ (Nat.choose 100 50) % 3 ^ 4 = 0 ∧ (Nat.choose 100 50) % 3 ^ 5 ≠ 0 := by decide +kernel

/-- **The prime ranges of mpz_goetgheluck_bin_uiui** (2k ≤ n): n/p < p ⇒ exponent = [n mod p < k mod p]
    (SH_COUNT_A_PRIME); n/2 < p ≤ n−k ⇒ 0 (skipped); n−k < p ≤ n ⇒ 1 (stored); and the exponent of 2 is
    popc(n−k) + popc(k) − popc(n), with 2^that ≤ n (so `CNST_LIMB(1) << count` is a limb). -/
theorem goetgheluck_prime_ranges (p n k : ℕ) (hp : 3 ≤ p) (hk : 2 * k ≤ n) :
    (n / p < p → kumExp p 64 n k 0 = if n % p < k % p then 1 else 0) ∧
    (n / 2 < p → p ≤ n - k → kumExp p 64 n k 0 = 0) ∧
    (n - k < p → p ≤ n → kumExp p 64 n k 0 = 1) ∧
    (1 ≤ n → n < B → padicValNat 2 (n.choose k) = popcount (n - k) + popcount k - popcount n ∧
      2 ^ (popcount (n - k) + popcount k - popcount n) ≤ n) :=
  ⟨fun h => by rw [kumExp_of_div_lt (by decide) h, Nat.zero_add], kumExp_mid (by omega) hk, kumExp_top (by omega) hk,
    fun h1 hn => ⟨two_adic_choose n k hn (by omega), two_pow_count_le n k hn (by omega) h1⟩⟩
example : kumExp 53 64 1000 320 0 = 0 ∧ 1000 % 53 = 46 ∧ 320 % 53 = 2 ∧ kumExp 41 64 1000 320 0 = 1 ∧ 1000 % 41 = 16 ∧ 320 % 41 = 33 ∧
    kumExp 677 64 1000 320 0 = 0 ∧ kumExp 683 64 1000 320 0 = 1 := by decide +kernel

/-- **mpz_goetgheluck_bin_uiui (n, k) = binomial(n, k)** for every 25 ≤ n < 2^64 (`ASSERT (n >= 25)`), 2k ≤ n (mpz_bin_uiui
    passes MIN(k, n−k)) and `ASSERT (n_to_bit (n - k) < n_to_bit (n))` — the latter holds whenever k ≥ 6.  Model:
    power of two, COUNT_A_PRIME for 3 and the sieve's primes up to limb_apprsqrt n, SH_COUNT_A_PRIME up to n/2
    with max_prod doubled, FACTOR_LIST_STORE on (n−k, n], no limb product wraps, mpz_prodlimbs = product. -/
theorem goetgheluck_bin_uiui_spec (n k : ℕ) (h25 : 25 ≤ n) (hn : n < B) (hk : 2 * k ≤ n)
    (hassert : n_to_bit (n - k) < n_to_bit n) : goetgheluck_bin_uiui n k = n.choose k := by
  rw [n_to_bit_eq_nb _ (by omega) (by omega), n_to_bit_eq_nb n (by omega) hn] at hassert
  exact goetgheluck_eq_choose n k h25 hn hk hassert
example : goetgheluck_bin_uiui 100 40 = 13746234145802811501267369720 ∧ Nat.choose 100 40 = 13746234145802811501267369720 := by
  decide +kernel

/-- through the dispatcher: whenever mpz_bin_uiui selects Goetgheluck's algorithm (k ≥ BIN_GOETGHELUCK_THRESHOLD,
    k > n/16, beyond the small-k tables) the result is binomial(n, k) — for every n < 2^64 and every k. -/
theorem bin_uiui_goetgheluck_spec (n k0 : ℕ) (hn : n < B) (hd : (binDispatch n k0).1 = BinAlg.goetgheluck) :
    mpz_bin_uiui n k0 = some (n.choose k0) :=
  have _ := hd  -- not needed: every branch of the dispatcher is right
  mpz_bin_uiui_eq n k0 hn
example : binDispatch 20000 1251 = (.goetgheluck, 1251) ∧ binDispatch 20016 1251 = (.bdiv, 1251) := by decide +kernel

/-! ## Primorial -/

/-- **mpz_primorial_ui n = n#** (product of the primes ≤ n) for EVERY n < 2^64: table below 5, then the sieve walk
    with FACTOR_LIST_STORE (max_prod = GMP_NUMB_MAX/n, no limb product wraps). -/
theorem primorial_ui_spec (n : ℕ) (hn : n < B) : mpz_primorial_ui n = _root_.primorial n := by
  rw [mpz_primorial_ui_eq n hn, primorial_eq]
example : mpz_primorial_ui 1000 % 997 = 0 ∧ mpz_primorial_ui 30 = 2 * 3 * 5 * 7 * 11 * 13 * 17 * 19 * 23 * 29 := by
  refine ⟨?_, by decide +kernel⟩
  rw [primorial_ui_spec 1000 (by decide)]
  exact Nat.mod_eq_zero_of_dvd ((Nat.Prime.dvd_primorial_iff ((isPrimeTD_iff 997).1 (by decide))).2 (by decide))

end Mpir.Numth

namespace Mpir.Sieve
open Mpir Mpir.Numth

/-! ## mpz_next_prime_candidate / mpz_nextprime -/

/-- **The residue update** (next_prime_candidate.c:113-120): if moduli[i] = c mod prime_i for every table prime, one pass
    sets `composite` exactly when some table prime divides c and leaves moduli[i] = (c + 2) mod prime_i — so at the top
    of every iteration moduli[i] = (p + difference) mod prime_i. -/
theorem npc_residue_invariant (c : ℕ) (prs : List ℕ) (hprs : ∀ q ∈ prs, 2 ≤ q) :
    npcResidues (prs.map (fun q => c % q)) prs = (decide (∃ q ∈ prs, q ∣ c), prs.map (fun q => (c + 2) % q)) :=
  npcResidues_spec c prs hprs
example : npcResidues [1001 % 3, 1001 % 5, 1001 % 7] [3, 5, 7] = (true, [1003 % 3, 1003 % 5, 1003 % 7]) := by decide

/-- **The table path** (n < 997: next_prime_candidate.c:66-102 — tiny numbers, then the binary search in `primes[]`):
    the result is the least prime greater than n, for every n (negative n included). -/
theorem npc_small_path_spec (n : ℤ) (hn : n < 997) :
    ∃ r, npcSmallPath n = some r ∧ r.Prime ∧ n < r ∧ ∀ j : ℕ, n < j → j < r → ¬ j.Prime := by
  by_cases hneg : n < 2
  · exact ⟨2, by rw [npcSmallPath, if_pos hneg], Nat.prime_two, by omega, fun j h1 h2 hp => by have := hp.two_le; omega⟩
  · obtain ⟨m, rfl⟩ : ∃ m : ℕ, n = (m : ℤ) := ⟨n.toNat, by omega⟩
    obtain ⟨r, e, hp, hlt, hno⟩ := npcSmallPath_spec m (by omega) (by omega)
    exact ⟨r, e, hp, by omega, fun j h1 h2 => hno j (by omega) h2⟩
example : npcSmallPath 113 = some 127 ∧ npcSmallPath 996 = some 997 ∧ npcSmallPath (-5) = some 2 ∧ npcSmallPath 7 = some 11 ∧
    npcSmallPath 997 = none := by decide +kernel

/-- **No prime is skipped by mpz_next_prime_candidate** (n ≥ 997: the residue loop), given only that the primality test
    never rejects a prime — a THEOREM for mpz_miller_rabin (`miller_rabin_never_rejects_prime`): the result r
    exceeds n, no prime lies strictly between n and r (every skipped candidate has a prime factor from the table,
    which is smaller than the candidate, or was rejected by the test), r is odd, has no factor in the table and
    passed the test.  If the test is also sound (accepts only primes), r is the least prime > n. -/
theorem npc_candidate_spec (mr : ℕ → Bool) (n : ℤ) (hn : 997 ≤ n) (hnorej : ∀ c, c.Prime → mr c = true)
    (fuel r : ℕ) (h : npcModel mr fuel n = some r) :
    n < r ∧ r % 2 = 1 ∧ mr r = true ∧ (∀ q ∈ npcTab.take (npcTab.length - 1), ¬ q ∣ r) ∧
    (∀ j : ℕ, n < j → j < r → ¬ j.Prime) ∧ ((∀ c, mr c = true → c.Prime) → r.Prime) := by
  obtain ⟨m, rfl⟩ : ∃ m : ℕ, n = (m : ℤ) := ⟨n.toNat, by omega⟩
  obtain ⟨h1, h2, h3, h4, h5⟩ := npcModel_spec mr m (by omega) hnorej fuel r h
  exact ⟨by omega, h2, h3, h4, fun j hj1 hj2 => h5 j (by omega) hj2, fun hs => hs r h3⟩
example : npcModel isPrime 100 1000 = some 1009 ∧ npcModel isPrime 100 1327 = some 1361 ∧
    npcModel (fun c => c == 1003 || isPrime c) 100 1000 = some 1009 := by decide +kernel

/-- the repaired loop of mpz_nextprime: started at a candidate x ≥ 997 it returns r ≥ x accepted by the 23-round test,
    with no prime in [x, r), given only that neither test ever rejects a prime -/
theorem nextprimeLoop_spec (mr2 mr23 : ℕ → Bool) (h2 : ∀ c, c.Prime → mr2 c = true) (h23 : ∀ c, c.Prime → mr23 c = true) :
    ∀ fuel x r, 997 ≤ x → nextprimeLoop mr2 mr23 fuel x = some r →
      x ≤ r ∧ mr23 r = true ∧ ∀ j, x ≤ j → j < r → ¬ j.Prime :=
  nextprimeLoop_noPrimeIn mr2 mr23 h2 h23

/-- **mpz_nextprime skips no prime** (n ≥ 997; below, the table path): whatever the random bases, given only that
    Miller-Rabin never rejects a prime (theorem `miller_rabin_never_rejects_prime`), the result r exceeds n and no prime
    lies strictly between; r has passed the 23-round test when r ≥ 10^6 and the 2-round test otherwise; if the tests
    accept only primes, r is the least prime > n.  (Before the repair af324ce of mpz/nextprime.c this was false: the
    loop added 2 before asking for the next candidate — found with this model, see corpus/C16/nextprime_skip.ops.) -/
theorem nextprime_no_prime_skipped (mr2 mr23 : ℕ → Bool) (n : ℤ) (hn : 997 ≤ n)
    (h2 : ∀ c, c.Prime → mr2 c = true) (h23 : ∀ c, c.Prime → mr23 c = true) (r : ℕ)
    (h : nextprimeModel mr2 mr23 n = some r) :
    n < r ∧ (∀ j : ℕ, n < j → j < r → ¬ j.Prime) ∧ (if r ≥ 1000000 then mr23 r = true else mr2 r = true) ∧
    ((∀ c, mr2 c = true → c.Prime) → (∀ c, mr23 c = true → c.Prime) → r.Prime) := by
  obtain ⟨m, rfl⟩ : ∃ m : ℕ, n = (m : ℤ) := ⟨n.toNat, by omega⟩
  unfold nextprimeModel at h
  cases hc : npcModel mr2 4000 (m : ℤ) with
  | none => simp [hc] at h
  | some x =>
    obtain ⟨c1, _, c3, _, c5⟩ := npcModel_spec mr2 m (by omega) h2 4000 x hc
    simp only [hc] at h
    by_cases hbig : x ≥ 1000000
    · simp only [hbig, if_true] at h
      obtain ⟨l1, l2, l3⟩ := nextprimeLoop_noPrimeIn mr2 mr23 h2 h23 100 x r (by omega) h
      exact ⟨by omega, fun j hj1 hj2 => (c5.trans l3) j (by omega) hj2, by simp [show r ≥ 1000000 by omega, l2],
        fun _ s23 => s23 r l2⟩
    · simp only [hbig, if_false, Option.some.injEq] at h
      subst h
      exact ⟨by omega, fun j hj1 hj2 => c5 j (by omega) hj2, by simp [hbig, c3], fun s2 _ => s2 x c3⟩
/-- the input of the finding, on the repaired loop: the composite 6794614661 = 47591·142771 passes the first stage, is
    rejected by the second, and the next candidate 6794614663 (a prime) is now examined -/
example : nextprimeModel (fun c => c == 6794614661 || isPrime c) isPrime 6794614660 = some 6794614663 ∧
    isPrime 6794614663 = true ∧ isPrime 6794614661 = false ∧ 47591 * 142771 = 6794614661 := by decide +kernel

/-! ## The users read the real bit array -/

/-- **LOOP_ON_SIEVE_BEGIN … LOOP_ON_SIEVE_END on the array** (rotating `__mask`, `__index += __mask & 1`, do-while on
    `__i <= __max_i`; oddfac_1.c:76-103 = primorial_ui.c:42-69 = bin_uiui.c:527-554) visits the bits start … max(start,
    stop) and runs the body for the clear ones with prime = id_to_n (__i): on an array that is right on those bits it is
    the walk over the primes used by the value-level models.  Consequently, on the array gmp_primesieve (sieve, n)
    really produces, the array-reading models of mpz_2multiswing_1, mpz_goetgheluck_bin_uiui and mpz_primorial_ui
    (the ones the driver runs against the library) equal the models the theorems above are about. -/
theorem sieve_users_on_real_sieve (n : ℕ) (hn : n < B) :
    (∀ sieve start stop body st, ExactOn sieve start (max start stop) →
      loopOnSieveArr sieve start stop body st = loopOnSieve start stop body st) ∧
    (26 ≤ n → ∃ a c, gmp_primesieve n = some (a, c) ∧ multiswingArr a n = mpz_2multiswing_1 n) ∧
    (∀ k, 25 ≤ n → 2 * k ≤ n → n_to_bit (n - k) < n_to_bit n →
      ∃ a c, gmp_primesieve n = some (a, c) ∧ goetgheluckArr a n k = n.choose k) ∧
    (5 ≤ n → ∃ a c, gmp_primesieve n = some (a, c) ∧ primorialArr a n = _root_.primorial n) := by
  refine ⟨fun sieve start stop body st h => loopOnSieveArr_eq sieve start stop body st h, fun h26 => ?_,
    fun k h25 hk hl => ?_, fun h5 => ?_⟩
  · obtain ⟨a, c, e, hex⟩ := gmp_primesieve_exactOn n (by omega) hn
    exact ⟨a, c, e, multiswingArr_eq a n h26 hn (exactOn_mono hex (nb_mono (by omega)))⟩
  · obtain ⟨a, c, e, hex⟩ := gmp_primesieve_exactOn n (by omega) hn
    rw [n_to_bit_eq_nb _ (by omega) (by omega), n_to_bit_eq_nb n (by omega) hn] at hl
    exact ⟨a, c, e, by rw [goetgheluckArr_eq a n k h25 hn hk hl hex, goetgheluck_eq_choose n k h25 hn hk hl]⟩
  · obtain ⟨a, c, e, hex⟩ := gmp_primesieve_exactOn n (by omega) hn
    exact ⟨a, c, e, by rw [primorialArr_eq a n h5 hn hex, mpz_primorial_ui_eq n hn, primorial_eq]⟩
example : (gmp_primesieve 100).map (fun r => goetgheluckArr r.1 100 40) = some (Nat.choose 100 40) ∧
    (gmp_primesieve 101).map (fun r => multiswingArr r.1 101) = some (mpz_2multiswing_1 101) := by decide +kernel

end Mpir.Sieve
