/-
  C20 (part c20_cxxio2) — stream I/O of the C++ interface, remaining statements: the mpf extractor, the auto-detect and
  mpq round trips, mpf insertion in every base.
  Property theorems only; helper lemmas live in MpirProofs/Lemmas/CxxIo.lean and CxxIo2.lean.  Every theorem is about the
  executable models in Mpir/Model/CxxIo.lean and CxxIo2.lean, which the correspondence run executes against the real
  operators (tools/cxxio_driver.cc) on every check.
-/
import MpirProofs.Lemmas.CxxIo2
namespace Mpir.CxxIo
open Mpir.Printf

/-! ## (a) `operator>> (istream &, mpf_ptr)` -/

/-- `extractF_spec`: `i >> f` on a good stream over the text `t`, for every setting of the flags and every destination
    `f0`, is the grammar `specF`: white space (under skipws), an optional sign ('+' is consumed and dropped), the LONGEST
    run of decimal digits, then, if the next character is '.', that point and again the longest run of digits — at least
    one digit in the two runs together —, then, if the next character is 'e' or 'E', that letter, an optional sign and the
    longest run of digits, which must not be empty.  basefield is not looked at: the digits are decimal in every case
    (ismpf.cc:86).  The scan never backs up more than the one character that stopped it: "1e+x" FAILS with "1e+" consumed,
    ".x" fails with the point consumed (`floatSpec`).  Exactly the characters of `FloatSpec.n` stay consumed (`after`:
    `done` / `rest` recompose the text), failbit is set exactly when nothing is stored, eofbit comes with failbit only
    (a successful read that ends at the end of the text leaves the stream good(): the code clears eofbit), and the value
    stored is `mpf_set_str` (`MpfStr.set_str`, property C13's model) of the collected text in base 10 at the precision of
    the destination. -/
theorem extractF_spec (f : Fmt) (t : List Char) (f0 : Mpf.F) : extractF (mkG t [] f) f0 = specF f t f0 := by
  unfold extractF specF specScanF
  rw [scanF_at f t []]
  simp only [List.append_nil]
  rfl

-- non-vacuity: sign, point, exponent, one character put back; '+' dropped from the text
example : scanF (mkG "  -12.50e+3x".toList [] {}) =
    ({ rest := ['x'], done := "  -12.50e+3".toList.reverse }, some "-12.50e+3".toList) := by decide +kernel
example : scanF (mkG "+.5E7".toList [] {}) = ({ rest := [], done := "+.5E7".toList.reverse }, some ".5E7".toList) := by decide +kernel
-- a hex stream still reads decimal digits only
example : scanF (mkG "1f".toList [] { dec := false, hex := true }) =
    ({ rest := ['f'], done := ['1'], fmt := { dec := false, hex := true } }, some ['1']) := by decide +kernel
-- no backtracking: the exponent letter and sign are consumed, the read fails (eofbit too at the end of the text)
example : scanF (mkG "1e+x".toList [] {}) = ({ rest := ['x'], done := "1e+".toList.reverse, fail := true }, none) ∧
    scanF (mkG "1e".toList [] {}) = ({ rest := [], done := "1e".toList.reverse, eof := true, fail := true }, none) ∧
    scanF (mkG ".x".toList [] {}) = ({ rest := ['x'], done := ['.'], fail := true }, none) ∧
    scanF (mkG "5.".toList [] {}) = ({ rest := [], done := ['.', '5'] }, some ['5', '.']) := by decide +kernel
-- the value: 2.5 at precision 2 (the division path of mpf_set_str delivers prec+1 limbs): [0, 2^63, 2], exponent 1
example : (extractF (mkG "2.5 ".toList [] {}) ⟨2, 1, 1, [5]⟩).2 = (some ⟨2, 3, 1, [0, 2 ^ 63, 2]⟩, false) := by decide +kernel

/-- `extractF_props`: for every text and every flag setting: no character is lost or invented, badbit is never set,
    failbit is set iff nothing is handed to mpf_set_str (the destination keeps its value), and a read that did not fail
    leaves the stream good(). -/
theorem extractF_props (f : Fmt) (t : List Char) :
    let r := scanF (mkG t [] f)
    r.1.text = t ∧ r.1.bad = false ∧ (r.1.fail = true ↔ r.2 = none) ∧ (r.1.fail = false → r.1.good = true) := by
  have hp := floatSpec_props (t.drop (wsPrefix f t).length)
  rw [scanF_at f t []]
  exact ⟨after_wsPrefix_text f t _ _ _, rfl, hp.1, fun hf => after_good _ _ _ _ _ _ hf (hp.2.1 hf)⟩

/-- `extractF_never_invalid`: whatever the text and the flags, the string handed to mpf_set_str is one it accepts: the
    ASSERT_NOCARRY of ismpf.cc:130 cannot fire, the destination is either untouched (failbit) or holds the converted value. -/
theorem extractF_never_invalid (f : Fmt) (t : List Char) (f0 : Mpf.F) : (extractF (mkG t [] f) f0).2.2 = false := by
  rw [extractF_spec]
  unfold specF specScanF
  simp only []
  cases h : (floatSpec (t.drop (wsPrefix f t).length)).text with
  | none => rfl
  | some s =>
    have hp := parse_scanned _ s h
    obtain ⟨p, hq⟩ := Option.ne_none_iff_exists'.mp hp
    simp [MpfStr.set_str, hq]

example : (extractF (mkG "-.5e-3,".toList [] {}) ⟨2, 1, 1, [5]⟩).2.2 = false ∧ (extractF (mkG "-.5e-3,".toList [] {}) ⟨2, 1, 1, [5]⟩).2.1 ≠ none := by
  decide +kernel

/-- `extractF_not_good`: a stream that is not good() on entry gets failbit, nothing is read, the destination is untouched. -/
theorem extractF_not_good (i : IStream) (h : i.good = false) (f0 : Mpf.F) :
    extractF i f0 = ({ i with fail := true }, none, false) := by
  unfold extractF
  rw [scanF_not_good' i h]

example : extractF { rest := ['1'], eof := true } ⟨2, 1, 1, [5]⟩ = ({ rest := ['1'], eof := true, fail := true }, none, false) := by decide +kernel

/-! ## (b) round trips -/

section
open List

/-- `roundtripZ`: for every integer z, every output stream `fo` (any basefield bits, showbase, showpos, uppercase, any
    adjustfield, any fill) whose width is ≤ 0 (no padding) and every input stream `fi` with `ReadsBack fo fi`:
    `in >> y` after `out << z` stores y = z, consumes the whole text and leaves the stream good().  `ReadsBack` is
      * basefield of `fi` names, with exactly one bit, the base `fo` prints in, and `fo` is not hex with showbase, or
      * `fi` has no single basefield bit (the classic `in.unsetf (ios::basefield)`: base detected from the prefix) and `fo`
        prints decimal (then no prefix is written, and 0 comes back through the octal-zero rule) or has showbase (0x / 0X;
        0 in front of octal digits; the lone "0" of an octal or decimal zero).
    The exceptions are exact in this sense (examples below): hex + showbase read by a hex stream gives 0 and stops at the
    x; hex / octal WITHOUT showbase read with auto-detection are taken for decimal ("ff" fails, octal "17" gives 17).
    This replaces `roundtripZ_partial` (fixed basefield only). -/
theorem roundtripZ (fo fi : Fmt) (z w : Int) (hw : w ≤ 0) (fill : Char) (hc : ReadsBack fo fi) :
    extractZ (mkG (insertZ { fmt := fo, width := w, fill := fill } z).out [] fi) =
      (mkG [] (insertZ { fmt := fo, width := w, fill := fill } z).out.reverse fi, .value z) :=
  extract_insertZ fo fi z w hw fill hc

end

-- non-vacuity: auto-detection of what showbase wrote, in each base; decimal zero through the octal-zero rule
example : extractZ (mkG (insertZ { fmt := { dec := false, hex := true, showbase := true, uppercase := true } } (-255)).out [] { dec := false }) =
    (mkG [] "-0XFF".toList.reverse { dec := false }, .value (-255)) := by decide +kernel
example : extractZ (mkG (insertZ { fmt := { dec := false, oct := true, showbase := true, showpos := true } } 15).out [] { dec := false }) =
    (mkG [] "+017".toList.reverse { dec := false }, .value 15) := by decide +kernel
example : extractZ (mkG (insertZ { fmt := {} } 0).out [] { dec := false }) = (mkG [] ['0'] { dec := false }, .value 0) := by decide +kernel
-- the exceptions are real: without showbase auto-detection takes hex / octal text for decimal
example : (extractZ (mkG (insertZ { fmt := { dec := false, hex := true } } 255).out [] { dec := false })).2 = .unchanged ∧
    (extractZ (mkG (insertZ { fmt := { dec := false, oct := true } } 15).out [] { dec := false })).2 = .value 17 ∧
    (extractZ (mkG (insertZ { fmt := { dec := false, hex := true } } 16).out [] { dec := false })).2 = .value 10 ∧
    (extractZ (mkG (insertZ { fmt := { dec := false, hex := true, showbase := true } } 31).out [] { dec := false, hex := true })).2 = .value 0 := by
  decide +kernel

section
open List

/-- `roundtripQ`: for every rational n/d with d > 0 (canonical or not), every output stream `fo` with width ≤ 0 and
    every input stream `fi` with `ReadsBack fo fi` (see `roundtripZ`): `in >> q` after `out << n/d` stores numerator n and
    denominator d, consumes the whole text and leaves the stream good().  (The denominator carries its own base prefix
    under showbase and is read with its own base detection; for d = 1 no "/1" is written and the extractor stores 1.) -/
theorem roundtripQ (fo fi : Fmt) (n d w : Int) (hd : 0 < d) (hw : w ≤ 0) (fill : Char) (hc : ReadsBack fo fi) :
    extractQ (mkG (insertQ { fmt := fo, width := w, fill := fill } n d).out [] fi) =
      (mkG [] (insertQ { fmt := fo, width := w, fill := fill } n d).out.reverse fi, .value n, .value d) :=
  extract_insertQ fo fi n d w hd hw fill hc

end

example : extractQ (mkG (insertQ { fmt := { dec := false, hex := true, showbase := true } } (-255) 16).out [] { dec := false }) =
    (mkG [] "-0xff/0x10".toList.reverse { dec := false }, .value (-255), .value 16) := by decide +kernel
example : extractQ (mkG (insertQ { fmt := { dec := false, oct := true, showbase := true } } 0 8).out [] { dec := false, oct := true }) =
    (mkG [] "0/010".toList.reverse { dec := false, oct := true }, .value 0, .value 8) := by decide +kernel
example : extractQ (mkG (insertQ { fmt := { showpos := true } } 6 4).out [] {}) = (mkG [] "+6/4".toList.reverse {}, .value 6, .value 4) ∧
    extractQ (mkG (insertQ { fmt := {} } 5 1).out [] { dec := false }) = (mkG [] ['5'] { dec := false }, .value 5, .value 1) := by decide +kernel

/-! ## (c) `operator<< (ostream &, mpf_srcptr)` in every base -/

/-- `emitPieces_layout`: the output calls of `__gmp_doprnt_mpf` (doprntf.c:333-372), for every parameter record coming from a
    stream and every set of lengths the function can have computed (`piecesOf`: any digits, exponent, precision, notation),
    write  [padding] sign prefix [padding] body [padding]  where body = the first `intlen` digits, `intzeros` zeros, the
    point if `pointlen`, `fraczeros` zeros, the next `fraclen` digits, `preczeros` zeros, the exponent text; the padding
    is `width` − length fill characters placed by adjustfield as for integers (`fieldLayout`). -/
theorem emitPieces_layout (o : OStream) (letter : Char) (D : FDigits) :
    callsBytes (emitPieces (paramsFromIos o).1 (piecesOf (paramsFromIos o).1 letter D)) =
      fieldLayout o.fmt o.width o.fill (piecesOf (paramsFromIos o).1 letter D).sign.toList
        (piecesOf (paramsFromIos o).1 letter D).showbase (bodyOf (piecesOf (paramsFromIos o).1 letter D)) := by
  obtain ⟨h1, h3, h4, h5, h6, h7, h8⟩ := piecesOf_bounds (paramsFromIos o).1 letter D
  rw [emitPieces_bytes _ _ h1 h3 h4 h5 h6 h7 h8]
  exact ios_layout o _ _ _

/-- `insertF_layout`: `o << f` for every stream state, every combination of flags (basefield: hex, octal, decimal or several
    bits = decimal; floatfield: fixed, scientific, none or both = general), every width, fill and precision and every mpf:
    the width is reset to 0 and what is handed to `o.write` is `specInsertF`:
      [padding] sign prefix [padding] integer-part [.] fraction trailing-zeros exponent [padding]
    with, for the digit string s and exponent e (value 0.s × base^e) that `mpfDigits` obtains from mpf_get_str (`D`):
      sign     "-" if mpf_get_str delivered one, else "+" under showpos;
      prefix   "0x"/"0X" under showbase on a hex stream, "0" under showbase on an octal stream unless s is empty;
      positional notation (fixed; general with -4 ≤ e-1 < max 1 prec): integer part = the first e digits, filled with zeros
               up to e places, or "0" when e ≤ 0; fraction = -e zeros and the digits, resp. the digits after the first e;
      scientific notation: integer part = first digit ("0" if none), fraction = the others, exponent = the letter ('@' on a
               hex stream, else 'e', 'E' under uppercase), the sign of e-1 and |e-1| in DECIMAL with at least two digits;
      trailing zeros up to `precision` fraction digits in fixed and scientific, up to `precision` digits in all in general
               with showpoint, none in general without showpoint; precision 0 means 6 except in fixed; negative = 0;
      the point is written iff a fraction digit or trailing zero follows or showpoint is set;
      padding  as for integers (`fieldLayout`); every byte is written, NUL fill characters included.
    A stream that is not good() receives nothing. -/
theorem insertF_layout (o : OStream) (f : Mpf.F) :
    insertFG o f = ({ o with width := 0 } : OStream).write
      (specInsertF o.fmt o.width o.fill (paramsFromIos o).1 (mpfDigits (paramsFromIos o).1 f)) := by
  have hw : (paramsFromIos o).2 = { o with width := 0 } := rfl
  unfold insertFG doprntMpfG mpfPieces specInsertF
  simp only [hw]
  rw [emitPieces_layout, piecesOf_sign, piecesOf_showbase, piecesOf_body]

/-- `insertF_sign`: the sign flag of `insertF_layout` is that of the operand: "-" is written exactly for negative values — also
    when the fixed format rounds all digits away ("-0.00") —, "+" under showpos for the others, zero included. -/
theorem insertF_sign (o : OStream) (f : Mpf.F) : (mpfDigits (paramsFromIos o).1 f).neg = decide (f.size < 0) :=
  mpfDigits_neg _ f

example : (insertFG { fmt := { fixed := true, showpos := true }, precision := 2 } ⟨2, -1, 0, [1]⟩).out = "-0.00".toList ∧
    (insertFG { fmt := { fixed := true, showpos := true }, precision := 2 } ⟨2, 0, 0, []⟩).out = "+0.00".toList := by decide +kernel

-- non-vacuity: 255/16 = 15.9375 = f.f (hex); scientific hex with '@' and a decimal exponent; octal with showbase; general
example : (insertFG { fmt := { dec := false, hex := true, fixed := true }, precision := 3 } ⟨2, 2, 1, [0xf000000000000000, 0xf]⟩).out = "f.f00".toList ∧
    (insertFG { fmt := { dec := false, hex := true, scientific := true, showbase := true, uppercase := true }, precision := 2 }
       ⟨2, -1, 1, [0xff]⟩).out = "-0XF.F0@+01".toList ∧
    (insertFG { fmt := { dec := false, oct := true, showbase := true, internal := true, showpos := true }, width := 9, fill := '_' } ⟨2, 1, 1, [8]⟩).out =
       "+0_____10".toList ∧
    (insertFG { fmt := { dec := false, hex := true }, precision := 4 } ⟨2, 1, 5, [1]⟩).out = "1@+64".toList ∧
    (insertFG { fmt := { showpoint := true } } ⟨2, 1, 1, [5]⟩).out = "5.00000".toList := by decide +kernel
-- fixed with precision 0 rounds to nearest on the next digit, with a carry into a new leading digit: 0xff.8 -> "100"
example : (insertFG { fmt := { dec := false, hex := true, fixed := true }, precision := 0 } ⟨2, 2, 1, [0x8000000000000000, 0xff]⟩).out = "100".toList := by
  decide +kernel

/-! ## (d) pinned oddities (the same inputs are corpus lines on the real library: corpus/C20/cxxio2/oddities.ops) -/

-- `os.fill ('\0')`: every byte is written (until /repo 2def0d3 the text was cut at the first NUL — `cstr` — and the buffer was
-- freed with strlen+1 instead of its allocated size, against the allocator contract of property C04)
example : (insertQ { width := 9, fill := '\x00' } 7 3).out = ['\x00', '\x00', '\x00', '\x00', '\x00', '\x00', '7', '/', '3'] ∧
    cstr (insertQ { width := 9, fill := '\x00' } 7 3).out = [] ∧
    (insertFG { fmt := { dec := false, hex := true, showbase := true, internal := true }, width := 8, fill := '\x00', precision := 3 } ⟨2, -1, 1, [255]⟩).out =
      ['-', '0', 'x', '\x00', '\x00', '\x00', 'f', 'f'] := by decide +kernel
-- "0x": without a basefield bit both characters are consumed; alone it fails at the end of the input (eofbit and failbit), before
-- a non-digit it fails with the x consumed and that character put back; a denominator "0x" fails the same way
example : extractZ (mkG "0xg".toList [] { dec := false }) = ({ rest := ['g'], done := ['x', '0'], fail := true, fmt := { dec := false } }, .unchanged) ∧
    extractZ (mkG "-0X".toList [] { dec := false }) = ({ rest := [], done := ['X', '0', '-'], eof := true, fail := true, fmt := { dec := false } }, .unchanged) ∧
    extractQ (mkG "1/0x".toList [] { dec := false }) =
      ({ rest := [], done := "1/0x".toList.reverse, eof := true, fail := true, fmt := { dec := false } }, .value 1, .unchanged) := by decide +kernel
-- eofbit is cleared after a successful read that ran into the end of the input (std::num_get leaves it set): mpz, mpq, mpf
example : extractZ (mkG "12".toList [] {}) = ({ rest := [], done := ['2', '1'] }, .value 12) ∧
    extractQ (mkG "5".toList [] {}) = ({ rest := [], done := ['5'] }, .value 5, .value 1) ∧
    extractQ (mkG "1/2".toList [] {}) = ({ rest := [], done := ['2', '/', '1'] }, .value 1, .value 2) ∧
    scanF (mkG "1.5".toList [] {}) = ({ rest := [], done := ['5', '.', '1'] }, some "1.5".toList) ∧
    (extractZ (mkG "12".toList [] {})).1.good = true := by decide +kernel
-- ... and stays after a failed one
example : (extractZ (mkG "-".toList [] {})).1.eof = true ∧ (scanF (mkG "1e+".toList [] {})).1.eof = true := by decide +kernel
-- mpq: "1/-2" the denominator takes its own sign and nothing is canonicalised; "1/0" stores a zero denominator without any error;
-- "4/2" stays 4/2; "1/" stores the numerator, sets failbit (and eofbit) and leaves the denominator; no white space after the slash
example : (extractQ (mkG "1/-2".toList [] {})).2 = (.value 1, .value (-2)) ∧ (extractQ (mkG "1/-2".toList [] {})).1.good = true ∧
    (extractQ (mkG "1/0".toList [] {})).2 = (.value 1, .value 0) ∧ (extractQ (mkG "1/0".toList [] {})).1.good = true ∧
    (extractQ (mkG "4/2".toList [] {})).2 = (.value 4, .value 2) ∧
    extractQ (mkG "1/".toList [] {}) = ({ rest := [], done := ['/', '1'], eof := true, fail := true }, .value 1, .unchanged) ∧
    extractQ (mkG "1/ 2".toList [] {}) = ({ rest := " 2".toList, done := ['/', '1'], fail := true }, .value 1, .unchanged) := by decide +kernel

end Mpir.CxxIo
