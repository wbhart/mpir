/-
  C13, part c13_cmp — mpf_cmp, mpf_sgn, mpf_eq, mpf_reldiff.
  Property theorems only; helper lemmas live in MpirProofs/Lemmas/MpfCmp.lean.

  `Mpf.cmp` (Model/Mpf.lean, mpf/cmp.c) is the model behind op `mpf_cmp13`; `MpfCmp.eq`, `MpfCmp.reldiff`, `MpfCmp.sgn`
  (Model/MpfCmp.lean; mpf/eq.c, mpf/reldiff.c, mpir.h) are behind `mpf_eq13`, `mpf_reldiff`, `mpf_sgn13`.
  Operands are only required to satisfy the operand rules `OpWF` (proper limbs, |size| limbs, top limb ≠ 0, zero has
  exponent 0): any length, in particular longer than their own prec+1 (the state mpf_set_prec_raw leaves), low zero
  limbs allowed.  `toQ u` = ± val d · B^(exp − |size|) ∈ ℚ.

  (mpf_cmp_ui / _si / _d / _z, mpf_get_si / _ui / _d / _d_2exp, mpf_fits_*_p and mpf_integer_p are proved in
  Props/C11.lean on Model/Conv.lean, whose `F` carries no precision: they already cover operands of every length.)
-/
import MpirProofs.Lemmas.MpfCmp
namespace Mpir.MpfCmp
open Mpir Mpir.Mpf

/-! ### mpf_cmp, mpf_sgn -/

/-- mpf_cmp (u, v) is the sign of the exact difference u − v, for all operands of any sizes and precisions:
    opposite signs, zeros, different exponents, low zero limbs skipped, and the aligned limb comparison in which one
    mantissa may be a proper prefix of the other (then the longer one is the larger magnitude, for either sign). -/
theorem cmp_spec (u v : F) (hu : OpWF u) (hv : OpWF v) :
    Mpf.cmp u v = (if toQ u < toQ v then -1 else if toQ u = toQ v then 0 else 1) := by
  -- C11's `mpf_cmp_spec` on the other model of cmp.c: the sign of the difference of the integer mantissas on the
  -- common scale `B^m`, `m` the lower of the two lowest-limb exponents
  have hc := Conv.mpf_cmp_sgn (toConv u) (toConv v) (toConv_wf hu) (toConv_wf hv)
  rw [← cmp_eq_conv u v hu hv, ← cmp_sgn] at hc
  rw [hc]
  refine (sgnCmp_of_int _ (Bz_pos (min (toConv u).lowExp (toConv v).lowExp)) ?_).symm
  have e : ∀ l : ℤ, min (toConv u).lowExp (toConv v).lowExp ≤ l →
      (B : ℚ) ^ l = ((B ^ (l - min (toConv u).lowExp (toConv v).lowExp).toNat : ℕ) : ℚ) *
        (B : ℚ) ^ min (toConv u).lowExp (toConv v).lowExp := fun l hl => by
    rw [Nat.cast_pow, ← zpow_natCast, ← zpow_add₀ Bq_ne]; congr 1; omega
  rw [toQ_toConv hu, toQ_toConv hv, e _ (min_le_left _ _), e _ (min_le_right _ _)]
  push_cast; ring

-- non-vacuity: two negatives, v = −(1 + 2^-64·…) a prefix extension of u = −1·…: u > v; same with the signs flipped;
-- equal values with a low zero limb; exponent decides
example : Mpf.cmp ⟨2, -1, 1, [7]⟩ ⟨2, -2, 1, [9, 7]⟩ = 1 ∧ Mpf.cmp ⟨2, 1, 1, [7]⟩ ⟨2, 2, 1, [9, 7]⟩ = -1 ∧
    Mpf.cmp ⟨2, -2, 1, [0, 7]⟩ ⟨2, -1, 1, [7]⟩ = 0 ∧ Mpf.cmp ⟨2, -1, 2, [1]⟩ ⟨2, -3, 1, [5, 6, B - 1]⟩ = -1 := by decide

/-- mpf_cmp is antisymmetric (with `cmp_spec`: a total order consistent with the values). -/
theorem cmp_antisymm (u v : F) (hu : OpWF u) (hv : OpWF v) : Mpf.cmp v u = - Mpf.cmp u v := by
  rw [show Mpf.cmp v u = sgnCmp (toQ v) (toQ u) from cmp_spec v u hv hu,
    show Mpf.cmp u v = sgnCmp (toQ u) (toQ v) from cmp_spec u v hu hv, sgnCmp_swap]

example : Mpf.cmp ⟨2, 2, 1, [9, 7]⟩ ⟨2, 1, 1, [7]⟩ = - Mpf.cmp ⟨2, 1, 1, [7]⟩ ⟨2, 2, 1, [9, 7]⟩ := by decide

/-- mpf_sgn: +1, 0, −1 as the value is positive, zero, negative. -/
theorem sgn_spec (u : F) (hu : OpWF u) :
    sgn u = (if toQ u < 0 then -1 else if toQ u = 0 then 0 else 1) := by
  unfold sgn
  by_cases a : u.size < 0
  · rw [if_pos a, if_pos (toQ_neg_of hu a)]
  · rw [if_neg a]
    by_cases b : u.size > 0
    · have := toQ_pos_of hu b
      rw [if_pos b, if_neg (by linarith), if_neg (by linarith)]
    · rw [if_neg b, hu.toQ_zero (by omega)]; simp

example : sgn ⟨2, -2, -5, [0, 3]⟩ = -1 ∧ sgn ⟨2, 0, 0, []⟩ = 0 ∧ sgn ⟨2, 1, 9, [3]⟩ = 1 := by decide

/-! ### mpf_eq

The manual: "Return non-zero if the first op3 bits of op1 and op2 are equal, zero otherwise."  The first n bits of
a non-zero float are those of its mantissa integer counted from the leading 1 bit (`firstBits`, zero bits supplied
when the mantissa is shorter), together with the sign and the position of that leading bit
(`bitExp u` = 64·exp − clz(top limb):  2^(bitExp−1) ≤ |u| < 2^bitExp). -/

/-- position of the leading bit of |u|: 2^(bitExp u − 1) ≤ |u| < 2^(bitExp u) -/
def bitExp (u : F) : Int := 64 * u.exp - (clz (topLimb u.d) : Int)

/-- `bitExp` is the position of the leading bit of the value: 2^(bitExp u − 1) ≤ |u| < 2^(bitExp u). -/
theorem bitExp_bounds (u : F) (hu : OpWF u) (h0 : u.size ≠ 0) :
    (2 : ℚ) ^ (bitExp u - 1) ≤ |toQ u| ∧ |toQ u| < (2 : ℚ) ^ (bitExp u) := by
  obtain ⟨h1, h2, h3⟩ := log2_val (hu.mant h0)
  have hv0 : val u.d ≠ 0 := Nat.pos_iff_ne_zero.mp (hu.mant h0).val_pos
  have lo : 2 ^ Nat.log2 (val u.d) ≤ val u.d := Nat.log2_self_le hv0
  have hi : val u.d < 2 ^ (Nat.log2 (val u.d) + 1) := Nat.lt_log2_self
  rw [abs_toQ]; unfold qv bitExp
  rw [Bz_eq_two]
  have hp : (0 : ℚ) < (2 : ℚ) ^ (64 * (u.exp - (u.d.length : ℤ))) := zpow_pos (by norm_num) _
  generalize hL : Nat.log2 (val u.d) = L at *
  constructor
  · have e : (2 : ℚ) ^ (64 * u.exp - (clz (topLimb u.d) : ℤ) - 1) =
        ((2 ^ L : ℕ) : ℚ) * (2 : ℚ) ^ (64 * (u.exp - (u.d.length : ℤ))) := by
      push_cast; rw [← zpow_natCast (2 : ℚ) L, ← zpow_add₀ (by norm_num : (2 : ℚ) ≠ 0)]; congr 1; omega
    rw [e]; exact mul_le_mul_of_nonneg_right (by exact_mod_cast lo) (le_of_lt hp)
  · have e : (2 : ℚ) ^ (64 * u.exp - (clz (topLimb u.d) : ℤ)) =
        ((2 ^ (L + 1) : ℕ) : ℚ) * (2 : ℚ) ^ (64 * (u.exp - (u.d.length : ℤ))) := by
      push_cast; rw [← zpow_natCast (2 : ℚ) (L + 1), ← zpow_add₀ (by norm_num : (2 : ℚ) ≠ 0)]; congr 1; push_cast; omega
    rw [e]; exact mul_lt_mul_of_pos_right (by exact_mod_cast hi) hp

-- 5·B^0 = 101b: leading bit at position 3
example : bitExp ⟨2, 1, 1, [5]⟩ = 3 ∧ bitExp ⟨2, -2, -1, [0, 2 ^ 63]⟩ = -64 := by decide +kernel

/-- mpf_eq (u, v, n) for EVERY bit count n: true iff both are zero, or both are non-zero with the same sign, the same
    leading-bit position and the same first n bits.  (n = 0 compares sign and leading-bit position only; n beyond the
    operands compares them entirely.)  Hypotheses: the operand rules and |size| < 2^31 (`_mp_size` is an int). -/
theorem eq_spec (u v : F) (hu : OpWF u) (hv : OpWF v) (hlu : u.d.length < 2 ^ 31) (hlv : v.d.length < 2 ^ 31) (nbits : Nat) :
    eq u v nbits = true ↔
      (u.size = 0 ∧ v.size = 0) ∨
      (u.size ≠ 0 ∧ v.size ≠ 0 ∧ (u.size < 0 ↔ v.size < 0) ∧ bitExp u = bitExp v ∧
        firstBits (val u.d) nbits = firstBits (val v.d) nbits) := by
  rw [eq_unfold]
  by_cases hs : (decide (u.size < 0) != decide (v.size < 0)) = true
  · rw [if_pos hs]
    constructor
    · intro h; exact absurd h Bool.false_ne_true
    · rintro (⟨a, b⟩ | ⟨_, _, c, _⟩)
      · rw [a, b] at hs; simp at hs
      · by_cases a : u.size < 0
        · simp [a, c.mp a] at hs
        · simp [a] at hs; exact absurd (c.mpr hs) a
  · rw [if_neg hs]
    have same : (u.size < 0 ↔ v.size < 0) := by
      by_cases a : u.size < 0 <;> by_cases b : v.size < 0 <;> simp [a, b] at hs ⊢
    by_cases hu0 : u.size = 0
    · rw [if_pos hu0]
      exact ⟨fun h => Or.inl ⟨hu0, of_decide_eq_true h⟩, fun h => h.elim (fun a => decide_eq_true a.2) (fun a => absurd hu0 a.1)⟩
    · rw [if_neg hu0]
      by_cases hv0 : v.size = 0
      · rw [if_pos hv0]
        exact iff_of_false Bool.false_ne_true (fun h => h.elim (fun a => hu0 a.1) (fun a => a.2.1 hv0))
      · rw [if_neg hv0]
        have mu := hu.mant hu0
        have mv := hv.mant hv0
        obtain ⟨_, cu64, _⟩ := log2_val mu
        obtain ⟨_, cv64, _⟩ := log2_val mv
        have hbe : bitExp u = bitExp v ↔ (u.exp = v.exp ∧ clz (topLimb u.d) = clz (topLimb v.d)) := by
          unfold bitExp; omega
        -- both operands are non-zero of the same sign: only the last two conditions are left
        have key : ((u.size = 0 ∧ v.size = 0) ∨ (u.size ≠ 0 ∧ v.size ≠ 0 ∧ (u.size < 0 ↔ v.size < 0) ∧ bitExp u = bitExp v ∧
            firstBits (val u.d) nbits = firstBits (val v.d) nbits)) ↔
            (bitExp u = bitExp v ∧ firstBits (val u.d) nbits = firstBits (val v.d) nbits) :=
          ⟨fun h => h.elim (fun a => absurd a.1 hu0) (fun a => a.2.2.2), fun h => Or.inr ⟨hu0, hv0, same, h⟩⟩
        rw [key]
        by_cases g1 : u.exp > v.exp
        · rw [if_pos g1]; exact iff_of_false Bool.false_ne_true (fun h => by have := (hbe.mp h.1).1; omega)
        rw [if_neg g1]
        by_cases g2 : v.exp > u.exp
        · rw [if_pos g2]; exact iff_of_false Bool.false_ne_true (fun h => by have := (hbe.mp h.1).1; omega)
        rw [if_neg g2]
        by_cases g3 : clz (topLimb u.d) ≠ clz (topLimb v.d)
        · rw [if_pos g3]; exact iff_of_false Bool.false_ne_true (fun h => g3 (hbe.mp h.1).2)
        rw [if_neg g3]
        have g3' : clz (topLimb u.d) = clz (topLimb v.d) := not_not.mp g3
        have hlim : 64 * max u.d.length v.d.length + 127 ≤ 2 ^ 64 := by
          rcases max_cases u.d.length v.d.length with ⟨h, _⟩ | ⟨h, _⟩ <;> rw [h] <;> omega
        have core : eqTail u.d v.d (if nbits > 64 * max u.d.length v.d.length then 64 * max u.d.length v.d.length else nbits)
            (clz (topLimb u.d)) = true ↔
            val u.d * 2 ^ (nbits + clz (topLimb u.d)) / B ^ u.d.length =
              val v.d * 2 ^ (nbits + clz (topLimb u.d)) / B ^ v.d.length := by
          by_cases hc : nbits > 64 * max u.d.length v.d.length
          · rw [if_pos hc, eqTail_spec u.d v.d hu.limbs hv.limbs _ _ cu64 hlim]
            exact (topbits_clamp u.d v.d _ _ (by omega) (by omega)).symm
          · rw [if_neg hc]; exact eqTail_spec u.d v.d hu.limbs hv.limbs _ _ cu64 (by omega)
        have fu := firstBits_eq mu nbits
        have fv := firstBits_eq mv nbits
        rw [← g3'] at fv
        rw [core, ← fu, ← fv]
        exact ⟨fun h => ⟨hbe.mpr ⟨by omega, g3'⟩, h⟩, fun h => h.2⟩

-- non-vacuity: 5 = 101b and 7 = 111b agree in 1 bit, not in 2; 2^64+… against its one-limb prefix: 64 bits equal, the
-- 65th not (first differing bit lies in the zero extension of the shorter operand); negative pair; zero
example : eq ⟨2, 1, 1, [5]⟩ ⟨2, 1, 1, [7]⟩ 1 = true ∧ eq ⟨2, 1, 1, [5]⟩ ⟨2, 1, 1, [7]⟩ 2 = false ∧
    eq ⟨2, 2, 1, [2 ^ 63, 2 ^ 63]⟩ ⟨2, 1, 1, [2 ^ 63]⟩ 64 = true ∧ eq ⟨2, 2, 1, [2 ^ 63, 2 ^ 63]⟩ ⟨2, 1, 1, [2 ^ 63]⟩ 65 = false ∧
    eq ⟨2, -1, 3, [12]⟩ ⟨2, -2, 3, [1, 12]⟩ 60 = true ∧ eq ⟨2, 0, 0, []⟩ ⟨5, 0, 0, []⟩ 99 = true ∧
    firstBits 5 1 = firstBits 7 1 ∧ firstBits 5 2 ≠ firstBits 7 2 := by decide +kernel

/-- mpf_eq (u, u, n) holds for every n. -/
theorem eq_refl (u : F) (hu : OpWF u) (hlu : u.d.length < 2 ^ 31) (nbits : Nat) : eq u u nbits = true := by
  rw [eq_spec u u hu hu hlu hlu nbits]
  by_cases h : u.size = 0
  · exact Or.inl ⟨h, h⟩
  · exact Or.inr ⟨h, h, Iff.rfl, rfl, rfl⟩

example : eq ⟨2, 3, -7, [1, 2, 3]⟩ ⟨2, 3, -7, [1, 2, 3]⟩ 1000 = true := by decide +kernel

/-- What was wrong before /repo commit b2b40d5 (found with this model, confirmed on the library, repaired): without
    the clamp of eq.c:80-81, `n_bits + cu` and BITS_TO_LIMBS wrapped in `mp_bitcnt_t` for n_bits ≥ 2^64 − 63 − cu, the
    limb count became 0 and the answer "equal": mpf_eq (5, 7, ULONG_MAX) was 1 although 5 = 101b and 7 = 111b differ
    in their second bit.  With the clamp the answer is 0 (corpus/C13/mpf_eq_huge_nbits.ops). -/
theorem eq_wrapped_before_b2b40d5 : eqNoClamp ⟨2, 1, 1, [5]⟩ ⟨2, 1, 1, [7]⟩ (2 ^ 64 - 1) = true ∧
    firstBits 5 2 ≠ firstBits 7 2 ∧ eq ⟨2, 1, 1, [5]⟩ ⟨2, 1, 1, [7]⟩ (2 ^ 64 - 1) = false := by decide +kernel

/-! ### mpf_reldiff

reldiff.c: d = x − y at precision prec + |x| limbs, |d|, then mpf_div at the destination precision.  The manual:
"|op1 − op2| / op1".  C13's 2^(2−p) bound is not claimed for mpf_reldiff by the property text; what holds is the
composition of the two roundings. -/

/-- x = 0: the result is 1 if y ≠ 0, else 0 (reldiff.c:33-36; the quotient |0 − y|/0 itself is undefined). -/
theorem reldiff_zero (prec : ℕ) (x y : F) (hx0 : x.size = 0) :
    ∃ r, reldiff prec x y = .ok r ∧ WF r ∧ toQ r = (if y.size = 0 then 0 else 1) := by
  unfold reldiff
  rw [if_pos hx0]
  refine ⟨_, rfl, ?_, ?_⟩
  · by_cases h : y.size = 0
    · simp only [h, ne_eq, not_true_eq_false, if_false]; exact WF_zero prec
    · simp only [h, ne_eq, not_false_eq_true, if_true]
      exact ⟨Limbs_cons.mpr ⟨by rw [B_eq]; norm_num, Limbs_nil⟩, rfl, by simp [set_ui], by simp [set_ui], by simp [set_ui]⟩
  · by_cases h : y.size = 0
    · simp [h, set_ui, toQ]
    · simp [h, set_ui, toQ, val]

example : reldiff 2 ⟨2, 0, 0, []⟩ ⟨2, -1, 4, [9]⟩ = .ok ⟨2, 1, 1, [1]⟩ := by decide

/-- x ≠ 0: mpf_reldiff returns normally with a well-formed result; it is exactly 0 when x = y, and otherwise within
    (ε_p + ε_d + ε_p·ε_d)·| |x−y|/x | of |x−y|/x, where ε_p = 2^(2−p) for the destination and ε_d = 2^(2−p_d) for the
    temporary of prec + |x| limbs (so ε_d ≤ 2^-64·ε_p).  In particular the result has the sign of x. -/
theorem reldiff_spec (prec : ℕ) (hp : 2 ≤ prec) (x y : F) (hx : OpWF x) (hy : OpWF y) (hx0 : x.size ≠ 0) :
    ∃ r, reldiff prec x y = .ok r ∧ WF r ∧
      (toQ x = toQ y → toQ r = 0) ∧
      (toQ x ≠ toQ y →
        |toQ r - |toQ x - toQ y| / toQ x| <
          (eps prec + eps (prec + x.d.length) + eps prec * eps (prec + x.d.length)) * (|toQ x - toQ y| / |toQ x|)) :=
  reldiff_core prec hp x y hx hy hx0

-- non-vacuity: |3 − 5| / 3 at two limbs: 0.666… = [0xaaaa…aa, 0xaaaa…aa]·B^0 (truncated); x = y gives 0;
-- |−4 − 5| / −4 = −2.25
example : reldiff 2 ⟨2, 1, 1, [3]⟩ ⟨2, 1, 1, [5]⟩ = .ok ⟨2, 2, 0, [0xaaaaaaaaaaaaaaaa, 0xaaaaaaaaaaaaaaaa]⟩ ∧
    reldiff 2 ⟨2, -1, 1, [3]⟩ ⟨2, -2, 1, [0, 3]⟩ = .ok ⟨2, 0, 0, []⟩ ∧
    reldiff 2 ⟨2, -1, 1, [4]⟩ ⟨2, 1, 1, [5]⟩ = .ok ⟨2, -3, 1, [0, 2 ^ 62, 2]⟩ := by decide +kernel

end Mpir.MpfCmp
