/-
  C07 — the divide-and-conquer range of mpn_gcdext (gcdext.c:272-546): first mpn_hgcd round with p = n/2, the loop of
  rounds with p = n/3 and hgcd_mul_matrix_vector on the cofactors, the mpn_gcd_subdiv_step fallback with mpn_gcdext_hook,
  the exits (gcd found by the hook, a = b, u0 = 0, lehmer_un = 0, compute_v = 0) and the final combination.
  Property theorems only (lemmas: MpirProofs/Lemmas/GcdextDc.lean, GcdextDc2.lean).  They are about the sized model
  `Mpir.Gcdext.mpnGcdextS` of Mpir/Model/Gcdext.lean, compared with the real mpn_gcdext on {gp, gn}, *usize, {up, |*usize|}
  by the ops `mpn_gcdext_sz` / `mpn_gcdext_sz_p` of harness/ops_gcdext.c.
-/
import MpirProofs.Lemmas.GcdextDc2
namespace Mpir.C07dc
open Mpir Mpir.Gcd Mpir.Hgcd Mpir.Gcdext

/-- hgcd_mul_matrix_vector (gcdext.c:29) on cofactors u0, u1 < B^un (u1 ≥ 1) with a matrix of determinant 1 whose entries
    fit M->n limbs: the new pair is (u0·m00 + u1·m10, u0·m01 + u1·m11) exactly (the carry limbs ah, bh are stored), and
    the returned size is exact: both fit it and one of them uses its top limb (the C's `ASSERT ((u0[un-1] | u1[un-1]) > 0)`). -/
theorem hgcd_mul_matrix_vector_correct (M : HM) (u0 u1 un : Nat) (hf : M.Fits) (hd : det1 M.toM1) (h0 : u0 < B ^ un)
    (h1 : u1 < B ^ un) (hu1 : 1 ≤ u1) :
    (mulMatrixVector M u0 u1 un).1 = u0 * M.e00 + u1 * M.e10 ∧
    (mulMatrixVector M u0 u1 un).2.1 = u0 * M.e01 + u1 * M.e11 ∧
    u0 * M.e00 + u1 * M.e10 < B ^ (mulMatrixVector M u0 u1 un).2.2 ∧
    u0 * M.e01 + u1 * M.e11 < B ^ (mulMatrixVector M u0 u1 un).2.2 ∧
    (B ^ ((mulMatrixVector M u0 u1 un).2.2 - 1) ≤ u0 * M.e00 + u1 * M.e10 ∨
      B ^ ((mulMatrixVector M u0 u1 un).2.2 - 1) ≤ u0 * M.e01 + u1 * M.e11) ∧
    1 ≤ (mulMatrixVector M u0 u1 un).2.2 := by
  have hy : nlimbs u1 ≤ nlimbs (u0 * M.e01 + u1 * M.e11) := nlimbs_isSize.mono (row_mul_ge hd u0 u1).2
  have := nlimbs_pos hu1
  rw [nlimbs_isSize.lt_pow_iff] at h0 h1
  rw [mulMatrixVector_eq M u0 u1 un hf h0 h1]
  simp only [nlimbs_isSize.lt_pow_iff, nlimbs_isSize.pow_le_iff, true_and]
  exact ⟨le_max_left _ _, le_max_right _ _, by omega, by omega⟩

-- non-vacuity: a carry into limb un + M->n, and a result two limbs shorter than un + M->n
example : mulMatrixVector ⟨3, 1, B - 1, B - 2, B - 1, B - 1⟩ (B - 1) (B - 1) 1 = ((B - 1) * (B - 1) + (B - 1) * (B - 1), (B - 1) * (B - 2) + (B - 1) * (B - 1), 3) := by
  decide +kernel
example : mulMatrixVector ⟨3, 2, 3, 2, 4, 3⟩ 1 5 2 = (23, 17, 1) := by decide +kernel

/-- compute_v (gcdext.c:93): for a non-zero Lehmer cofactor u = ±{up, |usize|} (normalised) of (a, b), g ≤ a, and the
    natural T with b·T = |g − u·a| (u·a − g for u > 0, g + |u|·a for u < 0), the function returns (T, nlimbs T): both
    `ASSERT_NOCARRY` hold (g ≤ u·a resp. g + |u|·a fits |usize| + an limbs), the `size == 0` exit is T = 0, the quotient
    size vn = size + 1 − bn minus a zero top limb is exact. -/
theorem compute_v_correct (a b g up T : Nat) (usize : Int) (ha : 0 < a) (hb : 0 < b) (hg : 0 < g) (hga : g ≤ a) (hup : 0 < up)
    (hsz : usize.natAbs = nlimbs up) (hT : if usize > 0 then b * T + g = a * up else b * T = a * up + g) :
    computeV a b g up usize = (T, nlimbs T) :=
  computeV_spec a b g up T usize ha hb hg hga hup hsz hT

example : computeV 5 3 1 2 1 = (3, 1) := by decide +kernel                      -- 2·5 − 1 = 3·3
example : computeV (B + 1) (B + 1) (B + 1) 1 1 = (0, 0) := by decide +kernel    -- u·a = g: the `size == 0` exit
example : computeV (B * B + 1) 3 1 1 (-1) = ((B * B + 2) / 3, 2) := by decide +kernel           -- g + |u|·a = 3·T

/-- what remains for the flag "no store outside a buffer": the size field of the matrix returned by mpn_hgcd, which the C
    asserts at gcdext.c:296 and :347 (`ASSERT (M.n <= (n - p - 1)/2)`); its proof needs the normalisation argument of
    mpn_hgcd_matrix_mul's comment (the entries themselves ARE bounded: `mpn_hgcd_correct_partial`). -/
def HgcdMn (thr : Thr) (ns : Nat → Nat) : Prop := HgMn (hgcd thr ns) thr.reduce

/-- PARTIAL (full statement: without `hR` and with `r.ok = true` unconditionally; missing: (1) mpn_hgcd for operands of
    HGCD_REDUCE_THRESHOLD limbs or more — mpn_hgcd_appr's truncation analysis — so the theorem covers divisors V with
    n − ⌊n/3⌋ < HGCD_REDUCE_THRESHOLD, i.e. n ≤ 10276 limbs on this build (the loop calls mpn_hgcd on n − n/3 limbs; NOT
    3·6852: after a failed first round the second call is on two thirds of the full size); (2) the bound on M->n, see `HgcdMn`).
    **The contract of mpn_gcdext on the divide-and-conquer range**, for every call satisfying the C's ASSERTs (an ≥ n > 0,
    bp[n-1] ≠ 0) with n ≥ GCDEXT_DC_THRESHOLD, any thresholds with HGCD_THRESHOLD ≥ 8 and GCDEXT_DC_THRESHOLD ≥ 10, for
    the sized model (initial mpn_tdiv_qr, zero-remainder exit, first mpn_hgcd round on the top n − n/2 limbs with
    mpn_hgcd_matrix_adjust and (u0, u1) := second row of M, the loop with p = n/3 and hgcd_mul_matrix_vector, the
    mpn_gcd_subdiv_step fallback with mpn_gcdext_hook and its `return ctx.gn`, after the loop the a = b exit, the u0 = 0
    shortcut, mpn_gcdext_lehmer_n on copies, the lehmer_un = 0 exit, compute_v, S = u·u1 − v·u0 with `negate`):
    G = gcd(U, V), V ∣ G − U·S, S = 1 or 2·G·|S| < V (precisely: 2·G·|S| < V, or S = 1 and V = 2G), S = 0 ↔ V ∣ U;
    {gp, gn} and {up, |usize|} are normalised, usize < 0 iff S < 0; and — given `HgcdMn` — no store went outside the
    (n+1)-limb cofactor buffers: the C's ASSERTs `M.n + un <= ualloc`, `un < ualloc`, `lehmer_un + u1n <= ualloc`,
    `lehmer_vn + u0n <= ualloc` hold.  The invariant: a = u1·A − v1·V, b = −u0·A + v0·V with determinant 1, hence
    V = u0·a + u1·b and u0, u1 < B^(N − k) whenever a, b ≥ B^k. -/
theorem mpn_gcdext_dc_correct_partial (thr : Thr) (ns : Nat → Nat) (h8 : 8 ≤ thr.hgcd) (dcThr : Nat) (h10 : 10 ≤ dcThr)
    (U V : Nat) (hV0 : 0 < V) (hle : nlimbs V ≤ nlimbs U) (hdc : dcThr ≤ nlimbs V)
    (hR : nlimbs V - nlimbs V / 3 < thr.reduce) :
    let r := mpnGcdextS (hgcd thr ns) dcThr U (nlimbs U) V (nlimbs V)
    mpnGcdextOk U V r.g r.S ∧ CofBound V r.g r.S ∧ r.gn = nlimbs r.g ∧ r.up = r.S.natAbs ∧ r.usize.natAbs = nlimbs r.up ∧
      (r.usize < 0 ↔ r.S < 0) ∧ (HgcdMn thr ns → r.ok = true) :=
  mpnGcdextS_dc_spec (hgcd thr ns) thr.reduce dcThr U V (hgOk_hgcd thr ns h8) h10 hV0 hle hdc hR

/-- the same with the thresholds of this build (GCDEXT_DC_THRESHOLD = 342, HGCD_REDUCE_THRESHOLD = 6852): divisors of
    342 … 10276 limbs. -/
theorem mpn_gcdext_dc_build_partial (t0 t1 t3 : Nat) (ns : Nat → Nat) (h8 : 8 ≤ t0) (U V : Nat) (hV0 : 0 < V)
    (hle : nlimbs V ≤ nlimbs U) (hdc : GCDEXT_DC_THRESHOLD ≤ nlimbs V) (hR : nlimbs V ≤ 10276) :
    let r := mpnGcdextS (hgcd ⟨t0, t1, 6852, t3⟩ ns) GCDEXT_DC_THRESHOLD U (nlimbs U) V (nlimbs V)
    mpnGcdextOk U V r.g r.S ∧ r.gn = nlimbs r.g ∧ r.usize.natAbs = nlimbs r.up ∧ (r.usize < 0 ↔ r.S < 0) := by
  intro r
  obtain ⟨c1, _, c3, _, c5, c6, _⟩ := mpn_gcdext_dc_correct_partial ⟨t0, t1, 6852, t3⟩ ns h8 GCDEXT_DC_THRESHOLD
    (by unfold GCDEXT_DC_THRESHOLD; omega) U V hV0 hle hdc (by show nlimbs V - nlimbs V / 3 < 6852; omega)
  exact ⟨c1, c3, c5, c6⟩

-- non-vacuity: a 12-limb call through the dc code (GCDEXT_DC_THRESHOLD = 10 here): first round, loop, Lehmer call, compute_v
example : (mpnGcdextS (hgcd ⟨8, 50, 1000, 2⟩ id) 10 (3 ^ 480) 12 (5 ^ 320) 12).ok = true ∧
    (mpnGcdextS (hgcd ⟨8, 50, 1000, 2⟩ id) 10 (3 ^ 480) 12 (5 ^ 320) 12).g = 1 := by decide +kernel

end Mpir.C07dc
