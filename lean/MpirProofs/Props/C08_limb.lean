/-
  C08, limb level — property theorems only; helper lemmas in MpirProofs/Lemmas/PowmLimb.lean.
  Models: Mpir/Model/PowmLimb.lean (mpn_redc_n on limb lists with its scratch area, mpn_powm on memory),
  run against the rebuilt library by the ops of Mpir/Ops/PowmLimb.lean.
-/
import MpirProofs.Lemmas.PowmLimb
import Mpir.Model.Hgcd
namespace Mpir.PowmL
open Mpir Mpir.Powm

/-- **mpn_redc_n** (mpn/generic/redc_n.c:71-78), limb level, for EVERY representative the call of
    mpn_mulmod_bnm1 may leave in `yp[0..rn)`.

    Inputs: `up` (2n limbs, any value `U < B^(2n)`), `mp` (n limbs), `ip` with `ip·m ≡ +1 (mod B^n)` — the
    sign convention of redc_n.c: the inverse as mpn_binvert returns it, not negated (this forces `m` odd);
    `x = U_lo·ip mod B^n` is what mpn_mullow_n leaves at `xp`; `yres` (rn limbs) is any residue of `x·m`
    modulo `B^rn − 1`, 0 when the product is 0 (mulmod_2expm1.c:34 "only 0 has two representations").
    `n ≤ rn` is mpn_mulmod_bnm1's ASSERT (an <= rn), `rn < 2n` is redc_n.c's ASSERT_ALWAYS.

    Then:
    * the wrap-around recovery is exact and its borrow (MPN_DECR_U) stops inside `yp[0..2n)` (`ok`);
    * the result is the n limbs of the value-level `redc_n`: `R < B^n`, `R·B^n ≡ U (mod m)`;
    * range: `R < m` whenever `U < m·B^n` (in particular for `U < B^n`, the conversion out of Montgomery
      form); for larger `U` only `R < B^n` — mpn_powm relies on `< B^n` between multiplications and on
      `≤ m` at the very end (then `mpn_cmp`/`mpn_sub_n`). -/
theorem redc_n_limb_spec (rn : Nat) (up mp ip yres : List Nat)
    (hup : Limbs up) (hmp : Limbs mp) (hyr : Limbs yres)
    (hlen : up.length = 2 * mp.length) (hyl : yres.length = rn) (hn : 1 ≤ mp.length)
    (hrn1 : mp.length ≤ rn) (hrn2 : rn < 2 * mp.length)
    (hinv : (val ip * val mp) % B ^ mp.length = 1)
    (hrep : val yres % (B ^ rn - 1) = ((val up % B ^ mp.length * val ip) % B ^ mp.length * val mp) % (B ^ rn - 1))
    (hzero : (val up % B ^ mp.length * val ip) % B ^ mp.length * val mp = 0 → val yres = 0) :
    (redcNCore rn up mp yres).2 = true ∧
    (redcNCore rn up mp yres).1 = toLimbs mp.length (redc_n (val up) (val mp) mp.length (val ip)) ∧
    redc_n (val up) (val mp) mp.length (val ip) < B ^ mp.length ∧
    (redc_n (val up) (val mp) mp.length (val ip) * B ^ mp.length ≡ val up [MOD val mp]) ∧
    (val up < val mp * B ^ mp.length → redc_n (val up) (val mp) mp.length (val ip) < val mp) :=
  redcNCore_redc_n rn up mp ip yres hup hmp hyr hlen hyl hn hrn1 hrn2 hinv hrep hzero

-- non-vacuity, the borrow of the recovery ripples: n = 2, rn = 3 (k = 1), m = 3·2^96 − 1, x = 3·2^96 + 1, so
-- x·m = 9·B³ − 1 = [B−1, B−1, B−1, 8]: limbs k..rn of the product are all ones and the wrapped part 8 added
-- to the low limb B−1 carries, the residue mod B³ − 1 is [8, 0, 0]; the subtraction gives 9 with a borrow,
-- MPN_DECR_U turns the two zero limbs into ones and the 9 into 8.  U = [B−1, B−1, 7, 9].
example : mulmodBnm1 3 [1, 3 * 2 ^ 32] [B - 1, 3 * 2 ^ 32 - 1] = [8, 0, 0] ∧
    redcN 3 [B - 1, B - 1, 7, 9] [B - 1, 3 * 2 ^ 32 - 1] [B - 1, 18446744060824649727] = ([8, 0], true) ∧
    (val [B - 1, 18446744060824649727] * val [B - 1, 3 * 2 ^ 32 - 1]) % B ^ 2 = 1 := by decide +kernel
-- both representatives of the class of 0 (x·m = 5·(B² − 1) ≠ 0, rn = n = 2) give the same limbs
example : redcNCore 2 [B - 5, B - 1, 7, 0] [B - 1, B - 1] [0, 0] = ([3, 0], true) ∧
    redcNCore 2 [B - 5, B - 1, 7, 0] [B - 1, B - 1] [B - 1, B - 1] = ([3, 0], true) := by decide +kernel
-- the largest input U = (m−1)·B^n + (B^n − 1) and U = 0, m = B² − 1 (ip = m)
example : redcN 2 [B - 1, B - 1, B - 3, B - 1] [B - 1, B - 1] [B - 1, B - 1] = ([B - 3, B - 1], true) ∧
    redcN 2 [0, 0, 0, 0] [B - 1, B - 1] [B - 1, B - 1] = ([0, 0], true) := by decide +kernel

/-- The executable mpn_redc_n (least representative for mulmod_bnm1) — what the driver runs against the
    library: ok, and exactly the limbs of `U·B^(−n) mod m` in the range above. -/
theorem redc_n_exec_spec (rn : Nat) (up mp ip : List Nat) (hup : Limbs up) (hmp : Limbs mp)
    (hlen : up.length = 2 * mp.length) (hn : 1 ≤ mp.length)
    (hrn1 : mp.length ≤ rn) (hrn2 : rn < 2 * mp.length)
    (hinv : (val ip * val mp) % B ^ mp.length = 1) :
    (redcN rn up mp ip).2 = true ∧
    (redcN rn up mp ip).1 = toLimbs mp.length (redc_n (val up) (val mp) mp.length (val ip)) :=
  redcN_eq rn up mp ip hup hmp hlen hn hrn1 hrn2 hinv

example : redcN 9 (toLimbs 18 (3 ^ 700)) (toLimbs 9 (5 ^ 200)) (toLimbs 9 (binvert (5 ^ 200) 9)) =
    (toLimbs 9 (redc_n (3 ^ 700) (5 ^ 200 % B ^ 9) 9 (binvert (5 ^ 200) 9)), true) := by decide +kernel

/-- **mpn_powm** (mpn/generic/powm.c) on memory: `rp` (n limbs), the caller's scratch `tp` (`itch` limbs),
    the table `pp` (`n << (windowsize−1)` limbs), every store and load bounds-checked into `ok`.
    Preconditions are the C's: `{ep,en}` in normal form (`ep[en-1] ≠ 0`, MPN_SIZEINBASE_2EXP), `n ≥ 1`, `m` odd
    (ASSERTs at powm.c:172-173; the theorem does not need `e > 1`), scratch of at least
    `MAX (mpn_binvert_itch (n), 2n)` limbs (powm.c:157; `binvItch` is only charged when the redc_n branch
    runs mpn_binvert), and for that branch `n ≤ rn < 2n` for `rn = mpn_mulmod_bnm1_next_size (n)`
    (mulmod_bnm1's ASSERT and redc_n's ASSERT_ALWAYS; `rn = n` for `n ≤ 2·FFT_MULMOD_2EXPP1_CUTOFF`).
    For every base (any `bn`), exponent, odd modulus and REDC threshold:
    * `ok`: redcify's result, `b^2`, the `2^(w−1)` table entries and every `pp + n·(expbits >> 1)` lie inside
      `pp`; every product / REDC input / the final `MPN_COPY`+`MPN_ZERO` lies inside `tp[0..2n)`; every
      redc_n call recovers its product without leaving `yp[0..2n)`;
    * `rp[0..n)` = `b^e mod m`, canonical (in `[0, m)`) as an n-limb number.
    Uses `window_exp_correct`'s engine (`windowExp_rel`) with the memory state as the monoid carrier, and
    `redc_1_identity` / `redc_n_limb_spec` for the two reductions. -/
theorem mpn_powm_correct (thr : Nat) (nextSize binvItch : Nat → Nat) (itch : Nat) (bp ep mp : List Nat)
    (hep : Norm ep) (hne : ep ≠ []) (hmp : Limbs mp) (hn : 1 ≤ mp.length) (hodd : val mp % 2 = 1)
    (hns : thr ≤ mp.length → mp.length ≤ nextSize mp.length ∧ nextSize mp.length < 2 * mp.length)
    (hitch : 2 * mp.length ≤ itch) (hbinv : thr ≤ mp.length → binvItch mp.length ≤ itch) :
    (mpnPowmMem thr nextSize binvItch itch bp ep mp).2 = true ∧
    (mpnPowmMem thr nextSize binvItch itch bp ep mp).1 = toLimbs mp.length (val bp ^ val ep % val mp) ∧
    val (mpnPowmMem thr nextSize binvItch itch bp ep mp).1 = val bp ^ val ep % val mp ∧
    val (mpnPowmMem thr nextSize binvItch itch bp ep mp).1 < val mp := by
  obtain ⟨h1, h2⟩ := mpnPowmMem_correct thr nextSize binvItch itch bp ep mp hep hne hmp hn hodd hns hitch hbinv
  have hmpos : 0 < val mp := by omega
  have hlt : val bp ^ val ep % val mp < B ^ mp.length := lt_trans (Nat.mod_lt _ hmpos) (val_lt mp hmp)
  refine ⟨h1, h2, ?_, ?_⟩
  · rw [h2, val_toLimbs_lt _ _ hlt]
  · rw [h2, val_toLimbs_lt _ _ hlt]; exact Nat.mod_lt _ hmpos

/-- The scratch mpz_powm hands to mpn_powm for an odd modulus (mpz/powm.c:184-192:
    `itch = n + MAX (mpn_binvert_itch (nodd), 2n)`, `rp = tp; tp += n`, `nodd = n`) is enough. -/
theorem mpz_powm_scratch_ok (thr : Nat) (nextSize binvItch : Nat → Nat) (bp ep mp : List Nat)
    (hep : Norm ep) (hne : ep ≠ []) (hmp : Limbs mp) (hn : 1 ≤ mp.length) (hodd : val mp % 2 = 1)
    (hns : thr ≤ mp.length → mp.length ≤ nextSize mp.length ∧ nextSize mp.length < 2 * mp.length) :
    (mpnPowmMem thr nextSize binvItch (max (binvItch mp.length) (2 * mp.length)) bp ep mp).2 = true :=
  (mpnPowmMem_correct thr nextSize binvItch _ bp ep mp hep hne hmp hn hodd hns (le_max_right _ _)
    (fun _ => le_max_left _ _)).1

-- non-vacuity: both reductions (thr = 100: redc_1; thr = 1: redc_n with rn = n), and the flag is not
-- constant: one limb less than 2n, or less than mpn_binvert_itch, clears it
example : mpnPowmMem 100 id (fun n => 6 * n + 220) 4 [3, 4, 5] [77] [7, 9] =
    (toLimbs 2 (val [3, 4, 5] ^ 77 % val [7, 9]), true) := by decide +kernel
example : (mpnPowmMem 100 id (fun n => 6 * n + 220) 3 [3, 4, 5] [77] [7, 9]).2 = false := by decide +kernel
example : mpnPowmMem 1 id (fun n => 6 * n + 220) 232 [3, 4, 5] [77] [7, 9] =
    (toLimbs 2 (val [3, 4, 5] ^ 77 % val [7, 9]), true) := by decide +kernel
example : (mpnPowmMem 1 id (fun n => 6 * n + 220) 231 [3, 4, 5] [77] [7, 9]).2 = false := by decide +kernel

/-- `mpn_powm_correct` with `mpn_mulmod_bnm1_next_size` as defined in gmp-impl.h:3876 (model
    `Hgcd.bnm1NextSize` over the generated constants): for moduli of at most `2·FFT_MULMOD_2EXPP1_CUTOFF`
    limbs (256 limbs = 16384 bits in the pinned build) `rn = n`, the hypothesis on the next size is discharged
    and the statement is unconditional. -/
theorem mpn_powm_correct_upto_cutoff (cutoff numN : Nat) (tab : List Nat) (thr : Nat) (binvItch : Nat → Nat)
    (itch : Nat) (bp ep mp : List Nat)
    (hep : Norm ep) (hne : ep ≠ []) (hmp : Limbs mp) (hn : 1 ≤ mp.length) (hodd : val mp % 2 = 1)
    (hsmall : mp.length ≤ 2 * cutoff)
    (hitch : 2 * mp.length ≤ itch) (hbinv : thr ≤ mp.length → binvItch mp.length ≤ itch) :
    (mpnPowmMem thr (Mpir.Hgcd.bnm1NextSize cutoff numN tab) binvItch itch bp ep mp).2 = true ∧
    (mpnPowmMem thr (Mpir.Hgcd.bnm1NextSize cutoff numN tab) binvItch itch bp ep mp).1
      = toLimbs mp.length (val bp ^ val ep % val mp) := by
  have hns : thr ≤ mp.length → mp.length ≤ Mpir.Hgcd.bnm1NextSize cutoff numN tab mp.length ∧
      Mpir.Hgcd.bnm1NextSize cutoff numN tab mp.length < 2 * mp.length := by
    intro _
    unfold Mpir.Hgcd.bnm1NextSize
    rw [if_pos hsmall]
    omega
  obtain ⟨h1, h2, _, _⟩ := mpn_powm_correct thr _ binvItch itch bp ep mp hep hne hmp hn hodd hns hitch hbinv
  exact ⟨h1, h2⟩

-- non-vacuity: the constants of the pinned build (FFT_MULMOD_2EXPP1_CUTOFF = 128), redc_n branch forced by thr = 1
example : (mpnPowmMem 1 (Mpir.Hgcd.bnm1NextSize 128 19 [4, 3, 3, 4, 3, 3, 3, 3, 3, 2, 2, 2, 2, 2, 2, 2, 2, 1, 1])
    (fun n => 6 * n + 220) 232 [5] [1000] [7, 9]) = (toLimbs 2 (5 ^ 1000 % val [7, 9]), true) := by decide +kernel

/-- **mpn_powlo** (mpn/generic/powlo.c) on memory: `rp` (n limbs), the caller's scratch `tp`, the table `pp`
    of `(n << (windowsize−1)) + n` limbs.  MPIR's mpn_mullow_n sets 2n limbs at its destination
    (mullow_n.c:25), so every table entry is written together with the n limbs after it — the model stores
    both halves and checks both ranges.  Preconditions are the C's: `bp` has at least n limbs, `n ≥ 1`,
    `{ep,en} > 1` in normal form (ASSERT at powlo.c:103), scratch of `3n` limbs (powlo.c:84).  Then every
    access stays inside `tp` (squares and low products in `tp[0..2n)`, `b^2` kept at `tp[2n..3n)` and never
    overwritten) and inside `pp` (the high half of the last mullow lands exactly in the n spare limbs), and
    `rp[0..n)` = `bp[0..n)^e mod B^n`. -/
theorem mpn_powlo_correct (itch : Nat) (bp ep : List Nat) (n : Nat) (hbp : Limbs bp) (hbl : n ≤ bp.length)
    (hn : 1 ≤ n) (hep : Norm ep) (hne : ep ≠ []) (h2 : 2 ≤ val ep) (hitch : 3 * n ≤ itch) :
    (mpnPowloMem itch bp ep n).2 = true ∧
    (mpnPowloMem itch bp ep n).1 = toLimbs n (val (bp.take n) ^ val ep % B ^ n) :=
  mpnPowloMem_correct itch bp ep n hbp hbl hn hep hne h2 hitch

-- non-vacuity: 3n limbs are enough, 3n − 1 are not (the copy of b^2 to tp[2n..3n) leaves the area)
example : mpnPowloMem 6 [3, 4, 5] [77] 2 = (toLimbs 2 (val [3, 4] ^ 77 % B ^ 2), true) ∧
    (mpnPowloMem 5 [3, 4, 5] [77] 2).2 = false := by decide +kernel

end Mpir.PowmL
