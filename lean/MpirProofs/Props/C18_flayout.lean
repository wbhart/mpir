/-
  C18, part `c18_flayout` — the float layout of printf/doprntf.c equals the C99-style specification `specF`.
  Property theorems only; helper lemmas live in MpirProofs/Lemmas/PrintfF.lean.  The theorems are about the
  executable model `Mpir.PrintfF.layoutOn` / `request` / `floatParams` (lean/Mpir/Model/PrintfF.lean), which the
  correspondence run compares with the real `__gmp_doprnt_mpf` (op `doprnt_mpf_direct`) and, through the format
  parser, with `gmp_snprintf` (op `gmp_snprintf_Fspec`, answered from `specF`).
-/
import MpirProofs.Lemmas.PrintfF
namespace Mpir.PrintfF
open Mpir Mpir.Printf

/-- **`doprntf_eq_spec`.**  For every list of flag characters (any order, repeats), every width form {none, number,
    `*` with any int, negative = left adjustment}, every precision form {none, `.`, number, `*` with any int, negative =
    none} and every conversion f e E g G a A; for every operand precision and exponent; for every answer `(neg, ds, x)`
    of mpf_get_str to the request doprntf.c makes — the empty string with exponent 0 for zero (get_str.c:161-167), or
    digits satisfying its specification `MpfStr.GetOk` for the digit count worked to — the bytes the model of
    `__gmp_doprnt_mpf` produces are exactly `specF`: C99's sign / digit placement / precision / `#` / padding rules with
    the deviations D-F1 … D-F4 written into the specification. -/
theorem doprntf_eq_spec (fl : List Char) (w : WidthArg) (p : PrecArg) (c : FConv) (fprec : Nat) (fexp : Int)
    (neg : Bool) (ds : List Nat) (x : Int) (num den : Nat)
    (h : (ds = [] ∧ x = 0) ∨
      MpfStr.GetOk c.base ds x (workDigits (fSpecParams fl w p c) fprec fexp) num den = true) :
    layoutModelF fl w p c fprec fexp neg ds x =
      specF c (cFlags fl w) (cWidth w) (cPrecF p) (MpfStr.maxDigits c.base fprec) neg ds x := by
  unfold layoutModelF
  simp only [fSpecParams_closed]
  apply layoutOn_closed
  intro hnil
  rcases h with h | h
  · exact h.2
  · subst hnil
    simp [MpfStr.GetOk] at h

/-- The layout equality itself needs nothing of the digits but "the empty string comes with exponent 0"
    (what `GetOk` adds is the meaning of the digits: see `ndigits_sufficient`). -/
theorem doprntf_eq_spec_any (fl : List Char) (w : WidthArg) (p : PrecArg) (c : FConv) (fprec : Nat) (fexp : Int)
    (neg : Bool) (ds : List Nat) (x : Int) (hz : ds = [] → x = 0) :
    layoutModelF fl w p c fprec fexp neg ds x =
      specF c (cFlags fl w) (cWidth w) (cPrecF p) (MpfStr.maxDigits c.base fprec) neg ds x := by
  unfold layoutModelF
  simp only [fSpecParams_closed]
  exact layoutOn_closed _ _ _ _ _ _ _ _ _ hz

/-- the same for the `String` -/
theorem doprntf_eq_spec_string (fl : List Char) (w : WidthArg) (p : PrecArg) (c : FConv) (fprec : Nat) (fexp : Int)
    (neg : Bool) (ds : List Nat) (x : Int) (hz : ds = [] → x = 0) :
    String.ofList (layoutModelF fl w p c fprec fexp neg ds x) =
      String.ofList (specF c (cFlags fl w) (cWidth w) (cPrecF p) (MpfStr.maxDigits c.base fprec) neg ds x) := by
  rw [doprntf_eq_spec_any fl w p c fprec fexp neg ds x hz]

-- non-vacuity: the hypothesis holds for 3.14159 asked to 8 digits (%f with precision 6 of a value with EXP = 1:
-- 6 + 2 + 1·20 = 28 requested, capped at MPF_SIGNIFICANT_DIGITS = 21 for a 2-limb precision), and both sides are the text
example : workDigits (fSpecParams ['+'] (.num 12) .none .f) 2 1 = 21 := by decide +kernel
example : MpfStr.GetOk 10 [3, 1, 4, 1, 5, 9] 1 21 314159 100000 = true := by decide +kernel
example : String.ofList (layoutModelF ['+'] (.num 12) .none .f 2 1 false [3, 1, 4, 1, 5, 9] 1) = "   +3.141590" ∧
    String.ofList (specF .f (cFlags ['+'] (.num 12)) 12 .dflt 21 false [3, 1, 4, 1, 5, 9] 1) = "   +3.141590" := by decide +kernel
-- the specification on its own, one line per rule
example : String.ofList (specF .f {} 0 (.num 2) 21 false [1, 2, 5] 0) = "0.13" := by decide +kernel                   -- D-F2/D-F3 second rounding of 0.125
example : String.ofList (specF .f {} 0 (.num 0) 21 false [2, 5] 1) = "3" := by decide +kernel                         -- D-F3 tie away from zero
example : String.ofList (specF .f { hash := true } 0 (.num 0) 21 false [2, 5] 1) = "3." := by decide +kernel          -- `#` keeps the point
example : String.ofList (specF .f {} 0 (.num 1) 21 false [9, 9, 9, 6] 2) = "100.0" := by decide +kernel               -- 99.96 -> carry out of the top digit
example : String.ofList (specF .f {} 0 (.num 3) 21 true [4] (-3)) = "-0.000" := by decide +kernel                     -- −0.0004 rounds to zero, sign kept
example : String.ofList (specF .f {} 0 .all 21 false [1, 2, 5] (-2)) = "0.00125" := by decide +kernel                 -- `%.Ff`: all digits
example : String.ofList (specF .e { zero := true, plus := true } 14 .dflt 21 false [1, 5] 3) = "+01.500000e+02" := by decide +kernel
example : String.ofList (specF .E { minus := true, zero := true } 12 (.num 2) 21 true [1] (-120)) = "-1.00E-121  " := by decide +kernel
example : String.ofList (specF .e {} 0 (.num 0) 21 false [] 0) = "0e+00" := by decide +kernel
example : String.ofList (specF .g {} 0 .dflt 21 false [1] 6) = "100000" ∧ String.ofList (specF .g {} 0 .dflt 21 false [1] 7) = "1e+06" := by
  decide +kernel                                                                                                      -- X ≥ P switches to style e
example : String.ofList (specF .g {} 0 .dflt 21 false [1] (-3)) = "0.0001" ∧ String.ofList (specF .g {} 0 .dflt 21 false [1] (-4)) = "1e-05" := by
  decide +kernel                                                                                                      -- X < −4 switches to style e
example : String.ofList (specF .g { hash := true } 0 (.num 3) 21 false [1, 5] 1) = "1.50" ∧
    String.ofList (specF .g { hash := true } 0 (.num 3) 21 false [5] 0) = "0.50" := by decide +kernel                 -- D-F1: C99 "0.500"
example : String.ofList (specF .G {} 0 (.num 0) 21 false [3] 12) = "3E+11" := by decide +kernel                       -- P = 1 for precision 0
example : String.ofList (specF .a {} 0 .dflt 21 false [1, 8] 1) = "0x1.8p+0" ∧
    String.ofList (specF .A { hash := true } 12 (.num 0) 21 true [1] 0) = "     -0X1P-4" := by decide +kernel            -- D-F4: `#` ignored

/-- **The parser's side.**  The float conversion characters of `__gmp_doprnt` (doprnt.c) do nothing but compute
    `floatParams` and call `__gmp_doprnt_mpf` with it (`Printf.doFloat` is the code merged on main; `floatParams` is the
    copy the layout theorem speaks about). -/
theorem doFloat_is_floatParams (old : Bool) (ps : PS) (tp : List Char) (c : Char) (st : DS) :
    doFloat old ps tp c st =
      if ps.type = 'F' then
        match flush st tp with
        | some st => (match st.ap with
          | .mpf fprec neg limbs fexp :: as =>
              some (({ st with ap := as }.emit (doprntMpf (floatParams old ps c) fprec neg limbs fexp)).sync)
          | _ => none)
        | none => none
      else none := rfl

example : (fSpecParams ['#', '0'] (.star (-9)) (.star (-1)) .G).justify = .left ∧ (fSpecParams ['#', '0'] (.star (-9)) (.star (-1)) .G).fill = ' ' ∧
    (fSpecParams ['#', '0'] (.star (-9)) (.star (-1)) .G).prec = 6 ∧ (fSpecParams ['#', '0'] (.star (-9)) (.star (-1)) .G).width = 9 := by decide

end Mpir.PrintfF
