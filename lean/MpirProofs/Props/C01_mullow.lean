/-
  C01 (mpn_mullow_n) — the value-level model of Mpir/Model/MulLow.lean (mirror of mpn/generic/mullow_n.c; run against the
  real function on every check with the thresholds of the tree, op mlx_mullow_n).  Property theorems only; lemmas in
  MpirProofs/Lemmas/MulLow.lean.

    splitAt_ok       the C's ASSERT (n / 2 <= m), ASSERT (m <= n) hold, and both recursive calls get a size in [1, n)
    mullow_n_val     the low n limbs of rp are x·y mod B^n: every n ≥ 1, all operand values, every threshold triple with
                     max(MULLOW_BASECASE_THRESHOLD, MULLOW_DC_THRESHOLD) ≥ 2
  Not covered (run only, op mpn_mulhigh_n of part c01_algo against its specification): mpn_mulhigh_n, the error-bounded short
  product of mulhigh_n.c.  The middle products (mpn_mulmid, mpn_mulmid_n, mpn_toom42_mulmid) are in Props/C01_mulmid.lean.
-/
import MpirProofs.Lemmas.MulLow
import Mpir.Gen.Params
namespace Mpir.MulLow
open Mpir

/-- mullow_n.c:61-69: m = n·87/128, raised to ⌈n/2⌉ when 2m < n, capped at n.  For n ≥ 2: n ≤ 2m (the two cross products
    x_lo·y_hi, x_hi·y_lo of n − m limbs suffice; x_hi·y_hi lies beyond B^n), m < n and m ≥ 1, i.e. ASSERT (n / 2 <= m),
    ASSERT (m <= n) hold and the recursive calls have 1 ≤ n − m < n. -/
theorem splitAt_ok (n : Nat) (hn : 2 ≤ n) : n / 2 ≤ splitAt n ∧ n ≤ 2 * splitAt n ∧ splitAt n < n ∧ 1 ≤ n - splitAt n := by
  obtain ⟨a, b, c⟩ := splitAt_spec n hn
  exact ⟨by omega, a, b, by omega⟩

example : splitAt 14 = 9 ∧ splitAt 2 = 1 ∧ splitAt 3 = 2 ∧ splitAt 100 = 67 := by decide

/-- mpn_mullow_n (mullow_n.c:32-80): the value of the low n limbs of rp is x·y mod B^n — through mpn_mul_basecase below
    T0 = MULLOW_BASECASE_THRESHOLD, mpn_mullow_n_basecase below T1 = MULLOW_DC_THRESHOLD, mpn_mul_n above
    T2 = MULLOW_MUL_THRESHOLD, and otherwise the divide-and-conquer step (one full product of m limbs, two recursive low
    products of n − m limbs added into the window rp[m, n) with the carries dropped), for every n ≥ 1 and all x, y.
    Hypothesis on the thresholds: T0 ≥ 2 or T1 ≥ 2 — with both below 2 and T2 ≥ 1 the C itself would, for n = 1, choose
    m = 1 and call mpn_mullow_n with n − m = 0, violating its ASSERT (n > 0). -/
theorem mullow_n_val (T0 T1 T2 : Nat) (hT : 2 ≤ T0 ∨ 2 ≤ T1) (n : Nat) (hn : 1 ≤ n) (x y : Nat) :
    mullow_n T0 T1 T2 x y n = some (x * y % B ^ n) := by
  induction n using Nat.strong_induction_on generalizing x y with
  | _ n ih =>
    rw [mullow_n]
    have hn0 : ¬ n = 0 := by omega
    simp only [hn0, dite_false]
    by_cases h0 : n < T0
    · simp only [h0, if_true]
    · by_cases h1 : n < T1
      · simp only [h0, h1, if_false, if_true]
      · by_cases h2 : n > T2
        · simp only [h0, h1, h2, if_false, if_true]
        · have hn2 : 2 ≤ n := by omega
          obtain ⟨s1, s2, s3⟩ := splitAt_spec n hn2
          have hlt : n - splitAt n < n := by omega
          have hpos : 1 ≤ n - splitAt n := by omega
          simp only [h0, h1, h2, if_false, hlt, dite_true, ih _ hlt hpos]
          generalize splitAt n = m at *
          have hts : B ^ m = B ^ (n - m) * B ^ (2 * m - n) := by rw [← pow_add]; congr 1; omega
          have hn' : B ^ n = B ^ m * B ^ (n - m) := by rw [← pow_add]; congr 1; omega
          -- the recursive results are reduced modulo s: drop the inner reductions of the operands
          rw [hn']
          exact congrArg some (mullow_step x y (B ^ m) (B ^ (n - m)) (B ^ (2 * m - n)) (Bpow_pos m) hts)

-- non-vacuity: the thresholds of the tree under check are admissible; a recursion of depth 2 at thresholds (0, 2, 100)
example : 2 ≤ Mpir.Gen.params.MULLOW_BASECASE_THRESHOLD.toNat ∨ 2 ≤ Mpir.Gen.params.MULLOW_DC_THRESHOLD.toNat := by decide
example : mullow_n 0 2 100 (B ^ 5 - 1) (B ^ 5 - 3) 5 = some ((B ^ 5 - 1) * (B ^ 5 - 3) % B ^ 5) :=
  mullow_n_val 0 2 100 (Or.inr (by decide)) 5 (by decide) _ _
example : mullow_n 0 2 100 (B ^ 5 - 1) (B ^ 5 - 3) 5 = some 3 := by decide +kernel
example : mullow_n 0 0 100 7 9 1 = none := by decide +kernel       -- thresholds below 2: the model leaves the domain, as the C does

end Mpir.MulLow
