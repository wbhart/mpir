/-
  C01 (FFT ring layer) — the arithmetic between "the FFT parameters are sound" and "the product is right":
  residues modulo p = 2^(64·n)+1 held in n+1 limbs whose top limb is a SIGNED carry (`rval`), as the code of
  /repo/fft manipulates them.  Property theorems only; lemmas in MpirProofs/Lemmas/FftRing*.lean.
  Every theorem is about the executable limb-level models of Mpir/Model/FftRing.lean (statement-by-statement
  mirrors of fft/*.c), which the correspondence check runs bit-exact against the real functions on every run.

  `rval x = val(low n limbs) + B^n · (signed top limb)`, `pmod n = B^n + 1`.
  Top-limb hypotheses (all far beyond what the transforms produce — their top limbs stay within a few units):
    `TopSmall x`  signed top limb strictly between ±2^62: the sum or difference of two top limbs does not overflow;
    `Top61 x`     in [−2^61, 2^61);   `TopTiny x`  in [−2^59, 2^59)  (the √2 paths chain several operations).

  Theorems:  normmod_val · mul_2expmod_val · div_2expmod_val · adjust_val · butterfly_val · ifft_butterfly_val ·
    split_bits_val · combine_bits_eval (+ rval_of_small) · split_combine_id · mulmod_2expp1_basecase_val ·
    mulmod_Bexpp1_val · sqrt2_sq · adjust_sqrt2_val · butterfly_sqrt2_val · ifft_butterfly_sqrt2_val ·
    sqrt2_twiddle_inverse.
  Not proved here (models exist and are run bit-exact against the library): mpir_butterfly_lshB/rshB with a
  non-zero first shift x and the MFA twiddle butterflies built on them; the transforms themselves.
-/
import MpirProofs.Lemmas.FftRingCombine
import MpirProofs.Lemmas.FftRingMulmodK
import MpirProofs.Lemmas.FftRingSqrt2
namespace Mpir.Fft
open Mpir

/-- mpn_normmod_2expp1 (precondition: the top limb is not LONG_MIN — the C computes `-hi`): the value is
    preserved modulo p and the result is fully reduced: top limb 0, or (0,…,0,1) for the single value 2^(64n);
    hence 0 ≤ value ≤ p − 1. -/
theorem normmod_val (x : List Nat) (n : Nat) (hx : Limbs x) (hl : x.length = n + 1) (hn : 1 ≤ n)
    (hmin : top x ≠ B / 2) :
    (normmod x).length = n + 1 ∧ Limbs (normmod x) ∧
    rval (normmod x) ≡ rval x [ZMOD pmod n] ∧
    (top (normmod x) = 0 ∨ (top (normmod x) = 1 ∧ val (lo (normmod x)) = 0)) ∧
    0 ≤ rval (normmod x) ∧ rval (normmod x) ≤ pmod n - 1 := by
  obtain ⟨xs, t, rfl, hxs⟩ := exists_snoc x n hl
  simp only [top_snoc] at hmin
  obtain ⟨ys, g, e, l, hL, hc, hr⟩ := normmod_spec xs t hx (by omega) hmin
  have rg := canonical_range ys g hL hc
  rw [e, hxs] at *
  refine ⟨by simp [l], hL, hr, hc, rg.1, ?_⟩
  unfold pmod; rw [l] at rg; linarith [rg.2]

-- non-vacuity: −1 held as (B−1, −1) normalises to 2^64 = (0, 1); 3·2^64 + 5 ≡ 2; p = (1, 1) to 0; −2·2^64 ≡ 2
example : normmod [B - 1, B - 1] = [0, 1] := by decide +kernel
example : normmod [5, 3] = [2, 0] := by decide +kernel
example : normmod [1, 1] = [0, 0] := by decide +kernel
example : normmod [0, B - 2] = [2, 0] := by decide +kernel

/-- mpn_mul_2expmod_2expp1 (0 < d < 64): multiplication by 2^d modulo p for EVERY input (no condition on the
    top limb), and the range of the result: with q = ⌊signed top / 2^(64−d)⌋ (the bits shifted out),
    −B·(q+1) < value < B^n − B·q; for the small top limbs of the FFT (|top| < 2^(64−d), q ∈ {−1, 0})
    that is −B < value < B^n + B. -/
theorem mul_2expmod_val (x : List Nat) (n d : Nat) (hx : Limbs x) (hl : x.length = n + 1) (hn : 1 ≤ n)
    (hd1 : 1 ≤ d) (hd : d < 64) :
    (mul_2expmod x d).length = n + 1 ∧ Limbs (mul_2expmod x d) ∧
    rval (mul_2expmod x d) ≡ rval x * 2 ^ d [ZMOD pmod n] ∧
    -((B : Int) * (sint (top x) / 2 ^ (64 - d) + 1)) < rval (mul_2expmod x d) ∧
    rval (mul_2expmod x d) < (B : Int) ^ n - (B : Int) * (sint (top x) / 2 ^ (64 - d)) := by
  obtain ⟨xs, t, rfl, rfl⟩ := exists_snoc x n hl
  simp only [top_snoc]
  exact (mul_2expmod_spec xs t d hx hn hd1 (by omega)).out

/-- d = 0 copies -/
theorem mul_2expmod_zero (x : List Nat) : mul_2expmod x 0 = x := by simp [mul_2expmod]

-- non-vacuity: 2^63·2 = 2^64 ≡ −1, which the C leaves as (B−1, −1); and (7 − 2^64)·8 ≡ 56 + 8 = 64
example : mul_2expmod [2 ^ 63, 0] 1 = [B - 1, B - 1] := by decide +kernel
example : rval (mul_2expmod [7, B - 1] 3) = 64 := by decide +kernel

/-- mpn_div_2expmod_2expp1 (0 < d < 64): division by 2^d modulo p for every input; the result lies within one
    modulus-width of ⌊signed top / 2^d⌋·B^n (so its top limb is that quotient or one less). -/
theorem div_2expmod_val (x : List Nat) (n d : Nat) (hx : Limbs x) (hl : x.length = n + 1) (hn : 1 ≤ n)
    (hd1 : 1 ≤ d) (hd : d < 64) :
    (div_2expmod x d).length = n + 1 ∧ Limbs (div_2expmod x d) ∧
    rval (div_2expmod x d) * 2 ^ d ≡ rval x [ZMOD pmod n] ∧
    (sint (top x) / 2 ^ d - 1) * (B : Int) ^ n < rval (div_2expmod x d) ∧
    rval (div_2expmod x d) < (sint (top x) / 2 ^ d + 1) * (B : Int) ^ n := by
  obtain ⟨xs, t, rfl, rfl⟩ := exists_snoc x n hl
  simp only [top_snoc]
  exact (div_2expmod_spec xs t d hx hn hd1 (by omega)).out

theorem div_2expmod_zero (x : List Nat) : div_2expmod x 0 = x := by simp [div_2expmod]

-- non-vacuity: 1/2 modulo 2^64+1 (checked by value), and an exact division
example : (rval (div_2expmod [1, 0] 1) * 2 - 1) % pmod 1 = 0 := by decide +kernel
example : div_2expmod [8, 0] 3 = [1, 0] := by decide +kernel

/-- mpir_fft_adjust (i·w < 64·n as in the transforms; top limb not LONG_MIN): multiplication by 2^(i·w). -/
theorem adjust_val (x : List Nat) (n i w : Nat) (hx : Limbs x) (hl : x.length = n + 1)
    (hiw : i * w < 64 * n) (hmin : top x ≠ B / 2) :
    (adjust x i w).length = n + 1 ∧ Limbs (adjust x i w) ∧
    rval (adjust x i w) ≡ rval x * 2 ^ (i * w) [ZMOD pmod n] := by
  obtain ⟨xs, t, rfl, rfl⟩ := exists_snoc x n hl
  simp only [top_snoc] at hmin
  exact (adjust_spec xs t i w hx hiw hmin).out

-- non-vacuity: 1·2^(3·43) = 2^129 modulo B²+1: a two-limb rotation with negation plus one bit
example : (rval (adjust [1, 0, 0] 3 43) - 2 ^ 129) % pmod 2 = 0 := by decide +kernel
example : adjust [1, 0, 0] 3 43 ≠ [1, 0, 0] := by decide +kernel

/-- mpir_fft_butterfly (i·w < 64·n, both top limbs strictly between ±2^62):
    (s, t) = (a + b, (a − b)·2^(i·w)) modulo p. -/
theorem butterfly_val (a b : List Nat) (n i w : Nat) (ha : Limbs a) (hb : Limbs b)
    (hla : a.length = n + 1) (hlb : b.length = n + 1) (hiw : i * w < 64 * n)
    (ta : TopSmall a) (tb : TopSmall b) :
    (fft_butterfly a b i w).1.length = n + 1 ∧ (fft_butterfly a b i w).2.length = n + 1 ∧
    Limbs (fft_butterfly a b i w).1 ∧ Limbs (fft_butterfly a b i w).2 ∧
    rval (fft_butterfly a b i w).1 ≡ rval a + rval b [ZMOD pmod n] ∧
    rval (fft_butterfly a b i w).2 ≡ (rval a - rval b) * 2 ^ (i * w) [ZMOD pmod n] := by
  obtain ⟨A, h1, rfl, rfl⟩ := exists_snoc a n hla
  obtain ⟨C, h2, rfl, hC⟩ := exists_snoc b A.length hlb
  exact Res.out2 (fft_butterfly_spec A C h1 h2 i w ha hb hC.symm hiw ta tb)

-- non-vacuity (n = 2, twiddle 2^70 = one limb and six bits)
example : (rval (fft_butterfly [5, 7, 1] [9, 2, B - 1] 10 7).1 - (rval [5, 7, 1] + rval [9, 2, B - 1])) % pmod 2 = 0 := by decide +kernel
example : (rval (fft_butterfly [5, 7, 1] [9, 2, B - 1] 10 7).2 - (rval [5, 7, 1] - rval [9, 2, B - 1]) * 2 ^ 70) % pmod 2 = 0 := by
  decide +kernel

/-- mpir_ifft_butterfly: (s, t) = (a + b/2^(i·w), a − b/2^(i·w)) modulo p, stated without division. -/
theorem ifft_butterfly_val (a b : List Nat) (n i w : Nat) (ha : Limbs a) (hb : Limbs b)
    (hla : a.length = n + 1) (hlb : b.length = n + 1) (hiw : i * w < 64 * n)
    (ta : TopSmall a) (tb : TopSmall b) :
    (ifft_butterfly a b i w).1.length = n + 1 ∧ (ifft_butterfly a b i w).2.1.length = n + 1 ∧
    Limbs (ifft_butterfly a b i w).1 ∧ Limbs (ifft_butterfly a b i w).2.1 ∧
    rval (ifft_butterfly a b i w).1 * 2 ^ (i * w) ≡ rval a * 2 ^ (i * w) + rval b [ZMOD pmod n] ∧
    rval (ifft_butterfly a b i w).2.1 * 2 ^ (i * w) ≡ rval a * 2 ^ (i * w) - rval b [ZMOD pmod n] := by
  obtain ⟨A, h1, rfl, rfl⟩ := exists_snoc a n hla
  obtain ⟨C, h2, rfl, hC⟩ := exists_snoc b A.length hlb
  exact Res.out2 (ifft_butterfly_spec A C h1 h2 i w ha hb hC.symm hiw ta tb)

example : (rval (ifft_butterfly [5, 7, 1] [9, 2, B - 1] 10 7).1 * 2 ^ 70 - (rval [5, 7, 1] * 2 ^ 70 + rval [9, 2, B - 1])) % pmod 2 = 0 := by
  decide +kernel

/-! ### splitting into coefficients and recombination

`polyEval bits cs = Σ_j val(c_j)·2^(j·bits)`.  Coefficient buffers have `ol + 1` limbs (`ol` = output_limbs). -/

/-- mpir_fft_split_bits (total_limbs ≥ 1, bits ≥ 1, a coefficient's ⌈bits/64⌉ limbs fit the buffer): the
    ⌈64·total/bits⌉ coefficients are the base-2^bits digits of the operand — they evaluate back to it and each is
    below 2^bits — in zero-padded buffers of ol+1 proper limbs. -/
theorem split_bits_val (x : List Nat) (bits ol : Nat) (hx : Limbs x) (hn : 1 ≤ x.length) (hb : 1 ≤ bits)
    (hol : (bits + 63) / 64 ≤ ol + 1) :
    polyEval bits (split_bits x bits ol) = val x ∧
    (∀ c ∈ split_bits x bits ol, c.length = ol + 1 ∧ Limbs c ∧ val c < 2 ^ bits) ∧
    (split_bits x bits ol).length = (64 * x.length - 1) / bits + 1 :=
  split_bits_spec x bits ol hx hn hb hol

-- non-vacuity: 28-bit coefficients of a one-limb operand (the first FFT size: depth 6, w 1), and a limb-aligned split
example : split_bits [0xfedcba9876543210] 28 1 = [[0x6543210, 0], [0xdcba987, 0], [0xfe, 0]] := by decide +kernel
example : split_bits [1, 2, 3] 128 2 = [[1, 2, 0], [3, 0, 0]] := by decide +kernel

/-- mpir_fft_combine_bits into a zeroed destination (as every caller prepares it), for coefficients whose value
    fits `ol` limbs (top limb zero — what mpn_normmod_2expp1 leaves for every coefficient of a product):
    the result is Σ c_j·2^(j·bits) truncated to the destination's length.  With top limb zero
    `rval c = val c`, so this is the sum of the residue values. -/
theorem combine_bits_eval (res : List Nat) (cs : List (List Nat)) (bits ol : Nat) (hr : Limbs res)
    (hz : val res = 0) (hb : 1 ≤ bits)
    (hcs : ∀ c ∈ cs, c.length = ol + 1 ∧ Limbs c ∧ val c < B ^ ol) :
    (combine_bits res cs bits ol).length = res.length ∧ Limbs (combine_bits res cs bits ol) ∧
    val (combine_bits res cs bits ol) = polyEval bits cs % B ^ res.length :=
  combine_bits_spec res cs bits ol hr hz hb hcs

/-- for such coefficients the signed residue value is the plain value -/
theorem rval_of_small (c : List Nat) (ol : Nat) (hl : c.length = ol + 1) (hc : Limbs c) (hv : val c < B ^ ol) :
    rval c = val c := rval_of_val_lt c ol hl hc hv

-- non-vacuity: three 28-bit coefficients, overlapping sums with carries across the limb boundary
example : combine_bits [0, 0] [[0xfffffff, 0], [0xfffffff, 0], [0xfffffff, 0]] 28 1 = [0xffffffffffffffff, 0xfffff] := by
  decide +kernel
example : combine_bits [0, 0, 0] [[B - 1, 0], [B - 1, 0], [5, 0]] 64 1 = [B - 1, B - 1, 5] := by decide +kernel

/-- split followed by combine into a zeroed destination of the operand's length is the identity
    (coefficients of at most 64·ol bits). -/
theorem split_combine_id (x : List Nat) (bits ol : Nat) (hx : Limbs x) (hn : 1 ≤ x.length) (hb : 1 ≤ bits)
    (hol : bits ≤ 64 * ol) :
    combine_bits (List.replicate x.length 0) (split_bits x bits ol) bits ol = x :=
  split_combine x bits ol hx hn hb hol

example : combine_bits [0, 0] (split_bits [0xfedcba9876543210, 0x123] 37 1) 37 1 = [0xfedcba9876543210, 0x123] := by
  decide +kernel

/-! ### the pointwise product -/

/-- mpn_mulmod_2expp1_basecase for every b ≥ 1 (n = ⌈b/64⌉ limbs, operands below 2^b as the C ASSERTs) on the
    path that does not enter mpir_fft_mulmod_2expp1, with mpn_mul_n taken as the exact product:
    `ret·2^b + x ≡ y·z (mod 2^b + 1)`, where an operand whose flag bit in `c` is set stands for 2^b; the result is
    fully reduced (`x + 2^b·ret ≤ 2^b`, ret ∈ {0, 1}).  Both the whole-limb path (:103-105) and the masked, shifted
    path for b mod 64 ≠ 0 (:108-123) are covered.  Not modelled (hence not covered): the branch into
    mpir_fft_mulmod_2expp1 taken for b = 64·n, n > FFT_MULMOD_2EXPP1_CUTOFF, n = mpir_fft_adjust_limbs(n). -/
theorem mulmod_2expp1_basecase_val (yp zp : List Nat) (c b : Nat) (hb : 1 ≤ b) (hy : Limbs yp) (hz : Limbs zp)
    (hly : yp.length = (b + 63) / 64) (hlz : zp.length = (b + 63) / 64)
    (hyb : val yp < 2 ^ b) (hzb : val zp < 2 ^ b) :
    (mulmod_2expp1_basecase yp zp c b).1.length = (b + 63) / 64 ∧ Limbs (mulmod_2expp1_basecase yp zp c b).1 ∧
    (mulmod_2expp1_basecase yp zp c b).2 ≤ 1 ∧
    val (mulmod_2expp1_basecase yp zp c b).1 + 2 ^ b * (mulmod_2expp1_basecase yp zp c b).2 ≤ 2 ^ b ∧
    ((val (mulmod_2expp1_basecase yp zp c b).1 : Int) + 2 ^ b * (mulmod_2expp1_basecase yp zp c b).2 ≡
        flaggedb (c / 2 % 2) b yp * flaggedb (c % 2) b zp [ZMOD 2 ^ b + 1]) :=
  basecase_spec yp zp c b hb hy hz hly hlz hyb hzb

-- non-vacuity modulo B+1: (B−1)² ≡ (−2)² = 4; 2^64·2^64 ≡ 1; 1·2^64 = 2^64 (returned as limb 0 with ret 1)
example : mulmod_2expp1_basecase [B - 1] [B - 1] 0 64 = ([4], 0) := by decide +kernel
example : mulmod_2expp1_basecase [0] [0] 3 64 = ([1], 0) := by decide +kernel
example : mulmod_2expp1_basecase [1] [0] 1 64 = ([0], 1) := by decide +kernel
-- b = 70 (two limbs, k = 58): (2^70 − 1)² ≡ (−2)² = 4, and 3·2^70 ≡ −3 ≡ 2^70 − 2
example : mulmod_2expp1_basecase [B - 1, 63] [B - 1, 63] 0 70 = ([4, 0], 0) := by decide +kernel
example : mulmod_2expp1_basecase [3, 0] [0, 0] 1 70 = ([B - 2, 63], 0) := by decide +kernel

/-- mpn_mulmod_Bexpp1 for limbs ≤ FFT_MULMOD_2EXPP1_CUTOFF (the pointwise multiplication of the MFA transforms):
    for fully reduced operands (top limb 0, or the vector (0,…,0,1)) the result is their product modulo p,
    again fully reduced.  (Built on the basecase theorem; same exclusions.) -/
theorem mulmod_Bexpp1_val (a b : List Nat) (n : Nat) (ha : Limbs a) (hb : Limbs b)
    (hla : a.length = n + 1) (hlb : b.length = n + 1) (hn : 1 ≤ n)
    (ca : top a = 0 ∨ (top a = 1 ∧ val (lo a) = 0)) (cb : top b = 0 ∨ (top b = 1 ∧ val (lo b) = 0)) :
    (mulmod_Bexpp1 a b).1.length = n + 1 ∧ Limbs (mulmod_Bexpp1 a b).1 ∧
    (top (mulmod_Bexpp1 a b).1 = 0 ∨ (top (mulmod_Bexpp1 a b).1 = 1 ∧ val (lo (mulmod_Bexpp1 a b).1) = 0)) ∧
    rval (mulmod_Bexpp1 a b).1 ≡ rval a * rval b [ZMOD pmod n] :=
  mulmod_Bexpp1_out a b n ha hb hla hlb hn ca cb

-- non-vacuity modulo B²+1: (B² ≡ −1)·5 = −5; (−1)·(−1) = 1; an ordinary product
example : rval (mulmod_Bexpp1 [0, 0, 1] [5, 0, 0]).1 = (B : Int) ^ 2 + 1 - 5 := by decide +kernel
example : mulmod_Bexpp1 [0, 0, 1] [0, 0, 1] = ([1, 0, 0], 0) := by decide +kernel
example : (rval (mulmod_Bexpp1 [B - 1, 7, 0] [3, B - 1, 0]).1 - rval [B - 1, 7, 0] * rval [3, B - 1, 0]) % pmod 2 = 0 := by
  decide +kernel

/-! ### the √2 twiddles (truncated sqrt2 transforms)

With wn = 64·n, √2 ≡ 2^(wn/4)·(2^(wn/2) − 1) modulo p.  `TopTiny`: signed top limb in [−2^59, 2^59);
`Top61`: in [−2^61, 2^61). -/

/-- the square root of two that the code uses really squares to 2 -/
theorem sqrt2_sq (n : Nat) : ((2 : Int) ^ (16 * n) * (2 ^ (32 * n) - 1)) ^ 2 ≡ 2 [ZMOD pmod n] := by
  rw [modEq_pmod_iff]; refine ⟨2 ^ (32 * n) - 2, ?_⟩
  have e1 : ((2 : Int) ^ (16 * n)) ^ 2 = 2 ^ (32 * n) := by rw [← pow_mul]; congr 1; ring
  have e2 : ((2 : Int) ^ (32 * n)) ^ 2 = (B : Int) ^ n := by rw [B_pow_two, ← pow_mul]; congr 1; ring
  generalize (2 : Int) ^ (32 * n) = u at *
  generalize (2 : Int) ^ (16 * n) = v at *
  linear_combination (u - 1) ^ 2 * e1 + (u - 2) * e2

/-- mpir_fft_adjust_sqrt2 (exponent below 2·wn as in the transforms, top limb below 2^61 in absolute value):
    multiplication by 2^(i/2 + wn/4 + i·(w/2))·(2^(wn/2) − 1), i.e. by √2·2^(i/2 + i·(w/2)). -/
theorem adjust_sqrt2_val (x : List Nat) (n i w : Nat) (hx : Limbs x) (hl : x.length = n + 1) (hn : 1 ≤ n)
    (hb : i / 2 + n * 64 / 4 + i * (w / 2) < 2 * (n * 64)) (ht : Top61 x) :
    (adjust_sqrt2 x i w).length = n + 1 ∧ Limbs (adjust_sqrt2 x i w) ∧
    rval (adjust_sqrt2 x i w) ≡ rval x * (2 ^ (i / 2 + n * 64 / 4 + i * (w / 2)) * (2 ^ (32 * n) - 1)) [ZMOD pmod n] := by
  obtain ⟨xs, t, rfl, rfl⟩ := exists_snoc x n hl
  exact (adjust_sqrt2_spec xs t i w hx hb hn ht).out

-- non-vacuity: n = 1 (half-limb shifts, no limb rotation) and n = 3 (odd size: rotation plus half limb)
example : (rval (adjust_sqrt2 [5, 0] 3 1) - 5 * (2 ^ (1 + 16 + 0) * (2 ^ 32 - 1))) % pmod 1 = 0 := by decide +kernel
example : (rval (adjust_sqrt2 [5, 7, 9, 1] 37 2) - rval [5, 7, 9, 1] * (2 ^ (18 + 48 + 37) * (2 ^ 96 - 1))) % pmod 3 = 0 := by
  decide +kernel

/-- mpir_fft_butterfly_sqrt2 (both top limbs below 2^59 in absolute value):
    (s, t) = (a + b, (a − b)·√2·2^(i/2 + i·(w/2))). -/
theorem butterfly_sqrt2_val (a b : List Nat) (n i w : Nat) (ha : Limbs a) (hb : Limbs b)
    (hla : a.length = n + 1) (hlb : b.length = n + 1) (hn : 1 ≤ n)
    (hbd : i / 2 + n * 64 / 4 + i * (w / 2) < 2 * (n * 64)) (ta : TopTiny a) (tb : TopTiny b) :
    (fft_butterfly_sqrt2 a b i w).1.length = n + 1 ∧ (fft_butterfly_sqrt2 a b i w).2.length = n + 1 ∧
    Limbs (fft_butterfly_sqrt2 a b i w).1 ∧ Limbs (fft_butterfly_sqrt2 a b i w).2 ∧
    rval (fft_butterfly_sqrt2 a b i w).1 ≡ rval a + rval b [ZMOD pmod n] ∧
    rval (fft_butterfly_sqrt2 a b i w).2 ≡
      (rval a - rval b) * (2 ^ (i / 2 + n * 64 / 4 + i * (w / 2)) * (2 ^ (32 * n) - 1)) [ZMOD pmod n] := by
  obtain ⟨A, h1, rfl, rfl⟩ := exists_snoc a n hla
  obtain ⟨C, h2, rfl, hC⟩ := exists_snoc b A.length hlb
  exact Res.out2 (fft_butterfly_sqrt2_spec A C h1 h2 i w ha hb hC.symm hn hbd ta tb)

example : (rval (fft_butterfly_sqrt2 [5, 7, 1] [9, 2, B - 1] 5 3).2 -
    (rval [5, 7, 1] - rval [9, 2, B - 1]) * (2 ^ (2 + 32 + 5) * (2 ^ 64 - 1))) % pmod 2 = 0 := by decide +kernel

/-- mpir_ifft_butterfly_sqrt2 (i/2 + i·(w/2) + 1 ≤ wn): (s, t) = (a − b·ω, a + b·ω) with
    ω = 2^(wn − i/2 − i·(w/2) − 1 + wn/4)·(2^(wn/2) − 1). -/
theorem ifft_butterfly_sqrt2_val (a b : List Nat) (n i w : Nat) (ha : Limbs a) (hb : Limbs b)
    (hla : a.length = n + 1) (hlb : b.length = n + 1) (hn : 1 ≤ n)
    (hbd : i / 2 + i * (w / 2) + 1 ≤ n * 64) (ta : TopTiny a) (tb : TopTiny b) :
    (ifft_butterfly_sqrt2 a b i w).1.length = n + 1 ∧ (ifft_butterfly_sqrt2 a b i w).2.1.length = n + 1 ∧
    Limbs (ifft_butterfly_sqrt2 a b i w).1 ∧ Limbs (ifft_butterfly_sqrt2 a b i w).2.1 ∧
    rval (ifft_butterfly_sqrt2 a b i w).1 ≡ rval a - rval b *
      (2 ^ (n * 64 - i / 2 - i * (w / 2) - 1 + n * 64 / 4) * (2 ^ (32 * n) - 1)) [ZMOD pmod n] ∧
    rval (ifft_butterfly_sqrt2 a b i w).2.1 ≡ rval a + rval b *
      (2 ^ (n * 64 - i / 2 - i * (w / 2) - 1 + n * 64 / 4) * (2 ^ (32 * n) - 1)) [ZMOD pmod n] := by
  obtain ⟨A, h1, rfl, rfl⟩ := exists_snoc a n hla
  obtain ⟨C, h2, rfl, hC⟩ := exists_snoc b A.length hlb
  exact Res.out2 (ifft_butterfly_sqrt2_spec A C h1 h2 i w ha hb hC.symm hn hbd ta tb)

/-- the forward and inverse √2 twiddles are inverse to each other (e = i/2 + i·(w/2)):
    2^(e + wn/4)·(2^(wn/2) − 1) · (−2^(wn − e − 1 + wn/4)·(2^(wn/2) − 1)) ≡ 1 -/
theorem sqrt2_twiddle_inverse (n e : Nat) (he : e + 1 ≤ 64 * n) :
    ((2 : Int) ^ (e + 16 * n) * (2 ^ (32 * n) - 1)) * (-(2 ^ (64 * n - e - 1 + 16 * n) * (2 ^ (32 * n) - 1))) ≡ 1
      [ZMOD pmod n] := by
  have hn : 1 ≤ n := by omega
  have hab : (2 : Int) ^ (e + 16 * n) * 2 ^ (64 * n - e - 1 + 16 * n) = (B : Int) ^ n * 2 ^ (32 * n - 1) := by
    rw [B_pow_two, ← pow_add, ← pow_add]; congr 1; omega
  have hu2 : ((2 : Int) ^ (32 * n)) ^ 2 = (B : Int) ^ n := by rw [B_pow_two, ← pow_mul]; congr 1; ring
  have hu : (2 : Int) ^ (32 * n) = 2 * 2 ^ (32 * n - 1) := by rw [← pow_succ']; congr 1; omega
  rw [modEq_pmod_iff]
  refine ⟨-((B : Int) ^ n * 2 ^ (32 * n - 1)) + (B : Int) ^ n - 1, ?_⟩
  generalize (2 : Int) ^ (32 * n) = u at *
  generalize (2 : Int) ^ (32 * n - 1) = h at *
  generalize (2 : Int) ^ (e + 16 * n) = a at *
  generalize (2 : Int) ^ (64 * n - e - 1 + 16 * n) = b at *
  generalize (B : Int) ^ n = P at *
  linear_combination (-(u - 1) ^ 2) * hab + (-(P * h) + P) * hu2 + (-(P * u)) * hu

end Mpir.Fft
