/-
  C07 — closing the gcdext chain.
  (1) The canonical cofactor `Mpir.Gcd.gcdextS` (extended Euclid + symmetric residue; what the value-level model
      `Mpir.Gcd.mpn_gcdext` returns BY DEFINITION for n ≥ GCDEXT_DC_THRESHOLD) meets the documented contract of mpn_gcdext,
      and the cofactor with identity and bound is unique.  Hence `MpnGcdextContractDC` — the hypothesis of
      `mpz_gcdext_correct_partial` / `mpz_invert_correct_partial` — holds, and the mpz theorems about the value-level
      models are unconditional.
  (2) The sized model `Mpir.Gcdext.mpnGcdextS` (the statement-by-statement mirror of gcdext.c incl. the divide-and-conquer
      loop, compared with the real mpn_gcdext by the ops mpn_gcdext_sz / mpn_gcdext_sz_p) returns exactly
      `Mpir.Gcd.mpn_gcdext` on the proved range (n − ⌊n/3⌋ < HGCD_REDUCE_THRESHOLD), so mpz_gcdext / mpz_invert computed
      THROUGH THE MIRROR meet the manual's contract for operands whose smaller one has at most 10276 limbs, with no
      contract hypothesis.
  Lemmas: MpirProofs/Lemmas/GcdextCanon.lean.
-/
import MpirProofs.Lemmas.GcdextCanon
import MpirProofs.Lemmas.GcdextDc2
import MpirProofs.Props.C07_gcdext
namespace Mpir.C07z
open Mpir Mpir.Gcd Mpir.Hgcd Mpir.Gcdext Mpir.C07x

/-- The canonical cofactor meets the contract of mpn_gcdext: for V > 0 and every U, with G = gcd(U, V) and
    S = gcdextS U V:  V ∣ G − U·S,  S = 1 or 2·G·|S| < V,  S = 0 ↔ V ∣ U; more precisely 2·G·|S| < V, or S = 1 ∧ V = 2G. -/
theorem gcdextS_spec (U V : Nat) (hV : 0 < V) :
    mpnGcdextOk U V (Nat.gcd U V) (gcdextS U V) ∧ CofBound V (Nat.gcd U V) (gcdextS U V) := by
  obtain ⟨c1, c2⟩ := gcdextS_cof U V hV
  exact ⟨Gcdext.cofBound_contract U V _ _ hV rfl c1 c2, c2⟩

example : gcdextS 240 46 = -9 ∧ gcdextS 46 240 = 47 ∧ gcdextS 9 6 = 1 ∧ gcdextS 12 6 = 0 ∧ gcdextS 5 8 = -3 := by decide +kernel
example : mpnGcdextOk 5 8 1 (-3) ∧ ¬ mpnGcdextOk 5 8 1 5 := by decide

/-- The contract of mpn_gcdext has exactly one solution: G = gcd(U, V), V ∣ G − U·S, (S = 1 or 2·G·|S| < V) and
    (S = 0 ↔ V ∣ U) determine G and S; and they imply the precise form 2·G·|S| < V, or S = 1 ∧ V = 2G. -/
theorem mpn_gcdext_contract_unique (U V G1 G2 : Nat) (S1 S2 : Int) (hV : 0 < V)
    (h1 : mpnGcdextOk U V G1 S1) (h2 : mpnGcdextOk U V G2 S2) : (G1 = G2 ∧ S1 = S2) ∧ CofBound V G1 S1 :=
  ⟨contract_unique U V G1 G2 S1 S2 hV h1 h2, cofBound_of_contract U V G1 S1 hV h1⟩

-- non-vacuity: U = 9, V = 6 = 2G: S = 1 is the cofactor; S = -1 (also 3 − 9·(−1) = 12 ≡ 0 mod 6) violates the bound
example : mpnGcdextOk 9 6 3 1 ∧ ¬ mpnGcdextOk 9 6 3 (-1) ∧ ((3 : Int) - 9 * (-1)) % 6 = 0 := by decide

/-- `MpnGcdextContractDC` holds: on the divide-and-conquer range the value-level `Mpir.Gcd.mpn_gcdext` is the canonical
    cofactor, which meets the contract. -/
theorem mpn_gcdext_contract_dc : MpnGcdextContractDC := by
  intro U V hV hle hdc
  obtain ⟨v1, v2, v3⟩ := mpn_gcdext_value_dc U V hV hle hdc
  exact Gcdext.cofBound_contract U V _ _ hV v1 (by rw [v1]; exact v2) (by rw [v1]; exact v3)

/-- **The contract of mpn_gcdext for every size** (value-level model `Mpir.Gcd.mpn_gcdext`: the Lehmer code mirrored below
    GCDEXT_DC_THRESHOLD, the canonical cofactor above): for every call satisfying the C's ASSERTs (an ≥ n > 0,
    bp[n-1] ≠ 0): G = gcd(U, V), V ∣ G − U·S, S = 1 or 2·G·|S| < V, S = 0 ↔ V ∣ U. -/
theorem mpn_gcdext_contract : MpnGcdextContract := mpnGcdextContract_of_dc mpn_gcdext_contract_dc

example : mpnGcdextOk 240 46 (mpn_gcdext 240 1 46 1).1 (mpn_gcdext 240 1 46 1).2 := by decide +kernel

/-- PARTIAL (full statement: without `hR`; missing: mpn_hgcd on HGCD_REDUCE_THRESHOLD limbs or more, see
    `mpn_hgcd_correct_partial`).
    **The sized mirror of mpn_gcdext returns the canonical cofactor.**  For every call satisfying the C's ASSERTs with a
    divisor of n limbs, n − ⌊n/3⌋ < HGCD_REDUCE_THRESHOLD (any thresholds with HGCD_THRESHOLD ≥ 8; GCDEXT_DC_THRESHOLD as in
    the build), the sized model — initial mpn_tdiv_qr, mpn_gcdext_lehmer_n below the threshold, above it the mpn_hgcd rounds
    with hgcd_mul_matrix_vector, the subdivision fallback with the hook, compute_v and the final combination — returns
    exactly (G, S) of the value-level model: G = gcd(U, V) and S the UNIQUE cofactor with V ∣ G − U·S and 2·G·|S| < V
    (or S = 1 ∧ V = 2G); {gp, gn}, {up, |usize|} normalised, usize < 0 iff S < 0. -/
theorem mpn_gcdext_sized_eq_value_partial (thr : Thr) (ns : Nat → Nat) (h8 : 8 ≤ thr.hgcd) (U V : Nat) (hV0 : 0 < V)
    (hle : nlimbs V ≤ nlimbs U) (hR : nlimbs V - nlimbs V / 3 < thr.reduce) :
    let r := mpnGcdextS (hgcd thr ns) GCDEXT_DC_THRESHOLD U (nlimbs U) V (nlimbs V)
    (r.g, r.S) = mpn_gcdext U (nlimbs U) V (nlimbs V) ∧ mpnGcdextOk U V r.g r.S ∧ CofBound V r.g r.S ∧
      r.gn = nlimbs r.g ∧ r.usize.natAbs = nlimbs r.up ∧ (r.usize < 0 ↔ r.S < 0) := by
  intro r
  by_cases hlt : nlimbs V < GCDEXT_DC_THRESHOLD
  · obtain ⟨p1, p2, _, p4, p5, p6⟩ := mpn_gcdext_contract_partial (hgcd thr ns) U V hV0 hle hlt
    have e1 : r.g = (mpn_gcdext U (nlimbs U) V (nlimbs V)).1 := congrArg Prod.fst p2
    have e2 : r.S = (mpn_gcdext U (nlimbs U) V (nlimbs V)).2 := congrArg Prod.snd p2
    exact ⟨p2, by rw [e1, e2]; exact p1, by rw [e1, e2]; exact cofBound_of_contract U V _ _ hV0 p1, p4, p5, p6⟩
  · have hdc : GCDEXT_DC_THRESHOLD ≤ nlimbs V := by omega
    obtain ⟨c1, c2, c3, _, c5, c6, _⟩ := mpnGcdextS_dc_spec (hgcd thr ns) thr.reduce GCDEXT_DC_THRESHOLD U V
      (hgOk_hgcd thr ns h8) (by unfold GCDEXT_DC_THRESHOLD; omega) hV0 hle hdc hR
    obtain ⟨v1, v2, v3⟩ := mpn_gcdext_value_dc U V hV0 hle hdc
    have hg : r.g = Nat.gcd U V := c1.1
    have hS : r.S = (mpn_gcdext U (nlimbs U) V (nlimbs V)).2 :=
      cofactor_unique U V _ _ _ hV0 rfl (by rw [← hg]; exact c1.2.1) v2 (by rw [← hg]; exact c2) v3
    exact ⟨Prod.ext (by rw [hg, v1]) hS, c1, c2, c3, c5, c6⟩

-- non-vacuity: a 12-limb call through the dc code of the mirror (GCDEXT_DC_THRESHOLD lowered to 10) gives the canonical cofactor
example : (mpnGcdextS (hgcd ⟨8, 50, 1000, 2⟩ id) 10 (3 ^ 480) 12 (5 ^ 320) 12).S = gcdextS (3 ^ 480) (5 ^ 320) := by decide +kernel

/-- **mpz_gcdext meets the manual's full contract** `gcdextOk` — g = gcd(a, b) ≥ 0, a·s + b·t = g, |s| < |b|/(2g),
    |t| < |a|/(2g) with all the documented special cases (|a| = |b|, a zero operand, |b| = 2g, …) — for ALL a, b.
    (Value-level model `Mpir.Gcd.mpz_gcdext`: mpz/gcdext.c mirrored over `Mpir.Gcd.mpn_gcdext`; for divisors of
    GCDEXT_DC_THRESHOLD limbs or more that is the canonical cofactor, to which the mirror of the divide-and-conquer code is
    tied by `mpn_gcdext_sized_eq_value_partial` up to 10276 limbs and by the run beyond.) -/
theorem mpz_gcdext_correct (a b : Int) :
    gcdextOk a b (mpz_gcdext a b).1 (mpz_gcdext a b).2.1 (mpz_gcdext a b).2.2 :=
  mpz_gcdext_correct_partial mpn_gcdext_contract_dc a b

example : mpz_gcdext (-(3 ^ 100 * 7)) (5 ^ 60 * 14) = (7, -688819439972298888004719971114650396009251, -204644751812698827570619471103382862379195346745) := by
  decide +kernel

/-- **mpz_invert** for |m| > 1, all a: non-zero return iff gcd(a, m) = 1, then 0 ≤ r < |m| and a·r ≡ 1 (mod m). -/
theorem mpz_invert_correct (a m : Int) (hm : 1 < m.natAbs) :
    match mpz_invert a m with
    | none => invertOk a m 0 0
    | some r => invertOk a m 1 r :=
  mpz_invert_correct_partial mpn_gcdext_contract_dc a m hm

example : mpz_invert (-3) (-7) = some 2 ∧ mpz_invert 6 9 = none := by decide +kernel

/-! ### the mpz layer over the sized mirror -/

/-- mpz/gcdext.c after the operand swap, over an arbitrary mpn_gcdext `f` (same text as `Mpir.Gcd.gcdextCore`) -/
def coreWith (f : Nat → Nat → Nat → Nat → Nat × Int) (a b : Int) : Int × Int × Int :=
  if nlimbs b.natAbs = 0 then
    ((a.natAbs : Int), (if a ≥ 0 then (if nlimbs a.natAbs ≠ 0 then 1 else 0) else -1), 0)
  else
    let r := f a.natAbs (nlimbs a.natAbs) b.natAbs (nlimbs b.natAbs)
    let s : Int := if a ≥ 0 then r.2 else -r.2
    ((r.1 : Int), s, ((r.1 : Int) - s * a) / b)

/-- mpz_gcdext (mpz/gcdext.c:27) over an arbitrary mpn_gcdext `f` -/
def mpzGcdextWith (f : Nat → Nat → Nat → Nat → Nat × Int) (a b : Int) : Int × Int × Int :=
  if nlimbs a.natAbs < nlimbs b.natAbs then ((coreWith f b a).1, (coreWith f b a).2.2, (coreWith f b a).2.1)
  else coreWith f a b

/-- mpz_invert (mpz/invert.c:25) over an arbitrary mpn_gcdext `f` -/
def mpzInvertWith (f : Nat → Nat → Nat → Nat → Nat × Int) (x n : Int) : Option Int :=
  if x = 0 ∨ n.natAbs = 1 then none
  else if (mpzGcdextWith f x n).1 ≠ 1 then none
  else if (mpzGcdextWith f x n).2.1 < 0 then
    (if n < 0 then some ((mpzGcdextWith f x n).2.1 - n) else some ((mpzGcdextWith f x n).2.1 + n))
  else some (mpzGcdextWith f x n).2.1

theorem mpzGcdextWith_value (a b : Int) : mpzGcdextWith mpn_gcdext a b = mpz_gcdext a b := by
  rw [mpz_gcdext_eq]; rfl

theorem mpzInvertWith_value (x n : Int) : mpzInvertWith mpn_gcdext x n = mpz_invert x n := by
  rw [mpz_invert_eq]; unfold mpzInvertWith; simp only [mpzGcdextWith_value]

/-- mpn_gcdext of the sized mirror as a function (G, S) -/
def mpnGcdextSized (thr : Thr) (ns : Nat → Nat) (U an V n : Nat) : Nat × Int :=
  ((mpnGcdextS (hgcd thr ns) GCDEXT_DC_THRESHOLD U an V n).g, (mpnGcdextS (hgcd thr ns) GCDEXT_DC_THRESHOLD U an V n).S)

theorem coreWith_sized (thr : Thr) (ns : Nat → Nat) (h8 : 8 ≤ thr.hgcd) (a b : Int) (hle : nlimbs b.natAbs ≤ nlimbs a.natAbs)
    (hR : nlimbs b.natAbs - nlimbs b.natAbs / 3 < thr.reduce) :
    coreWith (mpnGcdextSized thr ns) a b = coreWith mpn_gcdext a b := by
  unfold coreWith
  by_cases hb : nlimbs b.natAbs = 0
  · rw [if_pos hb, if_pos hb]
  · rw [if_neg hb, if_neg hb]
    have hV0 : 0 < b.natAbs := by
      rcases Nat.eq_zero_or_pos b.natAbs with h | h
      · rw [h, nlimbs_zero] at hb; exact absurd rfl hb
      · exact h
    have := (mpn_gcdext_sized_eq_value_partial thr ns h8 a.natAbs b.natAbs hV0 hle hR).1
    have e : mpnGcdextSized thr ns a.natAbs (nlimbs a.natAbs) b.natAbs (nlimbs b.natAbs) =
        mpn_gcdext a.natAbs (nlimbs a.natAbs) b.natAbs (nlimbs b.natAbs) := this
    rw [e]

/-- PARTIAL (full statement: without `hR`; missing: as in `mpn_gcdext_sized_eq_value_partial`).
    **mpz_gcdext and mpz_invert through the mirror of mpn_gcdext**, with NO contract hypothesis: for all a, b whose smaller
    operand has n limbs with n − ⌊n/3⌋ < HGCD_REDUCE_THRESHOLD (n ≤ 10276 on this build), mpz/gcdext.c over the sized model
    of gcdext.c (Lehmer below GCDEXT_DC_THRESHOLD, the mpn_hgcd rounds above) returns the manual's triple: g = gcd(a, b),
    a·s + b·t = g, |s| < |b|/(2g), |t| < |a|/(2g) with all special cases; it coincides with `Mpir.Gcd.mpz_gcdext`; and
    mpz_invert over it (|m| > 1) reports an inverse iff gcd = 1, 0 ≤ r < |m|, a·r ≡ 1 (mod m). -/
theorem mpz_gcdext_sized_correct_partial (thr : Thr) (ns : Nat → Nat) (h8 : 8 ≤ thr.hgcd) (a b : Int)
    (hR : min (nlimbs a.natAbs) (nlimbs b.natAbs) - min (nlimbs a.natAbs) (nlimbs b.natAbs) / 3 < thr.reduce) :
    mpzGcdextWith (mpnGcdextSized thr ns) a b = mpz_gcdext a b ∧
    gcdextOk a b (mpzGcdextWith (mpnGcdextSized thr ns) a b).1 (mpzGcdextWith (mpnGcdextSized thr ns) a b).2.1
      (mpzGcdextWith (mpnGcdextSized thr ns) a b).2.2 ∧
    mpzInvertWith (mpnGcdextSized thr ns) a b = mpz_invert a b ∧
    (1 < b.natAbs → match mpzInvertWith (mpnGcdextSized thr ns) a b with
      | none => invertOk a b 0 0
      | some r => invertOk a b 1 r) := by
  have key : mpzGcdextWith (mpnGcdextSized thr ns) a b = mpz_gcdext a b := by
    rw [← mpzGcdextWith_value]
    unfold mpzGcdextWith
    by_cases h : nlimbs a.natAbs < nlimbs b.natAbs
    · rw [if_pos h, if_pos h, coreWith_sized thr ns h8 b a (by omega) (by rw [min_eq_left (le_of_lt h)] at hR; exact hR)]
    · rw [if_neg h, if_neg h, coreWith_sized thr ns h8 a b (by omega) (by rw [min_eq_right (by omega)] at hR; exact hR)]
  have kinv : mpzInvertWith (mpnGcdextSized thr ns) a b = mpz_invert a b := by
    rw [← mpzInvertWith_value]; unfold mpzInvertWith; simp only [key, mpzGcdextWith_value]
  refine ⟨key, by rw [key]; exact mpz_gcdext_correct a b, kinv, fun hm => ?_⟩
  rw [kinv]; exact mpz_invert_correct a b hm

-- non-vacuity: thresholds lowered so that the 12-limb operands go through the divide-and-conquer mirror is not possible here
-- (GCDEXT_DC_THRESHOLD is the build's 342 in `mpnGcdextSized`): a Lehmer-range instance, and the build-range statement
example : mpzGcdextWith (mpnGcdextSized ⟨8, 50, 1000, 2⟩ id) (-(3 ^ 100 * 7)) (5 ^ 60 * 14) =
    (7, -688819439972298888004719971114650396009251, -204644751812698827570619471103382862379195346745) := by decide +kernel
example : mpzInvertWith (mpnGcdextSized ⟨8, 50, 1000, 2⟩ id) (-3) (-7) = some 2 := by decide +kernel

/-- the same with the thresholds of this build (HGCD_REDUCE_THRESHOLD = 6852): smaller operand of at most 10276 limbs -/
theorem mpz_gcdext_sized_build_partial (t0 t1 t3 : Nat) (ns : Nat → Nat) (h8 : 8 ≤ t0) (a b : Int)
    (hR : min (nlimbs a.natAbs) (nlimbs b.natAbs) ≤ 10276) :
    gcdextOk a b (mpzGcdextWith (mpnGcdextSized ⟨t0, t1, 6852, t3⟩ ns) a b).1 (mpzGcdextWith (mpnGcdextSized ⟨t0, t1, 6852, t3⟩ ns) a b).2.1
      (mpzGcdextWith (mpnGcdextSized ⟨t0, t1, 6852, t3⟩ ns) a b).2.2 :=
  (mpz_gcdext_sized_correct_partial ⟨t0, t1, 6852, t3⟩ ns h8 a b (by show _ < 6852; omega)).2.1

end Mpir.C07z
