/- C13 (part: strings) — mpf_set_str and mpf_get_str.

   "For ... mpf_set_str, the result differs from the exact mathematical value by less than 2^(2-p) times its
   magnitude, where p = mpf_get_prec(rop) ..., and it equals the exact value whenever the operands and that
   value each fit in p bits. ... mpf_get_str yields at most the requested digits denoting a value within one
   unit of the last requested digit ..., and every result satisfies the mpf format rules."

   The theorems are about the model Mpir/Model/MpfStr.lean, which mirrors mpf/set_str.c and mpf/get_str.c and is
   compared bit for bit with the library on every run (ops mpf_set_str13, mpf_get_str13, mpf_str_roundtrip13). -/
import MpirProofs.Lemmas.MpfParseLang
import MpirProofs.Lemmas.MpfStrAcc
namespace Mpir.MpfStr
open Mpir Mpir.Mpf

/-- The value returned by mpn_pow_1_highpart — at most P limbs `r` (top limb non-zero) and a count `ign` of
    ignored low limbs — satisfies  r·B^ign ≤ base^e  and  base^e − r·B^ign ≤ e · B^(1-P) · base^e,  for every
    base ≥ 1, every e ≥ 1 and every P ≥ 1: each of the at most e truncations costs a factor (1 − B^(1-P)), and
    a squaring doubles the number of factors accumulated so far. -/
theorem powHigh_bound (base P e : ℕ) (hb : 1 ≤ base) (hP : 1 ≤ P) (he : 1 ≤ e) :
    (powHigh base e P).1 ≠ 0 ∧ limbLen (powHigh base e P).1 ≤ P ∧
    ((powHigh base e P).1 : ℚ) * (B : ℚ) ^ (powHigh base e P).2 ≤ (base : ℚ) ^ e ∧
    (base : ℚ) ^ e - ((powHigh base e P).1 : ℚ) * (B : ℚ) ^ (powHigh base e P).2 ≤
      (e : ℚ) * (1 / (B : ℚ) ^ (P - 1)) * (base : ℚ) ^ e := by
  obtain ⟨a, b, c⟩ := powHigh_appr base P e hb hP he
  exact ⟨a, b, c.2, Appr.err (epsP_le_one P) (by positivity) c⟩

-- non-vacuity: 10^40 needs 3 limbs; with P = 2 one limb is dropped and the kept part is the true top part
example : powHigh 10 40 2 = (10 ^ 40 / B, 1) := by decide +kernel
example : powHigh 10 19 2 = (10 ^ 19, 0) := by decide +kernel

/-- A zero mantissa gives the canonical zero (SIZ = 0, EXP = 0), whatever the exponent. -/
theorem convert_zero (prec : ℕ) (p : Parsed) (h : p.mant = 0) : convert prec p = zero prec ∧ WF (convert prec p) :=
  ⟨convert_of_mant_zero prec p h, convert_of_mant_zero prec p h ▸ WF_zero prec⟩

example : convert 2 ⟨true, 10, [0, 0], 1, 5⟩ = zero 2 := by decide +kernel

/-- **Accuracy of mpf_set_str.**  For an accepted string with non-zero mantissa M, base b ≥ 1 and
    e = |exponent − fraction length| < 2^63 (the range of the C `long` it is held in), the result of the
    conversion algorithm of mpf/set_str.c — mantissa cut to prec+1 limbs, base^e by mpn_pow_1_highpart with
    every intermediate square cut to prec+1 limbs, product cut to prec+1 limbs, or quotient of prec+1 limbs —
    is a well-formed mpf and differs from the exact value ±M·b^(±e) by less than 2^(2-p) times its magnitude,
    p = 64·prec − 64 = mpf_get_prec.  The accumulated truncations amount to at most e+2 (product) resp.
    2e+3 (quotient) factors (1 − B^(-prec)), against the 4·B·B^(-prec) the statement allows. -/
theorem convert_err (prec : ℕ) (hp : 1 ≤ prec) (p : Parsed) (hb : 1 ≤ p.base) (hM : p.mant ≠ 0)
    (he : p.scale.natAbs < 2 ^ 63) :
    WF (convert prec p) ∧ |toQ (convert prec p) - p.value| < eps prec * |p.value| := by
  obtain ⟨wf, R, V, hV, hR, hval, herr, _⟩ := convert_spec prec p hb hM
  rw [hR, hval]
  exact ⟨wf, err_with_sign p.neg prec hV (herr hp he)⟩

-- non-vacuity: "1.e-1" (M = 1, base 10, scale -1) at 64-bit precision: 0.1 is not representable, the result is
-- the 3-limb quotient 0x1999…9999 9999…9999 9999…999a-ish / B^3; "7e77" goes through the truncated power
example : convert 2 ⟨false, 10, [1], 0, -1⟩ =
    ⟨2, 3, 0, [0x9999999999999999, 0x9999999999999999, 0x1999999999999999]⟩ := by decide +kernel
example : WF (convert 2 ⟨false, 10, [7], 0, 77⟩) ∧ (convert 2 ⟨false, 10, [7], 0, 77⟩).exp = 5 := by decide +kernel

/-- **Exactness of mpf_set_str.**  If the integer mantissa, the power base^|exponent − fraction length| and
    the value denoted each fit in p = 64·prec − 64 bits (are m·2^k with |m| < 2^p), the stored result equals the
    value denoted: the mantissa cut, every truncated square inside mpn_pow_1_highpart, the product cut and the
    final division drop nothing but zero limbs / leave no remainder. -/
theorem convert_exact_if_fits (prec : ℕ) (hp : 1 ≤ prec) (p : Parsed) (hb : 1 ≤ p.base) (hM : p.mant ≠ 0)
    (fM : Fits (p.mant : ℚ) (PREC_TO_BITS prec))
    (fb : Fits (((p.base ^ p.scale.natAbs : ℕ) : ℚ)) (PREC_TO_BITS prec))
    (fv : Fits p.value (PREC_TO_BITS prec)) :
    toQ (convert prec p) = p.value :=
  convert_exact prec hp p hb hM fM fb fv

-- non-vacuity: "5e-1" in base 10 is exactly 1/2 (through the division), "125e3" exactly 125000 (through the product)
example : toQ (convert 2 ⟨false, 10, [5], 0, -1⟩) = 1 / 2 := by
  have h := convert_exact_if_fits 2 (by norm_num) ⟨false, 10, [5], 0, -1⟩ (by decide) (by decide +kernel)
    ⟨5, 0, by norm_num [Parsed.mant, Radix.ofDigits], by norm_num [PREC_TO_BITS]⟩
    ⟨10, 0, by norm_num [Parsed.scale], by norm_num [PREC_TO_BITS]⟩
    ⟨1, -1, by norm_num [Parsed.value, Parsed.mant, Parsed.scale, Radix.ofDigits, sgn], by norm_num [PREC_TO_BITS]⟩
  rw [h]; norm_num [Parsed.value, Parsed.mant, Parsed.scale, Radix.ofDigits, sgn]
example : convert 2 ⟨false, 10, [5], 0, -1⟩ = ⟨2, 3, 0, [0, 0, B / 2]⟩ := by decide +kernel
example : convert 2 ⟨true, 10, [1, 2, 5], 0, 3⟩ = ⟨2, -1, 1, [125000]⟩ := by decide +kernel


/-- mpf_set_str as a whole: a rejected string leaves the destination untouched and returns -1; an accepted one
    returns 0 and stores the conversion of what the string denotes, to which `convert_zero` / `convert_err` apply. -/
theorem set_str_spec (prec : ℕ) (dst : F) (base : ℤ) (s : List ℕ) :
    (parse base s = none → set_str prec dst base s = (-1, dst)) ∧
    (∀ p, parse base s = some p → set_str prec dst base s = (0, convert prec p)) := by
  unfold set_str
  constructor
  · intro h; rw [h]
  · intro p h; rw [h]

example : set_str 2 ⟨2, 2, -3, [5, 7]⟩ 10 ("1e".toList.map Char.toNat) = (-1, ⟨2, 2, -3, [5, 7]⟩) := by decide +kernel

/-- What an accepted string yields: the base is |base| (10 for base 0) and lies in 2..62, every mantissa digit is a
    digit of that base, the fraction length does not exceed the digit count, and the sign is the `-` found after
    the leading white space. -/
theorem parse_sound (base : ℤ) (s : List ℕ) (p : Parsed) (h : parse base s = some p) :
    2 ≤ p.base ∧ p.base ≤ 62 ∧ p.base = baseOf base ∧
    (∀ d ∈ p.digits, d < p.base) ∧ p.frac ≤ p.digits.length ∧
    p.neg = (((s.takeWhile (· != 0)).dropWhile Radix.isSpace).head? == some 45) := by
  unfold parse at h
  dsimp only at h
  split at h
  · cases h
  · rename_i hr
    obtain ⟨a, b, c, d⟩ := MpfParse.parseBody_wf _ _ _ (by omega)
      (by rw [MpfParse.baseOf_eq] at hr; rw [MpfParse.expBaseOf_eq]; split_ifs at hr ⊢ <;> omega) _ _ h
    rw [b]
    exact ⟨by omega, by omega, rfl, c, d, a⟩

example : parse (-16) (" -fF.8@-10".toList.map Char.toNat) = some ⟨true, 16, [15, 15, 8], 1, -10⟩ := by decide +kernel
example : parse 10 ("1e5xyz".toList.map Char.toNat) = some ⟨false, 10, [1], 0, 5⟩ := by decide +kernel
example : parse 10 ("1.2.3".toList.map Char.toNat) = none ∧ parse 10 ("- 5".toList.map Char.toNat) = none ∧
    parse 16 ("1e5".toList.map Char.toNat) = some ⟨false, 16, [1, 14, 5], 0, 0⟩ ∧ parse 63 [49] = none ∧
    parse 10 ("1e5e3".toList.map Char.toNat) = none := by decide +kernel

/-- **mpf_set_str, all inputs.**  For every string, base and destination of precision prec ≥ 1 limb field:
    either the string is rejected (return -1, destination untouched), or it is accepted (return 0) and the
    destination then holds a well-formed mpf which is the canonical zero if the mantissa is zero, and otherwise
    differs from the value denoted, ±mantissa·base^(exponent − fraction length), by less than 2^(2-p) times its
    magnitude whenever that power fits the C `long` it is computed in, and equals it whenever mantissa, power
    and value fit in p bits. -/
theorem mpf_set_str_correct (prec : ℕ) (hp : 1 ≤ prec) (dst : F) (base : ℤ) (s : List ℕ) :
    (parse base s = none ∧ set_str prec dst base s = (-1, dst)) ∨
    (∃ p, parse base s = some p ∧ (set_str prec dst base s).1 = 0 ∧ WF (set_str prec dst base s).2 ∧
      (p.mant = 0 → (set_str prec dst base s).2 = zero prec) ∧
      (p.mant ≠ 0 → p.scale.natAbs < 2 ^ 63 →
        |toQ (set_str prec dst base s).2 - p.value| < eps prec * |p.value|) ∧
      (p.mant ≠ 0 → Fits (p.mant : ℚ) (PREC_TO_BITS prec) →
        Fits (((p.base ^ p.scale.natAbs : ℕ) : ℚ)) (PREC_TO_BITS prec) → Fits p.value (PREC_TO_BITS prec) →
        toQ (set_str prec dst base s).2 = p.value)) := by
  cases h : parse base s with
  | none => left; exact ⟨rfl, ((set_str_spec prec dst base s).1 h)⟩
  | some p =>
    right
    have hs := (set_str_spec prec dst base s).2 p h
    have hb : 1 ≤ p.base := by have := (parse_sound base s p h).1; omega
    refine ⟨p, rfl, by rw [hs], ?_, ?_, ?_, ?_⟩
    · rw [hs]
      by_cases hM : p.mant = 0
      · exact (convert_zero prec p hM).2
      · -- format rules hold for every exponent (the bound needs the `long` range only for the error)
        exact (convert_spec prec p hb hM).1
    · intro hM; rw [hs]; exact (convert_zero prec p hM).1
    · intro hM he; rw [hs]; exact (convert_err prec hp p hb hM he).2
    · intro hM f1 f2 f3; rw [hs]; exact convert_exact_if_fits prec hp p hb hM f1 f2 f3

example : (set_str 2 ⟨2, 2, -3, [5, 7]⟩ 10 ("-12.5e1".toList.map Char.toNat)) = (0, ⟨2, -1, 1, [125]⟩) := by decide +kernel

/-- The integer test `withinUnit` evaluated by the driver is the statement "the digits d₁…d_L with exponent x
    denote a value within one unit of the n-th digit of num/den":  |0.d₁…d_L · b^x − num/den| ≤ b^(x−n). -/
theorem withinUnit_iff (b : ℕ) (hb : 1 ≤ b) (ds : List ℕ) (x : ℤ) (n num den : ℕ) (hden : 0 < den)
    (hL : ds.length ≤ n) :
    withinUnit b ds x n num den = true ↔
      |(Radix.ofDigits b ds : ℚ) * (b : ℚ) ^ (x - (ds.length : ℤ)) - (num : ℚ) / (den : ℚ)| ≤ (b : ℚ) ^ (x - (n : ℤ)) := by
  have hbq : (0 : ℚ) < (b : ℚ) := by exact_mod_cast hb
  have hdq : (0 : ℚ) < (den : ℚ) := by exact_mod_cast hden
  have hJ : (0 : ℚ) < (b : ℚ) ^ (n - ds.length) := pow_pos hbq _
  have hxn : (b : ℚ) ^ (x - (n : ℤ)) = (b : ℚ) ^ (x - (ds.length : ℤ)) / (b : ℚ) ^ (n - ds.length) := by
    rw [← zpow_natCast, ← zpow_sub₀ hbq.ne']; congr 1; omega
  unfold withinUnit
  dsimp only
  rw [hxn]
  split
  · -- the unit of the last digit is b^y
    obtain ⟨y, hy⟩ := Int.eq_ofNat_of_zero_le ‹x - (ds.length : ℤ) ≥ 0›
    have := within_iff (D := Radix.ofDigits b ds) (num := num) (P := (b : ℚ) ^ y) hdq one_pos hJ
    rw [div_one, mul_one] at this
    rw [hy, Int.toNat_natCast, zpow_natCast, decide_eq_true_iff, ← Nat.cast_le (α := ℚ), this]
    push_cast [Nat.cast_natAbs]
    rfl
  · -- the unit of the last digit is 1 / b^y
    obtain ⟨y, hy⟩ : ∃ y : ℕ, x - (ds.length : ℤ) = -(y : ℤ) := ⟨(-(x - (ds.length : ℤ))).toNat, by omega⟩
    have := within_iff (D := Radix.ofDigits b ds) (num := num) (P := 1) hdq (pow_pos hbq y) hJ
    rw [one_div, one_mul] at this
    rw [hy, neg_neg, Int.toNat_natCast, zpow_neg, zpow_natCast, decide_eq_true_iff, ← Nat.cast_le (α := ℚ), this]
    push_cast [Nat.cast_natAbs]
    rfl

/-- `GetOk`, the predicate applied to every answer of mpf_get_str for a non-zero operand of magnitude num/den
    (n = the digit count worked to: n_digits, or MPF_SIGNIFICANT_DIGITS when n_digits is 0 or larger than that),
    says exactly: between 1 and n digits, each below the base, the first and the last one non-zero ("trailing
    zeros are not returned"), and the value denoted is within one unit of the n-th digit. -/
theorem getOk_iff (b : ℕ) (hb : 1 ≤ b) (ds : List ℕ) (x : ℤ) (n num den : ℕ) (hden : 0 < den) :
    GetOk b ds x n num den = true ↔
      (1 ≤ ds.length ∧ ds.length ≤ n ∧ (∀ d ∈ ds, d < b) ∧ ds.head? ≠ some 0 ∧ ds.getLast? ≠ some 0 ∧
       |(Radix.ofDigits b ds : ℚ) * (b : ℚ) ^ (x - (ds.length : ℤ)) - (num : ℚ) / (den : ℚ)| ≤ (b : ℚ) ^ (x - (n : ℤ))) := by
  unfold GetOk
  simp only [Bool.and_eq_true, decide_eq_true_iff, List.all_eq_true]
  constructor
  · rintro ⟨⟨⟨⟨⟨h1, h2⟩, h3⟩, h4⟩, h5⟩, h6⟩
    exact ⟨h1, h2, h3, h4, h5, (withinUnit_iff b hb ds x n num den hden h2).mp h6⟩
  · rintro ⟨h1, h2, h3, h4, h5, h6⟩
    exact ⟨⟨⟨⟨⟨h1, h2⟩, h3⟩, h4⟩, h5⟩, (withinUnit_iff b hb ds x n num den hden h2).mpr h6⟩

-- non-vacuity: 3.1416 as "31416" with exponent 1 at n = 5 is accepted for 31416/10000 and for 314159/100000
-- (error 0.1 unit), and rejected for 3.1427 (1.1 units) and when a leading zero digit is delivered
example : GetOk 10 [3, 1, 4, 1, 6] 1 5 314159 100000 = true := by decide +kernel
example : GetOk 10 [3, 1, 4, 1, 6] 1 5 31427 10000 = false := by decide +kernel
example : GetOk 10 [0, 3, 1, 4, 2] 2 5 31416 10000 = false := by decide +kernel
example : GetOk 10 [1] 3 4 99996 1000 = true := by decide +kernel        -- 99.996 to 4 digits: "1", exponent 3

/-- **Rounding up** (get_str.c:259-280).  Adding one unit to the last kept digit: the digits returned — carried
    positions cut off, or the single digit 1 with the exponent raised by one when every digit was b-1 — denote
    exactly the old value plus one unit of its last place; they are digits of the base, at least one, not more
    than before, and the last one is not zero. -/
theorem roundUp_value (b : ℕ) (hb : 2 ≤ b) (ds : List ℕ) (x : ℤ) (hne : ds ≠ []) (hds : ∀ d ∈ ds, d < b) :
    digVal b (roundUp b ds x).1 (roundUp b ds x).2 = digVal b ds x + (b : ℚ) ^ (x - (ds.length : ℤ)) ∧
    (∀ d ∈ (roundUp b ds x).1, d < b) ∧ (roundUp b ds x).1.getLast? ≠ some 0 ∧
    1 ≤ (roundUp b ds x).1.length ∧ (roundUp b ds x).1.length ≤ ds.length := by
  obtain ⟨a, b', c, d, e⟩ := roundUp_spec b hb ds x hds
  refine ⟨?_, b', c, d, ?_⟩
  · rw [a]; unfold digVal; ring
  · rcases e with e | e
    · exact e
    · exact absurd e hne

example : roundUp 10 [9, 9, 9] 5 = ([1], 6) ∧ roundUp 10 [1, 2, 9, 9] 5 = ([1, 3], 5) ∧
    roundUp 16 [15, 14] (-3) = ([15, 15], -3) := by decide +kernel

/-- **Integers are converted exactly.**  If the operand holds the integer N > 0 (EXP ≥ number of limbs), N has at
    most as many digits as are worked to, all limbs are used (|size| ≤ n_limbs_needed), the multiplication
    branch is taken (EXP ≤ n_limbs_needed) and base^e stays below B^n_limbs_needed (so mpn_pow_1_highpart
    truncates nothing), then mpf_get_str delivers exactly the digits of N without its trailing zeros, and the
    exponent is the number of digits of N. -/
theorem get_digits_integer_exact (base nd0 : ℕ) (u : F) (hb : 2 ≤ base) (N : ℕ) (hN : 0 < N)
    (hlen : (u.d.length : ℤ) ≤ u.exp)
    (hval : N = val u.d * B ^ (u.exp - (u.d.length : ℤ)).toNat)
    (hun : u.d.length ≤ nLimbsNeeded base (effDigits base u.prec nd0))
    (hexp : u.exp ≤ (nLimbsNeeded base (effDigits base u.prec nd0) : ℤ))
    (hpow : base ^ (Radix.mulTrunc (64 * ((nLimbsNeeded base (effDigits base u.prec nd0) : ℤ) - u.exp).toNat)
        (Radix.cpbeBits base)) < B ^ nLimbsNeeded base (effDigits base u.prec nd0))
    (hdig : (Radix.digitsOf base N).length ≤ effDigits base u.prec nd0) :
    get_digits base nd0 u =
      (stripTrailingZeros (Radix.digitsOf base N), ((Radix.digitsOf base N).length : ℤ)) :=
  get_digits_integer base nd0 u hb N hN hlen hval hun hexp hpow hdig

-- non-vacuity: 12500 held by a 64-bit-precision mpf, all significant digits requested, base 10: "125", exponent 5
example : get_digits 10 0 ⟨2, 1, 1, [12500]⟩ = ([1, 2, 5], 5) := by
  rw [get_digits_integer_exact 10 0 ⟨2, 1, 1, [12500]⟩ (by norm_num) 12500 (by norm_num) (by decide) (by decide +kernel)
    (by decide +kernel) (by decide +kernel) (by decide +kernel) (by decide +kernel)]
  decide +kernel
example : get_str (-16) 3 ⟨2, -2, 1, [B / 2, 255]⟩ = ("-FF8".toList.map Char.toNat, 2) := by decide +kernel

/-- **The integer whose digits mpf_get_str develops** (get_str.c:180-250, n_limbs_needed = nln ≥ 1 limbs kept at
    every step).  With |u| the exact magnitude of a well-formed non-zero operand and ε = B^(1-nln):
    multiplication branch (EXP ≤ nln): the scaling exponent is some e ≥ 0 and
        |u|·base^e·(1−ε)^(e+1) − 1 < N ≤ |u|·base^e ;
    division branch (EXP > nln, and the power's ignored limbs do not exceed n_less_limbs_needed, which
    get_str.c:238 takes for granted): the scaling exponent is −e and
        |u|/base^e·(1−ε) − 1 < N   and   N·(1−ε)^e ≤ |u|/base^e .
    The accumulated factor (1−ε)^(e+1) is what one guard limb could not absorb for e in the thousands (the defect
    repaired in /repo); with nln = 3 + limbs(n_digits) it stays 2^-65·(e+1) below the last requested digit. -/
theorem scaledInt_bound (base nln : ℕ) (u : F) (hb : 1 ≤ base) (hn : 1 ≤ nln)
    (hl : Limbs u.d) (hne : u.d ≠ []) (ht : u.d.getLast? ≠ some 0) :
    (u.exp ≤ (nln : ℤ) →
      ∃ e : ℕ, (scaledInt base nln u).2 = (e : ℤ) ∧
        ((scaledInt base nln u).1 : ℚ) ≤ qv u.d u.exp * (base : ℚ) ^ e ∧
        qv u.d u.exp * (base : ℚ) ^ e * (1 - epsP nln) ^ (e + 1) - 1 < ((scaledInt base nln u).1 : ℚ)) ∧
    (¬ u.exp ≤ (nln : ℤ) →
      (powHigh0 base (Radix.mulTrunc (64 * (u.exp - (nln : ℤ)).toNat) (Radix.cpbeBits base)) nln).2 ≤ (u.exp - (nln : ℤ)).toNat →
      ∃ e : ℕ, (scaledInt base nln u).2 = -(e : ℤ) ∧
        ((scaledInt base nln u).1 : ℚ) * (1 - epsP nln) ^ e ≤ qv u.d u.exp / (base : ℚ) ^ e ∧
        qv u.d u.exp / (base : ℚ) ^ e * (1 - epsP nln) - 1 < ((scaledInt base nln u).1 : ℚ)) :=
  ⟨scaledInt_mul_bound base nln u hb hn ⟨hl, hne, ht⟩, scaledInt_div_bound base nln u hb hn ⟨hl, hne, ht⟩⟩

-- non-vacuity: 2^-64 (one limb, EXP = 0) in base 10 with 4 limbs: scaled by 10^77, N = ⌊10^77 / 2^64⌋;
-- 5·B^9 (EXP = 10) with 3 limbs: divided by 10^134
example : scaledInt 10 4 ⟨2, 1, 0, [1]⟩ = (10 ^ 77 / 2 ^ 64, 77) := by decide +kernel
example : (scaledInt 10 3 ⟨2, 1, 10, [5]⟩).2 = -134 := by decide +kernel

/-- **Accuracy of mpf_get_str's algorithm.**  For a well-formed non-zero operand u, a base ≥ 2 and any n_digits,
    if the adequacy conditions `adequate` hold — n_limbs_needed leaves two guard limbs beyond the digits worked to
    (base^n·2^64 ≤ B^(nln−1)), at least three more digits are developed than delivered, the scaling exponent is
    below 2^59, and in the division branch the power's ignored limbs do not exceed n_less_limbs_needed — then the
    digits d₁…d_L and exponent x delivered by the conversion algorithm of mpf/get_str.c (top limbs of u, base^e by
    mpn_pow_1_highpart cut to nln limbs at every squaring, product or quotient, digit development, rounding at
    the n-th digit, carry, stripping) denote a value WITHIN ONE UNIT OF THE n-th DIGIT of |u|:
        |0.d₁…d_L · base^x − |u|| ≤ base^(x − n).
    The conditions only concern the binary64 computations of get_str.c:180/189/226; the driver evaluates them on
    every mpf_get_str13 line of every run (a failure prints `!adequacy`).  With the single guard limb the code had
    before its repair the first condition reads base^n ≤ B^(nln−1), for which no such theorem holds (A.2). -/
theorem get_digits_accuracy (base nd0 : ℕ) (u : F) (hb : 2 ≤ base) (hu : OpWF u) (h0 : u.size ≠ 0)
    (had : adequate base nd0 u = true) :
    |digVal base (get_digits base nd0 u).1 (get_digits base nd0 u).2 - abs (toQ u)| ≤
      (base : ℚ) ^ ((get_digits base nd0 u).2 - (effDigits base u.prec nd0 : ℤ)) := by
  have hm := hu.mant h0
  unfold adequate at had
  simp only [Bool.and_eq_true, Bool.or_eq_true, decide_eq_true_iff] at had
  obtain ⟨⟨⟨H1, H2⟩, H3⟩, H4⟩ := had
  rw [abs_toQ]
  unfold get_digits
  dsimp only
  rw [if_neg (fun h => hm.ne (List.eq_nil_of_length_eq_zero h))]
  generalize effDigits base u.prec nd0 = nd at *
  have hn := nLimbsNeeded_pos base nd
  generalize nLimbsNeeded base nd = nln at *
  have hclose := scaledInt_close base nd nln u hb (by omega) hm H1 H2 H3 H4
  generalize scaledInt base nln u = sc at *
  -- rounding adds at most 3/4 of a unit; the unit at the delivered exponent is not smaller
  refine le_trans (within_unit_glue base hb nd sc.1 sc.2 _ (by omega) hclose) ?_
  apply zpow_le_zpow_right₀ (by exact_mod_cast (show 1 ≤ base by omega))
  have := finish_exp base nd (Radix.digitsOf base sc.1) (((Radix.digitsOf base sc.1).length : ℤ) - sc.2)
  omega

-- non-vacuity: 2^-64 in base 10, all significant digits (21): adequacy holds, so 0.542101086242752217004 · 10^-19
-- is within 10^(-19-21) of 2^-64; likewise 5·B^9 (division branch)
example : adequate 10 0 ⟨2, 1, 0, [1]⟩ = true ∧ adequate 10 0 ⟨2, 1, 10, [5]⟩ = true ∧
    adequate 3 40 ⟨2, 3, -128, [0x848073b81ed3faf5, 0x4af1d0f37852807, 0x9394374f077c93a1]⟩ = true := by decide +kernel
example : get_digits 10 0 ⟨2, 1, 0, [1]⟩ = ([5, 4, 2, 1, 0, 1, 0, 8, 6, 2, 4, 2, 7, 5, 2, 2, 1, 7, 0, 0, 4], -19) := by
  decide +kernel

end Mpir.MpfStr
