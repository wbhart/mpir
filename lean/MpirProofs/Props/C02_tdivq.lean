/-
  C02 (multi-limb layer) — the glue of mpn_tdiv_q (mpn/generic/tdiv_q.c): GIVEN the contracts of its callees
  (mpn_divrem_2, mpn_sb_div_q, mpn_dc_div_q, mpn_inv_div_q exact; mpn_sb_divappr_q, mpn_dc_divappr_q,
  mpn_inv_divappr_q "either correct, or one too large"; mpn_mul the product) mpn_tdiv_q writes exactly the nn-dn+1
  limbs of ⌊N/D⌋, for all nn ≥ dn ≥ 1, all limb contents with dp[dn-1] ≠ 0, all threshold values and EVERY behaviour of
  the approximate callees that their contract allows (error e ∈ {0,1}; the proof covers e ≤ 3).
  Helper lemmas: MpirProofs/Lemmas/TdivQCore.lean (value level), TdivLimbs.lean, TdivQ.lean,
  TdivQBranch.lean.  Model: Mpir/Model/TdivQ.lean, run against the real function on every check
  (ops `tdiv_q_model`, `tdiv_q_guard`).

  Findings about the C recorded here as theorems:
   * the code needs nn ≥ dn only, not N ≥ D as values (header comment "N >= D > 0", tdiv_q.c:40);
   * the constant 4 of `tp[0] <= 4` (tdiv_q.c:280) is sound for callee errors up to 3 — truncating the operands costs
     exactly 1 unit of the guard limb — and unsound for 4 (`guard_constant_tight`);
   * the `qh != 0` fill of the FIRST branch (tdiv_q.c:154-163) is dead code (`first_branch_fill_unreachable`); the same
     fill in the second branch is reachable and harmless (`saturation_within_budget`);
   * "FUDGE must be >= 2" (tdiv_q.c:76-78): the model is correct, and every index in range, for FUDGE ≥ 1
     (`second_branch_indices`, `tdivQF_spec`); FUDGE = 0 reads dp[-1];
   * the dispatch respects the callees' ASSERTed sizes iff DC_DIV_Q_THRESHOLD ≥ 6 and DC_DIVAPPR_Q_THRESHOLD ≥ 4
     (`dispatch_div_q_domain`, `dispatch_divappr_q_domain` and the examples after them).
-/
import MpirProofs.Lemmas.TdivQBranch
import MpirProofs.Lemmas.DivWordHensel
namespace Mpir.TdivQ
open Mpir Mpir.DivWord Mpir.Tdiv

/-! ## value level: the error budget of the truncated division -/

/-- Value-level core of the second branch.  N' = ⌊N/P⌋·c is the truncated, shifted dividend, D' = ⌊D·c/(P·B)⌋ the
    truncated, shifted divisor (one limb more is dropped), c·c' = B, D' normalised on qn+1 limbs, ⌊N/D⌋ < B^qn.
    For a callee result Q' ∈ [⌊N'/D'⌋, ⌊N'/D'⌋ + E]:
    (a) ⌊N/D⌋ ≤ ⌊Q'/B⌋ ≤ ⌊N/D⌋ + 1;  (b) ⌊Q'/B⌋ = ⌊N/D⌋ + 1 forces the guard limb Q' mod B ≤ E + 1.
    So the operand truncation costs exactly one unit of the guard limb on top of the callee's error. -/
theorem truncated_quotient_budget (N D P c c' qn Q' E : Nat) (hP : 0 < P) (hc : c * c' = B)
    (hnorm : B ^ (qn + 1) ≤ 2 * (D * c / (P * B))) (hND : N < D * B ^ qn)
    (hlo : N / P * c / (D * c / (P * B)) ≤ Q') (hhi : Q' ≤ N / P * c / (D * c / (P * B)) + E)
    (hE : E + 1 < B) :
    N / D ≤ Q' / B ∧ Q' / B ≤ N / D + 1 ∧ (Q' / B = N / D + 1 → Q' % B ≤ E + 1) := by
  have hD' : 0 < D * c / (P * B) := by
    have := Nat.pow_pos (n := qn + 1) B_pos
    omega
  have hl := trunc_lower N D P c c' hP hc hD'
  have hu := Nat.div_lt_of_lt_mul (trunc_upper N D P c qn hP hnorm hND)
  have hdm := Nat.div_add_mod Q' B
  have hg := Nat.mod_lt Q' B_pos
  generalize N / P * c / (D * c / (P * B)) = q0 at *
  generalize N / D = Q at *
  generalize Q' / B = qh at *
  generalize Q' % B = g at *
  clear hnorm hND hD' hP hc
  rw [Nat.mul_succ] at hu
  refine ⟨?_, ?_, ?_⟩
  · by_contra h
    have := Nat.mul_le_mul_left B (show qh + 1 ≤ Q by omega)
    rw [Nat.mul_succ] at this; omega
  · by_contra h
    have := Nat.mul_le_mul_left B (show Q + 2 ≤ qh by omega)
    rw [Nat.mul_add] at this; omega
  · intro h
    rw [h, Nat.mul_succ] at hdm; omega

/-- The guard-limb test of tdiv_q.c:280 with its constant 4: for every callee error E ≤ 3 a guard limb above 4
    certifies ⌊Q'/B⌋ = ⌊N/D⌋, and in every case (c) the compare `N < D·⌊Q'/B⌋` of tdiv_q.c:289 decides the decrement.
    E = 3 is the largest error for which the constant is sound (`guard_constant_tight`); the documented E is 1. -/
theorem guard_constant_sound (N D P c c' qn Q' E : Nat) (hP : 0 < P) (hc : c * c' = B)
    (hnorm : B ^ (qn + 1) ≤ 2 * (D * c / (P * B))) (hND : N < D * B ^ qn)
    (hlo : N / P * c / (D * c / (P * B)) ≤ Q') (hhi : Q' ≤ N / P * c / (D * c / (P * B)) + E)
    (hE : E ≤ 3) :
    (4 < Q' % B → Q' / B = N / D) ∧
    (if N < D * (Q' / B) then Q' / B - 1 else Q' / B) = N / D := by
  have hE' : E + 1 < B := by have := B_eq; omega
  obtain ⟨h1, h2, h3⟩ := truncated_quotient_budget N D P c c' qn Q' E hP hc hnorm hND hlo hhi hE'
  have hD0 : 0 < D := by
    rcases Nat.eq_zero_or_pos D with h | h
    · rw [h, Nat.zero_mul] at hND; exact absurd hND (Nat.not_lt_zero _)
    · exact h
  have hc := cmp_decides N D (Q' / B) hD0 h1 h2
  refine ⟨?_, ?_⟩
  · intro hg
    rcases Nat.lt_or_ge (N / D) (Q' / B) with h | h
    · have := h3 (Nat.le_antisymm h2 h)
      exact absurd hg (by omega)
    · exact Nat.le_antisymm h h1
  · split
    · rename_i h; rw [hc.mp h]; rfl
    · rename_i h
      have h4 : ¬ (Q' / B = N / D + 1) := fun e => h (hc.mpr e)
      rcases Nat.lt_or_ge (N / D) (Q' / B) with h5 | h5
      · exact absurd (Nat.le_antisymm h2 h5) h4
      · exact Nat.le_antisymm h5 h1

/-- Tightness: D = B^7 + 2·B^4 - 1 = 2^448 + 2^257 - 1 (8 limbs, top limb 1, so c = 2^63), N = (B²-1)·D - 1 (9 limbs, qn = 2, P = B^4).
    All hypotheses of `guard_constant_sound` hold; the exact truncated quotient already has guard limb 1 with a high
    part one too large (the truncation unit); with callee error 3 the guard limb is 4 = E + 1 (the bound of
    `truncated_quotient_budget` is attained, the test `<= 4` still fires); with callee error 4 the guard limb is 5 > 4
    although ⌊Q'/B⌋ = ⌊N/D⌋ + 1: the constant 4 is NOT sound for E = 4. -/
theorem guard_constant_tight :
    let D := B ^ 7 + 2 * B ^ 4 - 1
    let N := (B * B - 1) * D - 1
    let P := B ^ 4
    let c := 2 ^ 63
    let N' := N / P * c
    let D' := D * c / (P * B)
    c * 2 = B ∧ B ^ 3 ≤ 2 * D' ∧ N < D * B ^ 2 ∧
    (N' / D') % B = 1 ∧ (N' / D') / B = N / D + 1 ∧
    (N' / D' + 3) % B = 4 ∧ (N' / D' + 3) / B = N / D + 1 ∧
    4 < (N' / D' + 4) % B ∧ (N' / D' + 4) / B = N / D + 1 := by
  decide

/-! ## the two `qh != 0` fills -/

/-- tdiv_q.c:154-163 (first branch) is unreachable: with the extra limb cy ≠ 0 the callee divides an nn+1-limb number
    whose exact quotient still fits nn+1-dn limbs, and the callees of this branch are exact, so qh = 0.
    The comment there ("mpn_*_divappr_q returned B^n") belongs to the second branch. -/
theorem first_branch_fill_unreachable (c : Callee) (n d : List Nat) (hn : Limbs n) (hd : Limbs d) (hdn : 1 ≤ d.length)
    (hnn : d.length ≤ n.length) (htop : d.getD (d.length - 1) 0 ≠ 0)
    (hcy : (lshift n (count_leading_zeros (d.getD (d.length - 1) 0))).2 ≠ 0) :
    (call c 0 ((lshift n (count_leading_zeros (d.getD (d.length - 1) 0))).1 ++
        [(lshift n (count_leading_zeros (d.getD (d.length - 1) 0))).2])
      (lshift d (count_leading_zeros (d.getD (d.length - 1) 0))).1).2 = 0 := by
  -- `hcy` is not used: the quotient of the nn+1 limbs fits whether or not the top one is zero
  have hQ : val n / val d < B ^ (n.length - d.length + 1) := Nat.div_lt_of_lt_mul (quot_fits n d hn hd hdn hnn htop)
  obtain ⟨k, hk⟩ : ∃ k, d.length = k + 1 := ⟨d.length - 1, by omega⟩
  rw [show d.length - 1 = k by omega] at htop ⊢
  obtain ⟨hc63, dv, _, _, dl⟩ := lshift_norm d k hd hk htop
  obtain ⟨nv, _, _, nl⟩ := lshift_val' n (count_leading_zeros (d.getD k 0)) hn (by omega)
  simp only [call, quotOracle, ite_self, Nat.add_zero, val_snoc, List.length_append, List.length_cons,
    List.length_nil, nl, dl, nv, dv, Nat.mul_div_mul_right _ _ (Nat.two_pow_pos _)]
  apply Nat.div_eq_of_lt
  rw [show n.length + (0 + 1) - (k + 1) = n.length - d.length + 1 by omega]
  exact hQ

example : (lshift [0, 0, 0, B - 1] (count_leading_zeros 1)).2 ≠ 0 ∧
    (call .sb_div_q 0 ((lshift [0, 0, 0, B - 1] 63).1 ++ [(lshift [0, 0, 0, B - 1] 63).2]) (lshift [5, 7, 1] 63).1).2 = 0 := by
  decide

/-- tdiv_q.c:237-248 / :276 (second branch): whatever the callee does within e ≤ 3 — including qh ≠ 0 with cy ≠ 0,
    where tp[] is filled with GMP_NUMB_MAX — the qn+1 limbs left in tp[] are proper limbs whose value Q' satisfies
    ⌊N'/D'⌋ ≤ Q' ≤ ⌊N'/D'⌋ + e: the saturation replaces an overshoot B^(qn+1) by B^(qn+1) - 1, which is still at least
    the exact truncated quotient because N' < D'·B^(qn+1).  Here the fill IS reachable (example below). -/
theorem saturation_within_budget (T : Thresholds) (e : Nat) (he : e ≤ 3) (n d : List Nat) (hn : Limbs n) (hd : Limbs d)
    (hnn : d.length ≤ n.length) (hq : n.length - d.length + 1 + 2 ≤ d.length) (htop : d.getD (d.length - 1) 0 ≠ 0) :
    (tpOf T e n d).1.length = n.length - d.length + 1 + 1 ∧ Limbs (tpOf T e n d).1 ∧
    val (prep2 n d).1 / val (prep2 n d).2.1 ≤ val (tpOf T e n d).1 ∧
    val (tpOf T e n d).1 ≤ val (prep2 n d).1 / val (prep2 n d).2.1 + e := by
  obtain ⟨c, c', _, _, _, Shnl, Shdl, Shnorm, Shsat, Shcy0⟩ := prep2_spec n d hn hd hnn hq htop
  have hB := B_pos
  have hfit : val (prep2 n d).1 / val (prep2 n d).2.1 < B ^ (n.length - d.length + 1 + 1) :=
    Nat.div_lt_of_lt_mul Shsat
  have key := call_store_spec (dispatchDivapprQ T (n.length - d.length + 1)) e (prep2 n d).1 (prep2 n d).2.1
    (prep2 n d).2.2 (n.length - d.length + 1) (val (prep2 n d).1 / val (prep2 n d).2.1)
    (by rw [Shnl, Shdl]; split <;> omega) rfl hfit
    (fun h0 => quot_plus_err_fits _ _ _ e Shnorm (Shcy0 h0) he)
  obtain ⟨k1, k2, k3, k4, _⟩ := key
  unfold tpOf
  dsimp only
  exact ⟨k1, k2, k3, k4⟩

-- N = B^9 - 1, D = B^7: cy ≠ 0, ⌊N'/D'⌋ = B^3 - 1; a callee that is one too large returns qh = 1 (B^3): all ones are stored
example : (prep2 (List.replicate 9 (B - 1)) [0, 0, 0, 0, 0, 0, 0, 1]).2.2 ≠ 0 ∧
    (call .sb_divappr_q 1 (prep2 (List.replicate 9 (B - 1)) [0, 0, 0, 0, 0, 0, 0, 1]).1
      (prep2 (List.replicate 9 (B - 1)) [0, 0, 0, 0, 0, 0, 0, 1]).2.1) = ([0, 0, 0], 1) ∧
    (tpOf shipped 1 (List.replicate 9 (B - 1)) [0, 0, 0, 0, 0, 0, 0, 1]).1 = [B - 1, B - 1, B - 1] ∧
    (tdivQF FUDGE shipped 1 (List.replicate 9 (B - 1)) [0, 0, 0, 0, 0, 0, 0, 1]).1 = [B - 1, B - 1] := by decide

/-! ## the model: mpn_tdiv_q returns ⌊N/D⌋ -/

/-- every (q, qh) a callee may return under the contract "m = nn-dn proper limbs q and a number qh with
    qh·B^m + val q = ⌊N/D⌋ + e" is the value `quotOracle e` the model uses: quantifying over `e` quantifies over
    every admissible callee -/
theorem callee_oracle_complete (e : Nat) (np dp q : List Nat) (qh : Nat) (hq : Limbs q)
    (hl : q.length = np.length - dp.length)
    (hv : qh * B ^ (np.length - dp.length) + val q = val np / val dp + e) :
    quotOracle e np dp = (q, qh) :=
  oracle_complete e np dp q qh hq hl hv

example : quotOracle 1 [5, 0, B - 1] [B - 1] = ([1, 0], 1) := by decide

theorem val_singleton_top (d : List Nat) (h : d.length = 1) : val d = d.getD (d.length - 1) 0 := by
  have := SbDiv.val_take_top d 0 h
  rw [h]
  simpa using this.symm

/-- second branch of mpn_tdiv_q: for every behaviour of the approximate callee with error e ≤ 3 (the documented
    contract is e ≤ 1) the qn limbs stored are exactly those of ⌊N/D⌋.  Needs only qn+2 ≤ dn (FUDGE ≥ 1). -/
theorem branch2_spec (T : Thresholds) (e : Nat) (he : e ≤ 3) (n d : List Nat) (hn : Limbs n) (hd : Limbs d)
    (hnn : d.length ≤ n.length) (hq : n.length - d.length + 1 + 2 ≤ d.length) (htop : d.getD (d.length - 1) 0 ≠ 0) :
    (branch2 T e n d).1 = toLimbs (n.length - d.length + 1) (val n / val d) := by
  obtain ⟨t1, t2, t3, t4⟩ := saturation_within_budget T e he n d hn hd hnn hq htop
  obtain ⟨c, c', hcc, SN, SD, _, _, Snorm, _, _⟩ := prep2_spec n d hn hd hnn hq htop
  have hfit := quot_fits n d hn hd (by omega) hnn htop
  rw [SN, SD] at t3 t4
  rw [SD] at Snorm
  obtain ⟨g1, g2⟩ := guard_constant_sound (val n) (val d) (B ^ (n.length - (2 * (n.length - d.length + 1) + 1))) c c'
    (n.length - d.length + 1) (val (tpOf T e n d).1) e (Bpow_pos _) hcc Snorm hfit t3 t4 he
  unfold branch2
  dsimp only
  exact finish2_spec n d _ hn hd t2 hnn t1 g1 g2

/-- mpn_tdiv_q with FUDGE as a parameter: for every FUDGE ≥ 1, every threshold setting and every callee error e ≤ 3
    the limbs stored are those of ⌊N/D⌋ -/
theorem tdivQF_spec (F : Nat) (hF : 1 ≤ F) (T : Thresholds) (e : Nat) (he : e ≤ 3) (n d : List Nat)
    (hn : Limbs n) (hd : Limbs d) (hdn : 1 ≤ d.length) (hnn : d.length ≤ n.length)
    (htop : d.getD (d.length - 1) 0 ≠ 0) :
    (tdivQF F T e n d).1 = toLimbs (n.length - d.length + 1) (val n / val d) := by
  unfold tdivQF
  simp only []
  split
  · -- dn == 1: mpn_divrem_1 (limb-level model, proved in C02_word)
    rename_i h1
    have hdhB := getD_lt hd (d.length - 1)
    obtain ⟨dv, dr, dL, dl⟩ := divrem_1_spec 0 n (d.getD (d.length - 1) 0) hn (Nat.pos_of_ne_zero htop) hdhB
    rw [pow_zero, Nat.mul_one] at dv
    have hdv : val d = d.getD (d.length - 1) 0 := val_singleton_top d h1
    have := (divmod_of_eq (val n) (val d) (val (divrem_1 0 n (d.getD (d.length - 1) 0)).1)
      (divrem_1 0 n (d.getD (d.length - 1) 0)).2 (by rw [hdv]; exact dv.symm) (by rw [hdv]; exact dr)).1
    dsimp only
    exact eq_toLimbs_of dL (by rw [dl]; omega) this.symm
  · rename_i h1
    split
    · dsimp only; exact branch1_spec T n d hn hd hdn hnn htop
    · rename_i h2
      dsimp only
      exact branch2_spec T e he n d hn hd hnn (by omega) htop

/-- mpn_tdiv_q (qp, np, nn, dp, dn), tdiv_q.c:81-295.  Preconditions = the C's ASSERTs (tdiv_q.c:94-96): nn ≥ dn,
    dn > 0, dp[dn-1] ≠ 0 — NOT N ≥ D as values.  For every threshold setting `T` and every behaviour of the approximate
    callees (error `e` ≤ 3; the contract of mpn_*_divappr_q is e ≤ 1) the model's output has nn-dn+1 proper limbs and
    their value is ⌊N/D⌋.  Covers: dn = 1 (mpn_divrem_1), the first branch with and without the normalising shift and
    with and without the extra limb cy, the second branch with the truncated operands, the shifted-in divisor bits, the
    all-ones saturation, the guard-limb test, the multiply-back, rn, the compare and the decrement. -/
theorem tdiv_q_val (T : Thresholds) (e : Nat) (he : e ≤ 3) (n d : List Nat)
    (hn : Limbs n) (hd : Limbs d) (hdn : 1 ≤ d.length) (hnn : d.length ≤ n.length)
    (htop : d.getD (d.length - 1) 0 ≠ 0) :
    (tdiv_q T e n d).length = n.length - d.length + 1 ∧ Limbs (tdiv_q T e n d) ∧
    val (tdiv_q T e n d) = val n / val d := by
  unfold tdiv_q
  rw [tdivQF_spec FUDGE (by decide) T e he n d hn hd hdn hnn htop]
  have hQ : val n / val d < B ^ (n.length - d.length + 1) :=
    Nat.div_lt_of_lt_mul (quot_fits n d hn hd hdn hnn htop)
  exact ⟨toLimbs_length _ _, Limbs_toLimbs _ _, val_toLimbs_lt _ _ hQ⟩

/-- the model equals the VALUE contract `DivZ.mpnTdivQ` that the mpz layer (C02_mpz) and the differential op
    `mpn_tdiv_q` assume for mpn_tdiv_q: that contract is now a theorem about the glue, given the callee contracts -/
theorem tdiv_q_contract (T : Thresholds) (e : Nat) (he : e ≤ 3) (n d : List Nat)
    (hn : Limbs n) (hd : Limbs d) (hdn : 1 ≤ d.length) (hnn : d.length ≤ n.length)
    (htop : d.getD (d.length - 1) 0 ≠ 0) :
    DivZ.mpnTdivQ n d = some (tdiv_q T e n d) := by
  have ht : DivZ.topNonzero d = true := (topNonzero_iff d hdn).mpr htop
  unfold DivZ.mpnTdivQ tdiv_q
  rw [if_neg (by simp [ht]; omega), tdivQF_spec FUDGE (by decide) T e he n d hn hd hdn hnn htop]

/-- the callee's error never shows: every admissible behaviour of the approximate division gives the same limbs as
    the exact one (this is why the driver may answer `tdiv_q_model` with e = 0) -/
theorem tdiv_q_error_irrelevant (T T' : Thresholds) (e e' : Nat) (he : e ≤ 3) (he' : e' ≤ 3) (n d : List Nat)
    (hn : Limbs n) (hd : Limbs d) (hdn : 1 ≤ d.length) (hnn : d.length ≤ n.length)
    (htop : d.getD (d.length - 1) 0 ≠ 0) :
    tdiv_q T e n d = tdiv_q T' e' n d := by
  unfold tdiv_q
  rw [tdivQF_spec FUDGE (by decide) T e he n d hn hd hdn hnn htop,
    tdivQF_spec FUDGE (by decide) T' e' he' n d hn hd hdn hnn htop]

/-! ### non-vacuity of `tdiv_q_val` (every line below was also run against the real function: the op lines
    `tdiv_q_model` at the end of tools/props/c02_tdivq.py) -/

-- dn = 1
example : tdivQF FUDGE shipped 0 [1, 2, 3] [7] = ([0x2492492492492492, 0x6db6db6db6db6db7, 0], 0, .divrem_1) := by decide
-- first branch, dn = 2, unnormalised divisor, no extra limb (cy = 0): qp[qn-1] = qh
example : tdivQF FUDGE shipped 0 [1, 2, 3, 4, 5] [7, 9] =
    ([0x301c17e118eecaf9, 0xe6b74f0329161f9b, 0x8e38e38e38e38e38, 0], 1, .divrem_2) := by decide
-- first branch, unnormalised divisor, extra limb (cy ≠ 0): the callee stores all qn limbs, qh = 0
example : tdivQF FUDGE shipped 0 [0, 0, 0, B - 1] [5, 7, 1] = ([0x32, 0xfffffffffffffff8], 1, .sb_div_q) := by
  decide
-- first branch, normalised divisor, qh = 1
example : tdivQF FUDGE shipped 0 [0, 9, 9, B - 1] [5, 7, B - 1] = ([0, 1], 2, .sb_div_q) := by decide
-- N < D as values with nn = dn: quotient 0 (the header's "N >= D" is not needed)
example : tdivQF FUDGE shipped 0 [9, 9, 1] [5, 7, 2] = ([0], 1, .sb_div_q) := by decide

/-- the 9-limb dividend and 8-limb divisor of `guard_constant_tight` (second branch: qn = 2, dn = 8 > qn + FUDGE) -/
def exD : List Nat := [B - 1, B - 1, B - 1, B - 1, 1, 0, 0, 1]
def exN : List Nat := toLimbs 9 ((B * B - 1) * val exD - 1)

-- second branch, approximate callee: truncation alone makes the estimate one too large (guard limb 1), the
-- multiply-back finds D·Qh > N and the decrement repairs it — for every callee error 0..3
example : (tpOf shipped 0 exN exD).1 = [1, B - 1, B - 1] ∧ (finish2 exN exD (tpOf shipped 0 exN exD).1) = ([B - 2, B - 1], true, true) := by
  decide
example : ∀ e ∈ [0, 1, 2, 3], tdivQF FUDGE shipped e exN exD = ([B - 2, B - 1], 3, .sb_divappr_q) := by decide
example : toLimbs 2 (val exN / val exD) = [B - 2, B - 1] := by decide
-- … and a callee error of 4 (outside every documented contract) slips through the test `tp[0] <= 4`:
-- the constant 4 is sound for E ≤ 3 only
example : (tpOf shipped 4 exN exD).1 = [5, B - 1, B - 1] ∧ (tdivQF FUDGE shipped 4 exN exD).1 = [B - 1, B - 1] ∧
    val (tdivQF FUDGE shipped 4 exN exD).1 ≠ val exN / val exD := by decide
-- second branch, guard limb > 4: no multiply-back
example : finish2 [1, 2, 3, 4, 5, 6, 7, 8, 9] [1, 2, 3, 4, 5, 6, 7, B - 1] (tpOf shipped 1 [1, 2, 3, 4, 5, 6, 7, 8, 9] [1, 2, 3, 4, 5, 6, 7, B - 1]).1
    = ([9, 0], false, false) := by decide
-- second branch, guard limb ≤ 4, multiply-back done, no decrement (N = Q·D exactly, low divisor limbs zero)
example : finish2 [0, 0, 0, 0, 0, 0, 3, 6, 0] [0, 0, 0, 0, 0, 0, 1, 2] (tpOf shipped 1 [0, 0, 0, 0, 0, 0, 3, 6, 0] [0, 0, 0, 0, 0, 0, 1, 2]).1
    = ([3, 0], true, false) := by decide

/-! ## FUDGE, indices, callee domains -/

/-- the else branch (tdiv_q.c:194) reads np + nn - (2qn+1) … and dp[dn-(qn+1)-1]; with qn = nn-dn+1 both offsets are
    non-negative exactly when qn + 2 ≤ dn, which `qn + FUDGE < dn` gives for every FUDGE ≥ 1 (and also: new_np of
    2qn+2 limbs fits the scratch of nn+1 limbs, mpn_mul's dn ≥ qn ≥ 1).  The file's "FUDGE must be >= 2" is one more
    than this model needs. -/
theorem second_branch_indices (F nn dn : Nat) (hF : 1 ≤ F) (hnn : dn ≤ nn) (h : ¬ (nn - dn + 1 + F ≥ dn)) :
    let qn := nn - dn + 1
    2 * qn + 1 ≤ nn ∧ qn + 1 + 1 ≤ dn ∧ dn - (qn + 1) - 1 < dn ∧ 2 * qn + 2 ≤ nn + 1 ∧ 1 ≤ qn ∧ qn ≤ dn ∧
      dn - (qn + 1) = nn - (2 * qn + 1) + 1 := by
  intro qn; omega

-- FUDGE = 0 would let dn = qn + 1 into the else branch, where dn-(qn+1)-1 = -1 (dp[-1]) and nn-(2qn+1) = -1
example : let nn := 4; let dn := 3; let qn := nn - dn + 1; ¬ (qn + 0 ≥ dn) ∧ ¬ (2 * qn + 1 ≤ nn) ∧ ¬ (qn + 1 + 1 ≤ dn) := by decide

/-- first branch: if DC_DIV_Q_THRESHOLD ≥ 6 (for any INV_DIV_Q_THRESHOLD) every callee is called within the sizes it
    ASSERTs: mpn_divrem_2 dn = 2; mpn_sb_div_q dn > 2, nn ≥ dn; mpn_dc_div_q / mpn_inv_div_q dn ≥ 6, nn-dn ≥ 3
    (dn ≥ 2 because dn == 1 returned early; new_nn ≥ nn ≥ dn).  6 is the minimum: example below. -/
theorem dispatch_div_q_domain (T : Thresholds) (dn new_nn nn : Nat) (hT : thrGe 6 T.dcDivQ)
    (hdn : 2 ≤ dn) (hnn : dn ≤ new_nn) :
    (dispatchDivQ T dn new_nn nn).domain new_nn dn := by
  unfold dispatchDivQ
  split
  · rename_i h; subst h; exact ⟨rfl, hnn⟩
  · split
    · exact ⟨by omega, hnn⟩
    · rename_i h
      simp only [Bool.or_eq_true, not_or, Bool.not_eq_true] at h
      have a1 := above_ge hT h.1
      have a2 := above_ge hT h.2
      split
      · exact ⟨a1, by omega, hnn⟩
      · exact ⟨a1, by omega, hnn⟩

-- DC_DIV_Q_THRESHOLD = 5: dn = 5, nn = 10 goes to mpn_dc_div_q, whose ASSERT (dn >= 6) fails; = 0 ("always"): dn = 3 does
example : dispatchDivQ ⟨some 5, some 998, some 21, some 14326⟩ 5 10 10 = .dc_div_q ∧ ¬ Callee.dc_div_q.domain 10 5 := by
  refine ⟨by decide, ?_⟩; unfold Callee.domain; omega
example : dispatchDivQ ⟨some 0, some 998, some 21, some 14326⟩ 3 3 3 = .dc_div_q := by decide
example : dispatchDivQ shipped 65 130 130 = .dc_div_q ∧ dispatchDivQ shipped 64 130 130 = .sb_div_q ∧
    dispatchDivQ shipped 65 129 129 = .sb_div_q ∧ dispatchDivQ shipped 2 100 100 = .divrem_2 := by decide

/-- second branch: if DC_DIVAPPR_Q_THRESHOLD ≥ 4 every callee is called within the sizes it ASSERTs (divisor of qn+1
    limbs): mpn_divrem_2 qn+1 = 2; mpn_sb_divappr_q qn+1 > 2; mpn_dc_divappr_q qn+1 ≥ 6, new_nn ≥ qn+1+3;
    mpn_inv_divappr_q qn+1 ≥ 6, new_nn > qn+1.  4 is the minimum: example below. -/
theorem dispatch_divappr_q_domain (T : Thresholds) (qn new_nn : Nat) (hT : thrGe 4 T.dcDivapprQ)
    (hqn : 1 ≤ qn) (hnn : 2 * qn + 1 ≤ new_nn) :
    (dispatchDivapprQ T qn).domain new_nn (qn + 1) := by
  unfold dispatchDivapprQ
  split
  · rename_i h; exact ⟨h, by omega⟩
  · split
    · exact ⟨by omega, by omega⟩
    · rename_i h
      simp only [Bool.not_eq_true] at h
      have a1 := above_ge hT h
      split
      · exact ⟨by omega, by omega⟩
      · exact ⟨by omega, by omega⟩

-- DC_DIVAPPR_Q_THRESHOLD = 3: qn = 4 (divisor of 5 limbs) goes to mpn_dc_divappr_q, whose ASSERT (dn >= 6) fails
example : dispatchDivapprQ ⟨some 65, some 998, some 3, some 14326⟩ 4 = .dc_divappr_q ∧ ¬ Callee.dc_divappr_q.domain 9 5 := by
  refine ⟨by decide, ?_⟩; unfold Callee.domain; omega
example : dispatchDivapprQ shipped 1 = .divrem_2 ∧ dispatchDivapprQ shipped 21 = .sb_divappr_q ∧
    dispatchDivapprQ shipped 22 = .dc_divappr_q := by decide

/-- the divisor handed to the callee in the second branch is normalised (B^(qn+1) ≤ 2·D') and has qn+1 limbs, the
    dividend has 2qn+1 or 2qn+2 limbs: the remaining precondition of every callee -/
theorem second_branch_operands (n d : List Nat) (hn : Limbs n) (hd : Limbs d) (hnn : d.length ≤ n.length)
    (hq : n.length - d.length + 1 + 2 ≤ d.length) (htop : d.getD (d.length - 1) 0 ≠ 0) :
    (prep2 n d).2.1.length = n.length - d.length + 1 + 1 ∧
    B ^ (n.length - d.length + 1 + 1) ≤ 2 * val (prep2 n d).2.1 ∧
    (prep2 n d).1.length = 2 * (n.length - d.length + 1) + 1 + (if (prep2 n d).2.2 ≠ 0 then 1 else 0) := by
  obtain ⟨c, c', _, _, _, h1, h2, h3, _, _⟩ := prep2_spec n d hn hd hnn hq htop
  exact ⟨h2, h3, h1⟩

example : prep2 exN exD = ([0x8000000000000000, 0xfffffffffffffffe, 0xffffffffffffffff, 0x8000000000000000, 0xffffffffffffffff,
    0x7fffffffffffffff], [0, 0, 0x8000000000000000], 0x7fffffffffffffff) := by decide

end Mpir.TdivQ
