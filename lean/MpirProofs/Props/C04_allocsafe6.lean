/-
  C04, object-layer memory safety as theorems — the mpq arithmetic (models: Mpir/Model/AllocSafeMpq6.lean, mirrors of mpq/aors.c,
  mul.c, div.c, md_2exp.c on the memory model of Mpir/Model/AllocSafe.lean).  Each theorem is proved here as a run of callee calls on the
  ledger `RanH`; the callee summaries and the step rules live in MpirProofs/Lemmas/AllocSafeMpq6.lean.  Tied by ops `as6_*` (harness/ops_allocsafe6.c) and source pins.

  An mpq_t is its two mpz_t fields = two variable ids.  The alias assignments of the C (rop == op1, rop == op2, op1 == op2, all
  equal, all distinct) are assignments of ids; the theorems quantify over ALL ids and ask only for what every legal assignment
  satisfies: the two fields of rop are different variables, NUM (rop) is not a denominator field of an operand, and the scratch ids
  standing for the C's local mpz_t's are fresh.  `valOf` = the integer a field holds; the values are those of the C12 value model
  (Mpir/Model/Mpq.lean: `Mpq.zgcd`, `Mpq.divexact`).
-/
import MpirProofs.Lemmas.AllocSafeMpq6
import Mpir.Model.Mpq
namespace Mpir.AllocSafe6
open Mpir Mpir.AllocSafe

/-- heap for the examples: rop = (0, 1) = 5/3 in one-limb blocks, op1 = (2, 3) = -(B^2-2)/(B^3-1) in exact blocks, op2 = (4, 5) = 0/1 -/
def exq : St := ⟨fun i => if i = 0 then ⟨1, 0, ⟨1, [5]⟩⟩ else if i = 1 then ⟨1, 0, ⟨1, [3]⟩⟩
                  else if i = 2 then ⟨-2, 0, ⟨2, [B - 2, B - 1]⟩⟩ else if i = 3 then ⟨3, 0, ⟨3, [B - 1, B - 1, B - 1]⟩⟩
                  else if i = 4 then ⟨0, 0, ⟨1, [junk]⟩⟩ else ⟨1, 0, ⟨1, [1]⟩⟩, true⟩

/-- heap with two proper fractions: op1 = (2, 3) = 6/35, op2 = (4, 5) = -(14·B)/9, rop = (0, 1) = 5/3; all blocks exact -/
def exm : St := ⟨fun i => if i = 0 then ⟨1, 0, ⟨1, [5]⟩⟩ else if i = 1 then ⟨1, 0, ⟨1, [3]⟩⟩
                  else if i = 2 then ⟨1, 0, ⟨1, [6]⟩⟩ else if i = 3 then ⟨1, 0, ⟨1, [35]⟩⟩
                  else if i = 4 then ⟨-2, 0, ⟨2, [0, 14]⟩⟩ else ⟨1, 0, ⟨1, [9]⟩⟩, true⟩

/-- mpq_div (mpq/div.c:33-34): a zero divisor raises DIVIDE_BY_ZERO before anything is written, for every alias assignment. -/
theorem mpq_div_zero (s : St) (qn qd an ad bn bd g1 g2 t1 t2 nt : Nat) (h0 : (s.h bn).size = 0) :
    mpq_div s qn qd an ad bn bd g1 g2 t1 t2 nt = none := by
  simp [mpq_div, St.SIZ, h0]

example : mpq_div exq 0 1 2 3 4 5 6 7 8 9 10 = none := by decide

/-- mpq_mul, the squaring arm `op1 == op2` (mul.c:33-39), prod = (pn, pd) the operand itself or any other variable: two mpz_mul
    calls (each safe by `mpz_mul_alloc_safe`, incl. its in-place `free_me` / temporary-copy paths when prod is the operand);
    DEN (op1) is read after NUM (prod) was written, which is harmless because NUM (prod) is not a denominator field.  Both fields
    of prod well formed, nothing else touched, values num², den². -/
theorem mpq_mul_sqr_alloc_safe (s : St) (pn pd an ad g1 g2 t1 t2 : Nat) (hs : s.ok = true)
    (hpn : OWF (s.h pn)) (hpd : OWF (s.h pd)) (han : OWF (s.h an)) (had : OWF (s.h ad))
    (hf : pn ≠ pd) (hnd : pn ≠ ad) :
    let s' := mpq_mul s pn pd an ad an ad g1 g2 t1 t2
    s'.ok = true ∧ OWF (s'.h pn) ∧ OWF (s'.h pd) ∧ (∀ x, x ≠ pn → x ≠ pd → s'.h x = s.h x) ∧
    valOf s' pn = valOf s an * valOf s an ∧ valOf s' pd = valOf s ad * valOf s ad := by
  intro s'
  have e : s' = mpz_mul (mpz_mul s pn an an) pd ad ad := by simp [s', mpq_mul]
  obtain ⟨o1, O1, v1, R1⟩ := (RanH.refl s hs).call (mpz_mul_wrote s pn an an hs hpn han han)
  have ead := R1.val ad
  rw [over_cons_ne _ _ _ (Ne.symm hnd)] at ead
  obtain ⟨o2, O2, v2, R2⟩ := R1.call (mpz_mul_wrote _ pd ad ad R1.ok (R1.owf _ hpd) (R1.owf _ had) (R1.owf _ had))
  rw [e]
  refine ⟨R2.ok, ?_, ?_, fun x h1 h2 => ?_, ?_, ?_⟩
  · rw [R2.heap, over_cons_ne _ _ _ hf, over_cons_eq]; exact O1
  · rw [R2.heap, over_cons_eq]; exact O2
  · rw [R2.heap, over_cons_ne _ _ _ h2, over_cons_ne _ _ _ h1]; rfl
  · rw [R2.val, over_cons_ne _ _ _ hf, over_cons_eq, v1]
  · rw [R2.val, over_cons_eq, v2, ead]; rfl

-- (-(B^2-2)/(B^3-1))² in place (prod == op1 == op2): both fields regrown through mpz_mul's `free_me` path (2 → 4, 3 → 6 limbs)
example : (mpq_mul exq 2 3 2 3 2 3 6 7 8 9).ok = true ∧ (mpq_mul exq 2 3 2 3 2 3 6 7 8 9).ALLOC 2 = 4 ∧
    (mpq_mul exq 2 3 2 3 2 3 6 7 8 9).ALLOC 3 = 6 ∧ valOf (mpq_mul exq 2 3 2 3 2 3 6 7 8 9) 2 = ((B : Int) ^ 2 - 2) ^ 2 := by decide

/-- mpq_mul, the general arm (mul.c:41-67; op1, op2 different variables), prod = (pn, pd) being op1, op2 or a third variable —
    in fact for EVERY assignment of ids in which the fields of prod differ and NUM (prod) is not a denominator field:
    the four mpz_init'ed locals are written by mpz_gcd / mpz_divexact_gcd (object-level callees: the sizes they request have room
    for their results — `mpz_divexact_gcd_wrote`), NUM (prod) is written by mpz_mul at :57 BEFORE DEN (op2), DEN (op1) are read
    again at :59-60 ("we dare to overwrite the numerator of PROD when we are finished with the numerators"), DEN (prod) last.
    No bad access, both fields of prod well formed, no variable other than prod and the locals changed, and the values are those
    of the C12 value model `Mpq.mul`: (n1/g1)(n2/g2) over (d2/g1)(d1/g2) with g1 = gcd (n1, d2), g2 = gcd (n2, d1).
    Hypotheses: operands well formed with positive denominators (the documented precondition "canonical form"; positivity is
    what makes the gcds non-zero for mpz_divexact_gcd's `ASSERT (mpz_sgn (d) > 0)`). -/
theorem mpq_mul_alloc_safe (s : St) (pn pd an ad bn bd g1 g2 t1 t2 : Nat) (hs : s.ok = true)
    (hop : ∀ x ∈ [pn, pd, an, ad, bn, bd], OWF (s.h x))
    (hne : ¬ (an = bn ∧ ad = bd)) (hf : pn ≠ pd) (hna : pn ≠ ad) (hnb : pn ≠ bd)
    (hfr : Fresh [g1, g2, t1, t2] [pn, pd, an, ad, bn, bd])
    (hda : 0 < valOf s ad) (hdb : 0 < valOf s bd) :
    let s' := mpq_mul s pn pd an ad bn bd g1 g2 t1 t2
    let G1 := Mpq.zgcd (valOf s an) (valOf s bd)
    let G2 := Mpq.zgcd (valOf s bn) (valOf s ad)
    s'.ok = true ∧ OWF (s'.h pn) ∧ OWF (s'.h pd) ∧
    (∀ x, x ≠ pn → x ≠ pd → x ∉ [g1, g2, t1, t2] → s'.h x = s.h x) ∧
    valOf s' pn = Mpq.divexact (valOf s an) G1 * Mpq.divexact (valOf s bn) G2 ∧
    valOf s' pd = Mpq.divexact (valOf s bd) G1 * Mpq.divexact (valOf s ad) G2 := by
  intro s' G1 G2
  obtain ⟨ok0, F0, O0⟩ := mpzInits_spec [g1, g2, t1, t2] s
  have e : s' = crossMul ([g1, g2, t1, t2].foldl mpzInit s) pn pd an bd bn ad g1 g2 t1 t2 := by
    have hc : (an == bn && ad == bd) = false := by
      by_cases h : an = bn
      · have : ad ≠ bd := fun h' => hne ⟨h, h'⟩
        simp [this]
      · simp [h]
    simp only [s', mpq_mul, hc]; rfl
  have V0 : ∀ x ∈ [pn, pd, an, ad, bn, bd], valOf ([g1, g2, t1, t2].foldl mpzInit s) x = valOf s x := fun x hx => by
    unfold valOf; rw [F0 x (hfr.not_mem hx)]
  obtain ⟨c1, c2, c3, c4, c5⟩ := crossMul_safe _ pn pd an bd bn ad g1 g2 t1 t2 (ok0.trans hs)
    (fun x hx => O0 x (.inr (hop x hx))) (fun x hx => O0 x (.inl hx)) hfr hf hnb hna
    (by rw [V0 bd (by simp)]; omega) (by rw [V0 ad (by simp)]; omega)
  rw [e]
  refine ⟨c1, c2 pn (O0 pn (.inr (hop pn (by simp)))), c2 pd (O0 pd (.inr (hop pd (by simp)))),
    fun x h1 h2 h3 => (c3 x h1 h2 h3).trans (F0 x h3), ?_, ?_⟩
  · rw [c4, V0 an (by simp), V0 bd (by simp), V0 bn (by simp), V0 ad (by simp)]
  · rw [c5, V0 an (by simp), V0 bd (by simp), V0 bn (by simp), V0 ad (by simp)]


-- 6/35 · (-(14·B)/9): cross gcds 3 and 7, prod is op2 (in place, one-limb blocks): -(4·B)/15
example : (mpq_mul exm 4 5 2 3 4 5 6 7 8 9).ok = true ∧ valOf (mpq_mul exm 4 5 2 3 4 5 6 7 8 9) 4 = -(4 * (B : Int)) ∧
    valOf (mpq_mul exm 4 5 2 3 4 5 6 7 8 9) 5 = 15 := by decide +kernel
-- the same into op1 and into a third variable
example : valOf (mpq_mul exm 2 3 2 3 4 5 6 7 8 9) 2 = -(4 * (B : Int)) ∧ valOf (mpq_mul exm 0 1 2 3 4 5 6 7 8 9) 1 = 15 := by decide +kernel

/-- mpq_div with NUM (op2) ≠ 0, quot = (qn, qd) being op1, op2, both or a third variable — for EVERY assignment of ids in which
    the two fields of quot differ (div.c reads no operand after its first store to quot: the numerator goes through `numtmp`):
    five mpz_init'ed locals; DEN (quot) by mpz_mul at :58, NUM (quot) by mpz_set from numtmp at :62, then the sign of the
    denominator is moved to the numerator by negating both size fields (:65-69).  No bad access, both fields well formed, the
    denominator positive … the values are those of the C12 value model `Mpq.div`:
    N = (n1/g1)(d2/g2), D = (n2/g1)(d1/g2) with g1 = gcd (n1, n2), g2 = gcd (d2, d1); result N/D or (-N)/(-D) when D < 0. -/
theorem mpq_div_alloc_safe (s : St) (qn qd an ad bn bd g1 g2 t1 t2 nt : Nat) (hs : s.ok = true)
    (hop : ∀ x ∈ [qn, qd, an, ad, bn, bd], OWF (s.h x))
    (hf : qn ≠ qd) (hfr : Fresh [g1, g2, t1, t2, nt] [qn, qd, an, ad, bn, bd])
    (hda : 0 < valOf s ad) (hnz : (s.h bn).size ≠ 0) :
    let G1 := Mpq.zgcd (valOf s an) (valOf s bn)
    let G2 := Mpq.zgcd (valOf s bd) (valOf s ad)
    let N := Mpq.divexact (valOf s an) G1 * Mpq.divexact (valOf s bd) G2
    let D := Mpq.divexact (valOf s bn) G1 * Mpq.divexact (valOf s ad) G2
    ∃ s', mpq_div s qn qd an ad bn bd g1 g2 t1 t2 nt = some s' ∧
      s'.ok = true ∧ OWF (s'.h qn) ∧ OWF (s'.h qd) ∧
      (∀ x, x ≠ qn → x ≠ qd → x ∉ [g1, g2, t1, t2, nt] → s'.h x = s.h x) ∧
      valOf s' qn = (if D < 0 then -N else N) ∧ valOf s' qd = (if D < 0 then -D else D) := by
  intro G1 G2 N D
  have hb : (s.SIZ bn == 0) = false := by simpa [St.SIZ] using hnz
  obtain ⟨ok0, F0, O0⟩ := mpzInits_spec [g1, g2, t1, t2, nt] s
  set s0 := [g1, g2, t1, t2, nt].foldl mpzInit s with hs0
  have I : ∀ x ∈ [qn, qd, an, ad, bn, bd], OWF (s0.h x) := fun x hx => O0 x (.inr (hop x hx))
  have V0 : ∀ x ∈ [qn, qd, an, ad, bn, bd], valOf s0 x = valOf s x := fun x hx => by
    unfold valOf; rw [F0 x (hfr.not_mem hx)]
  have Ont : OWF (s0.h nt) := O0 nt (.inl (by simp))
  -- :47-58 with numtmp for the numerator
  obtain ⟨c1, c2, c3, c4, c5⟩ := crossMul_safe s0 nt qd an bn bd ad g1 g2 t1 t2 (ok0.trans hs)
    (fun x hx => by
      rcases List.mem_cons.mp hx with e | hx
      · rw [e]; exact Ont
      · exact I x ((show [qd, an, ad, bd, bn] ⊆ [qn, qd, an, ad, bn, bd] by simp) hx))
    (fun x hx => O0 x (.inl (List.mem_append_left [nt] hx)))
    ((Fresh.snoc_ops (a := [g1, g2, t1, t2]) hfr).ops_subset (by simp))
    (hfr.ne (by simp) (by simp)) (hfr.ne (by simp) (by simp)) (hfr.ne (by simp) (by simp))
    (by rw [V0 bn (by simp)]; exact valOf_ne_zero s bn (hop bn (by simp)) hnz) (by rw [V0 ad (by simp)]; omega)
  set s8 := crossMul s0 nt qd an bn bd ad g1 g2 t1 t2 with hs8
  have hnq : nt ≠ qn := hfr.ne (by simp) (by simp)
  have hnd : nt ≠ qd := hfr.ne (by simp) (by simp)
  -- :62 NUM (quot)
  have W9 := mpz_set_wrote s8 qn nt c1 (c2 qn (I qn (by simp))) (c2 nt Ont)
  set s9 := mpz_set s8 qn nt with hs9
  have vn9 : valOf s9 qn = N := by
    rw [W9.val, c4, V0 an (by simp), V0 bn (by simp), V0 bd (by simp), V0 ad (by simp)]
  have vd9 : valOf s9 qd = D := by
    rw [valOf, W9.frame qd (Ne.symm hf)]
    exact c5.trans (by rw [V0 an (by simp), V0 bn (by simp), V0 bd (by simp), V0 ad (by simp)])
  have Oqd9 : OWF (s9.h qd) := by rw [W9.frame qd (Ne.symm hf)]; exact c2 qd (I qd (by simp))
  have F9 : ∀ x, x ≠ qn → x ≠ qd → x ∉ [g1, g2, t1, t2, nt] → s9.h x = s.h x := by
    intro x h1 h2 h3
    rw [W9.frame x h1, c3 x (fun e => h3 (by simp [e])) h2 (fun h => h3 (List.mem_append_left [nt] h)), F0 x h3]
  have e : mpq_div s qn qd an ad bn bd g1 g2 t1 t2 nt =
      if s9.SIZ qd < 0 then some ((s9.setSize qd (-(s9.SIZ qd))).setSize qn (-((s9.setSize qd (-(s9.SIZ qd))).SIZ qn)))
      else some s9 := by
    simp only [mpq_div, hb, Bool.false_eq_true, if_false]; rfl
  rw [e]
  have hiff := size_neg_iff s9 qd Oqd9
  rw [vd9] at hiff
  by_cases hD : D < 0
  · -- :65-69 the sign moves to the numerator
    have hsz : s9.SIZ qd < 0 := hiff.mpr hD
    obtain ⟨O1, E1⟩ := setSize_neg s9 qd Oqd9
    set sa := s9.setSize qd (-(s9.h qd).size) with hsa
    have Oqn_a : OWF (sa.h qn) := by rw [hsa, setSize_other _ _ _ hf]; exact W9.owf
    obtain ⟨O2, E2⟩ := setSize_neg sa qn Oqn_a
    refine ⟨sa.setSize qn (-(sa.h qn).size), ?_, ?_, O2, ?_, ?_, ?_, ?_⟩
    · rw [if_pos hsz]; rfl
    · simpa [sa] using W9.ok
    · rw [setSize_other _ _ _ (Ne.symm hf)]; exact O1
    · intro x h1 h2 h3
      rw [setSize_other _ _ _ h1, hsa, setSize_other _ _ _ h2]; exact F9 x h1 h2 h3
    · rw [if_pos hD, E2]
      have : valOf sa qn = valOf s9 qn := by unfold valOf; rw [hsa, setSize_other _ _ _ hf]
      rw [this, vn9]
    · rw [if_pos hD]
      have : valOf (sa.setSize qn (-(sa.h qn).size)) qd = valOf sa qd := by
        unfold valOf; rw [setSize_other _ _ _ (Ne.symm hf)]
      rw [this, E1, vd9]
  · have hsz : ¬ s9.SIZ qd < 0 := fun h => hD (hiff.mp h)
    exact ⟨s9, if_neg hsz, W9.ok, W9.owf, Oqd9, F9, by rw [if_neg hD, vn9], by rw [if_neg hD, vd9]⟩

-- (6/35) / (-(14·B)/9): gcd (6, 14B) = 2, gcd (9, 35) = 1; quotient 27/(-245·B), the sign moved: -27/(245·B); quot is op2 and op1
example : (mpq_div exm 4 5 2 3 4 5 6 7 8 9 10).map (fun s => (s.ok, valOf s 4, valOf s 5)) = some (true, -27, 245 * (B : Int)) := by
  decide +kernel
example : (mpq_div exm 2 3 2 3 4 5 6 7 8 9 10).map (fun s => (s.ok, valOf s 2, valOf s 3)) = some (true, -27, 245 * (B : Int)) := by
  decide +kernel

/-- mpq_div_2exp with NUM (src) = 0 (md_2exp.c:93-99), dst any variable whose two fields differ: `SIZ (num) = 0`, `SIZ (den) = 1`
    and the store `den->_mp_d[0] = 1` — WITHOUT any MPZ_REALLOC, which is safe because every block has at least one limb.
    Result 0/1, both fields well formed, nothing else touched, allocations unchanged. -/
theorem mpq_div_2exp_zero_alloc_safe (s : St) (dn dd sn sd n : Nat) (hs : s.ok = true)
    (hdn : OWF (s.h dn)) (hdd : OWF (s.h dd)) (hf : dn ≠ dd) (h0 : (s.h sn).size = 0) :
    let s' := mpq_div_2exp s dn dd sn sd n
    s'.ok = true ∧ OWF (s'.h dn) ∧ OWF (s'.h dd) ∧ (∀ x, x ≠ dn → x ≠ dd → s'.h x = s.h x) ∧
    valOf s' dn = 0 ∧ valOf s' dd = 1 ∧ s'.ALLOC dn = s.ALLOC dn ∧ s'.ALLOC dd = s.ALLOC dd := by
  intro s'
  have W1 := setSize_zero_wrote s dn hs hdn
  set s1 := s.setSize dn 0 with hs1
  set s2 := s1.setSize dd 1 with hs2
  have e : s' = s2.wr (s2.PTR dd) [1] := by
    simp only [s', mpq_div_2exp, St.SIZ, h0, beq_self_eq_true, if_true, St.store, Ptr.add, St.PTR]; rfl
  have hdd1 : s1.h dd = s.h dd := setSize_other _ _ _ (Ne.symm hf)
  have ha : 1 ≤ (s.h dd).buf.alloc := hdd.alloc_pos
  have hbuf2 : (s2.h dd).buf = (s.h dd).buf := by rw [hs2, setSize_buf, hdd1]
  have hroom : (s2.PTR dd).off + [1].length ≤ (s2.h (s2.PTR dd).id).buf.alloc := by
    simp only [St.PTR, List.length_singleton, hbuf2]; omega
  have hlimbs := wr_limbs s2 (s2.PTR dd) [1] hroom
  have hview : view ((s2.wr (s2.PTR dd) [1]).h dd) = ⟨(s.h dd).buf.alloc, 1, [1]⟩ := by
    have hl : ((s2.wr (s2.PTR dd) [1]).h dd).buf.limbs = 1 :: (s.h dd).buf.limbs.drop 1 := by
      have := hlimbs
      have hid : (s2.PTR dd).id = dd := rfl
      have hoff : (s2.PTR dd).off = 0 := rfl
      rw [hid, hoff, hbuf2] at this
      simpa using this
    simp only [view, wr_size, wr_alloc, hl, hbuf2]
    simp [hs2]
  rw [e]
  refine ⟨?_, ?_, ⟨?_, ?_⟩, ?_, ?_, ?_, ?_, ?_⟩
  · rw [wr_ok]
    have hlv : s2.live (s2.PTR dd) = true := by simp [St.live, St.PTR]
    rw [hlv]
    have : s2.ok = true := by simpa [hs2, hs1] using hs
    rw [this]; simpa using hroom
  · rw [wr_other _ _ _ (by simpa [St.PTR] using hf), hs2, setSize_other _ _ _ hf]; exact W1.owf
  · apply wr_BWF _ _ (by intro x hx; simp at hx; subst hx; exact Nat.lt_of_lt_of_le (by decide) (Nat.le_refl B))
    rw [hbuf2]; exact hdd.1
  · rw [hview]
    refine ⟨ha, by simpa using ha, rfl, by intro x hx; simp at hx; subst hx; unfold B; norm_num, by simp⟩
  · intro x h1 h2
    rw [wr_other _ _ _ (by simpa [St.PTR] using h2), hs2, setSize_other _ _ _ h2, hs1, setSize_other _ _ _ h1]
  · unfold valOf
    rw [wr_other _ _ _ (by simpa [St.PTR] using hf), hs2, setSize_other _ _ _ hf]; exact W1.val
  · unfold valOf; rw [hview]; simp [Mpz.toInt, val]
  · simp only [St.ALLOC, wr_alloc, hs2, hs1, setSize_buf]
  · simp only [St.ALLOC, wr_alloc, hs2, hs1, setSize_buf]

-- 0/1 divided by 2^200 into the variable (2, 3) (blocks of 2 and 3 limbs): 0/1, blocks kept
example : (mpq_div_2exp exq 2 3 4 5 200).ok = true ∧ view ((mpq_div_2exp exq 2 3 4 5 200).h 2) = ⟨2, 0, []⟩ ∧
    view ((mpq_div_2exp exq 2 3 4 5 200).h 3) = ⟨3, 1, [1]⟩ := by decide

/-- mpq_add / mpq_sub, the arm for coprime denominators (aors.c:81-89; "probability 6/π²"), rop = (rn, rd) any variable —
    for EVERY assignment of ids in which the fields of rop differ and NUM (rop) is not a denominator field (aors.c:87 stores
    NUM (rop) and :88 reads both denominators afterwards).  gcd, tmp1, tmp2 live in TMP space (MPZ_TMP_INIT with
    MIN (den sizes), |num1| + den2, |num2| + den1 limbs): `ok` includes that no callee reallocates them (`tmpKept`) — mpz_gcd
    stores one limb, the two mpz_mul find exactly usize + vsize limbs.  Both fields of rop well formed, no variable other than
    rop and the locals changed, values n1·d2 ± n2·d1 over d1·d2 (= `Mpq.aors` when gcd (d1, d2) = 1).
    PARTIAL with respect to mpq_add/mpq_sub as a whole: the common-divisor arm (aors.c:53-80: five more callees on TMP
    variables, the second gcd and both exits) is mirrored and tied (ops as6_add / as6_sub) but has no theorem yet; its statement
    is the same with the values of `Mpq.aors`. -/
theorem mpq_aors_coprime_alloc_safe_partial (isSub : Bool) (s : St) (rn rd an ad bn bd g t1 t2 t : Nat) (hs : s.ok = true)
    (hop : ∀ x ∈ [rn, rd, an, ad, bn, bd], OWF (s.h x))
    (hf : rn ≠ rd) (hna : rn ≠ ad) (hnb : rn ≠ bd)
    (hfr : Fresh [g, t1, t2] [rn, rd, an, ad, bn, bd])
    (hda : 0 < valOf s ad) (hdb : 0 < valOf s bd) (hco : Int.gcd (valOf s ad) (valOf s bd) = 1) :
    let s' := mpq_aors 0 0 isSub s rn rd an ad bn bd g t1 t2 t
    s'.ok = true ∧ OWF (s'.h rn) ∧ OWF (s'.h rd) ∧
    (∀ x, x ≠ rn → x ≠ rd → x ∉ [g, t1, t2] → s'.h x = s.h x) ∧
    valOf s' rn = (if isSub then valOf s an * valOf s bd - valOf s bn * valOf s ad
                   else valOf s an * valOf s bd + valOf s bn * valOf s ad) ∧
    valOf s' rd = valOf s ad * valOf s bd := by
  intro s'
  simp only [List.mem_cons, List.not_mem_nil, or_false, forall_eq_or_imp, forall_eq] at hop
  obtain ⟨Orn, Ord, Oan, Oad, Obn, Obd⟩ := hop
  have N := hfr.sep
  simp only [List.pairwise_cons, List.mem_cons, List.not_mem_nil, or_false, forall_eq_or_imp, forall_eq,
    List.Pairwise.nil, and_true, false_imp_iff, implies_true, ne_eq] at N
  obtain ⟨P, Nrn, Nrd, Nan, Nad, Nbn, Nbd⟩ := N
  have V0 : ∀ x, Mpz.toInt (view (s.h x)) = valOf s x := fun _ => rfl
  -- :43-52 the TMP variables and the gcd of the denominators: 1
  obtain ⟨A0, hA0⟩ : ∃ A0, A0 = min (s.SIZ ad).toNat (s.SIZ bd).toNat - 0 := ⟨_, rfl⟩
  obtain ⟨A1, hA1⟩ : ∃ A1, A1 = s.ABSIZ an + (s.SIZ bd).toNat := ⟨_, rfl⟩
  obtain ⟨A2, hA2⟩ : ∃ A2, A2 = s.ABSIZ bn + (s.SIZ ad).toNat := ⟨_, rfl⟩
  obtain ⟨eda, edb, p1, p2, -, o1, O1, v1, -, -, R1, q1⟩ := aors_entry s an ad bn bd g t1 t2 A0 A1 A2 hs Oad Obd hda hdb
    (hfr.ops_subset (by simp)) hA0 hA1 hA2
  generalize hs1 : mpz_gcd (tmpInit (tmpInit (tmpInit s g A0) t1 A1) t2 A2) g ad bd = s1 at R1 q1
  replace v1 : Mpz.toInt (view o1) = ((1 : Nat) : Int) := v1.trans (congrArg Nat.cast hco)
  -- :85-86 the cross products in TMP space
  have han := R1.heap an; have hbd := R1.heap bd; have ht1 := R1.heap t1
  simp only [over, Nan, Nbd, P, if_false, if_true] at han hbd ht1
  obtain ⟨o3, O3, v3, -, -, R3, q3⟩ := R1.call_tmp (mpz_mul_wrote s1 t1 an bd R1.ok (by rw [ht1]; exact tmp_owf _ p1)
      (R1.owf _ Oan) (R1.owf _ Obd))
    (mpz_mul_sameBlock s1 t1 an bd (by
      simp only [St.SIZ, St.ALLOC, han, hbd, ht1, Buf.new, hA1, St.ABSIZ] at edb ⊢
      exact Nat.add_le_add_left (le_of_eq edb.symm) _) t1) (by rw [ht1])
  generalize hs3 : mpz_mul s1 t1 an bd = s3 at R3 q3
  rw [show valOf s1 an = valOf s an from congrArg (fun o => Mpz.toInt (view o)) han,
    show valOf s1 bd = valOf s bd from congrArg (fun o => Mpz.toInt (view o)) hbd] at v3
  have hbn := R3.heap bn; have had := R3.heap ad; have ht2 := R3.heap t2
  simp only [over, Nbn, Nad, P, if_false, if_true] at hbn had ht2
  obtain ⟨o4, O4, v4, -, -, R4, q4⟩ := R3.call_tmp (mpz_mul_wrote s3 t2 bn ad R3.ok (by rw [ht2]; exact tmp_owf _ p2)
      (R3.owf _ Obn) (R3.owf _ Oad))
    (mpz_mul_sameBlock s3 t2 bn ad (by
      simp only [St.SIZ, St.ALLOC, hbn, had, ht2, Buf.new, hA2, St.ABSIZ] at eda ⊢
      exact Nat.add_le_add_left (le_of_eq eda.symm) _) t2) (by rw [ht2])
  generalize hs4 : mpz_mul s3 t2 bn ad = s4 at R4 q4
  rw [show valOf s3 bn = valOf s bn from congrArg (fun o => Mpz.toInt (view o)) hbn,
    show valOf s3 ad = valOf s ad from congrArg (fun o => Mpz.toInt (view o)) had] at v4
  -- :87 NUM (rop), :88 DEN (rop)
  have et1 := R4.heap t1; have et2 := R4.heap t2
  simp only [over, P, if_false, if_true] at et1 et2
  obtain ⟨o5, O5, v5, R5⟩ := R4.call (zaors_wrote isSub s4 rn t1 t2 R4.ok (R4.owf _ Orn)
    (by rw [et1]; exact O3) (by rw [et2]; exact O4))
  generalize hs5 : zaors isSub s4 rn t1 t2 = s5 at R5
  rw [valOf, valOf, et1, et2, v3, v4] at v5
  have ead := R5.val ad; have ebd := R5.val bd
  simp only [over, Nad, Nbd, Ne.symm hna, Ne.symm hnb, if_false, V0] at ead ebd
  obtain ⟨o6, O6, v6, R6⟩ := R5.call (mpz_mul_wrote s5 rd ad bd R5.ok (R5.owf _ Ord) (R5.owf _ Oad) (R5.owf _ Obd))
  rw [ead, ebd] at v6
  have e : s' = mpz_mul s5 rd ad bd := by
    have q2 : equal1 s1 g = (true, s1) := by
      rw [equal1_spec s1 g (by rw [R1.heap, over_cons_eq]; exact O1), R1.val, over_cons_eq, v1]; rfl
    simp only [s', mpq_aors]
    rw [← hA0, ← hA1, ← hA2, hs1, q1, q2]
    simp only [Bool.not_true, Bool.false_eq_true, if_false]
    rw [hs3, q3, hs4, q4, hs5]
  rw [e]
  refine ⟨R6.ok, ?_, ?_, fun x h1 h2 h3 => ?_, ?_, ?_⟩
  · rw [R6.heap, over_cons_ne _ _ _ hf, over_cons_eq]; exact O5
  · rw [R6.heap, over_cons_eq]; exact O6
  · simp only [List.mem_cons, List.not_mem_nil, or_false, not_or] at h3
    simp only [R6.heap, over, h1, h2, h3, if_false]
  · rw [R6.val, over_cons_ne _ _ _ hf, over_cons_eq, v5]
  · rw [R6.val, over_cons_eq, v6]

/-- heap with a common denominator factor: op1 = (2, 3) = (B-1)/2, op2 = (4, 5) = 1/2, rop = (0, 1) = 5/3 -/
def exa : St := ⟨fun i => if i = 0 then ⟨1, 0, ⟨1, [5]⟩⟩ else if i = 1 then ⟨1, 0, ⟨1, [3]⟩⟩
                  else if i = 2 then ⟨1, 0, ⟨1, [B - 1]⟩⟩ else if i = 3 then ⟨1, 0, ⟨1, [2]⟩⟩
                  else if i = 4 then ⟨1, 0, ⟨1, [1]⟩⟩ else ⟨1, 0, ⟨1, [2]⟩⟩, true⟩

-- 6/35 + (-(14·B)/9), coprime denominators, into a third variable and in place into op2: (54 - 490·B)/315
example : (mpq_add exm 0 1 2 3 4 5 6 7 8 9).ok = true ∧ valOf (mpq_add exm 0 1 2 3 4 5 6 7 8 9) 0 = 54 - 490 * (B : Int) ∧
    valOf (mpq_add exm 0 1 2 3 4 5 6 7 8 9) 1 = 315 := by decide +kernel
example : (mpq_sub exm 4 5 2 3 4 5 6 7 8 9).ok = true ∧ valOf (mpq_sub exm 4 5 2 3 4 5 6 7 8 9) 4 = 54 + 490 * (B : Int) := by
  decide +kernel
-- negative: `MPZ_TMP_INIT (gcd, MIN (..) - 1)`: mpz_gcd has to reallocate a TMP block
example : (mpq_aors 1 0 false exm 0 1 2 3 4 5 6 7 8 9).ok = false := by decide +kernel
-- the common-divisor arm (theorem `mpq_aors_common_alloc_safe` below): (B-1)/2 + 1/2 = (B/2)/1 — t = B needs the `+ 1` limb of
-- `MPZ_TMP_INIT (t, MAX (..) + 1)`; without it mpz_add reallocates the TMP block
example : (mpq_add exa 0 1 2 3 4 5 6 7 8 9).ok = true ∧ valOf (mpq_add exa 0 1 2 3 4 5 6 7 8 9) 0 = 2 ^ 63 ∧
    valOf (mpq_add exa 0 1 2 3 4 5 6 7 8 9) 1 = 1 := by decide +kernel
example : (mpq_aors 0 1 false exa 0 1 2 3 4 5 6 7 8 9).ok = false := by decide +kernel

/-- the values `Mpq.aors` computes in its common-divisor arm (aors.c:57-78) -/
def aorsNum (isSub : Bool) (n1 d1 n2 d2 : Int) : Int :=
  let G := Mpq.zgcd d1 d2
  let T := if isSub then n1 * Mpq.divexact d2 G - n2 * Mpq.divexact d1 G else n1 * Mpq.divexact d2 G + n2 * Mpq.divexact d1 G
  if Mpq.zgcd T G = 1 then T else Mpq.divexact T (Mpq.zgcd T G)
def aorsDen (isSub : Bool) (n1 d1 n2 d2 : Int) : Int :=
  let G := Mpq.zgcd d1 d2
  let T := if isSub then n1 * Mpq.divexact d2 G - n2 * Mpq.divexact d1 G else n1 * Mpq.divexact d2 G + n2 * Mpq.divexact d1 G
  if Mpq.zgcd T G = 1 then d2 * Mpq.divexact d1 G else Mpq.divexact d2 (Mpq.zgcd T G) * Mpq.divexact d1 G

/-- mpq_add / mpq_sub, the arm for denominators with a common divisor (aors.c:53-80), rop = (rn, rd) any variable — for EVERY
    assignment of ids in which the fields of rop differ and NUM (rop) is not a denominator field.  All four locals live in TMP
    space and `ok` includes that none of the NINE callee calls on them reallocates: mpz_gcd (gcd ≤ MIN (den sizes) limbs, twice —
    the second time in place, gcd (t, gcd) ≤ gcd), mpz_divexact_gcd into tmp1 / tmp2 (request ≤ ABSIZ of the denominator ≤ the
    TMP size), mpz_mul (tmp1, num1, tmp1) in place (|num1| + |den2/gcd| ≤ |num1| + |den2|: its temporary-copy path, never the
    fresh-block path), mpz_add / mpz_sub into t (MAX (|tmp1|, |tmp2|) + 1 limbs: exactly its request).  NUM (rop) is stored at
    :71 / :76 and DEN (op2) read afterwards (:72 / :77).  Values: those of the C12 value model `Mpq.aors` (`aorsNum`, `aorsDen`). -/
theorem mpq_aors_common_alloc_safe (isSub : Bool) (s : St) (rn rd an ad bn bd g t1 t2 t : Nat) (hs : s.ok = true)
    (hop : ∀ x ∈ [rn, rd, an, ad, bn, bd], OWF (s.h x))
    (hf : rn ≠ rd) (hna : rn ≠ ad) (hnb : rn ≠ bd)
    (hfr : Fresh [g, t1, t2, t] [rn, rd, an, ad, bn, bd])
    (hda : 0 < valOf s ad) (hdb : 0 < valOf s bd) (hco : Int.gcd (valOf s ad) (valOf s bd) ≠ 1) :
    let s' := mpq_aors 0 0 isSub s rn rd an ad bn bd g t1 t2 t
    s'.ok = true ∧ OWF (s'.h rn) ∧ OWF (s'.h rd) ∧
    (∀ x, x ≠ rn → x ≠ rd → x ∉ [g, t1, t2, t] → s'.h x = s.h x) ∧
    valOf s' rn = aorsNum isSub (valOf s an) (valOf s ad) (valOf s bn) (valOf s bd) ∧
    valOf s' rd = aorsDen isSub (valOf s an) (valOf s ad) (valOf s bn) (valOf s bd) := by
  intro s'
  simp only [List.mem_cons, List.not_mem_nil, or_false, forall_eq_or_imp, forall_eq] at hop
  obtain ⟨Orn, Ord, Oan, Oad, Obn, Obd⟩ := hop
  set G : Int := Mpq.zgcd (valOf s ad) (valOf s bd) with hGdef
  have hGpos : 0 < G := zgcd_pos _ (Int.ne_of_gt hdb)
  have hG1 : G ≠ 1 := by
    show ((Int.gcd (valOf s ad) (valOf s bd) : Nat) : Int) ≠ 1
    exact_mod_cast hco
  have hGad : G ∣ valOf s ad := Int.gcd_dvd_left _ _
  have hGbd : G ∣ valOf s bd := Int.gcd_dvd_right _ _
  have N := hfr.sep
  simp only [List.pairwise_cons, List.mem_cons, List.not_mem_nil, or_false, forall_eq_or_imp, forall_eq,
    List.Pairwise.nil, and_true, false_imp_iff, implies_true, ne_eq] at N
  obtain ⟨P, Nrn, Nrd, Nan, Nad, Nbn, Nbd⟩ := N
  have V : ∀ {s1 : St} {x : Nat} {o : Obj}, s1.h x = o → valOf s1 x = Mpz.toInt (view o) :=
    fun h => congrArg (fun o => Mpz.toInt (view o)) h
  -- :43-52 the TMP variables; gcd = gcd (den1, den2) > 1, at most MIN (den sizes) limbs
  obtain ⟨A0, hA0⟩ : ∃ A0, A0 = min (s.SIZ ad).toNat (s.SIZ bd).toNat - 0 := ⟨_, rfl⟩
  obtain ⟨A1, hA1⟩ : ∃ A1, A1 = s.ABSIZ an + (s.SIZ bd).toNat := ⟨_, rfl⟩
  obtain ⟨A2, hA2⟩ : ∃ A2, A2 = s.ABSIZ bn + (s.SIZ ad).toNat := ⟨_, rfl⟩
  obtain ⟨eda, edb, p1, p2, hGltA0, o1, O1, v1, k1, a1, R1, q1⟩ := aors_entry s an ad bn bd g t1 t2 A0 A1 A2 hs Oad Obd hda hdb
    ((Fresh.append_left (b := [t]) hfr).ops_subset (by simp)) hA0 hA1 hA2
  have eda' : (s.h ad).size.toNat = (s.h ad).size.natAbs := eda
  have edb' : (s.h bd).size.toNat = (s.h bd).size.natAbs := edb
  generalize hs1 : mpz_gcd (tmpInit (tmpInit (tmpInit s g A0) t1 A1) t2 A2) g ad bd = s1 at R1 q1
  have vg : Mpz.toInt (view o1) = G := v1
  have q1e : equal1 s1 g = (false, s1) := by
    rw [equal1_spec s1 g (by rw [R1.heap, over_cons_eq]; exact O1), R1.val, over_cons_eq, vg]; simp [hG1]
  -- :57 tmp1 = den2 / gcd
  have hbd := R1.heap bd; have ht1 := R1.heap t1; have hg := R1.heap g
  simp only [over, Nbd, P, if_false, if_true] at hbd ht1 hg
  have vg1 : valOf s1 g = G := (V hg).trans vg
  obtain ⟨o2, O2, v2, k2, a2, R2, q2⟩ := R1.call_tmp (mpz_divexact_gcd_wrote s1 t1 bd g R1.ok (by rw [ht1]; exact tmp_owf _ p1)
      (R1.owf _ Obd) (by rw [hg]; exact O1) (by rw [vg1]; exact hGpos) (by rw [vg1, V hbd]; exact hGbd))
    (mpz_divexact_gcd_sameBlock s1 t1 bd g (size_ne_zero_of_pos s1 g (by rw [vg1]; exact hGpos)) (by
      simp only [St.ABSIZ, St.ALLOC, hbd, ht1, Buf.new, hA1, edb]; exact Nat.le_add_left _ _)) (by rw [ht1])
  generalize hs2 : mpz_divexact_gcd s1 t1 bd g = s2 at R2 q2
  rw [vg1, V hbd] at v2
  rw [ht1] at a2
  -- :58 tmp1 = num1 * tmp1, in place: |num1| + |den2 / gcd| ≤ |num1| + |den2| limbs
  have han := R2.heap an; have ht1 := R2.heap t1
  simp only [over, Nan, if_false, if_true] at han ht1
  have hsz_t1 : o2.size.natAbs ≤ (s.h bd).size.natAbs := by
    have := absiz_le s2 t1 (by rw [ht1]; exact O2) (s.h bd).size.natAbs (by
      rw [V ht1, v2]; exact Nat.lt_of_le_of_lt (Int.natAbs_ediv_le_natAbs _ _) (valOf_lt s bd Obd))
    rwa [ht1] at this
  obtain ⟨o3, O3, v3, k3, a3, R3, q3⟩ := R2.call_tmp (mpz_mul_wrote s2 t1 an t1 R2.ok (by rw [ht1]; exact O2) (R2.owf _ Oan)
      (by rw [ht1]; exact O2))
    (mpz_mul_sameBlock s2 t1 an t1 (by
      simp only [St.SIZ, St.ALLOC, han, ht1, a2, Buf.new, hA1, St.ABSIZ]
      exact Nat.add_le_add_left (le_of_le_of_eq hsz_t1 edb'.symm) _) t1) (by rw [ht1]; exact k2)
  generalize hs3 : mpz_mul s2 t1 an t1 = s3 at R3 q3
  rw [V han, V ht1, v2] at v3
  rw [ht1] at a3
  -- :60 tmp2 = den1 / gcd
  have had := R3.heap ad; have ht2 := R3.heap t2; have hg := R3.heap g
  simp only [over, Nad, P, if_false, if_true] at had ht2 hg
  have vg3 : valOf s3 g = G := (V hg).trans vg
  obtain ⟨o4, O4, v4, k4, a4, R4, q4⟩ := R3.call_tmp (mpz_divexact_gcd_wrote s3 t2 ad g R3.ok (by rw [ht2]; exact tmp_owf _ p2)
      (R3.owf _ Oad) (by rw [hg]; exact O1) (by rw [vg3]; exact hGpos) (by rw [vg3, V had]; exact hGad))
    (mpz_divexact_gcd_sameBlock s3 t2 ad g (size_ne_zero_of_pos s3 g (by rw [vg3]; exact hGpos)) (by
      simp only [St.ABSIZ, St.ALLOC, had, ht2, Buf.new, hA2, eda]; exact Nat.le_add_left _ _)) (by rw [ht2])
  generalize hs4 : mpz_divexact_gcd s3 t2 ad g = s4 at R4 q4
  rw [vg3, V had] at v4
  rw [ht2] at a4
  -- :61 tmp2 = num2 * tmp2
  have hbn := R4.heap bn; have ht2 := R4.heap t2
  simp only [over, Nbn, if_false, if_true] at hbn ht2
  have hsz_t2 : o4.size.natAbs ≤ (s.h ad).size.natAbs := by
    have := absiz_le s4 t2 (by rw [ht2]; exact O4) (s.h ad).size.natAbs (by
      rw [V ht2, v4]; exact Nat.lt_of_le_of_lt (Int.natAbs_ediv_le_natAbs _ _) (valOf_lt s ad Oad))
    rwa [ht2] at this
  obtain ⟨o5, O5, v5, k5, a5, R5, q5⟩ := R4.call_tmp (mpz_mul_wrote s4 t2 bn t2 R4.ok (by rw [ht2]; exact O4) (R4.owf _ Obn)
      (by rw [ht2]; exact O4))
    (mpz_mul_sameBlock s4 t2 bn t2 (by
      simp only [St.SIZ, St.ALLOC, hbn, ht2, a4, Buf.new, hA2, St.ABSIZ]
      exact Nat.add_le_add_left (le_of_le_of_eq hsz_t2 eda'.symm) _) t2) (by rw [ht2]; exact k4)
  generalize hs5 : mpz_mul s4 t2 bn t2 = s5 at R5 q5
  rw [V hbn, V ht2, v4] at v5
  rw [ht2] at a5
  -- :63 t, MAX (|tmp1|, |tmp2|) + 1 limbs: exactly what mpz_add / mpz_sub request (:65)
  have h1_5 := R5.heap t1; have h2_5 := R5.heap t2
  simp only [over, P, if_false, if_true] at h1_5 h2_5
  obtain ⟨A3, hA3⟩ : ∃ A3, A3 = max (s5.ABSIZ t1) (s5.ABSIZ t2) + 1 - 0 := ⟨_, rfl⟩
  have R6 := R5.tmpInit t (show 1 ≤ A3 by rw [hA3]; exact Nat.le_add_left 1 _)
  generalize hs6 : tmpInit s5 t A3 = s6 at R6
  have ht1 := R6.heap t1; have ht2 := R6.heap t2; have ht := R6.heap t
  simp only [over, P, if_false, if_true] at ht1 ht2 ht
  obtain ⟨o7, O7, v7, k7, R7⟩ := R6.call_gen (zaors_wrote isSub s6 t t1 t2 R6.ok (by rw [ht]; exact tmp_owf _ (by
      rw [hA3]; exact Nat.le_add_left 1 _)) (by rw [ht1]; exact O3) (by rw [ht2]; exact O5))
    (zaors_gen_keep isSub s6 t t1 t2 (by
      simp only [St.SIZ, St.ALLOC, ht1, ht2, ht, Buf.new, hA3, St.ABSIZ, h1_5, h2_5]; exact Nat.le_refl _) t)
  generalize hs7 : zaors isSub s6 t t1 t2 = s7 at R7
  obtain ⟨T, hT⟩ : ∃ T : Int, T = (if isSub then valOf s an * Mpq.divexact (valOf s bd) G - valOf s bn * Mpq.divexact (valOf s ad) G
    else valOf s an * Mpq.divexact (valOf s bd) G + valOf s bn * Mpq.divexact (valOf s ad) G) := ⟨_, rfl⟩
  have vt : Mpz.toInt (view o7) = T := by rw [v7, V ht1, V ht2, v3, v5, hT]; rfl
  rw [ht] at k7
  have q7 : tmpKept s7 t = s7 := R7.tmpKept t (by rw [over_cons_eq]; exact k7)
  -- :66 tmp2 = den1 / gcd
  have had := R7.heap ad; have ht2 := R7.heap t2; have hg := R7.heap g
  simp only [over, Nad, P, if_false, if_true] at had ht2 hg
  have vg7 : valOf s7 g = G := (V hg).trans vg
  obtain ⟨o8, O8, v8, -, a8, R8, q8⟩ := R7.call_tmp (mpz_divexact_gcd_wrote s7 t2 ad g R7.ok (by rw [ht2]; exact O5)
      (R7.owf _ Oad) (by rw [hg]; exact O1) (by rw [vg7]; exact hGpos) (by rw [vg7, V had]; exact hGad))
    (mpz_divexact_gcd_sameBlock s7 t2 ad g (size_ne_zero_of_pos s7 g (by rw [vg7]; exact hGpos)) (by
      simp only [St.ABSIZ, St.ALLOC, had, ht2, a5, a4, Buf.new, hA2, eda]; exact Nat.le_add_left _ _)) (by rw [ht2]; exact k5)
  generalize hs8 : mpz_divexact_gcd s7 t2 ad g = s8 at R8 q8
  rw [vg7, V had] at v8
  rw [ht2] at a8
  -- :68 gcd = gcd (t, gcd), in place: at most |gcd| limbs
  have ht := R8.heap t; have hg := R8.heap g
  simp only [over, P, if_false, if_true] at ht hg
  have vg8 : valOf s8 g = G := (V hg).trans vg
  obtain ⟨o9, O9, v9, -, -, R9, q9⟩ := R8.call_tmp (mpz_gcd_wrote s8 g t g R8.ok (by rw [hg]; exact O1))
    (mpz_gcd_sameBlock s8 g t g (by
      rw [vg8, St.ALLOC, hg, a1]; exact gcd_len_le _ _ _ hGpos hGltA0)) (by rw [hg]; exact k1)
  generalize hs9 : mpz_gcd s8 g t g = s9 at R9 q9
  obtain ⟨G', hG'⟩ : ∃ G' : Int, G' = Mpq.zgcd T G := ⟨_, rfl⟩
  have vg' : Mpz.toInt (view o9) = G' := by rw [v9, V ht, vt, vg8, hG']; rfl
  have hG'pos : 0 < G' := by rw [hG']; exact zgcd_pos _ (Int.ne_of_gt hGpos)
  have hG'T : G' ∣ T := by rw [hG']; exact Int.gcd_dvd_left _ _
  have hG'G : G' ∣ G := by rw [hG']; exact Int.gcd_dvd_right _ _
  have vg9 : valOf s9 g = G' := by rw [R9.val, over_cons_eq, vg']
  have e : s' = if G' = 1 then mpz_mul (mpz_set s9 rn t) rd bd t2
      else mpz_mul (tmpKept (mpz_divexact_gcd (mpz_divexact_gcd s9 rn t g) t1 bd g) t1) rd t1 t2 := by
    simp only [s', mpq_aors]
    rw [← hA0, ← hA1, ← hA2, hs1, q1, q1e]
    simp only [Bool.not_false, if_true]
    rw [hs2, q2, hs3, q3, hs4, q4, hs5, q5, ← hA3, hs6, hs7, q7, hs8, q8, hs9, q9,
      equal1_spec s9 g (by rw [R9.heap, over_cons_eq]; exact O9), vg9]
    by_cases hone : G' = 1 <;> simp [hone]
  -- what the last calls read
  have hbd := R9.heap bd; have ht := R9.heap t; have ht2 := R9.heap t2; have ht1 := R9.heap t1
  simp only [over, Nbd, P, if_false, if_true] at hbd ht ht2 ht1
  obtain ⟨⟨rng, grn⟩, ⟨rnt1, t1rn⟩, ⟨-, t2rn⟩, -, -⟩ := Nrn
  by_cases hone : G' = 1
  · -- :71-72
    rw [e, if_pos hone]
    obtain ⟨o10, O10, v10, R10⟩ := R9.call (mpz_set_wrote s9 rn t R9.ok (R9.owf _ Orn) (by rw [ht]; exact O7))
    generalize mpz_set s9 rn t = s10 at R10
    rw [V ht, vt] at v10
    have hbd' := R10.heap bd; have ht2' := R10.heap t2
    rw [over_cons_ne _ _ _ (Ne.symm hnb), ← R9.heap, hbd] at hbd'
    rw [over_cons_ne _ _ _ t2rn, ← R9.heap, ht2] at ht2'
    obtain ⟨o11, O11, v11, R11⟩ := R10.call (mpz_mul_wrote s10 rd bd t2 R10.ok (R10.owf _ Ord) (R10.owf _ Obd)
      (by rw [ht2']; exact O8))
    rw [V hbd', V ht2', v8] at v11
    refine ⟨R11.ok, ?_, ?_, fun x h1 h2 h3 => ?_, ?_, ?_⟩
    · rw [R11.heap, over_cons_ne _ _ _ hf, over_cons_eq]; exact O10
    · rw [R11.heap, over_cons_eq]; exact O11
    · simp only [List.mem_cons, List.not_mem_nil, or_false, not_or] at h3
      simp only [R11.heap, over, h1, h2, h3, if_false]
    · rw [R11.val, over_cons_ne _ _ _ hf, over_cons_eq, v10]
      simp only [aorsNum, ← hGdef, ← hT, ← hG', hone, if_true]
    · rw [R11.val, over_cons_eq, v11]
      simp only [aorsDen, ← hGdef, ← hT, ← hG', hone, if_true]; rfl
  · -- :76-78
    rw [e, if_neg hone]
    obtain ⟨o10, O10, v10, R10⟩ := R9.call (mpz_divexact_gcd_wrote s9 rn t g R9.ok (R9.owf _ Orn) (by rw [ht]; exact O7)
      (by rw [R9.heap, over_cons_eq]; exact O9) (by rw [vg9]; exact hG'pos) (by rw [vg9, V ht, vt]; exact hG'T))
    generalize mpz_divexact_gcd s9 rn t g = s10 at R10 ⊢
    rw [V ht, vt, vg9] at v10
    have hg' := R10.heap g; have hbd' := R10.heap bd; have ht1' := R10.heap t1; have ht2' := R10.heap t2
    rw [over_cons_ne _ _ _ grn, over_cons_eq] at hg'
    rw [over_cons_ne _ _ _ (Ne.symm hnb), ← R9.heap, hbd] at hbd'
    rw [over_cons_ne _ _ _ t1rn, ← R9.heap, ht1] at ht1'
    rw [over_cons_ne _ _ _ t2rn, ← R9.heap, ht2] at ht2'
    have vg10 : valOf s10 g = G' := (V hg').trans vg'
    obtain ⟨o11, O11, v11, -, -, R11, q11⟩ := R10.call_tmp (mpz_divexact_gcd_wrote s10 t1 bd g R10.ok (by rw [ht1']; exact O3)
        (R10.owf _ Obd) (by rw [hg']; exact O9) (by rw [vg10]; exact hG'pos)
        (by rw [vg10, V hbd']; exact Int.dvd_trans hG'G hGbd))
      (mpz_divexact_gcd_sameBlock s10 t1 bd g (size_ne_zero_of_pos s10 g (by rw [vg10]; exact hG'pos)) (by
        simp only [St.ABSIZ, St.ALLOC, hbd', ht1', a3, a2, Buf.new, hA1, edb]; exact Nat.le_add_left _ _)) (by rw [ht1']; exact k3)
    generalize mpz_divexact_gcd s10 t1 bd g = s11 at R11 q11 ⊢
    rw [vg10, V hbd'] at v11
    rw [q11]
    have ht2'' := R11.heap t2
    rw [over_cons_ne _ _ _ P.2.1.1.2, ← R10.heap, ht2'] at ht2''
    obtain ⟨o12, O12, v12, R12⟩ := R11.call (mpz_mul_wrote s11 rd t1 t2 R11.ok (R11.owf _ Ord)
      (by rw [R11.heap, over_cons_eq]; exact O11) (by rw [ht2'']; exact O8))
    rw [R11.val t1, over_cons_eq, v11, V ht2'', v8] at v12
    refine ⟨R12.ok, ?_, ?_, fun x h1 h2 h3 => ?_, ?_, ?_⟩
    · rw [R12.heap, over_cons_ne _ _ _ hf, over_cons_ne _ _ _ rnt1, over_cons_eq]; exact O10
    · rw [R12.heap, over_cons_eq]; exact O12
    · simp only [List.mem_cons, List.not_mem_nil, or_false, not_or] at h3
      simp only [R12.heap, over, h1, h2, h3, if_false]
    · rw [R12.val, over_cons_ne _ _ _ hf, over_cons_ne _ _ _ rnt1, over_cons_eq, v10]
      simp only [aorsNum, ← hGdef, ← hT, ← hG', hone, if_false]; rfl
    · rw [R12.val, over_cons_eq, v12]
      simp only [aorsDen, ← hGdef, ← hT, ← hG', hone, if_false]; rfl


/-- mpq_add / mpq_sub (mpq/aors.c), BOTH arms, for every assignment of variable ids in which the two fields of rop differ,
    NUM (rop) is not a denominator field of an operand and the four scratch ids (gcd, tmp1, tmp2, t) are fresh — this covers
    rop == op1, rop == op2, op1 == op2, all equal and all distinct.  Operands well formed with positive denominators.
    `ok` stays true (no access outside a block, no stale pointer, no TMP variable ever reallocated), NUM (rop) and DEN (rop) are
    well formed, no other variable changes, and the values are those of the C12 value model `Mpq.aors`. -/
theorem mpq_aors_alloc_safe (isSub : Bool) (s : St) (rn rd an ad bn bd g t1 t2 t : Nat) (hs : s.ok = true)
    (hop : ∀ x ∈ [rn, rd, an, ad, bn, bd], OWF (s.h x))
    (hf : rn ≠ rd) (hna : rn ≠ ad) (hnb : rn ≠ bd)
    (hfr : Fresh [g, t1, t2, t] [rn, rd, an, ad, bn, bd])
    (hda : 0 < valOf s ad) (hdb : 0 < valOf s bd) :
    let s' := mpq_aors 0 0 isSub s rn rd an ad bn bd g t1 t2 t
    s'.ok = true ∧ OWF (s'.h rn) ∧ OWF (s'.h rd) ∧
    (∀ x, x ≠ rn → x ≠ rd → x ∉ [g, t1, t2, t] → s'.h x = s.h x) ∧
    valOf s' rn = (if Int.gcd (valOf s ad) (valOf s bd) = 1 then
        (if isSub then valOf s an * valOf s bd - valOf s bn * valOf s ad else valOf s an * valOf s bd + valOf s bn * valOf s ad)
      else aorsNum isSub (valOf s an) (valOf s ad) (valOf s bn) (valOf s bd)) ∧
    valOf s' rd = (if Int.gcd (valOf s ad) (valOf s bd) = 1 then valOf s ad * valOf s bd
      else aorsDen isSub (valOf s an) (valOf s ad) (valOf s bn) (valOf s bd)) := by
  intro s'
  by_cases hco : Int.gcd (valOf s ad) (valOf s bd) = 1
  · obtain ⟨h1, h2, h3, h4, h5, h6⟩ := mpq_aors_coprime_alloc_safe_partial isSub s rn rd an ad bn bd g t1 t2 t hs hop hf hna hnb (Fresh.append_left (b := [t]) hfr) hda hdb hco
    refine ⟨h1, h2, h3, ?_, by rw [if_pos hco]; exact h5, by rw [if_pos hco]; exact h6⟩
    intro x x1 x2 x3
    exact h4 x x1 x2 (by simp at x3 ⊢; tauto)
  · obtain ⟨h1, h2, h3, h4, h5, h6⟩ := mpq_aors_common_alloc_safe isSub s rn rd an ad bn bd g t1 t2 t hs hop hf hna hnb hfr hda hdb hco
    exact ⟨h1, h2, h3, h4, by rw [if_neg hco]; exact h5, by rw [if_neg hco]; exact h6⟩

/-- mpq_add = mpq_aors with mpz_add (aors.c:94-98) -/
theorem mpq_add_alloc_safe (s : St) (rn rd an ad bn bd g t1 t2 t : Nat) (hs : s.ok = true)
    (hop : ∀ x ∈ [rn, rd, an, ad, bn, bd], OWF (s.h x)) (hf : rn ≠ rd) (hna : rn ≠ ad) (hnb : rn ≠ bd)
    (hfr : Fresh [g, t1, t2, t] [rn, rd, an, ad, bn, bd]) (hda : 0 < valOf s ad) (hdb : 0 < valOf s bd) :
    (mpq_add s rn rd an ad bn bd g t1 t2 t).ok = true ∧ OWF ((mpq_add s rn rd an ad bn bd g t1 t2 t).h rn) ∧
    OWF ((mpq_add s rn rd an ad bn bd g t1 t2 t).h rd) ∧
    (∀ x, x ≠ rn → x ≠ rd → x ∉ [g, t1, t2, t] → (mpq_add s rn rd an ad bn bd g t1 t2 t).h x = s.h x) :=
  have h := mpq_aors_alloc_safe false s rn rd an ad bn bd g t1 t2 t hs hop hf hna hnb hfr hda hdb
  ⟨h.1, h.2.1, h.2.2.1, h.2.2.2.1⟩

/-- mpq_sub = mpq_aors with mpz_sub (aors.c:100-104) -/
theorem mpq_sub_alloc_safe (s : St) (rn rd an ad bn bd g t1 t2 t : Nat) (hs : s.ok = true)
    (hop : ∀ x ∈ [rn, rd, an, ad, bn, bd], OWF (s.h x)) (hf : rn ≠ rd) (hna : rn ≠ ad) (hnb : rn ≠ bd)
    (hfr : Fresh [g, t1, t2, t] [rn, rd, an, ad, bn, bd]) (hda : 0 < valOf s ad) (hdb : 0 < valOf s bd) :
    (mpq_sub s rn rd an ad bn bd g t1 t2 t).ok = true ∧ OWF ((mpq_sub s rn rd an ad bn bd g t1 t2 t).h rn) ∧
    OWF ((mpq_sub s rn rd an ad bn bd g t1 t2 t).h rd) ∧
    (∀ x, x ≠ rn → x ≠ rd → x ∉ [g, t1, t2, t] → (mpq_sub s rn rd an ad bn bd g t1 t2 t).h x = s.h x) :=
  have h := mpq_aors_alloc_safe true s rn rd an ad bn bd g t1 t2 t hs hop hf hna hnb hfr hda hdb
  ⟨h.1, h.2.1, h.2.2.1, h.2.2.2.1⟩

-- non-vacuity of the common-divisor arm: the examples on `exa` above ((B-1)/2 + 1/2 = (B/2)/1; the second gcd is 2)
example : aorsNum false ((B : Int) - 1) 2 1 2 = 2 ^ 63 ∧ aorsDen false ((B : Int) - 1) 2 1 2 = 1 := by decide +kernel

/-! ## mpq_mul_2exp / mpq_div_2exp (mpq/md_2exp.c), non-zero arm: the skip loop proved (`skipZeros_spec`); the rest of mord_2exp
    (MPZ_REALLOC (rdst, len), copy / shift arm, mpz_mul_2exp / mpz_set of the other field) is run only (ops as6_mul_2exp / as6_div_2exp).
    Missing for `mpq_mul_2exp_alloc_safe`: the copy arm needs only `skipZeros_spec` + MPN_COPY range facts; the shift arm needs the
    list-level fact that mpn_rshift by < 64 bits of a vector with non-zero top limb leaves at most one zero top limb. -/

/-- 5/(3·B) in one variable (0, 1): the denominator has a whole zero low limb -/
def ex2e : St := ⟨fun i => if i = 0 then ⟨1, 0, ⟨1, [5]⟩⟩ else ⟨2, 0, ⟨2, [0, 3]⟩⟩, true⟩

-- in place, n = 64: the skip loop drops the zero limb (p = rsrc_ptr + 1), the limb 3 is odd, so the copy arm is taken and
-- `p != rdst_ptr` (md_2exp.c:57) copies the limb down: 5/3
example : (mpq_mul_2exp ex2e 0 1 0 1 64).ok = true ∧ view ((mpq_mul_2exp ex2e 0 1 0 1 64).h 1) = ⟨2, 1, [3]⟩ ∧
    view ((mpq_mul_2exp ex2e 0 1 0 1 64).h 0) = ⟨1, 1, [5]⟩ := by decide
-- negative (the defect repaired by commit 62c3bba): the test on the VARIABLES `rdst != rsrc` skips the copy — every access is
-- in range, but the denominator is left as the one limb 0 with SIZ = 1: malformed
example : (mord_2exp false ex2e 0 1 0 1 64).ok = true ∧ view ((mord_2exp false ex2e 0 1 0 1 64).h 1) = ⟨2, 1, [0]⟩ ∧
    ¬ Mpz.WF (view ((mord_2exp false ex2e 0 1 0 1 64).h 1)) := by decide
-- 5/(3·B) · 2^70 = 5·2^6/3: skip one limb, then the numerator is shifted left by the remaining 6 bits
example : valOf (mpq_mul_2exp ex2e 0 1 0 1 70) 0 = 320 ∧ valOf (mpq_mul_2exp ex2e 0 1 0 1 70) 1 = 3 := by decide

/-- the skip loop of mord_2exp (md_2exp.c:42-47) on a non-zero well-formed operand: every `*p` is inside the block (ok is
    kept), it stops at a limb index k < ABSIZ — at the latest on the non-zero top limb —, with `plow = p[k]` and n reduced by 64·k -/
theorem skipZeros_spec (s : St) (x : Nat) (hx : OWF (s.h x)) (h0 : (s.h x).size ≠ 0) :
    ∀ (fuel k n : Nat) (s1 : St), s1.h = s.h → fuel + k = (s.h x).size.natAbs → k < (s.h x).size.natAbs →
      let r := skipZeros s1 (s.PTR x) fuel k n ((s.h x).buf.limbs.getD k junk)
      r.2.2.2.h = s.h ∧ r.2.2.2.ok = s1.ok ∧ k ≤ r.1 ∧ r.1 < (s.h x).size.natAbs ∧
      r.2.2.1 = (s.h x).buf.limbs.getD r.1 junk ∧ r.2.1 + 64 * r.1 = n + 64 * k ∧ (r.2.1 < 64 ∨ r.2.2.1 % 2 = 1 ∨ r.2.2.1 ≠ 0) := by
  have htop := top_ne_zero (s.h x) hx h0
  have hfit : (s.h x).size.natAbs ≤ (s.h x).buf.alloc := view_fit hx
  intro fuel
  induction fuel with
  | zero => intro k n s1 _ hk hlt; omega
  | succ fuel ih =>
    intro k n s1 hs1 hk hlt
    simp only [skipZeros]
    by_cases hc : (decide (n ≥ 64) && (s.h x).buf.limbs.getD k junk == 0) = true
    · rw [if_pos hc]
      simp only [Bool.and_eq_true, decide_eq_true_eq, beq_iff_eq] at hc
      have hk1 : k + 1 < (s.h x).size.natAbs := by
        by_contra hcon
        have : k = (s.h x).size.natAbs - 1 := by omega
        rw [this] at hc; exact htop hc.2
      have hld : (s1.load (s.PTR x) (k + 1)).1 = (s.h x).buf.limbs.getD (k + 1) junk := by
        simp only [St.load, St.rd, Buf.read, Ptr.add, St.PTR, hs1, Nat.zero_add]
        rw [List.getD_eq_getElem?_getD]
        cases hh : (s.h x).buf.limbs[k + 1]? with
        | none => simp [List.getElem?_eq_none_iff] at hh; simp [List.drop_eq_nil_of_le hh]
        | some a => 
          have := List.getElem?_eq_some_iff.mp hh
          obtain ⟨hl, ha⟩ := this
          rw [List.drop_eq_getElem_cons hl]; simp [ha]
      have hok : (s1.load (s.PTR x) (k + 1)).2.ok = s1.ok := by
        simp only [St.load, chk_ok, St.rdOk, St.live, Buf.read, Ptr.add, St.PTR, hs1, Nat.zero_add]
        have : k + 1 + 1 ≤ (s.h x).buf.alloc := by omega
        simp [this]
      have hh : (s1.load (s.PTR x) (k + 1)).2.h = s.h := by simp [St.load, hs1]
      have := ih (k + 1) (n - 64) (s1.load (s.PTR x) (k + 1)).2 hh (by omega) hk1
      simp only [hld] 
      obtain ⟨r1, r2, r3, r4, r5, r6, r7⟩ := this
      refine ⟨r1, by rw [r2, hok], by omega, r4, r5, by omega, r7⟩
    · rw [if_neg hc]
      refine ⟨hs1, rfl, Nat.le_refl _, hlt, rfl, rfl, ?_⟩
      simp only [Bool.and_eq_true, decide_eq_true_eq, beq_iff_eq, not_and] at hc
      by_cases hn : n ≥ 64
      · right; right; exact hc hn
      · left; show n < 64; omega


-- on 3·B (limbs [0, 3]) with n = 70: one limb skipped, n left 6, plow = 3
example : (skipZeros ex2e (ex2e.PTR 1) 2 0 70 0).1 = 1 ∧ (skipZeros ex2e (ex2e.PTR 1) 2 0 70 0).2.1 = 6 ∧
    (skipZeros ex2e (ex2e.PTR 1) 2 0 70 0).2.2.1 = 3 := by decide

end Mpir.AllocSafe6
