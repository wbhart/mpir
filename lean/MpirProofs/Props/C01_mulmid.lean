/-
  C01 (middle product) — the limb-level models of Mpir/Model/MulMid.lean (mirrors of mpn/generic/mulmid_basecase.c, mulmid_n.c,
  mulmid.c; run against the real functions on every check, ops mm_basecase / mm_mulmid_n / mm_mulmid, all output limbs).
  Property theorems only; lemmas in MpirProofs/Lemmas/MulMid.lean.

  Specification (header comments of the three C files): MP(a, m, b, n) = Σ_{0≤i<m, 0≤j<n, n-1 ≤ i+j ≤ m-1} a_i b_j B^(i+j-n+1),
  stored in m-n+3 limbs.  `mpW rn a b` is that sum with the inner index eliminated: Σ_j b_j · val {a + (n-1-j), rn}, rn = m-n+1.

    mulmid_basecase_spec   {rp, un-vn+3} = MP exactly: all un ≥ vn ≥ 1, vn ≤ B (the C: "vn << GMP_NUMBMAX")
    mulmid_n_spec          mpn_mulmid_n, every n ≥ 1 and every MULMID_TOOM42_THRESHOLD, toom42_mulmid by its specification
    mulmid_spec            mpn_mulmid, all an ≥ bn ≥ 1, every threshold: all four regions of mulmid.c (wide/tall basecase chunks,
                           wide/tall toom42 chunks with the recursive last chunk), every add-back and mpn_add_n exact (no carry lost)
    mp_pairs_spec          the row form `mpW` used above IS the header's sum over index pairs (i, j), n-1 ≤ i+j ≤ m-1
    mulmid_pairs_spec      mpn_mulmid on operands of exactly an and bn limbs against the pair sum directly
    toom42_odd_fixup_partial   mpn_toom42_mulmid (model Mpir/Model/MulMidToom.lean, op mm_toom42): the odd row and diagonal step
                           (toom42_mulmid.c:208-232) turns MP of the even sub-problem into MP({ap,2n-1},{bp,n}) exactly
    toom42_mulmid_spec_partial the model of mpn_toom42_mulmid meets `TmSpec T` (so mulmid_n_spec / mulmid_spec apply to the real callee)
                           for every n ≥ T ≥ 4 PROVIDED its even core is correct (`EvenCore`): recursion, threshold dispatch,
                           `ap += n & 1`, odd row and diagonal are proved; the core is the one thing missing
  Not covered (run only, op mm_toom42 compares all n+2 limbs): the even core of mpn_toom42_mulmid — transposed interpolation with the
  correction terms e0..e5 of add_err1_n/add_err2_n/sub_err2_n, the neg flag, the in-place corrections and the transposed
  evaluation (`toomFix`); so `TmSpec` of the toom42 model is NOT proved and `mulmid_n_spec` / `mulmid_spec` keep it as a hypothesis
  (`tmSpec_ok` shows it is satisfiable).
-/
import MpirProofs.Lemmas.MulMid
import MpirProofs.Lemmas.MulMidToom
namespace Mpir.MulMid
open Mpir

/-- mpn_mulmid_basecase (mulmid_basecase.c:48-184, plain configuration: one mpn_mul_1 row, then mpn_addmul_1 rows whose carry-outs
    are accumulated in the limb pair (hi, lo) by add_ssaaaa, stored at rp[un], rp[un+1]): for all sizes un ≥ vn ≥ 1 (the C's
    ASSERTs) with vn ≤ B = 2^64 (the C's "vn << GMP_NUMBMAX"; beyond it `hi` could wrap) the un - vn + 3 output limbs are proper
    limbs whose value is exactly MP(a, un, b, vn).  `a` may extend beyond un (it is the memory from the pointer on). -/
theorem mulmid_basecase_spec (a b : List Nat) (un : Nat) (ha : Limbs a) (hb : Limbs b)
    (hvn : 1 ≤ b.length) (hun : b.length ≤ un) (hal : un ≤ a.length) (hB : b.length ≤ B) :
    val (mulmid_basecase a un b) = mpW (un - b.length + 1) a b ∧
    Limbs (mulmid_basecase a un b) ∧ (mulmid_basecase a un b).length = un - b.length + 3 := by
  obtain ⟨h1, h2, h3⟩ := basecase_isMP a b un (un - b.length + 1) ha hb hvn (by omega) (by omega) hal hB
  exact ⟨h1, h2, h3⟩

-- non-vacuity: all-ones 3 × 2 (two diagonals, the carry limb pair is used), and the value against the pair-sum formula
example : mulmid_basecase [B - 1, B - 1, B - 1] 3 [B - 1, B - 1] = [2, B - 2, B - 3, 1] := by decide +kernel
example : mpW 2 [B - 1, B - 1, B - 1] [B - 1, B - 1] = mpPairs [B - 1, B - 1, B - 1] [B - 1, B - 1] := by decide +kernel
example : val (mulmid_basecase [B - 1, B - 1, B - 1] 3 [B - 1, B - 1]) = mpW 2 [B - 1, B - 1, B - 1] [B - 1, B - 1] :=
  (mulmid_basecase_spec _ _ 3 (by decide) (by decide) (by decide) (by decide) (by decide) (by decide)).1

/-- mpn_mulmid_n (mulmid_n.c:45-72): for every n ≥ 1 (the C's ASSERT), every threshold T = MULMID_TOOM42_THRESHOLD and every
    function `tm` that meets the specification of mpn_toom42_mulmid, the n + 2 output limbs are MP({ap, 2n-1}, {bp, n}) exactly. -/
theorem mulmid_n_spec (T : Nat) (tm : List Nat → List Nat → Nat → List Nat) (htm : TmSpec T tm)
    (a b : List Nat) (n : Nat) (ha : Limbs a) (hb : Limbs b) (hn : 1 ≤ n) (hbl : b.length = n) (hal : 2 * n - 1 ≤ a.length)
    (hB : n ≤ B) :
    val (mulmid_n T tm a b n) = mpW n a b ∧ Limbs (mulmid_n T tm a b n) ∧ (mulmid_n T tm a b n).length = n + 2 := by
  unfold mulmid_n
  split
  · exact basecase_isMP a b _ n ha hb (by omega) (by omega) hn hal (by omega)
  · exact htm a b n ha hb hbl hn (by omega) hB hal

example : mulmid_n 5 tmSpec [1, 2, B - 1] [B - 1, 3] 2 = mulmid_n 0 tmSpec [1, 2, B - 1] [B - 1, 3] 2 := by decide +kernel

/-- mpn_mulmid (mulmid.c:47-258): for all sizes an ≥ bn ≥ 1 (the C's ASSERTs) with bn < B (the C's "bn << GMP_NUMBMAX"), every
    T = MULMID_TOOM42_THRESHOLD (CHUNK = 200 + T) and every `tm` meeting the specification of mpn_toom42_mulmid, the an - bn + 3
    output limbs are proper limbs whose value is exactly MP(a, an, b, bn): the direct basecase calls, the wide basecase chunks
    (k = CHUNK - bn + 1 diagonals each, two saved limbs added back by ADDC_LIMB / MPN_INCR_U — the increment t1 + cy does not
    wrap and MPN_INCR_U does not run off the region), the tall basecase chunks (mpn_add_n of rn + 2 limbs, carry 0), and the
    two toom42 regions including the recursive call on the last chunk.  `fuel` ≥ an bounds that recursion (the driver passes an). -/
theorem mulmid_spec (T : Nat) (tm : List Nat → List Nat → Nat → List Nat) (htm : TmSpec T tm)
    (fuel : Nat) (a : List Nat) (an : Nat) (b : List Nat) (ha : Limbs a) (hb : Limbs b)
    (hbn : 1 ≤ b.length) (han : b.length ≤ an) (hal : an ≤ a.length) (hB : b.length < B) (hfuel : an ≤ fuel) :
    val (mulmid T tm fuel a an b) = mpW (an - b.length + 1) a b ∧
    Limbs (mulmid T tm fuel a an b) ∧ (mulmid T tm fuel a an b).length = an - b.length + 3 := by
  obtain ⟨h1, h2, h3⟩ := mulmid_isMP T tm htm fuel a an (an - b.length + 1) b ha hb hbn (by omega) (by omega) hal hB hfuel
  exact ⟨h1, h2, by rw [h3]⟩

-- non-vacuity: the hypothesis on tm is satisfiable (by `tmSpec`, the specification's own value); a toom42 region with a recursive
-- last chunk at T = 1 (bn = 2 ≤ rn = 3: one toom42 chunk of 2 diagonals, last chunk of 1 diagonal by mpn_mulmid, add-back)
example : TmSpec 36 tmSpec := tmSpec_ok 36
example : mulmid 1 tmSpec 4 [B - 1, B - 1, B - 1, B - 1] 4 [B - 1, B - 1] = [2, B - 2, B - 1, B - 3, 1] := by decide +kernel
example : val (mulmid 1 tmSpec 4 [B - 1, B - 1, B - 1, B - 1] 4 [B - 1, B - 1]) = mpPairs [B - 1, B - 1, B - 1, B - 1] [B - 1, B - 1] := by
  decide +kernel

/-- The specification used by the theorems of this file is the formula of the C headers (mulmid.c:38): for m = |a| ≥ n = |b| ≥ 1,
    Σ_{0≤i<m, 0≤j<n, n-1 ≤ i+j ≤ m-1} a_i b_j B^(i+j-n+1) (`mpPairs`, a literal double sum over index pairs) equals the row form
    `mpW (m-n+1) a b` = Σ_j b_j · val {a + (n-1-j), m-n+1}. -/
theorem mp_pairs_spec (a b : List Nat) (hbn : 1 ≤ b.length) (hab : b.length ≤ a.length) :
    mpPairs a b = mpW (a.length - b.length + 1) a b := by
  rw [← pairsR_eq]
  simp only [mpPairs, pairsR]
  apply sum_map_congr'
  intro i
  apply sum_map_congr'
  intro j
  have e1 : (b.length - 1 ≤ i + j ∧ i + j ≤ a.length - 1) ↔
      (b.length - 1 ≤ i + j ∧ i + j < b.length - 1 + (a.length - b.length + 1)) := by omega
  simp only [e1]

example : mpPairs [1, 2, 3, 4] [5, 6] = 5 * 2 + 6 * 1 + (5 * 3 + 6 * 2) * B + (5 * 4 + 6 * 3) * B ^ 2 := by decide +kernel

/-- mpn_mulmid against the pair sum: operands of exactly an = |a| and bn = |b| limbs, an ≥ bn ≥ 1, bn < B:
    {rp, an-bn+3} = Σ_{bn-1 ≤ i+j ≤ an-1} a_i b_j B^(i+j-bn+1), exactly. -/
theorem mulmid_pairs_spec (T : Nat) (tm : List Nat → List Nat → Nat → List Nat) (htm : TmSpec T tm)
    (a b : List Nat) (ha : Limbs a) (hb : Limbs b) (hbn : 1 ≤ b.length) (han : b.length ≤ a.length) (hB : b.length < B) :
    val (mulmid T tm a.length a a.length b) = mpPairs a b ∧
    Limbs (mulmid T tm a.length a a.length b) ∧ (mulmid T tm a.length a a.length b).length = a.length - b.length + 3 := by
  rw [mp_pairs_spec a b hbn han]
  exact mulmid_spec T tm htm a.length a a.length b ha hb hbn han (le_refl _) hB (le_refl _)

example : val (mulmid 1 tmSpec 4 [B - 1, B - 1, B - 1, B - 1] 4 [B - 1, B - 1]) = mpPairs [B - 1, B - 1, B - 1, B - 1] [B - 1, B - 1] :=
  (mulmid_pairs_spec 1 tmSpec (tmSpec_ok 1) [B - 1, B - 1, B - 1, B - 1] [B - 1, B - 1] (by decide) (by decide) (by decide) (by decide)
    (by decide)).1

/-- FULL STATEMENT (not proved): `TmSpec (fun a b n => toom42 T n a b n)` for every n ≥ 4 (the C's ASSERT) and T ≥ 4.
    PROVED PART — the odd row and diagonal of mpn_toom42_mulmid (toom42_mulmid.c:208-232, `toomOdd`): for n ≥ 2 (odd n ≥ 5 in the C),
    if R = {rp, n+1} holds the cells already done, MP({ap+1, 2n-3}, {bp, n-1}) (the even sub-problem on the advanced ap and the low
    n-1 limbs of b), then after `cy = mpn_addmul_1 (rp, ap-1, n, bp[n-1]); ADDC_LIMB (rp[n+1], rp[n], rp[n], cy);
    mpn_mulmid_basecase (e, ap+n-1, n-1, bp, n-1); mpn_add_n (rp+n-1, rp+n-1, e, 3)` the n+2 limbs are MP({ap,2n-1},{bp,n})
    exactly (the ADDC and the 3-limb add lose no carry).  MISSING: the even core (interpolation, e0..e5 corrections, neg,
    evaluation) computing MP for n = 2m from the three half-size middle products. -/
theorem toom42_odd_fixup_partial (a b R : List Nat) (n : Nat) (ha : Limbs a) (hb : Limbs b) (hbl : b.length = n) (hn : 2 ≤ n)
    (hnB : n ≤ B) (hal : 2 * n - 1 ≤ a.length)
    (hR : val R = mpW (n - 1) (a.drop 1) (b.take (n - 1)) ∧ Limbs R ∧ R.length = n + 1) :
    val (toomOdd a b n R) = mpW n a b ∧ Limbs (toomOdd a b n R) ∧ (toomOdd a b n R).length = n + 2 := by
  obtain ⟨k, rfl⟩ : ∃ k, n = k + 1 := ⟨n - 1, by omega⟩
  simp only [Nat.add_sub_cancel] at hR
  exact toomOdd_isMP a b R k ha hb hbl (by omega) hnB hal hR

/-- FULL STATEMENT (not proved): `TmSpec T (fun a b n => toom42 T n a b n)` for T ≥ 4.
    PROVED: it follows from `EvenCore` alone — the statement that the even core `toomEven` (toom42_mulmid.c:66-205: transposed
    interpolation by add_err1_n / add_err2_n / sub_err2_n with the correction terms e0..e5, the neg flag, the three half-size middle
    products by a correct `recf`, the corrections applied in place, the sign adjustment and the transposed evaluation) returns
    {rp, 2m+2} = MP({ap, 4m-1}, {bp, 2m}) for m ≥ 2.  Proved here around it: the recursion on n / 2 (ASSERT (n >= 4) holds for the
    recursive calls because T ≥ 4), the threshold dispatch to mpn_mulmid_basecase, `ap += n & 1`, and the odd row and diagonal.
    MISSING: a proof of `EvenCore` (it is run against the library by op mm_toom42, every limb, n = 4..40 and recursive sizes).
    With it, `mulmid_n_spec` and `mulmid_spec` hold for the modelled callee instead of the stand-in `tmSpec`. -/
theorem toom42_mulmid_spec_partial (hcore : EvenCore) (T : Nat) (hT : 4 ≤ T) : TmSpec T (fun a b n => toom42 T n a b n) := by
  intro a b n ha hb hbl hn hTn hnB hal
  exact toom42_of_core hcore T hT n a b n ha hb hbl (by omega) hnB hal (le_refl _)

-- non-vacuity: n = 3 on all-ones operands, R computed by the basecase for the even sub-problem; and the whole model at n = 5, 4
example : toomOdd [B - 1, B - 1, B - 1, B - 1, B - 1] [B - 1, B - 1, B - 1] 3
    (mulmid_basecase [B - 1, B - 1, B - 1, B - 1] 3 [B - 1, B - 1]) = mulmid_basecase [B - 1, B - 1, B - 1, B - 1, B - 1] 5 [B - 1, B - 1, B - 1] := by
  decide +kernel
example : toom42 36 5 [1, 2, 3, 4, 5, 6, 7, 8, B - 1] [B - 1, 1, 2, 3, B - 2] 5 =
    mulmid_basecase [1, 2, 3, 4, 5, 6, 7, 8, B - 1] 9 [B - 1, 1, 2, 3, B - 2] := by decide +kernel
example : toom42 36 4 [1, 2, 3, B - 4, 5, 6, B - 1] [B - 1, 1, 2, B - 2] 4 =
    mulmid_basecase [1, 2, 3, B - 4, 5, 6, B - 1] 7 [B - 1, 1, 2, B - 2] := by decide +kernel

end Mpir.MulMid
