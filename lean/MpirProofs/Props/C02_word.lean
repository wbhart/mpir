/-
  C02 (word level) — the 64-bit division primitives of gmp-impl.h and the one-limb division kernels
  return the exact Euclidean quotient/remainder (or the documented exact-division result).
  Property theorems only; helper lemmas live in MpirProofs/Lemmas/DivWord*.lean.
  Every theorem is about the executable models in Mpir/Model/DivWord.lean, which the correspondence
  check runs against the real macros / mpn_* functions on every run.  B = 2^64; all statements
  quantify over ALL 64-bit words and ALL lengths.
-/
import MpirProofs.Lemmas.DivWordHensel
namespace Mpir.DivWord
open Mpir

/-- invert_limb (gmp-impl.h:2822): for every normalised d the macro returns ⌊(B²−1)/d⌋ − B. -/
theorem invert_limb_spec (d : Nat) (h1 : B / 2 ≤ d) (h2 : d < B) :
    invert_limb d = (B * B - 1) / d - B :=
  invert_limb_eq d h1 h2

example : invert_limb (B / 2) = B - 1 := by decide
example : invert_limb (B - 1) = 1 := by decide

/-- udiv_qrnnd_preinv (= udiv_qrnnd_preinv2, gmp-impl.h:2936, the variant used by mpn_mod_1,
    mpn_preinv_mod_1, mpn_divrem_euclidean_{qr,r}_1 and the preinv branches of mpn_divrem_1):
    for every normalised d, nh < d, any nl and di = invert_limb d the result is the exact
    quotient and remainder of nh·B + nl by d. -/
theorem udiv_qrnnd_preinv_spec (nh nl d di : Nat) (h1 : B / 2 ≤ d) (h2 : d < B) (hnh : nh < d) (hnl : nl < B)
    (hdi : di = invert_limb d) :
    udiv_qrnnd_preinv nh nl d di = ((nh * B + nl) / d, (nh * B + nl) % d) := by
  subst hdi; exact udiv_qrnnd_preinv2_eq nh nl d h1 h2 hnh hnl

example : udiv_qrnnd_preinv (B / 2) (B - 1) (B / 2 + 1) (invert_limb (B / 2 + 1)) = (B - 1, B / 2) := by decide

/-- udiv_qrnnd_preinv1 (gmp-impl.h:2907, the branching variant; `udiv_qrnnd_preinv` can be switched to it
    by one #define): same contract, all three correction branches. -/
theorem udiv_qrnnd_preinv1_spec (nh nl d di : Nat) (h1 : B / 2 ≤ d) (h2 : d < B) (hnh : nh < d) (hnl : nl < B)
    (hdi : di = invert_limb d) :
    udiv_qrnnd_preinv1 nh nl d di = ((nh * B + nl) / d, (nh * B + nl) % d) :=
  udiv_qrnnd_preinv1_eq nh nl d di h1 h2 hnh hnl hdi

example : udiv_qrnnd_preinv1 (B / 2) (B - 1) (B / 2 + 1) (invert_limb (B / 2 + 1)) = (B - 1, B / 2) := by decide

/-- mpir_invert_pi1 / invert_pi1 (gmp-impl.h:2831): for every normalised d1 and every d0 the macro
    returns the 3/2 reciprocal ⌊(B³−1)/(d1·B+d0)⌋ − B (all three adjustment branches covered). -/
theorem invert_pi1_spec (d1 d0 : Nat) (hnorm : B / 2 ≤ d1) (hd1 : d1 < B) (hd0 : d0 < B) :
    invert_pi1 d1 d0 = (B * B * B - 1) / (d1 * B + d0) - B :=
  invert_pi1_eq d1 d0 hnorm hd1 hd0

example : invert_pi1 (B / 2) 0 = B - 1 := by decide
example : invert_pi1 (B - 1) (B - 1) = 0 := by decide

/-- udiv_qr_3by2 (gmp-impl.h:2871): for all 64-bit words with d1 normalised, ⟨n2,n1⟩ < ⟨d1,d0⟩ and
    dinv = invert_pi1 d1 d0, q and ⟨r1,r0⟩ are the exact Euclidean quotient and remainder of
    n2·B²+n1·B+n0 by d1·B+d0 — including the second correction that random data reaches with
    probability ≈ 2^-64. -/
theorem udiv_qr_3by2_spec (n2 n1 n0 d1 d0 dinv : Nat) (hn2 : n2 < B) (hn1 : n1 < B) (hn0 : n0 < B)
    (hd1 : d1 < B) (hd0 : d0 < B) (hnorm : B / 2 ≤ d1) (hN : n2 * B + n1 < d1 * B + d0)
    (hdinv : dinv = invert_pi1 d1 d0) :
    udiv_qr_3by2 n2 n1 n0 d1 d0 dinv =
      ((n2 * B * B + n1 * B + n0) / (d1 * B + d0),
       ((n2 * B * B + n1 * B + n0) % (d1 * B + d0)) / B,
       ((n2 * B * B + n1 * B + n0) % (d1 * B + d0)) % B) :=
  udiv_qr_3by2_eq n2 n1 n0 d1 d0 dinv hn2 hn1 hn0 hd1 hd0 hnorm hN
    (by rw [hdinv]; exact invert_pi1_eq d1 d0 hnorm hd1 hd0)

-- non-vacuity: an input on which the second correction fires (found by the generator's search)
example : udiv_qr_3by2 0x800000000000002a 0xffffffffffffffa8 0xffffffffffffffff 0x800000000000002c 1
    (invert_pi1 0x800000000000002c 1) = (0xfffffffffffffffe, 0, 1) := by decide

/-- modlimb_invert (gmp-impl.h:3087): for every odd n the result is the inverse of n modulo B.
    The 128 table entries are checked by the kernel; each Newton step doubles the precision. -/
theorem modlimb_invert_spec (n : Nat) (hodd : n % 2 = 1) : n * modlimb_invert n % B = 1 :=
  modlimb_invert_mul n hodd

example : modlimb_invert 3 = 0xAAAAAAAAAAAAAAAB := by decide

/-- mpn_divrem_euclidean_qr_1 (assembly in this build, modelled by mpn/generic/divrem_euclidean_qr_1.c):
    quotient and remainder are exact for every length and every non-zero divisor. -/
theorem divrem_euclidean_qr_1_val (u : List Nat) (d : Nat) (hu : Limbs u) (hd0 : 0 < d) (hdB : d < B) :
    val (divrem_euclidean_qr_1 u d).1 * d + (divrem_euclidean_qr_1 u d).2 = val u ∧
    (divrem_euclidean_qr_1 u d).2 < d ∧ Limbs (divrem_euclidean_qr_1 u d).1 ∧
    (divrem_euclidean_qr_1 u d).1.length = u.length := by
  have := divrem_euclidean_qr_1_spec u d hu hd0 hdB
  simpa [Divrem1Spec] using this

example : divrem_euclidean_qr_1 [5, 7] 3 = ([0x5555555555555557, 2], 0) := by decide

/-- mpn_divrem_1 (mpn/generic/divrem_1.c): n·B^qxn = q·d + r, r < d, for all lengths, all fraction-limb
    counts and every non-zero divisor, on EVERY path of the function: normalised / unnormalised,
    plain (udiv_qrnnd) / preinv loops, mpn_divrem_euclidean_qr_1, and the Hensel path
    (divrem_1.c:102-108: remainder by mpn_divrem_euclidean_r_1 → mpn_mod_1_1/2/3 folding, quotient by the
    2-adic mpn_rsh_divrem_hensel_qr_1_1/_1_2 with on-the-fly right shift) — for every value of the
    thresholds in Gen/DivParams.lean. -/
theorem divrem_1_val (qxn : Nat) (u : List Nat) (d : Nat) (hu : Limbs u) (hd0 : 0 < d) (hdB : d < B) :
    val (divrem_1 qxn u d).1 * d + (divrem_1 qxn u d).2 = val u * B ^ qxn ∧
    (divrem_1 qxn u d).2 < d ∧ Limbs (divrem_1 qxn u d).1 ∧ (divrem_1 qxn u d).1.length = u.length + qxn :=
  divrem_1_spec qxn u d hu hd0 hdB

example : divrem_1 2 [7] 5 = ([0x6666666666666666, 0x6666666666666666, 1], 2) := by decide
example : divrem_1 1 [1, B - 1] (B - 1) = ([1, 0, 1], 1) := by decide
-- the Hensel path (30 limbs, d = 6): remainder by mod_1_3 folding, quotient by the 2-adic division shifted by 1
example : (divrem_1 0 (List.replicate 30 7) 6).2 = 3 := by decide
example : (divrem_1 0 (List.replicate 30 7) 6).1.head? = some 0xd555555555555556 := by decide

/-- mpn_mod_1 (mpn/generic/mod_1.c): the remainder, for all lengths and every non-zero divisor. -/
theorem mod_1_val (u : List Nat) (d : Nat) (hu : Limbs u) (hd0 : 0 < d) (hdB : d < B) :
    mod_1 u d = val u % d :=
  mod_1_eq u d hu hd0 hdB

example : mod_1 [5, 7, 11] 13 = 8 := by decide

/-- mpn_preinv_mod_1 (mpn/generic/preinv_mod_1.c): normalised d, dinv = invert_limb d. -/
theorem preinv_mod_1_val (u : List Nat) (d dinv : Nat) (hu : Limbs u) (h1 : B / 2 ≤ d) (h2 : d < B)
    (hdinv : dinv = invert_limb d) : preinv_mod_1 u d dinv = val u % d := by
  subst hdinv; exact preinv_mod_1_eq u d hu h1 h2

example : preinv_mod_1 [5, 7] (B - 1) (invert_limb (B - 1)) = 12 := by decide

/-- mpn_divexact_1 (mpn/generic/divexact_1.c): when d divides the dividend the result is the quotient. -/
theorem divexact_1_val (n : List Nat) (d : Nat) (hn : Limbs n) (hne : n ≠ []) (hd0 : 0 < d) (hdB : d < B)
    (hdvd : d ∣ val n) :
    val (divexact_1 n d) * d = val n ∧ Limbs (divexact_1 n d) ∧ (divexact_1 n d).length = n.length :=
  divexact_1_spec n d hn hne hd0 hdB hdvd

example : divexact_1 [B - 12, 11] 12 = [B - 1, 0] := by decide
example : divexact_1 [B - 7, 6] 7 = [B - 1, 0] := by decide

/-- mpn_divexact_by3c (assembly = mpn/generic/divexact_by3c.c): x + ret·B^n = 3·q + c with ret ∈ {0,1,2}
    ("(xp,n) = (qp,n)*3 - ret*B^n", with the carry-in c of a previous block), for every length. -/
theorem divexact_by3c_val (x : List Nat) (c : Nat) (hx : Limbs x) (hc : c ≤ 2) :
    val x + (divexact_by3c x c).2 * B ^ x.length = 3 * val (divexact_by3c x c).1 + c ∧
    (divexact_by3c x c).2 ≤ 2 ∧ Limbs (divexact_by3c x c).1 ∧ (divexact_by3c x c).1.length = x.length :=
  divexact_by3c_spec x c hx hc

example : divexact_by3c [1, 1] 0 = ([0xAAAAAAAAAAAAAAAB, 0x5555555555555555], 1) := by decide
example : divexact_by3c [B - 3, 2] 0 = ([B - 1, 0], 0) := by decide

/-- mpn_modexact_1c_odd (assembly, modelled by its dataflow) as documented in
    mpn/generic/modexact_1c_odd.c / gmp-impl.h: r·B^k + a − c = q·d with k = size, 0 ≤ r ≤ d, and
    r < d whenever c < d; for every length, every odd d and every carry-in c. -/
theorem modexact_1c_odd_val (a : List Nat) (d c : Nat) (ha : Limbs a) (hne : a ≠ []) (hodd : d % 2 = 1)
    (hdB : d < B) (hc : c < B) :
    ∃ q, val a + modexact_1c_odd a d c * B ^ a.length = q * d + c ∧
      modexact_1c_odd a d c ≤ d ∧ (c < d → modexact_1c_odd a d c < d) :=
  modexact_1c_odd_spec a d c ha hne hodd hdB hc

example : modexact_1c_odd [10, 0] 7 0 = 1 := by decide

/-- mpn_divrem_euclidean_r_1 (mpn/generic/divrem_euclidean_r_1.c, incl. mpn_mod_1_1/2/3_wrap and the
    mpn_mod_1_k folding with precomputed B^k mod d): the remainder, on every branch, for all lengths. -/
theorem divrem_euclidean_r_1_val (u : List Nat) (d : Nat) (hu : Limbs u) (hd0 : 0 < d) (hdB : d < B) :
    divrem_euclidean_r_1 u d = val u % d :=
  divrem_euclidean_r_1_spec u d hu hd0 hdB

example : divrem_euclidean_r_1 [1, 2, 3, 4, 5, 6, 7, 8, 9, 10, 11, 12, 13, 14] 1000003 = 616440 := by decide

/-- mpn_rsh_divrem_hensel_qr_1 (_1_1 below RSH_DIVREM_HENSEL_QR_1_THRESHOLD, else _1_2): for odd d,
    x + ret·B^n = Q·d + cin with Q < B^n, and the limbs written are ⌊Q / 2^s⌋. -/
theorem rsh_divrem_hensel_qr_1_val (x : List Nat) (d s cin : Nat) (hx : Limbs x) (hne : x ≠ [])
    (hodd : d % 2 = 1) (hdB : d < B) (hs : s ≤ 63) (hcin : cin < B) :
    ∃ Q, val x + (rsh_divrem_hensel_qr_1 x d s cin).2 * B ^ x.length = Q * d + cin ∧ Q < B ^ x.length ∧
      val (rsh_divrem_hensel_qr_1 x d s cin).1 = Q / 2 ^ s ∧ Limbs (rsh_divrem_hensel_qr_1 x d s cin).1 ∧
      (rsh_divrem_hensel_qr_1 x d s cin).1.length = x.length :=
  rsh_divrem_hensel_qr_1_spec x d s cin hx hne hodd hdB hs hcin

example : rsh_divrem_hensel_qr_1 [21, 0] 7 0 0 = ([3, 0], 0) := by decide

end Mpir.DivWord
