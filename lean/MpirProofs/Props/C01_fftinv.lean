/-
  C01 (the matrix Fourier multiplication) — what the value-level models of Mpir/Model/FftMfa.lean and the inverse
  twiddled column transforms of Mpir/Model/FftX.lean compute (statement-by-statement mirrors of
  fft/ifft_mfa_trunc_sqrt2.c, fft_mfa_trunc_sqrt2.c (outer), fft_mfa_trunc_sqrt2_inner.c, mul_mfa_trunc_sqrt2.c,
  mul_fft_main.c; run against the real functions on every check).  Property theorems only; lemmas in
  MpirProofs/Lemmas/FftXMfa, FftXMfaFull.

  Notation as in Props/C01_fftx.lean: a transform of 2n = 2^(d+1) entries with shift w works modulo
  p = 2^(n·w) + 1 = `pOf (2^d*w)`; `el xs i` is `ii[i]`; `rev b k` reverses the low b bits (= mpir_revbin).
  A column transform of the MFA is called with (w, ws, r, c, rs) = (w·n1, w, 0, column, 1): the twiddle exponents
  (r + rs·i)·c·ws stay below 2·n·w, which is the hypothesis `hb` (the C's butterflies need b1, b2 < 2·n·w).

  Theorems:
    ifft_radix2_twiddle_inverts     mpir_ifft_radix2_twiddle ∘ mpir_fft_radix2_twiddle = 2n (every depth, r, c, rs, ws)
    ifft_trunc1_twiddle_recovers    the truncated twiddled inverse recovers the first `trunc` coefficients (2n-fold)
    ifft_mfa_trunc_sqrt2_inverts    mpir_ifft_mfa_trunc_sqrt2 ∘ mpir_fft_mfa_trunc_sqrt2 = 4n on the entries below `trunc`
    ifft_mfa_outer_recovers         the column passes of the inverse MFA, applied to k times the column-transformed
                                    matrices, give k·n2·2/(4n) times the coefficients
    mfa_convolution_chain           outer, inner (row transforms, mpn_mulmod_Bexpp1, inverse row transforms), inverse
                                    outer ≡ the acyclic convolution
    mul_mfa_trunc_sqrt2_val         limbs → split → … → combine = the product, under `FftParams.Sound`, depth ≥ 2
    mul_fft_main_val                BOTH paths of mpn_mul_fft_main return the product, for all operand lengths
-/
import MpirProofs.Lemmas.FftXMfaFull
import MpirProofs.Lemmas.FftXMul
import MpirProofs.Lemmas.FftParams
import Mpir.Gen.Params
namespace Mpir.FftX
open Mpir Finset

/-! ### the inverse twiddled column transforms -/

/-- mpir_ifft_radix2_twiddle applied to values congruent to those of mpir_fft_radix2_twiddle (same w, ws, r, c, rs)
    returns the 2n-fold coefficients: the inverse column transform of the matrix Fourier algorithm undoes the forward
    one, twiddles included, up to the scaling that the callers remove at the end. -/
theorem ifft_radix2_twiddle_inverts (d w ws r c rs : Nat) (hd : 64 ∣ 2 ^ d * w)
    (hb : (r + rs * (2 ^ (d + 1) - 1)) * c * ws ≤ 2 * (2 ^ d * w)) (xs ys : List Int)
    (h : ∀ m < 2 ^ (d + 1), el ys m ≡ el (fft_radix2_twiddle d w ws r c rs xs) m [ZMOD pOf (2 ^ d * w)])
    (j : Nat) (hj : j < 2 ^ (d + 1)) :
    el (ifft_radix2_twiddle d w ws r c rs ys) j ≡ 2 ^ (d + 1) * el xs j [ZMOD pOf (2 ^ d * w)] :=
  (recovers_ifft_radix2_twiddle d w ws r c rs hd (zmod_two_pow_sq _) hb 1).modEq xs ys h
    (fun _ a b => absurd b (Nat.not_lt.mpr a)) j hj

-- non-vacuity: 4 entries modulo 2^64+1, column 3, z = 2^4: the twiddles 2^0, 2^24 (r = 0, rs = 1 at the leaves: rows 0, 2 | 1, 3)
example : (0 + 1 * (2 ^ (1 + 1) - 1)) * 3 * 4 ≤ 2 * (2 ^ 1 * 32) := by decide
example : (ifft_radix2_twiddle 1 32 4 0 3 1 (fft_radix2_twiddle 1 32 4 0 3 1 [1, 2, 3, 4])).map (· % pOf 64) = [4, 8, 12, 16] := by
  decide +kernel
example : (fft_radix2_twiddle 1 32 4 0 3 1 [1, 2, 3, 4]).map (· % pOf 64) ≠ (fft_radix2 1 32 [1, 2, 3, 4]).map (· % pOf 64) := by
  decide +kernel

/-- mpir_ifft_trunc1_twiddle: given the first `trunc` values of the twiddled column transform of x and, in the places
    from `trunc` on, the 2n-fold coefficients themselves, it returns the 2n-fold first `trunc` coefficients (the
    twiddled analogue of `ifft_trunc1_recovers`; the columns of the second half matrix). -/
theorem ifft_trunc1_twiddle_recovers (d w ws r c rs trunc : Nat) (ht : TruncOk d trunc) (hd : 64 ∣ 2 ^ d * w) (hw : 1 ≤ w)
    (hb : (r + rs * (2 ^ (d + 1) - 1)) * c * ws ≤ 2 * (2 ^ d * w)) (xs ys : List Int)
    (h1 : ∀ k < trunc, el ys k ≡ el (fft_radix2_twiddle d w ws r c rs xs) k [ZMOD pOf (2 ^ d * w)])
    (h2 : ∀ j, trunc ≤ j → j < 2 ^ (d + 1) → el ys j ≡ 2 ^ (d + 1) * el xs j [ZMOD pOf (2 ^ d * w)])
    (j : Nat) (hj : j < trunc) :
    el (ifft_trunc1_twiddle d w ws r c rs trunc ys) j ≡ 2 ^ (d + 1) * el xs j [ZMOD pOf (2 ^ d * w)] :=
  (recovers_ifft_trunc1_twiddle d w ws r c rs trunc ht hd hw (zmod_two_pow_sq _) hb 1).modEq xs ys h1 h2 j hj

-- non-vacuity: 8 entries modulo 2^64+1, trunc = 6: six transform values and the two 8-fold coefficients 8·7, 8·8
example : TruncOk 2 6 := by unfold TruncOk; decide
example : ((ifft_trunc1_twiddle 2 16 2 0 3 1 6
    ((fft_radix2_twiddle 2 16 2 0 3 1 [1, 2, 3, 4, 5, 6, 7, 8]).take 6 ++ [56, 64])).take 6).map (· % pOf 64) =
    [8, 16, 24, 32, 40, 48] := by decide +kernel

/-! ### the inverse matrix Fourier transform -/

/-- mpir_ifft_mfa_trunc_sqrt2 inverts mpir_fft_mfa_trunc_sqrt2: for a coefficient vector xs (4n entries, zero from `trunc`
    on — the precondition of the forward transform) and any array ys that is congruent to the forward transform of xs in
    the places that the forward transform defines — the whole first half matrix and the rows rev s, s < (trunc − 2n)/n1, of
    the second half — the inverse returns the 4n-fold coefficients in every place below `trunc` (whatever the other
    entries of ys hold).  n1 = 2^(e1+1) columns, n2 = 2^(e2+1) rows, n = n1·n2/2, trunc a multiple of 2·n1 in (2n, 4n].
    Row passes (revbin swaps + mpir_ifft_radix2) undo the row transforms, column passes (revbin swaps +
    mpir_ifft_radix2_twiddle / mpir_ifft_trunc1_twiddle, the recomputed entries, the inverse √2 layer) the column ones. -/
theorem ifft_mfa_trunc_sqrt2_inverts (e1 e2 w trunc : Nat) (hd : 64 ∣ 2 ^ (e1 + e2 + 1) * w) (hw : 1 ≤ w)
    (ht : TruncSOk (e1 + e2 + 1) trunc) (hdiv : 2 * 2 ^ (e1 + 1) ∣ trunc)
    (xs : List Int) (hxl : xs.length = 4 * 2 ^ (e1 + e2 + 1)) (hz0 : ∀ j, trunc ≤ j → el xs j = 0)
    (ys : List Int) (hyl : ys.length = 4 * 2 ^ (e1 + e2 + 1))
    (h1 : ∀ j < 2 ^ (e2 + 1), ∀ t < 2 ^ (e1 + 1), el ys (j * 2 ^ (e1 + 1) + t) ≡
      el (fft_mfa_trunc_sqrt2 (e1 + e2 + 1) w (2 ^ (e1 + 1)) trunc xs) (j * 2 ^ (e1 + 1) + t)
      [ZMOD pOf (2 ^ (e1 + e2 + 1) * w)])
    (h2 : ∀ s < (trunc - 2 * 2 ^ (e1 + e2 + 1)) / 2 ^ (e1 + 1), ∀ t < 2 ^ (e1 + 1),
      el ys (2 * 2 ^ (e1 + e2 + 1) + rev (e2 + 1) s * 2 ^ (e1 + 1) + t) ≡
      el (fft_mfa_trunc_sqrt2 (e1 + e2 + 1) w (2 ^ (e1 + 1)) trunc xs)
        (2 * 2 ^ (e1 + e2 + 1) + rev (e2 + 1) s * 2 ^ (e1 + 1) + t) [ZMOD pOf (2 ^ (e1 + e2 + 1) * w)])
    (p : Nat) (hp : p < trunc) :
    el (ifft_mfa_trunc_sqrt2 (e1 + e2 + 1) w (2 ^ (e1 + 1)) trunc ys) p ≡ 2 ^ (e1 + e2 + 1 + 2) * el xs p
      [ZMOD pOf (2 ^ (e1 + e2 + 1) * w)] := by
  obtain ⟨hN, _⟩ := mfa_dims e1 e2
  apply (zmod_eq_iff _ _ _).mp
  have := ifft_mfa_inverts (Int.castRingHom (ZMod (2 ^ (2 ^ (e1 + e2 + 1) * w) + 1))) e1 e2 w trunc hd hw (zmod_two_pow _)
    ht hdiv xs hxl hz0 ys hyl (fun j hj t htt => (zmod_eq_iff _ _ _).mpr (h1 j hj t htt))
    (fun s hs t htt => by rw [hN]; exact (zmod_eq_iff _ _ _).mpr (h2 s hs t htt)) p hp
  rw [this]; simp

-- non-vacuity: depth 3 (n = 8, 32 entries modulo 2^64+1, w = 8), n1 = 4, n2 = 4, trunc = 24 (two relevant rows of the second
-- half: rows 0 and 2); every other entry of the second half replaced by garbage
example : TruncSOk 3 24 := by unfold TruncSOk; decide
example : let x : List Int := (List.range 24).map (fun i => ((i : Int) + 3) * 1000003) ++ List.replicate 8 0
    let y := fft_mfa_trunc_sqrt2 3 8 4 24 x
    let y' := (List.range 32).map fun k => if k < 16 ∨ (16 ≤ k ∧ k < 20) ∨ (24 ≤ k ∧ k < 28) then el y k else 77 - (k : Int)
    ((ifft_mfa_trunc_sqrt2 3 8 4 24 y').take 24).map (fun v => v * 2 ^ (128 - 5) % pOf 64) = x.take 24 := by decide +kernel

/-! ### the column passes of the inverse matrix Fourier transform -/

/-- mpir_ifft_mfa_trunc_sqrt2_outer with n1 = 2^(e1+1) columns, n2 = 2^(e2+1) rows, n = n1·n2/2: let x be a coefficient
    vector that vanishes (modulo p) from `trunc` on, and let the array hold K times the column-transformed matrices of x —
    first half: `mfaCol` of the first-layer sums x[u] + x[2n+u]; second half, rows rev s for s < trunc2: `mfaCol` of the
    twiddled first-layer differences.  Then the first half comes out as 2·K·n2·x[u]·2^(−(depth+depth2+1)) for all
    u < 2n, and the second half as 2·K·n2·x[2n+u]·2^(−(depth+depth2+1)) for u < trunc − 2n: the column passes (revbin
    swaps, inverse twiddled transforms, recomputation of the entries beyond `trunc`, the inverse √2 layer) invert the
    column passes of the forward transform.  With K = n1 (what the row passes leave) the factor is 1. -/
theorem ifft_mfa_outer_recovers (e1 e2 w trunc : Nat) (hd : 64 ∣ 2 ^ (e1 + e2 + 1) * w) (hw : 1 ≤ w)
    (ht : TruncSOk (e1 + e2 + 1) trunc) (hdiv : 2 * 2 ^ (e1 + 1) ∣ trunc)
    (x : List Int) (h0 : ∀ j, trunc ≤ j → j < 4 * 2 ^ (e1 + e2 + 1) → el x j ≡ 0 [ZMOD pOf (2 ^ (e1 + e2 + 1) * w)])
    (K : Int) (R : List Int) (hlen : R.length = 4 * 2 ^ (e1 + e2 + 1))
    (hR1 : ∀ i < 2 ^ (e1 + 1), ∀ j < 2 ^ (e2 + 1), el R (i + j * 2 ^ (e1 + 1)) ≡
      K * el (mfaCol e2 w (2 ^ (e1 + 1)) (layerSums (2 ^ (e1 + e2 + 1)) x) i) j [ZMOD pOf (2 ^ (e1 + e2 + 1) * w)])
    (hR2 : ∀ i < 2 ^ (e1 + 1), ∀ s < (trunc - 2 * 2 ^ (e1 + e2 + 1)) / 2 ^ (e1 + 1),
      el R (2 * 2 ^ (e1 + e2 + 1) + i + rev (e2 + 1) s * 2 ^ (e1 + 1)) ≡
        K * el (mfaCol e2 w (2 ^ (e1 + 1)) (layerDiffs (2 ^ (e1 + e2 + 1)) w x) i) (rev (e2 + 1) s)
        [ZMOD pOf (2 ^ (e1 + e2 + 1) * w)]) :
    (∀ i < 2 ^ (e1 + 1), ∀ j < 2 ^ (e2 + 1),
      el (ifft_mfa_trunc_sqrt2_outer (e1 + e2 + 1) w (2 ^ (e1 + 1)) trunc R) (i + j * 2 ^ (e1 + 1)) ≡
        2 * (K * 2 ^ (e2 + 1)) * el x (i + j * 2 ^ (e1 + 1)) *
          2 ^ (2 * (2 ^ (e1 + e2 + 1) * w) - (e2 + 1 + (e1 + 1) + 1)) [ZMOD pOf (2 ^ (e1 + e2 + 1) * w)]) ∧
    (∀ i < 2 ^ (e1 + 1), ∀ m < (trunc - 2 * 2 ^ (e1 + e2 + 1)) / 2 ^ (e1 + 1),
      el (ifft_mfa_trunc_sqrt2_outer (e1 + e2 + 1) w (2 ^ (e1 + 1)) trunc R)
          (2 * 2 ^ (e1 + e2 + 1) + i + m * 2 ^ (e1 + 1)) ≡
        2 * (K * 2 ^ (e2 + 1)) * el x (2 * 2 ^ (e1 + e2 + 1) + (i + m * 2 ^ (e1 + 1))) *
          2 ^ (2 * (2 ^ (e1 + e2 + 1) * w) - (e2 + 1 + (e1 + 1) + 1)) [ZMOD pOf (2 ^ (e1 + e2 + 1) * w)]) := by
  obtain ⟨hN, _⟩ := mfa_dims e1 e2
  obtain ⟨O1, O2⟩ := ifft_mfa_outer_spec (Int.castRingHom (ZMod (2 ^ (2 ^ (e1 + e2 + 1) * w) + 1))) e1 e2 w trunc hd hw
    (zmod_two_pow _) ht hdiv x (fun j a b => by have := (zmod_eq_iff _ _ _).mpr (h0 j a b); rw [this]; simp)
    ((Int.castRingHom (ZMod (2 ^ (2 ^ (e1 + e2 + 1) * w) + 1))) K) R hlen
    (fun i hi j hj => by rw [(zmod_eq_iff _ _ _).mpr (hR1 i hi j hj), map_mul])
    (fun i hi s hs => by rw [hN, (zmod_eq_iff _ _ _).mpr (hR2 i hi s hs), map_mul])
  constructor
  · intro i hi j hj
    apply (zmod_eq_iff _ _ _).mp
    rw [O1 i hi j hj]; simp
  · intro i hi m hm
    apply (zmod_eq_iff _ _ _).mp
    have := O2 i hi m hm
    rw [hN] at this
    rw [this]; simp

/-! ### the convolution theorem as the matrix Fourier multiplier uses it -/

/-- Transform both (zero-padded, 4n entries) coefficient vectors with mpir_fft_mfa_trunc_sqrt2_outer, convolve the rows
    with mpir_fft_mfa_trunc_sqrt2_inner (row transforms, normalise, mpn_mulmod_Bexpp1, inverse row transforms),
    transform back with mpir_ifft_mfa_trunc_sqrt2_outer (which also divides by 4n): every entry below `trunc` is
    congruent to the acyclic convolution Σ_{i+k=j} a_i·b_k, provided it fits (j1 + j2 − 1 ≤ trunc).
    n1 = 2^(e1+1) columns, n2 = 2^(e2+1) rows, depth = e1+e2+1, trunc a multiple of 2·n1 in (2n, 4n]. -/
theorem mfa_convolution_chain (e1 e2 w L trunc j1 j2 : Nat) (a b : List Int) (hL : 2 ^ (e1 + e2 + 1) * w = 64 * L)
    (hw : 1 ≤ w) (hla : a.length = 4 * 2 ^ (e1 + e2 + 1)) (hlb : b.length = 4 * 2 ^ (e1 + e2 + 1))
    (ht : TruncSOk (e1 + e2 + 1) trunc) (hdiv : 2 * 2 ^ (e1 + 1) ∣ trunc)
    (ha : ∀ i, j1 ≤ i → el a i = 0) (hb : ∀ k, j2 ≤ k → el b k = 0)
    (hj1 : 1 ≤ j1) (hj2 : 1 ≤ j2) (hJ : j1 + j2 ≤ trunc + 1) (j : Nat) (hj : j < trunc) :
    el (ifft_mfa_trunc_sqrt2_outer (e1 + e2 + 1) w (2 ^ (e1 + 1)) trunc
        (fft_mfa_trunc_sqrt2_inner (e1 + e2 + 1) w (2 ^ (e1 + 1)) trunc
          (fft_mfa_trunc_sqrt2_outer (e1 + e2 + 1) w (2 ^ (e1 + 1)) trunc a)
          (fft_mfa_trunc_sqrt2_outer (e1 + e2 + 1) w (2 ^ (e1 + 1)) trunc b))) j
      ≡ ∑ i ∈ range (j + 1), el a i * el b (j - i) [ZMOD pOf (64 * L)] := by
  have := mfa_conv_chain e1 e2 w L trunc j1 j2 a b hL hw hla hlb ht hdiv ha hb hj1 hj2 hJ j hj
  rwa [el_conv _ _ _ _ (by obtain ⟨_, _, h⟩ := ht; omega)] at this

-- non-vacuity: depth 2 (n = 4, 16 entries modulo 2^64+1, w = 16), n1 = 2, n2 = 4, trunc = 12: (1 + 2X + 3X²)·(5 + 7X)
example : TruncSOk 2 12 := by unfold TruncSOk; decide
example : let a : List Int := [1, 2, 3] ++ List.replicate 13 0
    let b : List Int := [5, 7] ++ List.replicate 14 0
    ((ifft_mfa_trunc_sqrt2_outer 2 16 2 12 (fft_mfa_trunc_sqrt2_inner 2 16 2 12
      (fft_mfa_trunc_sqrt2_outer 2 16 2 12 a) (fft_mfa_trunc_sqrt2_outer 2 16 2 12 b))).take 12).map (· % pOf 64) =
    [5, 17, 29, 21, 0, 0, 0, 0, 0, 0, 0, 0] := by decide +kernel

/-- mpn_mul_mfa_trunc_sqrt2 (the model: mpir_fft_split_bits, the outer forward pass on both operands, the inner pass, the
    outer inverse pass, mpir_fft_combine_bits — limb-level models for split / mpn_mulmod_Bexpp1 / combine, value-level for
    the transforms): for parameters satisfying `FftParams.Sound` (what `fft_params_sound` proves about the selection in
    mpn_mul_fft_main) and depth ≥ 2 (so that sqrt = 2^(depth/2) ≥ 2 columns: for depth < 2 the C's row transforms are
    called with n = 0 and do not terminate) the result is the (n1+n2)-limb product. -/
theorem mul_mfa_trunc_sqrt2_val (i1 i2 : List Nat) (depth w : Nat) (hi1 : Limbs i1) (hi2 : Limbs i2)
    (hn1 : 1 ≤ i1.length) (hn2 : 1 ≤ i2.length) (hdep : 2 ≤ depth)
    (hs : FftParams.Sound i1.length i2.length ⟨true, depth, w⟩) :
    (mul_mfa_trunc_sqrt2 i1 i2 depth w).length = i1.length + i2.length ∧ Limbs (mul_mfa_trunc_sqrt2 i1 i2 depth w) ∧
    val (mul_mfa_trunc_sqrt2 i1 i2 depth w) = val i1 * val i2 :=
  mul_mfa_trunc_sqrt2_spec i1 i2 depth w hi1 hi2 hn1 hn2 hdep hs

-- non-vacuity: a 2×1-limb product through 16 coefficients modulo 2^64+1 (depth 2, sqrt = 2)
example : FftParams.Sound 2 1 ⟨true, 2, 16⟩ := by decide
example : mul_mfa_trunc_sqrt2 [0xfedcba9876543210, 0x123456789abcdef] [0xffffffffffffffff] 2 16 =
    [0x123456789abcdf0, 0xfdb97530eca86420, 0x123456789abcdef] := by decide +kernel

/-- mpn_mul_fft_main, BOTH paths: for every admissible tuning table and all operand lengths n1, n2 ≥ 1 the parameter
    selection terminates and the multiplier it selects — mpn_mul_trunc_sqrt2 below depth 11 of the first loop,
    mpn_mul_mfa_trunc_sqrt2 (always with depth ≥ 10) otherwise — returns the (n1+n2)-limb product. -/
theorem mul_fft_main_val (tab : List (List Int))
    (htab : ∀ d w, 6 ≤ d → d < 11 → (w = 1 ∨ w = 2) → FftParams.tabGet tab d w ≤ 4)
    (i1 i2 : List Nat) (hi1 : Limbs i1) (hi2 : Limbs i2) (hn1 : 1 ≤ i1.length) (hn2 : 1 ≤ i2.length) :
    ∃ r, mul_fft_main tab i1 i2 = some r ∧ r.length = i1.length + i2.length ∧ Limbs r ∧ val r = val i1 * val i2 := by
  obtain ⟨c, hc, hs⟩ := FftParams.fftParams_sound tab htab i1.length i2.length hn1 hn2
  unfold mul_fft_main
  rw [hc]
  obtain ⟨mfa, depth, w⟩ := c
  cases mfa with
  | false =>
    simp only [Bool.false_eq_true, if_false]
    exact ⟨_, rfl, mul_trunc_sqrt2_spec i1 i2 depth w hi1 hi2 hn1 hn2 hs⟩
  | true =>
    simp only [if_true]
    have hdep := FftParams.fftParams_mfa_depth tab i1.length i2.length depth w hc
    exact ⟨_, rfl, mul_mfa_trunc_sqrt2_val i1 i2 depth w hi1 hi2 hn1 hn2 (by omega) hs⟩

-- non-vacuity: the table extracted from the tree under check is admissible; an MFA-sized and an FFT-sized instance
example : ∃ r, mul_fft_main Mpir.Gen.params.FFT_TAB (List.replicate 40000 (B - 1)) (List.replicate 30000 7) = some r ∧
    r.length = 40000 + 30000 ∧ Limbs r ∧ val r = val (List.replicate 40000 (B - 1)) * val (List.replicate 30000 7) := by
  have h := mul_fft_main_val _ FftParams.fftTab_le_four (List.replicate 40000 (B - 1)) (List.replicate 30000 7)
    (fun x hx => by rw [List.eq_of_mem_replicate hx]; unfold B; norm_num)
    (fun x hx => by rw [List.eq_of_mem_replicate hx]; unfold B; norm_num)
    (by rw [List.length_replicate]; norm_num) (by rw [List.length_replicate]; norm_num)
  rw [List.length_replicate, List.length_replicate] at h
  exact h
example : ∃ c, FftParams.fftParams Mpir.Gen.params.FFT_TAB 40000 30000 = some c ∧ c.mfa = true := by decide

end Mpir.FftX
