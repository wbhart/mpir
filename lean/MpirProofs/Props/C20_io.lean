/-
  C20 (part c20_cxxio) — stream insertion / extraction of the C++ interface.
  Property theorems only; helper lemmas live in MpirProofs/Lemmas/CxxIo.lean and CxxIo2.lean.  Every theorem is about the executable
  model in Mpir/Model/CxxIo.lean (a statement-by-statement mirror of cxx/is*.cc and cxx/os*.cc over a model of
  std::istringstream / std::ostringstream), which the correspondence run executes against the real operators
  (tools/cxxio_driver.cc) on every check.
-/
import MpirProofs.Lemmas.CxxIo2
namespace Mpir.CxxIo
open Mpir.Printf

/-! ## (a) insertion -/

/-- `insertZ_layout`: `o << z` for every stream state, every combination of flags, every width (also negative), every fill
    character and every integer: the width is reset to 0 and what is handed to `o.write` is
    [padding] sign prefix [padding] digits [padding], with
      sign   = "-" for z < 0, "+" under showpos, else nothing;
      prefix = "0x"/"0X" under showbase on a hex stream (also for 0), "0" under showbase on an octal stream for z ≠ 0;
      digits = |z| in base 16 / 8 when exactly that basefield bit is set, else base 10 (more than one bit = decimal),
               upper case on a hex stream with `uppercase`;
      padding = width − length fill characters, after the digits under `left`, between prefix and digits under `internal`
               (each alone in adjustfield), before the sign otherwise.
    Every byte of it is written, also NUL fill characters (since /repo 2def0d3; before, gmp_allocated_string took strlen
    of the formatted text, a NUL fill character truncated the output and the buffer was freed with the wrong size).
    A stream that is not good() receives nothing (`OStream.write`). -/
theorem insertZ_layout (o : OStream) (z : Int) :
    insertZ o z = ({ o with width := 0 } : OStream).write (fieldLayout o.fmt o.width o.fill
        (signStr o.fmt (decide (z < 0))) (prefixStr o.fmt (decide (z = 0)))
        (natDigits o.fmt.outBase o.fmt.outUpper z.natAbs)) :=
  insertZ_eq o z

-- non-vacuity: internal adjustment with showbase, negative number, '*' fill; octal zero; two basefield bits = decimal
example : (insertZ { fmt := { dec := false, hex := true, showbase := true, internal := true }, width := 10, fill := '*' } (-255)).out = "-0x*****ff".toList ∧
    (insertZ { fmt := { dec := false, oct := true, showbase := true, showpos := true, left := true }, width := 4, fill := '.' } 0).out = "+0..".toList ∧
    (insertZ { fmt := { dec := true, hex := true, showbase := true, uppercase := true } } 255).out = "255".toList ∧
    (insertZ { fmt := { dec := false, hex := true, showbase := true, uppercase := true } } 255).out = "0XFF".toList := by
  decide +kernel
-- a NUL fill character is written like any other (it used to truncate the output: nothing at all under right adjustment)
example : (insertZ { width := 5, fill := '\x00' } 7).out = ['\x00', '\x00', '\x00', '\x00', '7'] ∧
    (insertZ { width := 5, fill := '\x00', fmt := { left := true } } 7).out = ['7', '\x00', '\x00', '\x00', '\x00'] := by
  decide +kernel

/-- `insertQ_layout`: `o << q` for a rational with positive denominator: as `insertZ_layout` for the numerator, the
    digits being followed, unless the denominator is 1, by "/" and the denominator with a base prefix of its own;
    the padding counts the whole text and `internal` padding goes after the numerator's prefix. -/
theorem insertQ_layout (o : OStream) (n d : Int) (hd : 0 < d) :
    insertQ o n d = ({ o with width := 0 } : OStream).write (fieldLayout o.fmt o.width o.fill
        (signStr o.fmt (decide (n < 0))) (prefixStr o.fmt (decide (n = 0)))
        (natDigits o.fmt.outBase o.fmt.outUpper n.natAbs ++
          (if d = 1 then [] else '/' :: (prefixStr o.fmt false ++ natDigits o.fmt.outBase o.fmt.outUpper d.natAbs)))) :=
  insertQ_eq o n d hd

example : (insertQ { fmt := { dec := false, hex := true, showbase := true, internal := true }, width := 14, fill := '_' } (-255) 16).out = "-0x____ff/0x10".toList ∧
    (insertQ { fmt := { dec := false, oct := true, showbase := true } } 0 8).out = "0/010".toList ∧
    (insertQ { fmt := { showpos := true } } 5 1).out = "+5".toList := by
  decide +kernel

/-- `insert_width_reset`: after `o << x` (mpz, mpq, mpf) the stream's width is 0, whatever its state was, and nothing
    else of the formatting state changes. -/
theorem insert_width_reset (o : OStream) (z n d : Int) (fprec : Nat) (neg : Bool) (limbs : List Nat) (fexp : Int) :
    (insertZ o z).width = 0 ∧ (insertQ o n d).width = 0 ∧ (∀ r, insertF o fprec neg limbs fexp = some r → r.width = 0) ∧
    (insertZ o z).fmt = o.fmt ∧ (insertZ o z).fill = o.fill ∧ (insertZ o z).precision = o.precision ∧
    (insertQ o n d).fmt = o.fmt ∧ (insertQ o n d).fill = o.fill ∧ (insertQ o n d).precision = o.precision := by
  have hw : ∀ (o' : OStream) (t : List Char), (o'.write t).width = o'.width ∧ (o'.write t).fmt = o'.fmt ∧
      (o'.write t).fill = o'.fill ∧ (o'.write t).precision = o'.precision := by
    intro o' t; unfold OStream.write; split_ifs <;> simp
  refine ⟨?_, ?_, ?_, ?_, ?_, ?_, ?_, ?_, ?_⟩
  · exact (hw _ _).1
  · exact (hw _ _).1
  · intro r hr
    unfold insertF at hr
    simp only at hr
    split_ifs at hr
    cases hr
    exact (hw _ _).1
  · exact (hw _ _).2.1
  · exact (hw _ _).2.2.1
  · exact (hw _ _).2.2.2
  · exact (hw _ _).2.1
  · exact (hw _ _).2.2.1
  · exact (hw _ _).2.2.2

example : (insertZ { width := 12 } 5).width = 0 ∧ (insertZ { width := 12, fail := true } 5).width = 0 ∧
    (insertZ { width := 12, fail := true } 5).out = [] := by decide +kernel

/-! ## (b) extraction -/

/-- `extractZ_spec`: `i >> z` on a good stream over the text `t`, for every setting of basefield and skipws, is the
    grammar `specZ`: white space (under skipws), an optional sign, then — in the base basefield names, or with 0x/0X
    (hex) and 0 (octal) prefixes detected when basefield has no single bit — the LONGEST run of digits of that base
    (`List.takeWhile`).  Exactly those characters stay consumed (`after`: the character that stopped the scan is put
    back; `done`/`rest` always recompose the text), the value is that of the digit string, failbit is set exactly when
    there was no digit (eofbit with it if the text ended there); after a successful read the state is good() even at
    the end of the text (the code clears eofbit). -/
theorem extractZ_spec (f : Fmt) (t : List Char) : extractZ (mkG t [] f) = specZ f t := by
  rw [extractZ_at f t []]; simp [specZ]

-- non-vacuity: one character put back; "0x" alone consumes both characters and fails; octal zero; "-" alone
example : extractZ (mkG "  -0x1Fg".toList [] { dec := false }) =
    ({ rest := ['g'], done := "  -0x1F".toList.reverse, fmt := { dec := false } }, .value (-31)) := by decide +kernel
example : (extractZ (mkG "0x".toList [] { dec := false })).2 = .unchanged ∧ (extractZ (mkG "0x".toList [] { dec := false })).1.pos = 2 ∧
    (extractZ (mkG "0x".toList [] { dec := false })).1.eof = true ∧ (extractZ (mkG "0x".toList [] { dec := false })).1.fail = true := by
  decide +kernel
example : extractZ (mkG "08".toList [] { dec := false }) = ({ rest := ['8'], done := ['0'], fmt := { dec := false } }, .value 0) := by
  decide +kernel
example : (extractZ (mkG "-".toList [] {})).2 = .unchanged ∧ (extractZ (mkG " 12".toList [] { skipws := false })).1.pos = 0 := by
  decide +kernel
-- a hex stream does not take the 0x prefix: it reads the 0 and stops at the x
example : extractZ (mkG "0x1f".toList [] { dec := false, hex := true }) =
    ({ rest := "x1f".toList, done := ['0'], fmt := { dec := false, hex := true } }, .value 0) := by decide +kernel

/-- `extractZ_props`: for every text, basefield and skipws setting: no character is lost or invented (characters read
    and characters left recompose the text), badbit is never set, failbit is set iff nothing was stored, the string
    handed to mpz_set_str is never refused (the ASSERT_NOCARRY cannot fire), and a successful read leaves the
    stream good(). -/
theorem extractZ_props (f : Fmt) (t : List Char) :
    let r := extractZ (mkG t [] f)
    r.1.text = t ∧ r.1.bad = false ∧ (r.1.fail = true ↔ r.2 = .unchanged) ∧ r.2 ≠ .invalid ∧
    (r.1.fail = false → r.1.good = true) := by
  have hp := numSpec_props f (t.drop (wsPrefix f t).length)
  rw [extractZ_at f t []]
  exact ⟨after_wsPrefix_text f t _ _ _, rfl, hp.1, hp.2.1, fun hf => after_good _ _ _ _ _ _ hf (hp.2.2.1 hf)⟩

/-- `extractZ_not_good`: a stream that is not good() on entry gets failbit, nothing is read, nothing is stored. -/
theorem extractZ_not_good (i : IStream) (h : i.good = false) : extractZ i = ({ i with fail := true }, Val.unchanged) :=
  extractZ_not_good' i h

example : extractZ { rest := ['1'], eof := true } = ({ rest := ['1'], eof := true, fail := true }, .unchanged) := by decide +kernel

/-- `extractQ_spec`: `i >> q` = the numerator as `extractZ_spec`; if that failed, nothing more; else, if the very next
    character is '/', a denominator read without white-space skipping, with its own sign and its own base detection
    (a failure there leaves the new numerator stored and the old denominator); else the denominator is set to 1 and
    the character is put back.  No canonicalisation, no check for a zero denominator. -/
theorem extractQ_spec (f : Fmt) (t : List Char) : extractQ (mkG t [] f) = specQ f t :=
  extractQ_spec' f t

example : extractQ (mkG "1/0x10;".toList [] { dec := false }) =
    ({ rest := [';'], done := "1/0x10".toList.reverse, fmt := { dec := false } }, .value 1, .value 16) := by decide +kernel
example : extractQ (mkG "1/0x10;".toList [] { dec := false, hex := true }) =
    ({ rest := "x10;".toList, done := "1/0".toList.reverse, fmt := { dec := false, hex := true } }, .value 1, .value 0) := by decide +kernel
example : (extractQ (mkG "1/".toList [] {})).2 = (.value 1, .unchanged) ∧ (extractQ (mkG "1/".toList [] {})).1.fail = true ∧
    (extractQ (mkG "17,5".toList [] {})) = ({ rest := ",5".toList, done := ['7', '1'] }, .value 17, .value 1) ∧
    (extractQ (mkG "3/-6".toList [] {})).2 = (.value 3, .value (-6)) := by decide +kernel

/-! ## (c) round trip -/

section
open List

/-- `roundtripZ_partial`: for every integer z, every output stream `fo` (any basefield bits, showbase, showpos, uppercase,
    any adjustfield, any fill) whose width is ≤ 0 (no padding), and every input stream `fi` whose basefield names — with
    exactly one bit — the base `fo` prints in (more than one basefield bit on `fo` = decimal): `in >> y` after `out << z`
    stores y = z, consumes the whole text and leaves the stream good(), EXCEPT for a hex output stream with showbase:
    a hex input stream does not accept the "0x" it writes (it reads 0 and stops at the x; see the example after
    `extractZ_spec`), unlike `std::num_get`.  (Octal with showbase is fine: the leading 0 is an octal digit.)
    FULL STATEMENT: the same conclusion when `fi` has no single basefield bit (auto-detection), under the condition
    `fo.outBase = 10 ∨ fo.showbase` — decimal text needs no prefix, hex/octal text is only recognised with the prefix
    showbase writes; and the mpq analogue (numerator and denominator each, denominator > 0).  Both are now proved:
    `roundtripZ` and `roundtripQ` in Props/C20_io2.lean (condition `ReadsBack fo fi`); this theorem is the fixed-base half. -/
theorem roundtripZ_partial (fo fi : Fmt) (z w : Int) (hw : w ≤ 0) (fill : Char) (hfi : fi.base? = some fo.outBase)
    (hx : ¬ (fo.showbase = true ∧ fo.hexOnly = true)) :
    extractZ (mkG (insertZ { fmt := fo, width := w, fill := fill } z).out [] fi) =
      (mkG [] (insertZ { fmt := fo, width := w, fill := fill } z).out.reverse fi, .value z) :=
  extract_insertZ fo fi z w hw fill (Or.inl ⟨hfi, hx⟩)

end

-- non-vacuity: -255 written by a hex upper-case showpos stream and read by a hex stream; octal with showbase
example : extractZ (mkG (insertZ { fmt := { dec := false, hex := true, uppercase := true, showpos := true } } (-255)).out [] { dec := false, hex := true }) =
    (mkG [] "-FF".toList.reverse { dec := false, hex := true }, .value (-255)) := by decide +kernel
example : extractZ (mkG (insertZ { fmt := { dec := false, oct := true, showbase := true } } 15).out [] { dec := false, oct := true }) =
    (mkG [] "017".toList.reverse { dec := false, oct := true }, .value 15) := by decide +kernel
-- the exception is real: hex with showbase does not come back through a hex stream
example : (extractZ (mkG (insertZ { fmt := { dec := false, hex := true, showbase := true } } 31).out [] { dec := false, hex := true })).2 = .value 0 := by
  decide +kernel
-- auto-detection reads it
example : (extractZ (mkG (insertZ { fmt := { dec := false, hex := true, showbase := true } } 31).out [] { dec := false })).2 = .value 31 := by
  decide +kernel

end Mpir.CxxIo
