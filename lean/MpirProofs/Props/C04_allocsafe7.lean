/-
  C04 part c04_allocsafe7: destination safety of mpf_set, set_ui, set_si, set_z, mul_ui, add, mul_2exp, div_2exp and, in part, sub
  (index-checked mirrors in Mpir/Model/AllocSafeMpf7.lean).  Property theorems only.

  Shape of every statement: for EVERY state — destination with a block of at least PREC + 1 limbs (`DestWF`), operands whose
  |SIZ| limbs lie inside their own blocks (`OpndWF`; they may be longer than the destination's precision, and the destination
  itself may be the operand) — the run keeps `ok` (no load or store left a block), leaves the other variables and the
  destination's precision and block length alone, and the destination's header and limbs are those of the bit-exact C13
  model (`Mpf.*` of Mpir/Model/Mpf.lean), hence well formed (`Mpf.WF`: |SIZ| ≤ PREC + 1, top limb non-zero, zero has EXP 0).
-/
import MpirProofs.Lemmas.AllocSafeMpf7
import MpirProofs.Props.C13
namespace Mpir.AllocSafe7
open Mpir

/-- mpf_set (r, u) and mpf_set (r, r) (mpf/set.c): at most PREC (r) + 1 limbs are stored whatever |SIZ (u)| is. -/
theorem mpf_set_dest_safe (s : St) (x : Src) (hs : s.ok = true) (hr : DestWF s.r) (hx : OpndWF (s.obj x)) :
    (mpf_set 0 s x).ok = true ∧ (mpf_set 0 s x).u = s.u ∧ (mpf_set 0 s x).v = s.v ∧
    (mpf_set 0 s x).r.prec = s.r.prec ∧ (mpf_set 0 s x).r.blk.alloc = s.r.blk.alloc ∧ BlkWF (mpf_set 0 s x).r.blk ∧
    (mpf_set 0 s x).r.view = Mpf.set s.r.prec (s.obj x).view ∧
    (Mpf.OpWF (s.obj x).view → 1 ≤ s.r.prec → Mpf.WF (mpf_set 0 s x).r.view) :=
  Fr.dest_safe (mpf_set_spec s x hs hr hx) fun hv ho hp => hv ▸ (Mpf.set_spec s.r.prec hp _ ho).1

/-- a destination of PREC 2 (three limbs), as mpf_init2 (r, 64) makes it -/
def r2 : FObj := mkObj 2 false 0 [] 3
/-- an operand of five limbs, negative, exponent 7, in a block of exactly five limbs -/
def u5 : FObj := mkObj 0 true 7 [1, 2, 3, 4, 5] 1
/-- the destination itself holding five limbs (PREC lowered to 2 by mpf_set_prec_raw) -/
def r5 : FObj := mkObj 2 true 7 [1, 2, 3, 4, 5] 3

example : (mpf_set 0 (mkSt r2 u5 default) .u).ok = true ∧ (mpf_set 0 (mkSt r2 u5 default) .u).out = (-3, 7, [3, 4, 5]) := by decide
example : (mpf_set 0 (mkSt r5 default default) .r).ok = true ∧
    (mpf_set 0 (mkSt r5 default default) .r).out = (-3, 7, [3, 4, 5, 4, 5]) := by decide
-- negative: `prec = r->_mp_prec + 2` copies four limbs into the three-limb block
example : (mpf_set 1 (mkSt r2 u5 default) .u).ok = false := by decide

/-- mpf_set_ui (f, val) (mpf/set_ui.c): one limb stored at f->_mp_d[0] (also for val = 0). -/
theorem mpf_set_ui_dest_safe (s : St) (w : Nat) (hw : w < B) (hs : s.ok = true) (hr : DestWF s.r) :
    (mpf_set_ui s w).ok = true ∧ (mpf_set_ui s w).u = s.u ∧ (mpf_set_ui s w).v = s.v ∧
    (mpf_set_ui s w).r.prec = s.r.prec ∧ (mpf_set_ui s w).r.blk.alloc = s.r.blk.alloc ∧ BlkWF (mpf_set_ui s w).r.blk ∧
    (mpf_set_ui s w).r.view = Mpf.set_ui s.r.prec w ∧ Mpf.WF (mpf_set_ui s w).r.view := by
  have e : mpf_set_ui s w = (s.wrR 0 [w]).setSE (if w ≠ 0 then 1 else 0) (if w ≠ 0 then 1 else 0) := by
    simp only [mpf_set_ui, Nat.mod_eq_of_lt hw]
  obtain ⟨F, hv⟩ := setLimb_spec s w (if w ≠ 0 then 1 else 0) (if w ≠ 0 then 1 else 0) (by split <;> decide) hs hr
  rw [e]
  refine Fr.dest_safe ⟨F, hv.trans ?_⟩ fun hv => hv ▸ (Mpf.set_ui_exact' s.r.prec w hw).2
  by_cases h0 : w = 0 <;> simp [Mpf.set_ui, h0]

example : (mpf_set_ui (mkSt r2 default default) 7).out = (1, 1, [7, junk, junk]) := by decide
example : (mpf_set_ui (mkSt r2 default default) 0).out = (0, 0, [0, junk, junk]) := by decide
-- negative: a destination without a block (PREC + 1 = 0 limbs cannot happen; the store at index 0 needs one limb)
example : (mpf_set_ui (mkSt (mkObj 2 false 0 [] 0) default default) 7).ok = false := by decide

/-- mpf_set_si (dest, val) (mpf/set_si.c): one limb stored at dest->_mp_d[0]. -/
theorem mpf_set_si_dest_safe (s : St) (w : Int) (hw : w.natAbs < B) (hs : s.ok = true) (hr : DestWF s.r) :
    (mpf_set_si s w).ok = true ∧ (mpf_set_si s w).u = s.u ∧ (mpf_set_si s w).v = s.v ∧
    (mpf_set_si s w).r.prec = s.r.prec ∧ (mpf_set_si s w).r.blk.alloc = s.r.blk.alloc ∧ BlkWF (mpf_set_si s w).r.blk ∧
    (mpf_set_si s w).r.view = Mpf.set_si s.r.prec w ∧ Mpf.WF (mpf_set_si s w).r.view := by
  have e : mpf_set_si s w = (s.wrR 0 [w.natAbs]).setSE
      (if w ≥ 0 then (if w.natAbs ≠ 0 then 1 else 0) else -(if w.natAbs ≠ 0 then 1 else 0)) (if w.natAbs ≠ 0 then 1 else 0) := by
    simp only [mpf_set_si, Nat.mod_eq_of_lt hw]
  obtain ⟨F, hv⟩ := setLimb_spec s w.natAbs
    (if w ≥ 0 then (if w.natAbs ≠ 0 then 1 else 0) else -(if w.natAbs ≠ 0 then 1 else 0)) (if w.natAbs ≠ 0 then 1 else 0)
    (by split <;> split <;> decide) hs hr
  rw [e]
  refine Fr.dest_safe ⟨F, hv.trans ?_⟩ fun hv => ?_
  · by_cases h0 : w = 0
    · simp [Mpf.set_si, h0]
    · have : w.natAbs ≠ 0 := by omega
      by_cases hp : w ≥ 0 <;> simp [Mpf.set_si, h0, hp]
  rw [hv]; unfold Mpf.set_si
  by_cases h0 : w = 0
  · rw [if_pos h0]; exact Mpf.WF_zero _
  · rw [if_neg h0]
    have hn : w.natAbs ≠ 0 := by omega
    refine ⟨Limbs_cons.mpr ⟨hw, Limbs_nil⟩, ?_, ?_, ?_, ?_⟩
    · by_cases hp : w ≥ 0 <;> simp [hp]
    · by_cases hp : w ≥ 0 <;> simp [hp]
    · simp; omega
    · by_cases hp : w ≥ 0 <;> simp [hp]

example : (mpf_set_si (mkSt r2 default default) (-7)).out = (-1, 1, [7, junk, junk]) := by decide

/-- mpf_set_z (r, u) (mpf/set_z.c), the mpz operand given by its SIZ and its block (any ALLOC ≥ |SIZ|), of any length:
    at most PREC (r) + 1 limbs are stored, the block of u is only read inside its |SIZ| limbs; the result is C13's `Mpf.set_z`
    of the integer the operand holds. -/
theorem mpf_set_z_dest_safe (s : St) (zsize : Int) (zb : Blk) (z : Int) (hs : s.ok = true) (hr : DestWF s.r)
    (hzb : BlkWF zb) (hz : zsize.natAbs ≤ zb.alloc) (hl : zb.limbs.take zsize.natAbs = natLimbs z.natAbs)
    (hsg : zsize ≥ 0 ↔ z ≥ 0) :
    (mpf_set_z 0 s zsize zb).ok = true ∧ (mpf_set_z 0 s zsize zb).u = s.u ∧ (mpf_set_z 0 s zsize zb).v = s.v ∧
    (mpf_set_z 0 s zsize zb).r.prec = s.r.prec ∧ (mpf_set_z 0 s zsize zb).r.blk.alloc = s.r.blk.alloc ∧
    BlkWF (mpf_set_z 0 s zsize zb).r.blk ∧
    (mpf_set_z 0 s zsize zb).r.view = Mpf.set_z s.r.prec z ∧
    (1 ≤ s.r.prec → Mpf.WF (mpf_set_z 0 s zsize zb).r.view) :=
  Fr.dest_safe (mpf_set_z_spec s zsize zb z hs hr hzb hz hl hsg) fun hv hp => hv ▸ (Mpf.set_z_spec s.r.prec z hp).1

-- z = -(5 B^4 + … + 1) in a block of 6 limbs, destination of three limbs
example : (mpf_set_z 0 (mkSt r2 default default) (-5) (Blk.ofLimbs [1, 2, 3, 4, 5] 6)).out = (-3, 5, [3, 4, 5]) := by decide
-- negative: `prec = PREC (r) + 2`
example : (mpf_set_z 1 (mkSt r2 default default) (-5) (Blk.ofLimbs [1, 2, 3, 4, 5] 6)).ok = false := by decide

/-- mpf_mul_ui (r, u, v) and mpf_mul_ui (r, r, v) (mpf/mul_ui.c) for every operand length: the operand is cut to PREC (r) limbs
    (the dropped limbs are only read, for the carry-in), mpn_mul_1 stores `size ≤ PREC` limbs and the carry limb is stored
    unconditionally at rp[size], index ≤ PREC: inside the PREC + 1 limbs.  Result = C13's `Mpf.mul_ui`. -/
theorem mpf_mul_ui_dest_safe (s : St) (x : Src) (w : Nat) (hs : s.ok = true) (hr : DestWF s.r) (hx : OpndWF (s.obj x)) :
    (mpf_mul_ui 0 s x w).ok = true ∧ (mpf_mul_ui 0 s x w).u = s.u ∧ (mpf_mul_ui 0 s x w).v = s.v ∧
    (mpf_mul_ui 0 s x w).r.prec = s.r.prec ∧ (mpf_mul_ui 0 s x w).r.blk.alloc = s.r.blk.alloc ∧ BlkWF (mpf_mul_ui 0 s x w).r.blk ∧
    (mpf_mul_ui 0 s x w).r.view = Mpf.mul_ui s.r.prec (s.obj x).view w ∧
    (Mpf.OpWF (s.obj x).view → 1 ≤ s.r.prec → w < B → Mpf.WF (mpf_mul_ui 0 s x w).r.view) :=
  Fr.dest_safe (mpf_mul_ui_spec s x w hs hr hx) fun hv ho hp hw => hv ▸ (Mpf.mul_ui_cut s.r.prec hp _ w ho hw).1

example : (mpf_mul_ui 0 (mkSt r2 u5 default) .u (B - 1)).ok = true ∧
    (mpf_mul_ui 0 (mkSt r2 u5 default) .u (B - 1)).out = (-3, 8, [B - 2, B - 2, 4]) := by decide
example : (mpf_mul_ui 0 (mkSt r5 default default) .r (B - 1)).ok = true := by decide
-- negative: `prec = r->_mp_prec + 1` keeps three limbs and stores the carry at rp[3]
example : (mpf_mul_ui 1 (mkSt r2 u5 default) .u (B - 1)).ok = false := by decide

/-- mpf_add (r, u, v) (mpf/add.c), EVERY sign combination (different signs: add.c:56-64 hands the call to mpf_sub with a
    negated copy of v's header — the equal-sign path of sub.c, mirrored at store level by `subStore`: exactly the result
    limbs at rp[0, rsize), see `mpf_sub_dest_safe_partial` for what that level leaves out), every operand length and exponent, every alias pattern (u, v ∈ {r, u, v}: r == u, r == v, u == v, all
    three): no load or store leaves a block — the operands are read inside their |SIZ| limbs after the two cuts to `prec`
    limbs; the three alignments fill at most `prec` limbs of the TMP area of `prec` limbs; MPN_COPY (rp, tp, rsize) and the
    UNCONDITIONAL store `rp[rsize] = cy` use indices ≤ PREC, inside the PREC + 1 limbs; the early copy of the
    `ediff >= prec` case copies ≤ PREC limbs (none when rp == up) —, the other variables, PREC (r) and the block length are
    unchanged, and SIZ, EXP and the limbs are those of the bit-exact C13 model `Mpf.add` (with its `r == u`, `r == v` flags).
    Hypotheses: PREC ≥ 2 (every mpf_init2 / mpf_set_prec gives that: __GMPF_BITS_TO_PREC), operands in mpf format (`Mpf.OpWF`:
    proper limbs, top limb non-zero, zero has exponent 0).  `mpf_add` always answers `some`. -/
theorem mpf_add_dest_safe (s : St) (us vs : Src) (hs : s.ok = true) (hr : DestWF s.r) (hp : 2 ≤ s.r.prec)
    (hu : OpndWF (s.obj us)) (hv : OpndWF (s.obj vs)) (hou : Mpf.OpWF (s.obj us).view) (hov : Mpf.OpWF (s.obj vs).view) :
    (mpf_add 0 s us vs).isSome = true ∧ ∀ s', mpf_add 0 s us vs = some s' →
      s'.ok = true ∧ s'.u = s.u ∧ s'.v = s.v ∧ s'.r.prec = s.r.prec ∧ s'.r.blk.alloc = s.r.blk.alloc ∧ BlkWF s'.r.blk ∧
      s'.r.view = Mpf.add s.r.prec (decide (us = .r)) (decide (vs = .r)) (s.obj us).view (s.obj vs).view := by
  refine ⟨by unfold mpf_add; simp only; split_ifs <;> rfl, fun s' h => ?_⟩
  obtain ⟨F, hview⟩ := mpf_add_spec s us vs hs hr hp hu hv hou hov s' h
  exact ⟨F.ok, F.u, F.v, F.prec, F.alloc, F.wf, hview⟩

/-- mpf_add, non-zero operands of equal sign: the result header is well formed (|SIZ| ≤ PREC + 1, top limb non-zero). -/
theorem mpf_add_dest_wf (s : St) (us vs : Src) (hs : s.ok = true) (hr : DestWF s.r) (hp : 2 ≤ s.r.prec)
    (hu : OpndWF (s.obj us)) (hv : OpndWF (s.obj vs)) (hou : Mpf.OpWF (s.obj us).view) (hov : Mpf.OpWF (s.obj vs).view)
    (hu0 : (s.obj us).size ≠ 0) (hv0 : (s.obj vs).size ≠ 0) (hsg : (s.obj us).size < 0 ↔ (s.obj vs).size < 0) :
    ∀ s', mpf_add 0 s us vs = some s' → Mpf.WF s'.r.view := by
  intro s' h
  rw [((mpf_add_dest_safe s us vs hs hr hp hu hv hou hov).2 s' h).2.2.2.2.2.2]
  have e : Mpf.add s.r.prec (decide (us = .r)) (decide (vs = .r)) (s.obj us).view (s.obj vs).view =
      Mpf.addSame s.r.prec (s.obj us).view (s.obj vs).view := by
    unfold Mpf.add
    rw [if_neg (show ¬ (s.obj us).view.size = 0 from hu0), if_neg (show ¬ (s.obj vs).view.size = 0 from hv0)]
    have : ¬ ((decide ((s.obj us).view.size < 0) != decide ((s.obj vs).view.size < 0)) = true) := by
      simp only [FObj.view]
      by_cases hn : (s.obj us).size < 0
      · have := hsg.mp hn; simp [hn, this]
      · have : ¬ (s.obj vs).size < 0 := fun h => hn (hsg.mpr h)
        simp [hn, this]
    rw [if_neg this]
  rw [e]
  exact (Mpf.addSame_ok s.r.prec (by omega) _ _ hou hov hu0 hv0 hsg).1

/-- three limbs of ones, exponent 3 -/
def u3 : FObj := mkObj 0 false 3 [B - 1, B - 1, B - 1] 1
/-- two limbs of ones, exponent 3 resp. 2 -/
def v2 : FObj := mkObj 0 false 3 [B - 1, B - 1] 1
def v2b : FObj := mkObj 0 false 2 [B - 1, B - 1] 1
/-- the destination holding three limbs with PREC = 2 -/
def r3 : FObj := mkObj 2 false 3 [B - 1, B - 1, B - 1] 3

-- u cut to two limbs, v aligned at the top: carry limb stored at rp[2]
example : (mpf_add 0 (mkSt r2 u3 v2) .u .v).map (fun s => (s.ok, s.out)) = some (true, 3, 4, [B - 2, B - 1, 1]) := by decide
-- exponent difference 1: v cut to one limb
example : (mpf_add 0 (mkSt r2 u3 v2b) .u .v).map (fun s => (s.ok, s.out)) = some (true, 3, 4, [B - 2, 0, 1]) := by decide
-- r == u, and r == u == v
example : (mpf_add 0 (mkSt r3 default v2b) .r .v).map (fun s => (s.ok, s.out)) = some (true, 3, 4, [B - 2, 0, 1]) := by decide
example : (mpf_add 0 (mkSt r3 default default) .r .r).map (fun s => (s.ok, s.out)) = some (true, 3, 4, [B - 2, B - 1, 1]) := by decide
-- negative: `prec = r->_mp_prec + 1` keeps three limbs and stores the carry at rp[3]
example : (mpf_add 1 (mkSt r2 u3 v2) .u .v).map (fun s => s.ok) = some false := by decide

/-- mpf_mul_2exp (r, u, exp) and mpf_mul_2exp (r, r, exp) (mpf/mul_2exp.c), every operand length and shift count: the
    whole-limb arm copies at most PREC + 1 limbs (nothing when rp == up); the shift arm cuts the operand to PREC limbs and
    leaves PREC + 1 limbs in rp[0, PREC] — `mpn_rshift (rp + 1, up, prec, …)`, `rp[0] = cy_limb` and the read-back of
    `rp[abs_usize]` when the operand was longer than PREC, `mpn_lshift (rp, up, n, …)` and `rp[n] = cy_limb` (n ≤ PREC)
    otherwise.  Result = C13's `Mpf.mul_2exp`. -/
theorem mpf_mul_2exp_dest_safe (s : St) (x : Src) (e : Nat) (hs : s.ok = true) (hr : DestWF s.r) (hx : OpndWF (s.obj x)) :
    (mpf_mul_2exp 0 s x e).ok = true ∧ (mpf_mul_2exp 0 s x e).u = s.u ∧ (mpf_mul_2exp 0 s x e).v = s.v ∧
    (mpf_mul_2exp 0 s x e).r.prec = s.r.prec ∧ (mpf_mul_2exp 0 s x e).r.blk.alloc = s.r.blk.alloc ∧
    BlkWF (mpf_mul_2exp 0 s x e).r.blk ∧
    (mpf_mul_2exp 0 s x e).r.view = Mpf.mul_2exp s.r.prec (s.obj x).view e ∧
    (Mpf.OpWF (s.obj x).view → 1 ≤ s.r.prec → Mpf.WF (mpf_mul_2exp 0 s x e).r.view) :=
  have key : Fr s (mpf_mul_2exp 0 s x e) ∧ (mpf_mul_2exp 0 s x e).r.view = Mpf.mul_2exp s.r.prec (s.obj x).view e :=
    twoExp_spec s x (e % 64 = 0) (e % 64) ((s.obj x).exp + (e / 64 : Nat)) ((s.obj x).exp + (e / 64 : Nat)) hs hr hx _ rfl
  Fr.dest_safe key fun hv ho hp => hv ▸ Mpf.mul_2exp_wf _ hp _ e ho

/-- two limbs [1, 2^64 - 1], exponent 1 -/
def u2 : FObj := mkObj 0 false 1 [1, B - 1] 1

-- operand of five limbs: rshift path; r == u; short operand: lshift path with a non-zero carry limb; whole limbs
example : (fun s : St => (s.ok, s.out)) (mpf_mul_2exp 0 (mkSt r2 u5 default) .u 63) = (true, -3, 8, [0, 2 ^ 63 + 2, 2]) := by decide
example : (fun s : St => (s.ok, s.out)) (mpf_mul_2exp 0 (mkSt r5 default default) .r 1) = (true, -2, 7, [8, 10, 0, 4, 5]) := by decide
example : (fun s : St => (s.ok, s.out)) (mpf_mul_2exp 0 (mkSt r2 u2 default) .u 4) = (true, 3, 2, [16, B - 16, 15]) := by decide
example : (fun s : St => (s.ok, s.out)) (mpf_mul_2exp 0 (mkSt r2 u5 default) .u 128) = (true, -3, 9, [3, 4, 5]) := by decide
-- negative: `prec = r->_mp_prec + 1`: mpn_rshift stores rp[1, 3]
example : (mpf_mul_2exp 1 (mkSt r2 u5 default) .u 63).ok = false := by decide

/-- mpf_div_2exp (r, u, exp) and mpf_div_2exp (r, r, exp) (mpf/div_2exp.c): as mpf_mul_2exp with the complementary shift
    count; result = C13's `Mpf.div_2exp`. -/
theorem mpf_div_2exp_dest_safe (s : St) (x : Src) (e : Nat) (hs : s.ok = true) (hr : DestWF s.r) (hx : OpndWF (s.obj x)) :
    (mpf_div_2exp 0 s x e).ok = true ∧ (mpf_div_2exp 0 s x e).u = s.u ∧ (mpf_div_2exp 0 s x e).v = s.v ∧
    (mpf_div_2exp 0 s x e).r.prec = s.r.prec ∧ (mpf_div_2exp 0 s x e).r.blk.alloc = s.r.blk.alloc ∧
    BlkWF (mpf_div_2exp 0 s x e).r.blk ∧
    (mpf_div_2exp 0 s x e).r.view = Mpf.div_2exp s.r.prec (s.obj x).view e ∧
    (Mpf.OpWF (s.obj x).view → 1 ≤ s.r.prec → Mpf.WF (mpf_div_2exp 0 s x e).r.view) :=
  have key : Fr s (mpf_div_2exp 0 s x e) ∧ (mpf_div_2exp 0 s x e).r.view = Mpf.div_2exp s.r.prec (s.obj x).view e :=
    twoExp_spec s x (e % 64 = 0) (64 - e % 64) ((s.obj x).exp - (e / 64 : Nat)) ((s.obj x).exp - (e / 64 : Nat) - 1) hs hr hx _ rfl
  Fr.dest_safe key fun hv ho hp => hv ▸ Mpf.div_2exp_wf _ hp _ e ho

example : (fun s : St => (s.ok, s.out)) (mpf_div_2exp 0 (mkSt r2 u5 default) .u 1) = (true, -3, 7, [0, 2 ^ 63 + 2, 2]) := by decide
example : (fun s : St => (s.ok, s.out)) (mpf_div_2exp 0 (mkSt r5 default default) .r 63) = (true, -2, 6, [8, 10, 0, 4, 5]) := by decide
example : (mpf_div_2exp 1 (mkSt r2 u5 default) .u 1).ok = false := by decide

/-- mpf_sub (r, u, v) (mpf/sub.c) for every sign combination, operand length, exponent and alias pattern (r == u, r == v,
    u == v, all three).  PARTIAL.  Proved: `ok` stays true, the other variables, PREC (r) and the block length are unchanged,
    SIZ, EXP and the limbs are those of the bit-exact C13 model `Mpf.sub` (cancellation scan for equal exponents, the
    x+1 000… / x fff… path, `uexp - vexp >= prec` early copy, the alignments with their borrow, the strip of high zero
    limbs), and the header is well formed (`Mpf.WF`; for the in-place cases `mpf_sub (r, 0, r)` / `mpf_sub (r, r, 0)`, which store
    no limb, when the destination's own |SIZ| fits its PREC + 1).  The paths are mirrored at these levels: a zero operand —
    mpf_neg / mpf_set, index-checked; operands of different sign — mpf_add's equal-sign path (`addSameSign`), index-checked
    including the TMP area; operands of equal sign — STORE level (`subStore`): the only stores through rp in sub.c:65-410 are
    the MPN_COPYs of :122, :286, :297, :309, :402, i.e. exactly the |SIZ| result limbs at rp[0, |SIZ|), |SIZ| ≤ PREC + 1 by
    `Mpf.subMag_cut`; the operands are loaded inside their own |SIZ| limbs.
    Missing (run only, ops `as7_sub` with guard limbs; C13 ties the values): the TMP-area traffic of the equal-sign path
    (TMP_ALLOC of PREC + 1 limbs at :199 / :280; `tp[size] = 1` at :208, :223, :254 and the alignment stores of :329-393 are
    not index-checked), and the individual operand loads of the scans (:97-186, :293-317), checked as one load of the
    whole |SIZ| range. -/
theorem mpf_sub_dest_safe_partial (s : St) (us vs : Src) (hs : s.ok = true) (hr : DestWF s.r) (hp : 2 ≤ s.r.prec)
    (hu : OpndWF (s.obj us)) (hv : OpndWF (s.obj vs)) (hou : Mpf.OpWF (s.obj us).view) (hov : Mpf.OpWF (s.obj vs).view) :
    (mpf_sub s us vs).ok = true ∧ (mpf_sub s us vs).u = s.u ∧ (mpf_sub s us vs).v = s.v ∧
    (mpf_sub s us vs).r.prec = s.r.prec ∧ (mpf_sub s us vs).r.blk.alloc = s.r.blk.alloc ∧ BlkWF (mpf_sub s us vs).r.blk ∧
    (mpf_sub s us vs).r.view = Mpf.sub s.r.prec (decide (us = .r)) (decide (vs = .r)) (s.obj us).view (s.obj vs).view ∧
    ((us = .r → s.r.size.natAbs ≤ s.r.prec + 1) → (vs = .r → s.r.size.natAbs ≤ s.r.prec + 1) →
      Mpf.WF (mpf_sub s us vs).r.view) := by
  have key : Fr s (mpf_sub s us vs) ∧
      (mpf_sub s us vs).r.view = Mpf.sub s.r.prec (decide (us = .r)) (decide (vs = .r)) (s.obj us).view (s.obj vs).view := by
    unfold mpf_sub Mpf.sub
    simp only
    by_cases hu0 : (s.obj us).size = 0
    · rw [if_pos hu0, if_pos (show (s.obj us).view.size = 0 from hu0)]
      exact mpf_neg_spec s vs hs hr hv
    · rw [if_neg hu0, if_neg (show ¬ (s.obj us).view.size = 0 from hu0)]
      by_cases hv0 : (s.obj vs).size = 0
      · rw [if_pos hv0, if_pos (show (s.obj vs).view.size = 0 from hv0)]
        exact setUnless_spec s us hs hr hu
      · rw [if_neg hv0, if_neg (show ¬ (s.obj vs).view.size = 0 from hv0)]
        by_cases hsg : (decide ((s.obj us).size < 0) != decide ((s.obj vs).size < 0)) = true
        · rw [if_pos hsg, if_pos (show ((decide ((s.obj us).view.size < 0) != decide ((s.obj vs).view.size < 0)) = true) from hsg)]
          exact addSwap_spec s us vs _ hs hr hu hv hou.1 hov.1 _ rfl
        · rw [if_neg hsg, if_neg (show ¬ ((decide ((s.obj us).view.size < 0) != decide ((s.obj vs).view.size < 0)) = true) from hsg)]
          exact subStore_spec s us vs _ hs hr hu hv
            (Mpf.subMag_cut s.r.prec hp (s.obj us).view (s.obj vs).view hou hov hu0 hv0 (sign_same hsg)).1 (subMag_prec _ _ _ _)
  refine Fr.dest_safe key fun hv' fu fv => ?_
  rw [hv']
  refine ((Mpf.sub_spec s.r.prec hp _ _ hou hov _ _).1 ?_ ?_).1
  · intro h; have h' : us = .r := by simpa using h
    subst h'; rw [hou.2.1]; exact fu rfl
  · intro h; have h' : vs = .r := by simpa using h
    subst h'; rw [hov.2.1]; exact fv rfl

/-- four limbs, exponent 3; `sb` differs from `sa` in the lowest limb only (three equal high limbs: the scan) -/
def sa : FObj := mkObj 0 false 3 [5, 7, 9, 11] 1
def sb : FObj := mkObj 0 false 3 [6, 7, 9, 11] 1
/-- 8 000… and 7 fff… 1: the x+1 000… / x fff… path -/
def sc : FObj := mkObj 0 false 3 [0, 0, 8] 1
def sd : FObj := mkObj 0 false 3 [1, B - 1, B - 1, 7] 1
/-- the destination holding `sa` with PREC = 2 -/
def r4 : FObj := mkObj 2 false 3 [5, 7, 9, 11] 3

example : (fun s : St => (s.ok, s.out)) (mpf_sub (mkSt r2 sa sb) .u .v) = (true, -1, 0, [1, junk, junk]) := by decide
example : (fun s : St => (s.ok, s.out)) (mpf_sub (mkSt r2 sc sd) .u .v) = (true, 1, 0, [B - 1, junk, junk]) := by decide
-- r == u (four limbs in the object), and r == u == v: complete cancellation, SIZ = 0 and EXP = 0, no limb stored
example : (fun s : St => (s.ok, s.out)) (mpf_sub (mkSt r4 default sb) .r .v) = (true, -1, 0, [1, 7, 9, 11]) := by decide
example : (fun s : St => (s.ok, s.out)) (mpf_sub (mkSt r4 default default) .r .r) = (true, 0, 0, [5, 7, 9, 11]) := by decide
-- mpf_add with operands of different sign takes the same path
example : (mpf_add 0 (mkSt r2 sa { sb with size := -4 }) .u .v).map (fun s : St => (s.ok, s.out)) =
    some (true, -1, 0, [1, junk, junk]) := by decide
-- negative: a destination block of PREC limbs instead of PREC + 1 cannot take the three result limbs of 3 B^2 + 2 B + 1 - 1
example : (mpf_sub (mkSt (mkObj 2 false 0 [] 2) (mkObj 0 false 3 [1, 2, 3] 1) (mkObj 0 false 1 [1] 1)) .u .v).ok = false := by decide

end Mpir.AllocSafe7
