/-
  C08: mpn_binvert (mpn/generic/binvert.c) — property theorems only; helper lemmas in MpirProofs/Lemmas/Binvert*.lean.
  Model: Mpir/Model/Binvert.lean (binvert.c statement by statement on bounds-checked areas), run against the rebuilt
  library by the ops `bi_*` of Mpir/Ops/Binvert.lean.
-/
import MpirProofs.Lemmas.Binvert
import MpirProofs.Lemmas.BinvertPinned
import MpirProofs.Lemmas.BinvertBdiv
import Mpir.Ops.Hgcd
namespace Mpir.Binvert
open Mpir Mpir.Powm Mpir.PowmL Mpir.Mm1 Mpir.Hgcd

/-- **The precision schedule of mpn_binvert terminates** (binvert.c:69-71) for every `n ≥ 1` and every
    BINV_NEWTON_THRESHOLD ≥ 2 (with 0 or 1 the C loop `rn = (rn + 1) >> 1` stays at 1 above the threshold for ever):
    the loop ends within `n` rounds, the entries of `sizes[]` are `n, ⌈n/2⌉, ⌈n/4⌉, …`, all at or above the threshold,
    and the base case size `rn` is the first one below it, `1 ≤ rn ≤ n`. -/
theorem binvert_schedule_ok (thr n : Nat) (hthr : 2 ≤ thr) (hn : 1 ≤ n) :
    (schedule thr n n).2.2 = true ∧ ChainOk thr n (schedule thr n n).1 (schedule thr n n).2.1 ∧
    1 ≤ (schedule thr n n).2.1 ∧ (schedule thr n n).2.1 ≤ n :=
  schedule_chain thr hthr n n hn (le_refl _)

-- non-vacuity: BINV_NEWTON_THRESHOLD = 300, n = 1000: three Newton steps from a 125-limb base value
example : schedule 300 1000 1000 = ([1000, 500], 250, true) ∧ schedule 300 299 299 = ([], 299, true) ∧
    schedule 1 5 5 = ([5, 3, 2, 1, 1], 1, false) := by decide +kernel

/-- **mpn_binvert is correct on memory** (binvert.c:61-124 over sb_bdiv_q.c, mulmod_2expm1.c): for EVERY `n ≥ 1`, every
    `U = {up, n}` with an odd low limb, every BINV_NEWTON_THRESHOLD ≥ 2 (below that the schedule loop does not end, see
    `binvert_schedule_ok`), every DC_BDIV_Q_THRESHOLD ≥ 6 (mpn_dc_bdiv_q's `ASSERT (dn >= 6)`), every
    MULMOD_2EXPM1_THRESHOLD, any +1 half meeting `P1Spec`, ARBITRARY initial contents of `rp` (n limbs) and of the scratch
    (at least `mpn_binvert_itch (n)` limbs), arbitrary junk `jk` in the upper halves that mpn_mullow_n stores and in the
    operand mpn_dc_bdiv_q destroys:  every access to `rp` and to the scratch is in range (including the 2(newrn − rn) limbs
    of the mpn_mullow_n in the loop, which fit into `rp` only because `newrn ≤ (n + 1)/2` there, and those of the last
    iteration, which go to `xp + newrn`), the ASSERTs of mpn_mulmod_bnm1 / mpn_sub_1 / mpn_mullow_n hold (in particular
    `rn − (m − newrn) ≥ 1`), `sizes[]` is never popped below its first entry, and `R = {rp, n}` has n limbs with
    `R·U ≡ 1 (mod B^n)`.  The wrap-around product `U·R mod B^m − 1` is decoded correctly also when it is ≡ 0
    (U = B^n − 1: mpn_mulmod_bnm1 returns `B^m − 1`, not 0 — `mpn_mulmod_bnm1_val`).
    Hypotheses on mpn_mulmod_bnm1_next_size (`k ≤ next_size k`, `next_size k − k < ⌈k/2⌉`, monotone) and
    `|sizes[]| ≤ NPOWS` are discharged for the pinned build in `mpn_binvert_correct_pinned` below. -/
theorem mpn_binvert_correct (thr dcThr mthr : Nat) (pp1 : List Nat → List Nat → Nat → Nat → List Nat × Nat)
    (hpp1 : P1Spec pp1) (nextSize : Nat → Nat) (jk : Nat → Nat) (up rp0 xp0 : List Nat)
    (hn : 1 ≤ rp0.length) (hup : Limbs up) (hlen : up.length = rp0.length) (hodd : up.headD 0 % 2 = 1)
    (hthr : 2 ≤ thr) (hdc : 6 ≤ dcThr) (hitch : binvItch nextSize rp0.length ≤ xp0.length)
    (hns : ∀ k, 1 ≤ k → k ≤ nextSize k ∧ nextSize k - k < (k + 1) / 2)
    (hmono : ∀ a b, a ≤ b → nextSize a ≤ nextSize b)
    (hnp : (schedule thr rp0.length rp0.length).1.length ≤ npows thr) :
    (mpnBinvert thr dcThr mthr pp1 nextSize jk up rp0 xp0).2 = true ∧
    Limbs (mpnBinvert thr dcThr mthr pp1 nextSize jk up rp0 xp0).1 ∧
    (mpnBinvert thr dcThr mthr pp1 nextSize jk up rp0 xp0).1.length = rp0.length ∧
    (val (mpnBinvert thr dcThr mthr pp1 nextSize jk up rp0 xp0).1 * val up) % B ^ rp0.length = 1 := by
  obtain ⟨c1, c2, c3, c4⟩ := schedule_chain thr hthr rp0.length rp0.length hn (le_refl _)
  have hnn := (hns rp0.length hn).1
  have hI : nextSize rp0.length + (5 * nextSize rp0.length + 220) ≤ xp0.length := hitch
  have hB := base_inv dcThr jk up (schedule thr rp0.length rp0.length).2.1 rp0 xp0 rp0.length xp0.length hup hlen hodd
    c3 c4 rfl rfl (by omega) hdc
  -- the invariant at full size is the claim, and `sizes[]` fits
  have fin : ∀ s : St, Inv rp0.length xp0.length (val up) s rp0.length →
      (s.ok && ((schedule thr rp0.length rp0.length).2.2 &&
        decide ((schedule thr rp0.length rp0.length).1.length ≤ npows thr))) = true ∧
      Limbs s.rp ∧ s.rp.length = rp0.length ∧ (val s.rp * val up) % B ^ rp0.length = 1 := by
    intro s ⟨i1, i2, i3, i4, i5⟩
    rw [List.take_of_length_le i2.le] at i4 i5
    rw [i1, c1, decide_eq_true hnp]
    exact ⟨rfl, i4, i2, i5⟩
  unfold mpnBinvert
  simp only
  by_cases he : (schedule thr rp0.length rp0.length).2.1 = rp0.length
  · rw [if_pos he]
    rw [he] at hB
    rw [he]
    exact fin _ hB
  · rw [if_neg he]
    have hasc := Asc_of_chain thr hthr _ _ _ c2
    have hsz : ∀ k, 2 ≤ k → k ≤ rp0.length → k ≤ nextSize k ∧ nextSize k - k < (k + 1) / 2 ∧
        nextSize k + (5 * nextSize k + 220) ≤ xp0.length := by
      intro k hk2 hkn
      obtain ⟨a, b⟩ := hns k (Nat.le_of_succ_le hk2)
      have hle := hmono k rp0.length hkn
      exact ⟨a, b, (Nat.add_le_add hle (Nat.add_le_add_right (Nat.mul_le_mul_left 5 hle) 220)).trans hI⟩
    exact fin _ (newton_inv mthr pp1 hpp1 nextSize jk up rp0.length xp0.length hup hlen hsz _ _ _ hasc
      (lt_of_le_of_ne c4 he) c3 hB)

-- non-vacuity: thresholds 2 / 6 / 12, n = 3 (base value of 1 limb by the Hensel loop, Newton steps 1 -> 2 -> 3 limbs),
-- U = B^3 − 1 (the product is ≡ 0 modulo B^m − 1), junk 7 in the scratch halves, poisoned rp and scratch
example : mpnBinvert 2 6 12 Fft.mulmod_2expp1_basecase id (fun _ => 7) [B - 1, B - 1, B - 1] [5, 5, 5] (List.replicate 238 9) =
    ([B - 1, B - 1, B - 1], true) := by decide +kernel
example : (mpnBinvert 2 6 12 Fft.mulmod_2expp1_basecase id (fun _ => 7) [3, 5, 9] [5, 5, 5] (List.replicate 238 9)).2 = true ∧
    (val (mpnBinvert 2 6 12 Fft.mulmod_2expp1_basecase id (fun _ => 7) [3, 5, 9] [5, 5, 5] (List.replicate 238 9)).1 * val [3, 5, 9])
      % B ^ 3 = 1 := by decide +kernel

/-- **`sizes[NPOWS]` is large enough** (binvert.c:43-50, :64, :69-71): for every BINV_NEWTON_THRESHOLD ≥ 2 and every
    `n ≤ 2^46` limbs (beyond that the operand is not addressable) the schedule pushes at most
    `NPOWS = 48 − LOG2C (BINV_NEWTON_THRESHOLD)` entries. -/
theorem binvert_npows_ok (thr n : Nat) (hthr : 2 ≤ thr) (hn : 1 ≤ n) (hn46 : n ≤ 2 ^ 46) :
    (schedule thr n n).1.length ≤ npows thr :=
  schedule_len thr n n (npows thr) hn (by have := npows_bound thr hthr; omega)

-- non-vacuity: threshold 300: NPOWS = 39; 2^46 limbs need 38 entries; threshold 2 needs 46 of 46
example : npows 300 = 39 ∧ (schedule 300 (2 ^ 46) (2 ^ 46)).1.length = 38 ∧ npows 2 = 46 ∧
    (schedule 2 (2 ^ 46) (2 ^ 46)).1.length = 46 := by decide +kernel

/-- **mpn_binvert of the pinned build, unconditionally** (FFT_MULMOD_2EXPP1_CUTOFF = 128, FFT_N_NUM = 19, MULMOD_TAB):
    `mpn_binvert_correct` with its hypotheses on mpn_mulmod_bnm1_next_size discharged (`bnm1NextSize_gap`: the rounding of
    mpir_fft_adjust_limbs adds less than ⌈k/2⌉ limbs for EVERY k — for depths ≥ 7 because the two roundings collapse into
    one —, `bnm1NextSize_mono`) and `sizes[NPOWS]` by `binvert_npows_ok`: for every `1 ≤ n ≤ 2^46`, every odd U, every
    BINV_NEWTON_THRESHOLD ≥ 2, DC_BDIV_Q_THRESHOLD ≥ 6, any MULMOD_2EXPM1_THRESHOLD, scratch of `mpn_binvert_itch (n)` limbs
    with arbitrary contents: all accesses in range, n limbs, `R·U ≡ 1 (mod B^n)`.  Remaining assumptions: the contract
    `P1Spec` of the +1 half (FFT branch) and the contract of mpn_dc_bdiv_q for base sizes ≥ DC_BDIV_Q_THRESHOLD. -/
theorem mpn_binvert_correct_pinned (thr dcThr mthr : Nat) (pp1 : List Nat → List Nat → Nat → Nat → List Nat × Nat)
    (hpp1 : P1Spec pp1) (jk : Nat → Nat) (up rp0 xp0 : List Nat)
    (hn : 1 ≤ rp0.length) (hn46 : rp0.length ≤ 2 ^ 46) (hup : Limbs up) (hlen : up.length = rp0.length)
    (hodd : up.headD 0 % 2 = 1) (hthr : 2 ≤ thr) (hdc : 6 ≤ dcThr)
    (hitch : binvItch (bnm1NextSize 128 19 tab19) rp0.length ≤ xp0.length) :
    (mpnBinvert thr dcThr mthr pp1 (bnm1NextSize 128 19 tab19) jk up rp0 xp0).2 = true ∧
    Limbs (mpnBinvert thr dcThr mthr pp1 (bnm1NextSize 128 19 tab19) jk up rp0 xp0).1 ∧
    (mpnBinvert thr dcThr mthr pp1 (bnm1NextSize 128 19 tab19) jk up rp0 xp0).1.length = rp0.length ∧
    (val (mpnBinvert thr dcThr mthr pp1 (bnm1NextSize 128 19 tab19) jk up rp0 xp0).1 * val up) % B ^ rp0.length = 1 :=
  mpn_binvert_correct thr dcThr mthr pp1 hpp1 _ jk up rp0 xp0 hn hup hlen hodd hthr hdc hitch
    bnm1NextSize_gap bnm1NextSize_mono (binvert_npows_ok thr _ hthr hn hn46)

-- the function the driver runs (generated parameters) is this next-size function; the gap at the worst small size
example : Mpir.Ops.Hgcd.nextSize = bnm1NextSize 128 19 tab19 := by rfl
example : bnm1NextSize 128 19 tab19 257 = 320 ∧ binvItch (bnm1NextSize 128 19 tab19) 1000 = 6364 := by decide +kernel

/-- **The limbs mpn_binvert leaves at `rp` are those of the value-level `Powm.binvert`** — the `mip` that `mpn_powm`'s
    model `PowmL.mipOf` and `redc_n` take (hypothesis `ip·m ≡ 1 (mod B^n)` of `redc_n_limb_spec` / `redc_n_unconditional`,
    positive inverse): by uniqueness of the inverse modulo `B^n`, the memory model of mpn_binvert (binvert.c as it is, run
    in the caller's scratch `tp`) returns exactly `toLimbs n (binvert U n)` with every access in range.  So the line
    `mpn_binvert (mip, mp, n, tp)` of powm.c:219 is covered by `mpn_powm_correct_pinned` for `binvItch n ≤ itch`. -/
theorem mpn_binvert_value (thr dcThr mthr : Nat) (pp1 : List Nat → List Nat → Nat → Nat → List Nat × Nat)
    (hpp1 : P1Spec pp1) (jk : Nat → Nat) (up rp0 xp0 : List Nat)
    (hn : 1 ≤ rp0.length) (hn46 : rp0.length ≤ 2 ^ 46) (hup : Limbs up) (hlen : up.length = rp0.length)
    (hodd : up.headD 0 % 2 = 1) (hthr : 2 ≤ thr) (hdc : 6 ≤ dcThr)
    (hitch : binvItch (bnm1NextSize 128 19 tab19) rp0.length ≤ xp0.length) :
    mpnBinvert thr dcThr mthr pp1 (bnm1NextSize 128 19 tab19) jk up rp0 xp0 =
      (toLimbs rp0.length (binvert (val up) rp0.length), true) := by
  obtain ⟨h1, h2, h3, h4⟩ := mpn_binvert_correct_pinned thr dcThr mthr pp1 hpp1 jk up rp0 xp0 hn hn46 hup hlen hodd hthr
    hdc hitch
  have hs := binvert_spec (val up) rp0.length hn (by rw [val_mod_two]; exact hodd)
  have hlt := val_lt _ h2
  rw [h3] at hlt
  have hb : binvert (val up) rp0.length < B ^ rp0.length := by unfold binvert; exact binvertLoop_lt _ _ _ _ _
  have hv := inverse_unique _ _ _ _ hlt hb h4 hs
  exact Prod.ext (eq_toLimbs_of h2 h3 hv) h1

/-- the `mip` of mpn_powm's memory model (`PowmL.mipOf`, REDC_N branch) IS the output of mpn_binvert's memory model -/
theorem mipOf_eq_mpn_binvert (rthr thr dcThr mthr : Nat) (pp1 : List Nat → List Nat → Nat → Nat → List Nat × Nat)
    (hpp1 : P1Spec pp1) (jk : Nat → Nat) (mp rp0 tp : List Nat)
    (hr : rthr ≤ mp.length) (hn : 1 ≤ mp.length) (hn46 : mp.length ≤ 2 ^ 46) (hmp : Limbs mp) (hlen : rp0.length = mp.length)
    (hodd : val mp % 2 = 1) (hthr : 2 ≤ thr) (hdc : 6 ≤ dcThr)
    (hitch : binvItch (bnm1NextSize 128 19 tab19) mp.length ≤ tp.length) :
    (mipOf rthr mp, true) = mpnBinvert thr dcThr mthr pp1 (bnm1NextSize 128 19 tab19) jk mp rp0 tp := by
  rw [mpn_binvert_value thr dcThr mthr pp1 hpp1 jk mp rp0 tp (by omega) (by omega) hmp hlen.symm
    (by rw [← val_mod_two]; exact hodd) hthr hdc (by rw [hlen]; exact hitch)]
  unfold mipOf
  rw [if_neg (by omega), hlen]

example : mpnBinvert 2 6 12 Fft.mulmod_2expp1_basecase (bnm1NextSize 128 19 tab19) (fun _ => 7) [3, 5, 9] [5, 5, 5]
    (List.replicate 238 9) = (toLimbs 3 (binvert (val [3, 5, 9]) 3), true) := by decide +kernel

/-! ## the Hensel divisions under the base case (Mpir/Model/BinvertBdiv.lean, value level) -/

/-- **mpn_dc_bdiv_qr_n** (dc_bdiv_qr_n.c:42-75, the recursion mirrored on values: low ⌊n/2⌋ quotient limbs, the
    `mpn_mul` correction with the carried borrow `mpn_incr_u`'d in, `mpn_sub` over n + ⌈n/2⌉ limbs, high ⌈n/2⌉ quotient limbs,
    second correction, `mpn_sub_n`, the two borrows added): for EVERY n ≥ 2, every `N < B^2n`, every odd `D < B^n`, every
    DC_BDIV_QR_THRESHOLD ≥ 2 (with 0 or 1 the C recursion reaches n = 1, whose low half is empty) and any base case meeting
    `SbSpec` (the contract of mpn_sb_bdiv_qr):  `Q < B^n`, the n remainder limbs `R < B^n`, the returned borrow is 0 or 1
    (the sum of the two borrows never reaches 2), `N + rh·B^2n = Q·D + R·B^n` exactly, hence `Q·D ≡ N (mod B^n)`. -/
theorem dc_bdiv_qr_n_spec (thr : Nat) (hthr : 2 ≤ thr) (sb : Nat → Nat → Nat → Nat × Nat × Nat) (hsb : SbSpec sb)
    (f N D n : Nat) (hn : 2 ≤ n) (hN : N < B ^ (2 * n)) (hD : D < B ^ n) (hodd : D % 2 = 1) :
    (dcBdivQrN thr sb f N D n).1 < B ^ n ∧ (dcBdivQrN thr sb f N D n).2.1 < B ^ n ∧ (dcBdivQrN thr sb f N D n).2.2 ≤ 1 ∧
    N + (dcBdivQrN thr sb f N D n).2.2 * B ^ (2 * n) =
      (dcBdivQrN thr sb f N D n).1 * D + (dcBdivQrN thr sb f N D n).2.1 * B ^ n ∧
    ((dcBdivQrN thr sb f N D n).1 * D) % B ^ n = N % B ^ n := by
  obtain ⟨h1, h2, h3, h4⟩ := dcBdivQrN_spec thr hthr sb hsb f N D n hn hN hD hodd
  refine ⟨h1, h2, h3, h4, ?_⟩
  have e : B ^ (2 * n) = B ^ n * B ^ n := by rw [← pow_add]; congr 1; omega
  have := congrArg (· % B ^ n) h4
  simp only [e, ← Nat.mul_assoc, Nat.add_mul_mod_self_right] at this
  exact this.symm

/-- **mpn_dc_bdiv_qr_n over the base case the driver runs** (`sbBdivQrVal`: the unique quotient, remainder limbs and
    borrow — shown to meet `SbSpec` by `sbSpec_val`, from `binvert_spec`): `dc_bdiv_qr_n_spec` without hypothesis on the
    base case, for every n ≥ 2, every DC_BDIV_QR_THRESHOLD ≥ 2, every recursion depth.  (What stays assumed is that the limb
    loop of mpn_sb_bdiv_qr returns that unique triple: tied by op `bi_dc_bdiv_qr_n` on sizes below the threshold.) -/
theorem dc_bdiv_qr_n_unconditional (thr : Nat) (hthr : 2 ≤ thr) (f N D n : Nat) (hn : 2 ≤ n) (hN : N < B ^ (2 * n))
    (hD : D < B ^ n) (hodd : D % 2 = 1) :
    (dcBdivQrN thr sbBdivQrVal f N D n).1 < B ^ n ∧ (dcBdivQrN thr sbBdivQrVal f N D n).2.1 < B ^ n ∧
    (dcBdivQrN thr sbBdivQrVal f N D n).2.2 ≤ 1 ∧
    N + (dcBdivQrN thr sbBdivQrVal f N D n).2.2 * B ^ (2 * n) =
      (dcBdivQrN thr sbBdivQrVal f N D n).1 * D + (dcBdivQrN thr sbBdivQrVal f N D n).2.1 * B ^ n ∧
    ((dcBdivQrN thr sbBdivQrVal f N D n).1 * D) % B ^ n = N % B ^ n :=
  dc_bdiv_qr_n_spec thr hthr sbBdivQrVal sbSpec_val f N D n hn hN hD hodd

example : dcBdivQrN 3 sbBdivQrVal 7 (B ^ 14 - 5) 3 7 = sbBdivQrVal (B ^ 14 - 5) 3 7 := by decide +kernel

/-- **mpn_dc_bdiv_q, PARTIAL**: what is proved of `dc_bdiv_q_spec` (Q·D ≡ N (mod B^nn) for mpn_dc_bdiv_q) is the block
    division it is built from for nn > dn, mpn_dc_bdiv_qr_n (`dc_bdiv_qr_n_spec`), with the contract `SbSpec` of
    mpn_sb_bdiv_qr as hypothesis.  MISSING for the full
    `dc_bdiv_q_spec` and for removing the contract from `mpn_binvert_correct` (whose base case calls mpn_dc_bdiv_q with
    nn = dn, i.e. goes straight to mpn_dc_bdiv_q_n): (1) mpn_dc_bdiv_q_n (dc_bdiv_q_n.c:34-90) — MPIR's version is not
    GMP's mullo recursion but a mulmid recursion (`mpn_mulmid_n (scratch, dp + 1, qp + (n & 1), t)`, an extra
    `mpn_addmul_1` row for odd n) that carries the two overflow limbs `wp[0..2)` of mpn_sb_bdiv_q through `ADDC_LIMB` /
    `MPN_INCR_U`; its invariant is about the truncated product Σ_{i+j<n} d_i·q_j·B^(i+j) = N + W·B^n, a statement on limb
    indices, not on values; (2) the block loop of mpn_dc_bdiv_q for nn > dn (dc_bdiv_q.c:57-95); (3) the limb loop of
    mpn_sb_bdiv_qr (contract `SbSpec`).  The run covers all three: op `bi_dc_bdiv_q` compares every limb of the real
    mpn_dc_bdiv_q with the unique quotient. -/
theorem dc_bdiv_q_spec_partial (thr : Nat) (hthr : 2 ≤ thr) (sb : Nat → Nat → Nat → Nat × Nat × Nat) (hsb : SbSpec sb)
    (N D n : Nat) (hn : 2 ≤ n) (hN : N < B ^ (2 * n)) (hD : D < B ^ n) (hodd : D % 2 = 1) :
    ((dcBdivQrN thr sb n N D n).1 * D) % B ^ n = N % B ^ n ∧ (dcBdivQrN thr sb n N D n).1 < B ^ n :=
  let h := dc_bdiv_qr_n_spec thr hthr sb hsb n N D n hn hN hD hodd
  ⟨h.2.2.2.2, h.1⟩

-- non-vacuity: n = 5 with threshold 2 (two levels of recursion, odd split), N = B^10 − 1 and N = 1 (borrow returned), D = B^5 − 1
example : dcBdivQrN 2 sbBdivQrVal 5 (B ^ 10 - 1) (B ^ 5 - 1) 5 = (1, B ^ 5 - 1, 0) ∧
    dcBdivQrN 2 sbBdivQrVal 5 1 (B ^ 5 - 1) 5 = (B ^ 5 - 1, 2, 1) := by decide +kernel

end Mpir.Binvert
