/-
  C11 — comparisons and C-type conversions (mpz / mpf functions and the double conversions).
  Property theorems only; helper lemmas live in MpirProofs/Lemmas/Conv.lean.
  Every theorem is about the executable models in Mpir/Model/Conv.lean, which the correspondence
  check runs against the real library on every run.
-/
import MpirProofs.Lemmas.Conv
namespace Mpir.Conv
open Mpir

/-! ## 1. One total order: mpz_cmp and everything consistent with it -/

/-- mpz_cmp: for all well-formed operands (any sizes, any signs) the sign of the result is the sign of
    the exact difference.  Hence mpz_cmp is `compare` on the integers: total, antisymmetric, transitive. -/
theorem cmp_total_order (a b : Z) (ha : a.wf) (hb : b.wf) :
    sgn (mpz_cmp a b) = sgn (a.toInt - b.toInt) := by
  unfold mpz_cmp
  dsimp only
  by_cases hd : a.size - b.size ≠ 0
  · rw [if_pos hd]
    by_cases hp : a.size - b.size > 0
    · have := Z.toInt_lt_of_size_lt hb ha (by omega)
      rw [if_pos hp]; exact sgn_eq_pos (by decide) (by omega)
    · have := Z.toInt_lt_of_size_lt ha hb (by omega)
      rw [if_neg hp]; exact sgn_eq_neg (by decide) (by omega)
  · have hs : a.size = b.size := by omega
    rw [if_neg hd, cmp_spec _ _ ha.2.1 hb.2.1 (by rw [ha.1, hb.1, hs])]
    by_cases hn : a.size ≥ 0
    · rw [if_pos hn, sgn_sgn, Z.toInt_of_nonneg hn, Z.toInt_of_nonneg (by omega)]
    · rw [if_neg hn, ← sgn_neg_eq, sgn_sgn, Z.toInt_of_neg (by omega), Z.toInt_of_neg (by omega)]
      congr 1; ring

-- non-vacuity: two-limb operands of equal size differing in the low limb; opposite signs; different sizes
example : mpz_cmp ⟨2, [5, 7]⟩ ⟨2, [6, 7]⟩ = -1 ∧ mpz_cmp ⟨-2, [5, 7]⟩ ⟨-2, [6, 7]⟩ = 1 ∧
    mpz_cmp ⟨1, [B - 1]⟩ ⟨-2, [0, 1]⟩ = 1 ∧ (⟨-2, [0, 1]⟩ : Z).toInt = -(2 ^ 64) := by decide

/-- antisymmetry, as a consequence -/
theorem cmp_antisymm (a b : Z) (ha : a.wf) (hb : b.wf) : sgn (mpz_cmp a b) = -sgn (mpz_cmp b a) := by
  rw [cmp_total_order a b ha hb, cmp_total_order b a hb ha, ← sgn_neg_eq]; congr 1; ring

example : sgn (mpz_cmp ⟨1, [3]⟩ ⟨-1, [4]⟩) = 1 ∧ sgn (mpz_cmp ⟨-1, [4]⟩ ⟨1, [3]⟩) = -1 := by decide

/-- transitivity, as a consequence -/
theorem cmp_trans (a b c : Z) (ha : a.wf) (hb : b.wf) (hc : c.wf)
    (h1 : sgn (mpz_cmp a b) ≤ 0) (h2 : sgn (mpz_cmp b c) ≤ 0) : sgn (mpz_cmp a c) ≤ 0 := by
  rw [cmp_total_order _ _ ha hb, sgn_nonpos_iff] at h1
  rw [cmp_total_order _ _ hb hc, sgn_nonpos_iff] at h2
  rw [cmp_total_order _ _ ha hc, sgn_nonpos_iff]
  omega

example : sgn (mpz_cmp ⟨-1, [9]⟩ ⟨0, []⟩) ≤ 0 ∧ sgn (mpz_cmp ⟨0, []⟩ ⟨2, [0, 1]⟩) ≤ 0 ∧ sgn (mpz_cmp ⟨-1, [9]⟩ ⟨2, [0, 1]⟩) ≤ 0 := by decide

/-- The defect repaired by /repo commit bf39310: the former `return dsize;` (a 64-bit difference returned as
    `int`) breaks the order for x of 2^30 limbs against -x: the result is negative in both directions. -/
example : mpz_cmp_old ⟨2 ^ 30, []⟩ ⟨-(2 ^ 30), []⟩ = -(2 ^ 31) ∧ mpz_cmp_old ⟨-(2 ^ 30), []⟩ ⟨2 ^ 30, []⟩ = -(2 ^ 31) ∧
    mpz_cmp ⟨2 ^ 30, []⟩ ⟨-(2 ^ 30), []⟩ = 1 := by decide

/-- mpz_sgn is the sign of the value. -/
theorem sgn_spec (a : Z) (ha : a.wf) : mpz_sgn a = sgn a.toInt := by
  rw [← Z.sgn_size ha]; unfold mpz_sgn sgn; rfl

example : mpz_sgn ⟨-3, [1, 2, 3]⟩ = -1 := by decide

/-- mpz_cmp_ui (function form) is consistent with the order: sign of a - v for every unsigned long v. -/
theorem cmp_ui_consistent (a : Z) (ha : a.wf) (v : Nat) (hv : v < B) :
    sgn (mpz_cmp_ui a v) = sgn (a.toInt - v) := by
  obtain ⟨z0, z1, _, z2, zm2, _, _⟩ := Z.by_size ha
  have neg := (Z.toInt_sign ha).1
  unfold mpz_cmp_ui
  dsimp only
  by_cases h0 : a.size = 0
  · rw [if_pos h0, z0 h0, zero_sub]
    by_cases hv0 : v = 0
    · rw [if_neg (not_not.mpr hv0), hv0]; rfl
    · rw [if_pos hv0]; exact sgn_eq_neg (by decide) (by omega)
  · rw [if_neg h0]
    by_cases h1 : a.size = 1
    · rw [if_pos h1, ite_cmp_eq_sgn, sgn_sgn, z1 h1]
    · rw [if_neg h1]
      by_cases hp : a.size > 0
      · rw [if_pos hp]; exact sgn_eq_pos (by decide) (by omega)
      · rw [if_neg hp]; exact sgn_eq_neg (by decide) (by omega)

example : mpz_cmp_ui ⟨1, [B - 1]⟩ (B - 1) = 0 ∧ mpz_cmp_ui ⟨2, [0, 1]⟩ (B - 1) = 1 ∧ mpz_cmp_ui ⟨-1, [1]⟩ 0 = -1 := by decide

/-- mpz_cmp_si (function form) is consistent with the order, for every long v including LONG_MIN. -/
theorem cmp_si_consistent (a : Z) (ha : a.wf) (v : Int) (hv1 : LONG_MIN ≤ v) (hv2 : v ≤ LONG_MAX) :
    sgn (mpz_cmp_si a v) = sgn (a.toInt - v) := by
  obtain ⟨z0, z1, zm1, z2, zm2, _, zlt⟩ := Z.by_size ha
  obtain ⟨neg, _, pos⟩ := Z.toInt_sign ha
  unfold LONG_MIN at hv1; unfold LONG_MAX at hv2
  unfold B at z2 zm2 zlt
  -- the size and the limb the C code derives from v: its sign and |v| (`-LONG_MIN` wraps to itself)
  have hv : (if v > 0 then ((1 : Int), v) else if v < 0 then (-1, toS64 (toU64 (-v))) else (0, v)) =
      (sgn v, if v < 0 then toS64 (toU64 (-v)) else v) := by
    rcases lt_trichotomy v 0 with h | h | h
    · rw [if_neg (by omega), if_pos h, if_pos h, sgn_neg h]
    · rw [if_neg (by omega), if_neg (by omega), if_neg (by omega), h]; rfl
    · rw [if_pos h, if_neg (by omega), sgn_pos h]
  have hvl : toU64 (if v < 0 then toS64 (toU64 (-v)) else v) = v.natAbs := by unfold toS64 toU64; split <;> omega
  have D : (sgn v = 1 ∧ 0 < v) ∨ (sgn v = 0 ∧ v = 0) ∨ (sgn v = -1 ∧ v < 0) := by
    rcases lt_trichotomy v 0 with h | h | h
    · exact Or.inr (Or.inr ⟨sgn_neg h, h⟩)
    · exact Or.inr (Or.inl ⟨by rw [h]; rfl, h⟩)
    · exact Or.inl ⟨sgn_pos h, h⟩
  unfold mpz_cmp_si
  rw [hv]
  dsimp only
  rw [hvl]
  generalize sgn v = vs at *
  by_cases hs : a.size ≠ vs
  · rw [if_pos hs]
    by_cases hgt : a.size > vs
    · rw [if_pos hgt]; exact sgn_eq_pos (by decide) (by omega)
    · rw [if_neg hgt]; exact sgn_eq_neg (by decide) (by omega)
  · rw [if_neg hs]
    clear z2 zm2 neg pos
    by_cases h0 : a.size = 0
    · rw [if_pos h0]; exact sgn_eq_zero rfl (by omega)
    · rw [if_neg h0]
      by_cases e : a.d.getD 0 0 = v.natAbs
      · rw [if_pos e]; exact sgn_eq_zero rfl (by omega)
      · rw [if_neg e]
        rcases D with ⟨h, hv⟩ | ⟨h, hv⟩ | ⟨h, hv⟩
        · have := z1 (by omega)
          by_cases g : a.d.getD 0 0 > v.natAbs
          · rw [if_pos g]; exact sgn_eq_pos (by omega) (by omega)
          · rw [if_neg g]; exact sgn_eq_neg (by omega) (by omega)
        · omega
        · have := zm1 (by omega)
          by_cases g : a.d.getD 0 0 > v.natAbs
          · rw [if_pos g]; exact sgn_eq_neg (by omega) (by omega)
          · rw [if_neg g]; exact sgn_eq_pos (by omega) (by omega)

example : mpz_cmp_si ⟨-1, [2 ^ 63]⟩ LONG_MIN = 0 ∧ mpz_cmp_si ⟨-1, [2 ^ 63 + 1]⟩ LONG_MIN = -1 ∧
    mpz_cmp_si ⟨1, [2 ^ 63]⟩ LONG_MAX = 1 ∧ mpz_cmp_si ⟨-2, [0, 1]⟩ (-5) = -1 := by decide

/-- The macro forms (constant or run-time argument) give the same sign as the function forms' specification. -/
theorem cmp_macros_consistent (c : Bool) (a : Z) (ha : a.wf) :
    (∀ v, v < B → sgn (mpz_cmp_ui_macro c a v) = sgn (a.toInt - v)) ∧
    (∀ v : Int, LONG_MIN ≤ v → v ≤ LONG_MAX → sgn (mpz_cmp_si_macro c a v) = sgn (a.toInt - v)) := by
  -- a constant 0 is compared by mpz_sgn
  have zero : sgn (mpz_sgn a) = sgn (a.toInt - 0) := by rw [sgn_spec a ha, sgn_sgn, sub_zero]
  constructor
  · intro v hv
    unfold mpz_cmp_ui_macro
    by_cases h : (c && v == 0) = true
    · have : v = 0 := by simp at h; exact h.2
      rw [if_pos h, this]; exact zero
    · rw [if_neg h]; exact cmp_ui_consistent a ha v hv
  · intro v h1 h2
    unfold mpz_cmp_si_macro
    by_cases h : (c && v == 0) = true
    · have : v = 0 := by simp at h; exact h.2
      rw [if_pos h, this]; exact zero
    · rw [if_neg h]
      by_cases g : (c && decide (v > 0)) = true
      · have vp : v > 0 := by simp at g; exact g.2
        have e : ((toU64 v : Nat) : Int) = v := by unfold toU64 LONG_MAX at *; omega
        rw [if_pos g, cmp_ui_consistent a ha (toU64 v) (by unfold B; unfold LONG_MAX at h2; omega), e]
      · rw [if_neg g]; exact cmp_si_consistent a ha v h1 h2

example : mpz_cmp_si_macro true ⟨-1, [7]⟩ 0 = -1 ∧ mpz_cmp_si_macro true ⟨1, [7]⟩ 7 = 0 ∧ mpz_cmp_ui_macro true ⟨2, [1, 1]⟩ 0 = 1 := by decide

/-- mpz_cmpabs compares absolute values. -/
theorem cmpabs_spec (a b : Z) (ha : a.wf) (hb : b.wf) :
    sgn (mpz_cmpabs a b) = sgn ((a.toInt.natAbs : Int) - b.toInt.natAbs) := by
  rw [Z.natAbs_toInt, Z.natAbs_toInt]
  obtain ⟨_, a1, a2⟩ := Z.wf_bounds ha
  obtain ⟨_, b1, b2⟩ := Z.wf_bounds hb
  unfold mpz_cmpabs
  dsimp only
  by_cases hd : ((a.size.natAbs : Int) - b.size.natAbs) ≠ 0
  · rw [if_pos hd]
    by_cases hp : (a.size.natAbs : Int) - b.size.natAbs > 0
    · have := lt_of_lt_of_le b2 (le_trans (pow_le_pow_B (by omega)) (a1 (by omega)))
      exact sgn_eq_pos hp (by omega)
    · have := lt_of_lt_of_le a2 (le_trans (pow_le_pow_B (by omega)) (b1 (by omega)))
      exact sgn_eq_neg (by omega) (by omega)
  · rw [if_neg hd, cmp_spec _ _ ha.2.1 hb.2.1 (by rw [ha.1, hb.1]; omega), sgn_sgn]

example : mpz_cmpabs ⟨-2, [5, 7]⟩ ⟨2, [4, 7]⟩ = 1 ∧ mpz_cmpabs ⟨-1, [5]⟩ ⟨2, [4, 7]⟩ = -1 := by decide

/-- mpz_cmpabs_ui compares |a| with v. -/
theorem cmpabs_ui_spec (a : Z) (ha : a.wf) (v : Nat) (hv : v < B) :
    sgn (mpz_cmpabs_ui a v) = sgn ((a.toInt.natAbs : Int) - v) := by
  obtain ⟨z0, z1, zm1, z2, zm2, _, _⟩ := Z.by_size ha
  unfold mpz_cmpabs_ui
  dsimp only
  by_cases h0 : a.size = 0
  · rw [if_pos h0, z0 h0]
    by_cases hv0 : v = 0
    · rw [if_neg (not_not.mpr hv0), hv0]; rfl
    · rw [if_pos hv0]; exact sgn_eq_neg (by decide) (by omega)
  · rw [if_neg h0]
    by_cases h1 : a.size.natAbs = 1
    · have : (a.toInt.natAbs : Int) = a.d.getD 0 0 := by clear z0 z2 zm2; omega
      rw [if_pos h1, ite_cmp_eq_sgn, sgn_sgn, this]
    · rw [if_neg h1]; exact sgn_eq_pos (by decide) (by clear z0 z1 zm1; omega)

example : mpz_cmpabs_ui ⟨-1, [9]⟩ 9 = 0 ∧ mpz_cmpabs_ui ⟨-2, [0, 1]⟩ (B - 1) = 1 := by decide

/-! ## 2. fits_*_p: true exactly on the representable range -/

/-- Signed predicates (fits_s.h): for a type with range [-minabs, maxv] (maxv, minabs at most one limb),
    the predicate holds iff the value is in the range. -/
theorem fits_s_iff_range (maxv minabs : Nat) (hm : maxv < B) (hn : minabs < B) (z : Z) (hz : z.wf) :
    fits_s maxv minabs z = true ↔ (-(minabs : Int) ≤ z.toInt ∧ z.toInt ≤ maxv) := by
  obtain ⟨z0, z1, zm1, z2, zm2, _, _⟩ := Z.by_size hz
  unfold fits_s
  dsimp only
  by_cases e0 : z.size = 0
  · rw [if_pos e0, z0 e0]; simp
  · rw [if_neg e0]
    by_cases e1 : z.size = 1
    · rw [if_pos e1, decide_eq_true_eq, z1 e1]; omega
    · rw [if_neg e1]
      by_cases e2 : z.size = -1
      · rw [if_pos e2, decide_eq_true_eq, zm1 e2]; omega
      · rw [if_neg e2]
        exact ⟨fun h => absurd h (by decide), fun _ => by omega⟩

/-- Unsigned predicates (__GMPZ_FITS_UTYPE_P): true iff 0 ≤ value ≤ maxval. -/
theorem fits_u_iff_range (maxv : Nat) (hm : maxv < B) (z : Z) (hz : z.wf) :
    fits_u maxv z = true ↔ (0 ≤ z.toInt ∧ z.toInt ≤ maxv) := by
  obtain ⟨z0, z1, _, z2, _, _, _⟩ := Z.by_size hz
  have neg := (Z.toInt_sign hz).1
  unfold fits_u
  rw [Bool.or_eq_true, Bool.and_eq_true, decide_eq_true_eq, decide_eq_true_eq, decide_eq_true_eq]
  omega

/-- fits_iff_range: each of the six documented predicates (and MPIR's _ui/_si forms) is true exactly when the
    value lies in the C type's range. -/
theorem fits_iff_range (z : Z) (hz : z.wf) :
    (mpz_fits_ulong_p z = true ↔ 0 ≤ z.toInt ∧ z.toInt ≤ 2 ^ 64 - 1) ∧
    (mpz_fits_slong_p z = true ↔ -(2 ^ 63) ≤ z.toInt ∧ z.toInt ≤ 2 ^ 63 - 1) ∧
    (mpz_fits_uint_p z = true ↔ 0 ≤ z.toInt ∧ z.toInt ≤ 2 ^ 32 - 1) ∧
    (mpz_fits_sint_p z = true ↔ -(2 ^ 31) ≤ z.toInt ∧ z.toInt ≤ 2 ^ 31 - 1) ∧
    (mpz_fits_ushort_p z = true ↔ 0 ≤ z.toInt ∧ z.toInt ≤ 2 ^ 16 - 1) ∧
    (mpz_fits_sshort_p z = true ↔ -(2 ^ 15) ≤ z.toInt ∧ z.toInt ≤ 2 ^ 15 - 1) ∧
    (mpz_fits_ui_p z = true ↔ 0 ≤ z.toInt ∧ z.toInt ≤ 2 ^ 64 - 1) ∧
    (mpz_fits_si_p z = true ↔ -(2 ^ 63) ≤ z.toInt ∧ z.toInt ≤ 2 ^ 63 - 1) := by
  have u := fun (k : Nat) (hk : 2 ^ k - 1 < B) => fits_u_iff_range (2 ^ k - 1) hk z hz
  have s := fun (k : Nat) (hk : 2 ^ k < B) => fits_s_iff_range (2 ^ k - 1) (2 ^ k) (lt_of_le_of_lt (Nat.sub_le _ _) hk) hk z hz
  have u64 := u 64 (by decide)
  have u32 := u 32 (by decide)
  have u16 := u 16 (by decide)
  have s63 := s 63 (by decide)
  have s31 := s 31 (by decide)
  have s15 := s 15 (by decide)
  push_cast at u64 u32 u16 s63 s31 s15
  exact ⟨u64, s63, u32, s31, u16, s15, u64, s63⟩

example : mpz_fits_slong_p ⟨-1, [2 ^ 63]⟩ = true ∧ mpz_fits_slong_p ⟨-1, [2 ^ 63 + 1]⟩ = false ∧
    mpz_fits_slong_p ⟨1, [2 ^ 63]⟩ = false ∧ mpz_fits_ushort_p ⟨1, [65535]⟩ = true ∧ mpz_fits_ushort_p ⟨1, [65536]⟩ = false ∧
    mpz_fits_ulong_p ⟨2, [0, 1]⟩ = false ∧ mpz_fits_uint_p ⟨-1, [1]⟩ = false := by decide

/-! ## 3. get_ui / get_si / get_ux / get_sx and set_ui / set_si / set_ux / set_sx -/

/-- mpz_get_ui and mpz_get_ux: the least significant 64 bits of |op| (the sign is ignored), for every op. -/
theorem get_ui_spec (z : Z) (hz : z.wf) :
    mpz_get_ui z = z.toInt.natAbs % 2 ^ 64 ∧ mpz_get_ux z = z.toInt.natAbs % 2 ^ 64 := by
  rw [Z.natAbs_toInt]
  obtain ⟨r, hr, hlt⟩ := val_head_split z.d hz.2.1
  have h0 := (Z.wf_bounds hz).1
  unfold mpz_get_ui mpz_get_ux
  by_cases e : z.size = 0
  · simp [e, h0 e]
  · simp only [ne_eq, e, not_false_eq_true, if_true]; rw [hr]; unfold B at *; omega

example : mpz_get_ui ⟨-2, [5, 9]⟩ = 5 ∧ mpz_get_ux ⟨0, []⟩ = 0 := by decide

/-- mpz_get_si: exact when op fits a long; otherwise the low 63 bits with the sign of op
    (for negative op: -(((|op| - 1) mod 2^63) + 1), so that -2^63 is handled). -/
theorem get_si_spec (z : Z) (hz : z.wf) :
    (LONG_MIN ≤ z.toInt → z.toInt ≤ LONG_MAX → mpz_get_si z = z.toInt) ∧
    (0 < z.toInt → mpz_get_si z = z.toInt % 2 ^ 63) ∧
    (z.toInt < 0 → mpz_get_si z = -((-z.toInt - 1) % 2 ^ 63) - 1) := by
  obtain ⟨r, hr, hlt⟩ := val_head_split z.d hz.2.1
  obtain ⟨s1, s2, s3⟩ := Z.toInt_sign_iff hz
  have key : (0 < z.toInt → mpz_get_si z = z.toInt % 2 ^ 63) ∧
      (z.toInt < 0 → mpz_get_si z = -((-z.toInt - 1) % 2 ^ 63) - 1) ∧ (z.toInt = 0 → mpz_get_si z = 0) := by
    refine ⟨fun hp => ?_, fun hn => ?_, fun he => ?_⟩
    · have hs : z.size > 0 := s3.mp hp
      unfold mpz_get_si Z.toInt
      simp only [hs, if_true, show ¬ z.size < 0 by omega, if_false]
      rw [hr]; unfold B at *; omega
    · have hs : z.size < 0 := s1.mp hn
      have hv : 0 < val z.d := by unfold Z.toInt at hn; rw [if_pos hs] at hn; omega
      unfold mpz_get_si Z.toInt
      simp only [hs, if_true, show ¬ z.size > 0 by omega, if_false]
      rw [hr] at hv ⊢; unfold B at *; omega
    · unfold mpz_get_si; simp [s2.mp he]
  refine ⟨fun l u => ?_, key.1, key.2.1⟩
  unfold LONG_MIN at l; unfold LONG_MAX at u
  rcases lt_trichotomy z.toInt 0 with h | h | h
  · rw [key.2.1 h]; omega
  · rw [key.2.2 h, h]
  · rw [key.1 h]; omega

example : mpz_get_si ⟨-1, [2 ^ 63]⟩ = LONG_MIN ∧ mpz_get_si ⟨1, [2 ^ 63 - 1]⟩ = LONG_MAX ∧
    mpz_get_si ⟨-2, [5, 1]⟩ = -5 ∧ mpz_get_si ⟨1, [2 ^ 63 + 5]⟩ = 5 := by decide

/-- mpz_get_sx: exact when op fits an intmax_t; in general the value modulo 2^64 read as a signed number. -/
theorem get_sx_spec (z : Z) (hz : z.wf) :
    mpz_get_sx z = toS64 (toU64 z.toInt) ∧
    (LONG_MIN ≤ z.toInt → z.toInt ≤ LONG_MAX → mpz_get_sx z = z.toInt) := by
  obtain ⟨r, hr, hlt⟩ := val_head_split z.d hz.2.1
  have h0 := (Z.wf_bounds hz).1
  have gen : mpz_get_sx z = toS64 (toU64 z.toInt) := by
    unfold mpz_get_sx Z.toInt
    by_cases e : z.size = 0
    · simp [e, h0 e]; decide
    · simp only [ne_eq, e, not_false_eq_true, if_true]
      by_cases hn : z.size < 0
      · simp only [hn, if_true]; rw [hr]; apply toS64_congr; unfold toU64 B at *; omega
      · simp only [hn, if_false]; rw [hr]; apply toS64_congr; unfold toU64 B at *; omega
  exact ⟨gen, fun l u => by rw [gen]; exact toS64_toU64 l u⟩

example : mpz_get_sx ⟨-1, [2 ^ 63]⟩ = LONG_MIN ∧ mpz_get_sx ⟨-1, [7]⟩ = -7 ∧ mpz_get_sx ⟨1, [2 ^ 63]⟩ = LONG_MIN := by decide

/-- mpz_set_ui / mpz_set_ux: the result is well formed and has exactly the value of the argument. -/
theorem set_ui_spec (v : Nat) (hv : v < B) :
    (mpz_set_ui v).wf ∧ (mpz_set_ui v).toInt = v ∧ (mpz_set_ux v).wf ∧ (mpz_set_ux v).toInt = v := by
  have main : (mpz_set_ui v).wf ∧ (mpz_set_ui v).toInt = v := by
    unfold mpz_set_ui
    by_cases h : v = 0
    · subst h; exact ⟨Z.wf_zero, rfl⟩
    · obtain ⟨w, t⟩ := Z.one_limb (Or.inl rfl) h hv
      simp only [ne_eq, h, not_false_eq_true, if_true]
      exact ⟨w, by rw [t, one_mul]⟩
  exact ⟨main.1, main.2, main.1, main.2⟩

example : mpz_set_ui (B - 1) = ⟨1, [B - 1]⟩ ∧ mpz_set_ui 0 = ⟨0, []⟩ := by decide

/-- mpz_set_si / mpz_set_sx: for every long (LONG_MIN included) the result is well formed and has the value. -/
theorem set_si_spec (v : Int) (h1 : LONG_MIN ≤ v) (h2 : v ≤ LONG_MAX) :
    (mpz_set_si v).wf ∧ (mpz_set_si v).toInt = v ∧ (mpz_set_sx v).wf ∧ (mpz_set_sx v).toInt = v := by
  unfold LONG_MIN at h1; unfold LONG_MAX at h2
  rcases lt_trichotomy v 0 with h | h | h
  · have e : toU64 (-v) = (-v).toNat := by unfold toU64; omega
    have ne : (-v).toNat ≠ 0 := by omega
    have lt : (-v).toNat < B := by unfold B; omega
    obtain ⟨w, t⟩ := Z.one_limb (Or.inr rfl) ne lt
    have t : Z.toInt ⟨-1, [(-v).toNat]⟩ = v := by rw [t]; omega
    have a : mpz_set_si v = ⟨-1, [(-v).toNat]⟩ := by
      unfold mpz_set_si; simp only [show ¬ v ≥ 0 by omega, if_false, e, ne_eq, ne, not_false_eq_true, if_true]
    have b : mpz_set_sx v = ⟨-1, [(-v).toNat]⟩ := by
      unfold mpz_set_sx; simp only [h, if_true, e, ne_eq, show v ≠ 0 by omega, not_false_eq_true]
    rw [a, b]; exact ⟨w, t, w, t⟩
  · subst h; exact ⟨Z.wf_zero, rfl, Z.wf_zero, rfl⟩
  · have e : toU64 v = v.toNat := by unfold toU64; omega
    have ne : v.toNat ≠ 0 := by omega
    have lt : v.toNat < B := by unfold B; omega
    obtain ⟨w, t⟩ := Z.one_limb (Or.inl rfl) ne lt
    have t : Z.toInt ⟨1, [v.toNat]⟩ = v := by rw [t]; omega
    have a : mpz_set_si v = ⟨1, [v.toNat]⟩ := by
      unfold mpz_set_si; simp only [show v ≥ 0 by omega, if_true, e, ne_eq, ne, not_false_eq_true]
    have b : mpz_set_sx v = ⟨1, [v.toNat]⟩ := by
      unfold mpz_set_sx; simp only [show ¬ v < 0 by omega, if_false, e, ne_eq, show v ≠ 0 by omega, not_false_eq_true, if_true]
    rw [a, b]; exact ⟨w, t, w, t⟩

example : mpz_set_si LONG_MIN = ⟨-1, [2 ^ 63]⟩ ∧ mpz_set_sx (-5) = ⟨-1, [5]⟩ ∧ mpz_set_si LONG_MAX = ⟨1, [2 ^ 63 - 1]⟩ := by decide

/-! ## 4. Integers to doubles: mpn_get_d is truncation toward zero -/

/-- get_d_bits_spec.  For every limb vector with a non-zero high limb (any size an address space can hold),
    either sign and every exponent in the range of `long`, the word-level model of `mpn_get_d` (limb selection,
    shifts, `m0 >>= 11`, overflow test, denormal shifts, assembly of the sign / exponent / mantissa fields)
    returns exactly the bit pattern of ±{ptr,size}·2^exp truncated toward zero to a double, and decoding that
    pattern gives the specification `truncate53`: 53 significant bits, ±∞ when the value is ≥ 2^1024,
    the fixed quantum 2^-1074 in the denormal range, +0.0 below 2^-1074. -/
theorem get_d_bits_spec (ptr : List Nat) (sign exp : Int) (hL : Limbs ptr) (ht : ptr ≠ [] → ptr.getLast? ≠ some 0)
    (hsz : ptr.length < 2 ^ 57) (he1 : LONG_MIN ≤ exp) (he2 : exp ≤ LONG_MAX) :
    decode (mpn_get_d ptr sign exp) = truncate53 (if sign < 0 then -(val ptr : Int) else (val ptr : Int)) exp ∧
    mpn_get_d ptr sign exp = truncToDouble (if sign < 0 then -(val ptr : Int) else (val ptr : Int)) exp := by
  have h := mpn_get_d_eq ptr sign exp hL ht hsz he1 he2
  exact ⟨by rw [h]; exact decode_truncToDouble _ _, h⟩

-- non-vacuity: 2^53+1 truncates (not rounds) to 2^53; a 2-limb value; overflow; largest denormal; underflow
example : mpn_get_d [2 ^ 53 + 1] 1 0 = 0x4340000000000000 ∧ mpn_get_d [2 ^ 64 - 1, 2 ^ 64 - 1] (-1) 0 = 0xC7EFFFFFFFFFFFFF ∧
    mpn_get_d [1] 1 1024 = 0x7FF0000000000000 ∧ mpn_get_d [2 ^ 64 - 1] 1 (-1086) = 0x000FFFFFFFFFFFFF ∧
    mpn_get_d [1] 1 (-1074) = 1 ∧ mpn_get_d [1] (-1) (-1075) = 0 := by decide

/-- The clauses of the specification: what `truncate53` (hence the decoded result of mpn_get_d) is, with
    v = |x| ≠ 0 and E = bitlen v + e (so 2^(E-1) ≤ v·2^e < 2^E):
    overflow to ±∞ iff E > 1024; otherwise sign, mantissa = floor (v·2^e / 2^q), quantum q = max (E-53) (-1074);
    a zero mantissa (E ≤ -1074) gives +0.0.  The mantissa is a floor: m·2^q ≤ v·2^e < (m+1)·2^q (`shiftZ_floor`). -/
theorem truncate53_clauses (x e : Int) (hx : x ≠ 0) :
    (bitlen x.natAbs + e > 1024 → truncate53 x e = .inf (decide (x < 0))) ∧
    (-1021 ≤ bitlen x.natAbs + e → bitlen x.natAbs + e ≤ 1024 →
      truncate53 x e = .fin (decide (x < 0)) (shiftZ x.natAbs (53 - (bitlen x.natAbs : Int))) ((bitlen x.natAbs : Int) + e - 53) ∧
      2 ^ 52 ≤ shiftZ x.natAbs (53 - (bitlen x.natAbs : Int)) ∧ shiftZ x.natAbs (53 - (bitlen x.natAbs : Int)) < 2 ^ 53) ∧
    (-1073 ≤ bitlen x.natAbs + e → bitlen x.natAbs + e ≤ -1022 →
      truncate53 x e = .fin (decide (x < 0)) (shiftZ x.natAbs (e + 1074)) (-1074) ∧
      1 ≤ shiftZ x.natAbs (e + 1074) ∧ shiftZ x.natAbs (e + 1074) < 2 ^ 52) ∧
    (bitlen x.natAbs + e ≤ -1074 → truncate53 x e = .fin false 0 (-1074)) := by
  obtain ⟨d1, d2, d3, d4⟩ := truncate53_cases x e hx
  obtain ⟨t1, t2⟩ := top53_bounds (v := x.natAbs) (by omega)
  refine ⟨d1, fun a b => ⟨d2 a b, t1, t2⟩, fun a b => ?_, d4⟩
  obtain ⟨dd, l1, l2, eq⟩ := d3 a b
  rw [← eq]; exact ⟨dd, l1, l2⟩

example : truncate53 (2 ^ 53 + 1) 0 = .fin false (2 ^ 52) 1 ∧ truncate53 (-3) (-1075) = .fin true 1 (-1074) ∧
    truncate53 1 1024 = .inf false ∧ truncate53 (-1) (-1075) = .fin false 0 (-1074) := by decide

/-- mpz_get_d: op truncated toward zero to a double (±∞ when |op| ≥ 2^1024), for every well-formed op. -/
theorem mpz_get_d_spec (z : Z) (hz : z.wf) (hsz : z.d.length < 2 ^ 57) :
    mpz_get_d z = truncToDouble z.toInt 0 ∧ decode (mpz_get_d z) = truncate53 z.toInt 0 := by
  have main : mpz_get_d z = truncToDouble z.toInt 0 := by
    unfold mpz_get_d
    by_cases h0 : z.size = 0
    · rw [if_pos h0, (Z.toInt_sign hz).2.1 h0]; decide
    · rw [if_neg h0]
      have := mpn_get_d_eq z.d z.size 0 hz.2.1 hz.2.2 hsz (by decide) (by decide)
      rw [this]; rfl
  exact ⟨main, by rw [main]; exact decode_truncToDouble _ _⟩

example : mpz_get_d ⟨-2, [1, 2 ^ 63]⟩ = 0xC7E0000000000000 ∧ mpz_get_d ⟨17, List.replicate 16 0 ++ [1]⟩ = 0x7FF0000000000000 := by decide

/-- mpz_get_d_2exp: the exponent is the bit length of |op| and the double is op·2^-exp truncated, so that
    0.5 ≤ |d| < 1: decoded, d = ± m·2^-53 with 2^52 ≤ m < 2^53, m the 53 leading bits of |op|. -/
theorem mpz_get_d_2exp_spec (z : Z) (hz : z.wf) (hnz : z.size ≠ 0) (hsz : z.d.length < 2 ^ 57) :
    (mpz_get_d_2exp z).2 = bitlen z.toInt.natAbs ∧
    (mpz_get_d_2exp z).1 = truncToDouble z.toInt (-(bitlen z.toInt.natAbs : Int)) ∧
    decode (mpz_get_d_2exp z).1 = .fin (decide (z.toInt < 0)) (shiftZ z.toInt.natAbs (53 - (bitlen z.toInt.natAbs : Int))) (-53) ∧
    2 ^ 52 ≤ shiftZ z.toInt.natAbs (53 - (bitlen z.toInt.natAbs : Int)) ∧
    shiftZ z.toInt.natAbs (53 - (bitlen z.toInt.natAbs : Int)) < 2 ^ 53 := by
  obtain ⟨e1, e2, e3, t1, t2⟩ := get_d_2exp_core z.d z.size hz.2.1 (hz.2.2 (ne_nil_of_size hz.1 hnz)) (ne_nil_of_size hz.1 hnz) hsz
  rw [Z.natAbs_toInt]
  unfold mpz_get_d_2exp
  rw [if_neg hnz]
  dsimp only
  rw [← hz.1, e1]
  exact ⟨rfl, e2, by rw [e2]; exact e3, t1, t2⟩

example : mpz_get_d_2exp ⟨1, [5]⟩ = (0x3FE4000000000000, 3) ∧ mpz_get_d_2exp ⟨-2, [1, 2 ^ 63]⟩ = (0xBFE0000000000000, 128) := by decide

/-! ## 5. Doubles to integers: __gmp_extract_double and mpz_set_d -/

/-- `dblNum b` is the exact value of the finite double b scaled by 2^1074:
    if `decode b = fin neg m q` then dblNum b = m · 2^(q + 1074). -/
theorem dblNum_decode (b : Nat) (hf : expOf b ≠ 2047) :
    ∃ neg m q, decode b = .fin neg m q ∧ 0 ≤ q + 1074 ∧ dblNum b = m * 2 ^ (q + 1074).toNat := by
  unfold decode dblNum
  rw [if_neg hf]
  by_cases e0 : expOf b = 0
  · rw [if_pos e0, if_pos e0]; exact ⟨_, _, _, rfl, by decide, by simp⟩
  · rw [if_neg e0, if_neg e0]
    refine ⟨_, _, _, rfl, by omega, ?_⟩
    congr 2; omega

example : decode 0x3FF8000000000000 = .fin false (3 * 2 ^ 51) (-52) ∧ dblNum 0x0020000000000001 = (2 ^ 52 + 1) * 2 ∧ dblNum 5 = 5 := by decide

/-- extract_double_spec.  For every finite non-zero double d (normal or denormal; the sign bit is ignored),
    `__gmp_extract_double` returns two proper limbs with a non-zero high limb and an exponent `ex` such that
    {rp,2}·B^(ex-2) = |d| exactly; stated without negative powers via d·2^1074:
    (rp[1]·B + rp[0])·2^(64·ex + 1074) = (|d|·2^1074)·2^128.  ex ≥ 1 iff |d| ≥ 1 (the callers' ASSERT). -/
theorem extract_double_spec (b : Nat) (hz : isZero b = false) (hf : expOf b ≠ 2047) :
    ∃ r0 r1 ex, extract_double b = (r0, r1, ex) ∧ r0 < B ∧ 1 ≤ r1 ∧ r1 < B ∧ -16 ≤ ex ∧ ex ≤ 16 ∧
      (r1 * B + r0) * 2 ^ (64 * ex + 1074).toNat = dblNum b * 2 ^ 128 ∧ (1023 ≤ expOf b → 1 ≤ ex) ∧ (expOf b < 1023 → ex ≤ 0) :=
  extract_double_eq b hz hf

-- non-vacuity: 1.5 (one integer limb, fraction in the low limb), the smallest denormal, 2^64, the largest finite double
example : extract_double 0x3FF8000000000000 = (2 ^ 63, 1, 1) ∧ extract_double 1 = (0, 2 ^ 14, -16) ∧
    extract_double 0x43F0000000000000 = (0, 1, 2) ∧ extract_double 0x7FEFFFFFFFFFFFFF = (0, 2 ^ 64 - 2 ^ 11, 16) := by decide

/-- set_d_spec.  mpz_set_d raises the invalid-operation exception exactly for NaN and ±∞; for every finite
    double (zeros, denormals, normals) the result is a well-formed mpz whose value is the double's exact value
    truncated toward zero: sign · floor (|d|), with |d| = dblNum / 2^1074. -/
theorem set_d_spec (b : Nat) :
    (expOf b = 2047 → mpz_set_d b = none) ∧
    (expOf b ≠ 2047 → ∃ z, mpz_set_d b = some z ∧ z.wf ∧
      z.toInt = (if sigOf b = 1 then -1 else 1) * ((dblNum b / 2 ^ 1074 : Nat) : Int)) :=
  mpz_set_d_eq b

-- non-vacuity: -1.5 ↦ -1; 2^64 ↦ a two-limb value; the largest denormal ↦ 0; NaN and -∞ raise
example : mpz_set_d 0xBFF8000000000000 = some ⟨-1, [1]⟩ ∧ mpz_set_d 0x43F0000000000000 = some ⟨2, [0, 1]⟩ ∧
    mpz_set_d 0x000FFFFFFFFFFFFF = some ⟨0, []⟩ ∧ mpz_set_d 0x7FF8000000000000 = none ∧ mpz_set_d 0xFFF0000000000000 = none ∧
    mpz_set_d 0x4340000000000001 = some ⟨1, [2 ^ 53 + 2]⟩ := by decide

/-! ## 6. Comparing an integer with a double -/

/-- cmp_d_spec.  `dblInt b` = d·2^1074 is the exact value of the finite double (scaled to an integer).
    * NaN: both functions raise the invalid-operation exception (`none`);
    * ±∞: mpz_cmp_d returns -1 for +∞ and +1 for -∞ whatever z is; mpz_cmpabs_d returns -1;
    * finite d (zeros, denormals, normals): the sign of mpz_cmp_d is the sign of the exact difference z - d,
      and the sign of mpz_cmpabs_d is the sign of |z| - |d|.  So both agree with the order of `cmp_total_order`
      extended to the doubles' exact values. -/
theorem cmp_d_spec (z : Z) (hz : z.wf) (b : Nat) :
    (isNaN b = true → mpz_cmp_d z b = none ∧ mpz_cmpabs_d z b = none) ∧
    (isInf b = true → mpz_cmp_d z b = some (if sigOf b = 1 then 1 else -1) ∧ mpz_cmpabs_d z b = some (-1)) ∧
    (expOf b ≠ 2047 →
      (∃ r, mpz_cmp_d z b = some r ∧ sgn r = sgn (z.toInt * 2 ^ 1074 - dblInt b)) ∧
      (∃ r, mpz_cmpabs_d z b = some r ∧ sgn r = sgn ((z.toInt.natAbs : Int) * 2 ^ 1074 - dblNum b))) := by
  refine ⟨fun h => ?_, fun h => ?_, fun hf => ?_⟩
  · unfold mpz_cmp_d mpz_cmpabs_d; rw [h]; simp
  · obtain ⟨hn, hzf⟩ := inf_flags h
    unfold mpz_cmp_d mpz_cmpabs_d; rw [hn, h, isNeg_of_nonzero hzf]
    by_cases c : sigOf b = 1 <;> simp [c]
  · obtain ⟨a1, a2, a3, a4, _⟩ := absBits_fields b
    obtain ⟨hn, hi⟩ := finite_flags hf
    have habs : absBits b < 2 ^ 63 := by unfold absBits; omega
    obtain ⟨s1, s2, s3⟩ := Z.toInt_sign hz
    obtain ⟨w0, w1, _⟩ := Z.wf_bounds hz
    have hna := Z.natAbs_toInt z
    have p1074 : (0 : Int) < 2 ^ 1074 := by positivity
    have tail : ∀ ret : Int, z.size ≠ 0 → isZero b = false →
        cmpTailD z.d (z.size.natAbs : Int) (absBits b) ret = ret * sgn ((val z.d : Int) * 2 ^ 1074 - dblNum b) := by
      intro ret hs hzb
      rw [← a4]
      exact cmpTailD_spec z.d hz.2.1 (hz.2.2 (ne_nil_of_size hz.1 hs)) (ne_nil_of_size hz.1 hs) _ (by rw [hz.1]) (absBits b) habs (by rw [a3]; exact hzb) (by rw [a1]; exact hf) ret
    generalize (2 : Int) ^ 1074 = S at *
    constructor
    · -- mpz_cmp_d
      unfold mpz_cmp_d
      rw [hn, hi]
      simp only [Bool.false_eq_true, if_false]
      by_cases hzb : isZero b = true
      · rw [if_pos hzb]
        refine ⟨_, rfl, ?_⟩
        have : dblInt b = 0 := by unfold dblInt; rw [dblNum_zero hzb]; simp
        rw [this, sub_zero, mul_comm, sgn_mul_pos p1074, Z.sgn_size hz]
      · have hzb' : isZero b = false := by simpa using hzb
        have dpos := dblNum_pos hzb'
        have hneg : (isNeg b = true) ↔ sigOf b = 1 := by rw [isNeg_of_nonzero hzb', decide_eq_true_eq]
        rw [if_neg hzb]
        by_cases h0 : z.size = 0
        · rw [if_pos h0]
          refine ⟨_, rfl, ?_⟩
          rw [s2 h0, zero_mul, zero_sub]
          unfold dblInt
          by_cases c : sigOf b = 1
          · rw [if_pos (hneg.mpr c), if_pos c]; exact sgn_eq_pos (by decide) (by omega)
          · rw [if_neg (fun h => c (hneg.mp h)), if_neg c]; exact sgn_eq_neg (by decide) (by omega)
        · rw [if_neg h0]
          have vpos : 0 < val z.d := lt_of_lt_of_le (Bpow_pos _) (w1 h0)
          by_cases c1 : z.size ≥ 0 ∧ isNeg b = true
          · rw [if_pos c1]
            refine ⟨_, rfl, ?_⟩
            have := s3 (by omega)
            have hd : dblInt b < 0 := by unfold dblInt; rw [if_pos (hneg.mp c1.2)]; omega
            have := mul_pos this p1074
            exact sgn_eq_pos (by decide) (by linarith)
          · rw [if_neg c1]
            by_cases c2 : z.size < 0 ∧ (!isNeg b) = true
            · rw [if_pos c2]
              refine ⟨_, rfl, ?_⟩
              have := s1 c2.1
              have nn : ¬ sigOf b = 1 := fun h => by have := hneg.mpr h; simp [this] at c2
              have hd : 0 < dblInt b := by unfold dblInt; rw [if_neg nn]; omega
              have := mul_neg_of_neg_of_pos this p1074
              exact sgn_eq_neg (by decide) (by linarith)
            · rw [if_neg c2]
              refine ⟨_, rfl, ?_⟩
              rw [tail _ h0 hzb']
              by_cases hp : z.size ≥ 0
              · have nn : ¬ sigOf b = 1 := fun h => c1 ⟨hp, hneg.mpr h⟩
                have ti : z.toInt = (val z.d : Int) := by unfold Z.toInt; rw [if_neg (by omega)]
                rw [if_pos hp, one_mul, sgn_sgn, ti]
                unfold dblInt; rw [if_neg nn]
              · have nn : sigOf b = 1 := by
                  by_contra h
                  have hb : isNeg b = false := by
                    cases hq : isNeg b with
                    | false => rfl
                    | true => exact absurd (hneg.mp hq) h
                  exact c2 ⟨by omega, by rw [hb]; rfl⟩
                have ti : z.toInt = -(val z.d : Int) := by unfold Z.toInt; rw [if_pos (by omega)]
                rw [if_neg hp, ti]
                unfold dblInt; rw [if_pos nn]
                have : -(val z.d : Int) * S - -(dblNum b : Int) = -((val z.d : Int) * S - dblNum b) := by ring
                rw [this, sgn_neg_eq, neg_one_mul, sgn_neg_eq, sgn_sgn]
    · -- mpz_cmpabs_d
      unfold mpz_cmpabs_d
      rw [hn, hi, hna]
      simp only [Bool.false_eq_true, if_false]
      by_cases hzb : isZero b = true
      · rw [if_pos hzb, dblNum_zero hzb]
        refine ⟨_, rfl, ?_⟩
        simp only [Nat.cast_zero, sub_zero]
        by_cases h0 : z.size = 0
        · rw [if_neg (by simpa using h0), w0 h0]; simp
        · rw [if_pos h0]
          have vpos : 0 < val z.d := lt_of_lt_of_le (Bpow_pos _) (w1 h0)
          exact sgn_eq_pos (by decide) (mul_pos (by exact_mod_cast vpos) p1074)
      · have hzb' : isZero b = false := by simpa using hzb
        have dpos := dblNum_pos hzb'
        rw [if_neg hzb]
        by_cases h0 : z.size = 0
        · rw [if_pos h0, w0 h0]
          refine ⟨_, rfl, ?_⟩
          exact sgn_eq_neg (by decide) (by simp; omega)
        · rw [if_neg h0]
          refine ⟨_, rfl, ?_⟩
          rw [tail _ h0 hzb', one_mul, sgn_sgn]

-- non-vacuity: 2^53+1 against the double 2^53 (equal after truncation, but the comparison is exact: greater);
-- a negative two-limb value against -2^64; a fraction; infinities; NaN
example : mpz_cmp_d ⟨1, [2 ^ 53 + 1]⟩ 0x4340000000000000 = some 1 ∧ mpz_cmp_d ⟨-2, [0, 1]⟩ 0xC3F0000000000000 = some 0 ∧
    mpz_cmp_d ⟨1, [1]⟩ 0x3FF8000000000000 = some (-1) ∧ mpz_cmpabs_d ⟨-1, [2]⟩ 0x3FF8000000000000 = some 1 ∧
    mpz_cmp_d ⟨1, [1]⟩ 0xFFF0000000000000 = some 1 ∧ mpz_cmp_d ⟨1, [1]⟩ 0x7FF8000000000000 = none ∧
    dblInt 0x8000000000000003 = -3 := by decide

/-! ## 7. mpf: conversion to double -/

/-- mpf_get_d_spec.  An mpf is F.mant · B^(exp - |size|) (signed integer mantissa, limb exponent).  mpf_get_d returns
    that value truncated toward zero to a double — ±∞ above the double range, denormals truncated, +0.0 below —
    for every well-formed operand and EVERY exponent of an mp_exp_t (the bit exponent (exp - |size|)·64 need not
    fit a `long`: mpf/get_d.c:39-44 saturates; before /repo commit 0f91e63 it overflowed).
    Hypotheses: |size| < 2^31 (`_mp_size` is an int) and exp - |size| is representable in a long. -/
theorem mpf_get_d_spec (f : F) (hf : f.wf) (hsz : f.d.length < 2 ^ 31)
    (he1 : LONG_MIN ≤ f.exp - f.size.natAbs) (he2 : f.exp - f.size.natAbs ≤ LONG_MAX) :
    mpf_get_d f = truncToDouble f.mant ((f.exp - f.size.natAbs) * 64) ∧
    decode (mpf_get_d f) = truncate53 f.mant ((f.exp - f.size.natAbs) * 64) := by
  have main : mpf_get_d f = truncToDouble f.mant ((f.exp - f.size.natAbs) * 64) := by
    unfold mpf_get_d
    by_cases h0 : f.size = 0
    · have : f.mant = 0 := by unfold F.mant; rw [(F.wf_bounds hf).1 h0, h0]; rfl
      rw [if_pos h0, this, truncToDouble_zero]
    · have hne := ne_nil_of_size hf.1 h0
      -- 1 ≤ bitlen ≤ 2^37 is all the three cases need of the mantissa
      have hb : 1 ≤ (bitlen (val f.d) : Int) ∧ (bitlen (val f.d) : Int) ≤ 2 ^ 37 := by
        obtain ⟨hbl, hls⟩ := bitlen_val hf.2.1 hne (hf.2.2.1 hne)
        have := List.length_pos_of_ne_nil hne
        rw [hbl]; omega
      have eq : ∀ e, LONG_MIN ≤ e → e ≤ LONG_MAX → mpn_get_d f.d f.size e = truncToDouble f.mant e :=
        fun e => mpn_get_d_eq f.d f.size e hf.2.1 hf.2.2.1 (by omega)
      rw [if_neg h0]
      dsimp only
      unfold LONG_MIN LONG_MAX at *
      generalize f.exp - (f.size.natAbs : Int) = E at *
      by_cases big : E > (2 ^ 63 - 1) / 64
      · rw [if_pos big, eq _ (by omega) (by omega)]
        exact truncToDouble_sat _ (Or.inl (by rw [F.mant_natAbs]; omega))
      · rw [if_neg big]
        by_cases small : E < -(2 ^ 63) / 64
        · rw [if_pos small, eq _ (by omega) (by omega)]
          exact truncToDouble_sat _ (Or.inr (by rw [F.mant_natAbs]; omega))
        · rw [if_neg small]
          exact eq _ (by omega) (by omega)
  exact ⟨main, by rw [main]; exact decode_truncToDouble _ _⟩

-- non-vacuity: 1.5 = [2^63, 1]·B^(1-2); -(2^64+1)·B^16 overflows; 1·B^-17 = 2^-1088 is below the denormals;
-- 1.5·2^-1074 truncates to the smallest denormal
example : mpf_get_d ⟨2, 1, [2 ^ 63, 1]⟩ = 0x3FF8000000000000 ∧ mpf_get_d ⟨-2, 18, [1, 1]⟩ = 0xFFF0000000000000 ∧
    mpf_get_d ⟨1, -16, [1]⟩ = 0 ∧ mpf_get_d ⟨1, -16, [3 * 2 ^ 13]⟩ = 1 ∧
    mpf_get_d ⟨1, 2 ^ 58, [2 ^ 63]⟩ = 0x7FF0000000000000 ∧ mpf_get_d ⟨1, -(2 ^ 58) + 1, [2]⟩ = 0 := by decide

/-- mpf_get_d_2exp: the exponent is the bit position just above the value's leading bit and the double is the
    mantissa scaled into [0.5, 1) and truncated: decoded, d = ± m·2^-53 with m the 53 leading bits. -/
theorem mpf_get_d_2exp_spec (f : F) (hf : f.wf) (hnz : f.size ≠ 0) (hsz : f.d.length < 2 ^ 57) :
    (mpf_get_d_2exp f).2 = f.exp * 64 - (64 * f.d.length - bitlen (val f.d) : Nat) ∧
    (mpf_get_d_2exp f).1 = truncToDouble f.mant (-(bitlen (val f.d) : Int)) ∧
    decode (mpf_get_d_2exp f).1 = .fin (decide (f.mant < 0)) (shiftZ (val f.d) (53 - (bitlen (val f.d) : Int))) (-53) ∧
    2 ^ 52 ≤ shiftZ (val f.d) (53 - (bitlen (val f.d) : Int)) ∧ shiftZ (val f.d) (53 - (bitlen (val f.d) : Int)) < 2 ^ 53 := by
  have hne := ne_nil_of_size hf.1 hnz
  obtain ⟨e1, e2, e3, t1, t2⟩ := get_d_2exp_core f.d f.size hf.2.1 (hf.2.2.1 hne) hne hsz
  have hbl := (bitlen_val hf.2.1 hne (hf.2.2.1 hne)).1
  unfold mpf_get_d_2exp
  rw [if_neg hnz]
  dsimp only
  rw [← hf.1, e1]
  exact ⟨by rw [hbl]; omega, e2, by rw [e2]; exact e3, t1, t2⟩

example : mpf_get_d_2exp ⟨2, 1, [2 ^ 63, 1]⟩ = (0x3FE8000000000000, 1) ∧ mpf_get_d_2exp ⟨-1, -3, [5]⟩ = (0xBFE4000000000000, -253) := by decide

/-! ## 8. mpf comparisons; mpf_set_d, on which mpf_cmp_d rests -/

/-- mpf_cmp_spec.  An mpf is the exact number F.mant · B^F.lowExp (signed integer mantissa, limb exponent of the
    lowest limb).  For all well-formed operands — any precisions, sizes, exponents, low zero limbs allowed —
    the sign of mpf_cmp u v is the sign of the exact difference u - v, written with integers by scaling both
    numbers with B^(-min of the two low exponents).  So mpf_cmp is a total order consistent with the values. -/
theorem mpf_cmp_spec (u v : F) (hu : u.wf) (hv : v.wf) :
    sgn (mpf_cmp u v) =
      sgn (u.mant * ((B ^ (u.lowExp - min u.lowExp v.lowExp).toNat : Nat) : Int)
         - v.mant * ((B ^ (v.lowExp - min u.lowExp v.lowExp).toNat : Nat) : Int)) :=
  mpf_cmp_sgn u v hu hv

-- non-vacuity: 1.5 against 1.5 written with a low zero limb (equal); against 1.5 + B^-2 (less);
-- different exponents; opposite signs; zero
example : mpf_cmp ⟨2, 1, [2 ^ 63, 1]⟩ ⟨3, 1, [0, 2 ^ 63, 1]⟩ = 0 ∧ mpf_cmp ⟨2, 1, [2 ^ 63, 1]⟩ ⟨3, 1, [1, 2 ^ 63, 1]⟩ = -1 ∧
    mpf_cmp ⟨-1, 2, [1]⟩ ⟨-1, 1, [7]⟩ = -1 ∧ mpf_cmp ⟨1, -5, [1]⟩ ⟨-1, 9, [1]⟩ = 1 ∧ mpf_cmp ⟨0, 0, []⟩ ⟨-1, 0, [1]⟩ = 1 := by decide

/-- mpf_set_d: NaN and ±∞ raise; ±0 gives 0; every other finite double is stored EXACTLY in two limbs
    (no rounding whatever the precision of the destination): well formed, sign as the double's,
    |mant|·B^lowExp = |d|, written without negative powers as |mant|·2^(64·(lowExp+2) + 1074) = (|d|·2^1074)·2^128. -/
theorem mpf_set_d_spec (b : Nat) :
    (expOf b = 2047 → mpf_set_d b = none) ∧
    (expOf b ≠ 2047 → isZero b = true → mpf_set_d b = some ⟨0, 0, []⟩) ∧
    (expOf b ≠ 2047 → isZero b = false → ∃ f, mpf_set_d b = some f ∧ f.wf ∧ (f.mant < 0 ↔ sigOf b = 1) ∧
      0 ≤ 64 * (f.lowExp + 2) + 1074 ∧
      f.mant.natAbs * 2 ^ (64 * (f.lowExp + 2) + 1074).toNat = dblNum b * 2 ^ 128) := by
  refine ⟨fun h => ?_, fun hf hz => ?_, fun hf hz => ?_⟩
  · unfold mpf_set_d
    rw [nonfinite_flags h]; rfl
  · obtain ⟨hn, hi⟩ := finite_flags hf
    unfold mpf_set_d; rw [hn, hi, hz]; simp
  · obtain ⟨r0, r1, ex, he, h0, h1, h1', x1, x2, hrel, _, _⟩ := extract_double_abs b hz hf
    obtain ⟨w, t⟩ := set_d_shape_F r0 r1 h0 h1 h1' (isNeg b) ex
    have hni : (isNaN b || isInf b) = false := by rw [(finite_flags hf).1, (finite_flags hf).2]; rfl
    have hl : F.lowExp ⟨if isNeg b = true then -2 else 2, ex, [r0, r1]⟩ + 2 = ex := by
      unfold F.lowExp; dsimp only; cases isNeg b <;> simp
    have hpos : 0 < r1 * B + r0 := Nat.add_pos_left (Nat.mul_pos h1 B_pos) _
    unfold mpf_set_d
    rw [hni, hz, he]
    simp only [Bool.false_eq_true, if_false]
    refine ⟨_, rfl, w, ?_, ?_, ?_⟩
    · rw [t, ← isNeg_iff hz]; cases isNeg b <;> simp <;> omega
    · rw [hl]; omega
    · rw [hl, t, ← hrel]; congr 1
      generalize r1 * B + r0 = n
      cases isNeg b <;> simp

example : mpf_set_d 0xBFF8000000000000 = some ⟨-2, 1, [2 ^ 63, 1]⟩ ∧ mpf_set_d 1 = some ⟨2, -16, [0, 2 ^ 14]⟩ ∧
    mpf_set_d 0x8000000000000000 = some ⟨0, 0, []⟩ ∧ mpf_set_d 0x7FF0000000000000 = none := by decide

/-- mpf_cmp_d is consistent with mpf_cmp: for a finite non-zero double it is literally the comparison with the
    exact mpf image of the double (`mpf_set_d`, which is exact by `mpf_set_d_spec`), so `mpf_cmp_spec` applies;
    for ±0 it is the sign of f; +∞ / -∞ compare above / below everything; NaN raises. -/
theorem mpf_cmp_d_spec (f : F) (hf : f.wf) (b : Nat) :
    (isNaN b = true → mpf_cmp_d f b = none) ∧
    (isInf b = true → mpf_cmp_d f b = some (if sigOf b = 1 then 1 else -1)) ∧
    (expOf b ≠ 2047 → isZero b = true → ∃ r, mpf_cmp_d f b = some r ∧ sgn r = sgn f.mant) ∧
    (expOf b ≠ 2047 → isZero b = false → ∃ g, mpf_set_d b = some g ∧ mpf_cmp_d f b = some (mpf_cmp f g)) := by
  refine ⟨fun h => ?_, fun h => ?_, fun hfin hz => ?_, fun hfin hz => ?_⟩
  · unfold mpf_cmp_d; rw [h]; simp
  · obtain ⟨hn, hzf⟩ := inf_flags h
    unfold mpf_cmp_d; rw [hn, h, isNeg_of_nonzero hzf]
    by_cases c : sigOf b = 1 <;> simp [c]
  · obtain ⟨hn, hi⟩ := finite_flags hfin
    unfold mpf_cmp_d; rw [hn, hi, hz]
    simp only [Bool.false_eq_true, if_false, if_true]
    refine ⟨_, rfl, ?_⟩
    exact F.sgn_size hf
  · obtain ⟨hn, hi⟩ := finite_flags hfin
    unfold mpf_cmp_d mpf_set_d; rw [hn, hi, hz]
    simp only [Bool.false_eq_true, Bool.or_self, if_false]
    refine ⟨_, rfl, ?_⟩
    by_cases c : isNeg b = true <;> simp [c]

example : mpf_cmp_d ⟨2, 1, [2 ^ 63, 1]⟩ 0x3FF8000000000000 = some 0 ∧ mpf_cmp_d ⟨3, 1, [1, 2 ^ 63, 1]⟩ 0x3FF8000000000000 = some 1 ∧
    mpf_cmp_d ⟨-1, 1, [1]⟩ 0 = some (-1) ∧ mpf_cmp_d ⟨1, 900, [1]⟩ 0x7FF0000000000000 = some (-1) ∧
    mpf_cmp_d ⟨1, 1, [1]⟩ 0x7FF0000000000001 = none := by decide

/-- mpf_cmp_z compares with the mpf whose mantissa is the integer and whose low exponent is 0, so by
    `mpf_cmp_spec` its sign is the sign of u - v. -/
theorem mpf_cmp_z_spec (u : F) (hu : u.wf) (v : Z) (hv : v.wf) :
    sgn (mpf_cmp_z u v) =
      sgn (u.mant * ((B ^ (u.lowExp - min u.lowExp 0).toNat : Nat) : Int) - v.toInt * ((B ^ (0 - min u.lowExp 0).toNat : Nat) : Int)) := by
  have wfv : F.wf ⟨v.size, v.size.natAbs, v.d⟩ := ⟨hv.1, hv.2.1, hv.2.2, fun h => by have h' : v.size = 0 := h; simp [h']⟩
  have := mpf_cmp_spec u ⟨v.size, v.size.natAbs, v.d⟩ hu wfv
  have hl : F.lowExp ⟨v.size, v.size.natAbs, v.d⟩ = 0 := by unfold F.lowExp; simp
  have hm : F.mant ⟨v.size, v.size.natAbs, v.d⟩ = v.toInt := rfl
  rw [hl, hm] at this
  exact this

example : mpf_cmp_z ⟨2, 1, [2 ^ 63, 1]⟩ ⟨1, [1]⟩ = 1 ∧ mpf_cmp_z ⟨2, 1, [2 ^ 63, 1]⟩ ⟨1, [2]⟩ = -1 ∧ mpf_cmp_z ⟨1, 2, [1]⟩ ⟨2, [0, 1]⟩ = 0 := by decide

/-- mpf_cmp_ui: sign of the exact difference u - v for every unsigned long v (integers scaled by
    B^(-min (lowExp u) 0) as in `mpf_cmp_spec`). -/
theorem mpf_cmp_ui_spec (u : F) (hu : u.wf) (v : Nat) (hv : v < B) :
    sgn (mpf_cmp_ui u v) =
      sgn (u.mant * ((B ^ (u.lowExp - min u.lowExp 0).toNat : Nat) : Int) - (v : Int) * ((B ^ (0 - min u.lowExp 0).toNat : Nat) : Int)) := by
  obtain ⟨m1, m2, m3⟩ := F.mant_scaled_sign hu (u.lowExp - min u.lowExp 0).toNat
  have hPB : (0 : Int) ≤ (v : Int) * ((B ^ (0 - min u.lowExp 0).toNat : Nat) : Int) := by positivity
  unfold mpf_cmp_ui
  by_cases hn : u.size < 0
  · have := m1 hn
    rw [if_pos hn]; exact sgn_eq_neg (by decide) (by omega)
  · rw [if_neg hn]
    by_cases hvz : v = 0
    · rw [if_pos hvz, hvz, Nat.cast_zero, zero_mul, sub_zero]
      by_cases h0 : u.size = 0
      · rw [if_neg (not_not.mpr h0), m2 h0]
      · rw [if_pos h0]; exact sgn_eq_pos (by decide) (m3 (by omega))
    · rw [if_neg hvz, mpf_cmp_limb1_spec u hu v (by omega) hv 1, one_mul, sgn_sgn, F.mant_eq_mul, if_pos (by omega), one_mul]

example : mpf_cmp_ui ⟨2, 1, [2 ^ 63, 7]⟩ 7 = 1 ∧ mpf_cmp_ui ⟨2, 1, [0, 7]⟩ 7 = 0 ∧ mpf_cmp_ui ⟨1, 0, [7]⟩ 1 = -1 ∧
    mpf_cmp_ui ⟨1, 2, [1]⟩ (B - 1) = 1 ∧ mpf_cmp_ui ⟨-1, 2, [1]⟩ 0 = -1 := by decide

/-- mpf_cmp_si: sign of the exact difference u - v for every long v, LONG_MIN included. -/
theorem mpf_cmp_si_spec (u : F) (hu : u.wf) (v : Int) (h1 : LONG_MIN ≤ v) (h2 : v ≤ LONG_MAX) :
    sgn (mpf_cmp_si u v) =
      sgn (u.mant * ((B ^ (u.lowExp - min u.lowExp 0).toNat : Nat) : Int) - v * ((B ^ (0 - min u.lowExp 0).toNat : Nat) : Int)) := by
  unfold LONG_MIN at h1; unfold LONG_MAX at h2
  have hPB : (0 : Int) < ((B ^ (0 - min u.lowExp 0).toNat : Nat) : Int) := by exact_mod_cast Bpow_pos _
  unfold mpf_cmp_si
  refine signed_cmp_spec (F.mant_scaled_sign hu _)
    ⟨fun h => mul_neg_of_neg_of_pos h hPB, fun h => by rw [h, zero_mul], fun h => mul_pos h hPB⟩ (fun hu0 hv0 same => ?_)
  -- both non-zero of the same sign: u = usign·|u|, v = usign·|v|, and |v| is what the C code reads (`-LONG_MIN` wraps)
  have hsg : (if u.size ≥ 0 then (1 : Int) else -1) = 1 ∨ (if u.size ≥ 0 then (1 : Int) else -1) = -1 := by
    by_cases a : u.size ≥ 0 <;> simp [a]
  have hvv : toU64 (if v ≥ 0 then v else -v) = v.natAbs := by unfold toU64; split <;> omega
  have mv : v = (if u.size ≥ 0 then 1 else -1) * (v.natAbs : Int) := by split <;> omega
  dsimp only
  rw [hvv, mpf_cmp_limb1_spec u hu v.natAbs (by omega) (by unfold B; omega), sgn_usign_mul _ _ hsg, F.mant_eq_mul u]
  congr 1
  conv_rhs => rw [mv]
  ring

example : mpf_cmp_si ⟨-1, 1, [2 ^ 63]⟩ LONG_MIN = 0 ∧ mpf_cmp_si ⟨-2, 1, [1, 2 ^ 63]⟩ LONG_MIN = -1 ∧
    mpf_cmp_si ⟨1, 0, [1]⟩ 0 = 1 ∧ mpf_cmp_si ⟨-1, 0, [1]⟩ (-1) = 1 ∧ mpf_cmp_si ⟨1, 1, [5]⟩ (-5) = 1 := by decide

/-! ## 9. mpf: fits_*_p, get_si / get_ui, integer_p (F.truncInt = the value truncated toward zero) -/

/-- mpf_fits_s*_p: true iff the truncated value lies in the signed type's range [-minabs, maxv]. -/
theorem mpf_fits_s_iff_range (maxv minabs : Nat) (hm : maxv < B) (hn : minabs < B) (f : F) (hf : f.wf) :
    mpf_fits_s maxv minabs f = true ↔ (-(minabs : Int) ≤ f.truncInt ∧ f.truncInt ≤ maxv) := by
  obtain ⟨t0, t1, t2, _⟩ := F.trunc_facts hf
  have hz := hf.2.2.2
  unfold mpf_fits_s F.truncInt
  by_cases s0 : f.size = 0
  · have := t0 (by have := hz s0; omega)
    rw [if_pos s0, this]; simp
  · rw [if_neg s0]
    by_cases e0 : f.exp < 1
    · have := t0 (by omega)
      rw [if_pos e0, this]; simp
    · rw [if_neg e0]
      by_cases e1 : f.exp = 1
      · obtain ⟨k, k1, k2⟩ := t1 e1
        rw [if_pos e1, ← k]
        generalize f.truncNat = T at *
        by_cases sn : f.size < 0
        · rw [if_pos sn, if_neg (by omega)]; simp only [decide_eq_true_eq]; omega
        · rw [if_neg sn, if_pos (by omega)]; simp only [decide_eq_true_eq]; omega
      · have := t2 (by omega)
        rw [if_neg e1]
        generalize f.truncNat = T at *
        constructor
        · intro h; exact absurd h (by decide)
        · intro ⟨l, u⟩; exfalso; split at l <;> omega

/-- mpf_fits_u*_p: true iff the truncated value lies in [0, maxv] (so -0.5 fits, -1.5 does not). -/
theorem mpf_fits_u_iff_range (maxv : Nat) (hm : maxv < B) (f : F) (hf : f.wf) :
    mpf_fits_u maxv f = true ↔ (0 ≤ f.truncInt ∧ f.truncInt ≤ maxv) := by
  obtain ⟨t0, t1, t2, _⟩ := F.trunc_facts hf
  have hz := hf.2.2.2
  unfold mpf_fits_u F.truncInt
  by_cases e0 : f.exp < 1
  · have := t0 (by omega)
    rw [if_pos e0, this]; simp
  · rw [if_neg e0]
    have s0 : f.size ≠ 0 := fun e => by have := hz e; omega
    have tpos : 1 ≤ f.truncNat := by
      by_cases e1 : f.exp = 1
      · exact (t1 e1).2.1
      · have := t2 (by omega); have := B_pos; omega
    by_cases sn : f.size ≤ 0
    · rw [if_pos sn, if_pos (show f.size < 0 by omega)]
      simp only [decide_eq_true_eq]
      constructor
      · intro h; exact absurd h s0
      · intro ⟨l, _⟩; omega
    · rw [if_neg sn, if_neg (show ¬ f.size < 0 by omega)]
      by_cases e1 : f.exp = 1
      · obtain ⟨k, k1, k2⟩ := t1 e1
        rw [if_pos e1, ← k]; simp only [decide_eq_true_eq]; omega
      · have := t2 (by omega)
        rw [if_neg e1]
        constructor
        · intro h; exact absurd h (by decide)
        · intro ⟨_, u⟩; omega

/-- The eight mpf predicates (six documented + MPIR's _ui/_si) against the ranges of the C types. -/
theorem mpf_fits_iff_range (f : F) (hf : f.wf) :
    (mpf_fits_u (2 ^ 64 - 1) f = true ↔ 0 ≤ f.truncInt ∧ f.truncInt ≤ 2 ^ 64 - 1) ∧
    (mpf_fits_s (2 ^ 63 - 1) (2 ^ 63) f = true ↔ -(2 ^ 63) ≤ f.truncInt ∧ f.truncInt ≤ 2 ^ 63 - 1) ∧
    (mpf_fits_u (2 ^ 32 - 1) f = true ↔ 0 ≤ f.truncInt ∧ f.truncInt ≤ 2 ^ 32 - 1) ∧
    (mpf_fits_s (2 ^ 31 - 1) (2 ^ 31) f = true ↔ -(2 ^ 31) ≤ f.truncInt ∧ f.truncInt ≤ 2 ^ 31 - 1) ∧
    (mpf_fits_u (2 ^ 16 - 1) f = true ↔ 0 ≤ f.truncInt ∧ f.truncInt ≤ 2 ^ 16 - 1) ∧
    (mpf_fits_s (2 ^ 15 - 1) (2 ^ 15) f = true ↔ -(2 ^ 15) ≤ f.truncInt ∧ f.truncInt ≤ 2 ^ 15 - 1) := by
  have u := fun (k : Nat) (hk : 2 ^ k - 1 < B) => mpf_fits_u_iff_range (2 ^ k - 1) hk f hf
  have s := fun (k : Nat) (hk : 2 ^ k < B) =>
    mpf_fits_s_iff_range (2 ^ k - 1) (2 ^ k) (lt_of_le_of_lt (Nat.sub_le _ _) hk) hk f hf
  have u64 := u 64 (by decide)
  have u32 := u 32 (by decide)
  have u16 := u 16 (by decide)
  have s63 := s 63 (by decide)
  have s31 := s 31 (by decide)
  have s15 := s 15 (by decide)
  push_cast at u64 u32 u16 s63 s31 s15
  exact ⟨u64, s63, u32, s31, u16, s15⟩

-- non-vacuity: -(2^31 + 0.5) truncates to -2^31 and fits an int; -(2^31 + 1.5) does not; -0.5 fits unsigned; 65536.5 does not fit ushort
example : mpf_fits_s (2 ^ 31 - 1) (2 ^ 31) ⟨-2, 1, [2 ^ 63, 2 ^ 31]⟩ = true ∧ mpf_fits_s (2 ^ 31 - 1) (2 ^ 31) ⟨-2, 1, [2 ^ 63, 2 ^ 31 + 1]⟩ = false ∧
    mpf_fits_u (2 ^ 16 - 1) ⟨-1, 0, [2 ^ 63]⟩ = true ∧ mpf_fits_u (2 ^ 16 - 1) ⟨2, 1, [2 ^ 63, 65536]⟩ = false ∧
    F.truncInt ⟨-2, 1, [2 ^ 63, 2 ^ 31]⟩ = -(2 ^ 31) := by decide

/-- mpf_get_ui: the low 64 bits of |op| truncated to an integer, for every op;
    mpf_get_si: the truncated value itself whenever it fits a long. -/
theorem mpf_get_si_ui_spec (f : F) (hf : f.wf) :
    mpf_get_ui f = f.truncNat % 2 ^ 64 ∧
    (LONG_MIN ≤ f.truncInt → f.truncInt ≤ LONG_MAX → mpf_get_si f = f.truncInt) := by
  obtain ⟨t0, t1, t2, t3⟩ := F.trunc_facts hf
  have hz := hf.2.2.2
  have hB : B = 2 ^ 64 := rfl
  constructor
  · unfold mpf_get_ui
    by_cases e : f.exp > 0
    · rw [if_pos e, ← t3 e, hB]
    · rw [if_neg e, t0 (by omega)]; rfl
  · intro l u
    unfold LONG_MIN at l; unfold LONG_MAX at u
    unfold mpf_get_si
    by_cases e0 : f.exp ≤ 0
    · rw [if_pos e0]; unfold F.truncInt; rw [t0 e0]; simp
    · rw [if_neg e0]
      have s0 : f.size ≠ 0 := fun e => by have := hz e; omega
      have h3 := t3 (by omega)
      dsimp only
      rw [← h3]
      unfold F.truncInt at l u ⊢
      by_cases e1 : f.exp = 1
      · obtain ⟨_, k1, k2⟩ := t1 e1
        generalize f.truncNat = T at *
        by_cases sp : f.size > 0
        · rw [if_pos sp, if_neg (by omega)]; rw [if_neg (by omega)] at l u; rw [hB] at *; omega
        · rw [if_neg sp, if_pos (by omega)]; rw [if_pos (by omega)] at l u; rw [hB] at *; omega
      · have := t2 (by omega)
        generalize f.truncNat = T at *
        exfalso; rw [hB] at this; split at l <;> omega

example : mpf_get_si ⟨-2, 1, [2 ^ 63, 2 ^ 63]⟩ = LONG_MIN ∧ mpf_get_ui ⟨3, 2, [9, 7, 1]⟩ = 7 ∧ mpf_get_si ⟨2, 1, [2 ^ 63, 5]⟩ = 5 ∧
    mpf_get_ui ⟨1, 3, [1]⟩ = 0 ∧ F.truncNat ⟨3, 2, [9, 7, 1]⟩ = 2 ^ 64 + 7 := by decide

/-- mpf_integer_p: true iff the value is an integer, i.e. the low exponent is non-negative or the mantissa is
    divisible by B^(-lowExp). -/
theorem mpf_integer_p_spec (f : F) (hf : f.wf) :
    mpf_integer_p f = true ↔ (0 ≤ f.lowExp ∨ val f.d % B ^ (-f.lowExp).toNat = 0) := by
  obtain ⟨u0, u1, u2⟩ := F.wf_bounds hf
  have ul := hf.1
  unfold mpf_integer_p F.lowExp
  by_cases s0 : f.size = 0
  · rw [if_pos s0, u0 s0]; simp
  · rw [if_neg s0]
    have vpos : 0 < val f.d := lt_of_lt_of_le (Bpow_pos _) (u1 s0)
    by_cases e0 : f.exp ≤ 0
    · rw [if_pos e0]
      have : val f.d % B ^ (-(f.exp - (f.size.natAbs : Int))).toNat = val f.d :=
        Nat.mod_eq_of_lt (lt_of_lt_of_le u2 (pow_le_pow_B (by omega)))
      rw [this]
      constructor
      · intro h; exact absurd h (by decide)
      · intro h; rcases h with h | h <;> omega
    · rw [if_neg e0]
      dsimp only
      by_cases c : (f.size.natAbs : Int) - f.exp ≤ 0
      · have : ((f.size.natAbs : Int) - f.exp).toNat = 0 := by omega
        rw [this]; simp only [List.take_zero, List.all_nil, true_iff]; left; omega
      · have hk : ((f.size.natAbs : Int) - f.exp).toNat ≤ f.d.length := by omega
        have e := val_take_drop f.d _ hk
        have lt : val (f.d.take ((f.size.natAbs : Int) - f.exp).toNat) < B ^ ((f.size.natAbs : Int) - f.exp).toNat := by
          have := val_lt _ (Limbs_take hf.2.1 ((f.size.natAbs : Int) - f.exp).toNat)
          rwa [List.length_take, Nat.min_eq_left hk] at this
        have hmod : val f.d % B ^ ((f.size.natAbs : Int) - f.exp).toNat = val (f.d.take ((f.size.natAbs : Int) - f.exp).toNat) := by
          rw [e, Nat.add_mul_mod_self_left, Nat.mod_eq_of_lt lt]
        have e1 : (-(f.exp - (f.size.natAbs : Int))).toNat = ((f.size.natAbs : Int) - f.exp).toNat := by omega
        rw [e1, hmod, List.all_eq_true, val_eq_zero_iff]
        constructor
        · intro h; right; intro x hx; simpa using h x hx
        · intro h x hx
          rcases h with h | h
          · omega
          · simpa using h x hx

example : mpf_integer_p ⟨3, 2, [0, 7, 1]⟩ = true ∧ mpf_integer_p ⟨3, 2, [9, 7, 1]⟩ = false ∧ mpf_integer_p ⟨1, 5, [1]⟩ = true ∧
    mpf_integer_p ⟨1, 0, [1]⟩ = false := by decide

end Mpir.Conv

