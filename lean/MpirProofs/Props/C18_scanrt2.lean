/-
  C18, scanf side, second part — `%Zi` (base detection) and `%Q` round trips.  Property theorems only; helper
  lemmas are in MpirProofs/Lemmas/ScanfI.lean (field reader for every scan base) and Lemmas/ScanfQ.lean (text of `%Q`).
  Models: Mpir/Model/Printf.lean (`layoutModel`, `doprntIntegerG`), Mpir/Model/Scanf.lean (`doscan`, `gmpscan`);
  tie: ops gmp_rt_Z / gmp_rtf_Z / gmp_rt_Q / gmp_rtf_Q (harness/ops_scanrt.c) on the grids of tools/props/c18_scanrt2.py.
-/
import MpirProofs.Props.C18_scanrt
import MpirProofs.Lemmas.ScanfI
import MpirProofs.Lemmas.ScanfQ
namespace Mpir.Scanf
open Mpir.Printf

/-- `print_scan_roundtrip_Zi` (item 1): for EVERY mpz value `v`, every list of flag characters, every width and precision
    form (as in `print_scan_roundtrip_Z`) and every conversion d i u o x X: `gmp_sscanf (text, "%Zi%n", x, &n)` — base
    detection: leading `0x`/`0X` hexadecimal, leading `0` octal, else decimal (doscan.c:246-266, then mpz_set_str with
    base 0) — applied to the text of `gmp_printf ("%<flags><width><prec>Z<conv>", v)` returns 1, assigns exactly `v`, and
    `%n` = the length of the text up to the `t` trailing blanks of left adjustment, which are what is left unread.
    Precision zeros and `0`-flag zeros after a `0x`/`0X` prefix or after the `0` of `%#Zo` are read as leading zeros of
    that base.  The exceptions, exactly:
    * `hdig`: no digit printed (value 0 with precision 0; `%#.0Zo` of 0 prints "0" and is read back);
    * `hhash`: a non-zero value printed by o / x / X carries its base only with the `#` flag ("17" is read as decimal,
      "ff" is no number); the value 0 needs no `#`: it prints as zeros only (`%#Zo`, `%#Zx` of 0 print "0": octal zero);
    * `hdec`: a non-zero value printed by d / i / u must not get a zero in front of its first digit, which `%Zi` would
      take for the octal indicator ("0019" reads as 1, "0017" as 15): the precision does not exceed the number of digits,
      and the `0` flag is not in effect (absent, or cancelled by `-` or a precision, or the width needs no padding);
    * `hlen`: the text is shorter than INT_MAX-1 characters (doscan.c:230 cuts a field there). -/
theorem print_scan_roundtrip_Zi (fl : List Char) (w : WidthArg) (p : PrecArg) (conv : Conv) (v : Int)
    (hp : p ≠ .dot)
    (hdig : ¬ (v = 0 ∧ cPrec p = some 0 ∧ ¬ ('#' ∈ fl ∧ conv = .o)))
    (hhash : conv.base ≠ 10 → v ≠ 0 → '#' ∈ fl)
    (hdec : conv.base = 10 → v ≠ 0 →
      (cPrec p).getD 1 ≤ (natDigits conv.base conv.upper v.natAbs).length ∧
      (¬ '0' ∈ fl ∨ (cFlags fl w).minus = true ∨ (cPrec p).isSome = true ∨
        cWidth w ≤ (signChars (cFlags fl w) (decide (v < 0))).length + (natDigits conv.base conv.upper v.natAbs).length))
    (hlen : (layoutModel fl w p conv v).length < 2147483646) :
    ∃ t, doscan ['%', 'Z', 'i', '%', 'n'] (layoutModel fl w p conv v) =
        some { fields := 1, outs := [.z v, .int (((layoutModel fl w p conv v).length - t : Nat) : Int)],
               rest := List.replicate t ' ' } ∧
      t ≤ (layoutModel fl w p conv v).length ∧ ((cFlags fl w).minus = false → t = 0) := by
  rw [layoutModel_eq_Q] at hlen ⊢
  -- `hdec` in the terms of the `%Q` text
  have hdec' : conv.base = 10 → v ≠ 0 → precInt p ≤ (qSlen p conv v 1 : Int) ∧
      (¬ '0' ∈ fl ∨ leftP fl w ∨ 0 ≤ precInt p ∨ cWidth w ≤ qSignLen fl v + qSlen p conv v 1) := by
    intro h10 hv
    obtain ⟨d1, d2⟩ := hdec h10 hv
    have hs : qSlen p conv v 1 = (natDigits conv.base conv.upper v.natAbs).length := by simp [qSlen, qNum, hv]
    rw [hs, qSignLen_eq fl w, cPrec_precInt p hp]
    refine ⟨?_, ?_⟩
    · cases hc : cPrec p <;> simp [hc] at d1 ⊢; omega
    · rcases d2 with d | d | d | d
      · exact Or.inl d
      · exact Or.inr (Or.inl ((cFlags_minus fl w).mp d))
      · right; right; left; cases hc : cPrec p <;> simp [hc] at d ⊢
      · exact Or.inr (Or.inr (Or.inr d))
  obtain ⟨t, h1, h2, h3⟩ := layoutModelQ_roundtrip 'Z' 'i' 0 (by simp [ConvChar]) fl w p conv v 1 Int.one_pos (Or.inr ⟨rfl, rfl⟩)
    (fun k R hR hk8 hk0 => qi_num_key fl p conv v k R hR (by rwa [← cPrec_zero_iff p hp]) hhash hk8
      (fun h10 hv => hk0 h10 (hdec' h10 hv).1 (hdec' h10 hv).2))
    (fun h => absurd rfl h) hlen.le
  exact ⟨t, h1, h2, fun hm => h3 (fun hl => by rw [(cFlags_minus fl w).mpr hl] at hm; cases hm)⟩

-- non-vacuity: the three base indicators, zeros after the prefix, blanks on both sides
example : String.ofList (layoutModel ['#', '0'] (.num 9) .none .x (-255)) = "-0x0000ff" ∧
    view (doscan "%Zi%n".toList (layoutModel ['#', '0'] (.num 9) .none .x (-255))) = some (1, [-255, 9], "") := by decide +kernel
example : String.ofList (layoutModel ['#', '-'] (.num 9) (.num 5) .X 255) = "0X000FF  " ∧
    view (doscan "%Zi%n".toList (layoutModel ['#', '-'] (.num 9) (.num 5) .X 255)) = some (1, [255, 7], "  ") := by decide +kernel
example : String.ofList (layoutModel ['#'] (.num 6) .none .o 15) = "   017" ∧
    view (doscan "%Zi%n".toList (layoutModel ['#'] (.num 6) .none .o 15)) = some (1, [15, 6], "") := by decide +kernel
example : view (doscan "%Zi%n".toList (layoutModel ['+'] (.num 6) .none .d 190)) = some (1, [190, 6], "") ∧
    view (doscan "%Zi%n".toList (layoutModel ['#'] .none (.num 3) .o 0)) = some (1, [0, 3], "") := by decide +kernel
-- the `0` flag without effect (width 3 needs no padding) is inside the theorem; with effect it is the exception:
example : view (doscan "%Zi%n".toList (layoutModel ['0'] (.num 3) .none .d 190)) = some (1, [190, 3], "") := by decide +kernel
-- the exceptions are real: "0019" is octal 1 then stops at the 9; "17" printed by %Zo is decimal 17; "ff" is no number
example : String.ofList (layoutModel [] .none (.num 4) .d 19) = "0019" ∧
    view (doscan "%Zi%n".toList (layoutModel [] .none (.num 4) .d 19)) = some (1, [1, 3], "9") := by decide +kernel
example : view (doscan "%Zi%n".toList (layoutModel ['0'] (.num 4) .none .d 17)) = some (1, [15, 4], "") := by decide +kernel
example : view (doscan "%Zi%n".toList (layoutModel [] .none .none .o 15)) = some (1, [17, 2], "") ∧
    view (doscan "%Zi%n".toList (layoutModel [] .none .none .x 255)) = some (0, [], "ff") := by decide +kernel

/-! ## `%Q` -/

/-- `print_scan_roundtrip_Q` (item 2, matching conversion): for EVERY rational as stored — numerator `n` of any sign,
    denominator `d > 0`, canonical or not (2/4 is printed and read back as 2/4: neither side canonicalises), denominator 1
    printed without `/` and read back as 1 — every list of flag characters, every width and precision form (here the
    empty precision `.` is included) and every conversion d i u o x X:
    `gmp_sscanf (text, "%Q<c>%n", q, &n)` with the matching conversion c applied to the text of
    `gmp_printf ("%<flags><width><prec>Q<conv>", q)` returns 1, assigns exactly `n`/`d`, `%n` = length of the text up to the
    `t` blanks of left adjustment, which stay unread.  The precision counts the whole string "num/den" (doprnti.c:66,90) and
    its zeros go in front of the numerator; with `#` and o the `0` goes in front of both parts and is read as a digit.
    The exceptions, exactly:
    * `hdig`: numerator 0 with precision 0 prints no numerator digit ("" or "/den"), unless `#` with o supplies a "0";
    * `hx`: `%Qx`/`%QX` do not accept the `0x` prefix that `#` puts in front of a non-zero numerator and of every
      denominator (that text is read by `%Qi`: `print_scan_roundtrip_Qi`);
    * `hlen` as in `print_scan_roundtrip_Zi`. -/
theorem print_scan_roundtrip_Q (fl : List Char) (w : WidthArg) (p : PrecArg) (conv : Conv) (n d : Int) (hd : 0 < d)
    (hdig : ¬ (n = 0 ∧ precInt p = 0 ∧ ¬ ('#' ∈ fl ∧ conv = .o)))
    (hx : ¬ ('#' ∈ fl ∧ conv.base = 16 ∧ (n ≠ 0 ∨ d ≠ 1)))
    (hlen : (layoutModelQ fl w p conv n d).length < 2147483646) :
    ∃ t, doscan ['%', 'Q', readConv conv, '%', 'n'] (layoutModelQ fl w p conv n d) =
        some { fields := 1, outs := [.q n d, .int (((layoutModelQ fl w p conv n d).length - t : Nat) : Int)],
               rest := List.replicate t ' ' } ∧
      t ≤ (layoutModelQ fl w p conv n d).length ∧ (¬ leftP fl w → t = 0) :=
  layoutModelQ_roundtrip 'Q' (readConv conv) conv.base (readConv_convChar conv) fl w p conv n d hd (Or.inl rfl)
    (fun k R hR hk8 _ => q_num_key fl p conv n k R hR hdig (fun h => hx ⟨h.1, h.2.1, Or.inl h.2.2⟩) hk8)
    (fun hd1 R hR => q_den_key fl conv d R hR (fun h => hx ⟨h.1, h.2, Or.inr hd1⟩)) hlen.le

-- non-vacuity: non-canonical, negative, denominator 1, zeros in front of the numerator, octal `0` on both parts
example : String.ofList (layoutModelQ ['+'] (.num 9) (.num 7) .d 2 4) = " +00002/4" ∧
    view (doscan "%Qd%n".toList (layoutModelQ ['+'] (.num 9) (.num 7) .d 2 4)) = some (1, [2, 4, 9], "") := by decide +kernel
example : String.ofList (layoutModelQ ['#', '-'] (.num 9) .none .o (-5) 8) = "-05/010  " ∧
    view (doscan "%Qo%n".toList (layoutModelQ ['#', '-'] (.num 9) .none .o (-5) 8)) = some (1, [-5, 8, 7], "  ") := by decide +kernel
example : view (doscan "%QX%n".toList (layoutModelQ ['0'] (.num 6) .none .X (-255) 1)) = some (1, [-255, 1, 6], "") := by decide +kernel
-- the model text is the text of the format parser (`doprnt`) for that directive
example : (doprnt "%+9.7Qd".toList [.mpq 2 4]).map (fun r => callsBytes r.calls) = some (layoutModelQ ['+'] (.num 9) (.num 7) .d 2 4) ∧
    (doprnt "%#-*Qo".toList [.int 9, .mpq (-5) 8]).map (fun r => callsBytes r.calls) =
      some (layoutModelQ ['#', '-'] (.star 9) .none .o (-5) 8) := by decide +kernel
-- the exceptions are real: "/5" is no number; "0x5/0x8" stops %Qx at the x
example : String.ofList (layoutModelQ [] .none (.num 0) .d 0 5) = "/5" ∧
    view (doscan "%Qd%n".toList (layoutModelQ [] .none (.num 0) .d 0 5)) = some (0, [], "/5") := by decide +kernel
example : String.ofList (layoutModelQ ['#'] .none .none .x 5 8) = "0x5/0x8" ∧
    view (doscan "%Qx%n".toList (layoutModelQ ['#'] .none .none .x 5 8)) = some (1, [0, 1, 1], "x5/0x8") := by decide +kernel

/-- `print_scan_roundtrip_Qi` (item 2, `%Qi`): the text of `gmp_printf ("%<flags><width><prec>Q<conv>", q)` read by
    `gmp_sscanf (text, "%Qi%n", q, &n)`: the base is detected separately for numerator and denominator (doscan.c:314-327 resets
    `base`, mpq_set_str calls mpz_set_str with base 0 twice), so "0/0x5" (numerator octal zero, denominator hexadecimal)
    is read back as 0/5.  Returns 1, assigns exactly `n`/`d`, `%n` = length up to the `t` trailing blanks.  Exceptions, exactly:
    * `hdig` as in `print_scan_roundtrip_Q`;
    * `hhash`: o / x / X need `#` as soon as there is a non-zero numerator or a denominator to mark;
    * `hdec`: d / i / u of a non-zero numerator must not get a zero in front (precision counted on the WHOLE string
      "num/den", `0` flag in effect), which would be taken for the octal indicator;
    * `hlen` as before. -/
theorem print_scan_roundtrip_Qi (fl : List Char) (w : WidthArg) (p : PrecArg) (conv : Conv) (n d : Int) (hd : 0 < d)
    (hdig : ¬ (n = 0 ∧ precInt p = 0 ∧ ¬ ('#' ∈ fl ∧ conv = .o)))
    (hhash : conv.base ≠ 10 → (n ≠ 0 ∨ d ≠ 1) → '#' ∈ fl)
    (hdec : conv.base = 10 → n ≠ 0 → precInt p ≤ (qSlen p conv n d : Int) ∧
      (¬ '0' ∈ fl ∨ leftP fl w ∨ 0 ≤ precInt p ∨ cWidth w ≤ qSignLen fl n + qSlen p conv n d))
    (hlen : (layoutModelQ fl w p conv n d).length < 2147483646) :
    ∃ t, doscan ['%', 'Q', 'i', '%', 'n'] (layoutModelQ fl w p conv n d) =
        some { fields := 1, outs := [.q n d, .int (((layoutModelQ fl w p conv n d).length - t : Nat) : Int)],
               rest := List.replicate t ' ' } ∧
      t ≤ (layoutModelQ fl w p conv n d).length ∧ (¬ leftP fl w → t = 0) :=
  layoutModelQ_roundtrip 'Q' 'i' 0 (by simp [ConvChar]) fl w p conv n d hd (Or.inl rfl)
    (fun k R hR hk8 hk0 => qi_num_key fl p conv n k R hR hdig (fun h1 h2 => hhash h1 (Or.inl h2)) hk8
      (fun h10 hn => hk0 h10 (hdec h10 hn).1 (hdec h10 hn).2))
    (fun hd1 R hR => qi_den_key fl conv d hd R hR (fun h => hhash h (Or.inr hd1))) hlen.le

-- non-vacuity: mixed bases in one rational (octal zero over a hexadecimal denominator), prefixes on both parts, decimal
example : String.ofList (layoutModelQ ['#'] .none .none .x 0 5) = "0/0x5" ∧
    view (doscan "%Qi%n".toList (layoutModelQ ['#'] .none .none .x 0 5)) = some (1, [0, 5, 5], "") := by decide +kernel
example : String.ofList (layoutModelQ ['#', '0'] (.num 12) .none .X (-255) 16) = "-0X00FF/0X10" ∧
    view (doscan "%Qi%n".toList (layoutModelQ ['#', '0'] (.num 12) .none .X (-255) 16)) = some (1, [-255, 16, 12], "") := by
  decide +kernel
example : view (doscan "%Qi%n".toList (layoutModelQ ['#', '-'] (.num 9) (.num 7) .o 5 8)) = some (1, [5, 8, 8], " ") ∧
    view (doscan "%Qi%n".toList (layoutModelQ [' '] (.num 9) .none .d (-10) 3)) = some (1, [-10, 3, 9], "") := by decide +kernel
-- exception: the precision counts "19/3" as 4 characters, so .5 puts one zero in front: octal 1, stops at the 9
example : String.ofList (layoutModelQ [] .none (.num 5) .d 19 3) = "019/3" ∧
    view (doscan "%Qi%n".toList (layoutModelQ [] .none (.num 5) .d 19 3)) = some (1, [1, 1, 2], "9/3") := by decide +kernel

end Mpir.Scanf
