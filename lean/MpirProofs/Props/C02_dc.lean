/-
  C02 (multi-limb layer) — divide-and-conquer division: mpn_dc_div_qr_n and mpn_dc_div_qr return the exact Euclidean
  quotient and remainder for ALL sizes and ALL thresholds DC_DIV_QR_THRESHOLD = T ≥ 6 with a normalised divisor; every
  `while (cy != 0)` correction loop ends after at most 4 add-backs (at most 2 when the quotient block being corrected
  has no high limb); every callee is used inside its ASSERTed domain; mpn_dc_div_q turns the approximate quotient of
  its callee into the exact one.  Property theorems only; helper lemmas live in MpirProofs/Lemmas/DcDiv.lean.

  The theorems are about the executable value-level model Mpir/Model/DcDiv.lean of mpn/generic/dc_div_qr_n.c,
  dc_div_qr.c, dc_div_q.c, which the correspondence check runs against the real functions (ops `dc_div_qr_n`,
  `dc_div_qr_model`, `dc_div_q`) on every run.  Limb areas are naturals with explicit limb counts; `ok` records that
  every mpn_sb_div_qr / mpn_divrem_2 / mpn_dc_div_qr_n call had > 2 (resp. 2, ≥ 6) limbs and a normalised divisor,
  that every correction loop left through `cy == 0`, and that the ASSERT_NOCARRY of dc_div_qr.c:155 held.
  The leaf mpn_sb_div_qr enters through its contract, proved limb for limb in MpirProofs/Props/C02_sb.lean.

  Minimal sizes.  mpn_dc_div_qr_n calls mpn_sb_div_qr on ⌈n/2⌉ and ⌊n/2⌋ limbs (ASSERT dn > 2), so n ≥ 6; it
  recurses on ⌈n/2⌉ or ⌊n/2⌋ as soon as that is ≥ T, so T ≥ 6 (T = 5, n = 10 reaches mpn_sb_div_qr with 2 limbs:
  see the examples at the end).

  A remark on the number of add-backs.  The often quoted bound "at most 2" holds only when the divided window is below
  D·B^k, i.e. when the block quotient has no high limb qh.  mpn_dc_div_qr_n accepts any 2n-limb dividend (it returns
  qh); for N ≥ D·B^n the first loop needs up to 4 add-backs (examples below, also run against the real function).
-/
import MpirProofs.Lemmas.DcDiv
namespace Mpir.DcDiv
open Mpir

/-- The multiply–subtract–correct block that follows every 2k/k division (dc_div_qr_n.c:49-59, :66-76,
    dc_div_qr.c:133-146, :172-185).  D has k+m limbs and its k top limbs Dt = ⌊D/B^m⌋ are normalised; the division
    left Wt = (qh·B^k + Q)·Dt + R1 < B^(2k) with R1 < Dt; Wl are the m limbs below.  Then the block ends (`ok`) with the
    exact quotient and remainder of W = Wt·B^m + Wl by D, the number of add-backs is ⌊Wt/Dt⌋ - ⌊W/D⌋ ≤ 4, and it is
    ≤ 2 with final high limb 0 when W < D·B^k. -/
theorem mulSubCorr_exact (k m D Q qh R1 Wl : Nat)
    (hDn : D < B ^ (k + m)) (hnorm : B ^ k ≤ 2 * (D / B ^ m))
    (hQ : Q < B ^ k) (hqh : qh ≤ 1) (hR1 : R1 < D / B ^ m) (hWl : Wl < B ^ m)
    (hWt : (qh * B ^ k + Q) * (D / B ^ m) + R1 < B ^ k * B ^ k) :
    let W := ((qh * B ^ k + Q) * (D / B ^ m) + R1) * B ^ m + Wl
    let b := mulSubCorr k m D Q qh R1 Wl
    b.ok = true ∧ W = (b.qh * B ^ k + b.q) * D + b.r ∧ b.r < D ∧ b.q < B ^ k ∧ b.qh ≤ 1 ∧
      b.adds = (qh * B ^ k + Q) - W / D ∧ b.adds ≤ 4 ∧ (W < D * B ^ k → b.adds ≤ 2 ∧ b.qh = 0) :=
  mulSubCorr_spec k m D Q qh R1 Wl _ hDn hnorm hQ hqh hR1 hWl hWt rfl _ rfl

-- k = m = 3: the estimate 3B^3/4 is two too large
example : mulSubCorr 3 3 0x800000000000000000000000000000000000000000000000ffffffffffffffffffffffffffffffffffffffffffffffff 0xc00000000000000000000000000000000000000000000000 0 7 9 =
    { q := 0xbffffffffffffffffffffffffffffffffffffffffffffffe, qh := 0, r := 0x400000000000000000000000000000000000000000000009c00000000000000000000000000000000000000000000007, adds := 2, ok := true } := by decide

/-- mpn_dc_div_qr_n (qp, np, dp, n, dinv, tp), dc_div_qr_n.c:33-79, for EVERY n ≥ 6 and EVERY threshold T ≥ 6,
    normalised D (B^n/2 ≤ D < B^n) and any 2n-limb N:  N = (qh·B^n + Q)·D + R, R < D, Q < B^n, qh ≤ 1, and every
    callee was inside its ASSERTed domain and every correction loop ended (`ok`). -/
theorem dcDivQrN_exact (T n N D : Nat) (hT : 6 ≤ T) (hn : 6 ≤ n) (hnorm : B ^ n / 2 ≤ D) (hD : D < B ^ n)
    (hN : N < B ^ (2 * n)) :
    let r := dcDivQrN T n N D
    N = (r.qh * B ^ n + r.q) * D + r.r ∧ r.r < D ∧ r.q < B ^ n ∧ r.qh ≤ 1 ∧ r.ok = true := by
  rw [two_pow] at hN
  obtain ⟨⟨ok, id, hr, hq, hqh, _⟩, _⟩ := dcDivQrN_spec T n N D hT hn (norm_of_half (by omega) hnorm) hD hN
  exact ⟨id, hr, hq, hqh, ok⟩

-- n = 12, T = 6: both halves recurse (hi = lo = 6 ≥ T); two add-backs in each top-level loop, remainder D-1
example : dcDivQrN 6 12 0x6000000000000000000000000000000000000000000000000000000000000000000000000000000000000000000000014000000000000000000000000000000000000000000000000000000000000000000000000000000000000000000000003ffffffffffffffffffffffffffffffffffffffffffffffffffffffffffffffffffffffffffffffffffffffffffffffeffffffffffffffffffffffffffffffffffffffffffffffffffffffffffffffffffffffffffffffffffffffffffffffff 0x800000000000000000000000000000000000000000000000000000000000000000000000000000000000000000000000ffffffffffffffffffffffffffffffffffffffffffffffffffffffffffffffffffffffffffffffffffffffffffffffff =
    { q := 0xc00000000000000000000000000000000000000000000000000000000000000000000000000000000000000000000000ffffffffffffffffffffffffffffffffffffffffffffffffffffffffffffffffffffffffffffffffffffffffffffffff, r := 0x800000000000000000000000000000000000000000000000000000000000000000000000000000000000000000000000fffffffffffffffffffffffffffffffffffffffffffffffffffffffffffffffffffffffffffffffffffffffffffffffe, qh := 0, ah := 2, al := 2, mx := 2, ok := true } := by decide

-- n = 13, T = 7: hi = 7 recurses, lo = 6 is schoolbook; random operands, no add-back
example : dcDivQrN 7 13 0x807c0ba2e83e10825ea6d130a6f441a76ce894240915c845b32d98c889e378a346ca45a45a347a406b6564dc48fa11367d7104f579c2bd6892d479929c10c06472080542cb37dd64322e234d72ac82a4f233652e6b31660b8feefdc3f4ef06f80fca977a8848a5942b2c8418920f3448cbd65e13eaf2b87d6719e75899df1f85274e11b7202d155abd76a5e4fb4252182ea829662f2978189577aa25ea66ad899616ad9cd04bbe5a5336ef6e28375b9d28b43fa55ddcabd3df186baada386caa4f3211fa828487e8428db8a258e47f17 0xee82ec3ffee5a5b28d1fe1daff6665896822a6b24735af1ca7a114907513923715c1d2dfa9964aef012d0ea67ff122294b4d8474a3ea284d3bd0334684e55160320094ead7a94ded97491e2370c6a5b85387f61376c468aec7321cc007b37e14998092253deffa38 =
    { q := 0x89e7d15f17362f25244caf9c4dabb4817253edc6181879932fa91425cb0088539d2c67eda13ffe7979cb9e86830c71c2cdcc69292f45e678309d6b79965eda32dae445508201e2bd73ab48767734d7c1c7fde805ec99108ddb5b5fab8f4d3e27dda1494c73cf256d, r := 0xe12b2b8f30b17d0b09208a650f3ebdd3102b938b8743feb6d4ea65d003d716849f8558a628518867a66b0d389d95847ebd299753a767779673f778aaf6fa5db8656abd72fb710734986e86cb0ab8ab67a26b7f62b1852f27e3eff9c0cf44dd3f, qh := 0, ah := 0, al := 0, mx := 0, ok := true } := by decide

/-- the same as floor division: qh·B^n + Q = ⌊N/D⌋ and R = N mod D -/
theorem dcDivQrN_floor (T n N D : Nat) (hT : 6 ≤ T) (hn : 6 ≤ n) (hnorm : B ^ n / 2 ≤ D) (hD : D < B ^ n)
    (hN : N < B ^ (2 * n)) :
    (dcDivQrN T n N D).qh * B ^ n + (dcDivQrN T n N D).q = N / D ∧ (dcDivQrN T n N D).r = N % D := by
  obtain ⟨id, hr, _⟩ := dcDivQrN_exact T n N D hT hn hnorm hD hN
  have := Mpir.DivWord.divmod_of_eq N D _ _ id hr
  exact ⟨this.1.symm, this.2.symm⟩

-- (the two examples above: 0x… = ⌊N/D⌋ and N mod D, checked by the python mirror's divmod and by the real function)
example : (dcDivQrN 6 6 (7 * (B ^ 6 - 1) + 5) (B ^ 6 - 1)).q = 7 ∧ (dcDivQrN 6 6 (7 * (B ^ 6 - 1) + 5) (B ^ 6 - 1)).r = 5 := by decide

/-- Add-backs of mpn_dc_div_qr_n: no correction loop anywhere in the call tree runs more than 4 times (`mx`), the
    second loop (dc_div_qr_n.c:72) of the call itself at most twice (`al`), and its first loop (:55) at most twice
    when N < D·B^n — then the returned qh is 0 (the situation of every call from mpn_dc_div_qr's main loop). -/
theorem dcDivQrN_addbacks (T n N D : Nat) (hT : 6 ≤ T) (hn : 6 ≤ n) (hnorm : B ^ n / 2 ≤ D) (hD : D < B ^ n)
    (hN : N < B ^ (2 * n)) :
    let r := dcDivQrN T n N D
    r.mx ≤ 4 ∧ r.ah ≤ 4 ∧ r.al ≤ 2 ∧ (N < D * B ^ n → r.ah ≤ 2 ∧ r.qh = 0) := by
  rw [two_pow] at hN
  obtain ⟨⟨_, _, _, _, _, mx⟩, al, ah, h2⟩ := dcDivQrN_spec T n N D hT hn (norm_of_half (by omega) hnorm) hD hN
  exact ⟨mx, ah, al, h2⟩

-- n = 6 (the smallest size): N ≥ D·B^n, qh = 1 and FOUR add-backs in the first loop — the bound 4 is attained
example : dcDivQrN 6 6 0xffffffffffffffffffffffffffffffffffffffffffffffff800000000000000000000000000000000000000000000000000000000000000000000000000000000000000000000000000000000000000000000000000000000000000000000000 0x800000000000000000000000000000000000000000000000ffffffffffffffffffffffffffffffffffffffffffffffff =
    { q := 0xfffffffffffffffffffffffffffffffffffffffffffffffb00000000000000000000000000000000000000000000000d, r := 0x7fffffffffffffffffffffffffffffffffffffffffffffee00000000000000000000000000000000000000000000000d, qh := 1, ah := 4, al := 0, mx := 4, ok := true } := by decide

-- n = 13, T = 6 (hi = 7, lo = 6, both recurse): qh = 1, three add-backs
example : dcDivQrN 6 13 0xc0000000000000000000000000000000000000000000000000000000000000000000000000000000000000000000000000000000000000019ffffffffffffffffffffffffffffffffffffffffffffffffffffffffffffffffffffffffffffffffffffffffffffffe80000000000000003fffffffffffffffffffffffffffffffffffffffffffffffffffffffffffffffffffffffffffffffffffffffffffffffc00000000000000000000000000000000000000000000000000000000000000000000000000000000000000000003039 0x8000000000000000000000000000000000000000000000000000000000000000000000000000000000000000000000000000000000000000ffffffffffffffffffffffffffffffffffffffffffffffffffffffffffffffffffffffffffffffffffffffffffffffff =
    { q := 0x8000000000000000000000000000000000000000000000000000000000000000000000000000000000000000000000000000000000000000400000000000000000000000000000000000000000000000000000000000000000000000000000000000000000000000, r := 0x3039, qh := 1, ah := 3, al := 0, mx := 3, ok := true } := by decide

-- T = 5 is too small: n = 10 recurses on 5 limbs and reaches mpn_sb_div_qr with 2 limbs (`ok` = false); T = 6 is fine
example : (dcDivQrN 5 10 0xffffffffffffffffffffffffffffffffffffffffffffffffffffffffffffffffffffffffffffffffffffffffffffffffffffffffffffffffffffffffffffffffffffffffffffffffffffffffffffffffffffffffffffffffffffffffffffffffffffffffffffffffffffffffffffffffffffffffffffffffffffffffffffffffffffffffffffffffffffffffffffffffffffffffffffffffffffffffffffffff 0xffffffffffffffffffffffffffffffffffffffffffffffffffffffffffffffffffffffffffffffffffffffffffffffffffffffffffffffffffffffffffffffffffffffffffffffffffffffffffffffff).ok = false ∧ (dcDivQrN 6 10 0xffffffffffffffffffffffffffffffffffffffffffffffffffffffffffffffffffffffffffffffffffffffffffffffffffffffffffffffffffffffffffffffffffffffffffffffffffffffffffffffffffffffffffffffffffffffffffffffffffffffffffffffffffffffffffffffffffffffffffffffffffffffffffffffffffffffffffffffffffffffffffffffffffffffffffffffffffffffffffffffff 0xffffffffffffffffffffffffffffffffffffffffffffffffffffffffffffffffffffffffffffffffffffffffffffffffffffffffffffffffffffffffffffffffffffffffffffffffffffffffffffffff).ok = true := by decide
-- n = 5 is too small (mpn_sb_div_qr on 2 limbs)
example : (dcDivQrN 6 5 0xffffffffffffffffffffffffffffffffffffffffffffffffffffffffffffffffffffffffffffffffffffffffffffffffffffffffffffffffffffffffffffffffffffffffffffffffffffffffffffffff 0xffffffffffffffffffffffffffffffffffffffffffffffffffffffffffffffffffffffffffffffff).ok = false := by decide

/-- On limb vectors the model returns exactly the value-level contract `DivZ.mpnDivQr 6 0` (⌊n/d⌋ split into n limbs
    and qh, n mod d on n limbs): the handler's `!modelspec` / `!modeldomain` markers are unreachable. -/
theorem dc_div_qr_n_contract (T : Nat) (np dp : List Nat) (hT : 6 ≤ T) (hdn : 6 ≤ dp.length)
    (hnn : np.length = 2 * dp.length) (hnorm : B / 2 ≤ dp.getD (dp.length - 1) 0) (hn : Limbs np) (hd : Limbs dp) :
    DivZ.mpnDivQr 6 0 np dp = some (dc_div_qr_n T np dp) ∧ (dcDivQrN T dp.length (val np) (val dp)).ok = true := by
  obtain ⟨n1, n2, n3⟩ := norm_val dp hd (by omega) hnorm
  have hN : val np < B ^ dp.length * B ^ dp.length := by
    have := val_lt np hn
    rw [hnn, two_pow] at this; exact this
  have hg := (dcDivQrN_spec T dp.length (val np) (val dp) hT hdn n1 n2 hN).1
  have e0 : np.length - dp.length = dp.length := by omega
  refine ⟨?_, hg.1⟩
  rw [← e0] at hg
  rw [hg.mpnDivQr n3 n2 (by omega) (by omega), e0]; rfl

example : dc_div_qr_n 6 [0x9c3ecb54c5cefdd8, 0xd48dd9f354366c21, 0x62dc08d64bdbf090, 0x1304145212ca3f70, 0x356f8bd11711eb57, 0xa2f7647a952e1b8b, 0x3f8670d3e361858, 0x5e617f8e99edbce7, 0x9f452c075f27ff08, 0x20918fa774057241, 0x965768e0f589d99a, 0xd5157e9d7bd55ee6]
      [0x9a1de24edab871d5, 0x93b3a3d9a44f576a, 0xac793f519af685d, 0x2577c1ecfd42e044, 0x7108e02236971e1b, 0x827385c9421e7a60] =
    ([0xe8866c5d4b96d632, 0x51d10eb7234fb6b9, 0x8f47f04e871e9e76, 0xbaaf410706be3fc2, 0xe93382038911429, 0xa228f391d1fb79d1],
     [0xf06d454ac4d2b43e, 0x83f9934982425e1d, 0xd339c5451c095c8c, 0x32f87b99cf2eb2c7, 0x90b821c6393e1654, 0x7730093c54ee61b4], 1) := by decide

/-- mpn_dc_div_qr (qp, np, nn, dp, dn, dinv), dc_div_qr.c:32-191, for every nn, dn with the C's ASSERTs dn ≥ 6,
    nn - dn ≥ 3, normalised D, and every threshold T ≥ 6:  N = (qh·B^qn + Q)·D + R, R < D, Q < B^qn, qh ≤ 1
    (qn = nn - dn), every callee inside its domain, every loop ended, the ASSERT_NOCARRY of :155 holds (`ok`). -/
theorem dcDivQr_exact (T nn dn N D : Nat) (hT : 6 ≤ T) (hdn : 6 ≤ dn) (hqn : 3 ≤ nn - dn) (hnorm : B ^ dn / 2 ≤ D)
    (hD : D < B ^ dn) (hN : N < B ^ nn) :
    let r := dcDivQr T nn dn N D
    N = (r.qh * B ^ (nn - dn) + r.q) * D + r.r ∧ r.r < D ∧ r.q < B ^ (nn - dn) ∧ r.qh ≤ 1 ∧ r.ok = true := by
  obtain ⟨⟨ok, id, hr, hq, hqh, _⟩, _⟩ :=
    dcDivQr_spec T nn dn N D hT hdn (by omega) (norm_of_half (by omega) hnorm) hD hN
  exact ⟨id, hr, hq, hqh, ok⟩

-- qn = 3 ≤ dn = 6 (the smallest sizes): schoolbook 6/3, then the correction block with two add-backs
example : dcDivQr 6 9 6 0x6000000000000000000000000000000000000000000000014000000000000000000000000000000000000000000000003ffffffffffffffffffffffffffffffffffffffffffffffe 0x800000000000000000000000000000000000000000000000ffffffffffffffffffffffffffffffffffffffffffffffff =
    { q := 0xc00000000000000000000000000000000000000000000000, r := 0x800000000000000000000000000000000000000000000000fffffffffffffffffffffffffffffffffffffffffffffffe, qh := 0, ah := 2, al := 0, mx := 2, ok := true } := by decide

-- qn = 7 = dn + 1: the qn == 1 step with qh = 1, then one mpn_dc_div_qr_n block (two add-backs in its second loop)
example : dcDivQr 6 13 6 0xc000000000000000800000000000000000000000000000018000000000000000fffffffffffffffffffffffffffffffe7ffffffffffffffe7fffffffffffffffffffffffffffffffffffffffffffffff000000000000000000000000000000000000000000000006 0x800000000000000000000000000000000000000000000000ffffffffffffffffffffffffffffffffffffffffffffffff =
    { q := 0x8000000000000000ffffffffffffffffffffffffffffffffffffffffffffffffffffffffffffffffffffffffffffffffffffffffffffffff, r := 0x5, qh := 1, ah := 0, al := 2, mx := 2, ok := true } := by decide

/-- the same as floor division -/
theorem dcDivQr_floor (T nn dn N D : Nat) (hT : 6 ≤ T) (hdn : 6 ≤ dn) (hqn : 3 ≤ nn - dn) (hnorm : B ^ dn / 2 ≤ D)
    (hD : D < B ^ dn) (hN : N < B ^ nn) :
    (dcDivQr T nn dn N D).qh * B ^ (nn - dn) + (dcDivQr T nn dn N D).q = N / D ∧ (dcDivQr T nn dn N D).r = N % D := by
  obtain ⟨id, hr, _⟩ := dcDivQr_exact T nn dn N D hT hdn hqn hnorm hD hN
  have := Mpir.DivWord.divmod_of_eq N D _ _ id hr
  exact ⟨this.1.symm, this.2.symm⟩

example : (dcDivQr 6 9 6 (7 * (B ^ 6 - 1) + 5) (B ^ 6 - 1)).q = 7 ∧ (dcDivQr 6 9 6 (7 * (B ^ 6 - 1) + 5) (B ^ 6 - 1)).r = 5 := by decide

/-- Add-backs of mpn_dc_div_qr: no correction loop anywhere runs more than 4 times (`mx`); the two top-level loops of
    every mpn_dc_div_qr_n call of the main loop (dc_div_qr.c:151-158) run at most twice (`al`). -/
theorem dcDivQr_addbacks (T nn dn N D : Nat) (hT : 6 ≤ T) (hdn : 6 ≤ dn) (hqn : 3 ≤ nn - dn) (hnorm : B ^ dn / 2 ≤ D)
    (hD : D < B ^ dn) (hN : N < B ^ nn) :
    (dcDivQr T nn dn N D).mx ≤ 4 ∧ (dcDivQr T nn dn N D).al ≤ 2 := by
  obtain ⟨⟨_, _, _, _, _, mx⟩, al⟩ :=
    dcDivQr_spec T nn dn N D hT hdn (by omega) (norm_of_half (by omega) hnorm) hD hN
  exact ⟨mx, al⟩

-- qn = 8 = dn + 2: mpn_divrem_2 with qh = 1 and THREE add-backs in the first block's loop, then one block
example : dcDivQr 6 14 6 0xc0000000000000000000000000000001e0000000000000000000000000000000bffffffffffffffffffffffffffffffe7fffffffffffffffffffffffffffffffc0000000000000000000000000000000fffffffffffffffffffffffffffffffffffffffffffffffffffffffffffffffe 0x80000000000000000000000000000000ffffffffffffffffffffffffffffffffffffffffffffffffffffffffffffffff =
    { q := 0x80000000000000000000000000000000c00000000000000000000000000000000000000000000000000000000000000000000000000000000000000000000000, r := 0x80000000000000000000000000000000fffffffffffffffffffffffffffffffffffffffffffffffffffffffffffffffe, qh := 1, ah := 3, al := 1, mx := 3, ok := true } := by decide

-- dn = 7, qn = 20 = 6 + 2·7: first block of 6 limbs by mpn_dc_div_qr_n (6 ≥ T), two main-loop blocks
example : dcDivQr 6 27 7 0x59681feed091fa80c87a9c070959520a35bbb987b2decd65dabd350efd7c66d562df6d805d4c800597a7b9c787366e846220c43000959ff51dfe302fd9e6b3e926d3dbaed213177e241707e67deb1c22c065fd786c308337fbc5fef3742f7aa8afbceb6e2322033da4d0d95c21a7f28122888a72ebcbebf79ef214f224cfac1f58ec411b8ea407276b8b5fe58993e554663460ef13d9f7e1f6ab3fcb4f0a1a8c8a20396394d4a4e81e214ac100cac8a0a26113266202304395e140b1f17150648d9fcc7bc59913171538cf458fdd005c977a0647f0341ef5 0x8000000000000000000000000000000000000000000000000000000000000000ffffffffffffffffffffffffffffffffffffffffffffffff =
    { q := 0xb2d03fdda123f50190f5380e12b2a4146b77730f65bd9acbb57a6a1dfaf8cda9601e5b45785116080d650372e90794dfed52a24135b00a5436a80bdf0023b682af5570eed8e94b150452ef05f542441d111b8aaa62f28d1a4a789cb3d8b9b45c1b98fbe466809a111ba1192ec42b7170902a174f11fa2ac0079dd25a49fe85b0834c687a3acb6266c20ba2c250b601fc4105cca7b53302fc154cd2aad7185dda, r := 0x2274ea181e34b3f1ec3fbf4dc20ef16468f918d8f6cdb2f803e0d681552454f14fab6f3e164f1513563e9bed45100358acc6d8f2c74c7ccf, qh := 0, ah := 2, al := 1, mx := 2, ok := true } := by decide

/-- On limb vectors the model returns exactly the value contract `DivZ.mpnDivQr 6 3 n d` that the existing op
    `mpn_dc_div_qr` is compared with. -/
theorem dc_div_qr_contract (T : Nat) (n d : List Nat) (hT : 6 ≤ T) (hdn : 6 ≤ d.length) (hnn : d.length + 3 ≤ n.length)
    (hnorm : B / 2 ≤ d.getD (d.length - 1) 0) (hn : Limbs n) (hd : Limbs d) :
    DivZ.mpnDivQr 6 3 n d = some (dc_div_qr T n d) ∧ (dcDivQr T n.length d.length (val n) (val d)).ok = true := by
  obtain ⟨n1, n2, n3⟩ := norm_val d hd (by omega) hnorm
  have hg := (dcDivQr_spec T n.length d.length (val n) (val d) hT hdn hnn n1 n2 (val_lt n hn)).1
  exact ⟨hg.mpnDivQr n3 n2 (by omega) hnn, hg.1⟩

example : dc_div_qr 6 [0x22bfb8e0931719fd, 0x62d74145ddd4a054, 0xa0931ed42ecdcc0a, 0x4f91540c27756991, 0x3a775505e88e752f, 0x9c461cb5d15b77f2, 0xb9b338eb3fdf2348, 0x2891dd3c3096c6c8, 0xa104a795bd4aeab0, 0x8dce6f52f0be600d]
      [0x9a1de24edab871d5, 0x93b3a3d9a44f576a, 0xac793f519af685d, 0x2577c1ecfd42e044, 0x7108e02236971e1b, 0x827385c9421e7a60] =
    ([0x6b2cc30209d4c801, 0x6ae4cde687d58782, 0x47c810747222e788, 0x16489442ab24a494],
     [0x35147c48de0c4028, 0x24234514e806ad24, 0x42f8887c863478f, 0xdcdc3ff04487063f, 0x4cf7481b2452c45c, 0x4c1d5e66b2bac555], 1) := by decide

/-- mpn_dc_div_q (qp, np, nn, dp, dn, dinv), dc_div_q.c:31-76.  GIVEN the contract of the callee mpn_dc_divappr_q on
    the dividend extended by a zero low limb — it returns qn+1 limbs A and a high limb ah ≤ 1 with
    ah·B^(qn+1) + A = ⌊N·B/D⌋ or ⌊N·B/D⌋ + 1 — the result is exactly ⌊N/D⌋: qh·B^qn + Q = ⌊N/D⌋, Q < B^qn, qh ≤ 1.
    Covers the guard-limb test `wp[0] == 0`, the multiplication back, the `qh != 0` addition with its carry and the
    test `cy || mpn_cmp (tp, np, nn) > 0` in the C's order.  (ah ≤ 1 is needed: with ah = 2, A = 0 — an answer
    ⌊N·B/D⌋ + 1 = 2·B^(qn+1), arithmetically possible for N = B^nn - 1, D = B^dn/2 — the C adds D only once.) -/
theorem dcDivQ_exact (nn dn N D A ah : Nat) (hnn : dn ≤ nn) (hD0 : 0 < D) (hD : D < B ^ dn) (hN : N < B ^ nn)
    (hA : A < B ^ (nn - dn + 1)) (hah : ah ≤ 1)
    (hX : ah * B ^ (nn - dn + 1) + A = N * B / D ∨ ah * B ^ (nn - dn + 1) + A = N * B / D + 1) :
    (dcDivQ nn dn N D A ah).2 * B ^ (nn - dn) + (dcDivQ nn dn N D A ah).1 = N / D ∧
      (dcDivQ nn dn N D A ah).1 < B ^ (nn - dn) ∧ (dcDivQ nn dn N D A ah).2 ≤ 1 :=
  dcDivQ_spec nn dn N D A ah hnn hD0 hD hN hA hah hX

-- qh = 1, the callee one too large with guard limb 0: multiply back, add D (carry out of tp), decrement
example : dcDivQ 9 6 0xb03a07b28f2df760ae9ca08b2d7c50487ca07386cc099a21e82872a8db3b01776bdd1566fd4bbd2c242142503b434a76531f7cdc4ca9dee40e05bd6b8156dac888fb03673b606755 0xb03a07b28f2df760ae9ca08b2d7c50487ca07386cc099a1e77064c2c0f552c9402cdf2af19de2bc1b4ff00ae3f1347de 0x50000000000000000 1 = (0x4, 1) := by decide
-- guard limb 0, callee one too large: mpn_cmp (tp, np, nn) > 0, decrement
example : dcDivQ 9 6 0x879c3d225ecaef84471c8a48f16d5a7771d0ee5ca0b4c102de4a1178d2f904014c4b2bc03dec737da44ccd9c3788129587f3f78f0ba36df40aaa87c946754638b327a15bf66c5e81 0xb03a07b28f2df760ae9ca08b2d7c50487ca07386cc099a1e77064c2c0f552c9402cdf2af19de2bc1b4ff00ae3f1347de 0xc4ff64debb5d6b48fc3b66fa30d0b19482450164728a6fcf0000000000000000 0 = (0xc4ff64debb5d6b48fc3b66fa30d0b19482450164728a6fce, 0) := by decide
-- guard limb 0 and the callee exact: the product is not above N, copy
example : dcDivQ 9 6 0x45956d3e90047acd8d431729b26226511c11ee4a0ee627e5afa4a7b9b4b994bc5bdfcff17ab9ed37670c75e0188e36fd05f7b060b0a0e65519fd134fe00a8d66582731e35b1c188a 0xb03a07b28f2df760ae9ca08b2d7c50487ca07386cc099a1e77064c2c0f552c9402cdf2af19de2bc1b4ff00ae3f1347de 0x65151c401dd377bf623d8eb7a4ca83b26b52b08d21870f0b0000000000000000 0 = (0x65151c401dd377bf623d8eb7a4ca83b26b52b08d21870f0b, 0) := by decide
-- guard limb non-zero: the high limbs are the quotient whether or not the callee was one too large
example : dcDivQ 9 6 0xfeef16e964ef2ebe2ff3600735f11af2050684bfe286852cff769e374ddc74c897bdd982cdac6046f9903b72f88ece64dd44fd3645114889001edc8e367e5d6dfd7410696bb6a3de 0xb03a07b28f2df760ae9ca08b2d7c50487ca07386cc099a1e77064c2c0f552c9402cdf2af19de2bc1b4ff00ae3f1347de 0x7256063c1a7b22b5d5c17cecd6366039220fd9c6557149f1caa33184bba7e303 1 = (0x7256063c1a7b22b5d5c17cecd6366039220fd9c6557149f1, 1) := by decide

end Mpir.DcDiv
