/-
  C05 (aliasing) — pointer-level alias theorems, second batch (part c05_ptr2): mpz_rootrem, mpz_mul, … on the memory
  model of Mpir/Model/AliasMem.lean.  Property theorems only; proofs in MpirProofs/Lemmas/AliasRootrem.lean, AliasMul.lean, ….
  Same shape as C05_div.lean / C05_mpz.lean: every state with the object invariant, EVERY choice of variable ids the manual
  allows (so `w = u` is one instance), the call succeeds (no stale read, no forbidden overlap, no write past a block), the
  invariant holds again, the outputs hold the specified values of the values before the call, every other variable keeps
  its value.
-/
import MpirProofs.Lemmas.AliasGcdext
import MpirProofs.Lemmas.AliasMisc
import MpirProofs.Lemmas.AliasMpf3
import MpirProofs.Lemmas.AliasPowm
import MpirProofs.Lemmas.AliasRootrem
import MpirProofs.Props.C07_gcdextdc2
namespace Mpir.AliasMem
open Mpir

def look3 (r : R St) (k : Nat) : Except String (List (Int × Nat × Nat)) := r.map (·.view k)
def errOf3 (r : R St) : String := match r with | .error e => e | .ok _ => "ok"

/-! ## mpz_rootrem -/

/-- mpz_rootrem (mpz/rootrem.c), every choice of root, rem, u with root ≠ rem (root = u: the root is built in TMP space
    because mpn_rootrem's operands may not overlap, and copied back over the operand, :59-62, :84-85; rem = u likewise,
    :64-67, :86-87; `up = PTR (u)` is fetched after the two reallocations, :69), nth ≥ 1, u ≥ 0 or nth odd:
    root = sgn (u) ⌊|u|^(1/nth)⌋ (`Root.iroot`: the t with t^nth ≤ |u| < (t+1)^nth, `Root.iroot_spec`), rem = u - root^nth,
    both computed from the value of u before the call; SIZ (root) = ±((un-1)/nth + 1) is stored without a normalisation
    (:83) and is right (`iroot_size`). -/
theorem rootrem_ptr_spec {s : St} (h : Inv s) {root rem u : Nat} (hr : root < s.nv) (hm : rem < s.nv) (hu : u < s.nv)
    (hrm : root ≠ rem) (nth : Nat) (hn : 1 ≤ nth) (hsgn : 0 ≤ s.value u ∨ nth % 2 = 1) :
    ∃ s', rootrem root rem u nth s = .ok s' ∧ Inv s' ∧ s'.nv = s.nv ∧
      s'.value root = (if s.value u < 0 then -(Root.iroot nth (s.value u).natAbs : Int) else (Root.iroot nth (s.value u).natAbs : Int)) ∧
      s'.value rem = s.value u - s'.value root ^ nth ∧
      ∀ i, i < s.nv → i ≠ root → i ≠ rem → s'.value i = s.value i := by
  obtain ⟨s', hs', i', n', vr, vm, vo⟩ := rootrem_ok h hr hm hu hrm nth hn hsgn
  have hle := (Root.iroot_spec nth (s.mag u) hn).1
  have hv : s.value u = _ := h.sgnv_size hu (s.mag u)
  rw [h.sgnv_size hu, ← value_natAbs] at vr
  refine ⟨s', hs', i', n', vr, ?_, vo⟩
  rw [vm, vr, value_natAbs, h.sgnv_size hu, Nat.cast_sub hle, Nat.cast_pow]
  by_cases h0 : s.value u < 0
  · rw [if_pos h0] at hv
    rw [if_pos h0, if_pos h0, hv, Odd.neg_pow (Nat.odd_iff.mpr (by omega))]; ring
  · rw [if_neg h0] at hv
    rw [if_neg h0, if_neg h0, hv]

/-- the exceptions come first and leave every variable alone: even root of a negative number, zeroth root
    (rootrem.c:36-43, in this order) -/
theorem rootrem_exceptions (s : St) (root rem u nth : Nat) :
    (s.size u < 0 ∧ nth % 2 = 0 → rootrem root rem u nth s = .error "sqrtneg") ∧
    (¬ (s.size u < 0 ∧ nth % 2 = 0) → nth = 0 → rootrem root rem u nth s = .error "div0") := by
  constructor
  · intro hx; unfold rootrem; simp only [bind, Except.bind]; rw [if_pos hx]; rfl
  · intro hx h0; unfold rootrem; simp only [bind, Except.bind]; rw [if_neg hx, if_pos h0]; rfl

def exSt6 : St := ofInts [2 ^ 200 + 12345, -(2 ^ 70 + 3), 7, 0]
-- root = u: cube root of 2^200 + 12345 in place (TMP root copied back: 2 limbs stay in the 4-limb block), rem grows to 4 limbs
example : look3 (rootrem 0 3 0 3 exSt6) 4 =
    .ok [(117129523791978766508, 4, 0), (-(2 ^ 70 + 3), 2, 1), (7, 1, 2), (2 ^ 200 + 12345 - 117129523791978766508 ^ 3, 4, 5)] := by
  decide +kernel
-- rem = u, negative operand, odd root: root = -⌊(2^70+3)^(1/3)⌋, rem = u - root^3 ≤ 0 over the operand, root grows
example : look3 (rootrem 3 1 1 3 exSt6) 4 =
    .ok [(2 ^ 200 + 12345, 4, 0), (-(2 ^ 70 + 3) + 10568983 ^ 3, 2, 1), (7, 1, 2), (-10568983, 1, 3)] := by decide +kernel
-- nth = 1: root := u (copied through TMP space when root = u), rem := 0
example : look3 (rootrem 1 2 1 1 exSt6) 3 = .ok [(2 ^ 200 + 12345, 4, 0), (-(2 ^ 70 + 3), 2, 1), (0, 2, 5)] := by decide +kernel
example : errOf3 (rootrem 0 3 1 2 exSt6) = "sqrtneg" := by decide +kernel
example : errOf3 (rootrem 0 3 1 0 exSt6) = "sqrtneg" := by decide +kernel
example : errOf3 (rootrem 0 3 0 0 exSt6) = "div0" := by decide +kernel
-- negative example: what `rootp = PTR (root)` with root = u would be (rootrem.c:59-62 without the TMP block): mpn_rootrem
-- refuses a root that overlaps the operand — and a remainder that does (:64-67)
example : (match mpn_rootrem 0 3 0 4 3 exSt6 with | .error e => e | .ok _ => "ok") = "ub:mpn_rootrem operands overlap" := by decide +kernel
example : (match mpn_rootrem 3 0 0 4 3 exSt6 with | .error e => e | .ok _ => "ok") = "ub:mpn_rootrem operands overlap" := by decide +kernel

/-! ## mpz_mul -/

/-- mpz_mul (mpz/mul.c), every choice of w, u, v (w = u, w = v, u = v, all three the same variable, all distinct):
    w holds the product of the values u and v had before the call, every other variable keeps its value.  What the C does
    for it: the one-limb arm works in place through mpn_mul_1 (:69-78, `PTR (u)`, `PTR (v)[0]` fetched after the
    reallocation); the basecase shortcut is taken only if `w != u && w != v` (:83); otherwise, if the block of w is too
    small it is replaced by free + allocate — with the release postponed until after the multiplication when that block is
    an operand (`free_me`, :118-131, :164-165) — and if it is large enough and is an operand, the operand is copied to TMP
    space, `vp` following `up` when all three are the same block (:133-152).  SIZ (w) from the top product limb (:100,
    :160-161) is the normalised size (`mul_size`). -/
theorem mpz_mul_ptr_spec {s : St} (h : Inv s) {w u v : Nat} (hw : w < s.nv) (hu : u < s.nv) (hv : v < s.nv) :
    ∃ s', mpz_mul w u v s = .ok s' ∧ Inv s' ∧ s'.nv = s.nv ∧ s'.value w = s.value u * s.value v ∧
      ∀ i, i < s.nv → i ≠ w → s'.value i = s.value i := by
  obtain ⟨s', e, r⟩ := mpz_mul_ok h hw hu hv
  exact ⟨s', e, r⟩

def exSt8 : St := ofInts [2 ^ 200 + 12345, -(2 ^ 130 + 7), 7, 2 ^ 70 + 1]
/-- variable 0 holds a 2-limb value in a 4-limb block -/
def exSt9 : St := match mpz_set 0 3 exSt8 with | .ok s => s | .error _ => exSt8
-- w = u with a block that is too small (4 < 7 limbs): new block 4, the old block 0 is released after the product (free_me)
example : look3 (mpz_mul 0 0 1 exSt8) 2 = .ok [((2 ^ 200 + 12345) * -(2 ^ 130 + 7), 7, 4), (-(2 ^ 130 + 7), 3, 1)] := by decide +kernel
-- w = u = v: a square, both factors are the old block
example : look3 (mpz_mul 3 3 3 exSt8) 4 =
    .ok [(2 ^ 200 + 12345, 4, 0), (-(2 ^ 130 + 7), 3, 1), (7, 1, 2), ((2 ^ 70 + 1) * (2 ^ 70 + 1), 4, 4)] := by decide +kernel
-- all distinct, 7 limbs ≤ MUL_KARATSUBA_THRESHOLD: MPZ_REALLOC and the basecase
example : look3 (mpz_mul 2 0 1 exSt8) 3 =
    .ok [(2 ^ 200 + 12345, 4, 0), (-(2 ^ 130 + 7), 3, 1), ((2 ^ 200 + 12345) * -(2 ^ 130 + 7), 7, 4)] := by decide +kernel
-- one-limb v: mpn_mul_1 in place after the block of w = u moved; w = v: the limb of v is read from the moved block
example : look3 (mpz_mul 0 0 2 exSt8) 1 = .ok [((2 ^ 200 + 12345) * 7, 5, 4)] := by decide +kernel
example : look3 (mpz_mul 2 1 2 exSt8) 3 = .ok [(2 ^ 200 + 12345, 4, 0), (-(2 ^ 130 + 7), 3, 1), (-(2 ^ 130 + 7) * 7, 4, 4)] := by
  decide +kernel
-- w = u resp. w = v in a block that is large enough (2 + 2 ≤ 4 limbs): TMP copy of the operand, the block stays
example : look3 (mpz_mul 0 0 3 exSt9) 4 =
    .ok [((2 ^ 70 + 1) * (2 ^ 70 + 1), 4, 0), (-(2 ^ 130 + 7), 3, 1), (7, 1, 2), (2 ^ 70 + 1, 2, 3)] := by decide +kernel
example : look3 (mpz_mul 0 3 0 exSt9) 4 =
    .ok [((2 ^ 70 + 1) * (2 ^ 70 + 1), 4, 0), (-(2 ^ 130 + 7), 3, 1), (7, 1, 2), (2 ^ 70 + 1, 2, 3)] := by decide +kernel
-- negative examples: each precaution of mul.c removed
-- (a) the old block released at once although it is an operand (no `free_me`): the product reads a freed block
example : errOf3 (mpz_mulV { deferFree := false } 0 0 1 exSt8) = "ub:read of a freed block" := by decide +kernel
-- (b) the basecase shortcut without `(w != u) && (w != v)`: mpn_mul_basecase would write the product over its factor
example : errOf3 (mpz_mulV { smallGuard := false } 0 0 1 exSt8) = "ub:mpn_mul product overlaps a factor" := by decide +kernel
-- (c) no TMP copy of the operand that is the destination
example : errOf3 (mpz_mulV { copyOperand := false } 0 0 3 exSt9) = "ub:mpn_mul product overlaps a factor" := by decide +kernel
example : errOf3 (mpz_mulV { copyOperand := false } 0 3 0 exSt9) = "ub:mpn_mul product overlaps a factor" := by decide +kernel

/-! ## mpz_gcdext -/

/-- mpz_gcdext (mpz/gcdext.c), every choice of g, s, t, a, b the manual allows: g, s, t pairwise distinct, s and/or t NULL
    (`none`), each output possibly one of the operands, a = b allowed.  The outputs hold the values the value-level model
    `Gcd.mpz_gcdext` computes from the values of a and b BEFORE the call (that triple is the one the manual describes:
    C07 `mpz_gcdext_correct`), every other variable keeps its value.  What the C does for it: `SIZ (a)` is read (:53, :80) before
    any output is written; mpn_gcdext — which destroys its inputs — works on TMP copies of both operands (:71-73) and into TMP
    blocks (:75); t = (g - s a) / b is computed (:82-97, three local mpz variables, mpz_mul / mpz_sub / mpz_divexact) BEFORE s
    (:99-106) and g (:108-110) are stored; the `bsize == 0` exit copies |a| to g before it touches s and t (:55-65).
    `1 ≤ ALLOC` of s and t is MPIR's object invariant: `PTR (s)[0] = 1` (:64) is stored without a realloc.  The contract of
    mpn_gcdext used inside is the theorem `C07z.mpn_gcdext_contract`. -/
theorem gcdext_ptr_spec {st : St} (h : Inv st) {g a b : Nat} {sv tv : Option Nat}
    (hg : g < st.nv) (ha : a < st.nv) (hb : b < st.nv) (hs : ∀ x ∈ sv, x < st.nv) (ht : ∀ x ∈ tv, x < st.nv)
    (hgs : g ∉ sv) (hgt : g ∉ tv) (hst : ∀ x ∈ sv, x ∉ tv)
    (has : ∀ x ∈ sv, 1 ≤ st.alloc x) (hat : ∀ x ∈ tv, 1 ≤ st.alloc x) :
    ∃ st', gcdext g sv tv a b st = .ok st' ∧ Inv st' ∧ st'.nv = st.nv ∧
      st'.value g = (Gcd.mpz_gcdext (st.value a) (st.value b)).1 ∧
      (∀ x ∈ sv, st'.value x = (Gcd.mpz_gcdext (st.value a) (st.value b)).2.1) ∧
      (∀ x ∈ tv, st'.value x = (Gcd.mpz_gcdext (st.value a) (st.value b)).2.2) ∧
      ∀ i, i < st.nv → i ≠ g → i ∉ sv → i ∉ tv → st'.value i = st.value i :=
  gcdext_ok Mpir.C07z.mpn_gcdext_contract h hg ha hb hs ht hgs hgt hst has hat

-- g = a and s = b in place; t = a; s = NULL; a = b = g (one variable); the bsize = 0 exit with s = a
example : lookG (gcdext 0 (some 1) (some 2) 0 1 (ofInts [gxA, gxB, 0])) 3 = .ok [(3, 3, 0), (gxS, 2, 1), (gxT, 3, 8)] := by decide +kernel
example : lookG (gcdext 0 (some 1) (some 2) 2 3 (ofInts [0, 0, gxA, gxB])) 4 =
    .ok [(3, 1, 0), (gxS, 2, 9), (gxT, 3, 2), (gxB, 2, 3)] := by decide +kernel
example : lookG (gcdext 0 none (some 2) 2 3 (ofInts [0, 0, gxA, gxB])) 4 =
    .ok [(3, 1, 0), (0, 1, 1), (gxT, 3, 2), (gxB, 2, 3)] := by decide +kernel
example : lookG (gcdext 3 (some 1) (some 2) 3 3 (ofInts [5, 6, 7, gxA])) 4 = .ok [(5, 1, 0), (0, 1, 1), (1, 1, 2), (gxA, 3, 3)] := by
  decide +kernel
example : lookG (gcdext 0 (some 1) (some 2) 1 3 (ofInts [5, -gxA, 7, 0])) 4 = .ok [(gxA, 3, 4), (-1, 3, 1), (0, 1, 2), (0, 1, 3)] := by
  decide +kernel
example : gxA * gxS + gxB * gxT = 3 := by decide +kernel
-- negative examples (more in Lemmas/AliasGcdext.lean): s stored before t is computed, s = a: t is wrong (right: gxT);
-- no TMP copies of the operands and a = b: mpn_gcdext's two source operands overlap
example : lookG (gcdextV { tBeforeS := false } 0 (some 1) (some 2) 1 3 (ofInts [0, gxA, 0, gxB])) 4 =
    .ok [(3, 1, 0), (gxS, 3, 1), (1955453703669360966019249215, 2, 9), (gxB, 2, 3)] := by decide +kernel
example : lookG (gcdextV { copyOperands := false } 0 (some 1) (some 2) 3 3 (ofInts [0, 0, 0, gxA])) 4 =
    .error "ub:mpn_gcdext operands overlap" := by decide +kernel

/-! ## mpf with raw-precision operands: mpf_div -/

def showF (r : R FSt) : Except String (List Mpf.F) := r.map fun s => (List.range 3).map s.F
def errOfF (r : R FSt) : String := match r with | .error e => e | .ok _ => "ok"

/-- mpf_div (mpf/div.c) on the pointer-level mpf model (Mpir/Model/AliasMpf.lean: header {prec, size, exp, ptr}, a block that is
    never reallocated, `PREC + 1 ≤` block length; an operand may have MORE than PREC + 1 limbs — the state mpf_set_prec_raw
    leaves behind), every choice of r, u, v (r = u, r = v, u = v, all the same variable), v ≠ 0: the call succeeds, r holds
    EXACTLY size, exponent and limbs of the bit-exact model `Mpf.div (PREC r) u v` (C13) applied to the operands as they were
    before the call, every other variable (header and limbs) is untouched, the invariant holds again.  What the C does for it:
    the dividend is copied to TMP space when it must be padded OR when `rp == up` (:96) — also when it is chopped (`up += chop`,
    :98-100: with r = u the quotient is written over the low end of the very block whose high end is the dividend); the divisor is
    copied when `rp == vp` (:131-135); sizes, exponents and pointers are fetched before anything is stored (:68-90). -/
theorem mpf_div_ptr_spec {s : FSt} (h : FInv s) {r u v : Nat} (hr : r < s.st.nv) (hu : u < s.st.nv) (hv : v < s.st.nv)
    (hv0 : s.st.size v ≠ 0) :
    ∃ s' f, mpf_div r u v s = .ok s' ∧ Mpf.div (s.prec r) (s.F u) (s.F v) = .ok f ∧
      FInv s' ∧ s'.st.nv = s.st.nv ∧ s'.F r = f ∧ ∀ i, i < s.st.nv → i ≠ r → s'.F i = s.F i :=
  mpf_div_ok h hr hu hv hv0

theorem mpf_div_by_zero (s : FSt) (r u v : Nat) (hv0 : s.st.size v = 0) : mpf_div r u v s = .error "div0" := by
  unfold mpf_div mpf_divV
  simp only [bind, Except.bind]
  rw [if_pos (by omega)]; rfl

/-- variable 0: precision 2 but 5 limbs (raw precision); variable 1: precision 3, two limbs, negative; variable 2: zero -/
def fs1 : FSt := ofFs [⟨2, 5, 3, [1, 2, 3, 4, 5]⟩, ⟨3, -2, 1, [9, 11]⟩, ⟨2, 0, 0, []⟩]
-- r = u in place on the long operand: the same answer as into the separate variable 2, and as the bit-exact model
example : (showF (mpf_div 0 0 1 fs1)).map (·.getD 0 default) = (showF (mpf_div 2 0 1 fs1)).map (·.getD 2 default) := by decide +kernel
example : (showF (mpf_div 0 0 1 fs1)).map (·.getD 0 default) = .ok (match Mpf.div 2 (fs1.F 0) (fs1.F 1) with | .ok f => f | _ => default) := by
  decide +kernel
-- r = v (destination precision 3), and all three the same variable (u / u = 1)
example : (showF (mpf_div 1 0 1 fs1)).map (·.getD 1 default) = .ok (match Mpf.div 3 (fs1.F 0) (fs1.F 1) with | .ok f => f | _ => default) := by
  decide +kernel
example : showF (mpf_div 0 0 0 fs1) = .ok [⟨2, 3, 1, [0, 0, 1]⟩, ⟨3, -2, 1, [9, 11]⟩, ⟨2, 0, 0, []⟩] := by decide +kernel
example : errOfF (mpf_div 0 1 2 fs1) = "div0" := by decide +kernel
-- negative examples: `copy_u` without `|| rp == up` (the seeded defect C05_c_2: "u is chopped anyway"), r = u; no copy of v, r = v
example : errOfF (mpf_divV { copyUIfOverlap := false } 0 0 1 fs1) = "ub:mpn_tdiv_qr operands overlap" := by decide +kernel
example : errOfF (mpf_divV { copyV := false } 1 0 1 fs1) = "ub:mpn_tdiv_qr operands overlap" := by decide +kernel

/-! ## mpf_mul, mpf_sqrt, mpf_div_ui with raw-precision operands -/

/-- mpf_mul (mpf/mul.c), every choice of r, u, v, operands of any length: r holds exactly `Mpf.mul (PREC r) u v` of the operands
    before the call.  The product of the (at most PREC) top limbs of each operand is formed in TMP space (:68-71: mpn_mul
    does not allow the product to overlap a factor, and r has only PREC + 1 limbs) and its top limbs copied to r (:76-82);
    `u->_mp_exp`, `v->_mp_exp` are read in the statement that stores `r->_mp_exp` (:83), before `r->_mp_size` (:84). -/
theorem mpf_mul_ptr_spec {s : FSt} (h : FInv s) {r u v : Nat} (hr : r < s.st.nv) (hu : u < s.st.nv) (hv : v < s.st.nv) :
    ∃ s', mpf_mul r u v s = .ok s' ∧ FInv s' ∧ s'.st.nv = s.st.nv ∧ s'.F r = Mpf.mul (s.prec r) (s.F u) (s.F v) ∧
      ∀ i, i < s.st.nv → i ≠ r → s'.F i = s.F i :=
  mpf_mul_ok h hr hu hv

/-- mpf_sqrt (mpf/sqrt.c), r = u or not, u ≥ 0, operands of any length: `usize`, `uexp`, `up` are cached in locals (:63,
    :75-77) BEFORE `r->_mp_size`, `r->_mp_exp` are stored (:81-82) — with r = u the header of u is gone afterwards —, the
    2 PREC or 2 PREC - 1 top limbs (or the padded operand) go to TMP space, mpn_sqrtrem writes the root into r.
    `1 ≤ PREC (r)`: the library never makes a smaller precision (`__GMPF_BITS_TO_PREC ≥ 2`). -/
theorem mpf_sqrt_ptr_spec {s : FSt} (h : FInv s) {r u : Nat} (hr : r < s.st.nv) (hu : u < s.st.nv) (hu0 : 0 ≤ s.st.size u)
    (hp : 1 ≤ s.prec r) :
    ∃ s' f, mpf_sqrt r u s = .ok s' ∧ Mpf.sqrt (s.prec r) (s.F u) = .ok f ∧
      FInv s' ∧ s'.st.nv = s.st.nv ∧ s'.F r = f ∧ ∀ i, i < s.st.nv → i ≠ r → s'.F i = s.F i :=
  mpf_sqrt_ok h hr hu hu0 hp

/-- mpf_div_ui (mpf/div_ui.c), r = u or not, 0 < v < 2^64: the dividend is moved to TMP space (:75-91), mpn_divmod_1 writes
    the PREC + 1 quotient limbs into r (:93), `u->_mp_exp` is read afterwards (:97: limbs only have been written). -/
theorem mpf_div_ui_ptr_spec {s : FSt} (h : FInv s) {r u : Nat} (hr : r < s.st.nv) (hu : u < s.st.nv) {v : Nat} (hv : 0 < v)
    (hvB : v < B) :
    ∃ s' f, mpf_div_ui r u v s = .ok s' ∧ Mpf.div_ui (s.prec r) (s.F u) v = .ok f ∧
      FInv s' ∧ s'.st.nv = s.st.nv ∧ s'.F r = f ∧ ∀ i, i < s.st.nv → i ≠ r → s'.F i = s.F i :=
  mpf_div_ui_ok h hr hu hv hvB

theorem mpf_sqrt_div_ui_exceptions (s : FSt) (r u : Nat) :
    (s.st.size u < 0 → mpf_sqrt r u s = .error "sqrtneg") ∧ mpf_div_ui r u 0 s = .error "div0" :=
  ⟨fun hneg => (mpf_sqrt_neg hneg).1, mpf_div_ui_zero.1⟩

-- r = u in place on operands longer than PREC + 1 (precision 2, four resp. five limbs)
example : lookF (mpf_mul 0 0 1 (ofFs [⟨2, 4, 3, [5, 6, 7, 8]⟩, ⟨2, -1, 1, [3]⟩])) 2 = .ok [⟨2, -2, 3, [21, 24]⟩, ⟨2, -1, 1, [3]⟩] := by
  decide +kernel
example : lookF (mpf_mul 0 0 0 (ofFs [⟨2, 4, 3, [5, 6, 7, 2 ^ 63]⟩])) 1 = .ok [⟨2, 3, 6, [0, 7, 2 ^ 62]⟩] := by decide +kernel
example : lookF (mpf_sqrt 0 0 (ofFs [⟨2, 5, 3, [5, 6, 7, 8, 9]⟩])) 1 = .ok [⟨2, 2, 2, [1, 3]⟩] := by decide +kernel
example : lookF (mpf_div_ui 0 0 3 (ofFs [⟨2, -5, 3, [5, 6, 7, 8, 9]⟩])) 1 = .ok [⟨2, -3, 3, [12297829382473034413, 2, 3]⟩] := by
  decide +kernel
-- negative examples: the product formed in r's block (r = u: overlap; r distinct: 2 PREC limbs do not fit PREC + 1); u's size
-- re-read after r's header was stored (r = u: a different root); the long dividend divided where it is (r = u)
example : errOfF (mpf_mulV { productInTmp := false } 0 0 1 (ofFs [⟨2, 4, 3, [5, 6, 7, 8]⟩, ⟨2, -1, 1, [3]⟩])) =
    "ub:mpn_mul product overlaps a factor" := by decide +kernel
example : lookF (mpf_sqrtV { sqrtLocals := false } 0 0 (ofFs [⟨2, 5, 3, [5, 6, 7, 8, 9]⟩])) 1 ≠
    lookF (mpf_sqrt 0 0 (ofFs [⟨2, 5, 3, [5, 6, 7, 8, 9]⟩])) 1 := by decide +kernel
example : errOfF (mpf_div_uiV { dividendInTmp := false } 0 0 3 (ofFs [⟨2, -5, 3, [5, 6, 7, 8, 9]⟩])) =
    "ub:mpn_divrem_1 quotient overlaps the dividend at an offset" := by decide +kernel

/-! ## mpz_powm, mpz_powm_ui -/

/-- mpz_powm (mpz/powm.c), every choice of r, b, e, m (r = b, r = e, r = m, b = e = m, …), m ≠ 0: either the value-level model
    `Powm.mpz_powm` (C08: `mpz_powm_spec`, b^e mod m with 0 ≤ result < |m|; a negative exponent goes through mpz_invert) reports
    DIVIDE_BY_ZERO and so does the call, or the call succeeds, r holds that model's result computed from the values of b, e, m
    BEFORE the call and every other variable keeps its value.  What the C does for it: `mp = PTR (m)`, `ep = PTR (e)`,
    `bp = PTR (b)` are fetched early (:77, :115, :121/:191) and stay valid because r is touched only at `ret:` (:279-283
    `MPZ_REALLOC (r, rn); SIZ (r) = rn; MPN_COPY (PTR (r), rp, rn)`) — everything before, including the correction that re-reads
    `PTR (m)` (:272-277), works in TMP space; the `es == 0` exit reads `mp[0]` before it stores `PTR (r)[0] = 1` (:88-89, no
    realloc: `1 ≤ ALLOC (r)`, MPIR's object invariant).  `hsz` (|m| shorter than 2^58 limbs) is the size hypothesis of C08. -/
theorem powm_ptr_spec {s : St} (h : Inv s) {r b e m : Nat} (hr : r < s.nv) (hb : b < s.nv) (he : e < s.nv) (hm : m < s.nv)
    (ha : 1 ≤ s.alloc r) (hm0 : s.value m ≠ 0) (hsz : (s.size m).natAbs * 64 < B) :
    (Powm.mpz_powm (s.value b) (s.value e) (s.value m) = .div0 ∧ powm r b e m s = .error "div0") ∨
    ∃ s', powm r b e m s = .ok s' ∧ Inv s' ∧ s'.nv = s.nv ∧
      s'.value r = ((val (Powm.mpz_powm (s.value b) (s.value e) (s.value m)).limbs : Nat) : Int) ∧
      ∀ i, i < s.nv → i ≠ r → s'.value i = s.value i :=
  powm_ok h hr hb he hm ha hm0 hsz

/-- mpz_powm_ui (mpz/powm_ui.c), every choice of r, b, m: `el = 0` exit (:135-141, `mp[0]` read before `PTR (r)[0] = 1`), the
    small-exponent loop in TMP space (el < 20), the deflection to mpz_powm through a local mpz_t (el ≥ 20). -/
theorem powm_ui_ptr_spec {s : St} (h : Inv s) {r b m : Nat} (hr : r < s.nv) (hb : b < s.nv) (hm : m < s.nv)
    (el : Nat) (hel : el < B) (ha : 1 ≤ s.alloc r) (hm0 : s.value m ≠ 0) (hsz : (s.size m).natAbs * 64 < B) :
    ∃ s', powm_ui r b el m s = .ok s' ∧ Inv s' ∧ s'.nv = s.nv ∧
      s'.value r = ((val (Powm.mpz_powm_ui (s.value b) el (s.value m)).limbs : Nat) : Int) ∧
      ∀ i, i < s.nv → i ≠ r → s'.value i = s.value i :=
  powm_ui_ok h hr hb hm el hel ha hm0 hsz

-- r = m in place; r = b = e = m; negative exponent with r = m; es = 0 with r = m
example : lookP (powm 3 1 2 3 (ofInts [0, -(2^70+5), 13, 2^130+12345])) 4 =
    .ok [(0, 1, 0), (-(2^70+5), 2, 1), (13, 1, 2), ((-(2^70+5 : Int))^13 % (2^130+12345), 3, 3)] := by decide +kernel
example : lookP (powm 1 1 1 1 (ofInts [0, 2^70+1])) 2 = .ok [(0, 1, 0), (0, 2, 1)] := by decide +kernel
example : lookP (powm 3 1 2 3 (ofInts [0, 6, 0, 7])) 4 = .ok [(0, 1, 0), (6, 1, 1), (0, 1, 2), (1, 1, 3)] := by decide +kernel
example : lookP (powm 0 1 2 3 (ofInts [0, 6, -5, 2^70*3])) 4 = .error "div0" := by decide +kernel
example : lookP (powm_ui 3 1 0 3 (ofInts [0, 5, 13, 1])) 4 = .ok [(0, 1, 0), (5, 1, 1), (13, 1, 2), (0, 1, 3)] := by decide +kernel
-- negative examples: `PTR (r)[0] = 1` before `mp[0] != 1` is tested (r = m = 7: 0 instead of 1); the result written into
-- PTR (r) before the final correction reads m (r = m, negative b, odd e: 0 instead of (-b)^13 mod m)
example : lookP (powmV { readBeforeWrite := false } 3 1 2 3 (ofInts [0, 6, 0, 7])) 4 =
    .ok [(0, 1, 0), (6, 1, 1), (0, 1, 2), (0, 1, 3)] := by decide +kernel
example : (lookP (powmV { resultInTmp := false } 3 1 2 3 (ofInts [0, -(2^70+5), 13, 2^130+12345])) 4).map (·.getD 3 default) =
    .ok (0, 3, 3) := by decide +kernel

/-! ## mpz_addmul, mpz_submul -/

/-- mpz_addmul / mpz_submul (mpz/aorsmul.c, with mpz_aorsmul_1 of aorsmul_i.c for a one-limb y), every choice of w, x, y
    (w = x, w = y, x = y, all equal): w ± x y of the values before the call.  What the C does for it: `MPZ_REALLOC (w, …)` first,
    `wp = PTR (w)`, `PTR (x)`, `PTR (y)` fetched afterwards (aorsmul.c:81-82, :88/:97); the product goes to TMP space because w
    is still needed (:95-97), except when w = 0 (:84-91: x, y ≠ 0 then, so no overlap). -/
theorem addmul_ptr_spec {s : St} (h : Inv s) {w x y : Nat} (hw : w < s.nv) (hx : x < s.nv) (hy : y < s.nv) :
    ∃ s', addmul w x y s = .ok s' ∧ Inv s' ∧ s'.nv = s.nv ∧ s'.value w = s.value w + s.value x * s.value y ∧
      ∀ i, i < s.nv → i ≠ w → s'.value i = s.value i :=
  addmul_ok h hw hx hy

theorem submul_ptr_spec {s : St} (h : Inv s) {w x y : Nat} (hw : w < s.nv) (hx : x < s.nv) (hy : y < s.nv) :
    ∃ s', submul w x y s = .ok s' ∧ Inv s' ∧ s'.nv = s.nv ∧ s'.value w = s.value w - s.value x * s.value y ∧
      ∀ i, i < s.nv → i ≠ w → s'.value i = s.value i :=
  submul_ok h hw hx hy

example : lookP (submul 1 1 1 (ofInts [2^100, 2^70+1, -(2^65+7)])) 2 = .ok [(2^100, 2, 0), (2^70+1 - (2^70+1)*(2^70+1), 5, 3)] := by
  decide +kernel
example : (lookP (addmul 1 1 2 (ofInts [2^100, 2^70+1, -(2^65+7)])) 3).map (·.map (·.1)) =
    .ok [2^100, 2^70+1 + (2^70+1) * -(2^65+7), -(2^65+7)] := by decide +kernel
-- negative examples: PTR (x) fetched before MPZ_REALLOC (w) with w = x; the product formed in wp with w = x
example : lookP (aorsmulV { reallocThenPtr := false } false 1 1 2 (ofInts [2^100, 2^70+1, -(2^65+7)])) 3 =
    .error "ub:read of a freed block" := by decide +kernel
example : lookP (aorsmulV { productInTmp := false } false 1 1 2 (ofInts [2^100, 2^70+1, -(2^65+7)])) 3 =
    .error "ub:mpn_mul product overlaps a factor" := by decide +kernel

/-! ## mpz_sqrt, mpz_lcm, mpz_invert -/

/-- mpz_sqrt (mpz/sqrt.c), root = op or not, op ≥ 0: the operand is copied to TMP space when `root_ptr == op_ptr` (:69-76);
    a root block that is too small is replaced by free + allocate (:51-67). -/
theorem mpz_sqrt_ptr_spec {s : St} (h : Inv s) {root op : Nat} (hr : root < s.nv) (ho : op < s.nv) (hop : 0 ≤ s.value op) :
    ∃ s', mpz_sqrt root op s = .ok s' ∧ Inv s' ∧ s'.nv = s.nv ∧ s'.value root = (Nat.sqrt (s.value op).toNat : Int) ∧
      ∀ i, i < s.nv → i ≠ root → s'.value i = s.value i :=
  mpz_sqrt_ok h hr ho hop

/-- mpz_lcm (mpz/lcm.c), every choice of r, u, v: the one-limb arms (`MPZ_REALLOC (r, usize+1)` first, then `PTR (u)`,
    `PTR (v)[0]`, mpn_mul_1 in place; this is the function of finding C05_a_2) and the general arm through a local g
    (mpz_gcd, mpz_divexact, mpz_mul into r). -/
theorem mpz_lcm_ptr_spec {s : St} (h : Inv s) {r u v : Nat} (hr : r < s.nv) (hu : u < s.nv) (hv : v < s.nv) :
    ∃ s', mpz_lcm r u v s = .ok s' ∧ Inv s' ∧ s'.nv = s.nv ∧ s'.value r = ((Int.lcm (s.value u) (s.value v) : Nat) : Int) ∧
      ∀ i, i < s.nv → i ≠ r → s'.value i = s.value i :=
  mpz_lcm_ok h hr hu hv

/-- mpz_invert (mpz/invert.c), every choice of inverse, x, n: gcd and cofactor are computed into two local variables
    (`mpz_gcdext (gcd, tmp, NULL, x, n)`, taken at the value-level `Gcd.mpz_gcdext`), `inverse` is written only when the
    inverse exists — otherwise EVERY variable keeps its value. -/
theorem mpz_invert_ptr_spec {s : St} (h : Inv s) {inv x n : Nat} (hi : inv < s.nv) (hx : x < s.nv) (hn : n < s.nv) :
    match Gcd.mpz_invert (s.value x) (s.value n) with
    | none => ∃ s', mpz_invert inv x n s = .ok (false, s') ∧ Inv s' ∧ s'.nv = s.nv ∧ ∀ i, i < s.nv → s'.value i = s.value i
    | some z => ∃ s', mpz_invert inv x n s = .ok (true, s') ∧ Inv s' ∧ s'.nv = s.nv ∧ s'.value inv = z ∧
        ∀ i, i < s.nv → i ≠ inv → s'.value i = s.value i :=
  mpz_invert_ok Mpir.C07z.mpn_gcdext_contract h hi hx hn

example : lookP (mpz_sqrt 1 1 (ofInts [0, 2^200+12345])) 2 = .ok [(0, 1, 0), (2^100, 4, 1)] := by decide +kernel
example : lookP (mpz_sqrtV { copyOp := false } 1 1 (ofInts [0, 2^200+12345])) 2 = .error "ub:mpn_sqrtrem operands overlap" := by
  decide +kernel
example : lookP (mpz_lcm 1 1 1 (ofInts [0, -(2^70*6), 7])) 3 = .ok [(0, 1, 0), (2^70*6, 3, 5), (7, 1, 2)] := by decide +kernel
example : (lookP (mpz_lcm 2 1 2 (ofInts [0, 2^70*6, -15])) 3).map (·.map (·.1)) = .ok [0, 2^70*6, 2^70*30] := by decide +kernel
example : (mpz_invert 2 1 2 (ofInts [0, 6, 2^70*3])).map (fun r => (r.1, r.2.view 3)) =
    .ok (false, [(0, 1, 0), (6, 1, 1), (2^70*3, 2, 2)]) := by decide +kernel

/-! ## mpz_root, mpz_remove, mpz_bin_ui -/

/-- mpz_root (mpz/root.c), root = u or not, nth ≥ 1, u ≥ 0 or nth odd: the root is built in TMP space when root = u (:56-59:
    mpn_rootrem's operands may not overlap) and copied back; the return value says whether the root is exact. -/
theorem mpz_root_ptr_spec {s : St} (h : Inv s) {root u : Nat} (hr : root < s.nv) (hu : u < s.nv) (nth : Nat) (hn : 1 ≤ nth)
    (hsgn : 0 ≤ s.value u ∨ nth % 2 = 1) :
    ∃ s', mpz_root root u nth s = .ok (decide (Root.iroot nth (s.mag u) ^ nth = s.mag u), s') ∧ Inv s' ∧ s'.nv = s.nv ∧
      s'.value root = sgnv (s.size u) (Root.iroot nth (s.mag u)) ∧ ∀ i, i < s.nv → i ≠ root → s'.value i = s.value i :=
  mpz_root_ok h hr hu nth hn hsgn

/-- mpz_remove (mpz/remove.c), every choice of dest, src, f: `f` is copied to the local fpow[0] BEFORE `mpz_set (dest, src)`
    (:60-61 — the order that makes dest = f work), all divisions go through local variables; f ≤ 1 is DIVIDE_BY_ZERO (:33-34);
    quotient and multiplicity are those of the value-level model `Numth.mpz_remove` (C09).  `1 ≤ ALLOC (dest)`: the f = 2 arm
    ends in mpz_fdiv_q_2exp, which stores `PTR (w)[0]` without a realloc. -/
theorem mpz_remove_ptr_spec {s : St} (h : Inv s) {dest src f : Nat} (hd : dest < s.nv) (hs : src < s.nv) (hf : f < s.nv)
    (ha : 1 ≤ s.alloc dest) :
    match Numth.mpz_remove (s.value src) (s.value f) with
    | none => mpz_remove dest src f s = .error "div0"
    | some (z, pwr) => ∃ s', mpz_remove dest src f s = .ok (pwr, s') ∧ Inv s' ∧ s'.nv = s.nv ∧ s'.value dest = z ∧
        ∀ i, i < s.nv → i ≠ dest → s'.value i = s.value i :=
  mpz_remove_ok h hd hs hf ha

/- FULL statement wanted for mpz_bin_ui: as below without `hP`.  `hP` (`binPos …`) says that the ASSERT `SIZ (r) > 0` inside the
   DIVIDE() macro (bin_ui.c:35) holds along the value-level run, i.e. that no intermediate quotient is 0 — true (the accumulated
   product of j consecutive integers is divisible by j! and positive) but not proved here; it is decidable (`binPosDec`), the
   examples below discharge it by evaluation. -/
/-- mpz_bin_ui (mpz/bin_ui.c), r = n or not: ni is computed from n (into a local) BEFORE `SIZ (r) = 1; PTR (r)[0] = 1` (:75). -/
theorem mpz_bin_ui_ptr_spec_partial {s : St} (h : Inv s) {r n : Nat} (hr : r < s.nv) (hn : n < s.nv) (ha : 1 ≤ s.alloc r) (k : Nat)
    (hkB : k < B)
    (hP : binPos (if binNi (s.value n) k < k then binNi (s.value n) k else k) (if binNi (s.value n) k < k then binNi (s.value n) k else k)
      1 (if binNi (s.value n) k < k then k else binNi (s.value n) k) 1 1 1) :
    ∃ s', mpz_bin_ui r n k s = .ok s' ∧ Inv s' ∧ s'.nv = s.nv ∧ s'.value r = Numth.mpz_bin_ui (s.value n) k ∧
      ∀ i, i < s.nv → i ≠ r → s'.value i = s.value i :=
  mpz_bin_ui_ok h hr hn ha k hkB hP

example : lookN (mpz_root 1 1 3 (ofInts [0, (2^70+1)^3])) 2 = .ok (true, [(0, 1, 0), (2^70+1, 4, 1)], 2) := by decide +kernel
example : lookN (mpz_rootV { rootInTmp := false } 1 1 3 (ofInts [0, (2^70+1)^3])) 2 = .error "ub:mpn_rootrem operands overlap" := by
  decide +kernel
-- dest = f: 3^50 removed from -(3^50 · 7 · 2^70); with `mpz_set (dest, src)` BEFORE the copy of f the answer is wrong
example : (lookN (mpz_remove 2 1 2 (ofInts [0, -(3^50 * 7 * 2^70), 3])) 3).map (fun r => (r.1, r.2.1.getD 2 default)) =
    .ok (50, (-(7 * 2^70), 3, 6)) := by decide +kernel
example : (lookN (mpz_removeV { copyFFirst := false } 2 1 2 (ofInts [0, -(3^50 * 7 * 2^70), 3])) 3).map (fun r => r.1) = .ok 1 := by
  decide +kernel
example : (lookP (mpz_bin_ui 1 1 30 (ofInts [0, 2^70+3])) 2).map (·.map (·.1)) = .ok [0, Numth.mpz_bin_ui (2^70+3) 30] := by decide +kernel
example : binPos 30 30 1 (2^70 + 3 - 30) 1 1 1 := by decide +kernel
example : lookP (mpz_bin_uiV { niBeforeR := false } 1 1 5 (ofInts [0, 2^70])) 2 = .ok [(0, 1, 0), (1, 2, 1)] := by decide +kernel

/-! ## mpf_floor / mpf_ceil / mpf_trunc, mpf_mul_2exp / mpf_div_2exp, mpf_ui_div -/

/-- mpf_floor, mpf_ceil (mpf/ceilfloor.c), mpf_trunc (mpf/trunc.c), r = u or not, operands of any length: the fraction limbs are
    scanned (and the ±1 added into r) BEFORE the integer limbs are moved down inside the block with MPN_COPY_INCR — the
    function family of the seeded defect C05_b_3. -/
theorem mpf_floor_ceil_trunc_ptr_spec {s : FSt} (h : FInv s) {r u : Nat} (hr : r < s.st.nv) (hu : u < s.st.nv) :
    (∃ s', mpf_floor r u s = .ok s' ∧ FRes s s' r (Mpf.floor (s.prec r) (s.F u))) ∧
    (∃ s', mpf_ceil r u s = .ok s' ∧ FRes s s' r (Mpf.ceil (s.prec r) (s.F u))) ∧
    (∃ s', mpf_trunc r u s = .ok s' ∧ FRes s s' r (Mpf.trunc (s.prec r) (s.F u))) :=
  ⟨mpf_floor_ok h hr hu, mpf_ceil_ok h hr hu, mpf_trunc_ok h hr hu⟩

/-- mpf_mul_2exp / mpf_div_2exp (mpf/mul_2exp.c, mpf/div_2exp.c), r = u or not: whole-limb shifts are an MPN_COPY_INCR of the
    top limbs, bit shifts go through mpn_rshift by 64 - k into rp + 1 when u is longer than PREC (so that source and
    destination overlap in the permitted direction) and mpn_lshift otherwise.  `1 ≤ PREC (r)`: never smaller in the library. -/
theorem mpf_2exp_ptr_spec {s : FSt} (h : FInv s) {r u : Nat} (hr : r < s.st.nv) (hu : u < s.st.nv) (e : Nat) (hp : 1 ≤ s.prec r) :
    (∃ s', mpf_mul_2exp r u e s = .ok s' ∧ FRes s s' r (Mpf.mul_2exp (s.prec r) (s.F u) e)) ∧
    (∃ s', mpf_div_2exp r u e s = .ok s' ∧ FRes s s' r (Mpf.div_2exp (s.prec r) (s.F u) e)) :=
  ⟨mpf_mul_2exp_ok h hr hu e hp, mpf_div_2exp_ok h hr hu e hp⟩

/-- mpf_ui_div (mpf/ui_div.c), r = v or not, v ≠ 0: the divisor is copied when `rp == vp` (:96-100), the dividend u·B^zeros is
    built in TMP space. -/
theorem mpf_ui_div_ptr_spec {s : FSt} (h : FInv s) {r v : Nat} (hr : r < s.st.nv) (hv : v < s.st.nv) {u : Nat} (huB : u < B)
    (hvz : s.st.size v ≠ 0) :
    ∃ s' f, mpf_ui_div r u v s = .ok s' ∧ Mpf.ui_div (s.prec r) u (s.F v) = .ok f ∧ FRes s s' r f :=
  mpf_ui_div_ok h hr hv huB hvz

-- the pattern of the seeded defect C05_b_3 (DESIGN.md A.4): ceil in place of 5.0 held as {0, 5} with exponent 1 (one fraction limb, zero): 5, not 6
example : lookF (mpf_ceil 0 0 (ofFs [⟨2, 2, 1, [0, 5]⟩])) 1 = .ok [⟨2, 1, 1, [5]⟩] := by decide +kernel
example : lookF (mpf_ceilfloorV { scanBeforeMove := false } 0 0 1 (ofFs [⟨2, 2, 1, [0, 5]⟩])) 1 = .ok [⟨2, 1, 1, [6]⟩] := by decide +kernel
example : errOfF (mpf_truncV { copyIncr := false } 0 0 (ofFs [⟨2, 5, 9, [0, 2, 3, 4, 5]⟩])) = "ub:MPN_COPY_DECR overlap" := by decide +kernel
example : errOfF (mpf_2expV { rshiftWhenLong := false } true 0 0 3 (ofFs [⟨2, 3, 9, [2, 3, 4]⟩])) = "ub:mpn_lshift overlap" := by
  decide +kernel
example : errOfF (mpf_ui_divV { copyV := false } 0 7 0 (ofFs [⟨2, -4, 3, [5, 6, 7, 8]⟩])) = "ub:mpn_tdiv_qr operands overlap" := by
  decide +kernel

end Mpir.AliasMem
