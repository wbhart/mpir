/-
  C04, object-layer memory safety as theorems (same statement shape `Safe` as C04_allocsafe{,2,3}.lean:
  `ok = true`, destination well formed, every other variable untouched, value-level view = the list-level result; plus the
  integer identity).  Property theorems only; helper lemmas live in MpirProofs/Lemmas/AllocSafeCfdiv.lean (mpz/cfdiv_q_2exp.c),
  AllocSafeAorsmul.lean (mpz/aorsmul_i.c, aorsmul.c), AllocSafeMulC.lean (mpz/mul.c), AllocSafeTdiv.lean (mpz/tdiv_q.c, tdiv_r.c, tdiv_qr.c), AllocSafeMpf.lean (mpf/urandomb.c), AllocSafeSqrt.lean (mpz/sqrt.c, sqrtrem.c), AllocSafeSetD.lean (mpz/set_d.c), AllocSafeMpqInv.lean (mpq/inv.c).

  Models: Mpir/Model/AllocSafeMpz3.lean (cfdiv_q_2exp), Mpir/Model/AllocSafeMpz4.lean (everything else here).
  Tied by ops `as3_cdiv_q_2exp`, `as3_fdiv_q_2exp` (part c04_allocsafe3) and `as4_*` (harness/ops_allocsafe4.c; ALLOC SIZ value
  compared exactly) and pins on every C file mirrored.
-/
import MpirProofs.Lemmas.AllocSafeCfdiv
import MpirProofs.Lemmas.AllocSafeMpf
import MpirProofs.Lemmas.AllocSafeMpqInv
import MpirProofs.Lemmas.AllocSafeSetD
import MpirProofs.Lemmas.AllocSafeSqrt
import MpirProofs.Props.C01_mpz
import MpirProofs.Props.C04_allocsafe3
namespace Mpir.AllocSafe
open Mpir

/-! ## mpz_cdiv_q_2exp / mpz_fdiv_q_2exp (mpz/cfdiv_q_2exp.c) -/

/-- mpz_cdiv_q_2exp (mpz/cfdiv_q_2exp.c with dir = 1), every allocation and both alias modes: `MPZ_REALLOC (w, wsize + 1)`
    ("+1 limb to allow for mpn_add_1 below") covers the shifted limbs and `wp[wsize] = cy` of the rounding step; the skipped low
    limbs `up[0, limb_cnt)` are inspected before anything is stored (w == u); `PTR(w)[0] = 1` of the `wsize <= 0` case needs
    no reallocation because a block never has zero limbs; the result is ⌈u / 2^cnt⌉ (`-⌊-u / 2^cnt⌋`). -/
theorem mpz_cdiv_q_2exp_alloc_safe (s : St) (w u : Nat) (cnt : Nat) (hs : s.ok = true)
    (hw : OWF (s.h w)) (hu : OWF (s.h u)) :
    Safe s (mpz_cdiv_q_2exp s w u cnt) w (Spec.cfdiv_q_2exp (view (s.h w)) (view (s.h u)) cnt 1) ∧
    Mpz.toInt (view ((mpz_cdiv_q_2exp s w u cnt).h w)) = -Int.fdiv (-Mpz.toInt (view (s.h u))) (2 ^ cnt) := by
  have R := cfdiv_q_2exp_refines s w u cnt 1 (by decide) hs hw hu
  have E := Spec.cfdiv_q_2exp_spec (view (s.h w)) (view (s.h u)) cnt 1 (Or.inr rfl) hw.alloc_pos hu.2
  exact R.safe_val E.1 (by rw [E.2]; simp [DivZ.specQ, DivZ.cdivQ])

/-- mpz_fdiv_q_2exp (dir = -1): the same code, rounding away from zero for negative u; the result is ⌊u / 2^cnt⌋. -/
theorem mpz_fdiv_q_2exp_alloc_safe (s : St) (w u : Nat) (cnt : Nat) (hs : s.ok = true)
    (hw : OWF (s.h w)) (hu : OWF (s.h u)) :
    Safe s (mpz_fdiv_q_2exp s w u cnt) w (Spec.cfdiv_q_2exp (view (s.h w)) (view (s.h u)) cnt (-1)) ∧
    Mpz.toInt (view ((mpz_fdiv_q_2exp s w u cnt).h w)) = Int.fdiv (Mpz.toInt (view (s.h u))) (2 ^ cnt) := by
  have R := cfdiv_q_2exp_refines s w u cnt (-1) (by decide) hs hw hu
  have E := Spec.cfdiv_q_2exp_spec (view (s.h w)) (view (s.h u)) cnt (-1) (Or.inl rfl) hw.alloc_pos hu.2
  exact R.safe_val E.1 (by rw [E.2]; simp [DivZ.specQ])

-- ⌈(B^2-1) / 2^64⌉ = B: the rounding carries into a new top limb (one-limb destination grown 1 → 2, and in place);
-- ⌊-(B^2) / 2^200⌋ = -1 without any reallocation; ⌈-(B^2-1) / 2^65⌉ = -(2^63 - 1) (no rounding for a negative ceiling)
example : (mpz_cdiv_q_2exp ex 0 1 64).ok = true ∧ Mpz.toInt (view ((mpz_cdiv_q_2exp ex 0 1 64).h 0)) = (B : Int) := by decide
example : (mpz_cdiv_q_2exp ex 1 1 64).ok = true ∧ view ((mpz_cdiv_q_2exp ex 1 1 64).h 1) = ⟨2, 2, [0, 1]⟩ := by decide
example : view ((mpz_fdiv_q_2exp ex3 0 1 200).h 0) = ⟨1, -1, [1]⟩ := by decide
example : view ((mpz_cdiv_q_2exp ⟨fun _ => ⟨-2, 0, ⟨2, [B - 1, B - 1]⟩⟩, true⟩ 0 1 65).h 0) = ⟨2, -1, [2 ^ 63 - 1]⟩ := by decide
-- negative: `MPZ_REALLOC (w, wsize)` without the "+1 limb to allow for mpn_add_1 below" — `wp[wsize] = cy` is outside the block
example : (cfdiv_q_2exp 0 ex 0 1 64 1).ok = false := by decide

/-! ## mpz_addmul_ui / mpz_submul_ui (mpz/aorsmul_i.c), mpz_addmul / mpz_submul (mpz/aorsmul.c) -/

/-- heap for the accumulate examples: 0 = 5 (one limb), 1 = 3 (one limb), 2 = B^2 - 1, 3 = B^3 - 1, 4 = 1 (exact blocks) -/
def ex4 : St := ⟨fun i => if i = 0 then ⟨1, 0, ⟨1, [5]⟩⟩ else if i = 1 then ⟨1, 0, ⟨1, [3]⟩⟩
                  else if i = 2 then ⟨2, 0, ⟨2, [B - 1, B - 1]⟩⟩ else if i = 3 then ⟨3, 0, ⟨3, [B - 1, B - 1, B - 1]⟩⟩
                  else ⟨1, 0, ⟨1, [1]⟩⟩, true⟩

/-- mpz_addmul_ui (mpz/aorsmul_i.c: mpz_aorsmul_1 with sub = 0), every sign combination, allocation and both alias modes
    (w == x included): `MPZ_REALLOC (w, new_wsize+1)` with `new_wsize = MAX (wsize, xsize)` covers, in the addmul of
    magnitudes, `wp[dsize] = cy` after mpn_addmul_1 + (mpn_mul_1 of x's high limbs | mpn_add_1 through w's high limbs); in the
    submul of magnitudes with w at least as long, the extra limb `wp[new_wsize] = ~-cy` of the borrow-out path, the
    two's-complement negate over `new_wsize + 1` limbs (mpn_not + MPN_INCR_U stop inside them); with x longer, MPN_MUL_1C on
    `wp + wsize`, `wp[new_wsize] = cy`, the held `-1` applied by MPN_DECR_U inside `new_wsize - wsize` limbs; MPN_NORMALIZE reads
    only what was written; x's high limbs are read after w's low limbs were overwritten only when x is another variable.
    Result: `w + x*y` exactly. -/
theorem mpz_addmul_ui_alloc_safe (s : St) (w x : Nat) (y : Nat) (hs : s.ok = true)
    (hw : OWF (s.h w)) (hx : OWF (s.h x)) (hy : y < B) :
    Safe s (mpz_addmul_ui s w x y) w (Mpz.addmul_ui (view (s.h w)) (view (s.h x)) y) ∧
    Mpz.toInt (view ((mpz_addmul_ui s w x y).h w)) = Mpz.toInt (view (s.h w)) + Mpz.toInt (view (s.h x)) * (y : Int) := by
  have E := Mpz.mpz_addmul_ui_exact (view (s.h w)) (view (s.h x)) y hw.2 hx.2 hy
  exact (aorsmul_1_refines s w x y false hs hw hx hy).safe_val E.2 E.1

/-- mpz_submul_ui (mpz_aorsmul_1 with sub = -1): `w - x*y` exactly, same paths with the roles of the signs exchanged. -/
theorem mpz_submul_ui_alloc_safe (s : St) (w x : Nat) (y : Nat) (hs : s.ok = true)
    (hw : OWF (s.h w)) (hx : OWF (s.h x)) (hy : y < B) :
    Safe s (mpz_submul_ui s w x y) w (Mpz.submul_ui (view (s.h w)) (view (s.h x)) y) ∧
    Mpz.toInt (view ((mpz_submul_ui s w x y).h w)) = Mpz.toInt (view (s.h w)) - Mpz.toInt (view (s.h x)) * (y : Int) := by
  have E := Mpz.mpz_submul_ui_exact (view (s.h w)) (view (s.h x)) y hw.2 hx.2 hy
  exact (aorsmul_1_refines s w x y true hs hw hx hy).safe_val E.2 E.1

-- (B^2-1) += (B^2-1)*(B-1) in place (w == x): = (B^2-1)*B, block grown 2 → 3, the carry limb of mpn_addmul_1 stored at index 2
example : (mpz_addmul_ui ex4 2 2 (B - 1)).ok = true ∧ view ((mpz_addmul_ui ex4 2 2 (B - 1)).h 2) = ⟨3, 3, [0, B - 1, B - 1]⟩ := by
  decide
-- 5 -= 3*2: borrow out of w, `wp[1] = ~-cy`, two's-complement negate, sign flipped: -1 in a block grown 1 → 2
example : (mpz_submul_ui ex4 0 1 2).ok = true ∧ view ((mpz_submul_ui ex4 0 1 2).h 0) = ⟨2, -1, [1]⟩ := by decide
-- 5 -= (B^2-1)*(B-1): x longer than w, submul on one limb, complement, MPN_MUL_1C on the two high limbs, `wp[2] = cy`
example : (mpz_submul_ui ex4 0 2 (B - 1)).ok = true ∧
    Mpz.toInt (view ((mpz_submul_ui ex4 0 2 (B - 1)).h 0)) = 5 - ((B : Int) ^ 2 - 1) * (B - 1) := by decide
-- 5 += (B^2-1)*1: x longer than w, mpn_mul_1 of the high limb plus the carry of the low part
example : (mpz_addmul_ui ex4 0 2 1).ok = true ∧ view ((mpz_addmul_ui ex4 0 2 1).h 0) = ⟨3, 3, [4, 0, 1]⟩ := by decide
-- negative: `MPZ_REALLOC (w, new_wsize)` without the `+1` — the carry store / `wp[new_wsize] = ~-cy` is outside the block
example : (aorsmul_1 0 ex4 2 2 (B - 1) false).ok = false := by decide
example : (aorsmul_1 0 ex4 0 1 2 true).ok = false := by decide

/-- mpz_addmul (mpz/aorsmul.c), every sign combination, allocation and alias pattern (w == x, w == y, x == y, all one): the
    one-limb shortcut reads `PTR(y)[0]` and enters mpz_aorsmul_1; otherwise `MPZ_REALLOC (w, MAX (wsize, tsize) + 1)` with
    `tsize = xsize + ysize` covers the product written straight to `wp` when w = 0 (then w is neither x nor y), and, the product
    formed in temporary space, the sum of the longer and the shorter magnitude with the carry stored unconditionally at
    `wp[wsize]`, resp. the difference and MPN_NORMALIZE over what was written.  Result: `w + x*y` exactly. -/
theorem mpz_addmul_alloc_safe (s : St) (w x y : Nat) (hs : s.ok = true)
    (hw : OWF (s.h w)) (hx : OWF (s.h x)) (hy : OWF (s.h y)) :
    Safe s (mpz_addmul s w x y) w (Mpz.addmul (view (s.h w)) (view (s.h x)) (view (s.h y))) ∧
    Mpz.toInt (view ((mpz_addmul s w x y).h w)) =
      Mpz.toInt (view (s.h w)) + Mpz.toInt (view (s.h x)) * Mpz.toInt (view (s.h y)) := by
  have E := Mpz.mpz_addmul_exact (view (s.h w)) (view (s.h x)) (view (s.h y)) hw.2 hx.2 hy.2
  exact (aorsmul_refines s w x y false hs hw hx hy).safe_val E.2 E.1

/-- mpz_submul (mpz/aorsmul.c with sub = -1): `w - x*y` exactly. -/
theorem mpz_submul_alloc_safe (s : St) (w x y : Nat) (hs : s.ok = true)
    (hw : OWF (s.h w)) (hx : OWF (s.h x)) (hy : OWF (s.h y)) :
    Safe s (mpz_submul s w x y) w (Mpz.submul (view (s.h w)) (view (s.h x)) (view (s.h y))) ∧
    Mpz.toInt (view ((mpz_submul s w x y).h w)) =
      Mpz.toInt (view (s.h w)) - Mpz.toInt (view (s.h x)) * Mpz.toInt (view (s.h y)) := by
  have E := Mpz.mpz_submul_exact (view (s.h w)) (view (s.h x)) (view (s.h y)) hw.2 hx.2 hy.2
  exact (aorsmul_refines s w x y true hs hw hx hy).safe_val E.2 E.1

-- all ones: (B^3-1) += (B^2-1)*(B^2-1) = B^4 + B^3 - 2B^2: w one limb shorter than the product, the carry limb goes to wp[4]
-- of a block grown 3 → 5
example : (mpz_addmul ex4 3 2 2).ok = true ∧ view ((mpz_addmul ex4 3 2 2).h 3) = ⟨5, 5, [0, 0, B - 2, 0, 1]⟩ := by decide
-- in place on an operand: (B^2-1) -= (B^2-1)*(B^2-1) (w == x == y), the product in temporary space, sign flips
example : (mpz_submul ex4 2 2 2).ok = true ∧
    Mpz.toInt (view ((mpz_submul ex4 2 2 2).h 2)) = ((B : Int) ^ 2 - 1) - ((B : Int) ^ 2 - 1) * ((B : Int) ^ 2 - 1) := by decide
-- the one-limb shortcut: 5 += (B^2-1)*3 and, operands swapped, 5 += 3*(B^2-1)
example : (mpz_addmul ex4 0 2 1).ok = true ∧ view ((mpz_addmul ex4 0 2 1).h 0) = view ((mpz_addmul ex4 0 1 2).h 0) := by decide
-- negative (the seeded bug): `MPZ_REALLOC (w, MAX (wsize + 1, tsize))` and the carry stored only when non-zero —
-- on the all-ones operands above the carry limb `wp[4]` is one past the block of 4 limbs …
example : (aorsmul (fun a b => max (a + 1) b) false ex4 3 2 2 false).ok = false := by decide
-- … and goes unnoticed whenever no carry comes out (5 += (B^2-1)*(B^2-1))
example : (aorsmul (fun a b => max (a + 1) b) false ex4 0 2 2 false).ok = true := by decide

/-! ## mpz_mul (mpz/mul.c) -/

/-- mpz_mul (mpz/mul.c), for every threshold, sign, allocation and alias pattern (w == u, w == v, u == v, all one variable):
    * one-limb v: `MPZ_REALLOC (w, usize+1)` covers `wp[usize] = cy_limb`; `PTR(v)[0]` and `PTR(u)` are read after the
      reallocation (w may be u or v);
    * basecase shortcut (w neither operand): `MPZ_REALLOC (w, usize + vsize)`, `wp[wsize - 1]` inside what was written;
    * generic path: when the block is too small a FRESH block of exactly `usize + vsize` limbs is installed whose contents
      are not copied — the operands are read from the old block, which is kept (`free_me`) exactly when w is u or v, and
      from their own blocks otherwise; when the block is large enough an operand that is w is copied to temporary space
      first (v kept identical to u when all three coincide); `mpn_sqr` + `wp[2*usize-1]` resp. `mpn_mul`.
    The allocation left is `wsize` if the block was smaller, else unchanged; the product is exact. -/
theorem mpz_mul_alloc_safe (thr : Nat) (s : St) (w u v : Nat) (hs : s.ok = true)
    (hw : OWF (s.h w)) (hu : OWF (s.h u)) (hv : OWF (s.h v)) :
    Safe s (mul thr true 1 s w u v) w (Mpz.mul thr ⟨w == u, w == v, u == v⟩ (view (s.h w)) (view (s.h u)) (view (s.h v))) ∧
    Mpz.toInt (view ((mul thr true 1 s w u v).h w)) = Mpz.toInt (view (s.h u)) * Mpz.toInt (view (s.h v)) :=
  mul_safe thr s w u v hs hw hu hv

-- (B^2-1)^2 in place through one variable (w == u == v), exact block of 2: fresh block of 4, operands read from the kept old block
example : (mpz_mul ex4 2 2 2).ok = true ∧ view ((mpz_mul ex4 2 2 2).h 2) = ⟨4, 4, [1, 0, B - 2, B - 1]⟩ := by decide
-- (B^3-1)*(B^2-1) into the 2-limb variable that is also v (free_me), and into a distinct one-limb destination (freed at once)
example : (mpz_mul ex4 2 3 2).ok = true ∧ (mpz_mul ex4 2 3 2).ALLOC 2 = 5 ∧
    Mpz.toInt (view ((mpz_mul ex4 2 3 2).h 2)) = ((B : Int) ^ 3 - 1) * ((B : Int) ^ 2 - 1) := by decide
example : (mpz_mul ex4 0 3 2).ok = true ∧ (mpz_mul ex4 0 3 2).ALLOC 0 = 5 := by decide
-- B * B in a block with room (w == u == v, alloc 4): temporary copy, squaring, top limb zero
example : view ((mpz_mul ⟨fun _ => ⟨2, 0, ⟨4, [0, 1, junk, junk]⟩⟩, true⟩ 0 0 0).h 0) = ⟨4, 3, [0, 0, 1]⟩ := by decide
-- (B^2-1) * 3 in place (one-limb v): block grown 2 → 3
example : (mpz_mul ex4 2 2 1).ok = true ∧ view ((mpz_mul ex4 2 2 1).h 2) = ⟨3, 3, [B - 3, B - 1, 2]⟩ := by decide
-- negative: the old block freed at once although w is an operand (no `free_me`): the operands are read through dangling pointers
example : (mul 17 false 1 ex4 2 2 2).ok = false := by decide
example : (mul 17 false 1 ex4 2 3 2).ok = false := by decide
-- … harmless when w is neither operand; negative: `MPZ_REALLOC (w, usize)` in the one-limb path
example : (mul 17 false 1 ex4 0 3 2).ok = true := by decide
example : (mul 17 true 0 ex4 2 2 1).ok = false := by decide

/-! ## mpz_tdiv_q (mpz/tdiv_q.c), mpz_tdiv_r (mpz/tdiv_r.c)
    (the rest of the division family: pointer-level theorems of part c05_ptr, Props/C05_mpz.lean) -/

/-- mpz_tdiv_q (mpz/tdiv_q.c), den ≠ 0 (the C raises DIVIDE_BY_ZERO otherwise), every allocation and alias pattern
    (quot == num, quot == den, num == den, all one): `MPZ_REALLOC (quot, ql)` with `ql = nl - dl + 1` is exactly the number of
    limbs mpn_tdiv_q stores (SUFFICIENT); an operand that is quot is copied to temporary space after the reallocation, from the
    block that then holds it; `qp[ql - 1]` is inside what was written; nothing is requested when `ql <= 0`.  The quotient is
    truncated towards zero. -/
theorem mpz_tdiv_q_alloc_safe (s : St) (q n d : Nat) (hs : s.ok = true)
    (hq : OWF (s.h q)) (hn : OWF (s.h n)) (hd : OWF (s.h d)) (hd0 : (s.h d).size ≠ 0) :
    ∃ s', mpz_tdiv_q s q n d = some s' ∧
      Safe s s' q (Spec.tdiv_q (view (s.h q)) (view (s.h n)) (view (s.h d))) ∧
      Mpz.toInt (view (s'.h q)) = Int.tdiv (Mpz.toInt (view (s.h n))) (Mpz.toInt (view (s.h d))) := by
  obtain ⟨s', e, R⟩ := tdiv_q_refines s q n d hs hq hn hd hd0
  have E := Spec.tdiv_q_spec (view (s.h q)) (view (s.h n)) (view (s.h d)) hq.alloc_pos hn.2 hd.2 hd0
  exact ⟨s', e, R.safe_val E.1 E.2⟩

/-- … and NECESSARY: the same function requesting `ql - 1` limbs clears `ok` (the quotient store leaves the block) in every
    state in which quot's block has fewer than `ql` limbs, quot is neither operand and the numerator is at least as long
    as the denominator. -/
theorem mpz_tdiv_q_request_necessary (s : St) (q n d : Nat) (hs : s.ok = true) (hq : OWF (s.h q))
    (hd0 : (s.h d).size ≠ 0) (hnq : n ≠ q) (hdq : d ≠ q) (hge : (s.h d).size.natAbs ≤ (s.h n).size.natAbs)
    (hsmall : (s.h q).buf.alloc < (s.h n).size.natAbs - (s.h d).size.natAbs + 1) :
    ∃ s', tdiv_q 1 s q n d = some s' ∧ s'.ok = false := by
  unfold tdiv_q
  rw [show s.SIZ n = (s.h n).size from rfl, show s.SIZ d = (s.h d).size from rfl]
  have hdl0 : ((s.h d).size.natAbs == 0) = false := by simpa using hd0
  have hle : ¬ (s.h n).size.natAbs + 1 ≤ (s.h d).size.natAbs := by omega
  have e1 : (d == q) = false := by simpa using hdq
  have e2 : (n == q) = false := by simpa using hnq
  simp only [hdl0, Bool.false_eq_true, if_false, hle, e1, e2, copyIfSame]
  refine ⟨_, rfl, ?_⟩
  have h1 : 1 ≤ (s.h q).buf.alloc := hq.alloc_pos
  have ha := MPZ_REALLOC_alloc s q ((s.h n).size.natAbs - (s.h d).size.natAbs + 1 - 1) h1
  have hbad : ((mpn_tdiv_q_S (MPZ_REALLOC s q ((s.h n).size.natAbs - (s.h d).size.natAbs + 1 - 1))
      ((MPZ_REALLOC s q ((s.h n).size.natAbs - (s.h d).size.natAbs + 1 - 1)).PTR q)
      (Src.ptr ((MPZ_REALLOC s q ((s.h n).size.natAbs - (s.h d).size.natAbs + 1 - 1)).PTR n)) (s.h n).size.natAbs
      (Src.ptr ((MPZ_REALLOC s q ((s.h n).size.natAbs - (s.h d).size.natAbs + 1 - 1)).PTR d)) (s.h d).size.natAbs)).ok = false := by
    simp only [mpn_tdiv_q_S, wr_ok, chk_h, PTR_id, PTR_off, toLimbs_length, ha, Bool.and_eq_false_iff, decide_eq_false_iff_not]
    right; omega
  simp only [St.load, setSize_ok, chk_ok, hbad, Bool.false_and]

/-- heap for the division examples: 0 = 5 (one limb), 1 = B^3 - 1, 2 = B + 1, 3 = 0 (exact blocks) -/
def ex5 : St := ⟨fun i => if i = 0 then ⟨1, 0, ⟨1, [5]⟩⟩ else if i = 1 then ⟨3, 0, ⟨3, [B - 1, B - 1, B - 1]⟩⟩
                  else if i = 2 then ⟨2, 0, ⟨2, [1, 1]⟩⟩ else ⟨0, 0, ⟨1, [junk]⟩⟩, true⟩

-- (B^3-1) / (B+1) = B^2 - B (two limbs) into the one-limb variable, in place on the numerator and on the denominator
example : (mpz_tdiv_q ex5 0 1 2).map (fun s => (s.ok, view (s.h 0))) = some (true, ⟨2, 2, [0, B - 1]⟩) := by decide
example : (mpz_tdiv_q ex5 1 1 2).map (fun s => (s.ok, view (s.h 1))) = some (true, ⟨3, 2, [0, B - 1]⟩) := by decide
example : (mpz_tdiv_q ex5 2 1 2).map (fun s => (s.ok, view (s.h 2))) = some (true, ⟨2, 2, [0, B - 1]⟩) := by decide
-- 5 / (B+1) = 0 without any reallocation; x / 0: DIVIDE_BY_ZERO
example : (mpz_tdiv_q ex5 0 0 2).map (fun s => view (s.h 0)) = some ⟨1, 0, []⟩ ∧ mpz_tdiv_q ex5 0 1 3 = none := by decide
-- negative: `MPZ_REALLOC (quot, ql - 1)`
example : (tdiv_q 1 ex5 0 1 2).map (fun s => s.ok) = some false := by decide

/-- mpz_tdiv_r (mpz/tdiv_r.c), den ≠ 0: `MPZ_REALLOC (rem, dl)` is exactly the `dl` remainder limbs mpn_tdiv_qr stores (and
    covers the `nl < dl` copy of the numerator when `ql <= 0`); the quotient goes to `ql` limbs of temporary space; an operand
    that is rem is copied to temporary space first; MPN_NORMALIZE reads what was written.  The remainder has the sign of the
    numerator (`Int.tmod`). -/
theorem mpz_tdiv_r_alloc_safe (s : St) (r n d : Nat) (hs : s.ok = true)
    (hr : OWF (s.h r)) (hn : OWF (s.h n)) (hd : OWF (s.h d)) (hd0 : (s.h d).size ≠ 0) :
    ∃ s', mpz_tdiv_r s r n d = some s' ∧
      Safe s s' r (Spec.tdiv_r (n == r) (view (s.h r)) (view (s.h n)) (view (s.h d))) ∧
      Mpz.toInt (view (s'.h r)) = Int.tmod (Mpz.toInt (view (s.h n))) (Mpz.toInt (view (s.h d))) := by
  obtain ⟨s', e, R⟩ := tdiv_r_refines s r n d hs hr hn hd hd0
  have E := Spec.tdiv_r_spec (n == r) (view (s.h r)) (view (s.h n)) (view (s.h d)) hr.2 hn.2 hd.2 hd0
    (by intro h; have : n = r := by simpa using h
        rw [this])
  exact ⟨s', e, R.safe_val E.1 E.2⟩

/-- … and NECESSARY for mpz_tdiv_r too: requesting `dl - 1` limbs clears `ok` (mpn_tdiv_qr's `dl` remainder limbs leave the block)
    in every state in which rem's block has fewer than `dl` limbs, rem is neither operand and `nl ≥ dl`. -/
theorem mpz_tdiv_r_request_necessary (s : St) (r n d : Nat) (hr : OWF (s.h r)) (hd0 : (s.h d).size ≠ 0)
    (hnr : n ≠ r) (hdr : d ≠ r) (hge : (s.h d).size.natAbs ≤ (s.h n).size.natAbs)
    (hsmall : (s.h r).buf.alloc < (s.h d).size.natAbs) :
    ∃ s', tdiv_r 1 s r n d = some s' ∧ s'.ok = false := by
  unfold tdiv_r
  rw [show s.SIZ n = (s.h n).size from rfl, show s.SIZ d = (s.h d).size from rfl]
  have hdl0 : ((s.h d).size.natAbs == 0) = false := by simpa using hd0
  have hle : ¬ (s.h n).size.natAbs + 1 ≤ (s.h d).size.natAbs := by omega
  have e1 : (d == r) = false := by simpa using hdr
  have e2 : (n == r) = false := by simpa using hnr
  simp only [hdl0, Bool.false_eq_true, if_false, hle, e1, e2, copyIfSame]
  refine ⟨_, rfl, ?_⟩
  have h1 : 1 ≤ (s.h r).buf.alloc := hr.alloc_pos
  have ha := MPZ_REALLOC_alloc s r ((s.h d).size.natAbs - 1) h1
  have hbad : (mpn_tdiv_qr_tmpq (MPZ_REALLOC s r ((s.h d).size.natAbs - 1))
      ((s.h n).size.natAbs - (s.h d).size.natAbs + 1) ((MPZ_REALLOC s r ((s.h d).size.natAbs - 1)).PTR r)
      (Src.ptr ((MPZ_REALLOC s r ((s.h d).size.natAbs - 1)).PTR n)) (s.h n).size.natAbs
      (Src.ptr ((MPZ_REALLOC s r ((s.h d).size.natAbs - 1)).PTR d)) (s.h d).size.natAbs).ok = false := by
    simp only [mpn_tdiv_qr_tmpq, wr_ok, chk_h, PTR_id, PTR_off, toLimbs_length, ha, Bool.and_eq_false_iff, decide_eq_false_iff_not]
    right; omega
  simp only [MPN_NORMALIZE, setSize_ok, chk_ok, hbad, Bool.false_and]

-- (B^3-1) mod (B+1) = B - 1 into the one-limb variable (block grown to dl = 2), in place on the numerator and the denominator
example : (mpz_tdiv_r ex5 0 1 2).map (fun s => (s.ok, view (s.h 0))) = some (true, ⟨2, 1, [B - 1]⟩) := by decide
example : (mpz_tdiv_r ex5 1 1 2).map (fun s => (s.ok, view (s.h 1))) = some (true, ⟨3, 1, [B - 1]⟩) := by decide
example : (mpz_tdiv_r ex5 2 1 2).map (fun s => (s.ok, view (s.h 2))) = some (true, ⟨2, 1, [B - 1]⟩) := by decide
-- 5 mod (B+1) = 5: the numerator is copied (`ql <= 0`), the block still grows to dl limbs
example : (mpz_tdiv_r ex5 3 0 2).map (fun s => (s.ok, view (s.h 3))) = some (true, ⟨2, 1, [5]⟩) := by decide
-- negative: `MPZ_REALLOC (rem, dl - 1)` — mpn_tdiv_qr's dl remainder limbs do not fit
example : (tdiv_r 1 ex5 0 1 2).map (fun s => s.ok) = some false := by decide

/-! ## mpf_urandomb (mpf/urandomb.c): a destination of PREC + 1 limbs that is never reallocated -/

/-- mpf_urandomb, for every destination (block of `PREC + 1` limbs, as mpf_init2 makes it), generator state and bit count:
    `nlimbs = BITS_TO_LIMBS (nbits)` is clamped to `PREC + 1`, so the `nlimbs` limbs `_gmp_rand` stores, the in-place
    mpn_lshift and the strip loop stay inside the block; SIZ, EXP and the limbs are those of C19's value-level model
    (`Rand.mpfUrandomb`), the generator is left in the same state, the block is not touched beyond `PREC + 1` limbs. -/
theorem mpf_urandomb_dest_safe (s : FSt) (g : Rand.Gen) (nbits : Nat) (hs : s.ok = true) (hw : FWF s) :
    (mpf_urandomb 0 s g nbits).1.ok = true ∧
    (mpf_urandomb 0 s g nbits).1.out = (s.o.prec + 1, (Rand.mpfUrandomb g s.o.prec nbits).1) ∧
    (mpf_urandomb 0 s g nbits).2 = (Rand.mpfUrandomb g s.o.prec nbits).2 ∧
    FWF (mpf_urandomb 0 s g nbits).1 := by
  obtain ⟨hb, ha⟩ := hw
  unfold mpf_urandomb Rand.mpfUrandomb
  simp only [Nat.add_zero]
  generalize hnl : (if (decide (Rand.bitsToLimbs nbits > s.o.prec + 1) || Rand.bitsToLimbs nbits == 0) = true then s.o.prec + 1
    else Rand.bitsToLimbs nbits) = nlimbs
  have hle : nlimbs ≤ s.o.buf.alloc := by
    rw [← hnl, ha]
    split
    · exact Nat.le_refl _
    · rename_i h
      simp only [Bool.or_eq_true, decide_eq_true_eq, beq_iff_eq, not_or] at h
      omega
  generalize (if (decide (Rand.bitsToLimbs nbits > s.o.prec + 1) || Rand.bitsToLimbs nbits == 0) = true then nlimbs * 64 else nbits) = nb
  generalize g.get nb = p
  have hpow : (2 : Nat) ^ (64 * nlimbs) = B ^ nlimbs := (B_pow nlimbs).symm
  have H1 := FHolds.of_wr s s nlimbs (p.1 % 2 ^ (64 * nlimbs)) hs hb rfl rfl hle
  have hval1 : val (toLimbs nlimbs (p.1 % 2 ^ (64 * nlimbs))) = p.1 % 2 ^ (64 * nlimbs) := by
    rw [val_toLimbs, ← hpow, Nat.mod_mod]
  unfold mpf_urandomb_shift
  by_cases hsh : nb % 64 ≠ 0
  · simp only [hsh, ne_eq, not_false_eq_true, if_true]
    obtain ⟨e, e'⟩ := (s.wr 0 (toLimbs nlimbs (p.1 % 2 ^ (64 * nlimbs)))).rd_spec nlimbs (by rw [H1.alloc]; exact hle)
    simp only [e, e', H1.take, hval1]
    have H2 := FHolds.of_wr s _ nlimbs ((p.1 % 2 ^ (64 * nlimbs)) <<< (64 - nb % 64) % 2 ^ (64 * nlimbs)) H1.ok H1.len H1.alloc H1.prec hle
    obtain ⟨f1, f2, f3⟩ := mpf_urandomb_fin_spec H2 hle ha
    exact ⟨f1, f2, trivial, f3⟩
  · have hsh' : nb % 64 = 0 := by simpa using hsh
    simp only [hsh', ne_eq, not_true_eq_false, if_false]
    obtain ⟨f1, f2, f3⟩ := mpf_urandomb_fin_spec H1 hle ha
    exact ⟨f1, f2, trivial, f3⟩

/-- negative (the seeded bug of the brief), for ALL destinations and generators: with `prec = PREC (rop) + 1` any request of
    more than `64 (PREC + 1)` bits stores `PREC + 2` limbs. -/
theorem mpf_urandomb_seeded_overruns (s : FSt) (g : Rand.Gen) (nbits : Nat) (hw : FWF s)
    (hn : 64 * (s.o.prec + 1) < nbits) : (mpf_urandomb 1 s g nbits).1.ok = false := by
  obtain ⟨hb, ha⟩ := hw
  have hlimbs : Rand.bitsToLimbs nbits ≥ s.o.prec + 2 := by unfold Rand.bitsToLimbs; omega
  have wrf : ∀ (t : FSt) (l : List Nat), t.ok = false → (t.wr 0 l).ok = false := by
    intro t l h; simp [FSt.wr, h]
  have rdf : ∀ (t : FSt) (n : Nat), t.ok = false → (t.rd n).2.ok = false := by
    intro t n h; simp [FSt.rd, h]
  have shf : ∀ (t : FSt) (n b : Nat), t.ok = false → (mpf_urandomb_shift t n b).ok = false := by
    intro t n b h
    unfold mpf_urandomb_shift
    split
    · exact wrf _ _ (rdf _ _ h)
    · exact h
  have finf : ∀ (t : FSt) (n : Nat), t.ok = false → (mpf_urandomb_fin t n).ok = false := by
    intro t n h
    unfold mpf_urandomb_fin
    exact rdf _ _ h
  unfold mpf_urandomb
  simp only []
  refine finf _ _ (shf _ _ _ ?_)
  simp only [FSt.wr, Buf.write, Nat.zero_add, toLimbs_length, Bool.and_eq_false_iff]
  right
  rw [if_neg]
  rw [ha]
  split <;> omega

-- a destination of mpf_init2 (f, 64) (PREC = 2, three limbs), the default generator, 200 bits requested
example : (mpf_urandomb 0 (mkF 2) (.mt Rand.mtDefault) 200).1.ok = true :=
  (mpf_urandomb_dest_safe _ _ _ rfl ⟨by simp [mkF, Buf.new], rfl⟩).1
example : (mpf_urandomb 1 (mkF 2) (.mt Rand.mtDefault) 200).1.ok = false :=
  mpf_urandomb_seeded_overruns _ _ _ ⟨by simp [mkF, Buf.new], rfl⟩ (by decide)

/-! ## mpz_tdiv_qr (mpz/tdiv_qr.c): two destinations -/

/-- mpz_tdiv_qr (mpz/tdiv_qr.c), den ≠ 0, quot and rem different variables (the manual), every allocation and every other alias
    pattern (quot or rem may be num or den, num may be den): `MPZ_REALLOC (rem, dl)` and `MPZ_REALLOC (quot, ql)` are exactly the
    limbs mpn_tdiv_qr stores; the operand pointers are fetched after both reallocations; an operand that is one of the outputs is
    copied to temporary space; `qp[ql - 1]` and MPN_NORMALIZE (rp, dl) read what was written — the quotient limb after the
    remainder has been stored into the other block; `SIZ (quot) = 0` follows the copy to rem when `ql <= 0`.  Both outputs are
    well formed, no other variable is touched, `quot = tdiv (num, den)`, `rem = tmod (num, den)`. -/
theorem mpz_tdiv_qr_alloc_safe (s : St) (q r n d : Nat) (hs : s.ok = true)
    (hq : OWF (s.h q)) (hr : OWF (s.h r)) (hn : OWF (s.h n)) (hd : OWF (s.h d)) (hd0 : (s.h d).size ≠ 0) (hqr : q ≠ r) :
    ∃ s', mpz_tdiv_qr s q r n d = some s' ∧ s'.ok = true ∧ OWF (s'.h q) ∧ OWF (s'.h r) ∧
      (∀ x, x ≠ q → x ≠ r → s'.h x = s.h x) ∧
      view (s'.h q) = Spec.tdiv_q (view (s.h q)) (view (s.h n)) (view (s.h d)) ∧
      view (s'.h r) = Spec.tdiv_r (n == r) (view (s.h r)) (view (s.h n)) (view (s.h d)) ∧
      Mpz.toInt (view (s'.h q)) = Int.tdiv (Mpz.toInt (view (s.h n))) (Mpz.toInt (view (s.h d))) ∧
      Mpz.toInt (view (s'.h r)) = Int.tmod (Mpz.toInt (view (s.h n))) (Mpz.toInt (view (s.h d))) := by
  obtain ⟨s', e, S⟩ := tdiv_qr_refines s q r n d hs hq hr hn hd hd0 hqr
  have Eq := Spec.tdiv_q_spec (view (s.h q)) (view (s.h n)) (view (s.h d)) hq.alloc_pos hn.2 hd.2 hd0
  have Er := Spec.tdiv_r_spec (n == r) (view (s.h r)) (view (s.h n)) (view (s.h d)) hr.2 hn.2 hd.2 hd0
    (by intro h; have : n = r := by simpa using h
        rw [this])
  exact ⟨s', e, S.safe_val Eq Er⟩

-- (B^3-1) = (B^2 - B)(B+1) + (B - 1): quotient into the one-limb variable 0, remainder in place on the denominator (variable 2);
-- and quotient in place on the numerator, remainder into variable 0
example : (mpz_tdiv_qr ex5 0 2 1 2).map (fun s => (s.ok, view (s.h 0), view (s.h 2))) =
    some (true, ⟨2, 2, [0, B - 1]⟩, ⟨2, 1, [B - 1]⟩) := by decide
example : (mpz_tdiv_qr ex5 1 0 1 2).map (fun s => (s.ok, view (s.h 1), view (s.h 0))) =
    some (true, ⟨3, 2, [0, B - 1]⟩, ⟨2, 1, [B - 1]⟩) := by decide
-- negative: `MPZ_REALLOC (quot, ql - 1)`, `MPZ_REALLOC (rem, dl - 1)`
example : (tdiv_qr 1 0 ex5 0 3 1 2).map (fun s => s.ok) = some false := by decide
example : (tdiv_qr 0 1 ex5 3 0 1 2).map (fun s => s.ok) = some false := by decide

/-! ## mpz_sqrt (mpz/sqrt.c) -/

/-- mpz_sqrt (mpz/sqrt.c), op ≥ 0 (the C raises SQRT_OF_NEGATIVE otherwise), every allocation, root == op included: the root
    gets a FRESH block of exactly `(op_size + 1) / 2` limbs when its block is smaller (contents not copied: then root is not
    op), op is copied to temporary space when it is root; `(op_size + 1) / 2` is exactly what mpn_sqrtrem stores and exactly
    the size of ⌊√op⌋ ("The size of the root is accurate after this simple calculation").  Stated for both values of `retain`:
    the `free_me` arm cannot be reached. -/
theorem mpz_sqrt_alloc_safe (retain : Bool) (s : St) (root op : Nat) (hs : s.ok = true)
    (hr : OWF (s.h root)) (ho : OWF (s.h op)) (hpos : 0 ≤ (s.h op).size) :
    ∃ s', sqrt_ retain s root op = some s' ∧
      Safe s s' root (Spec.sqrt (view (s.h root)) (view (s.h op))) ∧
      Mpz.toInt (view (s'.h root)) = ((Nat.sqrt (Mpz.toInt (view (s.h op))).toNat : Nat) : Int) := by
  obtain ⟨s', e, R⟩ := sqrt_refines retain s root op hs hr ho hpos
  have E := Spec.sqrt_spec (view (s.h root)) (view (s.h op)) hr.alloc_pos ho.2 hpos
  exact ⟨s', e, R.safe_val E.1 E.2⟩

/-- necessary-or-harmless: the `free_me` bookkeeping of sqrt.c:53-57, 85-86 is dead code — a variable that is both root and op
    already owns `op_size ≥ (op_size + 1) / 2` limbs. -/
theorem mpz_sqrt_free_me_dead (s : St) (root op : Nat) (ho : OWF (s.h op)) :
    sqrt_ false s root op = sqrt_ true s root op := by
  unfold sqrt_
  rw [show s.SIZ op = (s.h op).size from rfl, show s.ALLOC root = (s.h root).buf.alloc from rfl]
  by_cases h0 : (s.h op).size ≤ 0
  · simp only [h0, if_true]
  · simp only [h0, if_false]
    by_cases hal : (s.h root).buf.alloc < ((s.h op).size.natAbs + 1) / 2
    · have hne : root ≠ op := by
        intro h; rw [h] at hal
        have := view_fit ho
        omega
      have e : (root == op) = false := by simpa using hne
      simp only [hal, if_true, e, Bool.false_and]
    · simp only [hal, if_false]

-- √(B^3 - 1) = B·2^32 - 1 … (two limbs) into the one-limb variable (fresh block of 2), and in place (temporary copy, block kept)
example : (mpz_sqrt ex5 0 1).map (fun s => (s.ok, (s.ALLOC 0, (s.h 0).size))) = some (true, (2, 2)) := by decide
example : (mpz_sqrt ex5 1 1).map (fun s => (s.ok, (s.ALLOC 1, (s.h 1).size))) = some (true, (3, 2)) := by decide
example : mpz_sqrt ⟨fun _ => ⟨-1, 0, ⟨1, [4]⟩⟩, true⟩ 0 1 = none := by decide
-- negative: a root block of one limb less — mpn_sqrtrem's store leaves it
example : (sqrtTail (freshBlock ex5 0 1) 0 (.ptr (ex5.PTR 1)) 3 2).ok = false := by decide

/-! ## mpz_sqrtrem (mpz/sqrtrem.c): two destinations -/

/-- mpz_sqrtrem (mpz/sqrtrem.c), op ≥ 0, root and rem different variables, either may be op: `_mpz_realloc (rem, op_size)` gives
    mpn_sqrtrem the `op_size` limbs it works in (op's pointer is fetched AFTER it: rem may be op and move); the root block as in
    mpz_sqrt (fresh block of `(op_size + 1) / 2` limbs, or op copied to temporary space when it is root); both sizes are stored
    after the call.  Both outputs well formed, nothing else touched, `root = ⌊√op⌋`, `rem = op - root²`. -/
theorem mpz_sqrtrem_alloc_safe (s : St) (root rem op : Nat) (hs : s.ok = true)
    (hq : OWF (s.h root)) (hr : OWF (s.h rem)) (ho : OWF (s.h op)) (hpos : 0 ≤ (s.h op).size) (hne : root ≠ rem) :
    ∃ s', mpz_sqrtrem s root rem op = some s' ∧ s'.ok = true ∧ OWF (s'.h root) ∧ OWF (s'.h rem) ∧
      (∀ x, x ≠ root → x ≠ rem → s'.h x = s.h x) ∧
      view (s'.h root) = Spec.sqrt (view (s.h root)) (view (s.h op)) ∧
      view (s'.h rem) = Spec.sqrtrem_rem (view (s.h rem)) (view (s.h op)) ∧
      Mpz.toInt (view (s'.h root)) = ((Nat.sqrt (Mpz.toInt (view (s.h op))).toNat : Nat) : Int) ∧
      Mpz.toInt (view (s'.h rem)) = (((Mpz.toInt (view (s.h op))).toNat -
        Nat.sqrt (Mpz.toInt (view (s.h op))).toNat * Nat.sqrt (Mpz.toInt (view (s.h op))).toNat : Nat) : Int) := by
  obtain ⟨s', e, S⟩ := sqrtrem_refines s root rem op hs hq hr ho hpos hne
  have Eq := Spec.sqrt_spec (view (s.h root)) (view (s.h op)) hq.alloc_pos ho.2 hpos
  have Er := Spec.sqrtrem_rem_spec (view (s.h rem)) (view (s.h op)) hr.alloc_pos ho.2 hpos
  exact ⟨s', e, S.safe_val Eq Er⟩

-- B^3 - 1: root into the one-limb variable 0 (fresh block of 2), remainder in place on op (variable 1)
example : (mpz_sqrtrem ex5 0 1 1).map (fun s => (s.ok, s.ALLOC 0, (s.h 0).size, s.ALLOC 1)) = some (true, 2, 2, 3) := by decide
-- root in place on op (temporary copy), remainder into the one-limb variable 0 (grown to op_size = 3 limbs)
example : (mpz_sqrtrem ex5 1 0 1).map (fun s => (s.ok, s.ALLOC 1, (s.h 1).size, s.ALLOC 0)) = some (true, 3, 2, 3) := by decide
-- negative: `_mpz_realloc (rem, op_size - 1)`
example : (sqrtrem 1 ex5 3 0 1).map (fun s => s.ok) = some false := by decide

/-! ## mpz_set_d (mpz/set_d.c) -/

/-- mpz_set_d (mpz/set_d.c), d finite (the C raises the invalid-operation exception for NaN and ±∞), every allocation:
    `_mpz_realloc (r, rn)` with `rn` the limb count __gmp_extract_double returns covers the zero fill of `rn - 2` limbs and the two
    limbs of the double above it (one limb when rn = 1, nothing when |d| < 1: no reallocation for `rn <= 0`); the limbs and the
    size are those of C11's value-level model `Conv.mpz_set_d`, i.e. d truncated towards zero. -/
theorem mpz_set_d_alloc_safe (s : St) (r : Nat) (d : Nat) (hs : s.ok = true) (hr : OWF (s.h r)) (hfin : Conv.expOf d ≠ 2047) :
    ∃ s' z, mpz_set_d s r d = some s' ∧ Conv.mpz_set_d d = some z ∧
      Safe s s' r ⟨(Mpz.grow (view (s.h r)) (Conv.extract_double (Conv.absBits d)).2.2.toNat).alloc, z.size, z.d⟩ ∧
      Mpz.toInt (view (s'.h r)) = (if Conv.sigOf d = 1 then -1 else 1) * ((Conv.dblNum d / 2 ^ 1074 : Nat) : Int) := by
  obtain ⟨s', z, e1, e2, R, hz⟩ := set_d_refines s r d hs hr (finite_of_exp d hfin) (extract_double_limbs d hfin)
  obtain ⟨z', e3, wf, tv⟩ := (Conv.mpz_set_d_eq d).2 hfin
  rw [e2] at e3
  cases e3
  rw [← hz] at R
  obtain ⟨ga1, ga2⟩ := Mpz.grow_alloc (view (s.h r)) (Conv.extract_double (Conv.absBits d)).2.2.toNat
  have hnat : z.size.natAbs = (Conv.extract_double (Conv.absBits d)).2.2.toNat := by rw [hz, Mpz.natAbs_sgn]
  have hWF : Mpz.WF ⟨(Mpz.grow (view (s.h r)) (Conv.extract_double (Conv.absBits d)).2.2.toNat).alloc, z.size, z.d⟩ := by
    have h1 : 1 ≤ (view (s.h r)).alloc := hr.alloc_pos
    refine (Mpz.WF_iff _).mpr ⟨by show 1 ≤ (Mpz.grow (view (s.h r)) (Conv.extract_double (Conv.absBits d)).2.2.toNat).alloc; omega,
      by show z.size.natAbs ≤ (Mpz.grow (view (s.h r)) (Conv.extract_double (Conv.absBits d)).2.2.toNat).alloc; omega,
      wf.1, wf.2.1, ?_⟩
    by_cases hd : z.d = []
    · rw [hd]; simp
    · exact wf.2.2 hd
  exact ⟨s', z, e1, e2, R.safe_val hWF (by rw [← tv]; rfl)⟩

-- 2^64 (bits 0x43F0…) into a one-limb variable: block grown to rn = 2 limbs; -1.5 → -1; 2^-1022·… (|d| < 1) → 0 without realloc
example : (mpz_set_d ex5 0 0x43F0000000000000).map (fun s => (s.ok, view (s.h 0))) = some (true, ⟨2, 2, [0, 1]⟩) := by decide
example : (mpz_set_d ex5 1 0xBFF8000000000000).map (fun s => (s.ok, view (s.h 1))) = some (true, ⟨3, -1, [1]⟩) := by decide
example : (mpz_set_d ex5 0 0x000FFFFFFFFFFFFF).map (fun s => (s.ok, view (s.h 0))) = some (true, ⟨1, 0, []⟩) := by decide
example : mpz_set_d ex5 0 0x7FF8000000000000 = none := by decide
-- 2^200: zero fill of two limbs below the two limbs of the double
example : (mpz_set_d ex5 0 0x4C70000000000000).map (fun s => (s.ok, view (s.h 0))) = some (true, ⟨4, 4, [0, 0, 0, 256]⟩) := by decide
-- negative: `_mpz_realloc (r, rn - 1)`
example : (set_d 1 ex5 0 0x43F0000000000000).map (fun s => s.ok) = some false := by decide

/-! ## mpq_inv (mpq/inv.c): an mpq_t is its two mpz_t fields -/

/-- mpq_inv (mpq/inv.c), numerator ≠ 0 (the C raises DIVIDE_BY_ZERO otherwise), dest = (dn, dd), src = (sn, sd) either the same
    variable or two variables with four distinct fields: in place the two blocks are exchanged and only the size fields are
    rewritten; otherwise `_mpz_realloc (num (dest), |den_size|)` and `_mpz_realloc (den (dest), num_size)` — issued AFTER the new
    sizes have been stored in both fields, which `_mpz_realloc` tolerates because the new block is at least that large — cover
    the two MPN_COPYs.  Both fields are well formed afterwards, no other variable is touched, the new numerator holds the limbs
    of the old denominator with the sign of the old numerator, the new denominator the limbs of the old numerator. -/
theorem mpq_inv_alloc_safe (s : St) (dn dd sn sd : Nat) (hs : s.ok = true)
    (hdn : OWF (s.h dn)) (hdd : OWF (s.h dd)) (hsn : OWF (s.h sn)) (hsd : OWF (s.h sd)) (hn0 : (s.h sn).size ≠ 0)
    (hfields : dn ≠ dd)
    (hal : (dn = sn ∧ dd = sd) ∨ (dn ≠ sn ∧ dn ≠ sd ∧ dd ≠ sn ∧ dd ≠ sd)) :
    ∃ s', mpq_inv s dn dd sn sd = some s' ∧ s'.ok = true ∧ OWF (s'.h dn) ∧ OWF (s'.h dd) ∧
      (∀ x, x ≠ dn → x ≠ dd → s'.h x = s.h x) ∧
      (view (s'.h dn)).size = invNum (s.h sn).size (s.h sd).size ∧ (view (s'.h dn)).d = (view (s.h sd)).d ∧
      (view (s'.h dd)).size = invDen (s.h sn).size ∧ (view (s'.h dd)).d = (view (s.h sn)).d := by
  have hfn := view_fit hsn
  have hfd := view_fit hsd
  rcases hal with ⟨e1, e2⟩ | ⟨h2, h3, h4, h5⟩
  · subst e1 e2
    obtain ⟨s', e, S⟩ := mpq_inv_inplace s dn dd hs hdn hdd hn0 hfields
    refine ⟨s', e, S.ok, ⟨S.bq, ?_⟩, ⟨S.br, ?_⟩, S.frame, by rw [S.vq], by rw [S.vq], by rw [S.vr], by rw [S.vr]⟩
    · rw [S.vq]; exact (Mpz.resize_spec _ _ _ hdd.2 (natAbs_invNum _ _) hdd.alloc_pos hfd).1
    · rw [S.vr]; exact (Mpz.resize_spec _ _ _ hdn.2 (natAbs_invDen _) hdn.alloc_pos hfn).1
  · obtain ⟨s', e, S⟩ := mpq_inv_distinct s dn dd sn sd hs hdn hdd hsn hsd hn0 hfields h2 h3 h4 h5
    obtain ⟨g1, g2⟩ := Mpz.grow_alloc (view (s.h dn)) (s.h sd).size.natAbs
    obtain ⟨g3, g4⟩ := Mpz.grow_alloc (view (s.h dd)) (s.h sn).size.natAbs
    have a1 : 1 ≤ (view (s.h dn)).alloc := hdn.alloc_pos
    have a2 : 1 ≤ (view (s.h dd)).alloc := hdd.alloc_pos
    refine ⟨s', e, S.ok, ⟨S.bq, ?_⟩, ⟨S.br, ?_⟩, S.frame, by rw [S.vq], by rw [S.vq], by rw [S.vr], by rw [S.vr]⟩
    · rw [S.vq]; exact (Mpz.resize_spec _ _ _ hsd.2 (natAbs_invNum _ _) (by omega) g1).1
    · rw [S.vr]; exact (Mpz.resize_spec _ _ _ hsn.2 (natAbs_invDen _) (by omega) g3).1

/-- heap for the mpq examples: dest = (0, 1) = 5/3 in one-limb blocks, src = (2, 3) = -(B^2-1)/(B^3-1) in exact blocks -/
def exq : St := ⟨fun i => if i = 0 then ⟨1, 0, ⟨1, [5]⟩⟩ else if i = 1 then ⟨1, 0, ⟨1, [3]⟩⟩
                  else if i = 2 then ⟨-2, 0, ⟨2, [B - 1, B - 1]⟩⟩ else ⟨3, 0, ⟨3, [B - 1, B - 1, B - 1]⟩⟩, true⟩

-- into another variable: both fields grow (1 → 3 and 1 → 2 limbs), the sign moves to the numerator
example : (mpq_inv exq 0 1 2 3).map (fun s => (s.ok, view (s.h 0), view (s.h 1))) =
    some (true, ⟨3, -3, [B - 1, B - 1, B - 1]⟩, ⟨2, 2, [B - 1, B - 1]⟩) := by decide
-- in place: the blocks are exchanged (allocations 2 and 3 swap)
example : (mpq_inv exq 2 3 2 3).map (fun s => (s.ok, view (s.h 2), view (s.h 3))) =
    some (true, ⟨3, -3, [B - 1, B - 1, B - 1]⟩, ⟨2, 2, [B - 1, B - 1]⟩) := by decide

end Mpir.AllocSafe
