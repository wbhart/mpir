/-
  C07 — the size field M->n of the hgcd matrix.
  The C asserts `M.n <= (n - p - 1)/2` on mpn_hgcd's result (gcdext.c:296, :346; "Constructs matrix M with elements of size
  at most (n+1)/2 − 1", hgcd.c) and, in mpn_hgcd_matrix_mul, that the size field is TIGHT: some entry uses limb M->n − 1.
  Proved here (lemmas: the `NormD` clauses of the step specifications in MpirProofs/Lemmas/HgcdMatrix.lean, HgcdStep.lean
  and HgcdRec.lean, then HgcdNorm.lean and HgcdMulSize.lean), for the models of Mpir/Model/Hgcd.lean:
    * tightness is preserved by mpn_hgcd_matrix_update_q (one-limb and multi-limb quotient with its normalisation loop),
      mpn_hgcd_matrix_mul_1, hgcd_hook, every branch of mpn_gcd_subdiv_step, mpn_hgcd_step and the loops of steps;
    * tightness + the contract of mpn_hgcd (det 1, (a; b) = M·(a'; b'), a', b' ≥ B^(n/2+1)) ⇒ M->n ≤ (n − 1)/2;
    * hence the bound holds outright for mpn_hgcd on at most HGCD_THRESHOLD limbs, and for every size it is reduced to
      tightness of the returned matrix (`HgcdNorm`), i.e. to the claim in mpn_hgcd_matrix_mul's comment that the product
      M·M1 has normalised size ≥ M->n + M1->n − 2 (NOT proved: it needs, through the whole recursion and through mpn_hgcd2,
      that a matrix ending with a power of (1 q; 0 1) leaves a < 2b — "M ends with a quotient … either q or q + 1 is correct").
-/
import MpirProofs.Lemmas.HgcdNorm
import MpirProofs.Lemmas.HgcdMulSize
import MpirProofs.Lemmas.GcdextDc2
namespace Mpir.C07n
open Mpir Mpir.Gcd Mpir.Hgcd Mpir.Gcdext

/-- The size field stays tight: if some entry of M uses limb M->n − 1 (and M fits M->n limbs, det M = 1), the same holds
    after mpn_hgcd_matrix_update_q (any normalised q > 0, either column), after mpn_hgcd_matrix_mul_1 with an mpn_hgcd2
    matrix, and after a complete mpn_hgcd_step (hgcd2 branch or any branch of mpn_gcd_subdiv_step with hgcd_hook). -/
theorem hgcd_matrix_norm_preserved (M : HM) (hf : M.Fits) (hn : 1 ≤ M.n) (hd : det1 M.toM1) (hN : M.NormD) :
    (∀ q col, 0 < q → col ≤ 1 → (updateQ M q col).NormD) ∧
    (∀ m : M1, Msb0 m → det1 m → (matMul1 M m).NormD) ∧
    (∀ n a b s, 2 ≤ n → s < n → 1 ≤ s → a < B ^ n → b < B ^ n → (hgcdStep n a b s M).M.NormD) := by
  obtain ⟨p0, p1⟩ := det1_pos hd
  exact ⟨fun q col hq hc => (updateQ_spec M q col hq hc hf hn).2.2.2.2.2.2 hN p0 p1,
    fun m hm hdm => (matMul1_spec M m hf hm).2.2.2.2.2 hdm hN,
    fun n a b s h2 hs hs0 ha hb => by
      obtain ⟨E, _, _, _, _, hk, _⟩ := hgcdStep_spec n a b s M ⟨hf, hn⟩ h2 hs hs0 ha hb
      exact hk hd hN⟩

-- non-vacuity: the multi-limb branch where the size DROPS by one limb w.r.t. n0 + qn (top limbs zero), still tight
example : updateQ ⟨6, 2, 3, B + 1, 2, B⟩ (B + 5) 0 = ⟨6, 3, 3 + (B + 1) * (B + 5), B + 1, 2 + B * (B + 5), B⟩ ∧
    (updateQ ⟨6, 2, 3, B + 1, 2, B⟩ (B + 5) 0).NormD := by
  unfold HM.NormD; decide +kernel

/-- what remains for `HgcdMn`: the matrix returned by a successful mpn_hgcd has a tight size field -/
def HgcdNorm (thr : Thr) (ns : Nat → Nat) : Prop := HgNorm (hgcd thr ns) thr.reduce

/-- **M->n ≤ (n − 1)/2 from tightness**: for any function meeting the contract of mpn_hgcd on fewer than R limbs, if the
    returned matrix has a tight size field then `ASSERT (M.n <= (n - p - 1)/2)` holds: the entries are below
    B^(n − n/2 − 1) because det M = 1, (a; b) = M·(a'; b') and a', b' ≥ B^(n/2 + 1). -/
theorem mpn_hgcd_mn_of_norm (hg : Nat → Nat → Nat → HM → StepRes) (R : Nat) (hok : HgOk hg R) (hN : HgNorm hg R) :
    HgMn hg R := by
  intro n a b hR hpre hret
  exact mn_le_of_norm hpre (hok n a b hR hpre) hret (hN n a b hR hpre hret)

/-- **mpn_hgcd on at most HGCD_THRESHOLD limbs** (the loop of mpn_hgcd_step calls, no recursion): on success the size field
    of M is tight and M->n ≤ (n − 1)/2 — for all a, b < B^n with one of them using limb n−1, M from mpn_hgcd_matrix_init. -/
theorem mpn_hgcd_mn_base (thr : Thr) (ns : Nat → Nat) (h8 : 8 ≤ thr.hgcd) (n a b : Nat) (hle : n ≤ thr.hgcd) (hR : n < thr.reduce)
    (ha : a < B ^ n) (hb : b < B ^ n) (ht : B ^ (n - 1) ≤ a ∨ B ^ (n - 1) ≤ b) :
    let r := hgcd thr ns n a b (matInit n)
    r.M.NormD ∧ (r.ret ≠ 0 → r.M.n ≤ (n - 1) / 2) := by
  intro r
  have hpre := hpre_matInit n a b ha hb ht
  have hN := hgcd_norm_base thr ns n a b hle hpre
  exact ⟨hN, fun hret => mn_le_of_norm hpre (hgcd_spec thr ns h8 n a b (matInit n) hR hpre) hret hN⟩

-- non-vacuity: 9 limbs below a (small) HGCD_THRESHOLD: success, M->n = 4 = (9 − 1)/2: the bound is attained
example : (hgcd ⟨100, 50, 1000, 2⟩ id 9 (3 ^ 360) (5 ^ 240) (matInit 9)).ret = 6 ∧
    (hgcd ⟨100, 50, 1000, 2⟩ id 9 (3 ^ 360) (5 ^ 240) (matInit 9)).M.n = 4 := by decide +kernel

/-- PARTIAL (full statement: `r.ok = true` without `hN`, and without `hR`; missing: tightness of the size field through
    mpn_hgcd_matrix_mul, see the header, and mpn_hgcd above HGCD_REDUCE_THRESHOLD).
    mpn_gcdext on the divide-and-conquer range: no store leaves the (n+1)-limb cofactor buffers — the C's ASSERTs
    `M.n + un <= ualloc`, `un < ualloc`, `lehmer_un + u1n <= ualloc`, `lehmer_vn + u0n <= ualloc` — given only that the
    matrices returned by mpn_hgcd have a tight size field (the C's own ASSERT in mpn_hgcd_matrix_mul), instead of the
    ASSERT (M.n <= (n - p - 1)/2) assumed by `mpn_gcdext_dc_correct_partial`. -/
theorem mpn_gcdext_dc_ok_of_norm_partial (thr : Thr) (ns : Nat → Nat) (h8 : 8 ≤ thr.hgcd) (dcThr : Nat) (h10 : 10 ≤ dcThr)
    (U V : Nat) (hV0 : 0 < V) (hle : nlimbs V ≤ nlimbs U) (hdc : dcThr ≤ nlimbs V)
    (hR : nlimbs V - nlimbs V / 3 < thr.reduce) (hN : HgcdNorm thr ns) :
    (mpnGcdextS (hgcd thr ns) dcThr U (nlimbs U) V (nlimbs V)).ok = true := by
  have hok := hgOk_hgcd thr ns h8
  exact (mpnGcdextS_dc_spec (hgcd thr ns) thr.reduce dcThr U V hok h10 hV0 hle hdc hR).2.2.2.2.2.2
    (mpn_hgcd_mn_of_norm _ _ hok hN)

example : (mpnGcdextS (hgcd ⟨8, 50, 1000, 2⟩ id) 10 (3 ^ 480) 12 (5 ^ 320) 12).ok = true := by decide +kernel

/-- **The size claim in the comment of mpn_hgcd_matrix_mul**, given balance.  M (det 1, tight size field) reconstructs from
    the state (x, y); M1 (tight) reduces the limbs of (x, y) from p on to (u, v) ≥ T with |u − v| < T (what a successful
    mpn_hgcd returns); the state is balanced w.r.t. the last factor of M: if column 0 of M dominates ("M ends with a power
    of (1 0; 1 1)") then y ≤ K·x, if column 1 dominates then x ≤ K·y, with 8K ≤ B ("either q or q + 1 is a correct
    quotient", K = 2).  Then max(M)·max(M1) ≤ 8K·max(M·M1) — "we can't have M ending with a large power and M1 starting
    with a large power of the same matrix" — and mpn_hgcd_matrix_mul's three conditional decrements leave a TIGHT size
    field: its final `ASSERT ((M->p[0][0][n] | …) > 0)` holds, i.e. normalised size ≥ M->n + M1->n − 2.
    (Not yet connected to `HgcdNorm`: the balance hypothesis has to be carried through mpn_hgcd2 and the recursion.) -/
theorem hgcd_matrix_mul_tight_of_balance (thr : Nat) (M M1 : HM) (x y u v p T K : Nat) (hf : M.Fits) (hf1 : M1.Fits)
    (hn : 1 ≤ M.n) (hn1 : 1 ≤ M1.n) (hd : det1 M.toM1) (hN : M.NormD) (hN1 : M1.NormD) (hK : 1 ≤ K) (hKB : 8 * K ≤ B)
    (hrel : MRel M1.toM1 u v (x / B ^ p) (y / B ^ p)) (hu : T ≤ u) (hv : T ≤ v) (hT : 0 < T) (hdiff : absDiff u v < T)
    (hx : B ^ p ≤ x) (hy : B ^ p ≤ y)
    (hb0 : M.e01 ≤ M.e00 ∧ M.e11 ≤ M.e10 → y ≤ K * x) (hb1 : M.e00 ≤ M.e01 ∧ M.e10 ≤ M.e11 → x ≤ K * y) :
    mxM M.toM1 * mxM M1.toM1 ≤ 8 * K * mxM (mmul M.toM1 M1.toM1) ∧ (matMul thr M M1).NormD := by
  have hc := mul_size_claim M.toM1 M1.toM1 x y u v (B ^ p) T K (pow_pos B_pos _) hK hd hrel hu hv hT hdiff hx hy hb0 hb1
  exact ⟨hc, matMul_norm thr M M1 hf hf1 hn hn1 hd hrel.1 hN hN1 (le_trans hc (Nat.mul_le_mul_right _ hKB))⟩

-- non-vacuity: M = (2 1; 1 1) (column 0 dominates), state (5, 3), M1 = (1 1; 0 1) reducing it to (2, 3), K = 1
example : MRel (⟨9, 1, 1, 1, 0, 1⟩ : HM).toM1 2 3 (5 / B ^ 0) (3 / B ^ 0) ∧ absDiff 2 3 < 2 ∧
    matMul 1 ⟨9, 1, 2, 1, 1, 1⟩ ⟨9, 1, 1, 1, 0, 1⟩ = ⟨9, 1, 2, 3, 1, 2⟩ := by
  unfold MRel HM.toM1 absDiff; decide +kernel

end Mpir.C07n
