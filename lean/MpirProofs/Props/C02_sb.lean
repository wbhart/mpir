/-
  C02 (multi-limb layer) — schoolbook division: mpn_sb_div_qr returns the exact Euclidean quotient and
  remainder for ALL lengths (dn ≥ 3, nn ≥ dn) and ALL limb contents with a normalised divisor.
  Property theorems only; helper lemmas live in MpirProofs/Lemmas/SbDiv.lean.
  The theorems are about the executable limb-for-limb model Mpir/Model/SbDiv.lean of mpn/generic/sb_div_qr.c,
  which the correspondence check runs against the real function (op `mpn_sb_div_qr`) on every run.
  Ingredients: udiv_qr_3by2 / invert_pi1 (C02_word), submul_1, add_n, sub_n, cmp (Kernels).
-/
import MpirProofs.Lemmas.SbDiv
namespace Mpir.SbDiv
open Mpir Mpir.DivWord

/-- mpn_sb_div_qr (qp, np, nn, dp, dn, dinv), sb_div_qr.c:36-107.  Preconditions = the C's ASSERTs
    (dn > 2, nn ≥ dn, high bit of dp[dn-1] set) and dinv = mpir_invert_pi1 (dp[dn-1], dp[dn-2]).
    The nn-dn quotient limbs q, the returned high quotient limb qh and the dn limbs r left in np satisfy
    n = (qh·B^(nn-dn) + q)·d + r with r < d; qh is 0 or 1; all outputs are proper limb vectors of the
    documented lengths.  Covers every path: initial compare/subtract, the `n1 == d1 && np[1] == d0` branch
    (q = B-1), the 3/2 estimate with the borrow out of submul_1 / sub_333, and the single add-back. -/
theorem sb_div_qr_val (n d : List Nat) (dinv : Nat) (hdn : 3 ≤ d.length) (hnn : d.length ≤ n.length)
    (hnorm : B / 2 ≤ d.getD (d.length - 1) 0) (hn : Limbs n) (hd : Limbs d)
    (hdinv : dinv = invert_pi1 (d.getD (d.length - 1) 0) (d.getD (d.length - 2) 0)) :
    let (q, r, qh) := sb_div_qr n d dinv
    val n = (qh * B ^ (n.length - d.length) + val q) * val d + val r ∧ val r < val d ∧ qh ≤ 1 ∧
      Limbs q ∧ q.length = n.length - d.length ∧ Limbs r ∧ r.length = d.length := by
  obtain ⟨q, r, qh, e, h⟩ := sb_div_qr_correct n d dinv hdn hnn hnorm hn hd hdinv
  rw [e]; exact h

/-- the same as floor division: qh·B^(nn-dn) + q = ⌊n/d⌋ and r = n mod d -/
theorem sb_div_qr_floor (n d : List Nat) (dinv : Nat) (hdn : 3 ≤ d.length) (hnn : d.length ≤ n.length)
    (hnorm : B / 2 ≤ d.getD (d.length - 1) 0) (hn : Limbs n) (hd : Limbs d)
    (hdinv : dinv = invert_pi1 (d.getD (d.length - 1) 0) (d.getD (d.length - 2) 0)) :
    (sb_div_qr n d dinv).2.2 * B ^ (n.length - d.length) + val (sb_div_qr n d dinv).1 = val n / val d ∧
      val (sb_div_qr n d dinv).2.1 = val n % val d := by
  obtain ⟨q, r, qh, e, h, hr, _⟩ := sb_div_qr_correct n d dinv hdn hnn hnorm hn hd hdinv
  rw [e]
  have := divmod_of_eq (val n) (val d) _ _ h hr
  exact ⟨this.1.symm, this.2.symm⟩

/-- the limb-level model returns exactly the value-level contract `DivZ.mpnDivQr 3 0` (⌊n/d⌋ split into nn-dn limbs
    and qh, n mod d on dn limbs) that the driver's handler compares it with: the handler's `!modelspec` marker is
    unreachable on the domain of the function -/
theorem sb_div_qr_contract (n d : List Nat) (dinv : Nat) (hdn : 3 ≤ d.length) (hnn : d.length ≤ n.length)
    (hnorm : B / 2 ≤ d.getD (d.length - 1) 0) (hn : Limbs n) (hd : Limbs d)
    (hdinv : dinv = invert_pi1 (d.getD (d.length - 1) 0) (d.getD (d.length - 2) 0)) :
    DivZ.mpnDivQr 3 0 n d = some (sb_div_qr n d dinv) :=
  sb_div_qr_eq_spec n d dinv hdn hnn hnorm hn hd hdinv

/-! Non-vacuity (values cross-checked with the real function by the directed ops of tools/props/c02_sb.py). -/

-- ordinary step, no correction: the 3/2 estimate is the quotient limb
example : sb_div_qr [0xa, 0xb, 0xc, 0xd] [1, 2, 0x8000000000000003] (invert_pi1 0x8000000000000003 2)
    = ([0x19], [0xfffffffffffffff1, 0xffffffffffffffd8, 0x7fffffffffffffc0], 0) := by decide

-- add-back: the estimate 2^63 is one too large (borrow out of submul_1 exceeds the 3/2 remainder), q-- and d is added back once
example : (udiv_qr_3by2 0x4000000000000000 0 0 0x8000000000000000 0 (invert_pi1 0x8000000000000000 0)).1
      = 0x8000000000000000 ∧
    sb_div_qr [0, 0, 0, 0x4000000000000000] [0xffffffffffffffff, 0, 0x8000000000000000] (invert_pi1 0x8000000000000000 0)
      = ([0x7fffffffffffffff], [0x7fffffffffffffff, 0x8000000000000001, 0x7fffffffffffffff], 0) := by decide

-- the `n1 == d1 && np[1] == d0` branch: q = B-1
example : sb_div_qr [9, 3, 7, 0x8000000000000000] [5, 7, 0x8000000000000000] (invert_pi1 0x8000000000000000 7)
    = ([0xffffffffffffffff], [0xe, 5, 0x8000000000000000], 0) := by decide

-- qh = 1 (initial subtraction) and four loop iterations, dn = 4
example : sb_div_qr [1, 2, 3, 4, 5, 0xffffffffffffffff, 0xffffffffffffffff, 0xffffffffffffffff]
      [0xffffffffffffffff, 0xfffffffffffffffe, 7, 0x8000000000000001] (invert_pi1 0x8000000000000001 7)
    = ([0xa1, 0x72, 0xffffffffffffffe8, 0xfffffffffffffffb],
       [0xa2, 0x115, 0xfffffffffffffb55, 0x7ffffffffffffbb6], 1) := by decide

end Mpir.SbDiv
