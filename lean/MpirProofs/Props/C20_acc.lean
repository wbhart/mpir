/-
  C20 (part) — the accessor sub-objects of mpq_class: `q.get_num()` / `q.get_den()` (mpirxx.h:1967-1974) are
  `mpz_class &` references INTO the mpq object, usable wherever an mpz_class is.

  Model: the leaves `E.zn i` / `E.zd i` of `Mpir.Cxx.E` (Model/Cxx.lean).  Specification side: `evalTmp` reads a component of
  the (canonical) mpq store.  Implementation side: `evalZ` / `evalQ` hand the field object `.num i` / `.den i` to the function
  objects exactly as they hand an `mpz_class` variable (pointer comparison `p != leaf` included), and
  `__gmp_set_expr(mpq_ptr, const __gmp_expr<mpz_t,T>&)` (`convZ`) evaluates the integer expression into the numerator FIRST,
  from the old state, then sets the denominator to 1 — so `q = q.get_den() * 2` on q = 3/7 is 14.

  `expr_eval_correct_acc`      `target = e` for every tree with accessor leaves, every target (mpz, mpq) and every alias position,
                               including target = the mpq object whose components occur in `e` (the statement of
                               `expr_eval_correct_partial`, whose induction now runs over the two new leaves as well; `cmp_eval_correct_partial`
                               and `sgn_eval_correct_partial` likewise cover them).
  `acc_assign_order`           the same on the RAW fields for an mpz-typed tree into an mpq object, no canonicity assumed: the numerator ends with
                               the value computed from the old fields, the denominator with 1.
  `acc_canonicalize_correct`   `q.get_X() = e; …; q.canonicalize();` (any number of steps, either field, compound `op=` included, each right-hand
                               side reading the fields written before) = the temporaries semantics statement after statement, then n/d.
  `acc_set_num_den`            the two-step instance: `q.get_num() = e1; q.get_den() = e2; q.canonicalize();` holds the rational n/d.
  `init2_correct`              `mpq_class t(e1, e2); t.canonicalize();` holds n/d; nothing else changes.
  Negative example: the model of the seeded order (`convZSeeded`: denominator := 1 first) gives 2 for `q = q.get_den() * 2` on 3/7.
-/
import MpirProofs.Lemmas.CxxAcc
import MpirProofs.Lemmas.CxxCmp
namespace Mpir.Cxx

/-- **expr_eval_correct for trees with accessor leaves.**  `e` any well-typed tree over `mpz_class` / `mpq_class` variables, the
    accessor sub-objects `q_j.get_num()` / `q_j.get_den()` (`E.zn j` / `E.zd j`, `j < K` by `hq`, `q_j` canonical by `hc`),
    sub-expressions and built-ins; the target an `mpz_class` or `mpq_class` variable at ANY alias position — in particular
    `t = .q` with `E.zn i` / `E.zd i` inside `e`: the target is the object whose own components the expression reads.
    As evaluated by mpirxx.h's templates, for both answers of `__builtin_constant_p`: an exception iff evaluation into
    temporaries raises one, otherwise the target holds the (converted, canonical) value `evalTmp` gives — every accessor leaf
    read from the state BEFORE the statement — and every other variable is unchanged. -/
theorem expr_eval_correct_acc (cst : Bool) (K : Nat) (t : Ty) (i : Nat) (e : E) (h : Heap)
    (hwt : e.wt = true) (hi : i < K) (hz : e.zbelow K) (hq : e.qbelow K) (hc : e.canon h) :
    match evalTmp h.abs e with
    | none => execAssign cst K t i e h = none
    | some v => ∃ h', execAssign cst K t i e h = some h' ∧
        (∀ j, j < K → h'.abs.z j = (assign h.abs t i v).z j) ∧
        (∀ j, j < K → h'.abs.q j = (assign h.abs t i v).q j) ∧
        (∀ j, j < K → Canon h j → Canon h' j) ∧ (t = .q → Canon h' i) :=
  execAssign_correct cst K t i e h hwt hi hz hq hc

-- non-vacuity: q0 = 3/7.  `q0 = q0.get_den() * 2` is 14/1 (the expression reads the OLD denominator);
-- `q0 = q0.get_den() - q0.get_num() * q1.get_den()` with q1 = 1/2 is 1/1; `q0 = q1 + q0.get_den()` is 15/2;
-- `z1 = q0.get_num() + q2.get_den()` with q2 = 5/3 is 6.  The specification gives the same: `evalTmp` reads 7 for `zd 0`.
def exHeap : Heap := ⟨fun l => match l with
  | .v 0 => 1 | .v 1 => 2 | .num 0 => 3 | .den 0 => 7 | .num 1 => 1 | .den 1 => 2 | .num 2 => 5 | .den 2 => 3 | _ => 1⟩
example : (execAssign false 4 .q 0 (.binR .mul (.zd 0) (.si 2)) exHeap).map (fun h => (h (.num 0), h (.den 0))) = some (14, 1) := by decide
example : (execAssign true 4 .q 0 (.bin .sub (.zd 0) (.bin .mul (.zn 0) (.zd 1))) exHeap).map (fun h => (h (.num 0), h (.den 0))) = some (1, 1) := by
  decide
example : (execAssign false 4 .q 0 (.bin .add (.qv 1) (.zd 0)) exHeap).map (fun h => (h (.num 0), h (.den 0))) = some (15, 2) := by decide +kernel
example : (execAssign false 4 .z 1 (.bin .add (.zn 0) (.zd 2)) exHeap).map (· (.v 1)) = some 6 := by decide
example : evalTmp exHeap.abs (.binR .mul (.zd 0) (.si 2)) = some (.z 14) := by decide +kernel

/-- **The order of `__gmp_set_expr(mpq_ptr, const __gmp_expr<mpz_t,T>&)`, on the raw fields.**  `q_p = e` for an mpz-typed tree `e`
    (which may read `q_p.get_num()` / `q_p.get_den()`; no canonicity of any object is assumed): the numerator of `q_p` ends with the
    value of `e` evaluated into temporaries from the fields as they were BEFORE the statement, the denominator with 1, every other
    pre-existing mpz_t object (variables below `K`, all fields of the other mpq objects) is unchanged; an exception iff the
    temporaries semantics raises one. -/
theorem acc_assign_order (cst : Bool) (K p : Nat) (e : E) (h : Heap)
    (hty : e.ty = .z) (hwt : e.wt = true) (hz : e.zbelow K) :
    match evalTmpZ h.get e with
    | none => execAssign cst K .q p e h = none
    | some x => ∃ h', execAssign cst K .q p e h = some h' ∧ h' (.num p) = x ∧ h' (.den p) = 1 ∧
        ∀ l : ZLoc, l.below K → l ≠ .num p → l ≠ .den p → h' l = h l :=
  evalQ_z_fields cst e hty hwt K p h hz

-- non-vacuity, on a NON-canonical object (6/14): `q0 = q0.get_den() + q0.get_num()` gives 20/1
example : (execAssign false 4 .q 0 (.bin .add (.zd 0) (.zn 0)) ⟨fun l => match l with | .num 0 => 6 | .den 0 => 14 | _ => 1⟩).map
    (fun h => (h (.num 0), h (.den 0))) = some (20, 1) := by decide

-- NEGATIVE example: the seeded order (denominator := 1 before the integer expression is evaluated, `convZSeeded`) reads the
-- overwritten denominator: `q0 = q0.get_den() * 2` on 3/7 gives 2, not 14 — it is not what `convZ` (mpirxx.h) does, and
-- `acc_assign_order` fails for it.
example : (convZSeeded false 4 0 (.binR .mul (.zd 0) (.si 2)) exHeap).map (fun h => (h (.num 0), h (.den 0))) = some (2, 1) := by decide
example : (convZ false 4 0 (.binR .mul (.zd 0) (.si 2)) exHeap).map (fun h => (h (.num 0), h (.den 0))) = some (14, 1) := by decide
example : convZSeeded false 4 0 (.binR .mul (.zd 0) (.si 2)) exHeap ≠ convZ false 4 0 (.binR .mul (.zd 0) (.si 2)) exHeap := by
  intro e
  have := congrArg (fun r => r.map (fun h => h (.num 0))) e
  revert this; decide

/-- **Assignment through the accessors, then `canonicalize()`.**  `q_i.get_X1() = e1; q_i.get_X2() = e2; …; q_i.canonicalize();` —
    any number of steps, either field in any order, a compound `q_i.get_X() op= r` being the step with the tree `get_X() op r`
    mpirxx.h builds; every `e` an mpz-typed well-typed tree over variables below `K`, accessors of any object (also of `q_i`,
    whose fields are no canonical pair between the first step and `canonicalize()`) and built-ins.  As executed by mpirxx.h
    (`mpz_class::operator=` on the field object: the expression templates with the field as destination; both answers of
    `__builtin_constant_p`): an exception iff the statement-after-statement temporaries semantics `accTmp` raises one (a right-hand
    side raising, or a zero denominator at `canonicalize()`), otherwise `q_i` is canonical and holds the rational `n/d` of the
    final raw fields, and every other pre-existing object is unchanged. -/
theorem acc_canonicalize_correct (cst : Bool) (K i : Nat) (steps : List (Bool × E)) (h : Heap)
    (hok : ∀ s ∈ steps, s.2.ty = .z ∧ s.2.wt = true ∧ s.2.zbelow K) :
    match accTmp h (.acc i steps) with
    | none => execAcc cst K i steps h = none
    | some r => ∃ h', execAcc cst K i steps h = some h' ∧ Canon h' i ∧ qval h' i = r ∧
        ∀ l : ZLoc, l.below K → l ≠ .num i → l ≠ .den i → h' l = h l := by
  have H := execAcc_correct cst K i steps h hok
  simp only [accTmp]
  cases hr : accSteps i steps h with
  | none => rw [hr] at H; simpa using H
  | some s' =>
    rw [hr] at H
    simp only [Option.bind_some, canonVal]
    by_cases h0 : s' (.den i) = 0
    · simp only [h0, if_true] at H ⊢; exact H
    · simp only [h0, if_false] at H ⊢; exact H

/-- **`q.get_num() = e1; q.get_den() = e2; q.canonicalize();` is the rational n/d**: `n` the value of `e1` (temporaries semantics
    on the fields before the statement), `d` the value of `e2` on the fields after the first assignment (it reads the NEW
    numerator through `q.get_num()`), an exception iff `e1` or `e2` raises or `d = 0`. -/
theorem acc_set_num_den (cst : Bool) (K i : Nat) (e1 e2 : E) (h : Heap)
    (h1 : e1.ty = .z ∧ e1.wt = true ∧ e1.zbelow K) (h2 : e2.ty = .z ∧ e2.wt = true ∧ e2.zbelow K) :
    match evalTmpZ h.get e1 with
    | none => execAcc cst K i [(false, e1), (true, e2)] h = none
    | some n =>
      match evalTmpZ (h.set (.num i) n).get e2 with
      | none => execAcc cst K i [(false, e1), (true, e2)] h = none
      | some d =>
        if d = 0 then execAcc cst K i [(false, e1), (true, e2)] h = none
        else ∃ h', execAcc cst K i [(false, e1), (true, e2)] h = some h' ∧ Canon h' i ∧ qval h' i = Rat.divInt n d ∧
          ∀ l : ZLoc, l.below K → l ≠ .num i → l ≠ .den i → h' l = h l := by
  have H := acc_canonicalize_correct cst K i [(false, e1), (true, e2)] h (by
    intro s hs; simp only [List.mem_cons, List.not_mem_nil, or_false] at hs
    rcases hs with rfl | rfl
    · exact h1
    · exact h2)
  simp only [accTmp, accSteps, fld] at H
  cases hr1 : evalTmpZ h.get e1 with
  | none => rw [hr1] at H; simpa using H
  | some n =>
    rw [hr1] at H; simp only [Option.bind_some, Bool.false_eq_true, if_false] at H
    dsimp only
    cases hr2 : evalTmpZ (h.set (.num i) n).get e2 with
    | none => rw [hr2] at H; simpa using H
    | some d =>
      rw [hr2] at H
      simp only [Option.bind_some, if_true, canonVal, Heap.set_get] at H
      rw [Heap.set_get_ne _ _ _ _ (by simp), Heap.set_get] at H
      by_cases h0 : d = 0
      · simp only [h0, if_true] at H ⊢; exact H
      · simp only [h0, if_false] at H ⊢; exact H

-- non-vacuity (q0 = 3/7): `q0.get_num() = q0.get_den() * 2; q0.get_den() = q0.get_num() + 7; q0.canonicalize();` is 14/21 = 2/3
-- (the second right-hand side reads the new numerator); `q0.get_den() -= q0.get_den(); q0.canonicalize();` raises;
-- `q0.get_num() *= q0.get_den(); q0.get_den() = -3` gives -7/1.
example : (execAcc false 4 0 [(false, .binR .mul (.zd 0) (.si 2)), (true, .binR .add (.zn 0) (.si 7))] exHeap).map
    (fun h => (h (.num 0), h (.den 0))) = some (2, 3) := by decide +kernel
example : accTmp exHeap (.acc 0 [(false, .binR .mul (.zd 0) (.si 2)), (true, .binR .add (.zn 0) (.si 7))]) = some (2 / 3 : Rat) := by
  decide +kernel
example : execAcc true 4 0 [(true, .bin .sub (.zd 0) (.zd 0))] exHeap = none := by decide +kernel
example : (execAcc false 4 0 [(false, .bin .mul (.zn 0) (.zd 0)), (true, .un .neg (.zv 9))] ⟨fun l => match l with
    | .num 0 => 3 | .den 0 => 7 | .v 9 => 3 | _ => 1⟩).map (fun h => (h (.num 0), h (.den 0))) = some (-7, 1) := by decide +kernel

/-- **`mpq_class t(e1, e2); t.canonicalize();`** (mpirxx.h:1881; `e1`, `e2` mpz-typed trees over variables below `K`, accessors of
    the existing mpq objects — `hqd`; — and built-ins): the new object (mpq object `K`) is canonical and holds `n/d`, the values of
    the two expressions evaluated into temporaries; an exception iff one of them raises or `d = 0`; no existing object changes. -/
theorem init2_correct (cst : Bool) (K : Nat) (n d : E) (h : Heap)
    (hn : n.ty = .z ∧ n.wt = true ∧ n.zbelow K) (hd : d.ty = .z ∧ d.wt = true ∧ d.zbelow K) (hqd : d.qbelow K) :
    match accTmp h (.init2 n d) with
    | none => execInit2 cst K n d h = none
    | some r => ∃ h', execInit2 cst K n d h = some h' ∧ Canon h' K ∧ qval h' K = r ∧ ∀ l : ZLoc, l.belowQ K → h' l = h l := by
  have H := execInit2_correct cst K n d h hn hd hqd
  simp only [accTmp]
  cases hrn : evalTmpZ h.get n with
  | none => rw [hrn] at H; simpa using H
  | some x =>
    cases hrd : evalTmpZ h.get d with
    | none => rw [hrn, hrd] at H; simpa using H
    | some y =>
      rw [hrn, hrd] at H
      simp only [Option.bind_some, canonVal]
      by_cases h0 : y = 0
      · simp only [h0, if_true] at H ⊢; exact H
      · simp only [h0, if_false] at H ⊢; exact H

-- non-vacuity (q0 = 3/7, z1 = 2): `mpq_class t(q0.get_den() * z1, q0.get_num() + q0.get_num());` canonicalised is 14/6 = 7/3
example : (execInit2 false 4 (.bin .mul (.zd 0) (.zv 1)) (.bin .add (.zn 0) (.zn 0)) exHeap).map (fun h => (h (.num 4), h (.den 4))) = some (7, 3) := by
  decide +kernel

end Mpir.Cxx
