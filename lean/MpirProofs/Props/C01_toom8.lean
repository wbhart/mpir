/-
  C01 (algorithm layer, Toom-8.5 / Toom-8 squaring) — property theorems only; lemmas are in
  MpirProofs/Lemmas/{Toom8, Toom8Main, Toom8Dispatch}.lean.

  What the theorems are about: `Mpir.Toom8.*`, the hand-written value-level model of mpn_toom8h_mul, mpn_toom8_sqr_n,
  the four evaluation helpers (+ the degree-3 one), toom_couple_handling and mpn_toom_interpolate_16pts
  (Mpir/Model/Toom8.lean), run against the real entry points on every check (ops `mpn_toom8h_mul`, `mpn_toom8_sqr_n`
  answer `!model` when the model does not produce the product; ops `toom_eval_*`, `toom_couple`, `toom_interp16`
  compare the helpers' outputs limb for limb).
-/
import MpirProofs.Lemmas.Toom8Main
import MpirProofs.Lemmas.Toom8Dispatch

namespace Mpir.Toom8
open Mpir.MulAlgo (Interp)

/-- mpn_toom_eval_pm1 / _dgr3_pm1 / _pm2 / _pm2exp / _pm2rexp, for EVERY number of blocks and ALL block values:
    the first output is x(t) (resp. t^k·x(1/t) for the `rexp` helper), the second output with the returned flag read
    as a sign is x(−t) (resp. t^k·x(−1/t)) — including the quirk of mpn_toom_eval_pm2, whose flag for odd degree is
    "odd part ≥ even part" (set also when the value is 0).  `evalH x y` is the homogeneous evaluation
    Σ x_i x^i y^(k−i). -/
theorem toom_eval_helpers_exact (xs : List Nat) (sh : Nat) :
    EvalSpec (evalPm1 xs) (evalH 1 1 (toZ xs)) (evalH (-1) 1 (toZ xs)) ∧
    (xs.length = 4 → EvalSpec (evalDgr3Pm1 xs) (evalH 1 1 (toZ xs)) (evalH (-1) 1 (toZ xs))) ∧
    EvalSpec (evalPm2 xs) (evalH 2 1 (toZ xs)) (evalH (-2) 1 (toZ xs)) ∧
    EvalSpec (evalPm2exp xs sh) (evalH (2 ^ sh) 1 (toZ xs)) (evalH (-(2 ^ sh)) 1 (toZ xs)) ∧
    (xs ≠ [] → EvalSpec (evalPm2rexp xs sh) (evalH 1 (2 ^ sh) (toZ xs)) (evalH (-1) (2 ^ sh) (toZ xs))) :=
  ⟨evalPm1_spec xs, evalDgr3Pm1_spec xs, evalPm2_spec xs, evalPm2exp_spec xs sh, evalPm2rexp_spec xs sh⟩

-- non-vacuity: x = 1 + 2t + 3t² + 50t³: x(2) = 417, x(−2) = −391 (flag set, magnitude 391); odd degree, value 0 at −2:
-- x = 2 + t + 0t² + 0t³ … the flag is set although the value is 0 (the quirk)
example : evalPm2 [1, 2, 3, 50] = ⟨417, 391, true⟩ := by decide
example : evalPm2 [2, 1, 0, 0] = ⟨4, 0, true⟩ := by decide
example : evalPm2exp [2, 1, 0, 0] 1 = ⟨4, 0, false⟩ := by decide
example : evalPm2rexp [1, 2, 3, 4, 5] 3 = ⟨4096 + 1024 + 192 + 32 + 5, 4096 - 1024 + 192 - 32 + 5, false⟩ := by decide
example : evalPm1 [1, 9, 3, 0, 2] = ⟨15, 3, true⟩ := by decide

/-- toom_couple_handling.c:37-70: from f(x) and |f(−x)| with its sign flag the routine leaves
    ((f(x) − f(−x))/2 >> ps) + W·((f(x) + f(−x))/2 >> ns). -/
theorem toom_couple_handling_val (pp np : Int) (nsign : Bool) (W : Int) (ps ns : Nat) :
    (coupleHandling pp np nsign W ps ns).val = coupleVal pp (if nsign = true then -np else np) W ps ns :=
  coupleHandling_val pp np nsign W ps ns

-- f = 1 + 2x + 3x² at ±2: f(2) = 17, f(−2) = 9: odd part 4 (>> 1 = 2), even part 13 (>> 2 = 3)
example : (coupleHandling 17 9 false 1000 1 2).val = 2 + 1000 * 3 := by decide
example : (coupleHandling 17 9 false 1000 1 2).halved = 26 := by decide

/-- mpn_toom_interpolate_16pts (toom_interpolate_16pts.c:273-445), for ALL integer coefficients c0 … c15
    (g_j = c_{2j+1} + W·c_{2j+2} are the pairs the routine finally adds at pp + (2j+1)·n), ALL W and both values of
    `half`: the C's sequence — removal of the leading and constant coefficients (`DO_mpn_sublsh_n` by 14, 28, 42,
    `DO_mpn_subrsh` by 2, 4, 6), the three sum/difference butterflies, the `submul_1`/`addmul_1` by 1028, 1300,
    1052688, 12567555, 4095, 240, 400, 1428, 112896, 15181425, 3969, 900, the shifts by 7, 13, 19, the exact divisions
    by 255·188513325, 2835·64, 255·4, 255·182712915, 42525·16, 9·16 and the three final halvings — returns c0, g0 … g6,
    c15; every division is applied to a multiple of its divisor; the three values shifted right logically are
    2·g1, 2·g2, 2·g0 (non-negative for products of non-negative operands). -/
theorem toom_interp16_exact (c0 c15 g0 g1 g2 g3 g4 g5 g6 W : Int) (half : Bool) (hh : half = false → c15 = 0) :
    let r := interp16 c0
      (68719476736 * g0 + 1073741824 * g1 + 16777216 * g2 + 262144 * g3 + 4096 * g4 + 64 * g5 + g6 + c15 / 2 ^ 6 + W * (c0 * 2 ^ 42))
      (4096 * g0 + 1024 * g1 + 256 * g2 + 64 * g3 + 16 * g4 + 4 * g5 + g6 + c15 / 2 ^ 2 + W * (c0 * 2 ^ 14))
      (16777216 * g0 + 1048576 * g1 + 65536 * g2 + 4096 * g3 + 256 * g4 + 16 * g5 + g6 + c15 / 2 ^ 4 + W * (c0 * 2 ^ 28))
      (g0 + g1 + g2 + g3 + g4 + g5 + g6 + c15 + W * c0)
      (g0 + 4 * g1 + 16 * g2 + 64 * g3 + 256 * g4 + 1024 * g5 + 4096 * g6 + 16384 * c15 + W * (c0 / 2 ^ 2))
      (g0 + 16 * g1 + 256 * g2 + 4096 * g3 + 65536 * g4 + 1048576 * g5 + 16777216 * g6 + 268435456 * c15 + W * (c0 / 2 ^ 4))
      (g0 + 64 * g1 + 4096 * g2 + 262144 * g3 + 16777216 * g4 + 1073741824 * g5 + 68719476736 * g6 + 4398046511104 * c15 + W * (c0 / 2 ^ 6))
      c15 W half
    r.coeffs = [c0, g0, g1, g2, g3, g4, g5, g6, c15] ∧ (∀ p ∈ r.divs, p.2 ∣ p.1) ∧
    (0 ≤ g0 → 0 ≤ g1 → 0 ≤ g2 → ∀ p ∈ r.shifts, 0 ≤ p.1) :=
  interp16_spec c0 c15 g0 g1 g2 g3 g4 g5 g6 W half hh

-- non-vacuity: c_i = i + 1 (i ≤ 15), W = 1000: g_j = (2j+2) + 1000·(2j+3)
example : (interp16 1 4609835332865958 36417562 324546816487 64072 78613962 270592483962 1116281604067002 16 1000 true).coeffs
    = [1, 3002, 5004, 7006, 9008, 11010, 13012, 15014, 16] := by decide
example : ∀ p ∈ (interp16 1 4609835332865958 36417562 324546816487 64072 78613962 270592483962 1116281604067002 16 1000 true).divs,
    p.2 ∣ p.1 := by decide

/-- the `BINVERT_*` constants of toom_interpolate_16pts.c:107-135 (64-bit limbs) are the inverses modulo 2^64 of the
    odd parts of the divisors. -/
theorem toom_interp16_binvert :
    BINVERT_9 * 9 % B = 1 ∧ BINVERT_255 * 255 % B = 1 ∧ BINVERT_2835 * 2835 % B = 1 ∧ BINVERT_42525 * 42525 % B = 1 ∧
    BINVERT_255x182712915 * (255 * 182712915) % B = 1 ∧ BINVERT_255x188513325 * (255 * 188513325) % B = 1 := by
  decide

/-- toom8h_mul.c:97-148: for EVERY (an, bn) in the asserted domain (an ≥ bn ≥ 86, 4·an ≤ 13·bn) the cascade's
    decomposition — including the two "recover from badly chosen splitting" repairs — satisfies the C's own ASSERTs
    0 < s ≤ n, 0 < t ≤ n, half || s + t > 3, n > 2; the degrees add up to 14 (half = 0) or 15 (half = 1); q ≥ 3;
    and the pointwise products are on n + 1 < bn limbs (A(∞)·B(∞) on s, t ≤ n limbs), so the recursion through
    TOOM8H_MUL_N_REC / TOOM8H_MUL_REC is on strictly smaller sizes. -/
theorem toom8h_split_ok (an bn : Nat) (h1 : an ≥ bn) (h2 : bn ≥ 86) (h3 : an * 4 ≤ bn * 13) : SplitOk bn (split an bn) :=
  split_ok an bn h1 h2 h3

-- every shape occurs (smallest sizes), and both repairs
example : (split 86 86, split 91 86, split 106 86, split 118 86, split 141 86)
    = (⟨11, 7, 7, 9, 9, false⟩, ⟨11, 8, 7, 3, 9, true⟩, ⟨13, 8, 6, 2, 8, false⟩, ⟨13, 9, 6, 1, 8, true⟩, ⟨15, 9, 5, 6, 11, false⟩) := by
  decide
example : (split 151 86, split 187 86, split 199 86, split 246 86, split 268 86)
    = (⟨15, 10, 5, 1, 11, true⟩, ⟨18, 10, 4, 7, 14, false⟩, ⟨18, 11, 4, 1, 14, true⟩, ⟨22, 11, 3, 4, 20, false⟩, ⟨22, 12, 3, 4, 20, true⟩) := by
  decide
example : splitPQ 117 86 10 7 = ⟨13, 8, 6, 13, 8, false⟩ ∧ splitPQ 141 88 10 7 = ⟨15, 9, 5, 6, 13, false⟩ := by decide   -- s < 1, t < 1

/-- mpn_toom8h_mul (toom8h_mul.c:66-249) — ALL shapes: for every (an, bn) in the asserted domain and ALL operand
    values, the decomposition chosen by the ratio cascade, the seven couples of evaluations with their sign flags,
    the 14 pointwise products and A(0)·B(0), A(∞)·B(∞) (callee = exact product), toom_couple_handling, the 16-point
    interpolation sequence and the recomposition give a·b; in particular no ASSERT of the decomposition fails
    (the model answers `none` when one does). -/
theorem toom8h_exact (mul : Nat → Nat → Nat) (hmul : ∀ x y, mul x y = x * y) (a an b bn : Nat)
    (h1 : an ≥ bn) (h2 : bn ≥ 86) (h3 : an * 4 ≤ bn * 13) : toom8h_mul mul a an b bn = some (a * b) :=
  toom8h_mul_eq mul hmul a an b bn h1 h2 h3

example : toom8h_mul (· * ·) (B ^ 116 - 3) 117 (B ^ 85 + 5 * B ^ 40 + 7) 86 = some ((B ^ 116 - 3) * (B ^ 85 + 5 * B ^ 40 + 7)) :=
  toom8h_exact _ (fun _ _ => rfl) _ _ _ _ (by decide) (by decide) (by decide)
example : toom8h_mul (· * ·) 5 85 7 85 = none := by decide          -- outside the domain the model refuses

/-- mpn_toom8_sqr_n (toom8_sqr_n.c:55-154): from the documented minimum MPN_TOOM8_SQR_N_MINSIZE = 58 on, for ALL
    operand values, the ASSERTs of the decomposition hold and the result is a². -/
theorem toom8_sqr_exact (sqr : Nat → Nat) (hsqr : ∀ x, sqr x = x * x) (a an : Nat) (h : an ≥ 58) :
    toom8_sqr_n sqr a an = some (a * a) := toom8_sqr_n_eq sqr hsqr a an h

/-- … and for every size at which the C's ASSERTs pass at all (`ASSERT (an >= 40)` is weaker than what the
    decomposition needs: an = 41 … 57 except 48, 56 fail `0 < s` or `s + s > 3`), the result is a². -/
theorem toom8_sqr_exact_of_asserts (sqr : Nat → Nat) (hsqr : ∀ x, sqr x = x * x) (a an r : Nat)
    (h : toom8_sqr_n sqr a an = some r) : r = a * a := toom8_sqr_n_of_some sqr hsqr a an r h

example : toom8_sqr_n (fun x => x * x) (B ^ 57 + 12345) 58 = some ((B ^ 57 + 12345) * (B ^ 57 + 12345)) :=
  toom8_sqr_exact _ (fun _ => rfl) _ _ (by decide)
example : toom8_sqr_n (fun x => x * x) 5 41 = none ∧ toom8_sqr_n (fun x => x * x) 5 57 = none := by decide

/-! ### composition with the GENERATED dispatch skeletons (Mpir/Gen/MulDispatch.lean, thresholds of Mpir/Gen/Params.lean) -/
open Mpir.Skel Mpir.Gen Mpir.MulDispatch in
/-- PARTIAL (full statement: "for every n ≥ 1 below MUL_FFT_FULL_THRESHOLD the 2n limbs mpn_mul_n stores are
    toLimbs (2n) (a·b)").  Proved, for EVERY parameter record satisfying `Valid` and EVERY n ≥ 1: the product call the
    generated skeleton of mpn_mul_n (mul_n.c:282-330) records is mpn_mul_basecase, mpn_mul_fft_main, or a callee
    (Karatsuba, Toom-3, Toom-4, Toom-8.5) that is called inside its size domain (`mul_n_dispatch_safe`) and whose
    value-level model returns x·y for ALL operand values — so below the FFT threshold every size has an exactness
    theorem for the algorithm selected.  This is one step of the strong induction on n: inside each callee the
    recursive products are replaced by the exact product (`mul`), which is the induction hypothesis — they are made
    on strictly fewer limbs (Toom-8.5: `toom8h_split_ok`, n + 1 < bn; Karatsuba models its own recursion).
    ASSUMED leaves / missing for the full statement: mpn_mul_basecase (assembly; limb-level C model in C01_leaves),
    the FFT, the size arguments of the recursive calls of Toom-3/4 (value-level models carry no sizes), limb-level
    carries and buffers inside the callees. -/
theorem mpn_mul_n_exact_partial (P : Params) (hP : Valid P) (n : Nat) (hn : 1 ≤ n) (e : Ev)
    (he : e ∈ products (runMulN P n)) :
    e.name = "mpn_mul_basecase" ∨ e.name = "mpn_mul_fft_main" ∨ ∀ x y, callValue8 P e x y = some (x * y) := by
  have hd := MulLoops.runMulN_domain P hP n hn e he
  rcases runMulN_names P n e he with h | h | h | h
  · exact Or.inl h
  · exact Or.inr (Or.inl h)
  · exact Or.inr (Or.inr (callValue8_mul P hP e n hd (Or.inl h)))
  · exact Or.inr (Or.inr (callValue8_mul P hP e n hd (Or.inr h)))

open Mpir.Skel Mpir.Gen Mpir.MulDispatch in
/-- PARTIAL, same for mpn_sqr (mul_n.c:332-387): the recorded call is a basecase, the FFT, or mpn_kara_sqr_n /
    mpn_toom3_sqr_n / mpn_toom4_sqr_n / mpn_toom8_sqr_n inside its domain (`sqr_dispatch_safe`) with a value-level model
    returning x² for ALL x.  mpn_toom8_sqr_n has its own model; the other three squarings are represented by the model
    of the corresponding multiplication with b = a (the ops of those names are compared with exactly that on every
    check) — their squaring-specific code (toom3_mul_n.c / toom4_mul_n.c) is NOT separately mirrored.
    `h58`: the minimum the decomposition of toom8_sqr_n.c needs (true for the tree's parameters, see the example). -/
theorem mpn_sqr_exact_partial (P : Params) (hP : Valid P) (h58 : 58 ≤ P.MPN_TOOM8_SQR_N_MINSIZE) (n : Nat) (hn : 1 ≤ n) (e : Ev)
    (he : e ∈ products (runSqr P n)) :
    e.name = "mpn_mul_basecase" ∨ e.name = "mpn_sqr_basecase" ∨ e.name = "mpn_mul_fft_main" ∨
    ∀ x, callValue8 P e x x = some (x * x) := by
  have hd := runSqr_domain P hP n hn e he
  rcases runSqr_names P n e he with h | h | h | h
  · exact Or.inl h
  · exact Or.inr (Or.inl h)
  · exact Or.inr (Or.inr (Or.inl h))
  · exact Or.inr (Or.inr (Or.inr (callValue8_sqr P hP h58 e n hd h)))

-- non-vacuity with the tree's own parameters: n = 238 … 3519 select Toom-8.5, squaring 321 … select Toom-8
open Mpir.Skel Mpir.Gen Mpir.MulDispatch in
example : products (runMulN params 238) = [⟨"mpn_toom8h_mul", [.ptr 1 0, .ptr 2 0, .sz 238, .ptr 3 0, .sz 238]⟩]
    ∧ products (runSqr params 321) = [⟨"mpn_toom8_sqr_n", [.ptr 1 0, .ptr 2 0, .sz 321]⟩]
    ∧ (58 : Int) ≤ params.MPN_TOOM8_SQR_N_MINSIZE := by decide
open Mpir.Skel Mpir.Gen Mpir.MulDispatch in
example (x y : Nat) : callValue8 params ⟨"mpn_toom8h_mul", [.ptr 1 0, .ptr 2 0, .sz 238, .ptr 3 0, .sz 238]⟩ x y = some (x * y) := by
  rcases mpn_mul_n_exact_partial params params_valid 238 (by decide)
    ⟨"mpn_toom8h_mul", [.ptr 1 0, .ptr 2 0, .sz 238, .ptr 3 0, .sz 238]⟩ (by decide) with h | h | h
  · exact absurd h (by decide)
  · exact absurd h (by decide)
  · exact h x y

end Mpir.Toom8
