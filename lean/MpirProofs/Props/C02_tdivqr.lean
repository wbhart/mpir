/-
  C02 (multi-limb layer) — the glue of mpn_tdiv_qr (mpn/generic/tdiv_qr.c) and the wrapper mpn_divrem
  (mpn/generic/divrem.c): for ALL lengths nn ≥ dn ≥ 1 and ALL limb contents with a non-zero top divisor limb the
  limb-level model returns q = ⌊N/D⌋ on nn-dn+1 limbs and r = N mod D on dn limbs, and none of the C's
  ASSERT_NOCARRY / ASSERT_ALWAYS can fail.  Helper lemmas live in MpirProofs/Lemmas/TdivQr*.lean and TdivLimbs.lean.

  The theorems are about the executable model Mpir/Model/TdivQr.lean, which the correspondence check runs against
  the real functions (ops `tdiv_qr_model`, `divrem_model`) on every run.  What enters as an assumption is the
  contract of the inner normalised divisions mpn_dc_div_qr(_n), mpn_inv_div_qr(_n) and of the assembly mpn_divrem_2
  (exact quotient and remainder, `divQrSpec` / `divrem_2` in the model); mpn_sb_div_qr and mpn_divrem_1 enter
  through their proved limb-level models (C02_sb: sb_div_qr_contract, C02_word: divrem_1_val).  With these the value
  contract `DivZ.mpnTdivQr` that the mpz-level theorems (C02_mpz) take as the specification of mpn_tdiv_qr is a
  theorem about the limb-level model: `tdiv_qr_contract`.

  The theorems hold for every value of the two thresholds that select the callee.
-/
import MpirProofs.Lemmas.TdivQrLt2
import MpirProofs.Lemmas.TdivQrDivrem
namespace Mpir.TdivQr
open Mpir Mpir.DivWord Mpir.SbDiv Mpir.Tdiv

/-- every branch of mpn_tdiv_qr meets the specification `Spec` (Lemmas/TdivQrBase.lean): dn = 1 (case1_spec),
    dn = 2 (case2_spec), nn + adjust ≥ 2·dn (first_spec), nn + adjust < 2·dn (lt2_spec) -/
theorem tdiv_qr_spec (T : Thresholds) (n d : List Nat) (hn : Limbs n) (hd : Limbs d) (hdn : 1 ≤ d.length)
    (hnn : d.length ≤ n.length) (htop : d.getD (d.length - 1) 0 ≠ 0) :
    ∃ res, tdiv_qr T n d = some res ∧ Spec n d res := by
  by_cases h1 : d.length = 1
  · have e : tdiv_qr T n d = some (case1 n d) := by unfold tdiv_qr; rw [h1]; rfl
    rw [h1] at htop hnn
    exact ⟨_, e, case1_spec n d hn hd h1 hnn htop⟩
  by_cases h2 : d.length = 2
  · have e : tdiv_qr T n d = some (case2 n d) := by unfold tdiv_qr; rw [h2]; rfl
    rw [h2] at htop hnn
    exact ⟨_, e, case2_spec n d hn hd h2 hnn htop⟩
  have h3 : 3 ≤ d.length := by omega
  have e : tdiv_qr T n d =
      if n.length + (if n.getD (n.length - 1) 0 ≥ d.getD (d.length - 1) 0 then 1 else 0) ≥ 2 * d.length then
        some (first T n d (if n.getD (n.length - 1) 0 ≥ d.getD (d.length - 1) 0 then 1 else 0))
      else some (lt2 T n d (if n.getD (n.length - 1) 0 ≥ d.getD (d.length - 1) 0 then 1 else 0)) := by
    unfold tdiv_qr
    obtain ⟨k, hk⟩ : ∃ k, d.length = k + 3 := ⟨d.length - 3, by omega⟩
    rw [hk]; rfl
  rw [e]
  by_cases hb : n.length + (if n.getD (n.length - 1) 0 ≥ d.getD (d.length - 1) 0 then 1 else 0) ≥ 2 * d.length
  · rw [if_pos hb]
    exact ⟨_, rfl, first_spec T n d hn hd h3 hnn htop _ rfl⟩
  · rw [if_neg hb]
    exact ⟨_, rfl, lt2_spec T n d hn hd h3 hnn htop _ rfl (by omega)⟩

/-- mpn_tdiv_qr (qp, rp, 0, np, nn, dp, dn), tdiv_qr.c:37-374.  Preconditions = the documented ones (tdiv_qr.c:7-9 and the
    ASSERTs at :43-45): nn ≥ dn ≥ 1, most significant limb of the divisor non-zero.  Then
    N = Q·D + R with R < D, Q on exactly nn-dn+1 limbs, R on exactly dn limbs, and the `ok` flag is true: no
    ASSERT_NOCARRY (callee's returned high limb = 0, :136-144, :263-272), no ASSERT_ALWAYS (n2p[qn] ≥ cy2 :328, rn == dn :349)
    can fail and mpn_sub_1 at :361 never touches rp[dn].  Covers dn = 1, dn = 2 (both normalisation branches, cy = 0 and
    cy ≠ 0), both branches of the default case with adjust = 0 / 1, every shift count, and in the "less than twice" branch
    the decrement after the `n2p[qn-1] < h` test with and without carry, the partially used limb, both orders of mpn_mul,
    and the final `quotient_too_large` correction. -/
theorem tdiv_qr_val (T : Thresholds) (n d : List Nat) (hn : Limbs n) (hd : Limbs d) (hdn : 1 ≤ d.length)
    (hnn : d.length ≤ n.length) (htop : d.getD (d.length - 1) 0 ≠ 0) :
    ∃ q r, tdiv_qr T n d = some (q, r, true) ∧ val n = val q * val d + val r ∧ val r < val d ∧
      Limbs q ∧ q.length = n.length - d.length + 1 ∧ Limbs r ∧ r.length = d.length := by
  obtain ⟨res, hres, hq, hr, hql, hqlen, hrl, hrlen, hok⟩ := tdiv_qr_spec T n d hn hd hdn hnn htop
  have hD0 := val_pos_of_top d hdn htop
  refine ⟨res.1, res.2.1, ?_, ?_, ?_, hql, hqlen, hrl, hrlen⟩
  · rw [hres, ← hok]
  · rw [hq, hr, Nat.mul_comm]; exact (Nat.div_add_mod _ _).symm
  · rw [hr]; exact Nat.mod_lt _ hD0

-- dn = 1
example : tdiv_qr ⟨50, 1589⟩ [0x5, 0x7] [0x3] = some ([0x5555555555555557, 0x2], [0x0], true) := by decide
-- dn = 2, divisor not normalised, a non-zero limb is shifted out of the dividend (cy ≠ 0) / nothing is shifted out
example : tdiv_qr ⟨50, 1589⟩ [0x1, 0x2, 0x3] [0xffffffffffffffff, 0x1] =
    some ([0x8000000000000001, 0x1], [0x8000000000000002, 0x1], true) := by decide
example : tdiv_qr ⟨50, 1589⟩ [0x1, 0x2, 0x10] [0xffffffffffffffff, 0x20] =
    some ([0x7c1f07c1f07c1f07, 0x0], [0x7c1f07c1f07c1f08, 0x1b], true) := by decide
-- dn = 2, divisor normalised
example : tdiv_qr ⟨50, 1589⟩ [0x1, 0x2, 0x3] [0x5, 0x8000000000000000] =
    some ([0x6, 0x0], [0xffffffffffffffe3, 0x1], true) := by decide
-- first branch: divisor not normalised (cnt = 60), adjust = 1, schoolbook callee, remainder shifted back
example : tdiv_qr ⟨50, 1589⟩ [0x1, 0x2, 0x3, 0x4, 0x5, 0xffffffffffffffff] [0x7, 0x8, 0x9] =
    some ([0x80eabc259d209494, 0x2fc231dd95f2a7db, 0x9161f9add3c0ca46, 0x1c71c71c71c71c71],
      [0x7994daf8b41beff5, 0xaa5ac1c3fd58c461, 0x7], true) := by decide
-- first branch: divisor normalised, adjust = 0 (the limb zeroed at tdiv_qr.c:112 stays)
example : tdiv_qr ⟨50, 1589⟩ [0x1, 0x2, 0x3, 0x4, 0x5, 0x6, 0x1] [0x7, 0x8, 0x8000000000000000] =
    some ([0xffffffffffffff2c, 0xffffffffffffffe9, 0xb, 0x2, 0x0], [0x5cd, 0x73c, 0x5f], true) := by decide
-- "less than twice": qn = 0
example : tdiv_qr ⟨50, 1589⟩ [0x1, 0x2, 0x3] [0x4, 0x5, 0x6] = some ([0x0], [0x1, 0x2, 0x3], true) := by decide
-- "less than twice", qn = 2, cnt = 63: the `n2p[qn-1] < h` test fires, the add-back carries into n2p[qn] (rn = qn+1),
-- the ASSERT_ALWAYS (n2p[qn] >= cy2) path is taken, in becomes 0
example : tdiv_qr ⟨50, 1589⟩ [0xffffffffffffffff, 0x7fffffffffffffff, 0xffffffffffffffff, 0xffffffffffffffff]
      [0xffffffffffffffff, 0xffffffffffffffff, 0x1] =
    some ([0xffffffffffffffff, 0x7fffffffffffffff], [0xfffffffffffffffe, 0xffffffffffffffff, 0x1], true) := by decide
-- "less than twice", divisor normalised, qn = 1, in = 2: the test fires with carry; mpn_sub_1 is called with rn = dn-in+1 limbs
example : tdiv_qr ⟨50, 1589⟩ [0xa6934caccf5418e9, 0xa749959b5e7381cd, 0xd61aa2f7a7561c50, 0x8000000000000000]
      [0xffffffffffffffff, 0xfffffffffffffffe, 0xffffffffffffffff] =
    some ([0x8000000000000000, 0x0], [0x26934caccf5418e9, 0x2749959b5e7381ce, 0xd61aa2f7a7561c51], true) := by decide
-- "less than twice", divisor normalised: mpn_sub borrows, quotient_too_large, final decrement and add-back
example : tdiv_qr ⟨50, 1589⟩ [0xffffffffffffffff, 0xfffffffffffffffe, 0xffffffffffffffff, 0x8000000000000007]
      [0xffffffffffffffff, 0xffffffffffffffff, 0x8000000000000007] =
    some ([0xffffffffffffffff, 0x0], [0xfffffffffffffffe, 0xffffffffffffffff, 0x8000000000000007], true) := by decide
-- "less than twice", cnt = 5: the partially used limb makes the remainder negative (cy1 < cy2), final correction
example : tdiv_qr ⟨50, 1589⟩ [0xd56904e5eb5f0617, 0xffffffffffffffe3, 0xf4b7d8d0a507cf3f, 0x70aa5bec685284c8]
      [0xffffffffffffffff, 0xffffffffffffffff, 0x400000000000007] =
    some ([0x2a96fb1a14a0f9e7, 0x1c], [0xfffffffffffffffe, 0xffffffffffffffff, 0x400000000000007], true) := by decide

/-- dn = 0 is DIVIDE_BY_ZERO (tdiv_qr.c:51-52) -/
theorem tdiv_qr_div0 (T : Thresholds) (n : List Nat) : tdiv_qr T n [] = none := rfl

example : tdiv_qr ⟨50, 1589⟩ [1, 2, 3] [] = none := by decide

/-- the limb-level model returns exactly the value-level contract `DivZ.mpnTdivQr` (⌊N/D⌋ on nn-dn+1 limbs, N mod D on
    dn limbs) that the mpz-level theorems of C02_mpz assume for mpn_tdiv_qr — for every input on which that contract is
    defined, i.e. for the documented preconditions of the C -/
theorem tdiv_qr_contract (T : Thresholds) (n d : List Nat) (hn : Limbs n) (hd : Limbs d) (hdn : 1 ≤ d.length)
    (hnn : d.length ≤ n.length) (htop : d.getD (d.length - 1) 0 ≠ 0) :
    tdiv_qr T n d = (DivZ.mpnTdivQr n d).map (fun qr => (qr.1, qr.2, true)) := by
  obtain ⟨res, hres, hq, hr, hql, hqlen, hrl, hrlen, hok⟩ := tdiv_qr_spec T n d hn hd hdn hnn htop
  have ht : DivZ.topNonzero d = true := (topNonzero_iff d hdn).mpr htop
  unfold DivZ.mpnTdivQr
  rw [if_neg (by simp [ht]; omega), hres]
  simp only [Option.map_some]
  rw [← eq_toLimbs_of hql hqlen hq, ← eq_toLimbs_of hrl hrlen hr, ← hok]

example : tdiv_qr ⟨50, 1589⟩ [0x1, 0x2, 0x3, 0x4] [0x7, 0x8, 0x9] =
    (DivZ.mpnTdivQr [0x1, 0x2, 0x3, 0x4] [0x7, 0x8, 0x9]).map (fun qr => (qr.1, qr.2, true)) := by decide

/-- The approximate quotient of the "less than twice" branch (tdiv_qr.c:169-172 "This is either the correct quotient, but
    might be 1 or 2 too large"): for N = n2·W + nl, D = d2·W + dl with nl, dl < W and d2 normalised (K ≤ 2·d2, n2 < d2·K),
    ⌊N/D⌋ ≤ ⌊n2/d2⌋ ≤ ⌊N/D⌋ + 2. -/
theorem lt2_estimate_bounds (N D W n2 d2 nl dl K : Nat) (hN : N = n2 * W + nl) (hD : D = d2 * W + dl)
    (hnl : nl < W) (hdl : dl < W) (hd2 : 0 < d2) (hnorm : K ≤ 2 * d2) (hfit : n2 < d2 * K) :
    N / D ≤ n2 / d2 ∧ n2 / d2 ≤ N / D + 2 := by
  have hdiv : n2 = n2 / d2 * d2 + n2 % d2 := by rw [Nat.mul_comm]; exact (Nat.div_add_mod _ _).symm
  have hr : n2 % d2 < d2 := Nat.mod_lt _ hd2
  have hqK : n2 / d2 < K := by rw [Nat.div_lt_iff_lt_mul hd2, Nat.mul_comm]; exact hfit
  have hW : 0 < W := by omega
  have hD0 : 0 < D := by rw [hD]; exact Nat.lt_of_lt_of_le (Nat.mul_pos hd2 hW) (Nat.le_add_right _ _)
  have hup := lt2_upper N D W n2 d2 nl dl (n2 / d2) (n2 % d2) hN hD hdiv hr hnl
  have hlo := lt2_lower2 N D W n2 d2 nl dl (n2 / d2) (n2 % d2) K hN hD hdiv hdl hqK hnorm
  generalize n2 / d2 = q at *
  constructor
  · have : N / D < q + 1 := by
      rw [Nat.div_lt_iff_lt_mul hD0]
      calc N < q * D + D := hup
        _ = (q + 1) * D := by ring
    exact Nat.lt_succ_iff.mp this
  · rcases Nat.lt_or_ge q 2 with h | h
    · exact Nat.le_trans (Nat.le_of_lt h) (Nat.le_add_left 2 (N / D))
    · have : q - 2 ≤ N / D := by
        rw [Nat.le_div_iff_mul_le hD0]
        have e : q * D = (q - 2) * D + 2 * D := by
          have : q = (q - 2) + 2 := by omega
          conv_lhs => rw [this]
          ring
        omega
      generalize N / D = Q at *
      omega

-- the estimate is 2 too large: d2 = 2^63 (smallest normalised value), ignored part of d all ones, small remainder
example : (B * (B - 1) + (B - 1)) / ((B / 2) * B + (B - 1)) = B * (B - 1) / ((B / 2) * B) - 2 + 1 ∧
    (2 * (B - 1)) / (B / 2) = 3 := by decide

/-- every callee is invoked inside its ASSERTed domain, first branch (tdiv_qr.c:134-145): the divisor handed over is
    normalised, mpn_sb_div_qr gets dn > 2 and nn ≥ dn (sb_div_qr.c:47-49), mpn_dc_div_qr / mpn_inv_div_qr get dn ≥ 6 and
    nn - dn ≥ 3 (dc_div_qr.c:45-47, inv_div_qr.c:47-49) as soon as DC_DIV_QR_THRESHOLD ≥ 6 -/
theorem first_callee_domain (T : Thresholds) (hT : 6 ≤ T.dc) (n d : List Nat) (hn : Limbs n) (hd : Limbs d)
    (hdn : 3 ≤ d.length) (htop : d.getD (d.length - 1) 0 ≠ 0) (adjust : Nat) (hbr : n.length + adjust ≥ 2 * d.length) :
    B / 2 ≤ (firstNorm n d).2.1.getD (d.length - 1) 0 ∧ (firstNorm n d).2.1.length = d.length ∧
    (dispatchQr T (n.length + adjust) d.length = .sb → 2 < d.length ∧ d.length ≤ n.length + adjust) ∧
    (dispatchQr T (n.length + adjust) d.length ≠ .sb → 6 ≤ d.length ∧ 3 ≤ n.length + adjust - d.length) := by
  obtain ⟨k, hk⟩ : ∃ k, d.length = k + 1 := ⟨d.length - 1, by omega⟩
  rw [hk, Nat.add_sub_cancel] at htop
  obtain ⟨_, _, hnd2, hld2, hlend2, _⟩ := firstNorm_spec n d hn hd k hk htop
  refine ⟨by rw [hk, Nat.add_sub_cancel]; exact (norm_iff_top _ k hld2 hlend2).mp hnd2, by rw [hlend2, hk],
    fun _ => ⟨by omega, by omega⟩, ?_⟩
  intro hne
  unfold dispatchQr at hne
  by_cases h : d.length < T.dc
  · rw [if_pos h] at hne; exact absurd rfl hne
  · omega

example : dispatchQr ⟨50, 1589⟩ 120 49 = .sb ∧ dispatchQr ⟨50, 1589⟩ 120 50 = .dc ∧
    dispatchQr ⟨50, 1589⟩ 3177 1589 = .dc ∧ dispatchQr ⟨50, 1589⟩ 3178 1589 = .inv := by decide

/-- the same for the approximate quotient of the "less than twice" branch (tdiv_qr.c:261-273, qn ≥ 3): mpn_sb_div_qr gets
    dn = qn > 2, nn = 2·qn; mpn_dc_div_qr_n / mpn_inv_div_qr_n get n = qn ≥ 6 -/
theorem lt2_callee_domain (T : Thresholds) (hT : 6 ≤ T.dc) (qn : Nat) (hqn : 3 ≤ qn) :
    (dispatchQrN T qn = .sb → 2 < qn ∧ qn ≤ 2 * qn) ∧ (dispatchQrN T qn ≠ .sb → 6 ≤ qn) := by
  refine ⟨fun _ => ⟨by omega, by omega⟩, ?_⟩
  intro hne
  unfold dispatchQrN at hne
  by_cases h : qn < T.dc
  · rw [if_pos h] at hne; exact absurd rfl hne
  · omega

example : dispatchQrN ⟨50, 1589⟩ 49 = .sb ∧ dispatchQrN ⟨50, 1589⟩ 50 = .dc ∧ dispatchQrN ⟨50, 1589⟩ 1589 = .inv := by
  decide

/-- mpn_divrem (qp, qxn, np, nn, dp, dn), divrem.c:29-101.  Preconditions = the C's ASSERTs (nn ≥ dn ≥ 1, divisor
    normalised).  The model returns exactly the value contract `DivZ.mpnDivrem`: the nn-dn+qxn low limbs of
    ⌊n·B^qxn / d⌋ at qp, the remainder on dn limbs in np, the most significant quotient limb as return value — on all
    three paths (dn = 1: mpn_divrem_1 with fraction limbs; dn = 2: mpn_divrem_2; else the zero-extended copy and
    mpn_tdiv_qr) — and no assertion of mpn_tdiv_qr fails. -/
theorem divrem_contract (T : Thresholds) (qxn : Nat) (n d : List Nat) (hn : Limbs n) (hd : Limbs d)
    (hdn : 1 ≤ d.length) (hnn : d.length ≤ n.length) (hnorm : B / 2 ≤ d.getD (d.length - 1) 0) :
    DivZ.mpnDivrem n d qxn = some ((divrem T qxn n d).1, (divrem T qxn n d).2.1, (divrem T qxn n d).2.2.1) ∧
    (divrem T qxn n d).2.2.2 = true := by
  have htop : d.getD (d.length - 1) 0 ≠ 0 := by
    have : 0 < B / 2 := by decide
    omega
  rw [divrem_spec T qxn n d hn hd hdn hnn hnorm (fun _ n2 hn2 hl2 => tdiv_qr_spec T n2 d hn2 hd hdn hl2 htop)]
  refine ⟨?_, rfl⟩
  have hnd : DivZ.normalised d = true := (normalised_iff d hdn).mpr hnorm
  unfold DivZ.mpnDivrem
  rw [if_neg (by simp [hnd]; omega)]

/-- in numbers: n·B^qxn = (ret·B^(nn-dn+qxn) + q)·d + r with r < d -/
theorem divrem_val (T : Thresholds) (qxn : Nat) (n d : List Nat) (hn : Limbs n) (hd : Limbs d)
    (hdn : 1 ≤ d.length) (hnn : d.length ≤ n.length) (hnorm : B / 2 ≤ d.getD (d.length - 1) 0) :
    val n * B ^ qxn = ((divrem T qxn n d).2.2.1 * B ^ (n.length - d.length + qxn) + val (divrem T qxn n d).1) * val d +
      val (divrem T qxn n d).2.1 ∧ val (divrem T qxn n d).2.1 < val d := by
  have htop : d.getD (d.length - 1) 0 ≠ 0 := by
    have : 0 < B / 2 := by decide
    omega
  have hD0 := val_pos_of_top d hdn htop
  rw [divrem_spec T qxn n d hn hd hdn hnn hnorm (fun _ n2 hn2 hl2 => tdiv_qr_spec T n2 d hn2 hd hdn hl2 htop)]
  simp only []
  have q1 := val_toLimbs (n.length - d.length + qxn) (val n * B ^ qxn / val d)
  have r1 := val_toLimbs d.length (val n * B ^ qxn % val d)
  have hrlt : val n * B ^ qxn % val d < B ^ d.length := Nat.lt_trans (Nat.mod_lt _ hD0) (val_lt d hd)
  rw [q1, r1, Nat.mod_eq_of_lt hrlt, Nat.div_add_mod']
  exact ⟨(Nat.div_add_mod' _ _).symm, Nat.mod_lt _ hD0⟩

-- dn = 1 with a fraction limb; dn = 2 with two fraction limbs; dn = 3 with qxn = 1 (zero-extended copy) and qxn = 0
example : divrem ⟨50, 1589⟩ 1 [0x7] [0x8000000000000001] = ([0xd], [0x7ffffffffffffff3], 0x0, true) := by decide
example : divrem ⟨50, 1589⟩ 2 [0x1, 0x2, 0x3] [0x5, 0x8000000000000000] =
    ([0xffffffffffffffc5, 0x3, 0x6], [0x127, 0x7fffffffffffffec], 0x0, true) := by decide
example : divrem ⟨50, 1589⟩ 1 [0x1, 0x2, 0x3, 0x4] [0x7, 0x8, 0x8000000000000000] =
    ([0x5, 0x8], [0xffffffffffffffdd, 0xffffffffffffffa0, 0x7fffffffffffffc1], 0x0, true) := by decide
example : divrem ⟨50, 1589⟩ 0 [0x1, 0x2, 0x3, 0x4] [0x7, 0x8, 0xffffffffffffffff] =
    ([0x4], [0xffffffffffffffe5, 0xffffffffffffffe1, 0x6], 0x0, true) := by decide
-- returned limb 1: the dividend's top limbs are not below the divisor
example : divrem ⟨50, 1589⟩ 0 [0x1, 0x2, 0x3, 0xffffffffffffffff] [0x7, 0x8, 0x8000000000000000] =
    ([0xfffffffffffffffd], [0x16, 0xc, 0x7ffffffffffffff3], 0x1, true) := by decide

end Mpir.TdivQr
