/-
  C12 — rational arithmetic is exact and canonical (and, for the mpq functions, C05: outputs may alias
  inputs; variables that are not outputs keep their value).
  Property theorems only; helper lemmas live in MpirProofs/Lemmas/Mpq.lean: each function is first shown
  to store one pair, computed from the operands' original values, into its destination (`*_eq`), and that
  pair is then shown exact and canonical (`*Val_spec`).

  Every theorem is about the executable heap model in Mpir/Model/Mpq.lean, which mirrors mpq/*.c statement
  by statement and is run against the real functions by the correspondence check.  Operations take
  variable *ids*; the theorems quantify over ALL ids, so every alias pattern (rop = op1, rop = op2,
  op1 = op2, all equal, all distinct) is covered by one statement.  `Q.toRat q = num / den` in Mathlib's ℚ,
  `Canonical q := 0 < den ∧ Int.gcd num den = 1` (hence zero is 0/1).
-/
import MpirProofs.Lemmas.Mpq
import MpirProofs.Lemmas.MpqConv
namespace Mpir.Mpq

/-- a store with 1/6 in variable 1 and 3/10 in every other variable (for the non-vacuity examples) -/
def exHeap : Heap := fun i => if i = 1 then ⟨1, 6⟩ else ⟨3, 10⟩

/-- mpq_add (`sub = false`) and mpq_sub (`sub = true`): for canonical operands and every alias
    pattern the destination holds exactly a ± b in canonical form; no other variable changes. -/
theorem mpq_aors_spec (sub : Bool) (rop op1 op2 : Nat) (h : Heap)
    (h1 : Canonical (h op1)) (h2 : Canonical (h op2)) :
    (aors sub rop op1 op2 h rop).toRat =
      (if sub then (h op1).toRat - (h op2).toRat else (h op1).toRat + (h op2).toRat) ∧
    Canonical (aors sub rop op1 op2 h rop) ∧
    ∀ j, j ≠ rop → aors sub rop op1 op2 h j = h j := by
  rw [aors_eq]
  exact upd_spec (aorsVal_spec sub h1 h2)

-- non-vacuity: 1/6 + 3/10 = 7/15 takes the gcd(d1,d2) = 2, gcd(t,g) = 2 branch, destination = op1;
-- 1/6 - 1/6 with all three the same variable gives 0/1
example : add 1 1 2 exHeap 1 = ⟨7, 15⟩ ∧ add 1 1 2 exHeap 2 = ⟨3, 10⟩ := by decide
example : sub 1 1 1 exHeap 1 = ⟨0, 1⟩ := by decide
example : Canonical (exHeap 1) ∧ Canonical (exHeap 2) := by decide

/-- mpq_mul: exact canonical product for every alias pattern, including the squaring shortcut taken
    when op1 and op2 are the same variable. -/
theorem mpq_mul_spec (prod op1 op2 : Nat) (h : Heap)
    (h1 : Canonical (h op1)) (h2 : Canonical (h op2)) :
    (mul prod op1 op2 h prod).toRat = (h op1).toRat * (h op2).toRat ∧
    Canonical (mul prod op1 op2 h prod) ∧
    ∀ j, j ≠ prod → mul prod op1 op2 h j = h j := by
  rw [mul_eq]
  exact upd_spec (mulVal_spec _ h1 h2 fun e => by rw [of_decide_eq_true e])

-- non-vacuity: (1/6)·(3/10) = 1/20 cancels on both sides, destination = op2; squaring in place
example : mul 2 1 2 exHeap 2 = ⟨1, 20⟩ ∧ mul 2 1 2 exHeap 1 = ⟨1, 6⟩ := by decide
example : mul 1 1 1 exHeap 1 = ⟨1, 36⟩ := by decide

/-- mpq_div: a zero divisor raises DIVIDE_BY_ZERO; otherwise the exact canonical quotient (denominator
    made positive) for every alias pattern. -/
theorem mpq_div_spec (quot op1 op2 : Nat) (h : Heap)
    (h1 : Canonical (h op1)) (h2 : Canonical (h op2)) :
    ((h op2).num = 0 → div quot op1 op2 h = none) ∧
    ((h op2).num ≠ 0 → ∃ h', div quot op1 op2 h = some h' ∧
      (h' quot).toRat = (h op1).toRat / (h op2).toRat ∧ Canonical (h' quot) ∧
      ∀ j, j ≠ quot → h' j = h j) := by
  rw [div_eq]
  exact guarded_upd_spec fun h0 => divVal_spec h1 h2 h0

-- non-vacuity: (1/6)/(-3/10) = -5/9 needs the sign move; division by 0/1 is rejected
example : (div 0 1 2 (fun i => if i = 1 then ⟨1, 6⟩ else ⟨-3, 10⟩)).map (· 0) = some ⟨-5, 9⟩ := by decide
example : (div 0 1 2 (fun i => if i = 1 then ⟨1, 6⟩ else ⟨0, 1⟩)).isNone = true := by decide

/-- mpq_inv: zero raises DIVIDE_BY_ZERO; otherwise the exact canonical reciprocal, both for
    dest = src (numerator and denominator swapped in place) and for distinct variables. -/
theorem mpq_inv_spec (dest src : Nat) (h : Heap) (h1 : Canonical (h src)) :
    ((h src).num = 0 → inv dest src h = none) ∧
    ((h src).num ≠ 0 → ∃ h', inv dest src h = some h' ∧
      (h' dest).toRat = ((h src).toRat)⁻¹ ∧ Canonical (h' dest) ∧
      ∀ j, j ≠ dest → h' j = h j) := by
  rw [inv_eq]
  exact guarded_upd_spec fun h0 => invVal_spec h1 h0

-- non-vacuity: in-place inverse of -3/10 is -10/3
example : (inv 1 1 (fun _ => ⟨-3, 10⟩)).map (· 1) = some ⟨-10, 3⟩ := by decide
example : (inv 0 1 (fun _ => ⟨0, 1⟩)).isNone = true := by decide

/-- mpq_neg: exact, canonical, for dst = src and for distinct variables. -/
theorem mpq_neg_spec (dst src : Nat) (h : Heap) (h1 : Canonical (h src)) :
    (neg dst src h dst).toRat = -(h src).toRat ∧ Canonical (neg dst src h dst) ∧
    ∀ j, j ≠ dst → neg dst src h j = h j := by
  rw [neg_eq]
  exact upd_spec (neg_spec ⟨rfl, h1⟩)

example : neg 0 1 exHeap 0 = ⟨-1, 6⟩ ∧ neg 1 1 exHeap 1 = ⟨-1, 6⟩ := by decide

/-- mpq_abs: exact, canonical, for dst = src and for distinct variables. -/
theorem mpq_abs_spec (dst src : Nat) (h : Heap) (h1 : Canonical (h src)) :
    (Mpq.abs dst src h dst).toRat = |(h src).toRat| ∧ Canonical (Mpq.abs dst src h dst) ∧
    ∀ j, j ≠ dst → Mpq.abs dst src h j = h j := by
  rw [abs_eq]
  refine upd_spec ?_
  have hd : (0 : ℚ) < ((h src).den : ℚ) := by exact_mod_cast h1.1
  have hv : |(h src).toRat| = (⟨|(h src).num|, (h src).den⟩ : Q).toRat := by
    unfold Q.toRat; rw [abs_div, abs_of_pos hd, Int.cast_abs]
  rw [hv]
  refine ⟨rfl, ?_⟩
  rcases abs_choice (h src).num with e | e <;> rw [e]
  · exact h1
  · exact (neg_spec ⟨rfl, h1⟩).2

example : Mpq.abs 1 1 (fun _ => ⟨-3, 10⟩) 1 = ⟨3, 10⟩ := by decide

/-- mpq_set copies the pair unchanged (any ids); mpq_swap exchanges the two variables (also u = v). -/
theorem mpq_set_spec (dest src : Nat) (h : Heap) :
    set dest src h dest = h src ∧ ∀ j, j ≠ dest → set dest src h j = h j := by
  rw [set_eq]; exact ⟨upd_self _ _ _, fun j hj => upd_other _ _ _ _ hj⟩

theorem mpq_swap_spec (u v : Nat) (h : Heap) :
    swap u v h u = h v ∧ swap u v h v = h u ∧ ∀ j, j ≠ u → j ≠ v → swap u v h j = h j := by
  rw [swap_eq]
  refine ⟨by simp, ?_, fun j h1 h2 => by simp [h1, h2]⟩
  by_cases e : v = u <;> simp [e]

example : swap 1 2 exHeap 1 = ⟨3, 10⟩ ∧ swap 1 2 exHeap 2 = ⟨1, 6⟩ ∧ swap 1 1 exHeap 1 = ⟨1, 6⟩ := by decide

/-- mpq_set_z converts exactly: z/1, canonical. -/
theorem mpq_set_z_spec (dest : Nat) (z : Int) (h : Heap) :
    (set_z dest z h dest).toRat = z ∧ Canonical (set_z dest z h dest) ∧
    ∀ j, j ≠ dest → set_z dest z h j = h j := by
  rw [set_z_eq]
  exact upd_spec (int_spec z)

example : set_z 1 (-7) exHeap 1 = ⟨-7, 1⟩ := by decide

/-- mpq_set_si / mpq_set_ui convert exactly (non-zero denominator): the value is n/d; 0/d is stored as
    0/1; the result is canonical whenever n and d are coprime and d > 0 (the functions do not reduce —
    the manual asks for mpq_canonicalize otherwise). -/
theorem mpq_set_si_spec (dest : Nat) (n : Int) (d : Nat) (h : Heap) (hd : d ≠ 0) :
    (set_si dest n d h dest).toRat = (n : ℚ) / d ∧
    (Int.gcd n d = 1 → Canonical (set_si dest n d h dest)) ∧
    ∀ j, j ≠ dest → set_si dest n d h j = h j := by
  rw [set_si_eq, upd_self]
  obtain ⟨hv, hc⟩ := pair_spec n (d := d) (Int.natCast_pos.mpr (Nat.pos_of_ne_zero hd))
  exact ⟨by rw [hv, Int.cast_natCast], hc, fun j hj => upd_other _ _ _ _ hj⟩

theorem mpq_set_ui_spec (dest : Nat) (n d : Nat) (h : Heap) (hd : d ≠ 0) :
    (set_ui dest n d h dest).toRat = (n : ℚ) / d ∧
    (Nat.gcd n d = 1 → Canonical (set_ui dest n d h dest)) ∧
    ∀ j, j ≠ dest → set_ui dest n d h j = h j := by
  rw [set_ui_eq, upd_self]
  obtain ⟨hv, hc⟩ := pair_spec (n : ℤ) (d := d) (Int.natCast_pos.mpr (Nat.pos_of_ne_zero hd))
  exact ⟨by rw [hv, Int.cast_natCast, Int.cast_natCast], fun g => hc (by rwa [Int.gcd_natCast_natCast]),
    fun j hj => upd_other _ _ _ _ hj⟩

example : set_si 1 (-3) 4 exHeap 1 = ⟨-3, 4⟩ ∧ set_si 1 0 4 exHeap 1 = ⟨0, 1⟩ ∧ set_ui 1 5 2 exHeap 1 = ⟨5, 2⟩ := by
  decide

/-- mpq_set_num / mpq_set_den replace exactly one component. -/
theorem mpq_set_num_spec (dest : Nat) (z : Int) (h : Heap) :
    set_num dest z h dest = ⟨z, (h dest).den⟩ ∧ ∀ j, j ≠ dest → set_num dest z h j = h j := by
  unfold set_num setNum; exact ⟨by simp, fun j hj => by simp [hj]⟩

theorem mpq_set_den_spec (dest : Nat) (z : Int) (h : Heap) :
    set_den dest z h dest = ⟨(h dest).num, z⟩ ∧ ∀ j, j ≠ dest → set_den dest z h j = h j := by
  unfold set_den setDen; exact ⟨by simp, fun j hj => by simp [hj]⟩

example : set_num 1 5 exHeap 1 = ⟨5, 6⟩ ∧ set_den 1 7 exHeap 1 = ⟨1, 7⟩ := by decide

/-- mpq_canonicalize: a zero denominator raises DIVIDE_BY_ZERO; any other pair is brought to canonical
    form without changing its value. -/
theorem mpq_canonicalize_spec (op : Nat) (h : Heap) :
    ((h op).den = 0 → canonicalize op h = none) ∧
    ((h op).den ≠ 0 → ∃ h', canonicalize op h = some h' ∧
      (h' op).toRat = (h op).toRat ∧ Canonical (h' op) ∧ ∀ j, j ≠ op → h' j = h j) := by
  rw [canonicalize_eq]
  exact guarded_upd_spec fun h0 => canonVal_spec h0

-- non-vacuity: 6/-4 -> -3/2 ; 0/-5 -> 0/1 ; x/0 rejected
example : (canonicalize 0 (fun _ => ⟨6, -4⟩)).map (· 0) = some ⟨-3, 2⟩ := by decide
example : (canonicalize 0 (fun _ => ⟨0, -5⟩)).map (· 0) = some ⟨0, 1⟩ := by decide
example : (canonicalize 0 (fun _ => ⟨3, 0⟩)).isNone = true := by decide

/-- mpq_mul_2exp: exact multiplication by 2^n with a canonical result (the power of two is cancelled
    against the denominator first), for dst = src and for distinct variables, every shift count. -/
theorem mpq_mul_2exp_spec (dst src n : Nat) (h : Heap) (h1 : Canonical (h src)) :
    (mul_2exp dst src n h dst).toRat = (h src).toRat * 2 ^ n ∧ Canonical (mul_2exp dst src n h dst) ∧
    ∀ j, j ≠ dst → mul_2exp dst src n h j = h j := by
  rw [mul_2exp_eq]
  exact upd_spec (mul2expVal_spec h1 n)

/-- mpq_div_2exp: exact division by 2^n with a canonical result (zero stays 0/1), for dst = src and for
    distinct variables, every shift count. -/
theorem mpq_div_2exp_spec (dst src n : Nat) (h : Heap) (h1 : Canonical (h src)) :
    (div_2exp dst src n h dst).toRat = (h src).toRat / 2 ^ n ∧ Canonical (div_2exp dst src n h dst) ∧
    ∀ j, j ≠ dst → div_2exp dst src n h j = h j := by
  rw [div_2exp_eq]
  exact upd_spec (div2expVal_spec h1 n)

-- non-vacuity: 1/2^128 * 2^64 in place (two low zero limbs, one skipped: the input of the md_2exp.c defect);
-- 3/40 * 2^5 = 12/5 (partial cancellation); (3*2^70)/5 / 2^67 = 24/5 (limb skip then bit shift)
example : mul_2exp 1 1 64 (fun _ => ⟨1, 2 ^ 128⟩) 1 = ⟨1, 2 ^ 64⟩ := by decide +kernel
example : mul_2exp 0 1 5 (fun _ => ⟨3, 40⟩) 0 = ⟨12, 5⟩ := by decide +kernel
example : div_2exp 1 1 67 (fun _ => ⟨3 * 2 ^ 70, 5⟩) 1 = ⟨24, 5⟩ := by decide +kernel
example : div_2exp 0 1 9 (fun _ => ⟨0, 1⟩) 0 = ⟨0, 1⟩ := by decide

/-- mpq_set_f converts exactly: for the mpf operand `± F · B^(fexp − limbs F)` (mantissa `F`, exponent
    in limbs, low zero limbs allowed) the result is that rational number in canonical form. -/
theorem mpq_set_f_spec (dest : Nat) (neg : Bool) (F : Nat) (fexp : Int) (h : Heap) :
    (set_f dest neg F fexp h dest).toRat = mpfVal neg F fexp ∧ Canonical (set_f dest neg F fexp h dest) ∧
    ∀ j, j ≠ dest → set_f dest neg F fexp h j = h j := by
  unfold set_f
  simp only [setDen_setNum]
  exact upd_spec (setFVal_spec neg F fexp)

-- non-vacuity: mantissa limbs [0, 6] with exponent 1 is 6·B·B^(1-2) = 6 (the zero low limb is stripped);
-- mantissa 12 with exponent 0 is 12/B = 3/2^62 (even low limb: shift by ctz)
example : set_f 1 false (6 * B) 1 exHeap 1 = ⟨6, 1⟩ := by decide +kernel
example : set_f 1 true 12 0 exHeap 1 = ⟨-3, 2 ^ 62⟩ := by decide +kernel

/-- mpq_set_d converts exactly: for every finite double (sign bit `s`, exponent field `e < 2047`,
    fraction `f < 2^52`; normal, denormal or zero) the result is its exact value in canonical form.
    (NaN and infinities raise the invalid-operation exception before anything is stored.) -/
theorem mpq_set_d_spec (dest : Nat) (s : Bool) (e f : Nat) (h : Heap) (hf : f < 2 ^ 52) :
    (set_d dest s e f h dest).toRat = dblVal s e f ∧ Canonical (set_d dest s e f h dest) ∧
    ∀ j, j ≠ dest → set_d dest s e f h j = h j := by
  unfold set_d
  simp only [setDen_setNum]
  exact upd_spec (setDVal_spec s e f hf)

-- non-vacuity: 0.75 (e = 1022, f = 2^51) -> 3/4 ; -2^70 ; the smallest denormal 2^-1074
example : set_d 1 false 1022 (2 ^ 51) exHeap 1 = ⟨3, 4⟩ := by decide +kernel
example : set_d 1 true 1093 0 exHeap 1 = ⟨-(2 ^ 70), 1⟩ := by decide +kernel
example : set_d 1 false 0 1 exHeap 1 = ⟨1, 2 ^ 1074⟩ := by decide +kernel
example : dblVal false 1022 (2 ^ 51) = 3 / 4 := by
  unfold dblVal dblMag; norm_num

/-- mpq_equal on canonical operands decides equality of the rational values. -/
theorem mpq_equal_iff (op1 op2 : Nat) (h : Heap) (h1 : Canonical (h op1)) (h2 : Canonical (h op2)) :
    (equal op1 op2 h = 1 ↔ (h op1).toRat = (h op2).toRat) ∧
    (equal op1 op2 h = 0 ↔ (h op1).toRat ≠ (h op2).toRat) := by
  rw [equal_eq]
  simp only [ne_eq, toRat_eq_iff h1.1.ne' h2.1.ne']
  by_cases e : h op1 = h op2
  · simp [e]
  · have : ¬ (h op1).num * (h op2).den = (h op2).num * (h op1).den :=
      fun hc => e (canonical_unique h1 h2 hc)
    simp [e, this]

example : equal 1 2 exHeap = 0 ∧ equal 1 1 exHeap = 1 := by decide

end Mpir.Mpq
