/-
  C10 — bitwise functions behave as on infinitely sign-extended two's-complement bit strings.
  Property theorems only; helper lemmas live in MpirProofs/Lemmas/Bits.lean.
  Every theorem is about the executable models of Mpir/Model/Bits.lean (namespace `Mpir.Bits`), which the
  correspondence check runs against the real mpn_* / mpz_* functions on every run.  The specification side is
  Mathlib's `Int.land / Int.lor / Int.xor / Int.lnot / Int.testBit` (Mathlib.Data.Int.Bitwise, Batteries) and
  `Nat.land/lor/xor/ldiff`, whose meaning is pinned by `Int.testBit_land` etc.
-/
import MpirProofs.Lemmas.Bits
namespace Mpir.Bits
open Mpir

/-! ## mpn logic kernels: the plain bitwise function on limb vectors (any equal length, any limbs) -/

/-- mpn_and_n -/
theorem and_n_spec (u v : List Nat) (hu : Limbs u) (hv : Limbs v) (hl : u.length = v.length) :
    val (and_n u v) = val u &&& val v ∧ Limbs (and_n u v) ∧ (and_n u v).length = u.length := by
  obtain ⟨e, l⟩ := and_n_val_any u v hu hv
  exact ⟨e, l, by simp [and_n, hl]⟩
example : and_n [B - 1, 0xf0f0] [0xff00ff, B - 1] = [0xff00ff, 0xf0f0] := by decide

/-- mpn_ior_n -/
theorem ior_n_spec (u v : List Nat) (hu : Limbs u) (hv : Limbs v) (hl : u.length = v.length) :
    val (ior_n u v) = val u ||| val v ∧ Limbs (ior_n u v) ∧ (ior_n u v).length = u.length := by
  obtain ⟨e, l⟩ := zipWith_eqlen limbOp_or u v hl hu hv
  exact ⟨e, l, by simp [ior_n, hl]⟩
example : ior_n [1, 0xf0] [B - 2, 0x0f] = [B - 1, 0xff] := by decide

/-- mpn_xor_n -/
theorem xor_n_spec (u v : List Nat) (hu : Limbs u) (hv : Limbs v) (hl : u.length = v.length) :
    val (xor_n u v) = val u ^^^ val v ∧ Limbs (xor_n u v) ∧ (xor_n u v).length = u.length := xor_n_val u v hu hv hl
example : xor_n [B - 1, 5] [1, 5] = [B - 2, 0] := by decide

/-- mpn_andn_n: u AND NOT v (`Nat.ldiff`: bit i is `uᵢ && !vᵢ`, `Nat.testBit_ldiff`) -/
theorem andn_n_spec (u v : List Nat) (hu : Limbs u) (hv : Limbs v) (hl : u.length = v.length) :
    val (andn_n u v) = Nat.ldiff (val u) (val v) ∧ Limbs (andn_n u v) ∧ (andn_n u v).length = u.length := by
  obtain ⟨e, l⟩ := zipWith_eqlen limbOp_andn u v hl hu hv
  exact ⟨e, l, by simp [andn_n, hl]⟩
example : andn_n [B - 1, 0xff] [0xf, 0xf0] = [B - 16, 0x0f] := by decide

/-- mpn_com_n: every bit of the n-limb vector flipped -/
theorem com_n_spec (u : List Nat) (hu : Limbs u) :
    val (com_n u) = B ^ u.length - 1 - val u ∧ Limbs (com_n u) ∧ (com_n u).length = u.length :=
  com_n_val u hu
example : com_n [0, B - 1, 5] = [B - 1, 0, B - 6] := by decide

/-- mpn_nand_n = complement of and_n within n limbs -/
theorem nand_n_spec (u v : List Nat) (hu : Limbs u) (hv : Limbs v) (hl : u.length = v.length) :
    val (nand_n u v) = B ^ u.length - 1 - (val u &&& val v) ∧ Limbs (nand_n u v) ∧
    (nand_n u v).length = u.length := by
  obtain ⟨e, l, n⟩ := and_n_spec u v hu hv hl
  obtain ⟨c1, c2, c3⟩ := com_n_val _ l
  rw [nand_n_eq]; exact ⟨by rw [c1, e, n], c2, by rw [c3, n]⟩
example : nand_n [B - 1, 3] [5, 6] = [B - 6, B - 3] := by decide

/-- mpn_nior_n -/
theorem nior_n_spec (u v : List Nat) (hu : Limbs u) (hv : Limbs v) (hl : u.length = v.length) :
    val (nior_n u v) = B ^ u.length - 1 - (val u ||| val v) ∧ Limbs (nior_n u v) ∧
    (nior_n u v).length = u.length := by
  obtain ⟨e, l, n⟩ := ior_n_spec u v hu hv hl
  obtain ⟨c1, c2, c3⟩ := com_n_val _ l
  rw [nior_n_eq]; exact ⟨by rw [c1, e, n], c2, by rw [c3, n]⟩
example : nior_n [1, 3] [4, 6] = [B - 6, B - 8] := by decide

/-- mpn_xnor_n -/
theorem xnor_n_spec (u v : List Nat) (hu : Limbs u) (hv : Limbs v) (hl : u.length = v.length) :
    val (xnor_n u v) = B ^ u.length - 1 - (val u ^^^ val v) ∧ Limbs (xnor_n u v) ∧
    (xnor_n u v).length = u.length := by
  obtain ⟨e, l, n⟩ := xor_n_spec u v hu hv hl
  obtain ⟨c1, c2, c3⟩ := com_n_val _ l
  rw [xnor_n_eq]; exact ⟨by rw [c1, e, n], c2, by rw [c3, n]⟩
example : xnor_n [1, 3] [4, 6] = [B - 6, B - 6] := by decide

/-- mpn_iorn_n: u OR NOT v = NOT (v AND NOT u) within n limbs -/
theorem iorn_n_spec (u v : List Nat) (hu : Limbs u) (hv : Limbs v) (hl : u.length = v.length) :
    val (iorn_n u v) = B ^ u.length - 1 - Nat.ldiff (val v) (val u) ∧ Limbs (iorn_n u v) ∧
    (iorn_n u v).length = u.length := by
  obtain ⟨e, l, n⟩ := andn_n_spec v u hv hu hl.symm
  obtain ⟨c1, c2, c3⟩ := com_n_val _ l
  rw [iorn_n_eq u v hu hv]; exact ⟨by rw [c1, e, n, hl], c2, by rw [c3, n, hl]⟩
example : iorn_n [1, 0] [B - 1, 0xff] = [1, B - 256] := by decide

/-! ## mpn_scan1 / mpn_scan0 (inside the C's documented precondition: a matching bit exists) -/

/-- mpn_scan1: the first one bit at or after `start`. -/
theorem mpn_scan1_spec (u : List Nat) (hu : Limbs u) (start : Nat)
    (hpre : ∃ j, start ≤ j ∧ (val u).testBit j = true) :
    ∃ r, mpn_scan1 u start = some r ∧ start ≤ r ∧ (val u).testBit r = true ∧
      ∀ j, start ≤ j → j < r → (val u).testBit j = false :=
  mpn_scan1_correct u hu start hpre
example : mpn_scan1 [0, 0, 0x50] 7 = some 132 ∧ mpn_scan1 [0xff, 0] 3 = some 3 := by decide

/-- mpn_scan0: the first zero bit at or after `start` (one must exist inside the operand). -/
theorem mpn_scan0_spec (u : List Nat) (hu : Limbs u) (start : Nat)
    (hpre : ∃ j, start ≤ j ∧ j / 64 < u.length ∧ (val u).testBit j = false) :
    ∃ r, mpn_scan0 u start = some r ∧ start ≤ r ∧ r / 64 < u.length ∧ (val u).testBit r = false ∧
      ∀ j, start ≤ j → j < r → (val u).testBit j = true :=
  mpn_scan0_correct u hu start hpre
example : mpn_scan0 [B - 1, B - 1, 0x2f] 7 = some 132 ∧ mpn_scan0 [0xf0, 0] 5 = some 8 := by decide

/-! ## mpz_and / mpz_ior / mpz_xor / mpz_com: all four sign combinations, any lengths, result well formed -/

/-- mpz_and equals Mathlib's two's-complement `Int.land`; the result is well formed (in particular in the
    case -,- where the result is one limb longer than both operands). -/
theorem mpz_and_spec (a b : Z) (ha : a.WF) (hb : b.WF) :
    (mpz_and a b).toInt = Int.land a.toInt b.toInt ∧ (mpz_and a b).WF := by
  rw [← land_eq]; exact mpz_and_land a b ha hb
-- -(B) & -(B^2-1) = -(B^2): grows a limb
example : mpz_and ⟨true, [0, 1]⟩ ⟨true, [B - 1, B - 1]⟩ = ⟨true, [0, 0, 1]⟩ := by decide
-- positive & negative with a low zero limb (borrow through |b| - 1)
example : mpz_and ⟨false, [B - 1, B - 1, 7]⟩ ⟨true, [0, 2]⟩ = ⟨false, [0, B - 2, 7]⟩ := by decide

/-- mpz_ior equals `Int.lor`. -/
theorem mpz_ior_spec (a b : Z) (ha : a.WF) (hb : b.WF) :
    (mpz_ior a b).toInt = Int.lor a.toInt b.toInt ∧ (mpz_ior a b).WF := by
  rw [← lor_eq]; exact mpz_ior_lor a b ha hb
example : mpz_ior ⟨false, [5]⟩ ⟨true, [0, 1]⟩ = ⟨true, [B - 5]⟩ := by decide
example : mpz_ior ⟨true, [0, 0, 1]⟩ ⟨true, [0, 3]⟩ = ⟨true, [0, 3]⟩ := by decide

/-- mpz_xor equals `Int.xor`. -/
theorem mpz_xor_spec (a b : Z) (ha : a.WF) (hb : b.WF) :
    (mpz_xor a b).toInt = Int.xor a.toInt b.toInt ∧ (mpz_xor a b).WF := by
  rw [← lxor_eq]; exact mpz_xor_lxor a b ha hb
-- (B-1) ^ -(1): a ^ (|b|-1) + 1 carries out of the limb
example : mpz_xor ⟨false, [B - 1]⟩ ⟨true, [1]⟩ = ⟨true, [0, 1]⟩ := by decide
example : mpz_xor ⟨true, [0, 1]⟩ ⟨true, [0, 1]⟩ = ⟨false, []⟩ := by decide

/-- mpz_com: `~x = -x - 1` (`Int.lnot`, which is also core's `~~~`). -/
theorem mpz_com_spec (a : Z) (ha : a.WF) :
    (mpz_com a).toInt = Int.lnot a.toInt ∧ (mpz_com a).toInt = -a.toInt - 1 ∧ (mpz_com a).WF := by
  obtain ⟨h1, h2⟩ := mpz_com_lnot a ha
  refine ⟨by rw [← lnot_eq]; exact h1, ?_, h2⟩
  rw [h1, lnot_eq_neg]
example : mpz_com ⟨false, [B - 1, B - 1]⟩ = ⟨true, [0, 0, 1]⟩ := by decide
example : mpz_com ⟨true, [0, 0, 1]⟩ = ⟨false, [B - 1, B - 1]⟩ := by decide

/-! ## mpz_tstbit -/

/-- mpz_tstbit returns bit `i` of the infinite two's-complement expansion (`Int.testBit`), for every index:
    below, inside and beyond the operand, both signs. -/
theorem tstbit_spec (u : Z) (hu : u.WF) (i : Nat) :
    mpz_tstbit u i = if Int.testBit u.toInt i then 1 else 0 := by
  rw [← testBit_eq]; exact mpz_tstbit_testBit u hu i
-- -(B^2) : bits 0..127 are 0, bit 128 and everything above is 1
example : (mpz_tstbit ⟨true, [0, 0, 1]⟩ 127, mpz_tstbit ⟨true, [0, 0, 1]⟩ 128, mpz_tstbit ⟨true, [0, 0, 1]⟩ 100000)
    = (0, 1, 1) := by decide
example : (mpz_tstbit ⟨true, [0, 6]⟩ 64, mpz_tstbit ⟨true, [0, 6]⟩ 65, mpz_tstbit ⟨true, [0, 6]⟩ 66) = (0, 1, 0) := by decide

/-! ## mpz_setbit / mpz_clrbit / mpz_combit: every index (below, inside, far above the operand), both signs -/

/-- mpz_setbit: `x | 2^i` in two's complement; the result is well formed (for a negative operand the
    magnitude shrinks and the high limb may vanish). -/
theorem setbit_spec (d : Z) (hd : d.WF) (i : Nat) :
    (mpz_setbit d i).toInt = Int.lor d.toInt ((2 : Int) ^ i) ∧ (mpz_setbit d i).WF := by
  rw [← ofNat_two_pow, ← lor_eq]; exact mpz_setbit_lor d hd i
-- -(B^2) | 2^5 = -(B^2 - 32): borrow through two limbs, the top limb disappears
example : mpz_setbit ⟨true, [0, 0, 1]⟩ 5 = ⟨true, [B - 32, B - 1]⟩ := by decide
example : mpz_setbit ⟨false, [7]⟩ 130 = ⟨false, [7, 0, 4]⟩ := by decide

/-- mpz_clrbit: `x & ~2^i` in two's complement (for a negative operand the magnitude grows, possibly by a
    limb). -/
theorem clrbit_spec (d : Z) (hd : d.WF) (i : Nat) :
    (mpz_clrbit d i).toInt = Int.land d.toInt (Int.lnot ((2 : Int) ^ i)) ∧ (mpz_clrbit d i).WF := by
  rw [← ofNat_two_pow, ← lnot_eq, ← land_eq]; exact mpz_clrbit_land d hd i
-- -(B^2 - 32) & ~2^5 = -(B^2): the carry runs off the end, one more limb
example : mpz_clrbit ⟨true, [B - 32, B - 1]⟩ 5 = ⟨true, [0, 0, 1]⟩ := by decide
example : mpz_clrbit ⟨false, [7, 0, 4]⟩ 130 = ⟨false, [7]⟩ := by decide
example : mpz_clrbit ⟨true, [5]⟩ 200 = ⟨true, [5, 0, 0, 256]⟩ := by decide

/-- mpz_combit: `x ^ 2^i` in two's complement. -/
theorem combit_spec (d : Z) (hd : d.WF) (i : Nat) :
    (mpz_combit d i).toInt = Int.xor d.toInt ((2 : Int) ^ i) ∧ (mpz_combit d i).WF := by
  rw [← ofNat_two_pow, ← lxor_eq]; exact mpz_combit_lxor d hd i
example : mpz_combit ⟨true, [B - 32, B - 1]⟩ 5 = ⟨true, [0, 0, 1]⟩ := by decide
example : mpz_combit ⟨true, [0, 0, 1]⟩ 5 = ⟨true, [B - 32, B - 1]⟩ := by decide
example : mpz_combit ⟨false, [0, 1]⟩ 64 = ⟨false, []⟩ := by decide

/-! ## popcount -/

/-- mpn_popcount: the number of one bits of the vector (= sum of the binary digits of its value). -/
theorem mpn_popcount_spec (u : List Nat) (hu : Limbs u) : mpn_popcount u = (Nat.digits 2 (val u)).sum :=
  mpn_popcount_digits u hu
example : mpn_popcount [B - 1, 0, 5] = 66 := by decide

/-- mpn_hamdist: the number of differing bit positions. -/
theorem mpn_hamdist_spec (u v : List Nat) (hu : Limbs u) (hv : Limbs v) (hl : u.length = v.length) :
    mpn_hamdist u v = (Nat.digits 2 (val u ^^^ val v)).sum := mpn_hamdist_digits u v hu hv hl
example : mpn_hamdist [B - 1, 1] [0, 3] = 65 := by decide

/-- mpz_popcount: the bit count for non-negative operands, the largest mp_bitcnt_t for negative ones (whose
    two's-complement expansion has infinitely many ones). -/
theorem popcount_spec (u : Z) (hu : u.WF) :
    mpz_popcount u = if u.toInt < 0 then BITCNT_MAX else (Nat.digits 2 u.toInt.toNat).sum := by
  rw [mpz_popcount_eq u hu, popcount_eq_digits]
example : mpz_popcount ⟨false, [B - 1, 0, 5]⟩ = 66 ∧ mpz_popcount ⟨true, [1]⟩ = 2 ^ 64 - 1 ∧
    mpz_popcount ⟨false, []⟩ = 0 := by decide

/-! ## mpz_scan1 / mpz_scan0 -/

/-- mpz_scan1: the first index ≥ start whose two's-complement bit is 1; the largest mp_bitcnt_t when there is
    none (non-negative operand, start beyond its highest one bit).  Any start, also far beyond the operand. -/
theorem scan1_spec (u : Z) (hu : u.WF) (start : Nat) :
    ((∃ j, start ≤ j ∧ Int.testBit u.toInt j = true) →
      start ≤ mpz_scan1 u start ∧ Int.testBit u.toInt (mpz_scan1 u start) = true ∧
      ∀ j, start ≤ j → j < mpz_scan1 u start → Int.testBit u.toInt j = false) ∧
    ((∀ j, start ≤ j → Int.testBit u.toInt j = false) → mpz_scan1 u start = BITCNT_MAX) :=
  first_or_max (b := true) (mpz_scan1_cases u hu start)
-- -(2^64 * 6): first one at bit 65; beyond the operand the answer is the start itself; none for a positive number
example : mpz_scan1 ⟨true, [0, 6]⟩ 3 = 65 ∧ mpz_scan1 ⟨true, [0, 6]⟩ 66 = 67 ∧ mpz_scan1 ⟨true, [0, 6]⟩ 1000 = 1000 ∧
    mpz_scan1 ⟨false, [0, 6]⟩ 67 = 2 ^ 64 - 1 := by decide

/-- mpz_scan0: the first index ≥ start whose two's-complement bit is 0; the largest mp_bitcnt_t when there is
    none (negative operand, start beyond its highest zero bit). -/
theorem scan0_spec (u : Z) (hu : u.WF) (start : Nat) :
    ((∃ j, start ≤ j ∧ Int.testBit u.toInt j = false) →
      start ≤ mpz_scan0 u start ∧ Int.testBit u.toInt (mpz_scan0 u start) = false ∧
      ∀ j, start ≤ j → j < mpz_scan0 u start → Int.testBit u.toInt j = true) ∧
    ((∀ j, start ≤ j → Int.testBit u.toInt j = true) → mpz_scan0 u start = BITCNT_MAX) :=
  first_or_max (b := false) (mpz_scan0_cases u hu start)
example : mpz_scan0 ⟨false, [B - 1, 7]⟩ 3 = 67 ∧ mpz_scan0 ⟨true, [0, 6]⟩ 65 = 66 ∧ mpz_scan0 ⟨true, [0, 6]⟩ 67 = 2 ^ 64 - 1 ∧
    mpz_scan0 ⟨true, [0, 6]⟩ 5 = 5 ∧ mpz_scan0 ⟨false, [B - 1, 7]⟩ 500 = 500 := by decide

/-! ## mpz_hamdist -/

/-- mpz_hamdist: the number of differing bit positions of the two infinite two's-complement expansions when
    the signs agree (the xor is then non-negative), the largest mp_bitcnt_t when they differ (infinitely many
    positions differ).  Any lengths, any number of low zero limbs on either side. -/
theorem hamdist_spec (u v : Z) (hu : u.WF) (hv : v.WF) :
    mpz_hamdist u v = if (u.toInt < 0 ↔ v.toInt < 0) then (Nat.digits 2 (Int.xor u.toInt v.toInt).toNat).sum
      else BITCNT_MAX := by
  rw [mpz_hamdist_eq u v hu hv, ← lxor_eq, ← popcount_eq_digits]
  unfold specHamdist
  by_cases h1 : u.toInt < 0 <;> by_cases h2 : v.toInt < 0 <;> simp [h1, h2]
-- -(B^2) vs -(3B): |a|-1 = [B-1,B-1], |b|-1 = [B-1,2]: 63 differing bits; opposite signs: maximum
example : mpz_hamdist ⟨true, [0, 0, 1]⟩ ⟨true, [0, 3]⟩ = 63 ∧ mpz_hamdist ⟨true, [5]⟩ ⟨false, [5]⟩ = 2 ^ 64 - 1 ∧
    mpz_hamdist ⟨false, [B - 1, 1]⟩ ⟨false, [0, 3, 1]⟩ = 66 := by decide

/-! ## the well-formedness hypotheses cover every integer -/

/-- `Z.ofInt` (what the driver feeds the models) represents every integer by a well-formed operand, so the
    theorems above quantify over all of ℤ: e.g. the three binary operations on arbitrary integers. -/
theorem bitops_on_all_integers (x y : Int) :
    (Z.ofInt x).WF ∧ (Z.ofInt x).toInt = x ∧
    (mpz_and (Z.ofInt x) (Z.ofInt y)).toInt = Int.land x y ∧
    (mpz_ior (Z.ofInt x) (Z.ofInt y)).toInt = Int.lor x y ∧
    (mpz_xor (Z.ofInt x) (Z.ofInt y)).toInt = Int.xor x y ∧
    (mpz_com (Z.ofInt x)).toInt = -x - 1 := by
  obtain ⟨ex, wx⟩ := ofInt_spec x
  obtain ⟨ey, wy⟩ := ofInt_spec y
  refine ⟨wx, ex, ?_, ?_, ?_, ?_⟩
  · rw [(mpz_and_spec _ _ wx wy).1, ex, ey]
  · rw [(mpz_ior_spec _ _ wx wy).1, ex, ey]
  · rw [(mpz_xor_spec _ _ wx wy).1, ex, ey]
  · rw [(mpz_com_spec _ wx).2.1, ex]
example : Z.ofInt (-(2 ^ 64)) = ⟨true, [0, 1]⟩ := by
  unfold Z.ofInt; rw [natLimbs, dif_neg (by decide), natLimbs, dif_neg (by decide), natLimbs]; decide

end Mpir.Bits
