/-
  C07 — the half-gcd layer (mpn/generic/hgcd_matrix.c, matrix22_mul.c, matrix22_mul1_inverse_vector.c,
  hgcd_step.c, gcd_subdiv_step.c, hgcd.c, hgcd_reduce.c, hgcd_appr.c).
  Property theorems only; they are about the value-level models of Mpir/Model/Hgcd.lean, which the
  correspondence run compares with the real functions on their full output (ops of harness/ops_hgcd.c).
  Notation: `MRel m x y X Y` is "det m = 1 and (X; Y) = m·(x; y)"; `mmul` the 2×2 product; `HM.Fits` "every
  entry is below B^(M->n)"; all entries are naturals, so non-negativity is built in.
-/
import MpirProofs.Lemmas.HgcdRec2
import MpirProofs.Lemmas.HgcdWrap
namespace Mpir.C07h
open Mpir Mpir.Gcd Mpir.Hgcd

/-! ## 1. Matrix arithmetic -/

/-- mpn_matrix22_mul — the basecase and the Strassen-like schedule of mpn_matrix22_mul_strassen with all its
    sign flags (r1s, r3s, s0s, t0s, u1s), stored carry limbs and dropped carries — returns the plain product
    R·M of 2×2 matrices, for all entries r_i < B^rn, m_i < B^mn and every MATRIX22_STRASSEN_THRESHOLD.
    In particular each ASSERT_NOCARRY of the C holds (the model reduces modulo the area size there). -/
theorem matrix22_mul_correct (thr r0 r1 r2 r3 rn m0 m1 m2 m3 mn : Nat)
    (h0 : r0 < B ^ rn) (h1 : r1 < B ^ rn) (h2 : r2 < B ^ rn) (h3 : r3 < B ^ rn)
    (g0 : m0 < B ^ mn) (g1 : m1 < B ^ mn) (g2 : m2 < B ^ mn) (g3 : m3 < B ^ mn) :
    matrix22Mul thr r0 r1 r2 r3 rn m0 m1 m2 m3 mn
      = (r0 * m0 + r1 * m2, r0 * m1 + r1 * m3, r2 * m0 + r3 * m2, r2 * m1 + r3 * m3) ∧
    strassen r0 r1 r2 r3 rn m0 m1 m2 m3 mn
      = (r0 * m0 + r1 * m2, r0 * m1 + r1 * m3, r2 * m0 + r3 * m2, r2 * m1 + r3 * m3) := by
  refine ⟨matrix22Mul_eq thr _ _ _ _ _ _ _ _ _ _ h0 h1 h2 h3 g0 g1 g2 g3, ?_⟩
  rw [strassen_eq _ _ _ _ _ _ _ _ _ _ h0 h1 h2 h3 g0 g1 g2 g3]
  unfold matrix22MulBase; simp only [Nat.add_comm]

-- non-vacuity: r3 < r2, r1 < |r3 - r2| and m3 < m2 (negative intermediate values), one-limb operands
example : strassen 5 2 (B - 1) 3 1 7 (B - 2) (B - 1) 1 1 =
    (5 * 7 + 2 * (B - 1), 5 * (B - 2) + 2 * 1, (B - 1) * 7 + 3 * (B - 1), (B - 1) * (B - 2) + 3 * 1) := by decide +kernel
example : matrix22Mul 1 5 2 (B - 1) 3 1 7 (B - 2) (B - 1) 1 1 = matrix22Mul 2 5 2 (B - 1) 3 1 7 (B - 2) (B - 1) 1 1 := by
  decide +kernel

/-- mpn_hgcd_matrix_init: the identity, M->n = 1, alloc = (n+1)/2 + 1. -/
theorem hgcd_matrix_init_correct (n : Nat) :
    (matInit n).toM1 = ⟨1, 0, 0, 1⟩ ∧ (matInit n).n = 1 ∧ (matInit n).alloc = (n + 1) / 2 + 1 ∧ (matInit n).Fits ∧
    det1 (matInit n).toM1 := matInit_spec n

example : matInit 7 = ⟨5, 1, 1, 0, 0, 1⟩ := by decide

/-- mpn_hgcd_matrix_update_q (M, q, col) for a normalised q > 0 (both the qn = 1 branch with mpn_addmul_1
    and the general branch with its normalisation loop): M := M·E, E = (1 0; q 1) for col = 0 and
    (1 q; 0 1) for col = 1; hence det M = 1 is preserved and (a; b) = M·(x; y) becomes (a; b) = M'·(x'; y')
    for the pair after the quotient step; the new M->n bounds every entry, M->n ≤ old + qn + 1, and for a
    one-limb q: old ≤ M->n ≤ old + 1. -/
theorem hgcd_matrix_update_q_correct (M : HM) (q col : Nat) (hq : 0 < q) (hcol : col ≤ 1) (hf : M.Fits) (hn : 1 ≤ M.n) :
    (updateQ M q col).toM1 = mmul M.toM1 (elemQ q col) ∧ (updateQ M q col).Fits ∧
    (updateQ M q col).alloc = M.alloc ∧ (updateQ M q col).n ≤ M.n + nlimbs q + 1 ∧
    (nlimbs q = 1 → M.n ≤ (updateQ M q col).n ∧ (updateQ M q col).n ≤ M.n + 1) ∧
    (det1 M.toM1 → det1 (updateQ M q col).toM1) ∧
    (∀ x y a b, MRel M.toM1 x y a b →
      (col = 1 → q * y ≤ x → MRel (updateQ M q col).toM1 (x - q * y) y a b) ∧
      (col = 0 → q * x ≤ y → MRel (updateQ M q col).toM1 x (y - q * x) a b)) := by
  obtain ⟨e, f, al, n1, n2, _⟩ := updateQ_spec M q col hq hcol hf hn
  refine ⟨e, f, al, n1, n2, fun hd => by rw [e]; exact det1_mmul hd (det1_elemQ q col), fun x y a b hr => ⟨?_, ?_⟩⟩
  · intro hc hle
    rw [e, hc]
    exact mrel_comp hr (mrel_elemQ1 q x y hle)
  · intro hc hle
    rw [e, hc]
    exact mrel_comp hr (mrel_elemQ0 q x y hle)

-- non-vacuity: a two-limb quotient, the column that is multiplied is shorter than M->n
example : updateQ ⟨6, 2, 3, B + 1, 2, B⟩ (B + 5) 0 = ⟨6, 3, 3 + (B + 1) * (B + 5), B + 1, 2 + B * (B + 5), B⟩ := by
  decide +kernel

/-- mpn_hgcd_matrix_mul_1 (M, M1) for a matrix of limbs below 2^63 (what mpn_hgcd2 returns): M := M·M1
    exactly (no carry limb lost in mpn_hgcd_mul_matrix1_vector), and M grows by at most one limb. -/
theorem hgcd_matrix_mul_1_correct (M : HM) (m : M1) (hf : M.Fits) (hm : Msb0 m) :
    (matMul1 M m).toM1 = mmul M.toM1 m ∧ (matMul1 M m).Fits ∧ (matMul1 M m).alloc = M.alloc ∧
    M.n ≤ (matMul1 M m).n ∧ (matMul1 M m).n ≤ M.n + 1 ∧
    (det1 M.toM1 → det1 m → det1 (matMul1 M m).toM1) := by
  obtain ⟨e, f, al, n1, n2, _⟩ := matMul1_spec M m hf hm
  exact ⟨e, f, al, n1, n2, fun h1 h2 => by rw [e]; exact det1_mmul h1 h2⟩

example : matMul1 ⟨4, 1, B - 1, 2, 3, B - 4⟩ ⟨2 ^ 62, 2 ^ 62 - 1, 3, 3⟩ =
    ⟨4, 2, (B - 1) * 2 ^ 62 + 2 * 3, (B - 1) * (2 ^ 62 - 1) + 2 * 3, 3 * 2 ^ 62 + (B - 4) * 3, 3 * (2 ^ 62 - 1) + (B - 4) * 3⟩ := by
  decide +kernel

/-- mpn_hgcd_matrix_mul (M, M1), any MATRIX22_STRASSEN_THRESHOLD: M := M·M1 exactly; the size after the
    three conditional decrements bounds every entry and is at most M->n + M1->n + 1; determinant 1 and the
    reconstruction (a; b) = M·(x; y), (x; y) = M1·(x'; y') ⇒ (a; b) = (M·M1)·(x'; y') are preserved. -/
theorem hgcd_matrix_mul_correct (thr : Nat) (M M1 : HM) (hf : M.Fits) (hf1 : M1.Fits) :
    (matMul thr M M1).toM1 = mmul M.toM1 M1.toM1 ∧ (matMul thr M M1).Fits ∧ (matMul thr M M1).alloc = M.alloc ∧
    1 ≤ (matMul thr M M1).n ∧ (matMul thr M M1).n ≤ M.n + M1.n + 1 ∧
    (det1 M.toM1 → det1 M1.toM1 → det1 (matMul thr M M1).toM1) ∧
    (∀ x y a b x' y', MRel M.toM1 x y a b → MRel M1.toM1 x' y' x y → MRel (matMul thr M M1).toM1 x' y' a b) := by
  obtain ⟨e, f, al, n1, n2⟩ := matMul_spec thr M M1 hf hf1
  exact ⟨e, f, al, n1, n2, fun h1 h2 => by rw [e]; exact det1_mmul h1 h2,
    fun x y a b x' y' h1 h2 => by rw [e]; exact mrel_comp h1 h2⟩

example : matMul 1 ⟨9, 2, B + 3, 1, 2, 1⟩ ⟨9, 1, 5, 7, 2, 3⟩ = ⟨9, 2, (B + 3) * 5 + 2, (B + 3) * 7 + 3, 12, 17⟩ := by
  decide +kernel

/-- mpn_matrix22_mul1_inverse_vector: whenever (a; b) = M1·(x; y) with det M1 = 1 it returns exactly (x; y)
    (the two high limbs the C only ASSERTs equal do cancel), and the returned size bounds both and is n or n-1,
    n only if one of the results uses limb n-1. -/
theorem matrix22_mul1_inverse_vector_correct (m : M1) (a b n x y : Nat) (h : MRel m x y a b)
    (ha : a < B ^ n) (hb : b < B ^ n) (hn : 1 ≤ n) :
    (mul1InvVec m a b n).1 = x ∧ (mul1InvVec m a b n).2.1 = y ∧
    x < B ^ (mul1InvVec m a b n).2.2 ∧ y < B ^ (mul1InvVec m a b n).2.2 ∧
    (mul1InvVec m a b n).2.2 ≤ n ∧ n - 1 ≤ (mul1InvVec m a b n).2.2 ∧
    ((mul1InvVec m a b n).2.2 = n → B ^ (n - 1) ≤ x ∨ B ^ (n - 1) ≤ y) :=
  mul1InvVec_spec m a b n x y h ha hb hn

example : mul1InvVec ⟨3, 2, 4, 3⟩ (3 * (B + 7) + 2 * 5) (4 * (B + 7) + 3 * 5) 2 = (B + 7, 5, 2) := by decide +kernel

/-- mpn_hgcd_matrix_adjust (M, n, a, b, p): the limbs of a, b from p on hold (s; t) = M⁻¹(S; T) for the
    high parts S, T of the original numbers, and M's off-diagonal entries do not exceed s resp. t (which
    the size contract of mpn_hgcd provides).  Then the result is EXACTLY M⁻¹ applied to the complete
    original numbers B^p·S + (a mod B^p), B^p·T + (b mod B^p) — so the C's `ASSERT (cy <= ah)`,
    `ASSERT (cy <= bh)` hold —, the returned size bounds both numbers, differs from n by at most one, is
    tight when it did not shrink, and the results are at least B^p·(s - m01) resp. B^p·(t - m10). -/
theorem hgcd_matrix_adjust_correct (M : HM) (n a b p S T : Nat) (hf : M.Fits) (hpn : p + M.n ≤ n)
    (ha : a < B ^ n) (hb : b < B ^ n) (hn : 1 ≤ n)
    (hr : MRel M.toM1 (a / B ^ p) (b / B ^ p) S T) (h01 : M.e01 ≤ a / B ^ p) (h10 : M.e10 ≤ b / B ^ p) :
    MRel M.toM1 (matAdjust M n a b p).2.1 (matAdjust M n a b p).2.2 (B ^ p * S + a % B ^ p) (B ^ p * T + b % B ^ p) ∧
    (matAdjust M n a b p).2.1 < B ^ (matAdjust M n a b p).1 ∧ (matAdjust M n a b p).2.2 < B ^ (matAdjust M n a b p).1 ∧
    n - 1 ≤ (matAdjust M n a b p).1 ∧ (matAdjust M n a b p).1 ≤ n + 1 ∧
    (n ≤ (matAdjust M n a b p).1 → B ^ ((matAdjust M n a b p).1 - 1) ≤ (matAdjust M n a b p).2.1 ∨
        B ^ ((matAdjust M n a b p).1 - 1) ≤ (matAdjust M n a b p).2.2) ∧
    B ^ p * (a / B ^ p - M.e01) ≤ (matAdjust M n a b p).2.1 ∧ B ^ p * (b / B ^ p - M.e10) ≤ (matAdjust M n a b p).2.2 :=
  matAdjust_spec M n a b p S T M.n hpn hf.1 hf.2.2.2 ha hb hn hr h01 h10

-- non-vacuity: M = (3 2; 4 3), p = 1, reduced high parts (B+7; B+5), low limbs (11; B-1)
example : matAdjust ⟨3, 1, 3, 2, 4, 3⟩ 3 (B * (B + 7) + 11) (B * (B + 5) + (B - 1)) 1
    = (3, B * (B + 7) + 3 * 11 - 2 * (B - 1), B * (B + 5) + 3 * (B - 1) - 4 * 11) := by decide +kernel

/-! ## 2. mpn_hgcd_step, mpn_hgcd, mpn_hgcd_reduce -/

/-- mpn_hgcd_step (n, a, b, s, M) — an mpn_hgcd2 step on the (shifted) top limbs, else mpn_gcd_subdiv_step
    with hgcd_hook (subtraction, division, "quotient one too large" correction, every `return 0`) — for
    n > s ≥ 1, a, b < B^n, entries of M within M->n limbs.  Whatever is returned, M' = M·E and
    (a; b) = E·(a'; b') for a non-negative E with det E = 1: gcd(a', b') = gcd(a, b), det M is preserved and
    the reconstruction through M stays exact (also on the `return 0` path that has already recorded a
    subtraction).  On success E ≠ I, BOTH a', b' keep more than s limbs ("never below the given size s"),
    the returned size is exact and ≤ n; on `return 0` one of a', b', |a' - b'| fits in s limbs. -/
theorem hgcd_step_correct (n a b s : Nat) (M : HM) (hf : M.Fits) (hMn : 1 ≤ M.n) (hs : s < n) (hs0 : 1 ≤ s)
    (ha : a < B ^ n) (hb : b < B ^ n) :
    ∃ E : M1, det1 E ∧ (hgcdStep n a b s M).M.toM1 = mmul M.toM1 E ∧
      MRel E (hgcdStep n a b s M).a (hgcdStep n a b s M).b a b ∧
      Nat.gcd (hgcdStep n a b s M).a (hgcdStep n a b s M).b = Nat.gcd a b ∧
      (hgcdStep n a b s M).M.Fits ∧ (hgcdStep n a b s M).M.alloc = M.alloc ∧
      ((hgcdStep n a b s M).ret ≠ 0 → NonId E ∧ B ^ s ≤ (hgcdStep n a b s M).a ∧ B ^ s ≤ (hgcdStep n a b s M).b ∧
        (hgcdStep n a b s M).a < B ^ (hgcdStep n a b s M).ret ∧ (hgcdStep n a b s M).b < B ^ (hgcdStep n a b s M).ret ∧
        (B ^ ((hgcdStep n a b s M).ret - 1) ≤ (hgcdStep n a b s M).a ∨ B ^ ((hgcdStep n a b s M).ret - 1) ≤ (hgcdStep n a b s M).b) ∧
        (hgcdStep n a b s M).ret ≤ n) ∧
      ((hgcdStep n a b s M).ret = 0 → (hgcdStep n a b s M).a < B ^ s ∨ (hgcdStep n a b s M).b < B ^ s ∨
        absDiff (hgcdStep n a b s M).a (hgcdStep n a b s M).b < B ^ s) := by
  obtain ⟨E, e1, e2, e3, e4, _, e5, e6⟩ := hgcdStep_spec n a b s M ⟨hf, hMn⟩ (by omega) hs hs0 ha hb
  exact ⟨E, e2.1, e1, e2, (mrel_gcd e2).symm, e3.1, e4, e5, fun h => (e6 h).2.2.1⟩

-- non-vacuity: a subtract-and-divide step (top limbs too small for hgcd2), and an hgcd2 step
example : hgcdStep 3 (B ^ 2 + 5) (3 * B ^ 2 + B + 1) 2 (matInit 3) =
    ⟨3, B ^ 2 + 5, B ^ 2 + B - 9, ⟨3, 1, 1, 0, 2, 1⟩⟩ := by decide +kernel
example : (hgcdStep 4 (B ^ 4 - 1) (B ^ 4 - B ^ 3 + 77) 2 (matInit 4)).ret = 4 := by decide +kernel

/-- PARTIAL (full statement: the same for all n; missing: operands of HGCD_REDUCE_THRESHOLD limbs or more, where
    mpn_hgcd_reduce goes through mpn_hgcd_appr and hgcd_matrix_apply — the truncation analysis of mpn_hgcd_appr
    is not proved, `wrap_exact` covers the mod B^k − 1 products; and the bound M->n < M->alloc, which needs the
    normalisation argument of mpn_hgcd_matrix_mul's comment).
    **The contract of mpn_hgcd** (comment at the top of hgcd.c, hgcd_step.c and the size analysis), for the
    model `hgcd` — the recursion with p = n/2 through mpn_hgcd_reduce, the loop of steps while n > 3n/4 + 1, the
    second recursive call with mpn_hgcd_matrix_adjust and mpn_hgcd_matrix_mul, the final loop — for ALL
    thresholds with HGCD_THRESHOLD ≥ 8 (the tuner's minimum is 30) and every MATRIX22_STRASSEN_THRESHOLD,
    n < HGCD_REDUCE_THRESHOLD, a, b < B^n with one of them using limb n-1, M initialised by
    mpn_hgcd_matrix_init.  With s = n/2 + 1:
    * always: det M = 1, (a; b) = M·(a'; b') exactly over the naturals (so gcd(a', b') = gcd(a, b) and any
      cofactor relation transported through M is exact — no matter which branch was taken), the entries fit
      M->n limbs;
    * if nn > 0 is returned: M ≠ I, a' and b' both have MORE than s limbs (≥ B^s), |a' − b'| fits in s limbs
      (< B^s), both are below B^nn with one of them using limb nn-1, nn ≤ n;
    * if 0 is returned and n ≥ 5: a, b and M are unchanged. -/
theorem mpn_hgcd_correct_partial (thr : Thr) (ns : Nat → Nat) (h8 : 8 ≤ thr.hgcd) (n a b : Nat) (hthr : n < thr.reduce)
    (ha : a < B ^ n) (hb : b < B ^ n) (ht : B ^ (n - 1) ≤ a ∨ B ^ (n - 1) ≤ b) :
    let r := hgcd thr ns n a b (matInit n)
    det1 r.M.toM1 ∧ MRel r.M.toM1 r.a r.b a b ∧ Nat.gcd r.a r.b = Nat.gcd a b ∧ r.M.Fits ∧
    (r.ret ≠ 0 → NonId r.M.toM1 ∧ B ^ (n / 2 + 1) ≤ r.a ∧ B ^ (n / 2 + 1) ≤ r.b ∧ absDiff r.a r.b < B ^ (n / 2 + 1) ∧
        r.a < B ^ r.ret ∧ r.b < B ^ r.ret ∧ (B ^ (r.ret - 1) ≤ r.a ∨ B ^ (r.ret - 1) ≤ r.b) ∧ r.ret ≤ n) ∧
    (r.ret = 0 → 5 ≤ n → r.a = a ∧ r.b = b ∧ r.M = matInit n) := by
  intro r
  obtain ⟨⟨l1, l2, _, l4, l5⟩, l6⟩ := hgcd_spec thr ns h8 n a b (matInit n) hthr (hpre_matInit n a b ha hb ht)
  refine ⟨l1.1, l1, (mrel_gcd l1).symm, l2.1, fun h => ?_, fun h h5 => (l6 h).2.2 h5⟩
  obtain ⟨k1, k2, k3, k4, k5, k6, k7⟩ := l5 h
  exact ⟨k1, k2, k3, k7, k4, k5, k6, l4⟩

-- non-vacuity: 6-limb Fibonacci-like operands below and above a (small) HGCD_THRESHOLD: same reduction, 4 limbs left
example : (hgcd ⟨8, 50, 1000, 2⟩ id 9 (3 ^ 360) (5 ^ 240) (matInit 9)).ret = 6 := by decide +kernel
example : (hgcd ⟨100, 50, 1000, 2⟩ id 9 (3 ^ 360) (5 ^ 240) (matInit 9)).ret = 6 := by decide +kernel

/-- PARTIAL in the same sense (n < HGCD_REDUCE_THRESHOLD).  mpn_hgcd_reduce (M, a, b, n, p): mpn_hgcd on the
    limbs from p on, then mpn_hgcd_matrix_adjust.  On success (a; b) = M·(a'; b') exactly, M ≠ I, a', b' ≥
    B^(p + (n-p)/2) — for p = n/2 that is more than n/2 + 1 limbs —, below B^nn, nn exact and ≤ n; when 0 is
    returned (and n - p ≥ 5) nothing was changed. -/
theorem mpn_hgcd_reduce_correct_partial (thr : Thr) (ns : Nat → Nat) (h8 : 8 ≤ thr.hgcd) (a b n p : Nat) (hpn : p < n)
    (hthr : n < thr.reduce) (ha : a < B ^ n) (hb : b < B ^ n) (ht : B ^ (n - 1) ≤ a ∨ B ^ (n - 1) ≤ b) :
    let r := hgcdReduce thr ns (matInit (n - p)) a b n p
    r.M.Fits ∧
    (r.ret ≠ 0 → MRel r.M.toM1 r.a r.b a b ∧ Nat.gcd r.a r.b = Nat.gcd a b ∧ NonId r.M.toM1 ∧
        B ^ (p + (n - p) / 2) ≤ r.a ∧ B ^ (p + (n - p) / 2) ≤ r.b ∧ r.a < B ^ r.ret ∧ r.b < B ^ r.ret ∧
        (B ^ (r.ret - 1) ≤ r.a ∨ B ^ (r.ret - 1) ≤ r.b) ∧ r.ret ≤ n) ∧
    (r.ret = 0 → 5 ≤ n - p → r.a = a ∧ r.b = b ∧ r.M = matInit (n - p)) := by
  intro r
  obtain ⟨e1, e2, _, e4, _⟩ := matInit_spec (n - p)
  obtain ⟨q1, _, q3, q4⟩ := hgcdReduce_spec thr ns h8 (matInit (n - p)) a b n p hpn hthr ⟨e1, ⟨e4, by rw [e2]⟩, ha, hb, ht⟩
  refine ⟨q1.1, fun h => ?_, q4⟩
  obtain ⟨k1, k2, k3, k4, k5, k6, k7, k8⟩ := q3 h
  exact ⟨k1, (mrel_gcd k1).symm, k2, k3, k4, k5, k6, k7, k8⟩

example : (hgcdReduce ⟨100, 50, 1000, 2⟩ id (matInit 6) (3 ^ 360) (5 ^ 240) 9 3).ret = 8 := by decide +kernel

/-! ## 3. hgcd_matrix_apply: products modulo B^modn − 1 -/

/-- The "wrap-around" computation of hgcd_matrix_apply (hgcd_reduce.c:128-186).  (1) Folding an operand of at
    most 2·modn limbs (`cy = mpn_add (ap, ap, modn, ap + modn, n - modn); MPN_INCR_U (ap, modn, cy)`) gives a
    modn-limb number congruent to it modulo B^modn − 1.  (2) For ANY representatives t, s < B^modn of two
    products X, Y modulo B^modn − 1 (whatever mpn_mulmod_bnm1 leaves, including the two representatives of 0),
    the subtraction with end-around borrow (`cy = mpn_sub_n; MPN_DECR_U (tp, modn, cy)`) returns X − Y EXACTLY
    whenever 0 < X − Y < B^modn − 1 — which holds for the entries of M⁻¹(a; b): they are positive and, by
    the size bound nn = max(un, vn) < modn stated in the C, shorter than modn limbs. -/
theorem hgcd_matrix_apply_wrap_exact (modn : Nat) (hm : 1 ≤ modn) :
    (∀ a, a < B ^ modn * B ^ modn → foldBnm1 a modn < B ^ modn ∧ foldBnm1 a modn ≡ a [MOD B ^ modn - 1]) ∧
    (∀ t s X Y x, t < B ^ modn → s < B ^ modn → t ≡ X [MOD B ^ modn - 1] → s ≡ Y [MOD B ^ modn - 1] →
      X = Y + x → 0 < x → x < B ^ modn - 1 → subBnm1 t s modn = x) :=
  ⟨fun a ha => foldBnm1_spec a modn hm ha,
   fun t s X Y x ht hs hX hY hx h0 hP => wrap_exact t s modn X Y x hm ht hs hX hY hx h0 hP⟩

-- non-vacuity: modn = 1; 5·B + (B - 2) ≡ 4 and 2 - (B - 3) ≡ 4 modulo B - 1, the subtraction wraps around
example : foldBnm1 (B * 5 + (B - 2)) 1 = 4 := by decide +kernel
example : subBnm1 2 (B - 3) 1 = 4 := by decide +kernel

end Mpir.C07h
