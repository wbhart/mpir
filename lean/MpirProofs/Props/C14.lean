/-
  C14 — independence from tuning tables: every threshold vector shipped in the tree (each mpn/**/gmp-mparam.h with
  gmp-impl.h's defaults applied, regenerated from the source on every check into Mpir/Gen/ShippedParams.lean)
  satisfies the conditions the algorithms put on their thresholds (Mpir/Model/ParamsValid.lean), under every
  build configuration (native Karatsuba helpers or not, REDC_2 or not).
  Property theorems only; the lemmas about an arbitrary table are in MpirProofs/Lemmas/Params.lean.
-/
import MpirProofs.Lemmas.Params
import Mpir.Gen.ShippedParams
namespace Mpir.Params

/-- Every shipped tuning table is valid: no dispatch chain hands an algorithm a size below its stated minimum,
    no recursion loses its base case, no fixed buffer is undersized, no threshold product overflows. -/
theorem all_shipped_params_valid : ∀ p ∈ Gen.shippedParams, Valid Gen.minSizes p := by
  have h : ∀ p ∈ Gen.shippedParams, ValidSplit Gen.minSizes p := by decide +kernel
  exact fun p hp => valid_of_split (by decide) (h p hp)

/-- The generated list is not empty (the theorem above is not vacuous) and contains the table of the pinned build. -/
theorem shipped_params_nonempty : 20 ≤ Gen.shippedParams.length ∧
    (Gen.shippedParams.map (·.file)).contains "mpn/x86_64/gmp-mparam.h" = true := by
  decide +kernel

private def sample : Params :=
  { file := "sample", mulKaratsuba := 16, mulToom3 := 105, mulToom4 := 246, mulToom8h := 303, mulFftFull := 3904,
    sqrBasecase := 0, sqrKaratsuba := 26, sqrToom3 := 162, sqrToom4 := 268, sqrToom8 := 348, sqrFftFull := 2880,
    mulhighBasecase := 10, mulhighDc := 27, mulmidToom42 := 36, dcDivQr := 30, invDivQr := 2089, dcDivQ := 44, invDivQ := 1470,
    dcBdivQr := 36, dcBdivQ := 44, binvNewton := 57, redc1ToRedc2 := 28, redc2ToRedcN := 0, redc1ToRedcN := 100,
    hgcd := 75, hgcdAppr := 50, mod11 := 6, mod12 := 8, mod13 := 19, getStrDc := 13, getStrPrecompute := 22,
    setStrDc := 890, setStrPrecompute := 2093, divremHenselQr1 := 996, rshDivremHenselQr1 := 5 }

private theorem mulMin_le (c : Cfg) (a : MulAlg) : mulMin Gen.minSizes c a ≤ sizeBound := by
  cases c with | mk k r => cases k <;> cases r <;> cases a <;> decide
private theorem sqrMin_le (c : Cfg) (a : SqrAlg) : sqrMin Gen.minSizes c a ≤ sizeBound := by
  cases c with | mk k r => cases k <;> cases r <;> cases a <;> decide

/-- For every shipped table, every build configuration and EVERY operand size n >= 1 (not only the sizes below
    `sizeBound` that `Valid` enumerates): the `if` chains of mpn_mul_n and mpn_sqr (mul_n.c:289-388, mirrored by
    `mulSel` / `sqrSel`) select an algorithm whose stated minimum size (MPN_*_MINSIZE of gmp-impl.h, regenerated) is at most n. -/
theorem shipped_dispatch_respects_minima :
    ∀ p ∈ Gen.shippedParams, ∀ c : Cfg, ∀ n, 1 ≤ n →
      mulMin Gen.minSizes c (mulSel p n) ≤ n ∧ sqrMin Gen.minSizes c (sqrSel p n) ≤ n := by
  intro p hp c n hn
  have hc : c ∈ allCfgs := by cases c with | mk k r => cases k <;> cases r <;> decide
  obtain ⟨_, h1, h2, _⟩ := all_shipped_params_valid p hp c hc
  by_cases hlt : n < sizeBound
  · exact ⟨h1 n hlt hn, h2 n hlt hn⟩
  · have hge : sizeBound ≤ n := Nat.le_of_not_lt hlt
    exact ⟨Nat.le_trans (mulMin_le c _) hge, Nat.le_trans (sqrMin_le c _) hge⟩

-- non-vacuity: on a sample table the selection changes exactly at the thresholds (mulToom3 = 105, sqrKaratsuba = 26)
example : mulSel sample 104 = .kara ∧ mulSel sample 105 = .toom3 ∧ sqrSel sample 26 = .kara ∧ sqrSel sample 25 = .sqrBasecase := by decide

-- non-vacuity: `Valid` accepts a real table …
example : Valid Gen.minSizes sample := valid_of_split (by decide) (by decide +kernel)
-- … and rejects tables that break a stated requirement:
-- Toom-3 from n = 12 (toom3_mul_n.c:92 needs n >= 17)
example : ¬ Valid Gen.minSizes { sample with mulToom3 := 12 } := fun h =>
  have ⟨_, hmul, _⟩ := h ⟨false, false⟩ (by decide)
  absurd hmul (by decide +kernel)
-- REDC_1 -> REDC_N "always": mpn_redc_n would be called with n <= 8 (redc_n.c:59)
example : ¬ Valid Gen.minSizes { sample with redc1ToRedc2 := 0 } := fun h =>
  have ⟨_, _, _, _, _, _, _, hredc, _⟩ := h ⟨false, true⟩ (by decide)
  absurd hredc (by decide +kernel)
-- Karatsuba threshold 8 with the assembly karaadd/karasub: mpn_kara_mul_n is entered with n = 7 < 8
example : ¬ Valid Gen.minSizes { sample with mulKaratsuba := 8 } := fun h =>
  have ⟨_, _, _, hrec, _⟩ := h ⟨true, false⟩ (by decide)
  absurd hrec (by decide +kernel)
-- GET_STR_DC_THRESHOLD above GET_STR_PRECOMPUTE_THRESHOLD overruns mpn_sb_get_str's stack buffers
example : ¬ Valid Gen.minSizes { sample with getStrDc := 40 } := fun h =>
  have ⟨_, _, _, _, _, _, _, _, _, hstr, _⟩ := h ⟨false, false⟩ (by decide)
  absurd hstr (by decide +kernel)
-- RSH_DIVREM_HENSEL_QR_1_THRESHOLD = 2 would run the assembly mpn_rsh_divrem_hensel_qr_1_2 at n = 2, where it faults
example : ¬ Valid Gen.minSizes { sample with rshDivremHenselQr1 := 2 } := fun h =>
  have ⟨_, _, _, _, _, _, _, _, _, _, hhensel⟩ := h ⟨false, false⟩ (by decide)
  absurd hhensel (by decide +kernel)
-- a "never" Toom-3 threshold overflows 2*MUL_TOOM3_THRESHOLD in mpn_mul
example : ¬ Valid Gen.minSizes { sample with mulToom3 := never } := fun h =>
  absurd (h ⟨false, false⟩ (by decide)).1 (by decide +kernel)

end Mpir.Params
