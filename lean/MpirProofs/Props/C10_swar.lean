/-
  C10 part `swar` — the SWAR bit counting of mpn/generic/popcount.c (model: Mpir/Model/Swar.lean, namespace `Mpir.Swar`).
  Property theorems only; helper lemmas live in MpirProofs/Lemmas/Swar.lean.  `mapB f 8 x` is Σ_{i<8} f(byte_i x)·256^i
  (the word whose byte i is f of byte i of x); `n4 b` holds in its two nibbles the bit counts of the two nibbles of b.

  PROVED here, for EVERY 64-bit limb: the per-limb reduction (popcount.c:53-55: field-wise action, no overflow between
  fields, fields add up to the limb's bit count), the whole 4-limb block (:53-80, block_eq, block_le_256) and the tail
  loop's per-limb step (:96-99, tailLimb_fields).
  and the tail (tail_eq), the outer loop, hence popcount_swar_eq(_mod), hamdist_swar_eq and the digit-sum corollaries.
-/
import MpirProofs.Lemmas.Swar
import MpirProofs.Lemmas.Bits
namespace Mpir.Swar
open Mpir

/-- popcount.c:53-55 (`p0 -= (p0 >> 1) & MAX/3; p0 = ((p0 >> 2) & MAX/5) + (p0 & MAX/5);`, comment "4 0-4"): for every
    limb u < 2^64 the result consists of sixteen 4-bit fields and field j holds the number of one bits of nibble j of u
    (stated per byte: byte i of the result is popc(low nibble of byte i of u) + 16·popc(high nibble)); in particular no
    step wraps modulo 2^64 and no field overflows into its neighbour. -/
theorem limb4_fields (u : Nat) (hu : u < B) : limb4 u = mapB n4 8 u := limb4_bytes u hu
example : limb4 0xffff00000f0100f3 = 0x4444000004010042 := by decide

/-- popcount.c:53-55 computes the bit count of the limb, spread over its sixteen 4-bit fields: for every limb u < 2^64
    the fields of `limb4 u` (two per byte: b % 16 and b / 16, summed over the 8 bytes) add up to `Bits.popc u`, the
    per-limb bit count that the "by meaning" model Bits.mpn_popcount of part c10_bits sums. -/
theorem limb4_popc (u : Nat) (hu : u < B) : sumB (fun b => b % 16 + b / 16) 8 (limb4 u) = Bits.popc u := by
  rw [limb4_bytes u hu, sumB_comp n4 _ n4_lt, popc_bytes]
  exact sumB_congr _ _ n4_sum 8 u
example : sumB (fun b => b % 16 + b / 16) 8 (limb4 0xffff00000f0100f3) = 27 ∧ Bits.popc 0xffff00000f0100f3 = 27 := by decide

/-- the range comment "4 0-4" of popcount.c:55: every 4-bit field of `n4 b` is at most 4, and the two fields add up to
    the bit count of the byte. -/
theorem n4_range : ∀ b, b < 256 → n4 b % 16 ≤ 4 ∧ n4 b / 16 ≤ 4 ∧ n4 b % 16 + n4 b / 16 = pc8 b := n4_parts
example : n4 0xf7 = 0x43 := by decide

/-- popcount.c:54 alone ("2 0-2"): for every limb, `p0 - ((p0 >> 1) & MAX/3)` does not borrow and acts on each byte
    separately as b ↦ b - ((b/2) & 0x55). -/
theorem red2_fields (x : Nat) (hx : x < B) : red2 x = mapB h1 8 x := red2_bytes x hx
example : red2 0xff03 = 0xaa02 := by decide

/-- popcount.c:55 alone: for every word, `((p >> 2) & MAX/5) + (p & MAX/5)` acts on each byte separately, without
    wrap-around. -/
theorem red4_fields (p : Nat) : red4 p = mapB h2 8 p := red4_bytes p
example : red4 0xaa02 = 0x4402 := by decide

/-- popcount.c:53-80, the body of the 4-limb unrolled loop: for ALL limbs u0..u3 < 2^64 the value added to `result`
    is the exact number of one bits of the four limbs.  (Proof: p01/p23 have byte fields popc(byte of u0)+popc(byte of u1)
    ≤ 16 — comment "8 0-16"; their sum has fields ≤ 32 — "8 0-32"; the folds :76, :77 add fields without a carry crossing
    a byte — "8 0-64", "8 0-128"; :79 adds the two masked half sums.) -/
theorem block_eq (u0 u1 u2 u3 : Nat) (h0 : u0 < B) (h1 : u1 < B) (h2 : u2 < B) (h3 : u3 < B) :
    block u0 u1 u2 u3 = Bits.popc u0 + Bits.popc u1 + Bits.popc u2 + Bits.popc u3 := block_popc u0 u1 u2 u3 h0 h1 h2 h3
example : block 0xff (B - 1) 0 0x8000000000000001 = 74 := by decide

/-- range comment "8 0-256" of popcount.c:79: a block contributes at most 256 (and 256 is attained, see the examples
    below: it does not fit a byte field, which is why :79 masks before adding). -/
theorem block_le_256 (u0 u1 u2 u3 : Nat) (h0 : u0 < B) (h1 : u1 < B) (h2 : u2 < B) (h3 : u3 < B) :
    block u0 u1 u2 u3 ≤ 256 := by
  rw [block_eq u0 u1 u2 u3 h0 h1 h2 h3]
  have := popc_le_64 u0; have := popc_le_64 u1; have := popc_le_64 u2; have := popc_le_64 u3
  omega
example : block (B - 1) (B - 1) (B - 1) (B - 1) = 256 := by decide

/-- popcount.c:96-99, the per-limb step of the tail loop: for every limb u < 2^64 the value added to x has eight byte
    fields and field i is the bit count of byte i of u (comment "8 0-8"); `(p0 >> 4) + p0` neither wraps nor carries
    into a neighbouring byte before the mask. -/
theorem tailLimb_fields (u : Nat) (hu : u < B) : tailLimb u = mapB pc8 8 u := tailLimb_bytes u hu
example : tailLimb 0xffff00000f0100f3 = 0x0808000004010006 := by decide

/-- popcount.c:93-114, the tail for the n & 3 remaining limbs (any list of at most 3 limbs, all contents): the byte
    fields of x stay ≤ 24 during the accumulation :101 (no carry between fields, no wrap), the folds :109-112 add them
    and the masked byte :114 is exactly the number of one bits of the remaining limbs (≤ 192, fits the byte). -/
theorem tail_eq (us : List Nat) (hl : Limbs us) (hn : us.length ≤ 3) :
    tailFin (tailLoop us 0) = Bits.mpn_popcount us := tail_popc us hl hn
example : tailFin (tailLoop [B - 1, B - 1, B - 1] 0) = 192 := by decide

/-- mpn_popcount of popcount.c, statement by statement, equals for EVERY limb list (all lengths, all contents) the
    "by meaning" model of part c10_bits (sum of the per-limb bit counts), reduced modulo 2^64 because `result` is an
    mp_bitcnt_t.  This closes the TRUSTED item of c10_bits about the SWAR loop. -/
theorem popcount_swar_eq_mod (u : List Nat) (hu : Limbs u) : mpn_popcount u = Bits.mpn_popcount u % B :=
  popcount_mod u hu
example : mpn_popcount [B - 1, 0, 5, 7, B - 1, 1] = 134 ∧ Bits.mpn_popcount [B - 1, 0, 5, 7, B - 1, 1] = 134 := by decide

/-- … and without the modulus whenever the count is representable (64·n < 2^64, true for every operand that fits
    in memory). -/
theorem popcount_swar_eq (u : List Nat) (hu : Limbs u) (hn : 64 * u.length < B) :
    mpn_popcount u = Bits.mpn_popcount u := by
  rw [popcount_swar_eq_mod u hu, Nat.mod_eq_of_lt (Nat.lt_of_le_of_lt (psum_le u) hn)]
example : mpn_popcount [B - 1, B - 1, B - 1, B - 1, 3] = 258 := by decide

/-- mpn_hamdist (hamdist.c = the same code with POPHAM(u,v) = u ^ v) equals the by-meaning model for all operand
    pairs of equal length (the C's precondition: one size n for both). -/
theorem hamdist_swar_eq (u v : List Nat) (hu : Limbs u) (hv : Limbs v) (hl : u.length = v.length)
    (hn : 64 * u.length < B) : mpn_hamdist u v = Bits.mpn_hamdist u v := by
  obtain ⟨_, l, len⟩ := Bits.xor_n_val u v hu hv hl
  show mpn_popcount (Bits.xor_n u v) = Bits.mpn_popcount (Bits.xor_n u v)
  exact popcount_swar_eq _ l (by rw [len]; exact hn)
example : mpn_hamdist [B - 1, 1, 0, 7, 9] [0, 3, 0, 7, 8] = 66 := by decide

/-- the SWAR code computes the plain bit count: the sum of the binary digits of the operand's value. -/
theorem popcount_swar_digits (u : List Nat) (hu : Limbs u) (hn : 64 * u.length < B) :
    mpn_popcount u = (Nat.digits 2 (val u)).sum := by
  rw [popcount_swar_eq u hu hn, Bits.mpn_popcount_digits u hu]

/-- the SWAR hamming distance is the number of differing bit positions. -/
theorem hamdist_swar_digits (u v : List Nat) (hu : Limbs u) (hv : Limbs v) (hl : u.length = v.length)
    (hn : 64 * u.length < B) : mpn_hamdist u v = (Nat.digits 2 (val u ^^^ val v)).sum := by
  rw [hamdist_swar_eq u v hu hv hl hn, Bits.mpn_hamdist_digits u v hu hv hl]
example : mpn_hamdist [B - 1, 1] [0, 3] = 65 := by decide

/-! popcount.c:79 masks BEFORE adding: a full block contributes 256, which does not fit the byte field.  The variant
    `x = (x >> 32) + x; … x & 0xff` (what the tail at :112-114 does, where at most 3 limbs = 192 bits arrive) is WRONG
    for the block: on four all-ones limbs it yields 0. -/
example : block (B - 1) (B - 1) (B - 1) (B - 1) = 256 := by decide
example : blockWrong (B - 1) (B - 1) (B - 1) (B - 1) = 0 := by decide
example : blockWrong (B - 1) (B - 1) (B - 1) (B - 1) ≠ block (B - 1) (B - 1) (B - 1) (B - 1) := by decide
example : mpn_popcount [B - 1, B - 1, B - 1, B - 1, B - 1, 0, 5] = 322 := by decide
example : mpn_hamdist [B - 1, 1, 0, 7, 9] [0, 3, 0, 7, 8] = 66 := by decide

end Mpir.Swar
