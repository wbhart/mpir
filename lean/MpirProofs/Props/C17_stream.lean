/-
  C17 — finishing the stream layer (part c17_stream).  Property theorems only; helper lemmas live in
  MpirProofs/Lemmas/IoStream.lean (and Lemmas/Io.lean).  The models are Mpir/Model/Io.lean and
  Mpir/Model/IoStream.lean; the correspondence run compares them with the real library on every check.
-/
import MpirProofs.Lemmas.IoStream
import MpirProofs.Props.C17
import MpirProofs.Lemmas.MpfStrDiv
import MpirProofs.Lemmas.MpfStrGet
import MpirProofs.Lemmas.MpfStrAcc
namespace Mpir.Io
open Mpir Mpir.MpfStr Mpir.Mpf Mpir.Radix

/-! ## 1. Text round trip -/

/-- `str_stream_roundtrip` (full; the mpz and mpq parts are those of `str_stream_roundtrip_partial`, the mpf part
    now goes down to the value).  For every documented output base (2..62, −36..−2), every operand and whatever
    follows in the stream (`rest` empty or starting with a non-digit, resp. white space for mpf):
    (z) `mpz_inp_str (mpz_out_str (x, base), |base|)` gives back `x`, the two byte counts are equal, the stream is
        left at `rest`;
    (q) the same for the raw fields of an mpq (`rest` not starting with '/');
    (f) for an mpf `u`, any digit count `nd` and any INPUT base `rbase` that reads the same digits and a DECIMAL
        exponent — `rbase = −|base|` (the combination the manual promises), or `rbase ∈ {10, 0}` when |base| = 10 —
        `mpf_inp_str` returns the same byte count `mpf_out_str` returned, that count is
        `[1 for '-'] + 2 for "0." + #digits + 1 for 'e'/'@' + #characters of the decimal exponent`, the stream is
        left at `ws`, and the value stored is `mpf_set_str`'s conversion (`MpfStr.convert`, C13: within 2^(2−p)
        relative, exact when representable) of EXACTLY the sign, digits and exponent that `mpf_get_str` delivered
        for `u`: nothing is lost or re-interpreted between the two functions.
    (With a positive `rbase ≠ 10` the exponent digits are read in that base — see the example below — which is
    the documented caveat; `mpf_get_str` itself rounds `u` to `nd` digits, so "= u" holds exactly when the digits
    denote `u`, which is C13's `get_digits_integer_exact` / `convert_exact_if_fits`.) -/
theorem str_stream_roundtrip (base : Int) (hb : (2 ≤ base ∧ base ≤ 62) ∨ (-36 ≤ base ∧ base ≤ -2))
    (rest : List Nat)
    (hrest : ∀ c, rest.head? = some c → digitValue (decide ((base.natAbs : Int) > 36)) c ≥ base.natAbs) :
    (∀ x dest : Int,
      mpz_inp_str_rd dest ((mpz_out_str {} base x).2.out ++ rest) (base.natAbs : Int)
        = ((mpz_out_str {} base x).1, x, rest)) ∧
    (rest.head? ≠ some 47 → ∀ (num den : Int) (q : Int × Int),
      mpq_inp_str_rd q ((mpq_out_str {} base num den).2.out ++ rest) (base.natAbs : Int)
        = ((mpq_out_str {} base num den).1, (num, den), rest)) ∧
    (∀ (nd : Nat) (u dst : Mpf.F) (rbase : Int) (ws : List Nat),
      (rbase = -(base.natAbs : Int) ∨ (base.natAbs = 10 ∧ (rbase = 10 ∨ rbase = 0))) →
      (∀ c, ws.head? = some c → isspace c = true) →
      let w := mpf_out_str_obj {} base nd u
      let g := get_digits base.natAbs (if nd = 0 then maxDigits base.natAbs u.prec else nd) u
      w.1 = (w.2.out.length : Int) ∧
      w.2.out.length = (if u.size < 0 then 1 else 0) + 2 + g.1.length + 1 + (intText g.2).length ∧
      mpf_inp_str_rd dst (w.2.out ++ ws) rbase =
        (w.2.out.length,
         convert dst.prec ⟨decide (u.size < 0), base.natAbs, 0 :: g.1, g.1.length, g.2⟩, ws)) := by
  obtain ⟨hz, hq, _⟩ := str_stream_roundtrip_partial base hb rest hrest
  refine ⟨hz, hq, ?_⟩
  exact fun nd u dst rbase ws => mpf_stream_roundtrip base hb nd u dst rbase ws

-- non-vacuity (z, q): see `str_stream_roundtrip_partial`.  (f): the digits "-12345" with exponent 5 (what
-- mpf_get_str delivers for -12345) are written as -0.12345e5, 10 bytes, and read back with base -10 into a
-- destination of 2 limbs precision as -12345, 10 bytes (the 11th byte is left in the stream)
example : (mpf_out_str {} 10 [45, 49, 50, 51, 52, 53] 5).2.out = [45, 48, 46, 49, 50, 51, 52, 53, 101, 53] ∧
    (mpf_out_str {} 10 [45, 49, 50, 51, 52, 53] 5).1 = 10 ∧
    mpf_inp_str_rd ⟨2, 0, 0, []⟩ ([45, 48, 46, 49, 50, 51, 52, 53, 101, 53] ++ [10]) (-10)
      = (10, ⟨2, -1, 1, [12345]⟩, [10]) := by decide +kernel
-- the caveat: 2^40 = 16^10 is written in base 16 as 0.1@11 (exponent 11 in DECIMAL); base -16 reads exponent 11,
-- base 16 reads the exponent digits "11" in base 16, i.e. 17
example : (mpf_out_str {} 16 [49] 11).2.out = [48, 46, 49, 64, 49, 49] ∧
    parse (-16) [48, 46, 49, 64, 49, 49] = some ⟨false, 16, [0, 1], 1, 11⟩ ∧
    parse 16 [48, 46, 49, 64, 49, 49] = some ⟨false, 16, [0, 1], 1, 17⟩ := by decide +kernel

/-- `mpf_integer_roundtrip_exact`: the mpf round trip gives back the operand EXACTLY when it can: if `u` holds the
    integer `±N` within the reach of `mpf_get_str`'s exact branch (hypotheses of C13 `get_digits_integer_exact`: N has
    no more digits than are worked to, no limb is cut, the power of the base is not truncated) and the digits, the
    power of the base and `N` are representable in the destination's precision (hypotheses of C13
    `convert_exact_if_fits`), then `mpf_inp_str (mpf_out_str (u, base, nd), rbase)` — `rbase` reading a decimal
    exponent — returns the same byte count and stores a value equal to `u`. -/
theorem mpf_integer_roundtrip_exact (base : Int) (hb : (2 ≤ base ∧ base ≤ 62) ∨ (-36 ≤ base ∧ base ≤ -2))
    (nd : Nat) (u dst : Mpf.F) (rbase : Int) (ws : List Nat)
    (hr : rbase = -(base.natAbs : Int) ∨ (base.natAbs = 10 ∧ (rbase = 10 ∨ rbase = 0)))
    (hws : ∀ c, ws.head? = some c → isspace c = true)
    (hp : 1 ≤ dst.prec)
    -- the operand holds the integer N > 0, within the reach of mpf_get_str's exact branch (C13 get_digits_integer_exact)
    (N : Nat) (hN : 0 < N)
    (hlen : (u.d.length : Int) ≤ u.exp)
    (hval : N = val u.d * B ^ (u.exp - (u.d.length : Int)).toNat)
    (hun : u.d.length ≤ nLimbsNeeded base.natAbs (effDigits base.natAbs u.prec (if nd = 0 then maxDigits base.natAbs u.prec else nd)))
    (hexp : u.exp ≤ (nLimbsNeeded base.natAbs (effDigits base.natAbs u.prec (if nd = 0 then maxDigits base.natAbs u.prec else nd)) : Int))
    (hpow : base.natAbs ^ (Radix.mulTrunc (64 * ((nLimbsNeeded base.natAbs (effDigits base.natAbs u.prec (if nd = 0 then maxDigits base.natAbs u.prec else nd)) : Int) - u.exp).toNat)
        (Radix.cpbeBits base.natAbs)) < B ^ nLimbsNeeded base.natAbs (effDigits base.natAbs u.prec (if nd = 0 then maxDigits base.natAbs u.prec else nd)))
    (hdig : (digitsOf base.natAbs N).length ≤ effDigits base.natAbs u.prec (if nd = 0 then maxDigits base.natAbs u.prec else nd))
    -- and digits, power and value are representable in the destination (C13 convert_exact_if_fits)
    (fM : Fits ((ofDigits base.natAbs (stripTrailingZeros (digitsOf base.natAbs N)) : Nat) : ℚ) (PREC_TO_BITS dst.prec))
    (fb : Fits (((base.natAbs ^ ((digitsOf base.natAbs N).length - (stripTrailingZeros (digitsOf base.natAbs N)).length) : Nat)) : ℚ)
            (PREC_TO_BITS dst.prec))
    (fv : Fits (N : ℚ) (PREC_TO_BITS dst.prec)) :
    (mpf_inp_str_rd dst ((mpf_out_str_obj {} base nd u).2.out ++ ws) rbase).1 = (mpf_out_str_obj {} base nd u).1.toNat ∧
    toQ (mpf_inp_str_rd dst ((mpf_out_str_obj {} base nd u).2.out ++ ws) rbase).2.1
      = (if u.size < 0 then -1 else 1) * (N : ℚ) ∧
    toQ u = (if u.size < 0 then -1 else 1) * (N : ℚ) := by
  have hb2 : 2 ≤ base.natAbs := by omega
  set b := base.natAbs with hbdef
  have hf := mpf_stream_roundtrip base hb
  obtain ⟨c1, _, c3⟩ := hf nd u dst rbase ws hr hws
  rw [c3]
  have hg := get_digits_integer b (if nd = 0 then maxDigits b u.prec else nd) u hb2 N hN hlen hval hun hexp hpow hdig
  simp only
  rw [hg]
  simp only
  set ds := stripTrailingZeros (digitsOf b N) with hds
  set L := (digitsOf b N).length with hL
  have s1 := digVal_strip b (by omega) (digitsOf b N) (L : Int)
  have s3 : (stripTrailingZeros (digitsOf b N)).length ≤ (digitsOf b N).length := normalize_length_le _
  rw [← hds] at s1 s3
  have hbq : (b : ℚ) ≠ 0 := by
    have : (0 : ℚ) < (b : ℚ) := by exact_mod_cast (show 0 < b by omega)
    exact this.ne'
  -- mantissa · b^j = N
  have hmv : (ofDigits b ds : ℚ) * (b : ℚ) ^ ((L : Int) - (ds.length : Int)) = (N : ℚ) := by
    have := s1
    rw [digVal_digitsOf b hb2 N] at this
    unfold digVal at this
    rw [this, ← hL]; simp
  set p : Parsed := ⟨decide (u.size < 0), b, 0 :: ds, ds.length, (L : Int)⟩ with hpdef
  have hmant : p.mant = ofDigits b ds := by
    simp only [hpdef, Parsed.mant, ofDigits_cons]; simp
  have hscale : p.scale = (L : Int) - (ds.length : Int) := rfl
  have hsnat : p.scale.natAbs = L - ds.length := by rw [hscale]; omega
  have hvalue : p.value = sgn (decide (u.size < 0)) * (N : ℚ) := by
    unfold Parsed.value
    rw [hmant, hscale, mul_assoc, hmv]
  have hM : p.mant ≠ 0 := by
    rw [hmant]; intro h0
    rw [h0] at hmv
    have : (N : ℚ) = 0 := by rw [← hmv]; simp
    have : N = 0 := by exact_mod_cast this
    omega
  have hsg : sgn (decide (u.size < 0)) = (if u.size < 0 then (-1 : ℚ) else 1) := by
    unfold sgn; by_cases h : u.size < 0 <;> simp [h]
  have hconv := convert_exact dst.prec hp p (by show 1 ≤ b; omega) hM
    (by rw [hmant]; exact fM) (by rw [hsnat]; exact fb)
    (by
      rw [hvalue]
      rcases sgn_cases (decide (u.size < 0)) with h | h
      · rw [h, one_mul]; exact fv
      · rw [h]; have := fits_neg fv; simpa using this)
  refine ⟨?_, ?_, ?_⟩
  · rw [c1]; simp
  · rw [hconv, hvalue, hsg]
  · unfold toQ
    rw [hval]
    have hk : u.exp - (u.d.length : Int) = (((u.exp - (u.d.length : Int)).toNat : Nat) : Int) := by omega
    rw [hk, zpow_natCast]
    push_cast
    rw [← hk]
    ring


-- non-vacuity: 12500 in a 64-bit mpf, base 10, all digits ("0.125e5"), read back with base -10 into 64 bits
example : toQ (mpf_inp_str_rd ⟨2, 0, 0, []⟩ ((mpf_out_str_obj {} 10 0 ⟨2, 1, 1, [12500]⟩).2.out ++ [10]) (-10)).2.1
    = toQ (⟨2, 1, 1, [12500]⟩ : Mpf.F) := by
  have e1 : ofDigits (10 : Int).natAbs (stripTrailingZeros (digitsOf (10 : Int).natAbs 12500)) = 125 := by decide +kernel
  have e2 : (10 : Int).natAbs ^ ((digitsOf (10 : Int).natAbs 12500).length
      - (stripTrailingZeros (digitsOf (10 : Int).natAbs 12500)).length) = 100 := by decide +kernel
  have h := mpf_integer_roundtrip_exact 10 (Or.inl ⟨by decide, by decide⟩) 0 ⟨2, 1, 1, [12500]⟩ ⟨2, 0, 0, []⟩ (-10) [10]
    (Or.inl rfl) (by decide) (by decide) 12500 (by norm_num) (by decide) (by decide +kernel) (by decide +kernel)
    (by decide +kernel) (by decide +kernel) (by decide +kernel)
    (by rw [e1]; exact ⟨125, 0, by norm_num, by norm_num [PREC_TO_BITS]⟩)
    (by rw [e2]; exact ⟨25, 2, by norm_num, by norm_num [PREC_TO_BITS]⟩)
    ⟨3125, 2, by norm_num, by norm_num [PREC_TO_BITS]⟩
  rw [h.2.1, h.2.2]

/-- `str_stream_roundtrip_base0`: base 0 on both sides — `mpz_out_str` / `mpq_out_str` / `mpf_out_str` write in
    decimal, `mpz_inp_str` / `mpq_inp_str` with base 0 detect the prefix ("0x", "0b", "0") — gives the same round
    trip with equal byte counts, for every value, provided what follows the number is not a decimal digit and
    (this matters only after a lone "0") not one of the letters x, X, b, B, which would be taken for a prefix;
    `mpf_out_str` with base 0 is `mpf_out_str` with base 10, to which part (f) of `str_stream_roundtrip` applies
    (read back with base 0, 10 or −10). -/
theorem str_stream_roundtrip_base0 (rest : List Nat)
    (hrest : ∀ c, rest.head? = some c → digitValue false c ≥ 10 ∧ c ≠ 120 ∧ c ≠ 88 ∧ c ≠ 98 ∧ c ≠ 66) :
    (∀ x dest : Int,
      mpz_inp_str_rd dest ((mpz_out_str {} 0 x).2.out ++ rest) 0 = ((mpz_out_str {} 0 x).1, x, rest)) ∧
    (rest.head? ≠ some 47 → ∀ (num den : Int) (q : Int × Int),
      mpq_inp_str_rd q ((mpq_out_str {} 0 num den).2.out ++ rest) 0
        = ((mpq_out_str {} 0 num den).1, (num, den), rest)) ∧
    (∀ (nd : Nat) (u : Mpf.F), mpf_out_str_obj {} 0 nd u = mpf_out_str_obj {} 10 nd u) := by
  refine ⟨?_, ?_, fun nd u => rfl⟩
  · exact mpz_stream_roundtrip_of (readsBack0 rest hrest)
  · exact fun hs => mpq_stream_roundtrip_of (readsBack0 rest hrest) (fun l => readsBack0 _ (base0Rest_slash l)) hs

-- non-vacuity: "0" followed by a blank is zero (1 byte); followed by 'x' it would be the prefix of a hex number
example : mpz_inp_str_rd 7 ((mpz_out_str {} 0 0).2.out ++ [32]) 0 = (1, 0, [32]) ∧
    (mpz_inp_str_rd 7 ((mpz_out_str {} 0 0).2.out ++ [120, 49]) 0).2.1 = 1 ∧
    mpq_inp_str_rd (0, 1) ((mpq_out_str {} 0 0 (-17)).2.out ++ [10]) 0 = (5, (0, -17), [10]) := by decide +kernel

/-! ## 2. The fast paths of mpz_import / mpz_export -/

/-- `import_fast_eq_generic`: whatever the dispatch of import.c:60-90 chooses — MPN_COPY, MPN_BSWAP, MPN_REVERSE for
    limb-sized words without nails in a limb-aligned buffer, the byte loop otherwise — the limbs stored are those
    the generic byte loop alone (`mpz_import_generic`: the same code with the fast-path block removed) stores, for
    every count, order, size, endianness, nail count, alignment and arbitrary data; in particular the result is
    normalised on every path (`TopNZ`: MPN_NORMALIZE at `done:`), and `import_spec` holds for the code as dispatched. -/
theorem import_fast_eq_generic (count : Nat) (order : Int) (size : Nat) (endian : Int) (nail align : Nat)
    (data : List Nat) (ho : order = 1 ∨ order = -1) (he : endian = -1 ∨ endian = 0 ∨ endian = 1)
    (hs : 1 ≤ size) (hn : nail < 8 * size) (hb : Bytes data) (hl : data.length = count * size) :
    mpz_import count order size endian nail align data = mpz_import_generic count order size endian nail data ∧
    TopNZ (mpz_import count order size endian nail align data) := by
  obtain ⟨a1, a2, a3⟩ := mpz_import_spec count order size endian nail align data ho he hs hn hb hl
  obtain ⟨b1, b2, b3⟩ := mpz_import_spec count order size endian nail 1 data ho he hs hn hb hl
  exact ⟨normalized_unique a2 a3 b2 b3 (a1.trans b1.symm), a3⟩

-- non-vacuity: an aligned big-endian buffer of two words, most significant first, whose top word is zero:
-- the BSWAP_REVERSE combination has no fast path in import.c, order -1 / endian 1 has (MPN_BSWAP); both are
-- normalised to one limb
example : mpz_import 2 (-1) 8 1 0 0 [0, 0, 0, 0, 0, 0, 1, 2, 0, 0, 0, 0, 0, 0, 0, 0] = [258] ∧
    mpz_import_generic 2 (-1) 8 1 0 [0, 0, 0, 0, 0, 0, 1, 2, 0, 0, 0, 0, 0, 0, 0, 0] = [258] := by decide +kernel

/-- `import_obj_spec`: `mpz_import` on the object: after MPZ_REALLOC (new limbs arbitrary), the dispatched fill,
    MPN_NORMALIZE and `SIZ (z) = zsize`, the destination is well formed, non-negative, and holds exactly
    Σ (word i mod 2^numb)·2^(numb·i) — for every previous content of `z`. -/
theorem import_obj_spec (z : Mpz) (hz : z.WF) (count : Nat) (order : Int) (size : Nat) (endian : Int)
    (nail align : Nat) (data : List Nat) (junk : Nat → Nat) (hj : ∀ i, junk i < B)
    (ho : order = 1 ∨ order = -1) (he : endian = -1 ∨ endian = 0 ∨ endian = 1)
    (hs : 1 ≤ size) (hn : nail < 8 * size) (hb : Bytes data) (hl : data.length = count * size) :
    (mpz_import_obj z count order size endian nail align data junk).WF ∧
    (mpz_import_obj z count order size endian nail align data junk).toInt
      = (importValue order size endian nail count data : Int) ∧
    (mpz_import_obj z count order size endian nail align data junk).limbs
      = mpz_import_generic count order size endian nail data := by
  obtain ⟨a1, a2, a3⟩ := mpz_import_obj_spec z hz count order size endian nail align data junk hj ho he hs hn hb hl
  obtain ⟨i1, _, _⟩ := mpz_import_spec count order size endian nail align data ho he hs hn hb hl
  refine ⟨a3, ?_, ?_⟩
  · unfold Mpz.toInt
    rw [a1, a2, i1]
    have : ¬ (((mpz_import count order size endian nail align data).length : Int) < 0) := by omega
    simp only [this, if_false]
  · rw [a1]; exact (import_fast_eq_generic count order size endian nail align data ho he hs hn hb hl).1

example : mpz_import_obj ⟨1, -1, [77]⟩ 2 1 8 (-1) 0 0 [0, 0, 0, 0, 0, 0, 0, 0, 5, 0, 0, 0, 0, 0, 0, 0] (fun _ => 9)
    = ⟨2, 1, [5, 0]⟩ := by decide +kernel

/-- `export_fast_eq_generic`: the MPN_COPY / MPN_REVERSE / MPN_BSWAP / MPN_BSWAP_REVERSE fast paths of export.c:78-104
    (limb-sized words, no nails, limb-aligned `data`) write the same count and the same bytes as the generic loop
    alone; and on the object, `mpz_export` of zero stores `*countp = 0` and writes nothing, of a non-zero `z`
    exactly `⌈bits/numb⌉` words holding the documented bytes (`exportBytes`). -/
theorem export_fast_eq_generic (order endian : Int) (size nail align : Nat)
    (ho : order = 1 ∨ order = -1) (he : endian = -1 ∨ endian = 0 ∨ endian = 1) (hs : 1 ≤ size)
    (hn : nail < 8 * size) :
    (∀ zl : List Nat, Limbs zl → TopNZ zl →
      mpz_export order size endian nail align zl = mpz_export_generic order size endian nail zl) ∧
    (∀ z : Mpz, z.WF →
      mpz_export_obj order size endian nail align z
        = (exportCount (8 * size - nail) z.toInt.natAbs, exportBytes order size endian nail z.toInt.natAbs) ∧
      (z.size = 0 → mpz_export_obj order size endian nail align z = (0, []))) := by
  constructor
  · intro zl hL ht
    rw [mpz_export_spec order endian size nail align zl ho he hs hn hL ht]
    exact (mpz_export_spec order endian size nail 1 zl ho he hs hn hL ht).symm
  · intro z hz
    have hval := z.natAbs_toInt
    refine ⟨?_, fun h0 => by simp [mpz_export_obj, h0]⟩
    unfold mpz_export_obj
    by_cases h0 : z.size = 0
    · have hv0 : z.toInt.natAbs = 0 := by rw [(Mpz.of_size_zero h0).2]; rfl
      have hnumb : 0 < 8 * size - nail := by omega
      have hc := exportCount_zero hnumb
      simp only [h0, if_true, hv0, hc, exportBytes]
      simp [layout]
    · obtain ⟨hL, _, htop, _⟩ := wf_limbs hz h0
      simp only [h0, if_false, hval]
      exact mpz_export_spec order endian size nail align z.limbs ho he hs hn hL htop

-- non-vacuity: MPN_BSWAP_REVERSE (order 1, endian 1, aligned) against the byte loop (misaligned); zero
example : mpz_export 1 8 1 0 0 [0x0102030405060708, 0x1122] = (2, [0, 0, 0, 0, 0, 0, 0x11, 0x22, 1, 2, 3, 4, 5, 6, 7, 8]) ∧
    mpz_export_generic 1 8 1 0 [0x0102030405060708, 0x1122] = (2, [0, 0, 0, 0, 0, 0, 0x11, 0x22, 1, 2, 3, 4, 5, 6, 7, 8]) ∧
    mpz_export_obj 1 8 1 0 0 ⟨2, 0, [7, 7]⟩ = (0, []) := by decide +kernel

/-! ## 3. Raw format beyond the 4-byte header -/

/-- `raw_beyond_header`: what `mpz_out_raw` / `mpz_inp_raw` do with a magnitude of `n ≥ 2^31` bytes.
    (a) `mpz_out_raw` does not refuse it: it writes all `n` bytes behind a header holding `±n mod 2^32`
        (out_raw.c:145-156 truncate `bytes` to four bytes AFTER `ssize = 4 + bytes` was computed) and returns
        `4 + n` — success;
    (b) `mpz_inp_raw` decodes that header as `±n` wrapped into [−2^31, 2^31) (inp_raw.c:66-79), which is `±n` only
        for `n = 2^31` with a NEGATIVE operand; in every other case it does NOT return the count `mpz_out_raw`
        returned together with the value written — it fails (0), or consumes a different number of bytes, or (for
        a positive operand of exactly 2^31 bytes: header 80 00 00 00) gives back `−v`.
    So the round trip `raw_roundtrip` holds exactly up to 2^31 − 1 bytes (and 2^31 for negatives); beyond, the
    record is silently unreadable although both functions report success.  `inp_raw_total` still holds: the
    destination stays well formed for every header. -/
theorem raw_beyond_header (v : Int) (hv : 2 ^ 31 ≤ byteLen v.natAbs) :
    ((mpz_out_raw {} (Mpz.ofInt v)).2.out = outRawBytes v → (mpz_out_raw {} (Mpz.ofInt v)).1 = 4 + byteLen v.natAbs) ∧
    (outRawBytes v).take 4 = hdrBytes (if v < 0 then -(byteLen v.natAbs : Int) else byteLen v.natAbs) ∧
    rawHeaderDecoded v =
      ((if v < 0 then -(byteLen v.natAbs : Int) else byteLen v.natAbs) + 2147483648) % 4294967296 - 2147483648 ∧
    (¬ (byteLen v.natAbs = 2 ^ 31 ∧ v < 0) →
      ∀ (x : Mpz), x.WF → ∀ (rest : List Nat), Bytes rest → ∀ (junk : Nat → Nat), (∀ i, junk i < B) →
        ¬ ((mpz_inp_raw x ⟨outRawBytes v ++ rest, none⟩ junk).1 = 4 + byteLen v.natAbs ∧
           (mpz_inp_raw x ⟨outRawBytes v ++ rest, none⟩ junk).2.1.toInt = v)) := by
  have hlen := outRawBytes_length v
  refine ⟨?_, ?_, ?_, ?_⟩
  · -- the healthy default sink takes the whole record
    intro ho
    obtain ⟨h1, _, h3⟩ := (mpz_out_raw_faulty (Mpz.ofInt v) (fun _ n => n)).2 (Nat.le_refl _)
    have h1' : (mpz_out_raw {} (Mpz.ofInt v)).1 = (out_raw_m (Mpz.ofInt v)).length := h1
    have h3' : (mpz_out_raw {} (Mpz.ofInt v)).2.out = out_raw_m (Mpz.ofInt v) := h3
    rw [h1', ← h3', ho, hlen]
  · have := (outRaw_pieces v []).1
    simpa using this
  · unfold rawHeaderDecoded rawHeaderOf
    exact csizeOf_hdrBytes_wrap _
  · intro hex x hx rest hr junk hj
    intro ⟨hret, hval⟩
    have hb : Bytes (outRawBytes v ++ rest) := Bytes_append.mpr ⟨outRawBytes_bytes v, hr⟩
    obtain ⟨_, h⟩ := inp_raw_rd_spec x hx (outRawBytes v ++ rest) hb junk hj
    unfold mpz_inp_raw Stream.avail at hret hval
    simp only at hret hval
    obtain ⟨p1, p2, p3, _⟩ := outRaw_pieces v rest
    set n := byteLen v.natAbs with hn
    have hcs : csizeOf ((outRawBytes v ++ rest).take 4)
        = ((if v < 0 then -(n : Int) else (n : Int)) + 2147483648) % 4294967296 - 2147483648 := by
      rw [p1]; exact csizeOf_hdrBytes_wrap _
    set c := csizeOf ((outRawBytes v ++ rest).take 4) with hcdef
    have hn31 : (2147483648 : Nat) ≤ n := by simpa using hv
    split at h
    · obtain ⟨h1, _, h3⟩ := h
      rw [hret] at h1
      -- the decoded count has the right magnitude only for -2^31
      have hc : c = -2147483648 ∧ n = 2147483648 := by
        split at hcs <;> omega
      obtain ⟨hc1, hc2⟩ := hc
      have hna : c.natAbs = n := by omega
      have hcneg : ¬ (c ≥ 0) := by omega
      rw [if_neg hcneg, hna, p2, p3, hval] at h3
      have hvneg : v < 0 := by
        have hv0 : v.natAbs ≠ 0 := by
          intro h0
          have : byteLen 0 = 0 := by decide
          rw [hn, h0, this] at hn31; omega
        omega
      exact hex ⟨by simpa using hc2, hvneg⟩
    · rw [h.1] at hret; omega

-- non-vacuity of the header arithmetic (a 2^31-byte operand itself cannot be written down here): the header of a
-- positive magnitude of 2^31 bytes is 80 00 00 00 and decodes to -2^31; 2^31 + 5 bytes decode to -(2^31 - 5)
example : hdrBytes 2147483648 = [128, 0, 0, 0] ∧ csizeOf [128, 0, 0, 0] = -2147483648 ∧
    csizeOf (hdrBytes 2147483653) = -2147483643 ∧ csizeOf (hdrBytes (-2147483648)) = -2147483648 := by decide +kernel

end Mpir.Io
