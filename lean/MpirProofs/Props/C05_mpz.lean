/-
  C05 (aliasing) — mpz functions other than division on the POINTER-LEVEL model (Mpir/Model/AliasMem.lean):
  in-place shifts and the `_2exp` divisions (offsets inside a block, the overlap rules of mpn_lshift / mpn_rshift /
  MPN_COPY_INCR / _DECR), bit operations (pointer re-reads after `_mpz_realloc`), neg / abs / set, mpz_gcd, mpz_sqrtrem.
  Property theorems only; proofs in the MpirProofs/Lemmas/Alias*.lean files imported below (neg / abs in AliasBits.lean,
  set in AliasHoare.lean).
  Same shape as C05_div.lean: every state with the object invariant, EVERY choice of variable ids (so `w = u` is one
  instance), the call succeeds, the invariant holds again, `w` holds the specified value of the values before the
  call, every other variable keeps its value.
-/
import MpirProofs.Lemmas.AliasR2exp
import MpirProofs.Lemmas.AliasGcd
import MpirProofs.Lemmas.AliasIor
import MpirProofs.Lemmas.AliasRoot
import MpirProofs.Lemmas.AliasShift
import MpirProofs.Lemmas.AliasShift2
namespace Mpir.AliasMem
open Mpir

def exSt2 : St := ofInts [2 ^ 200 + 12345, -(2 ^ 70 + 3), 7, 0]
def look2 (r : R St) (k : Nat) : Except String (List (Int × Nat × Nat)) := r.map (·.view k)
def errOf2 (r : R St) : String := match r with | .error e => e | .ok _ => "ok"

/-! ## mpz_mul_2exp, mpz_{t,c,f}div_q_2exp, mpz_{t,c,f}div_r_2exp -/

/-- mpz_mul_2exp (mpz/mul_2exp.c): `w = u` in place — mpn_lshift / MPN_COPY_DECR write at `wp + limb_cnt` while
    reading `up = wp` (destination above the source: the permitted direction), the carry limb goes above, and
    `MPN_ZERO (wp, limb_cnt)` comes LAST. -/
theorem mul_2exp_ptr_spec {s : St} (h : Inv s) {w u : Nat} (hw : w < s.nv) (hu : u < s.nv) (cnt : Nat) :
    ∃ s', mul_2exp w u cnt s = .ok s' ∧ Inv s' ∧ s'.nv = s.nv ∧ s'.value w = s.value u * 2 ^ cnt ∧
      ∀ i, i < s.nv → i ≠ w → s'.value i = s.value i :=
  mul_2exp_ok h hw hu cnt

-- in place by 70 bits (one whole limb + 6 bits, carry limb, the block moves); by 128 bits (whole limbs only)
example : look2 (mul_2exp 0 0 70 exSt2) 1 = .ok [((2 ^ 200 + 12345) * 2 ^ 70, 6, 4)] := by decide +kernel
example : look2 (mul_2exp 1 1 128 exSt2) 2 = .ok [(2 ^ 200 + 12345, 4, 0), (-(2 ^ 70 + 3) * 2 ^ 128, 5, 4)] := by decide +kernel
-- negative example: MPN_ZERO before the shift (mul_2exp.c:64-66 "not to lose for U == W") loses u when w = u
example : look2 (mul_2expV { zeroAfterShift := false } 1 1 128 exSt2) 2 = .ok [(2 ^ 200 + 12345, 4, 0), (0, 5, 4)] := by
  decide +kernel

/-- mpz_tdiv_q_2exp (mpz/tdiv_q_2exp.c): `w = u` in place — mpn_rshift / MPN_COPY_INCR write at `wp` while reading
    `up + limb_cnt` (destination below the source: the permitted direction). -/
theorem tdiv_q_2exp_ptr_spec {s : St} (h : Inv s) {w u : Nat} (hw : w < s.nv) (hu : u < s.nv) (cnt : Nat) :
    ∃ s', tdiv_q_2exp w u cnt s = .ok s' ∧ Inv s' ∧ s'.nv = s.nv ∧
      s'.value w = Int.tdiv (s.value u) ((2 ^ cnt : Nat) : Int) ∧
      ∀ i, i < s.nv → i ≠ w → s'.value i = s.value i :=
  tdiv_q_2exp_ok h hw hu cnt

example : look2 (tdiv_q_2exp 0 0 70 exSt2) 1 = .ok [((2 ^ 200 + 12345) / 2 ^ 70, 4, 0)] := by decide +kernel
example : look2 (tdiv_q_2exp 1 1 64 exSt2) 2 = .ok [(2 ^ 200 + 12345, 4, 0), (-64, 2, 1)] := by decide +kernel
-- negative example: the model refuses a shift in the forbidden direction (what an in-place mpn_lshift towards LOWER
-- addresses would be)
example : (match mpn_lshift 0 0 0 1 3 5 exSt2 with | .error e => e | .ok _ => "ok") = "ub:mpn_lshift overlap" := by decide +kernel

/-- mpz_cdiv_q_2exp (`dir = 1`) and mpz_fdiv_q_2exp (`dir = -1`) (mpz/cfdiv_q_2exp.c): `w = u` in place — the limbs that
    the shift is going to skip (and, with w = u, overwrite) are inspected BEFORE it (:57-62); the increment may carry into
    limb wsize, for which `MPZ_REALLOC (w, wsize + 1)` made room.  `1 ≤ ALLOC (w)` is MPIR's object invariant (the
    `PTR(w)[0] = 1` of :47 is done without a realloc).  The result is ⌈u / 2^cnt⌉ resp. ⌊u / 2^cnt⌋ (`DivZ.specQ`). -/
theorem cfdiv_q_2exp_ptr_spec {s : St} (h : Inv s) {w u : Nat} (hw : w < s.nv) (hu : u < s.nv) (cnt : Nat) (dir : Int)
    (hdir : dir = 1 ∨ dir = -1) (ha : 1 ≤ s.alloc w) :
    ∃ s', cfdiv_q_2expV .c w u cnt dir s = .ok s' ∧ Inv s' ∧ s'.nv = s.nv ∧
      s'.value w = DivZ.specQ dir (s.value u) ((2 ^ cnt : Nat) : Int) ∧
      ∀ i, i < s.nv → i ≠ w → s'.value i = s.value i := by
  have := cfdiv_q_2exp_ok h hw hu cnt dir hdir ha
  rw [cfq_spec _ _ _ hdir] at this
  exact this

example : look2 (cdiv_q_2exp 0 0 70 exSt2) 1 = .ok [((2 ^ 200 + 12345) / 2 ^ 70 + 1, 4, 0)] := by decide +kernel
example : look2 (fdiv_q_2exp 1 1 64 exSt2) 2 = .ok [(2 ^ 200 + 12345, 4, 0), (-65, 2, 1)] := by decide +kernel
-- the increment carries into a new limb: ⌈(2^128 - 1) / 4⌉ = 2^126
example : look2 (cdiv_q_2exp 2 2 2 (ofInts [0, 0, 2 ^ 128 - 1])) 3 = .ok [(0, 1, 0), (0, 1, 1), (2 ^ 126, 3, 3)] := by decide +kernel
-- negative example: the low limbs inspected AFTER the shift (cfdiv_q_2exp.c:57-62 moved below :72), w = u = 2^128 + 5,
-- cnt = 64: limb 0 has been overwritten by the zero limb 1, the rounding is lost (2^64 instead of 2^64 + 1)
example : look2 (cfdiv_q_2expV { roundBeforeShift := false } 0 0 64 1 (ofInts [2 ^ 128 + 5])) 1 = .ok [(2 ^ 64, 3, 0)] := by decide +kernel
example : look2 (cdiv_q_2exp 0 0 64 (ofInts [2 ^ 128 + 5])) 1 = .ok [(2 ^ 64 + 1, 3, 0)] := by decide +kernel

/-- mpz_tdiv_r_2exp (mpz/tdiv_r_2exp.c): `res = in` in place (nothing is copied, the masked limb is stored over the
    operand's limb), or separate (low limbs copied after the reallocation of res). -/
theorem tdiv_r_2exp_ptr_spec {s : St} (h : Inv s) {r u : Nat} (hr : r < s.nv) (hu : u < s.nv) (cnt : Nat) :
    ∃ s', tdiv_r_2exp r u cnt s = .ok s' ∧ Inv s' ∧ s'.nv = s.nv ∧
      s'.value r = Int.tmod (s.value u) ((2 ^ cnt : Nat) : Int) ∧
      ∀ i, i < s.nv → i ≠ r → s'.value i = s.value i :=
  tdiv_r_2exp_ok h hr hu cnt

example : look2 (tdiv_r_2exp 0 0 70 exSt2) 1 = .ok [(12345, 4, 0)] := by decide +kernel
example : look2 (tdiv_r_2exp 2 1 68 exSt2) 3 = .ok [(2 ^ 200 + 12345, 4, 0), (-(2 ^ 70 + 3), 2, 1), (-3, 1, 2)] := by decide +kernel
example : look2 (tdiv_r_2exp 1 1 68 exSt2) 2 = .ok [(2 ^ 200 + 12345, 4, 0), (-3, 2, 1)] := by decide +kernel

/-- mpz_cdiv_r_2exp (`dir = 1`) and mpz_fdiv_r_2exp (`dir = -1`) (mpz/cfdiv_r_2exp.c), `w = u` or separate: on the side that
    truncates, `up = PTR (u)` fetched early (:57) stays valid because w is reallocated only when w ≠ u; on the side that
    negates, w is reallocated to limb_cnt+1 limbs and `up` is fetched again (:109-111) — w may be u there.  The result is
    the ceiling resp. floor remainder `u - 2^cnt * ⌈u / 2^cnt⌉` resp. `u - 2^cnt * ⌊u / 2^cnt⌋` (`DivZ.specR`). -/
theorem cfdiv_r_2exp_ptr_spec {s : St} (h : Inv s) {w u : Nat} (hw : w < s.nv) (hu : u < s.nv) (cnt : Nat) (dir : Int)
    (hdir : dir = 1 ∨ dir = -1) :
    ∃ s', cfdiv_r_2exp w u cnt dir s = .ok s' ∧ Inv s' ∧ s'.nv = s.nv ∧
      s'.value w = DivZ.specR dir (s.value u) ((2 ^ cnt : Nat) : Int) ∧
      ∀ i, i < s.nv → i ≠ w → s'.value i = s.value i :=
  cfdiv_r_2exp_ok h hw hu cnt dir hdir

example : look2 (cdiv_r_2exp 0 0 70 exSt2) 1 = .ok [(12345 - 2 ^ 70, 4, 0)] := by decide +kernel
example : look2 (fdiv_r_2exp 1 1 68 exSt2) 2 = .ok [(2 ^ 200 + 12345, 4, 0), (2 ^ 68 - 3, 2, 1)] := by decide +kernel
example : look2 (cdiv_r_2exp 2 1 300 exSt2) 3 = .ok [(2 ^ 200 + 12345, 4, 0), (-(2 ^ 70 + 3), 2, 1), (-(2 ^ 70 + 3), 2, 4)] := by
  decide +kernel

/-! ## mpz_and, mpz_xor, mpz_ior and their shared plumbing, mpz_com, mpz_neg, mpz_abs, mpz_set -/

/-- mpz_and (mpz/and.c), every choice of res, op1, op2 (res = op1, res = op2, op1 = op2, all equal): op1_ptr, op2_ptr,
    res_ptr are fetched at the top (:40-42); after `_mpz_realloc (res, …)` the C re-reads res_ptr and those operand
    pointers that do not point to TMP space (:58-63, :106-113, :223-231, :249-257).  The result is Int.land of the values
    before the call (value-level part: C10 `mpz_and_spec`). -/
theorem mpz_and_ptr_spec {s : St} (h : Inv s) {res op1 op2 : Nat} (hr : res < s.nv) (h1 : op1 < s.nv) (h2 : op2 < s.nv) :
    ∃ s', mpz_and res op1 op2 s = .ok s' ∧ Inv s' ∧ s'.nv = s.nv ∧ s'.value res = Int.land (s.value op1) (s.value op2) ∧
      ∀ i, i < s.nv → i ≠ res → s'.value i = s.value i :=
  mpz_and_ok h hr h1 h2

/-- mpz_xor (mpz/xor.c), same plumbing, allocation `MAX` / `MAX + 1`. -/
theorem mpz_xor_ptr_spec {s : St} (h : Inv s) {res op1 op2 : Nat} (hr : res < s.nv) (h1 : op1 < s.nv) (h2 : op2 < s.nv) :
    ∃ s', mpz_xor res op1 op2 s = .ok s' ∧ Inv s' ∧ s'.nv = s.nv ∧ s'.value res = Int.xor (s.value op1) (s.value op2) ∧
      ∀ i, i < s.nv → i ≠ res → s'.value i = s.value i :=
  mpz_xor_ok h hr h1 h2

/-- mpz_ior (mpz/ior.c), same plumbing; the allocation requests are tight: `MIN (sizes)` in the -,- case (:106, :118-121) and
    the size of the negative operand in the mixed case (:178-187) suffice because `(x & (y-1)) + 1` cannot carry out of the
    limbs of `y` (`ior_fit`). -/
theorem mpz_ior_ptr_spec {s : St} (h : Inv s) {res op1 op2 : Nat} (hr : res < s.nv) (h1 : op1 < s.nv) (h2 : op2 < s.nv) :
    ∃ s', mpz_ior res op1 op2 s = .ok s' ∧ Inv s' ∧ s'.nv = s.nv ∧ s'.value res = Int.lor (s.value op1) (s.value op2) ∧
      ∀ i, i < s.nv → i ≠ res → s'.value i = s.value i :=
  mpz_ior_ok h hr h1 h2

/-- the shared plumbing, for ANY sign-case table whose result fits the allocation it asks for. -/
theorem logic_ptr_spec (plan : Bool → List Nat → Bool → List Nat → LogicPlan) (F : Bits.Z → Bits.Z → Bits.Z)
    (hres : ∀ n1 a n2 b, (plan n1 a n2 b).result = F ⟨n1, a⟩ ⟨n2, b⟩)
    (hwf : ∀ x y : Bits.Z, x.WF → y.WF → (F x y).WF)
    (hfit : ∀ x y : Bits.Z, x.WF → y.WF → (F x y).mag.length ≤ (plan x.neg x.mag y.neg y.mag).need)
    {s : St} (h : Inv s) {res op1 op2 : Nat} (hr : res < s.nv) (h1 : op1 < s.nv) (h2 : op2 < s.nv) :
    ∃ s', logicV .c plan res op1 op2 s = .ok s' ∧ Res s s' res (F (Zof s op1) (Zof s op2)).toInt :=
  logic_ok plan F hres hwf hfit h hr h1 h2

/-- mpz_com (mpz/com.c): `_mpz_realloc (dst, …)` first, then `src_ptr = src->_mp_d`; dst = src allowed. -/
theorem mpz_com_ptr_spec {s : St} (h : Inv s) {dst src : Nat} (hd : dst < s.nv) (hs : src < s.nv) :
    ∃ s', mpz_com dst src s = .ok s' ∧ Inv s' ∧ s'.nv = s.nv ∧ s'.value dst = -(s.value src) - 1 ∧
      ∀ i, i < s.nv → i ≠ dst → s'.value i = s.value i :=
  mpz_com_ok h hd hs

/-- mpz_neg / mpz_abs (neg.c, abs.c): `w = u` touches the size field only; otherwise realloc, then the pointers, then
    the copy.  mpz_set (set.c): `w = u` copies the block onto itself. -/
theorem mpz_neg_ptr_spec {s : St} (h : Inv s) {w u : Nat} (hw : w < s.nv) (hu : u < s.nv) :
    ∃ s', mpz_neg w u s = .ok s' ∧ Inv s' ∧ s'.nv = s.nv ∧ s'.value w = -(s.value u) ∧
      ∀ i, i < s.nv → i ≠ w → s'.value i = s.value i :=
  mpz_negabs_ok false h hw hu

theorem mpz_abs_ptr_spec {s : St} (h : Inv s) {w u : Nat} (hw : w < s.nv) (hu : u < s.nv) :
    ∃ s', mpz_abs w u s = .ok s' ∧ Inv s' ∧ s'.nv = s.nv ∧ s'.value w = ((s.value u).natAbs : Int) ∧
      ∀ i, i < s.nv → i ≠ w → s'.value i = s.value i :=
  mpz_negabs_ok true h hw hu

theorem mpz_set_ptr_spec {s : St} (h : Inv s) {w u : Nat} (hw : w < s.nv) (hu : u < s.nv) :
    ∃ s', mpz_set w u s = .ok s' ∧ Inv s' ∧ s'.nv = s.nv ∧ s'.value w = s.value u ∧
      ∀ i, i < s.nv → i ≠ w → s'.value i = s.value i :=
  mpz_set_ok h hw hu

example : look2 (mpz_neg 1 1 exSt2) 2 = .ok [(2 ^ 200 + 12345, 4, 0), (2 ^ 70 + 3, 2, 1)] := by decide +kernel
example : look2 (mpz_abs 2 1 exSt2) 3 = .ok [(2 ^ 200 + 12345, 4, 0), (-(2 ^ 70 + 3), 2, 1), (2 ^ 70 + 3, 2, 4)] := by decide +kernel
example : look2 (mpz_set 0 0 exSt2) 1 = .ok [(2 ^ 200 + 12345, 4, 0)] := by decide +kernel

def exSt3 : St := ofInts [2 ^ 200 + 12345, -(2 ^ 70 + 3), 7, -(2 ^ 130)]
-- res = op2 with a 2-limb block receiving a 4-limb result (x & -y, PN case): the block of res moves, op1_ptr is re-read
example : look2 (mpz_and 1 0 1 exSt3) 2 = .ok [(2 ^ 200 + 12345, 4, 0), (2 ^ 200 + 12345, 4, 5)] := by
  decide +kernel
-- both negative, res = op1: both operands sit in TMP copies, res grows to 1 + MAX limbs
example : look2 (mpz_and 1 1 3 exSt3) 2 = .ok [(2 ^ 200 + 12345, 4, 0), (-1361129467683753853853498429727072845824, 4, 6)] := by
  decide +kernel
example : look2 (mpz_xor 2 2 0 exSt3) 3 = .ok [(2 ^ 200 + 12345, 4, 0), (-(2 ^ 70 + 3), 2, 1), (2 ^ 200 + 12345 + 5, 4, 4)] := by
  decide +kernel
example : look2 (mpz_com 2 2 (ofInts [5, 6, 2 ^ 64 - 1])) 3 = .ok [(5, 1, 0), (6, 1, 1), (-(2 ^ 64), 2, 3)] := by decide +kernel
-- negative examples: without the re-read after `_mpz_realloc` (and.c:58-63 removed), res = op2 and a result that does
-- not fit the old block: the limb loop reads op2 through the stale pointer
example : errOf2 (logicV { reread := false } xorPlan 2 0 2 exSt3) = "ub:read of a freed block" := by decide +kernel
example : errOf2 (logicV { reread := false } iorPlan 2 0 2 exSt3) = "ub:read of a freed block" := by decide +kernel
-- (for mpz_and the re-read is never exercised when res is an operand: the result is never longer than a non-negative
--  operand, and negative operands are read from their TMP copies)
-- mpz_com with `src_ptr = src->_mp_d` fetched before the realloc, dst = src, carry into a new limb
example : errOf2 (mpz_comV { ptrAfterRealloc := false } 2 2 (ofInts [5, 6, 2 ^ 64 - 1])) = "ub:read of a freed block" := by
  decide +kernel

/-! ## mpz_gcd -/

/-- mpz_gcd (mpz/gcd.c), every choice of g, u, v (g = u, g = v, u = v, all equal): the result is gcd(|u|, |v|) of the
    values before the call.  `1 ≤ ALLOC (g)` is MPIR's object invariant (the one-limb cases store `PTR (g)[0]` without
    a realloc, :66-67). -/
theorem mpz_gcd_ptr_spec {s : St} (h : Inv s) {g u v : Nat} (hg : g < s.nv) (hu : u < s.nv) (hv : v < s.nv)
    (ha : 1 ≤ s.alloc g) :
    ∃ s', mpz_gcd g u v s = .ok s' ∧ Inv s' ∧ s'.nv = s.nv ∧ s'.value g = (Int.gcd (s.value u) (s.value v) : Int) ∧
      ∀ i, i < s.nv → i ≠ g → s'.value i = s.value i :=
  mpz_gcd_ok h hg hu hv ha

def exSt5 : St := ofInts [(2 ^ 100 + 1) * 6 * 2 ^ 70, -(2 ^ 70 + 3) * 15 * 2 ^ 70, 21, 0]
example : look2 (mpz_gcd 1 0 1 exSt5) 2 = .ok [((2 ^ 100 + 1) * 6 * 2 ^ 70, 3, 0), (3 * 2 ^ 70, 3, 1)] := by decide +kernel
example : look2 (mpz_gcd 2 2 1 exSt5) 3 = .ok [((2 ^ 100 + 1) * 6 * 2 ^ 70, 3, 0), (-(2 ^ 70 + 3) * 15 * 2 ^ 70, 3, 1), (3, 1, 2)] := by
  decide +kernel
-- gcd (0, v) with g = u = 0 held in a one-limb block: SIZ (g) is written first, then the block is reallocated and v copied
example : look2 (mpz_gcd 3 3 1 exSt5) 4 = .ok [((2 ^ 100 + 1) * 6 * 2 ^ 70, 3, 0), (-(2 ^ 70 + 3) * 15 * 2 ^ 70, 3, 1), (21, 1, 2),
    ((2 ^ 70 + 3) * 15 * 2 ^ 70, 3, 4)] := by decide +kernel

/-! ## mpz_sqrtrem -/

/-- mpz_sqrtrem (mpz/sqrtrem.c), every choice of root, rem, op with root ≠ rem (root = op: the operand is copied to TMP
    space "Make OP not overlap with ROOT", :74-81; rem = op: mpn_sqrtrem writes the remainder over the operand, which its
    contract allows; a root block that is too small is freed and a new one allocated, :57-70), op ≥ 0:
    root = ⌊√op⌋, rem = op - root², computed from the value of op before the call. -/
theorem sqrtrem_ptr_spec {s : St} (h : Inv s) {root rem op : Nat} (hr : root < s.nv) (hm : rem < s.nv) (ho : op < s.nv)
    (hrm : root ≠ rem) (hop : 0 ≤ s.value op) :
    ∃ s', sqrtrem root rem op s = .ok s' ∧ Inv s' ∧ s'.nv = s.nv ∧
      s'.value root = (Nat.sqrt (s.value op).toNat : Int) ∧
      s'.value rem = s.value op - (Nat.sqrt (s.value op).toNat : Int) * (Nat.sqrt (s.value op).toNat : Int) ∧
      ∀ i, i < s.nv → i ≠ root → i ≠ rem → s'.value i = s.value i :=
  sqrtrem_ok h hr hm ho hrm hop

def exSt4 : St := ofInts [2 ^ 200 + 12345, 2 ^ 70 + 3, 7, 0]
-- root = op (TMP copy of the operand), rem a one-limb variable that must grow to 4 limbs
example : look2 (sqrtrem 0 3 0 exSt4) 4 = .ok [(2 ^ 100, 4, 0), (2 ^ 70 + 3, 2, 1), (7, 1, 2), (12345, 4, 4)] := by decide +kernel
-- rem = op, root a one-limb variable: its block is freed and a 2-limb block allocated
example : look2 (sqrtrem 2 0 0 exSt4) 3 = .ok [(12345, 4, 0), (2 ^ 70 + 3, 2, 1), (2 ^ 100, 2, 4)] := by decide +kernel
-- negative example: without the copy (sqrtrem.c:74-81 removed), root = op
example : errOf2 (sqrtremV { copyNum := false } 0 3 0 exSt4) = "ub:mpn_sqrtrem operands overlap" := by decide +kernel

end Mpir.AliasMem
