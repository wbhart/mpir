/-
  C04, object-layer memory safety as theorems (same statement shape `Safe` as C04_allocsafe.lean /
  C04_allocsafe2.lean: `ok = true`, destination well formed, every other variable untouched, value-level view = the
  list-level result; plus the integer identity).  Property theorems only; helper lemmas live in
  MpirProofs/Lemmas/AllocSafeBit.lean (mpz/ior.c, the -- and +- cases; mpz/setbit.c, clrbit.c) and AllocSafeBit2.lean (mpz/combit.c).

  Models: Mpir/Model/AllocSafeMpz2.lean (ior), Mpir/Model/AllocSafeMpz3.lean (everything else here).
  Tied by ops `as2_ior` (part c04_allocsafe2) and `as3_*` (harness/ops_allocsafe3.c; ALLOC SIZ value compared exactly)
  and pins on every C file mirrored.
-/
import MpirProofs.Lemmas.AllocSafeBit2
import MpirProofs.Props.C04_allocsafe2
import MpirProofs.Props.C10
namespace Mpir.AllocSafe
open Mpir

/-- mpz_ior (mpz/ior.c), every sign case and alias pattern.  The blocks requested are `MAX (sizes)` limbs for ++,
    `MIN (sizes)` for --, `|op2|` for +- (op2 the negative operand) — never a `+ 1`, although the -- and +- cases end with
    `cy = mpn_add_1 (res_ptr, res_ptr, res_size, 1); if (cy) res_ptr[res_size] = cy`: the carry store is inside the block
    because the decremented operand is below B^n - 1, so a result of all ones has fewer limbs than the block.  Operands
    decremented into temporary space, `op1_ptr` / `res_ptr` re-read after `_mpz_realloc`; the result is the
    two's-complement OR. -/
theorem mpz_ior_alloc_safe (s : St) (w u v : Nat) (hs : s.ok = true)
    (hw : OWF (s.h w)) (hu : OWF (s.h u)) (hv : OWF (s.h v)) :
    Safe s (mpz_ior s w u v) w (Spec.ior (view (s.h w)) (view (s.h u)) (view (s.h v))) ∧
    Mpz.toInt (view ((mpz_ior s w u v).h w)) = Int.lor (Mpz.toInt (view (s.h u))) (Mpz.toInt (view (s.h v))) :=
  ior_safe s w u v hs hw hu hv

-- -(B^2-1) | -(B) : both negative, MIN = 2 limbs; (B-1)&(B^2-2) + 1 = B - 1 ... into the one-limb destination (grown to 2)
example : (mpz_ior ex2 0 1 2).ok = true ∧ (mpz_ior ex2 0 1 2).ALLOC 0 = 2 ∧
    Mpz.toInt (view ((mpz_ior ex2 0 1 2).h 0)) = Int.lor (-(B : Int)) (-(B ^ 2 - 1 : Int)) := by decide
-- (B^2-1) | -(B): +- in place on op1 and on op2 (result -1: everything cancels, `res_ptr[0] = 1`)
example : (mpz_ior ex2 3 3 1).ok = true ∧ view ((mpz_ior ex2 3 3 1).h 3) = ⟨2, -1, [1]⟩ := by decide
example : (mpz_ior ex2 1 3 1).ok = true ∧ view ((mpz_ior ex2 1 3 1).h 1) = ⟨2, -1, [1]⟩ := by decide
-- 1 | -(B^2) = -(B^2 - 1): +- with op1 shorter: the top limb of |op2| - 1 = B^2 - 1 became zero (op2_size 3 → 2), its
-- high part is copied to res_ptr + 1, the low limb is ~1 & (B - 1), then `+ 1`
example : view ((mpz_ior ⟨fun i => if i = 0 then ⟨1, 0, ⟨1, [1]⟩⟩ else ⟨-3, 0, ⟨3, [0, 0, 1]⟩⟩, true⟩ 0 0 1).h 0)
    = ⟨3, -2, [B - 1, B - 1]⟩ := by decide
-- negative: op1_ptr NOT re-read after `_mpz_realloc` (ior.c:188) with res == op1, the shorter non-negative operand
example : (ior_ false ⟨fun i => if i = 0 then ⟨1, 0, ⟨1, [1]⟩⟩ else ⟨-3, 0, ⟨3, [5, 0, 1]⟩⟩, true⟩ 0 0 1).ok = false := by decide

/-! ## mpz_setbit, mpz_clrbit, mpz_combit: in place on one variable, through the pointer `dp` taken on entry -/

/-- heap for the bit examples: 0 = 7 (one limb), 1 = -(B^2) (exact block of 3), 2 = -(B^2 - 32) (exact block of 2) -/
def ex3 : St := ⟨fun i => if i = 0 then ⟨1, 0, ⟨1, [7]⟩⟩ else if i = 1 then ⟨-3, 0, ⟨3, [0, 0, 1]⟩⟩
                  else ⟨-2, 0, ⟨2, [B - 32, B - 1]⟩⟩, true⟩

/-- mpz_setbit (mpz/setbit.c), every sign, bit index and allocation: the block is replaced — and `dp` re-assigned from the
    result of `_mpz_realloc` — exactly when the result has more limbs than the block (`limb_index + 1` for a bit above a
    non-negative number; the carry-out path `dsize + 1` of the negative case is never reached for setbit); the unbounded
    loops (`zero_bound`, `mpn_decr_u`) stay inside the number because it is non-zero; `dp[dsize - 1]` is read after the
    borrow; the result is `d | 2^i` in two's complement. -/
theorem mpz_setbit_alloc_safe (s : St) (d i : Nat) (hs : s.ok = true) (hd : OWF (s.h d)) :
    Safe s (mpz_setbit s d i) d (Spec.setbit (view (s.h d)) i) ∧
    Mpz.toInt (view ((mpz_setbit s d i).h d)) = Int.lor (Mpz.toInt (view (s.h d))) ((2 : Int) ^ i) := by
  have := Refines.safe_ofZ (setbit_refines s d i hs hd) (Bits.setbit_spec (zOf (view (s.h d))) (zOf_WF hd.2) i)
    (Nat.le_max_right _ _) (Nat.le_trans hd.alloc_pos (Nat.le_max_left _ _))
  rwa [zOf_toInt] at this

-- 7 | 2^130: one limb → three, block replaced; -(B^2) | 2^5 = -(B^2 - 32): the borrow runs through two zero limbs, top limb gone
example : (mpz_setbit ex3 0 130).ok = true ∧ view ((mpz_setbit ex3 0 130).h 0) = ⟨3, 3, [7, 0, 4]⟩ := by decide
example : (mpz_setbit ex3 1 5).ok = true ∧ view ((mpz_setbit ex3 1 5).h 1) = ⟨3, -2, [B - 32, B - 1]⟩ := by decide
-- negative: `_mpz_realloc (d, limb_index + 1)` without `dp =` (stale pointer), and `_mpz_realloc (d, limb_index)` (one short)
example : (setbit false 1 ex3 0 130).ok = false := by decide
example : (setbit true 0 ex3 0 130).ok = false := by decide

/-- mpz_clrbit (mpz/clrbit.c): as mpz_setbit with the roles of the signs exchanged; here the carry-out path is live:
    clearing the lowest set bit of `-(B^k - 2^m)` carries through every limb, `dsize++`, the block is replaced when it has
    exactly k limbs and `dp[i] = 1` goes to the new block; the result is `d & ~2^i`. -/
theorem mpz_clrbit_alloc_safe (s : St) (d i : Nat) (hs : s.ok = true) (hd : OWF (s.h d)) :
    Safe s (mpz_clrbit s d i) d (Spec.clrbit (view (s.h d)) i) ∧
    Mpz.toInt (view ((mpz_clrbit s d i).h d)) = Int.land (Mpz.toInt (view (s.h d))) (Int.lnot ((2 : Int) ^ i)) := by
  have := Refines.safe_ofZ (clrbit_refines s d i hs hd) (Bits.clrbit_spec (zOf (view (s.h d))) (zOf_WF hd.2) i)
    (Nat.le_max_right _ _) (Nat.le_trans hd.alloc_pos (Nat.le_max_left _ _))
  rwa [zOf_toInt] at this

-- -(B^2 - 32) & ~2^5 = -(B^2): carry out of the top limb, exact block of 2 replaced by one of 3
example : (mpz_clrbit ex3 2 5).ok = true ∧ view ((mpz_clrbit ex3 2 5).h 2) = ⟨3, -3, [0, 0, 1]⟩ := by decide
-- -(B^2) & ~2^200: the bit lies above the number, zero fill and a new top limb
example : (mpz_clrbit ex3 1 200).ok = true ∧ view ((mpz_clrbit ex3 1 200).h 1) = ⟨4, -4, [0, 0, 1, 256]⟩ := by decide
-- negative: the seeded C04_a_2 (`if (ALLOC < dsize)` tested before `dsize++`, i.e. one limb short) and the lost `dp =`
example : (clrbit true 0 ex3 2 5).ok = false := by decide
example : (clrbit false 1 ex3 2 5).ok = false := by decide

/-- mpz_combit (mpz/combit.c): `MPZ_REALLOC (d, limb_index + 1)` + zero fill when the bit lies above the number; in the
    negative "clearing" branch a SECOND `MPZ_REALLOC (d, dsize + 1)` after the fill has been written (the fill survives the
    block replacement), `dp = LIMBS (d)` re-read, the carry limb stored at `dp[dsize]` (also when it is 0);
    MPN_NORMALIZE reads only what was written; the result is `d ^ 2^i`.  (The over-long length passed to mpn_sub_1 at
    combit.c:77 is modelled with the length the inline kernel touches, see the ASSUMPTIONS of the part.) -/
theorem mpz_combit_alloc_safe (s : St) (d i : Nat) (hs : s.ok = true) (hd : OWF (s.h d)) :
    Safe s (mpz_combit s d i) d (Spec.combit (view (s.h d)) i) ∧
    Mpz.toInt (view ((mpz_combit s d i).h d)) = Int.xor (Mpz.toInt (view (s.h d))) ((2 : Int) ^ i) := by
  have h1 : 1 ≤ (view (s.h d)).alloc := hd.alloc_pos
  have := Refines.safe_ofZ (combit_refines s d i hs hd) (Bits.combit_spec (zOf (view (s.h d))) (zOf_WF hd.2) i)
    (combit_need_le (view (s.h d)) hd.2 i) (by
      generalize (view (s.h d)).alloc = a at *
      split <;> split <;> omega)
  rwa [zOf_toInt] at this

-- -(B^2 - 32) ^ 2^5 = -(B^2): the clearing branch, carry into dp[dsize], exact block of 2 replaced by one of 3
example : (mpz_combit ex3 2 5).ok = true ∧ view ((mpz_combit ex3 2 5).h 2) = ⟨3, -3, [0, 0, 1]⟩ := by decide
-- -(B^2) ^ 2^200 (bit above the number, set in the sign extension): extension to 4 limbs, THEN the block grows to 5
example : (mpz_combit ex3 1 200).ok = true ∧ view ((mpz_combit ex3 1 200).h 1) = ⟨5, -4, [0, 0, 1, 256]⟩ := by decide
-- 7 ^ 2^1 = 5, in place, nothing grows
example : (mpz_combit ex3 0 1).ok = true ∧ view ((mpz_combit ex3 0 1).h 0) = ⟨1, 1, [5]⟩ := by decide
-- negative: `MPZ_REALLOC (d, dsize)` without the `+ 1` — `dp[dsize] = c` is outside the block
example : (combit 0 ex3 2 5).ok = false := by decide

/-! ## mpz_cdiv_q_2exp / mpz_fdiv_q_2exp (mpz/cfdiv_q_2exp.c): mirrored (Mpir/Model/AllocSafeMpz3.lean `cfdiv_q_2exp`) and tied by
    ops `as3_cdiv_q_2exp`, `as3_fdiv_q_2exp`; theorems `mpz_cdiv_q_2exp_alloc_safe`, `mpz_fdiv_q_2exp_alloc_safe` in
    C04_allocsafe4.lean.  Executions of the model: -/

-- ⌈(B^2-1) / 2^64⌉ = B: the rounding carries into a new top limb; into the one-limb destination (grown 1 → 2) and in place …
example : (mpz_cdiv_q_2exp ex 0 1 64).ok = true ∧ view ((mpz_cdiv_q_2exp ex 0 1 64).h 0) = ⟨2, 2, [0, 1]⟩ := by decide
example : (mpz_cdiv_q_2exp ex 1 1 64).ok = true ∧ view ((mpz_cdiv_q_2exp ex 1 1 64).h 1) = ⟨2, 2, [0, 1]⟩ := by decide
-- … ⌊(B^2-1) / 2^64⌋ = B - 1 into the one-limb destination (the `+ 1` limb is requested whether or not it is used)
example : (mpz_fdiv_q_2exp ex 0 1 64).ok = true ∧ view ((mpz_fdiv_q_2exp ex 0 1 64).h 0) = ⟨2, 1, [B - 1]⟩ := by decide
-- ⌈1 / 2^200⌉ = 1, ⌊-(B^2) / 2^200⌋ = -1: `PTR(w)[0] = 1` without any reallocation
example : view ((mpz_cdiv_q_2exp ex 0 2 200).h 0) = ⟨1, 1, [1]⟩ ∧ view ((mpz_fdiv_q_2exp ex3 0 1 200).h 0) = ⟨1, -1, [1]⟩ := by decide
-- negative: `MPZ_REALLOC (w, wsize)` without the "+1 limb to allow for mpn_add_1 below" — `wp[wsize] = cy` is outside the block
example : (cfdiv_q_2exp 0 ex 0 1 64 1).ok = false := by decide

end Mpir.AllocSafe
