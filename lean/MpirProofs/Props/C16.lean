/-
  C16 — factorial, binomial, Fibonacci/Lucas, remove, primality.  Property theorems only; helper
  lemmas live in MpirProofs/Lemmas/: Numth.lean and NumthFib/NumthPrime/NumthFac/NumthRemove.lean, BinTop.lean with
  BinBdiv.lean and BinSmall.lean below it (binomial), Mfac.lean, Goet.lean, Sieve*.lean, Swing*.lean, Primorial.lean,
  NextPrime.lean.  The table theorems are about the REGENERATED tables
  of Mpir/Gen/NumthTabs.lean (rewritten from /repo's source by every `bin/check C16`); the other
  theorems are about the executable models of Mpir/Model/Numth.lean, which the correspondence run
  compares with the real library (and with the executable specs) on every check.
  The statements about small arguments (`mfac_uiui_small_spec`, `primorial_ui_small_spec`,
  `bin_uiui_small_spec`) are instances of the theorems for every argument in Props/C16_sieve.lean and
  Props/C16_binsmall.lean.
-/
import MpirProofs.Props.C16_binsmall
import MpirProofs.Lemmas.NumthFib
import MpirProofs.Lemmas.NumthPrime
import MpirProofs.Lemmas.NumthRemove
import Mpir.Ops.Numth
namespace Mpir.Numth
open Mpir Mpir.Gen.NumthTabs

/-! ## Tables -/

/-- `__gmp_fib_table`: FIB_TABLE_LIMIT + 2 limbs; entry 0 is F[-1] = 1 and entry i+1 is F[i]. -/
theorem fib_table_ok :
    fibTable.length = FIB_TABLE_LIMIT + 2 ∧ fibTab 0 = 1 ∧
    (∀ i < FIB_TABLE_LIMIT + 1, fibTab (i + 1) = Nat.fib i) ∧ (∀ x ∈ fibTable, x < B) := by
  refine ⟨by rw [fibTable_eq]; simp, fibTab_zero, fun i hi => fibTab_succ i (by omega), ?_⟩
  have hmax : Nat.fib FIB_TABLE_LIMIT < B := by rw [← fibSpec_eq]; decide +kernel
  rw [fibTable_eq]
  intro x hx
  rcases List.mem_cons.1 hx with rfl | hx
  · rw [B_eq]; norm_num
  · obtain ⟨i, hi, rfl⟩ := List.mem_map.1 hx
    rw [fibSpec_eq]
    exact lt_of_le_of_lt (Nat.fib_mono (Nat.le_of_lt_succ (List.mem_range.1 hi))) hmax
example : FIB_TABLE 93 = 12200160415121876738 ∧ FIB_TABLE 93 = Nat.fib 93 := by decide +kernel

/-- FIB_TABLE_LIMIT and FIB_TABLE_LUCNUM_LIMIT are exactly the largest indices whose Fibonacci / Lucas
    number fits a limb (L[n] = F[n] + 2F[n-1]). -/
theorem fib_table_limits_ok :
    B ≤ Nat.fib (FIB_TABLE_LIMIT + 1) ∧ FIB_TABLE_LUCNUM_LIMIT ≤ FIB_TABLE_LIMIT ∧
    (∀ n ≤ FIB_TABLE_LUCNUM_LIMIT, FIB_TABLE n + 2 * fibTab n < B) ∧
    B ≤ Nat.fib (FIB_TABLE_LUCNUM_LIMIT + 1) + 2 * Nat.fib FIB_TABLE_LUCNUM_LIMIT := by
  simp only [← fibSpec_eq]
  exact ⟨by decide +kernel, by decide +kernel, fun n hn => (luc_table_fits n hn).2.1, by decide +kernel⟩
example : lucTab 92 = 16860207025497407047 := by decide +kernel

/-- `ONE_LIMB_FACTORIAL_TABLE`: entry i is i!, all entries are limbs, and the next factorial is not. -/
theorem fac_table_ok :
    (∀ i < facTable.length, facTable.getD i 0 = i.factorial) ∧ (∀ x ∈ facTable, x < B) ∧
    B ≤ facTable.length.factorial :=
  ⟨fac_table_entry, by decide +kernel, by decide +kernel⟩
example : facTable.getD 20 0 = 2432902008176640000 := by decide +kernel

/-- `__gmp_oddfac_table` (table + extension): entry i is the odd part of i! modulo 2^64; the first
    ODD_FACTORIAL_TABLE_LIMIT + 1 entries are the exact odd parts and ODD_FACTORIAL_TABLE_MAX is the last of them. -/
theorem oddfac_table_ok :
    oddfacTable.length = ODD_FACTORIAL_TABLE_LIMIT + 1 ∧
    (oddfacTable ++ oddfacExtTable).length = ODD_FACTORIAL_EXTTABLE_LIMIT + 1 ∧
    (∀ i < ODD_FACTORIAL_EXTTABLE_LIMIT + 1, oddfacTab i = oddPart i.factorial % B) ∧
    (∀ i < ODD_FACTORIAL_TABLE_LIMIT + 1, oddPart i.factorial < B) ∧
    B ≤ oddPart (ODD_FACTORIAL_TABLE_LIMIT + 1).factorial ∧
    oddfacTab ODD_FACTORIAL_TABLE_LIMIT = ODD_FACTORIAL_TABLE_MAX := by
  decide +kernel
example : oddfacTab 10 = 14175 ∧ 14175 * 2 ^ 8 = Nat.factorial 10 := by decide +kernel

open Nat in
/-- `__gmp_odd2fac_table`: entry i is (2i+1)!!, exact; ODD_DOUBLEFACTORIAL_TABLE_MAX is the last entry
    and the next odd double factorial does not fit a limb. -/
theorem odd2fac_table_ok :
    2 * odd2facTable.length = ODD_DOUBLEFACTORIAL_TABLE_LIMIT + 1 ∧
    (∀ i < odd2facTable.length, odd2facTab i = (2 * i + 1)‼) ∧ (∀ x ∈ odd2facTable, x < B) ∧
    odd2facTab (ODD_DOUBLEFACTORIAL_TABLE_LIMIT / 2) = ODD_DOUBLEFACTORIAL_TABLE_MAX ∧
    B ≤ (ODD_DOUBLEFACTORIAL_TABLE_LIMIT + 2)‼ :=
  ⟨oddfac_consts.2.2.1, odd2fac_entry, by decide +kernel, by decide +kernel, by rw [← doubleFactorial_eq]; decide +kernel⟩
example : odd2facTab 4 = 945 := by decide +kernel

/-- `__gmp_fac2cnt_table`: entry i is 2(i+1) - popcount(2(i+1)), i.e. the exponent of 2 in (2i+2)!;
    it serves every n ≤ TABLE_LIMIT_2N_MINUS_POPC_2N through index n/2 - 1, and that entry is n - popcount n. -/
theorem fac2cnt_table_ok :
    TABLE_LIMIT_2N_MINUS_POPC_2N = 2 * fac2cntTable.length + 1 ∧
    (∀ i < fac2cntTable.length, fac2cntTab i = 2 * (i + 1) - popcount (2 * (i + 1))) ∧
    (∀ n ≤ TABLE_LIMIT_2N_MINUS_POPC_2N, 2 ≤ n → fac2cntTab (n / 2 - 1) = n - popcount n) :=
  ⟨by decide, by decide +kernel, fac2cnt_entry⟩
example : fac2cntTab 3 = 7 ∧ Nat.factorial 8 = 2 ^ 7 * 315 := by decide +kernel

/-- `__gmp_limbroots_table`: entry i is the largest x with x^(i+1) < 2^64. -/
theorem limbroots_table_ok :
    limbrootsTable.length = 8 ∧
    ∀ i < 8, limbrootsTable.getD i 0 ^ (i + 1) < B ∧ B ≤ (limbrootsTable.getD i 0 + 1) ^ (i + 1) := by
  decide +kernel
example : log_n_max 65535 = 4 ∧ log_n_max 65536 = 3 := by decide +kernel

/-- `facinv` (ONE_LIMB_ODD_FACTORIAL_INVERSES_TABLE): entry i is the inverse modulo 2^64 of the odd
    part of (i+2)!  (x * inv ≡ 1 mod B). -/
theorem fac_inverse_table_ok :
    facinvTable.length + 2 ≤ ODD_FACTORIAL_EXTTABLE_LIMIT + 1 ∧
    (∀ i < facinvTable.length, oddfacTab (i + 2) * facinvTab i % B = 1) ∧ (∀ x ∈ facinvTable, x < B) := by
  decide +kernel
example : oddfacTab 3 = 3 ∧ facinvTab 1 = 0xaaaaaaaaaaaaaaab ∧ 3 * 0xaaaaaaaaaaaaaaab = 2 * B + 1 := by decide +kernel

/-- `bin2kk`, `bin2kkinv`, `fac2bin`: for k = ODD_CENTRAL_BINOMIAL_OFFSET + i ≤ ODD_CENTRAL_BINOMIAL_TABLE_LIMIT,
    binomial(2k,k) = bin2kk[i] * 2^fac2bin[i] with bin2kk[i] an odd limb, and bin2kkinv[i] is its inverse mod 2^64. -/
theorem bin2kk_table_ok :
    bin2kkTable.length = ODD_CENTRAL_BINOMIAL_TABLE_LIMIT - ODD_CENTRAL_BINOMIAL_OFFSET + 1 ∧
    bin2kkinvTable.length = bin2kkTable.length ∧ fac2binTable.length = bin2kkTable.length ∧
    (∀ i < bin2kkTable.length,
      bin2kkTable.getD i 0 * 2 ^ fac2binTable.getD i 0 = binom (2 * (i + ODD_CENTRAL_BINOMIAL_OFFSET)) (i + ODD_CENTRAL_BINOMIAL_OFFSET) ∧
      bin2kkTable.getD i 0 % 2 = 1 ∧ bin2kkTable.getD i 0 < B ∧
      bin2kkTable.getD i 0 * bin2kkinvTable.getD i 0 % B = 1) := by
  decide +kernel
example : bin2kkTable.getD 0 0 * 2 ^ 3 = 10400600 ∧ binom 26 13 = 10400600 := by decide +kernel

/-- `primes[]` of next_prime_candidate.c: strictly increasing, and the listed numbers are exactly the
    odd primes up to the last entry (997). -/
theorem primes_table_ok :
    List.Pairwise (· < ·) npcPrimes ∧
    ∀ p ≤ npcPrimes.getLastD 0, p ∈ npcPrimes ↔ (3 ≤ p ∧ p.Prime) := by
  have hlast : npcPrimes.getLastD 0 = 997 := by decide +kernel
  rw [hlast, npcPrimes_eq]
  refine ⟨List.Pairwise.filter _ List.pairwise_lt_range, fun p hp => ?_⟩
  simp only [List.mem_filter, List.mem_range, Bool.and_eq_true, decide_eq_true_eq, isPrimeTD_iff]
  exact ⟨fun h => h.2, fun h => ⟨by omega, h⟩⟩
example : 997 ∈ npcPrimes ∧ 991 ∈ npcPrimes ∧ 993 ∉ npcPrimes ∧ npcPrimes.getLastD 0 = 997 := by decide +kernel

/-- `PP` (gmp-impl.h): the product of the odd primes below PP_FIRST_OMITTED, a limb; the trial-division
    list of pprime_p.c:75-93 consists of exactly those primes. -/
theorem pp_table_ok :
    PP = [3, 5, 7, 11, 13, 17, 19, 23, 29, 31, 37, 41, 43, 47, 53].prod ∧ PP < B ∧
    (∀ p < PP_FIRST_OMITTED, p ∈ [3, 5, 7, 11, 13, 17, 19, 23, 29, 31, 37, 41, 43, 47, 53] ↔ (3 ≤ p ∧ p.Prime)) ∧
    PP_FIRST_OMITTED.Prime := by
  simp only [← isPrimeTD_iff]
  decide +kernel
example : PP % 53 = 0 ∧ PP % 59 ≠ 0 := by decide +kernel

/-- `mod64`, `mod63`, `mod65` of likely_prime_p.c (the filter of `n_is_square`): a 0 entry is never a
    quadratic residue, so the filter rejects no square.  mod64 and mod65 flag exactly the residues;
    mod63 additionally flags the non-residues 14, 35, 56 (harmless: the exact square root test follows). -/
theorem sqres_tables_ok :
    (∀ r < 64, mod64.getD r 0 = 1 ↔ ∃ x < 64, x * x % 64 = r) ∧
    (∀ r < 63, (∃ x < 63, x * x % 63 = r) → mod63.getD r 0 = 1) ∧
    (∀ r < 63, mod63.getD r 0 = 1 → (r = 14 ∨ r = 35 ∨ r = 56 ∨ ∃ x < 63, x * x % 63 = r)) ∧
    (∀ r < 65, mod65.getD r 0 = 1 ↔ ∃ x < 65, x * x % 65 = r) ∧
    mod64.length = 64 ∧ mod63.length = 63 ∧ mod65.length = 65 := by
  decide +kernel
example : mod64.getD 17 0 = 1 ∧ 9 * 9 % 64 = 17 ∧ mod63.getD 14 0 = 1 := by decide +kernel

/-- the small table of mpz_primorial_ui -/
theorem primorial_table_ok : ∀ i < primorialTable.length, primorialTable.getD i 0 = primorial i := by
  decide +kernel
example : primorialTable.getD 4 0 = 6 := by decide +kernel

/-! ## Fibonacci and Lucas numbers -/

/-- mpn_fib2_ui (model of mpn/generic/fib2_ui.c: table start, bit scan of n, doubling steps with the
    ±2 applied to the low limb only): for EVERY n the pair is (F(n), F(n-1)), where F(-1) = 1 is
    expressed as `second + F(n) = F(n+1)`.  Includes: the subtractions never go negative and the
    low-limb `-2` never borrows (F(4m+3) mod 8 ∈ {1,2,5}). -/
theorem fib2_ui_spec (n : ℕ) :
    (mpn_fib2_ui n).1 = Nat.fib n ∧ (mpn_fib2_ui n).2 + Nat.fib n = Nat.fib (n + 1) :=
  mpn_fib2_ui_pair n
example : mpn_fib2_ui 200 = (280571172992510140037611932413038677189525, 173402521172797813159685037284371942044301) := by
  decide +kernel

/-- for n ≥ 1 the second component is F(n-1); mpz_fib2_ui returns the same pair -/
theorem fib2_ui_spec_pred (n : ℕ) (hn : 1 ≤ n) :
    mpz_fib2_ui n = (Nat.fib n, Nat.fib (n - 1)) := by
  have h := mpn_fib2_ui_pair n
  unfold mpz_fib2_ui
  exact Prod.ext h.1 (h.pred hn)
example : mpz_fib2_ui 0 = (0, 1) ∧ mpz_fib2_ui 94 = (Nat.fib 94, Nat.fib 93) := by decide +kernel

/-- The claim mpz/fib_ui.c:36-43 relies on with the words "No proof for this claim": for n ≡ 1 (mod 4),
    1 < n < 2^64, the low limb of F(n) is not 1 (and it is not 0: F(n) is not divisible by 4 for odd n),
    so adding 2 to the low limb of F(n) - 2 never carries.  Proof: F(4j+1) - 1 = F(2j)·L(2j+1),
    F(m) even ⇔ 3 ∣ m ⇔ L(m) even, 8 ∤ L(m), 4 ∤ L(2w), hence v₂(F(2^k u)) ≤ k + 2; so 2^64 ∣ F(n) - 1
    forces 3·2^61 ∣ j, i.e. n ≥ 3·2^63 + 1 > 2^64.  (The comment's "F[3*2^b+1]" should read 3·2^(b-1)+1.) -/
theorem fib_low_limb_claim (n : ℕ) (hn : n < B) (h4 : n % 4 = 1) (h1 : 1 < n) :
    Nat.fib n % B ≠ 1 ∧ Nat.fib n % B ≠ 0 := by
  refine ⟨fib_low_limb_ne_one n hn h4 h1, fun h0 => ?_⟩
  have := fib_odd_mod4 n (by omega)
  rw [B_eq] at h0; omega
example : Nat.fib 97 % B = 9834167195010216513 ∧ 97 % 4 = 1 := by decide +kernel

/-- mpz_fib_ui (model of mpz/fib_ui.c: table, F[2k] = F[k](F[k]+2F[k-1]), F[2k+1] = (2F[k]+F[k-1])(2F[k]-F[k-1]) ± 2
    with the ±2 applied to the LOW LIMB ONLY) returns F(n) for EVERY n < 2^64. -/
theorem fib_ui_spec (n : ℕ) (hn : n < B) : mpz_fib_ui n = Nat.fib n :=
  mpz_fib_ui_eq n (fun h4 hbig => fib_low_limb_ne_one n hn h4 (by have := FIB_TABLE_LIMIT_ge; omega))
example : mpz_fib_ui 1001 = Nat.fib 1001 ∧ mpz_fib_ui 94 = 19740274219868223167 := by decide +kernel

/-- mpz_lucnum_ui (model of mpz/lucnum_ui.c: table, trailing-zero stripping, L[2k+1] formula with the
    low-limb `+4`, squaring steps with the low-limb `+2`): for EVERY n the result is the Lucas number,
    characterised by L(n) + F(n) = 2 F(n+1); equivalently it equals the executable spec `lucSpec`. -/
theorem lucnum_ui_spec (n : ℕ) :
    mpz_lucnum_ui n + Nat.fib n = 2 * Nat.fib (n + 1) ∧ mpz_lucnum_ui n = lucSpec n :=
  ⟨by rw [mpz_lucnum_ui_eq]; exact lucSpec_add_fib n, mpz_lucnum_ui_eq n⟩
example : mpz_lucnum_ui 186 = 27280388024614569596 * 27280388024614569596 + 2 ∧ mpz_lucnum_ui 0 = 2 := by decide +kernel

/-- mpz_lucnum2_ui: (L(n), L(n-1)) for every n, with L(-1) = -1 -/
theorem lucnum2_ui_spec (n : ℕ) :
    (mpz_lucnum2_ui n).1 = (lucSpec n : ℤ) ∧
    (n = 0 → (mpz_lucnum2_ui n).2 = -1) ∧ (1 ≤ n → (mpz_lucnum2_ui n).2 = (lucSpec (n - 1) : ℤ)) := by
  unfold mpz_lucnum2_ui
  by_cases hs : n ≤ FIB_TABLE_LUCNUM_LIMIT
  · simp only [hs, if_true]
    obtain ⟨h1, h2, h3⟩ := luc_table_fits n hs
    obtain ⟨l1, l2⟩ := luc_of_fib_pair (fib_table_pair n h1)
    refine ⟨by rw [Nat.mod_eq_of_lt h2, l1]; rfl, fun h0 => by simp [h0], fun hn => ?_⟩
    have := l2 hn
    rw [if_neg (by omega), Nat.mod_eq_of_lt h3]
    simp only [Int.ofNat_eq_natCast, Nat.cast_inj, B_eq] at *
    omega
  · simp only [hs, if_false]
    have hp := mpn_fib2_ui_pair n
    generalize mpn_fib2_ui n = p at hp
    obtain ⟨x, y⟩ := p
    obtain ⟨l1, l2⟩ := luc_of_fib_pair hp
    refine ⟨by rw [l1, add_comm]; rfl, fun h0 => by omega, fun hn => ?_⟩
    have := l2 hn
    simp only [Int.ofNat_eq_natCast, Nat.cast_inj]
    omega
example : mpz_lucnum2_ui 0 = (2, -1) ∧ mpz_lucnum2_ui 100 = (792070839848372253127, 489526700523968661124) := by decide +kernel

/-! ## Primality: a prime is never reported composite -/

/-- One Miller–Rabin round (`mill_rab` of mpz/miller_rabin.c: y = x^q mod n, accept on 1 or n-1, then
    up to k-1 squarings accepting on n-1 and rejecting on 1) accepts EVERY base x not divisible by p
    when p is prime and p - 1 = 2^k q.  (Fermat + "only ±1 square to 1 modulo a prime".) -/
theorem strong_prp_prime (p : ℕ) (hp : p.Prime) (x q k : ℕ) (hqk : p - 1 = 2 ^ k * q) (hx : ¬ p ∣ x) :
    mill_rab p x q k = true :=
  mill_rab_prime p hp x q k hqk hx
example : mill_rab 97 5 3 5 = true ∧ (97 - 1 = 2 ^ 5 * 3) ∧ mill_rab 561 2 35 4 = false := by decide +kernel

/-- mpz_miller_rabin (guard for n ≤ 7, Fermat test to base 210, `reps` rounds) returns 1 for every prime,
    whatever bases 2 ≤ x ≤ n-2 the random generator produces: "never returns 0 for a prime". -/
theorem miller_rabin_never_rejects_prime (p : ℕ) (hp : p.Prime) (bases : List ℕ)
    (hb : ∀ x ∈ bases, 2 ≤ x ∧ x ≤ p - 2) : miller_rabin_with p bases = true := by
  apply miller_rabin_with_prime p hp
  intro x hx hd
  obtain ⟨h1, h2⟩ := hb x hx
  have := Nat.le_of_dvd (by omega) hd
  have := hp.two_le
  omega
example : miller_rabin_with 1000003 [2, 3, 999999, 1000001] = true ∧ miller_rabin_with 7 [] = true ∧
    miller_rabin_with 1729 [2] = false := by decide +kernel

/-- the spec oracle `isPrime` used by the predicate ops answers `true` on every prime, i.e.
    `isPrime n = false` proves that n is composite.  (The converse below 2^64 is the published
    12-base result, see the trusted base.) -/
theorem isPrime_complete (p : ℕ) (hp : p.Prime) : isPrime p = true := isPrime_of_prime p hp
example : isPrime 18446744073709551557 = true ∧ isPrime 3825123056546413051 = false := by decide +kernel

/-! ## Factorials -/

/-- Legendre's formula for p = 2, the fact behind `mpz_mul_2exp (x, x, n - popcount n)` in fac_ui.c:
    n! = (odd part of n!) · 2^(n - popcount n) for every n < 2^64. -/
theorem factorial_odd_part_mul_two_pow (n : ℕ) (hn : n < B) :
    n.factorial = oddPart n.factorial * 2 ^ (n - popcount n) := by
  rw [mul_comm]; exact factorial_two_adic n hn
example : Nat.factorial 10 = 14175 * 2 ^ (10 - popcount 10) ∧ oddPart (Nat.factorial 10) = 14175 := by decide +kernel

/-- structure of mpz_fac_ui beyond the one-limb table: odd part × 2^(n − popcount n)
    (the shift count comes from `__gmp_fac2cnt_table` up to TABLE_LIMIT_2N_MINUS_POPC_2N and from popc_limb above). -/
theorem fac_ui_structure (n : ℕ) (h1 : facTable.length ≤ n) (h2 : aboveThreshold n FAC_ODD_THRESHOLD = true) :
    mpz_fac_ui n = mpz_oddfac_1 n 0 * 2 ^ (n - popcount n) := by
  have hlen := facTable_length_pos
  unfold mpz_fac_ui
  simp only [show ¬ n < facTable.length by omega, h2, if_false, Bool.not_true, Bool.false_eq_true]
  rw [facShift_eq n (by omega)]
example : mpz_fac_ui 100 = mpz_oddfac_1 100 0 * 2 ^ (100 - popcount 100) ∧ 100 - popcount 100 = 97 :=
  ⟨fac_ui_structure 100 (by decide +kernel) (by decide +kernel), by decide +kernel⟩

/-- mpz_oddfac_1 below FAC_DSC_THRESHOLD (tables; limb-product basecase with FACTOR_LIST_STORE, proved
    never to overflow a limb): the odd part of n!, for every such n and either flag. -/
theorem oddfac_1_spec_below_dsc (n flag : ℕ) (hn : n < B) (h : n < FAC_DSC_THRESHOLD) :
    mpz_oddfac_1 n flag = oddPart n.factorial :=
  mpz_oddfac_1_below_dsc n flag hn h
example : mpz_oddfac_1 200 0 = oddPart (Nat.factorial 200) := oddfac_1_spec_below_dsc 200 0 (by decide +kernel) (by decide +kernel)

/-- mpz_fac_ui n = n! for every n below FAC_DSC_THRESHOLD (table, limb-product basecase, odd factorial
    basecase × power of two). -/
theorem fac_ui_spec_below_dsc (n : ℕ) (hn : n < B) (h : n < FAC_DSC_THRESHOLD) : mpz_fac_ui n = n.factorial :=
  mpz_fac_ui_eq n hn (fun _ _ => oddfac_1_spec_below_dsc n 0 hn h)
example : mpz_fac_ui 25 = 15511210043330985984000000 := by decide +kernel

/- The statement without hypothesis, `∀ n < 2^64, mpz_fac_ui n = n !`, is `fac_ui_spec` in Props/C16_sieve.lean.
   Here everything but the swing factor is proved — dispatch, tables, basecase products without limb overflow, the
   number of halvings, the squaring loop, the power of two — and the hypothesis `hsw` says that the sieve-based swing
   factor `mpz_2multiswing_1 m` (oddfac_1.c:199-262: prime powers read off a prime sieve) is the odd part of
   m!/((m/2)!)^2 for the arguments m ≥ FAC_DSC_THRESHOLD that the divide-swing-conquer loop uses
   (`multiswing_spec` there discharges it). -/
/-- mpz_fac_ui n = n! for every n < 2^64, given correct swing factors -/
theorem fac_ui_spec_partial (n : ℕ) (hn : n < B)
    (hsw : ∀ m, FAC_DSC_THRESHOLD ≤ m → m ≤ n →
      mpz_2multiswing_1 m * oddPart (m / 2).factorial ^ 2 = oddPart m.factorial) :
    mpz_fac_ui n = n.factorial :=
  mpz_fac_ui_eq n hn (fun _ _ => mpz_oddfac_1_of_swing n hn hsw)
example : mpz_2multiswing_1 900 * oddPart (Nat.factorial 450) ^ 2 = oddPart (Nat.factorial 900) := by decide +kernel

open Nat in
/-- mpz_2fac_ui n = n!! for every n below 2·FAC_DSC_THRESHOLD (even: odd factorial of n/2 × power of two;
    odd: table or limb-product basecase). -/
theorem two_fac_ui_spec_below_dsc (n : ℕ) (hn : n < B) (h : n < 2 * FAC_DSC_THRESHOLD) : mpz_2fac_ui n = n‼ := by
  rcases Nat.even_or_odd' n with ⟨k, rfl | rfl⟩
  · exact two_fac_even k hn (oddfac_1_spec_below_dsc k 0 (by omega) (by omega))
  · exact two_fac_odd (2 * k + 1) hn (by omega) (fun h2 => by have := FAC_2DSC_ge; omega)
example : mpz_2fac_ui 51 = 2980227913743310874726229193921875 ∧ mpz_2fac_ui 12 = 46080 := by decide +kernel

open Nat in
/- Without hypothesis: `two_fac_ui_spec` in Props/C16_sieve.lean; `hsw` as in `fac_ui_spec_partial`. -/
/-- mpz_2fac_ui n = n!! for every n < 2^64, given correct swing factors (the odd case above
    FAC_2DSC_THRESHOLD is mpz_oddfac_1 with flag 1: the last square is skipped) -/
theorem two_fac_ui_spec_partial (n : ℕ) (hn : n < B)
    (hsw : ∀ m, FAC_DSC_THRESHOLD ≤ m → m ≤ n →
      mpz_2multiswing_1 m * oddPart (m / 2).factorial ^ 2 = oddPart m.factorial) :
    mpz_2fac_ui n = n‼ :=
  mpz_2fac_ui_eq n hn hsw
example : mpz_2fac_ui 1801 = doubleFactorial 1801 := by decide +kernel

/-- the executable multifactorial spec obeys the defining recursion n!^(m) = n·(n-m)!^(m) -/
theorem multiFactorial_spec (n m : ℕ) (hm : 1 ≤ m) :
    multiFactorial n m = if n ≤ m then (if n = 0 then 1 else n) else n * multiFactorial (n - m) m :=
  multiFactorial_rec n m hm
example : multiFactorial 17 5 = 17 * 12 * 7 * 2 ∧ multiFactorial 0 3 = 1 := by decide +kernel

/-- mpz_mfac_uiui on the complete grid n < 80, 1 ≤ m < 24 (every gcd / m-class branch of mfac_uiui.c) -/
theorem mfac_uiui_small_spec : ∀ n < 80, ∀ m < 24, 1 ≤ m → mpz_mfac_uiui n m = multiFactorial n m :=
  fun n hn m hm h1 => mfac_uiui_spec n m h1 (by rw [B_eq]; omega) (by rw [B_eq]; omega)
example : mpz_mfac_uiui 60 9 = 60 * 51 * 42 * 33 * 24 * 15 * 6 := by decide +kernel

/-- the executable primorial spec is Mathlib's `primorial` (product of the primes ≤ n) -/
theorem primorial_spec (n : ℕ) : primorial n = _root_.primorial n := primorial_eq n
example : primorial 12 = 2310 := by decide +kernel

/-- mpz_primorial_ui for every n < 400 (table, then the sieve walk with FACTOR_LIST_STORE) -/
theorem primorial_ui_small_spec : ∀ n < 400, mpz_primorial_ui n = _root_.primorial n :=
  fun n hn => primorial_ui_spec n (by rw [B_eq]; omega)
example : mpz_primorial_ui 30 = 6469693230 := by decide +kernel

/-! ## mpz_remove -/

/-- mpz_remove (model of mpz/remove.c: scan for f = 2, otherwise divide by f, f², f⁴, ... then back down):
    for every x ≠ 0 and f ≥ 2 the result (r, c) satisfies x = r·f^c and f ∤ r — all occurrences of the
    factor are removed and c is their number. -/
theorem remove_spec (x f : ℤ) (hf : 2 ≤ f) (hx : x ≠ 0) :
    ∃ r c, mpz_remove x f = some (r, c) ∧ x = r * f ^ c ∧ ¬ f ∣ r := by
  unfold mpz_remove
  have h1 : ¬ f ≤ 1 := by omega
  simp only [h1, hx, if_false]
  have ha0 : x.natAbs ≠ 0 := by omega
  by_cases h2 : f = 2
  · subst h2
    simp only [if_true]
    obtain ⟨e1, e2⟩ := ctzAux_spec (x.natAbs.log2 + 1) x.natAbs ha0 Nat.lt_log2_self
    have hnd : ¬ 2 ∣ x.natAbs >>> ctzAux (x.natAbs.log2 + 1) x.natAbs := by omega
    obtain ⟨s1, s2⟩ := signed_factor x _ 2 _ e1 hnd
    exact ⟨_, _, rfl, s1, s2⟩
  · simp only [h2, if_false]
    have hF : 3 ≤ f.toNat := by omega
    obtain ⟨m1, m2⟩ := mpz_remove_nat x.natAbs f.toNat ha0 hF _ rfl _ rfl
    obtain ⟨s1, s2⟩ := signed_factor x _ f.toNat _ m1 m2
    have hfc : ((f.toNat : ℕ) : ℤ) = f := Int.toNat_of_nonneg (by omega)
    rw [hfc] at s1 s2
    exact ⟨_, _, rfl, s1, s2⟩

example : mpz_remove (-2 ^ 70 * 3 ^ 5 * 7) 3 = some (-2 ^ 70 * 7, 5) ∧ mpz_remove 96 2 = some (3, 5) ∧
    mpz_remove (17 ^ 33) 17 = some (1, 33) := by decide +kernel

/-- f ≤ 1 (0, 1 and every negative f) raises DIVIDE_BY_ZERO in the C; 0 stays 0 -/
theorem remove_exceptions (x f : ℤ) : (f ≤ 1 → mpz_remove x f = none) ∧ (2 ≤ f → mpz_remove 0 f = some (0, 0)) := by
  unfold mpz_remove
  constructor
  · intro h; simp [h]
  · intro h; have : ¬ f ≤ 1 := by omega
    simp [this]
example : mpz_remove 5 1 = none ∧ mpz_remove 5 (-3) = none ∧ mpz_remove 0 7 = some (0, 0) := by decide +kernel

/-! ## Binomials -/

/-- mpz_bin_ui (model of mpz/bin_ui.c: sign rule for negative n, the bin(n,k) = bin(n,n-k) rewrite, the
    accumulate-and-divide loop whose DIVIDE steps are proved exact) for EVERY integer n and every k:
    binomial(n,k) for n ≥ 0 and (-1)^k binomial(-n+k-1,k) for n < 0. -/
theorem bin_ui_spec (n : ℤ) (k : ℕ) :
    mpz_bin_ui n k = if 0 ≤ n then ((n.toNat.choose k : ℕ) : ℤ)
      else (-1) ^ k * ((((-n).toNat + k - 1).choose k : ℕ) : ℤ) := by
  unfold mpz_bin_ui
  -- both branches run the swap and the loop on some ni
  have hcore : ∀ (ni : ℕ) (f : ℕ → ℤ),
      (match (if ni < k then (ni, k) else (k, ni)) with
        | (k', ni') => match binUiLoop k' k' 1 ni' 1 1 1 with
          | (nacc, kacc, r) => f (r * nacc / kacc)) = f ((ni + k).choose k) := by
    intro ni f
    have := binUi_swap ni k _ rfl
    generalize (if ni < k then (ni, k) else (k, ni)) = sw at this ⊢
    obtain ⟨k', ni'⟩ := sw
    simp only at this ⊢
    generalize binUiLoop k' k' 1 ni' 1 1 1 = res at this ⊢
    obtain ⟨nacc, kacc, r⟩ := res
    simp only at this ⊢
    rw [this]
  by_cases hneg : n < 0
  · have h0 : ¬ 0 ≤ n := by omega
    simp only [hneg, h0, if_true, if_false]
    refine (hcore (-n - 1).toNat (fun v => if k % 2 = 1 then -Int.ofNat v else Int.ofNat v)).trans ?_
    rw [show (-n).toNat + k - 1 = (-n - 1).toNat + k by omega]
    rcases Nat.even_or_odd k with he | ho
    · have : k % 2 ≠ 1 := by have := Nat.even_iff.mp he; omega
      simp [this, he.neg_one_pow]
    · have : k % 2 = 1 := Nat.odd_iff.mp ho
      simp [this, ho.neg_one_pow]
  · have h0 : 0 ≤ n := by omega
    simp only [hneg, h0, if_true, if_false]
    by_cases hlt : n.toNat < k
    · simp [hlt, Nat.choose_eq_zero_of_lt hlt]
    · simp only [hlt, if_false]
      refine (hcore (n.toNat - k) Int.ofNat).trans ?_
      rw [show n.toNat - k + k = n.toNat by omega]; rfl
example : mpz_bin_ui (-7) 3 = -84 ∧ mpz_bin_ui (2 ^ 70) 2 = 2 ^ 69 * (2 ^ 70 - 1) ∧ mpz_bin_ui 5 9 = 0 := by decide +kernel

/-- the executable spec `binom` used by the driver is `Nat.choose` -/
theorem binom_spec (n k : ℕ) : binom n k = n.choose k := binom_eq_choose n k
example : binom 67 33 = 14226520737620288370 := by decide +kernel

/-- mpz_bin_uiui for every n up to ODD_FACTORIAL_EXTTABLE_LIMIT and EVERY k: the k > n, k < 2 and
    `bc_bin_uiui` branches (odd-factorial table × two inverse-table entries × shift, all in limb
    arithmetic) give exactly binomial(n,k). -/
theorem bin_uiui_small_spec (n k : ℕ) (hn : n ≤ ODD_FACTORIAL_EXTTABLE_LIMIT) :
    mpz_bin_uiui n k = some (n.choose k) :=
  mpz_bin_uiui_spec n k (lt_of_le_of_lt hn (by decide))
example : mpz_bin_uiui 67 33 = some 14226520737620288370 ∧ binDispatch 67 33 = (.bc, 33) := by decide +kernel

/-! ## The predicates of the correspondence run accept only what the property allows -/

open Mpir.Ops.Numth in
/-- If the driver's nextprime predicate accepts an implementation answer r for argument n, then r > n
    and there is no (real) prime strictly between: acceptance never hides a skipped prime. -/
theorem nextprime_pred_sound (n r : ℤ) (h : nextOk n r = none) :
    n < r ∧ ∀ j : ℕ, n < (j : ℤ) → (j : ℤ) < r → ¬ j.Prime := by
  unfold nextOk at h
  by_cases h1 : r ≤ n
  · simp [h1] at h
  · simp only [h1, if_false] at h
    refine ⟨by omega, fun j hj1 hj2 hp => ?_⟩
    generalize hlo : (if n < 0 then 0 else n.toNat) = lo at h
    have hlo' : (lo : ℤ) ≤ max n 0 := by
      subst hlo; split_ifs <;> omega
    by_cases h2 : r.toNat ≤ nextPrime lo
    · unfold nextPrime at h2
      obtain ⟨_, _, h3⟩ := firstPrimeFrom_spec (lo + 2) (lo + 1)
      have hjpos : 1 ≤ j := hp.one_lt.le
      have := h3 j (by omega) (by omega)
      rw [isPrime_of_prime j hp] at this
      exact absurd this (by simp)
    · simp [h2] at h
open Mpir.Ops.Numth in
example : nextOk 113 127 = none ∧ nextOk 113 131 = some "prime-skipped" ∧ nextOk 113 113 ≠ none := by decide +kernel

open Mpir.Ops.Numth in
/-- If the driver's primality-code predicate accepts code r for n, then: r ≠ 0 whenever n is a (real)
    prime; r = 2 only when the oracle says prime; with ≥ 25 repetitions every oracle-composite has r = 0. -/
theorem prime_code_pred_sound (n : ℕ) (r : ℤ) (codes : List ℤ) (strict : Bool)
    (h : codeOk n r codes strict = none) :
    (n.Prime → r ≠ 0) ∧ (r = 2 → isPrime n = true) ∧ (strict = true → isPrime n = false → r = 0) := by
  unfold codeOk at h
  split_ifs at h with h1 h2 h3 h4 h5
  · exact ⟨fun _ => h3, fun _ => h2, fun _ hc => by rw [h2] at hc; exact absurd hc (by simp)⟩
  · refine ⟨fun hp => absurd (isPrime_of_prime n hp) h2, fun h2' => absurd h2' h4, fun hs _ => ?_⟩
    by_contra hne
    exact h5 (by simp [hs, hne])
open Mpir.Ops.Numth in
example : codeOk 97 1 [0, 1, 2] true = none ∧ codeOk 97 0 [0, 1, 2] false ≠ none ∧ codeOk 91 2 [0, 1, 2] false ≠ none ∧
    codeOk 561 1 [0, 1] true ≠ none := by decide +kernel

end Mpir.Numth
