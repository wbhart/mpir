/-
  C01 (the negacyclic transforms of mpir_fft_mulmod_2expp1) — what the models of Mpir/Model/FftNeg.lean compute
  (statement-by-statement mirrors of fft/fft_negacyclic.c, ifft_negacyclic.c and of mpir_fft_naive_convolution_1 in
  fft/mulmod_2expp1.c; run against the real functions on every check).  Property theorems only; lemmas in
  MpirProofs/Lemmas/FftXNeg.lean.

  A negacyclic transform of 2n = 2^(d+2) entries (n = 2^(d+1) ≥ 2) with shift w works modulo p = 2^(n·w) + 1;
  τ = `s2 (n·w)` is √2 modulo p, so θ = τ^w is a primitive 4n-th root of unity (θ^(2n) = −1).

  Theorems:
    fft_negacyclic_weighted        out[rev i] ≡ Σ_j x_j·θ^((2i+1)·j): the values at the ODD powers of θ (the weights θ^j followed by
                                   the radix-2 transform with root θ²)
    ifft_negacyclic_inverts        mpir_ifft_negacyclic ∘ mpir_fft_negacyclic = 2n
    negacyclic_convolution_chain   transform, pointwise product (normalise, mpn_mulmod_2expp1_basecase), inverse transform, division
                                   by 2n ≡ the negacyclic convolution Σ_{i+k=j} a_i·b_k − Σ_{i+k=j+2n} a_i·b_k modulo p
    naive_convolution_1_val        mpir_fft_naive_convolution_1 = the same convolution of the low limbs modulo 2^64
    negacyclic_crt                 the two residues determine the coefficient: what mulmod_2expp1.c:127-139 stores
    negacyclic_sum_is_product      Σ_j c_j·X^j ≡ (Σ a_i X^i)(Σ b_k X^k) modulo X^(2n) + 1 for the negacyclic coefficients c_j (X = 2^bits1:
                                   the modulus is B^r_limbs + 1 and the right side is i1·i2)
    recombine_corrected            … and the sign correction of :153-167 applied to the stored pair (ii[j], r[j]) gives back the coefficient
  The whole function has a value-level model (Mpir/Model/FftMulmod.lean: `fft_mulmod_2expp1`, r1 as a number modulo
  B^(r_limbs+1)) that is run against the C (op fftx_fft_mulmod_2expp1) and, through mpn_mulmod_Bexpp1, against the
  specification (op fftx_mulmod_Bexpp1_fft).  NOT proved: the composition of the theorems above into
    -- theorem fft_mulmod_2expp1_val (i1 i2 : List Nat) (depth w : Nat) (hi1 : Limbs i1) (hi2 : Limbs i2)
    --     (hl : i2.length = i1.length) (hR : i1.length = 2 * 2 ^ depth * la) (hla : 1 ≤ la) (hd : 1 ≤ depth)
    --     (hw : 2 ^ depth * w = 128 * la) :
    --   fft_mulmod_2expp1 i1 i2 depth w = canon i1.length (val i1 * val i2)
  missing: the fold of mpir_fft_combine_bits and of the corrections over the 2n − 1 coefficients (every step an addition
  modulo B^(r_limbs+1), no carry leaves a window because the limb above it is still zero), the wrap-around of the last
  coefficient (X^(2n) = B^r_limbs ≡ −1; that coefficient is never negative) and the bound |Σ c_j X^j| < B^(r_limbs+1)/2 that
  makes the signed reading of r1 exact.
-/
import MpirProofs.Lemmas.FftXNeg
namespace Mpir.FftX
open Mpir Finset

/-- mpir_fft_negacyclic on 2n = 2^(d+2) entries: position rev(i) holds Σ_j x_j·θ^((2i+1)·j) with θ = τ^w, τ = √2 — the
    values of the polynomial at the odd powers of the primitive 4n-th root of unity, which is what makes the pointwise
    product a NEGACYCLIC convolution (θ^((2i+1)·2n) = −1). -/
theorem fft_negacyclic_weighted (d w : Nat) (hd : 64 ∣ 2 ^ (d + 1) * w) (xs : List Int) (i : Nat) (hi : i < 2 ^ (d + 2)) :
    (fft_negacyclic (d + 1) w xs).length = 2 ^ (d + 2) ∧
    el (fft_negacyclic (d + 1) w xs) (rev (d + 2) i) ≡
      ∑ j ∈ range (2 ^ (d + 2)), el xs j * ((s2 (2 ^ (d + 1) * w) ^ w) ^ (2 * i + 1)) ^ j [ZMOD pOf (2 ^ (d + 1) * w)] := by
  refine ⟨length_fft_negacyclic d w xs, (zmod_eq_iff _ _ _).mp ?_⟩
  have hp : 2 ^ (d + 2) = 2 * 2 ^ (d + 1) := by rw [pow_succ]; ring
  rw [fft_negacyclic_dft _ d w hd (zmod_two_pow _) xs _ (rev_lt _ _), rev_rev _ _ hi, map_sum, hp]
  apply sum_congr rfl; intro j _
  simp only [map_mul, map_pow, ← pow_mul]

-- non-vacuity: 4 entries modulo 2^64+1 (n = 2, w = 32): θ = 2^16, the four values at θ, θ^5, θ^3, θ^7
example : (fft_negacyclic 1 32 [1, 2, 3, 4]).map (· % pOf 64) =
    [1 + 2 * 2 ^ 16 + 3 * 2 ^ 32 + 4 * 2 ^ 48, (1 + 2 * 2 ^ 80 + 3 * 2 ^ 160 + 4 * 2 ^ 240) % pOf 64,
     (1 + 2 * 2 ^ 48 + 3 * 2 ^ 96 + 4 * 2 ^ 144) % pOf 64, (1 + 2 * 2 ^ 112 + 3 * 2 ^ 224 + 4 * 2 ^ 336) % pOf 64] := by
  decide +kernel

/-- mpir_ifft_negacyclic applied to values congruent to those of mpir_fft_negacyclic returns the 2n-fold input (inverse
    radix-2 transform, then the weights −θ^(2n−j) = θ^(−j)). -/
theorem ifft_negacyclic_inverts (d w : Nat) (hd : 64 ∣ 2 ^ (d + 1) * w) (xs ys : List Int)
    (h : ∀ k < 2 ^ (d + 2), el ys k ≡ el (fft_negacyclic (d + 1) w xs) k [ZMOD pOf (2 ^ (d + 1) * w)])
    (j : Nat) (hj : j < 2 ^ (d + 2)) :
    el (ifft_negacyclic (d + 1) w ys) j ≡ 2 ^ (d + 2) * el xs j [ZMOD pOf (2 ^ (d + 1) * w)] :=
  (recovers_ifft_negacyclic _ d w hd (zmod_two_pow _)).modEq xs ys h (fun _ a b => absurd b (Nat.not_lt.mpr a)) j hj

-- non-vacuity: even w (n = 2, w = 32) and odd w (n = 64, w = 1: the √2 weights), 2n-fold input back
example : (ifft_negacyclic 1 32 (fft_negacyclic 1 32 [1, 2, 3, 4])).map (· % pOf 64) = [4, 8, 12, 16] := by decide +kernel
example : let x : List Int := (List.range 128).map fun i => ((i : Int) + 1) * 12345
    (ifft_negacyclic 6 1 (fft_negacyclic 6 1 x)).map (fun v => v * 2 ^ (128 - 7) % pOf 64) = x := by decide +kernel

/-- Transform both coefficient vectors (2n entries) with mpir_fft_negacyclic, multiply pointwise modulo p (normalise,
    mpn_mulmod_2expp1_basecase), transform back with mpir_ifft_negacyclic and divide by 2n = 2^(d+2)
    (mpn_div_2expmod_2expp1 by depth + 1 bits, mulmod_2expp1.c:131): entry j is congruent to the negacyclic convolution
    Σ_{i ≤ j} a_i·b_(j−i) − Σ_{j < i < 2n} a_i·b_(2n+j−i). -/
theorem negacyclic_convolution_chain (d w L : Nat) (a b : List Int) (hL : 2 ^ (d + 1) * w = 64 * L) (hw : 1 ≤ w)
    (ha : ∀ i, 2 ^ (d + 2) ≤ i → el a i = 0) (hb : ∀ i, 2 ^ (d + 2) ≤ i → el b i = 0) (j : Nat) (hj : j < 2 ^ (d + 2)) :
    el (ifft_negacyclic (d + 1) w
        ((List.range (2 ^ (d + 2))).map fun j =>
          pointwise L (64 * L) (el (fft_negacyclic (d + 1) w a) j) (el (fft_negacyclic (d + 1) w b) j))) j *
        2 ^ (2 * (64 * L) - (d + 2))
      ≡ (∑ i ∈ range (j + 1), el a i * el b (j - i)) - ∑ i ∈ Ico (j + 1) (2 ^ (d + 2)), el a i * el b (2 ^ (d + 2) + j - i)
      [ZMOD pOf (64 * L)] := by
  have hp : 2 ^ (d + 2) = 2 * 2 ^ (d + 1) := by rw [pow_succ]; ring
  rw [hp] at ha hb hj ⊢
  have := neg_conv_chain d w L a b hL hw ha hb j hj
  rw [el_negconv _ _ _ _ hj] at this
  -- the second sum: only j < i < 2n contribute
  have e : ∑ i ∈ range (2 * 2 ^ (d + 1) + j + 1), el a i * el b (2 * 2 ^ (d + 1) + j - i) =
      ∑ i ∈ Ico (j + 1) (2 * 2 ^ (d + 1)), el a i * el b (2 * 2 ^ (d + 1) + j - i) := by
    rw [← Finset.sum_subset (s₁ := Ico (j + 1) (2 * 2 ^ (d + 1))) (s₂ := range (2 * 2 ^ (d + 1) + j + 1))]
    · intro i hi; simp only [mem_Ico] at hi; simp only [mem_range]; omega
    · intro i hi hni
      simp only [mem_range] at hi; simp only [mem_Ico, not_and, not_lt] at hni
      by_cases h1 : j + 1 ≤ i
      · rw [ha i (hni h1)]; ring
      · rw [hb (2 * 2 ^ (d + 1) + j - i) (by omega)]; ring
  rw [e] at this
  exact this

-- non-vacuity: (1 + 2X + 3X² + 4X³)² modulo X⁴ + 1 = −24 − 20X − 6X² + 20X³ through 4 entries modulo 2^64+1
example : ((ifft_negacyclic 1 32 ((List.range 4).map fun j =>
      pointwise 1 64 (el (fft_negacyclic 1 32 [1, 2, 3, 4]) j) (el (fft_negacyclic 1 32 [1, 2, 3, 4]) j))).map
    fun v => v * 2 ^ (128 - 2) % pOf 64) = [pOf 64 - 24, pOf 64 - 20, pOf 64 - 6, 20] := by decide +kernel

/-- mpir_fft_naive_convolution_1 (m ≥ 1 words each): word k of the result is Σ_{i ≤ k} ii[i]·jj[k−i] − Σ_{i > k} ii[i]·jj[m+k−i]
    modulo 2^64 — the negacyclic convolution of the low limbs, the second residue of every coefficient. -/
theorem naive_convolution_1_val (ii jj : List Nat) (hm : 1 ≤ ii.length) :
    (fft_naive_convolution_1 ii jj).length = ii.length ∧
    ∀ k < ii.length, (((fft_naive_convolution_1 ii jj).getD k 0 : Nat) : ZMod B) =
      ∑ i ∈ range ii.length,
        if i ≤ k then (ii.getD i 0 : ZMod B) * (jj.getD (k - i) 0 : ZMod B)
        else - ((ii.getD i 0 : ZMod B) * (jj.getD (ii.length + k - i) 0 : ZMod B)) := by
  obtain ⟨h1, h2⟩ := naive_convolution_1_spec ii jj hm
  exact ⟨h1, fun k hk => by rw [h2 k hk]; rfl⟩

-- non-vacuity: (1 + 2X + 3X²)·(4 + 5X + 6X²) modulo X³ + 1 and 2^64: 4 − 27, 13 − 18, 28
example : fft_naive_convolution_1 [1, 2, 3] [4, 5, 6] = [B - 23, B - 5, 28] := by decide +kernel
example : fft_naive_convolution_1 [B - 1, B - 1] [B - 1, 2] = [3, B - 1] := by decide +kernel

/-- The recombination of mulmod_2expp1.c:127-139: a coefficient c with |c| < B^(L+1)/2 (L = limbs ≥ 1), its canonical
    residue v modulo B^L + 1 (0 ≤ v ≤ B^L) and τ = (c mod B − v mod B) mod B — the word `r[j] - ii[j][0]`, r[j] being the
    word convolution — satisfy: v + τ·(B^L + 1), the number the code stores in ii[j] (limbs+1 limbs) and the overflow word
    r[j], is c itself for c ≥ 0 and c + B^(L+1) + B for c < 0. -/
theorem negacyclic_crt (L : Nat) (hL : 1 ≤ L) (c v : Int) (hv0 : 0 ≤ v) (hv1 : v ≤ (B : Int) ^ L)
    (hcv : c ≡ v [ZMOD (B : Int) ^ L + 1]) (hlo : -((B : Int) ^ (L + 1)) ≤ 2 * c) (hhi : 2 * c < (B : Int) ^ (L + 1)) :
    (0 ≤ c → v + ((c % B - v % B) % B) * ((B : Int) ^ L + 1) = c) ∧
    (c < 0 → v + ((c % B - v % B) % B) * ((B : Int) ^ L + 1) = c + (B : Int) ^ (L + 1) + B) := by
  obtain ⟨h1, h2⟩ := negacyclic_crt_lemma L hL c v hv0 hv1 hcv hlo hhi
  refine ⟨h1, fun hc => ?_⟩
  rw [h2 hc, pow_succ]; ring

-- non-vacuity (L = 1): c = −5 has residue v = B − 4 modulo B + 1 and B − 5 modulo B
example : (-5 : Int) ≡ (B : Int) - 4 [ZMOD (B : Int) ^ 1 + 1] := by decide
example : ((B : Int) - 4) + (((-5 : Int) % B - ((B : Int) - 4) % B) % B) * ((B : Int) ^ 1 + 1) = -5 + (B : Int) ^ 2 + B := by
  decide

/-- The negacyclic coefficients c_j = Σ_{i ≤ j} a_i·b_(j−i) − Σ_{i > j} a_i·b_(m+j−i) of two vectors of m entries represent the product
    of the polynomials modulo X^m + 1, for every integer X: Σ_j c_j·X^j ≡ (Σ a_i X^i)·(Σ b_k X^k).  In mpir_fft_mulmod_2expp1:
    m = 2n, X = 2^bits1, X^m + 1 = B^r_limbs + 1, and the right side is i1·i2 (mpir_fft_split_bits: `split_combine_id`). -/
theorem negacyclic_sum_is_product (a b : List Int) (m : Nat) (ha : ∀ i, m ≤ i → el a i = 0) (hb : ∀ i, m ≤ i → el b i = 0)
    (X : Int) :
    ∑ j ∈ range m, ((∑ i ∈ range (j + 1), el a i * el b (j - i)) - ∑ i ∈ Ico (j + 1) m, el a i * el b (m + j - i)) * X ^ j ≡
      (∑ i ∈ range m, el a i * X ^ i) * (∑ k ∈ range m, el b k * X ^ k) [ZMOD X ^ m + 1] := by
  have h := negconv_eval_modEq a b m ha hb X
  have e : ∑ j ∈ range m, el (negconv a b m) j * X ^ j =
      ∑ j ∈ range m, ((∑ i ∈ range (j + 1), el a i * el b (j - i)) - ∑ i ∈ Ico (j + 1) m, el a i * el b (m + j - i)) * X ^ j := by
    apply sum_congr rfl; intro j hj
    have hj := mem_range.mp hj
    rw [el_negconv _ _ _ _ hj]
    congr 2
    rw [← Finset.sum_subset (s₁ := Ico (j + 1) m) (s₂ := range (m + j + 1))]
    · intro i hi; simp only [mem_Ico] at hi; simp only [mem_range]; omega
    · intro i hi hni
      simp only [mem_range] at hi; simp only [mem_Ico, not_and, not_lt] at hni
      by_cases h1 : j + 1 ≤ i
      · rw [ha i (hni h1)]; ring
      · rw [hb (m + j - i) (by omega)]; ring
  rw [e] at h; exact h

-- non-vacuity: (1 + 2X + 3X²)(4 + 5X + 6X²) ≡ −23 − 5X + 28X² modulo X³ + 1, at X = 10
example : ((-23 : Int) - 5 * 10 + 28 * 10 ^ 2 - (1 + 2 * 10 + 3 * 10 ^ 2) * (4 + 5 * 10 + 6 * 10 ^ 2)) % (10 ^ 3 + 1) = 0 := by decide

/-- One coefficient of mpir_fft_mulmod_2expp1, from the residues to the corrected contribution: let v be the canonical
    residue (limbs+1 = L+1 limbs) of a coefficient c with |c| < B^(L+1)/2 and rj = c mod B the word of the word
    convolution.  `recombine` — mulmod_2expp1.c:133-138: τ = r[j] − ii[j][0], ii[j][limbs] = τ, mpn_add_1 of τ, the saved top
    limb added with add_ssaaaa, the carries collected in r[j] — leaves (U, r) with U < B^(L+1), r ≤ 1, and the C's correction
    (:153-167: subtract B when r[j] ≠ 0; subtract B and B^(L+1) when the top limb of ii[j] is negative as a signed limb)
    gives exactly c. -/
theorem recombine_corrected (L : Nat) (hL : 1 ≤ L) (c : Int) (v : List Nat) (rj : Nat)
    (hvl : v.length = L + 1) (hvL : Limbs v)
    (hvn : Fft.top v = 0 ∨ (Fft.top v = 1 ∧ val (Fft.lo v) = 0))
    (hcv : c ≡ Fft.rval v [ZMOD (B : Int) ^ L + 1]) (hr : (rj : Int) = c % B)
    (hlo : -((B : Int) ^ (L + 1)) ≤ 2 * c) (hhi : 2 * c < (B : Int) ^ (L + 1)) :
    ((recombine L v rj).1 : Int) -
        (if (recombine L v rj).2 ≠ 0 then (B : Int)
         else if (recombine L v rj).1 / B ^ L ≥ B / 2 then (B : Int) + (B : Int) ^ (L + 1) else 0) = c ∧
    (recombine L v rj).1 < B ^ (L + 1) ∧ (recombine L v rj).2 ≤ 1 :=
  recombine_spec L hL c v rj hvl hvL hvn hcv hr hlo hhi

-- non-vacuity (L = 1): c = −5 (residue B − 4, word B − 5): overflow word set; c = −B − 7: sign bit; c = 9
example : recombine 1 [B - 4, 0] (B - 5) = (B - 5, 1) := by decide +kernel
example : recombine 1 [B - 5, 0] (B - 7) = (B ^ 2 - 7, 0) := by decide +kernel
example : recombine 1 [9, 0] 9 = (9, 0) := by decide +kernel

end Mpir.FftX
