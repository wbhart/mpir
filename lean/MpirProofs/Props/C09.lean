/-
  C09 — integer roots, remainders, perfect-square / perfect-power tests.
  Property theorems only; the lemmas are in MpirProofs/Lemmas/Root.lean (square roots, perfect squares), Iroot.lean
  (mpz_root & co), PerfPow.lean and Rootrem*.lean.
  Every theorem is about the executable models in Mpir/Model/Root.lean (run against the real
  library on every check) and the tables regenerated from the source in Mpir/Gen/SqrtTabs.lean.
-/
import MpirProofs.Lemmas.Root
import MpirProofs.Lemmas.PerfPow
import MpirProofs.Lemmas.RootremBridge
namespace Mpir.Root
open Mpir Mpir.Gen.SqrtTabs

/-- The residue filters of mpn_perfect_square_p never reject a square: if `{up, n}` has value `k²`
    then the mod-256 probe (`sq_res_0x100`) passes and every PERFSQR_MOD_1/PERFSQR_MOD_2 test of
    PERFSQR_MOD_TEST passes on the folded mpn_mod_34lsub1 residue.  The table facts (bit `i` set
    whenever `i` is the modexact index of a square residue mod `d`; `inv·d ≡ 1 mod 2^49`;
    `d ∣ 2^48-1`) are kernel-checked on the REGENERATED tables (`sqRes256_table`, `perfsqrTests_ok`). -/
theorem perfsqr_filters_sound (up : List Nat) (k : Nat) (hl : Limbs up) (hne : up ≠ [])
    (hn : up.length + 1 < B) (hv : val up = k * k) :
    sqRes256 (up.headD 0) = true ∧ perfsqrModTest (perfsqrFold (mod34lsub1 up)) = true :=
  perfsqrFilters_sq up k hl hne hn hv

-- non-vacuity: a two-limb square passes, and the filters do reject something
example : sqRes256 ([0x2a05f20c1, 0x1].headD 0) = true ∧
    perfsqrModTest (perfsqrFold (mod34lsub1 [0xfffffffe00000001, 0])) = true := by decide +kernel
example : perfsqrModTest (perfsqrFold (mod34lsub1 [5, 1])) = false := by decide +kernel

/-- mpn_perfect_square_p answers the manual's question, given that its third test (normalise, zero is a
    square, then mpn_sqrtrem reports a zero remainder) is right; `mpn_perfect_square_p_spec` below
    discharges that hypothesis from the square-root theorems. -/
theorem perfect_square_p_iff (up : List Nat) (hl : Limbs up) (hne : up ≠ []) (hn : up.length + 1 < B)
    (hs : perfectSquareFinal up = true ↔ ∃ k, val up = k * k) :
    perfectSquareP up = true ↔ ∃ k, val up = k * k :=
  perfectSquareP_iff_of up hl hne hn hs

example : perfectSquareP [0xfffffffe00000001] = true ∧ perfectSquareP [0xfffffffe00000002] = false := by
  decide +kernel

/-- The normalising wrapper of mpn_sqrtrem (sqrtrem.c:311-372: even shift count `2c`, a zero low limb for
    an odd limb count, then `S >> k`, `R + 2·s0·S − s0²` shifted down by `2k` bits): given the contract of
    mpn_dc_sqrtrem on normalised operands, every call that takes the mpn_dc_sqrtrem path (all but the
    one-limb operand with the top bit set, which goes to mpn_sqrtrem1) returns `⌊√u⌋` and `u − ⌊√u⌋²`.
    `high` is the most significant limb `np[nn-1]`, non-zero as the manual requires. -/
theorem sqrtrem_normalise_ok (u nn high : Nat) (hnn : 0 < nn) (hu1 : high * B ^ (nn - 1) ≤ u)
    (hu2 : u < (high + 1) * B ^ (nn - 1)) (hp : 0 < high) (hB : high < B)
    (hbr : ¬(nn = 1 ∧ high ≥ B / 2)) (hdc : DcSpec) :
    sqrtremVal u nn high = (Nat.sqrt u, u - Nat.sqrt u * Nat.sqrt u) :=
  sqrtremVal_norm u nn high hnn hu1 hu2 hp hB hbr hdc

-- non-vacuity: a 3-limb operand with 5 leading zero bits (odd limb count and c = 2)
example : sqrtremVal (0x0712345678abcdef * B ^ 2 + 12345) 3 0x0712345678abcdef
    = (Nat.sqrt (0x0712345678abcdef * B ^ 2 + 12345),
       0x0712345678abcdef * B ^ 2 + 12345 - Nat.sqrt (0x0712345678abcdef * B ^ 2 + 12345) ^ 2) := by
  decide +kernel

/-- mpz_root / mpz_nthroot / mpz_rootrem (mpz/root.c, nthroot.c, rootrem.c), given the contract of
    mpn_rootrem: an even root of a negative number raises the square-root exception (checked before the
    zeroth-root division by zero); otherwise the root is `sign(u)·⌊|u|^(1/n)⌋` (truncation toward zero, also
    for negative `u` with odd `n`), the return value of mpz_root is non-zero exactly when
    `⌊|u|^(1/n)⌋^n = |u|`, equivalently `root^n = u`, and mpz_rootrem's remainder is `u − root^n`. -/
theorem mpz_root_sign_flag (u : Int) (n : Nat) (hrr : RootremSpec) :
    (u < 0 ∧ n % 2 = 0 → mpzRoot u n = .error "sqrtneg" ∧ mpzRootrem u n = .error "sqrtneg") ∧
    (¬(u < 0 ∧ n % 2 = 0) → n = 0 → mpzRoot u n = .error "div0" ∧ mpzRootrem u n = .error "div0") ∧
    (¬(u < 0 ∧ n % 2 = 0) → n ≠ 0 → ∃ (root rem : Int) (flag : Bool),
        mpzRoot u n = .ok (root, flag) ∧ mpzRootrem u n = .ok (root, rem) ∧
        root = u.sign * (iroot n u.natAbs : Nat) ∧
        (flag = true ↔ (iroot n u.natAbs) ^ n = u.natAbs) ∧ (flag = true ↔ root ^ n = u) ∧
        root ^ n + rem = u) :=
  mpz_root_sign_flag_at u n (fun h0 h1 => rootremSpec_iff.mp hrr _ n (Int.natAbs_pos.mpr h0) h1)

/-- THE CONTRACT OF mpn_rootrem, DISCHARGED: for every operand `a ≥ 1` of at most 2^61 bits and every index `k ≥ 2` the
    model `rootrem a (limbCount a) k w` the mpz layer calls returns the floor root; its second component is zero exactly
    for perfect k-th powers and is the remainder when `remp ≠ NULL`.  (`Rootrem.rootremAt_holds`, Lemmas/RootremBridge.lean,
    from `Rootrem.rootrem_ok`, Lemmas/RootremTop.lean, which states the result of the basecase, the padded approximate
    call and mpn_rootrem_internal for this model and for the `Option`-valued mirror at once.  `RootremSpec`, the same
    for ALL `a`, is not provable: beyond 2^(2^62) the schedule array `sizes[65]` overflows, in the C as in the model.) -/
theorem rootrem_contract (a k : Nat) (w : Bool) (ha : 0 < a) (hk : 2 ≤ k) (hsz : bitLen a ≤ 2 ^ 61) :
    (rootrem a (limbCount a) k w).1 = iroot k a ∧
    ((rootrem a (limbCount a) k w).2 = 0 ↔ (iroot k a) ^ k = a) ∧
    (w = true → (rootrem a (limbCount a) k w).2 = a - (iroot k a) ^ k) :=
  Rootrem.rootremAt_holds a k ha hk hsz w

example : rootrem (7 ^ 150 + 5) (limbCount (7 ^ 150 + 5)) 5 true = (7 ^ 30, 5) ∧
    (rootrem ((2 ^ 200 + 12345) ^ 2 + 2 ^ 200) 7 2 false).1 = 2 ^ 200 + 12345 := by decide +kernel

/-- mpz_root / mpz_nthroot / mpz_rootrem, UNCONDITIONAL (`mpz_root_sign_flag` without its hypothesis) for every operand
    an mpz_t can hold (`|SIZ| < 2^31` limbs, i.e. below 2^37 bits; proved up to 2^61 bits) and every index. -/
theorem mpz_root_spec (u : Int) (n : Nat) (hsz : bitLen u.natAbs ≤ 2 ^ 61) :
    (u < 0 ∧ n % 2 = 0 → mpzRoot u n = .error "sqrtneg" ∧ mpzRootrem u n = .error "sqrtneg") ∧
    (¬(u < 0 ∧ n % 2 = 0) → n = 0 → mpzRoot u n = .error "div0" ∧ mpzRootrem u n = .error "div0") ∧
    (¬(u < 0 ∧ n % 2 = 0) → n ≠ 0 → ∃ (root rem : Int) (flag : Bool),
        mpzRoot u n = .ok (root, flag) ∧ mpzRootrem u n = .ok (root, rem) ∧
        root = u.sign * (iroot n u.natAbs : Nat) ∧
        (flag = true ↔ (iroot n u.natAbs) ^ n = u.natAbs) ∧ (flag = true ↔ root ^ n = u) ∧
        root ^ n + rem = u) :=
  mpz_root_sign_flag_at u n (fun h0 h1 => Rootrem.rootremAt_holds u.natAbs n (Int.natAbs_pos.mpr h0) h1 hsz)

example : mpzRoot (-(7 ^ 150)) 5 = .ok (-(7 ^ 30), true) ∧ mpzRootrem (-(7 ^ 150) - 3) 5 = .ok (-(7 ^ 30), -3) ∧
    mpzRoot ((2 ^ 200 + 12345) ^ 2 + 2 ^ 200) 2 = .ok (2 ^ 200 + 12345, false) := by decide +kernel

-- non-vacuity: a negative cube and a negative non-cube, an even root of a negative, a zeroth root
example : mpzRoot (-27) 3 = .ok (-3, true) ∧ mpzRootrem (-30) 3 = .ok (-3, -3) ∧
    mpzRoot (-4) 2 = .error "sqrtneg" ∧ mpzRoot 5 0 = .error "div0" ∧ mpzRoot (-5) 0 = .error "sqrtneg" := by
  decide +kernel

/-- UNCONDITIONAL for a root index at least the bit length of `|u|` (the region of repaired defect
    4290b4f: `mpz_root (r, 2^384, 2^44)` used to abort on a 1.2 TB allocation): on every dispatch path of
    mpn_rootrem (basecase, mpn_rootrem_internal's root-is-1 exit, taken before any temporary is
    allocated) the root is `sign(u)·1`, the flag says `|u| = 1`, the remainder is `u − sign(u)`; no
    hypothesis about the Newton iterations is needed. -/
theorem mpz_root_huge_index (u : Int) (n : Nat) (hu : u ≠ 0) (hn : bitLen u.natAbs ≤ n)
    (hs : ¬(u < 0 ∧ n % 2 = 0)) :
    mpzRoot u n = .ok (u.sign, decide (u.natAbs = 1)) ∧ mpzRootrem u n = .ok (u.sign, u - u.sign) :=
  mpz_root_huge u n hu hn hs

example : mpzRoot (2 ^ 384) (2 ^ 44) = .ok (1, false) ∧ mpzRootrem (-(2 ^ 384)) (2 ^ 64 - 1) = .ok (-1, 1 - 2 ^ 384) := by
  decide +kernel

/-- mpn_sqrtrem1 (sqrtrem.c:145-196) on a normalised limb `B/4 ≤ a < B`: the `approx_tab` seed, its
    correction and the two precision-doubling passes (8 → 16 → 32 bits), every operation reduced mod `B`
    as the C's `mp_limb_t` arithmetic, return exactly `(⌊√a⌋, a − ⌊√a⌋²)`.  Uses the kernel-checked fact
    `approxTab_ok` about the REGENERATED seed table (`tab[i] = ⌊√(256·(i+64))⌋`) and Zimmermann's step
    lemma `zstep` (at most one correction per pass). -/
theorem sqrtrem1_spec (a : Nat) (h1 : B / 4 ≤ a) (h2 : a < B) :
    sqrtrem1 a = (Nat.sqrt a, a - Nat.sqrt a * Nat.sqrt a) :=
  (sqrtrem1_sq a h1 h2).eq_sqrt

-- non-vacuity: smallest and largest normalised limb, and a limb just below a square
example : sqrtrem1 (B / 4) = (2 ^ 31, 0) ∧ sqrtrem1 (B - 1) = (2 ^ 32 - 1, 2 * (2 ^ 32 - 1)) ∧
    sqrtrem1 (3037000500 * 3037000500 - 1) = (3037000499, 2 * 3037000499) := by decide +kernel

/-- mpn_sqrtrem2 (sqrtrem.c:203-243) on a normalised two-limb operand (`np1 ≥ B/4`), word level: the
    subtraction loop, the division by `2·sp[0]`, the `qhl` bookkeeping (including the wrap of
    `sp[0]` to 0 when the root candidate is `B`), the borrow of `q²` and the add-back with carries give
    `{np0, np1} = sp² + cc·B + rp` with `cc·B + rp ≤ 2·sp`; hence `sp = ⌊√N⌋`. -/
theorem sqrtrem2_spec' (np0 np1 : Nat) (h0 : np0 < B) (h1 : B / 4 ≤ np1) (h2 : np1 < B) :
    ∃ sp rp cc, sqrtrem2 np0 np1 = (sp, rp, cc) ∧ sp = Nat.sqrt (np1 * B + np0) ∧
      (cc * (B : Int) + (rp : Int)).toNat = np1 * B + np0 - sp * sp := by
  obtain ⟨sp, rp, cc, e, p, -⟩ := sqrtrem2_exI np0 np1 h0 h1 h2
  obtain ⟨d1, d2⟩ := Prod.mk.inj p.eq_sqrt
  exact ⟨sp, rp, cc, e, d1, by rw [d2, ← d1]⟩

example : sqrtrem2 (B - 1) (B - 1) = (B - 1, B - 2, 1) ∧ sqrtrem2 0 (B / 4) = (B / 2, 0, 0) := by
  decide +kernel

/-- mpn_dc_sqrtrem (sqrtrem.c:252-293, Zimmermann's "Karatsuba square root") at value level: for every
    limb count `n ≥ 1` and every normalised operand `B^(2n)/4 ≤ N < B^(2n)` the recursion (high half,
    division of `R'·B^l + a1` by `S'`, parity bit and halving, subtraction of `q²`, one correction)
    returns `(⌊√N⌋, N − ⌊√N⌋²)`.  The base case is the word-level mpn_sqrtrem2 theorem above, the step
    is `zstep`.  (Value level: limb carries and buffer aliasing inside the function are not modelled.) -/
theorem dc_sqrtrem_spec (n N : Nat) (hn : 0 < n) (h1 : B ^ (2 * n) ≤ 4 * N) (h2 : N < B ^ (2 * n)) :
    dcSqrtrem n N = (Nat.sqrt N, N - Nat.sqrt N * Nat.sqrt N) :=
  (dcSpec_iff.mp dcSpec n N hn h1 h2).eq_sqrt

example : dcSqrtrem 3 (B ^ 6 - 1) = (B ^ 3 - 1, 2 * (B ^ 3 - 1)) := by decide +kernel

/-- mpn_sqrtrem (sqrtrem.c:296-378) for every operand the manual admits (`n ≥ 1`, most significant limb
    non-zero): `{r1p, ⌈n/2⌉}` is `⌊√u⌋`, `{r2p, retval}` is `u − ⌊√u⌋²`, and the return value is zero
    exactly for perfect squares.  Composition of `sqrtrem1_spec`, `sqrtrem2_spec'`, `dc_sqrtrem_spec` and
    `sqrtrem_normalise_ok`; the wrapper and the recursion are value-level models. -/
theorem mpn_sqrtrem_spec (np : List Nat) (hl : Limbs np) (hne : np ≠ []) (hhi : np.getLastD 0 ≠ 0) :
    val (sqrtrem np).sp = Nat.sqrt (val np) ∧ (sqrtrem np).sp.length = (np.length + 1) / 2 ∧
    val (sqrtrem np).rp = val np - Nat.sqrt (val np) * Nat.sqrt (val np) ∧
    (sqrtrem np).rn = (sqrtrem np).rp.length ∧
    ((sqrtrem np).rn = 0 ↔ ∃ k, val np = k * k) := sqrtrem_full np hl hne hhi

example : (sqrtrem [5, 0, 1]).sp = [0, 1] ∧ (sqrtrem [5, 0, 1]).rp = [5] ∧ (sqrtrem [5, 0, 1]).rn = 1 := by
  decide +kernel

/-- mpn_perfect_square_p answers exactly "is `{s1p, n}` a perfect square" for EVERY limb vector with
    `n ≥ 1` limbs — the most significant limbs may be zero and the all-zero vector is a square (the C
    normalises before its final mpn_sqrtrem call, perfect_square_p.c:214-216): unconditional form of
    `perfect_square_p_iff`.  (`n + 1 < B` is mpn_mod_34lsub1's ASSERT on the size.) -/
theorem mpn_perfect_square_p_spec (up : List Nat) (hl : Limbs up) (hne : up ≠ []) (hn : up.length + 1 < B) :
    perfectSquareP up = true ↔ ∃ k, val up = k * k :=
  perfectSquareP_iff up hl hne hn

-- non-vacuity: unnormalised operands, the all-zero vector
example : perfectSquareP [4, 0] = true ∧ perfectSquareP [0, 0] = true ∧ perfectSquareP [0, 1, 0] = true ∧
    perfectSquareP [5, 0] = false ∧ perfectSquareP [0, 2, 0, 0] = false := by decide +kernel

/-- mpz_sqrt, mpz_sqrtrem (mpz/sqrt.c, mpz/sqrtrem.c) and mpz_perfect_square_p (mpir.h): negative operands
    raise the square-root exception, otherwise `⌊√u⌋` and `u − ⌊√u⌋²`; the predicate is true exactly
    for squares — 0 and 1 included, negatives excluded. -/
theorem mpz_sqrt_spec (u : Int) :
    (u < 0 → mpzSqrt u = .error "sqrtneg" ∧ mpzSqrtrem u = .error "sqrtneg") ∧
    (0 ≤ u → mpzSqrt u = .ok (Nat.sqrt u.toNat : Nat) ∧
      mpzSqrtrem u = .ok ((Nat.sqrt u.toNat : Nat), ((u.toNat - Nat.sqrt u.toNat * Nat.sqrt u.toNat : Nat) : Int))) ∧
    (u.toNat + 1 < B ^ (B - 2) → (mpzPerfectSquareP u = true ↔ ∃ k : Int, u = k * k)) :=
  ⟨fun h => by simp [mpzSqrt, mpzSqrtrem, h], mpzSqrt_ok u, mpzPerfectSquareP_iff u⟩

example : mpzSqrtrem 99 = .ok (9, 18) ∧ mpzSqrt (-1) = .error "sqrtneg" ∧ mpzPerfectSquareP 0 = true ∧
    mpzPerfectSquareP 1 = true ∧ mpzPerfectSquareP (-4) = false ∧ mpzPerfectSquareP 8 = false := by
  decide +kernel

/-- The final adjustment of both n-th root algorithms (rootrem.c:329-352 `for (c = 0;; c++) { ... if
    (S^k > R) S--; else break; }`, rootrem_basecase.c:90-98 `if (U < x^nth) x--`): from any candidate in the
    range the code guarantees (the code ASSERTs at most one decrement, i.e. `root ≤ S ≤ root + 1`; the
    model's loop allows two) it returns the exact floor root and the remainder `R − root^k`. -/
theorem root_final_adjust (k R s : Nat) (hk : 0 < k) (h1 : iroot k R ≤ s) :
    (s ≤ iroot k R + 2 → finalAdjust k R s = (iroot k R, R - (iroot k R) ^ k)) ∧
    (s ≤ iroot k R + 1 → finalAdjust1 k R s = (iroot k R, R - (iroot k R) ^ k)) := by
  constructor
  · intro h2; unfold finalAdjust; rw [adjustDown_spec k R hk 2 s h1 h2]; rfl
  · intro h2; unfold finalAdjust1; rw [adjustDown_spec k R hk 1 s h1 h2]; rfl

example : finalAdjust 3 1000 11 = (10, 0) ∧ finalAdjust1 5 (3 ^ 5 - 1) 3 = (2, 3 ^ 5 - 1 - 2 ^ 5) := by
  decide +kernel

/-- The soundness half of `perfect_power_p_iff`, with the contract of mpn_rootrem (which supplies mpz_root's exactness
    flags) as a hypothesis: whenever the model of mpz/perfpow.c answers "yes" — `u = 0`, the early `n2prime` exits, the
    "factoring completed" exit with its power-of-two test for negative numbers, and both root-attempt loops — `u` is a
    perfect power in the manual's sense (`u = a^b`, `b ≥ 2`; the exponent is odd when `u < 0`). -/
theorem perfect_power_p_iff_partial (hrr : RootremSpec) (u : Int) (h : mpzPerfectPowerP u = true) :
    ∃ (a : Int) (b : Nat), 2 ≤ b ∧ a ^ b = u :=
  (perfect_power_iff_at u fun a k ha hk _ => rootremSpec_iff.mp hrr a k ha hk).mp h

/-- mpz_perfect_power_p (mpz/perfpow.c) IN FULL, for every integer an mpz_t can hold (proved up to 2^61 bits): the
    function answers "yes" exactly for the perfect powers of the manual — `u = a^b` with integers `a` and `b ≥ 2`;
    0, 1 and −1 are perfect powers, a negative number only with an odd exponent (automatic: an even power is `≥ 0`).
    The proof (`perfect_power_iff_at`, Lemmas/PerfPow.lean, both directions in one pass) carries, for every exponent `b ≥ 2`, the invariant
      `|u|` is a b-th power  ⟺  `b ∣ n2` ∧ the remaining cofactor is a b-th power
    through `mpz_scan1` / the division by `2^n2` and every round of the trial-division loop (`n2 = 0`: no constraint;
    `gcd` of multiplicities; unique factorisation enters as `isPow_split`), and shows for each "no" exit that no admissible
    exponent is left: 2 or an odd prime dividing exactly once, a multiplicity or a final `n2` that is a power of two
    with `u < 0` (the 2-power rule), `gcd = 1`, a prime `n2` whose root is not exact (`n2prime:`; `n2 = 2` with `u < 0`),
    and both root-attempt loops over prime exponents `nth` (starting at 3 for `u < 0`): they reach a prime divisor of the
    exponent before the cut-off `root < SMALLEST_OMITTED_PRIME` (the cofactor has no divisor below that bound: the
    REGENERATED table contains a divisor of every `2 ≤ d < 1009`, `perfpowPrimes_cover`), before the bound `nth ≤ n2`
    and within the bit length of the cofactor.  `isprime` of the C is proved equal to primality (`isprime_iff`). -/
theorem perfect_power_p_iff (u : Int) (hsz : bitLen u.natAbs ≤ 2 ^ 61) :
    mpzPerfectPowerP u = true ↔ ∃ (a : Int) (b : Nat), 2 ≤ b ∧ a ^ b = u := by
  by_cases h0 : u = 0
  · subst h0; exact iff_of_true (by decide) ⟨0, 2, by omega, by norm_num⟩
  · exact perfect_power_iff_at u (Rootrem.rootremAt_dvd u h0 hsz)

/-- Soundness of mpz_perfect_power_p, UNCONDITIONAL (`perfect_power_p_iff_partial` without its hypothesis): every
    call of mpz_root made by mpz/perfpow.c is on a divisor of `|u|`, where the contract of mpn_rootrem is now proved. -/
theorem perfect_power_p_sound (u : Int) (hsz : bitLen u.natAbs ≤ 2 ^ 61) (h : mpzPerfectPowerP u = true) :
    ∃ (a : Int) (b : Nat), 2 ≤ b ∧ a ^ b = u :=
  (perfect_power_p_iff u hsz).mp h

-- non-vacuity (both directions on concrete operands): −(2^12·1009^4) has only the even exponent 4 → no; 2^6·1009^3 = (4·1009)^3
example : mpzPerfectPowerP (-(2 ^ 12 * 1009 ^ 4)) = false ∧ mpzPerfectPowerP (2 ^ 6 * 1009 ^ 3) = true ∧
    mpzPerfectPowerP (-(2 ^ 6 * 1009 ^ 3)) = true ∧ mpzPerfectPowerP (1013 ^ 7) = true ∧
    mpzPerfectPowerP (1013 ^ 7 + 1) = false ∧ mpzPerfectPowerP (-(3 ^ 20 * 5 ^ 12)) = false ∧
    mpzPerfectPowerP (-(3 ^ 9 * 5 ^ 6)) = true := by decide +kernel

-- non-vacuity: the model says yes on 0, 1, −1, −27·64, 2^10·3^15 and no on 2, −16, −4·81
example : mpzPerfectPowerP 0 = true ∧ mpzPerfectPowerP 1 = true ∧ mpzPerfectPowerP (-1) = true ∧
    mpzPerfectPowerP (-1728) = true ∧ mpzPerfectPowerP (2 ^ 10 * 3 ^ 15) = true ∧
    mpzPerfectPowerP 2 = false ∧ mpzPerfectPowerP (-16) = false ∧ mpzPerfectPowerP (-324) = false := by
  decide +kernel

end Mpir.Root
