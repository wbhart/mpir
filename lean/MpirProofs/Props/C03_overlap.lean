/-
  C03, overlap clause — "…for every source/destination overlap the manual permits".
  Property theorems only; helper lemmas live in MpirProofs/Lemmas/KernelsMem.lean.

  The theorems are about the memory-level models of Mpir/Model/KernelsMem.lean (namespace `Mpir.Mem`:
  memory = address → limb, pointers = addresses, loads and stores in the order of the C text), which the
  correspondence check runs against the real functions on a guarded buffer (ops `mem_*`).  Each theorem
  says, for ALL sizes, ALL memory contents and ALL pointer positions satisfying the overlap predicate the C
  ASSERTs (`MPN_SAME_OR_SEPARATE_P`, `MPN_SAME_OR_INCR_P`, `MPN_SAME_OR_DECR_P` of gmp-impl.h, mirrored
  verbatim as `SameOrSeparate`, `SameOrIncr`, `SameOrDecr`):
    (1) the words in `[rp, rp+n)` after the call are exactly the list-level result computed from the words
        the sources held BEFORE the call (`Mpir.lshift (read m up n) cnt` etc., whose value theorems are in
        Props/C03.lean and C01_leaves.lean),
    (2) the returned limb is the list-level one,
    (3) every word outside `[rp, rp+n)` is unchanged (frame; in particular source words that are not also
        destination words survive).
  No `Limbs` hypothesis is needed: both layers compute with the same `% B` arithmetic.
  The `example`s after each theorem are non-vacuity instances; the block at the end shows concrete
  memories where a FORBIDDEN overlap makes the C's load/store order produce a different result, i.e. the
  hypotheses are needed and the model really distinguishes the orders.
-/
import MpirProofs.Lemmas.KernelsMem
namespace Mpir.Mem
open Mpir

/-- mpn_lshift (lshift.c, works downwards from the top limb): correct when `rp ≥ up` or the regions are
    separate (`MPN_SAME_OR_DECR_P (rp, up, n)`), n ≥ 1. -/
theorem lshift_mem_overlap (m : Memory) (rp up n cnt : Nat) (hn : 1 ≤ n) (h : SameOrDecr rp up n) :
    read (lshift m rp up n cnt).1 rp n = (Mpir.lshift (read m up n) cnt).1 ∧
    (lshift m rp up n cnt).2 = (Mpir.lshift (read m up n) cnt).2 ∧
    ∀ a, a < rp ∨ rp + n ≤ a → (lshift m rp up n cnt).1 a = m a :=
  mem_spec (lshift_eq m rp up n cnt hn ((sameOrDecr_iff _ _ _).mp h))
    (by simp [Mpir.lshift, lshiftGo_length])

-- non-vacuity: rp = up + 1 (overlapping, permitted), bits cross the limb boundaries
example : read (lshift (ofList [7, B - 1, 2 ^ 63 + 1, 3, 9]) 2 1 3 4).1 0 5 = [7, B - 1, B - 16, 31, 56] ∧
    (lshift (ofList [7, B - 1, 2 ^ 63 + 1, 3, 9]) 2 1 3 4).2 = 0 ∧
    Mpir.lshift [B - 1, 2 ^ 63 + 1, 3] 4 = ([B - 16, 31, 56], 0) := by decide

/-- mpn_rshift (rshift.c, works upwards from the bottom limb): correct when `rp ≤ up` or separate
    (`MPN_SAME_OR_INCR_P (rp, up, n)`), n ≥ 1. -/
theorem rshift_mem_overlap (m : Memory) (rp up n cnt : Nat) (hn : 1 ≤ n) (h : SameOrIncr rp up n) :
    read (rshift m rp up n cnt).1 rp n = (Mpir.rshift (read m up n) cnt).1 ∧
    (rshift m rp up n cnt).2 = (Mpir.rshift (read m up n) cnt).2 ∧
    ∀ a, a < rp ∨ rp + n ≤ a → (rshift m rp up n cnt).1 a = m a :=
  mem_spec (rshift_eq m rp up n cnt hn ((sameOrIncr_iff _ _ _).mp h))
    (by simp [Mpir.rshift, rshiftGo_length])

example : read (rshift (ofList [7, 5, 3, B - 1, 9]) 0 1 3 1).1 0 5 = [2 ^ 63 + 2, 2 ^ 63 + 1, 2 ^ 63 - 1, B - 1, 9] ∧
    (rshift (ofList [7, 5, 3, B - 1, 9]) 0 1 3 1).2 = 2 ^ 63 ∧
    Mpir.rshift [5, 3, B - 1] 1 = ([2 ^ 63 + 2, 2 ^ 63 + 1, 2 ^ 63 - 1], 2 ^ 63) := by decide

/-- mpn_copyi (MPN_COPY_INCR): correct when `rp ≤ up` or separate; n = 0 allowed. -/
theorem copyi_mem_overlap (m : Memory) (rp up n : Nat) (h : SameOrIncr rp up n) :
    read (copyi m rp up n) rp n = read m up n ∧
    ∀ a, a < rp ∨ rp + n ≤ a → copyi m rp up n a = m a := by
  rw [copyi_eq m rp up n ((sameOrIncr_iff _ _ _).mp h)]
  exact writeList_spec m rp n _ (read_length m n up)

example : read (copyi (ofList [1, 2, 3, 4, 5]) 0 1 3) 0 5 = [2, 3, 4, 4, 5] := by decide

/-- mpn_copyd (MPN_COPY_DECR): correct when `rp ≥ up` or separate; n = 0 allowed. -/
theorem copyd_mem_overlap (m : Memory) (rp up n : Nat) (h : SameOrDecr rp up n) :
    read (copyd m rp up n) rp n = read m up n ∧
    ∀ a, a < rp ∨ rp + n ≤ a → copyd m rp up n a = m a := by
  rw [copyd_eq m rp up n ((sameOrDecr_iff _ _ _).mp h)]
  exact writeList_spec m rp n _ (read_length m n up)

example : read (copyd (ofList [1, 2, 3, 4, 5]) 1 0 3) 0 5 = [1, 1, 2, 3, 5] := by decide

/-- mpn_add_n (add_n.c): each source is the destination itself or separate from it
    (`MPN_SAME_OR_SEPARATE_P (rp, up, n)`, `MPN_SAME_OR_SEPARATE_P (rp, vp, n)`): covers rp = up,
    rp = vp, rp = up = vp and all separate; the two sources may overlap each other in any way. -/
theorem add_n_mem_inplace (m : Memory) (rp up vp n : Nat) (_hn : 1 ≤ n)
    (hu : SameOrSeparate rp up n) (hv : SameOrSeparate rp vp n) :
    read (add_n m rp up vp n).1 rp n = (Mpir.add_n (read m up n) (read m vp n)).1 ∧
    (add_n m rp up vp n).2 = (Mpir.add_n (read m up n) (read m vp n)).2 ∧
    ∀ a, a < rp ∨ rp + n ≤ a → (add_n m rp up vp n).1 a = m a :=
  mem_spec (addNLoop_eq n m rp up vp 0 ((sameOrSeparate_iff _ _ _).mp hu) ((sameOrSeparate_iff _ _ _).mp hv))
    (by simp [Mpir.add_n, addNC_length])

-- rp = up, vp separate; then rp = up = vp; then sources overlapping each other (vp = up + 1), rp separate
example : read (add_n (ofList [B - 1, B - 1, 1, 0, 7]) 0 0 2 2).1 0 5 = [0, 0, 1, 0, 7] ∧
    (add_n (ofList [B - 1, B - 1, 1, 0, 7]) 0 0 2 2).2 = 1 := by decide
example : read (add_n (ofList [2 ^ 63, 5]) 0 0 0 2).1 0 2 = [0, 11] := by decide
example : read (add_n (ofList [1, 2, 3, 0, 0]) 3 0 1 2).1 0 5 = [1, 2, 3, 3, 5] := by decide

/-- mpn_sub_n (sub_n.c): as add_n. -/
theorem sub_n_mem_inplace (m : Memory) (rp up vp n : Nat) (_hn : 1 ≤ n)
    (hu : SameOrSeparate rp up n) (hv : SameOrSeparate rp vp n) :
    read (sub_n m rp up vp n).1 rp n = (Mpir.sub_n (read m up n) (read m vp n)).1 ∧
    (sub_n m rp up vp n).2 = (Mpir.sub_n (read m up n) (read m vp n)).2 ∧
    ∀ a, a < rp ∨ rp + n ≤ a → (sub_n m rp up vp n).1 a = m a :=
  mem_spec (subNLoop_eq n m rp up vp 0 ((sameOrSeparate_iff _ _ _).mp hu) ((sameOrSeparate_iff _ _ _).mp hv))
    (by simp [Mpir.sub_n, subNC_length])

-- rp = vp (the subtrahend is overwritten)
example : read (sub_n (ofList [0, 0, 1, 0, 7]) 2 0 2 2).1 0 5 = [0, 0, B - 1, B - 1, 7] ∧
    (sub_n (ofList [0, 0, 1, 0, 7]) 2 0 2 2).2 = 1 := by decide

/-- mpn_add_1 (__GMPN_AORS_1 with +): dst = src or separate, n ≥ 1; covers the carry loop, the
    early exit with `__GMPN_COPY_REST` (separate) and the early exit without copy (dst = src). -/
theorem add_1_mem (m : Memory) (rp up n v : Nat) (hn : 1 ≤ n) (h : SameOrSeparate rp up n) :
    read (add_1 m rp up n v).1 rp n = (Mpir.add_1 (read m up n) v).1 ∧
    (add_1 m rp up n v).2 = (Mpir.add_1 (read m up n) v).2 ∧
    ∀ a, a < rp ∨ rp + n ≤ a → (add_1 m rp up n v).1 a = m a :=
  mem_spec (add_1_eq m rp up n v hn ((sameOrSeparate_iff _ _ _).mp h)) (by simp [add_1_length])

-- separate, carry stops at limb 1, limb 2 copied by COPY_REST; in place, same; carry out of the top
example : read (add_1 (ofList [B - 1, 5, 7, 0, 0, 0, 9]) 3 0 3 3).1 0 7 = [B - 1, 5, 7, 2, 6, 7, 9] := by decide
example : read (add_1 (ofList [B - 1, 5, 7, 9]) 0 0 3 3).1 0 4 = [2, 6, 7, 9] := by decide
example : (add_1 (ofList [B - 1, B - 1]) 0 0 2 1).2 = 1 := by decide

/-- mpn_sub_1 (__GMPN_AORS_1 with −): as add_1. -/
theorem sub_1_mem (m : Memory) (rp up n v : Nat) (hn : 1 ≤ n) (h : SameOrSeparate rp up n) :
    read (sub_1 m rp up n v).1 rp n = (Mpir.sub_1 (read m up n) v).1 ∧
    (sub_1 m rp up n v).2 = (Mpir.sub_1 (read m up n) v).2 ∧
    ∀ a, a < rp ∨ rp + n ≤ a → (sub_1 m rp up n v).1 a = m a :=
  mem_spec (sub_1_eq m rp up n v hn ((sameOrSeparate_iff _ _ _).mp h)) (by simp [sub_1_length])

example : read (sub_1 (ofList [1, 0, 7, 0, 0, 0, 9]) 3 0 3 3).1 0 7 = [1, 0, 7, B - 2, B - 1, 6, 9] := by decide
example : read (sub_1 (ofList [1, 0, 7, 9]) 0 0 3 3).1 0 4 = [B - 2, B - 1, 6, 9] := by decide

/-- mpn_add (__GMPN_AORS/__GMPN_ADD), xsize ≥ ysize ≥ 0: wp = xp or separate from {xp, xsize}; wp = yp or
    separate from {yp, ysize} (`MPN_SAME_OR_SEPARATE2_P`, the ASSERTs in the macro's comment). -/
theorem add_mem (m : Memory) (wp xp xsize yp ysize : Nat) (hs : ysize ≤ xsize)
    (hx : SameOrSeparate2 wp xsize xp xsize) (hy : SameOrSeparate2 wp xsize yp ysize) :
    read (add m wp xp xsize yp ysize).1 wp xsize = (Mpir.add (read m xp xsize) (read m yp ysize)).1 ∧
    (add m wp xp xsize yp ysize).2 = (Mpir.add (read m xp xsize) (read m yp ysize)).2 ∧
    ∀ a, a < wp ∨ wp + xsize ≤ a → (add m wp xp xsize yp ysize).1 a = m a :=
  mem_spec (add_eq m wp xp xsize yp ysize hs ((sameOrSeparate2_iff _ _ _ _).mp hx) ((sameOrSeparate2_iff _ _ _ _).mp hy))
    (by rw [add_length _ _ (by simpa using hs), read_length])

-- wp = yp with ysize < xsize (the destination grows over what follows y); wp = xp
example : read (add (ofList [B - 1, B - 1, 5, 1, 9, 9, 9]) 3 0 3 3 1).1 0 7 = [B - 1, B - 1, 5, 0, 0, 6, 9] := by decide
example : read (add (ofList [B - 1, B - 1, 5, 1]) 0 0 3 3 1).1 0 4 = [0, 0, 6, 1] := by decide

/-- mpn_sub (__GMPN_AORS/__GMPN_SUB): as mpn_add. -/
theorem sub_mem (m : Memory) (wp xp xsize yp ysize : Nat) (hs : ysize ≤ xsize)
    (hx : SameOrSeparate2 wp xsize xp xsize) (hy : SameOrSeparate2 wp xsize yp ysize) :
    read (sub m wp xp xsize yp ysize).1 wp xsize = (Mpir.sub (read m xp xsize) (read m yp ysize)).1 ∧
    (sub m wp xp xsize yp ysize).2 = (Mpir.sub (read m xp xsize) (read m yp ysize)).2 ∧
    ∀ a, a < wp ∨ wp + xsize ≤ a → (sub m wp xp xsize yp ysize).1 a = m a :=
  mem_spec (sub_eq m wp xp xsize yp ysize hs ((sameOrSeparate2_iff _ _ _ _).mp hx) ((sameOrSeparate2_iff _ _ _ _).mp hy))
    (by rw [sub_length _ _ (by simpa using hs), read_length])

example : read (sub (ofList [0, 0, 5, 1]) 0 0 3 3 1).1 0 4 = [B - 1, B - 1, 4, 1] := by decide

/-- mpn_mul_1 (mul_1.c): correct when `rp ≤ up` or separate (`MPN_SAME_OR_INCR_P (rp, up, n)`), n ≥ 1. -/
theorem mul_1_mem_overlap (m : Memory) (rp up n vl : Nat) (_hn : 1 ≤ n) (h : SameOrIncr rp up n) :
    read (mul_1 m rp up n vl).1 rp n = (Mpir.mul_1 (read m up n) vl).1 ∧
    (mul_1 m rp up n vl).2 = (Mpir.mul_1 (read m up n) vl).2 ∧
    ∀ a, a < rp ∨ rp + n ≤ a → (mul_1 m rp up n vl).1 a = m a :=
  mem_spec (mul1Loop_eq vl n m rp up 0 ((sameOrIncr_iff _ _ _).mp h)) (by simp [Mpir.mul_1, mul1C_length])

-- rp = up − 1 (overlapping, permitted)
example : read (mul_1 (ofList [7, B - 1, 2, 9]) 0 1 2 3).1 0 4 = [B - 3, 8, 2, 9] ∧
    (mul_1 (ofList [7, B - 1, 2, 9]) 0 1 2 3).2 = 0 ∧ Mpir.mul_1 [B - 1, 2] 3 = ([B - 3, 8], 0) := by decide

/-- mpn_addmul_1 (addmul_1.c): rp = up or separate, n ≥ 1; the addend is what `[rp, rp+n)` held before. -/
theorem addmul_1_mem (m : Memory) (rp up n vl : Nat) (_hn : 1 ≤ n) (h : SameOrSeparate rp up n) :
    read (addmul_1 m rp up n vl).1 rp n = (Mpir.addmul_1 (read m rp n) (read m up n) vl).1 ∧
    (addmul_1 m rp up n vl).2 = (Mpir.addmul_1 (read m rp n) (read m up n) vl).2 ∧
    ∀ a, a < rp ∨ rp + n ≤ a → (addmul_1 m rp up n vl).1 a = m a :=
  mem_spec (addmul1Loop_eq vl n m rp up 0 ((sameOrSeparate_iff _ _ _).mp h))
    (by simp [Mpir.addmul_1, addmul1C_length])

-- rp = up: r := r + r·3 = 4r
example : read (addmul_1 (ofList [2 ^ 62, 1, 9]) 0 0 2 3).1 0 3 = [0, 5, 9] := by decide

/-- mpn_submul_1 (submul_1.c): rp = up or separate, n ≥ 1. -/
theorem submul_1_mem (m : Memory) (rp up n vl : Nat) (_hn : 1 ≤ n) (h : SameOrSeparate rp up n) :
    read (submul_1 m rp up n vl).1 rp n = (Mpir.submul_1 (read m rp n) (read m up n) vl).1 ∧
    (submul_1 m rp up n vl).2 = (Mpir.submul_1 (read m rp n) (read m up n) vl).2 ∧
    ∀ a, a < rp ∨ rp + n ≤ a → (submul_1 m rp up n vl).1 a = m a :=
  mem_spec (submul1Loop_eq vl n m rp up 0 ((sameOrSeparate_iff _ _ _).mp h))
    (by simp [Mpir.submul_1, submul1C_length])

-- rp = up: r := r − r·1 = 0
example : read (submul_1 (ofList [5, 7, 9]) 0 0 2 1).1 0 3 = [0, 0, 9] ∧
    (submul_1 (ofList [5, 7, 9]) 0 0 2 1).2 = 0 := by decide

/-- mpn_com_n (com_n.c): rp = up or separate, n ≥ 1. -/
theorem com_n_mem (m : Memory) (rp up n : Nat) (_hn : 1 ≤ n) (h : SameOrSeparate rp up n) :
    read (com_n m rp up n) rp n = Mpir.com_n (read m up n) ∧
    ∀ a, a < rp ∨ rp + n ≤ a → com_n m rp up n a = m a := by
  have h' := (sameOrSeparate_iff _ _ _).mp h
  rw [com_n, comNLoop_eq n m rp up (by omega)]
  exact writeList_spec m rp n _ (by simp [Mpir.com_n])

example : read (com_n (ofList [0, 5, B - 1, 9]) 0 0 3) 0 4 = [B - 1, B - 6, 0, 9] := by decide

/-- mpn_neg_n (mpir.h): rp = up or separate, n ≥ 1; zero run, negated limb, complemented rest. -/
theorem neg_n_mem (m : Memory) (rp up n : Nat) (_hn : 1 ≤ n) (h : SameOrSeparate rp up n) :
    read (neg_n m rp up n).1 rp n = (Mpir.neg_n (read m up n)).1 ∧
    (neg_n m rp up n).2 = (Mpir.neg_n (read m up n)).2 ∧
    ∀ a, a < rp ∨ rp + n ≤ a → (neg_n m rp up n).1 a = m a :=
  mem_spec (negNLoop_eq n m rp up ((sameOrSeparate_iff _ _ _).mp h)) (by simp [Mpir.neg_n, negNC_length])

example : read (neg_n (ofList [0, 5, 7, 9]) 0 0 3).1 0 4 = [0, B - 5, B - 8, 9] ∧
    (neg_n (ofList [0, 5, 7, 9]) 0 0 3).2 = 1 := by decide
example : (neg_n (ofList [0, 0, 9]) 0 0 2).2 = 0 := by decide

/-- The chain to the documented function, spelled out once: under the permitted overlap the limbs found at
    `rp` and the returned limb satisfy the value identity of `lshift_val` w.r.t. the limbs found at `up`
    before the call. -/
theorem lshift_mem_val (m : Memory) (rp up n cnt : Nat) (hn : 1 ≤ n) (h : SameOrDecr rp up n)
    (hu : Limbs (read m up n)) (hc1 : 1 ≤ cnt) (hc : cnt ≤ 63) :
    val (read (lshift m rp up n cnt).1 rp n) + B ^ n * (lshift m rp up n cnt).2 = val (read m up n) * 2 ^ cnt := by
  obtain ⟨h1, h2, _⟩ := lshift_mem_overlap m rp up n cnt hn h
  have := (lshift_val' (read m up n) cnt hu (by omega)).1
  rw [read_length] at this
  rw [h1, h2]; exact this

/-! ### The hypotheses are needed: forbidden overlaps change the result (in the model as in the C) -/

-- lshift with rp = up − 2 (rp < up, overlapping): the store to rp[2] destroys up[0] before it is loaded
example : read (lshift (ofList [0, 0, 1, 2, 3]) 0 2 3 1).1 0 3 ≠ (Mpir.lshift (read (ofList [0, 0, 1, 2, 3]) 2 3) 1).1 := by
  decide
example : read (lshift (ofList [0, 0, 1, 2, 3]) 0 2 3 1).1 0 3 = [12, 4, 6] ∧
    Mpir.lshift [1, 2, 3] 1 = ([2, 4, 6], 0) ∧ ¬ SameOrDecr 0 2 3 := by decide
-- rshift with rp = up + 2
example : read (rshift (ofList [2, 4, 6, 0, 0]) 2 0 3 1).1 2 3 ≠ (Mpir.rshift [2, 4, 6] 1).1 ∧ ¬ SameOrIncr 2 0 3 := by
  decide
-- copyd with rp = up − 1 smears the top limb; copyi with rp = up + 1 smears the bottom limb
example : read (copyd (ofList [0, 1, 2, 3]) 0 1 3) 0 3 = [3, 3, 3] ∧ ¬ SameOrDecr 0 1 3 := by decide
example : read (copyi (ofList [1, 2, 3, 0]) 1 0 3) 1 3 = [1, 1, 1] ∧ ¬ SameOrIncr 1 0 3 := by decide
-- mul_1 with rp = up + 1: each product is multiplied again
example : read (mul_1 (ofList [1, 1, 1, 0]) 1 0 3 2).1 1 3 = [2, 4, 8] ∧
    (Mpir.mul_1 [1, 1, 1] 2).1 = [2, 2, 2] ∧ ¬ SameOrIncr 1 0 3 := by decide
-- add_n with rp = up + 1 (partial overlap with a source)
example : read (add_n (ofList [1, 1, 1, 0, 5, 5, 5]) 1 0 4 3).1 1 3 ≠ (Mpir.add_n [1, 1, 1] [5, 5, 5]).1 ∧
    ¬ SameOrSeparate 1 0 3 := by decide

end Mpir.Mem
