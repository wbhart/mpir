/-
  C08 (and C01): mpn_mulmod_2expm1 / mpn_mulmod_bnm1 — property theorems only; helper lemmas in
  MpirProofs/Lemmas/Mulmod2expm1*.lean.  Model: Mpir/Model/Mulmod2expm1.lean (mulmod_2expm1.c statement by
  statement on limb lists), run against the rebuilt library by the exact ops of Mpir/Ops/Mulmod2expm1.lean.
-/
import MpirProofs.Lemmas.Mulmod2expm1Rec
import MpirProofs.Lemmas.FftRingMulmodK
import MpirProofs.Lemmas.PowmReal
import MpirProofs.Lemmas.NextSize
import MpirProofs.Lemmas.PowmCrtMem
import MpirProofs.Props.C08
import Mpir.Ops.Hgcd
namespace Mpir.Mm1
open Mpir Mpir.Fft

/-- the model of mpn_mulmod_2expp1_basecase (non-FFT branch) meets the contract `P1Spec` -/
theorem p1spec_basecase : P1Spec Fft.mulmod_2expp1_basecase :=
  fun yp zp c b hb hy hz hly hlz hyb hzb => Fft.basecase_spec yp zp c b hb hy hz hly hlz hyb hzb

/-- **mpn_mulmod_2expm1_basecase** (mulmod_2expm1.c:37-100), both the whole-limb path (k == 0) and the masked,
    shifted path: for `b ≥ 1` and n-limb operands below `2^b` (the C's ASSERTs), no carry leaves `MPN_INCR_U`,
    `ASSERT (c == 0)` holds, the result has n limbs, is below `2^b`, is `≡ y·z (mod 2^b − 1)`, and is 0 only
    when `y·z = 0` — a non-zero multiple of `2^b − 1` comes back as `2^b − 1` ("only 0 has two representations"). -/
theorem basecase_val (yp zp : List Nat) (b : Nat) (hb : 1 ≤ b) (hy : Limbs yp) (hz : Limbs zp)
    (hly : yp.length = (b + 63) / 64) (hlz : zp.length = (b + 63) / 64)
    (hyb : val yp < 2 ^ b) (hzb : val zp < 2 ^ b) :
    (basecase yp zp b).2 = true ∧ (basecase yp zp b).1.length = (b + 63) / 64 ∧ Limbs (basecase yp zp b).1 ∧
    val (basecase yp zp b).1 < 2 ^ b ∧
    val (basecase yp zp b).1 % (2 ^ b - 1) = (val yp * val zp) % (2 ^ b - 1) ∧
    (val (basecase yp zp b).1 = 0 ↔ val yp * val zp = 0) :=
  basecase_spec yp zp b hb hyb hzb

-- non-vacuity: b = 100 (k = 28): (2^100 − 1)·(2^100 − 1) ≡ 0 comes back as 2^100 − 1; 3·5 = 15; 0·x = 0
example : basecase [B - 1, 2 ^ 36 - 1] [B - 1, 2 ^ 36 - 1] 100 = ([B - 1, 2 ^ 36 - 1], true) ∧
    basecase [3, 0] [5, 0] 100 = ([15, 0], true) ∧ basecase [0, 0] [77, 5] 100 = ([0, 0], true) ∧
    basecase [B - 1, B - 1] [2, 0] 128 = ([B - 1, B - 1], true) := by decide +kernel

/-- **mpn_mulmod_2expm1** (mulmod_2expm1.c:114-291): for EVERY `b ≥ 1`, every threshold, all n-limb inputs below
    `2^b` (the C's ASSERTs) and every +1 half `pp1` meeting the contract of mpn_mulmod_2expp1_basecase
    (`P1Spec`; `p1spec_basecase` for the model of its non-FFT branch):
    * no carry is lost in any `MPN_INCR_U` at any level of the recursion and `ASSERT (c == 0)` holds;
    * the result has `n = ⌈b/64⌉` limbs and lies in `[0, 2^b − 1]`;
    * it is `≡ y·z (mod 2^b − 1)` — through the split into the residues modulo `2^h − 1` and `2^h + 1` on both
      the k == 0 and k != 0 paths, the special-value flags `c1·2 + c2`, the recursion on `S`, the recombination
      with its carry/borrow folding and the final halving;
    * representative rule: the limbs are 0 exactly when `y·z = 0`; a non-zero product that is a multiple of
      `2^b − 1` (in particular an operand `2^b − 1`) is returned as `2^b − 1`, all ones. -/
theorem mulmod_2expm1_val (thr : Nat) (pp1 : List Nat → List Nat → Nat → Nat → List Nat × Nat) (hpp1 : P1Spec pp1)
    (yp zp : List Nat) (b : Nat) (hb : 1 ≤ b) (hy : Limbs yp) (hz : Limbs zp)
    (hly : yp.length = (b + 63) / 64) (hlz : zp.length = (b + 63) / 64)
    (hyb : val yp < 2 ^ b) (hzb : val zp < 2 ^ b) :
    (mm1 thr pp1 yp zp b).2 = true ∧ (mm1 thr pp1 yp zp b).1.length = (b + 63) / 64 ∧ Limbs (mm1 thr pp1 yp zp b).1 ∧
    val (mm1 thr pp1 yp zp b).1 ≤ 2 ^ b - 1 ∧
    val (mm1 thr pp1 yp zp b).1 % (2 ^ b - 1) = (val yp * val zp) % (2 ^ b - 1) ∧
    (val (mm1 thr pp1 yp zp b).1 = 0 ↔ val yp * val zp = 0) ∧
    ((val yp * val zp) % (2 ^ b - 1) = 0 → val yp * val zp ≠ 0 → val (mm1 thr pp1 yp zp b).1 = 2 ^ b - 1) := by
  obtain ⟨h1, h2, h3, h4, h5, h6⟩ := mm1F_spec thr pp1 hpp1 b b yp zp (le_refl _) hb hy hz hly hlz hyb hzb
  have h2b := two_le_two_pow b hb
  exact ⟨h1, h2, h3, by unfold mm1; omega, h5, h6, (rep_unique _ _ _ (by omega) h5 h6).1⟩

-- non-vacuity, recursive path (thr = 1 forces the CRT split at every even b): b = 128 (k = 0 at the top, h = 64),
-- b = 100 (h = 50: k = 14, n = 2m), b = 40 (h = 20, n = 2m − 1 = 1): operand halves ≡ −1 (upper = lower + 1) set the
-- flags; the class of 0 comes back as all ones; 0 as 0
example : mm1 1 Fft.mulmod_2expp1_basecase [5, 6] [7, 8] 128 = ([83, 82], true) ∧
    mm1 1 Fft.mulmod_2expp1_basecase [5, 6] [B - 1, B - 1] 128 = ([B - 1, B - 1], true) ∧
    mm1 1 Fft.mulmod_2expp1_basecase [0, 0] [7, 8] 128 = ([0, 0], true) ∧
    val (mm1 1 Fft.mulmod_2expp1_basecase [2 ^ 50 * 4 + 3, 0] [2 ^ 50 * 8 + 7, 0] 100).1 % (2 ^ 100 - 1) =
      ((2 ^ 50 * 4 + 3) * (2 ^ 50 * 8 + 7)) % (2 ^ 100 - 1) ∧
    val (mm1 1 Fft.mulmod_2expp1_basecase [2 ^ 20 * 4 + 3] [2 ^ 20 * 8 + 7] 40).1 % (2 ^ 40 - 1) =
      ((2 ^ 20 * 4 + 3) * (2 ^ 20 * 8 + 7)) % (2 ^ 40 - 1) := by decide +kernel

/-- **mpn_mulmod_bnm1** (mulmod_2expm1.c:296-338) for `0 < bn ≤ an ≤ rn` (its ASSERTs): `min (rn, an + bn)`
    limbs; for `an + bn ≥ rn` a residue of `a·b` modulo `B^rn − 1` in `[0, B^rn − 1]`, zero exactly for the product
    zero — precisely the hypothesis that `redc_n_limb_spec` had about the call in mpn_redc_n; for
    `an + bn < rn` the exact product. -/
theorem mpn_mulmod_bnm1_val (thr : Nat) (pp1 : List Nat → List Nat → Nat → Nat → List Nat × Nat) (hpp1 : P1Spec pp1)
    (rn : Nat) (ap bp : List Nat) (ha : Limbs ap) (hb : Limbs bp)
    (hbn : 0 < bp.length) (hab : bp.length ≤ ap.length) (han : ap.length ≤ rn) :
    (bnm1 thr pp1 rn ap bp).2 = true ∧ Limbs (bnm1 thr pp1 rn ap bp).1 ∧
    (bnm1 thr pp1 rn ap bp).1.length = min rn (ap.length + bp.length) ∧
    val (bnm1 thr pp1 rn ap bp).1 % (B ^ rn - 1) = (val ap * val bp) % (B ^ rn - 1) ∧
    (val (bnm1 thr pp1 rn ap bp).1 = 0 ↔ val ap * val bp = 0) ∧
    (ap.length + bp.length < rn → val (bnm1 thr pp1 rn ap bp).1 = val ap * val bp) :=
  bnm1_spec thr pp1 hpp1 rn ap bp ha hb hbn hab han

-- non-vacuity: rn = 3 with an + bn = 4 ≥ rn (wrapped) and an + bn = 2 < rn (exact product, 2 limbs)
example : bnm1 12 Fft.mulmod_2expp1_basecase 3 [0, 0, 1] [0, 5] = ([5, 0, 0], true) ∧
    bnm1 12 Fft.mulmod_2expp1_basecase 3 [B - 1] [B - 1] = ([1, B - 2], true) := by decide +kernel


/-! ## mpn_redc_n and mpn_powm with the real mpn_mulmod_bnm1 (Mpir/Model/PowmReal.lean) -/
open Mpir.Powm Mpir.PowmL Mpir.PowmR

/-- **mpn_redc_n with mpn_mulmod_bnm1 as it is** (redc_n.c:47-80 over mulmod_2expm1.c): `redc_n_limb_spec`
    without its hypothesis about the wrap-around product.  For `up` of 2n limbs, `mp`, `ip` with
    `ip·m ≡ 1 (mod B^n)`, `n ≤ rn < 2n` (mulmod_bnm1's ASSERT, redc_n's ASSERT_ALWAYS) and any +1 half meeting
    `P1Spec`: no carry is lost inside mpn_mulmod_2expm1, the borrow of the recovery stops inside `yp[0..2n)`,
    and `rp[0..n)` are the limbs of `redc_n U m n ip` with `R < B^n`, `R·B^n ≡ U (mod m)`, `R < m` for `U < m·B^n`. -/
theorem redc_n_unconditional (mthr : Nat) (pp1 : P1) (hpp1 : P1Spec pp1) (rn : Nat) (up mp ip : List Nat)
    (hup : Limbs up) (hmp : Limbs mp) (hlen : up.length = 2 * mp.length) (hn : 1 ≤ mp.length)
    (hrn1 : mp.length ≤ rn) (hrn2 : rn < 2 * mp.length)
    (hinv : (val ip * val mp) % B ^ mp.length = 1) :
    (redcNR mthr pp1 rn up mp ip).2 = true ∧
    (redcNR mthr pp1 rn up mp ip).1 = toLimbs mp.length (redc_n (val up) (val mp) mp.length (val ip)) ∧
    redc_n (val up) (val mp) mp.length (val ip) < B ^ mp.length ∧
    (redc_n (val up) (val mp) mp.length (val ip) * B ^ mp.length ≡ val up [MOD val mp]) ∧
    (val up < val mp * B ^ mp.length → redc_n (val up) (val mp) mp.length (val ip) < val mp) := by
  obtain ⟨xv, xl, xL⟩ : _ ∧ _ ∧ _ := ⟨val_toLimbs mp.length (val (up.take mp.length) * val ip), toLimbs_length _ _, Limbs_toLimbs _ _⟩
  have xv' : val (toLimbs mp.length (val (up.take mp.length) * val ip)) =
      (val up % B ^ mp.length * val ip) % B ^ mp.length := by
    rw [xv, val_take_eq_mod up hup mp.length]
  obtain ⟨b1, b2, b3, b4, b5, _⟩ := mpn_mulmod_bnm1_val mthr pp1 hpp1 rn
    (toLimbs mp.length (val (up.take mp.length) * val ip)) mp xL hmp (by omega) (by rw [xl]) (by rw [xl]; exact hrn1)
  rw [xl] at b3
  rw [xv'] at b4 b5
  have hy3 : (bnm1 mthr pp1 rn (toLimbs mp.length (val (up.take mp.length) * val ip)) mp).1.length = rn := by
    rw [b3]; omega
  obtain ⟨c1, c2, c3, c4, c5⟩ := redcNCore_redc_n rn up mp ip _ hup hmp b2 hlen hy3 hn hrn1 hrn2 hinv b4
    (fun h => b5.mpr h)
  refine ⟨?_, ?_, c3, c4, c5⟩
  · unfold redcNR; simp only; rw [b1, c1]; rfl
  · unfold redcNR; simp only; exact c2

-- non-vacuity: the example of `redc_n_exec_spec`, now through mpn_mulmod_2expm1 (n = rn = 9 limbs, basecase)
-- and with the CRT recursion forced (threshold 1)
example : redcNR 12 Fft.mulmod_2expp1_basecase 9 (toLimbs 18 (3 ^ 700)) (toLimbs 9 (5 ^ 200)) (toLimbs 9 (binvert (5 ^ 200) 9)) =
    (toLimbs 9 (redc_n (3 ^ 700) (5 ^ 200 % B ^ 9) 9 (binvert (5 ^ 200) 9)), true) ∧
    redcNR 1 Fft.mulmod_2expp1_basecase 10 (toLimbs 20 (3 ^ 800)) (toLimbs 10 (5 ^ 250)) (toLimbs 10 (binvert (5 ^ 250) 10)) =
    (toLimbs 10 (redc_n (3 ^ 800) (5 ^ 250 % B ^ 10) 10 (binvert (5 ^ 250) 10)), true) := by decide +kernel

/-- The reduction mpn_powm uses, with the real mpn_mulmod_bnm1 inside mpn_redc_n, returns exactly the limbs and
    the flag of the reduction of part c08_limb (whose redc_n takes the least residue for mulmod_bnm1). -/
theorem reduceLR_eq (thr mthr : Nat) (pp1 : P1) (hpp1 : P1Spec pp1) (nextSize : Nat → Nat) (mp : List Nat)
    (hmp : Limbs mp) (hn : 1 ≤ mp.length) (hodd : val mp % 2 = 1)
    (hns : thr ≤ mp.length → mp.length ≤ nextSize mp.length ∧ nextSize mp.length < 2 * mp.length)
    (u : List Nat) (hu : Limbs u) (hul : u.length = 2 * mp.length) :
    reduceLR thr mthr pp1 nextSize mp (mipOf thr mp) u = reduceL thr nextSize mp (mipOf thr mp) u := by
  by_cases hthr : mp.length < thr
  · unfold reduceLR reduceL; rw [if_pos hthr, if_pos hthr]
  · obtain ⟨hr1, hr2⟩ := hns (by omega)
    have hipv : (val (toLimbs mp.length (binvert (val mp) mp.length)) * val mp) % B ^ mp.length = 1 := by
      rw [val_toLimbs, Nat.mod_mul_mod]
      exact binvert_spec (val mp) mp.length hn hodd
    have hmip : mipOf thr mp = toLimbs mp.length (binvert (val mp) mp.length) := by
      unfold mipOf; rw [if_neg hthr]
    obtain ⟨a1, a2, _⟩ := redc_n_unconditional mthr pp1 hpp1 (nextSize mp.length) u mp _ hu hmp hul hn hr1 hr2 hipv
    obtain ⟨e1, e2⟩ := redcN_eq (nextSize mp.length) u mp _ hu hmp hul hn hr1 hr2 hipv
    unfold reduceLR reduceL
    rw [if_neg hthr, if_neg hthr, hmip]
    exact Prod.ext (by rw [a2, e2]) (by rw [a1, e1])

/-- **mpn_powm on memory with the real mpn_redc_n / mpn_mulmod_bnm1 / mpn_mulmod_2expm1** (powm.c over redc_n.c over
    mulmod_2expm1.c): `mpn_powm_correct` with nothing assumed about the wrap-around product.  Preconditions are
    the C's (see `mpn_powm_correct`); `hns` is `n ≤ mpn_mulmod_bnm1_next_size (n) < 2n` (`next_size_bounds` for the
    pinned tables).  Then every access stays inside `tp` / `pp`, no carry is lost inside any mpn_mulmod_2expm1 call,
    every redc_n recovers its product, and `rp[0..n)` = `b^e mod m` in `[0, m)`. -/
theorem mpn_powm_correct_all_sizes (thr mthr : Nat) (pp1 : P1) (hpp1 : P1Spec pp1) (nextSize binvItch : Nat → Nat)
    (itch : Nat) (bp ep mp : List Nat)
    (hep : Norm ep) (hne : ep ≠ []) (hmp : Limbs mp) (hn : 1 ≤ mp.length) (hodd : val mp % 2 = 1)
    (hns : thr ≤ mp.length → mp.length ≤ nextSize mp.length ∧ nextSize mp.length < 2 * mp.length)
    (hitch : 2 * mp.length ≤ itch) (hbinv : thr ≤ mp.length → binvItch mp.length ≤ itch) :
    (mpnPowmMemR thr mthr pp1 nextSize binvItch itch bp ep mp).2 = true ∧
    (mpnPowmMemR thr mthr pp1 nextSize binvItch itch bp ep mp).1 = toLimbs mp.length (val bp ^ val ep % val mp) ∧
    val (mpnPowmMemR thr mthr pp1 nextSize binvItch itch bp ep mp).1 = val bp ^ val ep % val mp ∧
    val (mpnPowmMemR thr mthr pp1 nextSize binvItch itch bp ep mp).1 < val mp := by
  have hred : RedOK (reduceLR thr mthr pp1 nextSize mp (mipOf thr mp)) mp := by
    intro u hu hul
    rw [reduceLR_eq thr mthr pp1 hpp1 nextSize mp hmp hn hodd hns u hu hul]
    exact reduceL_spec thr nextSize mp hmp hn hodd hns u hu hul
  obtain ⟨h1, h2⟩ := mpnPowmMemG_correct _ thr binvItch itch bp ep mp hred hep hne hmp hodd hitch hbinv
  have hmpos : 0 < val mp := by omega
  have hlt : val bp ^ val ep % val mp < B ^ mp.length := lt_trans (Nat.mod_lt _ hmpos) (val_lt mp hmp)
  unfold mpnPowmMemR
  refine ⟨h1, h2, ?_, ?_⟩
  · rw [h2, val_toLimbs, Nat.mod_eq_of_lt hlt]
  · rw [h2, val_toLimbs, Nat.mod_eq_of_lt hlt]; exact Nat.mod_lt _ hmpos

-- non-vacuity: redc_n branch forced (thr = 1) with the CRT recursion inside (mthr = 1) and with the basecase (mthr = 12)
example : mpnPowmMemR 1 1 Fft.mulmod_2expp1_basecase id (fun n => 6 * n + 220) 232 [3, 4, 5] [77] [7, 9] =
    (toLimbs 2 (val [3, 4, 5] ^ 77 % val [7, 9]), true) ∧
    mpnPowmMemR 1 12 Fft.mulmod_2expp1_basecase id (fun n => 6 * n + 220) 232 [3, 4, 5] [77] [7, 9] =
    (toLimbs 2 (val [3, 4, 5] ^ 77 % val [7, 9]), true) := by decide +kernel

/-! ## mpn_mulmod_bnm1_next_size -/

/-- **mpn_mulmod_bnm1_next_size** (gmp-impl.h:3876, `2·mpir_fft_adjust_limbs ((n + 1)/2)` above
    `2·FFT_MULMOD_2EXPP1_CUTOFF`; fft/mulmod_2expp1.c:181) with the constants of the pinned build
    (FFT_MULMOD_2EXPP1_CUTOFF = 128, FFT_N_NUM = 19, MULMOD_TAB): `n ≤ rn < 2n` for EVERY `n ≥ 1` — mulmod_bnm1's
    `ASSERT (an <= rn)` and redc_n's `ASSERT_ALWAYS (2 * n > rn)` hold for every size. -/
theorem next_size_bounds (n : Nat) (hn : 1 ≤ n) :
    n ≤ Mpir.Hgcd.bnm1NextSize 128 19 [4, 3, 3, 4, 3, 3, 3, 3, 3, 2, 2, 2, 2, 2, 2, 2, 2, 1, 1] n ∧
    Mpir.Hgcd.bnm1NextSize 128 19 [4, 3, 3, 4, 3, 3, 3, 3, 3, 2, 2, 2, 2, 2, 2, 2, 2, 1, 1] n < 2 * n :=
  bnm1NextSize_bounds n hn

-- the function the driver compares with the library (generated parameters) is this one; values beyond the cutoff
example : Mpir.Ops.Hgcd.nextSize = Mpir.Hgcd.bnm1NextSize 128 19 [4, 3, 3, 4, 3, 3, 3, 3, 3, 2, 2, 2, 2, 2, 2, 2, 2, 1, 1] := by rfl
example : Mpir.Hgcd.bnm1NextSize 128 19 tab19 257 = 320 ∧ Mpir.Hgcd.bnm1NextSize 128 19 tab19 256 = 256 ∧
    Mpir.Hgcd.bnm1NextSize 128 19 tab19 1000 = 1024 := by decide +kernel

/-- `mpn_powm_correct_all_sizes` for the pinned build: the next-size hypothesis is discharged by `next_size_bounds`,
    so mpn_powm on memory — over the real mpn_redc_n, mpn_mulmod_bnm1, mpn_mulmod_2expm1 — is correct for every
    odd modulus of every size, every exponent and base, assuming only the contract `P1Spec` of the +1 half. -/
theorem mpn_powm_correct_pinned (thr mthr : Nat) (pp1 : P1) (hpp1 : P1Spec pp1) (binvItch : Nat → Nat)
    (itch : Nat) (bp ep mp : List Nat)
    (hep : Norm ep) (hne : ep ≠ []) (hmp : Limbs mp) (hn : 1 ≤ mp.length) (hodd : val mp % 2 = 1)
    (hitch : 2 * mp.length ≤ itch) (hbinv : thr ≤ mp.length → binvItch mp.length ≤ itch) :
    (mpnPowmMemR thr mthr pp1 (Mpir.Hgcd.bnm1NextSize 128 19 tab19) binvItch itch bp ep mp).2 = true ∧
    (mpnPowmMemR thr mthr pp1 (Mpir.Hgcd.bnm1NextSize 128 19 tab19) binvItch itch bp ep mp).1 =
      toLimbs mp.length (val bp ^ val ep % val mp) :=
  let h := mpn_powm_correct_all_sizes thr mthr pp1 hpp1 _ binvItch itch bp ep mp hep hne hmp hn hodd
    (fun _ => bnm1NextSize_bounds mp.length hn) hitch hbinv
  ⟨h.1, h.2.1⟩

/-- mpn_mulmod_bnm1_next_size (hence mpn_binvert_itch = `rn + mpn_mulmod_bnm1_itch (rn)` = `6·rn + 220`) is monotone:
    the rounding granules of mpir_fft_adjust_limbs are powers of two that divide the next power of two above the
    operand, so the value never jumps back when the depth changes (pinned constants). -/
theorem next_size_mono (n1 n2 : Nat) (h : n1 ≤ n2) :
    Mpir.Hgcd.bnm1NextSize 128 19 [4, 3, 3, 4, 3, 3, 3, 3, 3, 2, 2, 2, 2, 2, 2, 2, 2, 1, 1] n1 ≤
    Mpir.Hgcd.bnm1NextSize 128 19 [4, 3, 3, 4, 3, 3, 3, 3, 3, 2, 2, 2, 2, 2, 2, 2, 2, 1, 1] n2 :=
  bnm1NextSize_mono n1 n2 h

/-- mpn_binvert_itch (binvert.c:53) with the pinned mpn_mulmod_bnm1_next_size: `rn + mpn_mulmod_bnm1_itch (rn, ..)` -/
def binvItchP (k : Nat) : Nat :=
  Mpir.Hgcd.bnm1NextSize 128 19 tab19 k + (5 * Mpir.Hgcd.bnm1NextSize 128 19 tab19 k + 220)

/-- **The scratch mpz_powm hands to mpn_powm, odd AND even modulus** (mpz/powm.c:176-193): with `n = ABSIZ (m)`, `ncnt` the
    limbs of the power-of-two part, `mp` the odd part (`nodd = mp.length ≤ n` limbs), the area after `rp = tp; tp += n` has
    `2n + MAX (mpn_binvert_itch (MAX (ncnt, nodd)), 2n)` limbs for an even modulus (`extra = 2n`) and
    `MAX (mpn_binvert_itch (nodd), 2n)` for an odd one (`extra = 0`, `ncnt = 0`).  Both are enough for mpn_powm on the
    odd part — the even case needs `mpn_binvert_itch (nodd) ≤ mpn_binvert_itch (MAX (ncnt, nodd))`, i.e. the
    monotonicity of mpn_mulmod_bnm1_next_size. -/
theorem mpz_powm_scratch_ok_even (thr mthr : Nat) (pp1 : P1) (hpp1 : P1Spec pp1) (n ncnt extra : Nat) (bp ep mp : List Nat)
    (hep : Norm ep) (hne : ep ≠ []) (hmp : Limbs mp) (hn : 1 ≤ mp.length) (hodd : val mp % 2 = 1)
    (hnodd : mp.length ≤ n) :
    (mpnPowmMemR thr mthr pp1 (Mpir.Hgcd.bnm1NextSize 128 19 tab19) binvItchP
      (extra + max (binvItchP (max ncnt mp.length)) (2 * n)) bp ep mp).2 = true ∧
    (mpnPowmMemR thr mthr pp1 (Mpir.Hgcd.bnm1NextSize 128 19 tab19) binvItchP
      (extra + max (binvItchP (max ncnt mp.length)) (2 * n)) bp ep mp).1 =
      toLimbs mp.length (val bp ^ val ep % val mp) := by
  have hmono : binvItchP mp.length ≤ binvItchP (max ncnt mp.length) := by
    have := bnm1NextSize_mono mp.length (max ncnt mp.length) (le_max_right _ _)
    unfold binvItchP
    omega
  have h1 : 2 * mp.length ≤ extra + max (binvItchP (max ncnt mp.length)) (2 * n) := by
    have := le_max_right (binvItchP (max ncnt mp.length)) (2 * n); omega
  have h2 : binvItchP mp.length ≤ extra + max (binvItchP (max ncnt mp.length)) (2 * n) := by
    have := le_max_left (binvItchP (max ncnt mp.length)) (2 * n); omega
  exact mpn_powm_correct_pinned thr mthr pp1 hpp1 binvItchP _ bp ep mp hep hne hmp hn hodd h1 (fun _ => h2)

-- non-vacuity: m = 2^192·(9·B + 7): n = 5, ncnt = 3 (+1 for the bit shift would be cnt = 0 here), nodd = 2, redc_n branch forced
example : (mpnPowmMemR 1 12 Fft.mulmod_2expp1_basecase (Mpir.Hgcd.bnm1NextSize 128 19 tab19) binvItchP
    (2 * 5 + max (binvItchP (max 3 2)) (2 * 5)) [3, 4, 5] [77] [7, 9]) = (toLimbs 2 (val [3, 4, 5] ^ 77 % val [7, 9]), true) := by
  decide +kernel

/-- **The CRT path of mpz_powm, scratch indices** (mpz/powm.c:176-268, even modulus): with the single block of
    `itch = 3n + MAX (mpn_binvert_itch (MAX (ncnt, nodd)), 2n)` limbs, `rp = tp; tp += n`, every callee stays inside the
    block and never overlaps an operand it still needs: mpn_powlo (`r2 = tp[0..ncnt)`, scratch `tp[ncnt..4·ncnt)`),
    mpn_binvert (`tp[n..n+ncnt)`, scratch `tp[2n..2n + mpn_binvert_itch (ncnt))` — inside by the monotonicity of
    mpn_mulmod_bnm1_next_size), mpn_sub in place, mpn_mullow_n (the `2·ncnt` limbs it sets at `tp + 2n`), mpn_mul into
    `tp[0..nodd+ncnt)` apart from `xp`, and mpn_add reading `yp[0..n)`.  For every modulus in normal form.
    This is a statement about index ranges (model `PowmCrt.crtOk`); the values are those of `powmEven`
    (`powmEven_correct`), the mpn_powm call inside the same block is `mpz_powm_scratch_ok_even`. -/
theorem mpz_powm_crt_indices_ok (mp : List Nat) (hm : Norm mp) (hne : mp ≠ []) :
    Mpir.PowmCrt.mpzPowmCrtOk mp binvItchP = true := by
  obtain ⟨_, _, s3, _, _, s6, s7, s8, _, _⟩ := stripM_spec mp hm hne
  unfold Mpir.PowmCrt.mpzPowmCrtOk
  simp only at s3 s6 s7 s8 ⊢
  by_cases h0 : (stripM mp).2.2.1 = 0
  · rw [if_pos h0]
  · rw [if_neg h0]
    refine Mpir.PowmCrt.crtOk_true _ _ _ binvItchP ?_ s3 (by omega) s6 s8 s7
    intro a b hab
    have := bnm1NextSize_mono a b hab
    unfold binvItchP; omega

-- non-vacuity: the flags are not constant (one limb less than the C allocates breaks mpn_binvert's scratch), and a concrete
-- even modulus 2^70·(2^130 + 1)
example : Mpir.PowmCrt.crtOk 5 3 3 (2 * 5 + max (binvItchP 3) (2 * 5)) binvItchP = true ∧
    Mpir.PowmCrt.crtOk 5 3 3 (2 * 5 + max (binvItchP 3) (2 * 5) - 1) binvItchP = false ∧
    Mpir.PowmCrt.mpzPowmCrtOk [0, 64, 0, 256] binvItchP = true := by decide +kernel

/-- **The CRT path of mpz_powm with every operand going through the single scratch block** (mpz/powm.c:204-270, model
    `PowmCrt.powmEvenMemF`: the block as a map offset → limb; `r2 = tp`, mpn_powlo's scratch at `tp + ncnt`,
    `odd_inv_2exp = tp + n`, mpn_binvert's scratch at `tp + 2n`, mpn_sub in place, mpn_mullow_n setting `2·ncnt` limbs at
    `xp = tp + 2n`, the mask, mpn_mul into `yp = tp`, mpn_add reading `yp[0..n)`).  For ANY contents the callees leave in
    their scratch areas and any initial contents of the block, the limbs delivered to `rp` are exactly those of the
    value-level `powmEven` — no callee overwrites an operand that is still needed — hence (`even_modulus_crt`) they are
    `b^e mod 2^t·modd` in `n` proper limbs.  Hypotheses: those of `even_modulus_crt` (what `stripM` delivers, the C's
    ASSERTs at powm.c:272-273) and `ncnt ≤ n`. -/
theorem mpz_powm_crt_mem_correct (n : Nat) (bp ep modd rodd : List Nat) (nodd ncnt cnt bi : Nat)
    (junkP junkB : List Nat) (mem0 : Mpir.PowmCrt.Mem)
    (hbp : Limbs bp) (hbne : bp ≠ []) (hep : Norm ep) (hepne : ep ≠ []) (h2 : 2 ≤ val ep)
    (hmodd : Limbs modd) (hml : modd.length = nodd) (hodd : val modd % 2 = 1)
    (hncnt : 1 ≤ ncnt) (hcnt : cnt < 64) (hn1 : nodd ≤ n) (hn2 : n ≤ nodd + ncnt) (hn3 : ncnt ≤ n)
    (hfit : 2 ^ tbits ncnt cnt * val modd < B ^ n) (hsz : ncnt * 64 < B)
    (hrodd : rodd = toLimbs nodd (val bp ^ val ep % val modd)) :
    Mpir.PowmCrt.powmEvenMemF n bp ep modd nodd ncnt cnt rodd bi junkP junkB mem0 =
      powmEven n bp ep modd nodd ncnt cnt rodd ∧
    val (Mpir.PowmCrt.powmEvenMemF n bp ep modd nodd ncnt cnt rodd bi junkP junkB mem0) =
      val bp ^ val ep % (2 ^ tbits ncnt cnt * val modd) ∧
    Limbs (Mpir.PowmCrt.powmEvenMemF n bp ep modd nodd ncnt cnt rodd bi junkP junkB mem0) ∧
    (Mpir.PowmCrt.powmEvenMemF n bp ep modd nodd ncnt cnt rodd bi junkP junkB mem0).length = n := by
  have hrL : Limbs rodd := by rw [hrodd]; exact Limbs_toLimbs _ _
  have e := Mpir.PowmCrt.powmEvenMemF_eq n bp ep modd nodd ncnt cnt rodd bi junkP junkB mem0 hrL hncnt hn3
    (by omega) (by omega) hcnt
  obtain ⟨c1, c2, c3⟩ := even_modulus_crt n bp ep modd rodd nodd ncnt cnt hbp hbne hep hepne h2 hmodd hml hodd hncnt hcnt
    hn1 hn2 hfit hsz hrodd
  rw [e]; exact ⟨rfl, c1, c2, c3⟩

-- non-vacuity: m = 12 = 2^2·3 (n = 1, ncnt = 1, cnt = 2), b = 5, e = 3, and m = 2^64·3 (whole zero limb), b = 7, e = 2 —
-- with junk in the scratch areas and a block full of ones
example : Mpir.PowmCrt.powmEvenMemF 1 [5] [3] [3] 1 1 2 (toLimbs 1 (5 ^ 3 % 3)) 226 [7, 7, 7] [9, 9, 9, 9] (fun _ => B - 1) =
      [5 ^ 3 % 12] ∧
    Mpir.PowmCrt.powmEvenMemF 2 [7] [2] [3] 1 1 0 (toLimbs 1 (7 ^ 2 % 3)) 226 [1, 2, 3] [4, 5] (fun i => i) = [49, 0] := by
  decide +kernel

end Mpir.Mm1
