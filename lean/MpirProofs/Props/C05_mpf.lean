/-
  C05 (aliasing) — mpf, on the BIT-EXACT model Mpir/Model/Mpf.lean (limbs, size, exponent as the C).
  The model takes the pointer identities the C tests (`r != u`, `rp != up`: neg.c:31, abs.c:31, add.c:42-53,
  sub.c:42-52, add_ui.c:56-64, sub_ui.c, ui_sub.c) as Boolean parameters `rIsU`, `rIsV`.  The theorems say that those
  flags do not change the result — limb for limb, size and exponent — when the aliased operand has at most prec+1
  limbs, which is what `MPF_CHECK_FORMAT` guarantees for the variable that is ALSO the destination (its own precision
  is `prec`); the only way round it is a precision lowered by mpf_set_prec_raw, where the manual lets results differ.
  mpf_mul / div / sqrt / floor / ceil / trunc / mul_2exp / div_2exp / mul_ui / div_ui contain no pointer test: their
  models are functions of the operand VALUES only (same function for r = u, r = v, u = v), so alias independence at
  this level holds by construction and what remains — order of limb reads and writes inside the mpn calls — rests on
  the differential aliased-vs-distinct run and, for all of them but mul_ui, on the pointer-level mpf theorems of C05_ptr2.lean.
-/
import MpirProofs.Lemmas.Mpf
namespace Mpir.Mpf
open Mpir

/-- an operand that fits the destination's precision is copied unchanged -/
theorem set_fit (prec : Nat) (u : F) (hu : OpWF u) (hlen : u.d.length ≤ prec + 1) : set prec u = { u with prec := prec } := by
  unfold set
  simp only [top_of_le hlen]
  have := hu.len
  cases u with
  | mk p sz e d =>
    simp only at this ⊢
    congr 1
    split <;> omega

/-- mpf_neg (neg.c): r = u gives the limbs, size and exponent of the distinct-variable call. -/
theorem mpf_neg_alias (prec : Nat) (u : F) (hu : OpWF u) (hlen : u.d.length ≤ prec + 1) :
    neg prec true u = neg prec false u := by
  rw [neg_eq_set, set_fit prec _ (OpWF_neg_size u hu) hlen]; rfl

example : neg 2 true ⟨2, -2, 5, [7, 9]⟩ = ⟨2, 2, 5, [7, 9]⟩ ∧ neg 2 false ⟨2, -2, 5, [7, 9]⟩ = ⟨2, 2, 5, [7, 9]⟩ := by decide
-- the hypothesis matters: an operand longer than the destination's precision (after mpf_set_prec_raw) is truncated
-- by the distinct-variable call and kept whole by the in-place one
example : neg 1 true ⟨1, 3, 5, [7, 9, 11]⟩ ≠ neg 1 false ⟨1, 3, 5, [7, 9, 11]⟩ := by decide

/-- mpf_abs (abs.c) -/
theorem mpf_abs_alias (prec : Nat) (u : F) (hu : OpWF u) (hlen : u.d.length ≤ prec + 1) :
    Mpf.abs prec true u = Mpf.abs prec false u := by
  unfold Mpf.abs
  simp only [if_true, Bool.false_eq_true, if_false, top_of_le hlen]
  have := hu.len
  congr 1
  omega

example : Mpf.abs 2 true ⟨2, -2, 5, [7, 9]⟩ = Mpf.abs 2 false ⟨2, -2, 5, [7, 9]⟩ := by decide

/-- mpf_add (add.c): r = u, r = v (and both: u = v = r) against distinct variables. -/
theorem mpf_add_alias (prec : Nat) (rIsU rIsV : Bool) (u v : F) (hu : OpWF u) (hv : OpWF v)
    (hau : rIsU = true → u.d.length ≤ prec + 1) (hav : rIsV = true → v.d.length ≤ prec + 1) :
    add prec rIsU rIsV u v = add prec false false u v := by
  unfold add
  cases rIsU <;> cases rIsV <;> simp only [if_true, Bool.false_eq_true, if_false]
  · rw [set_fit prec v hv (hav rfl)]
  · rw [set_fit prec u hu (hau rfl)]
  · rw [set_fit prec u hu (hau rfl), set_fit prec v hv (hav rfl)]

example : add 2 true false ⟨2, 1, 1, [5]⟩ ⟨2, 0, 0, []⟩ = add 2 false false ⟨2, 1, 1, [5]⟩ ⟨2, 0, 0, []⟩ := by decide
example : add 2 false true ⟨2, 0, 0, []⟩ ⟨2, -2, 3, [1, 2]⟩ = ⟨2, -2, 3, [1, 2]⟩ := by decide

/-- mpf_sub (sub.c) -/
theorem mpf_sub_alias (prec : Nat) (rIsU rIsV : Bool) (u v : F) (hu : OpWF u) (hv : OpWF v)
    (hau : rIsU = true → u.d.length ≤ prec + 1) (hav : rIsV = true → v.d.length ≤ prec + 1) :
    sub prec rIsU rIsV u v = sub prec false false u v := by
  unfold sub
  cases rIsU <;> cases rIsV <;> simp only [if_true, Bool.false_eq_true, if_false]
  · rw [mpf_neg_alias prec v hv (hav rfl)]
  · rw [set_fit prec u hu (hau rfl)]
  · rw [set_fit prec u hu (hau rfl), mpf_neg_alias prec v hv (hav rfl)]

example : sub 2 false true ⟨2, 0, 0, []⟩ ⟨2, -2, 3, [1, 2]⟩ = ⟨2, 2, 3, [1, 2]⟩ := by decide

/-- mpf_sub_ui (sub_ui.c), mpf_ui_sub (ui_sub.c): wrappers around mpf_sub / mpf_neg; `v`, `u` are limbs -/
theorem mpf_sub_ui_alias (prec : Nat) (u : F) (v : Nat) (hvB : v < B) (hu : OpWF u) (hlen : u.d.length ≤ prec + 1) :
    sub_ui prec true u v = sub_ui prec false u v := by
  unfold sub_ui
  split
  · rfl
  · rename_i hv0
    exact mpf_sub_alias prec true false u _ hu (OpWF_ofLimb v hv0 hvB) (fun _ => hlen) (fun h => by cases h)

theorem mpf_ui_sub_alias (prec : Nat) (u : Nat) (v : F) (huB : u < B) (hv : OpWF v) (hlen : v.d.length ≤ prec + 1) :
    ui_sub prec true u v = ui_sub prec false u v := by
  unfold ui_sub
  split
  · exact mpf_neg_alias prec v hv hlen
  · rename_i hu0
    exact mpf_sub_alias prec false true _ v (OpWF_ofLimb u hu0 huB) hv (fun h => by cases h) (fun _ => hlen)

example : sub_ui 2 true ⟨2, 2, 2, [3, 4]⟩ 9 = sub_ui 2 false ⟨2, 2, 2, [3, 4]⟩ 9 := by decide
example : ui_sub 2 true 9 ⟨2, 2, 2, [3, 4]⟩ = ui_sub 2 false 9 ⟨2, 2, 2, [3, 4]⟩ := by decide

/-- mpf_add_ui (add_ui.c:56-64 `if (sum != u)`) -/
theorem mpf_add_ui_alias (prec : Nat) (u : F) (v : Nat) (hu : OpWF u) (hlen : u.d.length ≤ prec + 1) :
    add_ui prec true u v = add_ui prec false u v := by
  unfold add_ui
  by_cases h0 : u.size = 0
  · rw [if_pos h0, if_pos h0]
  · rw [if_neg h0, if_neg h0]
    by_cases hneg : u.size < 0
    · rw [if_pos hneg, if_pos hneg]
    · rw [if_neg hneg, if_neg hneg]
      -- the two calls differ only in `sum_is_u`, and u, fitting the destination, is its own top prec+1 limbs
      have hsz := hu.len
      have e : ({ u with prec := prec } : F) = ⟨prec, (top (prec + 1) u.d).length, u.exp, top (prec + 1) u.d⟩ := by
        rw [top_of_le hlen]
        cases u with
        | mk p sz ex d =>
          simp only at hsz h0 hneg ⊢
          congr 1
          omega
      simp only [if_true, Bool.false_eq_true, if_false, e]

example : add_ui 2 true ⟨2, 2, 2, [3, 4]⟩ 9 = add_ui 2 false ⟨2, 2, 2, [3, 4]⟩ 9 := by decide

end Mpir.Mpf
