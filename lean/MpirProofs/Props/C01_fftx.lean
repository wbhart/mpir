/-
  C01 (FFT transforms) — what the value-level models of Mpir/Model/FftX.lean (statement-by-statement mirrors of
  fft/fft_radix2.c, ifft_radix2.c, fft_trunc.c, ifft_trunc.c, fft_trunc_sqrt2.c, ifft_trunc_sqrt2.c,
  mul_trunc_sqrt2.c; run against the real functions on every check, whole coefficient array compared) compute.
  Property theorems only; lemmas in MpirProofs/Lemmas/FftX*.lean.

  A transform of 2n = 2^(d+1) coefficients with shift w works modulo p = 2^(n·w) + 1 (`pOf (2^d*w)`); the C computes
  limbs = n·w/64, so 64 ∣ n·w is its precondition wherever the modulus enters (the inverse transforms, which divide).
  `el xs i` is `ii[i]`; `rev b k` reverses the low b bits of k (`revbin_eq_rev`: it is mpir_revbin);
  `TruncOk d t`: t even, 2 ≤ t ≤ 2n;  `TruncSOk d t`: t even, 2n < t ≤ 4n.

  Theorems:
    (a) fft_radix2_bitrev_dft         out[rev i] ≡ Σ_j in[j]·(2^w)^(i·j)
    (b) ifft_fft_radix2               ifft_radix2 (fft_radix2 x) ≡ 2n·x          (+ ifft_radix2_of_transform: congruent input)
    (c) fft_trunc1_prefix, fft_trunc_prefix            first `trunc` outputs = those of the full transform (exactly)
        ifft_trunc1_recovers, ifft_trunc_recovers      the inverse statements of ifft_trunc.c
        fft_trunc_sqrt2_prefix, fft_full_sqrt2_bitrev_dft, ifft_trunc_sqrt2_recovers    the same for the √2 transforms
    (d) convolution_chain             transform, pointwise product, inverse transform, scaling ≡ the acyclic convolution
        mul_trunc_sqrt2_val           limbs → split → … → combine = the product, under `FftParams.Sound`
        mul_fft_main_nonmfa_val       … hence for the parameters mpn_mul_fft_main selects (non-MFA path)
    MFA: fft_radix2_twiddle_bitrev_dft, fft_trunc1_twiddle_prefix, mfa_passes_dft (column pass + row pass = the
         plain DFT permuted), fft_mfa_trunc_sqrt2_permuted_dft (both half matrices of the model = the plain transform, permuted)
-/
import MpirProofs.Lemmas.FftXMul
import MpirProofs.Lemmas.FftXMfa
import MpirProofs.Lemmas.FftParams
import Mpir.Gen.Params
namespace Mpir.FftX
open Mpir Finset

/-! ### (a) the radix-2 transform -/

/-- mpir_fft_radix2 on 2n = 2^(d+1) coefficients with shift w: the output in place rev(i) is the i-th value of the
    DFT with root 2^w (of order 2n modulo p = 2^(n·w)+1):  out[rev i] ≡ Σ_j in[j]·(2^w)^(i·j). -/
theorem fft_radix2_bitrev_dft (d w : Nat) (xs : List Int) (i : Nat) (hi : i < 2 ^ (d + 1)) :
    (fft_radix2 d w xs).length = 2 ^ (d + 1) ∧
    el (fft_radix2 d w xs) (rev (d + 1) i) ≡ ∑ j ∈ range (2 ^ (d + 1)), el xs j * (2 ^ w) ^ (i * j) [ZMOD pOf (2 ^ d * w)] := by
  refine ⟨length_fft_radix2 d w xs, (zmod_eq_iff _ _ _).mp ?_⟩
  rw [fft_radix2_dft _ d w xs (zmod_two_pow _) _ (rev_lt _ _), rev_rev _ _ hi, map_sum]
  apply sum_congr rfl; intro j _
  simp only [map_mul, map_pow]

-- non-vacuity: 4 points modulo 2^64+1, root 2^32 of order 4 (a fourth root of unity: (2^32)^2 = −1)
example : fft_radix2 1 32 [1, 2, 3, 4] = [10, -2, -2 - 2 * 2 ^ 32, 2 * 2 ^ 32 - 2] := by decide +kernel
example : (el (fft_radix2 1 32 [1, 2, 3, 4]) (rev 2 1) - (1 + 2 * 2 ^ 32 + 3 * (2 ^ 32) ^ 2 + 4 * (2 ^ 32) ^ 3)) % pOf 64 = 0 := by
  decide +kernel

/-- `rev` is the bit reversal the C uses (mpir_revbin: tables for bits ≤ 4, the shift loop above) -/
theorem revbin_eq_rev (bits k : Nat) (hk : k < 2 ^ bits) : revbin k bits = rev bits k := revbin_rev bits k hk

example : revbin 6 4 = 6 ∧ revbin 1 5 = 16 ∧ revbin 11 6 = 52 := by decide

/-! ### (b) the inverse transform -/

/-- mpir_ifft_radix2 applied to values congruent to a forward transform returns the 2n-fold coefficients
    (the scaling the callers then remove with mpn_div_2expmod_2expp1). -/
theorem ifft_radix2_of_transform (d w : Nat) (hd : 64 ∣ 2 ^ d * w) (xs ys : List Int)
    (h : ∀ k < 2 ^ (d + 1), el ys k ≡ el (fft_radix2 d w xs) k [ZMOD pOf (2 ^ d * w)]) (j : Nat) (hj : j < 2 ^ (d + 1)) :
    el (ifft_radix2 d w ys) j ≡ 2 ^ (d + 1) * el xs j [ZMOD pOf (2 ^ d * w)] :=
  (recovers_ifft_radix2 d w hd (zmod_two_pow_sq _) 1).modEq xs ys h (fun _ a b => absurd b (Nat.not_lt.mpr a)) j hj

/-- `ifft_radix2 ∘ fft_radix2` is multiplication by 2n, for every depth. -/
theorem ifft_fft_radix2 (d w : Nat) (hd : 64 ∣ 2 ^ d * w) (xs : List Int) (j : Nat) (hj : j < 2 ^ (d + 1)) :
    el (ifft_radix2 d w (fft_radix2 d w xs)) j ≡ 2 ^ (d + 1) * el xs j [ZMOD pOf (2 ^ d * w)] :=
  ifft_radix2_of_transform d w hd xs _ (fun _ _ => Int.ModEq.refl _) j hj

example : (ifft_radix2 1 32 (fft_radix2 1 32 [1, 2, 3, 4])).map (· % pOf 64) = [4, 8, 12, 16] := by decide +kernel

/-! ### (c) the truncated transforms -/

/-- mpir_fft_trunc1: the first `trunc` outputs are exactly those of the full transform, for every input. -/
theorem fft_trunc1_prefix (d w trunc : Nat) (xs : List Int) (ht : TruncOk d trunc) (k : Nat) (hk : k < trunc) :
    el (fft_trunc1 d w trunc xs) k = el (fft_radix2 d w xs) k := (prefix_fft_trunc1 d w trunc ht xs).2.2 k hk

/-- mpir_fft_trunc: for inputs that are zero from `trunc` on, the first `trunc` outputs are exactly those of the
    full transform. -/
theorem fft_trunc_prefix (d w trunc : Nat) (xs : List Int) (ht : TruncOk d trunc)
    (hz : ∀ j, trunc ≤ j → el xs j = 0) (k : Nat) (hk : k < trunc) :
    el (fft_trunc d w trunc xs) k = el (fft_radix2 d w xs) k := (prefix0_fft_trunc d w trunc ht xs hz).2 k hk

example : TruncOk 2 6 := by unfold TruncOk; decide
example : (fft_trunc 2 16 6 [1, 2, 3, 4, 5, 6, 0, 0]).take 6 = (fft_radix2 2 16 [1, 2, 3, 4, 5, 6, 0, 0]).take 6 := by
  decide +kernel
example : fft_trunc 2 16 6 [1, 2, 3, 4, 5, 6, 0, 0] ≠ fft_radix2 2 16 [1, 2, 3, 4, 5, 6, 0, 0] := by decide +kernel

/-- mpir_ifft_trunc1 (the comment of ifft_trunc.c): given the first `trunc` values of the transform of x and, in the
    places from `trunc` on, the 2n-fold coefficients themselves, it returns the 2n-fold first `trunc` coefficients. -/
theorem ifft_trunc1_recovers (d w trunc : Nat) (ht : TruncOk d trunc) (hd : 64 ∣ 2 ^ d * w) (hw : 1 ≤ w)
    (xs ys : List Int)
    (h1 : ∀ k < trunc, el ys k ≡ el (fft_radix2 d w xs) k [ZMOD pOf (2 ^ d * w)])
    (h2 : ∀ j, trunc ≤ j → j < 2 ^ (d + 1) → el ys j ≡ 2 ^ (d + 1) * el xs j [ZMOD pOf (2 ^ d * w)])
    (j : Nat) (hj : j < trunc) :
    el (ifft_trunc1 d w trunc ys) j ≡ 2 ^ (d + 1) * el xs j [ZMOD pOf (2 ^ d * w)] :=
  (recovers_ifft_trunc1 d w trunc ht hd hw (zmod_two_pow_sq _) 1).modEq xs ys h1 h2 j hj

/-- mpir_ifft_trunc: from the first `trunc` transform values of a coefficient vector that is zero from `trunc` on it
    recovers the (2n-fold) first `trunc` coefficients — whatever the other input entries hold. -/
theorem ifft_trunc_recovers (d w trunc : Nat) (ht : TruncOk d trunc) (hd : 64 ∣ 2 ^ d * w) (hw : 1 ≤ w)
    (xs ys : List Int)
    (h1 : ∀ k < trunc, el ys k ≡ el (fft_radix2 d w xs) k [ZMOD pOf (2 ^ d * w)])
    (h0 : ∀ j, trunc ≤ j → j < 2 ^ (d + 1) → el xs j ≡ 0 [ZMOD pOf (2 ^ d * w)])
    (j : Nat) (hj : j < trunc) :
    el (ifft_trunc d w trunc ys) j ≡ 2 ^ (d + 1) * el xs j [ZMOD pOf (2 ^ d * w)] :=
  (recovers0_ifft_trunc d w trunc ht hd hw (zmod_two_pow_sq _) 1).modEq xs ys h1 h0 j hj

-- non-vacuity: 6 of 8 coefficients recovered from 6 transform values, the other two entries being garbage
example : ((ifft_trunc 2 16 6 ((fft_radix2 2 16 [1, 2, 3, 4, 5, 6, 0, 0]).take 6 ++ [77, -5])).take 6).map (· % pOf 64) =
    [8, 16, 24, 32, 40, 48] := by decide +kernel

/-- mpir_fft_trunc_sqrt2 (4n coefficients, inputs zero from `trunc` on): the first `trunc` outputs are exactly those of
    the full length-4n transform `fft_full_sqrt2` (one layer with the twiddles (√2)^(i·w), then two radix-2 transforms). -/
theorem fft_trunc_sqrt2_prefix (d w trunc : Nat) (xs : List Int) (ht : TruncSOk d trunc)
    (hz : ∀ j, trunc ≤ j → el xs j = 0) (k : Nat) (hk : k < trunc) :
    el (fft_trunc_sqrt2 d w trunc xs) k = el (fft_full_sqrt2 d w xs) k :=
  (prefix0_fft_trunc_sqrt2 d w trunc ht xs hz).2 k hk

/-- the full √2 transform is the DFT of length 4n with root (√2)^w in bit-reversed order, where
    √2 = 2^(nw/4)·(2^(nw/2) − 1) (`s2`; `sqrt2_sq` of the ring layer: it squares to 2). -/
theorem fft_full_sqrt2_bitrev_dft (d w : Nat) (hd : 64 ∣ 2 ^ d * w) (xs : List Int) (i : Nat) (hi : i < 2 ^ (d + 2)) :
    el (fft_full_sqrt2 d w xs) (rev (d + 2) i) ≡
      ∑ j ∈ range (2 ^ (d + 2)), el xs j * (s2 (2 ^ d * w) ^ w) ^ (i * j) [ZMOD pOf (2 ^ d * w)] := by
  apply (zmod_eq_iff _ _ _).mp
  rw [fft_full_sqrt2_dft _ d w hd (zmod_two_pow _) xs _ (rev_lt _ _), rev_rev _ _ hi, map_sum]
  apply sum_congr rfl; intro j _
  simp only [map_mul, map_pow]

/-- mpir_ifft_trunc_sqrt2: from the first `trunc` values of the full √2 transform of a vector that is zero from
    `trunc` on, the 4n-fold first `trunc` coefficients. -/
theorem ifft_trunc_sqrt2_recovers (d w trunc : Nat) (ht : TruncSOk d trunc) (hd : 64 ∣ 2 ^ d * w) (hw : 1 ≤ w)
    (xs ys : List Int)
    (h1 : ∀ k < trunc, el ys k ≡ el (fft_full_sqrt2 d w xs) k [ZMOD pOf (2 ^ d * w)])
    (h0 : ∀ j, trunc ≤ j → j < 2 ^ (d + 2) → el xs j ≡ 0 [ZMOD pOf (2 ^ d * w)])
    (j : Nat) (hj : j < trunc) :
    el (ifft_trunc_sqrt2 d w trunc ys) j ≡ 2 ^ (d + 2) * el xs j [ZMOD pOf (2 ^ d * w)] :=
  (recovers0_ifft_trunc_sqrt2 d w trunc ht hd hw (zmod_two_pow _) 1).modEq xs ys h1 h0 j hj

-- non-vacuity: n = 64, w = 1 (the real √2 butterflies; 256 coefficients modulo 2^64+1), 130 of them in use
example : TruncSOk 6 130 := by unfold TruncSOk; decide
example : let x := (List.range 130).map (fun i => ((i : Int) + 1) * 12345) ++ List.replicate 126 0
    ((ifft_trunc_sqrt2 6 1 130 ((fft_trunc_sqrt2 6 1 130 x).take 130 ++ List.replicate 126 9)).take 130).map
      (fun v => v * 2 ^ (128 - 8) % pOf 64) = x.take 130 := by decide +kernel

/-! ### the matrix Fourier (MFA) variants

The models of mpir_fft_radix2_twiddle / mpir_fft_trunc1_twiddle / mpir_fft_mfa_trunc_sqrt2 and their inverses
(Model/FftX.lean) are run against the library on every check (`fftx_mfa`, `fftx_imfa`: every n1, every trunc).
Proved for the FORWARD transform: what the twiddled column transform computes; its truncated version agrees with it on the
first `trunc` outputs; the column pass followed by the row pass leaves the DFT in the permutation (row j, column t) ↦
frequency j + n2·t; and, through the strided plumbing of the model (column folds with getCol/setCol, row folds),
`fft_mfa_trunc_sqrt2_permuted_dft`: both half matrices hold the values of the plain √2 transform in that permutation.
The inverse ifft_mfa_trunc_sqrt2, the outer/inner variants and mpn_mul_mfa_trunc_sqrt2 as a whole: Props/C01_fftinv.lean. -/

/-- mpir_fft_radix2_twiddle (2n entries of a column, shift w, ws = bits of z, r = first row, c = column, rs = row step):
    position rev(i) holds the DFT value of frequency i times 2^((r + rs·i)·c·ws).  With r = 0, rs = 1 that is the
    twiddle z^(i·c) between the column and the row pass. -/
theorem fft_radix2_twiddle_bitrev_dft (d w ws r c rs : Nat) (xs : List Int) (i : Nat) (hi : i < 2 ^ (d + 1)) :
    el (fft_radix2_twiddle d w ws r c rs xs) (rev (d + 1) i) ≡
      (∑ j ∈ range (2 ^ (d + 1)), el xs j * (2 ^ w) ^ (i * j)) * 2 ^ ((r + rs * i) * c * ws) [ZMOD pOf (2 ^ d * w)] := by
  apply (zmod_eq_iff _ _ _).mp
  rw [fft_radix2_twiddle_dft _ d w ws r c rs xs (zmod_two_pow _) _ (rev_lt _ _), rev_rev _ _ hi, map_mul, map_sum]
  congr 1
  · apply sum_congr rfl; intro j _
    simp only [map_mul, map_pow]
  · simp only [map_pow]

example : (el (fft_radix2_twiddle 1 32 4 0 3 1 [1, 2, 3, 4]) (rev 2 1) -
    (1 + 2 * 2 ^ 32 + 3 * (2 ^ 32) ^ 2 + 4 * (2 ^ 32) ^ 3) * 2 ^ (1 * 3 * 4)) % pOf 64 = 0 := by decide +kernel

/-- mpir_fft_trunc1_twiddle: the first `trunc` outputs are exactly those of mpir_fft_radix2_twiddle (the twiddled
    analogue of `fft_trunc1_prefix`; the columns of the second half matrix). -/
theorem fft_trunc1_twiddle_prefix (d w ws r c rs trunc : Nat) (xs : List Int) (ht : TruncOk d trunc) (k : Nat)
    (hk : k < trunc) :
    el (fft_trunc1_twiddle d w ws r c rs trunc xs) k = el (fft_radix2_twiddle d w ws r c rs xs) k :=
  (prefix_fft_trunc1_twiddle d w ws r c rs trunc ht xs).2.2 k hk

example : (fft_trunc1_twiddle 2 16 2 0 3 1 6 [1, 2, 3, 4, 5, 6, 7, 8]).take 6 =
    (fft_radix2_twiddle 2 16 2 0 3 1 [1, 2, 3, 4, 5, 6, 7, 8]).take 6 := by decide +kernel
example : fft_trunc1_twiddle 2 16 2 0 3 1 6 [1, 2, 3, 4, 5, 6, 7, 8] ≠ fft_radix2_twiddle 2 16 2 0 3 1 [1, 2, 3, 4, 5, 6, 7, 8] := by
  decide +kernel

/-- column pass then row pass of the matrix Fourier transform (n1 = 2^(e1+1) columns, n2 = 2^(e2+1) rows, the model's
    mpir_fft_radix2_twiddle / mpir_fft_radix2 / revbin swaps applied to the extracted columns and rows): row j,
    column t ends up with the value that the plain mpir_fft_radix2 of the same n1·n2 coefficients leaves in position
    rev(j + n2·t) — the same DFT, in a different permutation. -/
theorem mfa_passes_dft (e1 e2 w : Nat) (xs : List Int) (j t : Nat) (hj : j < 2 ^ (e2 + 1)) (ht : t < 2 ^ (e1 + 1)) :
    el (mfaRow e1 e2 w xs j) t ≡
      el (fft_radix2 (e1 + e2 + 1) w xs) (rev (e1 + e2 + 2) (j + 2 ^ (e2 + 1) * t)) [ZMOD pOf (2 ^ (e1 + e2 + 1) * w)] :=
  (zmod_eq_iff _ _ _).mp (mfa_passes _ e1 e2 w xs (zmod_two_pow _) j t hj ht)

-- non-vacuity: 16 coefficients as a 4 × 4 matrix modulo 2^64+1 (w = 8)
example : let x : List Int := [3, 1, 4, 1, 5, 9, 2, 6, 5, 3, 5, 8, 9, 7, 9, 3]
    (List.range 4).flatMap (fun j => (mfaRow 1 1 8 x j).map (· % pOf 64)) =
      (List.range 4).flatMap (fun j => (List.range 4).map fun t =>
        el (fft_radix2 3 8 x) (rev 4 (j + 4 * t)) % pOf 64) := by decide +kernel

/-- mpir_fft_mfa_trunc_sqrt2 with n1 = 2^(e1+1) columns, n2 = 2^(e2+1) rows, n = n1·n2/2 (depth e1+e2+1), trunc a multiple of
    2·n1 in (2n, 4n], inputs zero from `trunc` on.  After the four loops
    * the entry (row j, column t) of the FIRST half matrix is congruent to the value the plain transform (`fft_full_sqrt2`,
      of which `fft_trunc_sqrt2` computes the first `trunc` outputs) has in position rev(j + n2·t), for all j < n2, t < n1;
    * in the SECOND half matrix the same holds (offset 2n on both sides) for the rows j = rev s, s < (trunc − 2n)/n1 — the
      rows the C transforms ("relevant rows"); these are exactly the positions 2n + rev(j + n2·t) below `trunc`.
    The matrix Fourier transform computes the same DFT values as the plain one, in the permutation
    (row j, column t) ↦ rev(j + n2·t). -/
theorem fft_mfa_trunc_sqrt2_permuted_dft (e1 e2 w trunc : Nat) (xs : List Int)
    (hlen : xs.length = 4 * 2 ^ (e1 + e2 + 1)) (ht : TruncSOk (e1 + e2 + 1) trunc) (hdiv : 2 * 2 ^ (e1 + 1) ∣ trunc)
    (hz0 : ∀ j, trunc ≤ j → el xs j = 0) :
    (∀ j t, j < 2 ^ (e2 + 1) → t < 2 ^ (e1 + 1) →
      el (fft_mfa_trunc_sqrt2 (e1 + e2 + 1) w (2 ^ (e1 + 1)) trunc xs) (j * 2 ^ (e1 + 1) + t) ≡
        el (fft_full_sqrt2 (e1 + e2 + 1) w xs) (rev (e1 + e2 + 2) (j + 2 ^ (e2 + 1) * t))
        [ZMOD pOf (2 ^ (e1 + e2 + 1) * w)]) ∧
    (∀ s t, s < (trunc - 2 * 2 ^ (e1 + e2 + 1)) / 2 ^ (e1 + 1) → t < 2 ^ (e1 + 1) →
      el (fft_mfa_trunc_sqrt2 (e1 + e2 + 1) w (2 ^ (e1 + 1)) trunc xs)
          (2 * 2 ^ (e1 + e2 + 1) + rev (e2 + 1) s * 2 ^ (e1 + 1) + t) ≡
        el (fft_full_sqrt2 (e1 + e2 + 1) w xs)
          (2 * 2 ^ (e1 + e2 + 1) + rev (e1 + e2 + 2) (rev (e2 + 1) s + 2 ^ (e2 + 1) * t))
        [ZMOD pOf (2 ^ (e1 + e2 + 1) * w)]) := by
  obtain ⟨hN, _⟩ := mfa_dims e1 e2
  have hP := pow_succ' 2 (e1 + e2 + 1)
  obtain ⟨F1, F2⟩ := fft_mfa_rows e1 e2 w trunc xs hlen ht (truncOk_of_dvd e1 e2 trunc ht hdiv) hz0
  refine ⟨fun j t hj htt => ?_, fun s t hs htt => ?_⟩
  · rw [F1 j hj t htt, fft_full_sqrt2_low _ _ _ _ (rev_lt _ _)]
    exact (zmod_eq_iff _ _ _).mp (mfa_passes _ e1 e2 w _ (zmod_two_pow _) j t hj htt)
  · rw [← hN, F2 s hs t htt, hN, ← hP, fft_full_sqrt2_high]
    exact (zmod_eq_iff _ _ _).mp (mfa_passes _ e1 e2 w _ (zmod_two_pow _) _ t (rev_lt _ _) htt)

-- non-vacuity: depth 3 (n = 8, 32 coefficients modulo 2^64+1, w = 8), n1 = 4, n2 = 4, trunc = 24 (trunc2 = 2)
example : TruncSOk 3 24 := by unfold TruncSOk; decide
example : let x : List Int := (List.range 24).map (fun i => ((i : Int) + 3) * 1000003) ++ List.replicate 8 0
    (List.range 4).flatMap (fun j => (List.range 4).map fun t =>
        el (fft_mfa_trunc_sqrt2 3 8 4 24 x) (j * 4 + t) % pOf 64) =
      (List.range 4).flatMap (fun j => (List.range 4).map fun t =>
        el (fft_full_sqrt2 3 8 x) (rev 4 (j + 4 * t)) % pOf 64) := by decide +kernel
example : let x : List Int := (List.range 24).map (fun i => ((i : Int) + 3) * 1000003) ++ List.replicate 8 0
    (List.range 2).flatMap (fun s => (List.range 4).map fun t =>
        el (fft_mfa_trunc_sqrt2 3 8 4 24 x) (16 + rev 2 s * 4 + t) % pOf 64) =
      (List.range 2).flatMap (fun s => (List.range 4).map fun t =>
        el (fft_full_sqrt2 3 8 x) (16 + rev 4 (rev 2 s + 4 * t)) % pOf 64) := by decide +kernel

/-! ### (d) the convolution theorem as the multiplier uses it -/

/-- Transform both (zero-padded) coefficient vectors with mpir_fft_trunc_sqrt2, multiply the first `trunc` entries
    pointwise modulo p (normalise, mpn_mulmod_2expp1_basecase), transform back with mpir_ifft_trunc_sqrt2 and divide by
    4n = 2^(depth+2): every entry below `trunc` is congruent to the acyclic convolution Σ_{i+k=j} a_i·b_k,
    provided the convolution fits (j1 + j2 − 1 ≤ trunc). -/
theorem convolution_chain (depth w L trunc j1 j2 : Nat) (a b : List Int) (hL : 2 ^ depth * w = 64 * L) (hw : 1 ≤ w)
    (ht : TruncSOk depth trunc) (ha : ∀ i, j1 ≤ i → el a i = 0) (hb : ∀ k, j2 ≤ k → el b k = 0)
    (hj1 : 1 ≤ j1) (hj2 : 1 ≤ j2) (hJ : j1 + j2 ≤ trunc + 1) (j : Nat) (hj : j < trunc) :
    el (ifft_trunc_sqrt2 depth w trunc
        ((List.range (4 * 2 ^ depth)).map fun j =>
          if j < trunc then pointwise L (64 * L) (el (fft_trunc_sqrt2 depth w trunc a) j) (el (fft_trunc_sqrt2 depth w trunc b) j)
          else el (fft_trunc_sqrt2 depth w trunc a) j)) j * 2 ^ (2 * (64 * L) - (depth + 2))
      ≡ ∑ i ∈ range (j + 1), el a i * el b (j - i) [ZMOD pOf (64 * L)] := by
  have := conv_chain depth w L trunc j1 j2 a b hL hw ht ha hb hj1 hj2 hJ j hj
  rwa [hL, el_conv _ _ _ _ (by obtain ⟨_, _, h⟩ := ht; omega)] at this

/-- mpn_mul_trunc_sqrt2 (the model: mpir_fft_split_bits, the two forward transforms, the pointwise products, the inverse
    transform, the scaling and mpir_fft_combine_bits — limb-level models for split / product / combine, value-level for
    the transforms): for parameters satisfying `FftParams.Sound` — exactly what `fft_params_sound` proves about the
    selection in mpn_mul_fft_main: 64 ∣ n·w, bits ≥ 1, j1 + j2 − 1 ≤ 4n, 2·bits + depth + 1 ≤ n·w — the result is the
    (n1+n2)-limb product. -/
theorem mul_trunc_sqrt2_val (i1 i2 : List Nat) (depth w : Nat) (hi1 : Limbs i1) (hi2 : Limbs i2)
    (hn1 : 1 ≤ i1.length) (hn2 : 1 ≤ i2.length) (hs : FftParams.Sound i1.length i2.length ⟨false, depth, w⟩) :
    (mul_trunc_sqrt2 i1 i2 depth w).length = i1.length + i2.length ∧ Limbs (mul_trunc_sqrt2 i1 i2 depth w) ∧
    val (mul_trunc_sqrt2 i1 i2 depth w) = val i1 * val i2 :=
  mul_trunc_sqrt2_spec i1 i2 depth w hi1 hi2 hn1 hn2 hs

/-- … and therefore for the parameters that mpn_mul_fft_main passes to mpn_mul_trunc_sqrt2 (depth < 11 after the
    first loop: the non-MFA path), for every admissible tuning table and all operand lengths. -/
theorem mul_fft_main_nonmfa_val (tab : List (List Int))
    (htab : ∀ d w, 6 ≤ d → d < 11 → (w = 1 ∨ w = 2) → FftParams.tabGet tab d w ≤ 4)
    (i1 i2 : List Nat) (hi1 : Limbs i1) (hi2 : Limbs i2) (hn1 : 1 ≤ i1.length) (hn2 : 1 ≤ i2.length)
    (depth w : Nat) (hc : FftParams.fftParams tab i1.length i2.length = some ⟨false, depth, w⟩) :
    val (mul_trunc_sqrt2 i1 i2 depth w) = val i1 * val i2 :=
  (mul_trunc_sqrt2_val i1 i2 depth w hi1 hi2 hn1 hn2
    (FftParams.sound_of_fftParams tab htab _ _ hn1 hn2 _ hc)).2.2

-- non-vacuity: a 2×1-limb product through 16 coefficients modulo 2^64+1, and the parameters chosen for 1×1 limbs
example : mul_trunc_sqrt2 [0xfedcba9876543210, 0x123456789abcdef] [0xffffffffffffffff] 2 16 =
    [0x123456789abcdf0, 0xfdb97530eca86420, 0x123456789abcdef] := by decide +kernel
example : FftParams.Sound 2 1 ⟨false, 2, 16⟩ := by decide
example : FftParams.fftParams Mpir.Gen.params.FFT_TAB 1 1 = some ⟨false, 2, 32⟩ := by decide

end Mpir.FftX
