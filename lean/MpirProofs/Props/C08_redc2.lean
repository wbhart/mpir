/-
  C08: mpn_redc_2 (mpn/generic/redc_2.c) — property theorems only; lemmas in MpirProofs/Lemmas/Redc2.lean.
  Model `Powm.redc_2` (Mpir/Model/Powm.lean: the optional mpn_addmul_1 round for odd n, the two-limb rounds with
  umul2low, mpn_addmul_2 as two mpn_addmul_1, the parked carries `up[1] = …; up[0] = up[n]; up[n] = upn`, mpn_add_n and
  the conditional mpn_sub_n), compared exactly with the library by the op `mpn_redc_2`.
-/
import MpirProofs.Lemmas.Redc2
namespace Mpir.Powm
open Mpir

/-- **mpn_redc_2**, limb level, as `redc_1_spec`: for every `n ≥ 1`, every `up` of `2n` limbs and every modulus with
    the two-limb inverse `(mip[1]:mip[0])·m ≡ −1 (mod B²)` (so `m` is odd):
    * the result has `n` proper limbs (`< B^n`);
    * `B^n·r + k·B^n·m = T + Q·m` with `Q < B^n`, `k ∈ {0,1}`, hence `r·B^n ≡ T (mod m)`;
    * if `T < B^n` then `r ≤ m` (the conversion out of Montgomery form; `r = m` is possible, as for redc_1). -/
theorem redc_2_spec (up mp : List Nat) (mip0 mip1 : Nat) (hn : 1 ≤ mp.length) (hup : Limbs up) (hmp : Limbs mp)
    (hlen : up.length = 2 * mp.length)
    (hinv2 : ((mip0 + B * mip1) * val mp) % (B * B) = B * B - 1) :
    Limbs (redc_2 up mp mip0 mip1) ∧ (redc_2 up mp mip0 mip1).length = mp.length ∧
    val (redc_2 up mp mip0 mip1) < B ^ mp.length ∧
    (val (redc_2 up mp mip0 mip1) * B ^ mp.length ≡ val up [MOD val mp]) ∧
    (∃ Q k, Q < B ^ mp.length ∧ k ≤ 1 ∧
      B ^ mp.length * val (redc_2 up mp mip0 mip1) + k * (B ^ mp.length * val mp) = val up + Q * val mp) ∧
    (val up < B ^ mp.length → val (redc_2 up mp mip0 mip1) ≤ val mp) := by
  obtain ⟨Q, k, hQ, hk, he, hL, hlen'⟩ := redc_2_identity up mp mip0 mip1 hn hup hmp hlen hinv2
  have h := IsRedc.of_identity (hlen' ▸ val_lt _ hL) hQ he
  exact ⟨hL, hlen', h.lt, h.modEq, ⟨Q, k, hQ, hk, he⟩, h.le⟩

-- non-vacuity: n = 2 (one two-limb round), m = B² − 1 (mip = 1): T = B⁴ − 1 gives a carry out and the subtraction;
-- n = 3 (odd: one addmul_1 round first), m = [3, 0, 1], mip = −1/m mod B² = [0x5555555555555555, 0x5555555555555555]
example : redc_2 [B - 1, B - 1, B - 1, B - 1] [B - 1, B - 1] 1 0 = [B - 1, B - 1] ∧
    ((1 + B * 0) * val [B - 1, B - 1]) % (B * B) = B * B - 1 := by decide +kernel
example : ((0x5555555555555555 + B * 0x5555555555555555) * val [3, 0, 1]) % (B * B) = B * B - 1 ∧
    (val (redc_2 [7, 8, 9, 1, 2, 3] [3, 0, 1] 0x5555555555555555 0x5555555555555555) * B ^ 3) % val [3, 0, 1] =
      val [7, 8, 9, 1, 2, 3] % val [3, 0, 1] := by decide +kernel

end Mpir.Powm
