/-
  C04, object-layer memory safety as theorems (statement shape `Safe` of Lemmas/AllocSafe.lean: `ok = true`,
  destination well formed, every other variable untouched, value-level view = the list-level result): mpz_import, mpz_lcm, mpz_gcd.
  Models: Mpir/Model/AllocSafeMpz5.lean.  Helper lemmas: MpirProofs/Lemmas/AllocSafeMpz5.lean.
  Tied by ops `as5_*` (harness/ops_allocsafe5.c; ALLOC SIZ value compared exactly) and pins on every C file mirrored.
-/
import MpirProofs.Props.C04_allocsafe
import MpirProofs.Lemmas.AllocSafeMpz5
namespace Mpir.AllocSafe5
open Mpir Mpir.AllocSafe
open Mpir.Mpz (sgn Norm)

/-- a small heap for the examples: 0 = one limb allocated, value 0; 1 = B^2 - 1 (exact block); 2 = the value 6; 3 = scratch -/
def ex6 : St := ⟨fun i => if i = 0 then ⟨0, 0, ⟨1, [junk]⟩⟩ else if i = 1 then ⟨2, 0, ⟨2, [B - 1, B - 1]⟩⟩
                 else ⟨1, 0, ⟨1, [6]⟩⟩, true⟩

/-! ## mpz_import (mpz/import.c) -/

/-- The number of limbs mpz_import stores through `zp` is exactly the `zsize = ceil (count * (8*size - nail) / 64)` it requests from
    MPZ_REALLOC (import.c:51-52), on every path: the three word-sized fast paths store `count` limbs (MPN_COPY / MPN_BSWAP /
    MPN_REVERSE), the generic byte loop stores one limb each time 64 bits have been accumulated (`ACCUMULATE`, invariant
    `lbits < 64`) and one more for a partial last limb — the C's `ASSERT (zp == PTR(z) + zsize)` (import.c:159) as a theorem, for every
    count, order, size, endian, nail, alignment and data. -/
theorem importLimbs_length (count : Nat) (order : Int) (size : Nat) (endian : Int) (nail align : Nat) (data : List Nat) :
    (importLimbs count order size endian nail align data).1.length = (count * (8 * size - nail) + 63) / 64 := by
  unfold importLimbs
  generalize (if endian == 0 then (-1 : Int) else endian) = e
  unfold importLimbsE
  split
  · rename_i h
    simp only [Bool.and_eq_true, beq_iff_eq] at h
    obtain ⟨⟨⟨⟨hn, _⟩, hsz⟩, _⟩, _⟩ := h
    subst hn hsz
    simp only [List.length_map, List.length_range]; omega
  · split
    · rename_i _ h
      simp only [Bool.and_eq_true, beq_iff_eq] at h
      obtain ⟨⟨⟨⟨hn, _⟩, hsz⟩, _⟩, _⟩ := h
      subst hn hsz
      simp only [List.length_map, List.length_range]; omega
    · split
      · rename_i _ _ h
        simp only [Bool.and_eq_true, beq_iff_eq] at h
        obtain ⟨⟨⟨⟨hn, _⟩, hsz⟩, _⟩, _⟩ := h
        subst hn hsz
        simp only [List.length_map, List.length_range]; omega
      · rw [Nat.mul_comm 8 size]
        exact (importGeneric_spec count order size e nail data).1

/-- everything mpz_import stores is a limb (`ASSERT_LIMB (limb)`, import.c:155) -/
theorem importLimbs_limbs (count : Nat) (order : Int) (size : Nat) (endian : Int) (nail align : Nat) (data : List Nat) :
    Limbs (importLimbs count order size endian nail align data).1 := by
  unfold importLimbs
  generalize (if endian == 0 then (-1 : Int) else endian) = e
  unfold importLimbsE
  split
  · exact Limbs_map_range (leLimb data) count (leLimb_lt data)
  · split
    · exact Limbs_map_range (beLimb data) count (beLimb_lt data)
    · split
      · exact Limbs_map_range (fun i => leLimb data (count - 1 - i)) count (fun i => leLimb_lt data (count - 1 - i))
      · exact (importGeneric_spec count order size e nail data).2

-- three 3-byte words with 5 nail bits each, most significant first, big-endian bytes: 57 bits in one limb;
-- nine bytes of 0xff: 72 bits, a second (partial) limb
example : importLimbs 3 1 3 1 5 0 [0xff, 0xff, 0xff, 1, 2, 3, 4, 5, 6] = ([144114947827959046], true) := by decide
example : (importLimbs 9 (-1) 1 0 0 3 (List.replicate 9 255)).1 = [B - 1, 255] := by decide

/-- mpz_import (mpz/import.c), every allocation of z, every count / order / size / endian / nail / alignment / data:
    `MPZ_REALLOC (z, zsize)` makes room for every limb the fast paths and the byte loop store, MPN_NORMALIZE reads only what was
    stored, z ends well formed and non-negative with the value of the stored limbs, nothing else is touched. -/
theorem mpz_import_alloc_safe (s : St) (z count : Nat) (order : Int) (size : Nat) (endian : Int) (nail align : Nat)
    (data : List Nat) (hs : s.ok = true) (hz : OWF (s.h z)) :
    Safe s (mpz_import s z count order size endian nail align data) z
      ⟨(Mpz.grow (view (s.h z)) ((count * (8 * size - nail) + 63) / 64)).alloc,
       ((normalize (importLimbs count order size endian nail align data).1).length : Nat),
       normalize (importLimbs count order size endian nail align data).1⟩ ∧
    Mpz.toInt (view ((mpz_import s z count order size endian nail align data).h z)) =
      (val (importLimbs count order size endian nail align data).1 : Nat) := by
  have hlen := importLimbs_length count order size endian nail align data
  have hlimbs := importLimbs_limbs count order size endian nail align data
  unfold mpz_import import_
  simp only [Nat.sub_zero]
  generalize (importLimbs count order size endian nail align data).1 = L at *
  rw [← hlen]
  have G := MPZ_REALLOC_grown s z L.length hz
  have T := (Wrote.fresh (MPZ_REALLOC s z L.length) z L true (by rw [G.ok]; exact hs) rfl (G.bwf z hz.1) hlimbs G.room).fin_norm false
  simp only [chk_true] at T
  have R : Refines s _ z _ := Refines.of_grown G T
  rw [← G.alloc]
  have hN := Mpz.Norm_normalize hlimbs
  have hle := normalize_length_le L
  have hroom := G.room
  have h1 : 1 ≤ ((MPZ_REALLOC s z L.length).h z).buf.alloc := by
    have := G.mono z; have := hz.alloc_pos; omega
  simp only [sgn, Bool.false_eq_true, if_false] at R
  exact R.safe_val ⟨h1, by simp; omega, by simp, hN.1, hN.2⟩ (by simp [Mpz.toInt, val_normalize])

-- 16 bytes into a one-limb variable: grown to 2 limbs; a high zero word is normalised away without a reallocation being needed
example : let s := mpz_import ex 0 2 (-1) 8 0 0 0 ([1, 0, 0, 0, 0, 0, 0, 0, 2, 0, 0, 0, 0, 0, 0, 0]);
    s.ok = true ∧ view (s.h 0) = ⟨2, 2, [1, 2]⟩ := by decide
example : view ((mpz_import ex 0 2 1 8 0 0 1 ([0, 0, 0, 0, 0, 0, 0, 0, 2, 0, 0, 0, 0, 0, 0, 0])).h 0) = ⟨2, 1, [2]⟩ := by decide
-- negative: `MPZ_REALLOC (z, zsize - 1)` — the second limb leaves the block
example : (import_ 1 ex 0 2 (-1) 8 0 0 0 ([1, 0, 0, 0, 0, 0, 0, 0, 2, 0, 0, 0, 0, 0, 0, 0])).ok = false := by decide

/-! ## mpz_lcm (mpz/lcm.c) -/

/-- mpz_lcm (mpz/lcm.c), the arm `vsize == 1` (label `one`, lcm.c:44-64), u ≠ 0, every allocation and every alias pattern
    (r may be u and / or v): `MPZ_REALLOC (r, usize+1)` covers the `usize` limbs of mpn_mul_1 and the carry limb `rp[usize] = c`
    that is stored unconditionally; `up` and `PTR(v)[0]` are fetched after the reallocation; the result is well formed, positive,
    equal to lcm (|u|, |v|); nothing else is touched.
    Every u, v: `mpz_lcm_alloc_safe` below. -/
theorem mpz_lcm_one_alloc_safe_partial (s : St) (r u v gid : Nat) (hs : s.ok = true)
    (hr : OWF (s.h r)) (hu : OWF (s.h u)) (hv : OWF (s.h v)) (hu0 : (s.h u).size ≠ 0) (hv1 : (s.h v).size.natAbs = 1) :
    Safe s (mpz_lcm s r u v gid) r (Spec.lcmOne (view (s.h r)) (view (s.h u)) ((view (s.h v)).d.headD junk)) ∧
    Mpz.toInt (view ((mpz_lcm s r u v gid).h r)) =
      (Nat.lcm (Mpz.toInt (view (s.h u))).natAbs (Mpz.toInt (view (s.h v))).natAbs : Nat) := by
  have hv0 : (s.h v).size ≠ 0 := by omega
  have e : mpz_lcm s r u v gid = lcmOne 1 s r u v (s.h u).size.natAbs := by
    unfold mpz_lcm lcm_
    simp [St.SIZ, hu0, hv0, hv1]
  rw [e]
  obtain ⟨S, E⟩ := lcmOne_safe s r u v hs hr hu hv hu0 hv1
  exact ⟨S, by rw [S.2.2.2]; exact E⟩

-- lcm (B^2 - 1, 6) = 2 (B^2 - 1) into the one-limb variable 0 (grown to 3 limbs), and in place over u
example : let s := mpz_lcm ex6 0 1 2 3; s.ok = true ∧ view (s.h 0) = ⟨3, 3, [B - 2, B - 1, 1]⟩ := by decide
example : let s := mpz_lcm ex6 1 1 2 3; s.ok = true ∧ view (s.h 1) = ⟨3, 3, [B - 2, B - 1, 1]⟩ := by decide
-- negative: `MPZ_REALLOC (r, usize)` — the carry limb `rp[usize] = c` leaves the block
example : (lcm_ 0 ex6 0 1 2 3).ok = false := by decide

/-- mpz_lcm (mpz/lcm.c), every arm before TMP_MARK (lcm.c:36-71: a zero operand, v of one limb, u of one limb — the last one
    is the label `one` reached by `goto` with u and v exchanged), every allocation and alias pattern: the result is well formed
    and equal to lcm (|u|, |v|) (0 for a zero operand, where nothing but `SIZ (r)` is written); nothing else is touched.
    Without `hsmall`: `mpz_lcm_alloc_safe` below. -/
theorem mpz_lcm_small_alloc_safe_partial (s : St) (r u v gid : Nat) (hs : s.ok = true)
    (hr : OWF (s.h r)) (hu : OWF (s.h u)) (hv : OWF (s.h v))
    (hsmall : (s.h u).size.natAbs ≤ 1 ∨ (s.h v).size.natAbs ≤ 1) :
    ∃ m, Safe s (mpz_lcm s r u v gid) r m ∧
      Mpz.toInt m = (Nat.lcm (Mpz.toInt (view (s.h u))).natAbs (Mpz.toInt (view (s.h v))).natAbs : Nat) := by
  have ha : 1 ≤ (s.h r).buf.alloc := hr.alloc_pos
  have zero : Safe s (s.setSize r 0) r ⟨(s.h r).buf.alloc, 0, []⟩ :=
    ⟨by simpa using hs, ⟨by simpa using hr.1, by simp [view, Mpz.WF, ha, Limbs]⟩, fun x hx => setSize_other _ _ _ hx, by simp [view]⟩
  by_cases h0 : (s.h u).size = 0 ∨ (s.h v).size = 0
  · have e : mpz_lcm s r u v gid = s.setSize r 0 := by
      unfold mpz_lcm lcm_
      rcases h0 with h | h <;> simp [St.SIZ, h]
    rw [e]
    refine ⟨_, zero, ?_⟩
    rw [toInt_natAbs, toInt_natAbs]
    rcases h0 with h | h
    · have : (view (s.h u)).d = [] := by simp [view, h]
      rw [this]; simp [Mpz.toInt, val]
    · have : (view (s.h v)).d = [] := by simp [view, h]
      rw [this]; simp [Mpz.toInt, val]
  · have hu0 : (s.h u).size ≠ 0 := fun h => h0 (Or.inl h)
    have hv0 : (s.h v).size ≠ 0 := fun h => h0 (Or.inr h)
    by_cases hv1 : (s.h v).size.natAbs = 1
    · have e : mpz_lcm s r u v gid = lcmOne 1 s r u v (s.h u).size.natAbs := by
        unfold mpz_lcm lcm_
        simp [St.SIZ, hu0, hv0, hv1]
      rw [e]
      exact ⟨_, lcmOne_safe s r u v hs hr hu hv hu0 hv1⟩
    · have hu1 : (s.h u).size.natAbs = 1 := by omega
      have e : mpz_lcm s r u v gid = lcmOne 1 s r v u (s.h v).size.natAbs := by
        unfold mpz_lcm lcm_
        simp [St.SIZ, hu0, hv0, hv1, hu1]
      rw [e, Nat.lcm_comm]
      exact ⟨_, lcmOne_safe s r v u hs hr hv hu hv0 hu1⟩

-- lcm (6, B^2 - 1): u has one limb, the `goto one` with the operands exchanged; lcm (0, v) = 0 stores only the size
example : let s := mpz_lcm ex6 0 2 1 3; s.ok = true ∧ view (s.h 0) = ⟨3, 3, [B - 2, B - 1, 1]⟩ := by decide
example : let s := mpz_lcm ex6 1 0 1 3; s.ok = true ∧ view (s.h 1) = ⟨2, 0, []⟩ := by decide

/-- mpz_lcm (mpz/lcm.c), EVERY arm, every heap, every allocation of r, every alias pattern among r, u, v (the temporary g is a
    heap id different from them): `ok` stays true — in particular the limbs of g, `MPZ_TMP_INIT (g, MAX (usize, vsize))` TMP
    memory, are never handed to the reallocation function: mpz_gcd needs at most min (usize, vsize) limbs (its result divides
    u), mpz_divexact (g, u, g) requests usize - gsize + 1 ≤ usize limbs and goes through its own temporary quotient because
    quot == den —, r ends well formed and non-negative (`SIZ (r) = ABS (SIZ (r))` after mpz_mul, which sizes r itself), every
    other variable is unchanged (what was at g's id is restored: TMP_FREE), and the value is lcm (|u|, |v|).
    Callees by contract: mpn_gcd_1 / mpn_gcd (value, C07), mpn_divexact (exactly nn - dn + 1 quotient limbs, value num / den),
    mpn_mul (C01, through `mpz_mul_alloc_safe`). -/
theorem mpz_lcm_alloc_safe (s : St) (r u v gid : Nat) (hs : s.ok = true)
    (hr : OWF (s.h r)) (hu : OWF (s.h u)) (hv : OWF (s.h v)) (hgr : gid ≠ r) (hgu : gid ≠ u) (hgv : gid ≠ v) :
    ∃ m, Safe s (mpz_lcm s r u v gid) r m ∧
      Mpz.toInt m = (Nat.lcm (Mpz.toInt (view (s.h u))).natAbs (Mpz.toInt (view (s.h v))).natAbs : Nat) := by
  by_cases hsmall : (s.h u).size.natAbs ≤ 1 ∨ (s.h v).size.natAbs ≤ 1
  · exact mpz_lcm_small_alloc_safe_partial s r u v gid hs hr hu hv hsmall
  · rw [toInt_natAbs, toInt_natAbs]
    exact lcmGeneral_safe s r u v gid hs hr hu hv hgr hgu hgv (by omega) (by omega)

/-! ## mpz_gcd (mpz/gcd.c) -/

/-- mpz_gcd (mpz/gcd.c), the arms before TMP_MARK (gcd.c:44-77: u = 0, v = 0, u of one limb, v of one limb), every allocation and
    every alias pattern (g may be u and / or v): in the zero arms `SIZ (g)` is stored BEFORE `MPZ_REALLOC (g, size)` — harmless,
    because `_mpz_realloc` only clears a value that exceeds the NEW allocation —, the operand pointer fetched at gcd.c:39-41 is
    still live at the MPN_COPY because g is then a different variable; the one-limb arms store `PTR (g)[0]` without any
    reallocation (a block never has zero limbs) after the last read of the operands.  g ends well formed and equal to
    gcd (|u|, |v|); nothing else is touched.
    Without `hsmall`: `mpz_gcd_alloc_safe` below. -/
theorem mpz_gcd_small_alloc_safe_partial (s : St) (g u v : Nat) (hs : s.ok = true)
    (hg : OWF (s.h g)) (hu : OWF (s.h u)) (hv : OWF (s.h v))
    (hsmall : (s.h u).size.natAbs ≤ 1 ∨ (s.h v).size.natAbs ≤ 1) :
    ∃ m, Safe s (mpz_gcd s g u v) g m ∧
      Mpz.toInt m = (Nat.gcd (Mpz.toInt (view (s.h u))).natAbs (Mpz.toInt (view (s.h v))).natAbs : Nat) := by
  rw [toInt_natAbs, toInt_natAbs]
  have ha : 1 ≤ (s.h g).buf.alloc := hg.alloc_pos
  have zeroWF : ∀ {x : Nat}, OWF (s.h x) →
      Mpz.WF ⟨max (s.h g).buf.alloc (s.h x).size.natAbs, ((s.h x).size.natAbs : Nat), (view (s.h x)).d⟩ := by
    intro x hx
    refine ⟨Nat.le_trans ha (Nat.le_max_left _ _), ?_, ?_, view_limbs hx, hx.normalized⟩
    · simp only [Int.natAbs_natCast]; exact Nat.le_max_right _ _
    · simp only [Int.natAbs_natCast]; exact view_d_length hx
  by_cases hu0 : (s.h u).size.natAbs = 0
  · have R : Refines s (mpz_gcd s g u v) g
        ⟨max (s.h g).buf.alloc (s.h v).size.natAbs, ((s.h v).size.natAbs : Nat), (view (s.h v)).d⟩ := by
      unfold mpz_gcd gcd_
      simp only [St.ABSIZ, hu0, beq_self_eq_true, if_true]
      exact gcdZero_refines s g v hs hg hv
    refine ⟨_, R.safe (zeroWF hv), ?_⟩
    have hd : (view (s.h u)).d = [] := by simp [view, hu0]
    rw [hd]; simp [Mpz.toInt, val]
  · have hune : ((s.h u).size.natAbs == 0) = false := by simpa using hu0
    by_cases hv0 : (s.h v).size.natAbs = 0
    · have R : Refines s (mpz_gcd s g u v) g
          ⟨max (s.h g).buf.alloc (s.h u).size.natAbs, ((s.h u).size.natAbs : Nat), (view (s.h u)).d⟩ := by
        unfold mpz_gcd gcd_
        simp only [St.ABSIZ, hune, hv0, beq_self_eq_true, if_true, Bool.false_eq_true, if_false]
        exact gcdZero_refines s g u hs hg hu
      refine ⟨_, R.safe (zeroWF hu), ?_⟩
      have hd : (view (s.h v)).d = [] := by simp [view, hv0]
      rw [hd]; simp [Mpz.toInt, val]
    · obtain ⟨R, W⟩ := gcdOne_refines s g u v hs hg hu hv (by omega) (by omega) (by omega)
      exact ⟨_, R.safe W, by simp [Mpz.toInt, val]⟩

/-- mpz_gcd (mpz/gcd.c), general arm, the TMP side (gcd.c:82-95 and 97-110, `stripLow`): for every operand the copy without its
    low zero limbs — shifted right by its low zero bits through mpn_rshift, or copied — is exactly as long as the
    `TMP_ALLOC_LIMBS (usize - zero_limbs)` block it is stored to. -/
theorem stripLow_fits (U : List Nat) : (stripLow U).2.2.2.2 = true := by
  unfold stripLow
  simp only []
  split
  · simp [Buf.write, Buf.new, Mpir.rshift, rshiftGo_length]
  · simp [Buf.write, Buf.new]

-- 3 * 2^127 as [0, 3 * 2^63]: one zero limb, 63 zero bits, the copy [3] in a block of one limb
example : stripLow [0, 3 * 2 ^ 63] = (1, 63, ⟨1, [3]⟩, 1, true) := by decide

/-- mpz_gcd (mpz/gcd.c), general arm, the destination side (gcd.c:133-154, `gcdTail`): for every limb list `G` that mpn_gcd
    may have left in TMP space (non-empty, limbs), every count of common zero limbs and every count `g_zero_bits ≤ 63` of common
    zero bits, every allocation of g: `MPZ_REALLOC (g, gsize)` with `gsize = vsize + g_zero_limbs + ((vp[vsize-1] >> (64 -
    g_zero_bits)) != 0)` covers MPN_ZERO, the `vsize` limbs mpn_lshift stores at `PTR (g) + g_zero_limbs`, and the store
    `tp[vsize] = cy_limb`, which happens exactly when the extra limb was counted (the bits mpn_lshift returns ARE the top bits of
    the top limb: `lshift_carry`); `SIZ (g) = gsize` stays within the allocation; no other variable is touched.
    The limbs stored and their value: `gcdTail_wrote`, `gcdTail_refines` (Lemmas/AllocSafeMpz5.lean). -/
theorem mpz_gcd_tail_alloc_safe_partial (s : St) (g : Nat) (G : List Nat) (gzl gzb : Nat) (hs : s.ok = true) (hg : OWF (s.h g))
    (hG : Limbs G) (hne : G ≠ []) (hb : gzb ≤ 63) :
    (gcdTail 0 false s g G gzl gzb).ok = true ∧ BWF ((gcdTail 0 false s g G gzl gzb).h g).buf ∧
    ((gcdTail 0 false s g G gzl gzb).h g).size.natAbs ≤ ((gcdTail 0 false s g G gzl gzb).h g).buf.alloc ∧
    (∀ x, x ≠ g → (gcdTail 0 false s g G gzl gzb).h x = s.h x) := by
  obtain ⟨s1, s2, R, gsize, Gr, W, hlen, e, -, -⟩ := gcdTail_wrote s g G gzl gzb hs hg hG hne hb
  have W3 := W.setSize ((gsize : Nat) : Int)
  have hroom := Gr.room
  rw [e]
  refine ⟨W3.ok, W3.bwf, ?_, fun x hx => (W3.frame x hx).trans (Gr.other x hx)⟩
  rw [W3.alloc]; simp; omega

-- 3 << (64 + 63) into the one-limb variable: carry limb counted and stored (3 limbs); 1 << (64 + 63): not counted, not stored
example : let s := gcdTail 0 false ex6 0 [3] 1 63; s.ok = true ∧ view (s.h 0) = ⟨3, 3, [0, 2 ^ 63, 1]⟩ := by decide
example : let s := gcdTail 0 false ex6 0 [1] 1 63; s.ok = true ∧ view (s.h 0) = ⟨2, 2, [0, 2 ^ 63]⟩ := by decide
-- negative: one limb less requested; the carry limb stored although it was not counted
example : (gcdTail 1 false ex6 0 [3] 1 63).ok = false := by decide
example : (gcdTail 0 true ex6 0 [1] 1 63).ok = false := by decide

/-- mpz_gcd (mpz/gcd.c), EVERY arm, every heap, every allocation of g, every alias pattern (g may be u and / or v, u may be v):
    `ok` stays true (no load or store outside a block or through a stale pointer, no TMP block overrun), g ends well formed,
    every other variable is unchanged, and the value is gcd (|u|, |v|).  The general arm (gcd.c:79-155) composes `stripLow_spec`
    (the TMP copies hold the odd parts u', v' with u = u' << (64 * u_zero_limbs + u_zero_bits), and fit their blocks), the callee
    mpn_gcd by its contract as the model states it (value gcd (u', v') — C07 `mpn_gcd_correct` —, stored normalised at vp: that
    these limbs fit vp's block is PROVED here from gcd (u', v') ≤ v', not assumed) and `gcdTail_refines` (the re-shift:
    `MPZ_REALLOC (g, gsize)` covers the zero limbs, the shifted limbs and the conditional `cy_limb`; the top limb stored is
    non-zero; the value is G << (64 * g_zero_limbs + g_zero_bits)), with
    gcd (u' << a, v' << b) = gcd (u', v') << min (a, b) for odd u', v'. -/
theorem mpz_gcd_alloc_safe (s : St) (g u v : Nat) (hs : s.ok = true)
    (hg : OWF (s.h g)) (hu : OWF (s.h u)) (hv : OWF (s.h v)) :
    ∃ m, Safe s (mpz_gcd s g u v) g m ∧
      Mpz.toInt m = (Nat.gcd (Mpz.toInt (view (s.h u))).natAbs (Mpz.toInt (view (s.h v))).natAbs : Nat) := by
  by_cases hsmall : (s.h u).size.natAbs ≤ 1 ∨ (s.h v).size.natAbs ≤ 1
  · exact mpz_gcd_small_alloc_safe_partial s g u v hs hg hu hv hsmall
  · obtain ⟨R, r1, r2, r3⟩ := gcdGeneral_refines s g u v hs hg hu hv (by omega) (by omega)
    refine ⟨_, r1.safe r2, ?_⟩
    rw [toInt_natAbs, toInt_natAbs, ← r3]
    simp [Mpz.toInt]

-- gcd (B^2 - 1, 6) = 3 into variable 0 and over v; gcd (0, v) copies; in place nothing is reallocated
example : let s := mpz_gcd ex6 0 1 2; s.ok = true ∧ view (s.h 0) = ⟨1, 1, [3]⟩ := by decide
example : let s := mpz_gcd ex6 2 1 2; s.ok = true ∧ view (s.h 2) = ⟨1, 1, [3]⟩ := by decide
example : let s := mpz_gcd ex6 0 0 1; s.ok = true ∧ view (s.h 0) = ⟨2, 2, [B - 1, B - 1]⟩ := by decide
/-- a heap for the general arm: 0 = destination (one limb), 1 = 3 * 2^127, 2 = 5 * 2^127 (two limbs each; gcd = 2^127) -/
def ex7 : St := ⟨fun i => if i = 0 then ⟨0, 0, ⟨1, [junk]⟩⟩ else if i = 1 then ⟨2, 0, ⟨2, [0, 3 * 2 ^ 63]⟩⟩
                 else ⟨2, 0, ⟨2, [0, 5 * 2 ^ 63]⟩⟩, true⟩
-- general arm: one low zero limb and 63 zero bits stripped, gcd 1 re-shifted: two limbs, no carry limb
example : let s := mpz_gcd ex7 0 1 2; s.ok = true ∧ view (s.h 0) = ⟨2, 2, [0, 2 ^ 63]⟩ := by decide +kernel
example : let s := mpz_gcd ex7 1 1 2; s.ok = true ∧ view (s.h 1) = ⟨2, 2, [0, 2 ^ 63]⟩ := by decide +kernel
-- negative: `MPZ_REALLOC (g, gsize - 1)`; and storing `tp[vsize] = cy_limb` unconditionally with the exact request
example : (gcd_ 1 false ex7 0 1 2).ok = false := by decide +kernel
example : (gcd_ 0 true ex7 0 1 2).ok = false := by decide +kernel

end Mpir.AllocSafe5
