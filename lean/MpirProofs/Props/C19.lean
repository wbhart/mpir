/-
  C19 — random numbers: range, reproducibility, copies.
  Property theorems only; helper lemmas live in MpirProofs/Lemmas/Rand.lean.
  Every theorem is about the executable models in Mpir/Model/Rand.lean, which the correspondence check
  runs bit for bit against the real generators (whole histories: init, seed, copy, interleaved draws).

  `Gen.Valid g` is `True` for the Mersenne Twister and `2 ≤ m2exp` for `gmp_randinit_lc_2exp`
  (`m2exp = 1` gives zero bits per step and `randget_lc` does not terminate: reported finding, not a
  documented precondition).  Statistical uniformity is not a theorem (frequency ops in the run).
-/
import MpirProofs.Lemmas.Rand
namespace Mpir.Rand
open Mpir

/-! ## urandomb: values below `2^n`, for every generator state -/

/-- `mpz_urandomb (rop, state, n)` returns a value below `2^n`, for every state of every generator. -/
theorem urandomb_lt (g : Gen) (hv : g.Valid) (n : Nat) : (urandomb g n).1 < 2 ^ n :=
  Nat.lt_of_le_of_lt (Nat.mod_le _ _) (Gen.get_lt g hv n)

example : (urandomb (.mt mtDefault) 64).1 = 0x58d2754b39bca874 := by decide +kernel
example : (urandomb (.lc (lcInit 0x5851f42d4c957f2d5851f42d4c957f2d 1 67)) 66).1 = 0xe058c66756147d0b := by decide +kernel
example : (Gen.lc (lcInit 5 1 67)).Valid := by decide

/-- `gmp_urandomb_ui (state, bits)` returns a value below `2^min(bits, 64)`. -/
theorem urandomb_ui_lt (g : Gen) (hv : g.Valid) (bits : Nat) : (urandombUi g bits).1 < 2 ^ (min bits 64) :=
  Nat.lt_of_le_of_lt (Nat.mod_le _ _) (Gen.get_lt g hv _)

example : (urandombUi (.mt mtDefault) 100).1 = 0x58d2754b39bca874 := by decide +kernel

/-- `mpn_urandomb (rp, state, n)` writes exactly `BITS_TO_LIMBS (n)` proper limbs whose value is below `2^n`. -/
theorem mpn_urandomb_lt (g : Gen) (hv : g.Valid) (n : Nat) :
    (mpnUrandomb g n).1.length = bitsToLimbs n ∧ Limbs (mpnUrandomb g n).1 ∧ val (mpnUrandomb g n).1 < 2 ^ n := by
  refine ⟨toLimbs_length _ _, Limbs_toLimbs _ _, ?_⟩
  simp only [mpnUrandomb, val_toLimbs]
  exact Nat.lt_of_le_of_lt (Nat.mod_le _ _) (Gen.get_lt g hv n)

example : (mpnUrandomb (.mt mtDefault) 65).1 = [0x58d2754b39bca874, 1] := by decide +kernel

/-- every draw leaves a valid generator behind (so the theorems apply along whole histories). -/
theorem get_valid (g : Gen) (hv : g.Valid) (n : Nat) : (g.get n).2.Valid := Gen.get_valid g hv n

example : ((Gen.lc (lcInit 5 1 8)).get 100).2.Valid := get_valid _ (by decide) _

/-! ## the regenerated tables -/

/-- randmt.c `default_state[]`: `N` entries, each a 32-bit word. -/
theorem default_state_ok :
    Tabs.defaultState.toList.length = Tabs.mtN ∧ ∀ w ∈ Tabs.defaultState.toList, w < 2 ^ 32 := by decide +kernel

/-- randlc2s.c `__gmp_rand_lc_scheme[]`: every row has `m2exp ≥ 2`, a multiplier `≡ 5 (mod 8)` inside `[0, 2^m2exp)`
    and an odd addend (so each scheme has the full period `2^m2exp`), and the rows are sorted by `m2exp` (the
    selection takes the first row with `m2exp / 2 ≥ size`). -/
theorem lc_scheme_ok :
    (∀ r ∈ Tabs.lcScheme, 2 ≤ r.1 ∧ r.2.1 % 8 = 5 ∧ r.2.2 % 2 = 1 ∧ r.2.1 < 2 ^ r.1) ∧
    (Tabs.lcScheme.map (·.1)).Pairwise (· < ·) := by decide +kernel

/-- `gmp_randinit_lc_2exp_size (state, size)`: when it succeeds the generator is valid and delivers at least `size`
    bits per step; it fails exactly when no row is large enough. -/
theorem lc_size_valid (size : Nat) (s : LcState) (h : lcInitSize size = some s) :
    (Gen.lc s).Valid ∧ size ≤ s.m2exp / 2 := by
  unfold lcInitSize lcSchemeFind at h
  simp only [Option.map_eq_some_iff] at h
  obtain ⟨r, hr, rfl⟩ := h
  have hmem := List.mem_of_find?_eq_some hr
  have hp := List.find?_some hr
  have := (lc_scheme_ok.1 r hmem).1
  exact ⟨this, by simpa [lcInit] using hp⟩

example : (lcInitSize 128).map (·.m2exp) = some 256 ∧ lcInitSize 129 = none ∧ (lcInitSize 17).map (·.m2exp) = some 34 := by
  decide +kernel

/-! ## urandomm: values in `[0, n-1]` -/

/-- `mpz_urandomm (rop, state, n)`, `n ≠ 0`: every returned value is below `|n|` (exit condition of the
    rejection loop; `n` a power of two uses exactly `log2 n` bits; the C loop is unbounded and ends with
    probability 1 — the model gives up after `fuel` draws, `none`). -/
theorem urandomm_range (fuel : Nat) (g g' : Gen) (n : Int) (v : Nat) (hn : n ≠ 0)
    (h : urandomm fuel g n = some (v, g')) : v < n.natAbs := by
  unfold urandomm at h
  simp only at h
  split at h
  · simp only [Option.some.injEq, Prod.mk.injEq] at h
    rw [← h.1]; omega
  · exact rejectLoop_lt h

example : (urandomm 10 (.mt mtDefault) 1000).map (·.1) = some 0x74 := by decide +kernel
example : (urandomm 10 (.mt mtDefault) (-(2 ^ 64))).map (·.1) = some 0x58d2754b39bca874 := by decide +kernel
example : (urandomm 10 (.mt mtDefault) 1).map (·.1) = some 0 := by decide +kernel

/-- `mpn_urandomm (rp, state, mp, n)`: `n` proper limbs whose value is below the modulus. -/
theorem mpn_urandomm_range (fuel : Nat) (g g' : Gen) (mp l : List Nat)
    (h : mpnUrandomm fuel g mp = some (l, g')) :
    l.length = mp.length ∧ Limbs l ∧ val l < val mp := by
  unfold mpnUrandomm at h
  simp only [Option.map_eq_some_iff] at h
  obtain ⟨⟨r, g''⟩, hr, he⟩ := h
  simp only [Prod.mk.injEq] at he
  have hlt := rejectLoop_lt hr
  rw [← he.1]
  refine ⟨toLimbs_length _ _, Limbs_toLimbs _ _, ?_⟩
  rw [val_toLimbs]
  exact Nat.lt_of_le_of_lt (Nat.mod_le _ _) hlt

example : (mpnUrandomm 10 (.mt mtDefault) [5, 7]).map (·.1) = some [0x680bbdc87647f3c3, 1] := by decide +kernel

/-- `gmp_urandomm_ui (state, n)`, `0 < n < 2^64`: the result is below `n` — by the loop's exit condition, and
    in the capped fallback branch (80 rejections, `ret -= n`) because `ret < 2^bits ≤ 2n`. -/
theorem urandomm_ui_range (g : Gen) (hv : g.Valid) (n : Nat) (hn : 0 < n) (h64 : n < 2 ^ 64) :
    (urandommUi g n).1 < n := by
  unfold urandommUi
  simp only
  have hb := log2_bits n hn h64
  have spec := urandommUiLoop_spec n (64 - clz n - boolToNat (pow2P n)) Tabs.maxUrandommIter 0 g hv
    (Or.inr (by decide))
  simp only at spec
  split
  · next hacc => exact spec.1 hacc
  · next hacc =>
    have hacc' : (urandommUiLoop n (64 - clz n - boolToNat (pow2P n)) Tabs.maxUrandommIter 0 g).2.1 = false := by
      simpa using hacc
    rcases spec.2 hacc' with ⟨h1, h2⟩ | h0
    · have h3 : (urandommUiLoop n (64 - clz n - boolToNat (pow2P n)) Tabs.maxUrandommIter 0 g).1 < 2 * n :=
        Nat.lt_of_lt_of_le (Nat.lt_of_lt_of_le h2 (Nat.pow_le_pow_right (by decide) hb.1)) hb.2
      simp only
      omega
    · exact absurd h0 (by decide)

example : (urandommUi (.mt mtDefault) 100).1 = 0x4b := by decide +kernel
-- the fallback branch: a = 1, c = 0, X = 0xf0 constant, every 2-bit draw is 3 ≥ n = 3; after 80 rejections 3 - 3 = 0
example : (urandommUi (.lc (lcSeed (lcInit 1 0 8) 0xf0)) 3).1 = 0 := by decide +kernel

/-! ## shapes -/

/-- `mpn_randomb (rp, state, n)`, `n ≥ 1`: exactly `n` proper limbs with a non-zero top limb. -/
theorem randomb_shape (fuel : Nat) (g g' : Gen) (n : Nat) (l : List Nat) (hn : 1 ≤ n)
    (h : mpnRandomb fuel g n = some (l, g')) :
    l.length = n ∧ Limbs l ∧ ∃ hne : l ≠ [], l.getLast hne ≠ 0 := by
  unfold mpnRandomb at h
  simp only [Option.map_eq_some_iff] at h
  obtain ⟨⟨v, g''⟩, hv, he⟩ := h
  simp only [Prod.mk.injEq] at he
  have hr : (g.get (n * 64)).1 % 2 ^ (64 * n) / 2 ^ (64 * (n - 1)) < 2 ^ 64 := by
    apply Nat.div_lt_of_lt_mul
    rw [← pow_add, show 64 * (n - 1) + 64 = 64 * n by omega]
    exact Nat.mod_lt _ (by positivity)
  obtain ⟨t, ht0, ht, hvv⟩ := topLoop_spec hr hv
  have hlo : (g.get (n * 64)).1 % 2 ^ (64 * n) % 2 ^ (64 * (n - 1)) < 2 ^ (64 * (n - 1)) := Nat.mod_lt _ (by positivity)
  have hpow : B ^ n = 2 ^ 64 * 2 ^ (64 * (n - 1)) := by rw [B_pow, ← pow_add]; congr 1; omega
  -- v = lo + t·P with lo < P = B^(n−1) and 1 ≤ t < 2^64
  generalize (g.get (n * 64)).1 % 2 ^ (64 * n) % 2 ^ (64 * (n - 1)) = lo at hvv hlo
  generalize hP : 2 ^ (64 * (n - 1)) = P at hvv hlo hpow
  have hvlt : v < B ^ n := by
    rw [hvv, hpow]
    calc lo + t * P < (t + 1) * P := by rw [Nat.add_mul, Nat.one_mul]; omega
      _ ≤ 2 ^ 64 * P := Nat.mul_le_mul_right P ht
  rw [← he.1]
  refine toLimbs_shape hn ?_ hvlt
  rw [hvv, B_pow, hP]
  exact Nat.le_trans (Nat.le_mul_of_pos_left P (Nat.pos_of_ne_zero ht0)) (Nat.le_add_left _ _)

example : (mpnRandomb 10 (.mt mtDefault) 2).map (·.1) = some [0x58d2754b39bca874, 0x7647f3c382902d2f] := by decide +kernel
-- the redraw loop: the first two draws have a zero top limb
example : (mpnRandomb 10 (.lc (lcSeed (lcInit 1 (2 ^ 64 - 1) 130) (3 - 2 ^ 64))) 1).map (·.1) = some [1] := by decide +kernel

/-- `mpz_rrandomb (x, state, n)` returns a value below `2^n`; for `n ≥ 1` it has exactly `n` bits. -/
theorem rrandomb_lt (g : Gen) (n : Nat) :
    (rrandomb g n).1 < 2 ^ n ∧ (1 ≤ n → 2 ^ (n - 1) ≤ (rrandomb g n).1) := by
  unfold rrandomb
  by_cases h : n = 0
  · simp [h]
  · simp only [ne_eq, h, not_false_eq_true, if_true]
    have := gmpRrandomb_spec g n (by omega)
    exact ⟨this.2, fun _ => this.1⟩

example : (rrandomb (.mt mtDefault) 256).1 = 0xfffffffffffffffffff000000000000fffffffffffffffffffffffffffffffff := by decide +kernel
example : (rrandomb (.mt mtDefault) 0).1 = 0 := by decide +kernel

/-- `mpn_rrandom (rp, state, n)`, `n ≥ 1`: exactly `n` proper limbs with a non-zero top limb. -/
theorem rrandom_shape (g : Gen) (n : Nat) (hn : 1 ≤ n) :
    (mpnRrandom g n).1.length = n ∧ Limbs (mpnRrandom g n).1 ∧
    ∃ hne : (mpnRrandom g n).1 ≠ [], (mpnRrandom g n).1.getLast hne ≠ 0 := by
  simp only [mpnRrandom]
  have key : ∀ bp < 64, B ^ (n - 1) ≤ (gmpRrandomb (g.get 32).2 (n * 64 - bp)).1 ∧
      (gmpRrandomb (g.get 32).2 (n * 64 - bp)).1 < B ^ n := fun bp hbp => by
    obtain ⟨h1, h2⟩ := gmpRrandomb_spec (g.get 32).2 (n * 64 - bp) (by omega)
    have hup : (2:Nat) ^ (n * 64 - bp) ≤ B ^ n := by rw [B_pow]; exact Nat.pow_le_pow_right (by decide) (by omega)
    have hlo : B ^ (n - 1) ≤ 2 ^ (n * 64 - bp - 1) := by rw [B_pow]; exact Nat.pow_le_pow_right (by decide) (by omega)
    omega
  have h := key _ (Nat.mod_lt ((g.get 32).1 % 2 ^ 64) (by decide : 0 < 64))
  exact toLimbs_shape hn h.1 h.2

example : (mpnRrandom (.mt mtDefault) 2).1 = [0x1f80003801ff9f, 0xfff] := by decide +kernel
example : (mpnRrandom (.lc (lcInit 0 0 64)) 3).1 = [0xaaaaaaaaaaaaaaaa, 0xaaaaaaaaaaaaaaaa, 0xaaaaaaaaaaaaaaaa] := by decide +kernel

/-- `mpf_urandomb (rop, state, nbits)`: the result `val d · B^(exp − size)` lies in `[0, 1)`: the exponent is
    not positive and the mantissa is below `B^size`; `size` limbs are stored and a zero has exponent 0. -/
theorem mpf_urandomb_range (g : Gen) (prec nbits : Nat) :
    let o := (mpfUrandomb g prec nbits).1
    o.exp ≤ 0 ∧ val o.d < B ^ o.size ∧ o.d.length = o.size ∧ Limbs o.d ∧ (o.size = 0 → o.exp = 0) := by
  exact mpfFinish_range _ (Limbs_toLimbs _ _)

example : (mpfUrandomb (.mt mtDefault) 3 2).1 = { size := 0, exp := 0, d := [] } := by decide +kernel
example : (mpfUrandomb (.mt mtDefault) 3 70).1 = { size := 2, exp := 0, d := [0xd000000000000000, 0xbd6349d52ce6f2a1] } := by decide +kernel
example : (mpfUrandomb (.lc (lcInit 0 0 64)) 3 100).1 = { size := 0, exp := 0, d := [] } := by decide +kernel

/-! ## the linear congruential generator delivers high-half bits only -/

/-- `randget_lc`: bit `j` of an `n`-bit request is bit `(m+1)/2 + j mod (m/2)` — a bit of the upper half,
    position `≥ m/2` — of `X_{j/(m/2)+1}`, where `X_{i+1} = (a·X_i + c) mod 2^m` and `X_0` is the seed;
    nothing is delivered above bit `n`.  So the weak low-order bits never reach the caller. -/
theorem lc_outputs_high_half (s : LcState) (hm : 2 ≤ s.m2exp) (n j : Nat) :
    ((Gen.lc s).get n).1.testBit j =
      (decide (j < n) && (lcX s (j / (s.m2exp / 2) + 1)).testBit ((s.m2exp + 1) / 2 + j % (s.m2exp / 2))) ∧
    s.m2exp / 2 ≤ (s.m2exp + 1) / 2 + j % (s.m2exp / 2) ∧
    (s.m2exp + 1) / 2 + j % (s.m2exp / 2) < s.m2exp ∧
    (∀ i, lcX s (i + 1) = (s.a * lcX s i + s.c) % 2 ^ s.m2exp) ∧ lcX s 0 = s.seed := by
  refine ⟨randgetLc_testBit s n hm j, by omega, ?_, lcX_succ s, rfl⟩
  have := Nat.mod_lt j (show 0 < s.m2exp / 2 by omega)
  omega

/-- Documentation of the repaired finding (repo commit 78bdb63): before the repair `lc` discarded only `m/2` low bits, so
    for odd `m` it delivered `(m+1)/2` bits per step while `randget_lc` places the chunks `m/2` bits apart. -/
def lcStepOld (s : LcState) : Nat × LcState :=
  let x := (s.a * s.seed + s.c) % 2 ^ s.m2exp
  (x >>> (s.m2exp / 2), { s with seed := x })

/-- one `mpz_urandomb (r, st, 66)` of the unrepaired code with `m2exp = 67`: two 33-bit chunks; the surplus bit of the first
    is or-ed into the second ("bogus", randlc2x.c) and the surplus bit of the second is stored at bit 66. -/
def oldDraw66 (s0 : LcState) : Nat × LcState :=
  let p1 := lcStepOld s0
  let p2 := lcStepOld p1.2
  (placeChunk (placeChunk 0 0 1 p1.1 false) 33 1 p2.1 (decide (33 % 64 + 33 % 64 > 64)), p2.2)

-- seed 12345: the first two draws are the values observed on the unrepaired library; the second is not below 2^66
example :
    let s0 := lcSeed (lcInit 0x5851f42d4c957f2d5851f42d4c957f2d 1 67) 12345
    (oldDraw66 s0).1 = 0x28239508a0403ee39 ∧ (oldDraw66 (oldDraw66 s0).2).1 = 0x43af2be668439aad9 ∧
    2 ^ 66 ≤ (oldDraw66 (oldDraw66 s0).2).1 := by decide +kernel

/-- the state after an `n`-bit request: `⌈n / (m/2)⌉` steps of the recurrence, whatever the request sizes. -/
theorem lc_get_state (s : LcState) (hm : 2 ≤ s.m2exp) (n : Nat) :
    ((Gen.lc s).get n).2 = Gen.lc (lcIter ((n + s.m2exp / 2 - 1) / (s.m2exp / 2)) s) := by
  show Gen.lc (randgetLc s n).2 = _
  rw [randgetLc_state s n hm]

example : ((Gen.lc (lcInit 5 1 8)).get 8).1 = 0x10 := by decide +kernel
example : lcX (lcInit 5 1 8) 1 = 6 ∧ lcX (lcInit 5 1 8) 2 = 31 := by decide +kernel   -- 6 >> 4 = 0, 31 >> 4 = 1

/-! ## Mersenne Twister: call-pattern independence of the bit extraction -/

/-- `__gmp_randget_mt`: an `n`-bit request consumes exactly `⌈n/32⌉` tempered 32-bit words and returns
    their little-endian concatenation truncated to `n` bits (at most 31 bits of the last word are dropped). -/
theorem mt_get_words (s : MtState) (n : Nat) :
    randgetMt s n = (catWords (mtWords ((n + 31) / 32) s).1 % 2 ^ n, (mtWords ((n + 31) / 32) s).2) :=
  randgetMt_spec s n

/-- `get (a+b) = get a ++ get b` on the stream when the first request ends on a word boundary:
    splitting a request does not change the delivered bits nor the state. -/
theorem mt_get_bits_split (s : MtState) (a b : Nat) (ha : a % 32 = 0) :
    (randgetMt s (a + b)).1 = (randgetMt s a).1 + 2 ^ a * (randgetMt (randgetMt s a).2 b).1 ∧
    (randgetMt s (a + b)).2 = (randgetMt (randgetMt s a).2 b).2 := by
  simp only [randgetMt_spec]
  have e : (a + b + 31) / 32 = (a + 31) / 32 + (b + 31) / 32 := by omega
  have ea : 32 * ((a + 31) / 32) = a := by omega
  rw [e, mtWords_add]
  simp only [catWords_append, mtWords_length, ea]
  have hC : catWords (mtWords ((a + 31) / 32) s).1 < 2 ^ a := by
    have := catWords_lt _ (mtWords_lt ((a + 31) / 32) s)
    rwa [mtWords_length, ea] at this
  refine ⟨?_, trivial⟩
  rw [pow_add, add_mul_mod_mul _ _ _ _ hC, Nat.mod_eq_of_lt hC]

example : (randgetMt mtDefault 96).1 = (randgetMt mtDefault 32).1 + 2 ^ 32 * (randgetMt (randgetMt mtDefault 32).2 64).1 := by
  decide +kernel
-- not true off a word boundary: the first request drops the rest of its last word
example : (randgetMt mtDefault 96).1 ≠ (randgetMt mtDefault 31).1 + 2 ^ 31 * (randgetMt (randgetMt mtDefault 31).2 65).1 := by
  decide +kernel

/-! ## copies and equal seeds -/

/-- a sequence of requests served by one generator. -/
def draws : Gen → List Nat → List Nat
  | _, [] => []
  | g, n :: ns => (g.get n).1 :: draws (g.get n).2 ns

/-- `gmp_randinit_set`: the copy is the same abstract state, hence it produces the same sequence for the same calls. -/
theorem iset_copy_equiv (g : Gen) : g.iset = g ∧ ∀ ns, draws g.iset ns = draws g ns := by
  have h : g.iset = g := by cases g <;> rfl
  exact ⟨h, fun ns => by rw [h]⟩

example : draws (Gen.iset (.mt mtDefault)) [1, 33, 64] = draws (.mt mtDefault) [1, 33, 64] := by decide +kernel
example : draws (Gen.iset (.lc (lcInit 5 1 16))) [3, 9] = draws (.lc (lcInit 5 1 16)) [3, 9] := by decide +kernel

/-- same algorithm (for `lc_2exp`: same `a`, `c`, `m2exp`) -/
def SameAlg : Gen → Gen → Prop
  | .mt _, .mt _ => True
  | .lc s, .lc t => s.a = t.a ∧ s.c = t.c ∧ s.m2exp = t.m2exp
  | _, _ => False

/-- two states of the same algorithm seeded with the same seed are the same state, hence produce the same
    sequence for the same sequence of calls (whatever they did before the seeding). -/
theorem same_seed_same_stream (g h : Gen) (z : Int) (hs : SameAlg g h) :
    g.seed z = h.seed z ∧ ∀ ns, draws (g.seed z) ns = draws (h.seed z) ns := by
  have e : g.seed z = h.seed z := by
    cases g with
    | mt s => cases h with
      | mt t => rfl
      | lc t => exact absurd hs (by simp [SameAlg])
    | lc s => cases h with
      | mt t => exact absurd hs (by simp [SameAlg])
      | lc t =>
        obtain ⟨h1, h2, h3⟩ := hs
        simp only [Gen.seed, lcSeed, h1, h2, h3]
  exact ⟨e, fun ns => by rw [e]⟩

example : SameAlg (.mt mtDefault) (.mt (seedMt 7)) := trivial
-- a generator that has already been used and a fresh one, same parameters, same seed
example : draws ((Gen.lc (lcIter 3 (lcInit 5 1 16))).seed 77) [9, 3] = draws ((Gen.lc (lcInit 5 1 16)).seed 77) [9, 3] := by
  decide +kernel
-- (that an unseeded Mersenne Twister equals one seeded with DEFAULT_SEED 5489 — tests/rand/t-mt.c — is checked on the
-- implementation and the model by corpus/C19/mt_kat.ops; the kernel needs minutes to evaluate `seedMt`)

end Mpir.Rand
