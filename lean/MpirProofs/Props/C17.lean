/-
  C17 — import/export and stream I/O round-trip; faults are reported.
  Property theorems only; helper lemmas live in MpirProofs/Lemmas/Io.lean.
  Every theorem is about the executable models in Mpir/Model/Io.lean, which the correspondence check
  runs against the real library (fopencookie streams with injected faults) on every run.
-/
import MpirProofs.Lemmas.Io
namespace Mpir.Io
open Mpir

/-! ## Raw format -/

/-- `out_raw_format`: for every well-formed `z`, `mpz_out_raw` hands to `fwrite` exactly the documented
    bytes: the 4-byte big-endian two's-complement byte count (negative for `z < 0`) followed by the
    magnitude, big-endian, `byteLen |z|` bytes (hence no leading zero byte); on a healthy stream it
    returns that length. -/
theorem out_raw_format (z : Mpz) (h : z.WF) :
    out_raw_m z = outRawBytes z.toInt ∧
    (mpz_out_raw {} z).1 = 4 + byteLen z.toInt.natAbs ∧ (mpz_out_raw {} z).2.out = outRawBytes z.toInt ∧
    outRawBytes z.toInt =
      hdrBytes (if z.toInt < 0 then -(byteLen z.toInt.natAbs : Int) else byteLen z.toInt.natAbs)
        ++ beBytes (byteLen z.toInt.natAbs) z.toInt.natAbs ∧
    beVal (beBytes (byteLen z.toInt.natAbs) z.toInt.natAbs) = z.toInt.natAbs ∧
    (z.toInt ≠ 0 → (beBytes (byteLen z.toInt.natAbs) z.toInt.natAbs).headD 0 ≠ 0) := by
  have e := out_raw_m_eq z h
  have hl := outRawBytes_length z.toInt
  have hne : outRawBytes z.toInt ≠ [] := by intro h0; rw [h0] at hl; simp at hl; omega
  refine ⟨e, ?_, ?_, rfl, ?_, ?_⟩
  · simp [mpz_out_raw, OStream.write, e, hl, hne]
  · simp [mpz_out_raw, OStream.write, e, hne]
  · rw [beVal_beBytes]; exact Nat.mod_eq_of_lt (lt_pow_byteLen _)
  · intro hne; exact beBytes_head_ne_zero (by omega)

-- non-vacuity: -(2^64 + 5) is written as fffffff7 01 00 00 00 00 00 00 00 05
example : out_raw_m ⟨2, -2, [5, 1]⟩ = [255, 255, 255, 247, 1, 0, 0, 0, 0, 0, 0, 0, 5] := by decide +kernel

/-- `inp_raw_total`: for EVERY byte stream (any 4-byte header, any data, truncated anywhere), every
    well-formed destination and whatever the allocator puts into newly allocated limbs, `mpz_inp_raw`
    leaves a well-formed destination and either returns 0, or returns `4 + |count|` having consumed
    exactly those bytes and stored sign(count)·(big-endian value of the data).
    (False for the code before commit 23eb012 — see the example below.) -/
theorem inp_raw_total (x : Mpz) (hx : x.WF) (s : Stream) (hs : Bytes s.bytes) (junk : Nat → Nat)
    (hj : ∀ i, junk i < B) :
    (mpz_inp_raw x s junk).2.1.WF ∧
    ((mpz_inp_raw x s junk).1 = 0 ∨
     ((mpz_inp_raw x s junk).1 = 4 + (csizeOf (s.avail.take 4)).natAbs ∧
      (mpz_inp_raw x s junk).2.2 = s.avail.drop (4 + (csizeOf (s.avail.take 4)).natAbs) ∧
      (mpz_inp_raw x s junk).2.1.toInt =
        (if csizeOf (s.avail.take 4) ≥ 0 then (beVal ((s.avail.drop 4).take (csizeOf (s.avail.take 4)).natAbs) : Int)
         else -(beVal ((s.avail.drop 4).take (csizeOf (s.avail.take 4)).natAbs) : Int)))) := by
  have ha : Bytes s.avail := by
    unfold Stream.avail; split
    · exact hs
    · exact Bytes_take hs _
  obtain ⟨wf, h⟩ := inp_raw_rd_spec x hx s.avail ha junk hj
  refine ⟨wf, ?_⟩
  unfold mpz_inp_raw
  split at h
  · right; obtain ⟨h1, h2, h3⟩ := h; exact ⟨by rw [h1]; omega, h2, h3⟩
  · left; exact h.1

-- non-vacuity: a negative header with a leading zero byte (GMP 1 style), trailing data left unread
example : mpz_inp_raw ⟨1, 0, [0]⟩ ⟨[255, 255, 255, 253, 0, 1, 2, 9], none⟩ (fun _ => 0)
    = (7, ⟨1, -1, [258]⟩, [9]) := by decide +kernel

/-- Why the fix matters: the code BEFORE commit 23eb012 violates `inp_raw_total` on the corpus input
    (header announces 16 bytes, 3 follow): it returns 0 but leaves `SIZ = 2` over a zero top limb. -/
example : (mpz_inp_raw_unfixed ⟨1, 0, [0]⟩ ⟨[0, 0, 0, 16, 1, 2, 3], none⟩ (fun _ => 0)).1 = 0 ∧
    ¬ (mpz_inp_raw_unfixed ⟨1, 0, [0]⟩ ⟨[0, 0, 0, 16, 1, 2, 3], none⟩ (fun _ => 0)).2.1.WF := by decide +kernel
-- the repaired code on the same input
example : (mpz_inp_raw ⟨1, 0, [0]⟩ ⟨[0, 0, 0, 16, 1, 2, 3], none⟩ (fun _ => 0)).1 = 0 ∧
    (mpz_inp_raw ⟨1, 0, [0]⟩ ⟨[0, 0, 0, 16, 1, 2, 3], none⟩ (fun _ => 0)).2.1.WF := by decide +kernel

/-- `raw_roundtrip`: what `mpz_out_raw` writes for `v` (whose byte count fits the 31-bit header field) is
    read back by `mpz_inp_raw` as `v`, consuming exactly those bytes, whatever follows in the stream. -/
theorem raw_roundtrip (v : Int) (hv : byteLen v.natAbs < 2 ^ 31) (x : Mpz) (hx : x.WF) (rest : List Nat)
    (hr : Bytes rest) (junk : Nat → Nat) (hj : ∀ i, junk i < B) :
    (mpz_inp_raw x ⟨outRawBytes v ++ rest, none⟩ junk).1 = 4 + byteLen v.natAbs ∧
    (mpz_inp_raw x ⟨outRawBytes v ++ rest, none⟩ junk).2.1.toInt = v ∧
    (mpz_inp_raw x ⟨outRawBytes v ++ rest, none⟩ junk).2.1.WF ∧
    (mpz_inp_raw x ⟨outRawBytes v ++ rest, none⟩ junk).2.2 = rest := by
  have hb : Bytes (outRawBytes v ++ rest) := Bytes_append.mpr ⟨outRawBytes_bytes v, hr⟩
  obtain ⟨wf, h⟩ := inp_raw_rd_spec x hx (outRawBytes v ++ rest) hb junk hj
  obtain ⟨e1, e2, e3, e4⟩ := outRaw_parts v hv rest
  unfold mpz_inp_raw Stream.avail
  simp only
  rw [e1] at h
  have hlen : (outRawBytes v ++ rest).length = 4 + byteLen v.natAbs + rest.length := by
    rw [List.length_append, outRawBytes_length]
  rw [if_pos ⟨by omega, by rw [e4]; omega⟩] at h
  obtain ⟨h1, h2, h3⟩ := h
  refine ⟨by rw [h1]; omega, ?_, wf, by rw [h2, e3]⟩
  rw [h3, e2]

-- non-vacuity
example : (mpz_inp_raw ⟨1, 0, [0]⟩ ⟨outRawBytes (-18446744073709551621) ++ [7, 7], none⟩ (fun _ => 1)).2.1.toInt
    = -18446744073709551621 := by decide +kernel

/-! ## Export / import -/

/-- `export_count`: for every value, word size ≥ 1, order, endianness, nail count below the word width
    and buffer alignment, `mpz_export` reports `⌈bits(x) / (8·size − nails)⌉` words and writes exactly
    the documented bytes (`exportBytes`: word `i` = bits `[numb·i, numb·(i+1))` of `x`, in `size` bytes of the
    requested endianness, words in the requested order), `count·size` bytes in all. -/
theorem export_count (x : Nat) (order endian : Int) (size nail align : Nat)
    (ho : order = 1 ∨ order = -1) (he : endian = -1 ∨ endian = 0 ∨ endian = 1) (hs : 1 ≤ size)
    (hn : nail < 8 * size) :
    (mpz_export order size endian nail align (natLimbs x)).1 = (bitLen x + (8 * size - nail) - 1) / (8 * size - nail) ∧
    (mpz_export order size endian nail align (natLimbs x)).2 = exportBytes order size endian nail x ∧
    (mpz_export order size endian nail align (natLimbs x)).2.length
      = (mpz_export order size endian nail align (natLimbs x)).1 * size := by
  rw [mpz_export_natLimbs x order endian size nail align ho he hs hn]
  exact ⟨rfl, rfl, (exportBytes_shape order endian size nail x).1⟩

-- non-vacuity: 3 nails in 2-byte big-endian words, least significant word first
example : mpz_export (-1) 2 1 3 5 (natLimbs 0x1ffffffffffffffff) = (5, [31, 255, 31, 255, 31, 255, 31, 255, 31, 255]) := by
  decide +kernel

/-- `export_nails_zero`: read back word by word (in the order and endianness given), every word written
    by `mpz_export` has `size` bytes and a value below `2^(8·size − nails)`: the nail bits are zero. -/
theorem export_nails_zero (x : Nat) (order endian : Int) (size nail align : Nat)
    (ho : order = 1 ∨ order = -1) (he : endian = -1 ∨ endian = 0 ∨ endian = 1) (hs : 1 ≤ size)
    (hn : nail < 8 * size) :
    ∀ w ∈ unlayout order (if endian = 0 then -1 else endian) size
        (mpz_export order size endian nail align (natLimbs x)).1
        (mpz_export order size endian nail align (natLimbs x)).2,
      w.length = size ∧ leVal w < 2 ^ (8 * size - nail) := by
  rw [mpz_export_natLimbs x order endian size nail align ho he hs hn]
  simp only
  rw [exportBytes_words]
  intro w hw
  rw [List.mem_map] at hw
  obtain ⟨i, _, rfl⟩ := hw
  refine ⟨by simp, ?_⟩
  rw [leVal_leBytes]
  exact lt_of_le_of_lt (Nat.mod_le _ _) (wordOf_lt _ _ _)

example : ∀ w ∈ unlayout 1 (-1) 3 (mpz_export 1 3 0 5 2 (natLimbs 0xffffffffffff)).1
    (mpz_export 1 3 0 5 2 (natLimbs 0xffffffffffff)).2, leVal w < 2 ^ 19 := by decide +kernel

/-- `import_spec`: for ARBITRARY word data (nail bits set or not), `mpz_import` produces the normalised
    limbs of Σ (word i mod 2^(8·size − nails)) · 2^((8·size − nails)·i). -/
theorem import_spec (count : Nat) (order : Int) (size : Nat) (endian : Int) (nail align : Nat)
    (data : List Nat) (ho : order = 1 ∨ order = -1) (he : endian = -1 ∨ endian = 0 ∨ endian = 1)
    (hs : 1 ≤ size) (hn : nail < 8 * size) (hb : Bytes data) (hl : data.length = count * size) :
    val (mpz_import count order size endian nail align data) = importValue order size endian nail count data ∧
    Limbs (mpz_import count order size endian nail align data) ∧
    TopNZ (mpz_import count order size endian nail align data) :=
  mpz_import_spec count order size endian nail align data ho he hs hn hb hl

-- non-vacuity: nail bits set in the input are ignored (words ff ff with 3 nails, big-endian)
example : mpz_import 2 1 2 1 3 1 [255, 255, 255, 255] = [0x3ffffff] := by decide +kernel

/-- `export_import_id`: `mpz_export` followed by `mpz_import` with the same parameters reproduces `x`,
    for every value, size ≥ 1, order ±1, endianness −1/0/+1, nail count below 8·size and any two buffer
    alignments. -/
theorem export_import_id (x : Nat) (order endian : Int) (size nail align align' : Nat)
    (ho : order = 1 ∨ order = -1) (he : endian = -1 ∨ endian = 0 ∨ endian = 1) (hs : 1 ≤ size)
    (hn : nail < 8 * size) :
    val (mpz_import (mpz_export order size endian nail align (natLimbs x)).1 order size endian nail align'
          (mpz_export order size endian nail align (natLimbs x)).2) = x ∧
    mpz_import (mpz_export order size endian nail align (natLimbs x)).1 order size endian nail align'
          (mpz_export order size endian nail align (natLimbs x)).2 = natLimbs x := by
  obtain ⟨h1, h2, h3⟩ := natLimbs_spec x
  rw [mpz_export_natLimbs x order endian size nail align ho he hs hn]
  simp only
  obtain ⟨s1, s2⟩ := exportBytes_shape order endian size nail x
  obtain ⟨i1, i2, i3⟩ := mpz_import_spec (exportCount (8 * size - nail) x) order size endian nail align'
    (exportBytes order size endian nail x) ho he hs hn s2 s1
  have hv := i1.trans (import_export_value order endian size nail x hn)
  exact ⟨hv, normalized_unique i2 i3 h2 h3 (hv.trans h1.symm)⟩

example : mpz_import 4 1 3 1 5 0 (mpz_export 1 3 1 5 3 (natLimbs 0xdeadbeefcafe1234)).2 = [0xdeadbeefcafe1234] := by
  decide +kernel

/-- the same round trip on the `List UInt8` specs -/
theorem exportSpec_importSpec (x : Nat) (order endian : Int) (size nail : Nat) (hn : nail < 8 * size) :
    importSpec order size endian nail (exportCount (8 * size - nail) x) (exportSpec order size endian nail x) = x := by
  unfold importSpec exportSpec
  rw [ofU8_toU8 (exportBytes_shape order endian size nail x).2]
  exact import_export_value order endian size nail x hn


/-! ## Faults -/

/-- `out_fault_returns_0` (restated for SHORT WRITES).  The stream is unbuffered over an ARBITRARY sink `f`:
    `f pos n` is how many bytes of a write call of `n` bytes at position `pos` get through, so any prefix of any
    write call may be all that is accepted, with or without recovery afterwards (`OStream.write`).  Then
    * `mpz_out_raw` (one `fwrite` of the whole record) returns 0 whenever the sink took less than the whole
      record — exactly the prefix it took has been written — and the record length otherwise;
    * `mpz_out_str`, `mpq_out_str`, `mpf_out_str` (character-by-character `putc` and `fwrite`/`fprintf` pieces)
      return 0 whenever the sink took fewer bytes than the text has (⇔ some write call came back short ⇔ `ferror`),
      and the text length when it took them all; never a partial count. -/
theorem out_fault_returns_0 (f : Nat → Nat → Nat) :
    (∀ z : Mpz,
      (f 0 (out_raw_m z).length < (out_raw_m z).length →
        (mpz_out_raw { sink := f } z).1 = 0 ∧
        (mpz_out_raw { sink := f } z).2.out = (out_raw_m z).take (f 0 (out_raw_m z).length)) ∧
      ((out_raw_m z).length ≤ f 0 (out_raw_m z).length →
        (mpz_out_raw { sink := f } z).1 = (out_raw_m z).length ∧ (mpz_out_raw { sink := f } z).2.out = out_raw_m z)) ∧
    (∀ base x : Int,
      ((mpz_out_str { sink := f } base x).2.out.length < mpzTextLen base x → (mpz_out_str { sink := f } base x).1 = 0) ∧
      ((mpz_out_str { sink := f } base x).2.out.length = mpzTextLen base x →
        (mpz_out_str { sink := f } base x).1 = mpzTextLen base x) ∧
      (mpz_out_str { sink := f } base x).2.out.length ≤ mpzTextLen base x ∧
      ((mpz_out_str { sink := f } base x).2.fired ≠ 0 ↔ (mpz_out_str { sink := f } base x).2.out.length < mpzTextLen base x)) ∧
    (∀ base num den : Int,
      ((mpq_out_str { sink := f } base num den).2.out.length < mpqTextLen base num den →
        (mpq_out_str { sink := f } base num den).1 = 0) ∧
      ((mpq_out_str { sink := f } base num den).2.out.length = mpqTextLen base num den →
        (mpq_out_str { sink := f } base num den).1 = mpqTextLen base num den) ∧
      (mpq_out_str { sink := f } base num den).2.out.length ≤ mpqTextLen base num den ∧
      ((mpq_out_str { sink := f } base num den).2.fired ≠ 0 ↔
        (mpq_out_str { sink := f } base num den).2.out.length < mpqTextLen base num den)) ∧
    (∀ (base : Int) (str : List Nat) (exp : Int),
      ((mpf_out_str { sink := f } base str exp).2.out.length < mpfTextLen base str exp →
        (mpf_out_str { sink := f } base str exp).1 = 0) ∧
      ((mpf_out_str { sink := f } base str exp).2.out.length = mpfTextLen base str exp →
        (mpf_out_str { sink := f } base str exp).1 = mpfTextLen base str exp) ∧
      (mpf_out_str { sink := f } base str exp).2.out.length ≤ mpfTextLen base str exp ∧
      ((mpf_out_str { sink := f } base str exp).2.fired ≠ 0 ↔
        (mpf_out_str { sink := f } base str exp).2.out.length < mpfTextLen base str exp)) := by
  refine ⟨fun z => ?_, ?_, ?_, ?_⟩
  · obtain ⟨a, b⟩ := mpz_out_raw_faulty z f
    exact ⟨fun h => ⟨(a h).1, (a h).2.2⟩, fun h => ⟨(b h).1, (b h).2.2⟩⟩
  · intro base x
    rw [mpz_out_str_eq, ← mpzText_length, ← mpzChunks_flatten]; exact outOf_sink f _ _
  · intro base num den
    rw [mpq_out_str_eq, ← mpqText_length, ← mpqChunks_flatten]; exact outOf_sink f _ _
  · intro base str exp
    rw [mpf_out_str_eq, ← mpfChunks_length]; exact outOf_sink f _ _

/-- `out_fault_at_byte`: the harness's sink — the write call containing byte `k` accepts only the bytes in front
    of `k`, every later call nothing — for EVERY position `k`: inside the output the functions return 0 (and for
    `mpz_out_raw` exactly `k` bytes got through), beyond it nothing fails and they return the byte count. -/
theorem out_fault_at_byte (k : Nat) :
    (∀ z : Mpz,
      (k < (out_raw_m z).length →
        (mpz_out_raw { sink := sinkFailAt k } z).1 = 0 ∧ (mpz_out_raw { sink := sinkFailAt k } z).2.fired = 1 ∧
        (mpz_out_raw { sink := sinkFailAt k } z).2.out = (out_raw_m z).take k) ∧
      ((out_raw_m z).length ≤ k →
        (mpz_out_raw { sink := sinkFailAt k } z).1 = (out_raw_m z).length ∧
        (mpz_out_raw { sink := sinkFailAt k } z).2.fired = 0)) ∧
    (∀ base x : Int,
      (k < mpzTextLen base x → (mpz_out_str { sink := sinkFailAt k } base x).1 = 0 ∧
          (mpz_out_str { sink := sinkFailAt k } base x).2.fired ≠ 0) ∧
      (mpzTextLen base x ≤ k → (mpz_out_str { sink := sinkFailAt k } base x).1 = mpzTextLen base x ∧
          (mpz_out_str { sink := sinkFailAt k } base x).2.fired = 0)) ∧
    (∀ base num den : Int,
      (k < mpqTextLen base num den → (mpq_out_str { sink := sinkFailAt k } base num den).1 = 0 ∧
          (mpq_out_str { sink := sinkFailAt k } base num den).2.fired ≠ 0) ∧
      (mpqTextLen base num den ≤ k → (mpq_out_str { sink := sinkFailAt k } base num den).1 = mpqTextLen base num den ∧
          (mpq_out_str { sink := sinkFailAt k } base num den).2.fired = 0)) ∧
    (∀ (base : Int) (str : List Nat) (exp : Int),
      (k < mpfTextLen base str exp → (mpf_out_str { sink := sinkFailAt k } base str exp).1 = 0 ∧
          (mpf_out_str { sink := sinkFailAt k } base str exp).2.fired ≠ 0) ∧
      (mpfTextLen base str exp ≤ k → (mpf_out_str { sink := sinkFailAt k } base str exp).1 = mpfTextLen base str exp ∧
          (mpf_out_str { sink := sinkFailAt k } base str exp).2.fired = 0)) := by
  refine ⟨fun z => ?_, ?_, ?_, ?_⟩
  · obtain ⟨a, b⟩ := mpz_out_raw_faulty z (sinkFailAt k)
    have hlen : 4 ≤ (out_raw_m z).length := by unfold out_raw_m; simp [hdrBytes]
    constructor
    · intro hk
      have e : sinkFailAt k 0 (out_raw_m z).length = k := by simp [sinkFailAt, hk]
      have := a (by rw [e]; exact hk)
      rw [e] at this; exact this
    · intro hk
      have e : sinkFailAt k 0 (out_raw_m z).length = (out_raw_m z).length := by
        have : ¬ k < (out_raw_m z).length := by omega
        simp [sinkFailAt, this]
      have := b (by rw [e])
      exact ⟨this.1, this.2.1⟩
  · intro base x
    rw [mpz_out_str_eq, ← mpzText_length, ← mpzChunks_flatten]; exact outOf_failAt k _ _
  · intro base num den
    rw [mpq_out_str_eq, ← mpqText_length, ← mpqChunks_flatten]; exact outOf_failAt k _ _
  · intro base str exp
    rw [mpf_out_str_eq, ← mpfChunks_length]; exact outOf_failAt k _ _

/-- the byte counts used above are what the functions write and return on a healthy stream -/
theorem out_healthy_counts (base x num den : Int) :
    (mpz_out_str {} base x).1 = mpzTextLen base x ∧ (mpz_out_str {} base x).2.out.length = mpzTextLen base x ∧
    (mpq_out_str {} base num den).1 = mpqTextLen base num den ∧
    (mpq_out_str {} base num den).2.out.length = mpqTextLen base num den := by
  obtain ⟨a2, a3⟩ := mpz_out_str_text base x
  obtain ⟨b2, b3⟩ := mpq_out_str_text base num den
  rw [a2, a3, b2, b3]
  exact ⟨mpzText_length _ _, mpzText_length _ _, mpqText_length _ _ _, mpqText_length _ _ _⟩

-- non-vacuity: "-12345" with the write of byte 3 cut short (the sign and "12" got through), and with no byte failing
example : (mpz_out_str { sink := sinkFailAt 3 } 10 (-12345)).1 = 0 ∧
    (mpz_out_str { sink := sinkFailAt 3 } 10 (-12345)).2.out = [45, 49, 50] ∧
    (mpz_out_str { sink := sinkFailAt 6 } 10 (-12345)).1 = 6 ∧ mpzTextLen 10 (-12345) = 6 := by decide +kernel
-- a sink that cuts one call short and recovers (the digits after the gap get through): still 0, thanks to ferror
example : (mpz_out_str { sink := sinkOnceAt 0 } 10 (-12345)).1 = 0 ∧
    (mpz_out_str { sink := sinkOnceAt 0 } 10 (-12345)).2.out = [49, 50, 51, 52, 53] := by decide +kernel
example : (mpq_out_str { sink := sinkFailAt 2 } 16 255 (-3)).1 = 0 ∧ (mpq_out_str {} 16 255 (-3)).2.out = [102, 102, 47, 45, 51] := by
  decide +kernel
example : (mpf_out_str { sink := sinkFailAt 7 } 10 [45, 49, 50, 51] 3).1 = 0 ∧ (mpf_out_str {} 10 [45, 49, 50, 51] 3).1 = 8 := by
  decide +kernel
-- mpz_out_raw of -(2^64+5) (13 bytes) on a sink that takes 9 of them: 0, not 9
example : (mpz_out_raw { sink := fun _ _ => 9 } ⟨2, -2, [5, 1]⟩).1 = 0 ∧
    (mpz_out_raw { sink := fun _ _ => 9 } ⟨2, -2, [5, 1]⟩).2.out = [255, 255, 255, 247, 1, 0, 0, 0, 0] := by decide +kernel

/-- `in_fault_returns_0`: (a) the byte stream written by `mpz_out_raw` for `v`, cut after ANY `k` bytes
    short of its end, makes `mpz_inp_raw` return 0 with a well-formed destination; (b) a text stream that
    ends before the first digit (only white space, optionally followed by a sign) makes `mpz_inp_str`
    return 0 and leave the destination untouched, in every base.
    (For text a cut INSIDE the digits is indistinguishable from a shorter number: `mpz_inp_str` then
    returns the value of the digits read — see `str_stream_roundtrip_partial`; the correspondence run
    compares the model with the library at every cut position.) -/
theorem in_fault_returns_0 :
    (∀ (v : Int), byteLen v.natAbs < 2 ^ 31 → ∀ (k : Nat), k < (outRawBytes v).length →
      ∀ (x : Mpz), x.WF → ∀ (junk : Nat → Nat), (∀ i, junk i < B) →
        (mpz_inp_raw x ⟨outRawBytes v, some k⟩ junk).1 = 0 ∧ (mpz_inp_raw x ⟨outRawBytes v, some k⟩ junk).2.1.WF) ∧
    (∀ (x : Int) (ws : List Nat) (base : Int), (∀ c ∈ ws, isspace c = true) →
        ((mpz_inp_str_rd x ws base).1 = 0 ∧ (mpz_inp_str_rd x ws base).2.1 = x) ∧
        ((mpz_inp_str_rd x (ws ++ [45]) base).1 = 0 ∧ (mpz_inp_str_rd x (ws ++ [45]) base).2.1 = x)) :=
  ⟨fun v hv k hk x hx junk hj => inp_raw_truncated v hv k hk x hx junk hj,
   fun x ws base h => ⟨mpz_inp_str_eof x ws base h, mpz_inp_str_eof_sign x ws base h⟩⟩

-- non-vacuity: every cut of the raw stream of -(2^64+5), and " \t-" as a text stream
example : ∀ k < 13, (mpz_inp_raw ⟨1, 0, [0]⟩ ⟨outRawBytes (-18446744073709551621), some k⟩ (fun _ => 7)).1 = 0 := by
  decide +kernel
example : (mpz_inp_str_rd 7 [32, 9, 45] 10).1 = 0 ∧ (mpz_inp_str_rd 7 [32, 9, 49, 50] 10) = (4, 12, []) := by decide +kernel

/-- `fprintf_fault_returns_m1` (restated for SHORT WRITES): the `gmp_fprintf` path for `"<pre>%<width>Z{d,x}<post>"`
    through the repaired `__gmp_fprintf_funs` (commit 3cf1b4a), on an unbuffered stream over an ARBITRARY sink `f`
    (any prefix of any write call may be all that gets through): it returns −1 exactly when some write call — of
    the literal text, a piece of the padding (written in pieces of 256), the sign or the digits — came back short,
    and otherwise the whole text has been taken and its length is returned; never a partial count. -/
theorem fprintf_fault_returns_m1 (f : Nat → Nat → Nat) (pre : List Nat) (width base : Nat) (hb : 2 ≤ base) (x : Int)
    (post : List Nat) :
    ((gmpFprintfModel true { sink := f } pre width base x post).1 = -1 ↔
      (gmpFprintfModel true { sink := f } pre width base x post).2.fired ≠ 0) ∧
    ((gmpFprintfModel true { sink := f } pre width base x post).1 ≠ -1 →
      (gmpFprintfModel true { sink := f } pre width base x post).1 = ((fprintfText pre width base x post).length : Int) ∧
      (gmpFprintfModel true { sink := f } pre width base x post).2.out.length = (fprintfText pre width base x post).length) := by
  obtain ⟨h, o⟩ := gmp_fprintf_stages (ko := none) { sink := f } (faulty_init f) rfl pre width base hb x post
  obtain ⟨g1, g2, g3, g4⟩ := faulty_final h
  rcases o with ⟨o, e⟩ | ⟨o, e, p⟩
  · exact ⟨⟨fun _ => g3.mp e, fun _ => o⟩, fun hn => absurd o hn⟩
  · have hne : (gmpFprintfModel true { sink := f } pre width base x post).1 ≠ -1 := by rw [o]; omega
    refine ⟨⟨fun hh => absurd hh hne, fun hh => ?_⟩, fun _ => ⟨o, ?_⟩⟩
    · have := g3.mpr hh; rw [e] at this; cases this
    · rw [g2.mp e, p]; simp

/-- the same for the harness's sink failing at byte `k`, for EVERY position `k` of the output: −1 -/
theorem fprintf_fault_at_byte (k : Nat) (pre : List Nat) (width base : Nat) (hb : 2 ≤ base) (x : Int)
    (post : List Nat) (hk : k < (fprintfText pre width base x post).length) :
    (gmpFprintfModel true { sink := sinkFailAt k } pre width base x post).1 = -1 ∧
    (gmpFprintfSpec (some k) pre width base x post).1 = -1 :=
  ⟨gmp_fprintf_fault k pre width base hb x post hk, by simp [gmpFprintfSpec, hk]⟩

-- non-vacuity: "ab%Zdc" with x = 12345, write of byte 3 (inside the digits) cut short
example : (gmpFprintfModel true { sink := sinkFailAt 3 } [97, 98] 0 10 12345 [99]).1 = -1 ∧
    (gmpFprintfModel true { sink := sinkFailAt 3 } [97, 98] 0 10 12345 [99]).2.out = [97, 98, 49] ∧
    (gmpFprintfModel true {} [97, 98] 0 10 12345 [99]).1 = 8 := by decide +kernel
/-- Why that fix matters: the code BEFORE commit 3cf1b4a (`gmp_fprintf_memory` returned `fwrite`'s short
    count, `gmp_fprintf_reps` compared it with −1) returns the partial count 2 + 1 + 1 = 4 (the bytes of "ab", one
    digit, and "c", which a recovering sink lets through), not −1, on the same input, and 10 when the failure hits
    the padding of `"%10Zd"` (5 when the sink stays dead afterwards). -/
example : (gmpFprintfModel false { sink := sinkOnceAt 3 } [97, 98] 0 10 12345 [99]).1 = 4 ∧
    (gmpFprintfModel false { sink := sinkOnceAt 0 } [] 10 10 12345 []).1 = 10 ∧
    (gmpFprintfModel false { sink := sinkFailAt 0 } [] 10 10 12345 []).1 = 5 := by decide +kernel


/-! ## Text streams -/

/-- `str_stream_roundtrip_partial`: for every documented base except 0 (2..62, and −36..−2 read back with
    |base|) and whatever follows in the stream (`rest` empty or starting with a character that is not a
    digit of the base, resp. with white space for mpf):
    (z) `mpz_inp_str` reads back exactly what `mpz_out_str` wrote for every integer `x`: same value, same
        byte count, stream left at `rest`;
    (q) `mpq_inp_str` reads back exactly the raw fields `num`, `den` that `mpq_out_str` wrote (any integers:
        neither side canonicalises), same byte count, provided `rest` does not start with '/';
    (f) `mpf_inp_str` hands to `mpf_set_str` exactly the text `mpf_out_str` wrote (sign, "0.", the digits
        returned by `mpf_get_str`, 'e' or '@' chosen on |base|, decimal exponent) and counts the same bytes.
    PARTIAL: base 0 (output in base 10, input with prefix detection) is not covered, and for mpf only the
    stream level is: digit generation and parsing (`mpf_get_str`, `mpf_set_str`) are not modelled
    (C06/C13), so equality of the mpf VALUE is checked by the round-trip ops of the correspondence run only. -/
theorem str_stream_roundtrip_partial (base : Int) (hb : (2 ≤ base ∧ base ≤ 62) ∨ (-36 ≤ base ∧ base ≤ -2))
    (rest : List Nat)
    (hrest : ∀ c, rest.head? = some c → digitValue (decide ((base.natAbs : Int) > 36)) c ≥ base.natAbs) :
    (∀ x dest : Int,
      mpz_inp_str_rd dest ((mpz_out_str {} base x).2.out ++ rest) (base.natAbs : Int)
        = ((mpz_out_str {} base x).1, x, rest)) ∧
    (rest.head? ≠ some 47 → ∀ (num den : Int) (q : Int × Int),
      mpq_inp_str_rd q ((mpq_out_str {} base num den).2.out ++ rest) (base.natAbs : Int)
        = ((mpq_out_str {} base num den).1, (num, den), rest)) ∧
    (∀ (str : List Nat) (exp : Int) (ws : List Nat), (∀ e ∈ str, isspace e = false) →
      (∀ c, ws.head? = some c → isspace c = true) →
      mpf_inp_str_scan ((mpf_out_str {} base str exp).2.out ++ ws)
        = ((mpf_out_str {} base str exp).2.out, ((mpf_out_str {} base str exp).1).toNat, ws)) := by
  refine ⟨?_, ?_, ?_⟩
  · exact mpz_stream_roundtrip_of (readsBack base hb rest hrest)
  · exact fun hs => mpq_stream_roundtrip_of (readsBack base hb rest hrest) (readsBack_slash base hb) hs
  · intro str exp ws hstr hws
    obtain ⟨e1, e2⟩ := mpf_out_str_text base str exp
    rw [e1, e2]
    simpa using mpf_text_scan base str exp hstr ws hws

-- non-vacuity: base 62 and base -16, followed by a newline / a slash
example : mpz_inp_str_rd 0 ((mpz_out_str {} 62 (-123456789)).2.out ++ [10]) 62 = (6, -123456789, [10]) := by decide +kernel
example : (mpz_out_str {} (-16) 48879).2.out = [66, 69, 69, 70] ∧
    mpz_inp_str_rd 0 ([66, 69, 69, 70] ++ [47, 49]) 16 = (4, 48879, [47, 49]) := by decide +kernel
-- "-22/7" followed by a blank; "-0.1235e3" followed by a newline
example : mpq_inp_str_rd (0, 1) ((mpq_out_str {} 10 (-22) 7).2.out ++ [32]) 10 = (5, (-22, 7), [32]) := by decide +kernel
example : mpf_inp_str_scan ((mpf_out_str {} 10 [45, 49, 50, 51, 53] 3).2.out ++ [10])
    = ([45, 48, 46, 49, 50, 51, 53, 101, 51], 9, [10]) := by decide +kernel


end Mpir.Io
