/-
  C01, mpz object layer — mpz_mul, mul_ui, mul_si, addmul, submul, addmul_ui, submul_ui return the exact
  signed result as a well-formed object, for all well-formed inputs, every alias pattern and any
  allocation of the destination.  Property theorems only; helper lemmas live in
  MpirProofs/Lemmas/Mpz.lean and MpirProofs/Lemmas/MpzMul.lean.

  The theorems are about the executable model Mpir/Model/Mpz.lean (mirror of mpz/mul.c, mul_i.h,
  aorsmul.c, aorsmul_i.c), which the correspondence check runs against the real functions on every run,
  in every alias mode.  `mpn_mul`/`mpn_sqr` are the schoolbook product at this layer (the algorithm
  dispatch is the subject of the other C01 parts).  For `mpz_mul` the destination `w` is an arbitrary
  object with `1 ≤ alloc` and the alias pattern `al` is arbitrary, except that "u and v are the same
  variable" implies they are equal; for the accumulating forms `w` is an input and "w is also u" is the
  instance `w := u`.
-/
import MpirProofs.Lemmas.MpzMul
namespace Mpir.Mpz

/-- mpz_mul: exact product for every threshold, alias pattern and destination allocation. -/
theorem mpz_mul_exact (thr : Nat) (al : Alias) (w u v : Mpz) (hw : 1 ≤ w.alloc) (hu : WF u) (hv : WF v)
    (huv : al.uv = true → u = v) :
    toInt (mul thr al w u v) = toInt u * toInt v ∧ WF (mul thr al w u v) := by
  have h := mul_spec thr al w u v hw hu hv huv
  exact ⟨h.2, h.1⟩

-- non-vacuity: (B^2-1)·(-(B^2-1)) through the basecase path, and B·B (top product limb zero) through
-- the generic path with w = u = v
example : mul 17 {} init ⟨2, 2, [B - 1, B - 1]⟩ ⟨2, -2, [B - 1, B - 1]⟩
    = ⟨4, -4, [1, 0, B - 2, B - 1]⟩ := by decide +kernel
example : mul 17 ⟨true, true, true⟩ ⟨2, 2, [0, 1]⟩ ⟨2, 2, [0, 1]⟩ ⟨2, 2, [0, 1]⟩
    = ⟨4, 3, [0, 0, 1]⟩ := by decide +kernel
example : mul 17 {} init ⟨2, -2, [5, 7]⟩ ⟨1, -1, [B - 1]⟩ = ⟨3, 3, [B - 5, B - 3, 6]⟩ := by decide +kernel

/-- mpz_mul_ui. -/
theorem mpz_mul_ui_exact (w u : Mpz) (v : Nat) (hw : 1 ≤ w.alloc) (hu : WF u) (hv : v < B) :
    toInt (mul_ui w u v) = toInt u * (v : Int) ∧ WF (mul_ui w u v) := by
  have h := mul_i_spec w u v false hw hu hv
  exact ⟨by simpa [mul_ui] using h.2, h.1⟩

example : mul_ui init ⟨1, -1, [B - 1]⟩ (B - 1) = ⟨2, -2, [1, B - 2]⟩ := by decide +kernel

/-- mpz_mul_si, multiplier in the range of `long`. -/
theorem mpz_mul_si_exact (w u : Mpz) (v : Int) (hw : 1 ≤ w.alloc) (hu : WF u)
    (hv : -(2 ^ 63 : Int) ≤ v ∧ v < 2 ^ 63) :
    toInt (mul_si w u v) = toInt u * v ∧ WF (mul_si w u v) := by
  have hB : v.natAbs < B := by have := B_eq; omega
  have h := mul_i_spec w u v.natAbs (decide (v < 0)) hw hu hB
  refine ⟨?_, h.1⟩
  have e : (if decide (v < 0) = true then -(v.natAbs : Int) else (v.natAbs : Int)) = v := by
    by_cases hneg : v < 0
    · simp only [hneg, decide_true, if_true]; omega
    · simp only [hneg, decide_false, Bool.false_eq_true, if_false]; omega
  have h2 := h.2
  rw [e] at h2
  exact h2

example : mul_si init ⟨1, -1, [3]⟩ (-(2 ^ 63)) = ⟨2, 2, [2 ^ 63, 1]⟩ := by decide +kernel

/-- mpz_addmul: `w + u·v`. -/
theorem mpz_addmul_exact (w u v : Mpz) (hw : WF w) (hu : WF u) (hv : WF v) :
    toInt (addmul w u v) = toInt w + toInt u * toInt v ∧ WF (addmul w u v) := by
  have h := aorsmul_spec w u v false hw hu hv
  exact ⟨by simpa [addmul] using h.2, h.1⟩

-- -(B^2) + B·B cancels to zero; 1 + (B^2-1)·(B^2-1)
example : addmul ⟨3, -3, [0, 0, 1]⟩ ⟨2, 2, [0, 1]⟩ ⟨2, 2, [0, 1]⟩ = ⟨5, 0, []⟩ := by decide +kernel
example : addmul ⟨1, 1, [1]⟩ ⟨2, 2, [B - 1, B - 1]⟩ ⟨2, -2, [B - 1, B - 1]⟩
    = ⟨5, -4, [0, 0, B - 2, B - 1]⟩ := by decide +kernel

/-- mpz_submul: `w - u·v`. -/
theorem mpz_submul_exact (w u v : Mpz) (hw : WF w) (hu : WF u) (hv : WF v) :
    toInt (submul w u v) = toInt w - toInt u * toInt v ∧ WF (submul w u v) := by
  have h := aorsmul_spec w u v true hw hu hv
  exact ⟨by simpa [submul, Int.sub_eq_add_neg] using h.2, h.1⟩

example : submul ⟨1, 1, [5]⟩ ⟨2, 2, [3, 1]⟩ ⟨2, 2, [0, 1]⟩ = ⟨5, -3, [B - 5, 2, 1]⟩ := by decide +kernel

/-- mpz_addmul_ui: `w + u·v` for a one-limb unsigned `v`. -/
theorem mpz_addmul_ui_exact (w u : Mpz) (v : Nat) (hw : WF w) (hu : WF u) (hv : v < B) :
    toInt (addmul_ui w u v) = toInt w + toInt u * (v : Int) ∧ WF (addmul_ui w u v) := by
  have h := aorsmul_1_spec w u v false hw hu hv
  exact ⟨by simpa [addmul_ui] using h.2, h.1⟩

-- opposite signs, x longer than w, the borrow of mpn_submul_1 is 2^64-1 (aorsmul_i.c:167-170)
example : addmul_ui ⟨2, 2, [0, 1]⟩ ⟨3, -3, [B - 1, B - 1, 1]⟩ (B - 1)
    = ⟨4, -4, [1, B - 2, B - 3, 1]⟩ := by decide +kernel

/-- mpz_submul_ui: `w - u·v` for a one-limb unsigned `v`. -/
theorem mpz_submul_ui_exact (w u : Mpz) (v : Nat) (hw : WF w) (hu : WF u) (hv : v < B) :
    toInt (submul_ui w u v) = toInt w - toInt u * (v : Int) ∧ WF (submul_ui w u v) := by
  have h := aorsmul_1_spec w u v true hw hu hv
  exact ⟨by simpa [submul_ui, Int.sub_eq_add_neg] using h.2, h.1⟩

-- same length, borrow out of w: two's complement fix-up and sign flip (aorsmul_i.c:144-153)
example : submul_ui ⟨1, 1, [5]⟩ ⟨1, 1, [3]⟩ 2 = ⟨2, -1, [1]⟩ := by decide +kernel
example : submul_ui ⟨2, 2, [0, 1]⟩ ⟨2, 2, [1, 1]⟩ (B - 1) = ⟨3, -2, [B - 1, B - 2]⟩ := by decide +kernel
-- the held -1 (cy2) of aorsmul_i.c:169-178
example : toInt (submul_ui ⟨1, 1, [5]⟩ ⟨2, 2, [1, 1]⟩ 1) = 5 - (B + 1) := by decide +kernel

/-- C05 for mpz_mul at the level of this model: every alias pattern and every destination give the
    value of the call on distinct variables (`{}` = no two arguments are the same variable). -/
theorem mpz_mul_alias_ok (thr : Nat) (al : Alias) (w w' u v : Mpz) (hw : 1 ≤ w.alloc) (hw' : 1 ≤ w'.alloc)
    (hu : WF u) (hv : WF v) (huv : al.uv = true → u = v) :
    toInt (mul thr al w u v) = toInt (mul thr {} w' u v) := by
  rw [(mpz_mul_exact thr al w u v hw hu hv huv).1,
    (mpz_mul_exact thr {} w' u v hw' hu hv (by intro h; cases h)).1]

example : toInt (mul 17 ⟨true, true, true⟩ ⟨2, -2, [3, 1]⟩ ⟨2, -2, [3, 1]⟩ ⟨2, -2, [3, 1]⟩)
    = toInt (mul 17 {} init ⟨2, -2, [3, 1]⟩ ⟨2, -2, [3, 1]⟩) := by decide +kernel

end Mpir.Mpz
