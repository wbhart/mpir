-- GENERATED by tools/gen_registry.py — do not edit.
import MpirProofs.Lemmas.AliasBits
import MpirProofs.Lemmas.AliasDiv
import MpirProofs.Lemmas.AliasGcd
import MpirProofs.Lemmas.AliasGcdext
import MpirProofs.Lemmas.AliasHoare
import MpirProofs.Lemmas.AliasIor
import MpirProofs.Lemmas.AliasMem
import MpirProofs.Lemmas.AliasMemOps
import MpirProofs.Lemmas.AliasMisc
import MpirProofs.Lemmas.AliasMpf
import MpirProofs.Lemmas.AliasMpf2
import MpirProofs.Lemmas.AliasMpf3
import MpirProofs.Lemmas.AliasMul
import MpirProofs.Lemmas.AliasPowm
import MpirProofs.Lemmas.AliasR2exp
import MpirProofs.Lemmas.AliasRoot
import MpirProofs.Lemmas.AliasRootrem
import MpirProofs.Lemmas.AliasShift
import MpirProofs.Lemmas.AliasShift2
import MpirProofs.Lemmas.AliasUi
import MpirProofs.Lemmas.AliasUi2
import MpirProofs.Lemmas.AllocSafe
import MpirProofs.Lemmas.AllocSafeAorsmul
import MpirProofs.Lemmas.AllocSafeBit
import MpirProofs.Lemmas.AllocSafeBit2
import MpirProofs.Lemmas.AllocSafeCfdiv
import MpirProofs.Lemmas.AllocSafeLogic
import MpirProofs.Lemmas.AllocSafeMpf
import MpirProofs.Lemmas.AllocSafeMpf7
import MpirProofs.Lemmas.AllocSafeMpq6
import MpirProofs.Lemmas.AllocSafeMpqInv
import MpirProofs.Lemmas.AllocSafeMpz
import MpirProofs.Lemmas.AllocSafeMpz5
import MpirProofs.Lemmas.AllocSafeMul
import MpirProofs.Lemmas.AllocSafeMulC
import MpirProofs.Lemmas.AllocSafeSetD
import MpirProofs.Lemmas.AllocSafeSpec
import MpirProofs.Lemmas.AllocSafeSqrt
import MpirProofs.Lemmas.AllocSafeTdiv
import MpirProofs.Lemmas.Area
import MpirProofs.Lemmas.Arith
import MpirProofs.Lemmas.Base
import MpirProofs.Lemmas.BinBdiv
import MpirProofs.Lemmas.BinSmall
import MpirProofs.Lemmas.BinTop
import MpirProofs.Lemmas.Binvert
import MpirProofs.Lemmas.BinvertBdiv
import MpirProofs.Lemmas.BinvertPinned
import MpirProofs.Lemmas.Bits
import MpirProofs.Lemmas.Conv
import MpirProofs.Lemmas.Cxx
import MpirProofs.Lemmas.CxxAcc
import MpirProofs.Lemmas.CxxCmp
import MpirProofs.Lemmas.CxxF
import MpirProofs.Lemmas.CxxIo
import MpirProofs.Lemmas.CxxIo2
import MpirProofs.Lemmas.CxxQ
import MpirProofs.Lemmas.CxxQ2
import MpirProofs.Lemmas.DcDiv
import MpirProofs.Lemmas.DcDivappr
import MpirProofs.Lemmas.DcDivapprArith
import MpirProofs.Lemmas.DivWord
import MpirProofs.Lemmas.DivWord3by2
import MpirProofs.Lemmas.DivWordExact
import MpirProofs.Lemmas.DivWordHensel
import MpirProofs.Lemmas.DivZ
import MpirProofs.Lemmas.ExtractDbl
import MpirProofs.Lemmas.FftParams
import MpirProofs.Lemmas.FftRing
import MpirProofs.Lemmas.FftRingBfly
import MpirProofs.Lemmas.FftRingCombine
import MpirProofs.Lemmas.FftRingMulmodK
import MpirProofs.Lemmas.FftRingShift
import MpirProofs.Lemmas.FftRingSplit
import MpirProofs.Lemmas.FftRingSqrt2
import MpirProofs.Lemmas.FftX
import MpirProofs.Lemmas.FftXConv
import MpirProofs.Lemmas.FftXMfa
import MpirProofs.Lemmas.FftXMfaFull
import MpirProofs.Lemmas.FftXMul
import MpirProofs.Lemmas.FftXNeg
import MpirProofs.Lemmas.FftXSqrt2
import MpirProofs.Lemmas.Gcd
import MpirProofs.Lemmas.Gcd1
import MpirProofs.Lemmas.GcdDiv
import MpirProofs.Lemmas.GcdExt1
import MpirProofs.Lemmas.GcdExtZ
import MpirProofs.Lemmas.GcdJacobi
import MpirProofs.Lemmas.GcdKronDef
import MpirProofs.Lemmas.GcdKronW
import MpirProofs.Lemmas.GcdLehmer
import MpirProofs.Lemmas.GcdLoop
import MpirProofs.Lemmas.GcdMpz
import MpirProofs.Lemmas.GcdSize
import MpirProofs.Lemmas.GcdextBound
import MpirProofs.Lemmas.GcdextCanon
import MpirProofs.Lemmas.GcdextDc
import MpirProofs.Lemmas.GcdextDc2
import MpirProofs.Lemmas.GcdextLehmer
import MpirProofs.Lemmas.GcdextLehmer2
import MpirProofs.Lemmas.Goet
import MpirProofs.Lemmas.Hgcd2
import MpirProofs.Lemmas.HgcdMatrix
import MpirProofs.Lemmas.HgcdMulSize
import MpirProofs.Lemmas.HgcdNorm
import MpirProofs.Lemmas.HgcdRec
import MpirProofs.Lemmas.HgcdRec2
import MpirProofs.Lemmas.HgcdStep
import MpirProofs.Lemmas.HgcdWrap
import MpirProofs.Lemmas.InvDiv
import MpirProofs.Lemmas.Io
import MpirProofs.Lemmas.IoStream
import MpirProofs.Lemmas.Iroot
import MpirProofs.Lemmas.Kernels
import MpirProofs.Lemmas.KernelsMem
import MpirProofs.Lemmas.Life
import MpirProofs.Lemmas.Mfac
import MpirProofs.Lemmas.Mpf
import MpirProofs.Lemmas.MpfBase
import MpirProofs.Lemmas.MpfCmp
import MpirProofs.Lemmas.MpfLimbs
import MpirProofs.Lemmas.MpfOps
import MpirProofs.Lemmas.MpfParse
import MpirProofs.Lemmas.MpfParseLang
import MpirProofs.Lemmas.MpfStr
import MpirProofs.Lemmas.MpfStrAcc
import MpirProofs.Lemmas.MpfStrConv
import MpirProofs.Lemmas.MpfStrDiv
import MpirProofs.Lemmas.MpfStrGet
import MpirProofs.Lemmas.MpfStrRound
import MpirProofs.Lemmas.MpfSub
import MpirProofs.Lemmas.Mpq
import MpirProofs.Lemmas.MpqConv
import MpirProofs.Lemmas.Mpz
import MpirProofs.Lemmas.MpzKernel
import MpirProofs.Lemmas.MpzMul
import MpirProofs.Lemmas.MulAlgo
import MpirProofs.Lemmas.MulDispatch
import MpirProofs.Lemmas.MulLoops
import MpirProofs.Lemmas.MulLow
import MpirProofs.Lemmas.MulMid
import MpirProofs.Lemmas.MulMidToom
import MpirProofs.Lemmas.Mulmod2expm1
import MpirProofs.Lemmas.Mulmod2expm1Rec
import MpirProofs.Lemmas.Mulmod2expm1Stages
import MpirProofs.Lemmas.NextPrime
import MpirProofs.Lemmas.NextSize
import MpirProofs.Lemmas.Numth
import MpirProofs.Lemmas.NumthFac
import MpirProofs.Lemmas.NumthFib
import MpirProofs.Lemmas.NumthPrime
import MpirProofs.Lemmas.NumthRemove
import MpirProofs.Lemmas.Obstack
import MpirProofs.Lemmas.Params
import MpirProofs.Lemmas.PerfPow
import MpirProofs.Lemmas.Powm
import MpirProofs.Lemmas.PowmCrtMem
import MpirProofs.Lemmas.PowmLimb
import MpirProofs.Lemmas.PowmReal
import MpirProofs.Lemmas.PowmUiMem
import MpirProofs.Lemmas.Primorial
import MpirProofs.Lemmas.Printf
import MpirProofs.Lemmas.PrintfF
import MpirProofs.Lemmas.Radix
import MpirProofs.Lemmas.RadixDc
import MpirProofs.Lemmas.RadixDcSet
import MpirProofs.Lemmas.RadixDcXn
import MpirProofs.Lemmas.RadixDigits
import MpirProofs.Lemmas.RadixIo
import MpirProofs.Lemmas.RadixSib
import MpirProofs.Lemmas.RadixTab
import MpirProofs.Lemmas.Rand
import MpirProofs.Lemmas.Redc2
import MpirProofs.Lemmas.Root
import MpirProofs.Lemmas.Rootrem
import MpirProofs.Lemmas.RootremBc
import MpirProofs.Lemmas.RootremBridge
import MpirProofs.Lemmas.RootremTop
import MpirProofs.Lemmas.SbDiv
import MpirProofs.Lemmas.SbDivQExact
import MpirProofs.Lemmas.SbDivQExactTop
import MpirProofs.Lemmas.SbDivQLoop
import MpirProofs.Lemmas.SbDivQTop
import MpirProofs.Lemmas.Scanf
import MpirProofs.Lemmas.ScanfCount
import MpirProofs.Lemmas.ScanfI
import MpirProofs.Lemmas.ScanfQ
import MpirProofs.Lemmas.Sieve
import MpirProofs.Lemmas.SieveLoop
import MpirProofs.Lemmas.SieveTop
import MpirProofs.Lemmas.SieveUse
import MpirProofs.Lemmas.SqrAlgo
import MpirProofs.Lemmas.SqrtremLimb
import MpirProofs.Lemmas.Swar
import MpirProofs.Lemmas.Swing
import MpirProofs.Lemmas.SwingAsm
import MpirProofs.Lemmas.TdivLimbs
import MpirProofs.Lemmas.TdivQ
import MpirProofs.Lemmas.TdivQBranch
import MpirProofs.Lemmas.TdivQCore
import MpirProofs.Lemmas.TdivQrBase
import MpirProofs.Lemmas.TdivQrDivrem
import MpirProofs.Lemmas.TdivQrLt2
import MpirProofs.Lemmas.TdivQrLt2Steps
import MpirProofs.Lemmas.TmpSkel
import MpirProofs.Lemmas.Toom8
import MpirProofs.Lemmas.Toom8Dispatch
import MpirProofs.Lemmas.Toom8Main
import MpirProofs.Props.C01_algo
import MpirProofs.Props.C01_fftinv
import MpirProofs.Props.C01_fftneg
import MpirProofs.Props.C01_fftring
import MpirProofs.Props.C01_fftx
import MpirProofs.Props.C01_leaves
import MpirProofs.Props.C01_loops
import MpirProofs.Props.C01_mpz
import MpirProofs.Props.C01_mullow
import MpirProofs.Props.C01_mulmid
import MpirProofs.Props.C01_sqr
import MpirProofs.Props.C01_toom8
import MpirProofs.Props.C02_dc
import MpirProofs.Props.C02_dcappr
import MpirProofs.Props.C02_inv
import MpirProofs.Props.C02_mpz
import MpirProofs.Props.C02_sb
import MpirProofs.Props.C02_sbq
import MpirProofs.Props.C02_tdivq
import MpirProofs.Props.C02_tdivqr
import MpirProofs.Props.C02_word
import MpirProofs.Props.C03
import MpirProofs.Props.C03_mpz
import MpirProofs.Props.C03_overlap
import MpirProofs.Props.C04
import MpirProofs.Props.C04_allocsafe
import MpirProofs.Props.C04_allocsafe2
import MpirProofs.Props.C04_allocsafe3
import MpirProofs.Props.C04_allocsafe4
import MpirProofs.Props.C04_allocsafe5
import MpirProofs.Props.C04_allocsafe6
import MpirProofs.Props.C04_allocsafe7
import MpirProofs.Props.C04_tmp
import MpirProofs.Props.C04_tmpsound
import MpirProofs.Props.C05_div
import MpirProofs.Props.C05_mpf
import MpirProofs.Props.C05_mpz
import MpirProofs.Props.C05_ptr2
import MpirProofs.Props.C06
import MpirProofs.Props.C06_dc
import MpirProofs.Props.C06_sib
import MpirProofs.Props.C07
import MpirProofs.Props.C07_gcdext
import MpirProofs.Props.C07_gcdextdc
import MpirProofs.Props.C07_gcdextdc2
import MpirProofs.Props.C07_hgcd
import MpirProofs.Props.C07_hgcdnorm
import MpirProofs.Props.C08
import MpirProofs.Props.C08_binvert
import MpirProofs.Props.C08_limb
import MpirProofs.Props.C08_mm1
import MpirProofs.Props.C08_powmui
import MpirProofs.Props.C08_redc2
import MpirProofs.Props.C09
import MpirProofs.Props.C09Rootrem
import MpirProofs.Props.C10
import MpirProofs.Props.C10_swar
import MpirProofs.Props.C11
import MpirProofs.Props.C11Mpq
import MpirProofs.Props.C12
import MpirProofs.Props.C13
import MpirProofs.Props.C13_cmp
import MpirProofs.Props.C13_parse
import MpirProofs.Props.C13_str
import MpirProofs.Props.C14
import MpirProofs.Props.C15
import MpirProofs.Props.C15_globals
import MpirProofs.Props.C16
import MpirProofs.Props.C16_binsmall
import MpirProofs.Props.C16_sieve
import MpirProofs.Props.C17
import MpirProofs.Props.C17_stream
import MpirProofs.Props.C18
import MpirProofs.Props.C18_flayout
import MpirProofs.Props.C18_obstack
import MpirProofs.Props.C18_scancount
import MpirProofs.Props.C18_scanrt
import MpirProofs.Props.C18_scanrt2
import MpirProofs.Props.C19
import MpirProofs.Props.C20
import MpirProofs.Props.C20_acc
import MpirProofs.Props.C20_io
import MpirProofs.Props.C20_io2
import MpirProofs.Props.C20_mpf
